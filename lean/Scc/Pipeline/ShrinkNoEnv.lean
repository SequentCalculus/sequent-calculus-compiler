/-
  Scc.Pipeline.ShrinkNoEnv — proof file: the output of shrinking (core2axcut) never carries a
  closure-environment annotation: every `create` it builds has `env = none` (the annotation is written
  later, by the linearizer).  This is the side condition `noEnvAnnProg` of C05's semantic theorem
  `C05_T4`, proved here for EVERY input of `shrinkProg` (no typing hypothesis), so that the
  composition theorems need not assume it.
-/
import Scc.Core2AxCut.SizeProofs
import Scc.Core2AxCut.FreeVars
import Scc.Core2AxCut.CutRun
import Scc.AxCut.LinRelTyped

namespace Scc.Pipeline

open Scc.Core2AxCut
open Scc.AxCut (noEnvAnn noEnvAnnClauses noEnvAnnProg)

mutual
  theorem noEnvAnn_axSubst (σ) : ∀ s, noEnvAnn (axSubstStmt σ s) = noEnvAnn s
    | .subst _ n => by simp [axSubstStmt, noEnvAnn, noEnvAnn_axSubst σ n]
    | .call _ _ => by simp [axSubstStmt, noEnvAnn]
    | .letS _ _ _ _ n _ => by simp [axSubstStmt, noEnvAnn, noEnvAnn_axSubst σ n]
    | .switch _ _ cs _ => by simp [axSubstStmt, noEnvAnn, noEnvAnnClauses_axSubst σ cs]
    | .create _ _ env cs n _ _ => by
      cases env <;>
        simp [axSubstStmt, noEnvAnn, noEnvAnnClauses_axSubst σ cs, noEnvAnn_axSubst σ n]
    | .invoke _ _ _ _ => by simp [axSubstStmt, noEnvAnn]
    | .lit _ _ n _ => by simp [axSubstStmt, noEnvAnn, noEnvAnn_axSubst σ n]
    | .op _ _ _ _ n _ => by simp [axSubstStmt, noEnvAnn, noEnvAnn_axSubst σ n]
    | .print _ _ n _ => by simp [axSubstStmt, noEnvAnn, noEnvAnn_axSubst σ n]
    | .ifc _ _ _ t e => by simp [axSubstStmt, noEnvAnn, noEnvAnn_axSubst σ t, noEnvAnn_axSubst σ e]
    | .exit _ => by simp [axSubstStmt, noEnvAnn]
  theorem noEnvAnnClauses_axSubst (σ) : ∀ cs, noEnvAnnClauses (axSubstClauses σ cs) = noEnvAnnClauses cs
    | .nil => by simp [axSubstClauses, noEnvAnnClauses]
    | .cons _ _ b r => by
      simp [axSubstClauses, noEnvAnnClauses, noEnvAnn_axSubst σ b, noEnvAnnClauses_axSubst σ r]
end

theorem unknownClauses_noEnv (env : Env) (v ty) : ∀ xs st,
    noEnvAnnClauses (unknownClauses env v ty xs st).1 = true
  | [], st => by simp [unknownClauses, noEnvAnnClauses]
  | x :: xs, st => by
    rw [unknownClauses_cons]
    simpa only [noEnvAnnClauses, noEnvAnn, Bool.true_and] using unknownClauses_noEnv env v ty xs _

theorem criticalClauses_noEnv (env : Env) (v ty) (e : AxCut.Stmt) (he : noEnvAnn e = true) : ∀ xs st,
    noEnvAnnClauses (criticalClauses env v ty e xs st).1 = true
  | [], st => by simp [criticalClauses, noEnvAnnClauses]
  | x :: xs, st => by
    rw [criticalClauses_cons]
    simpa only [noEnvAnnClauses, noEnvAnn, noEnvAnn_axSubst, he, Bool.true_and] using
      criticalClauses_noEnv env v ty e he xs _

def NoEnvDefs (l : List AxCut.Def) : Prop := ∀ d ∈ l, noEnvAnn d.body = true

/-- the recursion parameter keeps the invariant: its result carries no annotation, and neither does any
    definition it lifts -/
def RecNoEnv (rec : Rec) : Prop :=
  ∀ s st r st', rec s st = .ok (r, st') → NoEnvDefs st.lifted → noEnvAnn r = true ∧ NoEnvDefs st'.lifted

section inv
variable {env : Env} {rec : Rec} (hrec : RecNoEnv rec)
include hrec

theorem shrinkClauses_noEnv : ∀ cs st r st', shrinkClauses env rec cs st = .ok (r, st') → NoEnvDefs st.lifted →
    noEnvAnnClauses r = true ∧ NoEnvDefs st'.lifted
  | .nil, st, r, st', h, hl => by
    simp [shrinkClauses] at h
    obtain ⟨rfl, rfl⟩ := h
    exact ⟨rfl, hl⟩
  | .cons x ctx body rest, st, r, st', h, hl => by
    obtain ⟨b', st1, r', hb, hr, rfl⟩ := shrinkClauses_cons_inv h
    obtain ⟨h1, hl1⟩ := hrec body st b' st1 hb hl
    obtain ⟨h2, hl2⟩ := shrinkClauses_noEnv rest st1 r' st' hr hl1
    exact ⟨by simp [noEnvAnnClauses, h1, h2], hl2⟩

omit hrec in
theorem shrinkUnknownCuts_noEnv (v1 v2 ty st r st') (h : shrinkUnknownCuts env v1 v2 ty st = .ok (r, st'))
    (hl : NoEnvDefs st.lifted) : noEnvAnn r = true ∧ NoEnvDefs st'.lifted := by
  cases ty with
  | i64 =>
    simp [shrinkUnknownCuts] at h
    obtain ⟨rfl, rfl⟩ := h
    exact ⟨rfl, hl⟩
  | decl name =>
    obtain ⟨d, _, rfl, rfl⟩ := shrinkUnknownCuts_decl_inv h
    exact ⟨by simp only [noEnvAnn]; exact unknownClauses_noEnv env _ _ d.xtors st,
      by rw [(unknownClauses_spec env _ _ d.xtors st).1]; exact hl⟩

theorem shrinkKnownCuts_noEnv (name args cs st r st') (h : shrinkKnownCuts rec name args cs st = .ok (r, st'))
    (hl : NoEnvDefs st.lifted) : noEnvAnn r = true ∧ NoEnvDefs st'.lifted := by
  obtain ⟨_, _, _, h⟩ := shrinkKnownCuts_inv h
  exact hrec _ _ _ _ h hl

theorem lift_noEnv (s st r st') (h : lift env rec s st = .ok (r, st')) (hl : NoEnvDefs st.lifted) :
    noEnvAnn r = true ∧ NoEnvDefs st'.lifted := by
  obtain ⟨k, body, st3, _, _, _, hb, rfl, rfl⟩ := lift_spec env rec s st r st' h
  obtain ⟨h1, hl3⟩ := hrec _ _ body st3 hb hl
  refine ⟨rfl, ?_⟩
  intro d hd
  simp only [List.mem_cons] at hd
  rcases hd with rfl | hd
  · exact h1
  · exact hl3 d hd

theorem criticalDecl_noEnv (d name tt vK sK vE sE st r st')
    (h : criticalDecl env rec d name tt vK sK vE sE st = .ok (r, st')) (hl : NoEnvDefs st.lifted) :
    noEnvAnn r = true ∧ NoEnvDefs st'.lifted := by
  obtain ⟨e, st1, k, he, hk, rfl⟩ := criticalDecl_inv h
  have h1 : noEnvAnn e = true ∧ NoEnvDefs st1.lifted := by
    split at he
    · exact hrec _ _ _ _ he hl
    · exact lift_noEnv hrec _ _ _ _ he hl
  have hcl := criticalClauses_noEnv env vE tt e h1.1 d.xtors st1
  have hcl2 := (criticalClauses_spec env vE tt e d.xtors st1).1
  obtain ⟨h2, hl2⟩ := hrec sK _ k st' hk (by rw [hcl2]; exact h1.2)
  exact ⟨by simp [noEnvAnn, hcl, h2], hl2⟩

theorem shrinkCriticalPairs_noEnv (v1 s1 v2 s2 ty st r st')
    (h : shrinkCriticalPairs env rec v1 s1 v2 s2 ty st = .ok (r, st')) (hl : NoEnvDefs st.lifted) :
    noEnvAnn r = true ∧ NoEnvDefs st'.lifted := by
  cases ty with
  | i64 =>
    obtain ⟨b, st1, c, hb, hc, rfl⟩ := shrinkCriticalPairs_i64_inv h
    obtain ⟨h1, hl1⟩ := hrec s2 st b st1 hb hl
    obtain ⟨h2, hl2⟩ := hrec s1 st1 c st' hc hl1
    exact ⟨by simp [noEnvAnn, noEnvAnnClauses, h1, h2], hl2⟩
  | decl name =>
    obtain ⟨_, _, h⟩ := shrinkCriticalPairs_decl_inv h
    split at h <;> exact criticalDecl_noEnv hrec _ _ _ _ _ _ _ _ _ _ h hl

theorem shrinkCut_noEnv (ty p c st r st') (h : shrinkCut env rec ty p c st = .ok (r, st'))
    (hl : NoEnvDefs st.lifted) : noEnvAnn r = true ∧ NoEnvDefs st'.lifted := by
  cases shrinkCut_run h with
  | muVar h | varMu h => exact hrec _ _ _ _ h hl
  | xtorXcase h | xcaseXtor h => exact shrinkKnownCuts_noEnv hrec _ _ _ _ _ _ h hl
  | varVar h => exact shrinkUnknownCuts_noEnv _ _ _ _ _ _ h hl
  | muMu h => exact shrinkCriticalPairs_noEnv hrec _ _ _ _ _ _ _ _ h hl
  | litMu h | opMu h | xtorMu h | muXtor h =>
    obtain ⟨c, hl'⟩ := hrec _ _ _ _ h hl
    exact ⟨by simpa only [noEnvAnn] using c, hl'⟩
  | litVar | opVar | xtorVar | varXtor => exact ⟨rfl, hl⟩
  | varXcase h | xcaseVar h =>
    obtain ⟨c, hl'⟩ := shrinkClauses_noEnv hrec _ _ _ _ h hl
    exact ⟨by simpa only [noEnvAnn] using c, hl'⟩
  | muXcase h1 h2 | xcaseMu h1 h2 =>
    obtain ⟨c1, hl1⟩ := shrinkClauses_noEnv hrec _ _ _ _ h1 hl
    obtain ⟨c2, hl2⟩ := hrec _ _ _ _ h2 hl1
    exact ⟨by simp only [noEnvAnn, c1, c2]; rfl, hl2⟩

theorem shrinkStmtStep_noEnv (s st r st') (h : shrinkStmtStep env rec s st = .ok (r, st'))
    (hl : NoEnvDefs st.lifted) : noEnvAnn r = true ∧ NoEnvDefs st'.lifted := by
  cases s with
  | cut ty p c => exact shrinkCut_noEnv hrec ty p c st r st' h hl
  | ifc sort a b t e =>
    simp only [shrinkStmtStep] at h
    obtain ⟨t', st1, e', ht, he, rfl⟩ := wrap2_inv h
    obtain ⟨h1, hl1⟩ := hrec t st t' st1 ht hl
    obtain ⟨h2, hl2⟩ := hrec e st1 e' st' he hl1
    exact ⟨by simp [noEnvAnn, h1, h2], hl2⟩
  | print nl a nx =>
    simp only [shrinkStmtStep] at h
    obtain ⟨next, h1, rfl⟩ := wrap_inv h
    obtain ⟨c, hl'⟩ := hrec _ _ _ _ h1 hl
    exact ⟨by simpa only [noEnvAnn] using c, hl'⟩
  | call f args =>
    simp [shrinkStmtStep] at h
    obtain ⟨rfl, rfl⟩ := h
    exact ⟨rfl, hl⟩
  | exit a =>
    simp [shrinkStmtStep] at h
    obtain ⟨rfl, rfl⟩ := h
    exact ⟨rfl, hl⟩

end inv

theorem shrinkStmt_noEnv (env : Env) : ∀ fuel, RecNoEnv (shrinkStmt env fuel)
  | 0 => by
    intro s st r st' h
    simp [shrinkStmt] at h
  | fuel + 1 => by
    intro s st r st' h hl
    exact shrinkStmtStep_noEnv (shrinkStmt_noEnv env fuel) s st r st' h hl

theorem shrinkDef_noEnv {d : Core.FsDef} {data codata : List Core.TypeDecl} {used : List Core.Ident}
    {m : Nat} {r : List AxCut.Def × List Core.Ident × Nat}
    (h : shrinkDef d data codata used m = .ok r) : NoEnvDefs r.1 := by
  obtain ⟨body, st, hb, rfl⟩ := shrinkDef_inv h
  obtain ⟨h1, hl1⟩ := shrinkStmt_noEnv _ _ _ _ _ _ hb (by intro d hd; simp at hd)
  intro x hx
  rcases List.mem_cons.1 hx with rfl | hx
  · exact h1
  · exact hl1 x hx

theorem shrinkDefs_noEnv {data codata : List Core.TypeDecl} : ∀ {defs : List Core.FsDef}
    {used : List Core.Ident} {m : Nat} {r : List AxCut.Def × List Core.Ident × Nat},
    shrinkDefs data codata defs used m = .ok r → NoEnvDefs r.1
  | [], used, m, r, h => by
    simp [shrinkDefs] at h
    subst h
    intro d hd
    simp at hd
  | d :: ds, used, m, r, h => by
    obtain ⟨dd, u1, m1, rest, u2, m2, hd, hr, rfl⟩ := shrinkDefs_cons_inv h
    intro x hx
    rcases List.mem_append.1 hx with hx | hx
    · exact shrinkDef_noEnv hd x hx
    · exact shrinkDefs_noEnv hr x hx

theorem shrinkProg_noEnvAnn {q3 : Core.FsProg} {q4 : AxCut.Prog}
    (h : shrinkProg q3 = .ok q4) : noEnvAnnProg q4 = true := by
  obtain ⟨defs, u, m, hd, rfl⟩ := shrinkProg_inv h
  simp only [noEnvAnnProg, List.all_eq_true]
  exact shrinkDefs_noEnv hd

end Scc.Pipeline
