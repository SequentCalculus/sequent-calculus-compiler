/-
  Scc.Pipeline.SizeCompose — C19, composition of the size bounds of all passes along
  `Scc.Pipeline.stages` / `compileAllX86`:

     S1 --fun2core--> S2 --uniquify;focus--> S3 --shrink--> S4 --linearize--> S5 --x86--> routine

  Source size `N = funSrcSize p'`: the definitions (`funProgSize`, the measure of C19.lean) plus the
  type declarations (one per declaration, one per xtor, one per argument; a destructor's continuation
  counts one more).  The declarations must be part of the source size: a `let x : T = f(); g(x)` is a
  critical pair that shrinking eta-expands into one clause per constructor of `T`.
  Explicit polynomials (each is the composition of the bounds of the single passes):
      |S2| ≤ P2 N = 3N(2N+4)            (C19_fun2core_full)
      |S3| ≤ P3 N = 4·P2 N              (SizeFocus)
      nodes S4 ≤ P4 N = (N+2)·P3 N      (C19_shrink_size; N+2 ≥ number of xtors of a type + 1)
      width S4 ≤ PW N = P3 N + N + 1    (SizeWidth: parameter lists, argument lists, clause contexts)
      contexts of S5 ≤ PB N = 2(PW + P4·(PW+1)) + PW + 1     (SizeLin + SizeWidth)
      nodes S5 ≤ P5 N = 2·P4 N          (SizeLin)
      x86 body ≤ 485·(1 + PB N)·P5 N,  routine ≤ that + 44   (SizeX86)
  The last line needs that the new names of the substitutions of S5 are pairwise distinct; this follows
  from `wfNonLinearCheck S4` (decidable; the check `wfNonLinear4` of every run), by
  `linearizeProg_LinTyped`.     Proof file.
-/
import Scc.Pipeline.Lemmas
import Scc.Props.C19
import Scc.Props.C19Shrink
import Scc.Core2AxCut.SizeWidth
import Scc.Backend.SizeX86

namespace Scc.Pipeline.SizeCompose

open Scc.Fun2Core Scc.Core.SizeFocus Scc.AxCut.SizeLin Scc.Core2AxCut.SizeWidth
  Scc.Backend.SizeGen

def ctorsSize : List Fun.CtorSig → Nat
  | [] => 0
  | c :: cs => 1 + c.args.length + ctorsSize cs

def dtorsSize : List Fun.DtorSig → Nat
  | [] => 0
  | d :: ds => 2 + d.args.length + dtorsSize ds

def dataSize : List Fun.Data → Nat
  | [] => 0
  | d :: ds => 1 + ctorsSize d.ctors + dataSize ds

def codataSize : List Fun.Codata → Nat
  | [] => 0
  | d :: ds => 1 + dtorsSize d.dtors + codataSize ds

def funDeclsSize (p : Fun.CheckedProgram) : Nat := dataSize p.dataTypes + codataSize p.codataTypes

def funSrcSize (p : Fun.CheckedProgram) : Nat := funProgSize p + funDeclsSize p

theorem ctors_len_le (cs : List Fun.CtorSig) : cs.length ≤ ctorsSize cs := by
  induction cs with
  | nil => simp [ctorsSize]
  | cons c cs ih => simp only [List.length_cons, ctorsSize]; omega

theorem dtors_len_le (ds : List Fun.DtorSig) : ds.length ≤ dtorsSize ds := by
  induction ds with
  | nil => simp [dtorsSize]
  | cons d ds ih => simp only [List.length_cons, dtorsSize]; omega

theorem maxXtors_data (ds : List Fun.Data) :
    Core2AxCut.maxXtors (ds.map fun d => (⟨⟨d.name, 0⟩, d.ctors.map compileCtor⟩ : Core.TypeDecl)) ≤
      dataSize ds := by
  induction ds with
  | nil => simp [Core2AxCut.maxXtors, dataSize]
  | cons d ds ih =>
    have := ctors_len_le d.ctors
    simp only [List.map_cons, Core2AxCut.maxXtors, dataSize, List.length_map]; omega

theorem maxXtors_codata (ds : List Fun.Codata) :
    Core2AxCut.maxXtors (ds.map fun d => (⟨⟨d.name, 0⟩, d.dtors.map compileDtor⟩ : Core.TypeDecl)) ≤
      codataSize ds := by
  induction ds with
  | nil => simp [Core2AxCut.maxXtors, codataSize]
  | cons d ds ih =>
    have := dtors_len_le d.dtors
    simp only [List.map_cons, Core2AxCut.maxXtors, codataSize, List.length_map]; omega

theorem ctors_arity_le (cs : List Fun.CtorSig) :
    (cs.map compileCtor).foldr (fun x acc => max x.args.length acc) 0 ≤ ctorsSize cs := by
  induction cs with
  | nil => simp [ctorsSize]
  | cons c cs ih =>
    simp only [List.map_cons, List.foldr_cons, ctorsSize, compileCtor, compileContext, List.length_map]
    omega

theorem dtors_arity_le (ds : List Fun.DtorSig) :
    (ds.map compileDtor).foldr (fun x acc => max x.args.length acc) 0 ≤ dtorsSize ds := by
  induction ds with
  | nil => simp [dtorsSize]
  | cons d ds ih =>
    simp only [List.map_cons, List.foldr_cons, dtorsSize, compileDtor, compileContext, List.length_map,
      List.length_append, List.length_singleton]
    omega

theorem declArity_data (ds : List Fun.Data) :
    declArity (ds.map fun d => (⟨⟨d.name, 0⟩, d.ctors.map compileCtor⟩ : Core.TypeDecl)) ≤ dataSize ds := by
  induction ds with
  | nil => simp [declArity, dataSize]
  | cons d ds ih =>
    have := ctors_arity_le d.ctors
    simp only [List.map_cons, declArity, dataSize]; omega

theorem declArity_codata (ds : List Fun.Codata) :
    declArity (ds.map fun d => (⟨⟨d.name, 0⟩, d.dtors.map compileDtor⟩ : Core.TypeDecl)) ≤
      codataSize ds := by
  induction ds with
  | nil => simp [declArity, codataSize]
  | cons d ds ih =>
    have := dtors_arity_le d.dtors
    simp only [List.map_cons, declArity, codataSize]; omega

theorem declArity_append (a b : List Core.TypeDecl) :
    declArity (a ++ b) = max (declArity a) (declArity b) := by
  induction a with
  | nil => simp [declArity]
  | cons d ds ih => simp only [List.cons_append, declArity, ih]; omega

theorem compileProg_types {p : Fun.CheckedProgram} {q : Core.Prog} (h : compileProg p = .ok q) :
    q.dataTypes = (p.dataTypes.map fun d => (⟨⟨d.name, 0⟩, d.ctors.map compileCtor⟩ : Core.TypeDecl)) ∧
    q.codataTypes = (p.codataTypes.map fun d => (⟨⟨d.name, 0⟩, d.dtors.map compileDtor⟩ : Core.TypeDecl)) := by
  unfold compileProg at h
  simp only at h
  split at h
  · cases h
  · cases h; exact ⟨rfl, rfl⟩

open Scc.AxCut in
mutual
  theorem substOk_of_linTyped {T : List TypeDecl} {S : Sigs} : ∀ (s : Stmt) (Γ : Ctx),
      LinTyped T S Γ s → substOk s = true
    | .subst pairs next, Γ, h => by
      cases h with
      | subst h1 h2 h3 h4 =>
        simp only [substOk, Bool.and_eq_true, decide_eq_true_eq]
        refine ⟨?_, substOk_of_linTyped next _ h4⟩
        have e : Ctx.ids (pairs.map (·.1)) = pairs.map (·.1.var.id) := by
          simp [Ctx.ids, List.map_map, Function.comp_def]
        rw [← e]; exact h3
    | .call _ _, _, _ => by simp [substOk]
    | .letS _ _ _ _ next _, Γ, h => by
      cases h with
      | letS _ _ _ _ _ _ h7 => simp only [substOk]; exact substOk_of_linTyped next _ h7
    | .switch _ _ cs _, Γ, h => by
      cases h with
      | switch _ _ _ _ _ h6 => simp only [substOk]; exact substOkC_of_linTyped cs _ _ h6
    | .create _ _ env cs next _ _, Γ, h => by
      cases h with
      | create _ _ _ _ _ h6 _ h8 =>
        simp only [substOk, Bool.and_eq_true]
        exact ⟨substOkC_of_linTyped cs _ _ h6, substOk_of_linTyped next _ h8⟩
    | .invoke _ _ _ _, _, _ => by simp [substOk]
    | .lit _ _ next _, Γ, h => by
      cases h with
      | lit _ _ h3 => simp only [substOk]; exact substOk_of_linTyped next _ h3
    | .op _ _ _ _ next _, Γ, h => by
      cases h with
      | op _ _ _ _ h5 => simp only [substOk]; exact substOk_of_linTyped next _ h5
    | .print _ _ next _, Γ, h => by
      cases h with
      | print _ _ h3 => simp only [substOk]; exact substOk_of_linTyped next _ h3
    | .ifc _ _ _ t e, Γ, h => by
      cases h with
      | ifc _ _ _ h4 h5 =>
        simp only [substOk, Bool.and_eq_true]
        exact ⟨substOk_of_linTyped t _ h4, substOk_of_linTyped e _ h5⟩
    | .exit _, _, _ => by simp [substOk]
  theorem substOkC_of_linTyped {T : List TypeDecl} {S : Sigs} : ∀ (cs : Clauses) (pre post : Ctx),
      LinTypedClauses T S pre post cs → substOkC cs = true
    | .nil, _, _, _ => by simp [substOkC]
    | .cons _ _ body rest, pre, post, h => by
      cases h with
      | cons h1 h2 =>
        simp only [substOkC, Bool.and_eq_true]
        exact ⟨substOk_of_linTyped body _ h1, substOkC_of_linTyped rest _ _ h2⟩
end

theorem substOkProg_of_linTyped {p : AxCut.Prog} (h : AxCut.LinTypedProg p) : substOkProg p = true := by
  unfold substOkProg
  rw [List.all_eq_true]
  intro d hd
  exact substOk_of_linTyped d.body d.ctx (h d hd)

/-- the new names of every substitution of S5 are pairwise distinct whenever S4 passes the
    (decidable) well-formedness check of the linearizer's input -/
theorem substOkProg_of_wf {q4 q5 : AxCut.Prog} (hwf : AxCut.wfNonLinearCheck q4 = true)
    (h : AxCut.linearizeProg q4 = .ok q5) : substOkProg q5 = true := by
  obtain ⟨p', h1, h2, _⟩ := AxCut.linearizeProg_LinTyped q4 ((AxCut.wfNonLinearCheck_iff q4).1 hwf)
  rw [h] at h1
  cases h1
  exact substOkProg_of_linTyped h2

def P2 (N : Nat) : Nat := 3 * N * (2 * N + 4)
def P3 (N : Nat) : Nat := 4 * P2 N
def P4 (N : Nat) : Nat := (N + 2) * P3 N
def PW (N : Nat) : Nat := P3 N + N + 1
def PB (N : Nat) : Nat := 2 * (PW N + P4 N * (PW N + 1)) + PW N + 1
def P5 (N : Nat) : Nat := 2 * P4 N
def PX (N : Nat) : Nat := 485 * (1 + PB N) * P5 N + 44

theorem OKdefs_mono {W W' : Nat} (h : W ≤ W') {l : List AxCut.Def} (hl : OKdefs W l) : OKdefs W' l :=
  fun d hd => ⟨Nat.le_trans (hl d hd).1 h, Nat.le_trans (hl d hd).2 h⟩

/-- C19: the sizes of all intermediate programs, polynomial in the size of the source -/
theorem stages_sizes {p' : Fun.CheckedProgram} {st : Stages} (h : stages p' = .ok st) :
    progSize st.s2 ≤ P2 (funSrcSize p') ∧
    fsProgSize st.s3 ≤ P3 (funSrcSize p') ∧
    defsNodes st.s4.defs ≤ P4 (funSrcSize p') ∧
    OKdefs (PW (funSrcSize p')) st.s4.defs ∧
    defsBound st.s4.defs ≤ PB (funSrcSize p') ∧
    defsNodes st.s5.defs ≤ P5 (funSrcSize p') ∧
    defsCap st.s5.defs ≤ PB (funSrcSize p') := by
  obtain ⟨h2, h3, h4, h5⟩ := stages_ok_iff.1 h
  generalize hN : funSrcSize p' = N
  have hn : funProgSize p' ≤ N := by rw [← hN]; unfold funSrcSize; omega
  have hdecl : funDeclsSize p' ≤ N := by rw [← hN]; unfold funSrcSize; omega
  have s2 : progSize st.s2 ≤ P2 N := by
    have := Props.C19_fun2core_full p' st.s2 h2
    refine Nat.le_trans this ?_
    unfold P2
    exact Nat.mul_le_mul (Nat.mul_le_mul_left 3 hn) (by omega)
  have s3 : fsProgSize st.s3 ≤ P3 N := by
    have := focusProgE_size h3
    unfold P3; omega
  -- the declarations of S3
  obtain ⟨ht1, ht2⟩ := compileProg_types h2
  obtain ⟨_, hq3⟩ := focusProgE_ok_iff.1 h3
  have hd3 : st.s3.dataTypes = st.s2.dataTypes ∧ st.s3.codataTypes = st.s2.codataTypes := by
    rw [hq3]; exact Core.SizeFocus.focusProg_types st.s2
  have hx1 := maxXtors_data p'.dataTypes
  have hx2 := maxXtors_codata p'.codataTypes
  have ha1 := declArity_data p'.dataTypes
  have ha2 := declArity_codata p'.codataTypes
  rw [← ht1] at hx1 ha1
  rw [← ht2] at hx2 ha2
  rw [← hd3.1] at hx1 ha1
  rw [← hd3.2] at hx2 ha2
  unfold funDeclsSize at hdecl
  -- S4: nodes
  have s4 : defsNodes st.s4.defs ≤ P4 N := by
    have := Props.C19_shrink_size st.s3 st.s4 h4
    rw [defsSize_eq] at this
    have hf : Props.shrinkFactor st.s3 ≤ N + 2 := by unfold Props.shrinkFactor; omega
    have hs : Core2AxCut.fsDefsSize st.s3.defs ≤ P3 N :=
      Nat.le_trans (fsDefsSize_le st.s3.defs) s3
    exact Nat.le_trans this (Nat.mul_le_mul hf hs)
  -- S4: width
  have hw : progWidth st.s3 ≤ PW N := by
    have hc : declArity [Core2AxCut.contInt] = 1 := by decide
    unfold progWidth PW
    rw [declArity_append, hc]
    omega
  have w4 : OKdefs (PW N) st.s4.defs := OKdefs_mono hw (shrinkProg_width h4)
  -- S4: the bound on the contexts of S5
  have b4 : defsBound st.s4.defs ≤ PB N := by
    have := defsBound_le (PW N) st.s4.defs (defsNodes st.s4.defs) w4 (fun d hd => size_le_defsNodes hd)
    have hm : defsNodes st.s4.defs * (PW N + 1) ≤ P4 N * (PW N + 1) := Nat.mul_le_mul_right _ s4
    unfold PB; omega
  obtain ⟨_, _, n5, c5, _⟩ := linearizeProg_size h5
  refine ⟨s2, s3, s4, w4, b4, ?_, Nat.le_trans c5 b4⟩
  unfold P5; omega

/-- C19 for the whole compiler: the number of instructions of the x86-64 routine is at most `PX N`,
    `N` the size of the checked source program -/
theorem pipeline_x86 {hooks : Bool} {c : Nat} {p' : Fun.CheckedProgram} {nargs : Nat} {text : String}
    (h : compileAllX86 hooks c p' = .ok (nargs, text))
    (hwf : ∀ st, stages p' = .ok st → AxCut.wfNonLinearCheck st.s4 = true) :
    ∃ routine, text = X86.printProg routine ∧ routine.length ≤ PX (funSrcSize p') := by
  obtain ⟨q5, hm, hb⟩ := compileAllX86_ok_iff.1 h
  obtain ⟨st, hst, rfl⟩ := middleEnd_ok_iff.1 hm
  obtain ⟨body, routine, hc, hr, rfl⟩ := backEndX86_ok_iff.1 hb
  obtain ⟨_, _, _, _, _, n5, c5⟩ := stages_sizes hst
  obtain ⟨_, _, _, h5⟩ := stages_ok_iff.1 hst
  have hok := substOkProg_of_wf (hwf st hst) h5
  have hbody := Backend.SizeX86.x86_compile_length hooks st.s5 _ c5 hok c body nargs hc
  have hrout := Backend.SizeX86.intoRoutine_length body nargs routine hr
  refine ⟨routine, rfl, ?_⟩
  have : 485 * (1 + PB (funSrcSize p')) * defsNodes st.s5.defs ≤
      485 * (1 + PB (funSrcSize p')) * P5 (funSrcSize p') := Nat.mul_le_mul_left _ n5
  unfold PX; omega

/-! ## the back half with the parameters of the program itself (sharper than the polynomials in `N`) -/

/-- from S3 on, in terms of `S = |S3|`, `D` = largest number of xtors of a type + 1 (`shrinkFactor`),
    `W = progWidth S3` -/
theorem backhalf_sizes {p3 : Core.FsProg} {q4 q5 : AxCut.Prog}
    (h4 : Core2AxCut.shrinkProg p3 = .ok q4) (h5 : AxCut.linearizeProg q4 = .ok q5) :
    defsNodes q4.defs ≤ Props.shrinkFactor p3 * fsProgSize p3 ∧
    OKdefs (progWidth p3) q4.defs ∧
    defsNodes q5.defs ≤ 2 * (Props.shrinkFactor p3 * fsProgSize p3) ∧
    defsCap q5.defs ≤
      2 * (progWidth p3 + Props.shrinkFactor p3 * fsProgSize p3 * (progWidth p3 + 1)) + progWidth p3 + 1 := by
  have s4 : defsNodes q4.defs ≤ Props.shrinkFactor p3 * fsProgSize p3 := by
    have := Props.C19_shrink_size p3 q4 h4
    rw [defsSize_eq] at this
    exact Nat.le_trans this (Nat.mul_le_mul_left _ (fsDefsSize_le p3.defs))
  have w4 := shrinkProg_width h4
  have b4 := defsBound_le (progWidth p3) q4.defs (defsNodes q4.defs) w4 (fun d hd => size_le_defsNodes hd)
  have hm : defsNodes q4.defs * (progWidth p3 + 1) ≤
      Props.shrinkFactor p3 * fsProgSize p3 * (progWidth p3 + 1) := Nat.mul_le_mul_right _ s4
  obtain ⟨_, _, n5, c5, _⟩ := linearizeProg_size h5
  exact ⟨s4, w4, by omega, by omega⟩

/-- … and the x86-64 code of S5 -/
theorem backhalf_x86 {p3 : Core.FsProg} {q4 q5 : AxCut.Prog} {hooks : Bool} {c : Nat}
    {body : List X86.Code} {nargs : Nat}
    (h4 : Core2AxCut.shrinkProg p3 = .ok q4) (h5 : AxCut.linearizeProg q4 = .ok q5)
    (hwf : AxCut.wfNonLinearCheck q4 = true) (hc : X86.compileX86 q5 hooks c = .ok (body, nargs)) :
    body.length ≤ 485 *
      (1 + (2 * (progWidth p3 + Props.shrinkFactor p3 * fsProgSize p3 * (progWidth p3 + 1)) +
        progWidth p3 + 1)) * (2 * (Props.shrinkFactor p3 * fsProgSize p3)) := by
  obtain ⟨_, _, n5, c5⟩ := backhalf_sizes h4 h5
  have hok := substOkProg_of_wf hwf h5
  have hbody := Backend.SizeX86.x86_compile_length hooks q5 _ c5 hok c body nargs hc
  exact Nat.le_trans hbody (Nat.mul_le_mul_left _ n5)

end Scc.Pipeline.SizeCompose
