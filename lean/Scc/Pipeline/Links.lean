/-
  Per-program evaluation of the DECIDABLE hypotheses of `C01_composition` / `C01_middle` / `C12_of_linkChecks`
  and of the decidable content of the links of `C12_chain`: used by the checks C01 and C12 on every accepted
  program of a run (request `links <file.sc>` of sccmodel).
  One line: `OK [validMain|noValidMain] [sequenced] [labelUnsafe] [frag] [int] [data] [e2e] [overCapacity]` | `REJECTED ..` | `FAIL <names of failing checks>`.

  The line is computed by `linksLine`.  Before the stages run it can fail with `checker-panic <message>` (the
  model of the type checker reached a panic site), and the names `programNamesOk` (hypothesis of the checker's
  soundness theorem), `annotated` (the checker's output carries all annotations) and `stages:<error>` (a stage
  returned an error) can stand in the list of a `FAIL` line beside the names below.

  * the hypotheses proper (the theorems take them as `… = true`):
      `noMainCall`   `Scc.Fun.noMainCall p'`              (only reported for programs with a valid `main`)
      `linkChecks`   `C01_linkChecks p'` (= `C12_linkChecks p'`): `stages` succeeds and
                     `input2`, `wtFsScoped3`, `wtAx4`, `wfNonLinear4` hold (also reported one by one)
      `C01_labelSafe p'` is reported as the TAG `labelUnsafe` on an `OK` line, not as a failure: it is a
                     hypothesis of `C01_statement` / `C01_link_x86` only (label-unsafe names are the known
                     finding of C14, outside C01's and C12's typing links); `C12_*` does not use it.
      `C01_fragChecks p'` is reported as the TAG `frag`: the program is in the fragment of
                     `C01_composition_frag` (fun2core's semantics is a theorem there; outside it the
                     hypothesis `C01_link_fun2core_sem` is used).
      `C01_intChecks p'` is reported as the TAG `int`: the back end of the program is in the integer fragment
                     (`IntProg`, `ProgInRange`, capacity, the routine text loads) in which the x86-64 link is
                     a theorem (`C01_x86_int`); `frag int` together: `C01_int_fragment`, no hypothesis left.
      `C01_dataChecks p'` (Props/C01DataChecks.lean) is reported as the TAG `data`: THE hypothesis of
                     `C01_data_fragment` (Props/C01Final.lean) — fun2core's fragment (`C01_fragChecks`, so `data`
                     implies `frag`), no closures in the linearized program (`DataProg`: no `create` / `invoke`),
                     and the decidable side conditions `C01_backChecks` of the x86-64 link with the heap
                     (label-safe and text-safe names, `progCap ≤ 133`, ranges, distinct labels and size of the
                     routine, size of the mock code).  For such programs C01 holds END TO END with no
                     hypothesis left (Theorem A ∘ Theorem B with the heap: `X86.C06_data_programs`).  A program in
                     which `main` calls another definition is never `data` (the continuation `_Cont` is a
                     closure: `create` / `invoke`).  On /repo/examples + /verif/gen/corpus the `data` programs are the
                     `int` programs and fun2core/s26_exit_leaf_lit.sc.
      `validMain p' && noMainCall p' && C01_backChecks p'` (= `C01_endChecks`, Props/C01End.lean) is reported as
                     the TAG `e2e`: THE decidable hypotheses of the UNCONDITIONAL end-to-end theorem
                     `C01_end_to_end : C01_statement_final` (Props/C01End.lean) — valid `main` that is not
                     called and the side conditions `C01_backChecks` of the x86-64 link; closures, recursion,
                     codata, non-sequenced programs included.  With a valid `main`, `data` implies `e2e`.  On
                     /repo/examples + /verif/gen/corpus every accepted program with a valid `main` is `e2e`
                     but regress/c14_xtor_digit_segments.sc (`labelUnsafe`, the finding of C14).
      `C01_capacity p'` is reported as the TAG `overCapacity` when it FAILS: the static capacity condition of
                     Theorem A (`C06Generic.ProgWithinCapacity` of S5: fewer than 500000 live variables in
                     every reachable context), a hypothesis of part (3) of `C01_middle` and of the lemmas through
                     the abstract backend machine only.
  * facts that the theorems DERIVE from `linkChecks` (re-evaluated here as a cross-check of the models against
    the theorems; a failure of one of them with `linkChecks` true would contradict `C12_facts_of_checks`):
      `typesDisjoint2` (not derived; conclusion of `C12_link_fun2core`), `focusPanicFree2`, `uniqueBinders3`,
      `uniqueIds3`, `idsBounded3`, `mainIntParams3` (valid `main` only), `noEnvAnn4`, `linTyped5`
  * the decidable content of `C12_link_codegen` at hooks = true, counter 0: `x86`, `a64`, `rv` (valid `main` only).
-/
import Scc.Props.C12
import Scc.Props.C01Checks
import Scc.Props.C01DataChecks
open Scc Scc.Pipeline Scc.Props

namespace Scc.Pipeline.Links


def linksLine (src : String) : String :=
  match Fun.Parse.parse .diagOnOverflow src with
  | .diag c => "REJECTED parse " ++ c.show
  | .panic _ => "REJECTED parse panic"
  | .ok p =>
    match Fun.Check.checkProgram p with
    | .diag c => "REJECTED check " ++ c
    | .panic s => "FAIL checker-panic " ++ s
    | .ok p' =>
      let pre := (if Fun.Check.programNamesOk p then [] else ["programNamesOk"]) ++
                 (if Fun.Typing.annotatedProgram p' then [] else ["annotated"]) ++
                 (if !validMain p' || Fun.noMainCall p' then [] else ["noMainCall"])
      match stages p' with
      | .error e => "FAIL " ++ " ".intercalate (pre ++ ["stages:" ++ e])
      | .ok st =>
        let cs : List (String × Bool) := [
          ("linkChecks", C01_linkChecks p'),
          ("input2", C12_inputB st.s2), ("typesDisjoint2", typesDisjoint st.s2),
          ("focusPanicFree2", st.s2.focusPanicFree),
          ("wtFsScoped3", Core2AxCut.wtFsScopedCheck st.s3), ("uniqueBinders3", Core.uniqueBindersCheck st.s3),
          ("uniqueIds3", Core2AxCut.uniqueIdsCheck st.s3), ("idsBounded3", Core2AxCut.idsBoundedCheck st.s3),
          ("mainIntParams3", !validMain p' || Core2AxCut.mainIntParams st.s3),
          ("wtAx4", C12_isOk (AxCut.Named.wtAxCheck st.s4)), ("wfNonLinear4", AxCut.wfNonLinearCheck st.s4),
          ("noEnvAnn4", AxCut.noEnvAnnProg st.s4), ("linTyped5", C12_isOk (AxCut.linTypedCheck st.s5)),
          -- `backEndX86` tags its errors with the stage (`S6x compile: Out of temporaries`): a capacity message is one
          -- of the documented ones possibly behind that tag
          ("x86", !validMain p' || (match backEndX86 true 0 st.s5 with
              | .ok _ => true
              | .error e => C12_capacityErrors.any (fun m => e == m || e.endsWith (": " ++ m)))),
          ("a64", !validMain p' || C12_okOrCapacityB (A64.compileProg A64.a64Backend st.s5 true 0)),
          ("rv", !validMain p' || C12_okOrCapacityB (RV.compileRoutine st.s5 true 0))]
        let bad := pre ++ (cs.filter (fun c => !c.2)).map (·.1)
        if bad.isEmpty then
          "OK" ++ (if validMain p' then " validMain" else " noValidMain") ++
            (if Fun.Sequenced p' then " sequenced" else "") ++
            (if C01_labelSafe p' then "" else " labelUnsafe") ++
            (if C01_fragChecks p' then " frag" else "") ++
            (if C01_intChecks p' then " int" else "") ++
            (if C01_dataChecks p' then " data" else "") ++
            (if validMain p' && Fun.noMainCall p' && C01_backChecks p' then " e2e" else "") ++
            (if C01_capacity p' then "" else " overCapacity")
        else "FAIL " ++ " ".intercalate bad


end Scc.Pipeline.Links
