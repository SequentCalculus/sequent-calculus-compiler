/-
  Scc.Pipeline.FocusNoPanic — proof file (C12, no internal failure of `Prog::focus`):
  on a well-typed Core program (`Scc.Core.Prog.wellTyped`) in which no name is declared both as a data
  and as a codata type, uniquify + focus do not panic: none of the three panic sites
  (`Term<Cns>` on a literal / operator: "cannot happen"; `Xtor::focus`; `Op::focus`) is reachable,
  i.e. `focusPanicFree` holds and `focusProgE` returns `ok (focusProg p)`.
-/
import Scc.Core.TypingInv
import Scc.Core.Focus

namespace Scc.Pipeline

open Scc.Core

def typesDisjoint (P : Prog) : Bool :=
  P.dataTypes.all fun d => P.codataTypes.all fun c => decide (d.name ≠ c.name)

theorem findDecl_name {ds : List TypeDecl} {T : Ident} {d : TypeDecl} (h : findDecl ds T = some d) :
    d ∈ ds ∧ d.name = T := by
  unfold findDecl at h
  have h1 := List.mem_of_find?_eq_some h
  have h2 := List.find?_some h
  exact ⟨h1, by simpa using h2⟩

theorem disjoint_find {P : Prog} (hd : typesDisjoint P = true) {T : Ident} {d c : TypeDecl}
    (h1 : findDecl P.dataTypes T = some d) (h2 : findDecl P.codataTypes T = some c) : False := by
  obtain ⟨m1, n1⟩ := findDecl_name h1
  obtain ⟨m2, n2⟩ := findDecl_name h2
  simp only [typesDisjoint, List.all_eq_true] at hd
  have := hd d m1 c m2
  simp only [decide_eq_true_eq] at this
  exact this (by rw [n1, n2])

/-- `⟨K(..) | D(..)⟩` is ill-typed when data and codata type names are disjoint: a producer `xtor` (constructor)
    is typed at a data type, a consumer `xtor` (destructor) at a codata type -/
theorem xtor_xtor_false {P : Prog} (hd : typesDisjoint P = true) {Γ : Ctx} {ty : Ty}
    {pc1 pc2 : PC} {n1 n2 : Ident} {as1 as2 : Args} {t1 t2 : Ty}
    (hp : (Term.xtor pc1 n1 as1 t1).check P Γ .prd ty = true)
    (hc : (Term.xtor pc2 n2 as2 t2).check P Γ .cns ty = true) : False := by
  obtain ⟨_, _, T1, d1, _, e1, f1, _⟩ := Term.check_xtor hp
  obtain ⟨_, _, T2, d2, _, e2, f2, _⟩ := Term.check_xtor hc
  cases e1.symm.trans e2
  exact disjoint_find hd f1 f2

section
set_option linter.unusedSectionVars false
variable {P : Prog} (hd : typesDisjoint P = true)
include hd

mutual
  theorem term_ok : (t : Term) → ∀ (Γ : Ctx) (pc : PC) (ty : Ty), t.check P Γ pc ty = true →
      t.chiOk pc = true ∧ t.cutsOk = true
    | .var _ _ _, _, _, _, _ => by simp [Term.chiOk, Term.cutsOk]
    | .lit _, _, pc, _, h => by
      simp only [Term.check, Bool.and_eq_true] at h
      simp [Term.chiOk, Term.cutsOk, h.1]
    | .op a _ b, Γ, pc, ty, h => by
      simp only [Term.check, Bool.and_eq_true] at h
      obtain ⟨⟨⟨h1, _⟩, ha⟩, hb⟩ := h
      have ia := term_ok a Γ .prd .i64 ha
      have ib := term_ok b Γ .prd .i64 hb
      simp [Term.chiOk, Term.cutsOk, h1, ia.1, ia.2, ib.1, ib.2]
    | .mu _ v _ s, Γ, pc, ty, h => by
      simp only [Term.check, Bool.and_eq_true] at h
      have is := stmt_ok s _ h.2
      simp [Term.chiOk, Term.cutsOk, is.1, is.2]
    | .xtor pc' name as ty', Γ, pc, ty, h => by
      simp only [Term.check, Bool.and_eq_true] at h
      obtain ⟨_, h⟩ := h
      cases ty with
      | i64 => simp at h
      | decl T =>
        simp only at h
        split at h
        · simp at h
        · split at h
          · simp at h
          · rename_i sig _
            have ia := args_ok as Γ sig.args h
            simp [Term.chiOk, Term.cutsOk, ia.1, ia.2]
    | .xcase pc' ty' cl, Γ, pc, ty, h => by
      simp only [Term.check, Bool.and_eq_true] at h
      obtain ⟨_, h⟩ := h
      cases ty with
      | i64 => simp at h
      | decl T =>
        simp only at h
        split at h
        · simp at h
        · rename_i d _
          simp only [Bool.and_eq_true] at h
          have ic := clauses_ok cl Γ d.xtors h.1
          simp [Term.chiOk, Term.cutsOk, ic.1, ic.2]
  theorem args_ok : (as : Args) → ∀ (Γ : Ctx) (ctx : Ctx), as.check P Γ ctx = true →
      as.chiOk = true ∧ as.cutsOk = true
    | .nil, _, _, _ => by simp [Args.chiOk, Args.cutsOk]
    | .cons pc t r, Γ, ctx, h => by
      cases ctx with
      | nil => simp [Args.check] at h
      | cons b bs =>
        simp only [Args.check, Bool.and_eq_true] at h
        obtain ⟨⟨_, ht⟩, hr⟩ := h
        have it := term_ok t Γ pc b.ty ht
        have ir := args_ok r Γ bs hr
        simp [Args.chiOk, Args.cutsOk, it.1, it.2, ir.1, ir.2]
  theorem clauses_ok : (cl : Clauses) → ∀ (Γ : Ctx) (sigs : List XtorSig), cl.check P Γ sigs = true →
      cl.chiOk = true ∧ cl.cutsOk = true
    | .nil, _, _, _ => by simp [Clauses.chiOk, Clauses.cutsOk]
    | .cons x ctx b r, Γ, sigs, h => by
      simp only [Clauses.check, Bool.and_eq_true] at h
      obtain ⟨⟨_, hb⟩, hr⟩ := h
      have ib := stmt_ok b _ hb
      have ir := clauses_ok r Γ sigs hr
      simp [Clauses.chiOk, Clauses.cutsOk, ib.1, ib.2, ir.1, ir.2]
  theorem stmt_ok : (s : Stmt) → ∀ (Γ : Ctx), s.check P Γ = true → s.chiOk = true ∧ s.cutsOk = true
    | .cut ty p c, Γ, h => by
      simp only [Stmt.check, Bool.and_eq_true] at h
      obtain ⟨hp, hc⟩ := h
      have ip := term_ok p Γ .prd ty hp
      have ic := term_ok c Γ .cns ty hc
      refine ⟨by simp [Stmt.chiOk, ip.1, ic.1], ?_⟩
      -- the two panic shapes are ill-typed
      cases c with
      | xtor pc2 n2 as2 t2 =>
        obtain ⟨_, _, T2, d2, _, e2, f2, _⟩ := Term.check_xtor hc
        cases p with
        | xtor pc1 n1 as1 t1 => exact (xtor_xtor_false hd hp hc).elim
        | op a o b =>
          simp only [Term.check, Bool.and_eq_true] at hp
          have hi := hp.1.1.2
          rw [e2] at hi
          exact absurd hi Bool.false_ne_true
        | var _ _ _ => simp [Stmt.cutsOk, ip.2, ic.2]
        | lit _ => simp [Stmt.cutsOk, ip.2, ic.2]
        | mu _ _ _ _ => simp [Stmt.cutsOk, ip.2, ic.2]
        | xcase _ _ _ => simp [Stmt.cutsOk, ip.2, ic.2]
      | var _ _ _ => simp [Stmt.cutsOk, ip.2, ic.2]
      | lit _ => simp [Stmt.cutsOk, ip.2, ic.2]
      | op _ _ _ => simp [Stmt.cutsOk, ip.2, ic.2]
      | mu _ _ _ _ => simp [Stmt.cutsOk, ip.2, ic.2]
      | xcase _ _ _ => simp [Stmt.cutsOk, ip.2, ic.2]
    | .ifc _ a b t e, Γ, h => by
      simp only [Stmt.check, Bool.and_eq_true] at h
      obtain ⟨⟨⟨ha, hb⟩, ht⟩, he⟩ := h
      have ia := term_ok a Γ .prd .i64 ha
      have ib := term_ok b Γ .prd .i64 hb
      have it := stmt_ok t Γ ht
      have ie := stmt_ok e Γ he
      simp [Stmt.chiOk, Stmt.cutsOk, ia.1, ia.2, ib.1, ib.2, it.1, it.2, ie.1, ie.2]
    | .ifz _ a t e, Γ, h => by
      simp only [Stmt.check, Bool.and_eq_true] at h
      obtain ⟨⟨ha, ht⟩, he⟩ := h
      have ia := term_ok a Γ .prd .i64 ha
      have it := stmt_ok t Γ ht
      have ie := stmt_ok e Γ he
      simp [Stmt.chiOk, Stmt.cutsOk, ia.1, ia.2, it.1, it.2, ie.1, ie.2]
    | .print _ a n, Γ, h => by
      simp only [Stmt.check, Bool.and_eq_true] at h
      have ia := term_ok a Γ .prd .i64 h.1
      have i_n := stmt_ok n Γ h.2
      simp [Stmt.chiOk, Stmt.cutsOk, ia.1, ia.2, i_n.1, i_n.2]
    | .call f as _, Γ, h => by
      simp only [Stmt.check] at h
      split at h
      · simp at h
      · rename_i d _
        have ia := args_ok as Γ d.ctx h
        simp [Stmt.chiOk, Stmt.cutsOk, ia.1, ia.2]
    | .exit a _, Γ, h => by
      simp only [Stmt.check] at h
      have ia := term_ok a Γ .prd .i64 h
      simp [Stmt.chiOk, Stmt.cutsOk, ia.1, ia.2]
end

end

/-- **focus does not panic on well-typed Core** (with disjoint data / codata type names) -/
theorem focusPanicFree_of_wellTyped {P : Prog} (hd : typesDisjoint P = true)
    (ht : P.wellTyped = true) : P.focusPanicFree = true := by
  simp only [Prog.wellTyped, List.all_eq_true] at ht
  simp only [Prog.focusPanicFree, Prog.chiralityOk, Bool.and_eq_true, List.all_eq_true]
  exact ⟨fun d hm => (stmt_ok hd d.body d.ctx (ht d hm)).1,
    fun d hm => (stmt_ok hd d.body d.ctx (ht d hm)).2⟩

theorem focusProgE_ok_of_wellTyped {P : Prog} (hd : typesDisjoint P = true)
    (ht : P.wellTyped = true) : focusProgE P = .ok (focusProg P) := by
  have h := focusPanicFree_of_wellTyped hd ht
  simp only [Prog.focusPanicFree, Bool.and_eq_true] at h
  simp [focusProgE, h.1, h.2]

end Scc.Pipeline
