/-
  Scc.Pipeline.Bridges — proof file: bridges between predicates that different components use for the
  same fact, needed to chain their theorems (Props/C01, Props/C12):
   * C03's `UniqueBindersGlobal` (Scc/Core/Unique.lean) ⇒ the checker `uniqueBindersCheck` accepts
     (completeness of the checker), and ⇒ core2axcut's `uniqueIdsCheck` (Scc/Core2AxCut/FreeVarsSpec.lean);
   * `wtFsScopedCheck ⇒ wtFsCheck`;
   * C03's `UniqueBindersGlobal` ⇒ `idsBoundedCheck`, and "`main` is the first definition and takes integer
     producers" (`MainHead3`, Scc/Pipeline/Lemmas.lean) ⇒ `mainIntParams` — the two extra side conditions of
     `C04_sem` (Scc/Props/C04Sem.lean; defined in Scc/Core2AxCut/NoLift.lean).
-/
import Scc.Core.ProofsUniqueD
import Scc.Core2AxCut.FsTyping
import Scc.Core2AxCut.FreeVarsSpec
import Scc.Core.Typing
import Scc.Core.Focus
import Scc.Core2AxCut.NoLift
import Scc.Pipeline.Lemmas

namespace Scc.Pipeline

theorem uniqueBindersCheckDef_complete {m : Nat} {d : Core.FsDef} (h : Core.UniqueBindersGlobal m d) :
    Core.uniqueBindersCheckDef m d = true := by
  obtain ⟨h1, h2, h3⟩ := h
  simp only [Core.uniqueBindersCheckDef, Bool.and_eq_true, Core.nodupB_iff, List.all_eq_true,
    Bool.not_eq_true', decide_eq_true_eq]
  refine ⟨⟨h1, fun i hi => ?_⟩, h3⟩
  have := h2 i hi
  simpa using this

/-- completeness of the executable checker of C03 -/
theorem uniqueBindersCheck_complete {p : Core.FsProg}
    (h : ∀ d ∈ p.defs, Core.UniqueBindersGlobal p.maxId d) : Core.uniqueBindersCheck p = true := by
  simp only [Core.uniqueBindersCheck, List.all_eq_true]
  exact fun d hd => uniqueBindersCheckDef_complete (h d hd)

theorem ctxIds_eq (c : Core.Ctx) : c.map (·.var.id) = Core.ctxIds c := rfl

mutual
  theorem bindersTerm_ids : (t : Core.FsTerm) →
      (Core2AxCut.bindersTerm t).map (·.var.id) = t.binderIds
    | .var _ _ _ => rfl
    | .lit _ => rfl
    | .op _ _ _ => rfl
    | .xtor _ _ _ _ => rfl
    | .mu _ v _ s => by
      simp only [Core2AxCut.bindersTerm, Core.FsTerm.binderIds, List.map_cons, bindersStmt_ids s]
    | .xcase _ _ cs => by
      simp only [Core2AxCut.bindersTerm, Core.FsTerm.binderIds, bindersClauses_ids cs]
  theorem bindersClauses_ids : (cs : Core.FsClauses) →
      (Core2AxCut.bindersClauses cs).map (·.var.id) = cs.binderIds
    | .nil => rfl
    | .cons _ ctx b r => by
      simp only [Core2AxCut.bindersClauses, Core.FsClauses.binderIds, List.map_append,
        bindersStmt_ids b, bindersClauses_ids r, ctxIds_eq, List.append_assoc]
  theorem bindersStmt_ids : (s : Core.FsStmt) →
      (Core2AxCut.bindersStmt s).map (·.var.id) = s.binderIds
    | .cut _ p c => by
      simp only [Core2AxCut.bindersStmt, Core.FsStmt.binderIds, List.map_append, bindersTerm_ids p,
        bindersTerm_ids c]
    | .ifc _ _ _ t e => by
      simp only [Core2AxCut.bindersStmt, Core.FsStmt.binderIds, List.map_append, bindersStmt_ids t,
        bindersStmt_ids e]
    | .print _ _ n => by
      simp only [Core2AxCut.bindersStmt, Core.FsStmt.binderIds, bindersStmt_ids n]
    | .call _ _ => rfl
    | .exit _ => rfl
end

/-- C03's global uniqueness is (more than) the `uniqueIdsCheck` that C04 assumes -/
theorem uniqueIdsCheck_of_global {p : Core.FsProg}
    (h : ∀ d ∈ p.defs, Core.UniqueBindersGlobal p.maxId d) : Core2AxCut.uniqueIdsCheck p = true := by
  simp only [Core2AxCut.uniqueIdsCheck, List.all_eq_true]
  intro d hd
  simp only [Core2AxCut.uniqueIdsDef, Core2AxCut.nodupNat_iff, List.map_append, bindersStmt_ids]
  exact (h d hd).1

theorem uniqueIdsCheck_of_check {p : Core.FsProg} (h : Core.uniqueBindersCheck p = true) :
    Core2AxCut.uniqueIdsCheck p = true :=
  uniqueIdsCheck_of_global fun d hd => (Core.uniqueBindersCheck_sound h d hd).1

/-- C03's global uniqueness bounds every parameter and binder id by `maxId`: `idsBoundedCheck` of `C04_sem` -/
theorem idsBoundedCheck_of_global {p : Core.FsProg}
    (h : ∀ d ∈ p.defs, Core.UniqueBindersGlobal p.maxId d) : Core2AxCut.idsBoundedCheck p = true := by
  simp only [Core2AxCut.idsBoundedCheck, List.all_eq_true]
  intro d hd
  simp only [Core2AxCut.idsBoundedDef, List.all_eq_true, decide_eq_true_eq]
  intro i hi
  exact (h d hd).2.2 i (List.mem_append_left _ hi)

theorem idsBoundedCheck_of_check {p : Core.FsProg} (h : Core.uniqueBindersCheck p = true) :
    Core2AxCut.idsBoundedCheck p = true :=
  idsBoundedCheck_of_global fun d hd => (Core.uniqueBindersCheck_sound h d hd).1

/-- the entry point of S3 takes integer producers: `mainIntParams` of `C04_sem` -/
theorem mainIntParams_of_mainHead {k : Nat} {p : Core.FsProg} (h : MainHead3 k p.defs) :
    Core2AxCut.mainIntParams p = true := by
  obtain ⟨d, ds, hd, _, _, hint⟩ := h
  simp only [Core2AxCut.mainIntParams, hd, List.all_eq_true, Bool.and_eq_true]
  intro b hb
  obtain ⟨h1, h2⟩ := hint b hb
  rw [h1, h2]
  exact ⟨by decide, by decide⟩

theorem wtFsCheck_of_scoped {p : Core.FsProg} (h : Core2AxCut.wtFsScopedCheck p = true) :
    Core2AxCut.wtFsCheck p = true := by
  simp only [Core2AxCut.wtFsScopedCheck, Bool.and_eq_true] at h
  exact h.1

end Scc.Pipeline
