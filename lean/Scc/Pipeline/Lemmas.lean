/-
  Scc.Pipeline.Lemmas — proof file for the composition theorems (Props/C01, Props/C12):
  inversion lemmas for the composed functions of Scc/Pipeline.lean, and the structural facts about the
  entry point that the per-pass statements need as side conditions: the definition `main` is the
  FIRST definition of S2 and S3 (`MainHead2`, `MainHead3`), the first definition of S4 and S5 is its image
  (`MainHeadAx`: same number of parameters; the AxCut stages do not look at the name), and its parameters stay
  integers (`prd i64` in Core, `ext i64` in AxCut).
-/
import Scc.Pipeline
import Scc.AxCut.LinRelLin
import Scc.Core2AxCut.Labels
import Scc.Core.SizeUniquify

namespace Scc.Pipeline

theorem tagErr_ok {α : Type} {stage : String} {r : Except String α} {a : α} :
    tagErr stage r = .ok a ↔ r = .ok a := by
  cases r <;> simp [tagErr]

theorem stages_ok_iff {p' : Fun.CheckedProgram} {st : Stages} :
    stages p' = .ok st ↔
      Fun2Core.compileProg p' = .ok st.s2 ∧ Core.focusProgE st.s2 = .ok st.s3 ∧
      Core2AxCut.shrinkProg st.s3 = .ok st.s4 ∧ AxCut.linearizeProg st.s4 = .ok st.s5 := by
  unfold stages stageS2 stageS3 stageS4 stageS5
  constructor
  · intro h
    cases h2 : Fun2Core.compileProg p' with
    | error e => simp [h2, tagErr] at h
    | ok q2 =>
      simp only [h2, tagErr] at h
      cases h3 : Core.focusProgE q2 with
      | error e => simp [h3] at h
      | ok q3 =>
        simp only [h3] at h
        cases h4 : Core2AxCut.shrinkProg q3 with
        | error e => simp [h4] at h
        | ok q4 =>
          simp only [h4] at h
          cases h5 : AxCut.linearizeProg q4 with
          | error e => simp [h5] at h
          | ok q5 =>
            simp only [h5, Except.ok.injEq] at h
            subst h
            exact ⟨rfl, h3, h4, h5⟩
  · rintro ⟨h2, h3, h4, h5⟩
    simp only [h2, h3, h4, h5, tagErr]

theorem middleEnd_ok_iff {p' : Fun.CheckedProgram} {q5 : AxCut.Prog} :
    middleEnd p' = .ok q5 ↔ ∃ st, stages p' = .ok st ∧ st.s5 = q5 := by
  unfold middleEnd
  cases h : stages p' with
  | error e => simp
  | ok st => simp

theorem backEndX86_ok_iff {hooks : Bool} {c : Nat} {q5 : AxCut.Prog} {nargs : Nat} {text : String} :
    backEndX86 hooks c q5 = .ok (nargs, text) ↔
      ∃ body routine, X86.compileX86 q5 hooks c = .ok (body, nargs) ∧
        X86.intoRoutine body nargs = .ok routine ∧ text = X86.printProg routine := by
  unfold backEndX86
  cases h1 : X86.compileX86 q5 hooks c with
  | error e => simp [tagErr]
  | ok r =>
    obtain ⟨body, n⟩ := r
    simp only [tagErr]
    cases h2 : X86.intoRoutine body n with
    | error e =>
      simp only [reduceCtorEq, false_iff, not_exists, not_and]
      intro b r hb hr
      injection hb with hb
      injection hb with hb1 hb2
      subst hb1; subst hb2
      rw [h2] at hr
      cases hr
    | ok routine =>
      simp only [Except.ok.injEq, Prod.mk.injEq]
      constructor
      · rintro ⟨rfl, rfl⟩
        exact ⟨body, routine, ⟨rfl, rfl⟩, h2, rfl⟩
      · rintro ⟨b, r, ⟨rfl, rfl⟩, hr, rfl⟩
        rw [h2] at hr
        injection hr with hr
        subst hr
        exact ⟨rfl, rfl⟩

theorem compileAllX86_ok_iff {hooks : Bool} {c : Nat} {p' : Fun.CheckedProgram} {r : Nat × String} :
    compileAllX86 hooks c p' = .ok r ↔ ∃ q5, middleEnd p' = .ok q5 ∧ backEndX86 hooks c q5 = .ok r := by
  unfold compileAllX86
  cases h : middleEnd p' with
  | error e => simp
  | ok q5 => simp

theorem focusProgE_ok_iff {q2 : Core.Prog} {q3 : Core.FsProg} :
    Core.focusProgE q2 = .ok q3 ↔ q2.focusPanicFree = true ∧ q3 = Core.focusProg q2 := by
  unfold Core.focusProgE Core.Prog.focusPanicFree
  by_cases h1 : q2.chiralityOk = true
  · by_cases h2 : (q2.defs.all fun d => d.body.cutsOk) = true
    · simp [h1, h2, eq_comm]
    · simp [h1, h2]
  · simp [h1]

def IntPrd (ctx : Core.Ctx) : Prop := ∀ b ∈ ctx, b.chi = .prd ∧ b.ty = .i64

def IntExt (ctx : AxCut.Ctx) : Prop := ∀ b ∈ ctx, b.chi = .ext ∧ b.ty = .i64

/-- S2: the first definition is `main`, with `k` integer parameters -/
def MainHead2 (k : Nat) (defs : List Core.Def) : Prop :=
  ∃ d ds, defs = d :: ds ∧ d.name.name = "main" ∧ d.ctx.length = k ∧ IntPrd d.ctx

/-- the same of the focused program S3 -/
def MainHead3 (k : Nat) (defs : List Core.FsDef) : Prop :=
  ∃ d ds, defs = d :: ds ∧ d.name.name = "main" ∧ d.ctx.length = k ∧ IntPrd d.ctx

/-- S4 and S5: the first definition has `k` integer parameters (no clause on its name) -/
def MainHeadAx (k : Nat) (defs : List AxCut.Def) : Prop :=
  ∃ d ds, defs = d :: ds ∧ d.ctx.length = k ∧ IntExt d.ctx

theorem isI64_eq {t : Fun.Ty} (h : isI64 t = true) : t = .i64 := by
  cases t <;> simp_all [isI64]

theorem intPrd_compileContext {ctx : Fun.Ctx}
    (h : ctx.all (fun b => b.chi == .prd && isI64 b.ty) = true) :
    IntPrd (Fun2Core.compileContext ctx) := by
  intro b hb
  simp only [Fun2Core.compileContext, List.mem_map] at hb
  obtain ⟨a, ha, rfl⟩ := hb
  have := List.all_eq_true.1 h a ha
  simp only [Bool.and_eq_true] at this
  obtain ⟨h1, h2⟩ := this
  have h2 := isI64_eq h2
  have h1 : a.chi = .prd := by
    cases hc : a.chi
    · rfl
    · rw [hc] at h1; exact absurd h1 (by decide)
  simp [h1, h2, Fun2Core.compileChi, Fun2Core.compileTy]

theorem mainHead2_append {k : Nat} {l : List Core.Def} (h : MainHead2 k l) (r : List Core.Def) :
    MainHead2 k (l ++ r) := by
  obtain ⟨d, ds, rfl, h1, h2, h3⟩ := h
  exact ⟨d, ds ++ r, rfl, h1, h2, h3⟩

/-- every definition called `main` has `k` parameters and a valid signature -/
def MainsOk (k : Nat) (defs : List Fun.Def) : Prop :=
  ∀ d ∈ defs, d.name = "main" → d.ctx.length = k ∧ mainSigOk d = true

theorem compileMain_head {k : Nat} {d : Fun.Def} {cts : List Core.TypeDecl} {ul : List String}
    {ds : List Core.Def} {ul' : List String} (hn : d.name = "main")
    (hs : d.ctx.length = k ∧ mainSigOk d = true)
    (h : Fun2Core.compileMain d cts ul = .ok (ds, ul')) : MainHead2 k ds := by
  unfold Fun2Core.compileMain at h
  simp only at h
  split at h
  · simp at h
  · split at h
    · simp at h
    · simp only [Except.ok.injEq, Prod.mk.injEq] at h
      obtain ⟨rfl, _⟩ := h
      refine ⟨_, _, rfl, hn, ?_, ?_⟩
      · simp [Fun2Core.compileContext, hs.1]
      · have := hs.2
        simp only [mainSigOk, Bool.and_eq_true] at this
        exact intPrd_compileContext this.1.2

theorem compileDefs_mainHead (k : Nat) (cts : List Core.TypeDecl) :
    ∀ (defs : List Fun.Def) (ul : List String) (acc r : List Core.Def),
      Fun2Core.compileDefs cts defs ul acc = .ok r → MainsOk k defs →
      (MainHead2 k acc ∨ defs.any (fun d => d.name == "main") = true) → MainHead2 k r := by
  intro defs
  induction defs with
  | nil =>
    intro ul acc r h _ hm
    simp only [Fun2Core.compileDefs, Except.ok.injEq] at h
    subst h
    rcases hm with hm | hm
    · exact hm
    · simp at hm
  | cons d rest ih =>
    intro ul acc r h hok hm
    have hokr : MainsOk k rest := fun x hx => hok x (List.mem_cons_of_mem _ hx)
    unfold Fun2Core.compileDefs at h
    by_cases hd : (d.name == "main") = true
    · rw [if_pos hd] at h
      split at h
      · simp at h
      · rename_i ds ul' hcm
        have hdn : d.name = "main" := by simpa using hd
        have hh := compileMain_head hdn (hok d (List.mem_cons_self ..) hdn) hcm
        exact ih ul' (ds ++ acc) r h hokr (.inl (mainHead2_append hh acc))
    · rw [if_neg hd] at h
      split at h
      · simp at h
      · rename_i ds ul' hcd
        refine ih ul' (acc ++ ds) r h hokr ?_
        rcases hm with hm | hm
        · exact .inl (mainHead2_append hm ds)
        · right
          simp only [List.any_cons, Bool.or_eq_true] at hm
          rcases hm with hm | hm
          · exact absurd hm hd
          · exact hm

/-- a valid `main` whose definitions of that name all have `k` parameters -/
def ValidMainK (k : Nat) (p' : Fun.CheckedProgram) : Prop :=
  p'.defs.any (fun d => d.name == "main") = true ∧ MainsOk k p'.defs

theorem compileProg_mainHead {k : Nat} {p' : Fun.CheckedProgram} {q2 : Core.Prog}
    (hv : ValidMainK k p') (h : Fun2Core.compileProg p' = .ok q2) : MainHead2 k q2.defs := by
  unfold Fun2Core.compileProg at h
  simp only at h
  split at h
  · simp at h
  · rename_i defs hd
    simp only [Except.ok.injEq] at h
    subst h
    exact compileDefs_mainHead k _ _ _ _ _ hd hv.2 (.inr hv.1)

theorem uniquifyCtx_intPrd {c : Core.Ctx} (h : IntPrd c) (n : Nat) : IntPrd (Core.uniquifyCtx c n).ctx := by
  induction c generalizing n with
  | nil => intro b hb; simp [Core.uniquifyCtx] at hb
  | cons b r ih =>
    have hb := h b (List.mem_cons_self ..)
    have hr : IntPrd r := fun x hx => h x (List.mem_cons_of_mem _ hx)
    simp only [Core.uniquifyCtx]
    split
    · split
      · intro x hx
        simp only [List.mem_cons] at hx
        rcases hx with rfl | hx
        · exact hb
        · exact ih hr _ x hx
      · intro x hx
        simp only [List.mem_cons] at hx
        rcases hx with rfl | hx
        · exact hb
        · exact ih hr _ x hx
    · intro x hx
      simp only [List.mem_cons] at hx
      rcases hx with rfl | hx
      · exact hb
      · exact ih hr _ x hx

theorem uniquifyDef_sig (d : Core.Def) (n : Nat) :
    (Core.uniquifyDef d n).1.name = d.name ∧ (Core.uniquifyDef d n).1.ctx = (Core.uniquifyCtx d.ctx n).ctx := by
  simp [Core.uniquifyDef]

theorem focusDef_sig (d : Core.Def) (n : Nat) :
    (Core.focusDef d n).1.name = d.name ∧ (Core.focusDef d n).1.ctx = d.ctx := by
  simp [Core.focusDef]

theorem uniquifyDefs_mainHead {k : Nat} {defs : List Core.Def} (h : MainHead2 k defs) (n : Nat) :
    MainHead2 k (Core.uniquifyDefs defs n).1 := by
  obtain ⟨d, ds, rfl, h1, h2, h3⟩ := h
  simp only [Core.uniquifyDefs]
  refine ⟨_, _, rfl, ?_, ?_, ?_⟩
  · rw [(uniquifyDef_sig d n).1]; exact h1
  · rw [(uniquifyDef_sig d n).2, Core.SizeUniquify.uniquifyCtx_ctx_length]; exact h2
  · rw [(uniquifyDef_sig d n).2]; exact uniquifyCtx_intPrd h3 n

theorem focusDefs_mainHead {k : Nat} {defs : List Core.Def} (h : MainHead2 k defs) (n : Nat) :
    MainHead3 k (Core.focusDefs defs n).1 := by
  obtain ⟨d, ds, rfl, h1, h2, h3⟩ := h
  simp only [Core.focusDefs]
  refine ⟨_, _, rfl, ?_, ?_, ?_⟩
  · rw [(focusDef_sig d n).1]; exact h1
  · rw [(focusDef_sig d n).2]; exact h2
  · rw [(focusDef_sig d n).2]; exact h3

theorem focusProg_mainHead {k : Nat} {q2 : Core.Prog} (h : MainHead2 k q2.defs) :
    MainHead3 k (Core.focusProg q2).defs := by
  have h1 : MainHead2 k (Core.uniquifyProg q2).defs := by
    simpa [Core.uniquifyProg] using uniquifyDefs_mainHead h q2.maxId
  simpa [Core.focusProg, Core.focusOnly] using focusDefs_mainHead h1 (Core.uniquifyProg q2).maxId

theorem shrinkContext_intExt {codata : List Core.TypeDecl} {c : Core.Ctx} (h : IntPrd c) :
    IntExt (Core2AxCut.shrinkContext codata c) := by
  intro b hb
  simp only [Core2AxCut.shrinkContext, List.mem_map] at hb
  obtain ⟨a, ha, rfl⟩ := hb
  obtain ⟨h1, h2⟩ := h a ha
  have e1 : (Core.Ty.i64 == Core.Ty.i64) = true := by decide
  have e2 : (Core.PC.prd == Core.PC.cns) = false := by decide
  simp [Core2AxCut.shrinkBinding, h1, h2, e1, e2]

theorem shrinkDefs_mainHead {k : Nat} {data codata : List Core.TypeDecl} {defs : List Core.FsDef}
    {used : List Core.Ident} {m : Nat} {r : List AxCut.Def × List Core.Ident × Nat}
    (h : MainHead3 k defs)
    (hs : Core2AxCut.shrinkDefs data codata defs used m = .ok r) : MainHeadAx k r.1 := by
  obtain ⟨d, ds, rfl, _, h2, h3⟩ := h
  obtain ⟨dd, u1, m1, rest, u2, m2, hd, _, rfl⟩ := Core2AxCut.shrinkDefs_cons_inv hs
  obtain ⟨body, st, _, e⟩ := Core2AxCut.shrinkDef_inv hd
  cases e
  refine ⟨_, _, rfl, ?_, shrinkContext_intExt h3⟩
  simp [Core2AxCut.shrinkContext, h2]

theorem shrinkProg_mainHead {k : Nat} {q3 : Core.FsProg} {q4 : AxCut.Prog} (h : MainHead3 k q3.defs)
    (hs : Core2AxCut.shrinkProg q3 = .ok q4) : MainHeadAx k q4.defs := by
  obtain ⟨defs, u, m, hd, rfl⟩ := Core2AxCut.shrinkProg_inv hs
  exact shrinkDefs_mainHead h hd

theorem linearizeDef_sig {d d' : AxCut.Def} {m m' : Nat}
    (h : AxCut.linearizeDef d m = .ok (d', m')) : d'.name = d.name ∧ d'.ctx = d.ctx := by
  obtain ⟨_, _, rfl⟩ := AxCut.linearizeDef_inv h
  exact ⟨rfl, rfl⟩

theorem linearizeProg_mainHead {k : Nat} {q4 q5 : AxCut.Prog} (h : MainHeadAx k q4.defs)
    (hl : AxCut.linearizeProg q4 = .ok q5) : MainHeadAx k q5.defs := by
  obtain ⟨d, ds, hd, h2, h3⟩ := h
  obtain ⟨defs, m, hdefs, rfl⟩ := AxCut.linearizeProg_inv hl
  rw [hd] at hdefs
  obtain ⟨d', _, r', hd1, _, rfl⟩ := AxCut.linearizeDefs_cons_inv hdefs
  obtain ⟨_, hc⟩ := linearizeDef_sig hd1
  exact ⟨d', _, rfl, by rw [hc]; exact h2, by rw [hc]; exact h3⟩

/-- the entry point of every stage of a successful compilation of a program with a valid `main` -/
theorem stages_mainHead {k : Nat} {p' : Fun.CheckedProgram} {st : Stages} (hv : ValidMainK k p')
    (h : stages p' = .ok st) :
    MainHead2 k st.s2.defs ∧ MainHead3 k st.s3.defs ∧ MainHeadAx k st.s4.defs ∧
      MainHeadAx k st.s5.defs := by
  obtain ⟨h2, h3, h4, h5⟩ := stages_ok_iff.1 h
  have m2 := compileProg_mainHead hv h2
  obtain ⟨_, e3⟩ := focusProgE_ok_iff.1 h3
  have m3 : MainHead3 k st.s3.defs := by rw [e3]; exact focusProg_mainHead m2
  have m4 := shrinkProg_mainHead m3 h4
  exact ⟨m2, m3, m4, linearizeProg_mainHead m4 h5⟩

theorem validMainK_of_validMain {p' : Fun.CheckedProgram} (h : validMain p' = true) :
    ValidMainK (mainArity p') p' := by
  unfold validMain at h
  split at h
  · rename_i d hd
    have hmem : ∀ x, x ∈ p'.defs ∧ (x.name == "main") = true ↔ x = d := by
      intro x
      have : x ∈ mainDefs p' ↔ x ∈ p'.defs ∧ (x.name == "main") = true := by
        unfold mainDefs; exact List.mem_filter
      rw [← this, hd]; simp
    have hdm := (hmem d).2 rfl
    refine ⟨List.any_eq_true.2 ⟨d, hdm.1, hdm.2⟩, ?_⟩
    intro x hx hn
    have : x = d := (hmem x).1 ⟨hx, by simpa using hn⟩
    subst this
    simp [mainArity, hd, h]
  · simp at h

end Scc.Pipeline
