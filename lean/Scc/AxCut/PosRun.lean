/-
  Scc.AxCut.PosRun — the trace and the states of a run of the positional machine.  The property statements refer to
  them as `Scc.Props.C06Generic.outAfter` and `Scc.Props.C06Generic.statesOf`, hence the namespace; they stand here,
  below the statement file Scc/Props/C06Generic.lean, so that Scc/Backend/Track.lean can speak of runs without it.
-/
import Scc.AxCut.SemPos
import Scc.Backend.AbstractMachine

namespace Scc.Props.C06Generic

open Scc Scc.AxCut Scc.AxCut.Pos Scc.Backend Scc.Backend.Abs

/-- the trace grows by the optional output of the step (the machine keeps it most recent first) -/
def outAfter (o : Option (Bool × Word)) (out : List (Bool × Word)) : List (Bool × Word) :=
  match o with
  | some x => x :: out
  | none => out

/-- the states of a run, as long as the machine steps (at most `fuel` of them) -/
def statesOf (prog : Prog) : Nat → Pos.State → List Pos.State
  | 0, st => [st]
  | fuel + 1, st =>
    match Pos.step prog st with
    | .next st' _ => st :: statesOf prog fuel st'
    | _ => [st]

end Scc.Props.C06Generic
