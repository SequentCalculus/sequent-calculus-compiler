/-
  Scc.AxCut.LinTyping — SPEC: the ordered, linear typing discipline of LINEARIZED AxCut programs
  (DESIGN.md §4 "Ordered-linear typing", properties C05 and C12), a decidable checker and its
  soundness proof.

  `LinTyped types sigs Γ s`: under the ordered context `Γ` (the environment the backends keep in
  registers/spill slots, position by position) statement `s` finds exactly the list it expects:
    call      Γ      = the callee's parameters            (kinds and types, position by position)
    invoke    Γ      = arguments ++ [closure]             (arguments: the method's signature)
    let       Γ      = Γ' ++ arguments                     continue with Γ' ++ [x : prd T]
    switch    Γ      = Γ' ++ [scrutinee]                   clause K under Γ' ++ Δ_K
    create    Γ      = Γ_next ++ Γ_closure                 clause K under Δ_K ++ Γ_closure,
                                                           continue with Γ_next ++ [x : cns T]
    lit / op  operands present; continue with Γ ++ [x : ext i64]      (operands are NOT consumed)
    print     operand present;  continue with Γ                       (operand is NOT consumed)
    ifc       operands present; both branches under Γ
    exit      operand present
    subst [(new_i, old_i)]  every old_i ∈ Γ with the kind and type of new_i, the new_i pairwise
              distinct; continue with [new_i]   — the ONLY place where values are duplicated,
              dropped or reordered.
  Every context is duplicate-free (ids).  Variables are identified by their id (names are only for
  printing: the code generators look variables up by id).  "Agree" means: same id, same kind
  (`Chi`), same type.
  Core imports only.
-/
import Scc.AxCut.Linearize

namespace Scc.AxCut

/-- what identifies a binding: id, kind, type (the name is for printing only) -/
def Binding.key (b : Binding) : Nat × Chi × Ty := (b.var.id, b.chi, b.ty)

def Ctx.keys (Γ : Ctx) : List (Nat × Chi × Ty) := Γ.map Binding.key

/-- kinds and types, position by position -/
def Ctx.chiTys (Γ : Ctx) : List (Chi × Ty) := Γ.map fun b => (b.chi, b.ty)

def NodupIds (Γ : Ctx) : Prop := Γ.ids.Nodup

def HasVar (Γ : Ctx) (x : Nat) (chi : Chi) (ty : Ty) : Prop :=
  ∃ b ∈ Γ, b.var.id = x ∧ b.chi = chi ∧ b.ty = ty

instance (Γ : Ctx) : Decidable (NodupIds Γ) := by unfold NodupIds; infer_instance
instance (Γ : Ctx) (x : Nat) (chi : Chi) (ty : Ty) : Decidable (HasVar Γ x chi ty) := by
  unfold HasVar; infer_instance

/-- signature (field / parameter list) of xtor `tag` of type `ty` -/
def lookupXtor (types : List TypeDecl) (ty : Ty) (tag : Ident) : Option Ctx :=
  match lookupTypeDecl types ty with
  | none => none
  | some d =>
    match d.xtors.find? (fun x => x.name == tag) with
    | none => none
    | some x => some x.args

/-- labels with their parameter lists -/
abbrev Sigs := List (Ident × Ctx)

def findSig (sigs : Sigs) (l : Ident) : Option Ctx :=
  match sigs.find? (fun s => s.1 == l) with
  | none => none
  | some s => some s.2

def Prog.sigs (p : Prog) : Sigs := p.defs.map fun d => (d.name, d.ctx)

/-- the clauses are exactly the xtors of the declaration, in declaration order (the order of the
jump table), each binding variables of the declared kinds and types -/
def ClausesMatch : List XtorSig → Clauses → Prop
  | [], .nil => True
  | x :: xs, .cons n ctx _ rest => x.name = n ∧ x.args.chiTys = ctx.chiTys ∧ ClausesMatch xs rest
  | _, _ => False

instance decClausesMatch : (xs : List XtorSig) → (cs : Clauses) → Decidable (ClausesMatch xs cs)
  | [], .nil => isTrue trivial
  | [], .cons _ _ _ _ => isFalse (by simp [ClausesMatch])
  | _ :: _, .nil => isFalse (by simp [ClausesMatch])
  | x :: xs, .cons n ctx _ rest =>
    have := decClausesMatch xs rest
    by unfold ClausesMatch; infer_instance

mutual
  /-- the ordered-linear typing judgement, one rule per statement form -/
  inductive LinTyped (T : List TypeDecl) (S : Sigs) : Ctx → Stmt → Prop where
    | subst {Γ : Ctx} {pairs : List (Binding × Ident)} {next : Stmt} :
        NodupIds Γ →
        (∀ p ∈ pairs, HasVar Γ p.2.id p.1.chi p.1.ty) →
        NodupIds (pairs.map (·.1)) →
        LinTyped T S (pairs.map (·.1)) next →
        LinTyped T S Γ (.subst pairs next)
    | call {Γ : Ctx} {l : Ident} {args params : Ctx} :
        NodupIds Γ →
        findSig S l = some params →
        Γ.chiTys = params.chiTys →
        LinTyped T S Γ (.call l args)
    | letS {Γ Γ' Γa : Ctx} {x : Ident} {ty : Ty} {tag : Ident} {args sig : Ctx} {next : Stmt}
        {fv : FV} :
        NodupIds Γ →
        Γ = Γ' ++ Γa →
        Γa.keys = args.keys →
        lookupXtor T ty tag = some sig →
        args.chiTys = sig.chiTys →
        x.id ∉ Γ'.ids →
        LinTyped T S (Γ' ++ [⟨x, .prd, ty⟩]) next →
        LinTyped T S Γ (.letS x ty tag args next fv)
    | switch {Γ Γ' : Ctx} {b : Binding} {x : Ident} {ty : Ty} {cs : Clauses} {fv : FV}
        {d : TypeDecl} :
        NodupIds Γ →
        Γ = Γ' ++ [b] →
        b.key = (x.id, .prd, ty) →
        lookupTypeDecl T ty = some d →
        ClausesMatch d.xtors cs →
        LinTypedClauses T S Γ' [] cs →
        LinTyped T S Γ (.switch x ty cs fv)
    | create {Γ Γn Γe Γc : Ctx} {x : Ident} {ty : Ty} {cs : Clauses} {next : Stmt} {fc fn : FV}
        {d : TypeDecl} :
        NodupIds Γ →
        Γ = Γn ++ Γe →
        Γe.keys = Γc.keys →
        lookupTypeDecl T ty = some d →
        ClausesMatch d.xtors cs →
        LinTypedClauses T S [] Γc cs →
        x.id ∉ Γn.ids →
        LinTyped T S (Γn ++ [⟨x, .cns, ty⟩]) next →
        LinTyped T S Γ (.create x ty (some Γc) cs next fc fn)
    | invoke {Γ Γa : Ctx} {b : Binding} {x : Ident} {tag : Ident} {ty : Ty} {args sig : Ctx} :
        NodupIds Γ →
        Γ = Γa ++ [b] →
        b.key = (x.id, .cns, ty) →
        lookupXtor T ty tag = some sig →
        Γa.chiTys = sig.chiTys →
        LinTyped T S Γ (.invoke x tag ty args)
    | lit {Γ : Ctx} {x : Ident} {n : Int} {next : Stmt} {fv : FV} :
        NodupIds Γ →
        x.id ∉ Γ.ids →
        LinTyped T S (Γ ++ [⟨x, .ext, .i64⟩]) next →
        LinTyped T S Γ (.lit x n next fv)
    | op {Γ : Ctx} {x a : Ident} {o : BinOp} {b : Ident} {next : Stmt} {fv : FV} :
        NodupIds Γ →
        HasVar Γ a.id .ext .i64 →
        HasVar Γ b.id .ext .i64 →
        x.id ∉ Γ.ids →
        LinTyped T S (Γ ++ [⟨x, .ext, .i64⟩]) next →
        LinTyped T S Γ (.op x a o b next fv)
    | print {Γ : Ctx} {nl : Bool} {a : Ident} {next : Stmt} {fv : FV} :
        NodupIds Γ →
        HasVar Γ a.id .ext .i64 →
        LinTyped T S Γ next →
        LinTyped T S Γ (.print nl a next fv)
    | ifc {Γ : Ctx} {s : IfSort} {a : Ident} {b : Option Ident} {t e : Stmt} :
        NodupIds Γ →
        HasVar Γ a.id .ext .i64 →
        (∀ b', b = some b' → HasVar Γ b'.id .ext .i64) →
        LinTyped T S Γ t →
        LinTyped T S Γ e →
        LinTyped T S Γ (.ifc s a b t e)
    | exit {Γ : Ctx} {x : Ident} :
        NodupIds Γ →
        HasVar Γ x.id .ext .i64 →
        LinTyped T S Γ (.exit x)
  /-- every clause body is typed under `pre ++ (variables bound by the clause) ++ post` -/
  inductive LinTypedClauses (T : List TypeDecl) (S : Sigs) : Ctx → Ctx → Clauses → Prop where
    | nil {pre post : Ctx} : LinTypedClauses T S pre post .nil
    | cons {pre post : Ctx} {x : Ident} {ctx : Ctx} {body : Stmt} {rest : Clauses} :
        LinTyped T S (pre ++ ctx ++ post) body →
        LinTypedClauses T S pre post rest →
        LinTypedClauses T S pre post (.cons x ctx body rest)
end

/-- every definition body is ordered-linearly typed under the definition's parameter list -/
def LinTypedProg (p : Prog) : Prop :=
  ∀ d ∈ p.defs, LinTyped p.types p.sigs d.ctx d.body

/-- duplicate-freeness of the context is part of every rule -/
theorem LinTyped.nodup {T S Γ s} (h : LinTyped T S Γ s) : NodupIds Γ := by
  cases h <;> assumption

def errAt (what why : String) : Except String Unit := .error ("LinTyped: " ++ what ++ ": " ++ why)

mutual
  /-- a sound checker for `LinTyped` (`linTypedCheck_sound`); the error names the statement and the violated premise -/
  def linTypedCheckStmt (T : List TypeDecl) (S : Sigs) : Ctx → Stmt → Except String Unit
    | Γ, .subst pairs next =>
      if ¬ NodupIds Γ then errAt "subst" "context has duplicates"
      else if ¬ (∀ p ∈ pairs, HasVar Γ p.2.id p.1.chi p.1.ty) then
        errAt "subst" "an old variable is not in the context with the kind and type of the new binding"
      else if ¬ NodupIds (pairs.map (·.1)) then errAt "subst" "new variables not pairwise distinct"
      else linTypedCheckStmt T S (pairs.map (·.1)) next
    | Γ, .call l _ =>
      if ¬ NodupIds Γ then errAt ("call " ++ l.print) "context has duplicates"
      else match findSig S l with
        | none => errAt ("call " ++ l.print) "unknown label"
        | some params =>
          if Γ.chiTys = params.chiTys then .ok ()
          else errAt ("call " ++ l.print) "context is not the callee's parameter list"
    | Γ, .letS x ty tag args next _ =>
      if ¬ NodupIds Γ then errAt ("let " ++ x.print) "context has duplicates"
      else
        let n := Γ.length - args.length
        if Ctx.keys (Γ.drop n) ≠ args.keys then
          errAt ("let " ++ x.print) "arguments are not the suffix of the context"
        else match lookupXtor T ty tag with
          | none => errAt ("let " ++ x.print) "unknown type or xtor"
          | some sig =>
            if args.chiTys ≠ sig.chiTys then
              errAt ("let " ++ x.print) "arguments do not match the xtor signature"
            else if x.id ∈ Ctx.ids (Γ.take n) then errAt ("let " ++ x.print) "bound variable already in context"
            else linTypedCheckStmt T S (Γ.take n ++ [⟨x, .prd, ty⟩]) next
    | Γ, .switch x ty cs _ =>
      if ¬ NodupIds Γ then errAt ("switch " ++ x.print) "context has duplicates"
      else match Γ.getLast? with
        | none => errAt ("switch " ++ x.print) "empty context"
        | some b =>
          if b.key ≠ (x.id, .prd, ty) then
            errAt ("switch " ++ x.print) "scrutinee is not the last variable of the context"
          else match lookupTypeDecl T ty with
            | none => errAt ("switch " ++ x.print) "unknown type"
            | some d =>
              if ¬ ClausesMatch d.xtors cs then
                errAt ("switch " ++ x.print) "clauses do not match the declaration"
              else linTypedCheckClauses T S Γ.dropLast [] cs
    | Γ, .create x ty env cs next _ _ =>
      if ¬ NodupIds Γ then errAt ("create " ++ x.print) "context has duplicates"
      else match env with
        | none => errAt ("create " ++ x.print) "closure environment not annotated"
        | some Γc =>
          let n := Γ.length - Γc.length
          if Ctx.keys (Γ.drop n) ≠ Γc.keys then
            errAt ("create " ++ x.print) "closure environment is not the suffix of the context"
          else match lookupTypeDecl T ty with
            | none => errAt ("create " ++ x.print) "unknown type"
            | some d =>
              if ¬ ClausesMatch d.xtors cs then
                errAt ("create " ++ x.print) "clauses do not match the declaration"
              else match linTypedCheckClauses T S [] Γc cs with
                | .error e => .error e
                | .ok () =>
                  if x.id ∈ Ctx.ids (Γ.take n) then
                    errAt ("create " ++ x.print) "bound variable already in context"
                  else linTypedCheckStmt T S (Γ.take n ++ [⟨x, .cns, ty⟩]) next
    | Γ, .invoke x tag ty _ =>
      if ¬ NodupIds Γ then errAt ("invoke " ++ x.print) "context has duplicates"
      else match Γ.getLast? with
        | none => errAt ("invoke " ++ x.print) "empty context"
        | some b =>
          if b.key ≠ (x.id, .cns, ty) then
            errAt ("invoke " ++ x.print) "closure is not the last variable of the context"
          else match lookupXtor T ty tag with
            | none => errAt ("invoke " ++ x.print) "unknown type or xtor"
            | some sig =>
              if Ctx.chiTys Γ.dropLast = sig.chiTys then .ok ()
              else errAt ("invoke " ++ x.print) "context is not arguments ++ [closure]"
    | Γ, .lit x _ next _ =>
      if ¬ NodupIds Γ then errAt ("lit " ++ x.print) "context has duplicates"
      else if x.id ∈ Γ.ids then errAt ("lit " ++ x.print) "bound variable already in context"
      else linTypedCheckStmt T S (Γ ++ [⟨x, .ext, .i64⟩]) next
    | Γ, .op x a _ b next _ =>
      if ¬ NodupIds Γ then errAt ("op " ++ x.print) "context has duplicates"
      else if ¬ HasVar Γ a.id .ext .i64 then errAt ("op " ++ x.print) "first operand not in context"
      else if ¬ HasVar Γ b.id .ext .i64 then errAt ("op " ++ x.print) "second operand not in context"
      else if x.id ∈ Γ.ids then errAt ("op " ++ x.print) "bound variable already in context"
      else linTypedCheckStmt T S (Γ ++ [⟨x, .ext, .i64⟩]) next
    | Γ, .print _ a next _ =>
      if ¬ NodupIds Γ then errAt ("print " ++ a.print) "context has duplicates"
      else if ¬ HasVar Γ a.id .ext .i64 then errAt ("print " ++ a.print) "operand not in context"
      else linTypedCheckStmt T S Γ next
    | Γ, .ifc _ a b t e =>
      if ¬ NodupIds Γ then errAt ("ifc " ++ a.print) "context has duplicates"
      else if ¬ HasVar Γ a.id .ext .i64 then errAt ("ifc " ++ a.print) "first operand not in context"
      else if ¬ (∀ b', b = some b' → HasVar Γ b'.id .ext .i64) then
        errAt ("ifc " ++ a.print) "second operand not in context"
      else match linTypedCheckStmt T S Γ t with
        | .error err => .error err
        | .ok () => linTypedCheckStmt T S Γ e
    | Γ, .exit x =>
      if ¬ NodupIds Γ then errAt ("exit " ++ x.print) "context has duplicates"
      else if ¬ HasVar Γ x.id .ext .i64 then errAt ("exit " ++ x.print) "operand not in context"
      else .ok ()
  def linTypedCheckClauses (T : List TypeDecl) (S : Sigs) : Ctx → Ctx → Clauses → Except String Unit
    | _, _, .nil => .ok ()
    | pre, post, .cons _ ctx body rest =>
      match linTypedCheckStmt T S (pre ++ ctx ++ post) body with
      | .error e => .error e
      | .ok () => linTypedCheckClauses T S pre post rest
end

def linTypedCheckDefs (T : List TypeDecl) (S : Sigs) : List Def → Except String Unit
  | [] => .ok ()
  | d :: ds =>
    match linTypedCheckStmt T S d.ctx d.body with
    | .error e => .error ("def " ++ d.name.print ++ ": " ++ e)
    | .ok () => linTypedCheckDefs T S ds

def linTypedCheck (p : Prog) : Except String Unit := linTypedCheckDefs p.types p.sigs p.defs

theorem getLast?_eq_some_append {α} {l : List α} {b : α} (h : l.getLast? = some b) :
    l = l.dropLast ++ [b] := by
  have hne : l ≠ [] := by intro h0; simp [h0] at h
  have := List.dropLast_concat_getLast hne
  rw [List.getLast?_eq_some_getLast hne] at h
  injection h with h
  rw [← h]; exact this.symm

/-- a guard of the checker that did not fail -/
theorem errAt_guard {c : Prop} [Decidable c] {what why : String} {x : Except String Unit}
    (h : (if c then errAt what why else x) = .ok ()) : ¬ c ∧ x = .ok () := by
  by_cases hc : c
  · rw [if_pos hc] at h; cases h
  · rw [if_neg hc] at h; exact ⟨hc, h⟩

/-- a final test of the checker that succeeded -/
theorem errAt_test {c : Prop} [Decidable c] {what why : String}
    (h : (if c then .ok () else errAt what why) = .ok ()) : c := by
  by_cases hc : c
  · exact hc
  · rw [if_neg hc] at h; cases h

mutual
  theorem linTypedCheckStmt_sound (T : List TypeDecl) (S : Sigs) :
      ∀ (s : Stmt) (Γ : Ctx), linTypedCheckStmt T S Γ s = .ok () → LinTyped T S Γ s
    | .subst pairs next, Γ, h => by
      simp only [linTypedCheckStmt] at h
      obtain ⟨h1, h⟩ := errAt_guard h
      obtain ⟨h2, h⟩ := errAt_guard h
      obtain ⟨h3, h⟩ := errAt_guard h
      exact .subst (Decidable.of_not_not h1) (Decidable.of_not_not h2) (Decidable.of_not_not h3)
        (linTypedCheckStmt_sound T S next _ h)
    | .call l args, Γ, h => by
      simp only [linTypedCheckStmt] at h
      obtain ⟨h1, h⟩ := errAt_guard h
      cases hp : findSig S l with
      | none => rw [hp] at h; cases h
      | some params =>
        rw [hp] at h
        exact .call (Decidable.of_not_not h1) hp (errAt_test h)
    | .letS x ty tag args next fv, Γ, h => by
      simp only [linTypedCheckStmt] at h
      obtain ⟨h1, h⟩ := errAt_guard h
      obtain ⟨h2, h⟩ := errAt_guard h
      cases hs : lookupXtor T ty tag with
      | none => rw [hs] at h; cases h
      | some sig =>
        rw [hs] at h
        obtain ⟨h3, h⟩ := errAt_guard h
        obtain ⟨h4, h⟩ := errAt_guard h
        exact .letS (Γ' := Γ.take (Γ.length - args.length)) (Γa := Γ.drop (Γ.length - args.length))
          (Decidable.of_not_not h1) (List.take_append_drop _ _).symm
          (Decidable.of_not_not h2) hs (Decidable.of_not_not h3) h4
          (linTypedCheckStmt_sound T S next _ h)
    | .switch x ty cs fv, Γ, h => by
      simp only [linTypedCheckStmt] at h
      obtain ⟨h1, h⟩ := errAt_guard h
      cases hb : Γ.getLast? with
      | none => rw [hb] at h; cases h
      | some b =>
        rw [hb] at h
        obtain ⟨h2, h⟩ := errAt_guard h
        cases hd : lookupTypeDecl T ty with
        | none => rw [hd] at h; cases h
        | some d =>
          rw [hd] at h
          obtain ⟨h3, h⟩ := errAt_guard h
          exact .switch (Decidable.of_not_not h1) (getLast?_eq_some_append hb)
            (Decidable.of_not_not h2) hd (Decidable.of_not_not h3)
            (linTypedCheckClauses_sound T S cs _ _ h)
    | .create x ty env cs next fc fn, Γ, h => by
      simp only [linTypedCheckStmt] at h
      obtain ⟨h1, h⟩ := errAt_guard h
      cases env with
      | none => cases h
      | some Γc =>
        obtain ⟨h2, h⟩ := errAt_guard h
        cases hd : lookupTypeDecl T ty with
        | none => rw [hd] at h; cases h
        | some d =>
          rw [hd] at h
          obtain ⟨h3, h⟩ := errAt_guard h
          cases hc : linTypedCheckClauses T S [] Γc cs with
          | error e => rw [hc] at h; cases h
          | ok u =>
            rw [hc] at h
            obtain ⟨h4, h⟩ := errAt_guard h
            exact .create (Γn := Γ.take (Γ.length - Γc.length)) (Γe := Γ.drop (Γ.length - Γc.length))
              (Decidable.of_not_not h1) (List.take_append_drop _ _).symm
              (Decidable.of_not_not h2) hd (Decidable.of_not_not h3)
              (linTypedCheckClauses_sound T S cs _ _ hc) h4
              (linTypedCheckStmt_sound T S next _ h)
    | .invoke x tag ty args, Γ, h => by
      simp only [linTypedCheckStmt] at h
      obtain ⟨h1, h⟩ := errAt_guard h
      cases hb : Γ.getLast? with
      | none => rw [hb] at h; cases h
      | some b =>
        rw [hb] at h
        obtain ⟨h2, h⟩ := errAt_guard h
        cases hs : lookupXtor T ty tag with
        | none => rw [hs] at h; cases h
        | some sig =>
          rw [hs] at h
          exact .invoke (Decidable.of_not_not h1) (getLast?_eq_some_append hb)
            (Decidable.of_not_not h2) hs (errAt_test h)
    | .lit x n next fv, Γ, h => by
      simp only [linTypedCheckStmt] at h
      obtain ⟨h1, h⟩ := errAt_guard h
      obtain ⟨h2, h⟩ := errAt_guard h
      exact .lit (Decidable.of_not_not h1) h2 (linTypedCheckStmt_sound T S next _ h)
    | .op x a o b next fv, Γ, h => by
      simp only [linTypedCheckStmt] at h
      obtain ⟨h1, h⟩ := errAt_guard h
      obtain ⟨h2, h⟩ := errAt_guard h
      obtain ⟨h3, h⟩ := errAt_guard h
      obtain ⟨h4, h⟩ := errAt_guard h
      exact .op (Decidable.of_not_not h1) (Decidable.of_not_not h2) (Decidable.of_not_not h3) h4
        (linTypedCheckStmt_sound T S next _ h)
    | .print nl a next fv, Γ, h => by
      simp only [linTypedCheckStmt] at h
      obtain ⟨h1, h⟩ := errAt_guard h
      obtain ⟨h2, h⟩ := errAt_guard h
      exact .print (Decidable.of_not_not h1) (Decidable.of_not_not h2)
        (linTypedCheckStmt_sound T S next _ h)
    | .ifc s a b t e, Γ, h => by
      simp only [linTypedCheckStmt] at h
      obtain ⟨h1, h⟩ := errAt_guard h
      obtain ⟨h2, h⟩ := errAt_guard h
      obtain ⟨h3, h⟩ := errAt_guard h
      cases ht : linTypedCheckStmt T S Γ t with
      | error err => rw [ht] at h; cases h
      | ok u =>
        rw [ht] at h
        exact .ifc (Decidable.of_not_not h1) (Decidable.of_not_not h2) (Decidable.of_not_not h3)
          (linTypedCheckStmt_sound T S t _ ht) (linTypedCheckStmt_sound T S e _ h)
    | .exit x, Γ, h => by
      simp only [linTypedCheckStmt] at h
      obtain ⟨h1, h⟩ := errAt_guard h
      obtain ⟨h2, h⟩ := errAt_guard h
      exact .exit (Decidable.of_not_not h1) (Decidable.of_not_not h2)
  theorem linTypedCheckClauses_sound (T : List TypeDecl) (S : Sigs) :
      ∀ (cs : Clauses) (pre post : Ctx), linTypedCheckClauses T S pre post cs = .ok () →
        LinTypedClauses T S pre post cs
    | .nil, _, _, _ => .nil
    | .cons x ctx body rest, pre, post, h => by
      simp only [linTypedCheckClauses] at h
      cases hb : linTypedCheckStmt T S (pre ++ ctx ++ post) body with
      | error e => rw [hb] at h; cases h
      | ok u =>
        rw [hb] at h
        exact .cons (linTypedCheckStmt_sound T S body _ hb)
          (linTypedCheckClauses_sound T S rest pre post h)
end

theorem linTypedCheckDefs_sound (T : List TypeDecl) (S : Sigs) :
    ∀ ds : List Def, linTypedCheckDefs T S ds = .ok () → ∀ d ∈ ds, LinTyped T S d.ctx d.body
  | [], _, d, hd => by cases hd
  | d0 :: ds, h, d, hd => by
    simp only [linTypedCheckDefs] at h
    split at h
    · cases h
    · rename_i h0
      cases hd with
      | head => exact linTypedCheckStmt_sound T S _ _ h0
      | tail _ hd' => exact linTypedCheckDefs_sound T S ds h d hd'

theorem linTypedCheck_sound (p : Prog) : linTypedCheck p = .ok () → LinTypedProg p :=
  fun h d hd => linTypedCheckDefs_sound p.types p.sigs p.defs h d hd

end Scc.AxCut
