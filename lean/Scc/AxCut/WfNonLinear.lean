/-
  Scc.AxCut.WfNonLinear — SPEC: the decidable precondition of C05: well-scoped, well-typed
  NON-LINEAR AxCut (dump S4) with unique binders and without explicit substitutions.

  `WT types sigs M s Γ` — statement `s` is well-typed under the (unordered, named) context `Γ`:
    * every variable occurrence is in Γ with the kind and type the statement needs
      (variables are identified by their id; they may be used any number of times);
    * arguments of `let` / `invoke` / `call` match the signature of the xtor / label
      (length, kinds, types);  `switch` and `create` have exactly the clauses of the declaration
      of the type, in declaration order, binding variables of the declared kinds and types;
    * every binder (let / create / lit / op variable, clause parameters) has an id that is not yet
      in scope (no shadowing; "all variable bindings in each path through a program are unique",
      axcut/src/traits/mod.rs) and is `≤ M` (the program's `max_id`);
    * there is no `subst`.
  `WfNonLinear p` — all definitions are `WT` under their duplicate-free parameter lists.
  Core imports only; decidable (`wfNonLinearCheck`).
-/
import Scc.AxCut.LinTyping

namespace Scc.AxCut

def ArgsIn (Γ : Ctx) (args : Ctx) : Prop := ∀ a ∈ args, HasVar Γ a.var.id a.chi a.ty

instance (Γ args : Ctx) : Decidable (ArgsIn Γ args) := by unfold ArgsIn; infer_instance

/-- a binder: not in scope yet, and below the id bound -/
def FreshBinder (M : Nat) (Γ : Ctx) (x : Nat) : Prop := x ∉ Γ.ids ∧ x ≤ M

instance (M : Nat) (Γ : Ctx) (x : Nat) : Decidable (FreshBinder M Γ x) := by
  unfold FreshBinder; infer_instance

instance decExistsSome {α} (o : Option α) (P : α → Prop) [∀ a, Decidable (P a)] :
    Decidable (∃ a, o = some a ∧ P a) :=
  match o with
  | none => isFalse (by simp)
  | some a => decidable_of_iff (P a) (by simp)

mutual
  def WT (T : List TypeDecl) (S : Sigs) (M : Nat) : Stmt → Ctx → Prop
    | .subst _ _, _ => False
    | .call l args, Γ =>
      ∃ params, findSig S l = some params ∧ (args.chiTys = params.chiTys ∧ ArgsIn Γ args)
    | .letS x ty tag args next _, Γ =>
      (∃ sig, lookupXtor T ty tag = some sig ∧ args.chiTys = sig.chiTys) ∧ ArgsIn Γ args ∧
        FreshBinder M Γ x.id ∧ WT T S M next (Γ ++ [⟨x, .prd, ty⟩])
    | .switch x ty cs _, Γ =>
      HasVar Γ x.id .prd ty ∧
        (∃ d, lookupTypeDecl T ty = some d ∧ ClausesMatch d.xtors cs) ∧ WTClauses T S M cs Γ
    | .create x ty _ cs next _ _, Γ =>
      (∃ d, lookupTypeDecl T ty = some d ∧ ClausesMatch d.xtors cs) ∧ WTClauses T S M cs Γ ∧
        FreshBinder M Γ x.id ∧ WT T S M next (Γ ++ [⟨x, .cns, ty⟩])
    | .invoke x tag ty args, Γ =>
      HasVar Γ x.id .cns ty ∧
        (∃ sig, lookupXtor T ty tag = some sig ∧ args.chiTys = sig.chiTys) ∧ ArgsIn Γ args
    | .lit x _ next _, Γ => FreshBinder M Γ x.id ∧ WT T S M next (Γ ++ [⟨x, .ext, .i64⟩])
    | .op x a _ b next _, Γ =>
      HasVar Γ a.id .ext .i64 ∧ HasVar Γ b.id .ext .i64 ∧ FreshBinder M Γ x.id ∧
        WT T S M next (Γ ++ [⟨x, .ext, .i64⟩])
    | .print _ a next _, Γ => HasVar Γ a.id .ext .i64 ∧ WT T S M next Γ
    | .ifc _ a b t e, Γ =>
      HasVar Γ a.id .ext .i64 ∧ (∀ b', b = some b' → HasVar Γ b'.id .ext .i64) ∧
        WT T S M t Γ ∧ WT T S M e Γ
    | .exit x, Γ => HasVar Γ x.id .ext .i64
  /-- clause bodies are typed under Γ extended by the (fresh, pairwise distinct) clause parameters -/
  def WTClauses (T : List TypeDecl) (S : Sigs) (M : Nat) : Clauses → Ctx → Prop
    | .nil, _ => True
    | .cons _ ctx body rest, Γ =>
      NodupIds ctx ∧ (∀ i ∈ ctx.ids, FreshBinder M Γ i) ∧ WT T S M body (Γ ++ ctx) ∧
        WTClauses T S M rest Γ
end

instance decOptIdent (Γ : Ctx) (b : Option Ident) :
    Decidable (∀ b', b = some b' → HasVar Γ b'.id .ext .i64) :=
  match b with
  | none => isTrue (by simp)
  | some b' => decidable_of_iff (HasVar Γ b'.id .ext .i64) (by simp)

mutual
  def decWT (T : List TypeDecl) (S : Sigs) (M : Nat) : (s : Stmt) → (Γ : Ctx) → Decidable (WT T S M s Γ)
    | .subst _ _, _ => by unfold WT; infer_instance
    | .call _ _, _ => by unfold WT; infer_instance
    | .letS x ty _ _ next _, Γ =>
      have := decWT T S M next (Γ ++ [⟨x, .prd, ty⟩])
      by unfold WT; infer_instance
    | .switch _ _ cs _, Γ =>
      have := decWTClauses T S M cs Γ
      by unfold WT; infer_instance
    | .create x ty _ cs next _ _, Γ =>
      have := decWTClauses T S M cs Γ
      have := decWT T S M next (Γ ++ [⟨x, .cns, ty⟩])
      by unfold WT; infer_instance
    | .invoke _ _ _ _, _ => by unfold WT; infer_instance
    | .lit x _ next _, Γ =>
      have := decWT T S M next (Γ ++ [⟨x, .ext, .i64⟩])
      by unfold WT; infer_instance
    | .op x _ _ _ next _, Γ =>
      have := decWT T S M next (Γ ++ [⟨x, .ext, .i64⟩])
      by unfold WT; infer_instance
    | .print _ _ next _, Γ =>
      have := decWT T S M next Γ
      by unfold WT; infer_instance
    | .ifc _ _ _ t e, Γ =>
      have := decWT T S M t Γ
      have := decWT T S M e Γ
      by unfold WT; infer_instance
    | .exit _, _ => by unfold WT; infer_instance
  def decWTClauses (T : List TypeDecl) (S : Sigs) (M : Nat) :
      (cs : Clauses) → (Γ : Ctx) → Decidable (WTClauses T S M cs Γ)
    | .nil, _ => by unfold WTClauses; infer_instance
    | .cons _ ctx body rest, Γ =>
      have := decWT T S M body (Γ ++ ctx)
      have := decWTClauses T S M rest Γ
      by unfold WTClauses; infer_instance
end

instance (T : List TypeDecl) (S : Sigs) (M : Nat) (s : Stmt) (Γ : Ctx) : Decidable (WT T S M s Γ) :=
  decWT T S M s Γ

/-- the precondition of C05 -/
def WfNonLinear (p : Prog) : Prop :=
  ∀ d ∈ p.defs, NodupIds d.ctx ∧ (∀ i ∈ d.ctx.ids, i ≤ p.maxId) ∧ WT p.types p.sigs p.maxId d.body d.ctx

instance (p : Prog) : Decidable (WfNonLinear p) := by unfold WfNonLinear; infer_instance

def wfNonLinearCheck (p : Prog) : Bool := decide (WfNonLinear p)

theorem wfNonLinearCheck_iff (p : Prog) : wfNonLinearCheck p = true ↔ WfNonLinear p := by
  simp [wfNonLinearCheck]

end Scc.AxCut
