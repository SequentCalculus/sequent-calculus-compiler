/-
  Scc.AxCut.PosProgress — PROGRESS OF THE POSITIONAL MACHINE ALONE (in the namespace `Scc.X86.Conc`: the property
  statements of all backends refer to `stmtSize` and `progMaxSize` under these full names):
  every step that is not a `call` or an `invoke` moves to a strictly smaller statement (`size_step`), and the
  statement a `call` or an `invoke` continues with is a definition body or a clause of a closure VALUE, of size at
  most `M` (the largest definition body) because every closure inside the values of the environment was made by a
  `create` of the program text: the hereditary predicate `stmtSize · ≤ M` / `clausesSize · ≤ M` (`hered_size`,
  `K.hered_step`).  So a run that is still going after `N·(M + 1) + |stmt|` steps has executed at least `N` calls and
  invokes (`weight_ge`) — and a machine that tracks the run (Scc/Backend/Track.lean) has made `N` transitions.
-/
import Scc.AxCut.PosHered
import Scc.AxCut.PosStep
import Scc.Backend.Track

namespace Scc.X86.Conc

open Scc.AxCut Scc.AxCut.Pos Scc.Backend.Abs Scc.X86.Ref
open Scc.Backend.Track (weight)

mutual
  /-- the size of a statement: the number of statements it contains -/
  def stmtSize : Stmt → Nat
    | .lit _ _ next _ => stmtSize next + 1
    | .op _ _ _ _ next _ => stmtSize next + 1
    | .print _ _ next _ => stmtSize next + 1
    | .ifc _ _ _ t e => stmtSize t + stmtSize e + 1
    | .exit _ => 1
    | .call _ _ => 1
    | .subst _ next => stmtSize next + 1
    | .letS _ _ _ _ next _ => stmtSize next + 1
    | .switch _ _ clauses _ => clausesSize clauses + 1
    | .create _ _ _ clauses next _ _ => clausesSize clauses + stmtSize next + 1
    | .invoke _ _ _ _ => 1
  def clausesSize : Clauses → Nat
    | .nil => 0
    | .cons _ _ body rest => stmtSize body + clausesSize rest + 1
end

theorem stmtSize_pos (s : Stmt) : 1 ≤ stmtSize s := by
  cases s <;> simp only [stmtSize] <;> omega

theorem clausesSize_nth : ∀ {cs : Clauses} {i : Nat} {c : Clause}, nthClause cs i = some c →
    stmtSize c.body < clausesSize cs + 1
  | .nil, _, _, h => by simp [nthClause] at h
  | .cons x ctx body rest, 0, c, h => by
    simp only [nthClause, Option.some.injEq] at h
    subst h
    simp only [clausesSize]
    omega
  | .cons x ctx body rest, i + 1, c, h => by
    simp only [nthClause] at h
    have := clausesSize_nth h
    simp only [clausesSize]
    omega

def progMaxSize (p : AxCut.Prog) : Nat := (p.defs.map fun d => stmtSize d.body).foldr max 0

theorem stmtSize_le_progMaxSize (p : AxCut.Prog) : ∀ d ∈ p.defs, stmtSize d.body ≤ progMaxSize p :=
  fun d hd => le_foldr_max _ _ (List.mem_map.2 ⟨d, hd, rfl⟩)

/-- the size bound passes to sub-statements and to the clauses of a `switch` / `create` -/
theorem hered_size (M : Nat) : K.Hered (fun s => stmtSize s ≤ M) (fun cl => clausesSize cl ≤ M) where
  lit h := by simp only [stmtSize] at h; omega
  op h := by simp only [stmtSize] at h; omega
  print h := by simp only [stmtSize] at h; omega
  ifc h := by simp only [stmtSize] at h; exact ⟨by omega, by omega⟩
  subst h := by simp only [stmtSize] at h; omega
  letS h := by simp only [stmtSize] at h; omega
  switch h := by simp only [stmtSize] at h; omega
  create h := by simp only [stmtSize] at h; exact ⟨by omega, by omega⟩
  nth h hc := by have := clausesSize_nth hc; omega

/-- a step of the positional machine is a `call` or an `invoke`, or moves to a strictly smaller statement -/
theorem size_step {prog : AxCut.Prog} {st st' : Pos.State} {o : Option (Bool × Word)}
    (hs : Pos.step prog st = .next st' o) :
    K.IsJump st.stmt ∨ stmtSize st'.stmt < stmtSize st.stmt := by
  cases Pos.step_next hs with
  | invoke | call => exact Or.inl trivial
  | switch _ _ _ _ hn => right; have := clausesSize_nth hn; simp only [stmtSize]; omega
  | ifz | ifc => right; simp only [stmtSize]; split <;> omega
  | _ => right; simp only [stmtSize]; omega

/-- THE POSITIONAL MACHINE ALONE: if the bodies of the definitions, the statement and the clauses of the closures in
the environment have size at most `M`, a run that is still going after `N·(M + 1) + |stmt|` steps has executed at
least `N` calls and invokes -/
theorem weight_ge {prog : AxCut.Prog} {M : Nat} (hM : ∀ d ∈ prog.defs, stmtSize d.body ≤ M) :
    ∀ (n N : Nat) (st : Pos.State) (acc : List (Bool × Word)),
      stmtSize st.stmt ≤ M → (∀ w ∈ st.env, K.ValAll (fun cl => clausesSize cl ≤ M) w) →
      (Pos.runState prog n st acc).res = .outOfFuel → N * (M + 1) + stmtSize st.stmt ≤ n →
      N ≤ weight K.jumpW prog n st
  | 0, N, st, _, _, _, _, hN => by have := stmtSize_pos st.stmt; omega
  | n + 1, N, st, acc, hsz, hvals, hrun, hN => by
    simp only [Pos.runState, weight] at hrun ⊢
    cases hst : Pos.step prog st with
    | stuck w => simp [hst] at hrun
    | done v' => simp [hst] at hrun
    | next st' o =>
      simp only [hst] at hrun ⊢
      obtain ⟨hsz', hvals'⟩ := K.hered_step (hered_size M) hM hst hsz hvals
      rcases size_step hst with hj | hlt
      · -- a call or an invoke; the statement continued with is at most `M`
        cases N with
        | zero => exact Nat.zero_le _
        | succ N =>
          have : (N + 1) * (M + 1) = N * (M + 1) + (M + 1) := Nat.succ_mul N (M + 1)
          have := weight_ge hM n N st' _ hsz' hvals' hrun (by omega)
          have := K.jumpW_of_isJump hj
          omega
      · have := weight_ge hM n N st' _ hsz' hvals' hrun (by omega)
        omega

end Scc.X86.Conc
