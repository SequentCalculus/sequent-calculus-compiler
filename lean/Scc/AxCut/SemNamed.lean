/-
  Scc.AxCut.SemNamed — specification of the AxCut abstract machine in NAMED mode
  (DESIGN.md §4 "AxCut machine"): the environment is an association list  id ↦ value, variables may
  be used any number of times.  This is a spec (it is not transcribed from Rust code); it gives
  the meaning of the AxCut programs produced by core2axcut (dump S4) and, through `fillArgs`, also
  of the linearized programs produced by `linearize` (dump S5).   Core imports only; executable.

  Conventions
  * variables are identified by their numeric id only (as everywhere in the axcut crate:
    `Subst`, `FreeVars`, `filter_by_set` all look at `Identifier::id`); xtor tags and labels are
    compared as whole identifiers.
  * values: `int`, `obj tag fields` (built by `let`), `clo env clauses` (built by `create`).
  * new bindings are put in FRONT of the environment, lookup takes the first hit.
  * `subst [(new_i, old_i)]` is the simultaneous rebinding: the new environment is exactly
    `[new_i ↦ env(old_i)]` (everything else is dropped, as in the positional machine).
  * `create` with an annotated closure environment (`some ctx`, linearized programs) captures
    exactly those variables; without annotation it captures the whole current environment.
  * integers are `BitVec 64`; `+ - *` wrap; `/` and `%` are `sdiv`/`srem`, stuck with
    `divByZero` on a zero divisor and with `overflow` on `MIN / -1`, `MIN % -1`.
  * `exit v` is the only way to finish: result `done env(v)`.
-/
import Scc.AxCut.Syntax

namespace Scc.AxCut.Named

open Scc.AxCut

inductive Value where
  | int (v : BitVec 64)
  | obj (tag : Ident) (fields : List Value)
  | clo (env : List (Nat × Value)) (clauses : Clauses)

instance : Inhabited Value := ⟨.int 0⟩

abbrev Env := List (Nat × Value)

inductive Res where
  | done (v : BitVec 64)
  | stuck (why : String)
  | outOfFuel

structure Behaviour where
  out : List (Bool × BitVec 64)
  res : Res

def lookup (env : Env) (i : Nat) : Option Value :=
  match env.find? (fun p => p.1 == i) with
  | some p => some p.2
  | none => none

/-- values of a list of argument bindings in the current environment -/
def lookupAll (env : Env) : Ctx → Option (List Value)
  | [] => some []
  | b :: bs =>
    match lookup env b.var.id, lookupAll env bs with
    | some v, some vs => some (v :: vs)
    | _, _ => none

/-- bind parameters positionally; `none` if the lengths differ -/
def bindParams : Ctx → List Value → Option Env
  | [], [] => some []
  | b :: bs, v :: vs =>
    match bindParams bs vs with
    | some e => some ((b.var.id, v) :: e)
    | none => none
  | _, _ => none

/-- the simultaneous rebinding of `subst`: `[new_i ↦ env(old_i)]` -/
def substEnv (env : Env) : List (Binding × Ident) → Option Env
  | [] => some []
  | (b, old) :: rest =>
    match lookup env old.id, substEnv env rest with
    | some v, some e => some ((b.var.id, v) :: e)
    | _, _ => none

def findClause (tag : Ident) : Clauses → Option (Ctx × Stmt)
  | .nil => none
  | .cons x ctx body rest => if x == tag then some (ctx, body) else findClause tag rest

def findDef (p : Prog) (label : Ident) : Option Def := p.defs.find? (fun d => d.name == label)

def minInt : BitVec 64 := BitVec.intMin 64

/-- arithmetic: `.error why` = stuck -/
def evalOp (o : BinOp) (a b : BitVec 64) : Except String (BitVec 64) :=
  match o with
  | .sum => .ok (a + b)
  | .sub => .ok (a - b)
  | .prod => .ok (a * b)
  | .div =>
    if b == 0 then .error "divByZero"
    else if a == minInt && b == -1 then .error "overflow"
    else .ok (a.sdiv b)
  | .rem =>
    if b == 0 then .error "divByZero"
    else if a == minInt && b == -1 then .error "overflow"
    else .ok (a.srem b)

def evalCmp (s : IfSort) (a b : BitVec 64) : Bool :=
  match s with
  | .eq => a == b
  | .ne => a != b
  | .lt => a.slt b
  | .le => a.sle b
  | .gt => b.slt a
  | .ge => b.sle a

structure State where
  stmt : Stmt
  env : Env
  out : List (Bool × BitVec 64)

inductive StepResult where
  | next (s : State)
  | halt (out : List (Bool × BitVec 64)) (r : Res)

def stuck (st : State) (why : String) : StepResult := .halt st.out (.stuck why)

/-- one machine step -/
def step (p : Prog) (st : State) : StepResult :=
  match st.stmt with
  | .subst pairs next =>
    match substEnv st.env pairs with
    | some env' => .next { st with stmt := next, env := env' }
    | none => stuck st "subst: unbound variable"
  | .call label args =>
    match findDef p label with
    | none => stuck st "call: unknown label"
    | some d =>
      match lookupAll st.env args with
      | none => stuck st "call: unbound argument"
      | some vs =>
        match bindParams d.ctx vs with
        | none => stuck st "call: arity"
        | some env' => .next { st with stmt := d.body, env := env' }
  | .letS v _ tag args next _ =>
    match lookupAll st.env args with
    | none => stuck st "let: unbound argument"
    | some vs => .next { st with stmt := next, env := (v.id, .obj tag vs) :: st.env }
  | .switch v _ clauses _ =>
    match lookup st.env v.id with
    | some (.obj tag fields) =>
      match findClause tag clauses with
      | none => stuck st "switch: no clause for tag"
      | some (ctx, body) =>
        match bindParams ctx fields with
        | none => stuck st "switch: arity"
        | some e => .next { st with stmt := body, env := e ++ st.env }
    | some _ => stuck st "switch: not an object"
    | none => stuck st "switch: unbound variable"
  | .create v _ envAnn clauses next _ _ =>
    match envAnn with
    | none => .next { st with stmt := next, env := (v.id, .clo st.env clauses) :: st.env }
    | some ctx =>
      match lookupAll st.env ctx with
      | none => stuck st "create: unbound closure variable"
      | some vs =>
        match bindParams ctx vs with
        | none => stuck st "create: impossible"
        | some cenv => .next { st with stmt := next, env := (v.id, .clo cenv clauses) :: st.env }
  | .invoke v tag _ args =>
    match lookup st.env v.id with
    | some (.clo cenv clauses) =>
      match findClause tag clauses with
      | none => stuck st "invoke: no clause for tag"
      | some (ctx, body) =>
        match lookupAll st.env args with
        | none => stuck st "invoke: unbound argument"
        | some vs =>
          match bindParams ctx vs with
          | none => stuck st "invoke: arity"
          | some e => .next { st with stmt := body, env := e ++ cenv }
    | some _ => stuck st "invoke: not a closure"
    | none => stuck st "invoke: unbound variable"
  | .lit v n next _ =>
    .next { st with stmt := next, env := (v.id, .int (BitVec.ofInt 64 n)) :: st.env }
  | .op v a o b next _ =>
    match lookup st.env a.id, lookup st.env b.id with
    | some (.int x), some (.int y) =>
      match evalOp o x y with
      | .ok r => .next { st with stmt := next, env := (v.id, .int r) :: st.env }
      | .error why => stuck st why
    | _, _ => stuck st "op: operand not an integer"
  | .print nl v next _ =>
    match lookup st.env v.id with
    | some (.int x) => .next { st with stmt := next, out := st.out ++ [(nl, x)] }
    | _ => stuck st "print: operand not an integer"
  | .ifc s a b thenc elsec =>
    match lookup st.env a.id with
    | some (.int x) =>
      match b with
      | none => .next { st with stmt := if evalCmp s x 0 then thenc else elsec }
      | some b =>
        match lookup st.env b.id with
        | some (.int y) => .next { st with stmt := if evalCmp s x y then thenc else elsec }
        | _ => stuck st "ifc: operand not an integer"
    | _ => stuck st "ifc: operand not an integer"
  | .exit v =>
    match lookup st.env v.id with
    | some (.int x) => .halt st.out (.done x)
    | _ => stuck st "exit: operand not an integer"

def iterate (p : Prog) : Nat → State → Behaviour
  | 0, st => ⟨st.out, .outOfFuel⟩
  | fuel + 1, st =>
    match step p st with
    | .next st' => iterate p fuel st'
    | .halt out r => ⟨out, r⟩

/-- run the first definition (`main`) on integer arguments -/
def run (p : Prog) (args : List (BitVec 64)) (fuel : Nat) : Behaviour :=
  match p.defs with
  | [] => ⟨[], .stuck "no definitions"⟩
  | d :: _ =>
    match bindParams d.ctx (args.map Value.int) with
    | none => ⟨[], .stuck "main: arity"⟩
    | some env => iterate p fuel ⟨d.body, env, []⟩

/-! ## linearized programs: restoring the implicit arguments of `call` and `invoke`

`linearize` empties the argument lists of `call` and `invoke` (`std::mem::take`): in a linearized
program the arguments are the current context (all of it for `call`, all but the last binding for
`invoke`).  `fillArgs` threads the static context exactly as the ordered-linear typing rules do
and writes the arguments back, so that the named machine can run S5 dumps. A `call`/`invoke`
that still has arguments is left alone (so `fillArgs` is the identity on S4 programs up to the
threaded context, which is only used where argument lists are empty). -/

def removeIds (ids : List Nat) (c : Ctx) : Ctx := c.filter (fun b => !(ids.contains b.var.id))

mutual
  def fillStmt (p : Prog) : Stmt → Ctx → Stmt
    | .subst pairs next, _ => .subst pairs (fillStmt p next (pairs.map (·.1)))
    | .call label args, ctx =>
      match args, findDef p label with
      | [], some d => if d.ctx.isEmpty then .call label [] else .call label ctx
      | _, _ => .call label args
    | .letS v ty tag args next fv, ctx =>
      .letS v ty tag args (fillStmt p next (removeIds (args.map (·.var.id)) ctx ++ [⟨v, .prd, ty⟩])) fv
    | .switch v ty cs fv, ctx => .switch v ty (fillClauses p cs (removeIds [v.id] ctx) true) fv
    | .create v ty env cs next fc fn, ctx =>
      let clo := env.getD ctx
      let ctxNext := match env with
        | none => ctx
        | some e => removeIds (e.map (·.var.id)) ctx
      .create v ty env (fillClauses p cs clo false) (fillStmt p next (ctxNext ++ [⟨v, .cns, ty⟩])) fc fn
    | .invoke v tag ty args, ctx =>
      match args with
      | [] => .invoke v tag ty (removeIds [v.id] ctx)
      | _ => .invoke v tag ty args
    | .lit v n next fv, ctx => .lit v n (fillStmt p next (ctx ++ [⟨v, .ext, .i64⟩])) fv
    | .op v a o b next fv, ctx => .op v a o b (fillStmt p next (ctx ++ [⟨v, .ext, .i64⟩])) fv
    | .print nl v next fv, ctx => .print nl v (fillStmt p next ctx) fv
    | .ifc s a b t e, ctx => .ifc s a b (fillStmt p t ctx) (fillStmt p e ctx)
    | .exit v, _ => .exit v
  /-- `front = true`: switch clauses run under `Γ' ++ Δ`; `false`: create clauses under `Δ ++ Γ_clo` -/
  def fillClauses (p : Prog) : Clauses → Ctx → Bool → Clauses
    | .nil, _, _ => .nil
    | .cons x c body rest, ctx, front =>
      .cons x c (fillStmt p body (if front then ctx ++ c else c ++ ctx)) (fillClauses p rest ctx front)
end

def fillArgs (p : Prog) : Prog :=
  { p with defs := p.defs.map fun d => { d with body := fillStmt p d.body d.ctx } }

/-! ## line interface -/

def showInt (v : BitVec 64) : String := toString v.toInt

def Res.render : Res → String
  | .done v => "done " ++ showInt v
  | .stuck why => "stuck " ++ why
  | .outOfFuel => "outOfFuel"

def Behaviour.render (b : Behaviour) : String :=
  "out=[" ++ ",".intercalate (b.out.map fun (nl, v) => (if nl then "nl:" else "nonl:") ++ showInt v)
    ++ "] res=" ++ b.res.render

def parseArgs (s : String) : Option (List (BitVec 64)) :=
  let ws := (s.trimAscii.toString.splitOn " ").filter (fun w => w != "")
  ws.mapM fun w => w.toInt?.map (BitVec.ofInt 64)

/-- `dump`: text of an `(axprog ..)` dump (S4, or S5 with `linearized = true`); `args`: the integer
    arguments separated by blanks.  Output `OK out=[nl:v,..] res=done v|stuck why|outOfFuel` or `ERR ..` -/
def runLineNamed (dump : String) (args : String) (fuel : Nat) (linearized : Bool := false) : String :=
  match Sexp.parse dump with
  | none => "ERR sexp"
  | some sx =>
    match readProg (dump.length + 10) sx with
    | none => "ERR read"
    | some p =>
      match parseArgs args with
      | none => "ERR args"
      | some vs => "OK " ++ (run (if linearized then fillArgs p else p) vs fuel).render

end Scc.AxCut.Named
