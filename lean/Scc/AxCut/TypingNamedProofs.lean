/-
  Scc.AxCut.TypingNamedProofs — soundness of the executable checker `wtAxCheck` with respect to the
  typing relation `WTax` of `Scc/AxCut/TypingNamed.lean`.
-/
import Scc.AxCut.TypingNamed

namespace Scc.AxCut.Named

instance : LawfulBEq Ident where
  eq_of_beq := by
    intro a b h
    cases a; cases b
    simp only [BEq.beq, instBEqIdent.beq] at h
    simp_all
  rfl := by
    intro a; cases a; simp [BEq.beq, instBEqIdent.beq]

instance : LawfulBEq Ty where
  eq_of_beq := by
    intro a b h
    cases a <;> cases b
    · rfl
    · simp only [BEq.beq, instBEqTy.beq] at h; cases h
    · simp only [BEq.beq, instBEqTy.beq] at h; cases h
    · simp only [BEq.beq, instBEqTy.beq] at h
      rename_i x y
      have : (x == y) = true := h
      rw [eq_of_beq this]
  rfl := by
    intro a; cases a
    · simp [BEq.beq, instBEqTy.beq]
    · simp only [BEq.beq, instBEqTy.beq]
      exact (beq_self_eq_true (_ : Ident))

instance : LawfulBEq Chi where
  eq_of_beq := by
    intro a b h
    cases a <;> cases b <;> first | rfl | (simp [BEq.beq, instBEqChi.beq] at h; cases h)
  rfl := by
    intro a; cases a <;> simp [BEq.beq, instBEqChi.beq]

instance : LawfulBEq Binding where
  eq_of_beq := by
    intro a b h
    cases a; cases b
    simp only [BEq.beq, instBEqBinding.beq] at h
    rename_i v1 c1 t1 v2 c2 t2
    have h' : ((v1 == v2) && ((c1 == c2) && (t1 == t2))) = true := h
    simp only [Bool.and_eq_true, beq_iff_eq] at h'
    obtain ⟨rfl, rfl, rfl⟩ := h'
    rfl
  rfl := by
    intro a; cases a
    rename_i v c t
    show ((v == v) && ((c == c) && (t == t))) = true
    simp

theorem occOk_sound {Γ : Ctx} {b : Binding} (h : occOk Γ b = true) : lookupB Γ b.var.id = some b := by
  simpa [occOk] using h

theorem argsOk_sound {Γ : Ctx} : ∀ {args sig}, argsOk Γ args sig = true → ArgsOk Γ args sig
  | [], [], _ => .nil
  | [], _ :: _, h => by simp [argsOk] at h
  | _ :: _, [], h => by simp [argsOk] at h
  | a :: as, s :: ss, h => by
    simp only [argsOk, Bool.and_eq_true, beq_iff_eq] at h
    exact .cons (occOk_sound h.1.1.1) h.1.1.2 h.1.2 (argsOk_sound h.2)

theorem paramsOk_sound : ∀ {ps sig}, paramsOk ps sig = true → ParamsOk ps sig
  | [], [], _ => .nil
  | [], _ :: _, h => by simp [paramsOk] at h
  | _ :: _, [], h => by simp [paramsOk] at h
  | a :: as, s :: ss, h => by
    simp only [paramsOk, Bool.and_eq_true, beq_iff_eq] at h
    exact .cons h.1.1 h.1.2 (paramsOk_sound h.2)

theorem substOk_sound {Γ : Ctx} : ∀ {pairs}, substOk Γ pairs = true → SubstOk Γ pairs
  | [], _ => .nil
  | (b, old) :: rest, h => by
    simp only [substOk, Bool.and_eq_true] at h
    obtain ⟨h1, h2⟩ := h
    split at h1
    · rename_i o ho
      simp only [Bool.and_eq_true, beq_iff_eq] at h1
      exact .cons ho h1.1 h1.2 (substOk_sound h2)
    · cases h1

mutual
  theorem wtStmtB_sound (types : List TypeDecl) (sigs : List (Ident × Ctx)) :
      ∀ (Γ : Ctx) (s : Stmt), wtStmtB types sigs Γ s = true → WTStmt types sigs Γ s
    | Γ, .subst pairs next, h => by
      simp only [wtStmtB, Bool.and_eq_true] at h
      exact .subst (substOk_sound h.1) (wtStmtB_sound types sigs _ next h.2)
    | Γ, .call label args, h => by
      simp only [wtStmtB] at h
      split at h
      · rename_i ps hp
        exact .call hp (argsOk_sound h)
      · cases h
    | Γ, .letS v ty tag args next fv, h => by
      simp only [wtStmtB] at h
      split at h
      · rename_i d hd
        split at h
        · rename_i x hx
          simp only [Bool.and_eq_true] at h
          exact .letS hd hx (argsOk_sound h.1) (wtStmtB_sound types sigs _ next h.2)
        · cases h
      · cases h
    | Γ, .switch v ty cs fv, h => by
      simp only [wtStmtB, Bool.and_eq_true] at h
      obtain ⟨h1, h2⟩ := h
      split at h2
      · rename_i d hd
        exact .switch (occOk_sound h1) hd (wtClausesB_sound types sigs Γ d.xtors cs h2)
      · cases h2
    | Γ, .create v ty none cs next fc fn, h => by
      simp only [wtStmtB] at h
      split at h
      · rename_i d hd
        simp only [Bool.and_eq_true] at h
        exact .createNone hd (wtClausesB_sound types sigs Γ d.xtors cs h.1) (wtStmtB_sound types sigs _ next h.2)
      · cases h
    | Γ, .create v ty (some e) cs next fc fn, h => by
      simp only [wtStmtB] at h
      split at h
      · rename_i d hd
        simp only [Bool.and_eq_true] at h
        exact .createSome hd (argsOk_sound h.1.1) (wtClausesB_sound types sigs e d.xtors cs h.1.2)
          (wtStmtB_sound types sigs _ next h.2)
      · cases h
    | Γ, .invoke v tag ty args, h => by
      simp only [wtStmtB, Bool.and_eq_true] at h
      obtain ⟨h1, h2⟩ := h
      split at h2
      · rename_i d hd
        split at h2
        · rename_i x hx
          exact .invoke (occOk_sound h1) hd hx (argsOk_sound h2)
        · cases h2
      · cases h2
    | Γ, .lit v n next fv, h => by
      simp only [wtStmtB] at h
      exact .lit (wtStmtB_sound types sigs _ next h)
    | Γ, .op v a o b next fv, h => by
      simp only [wtStmtB, Bool.and_eq_true, intOk] at h
      exact .op (occOk_sound h.1.1) (occOk_sound h.1.2) (wtStmtB_sound types sigs _ next h.2)
    | Γ, .print nl v next fv, h => by
      simp only [wtStmtB, Bool.and_eq_true, intOk] at h
      exact .print (occOk_sound h.1) (wtStmtB_sound types sigs _ next h.2)
    | Γ, .ifc s a none t e, h => by
      simp only [wtStmtB, Bool.and_eq_true, intOk] at h
      exact .ifz (occOk_sound h.1.1.1) (wtStmtB_sound types sigs _ t h.1.2) (wtStmtB_sound types sigs _ e h.2)
    | Γ, .ifc s a (some b) t e, h => by
      simp only [wtStmtB, Bool.and_eq_true, intOk] at h
      exact .ifc (occOk_sound h.1.1.1) (occOk_sound h.1.1.2) (wtStmtB_sound types sigs _ t h.1.2)
        (wtStmtB_sound types sigs _ e h.2)
    | Γ, .exit v, h => by
      simp only [wtStmtB, intOk] at h
      exact .exit (occOk_sound h)
  theorem wtClausesB_sound (types : List TypeDecl) (sigs : List (Ident × Ctx)) :
      ∀ (Γ : Ctx) (xs : List XtorSig) (cs : Clauses), wtClausesB types sigs Γ xs cs = true →
        WTClauses types sigs Γ xs cs
    | Γ, [], .nil, _ => .nil
    | Γ, [], .cons _ _ _ _, h => by simp [wtClausesB] at h
    | Γ, _ :: _, .nil, h => by simp [wtClausesB] at h
    | Γ, x :: xs, .cons tag ctx body rest, h => by
      simp only [wtClausesB, Bool.and_eq_true, beq_iff_eq] at h
      exact .cons h.1.1.1 (paramsOk_sound h.1.1.2) (wtStmtB_sound types sigs _ body h.1.2)
        (wtClausesB_sound types sigs Γ xs rest h.2)
end

theorem wtAxCheck_sound (p : Prog) (h : wtAxCheck p = .ok ()) : WTax p := by
  intro d hd
  simp only [wtAxCheck] at h
  split at h
  · rename_i hnone
    have := List.find?_eq_none.mp hnone d hd
    simp only [Bool.not_eq_true, Bool.not_eq_false', wtDefB] at this
    exact wtStmtB_sound _ _ _ _ (by simpa using this)
  · cases h

end Scc.AxCut.Named
