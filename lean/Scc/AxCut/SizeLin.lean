/-
  Scc.AxCut.SizeLin — C19 for linearization (S4 → S5).

  Measures on AxCut statements:
    `Stmt.size`      node count (Linearize.lean; statement and clause nodes)
    `weight`    node count + the lengths of all lists the nodes carry (explicit substitutions,
                     argument lists, clause contexts, closure environments)
    `binders`   the largest number of variables bound along one path (let/create/lit/op: 1, a
                     clause: its parameters)
    `argsMax`   the longest argument list of a call / let / invoke
    `ctxCap n s`     the longest context the code generator (and the positional machine) sees while it
                     walks through the LINEARIZED statement `s`, entered with a context of length `n`
                     (exact bookkeeping: a `let` consumes its arguments, a `create` its environment,
                     a `switch` its scrutinee).
  Results, for every fuel, statement, context (no typing hypothesis):
    * at most ONE explicit substitution per statement node:       |lin s| ≤ 2·|s|           (nodes)
    * every context in the output is short:
        ctxCap |Γ| (lin s Γ) ≤ 2·(|Γ| + binders s) + argsMax s + 1
      (factor 2: the substitution in front of a `create` lists the variables of the continuation AND
      those of the closure environment — a variable used by both is duplicated there)
    * the lists it adds are bounded by these contexts: quadratic bound
        weight (lin s Γ) ≤ weight s + |s|·(3 + 4·(|Γ| + binders s) + 2·argsMax s)
  Proof file.
-/
import Scc.AxCut.LinLemmas

namespace Scc.AxCut.SizeLin

mutual
  def weight : Stmt → Nat
    | .subst pairs next => 1 + pairs.length + (weight next)
    | .call _ args => 1 + args.length
    | .letS _ _ _ args next _ => 1 + args.length + (weight next)
    | .switch _ _ cs _ => 1 + (weightC cs)
    | .create _ _ env cs next _ _ => 1 + (env.getD []).length + (weightC cs) + (weight next)
    | .invoke _ _ _ args => 1 + args.length
    | .lit _ _ next _ => 1 + (weight next)
    | .op _ _ _ _ next _ => 1 + (weight next)
    | .print _ _ next _ => 1 + (weight next)
    | .ifc _ _ _ t e => 1 + (weight t) + (weight e)
    | .exit _ => 1
  def weightC : Clauses → Nat
    | .nil => 0
    | .cons _ ctx body rest => 1 + ctx.length + (weight body) + (weightC rest)
end

mutual
  def binders : Stmt → Nat
    | .subst _ next => (binders next)
    | .call _ _ => 0
    | .letS _ _ _ _ next _ => (binders next) + 1
    | .switch _ _ cs _ => (bindersC cs)
    | .create _ _ _ cs next _ _ => max (bindersC cs) ((binders next) + 1)
    | .invoke _ _ _ _ => 0
    | .lit _ _ next _ => (binders next) + 1
    | .op _ _ _ _ next _ => (binders next) + 1
    | .print _ _ next _ => (binders next)
    | .ifc _ _ _ t e => max (binders t) (binders e)
    | .exit _ => 0
  def bindersC : Clauses → Nat
    | .nil => 0
    | .cons _ ctx body rest => max (ctx.length + (binders body)) (bindersC rest)
end

mutual
  def argsMax : Stmt → Nat
    | .subst pairs next => max pairs.length (argsMax next)
    | .call _ args => args.length
    | .letS _ _ _ args next _ => max args.length (argsMax next)
    | .switch _ _ cs _ => (argsMaxC cs)
    | .create _ _ _ cs next _ _ => max (argsMaxC cs) (argsMax next)
    | .invoke _ _ _ args => args.length
    | .lit _ _ next _ => (argsMax next)
    | .op _ _ _ _ next _ => (argsMax next)
    | .print _ _ next _ => (argsMax next)
    | .ifc _ _ _ t e => max (argsMax t) (argsMax e)
    | .exit _ => 0
  def argsMaxC : Clauses → Nat
    | .nil => 0
    | .cons _ _ body rest => max (argsMax body) (argsMaxC rest)
end

mutual
  /-- the longest context while walking through a linearized statement entered with `n` variables.  It follows
      the context lengths of well-formed linearized code exactly: `letS` and `create` first give up the arguments
      resp. the closure environment, `switch` the scrutinee.  `Pos.capStmt` (PosCapacity.lean) is the same walk
      without these subtractions: a bound that holds for every program, used for the capacity of the machine. -/
  def ctxCap : Nat → Stmt → Nat
    | n, .subst pairs next => max n (ctxCap pairs.length next)
    | n, .call _ _ => n
    | n, .letS _ _ _ args next _ => max n (ctxCap (n - args.length + 1) next)
    | n, .switch _ _ cl _ => max n (ctxCapClauses (n - 1) cl)
    | n, .create _ _ env cl next _ _ =>
      max (max n (ctxCap (n - (env.getD []).length + 1) next)) (ctxCapClauses (env.getD []).length cl)
    | n, .invoke _ _ _ _ => n
    | n, .lit _ _ next _ => max n (ctxCap (n + 1) next)
    | n, .op _ _ _ _ next _ => max n (ctxCap (n + 1) next)
    | n, .print _ _ next _ => max n (ctxCap n next)
    | n, .ifc _ _ _ t e => max n (max (ctxCap n t) (ctxCap n e))
    | n, .exit _ => n
  /-- clause bodies are entered with their parameters and `m` further variables -/
  def ctxCapClauses : Nat → Clauses → Nat
    | _, .nil => 0
    | m, .cons _ ctx b r => max (ctxCap (m + ctx.length) b) (ctxCapClauses m r)
end

theorem le_ctxCap : ∀ (n : Nat) (s : Stmt), n ≤ ctxCap n s := by
  intro n s; cases s <;> simp only [ctxCap] <;> omega

mutual
  theorem substStmt_measures (σ : Subst) : (s : Stmt) →
      (substStmt σ s).size = s.size ∧ (weight (substStmt σ s)) = (weight s) ∧
      (binders (substStmt σ s)) = (binders s) ∧ (argsMax (substStmt σ s)) = (argsMax s)
    | .subst pairs next => by
      have := substStmt_measures σ next
      simp [substStmt, Stmt.size, weight, binders, argsMax, this]
    | .call _ _ => by simp [substStmt, Stmt.size, weight, binders, argsMax, substCtx]
    | .letS _ _ _ _ next _ => by
      have := substStmt_measures σ next
      simp [substStmt, Stmt.size, weight, binders, argsMax, substCtx, this]
    | .switch _ _ cs _ => by
      have := substClauses_measures σ cs
      simp [substStmt, Stmt.size, weight, binders, argsMax, this]
    | .create _ _ env cs next _ _ => by
      have h1 := substClauses_measures σ cs
      have h2 := substStmt_measures σ next
      cases env <;>
        simp [substStmt, Stmt.size, weight, binders, argsMax, substCtx, h1, h2]
    | .invoke _ _ _ _ => by simp [substStmt, Stmt.size, weight, binders, argsMax, substCtx]
    | .lit _ _ next _ => by
      have := substStmt_measures σ next
      simp [substStmt, Stmt.size, weight, binders, argsMax, this]
    | .op _ _ _ _ next _ => by
      have := substStmt_measures σ next
      simp [substStmt, Stmt.size, weight, binders, argsMax, this]
    | .print _ _ next _ => by
      have := substStmt_measures σ next
      simp [substStmt, Stmt.size, weight, binders, argsMax, this]
    | .ifc _ _ _ t e => by
      have h1 := substStmt_measures σ t
      have h2 := substStmt_measures σ e
      simp [substStmt, Stmt.size, weight, binders, argsMax, h1, h2]
    | .exit _ => by simp [substStmt, Stmt.size, weight, binders, argsMax]
  theorem substClauses_measures (σ : Subst) : (cs : Clauses) →
      (substClauses σ cs).size = cs.size ∧ (weightC (substClauses σ cs)) = (weightC cs) ∧
      (bindersC (substClauses σ cs)) = (bindersC cs) ∧ (argsMaxC (substClauses σ cs)) = (argsMaxC cs)
    | .nil => by simp [substClauses]
    | .cons _ _ body rest => by
      have h1 := substStmt_measures σ body
      have h2 := substClauses_measures σ rest
      simp [substClauses, Clauses.size, weightC, bindersC, argsMaxC, h1, h2]
end

mutual
  theorem freeVars_measures : (s : Stmt) →
      (freeVars s).1.size = s.size ∧ (weight (freeVars s).1) = (weight s) ∧
      (binders (freeVars s).1) = (binders s) ∧ (argsMax (freeVars s).1) = (argsMax s)
    | .subst pairs next => by
      have := freeVars_measures next
      simp [freeVars, Stmt.size, weight, binders, argsMax, this]
    | .call _ _ => by simp [freeVars]
    | .letS _ _ _ _ next _ => by
      have := freeVars_measures next
      simp [freeVars, Stmt.size, weight, binders, argsMax, this]
    | .switch _ _ cs _ => by
      have := freeVarsClauses_measures cs
      simp [freeVars, Stmt.size, weight, binders, argsMax, this]
    | .create _ _ env cs next _ _ => by
      have h1 := freeVarsClauses_measures cs
      have h2 := freeVars_measures next
      simp [freeVars, Stmt.size, weight, binders, argsMax, h1, h2]
    | .invoke _ _ _ _ => by simp [freeVars]
    | .lit _ _ next _ => by
      have := freeVars_measures next
      simp [freeVars, Stmt.size, weight, binders, argsMax, this]
    | .op _ _ _ _ next _ => by
      have := freeVars_measures next
      simp [freeVars, Stmt.size, weight, binders, argsMax, this]
    | .print _ _ next _ => by
      have := freeVars_measures next
      simp [freeVars, Stmt.size, weight, binders, argsMax, this]
    | .ifc _ _ _ t e => by
      have h1 := freeVars_measures t
      have h2 := freeVars_measures e
      simp [freeVars, Stmt.size, weight, binders, argsMax, h1, h2]
    | .exit _ => by simp [freeVars]
  theorem freeVarsClauses_measures : (cs : Clauses) →
      (freeVarsClauses cs).1.size = cs.size ∧ (weightC (freeVarsClauses cs).1) = (weightC cs) ∧
      (bindersC (freeVarsClauses cs).1) = (bindersC cs) ∧ (argsMaxC (freeVarsClauses cs).1) = (argsMaxC cs)
    | .nil => by simp [freeVarsClauses]
    | .cons _ _ body rest => by
      have h1 := freeVars_measures body
      have h2 := freeVarsClauses_measures rest
      simp [freeVarsClauses, Clauses.size, weightC, bindersC, argsMaxC, h1, h2]
end

theorem freshen_length : ∀ (Γ : Ctx) (cl : List Nat) (m : Nat), (freshen Γ cl m).1.length = Γ.length
  | [], _, _ => by simp [freshen]
  | b :: rest, cl, m => by
    simp only [freshen]
    split
    · simp [freshIdentifier, freshen_length rest]
    · simp [freshen_length rest]

theorem rearrange_length (a b : Ctx) : (rearrange a b).length = min a.length b.length := by
  simp [rearrange, Ctx.vars]

/-- the bound on the contexts of the linearization of `s` entered with `g` variables -/
def bd (g : Nat) (s : Stmt) : Nat := 2 * (g + (binders s)) + (argsMax s) + 1
def bdC (m : Nat) (cs : Clauses) : Nat := 2 * (m + (bindersC cs)) + (argsMaxC cs) + 1

/-- `s'` is within the bounds for a linearization of `s` entered with `g` variables -/
def Fits (g : Nat) (s s' : Stmt) : Prop :=
  s'.size ≤ 2 * s.size ∧ ctxCap g s' ≤ bd g s ∧
  ∀ K, 1 + 2 * bd g s ≤ K → (weight s') ≤ (weight s) + s.size * K

def FitsC (m : Nat) (cs cs' : Clauses) : Prop :=
  cs'.size ≤ 2 * cs.size ∧ ctxCapClauses m cs' ≤ bdC m cs ∧
  ∀ K, 1 + 2 * bdC m cs ≤ K → (weightC cs') ≤ (weightC cs) + cs.size * K

/-- `t`, entered with `g0` variables, is within the bounds for a linearization of `s` entered with `g`
    variables, and stays so with a substitution of `g0` pairs in front. -/
def FitsIn (g g0 : Nat) (s t : Stmt) : Prop :=
  t.size + 1 ≤ 2 * s.size ∧ ctxCap g0 t ≤ bd g s ∧
  ∀ K, 1 + 2 * bd g s ≤ K → (weight t) + (1 + g0) ≤ (weight s) + s.size * K

theorem FitsIn.direct {g g0 : Nat} {s t : Stmt} (h : FitsIn g g0 s t) (hg : g = g0) : Fits g s t := by
  subst hg
  exact ⟨by have := h.1; omega, h.2.1, fun K hK => by have := h.2.2 K hK; omega⟩

theorem FitsIn.subst {g g0 : Nat} {s t : Stmt} {pairs : List (Binding × Ident)} (h : FitsIn g g0 s t)
    (hp : pairs.length = g0) : Fits g s (.subst pairs t) := by
  obtain ⟨h1, h2, h3⟩ := h
  refine ⟨?_, ?_, fun K hK => ?_⟩
  · simp only [Stmt.size]; omega
  · simp only [ctxCap, hp, bd] at h2 ⊢; omega
  · have := h3 K hK
    simp only [weight, hp]; omega

/-- `simp only … at *` with the equations of size, weight and context capacity of the statement forms at hand,
    and with `Nat.add_mul`, `Nat.one_mul`, so that the products `size * K` of goal and hypotheses are sums of
    products of atoms, which `omega` takes as atoms.  The bound `bd` is NOT unfolded: the facts `… ≤ bd g s`
    that a proof needs are proved before (`bounds; omega`), with the `max`es of `bd` in the open, and enter the
    final `omega` with `bd g s` as an atom.  That is why every `FitsIn.*` below closes by `measures; omega`. -/
local macro "measures" : tactic =>
  `(tactic| simp only [Stmt.size, Clauses.size, weight, weightC, ctxCap, ctxCapClauses, Option.getD,
      List.length_nil, Nat.add_mul, Nat.one_mul, Nat.add_sub_cancel] at *)

/-- unfold the bound `bd`/`bdC` of the statement forms at hand; the `max`es end up on the right -/
local macro "bounds" : tactic =>
  `(tactic| simp only [bd, bdC, binders, bindersC, argsMax, argsMaxC])

theorem le_bd (g : Nat) (s : Stmt) : g ≤ bd g s := by unfold bd; omega

section
variable {g c : Nat} {next next' : Stmt}

theorem FitsIn.call (label : Ident) (args : Ctx) :
    FitsIn g args.length (.call label args) (.call label []) := by
  have hb : args.length ≤ bd g (.call label args) := by bounds; omega
  refine ⟨?_, ?_, fun K hK => ?_⟩ <;> measures <;> omega

theorem FitsIn.invoke (var tag : Ident) (ty : Ty) (args : Ctx) :
    FitsIn g (args.length + 1) (.invoke var tag ty args) (.invoke var tag ty []) := by
  have hb : args.length + 1 ≤ bd g (.invoke var tag ty args) := by bounds; omega
  refine ⟨?_, ?_, fun K hK => ?_⟩ <;> measures <;> omega

theorem FitsIn.letS (var : Ident) (ty : Ty) (tag : Ident) {args args' : Ctx} {fv : FV} (hc : c ≤ g)
    (ha : args'.length = args.length) (h : Fits (c + 1) next next') :
    FitsIn g (c + args'.length) (.letS var ty tag args next fv) (.letS var ty tag args' next' none) := by
  have hb : bd (c + 1) next ≤ bd g (.letS var ty tag args next fv) ∧
      c + args.length ≤ bd g (.letS var ty tag args next fv) := by bounds; omega
  obtain ⟨h1, h2, h3⟩ := h
  unfold FitsIn
  measures
  refine ⟨by omega, by omega, fun K hK => ?_⟩
  have := h3 K (by omega)
  omega

theorem FitsIn.switch (var var' : Ident) (ty : Ty) {cs cs' : Clauses} {fv : FV} (hc : c ≤ g)
    (h : FitsC c cs cs') : FitsIn g (c + 1) (.switch var ty cs fv) (.switch var' ty cs' none) := by
  have hb : bdC c cs ≤ bd g (.switch var ty cs fv) ∧ c + 1 ≤ bd g (.switch var ty cs fv) := by
    bounds; omega
  obtain ⟨h1, h2, h3⟩ := h
  unfold FitsIn
  measures
  refine ⟨by omega, by omega, fun K hK => ?_⟩
  have := h3 K (by omega)
  omega

theorem FitsIn.create (var : Ident) (ty : Ty) (env : Option Ctx) {cs cs' : Clauses} {fvc fvn : FV}
    {cc : Ctx} (hc : c ≤ g) (hcc : cc.length ≤ g) (hcs : FitsC cc.length cs cs')
    (h : Fits (c + 1) next next') :
    FitsIn g (c + cc.length) (.create var ty env cs next fvc fvn)
      (.create var ty (some cc) cs' next' none none) := by
  have hb : bd (c + 1) next ≤ bd g (.create var ty env cs next fvc fvn) ∧
      bdC cc.length cs ≤ bd g (.create var ty env cs next fvc fvn) ∧
      2 * g + 1 ≤ bd g (.create var ty env cs next fvc fvn) := by bounds; omega
  obtain ⟨h1, h2, h3⟩ := h
  obtain ⟨c1, c2, c3⟩ := hcs
  unfold FitsIn
  measures
  refine ⟨by omega, by omega, fun K hK => ?_⟩
  have := h3 K (by omega)
  have := c3 K (by omega)
  omega

theorem FitsIn.lit (var : Ident) (k : Int) {fv : FV} (hc : c ≤ g) (h : Fits (c + 1) next next') :
    FitsIn g c (.lit var k next fv) (.lit var k next' none) := by
  have hb : bd (c + 1) next ≤ bd g (.lit var k next fv) := by bounds; omega
  have := le_bd g (.lit var k next fv)
  obtain ⟨h1, h2, h3⟩ := h
  unfold FitsIn
  measures
  refine ⟨by omega, by omega, fun K hK => ?_⟩
  have := h3 K (by omega)
  omega

theorem FitsIn.op (var a : Ident) (o : BinOp) (b : Ident) {fv : FV} (hc : c ≤ g)
    (h : Fits (c + 1) next next') :
    FitsIn g c (.op var a o b next fv) (.op var a o b next' none) := by
  have hb : bd (c + 1) next ≤ bd g (.op var a o b next fv) := by bounds; omega
  have := le_bd g (.op var a o b next fv)
  obtain ⟨h1, h2, h3⟩ := h
  unfold FitsIn
  measures
  refine ⟨by omega, by omega, fun K hK => ?_⟩
  have := h3 K (by omega)
  omega

theorem FitsIn.print (nl : Bool) (var : Ident) {fv : FV} (hc : c ≤ g) (h : Fits c next next') :
    FitsIn g c (.print nl var next fv) (.print nl var next' none) := by
  have hb : bd c next ≤ bd g (.print nl var next fv) := by bounds; omega
  have := le_bd g (.print nl var next fv)
  obtain ⟨h1, h2, h3⟩ := h
  unfold FitsIn
  measures
  refine ⟨by omega, by omega, fun K hK => ?_⟩
  have := h3 K (by omega)
  omega

theorem Fits.ifc (srt : IfSort) (a : Ident) (b : Option Ident) {t t' e e' : Stmt} (ht : Fits g t t')
    (he : Fits g e e') : Fits g (.ifc srt a b t e) (.ifc srt a b t' e') := by
  have hb : bd g t ≤ bd g (.ifc srt a b t e) ∧ bd g e ≤ bd g (.ifc srt a b t e) := by bounds; omega
  have := le_bd g (.ifc srt a b t e)
  obtain ⟨h1, h2, h3⟩ := ht
  obtain ⟨k1, k2, k3⟩ := he
  unfold Fits
  measures
  refine ⟨by omega, by omega, fun K hK => ?_⟩
  have := h3 K (by omega)
  have := k3 K (by omega)
  omega

theorem Fits.exit (var : Ident) : Fits g (.exit var) (.exit var) := by
  have := le_bd g (.exit var)
  refine ⟨?_, ?_, fun K hK => ?_⟩ <;> measures <;> omega

theorem FitsC.nil {m : Nat} : FitsC m .nil .nil := by
  refine ⟨?_, ?_, fun K hK => ?_⟩ <;> measures <;> omega

theorem FitsC.cons {m : Nat} (xtor : Ident) (ctx : Ctx) {body body' : Stmt} {rest rest' : Clauses}
    (hb : Fits (m + ctx.length) body body') (hr : FitsC m rest rest') :
    FitsC m (.cons xtor ctx body rest) (.cons xtor ctx body' rest') := by
  have hbd : bd (m + ctx.length) body ≤ bdC m (.cons xtor ctx body rest) ∧
      bdC m rest ≤ bdC m (.cons xtor ctx body rest) ∧
      ctx.length ≤ bdC m (.cons xtor ctx body rest) := by bounds; omega
  obtain ⟨h1, h2, h3⟩ := hb
  obtain ⟨k1, k2, k3⟩ := hr
  unfold FitsC
  measures
  refine ⟨by omega, by omega, fun K hK => ?_⟩
  have := h3 K (by omega)
  have := k3 K (by omega)
  omega

end

theorem Fits.of_substStmt {g : Nat} {σ : Subst} {next next' : Stmt} (h : Fits g (substStmt σ next) next') :
    Fits g next next' := by
  obtain ⟨e1, e2, e3, e4⟩ := substStmt_measures σ next
  simpa only [Fits, bd, e1, e2, e3, e4] using h

def LinSizeGoal (n : Nat) : Prop := ∀ s Γ m s' m', linearize n s Γ m = .ok (s', m') →
  Fits Γ.length s s'

def LinSizeGoalC (n : Nat) : Prop := ∀ cs pre post m cs' m',
  linearizeClauses n cs pre post m = .ok (cs', m') → FitsC (pre.length + post.length) cs cs'

/-- the substitution in front has as many pairs as the rearranged context -/
local macro "lengths" : tactic =>
  `(tactic| simp only [rearrange_length, List.length_append, List.length_singleton, freshen_length,
      Nat.min_self])

theorem lin_goals : ∀ n, LinSizeGoal n ∧ LinSizeGoalC n := by
  intro n
  induction n with
  | zero =>
    constructor
    · intro s Γ m s' m' h; simp [linearize] at h
    · intro cs pre post m cs' m' h; simp [linearizeClauses] at h
  | succ n ih =>
    obtain ⟨ihs, ihc⟩ := ih
    constructor
    · intro s Γ m s' m' h
      cases s with
      | subst pairs next => simp [linearize] at h
      | call label args =>
        simp only [linearize] at h
        split at h
        · next heq => cases h; exact (FitsIn.call label args).direct (congrArg List.length heq)
        · cases h; exact (FitsIn.call label args).subst (by lengths)
      | letS var ty tag args next fv =>
        simp only [linearize] at h
        split at h
        · cases h
        · next fvs =>
          have hl := filterBySet_length_le Γ fvs
          split at h
          · next heq =>
            split at h
            · cases h
            · next next' m1 hn =>
              cases h
              have N := ihs _ _ _ _ _ hn
              rw [List.length_append] at N
              exact (FitsIn.letS var ty tag hl rfl N).direct
                ((congrArg List.length heq).trans List.length_append)
          · split at h
            · cases h
            · next next' m1 hn =>
              cases h
              have N := ihs _ _ _ _ _ hn
              rw [List.length_append] at N
              exact (FitsIn.letS var ty tag hl (freshen_length ..) N).subst (by lengths)
      | switch var ty clauses fv =>
        simp only [linearize] at h
        split at h
        · cases h
        · next fvs =>
          have hl := filterBySet_length_le Γ fvs
          split at h
          · cases h
          · next clauses' m1 hc =>
            have C := ihc _ _ _ _ _ _ hc
            split at h
            · next heq =>
              cases h
              exact (FitsIn.switch var var ty hl C).direct
                ((congrArg List.length heq).trans List.length_append)
            · cases h
              exact (FitsIn.switch var _ ty hl C).subst (by lengths)
      | create var ty env clauses next fvc fvn =>
        simp only [linearize] at h
        split at h
        · cases h
        · next fvcs =>
          split at h
          · cases h
          · next fvns =>
            have hl := filterBySet_length_le Γ fvns
            have hl2 := filterBySet_length_le
              (List.drop (filterBySet Γ fvns).length Γ ++ List.take (filterBySet Γ fvns).length Γ) fvcs
            simp only [List.length_append, List.length_drop, List.length_take] at hl2
            split at h
            · cases h
            · next clauses' m1 hc =>
              have C := ihc _ _ _ _ _ _ hc
              rw [List.length_nil, Nat.zero_add] at C
              split at h
              · next heq =>
                split at h
                · cases h
                · next next' m2 hn =>
                  cases h
                  have N := ihs _ _ _ _ _ hn
                  rw [List.length_append] at N
                  exact (FitsIn.create var ty env hl (by omega) C N).direct
                    ((congrArg List.length heq).trans List.length_append)
              · split at h
                · cases h
                · next next' m2 hn =>
                  cases h
                  have N := (ihs _ _ _ _ _ hn).of_substStmt
                  rw [List.length_append, freshen_length] at N
                  exact (FitsIn.create var ty env hl (by omega) C N).subst (by lengths)
      | invoke var tag ty args =>
        simp only [linearize] at h
        split at h
        · next heq =>
          cases h
          exact (FitsIn.invoke var tag ty args).direct ((congrArg List.length heq).trans List.length_append)
        · cases h
          exact (FitsIn.invoke var tag ty args).subst (by lengths)
      | lit var k next fv =>
        simp only [linearize] at h
        split at h
        · cases h
        · next fvs =>
          have hl := filterBySet_length_le Γ fvs
          split at h
          · cases h
          · next next' m1 hn =>
            have N := ihs _ _ _ _ _ hn
            rw [List.length_append] at N
            have F := FitsIn.lit var k (fv := some fvs) hl N
            split at h
            · next heq => cases h; exact F.direct (congrArg List.length heq)
            · cases h; exact F.subst (by lengths)
      | op var a o b next fv =>
        simp only [linearize] at h
        split at h
        · cases h
        · next fvs =>
          have hl := filterBySet_length_le Γ (b.id :: a.id :: fvs)
          split at h
          · cases h
          · next next' m1 hn =>
            have N := ihs _ _ _ _ _ hn
            rw [List.length_append] at N
            have F := FitsIn.op var a o b (fv := some fvs) hl N
            split at h
            · next heq => cases h; exact F.direct (congrArg List.length heq)
            · cases h; exact F.subst (by lengths)
      | print nl var next fv =>
        simp only [linearize] at h
        split at h
        · cases h
        · next fvs =>
          have hl := filterBySet_length_le Γ (var.id :: fvs)
          split at h
          · cases h
          · next next' m1 hn =>
            have F := FitsIn.print nl var (fv := some fvs) hl (ihs _ _ _ _ _ hn)
            split at h
            · next heq => cases h; exact F.direct (congrArg List.length heq)
            · cases h; exact F.subst (by lengths)
      | ifc srt a b t e =>
        simp only [linearize] at h
        split at h
        · cases h
        · next t' m1 ht =>
          split at h
          · cases h
          · next e' m2 he =>
            cases h
            exact .ifc srt a b (ihs _ _ _ _ _ ht) (ihs _ _ _ _ _ he)
      | exit var =>
        simp only [linearize] at h
        cases h; exact .exit var
    · intro cs pre post m cs' m' h
      cases cs with
      | nil =>
        simp only [linearizeClauses] at h
        cases h; exact .nil
      | cons xtor ctx body rest =>
        simp only [linearizeClauses] at h
        split at h
        · cases h
        · next body' m1 hb =>
          split at h
          · cases h
          · next rest' m2 hr =>
            cases h
            have B := ihs _ _ _ _ _ hb
            rw [List.length_append, List.length_append, Nat.add_right_comm] at B
            exact .cons xtor ctx B (ihc _ _ _ _ _ _ hr)

/-- linearization of a statement, any fuel: at most one substitution per node, short contexts,
    quadratic weight -/
theorem linearize_size {n : Nat} {s : Stmt} {Γ : Ctx} {m : Nat} {s' : Stmt} {m' : Nat}
    (h : linearize n s Γ m = .ok (s', m')) :
    s'.size ≤ 2 * s.size ∧ ctxCap Γ.length s' ≤ bd Γ.length s ∧
    ∀ K, 1 + 2 * bd Γ.length s ≤ K → (weight s') ≤ (weight s) + s.size * K :=
  (lin_goals n).1 s Γ m s' m' h

/-- the number of nodes of a list of definitions: one per definition plus those of its body; it is the measure
    `Core2AxCut.defsSize` of the shrinking bounds -/
def defsNodes : List Def → Nat
  | [] => 0
  | d :: ds => d.body.size + 1 + defsNodes ds

/-- the weight of a list of definitions: each counts 1, its parameters and the weight of its body -/
def defsWeight : List Def → Nat
  | [] => 0
  | d :: ds => 1 + d.ctx.length + (weight d.body) + defsWeight ds

/-- the longest context in (the code generated for) a list of linearized definitions -/
def defsCap : List Def → Nat
  | [] => 0
  | d :: ds => max (ctxCap d.ctx.length d.body) (defsCap ds)

/-- the bound for it, computed on the NON-linearized definitions:
    max over the definitions of 2·(parameters + binders on a path) + longest argument list + 1 -/
def defsBound : List Def → Nat
  | [] => 0
  | d :: ds => max (bd d.ctx.length d.body) (defsBound ds)

theorem linearizeDef_size {d d' : Def} {m m' : Nat} (h : linearizeDef d m = .ok (d', m')) :
    d'.ctx = d.ctx ∧ d'.name = d.name ∧ d'.body.size ≤ 2 * d.body.size ∧
    ctxCap d.ctx.length d'.body ≤ bd d.ctx.length d.body ∧
    ∀ K, 1 + 2 * bd d.ctx.length d.body ≤ K → (weight d'.body) ≤ (weight d.body) + d.body.size * K := by
  obtain ⟨body', hb, rfl⟩ := linearizeDef_inv h
  obtain ⟨i1, i2, i3⟩ := linearize_size hb
  obtain ⟨e1, e2, e3, e4⟩ := freeVars_measures d.body
  simp only [bd, e1, e2, e3, e4] at i1 i2 i3
  exact ⟨rfl, rfl, i1, i2, i3⟩

theorem linearizeDefs_size : ∀ {ds ds' : List Def} {m m' : Nat},
    linearizeDefs ds m = .ok (ds', m') →
    ds'.map (·.ctx) = ds.map (·.ctx) ∧ ds'.map (·.name) = ds.map (·.name) ∧
    defsNodes ds' ≤ 2 * defsNodes ds ∧ defsCap ds' ≤ defsBound ds ∧
    ∀ K, 1 + 2 * defsBound ds ≤ K → defsWeight ds' ≤ defsWeight ds + defsNodes ds * K
  | [], ds', m, m', h => by
    simp only [linearizeDefs] at h; cases h
    simp [defsNodes, defsCap, defsBound, defsWeight]
  | d :: ds, ds', m, m', h => by
    obtain ⟨d', m1, r', hd, hr, rfl⟩ := linearizeDefs_cons_inv h
    obtain ⟨a1, a2, a3, a4, a5⟩ := linearizeDef_size hd
    obtain ⟨b1, b2, b3, b4, b5⟩ := linearizeDefs_size hr
    refine ⟨by simp [a1, b1], by simp [a2, b2], ?_, ?_, fun K hK => ?_⟩
    · simp only [defsNodes]; omega
    · simp only [defsCap, defsBound, a1]; omega
    · have j1 := a5 K (by simp only [defsBound] at hK; omega)
      have j2 := b5 K (by simp only [defsBound] at hK; omega)
      simp only [defsWeight, defsNodes, a1, Nat.add_mul, Nat.one_mul]; omega

/-- C19, S4 → S5, whole programs -/
theorem linearizeProg_size {p q : Prog} (h : linearizeProg p = .ok q) :
    q.types = p.types ∧ q.defs.map (·.ctx) = p.defs.map (·.ctx) ∧
    defsNodes q.defs ≤ 2 * defsNodes p.defs ∧ defsCap q.defs ≤ defsBound p.defs ∧
    defsWeight q.defs ≤ defsWeight p.defs + defsNodes p.defs * (1 + 2 * defsBound p.defs) := by
  obtain ⟨defs, m, hd, rfl⟩ := linearizeProg_inv h
  obtain ⟨b1, _, b3, b4, b5⟩ := linearizeDefs_size hd
  exact ⟨rfl, b1, b3, b4, b5 _ (Nat.le_refl _)⟩

end Scc.AxCut.SizeLin
