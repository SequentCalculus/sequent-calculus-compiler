/-
  Scc.AxCut.LinRelSim — proof file (C05: T4 of the list in Scc/Props/C05.lean, part A): if `p'` is a linearization of `p`
  (`LinRelProg p p'`, Scc/AxCut/LinRel.lean) then the named machine on `p` and the positional
  machine on `p'` run in step, up to the explicit substitutions, which the positional machine alone
  performs (silently, one step each), hence have the same behaviour: the same traces for all fuel, and the same outcome
  whenever one of them finishes.
-/
import Scc.AxCut.LinRel
import Scc.AxCut.LinLemmas
import Scc.AxCut.PosSafe
import Scc.AxCut.SemNamed
import Scc.AxCut.NamedEnv
import Scc.AxCut.SemEq

namespace Scc.AxCut.Sim

abbrev NV := Named.Value
abbrev PV := Pos.Value

mutual
  /-- a named value and a positional value represent the same value of kind `chi`, type `ty` -/
  inductive VRel (T : List TypeDecl) (S : Sigs) : NV → PV → Chi → Ty → Prop where
    | int (n : BitVec 64) : VRel T S (.int n) (.int n) .ext .i64
    | obj {ty : Ty} {d : TypeDecl} {tag : Ident} {pos : Nat} {xt : XtorSig}
        {fs₀ : List NV} {fs' : List PV} :
        lookupTypeDecl T ty = some d → xtorPosition d tag = some pos → d.xtors[pos]? = some xt →
        FieldsRel T S fs₀ fs' xt.args.chiTys → VRel T S (.obj tag fs₀) (.obj pos fs') .prd ty
    | clo {ty : Ty} {d : TypeDecl} {ysc : List Nat} {Ec : Named.Env} {Γc : Ctx} {ρc : List PV}
        {cs₀ cs' : Clauses} :
        lookupTypeDecl T ty = some d → ClausesMatch d.xtors cs' →
        LinRelClauses T S [] ysc [] Γc cs₀ cs' → EnvRel T S ysc Ec ρc Γc.chiTys →
        VRel T S (.clo Ec cs₀) (.clo Γc ρc cs') .cns ty
  inductive FieldsRel (T : List TypeDecl) (S : Sigs) : List NV → List PV → List (Chi × Ty) → Prop where
    | nil : FieldsRel T S [] [] []
    | cons {v : NV} {w : PV} {vs : List NV} {ws : List PV} {c : Chi} {t : Ty} {cts : List (Chi × Ty)} :
        VRel T S v w c t → FieldsRel T S vs ws cts → FieldsRel T S (v :: vs) (w :: ws) ((c, t) :: cts)
  /-- `ys`, `ρ`, `cts` aligned: the named variable `ys[i]` is bound in `E` to a value represented by `ρ[i]` -/
  inductive EnvRel (T : List TypeDecl) (S : Sigs) : List Nat → Named.Env → List PV → List (Chi × Ty) → Prop where
    | nil {E : Named.Env} : EnvRel T S [] E [] []
    | cons {E : Named.Env} {y : Nat} {ys : List Nat} {v : NV} {w : PV} {ws : List PV} {c : Chi} {t : Ty}
        {cts : List (Chi × Ty)} :
        Named.lookup E y = some v → VRel T S v w c t → EnvRel T S ys E ws cts →
        EnvRel T S (y :: ys) E (w :: ws) ((c, t) :: cts)
end

variable {T : List TypeDecl} {S : Sigs}

theorem EnvRel.lengths : ∀ {ys : List Nat} {E : Named.Env} {ρ : List PV} {cts : List (Chi × Ty)},
    EnvRel T S ys E ρ cts → ys.length = cts.length ∧ ρ.length = cts.length
  | [], _, _, _, h => by cases h; exact ⟨rfl, rfl⟩
  | _ :: _, _, _, _, h => by
    cases h with
    | cons _ _ hr => have := EnvRel.lengths hr; simp [this.1, this.2]

theorem FieldsRel.lengths : ∀ {vs : List NV} {ws : List PV} {cts : List (Chi × Ty)},
    FieldsRel T S vs ws cts → vs.length = cts.length ∧ ws.length = cts.length
  | [], _, _, h => by cases h; exact ⟨rfl, rfl⟩
  | _ :: _, _, _, h => by
    cases h with
    | cons _ hr => have := FieldsRel.lengths hr; simp [this.1, this.2]

theorem EnvRel.append : ∀ {ys1 ys2 : List Nat} {E : Named.Env} {ρ1 ρ2 : List PV}
    {c1 c2 : List (Chi × Ty)}, EnvRel T S ys1 E ρ1 c1 → EnvRel T S ys2 E ρ2 c2 →
    EnvRel T S (ys1 ++ ys2) E (ρ1 ++ ρ2) (c1 ++ c2)
  | [], _, _, _, _, _, _, h1, h2 => by cases h1; simpa using h2
  | _ :: _, _, _, _, _, _, _, h1, h2 => by
    cases h1 with
    | cons hl hv hr => exact .cons hl hv (EnvRel.append hr h2)

theorem EnvRel.split : ∀ {ys : List Nat} {E : Named.Env} {ρ : List PV} (c1 : List (Chi × Ty))
    {c2 : List (Chi × Ty)}, EnvRel T S ys E ρ (c1 ++ c2) →
    EnvRel T S (ys.take c1.length) E (ρ.take c1.length) c1 ∧
    EnvRel T S (ys.drop c1.length) E (ρ.drop c1.length) c2
  | ys, E, ρ, [], _, h => by simpa using ⟨EnvRel.nil, h⟩
  | _, _, _, (c, t) :: c1, c2, h => by
    cases h with
    | cons hl hv hr =>
      obtain ⟨h1, h2⟩ := EnvRel.split c1 hr
      exact ⟨by simpa using EnvRel.cons hl hv h1, by simpa using h2⟩

/-- the environment may change as long as the listed variables keep their values -/
theorem EnvRel.env_congr : ∀ {ys : List Nat} {E E' : Named.Env} {ρ : List PV} {cts : List (Chi × Ty)},
    EnvRel T S ys E ρ cts → (∀ y ∈ ys, Named.lookup E' y = Named.lookup E y) → EnvRel T S ys E' ρ cts
  | [], _, _, _, _, h, _ => by cases h; exact .nil
  | y :: ys, _, _, _, _, h, he => by
    cases h with
    | cons hl hv hr =>
      exact .cons (by rw [he y (by simp)]; exact hl) hv
        (EnvRel.env_congr hr (fun z hz => he z (List.mem_cons_of_mem _ hz)))

theorem EnvRel.get : ∀ {ys : List Nat} {E : Named.Env} {ρ : List PV} {cts : List (Chi × Ty)},
    EnvRel T S ys E ρ cts → ∀ (i : Nat) (y : Nat) (c : Chi) (t : Ty), ys[i]? = some y →
    cts[i]? = some (c, t) → ∃ v w, Named.lookup E y = some v ∧ ρ[i]? = some w ∧ VRel T S v w c t
  | [], _, _, _, h, i, y, c, t, hy, _ => by simp at hy
  | _ :: _, _, _, _, h, i, y, c, t, hy, hc => by
    cases h with
    | cons hl hv hr =>
      cases i with
      | zero =>
        simp at hy hc
        obtain ⟨rfl, rfl⟩ := hc
        subst hy
        exact ⟨_, _, hl, rfl, hv⟩
      | succ i =>
        simp at hy hc
        obtain ⟨v, w, h1, h2, h3⟩ := EnvRel.get hr i y c t hy hc
        exact ⟨v, w, h1, by simpa using h2, h3⟩

theorem chiTys_get {Γ : Ctx} {i : Nat} {b : Binding} (h : Γ[i]? = some b) :
    (Ctx.chiTys Γ)[i]? = some (b.chi, b.ty) := by
  simp [Ctx.chiTys, List.getElem?_map, h]

theorem occ_read {ys : List Nat} {Γ : Ctx} {E : Named.Env} {ρ : List PV} {y : Nat} {x' : Ident}
    {c : Chi} {t : Ty} (ho : Occ ys Γ y x'.id c t) (he : EnvRel T S ys E ρ Γ.chiTys)
    (hn : NodupIds Γ) :
    ∃ v w, Named.lookup E y = some v ∧ Pos.readVar Γ ρ x' = .ok w ∧ VRel T S v w c t := by
  obtain ⟨i, b, h1, h2, h3, rfl, rfl⟩ := ho
  obtain ⟨v, w, h4, h5, h6⟩ := he.get i y b.chi b.ty h1 (chiTys_get h2)
  refine ⟨v, w, h4, ?_, h6⟩
  have : Pos.posOf Γ b.var.id = some i := findIdx_of_get Γ i b hn h2
  rw [h3] at this
  simp [Pos.readVar, this, h5]

theorem occ_int {ys : List Nat} {Γ : Ctx} {E : Named.Env} {ρ : List PV} {y : Nat} {x' : Ident}
    (ho : Occ ys Γ y x'.id .ext .i64) (he : EnvRel T S ys E ρ Γ.chiTys) (hn : NodupIds Γ) :
    ∃ n, Named.lookup E y = some (.int n) ∧ Pos.readInt Γ ρ x' = .ok n := by
  obtain ⟨v, w, h1, h2, h3⟩ := occ_read ho he hn
  cases h3 with
  | int n => exact ⟨n, h1, by simp [Pos.readInt, h2]⟩

theorem envRel_push {ys : List Nat} {E : Named.Env} {ρ : List PV} {cts : List (Chi × Ty)}
    (he : EnvRel T S ys E ρ cts) {x : Nat} (hx : x ∉ ys) {v : NV} {w : PV} {c : Chi} {t : Ty}
    (hv : VRel T S v w c t) :
    EnvRel T S (ys ++ [x]) ((x, v) :: E) (ρ ++ [w]) (cts ++ [(c, t)]) := by
  refine EnvRel.append (he.env_congr ?_) (.cons (Named.lookup_cons_self _ _ _) hv .nil)
  intro y hy
  exact Named.lookup_cons_ne _ _ (fun e => hx (e ▸ hy))

/-- arguments: the named machine's `lookupAll` against the aligned positions -/
theorem lookupAll_rel : ∀ (args : Ctx) {E : Named.Env} {ρ : List PV} {cts : List (Chi × Ty)},
    EnvRel T S args.ids E ρ cts → ∃ vs, Named.lookupAll E args = some vs ∧ FieldsRel T S vs ρ cts
  | [], _, _, _, h => by
    cases h; exact ⟨[], rfl, .nil⟩
  | a :: args, _, _, _, h => by
    simp only [Ctx.ids, List.map_cons] at h
    cases h with
    | cons hl hv hr =>
      obtain ⟨vs, h1, h2⟩ := lookupAll_rel args hr
      exact ⟨_ :: vs, by simp [Named.lookupAll, hl, h1], .cons hv h2⟩

/-- binding parameters: the named machine's `bindParams` -/
theorem bindParams_rel : ∀ (ctx : Ctx) {vs : List NV} {ws : List PV} (E : Named.Env),
    FieldsRel T S vs ws ctx.chiTys → NodupIds ctx →
    ∃ e, Named.bindParams ctx vs = some e ∧ EnvRel T S ctx.ids (e ++ E) ws ctx.chiTys ∧
      (∀ p ∈ e, p.1 ∈ ctx.ids)
  | [], _, _, E, h, _ => by
    simp only [Ctx.chiTys, List.map_nil] at h
    cases h
    exact ⟨[], rfl, .nil, by simp⟩
  | b :: ctx, [], _, E, h, _ => by
    simp only [Ctx.chiTys, List.map_cons] at h
    cases h
  | b :: ctx, v :: vs, _, E, h, hn => by
    simp only [Ctx.chiTys, List.map_cons] at h
    simp only [NodupIds, Ctx.ids, List.map_cons, List.nodup_cons] at hn
    cases h with
    | cons hv hr =>
      obtain ⟨e, h1, h2, h3⟩ := bindParams_rel ctx E hr hn.2
      refine ⟨(b.var.id, v) :: e, by simp [Named.bindParams, h1], ?_, ?_⟩
      · simp only [Ctx.ids, List.map_cons, Ctx.chiTys, List.cons_append]
        refine .cons (Named.lookup_cons_self _ _ _) hv (h2.env_congr ?_)
        intro y hy
        exact Named.lookup_cons_ne _ _ (fun e' => hn.1 (e' ▸ hy))
      · intro p hp
        rcases List.mem_cons.1 hp with rfl | hp
        · simp [Ctx.ids]
        · simp only [Ctx.ids, List.map_cons, List.mem_cons]; exact Or.inr (h3 p hp)

theorem evalOp_rel (o : BinOp) (a b : BitVec 64) :
    (∃ r, Named.evalOp o a b = .ok r ∧ Pos.evalOp o a b = .ok r) ∨
    (Named.evalOp o a b = .error "divByZero" ∧ Pos.evalOp o a b = .error .divByZero) ∨
    (Named.evalOp o a b = .error "overflow" ∧ Pos.evalOp o a b = .error .overflow) := by
  cases o <;> simp only [Named.evalOp, Pos.evalOp]
  · by_cases h1 : b = 0
    · right; left; simp [h1]
    · by_cases h2 : a = Pos.minInt ∧ b = -1
      · right; right
        have : a = Named.minInt := h2.1
        simp [h1, h2.2, this, Pos.minInt, Named.minInt] 
      · left
        refine ⟨a.sdiv b, ?_, by rw [if_neg h1, if_neg h2]⟩
        have h1' : (b == 0) = false := by simpa using h1
        have h2' : (a == Named.minInt && b == -1) = false := by
          simp only [Bool.and_eq_false_imp, beq_iff_eq]
          intro ha
          simpa using fun hb => h2 ⟨ha, hb⟩
        simp only [h1', h2', Bool.false_eq_true, ↓reduceIte]
  · exact Or.inl ⟨_, rfl, rfl⟩
  · by_cases h1 : b = 0
    · right; left; simp [h1]
    · by_cases h2 : a = Pos.minInt ∧ b = -1
      · right; right
        have : a = Named.minInt := h2.1
        simp [h1, h2.2, this, Pos.minInt, Named.minInt] 
      · left
        refine ⟨a.srem b, ?_, by rw [if_neg h1, if_neg h2]⟩
        have h1' : (b == 0) = false := by simpa using h1
        have h2' : (a == Named.minInt && b == -1) = false := by
          simp only [Bool.and_eq_false_imp, beq_iff_eq]
          intro ha
          simpa using fun hb => h2 ⟨ha, hb⟩
        simp only [h1', h2', Bool.false_eq_true, ↓reduceIte]
  · exact Or.inl ⟨_, rfl, rfl⟩
  · exact Or.inl ⟨_, rfl, rfl⟩

theorem go_ge (tag : Ident) : ∀ (xs : List XtorSig) (k r : Nat), xtorPosition.go tag xs k = some r → k ≤ r
  | [], _, _, h => by simp [xtorPosition.go] at h
  | x :: xs, k, r, h => by
    simp only [xtorPosition.go] at h
    split at h
    · injection h with h; omega
    · have := go_ge tag xs (k + 1) r h; omega

/-- the named machine finds the clause by its tag, the positional one by the tag's position -/
theorem clause_lookup (tag : Ident) : ∀ (xs : List XtorSig) (cs₀ cs' : Clauses) (k pos : Nat)
    (xt : XtorSig) (ysPre ysPost : List Nat) (pre post : Ctx),
    LinRelClauses T S ysPre ysPost pre post cs₀ cs' → ClausesMatch xs cs' →
    xtorPosition.go tag xs k = some (k + pos) → xs[pos]? = some xt →
    ∃ xn ctx b₀ b', Named.findClause tag cs₀ = some (ctx, b₀) ∧
      Pos.nthClause cs' pos = some ⟨xn, ctx, b'⟩ ∧ xt.args.chiTys = ctx.chiTys ∧ NodupIds ctx ∧
      (∀ i ∈ ctx.ids, i ∉ ysPre ∧ i ∉ ysPost) ∧
      LinRel T S (ysPre ++ ctx.ids ++ ysPost) (pre ++ ctx ++ post) b₀ b'
  | [], _, _, _, _, _, _, _, _, _, _, _, h, _ => by simp [xtorPosition.go] at h
  | x :: xs, cs₀, cs', k, pos, xt, ysPre, ysPost, pre, post, hr, hm, hgo, hx => by
    cases hr with
    | nil => simp [ClausesMatch] at hm
    | cons hn hf hb hrest =>
      rename_i xn ctx b₀ b' r₀ r'
      simp only [ClausesMatch] at hm
      obtain ⟨hname, hargs, hmr⟩ := hm
      simp only [xtorPosition.go] at hgo
      by_cases e : (x.name == tag) = true
      · rw [if_pos e] at hgo
        have : pos = 0 := by injection hgo with hgo; omega
        subst this
        simp only [List.getElem?_cons_zero, Option.some.injEq] at hx
        subst hx
        refine ⟨xn, ctx, b₀, b', ?_, rfl, hargs, hn, hf, hb⟩
        rw [hname] at e
        simp [Named.findClause, e]
      · rw [if_neg e] at hgo
        have hge := go_ge tag xs (k + 1) _ hgo
        obtain ⟨pos', rfl⟩ : ∃ pos', pos = pos' + 1 := ⟨pos - 1, by omega⟩
        simp only [List.getElem?_cons_succ] at hx
        have hgo' : xtorPosition.go tag xs (k + 1) = some (k + 1 + pos') := by
          rw [hgo]; congr 1; omega
        obtain ⟨xn', ctx', c₀, c', h1, h2, h3, h4, h5, h6⟩ :=
          clause_lookup tag xs r₀ r' (k + 1) pos' xt ysPre ysPost pre post hrest hmr hgo' hx
        refine ⟨xn', ctx', c₀, c', ?_, by simpa [Pos.nthClause] using h2, h3, h4, h5, h6⟩
        rw [hname] at e
        have e' : (xn == tag) = false := by simpa using e
        simp [Named.findClause, e', h1]

theorem findDef_rel : ∀ (ds ds' : List Def) (l : Ident), LinRelDefs T S ds ds' →
    ∀ d, ds.find? (fun d => d.name == l) = some d →
    ∃ d', ds'.find? (fun d => d.name == l) = some d' ∧ d'.ctx = d.ctx ∧ NodupIds d.ctx ∧
      LinRel T S d.ctx.ids d.ctx d.body d'.body
  | [], _, _, _, d, h => by simp at h
  | _ :: _, [], _, hr, _, _ => by simp [LinRelDefs] at hr
  | d0 :: ds, d0' :: ds', l, hr, d, h => by
    simp only [LinRelDefs] at hr
    obtain ⟨⟨hn, hc, hnd, hl⟩, hrest⟩ := hr
    simp only [List.find?_cons] at h ⊢
    by_cases e : (d0.name == l) = true
    · simp only [e] at h
      injection h with h
      subst h
      rw [hn]; simp only [e]
      exact ⟨d0', rfl, hc, hnd, hl⟩
    · have e' : (d0.name == l) = false := by simpa using e
      simp only [e'] at h
      rw [hn]; simp only [e']
      exact findDef_rel ds ds' l hrest d h

def StateRel (T : List TypeDecl) (S : Sigs) (sn : Named.State) (sp : Pos.State) : Prop :=
  ∃ ys, LinRel T S ys sp.ctx sn.stmt sp.stmt ∧ EnvRel T S ys sn.env sp.env sp.ctx.chiTys

/-- results of one named step and one positional step correspond; `out` = trace before the step -/
def StepRel (T : List TypeDecl) (S : Sigs) (out : List (Bool × BitVec 64)) :
    Named.StepResult → Pos.StepResult → Prop
  | .next sn', .next sp' o => StateRel T S sn' sp' ∧ sn'.out = out ++ o.toList
  | .halt out' (.done v), .done w => v = w ∧ out' = out
  | .halt out' (.stuck why), .stuck why' =>
    out' = out ∧ ((why = "divByZero" ∧ why' = .divByZero) ∨ (why = "overflow" ∧ why' = .overflow))
  | _, _ => False

section steps
variable {p p' : Prog}

theorem sim_lit {ys Γ E ρ out x k n₀ n' fv₀ fv'} (hx : x.id ∉ ys)
    (hnext : LinRel T S (ys ++ [x.id]) (Γ ++ [⟨x, .ext, .i64⟩]) n₀ n')
    (he : EnvRel T S ys E ρ Γ.chiTys) :
    StepRel T S out (Named.step p ⟨.lit x k n₀ fv₀, E, out⟩) (Pos.step p' ⟨Γ, ρ, .lit x k n' fv'⟩) := by
  simp only [Named.step, Pos.step, StepRel, Option.toList, List.append_nil, and_true]
  refine ⟨ys ++ [x.id], hnext, ?_⟩
  simp only [Pos.chiTys_append]
  exact envRel_push he hx (.int _)

theorem sim_op {ys Γ E ρ out x a₀ a' o b₀ b' n₀ n' fv₀ fv'}
    (hn : NodupIds Γ) (ha : Occ ys Γ a₀.id a'.id .ext .i64) (hb : Occ ys Γ b₀.id b'.id .ext .i64)
    (hx : x.id ∉ ys)
    (hnext : LinRel T S (ys ++ [x.id]) (Γ ++ [⟨x, .ext, .i64⟩]) n₀ n')
    (he : EnvRel T S ys E ρ Γ.chiTys) :
    StepRel T S out (Named.step p ⟨.op x a₀ o b₀ n₀ fv₀, E, out⟩)
      (Pos.step p' ⟨Γ, ρ, .op x a' o b' n' fv'⟩) := by
  obtain ⟨va, ea, ea'⟩ := occ_int ha he hn
  obtain ⟨vb, eb, eb'⟩ := occ_int hb he hn
  simp only [Named.step, Pos.step, ea, eb, ea', eb']
  rcases evalOp_rel o va vb with ⟨r, e1, e2⟩ | ⟨e1, e2⟩ | ⟨e1, e2⟩
  · simp only [e1, e2, StepRel, Option.toList, List.append_nil, and_true]
    refine ⟨ys ++ [x.id], hnext, ?_⟩
    simp only [Pos.chiTys_append]
    exact envRel_push he hx (.int _)
  · simp [e1, e2, Named.stuck, StepRel]
  · simp [e1, e2, Named.stuck, StepRel]

theorem sim_print {ys Γ E ρ out nl a₀ a' n₀ n' fv₀ fv'}
    (hn : NodupIds Γ) (ha : Occ ys Γ a₀.id a'.id .ext .i64)
    (hnext : LinRel T S ys Γ n₀ n') (he : EnvRel T S ys E ρ Γ.chiTys) :
    StepRel T S out (Named.step p ⟨.print nl a₀ n₀ fv₀, E, out⟩)
      (Pos.step p' ⟨Γ, ρ, .print nl a' n' fv'⟩) := by
  obtain ⟨va, ea, ea'⟩ := occ_int ha he hn
  simp only [Named.step, Pos.step, ea, ea', StepRel, Option.toList, and_true]
  exact ⟨ys, hnext, he⟩

theorem sim_exit {ys Γ E ρ out a₀ a'}
    (hn : NodupIds Γ) (ha : Occ ys Γ a₀.id a'.id .ext .i64) (he : EnvRel T S ys E ρ Γ.chiTys) :
    StepRel T S out (Named.step p ⟨.exit a₀, E, out⟩) (Pos.step p' ⟨Γ, ρ, .exit a'⟩) := by
  obtain ⟨va, ea, ea'⟩ := occ_int ha he hn
  simp only [Named.step, Pos.step, ea, ea', StepRel, and_self]

theorem sim_ifc {ys Γ E ρ out s a₀ a' b₀ b' t₀ t' e₀ e'}
    (hn : NodupIds Γ) (ha : Occ ys Γ a₀.id a'.id .ext .i64)
    (hb : match b₀, b' with
          | none, none => True
          | some c₀, some c' => Occ ys Γ c₀.id c'.id .ext .i64
          | _, _ => False)
    (ht : LinRel T S ys Γ t₀ t') (hel : LinRel T S ys Γ e₀ e')
    (he : EnvRel T S ys E ρ Γ.chiTys) :
    StepRel T S out (Named.step p ⟨.ifc s a₀ b₀ t₀ e₀, E, out⟩)
      (Pos.step p' ⟨Γ, ρ, .ifc s a' b' t' e'⟩) := by
  obtain ⟨va, ea, ea'⟩ := occ_int ha he hn
  cases b₀ with
  | none =>
    cases b' with
    | some _ => simp at hb
    | none =>
      simp only [Named.step, Pos.step, ea, ea', StepRel, Option.toList, List.append_nil, and_true]
      have : Named.evalCmp s va 0 = Pos.evalCmp s va 0 := rfl
      rw [this]
      split
      · exact ⟨ys, ht, he⟩
      · exact ⟨ys, hel, he⟩
  | some c₀ =>
    cases b' with
    | none => simp at hb
    | some c' =>
      simp only at hb
      obtain ⟨vb, eb, eb'⟩ := occ_int hb he hn
      simp only [Named.step, Pos.step, ea, ea', eb, eb', StepRel, Option.toList, List.append_nil,
        and_true]
      have : Named.evalCmp s va vb = Pos.evalCmp s va vb := rfl
      rw [this]
      split
      · exact ⟨ys, ht, he⟩
      · exact ⟨ys, hel, he⟩

theorem envRel_split_ctx {ys1 ys2 : List Nat} {Γ1 Γ2 : Ctx} {E : Named.Env} {ρ : List PV}
    (hl : ys1.length = Γ1.length) (he : EnvRel T S (ys1 ++ ys2) E ρ (Ctx.chiTys (Γ1 ++ Γ2))) :
    EnvRel T S ys1 E (ρ.take Γ1.length) Γ1.chiTys ∧ EnvRel T S ys2 E (ρ.drop Γ1.length) Γ2.chiTys := by
  rw [Pos.chiTys_append] at he
  obtain ⟨h1, h2⟩ := EnvRel.split (Ctx.chiTys Γ1) he
  rw [Pos.chiTys_length, ← hl] at h1 h2
  rw [List.take_left' rfl] at h1
  rw [List.drop_left' rfl] at h2
  rw [hl] at h1 h2
  exact ⟨h1, h2⟩

theorem sim_let {ys' Γ' Γa E ρ out x ty tag args₀ args' sig n₀ n' fv₀ fv'}
    (hl : ys'.length = Γ'.length) (hk : Γa.keys = args'.keys)
    (hs : lookupXtor T ty tag = some sig) (hs' : args'.chiTys = sig.chiTys)
    (hx : x.id ∉ ys')
    (hnext : LinRel T S (ys' ++ [x.id]) (Γ' ++ [⟨x, .prd, ty⟩]) n₀ n')
    (he : EnvRel T S (ys' ++ args₀.ids) E ρ (Ctx.chiTys (Γ' ++ Γa)))
    (hT : p'.types = T) :
    StepRel T S out (Named.step p ⟨.letS x ty tag args₀ n₀ fv₀, E, out⟩)
      (Pos.step p' ⟨Γ' ++ Γa, ρ, .letS x ty tag args' n' fv'⟩) := by
  obtain ⟨d, xt, i, hd, hpos, hx', hxs, htp⟩ := Pos.tagPosition_xtorPosition hs
  have hlen : args'.length = Γa.length := (Pos.length_of_keys hk).symm
  have hρ : ρ.length = (Γ' ++ Γa).length := by rw [he.lengths.2, Pos.chiTys_length]
  have hc : ¬ ((Γ' ++ Γa).length < args'.length ∨ ρ.length ≠ (Γ' ++ Γa).length) := by
    rw [hlen]; simp [hρ]
  have hnn : (Γ' ++ Γa).length - args'.length = Γ'.length := by rw [hlen]; simp
  obtain ⟨h1, h2⟩ := envRel_split_ctx hl he
  obtain ⟨vs, hv1, hv2⟩ := lookupAll_rel args₀ h2
  simp only [Named.step, Pos.step, hv1, if_neg hc, hT, htp, hnn, StepRel, Option.toList,
    List.append_nil, and_true]
  rw [List.take_left' rfl]
  refine ⟨ys' ++ [x.id], hnext, ?_⟩
  simp only [Pos.chiTys_append]
  refine envRel_push h1 hx (.obj hd hpos hx' ?_)
  rw [hxs, ← hs', ← Pos.chiTys_of_keys hk]
  exact hv2

theorem envRel_last {ys' : List Nat} {y : Nat} {Γ' : Ctx} {b : Binding} {E : Named.Env} {ρ : List PV}
    (hl : ys'.length = Γ'.length) (he : EnvRel T S (ys' ++ [y]) E ρ (Ctx.chiTys (Γ' ++ [b]))) :
    ∃ ρ' v w, ρ = ρ' ++ [w] ∧ EnvRel T S ys' E ρ' Γ'.chiTys ∧ Named.lookup E y = some v ∧
      VRel T S v w b.chi b.ty := by
  obtain ⟨h1, h2⟩ := envRel_split_ctx hl he
  cases hd : ρ.drop Γ'.length with
  | nil => rw [hd] at h2; cases h2
  | cons w rest =>
    rw [hd] at h2
    simp only [Ctx.chiTys, List.map_cons, List.map_nil] at h2
    cases h2 with
    | cons hl' hv hr =>
      cases hr
      exact ⟨ρ.take Γ'.length, _, w, by rw [← hd, List.take_append_drop], h1, hl', hv⟩

theorem sim_switch {ys' Γ' b E ρ out x₀ x' ty cs₀ cs' fv₀ fv' d}
    (hl : ys'.length = Γ'.length)
    (hb : b.key = (x'.id, .prd, ty)) (hd : lookupTypeDecl T ty = some d)
    (hm : ClausesMatch d.xtors cs') (hc : LinRelClauses T S ys' [] Γ' [] cs₀ cs')
    (he : EnvRel T S (ys' ++ [x₀.id]) E ρ (Ctx.chiTys (Γ' ++ [b]))) :
    StepRel T S out (Named.step p ⟨.switch x₀ ty cs₀ fv₀, E, out⟩)
      (Pos.step p' ⟨Γ' ++ [b], ρ, .switch x' ty cs' fv'⟩) := by
  obtain ⟨ρ', v, w, rfl, h1, hlk, hv⟩ := envRel_last hl he
  have hbid : b.var.id = x'.id := congrArg (·.1) hb
  have hbchi : b.chi = .prd := congrArg (·.2.1) hb
  have hbty : b.ty = ty := congrArg (·.2.2) hb
  rw [hbchi, hbty] at hv
  have hlen : (ρ' ++ [w]).length = (Γ' ++ [b]).length := by
    rw [he.lengths.2, Pos.chiTys_length]
  have hcnd : ¬ (b.var.id ≠ x'.id ∨ (ρ' ++ [w]).length ≠ (Γ' ++ [b]).length) := by
    simp [hbid, hlen]
  cases hv with
  | obj hd' hpos hx hf =>
    rename_i d' tag pos xt fs₀ fs'
    have := Pos.lookupTypeDecl_unique hd hd'
    subst this
    have hgo : xtorPosition.go tag d.xtors 0 = some (0 + pos) := by simpa [xtorPosition] using hpos
    obtain ⟨xn, ctx, b₀, b', hc1, hc2, hc3, hc4, hc5, hc6⟩ :=
      clause_lookup tag d.xtors cs₀ cs' 0 pos xt ys' [] Γ' [] hc hm hgo hx
    rw [hc3] at hf
    obtain ⟨e, hb1, hb2, hb3⟩ := bindParams_rel ctx E hf hc4
    have hfl : fs'.length = ctx.length := by rw [hf.lengths.2, Pos.chiTys_length]
    simp only [Named.step, Pos.step, hlk, hc1, hb1, List.getLast?_concat, if_neg hcnd, hc2, hfl,
      ne_eq, not_true_eq_false, if_false, List.dropLast_concat, StepRel, Option.toList,
      List.append_nil, and_true]
    refine ⟨ys' ++ ctx.ids, by simpa using hc6, ?_⟩
    simp only [Pos.chiTys_append]
    refine EnvRel.append (h1.env_congr ?_) hb2
    intro y hy
    refine Named.lookup_append_of_not_mem fun hm => ?_
    obtain ⟨q, hq, e'⟩ := List.mem_map.1 hm
    exact (hc5 _ (hb3 q hq)).1 (e' ▸ hy)

theorem sim_create {ysn yse Γn Γe Γc E ρ out x ty cs₀ cs' n₀ n' fc₀ fn₀ fc' fn' d}
    (hl : ysn.length = Γn.length) (hk : Γe.keys = Γc.keys)
    (hd : lookupTypeDecl T ty = some d) (hm : ClausesMatch d.xtors cs')
    (hc : LinRelClauses T S [] yse [] Γc cs₀ cs') (hx : x.id ∉ ysn)
    (hnext : LinRel T S (ysn ++ [x.id]) (Γn ++ [⟨x, .cns, ty⟩]) n₀ n')
    (he : EnvRel T S (ysn ++ yse) E ρ (Ctx.chiTys (Γn ++ Γe))) :
    StepRel T S out (Named.step p ⟨.create x ty none cs₀ n₀ fc₀ fn₀, E, out⟩)
      (Pos.step p' ⟨Γn ++ Γe, ρ, .create x ty (some Γc) cs' n' fc' fn'⟩) := by
  have hlen : Γc.length = Γe.length := (Pos.length_of_keys hk).symm
  have hρ : ρ.length = (Γn ++ Γe).length := by rw [he.lengths.2, Pos.chiTys_length]
  have hcnd : ¬ ((Γn ++ Γe).length < Γc.length ∨ ρ.length ≠ (Γn ++ Γe).length) := by
    rw [hlen]; simp [hρ]
  have hnn : (Γn ++ Γe).length - Γc.length = Γn.length := by rw [hlen]; simp
  obtain ⟨h1, h2⟩ := envRel_split_ctx hl he
  simp only [Named.step, Pos.step, if_neg hcnd, hnn, StepRel, Option.toList, List.append_nil,
    and_true]
  rw [List.take_left' rfl]
  refine ⟨ysn ++ [x.id], hnext, ?_⟩
  simp only [Pos.chiTys_append]
  refine envRel_push h1 hx (.clo hd hm hc ?_)
  rw [← Pos.chiTys_of_keys hk]
  exact h2

theorem sim_invoke {Γa b E ρ out x₀ x' tag ty args₀ args' sig}
    (hl : args₀.length = Γa.length)
    (hb : b.key = (x'.id, .cns, ty)) (hs : lookupXtor T ty tag = some sig)
    (hs' : Ctx.chiTys Γa = sig.chiTys)
    (he : EnvRel T S (args₀.ids ++ [x₀.id]) E ρ (Ctx.chiTys (Γa ++ [b])))
    (hT : p'.types = T) :
    StepRel T S out (Named.step p ⟨.invoke x₀ tag ty args₀, E, out⟩)
      (Pos.step p' ⟨Γa ++ [b], ρ, .invoke x' tag ty args'⟩) := by
  have hl' : args₀.ids.length = Γa.length := by simpa [Ctx.ids] using hl
  obtain ⟨ρ', v, w, rfl, h1, hlk, hv⟩ := envRel_last hl' he
  have hbid : b.var.id = x'.id := congrArg (·.1) hb
  have hbchi : b.chi = .cns := congrArg (·.2.1) hb
  have hbty : b.ty = ty := congrArg (·.2.2) hb
  rw [hbchi, hbty] at hv
  have hlen : (ρ' ++ [w]).length = (Γa ++ [b]).length := by
    rw [he.lengths.2, Pos.chiTys_length]
  have hcnd : ¬ (b.var.id ≠ x'.id ∨ (ρ' ++ [w]).length ≠ (Γa ++ [b]).length) := by
    simp [hbid, hlen]
  obtain ⟨d, xt, i, hd, hpos, hx, hxs, htp⟩ := Pos.tagPosition_xtorPosition hs
  obtain ⟨vs, hv1, hv2⟩ := lookupAll_rel args₀ h1
  cases hv with
  | clo hd' hm hc hec =>
    rename_i d' ysc Ec Γc ρc cs₀ cs'
    have := Pos.lookupTypeDecl_unique hd hd'
    subst this
    have hgo : xtorPosition.go tag d.xtors 0 = some (0 + i) := by simpa [xtorPosition] using hpos
    obtain ⟨xn, ctx, b₀, b', hc1, hc2, hc3, hc4, hc5, hc6⟩ :=
      clause_lookup tag d.xtors cs₀ cs' 0 i xt [] ysc [] Γc hc hm hgo hx
    have hcts : Ctx.chiTys Γa = ctx.chiTys := by rw [hs', ← hxs, hc3]
    rw [hcts] at hv2
    obtain ⟨e, hb1, hb2, hb3⟩ := bindParams_rel ctx Ec hv2 hc4
    have hal : (Γa ++ [b]).length - 1 = ctx.length := by
      have : Γa.length = ctx.length := by
        rw [← Pos.chiTys_length Γa, hcts, Pos.chiTys_length]
      simp [this]
    simp only [Named.step, Pos.step, hlk, hc1, hv1, hb1, List.getLast?_concat, if_neg hcnd, hT,
      htp, hc2, hal, ne_eq, not_true_eq_false, if_false, List.dropLast_concat, StepRel,
      Option.toList, List.append_nil, and_true]
    refine ⟨ctx.ids ++ ysc, by simpa using hc6, ?_⟩
    simp only [Pos.chiTys_append]
    refine EnvRel.append hb2 (hec.env_congr ?_)
    intro y hy
    refine Named.lookup_append_of_not_mem fun hm => ?_
    obtain ⟨q, hq, e'⟩ := List.mem_map.1 hm
    exact (hc5 _ (hb3 q hq)).2 (e' ▸ hy)

theorem sim_call {ys Γ E ρ out l args₀ args' params}
    (hf : findSig S l = some params) (hc : Γ.chiTys = params.chiTys) (ha : args₀.ids = ys)
    (he : EnvRel T S ys E ρ Γ.chiTys)
    (hS : p.sigs = S) (hdefs : LinRelDefs T S p.defs p'.defs) :
    StepRel T S out (Named.step p ⟨.call l args₀, E, out⟩) (Pos.step p' ⟨Γ, ρ, .call l args'⟩) := by
  subst hS
  obtain ⟨d₀, hd₀, hctx, _⟩ := Pos.findDef_ok hf
  obtain ⟨d', hd', hc', hnd, hlin⟩ := findDef_rel p.defs p'.defs l hdefs d₀ hd₀
  subst ha
  obtain ⟨vs, hv1, hv2⟩ := lookupAll_rel args₀ he
  have hcts : Ctx.chiTys Γ = d₀.ctx.chiTys := by rw [hc, hctx]
  rw [hcts] at hv2
  obtain ⟨e, hb1, hb2, _⟩ := bindParams_rel d₀.ctx [] hv2 hnd
  have hρ : ρ.length = Γ.length := by rw [he.lengths.2, Pos.chiTys_length]
  have hcnd : ¬ (Pos.chiTys Γ ≠ Pos.chiTys d'.ctx ∨ ρ.length ≠ Γ.length) := by
    have : Pos.chiTys Γ = Pos.chiTys d'.ctx := by rw [hc']; exact hcts
    simp [this, hρ]
  have hd₀' : Named.findDef p l = some d₀ := hd₀
  have hd'' : Pos.findDef p'.defs l = some d' := hd'
  simp only [Named.step, Pos.step, hd₀', hv1, hb1, hd'', if_neg hcnd, StepRel, Option.toList,
    List.append_nil, and_true]
  refine ⟨d₀.ctx.ids, by rw [hc']; exact hlin, ?_⟩
  rw [hc']
  simpa using hb2

/-- the explicit substitution: the positional machine rebuilds its environment, the named machine
does not move -/
theorem build_rel {ys : List Nat} {Γ : Ctx} {E : Named.Env} {ρ : List PV}
    (he : EnvRel T S ys E ρ Γ.chiTys) (hn : NodupIds Γ) :
    ∀ (ys₁ : List Nat) (pairs : List (Binding × Ident)), Rearr ys Γ ys₁ pairs →
      ∃ vs, Pos.step.build Γ ρ pairs = .ok vs ∧
        EnvRel T S ys₁ E vs (Ctx.chiTys (pairs.map (·.1)))
  | [], [], _ => ⟨[], by simp [Pos.step.build], by simpa [Ctx.chiTys] using EnvRel.nil⟩
  | [], _ :: _, h => by simp [Rearr] at h
  | _ :: _, [], h => by simp [Rearr] at h
  | y :: ys₁, q :: pairs, h => by
    simp only [Rearr] at h
    obtain ⟨v, w, h1, h2, h3⟩ := occ_read h.1 he hn
    obtain ⟨vs, h4, h5⟩ := build_rel he hn ys₁ pairs h.2
    refine ⟨w :: vs, by simp [Pos.step.build, h2, h4], ?_⟩
    simpa [Ctx.chiTys] using EnvRel.cons h1 h3 h5

theorem sim_subst {ys ys₁ Γ E ρ pairs s₀ s' out} (hn : NodupIds Γ)
    (hr : Rearr ys Γ ys₁ pairs) (hnext : LinRel T S ys₁ (pairs.map (·.1)) s₀ s')
    (he : EnvRel T S ys E ρ Γ.chiTys) :
    ∃ sp', Pos.step p' ⟨Γ, ρ, .subst pairs s'⟩ = .next sp' none ∧ sp'.stmt = s' ∧
      StateRel T S ⟨s₀, E, out⟩ sp' := by
  obtain ⟨vs, h1, h2⟩ := build_rel he hn ys₁ pairs hr
  exact ⟨⟨pairs.map (·.1), vs, s'⟩, by simp only [Pos.step, h1], rfl, ys₁, hnext, h2⟩

def isSubst : Stmt → Bool
  | .subst _ _ => true
  | _ => false

/-- one step of the simulation: either the positional machine performs an explicit substitution
(and the named machine waits), or both machines do corresponding steps -/
theorem sim_step (hT : p'.types = T) (hS : p.sigs = S) (hdefs : LinRelDefs T S p.defs p'.defs)
    (sn : Named.State) (sp : Pos.State) (h : StateRel T S sn sp) :
    (isSubst sp.stmt = true ∧ ∃ sp', Pos.step p' sp = .next sp' none ∧
        sp'.stmt.size < sp.stmt.size ∧ StateRel T S sn sp') ∨
    (isSubst sp.stmt = false ∧ StepRel T S sn.out (Named.step p sn) (Pos.step p' sp)) := by
  obtain ⟨s₀, E, out⟩ := sn
  obtain ⟨Γ, ρ, s'⟩ := sp
  obtain ⟨ys, hl, he⟩ := h
  simp only at hl he
  cases hl with
  | subst hn _ hr _ hnext =>
    left
    obtain ⟨sp', h1, h2, h3⟩ := sim_subst (p' := p') (out := out) hn hr hnext he
    exact ⟨rfl, sp', h1, by rw [h2]; simp only [Stmt.size]; omega, h3⟩
  | call hn _ hf hc ha => exact Or.inr ⟨rfl, sim_call hf hc ha he hS hdefs⟩
  | letS hn e1 e2 hlen hk hs hs' _ hx hnext =>
    subst e1; subst e2; exact Or.inr ⟨rfl, sim_let hlen hk hs hs' hx hnext he hT⟩
  | switch hn e1 e2 hlen hb hd hm hc =>
    subst e1; subst e2; exact Or.inr ⟨rfl, sim_switch hlen hb hd hm hc he⟩
  | create hn e1 e2 hlen hk hd hm hc _ hx hnext =>
    subst e1; subst e2; exact Or.inr ⟨rfl, sim_create hlen hk hd hm hc hx hnext he⟩
  | invoke hn e1 e2 hlen hb hs hs' =>
    subst e1; subst e2; exact Or.inr ⟨rfl, sim_invoke hlen hb hs hs' he hT⟩
  | lit hn hlen _ hx hnext => exact Or.inr ⟨rfl, sim_lit hx hnext he⟩
  | op hn _ ha hb _ hx hnext => exact Or.inr ⟨rfl, sim_op hn ha hb hx hnext he⟩
  | print hn _ ha hnext => exact Or.inr ⟨rfl, sim_print hn ha hnext he⟩
  | ifc hn _ ha hb ht hel => exact Or.inr ⟨rfl, sim_ifc hn ha hb ht hel he⟩
  | exit hn _ ha => exact Or.inr ⟨rfl, sim_exit hn ha he⟩

end steps

section runs
variable {p p' : Prog}

/-- forward: whatever the named machine has printed within `n` steps, the positional machine has printed
    (exactly that) within some `m` steps; if the named run has finished, so has the positional one, with
    the same outcome -/
theorem sim_forward (hT : p'.types = T) (hS : p.sigs = S) (hdefs : LinRelDefs T S p.defs p'.defs) :
    ∀ (n : Nat) (sn : Named.State) (k : Nat) (sp : Pos.State) (acc : List (Bool × BitVec 64)),
      sp.stmt.size ≤ k → StateRel T S sn sp → sn.out = acc.reverse →
      ∃ m, (Pos.runState p' m sp acc).out = (Named.iterate p n sn).out ∧
        (finishedNamed (Named.iterate p n sn).res →
          sameOutcome (Named.iterate p n sn).res (Pos.runState p' m sp acc).res) := by
  intro n
  induction n with
  | zero =>
    intro sn k sp acc _ _ hout
    exact ⟨0, by simp [Named.iterate, Pos.runState, hout], fun hf => by simp [Named.iterate, finishedNamed] at hf⟩
  | succ n ih =>
    intro sn k
    induction k with
    | zero =>
      intro sp acc hk
      have : sp.stmt.size ≥ 1 := by cases sp.stmt <;> simp [Stmt.size]
      omega
    | succ k ihk =>
      intro sp acc hk h hout
      rcases sim_step hT hS hdefs sn sp h with ⟨_, sp', h1, h2, h3⟩ | ⟨_, hstep⟩
      · obtain ⟨m, hm1, hm2⟩ := ihk sp' acc (by omega) h3 hout
        exact ⟨m + 1, by simpa [Pos.runState, h1] using hm1, by simpa [Pos.runState, h1] using hm2⟩
      · simp only [Named.iterate]
        cases hn : Named.step p sn with
        | next sn' =>
          rw [hn] at hstep
          simp only
          cases hp : Pos.step p' sp with
          | done _ => rw [hp] at hstep; simp [StepRel] at hstep
          | stuck _ => rw [hp] at hstep; simp [StepRel] at hstep
          | next sp' o =>
            rw [hp] at hstep
            simp only [StepRel] at hstep
            obtain ⟨hrel, hout'⟩ := hstep
            cases o with
            | none =>
              obtain ⟨m, hm1, hm2⟩ := ih sn' sp'.stmt.size sp' acc (Nat.le_refl _) hrel
                (by rw [hout', hout]; simp)
              exact ⟨m + 1, by simpa [Pos.runState, hp] using hm1,
                by simpa [Pos.runState, hp] using hm2⟩
            | some x =>
              obtain ⟨m, hm1, hm2⟩ := ih sn' sp'.stmt.size sp' (x :: acc) (Nat.le_refl _) hrel
                (by rw [hout', hout]; simp)
              exact ⟨m + 1, by simpa [Pos.runState, hp] using hm1,
                by simpa [Pos.runState, hp] using hm2⟩
        | halt out r =>
          rw [hn] at hstep
          simp only
          cases r with
          | outOfFuel => cases hp : Pos.step p' sp <;> rw [hp] at hstep <;> simp [StepRel] at hstep
          | done v =>
            cases hp : Pos.step p' sp with
            | next _ _ => rw [hp] at hstep; simp [StepRel] at hstep
            | stuck _ => rw [hp] at hstep; simp [StepRel] at hstep
            | done w =>
              rw [hp] at hstep
              simp only [StepRel] at hstep
              refine ⟨1, ?_, fun _ => ?_⟩
              · simp [Pos.runState, hp, hstep.2, hout]
              · simp [Pos.runState, hp, sameOutcome, hstep.1]
          | stuck why =>
            cases hp : Pos.step p' sp with
            | next _ _ => rw [hp] at hstep; simp [StepRel] at hstep
            | done _ => rw [hp] at hstep; simp [StepRel] at hstep
            | stuck why' =>
              rw [hp] at hstep
              simp only [StepRel] at hstep
              refine ⟨1, ?_, fun _ => ?_⟩
              · simp [Pos.runState, hp, hstep.1, hout]
              · simpa [Pos.runState, hp, sameOutcome] using hstep.2

/-- backward: whatever the positional machine has printed within `m` steps, the named machine has printed
    within some `n` steps; if the positional run has finished, so has the named one, with the same outcome -/
theorem sim_backward (hT : p'.types = T) (hS : p.sigs = S) (hdefs : LinRelDefs T S p.defs p'.defs) :
    ∀ (m : Nat) (sn : Named.State) (sp : Pos.State) (acc : List (Bool × BitVec 64)),
      StateRel T S sn sp → sn.out = acc.reverse →
      ∃ n, (Pos.runState p' m sp acc).out = (Named.iterate p n sn).out ∧
        (finishedPos (Pos.runState p' m sp acc).res →
          sameOutcome (Named.iterate p n sn).res (Pos.runState p' m sp acc).res) := by
  intro m
  induction m with
  | zero =>
    intro sn sp acc _ hout
    exact ⟨0, by simp [Named.iterate, Pos.runState, hout], fun hf => by simp [Pos.runState, finishedPos] at hf⟩
  | succ m ih =>
    intro sn sp acc h hout
    rcases sim_step hT hS hdefs sn sp h with ⟨_, sp', h1, _, h3⟩ | ⟨_, hstep⟩
    · simp only [Pos.runState, h1]
      exact ih sn sp' acc h3 hout
    · cases hp : Pos.step p' sp with
      | next sp' o =>
        rw [hp] at hstep
        simp only [Pos.runState, hp]
        cases hn : Named.step p sn with
        | halt _ r => rw [hn] at hstep; cases r <;> simp [StepRel] at hstep
        | next sn' =>
          rw [hn] at hstep
          simp only [StepRel] at hstep
          obtain ⟨hrel, hout'⟩ := hstep
          cases o with
          | none =>
            obtain ⟨n, hn1, hn2⟩ := ih sn' sp' acc hrel (by rw [hout', hout]; simp)
            exact ⟨n + 1, by simpa [Named.iterate, hn] using hn1,
              by simpa [Named.iterate, hn] using hn2⟩
          | some x =>
            obtain ⟨n, hn1, hn2⟩ := ih sn' sp' (x :: acc) hrel (by rw [hout', hout]; simp)
            exact ⟨n + 1, by simpa [Named.iterate, hn] using hn1,
              by simpa [Named.iterate, hn] using hn2⟩
      | done w =>
        rw [hp] at hstep
        cases hn : Named.step p sn with
        | next _ => rw [hn] at hstep; simp [StepRel] at hstep
        | halt out r =>
          rw [hn] at hstep
          cases r with
          | outOfFuel => simp [StepRel] at hstep
          | stuck _ => simp [StepRel] at hstep
          | done v =>
            simp only [StepRel] at hstep
            refine ⟨1, ?_, fun _ => ?_⟩
            · simp [Pos.runState, hp, Named.iterate, hn, hstep.2, hout]
            · simp [Pos.runState, hp, Named.iterate, hn, sameOutcome, hstep.1]
      | stuck why' =>
        rw [hp] at hstep
        cases hn : Named.step p sn with
        | next _ => rw [hn] at hstep; simp [StepRel] at hstep
        | halt out r =>
          rw [hn] at hstep
          cases r with
          | outOfFuel => simp [StepRel] at hstep
          | done _ => simp [StepRel] at hstep
          | stuck why =>
            simp only [StepRel] at hstep
            refine ⟨1, ?_, fun _ => ?_⟩
            · simp [Pos.runState, hp, Named.iterate, hn, hstep.1, hout]
            · simpa [Pos.runState, hp, Named.iterate, hn, sameOutcome] using hstep.2

theorem bindParams_length : ∀ (ctx : Ctx) (vs : List NV) (e : Named.Env),
    Named.bindParams ctx vs = some e → ctx.length = vs.length
  | [], [], _, _ => rfl
  | [], _ :: _, _, h => by simp [Named.bindParams] at h
  | _ :: _, [], _, h => by simp [Named.bindParams] at h
  | b :: ctx, v :: vs, e, h => by
    simp only [Named.bindParams] at h
    cases hb : Named.bindParams ctx vs with
    | none => simp [hb] at h
    | some e' => simp [bindParams_length ctx vs e' hb]

theorem ints_rel : ∀ (Γ : Ctx) (args : List (BitVec 64)), Γ.length = args.length →
    (∀ b ∈ Γ, b.chi = .ext ∧ b.ty = .i64) →
    FieldsRel T S (args.map Named.Value.int) (args.map Pos.Value.int) Γ.chiTys
  | [], [], _, _ => by simpa [Ctx.chiTys] using FieldsRel.nil
  | [], _ :: _, h, _ => by simp at h
  | _ :: _, [], h, _ => by simp at h
  | b :: Γ, a :: as, h, hb => by
    have h0 := hb b (by simp)
    have := ints_rel Γ as (by simpa using h) (fun c hc => hb c (List.mem_cons_of_mem _ hc))
    simp only [Ctx.chiTys, List.map_cons, h0.1, h0.2]
    exact .cons (.int a) this

/-- T4, part A: if `p'` is a linearization of `p` (in the sense of `LinRelProg`) and the entry
takes integers, the named machine on `p` and the positional machine on `p'` run in step up to silent substitution
steps of the latter: for all
fuel, whatever one of them has printed the other has printed within some fuel, and a finished run of one
is matched by a run of the other with the same outcome. -/
theorem linRelProg_runs (p p' : Prog) (args : List (BitVec 64)) (h : LinRelProg p p')
    (hmain : ∀ d, p.defs.head? = some d → ∀ b ∈ d.ctx, b.chi = .ext ∧ b.ty = .i64) :
    (∀ n, ∃ m, (Pos.run p' args m).out = (Named.run p args n).out ∧
      (finishedNamed (Named.run p args n).res →
        sameOutcome (Named.run p args n).res (Pos.run p' args m).res)) ∧
    (∀ m, ∃ n, (Pos.run p' args m).out = (Named.run p args n).out ∧
      (finishedPos (Pos.run p' args m).res →
        sameOutcome (Named.run p args n).res (Pos.run p' args m).res)) := by
  obtain ⟨hT, _, hdefs⟩ := h
  cases hd : p.defs with
  | nil =>
    cases hd' : p'.defs with
    | nil =>
      exact ⟨fun n => ⟨0, by simp [Named.run, Pos.run, hd, hd', finishedNamed]⟩,
        fun m => ⟨0, by simp [Named.run, Pos.run, hd, hd', finishedPos]⟩⟩
    | cons _ _ => rw [hd, hd'] at hdefs; simp [LinRelDefs] at hdefs
  | cons d ds =>
    cases hd' : p'.defs with
    | nil => rw [hd, hd'] at hdefs; simp [LinRelDefs] at hdefs
    | cons d' ds' =>
      have hdefs' := hdefs
      rw [hd, hd'] at hdefs'
      simp only [LinRelDefs] at hdefs'
      obtain ⟨⟨_, hctx, hnd, hlin⟩, _⟩ := hdefs'
      by_cases hlen : d.ctx.length = args.length
      · have hfr := ints_rel (T := p.types) (S := p.sigs) d.ctx args hlen (hmain d (by simp [hd]))
        obtain ⟨env, hb1, hb2, _⟩ := bindParams_rel d.ctx [] hfr hnd
        have hrel : StateRel p.types p.sigs ⟨d.body, env, []⟩ ⟨d'.ctx, args.map .int, d'.body⟩ :=
          ⟨d.ctx.ids, by rw [hctx]; exact hlin, by rw [hctx]; simpa using hb2⟩
        have hc : ¬ (d'.ctx.length ≠ args.length) := by rw [hctx]; simp [hlen]
        constructor
        · intro n
          simp only [Named.run, hd, hb1]
          obtain ⟨m, hm1, hm2⟩ := sim_forward hT rfl hdefs n _ _ _ [] (Nat.le_refl _) hrel rfl
          exact ⟨m, by simpa [Pos.run, hd', if_neg hc] using hm1,
            by simpa [Pos.run, hd', if_neg hc] using hm2⟩
        · intro m
          simp only [Pos.run, hd', if_neg hc]
          obtain ⟨n, hn1, hn2⟩ := sim_backward hT rfl hdefs m _ _ [] hrel rfl
          exact ⟨n, by simpa [Named.run, hd, hb1] using hn1, by simpa [Named.run, hd, hb1] using hn2⟩
      · -- wrong number of arguments: both machines refuse to start
        have hc : d'.ctx.length ≠ args.length := by rw [hctx]; exact hlen
        have hnone : Named.bindParams d.ctx (args.map Named.Value.int) = none := by
          cases hb : Named.bindParams d.ctx (args.map Named.Value.int) with
          | none => rfl
          | some e => exact absurd (by simpa using bindParams_length _ _ _ hb) hlen
        exact ⟨fun n => ⟨0, by simp [Named.run, Pos.run, hd, hd', hc, hnone, finishedNamed]⟩,
          fun m => ⟨0, by simp [Named.run, Pos.run, hd, hd', hc, hnone, finishedPos]⟩⟩

/-- every finished run of one machine is matched by a run of the other with the same trace and the same
outcome -/
theorem linRelProg_sem (p p' : Prog) (args : List (BitVec 64)) (h : LinRelProg p p')
    (hmain : ∀ d, p.defs.head? = some d → ∀ b ∈ d.ctx, b.chi = .ext ∧ b.ty = .i64) :
    (∀ n, finishedNamed (Named.run p args n).res →
      ∃ m, (Pos.run p' args m).out = (Named.run p args n).out ∧
        sameOutcome (Named.run p args n).res (Pos.run p' args m).res) ∧
    (∀ m, finishedPos (Pos.run p' args m).res →
      ∃ n, (Pos.run p' args m).out = (Named.run p args n).out ∧
        sameOutcome (Named.run p args n).res (Pos.run p' args m).res) := by
  obtain ⟨h1, h2⟩ := linRelProg_runs p p' args h hmain
  exact ⟨fun n hf => (h1 n).imp fun m hm => ⟨hm.1, hm.2 hf⟩,
    fun m hf => (h2 m).imp fun n hn => ⟨hn.1, hn.2 hf⟩⟩

/-- the traces of the two runs, for all fuel, in both directions -/
theorem linRelProg_traces (p p' : Prog) (args : List (BitVec 64)) (h : LinRelProg p p')
    (hmain : ∀ d, p.defs.head? = some d → ∀ b ∈ d.ctx, b.chi = .ext ∧ b.ty = .i64) :
    (∀ n, ∃ m, (Pos.run p' args m).out = (Named.run p args n).out) ∧
    (∀ m, ∃ n, (Pos.run p' args m).out = (Named.run p args n).out) := by
  obtain ⟨h1, h2⟩ := linRelProg_runs p p' args h hmain
  exact ⟨fun n => (h1 n).imp fun m hm => hm.1, fun m => (h2 m).imp fun n hn => hn.1⟩

end runs

end Scc.AxCut.Sim
