/-
  Scc.AxCut.LinLemmas — proof file (C05: T1 of the list in Scc/Props/C05.lean): lemmas on positions in a context with distinct ids, on
  `filterBySet`, `freshen` and the id-substitution of Scc/AxCut/Linearize.lean; the equations of `linearize`, one
  per statement form.
-/
import Scc.AxCut.LinTyping

namespace Scc.AxCut

/-- in a context with distinct ids, the binding at position `i` is found at `i` -/
theorem findIdx_of_get : ∀ (Γ : Ctx) (i : Nat) (b : Binding), NodupIds Γ → Γ[i]? = some b →
    Γ.findIdx? (fun c => c.var.id == b.var.id) = some i
  | [], i, b, _, h => by simp at h
  | c :: Γ, 0, b, _, h => by
    simp at h; subst h
    simp [List.findIdx?_cons]
  | c :: Γ, i + 1, b, hn, h => by
    simp only [NodupIds, Ctx.ids, List.map_cons, List.nodup_cons] at hn
    simp only [List.getElem?_cons_succ] at h
    have hmem : b ∈ Γ := List.mem_of_getElem? h
    have hne : (c.var.id == b.var.id) = false := by
      have : c.var.id ≠ b.var.id := fun e => hn.1 (e ▸ List.mem_map.2 ⟨b, hmem, rfl⟩)
      simpa using this
    have ih := findIdx_of_get Γ i b hn.2 h
    simp [List.findIdx?_cons, hne, ih]

/-- the predicate `set.contains(&binding.var.id)` -/
def inSet (S : List Nat) (b : Binding) : Bool := S.contains b.var.id

theorem filterWhile_spec (S : List Nat) (pre : List Binding) (b : Binding) :
    ∀ (n : Nat) (m : List Binding), n = (pre ++ b :: m).length →
      (∃ l m0 junk, m = m0 ++ l :: junk ∧ inSet S l = true ∧ (∀ j ∈ junk, inSet S j = false) ∧
          filterWhile S pre.length n (pre ++ b :: m) = (pre ++ l :: m0, true))
      ∨ ((∀ j ∈ m, inSet S j = false) ∧
          filterWhile S pre.length n (pre ++ b :: m) = (pre ++ [b], false)) := by
  intro n
  induction n with
  | zero => intro m h; simp at h
  | succ n ih =>
    intro m h
    rcases List.eq_nil_or_concat m with rfl | ⟨m', l, hm⟩
    · right
      refine ⟨by simp, ?_⟩
      simp [filterWhile]
    · rw [List.concat_eq_append] at hm
      subst hm
      have e : pre ++ b :: (m' ++ [l]) = (pre ++ b :: m') ++ [l] := by simp
      have hlen : n = (pre ++ b :: m').length := by simp at h ⊢; omega
      unfold filterWhile
      rw [e]
      have hc : ((pre ++ b :: m') ++ [l]).length - 1 > pre.length := by simp
      simp only [hc, if_true, List.getLast?_concat, List.dropLast_concat]
      by_cases hl : S.contains l.var.id = true
      · left
        refine ⟨l, m', [], by simp, hl, by simp, ?_⟩
        rw [if_pos hl]
        have : (pre ++ b :: m').set pre.length l = pre ++ l :: m' := by simp
        rw [this]
      · have hl' : inSet S l = false := by simpa [inSet] using hl
        rw [if_neg hl]
        rcases ih m' hlen with ⟨l0, m0, junk, hm, h1, h2, h3⟩ | ⟨h1, h2⟩
        · left
          refine ⟨l0, m0, junk ++ [l], by simp [hm], h1, ?_, h3⟩
          intro j hj
          rcases List.mem_append.1 hj with hj | hj
          · exact h2 j hj
          · simp at hj; subst hj; exact hl'
        · right
          refine ⟨?_, h2⟩
          intro j hj
          rcases List.mem_append.1 hj with hj | hj
          · exact h1 j hj
          · simp at hj; subst hj; exact hl'

theorem filterLoop_perm (S : List Nat) :
    ∀ (rest pre mid tail : List Binding), rest = mid ++ tail →
      (filterLoop S rest pre.length (pre ++ mid)).Perm (pre ++ mid.filter (inSet S)) := by
  intro rest
  induction rest with
  | nil =>
    intro pre mid tail h
    have : mid = [] := by
      cases mid with
      | nil => rfl
      | cons a b => simp at h
    subst this
    simp [filterLoop]
  | cons b rest ih =>
    intro pre mid tail h
    cases mid with
    | nil => simp [filterLoop]
    | cons b' mid' =>
      have hb : b = b' := by simp at h; exact h.1
      have hrest : rest = mid' ++ tail := by simp at h; exact h.2
      subst hb
      unfold filterLoop
      have hc : ¬ (pre.length ≥ (pre ++ b :: mid').length) := by simp
      rw [if_neg hc]
      by_cases hin : S.contains b.var.id = true
      · have : (!S.contains b.var.id) = false := by rw [hin]; rfl
        simp only [this, Bool.false_eq_true, if_false]
        have hb' : inSet S b = true := hin
        have e1 : pre ++ b :: mid' = (pre ++ [b]) ++ mid' := by simp
        have e2 : pre.length + 1 = (pre ++ [b]).length := by simp
        rw [e1, e2]
        refine (ih (pre ++ [b]) mid' tail hrest).trans ?_
        simp [List.filter_cons, hb']
      · have hnb : inSet S b = false := by simpa [inSet] using hin
        have hin' : S.contains b.var.id = false := Bool.eq_false_iff.2 hin
        have : (!S.contains b.var.id) = true := by rw [hin']; rfl
        simp only [this, if_true]
        rcases filterWhile_spec S pre b _ mid' rfl with ⟨l, m0, junk, hm, h1, h2, h3⟩ | ⟨h1, h2⟩
        · rw [h3]
          simp only [Bool.not_true, Bool.false_eq_true, if_false]
          have e1 : pre ++ l :: m0 = (pre ++ [l]) ++ m0 := by simp
          have e2 : pre.length + 1 = (pre ++ [l]).length := by simp
          rw [e1, e2]
          have hr : rest = m0 ++ (l :: junk ++ tail) := by rw [hrest, hm]; simp
          refine (ih (pre ++ [l]) m0 _ hr).trans ?_
          have hj : junk.filter (inSet S) = [] := by
            rw [List.filter_eq_nil_iff]; intro j hj; simp [h2 j hj]
          simp only [List.filter_cons, hnb, hm, List.filter_append, h1, if_true, hj,
            Bool.false_eq_true, if_false, List.append_assoc]
          refine List.Perm.append_left pre ?_
          simpa using (List.perm_append_comm (l₁ := [l]) (l₂ := m0.filter (inSet S)))
        · rw [h2]
          simp only [Bool.not_false, if_true, List.dropLast_concat]
          have hj : mid'.filter (inSet S) = [] := by
            rw [List.filter_eq_nil_iff]; intro j hj; simp [h1 j hj]
          simp [List.filter_cons, hnb, hj]

/-- T1: `filter_by_set` returns a permutation of the order-preserving filter -/
theorem filterBySet_perm (Γ : Ctx) (S : List Nat) :
    (filterBySet Γ S).Perm (Γ.filter (inSet S)) := by
  have := filterLoop_perm S Γ [] Γ [] (by simp)
  simpa [filterBySet] using this

theorem mem_filterBySet {Γ : Ctx} {S : List Nat} {b : Binding} :
    b ∈ filterBySet Γ S ↔ b ∈ Γ ∧ b.var.id ∈ S := by
  rw [(filterBySet_perm Γ S).mem_iff]
  simp [inSet]

/-- T1: every kept binding is a binding of Γ (so it keeps its kind and type) -/
theorem filterBySet_sub {Γ : Ctx} {S : List Nat} {b : Binding} (h : b ∈ filterBySet Γ S) : b ∈ Γ :=
  (mem_filterBySet.1 h).1

/-- T1: the id set of the result is `ids Γ ∩ S` -/
theorem mem_ids_filterBySet {Γ : Ctx} {S : List Nat} {i : Nat} :
    i ∈ (filterBySet Γ S).ids ↔ i ∈ Γ.ids ∧ i ∈ S := by
  simp only [Ctx.ids, List.mem_map]
  constructor
  · rintro ⟨b, hb, rfl⟩
    have := mem_filterBySet.1 hb
    exact ⟨⟨b, this.1, rfl⟩, this.2⟩
  · rintro ⟨⟨b, hb, rfl⟩, hs⟩
    exact ⟨b, mem_filterBySet.2 ⟨hb, hs⟩, rfl⟩

/-- T1: the result is duplicate-free if Γ is -/
theorem filterBySet_nodup {Γ : Ctx} {S : List Nat} (h : NodupIds Γ) : NodupIds (filterBySet Γ S) := by
  unfold NodupIds Ctx.ids at *
  have hp := (filterBySet_perm Γ S).map (fun b => b.var.id)
  rw [hp.nodup_iff]
  exact (List.filter_sublist.map _).nodup h

theorem filterBySet_length_le (Γ : Ctx) (S : List Nat) : (filterBySet Γ S).length ≤ Γ.length := by
  rw [(filterBySet_perm Γ S).length_eq]
  exact List.length_filter_le _ _

/-- T1 (fuel): more iterations than `new.length` do not change the result of the inner loop -/
theorem filterWhile_fuel (S : List Nat) (pos : Nat) :
    ∀ (k : Nat) (new : List Binding),
      filterWhile S pos (new.length + k) new = filterWhile S pos new.length new := by
  intro k new
  generalize hn : new.length = n
  induction n generalizing new with
  | zero =>
    have : new = [] := List.eq_nil_of_length_eq_zero hn
    subst this
    cases k <;> simp [filterWhile]
  | succ n ih =>
    rw [show n + 1 + k = (n + k) + 1 by omega]
    unfold filterWhile
    split
    · cases hl : new.getLast? with
      | none => rfl
      | some l =>
        simp only
        split
        · rfl
        · have : new.dropLast.length = n := by simp [hn]
          exact ih new.dropLast this
    · rfl

theorem mem_ids {Γ : Ctx} {i : Nat} : i ∈ Γ.ids ↔ ∃ b ∈ Γ, b.var.id = i := by
  simp [Ctx.ids]

theorem freshen_cons_clash {b : Binding} {rest : Ctx} {C : List Nat} {M : Nat}
    (hc : C.contains b.var.id = true) :
    freshen (b :: rest) C M =
      (⟨⟨b.var.name, M + 1⟩, b.chi, b.ty⟩ :: (freshen rest C (M + 1)).1, (freshen rest C (M + 1)).2) := by
  conv => lhs; rw [freshen]
  rw [if_pos hc]; rfl

theorem freshen_cons_keep {b : Binding} {rest : Ctx} {C : List Nat} {M : Nat}
    (hc : ¬ C.contains b.var.id = true) :
    freshen (b :: rest) C M =
      (b :: (freshen rest (b.var.id :: C) M).1, (freshen rest (b.var.id :: C) M).2) := by
  conv => lhs; rw [freshen]
  rw [if_neg hc]

/-- T1: `freshen` keeps length, kinds and types; every binding is either kept or gets an id in
`(maxId, maxId']`; the result is duplicate-free and disjoint from the clash set, provided all ids
involved are `≤ maxId`. -/
theorem freshen_spec (M0 : Nat) :
    ∀ (Γ : Ctx) (C : List Nat) (M : Nat), (∀ i ∈ Γ.ids, i ≤ M0) → (∀ i ∈ C, i ≤ M0) → M0 ≤ M →
      M ≤ (freshen Γ C M).2 ∧
      (freshen Γ C M).1.length = Γ.length ∧
      (∀ p ∈ Γ.zip (freshen Γ C M).1, p.2.chi = p.1.chi ∧ p.2.ty = p.1.ty ∧
          (p.2 = p.1 ∨ (M < p.2.var.id ∧ p.2.var.id ≤ (freshen Γ C M).2))) ∧
      (freshen Γ C M).1.ids.Nodup ∧
      (∀ i ∈ (freshen Γ C M).1.ids, i ∉ C) ∧
      (∀ i ∈ (freshen Γ C M).1.ids, i ∈ Γ.ids ∨ (M < i ∧ i ≤ (freshen Γ C M).2)) := by
  intro Γ
  induction Γ with
  | nil => intro C M _ _ _; simp [freshen, Ctx.ids]
  | cons b rest ih =>
    intro C M hΓ hC hM
    have hrest : ∀ i ∈ Ctx.ids rest, i ≤ M0 := fun i hi => hΓ i (by simp [Ctx.ids] at hi ⊢; exact Or.inr hi)
    have hb : b.var.id ≤ M0 := hΓ _ (by simp [Ctx.ids])
    by_cases hc : C.contains b.var.id = true
    · rw [freshen_cons_clash hc]
      obtain ⟨h1, h2, h3, h4, h5, h6⟩ := ih C (M + 1) hrest hC (by omega)
      generalize freshen rest C (M + 1) = r at h1 h2 h3 h4 h5 h6
      refine ⟨by simp only; omega, by simp [h2], ?_, ?_, ?_, ?_⟩
      · intro p hp
        simp only [List.zip_cons_cons, List.mem_cons] at hp
        rcases hp with rfl | hp
        · exact ⟨rfl, rfl, Or.inr ⟨by simp, by simpa using h1⟩⟩
        · obtain ⟨a1, a2, a3⟩ := h3 p hp
          refine ⟨a1, a2, ?_⟩
          rcases a3 with a3 | a3
          · exact Or.inl a3
          · exact Or.inr ⟨by omega, a3.2⟩
      · simp only [Ctx.ids, List.map_cons, List.nodup_cons]
        refine ⟨?_, h4⟩
        intro hmem
        rcases h6 _ hmem with h | h
        · have := hrest _ h; omega
        · omega
      · intro i hi
        simp only [Ctx.ids, List.map_cons, List.mem_cons] at hi
        rcases hi with rfl | hi
        · intro hin
          have := hC _ hin
          omega
        · exact h5 i hi
      · intro i hi
        simp only [Ctx.ids, List.map_cons, List.mem_cons] at hi
        rcases hi with rfl | hi
        · exact Or.inr ⟨by simp, by simpa using h1⟩
        · rcases h6 i hi with h | h
          · exact Or.inl (by simp [Ctx.ids] at h ⊢; exact Or.inr h)
          · exact Or.inr ⟨by omega, h.2⟩
    · rw [freshen_cons_keep hc]
      have hC' : ∀ i ∈ b.var.id :: C, i ≤ M0 := by
        intro i hi
        rcases List.mem_cons.1 hi with rfl | hi
        · exact hb
        · exact hC i hi
      obtain ⟨h1, h2, h3, h4, h5, h6⟩ := ih (b.var.id :: C) M hrest hC' hM
      generalize freshen rest (b.var.id :: C) M = r at h1 h2 h3 h4 h5 h6
      refine ⟨h1, by simp [h2], ?_, ?_, ?_, ?_⟩
      · intro p hp
        simp only [List.zip_cons_cons, List.mem_cons] at hp
        rcases hp with rfl | hp
        · exact ⟨rfl, rfl, Or.inl rfl⟩
        · exact h3 p hp
      · simp only [Ctx.ids, List.map_cons, List.nodup_cons]
        refine ⟨?_, h4⟩
        intro hmem
        exact h5 _ hmem (by simp)
      · intro i hi
        simp only [Ctx.ids, List.map_cons, List.mem_cons] at hi
        rcases hi with rfl | hi
        · intro hin; exact hc (by simpa using hin)
        · intro hin; exact h5 i hi (by simp [hin])
      · intro i hi
        simp only [Ctx.ids, List.map_cons, List.mem_cons] at hi
        rcases hi with rfl | hi
        · exact Or.inl (by simp [Ctx.ids])
        · rcases h6 i hi with h | h
          · exact Or.inl (by simp [Ctx.ids] at h ⊢; exact Or.inr h)
          · exact Or.inr h

theorem substIdent_id (σ : Subst) (x : Ident) : (substIdent σ x).id = substId σ x.id := by
  unfold substIdent substId
  cases σ.find? (fun p => p.1 == x.id) <;> rfl

theorem substIdent_cases (σ : Subst) (x : Ident) :
    (substIdent σ x = x ∧ ∀ p ∈ σ, p.1 ≠ x.id) ∨ (∃ p ∈ σ, p.1 = x.id ∧ substIdent σ x = p.2) := by
  unfold substIdent
  cases h : σ.find? (fun p => p.1 == x.id) with
  | none =>
    left
    refine ⟨rfl, ?_⟩
    intro p hp
    have := List.find?_eq_none.1 h p hp
    simpa using this
  | some p =>
    right
    refine ⟨p, List.mem_of_find?_eq_some h, ?_, rfl⟩
    have := List.find?_some h
    simpa using this

theorem substIdent_fix {σ : Subst} {x : Ident} (h : ∀ p ∈ σ, p.1 ≠ x.id) : substIdent σ x = x := by
  rcases substIdent_cases σ x with h' | ⟨p, hp, h1, _⟩
  · exact h'.1
  · exact absurd h1 (h p hp)

theorem substBinding_chi (σ : Subst) (b : Binding) : (substBinding σ b).chi = b.chi := rfl
theorem substBinding_ty (σ : Subst) (b : Binding) : (substBinding σ b).ty = b.ty := rfl
theorem substBinding_id (σ : Subst) (b : Binding) :
    (substBinding σ b).var.id = substId σ b.var.id := substIdent_id σ b.var

theorem substCtx_ids (σ : Subst) (Γ : Ctx) : (substCtx σ Γ).ids = Γ.ids.map (substId σ) := by
  simp [substCtx, Ctx.ids, substBinding_id, Function.comp_def]

theorem substCtx_chiTys (σ : Subst) (Γ : Ctx) : (substCtx σ Γ).chiTys = Γ.chiTys := by
  simp [substCtx, Ctx.chiTys, substBinding_chi, substBinding_ty, Function.comp_def]

theorem substCtx_length (σ : Subst) (Γ : Ctx) : (substCtx σ Γ).length = Γ.length := by
  simp [substCtx]

theorem substCtx_append (σ : Subst) (Γ Δ : Ctx) :
    substCtx σ (Γ ++ Δ) = substCtx σ Γ ++ substCtx σ Δ := by simp [substCtx]

/-- with duplicate-free `Γ`, substituting `ids Γ ↦ vars Γ'` into `Γ` gives `Γ'` (kinds and types
agreeing pointwise) -/
theorem substCtx_zip_eq : ∀ (Γ Γ' : Ctx), Γ.ids.Nodup → Γ'.length = Γ.length →
    (∀ p ∈ Γ.zip Γ', p.2.chi = p.1.chi ∧ p.2.ty = p.1.ty) →
    substCtx (Γ.ids.zip Γ'.vars) Γ = Γ' := by
  intro Γ
  induction Γ with
  | nil => intro Γ' _ hl _; cases Γ' with
    | nil => rfl
    | cons _ _ => simp at hl
  | cons b rest ih =>
    intro Γ' hnd hl hp
    cases Γ' with
    | nil => simp at hl
    | cons b' rest' =>
      simp only [Ctx.ids, List.map_cons, List.nodup_cons] at hnd
      have hhead := hp (b, b') (by simp)
      have htail : ∀ p ∈ rest.zip rest', p.2.chi = p.1.chi ∧ p.2.ty = p.1.ty :=
        fun p hp' => hp p (by simp [hp'])
      have ih' := ih rest' hnd.2 (by simpa using hl) htail
      simp only [substCtx, Ctx.ids, Ctx.vars, List.map_cons, List.zip_cons_cons]
      congr 1
      · simp only [substBinding, substIdent, List.find?_cons, beq_self_eq_true]
        obtain ⟨h1, h2⟩ := hhead
        cases b; cases b'
        cases h1; cases h2
        rfl
      · rw [← ih'] 
        apply List.map_congr_left
        intro c hc
        have hne : b.var.id ≠ c.var.id := by
          intro e; exact hnd.1 (by rw [e]; exact List.mem_map.2 ⟨c, hc, rfl⟩)
        simp only [substBinding, substIdent, List.find?_cons]
        have : (b.var.id == c.var.id) = false := by simpa using hne
        simp only [this]
        rw [ih']
        rfl

theorem zip_inj_right {α β γ} (f : β → γ) :
    ∀ (l1 : List α) (l2 : List β), (l2.map f).Nodup →
      ∀ a b a' b', (a, b) ∈ l1.zip l2 → (a', b') ∈ l1.zip l2 → f b = f b' → a = a' := by
  intro l1
  induction l1 with
  | nil => intro l2 _ a b a' b' h; simp at h
  | cons x xs ih =>
    intro l2 hnd a b a' b' h h' hf
    cases l2 with
    | nil => simp at h
    | cons y ys =>
      simp only [List.map_cons, List.nodup_cons] at hnd
      simp only [List.zip_cons_cons, List.mem_cons, Prod.mk.injEq] at h h'
      rcases h with ⟨rfl, rfl⟩ | h <;> rcases h' with ⟨rfl, rfl⟩ | h'
      · rfl
      · exact absurd (by rw [hf]; exact List.mem_map.2 ⟨b', (List.of_mem_zip h').2, rfl⟩) hnd.1
      · exact absurd (by rw [← hf]; exact List.mem_map.2 ⟨b, (List.of_mem_zip h).2, rfl⟩) hnd.1
      · exact ih ys hnd.2 a b a' b' h h' hf

/-- what the renaming of `Create::linearize` satisfies: ids `≤ M` go to ids `≤ M2`, injectively;
identifiers outside `A` are fixed; an id is fixed or goes above `M`. -/
structure GoodSubst (σ : Subst) (A : List Nat) (M M2 : Nat) : Prop where
  le : M ≤ M2
  bound : ∀ y, y ≤ M → substId σ y ≤ M2
  inj : ∀ y z, y ≤ M → z ≤ M → substId σ y = substId σ z → y = z
  fix : ∀ x : Ident, x.id ∉ A → substIdent σ x = x
  fresh : ∀ y, y ≤ M → substId σ y = y ∨ M < substId σ y

theorem GoodSubst.mono {σ A A' M M2} (h : GoodSubst σ A M M2) (hA : ∀ a ∈ A, a ∈ A') :
    GoodSubst σ A' M M2 :=
  ⟨h.le, h.bound, h.inj, fun x hx => h.fix x (fun hx' => hx (hA _ hx')), h.fresh⟩

theorem GoodSubst.fixId {σ A M M2} (h : GoodSubst σ A M M2) {y : Nat} (hy : y ∉ A) :
    substId σ y = y := by
  have := h.fix ⟨"", y⟩ hy
  have := congrArg Ident.id this
  rwa [substIdent_id] at this

theorem zip_ids_vars (Γ Γ' : Ctx) :
    Γ.ids.zip Γ'.vars = (Γ.zip Γ').map (fun p => (p.1.var.id, p.2.var)) := by
  simp [Ctx.ids, Ctx.vars, List.zip_map]

theorem goodSubst_of_freshen {Γ : Ctx} {C A : List Nat} {M : Nat}
    (hΓ : ∀ i ∈ Γ.ids, i ≤ M) (hC : ∀ i ∈ C, i ≤ M) (hA : ∀ i ∈ Γ.ids, i ∈ A) :
    GoodSubst (Γ.ids.zip (freshen Γ C M).1.vars) A M (freshen Γ C M).2 := by
  obtain ⟨h1, h2, h3, h4, h5, h6⟩ := freshen_spec M Γ C M hΓ hC (Nat.le_refl _)
  generalize hr : freshen Γ C M = r at *
  -- every pair of σ comes from a pair of the zip
  have hpair : ∀ p ∈ Γ.ids.zip r.1.vars, ∃ q ∈ Γ.zip r.1, p = (q.1.var.id, q.2.var) := by
    intro p hp
    rw [zip_ids_vars] at hp
    obtain ⟨q, hq, rfl⟩ := List.mem_map.1 hp
    exact ⟨q, hq, rfl⟩
  have hcase : ∀ y, substId (Γ.ids.zip r.1.vars) y = y ∨
      ∃ q ∈ Γ.zip r.1, q.1.var.id = y ∧ substId (Γ.ids.zip r.1.vars) y = q.2.var.id := by
    intro y
    rcases substIdent_cases (Γ.ids.zip r.1.vars) ⟨"", y⟩ with h | ⟨p, hp, e1, e2⟩
    · left
      have := congrArg Ident.id h.1
      rwa [substIdent_id] at this
    · right
      obtain ⟨q, hq, rfl⟩ := hpair p hp
      refine ⟨q, hq, e1, ?_⟩
      have := congrArg Ident.id e2
      rwa [substIdent_id] at this
  refine ⟨h1, ?_, ?_, ?_, ?_⟩
  · intro y hy
    rcases hcase y with h | ⟨q, hq, e1, e2⟩
    · omega
    · rcases (h3 q hq).2.2 with h | h
      · rw [e2, h, e1]; omega
      · rw [e2]; exact h.2
  · intro y z hy hz hyz
    rcases hcase y with hy' | ⟨q, hq, e1, e2⟩ <;> rcases hcase z with hz' | ⟨q', hq', e1', e2'⟩
    · omega
    · rcases (h3 q' hq').2.2 with h | h
      · rw [hy', e2', h, e1'] at hyz; exact hyz
      · rw [hy', e2'] at hyz; omega
    · rcases (h3 q hq).2.2 with h | h
      · rw [hz', e2, h, e1] at hyz; exact hyz
      · rw [hz', e2] at hyz; omega
    · rcases (h3 q hq).2.2 with h | h <;> rcases (h3 q' hq').2.2 with h' | h'
      · rw [e2, e2', h, h', e1, e1'] at hyz; exact hyz
      · rw [e2, e2', h, e1] at hyz; omega
      · rw [e2, e2', h', e1'] at hyz; omega
      · rw [e2, e2'] at hyz
        have : q.1 = q'.1 :=
          zip_inj_right (fun b : Binding => b.var.id) Γ r.1 h4 q.1 q.2 q'.1 q'.2 hq hq' hyz
        rw [← e1, ← e1', this]
  · intro x hx
    apply substIdent_fix
    intro p hp e
    apply hx
    apply hA
    rw [← e]
    exact (List.of_mem_zip hp).1
  · intro y hy
    rcases hcase y with h | ⟨q, hq, e1, e2⟩
    · exact Or.inl h
    · rcases (h3 q hq).2.2 with h | h
      · left; rw [e2, h, e1]
      · right; rw [e2]; exact h.1

/-! ## filterBySet keeps positions (optimality; not needed for typing) -/

theorem filterLoop_positions (S : List Nat) :
    ∀ (rest pre mid tail : List Binding), rest = mid ++ tail →
      ∃ X, filterLoop S rest pre.length (pre ++ mid) = pre ++ X ∧ X.length ≤ mid.length ∧
        ∀ j b, mid[j]? = some b → inSet S b = true → j < X.length → X[j]? = some b := by
  intro rest
  induction rest with
  | nil =>
    intro pre mid tail h
    have : mid = [] := by
      cases mid with
      | nil => rfl
      | cons a b => simp at h
    subst this
    exact ⟨[], by simp [filterLoop], by simp, by intro j b h; simp at h⟩
  | cons b rest ih =>
    intro pre mid tail h
    cases mid with
    | nil => exact ⟨[], by simp [filterLoop], by simp, by intro j b h; simp at h⟩
    | cons b' mid' =>
      have hb : b = b' := by simp at h; exact h.1
      have hrest : rest = mid' ++ tail := by simp at h; exact h.2
      subst hb
      unfold filterLoop
      have hc : ¬ (pre.length ≥ (pre ++ b :: mid').length) := by simp
      rw [if_neg hc]
      by_cases hin : S.contains b.var.id = true
      · have : (!S.contains b.var.id) = false := by rw [hin]; rfl
        simp only [this, Bool.false_eq_true, if_false]
        have e1 : pre ++ b :: mid' = (pre ++ [b]) ++ mid' := by simp
        have e2 : pre.length + 1 = (pre ++ [b]).length := by simp
        rw [e1, e2]
        obtain ⟨X, hX1, hX2, hX3⟩ := ih (pre ++ [b]) mid' tail hrest
        refine ⟨b :: X, by rw [hX1]; simp, by simp; omega, ?_⟩
        intro j c hj hc' hlt
        cases j with
        | zero => simp at hj ⊢; exact hj
        | succ j => simp at hj hlt ⊢; exact hX3 j c hj hc' hlt
      · have hnb : inSet S b = false := by simpa [inSet] using hin
        have hin' : S.contains b.var.id = false := Bool.eq_false_iff.2 hin
        have : (!S.contains b.var.id) = true := by rw [hin']; rfl
        simp only [this, if_true]
        rcases filterWhile_spec S pre b _ mid' rfl with ⟨l, m0, junk, hm, h1, h2, h3⟩ | ⟨h1, h2⟩
        · rw [h3]
          simp only [Bool.not_true, Bool.false_eq_true, if_false]
          have e1 : pre ++ l :: m0 = (pre ++ [l]) ++ m0 := by simp
          have e2 : pre.length + 1 = (pre ++ [l]).length := by simp
          rw [e1, e2]
          have hr : rest = m0 ++ (l :: junk ++ tail) := by rw [hrest, hm]; simp
          obtain ⟨X, hX1, hX2, hX3⟩ := ih (pre ++ [l]) m0 _ hr
          refine ⟨l :: X, by rw [hX1]; simp, by simp [hm]; omega, ?_⟩
          intro j c hj hc' hlt
          cases j with
          | zero =>
            simp at hj; subst hj; rw [hnb] at hc'; cases hc'
          | succ j =>
            simp at hj hlt ⊢
            apply hX3 j c ?_ hc' hlt
            have hjm : j < m0.length := by omega
            rw [hm, List.getElem?_append_left hjm] at hj
            exact hj
        · rw [h2]
          simp only [Bool.not_false, if_true, List.dropLast_concat]
          exact ⟨[], by simp, by simp, by intro j c _ _ hlt; simp at hlt⟩

/-- T1 ("preserves positions"): a binding that is kept and whose position still exists in the
result stays at its position. -/
theorem filterBySet_positions (Γ : Ctx) (S : List Nat) (j : Nat) (b : Binding)
    (hj : Γ[j]? = some b) (hb : b.var.id ∈ S) (hlt : j < (filterBySet Γ S).length) :
    (filterBySet Γ S)[j]? = some b := by
  obtain ⟨X, hX1, _, hX3⟩ := filterLoop_positions S Γ [] Γ [] (by simp)
  have e : filterBySet Γ S = X := by simpa [filterBySet] using hX1
  rw [e] at hlt ⊢
  exact hX3 j b hj (by simpa [inSet] using hb) hlt

/-! ## the equations of `linearize`, one per statement form (free-variable annotations present) -/

theorem linearize_exit (n : Nat) (v : Ident) (Γ : Ctx) (M : Nat) :
    linearize (n + 1) (.exit v) Γ M = .ok (.exit v, M) := rfl

theorem linearize_call (n : Nat) (l : Ident) (args Γ : Ctx) (M : Nat) :
    linearize (n + 1) (.call l args) Γ M =
      if Γ = args then .ok (.call l [], M)
      else
        let (freshenedContext, maxId1) := freshen args [] M
        .ok (.subst (rearrange freshenedContext args) (.call l []), maxId1) := rfl

theorem linearize_invoke (n : Nat) (v tag : Ident) (ty : Ty) (args Γ : Ctx) (M : Nat) :
    linearize (n + 1) (.invoke v tag ty args) Γ M =
      let closureBinding : Binding := ⟨v, .cns, ty⟩
      let contextRearrange := args ++ [closureBinding]
      if Γ = contextRearrange then .ok (.invoke v tag ty [], M)
      else
        let (freshenedArgs, maxId1) := freshen args [v.id] M
        let freshenedContext := freshenedArgs ++ [closureBinding]
        .ok (.subst (rearrange freshenedContext contextRearrange) (.invoke v tag ty []), maxId1) := rfl

theorem linearize_let (n : Nat) (v : Ident) (ty : Ty) (tag : Ident) (args : Ctx) (next : Stmt)
    (fv : List Nat) (Γ : Ctx) (M : Nat) :
    linearize (n + 1) (.letS v ty tag args next (some fv)) Γ M =
      let newContext := filterBySet Γ fv
      let contextRearrange := newContext ++ args
      let newBinding : Binding := ⟨v, .prd, ty⟩
      if Γ = contextRearrange then
        match linearize n next (newContext ++ [newBinding]) M with
        | .error e => .error e
        | .ok (next', maxId1) => .ok (.letS v ty tag args next' none, maxId1)
      else
        let (args', maxId1) := freshen args newContext.ids M
        let contextRearrangeFreshened := newContext ++ args'
        match linearize n next (newContext ++ [newBinding]) maxId1 with
        | .error e => .error e
        | .ok (next', maxId2) =>
          .ok (.subst (rearrange contextRearrangeFreshened contextRearrange)
                (.letS v ty tag args' next' none), maxId2) := rfl

theorem linearize_switch (n : Nat) (v : Ident) (ty : Ty) (cs : Clauses) (fv : List Nat) (Γ : Ctx)
    (M : Nat) :
    linearize (n + 1) (.switch v ty cs (some fv)) Γ M =
      let newContext := filterBySet Γ fv
      let contextRearrange := newContext ++ [(⟨v, .prd, ty⟩ : Binding)]
      match linearizeClauses n cs newContext [] M with
      | .error e => .error e
      | .ok (clauses', maxId1) =>
        if Γ = contextRearrange then .ok (.switch v ty clauses' none, maxId1)
        else
          let (var', maxId2) :=
            if newContext.ids.contains v.id then freshIdentifier maxId1 v.name
            else (v, maxId1)
          let contextRearrangeFreshened := newContext ++ [(⟨var', .prd, ty⟩ : Binding)]
          .ok (.subst (rearrange contextRearrangeFreshened contextRearrange)
                (.switch var' ty clauses' none), maxId2) := rfl

theorem linearize_create (n : Nat) (v : Ident) (ty : Ty) (env : Option Ctx) (cs : Clauses) (next : Stmt)
    (fc fn : List Nat) (Γ : Ctx) (M : Nat) :
    linearize (n + 1) (.create v ty env cs next (some fc) (some fn)) Γ M =
      let contextNext := filterBySet Γ fn
      let contextReordered := Γ.drop contextNext.length ++ Γ.take contextNext.length
      let contextClauses := filterBySet contextReordered fc
      match linearizeClauses n cs [] contextClauses M with
      | .error e => .error e
      | .ok (clauses', maxId1) =>
        let contextRearrange := contextNext ++ contextClauses
        let newBinding : Binding := ⟨v, .cns, ty⟩
        if Γ = contextRearrange then
          match linearize n next (contextNext ++ [newBinding]) maxId1 with
          | .error e => .error e
          | .ok (next', maxId2) =>
            .ok (.create v ty (some contextClauses) clauses' next' none none, maxId2)
        else
          let (contextNextFreshened, maxId2) := freshen contextNext contextClauses.ids maxId1
          let contextRearrangeFreshened := contextNextFreshened ++ contextClauses
          let rearr := rearrange contextRearrangeFreshened contextRearrange
          let substitutionNext : Subst := contextNext.ids.zip contextNextFreshened.vars
          let next1 := substStmt substitutionNext next
          match linearize n next1 (contextNextFreshened ++ [newBinding]) maxId2 with
          | .error e => .error e
          | .ok (next', maxId3) =>
            .ok (.subst rearr (.create v ty (some contextClauses) clauses' next' none none),
                 maxId3) := rfl

theorem linearize_lit (n : Nat) (v : Ident) (k : Int) (next : Stmt) (fv : List Nat) (Γ : Ctx) (M : Nat) :
    linearize (n + 1) (.lit v k next (some fv)) Γ M =
      let newContext := filterBySet Γ fv
      match linearize n next (newContext ++ [(⟨v, .ext, .i64⟩ : Binding)]) M with
      | .error e => .error e
      | .ok (next', maxId1) =>
        if Γ = newContext then .ok (.lit v k next' none, maxId1)
        else .ok (.subst (rearrange newContext newContext) (.lit v k next' none), maxId1) := rfl

theorem linearize_op (n : Nat) (v a : Ident) (o : BinOp) (b : Ident) (next : Stmt) (fv : List Nat)
    (Γ : Ctx) (M : Nat) :
    linearize (n + 1) (.op v a o b next (some fv)) Γ M =
      let newContext := filterBySet Γ (b.id :: a.id :: fv)
      match linearize n next (newContext ++ [(⟨v, .ext, .i64⟩ : Binding)]) M with
      | .error e => .error e
      | .ok (next', maxId1) =>
        if Γ = newContext then .ok (.op v a o b next' none, maxId1)
        else .ok (.subst (rearrange newContext newContext) (.op v a o b next' none), maxId1) := rfl

theorem linearize_print (n : Nat) (nl : Bool) (v : Ident) (next : Stmt) (fv : List Nat) (Γ : Ctx)
    (M : Nat) :
    linearize (n + 1) (.print nl v next (some fv)) Γ M =
      let newContext := filterBySet Γ (v.id :: fv)
      match linearize n next newContext M with
      | .error e => .error e
      | .ok (next', maxId1) =>
        if Γ = newContext then .ok (.print nl v next' none, maxId1)
        else .ok (.subst (rearrange newContext newContext) (.print nl v next' none), maxId1) := rfl

theorem linearize_ifc (n : Nat) (s : IfSort) (a : Ident) (b : Option Ident) (t e : Stmt) (Γ : Ctx)
    (M : Nat) :
    linearize (n + 1) (.ifc s a b t e) Γ M =
      match linearize n t Γ M with
      | .error e => .error e
      | .ok (t', maxId1) =>
        match linearize n e Γ maxId1 with
        | .error e => .error e
        | .ok (e', maxId2) => .ok (.ifc s a b t' e', maxId2) := rfl

theorem linearizeClauses_nil (n : Nat) (pre post : Ctx) (M : Nat) :
    linearizeClauses (n + 1) .nil pre post M = .ok (.nil, M) := rfl

theorem linearizeClauses_cons (n : Nat) (x : Ident) (ctx : Ctx) (body : Stmt) (rest : Clauses)
    (pre post : Ctx) (M : Nat) :
    linearizeClauses (n + 1) (.cons x ctx body rest) pre post M =
      match linearize n body (pre ++ ctx ++ post) M with
      | .error e => .error e
      | .ok (body', maxId1) =>
        match linearizeClauses n rest pre post maxId1 with
        | .error e => .error e
        | .ok (rest', maxId2) => .ok (.cons x ctx body' rest', maxId2) := rfl

theorem linearizeDef_inv {d d' : Def} {m m' : Nat} (h : linearizeDef d m = .ok (d', m')) :
    ∃ body', linearize ((freeVars d.body).1.size + 1) (freeVars d.body).1 d.ctx m = .ok (body', m') ∧
      d' = { d with body := body' } := by
  simp only [linearizeDef] at h
  split at h
  · cases h
  · next body' m1 hb => cases h; exact ⟨body', hb, rfl⟩

theorem linearizeDefs_cons_inv {d : Def} {ds ds' : List Def} {m m' : Nat}
    (h : linearizeDefs (d :: ds) m = .ok (ds', m')) :
    ∃ d' m1 r', linearizeDef d m = .ok (d', m1) ∧ linearizeDefs ds m1 = .ok (r', m') ∧ ds' = d' :: r' := by
  simp only [linearizeDefs] at h
  split at h
  · cases h
  · next d' m1 hd =>
    split at h
    · cases h
    · next r' m2 hr => cases h; exact ⟨d', m1, r', hd, hr, rfl⟩

theorem linearizeProg_inv {p q : Prog} (h : linearizeProg p = .ok q) :
    ∃ defs m, linearizeDefs p.defs p.maxId = .ok (defs, m) ∧ q = { p with defs := defs, maxId := m } := by
  simp only [linearizeProg] at h
  split at h
  · cases h
  · next defs m hd => cases h; exact ⟨defs, m, hd, rfl⟩

end Scc.AxCut
