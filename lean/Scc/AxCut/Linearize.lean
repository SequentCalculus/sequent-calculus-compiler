/-
  Scc.AxCut.Linearize — executable model of the AxCut linearization pass (S4 -> S5).

  Transcribed from /repo/lang/axcut/src:
    traits/free_vars.rs, traits/linearize.rs, traits/substitution.rs,
    syntax/context.rs (`freshen`, `filter_by_set`), syntax/names.rs (`fresh_identifier`, Subst for
    ID / Identifier), syntax/def.rs (`Def::linearize`), syntax/program.rs (`Prog::linearize`),
    and the `FreeVars` / `Subst` / `Linearizing` impls of syntax/statements/*.rs.

  Representation choices (all unobservable in the S5 dump):
  * `HashSet<ID>` is a `List Nat` used only through membership (`contains`); insertion is `::`,
    union is `++`, removal is `filter`.  Duplicates are harmless: the sets are consumed only by
    `filter_by_set` (`set.contains`) and `freshen` (`clashes.contains`).
  * `free_vars(self, vars: &mut HashSet<ID>)` is documented "The set is assumed to be empty when
    passed" and every call site passes either a fresh `HashSet::new()` or its own still untouched
    `vars`; the model therefore RETURNS the set (`freeVars : Stmt → Stmt × List Nat`).
  * `max_id: &mut ID` is threaded as an explicit state (`… → Nat → … × Nat`), updated in the same
    order as Rust evaluates.
  * `Create::linearize` calls `linearize` on a substituted copy of `next`, which is not a structural
    sub-term; `linearize` therefore takes fuel (`Stmt.size` suffices, see `linearizeDef`); running
    out of fuel is an explicit error (proved unreachable in Scc/AxCut/LinRelLin.lean).
  Rust panics are explicit `Except.error "PANIC …"` outcomes.
  Core imports only; executable.
-/
import Scc.AxCut.Syntax

namespace Scc.AxCut

/-! ## contexts (syntax/context.rs) -/

/-- context.rs: TypingContext::vars -/
def Ctx.vars (Γ : Ctx) : List Ident := Γ.map (·.var)

/-- context.rs: TypingContext::ids_set (as a list, used through membership only) -/
def Ctx.ids (Γ : Ctx) : List Nat := Γ.map (·.var.id)

/-- names.rs: fn fresh_identifier — `*max_id += 1; Identifier { name, id: *max_id }` -/
def freshIdentifier (maxId : Nat) (baseName : String) : Ident × Nat :=
  (⟨baseName, maxId + 1⟩, maxId + 1)

/-- context.rs: fn freshen.  `clashes` grows by the ids that are kept. -/
def freshen : Ctx → List Nat → Nat → Ctx × Nat
  | [], _, maxId => ([], maxId)
  | b :: rest, clashes, maxId =>
    if clashes.contains b.var.id then
      let (v, maxId1) := freshIdentifier maxId b.var.name
      let (r, maxId2) := freshen rest clashes maxId1
      (⟨v, b.chi, b.ty⟩ :: r, maxId2)
    else
      let (r, maxId2) := freshen rest (b.var.id :: clashes) maxId
      (b :: r, maxId2)

/-- context.rs: fn filter_by_set — the inner `while new_context.len() - 1 > pos` loop.
`n` is the number of remaining iterations and is always called with `n = new.length` (each
iteration that continues pops one element, so `n = 0` coincides with `new = []`, where the loop
condition is false).  Returns the new context and `found_element`.
`swap_remove(pos)` with `pos < len - 1`: the last element replaces the one at `pos`. -/
def filterWhile (set : List Nat) (pos : Nat) : Nat → List Binding → List Binding × Bool
  | 0, new => (new, false)
  | n + 1, new =>
    if new.length - 1 > pos then
      match new.getLast? with
      | none => (new, false)
      | some l =>
        if set.contains l.var.id then (new.dropLast.set pos l, true)
        else filterWhile set pos n new.dropLast
    else (new, false)

/-- context.rs: fn filter_by_set — the outer `for (pos, binding) in self.bindings.iter().enumerate()`
loop (structural over the remaining original bindings, `pos` counted explicitly). -/
def filterLoop (set : List Nat) : List Binding → Nat → List Binding → List Binding
  | [], _, new => new
  | b :: rest, pos, new =>
    if pos ≥ new.length then new
    else if !set.contains b.var.id then
      let r := filterWhile set pos new.length new
      if !r.2 then r.1.dropLast
      else filterLoop set rest (pos + 1) r.1
    else filterLoop set rest (pos + 1) new

/-- context.rs: fn filter_by_set -/
def filterBySet (Γ : Ctx) (set : List Nat) : Ctx := filterLoop set Γ 0 Γ

/-! ## substitution (traits/substitution.rs, names.rs, statements/*.rs `impl Subst`) -/

abbrev Subst := List (Nat × Ident)

/-- names.rs: impl Subst for ID -/
def substId (σ : Subst) (x : Nat) : Nat :=
  match σ.find? (fun p => p.1 == x) with
  | none => x
  | some p => p.2.id

/-- names.rs: impl Subst for Identifier -/
def substIdent (σ : Subst) (x : Ident) : Ident :=
  match σ.find? (fun p => p.1 == x.id) with
  | none => x
  | some p => p.2

/-- context.rs: impl Subst for ContextBinding -/
def substBinding (σ : Subst) (b : Binding) : Binding := { b with var := substIdent σ b.var }

/-- context.rs: impl Subst for TypingContext -/
def substCtx (σ : Subst) (Γ : Ctx) : Ctx := Γ.map (substBinding σ)

/-- substitution.rs: impl Subst for Option<HashSet<ID>> -/
def substFV (σ : Subst) : FV → FV
  | none => none
  | some s => some (s.map (substId σ))

mutual
  /-- statements/*.rs: fn subst_sim (binders `var` of let/create/lit/op and clause contexts are
  NOT renamed, exactly as in the Rust). -/
  def substStmt (σ : Subst) : Stmt → Stmt
    | .subst pairs next =>
      .subst (pairs.map fun p => (substBinding σ p.1, substIdent σ p.2)) (substStmt σ next)
    | .call l args => .call l (substCtx σ args)
    | .letS v ty tag args next fv =>
      .letS v ty tag (substCtx σ args) (substStmt σ next) (substFV σ fv)
    | .switch v ty cs fv => .switch (substIdent σ v) ty (substClauses σ cs) (substFV σ fv)
    | .create v ty env cs next fc fn =>
      .create v ty (env.map (substCtx σ)) (substClauses σ cs) (substStmt σ next)
        (substFV σ fc) (substFV σ fn)
    | .invoke v tag ty args => .invoke (substIdent σ v) tag ty (substCtx σ args)
    | .lit v n next fv => .lit v n (substStmt σ next) (substFV σ fv)
    | .op v a o b next fv =>
      .op v (substIdent σ a) o (substIdent σ b) (substStmt σ next) (substFV σ fv)
    | .print nl v next fv => .print nl (substIdent σ v) (substStmt σ next) (substFV σ fv)
    | .ifc s a b t e =>
      .ifc s (substIdent σ a) (b.map (substIdent σ)) (substStmt σ t) (substStmt σ e)
    | .exit v => .exit (substIdent σ v)
  /-- clause.rs: impl Subst for Clause (body only), substitution.rs: impl Subst for Vec<T> -/
  def substClauses (σ : Subst) : Clauses → Clauses
    | .nil => .nil
    | .cons x ctx body rest => .cons x ctx (substStmt σ body) (substClauses σ rest)
end

/-! ## free-variable annotation (traits/free_vars.rs, statements/*.rs `impl FreeVars`) -/

/-- `vars.remove(&id)` -/
def setRemove (x : Nat) (s : List Nat) : List Nat := s.filter (fun y => y != x)

/-- `for binding in &context.bindings { vars.remove(&binding.var.id) }` -/
def setRemoveAll (xs : List Nat) (s : List Nat) : List Nat := s.filter (fun y => !xs.contains y)

mutual
  /-- statements/*.rs: fn free_vars.  Returns the annotated statement and the set `vars`. -/
  def freeVars : Stmt → Stmt × List Nat
    | .subst pairs next =>
      let (next', vars) := freeVars next
      -- for (new, old) in &self.rearrange { vars.insert(old.id); vars.remove(&new.var.id); }
      (.subst pairs next',
        pairs.foldl (fun vs p => setRemove p.1.var.id (p.2.id :: vs)) vars)
    | .call l args => (.call l args, args.ids)
    | .letS v ty tag args next _ =>
      let (next', vars) := freeVars next
      (.letS v ty tag args next' (some vars), args.ids ++ setRemove v.id vars)
    | .switch v ty cs _ =>
      let (cs', vars) := freeVarsClauses cs
      (.switch v ty cs' (some vars), v.id :: vars)
    | .create v ty env cs next _ _ =>
      let (next', vars) := freeVars next
      let (cs', varsClauses) := freeVarsClauses cs
      (.create v ty env cs' next' (some varsClauses) (some vars), varsClauses ++ setRemove v.id vars)
    | .invoke v tag ty args => (.invoke v tag ty args, v.id :: args.ids)
    | .lit v n next _ =>
      let (next', vars) := freeVars next
      (.lit v n next' (some vars), setRemove v.id vars)
    | .op v a o b next _ =>
      let (next', vars) := freeVars next
      (.op v a o b next' (some vars), b.id :: a.id :: setRemove v.id vars)
    | .print nl v next _ =>
      let (next', vars) := freeVars next
      (.print nl v next' (some vars), v.id :: vars)
    | .ifc s a b t e =>
      let (t', vars) := freeVars t
      let (e', varsElse) := freeVars e
      (.ifc s a b t' e',
        (match b with | some b => [b.id] | none => []) ++ a.id :: (varsElse ++ vars))
    | .exit v => (.exit v, [v.id])
  /-- free_vars.rs: impl FreeVars for Vec<T> (a fresh set per element, then `vars.extend`);
  clause.rs: impl FreeVars for Clause -/
  def freeVarsClauses : Clauses → Clauses × List Nat
    | .nil => (.nil, [])
    | .cons x ctx body rest =>
      let (body', vars) := freeVars body
      let (rest', varsRest) := freeVarsClauses rest
      (.cons x ctx body' rest', varsRest ++ setRemoveAll ctx.ids vars)
end

/-! ## linearization (traits/linearize.rs, statements/*.rs `impl Linearizing`) -/

mutual
  def Stmt.size : Stmt → Nat
    | .subst _ next => next.size + 1
    | .call _ _ => 1
    | .letS _ _ _ _ next _ => next.size + 1
    | .switch _ _ cs _ => cs.size + 1
    | .create _ _ _ cs next _ _ => cs.size + next.size + 1
    | .invoke _ _ _ _ => 1
    | .lit _ _ next _ => next.size + 1
    | .op _ _ _ _ next _ => next.size + 1
    | .print _ _ next _ => next.size + 1
    | .ifc _ _ _ t e => t.size + e.size + 1
    | .exit _ => 1
  def Clauses.size : Clauses → Nat
    | .nil => 0
    | .cons _ _ body rest => body.size + rest.size + 1
end

def panicSubst : String :=
  "PANIC Linearization should only be done on terms without explicit substitutions"
def panicNoFV : String := "PANIC Free variables must be annotated before linearization"
def errFuel : String := "ERR linearize: out of fuel"

/-- `rearrange = new_bindings.into_iter().zip(old_context.into_iter_vars()).collect()` -/
def rearrange (newBindings : Ctx) (old : Ctx) : List (Binding × Ident) := newBindings.zip old.vars

mutual
  /-- statements/mod.rs: impl Linearizing for Statement, dispatching to statements/*.rs -/
  def linearize : Nat → Stmt → Ctx → Nat → Except String (Stmt × Nat)
    | 0, _, _, _ => .error errFuel
    | _ + 1, .subst _ _, _, _ => .error panicSubst
    -- call.rs
    | _ + 1, .call label args0, context, maxId =>
      let args : Ctx := args0          -- std::mem::take(&mut self.args.bindings)
      if context = args then .ok (.call label [], maxId)
      else
        let (freshenedContext, maxId1) := freshen args [] maxId
        .ok (.subst (rearrange freshenedContext args) (.call label []), maxId1)
    -- let.rs
    | n + 1, .letS var ty tag args next fvNext, context, maxId =>
      match fvNext with
      | none => .error panicNoFV
      | some freeVars =>
        let newContext := filterBySet context freeVars
        let contextRearrange := newContext ++ args
        let newBinding : Binding := ⟨var, .prd, ty⟩
        if context = contextRearrange then
          match linearize n next (newContext ++ [newBinding]) maxId with
          | .error e => .error e
          | .ok (next', maxId1) => .ok (.letS var ty tag args next' none, maxId1)
        else
          let (args', maxId1) := freshen args newContext.ids maxId
          let contextRearrangeFreshened := newContext ++ args'
          match linearize n next (newContext ++ [newBinding]) maxId1 with
          | .error e => .error e
          | .ok (next', maxId2) =>
            .ok (.subst (rearrange contextRearrangeFreshened contextRearrange)
                  (.letS var ty tag args' next' none), maxId2)
    -- switch.rs
    | n + 1, .switch var ty clauses fvClauses, context, maxId =>
      match fvClauses with
      | none => .error panicNoFV
      | some freeVars =>
        let newContext := filterBySet context freeVars
        let contextRearrange := newContext ++ [(⟨var, .prd, ty⟩ : Binding)]
        match linearizeClauses n clauses newContext [] maxId with
        | .error e => .error e
        | .ok (clauses', maxId1) =>
          if context = contextRearrange then .ok (.switch var ty clauses' none, maxId1)
          else
            let (var', maxId2) :=
              if newContext.ids.contains var.id then freshIdentifier maxId1 var.name
              else (var, maxId1)
            let contextRearrangeFreshened := newContext ++ [(⟨var', .prd, ty⟩ : Binding)]
            .ok (.subst (rearrange contextRearrangeFreshened contextRearrange)
                  (.switch var' ty clauses' none), maxId2)
    -- create.rs
    | n + 1, .create var ty _ clauses next fvClauses fvNext, context, maxId =>
      match fvClauses with
      | none => .error panicNoFV
      | some freeVarsClauses =>
      match fvNext with
      | none => .error panicNoFV
      | some freeVarsNext =>
        let contextClone := context
        let contextNext := filterBySet context freeVarsNext
        -- context.bindings.split_off(context_next.len()) ++ (what is left of context)
        let contextReordered := context.drop contextNext.length ++ context.take contextNext.length
        let contextClauses := filterBySet contextReordered freeVarsClauses
        match linearizeClauses n clauses [] contextClauses maxId with
        | .error e => .error e
        | .ok (clauses', maxId1) =>
          let contextRearrange := contextNext ++ contextClauses
          let newBinding : Binding := ⟨var, .cns, ty⟩
          if contextClone = contextRearrange then
            match linearize n next (contextNext ++ [newBinding]) maxId1 with
            | .error e => .error e
            | .ok (next', maxId2) =>
              .ok (.create var ty (some contextClauses) clauses' next' none none, maxId2)
          else
            let (contextNextFreshened, maxId2) := freshen contextNext contextClauses.ids maxId1
            let contextRearrangeFreshened := contextNextFreshened ++ contextClauses
            let rearr := rearrange contextRearrangeFreshened contextRearrange
            let substitutionNext : Subst := contextNext.ids.zip contextNextFreshened.vars
            let next1 := substStmt substitutionNext next
            match linearize n next1 (contextNextFreshened ++ [newBinding]) maxId2 with
            | .error e => .error e
            | .ok (next', maxId3) =>
              .ok (.subst rearr (.create var ty (some contextClauses) clauses' next' none none),
                   maxId3)
    -- invoke.rs
    | _ + 1, .invoke var tag ty args0, context, maxId =>
      let args : Ctx := args0          -- std::mem::take(&mut self.args.bindings)
      let closureBinding : Binding := ⟨var, .cns, ty⟩
      let contextRearrange := args ++ [closureBinding]
      if context = contextRearrange then .ok (.invoke var tag ty [], maxId)
      else
        let (freshenedArgs, maxId1) := freshen args [var.id] maxId
        let freshenedContext := freshenedArgs ++ [closureBinding]
        .ok (.subst (rearrange freshenedContext contextRearrange) (.invoke var tag ty []), maxId1)
    -- literal.rs
    | n + 1, .lit var lit next fvNext, context, maxId =>
      match fvNext with
      | none => .error panicNoFV
      | some freeVars =>
        let newContext := filterBySet context freeVars
        let contextRearrange := newContext
        let newBinding : Binding := ⟨var, .ext, .i64⟩
        match linearize n next (newContext ++ [newBinding]) maxId with
        | .error e => .error e
        | .ok (next', maxId1) =>
          if context = contextRearrange then .ok (.lit var lit next' none, maxId1)
          else .ok (.subst (rearrange contextRearrange contextRearrange)
                      (.lit var lit next' none), maxId1)
    -- op.rs
    | n + 1, .op var fst o snd next fvNext, context, maxId =>
      match fvNext with
      | none => .error panicNoFV
      | some freeVars0 =>
        let freeVars := snd.id :: fst.id :: freeVars0
        let newContext := filterBySet context freeVars
        let contextRearrange := newContext
        let newBinding : Binding := ⟨var, .ext, .i64⟩
        match linearize n next (newContext ++ [newBinding]) maxId with
        | .error e => .error e
        | .ok (next', maxId1) =>
          if context = contextRearrange then .ok (.op var fst o snd next' none, maxId1)
          else .ok (.subst (rearrange contextRearrange contextRearrange)
                      (.op var fst o snd next' none), maxId1)
    -- print.rs
    | n + 1, .print nl var next fvNext, context, maxId =>
      match fvNext with
      | none => .error panicNoFV
      | some freeVars0 =>
        let freeVars := var.id :: freeVars0
        let newContext := filterBySet context freeVars
        let contextRearrange := newContext
        match linearize n next newContext maxId with
        | .error e => .error e
        | .ok (next', maxId1) =>
          if context = contextRearrange then .ok (.print nl var next' none, maxId1)
          else .ok (.subst (rearrange contextRearrange contextRearrange)
                      (.print nl var next' none), maxId1)
    -- ifc.rs
    | n + 1, .ifc s fst snd thenc elsec, context, maxId =>
      match linearize n thenc context maxId with
      | .error e => .error e
      | .ok (thenc', maxId1) =>
        match linearize n elsec context maxId1 with
        | .error e => .error e
        | .ok (elsec', maxId2) => .ok (.ifc s fst snd thenc' elsec', maxId2)
    -- mod.rs: Statement::Exit(ref _exit) => self
    | _ + 1, .exit var, _, maxId => .ok (.exit var, maxId)
  /-- switch.rs / create.rs: `self.clauses.into_iter().map(|mut clause| …).collect()`; the body of
  a clause is linearized under `pre ++ clause.context ++ post` (switch: `pre` = context of the
  clauses, `post = []`; create: `pre = []`, `post` = closure environment). -/
  def linearizeClauses : Nat → Clauses → Ctx → Ctx → Nat → Except String (Clauses × Nat)
    | 0, _, _, _, _ => .error errFuel
    | _ + 1, .nil, _, _, maxId => .ok (.nil, maxId)
    | n + 1, .cons xtor ctx body rest, pre, post, maxId =>
      match linearize n body (pre ++ ctx ++ post) maxId with
      | .error e => .error e
      | .ok (body', maxId1) =>
        match linearizeClauses n rest pre post maxId1 with
        | .error e => .error e
        | .ok (rest', maxId2) => .ok (.cons xtor ctx body' rest', maxId2)
end

/-- def.rs: Def::linearize -/
def linearizeDef (d : Def) (maxId : Nat) : Except String (Def × Nat) :=
  let body := (freeVars d.body).1
  match linearize (body.size + 1) body d.ctx maxId with
  | .error e => .error e
  | .ok (body', maxId1) => .ok ({ d with body := body' }, maxId1)

/-- program.rs: Prog::linearize — the loop over the definitions -/
def linearizeDefs : List Def → Nat → Except String (List Def × Nat)
  | [], maxId => .ok ([], maxId)
  | d :: ds, maxId =>
    match linearizeDef d maxId with
    | .error e => .error e
    | .ok (d', maxId1) =>
      match linearizeDefs ds maxId1 with
      | .error e => .error e
      | .ok (ds', maxId2) => .ok (d' :: ds', maxId2)

/-- program.rs: Prog::linearize -/
def linearizeProg (p : Prog) : Except String Prog :=
  match linearizeDefs p.defs p.maxId with
  | .error e => .error e
  | .ok (defs, maxId) => .ok { p with defs := defs, maxId := maxId }

/-- Line-protocol entry: S4 dump text ↦ `OK <S5 dump>` | `PANIC …` | `ERR …`. -/
def runLine (dumpS4 : String) : String :=
  match Sexp.parse dumpS4 with
  | none => "ERR sexp"
  | some sx =>
    match readProg (dumpS4.length + 10) sx with
    | none => "ERR read"
    | some p =>
      match linearizeProg p with
      | .error e => e
      | .ok p' => "OK " ++ p'.toSexp.render

end Scc.AxCut
