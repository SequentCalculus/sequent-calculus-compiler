/-
  Scc.AxCut.LinCtx — proof file (C05): facts about contexts and zipped lists that the cases of
  `linearize_linRel` (Scc/AxCut/LinRelLin.lean) share: an explicit substitution built by `zip` keeps kinds and
  types (`chiTys_eq_of_zip`), inserting and rotating keep the ids distinct (`nodupIds_insert`, `reorder_perm`), and
  the step `prep_next` from a context to the context of a continuation with one new binding.
-/
import Scc.AxCut.LinProofs

namespace Scc.AxCut

theorem map_fst_zip_vars (newB old : Ctx) (h : newB.length = old.length) :
    (rearrange newB old).map (·.1) = newB := by
  unfold rearrange Ctx.vars
  have : newB.length ≤ (old.map (·.var)).length := by simp [h]
  exact List.map_fst_zip this

theorem mem_zip_self {α} : ∀ (l : List α) (p : α × α), p ∈ l.zip l → p.1 = p.2 ∧ p.1 ∈ l := by
  intro l
  induction l with
  | nil => intro p h; simp at h
  | cons x xs ih =>
    intro p h
    simp only [List.zip_cons_cons, List.mem_cons] at h
    rcases h with rfl | h
    · exact ⟨rfl, by simp⟩
    · exact ⟨(ih p h).1, List.mem_cons_of_mem _ (ih p h).2⟩

theorem chiTys_eq_of_zip : ∀ (l1 l2 : Ctx), l2.length = l1.length →
    (∀ p ∈ l1.zip l2, p.2.chi = p.1.chi ∧ p.2.ty = p.1.ty) → l2.chiTys = l1.chiTys := by
  intro l1
  induction l1 with
  | nil => intro l2 hl _; cases l2 with
    | nil => rfl
    | cons _ _ => simp at hl
  | cons x xs ih =>
    intro l2 hl h
    cases l2 with
    | nil => simp at hl
    | cons y ys =>
      have h0 := h (x, y) (by simp)
      simp only [Ctx.chiTys, List.map_cons, List.cons.injEq, Prod.mk.injEq]
      exact ⟨⟨h0.1, h0.2⟩, ih ys (by simpa using hl) (fun p hp => h p (by simp [hp]))⟩

theorem ids_le_of_sub {Γ : Ctx} {A : List Nat} {M : Nat} (hsub : ∀ i ∈ Γ.ids, i ∈ A)
    (hA : ∀ a ∈ A, a ≤ M) : ∀ i ∈ Γ.ids, i ≤ M := fun i hi => hA i (hsub i hi)

theorem filterBySet_ids_sub {Γ : Ctx} {S A : List Nat} (hsub : ∀ i ∈ Γ.ids, i ∈ A) :
    ∀ i ∈ (filterBySet Γ S).ids, i ∈ A := fun i hi => hsub i (mem_ids_filterBySet.1 hi).1

section cases
variable {T : List TypeDecl} {S : Sigs}

theorem prep_next {A : List Nat} {Γ : Ctx} {M : Nat} {Sn : List Nat} {xb : Binding} {next : Stmt}
    (hn : NodupIds Γ) (hsub : ∀ i ∈ Γ.ids, i ∈ A) (hA : ∀ a ∈ A, a ≤ M)
    (hx : xb.var.id ∉ A) (hxM : xb.var.id ≤ M)
    (h : WTA T S M next (A ++ [xb.var.id]) (Γ.filter (inSet Sn) ++ [xb])) :
    WTA T S M next (A ++ [xb.var.id]) (filterBySet Γ Sn ++ [xb]) ∧
    NodupIds (filterBySet Γ Sn ++ [xb]) ∧
    (∀ i ∈ (filterBySet Γ Sn ++ [xb]).ids, i ∈ A ++ [xb.var.id]) ∧
    (∀ a ∈ A ++ [xb.var.id], a ≤ M) ∧
    xb.var.id ∉ (filterBySet Γ Sn).ids := by
  have hnot : xb.var.id ∉ (filterBySet Γ Sn).ids := fun hm => hx (filterBySet_ids_sub hsub _ hm)
  refine ⟨WTA_congr T S M next _ _ _ ((keysEq_filterBySet Γ Sn).symm.append (KeysEq.refl _)) h,
    nodupIds_append_singleton (filterBySet_nodup hn) hnot, ?_, le_append_singleton hA hxM, hnot⟩
  intro i hi
  rcases mem_ids_append_singleton.1 hi with hi | hi
  · exact List.mem_append_left _ (filterBySet_ids_sub hsub i hi)
  · exact List.mem_append_right _ (by simp [hi])

theorem nodupIds_insert {pre ctx post : Ctx} (hn : NodupIds (pre ++ post)) (hc : NodupIds ctx)
    (hdisj : ∀ i ∈ ctx.ids, i ∉ (pre ++ post).ids) : NodupIds (pre ++ ctx ++ post) := by
  have hp : (pre ++ ctx ++ post).Perm ((pre ++ post) ++ ctx) := by
    rw [List.append_assoc, List.append_assoc]
    exact List.Perm.append_left pre List.perm_append_comm
  unfold NodupIds Ctx.ids
  rw [(hp.map _).nodup_iff]
  exact nodupIds_append hn hc hdisj

end cases

mutual
  theorem size_substStmt (σ : Subst) : ∀ s : Stmt, (substStmt σ s).size = s.size
    | .subst _ next => by simp only [substStmt, Stmt.size, size_substStmt σ next]
    | .call _ _ => by simp only [substStmt, Stmt.size]
    | .letS _ _ _ _ next _ => by simp only [substStmt, Stmt.size, size_substStmt σ next]
    | .switch _ _ cs _ => by simp only [substStmt, Stmt.size, size_substClauses σ cs]
    | .create _ _ _ cs next _ _ => by
      simp only [substStmt, Stmt.size, size_substStmt σ next, size_substClauses σ cs]
    | .invoke _ _ _ _ => by simp only [substStmt, Stmt.size]
    | .lit _ _ next _ => by simp only [substStmt, Stmt.size, size_substStmt σ next]
    | .op _ _ _ _ next _ => by simp only [substStmt, Stmt.size, size_substStmt σ next]
    | .print _ _ next _ => by simp only [substStmt, Stmt.size, size_substStmt σ next]
    | .ifc _ _ _ t e => by simp only [substStmt, Stmt.size, size_substStmt σ t, size_substStmt σ e]
    | .exit _ => by simp only [substStmt, Stmt.size]
  theorem size_substClauses (σ : Subst) : ∀ cs : Clauses, (substClauses σ cs).size = cs.size
    | .nil => by simp only [substClauses, Clauses.size]
    | .cons _ _ body rest => by
      simp only [substClauses, Clauses.size, size_substStmt σ body, size_substClauses σ rest]
end

theorem reorder_perm (Γ : Ctx) (k : Nat) : (Γ.drop k ++ Γ.take k).Perm Γ := by
  have := List.perm_append_comm (l₁ := Γ.drop k) (l₂ := Γ.take k)
  rwa [List.take_append_drop] at this

end Scc.AxCut
