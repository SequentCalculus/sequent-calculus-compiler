/-
  Scc.AxCut.PosCapacity — a STATIC bound on the length of every context that the positional AxCut machine
  (Scc/AxCut/SemPos.lean) can reach in a run of a program: `capStmt n s` is the largest context length while `s`
  runs, entered with `n` variables, up to the next `call` / `invoke` (which replace the context), the bodies of the
  closures created in `s` included; `progCap P` is its maximum over the definitions (both executable).  The
  invariant `StateCap` — the bound for the current statement at the current context length, and for every closure
  value anywhere in the environment the bound for its clauses at the length of its environment — holds at the
  entry on integer arguments and is kept by every step (`init_cap`, `step_cap`), for ALL programs (the machine is
  stuck where a shape is violated).  Use: the capacity hypothesis of Theorem A ("every context of the run is
  within the numbering of temporaries") becomes the decidable per-program check `2 * progCap P + 2 < T_TEMP`
  (Scc/Props/C06Capacity.lean).
-/
import Scc.AxCut.PosStep
import Scc.NatLemmas

namespace Scc.AxCut.Pos

mutual
  def capStmt : Nat → Stmt → Nat
    | n, .subst pairs next => max n (capStmt pairs.length next)
    | n, .call _ _ => n
    | n, .letS _ _ _ _ next _ => max n (capStmt (n + 1) next)
    | n, .switch _ _ cl _ => max n (capClauses n cl)
    | n, .create _ _ env cl next _ _ =>
      max (max n (capStmt (n + 1) next)) (capClauses (env.getD []).length cl)
    | n, .invoke _ _ _ _ => n
    | n, .lit _ _ next _ => max n (capStmt (n + 1) next)
    | n, .op _ _ _ _ next _ => max n (capStmt (n + 1) next)
    | n, .print _ _ next _ => max n (capStmt n next)
    | n, .ifc _ _ _ t e => max n (max (capStmt n t) (capStmt n e))
    | n, .exit _ => n
  /-- the clauses entered with `m` further positions (the rest of the context / the closure
      environment) besides their own parameters -/
  def capClauses : Nat → Clauses → Nat
    | _, .nil => 0
    | m, .cons _ ctx b r => max (capStmt (m + ctx.length) b) (capClauses m r)
end

def progCap (P : Prog) : Nat := P.defs.foldl (fun acc d => max acc (capStmt d.ctx.length d.body)) 0

theorem le_capStmt : ∀ (n : Nat) (s : Stmt), n ≤ capStmt n s
  | n, .subst _ _ | n, .letS _ _ _ _ _ _ | n, .switch _ _ _ _ | n, .lit _ _ _ _ | n, .op _ _ _ _ _ _
  | n, .print _ _ _ _ | n, .ifc _ _ _ _ _ => Nat.le_max_left _ _
  | n, .create _ _ _ _ _ _ _ => Nat.le_trans (Nat.le_max_left _ _) (Nat.le_max_left _ _)
  | n, .call _ _ | n, .invoke _ _ _ _ | n, .exit _ => Nat.le_refl n

mutual
  theorem capStmt_mono : ∀ (s : Stmt) {n m : Nat}, n ≤ m → capStmt n s ≤ capStmt m s
    | .subst _ _, _, _, h => max_le_max h (Nat.le_refl _)
    | .call _ _, _, _, h | .invoke _ _ _ _, _, _, h | .exit _, _, _, h => h
    | .letS _ _ _ _ next _, _, _, h | .lit _ _ next _, _, _, h | .op _ _ _ _ next _, _, _, h =>
      max_le_max h (capStmt_mono next (Nat.succ_le_succ h))
    | .switch _ _ cl _, _, _, h => max_le_max h (capClauses_mono cl h)
    | .create _ _ _ _ next _ _, _, _, h =>
      max_le_max (max_le_max h (capStmt_mono next (Nat.succ_le_succ h))) (Nat.le_refl _)
    | .print _ _ next _, _, _, h => max_le_max h (capStmt_mono next h)
    | .ifc _ _ _ t e, _, _, h => max_le_max h (max_le_max (capStmt_mono t h) (capStmt_mono e h))
  theorem capClauses_mono : ∀ (cl : Clauses) {n m : Nat}, n ≤ m → capClauses n cl ≤ capClauses m cl
    | .nil, _, _, _ => Nat.le_refl _
    | .cons _ ctx b r, _, _, h =>
      max_le_max (capStmt_mono b (Nat.add_le_add_right h ctx.length)) (capClauses_mono r h)
end

theorem capClauses_nth : ∀ (cl : Clauses) (i : Nat) (c : Clause) (m : Nat), nthClause cl i = some c →
    capStmt (m + c.ctx.length) c.body ≤ capClauses m cl
  | .nil, _, _, _, h => by simp [nthClause] at h
  | .cons x ctx b r, 0, c, m, h => by
    simp only [nthClause, Option.some.injEq] at h
    subst h
    simp only [capClauses]; omega
  | .cons x ctx b r, i + 1, c, m, h => by
    simp only [nthClause] at h
    have := capClauses_nth r i c m h
    simp only [capClauses]; omega

theorem foldl_cap_ge (f : Def → Nat) : ∀ (l : List Def) (a : Nat),
    a ≤ l.foldl (fun acc d => max acc (f d)) a ∧ ∀ d ∈ l, f d ≤ l.foldl (fun acc d => max acc (f d)) a
  | [], a => ⟨Nat.le_refl _, fun d hd => by cases hd⟩
  | x :: l, a => by
    obtain ⟨h1, h2⟩ := foldl_cap_ge f l (max a (f x))
    refine ⟨by simp only [List.foldl_cons]; omega, ?_⟩
    intro d hd
    simp only [List.foldl_cons]
    rcases List.mem_cons.1 hd with rfl | hd
    · omega
    · exact h2 d hd

theorem progCap_def (P : Prog) : ∀ d ∈ P.defs, capStmt d.ctx.length d.body ≤ progCap P :=
  (foldl_cap_ge (fun d => capStmt d.ctx.length d.body) P.defs 0).2

mutual
  /-- every closure inside the value has clauses within the bound `B` at its environment's length -/
  inductive ValCap (B : Nat) : Value → Prop where
    | int (n : BitVec 64) : ValCap B (.int n)
    | obj {tag : Nat} {fields : List Value} : ValsCap B fields → ValCap B (.obj tag fields)
    | clo {Γc : Ctx} {env : List Value} {cl : Clauses} :
        ValsCap B env → capClauses Γc.length cl ≤ B → ValCap B (.clo Γc env cl)
  inductive ValsCap (B : Nat) : List Value → Prop where
    | nil : ValsCap B []
    | cons {v : Value} {vs : List Value} : ValCap B v → ValsCap B vs → ValsCap B (v :: vs)
end

theorem ValsCap.mem {B : Nat} : ∀ {vs : List Value}, ValsCap B vs → ∀ v ∈ vs, ValCap B v
  | [], _, v, hv => by cases hv
  | _ :: _, .cons h hs, v, hv => by
    rcases List.mem_cons.1 hv with rfl | hv
    · exact h
    · exact ValsCap.mem hs v hv

theorem ValsCap.of_mem {B : Nat} : ∀ {vs : List Value}, (∀ v ∈ vs, ValCap B v) → ValsCap B vs
  | [], _ => .nil
  | v :: vs, h => .cons (h v (by simp)) (ValsCap.of_mem fun w hw => h w (by simp [hw]))

theorem ValsCap.append {B : Nat} {a b : List Value} (ha : ValsCap B a) (hb : ValsCap B b) :
    ValsCap B (a ++ b) :=
  ValsCap.of_mem fun v hv => by
    rcases List.mem_append.1 hv with h | h
    · exact ha.mem v h
    · exact hb.mem v h

theorem ValsCap.sub {B : Nat} {a b : List Value} (ha : ValsCap B a) (h : ∀ v ∈ b, v ∈ a) :
    ValsCap B b :=
  ValsCap.of_mem fun v hv => ha.mem v (h v hv)

theorem ValsCap.ints {B : Nat} (args : List (BitVec 64)) : ValsCap B (args.map .int) :=
  ValsCap.of_mem fun v hv => by
    obtain ⟨a, _, rfl⟩ := List.mem_map.1 hv
    exact .int a

/-- the invariant of a state: the statement is within the bound at the current context length, and
    so is every closure in the environment -/
structure StateCap (B : Nat) (st : State) : Prop where
  stmt : capStmt st.ctx.length st.stmt ≤ B
  env : ValsCap B st.env

theorem StateCap.ctx_le {B : Nat} {st : State} (h : StateCap B st) : st.ctx.length ≤ B :=
  Nat.le_trans (le_capStmt _ _) h.stmt

theorem step_cap {P : Prog} {B : Nat} (hP : ∀ d ∈ P.defs, capStmt d.ctx.length d.body ≤ B)
    {st st' : State} {o : Option (Bool × BitVec 64)} (I : StateCap B st)
    (hs : step P st = .next st' o) : StateCap B st' := by
  obtain ⟨hst, henv⟩ := I
  cases step_next hs with simp only [capStmt] at hst henv
  | lit | op =>
    exact ⟨by simp only [List.length_append, List.length_singleton]; omega, henv.append (.cons (.int _) .nil)⟩
  | print => exact ⟨by simp only; omega, henv⟩
  | ifz | ifc => exact ⟨by simp only; split <;> omega, henv⟩
  | @letS Γ ρ _ _ _ args next =>
    refine ⟨?_, (henv.sub fun v hv => List.mem_of_mem_take hv).append
      (.cons (.obj (henv.sub fun v hv => List.mem_of_mem_drop hv)) .nil)⟩
    simp only [List.length_append, List.length_take, List.length_singleton]
    have := capStmt_mono next (show min (Γ.length - args.length) Γ.length + 1 ≤ Γ.length + 1 by omega)
    omega
  | @switch Γ ρ _ _ cl _ _ pos _ c _ hv _ _ hc =>
    have hcl := capClauses_nth cl pos c Γ.length hc
    cases henv.mem _ (List.mem_of_getLast? hv) with
    | obj hf =>
      refine ⟨?_, (henv.sub (List.dropLast_sublist _).subset).append hf⟩
      simp only [List.length_append, List.length_dropLast]
      have := capStmt_mono c.body (show Γ.length - 1 + c.ctx.length ≤ Γ.length + c.ctx.length by omega)
      omega
  | @create Γ ρ _ _ Γc _ next =>
    simp only [Option.getD_some] at hst
    refine ⟨?_, (henv.sub fun v hv => List.mem_of_mem_take hv).append
      (.cons (.clo (henv.sub fun v hv => List.mem_of_mem_drop hv) (by omega)) .nil)⟩
    simp only [List.length_append, List.length_take, List.length_singleton]
    have := capStmt_mono next (show min (Γ.length - Γc.length) Γ.length + 1 ≤ Γ.length + 1 by omega)
    omega
  | @invoke Γ ρ _ _ _ _ _ Γc _ cl pos c _ hv _ _ _ hc =>
    cases henv.mem _ (List.mem_of_getLast? hv) with
    | clo he hcap =>
      have hcl := capClauses_nth cl pos c Γc.length hc
      exact ⟨by simp only [List.length_append]; rw [Nat.add_comm]; omega,
        (henv.sub (List.dropLast_sublist _).subset).append he⟩
  | call hd => exact ⟨hP _ (List.mem_of_find?_eq_some hd), henv⟩
  | subst hvs => exact ⟨by simp only [List.length_map]; omega, henv.sub (build_mem _ _ hvs).2⟩

theorem init_cap {P : Prog} {B : Nat} (hP : ∀ d ∈ P.defs, capStmt d.ctx.length d.body ≤ B)
    {d : Def} (hd : d ∈ P.defs) (args : List (BitVec 64)) :
    StateCap B ⟨d.ctx, args.map .int, d.body⟩ :=
  ⟨hP d hd, ValsCap.ints args⟩

end Scc.AxCut.Pos
