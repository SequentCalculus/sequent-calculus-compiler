/-
  Scc.AxCut.NamedEnv — the environment of the named AxCut machine (Scc/AxCut/SemNamed.lean) is an association list
  read by first hit: what `Named.lookup` returns in front of, at, and behind a binding.  Used by the two
  simulations that have the named machine on one side (Scc/Core2AxCut/Sem*.lean, Scc/AxCut/LinRelSim.lean).
-/
import Scc.AxCut.SemNamed

namespace Scc.AxCut.Named

theorem lookup_cons (i : Nat) (v : Value) (η : Env) (j : Nat) :
    lookup ((i, v) :: η) j = if i = j then some v else lookup η j := by
  simp only [lookup, List.find?_cons]
  by_cases h : i = j
  · simp [h]
  · have : (i == j) = false := by simp [h]
    simp [this, h]

theorem lookup_cons_self (i : Nat) (v : Value) (η : Env) : lookup ((i, v) :: η) i = some v := by
  simp [lookup_cons]

theorem lookup_cons_ne {i j : Nat} (v : Value) (η : Env) (h : j ≠ i) :
    lookup ((i, v) :: η) j = lookup η j := by
  have : ¬ i = j := fun e => h e.symm
  simp [lookup_cons, this]

theorem lookup_append_of_not_mem {e η : Env} {j : Nat} (h : j ∉ e.map (·.1)) :
    lookup (e ++ η) j = lookup η j := by
  induction e with
  | nil => rfl
  | cons p e ih =>
    obtain ⟨i, v⟩ := p
    simp only [List.map_cons, List.mem_cons, not_or] at h
    rw [List.cons_append, lookup_cons_ne _ _ h.1]
    exact ih h.2

end Scc.AxCut.Named
