/-
  Scc.AxCut.PosSafe — proof file (C05: T5 of the list in Scc/Props/C05.lean): the positional machine of Scc/AxCut/SemPos.lean never
  violates a shape on an ordered-linearly typed program (type safety: preservation + progress, `step_safe` for
  the invariant `StateTyped`).  On the way, and used again by the simulation of Scc/AxCut/LinRelSim.lean: what
  the lookups of the machine return when the typing promises them (`tagPosition_ok`, `nthClause_ok`,
  `findDef_ok`, reading a typed variable).
-/
import Scc.AxCut.LinTyping
import Scc.AxCut.SemPos

namespace Scc.AxCut.Pos

mutual
  /-- value typing: an integer is `ext i64`; an object of type `ty` carries the position of one
  of the xtors of `ty` and fields of the declared kinds and types; a closure of type `ty` has
  the clauses of `ty`, typed under (parameters ++ closure context), and an environment matching
  the closure context -/
  inductive ValTyped (P : Prog) : Value → Chi → Ty → Prop where
    | int (n : BitVec 64) : ValTyped P (.int n) .ext .i64
    | obj {ty : Ty} {d : TypeDecl} {tag : Nat} {xt : XtorSig} {fields : List Value} :
        lookupTypeDecl P.types ty = some d → d.xtors[tag]? = some xt →
        FieldsTyped P fields xt.args.chiTys → ValTyped P (.obj tag fields) .prd ty
    | clo {ty : Ty} {d : TypeDecl} {Γc : Ctx} {env : List Value} {cs : Clauses} :
        lookupTypeDecl P.types ty = some d → ClausesMatch d.xtors cs →
        FieldsTyped P env Γc.chiTys → LinTypedClauses P.types P.sigs [] Γc cs →
        ValTyped P (.clo Γc env cs) .cns ty
  inductive FieldsTyped (P : Prog) : List Value → List (Chi × Ty) → Prop where
    | nil : FieldsTyped P [] []
    | cons {v : Value} {vs : List Value} {c : Chi} {t : Ty} {cts : List (Chi × Ty)} :
        ValTyped P v c t → FieldsTyped P vs cts → FieldsTyped P (v :: vs) ((c, t) :: cts)
end

variable {P : Prog}

theorem FieldsTyped.length_eq : ∀ {ρ : List Value} {cts : List (Chi × Ty)},
    FieldsTyped P ρ cts → ρ.length = cts.length
  | [], _, h => by cases h; rfl
  | _ :: vs, _, h => by
    cases h with
    | cons hv hvs => simp [FieldsTyped.length_eq hvs]

theorem FieldsTyped.append : ∀ {ρ1 ρ2 : List Value} {c1 c2 : List (Chi × Ty)},
    FieldsTyped P ρ1 c1 → FieldsTyped P ρ2 c2 → FieldsTyped P (ρ1 ++ ρ2) (c1 ++ c2)
  | [], _, _, _, h1, h2 => by cases h1; simpa using h2
  | _ :: vs, _, _, _, h1, h2 => by
    cases h1 with
    | cons hv hvs => exact .cons hv (FieldsTyped.append hvs h2)

theorem FieldsTyped.split : ∀ {ρ : List Value} (c1 : List (Chi × Ty)) {c2 : List (Chi × Ty)},
    FieldsTyped P ρ (c1 ++ c2) →
    FieldsTyped P (ρ.take c1.length) c1 ∧ FieldsTyped P (ρ.drop c1.length) c2
  | ρ, [], _, h => by simpa using ⟨FieldsTyped.nil, h⟩
  | [], _ :: _, _, h => by cases h
  | v :: vs, (c, t) :: c1, c2, h => by
    cases h with
    | cons hv hvs =>
      obtain ⟨h1, h2⟩ := FieldsTyped.split c1 hvs
      exact ⟨by simpa using FieldsTyped.cons hv h1, by simpa using h2⟩

theorem FieldsTyped.singleton {v : Value} {c : Chi} {t : Ty} (h : ValTyped P v c t) :
    FieldsTyped P [v] [(c, t)] := .cons h .nil

/-- The machine's `Pos.chiTys` (SemPos.lean) and the typing's `Ctx.chiTys` (LinTyping.lean) are the same function.
    The lemmas below are stated for the latter; where a step of the machine is compared with a typing (`safe_call`,
    `Sim.sim_call` of Scc/AxCut/LinRelSim.lean) the two are identified by unfolding. -/
theorem chiTys_eq_ctx (Γ : Ctx) : chiTys Γ = Ctx.chiTys Γ := rfl

theorem chiTys_append (Γ Δ : Ctx) : Ctx.chiTys (Γ ++ Δ) = Ctx.chiTys Γ ++ Ctx.chiTys Δ := by
  simp [Ctx.chiTys]

theorem chiTys_length (Γ : Ctx) : (Ctx.chiTys Γ).length = Γ.length := by simp [Ctx.chiTys]

theorem chiTys_of_keys {Γ Δ : Ctx} (h : Γ.keys = Δ.keys) : Γ.chiTys = Δ.chiTys := by
  have := congrArg (List.map (fun k : Nat × Chi × Ty => k.2)) h
  simpa [Ctx.keys, Ctx.chiTys, Binding.key, Function.comp_def] using this

theorem length_of_keys {Γ Δ : Ctx} (h : Γ.keys = Δ.keys) : Γ.length = Δ.length := by
  have := congrArg List.length h
  simpa [Ctx.keys] using this

/-- reading a variable that the typing promises -/
theorem readVar_typed : ∀ (Γ : Ctx) (ρ : List Value), FieldsTyped P ρ Γ.chiTys → NodupIds Γ →
    ∀ (x : Nat) (c : Chi) (t : Ty), HasVar Γ x c t →
    ∃ i v, posOf Γ x = some i ∧ ρ[i]? = some v ∧ ValTyped P v c t
  | [], _, _, _, x, c, t, h => by obtain ⟨b, hb, _⟩ := h; cases hb
  | b :: Γ, ρ, hρ, hn, x, c, t, h => by
    cases hρ with
    | cons hv hvs =>
      rename_i v vs
      simp only [NodupIds, Ctx.ids, List.map_cons, List.nodup_cons] at hn
      by_cases e : b.var.id = x
      · refine ⟨0, v, by simp [posOf, List.findIdx?_cons, e], rfl, ?_⟩
        obtain ⟨b', hb', e', rfl, rfl⟩ := h
        rcases List.mem_cons.1 hb' with rfl | hb'
        · exact hv
        · exact absurd (List.mem_map.2 ⟨b', hb', by rw [e', e]⟩) hn.1
      · have h' : HasVar Γ x c t := by
          obtain ⟨b', hb', e', rfl, rfl⟩ := h
          rcases List.mem_cons.1 hb' with rfl | hb'
          · exact absurd e' e
          · exact ⟨b', hb', e', rfl, rfl⟩
        obtain ⟨i, v', h1, h2, h3⟩ := readVar_typed Γ vs hvs hn.2 x c t h'
        refine ⟨i + 1, v', ?_, by simpa using h2, h3⟩
        have : (b.var.id == x) = false := by simpa using e
        simp only [posOf] at h1 ⊢
        simp [List.findIdx?_cons, this, h1]

theorem readVar_ok {Γ : Ctx} {ρ : List Value} (hρ : FieldsTyped P ρ Γ.chiTys) (hn : NodupIds Γ)
    {x : Ident} {c : Chi} {t : Ty} (h : HasVar Γ x.id c t) :
    ∃ v, readVar Γ ρ x = .ok v ∧ ValTyped P v c t := by
  obtain ⟨i, v, h1, h2, h3⟩ := readVar_typed Γ ρ hρ hn x.id c t h
  exact ⟨v, by simp [readVar, h1, h2], h3⟩

theorem readInt_ok {Γ : Ctx} {ρ : List Value} (hρ : FieldsTyped P ρ Γ.chiTys) (hn : NodupIds Γ)
    {x : Ident} (h : HasVar Γ x.id .ext .i64) : ∃ n, readInt Γ ρ x = .ok n := by
  obtain ⟨v, h1, h2⟩ := readVar_ok hρ hn h
  cases h2 with
  | int n => exact ⟨n, by simp [readInt, h1]⟩

theorem evalOp_safe (o : BinOp) (a b : BitVec 64) :
    (∃ v, evalOp o a b = .ok v) ∨ evalOp o a b = .error .divByZero ∨ evalOp o a b = .error .overflow := by
  cases o <;> simp only [evalOp]
  · split
    · exact Or.inr (Or.inl rfl)
    · split
      · exact Or.inr (Or.inr rfl)
      · exact Or.inl ⟨_, rfl⟩
  · exact Or.inl ⟨_, rfl⟩
  · split
    · exact Or.inr (Or.inl rfl)
    · split
      · exact Or.inr (Or.inr rfl)
      · exact Or.inl ⟨_, rfl⟩
  · exact Or.inl ⟨_, rfl⟩
  · exact Or.inl ⟨_, rfl⟩

theorem xtorPosition_go (tag : Ident) : ∀ (xs : List XtorSig) (k : Nat) (xt : XtorSig),
    xs.find? (fun x => x.name == tag) = some xt →
    ∃ i, xtorPosition.go tag xs k = some (k + i) ∧ xs[i]? = some xt
  | [], _, _, h => by simp at h
  | x :: xs, k, xt, h => by
    simp only [List.find?_cons] at h
    by_cases e : (x.name == tag) = true
    · simp only [e] at h
      injection h with h
      subst h
      exact ⟨0, by simp [xtorPosition.go, e], rfl⟩
    · have e' : (x.name == tag) = false := by simpa using e
      simp only [e'] at h
      obtain ⟨i, h1, h2⟩ := xtorPosition_go tag xs (k + 1) xt h
      refine ⟨i + 1, ?_, by simpa using h2⟩
      simp only [xtorPosition.go, e', Bool.false_eq_true, if_false]
      rw [h1]; congr 1; omega

/-- a tag with a signature has a position in its declaration; `tagPosition` returns it -/
theorem tagPosition_xtorPosition {T : List TypeDecl} {ty : Ty} {tag : Ident} {sig : Ctx}
    (h : lookupXtor T ty tag = some sig) :
    ∃ d xt i, lookupTypeDecl T ty = some d ∧ xtorPosition d tag = some i ∧ d.xtors[i]? = some xt ∧
      xt.args = sig ∧ tagPosition T ty tag = .ok i := by
  unfold lookupXtor at h
  cases hd : lookupTypeDecl T ty with
  | none => simp [hd] at h
  | some d =>
    simp only [hd] at h
    cases hx : d.xtors.find? (fun x => x.name == tag) with
    | none => simp [hx] at h
    | some xt =>
      simp only [hx, Option.some.injEq] at h
      obtain ⟨i, h1, h2⟩ := xtorPosition_go tag d.xtors 0 xt hx
      have hp : xtorPosition d tag = some i := by simpa [xtorPosition] using h1
      exact ⟨d, xt, i, rfl, hp, h2, h, by simp [tagPosition, hd, hp]⟩

theorem tagPosition_ok {T : List TypeDecl} {ty : Ty} {tag : Ident} {sig : Ctx}
    (h : lookupXtor T ty tag = some sig) :
    ∃ d xt i, lookupTypeDecl T ty = some d ∧ d.xtors[i]? = some xt ∧ xt.args = sig ∧
      tagPosition T ty tag = .ok i := by
  obtain ⟨d, xt, i, hd, _, hx, hs, ht⟩ := tagPosition_xtorPosition h
  exact ⟨d, xt, i, hd, hx, hs, ht⟩

theorem nthClause_ok : ∀ (xs : List XtorSig) (cs : Clauses) (i : Nat) (xt : XtorSig),
    ClausesMatch xs cs → xs[i]? = some xt →
    ∃ c, nthClause cs i = some c ∧ xt.args.chiTys = c.ctx.chiTys ∧
      ∀ T S pre post, LinTypedClauses T S pre post cs → LinTyped T S (pre ++ c.ctx ++ post) c.body
  | [], _, _, _, _, h => by simp at h
  | _ :: _, .nil, _, _, hm, _ => by simp [ClausesMatch] at hm
  | x :: xs, .cons n ctx body rest, 0, xt, hm, h => by
    simp only [ClausesMatch] at hm
    simp only [List.getElem?_cons_zero, Option.some.injEq] at h
    subst h
    refine ⟨⟨n, ctx, body⟩, rfl, hm.2.1, ?_⟩
    intro T S pre post hc
    cases hc with
    | cons hb _ => exact hb
  | x :: xs, .cons n ctx body rest, i + 1, xt, hm, h => by
    simp only [ClausesMatch] at hm
    simp only [List.getElem?_cons_succ] at h
    obtain ⟨c, h1, h2, h3⟩ := nthClause_ok xs rest i xt hm.2.2 h
    refine ⟨c, by simpa [nthClause] using h1, h2, ?_⟩
    intro T S pre post hc
    cases hc with
    | cons _ hr => exact h3 T S pre post hr

theorem findDef_ok {P : Prog} {l : Ident} {params : Ctx} (h : findSig P.sigs l = some params) :
    ∃ d, findDef P.defs l = some d ∧ d.ctx = params ∧ d ∈ P.defs := by
  unfold findSig Prog.sigs at h
  rw [List.find?_map] at h
  unfold findDef
  cases hd : P.defs.find? (fun d => d.name == l) with
  | none =>
    have : List.find? ((fun s : Ident × Ctx => s.1 == l) ∘ fun d : Def => (d.name, d.ctx)) P.defs = none := hd
    simp [this] at h
  | some d =>
    have : List.find? ((fun s : Ident × Ctx => s.1 == l) ∘ fun d : Def => (d.name, d.ctx)) P.defs = some d := hd
    simp only [this, Option.map_some, Option.some.injEq] at h
    exact ⟨d, rfl, h, List.mem_of_find?_eq_some hd⟩

/-- the invariant of type safety: the statement is ordered-linearly typed in the context, and the environment
    holds, position by position, values of the kinds and types of the context -/
def StateTyped (P : Prog) (st : State) : Prop :=
  LinTyped P.types P.sigs st.ctx st.stmt ∧ FieldsTyped P st.env st.ctx.chiTys

/-- a step result that type safety allows: a typed next state, a final value, or one of the two arithmetic faults -/
def StepSafe (P : Prog) : StepResult → Prop
  | .next st' _ => StateTyped P st'
  | .done _ => True
  | .stuck w => w = .divByZero ∨ w = .overflow

theorem env_append_singleton {Γ : Ctx} {ρ : List Value} (henv : FieldsTyped P ρ Γ.chiTys)
    {b : Binding} {v : Value} (hv : ValTyped P v b.chi b.ty) :
    FieldsTyped P (ρ ++ [v]) (Ctx.chiTys (Γ ++ [b])) := by
  rw [chiTys_append]
  exact henv.append (.singleton hv)

theorem safe_lit {Γ ρ x n next fv} (hnext : LinTyped P.types P.sigs (Γ ++ [⟨x, .ext, .i64⟩]) next)
    (henv : FieldsTyped P ρ Γ.chiTys) : StepSafe P (step P ⟨Γ, ρ, .lit x n next fv⟩) := by
  simp only [step, StepSafe, StateTyped]
  exact ⟨hnext, env_append_singleton (b := ⟨x, .ext, .i64⟩) henv (.int _)⟩

theorem safe_op {Γ ρ x a o b next fv} (hn : NodupIds Γ) (ha : HasVar Γ a.id .ext .i64)
    (hb : HasVar Γ b.id .ext .i64)
    (hnext : LinTyped P.types P.sigs (Γ ++ [⟨x, .ext, .i64⟩]) next)
    (henv : FieldsTyped P ρ Γ.chiTys) : StepSafe P (step P ⟨Γ, ρ, .op x a o b next fv⟩) := by
  obtain ⟨va, ea⟩ := readInt_ok henv hn ha
  obtain ⟨vb, eb⟩ := readInt_ok henv hn hb
  simp only [step, ea, eb]
  rcases evalOp_safe o va vb with ⟨v, e⟩ | e | e <;> simp only [e, StepSafe, StateTyped]
  · exact ⟨hnext, env_append_singleton (b := ⟨x, .ext, .i64⟩) henv (.int _)⟩
  · exact Or.inl trivial
  · exact Or.inr trivial

theorem safe_print {Γ ρ nl a next fv} (hn : NodupIds Γ) (ha : HasVar Γ a.id .ext .i64)
    (hnext : LinTyped P.types P.sigs Γ next)
    (henv : FieldsTyped P ρ Γ.chiTys) : StepSafe P (step P ⟨Γ, ρ, .print nl a next fv⟩) := by
  obtain ⟨va, ea⟩ := readInt_ok henv hn ha
  simp only [step, ea, StepSafe, StateTyped]
  exact ⟨hnext, henv⟩

theorem safe_exit {Γ ρ a} (hn : NodupIds Γ) (ha : HasVar Γ a.id .ext .i64)
    (henv : FieldsTyped P ρ Γ.chiTys) : StepSafe P (step P ⟨Γ, ρ, .exit a⟩) := by
  obtain ⟨va, ea⟩ := readInt_ok henv hn ha
  simp only [step, ea, StepSafe]

theorem safe_ifc {Γ ρ s a b t e} (hn : NodupIds Γ) (ha : HasVar Γ a.id .ext .i64)
    (hb : ∀ b', b = some b' → HasVar Γ b'.id .ext .i64)
    (ht : LinTyped P.types P.sigs Γ t) (he : LinTyped P.types P.sigs Γ e)
    (henv : FieldsTyped P ρ Γ.chiTys) : StepSafe P (step P ⟨Γ, ρ, .ifc s a b t e⟩) := by
  obtain ⟨va, ea⟩ := readInt_ok henv hn ha
  cases b with
  | none =>
    simp only [step, ea, StepSafe, StateTyped]
    split <;> exact ⟨by assumption, henv⟩
  | some b' =>
    obtain ⟨vb, eb⟩ := readInt_ok henv hn (hb b' rfl)
    simp only [step, ea, eb, StepSafe, StateTyped]
    split <;> exact ⟨by assumption, henv⟩

theorem safe_let {Γ' Γa ρ x ty tag args sig next fv}
    (hk : Γa.keys = args.keys) (hs : lookupXtor P.types ty tag = some sig)
    (hs' : args.chiTys = sig.chiTys)
    (hnext : LinTyped P.types P.sigs (Γ' ++ [⟨x, .prd, ty⟩]) next)
    (henv : FieldsTyped P ρ (Ctx.chiTys (Γ' ++ Γa))) :
    StepSafe P (step P ⟨Γ' ++ Γa, ρ, .letS x ty tag args next fv⟩) := by
  obtain ⟨d, xt, i, hd, hx, hxs, htp⟩ := tagPosition_ok hs
  have hlen : args.length = Γa.length := (length_of_keys hk).symm
  have hρ : ρ.length = (Γ' ++ Γa).length := by rw [henv.length_eq, chiTys_length]
  have hc : ¬ ((Γ' ++ Γa).length < args.length ∨ ρ.length ≠ (Γ' ++ Γa).length) := by
    rw [hlen]; simp [hρ]
  have hn : (Γ' ++ Γa).length - args.length = Γ'.length := by rw [hlen]; simp
  simp only [step, if_neg hc, htp, hn, StepSafe, StateTyped]
  rw [chiTys_append] at henv
  obtain ⟨h1, h2⟩ := FieldsTyped.split (Ctx.chiTys Γ') henv
  rw [chiTys_length] at h1 h2
  rw [List.take_left' rfl]
  refine ⟨hnext, env_append_singleton (b := ⟨x, .prd, ty⟩) h1 (.obj hd hx ?_)⟩
  rw [hxs, ← hs', ← chiTys_of_keys hk]
  exact h2

theorem env_last {Γ' : Ctx} {b : Binding} {ρ : List Value}
    (henv : FieldsTyped P ρ (Ctx.chiTys (Γ' ++ [b]))) :
    ∃ ρ' v, ρ = ρ' ++ [v] ∧ FieldsTyped P ρ' Γ'.chiTys ∧ ValTyped P v b.chi b.ty := by
  rw [chiTys_append] at henv
  obtain ⟨h1, h2⟩ := FieldsTyped.split (Ctx.chiTys Γ') henv
  rw [chiTys_length] at h1 h2
  refine ⟨ρ.take Γ'.length, ?_⟩
  cases hd : ρ.drop Γ'.length with
  | nil => rw [hd] at h2; cases h2
  | cons v rest =>
    rw [hd] at h2
    cases h2 with
    | cons hv hr =>
      cases hr
      exact ⟨v, by rw [← hd, List.take_append_drop], h1, hv⟩

theorem lookupTypeDecl_unique {T : List TypeDecl} {ty : Ty} {d d' : TypeDecl}
    (h : lookupTypeDecl T ty = some d) (h' : lookupTypeDecl T ty = some d') : d = d' := by
  rw [h] at h'; injection h'

theorem safe_switch {Γ' b ρ x ty cs fv d}
    (hb : b.key = (x.id, .prd, ty)) (hd : lookupTypeDecl P.types ty = some d)
    (hm : ClausesMatch d.xtors cs) (hc : LinTypedClauses P.types P.sigs Γ' [] cs)
    (henv : FieldsTyped P ρ (Ctx.chiTys (Γ' ++ [b]))) :
    StepSafe P (step P ⟨Γ' ++ [b], ρ, .switch x ty cs fv⟩) := by
  obtain ⟨ρ', v, rfl, h1, hv⟩ := env_last henv
  have hbid : b.var.id = x.id := congrArg (·.1) hb
  have hbchi : b.chi = .prd := congrArg (·.2.1) hb
  have hbty : b.ty = ty := congrArg (·.2.2) hb
  rw [hbchi, hbty] at hv
  have hlen : (ρ' ++ [v]).length = (Γ' ++ [b]).length := by
    rw [henv.length_eq, chiTys_length]
  have hcnd : ¬ (b.var.id ≠ x.id ∨ (ρ' ++ [v]).length ≠ (Γ' ++ [b]).length) := by
    simp [hbid, hlen]
  cases hv with
  | obj hd' hx hf =>
    rename_i d' tag xt fields
    have := lookupTypeDecl_unique hd hd'
    subst this
    obtain ⟨c, hc1, hc2, hc3⟩ := nthClause_ok d.xtors cs tag xt hm hx
    have hfl : fields.length = c.ctx.length := by
      rw [hf.length_eq, hc2, chiTys_length]
    simp only [step, List.getLast?_concat, if_neg hcnd, hc1, hfl, ne_eq, not_true_eq_false,
      if_false, List.dropLast_concat, StepSafe, StateTyped]
    refine ⟨by simpa using hc3 _ _ _ _ hc, ?_⟩
    rw [chiTys_append]
    exact h1.append (hc2 ▸ hf)

theorem safe_create {Γn Γe Γc ρ x ty cs next fc fn d}
    (hk : Γe.keys = Γc.keys) (hd : lookupTypeDecl P.types ty = some d)
    (hm : ClausesMatch d.xtors cs) (hc : LinTypedClauses P.types P.sigs [] Γc cs)
    (hnext : LinTyped P.types P.sigs (Γn ++ [⟨x, .cns, ty⟩]) next)
    (henv : FieldsTyped P ρ (Ctx.chiTys (Γn ++ Γe))) :
    StepSafe P (step P ⟨Γn ++ Γe, ρ, .create x ty (some Γc) cs next fc fn⟩) := by
  have hlen : Γc.length = Γe.length := (length_of_keys hk).symm
  have hρ : ρ.length = (Γn ++ Γe).length := by rw [henv.length_eq, chiTys_length]
  have hcnd : ¬ ((Γn ++ Γe).length < Γc.length ∨ ρ.length ≠ (Γn ++ Γe).length) := by
    rw [hlen]; simp [hρ]
  have hn : (Γn ++ Γe).length - Γc.length = Γn.length := by rw [hlen]; simp
  simp only [step, if_neg hcnd, hn, StepSafe, StateTyped]
  rw [chiTys_append] at henv
  obtain ⟨h1, h2⟩ := FieldsTyped.split (Ctx.chiTys Γn) henv
  rw [chiTys_length] at h1 h2
  rw [List.take_left' rfl]
  refine ⟨hnext, env_append_singleton (b := ⟨x, .cns, ty⟩) h1 (.clo hd hm ?_ hc)⟩
  rw [← chiTys_of_keys hk]
  exact h2

theorem safe_invoke {Γa b ρ x tag ty args sig}
    (hb : b.key = (x.id, .cns, ty)) (hs : lookupXtor P.types ty tag = some sig)
    (hs' : Ctx.chiTys Γa = sig.chiTys)
    (henv : FieldsTyped P ρ (Ctx.chiTys (Γa ++ [b]))) :
    StepSafe P (step P ⟨Γa ++ [b], ρ, .invoke x tag ty args⟩) := by
  obtain ⟨ρ', v, rfl, h1, hv⟩ := env_last henv
  have hbid : b.var.id = x.id := congrArg (·.1) hb
  have hbchi : b.chi = .cns := congrArg (·.2.1) hb
  have hbty : b.ty = ty := congrArg (·.2.2) hb
  rw [hbchi, hbty] at hv
  have hlen : (ρ' ++ [v]).length = (Γa ++ [b]).length := by
    rw [henv.length_eq, chiTys_length]
  have hcnd : ¬ (b.var.id ≠ x.id ∨ (ρ' ++ [v]).length ≠ (Γa ++ [b]).length) := by
    simp [hbid, hlen]
  obtain ⟨d, xt, i, hd, hx, hxs, htp⟩ := tagPosition_ok hs
  cases hv with
  | clo hd' hm hf hc =>
    rename_i d' Γc env cs
    have := lookupTypeDecl_unique hd hd'
    subst this
    obtain ⟨c, hc1, hc2, hc3⟩ := nthClause_ok d.xtors cs i xt hm hx
    have hal : (Γa ++ [b]).length - 1 = c.ctx.length := by
      have : Γa.length = c.ctx.length := by
        rw [← chiTys_length Γa, hs', ← hxs, hc2, chiTys_length]
      simp [this]
    simp only [step, List.getLast?_concat, if_neg hcnd, htp, hc1, hal, ne_eq, not_true_eq_false,
      if_false, List.dropLast_concat, StepSafe, StateTyped]
    refine ⟨by simpa using hc3 _ _ _ _ hc, ?_⟩
    rw [chiTys_append]
    refine FieldsTyped.append ?_ hf
    rw [← hc2, hxs, ← hs']
    exact h1

theorem safe_call (hP : LinTypedProg P) {Γ ρ l args params}
    (hf : findSig P.sigs l = some params) (hc : Γ.chiTys = params.chiTys)
    (henv : FieldsTyped P ρ Γ.chiTys) : StepSafe P (step P ⟨Γ, ρ, .call l args⟩) := by
  obtain ⟨d, hd, hctx, hmem⟩ := findDef_ok hf
  have hρ : ρ.length = Γ.length := by rw [henv.length_eq, chiTys_length]
  have hcnd : ¬ (chiTys Γ ≠ chiTys d.ctx ∨ ρ.length ≠ Γ.length) := by
    have : chiTys Γ = chiTys d.ctx := by
      have := hc; rw [← hctx] at this; exact this
    simp [this, hρ]
  simp only [step, hd, if_neg hcnd, StepSafe, StateTyped]
  refine ⟨hP d hmem, ?_⟩
  have : Ctx.chiTys d.ctx = Ctx.chiTys Γ := by rw [hctx]; exact hc.symm
  rw [this]; exact henv

theorem build_ok {Γ : Ctx} {ρ : List Value} (henv : FieldsTyped P ρ Γ.chiTys) (hn : NodupIds Γ) :
    ∀ (pairs : List (Binding × Ident)), (∀ p ∈ pairs, HasVar Γ p.2.id p.1.chi p.1.ty) →
      ∃ vs, step.build Γ ρ pairs = .ok vs ∧ FieldsTyped P vs (Ctx.chiTys (pairs.map (·.1)))
  | [], _ => ⟨[], by simp [step.build], by simpa [Ctx.chiTys] using FieldsTyped.nil⟩
  | p :: ps, h => by
    obtain ⟨v, hv1, hv2⟩ := readVar_ok henv hn (h p (by simp))
    obtain ⟨vs, h1, h2⟩ := build_ok henv hn ps (fun q hq => h q (List.mem_cons_of_mem _ hq))
    refine ⟨v :: vs, by simp [step.build, hv1, h1], ?_⟩
    simpa [Ctx.chiTys] using FieldsTyped.cons hv2 h2

theorem safe_subst {Γ ρ pairs next} (hn : NodupIds Γ)
    (hp : ∀ p ∈ pairs, HasVar Γ p.2.id p.1.chi p.1.ty)
    (hnext : LinTyped P.types P.sigs (pairs.map (·.1)) next)
    (henv : FieldsTyped P ρ Γ.chiTys) : StepSafe P (step P ⟨Γ, ρ, .subst pairs next⟩) := by
  obtain ⟨vs, h1, h2⟩ := build_ok henv hn pairs hp
  simp only [step, h1, StepSafe, StateTyped]
  exact ⟨hnext, h2⟩

/-- preservation + progress in one step -/
theorem step_safe (hP : LinTypedProg P) (st : State) (h : StateTyped P st) :
    StepSafe P (step P st) := by
  obtain ⟨Γ, ρ, s⟩ := st
  obtain ⟨hty, henv⟩ := h
  simp only at hty henv
  cases hty with
  | subst hn hp _ hnext => exact safe_subst hn hp hnext henv
  | call hn hf hc => exact safe_call hP hf hc henv
  | letS hn e hk hs hs' _ hnext => subst e; exact safe_let hk hs hs' hnext henv
  | switch hn e hb hd hm hc => subst e; exact safe_switch hb hd hm hc henv
  | create hn e hk hd hm hc _ hnext => subst e; exact safe_create hk hd hm hc hnext henv
  | invoke hn e hb hs hs' => subst e; exact safe_invoke hb hs hs' henv
  | lit _ _ hnext => exact safe_lit hnext henv
  | op hn ha hb _ hnext => exact safe_op hn ha hb hnext henv
  | print hn ha hnext => exact safe_print hn ha hnext henv
  | ifc hn ha hb ht he => exact safe_ifc hn ha hb ht he henv
  | exit hn ha => exact safe_exit hn ha henv

/-- a run result that type safety allows: no `stuck` other than the two arithmetic faults -/
def ResSafe : Result → Prop
  | .done _ => True
  | .outOfFuel => True
  | .stuck why => why = .divByZero ∨ why = .overflow

theorem runState_safe (hP : LinTypedProg P) : ∀ (fuel : Nat) (st : State) (out : List (Bool × BitVec 64)),
    StateTyped P st → ResSafe (runState P fuel st out).res
  | 0, _, _, _ => by simp [runState, ResSafe]
  | fuel + 1, st, out, h => by
    have hs := step_safe hP st h
    simp only [runState]
    cases hstep : step P st with
    | done v => simp [ResSafe]
    | stuck w => rw [hstep] at hs; exact hs
    | next st' o =>
      rw [hstep] at hs
      exact runState_safe hP fuel st' _ hs

theorem ints_typed : ∀ (Γ : Ctx) (args : List (BitVec 64)), Γ.length = args.length →
    (∀ b ∈ Γ, b.chi = .ext ∧ b.ty = .i64) → FieldsTyped P (args.map .int) Γ.chiTys
  | [], [], _, _ => by simpa [Ctx.chiTys] using FieldsTyped.nil
  | [], _ :: _, h, _ => by simp at h
  | _ :: _, [], h, _ => by simp at h
  | b :: Γ, a :: as, h, hb => by
    have h0 := hb b (by simp)
    have := ints_typed Γ as (by simpa using h) (fun c hc => hb c (List.mem_cons_of_mem _ hc))
    simp only [Ctx.chiTys, List.map_cons, h0.1, h0.2]
    exact .cons (.int a) this

/-- T5: on an ordered-linearly typed program whose entry takes integers the positional machine
stops only with `done`, division by zero or overflow (or runs out of fuel): no shape violation,
no unbound variable, no value of the wrong sort, no failed lookup. -/
theorem run_safe (hP : LinTypedProg P) (args : List (BitVec 64)) (fuel : Nat)
    (hentry : ∀ d, P.defs.head? = some d →
      d.ctx.length = args.length ∧ ∀ b ∈ d.ctx, b.chi = .ext ∧ b.ty = .i64)
    (hne : P.defs ≠ []) : ResSafe (run P args fuel).res := by
  unfold run
  cases hd : P.defs with
  | nil => exact absurd hd hne
  | cons d ds =>
    obtain ⟨hl, hb⟩ := hentry d (by simp [hd])
    have hc : ¬ (d.ctx.length ≠ args.length) := by simp [hl]
    simp only [if_neg hc]
    apply runState_safe hP
    exact ⟨hP d (by simp [hd]), ints_typed d.ctx args hl hb⟩

end Scc.AxCut.Pos
