/-
  Scc.AxCut.PosStep — the positional machine (Scc/AxCut/SemPos.lean) as a set of rules: `Next P st st' o` lists, one
  constructor per statement form (two for `ifc`), the premises under which `Pos.step P st` is `.next st' o` and the
  state it yields; `step_next` says that these are all, `step_done_iff` does the same for `.done`.
  An invariant of the machine is proved by `cases` on a `Next`.
-/
import Scc.AxCut.SemPos

namespace Scc.AxCut.Pos

/-- `Next P st st' o`: from `st` the machine goes to `st'` with output `o`, by the rule named after the statement
    form of `st` -/
inductive Next (P : Prog) : State → State → Option (Bool × BitVec 64) → Prop
  | lit {Γ ρ x n next fv} :
      Next P ⟨Γ, ρ, .lit x n next fv⟩ ⟨Γ ++ [⟨x, .ext, .i64⟩], ρ ++ [.int (BitVec.ofInt 64 n)], next⟩ none
  | op {Γ ρ x a o b next fv va vb v} : readInt Γ ρ a = .ok va → readInt Γ ρ b = .ok vb → evalOp o va vb = .ok v →
      Next P ⟨Γ, ρ, .op x a o b next fv⟩ ⟨Γ ++ [⟨x, .ext, .i64⟩], ρ ++ [.int v], next⟩ none
  | print {Γ ρ nl a next fv v} : readInt Γ ρ a = .ok v →
      Next P ⟨Γ, ρ, .print nl a next fv⟩ ⟨Γ, ρ, next⟩ (some (nl, v))
  | ifz {Γ ρ s a t e va} : readInt Γ ρ a = .ok va →
      Next P ⟨Γ, ρ, .ifc s a none t e⟩ ⟨Γ, ρ, if evalCmp s va 0 then t else e⟩ none
  | ifc {Γ ρ s a b t e va vb} : readInt Γ ρ a = .ok va → readInt Γ ρ b = .ok vb →
      Next P ⟨Γ, ρ, .ifc s a (some b) t e⟩ ⟨Γ, ρ, if evalCmp s va vb then t else e⟩ none
  | letS {Γ ρ x ty tag args next fv pos} : args.length ≤ Γ.length → ρ.length = Γ.length →
      tagPosition P.types ty tag = .ok pos →
      Next P ⟨Γ, ρ, .letS x ty tag args next fv⟩
        ⟨Γ.take (Γ.length - args.length) ++ [⟨x, .prd, ty⟩],
          ρ.take (Γ.length - args.length) ++ [.obj pos (ρ.drop (Γ.length - args.length))], next⟩ none
  | switch {Γ ρ x ty cl fv b pos fields c} : Γ.getLast? = some b → ρ.getLast? = some (.obj pos fields) →
      b.var.id = x.id → ρ.length = Γ.length → nthClause cl pos = some c → fields.length = c.ctx.length →
      Next P ⟨Γ, ρ, .switch x ty cl fv⟩ ⟨Γ.dropLast ++ c.ctx, ρ.dropLast ++ fields, c.body⟩ none
  | create {Γ ρ x ty Γc cl next fc fn} : Γc.length ≤ Γ.length → ρ.length = Γ.length →
      Next P ⟨Γ, ρ, .create x ty (some Γc) cl next fc fn⟩
        ⟨Γ.take (Γ.length - Γc.length) ++ [⟨x, .cns, ty⟩],
          ρ.take (Γ.length - Γc.length) ++ [.clo Γc (ρ.drop (Γ.length - Γc.length)) cl], next⟩ none
  | invoke {Γ ρ x tag ty args b Γc ρc cl pos c} : Γ.getLast? = some b → ρ.getLast? = some (.clo Γc ρc cl) →
      b.var.id = x.id → ρ.length = Γ.length → tagPosition P.types ty tag = .ok pos →
      nthClause cl pos = some c → Γ.length - 1 = c.ctx.length →
      Next P ⟨Γ, ρ, .invoke x tag ty args⟩ ⟨c.ctx ++ Γc, ρ.dropLast ++ ρc, c.body⟩ none
  | call {Γ ρ l args d} : findDef P.defs l = some d → chiTys Γ = chiTys d.ctx → ρ.length = Γ.length →
      Next P ⟨Γ, ρ, .call l args⟩ ⟨d.ctx, ρ, d.body⟩ none
  | subst {Γ ρ pairs next vs} : step.build Γ ρ pairs = .ok vs →
      Next P ⟨Γ, ρ, .subst pairs next⟩ ⟨pairs.map (·.1), vs, next⟩ none

/-- every `.next` step is an instance of a rule of `Next` (the proof splits every `match` and `if` of `step`: the stuck
    branches contradict `hs`, the one that is left carries the premises of the rule as the equations of the splits) -/
theorem step_next {P : Prog} {st st' : State} {o : Option (Bool × BitVec 64)}
    (hs : step P st = .next st' o) : Next P st st' o := by
  obtain ⟨Γ, ρ, s⟩ := st
  cases s with
  | lit x n next fv => cases hs; exact .lit
  | op x a o' b next fv =>
    simp only [step] at hs
    repeat' split at hs
    all_goals cases hs
    exact .op ‹_› ‹_› ‹_›
  | print nl a next fv =>
    simp only [step] at hs
    repeat' split at hs
    all_goals cases hs
    exact .print ‹_›
  | ifc srt a b t e =>
    -- not `repeat'`: the conditional in the resulting state stays
    simp only [step] at hs
    split at hs
    · cases hs
    · cases b with
      | none => cases hs; exact .ifz ‹_›
      | some b =>
        simp only at hs
        split at hs
        · cases hs
        · cases hs; exact .ifc ‹_› ‹_›
  | exit a =>
    simp only [step] at hs
    split at hs <;> cases hs
  | letS x ty tag args next fv =>
    simp only [step] at hs
    repeat' split at hs
    all_goals cases hs
    exact .letS (by omega) (by omega) ‹_›
  | switch x ty cl fv =>
    simp only [step] at hs
    repeat' split at hs
    all_goals cases hs
    exact .switch ‹_› ‹_› (by omega) (by omega) ‹_› (by omega)
  | create x ty env cl next fc fn =>
    simp only [step] at hs
    repeat' split at hs
    all_goals cases hs
    exact .create (by omega) (by omega)
  | invoke x tag ty args =>
    simp only [step] at hs
    repeat' split at hs
    all_goals cases hs
    exact .invoke ‹_› ‹_› (by omega) (by omega) ‹_› ‹_› (by omega)
  | call l args =>
    simp only [step] at hs
    repeat' split at hs
    all_goals cases hs
    next hc => exact .call ‹_› (by simpa using (not_or.mp hc).1) (by simpa using (not_or.mp hc).2)
  | subst pairs next =>
    simp only [step] at hs
    repeat' split at hs
    all_goals cases hs
    exact .subst ‹_›

theorem step_done_iff {P : Prog} {st : State} {v : BitVec 64} :
    step P st = .done v ↔ ∃ a, st.stmt = .exit a ∧ readInt st.ctx st.env a = .ok v := by
  obtain ⟨Γ, ρ, s⟩ := st
  constructor
  · intro hs
    cases s <;> simp only [step] at hs <;> repeat' split at hs
    all_goals cases hs
    exact ⟨_, rfl, ‹_›⟩
  · rintro ⟨a, rfl, ha⟩
    simp only [step, ha]

theorem readVar_mem {Γ : Ctx} {ρ : List Value} {x : Ident} {v : Value}
    (h : readVar Γ ρ x = .ok v) : v ∈ ρ := by
  unfold readVar at h
  split at h
  · cases h
  · split at h
    · cases h
    · next w hw => cases h; exact List.mem_of_getElem? hw

theorem build_mem {Γ : Ctx} {ρ : List Value} : ∀ (pairs : List (Binding × Ident)) (vs : List Value),
    step.build Γ ρ pairs = .ok vs → vs.length = pairs.length ∧ ∀ v ∈ vs, v ∈ ρ
  | [], vs, h => by
    simp only [step.build, Except.ok.injEq] at h
    subst h
    exact ⟨rfl, fun v hv => by cases hv⟩
  | p :: ps, vs, h => by
    simp only [step.build] at h
    split at h
    · cases h
    · next v hv =>
      split at h
      · cases h
      · next ws hws =>
        cases h
        obtain ⟨h1, h2⟩ := build_mem ps ws hws
        refine ⟨by simp [h1], fun w hw => ?_⟩
        rcases List.mem_cons.1 hw with rfl | hw
        · exact readVar_mem hv
        · exact h2 w hw

end Scc.AxCut.Pos
