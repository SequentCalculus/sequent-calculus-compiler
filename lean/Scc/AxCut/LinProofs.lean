/-
  Scc.AxCut.LinProofs — proof file (C05: T2 and the typing judgement of T3 of the list in Scc/Props/C05.lean): `WTA`, the named typing judgement on
  ANNOTATED statements that the proofs about the linearizer run on: the continuation of a binding statement is
  typed under the context restricted to the annotated set (all that T3 needs from the free-variable annotation),
  and binders avoid a set `A` of ids that were ever in scope (needed by the renaming of `Create::linearize`).
  `freeVars` turns a `WT` statement into a `WTA` statement (T2, `freeVars_WTA`); `WTA` is stable under every
  id-substitution that is a `GoodSubst` (those built by `freshen` are) and under raising the bound.  Nothing here
  speaks of `linearize` itself: T3 follows from T4 (`linearize_linRel`) in Scc/AxCut/LinRelLin.lean.
-/
import Scc.AxCut.LinLemmas
import Scc.AxCut.WfNonLinear
import Scc.ListLemmas

namespace Scc.AxCut

theorem HasVar.mem_ids {Γ : Ctx} {x chi ty} (h : HasVar Γ x chi ty) : x ∈ Γ.ids := by
  obtain ⟨b, hb, rfl, _, _⟩ := h
  exact List.mem_map.2 ⟨b, hb, rfl⟩

theorem hasVar_of_mem {Γ : Ctx} {b : Binding} (h : b ∈ Γ) : HasVar Γ b.var.id b.chi b.ty :=
  ⟨b, h, rfl, rfl, rfl⟩

theorem exists_hasVar_of_mem_ids {Γ : Ctx} {x : Nat} (h : x ∈ Γ.ids) : ∃ chi ty, HasVar Γ x chi ty := by
  obtain ⟨b, hb, rfl⟩ := List.mem_map.1 h
  exact ⟨b.chi, b.ty, hasVar_of_mem hb⟩

theorem hasVar_append {Γ Δ : Ctx} {x chi ty} :
    HasVar (Γ ++ Δ) x chi ty ↔ HasVar Γ x chi ty ∨ HasVar Δ x chi ty := by
  simp only [HasVar, List.mem_append]
  constructor
  · rintro ⟨b, hb | hb, h⟩
    · exact Or.inl ⟨b, hb, h⟩
    · exact Or.inr ⟨b, hb, h⟩
  · rintro (⟨b, hb, h⟩ | ⟨b, hb, h⟩)
    · exact ⟨b, Or.inl hb, h⟩
    · exact ⟨b, Or.inr hb, h⟩

theorem hasVar_singleton {b : Binding} {x chi ty} :
    HasVar [b] x chi ty ↔ b.var.id = x ∧ b.chi = chi ∧ b.ty = ty := by
  simp [HasVar]

theorem hasVar_filter {Γ : Ctx} {S : List Nat} {x chi ty} :
    HasVar (Γ.filter (inSet S)) x chi ty ↔ HasVar Γ x chi ty ∧ x ∈ S := by
  simp only [HasVar, List.mem_filter, inSet, List.contains_iff_mem]
  constructor
  · rintro ⟨b, ⟨hb, hs⟩, rfl, h⟩
    exact ⟨⟨b, hb, rfl, h⟩, hs⟩
  · rintro ⟨⟨b, hb, rfl, h⟩, hs⟩
    exact ⟨b, ⟨hb, hs⟩, rfl, h⟩

theorem hasVar_perm {Γ Γ' : Ctx} (h : Γ.Perm Γ') {x chi ty} :
    HasVar Γ x chi ty ↔ HasVar Γ' x chi ty := by
  simp only [HasVar, h.mem_iff]

theorem hasVar_filterBySet {Γ : Ctx} {S : List Nat} {x chi ty} :
    HasVar (filterBySet Γ S) x chi ty ↔ HasVar Γ x chi ty ∧ x ∈ S := by
  rw [hasVar_perm (filterBySet_perm Γ S), hasVar_filter]

theorem HasVar.unique {Γ : Ctx} (hn : NodupIds Γ) {x c t c' t'}
    (h : HasVar Γ x c t) (h' : HasVar Γ x c' t') : c = c' ∧ t = t' := by
  obtain ⟨b, hb, e, rfl, rfl⟩ := h
  obtain ⟨b', hb', e', rfl, rfl⟩ := h'
  have : b = b' := by
    apply eq_of_nodup_map (fun b : Binding => b.var.id) hn hb hb'
    show b.var.id = b'.var.id
    rw [e, e']
  subst this
  exact ⟨rfl, rfl⟩

def KeysEq (Γ Γ' : Ctx) : Prop := ∀ x chi ty, HasVar Γ x chi ty ↔ HasVar Γ' x chi ty

def KeysSub (Γ Γ' : Ctx) : Prop := ∀ x chi ty, HasVar Γ x chi ty → HasVar Γ' x chi ty

theorem KeysEq.refl (Γ : Ctx) : KeysEq Γ Γ := fun _ _ _ => Iff.rfl
theorem KeysEq.symm {Γ Γ' : Ctx} (h : KeysEq Γ Γ') : KeysEq Γ' Γ := fun x c t => (h x c t).symm
theorem KeysEq.trans {Γ Γ' Γ'' : Ctx} (h : KeysEq Γ Γ') (h' : KeysEq Γ' Γ'') : KeysEq Γ Γ'' :=
  fun x c t => (h x c t).trans (h' x c t)

theorem KeysEq.of_perm {Γ Γ' : Ctx} (h : Γ.Perm Γ') : KeysEq Γ Γ' := fun _ _ _ => hasVar_perm h

theorem KeysEq.append {Γ Γ' Δ Δ' : Ctx} (h : KeysEq Γ Γ') (h' : KeysEq Δ Δ') :
    KeysEq (Γ ++ Δ) (Γ' ++ Δ') := by
  intro x c t; rw [hasVar_append, hasVar_append, h x c t, h' x c t]

theorem KeysEq.filter {Γ Γ' : Ctx} (h : KeysEq Γ Γ') (S : List Nat) :
    KeysEq (Γ.filter (inSet S)) (Γ'.filter (inSet S)) := by
  intro x c t; rw [hasVar_filter, hasVar_filter, h x c t]

theorem KeysEq.mem_ids {Γ Γ' : Ctx} (h : KeysEq Γ Γ') {x : Nat} : x ∈ Γ.ids ↔ x ∈ Γ'.ids := by
  constructor
  · intro hx; obtain ⟨c, t, hv⟩ := exists_hasVar_of_mem_ids hx; exact ((h x c t).1 hv).mem_ids
  · intro hx; obtain ⟨c, t, hv⟩ := exists_hasVar_of_mem_ids hx; exact ((h x c t).2 hv).mem_ids

theorem KeysEq.argsIn {Γ Γ' args : Ctx} (h : KeysEq Γ Γ') (ha : ArgsIn Γ args) : ArgsIn Γ' args :=
  fun a hm => (h _ _ _).1 (ha a hm)

theorem keysEq_filterBySet (Γ : Ctx) (S : List Nat) : KeysEq (filterBySet Γ S) (Γ.filter (inSet S)) :=
  KeysEq.of_perm (filterBySet_perm Γ S)

theorem ids_append (Γ Δ : Ctx) : (Γ ++ Δ).ids = Γ.ids ++ Δ.ids := by simp [Ctx.ids]

mutual
  def WTA (T : List TypeDecl) (S : Sigs) (M : Nat) : Stmt → List Nat → Ctx → Prop
    | .subst _ _, _, _ => False
    | .call l args, _, Γ =>
      ∃ params, findSig S l = some params ∧ (args.chiTys = params.chiTys ∧ ArgsIn Γ args)
    | .letS x ty tag args next fv, A, Γ =>
      (∃ sig, lookupXtor T ty tag = some sig ∧ args.chiTys = sig.chiTys) ∧ ArgsIn Γ args ∧
        x.id ∉ A ∧ x.id ≤ M ∧
        ∃ Sn, fv = some Sn ∧ (∀ y ∈ Sn, y ≤ M) ∧
          WTA T S M next (A ++ [x.id]) (Γ.filter (inSet Sn) ++ [⟨x, .prd, ty⟩])
    | .switch x ty cs fv, A, Γ =>
      HasVar Γ x.id .prd ty ∧
        (∃ d, lookupTypeDecl T ty = some d ∧ ClausesMatch d.xtors cs) ∧
        ∃ Sc, fv = some Sc ∧ (∀ y ∈ Sc, y ≤ M) ∧ WTAClauses T S M cs A (Γ.filter (inSet Sc)) []
    | .create x ty _ cs next fc fn, A, Γ =>
      (∃ d, lookupTypeDecl T ty = some d ∧ ClausesMatch d.xtors cs) ∧
        x.id ∉ A ∧ x.id ≤ M ∧
        ∃ Sc Sn, fc = some Sc ∧ fn = some Sn ∧ (∀ y ∈ Sc, y ≤ M) ∧ (∀ y ∈ Sn, y ≤ M) ∧
          WTAClauses T S M cs A [] (Γ.filter (inSet Sc)) ∧
          WTA T S M next (A ++ [x.id]) (Γ.filter (inSet Sn) ++ [⟨x, .cns, ty⟩])
    | .invoke x tag ty args, _, Γ =>
      HasVar Γ x.id .cns ty ∧
        (∃ sig, lookupXtor T ty tag = some sig ∧ args.chiTys = sig.chiTys) ∧ ArgsIn Γ args
    | .lit x _ next fv, A, Γ =>
      x.id ∉ A ∧ x.id ≤ M ∧
        ∃ Sn, fv = some Sn ∧ (∀ y ∈ Sn, y ≤ M) ∧
          WTA T S M next (A ++ [x.id]) (Γ.filter (inSet Sn) ++ [⟨x, .ext, .i64⟩])
    | .op x a _ b next fv, A, Γ =>
      HasVar Γ a.id .ext .i64 ∧ HasVar Γ b.id .ext .i64 ∧ x.id ∉ A ∧ x.id ≤ M ∧
        ∃ Sn, fv = some Sn ∧ (∀ y ∈ Sn, y ≤ M) ∧
          WTA T S M next (A ++ [x.id]) (Γ.filter (inSet (b.id :: a.id :: Sn)) ++ [⟨x, .ext, .i64⟩])
    | .print _ a next fv, A, Γ =>
      HasVar Γ a.id .ext .i64 ∧
        ∃ Sn, fv = some Sn ∧ (∀ y ∈ Sn, y ≤ M) ∧ WTA T S M next A (Γ.filter (inSet (a.id :: Sn)))
    | .ifc _ a b t e, A, Γ =>
      HasVar Γ a.id .ext .i64 ∧ (∀ b', b = some b' → HasVar Γ b'.id .ext .i64) ∧
        WTA T S M t A Γ ∧ WTA T S M e A Γ
    | .exit x, _, Γ => HasVar Γ x.id .ext .i64
  def WTAClauses (T : List TypeDecl) (S : Sigs) (M : Nat) : Clauses → List Nat → Ctx → Ctx → Prop
    | .nil, _, _, _ => True
    | .cons _ ctx body rest, A, pre, post =>
      NodupIds ctx ∧ (∀ i ∈ ctx.ids, i ∉ A ∧ i ≤ M) ∧
        WTA T S M body (A ++ ctx.ids) (pre ++ ctx ++ post) ∧ WTAClauses T S M rest A pre post
end

mutual
  /-- `WTA` depends on the context only through its set of keys, and is monotone in the bound on the ids -/
  theorem WTA_weaken (T : List TypeDecl) (S : Sigs) {M M' : Nat} (hM : M ≤ M') :
      ∀ (s : Stmt) (A : List Nat) (Γ Γ' : Ctx), KeysEq Γ Γ' → WTA T S M s A Γ → WTA T S M' s A Γ'
    | .subst _ _, _, _, _, _, h => by simp [WTA] at h
    | .call l args, A, Γ, Γ', hk, h => by
      simp only [WTA] at h ⊢
      obtain ⟨params, h1, h2, h3⟩ := h
      exact ⟨params, h1, h2, hk.argsIn h3⟩
    | .letS x ty tag args next fv, A, Γ, Γ', hk, h => by
      simp only [WTA] at h ⊢
      obtain ⟨h1, h2, h3, h4, Sn, h5, h6, h7⟩ := h
      exact ⟨h1, hk.argsIn h2, h3, by omega, Sn, h5, fun y hy => Nat.le_trans (h6 y hy) hM,
        WTA_weaken T S hM next _ _ _ ((hk.filter Sn).append (KeysEq.refl _)) h7⟩
    | .switch x ty cs fv, A, Γ, Γ', hk, h => by
      simp only [WTA] at h ⊢
      obtain ⟨h1, h2, Sc, h3, h4, h5⟩ := h
      exact ⟨(hk _ _ _).1 h1, h2, Sc, h3, fun y hy => Nat.le_trans (h4 y hy) hM,
        WTAClauses_weaken T S hM cs A _ _ _ _ (hk.filter Sc) (KeysEq.refl _) h5⟩
    | .create x ty env cs next fc fn, A, Γ, Γ', hk, h => by
      simp only [WTA] at h ⊢
      obtain ⟨h1, h2, h3, Sc, Sn, h4, h5, h6, h7, h8, h9⟩ := h
      exact ⟨h1, h2, by omega, Sc, Sn, h4, h5, fun y hy => Nat.le_trans (h6 y hy) hM,
        fun y hy => Nat.le_trans (h7 y hy) hM,
        WTAClauses_weaken T S hM cs A _ _ _ _ (KeysEq.refl _) (hk.filter Sc) h8,
        WTA_weaken T S hM next _ _ _ ((hk.filter Sn).append (KeysEq.refl _)) h9⟩
    | .invoke x tag ty args, A, Γ, Γ', hk, h => by
      simp only [WTA] at h ⊢
      obtain ⟨h1, h2, h3⟩ := h
      exact ⟨(hk _ _ _).1 h1, h2, hk.argsIn h3⟩
    | .lit x n next fv, A, Γ, Γ', hk, h => by
      simp only [WTA] at h ⊢
      obtain ⟨h1, h2, Sn, h3, h4, h5⟩ := h
      exact ⟨h1, by omega, Sn, h3, fun y hy => Nat.le_trans (h4 y hy) hM,
        WTA_weaken T S hM next _ _ _ ((hk.filter Sn).append (KeysEq.refl _)) h5⟩
    | .op x a o b next fv, A, Γ, Γ', hk, h => by
      simp only [WTA] at h ⊢
      obtain ⟨h1, h2, h3, h4, Sn, h5, h6, h7⟩ := h
      exact ⟨(hk _ _ _).1 h1, (hk _ _ _).1 h2, h3, by omega, Sn, h5, fun y hy => Nat.le_trans (h6 y hy) hM,
        WTA_weaken T S hM next _ _ _ ((hk.filter _).append (KeysEq.refl _)) h7⟩
    | .print nl a next fv, A, Γ, Γ', hk, h => by
      simp only [WTA] at h ⊢
      obtain ⟨h1, Sn, h2, h3, h4⟩ := h
      exact ⟨(hk _ _ _).1 h1, Sn, h2, fun y hy => Nat.le_trans (h3 y hy) hM,
        WTA_weaken T S hM next _ _ _ (hk.filter _) h4⟩
    | .ifc s a b t e, A, Γ, Γ', hk, h => by
      simp only [WTA] at h ⊢
      obtain ⟨h1, h2, h3, h4⟩ := h
      exact ⟨(hk _ _ _).1 h1, fun b' hb => (hk _ _ _).1 (h2 b' hb),
        WTA_weaken T S hM t _ _ _ hk h3, WTA_weaken T S hM e _ _ _ hk h4⟩
    | .exit x, A, Γ, Γ', hk, h => by
      simp only [WTA] at h ⊢
      exact (hk _ _ _).1 h
  theorem WTAClauses_weaken (T : List TypeDecl) (S : Sigs) {M M' : Nat} (hM : M ≤ M') :
      ∀ (cs : Clauses) (A : List Nat) (pre pre' post post' : Ctx), KeysEq pre pre' → KeysEq post post' →
        WTAClauses T S M cs A pre post → WTAClauses T S M' cs A pre' post'
    | .nil, _, _, _, _, _, _, _, _ => by simp [WTAClauses]
    | .cons x ctx body rest, A, pre, pre', post, post', hk, hk', h => by
      simp only [WTAClauses] at h ⊢
      obtain ⟨h1, h2, h3, h4⟩ := h
      exact ⟨h1, fun i hi => ⟨(h2 i hi).1, Nat.le_trans (h2 i hi).2 hM⟩,
        WTA_weaken T S hM body _ _ _ ((hk.append (KeysEq.refl _)).append hk') h3,
        WTAClauses_weaken T S hM rest A _ _ _ _ hk hk' h4⟩
end

theorem WTA_congr (T : List TypeDecl) (S : Sigs) (M : Nat) (s : Stmt) (A : List Nat) (Γ Γ' : Ctx)
    (hk : KeysEq Γ Γ') : WTA T S M s A Γ → WTA T S M s A Γ' :=
  WTA_weaken T S (Nat.le_refl M) s A Γ Γ' hk

theorem WTAClauses_congr (T : List TypeDecl) (S : Sigs) (M : Nat) (cs : Clauses) (A : List Nat)
    (pre pre' post post' : Ctx) (hk : KeysEq pre pre') (hk' : KeysEq post post') :
    WTAClauses T S M cs A pre post → WTAClauses T S M cs A pre' post' :=
  WTAClauses_weaken T S (Nat.le_refl M) cs A pre pre' post post' hk hk'

theorem WTA_mono (T : List TypeDecl) (S : Sigs) {M M' : Nat} (hM : M ≤ M') (s : Stmt) (A : List Nat) (Γ : Ctx) :
    WTA T S M s A Γ → WTA T S M' s A Γ :=
  WTA_weaken T S hM s A Γ Γ (KeysEq.refl Γ)

theorem WTAClauses_mono (T : List TypeDecl) (S : Sigs) {M M' : Nat} (hM : M ≤ M') (cs : Clauses) (A : List Nat)
    (pre post : Ctx) : WTAClauses T S M cs A pre post → WTAClauses T S M' cs A pre post :=
  WTAClauses_weaken T S hM cs A pre pre post post (KeysEq.refl pre) (KeysEq.refl post)

theorem hasVar_subst (σ : Subst) {Γ : Ctx} {x chi ty} (h : HasVar Γ x chi ty) :
    HasVar (substCtx σ Γ) (substId σ x) chi ty := by
  obtain ⟨b, hb, rfl, rfl, rfl⟩ := h
  exact ⟨substBinding σ b, List.mem_map.2 ⟨b, hb, rfl⟩, substBinding_id σ b, rfl, rfl⟩

theorem argsIn_subst (σ : Subst) {Γ args : Ctx} (h : ArgsIn Γ args) :
    ArgsIn (substCtx σ Γ) (substCtx σ args) := by
  intro a ha
  obtain ⟨a0, ha0, rfl⟩ := List.mem_map.1 ha
  rw [substBinding_id]
  exact hasVar_subst σ (h a0 ha0)

theorem substCtx_fix {σ : Subst} {A : List Nat} {M M2 : Nat} (g : GoodSubst σ A M M2) {Δ : Ctx}
    (h : ∀ i ∈ Δ.ids, i ∉ A) : substCtx σ Δ = Δ := by
  unfold substCtx
  conv => rhs; rw [← List.map_id Δ]
  apply List.map_congr_left
  intro b hb
  have := g.fix b.var (h _ (List.mem_map.2 ⟨b, hb, rfl⟩))
  simp [substBinding, this]

theorem filter_subst {σ : Subst} {A : List Nat} {M M2 : Nat} (g : GoodSubst σ A M M2) {Γ : Ctx}
    {Sn : List Nat} (hΓ : ∀ i ∈ Γ.ids, i ≤ M) (hS : ∀ y ∈ Sn, y ≤ M) :
    (substCtx σ Γ).filter (inSet (Sn.map (substId σ))) = substCtx σ (Γ.filter (inSet Sn)) := by
  unfold substCtx
  rw [List.filter_map]
  congr 1
  apply List.filter_congr
  intro b hb
  simp only [Function.comp, inSet, substBinding_id]
  have hbM : b.var.id ≤ M := hΓ _ (List.mem_map.2 ⟨b, hb, rfl⟩)
  rw [Bool.eq_iff_iff]
  simp only [List.contains_iff_mem, List.mem_map]
  constructor
  · rintro ⟨y, hy, e⟩
    have := g.inj y b.var.id (hS y hy) hbM e
    rwa [← this]
  · intro h; exact ⟨_, h, rfl⟩

theorem binder_not_mem_map {σ : Subst} {A : List Nat} {M M2 : Nat} (g : GoodSubst σ A M M2)
    (hA : ∀ a ∈ A, a ≤ M) {x : Nat} (hx : x ∉ A) (hxM : x ≤ M) : x ∉ A.map (substId σ) := by
  intro h
  obtain ⟨a, ha, e⟩ := List.mem_map.1 h
  rcases g.fresh a (hA a ha) with h' | h'
  · rw [h'] at e; exact hx (e ▸ ha)
  · omega

theorem clausesMatch_subst (σ : Subst) : ∀ (xs : List XtorSig) (cs : Clauses),
    ClausesMatch xs (substClauses σ cs) ↔ ClausesMatch xs cs
  | [], .nil => by simp [substClauses]
  | [], .cons _ _ _ _ => by simp [substClauses, ClausesMatch]
  | _ :: _, .nil => by simp [substClauses, ClausesMatch]
  | x :: xs, .cons n ctx body rest => by
    simp only [substClauses, ClausesMatch, clausesMatch_subst σ xs rest]

theorem map_append_singleton_fix {σ : Subst} {A : List Nat} {M M2 : Nat} (g : GoodSubst σ A M M2)
    {x : Nat} (hx : x ∉ A) : (A ++ [x]).map (substId σ) = A.map (substId σ) ++ [x] := by
  simp [g.fixId hx]

theorem map_append_fix {σ : Subst} {A : List Nat} {M M2 : Nat} (g : GoodSubst σ A M M2)
    {xs : List Nat} (hx : ∀ i ∈ xs, i ∉ A) : (A ++ xs).map (substId σ) = A.map (substId σ) ++ xs := by
  rw [List.map_append]
  congr 1
  conv => rhs; rw [← List.map_id xs]
  apply List.map_congr_left
  intro i hi
  simpa using g.fixId (hx i hi)

theorem ids_filter_le {Γ : Ctx} {M : Nat} (h : ∀ i ∈ Γ.ids, i ≤ M) (p : Binding → Bool) :
    ∀ i ∈ Ctx.ids (Γ.filter p), i ≤ M := by
  intro i hi
  obtain ⟨b, hb, rfl⟩ := List.mem_map.1 hi
  exact h _ (List.mem_map.2 ⟨b, (List.mem_filter.1 hb).1, rfl⟩)

theorem ids_le_append_singleton {Γ : Ctx} {M : Nat} (h : ∀ i ∈ Γ.ids, i ≤ M) {b : Binding}
    (hb : b.var.id ≤ M) : ∀ i ∈ Ctx.ids (Γ ++ [b]), i ≤ M := by
  intro i hi
  rw [ids_append] at hi
  rcases List.mem_append.1 hi with hi | hi
  · exact h i hi
  · simp [Ctx.ids] at hi; omega

theorem le_append_singleton {A : List Nat} {M : Nat} (h : ∀ a ∈ A, a ≤ M) {x : Nat} (hx : x ≤ M) :
    ∀ a ∈ A ++ [x], a ≤ M := by
  intro a ha
  rcases List.mem_append.1 ha with ha | ha
  · exact h a ha
  · simp at ha; omega

mutual
  /-- `WTA` is stable under the renamings built by `freshen` -/
  theorem WTA_rename (T : List TypeDecl) (S : Sigs) (σ : Subst) {M M2 : Nat} :
      ∀ (s : Stmt) (A : List Nat) (Γ : Ctx), GoodSubst σ A M M2 → (∀ a ∈ A, a ≤ M) →
        (∀ i ∈ Γ.ids, i ≤ M) → WTA T S M s A Γ →
        WTA T S M2 (substStmt σ s) (A.map (substId σ)) (substCtx σ Γ)
    | .subst _ _, _, _, _, _, _, h => by simp [WTA] at h
    | .call l args, A, Γ, g, hA, hΓ, h => by
      simp only [WTA, substStmt] at h ⊢
      obtain ⟨params, h1, h2, h3⟩ := h
      exact ⟨params, h1, by rw [substCtx_chiTys]; exact h2, argsIn_subst σ h3⟩
    | .letS x ty tag args next fv, A, Γ, g, hA, hΓ, h => by
      simp only [WTA, substStmt] at h ⊢
      obtain ⟨h1, h2, h3, h4, Sn, h5, h6, h7⟩ := h
      subst h5
      refine ⟨by rw [substCtx_chiTys]; exact h1, argsIn_subst σ h2, binder_not_mem_map g hA h3 h4,
        Nat.le_trans h4 g.le, Sn.map (substId σ), rfl, ?_, ?_⟩
      · intro y hy
        obtain ⟨y0, hy0, rfl⟩ := List.mem_map.1 hy
        exact g.bound y0 (h6 y0 hy0)
      · have ih := WTA_rename T S σ next (A ++ [x.id]) _
          (g.mono (fun a ha => List.mem_append_left _ ha)) (le_append_singleton hA h4)
          (ids_le_append_singleton (ids_filter_le hΓ _) (b := ⟨x, .prd, ty⟩) h4) h7
        rw [map_append_singleton_fix g h3, substCtx_append, ← filter_subst g hΓ h6] at ih
        have : substCtx σ [(⟨x, .prd, ty⟩ : Binding)] = [⟨x, .prd, ty⟩] :=
          substCtx_fix g (by simp [Ctx.ids]; exact h3)
        rwa [this] at ih
    | .switch x ty cs fv, A, Γ, g, hA, hΓ, h => by
      simp only [WTA, substStmt] at h ⊢
      obtain ⟨h1, ⟨d, hd, hm⟩, Sc, h3, h4, h5⟩ := h
      subst h3
      refine ⟨by rw [substIdent_id]; exact hasVar_subst σ h1,
        ⟨d, hd, (clausesMatch_subst σ _ _).2 hm⟩, Sc.map (substId σ), rfl, ?_, ?_⟩
      · intro y hy
        obtain ⟨y0, hy0, rfl⟩ := List.mem_map.1 hy
        exact g.bound y0 (h4 y0 hy0)
      · have ih := WTAClauses_rename T S σ cs A _ [] g hA
          (by simpa using ids_filter_le hΓ (inSet Sc)) h5
        rw [← filter_subst g hΓ h4] at ih
        exact ih
    | .create x ty env cs next fc fn, A, Γ, g, hA, hΓ, h => by
      simp only [WTA, substStmt] at h ⊢
      obtain ⟨⟨d, hd, hm⟩, h2, h3, Sc, Sn, h4, h5, h6, h7, h8, h9⟩ := h
      subst h4; subst h5
      refine ⟨⟨d, hd, (clausesMatch_subst σ _ _).2 hm⟩, binder_not_mem_map g hA h2 h3,
        Nat.le_trans h3 g.le, Sc.map (substId σ), Sn.map (substId σ), rfl, rfl, ?_, ?_, ?_, ?_⟩
      · intro y hy
        obtain ⟨y0, hy0, rfl⟩ := List.mem_map.1 hy
        exact g.bound y0 (h6 y0 hy0)
      · intro y hy
        obtain ⟨y0, hy0, rfl⟩ := List.mem_map.1 hy
        exact g.bound y0 (h7 y0 hy0)
      · have ih := WTAClauses_rename T S σ cs A [] _ g hA
          (by simpa using ids_filter_le hΓ (inSet Sc)) h8
        rw [← filter_subst g hΓ h6] at ih
        exact ih
      · have ih := WTA_rename T S σ next (A ++ [x.id]) _
          (g.mono (fun a ha => List.mem_append_left _ ha)) (le_append_singleton hA h3)
          (ids_le_append_singleton (ids_filter_le hΓ _) (b := ⟨x, .cns, ty⟩) h3) h9
        rw [map_append_singleton_fix g h2, substCtx_append, ← filter_subst g hΓ h7] at ih
        have : substCtx σ [(⟨x, .cns, ty⟩ : Binding)] = [⟨x, .cns, ty⟩] :=
          substCtx_fix g (by simp [Ctx.ids]; exact h2)
        rwa [this] at ih
    | .invoke x tag ty args, A, Γ, g, hA, hΓ, h => by
      simp only [WTA, substStmt] at h ⊢
      obtain ⟨h1, h2, h3⟩ := h
      exact ⟨by rw [substIdent_id]; exact hasVar_subst σ h1, by rw [substCtx_chiTys]; exact h2,
        argsIn_subst σ h3⟩
    | .lit x n next fv, A, Γ, g, hA, hΓ, h => by
      simp only [WTA, substStmt] at h ⊢
      obtain ⟨h1, h2, Sn, h3, h4, h5⟩ := h
      subst h3
      refine ⟨binder_not_mem_map g hA h1 h2, Nat.le_trans h2 g.le, Sn.map (substId σ), rfl, ?_, ?_⟩
      · intro y hy
        obtain ⟨y0, hy0, rfl⟩ := List.mem_map.1 hy
        exact g.bound y0 (h4 y0 hy0)
      · have ih := WTA_rename T S σ next (A ++ [x.id]) _
          (g.mono (fun a ha => List.mem_append_left _ ha)) (le_append_singleton hA h2)
          (ids_le_append_singleton (ids_filter_le hΓ _) (b := ⟨x, .ext, .i64⟩) h2) h5
        rw [map_append_singleton_fix g h1, substCtx_append, ← filter_subst g hΓ h4] at ih
        have : substCtx σ [(⟨x, .ext, .i64⟩ : Binding)] = [⟨x, .ext, .i64⟩] :=
          substCtx_fix g (by simp [Ctx.ids]; exact h1)
        rwa [this] at ih
    | .op x a o b next fv, A, Γ, g, hA, hΓ, h => by
      simp only [WTA, substStmt] at h ⊢
      obtain ⟨h1, h2, h3, h4, Sn, h5, h6, h7⟩ := h
      subst h5
      have haM : a.id ≤ M := hΓ _ h1.mem_ids
      have hbM : b.id ≤ M := hΓ _ h2.mem_ids
      have hS' : ∀ y ∈ b.id :: a.id :: Sn, y ≤ M := by
        intro y hy
        simp only [List.mem_cons] at hy
        rcases hy with rfl | rfl | hy
        · exact hbM
        · exact haM
        · exact h6 y hy
      refine ⟨by rw [substIdent_id]; exact hasVar_subst σ h1,
        by rw [substIdent_id]; exact hasVar_subst σ h2, binder_not_mem_map g hA h3 h4,
        Nat.le_trans h4 g.le, Sn.map (substId σ), rfl, ?_, ?_⟩
      · intro y hy
        obtain ⟨y0, hy0, rfl⟩ := List.mem_map.1 hy
        exact g.bound y0 (h6 y0 hy0)
      · have ih := WTA_rename T S σ next (A ++ [x.id]) _
          (g.mono (fun a ha => List.mem_append_left _ ha)) (le_append_singleton hA h4)
          (ids_le_append_singleton (ids_filter_le hΓ _) (b := ⟨x, .ext, .i64⟩) h4) h7
        rw [map_append_singleton_fix g h3, substCtx_append, ← filter_subst g hΓ hS'] at ih
        have : substCtx σ [(⟨x, .ext, .i64⟩ : Binding)] = [⟨x, .ext, .i64⟩] :=
          substCtx_fix g (by simp [Ctx.ids]; exact h3)
        rw [this] at ih
        simpa only [List.map_cons, substIdent_id] using ih
    | .print nl a next fv, A, Γ, g, hA, hΓ, h => by
      simp only [WTA, substStmt] at h ⊢
      obtain ⟨h1, Sn, h2, h3, h4⟩ := h
      subst h2
      have haM : a.id ≤ M := hΓ _ h1.mem_ids
      have hS' : ∀ y ∈ a.id :: Sn, y ≤ M := by
        intro y hy
        simp only [List.mem_cons] at hy
        rcases hy with rfl | hy
        · exact haM
        · exact h3 y hy
      refine ⟨by rw [substIdent_id]; exact hasVar_subst σ h1, Sn.map (substId σ), rfl, ?_, ?_⟩
      · intro y hy
        obtain ⟨y0, hy0, rfl⟩ := List.mem_map.1 hy
        exact g.bound y0 (h3 y0 hy0)
      · have ih := WTA_rename T S σ next A _ g hA (ids_filter_le hΓ _) h4
        rw [← filter_subst g hΓ hS'] at ih
        simpa only [List.map_cons, substIdent_id] using ih
    | .ifc s a b t e, A, Γ, g, hA, hΓ, h => by
      simp only [WTA, substStmt] at h ⊢
      obtain ⟨h1, h2, h3, h4⟩ := h
      refine ⟨by rw [substIdent_id]; exact hasVar_subst σ h1, ?_,
        WTA_rename T S σ t A Γ g hA hΓ h3, WTA_rename T S σ e A Γ g hA hΓ h4⟩
      intro b' hb'
      cases b with
      | none => simp at hb'
      | some b0 =>
        simp only [Option.map_some, Option.some.injEq] at hb'
        subst hb'
        rw [substIdent_id]; exact hasVar_subst σ (h2 b0 rfl)
    | .exit x, A, Γ, g, hA, hΓ, h => by
      simp only [WTA, substStmt] at h ⊢
      rw [substIdent_id]; exact hasVar_subst σ h
  theorem WTAClauses_rename (T : List TypeDecl) (S : Sigs) (σ : Subst) {M M2 : Nat} :
      ∀ (cs : Clauses) (A : List Nat) (pre post : Ctx), GoodSubst σ A M M2 → (∀ a ∈ A, a ≤ M) →
        (∀ i ∈ (pre ++ post).ids, i ≤ M) → WTAClauses T S M cs A pre post →
        WTAClauses T S M2 (substClauses σ cs) (A.map (substId σ)) (substCtx σ pre) (substCtx σ post)
    | .nil, _, _, _, _, _, _, _ => by simp [WTAClauses, substClauses]
    | .cons x ctx body rest, A, pre, post, g, hA, hΓ, h => by
      simp only [WTAClauses, substClauses] at h ⊢
      obtain ⟨h1, h2, h3, h4⟩ := h
      refine ⟨h1, fun i hi => ⟨binder_not_mem_map g hA (h2 i hi).1 (h2 i hi).2,
        Nat.le_trans (h2 i hi).2 g.le⟩, ?_, WTAClauses_rename T S σ rest A pre post g hA hΓ h4⟩
      have hA' : ∀ a ∈ A ++ ctx.ids, a ≤ M := by
        intro a ha
        rcases List.mem_append.1 ha with ha | ha
        · exact hA a ha
        · exact (h2 a ha).2
      have hΓ' : ∀ i ∈ (pre ++ ctx ++ post).ids, i ≤ M := by
        intro i hi
        simp only [ids_append, List.mem_append] at hi hΓ
        rcases hi with (hi | hi) | hi
        · exact hΓ i (Or.inl hi)
        · exact (h2 i hi).2
        · exact hΓ i (Or.inr hi)
      have ih := WTA_rename T S σ body (A ++ ctx.ids) _
        (g.mono (fun a ha => List.mem_append_left _ ha)) hA' hΓ' h3
      rw [map_append_fix g (fun i hi => (h2 i hi).1), substCtx_append, substCtx_append,
        substCtx_fix g (fun i hi => (h2 i hi).1)] at ih
      exact ih
end

theorem fv_call (l args) : freeVars (.call l args) = (.call l args, args.ids) := rfl
theorem fv_let (v ty tag args next fv) : freeVars (.letS v ty tag args next fv) =
    (.letS v ty tag args (freeVars next).1 (some (freeVars next).2),
      args.ids ++ setRemove v.id (freeVars next).2) := rfl
theorem fv_switch (v ty cs fv) : freeVars (.switch v ty cs fv) =
    (.switch v ty (freeVarsClauses cs).1 (some (freeVarsClauses cs).2), v.id :: (freeVarsClauses cs).2) :=
  rfl
theorem fv_create (v ty env cs next a b) : freeVars (.create v ty env cs next a b) =
    (.create v ty env (freeVarsClauses cs).1 (freeVars next).1 (some (freeVarsClauses cs).2)
      (some (freeVars next).2), (freeVarsClauses cs).2 ++ setRemove v.id (freeVars next).2) :=
  rfl
theorem fv_invoke (v tag ty args) : freeVars (.invoke v tag ty args) =
    (.invoke v tag ty args, v.id :: args.ids) := rfl
theorem fv_lit (v n next fv) : freeVars (.lit v n next fv) =
    (.lit v n (freeVars next).1 (some (freeVars next).2), setRemove v.id (freeVars next).2) :=
  rfl
theorem fv_op (v a o b next fv) : freeVars (.op v a o b next fv) =
    (.op v a o b (freeVars next).1 (some (freeVars next).2),
      b.id :: a.id :: setRemove v.id (freeVars next).2) := rfl
theorem fv_print (nl v next fv) : freeVars (.print nl v next fv) =
    (.print nl v (freeVars next).1 (some (freeVars next).2), v.id :: (freeVars next).2) :=
  rfl
theorem fv_ifc (s a b t e) : freeVars (.ifc s a b t e) =
    (.ifc s a b (freeVars t).1 (freeVars e).1,
      (match b with | some b => [b.id] | none => []) ++ a.id :: ((freeVars e).2 ++ (freeVars t).2)) :=
  rfl
theorem fv_exit (v) : freeVars (.exit v) = (.exit v, [v.id]) := rfl
theorem fvc_nil : freeVarsClauses .nil = (.nil, []) := rfl
theorem fvc_cons (x ctx body rest) : freeVarsClauses (.cons x ctx body rest) =
    (.cons x ctx (freeVars body).1 (freeVarsClauses rest).1,
      (freeVarsClauses rest).2 ++ setRemoveAll ctx.ids (freeVars body).2) := rfl

theorem mem_setRemove {x y : Nat} {s : List Nat} : y ∈ setRemove x s ↔ y ∈ s ∧ y ≠ x := by
  simp [setRemove]

theorem mem_setRemoveAll {xs : List Nat} {y : Nat} {s : List Nat} :
    y ∈ setRemoveAll xs s ↔ y ∈ s ∧ y ∉ xs := by
  simp [setRemoveAll]

theorem argsIn_ids {Γ args : Ctx} (h : ArgsIn Γ args) : ∀ y ∈ args.ids, y ∈ Γ.ids := by
  intro y hy
  obtain ⟨a, ha, rfl⟩ := List.mem_map.1 hy
  exact (h a ha).mem_ids

theorem mem_ids_append_singleton {Γ : Ctx} {b : Binding} {y : Nat} :
    y ∈ Ctx.ids (Γ ++ [b]) ↔ y ∈ Γ.ids ∨ y = b.var.id := by
  simp [Ctx.ids]

mutual
  /-- the computed free variables are in scope -/
  theorem fv_sub (T : List TypeDecl) (S : Sigs) (M : Nat) :
      ∀ (s : Stmt) (Γ : Ctx), WT T S M s Γ → ∀ y ∈ (freeVars s).2, y ∈ Γ.ids
    | .subst _ _, _, h => by simp [WT] at h
    | .call l args, Γ, h => by
      simp only [WT] at h
      obtain ⟨_, _, _, h3⟩ := h
      rw [fv_call]; exact argsIn_ids h3
    | .letS x ty tag args next fv, Γ, h => by
      simp only [WT] at h
      obtain ⟨_, h2, _, h4⟩ := h
      rw [fv_let]
      intro y hy
      rcases List.mem_append.1 hy with hy | hy
      · exact argsIn_ids h2 y hy
      · obtain ⟨hy1, hy2⟩ := mem_setRemove.1 hy
        rcases mem_ids_append_singleton.1 (fv_sub T S M next _ h4 y hy1) with h | h
        · exact h
        · exact absurd h hy2
    | .switch x ty cs fv, Γ, h => by
      simp only [WT] at h
      obtain ⟨h1, _, h3⟩ := h
      rw [fv_switch]
      intro y hy
      rcases List.mem_cons.1 hy with rfl | hy
      · exact h1.mem_ids
      · exact fvClauses_sub T S M cs Γ h3 y hy
    | .create x ty env cs next fc fn, Γ, h => by
      simp only [WT] at h
      obtain ⟨_, h2, _, h4⟩ := h
      rw [fv_create]
      intro y hy
      rcases List.mem_append.1 hy with hy | hy
      · exact fvClauses_sub T S M cs Γ h2 y hy
      · obtain ⟨hy1, hy2⟩ := mem_setRemove.1 hy
        rcases mem_ids_append_singleton.1 (fv_sub T S M next _ h4 y hy1) with h | h
        · exact h
        · exact absurd h hy2
    | .invoke x tag ty args, Γ, h => by
      simp only [WT] at h
      obtain ⟨h1, _, h3⟩ := h
      rw [fv_invoke]
      intro y hy
      rcases List.mem_cons.1 hy with rfl | hy
      · exact h1.mem_ids
      · exact argsIn_ids h3 y hy
    | .lit x n next fv, Γ, h => by
      simp only [WT] at h
      obtain ⟨_, h2⟩ := h
      rw [fv_lit]
      intro y hy
      obtain ⟨hy1, hy2⟩ := mem_setRemove.1 hy
      rcases mem_ids_append_singleton.1 (fv_sub T S M next _ h2 y hy1) with h | h
      · exact h
      · exact absurd h hy2
    | .op x a o b next fv, Γ, h => by
      simp only [WT] at h
      obtain ⟨h1, h2, _, h4⟩ := h
      rw [fv_op]
      intro y hy
      simp only [List.mem_cons] at hy
      rcases hy with rfl | rfl | hy
      · exact h2.mem_ids
      · exact h1.mem_ids
      · obtain ⟨hy1, hy2⟩ := mem_setRemove.1 hy
        rcases mem_ids_append_singleton.1 (fv_sub T S M next _ h4 y hy1) with h | h
        · exact h
        · exact absurd h hy2
    | .print nl a next fv, Γ, h => by
      simp only [WT] at h
      obtain ⟨h1, h2⟩ := h
      rw [fv_print]
      intro y hy
      rcases List.mem_cons.1 hy with rfl | hy
      · exact h1.mem_ids
      · exact fv_sub T S M next Γ h2 y hy
    | .ifc s a b t e, Γ, h => by
      simp only [WT] at h
      obtain ⟨h1, h2, h3, h4⟩ := h
      rw [fv_ifc]
      intro y hy
      simp only [List.mem_append, List.mem_cons] at hy
      rcases hy with hy | rfl | hy | hy
      · cases b with
        | none => simp at hy
        | some b0 => simp at hy; subst hy; exact (h2 b0 rfl).mem_ids
      · exact h1.mem_ids
      · exact fv_sub T S M e Γ h4 y hy
      · exact fv_sub T S M t Γ h3 y hy
    | .exit x, Γ, h => by
      simp only [WT] at h
      rw [fv_exit]
      intro y hy
      simp at hy; subst hy; exact h.mem_ids
  theorem fvClauses_sub (T : List TypeDecl) (S : Sigs) (M : Nat) :
      ∀ (cs : Clauses) (Γ : Ctx), WTClauses T S M cs Γ → ∀ y ∈ (freeVarsClauses cs).2, y ∈ Γ.ids
    | .nil, _, _ => by rw [fvc_nil]; simp
    | .cons x ctx body rest, Γ, h => by
      simp only [WTClauses] at h
      obtain ⟨_, _, h3, h4⟩ := h
      rw [fvc_cons]
      intro y hy
      rcases List.mem_append.1 hy with hy | hy
      · exact fvClauses_sub T S M rest Γ h4 y hy
      · obtain ⟨hy1, hy2⟩ := mem_setRemoveAll.1 hy
        have := fv_sub T S M body _ h3 y hy1
        rw [ids_append] at this
        rcases List.mem_append.1 this with h | h
        · exact h
        · exact absurd h hy2
end

theorem hasVar_restrict {Γ' Γ : Ctx} (hs : KeysSub Γ' Γ) (hn : NodupIds Γ) {x c t}
    (h : HasVar Γ x c t) (hx : x ∈ Γ'.ids) : HasVar Γ' x c t := by
  obtain ⟨c', t', h'⟩ := exists_hasVar_of_mem_ids hx
  obtain ⟨rfl, rfl⟩ := HasVar.unique hn h (hs _ _ _ h')
  exact h'

theorem argsIn_restrict {Γ' Γ args : Ctx} (hs : KeysSub Γ' Γ) (hn : NodupIds Γ)
    (h : ArgsIn Γ args) (hx : ∀ y ∈ args.ids, y ∈ Γ'.ids) : ArgsIn Γ' args :=
  fun a ha => hasVar_restrict hs hn (h a ha) (hx _ (List.mem_map.2 ⟨a, ha, rfl⟩))

theorem mem_ids_filter {Γ : Ctx} {S : List Nat} {i : Nat} :
    i ∈ Ctx.ids (Γ.filter (inSet S)) ↔ i ∈ Γ.ids ∧ i ∈ S := by
  simp only [Ctx.ids, List.mem_map, List.mem_filter, inSet, List.contains_iff_mem]
  constructor
  · rintro ⟨b, ⟨hb, hs⟩, rfl⟩; exact ⟨⟨b, hb, rfl⟩, hs⟩
  · rintro ⟨⟨b, hb, rfl⟩, hs⟩; exact ⟨b, ⟨hb, hs⟩, rfl⟩

theorem keysSub_filter_append {Γ' Γ : Ctx} (hs : KeysSub Γ' Γ) (S : List Nat) (Δ : Ctx) :
    KeysSub (Γ'.filter (inSet S) ++ Δ) (Γ ++ Δ) := by
  intro x c t h
  rcases hasVar_append.1 h with h | h
  · exact hasVar_append.2 (Or.inl (hs _ _ _ (hasVar_filter.1 h).1))
  · exact hasVar_append.2 (Or.inr h)

theorem nodupIds_append_singleton {Γ : Ctx} {b : Binding} (hn : NodupIds Γ) (hb : b.var.id ∉ Γ.ids) :
    NodupIds (Γ ++ [b]) := by
  unfold NodupIds at *
  rw [ids_append]
  refine List.nodup_append.2 ⟨hn, by simp [Ctx.ids], ?_⟩
  intro a ha c hc
  simp [Ctx.ids] at hc
  subst hc
  intro e; subst e; exact hb ha

theorem nodupIds_append {Γ Δ : Ctx} (hn : NodupIds Γ) (hd : NodupIds Δ)
    (hdisj : ∀ i ∈ Δ.ids, i ∉ Γ.ids) : NodupIds (Γ ++ Δ) := by
  unfold NodupIds at *
  rw [ids_append]
  refine List.nodup_append.2 ⟨hn, hd, ?_⟩
  intro a ha c hc e
  subst e
  exact hdisj a hc ha

theorem clausesMatch_freeVars : ∀ (xs : List XtorSig) (cs : Clauses),
    ClausesMatch xs (freeVarsClauses cs).1 ↔ ClausesMatch xs cs
  | [], .nil => by rw [fvc_nil]
  | [], .cons _ _ _ _ => by rw [fvc_cons]; simp [ClausesMatch]
  | _ :: _, .nil => by rw [fvc_nil]
  | x :: xs, .cons n ctx body rest => by
    rw [fvc_cons]; simp only [ClausesMatch, clausesMatch_freeVars xs rest]

theorem fv_next_in {Γ' : Ctx} {Sn full : List Nat} {x : Ident} {chi : Chi} {ty : Ty}
    (hfull : ∀ y ∈ full, y ∈ Γ'.ids) (hsub : ∀ y, y ∈ Sn → y ≠ x.id → y ∈ full) :
    ∀ y ∈ Sn, y ∈ Ctx.ids (Γ'.filter (inSet Sn) ++ [⟨x, chi, ty⟩]) := by
  intro y hy
  rw [mem_ids_append_singleton]
  by_cases e : y = x.id
  · exact Or.inr e
  · exact Or.inl (mem_ids_filter.2 ⟨hfull y (hsub y hy e), hy⟩)

mutual
  /-- T2: the annotation computed by `freeVars` is sound: the annotated statement is typed under
  every sub-context that contains its free variables, with the continuation of each binding
  statement typed under the context restricted to the annotated set. -/
  theorem freeVars_WTA (T : List TypeDecl) (S : Sigs) (M : Nat) :
      ∀ (s : Stmt) (Γ : Ctx), WT T S M s Γ → NodupIds Γ → (∀ i ∈ Γ.ids, i ≤ M) →
        ∀ Γ', KeysSub Γ' Γ → (∀ y ∈ (freeVars s).2, y ∈ Γ'.ids) →
        WTA T S M (freeVars s).1 Γ.ids Γ'
    | .subst _ _, _, h, _, _, _, _, _ => by simp [WT] at h
    | .call l args, Γ, h, hn, hM, Γ', hs, hfv => by
      simp only [WT] at h
      obtain ⟨params, h1, h2, h3⟩ := h
      rw [fv_call] at hfv ⊢
      simp only [WTA]
      exact ⟨params, h1, h2, argsIn_restrict hs hn h3 hfv⟩
    | .letS x ty tag args next fv, Γ, h, hn, hM, Γ', hs, hfv => by
      simp only [WT] at h
      obtain ⟨h1, h2, ⟨h3, h3'⟩, h4⟩ := h
      rw [fv_let] at hfv ⊢
      simp only [WTA]
      have hn1 : NodupIds (Γ ++ [⟨x, .prd, ty⟩]) := nodupIds_append_singleton hn h3
      have hM1 := ids_le_append_singleton hM (b := ⟨x, .prd, ty⟩) h3'
      refine ⟨h1, argsIn_restrict hs hn h2 (fun y hy => hfv y (List.mem_append_left _ hy)), h3, h3',
        _, rfl, fun y hy => hM1 y (fv_sub T S M next _ h4 y hy), ?_⟩
      have ih := freeVars_WTA T S M next _ h4 hn1 hM1 _ (keysSub_filter_append hs _ _)
        (fv_next_in hfv (fun y hy e => List.mem_append_right _ (mem_setRemove.2 ⟨hy, e⟩)))
      rwa [ids_append] at ih
    | .switch x ty cs fv, Γ, h, hn, hM, Γ', hs, hfv => by
      simp only [WT] at h
      obtain ⟨h1, h2, h3⟩ := h
      rw [fv_switch] at hfv ⊢
      simp only [WTA]
      refine ⟨hasVar_restrict hs hn h1 (hfv _ (by simp)),
        by
          obtain ⟨d, hd, hm⟩ := h2
          exact ⟨d, hd, (clausesMatch_freeVars _ _).2 hm⟩,
        _, rfl, fun y hy => hM y (fvClauses_sub T S M cs Γ h3 y hy), ?_⟩
      · apply freeVarsClauses_WTA T S M cs Γ h3 hn hM
        · intro y c t hv
          rw [List.append_nil] at hv
          exact hs _ _ _ (hasVar_filter.1 hv).1
        · intro y hy
          rw [List.append_nil]
          exact mem_ids_filter.2 ⟨hfv y (List.mem_cons_of_mem _ hy), hy⟩
    | .create x ty env cs next fc fn, Γ, h, hn, hM, Γ', hs, hfv => by
      simp only [WT] at h
      obtain ⟨h1, h2, ⟨h3, h3'⟩, h4⟩ := h
      rw [fv_create] at hfv ⊢
      simp only [WTA]
      have hn1 : NodupIds (Γ ++ [⟨x, .cns, ty⟩]) := nodupIds_append_singleton hn h3
      have hM1 := ids_le_append_singleton hM (b := ⟨x, .cns, ty⟩) h3'
      refine ⟨by
          obtain ⟨d, hd, hm⟩ := h1
          exact ⟨d, hd, (clausesMatch_freeVars _ _).2 hm⟩, h3, h3', _, _, rfl, rfl,
        fun y hy => hM y (fvClauses_sub T S M cs Γ h2 y hy),
        fun y hy => hM1 y (fv_sub T S M next _ h4 y hy), ?_, ?_⟩
      · apply freeVarsClauses_WTA T S M cs Γ h2 hn hM
        · intro y c t hv
          rw [List.nil_append] at hv
          exact hs _ _ _ (hasVar_filter.1 hv).1
        · intro y hy
          rw [List.nil_append]
          exact mem_ids_filter.2 ⟨hfv y (List.mem_append_left _ hy), hy⟩
      · have ih := freeVars_WTA T S M next _ h4 hn1 hM1 _ (keysSub_filter_append hs _ _)
          (fv_next_in hfv (fun y hy e => List.mem_append_right _ (mem_setRemove.2 ⟨hy, e⟩)))
        rwa [ids_append] at ih
    | .invoke x tag ty args, Γ, h, hn, hM, Γ', hs, hfv => by
      simp only [WT] at h
      obtain ⟨h1, h2, h3⟩ := h
      rw [fv_invoke] at hfv ⊢
      simp only [WTA]
      exact ⟨hasVar_restrict hs hn h1 (hfv _ (by simp)), h2,
        argsIn_restrict hs hn h3 (fun y hy => hfv y (List.mem_cons_of_mem _ hy))⟩
    | .lit x n next fv, Γ, h, hn, hM, Γ', hs, hfv => by
      simp only [WT] at h
      obtain ⟨⟨h3, h3'⟩, h4⟩ := h
      rw [fv_lit] at hfv ⊢
      simp only [WTA]
      have hn1 : NodupIds (Γ ++ [⟨x, .ext, .i64⟩]) := nodupIds_append_singleton hn h3
      have hM1 := ids_le_append_singleton hM (b := ⟨x, .ext, .i64⟩) h3'
      refine ⟨h3, h3', _, rfl, fun y hy => hM1 y (fv_sub T S M next _ h4 y hy), ?_⟩
      have ih := freeVars_WTA T S M next _ h4 hn1 hM1 _ (keysSub_filter_append hs _ _)
        (fv_next_in hfv (fun y hy e => mem_setRemove.2 ⟨hy, e⟩))
      rwa [ids_append] at ih
    | .op x a o b next fv, Γ, h, hn, hM, Γ', hs, hfv => by
      simp only [WT] at h
      obtain ⟨h1, h2, ⟨h3, h3'⟩, h4⟩ := h
      rw [fv_op] at hfv ⊢
      simp only [WTA]
      have hn1 : NodupIds (Γ ++ [⟨x, .ext, .i64⟩]) := nodupIds_append_singleton hn h3
      have hM1 := ids_le_append_singleton hM (b := ⟨x, .ext, .i64⟩) h3'
      refine ⟨hasVar_restrict hs hn h1 (hfv _ (by simp)), hasVar_restrict hs hn h2 (hfv _ (by simp)),
        h3, h3', _, rfl, fun y hy => hM1 y (fv_sub T S M next _ h4 y hy), ?_⟩
      have ih := freeVars_WTA T S M next _ h4 hn1 hM1
        (Γ'.filter (inSet (b.id :: a.id :: (freeVars next).2)) ++ [⟨x, .ext, .i64⟩])
        (keysSub_filter_append hs _ _) (by
          intro y hy
          rw [mem_ids_append_singleton]
          by_cases e : y = x.id
          · exact Or.inr e
          · refine Or.inl (mem_ids_filter.2 ⟨hfv y ?_, by simp [hy]⟩)
            simp only [List.mem_cons]
            exact Or.inr (Or.inr (mem_setRemove.2 ⟨hy, e⟩)))
      rwa [ids_append] at ih
    | .print nl a next fv, Γ, h, hn, hM, Γ', hs, hfv => by
      simp only [WT] at h
      obtain ⟨h1, h2⟩ := h
      rw [fv_print] at hfv ⊢
      simp only [WTA]
      refine ⟨hasVar_restrict hs hn h1 (hfv _ (by simp)), _, rfl,
        fun y hy => hM y (fv_sub T S M next _ h2 y hy), ?_⟩
      apply freeVars_WTA T S M next Γ h2 hn hM
      · intro y c t hv; exact hs _ _ _ (hasVar_filter.1 hv).1
      · intro y hy
        exact mem_ids_filter.2 ⟨hfv y (List.mem_cons_of_mem _ hy), by simp [hy]⟩
    | .ifc s a b t e, Γ, h, hn, hM, Γ', hs, hfv => by
      simp only [WT] at h
      obtain ⟨h1, h2, h3, h4⟩ := h
      rw [fv_ifc] at hfv ⊢
      simp only [WTA]
      refine ⟨hasVar_restrict hs hn h1 (hfv _ (by simp)), ?_,
        freeVars_WTA T S M t Γ h3 hn hM Γ' hs (fun y hy => hfv y (by simp [hy])),
        freeVars_WTA T S M e Γ h4 hn hM Γ' hs (fun y hy => hfv y (by simp [hy]))⟩
      intro b' hb'
      subst hb'
      exact hasVar_restrict hs hn (h2 b' rfl) (hfv _ (by simp))
    | .exit x, Γ, h, hn, hM, Γ', hs, hfv => by
      simp only [WT] at h
      rw [fv_exit] at hfv ⊢
      simp only [WTA]
      exact hasVar_restrict hs hn h (hfv _ (by simp))
  theorem freeVarsClauses_WTA (T : List TypeDecl) (S : Sigs) (M : Nat) :
      ∀ (cs : Clauses) (Γ : Ctx), WTClauses T S M cs Γ → NodupIds Γ → (∀ i ∈ Γ.ids, i ≤ M) →
        ∀ pre post, KeysSub (pre ++ post) Γ → (∀ y ∈ (freeVarsClauses cs).2, y ∈ (pre ++ post).ids) →
        WTAClauses T S M (freeVarsClauses cs).1 Γ.ids pre post
    | .nil, _, _, _, _, _, _, _, _ => by rw [fvc_nil]; simp [WTAClauses]
    | .cons x ctx body rest, Γ, h, hn, hM, pre, post, hs, hfv => by
      simp only [WTClauses] at h
      obtain ⟨h1, h2, h3, h4⟩ := h
      rw [fvc_cons] at hfv ⊢
      simp only [WTAClauses]
      have hn1 : NodupIds (Γ ++ ctx) := nodupIds_append hn h1 (fun i hi => (h2 i hi).1)
      have hM1 : ∀ i ∈ (Γ ++ ctx).ids, i ≤ M := by
        intro i hi
        rw [ids_append] at hi
        rcases List.mem_append.1 hi with hi | hi
        · exact hM i hi
        · exact (h2 i hi).2
      refine ⟨h1, h2, ?_, freeVarsClauses_WTA T S M rest Γ h4 hn hM pre post hs
        (fun y hy => hfv y (List.mem_append_left _ hy))⟩
      have ih := freeVars_WTA T S M body _ h3 hn1 hM1 (pre ++ ctx ++ post) (by
          intro y c t hv
          rcases hasVar_append.1 hv with hv | hv
          · rcases hasVar_append.1 hv with hv | hv
            · exact hasVar_append.2 (Or.inl (hs _ _ _ (hasVar_append.2 (Or.inl hv))))
            · exact hasVar_append.2 (Or.inr hv)
          · exact hasVar_append.2 (Or.inl (hs _ _ _ (hasVar_append.2 (Or.inr hv))))) (by
          intro y hy
          simp only [ids_append, List.mem_append]
          by_cases e : y ∈ ctx.ids
          · exact Or.inl (Or.inr e)
          · have := hfv y (List.mem_append_right _ (mem_setRemoveAll.2 ⟨hy, e⟩))
            rw [ids_append] at this
            rcases List.mem_append.1 this with h | h
            · exact Or.inl (Or.inl h)
            · exact Or.inr h)
      rwa [ids_append] at ih
end
