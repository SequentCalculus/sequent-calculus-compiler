/-
  Scc.AxCut.LinRelLin — proof file (C05: T4 of the list in Scc/Props/C05.lean, part B): the output of `linearize` is a linearization
  (`LinRel`, Scc/AxCut/LinRel.lean) of the ORIGINAL named statement.

  The linearizer works on an annotated and, after `Create`, renamed copy `s₁` of the original
  statement `s₀`; `Ren θ s₀ s₁` records the correspondence of free variables (θ = the pairs
  (named id, id in the current context)), bound variables being identical on both sides.

  T3 (the output is `LinTyped`) is the same theorem with the named side forgotten (`LinRel.toTyped`); since
  `LinRel` wants the named `create`s without environment annotation, the named statement taken for it is the
  input with its annotations erased (`eraseEnv`).
-/
import Scc.AxCut.LinCtx
import Scc.AxCut.LinRelTyped

namespace Scc.AxCut

/-- the named variable standing at the position of `Γ` whose binding has id `z` -/
def preId (ys : List Nat) (Γ : Ctx) (z : Nat) : Nat :=
  match Γ.findIdx? (fun b => b.var.id == z) with
  | some i => ys.getD i 0
  | none => 0

theorem preId_of_get {ys : List Nat} {Γ : Ctx} (hn : NodupIds Γ) (hl : ys.length = Γ.length)
    {i : Nat} {b : Binding} (h : Γ[i]? = some b) : ys[i]? = some (preId ys Γ b.var.id) := by
  have hi : i < ys.length := by
    rw [hl]; exact (List.getElem?_eq_some_iff.1 h).1
  simp only [preId, findIdx_of_get Γ i b hn h, List.getD_eq_getElem?_getD,
    List.getElem?_eq_getElem hi, Option.getD_some]

theorem get_of_hasVar {Γ : Ctx} {z : Nat} {c : Chi} {t : Ty} (h : HasVar Γ z c t) :
    ∃ (i : Nat) (b : Binding), Γ[i]? = some b ∧ b.var.id = z ∧ b.chi = c ∧ b.ty = t := by
  obtain ⟨b, hb, h1, h2, h3⟩ := h
  obtain ⟨i, hi⟩ := List.getElem?_of_mem hb
  exact ⟨i, b, hi, h1, h2, h3⟩

theorem occ_of_hasVar {ys : List Nat} {Γ : Ctx} (hn : NodupIds Γ) (hl : ys.length = Γ.length)
    {z : Nat} {c : Chi} {t : Ty} (h : HasVar Γ z c t) : Occ ys Γ (preId ys Γ z) z c t := by
  obtain ⟨i, b, h1, rfl, rfl, rfl⟩ := get_of_hasVar h
  exact ⟨i, b, preId_of_get hn hl h1, h1, rfl, rfl, rfl⟩

theorem mem_zip_get {α β} : ∀ (l1 : List α) (l2 : List β) (a : α) (b : β), (a, b) ∈ l1.zip l2 →
    ∃ i : Nat, l1[i]? = some a ∧ l2[i]? = some b
  | [], _, _, _, h => by simp at h
  | _ :: _, [], _, _, h => by simp at h
  | x :: xs, y :: ys, a, b, h => by
    simp only [List.zip_cons_cons, List.mem_cons, Prod.mk.injEq] at h
    rcases h with ⟨rfl, rfl⟩ | h
    · exact ⟨0, rfl, rfl⟩
    · obtain ⟨i, h1, h2⟩ := mem_zip_get xs ys a b h
      exact ⟨i + 1, by simpa using h1, by simpa using h2⟩

theorem get_mem_zip {α β} : ∀ (l1 : List α) (l2 : List β) (i : Nat) (a : α) (b : β),
    l1[i]? = some a → l2[i]? = some b → (a, b) ∈ l1.zip l2
  | [], _, _, _, _, h, _ => by simp at h
  | _ :: _, [], _, _, _, _, h => by simp at h
  | x :: xs, y :: ys, 0, a, b, h1, h2 => by
    simp at h1 h2; subst h1; subst h2; simp
  | x :: xs, y :: ys, i + 1, a, b, h1, h2 => by
    simp at h1 h2
    simp only [List.zip_cons_cons, List.mem_cons]
    exact Or.inr (get_mem_zip xs ys i a b h1 h2)

theorem ids_get {Γ : Ctx} {i : Nat} {b : Binding} (h : Γ[i]? = some b) :
    (Ctx.ids Γ)[i]? = some b.var.id := by
  simp [Ctx.ids, List.getElem?_map, h]

theorem ids_get_inv {Γ : Ctx} {i : Nat} {z : Nat} (h : (Ctx.ids Γ)[i]? = some z) :
    ∃ b, Γ[i]? = some b ∧ b.var.id = z := by
  simp only [Ctx.ids, List.getElem?_map, Option.map_eq_some_iff] at h
  exact h

/-- a pair of the correspondence determines the named variable -/
theorem preId_of_mem_zip {ys : List Nat} {Γ : Ctx} (hn : NodupIds Γ) (hl : ys.length = Γ.length)
    {y z : Nat} (h : (y, z) ∈ ys.zip Γ.ids) : preId ys Γ z = y := by
  obtain ⟨i, h1, h2⟩ := mem_zip_get _ _ _ _ h
  obtain ⟨b, hb, rfl⟩ := ids_get_inv h2
  have := preId_of_get hn hl hb
  rw [h1] at this
  injection this with this
  exact this.symm

theorem mem_zip_preId {ys : List Nat} {Γ : Ctx} (hn : NodupIds Γ) (hl : ys.length = Γ.length)
    {z : Nat} (h : z ∈ Γ.ids) : (preId ys Γ z, z) ∈ ys.zip Γ.ids := by
  obtain ⟨b, hb, rfl⟩ := List.mem_map.1 h
  obtain ⟨i, hi⟩ := List.getElem?_of_mem hb
  exact get_mem_zip _ _ i _ _ (preId_of_get hn hl hi) (ids_get hi)

theorem map_preId_ids {ys : List Nat} {Γ : Ctx} (hn : NodupIds Γ) (hl : ys.length = Γ.length) :
    Γ.ids.map (preId ys Γ) = ys := by
  apply List.ext_getElem?
  intro i
  simp only [List.getElem?_map]
  cases hg : Γ[i]? with
  | none =>
    have : Γ.length ≤ i := by simpa using hg
    have h1 : (Ctx.ids Γ)[i]? = none := by simp [Ctx.ids, hg]
    have h2 : ys[i]? = none := by simp; omega
    simp [h1, h2]
  | some b =>
    rw [ids_get hg, preId_of_get hn hl hg]
    rfl

theorem preId_mem {ys : List Nat} {Γ : Ctx} (hn : NodupIds Γ) (hl : ys.length = Γ.length)
    {z : Nat} (h : z ∈ Γ.ids) : preId ys Γ z ∈ ys :=
  (List.of_mem_zip (mem_zip_preId hn hl h)).1

/-- positions of a sub-context read through any function of the ids -/
theorem occ_map {Δ : Ctx} (f : Nat → Nat) {z : Nat} {c : Chi} {t : Ty} (h : HasVar Δ z c t) :
    Occ (Δ.ids.map f) Δ (f z) z c t := by
  obtain ⟨i, b, h1, rfl, rfl, rfl⟩ := get_of_hasVar h
  exact ⟨i, b, by simp [Ctx.ids, List.getElem?_map, h1], h1, rfl, rfl, rfl⟩

/-- a correspondence θ: pairs (id in the original statement, id in the working copy) -/
abbrev Corr := List (Nat × Nat)

def Corr.dom (θ : Corr) : List Nat := θ.map (·.1)

def diag (xs : List Nat) : Corr := xs.map fun i => (i, i)

/-- arguments correspond position by position (ids through θ; kinds and types equal) -/
def RenArgs (θ : Corr) : Ctx → Ctx → Prop
  | [], [] => True
  | a :: as, b :: bs => (a.var.id, b.var.id) ∈ θ ∧ a.chi = b.chi ∧ a.ty = b.ty ∧ RenArgs θ as bs
  | _, _ => False

/-- optional variables correspond: both absent, or both present and paired by θ -/
def RenOpt (θ : Corr) : Option Ident → Option Ident → Prop
  | none, none => True
  | some a, some b => (a.id, b.id) ∈ θ
  | _, _ => False

mutual
  /-- `s₁` is `s₀` with its free variables renamed along θ (names and annotations are irrelevant);
  binders are identical and fresh for the named side of θ; `create` carries no environment
  annotation in `s₀` -/
  def Ren : Corr → Stmt → Stmt → Prop
    | θ, .call l a, .call l' a' => l' = l ∧ RenArgs θ a a'
    | θ, .letS x ty tag a n _, .letS x' ty' tag' a' n' _ =>
      x' = x ∧ ty' = ty ∧ tag' = tag ∧ RenArgs θ a a' ∧ x.id ∉ θ.dom ∧ Ren (θ ++ [(x.id, x.id)]) n n'
    | θ, .switch x ty cs _, .switch x' ty' cs' _ =>
      (x.id, x'.id) ∈ θ ∧ ty' = ty ∧ RenClauses θ cs cs'
    | θ, .create x ty env cs n _ _, .create x' ty' _ cs' n' _ _ =>
      x' = x ∧ ty' = ty ∧ env = none ∧ RenClauses θ cs cs' ∧ x.id ∉ θ.dom ∧
        Ren (θ ++ [(x.id, x.id)]) n n'
    | θ, .invoke x tag ty a, .invoke x' tag' ty' a' =>
      (x.id, x'.id) ∈ θ ∧ tag' = tag ∧ ty' = ty ∧ RenArgs θ a a'
    | θ, .lit x k n _, .lit x' k' n' _ =>
      x' = x ∧ k' = k ∧ x.id ∉ θ.dom ∧ Ren (θ ++ [(x.id, x.id)]) n n'
    | θ, .op x a o b n _, .op x' a' o' b' n' _ =>
      x' = x ∧ o' = o ∧ (a.id, a'.id) ∈ θ ∧ (b.id, b'.id) ∈ θ ∧ x.id ∉ θ.dom ∧
        Ren (θ ++ [(x.id, x.id)]) n n'
    | θ, .print nl a n _, .print nl' a' n' _ => nl' = nl ∧ (a.id, a'.id) ∈ θ ∧ Ren θ n n'
    | θ, .ifc s a b t e, .ifc s' a' b' t' e' =>
      s' = s ∧ (a.id, a'.id) ∈ θ ∧ RenOpt θ b b' ∧ Ren θ t t' ∧ Ren θ e e'
    | θ, .exit a, .exit a' => (a.id, a'.id) ∈ θ
    | _, _, _ => False
  def RenClauses : Corr → Clauses → Clauses → Prop
    | _, .nil, .nil => True
    | θ, .cons x ctx b r, .cons x' ctx' b' r' =>
      x' = x ∧ ctx' = ctx ∧ (∀ i ∈ ctx.ids, i ∉ θ.dom) ∧ Ren (θ ++ diag ctx.ids) b b' ∧
        RenClauses θ r r'
    | _, _, _ => False
end

mutual
  /-- the statement without the environment annotations of its `create`s -/
  def eraseEnv : Stmt → Stmt
    | .subst p n => .subst p (eraseEnv n)
    | .call l a => .call l a
    | .letS x ty tag a n fv => .letS x ty tag a (eraseEnv n) fv
    | .switch x ty cs fv => .switch x ty (eraseEnvClauses cs) fv
    | .create x ty _ cs n fc fn => .create x ty none (eraseEnvClauses cs) (eraseEnv n) fc fn
    | .invoke x tag ty a => .invoke x tag ty a
    | .lit x k n fv => .lit x k (eraseEnv n) fv
    | .op x a o b n fv => .op x a o b (eraseEnv n) fv
    | .print nl a n fv => .print nl a (eraseEnv n) fv
    | .ifc s a b t e => .ifc s a b (eraseEnv t) (eraseEnv e)
    | .exit a => .exit a
  def eraseEnvClauses : Clauses → Clauses
    | .nil => .nil
    | .cons x ctx b r => .cons x ctx (eraseEnv b) (eraseEnvClauses r)
end

mutual
  theorem eraseEnv_eq : ∀ s : Stmt, noEnvAnn s = true → eraseEnv s = s
    | .subst _ n, h => by simp only [noEnvAnn] at h; simp only [eraseEnv, eraseEnv_eq n h]
    | .call _ _, _ => rfl
    | .letS _ _ _ _ n _, h => by simp only [noEnvAnn] at h; simp only [eraseEnv, eraseEnv_eq n h]
    | .switch _ _ cs _, h => by
      simp only [noEnvAnn] at h; simp only [eraseEnv, eraseEnvClauses_eq cs h]
    | .create _ _ env cs n _ _, h => by
      simp only [noEnvAnn, Bool.and_eq_true, Option.isNone_iff_eq_none] at h
      simp only [eraseEnv, eraseEnvClauses_eq cs h.1.2, eraseEnv_eq n h.2, h.1.1]
    | .invoke _ _ _ _, _ => rfl
    | .lit _ _ n _, h => by simp only [noEnvAnn] at h; simp only [eraseEnv, eraseEnv_eq n h]
    | .op _ _ _ _ n _, h => by simp only [noEnvAnn] at h; simp only [eraseEnv, eraseEnv_eq n h]
    | .print _ _ n _, h => by simp only [noEnvAnn] at h; simp only [eraseEnv, eraseEnv_eq n h]
    | .ifc _ _ _ t e, h => by
      simp only [noEnvAnn, Bool.and_eq_true] at h
      simp only [eraseEnv, eraseEnv_eq t h.1, eraseEnv_eq e h.2]
    | .exit _, _ => rfl
  theorem eraseEnvClauses_eq : ∀ cs : Clauses, noEnvAnnClauses cs = true → eraseEnvClauses cs = cs
    | .nil, _ => rfl
    | .cons _ _ b r, h => by
      simp only [noEnvAnnClauses, Bool.and_eq_true] at h
      simp only [eraseEnvClauses, eraseEnv_eq b h.1, eraseEnvClauses_eq r h.2]
end

theorem mem_diag {xs : List Nat} {y z : Nat} : (y, z) ∈ diag xs ↔ y ∈ xs ∧ z = y := by
  simp only [diag, List.mem_map, Prod.mk.injEq]
  constructor
  · rintro ⟨i, hi, e1, e2⟩; subst e1; subst e2; exact ⟨hi, rfl⟩
  · rintro ⟨hi, e⟩; exact ⟨y, hi, rfl, e.symm⟩

theorem dom_append (θ θ' : Corr) : (θ ++ θ').dom = θ.dom ++ θ'.dom := by simp [Corr.dom]
theorem dom_diag (xs : List Nat) : (diag xs).dom = xs := by
  simp [Corr.dom, diag, Function.comp_def]

theorem renArgs_of_argsIn : ∀ (args : Ctx) (θ : Corr), (∀ a ∈ args, (a.var.id, a.var.id) ∈ θ) →
    RenArgs θ args args
  | [], _, _ => by simp [RenArgs]
  | a :: as, θ, h => by
    simp only [RenArgs, true_and]
    exact ⟨h a (by simp), renArgs_of_argsIn as θ (fun b hb => h b (List.mem_cons_of_mem _ hb))⟩

/-- θ is the identity on everything in scope and nothing else -/
def IdCorr (θ : Corr) (Γ : Ctx) : Prop := (∀ y ∈ Γ.ids, (y, y) ∈ θ) ∧ (∀ y ∈ θ.dom, y ∈ Γ.ids)

theorem IdCorr.push {θ : Corr} {Γ : Ctx} (h : IdCorr θ Γ) (b : Binding) :
    IdCorr (θ ++ [(b.var.id, b.var.id)]) (Γ ++ [b]) := by
  constructor
  · intro y hy
    rcases mem_ids_append_singleton.1 hy with hy | hy
    · exact List.mem_append_left _ (h.1 y hy)
    · subst hy; simp
  · intro y hy
    rw [dom_append] at hy
    rcases List.mem_append.1 hy with hy | hy
    · exact mem_ids_append_singleton.2 (Or.inl (h.2 y hy))
    · simp [Corr.dom] at hy; exact mem_ids_append_singleton.2 (Or.inr hy)

theorem IdCorr.pushCtx {θ : Corr} {Γ : Ctx} (h : IdCorr θ Γ) (ctx : Ctx) :
    IdCorr (θ ++ diag ctx.ids) (Γ ++ ctx) := by
  constructor
  · intro y hy
    rw [ids_append] at hy
    rcases List.mem_append.1 hy with hy | hy
    · exact List.mem_append_left _ (h.1 y hy)
    · exact List.mem_append_right _ (mem_diag.2 ⟨hy, rfl⟩)
  · intro y hy
    rw [dom_append, dom_diag] at hy
    rw [ids_append]
    rcases List.mem_append.1 hy with hy | hy
    · exact List.mem_append_left _ (h.2 y hy)
    · exact List.mem_append_right _ hy

mutual
  /-- the annotated statement corresponds to the original one, its environment annotations erased, along
  the identity -/
  theorem ren_freeVars_erase (T : List TypeDecl) (S : Sigs) (M : Nat) :
      ∀ (s : Stmt) (Γ : Ctx) (θ : Corr), WT T S M s Γ → IdCorr θ Γ → Ren θ (eraseEnv s) (freeVars s).1
    | .subst _ _, _, _, h, _ => by simp [WT] at h
    | .call l args, Γ, θ, h, hθ => by
      simp only [WT] at h
      obtain ⟨_, _, _, h3⟩ := h
      rw [fv_call]; simp only [eraseEnv, Ren, true_and]
      exact renArgs_of_argsIn args θ (fun a ha => hθ.1 _ (h3 a ha).mem_ids)
    | .letS x ty tag args next fv, Γ, θ, h, hθ => by
      simp only [WT] at h
      obtain ⟨_, h2, ⟨h3, _⟩, h4⟩ := h
      rw [fv_let]; simp only [eraseEnv, Ren, true_and]
      exact ⟨renArgs_of_argsIn args θ (fun a ha => hθ.1 _ (h2 a ha).mem_ids),
        fun hm => h3 (hθ.2 _ hm),
        ren_freeVars_erase T S M next _ _ h4 (hθ.push ⟨x, .prd, ty⟩)⟩
    | .switch x ty cs fv, Γ, θ, h, hθ => by
      simp only [WT] at h
      obtain ⟨h1, _, h3⟩ := h
      rw [fv_switch]; simp only [eraseEnv, Ren, true_and]
      exact ⟨hθ.1 _ h1.mem_ids, renClauses_freeVars_erase T S M cs Γ θ h3 hθ⟩
    | .create x ty env cs next fc fn, Γ, θ, h, hθ => by
      simp only [WT] at h
      obtain ⟨_, h2, ⟨h3, _⟩, h4⟩ := h
      rw [fv_create]; simp only [eraseEnv, Ren, true_and]
      exact ⟨renClauses_freeVars_erase T S M cs Γ θ h2 hθ, fun hm => h3 (hθ.2 _ hm),
        ren_freeVars_erase T S M next _ _ h4 (hθ.push ⟨x, .cns, ty⟩)⟩
    | .invoke x tag ty args, Γ, θ, h, hθ => by
      simp only [WT] at h
      obtain ⟨h1, _, h3⟩ := h
      rw [fv_invoke]; simp only [eraseEnv, Ren, true_and]
      exact ⟨hθ.1 _ h1.mem_ids, renArgs_of_argsIn args θ (fun a ha => hθ.1 _ (h3 a ha).mem_ids)⟩
    | .lit x n next fv, Γ, θ, h, hθ => by
      simp only [WT] at h
      obtain ⟨⟨h3, _⟩, h4⟩ := h
      rw [fv_lit]; simp only [eraseEnv, Ren, true_and]
      exact ⟨fun hm => h3 (hθ.2 _ hm), ren_freeVars_erase T S M next _ _ h4 (hθ.push ⟨x, .ext, .i64⟩)⟩
    | .op x a o b next fv, Γ, θ, h, hθ => by
      simp only [WT] at h
      obtain ⟨h1, h2, ⟨h3, _⟩, h4⟩ := h
      rw [fv_op]; simp only [eraseEnv, Ren, true_and]
      exact ⟨hθ.1 _ h1.mem_ids, hθ.1 _ h2.mem_ids, fun hm => h3 (hθ.2 _ hm),
        ren_freeVars_erase T S M next _ _ h4 (hθ.push ⟨x, .ext, .i64⟩)⟩
    | .print nl a next fv, Γ, θ, h, hθ => by
      simp only [WT] at h
      obtain ⟨h1, h2⟩ := h
      rw [fv_print]; simp only [eraseEnv, Ren, true_and]
      exact ⟨hθ.1 _ h1.mem_ids, ren_freeVars_erase T S M next Γ θ h2 hθ⟩
    | .ifc s a b t e, Γ, θ, h, hθ => by
      simp only [WT] at h
      obtain ⟨h1, h2, h3, h4⟩ := h
      rw [fv_ifc]; simp only [eraseEnv, Ren, true_and]
      refine ⟨hθ.1 _ h1.mem_ids, ?_, ren_freeVars_erase T S M t Γ θ h3 hθ,
        ren_freeVars_erase T S M e Γ θ h4 hθ⟩
      cases b with
      | none => simp [RenOpt]
      | some b0 => simp only [RenOpt]; exact hθ.1 _ (h2 b0 rfl).mem_ids
    | .exit x, Γ, θ, h, hθ => by
      simp only [WT] at h
      rw [fv_exit]; simp only [eraseEnv, Ren]
      exact hθ.1 _ h.mem_ids
  theorem renClauses_freeVars_erase (T : List TypeDecl) (S : Sigs) (M : Nat) :
      ∀ (cs : Clauses) (Γ : Ctx) (θ : Corr), WTClauses T S M cs Γ → IdCorr θ Γ →
        RenClauses θ (eraseEnvClauses cs) (freeVarsClauses cs).1
    | .nil, _, _, _, _ => by rw [fvc_nil]; simp [eraseEnvClauses, RenClauses]
    | .cons x ctx body rest, Γ, θ, h, hθ => by
      simp only [WTClauses] at h
      obtain ⟨_, h2, h3, h4⟩ := h
      rw [fvc_cons]; simp only [eraseEnvClauses, RenClauses, true_and]
      exact ⟨fun i hi hm => (h2 i hi).1 (hθ.2 _ hm),
        ren_freeVars_erase T S M body _ _ h3 (hθ.pushCtx ctx),
        renClauses_freeVars_erase T S M rest Γ θ h4 hθ⟩
end

/-- the same for clause lists that carry no environment annotation (nothing is erased then) -/
theorem renClauses_freeVars (T : List TypeDecl) (S : Sigs) (M : Nat) :
      ∀ (cs : Clauses) (Γ : Ctx) (θ : Corr), WTClauses T S M cs Γ → IdCorr θ Γ →
        noEnvAnnClauses cs = true → RenClauses θ cs (freeVarsClauses cs).1 := fun cs Γ θ h hθ hne => by
  have := renClauses_freeVars_erase T S M cs Γ θ h hθ
  rwa [eraseEnvClauses_eq cs hne] at this

/-! ## transport of the correspondence (restriction of the context, renaming by `freshen`) -/

/-- θ' contains the σ-image of the part of θ that is still in the context Γ, and names nothing new;
the linear side of θ lies in the avoid set -/
structure CorrStep (σ : Subst) (θ θ' : Corr) (A : List Nat) (Γ : Ctx) : Prop where
  img : ∀ y z, (y, z) ∈ θ → z ∈ Γ.ids → (y, substId σ z) ∈ θ'
  dom : ∀ y ∈ θ'.dom, y ∈ θ.dom
  snd : ∀ p ∈ θ, p.2 ∈ A

theorem CorrStep.mono {σ θ θ' A Γ Γ'} (h : CorrStep σ θ θ' A Γ) (hsub : ∀ i ∈ Γ'.ids, i ∈ Γ.ids) :
    CorrStep σ θ θ' A Γ' :=
  ⟨fun y z hm hz => h.img y z hm (hsub z hz), h.dom, h.snd⟩

theorem CorrStep.push {σ θ θ' A Γ M M2} (h : CorrStep σ θ θ' A Γ) (g : GoodSubst σ A M M2)
    {x : Nat} (hx : x ∉ A) {Γ₁ : Ctx} (hΓ : ∀ i ∈ Γ₁.ids, i ∈ Γ.ids ∨ i = x) :
    CorrStep σ (θ ++ [(x, x)]) (θ' ++ [(x, x)]) (A ++ [x]) Γ₁ := by
  refine ⟨?_, ?_, ?_⟩
  · intro y z hm hz
    rcases List.mem_append.1 hm with hm | hm
    · have hzA := h.snd _ hm
      rcases hΓ z hz with hz' | hz'
      · exact List.mem_append_left _ (h.img y z hm hz')
      · exact absurd (hz' ▸ hzA) hx
    · simp only [List.mem_singleton, Prod.mk.injEq] at hm
      obtain ⟨rfl, rfl⟩ := hm
      rw [g.fixId hx]; simp
  · intro y hy
    rw [dom_append] at hy ⊢
    rcases List.mem_append.1 hy with hy | hy
    · exact List.mem_append_left _ (h.dom y hy)
    · exact List.mem_append_right _ hy
  · intro q hq
    rcases List.mem_append.1 hq with hq | hq
    · exact List.mem_append_left _ (h.snd q hq)
    · simp at hq; subst hq; simp

theorem CorrStep.pushCtx {σ θ θ' A Γ M M2} (h : CorrStep σ θ θ' A Γ) (g : GoodSubst σ A M M2)
    {ctx : Ctx} (hx : ∀ i ∈ ctx.ids, i ∉ A) {Γ₁ : Ctx} (hΓ : ∀ i ∈ Γ₁.ids, i ∈ Γ.ids ∨ i ∈ ctx.ids) :
    CorrStep σ (θ ++ diag ctx.ids) (θ' ++ diag ctx.ids) (A ++ ctx.ids) Γ₁ := by
  refine ⟨?_, ?_, ?_⟩
  · intro y z hm hz
    rcases List.mem_append.1 hm with hm | hm
    · have hzA := h.snd _ hm
      rcases hΓ z hz with hz' | hz'
      · exact List.mem_append_left _ (h.img y z hm hz')
      · exact absurd hzA (hx z hz')
    · obtain ⟨hy, rfl⟩ := mem_diag.1 hm
      rw [g.fixId (hx _ hy)]
      exact List.mem_append_right _ (mem_diag.2 ⟨hy, rfl⟩)
  · intro y hy
    rw [dom_append] at hy ⊢
    rcases List.mem_append.1 hy with hy | hy
    · exact List.mem_append_left _ (h.dom y hy)
    · exact List.mem_append_right _ hy
  · intro q hq
    rcases List.mem_append.1 hq with hq | hq
    · exact List.mem_append_left _ (h.snd q hq)
    · obtain ⟨hy, e⟩ := mem_diag.1 (show (q.1, q.2) ∈ diag ctx.ids from hq)
      rw [e]; exact List.mem_append_right _ hy

theorem renArgs_subst {σ θ θ' A Γ} (h : CorrStep σ θ θ' A Γ) :
    ∀ (a a' : Ctx), RenArgs θ a a' → ArgsIn Γ a' → RenArgs θ' a (substCtx σ a')
  | [], [], _, _ => by simp [substCtx, RenArgs]
  | [], _ :: _, hr, _ => by simp [RenArgs] at hr
  | _ :: _, [], hr, _ => by simp [RenArgs] at hr
  | x :: xs, y :: ys, hr, ha => by
    simp only [RenArgs] at hr
    simp only [substCtx, List.map_cons, RenArgs, substBinding_id, substBinding_chi, substBinding_ty]
    exact ⟨h.img _ _ hr.1 (ha y (by simp)).mem_ids, hr.2.1, hr.2.2.1,
      renArgs_subst h xs ys hr.2.2.2 (fun b hb => ha b (List.mem_cons_of_mem _ hb))⟩

theorem filter_ids_sub {Γ : Ctx} (p : Binding → Bool) : ∀ i ∈ Ctx.ids (Γ.filter p), i ∈ Γ.ids := by
  intro i hi
  obtain ⟨b, hb, rfl⟩ := List.mem_map.1 hi
  exact List.mem_map.2 ⟨b, (List.mem_filter.1 hb).1, rfl⟩

theorem filter_push_ids {Γ : Ctx} (p : Binding → Bool) (b : Binding) :
    ∀ i ∈ Ctx.ids (Γ.filter p ++ [b]), i ∈ Γ.ids ∨ i = b.var.id := by
  intro i hi
  rcases mem_ids_append_singleton.1 hi with hi | hi
  · exact Or.inl (filter_ids_sub p i hi)
  · exact Or.inr hi

mutual
  /-- the correspondence survives the restriction of the context and the renaming of
  `Create::linearize` -/
  theorem ren_subst (T : List TypeDecl) (S : Sigs) (σ : Subst) {M M2 : Nat} :
      ∀ (s₁ s₀ : Stmt) (θ θ' : Corr) (A : List Nat) (Γ : Ctx), GoodSubst σ A M M2 →
        WTA T S M s₁ A Γ → Ren θ s₀ s₁ → CorrStep σ θ θ' A Γ → Ren θ' s₀ (substStmt σ s₁)
    | .subst _ _, _, _, _, _, _, _, h, _, _ => by simp [WTA] at h
    | .call l' a', s₀, θ, θ', A, Γ, g, h, hr, hc => by
      cases s₀ <;> simp only [Ren] at hr
      simp only [WTA] at h
      obtain ⟨_, _, _, h3⟩ := h
      simp only [substStmt, Ren]
      exact ⟨hr.1, renArgs_subst hc _ _ hr.2 h3⟩
    | .letS x' ty' tag' a' n' fv', s₀, θ, θ', A, Γ, g, h, hr, hc => by
      cases s₀ <;> simp only [Ren] at hr
      simp only [WTA] at h
      obtain ⟨_, h2, h3, _, Sn, _, _, h7⟩ := h
      obtain ⟨rfl, rfl, rfl, r4, r5, r6⟩ := hr
      simp only [substStmt, Ren, true_and]
      exact ⟨renArgs_subst hc _ _ r4 h2, fun hm => r5 (hc.dom _ hm),
        ren_subst T S σ n' _ _ _ _ _ (g.mono (fun a ha => List.mem_append_left _ ha)) h7 r6
          (hc.push g h3 (filter_push_ids _ _))⟩
    | .switch x' ty' cs' fv', s₀, θ, θ', A, Γ, g, h, hr, hc => by
      cases s₀ <;> simp only [Ren] at hr
      simp only [WTA] at h
      obtain ⟨h1, _, Sc, _, _, h5⟩ := h
      obtain ⟨r1, rfl, r3⟩ := hr
      simp only [substStmt, Ren, true_and, substIdent_id]
      exact ⟨hc.img _ _ r1 h1.mem_ids,
        renClauses_subst T S σ cs' _ _ _ _ _ _ g h5 r3
          (hc.mono (by simpa using filter_ids_sub (Γ := Γ) (inSet Sc)))⟩
    | .create x' ty' env' cs' n' fc' fn', s₀, θ, θ', A, Γ, g, h, hr, hc => by
      cases s₀ <;> simp only [Ren] at hr
      simp only [WTA] at h
      obtain ⟨_, h2, _, Sc, Sn, _, _, _, _, h8, h9⟩ := h
      obtain ⟨rfl, rfl, r3, r4, r5, r6⟩ := hr
      simp only [substStmt, Ren, true_and]
      exact ⟨r3, renClauses_subst T S σ cs' _ _ _ _ _ _ g h8 r4
          (hc.mono (by simpa using filter_ids_sub (Γ := Γ) (inSet Sc))),
        fun hm => r5 (hc.dom _ hm),
        ren_subst T S σ n' _ _ _ _ _ (g.mono (fun a ha => List.mem_append_left _ ha)) h9 r6
          (hc.push g h2 (filter_push_ids _ _))⟩
    | .invoke x' tag' ty' a', s₀, θ, θ', A, Γ, g, h, hr, hc => by
      cases s₀ <;> simp only [Ren] at hr
      simp only [WTA] at h
      obtain ⟨h1, _, h3⟩ := h
      obtain ⟨r1, rfl, rfl, r4⟩ := hr
      simp only [substStmt, Ren, true_and, substIdent_id]
      exact ⟨hc.img _ _ r1 h1.mem_ids, renArgs_subst hc _ _ r4 h3⟩
    | .lit x' k' n' fv', s₀, θ, θ', A, Γ, g, h, hr, hc => by
      cases s₀ <;> simp only [Ren] at hr
      simp only [WTA] at h
      obtain ⟨h1, _, Sn, _, _, h5⟩ := h
      obtain ⟨rfl, rfl, r3, r4⟩ := hr
      simp only [substStmt, Ren, true_and]
      exact ⟨fun hm => r3 (hc.dom _ hm),
        ren_subst T S σ n' _ _ _ _ _ (g.mono (fun a ha => List.mem_append_left _ ha)) h5 r4
          (hc.push g h1 (filter_push_ids _ _))⟩
    | .op x' a' o' b' n' fv', s₀, θ, θ', A, Γ, g, h, hr, hc => by
      cases s₀ <;> simp only [Ren] at hr
      simp only [WTA] at h
      obtain ⟨h1, h2, h3, _, Sn, _, _, h7⟩ := h
      obtain ⟨rfl, rfl, r3, r4, r5, r6⟩ := hr
      simp only [substStmt, Ren, true_and, substIdent_id]
      exact ⟨hc.img _ _ r3 h1.mem_ids, hc.img _ _ r4 h2.mem_ids, fun hm => r5 (hc.dom _ hm),
        ren_subst T S σ n' _ _ _ _ _ (g.mono (fun a ha => List.mem_append_left _ ha)) h7 r6
          (hc.push g h3 (filter_push_ids _ _))⟩
    | .print nl' a' n' fv', s₀, θ, θ', A, Γ, g, h, hr, hc => by
      cases s₀ <;> simp only [Ren] at hr
      simp only [WTA] at h
      obtain ⟨h1, Sn, _, _, h4⟩ := h
      obtain ⟨rfl, r2, r3⟩ := hr
      simp only [substStmt, Ren, true_and, substIdent_id]
      exact ⟨hc.img _ _ r2 h1.mem_ids,
        ren_subst T S σ n' _ _ _ _ _ g h4 r3 (hc.mono (filter_ids_sub _))⟩
    | .ifc s' a' b' t' e', s₀, θ, θ', A, Γ, g, h, hr, hc => by
      cases s₀ <;> simp only [Ren] at hr
      simp only [WTA] at h
      obtain ⟨h1, h2, h3, h4⟩ := h
      obtain ⟨rfl, r2, r3, r4, r5⟩ := hr
      simp only [substStmt, Ren, true_and, substIdent_id]
      refine ⟨hc.img _ _ r2 h1.mem_ids, ?_, ren_subst T S σ t' _ _ _ _ _ g h3 r4 hc,
        ren_subst T S σ e' _ _ _ _ _ g h4 r5 hc⟩
      rename_i b₀ _ _
      cases b₀ <;> cases b' <;> simp only [RenOpt, Option.map_some, Option.map_none] at r3 ⊢
      rw [substIdent_id]
      exact hc.img _ _ r3 (h2 _ rfl).mem_ids
    | .exit a', s₀, θ, θ', A, Γ, g, h, hr, hc => by
      cases s₀ <;> simp only [Ren] at hr
      simp only [WTA] at h
      simp only [substStmt, Ren, substIdent_id]
      exact hc.img _ _ hr h.mem_ids
  theorem renClauses_subst (T : List TypeDecl) (S : Sigs) (σ : Subst) {M M2 : Nat} :
      ∀ (cs₁ cs₀ : Clauses) (θ θ' : Corr) (A : List Nat) (pre post : Ctx), GoodSubst σ A M M2 →
        WTAClauses T S M cs₁ A pre post → RenClauses θ cs₀ cs₁ → CorrStep σ θ θ' A (pre ++ post) →
        RenClauses θ' cs₀ (substClauses σ cs₁)
    | .nil, cs₀, _, _, _, _, _, _, _, hr, _ => by
      cases cs₀ <;> simp only [RenClauses] at hr
      simp [substClauses, RenClauses]
    | .cons x' ctx' b' r', cs₀, θ, θ', A, pre, post, g, h, hr, hc => by
      cases cs₀ <;> simp only [RenClauses] at hr
      simp only [WTAClauses] at h
      obtain ⟨_, h2, h3, h4⟩ := h
      obtain ⟨rfl, rfl, r3, r4, r5⟩ := hr
      simp only [substClauses, RenClauses, true_and]
      refine ⟨fun i hi hm => r3 i hi (hc.dom _ hm),
        ren_subst T S σ b' _ _ _ _ _ (g.mono (fun a ha => List.mem_append_left _ ha)) h3 r4
          (hc.pushCtx g (fun i hi => (h2 i hi).1) ?_),
        renClauses_subst T S σ r' _ _ _ _ _ _ g h4 r5 hc⟩
      intro i hi
      simp only [ids_append, List.mem_append] at hi ⊢
      rcases hi with (hi | hi) | hi
      · exact Or.inl (Or.inl hi)
      · exact Or.inr hi
      · exact Or.inl (Or.inr hi)
end

theorem substIdent_nil (x : Ident) : substIdent [] x = x := by simp [substIdent]
theorem substId_nil (x : Nat) : substId [] x = x := by simp [substId]

theorem goodSubst_nil (A : List Nat) (M : Nat) : GoodSubst [] A M M :=
  ⟨Nat.le_refl _, fun y hy => by rw [substId_nil]; exact hy,
   fun y z _ _ h => by simpa [substId_nil] using h, fun x _ => substIdent_nil x,
   fun y _ => Or.inl (substId_nil y)⟩

theorem map_substId_nil (l : List Nat) : l.map (substId []) = l := by
  conv => rhs; rw [← List.map_id l]
  apply List.map_congr_left; intro a _; exact substId_nil a

theorem substCtx_nil (Γ : Ctx) : substCtx [] Γ = Γ := by
  unfold substCtx
  conv => rhs; rw [← List.map_id Γ]
  apply List.map_congr_left; intro b _; simp [substBinding, substIdent_nil]

theorem substFV_nil (fv : FV) : substFV [] fv = fv := by
  cases fv <;> simp [substFV, map_substId_nil]

mutual
  theorem substStmt_nil : ∀ s : Stmt, substStmt [] s = s
    | .subst pairs n => by
      simp only [substStmt, substStmt_nil n, substIdent_nil]
      congr 1
      conv => rhs; rw [← List.map_id pairs]
      apply List.map_congr_left; intro p _
      simp [substBinding, substIdent_nil]
    | .call _ a => by simp only [substStmt, substCtx_nil]
    | .letS _ _ _ a n fv => by simp only [substStmt, substCtx_nil, substStmt_nil n, substFV_nil]
    | .switch x _ cs fv => by simp only [substStmt, substIdent_nil, substClauses_nil cs, substFV_nil]
    | .create _ _ env cs n fc fn => by
      simp only [substStmt, substClauses_nil cs, substStmt_nil n, substFV_nil]
      cases env <;> simp [substCtx_nil]
    | .invoke x _ _ a => by simp only [substStmt, substIdent_nil, substCtx_nil]
    | .lit _ _ n fv => by simp only [substStmt, substStmt_nil n, substFV_nil]
    | .op _ a _ b n fv => by simp only [substStmt, substIdent_nil, substStmt_nil n, substFV_nil]
    | .print _ a n fv => by simp only [substStmt, substIdent_nil, substStmt_nil n, substFV_nil]
    | .ifc _ a b t e => by
      simp only [substStmt, substIdent_nil, substStmt_nil t, substStmt_nil e]
      cases b <;> simp [substIdent_nil]
    | .exit a => by simp only [substStmt, substIdent_nil]
  theorem substClauses_nil : ∀ cs : Clauses, substClauses [] cs = cs
    | .nil => by simp only [substClauses]
    | .cons _ _ b r => by simp only [substClauses, substStmt_nil b, substClauses_nil r]
end

/-- the correspondence survives the restriction of the context: pairs whose image leaves the context may go -/
theorem ren_restrict (T : List TypeDecl) (S : Sigs) {M : Nat} {s₁ s₀ : Stmt} {θ θ' : Corr}
    {A : List Nat} {Γ : Ctx} (h : WTA T S M s₁ A Γ) (hr : Ren θ s₀ s₁)
    (himg : ∀ y z, (y, z) ∈ θ → z ∈ Γ.ids → (y, z) ∈ θ') (hdom : ∀ y ∈ θ'.dom, y ∈ θ.dom)
    (hsnd : ∀ p ∈ θ, p.2 ∈ A) : Ren θ' s₀ s₁ := by
  have := ren_subst T S [] s₁ s₀ θ θ' A Γ (goodSubst_nil A M) h hr
    ⟨fun y z hm hz => by rw [substId_nil]; exact himg y z hm hz, hdom, hsnd⟩
  rwa [substStmt_nil] at this

theorem renClauses_restrict (T : List TypeDecl) (S : Sigs) {M : Nat} {cs₁ cs₀ : Clauses}
    {θ θ' : Corr} {A : List Nat} {pre post : Ctx} (h : WTAClauses T S M cs₁ A pre post)
    (hr : RenClauses θ cs₀ cs₁)
    (himg : ∀ y z, (y, z) ∈ θ → z ∈ (pre ++ post).ids → (y, z) ∈ θ')
    (hdom : ∀ y ∈ θ'.dom, y ∈ θ.dom) (hsnd : ∀ p ∈ θ, p.2 ∈ A) : RenClauses θ' cs₀ cs₁ := by
  have := renClauses_subst T S [] cs₁ cs₀ θ θ' A pre post (goodSubst_nil A M) h hr
    ⟨fun y z hm hz => by rw [substId_nil]; exact himg y z hm hz, hdom, hsnd⟩
  rwa [substClauses_nil] at this

theorem zip_self_eq_diag (xs : List Nat) : xs.zip xs = diag xs := by
  induction xs with
  | nil => rfl
  | cons x xs ih => simp [diag] at ih ⊢; exact ih

theorem dom_zip {ys zs : List Nat} (h : ys.length = zs.length) : Corr.dom (ys.zip zs) = ys := by
  unfold Corr.dom
  exact List.map_fst_zip (by omega)

theorem snd_mem_zip {ys zs : List Nat} {p : Nat × Nat} (h : p ∈ ys.zip zs) : p.2 ∈ zs :=
  (List.of_mem_zip (show (p.1, p.2) ∈ ys.zip zs from h)).2

theorem mem_zip_map_map {α} (f g : α → Nat) : ∀ (l : List α) (z : α), z ∈ l →
    (f z, g z) ∈ (l.map f).zip (l.map g)
  | [], _, h => by cases h
  | x :: xs, z, h => by
    simp only [List.map_cons, List.zip_cons_cons, List.mem_cons, Prod.mk.injEq]
    rcases List.mem_cons.1 h with rfl | h
    · exact Or.inl ⟨rfl, rfl⟩
    · exact Or.inr (mem_zip_map_map f g xs z h)

theorem mem_zip_map_self (f : Nat → Nat) (l : List Nat) (z : Nat) (h : z ∈ l) :
    (f z, z) ∈ (l.map f).zip l := by
  have := mem_zip_map_map f id l z h
  simpa using this

/-- the named arguments are the named variables at the positions of the linear arguments -/
theorem renArgs_pre {ys : List Nat} {Γ : Ctx} (hn : NodupIds Γ) (hl : ys.length = Γ.length) :
    ∀ (a₀ a₁ : Ctx), RenArgs (ys.zip Γ.ids) a₀ a₁ →
      a₁.ids.map (preId ys Γ) = a₀.ids ∧ a₀.chiTys = a₁.chiTys ∧ a₀.length = a₁.length
  | [], [], _ => by simp [Ctx.ids, Ctx.chiTys]
  | [], _ :: _, h => by simp [RenArgs] at h
  | _ :: _, [], h => by simp [RenArgs] at h
  | x :: xs, y :: ys', h => by
    simp only [RenArgs] at h
    obtain ⟨h1, h2, h3⟩ := renArgs_pre hn hl xs ys' h.2.2.2
    simp only [Ctx.ids, Ctx.chiTys, List.map_cons, List.cons.injEq, List.length_cons] at h1 h2 h3 ⊢
    exact ⟨⟨preId_of_mem_zip hn hl h.1, h1⟩, ⟨by rw [h.2.1, h.2.2.1], h2⟩, by omega⟩

section build
variable {T : List TypeDecl} {S : Sigs}

theorem rearr_of_hasVar {ys : List Nat} {Γ : Ctx} (hn : NodupIds Γ) (hl : ys.length = Γ.length) :
    ∀ (newB old : Ctx), newB.length = old.length →
      (∀ p ∈ old.zip newB, HasVar Γ p.1.var.id p.2.chi p.2.ty) →
      Rearr ys Γ (old.ids.map (preId ys Γ)) (rearrange newB old)
  | [], [], _, _ => by simp [rearrange, Ctx.ids, Ctx.vars, Rearr]
  | [], _ :: _, h, _ => by simp at h
  | _ :: _, [], h, _ => by simp at h
  | b :: newB, o :: old, hlen, hp => by
    simp only [rearrange, Ctx.ids, Ctx.vars, List.map_cons, List.zip_cons_cons, Rearr]
    refine ⟨occ_of_hasVar hn hl (hp (o, b) (by simp)), ?_⟩
    exact rearr_of_hasVar hn hl newB old (by simpa using hlen) (fun p hp' => hp p (by simp [hp']))

/-- the explicit substitution built by `zip` -/
theorem linRel_rearrange {ys : List Nat} {Γ newB old : Ctx} {s₀ s' : Stmt}
    (hn : NodupIds Γ) (hl : ys.length = Γ.length) (hlen : newB.length = old.length)
    (hp : ∀ p ∈ old.zip newB, HasVar Γ p.1.var.id p.2.chi p.2.ty)
    (hnew : NodupIds newB) (hnext : LinRel T S (old.ids.map (preId ys Γ)) newB s₀ s') :
    LinRel T S ys Γ s₀ (.subst (rearrange newB old) s') := by
  refine .subst hn hl (rearr_of_hasVar hn hl newB old hlen hp) ?_ ?_
  · rw [map_fst_zip_vars newB old hlen]; exact hnew
  · rw [map_fst_zip_vars newB old hlen]; exact hnext

theorem linRel_drop {ys : List Nat} {Γ : Ctx} {Sn : List Nat} {s₀ s' : Stmt}
    (hn : NodupIds Γ) (hl : ys.length = Γ.length)
    (h : LinRel T S ((filterBySet Γ Sn).ids.map (preId ys Γ)) (filterBySet Γ Sn) s₀ s') :
    LinRel T S ys Γ s₀ (.subst (rearrange (filterBySet Γ Sn) (filterBySet Γ Sn)) s') := by
  refine linRel_rearrange hn hl rfl ?_ (filterBySet_nodup hn) h
  intro p hp
  obtain ⟨e, hm⟩ := mem_zip_self _ p hp
  rw [← e]
  exact hasVar_of_mem (filterBySet_sub hm)

theorem map_pre_sub {ys : List Nat} {Γ Δ : Ctx} (hn : NodupIds Γ) (hl : ys.length = Γ.length)
    (hsub : ∀ b ∈ Δ, b ∈ Γ) : ∀ y ∈ Δ.ids.map (preId ys Γ), y ∈ ys := by
  intro y hy
  obtain ⟨z, hz, rfl⟩ := List.mem_map.1 hy
  obtain ⟨b, hb, rfl⟩ := List.mem_map.1 hz
  exact preId_mem hn hl (List.mem_map.2 ⟨b, hsub b hb, rfl⟩)

/-- the correspondence for the continuation of a binding statement -/
theorem corr_next {ys : List Nat} {Γ nc : Ctx} {A : List Nat} (hn : NodupIds Γ)
    (hl : ys.length = Γ.length) (hsubA : ∀ i ∈ Γ.ids, i ∈ A) (hnc : ∀ b ∈ nc, b ∈ Γ)
    {xb : Binding} (hx : xb.var.id ∉ A) :
    (∀ y z, (y, z) ∈ ys.zip Γ.ids ++ [(xb.var.id, xb.var.id)] → z ∈ Ctx.ids (nc ++ [xb]) →
        (y, z) ∈ (nc.ids.map (preId ys Γ) ++ [xb.var.id]).zip (Ctx.ids (nc ++ [xb]))) ∧
    (∀ y ∈ Corr.dom ((nc.ids.map (preId ys Γ) ++ [xb.var.id]).zip (Ctx.ids (nc ++ [xb]))),
        y ∈ Corr.dom (ys.zip Γ.ids ++ [(xb.var.id, xb.var.id)])) ∧
    (∀ p ∈ ys.zip Γ.ids ++ [(xb.var.id, xb.var.id)], p.2 ∈ A ++ [xb.var.id]) := by
  have hz : (nc.ids.map (preId ys Γ) ++ [xb.var.id]).zip (Ctx.ids (nc ++ [xb])) =
      (nc.ids.map (preId ys Γ)).zip nc.ids ++ [(xb.var.id, xb.var.id)] := by
    rw [ids_append, List.zip_append (by simp)]; simp [Ctx.ids]
  refine ⟨?_, ?_, ?_⟩
  · intro y z hm hzm
    rw [hz]
    rcases List.mem_append.1 hm with hm | hm
    · have hzA : z ∈ A := hsubA z (snd_mem_zip hm)
      rcases mem_ids_append_singleton.1 hzm with hzm | hzm
      · have := preId_of_mem_zip hn hl hm
        rw [← this]
        exact List.mem_append_left _ (mem_zip_map_self _ _ _ hzm)
      · exact absurd (hzm ▸ hzA) hx
    · exact List.mem_append_right _ hm
  · intro y hy
    rw [dom_zip (by simp [ids_append, Ctx.ids])] at hy
    rw [dom_append, dom_zip (by simpa [Ctx.ids] using hl)]
    rcases List.mem_append.1 hy with hy | hy
    · exact List.mem_append_left _ (map_pre_sub hn hl hnc y hy)
    · exact List.mem_append_right _ (by simpa [Corr.dom] using hy)
  · intro q hq
    rcases List.mem_append.1 hq with hq | hq
    · exact List.mem_append_left _ (hsubA _ (snd_mem_zip hq))
    · simp at hq; subst hq; simp

/-- the correspondence for a continuation without new binder (print) or a restricted context -/
theorem corr_restrict {ys : List Nat} {Γ nc : Ctx} {A : List Nat} (hn : NodupIds Γ)
    (hl : ys.length = Γ.length) (hsubA : ∀ i ∈ Γ.ids, i ∈ A) (hnc : ∀ b ∈ nc, b ∈ Γ) :
    (∀ y z, (y, z) ∈ ys.zip Γ.ids → z ∈ nc.ids → (y, z) ∈ (nc.ids.map (preId ys Γ)).zip nc.ids) ∧
    (∀ y ∈ Corr.dom ((nc.ids.map (preId ys Γ)).zip nc.ids), y ∈ Corr.dom (ys.zip Γ.ids)) ∧
    (∀ p ∈ ys.zip Γ.ids, p.2 ∈ A) := by
  refine ⟨?_, ?_, ?_⟩
  · intro y z hm hzm
    have := preId_of_mem_zip hn hl hm
    rw [← this]
    exact mem_zip_map_self _ _ _ hzm
  · intro y hy
    rw [dom_zip (by simp)] at hy
    rw [dom_zip (by simpa [Ctx.ids] using hl)]
    exact map_pre_sub hn hl hnc y hy
  · intro q hq
    exact hsubA _ (snd_mem_zip hq)

/-- what is proved of `linearize` on statements, at fuel `n`: it succeeds on the working copy `s₁` and its output
    is a linearization (`LinRel`, hence the `R` in the name and in the lemmas `linr_*`, one per arm) of the
    original `s₀` -/
def StmtGoalR (T : List TypeDecl) (S : Sigs) (n : Nat) : Prop :=
  ∀ (s₁ s₀ : Stmt) (A : List Nat) (Γ : Ctx) (M : Nat) (ys : List Nat), s₁.size < n →
    WTA T S M s₁ A Γ → NodupIds Γ → (∀ i ∈ Γ.ids, i ∈ A) → (∀ a ∈ A, a ≤ M) →
    ys.length = Γ.length → Ren (ys.zip Γ.ids) s₀ s₁ →
    ∃ s' M', linearize n s₁ Γ M = .ok (s', M') ∧ M ≤ M' ∧ LinRel T S ys Γ s₀ s'

/-- the same for clause lists; the last conjunct (the output has the tags of the input, in the same order) is
    what the `switch` and `create` arms need to keep their clause lists matched to the type declaration -/
def ClausesGoalR (T : List TypeDecl) (S : Sigs) (n : Nat) : Prop :=
  ∀ (cs₁ cs₀ : Clauses) (A : List Nat) (pre post : Ctx) (M : Nat) (ysPre ysPost : List Nat),
    cs₁.size < n → WTAClauses T S M cs₁ A pre post → NodupIds (pre ++ post) →
    (∀ i ∈ (pre ++ post).ids, i ∈ A) → (∀ a ∈ A, a ≤ M) →
    ysPre.length = pre.length → ysPost.length = post.length →
    RenClauses ((ysPre ++ ysPost).zip (pre ++ post).ids) cs₀ cs₁ →
    ∃ cs' M', linearizeClauses n cs₁ pre post M = .ok (cs', M') ∧ M ≤ M' ∧
      LinRelClauses T S ysPre ysPost pre post cs₀ cs' ∧ ∀ xs, ClausesMatch xs cs' ↔ ClausesMatch xs cs₁

theorem occ_full {ys : List Nat} {Γ : Ctx} (hn : NodupIds Γ) (hl : ys.length = Γ.length)
    {a₀ a₁ : Nat} {c : Chi} {t : Ty} (hr : (a₀, a₁) ∈ ys.zip Γ.ids) (h : HasVar Γ a₁ c t) :
    Occ ys Γ a₀ a₁ c t := by
  have := occ_of_hasVar (ys := ys) hn hl h
  rwa [preId_of_mem_zip hn hl hr] at this

theorem linr_exit (n : Nat) (a₁ : Ident) (s₀ : Stmt) (A : List Nat) (Γ : Ctx) (M : Nat)
    (ys : List Nat) (h : WTA T S M (.exit a₁) A Γ) (hn : NodupIds Γ) (hl : ys.length = Γ.length)
    (hr : Ren (ys.zip Γ.ids) s₀ (.exit a₁)) :
    ∃ s' M', linearize (n + 1) (.exit a₁) Γ M = .ok (s', M') ∧ M ≤ M' ∧ LinRel T S ys Γ s₀ s' := by
  cases s₀ <;> simp only [Ren] at hr
  simp only [WTA] at h
  simp only [linearize_exit]
  exact ⟨_, _, rfl, Nat.le_refl _, .exit hn hl (occ_full hn hl hr h)⟩

theorem occ_nc {ys : List Nat} {Γ nc : Ctx} (hn : NodupIds Γ) (hl : ys.length = Γ.length)
    {a₀ a₁ : Nat} {c : Chi} {t : Ty} (hr : (a₀, a₁) ∈ ys.zip Γ.ids) (h : HasVar nc a₁ c t) :
    Occ (nc.ids.map (preId ys Γ)) nc a₀ a₁ c t := by
  have := occ_map (preId ys Γ) h
  rwa [preId_of_mem_zip hn hl hr] at this

theorem linr_lit (n : Nat) (ih : StmtGoalR T S n) (x : Ident) (k : Int) (n₁ : Stmt) (fv : FV)
    (s₀ : Stmt) (A : List Nat) (Γ : Ctx) (M : Nat) (ys : List Nat)
    (hsz : (Stmt.lit x k n₁ fv).size < n + 1)
    (h : WTA T S M (.lit x k n₁ fv) A Γ) (hn : NodupIds Γ)
    (hsub : ∀ i ∈ Γ.ids, i ∈ A) (hA : ∀ a ∈ A, a ≤ M) (hl : ys.length = Γ.length)
    (hr : Ren (ys.zip Γ.ids) s₀ (.lit x k n₁ fv)) :
    ∃ s' M', linearize (n + 1) (.lit x k n₁ fv) Γ M = .ok (s', M') ∧ M ≤ M' ∧
      LinRel T S ys Γ s₀ s' := by
  cases s₀ <;> simp only [Ren] at hr
  obtain ⟨rfl, rfl, r3, r4⟩ := hr
  simp only [WTA] at h
  obtain ⟨h1, h2, Sn, rfl, h4, h5⟩ := h
  obtain ⟨p1, p2, p3, p4, p5⟩ := prep_next (xb := ⟨x, .ext, .i64⟩) hn hsub hA h1 h2 h5
  have hsz' : n₁.size < n := by simp only [Stmt.size] at hsz; omega
  obtain ⟨c1, c2, c3⟩ := corr_next (ys := ys) (xb := ⟨x, .ext, .i64⟩) hn hl hsub
    (fun _ hb => filterBySet_sub (S := Sn) hb) h1
  have hren := ren_restrict T S p1 r4 c1 c2 c3
  obtain ⟨next', M', e, hle, ht⟩ := ih n₁ _ _ _ M _ hsz' p1 p2 p3 p4 (by simp [Ctx.ids]) hren
  rw [dom_zip (by simpa [Ctx.ids] using hl)] at r3
  have hxnc : x.id ∉ (filterBySet Γ Sn).ids.map (preId ys Γ) :=
    fun hm => r3 (map_pre_sub hn hl (fun _ hb => filterBySet_sub hb) _ hm)
  simp only [linearize_lit, e]
  split
  · rename_i e'
    refine ⟨_, _, rfl, hle, .lit hn hl (by rw [e']; exact p5) r3 ?_⟩
    have hys : (filterBySet Γ Sn).ids.map (preId ys Γ) = ys := by
      rw [← e']; exact map_preId_ids hn hl
    rw [hys] at ht
    have hΓ : Γ ++ [(⟨x, .ext, .i64⟩ : Binding)] = filterBySet Γ Sn ++ [⟨x, .ext, .i64⟩] := by
      rw [← e']
    rw [hΓ]; exact ht
  · exact ⟨_, _, rfl, hle, linRel_drop hn hl
      (.lit (filterBySet_nodup hn) (by simp [Ctx.ids]) p5 hxnc ht)⟩

theorem linr_op (n : Nat) (ih : StmtGoalR T S n) (x a₁ : Ident) (o : BinOp) (b₁ : Ident) (n₁ : Stmt)
    (fv : FV) (s₀ : Stmt) (A : List Nat) (Γ : Ctx) (M : Nat) (ys : List Nat)
    (hsz : (Stmt.op x a₁ o b₁ n₁ fv).size < n + 1)
    (h : WTA T S M (.op x a₁ o b₁ n₁ fv) A Γ) (hn : NodupIds Γ)
    (hsub : ∀ i ∈ Γ.ids, i ∈ A) (hA : ∀ a ∈ A, a ≤ M) (hl : ys.length = Γ.length)
    (hr : Ren (ys.zip Γ.ids) s₀ (.op x a₁ o b₁ n₁ fv)) :
    ∃ s' M', linearize (n + 1) (.op x a₁ o b₁ n₁ fv) Γ M = .ok (s', M') ∧ M ≤ M' ∧
      LinRel T S ys Γ s₀ s' := by
  cases s₀ <;> simp only [Ren] at hr
  obtain ⟨rfl, rfl, ra, rb, r3, r4⟩ := hr
  simp only [WTA] at h
  obtain ⟨ha, hb, h1, h2, Sn, rfl, h4, h5⟩ := h
  obtain ⟨p1, p2, p3, p4, p5⟩ := prep_next (xb := ⟨x, .ext, .i64⟩) hn hsub hA h1 h2 h5
  have hsz' : n₁.size < n := by simp only [Stmt.size] at hsz; omega
  obtain ⟨c1, c2, c3⟩ := corr_next (ys := ys) (xb := ⟨x, .ext, .i64⟩) hn hl hsub
    (fun _ hb => filterBySet_sub (S := b₁.id :: a₁.id :: Sn) hb) h1
  have hren := ren_restrict T S p1 r4 c1 c2 c3
  obtain ⟨next', M', e, hle, ht⟩ := ih n₁ _ _ _ M _ hsz' p1 p2 p3 p4 (by simp [Ctx.ids]) hren
  rw [dom_zip (by simpa [Ctx.ids] using hl)] at r3
  have hxnc : x.id ∉ (filterBySet Γ (b₁.id :: a₁.id :: Sn)).ids.map (preId ys Γ) :=
    fun hm => r3 (map_pre_sub hn hl (fun _ hb => filterBySet_sub hb) _ hm)
  have ha' : HasVar (filterBySet Γ (b₁.id :: a₁.id :: Sn)) a₁.id .ext .i64 :=
    hasVar_filterBySet.2 ⟨ha, by simp⟩
  have hb' : HasVar (filterBySet Γ (b₁.id :: a₁.id :: Sn)) b₁.id .ext .i64 :=
    hasVar_filterBySet.2 ⟨hb, by simp⟩
  simp only [linearize_op, e]
  split
  · rename_i e'
    refine ⟨_, _, rfl, hle, .op hn hl (occ_full hn hl ra ha) (occ_full hn hl rb hb)
      (by rw [e']; exact p5) r3 ?_⟩
    have hys : (filterBySet Γ (b₁.id :: a₁.id :: Sn)).ids.map (preId ys Γ) = ys := by
      rw [← e']; exact map_preId_ids hn hl
    rw [hys] at ht
    have hΓ : Γ ++ [(⟨x, .ext, .i64⟩ : Binding)] =
        filterBySet Γ (b₁.id :: a₁.id :: Sn) ++ [⟨x, .ext, .i64⟩] := by rw [← e']
    rw [hΓ]; exact ht
  · exact ⟨_, _, rfl, hle, linRel_drop hn hl
      (.op (filterBySet_nodup hn) (by simp [Ctx.ids]) (occ_nc hn hl ra ha') (occ_nc hn hl rb hb')
        p5 hxnc ht)⟩

theorem linr_print (n : Nat) (ih : StmtGoalR T S n) (nl : Bool) (a₁ : Ident) (n₁ : Stmt)
    (fv : FV) (s₀ : Stmt) (A : List Nat) (Γ : Ctx) (M : Nat) (ys : List Nat)
    (hsz : (Stmt.print nl a₁ n₁ fv).size < n + 1)
    (h : WTA T S M (.print nl a₁ n₁ fv) A Γ) (hn : NodupIds Γ)
    (hsub : ∀ i ∈ Γ.ids, i ∈ A) (hA : ∀ a ∈ A, a ≤ M) (hl : ys.length = Γ.length)
    (hr : Ren (ys.zip Γ.ids) s₀ (.print nl a₁ n₁ fv)) :
    ∃ s' M', linearize (n + 1) (.print nl a₁ n₁ fv) Γ M = .ok (s', M') ∧ M ≤ M' ∧
      LinRel T S ys Γ s₀ s' := by
  cases s₀ <;> simp only [Ren] at hr
  obtain ⟨rfl, ra, r3⟩ := hr
  simp only [WTA] at h
  obtain ⟨ha, Sn, rfl, h4, h5⟩ := h
  have hsz' : n₁.size < n := by simp only [Stmt.size] at hsz; omega
  have p1 := WTA_congr T S M n₁ _ _ _ (keysEq_filterBySet Γ (a₁.id :: Sn)).symm h5
  obtain ⟨c1, c2, c3⟩ := corr_restrict (ys := ys) hn hl hsub (fun _ hb => filterBySet_sub (S := a₁.id :: Sn) hb)
  have hren := ren_restrict T S p1 r3 c1 c2 c3
  obtain ⟨next', M', e, hle, ht⟩ := ih n₁ _ _ _ M _ hsz' p1 (filterBySet_nodup hn)
    (filterBySet_ids_sub hsub) hA (by simp [Ctx.ids]) hren
  have ha' : HasVar (filterBySet Γ (a₁.id :: Sn)) a₁.id .ext .i64 :=
    hasVar_filterBySet.2 ⟨ha, by simp⟩
  simp only [linearize_print, e]
  split
  · rename_i e'
    refine ⟨_, _, rfl, hle, .print hn hl (occ_full hn hl ra ha) ?_⟩
    have hys : (filterBySet Γ (a₁.id :: Sn)).ids.map (preId ys Γ) = ys := by
      rw [← e']; exact map_preId_ids hn hl
    rw [hys] at ht
    rw [e']; exact ht
  · exact ⟨_, _, rfl, hle, linRel_drop hn hl
      (.print (filterBySet_nodup hn) (by simp [Ctx.ids]) (occ_nc hn hl ra ha') ht)⟩

theorem linr_ifc (n : Nat) (ih : StmtGoalR T S n) (sr : IfSort) (a₁ : Ident) (b₁ : Option Ident)
    (t₁ e₁ : Stmt) (s₀ : Stmt) (A : List Nat) (Γ : Ctx) (M : Nat) (ys : List Nat)
    (hsz : (Stmt.ifc sr a₁ b₁ t₁ e₁).size < n + 1)
    (h : WTA T S M (.ifc sr a₁ b₁ t₁ e₁) A Γ) (hn : NodupIds Γ)
    (hsub : ∀ i ∈ Γ.ids, i ∈ A) (hA : ∀ a ∈ A, a ≤ M) (hl : ys.length = Γ.length)
    (hr : Ren (ys.zip Γ.ids) s₀ (.ifc sr a₁ b₁ t₁ e₁)) :
    ∃ s' M', linearize (n + 1) (.ifc sr a₁ b₁ t₁ e₁) Γ M = .ok (s', M') ∧ M ≤ M' ∧
      LinRel T S ys Γ s₀ s' := by
  cases s₀ <;> simp only [Ren] at hr
  rename_i sr₀ a₀ b₀ t₀ e₀
  obtain ⟨rfl, ra, rb, rt, re⟩ := hr
  simp only [WTA] at h
  obtain ⟨ha, hb, ht, he⟩ := h
  have hszt : t₁.size < n := by simp only [Stmt.size] at hsz; omega
  have hsze : e₁.size < n := by simp only [Stmt.size] at hsz; omega
  obtain ⟨t', M1, e1, hle1, ht'⟩ := ih t₁ t₀ A Γ M ys hszt ht hn hsub hA hl rt
  obtain ⟨e', M2, e2, hle2, he'⟩ := ih e₁ e₀ A Γ M1 ys hsze (WTA_mono T S hle1 e₁ A Γ he) hn hsub
    (fun a ha => Nat.le_trans (hA a ha) hle1) hl re
  simp only [linearize_ifc, e1, e2]
  refine ⟨_, _, rfl, Nat.le_trans hle1 hle2, .ifc hn hl (occ_full hn hl ra ha) ?_ ht' he'⟩
  cases b₀ <;> cases b₁ <;> simp only [RenOpt] at rb ⊢
  exact occ_full hn hl rb (hb _ rfl)

theorem linr_call (n : Nat) (l : Ident) (a₁ : Ctx) (s₀ : Stmt) (A : List Nat) (Γ : Ctx) (M : Nat)
    (ys : List Nat) (h : WTA T S M (.call l a₁) A Γ) (hn : NodupIds Γ)
    (hsub : ∀ i ∈ Γ.ids, i ∈ A) (hA : ∀ a ∈ A, a ≤ M) (hl : ys.length = Γ.length)
    (hr : Ren (ys.zip Γ.ids) s₀ (.call l a₁)) :
    ∃ s' M', linearize (n + 1) (.call l a₁) Γ M = .ok (s', M') ∧ M ≤ M' ∧ LinRel T S ys Γ s₀ s' := by
  cases s₀ <;> simp only [Ren] at hr
  rename_i l₀ a₀
  obtain ⟨rfl, ra⟩ := hr
  obtain ⟨q1, q2, q3⟩ := renArgs_pre hn hl a₀ a₁ ra
  simp only [WTA] at h
  obtain ⟨params, h1, h2, h3⟩ := h
  simp only [linearize_call]
  split
  · rename_i e
    subst e
    refine ⟨_, _, rfl, Nat.le_refl _, .call hn hl h1 h2 ?_⟩
    rw [← q1]; exact map_preId_ids hn hl
  · have hargs : ∀ i ∈ a₁.ids, i ≤ M := fun i hi => hA i (hsub i (argsIn_ids h3 i hi))
    obtain ⟨f1, f2, f3, f4, f5, f6⟩ := freshen_spec M a₁ [] M hargs (by simp) (Nat.le_refl _)
    generalize freshen a₁ [] M = r at *
    obtain ⟨f, M1⟩ := r
    refine ⟨_, _, rfl, f1, ?_⟩
    refine linRel_rearrange hn hl f2 ?_ f4 (.call f4 (by simp [Ctx.ids, f2]) h1 ?_ q1.symm)
    · intro p hp
      obtain ⟨e1, e2, _⟩ := f3 p hp
      rw [e1, e2]
      exact h3 p.1 (List.of_mem_zip hp).1
    · rw [chiTys_eq_of_zip a₁ f f2 (fun p hp => ⟨(f3 p hp).1, (f3 p hp).2.1⟩)]; exact h2

theorem ids_map_append (f : Nat → Nat) (Γ Δ : Ctx) :
    (Γ ++ Δ).ids.map f = Γ.ids.map f ++ Δ.ids.map f := by simp [Ctx.ids]

theorem linr_invoke (n : Nat) (x₁ tag : Ident) (ty : Ty) (a₁ : Ctx) (s₀ : Stmt) (A : List Nat)
    (Γ : Ctx) (M : Nat) (ys : List Nat)
    (h : WTA T S M (.invoke x₁ tag ty a₁) A Γ) (hn : NodupIds Γ)
    (hsub : ∀ i ∈ Γ.ids, i ∈ A) (hA : ∀ a ∈ A, a ≤ M) (hl : ys.length = Γ.length)
    (hr : Ren (ys.zip Γ.ids) s₀ (.invoke x₁ tag ty a₁)) :
    ∃ s' M', linearize (n + 1) (.invoke x₁ tag ty a₁) Γ M = .ok (s', M') ∧ M ≤ M' ∧
      LinRel T S ys Γ s₀ s' := by
  cases s₀ <;> simp only [Ren] at hr
  rename_i x₀ tag₀ ty₀ a₀
  obtain ⟨rx, rfl, rfl, ra⟩ := hr
  obtain ⟨q1, q2, q3⟩ := renArgs_pre hn hl a₀ a₁ ra
  simp only [WTA] at h
  obtain ⟨h1, ⟨sig, h2, h2'⟩, h3⟩ := h
  have hys : ∀ (Δ : Ctx), (Δ ++ [(⟨x₁, .cns, ty⟩ : Binding)]).ids.map (preId ys Γ) =
      Δ.ids.map (preId ys Γ) ++ [x₀.id] := by
    intro Δ
    rw [ids_map_append]
    simp [Ctx.ids, preId_of_mem_zip hn hl rx]
  simp only [linearize_invoke]
  split
  · rename_i e
    refine ⟨_, _, rfl, Nat.le_refl _, .invoke hn e ?_ q3 rfl h2 h2'⟩
    have := map_preId_ids (ys := ys) hn hl
    rw [congrArg Ctx.ids e, hys, q1] at this
    exact this.symm
  · have hargs : ∀ i ∈ a₁.ids, i ≤ M := fun i hi => hA i (hsub i (argsIn_ids h3 i hi))
    have hx : ∀ i ∈ [x₁.id], i ≤ M := by
      intro i hi; simp at hi; subst hi; exact hA _ (hsub _ h1.mem_ids)
    obtain ⟨f1, f2, f3, f4, f5, f6⟩ := freshen_spec M a₁ [x₁.id] M hargs hx (Nat.le_refl _)
    generalize freshen a₁ [x₁.id] M = r at *
    obtain ⟨f, M1⟩ := r
    refine ⟨_, _, rfl, f1, ?_⟩
    have hnew : NodupIds (f ++ [(⟨x₁, .cns, ty⟩ : Binding)]) :=
      nodupIds_append_singleton f4 (fun hm => f5 _ hm (by simp))
    refine linRel_rearrange hn hl (by simp [f2]) ?_ hnew ?_
    · intro p hp
      rw [List.zip_append (by simp [f2])] at hp
      rcases List.mem_append.1 hp with hp | hp
      · obtain ⟨e1, e2, _⟩ := f3 p hp
        rw [e1, e2]
        exact h3 p.1 (List.of_mem_zip hp).1
      · simp at hp; subst hp; exact h1
    · rw [hys, q1]
      refine .invoke hnew rfl rfl (by rw [q3, f2]) rfl h2 ?_
      rw [chiTys_eq_of_zip a₁ f f2 (fun p hp => ⟨(f3 p hp).1, (f3 p hp).2.1⟩)]; exact h2'

theorem linr_let (n : Nat) (ih : StmtGoalR T S n) (x : Ident) (ty : Ty) (tag : Ident) (a₁ : Ctx)
    (n₁ : Stmt) (fv : FV) (s₀ : Stmt) (A : List Nat) (Γ : Ctx) (M : Nat) (ys : List Nat)
    (hsz : (Stmt.letS x ty tag a₁ n₁ fv).size < n + 1)
    (h : WTA T S M (.letS x ty tag a₁ n₁ fv) A Γ) (hn : NodupIds Γ)
    (hsub : ∀ i ∈ Γ.ids, i ∈ A) (hA : ∀ a ∈ A, a ≤ M) (hl : ys.length = Γ.length)
    (hr : Ren (ys.zip Γ.ids) s₀ (.letS x ty tag a₁ n₁ fv)) :
    ∃ s' M', linearize (n + 1) (.letS x ty tag a₁ n₁ fv) Γ M = .ok (s', M') ∧ M ≤ M' ∧
      LinRel T S ys Γ s₀ s' := by
  cases s₀ <;> simp only [Ren] at hr
  rename_i x₀ ty₀ tag₀ a₀ n₀ fv₀
  obtain ⟨rfl, rfl, rfl, ra, r3, r4⟩ := hr
  obtain ⟨q1, q2, q3⟩ := renArgs_pre hn hl a₀ a₁ ra
  simp only [WTA] at h
  obtain ⟨⟨sig, hs, hs'⟩, hargs, h1, h2, Sn, rfl, h4, h5⟩ := h
  obtain ⟨p1, p2, p3, p4, p5⟩ := prep_next (xb := ⟨x, .prd, ty⟩) hn hsub hA h1 h2 h5
  have hsz' : n₁.size < n := by simp only [Stmt.size] at hsz; omega
  obtain ⟨c1, c2, c3⟩ := corr_next (ys := ys) (xb := ⟨x, .prd, ty⟩) hn hl hsub
    (fun _ hb => filterBySet_sub (S := Sn) hb) h1
  have hren := ren_restrict T S p1 r4 c1 c2 c3
  rw [dom_zip (by simpa [Ctx.ids] using hl)] at r3
  have hxnc : x.id ∉ (filterBySet Γ Sn).ids.map (preId ys Γ) :=
    fun hm => r3 (map_pre_sub hn hl (fun _ hb => filterBySet_sub hb) _ hm)
  simp only [linearize_let]
  split
  · rename_i e'
    obtain ⟨next', M', e, hle, ht⟩ := ih n₁ _ _ _ M _ hsz' p1 p2 p3 p4 (by simp [Ctx.ids]) hren
    simp only [e]
    refine ⟨_, _, rfl, hle, .letS hn e' ?_ (by simp [Ctx.ids]) rfl hs hs' p5 hxnc ht⟩
    have := map_preId_ids (ys := ys) hn hl
    rw [congrArg Ctx.ids e', ids_map_append, q1] at this
    exact this.symm
  · have hargsM : ∀ i ∈ a₁.ids, i ≤ M := fun i hi => hA i (hsub i (argsIn_ids hargs i hi))
    have hncM : ∀ i ∈ (filterBySet Γ Sn).ids, i ≤ M := fun i hi => hA i (filterBySet_ids_sub hsub i hi)
    obtain ⟨f1, f2, f3, f4, f5, f6⟩ :=
      freshen_spec M a₁ (filterBySet Γ Sn).ids M hargsM hncM (Nat.le_refl _)
    generalize freshen a₁ (filterBySet Γ Sn).ids M = r at *
    obtain ⟨args', M1⟩ := r
    simp only at f1 f2 f3 f4 f5 f6
    obtain ⟨next', M', e, hle, ht⟩ := ih n₁ _ _ _ M1 _ hsz' (WTA_mono T S f1 _ _ _ p1) p2 p3
      (fun a ha => Nat.le_trans (p4 a ha) f1) (by simp [Ctx.ids]) hren
    simp only [e]
    have hnew : NodupIds (filterBySet Γ Sn ++ args') :=
      nodupIds_append (filterBySet_nodup hn) f4 (fun i hi => f5 i hi)
    refine ⟨_, _, rfl, Nat.le_trans f1 hle, ?_⟩
    refine linRel_rearrange hn hl (by simp [f2]) ?_ hnew ?_
    · intro p hp
      rw [List.zip_append rfl] at hp
      rcases List.mem_append.1 hp with hp | hp
      · obtain ⟨e0, hm⟩ := mem_zip_self _ p hp
        rw [← e0]
        exact hasVar_of_mem (filterBySet_sub hm)
      · obtain ⟨e1, e2, _⟩ := f3 p hp
        rw [e1, e2]
        exact hargs p.1 (List.of_mem_zip hp).1
    · rw [ids_map_append, q1]
      refine .letS hnew rfl rfl (by simp [Ctx.ids]) rfl hs ?_ p5 hxnc ht
      rw [chiTys_eq_of_zip a₁ args' f2 (fun p hp => ⟨(f3 p hp).1, (f3 p hp).2.1⟩)]; exact hs'

/-- correspondence for a clause body: parameters are inserted between `pre` and `post` -/
theorem corr_clause {ysPre ysPost : List Nat} {pre post ctx : Ctx} {A : List Nat}
    (hl1 : ysPre.length = pre.length) (hl2 : ysPost.length = post.length)
    (hsubA : ∀ i ∈ (pre ++ post).ids, i ∈ A) :
    (∀ y z, (y, z) ∈ (ysPre ++ ysPost).zip (pre ++ post).ids ++ diag ctx.ids →
        z ∈ (pre ++ ctx ++ post).ids →
        (y, z) ∈ (ysPre ++ ctx.ids ++ ysPost).zip (pre ++ ctx ++ post).ids) ∧
    (∀ y ∈ Corr.dom ((ysPre ++ ctx.ids ++ ysPost).zip (pre ++ ctx ++ post).ids),
        y ∈ Corr.dom ((ysPre ++ ysPost).zip (pre ++ post).ids ++ diag ctx.ids)) ∧
    (∀ p ∈ (ysPre ++ ysPost).zip (pre ++ post).ids ++ diag ctx.ids, p.2 ∈ A ++ ctx.ids) := by
  have e1 : (ysPre ++ ysPost).zip (pre ++ post).ids =
      ysPre.zip pre.ids ++ ysPost.zip post.ids := by
    rw [ids_append, List.zip_append (by simpa [Ctx.ids] using hl1)]
  have e2 : (ysPre ++ ctx.ids ++ ysPost).zip (pre ++ ctx ++ post).ids =
      ysPre.zip pre.ids ++ diag ctx.ids ++ ysPost.zip post.ids := by
    rw [ids_append, ids_append, List.zip_append (by simp [Ctx.ids, hl1]),
      List.zip_append (by simpa [Ctx.ids] using hl1), zip_self_eq_diag]
  refine ⟨?_, ?_, ?_⟩
  · intro y z hm _
    rw [e2]
    rw [e1] at hm
    simp only [List.mem_append] at hm ⊢
    rcases hm with (hm | hm) | hm
    · exact Or.inl (Or.inl hm)
    · exact Or.inr hm
    · exact Or.inl (Or.inr hm)
  · intro y hy
    rw [dom_zip (by simp [Ctx.ids, hl1, hl2])] at hy
    rw [dom_append, dom_zip (by simp [Ctx.ids, hl1, hl2]), dom_diag]
    simp only [List.mem_append] at hy ⊢
    rcases hy with (hy | hy) | hy
    · exact Or.inl (Or.inl hy)
    · exact Or.inr hy
    · exact Or.inl (Or.inr hy)
  · intro q hq
    rcases List.mem_append.1 hq with hq | hq
    · exact List.mem_append_left _ (hsubA _ (snd_mem_zip hq))
    · obtain ⟨hy, e⟩ := mem_diag.1 (show (q.1, q.2) ∈ diag ctx.ids from hq)
      rw [e]; exact List.mem_append_right _ hy

theorem linr_clauses (n : Nat) (ihs : StmtGoalR T S n) (ihc : ClausesGoalR T S n) :
    ClausesGoalR T S (n + 1) := by
  intro cs₁ cs₀ A pre post M ysPre ysPost hsz h hn hsub hA hl1 hl2 hr
  cases cs₁ with
  | nil =>
    cases cs₀ <;> simp only [RenClauses] at hr
    exact ⟨.nil, M, by simp only [linearizeClauses_nil], Nat.le_refl _, .nil, fun xs => Iff.rfl⟩
  | cons x ctx body rest =>
    cases cs₀ <;> simp only [RenClauses] at hr
    rename_i x₀ ctx₀ body₀ rest₀
    obtain ⟨rfl, rfl, r3, r4, r5⟩ := hr
    simp only [WTAClauses] at h
    obtain ⟨h1, h2, h3, h4⟩ := h
    have hszb : body.size < n := by simp only [Clauses.size] at hsz; omega
    have hszr : rest.size < n := by simp only [Clauses.size] at hsz; omega
    have hnb : NodupIds (pre ++ ctx ++ post) :=
      nodupIds_insert hn h1 (fun i hi hm => (h2 i hi).1 (hsub i hm))
    have hsubb : ∀ i ∈ (pre ++ ctx ++ post).ids, i ∈ A ++ ctx.ids := by
      intro i hi
      simp only [ids_append, List.mem_append] at hi hsub ⊢
      rcases hi with (hi | hi) | hi
      · exact Or.inl (hsub i (Or.inl hi))
      · exact Or.inr hi
      · exact Or.inl (hsub i (Or.inr hi))
    have hAb : ∀ a ∈ A ++ ctx.ids, a ≤ M := by
      intro a ha
      rcases List.mem_append.1 ha with ha | ha
      · exact hA a ha
      · exact (h2 a ha).2
    obtain ⟨c1, c2, c3⟩ := corr_clause (ctx := ctx) hl1 hl2 hsub
    have hren := ren_restrict T S h3 r4 c1 c2 c3
    obtain ⟨body', M1, e1, hle1, ht⟩ := ihs body _ _ _ M (ysPre ++ ctx.ids ++ ysPost) hszb h3 hnb
      hsubb hAb (by simp [Ctx.ids, hl1, hl2]) hren
    obtain ⟨rest', M2, e2, hle2, htr, hm⟩ := ihc rest _ A pre post M1 ysPre ysPost hszr
      (WTAClauses_mono T S hle1 _ _ _ _ h4) hn hsub (fun a ha => Nat.le_trans (hA a ha) hle1)
      hl1 hl2 r5
    simp only [linearizeClauses_cons, e1, e2]
    rw [dom_zip (by simp [Ctx.ids, hl1, hl2])] at r3
    refine ⟨_, _, rfl, Nat.le_trans hle1 hle2, .cons h1 ?_ ht htr, ?_⟩
    · intro i hi
      have := r3 i hi
      simp only [List.mem_append, not_or] at this
      exact this
    · intro xs
      cases xs with
      | nil => simp [ClausesMatch]
      | cons y ys => simp only [ClausesMatch, hm ys]

theorem linr_switch (n : Nat) (ihc : ClausesGoalR T S n) (x₁ : Ident) (ty : Ty) (cs₁ : Clauses)
    (fv : FV) (s₀ : Stmt) (A : List Nat) (Γ : Ctx) (M : Nat) (ys : List Nat)
    (hsz : (Stmt.switch x₁ ty cs₁ fv).size < n + 1)
    (h : WTA T S M (.switch x₁ ty cs₁ fv) A Γ) (hn : NodupIds Γ)
    (hsub : ∀ i ∈ Γ.ids, i ∈ A) (hA : ∀ a ∈ A, a ≤ M) (hl : ys.length = Γ.length)
    (hr : Ren (ys.zip Γ.ids) s₀ (.switch x₁ ty cs₁ fv)) :
    ∃ s' M', linearize (n + 1) (.switch x₁ ty cs₁ fv) Γ M = .ok (s', M') ∧ M ≤ M' ∧
      LinRel T S ys Γ s₀ s' := by
  cases s₀ <;> simp only [Ren] at hr
  rename_i x₀ ty₀ cs₀ fv₀
  obtain ⟨rx, rfl, rc⟩ := hr
  simp only [WTA] at h
  obtain ⟨hx, ⟨d, hd, hm⟩, Sc, rfl, h4, h5⟩ := h
  have hsz' : cs₁.size < n := by simp only [Stmt.size] at hsz; omega
  have hnc := filterBySet_nodup (S := Sc) hn
  have hwc := WTAClauses_congr T S M cs₁ A _ _ _ _ (keysEq_filterBySet Γ Sc).symm (KeysEq.refl [])
    h5
  obtain ⟨c1, c2, c3⟩ := corr_restrict (ys := ys) hn hl hsub (fun _ hb => filterBySet_sub (S := Sc) hb)
  have hrc : RenClauses (((filterBySet Γ Sc).ids.map (preId ys Γ) ++ []).zip
      (filterBySet Γ Sc ++ []).ids) cs₀ cs₁ := by
    simp only [List.append_nil]
    exact renClauses_restrict T S hwc rc (by simpa using c1) c2 c3
  obtain ⟨cs', M1, e, hle, htc, hmc⟩ := ihc cs₁ cs₀ A (filterBySet Γ Sc) [] M
    ((filterBySet Γ Sc).ids.map (preId ys Γ)) [] hsz' hwc
    (by simpa using hnc) (by simpa using filterBySet_ids_sub (S := Sc) hsub) hA
    (by simp [Ctx.ids]) rfl hrc
  have hys : ∀ (Δ : Ctx) (x' : Ident), (Δ ++ [(⟨x', .prd, ty⟩ : Binding)]).ids.map (preId ys Γ) =
      Δ.ids.map (preId ys Γ) ++ [preId ys Γ x'.id] := by
    intro Δ x'; rw [ids_map_append]; simp [Ctx.ids]
  have hpx : preId ys Γ x₁.id = x₀.id := preId_of_mem_zip hn hl rx
  simp only [linearize_switch, e]
  split
  · rename_i e'
    refine ⟨_, _, rfl, hle, .switch hn e' ?_ (by simp [Ctx.ids]) rfl hd ((hmc _).2 hm) htc⟩
    have := map_preId_ids (ys := ys) hn hl
    rw [congrArg Ctx.ids e', hys, hpx] at this
    exact this.symm
  · have hp : ∀ (x' : Ident), ∀ p ∈ (filterBySet Γ Sc ++ [(⟨x₁, .prd, ty⟩ : Binding)]).zip
        (filterBySet Γ Sc ++ [(⟨x', .prd, ty⟩ : Binding)]), HasVar Γ p.1.var.id p.2.chi p.2.ty := by
      intro x' p hp
      rw [List.zip_append rfl] at hp
      rcases List.mem_append.1 hp with hp | hp
      · obtain ⟨e0, hm⟩ := mem_zip_self _ p hp
        rw [← e0]
        exact hasVar_of_mem (filterBySet_sub hm)
      · simp at hp; subst hp; exact hx
    by_cases hc : (filterBySet Γ Sc).ids.contains x₁.id = true
    · rw [if_pos hc]
      have hnew : NodupIds (filterBySet Γ Sc ++ [(⟨⟨x₁.name, M1 + 1⟩, .prd, ty⟩ : Binding)]) := by
        apply nodupIds_append_singleton hnc
        intro hmem
        have := hA _ (filterBySet_ids_sub hsub _ hmem)
        simp only at this
        omega
      refine ⟨_, _, rfl, by simp only [freshIdentifier]; omega, ?_⟩
      refine linRel_rearrange hn hl (by simp) (hp _) hnew ?_
      rw [hys, hpx]
      exact .switch hnew rfl rfl (by simp [Ctx.ids]) rfl hd ((hmc _).2 hm) htc
    · rw [if_neg hc]
      have hnew : NodupIds (filterBySet Γ Sc ++ [(⟨x₁, .prd, ty⟩ : Binding)]) := by
        apply nodupIds_append_singleton hnc
        intro hmem
        exact hc (by simpa using hmem)
      refine ⟨_, _, rfl, hle, ?_⟩
      refine linRel_rearrange hn hl (by simp) (hp _) hnew ?_
      rw [hys, hpx]
      exact .switch hnew rfl rfl (by simp [Ctx.ids]) rfl hd ((hmc _).2 hm) htc

theorem linr_create (n : Nat) (ih : StmtGoalR T S n) (ihc : ClausesGoalR T S n) (x : Ident) (ty : Ty)
    (env : Option Ctx) (cs₁ : Clauses) (n₁ : Stmt) (fc fn : FV) (s₀ : Stmt) (A : List Nat)
    (Γ : Ctx) (M : Nat) (ys : List Nat)
    (hsz : (Stmt.create x ty env cs₁ n₁ fc fn).size < n + 1)
    (h : WTA T S M (.create x ty env cs₁ n₁ fc fn) A Γ) (hn : NodupIds Γ)
    (hsub : ∀ i ∈ Γ.ids, i ∈ A) (hA : ∀ a ∈ A, a ≤ M) (hl : ys.length = Γ.length)
    (hr : Ren (ys.zip Γ.ids) s₀ (.create x ty env cs₁ n₁ fc fn)) :
    ∃ s' M', linearize (n + 1) (.create x ty env cs₁ n₁ fc fn) Γ M = .ok (s', M') ∧ M ≤ M' ∧
      LinRel T S ys Γ s₀ s' := by
  cases s₀ <;> simp only [Ren] at hr
  rename_i x₀ ty₀ env₀ cs₀ n₀ fc₀ fn₀
  obtain ⟨rfl, rfl, rfl, rc, r3, r4⟩ := hr
  simp only [WTA] at h
  obtain ⟨⟨d, hd, hm⟩, h1, h2, Sc, Sn, rfl, rfl, h6, h7, h8, h9⟩ := h
  obtain ⟨p1, p2, p3, p4, p5⟩ := prep_next (xb := ⟨x, .cns, ty⟩) hn hsub hA h1 h2 h9
  have hszc : cs₁.size < n := by simp only [Stmt.size] at hsz; omega
  have hszn : n₁.size < n := by simp only [Stmt.size] at hsz; omega
  have hperm := reorder_perm Γ (filterBySet Γ Sn).length
  generalize hre : Γ.drop (filterBySet Γ Sn).length ++ Γ.take (filterBySet Γ Sn).length = reord at *
  have hnre : NodupIds reord := by
    unfold NodupIds Ctx.ids; rw [(hperm.map _).nodup_iff]; exact hn
  have hncc : NodupIds (filterBySet reord Sc) := filterBySet_nodup hnre
  have hkcc : KeysEq (filterBySet reord Sc) (Γ.filter (inSet Sc)) :=
    (keysEq_filterBySet reord Sc).trans (KeysEq.of_perm (hperm.filter _))
  have hccΓ : ∀ b ∈ filterBySet reord Sc, b ∈ Γ := fun b hb => hperm.mem_iff.1 (filterBySet_sub hb)
  have hccA : ∀ i ∈ (filterBySet reord Sc).ids, i ∈ A := by
    intro i hi
    obtain ⟨b, hb, rfl⟩ := List.mem_map.1 hi
    exact hsub _ (List.mem_map.2 ⟨b, hccΓ b hb, rfl⟩)
  have hwc := WTAClauses_congr T S M cs₁ A _ _ _ _ (KeysEq.refl []) hkcc.symm h8
  obtain ⟨c1, c2, c3⟩ := corr_restrict (ys := ys) hn hl hsub hccΓ
  have hrc : RenClauses (([] ++ (filterBySet reord Sc).ids.map (preId ys Γ)).zip
      (Ctx.ids ([] ++ filterBySet reord Sc))) cs₀ cs₁ := by
    simp only [List.nil_append]
    exact renClauses_restrict T S hwc rc (by simpa using c1) c2 c3
  obtain ⟨cs', M1, e, hle1, htc, hmc⟩ := ihc cs₁ cs₀ A [] (filterBySet reord Sc) M []
    ((filterBySet reord Sc).ids.map (preId ys Γ)) hszc hwc
    (by simpa using hncc) (by simpa using hccA) hA rfl (by simp [Ctx.ids]) hrc
  have hA1 : ∀ a ∈ A ++ [x.id], a ≤ M1 := fun a ha => Nat.le_trans (p4 a ha) hle1
  rw [dom_zip (by simpa [Ctx.ids] using hl)] at r3
  have hxcn : x.id ∉ (filterBySet Γ Sn).ids.map (preId ys Γ) :=
    fun hm => r3 (map_pre_sub hn hl (fun _ hb => filterBySet_sub hb) _ hm)
  simp only [linearize_create, hre, e]
  split
  · rename_i e'
    obtain ⟨c1', c2', c3'⟩ := corr_next (ys := ys) (xb := ⟨x, .cns, ty⟩) hn hl hsub
      (fun _ hb => filterBySet_sub (S := Sn) hb) h1
    have hren := ren_restrict T S p1 r4 c1' c2' c3'
    obtain ⟨next', M2, e2, hle2, ht⟩ := ih n₁ _ _ _ M1 _ hszn (WTA_mono T S hle1 _ _ _ p1) p2 p3 hA1
      (by simp [Ctx.ids]) hren
    simp only [e2]
    refine ⟨_, _, rfl, Nat.le_trans hle1 hle2,
      .create hn e' ?_ (by simp [Ctx.ids]) rfl hd ((hmc _).2 hm) htc p5 hxcn ht⟩
    have := map_preId_ids (ys := ys) hn hl
    rw [congrArg Ctx.ids e', ids_map_append] at this
    exact this.symm
  · have hcnM : ∀ i ∈ (filterBySet Γ Sn).ids, i ≤ M1 :=
      fun i hi => Nat.le_trans (hA i (filterBySet_ids_sub hsub i hi)) hle1
    have hccM : ∀ i ∈ (filterBySet reord Sc).ids, i ≤ M1 :=
      fun i hi => Nat.le_trans (hA i (hccA i hi)) hle1
    have hncn := filterBySet_nodup (S := Sn) hn
    have g := goodSubst_of_freshen (Γ := filterBySet Γ Sn) (C := (filterBySet reord Sc).ids)
      (A := A) (M := M1) hcnM hccM (filterBySet_ids_sub hsub)
    obtain ⟨f1, f2, f3, f4, f5, f6⟩ :=
      freshen_spec M1 (filterBySet Γ Sn) (filterBySet reord Sc).ids M1 hcnM hccM (Nat.le_refl _)
    generalize freshen (filterBySet Γ Sn) (filterBySet reord Sc).ids M1 = r at *
    obtain ⟨cnf, M2⟩ := r
    simp only at f1 f2 f3 f4 f5 f6 g
    have hcn : substCtx ((filterBySet Γ Sn).ids.zip cnf.vars) (filterBySet Γ Sn) = cnf :=
      substCtx_zip_eq _ _ hncn f2 (fun p hp => ⟨(f3 p hp).1, (f3 p hp).2.1⟩)
    have hctx : substCtx ((filterBySet Γ Sn).ids.zip cnf.vars)
        (filterBySet Γ Sn ++ [(⟨x, .cns, ty⟩ : Binding)]) = cnf ++ [⟨x, .cns, ty⟩] := by
      rw [substCtx_append, hcn, substCtx_fix g (by simp [Ctx.ids]; exact h1)]
    have hcnfids : cnf.ids = (filterBySet Γ Sn).ids.map
        (substId ((filterBySet Γ Sn).ids.zip cnf.vars)) := by
      rw [← substCtx_ids, hcn]
    have hren0 := WTA_rename T S ((filterBySet Γ Sn).ids.zip cnf.vars) n₁ (A ++ [x.id]) _
      (g.mono (fun a ha => List.mem_append_left _ ha)) hA1
      (fun i hi => hA1 i (p3 i hi)) (WTA_mono T S hle1 _ _ _ p1)
    rw [hctx] at hren0
    have hxcnf : x.id ∉ cnf.ids := by
      intro hmem
      rcases f6 _ hmem with h' | h'
      · exact p5 h'
      · omega
    have hnd2 : NodupIds (cnf ++ [(⟨x, .cns, ty⟩ : Binding)]) := nodupIds_append_singleton f4 hxcnf
    have hsub2 : ∀ i ∈ (cnf ++ [(⟨x, .cns, ty⟩ : Binding)]).ids,
        i ∈ (A ++ [x.id]).map (substId ((filterBySet Γ Sn).ids.zip cnf.vars)) := by
      intro i hi
      rw [← hctx, substCtx_ids] at hi
      obtain ⟨j, hj, rfl⟩ := List.mem_map.1 hi
      exact List.mem_map.2 ⟨j, p3 j hj, rfl⟩
    have hA2 : ∀ a ∈ (A ++ [x.id]).map (substId ((filterBySet Γ Sn).ids.zip cnf.vars)), a ≤ M2 := by
      intro a ha
      obtain ⟨j, hj, rfl⟩ := List.mem_map.1 ha
      exact g.bound j (hA1 j hj)
    -- the correspondence of the renamed continuation
    have hzz : ((filterBySet Γ Sn).ids.map (preId ys Γ) ++ [x.id]).zip
        (Ctx.ids (cnf ++ [(⟨x, .cns, ty⟩ : Binding)])) =
        ((filterBySet Γ Sn).ids.map (preId ys Γ)).zip cnf.ids ++ [(x.id, x.id)] := by
      rw [ids_append, List.zip_append (by simp [Ctx.ids, f2])]; simp [Ctx.ids]
    have hcs : CorrStep ((filterBySet Γ Sn).ids.zip cnf.vars) (ys.zip Γ.ids ++ [(x.id, x.id)])
        (((filterBySet Γ Sn).ids.map (preId ys Γ) ++ [x.id]).zip
          (Ctx.ids (cnf ++ [(⟨x, .cns, ty⟩ : Binding)])))
        (A ++ [x.id]) (filterBySet Γ Sn ++ [⟨x, .cns, ty⟩]) := by
      refine ⟨?_, ?_, ?_⟩
      · intro y z hm' hzm
        rw [hzz]
        rcases List.mem_append.1 hm' with hm' | hm'
        · have hzA : z ∈ A := hsub z (snd_mem_zip hm')
          rcases mem_ids_append_singleton.1 hzm with hzm | hzm
          · have := preId_of_mem_zip hn hl hm'
            rw [← this, hcnfids]
            exact List.mem_append_left _ (mem_zip_map_map _ _ _ z hzm)
          · exact absurd (hzm ▸ hzA) h1
        · simp only [List.mem_singleton, Prod.mk.injEq] at hm'
          obtain ⟨rfl, rfl⟩ := hm'
          rw [g.fixId h1]; simp
      · intro y hy
        rw [dom_zip (by simp [ids_append, Ctx.ids, f2])] at hy
        rw [dom_append, dom_zip (by simpa [Ctx.ids] using hl)]
        rcases List.mem_append.1 hy with hy | hy
        · exact List.mem_append_left _ (map_pre_sub hn hl (fun _ hb => filterBySet_sub hb) y hy)
        · exact List.mem_append_right _ (by simpa [Corr.dom] using hy)
      · intro q hq
        rcases List.mem_append.1 hq with hq | hq
        · exact List.mem_append_left _ (hsub _ (snd_mem_zip hq))
        · simp at hq; subst hq; simp
    have hren := ren_subst T S ((filterBySet Γ Sn).ids.zip cnf.vars) n₁ n₀ _ _ _ _
      (g.mono (fun a ha => List.mem_append_left _ ha)) (WTA_mono T S hle1 _ _ _ p1) r4 hcs
    obtain ⟨next', M3, e3, hle3, ht⟩ := ih _ n₀ _ _ M2
      ((filterBySet Γ Sn).ids.map (preId ys Γ) ++ [x.id])
      (by rw [size_substStmt]; exact hszn) hren0 hnd2 hsub2 hA2 (by simp [Ctx.ids, f2]) hren
    simp only [e3]
    have hnew : NodupIds (cnf ++ filterBySet reord Sc) :=
      nodupIds_append f4 hncc (fun i hi hi' => f5 i hi' hi)
    refine ⟨_, _, rfl, Nat.le_trans hle1 (Nat.le_trans f1 hle3), ?_⟩
    refine linRel_rearrange hn hl (by simp [f2]) ?_ hnew ?_
    · intro p hp
      rw [List.zip_append f2.symm] at hp
      rcases List.mem_append.1 hp with hp | hp
      · obtain ⟨e1, e2, _⟩ := f3 p hp
        rw [e1, e2]
        exact hasVar_of_mem (filterBySet_sub (List.of_mem_zip hp).1)
      · obtain ⟨e0, hm'⟩ := mem_zip_self _ p hp
        rw [← e0]
        exact hasVar_of_mem (hccΓ _ hm')
    · rw [ids_map_append]
      exact .create hnew rfl rfl (by simp [Ctx.ids, f2]) rfl hd ((hmc _).2 hm) htc hxcnf hxcn ht

end build

/-- T4-B, statement level: the output of `linearize` is a linearization of the original statement -/
theorem linearize_linRel (T : List TypeDecl) (S : Sigs) :
    ∀ n, StmtGoalR T S n ∧ ClausesGoalR T S n := by
  intro n
  induction n with
  | zero =>
    exact ⟨fun s₁ s₀ A Γ M ys h => absurd h (Nat.not_lt_zero _),
      fun cs₁ cs₀ A pre post M y1 y2 h => absurd h (Nat.not_lt_zero _)⟩
  | succ n ih =>
    obtain ⟨ihs, ihc⟩ := ih
    refine ⟨?_, linr_clauses n ihs ihc⟩
    intro s₁ s₀ A Γ M ys hsz h hn hsub hA hl hr
    cases s₁ with
    | subst pairs next => simp [WTA] at h
    | call l args => exact linr_call n l args s₀ A Γ M ys h hn hsub hA hl hr
    | letS x ty tag args next fv =>
      exact linr_let n ihs x ty tag args next fv s₀ A Γ M ys hsz h hn hsub hA hl hr
    | switch x ty cs fv => exact linr_switch n ihc x ty cs fv s₀ A Γ M ys hsz h hn hsub hA hl hr
    | create x ty env cs next fc fn =>
      exact linr_create n ihs ihc x ty env cs next fc fn s₀ A Γ M ys hsz h hn hsub hA hl hr
    | invoke x tag ty args => exact linr_invoke n x tag ty args s₀ A Γ M ys h hn hsub hA hl hr
    | lit x k next fv => exact linr_lit n ihs x k next fv s₀ A Γ M ys hsz h hn hsub hA hl hr
    | op x a o b next fv => exact linr_op n ihs x a o b next fv s₀ A Γ M ys hsz h hn hsub hA hl hr
    | print nl a next fv => exact linr_print n ihs nl a next fv s₀ A Γ M ys hsz h hn hsub hA hl hr
    | ifc s a b t e => exact linr_ifc n ihs s a b t e s₀ A Γ M ys hsz h hn hsub hA hl hr
    | exit x => exact linr_exit n x s₀ A Γ M ys h hn hl hr

theorem idCorr_diag (Γ : Ctx) : IdCorr (Γ.ids.zip Γ.ids) Γ := by
  rw [zip_self_eq_diag]
  exact ⟨fun y hy => mem_diag.2 ⟨hy, rfl⟩, fun y hy => by rwa [dom_diag] at hy⟩

theorem linearizeDef_linRel (T : List TypeDecl) (S : Sigs) (d : Def) (M0 M : Nat)
    (hn : NodupIds d.ctx) (hM : ∀ i ∈ d.ctx.ids, i ≤ M0) (hwt : WT T S M0 d.body d.ctx) (hle : M0 ≤ M) :
    ∃ d' M', linearizeDef d M = .ok (d', M') ∧ M ≤ M' ∧ d'.name = d.name ∧ d'.ctx = d.ctx ∧
      LinRel T S d.ctx.ids d.ctx (eraseEnv d.body) d'.body := by
  have hfv := fv_sub T S M0 d.body d.ctx hwt
  have hwta := freeVars_WTA T S M0 d.body d.ctx hwt hn hM d.ctx (fun _ _ _ h => h) hfv
  have hwta' := WTA_mono T S hle _ _ _ hwta
  have hren := ren_freeVars_erase T S M0 d.body d.ctx _ hwt (idCorr_diag d.ctx)
  obtain ⟨body', M', e, hle', ht⟩ := (linearize_linRel T S ((freeVars d.body).1.size + 1)).1
    (freeVars d.body).1 (eraseEnv d.body) d.ctx.ids d.ctx M d.ctx.ids (Nat.lt_succ_self _) hwta' hn
    (fun i hi => hi) (fun a ha => Nat.le_trans (hM a ha) hle) (by simp [Ctx.ids]) hren
  refine ⟨{ d with body := body' }, M', ?_, hle', rfl, rfl, ht⟩
  simp only [linearizeDef, e]

/-- `linearizeDef` succeeds on a well-typed definition, and the body of its output is ordered-linearly typed (C05 (a), (b)
    for one definition; through `LinRel.toTyped`) -/
theorem linearizeDef_ok (T : List TypeDecl) (S : Sigs) (d : Def) (M0 M : Nat)
    (hn : NodupIds d.ctx) (hM : ∀ i ∈ d.ctx.ids, i ≤ M0) (hwt : WT T S M0 d.body d.ctx)
    (hle : M0 ≤ M) :
    ∃ d' M', linearizeDef d M = .ok (d', M') ∧ M ≤ M' ∧ d'.name = d.name ∧ d'.ctx = d.ctx ∧
      LinTyped T S d.ctx d'.body := by
  obtain ⟨d', M', e, hle', hnm, hc, ht⟩ := linearizeDef_linRel T S d M0 M hn hM hwt hle
  exact ⟨d', M', e, hle', hnm, hc, ht.toTyped⟩

theorem linearizeDefs_linRel (T : List TypeDecl) (S : Sigs) (M0 : Nat) :
    ∀ (ds : List Def) (M : Nat), M0 ≤ M →
      (∀ d ∈ ds, NodupIds d.ctx ∧ (∀ i ∈ d.ctx.ids, i ≤ M0) ∧ WT T S M0 d.body d.ctx) →
      (∀ d ∈ ds, noEnvAnn d.body = true) →
      ∃ ds' M', linearizeDefs ds M = .ok (ds', M') ∧ LinRelDefs T S ds ds' := by
  intro ds
  induction ds with
  | nil => intro M _ _ _; exact ⟨[], M, rfl, trivial⟩
  | cons d ds ih =>
    intro M hle h hne
    obtain ⟨hn, hM, hwt⟩ := h d (by simp)
    obtain ⟨d', M1, e1, hle1, en, ec, ht⟩ := linearizeDef_linRel T S d M0 M hn hM hwt hle
    rw [eraseEnv_eq _ (hne d (by simp))] at ht
    obtain ⟨ds', M2, e2, hts⟩ := ih M1 (Nat.le_trans hle hle1)
      (fun d0 hd0 => h d0 (List.mem_cons_of_mem _ hd0))
      (fun d0 hd0 => hne d0 (List.mem_cons_of_mem _ hd0))
    exact ⟨d' :: ds', M2, by simp only [linearizeDefs, e1, e2], ⟨en, ec, hn, ht⟩, hts⟩

theorem linearizeDefs_ok (T : List TypeDecl) (S : Sigs) (M0 : Nat) :
    ∀ (ds : List Def) (M : Nat), M0 ≤ M →
      (∀ d ∈ ds, NodupIds d.ctx ∧ (∀ i ∈ d.ctx.ids, i ≤ M0) ∧ WT T S M0 d.body d.ctx) →
      ∃ ds' M', linearizeDefs ds M = .ok (ds', M') ∧ M ≤ M' ∧
        ds'.map (fun d => (d.name, d.ctx)) = ds.map (fun d => (d.name, d.ctx)) ∧
        ∀ d' ∈ ds', LinTyped T S d'.ctx d'.body := by
  intro ds
  induction ds with
  | nil => intro M _ _; exact ⟨[], M, rfl, Nat.le_refl _, rfl, fun _ h => by cases h⟩
  | cons d ds ih =>
    intro M hle h
    obtain ⟨hn, hM, hwt⟩ := h d (by simp)
    obtain ⟨d', M1, e1, hle1, en, ec, ht⟩ := linearizeDef_ok T S d M0 M hn hM hwt hle
    obtain ⟨ds', M2, e2, hle2, es, hts⟩ := ih M1 (Nat.le_trans hle hle1)
      (fun d0 hd0 => h d0 (List.mem_cons_of_mem _ hd0))
    refine ⟨d' :: ds', M2, by simp only [linearizeDefs, e1, e2], Nat.le_trans hle1 hle2, ?_, ?_⟩
    · simp only [List.map_cons, en, ec, es]
    · intro d0 hd0
      rcases List.mem_cons.1 hd0 with rfl | hd0
      · rw [ec]; exact ht
      · exact hts d0 hd0

/-- T3 (C05 a, b): linearization of a well-formed non-linear program succeeds and every definition
of the result is ordered-linearly typed under its parameter list. -/
theorem linearizeProg_LinTyped (p : Prog) (h : WfNonLinear p) :
    ∃ p', linearizeProg p = .ok p' ∧ LinTypedProg p' ∧ p'.types = p.types ∧ p'.sigs = p.sigs ∧
      p.maxId ≤ p'.maxId := by
  obtain ⟨ds', M', e, hle, es, hts⟩ :=
    linearizeDefs_ok p.types p.sigs p.maxId p.defs p.maxId (Nat.le_refl _) h
  refine ⟨{ p with defs := ds', maxId := M' }, by simp only [linearizeProg, e], ?_, rfl, ?_, hle⟩
  · intro d hd
    have : ({ p with defs := ds', maxId := M' } : Prog).sigs = p.sigs := by
      simp only [Prog.sigs]; exact es
    rw [this]
    exact hts d hd
  · simp only [Prog.sigs]; exact es

/-- T4, part B: the output of the linearizer is a linearization of its input -/
theorem linearizeProg_linRel (p p' : Prog) (h : WfNonLinear p) (hne : noEnvAnnProg p = true)
    (hlin : linearizeProg p = .ok p') : LinRelProg p p' := by
  have hne' : ∀ d ∈ p.defs, noEnvAnn d.body = true := by
    simpa [noEnvAnnProg] using hne
  obtain ⟨ds', M', e, hds⟩ :=
    linearizeDefs_linRel p.types p.sigs p.maxId p.defs p.maxId (Nat.le_refl _) h hne'
  obtain ⟨p'', e', _, ht, hs, _⟩ := linearizeProg_LinTyped p h
  rw [hlin] at e'
  injection e' with e'
  subst e'
  refine ⟨ht, hs, ?_⟩
  simp only [linearizeProg, e] at hlin
  injection hlin with hlin
  rw [← hlin]
  exact hds

end Scc.AxCut
