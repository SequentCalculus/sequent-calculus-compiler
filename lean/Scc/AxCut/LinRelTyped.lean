/-
  Scc.AxCut.LinRelTyped — what `LinRel` says when its named side is forgotten: a linearization is linearly
  typed (`LinRel.toTyped`).  In `call` and `invoke` the rules of `LinRel` leave the argument list of the output
  open: the positional machine passes the whole context and does not read it (`Pos.Next.call`, `.invoke`).
  The rule for `create` asks the named side to carry no environment annotation; `noEnvAnn` / `noEnvAnnProg` are
  the executable check of that.
-/
import Scc.AxCut.LinRel

namespace Scc.AxCut

mutual
  /-- no `create` of the statement carries an environment annotation (true of every S4 dump) -/
  def noEnvAnn : Stmt → Bool
    | .subst _ n => noEnvAnn n
    | .call _ _ => true
    | .letS _ _ _ _ n _ => noEnvAnn n
    | .switch _ _ cs _ => noEnvAnnClauses cs
    | .create _ _ env cs n _ _ => env.isNone && noEnvAnnClauses cs && noEnvAnn n
    | .invoke _ _ _ _ => true
    | .lit _ _ n _ => noEnvAnn n
    | .op _ _ _ _ n _ => noEnvAnn n
    | .print _ _ n _ => noEnvAnn n
    | .ifc _ _ _ t e => noEnvAnn t && noEnvAnn e
    | .exit _ => true
  def noEnvAnnClauses : Clauses → Bool
    | .nil => true
    | .cons _ _ b r => noEnvAnn b && noEnvAnnClauses r
end

/-- no `create` of the program carries an environment annotation (true of every S4 dump: the
annotation is written by the linearizer) -/
def noEnvAnnProg (p : Prog) : Bool := p.defs.all fun d => noEnvAnn d.body

/-! ## forgetting the named side: `LinRel` refines `LinTyped` -/

theorem Occ.hasVar {ys : List Nat} {Γ : Ctx} {y z : Nat} {chi : Chi} {ty : Ty} (h : Occ ys Γ y z chi ty) :
    HasVar Γ z chi ty := by
  obtain ⟨i, b, _, hb, h1, h2, h3⟩ := h
  exact ⟨b, List.mem_of_getElem? hb, h1, h2, h3⟩

theorem Rearr.hasVar {ys : List Nat} {Γ : Ctx} : ∀ {ys₁ : List Nat} {pairs : List (Binding × Ident)},
    Rearr ys Γ ys₁ pairs → ∀ p ∈ pairs, HasVar Γ p.2.id p.1.chi p.1.ty
  | [], [], _, p, hp => by simp at hp
  | _ :: _, q :: _, h, p, hp => by
    rcases List.mem_cons.mp hp with rfl | hp
    · exact h.1.hasVar
    · exact Rearr.hasVar h.2 p hp
  | [], _ :: _, h, _, _ => h.elim
  | _ :: _, [], h, _, _ => h.elim

mutual
  theorem LinRel.toTyped {T : List TypeDecl} {S : Sigs} :
      ∀ {ys : List Nat} {Γ : Ctx} {s₀ s' : Stmt}, LinRel T S ys Γ s₀ s' → LinTyped T S Γ s'
    | _, _, _, _, .subst hn _ hr hp h => .subst hn (Rearr.hasVar hr) hp h.toTyped
    | _, _, _, _, .call hn _ hf hc _ => .call hn hf hc
    | _, _, _, _, .letS hn hΓ _ _ hk hx hs hx' _ h => .letS hn hΓ hk hx hs hx' h.toTyped
    | _, _, _, _, .switch hn hΓ _ _ hb hd hm h => .switch hn hΓ hb hd hm h.toTyped
    | _, _, _, _, .create hn hΓ _ _ hk hd hm hc hx _ h => .create hn hΓ hk hd hm hc.toTyped hx h.toTyped
    | _, _, _, _, .invoke hn hΓ _ _ hb hx hs => .invoke hn hΓ hb hx hs
    | _, _, _, _, .lit hn _ hx _ h => .lit hn hx h.toTyped
    | _, _, _, _, .op hn _ ha hb hx _ h => .op hn ha.hasVar hb.hasVar hx h.toTyped
    | _, _, _, _, .print hn _ ha h => .print hn ha.hasVar h.toTyped
    | _, _, _, _, @LinRel.ifc _ _ _ _ _ _ _ b₀ b' _ _ _ _ hn _ ha hb ht he =>
      .ifc hn ha.hasVar (fun c' e => by subst e; cases b₀ with
        | none => exact hb.elim
        | some c₀ => exact Occ.hasVar hb) ht.toTyped he.toTyped
    | _, _, _, _, .exit hn _ ha => .exit hn ha.hasVar
  theorem LinRelClauses.toTyped {T : List TypeDecl} {S : Sigs} :
      ∀ {ysPre ysPost : List Nat} {pre post : Ctx} {cs₀ cs' : Clauses},
        LinRelClauses T S ysPre ysPost pre post cs₀ cs' → LinTypedClauses T S pre post cs'
    | _, _, _, _, _, _, .nil => .nil
    | _, _, _, _, _, _, .cons _ _ hb hr => .cons hb.toTyped hr.toTyped
end

end Scc.AxCut
