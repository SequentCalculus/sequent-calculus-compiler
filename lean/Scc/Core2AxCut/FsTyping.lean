/-
  Scc.Core2AxCut.FsTyping — a decidable well-typedness predicate on focused Core programs (dump S3),
  `wtFsCheck`, strong enough to exclude every panic site of core2axcut (theorem `C04_no_panic`).
  This is a spec (not transcribed from Rust; it mirrors the typing rules of
  core_lang/src/traits/typed.rs restricted to what the shapes of cuts need).  Core imports only.

  The predicate is environment-free ("shape typing"): it checks
  * every cut `⟨p | c⟩ : T`: `T` is `i64` or a declared type, `p` is a producer of type `T` and `c` a
    consumer of type `T` (variables and (tilde-)mu carry `T` as annotation, literals and operations
    are producers of `i64`, a constructor is a producer of its data type, a destructor a consumer of
    its codata type, `case` is a consumer of a data type, `cocase` a producer of a codata type);
  * constructor / destructor arguments agree with the declared signature in length, chirality, type;
  * (co)cases have exactly one clause per declared xtor, in declaration order, whose parameter
    contexts agree with the signature in length, chirality and type;
  * calls agree with the parameter list of the callee in length, chirality and type;
  * the chirality flags `pc` of the Lean representation agree with the position (producer/consumer);
  * no user type is called `_Cont`.
  It does not check that variables are bound (scoping); id-substitution preserves it.
-/
import Scc.Core2AxCut.Model

namespace Scc.Core2AxCut

open Scc

/-- declarations and signatures a statement is checked against -/
structure TEnv where
  data : List Core.TypeDecl
  codata : List Core.TypeDecl
  sigs : List (Core.Ident × Core.Ctx)

/-- the declaration of a type, chosen as the Rust does (`is_codata` first) -/
def declOf (E : TEnv) : Core.Ty → Option Core.TypeDecl
  | .i64 => none
  | .decl n =>
    if isCodata E.codata (.decl n) then E.codata.find? (fun d => d.name == n)
    else E.data.find? (fun d => d.name == n)

def tyOk (E : TEnv) : Core.Ty → Bool
  | .i64 => true
  | t => (declOf E t).isSome

/-- two contexts agree in length, chirality and type (names are free) -/
def sigMatch : Core.Ctx → Core.Ctx → Bool
  | [], [] => true
  | a :: as, s :: ss => a.chi == s.chi && a.ty == s.ty && sigMatch as ss
  | _, _ => false

def findSig (sigs : List (Core.Ident × Core.Ctx)) (f : Core.Ident) : Option Core.Ctx :=
  match sigs.find? (fun p => p.1 == f) with
  | some p => some p.2
  | none => none

mutual
  /-- `wtTerm E side T t`: `t` is a producer (`side = prd`) / consumer (`side = cns`) of type `T` -/
  def wtTerm (E : TEnv) (side : Core.PC) (T : Core.Ty) : Core.FsTerm → Bool
    | .var pc _ ty => pc == side && ty == T
    | .lit _ => side == .prd && T == .i64
    | .op _ _ _ => side == .prd && T == .i64
    | .mu pc _ ty s => pc == side && ty == T && wtStmt E s
    | .xtor pc name args ty =>
      pc == side && ty == T &&
      (match declOf E T with
       | some d =>
         (isCodata E.codata T == (side == .cns)) &&
         (match d.xtors.find? (fun x => x.name == name) with
          | some x => sigMatch args x.args
          | none => false)
       | none => false)
    | .xcase pc ty cs =>
      pc == side && ty == T &&
      (match declOf E T with
       | some d => (isCodata E.codata T == (side == .prd)) && wtClauses E d.xtors cs
       | none => false)
  def wtClauses (E : TEnv) : List Core.XtorSig → Core.FsClauses → Bool
    | [], .nil => true
    | x :: xs, .cons tag ctx body rest =>
      tag == x.name && sigMatch ctx x.args && wtStmt E body && wtClauses E xs rest
    | _, _ => false
  def wtStmt (E : TEnv) : Core.FsStmt → Bool
    | .cut ty p c => tyOk E ty && wtTerm E .prd ty p && wtTerm E .cns ty c
    | .ifc _ _ _ t e => wtStmt E t && wtStmt E e
    | .print _ _ n => wtStmt E n
    | .call f args =>
      (match findSig E.sigs f with
       | some ps => sigMatch args ps
       | none => false)
    | .exit _ => true
end

def progTEnv (p : Core.FsProg) : TEnv :=
  ⟨p.dataTypes ++ [contInt], p.codataTypes, p.defs.map fun d => (d.name, d.ctx)⟩

def noContName (p : Core.FsProg) : Bool :=
  !(p.dataTypes.any (fun t => t.name == contInt.name)) && !(p.codataTypes.any (fun t => t.name == contInt.name))

/-- the decidable well-typedness predicate of C04 / C12 on S3 -/
def wtFsCheck (p : Core.FsProg) : Bool :=
  noContName p && p.defs.all (fun d => wtStmt (progTEnv p) d.body)

/-- input: text of an S3 dump; output `OK` | `ILL` | `ERR ..` -/
def checkFsLine (dumpS3 : String) : String :=
  match Sexp.parse dumpS3 with
  | none => "ERR sexp"
  | some sx =>
    match Core.readFsProg (dumpS3.length + 10) sx with
    | none => "ERR read"
    | some p =>
      if wtFsCheck p then "OK"
      else
        match p.defs.find? (fun d => !(wtStmt (progTEnv p) d.body)) with
        | some d => "ILL definition " ++ d.name.print
        | none => "ILL _Cont used as a type name"


/-! ## scoped typing (adds: every variable occurrence is bound with its annotated chirality and type)

Environments are lists of bindings, newest in front, looked up by id (first hit), exactly as in
`Scc/AxCut/TypingNamed.lean`.  `wtFsScopedCheck` is a hypothesis of the typing-preservation
theorem `shrinkProg_wf` (Scc/Core2AxCut/TypedProg.lean; with it alone the statement is false:
`C04_shrink_typed_statement_false`, Scc/Props/C12Mid.lean); it is not needed for `C04_no_panic`. -/

def lookupFs (Γ : Core.Ctx) (i : Nat) : Option Core.Binding := Γ.find? (fun b => b.var.id == i)

def occFs (Γ : Core.Ctx) (b : Core.Binding) : Bool := lookupFs Γ b.var.id == some b

mutual
  def scTerm (Γ : Core.Ctx) : Core.FsTerm → Bool
    | .var pc v ty => occFs Γ ⟨v, pc, ty⟩
    | .lit _ => true
    | .op a _ b => occFs Γ ⟨a, .prd, .i64⟩ && occFs Γ ⟨b, .prd, .i64⟩
    | .mu pc v ty s => scStmt (⟨v, flipPC pc, ty⟩ :: Γ) s
    | .xtor _ _ args _ => args.all (occFs Γ)
    | .xcase _ _ cs => scClauses Γ cs
  def scClauses (Γ : Core.Ctx) : Core.FsClauses → Bool
    | .nil => true
    | .cons _ ctx body rest => scStmt (ctx ++ Γ) body && scClauses Γ rest
  def scStmt (Γ : Core.Ctx) : Core.FsStmt → Bool
    | .cut _ p c => scTerm Γ p && scTerm Γ c
    | .ifc _ a b t e =>
      occFs Γ ⟨a, .prd, .i64⟩ && (match b with | none => true | some b => occFs Γ ⟨b, .prd, .i64⟩) &&
      scStmt Γ t && scStmt Γ e
    | .print _ a n => occFs Γ ⟨a, .prd, .i64⟩ && scStmt Γ n
    | .call _ args => args.all (occFs Γ)
    | .exit a => occFs Γ ⟨a, .prd, .i64⟩
end

/-- shape typing plus scoping -/
def wtFsScopedCheck (p : Core.FsProg) : Bool :=
  wtFsCheck p && p.defs.all (fun d => scStmt d.ctx d.body)

end Scc.Core2AxCut
