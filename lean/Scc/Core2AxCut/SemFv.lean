/-
  Scc.Core2AxCut.SemFv — proof file for the semantic part of C04 (lifting): free variables, scoping
  and renaming of focused Core statements.
  * the free typed variables `fvStmt` of a well-scoped statement are in scope (`sc_fvStmt`);
  * scoping only depends on the free variables (`sc_strengthenStmt`);
  * renaming by a function that is the identity on binders and whose images of the variables in scope
    avoid the binder ids is capture-free: the free variables of `renStmt f s` are exactly the images of
    the free variables of `s` (`fv_ren_backStmt`, `fv_ren_fwdStmt`); binders are not renamed (`bindersStmt_ren`).
-/
import Scc.Core2AxCut.SemRen

namespace Scc.Core2AxCut.Sem

theorem lookupFs_append (Δ Γ : Core.Ctx) (i : Nat) : lookupFs (Δ ++ Γ) i = (lookupFs Δ i).or (lookupFs Γ i) := by
  simp [lookupFs, List.find?_append]

theorem occFs_append_iff {Δ Γ : Core.Ctx} {b : Core.Binding} :
    occFs (Δ ++ Γ) b = true ↔ lookupFs Δ b.var.id = some b ∨ (lookupFs Δ b.var.id = none ∧ occFs Γ b = true) := by
  simp only [occFs, lookupFs_append]
  cases h : lookupFs Δ b.var.id with
  | none => simp
  | some c => simp

theorem lookupFs_none_not_mem {Δ : Core.Ctx} {b : Core.Binding} (h : lookupFs Δ b.var.id = none) : b ∉ Δ := by
  intro hm
  simp only [lookupFs, List.find?_eq_none] at h
  exact h b hm (by simp)

theorem lookupFs_some_mem {Δ : Core.Ctx} {b : Core.Binding} {i} (h : lookupFs Δ i = some b) : b ∈ Δ :=
  List.mem_of_find?_eq_some h

/-! ## binders are not renamed -/

mutual
  theorem bindersTerm_ren (f) : ∀ t, bindersTerm (renTerm f t) = bindersTerm t
    | .var _ _ _ => rfl
    | .lit _ => rfl
    | .op _ _ _ => rfl
    | .mu _ _ _ s => by simp [renTerm, bindersTerm, bindersStmt_ren f s]
    | .xtor _ _ _ _ => rfl
    | .xcase _ _ cs => by simp [renTerm, bindersTerm, bindersClauses_ren f cs]
  theorem bindersClauses_ren (f) : ∀ cs, bindersClauses (renClauses f cs) = bindersClauses cs
    | .nil => rfl
    | .cons _ _ b r => by simp [renClauses, bindersClauses, bindersStmt_ren f b, bindersClauses_ren f r]
  theorem bindersStmt_ren (f) : ∀ s, bindersStmt (renStmt f s) = bindersStmt s
    | .cut _ p c => by simp [renStmt, bindersStmt, bindersTerm_ren f p, bindersTerm_ren f c]
    | .ifc _ _ _ t e => by simp [renStmt, bindersStmt, bindersStmt_ren f t, bindersStmt_ren f e]
    | .print _ _ n => by simp [renStmt, bindersStmt, bindersStmt_ren f n]
    | .call _ _ => rfl
    | .exit _ => rfl
end

/-! ## free variables of well-scoped statements are in scope -/

mutual
  theorem sc_fvTerm : ∀ (t : Core.FsTerm) (Γ : Core.Ctx), scTerm Γ t = true → ∀ b ∈ fvTerm t, occFs Γ b = true
    | .var _ _ _, Γ, h, b, hb => by
      simp only [fvTerm, List.mem_singleton] at hb; subst hb; simpa [scTerm] using h
    | .lit _, _, _, b, hb => by simp [fvTerm] at hb
    | .op _ _ _, Γ, h, b, hb => by
      simp only [scTerm, Bool.and_eq_true] at h
      simp only [fvTerm, List.mem_cons, List.not_mem_nil, or_false] at hb
      rcases hb with rfl | rfl
      · exact h.1
      · exact h.2
    | .mu pc v ty s, Γ, h, b, hb => by
      simp only [scTerm] at h
      simp only [fvTerm, List.mem_filter, decide_eq_true_eq] at hb
      rcases occFs_cons (sc_fvStmt s _ h b hb.1) with e | ⟨_, h'⟩
      · exact absurd e hb.2
      · exact h'
    | .xtor _ _ args _, Γ, h, b, hb => by
      simp only [scTerm, List.all_eq_true] at h
      exact h b hb
    | .xcase _ _ cs, Γ, h, b, hb => sc_fvClauses cs Γ (by simpa [scTerm] using h) b hb
  theorem sc_fvClauses : ∀ (cs : Core.FsClauses) (Γ : Core.Ctx), scClauses Γ cs = true →
      ∀ b ∈ fvClauses cs, occFs Γ b = true
    | .nil, _, _, b, hb => by simp [fvClauses] at hb
    | .cons _ ctx body rest, Γ, h, b, hb => by
      simp only [scClauses, Bool.and_eq_true] at h
      simp only [fvClauses, List.mem_append, List.mem_filter, notIn_iff] at hb
      rcases hb with ⟨hb1, hb2⟩ | hb
      · rcases occFs_append_iff.mp (sc_fvStmt body _ h.1 b hb1) with h' | ⟨_, h'⟩
        · exact absurd (lookupFs_some_mem h') hb2
        · exact h'
      · exact sc_fvClauses rest Γ h.2 b hb
  theorem sc_fvStmt : ∀ (s : Core.FsStmt) (Γ : Core.Ctx), scStmt Γ s = true → ∀ b ∈ fvStmt s, occFs Γ b = true
    | .cut _ p c, Γ, h, b, hb => by
      simp only [scStmt, Bool.and_eq_true] at h
      simp only [fvStmt, List.mem_append] at hb
      rcases hb with hb | hb
      · exact sc_fvTerm p Γ h.1 b hb
      · exact sc_fvTerm c Γ h.2 b hb
    | .ifc _ a none t e, Γ, h, b, hb => by
      simp only [scStmt, Bool.and_eq_true] at h
      simp only [fvStmt, List.mem_cons, List.mem_append] at hb
      rcases hb with rfl | hb | hb
      · exact h.1.1.1
      · exact sc_fvStmt t Γ h.1.2 b hb
      · exact sc_fvStmt e Γ h.2 b hb
    | .ifc _ a (some a2) t e, Γ, h, b, hb => by
      simp only [scStmt, Bool.and_eq_true] at h
      simp only [fvStmt, List.mem_cons, List.mem_append] at hb
      rcases hb with rfl | rfl | hb | hb
      · exact h.1.1.1
      · exact h.1.1.2
      · exact sc_fvStmt t Γ h.1.2 b hb
      · exact sc_fvStmt e Γ h.2 b hb
    | .print _ a n, Γ, h, b, hb => by
      simp only [scStmt, Bool.and_eq_true] at h
      simp only [fvStmt, List.mem_cons] at hb
      rcases hb with rfl | hb
      · exact h.1
      · exact sc_fvStmt n Γ h.2 b hb
    | .call _ args, Γ, h, b, hb => by
      simp only [scStmt, List.all_eq_true] at h
      exact h b hb
    | .exit a, Γ, h, b, hb => by
      simp only [fvStmt, List.mem_singleton] at hb; subst hb; simpa [scStmt] using h
end

/-! ## scoping only depends on the free variables -/

mutual
  theorem sc_strengthenTerm : ∀ (t : Core.FsTerm) (Γ Γ' : Core.Ctx), scTerm Γ t = true →
      (∀ b ∈ fvTerm t, occFs Γ b = true → occFs Γ' b = true) → scTerm Γ' t = true
    | .var _ _ _, Γ, Γ', h, H => by
      simp only [scTerm] at h ⊢
      exact H _ (by simp [fvTerm]) h
    | .lit _, _, _, _, _ => rfl
    | .op _ _ _, Γ, Γ', h, H => by
      simp only [scTerm, Bool.and_eq_true] at h ⊢
      exact ⟨H _ (by simp [fvTerm]) h.1, H _ (by simp [fvTerm]) h.2⟩
    | .mu pc v ty s, Γ, Γ', h, H => by
      simp only [scTerm] at h ⊢
      refine sc_strengthenStmt s _ _ h ?_
      intro b hb ho
      rcases occFs_cons ho with rfl | ⟨hne, ho'⟩
      · exact occFs_cons_self _ _
      · refine occFs_cons_of_ne hne (H b ?_ ho')
        simp only [fvTerm, List.mem_filter, decide_eq_true_eq]
        exact ⟨hb, fun e => hne (by rw [e])⟩
    | .xtor _ _ args _, Γ, Γ', h, H => by
      simp only [scTerm, List.all_eq_true] at h ⊢
      exact fun b hb => H b (by simpa [fvTerm] using hb) (h b hb)
    | .xcase _ _ cs, Γ, Γ', h, H => by
      simp only [scTerm] at h ⊢
      exact sc_strengthenClauses cs Γ Γ' h (by simpa [fvTerm] using H)
  theorem sc_strengthenClauses : ∀ (cs : Core.FsClauses) (Γ Γ' : Core.Ctx), scClauses Γ cs = true →
      (∀ b ∈ fvClauses cs, occFs Γ b = true → occFs Γ' b = true) → scClauses Γ' cs = true
    | .nil, _, _, _, _ => rfl
    | .cons _ ctx body rest, Γ, Γ', h, H => by
      simp only [scClauses, Bool.and_eq_true] at h ⊢
      refine ⟨sc_strengthenStmt body _ _ h.1 ?_, sc_strengthenClauses rest Γ Γ' h.2 ?_⟩
      · intro b hb ho
        rcases occFs_append_iff.mp ho with h' | ⟨hn, h'⟩
        · exact occFs_append_iff.mpr (.inl h')
        · refine occFs_append_iff.mpr (.inr ⟨hn, H b ?_ h'⟩)
          simp only [fvClauses, List.mem_append, List.mem_filter, notIn_iff]
          exact .inl ⟨hb, lookupFs_none_not_mem hn⟩
      · intro b hb ho
        exact H b (by simp [fvClauses, hb]) ho
  theorem sc_strengthenStmt : ∀ (s : Core.FsStmt) (Γ Γ' : Core.Ctx), scStmt Γ s = true →
      (∀ b ∈ fvStmt s, occFs Γ b = true → occFs Γ' b = true) → scStmt Γ' s = true
    | .cut _ p c, Γ, Γ', h, H => by
      simp only [scStmt, Bool.and_eq_true] at h ⊢
      exact ⟨sc_strengthenTerm p Γ Γ' h.1 (fun b hb => H b (by simp [fvStmt, hb])),
        sc_strengthenTerm c Γ Γ' h.2 (fun b hb => H b (by simp [fvStmt, hb]))⟩
    | .ifc _ a none t e, Γ, Γ', h, H => by
      simp only [scStmt, Bool.and_eq_true] at h ⊢
      exact ⟨⟨⟨H _ (by simp [fvStmt]) h.1.1.1, trivial⟩,
        sc_strengthenStmt t Γ Γ' h.1.2 (fun b hb => H b (by simp [fvStmt, hb]))⟩,
        sc_strengthenStmt e Γ Γ' h.2 (fun b hb => H b (by simp [fvStmt, hb]))⟩
    | .ifc _ a (some a2) t e, Γ, Γ', h, H => by
      simp only [scStmt, Bool.and_eq_true] at h ⊢
      exact ⟨⟨⟨H _ (by simp [fvStmt]) h.1.1.1, H _ (by simp [fvStmt]) h.1.1.2⟩,
        sc_strengthenStmt t Γ Γ' h.1.2 (fun b hb => H b (by simp [fvStmt, hb]))⟩,
        sc_strengthenStmt e Γ Γ' h.2 (fun b hb => H b (by simp [fvStmt, hb]))⟩
    | .print _ a n, Γ, Γ', h, H => by
      simp only [scStmt, Bool.and_eq_true] at h ⊢
      exact ⟨H _ (by simp [fvStmt]) h.1, sc_strengthenStmt n Γ Γ' h.2 (fun b hb => H b (by simp [fvStmt, hb]))⟩
    | .call _ args, Γ, Γ', h, H => by
      simp only [scStmt, List.all_eq_true] at h ⊢
      exact fun b hb => H b (by simpa [fvStmt] using hb) (h b hb)
    | .exit a, Γ, Γ', h, H => by
      simp only [scStmt] at h ⊢
      exact H _ (by simp [fvStmt]) h
end

/-! ## free variables under a capture-free renaming -/

theorem mem_renCtx {f} {c : Core.Ctx} {β : Core.Binding} (h : β ∈ renCtx f c) : ∃ b ∈ c, β = renBinding f b := by
  simp only [renCtx, List.mem_map] at h
  obtain ⟨b, hb, rfl⟩ := h
  exact ⟨b, hb, rfl⟩

theorem renBinding_of_fid {f : Core.Ident → Core.Ident} {b : Core.Binding} (h : f b.var = b.var) :
    renBinding f b = b := by
  cases b; simp only [renBinding] at h ⊢; simp [h]

section back
variable {f : Core.Ident → Core.Ident} {B : List Nat} (hfid : ∀ v : Core.Ident, v.id ∈ B → f v = v)
include hfid

mutual
  theorem fv_ren_backTerm : ∀ (t : Core.FsTerm), (∀ i ∈ t.binderIds, i ∈ B) →
      ∀ β ∈ fvTerm (renTerm f t), ∃ b ∈ fvTerm t, β = renBinding f b
    | .var pc v ty, _, β, hβ => by
      simp only [renTerm, fvTerm, List.mem_singleton] at hβ
      exact ⟨⟨v, pc, ty⟩, by simp [fvTerm], by rw [hβ]; rfl⟩
    | .lit _, _, β, hβ => by simp [renTerm, fvTerm] at hβ
    | .op a _ b, _, β, hβ => by
      simp only [renTerm, fvTerm, List.mem_cons, List.not_mem_nil, or_false] at hβ
      rcases hβ with rfl | rfl
      · exact ⟨⟨a, .prd, .i64⟩, by simp [fvTerm], rfl⟩
      · exact ⟨⟨b, .prd, .i64⟩, by simp [fvTerm], rfl⟩
    | .mu pc v ty s, hB, β, hβ => by
      simp only [renTerm, fvTerm, List.mem_filter, decide_eq_true_eq] at hβ
      obtain ⟨b, hb, rfl⟩ := fv_ren_backStmt s (fun i hi => hB i (by simp [Core.FsTerm.binderIds, hi])) β hβ.1
      refine ⟨b, ?_, rfl⟩
      simp only [fvTerm, List.mem_filter, decide_eq_true_eq]
      refine ⟨hb, fun e => hβ.2 ?_⟩
      subst e
      exact renBinding_of_fid (hfid v (hB _ (by simp [Core.FsTerm.binderIds])))
    | .xtor _ _ args _, _, β, hβ => by
      simp only [renTerm, fvTerm] at hβ
      exact mem_renCtx hβ
    | .xcase _ _ cs, hB, β, hβ => by
      simp only [renTerm, fvTerm] at hβ
      exact fv_ren_backClauses cs (by simpa [Core.FsTerm.binderIds] using hB) β hβ
  theorem fv_ren_backClauses : ∀ (cs : Core.FsClauses), (∀ i ∈ cs.binderIds, i ∈ B) →
      ∀ β ∈ fvClauses (renClauses f cs), ∃ b ∈ fvClauses cs, β = renBinding f b
    | .nil, _, β, hβ => by simp [renClauses, fvClauses] at hβ
    | .cons _ ctx body rest, hB, β, hβ => by
      simp only [renClauses, fvClauses, List.mem_append, List.mem_filter, notIn_iff] at hβ
      rcases hβ with ⟨h1, h2⟩ | h1
      · obtain ⟨b, hb, rfl⟩ := fv_ren_backStmt body
          (fun i hi => hB i (by simp [Core.FsClauses.binderIds, hi])) β h1
        refine ⟨b, ?_, rfl⟩
        simp only [fvClauses, List.mem_append, List.mem_filter, notIn_iff]
        refine .inl ⟨hb, fun hc => h2 ?_⟩
        have : b.var.id ∈ B := hB _ (by
          simp only [Core.FsClauses.binderIds, Core.ctxIds, List.mem_append, List.mem_map]
          exact .inl (.inl ⟨b, hc, rfl⟩))
        rw [renBinding_of_fid (hfid _ this)]
        exact hc
      · obtain ⟨b, hb, rfl⟩ := fv_ren_backClauses rest
          (fun i hi => hB i (by simp [Core.FsClauses.binderIds, hi])) β h1
        exact ⟨b, by simp [fvClauses, hb], rfl⟩
  theorem fv_ren_backStmt : ∀ (s : Core.FsStmt), (∀ i ∈ s.binderIds, i ∈ B) →
      ∀ β ∈ fvStmt (renStmt f s), ∃ b ∈ fvStmt s, β = renBinding f b
    | .cut _ p c, hB, β, hβ => by
      simp only [renStmt, fvStmt, List.mem_append] at hβ
      rcases hβ with h | h
      · obtain ⟨b, hb, e⟩ := fv_ren_backTerm p (fun i hi => hB i (by simp [Core.FsStmt.binderIds, hi])) β h
        exact ⟨b, by simp [fvStmt, hb], e⟩
      · obtain ⟨b, hb, e⟩ := fv_ren_backTerm c (fun i hi => hB i (by simp [Core.FsStmt.binderIds, hi])) β h
        exact ⟨b, by simp [fvStmt, hb], e⟩
    | .ifc _ a none t e, hB, β, hβ => by
      simp only [renStmt, Option.map_none, fvStmt, List.mem_cons, List.mem_append] at hβ
      rcases hβ with rfl | h | h
      · exact ⟨⟨a, .prd, .i64⟩, by simp [fvStmt], rfl⟩
      · obtain ⟨b, hb, e⟩ := fv_ren_backStmt t (fun i hi => hB i (by simp [Core.FsStmt.binderIds, hi])) β h
        exact ⟨b, by simp [fvStmt, hb], e⟩
      · obtain ⟨b, hb, e'⟩ := fv_ren_backStmt e (fun i hi => hB i (by simp [Core.FsStmt.binderIds, hi])) β h
        exact ⟨b, by simp [fvStmt, hb], e'⟩
    | .ifc _ a (some a2) t e, hB, β, hβ => by
      simp only [renStmt, Option.map_some, fvStmt, List.mem_cons, List.mem_append] at hβ
      rcases hβ with rfl | rfl | h | h
      · exact ⟨⟨a, .prd, .i64⟩, by simp [fvStmt], rfl⟩
      · exact ⟨⟨a2, .prd, .i64⟩, by simp [fvStmt], rfl⟩
      · obtain ⟨b, hb, e⟩ := fv_ren_backStmt t (fun i hi => hB i (by simp [Core.FsStmt.binderIds, hi])) β h
        exact ⟨b, by simp [fvStmt, hb], e⟩
      · obtain ⟨b, hb, e'⟩ := fv_ren_backStmt e (fun i hi => hB i (by simp [Core.FsStmt.binderIds, hi])) β h
        exact ⟨b, by simp [fvStmt, hb], e'⟩
    | .print _ a n, hB, β, hβ => by
      simp only [renStmt, fvStmt, List.mem_cons] at hβ
      rcases hβ with rfl | h
      · exact ⟨⟨a, .prd, .i64⟩, by simp [fvStmt], rfl⟩
      · obtain ⟨b, hb, e⟩ := fv_ren_backStmt n (by simpa [Core.FsStmt.binderIds] using hB) β h
        exact ⟨b, by simp [fvStmt, hb], e⟩
    | .call _ args, _, β, hβ => by
      simp only [renStmt, fvStmt] at hβ
      exact mem_renCtx hβ
    | .exit a, _, β, hβ => by
      simp only [renStmt, fvStmt, List.mem_singleton] at hβ
      exact ⟨⟨a, .prd, .i64⟩, by simp [fvStmt], by rw [hβ]; rfl⟩
end

end back

/-- the part of `InvB` needed for the forward direction, stable under entering binders -/
def FvInv (Γ : Core.Ctx) (f : Core.Ident → Core.Ident) (B : List Nat) : Prop :=
  ∀ b, occFs Γ b = true → f b.var = b.var ∨ (f b.var).id ∉ B

theorem FvInv.enter {Γ f B} (h : FvInv Γ f B) (hfid : ∀ v : Core.Ident, v.id ∈ B → f v = v) (Δ : Core.Ctx)
    (hΔ : ∀ b ∈ Δ, b.var.id ∈ B) : FvInv (Δ ++ Γ) f B := by
  intro b hb
  rcases occFs_append hb with hm | ⟨_, ho⟩
  · exact .inl (hfid _ (hΔ b hm))
  · exact h b ho

theorem renBinding_ne {f : Core.Ident → Core.Ident} {B : List Nat} {b β0 : Core.Binding}
    (h : f b.var = b.var ∨ (f b.var).id ∉ B) (hne : b ≠ β0) (hβ : β0.var.id ∈ B) : renBinding f b ≠ β0 := by
  rcases h with h | h
  · rw [renBinding_of_fid h]; exact hne
  · intro e
    apply h
    have : (renBinding f b).var = f b.var := rfl
    rw [← this, e]
    exact hβ

section fwd
variable {f : Core.Ident → Core.Ident} {B : List Nat} (hfid : ∀ v : Core.Ident, v.id ∈ B → f v = v)
include hfid

mutual
  theorem fv_ren_fwdTerm : ∀ (t : Core.FsTerm) (Γ : Core.Ctx), FvInv Γ f B → scTerm Γ t = true →
      (∀ i ∈ t.binderIds, i ∈ B) → ∀ b ∈ fvTerm t, renBinding f b ∈ fvTerm (renTerm f t)
    | .var pc v ty, _, _, _, _, b, hb => by
      simp only [fvTerm, List.mem_singleton] at hb; subst hb; simp [renTerm, fvTerm, renBinding]
    | .lit _, _, _, _, _, b, hb => by simp [fvTerm] at hb
    | .op a _ c, _, _, _, _, b, hb => by
      simp only [fvTerm, List.mem_cons, List.not_mem_nil, or_false] at hb
      rcases hb with rfl | rfl <;> simp [renTerm, fvTerm, renBinding]
    | .mu pc v ty s, Γ, hinv, hsc, hB, b, hb => by
      simp only [scTerm] at hsc
      simp only [fvTerm, List.mem_filter, decide_eq_true_eq] at hb
      have hv : v.id ∈ B := hB _ (by simp [Core.FsTerm.binderIds])
      have hinv' : FvInv (⟨v, flipPC pc, ty⟩ :: Γ) f B :=
        hinv.enter hfid [⟨v, flipPC pc, ty⟩] (by simpa using hv)
      have ih := fv_ren_fwdStmt s _ hinv' hsc (fun i hi => hB i (by simp [Core.FsTerm.binderIds, hi])) b hb.1
      simp only [renTerm, fvTerm, List.mem_filter, decide_eq_true_eq]
      exact ⟨ih, renBinding_ne (hinv' b (sc_fvStmt s _ hsc b hb.1)) hb.2 hv⟩
    | .xtor _ _ args _, _, _, _, _, b, hb => by
      simp only [fvTerm] at hb
      simp only [renTerm, fvTerm, renCtx, List.mem_map]
      exact ⟨b, hb, rfl⟩
    | .xcase _ _ cs, Γ, hinv, hsc, hB, b, hb => by
      simp only [renTerm, fvTerm] at hb ⊢
      exact fv_ren_fwdClauses cs Γ hinv (by simpa [scTerm] using hsc) (by simpa [Core.FsTerm.binderIds] using hB) b hb
  theorem fv_ren_fwdClauses : ∀ (cs : Core.FsClauses) (Γ : Core.Ctx), FvInv Γ f B → scClauses Γ cs = true →
      (∀ i ∈ cs.binderIds, i ∈ B) → ∀ b ∈ fvClauses cs, renBinding f b ∈ fvClauses (renClauses f cs)
    | .nil, _, _, _, _, b, hb => by simp [fvClauses] at hb
    | .cons _ ctx body rest, Γ, hinv, hsc, hB, b, hb => by
      simp only [scClauses, Bool.and_eq_true] at hsc
      simp only [fvClauses, List.mem_append, List.mem_filter, notIn_iff] at hb
      simp only [renClauses, fvClauses, List.mem_append, List.mem_filter, notIn_iff]
      rcases hb with ⟨h1, h2⟩ | h1
      · have hctx : ∀ c ∈ ctx, c.var.id ∈ B := fun c hc => hB _ (by
          simp only [Core.FsClauses.binderIds, Core.ctxIds, List.mem_append, List.mem_map]
          exact .inl (.inl ⟨c, hc, rfl⟩))
        have hinv' : FvInv (ctx ++ Γ) f B := hinv.enter hfid ctx hctx
        have ih := fv_ren_fwdStmt body _ hinv' hsc.1
          (fun i hi => hB i (by simp [Core.FsClauses.binderIds, hi])) b h1
        refine .inl ⟨ih, fun hc => ?_⟩
        exact renBinding_ne (hinv' b (sc_fvStmt body _ hsc.1 b h1)) (fun e => h2 (e ▸ hc)) (hctx _ hc) rfl
      · exact .inr (fv_ren_fwdClauses rest Γ hinv hsc.2
          (fun i hi => hB i (by simp [Core.FsClauses.binderIds, hi])) b h1)
  theorem fv_ren_fwdStmt : ∀ (s : Core.FsStmt) (Γ : Core.Ctx), FvInv Γ f B → scStmt Γ s = true →
      (∀ i ∈ s.binderIds, i ∈ B) → ∀ b ∈ fvStmt s, renBinding f b ∈ fvStmt (renStmt f s)
    | .cut _ p c, Γ, hinv, hsc, hB, b, hb => by
      simp only [scStmt, Bool.and_eq_true] at hsc
      simp only [fvStmt, List.mem_append] at hb
      simp only [renStmt, fvStmt, List.mem_append]
      rcases hb with h | h
      · exact .inl (fv_ren_fwdTerm p Γ hinv hsc.1 (fun i hi => hB i (by simp [Core.FsStmt.binderIds, hi])) b h)
      · exact .inr (fv_ren_fwdTerm c Γ hinv hsc.2 (fun i hi => hB i (by simp [Core.FsStmt.binderIds, hi])) b h)
    | .ifc _ a none t e, Γ, hinv, hsc, hB, b, hb => by
      simp only [scStmt, Bool.and_eq_true] at hsc
      simp only [fvStmt, List.mem_cons, List.mem_append] at hb
      simp only [renStmt, Option.map_none, fvStmt, List.mem_cons, List.mem_append]
      rcases hb with rfl | h | h
      · exact .inl rfl
      · exact .inr (.inl (fv_ren_fwdStmt t Γ hinv hsc.1.2 (fun i hi => hB i (by simp [Core.FsStmt.binderIds, hi])) b h))
      · exact .inr (.inr (fv_ren_fwdStmt e Γ hinv hsc.2 (fun i hi => hB i (by simp [Core.FsStmt.binderIds, hi])) b h))
    | .ifc _ a (some a2) t e, Γ, hinv, hsc, hB, b, hb => by
      simp only [scStmt, Bool.and_eq_true] at hsc
      simp only [fvStmt, List.mem_cons, List.mem_append] at hb
      simp only [renStmt, Option.map_some, fvStmt, List.mem_cons, List.mem_append]
      rcases hb with rfl | rfl | h | h
      · exact .inl rfl
      · exact .inr (.inl rfl)
      · exact .inr (.inr (.inl (fv_ren_fwdStmt t Γ hinv hsc.1.2
          (fun i hi => hB i (by simp [Core.FsStmt.binderIds, hi])) b h)))
      · exact .inr (.inr (.inr (fv_ren_fwdStmt e Γ hinv hsc.2
          (fun i hi => hB i (by simp [Core.FsStmt.binderIds, hi])) b h)))
    | .print _ a n, Γ, hinv, hsc, hB, b, hb => by
      simp only [scStmt, Bool.and_eq_true] at hsc
      simp only [fvStmt, List.mem_cons] at hb
      simp only [renStmt, fvStmt, List.mem_cons]
      rcases hb with rfl | h
      · exact .inl rfl
      · exact .inr (fv_ren_fwdStmt n Γ hinv hsc.2 (by simpa [Core.FsStmt.binderIds] using hB) b h)
    | .call _ args, _, _, _, _, b, hb => by
      simp only [fvStmt] at hb
      simp only [renStmt, fvStmt, renCtx, List.mem_map]
      exact ⟨b, hb, rfl⟩
    | .exit a, _, _, _, _, b, hb => by
      simp only [fvStmt, List.mem_singleton] at hb; subst hb; simp [renStmt, fvStmt, renBinding]
end

end fwd

end Scc.Core2AxCut.Sem
