/-
  Scc.Core2AxCut.TypedArms2 — proof file for the typing part of C04 / C12 (shrinking preserves typing):
  translated clause lists (`shrinkClauses`), `switch`, `create`, and the critical pairs
  (`shrink_critical_pairs`: eta-expansion with `let`, the expanded side shrunk in place or lifted).
-/
import Scc.Core2AxCut.TypedArms

namespace Scc.Core2AxCut.Typed

open Scc.AxCut Scc.Core2AxCut.Sem
open Scc.AxCut.Named (findDef)

local notation "sid" => shrinkIdentifier

section step
variable {E : TEnv} {q : AxCut.Prog} {env : Env} {rec : Rec}
  (hE : EnvMatches env E) (hT : EnvOK E q.types) (hS : SigOK E q.sigs)
  (hrec : RecTr E q rec) (hrecT : RecT E q rec) (hmono : RecRel Mono rec)

include hE hrecT hmono in
theorem shrinkClauses_typed {Γ f B} : ∀ (xs : List Core.XtorSig) (cl : Core.FsClauses) (st : St) (cls st'),
    shrinkClauses env rec (renClauses f cl) st = .ok (cls, st') → Good q st' → st'.maxId ≤ q.maxId →
    wtClauses E xs cl = true → scClauses Γ cl = true → InvB Γ f B st.maxId → cl.binderIds.Sublist B →
    ∀ Γax, AgreeT E.codata Γ f B st.maxId Γax →
      TqC q cls Γax ∧ ClausesMatch (xs.map (shrinkXtor E.codata)) cls ∧ LiftedOK q st st'
  | [], .nil, st, cls, st', h, _, _, _, _, _, _ => by
    simp only [renClauses, shrinkClauses, Except.ok.injEq, Prod.mk.injEq] at h
    obtain ⟨rfl, rfl⟩ := h
    intro Γax _
    exact ⟨by simp [TqC, TWC], by simp [ClausesMatch], LiftedOK.refl _ _⟩
  | [], .cons _ _ _ _, _, _, _, _, _, _, h, _, _, _ => by simp [wtClauses] at h
  | _ :: _, .nil, _, _, _, _, _, _, h, _, _, _ => by simp [wtClauses] at h
  | x :: xs, .cons tag ctx body rest, st, cls, st', h, hq, hM, hwt, hsc, inv, hB => by
    have hcod : env.codata = E.codata := hE.2
    simp only [wtClauses, Bool.and_eq_true, beq_iff_eq] at hwt
    obtain ⟨⟨⟨htag, hsm⟩, hwb⟩, hwr⟩ := hwt
    simp only [scClauses, Bool.and_eq_true] at hsc
    simp only [Core.FsClauses.binderIds] at hB
    simp only [renClauses] at h
    obtain ⟨body', st1, rest', h1, h2, rfl⟩ := shrinkClauses_cons_inv h
    have m1 : st.maxId ≤ st1.maxId := (hmono _ _ _ _ h1).le
    have mr : Mono st1 st' := shrinkClauses_rel Mono.framePreorder hmono _ _ _ _ h2
    have hq1 : Good q st1 := Good.of_mono mr hq
    have hM1 : st1.maxId ≤ q.maxId := Nat.le_trans mr.le hM
    have hBc : (Core.ctxIds ctx ++ body.binderIds).Sublist B :=
      (List.sublist_append_left _ _).trans hB
    have hndc : (Core.ctxIds ctx).Nodup := (List.nodup_append.mp (hBc.nodup inv.nd)).1
    have invb : InvB (ctx ++ Γ) f body.binderIds st.maxId := inv.enterS ctx body.binderIds hBc
    have p1 := hrecT _ _ body st body' st1 h1 hq1 hM1 hwb hsc.1 invb
    have ih := shrinkClauses_typed xs rest st1 rest' st' h2 hq hM hwr hsc.2 (inv.mono m1)
      ((List.sublist_append_right _ _).trans hB)
    intro Γax hag
    obtain ⟨b1, b2⟩ := p1 _ (hag.enter inv ctx body.binderIds hBc)
    obtain ⟨r1, r2, r3⟩ := ih Γax (hag.mono m1)
    rw [hcod]
    refine ⟨?_, ?_, b2.trans r3⟩
    · simp only [TqC, TWC]
      refine ⟨by simp only [NodupIds, ids_shrinkContext]; exact hndc, ?_, b1, r1⟩
      intro i hi
      rw [ids_shrinkContext] at hi
      have hiB : i ∈ B := hBc.subset (List.mem_append_left _ hi)
      exact hag.fresh_binder hiB (by have := inv.bm i hiB; omega)
    · simp only [List.map_cons, ClausesMatch, shrinkXtor]
      exact ⟨by rw [htag], (chiTys_shrinkContext_of_sigMatch _ hsm).symm, r2⟩

include hE hT hrecT hmono in
/-- `Switch`, both orientations: `v` is the scrutinised variable -/
theorem ty_switch {Γ f T cl d st cls st' B} {v : Core.Ident} {pc : Core.PC}
    (h : shrinkClauses env rec (renClauses f cl) st = .ok (cls, st'))
    (hq : Good q st') (hM : st'.maxId ≤ q.maxId) (hd : declOf E T = some d)
    (hv : occFs Γ ⟨v, pc, T⟩ = true)
    (hsb : ∀ w, shrinkBinding E.codata ⟨w, pc, T⟩ = ⟨sid w, .prd, shrinkTy T⟩)
    (hwt : wtClauses E d.xtors cl = true) (hsc : scClauses Γ cl = true)
    (inv : InvB Γ f B st.maxId) (hB : cl.binderIds.Sublist B) :
    PostT E.codata q Γ f B st (.switch (sid (f v)) (shrinkTy T) cls none) st' := by
  intro Γax hag
  obtain ⟨r1, r2, r3⟩ := shrinkClauses_typed hE hrecT hmono d.xtors cl st cls st' h hq hM hwt hsc inv hB Γax hag
  have h1 := hag.occ hv
  rw [hsb] at h1
  refine ⟨?_, r3⟩
  simp only [Tq, TW]
  exact ⟨h1, ⟨_, hT.decl _ _ hd, r2⟩, r1⟩

include hE hT hrecT hmono in
/-- `Create`, both orientations: `b0` is the variable bound by the (tilde-)mu; the clauses are translated
    first, then the continuation -/
theorem ty_create {Γ f T s0 cl d st cls st1 t0 st' B} {b0 : Core.Binding}
    (h : shrinkClauses env rec (renClauses f cl) st = .ok (cls, st1)) (h2 : rec (renStmt f s0) st1 = .ok (t0, st'))
    (hq : Good q st') (hM : st'.maxId ≤ q.maxId) (hd : declOf E T = some d)
    (hsb : shrinkBinding E.codata b0 = ⟨sid b0.var, .cns, shrinkTy T⟩)
    (hwt : wtClauses E d.xtors cl = true) (hsc : scClauses Γ cl = true)
    (hwt0 : wtStmt E s0 = true) (hsc0 : scStmt (b0 :: Γ) s0 = true)
    (inv : InvB Γ f B st.maxId) (hBc : cl.binderIds.Sublist B)
    (hB0 : ([b0].map (·.var.id) ++ s0.binderIds).Sublist B) :
    PostT E.codata q Γ f B st (.create (sid b0.var) (shrinkTy T) none cls t0 none none) st' := by
  intro Γax hag
  have m2 : Mono st1 st' := hmono _ _ _ _ h2
  have m1 : st.maxId ≤ st1.maxId := (shrinkClauses_rel Mono.framePreorder hmono _ _ _ _ h).le
  obtain ⟨r1, r2, r3⟩ := shrinkClauses_typed hE hrecT hmono d.xtors cl st cls st1 h
    (Good.of_mono m2 hq) (Nat.le_trans m2.le hM) hwt hsc inv hBc Γax hag
  obtain ⟨g1, g2, g3⟩ := ty_under_binder hrecT hmono (b0 := b0) h2 hq hM hwt0 hsc0 (inv.mono m1) hB0 Γax
    (hag.mono m1)
  rw [hsb] at g2
  refine ⟨?_, r3.trans g3⟩
  simp only [Tq, TW]
  exact ⟨trivial, ⟨_, hT.decl _ _ hd, r2⟩, r1, g1, g2⟩

theorem lookupTypeDecl_cont (hT : EnvOK E q.types) :
    lookupTypeDecl q.types contTy = some (shrinkDeclaration E.codata contInt) :=
  hT.decl _ _ hT.cont

include hT hrecT hmono in
theorem ty_critInt {Γ f a s1 x s2 st t2 st1 t1 st'} (h1 : rec (renStmt f s2) st = .ok (t2, st1))
    (h2 : rec (renStmt f s1) st1 = .ok (t1, st')) (hq : Good q st') (hM : st'.maxId ≤ q.maxId)
    (hwt1 : wtStmt E s1 = true) (hsc1 : scStmt (⟨a, .cns, .i64⟩ :: Γ) s1 = true)
    (hwt2 : wtStmt E s2 = true) (hsc2 : scStmt (⟨x, .prd, .i64⟩ :: Γ) s2 = true)
    (inv : InvB Γ f (Core.FsStmt.cut .i64 (.mu .prd a .i64 s1) (.mu .cns x .i64 s2)).binderIds st.maxId) :
    PostT E.codata q Γ f (Core.FsStmt.cut .i64 (.mu .prd a .i64 s1) (.mu .cns x .i64 s2)).binderIds st
      (.create (sid a) contTy none (.cons (sid retName) [⟨sid x, .ext, .i64⟩] t2 .nil) t1 none none) st' := by
  simp only [Core.FsStmt.binderIds, Core.FsTerm.binderIds] at inv ⊢
  intro Γax hag
  have m1 : st.maxId ≤ st1.maxId := (hmono _ _ _ _ h1).le
  have m2 : Mono st1 st' := hmono _ _ _ _ h2
  obtain ⟨g1, g2, g3⟩ := ty_under_binder hrecT hmono (b0 := ⟨x, .prd, .i64⟩) h1
    (Good.of_mono m2 hq) (Nat.le_trans m2.le hM) hwt2 hsc2 inv
    (by simp only [List.map_cons, List.map_nil, List.singleton_append]; exact List.sublist_append_right _ _)
    Γax hag
  obtain ⟨k1, k2, k3⟩ := ty_under_binder hrecT hmono (b0 := ⟨a, .cns, .i64⟩) h2 hq hM hwt1 hsc1 (inv.mono m1)
    (by simp) Γax (hag.mono m1)
  rw [sb_prd_int] at g2
  rw [sb_cns_int] at k2
  refine ⟨?_, g3.trans k3⟩
  simp only [Tq, TW, TWC]
  refine ⟨trivial, ⟨_, lookupTypeDecl_cont hT, ?_⟩, ⟨?_, ?_, g2, trivial⟩, k1, k2⟩
  · simp [shrinkDeclaration, contInt, ClausesMatch, shrinkXtor, retName, shrinkContext, sb_prd_int, Ctx.chiTys]
  · simp [NodupIds, Ctx.ids]
  · intro i hi
    simp only [Ctx.ids, List.map_cons, List.map_nil, List.mem_singleton] at hi
    subst hi
    exact g1

include hE in
/-- the eta-expansion clauses of `shrink_critical_pairs`: `t2` is the shrunk statement of the expanded
    side, typed under the binding of its variable `vE` -/
theorem criticalClauses_typed (vE : Core.Ident) (tty : AxCut.Ty) (t2 : AxCut.Stmt) (Γax : AxCut.Ctx)
    (ht2 : Tq q t2 (⟨sid vE, .prd, tty⟩ :: Γax)) (hvE : vE.id ∉ Γax.ids) :
    ∀ (xs : List Core.XtorSig) (st : St),
    (∀ x ∈ xs, lookupXtor q.types tty (sid x.name) = some (shrinkContext E.codata x.args)) →
    (∀ i ∈ Γax.ids, i ≤ st.maxId) → (∀ i ∈ axBids t2, i ≤ st.maxId) →
    (criticalClauses env vE tty t2 xs st).2.maxId ≤ q.maxId →
    TqC q (criticalClauses env vE tty t2 xs st).1 Γax ∧
      ClausesMatch (xs.map (shrinkXtor E.codata)) (criticalClauses env vE tty t2 xs st).1
  | [], st, _, _, _, _ => by simp [criticalClauses, TqC, TWC, ClausesMatch]
  | x :: xs, st, hx, hΓ, hb, hM => by
    have hcod : env.codata = E.codata := hE.2
    simp only [criticalClauses] at hM ⊢
    have hn := freshenCtx_nodupIds (shrinkContext env.codata x.args) st
    have hr := freshenCtx_ids_range (c := shrinkContext env.codata x.args) (st := st)
    have hc := freshenCtx_chiTys (shrinkContext env.codata x.args) st
    have hs := (freshenCtx_spec (shrinkContext env.codata x.args) st).2.1
    have hM' := hM
    clear hM
    revert hn hr hc hs hM'
    generalize freshenCtx (shrinkContext env.codata x.args) st = r1
    obtain ⟨envC, st1⟩ := r1
    intro hn hr hc hs hM
    simp only [freshIdentifier] at hM ⊢
    have hmono := (criticalClauses_crit env vE tty t2 xs { st1 with maxId := st1.maxId + 1 }).1
    have ih := criticalClauses_typed vE tty t2 Γax ht2 hvE xs { st1 with maxId := st1.maxId + 1 }
      (fun y hy => hx y (by simp [hy]))
      (fun i hi => by have := hΓ i hi; simp only at hs ⊢; omega)
      (fun i hi => by have := hb i hi; simp only at hs ⊢; omega)
    revert hM hmono ih
    generalize criticalClauses env vE tty t2 xs { st1 with maxId := st1.maxId + 1 } = r2
    obtain ⟨rest, st2⟩ := r2
    intro hM hmono ih
    simp only at hn hr hc hs hM hmono ih ⊢
    obtain ⟨ih1, ih2⟩ := ih hM
    rw [hcod] at hc
    have hst : st.maxId ≤ st1.maxId := by omega
    refine ⟨?_, ?_⟩
    · simp only [TqC, TWC, TW]
      refine ⟨hn, ?_, ⟨⟨_, hx x (by simp), hc⟩, fun a ha => List.mem_append_left _ ha, ?_, ?_⟩, ih1⟩
      · intro i hi
        have := hr i hi
        exact ⟨fun hc' => by have := hΓ i hc'; omega, by omega⟩
      · -- the variable of the `let` is fresh
        refine ⟨?_, by simp only [shrinkIdentifier]; omega⟩
        intro hc'
        rw [ids_append] at hc'
        simp only [shrinkIdentifier] at hc'
        rcases List.mem_append.mp hc' with h' | h'
        · have := (hr _ h').2; omega
        · have := hΓ _ h'; omega
      · -- the shared statement, renamed
        refine TW.subst [(vE.id, sid ⟨vE.name, st1.maxId + 1⟩)] t2 _ _ ht2 ?_ ?_ ?_
        · intro b hb'
          rcases List.mem_cons.mp hb' with rfl | hb'
          · simp [axSubstBinding, axSubstIdent, shrinkIdentifier]
          · rw [axSubstBinding_of_not_dom]
            · exact List.mem_cons_of_mem _ (List.mem_append_right _ hb')
            · simp only [List.mem_singleton, forall_eq]
              exact fun e => hvE (e ▸ mem_ids_of_mem hb')
        · intro i hi hc'
          have hfr := TW.bids_fresh t2 _ ht2 i hi
          simp only [Ctx.ids, List.map_cons, List.map_append, List.mem_cons, List.mem_append,
            shrinkIdentifier, not_or] at hc' hfr
          have hle := hb i hi
          rcases hc' with rfl | h' | h'
          · omega
          · have := (hr i (by simpa [Ctx.ids] using h')).1; omega
          · exact hfr.2 h'
        · intro i hi p hp
          simp only [List.mem_singleton] at hp
          subst hp
          have hfr := TW.bids_fresh t2 _ ht2 i hi
          simp only [Ctx.ids, List.map_cons, List.mem_cons, shrinkIdentifier, not_or] at hfr
          exact fun e => hfr.1 e.symm
    · simp only [List.map_cons, ClausesMatch, shrinkXtor]
      exact ⟨trivial, hc.symm, ih2⟩

include hE hT hrec hrecT hmono in
/-- `shrink_critical_pairs` at a declared type, both orientations: `bK`/`sK` the side that is kept as the
    continuation of `create`, `bE`/`sE` the side that is eta-expanded (shrunk in place or lifted) -/
theorem ty_criticalDecl {Γ f d name T} {bK bE : Core.Binding} {sK sE : Core.FsStmt} {st t st' B}
    (h : criticalDecl env rec d name (shrinkTy T) bK.var (renStmt f sK) bE.var (renStmt f sE) st = .ok (t, st'))
    (hq : Good q st') (hM : st'.maxId ≤ q.maxId)
    (hlift : RecTr E q (lift env rec)) (hliftT : RecT E q (lift env rec))
    (hd : declOf E T = some d) (hname : T = .decl name)
    (hsbK : shrinkBinding E.codata bK = ⟨sid bK.var, .cns, shrinkTy T⟩)
    (hsbE : shrinkBinding E.codata bE = ⟨sid bE.var, .prd, shrinkTy T⟩)
    (hwtK : wtStmt E sK = true) (hscK : scStmt (bK :: Γ) sK = true)
    (hwtE : wtStmt E sE = true) (hscE : scStmt (bE :: Γ) sE = true)
    (inv : InvB Γ f B st.maxId)
    (hBK : ([bK].map (·.var.id) ++ sK.binderIds).Sublist B) (hBE : ([bE].map (·.var.id) ++ sE.binderIds).Sublist B) :
    PostT E.codata q Γ f B st t st' := by
  obtain ⟨t2, st1, tK, h1, h3, rfl⟩ := criticalDecl_inv h
  have key : ∃ F : Rec, RecTr E q F ∧ RecT E q F ∧ RecRel Mono F ∧
      (if inlineExpand d.xtors.length (renStmt f sE) = true then rec (renStmt f sE) st
       else lift env rec (renStmt f sE) st) = F (renStmt f sE) st := by
    split
    · exact ⟨rec, hrec, hrecT, hmono, rfl⟩
    · exact ⟨lift env rec, hlift, hliftT, lift_mono hmono, rfl⟩
  obtain ⟨F, hF, hFT, hFm, e⟩ := key
  rw [e] at h1
  have m1 : st.maxId ≤ st1.maxId := (hFm _ _ _ _ h1).le
  have m3 : Mono (criticalClauses env bE.var (shrinkTy T) t2 d.xtors st1).2 st' := hmono _ _ _ _ h3
  have mc : Mono st1 (criticalClauses env bE.var (shrinkTy T) t2 d.xtors st1).2 :=
    Mono.framePreorder.frame (criticalClauses_frame env bE.var (shrinkTy T) t2 d.xtors st1)
  have hq1 : Good q st1 := Good.of_mono (Mono.framePreorder.trans mc m3) hq
  have hMc : (criticalClauses env bE.var (shrinkTy T) t2 d.xtors st1).2.maxId ≤ q.maxId :=
    Nat.le_trans m3.le hM
  have hM1 : st1.maxId ≤ q.maxId := Nat.le_trans mc.le hMc
  -- binder ids of the shared statement (semantic invariant)
  obtain ⟨_, g2s, _, _, _⟩ := tr_under_binder hF hFm (b0 := bE) h1 hq1 hwtE hscE inv hBE
  intro Γax hag
  obtain ⟨g1, g2, g3⟩ := ty_under_binder hFT hFm (b0 := bE) h1 hq1 hM1 hwtE hscE inv hBE Γax hag
  obtain ⟨k1, k2, k3⟩ := ty_under_binder hrecT hmono (b0 := bK) h3 hq hM hwtK hscK
    (inv.mono (Nat.le_trans m1 mc.le)) hBK Γax (hag.mono (Nat.le_trans m1 mc.le))
  rw [hsbE] at g2
  rw [hsbK] at k2
  obtain ⟨c1, c2⟩ := criticalClauses_typed (q := q) hE bE.var (shrinkTy T) t2 Γax g2 g1.1 d.xtors st1
    (fun x hx => lookupXtor_of_decl hT hd (find_self_of_nodup d.xtors (hT.xnd _ _ hd) x hx))
    (fun i hi => by have := (hag.rng i hi).2; omega) (fun i hi => (g2s i hi).2) hMc
  refine ⟨?_, g3.trans ((LiftedOK.of_frame (criticalClauses_frame _ _ _ _ _ _)).trans k3)⟩
  have hty : AxCut.Ty.decl (sid name) = shrinkTy T := by rw [hname]; rfl
  simp only [Tq, TW, hty]
  exact ⟨trivial, ⟨_, hT.decl _ _ hd, c2⟩, c1, k1, k2⟩

end step

end Scc.Core2AxCut.Typed
