/-
  Scc.Core2AxCut.SemProg — proof file for the semantic part of C04: from statements to programs.
  The definitions of `shrinkProg p` are, in order, the image of each definition of `p` followed by
  the definitions lifted out of it; a label of `p` is found in the output at the image of the first
  definition of `p` with that name (lifted labels never collide with names of `p`); the image of a
  definition translates its body (`ProgRel`); entry states are related.
-/
import Scc.Core2AxCut.SemTrCut
import Scc.Core2AxCut.SemSimCut
import Scc.Core2AxCut.NoLift

namespace Scc.Core2AxCut.Sem

open Scc.AxCut.Named (Value lookup lookupAll bindParams findDef State step)

local notation "sid" => shrinkIdentifier

/-- how the image of the definition `d` was produced -/
def DefImage (data codata : List Core.TypeDecl) (d : Core.FsDef) (d' : AxCut.Def) (lo : Nat)
    (defs : List AxCut.Def) (used : List Core.Ident) : Prop :=
  ∃ body st0 st1, d' = ⟨sid d.name, shrinkContext codata d.ctx, body⟩ ∧
    shrinkStmt ⟨data, codata, d.name.name⟩ (sizeStmt d.body + 1) d.body st0 = .ok (body, st1) ∧
    lo ≤ st0.maxId ∧
    -- the definitions lifted out of `d` are in the output, under labels that differ from all used names
    ∀ d'' ∈ st1.lifted, d'' ∈ defs ∧ ∃ x : Core.Ident, d''.name = sid x ∧ ∀ u ∈ used, x.print ≠ u.print

theorem print_eq_of_sid_eq {x u : Core.Ident} (h : sid x = sid u) : x.print = u.print := by
  rw [sid_inj h]

theorem shrinkDefs_spec {data codata : List Core.TypeDecl} : ∀ (ds : List Core.FsDef) (used : List Core.Ident)
    (maxId : Nat) defs used' maxId', shrinkDefs data codata ds used maxId = .ok (defs, used', maxId') →
    maxId ≤ maxId' ∧ (∀ u ∈ used, u ∈ used') ∧
    (∀ d0 ds0, ds = d0 :: ds0 → ∃ d' rest, defs = d' :: rest ∧ DefImage data codata d0 d' maxId defs used) ∧
    ∀ f d, f ∈ used → ds.find? (fun d => d.name = f) = some d →
      ∃ d', defs.find? (fun d' => d'.name == sid f) = some d' ∧ DefImage data codata d d' maxId defs used
  | [], used, maxId, defs, used', maxId', h => by
    simp only [shrinkDefs, Except.ok.injEq, Prod.mk.injEq] at h
    obtain ⟨rfl, rfl, rfl⟩ := h
    exact ⟨Nat.le_refl _, fun u hu => hu, by simp, by simp⟩
  | d :: ds, used, maxId, defs, used', maxId', h => by
    obtain ⟨defs1, used1, maxId1, rest, used2, maxId2, h1, h2, e⟩ := shrinkDefs_cons_inv h
    cases e
    obtain ⟨m2, u2, _, f2⟩ := shrinkDefs_spec ds used1 maxId1 rest _ _ h2
    obtain ⟨body, st, hb, e⟩ := shrinkDef_inv h1
    cases e
    have m1 : maxId ≤ st.maxId := (shrinkStmt_mono _ _ _ _ _ _ hb).le
    obtain ⟨g, l, hu, hl, _, hdis, hperm⟩ := shrinkStmt_labelsExt _ _ _ _ _ _ hb
    simp only [List.append_nil] at hl
    simp only at hu
    have himg : DefImage data codata d ⟨sid d.name, shrinkContext codata d.ctx, body⟩ maxId
        (⟨sid d.name, shrinkContext codata d.ctx, body⟩ :: st.lifted ++ rest) used := by
      refine ⟨body, _, st, rfl, hb, Nat.le_refl _, ?_⟩
      intro d'' hd''
      refine ⟨by simp [hd''], ?_⟩
      have : d''.name ∈ l.map (·.name) := List.mem_map.mpr ⟨d'', by rw [← hl]; exact hd'', rfl⟩
      obtain ⟨x, hx, hxe⟩ := List.mem_map.mp ((hperm.mem_iff).mp this)
      exact ⟨x, hxe.symm, hdis x hx⟩
    refine ⟨by omega, fun u hu' => u2 u (by rw [hu]; simp [hu']), ?_, ?_⟩
    · intro d0 ds0 e
      simp only [List.cons.injEq] at e
      obtain ⟨rfl, rfl⟩ := e
      exact ⟨_, _, rfl, himg⟩
    · intro f d0 hf hfind
      simp only [List.find?_cons] at hfind
      simp only [List.cons_append, List.find?_cons]
      by_cases hn : d.name = f
      · simp only [hn, decide_true] at hfind
        simp only [Option.some.injEq] at hfind
        subst hfind
        subst hn
        exact ⟨_, by simp, himg⟩
      · simp only [hn, decide_false] at hfind
        have hne : (sid d.name == sid f) = false := by rw [sid_beq]; simpa using hn
        simp only [hne]
        -- the lifted definitions are not called `f`
        have hlift : st.lifted.find? (fun d' => d'.name == sid f) = none := by
          rw [List.find?_eq_none]
          intro d' hd' hc
          have hc' : d'.name = sid f := eq_of_beq hc
          have : d'.name ∈ l.map (·.name) := List.mem_map.mpr ⟨d', by rw [← hl]; exact hd', rfl⟩
          have := (hperm.mem_iff).mp this
          obtain ⟨x, hx, hxe⟩ := List.mem_map.mp this
          exact hdis x hx f hf (print_eq_of_sid_eq (by rw [hxe, hc']))
        rw [List.find?_append, hlift]
        simp only [Option.none_or]
        obtain ⟨d', h3, b', s0, s1, h4, h5, h6, h7⟩ := f2 f d0 (by rw [hu]; simp [hf]) hfind
        refine ⟨d', h3, b', s0, s1, h4, h5, by omega, ?_⟩
        intro d'' hd''
        obtain ⟨g1, x, g2, g3⟩ := h7 d'' hd''
        exact ⟨by simp [g1], x, g2, fun u hu' => g3 u (by rw [hu]; simp [hu'])⟩

theorem find_of_count : ∀ (l : List AxCut.Def) (d : AxCut.Def), d ∈ l → (l.map (·.name)).count d.name ≤ 1 →
    l.find? (fun e => e.name == d.name) = some d
  | [], _, h, _ => by simp at h
  | e :: l, d, hm, hc => by
    simp only [List.map_cons, List.count_cons] at hc
    simp only [List.find?_cons]
    by_cases he : e.name = d.name
    · simp only [he, beq_self_eq_true, if_true] at hc ⊢
      rcases List.mem_cons.mp hm with rfl | hm'
      · rfl
      · have : 1 ≤ (l.map (·.name)).count d.name :=
          List.one_le_count_iff.mpr (List.mem_map.mpr ⟨d, hm', rfl⟩)
        omega
    · have he' : (e.name == d.name) = false := by simpa using he
      simp only [he', Bool.false_eq_true, if_false, Nat.add_zero] at hc ⊢
      rcases List.mem_cons.mp hm with rfl | hm'
      · exact absurd rfl he
      · exact find_of_count l d hm' hc

theorem good_of_labels {defs : List AxCut.Def} {pnames g : List Core.Ident}
    (hperm : (defs.map (·.name)).Perm (pnames.map sid ++ g.map sid)) (hnd : (g.map (·.print)).Nodup)
    (d : AxCut.Def) (hd : d ∈ defs) (x : Core.Ident) (hx : d.name = sid x)
    (hdis : ∀ u ∈ pnames, x.print ≠ u.print) : defs.find? (fun e => e.name == d.name) = some d := by
  apply find_of_count defs d hd
  rw [hperm.count_eq, List.count_append]
  have h1 : (pnames.map sid).count d.name = 0 := by
    rw [List.count_eq_zero]
    intro hm
    obtain ⟨u, hu, hue⟩ := List.mem_map.mp hm
    rw [hx] at hue
    exact hdis u hu (by rw [sid_inj hue])
  have h2 : (g.map sid).Nodup := by
    apply nodup_of_map AxCut.Ident.print
    rw [List.map_map]
    exact hnd
  have := List.nodup_iff_count.mp h2 d.name
  omega

/-! ## the hypotheses of the theorem give the invariant at the start of every definition -/

theorem agree_hId (Γ : Core.Ctx) : Agree Γ hId id := fun _ _ => rfl

theorem invB_start {d : Core.FsDef} {maxId m : Nat} (hu : uniqueIdsDef d = true) (hb : idsBoundedDef maxId d = true)
    (hm : maxId ≤ m) : InvB d.ctx id d.body.binderIds m := by
  simp only [uniqueIdsDef, nodupNat_iff, List.map_append, bindersStmt_ids] at hu
  simp only [idsBoundedDef, List.all_eq_true, List.mem_append, decide_eq_true_eq] at hb
  have hnd := List.nodup_append.mp hu
  refine ⟨hnd.2.1, fun _ _ => rfl, ?_, fun i hi => Nat.le_trans (hb i (.inr hi)) hm⟩
  intro b hocc
  have hmem : b.var.id ∈ d.ctx.map (·.var.id) := List.mem_map.mpr ⟨b, occFs_mem hocc, rfl⟩
  exact ⟨fun hc => hnd.2.2 _ hmem _ hc rfl, Nat.le_trans (hb _ (.inl (by simpa [Core.ctxIds] using hmem))) hm⟩

/-- the definitions of `p` and their images in `q` -/
theorem progRel_of_shrink {p : Core.FsProg} {q : AxCut.Prog} (hwt : wtFsScopedCheck p = true)
    (hu : uniqueIdsCheck p = true) (hb : idsBoundedCheck p = true)
    (h : shrinkProg p = .ok q) : ProgRel (progTEnv p) q p := by
  refine ⟨rfl, ?_⟩
  intro f d hfind
  have hmem : d ∈ p.defs := List.mem_of_find?_eq_some hfind
  have hname : d.name = f := by simpa using List.find?_some hfind
  simp only [wtFsScopedCheck, wtFsCheck, Bool.and_eq_true, List.all_eq_true] at hwt
  simp only [uniqueIdsCheck, List.all_eq_true] at hu
  simp only [idsBoundedCheck, List.all_eq_true] at hb
  obtain ⟨defs, used, m, hd, rfl⟩ := shrinkProg_inv h
  obtain ⟨_, _, _, hspec⟩ := shrinkDefs_spec _ _ _ _ _ _ hd
  obtain ⟨g, _, hgnd, _, hperm⟩ := shrinkDefs_labels _ _ _ _ _ _ hd
  obtain ⟨d', h1, body, st0, st1, rfl, h3, h4, h7⟩ := hspec f d
    (List.mem_map.mpr ⟨d, hmem, hname⟩) hfind
  have hgood : Good ⟨defs, (p.dataTypes ++ [contInt]).map (shrinkDeclaration p.codataTypes) ++
      p.codataTypes.map (shrinkDeclaration p.codataTypes), m⟩ st1 := by
    intro d'' hd''
    obtain ⟨g1, x, g2, g3⟩ := h7 d'' hd''
    exact good_of_labels (pnames := p.defs.map (·.name)) (by simpa [List.map_map, Function.comp_def] using hperm) hgnd d'' g1 x g2 g3
  have hud := hu d hmem
  have hnd : (d.ctx.map fun b => b.var.id).Nodup := by
    simp only [uniqueIdsDef, nodupNat_iff, List.map_append] at hud
    exact (List.nodup_append.mp hud).1
  refine ⟨_, h1, axIds_shrinkContext _ _, hnd, ?_⟩
  have hE : EnvMatches ⟨p.dataTypes ++ [contInt], p.codataTypes, d.name.name⟩ (progTEnv p) := ⟨rfl, rfl⟩
  exact (shrinkStmt_tr _ hE (sizeStmt d.body + 1) d.ctx id d.body st0 body st1
    (by rw [renStmt_id]; exact h3) hgood (hwt.1.2 d hmem) (hwt.2 d hmem)
    (invB_start hud (hb d hmem) h4)).1 hId (agree_hId _)

theorem entryEnv_int : ∀ (ctx : Core.Ctx) (args : List (BitVec 64)),
    (∀ b ∈ ctx, b.chi = .prd ∧ b.ty = .i64) →
    (ctx.length = args.length →
      Core.entryEnv (S := Core.FsStmt) (C := Core.FsClauses) ctx args = Core.Env.bind [] ctx (args.map .int)) ∧
    (ctx.length ≠ args.length →
      Core.entryEnv (S := Core.FsStmt) (C := Core.FsClauses) ctx args = .error .arity)
  | [], [], _ => ⟨fun _ => rfl, fun h => absurd rfl h⟩
  | [], _ :: _, _ => ⟨fun h => by simp at h, fun _ => rfl⟩
  | b :: bs, [], hb => by
    refine ⟨fun h => by simp at h, fun _ => ?_⟩
    have := (hb b (by simp)).1
    simp [Core.entryEnv, this]
  | b :: bs, a :: as, hb => by
    have h1 := (hb b (by simp)).1
    obtain ⟨i1, i2⟩ := entryEnv_int bs as (fun b hb' => hb b (by simp [hb']))
    constructor
    · intro hl
      simp only [Core.entryEnv, h1, List.map_cons, Core.Env.bind]
      rw [i1 (by simpa using hl)]
    · intro hl
      simp only [Core.entryEnv, h1]
      rw [i2 (by simpa using hl)]

theorem bindParams_none : ∀ (ctx : AxCut.Ctx) (vs : List Value), ctx.length ≠ vs.length → bindParams ctx vs = none
  | [], [], h => absurd rfl h
  | [], _ :: _, _ => rfl
  | _ :: _, [], _ => rfl
  | b :: bs, v :: vs, h => by
    simp [bindParams, bindParams_none bs vs (by simpa using h)]

theorem vrelL_ints {E : TEnv} {q : AxCut.Prog} : ∀ (ctx : Core.Ctx) (args : List (BitVec 64)),
    (∀ b ∈ ctx, b.chi = .prd ∧ b.ty = .i64) → ctx.length = args.length →
    VRelL E q ctx (args.map .int) (args.map .int)
  | [], [], _, _ => .nil
  | [], _ :: _, _, h => by simp at h
  | _ :: _, [], _, h => by simp at h
  | b :: bs, a :: as, hb, hl => by
    refine .cons ?_ (vrelL_ints bs as (fun b hb' => hb b (by simp [hb'])) (by simpa using hl))
    rw [(hb b (by simp)).1, (hb b (by simp)).2]
    exact .int a

/-- under the hypotheses of `C04_sem`: the definitions are related, and either both machines start, in
    related states with empty traces, or both refuse to start (wrong number of arguments) -/
theorem sem_entry {p : Core.FsProg} {q : AxCut.Prog} (args : List (BitVec 64))
    (hwt : wtFsScopedCheck p = true) (hu : uniqueIdsCheck p = true) (hb : idsBoundedCheck p = true)
    (hint : mainIntParams p = true)
    (hmain : ∃ d ds, p.defs = d :: ds ∧ d.name.name = "main") (h : shrinkProg p = .ok q) :
    ProgRel (progTEnv p) q p ∧
    ((∃ cs as, StRel (progTEnv p) q cs as ∧ cs.out = [] ∧
        (∀ n, Core.fsRun p args n = Core.fsStepN p n cs) ∧
        (∀ m, AxCut.Named.run q args m = AxCut.Named.iterate q m as)) ∨
     ((∀ n, Core.fsRun p args n = ⟨[], .stuck .arity⟩) ∧
      (∀ m, AxCut.Named.run q args m = ⟨[], .stuck "main: arity"⟩))) := by
  have hp := progRel_of_shrink hwt hu hb h
  obtain ⟨d, ds, hdefs, hname⟩ := hmain
  have hfind : p.defs.find? (fun d => d.name.name = Core.mainName) = some d := by
    simp [hdefs, hname, Core.mainName]
  have hints : ∀ b ∈ d.ctx, b.chi = .prd ∧ b.ty = .i64 := by
    simp only [mainIntParams, hdefs, List.all_eq_true, Bool.and_eq_true, beq_iff_eq] at hint
    exact hint
  -- the image of `d` is the first definition of `q`
  obtain ⟨d', hfd, hids, hnd, htr⟩ := hp.2 d.name d (by simp [hdefs])
  obtain ⟨rest, hqdefs⟩ : ∃ rest, q.defs = d' :: rest := by
    obtain ⟨defs, used, m, hd, rfl⟩ := shrinkProg_inv h
    obtain ⟨_, _, hhead, _⟩ := shrinkDefs_spec _ _ _ _ _ _ hd
    obtain ⟨d0, rest, e1, body, st0, st1, rfl, _⟩ := hhead d ds hdefs
    simp only [findDef, e1, List.find?_cons, beq_self_eq_true, Option.some.injEq] at hfd
    exact ⟨rest, by rw [e1, hfd]⟩
  have hlen' : d'.ctx.length = d.ctx.length := by
    have := congrArg List.length hids
    simpa [axIds] using this
  by_cases hlen : d.ctx.length = args.length
  · -- both machines start
    obtain ⟨ρ, e, h4, h5, h6⟩ := EnvRel.bind (E := progTEnv p) (q := q) envRel_nil d.ctx d'.ctx _ _
      (vrelL_ints d.ctx args hints hlen) hlen'
      (by rw [hids]; exact hnd) (by intro i _ b hb; simp [occFs, lookupFs] at hb)
    rw [hids, setMany_hId] at h6
    simp only [List.append_nil] at h6
    have hcore : ∀ n, Core.fsRun p args n = Core.fsStepN p n ⟨d.body, ρ, []⟩ := by
      intro n
      simp only [Core.fsRun, hfind, (entryEnv_int d.ctx args hints).1 hlen, h4]
    have hax : ∀ m, AxCut.Named.run q args m = AxCut.Named.iterate q m ⟨d'.body, e, []⟩ := by
      intro m
      simp only [AxCut.Named.run, hqdefs, h5]
    exact ⟨hp, .inl ⟨_, _, stRel_mk htr h6, rfl, hcore, hax⟩⟩
  · -- wrong number of arguments: both machines refuse to start
    have hcore : ∀ n, Core.fsRun p args n = ⟨[], .stuck .arity⟩ := by
      intro n
      simp only [Core.fsRun, hfind, (entryEnv_int d.ctx args hints).2 hlen]
    have hax : ∀ m, AxCut.Named.run q args m = ⟨[], .stuck "main: arity"⟩ := by
      intro m
      simp only [AxCut.Named.run, hqdefs, bindParams_none d'.ctx (args.map Value.int) (by simp [hlen', hlen])]
    exact ⟨hp, .inr ⟨hcore, hax⟩⟩

/-- the behaviours of the two machines on `p` and `shrinkProg p` correspond, in both directions -/
theorem sem_runs {p : Core.FsProg} {q : AxCut.Prog} (args : List (BitVec 64))
    (hwt : wtFsScopedCheck p = true) (hu : uniqueIdsCheck p = true) (hb : idsBoundedCheck p = true)
    (hint : mainIntParams p = true)
    (hmain : ∃ d ds, p.defs = d :: ds ∧ d.name.name = "main") (h : shrinkProg p = .ok q) :
    (∀ n, CFin (Core.fsRun p args n).res →
      ∃ m, (AxCut.Named.run q args m).out = (Core.fsRun p args n).out ∧
        ResMatch (Core.fsRun p args n).res (AxCut.Named.run q args m).res) ∧
    (∀ m, Fin (AxCut.Named.run q args m).res →
      ∃ n, (Core.fsRun p args n).out = (AxCut.Named.run q args m).out ∧
        ResMatch (Core.fsRun p args n).res (AxCut.Named.run q args m).res) := by
  obtain ⟨hp, ⟨cs, as, hrel, _, hcore, hax⟩ | ⟨hcore, hax⟩⟩ := sem_entry args hwt hu hb hint hmain h
  · constructor
    · intro n hf
      rw [hcore] at hf ⊢
      obtain ⟨m, h1, h2⟩ := Strong.sim_forwardS (sim_stRel hp) n _ _ hrel hf
      exact ⟨m, by rw [hax]; exact h1, by rw [hax]; exact h2.weaken⟩
    · intro m hf
      rw [hax] at hf ⊢
      obtain ⟨n, h1, h2⟩ := Strong.sim_backwardS (sim_stRel hp) m _ _ _ hrel (Nat.le_refl _) hf
      exact ⟨n, by rw [hcore]; exact h1, by rw [hcore]; exact h2.weaken⟩
  · constructor
    · intro n _
      exact ⟨0, by rw [hax, hcore], by rw [hax, hcore]; exact ⟨_, rfl⟩⟩
    · intro m _
      exact ⟨0, by rw [hax, hcore], by rw [hax, hcore]; exact ⟨_, rfl⟩⟩

end Scc.Core2AxCut.Sem
