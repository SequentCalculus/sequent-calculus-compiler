/-
  Scc.Core2AxCut.FreeVarsSpec — the textbook (scoped) definition of the typed free variables of a
  focused Core statement, and of its binders.  Spec for C04 ("statements lifted to new top-level
  definitions receive exactly their free variables"); not transcribed from Rust — the Rust function
  `typed_free_vars` (model: `tfvStmt`) threads ONE set through the traversal and removes binders after
  their scope, which is only correct on statements with unique binders
  (`Scc/Core2AxCut/FreeVars.lean: tfvStmt_correct`).   Core imports only.

  A typed variable occurrence is the binding `(identifier, chirality, type)` as annotated at the
  occurrence; integer operands of `op`, `ifc`, `print`, `exit` occur as `prd i64`.
-/
import Scc.Core2AxCut.Model

namespace Scc.Core2AxCut

/-- `b` is none of the bindings of `ctx` -/
def notIn (ctx : Core.Ctx) (b : Core.Binding) : Bool := ctx.all (fun c => decide (b ≠ c))

theorem notIn_iff {ctx : Core.Ctx} {b : Core.Binding} : notIn ctx b = true ↔ b ∉ ctx := by
  simp only [notIn, List.all_eq_true, decide_eq_true_eq]
  constructor
  · intro h hm; exact h b hm rfl
  · intro h c hc heq; subst heq; exact h hc

mutual
  /-- free typed variables, with proper scoping: a (tilde-)mu binds its variable in its body, a
      clause binds its parameters in its body -/
  def fvTerm : Core.FsTerm → List Core.Binding
    | .var pc v ty => [⟨v, pc, ty⟩]
    | .lit _ => []
    | .op a _ b => [⟨a, .prd, .i64⟩, ⟨b, .prd, .i64⟩]
    | .mu pc v ty s => (fvStmt s).filter (fun b => decide (b ≠ ⟨v, flipPC pc, ty⟩))
    | .xtor _ _ args _ => args
    | .xcase _ _ cs => fvClauses cs
  def fvClauses : Core.FsClauses → List Core.Binding
    | .nil => []
    | .cons _ ctx body rest => (fvStmt body).filter (notIn ctx) ++ fvClauses rest
  def fvStmt : Core.FsStmt → List Core.Binding
    | .cut _ p c => fvTerm p ++ fvTerm c
    | .ifc _ a none t e => ⟨a, .prd, .i64⟩ :: (fvStmt t ++ fvStmt e)
    | .ifc _ a (some b) t e => ⟨a, .prd, .i64⟩ :: ⟨b, .prd, .i64⟩ :: (fvStmt t ++ fvStmt e)
    | .print _ a n => ⟨a, .prd, .i64⟩ :: fvStmt n
    | .call _ args => args
    | .exit a => [⟨a, .prd, .i64⟩]
end

mutual
  /-- all binders of a statement (mu variables with their chirality and type, clause parameters) -/
  def bindersTerm : Core.FsTerm → List Core.Binding
    | .var _ _ _ => []
    | .lit _ => []
    | .op _ _ _ => []
    | .mu pc v ty s => ⟨v, flipPC pc, ty⟩ :: bindersStmt s
    | .xtor _ _ _ _ => []
    | .xcase _ _ cs => bindersClauses cs
  def bindersClauses : Core.FsClauses → List Core.Binding
    | .nil => []
    | .cons _ ctx body rest => ctx ++ (bindersStmt body ++ bindersClauses rest)
  def bindersStmt : Core.FsStmt → List Core.Binding
    | .cut _ p c => bindersTerm p ++ bindersTerm c
    | .ifc _ _ _ t e => bindersStmt t ++ bindersStmt e
    | .print _ _ n => bindersStmt n
    | .call _ _ => []
    | .exit _ => []
end

/-- the invariant assumed by core2axcut ("all variable bindings in each path through a program
    are unique"), in the form needed here: no binder occurs twice in the statement and no binder is
    also a free variable of the statement -/
def UniqueBinders (s : Core.FsStmt) : Prop :=
  (bindersStmt s).Nodup ∧ ∀ β ∈ bindersStmt s, β ∉ fvStmt s

/-! ## what `lift` does with the free variables (spec side of `liftFresh`) -/

/-- the parameter list of a lifted definition: the i-th free variable (i = 0, 1, ..) keeps its name,
    chirality and type and gets the fresh id `m + 1 + i` -/
def liftParams (m : Nat) : List Core.Binding → List Core.Binding
  | [] => []
  | b :: bs => { b with var := ⟨b.var.name, m + 1⟩ } :: liftParams (m + 1) bs

/-- the renaming applied to the lifted statement: id of the i-th free variable ↦ i-th parameter -/
def liftSubst (m : Nat) : List Core.Binding → List (Nat × Core.Ident)
  | [] => []
  | b :: bs => (b.var.id, ⟨b.var.name, m + 1⟩) :: liftSubst (m + 1) bs

/-! ## a decidable check run on the S3 dumps: together with scoping (`scStmt d.ctx d.body`) it gives `UniqueBinders`
(`invB_start`, Scc/Core2AxCut/SemProg.lean, and `lift_run`, SemLift.lean) -/

def nodupNat : List Nat → Bool
  | [] => true
  | x :: xs => !(xs.contains x) && nodupNat xs

theorem nodupNat_iff : ∀ (l : List Nat), nodupNat l = true ↔ l.Nodup
  | [] => by simp [nodupNat]
  | x :: xs => by simp [nodupNat, nodupNat_iff xs]

/-- the ids of the parameters and of all binders of a definition are pairwise distinct -/
def uniqueIdsDef (d : Core.FsDef) : Bool :=
  nodupNat ((d.ctx ++ bindersStmt d.body).map (·.var.id))

def uniqueIdsCheck (p : Core.FsProg) : Bool := p.defs.all uniqueIdsDef

end Scc.Core2AxCut
