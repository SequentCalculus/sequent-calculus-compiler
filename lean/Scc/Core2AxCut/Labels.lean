/-
  Scc.Core2AxCut.Labels — the labels drawn by `lift` (cut.rs: fn lift, the `while` loop over `used_labels`).
  The loop terminates within the fuel `|used_labels| + 1` that `lift` passes (the
  model's `LABELFUEL` outcome is unreachable): the candidates `base_(m+1)`, `base_(m+2)`, .. have pairwise
  distinct printed forms, so at most `|used_labels|` of them can be used (pigeonhole, `drawLabel_ne_error`).  The
  label returned differs in printed form from every used label (`drawLabel_spec`, `lift_label`).  Over a whole
  statement `used_labels` only grows, by labels with pairwise distinct printed forms that name exactly the lifted
  definitions (`LabelsExt`), so the definitions of the output program have distinct printed names if those of the
  input have (`shrinkProg_labels_nodup`).  `shrinkStmt_rel` is the frame rule these and the later state invariants
  go through: a preorder on states that holds for steps changing only `max_id` (`Frame`) and for `lift` holds for
  `shrinkStmt`.
-/
import Scc.Core2AxCut.CutRun
import Std.Data.String.ToNat

namespace Scc.Core2AxCut

theorem print_shrinkIdentifier (i : Core.Ident) : (shrinkIdentifier i).print = i.print := rfl

/-- the printed forms `base_(n+1)` determine `n` -/
theorem print_fresh_inj (base : String) {n m : Nat}
    (h : (⟨base, n + 1⟩ : Core.Ident).print = (⟨base, m + 1⟩ : Core.Ident).print) : n = m := by
  simpa [Core.Ident.print] using h

theorem labelUsed_iff {used : List Core.Ident} {l : Core.Ident} :
    labelUsed used l = true ↔ ∃ u ∈ used, u.print = l.print := by
  simp [labelUsed]

theorem labelUsed_false {used : List Core.Ident} {l : Core.Ident} :
    labelUsed used l = false ↔ ∀ u ∈ used, u.print ≠ l.print := by
  simp [labelUsed]

/-- a step that leaves `used_labels` and `lifted_statements` alone and does not decrease `max_id` -/
def Frame (a b : St) : Prop := b.usedLabels = a.usedLabels ∧ b.lifted = a.lifted ∧ a.maxId ≤ b.maxId

theorem Frame.refl (a : St) : Frame a a := ⟨rfl, rfl, Nat.le_refl _⟩

theorem Frame.trans {a b c : St} (h1 : Frame a b) (h2 : Frame b c) : Frame a c :=
  ⟨h2.1.trans h1.1, h2.2.1.trans h1.2.1, Nat.le_trans h1.2.2 h2.2.2⟩

theorem freshIdentifier_frame (st : St) (base : String) : Frame st (freshIdentifier st base).2 :=
  ⟨rfl, rfl, Nat.le_succ _⟩

/-- if the loop runs out of fuel, all `fuel` candidates were used -/
theorem drawLabel_error (base : String) : ∀ fuel st e, drawLabel base fuel st = .error e →
    ∀ i, i < fuel → labelUsed st.usedLabels ⟨base, st.maxId + i + 1⟩ = true
  | 0, _, _, _, i, hi => by omega
  | fuel + 1, st, e, h, i, hi => by
    simp only [drawLabel] at h
    split at h
    · rename_i hu
      cases i with
      | zero => simpa [freshIdentifier] using hu
      | succ j =>
        have := drawLabel_error base fuel _ e h j (by omega)
        simp only [freshIdentifier] at this
        have e : st.maxId + 1 + j + 1 = st.maxId + (j + 1) + 1 := by omega
        rwa [e] at this
    · cases h

/-- cut.rs: fn lift — the `while` loop terminates within `|used_labels| + 1` draws: the model's
    fuel error is unreachable -/
theorem drawLabel_ne_error (base : String) (st : St) (e : String) :
    drawLabel base (st.usedLabels.length + 1) st ≠ .error e := by
  intro h
  have hall := drawLabel_error base _ st e h
  let cands := (List.range (st.usedLabels.length + 1)).map
    fun i => (⟨base, st.maxId + i + 1⟩ : Core.Ident).print
  have hnd : cands.Nodup := by
    refine List.Pairwise.map _ ?_ List.nodup_range
    intro a b hab h
    have := print_fresh_inj base h
    omega
  have hsub : cands ⊆ st.usedLabels.map (·.print) := by
    intro x hx
    simp only [cands, List.mem_map, List.mem_range] at hx
    obtain ⟨i, hi, rfl⟩ := hx
    obtain ⟨u, hu, he⟩ := labelUsed_iff.mp (hall i hi)
    exact List.mem_map.mpr ⟨u, hu, he⟩
  have := List.Nodup.length_le_of_subset hnd hsub
  simp [cands] at this
  omega

theorem drawLabel_ok (base : String) (st : St) : ∃ r, drawLabel base (st.usedLabels.length + 1) st = .ok r := by
  cases h : drawLabel base (st.usedLabels.length + 1) st with
  | error e => exact absurd h (drawLabel_ne_error base st e)
  | ok r => exact ⟨r, rfl⟩

/-- the label returned by the loop: it has the base name and the final `max_id` as id, its printed
    form is not the printed form of a used label, and it is the FIRST such candidate (all
    candidates with smaller ids are used) -/
theorem drawLabel_spec (base : String) : ∀ fuel st label st1, drawLabel base fuel st = .ok (label, st1) →
    Frame st st1 ∧ label = ⟨base, st1.maxId⟩ ∧ st.maxId < st1.maxId ∧
      (∀ u ∈ st.usedLabels, u.print ≠ label.print) ∧
      (∀ j, st.maxId < j → j < st1.maxId → labelUsed st.usedLabels ⟨base, j⟩ = true)
  | 0, _, _, _, h => by simp [drawLabel] at h
  | fuel + 1, st, label, st1, h => by
    simp only [drawLabel] at h
    split at h
    · rename_i hused
      obtain ⟨hf, hl, hm, hu, hmin⟩ := drawLabel_spec base fuel _ label st1 h
      simp only [freshIdentifier] at hm hmin hused
      refine ⟨(freshIdentifier_frame st base).trans hf, hl, by omega, hu, ?_⟩
      intro j h1 h2
      by_cases hj : j = st.maxId + 1
      · rw [hj]; exact hused
      · exact hmin j (by omega) h2
    · rename_i hu
      simp only [freshIdentifier, Except.ok.injEq, Prod.mk.injEq] at h
      obtain ⟨rfl, rfl⟩ := h
      refine ⟨freshIdentifier_frame st base, rfl, Nat.lt_succ_self _, ?_, ?_⟩
      · exact labelUsed_false.mp (by simpa [freshIdentifier] using hu)
      · intro j h1 h2
        simp only at h2
        omega

theorem freshenCtx_frame : ∀ c st, Frame st (freshenCtx c st).2
  | [], st => by simp [freshenCtx, Frame.refl]
  | b :: bs, st => by
    simp only [freshenCtx]
    exact (freshIdentifier_frame st b.var.name).trans (freshenCtx_frame bs _)

theorem unknownClauses_frame (env : Env) (v ty) : ∀ xs st, Frame st (unknownClauses env v ty xs st).2
  | [], st => by simp [unknownClauses, Frame.refl]
  | x :: xs, st => by
    simp only [unknownClauses]
    exact (freshenCtx_frame _ st).trans (unknownClauses_frame env v ty xs _)

theorem criticalClauses_frame (env : Env) (v ty e) : ∀ xs st, Frame st (criticalClauses env v ty e xs st).2
  | [], st => by simp [criticalClauses, Frame.refl]
  | x :: xs, st => by
    simp only [criticalClauses]
    exact ((freshenCtx_frame _ st).trans (freshIdentifier_frame _ _)).trans
      (criticalClauses_frame env v ty e xs _)

theorem liftFresh_frame : ∀ bs st, Frame st (liftFresh bs st).2
  | [], st => by simp [liftFresh, Frame.refl]
  | b :: bs, st => by
    simp only [liftFresh]
    exact (freshIdentifier_frame st b.var.name).trans (liftFresh_frame bs _)

/-- a relation between the state before and after a piece of the translation that is a preorder and
    holds for every step that only increases `max_id` -/
structure FramePreorder (R : St → St → Prop) : Prop where
  refl : ∀ st, R st st
  trans : ∀ {a b c}, R a b → R b c → R a c
  frame : ∀ {a b}, Frame a b → R a b

def RecRel (R : St → St → Prop) (rec : Rec) : Prop := ∀ s st r st', rec s st = .ok (r, st') → R st st'

section rel
variable {R : St → St → Prop} (hR : FramePreorder R) {env : Env} {rec : Rec} (hrec : RecRel R rec)
include hR hrec

theorem shrinkClauses_rel : ∀ cs st r st', shrinkClauses env rec cs st = .ok (r, st') → R st st'
  | .nil, st, r, st', h => by
    cases h
    exact hR.refl _
  | .cons x ctx body rest, st, r, st', h => by
    obtain ⟨_, st1, _, hb, hr, _⟩ := shrinkClauses_cons_inv h
    exact hR.trans (hrec _ _ _ _ hb) (shrinkClauses_rel rest st1 _ st' hr)

omit hrec in
theorem shrinkUnknownCuts_rel (v1 v2 ty st r st') (h : shrinkUnknownCuts env v1 v2 ty st = .ok (r, st')) :
    R st st' := by
  cases ty with
  | i64 =>
    cases h
    exact hR.refl _
  | decl name =>
    obtain ⟨_, _, _, rfl⟩ := shrinkUnknownCuts_decl_inv h
    exact hR.frame (unknownClauses_frame _ _ _ _ _)

omit hR in
theorem shrinkKnownCuts_rel (name args cs st r st') (h : shrinkKnownCuts rec name args cs st = .ok (r, st')) :
    R st st' := by
  obtain ⟨_, _, _, h⟩ := shrinkKnownCuts_inv h
  exact hrec _ _ _ _ h

theorem criticalDecl_rel (hlift : RecRel R (lift env rec)) (d name tt vK sK vE sE st r st')
    (h : criticalDecl env rec d name tt vK sK vE sE st = .ok (r, st')) : R st st' := by
  obtain ⟨e, st1, k, he, hk, _⟩ := criticalDecl_inv h
  have h1 : R st st1 := by
    split at he
    · exact hrec _ _ _ _ he
    · exact hlift _ _ _ _ he
  exact hR.trans h1 (hR.trans (hR.frame (criticalClauses_frame _ _ _ _ _ _)) (hrec _ _ _ _ hk))

theorem shrinkCriticalPairs_rel (hlift : RecRel R (lift env rec)) (v1 s1 v2 s2 ty st r st')
    (h : shrinkCriticalPairs env rec v1 s1 v2 s2 ty st = .ok (r, st')) : R st st' := by
  cases ty with
  | i64 =>
    obtain ⟨_, _, _, hb, hc, _⟩ := shrinkCriticalPairs_i64_inv h
    exact hR.trans (hrec _ _ _ _ hb) (hrec _ _ _ _ hc)
  | decl name =>
    obtain ⟨_, _, h⟩ := shrinkCriticalPairs_decl_inv h
    split at h <;> exact criticalDecl_rel hR hrec hlift _ _ _ _ _ _ _ _ _ _ h

theorem shrinkCut_rel (hlift : RecRel R (lift env rec)) (ty p c st r st')
    (h : shrinkCut env rec ty p c st = .ok (r, st')) : R st st' := by
  cases shrinkCut_run h with
  | muVar h | varMu h | litMu h | opMu h | xtorMu h | muXtor h => exact hrec _ _ _ _ h
  | xtorXcase h | xcaseXtor h => exact shrinkKnownCuts_rel hrec _ _ _ _ _ _ h
  | varVar h => exact shrinkUnknownCuts_rel hR _ _ _ _ _ _ h
  | muMu h => exact shrinkCriticalPairs_rel hR hrec hlift _ _ _ _ _ _ _ _ h
  | litVar | opVar => exact hR.frame (freshIdentifier_frame _ _)
  | xtorVar | varXtor => exact hR.refl _
  | varXcase h | xcaseVar h => exact shrinkClauses_rel hR hrec _ _ _ _ h
  | muXcase h1 h2 | xcaseMu h1 h2 => exact hR.trans (shrinkClauses_rel hR hrec _ _ _ _ h1) (hrec _ _ _ _ h2)

theorem shrinkStmtStep_rel (hlift : RecRel R (lift env rec)) (s st r st')
    (h : shrinkStmtStep env rec s st = .ok (r, st')) : R st st' := by
  cases s with
  | cut ty p c => exact shrinkCut_rel hR hrec hlift ty p c st r st' h
  | ifc sort a b t e =>
    obtain ⟨_, _, _, ht, he, _⟩ := wrap2_inv h
    exact hR.trans (hrec _ _ _ _ ht) (hrec _ _ _ _ he)
  | print nl a nx =>
    obtain ⟨_, hn, _⟩ := wrap_inv h
    exact hrec _ _ _ _ hn
  | call f args =>
    cases h
    exact hR.refl _
  | exit a =>
    cases h
    exact hR.refl _

end rel

/-- the frame rule: a preorder on states that holds for `max_id`-only steps and is preserved by
    `lift` (given that it holds for the recursive calls) holds for `shrinkStmt` -/
theorem shrinkStmt_rel {R : St → St → Prop} (hR : FramePreorder R) {env : Env}
    (hlift : ∀ rec, RecRel R rec → RecRel R (lift env rec)) : ∀ fuel, RecRel R (shrinkStmt env fuel)
  | 0 => by
    intro s st r st' h
    simp [shrinkStmt] at h
  | fuel + 1 => by
    intro s st r st' h
    have ih := shrinkStmt_rel hR hlift fuel
    exact shrinkStmtStep_rel hR ih (hlift _ ih) s st r st' h

/-! ## `used_labels` grows by fresh, pairwise distinct labels that name the lifted definitions -/

/-- `st'` is reached from `st` by choosing the labels `g` (latest first) and pushing the definitions
    `l`: the printed forms of the new labels are pairwise distinct and differ from the printed form
    of every label used before; the new definitions are named exactly by the new labels -/
def LabelsExt (st st' : St) : Prop :=
  ∃ (g : List Core.Ident) (l : List AxCut.Def),
    st'.usedLabels = g ++ st.usedLabels ∧ st'.lifted = l ++ st.lifted ∧
    (g.map (·.print)).Nodup ∧ (∀ x ∈ g, ∀ u ∈ st.usedLabels, x.print ≠ u.print) ∧
    (l.map (·.name)).Perm (g.map shrinkIdentifier)

theorem LabelsExt.framePreorder : FramePreorder LabelsExt where
  refl := fun st => ⟨[], [], by simp⟩
  frame := by
    intro a b h
    exact ⟨[], [], by simp [h.1], by simp [h.2.1], by simp, by simp, by simp⟩
  trans := by
    intro a b c h1 h2
    obtain ⟨g1, l1, hu1, hl1, hn1, hd1, hp1⟩ := h1
    obtain ⟨g2, l2, hu2, hl2, hn2, hd2, hp2⟩ := h2
    refine ⟨g2 ++ g1, l2 ++ l1, by simp [hu2, hu1], by simp [hl2, hl1], ?_, ?_, ?_⟩
    · rw [List.map_append, List.nodup_append]
      refine ⟨hn2, hn1, ?_⟩
      intro x hx y hy hxy
      obtain ⟨x', hx', rfl⟩ := List.mem_map.mp hx
      obtain ⟨y', hy', rfl⟩ := List.mem_map.mp hy
      exact hd2 x' hx' y' (by rw [hu1]; simp [hy']) hxy
    · intro x hx u hu
      rcases List.mem_append.mp hx with h | h
      · exact hd2 x h u (by rw [hu1]; simp [hu])
      · exact hd1 x h u hu
    · rw [List.map_append, List.map_append]
      exact List.Perm.append hp2 hp1

/-- cut.rs: fn lift — the label chosen: its printed form differs from the printed form of every
    label in `used_labels` at the time of the call; it is inserted into `used_labels` before the
    body is translated; the call goes to it and the definition pushed afterwards carries it -/
theorem lift_label {env : Env} {rec : Rec} {s : Core.FsStmt} {st : St} {r : AxCut.Stmt} {st' : St}
    (h : lift env rec s st = .ok (r, st')) :
    ∃ (label : Core.Ident) (st2 st3 : St) (body : AxCut.Stmt),
      label.name = "lift_" ++ env.currentLabel ++ "_" ∧
      (liftFresh (tfvStmt s []) st).2.maxId < label.id ∧
      (∀ u ∈ st.usedLabels, u.print ≠ label.print) ∧
      (∀ j, (liftFresh (tfvStmt s []) st).2.maxId < j → j < label.id →
        labelUsed st.usedLabels ⟨"lift_" ++ env.currentLabel ++ "_", j⟩ = true) ∧
      st2.usedLabels = label :: st.usedLabels ∧ st2.lifted = st.lifted ∧ st2.maxId = label.id ∧
      rec (substStmt (liftFresh (tfvStmt s []) st).1.2 s) st2 = .ok (body, st3) ∧
      r = .call (shrinkIdentifier label) (shrinkContext env.codata (tfvStmt s [])) ∧
      st' = { st3 with lifted :=
        ⟨shrinkIdentifier label, shrinkContext env.codata (liftFresh (tfvStmt s []) st).1.1, body⟩ ::
          st3.lifted } := by
  simp only [lift] at h
  split at h
  · cases h
  · rename_i label st1 hd
    split at h
    · cases h
    · rename_i body st3 hb
      simp only [Except.ok.injEq, Prod.mk.injEq] at h
      obtain ⟨rfl, rfl⟩ := h
      obtain ⟨hf, hl, hm, hu, hmin⟩ := drawLabel_spec _ _ _ _ _ hd
      have hf0 := liftFresh_frame (tfvStmt s []) st
      refine ⟨label, _, st3, body, by rw [hl], ?_, ?_, ?_, ?_, ?_, ?_, hb, rfl, rfl⟩
      · rw [hl]; exact hm
      · rw [← hf0.1]; exact hu
      · rw [← hf0.1, hl]; exact hmin
      · simp [hf.1, hf0.1]
      · simp [hf.2.1, hf0.2.1]
      · rw [hl]

theorem lift_labelsExt {env : Env} {rec : Rec} (hrec : RecRel LabelsExt rec) : RecRel LabelsExt (lift env rec) := by
  intro s st r st' h
  obtain ⟨label, st2, st3, body, _, _, hu, _, hu2, hl2, _, hb, _, rfl⟩ := lift_label h
  obtain ⟨g, l, hu3, hl3, hn, hd, hp⟩ := hrec _ _ _ _ hb
  refine ⟨g ++ [label],
    ⟨shrinkIdentifier label, shrinkContext env.codata (liftFresh (tfvStmt s []) st).1.1, body⟩ :: l, by simp [hu3, hu2], by simp [hl3, hl2], ?_, ?_, ?_⟩
  · rw [List.map_append, List.nodup_append]
    refine ⟨hn, by simp, ?_⟩
    intro x hx y hy hxy
    obtain ⟨x', hx', rfl⟩ := List.mem_map.mp hx
    simp only [List.map_cons, List.map_nil, List.mem_singleton] at hy
    subst hy
    exact hd x' hx' label (by simp [hu2]) hxy
  · intro x hx u hu'
    rcases List.mem_append.mp hx with h | h
    · exact hd x h u (by simp [hu2, hu'])
    · simp only [List.mem_singleton] at h
      subst h
      exact fun e => hu u hu' e.symm
  · simp only [List.map_cons, List.map_append, List.map_nil]
    exact (List.Perm.cons _ hp).trans (List.perm_append_singleton _ _).symm

/-- the label invariant of `FsStatement::shrink` -/
theorem shrinkStmt_labelsExt (env : Env) (fuel : Nat) : RecRel LabelsExt (shrinkStmt env fuel) :=
  shrinkStmt_rel LabelsExt.framePreorder (fun _ h => lift_labelsExt h) fuel

/-- def.rs: fn shrink_def, a successful run -/
theorem shrinkDef_inv {d : Core.FsDef} {data codata used maxId r}
    (h : shrinkDef d data codata used maxId = .ok r) :
    ∃ body st, shrinkStmt ⟨data, codata, d.name.name⟩ (sizeStmt d.body + 1) d.body ⟨maxId, used, []⟩ =
        .ok (body, st) ∧
      r = (⟨shrinkIdentifier d.name, shrinkContext codata d.ctx, body⟩ :: st.lifted, st.usedLabels, st.maxId) := by
  simp only [shrinkDef] at h
  split at h
  · cases h
  · rename_i body st hb
    cases h
    exact ⟨body, st, hb, rfl⟩

/-- program.rs: the `flat_map` over the definitions, a successful run on a non-empty list -/
theorem shrinkDefs_cons_inv {data codata : List Core.TypeDecl} {d : Core.FsDef} {ds used maxId r}
    (h : shrinkDefs data codata (d :: ds) used maxId = .ok r) :
    ∃ defs used1 m1 rest used2 m2, shrinkDef d data codata used maxId = .ok (defs, used1, m1) ∧
      shrinkDefs data codata ds used1 m1 = .ok (rest, used2, m2) ∧ r = (defs ++ rest, used2, m2) := by
  simp only [shrinkDefs] at h
  split at h
  · cases h
  · rename_i defs used1 m1 h1
    split at h
    · cases h
    · rename_i rest used2 m2 h2
      cases h
      exact ⟨defs, used1, m1, rest, used2, m2, h1, h2, rfl⟩

/-- program.rs: fn shrink_prog, a successful run -/
theorem shrinkProg_inv {p : Core.FsProg} {q : AxCut.Prog} (h : shrinkProg p = .ok q) :
    ∃ defs used m,
      shrinkDefs (p.dataTypes ++ [contInt]) p.codataTypes p.defs (p.defs.map (·.name)) p.maxId =
        .ok (defs, used, m) ∧
      q = { defs := defs
            types := (p.dataTypes ++ [contInt]).map (shrinkDeclaration p.codataTypes) ++
                     p.codataTypes.map (shrinkDeclaration p.codataTypes)
            maxId := m } := by
  simp only [shrinkProg] at h
  split at h
  · cases h
  · split at h
    · cases h
    · split at h
      · cases h
      · rename_i defs used m hd
        cases h
        exact ⟨defs, used, m, hd, rfl⟩

/-- def.rs: fn shrink_def — the definitions returned are the translated definition followed by
    definitions named by the new labels -/
theorem shrinkDef_labels {d : Core.FsDef} {data codata used maxId defs used' maxId'}
    (h : shrinkDef d data codata used maxId = .ok (defs, used', maxId')) :
    ∃ g : List Core.Ident, used' = g ++ used ∧ (g.map (·.print)).Nodup ∧
      (∀ x ∈ g, ∀ u ∈ used, x.print ≠ u.print) ∧
      (defs.map (·.name)).Perm (shrinkIdentifier d.name :: g.map shrinkIdentifier) := by
  obtain ⟨body, st, hb, e⟩ := shrinkDef_inv h
  cases e
  obtain ⟨g, l, hu, hl, hn, hd, hp⟩ := shrinkStmt_labelsExt _ _ _ _ _ _ hb
  simp only [List.append_nil] at hl
  exact ⟨g, hu, hn, hd, by simp only [List.map_cons, hl]; exact List.Perm.cons _ hp⟩

/-- program.rs: the `flat_map` over the definitions -/
theorem shrinkDefs_labels {data codata : List Core.TypeDecl} : ∀ (ds : List Core.FsDef) (used : List Core.Ident)
    (maxId : Nat) defs used' maxId', shrinkDefs data codata ds used maxId = .ok (defs, used', maxId') →
    ∃ g : List Core.Ident, used' = g ++ used ∧ (g.map (·.print)).Nodup ∧
      (∀ x ∈ g, ∀ u ∈ used, x.print ≠ u.print) ∧
      (defs.map (·.name)).Perm (ds.map (fun d => shrinkIdentifier d.name) ++ g.map shrinkIdentifier)
  | [], used, maxId, defs, used', maxId', h => by
    simp [shrinkDefs] at h
    obtain ⟨rfl, rfl, rfl⟩ := h
    exact ⟨[], by simp⟩
  | d :: ds, used, maxId, defs, used', maxId', h => by
    obtain ⟨d1, u1, m1, d2, u2, m2, h1, h2, e⟩ := shrinkDefs_cons_inv h
    cases e
    obtain ⟨g1, hu1, hn1, hd1, hp1⟩ := shrinkDef_labels h1
    obtain ⟨g2, hu2, hn2, hd2, hp2⟩ := shrinkDefs_labels ds u1 m1 _ _ _ h2
    refine ⟨g2 ++ g1, by simp [hu2, hu1], ?_, ?_, ?_⟩
    · rw [List.map_append, List.nodup_append]
      refine ⟨hn2, hn1, ?_⟩
      intro x hx y hy hxy
      obtain ⟨x', hx', rfl⟩ := List.mem_map.mp hx
      obtain ⟨y', hy', rfl⟩ := List.mem_map.mp hy
      exact hd2 x' hx' y' (by rw [hu1]; simp [hy']) hxy
    · intro x hx u hu
      rcases List.mem_append.mp hx with h | h
      · exact hd2 x h u (by rw [hu1]; simp [hu])
      · exact hd1 x h u hu
    · simp only [List.map_append, List.map_cons]
      refine (List.Perm.append hp1 hp2).trans ?_
      simp only [List.cons_append]
      refine List.Perm.cons _ ?_
      -- g1' ++ (ds' ++ g2') ~ ds' ++ (g2' ++ g1')
      refine (List.perm_append_comm).trans ?_
      rw [List.append_assoc]

/-- program.rs: fn shrink_prog — the names of the definitions of the output are the names of the
    definitions of the input plus labels with pairwise distinct printed forms that differ from the
    printed forms of all input names -/
theorem shrinkProg_labels {p : Core.FsProg} {q : AxCut.Prog} (h : shrinkProg p = .ok q) :
    ∃ g : List Core.Ident, (g.map (·.print)).Nodup ∧
      (∀ x ∈ g, ∀ d ∈ p.defs, x.print ≠ d.name.print) ∧
      (q.defs.map (·.name)).Perm (p.defs.map (fun d => shrinkIdentifier d.name) ++ g.map shrinkIdentifier) := by
  obtain ⟨defs, used, m, hd, rfl⟩ := shrinkProg_inv h
  obtain ⟨g, _, hn, hdis, hp⟩ := shrinkDefs_labels _ _ _ _ _ _ hd
  refine ⟨g, hn, ?_, hp⟩
  intro x hx d hd'
  exact hdis x hx d.name (List.mem_map.mpr ⟨d, hd', rfl⟩)

/-- distinct printed names of the input definitions give distinct printed names of the output
    definitions -/
theorem shrinkProg_labels_nodup {p : Core.FsProg} {q : AxCut.Prog} (h : shrinkProg p = .ok q)
    (hp : (p.defs.map (·.name.print)).Nodup) : (q.defs.map (·.name.print)).Nodup := by
  obtain ⟨g, hn, hdis, hperm⟩ := shrinkProg_labels h
  have h1 : (q.defs.map (·.name.print)) = (q.defs.map (·.name)).map (·.print) := by simp
  rw [h1]
  refine (List.Perm.nodup_iff (List.Perm.map _ hperm)).mpr ?_
  simp only [List.map_append, List.map_map]
  rw [List.nodup_append]
  refine ⟨?_, ?_, ?_⟩
  · exact hp
  · exact hn
  · intro a ha b hb hab
    obtain ⟨d, hd, rfl⟩ := List.mem_map.mp ha
    obtain ⟨x, hx, rfl⟩ := List.mem_map.mp hb
    exact hdis x hx d hd hab.symm

end Scc.Core2AxCut
