/-
  Scc.Core2AxCut.TypedCut — proof file for the typing part of C04 / C12 (shrinking preserves typing):
  the case analysis of `shrinkCut` on well-typed cuts (dispatching to the arms of `TypedArms*.lean`), the
  other statement forms, `lift` (the lifted definition is well-formed and the call to it is typed), and the
  induction on the fuel: every output of `shrinkStmt` satisfies the typing postcondition.
-/
import Scc.Core2AxCut.TypedArms2
import Scc.Core2AxCut.SemTrCut

namespace Scc.Core2AxCut.Typed

open Scc.AxCut Scc.Core2AxCut.Sem
open Scc.AxCut.Named (findDef)

section step
variable {E : TEnv} {q : AxCut.Prog} {env : Env} {rec : Rec}
  (hE : EnvMatches env E) (hT : EnvOK E q.types) (hS : SigOK E q.sigs)
  (hrec : RecTr E q rec) (hrecT : RecT E q rec) (hmono : RecRel Mono rec)
  (hlift : RecTr E q (lift env rec)) (hliftT : RecT E q (lift env rec))

include hE hT hrec hrecT hmono hlift hliftT in
theorem shrinkCut_typed (Γ f ty p c st t st') (h : shrinkCut env rec ty (renTerm f p) (renTerm f c) st = .ok (t, st'))
    (hq : Good q st') (hM : st'.maxId ≤ q.maxId) (hwt : wtStmt E (.cut ty p c) = true)
    (hsc : scStmt Γ (.cut ty p c) = true)
    (inv : InvB Γ f (Core.FsStmt.cut ty p c).binderIds st.maxId) :
    PostT E.codata q Γ f (Core.FsStmt.cut ty p c).binderIds st t st' := by
  have hcodE : env.codata = E.codata := hE.2
  simp only [scStmt, Bool.and_eq_true] at hsc
  cases WtCut.of_wt hwt with simp only [renTerm] at h
  | varVar hty =>
    replace h : shrinkUnknownCuts env _ _ ty st = .ok (t, st') := h
    cases ty with
    | i64 =>
      cases h
      exact ty_unkInt hT hsc.1 hsc.2
    | decl name =>
      obtain ⟨d, hd, rfl, rfl⟩ := shrinkUnknownCuts_decl_run hE hty h
      have hne := ty_ne_int_of_decl hd
      by_cases hcod : isCodata E.codata (.decl name) = true
      · simp only [hcod, if_true] at hM ⊢
        exact ty_unk hE hT (pcK := .cns) (pcE := .prd) hd hsc.2 hsc.1
          (fun w => sb_cns_codata w hne hcod) (fun w => sb_prd_codata w hne hcod) hM
      · have hcod' : isCodata E.codata (.decl name) = false := by simpa using hcod
        simp only [hcod', Bool.false_eq_true, if_false] at hM ⊢
        exact ty_unk hE hT (pcK := .prd) (pcE := .cns) hd hsc.1 hsc.2
          (fun w => sb_prd_data w hne hcod') (fun w => sb_cns_data w hne hcod') hM
  | varMu hw =>
    exact ty_ren hrecT h hq hM hw hsc.1 hsc.2 inv
      (by simp [Core.FsStmt.binderIds, Core.FsTerm.binderIds])
  | muVar hw =>
    exact ty_ren hrecT h hq hM hw hsc.2 hsc.1 inv
      (by simp [Core.FsStmt.binderIds, Core.FsTerm.binderIds])
  | varXtor hd hcod hsig hm =>
    cases h
    simp only [scTerm, List.all_eq_true] at hsc
    rw [hcodE]
    exact ty_invoke hT (pc := .prd) hd hsig hm hsc.2 hsc.1
      (fun w => sb_prd_codata w (ty_ne_int_of_decl hd) hcod)
  | xtorVar hd hcod hsig hm =>
    cases h
    simp only [scTerm, List.all_eq_true] at hsc
    rw [hcodE]
    exact ty_invoke hT (pc := .cns) hd hsig hm hsc.1 hsc.2
      (fun w => sb_cns_data w (ty_ne_int_of_decl hd) hcod)
  | varXcase hd hcod hcl =>
    obtain ⟨_, h1, rfl⟩ := wrapC_inv h
    exact ty_switch hE hT hrecT hmono (pc := .prd) h1 hq hM hd hsc.1
      (fun w => sb_prd_data w (ty_ne_int_of_decl hd) hcod) hcl hsc.2 inv
      (by simp [Core.FsStmt.binderIds, Core.FsTerm.binderIds])
  | xcaseVar hd hcod hcl =>
    obtain ⟨_, h1, rfl⟩ := wrapC_inv h
    exact ty_switch hE hT hrecT hmono (pc := .cns) h1 hq hM hd hsc.2
      (fun w => sb_cns_codata w (ty_ne_int_of_decl hd) hcod) hcl hsc.1 inv
      (by simp [Core.FsStmt.binderIds, Core.FsTerm.binderIds])
  | litVar =>
    cases h
    exact ty_litVar hT hsc.2 hM
  | litMu hw =>
    obtain ⟨_, h1, rfl⟩ := wrap_inv h
    exact ty_litMu hrecT hmono h1 hq hM hw hsc.2 inv
  | opVar =>
    cases h
    simp only [scTerm, Bool.and_eq_true] at hsc
    exact ty_opVar hT hsc.1.1 hsc.1.2 hsc.2 hM
  | opMu hw =>
    obtain ⟨_, h1, rfl⟩ := wrap_inv h
    simp only [scTerm, Bool.and_eq_true] at hsc
    exact ty_opMu hrecT hmono h1 hq hM hsc.1.1 hsc.1.2 hw hsc.2 inv
  | muMu hty hw1 hw2 =>
    rename_i a s1 x s2
    replace h : shrinkCriticalPairs env rec _ _ _ _ ty st = .ok (t, st') := h
    simp only [scTerm, flipPC] at hsc
    cases ty with
    | i64 =>
      obtain ⟨_, _, _, h1, h2, rfl⟩ := shrinkCriticalPairs_i64_inv h
      exact ty_critInt hT hrecT hmono h1 h2 hq hM hw1 hsc.1 hw2 hsc.2 inv
    | decl name =>
      obtain ⟨d, hd, h⟩ := shrinkCriticalPairs_decl_run hE hty h
      have hne := ty_ne_int_of_decl hd
      simp only [Core.FsStmt.binderIds, Core.FsTerm.binderIds] at inv ⊢
      by_cases hcod : isCodata E.codata (.decl name) = true
      · simp only [hcod, if_true] at h
        exact ty_criticalDecl hE hT hrec hrecT hmono (bK := ⟨x, .prd, .decl name⟩)
          (bE := ⟨a, .cns, .decl name⟩) h hq hM hlift hliftT hd rfl
          (sb_prd_codata x hne hcod) (sb_cns_codata a hne hcod) hw2 hsc.2 hw1 hsc.1 inv
          (by simp only [List.map_cons, List.map_nil, List.singleton_append]
              exact List.sublist_append_right _ _)
          (by simp)
      · have hcod' : isCodata E.codata (.decl name) = false := by simpa using hcod
        simp only [hcod', Bool.false_eq_true, if_false] at h
        exact ty_criticalDecl hE hT hrec hrecT hmono (bK := ⟨a, .cns, .decl name⟩)
          (bE := ⟨x, .prd, .decl name⟩) h hq hM hlift hliftT hd rfl
          (sb_cns_data a hne hcod') (sb_prd_data x hne hcod') hw1 hsc.1 hw2 hsc.2 inv
          (by simp)
          (by simp only [List.map_cons, List.map_nil, List.singleton_append]
              exact List.sublist_append_right _ _)
  | muXtor hw hd hcod hsig hm =>
    rename_i a s K args d sig
    obtain ⟨_, h1, rfl⟩ := wrap_inv h
    simp only [scTerm, flipPC, List.all_eq_true] at hsc
    rw [hcodE]
    exact ty_let hT hrecT hmono (b0 := ⟨a, .cns, ty⟩) h1 hq hM hd hsig hm hsc.2 hw hsc.1
      (sb_cns_codata a (ty_ne_int_of_decl hd) hcod) inv
      (by simp [Core.FsStmt.binderIds, Core.FsTerm.binderIds])
  | xtorMu hd hcod hsig hm hw =>
    rename_i K args x s d sig
    obtain ⟨_, h1, rfl⟩ := wrap_inv h
    simp only [scTerm, flipPC, List.all_eq_true] at hsc
    rw [hcodE]
    exact ty_let hT hrecT hmono (b0 := ⟨x, .prd, ty⟩) h1 hq hM hd hsig hm hsc.1 hw hsc.2
      (sb_prd_data x (ty_ne_int_of_decl hd) hcod) inv (by simp [Core.FsStmt.binderIds, Core.FsTerm.binderIds])
  | muXcase hw hd hcod hcl =>
    rename_i a s cl d
    obtain ⟨_, _, _, h1, h2, rfl⟩ := wrapC2_inv h
    simp only [scTerm, flipPC] at hsc
    exact ty_create hE hT hrecT hmono (b0 := ⟨a, .cns, ty⟩) h1 h2 hq hM hd
      (sb_cns_data a (ty_ne_int_of_decl hd) hcod) hcl hsc.2 hw hsc.1 inv
      (by simp only [Core.FsStmt.binderIds, Core.FsTerm.binderIds]; exact List.sublist_append_right _ _)
      (by simp [Core.FsStmt.binderIds, Core.FsTerm.binderIds])
  | xcaseMu hd hcod hcl hw =>
    rename_i cl x s d
    obtain ⟨_, _, _, h1, h2, rfl⟩ := wrapC2_inv h
    simp only [scTerm, flipPC] at hsc
    exact ty_create hE hT hrecT hmono (b0 := ⟨x, .prd, ty⟩) h1 h2 hq hM hd
      (sb_prd_codata x (ty_ne_int_of_decl hd) hcod) hcl hsc.1 hw hsc.2 inv
      (by simp only [Core.FsStmt.binderIds, Core.FsTerm.binderIds]; exact List.sublist_append_left _ _)
      (by simp only [Core.FsStmt.binderIds, Core.FsTerm.binderIds, List.map_cons, List.map_nil,
            List.singleton_append]
          exact List.sublist_append_right _ _)
  | xtorXcase hd hcod hsig hm hcl =>
    rename_i K args cl d sig
    replace h : shrinkKnownCuts rec _ _ _ st = .ok (t, st') := h
    simp only [scTerm, List.all_eq_true] at hsc
    obtain ⟨ctx, body, hfc, h, hm2, hwb, hscb⟩ := shrinkKnownCuts_run h hcl hsig hsc.2
    exact ty_known hrecT h hq hM hfc hm hsc.1 hm2 hwb hscb inv
      (by simp [Core.FsStmt.binderIds, Core.FsTerm.binderIds])
  | xcaseXtor hd hcod hcl hsig hm =>
    rename_i cl K args d sig
    replace h : shrinkKnownCuts rec _ _ _ st = .ok (t, st') := h
    simp only [scTerm, List.all_eq_true] at hsc
    obtain ⟨ctx, body, hfc, h, hm2, hwb, hscb⟩ := shrinkKnownCuts_run h hcl hsig hsc.1
    exact ty_known hrecT h hq hM hfc hm hsc.2 hm2 hwb hscb inv
      (by simp [Core.FsStmt.binderIds, Core.FsTerm.binderIds])

include hE hT hS hrec hrecT hmono hlift hliftT in
theorem shrinkStmtStep_typed : RecT E q (shrinkStmtStep env rec) := by
  intro Γ f s st t st' h hq hM hwt hsc inv
  cases s with
  | cut ty p c =>
    simp only [renStmt, shrinkStmtStep] at h
    exact shrinkCut_typed hE hT hrec hrecT hmono hlift hliftT Γ f ty p c st t st' h hq hM hwt hsc inv
  | ifc sort a b th el =>
    simp only [renStmt] at h
    simp only [wtStmt, Bool.and_eq_true] at hwt
    simp only [Core.FsStmt.binderIds] at inv ⊢
    obtain ⟨t1, st1, t2, h1, h2, rfl⟩ := wrap2_inv h
    have m1 : st.maxId ≤ st1.maxId := (hmono _ _ _ _ h1).le
    have m2 : Mono st1 st' := hmono _ _ _ _ h2
    have hq1 : Good q st1 := Good.of_mono m2 hq
    have hM1 : st1.maxId ≤ q.maxId := Nat.le_trans m2.le hM
    have key : ∀ (ha : occFs Γ ⟨a, .prd, .i64⟩ = true)
        (hb : ∀ b', b = some b' → occFs Γ ⟨b', .prd, .i64⟩ = true)
        (hs1 : scStmt Γ th = true) (hs2 : scStmt Γ el = true),
        PostT E.codata q Γ f (th.binderIds ++ el.binderIds) st
          (.ifc (shrinkIfSort sort) (shrinkIdentifier (f a)) (b.map f |>.map shrinkIdentifier) t1 t2) st' := by
      intro ha hb hs1 hs2
      have p1 := hrecT Γ f th st t1 st1 h1 hq1 hM1 hwt.1 hs1
        (by simpa using inv.enterS [] th.binderIds (by simp))
      have p2 := hrecT Γ f el st1 t2 st' h2 hq hM hwt.2 hs2
        (by simpa using (inv.mono m1).enterS [] el.binderIds (by simp))
      intro Γax hag
      obtain ⟨a1, a2⟩ := p1 Γax (hag.sub (fun i hi => List.mem_append_left _ hi))
      obtain ⟨b1, b2⟩ := p2 Γax ((hag.mono m1).sub (fun i hi => List.mem_append_right _ hi))
      refine ⟨?_, a2.trans b2⟩
      have h1' := hag.occ ha
      rw [sb_prd_int] at h1'
      simp only [Tq, TW]
      refine ⟨h1', ?_, a1, b1⟩
      intro b' hb'
      cases b with
      | none => simp at hb'
      | some b0 =>
        simp only [Option.map_some, Option.some.injEq] at hb'
        subst hb'
        have := hag.occ (hb b0 rfl)
        rwa [sb_prd_int] at this
    cases b with
    | none =>
      simp only [scStmt, Bool.and_eq_true] at hsc
      obtain ⟨⟨⟨ha, _⟩, hs1⟩, hs2⟩ := hsc
      exact key ha (fun _ hb' => by cases hb') hs1 hs2
    | some b =>
      simp only [scStmt, Bool.and_eq_true] at hsc
      obtain ⟨⟨⟨ha, hb⟩, hs1⟩, hs2⟩ := hsc
      exact key ha (fun b' hb' => by cases hb'; exact hb) hs1 hs2
  | print nl a nx =>
    simp only [renStmt] at h
    simp only [wtStmt] at hwt
    simp only [scStmt, Bool.and_eq_true] at hsc
    simp only [Core.FsStmt.binderIds] at inv ⊢
    obtain ⟨t1, h1, rfl⟩ := wrap_inv h
    have p1 := hrecT Γ f nx st t1 st' h1 hq hM hwt hsc.2 inv
    intro Γax hag
    obtain ⟨a1, a2⟩ := p1 Γax hag
    have h1' := hag.occ hsc.1
    rw [sb_prd_int] at h1'
    exact ⟨by simp only [Tq, TW]; exact ⟨h1', a1⟩, a2⟩
  | call n args =>
    cases h
    simp only [wtStmt] at hwt
    simp only [scStmt, List.all_eq_true] at hsc
    intro Γax hag
    refine ⟨?_, LiftedOK.refl _ _⟩
    split at hwt
    · rename_i ps hps
      rw [hE.2]
      simp only [Tq, TW]
      exact ⟨_, hS n ps hps, by rw [chiTys_shrinkContext_ren, chiTys_shrinkContext_of_sigMatch _ hwt],
        hag.args hsc⟩
    · cases hwt
  | exit a =>
    cases h
    simp only [scStmt] at hsc
    intro Γax hag
    have h1' := hag.occ hsc
    rw [sb_prd_int] at h1'
    exact ⟨by simp only [Tq, TW]; exact h1', LiftedOK.refl _ _⟩

end step

theorem sb_with_var (cod : List Core.TypeDecl) (b : Core.Binding) (w : Core.Ident) :
    shrinkBinding cod ⟨w, b.chi, b.ty⟩ = ⟨shrinkIdentifier w, (shrinkBinding cod b).chi, (shrinkBinding cod b).ty⟩ := by
  simp only [shrinkBinding]
  split
  · split <;> rfl
  · split <;> rfl

theorem lift_typed {E : TEnv} {q : AxCut.Prog} {env : Env} {rec : Rec} (hE : EnvMatches env E)
    (hrecT : RecT E q rec) (hmono : RecRel Mono rec) : RecT E q (lift env rec) := by
  intro Γ f s st t st' h hq hM hwt hsc inv
  have hcod : env.codata = E.codata := hE.2
  obtain ⟨k, body, st3, fv, Γ', hk, hb, rfl, rfl, hfvocc, hsubΓ, inv', hsc', hpos⟩ := Sem.lift_run h hsc inv
  have hpar := liftParams_ids_le st.maxId fv
  have hM3 : st3.maxId ≤ q.maxId := hM
  have p1 := hrecT Γ' _ s _ body st3 hb (fun d hd => hq d (List.mem_cons_of_mem _ hd)) hM3 hwt hsc' inv'
  have mk : k ≤ st3.maxId := (hmono _ _ _ _ hb).le
  have hndP := (liftParams_ids_nodup st.maxId fv).1
  intro Γax hag
  -- the parameter list of the lifted definition as a typing context of its body
  have hA : AgreeT E.codata Γ' (substIdent (liftSubst st.maxId fv) ∘ f) s.binderIds k
      (shrinkContext E.codata (liftParams st.maxId fv)) := by
    refine ⟨?_, ?_, by simp only [NodupIds, ids_shrinkContext]; exact hndP⟩
    · intro b hb'
      have hocc := hsubΓ b hb'
      obtain ⟨i, h1, h2⟩ := hpos b hb'
      -- the i-th free variable has the id of `f b.var`
      have hi : i < fv.length := by
        rcases Nat.lt_or_ge i fv.length with h' | h'
        · exact h'
        · rw [List.getElem?_eq_none (by simpa using h')] at h1
          cases h1
      obtain ⟨hi', hpi⟩ := (liftParams_spec st.maxId fv).2 i hi
      have e1 : fv[i].var.id = (f b.var).id := by
        rw [List.getElem?_map, List.getElem?_eq_getElem hi] at h1
        simpa using h1
      have e2 : (liftParams st.maxId fv)[i].var = substIdent (liftSubst st.maxId fv) (f b.var) := by
        rw [List.getElem?_map, List.getElem?_eq_getElem hi'] at h2
        simpa using h2
      -- both images are in Γax with the same id: they are the same binding
      obtain ⟨b'', _, hocc'', hb''⟩ := hfvocc fv[i] (List.getElem_mem hi)
      have m1 := hag.mem b hocc
      have m2 := hag.mem b'' hocc''
      rw [← hb''] at m2
      have heq : shrinkBinding E.codata (renBinding f b) = shrinkBinding E.codata fv[i] :=
        hag.unique m1 m2 (by rw [sb_id, sb_id]; exact e1.symm)
      have : shrinkBinding E.codata (renBinding (substIdent (liftSubst st.maxId fv) ∘ f) b) =
          shrinkBinding E.codata (liftParams st.maxId fv)[i] := by
        have r1 : renBinding (substIdent (liftSubst st.maxId fv) ∘ f) b =
            ⟨substIdent (liftSubst st.maxId fv) (f b.var), (renBinding f b).chi, (renBinding f b).ty⟩ := rfl
        have r2 : (liftParams st.maxId fv)[i] =
            ⟨substIdent (liftSubst st.maxId fv) (f b.var), fv[i].chi, fv[i].ty⟩ := by
          rw [← e2]
          conv => lhs; rw [hpi]
          conv => rhs; rw [hpi]
        rw [r1, r2, sb_with_var E.codata (renBinding f b), sb_with_var E.codata fv[i], heq]
      rw [this]
      exact List.mem_map.mpr ⟨_, List.getElem_mem hi', rfl⟩
    · intro i hi
      rw [ids_shrinkContext] at hi
      have := hpar i hi
      exact ⟨fun hm => by have := inv.bm _ hm; omega, by omega⟩
  obtain ⟨b1, b2⟩ := p1 _ hA
  refine ⟨?_, ?_⟩
  · -- the call
    have hfd := hq _ (List.mem_cons_self (a := (⟨⟨"lift_" ++ env.currentLabel ++ "_", k⟩,
      shrinkContext env.codata (liftParams st.maxId fv), body⟩ : AxCut.Def)) (l := st3.lifted))
    simp only [Tq, TW]
    refine ⟨_, findSig_of_findDef hfd, (shrinkContext_liftParams env.codata st.maxId fv).symm, ?_⟩
    intro a ha
    rw [hcod] at ha
    simp only [shrinkContext, List.mem_map] at ha
    obtain ⟨β, hβ, rfl⟩ := ha
    obtain ⟨b, _, hocc, rfl⟩ := hfvocc β hβ
    exact hag.mem b hocc
  · -- the lifted definition
    intro d hd
    rcases List.mem_cons.mp hd with rfl | hd
    · right
      rw [hcod]
      refine ⟨by simp only [NodupIds, ids_shrinkContext]; exact hndP, ?_, b1⟩
      intro i hi
      rw [ids_shrinkContext] at hi
      have := hpar i hi
      omega
    · rcases b2 d hd with h' | h'
      · exact .inl h'
      · exact .inr h'

/-- every output of `shrinkStmt` satisfies the typing postcondition -/
theorem shrinkStmt_typed {E : TEnv} (q : AxCut.Prog) {env : Env} (hE : EnvMatches env E)
    (hT : EnvOK E q.types) (hS : SigOK E q.sigs) : ∀ fuel, RecT E q (shrinkStmt env fuel)
  | 0 => by
    intro Γ f s st t st' h
    simp [shrinkStmt] at h
  | fuel + 1 =>
    have ih := shrinkStmt_typed q hE hT hS fuel
    have ihs := shrinkStmt_tr q hE fuel
    have hm := shrinkStmt_mono env fuel
    shrinkStmtStep_typed hE hT hS ihs ih hm (lift_tr ihs) (lift_typed hE ih hm)

end Scc.Core2AxCut.Typed
