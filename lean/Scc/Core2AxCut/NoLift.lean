/-
  Scc.Core2AxCut.NoLift — decidable side conditions used by the semantic theorems of C04
  (`Scc/Props/C04Sem.lean`: `idsBoundedCheck` and `mainIntParams` are hypotheses of `C04_sem`, `noLiftCheck`
  delimits the fragment `C04_sem_nolift`).  Spec file, core imports only, executable.

  * `noLiftCheck p`     no critical pair `⟨μa.s1 | μ~x.s2⟩` of `p` is lifted by `shrink_critical_pairs`:
                        at every such cut at a declared type the sharing condition of cut.rs
                        (`inlineExpand`: at most one xtor, or the expanded side is a leaf) holds.
  * `idsBoundedCheck p` every parameter id and binder id of `p` is `≤ p.maxId`
                        — the meaning of the counter `max_id` that `fresh_identifier` relies on.
  * `mainIntParams p`   the parameters of the first definition are integer producers (the machines are
                        started on integer arguments only).
-/
import Scc.Core2AxCut.FsTyping
import Scc.Core.Unique

namespace Scc.Core2AxCut

open Scc

/-- the sharing condition at one cut -/
def critOk (E : TEnv) (ty : Core.Ty) : Core.FsTerm → Core.FsTerm → Bool
  | .mu _ _ _ s1, .mu _ _ _ s2 =>
    match declOf E ty with
    | some d => inlineExpand d.xtors.length (if isCodata E.codata ty then s1 else s2)
    | none => true
  | _, _ => true

mutual
  def noLiftTerm (E : TEnv) : Core.FsTerm → Bool
    | .mu _ _ _ s => noLiftStmt E s
    | .xcase _ _ cs => noLiftClauses E cs
    | _ => true
  def noLiftClauses (E : TEnv) : Core.FsClauses → Bool
    | .nil => true
    | .cons _ _ b r => noLiftStmt E b && noLiftClauses E r
  def noLiftStmt (E : TEnv) : Core.FsStmt → Bool
    | .cut ty p c => critOk E ty p c && noLiftTerm E p && noLiftTerm E c
    | .ifc _ _ _ t e => noLiftStmt E t && noLiftStmt E e
    | .print _ _ n => noLiftStmt E n
    | .call _ _ => true
    | .exit _ => true
end

def noLiftCheck (p : Core.FsProg) : Bool := p.defs.all fun d => noLiftStmt (progTEnv p) d.body

def idsBoundedDef (maxId : Nat) (d : Core.FsDef) : Bool :=
  (Core.ctxIds d.ctx ++ d.body.binderIds).all fun i => i ≤ maxId

def idsBoundedCheck (p : Core.FsProg) : Bool := p.defs.all (idsBoundedDef p.maxId)

def mainIntParams (p : Core.FsProg) : Bool :=
  match p.defs with
  | [] => true
  | d :: _ => d.ctx.all fun b => b.chi == .prd && b.ty == .i64

end Scc.Core2AxCut
