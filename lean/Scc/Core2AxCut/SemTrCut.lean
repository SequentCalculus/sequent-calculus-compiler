/-
  Scc.Core2AxCut.SemTrCut — proof file for the semantic part of C04: the case analysis of `shrinkCut`
  (the match of `FsCut::shrink`; eighteen pairs of term shapes in the model, `CutRun`) on well-typed cuts, dispatching to the arms proved in
  `SemTr.lean`; `shrinkStmt` satisfies the translation invariant for every fuel.
-/
import Scc.Core2AxCut.SemTr
import Scc.Core2AxCut.SemLift

namespace Scc.Core2AxCut.Sem

open Scc.AxCut.Named (Value lookup lookupAll bindParams findDef State step)

section step
variable {E : TEnv} {q : AxCut.Prog} {env : Env} {rec : Rec}
  (hE : EnvMatches env E) (hrec : RecTr E q rec) (hmono : RecRel Mono rec) (hlift : RecTr E q (lift env rec))
include hE hrec hmono hlift

theorem shrinkCut_tr (Γ f ty p c st t st') (h : shrinkCut env rec ty (renTerm f p) (renTerm f c) st = .ok (t, st'))
    (hq : Good q st') (hwt : wtStmt E (.cut ty p c) = true) (hsc : scStmt Γ (.cut ty p c) = true)
    (inv : InvB Γ f (Core.FsStmt.cut ty p c).binderIds st.maxId) :
    Post E q Γ f (.cut ty p c) st t st' := by
  simp only [scStmt, Bool.and_eq_true] at hsc
  cases WtCut.of_wt hwt with simp only [renTerm] at h
  | varVar hty =>
    replace h : shrinkUnknownCuts env _ _ ty st = .ok (t, st') := h
    cases ty with
    | i64 =>
      cases h
      exact tr_unkInt hsc.1 hsc.2
    | decl name =>
      obtain ⟨d, hd, rfl, rfl⟩ := shrinkUnknownCuts_decl_run hE hty h
      by_cases hcod : isCodata E.codata (.decl name) = true
      · simp only [hcod, if_true]
        exact tr_unkCodata hcod hd hsc.1 hsc.2 inv
      · have hcod' : isCodata E.codata (.decl name) = false := by simpa using hcod
        simp only [hcod', Bool.false_eq_true, if_false]
        exact tr_unkData hcod' hd hsc.1 hsc.2 inv
  | varMu hw =>
    exact tr_renR hrec h hq hw hsc.1 hsc.2 inv
  | muVar hw =>
    exact tr_renL hrec h hq hw hsc.2 hsc.1 inv
  | varXtor hd hcod hsig hm =>
    cases h
    simp only [scTerm, List.all_eq_true] at hsc
    exact tr_invokeCodata hcod hd hsig hm hsc.2 hsc.1
  | xtorVar hd hcod hsig hm =>
    cases h
    simp only [scTerm, List.all_eq_true] at hsc
    exact tr_invokeData hcod hd hsig hm hsc.1 hsc.2
  | varXcase hd hcod hcl =>
    obtain ⟨_, h1, rfl⟩ := wrapC_inv h
    exact tr_switchData hrec hmono h1 hq hcod hd hsc.1 hcl hsc.2 inv
  | xcaseVar hd hcod hcl =>
    obtain ⟨_, h1, rfl⟩ := wrapC_inv h
    exact tr_switchCodata hrec hmono h1 hq hcod hd hsc.2 hcl hsc.1 inv
  | litVar =>
    cases h
    exact tr_litVar hsc.2 inv
  | litMu hw =>
    obtain ⟨_, h1, rfl⟩ := wrap_inv h
    exact tr_litMu hrec hmono h1 hq hw hsc.2 inv
  | opVar =>
    cases h
    simp only [scTerm, Bool.and_eq_true] at hsc
    exact tr_opVar hsc.1.1 hsc.1.2 hsc.2 inv
  | opMu hw =>
    obtain ⟨_, h1, rfl⟩ := wrap_inv h
    simp only [scTerm, Bool.and_eq_true] at hsc
    exact tr_opMu hrec hmono h1 hq hsc.1.1 hsc.1.2 hw hsc.2 inv
  | muMu hty hw1 hw2 =>
    rename_i a s1 x s2
    replace h : shrinkCriticalPairs env rec _ _ _ _ ty st = .ok (t, st') := h
    simp only [scTerm, flipPC] at hsc
    cases ty with
    | i64 =>
      obtain ⟨_, _, _, h1, h2, rfl⟩ := shrinkCriticalPairs_i64_inv h
      exact tr_critInt hrec hmono h1 h2 hq hw1 hsc.1 hw2 hsc.2 inv
    | decl name =>
      obtain ⟨d, hd, h⟩ := shrinkCriticalPairs_decl_run hE hty h
      simp only [Core.FsStmt.binderIds, Core.FsTerm.binderIds] at inv
      by_cases hcod : isCodata E.codata (.decl name) = true
      · simp only [hcod, if_true] at h
        obtain ⟨cls, tK, rfl, r1, r2⟩ := tr_criticalDecl hrec hmono (bK := ⟨x, .prd, .decl name⟩)
          (bE := ⟨a, .cns, .decl name⟩) h hq hlift hw2 hsc.2 hw1 hsc.1 inv
          (by simp only [List.map_cons, List.map_nil, List.singleton_append]
              exact List.sublist_append_right _ _)
          (by simp)
        refine ⟨fun hm hag => .critCodata hcod hd (r1 hm hag).1 (r1 hm hag).2.1 (r1 hm hag).2.2.1
          (r1 hm hag).2.2.2, ?_⟩
        simpa [Core.FsStmt.binderIds, Core.FsTerm.binderIds] using r2
      · have hcod' : isCodata E.codata (.decl name) = false := by simpa using hcod
        simp only [hcod', Bool.false_eq_true, if_false] at h
        obtain ⟨cls, tK, rfl, r1, r2⟩ := tr_criticalDecl hrec hmono (bK := ⟨a, .cns, .decl name⟩)
          (bE := ⟨x, .prd, .decl name⟩) h hq hlift hw1 hsc.1 hw2 hsc.2 inv
          (by simp)
          (by simp only [List.map_cons, List.map_nil, List.singleton_append]
              exact List.sublist_append_right _ _)
        refine ⟨fun hm hag => .critData hcod' hd (r1 hm hag).1 (r1 hm hag).2.1 (r1 hm hag).2.2.1
          (r1 hm hag).2.2.2, ?_⟩
        simpa [Core.FsStmt.binderIds, Core.FsTerm.binderIds] using r2
  | muXtor hw hd hcod hsig hm =>
    obtain ⟨_, h1, rfl⟩ := wrap_inv h
    simp only [scTerm, flipPC, List.all_eq_true] at hsc
    exact tr_letCodata hrec hmono h1 hq hcod hd hsig hm hsc.2 hw hsc.1 inv
  | xtorMu hd hcod hsig hm hw =>
    obtain ⟨_, h1, rfl⟩ := wrap_inv h
    simp only [scTerm, flipPC, List.all_eq_true] at hsc
    exact tr_letData hrec hmono h1 hq hcod hd hsig hm hsc.1 hw hsc.2 inv
  | muXcase hw hd hcod hcl =>
    obtain ⟨_, _, _, h1, h2, rfl⟩ := wrapC2_inv h
    exact tr_createData hrec hmono h1 h2 hq hcod hd hcl hsc.2 hw hsc.1 inv
  | xcaseMu hd hcod hcl hw =>
    obtain ⟨_, _, _, h1, h2, rfl⟩ := wrapC2_inv h
    exact tr_createCodata hrec hmono h1 h2 hq hcod hd hcl hsc.1 hw hsc.2 inv
  | xtorXcase hd hcod hsig hm hcl =>
    rename_i K args cl d sig
    replace h : shrinkKnownCuts rec _ _ _ st = .ok (t, st') := h
    simp only [scTerm, List.all_eq_true] at hsc
    obtain ⟨ctx, body, hfc, h, hm2, hwb, hscb⟩ := shrinkKnownCuts_run h hcl hsig hsc.2
    exact tr_knownData hrec h hq hcod hd hsig hfc hm hsc.1 hm2 hwb hscb inv
  | xcaseXtor hd hcod hcl hsig hm =>
    rename_i cl K args d sig
    replace h : shrinkKnownCuts rec _ _ _ st = .ok (t, st') := h
    simp only [scTerm, List.all_eq_true] at hsc
    obtain ⟨ctx, body, hfc, h, hm2, hwb, hscb⟩ := shrinkKnownCuts_run h hcl hsig hsc.1
    exact tr_knownCodata hrec h hq hcod hd hsig hfc hm hsc.2 hm2 hwb hscb inv

theorem shrinkStmtStep_tr : RecTr E q (shrinkStmtStep env rec) := by
  intro Γ f s st t st' h hq hwt hsc inv
  cases s with
  | cut ty p c =>
    simp only [renStmt, shrinkStmtStep] at h
    exact shrinkCut_tr hE hrec hmono hlift Γ f ty p c st t st' h hq hwt hsc inv
  | ifc sort a b th el =>
    simp only [renStmt] at h
    simp only [wtStmt, Bool.and_eq_true] at hwt
    simp only [Core.FsStmt.binderIds] at inv
    obtain ⟨t1, st1, t2, h1, h2, rfl⟩ := wrap2_inv h
    have m1 : st.maxId ≤ st1.maxId := (hmono _ _ _ _ h1).le
    have m2 : st1.maxId ≤ st'.maxId := (hmono _ _ _ _ h2).le
    have hq1 : Good q st1 := Good.of_mono (hmono _ _ _ _ h2) hq
    cases b with
    | none =>
      simp only [scStmt, Bool.and_eq_true] at hsc
      obtain ⟨⟨⟨ha, _⟩, hs1⟩, hs2⟩ := hsc
      have p1 := hrec Γ f th st t1 st1 h1 hq1 hwt.1 hs1
        (by simpa using inv.enterS [] th.binderIds (by simp))
      have p2 := hrec Γ f el st1 t2 st' h2 hq hwt.2 hs2
        (by simpa using (inv.mono m1).enterS [] el.binderIds (by simp))
      refine ⟨fun hm hag => ?_, ?_⟩
      · exact .ifz ha (by simp [shrinkIdentifier, hag _ ha]) (p1.1 hm hag) (p2.1 hm hag)
      · intro i hi
        simp only [axBids, List.mem_append] at hi
        simp only [Core.FsStmt.binderIds]
        rcases hi with hi | hi
        · exact bids_lift p1.2 (fun i hi => List.mem_append_left _ hi) (Nat.le_refl _) m2 i hi
        · exact bids_lift p2.2 (fun i hi => List.mem_append_right _ hi) m1 (Nat.le_refl _) i hi
    | some b =>
      simp only [scStmt, Bool.and_eq_true] at hsc
      obtain ⟨⟨⟨ha, hb⟩, hs1⟩, hs2⟩ := hsc
      have p1 := hrec Γ f th st t1 st1 h1 hq1 hwt.1 hs1
        (by simpa using inv.enterS [] th.binderIds (by simp))
      have p2 := hrec Γ f el st1 t2 st' h2 hq hwt.2 hs2
        (by simpa using (inv.mono m1).enterS [] el.binderIds (by simp))
      refine ⟨fun hm hag => ?_, ?_⟩
      · exact .ifc ha (by simp [shrinkIdentifier, hag _ ha]) hb (by simp [shrinkIdentifier, hag _ hb])
          (p1.1 hm hag) (p2.1 hm hag)
      · intro i hi
        simp only [axBids, List.mem_append] at hi
        simp only [Core.FsStmt.binderIds]
        rcases hi with hi | hi
        · exact bids_lift p1.2 (fun i hi => List.mem_append_left _ hi) (Nat.le_refl _) m2 i hi
        · exact bids_lift p2.2 (fun i hi => List.mem_append_right _ hi) m1 (Nat.le_refl _) i hi
  | print nl a nx =>
    simp only [renStmt] at h
    simp only [wtStmt] at hwt
    simp only [scStmt, Bool.and_eq_true] at hsc
    simp only [Core.FsStmt.binderIds] at inv
    obtain ⟨t1, h1, rfl⟩ := wrap_inv h
    have p1 := hrec Γ f nx st t1 st' h1 hq hwt hsc.2 inv
    refine ⟨fun hm hag => .print hsc.1 (by simp [shrinkIdentifier, hag _ hsc.1]) (p1.1 hm hag), ?_⟩
    intro i hi
    simp only [axBids] at hi
    simpa [Core.FsStmt.binderIds] using p1.2 i hi
  | call n args =>
    cases h
    simp only [wtStmt] at hwt
    simp only [scStmt, List.all_eq_true] at hsc
    refine ⟨fun hm hag => ?_, by simp [axBids]⟩
    split at hwt
    · rename_i ps hps
      exact .call hps hwt hsc (by rw [axIds_shrinkContext_ren, hag.map hsc])
    · cases hwt
  | exit a =>
    cases h
    simp only [scStmt] at hsc
    exact ⟨fun hm hag => .exit hsc (by simp [shrinkIdentifier, hag _ hsc]), by simp [axBids]⟩

end step

/-- every output of `shrinkStmt` is a translation -/
theorem shrinkStmt_tr {E : TEnv} (q : AxCut.Prog) {env : Env} (hE : EnvMatches env E) :
    ∀ fuel, RecTr E q (shrinkStmt env fuel)
  | 0 => by
    intro Γ f s st t st' h
    simp [shrinkStmt] at h
  | fuel + 1 =>
    have ih := shrinkStmt_tr q hE fuel
    shrinkStmtStep_tr hE ih (shrinkStmt_mono env fuel) (lift_tr ih)

end Scc.Core2AxCut.Sem
