/-
  Scc.Core2AxCut.SemRun — proof file for the semantic part of C04: the vocabulary of a step-wise forward
  simulation: `Steps` (k steps of the named AxCut machine), the finished behaviours `Fin` / `CFin`, and the weak
  form of the simulation goal, `SimGoal` with `ResMatch` (one step of the focused-Core machine is matched by
  `k ≥ 0` AxCut steps, steps matched by none make the Core statement smaller; any stuck state matches a stuck
  state).  The simulation that is proved and used is the one of `SemStrong.lean`, which also matches the reason of
  getting stuck (`SimGoalS`, `ResMatchS`); it implies the weak form (`SimGoalS.weaken`), which nothing else uses.
-/
import Scc.Core2AxCut.Model
import Scc.Core.Sem
import Scc.AxCut.SemNamed

namespace Scc.Core2AxCut.Sem

open Scc.AxCut.Named (State step iterate)

/-- `k` steps of the AxCut machine, none of them final -/
inductive Steps (q : AxCut.Prog) : Nat → State → State → Prop
  | refl (a : State) : Steps q 0 a a
  | cons {k : Nat} {a b c : State} : step q a = .next b → Steps q k b c → Steps q (k + 1) a c

theorem Steps.one {q : AxCut.Prog} {a b : State} (h : step q a = .next b) : Steps q 1 a b :=
  .cons h (.refl b)

theorem Steps.trans {q : AxCut.Prog} {k l : Nat} {a b c : State} (h1 : Steps q k a b) (h2 : Steps q l b c) :
    Steps q (k + l) a c := by
  induction h1 with
  | refl a => simpa using h2
  | @cons k' _ _ _ hs _ ih =>
    have := Steps.cons hs (ih h2)
    rw [show k' + 1 + l = k' + l + 1 by omega]
    exact this

theorem Steps.zero_eq {q : AxCut.Prog} {a b : State} (h : Steps q 0 a b) : a = b := by
  cases h; rfl

theorem iterate_steps {q : AxCut.Prog} {k : Nat} {a b : State} (h : Steps q k a b) (m : Nat) :
    iterate q (k + m) a = iterate q m b := by
  induction h with
  | refl a => simp
  | @cons k' _ _ _ hs _ ih =>
    rw [show k' + 1 + m = (k' + m) + 1 by omega]
    simp only [iterate, hs]
    exact ih

theorem iterate_short {q : AxCut.Prog} {k : Nat} {a b : State} (h : Steps q k a b) :
    ∀ m, m ≤ k → (iterate q m a).res = .outOfFuel := by
  induction h with
  | refl a => intro m hm; have : m = 0 := by omega
              subst this; rfl
  | cons hs _ ih =>
    intro m hm
    cases m with
    | zero => rfl
    | succ m => simp only [iterate, hs]; exact ih m (by omega)

/-- the results of the two machines correspond -/
def ResMatch (r : Core.Res) (r' : AxCut.Named.Res) : Prop :=
  match r with
  | .done v => r' = .done v
  | .stuck _ => ∃ w, r' = .stuck w
  | .outOfFuel => False

/-- what one step of the Core machine from `cs` is matched by, from the AxCut state `as` -/
def SimGoal (p : Core.FsProg) (q : AxCut.Prog) (R : Core.FsState → State → Prop) (cs : Core.FsState)
    (as : State) : Prop :=
  match Core.fsStep p cs with
  | .next cs' => ∃ k as', Steps q k as as' ∧ R cs' as' ∧ (k = 0 → sizeStmt cs'.stmt < sizeStmt cs.stmt)
  | .final r => ∃ k as' r', Steps q k as as' ∧ step q as' = .halt cs.out r' ∧ ResMatch r r'

/-- a behaviour of the AxCut machine has finished (inside this namespace `Fin` is this predicate; the type of core
    is `_root_.Fin`) -/
def Fin (r : AxCut.Named.Res) : Prop := (∃ v, r = .done v) ∨ (∃ w, r = .stuck w)

/-- the same for the Core machine -/
def CFin (r : Core.Res) : Prop := (∃ v, r = .done v) ∨ (∃ w, r = .stuck w)

theorem ResMatch.fin {r r'} (h : ResMatch r r') : CFin r ∧ Fin r' := by
  cases r with
  | done v => exact ⟨.inl ⟨v, rfl⟩, .inl ⟨v, h⟩⟩
  | stuck w => obtain ⟨w', h⟩ := h; exact ⟨.inr ⟨w, rfl⟩, .inr ⟨w', h⟩⟩
  | outOfFuel => cases h

end Scc.Core2AxCut.Sem
