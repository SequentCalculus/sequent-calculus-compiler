/-
  Scc.Core2AxCut.SemRen — proof file for the semantic part of C04: the id-substitution of focused Core
  (`substStmt`, Rust `SubstVar`) as a renaming by a function on identifiers (`renStmt`), so that the
  statement actually handed to `FsStatement::shrink` — the original sub-statement under the composition
  of all substitutions performed on the way — can be written `renStmt f s`; and the uniqueness
  invariant (`InvB`) under which this renaming is capture-free.
-/
import Scc.Core2AxCut.SemSubst
import Scc.Core.Unique

namespace Scc.Core2AxCut.Sem

def renBinding (f : Core.Ident → Core.Ident) (b : Core.Binding) : Core.Binding := { b with var := f b.var }

def renCtx (f : Core.Ident → Core.Ident) (c : Core.Ctx) : Core.Ctx := c.map (renBinding f)

mutual
  def renTerm (f : Core.Ident → Core.Ident) : Core.FsTerm → Core.FsTerm
    | .var pc v ty => .var pc (f v) ty
    | .lit n => .lit n
    | .op a o b => .op (f a) o (f b)
    | .mu pc v ty s => .mu pc v ty (renStmt f s)
    | .xtor pc n args ty => .xtor pc n (renCtx f args) ty
    | .xcase pc ty cs => .xcase pc ty (renClauses f cs)
  def renClauses (f : Core.Ident → Core.Ident) : Core.FsClauses → Core.FsClauses
    | .nil => .nil
    | .cons x ctx body rest => .cons x ctx (renStmt f body) (renClauses f rest)
  def renStmt (f : Core.Ident → Core.Ident) : Core.FsStmt → Core.FsStmt
    | .cut ty p c => .cut ty (renTerm f p) (renTerm f c)
    | .ifc s a b t e => .ifc s (f a) (b.map f) (renStmt f t) (renStmt f e)
    | .print nl a n => .print nl (f a) (renStmt f n)
    | .call n args => .call n (renCtx f args)
    | .exit a => .exit (f a)
end

theorem substCtx_eq_ren (σ) (c : Core.Ctx) : substCtx σ c = renCtx (substIdent σ) c := rfl

mutual
  theorem substTerm_eq_ren (σ) : ∀ t, substTerm σ t = renTerm (substIdent σ) t
    | .var _ _ _ => rfl
    | .lit _ => rfl
    | .op _ _ _ => rfl
    | .mu _ _ _ s => by simp [substTerm, renTerm, substStmt_eq_ren σ s]
    | .xtor _ _ _ _ => rfl
    | .xcase _ _ cs => by simp [substTerm, renTerm, substClauses_eq_ren σ cs]
  theorem substClauses_eq_ren (σ) : ∀ cs, substClauses σ cs = renClauses (substIdent σ) cs
    | .nil => rfl
    | .cons _ _ b r => by simp [substClauses, renClauses, substStmt_eq_ren σ b, substClauses_eq_ren σ r]
  theorem substStmt_eq_ren (σ) : ∀ s, substStmt σ s = renStmt (substIdent σ) s
    | .cut _ p c => by simp [substStmt, renStmt, substTerm_eq_ren σ p, substTerm_eq_ren σ c]
    | .ifc _ _ _ t e => by simp [substStmt, renStmt, substStmt_eq_ren σ t, substStmt_eq_ren σ e]
    | .print _ _ n => by simp [substStmt, renStmt, substStmt_eq_ren σ n]
    | .call _ _ => rfl
    | .exit _ => rfl
end

theorem renCtx_renCtx (g f) (c : Core.Ctx) : renCtx g (renCtx f c) = renCtx (g ∘ f) c := by
  simp [renCtx, renBinding, Function.comp_def]

mutual
  theorem renTerm_renTerm (g f) : ∀ t, renTerm g (renTerm f t) = renTerm (g ∘ f) t
    | .var _ _ _ => rfl
    | .lit _ => rfl
    | .op _ _ _ => rfl
    | .mu _ _ _ s => by simp [renTerm, renStmt_renStmt g f s]
    | .xtor _ _ _ _ => by simp [renTerm, renCtx_renCtx]
    | .xcase _ _ cs => by simp [renTerm, renClauses_renClauses g f cs]
  theorem renClauses_renClauses (g f) : ∀ cs, renClauses g (renClauses f cs) = renClauses (g ∘ f) cs
    | .nil => rfl
    | .cons _ _ b r => by simp [renClauses, renStmt_renStmt g f b, renClauses_renClauses g f r]
  theorem renStmt_renStmt (g f) : ∀ s, renStmt g (renStmt f s) = renStmt (g ∘ f) s
    | .cut _ p c => by simp [renStmt, renTerm_renTerm g f p, renTerm_renTerm g f c]
    | .ifc _ _ b t e => by
      cases b <;> simp [renStmt, renStmt_renStmt g f t, renStmt_renStmt g f e]
    | .print _ _ n => by simp [renStmt, renStmt_renStmt g f n]
    | .call _ _ => by simp [renStmt, renCtx_renCtx]
    | .exit _ => rfl
end

theorem renCtx_id (c : Core.Ctx) : renCtx id c = c := by
  have : renBinding id = id := by funext b; cases b; rfl
  simp [renCtx, this]

mutual
  theorem renTerm_id : ∀ t, renTerm id t = t
    | .var _ _ _ => rfl
    | .lit _ => rfl
    | .op _ _ _ => rfl
    | .mu _ _ _ s => by simp [renTerm, renStmt_id s]
    | .xtor _ _ _ _ => by simp [renTerm, renCtx_id]
    | .xcase _ _ cs => by simp [renTerm, renClauses_id cs]
  theorem renClauses_id : ∀ cs, renClauses id cs = cs
    | .nil => rfl
    | .cons _ _ b r => by simp [renClauses, renStmt_id b, renClauses_id r]
  theorem renStmt_id : ∀ s, renStmt id s = s
    | .cut _ p c => by simp [renStmt, renTerm_id p, renTerm_id c]
    | .ifc _ _ b t e => by cases b <;> simp [renStmt, renStmt_id t, renStmt_id e]
    | .print _ _ n => by simp [renStmt, renStmt_id n]
    | .call _ _ => by simp [renStmt, renCtx_id]
    | .exit _ => rfl
end

theorem substStmt_ren (σ f s) : substStmt σ (renStmt f s) = renStmt (substIdent σ ∘ f) s := by
  rw [substStmt_eq_ren, renStmt_renStmt]

/-- `B` = ids of the binders of the statement being translated, `m` = current `max_id`:
    binder ids are pairwise distinct, the renaming is the identity on identifiers carrying a binder id,
    the images of the variables in scope avoid the binder ids, everything is `≤ m` -/
structure InvB (Γ : Core.Ctx) (f : Core.Ident → Core.Ident) (B : List Nat) (m : Nat) : Prop where
  nd : B.Nodup
  fid : ∀ v : Core.Ident, v.id ∈ B → f v = v
  rng : ∀ b, occFs Γ b = true → (f b.var).id ∉ B ∧ (f b.var).id ≤ m
  bm : ∀ i ∈ B, i ≤ m

theorem InvB.mono {Γ f B m m'} (h : InvB Γ f B m) (hm : m ≤ m') : InvB Γ f B m' :=
  ⟨h.nd, h.fid, fun b hb => ⟨(h.rng b hb).1, Nat.le_trans (h.rng b hb).2 hm⟩, fun i hi => Nat.le_trans (h.bm i hi) hm⟩

/-- entering the scope of the binders `Δ` (whose ids are among `B`), continuing with the binders `B'` -/
theorem InvB.enter {Γ f B m} (h : InvB Γ f B m) (Δ : Core.Ctx) (B' : List Nat) (hnd : B'.Nodup)
    (hsub : ∀ i ∈ B', i ∈ B) (hΔ : ∀ b ∈ Δ, b.var.id ∈ B ∧ b.var.id ∉ B') : InvB (Δ ++ Γ) f B' m := by
  refine ⟨hnd, fun v hv => h.fid v (hsub _ hv), ?_, fun i hi => h.bm i (hsub i hi)⟩
  intro b hb
  rcases occFs_append hb with hm | ⟨_, ho⟩
  · rw [h.fid b.var (hΔ b hm).1]
    exact ⟨(hΔ b hm).2, h.bm _ (hΔ b hm).1⟩
  · exact ⟨fun hc => (h.rng b ho).1 (hsub _ hc), (h.rng b ho).2⟩

theorem substIdent_of_not_dom {σ : List (Nat × Core.Ident)} {v : Core.Ident}
    (h : ∀ p ∈ σ, p.1 ≠ v.id) : substIdent σ v = v := by
  simp only [substIdent]
  have : σ.find? (fun p => p.1 == v.id) = none := by
    rw [List.find?_eq_none]
    intro p hp
    simpa using h p hp
  rw [this]

theorem substIdent_cases (σ : List (Nat × Core.Ident)) (v : Core.Ident) :
    substIdent σ v = v ∨ ∃ p ∈ σ, p.1 = v.id ∧ substIdent σ v = p.2 := by
  simp only [substIdent]
  cases hf : σ.find? (fun p => p.1 == v.id) with
  | none => left; rfl
  | some p =>
    right
    exact ⟨p, List.mem_of_find?_eq_some hf, by simpa using List.find?_some hf, rfl⟩

/-- composing with an id-substitution whose domain and range avoid the binders -/
theorem InvB.subst {Γ f B m} (h : InvB Γ f B m) (σ : List (Nat × Core.Ident))
    (hdom : ∀ p ∈ σ, p.1 ∉ B) (hrng : ∀ p ∈ σ, p.2.id ∉ B ∧ p.2.id ≤ m) :
    InvB Γ (substIdent σ ∘ f) B m := by
  refine ⟨h.nd, ?_, ?_, h.bm⟩
  · intro v hv
    simp only [Function.comp, h.fid v hv]
    exact substIdent_of_not_dom (fun p hp e => hdom p hp (by rw [e]; exact hv))
  · intro b hb
    simp only [Function.comp]
    rcases substIdent_cases σ (f b.var) with e | ⟨p, hp, _, e⟩
    · rw [e]; exact h.rng b hb
    · rw [e]; exact hrng p hp

/-! ## binder ids: `bindersStmt` (FreeVarsSpec) vs `binderIds` (Core.Unique) -/

mutual
  theorem bindersTerm_ids : ∀ t, (bindersTerm t).map (·.var.id) = t.binderIds
    | .var _ _ _ => rfl
    | .lit _ => rfl
    | .op _ _ _ => rfl
    | .mu _ _ _ s => by simp [bindersTerm, Core.FsTerm.binderIds, bindersStmt_ids s]
    | .xtor _ _ _ _ => rfl
    | .xcase _ _ cs => by simp [bindersTerm, Core.FsTerm.binderIds, bindersClauses_ids cs]
  theorem bindersClauses_ids : ∀ cs, (bindersClauses cs).map (·.var.id) = cs.binderIds
    | .nil => rfl
    | .cons _ ctx b r => by
      simp [bindersClauses, Core.FsClauses.binderIds, bindersStmt_ids b, bindersClauses_ids r, Core.ctxIds]
  theorem bindersStmt_ids : ∀ s, (bindersStmt s).map (·.var.id) = s.binderIds
    | .cut _ p c => by simp [bindersStmt, Core.FsStmt.binderIds, bindersTerm_ids p, bindersTerm_ids c]
    | .ifc _ _ _ t e => by simp [bindersStmt, Core.FsStmt.binderIds, bindersStmt_ids t, bindersStmt_ids e]
    | .print _ _ n => by simp [bindersStmt, Core.FsStmt.binderIds, bindersStmt_ids n]
    | .call _ _ => rfl
    | .exit _ => rfl
end

/-- the clause found by the Core machine, its parameters and binders inside the clause list -/
theorem find_binderIds {K ctx body} : ∀ (cl : Core.FsClauses), cl.find K = some (ctx, body) →
    (∀ i ∈ Core.ctxIds ctx, i ∈ cl.binderIds) ∧ (∀ i ∈ body.binderIds, i ∈ cl.binderIds) ∧
    (cl.binderIds.Nodup → (Core.ctxIds ctx).Nodup ∧ body.binderIds.Nodup ∧
      ∀ i ∈ Core.ctxIds ctx, i ∉ body.binderIds)
  | .nil, h => by simp [Core.FsClauses.find] at h
  | .cons x c b r, h => by
    simp only [Core.FsClauses.find] at h
    split at h
    · simp only [Option.some.injEq, Prod.mk.injEq] at h
      obtain ⟨rfl, rfl⟩ := h
      simp only [Core.FsClauses.binderIds, List.mem_append]
      refine ⟨fun i hi => .inl (.inl hi), fun i hi => .inl (.inr hi), ?_⟩
      intro hnd
      have h1 := List.nodup_append.mp hnd
      have h2 := List.nodup_append.mp h1.1
      exact ⟨h2.1, h2.2.1, fun i hi hb => h2.2.2 i hi i hb rfl⟩
    · have ih := find_binderIds r h
      simp only [Core.FsClauses.binderIds, List.mem_append]
      refine ⟨fun i hi => .inr (ih.1 i hi), fun i hi => .inr (ih.2.1 i hi), ?_⟩
      intro hnd
      exact ih.2.2 (List.nodup_append.mp hnd).2.1

end Scc.Core2AxCut.Sem
