/-
  Scc.Core2AxCut.SizeProofs — the size invariant of shrinking (C19-T3): the AxCut statement
  produced for a focused Core statement `s`, together with all definitions lifted on the way, has at
  most `(d + 1) * size s` nodes, where `d` is the largest number of xtors of a declared type.
  The proof uses the exact sharing condition of `shrink_critical_pairs` (`inlineExpand`): the
  expanded side is copied into every clause only if there is at most one clause or its image is a
  single node (`exit`, `call`, `invoke`).
-/
import Scc.Core2AxCut.Proofs

namespace Scc.Core2AxCut

mutual
  theorem axSizeStmt_subst (σ) : ∀ s, axSizeStmt (axSubstStmt σ s) = axSizeStmt s
    | .subst _ n => by simp [axSubstStmt, axSizeStmt, axSizeStmt_subst σ n]
    | .call _ _ => by simp [axSubstStmt, axSizeStmt]
    | .letS _ _ _ _ n _ => by simp [axSubstStmt, axSizeStmt, axSizeStmt_subst σ n]
    | .switch _ _ cs _ => by simp [axSubstStmt, axSizeStmt, axSizeClauses_subst σ cs]
    | .create _ _ _ cs n _ _ => by
      simp [axSubstStmt, axSizeStmt, axSizeClauses_subst σ cs, axSizeStmt_subst σ n]
    | .invoke _ _ _ _ => by simp [axSubstStmt, axSizeStmt]
    | .lit _ _ n _ => by simp [axSubstStmt, axSizeStmt, axSizeStmt_subst σ n]
    | .op _ _ _ _ n _ => by simp [axSubstStmt, axSizeStmt, axSizeStmt_subst σ n]
    | .print _ _ n _ => by simp [axSubstStmt, axSizeStmt, axSizeStmt_subst σ n]
    | .ifc _ _ _ t e => by simp [axSubstStmt, axSizeStmt, axSizeStmt_subst σ t, axSizeStmt_subst σ e]
    | .exit _ => by simp [axSubstStmt, axSizeStmt]
  theorem axSizeClauses_subst (σ) : ∀ cs, axSizeClauses (axSubstClauses σ cs) = axSizeClauses cs
    | .nil => by simp [axSubstClauses, axSizeClauses]
    | .cons _ _ b r => by
      simp [axSubstClauses, axSizeClauses, axSizeStmt_subst σ b, axSizeClauses_subst σ r]
end

theorem defsSize_append : ∀ a b, defsSize (a ++ b) = defsSize a + defsSize b
  | [], b => by simp [defsSize]
  | d :: a, b => by simp [defsSize, defsSize_append a b]; omega

/-- the bound on the number of clauses of an eta-expansion -/
def xtorBound (env : Env) : Nat := max (maxXtors env.data) (maxXtors env.codata)

theorem lookup_len {name : Core.Ident} : ∀ {types : List Core.TypeDecl} {d},
    lookupTypeDeclaration name types = .ok d → d.xtors.length ≤ maxXtors types
  | [], d, h => by simp [lookupTypeDeclaration] at h
  | t :: ts, d, h => by
    by_cases ht : (t.name == name) = true
    · simp [lookupTypeDeclaration, ht] at h
      subst h; simp [maxXtors]; omega
    · have : lookupTypeDeclaration name ts = .ok d := by
        simpa [lookupTypeDeclaration, List.find?_cons, ht] using h
      have := lookup_len this
      simp [maxXtors]; omega

theorem lookup_len_env {env : Env} {name b d}
    (h : lookupTypeDeclaration name (if b = true then env.codata else env.data) = .ok d) :
    d.xtors.length ≤ xtorBound env := by
  have := lookup_len h
  unfold xtorBound
  split at this <;> omega

theorem freshenCtx_lifted : ∀ c st, (freshenCtx c st).2.lifted = st.lifted
  | [], st => rfl
  | b :: bs, st => by rw [freshenCtx_cons]; exact freshenCtx_lifted bs _

theorem unknownClauses_spec (env : Env) (v ty) : ∀ xs st,
    (unknownClauses env v ty xs st).2.lifted = st.lifted ∧
    axSizeClauses (unknownClauses env v ty xs st).1 = 2 * xs.length
  | [], st => ⟨rfl, rfl⟩
  | x :: xs, st => by
    obtain ⟨h1, h2⟩ := unknownClauses_spec env v ty xs (freshenCtx (shrinkContext env.codata x.args) st).2
    rw [unknownClauses_cons]
    constructor
    · rw [h1, freshenCtx_lifted]
    · simp only [axSizeClauses, axSizeStmt, h2, List.length_cons]; omega

theorem criticalClauses_spec (env : Env) (v ty e) : ∀ xs st,
    (criticalClauses env v ty e xs st).2.lifted = st.lifted ∧
    axSizeClauses (criticalClauses env v ty e xs st).1 = xs.length * (axSizeStmt e + 2)
  | [], st => ⟨rfl, by simp [criticalClauses, axSizeClauses]⟩
  | x :: xs, st => by
    rw [criticalClauses_cons]
    obtain ⟨h1, h2⟩ := criticalClauses_spec env v ty e xs
      { (freshenCtx (shrinkContext env.codata x.args) st).2 with
        maxId := (freshenCtx (shrinkContext env.codata x.args) st).2.maxId + 1 }
    constructor
    · rw [h1]; exact freshenCtx_lifted _ st
    · simp only [axSizeClauses, axSizeStmt, axSizeStmt_subst, h2, List.length_cons, Nat.add_mul]; omega

theorem liftFresh_lifted : ∀ bs st, (liftFresh bs st).2.lifted = st.lifted
  | [], st => rfl
  | b :: bs, st => by rw [liftFresh_cons]; exact liftFresh_lifted bs _

/-- what the recursive call guarantees: it only prepends lifted definitions, the result plus the
    new definitions is at most `K * size`, and leaf statements become a single node -/
def RecPost (K n : Nat) (rec : Rec) : Prop :=
  ∀ s st r st', sizeStmt s ≤ n → rec s st = .ok (r, st') →
    ∃ new, st'.lifted = new ++ st.lifted ∧
      axSizeStmt r + defsSize new ≤ K * sizeStmt s ∧
      (isLeafStmt s = true → axSizeStmt r = 1 ∧ new = [])

theorem shrinkClauses_post {env : Env} {K n : Nat} {rec : Rec} (hK : 1 ≤ K) (hrec : RecPost K n rec) :
    ∀ cs st r st', sizeClauses cs ≤ n → shrinkClauses env rec cs st = .ok (r, st') →
      ∃ new, st'.lifted = new ++ st.lifted ∧ axSizeClauses r + defsSize new ≤ K * sizeClauses cs
  | .nil, st, r, st', _, h => by
    cases h
    exact ⟨[], rfl, by simp [axSizeClauses, defsSize]⟩
  | .cons x ctx body rest, st, r, st', hs, h => by
    simp only [sizeClauses] at hs
    obtain ⟨b', st1, r', hb, hr, rfl⟩ := shrinkClauses_cons_inv h
    obtain ⟨n1, hl1, hz1, _⟩ := hrec body st b' st1 (by omega) hb
    obtain ⟨n2, hl2, hz2⟩ := shrinkClauses_post hK hrec rest st1 r' st' (by omega) hr
    refine ⟨n2 ++ n1, by rw [hl2, hl1, List.append_assoc], ?_⟩
    simp only [axSizeClauses, sizeClauses, defsSize_append, Nat.mul_add]
    omega

theorem lift_post {env : Env} {K n : Nat} {rec : Rec} (hrec : RecPost K n rec) (s st r st')
    (hs : sizeStmt s ≤ n) (h : lift env rec s st = .ok (r, st')) :
    ∃ new, st'.lifted = new ++ st.lifted ∧ axSizeStmt r = 1 ∧ defsSize new ≤ K * sizeStmt s + 1 := by
  obtain ⟨label, st2, st3, body, _, _, _, _, _, hl2, _, hb, rfl, rfl⟩ := lift_label h
  obtain ⟨n1, hl1, hz1, _⟩ := hrec _ _ body st3 (by rw [sizeStmt_subst]; exact hs) hb
  rw [hl2] at hl1
  refine ⟨⟨shrinkIdentifier label, shrinkContext env.codata (liftFresh (tfvStmt s []) st).1.1, body⟩ :: n1,
    by simp only [hl1, List.cons_append], by simp [axSizeStmt], ?_⟩
  simp only [defsSize]
  rw [sizeStmt_subst] at hz1
  omega

theorem isLeaf_size {s} (h : isLeafStmt s = true) : sizeStmt s ≤ 3 := by
  unfold isLeafStmt at h
  split at h
  · exact Nat.le_succ_of_le (Nat.le_succ _)
  · exact Nat.le_succ_of_le (Nat.le_succ _)
  · exact Nat.le_refl _
  · exact Nat.le_refl _
  · cases h

theorem shrinkUnknownCuts_post {env : Env} {K : Nat} (hK : xtorBound env + 1 ≤ K) (v1 v2 ty st r st')
    (h : shrinkUnknownCuts env v1 v2 ty st = .ok (r, st')) :
    st'.lifted = st.lifted ∧ axSizeStmt r ≤ K * 3 := by
  cases ty with
  | i64 =>
    cases h
    exact ⟨rfl, by simp only [axSizeStmt]; omega⟩
  | decl name =>
    obtain ⟨d, hd, rfl, rfl⟩ := shrinkUnknownCuts_decl_inv h
    have hlen := lookup_len_env hd
    have := unknownClauses_spec env (if isCodata env.codata (.decl name) = true then v1 else v2)
      (shrinkTy (.decl name)) d.xtors st
    refine ⟨this.1, ?_⟩
    simp only [axSizeStmt, this.2]
    omega

theorem criticalDecl_post {env : Env} {K n : Nat} {rec : Rec} (hK : xtorBound env + 1 ≤ K)
    (hrec : RecPost K n rec) (d : Core.TypeDecl) (hlen : d.xtors.length ≤ xtorBound env)
    (name tt vK sK vE sE st r st') (hsK : sizeStmt sK ≤ n) (hsE : sizeStmt sE ≤ n)
    (h : criticalDecl env rec d name tt vK sK vE sE st = .ok (r, st')) :
    ∃ new, st'.lifted = new ++ st.lifted ∧
      axSizeStmt r + defsSize new ≤ K * (sizeStmt sK + sizeStmt sE + 3) := by
  obtain ⟨e, st1, k, he, hk, rfl⟩ := criticalDecl_inv h
  obtain ⟨hcl1, hcl2⟩ := criticalClauses_spec env vE tt e d.xtors st1
  obtain ⟨nk, hlk, hzk, _⟩ := hrec sK _ k st' hsK hk
  rw [hcl1] at hlk
  have hposE := sizeStmt_pos sE
  simp only [axSizeStmt, hcl2, Nat.mul_add]
  -- the expanded side: in place or lifted
  by_cases hin : inlineExpand d.xtors.length sE = true
  · simp only [hin, if_true] at he
    obtain ⟨ne, hle, hze, hleaf⟩ := hrec sE st e st1 hsE he
    refine ⟨nk ++ ne, by rw [hlk, hle, List.append_assoc], ?_⟩
    simp only [defsSize_append]
    simp only [inlineExpand, Bool.or_eq_true, decide_eq_true_eq] at hin
    rcases hin with hle1 | hlf
    · -- at most one clause
      have : d.xtors.length = 0 ∨ d.xtors.length = 1 := by omega
      rcases this with h0 | h1
      · rw [h0]; omega
      · rw [h1]; omega
    · -- a leaf: its image is a single node and nothing was lifted
      obtain ⟨he1, hne⟩ := hleaf hlf
      subst hne
      rw [he1]
      simp only [defsSize]
      omega
  · simp only [hin] at he
    obtain ⟨ne, hle, he1, hze⟩ := lift_post hrec sE st e st1 hsE he
    refine ⟨nk ++ ne, by rw [hlk, hle, List.append_assoc], ?_⟩
    simp only [defsSize_append]
    rw [he1]
    omega

theorem shrinkCriticalPairs_post {env : Env} {K n : Nat} {rec : Rec} (hK : xtorBound env + 1 ≤ K)
    (hrec : RecPost K n rec) (v1 s1 v2 s2 ty st r st') (hs1 : sizeStmt s1 ≤ n) (hs2 : sizeStmt s2 ≤ n)
    (h : shrinkCriticalPairs env rec v1 s1 v2 s2 ty st = .ok (r, st')) :
    ∃ new, st'.lifted = new ++ st.lifted ∧
      axSizeStmt r + defsSize new ≤ K * (sizeStmt s1 + sizeStmt s2 + 3) := by
  cases ty with
  | i64 =>
    obtain ⟨b, st1, c, hb, hc, rfl⟩ := shrinkCriticalPairs_i64_inv h
    obtain ⟨n1, hl1, hz1, _⟩ := hrec s2 st b st1 hs2 hb
    obtain ⟨n2, hl2, hz2, _⟩ := hrec s1 st1 c st' hs1 hc
    refine ⟨n2 ++ n1, by rw [hl2, hl1, List.append_assoc], ?_⟩
    simp only [axSizeStmt, axSizeClauses, defsSize_append, Nat.mul_add]
    omega
  | decl name =>
    obtain ⟨d, hd, h⟩ := shrinkCriticalPairs_decl_inv h
    have hlen := lookup_len_env hd
    split at h
    · have := criticalDecl_post hK hrec d hlen _ _ _ _ _ _ _ _ _ hs2 hs1 h
      rw [Nat.add_comm (sizeStmt s2)] at this
      exact this
    · exact criticalDecl_post hK hrec d hlen _ _ _ _ _ _ _ _ _ hs1 hs2 h

theorem shrinkKnownCuts_post {K n : Nat} {rec : Rec} (hrec : RecPost K n rec)
    (name args cs st r st') (hs : sizeClauses cs ≤ n + 1)
    (h : shrinkKnownCuts rec name args cs st = .ok (r, st')) :
    ∃ new, st'.lifted = new ++ st.lifted ∧ axSizeStmt r + defsSize new ≤ K * sizeClauses cs := by
  obtain ⟨ctx, body, hf, h⟩ := shrinkKnownCuts_inv h
  have hsz := findClause_size cs hf
  obtain ⟨nw, hl, hz, _⟩ := hrec _ st r st' (by rw [sizeStmt_subst]; omega) h
  rw [sizeStmt_subst] at hz
  refine ⟨nw, hl, ?_⟩
  have : K * sizeStmt body ≤ K * sizeClauses cs := Nat.mul_le_mul_left K (by omega)
  omega

/-! The arithmetic of the invariant, about variables: a bound `a ≤ K * s` survives a larger size, and
    each further node of the input pays for up to `K` further nodes of the output. -/

theorem le_mul_mono {K a s x : Nat} (h : a ≤ K * s) (hx : s ≤ x) : a ≤ K * x :=
  Nat.le_trans h (Nat.mul_le_mul_left K hx)

theorem add_le_mul {K a e s x : Nat} (h : a ≤ K * s) (he : e ≤ K) (hx : s + 1 ≤ x) : a + e ≤ K * x :=
  le_mul_mono (s := s + 1) (by rw [Nat.mul_succ]; exact Nat.add_le_add h he) hx

theorem add_add_le_mul {K a1 a2 e s1 s2 x : Nat} (h1 : a1 ≤ K * s1) (h2 : a2 ≤ K * s2) (he : e ≤ K)
    (hx : s1 + s2 + 1 ≤ x) : a1 + a2 + e ≤ K * x :=
  add_le_mul (s := s1 + s2) (by rw [Nat.mul_add]; exact Nat.add_le_add h1 h2) he hx

theorem shrinkCut_post {env : Env} {K n : Nat} {rec : Rec} (hK : xtorBound env + 1 ≤ K)
    (hrec : RecPost K n rec) (ty p c st r st') (hs : sizeStmt (.cut ty p c) ≤ n + 1)
    (h : shrinkCut env rec ty p c st = .ok (r, st')) :
    ∃ new, st'.lifted = new ++ st.lifted ∧
      axSizeStmt r + defsSize new ≤ K * sizeStmt (.cut ty p c) ∧
      (isLeafStmt (.cut ty p c) = true → axSizeStmt r = 1 ∧ new = []) := by
  have hK1 : 1 ≤ K := by omega
  cases shrinkCut_run h <;> simp only [sizeStmt, sizeTerm] at hs ⊢
  case muVar h | varMu h =>
    obtain ⟨nw, hl, hz, _⟩ := hrec _ st r st' (by rw [sizeStmt_subst]; omega) h
    rw [sizeStmt_subst] at hz
    exact ⟨nw, hl, le_mul_mono hz (by omega), by simp [isLeafStmt]⟩
  case xtorXcase h | xcaseXtor h =>
    obtain ⟨nw, hl, hz⟩ := shrinkKnownCuts_post hrec _ _ _ st r st' (by omega) h
    exact ⟨nw, hl, le_mul_mono hz (by omega), by simp [isLeafStmt]⟩
  case varVar h =>
    obtain ⟨hl, hz⟩ := shrinkUnknownCuts_post hK _ _ _ _ _ _ h
    exact ⟨[], by simp [hl], hz, by simp [isLeafStmt]⟩
  case muMu h =>
    obtain ⟨nw, hl, hz⟩ := shrinkCriticalPairs_post hK hrec _ _ _ _ _ _ _ _ (by omega) (by omega) h
    exact ⟨nw, hl, le_mul_mono hz (by omega), by simp [isLeafStmt]⟩
  -- one call of `rec` on the body of a mu, one node on top
  case litMu h | opMu h | xtorMu h | muXtor h =>
    obtain ⟨nw, hl, hz, _⟩ := hrec _ _ _ _ (by omega) h
    refine ⟨nw, hl, ?_, by simp [isLeafStmt]⟩
    simp only [axSizeStmt]
    rw [Nat.add_right_comm]
    exact add_le_mul hz hK1 (by omega)
  case litVar | opVar =>
    exact ⟨[], rfl, by simp only [axSizeStmt, invokeRet, defsSize]; omega, by simp [isLeafStmt]⟩
  case xtorVar | varXtor =>
    exact ⟨[], rfl, by simp only [axSizeStmt, defsSize]; omega, fun _ => ⟨rfl, rfl⟩⟩
  case varXcase h | xcaseVar h =>
    obtain ⟨nw, hl, hz⟩ := shrinkClauses_post hK1 hrec _ _ _ _ (by omega) h
    refine ⟨nw, hl, ?_, by simp [isLeafStmt]⟩
    simp only [axSizeStmt]
    rw [Nat.add_right_comm]
    exact add_le_mul hz hK1 (by omega)
  case muXcase h1 h2 | xcaseMu h1 h2 =>
    obtain ⟨n1, hl1, hz1⟩ := shrinkClauses_post hK1 hrec _ _ _ _ (by omega) h1
    obtain ⟨n2, hl2, hz2, _⟩ := hrec _ _ _ _ (by omega) h2
    refine ⟨n2 ++ n1, by rw [hl2, hl1, List.append_assoc], ?_, by simp [isLeafStmt]⟩
    have e : ∀ a b c d : Nat, a + b + 1 + (d + c) = a + c + (b + d) + 1 := by intros; omega
    simp only [axSizeStmt, defsSize_append]
    rw [e]
    exact add_add_le_mul hz1 hz2 hK1 (by omega)

theorem shrinkStmtStep_post {env : Env} {K n : Nat} {rec : Rec} (hK : xtorBound env + 1 ≤ K)
    (hrec : RecPost K n rec) (s st r st') (hs : sizeStmt s ≤ n + 1)
    (h : shrinkStmtStep env rec s st = .ok (r, st')) :
    ∃ new, st'.lifted = new ++ st.lifted ∧
      axSizeStmt r + defsSize new ≤ K * sizeStmt s ∧
      (isLeafStmt s = true → axSizeStmt r = 1 ∧ new = []) := by
  have hK1 : 1 ≤ K := by omega
  cases s with
  | cut ty p c => exact shrinkCut_post hK hrec ty p c st r st' hs h
  | ifc sort a b t e =>
    simp only [sizeStmt] at hs ⊢
    obtain ⟨t', st1, e', ht, he, rfl⟩ := wrap2_inv h
    obtain ⟨n1, hl1, hz1, _⟩ := hrec t st t' st1 (by omega) ht
    obtain ⟨n2, hl2, hz2, _⟩ := hrec e st1 e' st' (by omega) he
    refine ⟨n2 ++ n1, by rw [hl2, hl1, List.append_assoc], ?_, by simp [isLeafStmt]⟩
    simp only [axSizeStmt, defsSize_append, Nat.mul_add]; omega
  | print nl a nx =>
    simp only [sizeStmt] at hs ⊢
    obtain ⟨n', hn, rfl⟩ := wrap_inv h
    obtain ⟨n1, hl1, hz1, _⟩ := hrec nx st n' st' (by omega) hn
    refine ⟨n1, hl1, ?_, by simp [isLeafStmt]⟩
    simp only [axSizeStmt, Nat.mul_add]; omega
  | call f args =>
    cases h
    exact ⟨[], rfl, by simp only [axSizeStmt, defsSize, sizeStmt]; omega, fun _ => ⟨rfl, rfl⟩⟩
  | exit a =>
    cases h
    exact ⟨[], rfl, by simp only [axSizeStmt, defsSize, sizeStmt]; omega, fun _ => ⟨rfl, rfl⟩⟩

theorem shrinkStmt_post {env : Env} {K : Nat} (hK : xtorBound env + 1 ≤ K) :
    ∀ fuel, RecPost K fuel (shrinkStmt env fuel)
  | 0 => by
    intro s st r st' _ h
    simp [shrinkStmt] at h
  | fuel + 1 => by
    intro s st r st' hs h
    exact shrinkStmtStep_post hK (shrinkStmt_post hK fuel) s st r st' hs h

/-- C19-T3 for one definition: the image of the definition plus everything lifted out of it -/
theorem shrinkDef_size (d : Core.FsDef) (data codata : List Core.TypeDecl) (used : List Core.Ident)
    (maxId : Nat) (defs u m) (h : shrinkDef d data codata used maxId = .ok (defs, u, m)) :
    defsSize defs ≤ (max (maxXtors data) (maxXtors codata) + 1) * (sizeStmt d.body + 1) := by
  obtain ⟨body, st, hb, e⟩ := shrinkDef_inv h
  cases e
  have hK : xtorBound ⟨data, codata, d.name.name⟩ + 1 ≤ max (maxXtors data) (maxXtors codata) + 1 :=
    Nat.le_refl _
  obtain ⟨nw, hl, hz, _⟩ := shrinkStmt_post hK (sizeStmt d.body + 1) d.body ⟨maxId, used, []⟩ body st
    (by omega) hb
  simp only [List.append_nil] at hl
  simp only [defsSize, hl, Nat.mul_add]
  omega

theorem shrinkDefs_size (data codata : List Core.TypeDecl) :
    ∀ (ds : List Core.FsDef) (used : List Core.Ident) (maxId : Nat) (defs u m),
    shrinkDefs data codata ds used maxId = .ok (defs, u, m) →
    defsSize defs ≤ (max (maxXtors data) (maxXtors codata) + 1) * fsDefsSize ds
  | [], _, _, defs, u, m, h => by
    simp [shrinkDefs] at h
    obtain ⟨rfl, rfl, rfl⟩ := h
    simp [defsSize]
  | d :: ds, used, maxId, defs, u, m, h => by
    obtain ⟨d1, u1, m1, d2, u2, m2, h1, h2, e⟩ := shrinkDefs_cons_inv h
    cases e
    have := shrinkDef_size d data codata used maxId d1 u1 m1 h1
    have := shrinkDefs_size data codata ds u1 m1 d2 _ _ h2
    simp only [defsSize_append, fsDefsSize, Nat.mul_add] at *
    omega

theorem maxXtors_append : ∀ a b, maxXtors (a ++ b) = max (maxXtors a) (maxXtors b)
  | [], b => by simp [maxXtors]
  | d :: a, b => by simp [maxXtors, maxXtors_append a b, Nat.max_assoc]

/-- C19-T3 for a program: `|S4| ≤ (d + 1) · |S3|` in statement/clause/definition nodes, where `d` is
    the largest number of xtors of a declared type (at least 1 because of `_Cont`) -/
theorem shrinkProg_size (p : Core.FsProg) (q : AxCut.Prog) (h : shrinkProg p = .ok q) :
    defsSize q.defs ≤ (max (max (maxXtors p.dataTypes) (maxXtors p.codataTypes)) 1 + 1) * fsDefsSize p.defs := by
  obtain ⟨defs, u, m, hd, rfl⟩ := shrinkProg_inv h
  have := shrinkDefs_size _ _ p.defs _ p.maxId defs u m hd
  simp only [maxXtors_append, maxXtors, contInt, List.length_cons, List.length_nil] at this
  have e : max (max (maxXtors p.dataTypes) (max (0 + 1) 0)) (maxXtors p.codataTypes) =
      max (max (maxXtors p.dataTypes) (maxXtors p.codataTypes)) 1 := by omega
  rw [e] at this
  exact this

end Scc.Core2AxCut
