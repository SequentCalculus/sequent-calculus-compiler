/-
  Scc.Core2AxCut.SemLift — proof file for the semantic part of C04: `lift` (cut.rs: fn lift) preserves
  the translation invariant.  The lifted statement is called with its free variables; the new definition
  takes fresh parameters in the same order and its body translates the same statement under the
  renaming of the free variables to the parameters (rule `Tr.lifted`).
-/
import Scc.Core2AxCut.SemTr
import Scc.Core2AxCut.SemFv
import Scc.Core2AxCut.FreeVars
import Scc.ListLemmas

namespace Scc.Core2AxCut.Sem

open Scc.AxCut.Named (Value lookup lookupAll bindParams findDef State step)

theorem occFs_filter {Γ : Core.Ctx} {b : Core.Binding} (keep : Core.Binding → Bool) (h : occFs Γ b = true)
    (hk : keep b = true) : occFs (Γ.filter keep) b = true := by
  induction Γ with
  | nil => simp [occFs, lookupFs] at h
  | cons c Γ ih =>
    rcases occFs_cons h with rfl | ⟨hne, h'⟩
    · simp only [List.filter_cons, hk, if_true]
      exact occFs_cons_self _ _
    · by_cases hc : keep c = true
      · simp only [List.filter_cons, hc, if_true]
        exact occFs_cons_of_ne hne (ih h')
      · simp only [List.filter_cons, hc]
        exact ih h'

theorem occFs_mem {Γ : Core.Ctx} {b : Core.Binding} (h : occFs Γ b = true) : b ∈ Γ := by
  simp only [occFs, lookupFs] at h
  exact List.mem_of_find?_eq_some (eq_of_beq h)

theorem liftParams_ids_le : ∀ (m : Nat) (bs : List Core.Binding),
    ∀ i ∈ (liftParams m bs).map (·.var.id), m < i ∧ i ≤ m + bs.length
  | m, [] => by simp [liftParams]
  | m, b :: bs => by
    intro i hi
    simp only [liftParams, List.map_cons, List.mem_cons] at hi
    rcases hi with rfl | hi
    · simp only [List.length_cons]; omega
    · have := liftParams_ids_le (m + 1) bs i hi
      simp only [List.length_cons]; omega

/-- looking up an identifier in a zipped substitution: position in the domain = position in the range -/
theorem substIdent_zip : ∀ (ids : List Nat) (vars : List Core.Ident) (v : Core.Ident),
    ids.length = vars.length → v.id ∈ ids →
    ∃ i : Nat, ids[i]? = some v.id ∧ vars[i]? = some (substIdent (ids.zip vars) v)
  | [], _, _, _, h => by simp at h
  | _ :: _, [], _, h, _ => by simp at h
  | j :: ids, w :: vars, v, hl, hm => by
    by_cases hj : j = v.id
    · refine ⟨0, by simp [hj], ?_⟩
      simp [substIdent, hj]
    · have hm' : v.id ∈ ids := by
        rcases List.mem_cons.mp hm with e | e
        · exact absurd e.symm hj
        · exact e
      obtain ⟨i, h1, h2⟩ := substIdent_zip ids vars v (by simpa using hl) hm'
      refine ⟨i + 1, by simpa using h1, ?_⟩
      have hj' : (j == v.id) = false := by simpa using hj
      simp only [List.getElem?_cons_succ, h2, substIdent, List.zip_cons_cons, List.find?_cons, hj']

/-- What a successful `lift` of a scoped statement with unique binders does: it translates the same statement
    under the context restricted to its free variables (`Γ'`), renamed to the fresh parameters (`σ ∘ f`), into the
    body of a new definition, and returns the call of that definition with the free variables; the `i`-th
    parameter stands for the `i`-th free variable. -/
theorem lift_run {env : Env} {rec : Rec} {Γ f s st t st'} (h : lift env rec (renStmt f s) st = .ok (t, st'))
    (hsc : scStmt Γ s = true) (inv : InvB Γ f s.binderIds st.maxId) :
    ∃ (k : Nat) (body : AxCut.Stmt) (st3 : St) (fv : List Core.Binding) (Γ' : Core.Ctx),
      st.maxId + fv.length < k ∧
      rec (renStmt (substIdent (liftSubst st.maxId fv) ∘ f) s)
        ⟨k, ⟨"lift_" ++ env.currentLabel ++ "_", k⟩ :: st.usedLabels, st.lifted⟩ = .ok (body, st3) ∧
      t = .call ⟨"lift_" ++ env.currentLabel ++ "_", k⟩ (shrinkContext env.codata fv) ∧
      st' = { st3 with lifted := ⟨⟨"lift_" ++ env.currentLabel ++ "_", k⟩,
        shrinkContext env.codata (liftParams st.maxId fv), body⟩ :: st3.lifted } ∧
      (∀ β ∈ fv, ∃ b, b ∈ fvStmt s ∧ occFs Γ b = true ∧ β = renBinding f b) ∧
      (∀ b, occFs Γ' b = true → occFs Γ b = true) ∧
      InvB Γ' (substIdent (liftSubst st.maxId fv) ∘ f) s.binderIds k ∧ scStmt Γ' s = true ∧
      (∀ b, occFs Γ' b = true → ∃ i : Nat, (fv.map fun b => b.var.id)[i]? = some (f b.var).id ∧
        ((liftParams st.maxId fv).map (·.var))[i]? = some (substIdent (liftSubst st.maxId fv) (f b.var))) := by
  obtain ⟨k, body, st3, hk, _, _, hb, ht, hst⟩ := lift_spec env rec (renStmt f s) st t st' h
  -- the statement handed to `lift` has unique binders, so `typed_free_vars` is exact
  have hbid : ∀ β ∈ bindersStmt s, β.var.id ∈ s.binderIds := by
    intro β hβ
    rw [← bindersStmt_ids]
    exact List.mem_map.mpr ⟨β, hβ, rfl⟩
  have hback : ∀ β ∈ fvStmt (renStmt f s), ∃ b, b ∈ fvStmt s ∧ occFs Γ b = true ∧ β = renBinding f b := by
    intro β hβ
    obtain ⟨b, hb1, hb2⟩ := fv_ren_backStmt inv.fid s (fun i hi => hi) β hβ
    exact ⟨b, hb1, sc_fvStmt s Γ hsc b hb1, hb2⟩
  have hUB : UniqueBinders (renStmt f s) := by
    refine ⟨?_, ?_⟩
    · rw [bindersStmt_ren]
      exact nodup_of_map (fun b => b.var.id) _ (by rw [bindersStmt_ids]; exact inv.nd)
    · rw [bindersStmt_ren]
      intro β hβ hc
      obtain ⟨b, _, hocc, rfl⟩ := hback β hc
      exact (inv.rng b hocc).1 (hbid _ hβ)
  have hfv := tfvStmt_eq_fv (renStmt f s) hUB
  generalize hfvdef : tfvStmt (renStmt f s) [] = fv at hk hb ht hst hfv
  -- every id passed belongs to a variable in scope
  have hfvocc : ∀ β ∈ fv, ∃ b, b ∈ fvStmt s ∧ occFs Γ b = true ∧ β = renBinding f b :=
    fun β hβ => hback β ((hfv β).mp hβ)
  -- the restricted context and the renaming to the parameters
  let keep : Core.Binding → Bool := fun b => occFs Γ b && decide (b ∈ fvStmt s)
  have hkeep : ∀ b, occFs (Γ.filter keep) b = true → occFs Γ b = true ∧ b ∈ fvStmt s := by
    intro b hb'
    have := (List.mem_filter.mp (occFs_mem hb')).2
    simpa [keep] using this
  rw [substStmt_ren] at hb
  have hpar := liftParams_ids_le st.maxId fv
  have hσ := liftSubst_spec st.maxId fv
  have inv' : InvB (Γ.filter keep) (substIdent (liftSubst st.maxId fv) ∘ f) s.binderIds k := by
    have i0 : InvB (Γ.filter keep) f s.binderIds k :=
      ⟨inv.nd, inv.fid, fun b hb' => ⟨(inv.rng b (hkeep b hb').1).1, by
        have := (inv.rng b (hkeep b hb').1).2; omega⟩, fun i hi => by have := inv.bm i hi; omega⟩
    refine i0.subst _ ?_ ?_
    · intro p hp hc
      rw [hσ] at hp
      have := (List.of_mem_zip hp).1
      obtain ⟨β, hβ, hβe⟩ := List.mem_map.mp this
      obtain ⟨b, _, hocc, rfl⟩ := hfvocc β hβ
      exact (inv.rng b hocc).1 (by rw [← hβe] at hc; exact hc)
    · intro p hp
      rw [hσ] at hp
      have := (List.of_mem_zip hp).2
      obtain ⟨c, hc, hce⟩ := List.mem_map.mp this
      have := hpar c.var.id (List.mem_map.mpr ⟨c, hc, rfl⟩)
      rw [← hce]
      exact ⟨fun hm => by have := inv.bm _ hm; omega, by omega⟩
  have hsc' : scStmt (Γ.filter keep) s = true :=
    sc_strengthenStmt s Γ _ hsc (fun b hb' ho => occFs_filter keep ho (by simp [keep, ho, hb']))
  refine ⟨k, body, st3, fv, Γ.filter keep, hk, hb, ht, hst, hfvocc, fun b hb' => (hkeep b hb').1, inv', hsc', ?_⟩
  intro b hb'
  obtain ⟨hocc, hbfv⟩ := hkeep b hb'
  have hfinv : FvInv Γ f s.binderIds := fun c hc => .inr (inv.rng c hc).1
  have hmem : renBinding f b ∈ fv :=
    (hfv _).mpr (fv_ren_fwdStmt inv.fid s Γ hfinv hsc (fun i hi => hi) b hbfv)
  have hidm : (f b.var).id ∈ fv.map (fun b => b.var.id) := List.mem_map.mpr ⟨_, hmem, rfl⟩
  exact substIdent_zip (fv.map fun b => b.var.id) ((liftParams st.maxId fv).map (·.var))
    (f b.var) (by simp [(liftParams_spec st.maxId fv).1]) hidm |>.imp fun i hi => by rw [hσ]; exact hi

theorem lift_tr {E : TEnv} {q : AxCut.Prog} {env : Env} {rec : Rec} (hrec : RecTr E q rec) :
    RecTr E q (lift env rec) := by
  intro Γ f s st t st' h hq hwt hsc inv
  obtain ⟨k, body, st3, fv, Γ', _, hb, rfl, rfl, hfvocc, hsubΓ, inv', hsc', hpos⟩ := lift_run h hsc inv
  have p1 := hrec Γ' _ s _ body st3 hb (fun d hd => hq d (List.mem_cons_of_mem _ hd)) hwt hsc' inv'
  refine ⟨fun hm hag => ?_, by simp [axBids]⟩
  refine Tr.lifted (Γ' := Γ') (h' := fun y => ((substIdent (liftSubst st.maxId fv) ∘ f) y).id)
    (hq _ (List.mem_cons_self)) hsubΓ ?_ ?_ ?_ ?_ (p1.1 _ (fun _ _ => rfl))
  · simp [shrinkContext, (liftParams_spec st.maxId fv).1]
  · rw [axIds_shrinkContext]
    exact (liftParams_ids_nodup st.maxId fv).1
  · intro i hi
    rw [axIds_shrinkContext] at hi
    obtain ⟨β, hβ, rfl⟩ := List.mem_map.mp hi
    obtain ⟨b, _, hocc, rfl⟩ := hfvocc β hβ
    exact ⟨b, hocc, hag b hocc⟩
  · intro b hb'
    obtain ⟨i, h1, h2⟩ := hpos b hb'
    refine ⟨i, ?_, ?_⟩
    · rw [axIds_shrinkContext, hag b (hsubΓ b hb')]; exact h1
    · rw [axIds_shrinkContext]
      have e : (liftParams st.maxId fv).map (fun b => b.var.id) =
          ((liftParams st.maxId fv).map (·.var)).map (·.id) := by simp [List.map_map, Function.comp_def]
      rw [e, List.getElem?_map, h2]
      rfl

end Scc.Core2AxCut.Sem
