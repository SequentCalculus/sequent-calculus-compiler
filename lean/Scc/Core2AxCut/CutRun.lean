/-
  Scc.Core2AxCut.CutRun — the case analysis of `shrinkCut` (cut.rs: `impl Shrinking for FsCut`), stated once:
  `CutRun` lists the eighteen pairs of term shapes on which `shrinkCut` succeeds, each with the calls it makes and
  the statement it returns; `shrinkCut_run` says that every successful call is one of them.  Labels, sizes and
  widths (and `Scc/Pipeline/ShrinkNoEnv.lean`) are proved by `cases` on a `CutRun`; typing (`TypedCut.lean`) and the
  translation judgment (`SemTrCut.lean`) split on `WtCut.of_wt` and use the inversion lemmas `wrap*_inv` and `*_inv`.
  Beside them: the converses `wrap_eq`, `wrapC_eq`, `wrapC2_eq` for the three forms of which a successful run is built
  (totality, `Proofs.lean`), and the unfolding equations `*_cons` of the helpers that draw fresh names.
-/
import Scc.Core2AxCut.Model

namespace Scc.Core2AxCut

local notation "sid" => shrinkIdentifier

/-! The model spells out its error monad as `match x with | .error e => .error e | .ok (a, st1) => …`.
    The forms that occur in `shrinkCut` and `shrinkStmtStep`, inverted: -/

/-- one call yielding a statement, then a pure wrapper -/
theorem wrap_inv {x : Except String (AxCut.Stmt × St)} {f : AxCut.Stmt → AxCut.Stmt} {r st'}
    (h : (match x with
      | .error e => .error e
      | .ok (next, st1) => .ok (f next, st1)) = (.ok (r, st') : Except String (AxCut.Stmt × St))) :
    ∃ next, x = .ok (next, st') ∧ r = f next := by
  split at h
  · cases h
  · cases h; exact ⟨_, rfl, rfl⟩

/-- two calls yielding statements, then a pure wrapper -/
theorem wrap2_inv {x : Except String (AxCut.Stmt × St)} {y : St → Except String (AxCut.Stmt × St)}
    {f : AxCut.Stmt → AxCut.Stmt → AxCut.Stmt} {r st'}
    (h : (match x with
      | .error e => .error e
      | .ok (a, st1) =>
        match y st1 with
        | .error e => .error e
        | .ok (b, st2) => .ok (f a b, st2)) = (.ok (r, st') : Except String (AxCut.Stmt × St))) :
    ∃ a st1 b, x = .ok (a, st1) ∧ y st1 = .ok (b, st') ∧ r = f a b := by
  split at h
  · cases h
  · obtain ⟨b, h2, rfl⟩ := wrap_inv h
    exact ⟨_, _, b, rfl, h2, rfl⟩

/-- one call yielding clauses, then a pure wrapper -/
theorem wrapC_inv {x : Except String (AxCut.Clauses × St)} {f : AxCut.Clauses → AxCut.Stmt} {r st'}
    (h : (match x with
      | .error e => .error e
      | .ok (cl, st1) => .ok (f cl, st1)) = (.ok (r, st') : Except String (AxCut.Stmt × St))) :
    ∃ cl, x = .ok (cl, st') ∧ r = f cl := by
  split at h
  · cases h
  · cases h; exact ⟨_, rfl, rfl⟩

/-- clauses, then a statement, then a pure wrapper -/
theorem wrapC2_inv {x : Except String (AxCut.Clauses × St)} {y : St → Except String (AxCut.Stmt × St)}
    {f : AxCut.Clauses → AxCut.Stmt → AxCut.Stmt} {r st'}
    (h : (match x with
      | .error e => .error e
      | .ok (cl, st1) =>
        match y st1 with
        | .error e => .error e
        | .ok (next, st2) => .ok (f cl next, st2)) = (.ok (r, st') : Except String (AxCut.Stmt × St))) :
    ∃ cl st1 next, x = .ok (cl, st1) ∧ y st1 = .ok (next, st') ∧ r = f cl next := by
  split at h
  · cases h
  · obtain ⟨next, h2, rfl⟩ := wrap_inv h
    exact ⟨_, _, next, rfl, h2, rfl⟩

/-! and the other way round, for the forms of which `Proofs.lean` builds a successful run: -/

theorem wrap_eq {x : Except String (AxCut.Stmt × St)} {f : AxCut.Stmt → AxCut.Stmt} {next st1} :
    x = .ok (next, st1) →
    (match x with
      | .error e => .error e
      | .ok (next, st1) => .ok (f next, st1)) = (.ok (f next, st1) : Except String (AxCut.Stmt × St)) := by
  rintro rfl; rfl

theorem wrapC_eq {x : Except String (AxCut.Clauses × St)} {f : AxCut.Clauses → AxCut.Stmt} {cl st1} :
    x = .ok (cl, st1) →
    (match x with
      | .error e => .error e
      | .ok (cl, st1) => .ok (f cl, st1)) = (.ok (f cl, st1) : Except String (AxCut.Stmt × St)) := by
  rintro rfl; rfl

theorem wrapC2_eq {x : Except String (AxCut.Clauses × St)} {y : St → Except String (AxCut.Stmt × St)}
    {f : AxCut.Clauses → AxCut.Stmt → AxCut.Stmt} {cl st1 next st2} :
    x = .ok (cl, st1) → y st1 = .ok (next, st2) →
    (match x with
      | .error e => .error e
      | .ok (cl, st1) =>
        match y st1 with
        | .error e => .error e
        | .ok (next, st2) => .ok (f cl next, st2)) =
      (.ok (f cl next, st2) : Except String (AxCut.Stmt × St)) := by
  rintro rfl h2; exact wrap_eq h2

/-- the successful cases of `shrinkCut env rec ty p c st = .ok (r, st')`, named by the shapes of `p`, `c` -/
inductive CutRun (env : Env) (rec : Rec) (ty : Core.Ty) :
    Core.FsTerm → Core.FsTerm → St → AxCut.Stmt → St → Prop
  -- shrink_renaming
  | muVar {pc mv t s pc' v t' st r st'} (h : rec (substStmt [(mv.id, v)] s) st = .ok (r, st')) :
      CutRun env rec ty (.mu pc mv t s) (.var pc' v t') st r st'
  | varMu {pc v t pc' mv t' s st r st'} (h : rec (substStmt [(mv.id, v)] s) st = .ok (r, st')) :
      CutRun env rec ty (.var pc v t) (.mu pc' mv t' s) st r st'
  -- shrink_known_cuts
  | xtorXcase {pc name args t pc' t' cs st r st'}
      (h : shrinkKnownCuts rec name (args.map (·.var)) cs st = .ok (r, st')) :
      CutRun env rec ty (.xtor pc name args t) (.xcase pc' t' cs) st r st'
  | xcaseXtor {pc t cs pc' name args t' st r st'}
      (h : shrinkKnownCuts rec name (args.map (·.var)) cs st = .ok (r, st')) :
      CutRun env rec ty (.xcase pc t cs) (.xtor pc' name args t') st r st'
  -- shrink_unknown_cuts
  | varVar {pc vp t pc' vc t' st r st'} (h : shrinkUnknownCuts env vp vc ty st = .ok (r, st')) :
      CutRun env rec ty (.var pc vp t) (.var pc' vc t') st r st'
  -- shrink_critical_pairs
  | muMu {pc vp t sp pc' vc t' sc st r st'}
      (h : shrinkCriticalPairs env rec vp sp vc sc ty st = .ok (r, st')) :
      CutRun env rec ty (.mu pc vp t sp) (.mu pc' vc t' sc) st r st'
  -- shrink_literal_mu, shrink_literal_var, shrink_op_mu, shrink_op_var
  | litMu {n pc mv t s st next st'} (h : rec s st = .ok (next, st')) :
      CutRun env rec ty (.lit n) (.mu pc mv t s) st (.lit (sid mv) n next none) st'
  | litVar {n pc v t st} :
      CutRun env rec ty (.lit n) (.var pc v t) st
        (.lit (sid (freshIdentifier st "x").1) n (invokeRet v (freshIdentifier st "x").1) none)
        (freshIdentifier st "x").2
  | opMu {a o b pc mv t s st next st'} (h : rec s st = .ok (next, st')) :
      CutRun env rec ty (.op a o b) (.mu pc mv t s) st
        (.op (sid mv) (sid a) (shrinkBinop o) (sid b) next none) st'
  | opVar {a o b pc v t st} :
      CutRun env rec ty (.op a o b) (.var pc v t) st
        (.op (sid (freshIdentifier st "x").1) (sid a) (shrinkBinop o) (sid b)
          (invokeRet v (freshIdentifier st "x").1) none)
        (freshIdentifier st "x").2
  -- Let
  | xtorMu {pc name args t pc' mv t' s st next st'} (h : rec s st = .ok (next, st')) :
      CutRun env rec ty (.xtor pc name args t) (.mu pc' mv t' s) st
        (.letS (sid mv) (shrinkTy ty) (sid name) (shrinkContext env.codata args) next none) st'
  | muXtor {pc mv t s pc' name args t' st next st'} (h : rec s st = .ok (next, st')) :
      CutRun env rec ty (.mu pc mv t s) (.xtor pc' name args t') st
        (.letS (sid mv) (shrinkTy ty) (sid name) (shrinkContext env.codata args) next none) st'
  -- Invoke
  | xtorVar {pc name args t pc' v t' st} :
      CutRun env rec ty (.xtor pc name args t) (.var pc' v t') st
        (.invoke (sid v) (sid name) (shrinkTy ty) (shrinkContext env.codata args)) st
  | varXtor {pc v t pc' name args t' st} :
      CutRun env rec ty (.var pc v t) (.xtor pc' name args t') st
        (.invoke (sid v) (sid name) (shrinkTy ty) (shrinkContext env.codata args)) st
  -- Switch
  | varXcase {pc v t pc' t' cs st cl st'} (h : shrinkClauses env rec cs st = .ok (cl, st')) :
      CutRun env rec ty (.var pc v t) (.xcase pc' t' cs) st (.switch (sid v) (shrinkTy ty) cl none) st'
  | xcaseVar {pc t cs pc' v t' st cl st'} (h : shrinkClauses env rec cs st = .ok (cl, st')) :
      CutRun env rec ty (.xcase pc t cs) (.var pc' v t') st (.switch (sid v) (shrinkTy ty) cl none) st'
  -- Create
  | muXcase {pc mv t s pc' t' cs st cl st1 next st'} (h1 : shrinkClauses env rec cs st = .ok (cl, st1))
      (h2 : rec s st1 = .ok (next, st')) :
      CutRun env rec ty (.mu pc mv t s) (.xcase pc' t' cs) st
        (.create (sid mv) (shrinkTy ty) none cl next none none) st'
  | xcaseMu {pc t cs pc' mv t' s st cl st1 next st'} (h1 : shrinkClauses env rec cs st = .ok (cl, st1))
      (h2 : rec s st1 = .ok (next, st')) :
      CutRun env rec ty (.xcase pc t cs) (.mu pc' mv t' s) st
        (.create (sid mv) (shrinkTy ty) none cl next none none) st'

theorem shrinkCut_run {env : Env} {rec : Rec} {ty st r st'} : ∀ {p c : Core.FsTerm},
    shrinkCut env rec ty p c st = .ok (r, st') → CutRun env rec ty p c st r st'
  | .mu .., .var .., h => .muVar h
  | .var .., .mu .., h => .varMu h
  | .xtor .., .xcase .., h => .xtorXcase h
  | .xcase .., .xtor .., h => .xcaseXtor h
  | .var .., .var .., h => .varVar h
  | .mu .., .mu .., h => .muMu h
  | .lit _, .mu .., h => by obtain ⟨_, h1, rfl⟩ := wrap_inv h; exact .litMu h1
  | .lit _, .var .., h => by cases h; exact .litVar
  | .op .., .mu .., h => by obtain ⟨_, h1, rfl⟩ := wrap_inv h; exact .opMu h1
  | .op .., .var .., h => by cases h; exact .opVar
  | .xtor .., .mu .., h => by obtain ⟨_, h1, rfl⟩ := wrap_inv h; exact .xtorMu h1
  | .mu .., .xtor .., h => by obtain ⟨_, h1, rfl⟩ := wrap_inv h; exact .muXtor h1
  | .xtor .., .var .., h => by cases h; exact .xtorVar
  | .var .., .xtor .., h => by cases h; exact .varXtor
  | .var .., .xcase .., h => by obtain ⟨_, h1, rfl⟩ := wrapC_inv h; exact .varXcase h1
  | .xcase .., .var .., h => by obtain ⟨_, h1, rfl⟩ := wrapC_inv h; exact .xcaseVar h1
  | .mu .., .xcase .., h => by obtain ⟨_, _, _, h1, h2, rfl⟩ := wrapC2_inv h; exact .muXcase h1 h2
  | .xcase .., .mu .., h => by obtain ⟨_, _, _, h1, h2, rfl⟩ := wrapC2_inv h; exact .xcaseMu h1 h2
  -- all other pairs are `panicCannotHappen`
  | .var .., .lit _, h | .var .., .op .., h | .lit _, .lit _, h | .lit _, .op .., h | .lit _, .xtor .., h
  | .lit _, .xcase .., h | .op .., .lit _, h | .op .., .op .., h | .op .., .xtor .., h
  | .op .., .xcase .., h | .mu .., .lit _, h | .mu .., .op .., h | .xtor .., .lit _, h
  | .xtor .., .op .., h | .xtor .., .xtor .., h | .xcase .., .lit _, h | .xcase .., .op .., h
  | .xcase .., .xcase .., h => nomatch h

/-! The helpers that draw fresh names are written with `let (a, st1) := …`; their equations with the
    projections of the intermediate results spelled out: -/

theorem freshenCtx_cons (b : AxCut.Binding) (bs : AxCut.Ctx) (st : St) :
    freshenCtx (b :: bs) st =
      ({ b with var := sid ⟨b.var.name, st.maxId + 1⟩ } ::
          (freshenCtx bs { st with maxId := st.maxId + 1 }).1,
        (freshenCtx bs { st with maxId := st.maxId + 1 }).2) := rfl

theorem unknownClauses_cons (env : Env) (v : Core.Ident) (ty : AxCut.Ty) (x : Core.XtorSig)
    (xs : List Core.XtorSig) (st : St) :
    unknownClauses env v ty (x :: xs) st =
      (.cons (sid x.name) (freshenCtx (shrinkContext env.codata x.args) st).1
          (.invoke (sid v) (sid x.name) ty (freshenCtx (shrinkContext env.codata x.args) st).1)
          (unknownClauses env v ty xs (freshenCtx (shrinkContext env.codata x.args) st).2).1,
        (unknownClauses env v ty xs (freshenCtx (shrinkContext env.codata x.args) st).2).2) := rfl

theorem criticalClauses_cons (env : Env) (v : Core.Ident) (ty : AxCut.Ty) (e : AxCut.Stmt)
    (x : Core.XtorSig) (xs : List Core.XtorSig) (st : St) :
    criticalClauses env v ty e (x :: xs) st =
      (.cons (sid x.name) (freshenCtx (shrinkContext env.codata x.args) st).1
          (.letS (sid ⟨v.name, (freshenCtx (shrinkContext env.codata x.args) st).2.maxId + 1⟩) ty (sid x.name)
            (freshenCtx (shrinkContext env.codata x.args) st).1
            (axSubstStmt
              [(v.id, sid ⟨v.name, (freshenCtx (shrinkContext env.codata x.args) st).2.maxId + 1⟩)] e)
            none)
          (criticalClauses env v ty e xs
            { (freshenCtx (shrinkContext env.codata x.args) st).2 with
              maxId := (freshenCtx (shrinkContext env.codata x.args) st).2.maxId + 1 }).1,
        (criticalClauses env v ty e xs
            { (freshenCtx (shrinkContext env.codata x.args) st).2 with
              maxId := (freshenCtx (shrinkContext env.codata x.args) st).2.maxId + 1 }).2) := rfl

theorem liftFresh_cons (b : Core.Binding) (bs : List Core.Binding) (st : St) :
    liftFresh (b :: bs) st =
      (({ b with var := ⟨b.var.name, st.maxId + 1⟩ } ::
            (liftFresh bs { st with maxId := st.maxId + 1 }).1.1,
          (b.var.id, ⟨b.var.name, st.maxId + 1⟩) :: (liftFresh bs { st with maxId := st.maxId + 1 }).1.2),
        (liftFresh bs { st with maxId := st.maxId + 1 }).2) := rfl

theorem shrinkClauses_cons_inv {env : Env} {rec : Rec} {x ctx body rest st r st'}
    (h : shrinkClauses env rec (.cons x ctx body rest) st = .ok (r, st')) :
    ∃ body' st1 rest', rec body st = .ok (body', st1) ∧ shrinkClauses env rec rest st1 = .ok (rest', st') ∧
      r = .cons (sid x) (shrinkContext env.codata ctx) body' rest' := by
  simp only [shrinkClauses] at h
  split at h
  · cases h
  · rename_i body' st1 hb
    split at h
    · cases h
    · rename_i rest' st2 hr
      cases h
      exact ⟨body', st1, rest', hb, hr, rfl⟩

theorem shrinkKnownCuts_inv {rec : Rec} {x args cs st r}
    (h : shrinkKnownCuts rec x args cs st = .ok r) :
    ∃ ctx body, findClause x cs = some (ctx, body) ∧
      rec (substStmt ((ctx.map (fun b => b.var.id)).zip args) body) st = .ok r := by
  simp only [shrinkKnownCuts] at h
  split at h
  · cases h
  · rename_i ctx body hf
    exact ⟨ctx, body, hf, h⟩

theorem shrinkUnknownCuts_decl_inv {env : Env} {vp vc name st r st'}
    (h : shrinkUnknownCuts env vp vc (.decl name) st = .ok (r, st')) :
    ∃ decl, lookupTypeDeclaration name
        (if isCodata env.codata (.decl name) then env.codata else env.data) = .ok decl ∧
      r = .switch (sid (if isCodata env.codata (.decl name) then vc else vp)) (shrinkTy (.decl name))
        (unknownClauses env (if isCodata env.codata (.decl name) then vp else vc) (shrinkTy (.decl name))
          decl.xtors st).1 none ∧
      st' = (unknownClauses env (if isCodata env.codata (.decl name) then vp else vc) (shrinkTy (.decl name))
          decl.xtors st).2 := by
  simp only [shrinkUnknownCuts] at h
  split at h
  · cases h
  · rename_i decl hd
    cases h
    exact ⟨decl, hd, rfl, rfl⟩

theorem criticalDecl_inv {env : Env} {rec : Rec} {decl name tt vK sK vE sE st r st'}
    (h : criticalDecl env rec decl name tt vK sK vE sE st = .ok (r, st')) :
    ∃ e st1 k,
      (if inlineExpand decl.xtors.length sE then rec sE st else lift env rec sE st) = .ok (e, st1) ∧
      rec sK (criticalClauses env vE tt e decl.xtors st1).2 = .ok (k, st') ∧
      r = .create (sid vK) (.decl (sid name)) none (criticalClauses env vE tt e decl.xtors st1).1 k
        none none := by
  simp only [criticalDecl] at h
  split at h
  · cases h
  · rename_i e st1 he
    split at h
    · cases h
    · rename_i k st3 hk
      cases h
      exact ⟨e, st1, k, he, hk, rfl⟩

theorem shrinkCriticalPairs_i64_inv {env : Env} {rec : Rec} {vp sp vc sc st r st'}
    (h : shrinkCriticalPairs env rec vp sp vc sc .i64 st = .ok (r, st')) :
    ∃ bodyCns st1 next, rec sc st = .ok (bodyCns, st1) ∧ rec sp st1 = .ok (next, st') ∧
      r = .create (sid vp) contTy none
        (.cons (sid retName) [⟨sid vc, .ext, .i64⟩] bodyCns .nil) next none none :=
  wrap2_inv h

theorem shrinkCriticalPairs_decl_inv {env : Env} {rec : Rec} {vp sp vc sc name st r}
    (h : shrinkCriticalPairs env rec vp sp vc sc (.decl name) st = .ok r) :
    ∃ decl, lookupTypeDeclaration name
        (if isCodata env.codata (.decl name) then env.codata else env.data) = .ok decl ∧
      (if isCodata env.codata (.decl name) then
        criticalDecl env rec decl name (shrinkTy (.decl name)) vc sc vp sp st
      else criticalDecl env rec decl name (shrinkTy (.decl name)) vp sp vc sc st) = .ok r := by
  simp only [shrinkCriticalPairs] at h
  split at h
  · cases h
  · rename_i decl hd
    exact ⟨decl, hd, h⟩

end Scc.Core2AxCut
