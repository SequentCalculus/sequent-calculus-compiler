/-
  Scc.Core2AxCut.TypedInv — proof file for the typing part of C04 / C12 (shrinking preserves typing):
  the invariant of the induction over `FsStatement::shrink`.
  As in the semantic proof (`SemTr.lean`) the statement handed to `shrink` is `renStmt f s` — a
  sub-statement `s` of the source program under the composition `f` of the id-substitutions performed so
  far — and `InvB Γ f B m` is the uniqueness invariant.  In addition:
   * `AgreeT cod Γ f B m Γax`: the AxCut context `Γax` contains, for every Core variable in scope, the image
     (`shrink_binding`) of its renamed binding; its ids avoid the binders still to come and are `≤ max_id`;
     it has no duplicate ids;
   * `EnvOK E T` / `SigOK E S`: the declarations / signatures of the target program are the images of the
     source declarations / signatures;
   * `PostT`: what a successful call of `shrink` guarantees: the output is `TW`-typed in every such context
     and every definition lifted on the way is well-formed (`WfDef`).
-/
import Scc.Core2AxCut.TypedDefs
import Scc.Core2AxCut.SemTr

namespace Scc.Core2AxCut.Typed

open Scc.AxCut Scc.Core2AxCut.Sem
open Scc.AxCut.Named (findDef)

local notation "sid" => shrinkIdentifier

theorem sb_id (cod : List Core.TypeDecl) (b : Core.Binding) : (shrinkBinding cod b).var.id = b.var.id := by
  rw [shrinkBinding_var]; rfl

theorem sb_prd_int (cod : List Core.TypeDecl) (v : Core.Ident) :
    shrinkBinding cod ⟨v, .prd, .i64⟩ = ⟨sid v, .ext, .i64⟩ := by
  simp [shrinkBinding]

theorem sb_cns_int (cod : List Core.TypeDecl) (v : Core.Ident) :
    shrinkBinding cod ⟨v, .cns, .i64⟩ = ⟨sid v, .cns, contTy⟩ := by
  simp [shrinkBinding]

theorem ty_ne_int_of_decl {E : TEnv} {T : Core.Ty} {d} (h : declOf E T = some d) : (T == Core.Ty.i64) = false := by
  cases T with
  | i64 => simp [declOf] at h
  | decl n => rfl

theorem sb_prd_data {cod : List Core.TypeDecl} {T : Core.Ty} (v : Core.Ident) (hT : (T == Core.Ty.i64) = false)
    (hc : isCodata cod T = false) : shrinkBinding cod ⟨v, .prd, T⟩ = ⟨sid v, .prd, shrinkTy T⟩ := by
  simp [shrinkBinding, hT, hc]

theorem sb_cns_data {cod : List Core.TypeDecl} {T : Core.Ty} (v : Core.Ident) (hT : (T == Core.Ty.i64) = false)
    (hc : isCodata cod T = false) : shrinkBinding cod ⟨v, .cns, T⟩ = ⟨sid v, .cns, shrinkTy T⟩ := by
  simp [shrinkBinding, hT, hc]

theorem sb_cns_codata {cod : List Core.TypeDecl} {T : Core.Ty} (v : Core.Ident) (hT : (T == Core.Ty.i64) = false)
    (hc : isCodata cod T = true) : shrinkBinding cod ⟨v, .cns, T⟩ = ⟨sid v, .prd, shrinkTy T⟩ := by
  simp [shrinkBinding, hT, hc]

theorem sb_prd_codata {cod : List Core.TypeDecl} {T : Core.Ty} (v : Core.Ident) (hT : (T == Core.Ty.i64) = false)
    (hc : isCodata cod T = true) : shrinkBinding cod ⟨v, .prd, T⟩ = ⟨sid v, .cns, shrinkTy T⟩ := by
  simp [shrinkBinding, hT, hc]

/-- kind and type of the image depend on the chirality and type only -/
theorem sb_chiTy (cod : List Core.TypeDecl) (b c : Core.Binding) (h1 : b.chi = c.chi) (h2 : b.ty = c.ty) :
    (shrinkBinding cod b).chi = (shrinkBinding cod c).chi ∧ (shrinkBinding cod b).ty = (shrinkBinding cod c).ty := by
  simp only [shrinkBinding, h1, h2]
  split
  · split <;> simp
  · split <;> simp

theorem sb_eq_of (cod : List Core.TypeDecl) (b c : Core.Binding) (h0 : b.var = c.var) (h1 : b.chi = c.chi)
    (h2 : b.ty = c.ty) : shrinkBinding cod b = shrinkBinding cod c := by
  cases b; cases c; simp_all

theorem ids_shrinkContext (cod : List Core.TypeDecl) (c : Core.Ctx) :
    (shrinkContext cod c).ids = c.map (fun b => b.var.id) := axIds_shrinkContext cod c

theorem chiTys_shrinkContext_of_sigMatch (cod : List Core.TypeDecl) : ∀ {a s : Core.Ctx}, sigMatch a s = true →
    (shrinkContext cod a).chiTys = (shrinkContext cod s).chiTys
  | [], [], _ => rfl
  | [], _ :: _, h => by simp [sigMatch] at h
  | _ :: _, [], h => by simp [sigMatch] at h
  | a :: as, s :: ss, h => by
    simp only [sigMatch, Bool.and_eq_true, beq_iff_eq] at h
    have ih := chiTys_shrinkContext_of_sigMatch cod h.2
    have := sb_chiTy cod a s h.1.1 h.1.2
    simp only [shrinkContext, Ctx.chiTys, List.map_cons, List.cons.injEq, Prod.mk.injEq] at ih ⊢
    exact ⟨this, ih⟩

theorem chiTys_shrinkContext_ren (cod : List Core.TypeDecl) (f : Core.Ident → Core.Ident) (c : Core.Ctx) :
    (shrinkContext cod (renCtx f c)).chiTys = (shrinkContext cod c).chiTys := by
  induction c with
  | nil => rfl
  | cons b bs ih =>
    have := sb_chiTy cod (renBinding f b) b rfl rfl
    simp only [renCtx, shrinkContext, Ctx.chiTys, List.map_cons, List.cons.injEq, Prod.mk.injEq] at ih ⊢
    exact ⟨this, ih⟩

structure EnvOK (E : TEnv) (T : List AxCut.TypeDecl) : Prop where
  decl : ∀ ty d, declOf E ty = some d → lookupTypeDecl T (shrinkTy ty) = some (shrinkDeclaration E.codata d)
  cont : declOf E (.decl contName) = some contInt
  /-- constructor / destructor names are distinct within a declaration -/
  xnd : ∀ ty d, declOf E ty = some d → (d.xtors.map (·.name)).Nodup

def SigOK (E : TEnv) (S : AxCut.Sigs) : Prop :=
  ∀ f ps, findSig E.sigs f = some ps → AxCut.findSig S (sid f) = some (shrinkContext E.codata ps)

theorem find_shrinkXtor (cod : List Core.TypeDecl) (K : Core.Ident) : ∀ (xs : List Core.XtorSig),
    (xs.map (shrinkXtor cod)).find? (fun x => x.name == sid K) =
      (xs.find? (fun x => x.name == K)).map (shrinkXtor cod)
  | [] => rfl
  | x :: xs => by
    simp only [List.map_cons, List.find?_cons, shrinkXtor, sid_beq]
    cases x.name == K
    · exact find_shrinkXtor cod K xs
    · rfl

theorem lookupXtor_of_decl {E : TEnv} {T : List AxCut.TypeDecl} (hT : EnvOK E T) {ty : Core.Ty} {d : Core.TypeDecl}
    {K : Core.Ident} {sig : Core.XtorSig} (hd : declOf E ty = some d)
    (hs : d.xtors.find? (fun x => x.name == K) = some sig) :
    lookupXtor T (shrinkTy ty) (sid K) = some (shrinkContext E.codata sig.args) := by
  simp only [lookupXtor, hT.decl ty d hd, shrinkDeclaration, find_shrinkXtor, hs, Option.map_some, shrinkXtor]

theorem lookupXtor_ret {E : TEnv} {T : List AxCut.TypeDecl} (hT : EnvOK E T) :
    lookupXtor T contTy (sid retName) = some [⟨sid ⟨"x", 0⟩, .ext, .i64⟩] := by
  have := lookupXtor_of_decl hT (K := retName) (sig := ⟨retName, [⟨⟨"x", 0⟩, .prd, .i64⟩]⟩) hT.cont
    (by simp [contInt, retName])
  simpa [shrinkContext, sb_prd_int, shrinkTy, contTy] using this

/-- an xtor of the declaration is found under its own name (names are distinct) -/
theorem find_self_of_nodup : ∀ (xs : List Core.XtorSig), (xs.map (·.name)).Nodup → ∀ x ∈ xs,
    xs.find? (fun y => y.name == x.name) = some x
  | [], _, _, h => by simp at h
  | y :: ys, hnd, x, hx => by
    simp only [List.map_cons, List.nodup_cons] at hnd
    simp only [List.find?_cons]
    rcases List.mem_cons.mp hx with rfl | hx'
    · simp
    · have : (y.name == x.name) = false := by
        simp only [beq_eq_false_iff_ne, ne_eq]
        intro e
        exact hnd.1 (e ▸ List.mem_map.mpr ⟨x, hx', rfl⟩)
      simp only [this]
      exact find_self_of_nodup ys hnd.2 x hx'

theorem findSig_of_findDef {q : AxCut.Prog} {l : AxCut.Ident} {d : AxCut.Def} (h : findDef q l = some d) :
    AxCut.findSig q.sigs l = some d.ctx := by
  simp only [findDef] at h
  simp only [AxCut.findSig, Prog.sigs, List.find?_map, Function.comp_def, h, Option.map_some]

structure AgreeT (cod : List Core.TypeDecl) (Γ : Core.Ctx) (f : Core.Ident → Core.Ident) (B : List Nat) (m : Nat)
    (Γax : AxCut.Ctx) : Prop where
  mem : ∀ b, occFs Γ b = true → shrinkBinding cod (renBinding f b) ∈ Γax
  rng : ∀ i ∈ Γax.ids, i ∉ B ∧ i ≤ m
  nd : NodupIds Γax

theorem AgreeT.mono {cod Γ f B m m' Γax} (h : AgreeT cod Γ f B m Γax) (hm : m ≤ m') : AgreeT cod Γ f B m' Γax :=
  ⟨h.mem, fun i hi => ⟨(h.rng i hi).1, Nat.le_trans (h.rng i hi).2 hm⟩, h.nd⟩

theorem AgreeT.sub {cod Γ f B B' m Γax} (h : AgreeT cod Γ f B m Γax) (hB : ∀ i ∈ B', i ∈ B) :
    AgreeT cod Γ f B' m Γax :=
  ⟨h.mem, fun i hi => ⟨fun hc => (h.rng i hi).1 (hB i hc), (h.rng i hi).2⟩, h.nd⟩

/-- a fresh id (beyond `max_id`) is not in the context -/
theorem AgreeT.fresh_gt {cod Γ f B m Γax} (h : AgreeT cod Γ f B m Γax) {i M : Nat} (hi : m < i) (hM : i ≤ M) :
    FreshBinder M Γax i :=
  ⟨fun hc => by have := (h.rng i hc).2; omega, hM⟩

/-- a binder id of the source statement is not in the context -/
theorem AgreeT.fresh_binder {cod Γ f B m Γax} (h : AgreeT cod Γ f B m Γax) {i M : Nat} (hi : i ∈ B) (hM : i ≤ M) :
    FreshBinder M Γax i :=
  ⟨fun hc => (h.rng i hc).1 hi, hM⟩

/-- entering the scope of the binders `Δ` (ids among `B`), continuing with the binders `B'` -/
theorem AgreeT.enter {cod Γ f B m Γax} (h : AgreeT cod Γ f B m Γax) (inv : InvB Γ f B m) (Δ : Core.Ctx)
    (B' : List Nat) (hs : (Δ.map (·.var.id) ++ B').Sublist B) :
    AgreeT cod (Δ ++ Γ) f B' m (shrinkContext cod Δ ++ Γax) := by
  have hnd := List.nodup_append.mp (hs.nodup inv.nd)
  have hΔB : ∀ b ∈ Δ, b.var.id ∈ B := fun b hb => hs.subset (by simp; exact .inl ⟨b, hb, rfl⟩)
  refine ⟨?_, ?_, ?_⟩
  · intro b hb
    rcases occFs_append hb with hm | ⟨_, ho⟩
    · have : renBinding f b = b := by
        cases b; simp only [renBinding]; rw [inv.fid _ (hΔB _ hm)]
      rw [this]
      exact List.mem_append_left _ (List.mem_map.mpr ⟨b, hm, rfl⟩)
    · exact List.mem_append_right _ (h.mem b ho)
  · intro i hi
    rw [ids_append, ids_shrinkContext] at hi
    rcases List.mem_append.mp hi with hi | hi
    · exact ⟨fun hc => hnd.2.2 i hi i hc rfl, inv.bm i (hs.subset (List.mem_append_left _ hi))⟩
    · exact ⟨fun hc => (h.rng i hi).1 (hs.subset (List.mem_append_right _ hc)), (h.rng i hi).2⟩
  · refine nodupIds_append ?_ h.nd ?_
    · simp only [NodupIds, ids_shrinkContext]; exact hnd.1
    · intro i hi hc
      rw [ids_shrinkContext] at hi
      exact (h.rng i hc).1 (hs.subset (List.mem_append_left _ hi))

theorem AgreeT.cons {cod Γ f B m Γax} (h : AgreeT cod Γ f B m Γax) (inv : InvB Γ f B m) (b0 : Core.Binding)
    (B' : List Nat) (hs : ([b0].map (·.var.id) ++ B').Sublist B) :
    AgreeT cod (b0 :: Γ) f B' m (shrinkBinding cod b0 :: Γax) := by
  simpa [shrinkContext] using h.enter inv [b0] B' hs

theorem AgreeT.occ {cod Γ f B m Γax} (h : AgreeT cod Γ f B m Γax) {v : Core.Ident} {pc : Core.PC} {ty : Core.Ty}
    (ho : occFs Γ ⟨v, pc, ty⟩ = true) : shrinkBinding cod ⟨f v, pc, ty⟩ ∈ Γax := h.mem _ ho

theorem AgreeT.args {cod Γ f B m Γax} (h : AgreeT cod Γ f B m Γax) {args : Core.Ctx}
    (ho : ∀ b ∈ args, occFs Γ b = true) : ArgsMem Γax (shrinkContext cod (renCtx f args)) := by
  intro a ha
  simp only [shrinkContext, renCtx, List.map_map, List.mem_map, Function.comp] at ha
  obtain ⟨b, hb, rfl⟩ := ha
  exact h.mem b (ho b hb)

/-- two images with the same id are the same binding -/
theorem AgreeT.unique {cod Γ f B m Γax} (h : AgreeT cod Γ f B m Γax) {a b : AxCut.Binding} (ha : a ∈ Γax)
    (hb : b ∈ Γax) (e : a.var.id = b.var.id) : a = b := by
  have h1 := lookupB_of_mem h.nd ha
  have h2 := lookupB_of_mem h.nd hb
  rw [e, h2] at h1
  exact (Option.some.inj h1).symm

/-- every definition pushed between `st` and `st'` is well-formed -/
def LiftedOK (q : AxCut.Prog) (st st' : St) : Prop :=
  ∀ d ∈ st'.lifted, d ∈ st.lifted ∨ WfDef q.types q.sigs q.maxId d

theorem LiftedOK.refl (q : AxCut.Prog) (st : St) : LiftedOK q st st := fun _ hd => .inl hd

theorem LiftedOK.trans {q : AxCut.Prog} {a b c : St} (h1 : LiftedOK q a b) (h2 : LiftedOK q b c) : LiftedOK q a c := by
  intro d hd
  rcases h2 d hd with h | h
  · exact h1 d h
  · exact .inr h

theorem LiftedOK.of_eq {q : AxCut.Prog} {a b : St} (h : b.lifted = a.lifted) : LiftedOK q a b :=
  fun _ hd => .inl (h ▸ hd)

theorem LiftedOK.of_frame {q : AxCut.Prog} {a b : St} (h : Frame a b) : LiftedOK q a b := LiftedOK.of_eq h.2.1

abbrev Tq (q : AxCut.Prog) : Stmt → AxCut.Ctx → Prop := TW q.types q.sigs q.maxId

abbrev TqC (q : AxCut.Prog) : Clauses → AxCut.Ctx → Prop := TWC q.types q.sigs q.maxId

/-- what a successful call of `shrink` on `renStmt f s` guarantees (typing part) -/
def PostT (cod : List Core.TypeDecl) (q : AxCut.Prog) (Γ : Core.Ctx) (f : Core.Ident → Core.Ident) (B : List Nat)
    (st : St) (t : AxCut.Stmt) (st' : St) : Prop :=
  ∀ Γax, AgreeT cod Γ f B st.maxId Γax → Tq q t Γax ∧ LiftedOK q st st'

def RecT (E : TEnv) (q : AxCut.Prog) (rec : Rec) : Prop :=
  ∀ Γ f s st t st', rec (renStmt f s) st = .ok (t, st') → Good q st' → st'.maxId ≤ q.maxId → wtStmt E s = true →
    scStmt Γ s = true → InvB Γ f s.binderIds st.maxId → PostT E.codata q Γ f s.binderIds st t st'

end Scc.Core2AxCut.Typed
