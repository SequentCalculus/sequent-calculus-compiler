/-
  Scc.Core2AxCut.SemSubst — proof file for the semantic part of C04: the translation judgment `Tr` is
  closed under the id-substitution of the AxCut side (`axSubstStmt [(i, w)]`, as applied by
  `criticalClauses` to the shrunk statement of the expanded side), provided neither `i` nor `w.id` is
  bound in the AxCut statement.
-/
import Scc.Core2AxCut.SemLemmas

namespace Scc.Core2AxCut.Sem

open Scc.AxCut.Named (Value lookup lookupAll bindParams findDef State step)

/-! ## ids bound in an AxCut statement -/

mutual
  def axBids : AxCut.Stmt → List Nat
    | .subst _ n => axBids n
    | .call _ _ => []
    | .letS v _ _ _ n _ => v.id :: axBids n
    | .switch _ _ cs _ => axBidsC cs
    | .create v _ _ cs n _ _ => v.id :: (axBidsC cs ++ axBids n)
    | .invoke _ _ _ _ => []
    | .lit v _ n _ => v.id :: axBids n
    | .op v _ _ _ n _ => v.id :: axBids n
    | .print _ _ n _ => axBids n
    | .ifc _ _ _ t e => axBids t ++ axBids e
    | .exit _ => []
  def axBidsC : AxCut.Clauses → List Nat
    | .nil => []
    | .cons _ ctx b r => axIds ctx ++ (axBids b ++ axBidsC r)
end

theorem findClause_bids {tag ctx body} : ∀ (cls : AxCut.Clauses),
    AxCut.Named.findClause tag cls = some (ctx, body) →
    (∀ i ∈ axIds ctx, i ∈ axBidsC cls) ∧ (∀ i ∈ axBids body, i ∈ axBidsC cls)
  | .nil, h => by simp [AxCut.Named.findClause] at h
  | .cons x c b r, h => by
    simp only [AxCut.Named.findClause] at h
    split at h
    · simp only [Option.some.injEq, Prod.mk.injEq] at h
      obtain ⟨rfl, rfl⟩ := h
      simp only [axBidsC, List.mem_append]
      exact ⟨fun i hi => .inl hi, fun i hi => .inr (.inl hi)⟩
    · have := findClause_bids r h
      simp only [axBidsC, List.mem_append]
      exact ⟨fun i hi => .inr (.inr (this.1 i hi)), fun i hi => .inr (.inr (this.2 i hi))⟩

/-- the renaming of ids performed by `axSubstStmt [(i, w)]` -/
def sub1 (i j : Nat) (k : Nat) : Nat := if k = i then j else k

theorem axSubstIdent_id (i : Nat) (w v : AxCut.Ident) : (axSubstIdent [(i, w)] v).id = sub1 i w.id v.id := by
  simp only [axSubstIdent, List.find?_cons, List.find?_nil, sub1]
  by_cases h : v.id = i
  · simp [h]
  · have : (i == v.id) = false := by simp; exact fun e => h e.symm
    simp [this, h]

theorem axIds_axSubstCtx (i : Nat) (w : AxCut.Ident) (c : AxCut.Ctx) :
    axIds (axSubstCtx [(i, w)] c) = (axIds c).map (sub1 i w.id) := by
  simp only [axIds, axSubstCtx, List.map_map]
  apply List.map_congr_left
  intro b _
  simp [axSubstBinding, axSubstIdent_id]

theorem sub1_of_ne {i j k : Nat} (h : k ≠ i) : sub1 i j k = k := by simp [sub1, h]

theorem map_sub1_of_not_mem {i j : Nat} {l : List Nat} (h : i ∉ l) : l.map (sub1 i j) = l := by
  induction l with
  | nil => rfl
  | cons a l ih =>
    simp only [List.mem_cons, not_or] at h
    simp [sub1_of_ne (fun e => h.1 e.symm), ih h.2]

theorem findClause_axSubst (σ) (tag : AxCut.Ident) : ∀ (cls : AxCut.Clauses),
    AxCut.Named.findClause tag (axSubstClauses σ cls) =
      (AxCut.Named.findClause tag cls).map (fun cb => (cb.1, axSubstStmt σ cb.2))
  | .nil => by simp [axSubstClauses, AxCut.Named.findClause]
  | .cons x c b r => by
    simp only [axSubstClauses, AxCut.Named.findClause]
    split
    · simp
    · exact findClause_axSubst σ tag r

theorem findClause_axSubst_some {σ tag ctx body''} {cls : AxCut.Clauses}
    (h : AxCut.Named.findClause tag (axSubstClauses σ cls) = some (ctx, body'')) :
    ∃ body', AxCut.Named.findClause tag cls = some (ctx, body') ∧ body'' = axSubstStmt σ body' := by
  rw [findClause_axSubst] at h
  cases hf : AxCut.Named.findClause tag cls with
  | none => simp [hf] at h
  | some cb =>
    obtain ⟨c, b⟩ := cb
    simp only [hf, Option.map_some, Option.some.injEq, Prod.mk.injEq] at h
    exact ⟨b, by rw [h.1], h.2.symm⟩

section transfer
variable {Γ : Core.Ctx} {h h' : HMap} {i : Nat} {w : AxCut.Ident}
  (hh : ∀ b, occFs Γ b = true → h' b.var = sub1 i w.id (h b.var))
include hh

theorem Avoids_sub {k : Nat} (ha : Avoids Γ h k) (hk : k ≠ w.id) : Avoids Γ h' k := by
  intro b hb
  rw [hh b hb]
  simp only [sub1]
  split
  · exact fun e => hk e.symm
  · exact ha b hb

theorem hh_cons (b0 : Core.Binding) {k k' : Nat} (hk : k' = sub1 i w.id k) :
    ∀ b, occFs (b0 :: Γ) b = true → (h'.set b0.var k') b.var = sub1 i w.id ((h.set b0.var k) b.var) := by
  intro b hb
  rcases occFs_cons hb with rfl | ⟨hne, hb'⟩
  · simp [HMap.set_self, hk]
  · rw [HMap.set_ne _ _ (var_ne_of_id_ne hne), HMap.set_ne _ _ (var_ne_of_id_ne hne)]
    exact hh b hb'

theorem map_hh {args : Core.Ctx} (hocc : ∀ b ∈ args, occFs Γ b = true) :
    args.map (fun b => h' b.var) = (args.map (fun b => h b.var)).map (sub1 i w.id) := by
  rw [List.map_map]
  apply List.map_congr_left
  intro b hb
  exact hh b (hocc b hb)

end transfer

theorem occFs_append {Δ Γ : Core.Ctx} {b : Core.Binding} (h : occFs (Δ ++ Γ) b = true) :
    b ∈ Δ ∨ (b.var.id ∉ Δ.map (·.var.id) ∧ occFs Γ b = true) := by
  induction Δ with
  | nil => right; exact ⟨by simp, h⟩
  | cons d Δ ih =>
    rcases occFs_cons (Γ := Δ ++ Γ) h with rfl | ⟨hne, h'⟩
    · left; simp
    · rcases ih h' with hm | ⟨hn, ho⟩
      · left; simp [hm]
      · right
        refine ⟨?_, ho⟩
        simp only [List.map_cons, List.mem_cons, not_or]
        exact ⟨hne, hn⟩

theorem setMany_of_not_mem (h : HMap) : ∀ (ctx : Core.Ctx) (is : List Nat) (y : Core.Ident),
    y ∉ ctx.map (·.var) → (h.setMany ctx is) y = h y
  | [], _, _, _ => by simp [HMap.setMany]
  | _ :: _, [], _, _ => by simp [HMap.setMany]
  | b :: bs, k :: ks, y, hy => by
    simp only [List.map_cons, List.mem_cons, not_or] at hy
    simp only [HMap.setMany]
    rw [HMap.set_ne _ _ hy.1]
    exact setMany_of_not_mem h bs ks y hy.2

theorem setMany_mem (h : HMap) : ∀ (ctx : Core.Ctx) (is : List Nat) (y : Core.Ident),
    ctx.length = is.length → y ∈ ctx.map (·.var) → (h.setMany ctx is) y ∈ is
  | [], _, _, _, hy => by simp at hy
  | _ :: _, [], _, hl, _ => by simp at hl
  | b :: bs, k :: ks, y, hl, hy => by
    simp only [HMap.setMany]
    by_cases e : y = b.var
    · subst e; simp [HMap.set_self]
    · rw [HMap.set_ne _ _ e]
      simp only [List.map_cons, List.mem_cons] at hy
      rcases hy with hy | hy
      · exact absurd hy e
      · exact List.mem_cons_of_mem _ (setMany_mem h bs ks y (by simpa using hl) hy)

/-- `setMany` commutes with the substitution -/
theorem hh_setMany {Γ : Core.Ctx} {h h' : HMap} {i : Nat} {w : AxCut.Ident}
    (hh : ∀ b, occFs Γ b = true → h' b.var = sub1 i w.id (h b.var)) (ctx : Core.Ctx) (is : List Nat)
    (hl : ctx.length = is.length) :
    ∀ b, occFs (ctx ++ Γ) b = true →
      (h'.setMany ctx (is.map (sub1 i w.id))) b.var = sub1 i w.id ((h.setMany ctx is) b.var) := by
  induction ctx generalizing is with
  | nil => intro b hb; simpa [HMap.setMany] using hh b hb
  | cons c ctx ih =>
    cases is with
    | nil => simp at hl
    | cons k ks =>
      intro b hb
      simp only [List.map_cons, HMap.setMany]
      exact hh_cons (ih ks (by simpa using hl)) c rfl b hb

section shapes
variable {E : TEnv} {q : AxCut.Prog} {Γ : Core.Ctx} {h h' : HMap} {i : Nat} {w : AxCut.Ident}
  (hh : ∀ b, occFs Γ b = true → h' b.var = sub1 i w.id (h b.var))
include hh

theorem ClausesShape.axSubst {xs cl cls} (hs : ClausesShape Γ h xs cl cls) (hj : w.id ∉ axBidsC cls) :
    ClausesShape Γ h' xs cl (axSubstClauses [(i, w)] cls) := by
  intro K sig hsig
  obtain ⟨ctx, body, ctx', body', h1, h2, h3, h4, h5, h6⟩ := hs K sig hsig
  refine ⟨ctx, body, ctx', axSubstStmt [(i, w)] body', h1, h2, by rw [findClause_axSubst, h3]; rfl, h4, h5, ?_⟩
  intro k hk
  exact Avoids_sub hh (h6 k hk) (fun e => hj (by rw [← e]; exact (findClause_bids cls h3).1 k hk))

theorem CritShape.axSubst {xs cls} (hs : CritShape Γ h xs cls) (hi : i ∉ axBidsC cls) (hj : w.id ∉ axBidsC cls) :
    CritShape Γ h' xs (axSubstClauses [(i, w)] cls) := by
  intro K sig hsig
  obtain ⟨envC, w0, ty', envC', t, fv, h1, h2, h3, h4, h5, h6⟩ := hs K sig hsig
  have hb := findClause_bids cls h1
  refine ⟨envC, w0, ty', axSubstCtx [(i, w)] envC', axSubstStmt [(i, w)] t, axSubstFV [(i, w)] fv,
    by rw [findClause_axSubst, h1]; rfl, h2, ?_, h4, ?_, ?_⟩
  · rw [axIds_axSubstCtx, h3]
    exact map_sub1_of_not_mem (fun hm => hi (hb.1 _ hm))
  · intro k hk
    exact Avoids_sub hh (h5 k hk) (fun e => hj (by rw [← e]; exact hb.1 k hk))
  · exact Avoids_sub hh h6 (fun e => hj (by rw [← e]; exact hb.2 _ (by simp [axBids])))

theorem EtaShape.axSubst {target xs cls} (hs : EtaShape Γ h target xs cls) (hi : i ∉ axBidsC cls)
    (hj : w.id ∉ axBidsC cls) :
    EtaShape Γ h' (sub1 i w.id target) xs (axSubstClauses [(i, w)] cls) := by
  intro K sig hsig
  obtain ⟨envC, v, ty', envC', h1, h2, h3, h4, h5, h6⟩ := hs K sig hsig
  have hb := findClause_bids cls h1
  refine ⟨envC, axSubstIdent [(i, w)] v, ty', axSubstCtx [(i, w)] envC',
    by rw [findClause_axSubst, h1]; rfl, by rw [axSubstIdent_id, h2], h3, ?_, h5, ?_⟩
  · rw [axIds_axSubstCtx, h4]
    exact map_sub1_of_not_mem (fun hm => hi (hb.1 _ hm))
  · intro k hk
    exact Avoids_sub hh (h6 k hk) (fun e => hj (by rw [← e]; exact hb.1 k hk))

end shapes

/-! ## the judgment is closed under the substitution -/

section main
variable {E : TEnv} {q : AxCut.Prog}

theorem getElem?_map_sub {l : List Nat} {n : Nat} {k : Nat} (f : Nat → Nat) (h : l[n]? = some k) :
    (l.map f)[n]? = some (f k) := by
  simp [List.getElem?_map, h]

/-- a `let` clause body of a substituted clause list comes from a `let` clause body -/
theorem letS_of_axSubst {σ w0 ty'' tg envC' t fv} {body' : AxCut.Stmt}
    (h : AxCut.Stmt.letS w0 ty'' tg envC' t fv = axSubstStmt σ body') :
    ∃ envC0 t0 fv0, body' = .letS w0 ty'' tg envC0 t0 fv0 ∧ t = axSubstStmt σ t0 := by
  cases body' <;> simp only [axSubstStmt] at h <;> try (cases h; done)
  rename_i v ty tag args next fvn
  simp only [AxCut.Stmt.letS.injEq] at h
  obtain ⟨rfl, rfl, rfl, _, rfl, _⟩ := h
  exact ⟨_, _, _, rfl, rfl⟩

theorem Tr.axSubst (i : Nat) (w : AxCut.Ident) {Γ h s t} (htr : Tr E q Γ h s t) :
    i ∉ axBids t → w.id ∉ axBids t →
    ∀ h', (∀ b, occFs Γ b = true → h' b.var = sub1 i w.id (h b.var)) →
      Tr E q Γ h' s (axSubstStmt [(i, w)] t) := by
  induction htr with
  | exit ha hv =>
    intro _ _ h' hh
    simp only [axSubstStmt]
    exact .exit ha (by rw [axSubstIdent_id, hv, hh _ ha])
  | print ha hv _ ih =>
    intro hi hj h' hh
    simp only [axBids] at hi hj
    simp only [axSubstStmt]
    exact .print ha (by rw [axSubstIdent_id, hv, hh _ ha]) (ih hi hj h' hh)
  | ifz ha hv _ _ iht ihe =>
    intro hi hj h' hh
    simp only [axBids, List.mem_append, not_or] at hi hj
    simp only [axSubstStmt, Option.map_none]
    exact .ifz ha (by rw [axSubstIdent_id, hv, hh _ ha]) (iht hi.1 hj.1 h' hh) (ihe hi.2 hj.2 h' hh)
  | ifc ha hv hb hw _ _ iht ihe =>
    intro hi hj h' hh
    simp only [axBids, List.mem_append, not_or] at hi hj
    simp only [axSubstStmt, Option.map_some]
    exact .ifc ha (by rw [axSubstIdent_id, hv, hh _ ha]) hb (by rw [axSubstIdent_id, hw, hh _ hb])
      (iht hi.1 hj.1 h' hh) (ihe hi.2 hj.2 h' hh)
  | call hs hm hocc hids =>
    intro _ _ h' hh
    simp only [axSubstStmt]
    exact .call hs hm hocc (by rw [axIds_axSubstCtx, hids, map_hh hh hocc])
  | @lifted Γ h s label args' d Γ' hc hfd hsub hlen hnd hargs hcov ht _ =>
    intro _ _ h' hh
    simp only [axSubstStmt]
    refine .lifted hfd hsub (by simpa [axSubstCtx] using hlen) hnd ?_ ?_ ht
    · intro k hk
      rw [axIds_axSubstCtx, List.mem_map] at hk
      obtain ⟨k0, hk0, rfl⟩ := hk
      obtain ⟨b, hb, rfl⟩ := hargs k0 hk0
      exact ⟨b, hb, hh b hb⟩
    · intro b hb
      obtain ⟨n, h1, h2⟩ := hcov b hb
      refine ⟨n, ?_, h2⟩
      rw [axIds_axSubstCtx, hh b (hsub b hb)]
      exact getElem?_map_sub _ h1
  | renL hx _ ih =>
    intro hi hj h' hh
    exact .renL hx (ih hi hj _ (hh_cons hh _ (hh _ hx)))
  | renR hx _ ih =>
    intro hi hj h' hh
    exact .renR hx (ih hi hj _ (hh_cons hh _ (hh _ hx)))
  | @knownData Γ h T K args cl d sig ctx body t hc hd hsig hm hocc hf hm2 _ ih =>
    intro hi hj h' hh
    refine .knownData hc hd hsig hm hocc hf hm2 (ih hi hj _ ?_)
    rw [map_hh hh hocc]
    exact hh_setMany hh ctx _ (by rw [List.length_map, sigMatch_length hm2, sigMatch_length hm])
  | @knownCodata Γ h T K args cl d sig ctx body t hc hd hsig hm hocc hf hm2 _ ih =>
    intro hi hj h' hh
    refine .knownCodata hc hd hsig hm hocc hf hm2 (ih hi hj _ ?_)
    rw [map_hh hh hocc]
    exact hh_setMany hh ctx _ (by rw [List.length_map, sigMatch_length hm2, sigMatch_length hm])
  | unkInt hx hα hv hargs =>
    intro _ _ h' hh
    simp only [axSubstStmt]
    exact .unkInt hx hα (by rw [axSubstIdent_id, hv, hh _ hα])
      (by rw [axIds_axSubstCtx, hargs, hh _ hx]; rfl)
  | unkData hc hd hx hα hv hshape =>
    intro hi hj h' hh
    simp only [axBids] at hi hj
    simp only [axSubstStmt]
    exact .unkData hc hd hx hα (by rw [axSubstIdent_id, hv, hh _ hx])
      (by rw [hh _ hα]; exact hshape.axSubst hh hi hj)
  | unkCodata hc hd hx hα hv hshape =>
    intro hi hj h' hh
    simp only [axBids] at hi hj
    simp only [axSubstStmt]
    exact .unkCodata hc hd hx hα (by rw [axSubstIdent_id, hv, hh _ hα])
      (by rw [hh _ hx]; exact hshape.axSubst hh hi hj)
  | critInt ha hx hbx _ _ ih2 ih1 =>
    intro hi hj h' hh
    simp only [axBids, axBidsC, axIds, List.map_cons, List.map_nil, List.mem_cons, List.mem_append,
      List.not_mem_nil, or_false, not_or] at hi hj
    simp only [axSubstStmt, axSubstClauses, Option.map_none]
    subst hbx
    exact .critInt (Avoids_sub hh ha (fun e => hj.1 e.symm)) (Avoids_sub hh hx (fun e => hj.2.1.1 e.symm)) rfl
      (ih2 hi.2.1.2 hj.2.1.2 _ (hh_cons hh _ (sub1_of_ne (fun e => hi.2.1.1 e.symm)).symm))
      (ih1 hi.2.2 hj.2.2 _ (hh_cons hh _ (sub1_of_ne (fun e => hi.1 e.symm)).symm))
  | critData hc hd ha hshape htr _ ihtr ih1 =>
    intro hi hj h' hh
    simp only [axBids, List.mem_cons, List.mem_append, not_or] at hi hj
    simp only [axSubstStmt, Option.map_none]
    refine .critData hc hd (Avoids_sub hh ha (fun e => hj.1 e.symm)) (hshape.axSubst hh hi.2.1 hj.2.1) ?_
      (ih1 hi.2.2 hj.2.2 _ (hh_cons hh _ (sub1_of_ne (fun e => hi.1 e.symm)).symm))
    intro tag envC w0 ty'' tg envC' t fv hfind
    obtain ⟨body', hf, heq⟩ := findClause_axSubst_some hfind
    obtain ⟨envC0, t0, fv0, rfl, rfl⟩ := letS_of_axSubst heq
    have hb := findClause_bids _ hf
    have hw0 : w0.id ∈ axBids (AxCut.Stmt.letS w0 ty'' tg envC0 t0 fv0) := by simp [axBids]
    refine ihtr _ _ _ _ _ _ _ _ hf (fun hm => hi.2.1 (hb.2 _ (by simp [axBids, hm])))
      (fun hm => hj.2.1 (hb.2 _ (by simp [axBids, hm]))) _
      (hh_cons hh _ (sub1_of_ne (fun e => hi.2.1 (hb.2 _ (by rw [← e]; exact hw0)))).symm)
  | critCodata hc hd hx hshape htr _ ihtr ih2 =>
    intro hi hj h' hh
    simp only [axBids, List.mem_cons, List.mem_append, not_or] at hi hj
    simp only [axSubstStmt, Option.map_none]
    refine .critCodata hc hd (Avoids_sub hh hx (fun e => hj.1 e.symm)) (hshape.axSubst hh hi.2.1 hj.2.1) ?_
      (ih2 hi.2.2 hj.2.2 _ (hh_cons hh _ (sub1_of_ne (fun e => hi.1 e.symm)).symm))
    intro tag envC w0 ty'' tg envC' t fv hfind
    obtain ⟨body', hf, heq⟩ := findClause_axSubst_some hfind
    obtain ⟨envC0, t0, fv0, rfl, rfl⟩ := letS_of_axSubst heq
    have hb := findClause_bids _ hf
    have hw0 : w0.id ∈ axBids (AxCut.Stmt.letS w0 ty'' tg envC0 t0 fv0) := by simp [axBids]
    refine ihtr _ _ _ _ _ _ _ _ hf (fun hm => hi.2.1 (hb.2 _ (by simp [axBids, hm])))
      (fun hm => hj.2.1 (hb.2 _ (by simp [axBids, hm]))) _
      (hh_cons hh _ (sub1_of_ne (fun e => hi.2.1 (hb.2 _ (by rw [← e]; exact hw0)))).symm)
  | litMu hav _ ih =>
    intro hi hj h' hh
    simp only [axBids, List.mem_cons, not_or] at hi hj
    simp only [axSubstStmt]
    exact .litMu (Avoids_sub hh hav (fun e => hj.1 e.symm))
      (ih hi.2 hj.2 _ (hh_cons hh _ (sub1_of_ne (fun e => hi.1 e.symm)).symm))
  | litVar hα hw hv hargs =>
    intro hi hj h' hh
    simp only [axBids, List.mem_cons, List.not_mem_nil, or_false] at hi hj
    simp only [axSubstStmt]
    refine .litVar hα ?_ (by rw [axSubstIdent_id, hv, hh _ hα])
      (by rw [axIds_axSubstCtx, hargs]; simp [sub1_of_ne (fun e => hi e.symm)])
    rw [hh _ hα]
    simp only [sub1]
    split
    · exact fun e => hj e.symm
    · exact hw
  | opMu ha hb hva hvb hav _ ih =>
    intro hi hj h' hh
    simp only [axBids, List.mem_cons, not_or] at hi hj
    simp only [axSubstStmt]
    exact .opMu ha hb (by rw [axSubstIdent_id, hva, hh _ ha]) (by rw [axSubstIdent_id, hvb, hh _ hb])
      (Avoids_sub hh hav (fun e => hj.1 e.symm))
      (ih hi.2 hj.2 _ (hh_cons hh _ (sub1_of_ne (fun e => hi.1 e.symm)).symm))
  | opVar ha hb hva hvb hα hw hv hargs =>
    intro hi hj h' hh
    simp only [axBids, List.mem_cons, List.not_mem_nil, or_false] at hi hj
    simp only [axSubstStmt]
    refine .opVar ha hb (by rw [axSubstIdent_id, hva, hh _ ha]) (by rw [axSubstIdent_id, hvb, hh _ hb]) hα ?_
      (by rw [axSubstIdent_id, hv, hh _ hα])
      (by rw [axIds_axSubstCtx, hargs]; simp [sub1_of_ne (fun e => hi e.symm)])
    rw [hh _ hα]
    simp only [sub1]
    split
    · exact fun e => hj e.symm
    · exact hw
  | letData hc hd hsig hm hocc hids hav _ ih =>
    intro hi hj h' hh
    simp only [axBids, List.mem_cons, not_or] at hi hj
    simp only [axSubstStmt]
    exact .letData hc hd hsig hm hocc (by rw [axIds_axSubstCtx, hids, map_hh hh hocc])
      (Avoids_sub hh hav (fun e => hj.1 e.symm))
      (ih hi.2 hj.2 _ (hh_cons hh _ (sub1_of_ne (fun e => hi.1 e.symm)).symm))
  | letCodata hc hd hsig hm hocc hids hav _ ih =>
    intro hi hj h' hh
    simp only [axBids, List.mem_cons, not_or] at hi hj
    simp only [axSubstStmt]
    exact .letCodata hc hd hsig hm hocc (by rw [axIds_axSubstCtx, hids, map_hh hh hocc])
      (Avoids_sub hh hav (fun e => hj.1 e.symm))
      (ih hi.2 hj.2 _ (hh_cons hh _ (sub1_of_ne (fun e => hi.1 e.symm)).symm))
  | invokeData hc hd hsig hm hocc hids hα hv =>
    intro _ _ h' hh
    simp only [axSubstStmt]
    exact .invokeData hc hd hsig hm hocc (by rw [axIds_axSubstCtx, hids, map_hh hh hocc]) hα
      (by rw [axSubstIdent_id, hv, hh _ hα])
  | invokeCodata hc hd hsig hm hocc hids hx hv =>
    intro _ _ h' hh
    simp only [axSubstStmt]
    exact .invokeCodata hc hd hsig hm hocc (by rw [axIds_axSubstCtx, hids, map_hh hh hocc]) hx
      (by rw [axSubstIdent_id, hv, hh _ hx])
  | switchData hc hd hx hv hshape htr ihtr =>
    intro hi hj h' hh
    simp only [axBids] at hi hj
    simp only [axSubstStmt]
    refine .switchData hc hd hx (by rw [axSubstIdent_id, hv, hh _ hx]) (hshape.axSubst hh hj) ?_
    intro K ctx body ctx' body'' hfc hfind hl
    obtain ⟨body', hf, rfl⟩ := findClause_axSubst_some hfind
    have hb := findClause_bids _ hf
    have := hh_setMany hh ctx (axIds ctx') (by simp [axIds, hl])
    rw [map_sub1_of_not_mem (fun hm => hi (hb.1 _ hm))] at this
    exact ihtr K ctx body ctx' body' hfc hf hl (fun hm => hi (hb.2 _ hm)) (fun hm => hj (hb.2 _ hm)) _ this
  | switchCodata hc hd hα hv hshape htr ihtr =>
    intro hi hj h' hh
    simp only [axBids] at hi hj
    simp only [axSubstStmt]
    refine .switchCodata hc hd hα (by rw [axSubstIdent_id, hv, hh _ hα]) (hshape.axSubst hh hj) ?_
    intro K ctx body ctx' body'' hfc hfind hl
    obtain ⟨body', hf, rfl⟩ := findClause_axSubst_some hfind
    have hb := findClause_bids _ hf
    have := hh_setMany hh ctx (axIds ctx') (by simp [axIds, hl])
    rw [map_sub1_of_not_mem (fun hm => hi (hb.1 _ hm))] at this
    exact ihtr K ctx body ctx' body' hfc hf hl (fun hm => hi (hb.2 _ hm)) (fun hm => hj (hb.2 _ hm)) _ this
  | createData hc hd ha hshape htr _ ihtr ih =>
    intro hi hj h' hh
    simp only [axBids, List.mem_cons, List.mem_append, not_or] at hi hj
    simp only [axSubstStmt, Option.map_none]
    refine .createData hc hd (Avoids_sub hh ha (fun e => hj.1 e.symm)) (hshape.axSubst hh hj.2.1) ?_
      (ih hi.2.2 hj.2.2 _ (hh_cons hh _ (sub1_of_ne (fun e => hi.1 e.symm)).symm))
    intro K ctx body ctx' body'' hfc hfind hl
    obtain ⟨body', hf, rfl⟩ := findClause_axSubst_some hfind
    have hb := findClause_bids _ hf
    have := hh_setMany hh ctx (axIds ctx') (by simp [axIds, hl])
    rw [map_sub1_of_not_mem (fun hm => hi.2.1 (hb.1 _ hm))] at this
    exact ihtr K ctx body ctx' body' hfc hf hl (fun hm => hi.2.1 (hb.2 _ hm)) (fun hm => hj.2.1 (hb.2 _ hm)) _ this
  | createCodata hc hd hx hshape htr _ ihtr ih =>
    intro hi hj h' hh
    simp only [axBids, List.mem_cons, List.mem_append, not_or] at hi hj
    simp only [axSubstStmt, Option.map_none]
    refine .createCodata hc hd (Avoids_sub hh hx (fun e => hj.1 e.symm)) (hshape.axSubst hh hj.2.1) ?_
      (ih hi.2.2 hj.2.2 _ (hh_cons hh _ (sub1_of_ne (fun e => hi.1 e.symm)).symm))
    intro K ctx body ctx' body'' hfc hfind hl
    obtain ⟨body', hf, rfl⟩ := findClause_axSubst_some hfind
    have hb := findClause_bids _ hf
    have := hh_setMany hh ctx (axIds ctx') (by simp [axIds, hl])
    rw [map_sub1_of_not_mem (fun hm => hi.2.1 (hb.1 _ hm))] at this
    exact ihtr K ctx body ctx' body' hfc hf hl (fun hm => hi.2.1 (hb.2 _ hm)) (fun hm => hj.2.1 (hb.2 _ hm)) _ this

end main

end Scc.Core2AxCut.Sem
