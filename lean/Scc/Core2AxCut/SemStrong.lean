/-
  Scc.Core2AxCut.SemStrong — the matching of final states used by the forward simulation, and what
  follows from a step-wise simulation for whole runs.  Where `Sem.ResMatch` lets a stuck Core state
  correspond to ANY stuck AxCut state, `ResMatchS` demands the SAME reason (`stuck e` ↦ `stuck e.render`;
  in related states the only reasons that occur are the two arithmetic faults of `op`).  From a
  step-wise simulation with `SimGoalS`: equal finished behaviours in both directions INCLUDING the reason
  of getting stuck, and trace prefixes in both directions for all fuel (divergence).
-/
import Scc.Core2AxCut.SemRun

namespace Scc.Core2AxCut.Sem.Strong

open Scc.AxCut.Named (State step iterate)

/-- the results of the two machines correspond, stuck reasons included -/
def ResMatchS (r : Core.Res) (r' : AxCut.Named.Res) : Prop :=
  match r with
  | .done v => r' = .done v
  | .stuck e => r' = .stuck e.render
  | .outOfFuel => False

theorem ResMatchS.weaken {r r'} (h : ResMatchS r r') : ResMatch r r' := by
  cases r with
  | done v => exact h
  | stuck e => exact ⟨_, h⟩
  | outOfFuel => cases h

/-- `Sem.SimGoal` with `ResMatchS` -/
def SimGoalS (p : Core.FsProg) (q : AxCut.Prog) (R : Core.FsState → State → Prop) (cs : Core.FsState)
    (as : State) : Prop :=
  match Core.fsStep p cs with
  | .next cs' => ∃ k as', Steps q k as as' ∧ R cs' as' ∧ (k = 0 → sizeStmt cs'.stmt < sizeStmt cs.stmt)
  | .final r => ∃ k as' r', Steps q k as as' ∧ step q as' = .halt cs.out r' ∧ ResMatchS r r'

theorem SimGoalS.weaken {p q R cs as} (h : SimGoalS p q R cs as) : SimGoal p q R cs as := by
  simp only [SimGoalS] at h
  simp only [SimGoal]
  split
  · rename_i cs' hs; simp only [hs] at h; exact h
  · rename_i r hs; simp only [hs] at h
    obtain ⟨k, as', r', h1, h2, h3⟩ := h
    exact ⟨k, as', r', h1, h2, h3.weaken⟩

/-! ## from steps to runs: finished runs with the reason of getting stuck, and trace prefixes -/

section sim
variable {p : Core.FsProg} {q : AxCut.Prog} {R : Core.FsState → State → Prop}
  (hsim : ∀ cs as, R cs as → SimGoalS p q R cs as)
include hsim

/-- forward: a finished Core run is matched by a finished AxCut run -/
theorem sim_forwardS : ∀ n cs as, R cs as → CFin (Core.fsStepN p n cs).res →
    ∃ m, (iterate q m as).out = (Core.fsStepN p n cs).out ∧
      ResMatchS (Core.fsStepN p n cs).res (iterate q m as).res
  | 0, cs, as, _, hf => by
    simp only [Core.fsStepN] at hf
    rcases hf with ⟨v, h⟩ | ⟨w, h⟩ <;> cases h
  | n + 1, cs, as, hr, hf => by
    have hg := hsim cs as hr
    simp only [SimGoalS] at hg
    simp only [Core.fsStepN] at hf ⊢
    split at hg
    · rename_i cs' hstep
      simp only [hstep] at hf ⊢
      obtain ⟨k, as', hk, hr', _⟩ := hg
      obtain ⟨m, h1, h2⟩ := sim_forwardS n cs' as' hr' hf
      exact ⟨k + m, by rw [iterate_steps hk]; exact h1, by rw [iterate_steps hk]; exact h2⟩
    · rename_i r hstep
      simp only [hstep]
      obtain ⟨k, as', r', hk, hh, hm⟩ := hg
      refine ⟨k + 1, ?_, ?_⟩
      · rw [iterate_steps hk]; simp [iterate, hh]
      · rw [iterate_steps hk]; simpa [iterate, hh] using hm

/-- backward: a finished AxCut run is matched by a finished Core run -/
theorem sim_backwardS : ∀ (m sz : Nat) cs as, R cs as → sizeStmt cs.stmt ≤ sz → Fin (iterate q m as).res →
    ∃ n, (Core.fsStepN p n cs).out = (iterate q m as).out ∧
      ResMatchS (Core.fsStepN p n cs).res (iterate q m as).res := by
  intro m
  induction m using Nat.strongRecOn with
  | _ m ihm =>
    intro sz
    induction sz with
    | zero =>
      intro cs as _ hsz _
      have : 0 < sizeStmt cs.stmt := by
        cases cs.stmt <;> simp [sizeStmt]
      omega
    | succ sz ihs =>
      intro cs as hr hsz hf
      have hg := hsim cs as hr
      simp only [SimGoalS] at hg
      split at hg
      · rename_i cs' hstep
        obtain ⟨k, as', hk, hr', hdec⟩ := hg
        by_cases hk0 : k = 0
        · subst hk0
          have := Steps.zero_eq hk
          subst this
          obtain ⟨n, h1, h2⟩ := ihs cs' as hr' (by have := hdec rfl; omega) hf
          exact ⟨n + 1, by simp only [Core.fsStepN, hstep]; exact h1, by simp only [Core.fsStepN, hstep]; exact h2⟩
        · by_cases hmk : m ≤ k
          · have := iterate_short hk m hmk
            rw [this] at hf
            rcases hf with ⟨v, h⟩ | ⟨w, h⟩ <;> cases h
          · have e : m = k + (m - k) := by omega
            have hit : iterate q m as = iterate q (m - k) as' := by
              conv => lhs; rw [e]
              exact iterate_steps hk _
            rw [hit] at hf ⊢
            obtain ⟨n, h1, h2⟩ := ihm (m - k) (by omega) (sizeStmt cs'.stmt) cs' as' hr' (Nat.le_refl _) hf
            exact ⟨n + 1, by simp only [Core.fsStepN, hstep]; exact h1,
              by simp only [Core.fsStepN, hstep]; exact h2⟩
      · rename_i r hstep
        obtain ⟨k, as', r', hk, hh, hm⟩ := hg
        by_cases hmk : m ≤ k
        · have := iterate_short hk m hmk
          rw [this] at hf
          rcases hf with ⟨v, h⟩ | ⟨w, h⟩ <;> cases h
        · have e : m = k + ((m - k - 1) + 1) := by omega
          have hit : iterate q m as = ⟨cs.out, r'⟩ := by
            conv => lhs; rw [e]
            rw [iterate_steps hk]
            simp [iterate, hh]
          rw [hit]
          exact ⟨1, by simp [Core.fsStepN, hstep], by simpa [Core.fsStepN, hstep] using hm⟩

end sim

theorem step_next_out {q : AxCut.Prog} {a b : State} (h : step q a = .next b) : a.out <+: b.out := by
  unfold step at h
  repeat' (split at h)
  all_goals first
    | (cases h; first | exact List.prefix_refl _ | exact List.prefix_append _ _)
    | (simp [AxCut.Named.stuck] at h; done)

theorem step_halt_out {q : AxCut.Prog} {a : State} {out r} (h : step q a = .halt out r) : a.out <+: out := by
  unfold step at h
  repeat' (split at h)
  all_goals first
    | (cases h; exact List.prefix_refl _)
    | (simp only [AxCut.Named.stuck, AxCut.Named.StepResult.halt.injEq] at h; rw [← h.1]; exact List.prefix_refl _)
    | (simp at h; done)

theorem iterate_out_le (q : AxCut.Prog) : ∀ m (a : State), a.out <+: (iterate q m a).out
  | 0, a => List.prefix_refl _
  | m + 1, a => by
    simp only [iterate]
    split
    · rename_i b hb
      exact List.IsPrefix.trans (step_next_out hb) (iterate_out_le q m b)
    · rename_i out r hb
      exact step_halt_out hb

theorem iterate_mono (q : AxCut.Prog) : ∀ m j (a : State), (iterate q m a).out <+: (iterate q (m + j) a).out
  | 0, j, a => by simpa [iterate] using iterate_out_le q j a
  | m + 1, j, a => by
    rw [show m + 1 + j = (m + j) + 1 by omega]
    simp only [iterate]
    split
    · exact iterate_mono q m j _
    · exact List.prefix_refl _

theorem iterate_steps_out {q : AxCut.Prog} {k : Nat} {a b : State} (h : Steps q k a b) :
    (iterate q k a).out = b.out := by
  have := iterate_steps h 0
  simp only [Nat.add_zero] at this
  rw [this]; rfl

section pref
variable {p : Core.FsProg} {q : AxCut.Prog} {R : Core.FsState → State → Prop}
  (hsim : ∀ cs as, R cs as → SimGoalS p q R cs as) (hout : ∀ cs as, R cs as → cs.out = as.out)
include hsim hout

/-- forward: whatever the Core machine has printed within `n` steps, the AxCut machine has printed
    within some `m` steps (exactly that) -/
theorem sim_prefix_forward : ∀ n cs as, R cs as →
    ∃ m, (iterate q m as).out = (Core.fsStepN p n cs).out
  | 0, cs, as, hr => ⟨0, by simp [iterate, Core.fsStepN, hout cs as hr]⟩
  | n + 1, cs, as, hr => by
    have hg := hsim cs as hr
    simp only [SimGoalS] at hg
    simp only [Core.fsStepN]
    split at hg
    · rename_i cs' hstep
      simp only [hstep]
      obtain ⟨k, as', hk, hr', _⟩ := hg
      obtain ⟨m, h1⟩ := sim_prefix_forward n cs' as' hr'
      exact ⟨k + m, by rw [iterate_steps hk]; exact h1⟩
    · rename_i r hstep
      simp only [hstep]
      obtain ⟨k, as', r', hk, hh, _⟩ := hg
      exact ⟨k + 1, by rw [iterate_steps hk]; simp [iterate, hh]⟩

/-- backward: whatever the AxCut machine has printed within `m` steps is a prefix of what the Core
    machine prints within some `n` steps -/
theorem sim_prefix_backward : ∀ (m sz : Nat) cs as, R cs as → sizeStmt cs.stmt ≤ sz →
    ∃ n, (iterate q m as).out <+: (Core.fsStepN p n cs).out := by
  intro m
  induction m using Nat.strongRecOn with
  | _ m ihm =>
    intro sz
    induction sz with
    | zero =>
      intro cs as _ hsz
      have : 0 < sizeStmt cs.stmt := by
        cases cs.stmt <;> simp [sizeStmt]
      omega
    | succ sz ihs =>
      intro cs as hr hsz
      have hg := hsim cs as hr
      simp only [SimGoalS] at hg
      split at hg
      · rename_i cs' hstep
        obtain ⟨k, as', hk, hr', hdec⟩ := hg
        by_cases hk0 : k = 0
        · subst hk0
          have := Steps.zero_eq hk
          subst this
          obtain ⟨n, h1⟩ := ihs cs' as hr' (by have := hdec rfl; omega)
          exact ⟨n + 1, by simp only [Core.fsStepN, hstep]; exact h1⟩
        · by_cases hmk : m ≤ k
          · -- the AxCut machine is inside the chunk: its trace is a prefix of the trace at the end of it
            refine ⟨1, ?_⟩
            have e : k = m + (k - m) := by omega
            have h1 := iterate_mono q m (k - m) as
            rw [← e, iterate_steps_out hk, ← hout _ _ hr'] at h1
            simpa [Core.fsStepN, hstep] using h1
          · have e : m = k + (m - k) := by omega
            have hit : iterate q m as = iterate q (m - k) as' := by
              conv => lhs; rw [e]
              exact iterate_steps hk _
            rw [hit]
            obtain ⟨n, h1⟩ := ihm (m - k) (by omega) (sizeStmt cs'.stmt) cs' as' hr' (Nat.le_refl _)
            exact ⟨n + 1, by simp only [Core.fsStepN, hstep]; exact h1⟩
      · rename_i r hstep
        obtain ⟨k, as', r', hk, hh, _⟩ := hg
        have hfin : iterate q (k + 1) as = ⟨cs.out, r'⟩ := by
          rw [iterate_steps hk]; simp [iterate, hh]
        refine ⟨1, ?_⟩
        by_cases hmk : m ≤ k + 1
        · have e : k + 1 = m + (k + 1 - m) := by omega
          have h1 := iterate_mono q m (k + 1 - m) as
          rw [← e, hfin] at h1
          simpa [Core.fsStepN, hstep] using h1
        · have e : m = k + ((m - k - 1) + 1) := by omega
          have hit : iterate q m as = ⟨cs.out, r'⟩ := by
            conv => lhs; rw [e]
            rw [iterate_steps hk]
            simp [iterate, hh]
          rw [hit]
          simp [Core.fsStepN, hstep]

end pref

end Scc.Core2AxCut.Sem.Strong
