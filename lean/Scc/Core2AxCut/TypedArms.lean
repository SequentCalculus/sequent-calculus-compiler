/-
  Scc.Core2AxCut.TypedArms — proof file for the typing part of C04 / C12 (shrinking preserves typing):
  the arms of `shrinkCut` (one lemma per arm, both orientations share a generic lemma) establish the
  typing postcondition `PostT` of `TypedInv.lean`.  The structure follows `SemTr.lean` arm by arm; the arms for
  `switch`, `create` and the critical pairs are in `TypedArms2.lean`.
-/
import Scc.Core2AxCut.TypedInv

namespace Scc.Core2AxCut.Typed

open Scc.AxCut Scc.Core2AxCut.Sem
open Scc.AxCut.Named (findDef)

local notation "sid" => shrinkIdentifier

/-! ## aliasing: clause parameters / mu variables bound to existing variables -/

theorem sigMatch_ct : ∀ {a s : Core.Ctx}, sigMatch a s = true →
    a.map (fun b => (b.chi, b.ty)) = s.map (fun b => (b.chi, b.ty))
  | [], [], _ => rfl
  | [], _ :: _, h => by simp [sigMatch] at h
  | _ :: _, [], h => by simp [sigMatch] at h
  | a :: as, s :: ss, h => by
    simp only [sigMatch, Bool.and_eq_true, beq_iff_eq] at h
    simp only [List.map_cons, List.cons.injEq, Prod.mk.injEq]
    exact ⟨⟨h.1.1, h.1.2⟩, sigMatch_ct h.2⟩

theorem alias_lookup (g : Core.Ident → Core.Ident) : ∀ (ctx args : Core.Ctx),
    ctx.map (fun b => (b.chi, b.ty)) = args.map (fun b => (b.chi, b.ty)) → (ctx.map (·.var.id)).Nodup →
    ∀ b ∈ ctx, ∃ a ∈ args, a.chi = b.chi ∧ a.ty = b.ty ∧
      substIdent ((ctx.map (·.var.id)).zip (args.map fun a => g a.var)) b.var = g a.var
  | [], _, _, _, b, hb => by simp at hb
  | _ :: _, [], h, _, _, _ => by simp at h
  | b0 :: bs, a0 :: as, h, hnd, b, hb => by
    simp only [List.map_cons, List.cons.injEq, Prod.mk.injEq] at h
    simp only [List.map_cons, List.nodup_cons] at hnd
    rcases List.mem_cons.mp hb with rfl | hb'
    · exact ⟨a0, by simp, h.1.1.symm, h.1.2.symm, by simp [substIdent]⟩
    · obtain ⟨a, ha, h1, h2, h3⟩ := alias_lookup g bs as h.2 hnd.2 b hb'
      refine ⟨a, by simp [ha], h1, h2, ?_⟩
      have hne : (b0.var.id == b.var.id) = false := by
        simp only [beq_eq_false_iff_ne, ne_eq]
        intro e
        exact hnd.1 (e ▸ List.mem_map.mpr ⟨b, hb', rfl⟩)
      simp only [List.map_cons, List.zip_cons_cons, substIdent, List.find?_cons, hne]
      simpa [substIdent] using h3

/-- binding the parameters `ctx` (binders of the statement) to the existing variables `args` -/
theorem agree_alias {cod : List Core.TypeDecl} {Γ : Core.Ctx} {f : Core.Ident → Core.Ident} {B B' : List Nat}
    {m : Nat} {Γax : AxCut.Ctx} (hag : AgreeT cod Γ f B m Γax) (inv : InvB Γ f B m) (ctx args : Core.Ctx)
    (hB : ∀ b ∈ ctx, b.var.id ∈ B) (hnd : (ctx.map (·.var.id)).Nodup) (hocc : ∀ b ∈ args, occFs Γ b = true)
    (hct : ctx.map (fun b => (b.chi, b.ty)) = args.map (fun b => (b.chi, b.ty))) (hB' : ∀ i ∈ B', i ∈ B) :
    AgreeT cod (ctx ++ Γ)
      (substIdent ((ctx.map fun b => b.var.id).zip ((renCtx f args).map (·.var))) ∘ f) B' m Γax := by
  have hvars : (renCtx f args).map (·.var) = args.map (fun a => f a.var) := by
    simp [renCtx, renBinding, List.map_map, Function.comp_def]
  refine ⟨?_, (hag.sub hB').rng, hag.nd⟩
  intro b hb
  rcases occFs_append hb with hm | ⟨hnm, ho⟩
  · obtain ⟨a, ha, h1, h2, h3⟩ := alias_lookup f ctx args hct hnd b hm
    have : renBinding (substIdent ((ctx.map fun b => b.var.id).zip ((renCtx f args).map (·.var))) ∘ f) b =
        renBinding f a := by
      simp only [renBinding, Function.comp, inv.fid _ (hB b hm), hvars, h3]
      cases a; cases b; simp_all
    rw [this]
    exact hag.mem a (hocc a ha)
  · have : renBinding (substIdent ((ctx.map fun b => b.var.id).zip ((renCtx f args).map (·.var))) ∘ f) b =
        renBinding f b := by
      simp only [renBinding, Function.comp]
      rw [substIdent_of_not_dom]
      intro p hp e
      have h1 := (List.of_mem_zip hp).1
      obtain ⟨c, hc, hce⟩ := List.mem_map.mp h1
      exact (inv.rng b ho).1 (by rw [← e, ← hce]; exact hB c hc)
    rw [this]
    exact hag.mem b ho

theorem freshenCtx_chiTys : ∀ (c : AxCut.Ctx) (st : St), (freshenCtx c st).1.chiTys = c.chiTys
  | [], _ => rfl
  | b :: bs, st => by
    have ih := freshenCtx_chiTys bs (freshIdentifier st b.var.name).2
    simp only [freshenCtx, Ctx.chiTys, List.map_cons] at ih ⊢
    rw [ih]

theorem freshenCtx_nodupIds (c : AxCut.Ctx) (st : St) : NodupIds (freshenCtx c st).1 :=
  (freshenCtx_ids (c := c) (st := st)).1

theorem freshenCtx_ids_range {c : AxCut.Ctx} {st : St} :
    ∀ i ∈ (freshenCtx c st).1.ids, st.maxId < i ∧ i ≤ (freshenCtx c st).2.maxId :=
  (freshenCtx_ids (c := c) (st := st)).2

section step
variable {E : TEnv} {q : AxCut.Prog} {env : Env} {rec : Rec}
  (hE : EnvMatches env E) (hT : EnvOK E q.types) (hrecT : RecT E q rec) (hmono : RecRel Mono rec)

include hrecT hmono in
theorem ty_under_binder {Γ f st t0 st'} {b0 : Core.Binding} {s0 : Core.FsStmt} {B : List Nat}
    (h : rec (renStmt f s0) st = .ok (t0, st')) (hq : Good q st') (hM : st'.maxId ≤ q.maxId)
    (hwt : wtStmt E s0 = true) (hsc : scStmt (b0 :: Γ) s0 = true) (inv : InvB Γ f B st.maxId)
    (hB : ([b0].map (·.var.id) ++ s0.binderIds).Sublist B) :
    ∀ Γax, AgreeT E.codata Γ f B st.maxId Γax →
      FreshBinder q.maxId Γax b0.var.id ∧ Tq q t0 (shrinkBinding E.codata b0 :: Γax) ∧ LiftedOK q st st' := by
  have inv1 : InvB (b0 :: Γ) f s0.binderIds st.maxId := inv.enterS [b0] s0.binderIds hB
  have p := hrecT _ _ s0 st t0 st' h hq hM hwt hsc inv1
  intro Γax hag
  have hmem : b0.var.id ∈ B := hB.subset (by simp)
  have m1 : st.maxId ≤ st'.maxId := (hmono _ _ _ _ h).le
  obtain ⟨p1, p2⟩ := p _ (hag.cons inv b0 s0.binderIds hB)
  exact ⟨hag.fresh_binder hmem (by have := inv.bm _ hmem; omega), p1, p2⟩

include hrecT in
theorem ty_known {Γ f} {K : Core.Ident} {args} {cl : Core.FsClauses} {ctx body st t st' B} {sig : Core.XtorSig}
    (h : rec (substStmt ((ctx.map fun b => b.var.id).zip ((renCtx f args).map (·.var))) (renStmt f body)) st =
      .ok (t, st')) (hq : Good q st') (hM : st'.maxId ≤ q.maxId)
    (hf : cl.find K = some (ctx, body)) (hm : sigMatch args sig.args = true)
    (hocc : ∀ b ∈ args, occFs Γ b = true) (hm2 : sigMatch ctx sig.args = true)
    (hwt : wtStmt E body = true) (hsc : scStmt (ctx ++ Γ) body = true)
    (inv : InvB Γ f B st.maxId) (hB : cl.binderIds.Sublist B) :
    PostT E.codata q Γ f B st t st' := by
  rw [substStmt_ren] at h
  have hBc : (Core.ctxIds ctx ++ body.binderIds).Sublist B := (find_sublist cl hf).trans hB
  have hnd := List.nodup_append.mp (hBc.nodup inv.nd)
  have inv1 : InvB (ctx ++ Γ) f body.binderIds st.maxId := inv.enterS ctx body.binderIds hBc
  have inv2 := inv1.subst ((ctx.map fun b => b.var.id).zip ((renCtx f args).map (·.var)))
    (by intro p hp hc
        have := (List.of_mem_zip hp).1
        exact hnd.2.2 _ this _ hc rfl)
    (by intro p hp
        have := (List.of_mem_zip hp).2
        simp only [renCtx, renBinding, List.map_map, List.mem_map, Function.comp] at this
        obtain ⟨b, hb, hbe⟩ := this
        rw [← hbe]
        have := inv.rng b (hocc b hb)
        exact ⟨fun hc => this.1 (hBc.subset (by simp [hc])), this.2⟩)
  have p1 := hrecT _ _ body st t st' h hq hM hwt hsc inv2
  intro Γax hag
  refine p1 Γax (agree_alias hag inv ctx args ?_ hnd.1 hocc ?_ (fun i hi => hBc.subset (by simp [hi])))
  · intro b hb
    exact hBc.subset (by simp [Core.ctxIds]; exact .inl ⟨b, hb, rfl⟩)
  · rw [sigMatch_ct hm2, sigMatch_ct hm]

include hrecT in
/-- `shrink_renaming`, both orientations: the mu variable `a` is replaced by the variable `x` -/
theorem ty_ren {Γ f T pc a s0 x st t st' B} (h : rec (substStmt [(a.id, f x)] (renStmt f s0)) st = .ok (t, st'))
    (hq : Good q st') (hM : st'.maxId ≤ q.maxId)
    (hwt : wtStmt E s0 = true) (hx : occFs Γ ⟨x, pc, T⟩ = true)
    (hsc : scStmt (⟨a, pc, T⟩ :: Γ) s0 = true) (inv : InvB Γ f B st.maxId)
    (hB : (a.id :: s0.binderIds).Sublist B) :
    PostT E.codata q Γ f B st t st' := by
  rw [substStmt_ren] at h
  have hnd := List.nodup_cons.mp (hB.nodup inv.nd)
  have ha : a.id ∉ s0.binderIds := hnd.1
  have inv1 : InvB (⟨a, pc, T⟩ :: Γ) f s0.binderIds st.maxId := inv.enterS [⟨a, pc, T⟩] s0.binderIds (by simpa using hB)
  have inv2 := inv1.subst [(a.id, f x)] (by simpa using ha)
    (by simp only [List.mem_singleton, forall_eq]
        exact ⟨fun hc => (inv.rng _ hx).1 (hB.subset (by simp [hc])), (inv.rng _ hx).2⟩)
  have p1 := hrecT _ _ s0 st t st' h hq hM hwt hsc inv2
  intro Γax hag
  have := agree_alias hag inv [⟨a, pc, T⟩] [⟨x, pc, T⟩] (by simp; exact hB.subset (by simp)) (by simp)
    (by simpa using hx) rfl (B' := s0.binderIds) (fun i hi => hB.subset (by simp [hi]))
  exact p1 Γax (by simpa [renCtx, renBinding] using this)

include hrecT hmono in
theorem ty_litMu {Γ f n x s0 st t0 st'} (h : rec (renStmt f s0) st = .ok (t0, st')) (hq : Good q st')
    (hM : st'.maxId ≤ q.maxId)
    (hwt : wtStmt E s0 = true) (hsc : scStmt (⟨x, .prd, .i64⟩ :: Γ) s0 = true)
    (inv : InvB Γ f (Core.FsStmt.cut .i64 (.lit n) (.mu .cns x .i64 s0)).binderIds st.maxId) :
    PostT E.codata q Γ f (Core.FsStmt.cut .i64 (.lit n) (.mu .cns x .i64 s0)).binderIds st
      (.lit (sid x) n t0 none) st' := by
  intro Γax hag
  obtain ⟨g1, g2, g3⟩ := ty_under_binder hrecT hmono (b0 := ⟨x, .prd, .i64⟩) h hq hM hwt hsc inv
    (by simp [Core.FsStmt.binderIds, Core.FsTerm.binderIds]) Γax hag
  rw [sb_prd_int] at g2
  exact ⟨by simp only [Tq, TW]; exact ⟨g1, g2⟩, g3⟩

include hT in
theorem ty_invokeRet {Γ f α B m Γax} {w : Core.Ident} (hag : AgreeT E.codata Γ f B m Γax)
    (hα : occFs Γ ⟨α, .cns, .i64⟩ = true) (Γ' : AxCut.Ctx) (hsub : ∀ b ∈ Γax, b ∈ Γ')
    (hw : (⟨sid w, .ext, .i64⟩ : AxCut.Binding) ∈ Γ') : Tq q (invokeRet (f α) w) Γ' := by
  simp only [Tq, invokeRet, TW]
  refine ⟨hsub _ ?_, ⟨_, lookupXtor_ret hT, rfl⟩, ?_⟩
  · have := hag.occ hα
    rwa [sb_cns_int] at this
  · intro a ha
    simp only [List.mem_singleton] at ha
    subst ha
    exact hw

include hT in
theorem ty_litVar {Γ f n α st B} (hα : occFs Γ ⟨α, .cns, .i64⟩ = true) (hM : st.maxId + 1 ≤ q.maxId) :
    PostT E.codata q Γ f B st
      (.lit (sid ⟨"x", st.maxId + 1⟩) n (invokeRet (f α) ⟨"x", st.maxId + 1⟩) none)
      { st with maxId := st.maxId + 1 } := by
  intro Γax hag
  refine ⟨?_, LiftedOK.of_eq rfl⟩
  simp only [Tq, TW]
  exact ⟨hag.fresh_gt (Nat.lt_succ_self _) hM,
    ty_invokeRet hT hag hα _ (fun b hb => List.mem_cons_of_mem _ hb) List.mem_cons_self⟩

include hrecT hmono in
theorem ty_opMu {Γ f a o b x s0 st t0 st'} (h : rec (renStmt f s0) st = .ok (t0, st')) (hq : Good q st')
    (hM : st'.maxId ≤ q.maxId)
    (ha : occFs Γ ⟨a, .prd, .i64⟩ = true) (hb : occFs Γ ⟨b, .prd, .i64⟩ = true)
    (hwt : wtStmt E s0 = true) (hsc : scStmt (⟨x, .prd, .i64⟩ :: Γ) s0 = true)
    (inv : InvB Γ f (Core.FsStmt.cut .i64 (.op a o b) (.mu .cns x .i64 s0)).binderIds st.maxId) :
    PostT E.codata q Γ f (Core.FsStmt.cut .i64 (.op a o b) (.mu .cns x .i64 s0)).binderIds st
      (.op (sid x) (sid (f a)) (shrinkBinop o) (sid (f b)) t0 none) st' := by
  intro Γax hag
  obtain ⟨g1, g2, g3⟩ := ty_under_binder hrecT hmono (b0 := ⟨x, .prd, .i64⟩) h hq hM hwt hsc inv
    (by simp [Core.FsStmt.binderIds, Core.FsTerm.binderIds]) Γax hag
  rw [sb_prd_int] at g2
  have h1 := hag.occ ha
  have h2 := hag.occ hb
  rw [sb_prd_int] at h1 h2
  exact ⟨by simp only [Tq, TW]; exact ⟨h1, h2, g1, g2⟩, g3⟩

include hT in
theorem ty_opVar {Γ f a o b α st B} (ha : occFs Γ ⟨a, .prd, .i64⟩ = true) (hb : occFs Γ ⟨b, .prd, .i64⟩ = true)
    (hα : occFs Γ ⟨α, .cns, .i64⟩ = true) (hM : st.maxId + 1 ≤ q.maxId) :
    PostT E.codata q Γ f B st
      (.op (sid ⟨"x", st.maxId + 1⟩) (sid (f a)) (shrinkBinop o) (sid (f b))
        (invokeRet (f α) ⟨"x", st.maxId + 1⟩) none)
      { st with maxId := st.maxId + 1 } := by
  intro Γax hag
  refine ⟨?_, LiftedOK.of_eq rfl⟩
  have h1 := hag.occ ha
  have h2 := hag.occ hb
  rw [sb_prd_int] at h1 h2
  simp only [Tq, TW]
  exact ⟨h1, h2, hag.fresh_gt (Nat.lt_succ_self _) hM,
    ty_invokeRet hT hag hα _ (fun b hb => List.mem_cons_of_mem _ hb) List.mem_cons_self⟩

include hT hrecT hmono in
/-- `Let`, both orientations: `b0` is the variable bound by the (tilde-)mu -/
theorem ty_let {Γ f T K args s0 d sig st t0 st' B} {b0 : Core.Binding}
    (h : rec (renStmt f s0) st = .ok (t0, st')) (hq : Good q st') (hM : st'.maxId ≤ q.maxId)
    (hd : declOf E T = some d)
    (hsig : d.xtors.find? (fun x => x.name == K) = some sig) (hm : sigMatch args sig.args = true)
    (hocc : ∀ b ∈ args, occFs Γ b = true)
    (hwt : wtStmt E s0 = true) (hsc : scStmt (b0 :: Γ) s0 = true)
    (hsb : shrinkBinding E.codata b0 = ⟨sid b0.var, .prd, shrinkTy T⟩)
    (inv : InvB Γ f B st.maxId) (hB : ([b0].map (·.var.id) ++ s0.binderIds).Sublist B) :
    PostT E.codata q Γ f B st
      (.letS (sid b0.var) (shrinkTy T) (sid K) (shrinkContext E.codata (renCtx f args)) t0 none) st' := by
  intro Γax hag
  obtain ⟨g1, g2, g3⟩ := ty_under_binder hrecT hmono (b0 := b0) h hq hM hwt hsc inv hB Γax hag
  rw [hsb] at g2
  refine ⟨?_, g3⟩
  simp only [Tq, TW]
  exact ⟨⟨_, lookupXtor_of_decl hT hd hsig, by
    rw [chiTys_shrinkContext_ren, chiTys_shrinkContext_of_sigMatch _ hm]⟩, hag.args hocc, g1, g2⟩

include hT in
/-- `Invoke`, both orientations: `v` is the variable the xtor is sent to -/
theorem ty_invoke {Γ f T K args d sig st B} {v : Core.Ident} {pc : Core.PC}
    (hd : declOf E T = some d)
    (hsig : d.xtors.find? (fun x => x.name == K) = some sig) (hm : sigMatch args sig.args = true)
    (hocc : ∀ b ∈ args, occFs Γ b = true) (hv : occFs Γ ⟨v, pc, T⟩ = true)
    (hsb : ∀ w, shrinkBinding E.codata ⟨w, pc, T⟩ = ⟨sid w, .cns, shrinkTy T⟩) :
    PostT E.codata q Γ f B st
      (.invoke (sid (f v)) (sid K) (shrinkTy T) (shrinkContext E.codata (renCtx f args))) st := by
  intro Γax hag
  refine ⟨?_, LiftedOK.refl _ _⟩
  have h1 := hag.occ hv
  rw [hsb] at h1
  simp only [Tq, TW]
  exact ⟨h1, ⟨_, lookupXtor_of_decl hT hd hsig, by
    rw [chiTys_shrinkContext_ren, chiTys_shrinkContext_of_sigMatch _ hm]⟩, hag.args hocc⟩

include hT in
theorem ty_unkInt {Γ f x α st B} (hx : occFs Γ ⟨x, .prd, .i64⟩ = true) (hα : occFs Γ ⟨α, .cns, .i64⟩ = true) :
    PostT E.codata q Γ f B st
      (.invoke (sid (f α)) (sid retName) contTy [⟨sid (f x), .ext, .i64⟩]) st := by
  intro Γax hag
  refine ⟨?_, LiftedOK.refl _ _⟩
  have h1 := hag.occ hx
  rw [sb_prd_int] at h1
  exact ty_invokeRet hT hag hα Γax (fun _ hb => hb) h1

include hE in
/-- the eta-expansion clauses of `shrink_unknown_cuts` -/
theorem unknownClauses_typed (vE : Core.Ident) (tty : AxCut.Ty) (Γax : AxCut.Ctx)
    (hv : (⟨sid vE, .cns, tty⟩ : AxCut.Binding) ∈ Γax) : ∀ (xs : List Core.XtorSig) (st : St),
    (∀ x ∈ xs, lookupXtor q.types tty (sid x.name) = some (shrinkContext E.codata x.args)) →
    (∀ i ∈ Γax.ids, i ≤ st.maxId) → (unknownClauses env vE tty xs st).2.maxId ≤ q.maxId →
    TqC q (unknownClauses env vE tty xs st).1 Γax ∧
      ClausesMatch (xs.map (shrinkXtor E.codata)) (unknownClauses env vE tty xs st).1
  | [], st, _, _, _ => by simp [unknownClauses, TqC, TWC, ClausesMatch]
  | x :: xs, st, hx, hΓ, hM => by
    have hcod : env.codata = E.codata := hE.2
    simp only [unknownClauses] at hM ⊢
    have hn := freshenCtx_nodupIds (shrinkContext env.codata x.args) st
    have hr := freshenCtx_ids_range (c := shrinkContext env.codata x.args) (st := st)
    have hc := freshenCtx_chiTys (shrinkContext env.codata x.args) st
    have hs := (freshenCtx_spec (shrinkContext env.codata x.args) st).2.1
    have hM' := hM
    clear hM
    revert hn hr hc hs hM'
    generalize freshenCtx (shrinkContext env.codata x.args) st = r1
    obtain ⟨envC, st1⟩ := r1
    intro hn hr hc hs hM
    have hmono := (unknownClauses_eta env vE tty xs st1).1
    have ih := unknownClauses_typed vE tty Γax hv xs st1 (fun y hy => hx y (by simp [hy]))
      (fun i hi => by have := hΓ i hi; simp only at hs; omega)
    revert hM hmono ih
    generalize unknownClauses env vE tty xs st1 = r2
    obtain ⟨rest, st2⟩ := r2
    intro hM hmono ih
    simp only at hn hr hc hs hM hmono ih ⊢
    obtain ⟨ih1, ih2⟩ := ih hM
    rw [hcod] at hc
    refine ⟨?_, ?_⟩
    · simp only [TqC, TWC, TW]
      refine ⟨hn, ?_, ⟨List.mem_append_right _ hv, ⟨_, hx x (by simp), hc⟩,
        fun a ha => List.mem_append_left _ ha⟩, ih1⟩
      intro i hi
      have := hr i hi
      exact ⟨fun hc' => by have := hΓ i hc'; omega, by omega⟩
    · simp only [List.map_cons, ClausesMatch, shrinkXtor]
      exact ⟨trivial, hc.symm, ih2⟩

include hE hT in
/-- `shrink_unknown_cuts` at a declared type, both orientations: `vK` is scrutinised, `vE` receives the
    eta-expanded xtor -/
theorem ty_unk {Γ f T d st B} {vK vE : Core.Ident} {pcK pcE : Core.PC}
    (hd : declOf E T = some d) (hK : occFs Γ ⟨vK, pcK, T⟩ = true) (hEo : occFs Γ ⟨vE, pcE, T⟩ = true)
    (hsbK : ∀ w, shrinkBinding E.codata ⟨w, pcK, T⟩ = ⟨sid w, .prd, shrinkTy T⟩)
    (hsbE : ∀ w, shrinkBinding E.codata ⟨w, pcE, T⟩ = ⟨sid w, .cns, shrinkTy T⟩)
    (hM : (unknownClauses env (f vE) (shrinkTy T) d.xtors st).2.maxId ≤ q.maxId) :
    PostT E.codata q Γ f B st
      (.switch (sid (f vK)) (shrinkTy T) (unknownClauses env (f vE) (shrinkTy T) d.xtors st).1 none)
      (unknownClauses env (f vE) (shrinkTy T) d.xtors st).2 := by
  intro Γax hag
  refine ⟨?_, LiftedOK.of_frame (unknownClauses_frame _ _ _ _ _)⟩
  have h1 := hag.occ hK
  have h2 := hag.occ hEo
  rw [hsbK] at h1
  rw [hsbE] at h2
  obtain ⟨c1, c2⟩ := unknownClauses_typed (q := q) hE (f vE) (shrinkTy T) Γax h2 d.xtors st
    (fun x hx => lookupXtor_of_decl hT hd (find_self_of_nodup d.xtors (hT.xnd _ _ hd) x hx))
    (fun i hi => (hag.rng i hi).2) hM
  simp only [Tq, TW]
  exact ⟨h1, ⟨_, hT.decl _ _ hd, c2⟩, c1⟩

end step

end Scc.Core2AxCut.Typed
