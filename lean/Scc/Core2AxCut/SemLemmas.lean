/-
  Scc.Core2AxCut.SemLemmas — proof file for the semantic part of C04: environment lemmas for the
  simulation relation of `SemRel.lean` (lookup, extension by one binding, by a parameter list, aliasing),
  step equations of the named AxCut machine, agreement of the arithmetic of the two machines.
-/
import Scc.Core2AxCut.SemRel
import Scc.Core2AxCut.SemStrong
import Scc.Core2AxCut.FreeVars
import Scc.AxCut.TypingNamedProofs
import Scc.AxCut.NamedEnv

namespace Scc.Core2AxCut.Sem

open Scc.AxCut.Named (Value lookup lookupAll bindParams findDef State step)

theorem isCodata_eq (c : List Core.TypeDecl) (t : Core.Ty) : Core.isCodata c t = isCodata c t := by
  cases t <;> rfl

theorem evalCmp_eq (s : Core.IfSort) (a b : BitVec 64) :
    AxCut.Named.evalCmp (shrinkIfSort s) a b = Core.compare s a b := by
  cases s <;> rfl

/-- the two machines compute the same arithmetic and name their faults alike -/
theorem evalOp_arith (o : Core.BinOp) (a b : BitVec 64) :
    AxCut.Named.evalOp (shrinkBinop o) a b = (Core.arith o a b).mapError Core.Why.render := by
  cases o <;> simp only [Core.arith, AxCut.Named.evalOp, shrinkBinop, beq_iff_eq, Bool.and_eq_true]
  case div | rem =>
    by_cases h0 : b = 0
    · rw [if_pos h0, if_pos h0]; rfl
    · rw [if_neg h0, if_neg h0]
      by_cases h1 : a = Core.minInt64 ∧ b = -1
      · rw [if_pos h1, if_pos (show a = AxCut.Named.minInt ∧ b = -1 from h1)]; rfl
      · rw [if_neg h1, if_neg (show ¬(a = AxCut.Named.minInt ∧ b = -1) from h1)]; rfl
  all_goals rfl

theorem evalOp_ok {o : Core.BinOp} {a b z : BitVec 64} (h : Core.arith o a b = .ok z) :
    AxCut.Named.evalOp (shrinkBinop o) a b = .ok z := by
  rw [evalOp_arith, h]; rfl

theorem evalOp_err {o : Core.BinOp} {a b : BitVec 64} {e : Core.Why} (h : Core.arith o a b = .error e) :
    AxCut.Named.evalOp (shrinkBinop o) a b = .error e.render := by
  rw [evalOp_arith, h]; rfl

theorem sid_inj {a b : Core.Ident} (h : shrinkIdentifier a = shrinkIdentifier b) : a = b := by
  cases a; cases b; simp only [shrinkIdentifier, AxCut.Ident.mk.injEq] at h
  simp [h.1, h.2]

theorem sid_beq (a b : Core.Ident) : (shrinkIdentifier a == shrinkIdentifier b) = (a == b) := by
  by_cases h : a = b
  · subst h; simp
  · have h1 : shrinkIdentifier a ≠ shrinkIdentifier b := fun e => h (sid_inj e)
    have e1 : (shrinkIdentifier a == shrinkIdentifier b) = false := by simpa using h1
    have e2 : (a == b) = false := by simpa using h
    rw [e1, e2]

theorem HMap.set_self (h : HMap) (x : Core.Ident) (i : Nat) : (h.set x i) x = i := by simp [HMap.set]

theorem HMap.set_ne (h : HMap) {x y : Core.Ident} (i : Nat) (hne : y ≠ x) : (h.set x i) y = h y := by
  simp [HMap.set, hne]

theorem occFs_cons {b0 b : Core.Binding} {Γ : Core.Ctx} (h : occFs (b0 :: Γ) b = true) :
    (b = b0) ∨ (b.var.id ≠ b0.var.id ∧ occFs Γ b = true) := by
  simp only [occFs, lookupFs, List.find?_cons] at h
  by_cases hid : (b0.var.id == b.var.id) = true
  · simp only [hid] at h
    left
    exact (Option.some.inj (eq_of_beq h)).symm
  · simp only [hid] at h
    right
    refine ⟨fun e => hid (by simp [e]), ?_⟩
    simpa [occFs, lookupFs] using h

theorem occFs_cons_self (b0 : Core.Binding) (Γ : Core.Ctx) : occFs (b0 :: Γ) b0 = true := by
  simp [occFs, lookupFs]

theorem occFs_cons_of_ne {b0 b : Core.Binding} {Γ : Core.Ctx} (hne : b.var.id ≠ b0.var.id)
    (h : occFs Γ b = true) : occFs (b0 :: Γ) b = true := by
  have : (b0.var.id == b.var.id) = false := by simp; exact fun e => hne e.symm
  simpa [occFs, lookupFs, List.find?_cons, this] using h

theorem var_ne_of_id_ne {a b : Core.Ident} (h : a.id ≠ b.id) : a ≠ b := fun e => h (by rw [e])

export Scc.AxCut.Named (lookup_cons lookup_cons_self lookup_cons_ne lookup_append_of_not_mem)

theorem bindParams_keys : ∀ {ctx : AxCut.Ctx} {vs : List Value} {e}, bindParams ctx vs = some e →
    e.map (·.1) = axIds ctx
  | [], [], e, h => by simp [bindParams] at h; subst h; rfl
  | [], _ :: _, e, h => by simp [bindParams] at h
  | _ :: _, [], e, h => by simp [bindParams] at h
  | b :: bs, v :: vs, e, h => by
    simp only [bindParams] at h
    split at h
    · rename_i e' he
      simp only [Option.some.injEq] at h
      subst h
      simp [axIds, bindParams_keys he]
    · cases h

theorem bindParams_some : ∀ (ctx : AxCut.Ctx) (vs : List Value), ctx.length = vs.length →
    ∃ e, bindParams ctx vs = some e
  | [], [], _ => ⟨[], rfl⟩
  | [], _ :: _, h => by simp at h
  | _ :: _, [], h => by simp at h
  | b :: bs, v :: vs, h => by
    obtain ⟨e, he⟩ := bindParams_some bs vs (by simpa using h)
    exact ⟨(b.var.id, v) :: e, by simp [bindParams, he]⟩

/-- looking up the parameters themselves after `bindParams` (distinct ids) returns the values -/
theorem lookupAll_bindParams : ∀ (ctx ctx' : AxCut.Ctx) (vs : List Value) (e : AxCut.Named.Env)
    (η : AxCut.Named.Env), bindParams ctx vs = some e → axIds ctx' = axIds ctx → (axIds ctx).Nodup →
    ∀ pre : AxCut.Named.Env, (∀ i ∈ axIds ctx, i ∉ pre.map (·.1)) → lookupAll (pre ++ e ++ η) ctx' = some vs
  | [], [], [], e, η, _, _, _, pre, _ => by simp [lookupAll]
  | [], _ :: _, _, e, η, _, h, _, _, _ => by simp [axIds] at h
  | _ :: _, [], _, e, η, _, h, _, _, _ => by simp [axIds] at h
  | [], [], _ :: _, e, η, h, _, _, _, _ => by simp [bindParams] at h
  | b :: bs, b' :: bs', [], e, η, h, _, _, _, _ => by simp [bindParams] at h
  | b :: bs, b' :: bs', v :: vs, e, η, h, hids, hnd, pre, hpre => by
    simp only [bindParams] at h
    split at h
    · rename_i e' he
      simp only [Option.some.injEq] at h
      subst h
      simp only [axIds, List.map_cons, List.cons.injEq] at hids
      simp only [axIds, List.map_cons, List.nodup_cons] at hnd
      have h1 : lookup (pre ++ (b.var.id, v) :: e' ++ η) b'.var.id = some v := by
        rw [hids.1, List.append_assoc, lookup_append_of_not_mem (hpre _ (by simp [axIds]))]
        simp [lookup_cons]
      have h2 := lookupAll_bindParams bs bs' vs e' η he hids.2 hnd.2 (pre ++ [(b.var.id, v)]) (by
        intro i hi
        simp only [List.map_append, List.map_cons, List.map_nil, List.mem_append, List.mem_singleton, not_or]
        refine ⟨hpre i (by simp [axIds]; right; simpa [axIds] using hi), ?_⟩
        intro e; subst e; exact hnd.1 (by simpa [axIds] using hi))
      simp only [lookupAll, h1]
      have e2 : pre ++ (b.var.id, v) :: e' ++ η = pre ++ [(b.var.id, v)] ++ e' ++ η := by simp
      rw [e2, h2]
    · cases h

theorem step_lit (q : AxCut.Prog) (v n next fv η out) :
    step q ⟨.lit v n next fv, η, out⟩ = .next ⟨next, (v.id, .int (BitVec.ofInt 64 n)) :: η, out⟩ := rfl

theorem step_create (q : AxCut.Prog) (v ty cls next fc fn η out) :
    step q ⟨.create v ty none cls next fc fn, η, out⟩ = .next ⟨next, (v.id, .clo η cls) :: η, out⟩ := rfl

theorem step_let (q : AxCut.Prog) {v ty tag args next fv η out vs} (h : lookupAll η args = some vs) :
    step q ⟨.letS v ty tag args next fv, η, out⟩ = .next ⟨next, (v.id, .obj tag vs) :: η, out⟩ := by
  simp [step, h]

theorem step_print (q : AxCut.Prog) {nl v next fv η out x} (h : lookup η v.id = some (.int x)) :
    step q ⟨.print nl v next fv, η, out⟩ = .next ⟨next, η, out ++ [(nl, x)]⟩ := by
  simp [step, h]

theorem step_exit (q : AxCut.Prog) {v η out x} (h : lookup η v.id = some (.int x)) :
    step q ⟨.exit v, η, out⟩ = .halt out (.done x) := by
  simp [step, h]

theorem step_ifz (q : AxCut.Prog) {s v t e η out x} (h : lookup η v.id = some (.int x)) :
    step q ⟨.ifc s v none t e, η, out⟩ = .next ⟨if AxCut.Named.evalCmp s x 0 then t else e, η, out⟩ := by
  simp [step, h]

theorem step_ifc (q : AxCut.Prog) {s v w t e η out x y} (h : lookup η v.id = some (.int x))
    (h2 : lookup η w.id = some (.int y)) :
    step q ⟨.ifc s v (some w) t e, η, out⟩ = .next ⟨if AxCut.Named.evalCmp s x y then t else e, η, out⟩ := by
  simp [step, h, h2]

theorem step_op_ok (q : AxCut.Prog) {v a o b next fv η out x y r} (h : lookup η a.id = some (.int x))
    (h2 : lookup η b.id = some (.int y)) (hr : AxCut.Named.evalOp o x y = .ok r) :
    step q ⟨.op v a o b next fv, η, out⟩ = .next ⟨next, (v.id, .int r) :: η, out⟩ := by
  simp [step, h, h2, hr]

theorem step_op_err (q : AxCut.Prog) {v a o b next fv η out x y w} (h : lookup η a.id = some (.int x))
    (h2 : lookup η b.id = some (.int y)) (hr : AxCut.Named.evalOp o x y = .error w) :
    step q ⟨.op v a o b next fv, η, out⟩ = .halt out (.stuck w) := by
  simp [step, h, h2, hr, AxCut.Named.stuck]

theorem step_invoke (q : AxCut.Prog) {v tag ty args η out cenv cls ctx body vs e}
    (h : lookup η v.id = some (.clo cenv cls)) (hc : AxCut.Named.findClause tag cls = some (ctx, body))
    (ha : lookupAll η args = some vs) (hb : bindParams ctx vs = some e) :
    step q ⟨.invoke v tag ty args, η, out⟩ = .next ⟨body, e ++ cenv, out⟩ := by
  simp [step, h, hc, ha, hb]

theorem step_switch (q : AxCut.Prog) {v ty cls fv η out tag fields ctx body e}
    (h : lookup η v.id = some (.obj tag fields)) (hc : AxCut.Named.findClause tag cls = some (ctx, body))
    (hb : bindParams ctx fields = some e) :
    step q ⟨.switch v ty cls fv, η, out⟩ = .next ⟨body, e ++ η, out⟩ := by
  simp [step, h, hc, hb]

theorem step_call (q : AxCut.Prog) {label args η out d vs e} (h : findDef q label = some d)
    (ha : lookupAll η args = some vs) (hb : bindParams d.ctx vs = some e) :
    step q ⟨.call label args, η, out⟩ = .next ⟨d.body, e, out⟩ := by
  simp [step, h, ha, hb]

section env
variable {E : TEnv} {q : AxCut.Prog}

theorem Core_lookup_cons_self (x : Core.Ident) (v : Core.FVal) (ρ : Core.FEnv) :
    Core.Env.lookup ((x, v) :: ρ) x = .ok v := by simp [Core.Env.lookup]

theorem Core_lookup_cons_ne {x y : Core.Ident} (v : Core.FVal) (ρ : Core.FEnv) (h : y ≠ x) :
    Core.Env.lookup ((x, v) :: ρ) y = Core.Env.lookup ρ y := by
  have : ¬ x = y := fun e => h e.symm
  simp [Core.Env.lookup, this]

/-- a new binding on both sides -/
theorem EnvRel.cons {Γ h ρ η} {b0 : Core.Binding} {v v'} {i : Nat} (hr : EnvRel E q Γ h ρ η)
    (hv : VRel E q b0.chi b0.ty v v') (ha : Avoids Γ h i) :
    EnvRel E q (b0 :: Γ) (h.set b0.var i) ((b0.var, v) :: ρ) ((i, v') :: η) := by
  intro b hb
  rcases occFs_cons hb with rfl | ⟨hne, hb'⟩
  · exact ⟨v, v', Core_lookup_cons_self _ _ _, by rw [HMap.set_self, lookup_cons_self], hv⟩
  · obtain ⟨w, w', h1, h2, h3⟩ := hr b hb'
    have hvne := var_ne_of_id_ne hne
    refine ⟨w, w', by rw [Core_lookup_cons_ne _ _ hvne]; exact h1, ?_, h3⟩
    rw [HMap.set_ne _ _ hvne, lookup_cons_ne _ _ (ha b hb')]
    exact h2

/-- a new Core binding that is held by an existing AxCut variable -/
theorem EnvRel.alias {Γ h ρ η} {b0 : Core.Binding} {v v'} {i : Nat} (hr : EnvRel E q Γ h ρ η)
    (hv : VRel E q b0.chi b0.ty v v') (hl : lookup η i = some v') :
    EnvRel E q (b0 :: Γ) (h.set b0.var i) ((b0.var, v) :: ρ) η := by
  intro b hb
  rcases occFs_cons hb with rfl | ⟨hne, hb'⟩
  · exact ⟨v, v', Core_lookup_cons_self _ _ _, by rw [HMap.set_self]; exact hl, hv⟩
  · obtain ⟨w, w', h1, h2, h3⟩ := hr b hb'
    have hvne := var_ne_of_id_ne hne
    exact ⟨w, w', by rw [Core_lookup_cons_ne _ _ hvne]; exact h1, by rw [HMap.set_ne _ _ hvne]; exact h2, h3⟩

/-- an AxCut-only binding that no variable in scope uses -/
theorem EnvRel.skip {Γ h ρ η} {w : Value} {i : Nat} (hr : EnvRel E q Γ h ρ η) (ha : Avoids Γ h i) :
    EnvRel E q Γ h ρ ((i, w) :: η) := by
  intro b hb
  obtain ⟨v, v', h1, h2, h3⟩ := hr b hb
  exact ⟨v, v', h1, by rw [lookup_cons_ne _ _ (ha b hb)]; exact h2, h3⟩

theorem EnvRel.skipMany {Γ h ρ η} {e : AxCut.Named.Env} (hr : EnvRel E q Γ h ρ η)
    (ha : ∀ i ∈ e.map (·.1), Avoids Γ h i) : EnvRel E q Γ h ρ (e ++ η) := by
  induction e with
  | nil => exact hr
  | cons p e ih =>
    obtain ⟨i, w⟩ := p
    exact EnvRel.skip (ih (fun j hj => ha j (by simp [hj]))) (ha i (by simp))

theorem Avoids_cons {Γ h} {b0 : Core.Binding} {i j : Nat} (ha : Avoids Γ h j) (hij : i ≠ j) :
    Avoids (b0 :: Γ) (h.set b0.var i) j := by
  intro b hb
  rcases occFs_cons hb with rfl | ⟨hne, hb'⟩
  · rw [HMap.set_self]; exact hij
  · rw [HMap.set_ne _ _ (var_ne_of_id_ne hne)]; exact ha b hb'

theorem Avoids_setMany {Γ h} {j : Nat} (ha : Avoids Γ h j) : ∀ (bs : Core.Ctx) (is : List Nat),
    bs.length = is.length → j ∉ is → Avoids (bs ++ Γ) (h.setMany bs is) j
  | [], _, _, _ => by simpa [HMap.setMany] using ha
  | _ :: _, [], hl, _ => by simp at hl
  | b0 :: bs, i :: is, hl, hj => by
    simp only [List.mem_cons, not_or] at hj
    exact Avoids_cons (Avoids_setMany ha bs is (by simpa using hl) hj.2) (fun e => hj.1 e.symm)

theorem VRelL.length {ctx vs vs'} (h : VRelL E q ctx vs vs') : vs.length = ctx.length ∧ vs'.length = ctx.length := by
  induction ctx generalizing vs vs' with
  | nil => cases h; simp
  | cons b bs ih =>
    cases h with
    | cons hv hl => have := ih hl; simp [this.1, this.2]

/-- the relation on argument lists only depends on chiralities and types -/
theorem VRelL.congr : ∀ {a b : Core.Ctx} {vs vs'}, sigMatch a b = true → VRelL E q a vs vs' → VRelL E q b vs vs'
  | [], [], _, _, _, h => by cases h; exact .nil
  | [], _ :: _, _, _, hm, _ => by simp [sigMatch] at hm
  | _ :: _, [], _, _, hm, _ => by simp [sigMatch] at hm
  | x :: xs, y :: ys, _, _, hm, h => by
    simp only [sigMatch, Bool.and_eq_true, beq_iff_eq] at hm
    cases h with
    | cons hv hl =>
      refine .cons ?_ (VRelL.congr hm.2 hl)
      rw [← hm.1.1, ← hm.1.2]; exact hv

theorem sigMatch_symm : ∀ {a b : Core.Ctx}, sigMatch a b = true → sigMatch b a = true
  | [], [], _ => rfl
  | [], _ :: _, h => by simp [sigMatch] at h
  | _ :: _, [], h => by simp [sigMatch] at h
  | x :: xs, y :: ys, h => by
    simp only [sigMatch, Bool.and_eq_true, beq_iff_eq] at h ⊢
    exact ⟨⟨h.1.1.symm, h.1.2.symm⟩, sigMatch_symm h.2⟩

theorem sigMatch_length : ∀ {a b : Core.Ctx}, sigMatch a b = true → a.length = b.length
  | [], [], _ => rfl
  | [], _ :: _, h => by simp [sigMatch] at h
  | _ :: _, [], h => by simp [sigMatch] at h
  | x :: xs, y :: ys, h => by
    simp only [sigMatch, Bool.and_eq_true] at h
    simp [sigMatch_length h.2]

/-- values of an argument list on both sides -/
theorem EnvRel.argVals {Γ h ρ η} (hr : EnvRel E q Γ h ρ η) : ∀ (args : Core.Ctx) (args' : AxCut.Ctx),
    (∀ b ∈ args, occFs Γ b = true) → axIds args' = args.map (fun b => h b.var) →
    ∃ vs vs', Core.Env.lookupAll ρ args = .ok vs ∧ lookupAll η args' = some vs' ∧ VRelL E q args vs vs'
  | [], [], _, _ => ⟨[], [], rfl, rfl, .nil⟩
  | [], _ :: _, _, h => by simp [axIds] at h
  | _ :: _, [], _, h => by simp [axIds] at h
  | b :: bs, b' :: bs', hocc, hids => by
    simp only [axIds, List.map_cons, List.cons.injEq] at hids
    obtain ⟨v, v', h1, h2, h3⟩ := hr b (hocc b (by simp))
    obtain ⟨vs, vs', h4, h5, h6⟩ := EnvRel.argVals hr bs bs' (fun b hb => hocc b (by simp [hb])) hids.2
    refine ⟨v :: vs, v' :: vs', by simp [Core.Env.lookupAll, h1, h4], ?_, .cons h3 h6⟩
    simp [AxCut.Named.lookupAll, hids.1, h2, h5]

/-- a parameter list is bound on both sides (clause entry, `call`) -/
theorem EnvRel.bind {Γ h ρ η} (hr : EnvRel E q Γ h ρ η) : ∀ (ctx : Core.Ctx) (ctx' : AxCut.Ctx) (vs vs'),
    VRelL E q ctx vs vs' → ctx'.length = ctx.length → (axIds ctx').Nodup →
    (∀ i ∈ axIds ctx', Avoids Γ h i) →
    ∃ ρ' e, Core.Env.bind ρ ctx vs = .ok ρ' ∧ bindParams ctx' vs' = some e ∧
      EnvRel E q (ctx ++ Γ) (h.setMany ctx (axIds ctx')) ρ' (e ++ η)
  | [], [], _, _, hl, _, _, _ => by cases hl; exact ⟨ρ, [], rfl, rfl, by simpa [HMap.setMany] using hr⟩
  | [], _ :: _, _, _, _, h, _, _ => by simp at h
  | _ :: _, [], _, _, _, h, _, _ => by simp at h
  | b :: bs, b' :: bs', _, _, hl, hlen, hnd, hav => by
    cases hl with
    | @cons _ _ v vs v' vs' hv hl =>
      simp only [axIds, List.map_cons, List.nodup_cons] at hnd
      obtain ⟨ρ', e, h1, h2, h3⟩ := EnvRel.bind hr bs bs' _ _ hl (by simpa using hlen) hnd.2
        (fun i hi => hav i (by simp [axIds] at hi ⊢; exact .inr hi))
      refine ⟨(b.var, v) :: ρ', (b'.var.id, v') :: e, by simp [Core.Env.bind, h1], by simp [bindParams, h2], ?_⟩
      have hav' : Avoids (bs ++ Γ) (h.setMany bs (axIds bs')) b'.var.id :=
        Avoids_setMany (hav _ (by simp [axIds])) bs (axIds bs') (by simp [axIds]; simpa using hlen.symm) hnd.1
      exact EnvRel.cons h3 hv hav'

/-- a parameter list is bound on the Core side to values held by existing AxCut variables (known cuts) -/
theorem EnvRel.aliasMany {Γ h ρ η} (hr : EnvRel E q Γ h ρ η) : ∀ (ctx : Core.Ctx) (args' : AxCut.Ctx) (vs vs'),
    VRelL E q ctx vs vs' → lookupAll η args' = some vs' →
    ∃ ρ', Core.Env.bind ρ ctx vs = .ok ρ' ∧ EnvRel E q (ctx ++ Γ) (h.setMany ctx (axIds args')) ρ' η
  | [], _, _, _, hl, _ => by cases hl; exact ⟨ρ, rfl, by simpa [HMap.setMany] using hr⟩
  | b :: bs, [], _, _, hl, hla => by
    cases hl with
    | cons hv hl => simp [AxCut.Named.lookupAll] at hla
  | b :: bs, b' :: bs', _, _, hl, hla => by
    cases hl with
    | @cons _ _ v vs v' vs' hv hl =>
      simp only [AxCut.Named.lookupAll] at hla
      split at hla
      · rename_i w ws hw hws
        simp only [Option.some.injEq, List.cons.injEq] at hla
        obtain ⟨rfl, rfl⟩ := hla
        obtain ⟨ρ', h1, h2⟩ := EnvRel.aliasMany hr bs bs' _ _ hl hws
        exact ⟨(b.var, v) :: ρ', by simp [Core.Env.bind, h1], EnvRel.alias h2 hv hw⟩
      · cases hla

end env

end Scc.Core2AxCut.Sem
