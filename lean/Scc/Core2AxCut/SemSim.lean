/-
  Scc.Core2AxCut.SemSim — proof file for the semantic part of C04: the step-wise forward simulation.
  From related states (`StRel` of `SemRel.lean`) one step of the focused-Core machine is matched by
  zero or more steps of the named AxCut machine leading to related states; final states correspond, the
  reason of getting stuck included (`Strong.SimGoalS`; the two machines name their arithmetic faults
  alike: `evalOp_err`).  Here: how related values meet (`applyCns`, `applyPrd`, `applyCnsInt`, `clauseEnter`,
  `critEnter`) and the rules of the translation judgment `Tr` for `ifc`, `ifz`, `print`, `call`, `exit`; the rules
  for cuts, and the induction `sim_tr`, are in `SemSimCut.lean`.
-/
import Scc.Core2AxCut.SemLemmas

namespace Scc.Core2AxCut.Sem

open Scc.AxCut.Named (Value lookup lookupAll bindParams findDef State step)
open Strong (ResMatchS SimGoalS)

local notation "sid" => shrinkIdentifier

variable {E : TEnv} {q : AxCut.Prog} {p : Core.FsProg}

theorem goal_next {cs : Core.FsState} {as : State} {cs' : Core.FsState} (k : Nat) (as' : State)
    (h1 : Core.fsStep p cs = .next cs') (h2 : Steps q k as as') (h3 : StRel E q cs' as')
    (h4 : k = 0 → sizeStmt cs'.stmt < sizeStmt cs.stmt) : SimGoalS p q (StRel E q) cs as := by
  simp only [SimGoalS, h1]
  exact ⟨k, as', h2, h3, h4⟩

theorem goal_final {cs : Core.FsState} {as : State} {r : Core.Res} (k : Nat) (as' : State)
    (r' : AxCut.Named.Res) (h1 : Core.fsStep p cs = .final r) (h2 : Steps q k as as')
    (h3 : step q as' = .halt cs.out r') (h4 : ResMatchS r r') : SimGoalS p q (StRel E q) cs as := by
  simp only [SimGoalS, h1]
  exact ⟨k, as', r', h2, h3, h4⟩

theorem stRel_mk {Γ h s t ρ η out} (h1 : Tr E q Γ h s t) (h2 : EnvRel E q Γ h ρ η) :
    StRel E q ⟨s, ρ, out⟩ ⟨t, η, out⟩ := ⟨Γ, h, h1, h2, rfl⟩

theorem VRel.inv_int {v v'} (h : VRel E q .prd .i64 v v') : ∃ n, v = .int n ∧ v' = .int n := by
  cases h with
  | int n => exact ⟨n, rfl, rfl⟩
  | con _ hd => simp [declOf] at hd
  | cocaseClo _ _ _ _ _ _ hd => simp [declOf] at hd
  | thunk _ _ _ _ _ _ hd => simp [declOf] at hd

theorem EnvRel.int {Γ h ρ η a} (hr : EnvRel E q Γ h ρ η) (ha : occFs Γ ⟨a, .prd, .i64⟩ = true) :
    ∃ n, Core.Env.lookupInt ρ a = .ok n ∧ Core.Env.lookup ρ a = .ok (.int n) ∧ lookup η (h a) = some (.int n) := by
  obtain ⟨v, v', h1, h2, h3⟩ := hr _ ha
  obtain ⟨n, rfl, rfl⟩ := h3.inv_int
  exact ⟨n, by simp [Core.Env.lookupInt, h1], h1, h2⟩

theorem find_mem {d : Core.TypeDecl} {K : Core.Ident} {sig : Core.XtorSig}
    (h : d.xtors.find? (fun x => x.name == K) = some sig) : sig ∈ d.xtors ∧ sig.name = K := by
  refine ⟨List.mem_of_find?_eq_some h, ?_⟩
  have := List.find?_some h
  exact eq_of_beq this

/-- data producer values are constructor objects -/
theorem VRel.inv_con {T d v v'} (h : VRel E q .prd T v v') (hc : isCodata E.codata T = false)
    (hd : declOf E T = some d) : ∃ K sig vs vs', v = .con K vs ∧ v' = .obj (sid K) vs' ∧
      d.xtors.find? (fun x => x.name == K) = some sig ∧ VRelL E q sig.args vs vs' := by
  cases h with
  | int n => simp [declOf] at hd
  | con _ hd2 hs hl => rw [hd] at hd2; cases hd2; exact ⟨_, _, _, _, rfl, rfl, hs, hl⟩
  | cocaseClo _ _ _ _ _ hc2 => rw [hc] at hc2; cases hc2
  | thunk _ _ _ _ _ hc2 => rw [hc] at hc2; cases hc2

/-- codata consumer values are destructor objects -/
theorem VRel.inv_dtor {T v v'} (h : VRel E q .cns T v v') (hc : isCodata E.codata T = true) :
    ∃ d K sig vs vs', v = .dtor K vs ∧ v' = .obj (sid K) vs' ∧ declOf E T = some d ∧
      d.xtors.find? (fun x => x.name == K) = some sig ∧ VRelL E q sig.args vs vs' := by
  cases h with
  | dtor _ hd2 hs hl => exact ⟨_, _, _, _, _, rfl, rfl, hd2, hs, hl⟩
  | caseClo _ _ _ _ _ hc2 => rw [hc] at hc2; cases hc2
  | mutildeInt _ _ _ _ _ => simp [isCodata] at hc
  | mutildeData _ _ _ _ _ hc2 => rw [hc] at hc2; cases hc2

/-- data consumer values are closures -/
theorem VRel.cns_clo {T v v'} (h : VRel E q .cns T v v') (hc : isCodata E.codata T = false) :
    ∃ η' cls, v' = .clo η' cls := by
  cases h with
  | dtor hc2 => rw [hc] at hc2; cases hc2
  | caseClo _ _ _ _ _ _ => exact ⟨_, _, rfl⟩
  | mutildeInt _ _ _ _ _ => exact ⟨_, _, rfl⟩
  | mutildeData _ _ _ _ _ _ => exact ⟨_, _, rfl⟩

/-- codata producer values are closures -/
theorem VRel.prd_clo {T v v'} (h : VRel E q .prd T v v') (hc : isCodata E.codata T = true) :
    ∃ η' cls, v' = .clo η' cls := by
  cases h with
  | int n => simp [isCodata] at hc
  | con hc2 => rw [hc] at hc2; cases hc2
  | cocaseClo _ _ _ _ _ _ => exact ⟨_, _, rfl⟩
  | thunk _ _ _ _ _ _ => exact ⟨_, _, rfl⟩

/-- skolemised environments of closure values give back `EnvRel` -/
theorem envRel_of_skolem {Γ h ρ η} {val : Core.Binding → Core.FVal} {val' : Core.Binding → Value}
    (h1 : ∀ b, occFs Γ b = true → Core.Env.lookup ρ b.var = .ok (val b))
    (h2 : ∀ b, occFs Γ b = true → lookup η (h b.var) = some (val' b))
    (h3 : ∀ b, occFs Γ b = true → VRel E q b.chi b.ty (val b) (val' b)) : EnvRel E q Γ h ρ η :=
  fun b hb => ⟨val b, val' b, h1 b hb, h2 b hb, h3 b hb⟩

theorem skolem_of_envRel {Γ h ρ η} (hr : EnvRel E q Γ h ρ η) :
    ∃ (val : Core.Binding → Core.FVal) (val' : Core.Binding → Value),
      (∀ b, occFs Γ b = true → Core.Env.lookup ρ b.var = .ok (val b)) ∧
      (∀ b, occFs Γ b = true → lookup η (h b.var) = some (val' b)) ∧
      (∀ b, occFs Γ b = true → VRel E q b.chi b.ty (val b) (val' b)) := by
  have : ∀ b, ∃ vv : Core.FVal × Value, occFs Γ b = true →
      Core.Env.lookup ρ b.var = .ok vv.1 ∧ lookup η (h b.var) = some vv.2 ∧ VRel E q b.chi b.ty vv.1 vv.2 := by
    intro b
    by_cases hb : occFs Γ b = true
    · obtain ⟨v, v', h1, h2, h3⟩ := hr b hb
      exact ⟨(v, v'), fun _ => ⟨h1, h2, h3⟩⟩
    · exact ⟨(.halt, .int 0), fun h => absurd h hb⟩
  obtain ⟨f, hf⟩ := Classical.axiomOfChoice this
  exact ⟨fun b => (f b).1, fun b => (f b).2, fun b hb => (hf b hb).1, fun b hb => (hf b hb).2.1,
    fun b hb => (hf b hb).2.2⟩

/-- translated clauses: the selected clause on both sides, parameters bound -/
theorem clauseEnter {Γ h ρ' η'} {d : Core.TypeDecl} {cl cls K sig vs vs'} (hr : EnvRel E q Γ h ρ' η')
    (hshape : ClausesShape Γ h d.xtors cl cls) (htr : ClausesTr E q Γ h cl cls)
    (hsig : d.xtors.find? (fun x => x.name == K) = some sig) (hvs : VRelL E q sig.args vs vs') :
    ∃ ctx body ctx' body' ρ'' e, cl.find K = some (ctx, body) ∧
      AxCut.Named.findClause (sid K) cls = some (ctx', body') ∧
      Core.Env.bind ρ' ctx vs = .ok ρ'' ∧ bindParams ctx' vs' = some e ∧
      StRel E q ⟨body, ρ'', out⟩ ⟨body', e ++ η', out⟩ := by
  obtain ⟨ctx, body, ctx', body', h1, h2, h3, h4, h5, h6⟩ := hshape K sig hsig
  obtain ⟨ρ'', e, h7, h8, h9⟩ := EnvRel.bind hr ctx ctx' vs vs' (VRelL.congr (sigMatch_symm h2) hvs) h4 h5 h6
  exact ⟨ctx, body, ctx', body', ρ'', e, h1, h3, h7, h8, stRel_mk (htr _ _ _ _ _ h1 h3 h4) h9⟩

/-- eta-expanded clauses: `invoke` enters the clause, the `let` rebuilds the object, then the
    continuation runs with the object bound -/
theorem critEnter {Γ h ρ' η'} {d : Core.TypeDecl} {cls K sig vs vs' bx s val out}
    (hr : EnvRel E q Γ h ρ' η') (hshape : CritShape Γ h d.xtors cls) (htr : CritTr E q Γ h bx s cls)
    (hsig : d.xtors.find? (fun x => x.name == K) = some sig) (hvs : VRelL E q sig.args vs vs')
    (hv : VRel E q bx.chi bx.ty val (.obj (sid K) vs'))
    {v ty args' η} (hl : lookup η v.id = some (.clo η' cls)) (ha : lookupAll η args' = some vs') :
    ∃ as', Steps q 2 ⟨.invoke v (sid K) ty args', η, out⟩ as' ∧ StRel E q ⟨s, (bx.var, val) :: ρ', out⟩ as' := by
  obtain ⟨envC, w, ty', envC', t, fv, h1, h2, h3, h4, h5, h6⟩ := hshape K sig hsig
  obtain ⟨e, he⟩ := bindParams_some envC vs' (by rw [h2, hvs.length.2])
  have hkeys := bindParams_keys he
  have s1 := step_invoke q (ty := ty) (out := out) hl h1 ha he
  have hla : lookupAll (e ++ η') envC' = some vs' := by
    have := lookupAll_bindParams envC envC' vs' e η' he h3 h4 [] (by simp)
    simpa using this
  have s2 := step_let q (v := w) (ty := ty') (tag := sid K) (next := t) (fv := fv) (out := out) hla
  refine ⟨_, .cons s1 (.cons s2 (.refl _)), ?_⟩
  refine stRel_mk (htr _ _ _ _ _ _ _ _ h1) ?_
  exact EnvRel.cons (EnvRel.skipMany hr (by rw [hkeys]; exact h5)) hv h6

/-- a constructor meets a data consumer value -/
theorem applyCns {T d cv η' cls K sig vs vs'} (hv : VRel E q .cns T cv (.clo η' cls))
    (hc : isCodata E.codata T = false) (hd : declOf E T = some d)
    (hsig : d.xtors.find? (fun x => x.name == K) = some sig) (hvs : VRelL E q sig.args vs vs')
    (st : Core.FsState) :
    ∃ cs', Core.FsState.pass st (.con K vs) cv = .next cs' ∧
      ∀ v ty args' η, lookup η v.id = some (.clo η' cls) → lookupAll η args' = some vs' →
        ∃ k as', Steps q (k + 1) ⟨.invoke v (sid K) ty args', η, st.out⟩ as' ∧ StRel E q cs' as' := by
  cases hv with
  | caseClo val val' h1 h2 h3 hc2 hd2 hshape htr =>
    rw [hd] at hd2; cases hd2
    obtain ⟨ctx, body, ctx', body', ρ'', e, f1, f2, f3, f4, f5⟩ :=
      clauseEnter (out := st.out) (envRel_of_skolem h1 h2 h3) hshape htr hsig hvs
    refine ⟨{ st with stmt := body, env := ρ'' }, by simp [Core.FsState.pass, Core.FsState.select, f1, f3, Core.FsState.goto],
      ?_⟩
    intro v ty args' η hl ha
    exact ⟨0, _, .one (step_invoke q hl f2 ha f4), f5⟩
  | mutildeInt _ _ _ _ _ => simp [declOf] at hd
  | mutildeData val val' h1 h2 h3 hc2 hd2 hshape htr =>
    rw [hd] at hd2; cases hd2
    rename_i Γ h ρ' x s
    refine ⟨{ st with stmt := s, env := (x, .con K vs) :: ρ' }, by simp [Core.FsState.pass, Core.FsState.goto],
      ?_⟩
    intro v ty args' η hl ha
    obtain ⟨as', hs, hr⟩ := critEnter (out := st.out) (bx := ⟨x, .prd, T⟩) (envRel_of_skolem h1 h2 h3) hshape htr hsig hvs
      (VRel.con hc hd hsig hvs) (ty := ty) hl ha
    exact ⟨1, as', hs, hr⟩

/-- a destructor meets a codata producer value -/
theorem applyPrd {T d pv η' cls K sig vs vs'} (hv : VRel E q .prd T pv (.clo η' cls))
    (hc : isCodata E.codata T = true) (hd : declOf E T = some d)
    (hsig : d.xtors.find? (fun x => x.name == K) = some sig) (hvs : VRelL E q sig.args vs vs')
    (st : Core.FsState) :
    ∃ cs', Core.FsState.invoke st pv K vs = .next cs' ∧
      ∀ v ty args' η, lookup η v.id = some (.clo η' cls) → lookupAll η args' = some vs' →
        ∃ k as', Steps q (k + 1) ⟨.invoke v (sid K) ty args', η, st.out⟩ as' ∧ StRel E q cs' as' := by
  cases hv with
  | cocaseClo val val' h1 h2 h3 hc2 hd2 hshape htr =>
    rw [hd] at hd2; cases hd2
    obtain ⟨ctx, body, ctx', body', ρ'', e, f1, f2, f3, f4, f5⟩ :=
      clauseEnter (out := st.out) (envRel_of_skolem h1 h2 h3) hshape htr hsig hvs
    refine ⟨{ st with stmt := body, env := ρ'' }, by simp [Core.FsState.invoke, Core.FsState.select, f1, f3, Core.FsState.goto],
      ?_⟩
    intro v ty args' η hl ha
    exact ⟨0, _, .one (step_invoke q hl f2 ha f4), f5⟩
  | thunk val val' h1 h2 h3 hc2 hd2 hshape htr =>
    rw [hd] at hd2; cases hd2
    rename_i Γ h ρ' a s
    refine ⟨{ st with stmt := s, env := (a, .dtor K vs) :: ρ' }, by simp [Core.FsState.invoke, Core.FsState.goto],
      ?_⟩
    intro v ty args' η hl ha
    obtain ⟨as', hs, hr⟩ := critEnter (out := st.out) (bx := ⟨a, .cns, T⟩) (envRel_of_skolem h1 h2 h3) hshape htr hsig hvs
      (VRel.dtor hc hd hsig hvs) (ty := ty) hl ha
    exact ⟨1, as', hs, hr⟩

/-- an integer meets an integer continuation -/
theorem applyCnsInt {cv v'} (hv : VRel E q .cns .i64 cv v') (n : BitVec 64) (st : Core.FsState) :
    ∃ cs' η' cls, v' = .clo η' cls ∧ Core.FsState.pass st (.int n) cv = .next cs' ∧
      ∀ v ty args' η, lookup η v.id = some (.clo η' cls) → lookupAll η args' = some [.int n] →
        ∃ as', Steps q 1 ⟨.invoke v (sid retName) ty args', η, st.out⟩ as' ∧ StRel E q cs' as' := by
  cases hv with
  | dtor hc => simp [isCodata] at hc
  | caseClo _ _ _ _ _ _ hd => simp [declOf] at hd
  | mutildeData _ _ _ _ _ _ hd => simp [declOf] at hd
  | mutildeInt val val' h1 h2 h3 hf hav htr =>
    rename_i Γ h ρ' η' x s cls bx t
    refine ⟨{ st with stmt := s, env := (x, .int n) :: ρ' }, η', cls, rfl,
      by simp [Core.FsState.pass, Core.FsState.goto], ?_⟩
    intro v ty args' η hl ha
    refine ⟨_, .one (step_invoke q (e := [(bx.var.id, .int n)]) hl hf ha (by simp [bindParams])), ?_⟩
    exact stRel_mk htr (EnvRel.cons (b0 := ⟨x, .prd, .i64⟩) (envRel_of_skolem h1 h2 h3) (VRel.int n) hav)

theorem sigMatch_trans : ∀ {a b c : Core.Ctx}, sigMatch a b = true → sigMatch b c = true → sigMatch a c = true
  | [], [], [], _, _ => rfl
  | [], [], _ :: _, _, h => by simp [sigMatch] at h
  | [], _ :: _, _, h, _ => by simp [sigMatch] at h
  | _ :: _, [], _, h, _ => by simp [sigMatch] at h
  | _ :: _, _ :: _, [], _, h => by simp [sigMatch] at h
  | x :: xs, y :: ys, z :: zs, h1, h2 => by
    simp only [sigMatch, Bool.and_eq_true, beq_iff_eq] at h1 h2 ⊢
    exact ⟨⟨h1.1.1.trans h2.1.1, h1.1.2.trans h2.1.2⟩, sigMatch_trans h1.2 h2.2⟩

theorem find_size {K ctx body} : ∀ (cl : Core.FsClauses), cl.find K = some (ctx, body) →
    sizeStmt body < sizeClauses cl
  | .nil, h => by simp [Core.FsClauses.find] at h
  | .cons x c b r, h => by
    simp only [Core.FsClauses.find] at h
    split at h
    · simp at h; obtain ⟨_, rfl⟩ := h; simp [sizeClauses]; omega
    · have := find_size r h; simp [sizeClauses]; omega

/-- an AxCut argument list with prescribed ids (names, kinds and types are irrelevant to the machine) -/
def dummyCtx (is : List Nat) : AxCut.Ctx := is.map fun i => ⟨⟨"", i⟩, .ext, .i64⟩

theorem axIds_dummyCtx (is : List Nat) : axIds (dummyCtx is) = is := by
  simp [axIds, dummyCtx, Function.comp_def]

theorem setMany_hId : ∀ (ctx : Core.Ctx), hId.setMany ctx (ctx.map fun b => b.var.id) = hId
  | [] => rfl
  | b :: bs => by
    simp only [List.map_cons, HMap.setMany, setMany_hId bs]
    funext y
    simp only [HMap.set, hId]
    split
    · rename_i e; rw [e]
    · rfl

theorem envRel_nil : EnvRel E q [] hId [] [] := by
  intro b hb; simp [occFs, lookupFs] at hb

theorem findSig_defs {f : Core.Ident} {ps} : ∀ (defs : List Core.FsDef),
    findSig (defs.map fun d => (d.name, d.ctx)) f = some ps →
    ∃ d, defs.find? (fun d => d.name = f) = some d ∧ d.ctx = ps
  | [], h => by simp [findSig] at h
  | d :: ds, h => by
    simp only [findSig, List.map_cons, List.find?_cons] at h
    by_cases hn : d.name = f
    · simp only [hn, beq_self_eq_true] at h
      simp only [Option.some.injEq] at h
      exact ⟨d, by simp [hn], h⟩
    · have : (d.name == f) = false := by simpa using hn
      simp only [this] at h
      obtain ⟨d', h1, h2⟩ := findSig_defs ds (by simpa [findSig] using h)
      exact ⟨d', by simp [hn, h1], h2⟩

theorem prepend_step {cs : Core.FsState} {as as1 : State} (h : step q as = .next as1)
    (g : SimGoalS p q (StRel E q) cs as1) : SimGoalS p q (StRel E q) cs as := by
  simp only [SimGoalS] at g ⊢
  split
  · rename_i cs' hs
    simp only [hs] at g
    obtain ⟨k, as', h1, h2, _⟩ := g
    exact ⟨k + 1, as', .cons h h1, h2, by omega⟩
  · rename_i r hs
    simp only [hs] at g
    obtain ⟨k, as', r', h1, h2, h3⟩ := g
    exact ⟨k + 1, as', r', .cons h h1, h2, h3⟩

section rules
variable (hp : ProgRel E q p)
include hp

omit hp in
theorem sim_exit {Γ h a v ρ η out} (ha : occFs Γ ⟨a, .prd, .i64⟩ = true) (hv : v.id = h a)
    (hr : EnvRel E q Γ h ρ η) : SimGoalS p q (StRel E q) ⟨.exit a, ρ, out⟩ ⟨.exit v, η, out⟩ := by
  obtain ⟨n, h1, _, h2⟩ := hr.int ha
  have hs : Core.fsStep p ⟨.exit a, ρ, out⟩ = .final (.done n) := by simp [Core.fsStep, h1]
  exact goal_final 0 _ (.done n) hs (.refl _) (step_exit q (by rw [hv]; exact h2)) rfl

omit hp in
theorem sim_print {Γ h nl a n v t fv ρ η out} (ha : occFs Γ ⟨a, .prd, .i64⟩ = true) (hv : v.id = h a)
    (ht : Tr E q Γ h n t) (hr : EnvRel E q Γ h ρ η) :
    SimGoalS p q (StRel E q) ⟨.print nl a n, ρ, out⟩ ⟨.print nl v t fv, η, out⟩ := by
  obtain ⟨x, h1, _, h2⟩ := hr.int ha
  have hs : Core.fsStep p ⟨.print nl a n, ρ, out⟩ = .next ⟨n, ρ, out ++ [(nl, x)]⟩ := by
    simp [Core.fsStep, h1]
  exact goal_next 1 _ hs (.one (step_print q (by rw [hv]; exact h2))) (stRel_mk ht hr) (by omega)

omit hp in
theorem sim_ifz {Γ h srt a t e v t' e' ρ η out} (ha : occFs Γ ⟨a, .prd, .i64⟩ = true) (hv : v.id = h a)
    (ht : Tr E q Γ h t t') (he : Tr E q Γ h e e') (hr : EnvRel E q Γ h ρ η) :
    SimGoalS p q (StRel E q) ⟨.ifc srt a none t e, ρ, out⟩ ⟨.ifc (shrinkIfSort srt) v none t' e', η, out⟩ := by
  obtain ⟨x, h1, _, h2⟩ := hr.int ha
  have hs : Core.fsStep p ⟨.ifc srt a none t e, ρ, out⟩ =
      .next ⟨if Core.compare srt x 0 then t else e, ρ, out⟩ := by
    simp [Core.fsStep, h1, Core.FsState.goto]
  refine goal_next 1 _ hs (.one (step_ifz q (by rw [hv]; exact h2))) ?_ (by omega)
  rw [evalCmp_eq]
  by_cases hc : Core.compare srt x 0 = true
  · simp only [hc, if_true]; exact stRel_mk ht hr
  · simp only [hc]; exact stRel_mk he hr

omit hp in
theorem sim_ifc {Γ h srt a b t e v w t' e' ρ η out} (ha : occFs Γ ⟨a, .prd, .i64⟩ = true) (hv : v.id = h a)
    (hb : occFs Γ ⟨b, .prd, .i64⟩ = true) (hw : w.id = h b)
    (ht : Tr E q Γ h t t') (he : Tr E q Γ h e e') (hr : EnvRel E q Γ h ρ η) :
    SimGoalS p q (StRel E q) ⟨.ifc srt a (some b) t e, ρ, out⟩
      ⟨.ifc (shrinkIfSort srt) v (some w) t' e', η, out⟩ := by
  obtain ⟨x, h1, _, h2⟩ := hr.int ha
  obtain ⟨y, h3, _, h4⟩ := hr.int hb
  have hs : Core.fsStep p ⟨.ifc srt a (some b) t e, ρ, out⟩ =
      .next ⟨if Core.compare srt x y then t else e, ρ, out⟩ := by
    simp [Core.fsStep, h1, h3, Core.FsState.goto]
  refine goal_next 1 _ hs (.one (step_ifc q (by rw [hv]; exact h2) (by rw [hw]; exact h4))) ?_ (by omega)
  rw [evalCmp_eq]
  by_cases hc : Core.compare srt x y = true
  · simp only [hc, if_true]; exact stRel_mk ht hr
  · simp only [hc]; exact stRel_mk he hr

theorem sim_call {Γ h f args ps args' ρ η out} (hs : findSig E.sigs f = some ps)
    (hm : sigMatch args ps = true) (hocc : ∀ b ∈ args, occFs Γ b = true)
    (hids : axIds args' = args.map (fun b => h b.var)) (hr : EnvRel E q Γ h ρ η) :
    SimGoalS p q (StRel E q) ⟨.call f args, ρ, out⟩ ⟨.call (sid f) args', η, out⟩ := by
  obtain ⟨hE, hdefs⟩ := hp
  subst hE
  obtain ⟨d, hd, rfl⟩ := findSig_defs p.defs hs
  obtain ⟨d', hd', hctx, hnd, htr⟩ := hdefs f d hd
  obtain ⟨vs, vs', h1, h2, h3⟩ := hr.argVals args args' hocc hids
  obtain ⟨ρ', e, h4, h5, h6⟩ := EnvRel.bind (E := progTEnv p) (q := q) envRel_nil d.ctx d'.ctx vs vs'
    (VRelL.congr hm h3) (by have := congrArg List.length hctx; simpa [axIds] using this)
    (by rw [hctx]; exact hnd) (by intro i _ b hb; simp [occFs, lookupFs] at hb)
  rw [hctx, setMany_hId] at h6
  simp only [List.append_nil] at h6
  have hs : Core.fsStep p ⟨.call f args, ρ, out⟩ = .next ⟨d.body, ρ', out⟩ := by
    simp [Core.fsStep, hd, h1, h4, Core.FsState.goto]
  exact goal_next 1 _ hs (.one (step_call q hd' h2 h5)) (stRel_mk htr h6) (by omega)

end rules

end Scc.Core2AxCut.Sem
