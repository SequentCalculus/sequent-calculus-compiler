/-
  Scc.Core2AxCut.TypedDefs — proof file for the typing part of C04 / C12 (shrinking preserves typing):
  ONE declarative typing judgment `TW` on non-linear AxCut that implies both target judgments of the link
  `C12_link_shrink`:
    * `TW … s Γ → NodupIds Γ → wtStmtB … Γ s = true`      (the checker of `Scc/AxCut/TypingNamed.lean`:
                                                           first-hit lookup, names compared), and
    * `TW … s Γ → (Γ, Γ' have the same members) → WT … s Γ'` (`Scc/AxCut/WfNonLinear.lean`: the precondition
                                                           of C05: fresh binders `≤ M`, no `subst`).
  `TW T S M s Γ`: Γ newest binding first (as in `wtStmtB`), a variable occurrence is well-typed if the
  occurrence itself (identifier with its NAME, kind, type) is a member of Γ; every binder is fresh for Γ
  and `≤ M`; clause parameters are pairwise distinct; no `subst`, no closure-environment annotation.
  Also: `TW` is closed under the id-substitution `axSubstStmt σ` together with weakening (`TW.subst`).
-/
import Scc.AxCut.WfNonLinear
import Scc.AxCut.TypingNamedProofs
import Scc.Core2AxCut.SemSubst

namespace Scc.Core2AxCut.Typed

open Scc.AxCut
open Scc.Core2AxCut.Sem (axBids axBidsC axIds)

def ArgsMem (Γ args : AxCut.Ctx) : Prop := ∀ a ∈ args, a ∈ Γ

mutual
  /-- the typing judgment established for every output of `shrink` -/
  def TW (T : List TypeDecl) (S : Sigs) (M : Nat) : Stmt → AxCut.Ctx → Prop
    | .subst _ _, _ => False
    | .call l args, Γ =>
      ∃ params, AxCut.findSig S l = some params ∧ args.chiTys = params.chiTys ∧ ArgsMem Γ args
    | .letS x ty tag args next _, Γ =>
      (∃ sig, lookupXtor T ty tag = some sig ∧ args.chiTys = sig.chiTys) ∧ ArgsMem Γ args ∧
        FreshBinder M Γ x.id ∧ TW T S M next (⟨x, .prd, ty⟩ :: Γ)
    | .switch x ty cs _, Γ =>
      (⟨x, .prd, ty⟩ : Binding) ∈ Γ ∧
        (∃ d, lookupTypeDecl T ty = some d ∧ ClausesMatch d.xtors cs) ∧ TWC T S M cs Γ
    | .create x ty env cs next _ _, Γ =>
      env = none ∧ (∃ d, lookupTypeDecl T ty = some d ∧ ClausesMatch d.xtors cs) ∧ TWC T S M cs Γ ∧
        FreshBinder M Γ x.id ∧ TW T S M next (⟨x, .cns, ty⟩ :: Γ)
    | .invoke x tag ty args, Γ =>
      (⟨x, .cns, ty⟩ : Binding) ∈ Γ ∧
        (∃ sig, lookupXtor T ty tag = some sig ∧ args.chiTys = sig.chiTys) ∧ ArgsMem Γ args
    | .lit x _ next _, Γ => FreshBinder M Γ x.id ∧ TW T S M next (⟨x, .ext, .i64⟩ :: Γ)
    | .op x a _ b next _, Γ =>
      (⟨a, .ext, .i64⟩ : Binding) ∈ Γ ∧ (⟨b, .ext, .i64⟩ : Binding) ∈ Γ ∧ FreshBinder M Γ x.id ∧
        TW T S M next (⟨x, .ext, .i64⟩ :: Γ)
    | .print _ a next _, Γ => (⟨a, .ext, .i64⟩ : Binding) ∈ Γ ∧ TW T S M next Γ
    | .ifc _ a b t e, Γ =>
      (⟨a, .ext, .i64⟩ : Binding) ∈ Γ ∧ (∀ b', b = some b' → (⟨b', .ext, .i64⟩ : Binding) ∈ Γ) ∧
        TW T S M t Γ ∧ TW T S M e Γ
    | .exit x, Γ => (⟨x, .ext, .i64⟩ : Binding) ∈ Γ
  /-- clause bodies: under the (fresh, pairwise distinct) clause parameters in front of Γ -/
  def TWC (T : List TypeDecl) (S : Sigs) (M : Nat) : Clauses → AxCut.Ctx → Prop
    | .nil, _ => True
    | .cons _ ctx body rest, Γ =>
      NodupIds ctx ∧ (∀ i ∈ ctx.ids, FreshBinder M Γ i) ∧ TW T S M body (ctx ++ Γ) ∧ TWC T S M rest Γ
end

/-- a well-formed definition: duplicate-free parameters `≤ M`, body typed under them -/
def WfDef (T : List TypeDecl) (S : Sigs) (M : Nat) (d : Def) : Prop :=
  NodupIds d.ctx ∧ (∀ i ∈ d.ctx.ids, i ≤ M) ∧ TW T S M d.body d.ctx

/-! ## contexts without duplicate ids: membership = first-hit lookup -/

theorem mem_ids_of_mem {Γ : AxCut.Ctx} {b : Binding} (h : b ∈ Γ) : b.var.id ∈ Γ.ids :=
  List.mem_map.mpr ⟨b, h, rfl⟩

theorem lookupB_of_mem : ∀ {Γ : AxCut.Ctx} {b : Binding}, NodupIds Γ → b ∈ Γ →
    Named.lookupB Γ b.var.id = some b
  | [], _, _, h => by simp at h
  | c :: Γ, b, hnd, h => by
    simp only [NodupIds, Ctx.ids, List.map_cons, List.nodup_cons] at hnd
    simp only [Named.lookupB, List.find?_cons]
    rcases List.mem_cons.mp h with rfl | h'
    · simp
    · have hne : c.var.id ≠ b.var.id := fun e => hnd.1 (e ▸ List.mem_map.mpr ⟨b, h', rfl⟩)
      have : (c.var.id == b.var.id) = false := by simpa using hne
      simp only [this]
      exact lookupB_of_mem (Γ := Γ) hnd.2 h'

theorem occOk_of_mem {Γ : AxCut.Ctx} {b : Binding} (hnd : NodupIds Γ) (h : b ∈ Γ) : Named.occOk Γ b = true := by
  simp [Named.occOk, lookupB_of_mem hnd h]

theorem nodupIds_cons {Γ : AxCut.Ctx} {b : Binding} (hnd : NodupIds Γ) (h : b.var.id ∉ Γ.ids) :
    NodupIds (b :: Γ) := by
  simp only [NodupIds, Ctx.ids, List.map_cons, List.nodup_cons] at hnd ⊢
  exact ⟨h, hnd⟩

theorem ids_append (a b : AxCut.Ctx) : (a ++ b).ids = a.ids ++ b.ids := by simp [Ctx.ids]

theorem nodupIds_append {Δ Γ : AxCut.Ctx} (h1 : NodupIds Δ) (h2 : NodupIds Γ) (h : ∀ i ∈ Δ.ids, i ∉ Γ.ids) :
    NodupIds (Δ ++ Γ) := by
  simp only [NodupIds, ids_append, List.nodup_append]
  exact ⟨h1, h2, fun a ha b hb e => h a ha (e ▸ hb)⟩

theorem argsOk_of_mem {Γ : AxCut.Ctx} (hnd : NodupIds Γ) : ∀ {args sig : AxCut.Ctx}, ArgsMem Γ args →
    args.chiTys = sig.chiTys → Named.argsOk Γ args sig = true
  | [], [], _, _ => rfl
  | [], _ :: _, _, h => by simp [Ctx.chiTys] at h
  | _ :: _, [], _, h => by simp [Ctx.chiTys] at h
  | a :: as, s :: ss, hm, h => by
    simp only [Ctx.chiTys, List.map_cons, List.cons.injEq, Prod.mk.injEq] at h
    simp only [Named.argsOk, Bool.and_eq_true, beq_iff_eq]
    exact ⟨⟨⟨occOk_of_mem hnd (hm a (by simp)), h.1.1⟩, h.1.2⟩,
      argsOk_of_mem hnd (fun b hb => hm b (by simp [hb])) h.2⟩

theorem paramsOk_of_chiTys : ∀ {ps sig : AxCut.Ctx}, sig.chiTys = ps.chiTys → Named.paramsOk ps sig = true
  | [], [], _ => rfl
  | [], _ :: _, h => by simp [Ctx.chiTys] at h
  | _ :: _, [], h => by simp [Ctx.chiTys] at h
  | a :: as, s :: ss, h => by
    simp only [Ctx.chiTys, List.map_cons, List.cons.injEq, Prod.mk.injEq] at h
    simp only [Named.paramsOk, Bool.and_eq_true, beq_iff_eq]
    exact ⟨⟨h.1.1.symm, h.1.2.symm⟩, paramsOk_of_chiTys h.2⟩

theorem findDefSig_eq_findSig (S : Sigs) (l : Ident) : Named.findDefSig S l = AxCut.findSig S l := by
  simp only [Named.findDefSig, AxCut.findSig]
  cases S.find? (fun p => p.1 == l) <;> rfl

theorem lookupXtor_some {T : List TypeDecl} {ty : Ty} {tag : Ident} {sig : AxCut.Ctx}
    (h : lookupXtor T ty tag = some sig) :
    ∃ d x, lookupTypeDecl T ty = some d ∧ Named.findXtor d tag = some x ∧ x.args = sig := by
  simp only [lookupXtor] at h
  split at h
  · cases h
  · rename_i d hd
    split at h
    · cases h
    · rename_i x hx
      simp only [Option.some.injEq] at h
      exact ⟨d, x, hd, hx, h⟩

/-! ## `TW` implies the checker of `TypingNamed` -/

mutual
  theorem TW.wtStmtB {T : List TypeDecl} {S : Sigs} {M : Nat} : ∀ (s : Stmt) (Γ : AxCut.Ctx),
      TW T S M s Γ → NodupIds Γ → Named.wtStmtB T S Γ s = true
    | .subst _ _, _, h, _ => by simp [TW] at h
    | .call l args, Γ, h, hnd => by
      simp only [TW] at h
      obtain ⟨params, h1, h2, h3⟩ := h
      simp only [Named.wtStmtB, findDefSig_eq_findSig, h1]
      exact argsOk_of_mem hnd h3 h2
    | .letS x ty tag args next _, Γ, h, hnd => by
      simp only [TW] at h
      obtain ⟨⟨sig, h1, h2⟩, h3, h4, h5⟩ := h
      obtain ⟨d, x', hd, hx, rfl⟩ := lookupXtor_some h1
      simp only [Named.wtStmtB, hd, hx, Bool.and_eq_true]
      exact ⟨argsOk_of_mem hnd h3 h2, TW.wtStmtB next _ h5 (nodupIds_cons hnd h4.1)⟩
    | .switch x ty cs _, Γ, h, hnd => by
      simp only [TW] at h
      obtain ⟨h1, ⟨d, hd, hm⟩, h3⟩ := h
      simp only [Named.wtStmtB, hd, Bool.and_eq_true]
      exact ⟨occOk_of_mem hnd h1, TWC.wtClausesB cs Γ d.xtors h3 hm hnd⟩
    | .create x ty env cs next _ _, Γ, h, hnd => by
      simp only [TW] at h
      obtain ⟨rfl, ⟨d, hd, hm⟩, h3, h4, h5⟩ := h
      simp only [Named.wtStmtB, hd, Bool.and_eq_true]
      exact ⟨TWC.wtClausesB cs Γ d.xtors h3 hm hnd, TW.wtStmtB next _ h5 (nodupIds_cons hnd h4.1)⟩
    | .invoke x tag ty args, Γ, h, hnd => by
      simp only [TW] at h
      obtain ⟨h0, ⟨sig, h1, h2⟩, h3⟩ := h
      obtain ⟨d, x', hd, hx, rfl⟩ := lookupXtor_some h1
      simp only [Named.wtStmtB, hd, hx, Bool.and_eq_true]
      exact ⟨occOk_of_mem hnd h0, argsOk_of_mem hnd h3 h2⟩
    | .lit x _ next _, Γ, h, hnd => by
      simp only [TW] at h
      simp only [Named.wtStmtB]
      exact TW.wtStmtB next _ h.2 (nodupIds_cons hnd h.1.1)
    | .op x a _ b next _, Γ, h, hnd => by
      simp only [TW] at h
      obtain ⟨h1, h2, h3, h4⟩ := h
      simp only [Named.wtStmtB, Named.intOk, Bool.and_eq_true]
      exact ⟨⟨occOk_of_mem hnd h1, occOk_of_mem hnd h2⟩, TW.wtStmtB next _ h4 (nodupIds_cons hnd h3.1)⟩
    | .print _ a next _, Γ, h, hnd => by
      simp only [TW] at h
      simp only [Named.wtStmtB, Named.intOk, Bool.and_eq_true]
      exact ⟨occOk_of_mem hnd h.1, TW.wtStmtB next _ h.2 hnd⟩
    | .ifc _ a b t e, Γ, h, hnd => by
      simp only [TW] at h
      obtain ⟨h1, h2, h3, h4⟩ := h
      simp only [Named.wtStmtB, Named.intOk, Bool.and_eq_true]
      refine ⟨⟨⟨occOk_of_mem hnd h1, ?_⟩, TW.wtStmtB t _ h3 hnd⟩, TW.wtStmtB e _ h4 hnd⟩
      cases b with
      | none => rfl
      | some b' => exact occOk_of_mem hnd (h2 b' rfl)
    | .exit x, Γ, h, hnd => by
      simp only [TW] at h
      simp only [Named.wtStmtB, Named.intOk]
      exact occOk_of_mem hnd h
  theorem TWC.wtClausesB {T : List TypeDecl} {S : Sigs} {M : Nat} : ∀ (cs : Clauses) (Γ : AxCut.Ctx)
      (xs : List XtorSig), TWC T S M cs Γ → ClausesMatch xs cs → NodupIds Γ →
      Named.wtClausesB T S Γ xs cs = true
    | .nil, _, [], _, _, _ => by simp [Named.wtClausesB]
    | .nil, _, _ :: _, _, hm, _ => by simp [ClausesMatch] at hm
    | .cons _ _ _ _, _, [], _, hm, _ => by simp [ClausesMatch] at hm
    | .cons tag ctx body rest, Γ, x :: xs, h, hm, hnd => by
      simp only [TWC] at h
      obtain ⟨h1, h2, h3, h4⟩ := h
      simp only [ClausesMatch] at hm
      obtain ⟨m1, m2, m3⟩ := hm
      simp only [Named.wtClausesB, Bool.and_eq_true, beq_iff_eq]
      exact ⟨⟨⟨m1.symm, paramsOk_of_chiTys m2⟩,
        TW.wtStmtB body _ h3 (nodupIds_append h1 hnd (fun i hi => (h2 i hi).1))⟩,
        TWC.wtClausesB rest Γ xs h4 m3 hnd⟩
end

/-! ## `TW` implies the precondition of C05 -/

def SameMem (Γ Γ' : AxCut.Ctx) : Prop := ∀ b, b ∈ Γ ↔ b ∈ Γ'

theorem SameMem.ids {Γ Γ' : AxCut.Ctx} (h : SameMem Γ Γ') (i : Nat) : i ∈ Γ.ids ↔ i ∈ Γ'.ids := by
  simp only [Ctx.ids, List.mem_map]
  constructor
  · rintro ⟨b, hb, rfl⟩; exact ⟨b, (h b).mp hb, rfl⟩
  · rintro ⟨b, hb, rfl⟩; exact ⟨b, (h b).mpr hb, rfl⟩

theorem SameMem.cons {Γ Γ' : AxCut.Ctx} (h : SameMem Γ Γ') (b : Binding) : SameMem (b :: Γ) (Γ' ++ [b]) := by
  intro c
  simp only [List.mem_cons, List.mem_append, List.not_mem_nil, or_false]
  rw [h c]
  exact Or.comm

theorem SameMem.append {Γ Γ' : AxCut.Ctx} (h : SameMem Γ Γ') (Δ : AxCut.Ctx) : SameMem (Δ ++ Γ) (Γ' ++ Δ) := by
  intro c
  simp only [List.mem_append]
  rw [h c]
  exact Or.comm

theorem SameMem.hasVar {Γ Γ' : AxCut.Ctx} (h : SameMem Γ Γ') {b : Binding} (hb : b ∈ Γ) :
    HasVar Γ' b.var.id b.chi b.ty := ⟨b, (h b).mp hb, rfl, rfl, rfl⟩

theorem SameMem.fresh {Γ Γ' : AxCut.Ctx} (h : SameMem Γ Γ') {M i : Nat} (hf : FreshBinder M Γ i) :
    FreshBinder M Γ' i := ⟨fun hc => hf.1 ((h.ids i).mpr hc), hf.2⟩

theorem SameMem.argsIn {Γ Γ' args : AxCut.Ctx} (h : SameMem Γ Γ') (hm : ArgsMem Γ args) : ArgsIn Γ' args :=
  fun a ha => h.hasVar (hm a ha)

mutual
  theorem TW.toWT {T : List TypeDecl} {S : Sigs} {M : Nat} : ∀ (s : Stmt) (Γ Γ' : AxCut.Ctx),
      TW T S M s Γ → SameMem Γ Γ' → WT T S M s Γ'
    | .subst _ _, _, _, h, _ => by simp [TW] at h
    | .call l args, Γ, Γ', h, hs => by
      simp only [TW] at h
      obtain ⟨params, h1, h2, h3⟩ := h
      simp only [WT]
      exact ⟨params, h1, h2, hs.argsIn h3⟩
    | .letS x ty tag args next _, Γ, Γ', h, hs => by
      simp only [TW] at h
      obtain ⟨h1, h3, h4, h5⟩ := h
      simp only [WT]
      exact ⟨h1, hs.argsIn h3, hs.fresh h4, TW.toWT next _ _ h5 (hs.cons _)⟩
    | .switch x ty cs _, Γ, Γ', h, hs => by
      simp only [TW] at h
      obtain ⟨h1, h2, h3⟩ := h
      simp only [WT]
      exact ⟨hs.hasVar h1, h2, TWC.toWT cs _ _ h3 hs⟩
    | .create x ty env cs next _ _, Γ, Γ', h, hs => by
      simp only [TW] at h
      obtain ⟨_, h2, h3, h4, h5⟩ := h
      simp only [WT]
      exact ⟨h2, TWC.toWT cs _ _ h3 hs, hs.fresh h4, TW.toWT next _ _ h5 (hs.cons _)⟩
    | .invoke x tag ty args, Γ, Γ', h, hs => by
      simp only [TW] at h
      obtain ⟨h0, h1, h3⟩ := h
      simp only [WT]
      exact ⟨hs.hasVar h0, h1, hs.argsIn h3⟩
    | .lit x _ next _, Γ, Γ', h, hs => by
      simp only [TW] at h
      simp only [WT]
      exact ⟨hs.fresh h.1, TW.toWT next _ _ h.2 (hs.cons _)⟩
    | .op x a _ b next _, Γ, Γ', h, hs => by
      simp only [TW] at h
      obtain ⟨h1, h2, h3, h4⟩ := h
      simp only [WT]
      exact ⟨hs.hasVar h1, hs.hasVar h2, hs.fresh h3, TW.toWT next _ _ h4 (hs.cons _)⟩
    | .print _ a next _, Γ, Γ', h, hs => by
      simp only [TW] at h
      simp only [WT]
      exact ⟨hs.hasVar h.1, TW.toWT next _ _ h.2 hs⟩
    | .ifc _ a b t e, Γ, Γ', h, hs => by
      simp only [TW] at h
      obtain ⟨h1, h2, h3, h4⟩ := h
      simp only [WT]
      exact ⟨hs.hasVar h1, fun b' hb => hs.hasVar (h2 b' hb), TW.toWT t _ _ h3 hs, TW.toWT e _ _ h4 hs⟩
    | .exit x, Γ, Γ', h, hs => by
      simp only [TW] at h
      simp only [WT]
      exact hs.hasVar h
  theorem TWC.toWT {T : List TypeDecl} {S : Sigs} {M : Nat} : ∀ (cs : Clauses) (Γ Γ' : AxCut.Ctx),
      TWC T S M cs Γ → SameMem Γ Γ' → WTClauses T S M cs Γ'
    | .nil, _, _, _, _ => by simp [WTClauses]
    | .cons tag ctx body rest, Γ, Γ', h, hs => by
      simp only [TWC] at h
      obtain ⟨h1, h2, h3, h4⟩ := h
      simp only [WTClauses]
      exact ⟨h1, fun i hi => hs.fresh (h2 i hi), TW.toWT body _ _ h3 (hs.append ctx), TWC.toWT rest _ _ h4 hs⟩
end

theorem SameMem.refl (Γ : AxCut.Ctx) : SameMem Γ Γ := fun _ => Iff.rfl

/-! ## binders are fresh for the context -/

mutual
  theorem TW.bids_fresh {T : List TypeDecl} {S : Sigs} {M : Nat} : ∀ (s : Stmt) (Γ : AxCut.Ctx),
      TW T S M s Γ → ∀ i ∈ axBids s, i ∉ Γ.ids
    | .subst _ _, _, h => by simp [TW] at h
    | .call _ _, _, _ => by simp [axBids]
    | .letS x ty tag args next _, Γ, h => by
      simp only [TW] at h
      intro i hi
      simp only [axBids, List.mem_cons] at hi
      rcases hi with rfl | hi
      · exact h.2.2.1.1
      · have := TW.bids_fresh next _ h.2.2.2 i hi
        exact fun hc => this (by simp [Ctx.ids] at hc ⊢; exact .inr hc)
    | .switch x ty cs _, Γ, h => by
      simp only [TW] at h
      intro i hi
      simp only [axBids] at hi
      exact TWC.bids_fresh cs Γ h.2.2 i hi
    | .create x ty env cs next _ _, Γ, h => by
      simp only [TW] at h
      intro i hi
      simp only [axBids, List.mem_cons, List.mem_append] at hi
      rcases hi with rfl | hi | hi
      · exact h.2.2.2.1.1
      · exact TWC.bids_fresh cs Γ h.2.2.1 i hi
      · have := TW.bids_fresh next _ h.2.2.2.2 i hi
        exact fun hc => this (by simp [Ctx.ids] at hc ⊢; exact .inr hc)
    | .invoke _ _ _ _, _, _ => by simp [axBids]
    | .lit x _ next _, Γ, h => by
      simp only [TW] at h
      intro i hi
      simp only [axBids, List.mem_cons] at hi
      rcases hi with rfl | hi
      · exact h.1.1
      · have := TW.bids_fresh next _ h.2 i hi
        exact fun hc => this (by simp [Ctx.ids] at hc ⊢; exact .inr hc)
    | .op x a _ b next _, Γ, h => by
      simp only [TW] at h
      intro i hi
      simp only [axBids, List.mem_cons] at hi
      rcases hi with rfl | hi
      · exact h.2.2.1.1
      · have := TW.bids_fresh next _ h.2.2.2 i hi
        exact fun hc => this (by simp [Ctx.ids] at hc ⊢; exact .inr hc)
    | .print _ a next _, Γ, h => by
      simp only [TW] at h
      intro i hi
      simp only [axBids] at hi
      exact TW.bids_fresh next _ h.2 i hi
    | .ifc _ a b t e, Γ, h => by
      simp only [TW] at h
      intro i hi
      simp only [axBids, List.mem_append] at hi
      rcases hi with hi | hi
      · exact TW.bids_fresh t _ h.2.2.1 i hi
      · exact TW.bids_fresh e _ h.2.2.2 i hi
    | .exit _, _, _ => by simp [axBids]
  theorem TWC.bids_fresh {T : List TypeDecl} {S : Sigs} {M : Nat} : ∀ (cs : Clauses) (Γ : AxCut.Ctx),
      TWC T S M cs Γ → ∀ i ∈ axBidsC cs, i ∉ Γ.ids
    | .nil, _, _ => by simp [axBidsC]
    | .cons tag ctx body rest, Γ, h => by
      simp only [TWC] at h
      obtain ⟨_, h2, h3, h4⟩ := h
      intro i hi
      simp only [axBidsC, List.mem_append] at hi
      rcases hi with hi | hi | hi
      · exact (h2 i (by simpa [axIds, Ctx.ids] using hi)).1
      · have := TW.bids_fresh body _ h3 i hi
        exact fun hc => this (by rw [ids_append]; exact List.mem_append_right _ hc)
      · exact TWC.bids_fresh rest Γ h4 i hi
end

theorem axSubstIdent_of_not_dom {σ : List (Nat × Ident)} {v : Ident} (h : ∀ p ∈ σ, p.1 ≠ v.id) :
    axSubstIdent σ v = v := by
  simp only [axSubstIdent]
  have : σ.find? (fun p => p.1 == v.id) = none := by
    rw [List.find?_eq_none]
    intro p hp
    simpa using h p hp
  rw [this]

theorem axSubstBinding_of_not_dom {σ : List (Nat × Ident)} {b : Binding} (h : ∀ p ∈ σ, p.1 ≠ b.var.id) :
    axSubstBinding σ b = b := by
  simp only [axSubstBinding, axSubstIdent_of_not_dom h]

theorem chiTys_axSubstCtx (σ : List (Nat × Ident)) (c : AxCut.Ctx) : (axSubstCtx σ c).chiTys = c.chiTys := by
  simp [axSubstCtx, Ctx.chiTys, axSubstBinding, List.map_map, Function.comp_def]

theorem argsMem_axSubst {σ : List (Nat × Ident)} {Γ Γ' args : AxCut.Ctx} (hm : ArgsMem Γ args)
    (h : ∀ b ∈ Γ, axSubstBinding σ b ∈ Γ') : ArgsMem Γ' (axSubstCtx σ args) := by
  intro a ha
  simp only [axSubstCtx, List.mem_map] at ha
  obtain ⟨b, hb, rfl⟩ := ha
  exact h b (hm b hb)

theorem clausesMatch_axSubst (σ : List (Nat × Ident)) : ∀ (xs : List XtorSig) (cs : Clauses),
    ClausesMatch xs cs → ClausesMatch xs (axSubstClauses σ cs)
  | [], .nil, _ => by simp [axSubstClauses, ClausesMatch]
  | [], .cons _ _ _ _, h => by simp [ClausesMatch] at h
  | _ :: _, .nil, h => by simp [ClausesMatch] at h
  | x :: xs, .cons n ctx b r, h => by
    simp only [ClausesMatch] at h
    simp only [axSubstClauses, ClausesMatch]
    exact ⟨h.1, h.2.1, clausesMatch_axSubst σ xs r h.2.2⟩

/-- hypotheses of the substitution lemma under one more binder -/
theorem subst_cons_hyps {σ : List (Nat × Ident)} {Γ Γ' : AxCut.Ctx} {b0 : Binding} {L : List Nat}
    (h1 : ∀ b ∈ Γ, axSubstBinding σ b ∈ Γ') (hdom : ∀ p ∈ σ, p.1 ≠ b0.var.id)
    (h2 : ∀ i ∈ L, i ∉ Γ'.ids) (hf : ∀ i ∈ L, i ∉ Ctx.ids (b0 :: Γ)) :
    (∀ b ∈ b0 :: Γ, axSubstBinding σ b ∈ b0 :: Γ') ∧ (∀ i ∈ L, i ∉ Ctx.ids (b0 :: Γ')) := by
  constructor
  · intro b hb
    rcases List.mem_cons.mp hb with rfl | hb
    · rw [axSubstBinding_of_not_dom hdom]; exact List.mem_cons_self
    · exact List.mem_cons_of_mem _ (h1 b hb)
  · intro i hi hc
    simp only [Ctx.ids, List.map_cons, List.mem_cons] at hc
    rcases hc with rfl | hc
    · exact hf _ hi (by simp [Ctx.ids])
    · exact h2 i hi hc

mutual
  /-- `TW` is closed under the id-substitution of AxCut statements, and under weakening: the images of
      the bindings of Γ are in Γ', no binder of the statement is in Γ' or in the domain of `σ` -/
  theorem TW.subst {T : List TypeDecl} {S : Sigs} {M : Nat} (σ : List (Nat × Ident)) :
      ∀ (s : Stmt) (Γ Γ' : AxCut.Ctx), TW T S M s Γ → (∀ b ∈ Γ, axSubstBinding σ b ∈ Γ') →
      (∀ i ∈ axBids s, i ∉ Γ'.ids) → (∀ i ∈ axBids s, ∀ p ∈ σ, p.1 ≠ i) →
      TW T S M (axSubstStmt σ s) Γ'
    | .subst _ _, _, _, h, _, _, _ => by simp [TW] at h
    | .call l args, Γ, Γ', h, h1, _, _ => by
      simp only [TW] at h
      obtain ⟨params, e1, e2, e3⟩ := h
      simp only [axSubstStmt, TW]
      exact ⟨params, e1, by rw [chiTys_axSubstCtx]; exact e2, argsMem_axSubst e3 h1⟩
    | .letS x ty tag args next _, Γ, Γ', h, h1, h2, h3 => by
      simp only [TW] at h
      obtain ⟨⟨sig, e1, e2⟩, e3, e4, e5⟩ := h
      simp only [axBids, List.mem_cons, forall_eq_or_imp] at h2 h3
      obtain ⟨c1, c2⟩ := subst_cons_hyps (b0 := ⟨x, .prd, ty⟩) h1 h3.1 h2.2 (TW.bids_fresh next _ e5)
      simp only [axSubstStmt, TW]
      exact ⟨⟨sig, e1, by rw [chiTys_axSubstCtx]; exact e2⟩, argsMem_axSubst e3 h1, ⟨h2.1, e4.2⟩,
        TW.subst σ next _ _ e5 c1 c2 h3.2⟩
    | .switch x ty cs _, Γ, Γ', h, h1, h2, h3 => by
      simp only [TW] at h
      obtain ⟨e1, ⟨d, e2, e3⟩, e4⟩ := h
      simp only [axBids] at h2 h3
      simp only [axSubstStmt, TW]
      exact ⟨h1 _ e1, ⟨d, e2, clausesMatch_axSubst σ _ _ e3⟩, TWC.subst σ cs _ _ e4 h1 h2 h3⟩
    | .create x ty env cs next _ _, Γ, Γ', h, h1, h2, h3 => by
      simp only [TW] at h
      obtain ⟨rfl, ⟨d, e2, e3⟩, e4, e5, e6⟩ := h
      simp only [axBids, List.mem_cons, List.mem_append, forall_eq_or_imp] at h2 h3
      obtain ⟨c1, c2⟩ := subst_cons_hyps (b0 := ⟨x, .cns, ty⟩) h1 h3.1 (fun i hi => h2.2 i (.inr hi))
        (TW.bids_fresh next _ e6)
      simp only [axSubstStmt, TW, Option.map_none]
      exact ⟨trivial, ⟨d, e2, clausesMatch_axSubst σ _ _ e3⟩,
        TWC.subst σ cs _ _ e4 h1 (fun i hi => h2.2 i (.inl hi)) (fun i hi => h3.2 i (.inl hi)),
        ⟨h2.1, e5.2⟩, TW.subst σ next _ _ e6 c1 c2 (fun i hi => h3.2 i (.inr hi))⟩
    | .invoke x tag ty args, Γ, Γ', h, h1, _, _ => by
      simp only [TW] at h
      obtain ⟨e0, ⟨sig, e1, e2⟩, e3⟩ := h
      simp only [axSubstStmt, TW]
      exact ⟨h1 _ e0, ⟨sig, e1, by rw [chiTys_axSubstCtx]; exact e2⟩, argsMem_axSubst e3 h1⟩
    | .lit x _ next _, Γ, Γ', h, h1, h2, h3 => by
      simp only [TW] at h
      simp only [axBids, List.mem_cons, forall_eq_or_imp] at h2 h3
      obtain ⟨c1, c2⟩ := subst_cons_hyps (b0 := ⟨x, .ext, .i64⟩) h1 h3.1 h2.2 (TW.bids_fresh next _ h.2)
      simp only [axSubstStmt, TW]
      exact ⟨⟨h2.1, h.1.2⟩, TW.subst σ next _ _ h.2 c1 c2 h3.2⟩
    | .op x a _ b next _, Γ, Γ', h, h1, h2, h3 => by
      simp only [TW] at h
      obtain ⟨e1, e2, e3, e4⟩ := h
      simp only [axBids, List.mem_cons, forall_eq_or_imp] at h2 h3
      obtain ⟨c1, c2⟩ := subst_cons_hyps (b0 := ⟨x, .ext, .i64⟩) h1 h3.1 h2.2 (TW.bids_fresh next _ e4)
      simp only [axSubstStmt, TW]
      exact ⟨h1 _ e1, h1 _ e2, ⟨h2.1, e3.2⟩, TW.subst σ next _ _ e4 c1 c2 h3.2⟩
    | .print _ a next _, Γ, Γ', h, h1, h2, h3 => by
      simp only [TW] at h
      simp only [axBids] at h2 h3
      simp only [axSubstStmt, TW]
      exact ⟨h1 _ h.1, TW.subst σ next _ _ h.2 h1 h2 h3⟩
    | .ifc _ a b t e, Γ, Γ', h, h1, h2, h3 => by
      simp only [TW] at h
      obtain ⟨e1, e2, e3, e4⟩ := h
      simp only [axBids, List.mem_append] at h2 h3
      simp only [axSubstStmt, TW]
      refine ⟨h1 _ e1, ?_, TW.subst σ t _ _ e3 h1 (fun i hi => h2 i (.inl hi)) (fun i hi => h3 i (.inl hi)),
        TW.subst σ e _ _ e4 h1 (fun i hi => h2 i (.inr hi)) (fun i hi => h3 i (.inr hi))⟩
      intro b' hb'
      cases b with
      | none => simp at hb'
      | some b0 =>
        simp only [Option.map_some, Option.some.injEq] at hb'
        subst hb'
        exact h1 _ (e2 b0 rfl)
    | .exit x, Γ, Γ', h, h1, _, _ => by
      simp only [TW] at h
      simp only [axSubstStmt, TW]
      exact h1 _ h
  theorem TWC.subst {T : List TypeDecl} {S : Sigs} {M : Nat} (σ : List (Nat × Ident)) :
      ∀ (cs : Clauses) (Γ Γ' : AxCut.Ctx), TWC T S M cs Γ → (∀ b ∈ Γ, axSubstBinding σ b ∈ Γ') →
      (∀ i ∈ axBidsC cs, i ∉ Γ'.ids) → (∀ i ∈ axBidsC cs, ∀ p ∈ σ, p.1 ≠ i) →
      TWC T S M (axSubstClauses σ cs) Γ'
    | .nil, _, _, _, _, _, _ => by simp [axSubstClauses, TWC]
    | .cons tag ctx body rest, Γ, Γ', h, h1, h2, h3 => by
      simp only [TWC] at h
      obtain ⟨e1, e2, e3, e4⟩ := h
      simp only [axBidsC, List.mem_append] at h2 h3
      have hctx : ∀ i ∈ ctx.ids, i ∈ axIds ctx := fun i hi => by simpa [axIds, Ctx.ids] using hi
      simp only [axSubstClauses, TWC]
      refine ⟨e1, fun i hi => ⟨h2 i (.inl (hctx i hi)), (e2 i hi).2⟩, ?_,
        TWC.subst σ rest _ _ e4 h1 (fun i hi => h2 i (.inr (.inr hi))) (fun i hi => h3 i (.inr (.inr hi)))⟩
      refine TW.subst σ body _ _ e3 ?_ ?_ (fun i hi => h3 i (.inr (.inl hi)))
      · intro b hb
        rcases List.mem_append.mp hb with hb | hb
        · rw [axSubstBinding_of_not_dom (fun p hp => h3 _ (.inl (hctx _ (mem_ids_of_mem hb))) p hp)]
          exact List.mem_append_left _ hb
        · exact List.mem_append_right _ (h1 b hb)
      · intro i hi hc
        rw [ids_append] at hc
        rcases List.mem_append.mp hc with hc | hc
        · exact TW.bids_fresh body _ e3 i hi (by rw [ids_append]; exact List.mem_append_left _ hc)
        · exact h2 i (.inr (.inl hi)) hc
end

end Scc.Core2AxCut.Typed
