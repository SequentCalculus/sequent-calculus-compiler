/-
  Scc.Core2AxCut.Proofs — lemmas about the shrinking model (`Model.lean`) and the shape typing of
  focused Core (`FsTyping.lean`): size/typing invariance under id-substitution, totality of
  `shrinkStmt` on well-typed input with the fuel used by `shrinkDef` (no panic, no fuel error; the
  label-drawing loop of `lift` never exhausts its fuel by `drawLabel_ok` of `Labels.lean`); the declaration a
  cut at a declared type runs with (`shrinkUnknownCuts_decl_run`, `shrinkCriticalPairs_decl_run`); and `WtCut`, the
  well-typed cuts by the shapes of their two sides, with `WtCut.of_wt`: every cut accepted by `wtStmt` is one.
-/
import Scc.Core2AxCut.Model
import Scc.Core2AxCut.Labels
import Scc.Core2AxCut.FsTyping
import Scc.Core.TypingInv

namespace Scc.Core2AxCut

mutual
  theorem sizeTerm_subst (σ) : ∀ t, sizeTerm (substTerm σ t) = sizeTerm t
    | .var _ _ _ => by simp [substTerm, sizeTerm]
    | .lit _ => by simp [substTerm, sizeTerm]
    | .op _ _ _ => by simp [substTerm, sizeTerm]
    | .mu _ _ _ s => by simp [substTerm, sizeTerm, sizeStmt_subst σ s]
    | .xtor _ _ _ _ => by simp [substTerm, sizeTerm]
    | .xcase _ _ cs => by simp [substTerm, sizeTerm, sizeClauses_subst σ cs]
  theorem sizeClauses_subst (σ) : ∀ cs, sizeClauses (substClauses σ cs) = sizeClauses cs
    | .nil => by simp [substClauses, sizeClauses]
    | .cons _ _ b r => by simp [substClauses, sizeClauses, sizeStmt_subst σ b, sizeClauses_subst σ r]
  theorem sizeStmt_subst (σ) : ∀ s, sizeStmt (substStmt σ s) = sizeStmt s
    | .cut _ p c => by simp [substStmt, sizeStmt, sizeTerm_subst σ p, sizeTerm_subst σ c]
    | .ifc _ _ _ t e => by simp [substStmt, sizeStmt, sizeStmt_subst σ t, sizeStmt_subst σ e]
    | .print _ _ n => by simp [substStmt, sizeStmt, sizeStmt_subst σ n]
    | .call _ _ => by simp [substStmt, sizeStmt]
    | .exit _ => by simp [substStmt, sizeStmt]
end

theorem sizeStmt_pos : ∀ s, 0 < sizeStmt s
  | .cut _ _ _ => by simp [sizeStmt]
  | .ifc _ _ _ _ _ => by simp [sizeStmt]
  | .print _ _ _ => by simp [sizeStmt]
  | .call _ _ => by simp [sizeStmt]
  | .exit _ => by simp [sizeStmt]

theorem findClause_size {x ctx body} : ∀ cs, findClause x cs = some (ctx, body) →
    sizeStmt body < sizeClauses cs
  | .nil, h => by simp [findClause] at h
  | .cons x' c b r, h => by
    simp only [findClause] at h
    split at h
    · simp at h; obtain ⟨_, rfl⟩ := h; simp [sizeClauses]; omega
    · have := findClause_size r h; simp [sizeClauses]; omega

theorem sigMatch_subst (σ) : ∀ a s, sigMatch (substCtx σ a) s = sigMatch a s
  | [], [] => by simp [substCtx, sigMatch]
  | [], _ :: _ => by simp [substCtx, sigMatch]
  | _ :: _, [] => by simp [substCtx, sigMatch]
  | a :: as, s :: ss => by
    have := sigMatch_subst σ as ss
    simp only [substCtx] at this
    simp [substCtx, sigMatch, substBinding, this]

mutual
  theorem wtTerm_subst (E σ side T) : ∀ t, wtTerm E side T (substTerm σ t) = wtTerm E side T t
    | .var _ _ _ => by simp [substTerm, wtTerm]
    | .lit _ => by simp [substTerm, wtTerm]
    | .op _ _ _ => by simp [substTerm, wtTerm]
    | .mu _ _ _ s => by simp [substTerm, wtTerm, wtStmt_subst E σ s]
    | .xtor _ _ _ _ => by simp [substTerm, wtTerm, sigMatch_subst]
    | .xcase _ _ cs => by simp [substTerm, wtTerm, wtClauses_subst E σ _ cs]
  theorem wtClauses_subst (E σ) : ∀ xs cs, wtClauses E xs (substClauses σ cs) = wtClauses E xs cs
    | [], .nil => by simp [substClauses, wtClauses]
    | _ :: _, .nil => by simp [substClauses, wtClauses]
    | [], .cons _ _ _ _ => by simp [substClauses, wtClauses]
    | x :: xs, .cons _ _ b r => by
      simp [substClauses, wtClauses, wtStmt_subst E σ b, wtClauses_subst E σ xs r]
  theorem wtStmt_subst (E σ) : ∀ s, wtStmt E (substStmt σ s) = wtStmt E s
    | .cut _ p c => by simp [substStmt, wtStmt, wtTerm_subst E σ _ _ p, wtTerm_subst E σ _ _ c]
    | .ifc _ _ _ t e => by simp [substStmt, wtStmt, wtStmt_subst E σ t, wtStmt_subst E σ e]
    | .print _ _ n => by simp [substStmt, wtStmt, wtStmt_subst E σ n]
    | .call _ _ => by simp [substStmt, wtStmt, sigMatch_subst]
    | .exit _ => by simp [substStmt, wtStmt]
end

/-- the read-only state agrees with the typing environment -/
def EnvMatches (env : Env) (E : TEnv) : Prop := env.data = E.data ∧ env.codata = E.codata

/-- the recursive call succeeds on well-typed statements of size ≤ n -/
def RecOk (E : TEnv) (n : Nat) (rec : Rec) : Prop :=
  ∀ s st, wtStmt E s = true → sizeStmt s ≤ n → ∃ r, rec s st = .ok r

theorem lookup_of_declOf {env : Env} {E : TEnv} (hE : EnvMatches env E) {name d}
    (h : declOf E (.decl name) = some d) :
    lookupTypeDeclaration name (if isCodata env.codata (.decl name) then env.codata else env.data) = .ok d := by
  obtain ⟨h1, h2⟩ := hE
  simp only [declOf] at h
  rw [h1, h2]
  split <;> rename_i hc <;> simp [hc] at h <;> simp [lookupTypeDeclaration, h]

theorem findClause_of_wt {E : TEnv} {name : Core.Ident} : ∀ xs cs x, wtClauses E xs cs = true →
    xs.find? (fun x => x.name == name) = some x →
    ∃ ctx body, findClause name cs = some (ctx, body) ∧ wtStmt E body = true
  | [], .nil, _, _, h => by simp at h
  | [], .cons _ _ _ _, _, h, _ => by simp [wtClauses] at h
  | _ :: _, .nil, _, h, _ => by simp [wtClauses] at h
  | y :: ys, .cons tag ctx body rest, x, h, hf => by
    simp only [wtClauses, Bool.and_eq_true, beq_iff_eq] at h
    obtain ⟨⟨⟨ht, _⟩, hb⟩, hr⟩ := h
    simp only [List.find?_cons] at hf
    simp only [findClause]
    split at hf
    · rename_i hy
      have : tag = name := by rw [ht]; exact eq_of_beq hy
      simp only [this, beq_self_eq_true, if_true]
      exact ⟨ctx, body, rfl, hb⟩
    · rename_i hy
      have : ¬ (tag == name) = true := by rw [ht]; simpa using hy
      simp only [this]
      exact findClause_of_wt ys rest x hr hf

theorem shrinkClauses_ok {env : Env} {E : TEnv} {n : Nat} {rec : Rec} (hrec : RecOk E n rec) :
    ∀ xs cs st, wtClauses E xs cs = true → sizeClauses cs ≤ n → ∃ r, shrinkClauses env rec cs st = .ok r
  | [], .nil, st, _, _ => by simp [shrinkClauses]
  | [], .cons _ _ _ _, _, h, _ => by simp [wtClauses] at h
  | _ :: _, .nil, _, h, _ => by simp [wtClauses] at h
  | y :: ys, .cons tag ctx body rest, st, h, hs => by
    simp only [wtClauses, Bool.and_eq_true] at h
    obtain ⟨⟨_, hb⟩, hr⟩ := h
    simp only [sizeClauses] at hs
    obtain ⟨⟨b', st1⟩, h1⟩ := hrec body st hb (by omega)
    obtain ⟨⟨r', st2⟩, h2⟩ := shrinkClauses_ok (env := env) hrec ys rest st1 hr (by omega)
    simp [shrinkClauses, h1, h2]

theorem lift_ok {env : Env} {E : TEnv} {n : Nat} {rec : Rec} (hrec : RecOk E n rec) (s st)
    (h : wtStmt E s = true) (hs : sizeStmt s ≤ n) : ∃ r, lift env rec s st = .ok r := by
  simp only [lift]
  obtain ⟨⟨label, st1⟩, hd⟩ := drawLabel_ok ("lift_" ++ env.currentLabel ++ "_") (liftFresh (tfvStmt s []) st).2
  simp only [hd]
  obtain ⟨⟨b, st3⟩, hr⟩ := hrec (substStmt (liftFresh (tfvStmt s []) st).1.2 s)
    { st1 with usedLabels := label :: st1.usedLabels }
    (by rw [wtStmt_subst]; exact h) (by rw [sizeStmt_subst]; exact hs)
  simp [hr]

theorem tyOk_decl {E : TEnv} {name} (h : tyOk E (.decl name) = true) : ∃ d, declOf E (.decl name) = some d := by
  simp only [tyOk] at h
  exact Option.isSome_iff_exists.mp h

/-- the two cuts that look the type up (`shrink_unknown_cuts`, `shrink_critical_pairs`), at a declared type, with
    the lookup resolved: the declaration is the one the typing environment has, the side is decided by `E.codata` -/
theorem shrinkUnknownCuts_decl_run {env : Env} {E : TEnv} (hE : EnvMatches env E) {name vp vc st r st'}
    (hty : tyOk E (.decl name) = true) (h : shrinkUnknownCuts env vp vc (.decl name) st = .ok (r, st')) :
    ∃ d, declOf E (.decl name) = some d ∧
      r = .switch (shrinkIdentifier (if isCodata E.codata (.decl name) then vc else vp)) (shrinkTy (.decl name))
        (unknownClauses env (if isCodata E.codata (.decl name) then vp else vc) (shrinkTy (.decl name))
          d.xtors st).1 none ∧
      st' = (unknownClauses env (if isCodata E.codata (.decl name) then vp else vc) (shrinkTy (.decl name))
          d.xtors st).2 := by
  obtain ⟨d, hd⟩ := tyOk_decl hty
  obtain ⟨d', hd', h1, h2⟩ := shrinkUnknownCuts_decl_inv h
  rw [lookup_of_declOf hE hd] at hd'
  cases hd'
  rw [hE.2] at h1 h2
  exact ⟨d, hd, h1, h2⟩

theorem shrinkCriticalPairs_decl_run {env : Env} {E : TEnv} (hE : EnvMatches env E) {rec : Rec}
    {name vp sp vc sc st r} (hty : tyOk E (.decl name) = true)
    (h : shrinkCriticalPairs env rec vp sp vc sc (.decl name) st = .ok r) :
    ∃ d, declOf E (.decl name) = some d ∧
      (if isCodata E.codata (.decl name) then
        criticalDecl env rec d name (shrinkTy (.decl name)) vc sc vp sp st
      else criticalDecl env rec d name (shrinkTy (.decl name)) vp sp vc sc st) = .ok r := by
  obtain ⟨d, hd⟩ := tyOk_decl hty
  obtain ⟨d', hd', h⟩ := shrinkCriticalPairs_decl_inv h
  rw [lookup_of_declOf hE hd] at hd'
  cases hd'
  rw [hE.2] at h
  exact ⟨d, hd, h⟩

theorem shrinkUnknownCuts_ok {env : Env} {E : TEnv} (hE : EnvMatches env E) (v1 v2 ty st)
    (h : tyOk E ty = true) : ∃ r, shrinkUnknownCuts env v1 v2 ty st = .ok r := by
  cases ty with
  | i64 => simp [shrinkUnknownCuts]
  | decl name =>
    obtain ⟨d, hd⟩ := tyOk_decl h
    simp only [shrinkUnknownCuts, lookup_of_declOf hE hd]
    exact ⟨_, rfl⟩

theorem shrinkKnownCuts_ok {E : TEnv} {n : Nat} {rec : Rec} (hrec : RecOk E n rec)
    (name args xs cs x st) (hcs : wtClauses E xs cs = true)
    (hx : xs.find? (fun x => x.name == name) = some x) (hs : sizeClauses cs ≤ n + 1) :
    ∃ r, shrinkKnownCuts rec name args cs st = .ok r := by
  obtain ⟨ctx, body, hf, hb⟩ := findClause_of_wt xs cs x hcs hx
  have := findClause_size cs hf
  simp only [shrinkKnownCuts, hf]
  exact hrec _ st (by rw [wtStmt_subst]; exact hb) (by rw [sizeStmt_subst]; omega)

theorem criticalDecl_ok {env : Env} {E : TEnv} {n : Nat} {rec : Rec} (hrec : RecOk E n rec)
    (d name tt vK sK vE sE st) (hK : wtStmt E sK = true) (hEx : wtStmt E sE = true)
    (hsK : sizeStmt sK ≤ n) (hsE : sizeStmt sE ≤ n) :
    ∃ r, criticalDecl env rec d name tt vK sK vE sE st = .ok r := by
  simp only [criticalDecl]
  have hexp : ∃ r, (if inlineExpand d.xtors.length sE = true then rec sE st else lift env rec sE st) = .ok r := by
    split
    · exact hrec sE st hEx hsE
    · exact lift_ok hrec sE st hEx hsE
  obtain ⟨⟨e, st1⟩, he⟩ := hexp
  simp only [he]
  obtain ⟨⟨k, st3⟩, hk⟩ := hrec sK (criticalClauses env vE tt e d.xtors st1).2 hK hsK
  simp [hk]

theorem shrinkCriticalPairs_ok {env : Env} {E : TEnv} {n : Nat} {rec : Rec} (hE : EnvMatches env E)
    (hrec : RecOk E n rec) (v1 s1 v2 s2 ty st) (hty : tyOk E ty = true)
    (h1 : wtStmt E s1 = true) (h2 : wtStmt E s2 = true) (hs1 : sizeStmt s1 ≤ n) (hs2 : sizeStmt s2 ≤ n) :
    ∃ r, shrinkCriticalPairs env rec v1 s1 v2 s2 ty st = .ok r := by
  cases ty with
  | i64 =>
    obtain ⟨⟨b, st1⟩, hb⟩ := hrec s2 st h2 hs2
    obtain ⟨⟨c, st2⟩, hc⟩ := hrec s1 st1 h1 hs1
    simp [shrinkCriticalPairs, hb, hc]
  | decl name =>
    obtain ⟨d, hd⟩ := tyOk_decl hty
    simp only [shrinkCriticalPairs, lookup_of_declOf hE hd]
    split
    · exact criticalDecl_ok hrec _ _ _ _ _ _ _ _ h2 h1 hs2 hs1
    · exact criticalDecl_ok hrec _ _ _ _ _ _ _ _ h1 h2 hs1 hs2

theorem wt_var {E : TEnv} {side T pc v t} (h : wtTerm E side T (.var pc v t) = true) : pc = side ∧ t = T := by
  simp only [wtTerm, Bool.and_eq_true, beq_iff_eq] at h
  exact h

theorem wt_mu {E : TEnv} {side T pc v t s} (h : wtTerm E side T (.mu pc v t s) = true) :
    pc = side ∧ t = T ∧ wtStmt E s = true := by
  simp only [wtTerm, Bool.and_eq_true, beq_iff_eq] at h
  exact ⟨h.1.1, h.1.2, h.2⟩

theorem wt_xtor {E : TEnv} {side T pc name args t} (h : wtTerm E side T (.xtor pc name args t) = true) :
    pc = side ∧ t = T ∧ ∃ d sig, declOf E T = some d ∧ isCodata E.codata T = (side == .cns) ∧
      d.xtors.find? (fun x => x.name == name) = some sig ∧ sigMatch args sig.args = true := by
  simp only [wtTerm, Bool.and_eq_true, beq_iff_eq] at h
  obtain ⟨⟨h1, h2⟩, h3⟩ := h
  refine ⟨h1, h2, ?_⟩
  split at h3
  · rename_i d hd
    simp only [Bool.and_eq_true, beq_iff_eq] at h3
    obtain ⟨h4, h5⟩ := h3
    split at h5
    · rename_i sig hsig; exact ⟨d, sig, hd, h4, hsig, h5⟩
    · cases h5
  · cases h3

theorem wt_xcase {E : TEnv} {side T pc t cs} (h : wtTerm E side T (.xcase pc t cs) = true) :
    pc = side ∧ t = T ∧ ∃ d, declOf E T = some d ∧ isCodata E.codata T = (side == .prd) ∧
      wtClauses E d.xtors cs = true := by
  simp only [wtTerm, Bool.and_eq_true, beq_iff_eq] at h
  obtain ⟨⟨h1, h2⟩, h3⟩ := h
  refine ⟨h1, h2, ?_⟩
  split at h3
  · rename_i d hd
    simp only [Bool.and_eq_true, beq_iff_eq] at h3
    exact ⟨d, hd, h3.1, h3.2⟩
  · cases h3

/-- the well-typed cuts: the eighteen pairs of term shapes that `wtStmt` admits at a cut, with what it
    says about their parts.  A consumer is never a literal or an operation; a literal or an operation has
    type `i64`, which has no xtors; an xtor is a producer of data and a consumer of codata, an xcase the
    other way round. -/
inductive WtCut (E : TEnv) : Core.Ty → Core.FsTerm → Core.FsTerm → Prop
  | varVar {ty x α} (hty : tyOk E ty = true) : WtCut E ty (.var .prd x ty) (.var .cns α ty)
  | varMu {ty x y s} (hw : wtStmt E s = true) : WtCut E ty (.var .prd x ty) (.mu .cns y ty s)
  | varXtor {ty x K args d sig} (hd : declOf E ty = some d) (hcod : isCodata E.codata ty = true)
      (hsig : d.xtors.find? (fun x => x.name == K) = some sig) (hm : sigMatch args sig.args = true) :
      WtCut E ty (.var .prd x ty) (.xtor .cns K args ty)
  | varXcase {ty x cl d} (hd : declOf E ty = some d) (hcod : isCodata E.codata ty = false)
      (hcl : wtClauses E d.xtors cl = true) : WtCut E ty (.var .prd x ty) (.xcase .cns ty cl)
  | litVar {n α} : WtCut E .i64 (.lit n) (.var .cns α .i64)
  | litMu {n x s} (hw : wtStmt E s = true) : WtCut E .i64 (.lit n) (.mu .cns x .i64 s)
  | opVar {a o b α} : WtCut E .i64 (.op a o b) (.var .cns α .i64)
  | opMu {a o b x s} (hw : wtStmt E s = true) : WtCut E .i64 (.op a o b) (.mu .cns x .i64 s)
  | muVar {ty a s x} (hw : wtStmt E s = true) : WtCut E ty (.mu .prd a ty s) (.var .cns x ty)
  | muMu {ty a s1 x s2} (hty : tyOk E ty = true) (hw1 : wtStmt E s1 = true) (hw2 : wtStmt E s2 = true) :
      WtCut E ty (.mu .prd a ty s1) (.mu .cns x ty s2)
  | muXtor {ty a s K args d sig} (hw : wtStmt E s = true) (hd : declOf E ty = some d)
      (hcod : isCodata E.codata ty = true) (hsig : d.xtors.find? (fun x => x.name == K) = some sig)
      (hm : sigMatch args sig.args = true) : WtCut E ty (.mu .prd a ty s) (.xtor .cns K args ty)
  | muXcase {ty a s cl d} (hw : wtStmt E s = true) (hd : declOf E ty = some d)
      (hcod : isCodata E.codata ty = false) (hcl : wtClauses E d.xtors cl = true) :
      WtCut E ty (.mu .prd a ty s) (.xcase .cns ty cl)
  | xtorVar {ty K args α d sig} (hd : declOf E ty = some d) (hcod : isCodata E.codata ty = false)
      (hsig : d.xtors.find? (fun x => x.name == K) = some sig) (hm : sigMatch args sig.args = true) :
      WtCut E ty (.xtor .prd K args ty) (.var .cns α ty)
  | xtorMu {ty K args x s d sig} (hd : declOf E ty = some d) (hcod : isCodata E.codata ty = false)
      (hsig : d.xtors.find? (fun x => x.name == K) = some sig) (hm : sigMatch args sig.args = true)
      (hw : wtStmt E s = true) : WtCut E ty (.xtor .prd K args ty) (.mu .cns x ty s)
  | xtorXcase {ty K args cl d sig} (hd : declOf E ty = some d) (hcod : isCodata E.codata ty = false)
      (hsig : d.xtors.find? (fun x => x.name == K) = some sig) (hm : sigMatch args sig.args = true)
      (hcl : wtClauses E d.xtors cl = true) : WtCut E ty (.xtor .prd K args ty) (.xcase .cns ty cl)
  | xcaseVar {ty cl α d} (hd : declOf E ty = some d) (hcod : isCodata E.codata ty = true)
      (hcl : wtClauses E d.xtors cl = true) : WtCut E ty (.xcase .prd ty cl) (.var .cns α ty)
  | xcaseMu {ty cl x s d} (hd : declOf E ty = some d) (hcod : isCodata E.codata ty = true)
      (hcl : wtClauses E d.xtors cl = true) (hw : wtStmt E s = true) :
      WtCut E ty (.xcase .prd ty cl) (.mu .cns x ty s)
  | xcaseXtor {ty cl K args d sig} (hd : declOf E ty = some d) (hcod : isCodata E.codata ty = true)
      (hcl : wtClauses E d.xtors cl = true) (hsig : d.xtors.find? (fun x => x.name == K) = some sig)
      (hm : sigMatch args sig.args = true) : WtCut E ty (.xcase .prd ty cl) (.xtor .cns K args ty)

theorem WtCut.of_wt {E : TEnv} {ty p c} (h : wtStmt E (.cut ty p c) = true) : WtCut E ty p c := by
  simp only [wtStmt, Bool.and_eq_true] at h
  obtain ⟨⟨hty, hp⟩, hc⟩ := h
  have hi64 : ∀ {d}, declOf E .i64 ≠ some d := by simp [declOf]
  cases c with
  | lit k => simp [wtTerm] at hc
  | op a o b => simp [wtTerm] at hc
  | var pc2 α t2 =>
    obtain ⟨rfl, rfl⟩ := wt_var hc
    cases p with
    | var pc x t1 => obtain ⟨rfl, rfl⟩ := wt_var hp; exact .varVar hty
    | lit n => simp only [wtTerm, Bool.and_eq_true, beq_iff_eq] at hp; cases hp.2; exact .litVar
    | op a o b => simp only [wtTerm, Bool.and_eq_true, beq_iff_eq] at hp; cases hp.2; exact .opVar
    | mu pc a t1 s => obtain ⟨rfl, rfl, hw⟩ := wt_mu hp; exact .muVar hw
    | xtor pc K args t1 =>
      obtain ⟨rfl, rfl, d, sig, hd, hcod, hsig, hm⟩ := wt_xtor hp
      exact .xtorVar hd hcod hsig hm
    | xcase pc t1 cl =>
      obtain ⟨rfl, rfl, d, hd, hcod, hcl⟩ := wt_xcase hp
      exact .xcaseVar hd hcod hcl
  | mu pc2 y t2 s2 =>
    obtain ⟨rfl, rfl, hw2⟩ := wt_mu hc
    cases p with
    | var pc x t1 => obtain ⟨rfl, rfl⟩ := wt_var hp; exact .varMu hw2
    | lit n => simp only [wtTerm, Bool.and_eq_true, beq_iff_eq] at hp; cases hp.2; exact .litMu hw2
    | op a o b => simp only [wtTerm, Bool.and_eq_true, beq_iff_eq] at hp; cases hp.2; exact .opMu hw2
    | mu pc a t1 s1 => obtain ⟨rfl, rfl, hw1⟩ := wt_mu hp; exact .muMu hty hw1 hw2
    | xtor pc K args t1 =>
      obtain ⟨rfl, rfl, d, sig, hd, hcod, hsig, hm⟩ := wt_xtor hp
      exact .xtorMu hd hcod hsig hm hw2
    | xcase pc t1 cl =>
      obtain ⟨rfl, rfl, d, hd, hcod, hcl⟩ := wt_xcase hp
      exact .xcaseMu hd hcod hcl hw2
  | xtor pc2 K args t2 =>
    obtain ⟨rfl, rfl, d, sig, hd, hcod, hsig, hm⟩ := wt_xtor hc
    cases p with
    | var pc x t1 => obtain ⟨rfl, rfl⟩ := wt_var hp; exact .varXtor hd hcod hsig hm
    | lit n => simp only [wtTerm, Bool.and_eq_true, beq_iff_eq] at hp; cases hp.2; exact absurd hd hi64
    | op a o b => simp only [wtTerm, Bool.and_eq_true, beq_iff_eq] at hp; cases hp.2; exact absurd hd hi64
    | mu pc a t1 s1 => obtain ⟨rfl, rfl, hw1⟩ := wt_mu hp; exact .muXtor hw1 hd hcod hsig hm
    | xtor pc K' args' t1 =>
      obtain ⟨_, _, _, _, _, hcod', _⟩ := wt_xtor hp
      rw [hcod] at hcod'; cases hcod'
    | xcase pc t1 cl =>
      obtain ⟨rfl, rfl, d', hd', _, hcl⟩ := wt_xcase hp
      rw [hd] at hd'; cases hd'
      exact .xcaseXtor hd hcod hcl hsig hm
  | xcase pc2 t2 cl =>
    obtain ⟨rfl, rfl, d, hd, hcod, hcl⟩ := wt_xcase hc
    cases p with
    | var pc x t1 => obtain ⟨rfl, rfl⟩ := wt_var hp; exact .varXcase hd hcod hcl
    | lit n => simp only [wtTerm, Bool.and_eq_true, beq_iff_eq] at hp; cases hp.2; exact absurd hd hi64
    | op a o b => simp only [wtTerm, Bool.and_eq_true, beq_iff_eq] at hp; cases hp.2; exact absurd hd hi64
    | mu pc a t1 s1 => obtain ⟨rfl, rfl, hw1⟩ := wt_mu hp; exact .muXcase hw1 hd hcod hcl
    | xtor pc K args t1 =>
      obtain ⟨rfl, rfl, d', sig, hd', _, hsig, hm⟩ := wt_xtor hp
      rw [hd] at hd'; cases hd'
      exact .xtorXcase hd hcod hsig hm hcl
    | xcase pc t1 cl' =>
      obtain ⟨_, _, _, _, hcod', _⟩ := wt_xcase hp
      rw [hcod] at hcod'; cases hcod'

theorem shrinkCut_ok {env : Env} {E : TEnv} {n : Nat} {rec : Rec} (hE : EnvMatches env E)
    (hrec : RecOk E n rec) (ty p c st) (h : wtStmt E (.cut ty p c) = true)
    (hs : sizeStmt (.cut ty p c) ≤ n + 1) : ∃ r, shrinkCut env rec ty p c st = .ok r := by
  cases WtCut.of_wt h with simp only [sizeStmt, sizeTerm] at hs
  | varVar hty => exact shrinkUnknownCuts_ok hE _ _ _ _ hty
  | varMu hw | muVar hw =>
    exact hrec _ _ (by rw [wtStmt_subst]; exact hw) (by rw [sizeStmt_subst]; omega)
  | varXtor | xtorVar | litVar | opVar => exact ⟨_, rfl⟩
  | litMu hw | opMu hw | muXtor hw | xtorMu _ _ _ _ hw =>
    obtain ⟨⟨r, st1⟩, hr⟩ := hrec _ st hw (by omega)
    exact ⟨_, wrap_eq hr⟩
  | muMu hty hw1 hw2 => exact shrinkCriticalPairs_ok hE hrec _ _ _ _ _ _ hty hw1 hw2 (by omega) (by omega)
  | varXcase _ _ hcl | xcaseVar _ _ hcl =>
    obtain ⟨⟨r, st1⟩, hr⟩ := shrinkClauses_ok (env := env) hrec _ _ st hcl (by omega)
    exact ⟨_, wrapC_eq hr⟩
  | muXcase hw _ _ hcl | xcaseMu _ _ hcl hw =>
    obtain ⟨⟨r, st1⟩, hr⟩ := shrinkClauses_ok (env := env) hrec _ _ st hcl (by omega)
    obtain ⟨⟨r2, st2⟩, hr2⟩ := hrec _ st1 hw (by omega)
    exact ⟨_, wrapC2_eq hr hr2⟩
  | xtorXcase _ _ hsig _ hcl | xcaseXtor _ _ hcl hsig =>
    exact shrinkKnownCuts_ok hrec _ _ _ _ _ _ hcl hsig (by omega)

theorem shrinkStmtStep_ok {env : Env} {E : TEnv} {n : Nat} {rec : Rec} (hE : EnvMatches env E)
    (hrec : RecOk E n rec) (s st) (h : wtStmt E s = true) (hs : sizeStmt s ≤ n + 1) :
    ∃ r, shrinkStmtStep env rec s st = .ok r := by
  cases s with
  | cut ty p c => exact shrinkCut_ok hE hrec ty p c st h hs
  | ifc sort a b t e =>
    simp only [wtStmt, Bool.and_eq_true] at h
    simp only [sizeStmt] at hs
    obtain ⟨⟨r1, st1⟩, h1⟩ := hrec t st h.1 (by omega)
    obtain ⟨⟨r2, st2⟩, h2⟩ := hrec e st1 h.2 (by omega)
    simp [shrinkStmtStep, h1, h2]
  | print nl a nx =>
    simp only [wtStmt] at h
    simp only [sizeStmt] at hs
    obtain ⟨⟨r1, st1⟩, h1⟩ := hrec nx st h (by omega)
    simp [shrinkStmtStep, h1]
  | call f args => simp [shrinkStmtStep]
  | exit a => simp [shrinkStmtStep]

/-- with fuel ≥ size, shrinking a well-typed statement succeeds -/
theorem shrinkStmt_ok {env : Env} {E : TEnv} (hE : EnvMatches env E) : ∀ fuel, RecOk E fuel (shrinkStmt env fuel)
  | 0 => by
    intro s st _ hs
    have := sizeStmt_pos s
    omega
  | fuel + 1 => by
    intro s st h hs
    exact shrinkStmtStep_ok hE (shrinkStmt_ok hE fuel) s st h hs

theorem shrinkDef_ok {E : TEnv} (d : Core.FsDef) (used : List Core.Ident) (maxId : Nat)
    (h : wtStmt E d.body = true) : ∃ r, shrinkDef d E.data E.codata used maxId = .ok r := by
  obtain ⟨⟨b, st⟩, hb⟩ := shrinkStmt_ok (env := ⟨E.data, E.codata, d.name.name⟩) (E := E) ⟨rfl, rfl⟩
    (sizeStmt d.body + 1) d.body ⟨maxId, used, []⟩ h (by omega)
  simp [shrinkDef, hb]

theorem shrinkDefs_ok {E : TEnv} : ∀ (ds : List Core.FsDef) (used : List Core.Ident) (maxId : Nat),
    (∀ d ∈ ds, wtStmt E d.body = true) → ∃ r, shrinkDefs E.data E.codata ds used maxId = .ok r
  | [], _, _, _ => by simp [shrinkDefs]
  | d :: ds, used, maxId, h => by
    obtain ⟨⟨r1, u1, m1⟩, h1⟩ := shrinkDef_ok (E := E) d used maxId (h d (by simp))
    obtain ⟨⟨r2, u2, m2⟩, h2⟩ := shrinkDefs_ok (E := E) ds u1 m1 (fun d' hd' => h d' (by simp [hd']))
    simp [shrinkDefs, h1, h2]

/-- on well-typed focused Core the model of `shrink_prog` returns a program: no panic site is
    reached and the fuel suffices -/
theorem shrinkProg_ok (p : Core.FsProg) (h : wtFsCheck p = true) : ∃ q, shrinkProg p = .ok q := by
  simp only [wtFsCheck, noContName, Bool.and_eq_true, Bool.not_eq_true', List.all_eq_true] at h
  obtain ⟨⟨hd, hc⟩, hdefs⟩ := h
  obtain ⟨⟨defs, u, m⟩, hr⟩ := shrinkDefs_ok (E := progTEnv p) p.defs (p.defs.map (·.name)) p.maxId hdefs
  simp only [progTEnv] at hr
  simp [shrinkProg, hd, hc, hr]

end Scc.Core2AxCut
