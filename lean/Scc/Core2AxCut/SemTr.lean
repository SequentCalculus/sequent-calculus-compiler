/-
  Scc.Core2AxCut.SemTr — proof file for the semantic part of C04: the arms of `shrinkCut`, each shown to produce
  a translation in the sense of the judgment `Tr` of `SemRel.lean`, given that the recursive calls do.

  The statement handed to `shrink` is `renStmt f s` (the sub-statement `s` of the program under the composition
  `f` of the id-substitutions performed so far); `Post` says that the result translates `s` for every map `h`
  that sends the variables in scope to the ids of their images under `f` (`Agree`), and bounds the binders of
  the result; `RecTr` is `Post` for every successful call of the recursion parameter.  One lemma `tr_*` per arm
  takes `RecTr` as hypothesis.  `SemTrCut.lean` puts the arms together (`shrinkStmt_tr`).
-/
import Scc.Core2AxCut.SemRen
import Scc.Core2AxCut.Labels
import Scc.Core2AxCut.FreeVars

namespace Scc.Core2AxCut.Sem

open Scc.AxCut.Named (Value lookup lookupAll bindParams findDef State step)

local notation "sid" => shrinkIdentifier

/-- from state `a` to state `b` the counter `max_id` does not decrease and no lifted definition is lost -/
structure Mono (a b : St) : Prop where
  le : a.maxId ≤ b.maxId
  sub : ∀ d ∈ a.lifted, d ∈ b.lifted

theorem Mono.framePreorder : FramePreorder Mono where
  refl := fun _ => ⟨Nat.le_refl _, fun _ h => h⟩
  trans := fun h1 h2 => ⟨Nat.le_trans h1.le h2.le, fun d hd => h2.sub d (h1.sub d hd)⟩
  frame := fun h => ⟨h.2.2, fun d hd => by rw [h.2.1]; exact hd⟩

theorem lift_mono {env : Env} {rec : Rec} (hrec : RecRel Mono rec) : RecRel Mono (lift env rec) := by
  intro s st r st' h
  obtain ⟨k, body, st3, hk, _, _, hb, _, rfl⟩ := lift_spec env rec s st r st' h
  have h3 := hrec _ _ _ _ hb
  exact ⟨by have := h3.le; show st.maxId ≤ st3.maxId; simp only at this; omega,
    fun d hd => List.mem_cons_of_mem _ (h3.sub d hd)⟩

theorem shrinkStmt_mono (env : Env) (fuel : Nat) : RecRel Mono (shrinkStmt env fuel) :=
  shrinkStmt_rel Mono.framePreorder (fun _ h => lift_mono h) fuel

/-- the definitions lifted so far are definitions of the output program `q`, found under their names -/
def Good (q : AxCut.Prog) (st : St) : Prop := ∀ d ∈ st.lifted, findDef q d.name = some d

theorem Good.of_mono {q : AxCut.Prog} {a b : St} (h : Mono a b) (hb : Good q b) : Good q a :=
  fun d hd => hb d (h.sub d hd)

/-- the map `h` sends every variable in scope to the id of its image under the renaming `f` -/
def Agree (Γ : Core.Ctx) (h : HMap) (f : Core.Ident → Core.Ident) : Prop :=
  ∀ b, occFs Γ b = true → h b.var = (f b.var).id

theorem Agree.avoids_binder {Γ h f B m i} (ha : Agree Γ h f) (inv : InvB Γ f B m) (hi : i ∈ B) :
    Avoids Γ h i := by
  intro b hb e
  rw [ha b hb] at e
  exact (inv.rng b hb).1 (e ▸ hi)

theorem Agree.avoids_fresh {Γ h f B m i} (ha : Agree Γ h f) (inv : InvB Γ f B m) (hi : m < i) :
    Avoids Γ h i := by
  intro b hb e
  rw [ha b hb] at e
  have := (inv.rng b hb).2
  omega

theorem Agree.cons {Γ h f} {b0 : Core.Binding} (ha : Agree Γ h f) (hf : f b0.var = b0.var) :
    Agree (b0 :: Γ) (h.set b0.var b0.var.id) f := by
  intro b hb
  rcases occFs_cons hb with rfl | ⟨hne, hb'⟩
  · rw [HMap.set_self, hf]
  · rw [HMap.set_ne _ _ (var_ne_of_id_ne hne)]; exact ha b hb'

theorem Agree.map {Γ h f} (ha : Agree Γ h f) {args : Core.Ctx} (hocc : ∀ b ∈ args, occFs Γ b = true) :
    args.map (fun b => (f b.var).id) = args.map (fun b => h b.var) :=
  List.map_congr_left (fun b hb => (ha b (hocc b hb)).symm)

theorem shrinkBinding_var (cod : List Core.TypeDecl) (b : Core.Binding) : (shrinkBinding cod b).var = sid b.var := by
  simp only [shrinkBinding]
  split
  · split <;> rfl
  · split <;> rfl

theorem axIds_shrinkContext (cod : List Core.TypeDecl) (c : Core.Ctx) :
    axIds (shrinkContext cod c) = c.map (fun b => b.var.id) := by
  simp only [axIds, shrinkContext, List.map_map]
  apply List.map_congr_left
  intro b _
  simp [shrinkBinding_var, shrinkIdentifier]

theorem axIds_shrinkContext_ren (cod : List Core.TypeDecl) (f) (c : Core.Ctx) :
    axIds (shrinkContext cod (renCtx f c)) = c.map (fun b => (f b.var).id) := by
  rw [axIds_shrinkContext]
  simp [renCtx, renBinding, Function.comp_def]

theorem freshenCtx_spec : ∀ (c : AxCut.Ctx) (st : St),
    axIds (freshenCtx c st).1 = List.range' (st.maxId + 1) c.length ∧
    (freshenCtx c st).2.maxId = st.maxId + c.length ∧ (freshenCtx c st).1.length = c.length
  | [], st => by simp [freshenCtx, axIds]
  | b :: bs, st => by
    obtain ⟨ih1, ih2, ih3⟩ := freshenCtx_spec bs { st with maxId := st.maxId + 1 }
    rw [freshenCtx_cons]
    simp only [axIds, List.map_cons, List.length_cons, List.range'_succ, shrinkIdentifier] at ih1 ⊢
    exact ⟨by rw [ih1], by rw [ih2]; simp only; omega, by rw [ih3]⟩

theorem freshenCtx_ids {c : AxCut.Ctx} {st : St} :
    (axIds (freshenCtx c st).1).Nodup ∧
    ∀ i ∈ axIds (freshenCtx c st).1, st.maxId < i ∧ i ≤ (freshenCtx c st).2.maxId := by
  obtain ⟨h1, h2, _⟩ := freshenCtx_spec c st
  rw [h1, h2]
  refine ⟨List.nodup_range', ?_⟩
  intro i hi
  simp only [List.mem_range'_1] at hi
  omega

/-! ## substitution leaves binders alone -/

mutual
  theorem axBids_axSubst (σ) : ∀ t, axBids (axSubstStmt σ t) = axBids t
    | .subst ps n => by simp [axSubstStmt, axBids, axBids_axSubst σ n]
    | .call _ _ => rfl
    | .letS _ _ _ _ n _ => by simp [axSubstStmt, axBids, axBids_axSubst σ n]
    | .switch _ _ cs _ => by simp [axSubstStmt, axBids, axBidsC_axSubst σ cs]
    | .create _ _ _ cs n _ _ => by simp [axSubstStmt, axBids, axBidsC_axSubst σ cs, axBids_axSubst σ n]
    | .invoke _ _ _ _ => rfl
    | .lit _ _ n _ => by simp [axSubstStmt, axBids, axBids_axSubst σ n]
    | .op _ _ _ _ n _ => by simp [axSubstStmt, axBids, axBids_axSubst σ n]
    | .print _ _ n _ => by simp [axSubstStmt, axBids, axBids_axSubst σ n]
    | .ifc _ _ _ t e => by simp [axSubstStmt, axBids, axBids_axSubst σ t, axBids_axSubst σ e]
    | .exit _ => rfl
  theorem axBidsC_axSubst (σ) : ∀ cs, axBidsC (axSubstClauses σ cs) = axBidsC cs
    | .nil => rfl
    | .cons _ _ b r => by simp [axSubstClauses, axBidsC, axBids_axSubst σ b, axBidsC_axSubst σ r]
end

/-- the clause list that `shrink_unknown_cuts` generates for the xtors `xs`: the counter grows, every binder id is
    drawn after `st.maxId`, and the clause of each xtor `K` re-sends `K` with its fresh parameters to `vE` (the
    shape `EtaShape` of SemRel.lean) -/
theorem unknownClauses_eta (env : Env) (vE : Core.Ident) (tty : AxCut.Ty) : ∀ (xs : List Core.XtorSig) (st : St),
    st.maxId ≤ (unknownClauses env vE tty xs st).2.maxId ∧
    (∀ i ∈ axBidsC (unknownClauses env vE tty xs st).1,
      st.maxId < i ∧ i ≤ (unknownClauses env vE tty xs st).2.maxId) ∧
    ∀ K sig, xs.find? (fun x => x.name == K) = some sig →
      ∃ envC, AxCut.Named.findClause (sid K) (unknownClauses env vE tty xs st).1 =
          some (envC, .invoke (sid vE) (sid K) tty envC) ∧
        envC.length = sig.args.length ∧ (axIds envC).Nodup ∧
        ∀ i ∈ axIds envC, st.maxId < i ∧ i ≤ (unknownClauses env vE tty xs st).2.maxId
  | [], st => by simp [unknownClauses, axBidsC]
  | x :: xs, st => by
    have hf := freshenCtx_spec (shrinkContext env.codata x.args) st
    have hi := freshenCtx_ids (c := shrinkContext env.codata x.args) (st := st)
    simp only [unknownClauses]
    revert hf hi
    generalize freshenCtx (shrinkContext env.codata x.args) st = r1
    obtain ⟨envC, st1⟩ := r1
    intro hf hi
    have ih := unknownClauses_eta env vE tty xs st1
    revert ih
    generalize unknownClauses env vE tty xs st1 = r2
    obtain ⟨rest, st2⟩ := r2
    intro ih
    simp only at hf hi ih ⊢
    obtain ⟨ih1, ih2, ih3⟩ := ih
    have hm1 : st.maxId ≤ st1.maxId := by rw [hf.2.1]; omega
    refine ⟨by omega, ?_, ?_⟩
    · intro i hi'
      simp only [axBidsC, axBids, List.nil_append, List.mem_append] at hi'
      rcases hi' with h | h
      · have := hi.2 i h; omega
      · have := ih2 i h; omega
    · intro K sig hfind
      simp only [List.find?_cons] at hfind
      simp only [AxCut.Named.findClause, sid_beq]
      split at hfind
      · rename_i hx
        simp only [Option.some.injEq] at hfind
        subst hfind
        have : x.name = K := eq_of_beq hx
        subst this
        simp only [beq_self_eq_true, if_true]
        refine ⟨envC, rfl, by rw [hf.2.2]; simp [shrinkContext], hi.1, ?_⟩
        intro i h; have := hi.2 i h; omega
      · rename_i hx
        simp only [hx]
        obtain ⟨envC', h1, h2, h3, h4⟩ := ih3 K sig hfind
        refine ⟨envC', h1, h2, h3, ?_⟩
        intro i h; have := h4 i h; omega

/-- the clause list that `shrink_critical_pairs` generates for the xtors `xs` around the shrunk statement `t2` of
    the expanded side: the counter grows; every binder id is drawn after `st.maxId` or is a binder of `t2` (the
    copies of `t2` keep their binders); the clause of each xtor `K` rebuilds the object in a fresh `w` and runs
    `t2` with `vE` replaced by `w`; and every `let` clause body of the list is such a copy (the shapes `CritShape`
    / `CritTr` of SemRel.lean ask exactly these) -/
theorem criticalClauses_crit (env : Env) (vE : Core.Ident) (tty : AxCut.Ty) (t2 : AxCut.Stmt) :
    ∀ (xs : List Core.XtorSig) (st : St),
    st.maxId ≤ (criticalClauses env vE tty t2 xs st).2.maxId ∧
    (∀ i ∈ axBidsC (criticalClauses env vE tty t2 xs st).1,
      (st.maxId < i ∧ i ≤ (criticalClauses env vE tty t2 xs st).2.maxId) ∨ i ∈ axBids t2) ∧
    (∀ K sig, xs.find? (fun x => x.name == K) = some sig →
      ∃ envC w, AxCut.Named.findClause (sid K) (criticalClauses env vE tty t2 xs st).1 =
          some (envC, .letS w tty (sid K) envC (axSubstStmt [(vE.id, w)] t2) none) ∧
        envC.length = sig.args.length ∧ (axIds envC).Nodup ∧
        (∀ i ∈ axIds envC, st.maxId < i ∧ i ≤ (criticalClauses env vE tty t2 xs st).2.maxId) ∧
        st.maxId < w.id ∧ w.id ≤ (criticalClauses env vE tty t2 xs st).2.maxId) ∧
    (∀ tag envC w ty'' tg envC' t fv,
      AxCut.Named.findClause tag (criticalClauses env vE tty t2 xs st).1 =
        some (envC, .letS w ty'' tg envC' t fv) →
      t = axSubstStmt [(vE.id, w)] t2 ∧ st.maxId < w.id)
  | [], st => by simp [criticalClauses, axBidsC, AxCut.Named.findClause]
  | x :: xs, st => by
    have hf := freshenCtx_spec (shrinkContext env.codata x.args) st
    have hi := freshenCtx_ids (c := shrinkContext env.codata x.args) (st := st)
    simp only [criticalClauses]
    revert hf hi
    generalize freshenCtx (shrinkContext env.codata x.args) st = r1
    obtain ⟨envC, st1⟩ := r1
    intro hf hi
    simp only [freshIdentifier]
    have ih := criticalClauses_crit env vE tty t2 xs { st1 with maxId := st1.maxId + 1 }
    revert ih
    generalize criticalClauses env vE tty t2 xs { st1 with maxId := st1.maxId + 1 } = r2
    obtain ⟨rest, st2⟩ := r2
    intro ih
    simp only at hf hi ih ⊢
    obtain ⟨ih1, ih2, ih3, ih4⟩ := ih
    have hm1 : st.maxId ≤ st1.maxId := by rw [hf.2.1]; omega
    refine ⟨by omega, ?_, ?_, ?_⟩
    · intro i hi'
      simp only [axBidsC, axBids, List.mem_append, List.mem_cons, axBids_axSubst] at hi'
      rcases hi' with h | (h | h) | h
      · have := hi.2 i h; left; omega
      · left; subst h; simp only [shrinkIdentifier]; omega
      · right; exact h
      · rcases ih2 i h with h' | h'
        · left; omega
        · right; exact h'
    · intro K sig hfind
      simp only [List.find?_cons] at hfind
      simp only [AxCut.Named.findClause, sid_beq]
      split at hfind
      · rename_i hx
        simp only [Option.some.injEq] at hfind
        subst hfind
        have : x.name = K := eq_of_beq hx
        subst this
        simp only [beq_self_eq_true, if_true]
        refine ⟨envC, sid ⟨vE.name, st1.maxId + 1⟩, rfl, by rw [hf.2.2]; simp [shrinkContext], hi.1, ?_, ?_, ?_⟩
        · intro i h; have := hi.2 i h; omega
        · simp only [shrinkIdentifier]; omega
        · simp only [shrinkIdentifier]; omega
      · rename_i hx
        simp only [hx]
        obtain ⟨envC', w, h1, h2, h3, h4, h5, h6⟩ := ih3 K sig hfind
        refine ⟨envC', w, h1, h2, h3, ?_, by omega, h6⟩
        intro i h; have := h4 i h; omega
    · intro tag envC0 w ty'' tg envC' t fv hfind
      simp only [AxCut.Named.findClause] at hfind
      split at hfind
      · simp only [Option.some.injEq, Prod.mk.injEq, AxCut.Stmt.letS.injEq] at hfind
        obtain ⟨_, rfl, _, _, _, rfl, _⟩ := hfind
        exact ⟨rfl, by simp only [shrinkIdentifier]; omega⟩
      · obtain ⟨h1, h2⟩ := ih4 tag envC0 w ty'' tg envC' t fv hfind
        exact ⟨h1, by omega⟩

/-- what a successful call of `shrink` on `renStmt f s` guarantees -/
def Post (E : TEnv) (q : AxCut.Prog) (Γ : Core.Ctx) (f : Core.Ident → Core.Ident) (s : Core.FsStmt) (st : St)
    (t : AxCut.Stmt) (st' : St) : Prop :=
  (∀ h : HMap, Agree Γ h f → Tr E q Γ h s t) ∧
  (∀ i ∈ axBids t, (i ∈ s.binderIds ∨ st.maxId < i) ∧ i ≤ st'.maxId)

/-- every successful call of `rec` on a well-shaped, scoped statement under the renaming invariant satisfies `Post` -/
def RecTr (E : TEnv) (q : AxCut.Prog) (rec : Rec) : Prop :=
  ∀ Γ f s st t st', rec (renStmt f s) st = .ok (t, st') → Good q st' → wtStmt E s = true →
    scStmt Γ s = true → InvB Γ f s.binderIds st.maxId → Post E q Γ f s st t st'

theorem InvB.enterS {Γ f B m} (h : InvB Γ f B m) (Δ : Core.Ctx) (B' : List Nat)
    (hs : (Δ.map (·.var.id) ++ B').Sublist B) : InvB (Δ ++ Γ) f B' m := by
  have hnd := hs.nodup h.nd
  have hnd' := List.nodup_append.mp hnd
  refine h.enter Δ B' hnd'.2.1 (fun i hi => hs.subset (by simp [hi])) ?_
  intro b hb
  have hm : b.var.id ∈ Δ.map (·.var.id) := List.mem_map.mpr ⟨b, hb, rfl⟩
  exact ⟨hs.subset (by simp [hm]), fun hc => hnd'.2.2 _ hm _ hc rfl⟩

theorem bids_lift {L B0 B : List Nat} {m m1 m2 m' : Nat}
    (h : ∀ i ∈ L, (i ∈ B0 ∨ m1 < i) ∧ i ≤ m2) (hB : ∀ i ∈ B0, i ∈ B) (h1 : m ≤ m1) (h2 : m2 ≤ m') :
    ∀ i ∈ L, (i ∈ B ∨ m < i) ∧ i ≤ m' := by
  intro i hi
  obtain ⟨h3, h4⟩ := h i hi
  refine ⟨?_, by omega⟩
  rcases h3 with h3 | h3
  · exact .inl (hB i h3)
  · exact .inr (by omega)

section step
variable {E : TEnv} {q : AxCut.Prog} {env : Env} {rec : Rec}
  (hrec : RecTr E q rec) (hmono : RecRel Mono rec)
include hrec hmono

omit hmono in
theorem tr_renL {Γ f T a s0 x st t st'} (h : rec (substStmt [(a.id, f x)] (renStmt f s0)) st = .ok (t, st'))
    (hq : Good q st')
    (hwt : wtStmt E s0 = true) (hx : occFs Γ ⟨x, .cns, T⟩ = true)
    (hsc : scStmt (⟨a, .cns, T⟩ :: Γ) s0 = true)
    (inv : InvB Γ f (Core.FsStmt.cut T (.mu .prd a T s0) (.var .cns x T)).binderIds st.maxId) :
    Post E q Γ f (.cut T (.mu .prd a T s0) (.var .cns x T)) st t st' := by
  simp only [Core.FsStmt.binderIds, Core.FsTerm.binderIds, List.append_nil] at inv ⊢
  rw [substStmt_ren] at h
  have ha : a.id ∉ s0.binderIds := (List.nodup_cons.mp inv.nd).1
  have inv1 : InvB (⟨a, .cns, T⟩ :: Γ) f s0.binderIds st.maxId := inv.enterS [⟨a, .cns, T⟩] s0.binderIds (by simp)
  have inv2 := inv1.subst [(a.id, f x)] (by simpa using ha)
    (by simp only [List.mem_singleton, forall_eq]
        exact ⟨fun hc => (inv.rng _ hx).1 (by simp [hc]), (inv.rng _ hx).2⟩)
  have p1 := hrec _ _ s0 st t st' h hq hwt hsc inv2
  refine ⟨fun hm hag => .renL hx (p1.1 _ ?_), ?_⟩
  · intro b hb
    rcases occFs_cons hb with rfl | ⟨hne, hb'⟩
    · simp [HMap.set_self, Function.comp, inv.fid a (by simp), substIdent, hag _ hx]
    · rw [HMap.set_ne _ _ (var_ne_of_id_ne hne), hag b hb']
      simp only [Function.comp]
      rw [substIdent_of_not_dom]
      simp only [List.mem_singleton, forall_eq]
      intro e
      exact (inv.rng b hb').1 (by simp [← e])
  · intro i hi
    have := p1.2 i hi
    simp only [Core.FsStmt.binderIds, Core.FsTerm.binderIds, List.append_nil, List.mem_cons]
    exact ⟨this.1.elim (fun h => .inl (.inr h)) .inr, this.2⟩

omit hmono in
theorem tr_renR {Γ f T y s0 x st t st'} (h : rec (substStmt [(y.id, f x)] (renStmt f s0)) st = .ok (t, st'))
    (hq : Good q st')
    (hwt : wtStmt E s0 = true) (hx : occFs Γ ⟨x, .prd, T⟩ = true)
    (hsc : scStmt (⟨y, .prd, T⟩ :: Γ) s0 = true)
    (inv : InvB Γ f (Core.FsStmt.cut T (.var .prd x T) (.mu .cns y T s0)).binderIds st.maxId) :
    Post E q Γ f (.cut T (.var .prd x T) (.mu .cns y T s0)) st t st' := by
  simp only [Core.FsStmt.binderIds, Core.FsTerm.binderIds, List.nil_append] at inv ⊢
  rw [substStmt_ren] at h
  have ha : y.id ∉ s0.binderIds := (List.nodup_cons.mp inv.nd).1
  have inv1 : InvB (⟨y, .prd, T⟩ :: Γ) f s0.binderIds st.maxId := inv.enterS [⟨y, .prd, T⟩] s0.binderIds (by simp)
  have inv2 := inv1.subst [(y.id, f x)] (by simpa using ha)
    (by simp only [List.mem_singleton, forall_eq]
        exact ⟨fun hc => (inv.rng _ hx).1 (by simp [hc]), (inv.rng _ hx).2⟩)
  have p1 := hrec _ _ s0 st t st' h hq hwt hsc inv2
  refine ⟨fun hm hag => .renR hx (p1.1 _ ?_), ?_⟩
  · intro b hb
    rcases occFs_cons hb with rfl | ⟨hne, hb'⟩
    · simp [HMap.set_self, Function.comp, inv.fid y (by simp), substIdent, hag _ hx]
    · rw [HMap.set_ne _ _ (var_ne_of_id_ne hne), hag b hb']
      simp only [Function.comp]
      rw [substIdent_of_not_dom]
      simp only [List.mem_singleton, forall_eq]
      intro e
      exact (inv.rng b hb').1 (by simp [← e])
  · intro i hi
    have := p1.2 i hi
    simp only [Core.FsStmt.binderIds, Core.FsTerm.binderIds, List.nil_append, List.mem_cons]
    exact ⟨this.1.elim (fun h => .inl (.inr h)) .inr, this.2⟩

/-- a binder `b0` whose scope `s0` is translated by the recursive call in the same state: the shape
    shared by `lit/μ~`, `op/μ~`, `let` -/
theorem tr_under_binder {Γ f st t0 st'} {b0 : Core.Binding} {s0 : Core.FsStmt} {B : List Nat}
    (h : rec (renStmt f s0) st = .ok (t0, st')) (hq : Good q st') (hwt : wtStmt E s0 = true)
    (hsc : scStmt (b0 :: Γ) s0 = true) (inv : InvB Γ f B st.maxId)
    (hB : ([b0].map (·.var.id) ++ s0.binderIds).Sublist B) :
    (∀ hm : HMap, Agree Γ hm f → Avoids Γ hm b0.var.id ∧ Tr E q (b0 :: Γ) (hm.set b0.var b0.var.id) s0 t0) ∧
    (∀ i ∈ axBids t0, (i ∈ B ∨ st.maxId < i) ∧ i ≤ st'.maxId) ∧ b0.var.id ∈ B ∧ b0.var.id ≤ st'.maxId ∧
    (∀ i ∈ axBids t0, (i ∈ s0.binderIds ∨ st.maxId < i) ∧ i ≤ st'.maxId) := by
  have inv1 : InvB (b0 :: Γ) f s0.binderIds st.maxId := inv.enterS [b0] s0.binderIds hB
  have p1 := hrec _ _ s0 st t0 st' h hq hwt hsc inv1
  have hmem : b0.var.id ∈ B := hB.subset (by simp)
  have m1 : st.maxId ≤ st'.maxId := (hmono _ _ _ _ h).le
  refine ⟨fun hm hag => ⟨hag.avoids_binder inv hmem, p1.1 _ (hag.cons (inv.fid _ hmem))⟩, ?_, hmem, ?_, p1.2⟩
  · exact bids_lift p1.2 (fun i hi => hB.subset (by simp [hi])) (Nat.le_refl _) (Nat.le_refl _)
  · have := inv.bm _ hmem; omega

theorem tr_litMu {Γ f n x s0 st t0 st'} (h : rec (renStmt f s0) st = .ok (t0, st')) (hq : Good q st')
    (hwt : wtStmt E s0 = true) (hsc : scStmt (⟨x, .prd, .i64⟩ :: Γ) s0 = true)
    (inv : InvB Γ f (Core.FsStmt.cut .i64 (.lit n) (.mu .cns x .i64 s0)).binderIds st.maxId) :
    Post E q Γ f (.cut .i64 (.lit n) (.mu .cns x .i64 s0)) st (.lit (sid x) n t0 none) st' := by
  obtain ⟨h1, h2, h3, h4, _⟩ := tr_under_binder hrec hmono (b0 := ⟨x, .prd, .i64⟩) h hq hwt hsc inv
    (by simp [Core.FsStmt.binderIds, Core.FsTerm.binderIds])
  refine ⟨fun hm hag => .litMu (h1 hm hag).1 (h1 hm hag).2, ?_⟩
  intro i hi
  simp only [axBids, List.mem_cons] at hi
  rcases hi with rfl | hi
  · exact ⟨.inl h3, h4⟩
  · exact h2 i hi

omit hrec hmono in
theorem tr_litVar {Γ f n α st} (hα : occFs Γ ⟨α, .cns, .i64⟩ = true) {B} (inv : InvB Γ f B st.maxId) :
    Post E q Γ f (.cut .i64 (.lit n) (.var .cns α .i64)) st
      (.lit (sid ⟨"x", st.maxId + 1⟩) n (invokeRet (f α) ⟨"x", st.maxId + 1⟩) none)
      { st with maxId := st.maxId + 1 } := by
  refine ⟨fun hm hag => ?_, ?_⟩
  · refine .litVar hα ?_ (by simp [shrinkIdentifier, hag _ hα]) (by simp [axIds, shrinkIdentifier])
    rw [hag _ hα]
    have : (f α).id ≤ st.maxId := (inv.rng _ hα).2
    simp only [shrinkIdentifier]; omega
  · intro i hi
    simp only [axBids, invokeRet, List.mem_cons, List.not_mem_nil, or_false] at hi
    subst hi
    simp only [shrinkIdentifier]
    exact ⟨.inr (by omega), by omega⟩

theorem tr_opMu {Γ f a o b x s0 st t0 st'} (h : rec (renStmt f s0) st = .ok (t0, st')) (hq : Good q st')
    (ha : occFs Γ ⟨a, .prd, .i64⟩ = true) (hb : occFs Γ ⟨b, .prd, .i64⟩ = true)
    (hwt : wtStmt E s0 = true) (hsc : scStmt (⟨x, .prd, .i64⟩ :: Γ) s0 = true)
    (inv : InvB Γ f (Core.FsStmt.cut .i64 (.op a o b) (.mu .cns x .i64 s0)).binderIds st.maxId) :
    Post E q Γ f (.cut .i64 (.op a o b) (.mu .cns x .i64 s0)) st
      (.op (sid x) (sid (f a)) (shrinkBinop o) (sid (f b)) t0 none) st' := by
  obtain ⟨h1, h2, h3, h4, _⟩ := tr_under_binder hrec hmono (b0 := ⟨x, .prd, .i64⟩) h hq hwt hsc inv
    (by simp [Core.FsStmt.binderIds, Core.FsTerm.binderIds])
  refine ⟨fun hm hag => .opMu ha hb (by simp [shrinkIdentifier, hag _ ha]) (by simp [shrinkIdentifier, hag _ hb])
    (h1 hm hag).1 (h1 hm hag).2, ?_⟩
  intro i hi
  simp only [axBids, List.mem_cons] at hi
  rcases hi with rfl | hi
  · exact ⟨.inl h3, h4⟩
  · exact h2 i hi

omit hrec hmono in
theorem tr_opVar {Γ f a o b α st} (ha : occFs Γ ⟨a, .prd, .i64⟩ = true) (hb : occFs Γ ⟨b, .prd, .i64⟩ = true)
    (hα : occFs Γ ⟨α, .cns, .i64⟩ = true) {B} (inv : InvB Γ f B st.maxId) :
    Post E q Γ f (.cut .i64 (.op a o b) (.var .cns α .i64)) st
      (.op (sid ⟨"x", st.maxId + 1⟩) (sid (f a)) (shrinkBinop o) (sid (f b))
        (invokeRet (f α) ⟨"x", st.maxId + 1⟩) none)
      { st with maxId := st.maxId + 1 } := by
  refine ⟨fun hm hag => ?_, ?_⟩
  · refine .opVar ha hb (by simp [shrinkIdentifier, hag _ ha]) (by simp [shrinkIdentifier, hag _ hb]) hα ?_
      (by simp [shrinkIdentifier, hag _ hα]) (by simp [axIds, shrinkIdentifier])
    rw [hag _ hα]
    have : (f α).id ≤ st.maxId := (inv.rng _ hα).2
    simp only [shrinkIdentifier]; omega
  · intro i hi
    simp only [axBids, invokeRet, List.mem_cons, List.not_mem_nil, or_false] at hi
    subst hi
    simp only [shrinkIdentifier]
    exact ⟨.inr (by omega), by omega⟩

theorem tr_letData {Γ f T K args x s0 d sig st t0 st'} (h : rec (renStmt f s0) st = .ok (t0, st')) (hq : Good q st')
    (hc : isCodata E.codata T = false) (hd : declOf E T = some d)
    (hsig : d.xtors.find? (fun x => x.name == K) = some sig) (hm : sigMatch args sig.args = true)
    (hocc : ∀ b ∈ args, occFs Γ b = true)
    (hwt : wtStmt E s0 = true) (hsc : scStmt (⟨x, .prd, T⟩ :: Γ) s0 = true)
    (inv : InvB Γ f (Core.FsStmt.cut T (.xtor .prd K args T) (.mu .cns x T s0)).binderIds st.maxId) :
    Post E q Γ f (.cut T (.xtor .prd K args T) (.mu .cns x T s0)) st
      (.letS (sid x) (shrinkTy T) (sid K) (shrinkContext env.codata (renCtx f args)) t0 none) st' := by
  obtain ⟨h1, h2, h3, h4, _⟩ := tr_under_binder hrec hmono (b0 := ⟨x, .prd, T⟩) h hq hwt hsc inv
    (by simp [Core.FsStmt.binderIds, Core.FsTerm.binderIds])
  refine ⟨fun hh hag => .letData hc hd hsig hm hocc (by rw [axIds_shrinkContext_ren, hag.map hocc])
    (h1 hh hag).1 (h1 hh hag).2, ?_⟩
  intro i hi
  simp only [axBids, List.mem_cons] at hi
  rcases hi with rfl | hi
  · exact ⟨.inl h3, h4⟩
  · exact h2 i hi

theorem tr_letCodata {Γ f T K args a s0 d sig st t0 st'} (h : rec (renStmt f s0) st = .ok (t0, st')) (hq : Good q st')
    (hc : isCodata E.codata T = true) (hd : declOf E T = some d)
    (hsig : d.xtors.find? (fun x => x.name == K) = some sig) (hm : sigMatch args sig.args = true)
    (hocc : ∀ b ∈ args, occFs Γ b = true)
    (hwt : wtStmt E s0 = true) (hsc : scStmt (⟨a, .cns, T⟩ :: Γ) s0 = true)
    (inv : InvB Γ f (Core.FsStmt.cut T (.mu .prd a T s0) (.xtor .cns K args T)).binderIds st.maxId) :
    Post E q Γ f (.cut T (.mu .prd a T s0) (.xtor .cns K args T)) st
      (.letS (sid a) (shrinkTy T) (sid K) (shrinkContext env.codata (renCtx f args)) t0 none) st' := by
  obtain ⟨h1, h2, h3, h4, _⟩ := tr_under_binder hrec hmono (b0 := ⟨a, .cns, T⟩) h hq hwt hsc inv
    (by simp [Core.FsStmt.binderIds, Core.FsTerm.binderIds])
  refine ⟨fun hh hag => .letCodata hc hd hsig hm hocc (by rw [axIds_shrinkContext_ren, hag.map hocc])
    (h1 hh hag).1 (h1 hh hag).2, ?_⟩
  intro i hi
  simp only [axBids, List.mem_cons] at hi
  rcases hi with rfl | hi
  · exact ⟨.inl h3, h4⟩
  · exact h2 i hi

omit hrec hmono in
theorem tr_invokeData {Γ f T K args α d sig st} (hc : isCodata E.codata T = false) (hd : declOf E T = some d)
    (hsig : d.xtors.find? (fun x => x.name == K) = some sig) (hm : sigMatch args sig.args = true)
    (hocc : ∀ b ∈ args, occFs Γ b = true) (hα : occFs Γ ⟨α, .cns, T⟩ = true) :
    Post E q Γ f (.cut T (.xtor .prd K args T) (.var .cns α T)) st
      (.invoke (sid (f α)) (sid K) (shrinkTy T) (shrinkContext env.codata (renCtx f args))) st :=
  ⟨fun _ hag => .invokeData hc hd hsig hm hocc (by rw [axIds_shrinkContext_ren, hag.map hocc]) hα
    (by simp [shrinkIdentifier, hag _ hα]), by simp [axBids]⟩

omit hrec hmono in
theorem tr_invokeCodata {Γ f T K args x d sig st} (hc : isCodata E.codata T = true) (hd : declOf E T = some d)
    (hsig : d.xtors.find? (fun x => x.name == K) = some sig) (hm : sigMatch args sig.args = true)
    (hocc : ∀ b ∈ args, occFs Γ b = true) (hx : occFs Γ ⟨x, .prd, T⟩ = true) :
    Post E q Γ f (.cut T (.var .prd x T) (.xtor .cns K args T)) st
      (.invoke (sid (f x)) (sid K) (shrinkTy T) (shrinkContext env.codata (renCtx f args))) st :=
  ⟨fun _ hag => .invokeCodata hc hd hsig hm hocc (by rw [axIds_shrinkContext_ren, hag.map hocc]) hx
    (by simp [shrinkIdentifier, hag _ hx]), by simp [axBids]⟩

omit hrec hmono in
theorem tr_unkInt {Γ f x α st} (hx : occFs Γ ⟨x, .prd, .i64⟩ = true) (hα : occFs Γ ⟨α, .cns, .i64⟩ = true) :
    Post E q Γ f (.cut .i64 (.var .prd x .i64) (.var .cns α .i64)) st
      (.invoke (sid (f α)) (sid retName) contTy [⟨sid (f x), .ext, .i64⟩]) st :=
  ⟨fun _ hag => .unkInt hx hα (by simp [shrinkIdentifier, hag _ hα]) (by simp [axIds, shrinkIdentifier, hag _ hx]),
    by simp [axBids]⟩

omit hrec hmono in
theorem etaShape_of_unknown {Γ f B} {st : St} (inv : InvB Γ f B st.maxId) (vE : Core.Ident) (tty : AxCut.Ty)
    (xs : List Core.XtorSig) {hm : HMap} (hag : Agree Γ hm f) :
    EtaShape Γ hm (f vE).id xs (unknownClauses env (f vE) tty xs st).1 := by
  intro K sig hsig
  obtain ⟨envC, h1, h2, h3, h4⟩ := (unknownClauses_eta env (f vE) tty xs st).2.2 K sig hsig
  exact ⟨envC, sid (f vE), tty, envC, h1, rfl, h2, rfl, h3, fun i hi => hag.avoids_fresh inv (h4 i hi).1⟩

omit hrec hmono in
theorem tr_unkData {Γ f T x α d st B} (hc : isCodata E.codata T = false) (hd : declOf E T = some d)
    (hx : occFs Γ ⟨x, .prd, T⟩ = true) (hα : occFs Γ ⟨α, .cns, T⟩ = true) (inv : InvB Γ f B st.maxId) :
    Post E q Γ f (.cut T (.var .prd x T) (.var .cns α T)) st
      (.switch (sid (f x)) (shrinkTy T) (unknownClauses env (f α) (shrinkTy T) d.xtors st).1 none)
      (unknownClauses env (f α) (shrinkTy T) d.xtors st).2 := by
  refine ⟨fun hm hag => .unkData hc hd hx hα (by simp [shrinkIdentifier, hag _ hx]) ?_, ?_⟩
  · rw [hag _ hα]; exact etaShape_of_unknown inv α _ _ hag
  · intro i hi
    simp only [axBids] at hi
    have := (unknownClauses_eta env (f α) (shrinkTy T) d.xtors st).2.1 i hi
    exact ⟨.inr this.1, this.2⟩

omit hrec hmono in
theorem tr_unkCodata {Γ f T x α d st B} (hc : isCodata E.codata T = true) (hd : declOf E T = some d)
    (hx : occFs Γ ⟨x, .prd, T⟩ = true) (hα : occFs Γ ⟨α, .cns, T⟩ = true) (inv : InvB Γ f B st.maxId) :
    Post E q Γ f (.cut T (.var .prd x T) (.var .cns α T)) st
      (.switch (sid (f α)) (shrinkTy T) (unknownClauses env (f x) (shrinkTy T) d.xtors st).1 none)
      (unknownClauses env (f x) (shrinkTy T) d.xtors st).2 := by
  refine ⟨fun hm hag => .unkCodata hc hd hx hα (by simp [shrinkIdentifier, hag _ hα]) ?_, ?_⟩
  · rw [hag _ hx]; exact etaShape_of_unknown inv x _ _ hag
  · intro i hi
    simp only [axBids] at hi
    have := (unknownClauses_eta env (f x) (shrinkTy T) d.xtors st).2.1 i hi
    exact ⟨.inr this.1, this.2⟩

omit hrec hmono in
theorem agree_setMany {Γ hm f} (hag : Agree Γ hm f) : ∀ (ctx : Core.Ctx), (∀ b ∈ ctx, f b.var = b.var) →
    Agree (ctx ++ Γ) (hm.setMany ctx (ctx.map fun b => b.var.id)) f
  | [], _ => by simpa [HMap.setMany] using hag
  | b :: bs, hf => by
    simp only [List.map_cons, HMap.setMany, List.cons_append]
    exact (agree_setMany hag bs (fun b hb => hf b (by simp [hb]))).cons (hf b (by simp))

theorem shrinkClauses_tr {Γ f B} : ∀ (xs : List Core.XtorSig) (cl : Core.FsClauses) (st : St) (cls st'),
    shrinkClauses env rec (renClauses f cl) st = .ok (cls, st') → Good q st' → wtClauses E xs cl = true →
    scClauses Γ cl = true → InvB Γ f B st.maxId → cl.binderIds.Sublist B →
    st.maxId ≤ st'.maxId ∧
    (∀ hm : HMap, Agree Γ hm f → ClausesShape Γ hm xs cl cls ∧ ClausesTr E q Γ hm cl cls) ∧
    (∀ i ∈ axBidsC cls, (i ∈ B ∨ st.maxId < i) ∧ i ≤ st'.maxId)
  | [], .nil, st, cls, st', h, _, _, _, _, _ => by
    simp only [renClauses, shrinkClauses, Except.ok.injEq, Prod.mk.injEq] at h
    obtain ⟨rfl, rfl⟩ := h
    refine ⟨Nat.le_refl _, fun hm _ => ⟨?_, ?_⟩, by simp [axBidsC]⟩
    · intro K sig hs; simp at hs
    · intro K ctx body ctx' body' hf; simp [Core.FsClauses.find] at hf
  | [], .cons _ _ _ _, _, _, _, _, _, h, _, _, _ => by simp [wtClauses] at h
  | _ :: _, .nil, _, _, _, _, _, h, _, _, _ => by simp [wtClauses] at h
  | x :: xs, .cons tag ctx body rest, st, cls, st', h, hq, hwt, hsc, inv, hB => by
    simp only [wtClauses, Bool.and_eq_true, beq_iff_eq] at hwt
    obtain ⟨⟨⟨htag, hsm⟩, hwb⟩, hwr⟩ := hwt
    simp only [scClauses, Bool.and_eq_true] at hsc
    simp only [Core.FsClauses.binderIds] at hB
    simp only [renClauses] at h
    obtain ⟨body', st1, rest', h1, h2, rfl⟩ := shrinkClauses_cons_inv h
    have m1 : st.maxId ≤ st1.maxId := (hmono _ _ _ _ h1).le
    have hq1 : Good q st1 := Good.of_mono (shrinkClauses_rel Mono.framePreorder hmono _ _ _ _ h2) hq
    have hBc : (Core.ctxIds ctx ++ body.binderIds).Sublist B :=
      (List.sublist_append_left _ _).trans hB
    have hndc : (Core.ctxIds ctx).Nodup := (List.nodup_append.mp (hBc.nodup inv.nd)).1
    have invb : InvB (ctx ++ Γ) f body.binderIds st.maxId := inv.enterS ctx body.binderIds hBc
    have p1 := hrec _ _ body st body' st1 h1 hq1 hwb hsc.1 invb
    obtain ⟨m2, r1, r2⟩ := shrinkClauses_tr xs rest st1 rest' st' h2 hq hwr hsc.2 (inv.mono m1)
      ((List.sublist_append_right _ _).trans hB)
    refine ⟨by omega, fun hm hag => ⟨?_, ?_⟩, ?_⟩
    · intro K sig hs
      simp only [List.find?_cons] at hs
      simp only [Core.FsClauses.find, AxCut.Named.findClause, sid_beq]
      split at hs
      · rename_i hx
        simp only [Option.some.injEq] at hs
        subst hs
        have hK : tag = K := by rw [htag]; exact eq_of_beq hx
        subst hK
        simp only [if_true, beq_self_eq_true]
        refine ⟨ctx, body, shrinkContext env.codata ctx, body', rfl, hsm, rfl, by simp [shrinkContext],
          by rw [axIds_shrinkContext]; exact hndc, ?_⟩
        intro i hi
        rw [axIds_shrinkContext] at hi
        exact hag.avoids_binder inv (hBc.subset (by simp [Core.ctxIds] at hi ⊢; exact .inl hi))
      · rename_i hx
        have hK : ¬ tag = K := by rw [htag]; simpa using hx
        have hK2 : (tag == K) = false := by simpa using hK
        simp only [hK, if_false, hK2]
        exact (r1 hm hag).1 K sig hs
    · intro K ctx0 body0 ctx0' body0' hf hfc hl
      simp only [Core.FsClauses.find] at hf
      simp only [AxCut.Named.findClause, sid_beq] at hfc
      by_cases hK : tag = K
      · subst hK
        simp only [if_true, Option.some.injEq, Prod.mk.injEq] at hf
        simp only [beq_self_eq_true, if_true, Option.some.injEq, Prod.mk.injEq] at hfc
        obtain ⟨rfl, rfl⟩ := hf
        obtain ⟨rfl, rfl⟩ := hfc
        rw [axIds_shrinkContext]
        refine p1.1 _ (agree_setMany hag ctx ?_)
        intro b hb
        exact inv.fid _ (hBc.subset (by simp [Core.ctxIds]; exact .inl ⟨b, hb, rfl⟩))
      · have hK2 : (tag == K) = false := by simpa using hK
        simp only [hK, if_false] at hf
        simp only [hK2] at hfc
        exact (r1 hm hag).2 K ctx0 body0 ctx0' body0' hf hfc hl
    · intro i hi
      simp only [axBidsC, List.mem_append] at hi
      rcases hi with hi | hi | hi
      · rw [axIds_shrinkContext] at hi
        have hm : i ∈ B := hBc.subset (by simp [Core.ctxIds] at hi ⊢; exact .inl hi)
        exact ⟨.inl hm, by have := inv.bm i hm; omega⟩
      · exact bids_lift p1.2 (fun i hi => hBc.subset (by simp [hi])) (Nat.le_refl _) m2 i hi
      · exact bids_lift r2 (fun i hi => hi) m1 (Nat.le_refl _) i hi

theorem tr_switchData {Γ f T x cl d st cls st'} (h : shrinkClauses env rec (renClauses f cl) st = .ok (cls, st'))
    (hq : Good q st')
    (hc : isCodata E.codata T = false) (hd : declOf E T = some d) (hx : occFs Γ ⟨x, .prd, T⟩ = true)
    (hwt : wtClauses E d.xtors cl = true) (hsc : scClauses Γ cl = true)
    (inv : InvB Γ f (Core.FsStmt.cut T (.var .prd x T) (.xcase .cns T cl)).binderIds st.maxId) :
    Post E q Γ f (.cut T (.var .prd x T) (.xcase .cns T cl)) st (.switch (sid (f x)) (shrinkTy T) cls none) st' := by
  simp only [Core.FsStmt.binderIds, Core.FsTerm.binderIds, List.nil_append] at inv ⊢
  obtain ⟨_, r1, r2⟩ := shrinkClauses_tr hrec hmono d.xtors cl st cls st' h hq hwt hsc inv (List.Sublist.refl _)
  refine ⟨fun hm hag => .switchData hc hd hx (by simp [shrinkIdentifier, hag _ hx]) (r1 hm hag).1 (r1 hm hag).2, ?_⟩
  intro i hi
  simp only [axBids] at hi
  simpa [Core.FsStmt.binderIds, Core.FsTerm.binderIds] using r2 i hi

theorem tr_switchCodata {Γ f T α cl d st cls st'} (h : shrinkClauses env rec (renClauses f cl) st = .ok (cls, st'))
    (hq : Good q st')
    (hc : isCodata E.codata T = true) (hd : declOf E T = some d) (hα : occFs Γ ⟨α, .cns, T⟩ = true)
    (hwt : wtClauses E d.xtors cl = true) (hsc : scClauses Γ cl = true)
    (inv : InvB Γ f (Core.FsStmt.cut T (.xcase .prd T cl) (.var .cns α T)).binderIds st.maxId) :
    Post E q Γ f (.cut T (.xcase .prd T cl) (.var .cns α T)) st (.switch (sid (f α)) (shrinkTy T) cls none) st' := by
  simp only [Core.FsStmt.binderIds, Core.FsTerm.binderIds, List.append_nil] at inv ⊢
  obtain ⟨_, r1, r2⟩ := shrinkClauses_tr hrec hmono d.xtors cl st cls st' h hq hwt hsc inv (List.Sublist.refl _)
  refine ⟨fun hm hag => .switchCodata hc hd hα (by simp [shrinkIdentifier, hag _ hα]) (r1 hm hag).1 (r1 hm hag).2, ?_⟩
  intro i hi
  simp only [axBids] at hi
  simpa [Core.FsStmt.binderIds, Core.FsTerm.binderIds] using r2 i hi

theorem tr_createData {Γ f T a s0 cl d st cls st1 t0 st'}
    (h : shrinkClauses env rec (renClauses f cl) st = .ok (cls, st1)) (h2 : rec (renStmt f s0) st1 = .ok (t0, st'))
    (hq : Good q st')
    (hc : isCodata E.codata T = false) (hd : declOf E T = some d)
    (hwt : wtClauses E d.xtors cl = true) (hsc : scClauses Γ cl = true)
    (hwt0 : wtStmt E s0 = true) (hsc0 : scStmt (⟨a, .cns, T⟩ :: Γ) s0 = true)
    (inv : InvB Γ f (Core.FsStmt.cut T (.mu .prd a T s0) (.xcase .cns T cl)).binderIds st.maxId) :
    Post E q Γ f (.cut T (.mu .prd a T s0) (.xcase .cns T cl)) st
      (.create (sid a) (shrinkTy T) none cls t0 none none) st' := by
  simp only [Core.FsStmt.binderIds, Core.FsTerm.binderIds] at inv
  obtain ⟨m1, r1, r2⟩ := shrinkClauses_tr hrec hmono d.xtors cl st cls st1 h
    (Good.of_mono (hmono _ _ _ _ h2) hq) hwt hsc inv
    (List.sublist_append_right _ _)
  obtain ⟨g1, g2, g3, g4, _⟩ := tr_under_binder hrec hmono (b0 := ⟨a, .cns, T⟩) h2 hq hwt0 hsc0 (inv.mono m1)
    (by simp)
  have m2 : st1.maxId ≤ st'.maxId := (hmono _ _ _ _ h2).le
  refine ⟨fun hm hag => .createData hc hd (g1 hm hag).1 (r1 hm hag).1 (r1 hm hag).2 (g1 hm hag).2, ?_⟩
  intro i hi
  simp only [axBids, List.mem_cons, List.mem_append] at hi
  simp only [Core.FsStmt.binderIds, Core.FsTerm.binderIds]
  rcases hi with rfl | hi | hi
  · exact ⟨.inl g3, g4⟩
  · exact bids_lift r2 (fun i hi => hi) (Nat.le_refl _) m2 i hi
  · exact bids_lift g2 (fun i hi => hi) m1 (Nat.le_refl _) i hi

theorem tr_createCodata {Γ f T x s0 cl d st cls st1 t0 st'}
    (h : shrinkClauses env rec (renClauses f cl) st = .ok (cls, st1)) (h2 : rec (renStmt f s0) st1 = .ok (t0, st'))
    (hq : Good q st')
    (hc : isCodata E.codata T = true) (hd : declOf E T = some d)
    (hwt : wtClauses E d.xtors cl = true) (hsc : scClauses Γ cl = true)
    (hwt0 : wtStmt E s0 = true) (hsc0 : scStmt (⟨x, .prd, T⟩ :: Γ) s0 = true)
    (inv : InvB Γ f (Core.FsStmt.cut T (.xcase .prd T cl) (.mu .cns x T s0)).binderIds st.maxId) :
    Post E q Γ f (.cut T (.xcase .prd T cl) (.mu .cns x T s0)) st
      (.create (sid x) (shrinkTy T) none cls t0 none none) st' := by
  simp only [Core.FsStmt.binderIds, Core.FsTerm.binderIds] at inv
  obtain ⟨m1, r1, r2⟩ := shrinkClauses_tr hrec hmono d.xtors cl st cls st1 h
    (Good.of_mono (hmono _ _ _ _ h2) hq) hwt hsc inv
    (List.sublist_append_left _ _)
  obtain ⟨g1, g2, g3, g4, _⟩ := tr_under_binder hrec hmono (b0 := ⟨x, .prd, T⟩) h2 hq hwt0 hsc0 (inv.mono m1)
    (by simp)
  have m2 : st1.maxId ≤ st'.maxId := (hmono _ _ _ _ h2).le
  refine ⟨fun hm hag => .createCodata hc hd (g1 hm hag).1 (r1 hm hag).1 (r1 hm hag).2 (g1 hm hag).2, ?_⟩
  intro i hi
  simp only [axBids, List.mem_cons, List.mem_append] at hi
  simp only [Core.FsStmt.binderIds, Core.FsTerm.binderIds]
  rcases hi with rfl | hi | hi
  · exact ⟨.inl g3, g4⟩
  · exact bids_lift r2 (fun i hi => hi) (Nat.le_refl _) m2 i hi
  · exact bids_lift g2 (fun i hi => hi) m1 (Nat.le_refl _) i hi

omit hrec hmono in
theorem findClause_ren (f) (K : Core.Ident) : ∀ (cl : Core.FsClauses),
    findClause K (renClauses f cl) = (cl.find K).map (fun cb => (cb.1, renStmt f cb.2))
  | .nil => rfl
  | .cons x c b r => by
    simp only [renClauses, findClause, Core.FsClauses.find]
    by_cases hx : x = K
    · simp [hx]
    · have : (x == K) = false := by simpa using hx
      simp only [this, hx, if_false]
      exact findClause_ren f K r

omit hrec hmono in
theorem find_sublist {K ctx body} : ∀ (cl : Core.FsClauses), cl.find K = some (ctx, body) →
    (Core.ctxIds ctx ++ body.binderIds).Sublist cl.binderIds
  | .nil, h => by simp [Core.FsClauses.find] at h
  | .cons x c b r, h => by
    simp only [Core.FsClauses.find] at h
    simp only [Core.FsClauses.binderIds]
    split at h
    · simp only [Option.some.injEq, Prod.mk.injEq] at h
      obtain ⟨rfl, rfl⟩ := h
      exact List.sublist_append_left _ _
    · exact (find_sublist r h).trans (List.sublist_append_right _ _)

omit hrec hmono in
theorem known_agree_mem (hm : HMap) : ∀ (ctx : Core.Ctx) (vars : List Core.Ident),
    (ctx.map fun b => b.var.id).Nodup → ctx.length = vars.length → ∀ b ∈ ctx,
    (hm.setMany ctx (vars.map fun v => v.id)) b.var =
      (substIdent ((ctx.map fun b => b.var.id).zip vars) b.var).id
  | [], _, _, _, b, hb => by simp at hb
  | _ :: _, [], _, hl, _, _ => by simp at hl
  | b0 :: bs, v :: vs, hnd, hl, b, hb => by
    simp only [List.map_cons, List.nodup_cons] at hnd
    simp only [List.map_cons, HMap.setMany, List.zip_cons_cons, substIdent, List.find?_cons]
    rcases List.mem_cons.mp hb with rfl | hb'
    · simp [HMap.set_self]
    · have hne : b.var.id ≠ b0.var.id := fun e => hnd.1 (by rw [← e]; exact List.mem_map.mpr ⟨b, hb', rfl⟩)
      have hne2 : (b0.var.id == b.var.id) = false := by simpa using fun e => hne e.symm
      rw [HMap.set_ne _ _ (var_ne_of_id_ne hne)]
      simp only [hne2]
      have := known_agree_mem hm bs vs hnd.2 (by simpa using hl) b hb'
      simpa [substIdent] using this

omit hmono in
/-- the common part of the two known cuts -/
theorem tr_known {Γ f} {K : Core.Ident} {args} {cl : Core.FsClauses} {ctx body st t st' B} {sig : Core.XtorSig}
    (h : rec (substStmt ((ctx.map fun b => b.var.id).zip ((renCtx f args).map (·.var))) (renStmt f body)) st =
      .ok (t, st')) (hq : Good q st')
    (hf : cl.find K = some (ctx, body)) (hm : sigMatch args sig.args = true)
    (hocc : ∀ b ∈ args, occFs Γ b = true) (hm2 : sigMatch ctx sig.args = true)
    (hwt : wtStmt E body = true) (hsc : scStmt (ctx ++ Γ) body = true)
    (inv : InvB Γ f B st.maxId) (hB : cl.binderIds.Sublist B) :
    (∀ hh : HMap, Agree Γ hh f → Tr E q (ctx ++ Γ) (hh.setMany ctx (args.map fun b => hh b.var)) body t) ∧
    (∀ i ∈ axBids t, (i ∈ B ∨ st.maxId < i) ∧ i ≤ st'.maxId) := by
  rw [substStmt_ren] at h
  have hBc : (Core.ctxIds ctx ++ body.binderIds).Sublist B := (find_sublist cl hf).trans hB
  have hnd := List.nodup_append.mp (hBc.nodup inv.nd)
  have inv1 : InvB (ctx ++ Γ) f body.binderIds st.maxId := inv.enterS ctx body.binderIds hBc
  have hlen : ctx.length = args.length := by rw [sigMatch_length hm2, sigMatch_length hm]
  have inv2 := inv1.subst ((ctx.map fun b => b.var.id).zip ((renCtx f args).map (·.var)))
    (by intro p hp hc
        have := (List.of_mem_zip hp).1
        exact hnd.2.2 _ this _ hc rfl)
    (by intro p hp
        have := (List.of_mem_zip hp).2
        simp only [renCtx, renBinding, List.map_map, List.mem_map, Function.comp] at this
        obtain ⟨b, hb, hbe⟩ := this
        rw [← hbe]
        have := inv.rng b (hocc b hb)
        exact ⟨fun hc => this.1 (hBc.subset (by simp [hc])), this.2⟩)
  have p1 := hrec _ _ body st t st' h hq hwt hsc inv2
  refine ⟨fun hh hag => p1.1 _ ?_, bids_lift p1.2 (fun i hi => hBc.subset (by simp [hi])) (Nat.le_refl _) (Nat.le_refl _)⟩
  intro b hb
  simp only [Function.comp]
  rcases occFs_append hb with hmem | ⟨hnm, ho⟩
  · have hid : b.var.id ∈ B := hBc.subset (by simp [Core.ctxIds]; exact .inl ⟨b, hmem, rfl⟩)
    rw [inv.fid _ hid, ← hag.map hocc]
    have := known_agree_mem hh ctx ((renCtx f args).map (·.var)) hnd.1 (by simp [renCtx, hlen]) b hmem
    simp only [renCtx, renBinding, List.map_map, Function.comp_def] at this ⊢
    exact this
  · have hv : b.var ∉ ctx.map (·.var) := by
      intro hc
      obtain ⟨c, hc1, hc2⟩ := List.mem_map.mp hc
      exact hnm (List.mem_map.mpr ⟨c, hc1, by rw [hc2]⟩)
    rw [setMany_of_not_mem _ _ _ _ hv, hag b ho, substIdent_of_not_dom]
    intro p hp e
    have h1 := (List.of_mem_zip hp).1
    exact (inv.rng b ho).1 (hBc.subset (by rw [← e]; simp [Core.ctxIds] at h1 ⊢; exact .inl h1))

omit hmono in
theorem tr_knownData {Γ f T K args cl d sig ctx body st t st'}
    (h : rec (substStmt ((ctx.map fun b => b.var.id).zip ((renCtx f args).map (·.var))) (renStmt f body)) st =
      .ok (t, st')) (hq : Good q st')
    (hc : isCodata E.codata T = false) (hd : declOf E T = some d)
    (hsig : d.xtors.find? (fun x => x.name == K) = some sig)
    (hf : cl.find K = some (ctx, body)) (hm : sigMatch args sig.args = true)
    (hocc : ∀ b ∈ args, occFs Γ b = true) (hm2 : sigMatch ctx sig.args = true)
    (hwt : wtStmt E body = true) (hsc : scStmt (ctx ++ Γ) body = true)
    (inv : InvB Γ f (Core.FsStmt.cut T (.xtor .prd K args T) (.xcase .cns T cl)).binderIds st.maxId) :
    Post E q Γ f (.cut T (.xtor .prd K args T) (.xcase .cns T cl)) st t st' := by
  simp only [Core.FsStmt.binderIds, Core.FsTerm.binderIds, List.nil_append] at inv
  obtain ⟨r1, r2⟩ := tr_known hrec h hq hf hm hocc hm2 hwt hsc inv (List.Sublist.refl _)
  refine ⟨fun hh hag => .knownData hc hd hsig hm hocc hf hm2 (r1 hh hag), ?_⟩
  simpa [Core.FsStmt.binderIds, Core.FsTerm.binderIds] using r2

omit hmono in
theorem tr_knownCodata {Γ f T K args cl d sig ctx body st t st'}
    (h : rec (substStmt ((ctx.map fun b => b.var.id).zip ((renCtx f args).map (·.var))) (renStmt f body)) st =
      .ok (t, st')) (hq : Good q st')
    (hc : isCodata E.codata T = true) (hd : declOf E T = some d)
    (hsig : d.xtors.find? (fun x => x.name == K) = some sig)
    (hf : cl.find K = some (ctx, body)) (hm : sigMatch args sig.args = true)
    (hocc : ∀ b ∈ args, occFs Γ b = true) (hm2 : sigMatch ctx sig.args = true)
    (hwt : wtStmt E body = true) (hsc : scStmt (ctx ++ Γ) body = true)
    (inv : InvB Γ f (Core.FsStmt.cut T (.xcase .prd T cl) (.xtor .cns K args T)).binderIds st.maxId) :
    Post E q Γ f (.cut T (.xcase .prd T cl) (.xtor .cns K args T)) st t st' := by
  simp only [Core.FsStmt.binderIds, Core.FsTerm.binderIds, List.append_nil] at inv
  obtain ⟨r1, r2⟩ := tr_known hrec h hq hf hm hocc hm2 hwt hsc inv (List.Sublist.refl _)
  refine ⟨fun hh hag => .knownCodata hc hd hsig hm hocc hf hm2 (r1 hh hag), ?_⟩
  simpa [Core.FsStmt.binderIds, Core.FsTerm.binderIds] using r2

theorem tr_critInt {Γ f a s1 x s2 st t2 st1 t1 st'} (h1 : rec (renStmt f s2) st = .ok (t2, st1))
    (h2 : rec (renStmt f s1) st1 = .ok (t1, st')) (hq : Good q st')
    (hwt1 : wtStmt E s1 = true) (hsc1 : scStmt (⟨a, .cns, .i64⟩ :: Γ) s1 = true)
    (hwt2 : wtStmt E s2 = true) (hsc2 : scStmt (⟨x, .prd, .i64⟩ :: Γ) s2 = true)
    (inv : InvB Γ f (Core.FsStmt.cut .i64 (.mu .prd a .i64 s1) (.mu .cns x .i64 s2)).binderIds st.maxId) :
    Post E q Γ f (.cut .i64 (.mu .prd a .i64 s1) (.mu .cns x .i64 s2)) st
      (.create (sid a) contTy none (.cons (sid retName) [⟨sid x, .ext, .i64⟩] t2 .nil) t1 none none) st' := by
  simp only [Core.FsStmt.binderIds, Core.FsTerm.binderIds] at inv
  have m1 : st.maxId ≤ st1.maxId := (hmono _ _ _ _ h1).le
  have m2 : st1.maxId ≤ st'.maxId := (hmono _ _ _ _ h2).le
  obtain ⟨g1, g2, g3, g4, _⟩ := tr_under_binder hrec hmono (b0 := ⟨x, .prd, .i64⟩) h1
    (Good.of_mono (hmono _ _ _ _ h2) hq) hwt2 hsc2 inv
    (by simp only [List.map_cons, List.map_nil, List.singleton_append]; exact List.sublist_append_right _ _)
  obtain ⟨k1, k2, k3, k4, _⟩ := tr_under_binder hrec hmono (b0 := ⟨a, .cns, .i64⟩) h2 hq hwt1 hsc1 (inv.mono m1)
    (by simp)
  refine ⟨fun hm hag => .critInt (k1 hm hag).1 (g1 hm hag).1 rfl (g1 hm hag).2 (k1 hm hag).2, ?_⟩
  intro i hi
  simp only [axBids, axBidsC, axIds, List.map_cons, List.map_nil, List.mem_cons, List.mem_append,
    List.not_mem_nil, or_false] at hi
  simp only [Core.FsStmt.binderIds, Core.FsTerm.binderIds]
  rcases hi with rfl | (rfl | hi) | hi
  · exact ⟨.inl k3, k4⟩
  · exact ⟨.inl g3, by have : x.id ≤ st1.maxId := g4; show x.id ≤ _; omega⟩
  · exact bids_lift g2 (fun i hi => hi) (Nat.le_refl _) m2 i hi
  · exact bids_lift k2 (fun i hi => hi) m1 (Nat.le_refl _) i hi

omit hrec hmono in
theorem isLeafStmt_ren (f) : ∀ s, isLeafStmt (renStmt f s) = isLeafStmt s
  | .cut _ p c => by cases p <;> cases c <;> rfl
  | .ifc _ _ _ _ _ => rfl
  | .print _ _ _ => rfl
  | .call _ _ => rfl
  | .exit _ => rfl

/-- `shrink_critical_pairs` at a declared type, both orientations: `bK`/`sK` the side that is kept as
    the continuation of `create`, `bE`/`sE` the side that is eta-expanded -/
theorem tr_criticalDecl {Γ f d name tty} {bK bE : Core.Binding} {sK sE : Core.FsStmt} {st t st' B}
    (h : criticalDecl env rec d name tty bK.var (renStmt f sK) bE.var (renStmt f sE) st = .ok (t, st'))
    (hq : Good q st') (hlift : RecTr E q (lift env rec))
    (hwtK : wtStmt E sK = true) (hscK : scStmt (bK :: Γ) sK = true)
    (hwtE : wtStmt E sE = true) (hscE : scStmt (bE :: Γ) sE = true)
    (inv : InvB Γ f B st.maxId)
    (hBK : ([bK].map (·.var.id) ++ sK.binderIds).Sublist B) (hBE : ([bE].map (·.var.id) ++ sE.binderIds).Sublist B) :
    ∃ cls tK, t = .create (sid bK.var) (.decl (sid name)) none cls tK none none ∧
      (∀ hm : HMap, Agree Γ hm f → Avoids Γ hm bK.var.id ∧ CritShape Γ hm d.xtors cls ∧
        CritTr E q Γ hm bE sE cls ∧ Tr E q (bK :: Γ) (hm.set bK.var bK.var.id) sK tK) ∧
      (∀ i ∈ axBids t, (i ∈ B ∨ st.maxId < i) ∧ i ≤ st'.maxId) := by
  obtain ⟨t2, st1, tK, h1, h3, rfl⟩ := criticalDecl_inv h
  -- the expanded side is translated in place (`rec`) or lifted (`lift`)
  have key : ∃ F : Rec, RecTr E q F ∧ RecRel Mono F ∧
      (if inlineExpand d.xtors.length (renStmt f sE) = true then rec (renStmt f sE) st
       else lift env rec (renStmt f sE) st) = F (renStmt f sE) st := by
    split
    · exact ⟨rec, hrec, hmono, rfl⟩
    · exact ⟨lift env rec, hlift, lift_mono hmono, rfl⟩
  obtain ⟨F, hF, hFm, e⟩ := key
  rw [e] at h1
  have m1 : st.maxId ≤ st1.maxId := (hFm _ _ _ _ h1).le
  have hq1 : Good q st1 := Good.of_mono (Mono.framePreorder.trans
    (Mono.framePreorder.frame (criticalClauses_frame env bE.var tty t2 d.xtors st1)) (hmono _ _ _ _ h3)) hq
  obtain ⟨c1, c2, c3, c4⟩ := criticalClauses_crit env bE.var tty t2 d.xtors st1
  have m3 : (criticalClauses env bE.var tty t2 d.xtors st1).2.maxId ≤ st'.maxId := (hmono _ _ _ _ h3).le
  obtain ⟨g1, g2, g3, g4, g5⟩ := tr_under_binder hF hFm (b0 := bE) h1 hq1 hwtE hscE inv hBE
  obtain ⟨k1, k2, k3, k4, _⟩ := tr_under_binder hrec hmono (b0 := bK) h3 hq hwtK hscK
    (inv.mono (Nat.le_trans m1 c1)) hBK
  have hndE := List.nodup_append.mp (hBE.nodup inv.nd)
  have hE1 : bE.var.id ∉ sE.binderIds := fun hc => hndE.2.2 _ (by simp) _ hc rfl
  have hE2 : bE.var.id ≤ st.maxId := inv.bm _ g3
  refine ⟨_, tK, rfl, fun hm hag => ⟨(k1 hm hag).1, ?_, ?_, (k1 hm hag).2⟩, ?_⟩
  · intro K sig hsig
    obtain ⟨envC, w, f1, f2, f3, f4, f5, f6⟩ := c3 K sig hsig
    exact ⟨envC, w, tty, envC, _, none, f1, f2, rfl, f3,
      fun i hi => hag.avoids_fresh inv (by have := (f4 i hi).1; omega), hag.avoids_fresh inv (by omega)⟩
  · intro tag envC w ty'' tg envC' t fv hfind
    obtain ⟨rfl, hw⟩ := c4 tag envC w ty'' tg envC' t fv hfind
    refine Tr.axSubst bE.var.id w (g1 hm hag).2 ?_ ?_ _ ?_
    · intro hc
      rcases (g5 _ hc).1 with h' | h'
      · exact hE1 h'
      · omega
    · intro hc
      have := (g2 _ hc).2
      omega
    · intro b hb
      rcases occFs_cons hb with rfl | ⟨hne, hb'⟩
      · simp [HMap.set_self, sub1]
      · rw [HMap.set_ne _ _ (var_ne_of_id_ne hne), HMap.set_ne _ _ (var_ne_of_id_ne hne)]
        exact (sub1_of_ne ((g1 hm hag).1 b hb')).symm
  · intro i hi
    simp only [axBids, List.mem_cons, List.mem_append] at hi
    rcases hi with rfl | hi | hi
    · exact ⟨.inl k3, k4⟩
    · rcases c2 i hi with h' | h'
      · exact ⟨.inr (by omega), by omega⟩
      · exact bids_lift g2 (fun i hi => hi) (Nat.le_refl _) (Nat.le_trans c1 m3) i h'
    · exact bids_lift k2 (fun i hi => hi) (Nat.le_trans m1 c1) (Nat.le_refl _) i hi

omit hrec hmono in
theorem find_wt {K ctx body} : ∀ (xs : List Core.XtorSig) (cl : Core.FsClauses) (sig : Core.XtorSig),
    wtClauses E xs cl = true → xs.find? (fun x => x.name == K) = some sig →
    cl.find K = some (ctx, body) → sigMatch ctx sig.args = true ∧ wtStmt E body = true
  | [], .nil, _, _, h, _ => by simp at h
  | [], .cons _ _ _ _, _, h, _, _ => by simp [wtClauses] at h
  | _ :: _, .nil, _, h, _, _ => by simp [wtClauses] at h
  | y :: ys, .cons tag c b r, sig, h, hf, hfc => by
    simp only [wtClauses, Bool.and_eq_true, beq_iff_eq] at h
    obtain ⟨⟨⟨ht, hm⟩, hb⟩, hr⟩ := h
    simp only [List.find?_cons] at hf
    simp only [Core.FsClauses.find] at hfc
    split at hf
    · rename_i hy
      have : tag = K := by rw [ht]; exact eq_of_beq hy
      simp only [this, if_true, Option.some.injEq, Prod.mk.injEq] at hfc
      simp only [Option.some.injEq] at hf
      obtain ⟨rfl, rfl⟩ := hfc
      subst hf
      exact ⟨hm, hb⟩
    · rename_i hy
      have : ¬ tag = K := by rw [ht]; simpa using hy
      simp only [this, if_false] at hfc
      exact find_wt ys r sig hr hf hfc

omit hrec hmono in
theorem find_sc {Γ K ctx body} : ∀ (cl : Core.FsClauses), scClauses Γ cl = true → cl.find K = some (ctx, body) →
    scStmt (ctx ++ Γ) body = true
  | .nil, _, h => by simp [Core.FsClauses.find] at h
  | .cons tag c b r, hs, h => by
    simp only [scClauses, Bool.and_eq_true] at hs
    simp only [Core.FsClauses.find] at h
    split at h
    · simp only [Option.some.injEq, Prod.mk.injEq] at h
      obtain ⟨rfl, rfl⟩ := h
      exact hs.1
    · exact find_sc r hs.2 h

omit hrec hmono in
/-- A known cut on renamed clauses runs the clause of its xtor: the clause is there, has the parameters of the
    signature, is well typed and scoped, and the recursive call is on its body with the arguments for the parameters. -/
theorem shrinkKnownCuts_run {Γ f K args' xs sig st r} {cl : Core.FsClauses}
    (h : shrinkKnownCuts rec K args' (renClauses f cl) st = .ok r) (hcl : wtClauses E xs cl = true)
    (hsig : xs.find? (fun x => x.name == K) = some sig) (hsc : scClauses Γ cl = true) :
    ∃ ctx body, cl.find K = some (ctx, body) ∧
      rec (substStmt ((ctx.map fun b => b.var.id).zip args') (renStmt f body)) st = .ok r ∧
      sigMatch ctx sig.args = true ∧ wtStmt E body = true ∧ scStmt (ctx ++ Γ) body = true := by
  obtain ⟨ctx', body', hfc', h⟩ := shrinkKnownCuts_inv h
  rw [findClause_ren] at hfc'
  cases hfc : cl.find K with
  | none => simp [hfc] at hfc'
  | some cb =>
    obtain ⟨ctx, body⟩ := cb
    simp only [hfc, Option.map_some, Option.some.injEq, Prod.mk.injEq] at hfc'
    obtain ⟨rfl, rfl⟩ := hfc'
    obtain ⟨hm2, hwb⟩ := find_wt xs cl sig hcl hsig hfc
    exact ⟨ctx, _, rfl, h, hm2, hwb, find_sc cl hsc hfc⟩

end step

end Scc.Core2AxCut.Sem
