/-
  Scc.Core2AxCut.SemSimCut — proof file for the semantic part of C04: the simulation lemmas for the
  rules of `Tr` that translate cuts (one per arm of `shrinkCut`, both orientations), `sim_lifted` for the call
  of a lifted definition (the one rule that uses the induction hypothesis), and the main simulation theorem
  `sim_tr` by induction on the translation judgment.
-/
import Scc.Core2AxCut.SemSim

namespace Scc.Core2AxCut.Sem

open Scc.AxCut.Named (Value lookup lookupAll bindParams findDef State step)
open Strong (ResMatchS SimGoalS)

local notation "sid" => shrinkIdentifier

variable {E : TEnv} {q : AxCut.Prog} {p : Core.FsProg}

theorem codEq (hp : ProgRel E q p) (T : Core.Ty) : Core.isCodata p.codataTypes T = isCodata E.codata T := by
  rw [hp.1]; exact isCodata_eq _ _

theorem lookupAll_one {η : AxCut.Named.Env} {args' : AxCut.Ctx} {i : Nat} {v : Value}
    (h : axIds args' = [i]) (hl : lookup η i = some v) : lookupAll η args' = some [v] := by
  match args', h with
  | [b], h =>
    simp only [axIds, List.map_cons, List.map_nil, List.cons.injEq, and_true] at h
    simp [lookupAll, h, hl]

section rules
variable (hp : ProgRel E q p)
include hp

theorem sim_renL {Γ h T a s0 x t ρ η out} (hx : occFs Γ ⟨x, .cns, T⟩ = true)
    (ht : Tr E q (⟨a, .cns, T⟩ :: Γ) (h.set a (h x)) s0 t) (hr : EnvRel E q Γ h ρ η) :
    SimGoalS p q (StRel E q) ⟨.cut T (.mu .prd a T s0) (.var .cns x T), ρ, out⟩ ⟨t, η, out⟩ := by
  obtain ⟨v, v', h1, h2, h3⟩ := hr _ hx
  have hs : Core.fsStep p ⟨.cut T (.mu .prd a T s0) (.var .cns x T), ρ, out⟩ = .next ⟨s0, (a, v) :: ρ, out⟩ := by
    by_cases hc : isCodata E.codata T = true
    · obtain ⟨d, K, sig, vs, vs', rfl, _⟩ := h3.inv_dtor hc
      simp [Core.fsStep, Core.fsStepCut, codEq hp, hc, Core.fsCnsVal, Core.fsPrdVal, h1, Core.FsState.invoke,
        Core.FsState.goto]
    · simp [Core.fsStep, Core.fsStepCut, codEq hp, hc, Core.fsCnsVal, h1, Core.FsState.goto]
  exact goal_next 0 _ hs (.refl _) (stRel_mk ht (EnvRel.alias (b0 := ⟨a, .cns, T⟩) hr h3 h2))
    (by intro _; simp [sizeStmt, sizeTerm]; omega)

theorem sim_renR {Γ h T y s0 x t ρ η out} (hx : occFs Γ ⟨x, .prd, T⟩ = true)
    (ht : Tr E q (⟨y, .prd, T⟩ :: Γ) (h.set y (h x)) s0 t) (hr : EnvRel E q Γ h ρ η) :
    SimGoalS p q (StRel E q) ⟨.cut T (.var .prd x T) (.mu .cns y T s0), ρ, out⟩ ⟨t, η, out⟩ := by
  obtain ⟨v, v', h1, h2, h3⟩ := hr _ hx
  have hs : Core.fsStep p ⟨.cut T (.var .prd x T) (.mu .cns y T s0), ρ, out⟩ = .next ⟨s0, (y, v) :: ρ, out⟩ := by
    by_cases hc : isCodata E.codata T = true
    · simp [Core.fsStep, Core.fsStepCut, codEq hp, hc, Core.fsCnsVal, Core.fsPrdVal, h1, Core.FsState.goto]
    · simp [Core.fsStep, Core.fsStepCut, codEq hp, hc, Core.fsCnsVal, Core.fsPrdVal, h1, Core.FsState.pass,
        Core.FsState.goto]
  exact goal_next 0 _ hs (.refl _) (stRel_mk ht (EnvRel.alias (b0 := ⟨y, .prd, T⟩) hr h3 h2))
    (by intro _; simp [sizeStmt, sizeTerm]; omega)

omit hp in
/-- the clause of a known cut is entered on the Core side only -/
theorem knownEnter {Γ h ρ η} {args : Core.Ctx} {sig : Core.XtorSig} {ctx : Core.Ctx}
    (hr : EnvRel E q Γ h ρ η) (hm : sigMatch args sig.args = true) (hocc : ∀ b ∈ args, occFs Γ b = true)
    (hm2 : sigMatch ctx sig.args = true) :
    ∃ vs ρ', Core.Env.lookupAll ρ args = .ok vs ∧ Core.Env.bind ρ ctx vs = .ok ρ' ∧
      EnvRel E q (ctx ++ Γ) (h.setMany ctx (args.map fun b => h b.var)) ρ' η := by
  obtain ⟨vs, vs', h1, h2, h3⟩ := hr.argVals args (dummyCtx (args.map fun b => h b.var)) hocc (axIds_dummyCtx _)
  obtain ⟨ρ', h4, h5⟩ := EnvRel.aliasMany hr ctx _ vs vs' (VRelL.congr (sigMatch_trans hm (sigMatch_symm hm2)) h3) h2
  rw [axIds_dummyCtx] at h5
  exact ⟨vs, ρ', h1, h4, h5⟩

theorem sim_knownData {Γ h T K args cl} {sig : Core.XtorSig} {ctx body t ρ η out} (hc : isCodata E.codata T = false)
    (hm : sigMatch args sig.args = true) (hocc : ∀ b ∈ args, occFs Γ b = true)
    (hf : cl.find K = some (ctx, body)) (hm2 : sigMatch ctx sig.args = true)
    (ht : Tr E q (ctx ++ Γ) (h.setMany ctx (args.map fun b => h b.var)) body t) (hr : EnvRel E q Γ h ρ η) :
    SimGoalS p q (StRel E q) ⟨.cut T (.xtor .prd K args T) (.xcase .cns T cl), ρ, out⟩ ⟨t, η, out⟩ := by
  obtain ⟨vs, ρ', h1, h2, h3⟩ := knownEnter hr hm hocc hm2
  have hs : Core.fsStep p ⟨.cut T (.xtor .prd K args T) (.xcase .cns T cl), ρ, out⟩ = .next ⟨body, ρ', out⟩ := by
    simp [Core.fsStep, Core.fsStepCut, codEq hp, hc, Core.fsCnsVal, Core.fsPrdVal, h1, Core.FsState.pass,
      Core.FsState.select, hf, h2, Core.FsState.goto]
  exact goal_next 0 _ hs (.refl _) (stRel_mk ht h3)
    (by intro _; have := find_size cl hf; simp [sizeStmt, sizeTerm]; omega)

theorem sim_knownCodata {Γ h T K args cl} {sig : Core.XtorSig} {ctx body t ρ η out} (hc : isCodata E.codata T = true)
    (hm : sigMatch args sig.args = true) (hocc : ∀ b ∈ args, occFs Γ b = true)
    (hf : cl.find K = some (ctx, body)) (hm2 : sigMatch ctx sig.args = true)
    (ht : Tr E q (ctx ++ Γ) (h.setMany ctx (args.map fun b => h b.var)) body t) (hr : EnvRel E q Γ h ρ η) :
    SimGoalS p q (StRel E q) ⟨.cut T (.xcase .prd T cl) (.xtor .cns K args T), ρ, out⟩ ⟨t, η, out⟩ := by
  obtain ⟨vs, ρ', h1, h2, h3⟩ := knownEnter hr hm hocc hm2
  have hs : Core.fsStep p ⟨.cut T (.xcase .prd T cl) (.xtor .cns K args T), ρ, out⟩ = .next ⟨body, ρ', out⟩ := by
    simp [Core.fsStep, Core.fsStepCut, codEq hp, hc, Core.fsCnsVal, Core.fsPrdVal, h1, Core.FsState.invoke,
      Core.FsState.select, hf, h2, Core.FsState.goto]
  exact goal_next 0 _ hs (.refl _) (stRel_mk ht h3)
    (by intro _; have := find_size cl hf; simp [sizeStmt, sizeTerm]; omega)

omit hp in
theorem sim_litMu {Γ h n x s0 x' t fv ρ η out} (hav : Avoids Γ h x'.id)
    (ht : Tr E q (⟨x, .prd, .i64⟩ :: Γ) (h.set x x'.id) s0 t) (hr : EnvRel E q Γ h ρ η) :
    SimGoalS p q (StRel E q) ⟨.cut .i64 (.lit n) (.mu .cns x .i64 s0), ρ, out⟩ ⟨.lit x' n t fv, η, out⟩ := by
  have hs : Core.fsStep p ⟨.cut .i64 (.lit n) (.mu .cns x .i64 s0), ρ, out⟩ =
      .next ⟨s0, (x, .int (BitVec.ofInt 64 n)) :: ρ, out⟩ := by
    simp [Core.fsStep, Core.fsStepCut, Core.isCodata, Core.fsCnsVal, Core.fsPrdVal, Core.FsState.pass,
      Core.FsState.goto]
  exact goal_next 1 _ hs (.one (step_lit q _ _ _ _ _ _))
    (stRel_mk ht (EnvRel.cons (b0 := ⟨x, .prd, .i64⟩) hr (VRel.int _) hav)) (by omega)

omit hp in
theorem sim_litVar {Γ h n α w v ty' args' fv ρ η out} (hα : occFs Γ ⟨α, .cns, .i64⟩ = true)
    (hw : w.id ≠ h α) (hv : v.id = h α) (hargs : axIds args' = [w.id]) (hr : EnvRel E q Γ h ρ η) :
    SimGoalS p q (StRel E q) ⟨.cut .i64 (.lit n) (.var .cns α .i64), ρ, out⟩
      ⟨.lit w n (.invoke v (sid retName) ty' args') fv, η, out⟩ := by
  obtain ⟨cv, cv', h1, h2, h3⟩ := hr _ hα
  obtain ⟨cs', η', cls, rfl, h4, h6⟩ := applyCnsInt h3 (BitVec.ofInt 64 n)
    ⟨.cut .i64 (.lit n) (.var .cns α .i64), ρ, out⟩
  have hs : Core.fsStep p ⟨.cut .i64 (.lit n) (.var .cns α .i64), ρ, out⟩ = .next cs' := by
    simp [Core.fsStep, Core.fsStepCut, Core.isCodata, Core.fsCnsVal, Core.fsPrdVal, h1, h4]
  obtain ⟨as', h7, h8⟩ := h6 v ty' args' ((w.id, .int (BitVec.ofInt 64 n)) :: η)
    (by rw [hv, lookup_cons_ne _ _ (fun e => hw e.symm)]; exact h2)
    (lookupAll_one hargs (lookup_cons_self _ _ _))
  exact goal_next 2 as' hs (.cons (step_lit q _ _ _ _ _ _) h7) h8 (by omega)

omit hp in
theorem sim_opMu {Γ h a o b x s0 x' va vb t fv ρ η out} (ha : occFs Γ ⟨a, .prd, .i64⟩ = true)
    (hb : occFs Γ ⟨b, .prd, .i64⟩ = true) (hva : va.id = h a) (hvb : vb.id = h b) (hav : Avoids Γ h x'.id)
    (ht : Tr E q (⟨x, .prd, .i64⟩ :: Γ) (h.set x x'.id) s0 t) (hr : EnvRel E q Γ h ρ η) :
    SimGoalS p q (StRel E q) ⟨.cut .i64 (.op a o b) (.mu .cns x .i64 s0), ρ, out⟩
      ⟨.op x' va (shrinkBinop o) vb t fv, η, out⟩ := by
  obtain ⟨m, h1, _, h2⟩ := hr.int ha
  obtain ⟨n, h3, _, h4⟩ := hr.int hb
  cases hz : Core.arith o m n with
  | ok z =>
    have hs : Core.fsStep p ⟨.cut .i64 (.op a o b) (.mu .cns x .i64 s0), ρ, out⟩ =
        .next ⟨s0, (x, .int z) :: ρ, out⟩ := by
      simp [Core.fsStep, Core.fsStepCut, Core.isCodata, Core.fsCnsVal, Core.fsPrdVal, h1, h3, hz,
        Core.FsState.pass, Core.FsState.goto]
    exact goal_next 1 _ hs
      (.one (step_op_ok q (by rw [hva]; exact h2) (by rw [hvb]; exact h4) (evalOp_ok hz)))
      (stRel_mk ht (EnvRel.cons (b0 := ⟨x, .prd, .i64⟩) hr (VRel.int _) hav)) (by omega)
  | error e =>
    have hs : Core.fsStep p ⟨.cut .i64 (.op a o b) (.mu .cns x .i64 s0), ρ, out⟩ = .final (.stuck e) := by
      simp [Core.fsStep, Core.fsStepCut, Core.isCodata, Core.fsPrdVal, h1, h3, hz, Core.stuck]
    exact goal_final 0 _ (.stuck e.render) hs (.refl _)
      (step_op_err q (by rw [hva]; exact h2) (by rw [hvb]; exact h4) (evalOp_err hz)) rfl

omit hp in
theorem sim_opVar {Γ h a o b α w va vb v ty' args' fv ρ η out} (ha : occFs Γ ⟨a, .prd, .i64⟩ = true)
    (hb : occFs Γ ⟨b, .prd, .i64⟩ = true) (hva : va.id = h a) (hvb : vb.id = h b)
    (hα : occFs Γ ⟨α, .cns, .i64⟩ = true) (hw : w.id ≠ h α) (hv : v.id = h α) (hargs : axIds args' = [w.id])
    (hr : EnvRel E q Γ h ρ η) :
    SimGoalS p q (StRel E q) ⟨.cut .i64 (.op a o b) (.var .cns α .i64), ρ, out⟩
      ⟨.op w va (shrinkBinop o) vb (.invoke v (sid retName) ty' args') fv, η, out⟩ := by
  obtain ⟨m, h1, _, h2⟩ := hr.int ha
  obtain ⟨n, h3, _, h4⟩ := hr.int hb
  cases hz : Core.arith o m n with
  | ok z =>
    obtain ⟨cv, cv', g1, g2, g3⟩ := hr _ hα
    obtain ⟨cs', η', cls, rfl, g4, g6⟩ := applyCnsInt g3 z ⟨.cut .i64 (.op a o b) (.var .cns α .i64), ρ, out⟩
    have hs : Core.fsStep p ⟨.cut .i64 (.op a o b) (.var .cns α .i64), ρ, out⟩ = .next cs' := by
      simp [Core.fsStep, Core.fsStepCut, Core.isCodata, Core.fsCnsVal, Core.fsPrdVal, h1, h3, hz, g1, g4]
    obtain ⟨as', g7, g8⟩ := g6 v ty' args' ((w.id, .int z) :: η)
      (by rw [hv, lookup_cons_ne _ _ (fun e => hw e.symm)]; exact g2)
      (lookupAll_one hargs (lookup_cons_self _ _ _))
    exact goal_next 2 as' hs
      (.cons (step_op_ok q (by rw [hva]; exact h2) (by rw [hvb]; exact h4) (evalOp_ok hz)) g7) g8
      (by omega)
  | error e =>
    have hs : Core.fsStep p ⟨.cut .i64 (.op a o b) (.var .cns α .i64), ρ, out⟩ = .final (.stuck e) := by
      simp [Core.fsStep, Core.fsStepCut, Core.isCodata, Core.fsPrdVal, h1, h3, hz, Core.stuck]
    exact goal_final 0 _ (.stuck e.render) hs (.refl _)
      (step_op_err q (by rw [hva]; exact h2) (by rw [hvb]; exact h4) (evalOp_err hz)) rfl

theorem sim_letData {Γ h T K args x s0 d sig x' ty' args' t fv ρ η out} (hc : isCodata E.codata T = false)
    (hd : declOf E T = some d) (hsig : d.xtors.find? (fun x => x.name == K) = some sig)
    (hm : sigMatch args sig.args = true) (hocc : ∀ b ∈ args, occFs Γ b = true)
    (hids : axIds args' = args.map (fun b => h b.var)) (hav : Avoids Γ h x'.id)
    (ht : Tr E q (⟨x, .prd, T⟩ :: Γ) (h.set x x'.id) s0 t) (hr : EnvRel E q Γ h ρ η) :
    SimGoalS p q (StRel E q) ⟨.cut T (.xtor .prd K args T) (.mu .cns x T s0), ρ, out⟩
      ⟨.letS x' ty' (sid K) args' t fv, η, out⟩ := by
  obtain ⟨vs, vs', h1, h2, h3⟩ := hr.argVals args args' hocc hids
  have hs : Core.fsStep p ⟨.cut T (.xtor .prd K args T) (.mu .cns x T s0), ρ, out⟩ =
      .next ⟨s0, (x, .con K vs) :: ρ, out⟩ := by
    simp [Core.fsStep, Core.fsStepCut, codEq hp, hc, Core.fsCnsVal, Core.fsPrdVal, h1, Core.FsState.pass,
      Core.FsState.goto]
  exact goal_next 1 _ hs (.one (step_let q h2))
    (stRel_mk ht (EnvRel.cons (b0 := ⟨x, .prd, T⟩) hr (VRel.con hc hd hsig (VRelL.congr hm h3)) hav)) (by omega)

theorem sim_letCodata {Γ h T K args a s0 d sig a' ty' args' t fv ρ η out} (hc : isCodata E.codata T = true)
    (hd : declOf E T = some d) (hsig : d.xtors.find? (fun x => x.name == K) = some sig)
    (hm : sigMatch args sig.args = true) (hocc : ∀ b ∈ args, occFs Γ b = true)
    (hids : axIds args' = args.map (fun b => h b.var)) (hav : Avoids Γ h a'.id)
    (ht : Tr E q (⟨a, .cns, T⟩ :: Γ) (h.set a a'.id) s0 t) (hr : EnvRel E q Γ h ρ η) :
    SimGoalS p q (StRel E q) ⟨.cut T (.mu .prd a T s0) (.xtor .cns K args T), ρ, out⟩
      ⟨.letS a' ty' (sid K) args' t fv, η, out⟩ := by
  obtain ⟨vs, vs', h1, h2, h3⟩ := hr.argVals args args' hocc hids
  have hs : Core.fsStep p ⟨.cut T (.mu .prd a T s0) (.xtor .cns K args T), ρ, out⟩ =
      .next ⟨s0, (a, .dtor K vs) :: ρ, out⟩ := by
    simp [Core.fsStep, Core.fsStepCut, codEq hp, hc, Core.fsCnsVal, Core.fsPrdVal, h1, Core.FsState.invoke,
      Core.FsState.goto]
  exact goal_next 1 _ hs (.one (step_let q h2))
    (stRel_mk ht (EnvRel.cons (b0 := ⟨a, .cns, T⟩) hr (VRel.dtor hc hd hsig (VRelL.congr hm h3)) hav)) (by omega)

theorem sim_invokeData {Γ h T K args α d sig v ty' args' ρ η out} (hc : isCodata E.codata T = false)
    (hd : declOf E T = some d) (hsig : d.xtors.find? (fun x => x.name == K) = some sig)
    (hm : sigMatch args sig.args = true) (hocc : ∀ b ∈ args, occFs Γ b = true)
    (hids : axIds args' = args.map (fun b => h b.var)) (hα : occFs Γ ⟨α, .cns, T⟩ = true) (hv : v.id = h α)
    (hr : EnvRel E q Γ h ρ η) :
    SimGoalS p q (StRel E q) ⟨.cut T (.xtor .prd K args T) (.var .cns α T), ρ, out⟩
      ⟨.invoke v (sid K) ty' args', η, out⟩ := by
  obtain ⟨vs, vs', h1, h2, h3⟩ := hr.argVals args args' hocc hids
  obtain ⟨cv, cv', g1, g2, g3⟩ := hr _ hα
  obtain ⟨η', cls, rfl⟩ := g3.cns_clo hc
  obtain ⟨cs', g4, g6⟩ := applyCns g3 hc hd hsig (VRelL.congr hm h3)
    ⟨.cut T (.xtor .prd K args T) (.var .cns α T), ρ, out⟩
  have hs : Core.fsStep p ⟨.cut T (.xtor .prd K args T) (.var .cns α T), ρ, out⟩ = .next cs' := by
    simp [Core.fsStep, Core.fsStepCut, codEq hp, hc, Core.fsCnsVal, Core.fsPrdVal, h1, g1, g4]
  obtain ⟨k, as', g7, g8⟩ := g6 v ty' args' η (by rw [hv]; exact g2) h2
  exact goal_next (k + 1) as' hs g7 g8 (by omega)

theorem sim_invokeCodata {Γ h T K args x d sig v ty' args' ρ η out} (hc : isCodata E.codata T = true)
    (hd : declOf E T = some d) (hsig : d.xtors.find? (fun x => x.name == K) = some sig)
    (hm : sigMatch args sig.args = true) (hocc : ∀ b ∈ args, occFs Γ b = true)
    (hids : axIds args' = args.map (fun b => h b.var)) (hx : occFs Γ ⟨x, .prd, T⟩ = true) (hv : v.id = h x)
    (hr : EnvRel E q Γ h ρ η) :
    SimGoalS p q (StRel E q) ⟨.cut T (.var .prd x T) (.xtor .cns K args T), ρ, out⟩
      ⟨.invoke v (sid K) ty' args', η, out⟩ := by
  obtain ⟨vs, vs', h1, h2, h3⟩ := hr.argVals args args' hocc hids
  obtain ⟨pv, pv', g1, g2, g3⟩ := hr _ hx
  obtain ⟨η', cls, rfl⟩ := g3.prd_clo hc
  obtain ⟨cs', g4, g6⟩ := applyPrd g3 hc hd hsig (VRelL.congr hm h3)
    ⟨.cut T (.var .prd x T) (.xtor .cns K args T), ρ, out⟩
  have hs : Core.fsStep p ⟨.cut T (.var .prd x T) (.xtor .cns K args T), ρ, out⟩ = .next cs' := by
    simp [Core.fsStep, Core.fsStepCut, codEq hp, hc, Core.fsCnsVal, Core.fsPrdVal, h1, g1, g4]
  obtain ⟨k, as', g7, g8⟩ := g6 v ty' args' η (by rw [hv]; exact g2) h2
  exact goal_next (k + 1) as' hs g7 g8 (by omega)

omit hp in
theorem sim_unkInt {Γ h x α v ty' args' ρ η out} (hx : occFs Γ ⟨x, .prd, .i64⟩ = true)
    (hα : occFs Γ ⟨α, .cns, .i64⟩ = true) (hv : v.id = h α) (hargs : axIds args' = [h x])
    (hr : EnvRel E q Γ h ρ η) :
    SimGoalS p q (StRel E q) ⟨.cut .i64 (.var .prd x .i64) (.var .cns α .i64), ρ, out⟩
      ⟨.invoke v (sid retName) ty' args', η, out⟩ := by
  obtain ⟨n, _, h1, h2⟩ := hr.int hx
  obtain ⟨cv, cv', g1, g2, g3⟩ := hr _ hα
  obtain ⟨cs', η', cls, rfl, g4, g6⟩ := applyCnsInt g3 n
    ⟨.cut .i64 (.var .prd x .i64) (.var .cns α .i64), ρ, out⟩
  have hs : Core.fsStep p ⟨.cut .i64 (.var .prd x .i64) (.var .cns α .i64), ρ, out⟩ = .next cs' := by
    simp [Core.fsStep, Core.fsStepCut, Core.isCodata, Core.fsCnsVal, Core.fsPrdVal, h1, g1, g4]
  obtain ⟨as', g7, g8⟩ := g6 v ty' args' η (by rw [hv]; exact g2) (lookupAll_one hargs h2)
  exact goal_next 1 as' hs g7 g8 (by omega)

omit hp in
/-- the `switch` of an eta-expansion: the clause re-sends the constructor to `target` -/
theorem etaEnter {Γ h η} {d : Core.TypeDecl} {cls K sig vs' target v ty' fv out} {cv : Value}
    (hshape : EtaShape Γ h target d.xtors cls) (hsig : d.xtors.find? (fun x => x.name == K) = some sig)
    (hlen : vs'.length = sig.args.length) (hl : lookup η v.id = some (.obj (sid K) vs'))
    (ht : lookup η target = some cv) (hav : ∀ i, Avoids Γ h i → target ≠ i) :
    ∃ w ty'' args' η1, Steps q 1 ⟨.switch v ty' cls fv, η, out⟩ ⟨.invoke w (sid K) ty'' args', η1, out⟩ ∧
      lookup η1 w.id = some cv ∧ lookupAll η1 args' = some vs' := by
  obtain ⟨envC, w, ty'', envC', h1, h2, h3, h4, h5, h6⟩ := hshape K sig hsig
  obtain ⟨e, he⟩ := bindParams_some envC vs' (by rw [h3, hlen])
  have hkeys := bindParams_keys he
  refine ⟨w, ty'', envC', e ++ η, .one (step_switch q hl h1 he), ?_, ?_⟩
  · rw [h2, lookup_append_of_not_mem]
    · exact ht
    · rw [hkeys]; intro hm; exact hav _ (h6 _ hm) rfl
  · have := lookupAll_bindParams envC envC' vs' e η he h4 h5 [] (by simp)
    simpa using this

theorem sim_unkData {Γ h T x α d v ty' cls fv ρ η out} (hc : isCodata E.codata T = false)
    (hd : declOf E T = some d) (hx : occFs Γ ⟨x, .prd, T⟩ = true) (hα : occFs Γ ⟨α, .cns, T⟩ = true)
    (hv : v.id = h x) (hshape : EtaShape Γ h (h α) d.xtors cls) (hr : EnvRel E q Γ h ρ η) :
    SimGoalS p q (StRel E q) ⟨.cut T (.var .prd x T) (.var .cns α T), ρ, out⟩ ⟨.switch v ty' cls fv, η, out⟩ := by
  obtain ⟨pv, pv', h1, h2, h3⟩ := hr _ hx
  obtain ⟨K, sig, vs, vs', rfl, rfl, hsig, hvs⟩ := h3.inv_con hc hd
  obtain ⟨cv, cv', g1, g2, g3⟩ := hr _ hα
  obtain ⟨η', cls', rfl⟩ := g3.cns_clo hc
  obtain ⟨cs', g4, g6⟩ := applyCns g3 hc hd hsig hvs ⟨.cut T (.var .prd x T) (.var .cns α T), ρ, out⟩
  have hs : Core.fsStep p ⟨.cut T (.var .prd x T) (.var .cns α T), ρ, out⟩ = .next cs' := by
    simp [Core.fsStep, Core.fsStepCut, codEq hp, hc, Core.fsCnsVal, Core.fsPrdVal, h1, g1, g4]
  obtain ⟨w, ty'', args', η1, e1, e2, e3⟩ := etaEnter (out := out) (ty' := ty') (fv := fv) hshape hsig hvs.length.2
    (by rw [hv]; exact h2) g2 (fun i hi e => hi _ hα e)
  obtain ⟨k, as', g7, g8⟩ := g6 w ty'' args' η1 e2 e3
  exact goal_next (1 + (k + 1)) as' hs (e1.trans g7) g8 (by omega)

theorem sim_unkCodata {Γ h T x α d v ty' cls fv ρ η out} (hc : isCodata E.codata T = true)
    (hd : declOf E T = some d) (hx : occFs Γ ⟨x, .prd, T⟩ = true) (hα : occFs Γ ⟨α, .cns, T⟩ = true)
    (hv : v.id = h α) (hshape : EtaShape Γ h (h x) d.xtors cls) (hr : EnvRel E q Γ h ρ η) :
    SimGoalS p q (StRel E q) ⟨.cut T (.var .prd x T) (.var .cns α T), ρ, out⟩ ⟨.switch v ty' cls fv, η, out⟩ := by
  obtain ⟨cv, cv', h1, h2, h3⟩ := hr _ hα
  obtain ⟨d2, K, sig, vs, vs', rfl, rfl, hd2, hsig, hvs⟩ := h3.inv_dtor hc
  rw [hd] at hd2; cases hd2
  obtain ⟨pv, pv', g1, g2, g3⟩ := hr _ hx
  obtain ⟨η', cls', rfl⟩ := g3.prd_clo hc
  obtain ⟨cs', g4, g6⟩ := applyPrd g3 hc hd hsig hvs ⟨.cut T (.var .prd x T) (.var .cns α T), ρ, out⟩
  have hs : Core.fsStep p ⟨.cut T (.var .prd x T) (.var .cns α T), ρ, out⟩ = .next cs' := by
    simp [Core.fsStep, Core.fsStepCut, codEq hp, hc, Core.fsCnsVal, Core.fsPrdVal, h1, g1, g4]
  obtain ⟨w, ty'', args', η1, e1, e2, e3⟩ := etaEnter (out := out) (ty' := ty') (fv := fv) hshape hsig hvs.length.2
    (by rw [hv]; exact h2) g2 (fun i hi e => hi _ hx e)
  obtain ⟨k, as', g7, g8⟩ := g6 w ty'' args' η1 e2 e3
  exact goal_next (1 + (k + 1)) as' hs (e1.trans g7) g8 (by omega)

omit hp in
theorem sim_critInt {Γ h a s1 x s2 a' x' ty' t2 t1 bx fc fn ρ η out} (ha : Avoids Γ h a'.id)
    (hx : Avoids Γ h x'.id) (hbx : bx.var = x')
    (ht2 : Tr E q (⟨x, .prd, .i64⟩ :: Γ) (h.set x x'.id) s2 t2)
    (ht1 : Tr E q (⟨a, .cns, .i64⟩ :: Γ) (h.set a a'.id) s1 t1) (hr : EnvRel E q Γ h ρ η) :
    SimGoalS p q (StRel E q) ⟨.cut .i64 (.mu .prd a .i64 s1) (.mu .cns x .i64 s2), ρ, out⟩
      ⟨.create a' ty' none (.cons (sid retName) [bx] t2 .nil) t1 fc fn, η, out⟩ := by
  have hs : Core.fsStep p ⟨.cut .i64 (.mu .prd a .i64 s1) (.mu .cns x .i64 s2), ρ, out⟩ =
      .next ⟨s1, (a, .mutilde ρ x s2) :: ρ, out⟩ := by
    simp [Core.fsStep, Core.fsStepCut, Core.isCodata, Core.fsCnsVal, Core.FsState.goto]
  obtain ⟨val, val', f1, f2, f3⟩ := skolem_of_envRel hr
  subst hbx
  have hv : VRel E q .cns .i64 (.mutilde ρ x s2) (.clo η (.cons (sid retName) [bx] t2 .nil)) :=
    VRel.mutildeInt val val' f1 f2 f3 (by simp [AxCut.Named.findClause]) hx ht2
  exact goal_next 1 _ hs (.one (step_create q _ _ _ _ _ _ _ _))
    (stRel_mk ht1 (EnvRel.cons (b0 := ⟨a, .cns, .i64⟩) hr hv ha)) (by omega)

theorem sim_critData {Γ h T a s1 x s2 d a' ty' cls t1 fc fn ρ η out} (hc : isCodata E.codata T = false)
    (hd : declOf E T = some d) (ha : Avoids Γ h a'.id) (hshape : CritShape Γ h d.xtors cls)
    (htr : CritTr E q Γ h ⟨x, .prd, T⟩ s2 cls)
    (ht1 : Tr E q (⟨a, .cns, T⟩ :: Γ) (h.set a a'.id) s1 t1) (hr : EnvRel E q Γ h ρ η) :
    SimGoalS p q (StRel E q) ⟨.cut T (.mu .prd a T s1) (.mu .cns x T s2), ρ, out⟩
      ⟨.create a' ty' none cls t1 fc fn, η, out⟩ := by
  have hs : Core.fsStep p ⟨.cut T (.mu .prd a T s1) (.mu .cns x T s2), ρ, out⟩ =
      .next ⟨s1, (a, .mutilde ρ x s2) :: ρ, out⟩ := by
    simp [Core.fsStep, Core.fsStepCut, codEq hp, hc, Core.fsCnsVal, Core.FsState.goto]
  obtain ⟨val, val', f1, f2, f3⟩ := skolem_of_envRel hr
  have hv : VRel E q .cns T (.mutilde ρ x s2) (.clo η cls) :=
    VRel.mutildeData val val' f1 f2 f3 hc hd hshape htr
  exact goal_next 1 _ hs (.one (step_create q _ _ _ _ _ _ _ _))
    (stRel_mk ht1 (EnvRel.cons (b0 := ⟨a, .cns, T⟩) hr hv ha)) (by omega)

theorem sim_critCodata {Γ h T a s1 x s2 d x' ty' cls t2 fc fn ρ η out} (hc : isCodata E.codata T = true)
    (hd : declOf E T = some d) (hx : Avoids Γ h x'.id) (hshape : CritShape Γ h d.xtors cls)
    (htr : CritTr E q Γ h ⟨a, .cns, T⟩ s1 cls)
    (ht2 : Tr E q (⟨x, .prd, T⟩ :: Γ) (h.set x x'.id) s2 t2) (hr : EnvRel E q Γ h ρ η) :
    SimGoalS p q (StRel E q) ⟨.cut T (.mu .prd a T s1) (.mu .cns x T s2), ρ, out⟩
      ⟨.create x' ty' none cls t2 fc fn, η, out⟩ := by
  have hs : Core.fsStep p ⟨.cut T (.mu .prd a T s1) (.mu .cns x T s2), ρ, out⟩ =
      .next ⟨s2, (x, .thunk ρ a s1) :: ρ, out⟩ := by
    simp [Core.fsStep, Core.fsStepCut, codEq hp, hc, Core.fsCnsVal, Core.fsPrdVal, Core.FsState.goto]
  obtain ⟨val, val', f1, f2, f3⟩ := skolem_of_envRel hr
  have hv : VRel E q .prd T (.thunk ρ a s1) (.clo η cls) :=
    VRel.thunk val val' f1 f2 f3 hc hd hshape htr
  exact goal_next 1 _ hs (.one (step_create q _ _ _ _ _ _ _ _))
    (stRel_mk ht2 (EnvRel.cons (b0 := ⟨x, .prd, T⟩) hr hv hx)) (by omega)

theorem sim_switchData {Γ h T x cl d v ty' cls fv ρ η out} (hc : isCodata E.codata T = false)
    (hd : declOf E T = some d) (hx : occFs Γ ⟨x, .prd, T⟩ = true) (hv : v.id = h x)
    (hshape : ClausesShape Γ h d.xtors cl cls) (htr : ClausesTr E q Γ h cl cls) (hr : EnvRel E q Γ h ρ η) :
    SimGoalS p q (StRel E q) ⟨.cut T (.var .prd x T) (.xcase .cns T cl), ρ, out⟩ ⟨.switch v ty' cls fv, η, out⟩ := by
  obtain ⟨pv, pv', h1, h2, h3⟩ := hr _ hx
  obtain ⟨K, sig, vs, vs', rfl, rfl, hsig, hvs⟩ := h3.inv_con hc hd
  obtain ⟨ctx, body, ctx', body', ρ'', e, f1, f2, f3, f4, f5⟩ := clauseEnter (out := out) hr hshape htr hsig hvs
  have hs : Core.fsStep p ⟨.cut T (.var .prd x T) (.xcase .cns T cl), ρ, out⟩ = .next ⟨body, ρ'', out⟩ := by
    simp [Core.fsStep, Core.fsStepCut, codEq hp, hc, Core.fsCnsVal, Core.fsPrdVal, h1, Core.FsState.pass,
      Core.FsState.select, f1, f3, Core.FsState.goto]
  exact goal_next 1 _ hs (.one (step_switch q (by rw [hv]; exact h2) f2 f4)) f5 (by omega)

theorem sim_switchCodata {Γ h T α cl d v ty' cls fv ρ η out} (hc : isCodata E.codata T = true)
    (hd : declOf E T = some d) (hα : occFs Γ ⟨α, .cns, T⟩ = true) (hv : v.id = h α)
    (hshape : ClausesShape Γ h d.xtors cl cls) (htr : ClausesTr E q Γ h cl cls) (hr : EnvRel E q Γ h ρ η) :
    SimGoalS p q (StRel E q) ⟨.cut T (.xcase .prd T cl) (.var .cns α T), ρ, out⟩ ⟨.switch v ty' cls fv, η, out⟩ := by
  obtain ⟨cv, cv', h1, h2, h3⟩ := hr _ hα
  obtain ⟨d2, K, sig, vs, vs', rfl, rfl, hd2, hsig, hvs⟩ := h3.inv_dtor hc
  rw [hd] at hd2; cases hd2
  obtain ⟨ctx, body, ctx', body', ρ'', e, f1, f2, f3, f4, f5⟩ := clauseEnter (out := out) hr hshape htr hsig hvs
  have hs : Core.fsStep p ⟨.cut T (.xcase .prd T cl) (.var .cns α T), ρ, out⟩ = .next ⟨body, ρ'', out⟩ := by
    simp [Core.fsStep, Core.fsStepCut, codEq hp, hc, Core.fsCnsVal, Core.fsPrdVal, h1, Core.FsState.invoke,
      Core.FsState.select, f1, f3, Core.FsState.goto]
  exact goal_next 1 _ hs (.one (step_switch q (by rw [hv]; exact h2) f2 f4)) f5 (by omega)

theorem sim_createData {Γ h T a s0 cl d a' ty' cls t fc fn ρ η out} (hc : isCodata E.codata T = false)
    (hd : declOf E T = some d) (ha : Avoids Γ h a'.id) (hshape : ClausesShape Γ h d.xtors cl cls)
    (htr : ClausesTr E q Γ h cl cls) (ht : Tr E q (⟨a, .cns, T⟩ :: Γ) (h.set a a'.id) s0 t)
    (hr : EnvRel E q Γ h ρ η) :
    SimGoalS p q (StRel E q) ⟨.cut T (.mu .prd a T s0) (.xcase .cns T cl), ρ, out⟩
      ⟨.create a' ty' none cls t fc fn, η, out⟩ := by
  have hs : Core.fsStep p ⟨.cut T (.mu .prd a T s0) (.xcase .cns T cl), ρ, out⟩ =
      .next ⟨s0, (a, .case ρ cl) :: ρ, out⟩ := by
    simp [Core.fsStep, Core.fsStepCut, codEq hp, hc, Core.fsCnsVal, Core.FsState.goto]
  obtain ⟨val, val', f1, f2, f3⟩ := skolem_of_envRel hr
  have hv : VRel E q .cns T (.case ρ cl) (.clo η cls) := VRel.caseClo val val' f1 f2 f3 hc hd hshape htr
  exact goal_next 1 _ hs (.one (step_create q _ _ _ _ _ _ _ _))
    (stRel_mk ht (EnvRel.cons (b0 := ⟨a, .cns, T⟩) hr hv ha)) (by omega)

theorem sim_createCodata {Γ h T x s0 cl d x' ty' cls t fc fn ρ η out} (hc : isCodata E.codata T = true)
    (hd : declOf E T = some d) (hx : Avoids Γ h x'.id) (hshape : ClausesShape Γ h d.xtors cl cls)
    (htr : ClausesTr E q Γ h cl cls) (ht : Tr E q (⟨x, .prd, T⟩ :: Γ) (h.set x x'.id) s0 t)
    (hr : EnvRel E q Γ h ρ η) :
    SimGoalS p q (StRel E q) ⟨.cut T (.xcase .prd T cl) (.mu .cns x T s0), ρ, out⟩
      ⟨.create x' ty' none cls t fc fn, η, out⟩ := by
  have hs : Core.fsStep p ⟨.cut T (.xcase .prd T cl) (.mu .cns x T s0), ρ, out⟩ =
      .next ⟨s0, (x, .cocase ρ cl) :: ρ, out⟩ := by
    simp [Core.fsStep, Core.fsStepCut, codEq hp, hc, Core.fsCnsVal, Core.fsPrdVal, Core.FsState.goto]
  obtain ⟨val, val', f1, f2, f3⟩ := skolem_of_envRel hr
  have hv : VRel E q .prd T (.cocase ρ cl) (.clo η cls) := VRel.cocaseClo val val' f1 f2 f3 hc hd hshape htr
  exact goal_next 1 _ hs (.one (step_create q _ _ _ _ _ _ _ _))
    (stRel_mk ht (EnvRel.cons (b0 := ⟨x, .prd, T⟩) hr hv hx)) (by omega)

end rules

theorem lookupAll_total {η : AxCut.Named.Env} : ∀ (args' : AxCut.Ctx),
    (∀ i ∈ axIds args', ∃ v, lookup η i = some v) →
    ∃ vs', lookupAll η args' = some vs' ∧ vs'.length = args'.length ∧
      ∀ (i : Nat) j, (axIds args')[i]? = some j → ∃ v, vs'[i]? = some v ∧ lookup η j = some v
  | [], _ => ⟨[], rfl, rfl, by simp [axIds]⟩
  | b :: bs, h => by
    obtain ⟨v, hv⟩ := h b.var.id (by simp [axIds])
    obtain ⟨vs, h1, h2, h3⟩ := lookupAll_total bs (fun i hi => h i (by simp [axIds] at hi ⊢; exact .inr hi))
    refine ⟨v :: vs, by simp [lookupAll, hv, h1], by simp [h2], ?_⟩
    intro i j hij
    cases i with
    | zero =>
      simp only [axIds, List.map_cons, List.getElem?_cons_zero, Option.some.injEq] at hij
      exact ⟨v, by simp, by rw [← hij]; exact hv⟩
    | succ i =>
      simp only [axIds, List.map_cons, List.getElem?_cons_succ] at hij
      obtain ⟨w, hw1, hw2⟩ := h3 i j hij
      exact ⟨w, by simpa using hw1, hw2⟩

theorem lookup_bindParams : ∀ (ctx : AxCut.Ctx) (vs : List Value) (e : AxCut.Named.Env),
    bindParams ctx vs = some e → (axIds ctx).Nodup →
    ∀ (i : Nat) j v, (axIds ctx)[i]? = some j → vs[i]? = some v → lookup e j = some v
  | [], [], e, h, _, i, j, v, hi, _ => by simp [axIds] at hi
  | [], _ :: _, e, h, _, _, _, _, _, _ => by simp [bindParams] at h
  | _ :: _, [], e, h, _, _, _, _, _, _ => by simp [bindParams] at h
  | b :: bs, w :: ws, e, h, hnd, i, j, v, hi, hv => by
    simp only [bindParams] at h
    split at h
    · rename_i e' he
      simp only [Option.some.injEq] at h
      subst h
      simp only [axIds, List.map_cons, List.nodup_cons] at hnd
      cases i with
      | zero =>
        simp only [axIds, List.map_cons, List.getElem?_cons_zero, Option.some.injEq] at hi hv
        subst hi; subst hv
        exact lookup_cons_self _ _ _
      | succ i =>
        simp only [axIds, List.map_cons, List.getElem?_cons_succ] at hi hv
        have hj : j ∈ axIds bs := List.mem_of_getElem? hi
        rw [lookup_cons_ne _ _ (fun e => hnd.1 (by rw [← e]; exact hj))]
        exact lookup_bindParams bs ws e' he hnd.2 i j v hi hv
    · cases h

theorem sim_lifted {Γ h s label args' d Γ' h' ρ η out}
    (hfd : findDef q label = some d) (hsub : ∀ b, occFs Γ' b = true → occFs Γ b = true)
    (hlen : d.ctx.length = args'.length) (hnd : (axIds d.ctx).Nodup)
    (hargs : ∀ i ∈ axIds args', ∃ b, occFs Γ b = true ∧ h b.var = i)
    (hcov : ∀ b, occFs Γ' b = true →
      ∃ i : Nat, (axIds args')[i]? = some (h b.var) ∧ (axIds d.ctx)[i]? = some (h' b.var))
    (hr : EnvRel E q Γ h ρ η)
    (ih : ∀ ρ η out, EnvRel E q Γ' h' ρ η → SimGoalS p q (StRel E q) ⟨s, ρ, out⟩ ⟨d.body, η, out⟩) :
    SimGoalS p q (StRel E q) ⟨s, ρ, out⟩ ⟨.call label args', η, out⟩ := by
  obtain ⟨vs', h1, h2, h3⟩ := lookupAll_total (η := η) args' (by
    intro i hi
    obtain ⟨b, hb, rfl⟩ := hargs i hi
    obtain ⟨_, v', _, hv', _⟩ := hr b hb
    exact ⟨v', hv'⟩)
  obtain ⟨e, he⟩ := bindParams_some d.ctx vs' (by rw [hlen, h2])
  refine prepend_step (step_call q hfd h1 he) (ih ρ e out ?_)
  intro b hb
  obtain ⟨v, v', f1, f2, f3⟩ := hr b (hsub b hb)
  obtain ⟨i, g1, g2⟩ := hcov b hb
  obtain ⟨w, g3, g4⟩ := h3 i _ g1
  rw [f2] at g4; cases g4
  exact ⟨v, v', f1, lookup_bindParams d.ctx vs' e he hnd i _ _ g2 g3, f3⟩

/-- from related states, one step of the Core machine is matched by the AxCut machine -/
theorem sim_tr (hp : ProgRel E q p) {Γ h s t} (htr : Tr E q Γ h s t) :
    ∀ ρ η out, EnvRel E q Γ h ρ η → SimGoalS p q (StRel E q) ⟨s, ρ, out⟩ ⟨t, η, out⟩ := by
  induction htr with
  | exit ha hv => intro ρ η out hr; exact sim_exit ha hv hr
  | print ha hv ht _ => intro ρ η out hr; exact sim_print ha hv ht hr
  | ifz ha hv ht he _ _ => intro ρ η out hr; exact sim_ifz ha hv ht he hr
  | ifc ha hv hb hw ht he _ _ => intro ρ η out hr; exact sim_ifc ha hv hb hw ht he hr
  | call hs hm hocc hids => intro ρ η out hr; exact sim_call hp hs hm hocc hids hr
  | lifted hfd hsub hlen hnd hargs hcov _ ih =>
    intro ρ η out hr; exact sim_lifted hfd hsub hlen hnd hargs hcov hr ih
  | renL hx ht _ => intro ρ η out hr; exact sim_renL hp hx ht hr
  | renR hx ht _ => intro ρ η out hr; exact sim_renR hp hx ht hr
  | knownData hc _ _ hm hocc hf hm2 ht _ =>
    intro ρ η out hr; exact sim_knownData hp hc hm hocc hf hm2 ht hr
  | knownCodata hc _ _ hm hocc hf hm2 ht _ =>
    intro ρ η out hr; exact sim_knownCodata hp hc hm hocc hf hm2 ht hr
  | unkInt hx hα hv hargs => intro ρ η out hr; exact sim_unkInt hx hα hv hargs hr
  | unkData hc hd hx hα hv hshape => intro ρ η out hr; exact sim_unkData hp hc hd hx hα hv hshape hr
  | unkCodata hc hd hx hα hv hshape => intro ρ η out hr; exact sim_unkCodata hp hc hd hx hα hv hshape hr
  | critInt ha hx hbx ht2 ht1 _ _ => intro ρ η out hr; exact sim_critInt ha hx hbx ht2 ht1 hr
  | critData hc hd ha hshape htr ht1 _ _ =>
    intro ρ η out hr; exact sim_critData hp hc hd ha hshape htr ht1 hr
  | critCodata hc hd hx hshape htr ht2 _ _ =>
    intro ρ η out hr; exact sim_critCodata hp hc hd hx hshape htr ht2 hr
  | litMu hav ht _ => intro ρ η out hr; exact sim_litMu hav ht hr
  | litVar hα hw hv hargs => intro ρ η out hr; exact sim_litVar hα hw hv hargs hr
  | opMu ha hb hva hvb hav ht _ => intro ρ η out hr; exact sim_opMu ha hb hva hvb hav ht hr
  | opVar ha hb hva hvb hα hw hv hargs => intro ρ η out hr; exact sim_opVar ha hb hva hvb hα hw hv hargs hr
  | letData hc hd hsig hm hocc hids hav ht _ =>
    intro ρ η out hr; exact sim_letData hp hc hd hsig hm hocc hids hav ht hr
  | letCodata hc hd hsig hm hocc hids hav ht _ =>
    intro ρ η out hr; exact sim_letCodata hp hc hd hsig hm hocc hids hav ht hr
  | invokeData hc hd hsig hm hocc hids hα hv =>
    intro ρ η out hr; exact sim_invokeData hp hc hd hsig hm hocc hids hα hv hr
  | invokeCodata hc hd hsig hm hocc hids hx hv =>
    intro ρ η out hr; exact sim_invokeCodata hp hc hd hsig hm hocc hids hx hv hr
  | switchData hc hd hx hv hshape htr _ => intro ρ η out hr; exact sim_switchData hp hc hd hx hv hshape htr hr
  | switchCodata hc hd hα hv hshape htr _ =>
    intro ρ η out hr; exact sim_switchCodata hp hc hd hα hv hshape htr hr
  | createData hc hd ha hshape htr ht _ _ =>
    intro ρ η out hr; exact sim_createData hp hc hd ha hshape htr ht hr
  | createCodata hc hd hx hshape htr ht _ _ =>
    intro ρ η out hr; exact sim_createCodata hp hc hd hx hshape htr ht hr

/-- the simulation in the form used by the run-level lemmas of `SemStrong.lean` -/
theorem sim_stRel (hp : ProgRel E q p) (cs : Core.FsState) (as : State) (h : StRel E q cs as) :
    SimGoalS p q (StRel E q) cs as := by
  obtain ⟨Γ, hm, htr, hr, hout⟩ := h
  obtain ⟨s, ρ, out⟩ := cs
  obtain ⟨t, η, out'⟩ := as
  simp only at htr hr hout
  subst hout
  exact sim_tr hp htr ρ η out hr

end Scc.Core2AxCut.Sem
