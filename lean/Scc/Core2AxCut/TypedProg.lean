/-
  Scc.Core2AxCut.TypedProg — proof file for the typing part of C04 / C12: from statements to programs.
  `shrinkProg_wf`: every definition of `shrinkProg p` — the images of the definitions of `p` AND the
  definitions lifted out of them — is `WfDef` (duplicate-free parameters `≤ max_id`, body `TW`-typed), for
  every `p` accepted by `wtFsScopedCheck`, `uniqueIdsCheck`, `idsBoundedCheck` and `fsTypesOk`.
  Consequences: `shrinkProg_wtAxCheck` (the AxCut checker accepts) and `shrinkProg_wfNonLinear` (the
  precondition of C05).
-/
import Scc.Core2AxCut.TypedCut
import Scc.Core2AxCut.TypedSpec
import Scc.Core2AxCut.SemProg

namespace Scc.Core2AxCut.Typed

open Scc.AxCut Scc.Core2AxCut.Sem
open Scc.AxCut.Named (findDef)

/-- the run of `shrink` on the body of the source definition `d` -/
def DefRun (data codata : List Core.TypeDecl) (lo hi : Nat) (defs : List AxCut.Def) (used : List Core.Ident)
    (d : Core.FsDef) (body : AxCut.Stmt) (st1 : St) : Prop :=
  ∃ st0, shrinkStmt ⟨data, codata, d.name.name⟩ (sizeStmt d.body + 1) d.body st0 = .ok (body, st1) ∧
    lo ≤ st0.maxId ∧ st0.lifted = [] ∧ st1.maxId ≤ hi ∧
    (⟨shrinkIdentifier d.name, shrinkContext codata d.ctx, body⟩ : AxCut.Def) ∈ defs ∧
    ∀ d'' ∈ st1.lifted, d'' ∈ defs ∧ ∃ x : Core.Ident, d''.name = shrinkIdentifier x ∧ ∀ u ∈ used, x.print ≠ u.print

theorem shrinkDefs_all {data codata : List Core.TypeDecl} : ∀ (ds : List Core.FsDef) (used : List Core.Ident)
    (maxId : Nat) defs used' maxId', shrinkDefs data codata ds used maxId = .ok (defs, used', maxId') →
    maxId ≤ maxId' ∧ (∀ u ∈ used, u ∈ used') ∧
    ∀ d' ∈ defs, ∃ d ∈ ds, ∃ body st1, DefRun data codata maxId maxId' defs used d body st1 ∧
      (d' = ⟨shrinkIdentifier d.name, shrinkContext codata d.ctx, body⟩ ∨ d' ∈ st1.lifted)
  | [], used, maxId, defs, used', maxId', h => by
    simp only [shrinkDefs, Except.ok.injEq, Prod.mk.injEq] at h
    obtain ⟨rfl, rfl, rfl⟩ := h
    exact ⟨Nat.le_refl _, fun u hu => hu, by simp⟩
  | d :: ds, used, maxId, defs, used', maxId', h => by
    obtain ⟨defs1, used1, maxId1, rest, used2, maxId2, h1, h2, e⟩ := shrinkDefs_cons_inv h
    cases e
    obtain ⟨m2, u2, a2⟩ := shrinkDefs_all ds used1 maxId1 rest _ _ h2
    obtain ⟨body, st, hb, e⟩ := shrinkDef_inv h1
    cases e
    have m1 : maxId ≤ st.maxId := (shrinkStmt_mono _ _ _ _ _ _ hb).le
    obtain ⟨g, l, hu, hl, _, hdis, hperm⟩ := shrinkStmt_labelsExt _ _ _ _ _ _ hb
    simp only [List.append_nil] at hl
    simp only at hu
    refine ⟨by omega, fun u hu' => u2 u (by rw [hu]; simp [hu']), ?_⟩
    intro d' hd'
    rcases List.mem_append.mp hd' with hd' | hd'
    · refine ⟨d, by simp, body, st, ⟨_, hb, Nat.le_refl _, rfl, m2, by simp, ?_⟩, ?_⟩
      · intro d'' hd''
        refine ⟨by simp [hd''], ?_⟩
        have : d''.name ∈ l.map (·.name) := List.mem_map.mpr ⟨d'', by rw [← hl]; exact hd'', rfl⟩
        obtain ⟨x, hx, hxe⟩ := List.mem_map.mp ((hperm.mem_iff).mp this)
        exact ⟨x, hxe.symm, hdis x hx⟩
      · rcases List.mem_cons.mp hd' with rfl | hd'
        · exact .inl rfl
        · exact .inr hd'
    · obtain ⟨d0, hd0, body0, st1, ⟨st0, r1, r2, r3, r4, r5, r6⟩, r7⟩ := a2 d' hd'
      refine ⟨d0, by simp [hd0], body0, st1, ⟨st0, r1, by omega, r3, r4, by simp [r5], ?_⟩, r7⟩
      intro d'' hd''
      obtain ⟨g1, x, g2, g3⟩ := r6 d'' hd''
      exact ⟨by simp [g1], x, g2, fun u hu' => g3 u (by rw [hu]; simp [hu'])⟩

theorem find_shrinkDeclaration (cod : List Core.TypeDecl) (n : Core.Ident) : ∀ (l : List Core.TypeDecl),
    (l.map (shrinkDeclaration cod)).find? (fun d => d.name == shrinkIdentifier n) =
      (l.find? (fun d => d.name == n)).map (shrinkDeclaration cod)
  | [] => rfl
  | d :: l => by
    simp only [List.map_cons, List.find?_cons, shrinkDeclaration, sid_beq]
    cases d.name == n
    · exact find_shrinkDeclaration cod n l
    · rfl

theorem envOK_prog {p : Core.FsProg} (hnc : noContName p = true) (hty : fsTypesOk p = true) :
    EnvOK (progTEnv p) ((p.dataTypes ++ [contInt]).map (shrinkDeclaration p.codataTypes) ++
      p.codataTypes.map (shrinkDeclaration p.codataTypes)) := by
  simp only [noContName, Bool.and_eq_true, Bool.not_eq_true', List.any_eq_false, beq_iff_eq] at hnc
  simp only [fsTypesOk, fsTypesDisjoint, xtorsDistinct, Bool.and_eq_true, List.all_eq_true,
    decide_eq_true_eq, List.mem_append] at hty
  obtain ⟨hdis, hxnd⟩ := hty
  have hcontName : contInt.name = contName := rfl
  refine ⟨?_, ?_, ?_⟩
  · intro ty d hd
    cases ty with
    | i64 => simp [declOf] at hd
    | decl n =>
      simp only [declOf, progTEnv] at hd
      show List.find? (fun d : AxCut.TypeDecl => d.name == shrinkIdentifier n) _ = _
      rw [List.find?_append, find_shrinkDeclaration, find_shrinkDeclaration]
      by_cases hc : isCodata p.codataTypes (.decl n) = true
      · simp only [hc, if_true] at hd
        -- `n` is the name of a codata type: no data type and not `_Cont`
        have hmem := List.mem_of_find?_eq_some hd
        have hname : d.name = n := by simpa using List.find?_some hd
        have hnone : (p.dataTypes ++ [contInt]).find? (fun d => d.name == n) = none := by
          rw [List.find?_eq_none]
          intro dd hdd
          simp only [List.mem_append, List.mem_singleton] at hdd
          simp only [beq_iff_eq]
          rcases hdd with hdd | rfl
          · exact fun e => hdis dd hdd d hmem (by rw [e, hname])
          · intro e
            exact hnc.2 d hmem (by rw [hname, ← e])
        rw [hnone, hd]
        rfl
      · have hc' : isCodata p.codataTypes (.decl n) = false := by simpa using hc
        simp only [hc', Bool.false_eq_true, if_false] at hd
        rw [hd]
        rfl
  · simp only [declOf, progTEnv]
    have hc : isCodata p.codataTypes (.decl contName) = false := by
      simp only [isCodata, List.any_eq_false, beq_iff_eq]
      exact fun c hc => hnc.2 c hc
    simp only [hc, Bool.false_eq_true, if_false]
    have : p.dataTypes.find? (fun d => d.name == contName) = none := by
      rw [List.find?_eq_none]
      intro dd hdd
      simp only [beq_iff_eq]
      exact hnc.1 dd hdd
    rw [List.find?_append, this]
    simp [contInt, contName]
  · intro ty d hd
    cases ty with
    | i64 => simp [declOf] at hd
    | decl n =>
      simp only [declOf, progTEnv] at hd
      by_cases hc : isCodata p.codataTypes (.decl n) = true
      · simp only [hc, if_true] at hd
        exact hxnd d (.inr (List.mem_of_find?_eq_some hd))
      · simp only [hc] at hd
        have := List.mem_of_find?_eq_some hd
        simp only [List.mem_append, List.mem_singleton] at this
        rcases this with h' | rfl
        · exact hxnd d (.inl h')
        · simp [contInt]

theorem agreeT_start {cod : List Core.TypeDecl} {d : Core.FsDef} {maxId m : Nat} (hu : uniqueIdsDef d = true)
    (hb : idsBoundedDef maxId d = true) (hm : maxId ≤ m) :
    AgreeT cod d.ctx id d.body.binderIds m (shrinkContext cod d.ctx) := by
  simp only [uniqueIdsDef, nodupNat_iff, List.map_append, bindersStmt_ids] at hu
  simp only [idsBoundedDef, List.all_eq_true, List.mem_append, decide_eq_true_eq] at hb
  have hnd := List.nodup_append.mp hu
  refine ⟨?_, ?_, by simp only [NodupIds, ids_shrinkContext]; exact hnd.1⟩
  · intro b hocc
    have : renBinding id b = b := by cases b; rfl
    rw [this]
    exact List.mem_map.mpr ⟨b, occFs_mem hocc, rfl⟩
  · intro i hi
    rw [ids_shrinkContext] at hi
    exact ⟨fun hc => hnd.2.2 _ hi _ hc rfl, Nat.le_trans (hb i (.inl (by simpa [Core.ctxIds] using hi))) hm⟩

/-- **shrinking preserves typing**: every definition of the output program is well-formed -/
theorem shrinkProg_wf {p : Core.FsProg} {q : AxCut.Prog} (hwt : wtFsScopedCheck p = true)
    (hu : uniqueIdsCheck p = true) (hb : idsBoundedCheck p = true) (hty : fsTypesOk p = true)
    (h : shrinkProg p = .ok q) : ∀ d ∈ q.defs, WfDef q.types q.sigs q.maxId d := by
  simp only [wtFsScopedCheck, wtFsCheck, Bool.and_eq_true, List.all_eq_true] at hwt
  simp only [uniqueIdsCheck, List.all_eq_true] at hu
  simp only [idsBoundedCheck, List.all_eq_true] at hb
  obtain ⟨⟨hnc, hwts⟩, hscs⟩ := hwt
  obtain ⟨defs, used, m, hd, rfl⟩ := shrinkProg_inv h
  obtain ⟨hmm, _, hall⟩ := shrinkDefs_all _ _ _ _ _ _ hd
  obtain ⟨_, _, _, hspec⟩ := shrinkDefs_spec _ _ _ _ _ _ hd
  obtain ⟨g, _, hgnd, _, hperm⟩ := shrinkDefs_labels _ _ _ _ _ _ hd
  have hT := envOK_prog hnc hty
  -- signatures of the source definitions
  have hS : SigOK (progTEnv p) (Prog.sigs ⟨defs, (p.dataTypes ++ [contInt]).map (shrinkDeclaration p.codataTypes) ++
      p.codataTypes.map (shrinkDeclaration p.codataTypes), m⟩) := by
    intro f ps hf
    simp only [findSig, progTEnv] at hf
    split at hf
    · rename_i pr hpr
      simp only [Option.some.injEq] at hf
      subst hf
      rw [List.find?_map] at hpr
      cases hfd : p.defs.find? ((fun pr : Core.Ident × Core.Ctx => pr.1 == f) ∘ fun d => (d.name, d.ctx)) with
      | none => rw [hfd] at hpr; cases hpr
      | some d0 =>
        rw [hfd] at hpr
        simp only [Option.map_some, Option.some.injEq] at hpr
        subst hpr
        have hname : d0.name = f := by simpa using List.find?_some hfd
        have hmem0 := List.mem_of_find?_eq_some hfd
        have hfd' : p.defs.find? (fun d => d.name = f) = some d0 := by
          rw [← hfd]
          congr 1
          funext d
          simp only [Function.comp]
          by_cases e : d.name = f <;> simp [e]
        obtain ⟨d', h1, body, st0, st1, rfl, _⟩ := hspec f d0 (List.mem_map.mpr ⟨d0, hmem0, hname⟩) hfd'
        exact findSig_of_findDef (q := ⟨defs, _, m⟩) (by simpa [findDef] using h1)
    · cases hf
  intro d' hd'
  obtain ⟨d, hmem, body, st1, ⟨st0, h3, h4, h5, h6, _, h7⟩, hcase⟩ := hall d' hd'
  have hgood : Good ⟨defs, (p.dataTypes ++ [contInt]).map (shrinkDeclaration p.codataTypes) ++
      p.codataTypes.map (shrinkDeclaration p.codataTypes), m⟩ st1 := by
    intro d'' hd''
    obtain ⟨g1, x, g2, g3⟩ := h7 d'' hd''
    exact good_of_labels (pnames := p.defs.map (·.name))
      (by simpa [List.map_map, Function.comp_def] using hperm) hgnd d'' g1 x g2 g3
  have hE : EnvMatches ⟨p.dataTypes ++ [contInt], p.codataTypes, d.name.name⟩ (progTEnv p) := ⟨rfl, rfl⟩
  have hud := hu d hmem
  have post := shrinkStmt_typed _ hE hT hS (sizeStmt d.body + 1) d.ctx id d.body st0 body st1
    (by rw [renStmt_id]; exact h3) hgood h6 (hwts d hmem) (hscs d hmem)
    (invB_start hud (hb d hmem) h4)
  obtain ⟨t1, t2⟩ := post _ (agreeT_start (cod := p.codataTypes) hud (hb d hmem) h4)
  have hndc : (d.ctx.map fun b => b.var.id).Nodup := by
    simp only [uniqueIdsDef, nodupNat_iff, List.map_append] at hud
    exact (List.nodup_append.mp hud).1
  rcases hcase with rfl | hl
  · refine ⟨by simp only [NodupIds, ids_shrinkContext]; exact hndc, ?_, t1⟩
    intro i hi
    rw [ids_shrinkContext] at hi
    have hbd := hb d hmem
    simp only [idsBoundedDef, List.all_eq_true, List.mem_append, decide_eq_true_eq] at hbd
    exact Nat.le_trans (hbd i (.inl (by simpa [Core.ctxIds] using hi))) hmm
  · rcases t2 d' hl with h' | h'
    · rw [h5] at h'; cases h'
    · exact h'

theorem shrinkProg_wtAxCheck {p : Core.FsProg} {q : AxCut.Prog} (hwt : wtFsScopedCheck p = true)
    (hu : uniqueIdsCheck p = true) (hb : idsBoundedCheck p = true) (hty : fsTypesOk p = true)
    (h : shrinkProg p = .ok q) : AxCut.Named.wtAxCheck q = .ok () := by
  have hw := shrinkProg_wf hwt hu hb hty h
  simp only [Named.wtAxCheck]
  have : q.defs.find? (fun d => !(Named.wtDefB q d)) = none := by
    rw [List.find?_eq_none]
    intro d hd
    obtain ⟨h1, _, h3⟩ := hw d hd
    have : Named.wtDefB q d = true := TW.wtStmtB d.body d.ctx h3 h1
    simp [this]
  rw [this]

theorem shrinkProg_wfNonLinear {p : Core.FsProg} {q : AxCut.Prog} (hwt : wtFsScopedCheck p = true)
    (hu : uniqueIdsCheck p = true) (hb : idsBoundedCheck p = true) (hty : fsTypesOk p = true)
    (h : shrinkProg p = .ok q) : AxCut.WfNonLinear q := by
  intro d hd
  obtain ⟨h1, h2, h3⟩ := shrinkProg_wf hwt hu hb hty h d hd
  exact ⟨h1, h2, TW.toWT d.body d.ctx d.ctx h3 (SameMem.refl _)⟩

end Scc.Core2AxCut.Typed
