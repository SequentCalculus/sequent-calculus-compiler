/-
  Scc.Core2AxCut.SizeWidth — C19, what the composition of the size bounds needs from shrinking
  (S3 → S4) besides the node count of Scc.Core2AxCut.SizeProofs:

  * bridges between the size measures of the stages: the node count `sizeStmt` of focused Core is at
    most its full count `fsStmtSize` (Scc.Core.SizeFocus); the node count `axSizeStmt` of AxCut is
    `Stmt.size` (Scc.AxCut.Linearize), `defsSize` is `defsNodes` (Scc.AxCut.SizeLin);
  * the WIDTH invariant: every list that a statement of the output carries (argument lists, clause
    contexts) and every parameter list of an output definition — the given ones and the lifted ones,
    whose parameters are the typed free variables of the lifted statement — has length at most

        W = max (|S3|, arity, 1),       arity = longest argument list of a declared xtor

    (`shrinkProg_width`; for all inputs, no typing hypothesis);
  * consequently `defsBound` of S4 (the bound on the contexts of the linearization, SizeLin) is at most
    `2·(W + N·(W+1)) + W + 1`, `N` = nodes of S4 (`defsBound_le`).     Proof file.
-/
import Scc.Core2AxCut.SizeProofs
import Scc.Core2AxCut.Labels
import Scc.Core.SizeFocus
import Scc.AxCut.SizeLin
import Scc.NatLemmas

set_option linter.unusedSectionVars false

namespace Scc.Core2AxCut.SizeWidth

open Scc.Core.SizeFocus Scc.AxCut.SizeLin

mutual
  theorem sizeTerm_le : ∀ (t : Core.FsTerm), sizeTerm t ≤ fsTermSize t
    | .var _ _ _ => by simp [sizeTerm, fsTermSize]
    | .lit _ => by simp [sizeTerm, fsTermSize]
    | .op _ _ _ => by simp [sizeTerm, fsTermSize]
    | .mu _ _ _ s => by have := sizeStmt_le s; simp only [sizeTerm, fsTermSize]; omega
    | .xtor _ _ _ _ => by simp [sizeTerm, fsTermSize]
    | .xcase _ _ cs => by have := sizeClauses_le cs; simp only [sizeTerm, fsTermSize]; omega
  theorem sizeClauses_le : ∀ (cs : Core.FsClauses), sizeClauses cs ≤ fsClausesSize cs
    | .nil => by simp [sizeClauses, fsClausesSize]
    | .cons _ _ b r => by
      have h1 := sizeStmt_le b
      have h2 := sizeClauses_le r
      simp only [sizeClauses, fsClausesSize]; omega
  theorem sizeStmt_le : ∀ (s : Core.FsStmt), sizeStmt s ≤ fsStmtSize s
    | .cut _ p c => by
      have h1 := sizeTerm_le p
      have h2 := sizeTerm_le c
      simp only [sizeStmt, fsStmtSize]; omega
    | .ifc _ _ none t e => by
      have h1 := sizeStmt_le t
      have h2 := sizeStmt_le e
      simp only [sizeStmt, fsStmtSize]; omega
    | .ifc _ _ (some _) t e => by
      have h1 := sizeStmt_le t
      have h2 := sizeStmt_le e
      simp only [sizeStmt, fsStmtSize]; omega
    | .print _ _ n => by have := sizeStmt_le n; simp only [sizeStmt, fsStmtSize]; omega
    | .call _ _ => by simp only [sizeStmt, fsStmtSize]; omega
    | .exit _ => by simp only [sizeStmt, fsStmtSize]; omega
end

theorem fsDefsSize_le : ∀ (ds : List Core.FsDef),
    Core2AxCut.fsDefsSize ds ≤ Core.SizeFocus.fsDefsSize ds
  | [] => by simp [Core2AxCut.fsDefsSize, Core.SizeFocus.fsDefsSize]
  | d :: ds => by
    have h1 := sizeStmt_le d.body
    have h2 := fsDefsSize_le ds
    simp only [Core2AxCut.fsDefsSize, Core.SizeFocus.fsDefsSize, fsDefSize]; omega

mutual
  theorem axSizeStmt_eq : ∀ (s : AxCut.Stmt), axSizeStmt s = s.size
    | .subst _ n => by simp [axSizeStmt, AxCut.Stmt.size, axSizeStmt_eq n]
    | .call _ _ => by simp [axSizeStmt, AxCut.Stmt.size]
    | .letS _ _ _ _ n _ => by simp [axSizeStmt, AxCut.Stmt.size, axSizeStmt_eq n]
    | .switch _ _ cs _ => by simp [axSizeStmt, AxCut.Stmt.size, axSizeClauses_eq cs]
    | .create _ _ _ cs n _ _ => by
      simp [axSizeStmt, AxCut.Stmt.size, axSizeClauses_eq cs, axSizeStmt_eq n]
    | .invoke _ _ _ _ => by simp [axSizeStmt, AxCut.Stmt.size]
    | .lit _ _ n _ => by simp [axSizeStmt, AxCut.Stmt.size, axSizeStmt_eq n]
    | .op _ _ _ _ n _ => by simp [axSizeStmt, AxCut.Stmt.size, axSizeStmt_eq n]
    | .print _ _ n _ => by simp [axSizeStmt, AxCut.Stmt.size, axSizeStmt_eq n]
    | .ifc _ _ _ t e => by simp [axSizeStmt, AxCut.Stmt.size, axSizeStmt_eq t, axSizeStmt_eq e]
    | .exit _ => by simp [axSizeStmt, AxCut.Stmt.size]
  theorem axSizeClauses_eq : ∀ (cs : AxCut.Clauses), axSizeClauses cs = cs.size
    | .nil => by simp [axSizeClauses, AxCut.Clauses.size]
    | .cons _ _ b r => by simp [axSizeClauses, AxCut.Clauses.size, axSizeStmt_eq b, axSizeClauses_eq r]
end

theorem defsSize_eq : ∀ (ds : List AxCut.Def), Core2AxCut.defsSize ds = defsNodes ds
  | [] => by simp [Core2AxCut.defsSize, defsNodes]
  | d :: ds => by simp [Core2AxCut.defsSize, defsNodes, axSizeStmt_eq, defsSize_eq ds]

mutual
  /-- the longest list carried by a node of the statement -/
  def listMax : AxCut.Stmt → Nat
    | .subst pairs next => max pairs.length (listMax next)
    | .call _ args => args.length
    | .letS _ _ _ args next _ => max args.length (listMax next)
    | .switch _ _ cs _ => listMaxC cs
    | .create _ _ env cs next _ _ => max (env.getD []).length (max (listMaxC cs) (listMax next))
    | .invoke _ _ _ args => args.length
    | .lit _ _ next _ => listMax next
    | .op _ _ _ _ next _ => listMax next
    | .print _ _ next _ => listMax next
    | .ifc _ _ _ t e => max (listMax t) (listMax e)
    | .exit _ => 0
  def listMaxC : AxCut.Clauses → Nat
    | .nil => 0
    | .cons _ ctx body rest => max ctx.length (max (listMax body) (listMaxC rest))
end

mutual
  theorem listMax_axSubst (σ) : ∀ s, listMax (axSubstStmt σ s) = listMax s
    | .subst _ n => by simp [axSubstStmt, listMax, listMax_axSubst σ n]
    | .call _ _ => by simp [axSubstStmt, listMax, axSubstCtx]
    | .letS _ _ _ _ n _ => by simp [axSubstStmt, listMax, axSubstCtx, listMax_axSubst σ n]
    | .switch _ _ cs _ => by simp [axSubstStmt, listMax, listMaxC_axSubst σ cs]
    | .create _ _ env cs n _ _ => by
      cases env <;>
        simp [axSubstStmt, listMax, axSubstCtx, listMaxC_axSubst σ cs, listMax_axSubst σ n]
    | .invoke _ _ _ _ => by simp [axSubstStmt, listMax, axSubstCtx]
    | .lit _ _ n _ => by simp [axSubstStmt, listMax, listMax_axSubst σ n]
    | .op _ _ _ _ n _ => by simp [axSubstStmt, listMax, listMax_axSubst σ n]
    | .print _ _ n _ => by simp [axSubstStmt, listMax, listMax_axSubst σ n]
    | .ifc _ _ _ t e => by simp [axSubstStmt, listMax, listMax_axSubst σ t, listMax_axSubst σ e]
    | .exit _ => by simp [axSubstStmt, listMax]
  theorem listMaxC_axSubst (σ) : ∀ cs, listMaxC (axSubstClauses σ cs) = listMaxC cs
    | .nil => by simp [axSubstClauses, listMaxC]
    | .cons _ _ b r => by
      simp [axSubstClauses, listMaxC, listMax_axSubst σ b, listMaxC_axSubst σ r]
end

mutual
  theorem argsMax_le_listMax : ∀ (s : AxCut.Stmt), argsMax s ≤ listMax s
    | .subst _ n | .letS _ _ _ _ n _ => max_le_max (Nat.le_refl _) (argsMax_le_listMax n)
    | .call _ _ | .invoke _ _ _ _ | .exit _ => Nat.le_refl _
    | .switch _ _ cs _ => argsMaxC_le_listMaxC cs
    | .create _ _ _ cs n _ _ =>
      Nat.le_trans (max_le_max (argsMaxC_le_listMaxC cs) (argsMax_le_listMax n)) (Nat.le_max_right _ _)
    | .lit _ _ n _ | .op _ _ _ _ n _ | .print _ _ n _ => argsMax_le_listMax n
    | .ifc _ _ _ t e => max_le_max (argsMax_le_listMax t) (argsMax_le_listMax e)
  theorem argsMaxC_le_listMaxC : ∀ (cs : AxCut.Clauses), argsMaxC cs ≤ listMaxC cs
    | .nil => Nat.le_refl _
    | .cons _ _ b r =>
      Nat.le_trans (max_le_max (argsMax_le_listMax b) (argsMaxC_le_listMaxC r)) (Nat.le_max_right _ _)
end

/-- one more node pays for `k ≤ K` more binders -/
theorem add_le_succ_mul {a n k K : Nat} (h : a ≤ n * K) (hk : k ≤ K) : a + k ≤ (n + 1) * K := by
  rw [Nat.add_mul, Nat.one_mul]; exact Nat.add_le_add h hk

theorem le_mul_of_le {a n m K : Nat} (h : a ≤ n * K) (hnm : n ≤ m) : a ≤ m * K :=
  Nat.le_trans h (Nat.mul_le_mul_right K hnm)

mutual
  /-- the variables bound along a path: at most `W + 1` per node -/
  theorem binders_le (W : Nat) : ∀ (s : AxCut.Stmt), listMax s ≤ W → binders s ≤ s.size * (W + 1)
    | .subst _ n, h => le_mul_of_le (binders_le W n (Nat.max_le.1 h).2) (Nat.le_succ _)
    | .call _ _, _ | .invoke _ _ _ _, _ | .exit _, _ => Nat.zero_le _
    | .letS _ _ _ _ n _, h => add_le_succ_mul (binders_le W n (Nat.max_le.1 h).2) (Nat.le_add_left 1 W)
    | .switch _ _ cs _, h => le_mul_of_le (bindersC_le W cs h) (Nat.le_succ _)
    | .create _ _ _ cs n _ _, h =>
      have hc := (Nat.max_le.1 (Nat.max_le.1 h).2).1
      have hn := (Nat.max_le.1 (Nat.max_le.1 h).2).2
      Nat.max_le.2
        ⟨le_mul_of_le (bindersC_le W cs hc) (Nat.le_succ_of_le (Nat.le_add_right _ _)),
         le_mul_of_le (add_le_succ_mul (binders_le W n hn) (Nat.le_add_left 1 W))
           (Nat.succ_le_succ (Nat.le_add_left _ _))⟩
    | .lit _ _ n _, h | .op _ _ _ _ n _, h => add_le_succ_mul (binders_le W n h) (Nat.le_add_left 1 W)
    | .print _ _ n _, h => le_mul_of_le (binders_le W n h) (Nat.le_succ _)
    | .ifc _ _ _ t e, h =>
      Nat.max_le.2
        ⟨le_mul_of_le (binders_le W t (Nat.max_le.1 h).1) (Nat.le_succ_of_le (Nat.le_add_right _ _)),
         le_mul_of_le (binders_le W e (Nat.max_le.1 h).2) (Nat.le_succ_of_le (Nat.le_add_left _ _))⟩
  theorem bindersC_le (W : Nat) : ∀ (cs : AxCut.Clauses), listMaxC cs ≤ W → bindersC cs ≤ cs.size * (W + 1)
    | .nil, _ => Nat.zero_le _
    | .cons _ ctx b r, h =>
      have hctx : ctx.length ≤ W + 1 := Nat.le_succ_of_le (Nat.max_le.1 h).1
      have hb := (Nat.max_le.1 (Nat.max_le.1 h).2).1
      have hr := (Nat.max_le.1 (Nat.max_le.1 h).2).2
      Nat.max_le.2
        ⟨le_mul_of_le (Nat.add_comm _ _ ▸ add_le_succ_mul (binders_le W b hb) hctx)
           (Nat.succ_le_succ (Nat.le_add_right _ _)),
         le_mul_of_le (bindersC_le W r hr) (Nat.le_succ_of_le (Nat.le_add_left _ _))⟩
end

/-! ## renaming keeps the size of a focused statement; its typed free variables are at most its size -/

mutual
  theorem fsTermSize_subst (σ) : ∀ t, fsTermSize (substTerm σ t) = fsTermSize t
    | .var _ _ _ => by simp [substTerm, fsTermSize]
    | .lit _ => by simp [substTerm, fsTermSize]
    | .op _ _ _ => by simp [substTerm, fsTermSize]
    | .mu _ _ _ s => by simp [substTerm, fsTermSize, fsStmtSize_subst σ s]
    | .xtor _ _ _ _ => by simp [substTerm, fsTermSize, substCtx]
    | .xcase _ _ cs => by simp [substTerm, fsTermSize, fsClausesSize_subst σ cs]
  theorem fsClausesSize_subst (σ) : ∀ cs, fsClausesSize (substClauses σ cs) = fsClausesSize cs
    | .nil => by simp [substClauses, fsClausesSize]
    | .cons _ _ b r => by
      simp [substClauses, fsClausesSize, fsStmtSize_subst σ b, fsClausesSize_subst σ r]
  theorem fsStmtSize_subst (σ) : ∀ s, fsStmtSize (substStmt σ s) = fsStmtSize s
    | .cut _ p c => by simp [substStmt, fsStmtSize, fsTermSize_subst σ p, fsTermSize_subst σ c]
    | .ifc _ _ none t e => by simp [substStmt, fsStmtSize, fsStmtSize_subst σ t, fsStmtSize_subst σ e]
    | .ifc _ _ (some _) t e => by
      simp [substStmt, fsStmtSize, fsStmtSize_subst σ t, fsStmtSize_subst σ e]
    | .print _ _ n => by simp [substStmt, fsStmtSize, fsStmtSize_subst σ n]
    | .call _ _ => by simp [substStmt, fsStmtSize, substCtx]
    | .exit _ => by simp [substStmt, fsStmtSize]
end

theorem setInsert_length (b : Core.Binding) : ∀ (l : List Core.Binding),
    (setInsert b l).length ≤ l.length + 1
  | [] => by simp [setInsert]
  | x :: xs => by
    simp only [setInsert]
    split
    · simp
    · simp
    · have := setInsert_length b xs; simp; omega

theorem setRemove_length (b : Core.Binding) (l : List Core.Binding) : (setRemove b l).length ≤ l.length := by
  unfold setRemove; exact List.length_filter_le _ _

theorem setExtend_length : ∀ (bs l : List Core.Binding), (setExtend bs l).length ≤ l.length + bs.length
  | [], l => by simp [setExtend]
  | b :: bs, l => by
    have h1 := setInsert_length b l
    have h2 := setExtend_length bs (setInsert b l)
    simp only [setExtend, List.foldl_cons, List.length_cons] at h2 ⊢
    omega

theorem foldl_setRemove_length : ∀ (ctx l : List Core.Binding),
    (ctx.foldl (fun acc b => setRemove b acc) l).length ≤ l.length
  | [], l => by simp
  | b :: bs, l => by
    have h1 := setRemove_length b l
    have h2 := foldl_setRemove_length bs (setRemove b l)
    simp only [List.foldl_cons]; omega

mutual
  theorem tfvTerm_length : ∀ (t : Core.FsTerm) (vs : List Core.Binding),
      (tfvTerm t vs).length ≤ vs.length + fsTermSize t
    | .var pc v ty, vs => by
      have := setInsert_length ⟨v, pc, ty⟩ vs
      simp only [tfvTerm, fsTermSize]; exact this
    | .lit _, vs => by simp [tfvTerm]
    | .op a _ b, vs => by
      have h1 := setInsert_length ⟨a, .prd, .i64⟩ vs
      have h2 := setInsert_length ⟨b, .prd, .i64⟩ (setInsert ⟨a, .prd, .i64⟩ vs)
      simp only [tfvTerm, fsTermSize]; omega
    | .mu pc v ty s, vs => by
      have h1 := tfvStmt_length s vs
      have h2 := setRemove_length ⟨v, flipPC pc, ty⟩ (tfvStmt s vs)
      simp only [tfvTerm, fsTermSize]; omega
    | .xtor _ _ args _, vs => by
      have := setExtend_length args vs
      simp only [tfvTerm, fsTermSize]; omega
    | .xcase _ _ cs, vs => by
      have := tfvClauses_length cs vs
      simp only [tfvTerm, fsTermSize]; omega
  theorem tfvClauses_length : ∀ (cs : Core.FsClauses) (vs : List Core.Binding),
      (tfvClauses cs vs).length ≤ vs.length + fsClausesSize cs
    | .nil, vs => by simp [tfvClauses]
    | .cons _ ctx body rest, vs => by
      have h1 := tfvStmt_length body vs
      have h2 := foldl_setRemove_length ctx (tfvStmt body vs)
      have h3 := tfvClauses_length rest (ctx.foldl (fun acc b => setRemove b acc) (tfvStmt body vs))
      simp only [tfvClauses, fsClausesSize]; omega
  theorem tfvStmt_length : ∀ (s : Core.FsStmt) (vs : List Core.Binding),
      (tfvStmt s vs).length ≤ vs.length + fsStmtSize s
    | .cut _ p c, vs => by
      have h1 := tfvTerm_length p vs
      have h2 := tfvTerm_length c (tfvTerm p vs)
      simp only [tfvStmt, fsStmtSize]; omega
    | .ifc _ a none t e, vs => by
      have h0 := setInsert_length ⟨a, .prd, .i64⟩ vs
      have h1 := tfvStmt_length t (setInsert ⟨a, .prd, .i64⟩ vs)
      have h2 := tfvStmt_length e (tfvStmt t (setInsert ⟨a, .prd, .i64⟩ vs))
      simp only [tfvStmt, fsStmtSize]; omega
    | .ifc _ a (some b) t e, vs => by
      have h0 := setInsert_length ⟨a, .prd, .i64⟩ vs
      have h0' := setInsert_length ⟨b, .prd, .i64⟩ (setInsert ⟨a, .prd, .i64⟩ vs)
      have h1 := tfvStmt_length t (setInsert ⟨b, .prd, .i64⟩ (setInsert ⟨a, .prd, .i64⟩ vs))
      have h2 := tfvStmt_length e
        (tfvStmt t (setInsert ⟨b, .prd, .i64⟩ (setInsert ⟨a, .prd, .i64⟩ vs)))
      simp only [tfvStmt, fsStmtSize]; omega
    | .print _ a n, vs => by
      have h0 := setInsert_length ⟨a, .prd, .i64⟩ vs
      have h1 := tfvStmt_length n (setInsert ⟨a, .prd, .i64⟩ vs)
      simp only [tfvStmt, fsStmtSize]; omega
    | .call _ args, vs => by
      have := setExtend_length args vs
      simp only [tfvStmt, fsStmtSize]; omega
    | .exit a, vs => by
      have h0 := setInsert_length ⟨a, .prd, .i64⟩ vs
      simp only [tfvStmt, fsStmtSize]; omega
end

/-- the longest argument list of an xtor of the declarations -/
def declArity : List Core.TypeDecl → Nat
  | [] => 0
  | d :: ds => max (d.xtors.foldr (fun x acc => max x.args.length acc) 0) (declArity ds)

theorem xtor_arity_le {xs : List Core.XtorSig} {x : Core.XtorSig} (h : x ∈ xs) :
    x.args.length ≤ xs.foldr (fun x acc => max x.args.length acc) 0 := by
  induction xs with
  | nil => simp at h
  | cons y ys ih =>
    simp only [List.mem_cons] at h
    simp only [List.foldr_cons]
    rcases h with rfl | h
    · omega
    · have := ih h; omega

theorem lookup_arity {name : Core.Ident} : ∀ {types : List Core.TypeDecl} {d},
    lookupTypeDeclaration name types = .ok d → ∀ x ∈ d.xtors, x.args.length ≤ declArity types
  | [], d, h => by simp [lookupTypeDeclaration] at h
  | t :: ts, d, h => by
    intro x hx
    by_cases ht : (t.name == name) = true
    · simp [lookupTypeDeclaration, ht] at h
      subst h
      have := xtor_arity_le hx
      simp only [declArity]; omega
    · have : lookupTypeDeclaration name ts = .ok d := by
        simpa [lookupTypeDeclaration, List.find?_cons, ht] using h
      have := lookup_arity this x hx
      simp only [declArity]; omega

/-- the longest argument list of an xtor of the environment -/
def envArity (env : Env) : Nat := max (declArity env.data) (declArity env.codata)

theorem lookup_arity_env {env : Env} {name b d}
    (h : lookupTypeDeclaration name (if b = true then env.codata else env.data) = .ok d) :
    ∀ x ∈ d.xtors, x.args.length ≤ envArity env := by
  intro x hx
  have := lookup_arity h x hx
  unfold envArity
  split at this <;> omega

theorem freshenCtx_length : ∀ c st, (freshenCtx c st).1.length = c.length
  | [], st => rfl
  | b :: bs, st => by rw [freshenCtx_cons]; exact congrArg (· + 1) (freshenCtx_length bs _)

theorem liftFresh_length : ∀ l st, (liftFresh l st).1.1.length = l.length
  | [], st => rfl
  | b :: bs, st => by rw [liftFresh_cons]; exact congrArg (· + 1) (liftFresh_length bs _)

theorem shrinkContext_length (cod : List Core.TypeDecl) (c : Core.Ctx) :
    (shrinkContext cod c).length = c.length := by simp [shrinkContext]

theorem unknownClauses_width (env : Env) (v ty) (W : Nat) : ∀ xs st,
    (∀ x ∈ xs, x.args.length ≤ W) → listMaxC (unknownClauses env v ty xs st).1 ≤ W
  | [], st, _ => Nat.zero_le _
  | x :: xs, st, h => by
    have h2 := unknownClauses_width env v ty W xs (freshenCtx (shrinkContext env.codata x.args) st).2
      (fun y hy => h y (by simp [hy]))
    have hx := h x (by simp)
    rw [unknownClauses_cons]
    simp only [listMaxC, listMax, freshenCtx_length, shrinkContext_length]
    omega

theorem criticalClauses_width (env : Env) (v ty) (e : AxCut.Stmt) (W : Nat) (he : listMax e ≤ W) :
    ∀ xs st, (∀ x ∈ xs, x.args.length ≤ W) → listMaxC (criticalClauses env v ty e xs st).1 ≤ W
  | [], st, _ => Nat.zero_le _
  | x :: xs, st, h => by
    have h2 := criticalClauses_width env v ty e W he xs
      { (freshenCtx (shrinkContext env.codata x.args) st).2 with
        maxId := (freshenCtx (shrinkContext env.codata x.args) st).2.maxId + 1 }
      (fun y hy => h y (by simp [hy]))
    have hx := h x (by simp)
    rw [criticalClauses_cons]
    simp only [listMaxC, listMax, listMax_axSubst, freshenCtx_length, shrinkContext_length] at h2 ⊢
    omega

/-- the lifted definitions have short parameter lists and short lists in their bodies -/
def OKdefs (W : Nat) (l : List AxCut.Def) : Prop := ∀ d ∈ l, d.ctx.length ≤ W ∧ listMax d.body ≤ W

/-- what the recursive call guarantees, for statements of size at most `n` -/
def RecW (W n : Nat) (rec : Rec) : Prop :=
  ∀ s st r st', fsStmtSize s ≤ n → rec s st = .ok (r, st') → OKdefs W st.lifted →
    listMax r ≤ W ∧ OKdefs W st'.lifted

theorem findClause_size {x : Core.Ident} : ∀ {cs : Core.FsClauses} {ctx body},
    findClause x cs = some (ctx, body) → fsStmtSize body ≤ fsClausesSize cs
  | .nil, _, _, h => by simp [findClause] at h
  | .cons y c b r, ctx, body, h => by
    simp only [findClause] at h
    split at h
    · simp only [Option.some.injEq, Prod.mk.injEq] at h
      obtain ⟨_, rfl⟩ := h
      simp only [fsClausesSize]; omega
    · have := findClause_size h
      simp only [fsClausesSize]; omega

section inv
variable {env : Env} {rec : Rec} {W n : Nat} (hrec : RecW W n rec) (hn : n ≤ W)
  (hA : envArity env ≤ W) (h1 : 1 ≤ W)
include hrec hn hA h1

theorem shrinkClauses_w : ∀ cs st r st', fsClausesSize cs ≤ n →
    shrinkClauses env rec cs st = .ok (r, st') → OKdefs W st.lifted →
    listMaxC r ≤ W ∧ OKdefs W st'.lifted
  | .nil, st, r, st', _, h, hl => by
    cases h
    exact ⟨Nat.zero_le _, hl⟩
  | .cons x ctx body rest, st, r, st', hs, h, hl => by
    simp only [fsClausesSize] at hs
    obtain ⟨b', st1, r', hb, hr, rfl⟩ := shrinkClauses_cons_inv h
    obtain ⟨i1, hl1⟩ := hrec body st b' st1 (by omega) hb hl
    obtain ⟨i2, hl2⟩ := shrinkClauses_w rest st1 r' st' (by omega) hr hl1
    exact ⟨by simp only [listMaxC, shrinkContext_length]; omega, hl2⟩

omit hrec in
theorem shrinkUnknownCuts_w (v1 v2 ty st r st') (h : shrinkUnknownCuts env v1 v2 ty st = .ok (r, st'))
    (hl : OKdefs W st.lifted) : listMax r ≤ W ∧ OKdefs W st'.lifted := by
  cases ty with
  | i64 =>
    cases h
    exact ⟨h1, hl⟩
  | decl name =>
    obtain ⟨d, hd, rfl, rfl⟩ := shrinkUnknownCuts_decl_inv h
    refine ⟨?_, ?_⟩
    · simp only [listMax]
      exact unknownClauses_width env _ _ W d.xtors st
        (fun x hx => Nat.le_trans (lookup_arity_env hd x hx) hA)
    · rw [(unknownClauses_spec env _ _ d.xtors st).1]
      exact hl

theorem shrinkKnownCuts_w (name args cs st r st') (hcs : fsClausesSize cs ≤ n)
    (h : shrinkKnownCuts rec name args cs st = .ok (r, st')) (hl : OKdefs W st.lifted) :
    listMax r ≤ W ∧ OKdefs W st'.lifted := by
  obtain ⟨ctx, body, hf, h⟩ := shrinkKnownCuts_inv h
  have := findClause_size hf
  exact hrec _ _ _ _ (by rw [fsStmtSize_subst]; omega) h hl

theorem lift_w (s st r st') (hs : fsStmtSize s ≤ n) (h : lift env rec s st = .ok (r, st'))
    (hl : OKdefs W st.lifted) : listMax r ≤ W ∧ OKdefs W st'.lifted := by
  obtain ⟨label, st2, st3, body, _, _, _, _, _, hl2, _, hb, rfl, rfl⟩ := lift_label h
  obtain ⟨i1, hl3⟩ := hrec _ _ body st3 (by rw [fsStmtSize_subst]; exact hs) hb (by rw [hl2]; exact hl)
  have ht := tfvStmt_length s []
  simp only [List.length_nil, Nat.zero_add] at ht
  refine ⟨by simp only [listMax, shrinkContext_length]; omega, ?_⟩
  intro d hd
  simp only [List.mem_cons] at hd
  rcases hd with rfl | hd
  · exact ⟨by simp only [shrinkContext_length, liftFresh_length]; omega, i1⟩
  · exact hl3 d hd

theorem criticalDecl_w (d name tt vK sK vE sE st r st') (hsK : fsStmtSize sK ≤ n)
    (hsE : fsStmtSize sE ≤ n) (hd : ∀ x ∈ d.xtors, x.args.length ≤ W)
    (h : criticalDecl env rec d name tt vK sK vE sE st = .ok (r, st')) (hl : OKdefs W st.lifted) :
    listMax r ≤ W ∧ OKdefs W st'.lifted := by
  obtain ⟨e, st1, k, he, hk, rfl⟩ := criticalDecl_inv h
  have i1 : listMax e ≤ W ∧ OKdefs W st1.lifted := by
    split at he
    · exact hrec _ _ _ _ hsE he hl
    · exact lift_w hrec hn hA h1 _ _ _ _ hsE he hl
  have hcl := criticalClauses_width env vE tt e W i1.1 d.xtors st1 hd
  have hcl2 := (criticalClauses_spec env vE tt e d.xtors st1).1
  obtain ⟨i2, hl2⟩ := hrec sK _ k st' hsK hk (by rw [hcl2]; exact i1.2)
  exact ⟨by simp only [listMax, Option.getD_none, List.length_nil]; omega, hl2⟩

theorem shrinkCriticalPairs_w (v1 s1 v2 s2 ty st r st') (hs1 : fsStmtSize s1 ≤ n)
    (hs2 : fsStmtSize s2 ≤ n)
    (h : shrinkCriticalPairs env rec v1 s1 v2 s2 ty st = .ok (r, st')) (hl : OKdefs W st.lifted) :
    listMax r ≤ W ∧ OKdefs W st'.lifted := by
  cases ty with
  | i64 =>
    obtain ⟨b, st1, c, hb, hc, rfl⟩ := shrinkCriticalPairs_i64_inv h
    obtain ⟨i1, hl1⟩ := hrec s2 st b st1 hs2 hb hl
    obtain ⟨i2, hl2⟩ := hrec s1 st1 c st' hs1 hc hl1
    exact ⟨by simp only [listMax, listMaxC, Option.getD_none, List.length_nil, List.length_cons]; omega,
      hl2⟩
  | decl name =>
    obtain ⟨d, hd, h⟩ := shrinkCriticalPairs_decl_inv h
    have hdx : ∀ x ∈ d.xtors, x.args.length ≤ W :=
      fun x hx => Nat.le_trans (lookup_arity_env hd x hx) hA
    split at h
    · exact criticalDecl_w hrec hn hA h1 _ _ _ _ _ _ _ _ _ _ hs2 hs1 hdx h hl
    · exact criticalDecl_w hrec hn hA h1 _ _ _ _ _ _ _ _ _ _ hs1 hs2 hdx h hl

theorem shrinkCut_w (ty p c st r st') (hs : fsStmtSize (.cut ty p c) ≤ n)
    (h : shrinkCut env rec ty p c st = .ok (r, st')) (hl : OKdefs W st.lifted) :
    listMax r ≤ W ∧ OKdefs W st'.lifted := by
  cases shrinkCut_run h <;> simp only [fsStmtSize, fsTermSize] at hs
  case muVar h | varMu h => exact hrec _ _ _ _ (by rw [fsStmtSize_subst]; omega) h hl
  case xtorXcase h | xcaseXtor h => exact shrinkKnownCuts_w hrec hn hA h1 _ _ _ _ _ _ (by omega) h hl
  case varVar h => exact shrinkUnknownCuts_w (env := env) hn hA h1 _ _ _ _ _ _ h hl
  case muMu h => exact shrinkCriticalPairs_w hrec hn hA h1 _ _ _ _ _ _ _ _ (by omega) (by omega) h hl
  case litMu h | opMu h =>
    obtain ⟨i1, hl1⟩ := hrec _ _ _ _ (by omega) h hl
    exact ⟨i1, hl1⟩
  case xtorMu h | muXtor h =>
    obtain ⟨i1, hl1⟩ := hrec _ _ _ _ (by omega) h hl
    exact ⟨by simp only [listMax, shrinkContext_length]; omega, hl1⟩
  case litVar | opVar => exact ⟨by simp only [listMax, invokeRet, List.length_cons, List.length_nil]; omega, hl⟩
  case xtorVar | varXtor => exact ⟨by simp only [listMax, shrinkContext_length]; omega, hl⟩
  case varXcase h | xcaseVar h => exact shrinkClauses_w hrec hn hA h1 _ _ _ _ (by omega) h hl
  case muXcase h1' h2 | xcaseMu h1' h2 =>
    obtain ⟨i1, hl1⟩ := shrinkClauses_w hrec hn hA h1 _ _ _ _ (by omega) h1' hl
    obtain ⟨i2, hl2⟩ := hrec _ _ _ _ (by omega) h2 hl1
    exact ⟨by simp only [listMax, Option.getD_none, List.length_nil]; omega, hl2⟩

theorem shrinkStmtStep_w (s st r st') (hs : fsStmtSize s ≤ n)
    (h : shrinkStmtStep env rec s st = .ok (r, st')) (hl : OKdefs W st.lifted) :
    listMax r ≤ W ∧ OKdefs W st'.lifted := by
  cases s with
  | cut ty p c => exact shrinkCut_w hrec hn hA h1 ty p c st r st' hs h hl
  | ifc sort a b t e =>
    have hte : fsStmtSize t ≤ n ∧ fsStmtSize e ≤ n := by
      cases b <;> simp only [fsStmtSize] at hs <;> omega
    obtain ⟨t', st1, e', ht, he, rfl⟩ := wrap2_inv h
    obtain ⟨i1, hl1⟩ := hrec t st t' st1 hte.1 ht hl
    obtain ⟨i2, hl2⟩ := hrec e st1 e' st' hte.2 he hl1
    exact ⟨by simp only [listMax]; omega, hl2⟩
  | print nl a nx =>
    simp only [fsStmtSize] at hs
    obtain ⟨_, hnx, rfl⟩ := wrap_inv h
    obtain ⟨i1, hl1⟩ := hrec _ _ _ _ (by omega) hnx hl
    exact ⟨i1, hl1⟩
  | call f args =>
    cases h
    simp only [fsStmtSize] at hs
    exact ⟨by simp only [listMax, shrinkContext_length]; omega, hl⟩
  | exit a =>
    cases h
    exact ⟨Nat.zero_le _, hl⟩

end inv

theorem shrinkStmt_w (env : Env) (W n : Nat) (hn : n ≤ W) (hA : envArity env ≤ W) (h1 : 1 ≤ W) :
    ∀ fuel, RecW W n (shrinkStmt env fuel)
  | 0 => by
    intro s st r st' _ h
    simp [shrinkStmt] at h
  | fuel + 1 => by
    intro s st r st' hs h hl
    exact shrinkStmtStep_w (shrinkStmt_w env W n hn hA h1 fuel) hn hA h1 s st r st' hs h hl

theorem shrinkDef_w {d : Core.FsDef} {data codata : List Core.TypeDecl} {used : List Core.Ident}
    {m : Nat} {r : List AxCut.Def × List Core.Ident × Nat} (W : Nat)
    (hb : fsStmtSize d.body ≤ W) (hc : d.ctx.length ≤ W)
    (hA : max (declArity data) (declArity codata) ≤ W) (h1 : 1 ≤ W)
    (h : shrinkDef d data codata used m = .ok r) : OKdefs W r.1 := by
  obtain ⟨body, st, hbody, rfl⟩ := shrinkDef_inv h
  obtain ⟨i1, hl1⟩ := shrinkStmt_w ⟨data, codata, d.name.name⟩ W W (Nat.le_refl _) hA h1 _ _ _ _ _ hb hbody
    (by intro d hd; simp at hd)
  intro x hx
  simp only [List.mem_cons] at hx
  rcases hx with rfl | hx
  · exact ⟨by simp only [shrinkContext_length]; exact hc, i1⟩
  · exact hl1 x hx

theorem shrinkDefs_w {data codata : List Core.TypeDecl} (W : Nat)
    (hA : max (declArity data) (declArity codata) ≤ W) (h1 : 1 ≤ W) :
    ∀ {defs : List Core.FsDef} {used : List Core.Ident} {m : Nat}
      {r : List AxCut.Def × List Core.Ident × Nat},
      (∀ d ∈ defs, fsStmtSize d.body ≤ W ∧ d.ctx.length ≤ W) →
      shrinkDefs data codata defs used m = .ok r → OKdefs W r.1
  | [], used, m, r, _, h => by
    simp [shrinkDefs] at h
    subst h
    intro d hd
    simp at hd
  | d :: ds, used, m, r, hds, h => by
    obtain ⟨dd, u1, m1, rest, u2, m2, hd, hr, rfl⟩ := shrinkDefs_cons_inv h
    have i1 := shrinkDef_w W (hds d (by simp)).1 (hds d (by simp)).2 hA h1 hd
    have i2 := shrinkDefs_w W hA h1 (fun x hx => hds x (by simp [hx])) hr
    intro x hx
    simp only [List.mem_append] at hx
    rcases hx with hx | hx
    · exact i1 x hx
    · exact i2 x hx

/-- the width of a focused program: its size, or the longest argument list of a declared xtor -/
def progWidth (p : Core.FsProg) : Nat :=
  max (fsProgSize p) (max (max (declArity (p.dataTypes ++ [contInt])) (declArity p.codataTypes)) 1)

theorem fsDefSize_le_of_mem : ∀ {ds : List Core.FsDef} {d}, d ∈ ds →
    fsDefSize d ≤ Core.SizeFocus.fsDefsSize ds
  | [], _, h => by simp at h
  | x :: xs, d, h => by
    simp only [List.mem_cons] at h
    simp only [Core.SizeFocus.fsDefsSize]
    rcases h with rfl | h
    · omega
    · have := fsDefSize_le_of_mem h; omega

/-- C19, the width of S4: every parameter list and every list carried by a statement of the output of
    shrinking is at most `progWidth` of the input long -/
theorem shrinkProg_width {p : Core.FsProg} {q : AxCut.Prog} (h : shrinkProg p = .ok q) :
    OKdefs (progWidth p) q.defs := by
  obtain ⟨defs, u, m, hd, rfl⟩ := shrinkProg_inv h
  refine shrinkDefs_w (progWidth p) (by unfold progWidth; omega) (by unfold progWidth; omega) ?_ hd
  intro d hd'
  have := fsDefSize_le_of_mem hd'
  unfold fsDefSize at this
  unfold progWidth fsProgSize
  constructor <;> omega

theorem size_le_defsNodes : ∀ {ds : List AxCut.Def} {d}, d ∈ ds → d.body.size ≤ defsNodes ds
  | [], _, h => by simp at h
  | x :: xs, d, h => by
    simp only [List.mem_cons] at h
    simp only [defsNodes]
    rcases h with rfl | h
    · omega
    · have := size_le_defsNodes h; omega

/-- the bound on the contexts of the linearization, from the width and the node count -/
theorem defsBound_le (W : Nat) : ∀ (ds : List AxCut.Def) (N : Nat), OKdefs W ds →
    (∀ d ∈ ds, d.body.size ≤ N) → defsBound ds ≤ 2 * (W + N * (W + 1)) + W + 1
  | [], N, _, _ => by simp [defsBound]
  | d :: ds, N, hok, hN => by
    have ih := defsBound_le W ds N (fun x hx => hok x (by simp [hx])) (fun x hx => hN x (by simp [hx]))
    obtain ⟨c1, c2⟩ := hok d (by simp)
    have b1 := binders_le W d.body c2
    have b2 := argsMax_le_listMax d.body
    have b3 : d.body.size * (W + 1) ≤ N * (W + 1) := Nat.mul_le_mul_right _ (hN d (by simp))
    simp only [defsBound, bd]
    omega

end Scc.Core2AxCut.SizeWidth
