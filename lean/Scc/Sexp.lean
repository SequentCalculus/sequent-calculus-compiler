/-
  Scc.Sexp — S-expressions: the dump format shared with the Rust harness (DESIGN.md appendix A,
  /verif/harness/src/sx.rs).  Atoms are bare words, strings are "…" with escapes \\ \" \n \r \t.
  Core imports only; executable.
-/
namespace Scc

inductive Sexp where
  | atom (a : String)
  | str (s : String)
  | list (items : List Sexp)
  deriving Repr, BEq, Inhabited

namespace Sexp

def quote (s : String) : String :=
  let body := s.foldl (fun acc c =>
    match c with
    | '\\' => acc ++ "\\\\"
    | '"' => acc ++ "\\\""
    | '\n' => acc ++ "\\n"
    | '\r' => acc ++ "\\r"
    | '\t' => acc ++ "\\t"
    | c => acc.push c) ""
  "\"" ++ body ++ "\""

mutual
  def render : Sexp → String
    | .atom a => a
    | .str s => quote s
    | .list items => "(" ++ renderList items ++ ")"
  def renderList : List Sexp → String
    | [] => ""
    | [x] => render x
    | x :: xs => render x ++ " " ++ renderList xs
end

/-- `(head item …)` -/
def node (head : String) (items : List Sexp) : Sexp := .list (.atom head :: items)

def nat (n : Nat) : Sexp := .atom (toString n)
def int (n : Int) : Sexp := .atom (toString n)

def isWs (c : Char) : Bool := c == ' ' || c == '\n' || c == '\t' || c == '\r'

def skipWs : List Char → List Char
  | c :: cs => if isWs c then skipWs cs else c :: cs
  | [] => []

def readStr : List Char → List Char → Option (String × List Char)
  | [], _ => none
  | '"' :: cs, acc => some (String.ofList acc.reverse, cs)
  | '\\' :: c :: cs, acc =>
    let c' := match c with | 'n' => '\n' | 'r' => '\r' | 't' => '\t' | x => x
    readStr cs (c' :: acc)
  | ['\\'], _ => none
  | c :: cs, acc => readStr cs (c :: acc)

def readAtom : List Char → List Char → (String × List Char)
  | [], acc => (String.ofList acc.reverse, [])
  | c :: cs, acc =>
    if isWs c || c == '(' || c == ')' then (String.ofList acc.reverse, c :: cs)
    else readAtom cs (c :: acc)

/- Parser with explicit fuel (`parse` passes `2 * length + 2`; each step consumes at least one
character or closes a list). Returns the parsed value and the rest of the input. -/
mutual
  def parseOne : Nat → List Char → Option (Sexp × List Char)
    | 0, _ => none
    | fuel + 1, cs =>
      match skipWs cs with
      | [] => none
      | '(' :: rest => parseItems fuel rest []
      | ')' :: _ => none
      | '"' :: rest =>
        match readStr rest [] with
        | some (s, rest') => some (.str s, rest')
        | none => none
      | c :: rest =>
        let (a, rest') := readAtom (c :: rest) []
        some (.atom a, rest')
  def parseItems : Nat → List Char → List Sexp → Option (Sexp × List Char)
    | 0, _, _ => none
    | fuel + 1, cs, acc =>
      match skipWs cs with
      | [] => none
      | ')' :: rest => some (.list acc.reverse, rest)
      | cs' =>
        match parseOne fuel cs' with
        | some (x, rest) => parseItems fuel rest (x :: acc)
        | none => none
end

def parse (s : String) : Option Sexp :=
  let cs := s.toList
  match parseOne (2 * cs.length + 2) cs with
  | some (x, rest) => if (skipWs rest).isEmpty then some x else none
  | none => none

/-! accessors used by the readers -/

def asAtom : Sexp → Option String
  | .atom a => some a
  | _ => none

def asStr : Sexp → Option String
  | .str a => some a
  | _ => none

def asList : Sexp → Option (List Sexp)
  | .list l => some l
  | _ => none

/-- `(head item …)` ↦ items -/
def tagged (head : String) : Sexp → Option (List Sexp)
  | .list (.atom h :: items) => if h == head then some items else none
  | _ => none

def headOf : Sexp → Option (String × List Sexp)
  | .list (.atom h :: items) => some (h, items)
  | _ => none

def asNat (s : Sexp) : Option Nat := s.asAtom.bind String.toNat?
def asInt (s : Sexp) : Option Int := s.asAtom.bind String.toInt?

end Sexp
end Scc
