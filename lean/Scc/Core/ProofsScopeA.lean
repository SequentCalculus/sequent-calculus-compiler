/-
  Scc.Core.ProofsScopeA — proof side of C03 "binders are distinct from every free name", part A:
  variable occurrences and free ids (by numeric id) of unfocused Core; substitution by variables
  only introduces the ids of its range; free ids are antitone in the bound set.
-/
import Scc.Core.ProofsUniqueB

namespace Scc.Core

theorem mem_unbound {bound l : List Nat} {i : Nat} : i ∈ unbound bound l ↔ i ∈ l ∧ i ∉ bound := by
  simp [unbound]

mutual
  /-- ids of all variable occurrences -/
  def Term.occIds : Term → List Nat
    | .var _ v _ => [v.id]
    | .lit _ => []
    | .op a _ b => a.occIds ++ b.occIds
    | .mu _ _ _ s => s.occIds
    | .xtor _ _ as _ => as.occIds
    | .xcase _ _ cl => cl.occIds
  def Args.occIds : Args → List Nat
    | .nil => []
    | .cons _ t r => t.occIds ++ r.occIds
  def Clauses.occIds : Clauses → List Nat
    | .nil => []
    | .cons _ _ b r => b.occIds ++ r.occIds
  def Stmt.occIds : Stmt → List Nat
    | .cut _ p c => p.occIds ++ c.occIds
    | .ifc _ a b t e => a.occIds ++ b.occIds ++ t.occIds ++ e.occIds
    | .ifz _ a t e => a.occIds ++ t.occIds ++ e.occIds
    | .print _ a n => a.occIds ++ n.occIds
    | .call _ as _ => as.occIds
    | .exit a _ => a.occIds
end

mutual
  /-- ids of the variable occurrences not bound by `bound` or an enclosing binder (by id) -/
  def Term.freeIds (bound : List Nat) : Term → List Nat
    | .var _ v _ => unbound bound [v.id]
    | .lit _ => []
    | .op a _ b => a.freeIds bound ++ b.freeIds bound
    | .mu _ v _ s => s.freeIds (v.id :: bound)
    | .xtor _ _ as _ => as.freeIds bound
    | .xcase _ _ cl => cl.freeIds bound
  def Args.freeIds (bound : List Nat) : Args → List Nat
    | .nil => []
    | .cons _ t r => t.freeIds bound ++ r.freeIds bound
  def Clauses.freeIds (bound : List Nat) : Clauses → List Nat
    | .nil => []
    | .cons _ ctx b r => b.freeIds (ctxIds ctx ++ bound) ++ r.freeIds bound
  def Stmt.freeIds (bound : List Nat) : Stmt → List Nat
    | .cut _ p c => p.freeIds bound ++ c.freeIds bound
    | .ifc _ a b t e => a.freeIds bound ++ b.freeIds bound ++ t.freeIds bound ++ e.freeIds bound
    | .ifz _ a t e => a.freeIds bound ++ t.freeIds bound ++ e.freeIds bound
    | .print _ a n => a.freeIds bound ++ n.freeIds bound
    | .call _ as _ => as.freeIds bound
    | .exit a _ => a.freeIds bound
end

/-! ## free ids shrink when more ids are bound -/

theorem append_sub {a a' b b' : List Nat} (ha : ∀ i ∈ a, i ∈ a') (hb : ∀ i ∈ b, i ∈ b') :
    ∀ i ∈ a ++ b, i ∈ a' ++ b' := fun i hi =>
  (List.mem_append.mp hi).elim (fun h => List.mem_append_left _ (ha i h))
    (fun h => List.mem_append_right _ (hb i h))

mutual
  theorem Term.freeIds_mono : (t : Term) → (B B' : List Nat) → (∀ x ∈ B, x ∈ B') →
      ∀ i ∈ t.freeIds B', i ∈ t.freeIds B
    | .var _ v _, B, B', h => by
      intro i; simp only [Term.freeIds, mem_unbound]
      exact fun ⟨h1, h2⟩ => ⟨h1, fun hB => h2 (h i hB)⟩
    | .lit _, _, _, _ => by simp [Term.freeIds]
    | .op a _ b, B, B', h => by
      simp only [Term.freeIds]
      exact append_sub (Term.freeIds_mono a B B' h) (Term.freeIds_mono b B B' h)
    | .mu _ v _ s, B, B', h => by
      simp only [Term.freeIds]
      exact Stmt.freeIds_mono s (v.id :: B) (v.id :: B') (append_sub (a := [v.id]) (fun _ hi => hi) h)
    | .xtor _ _ as _, B, B', h => by
      simp only [Term.freeIds]; exact Args.freeIds_mono as B B' h
    | .xcase _ _ cl, B, B', h => by
      simp only [Term.freeIds]; exact Clauses.freeIds_mono cl B B' h
  theorem Args.freeIds_mono : (as : Args) → (B B' : List Nat) → (∀ x ∈ B, x ∈ B') →
      ∀ i ∈ as.freeIds B', i ∈ as.freeIds B
    | .nil, _, _, _ => by simp [Args.freeIds]
    | .cons _ t r, B, B', h => by
      simp only [Args.freeIds]
      exact append_sub (Term.freeIds_mono t B B' h) (Args.freeIds_mono r B B' h)
  theorem Clauses.freeIds_mono : (cl : Clauses) → (B B' : List Nat) → (∀ x ∈ B, x ∈ B') →
      ∀ i ∈ cl.freeIds B', i ∈ cl.freeIds B
    | .nil, _, _, _ => by simp [Clauses.freeIds]
    | .cons _ ctx b r, B, B', h => by
      simp only [Clauses.freeIds]
      exact append_sub (Stmt.freeIds_mono b (ctxIds ctx ++ B) (ctxIds ctx ++ B')
        (append_sub (fun _ hi => hi) h)) (Clauses.freeIds_mono r B B' h)
  theorem Stmt.freeIds_mono : (s : Stmt) → (B B' : List Nat) → (∀ x ∈ B, x ∈ B') →
      ∀ i ∈ s.freeIds B', i ∈ s.freeIds B
    | .cut _ p c, B, B', h => by
      simp only [Stmt.freeIds]
      exact append_sub (Term.freeIds_mono p B B' h) (Term.freeIds_mono c B B' h)
    | .ifc _ a b t e, B, B', h => by
      simp only [Stmt.freeIds]
      exact append_sub (append_sub (append_sub (Term.freeIds_mono a B B' h)
        (Term.freeIds_mono b B B' h)) (Stmt.freeIds_mono t B B' h)) (Stmt.freeIds_mono e B B' h)
    | .ifz _ a t e, B, B', h => by
      simp only [Stmt.freeIds]
      exact append_sub (append_sub (Term.freeIds_mono a B B' h) (Stmt.freeIds_mono t B B' h))
        (Stmt.freeIds_mono e B B' h)
    | .print _ a n, B, B', h => by
      simp only [Stmt.freeIds]
      exact append_sub (Term.freeIds_mono a B B' h) (Stmt.freeIds_mono n B B' h)
    | .call _ as _, B, B', h => by
      simp only [Stmt.freeIds]; exact Args.freeIds_mono as B B' h
    | .exit a _, B, B', h => by
      simp only [Stmt.freeIds]; exact Term.freeIds_mono a B B' h
end

/-- ids of the variables in the range of a substitution -/
def Subst.rangeIds : Subst → List Nat
  | [] => []
  | (_, t) :: r => t.occIds ++ Subst.rangeIds r

theorem Subst.find_range {σ : Subst} {v : Ident} {t : Term} (hf : substFind σ v = some t) :
    ∀ i ∈ t.occIds, i ∈ σ.rangeIds := by
  induction σ with
  | nil => simp [substFind] at hf
  | cons e r ih =>
    obtain ⟨w, u⟩ := e
    simp only [substFind] at hf
    simp only [Subst.rangeIds, List.mem_append]
    split at hf
    · cases hf; exact fun i hi => Or.inl hi
    · exact fun i hi => Or.inr (ih hf i hi)

theorem Subst.remove_range (σ : Subst) (v : Ident) :
    ∀ i ∈ (substRemove σ v).rangeIds, i ∈ σ.rangeIds := by
  induction σ with
  | nil => simp [substRemove]
  | cons e r ih =>
    obtain ⟨w, u⟩ := e
    simp only [substRemove]
    split <;> simp only [Subst.rangeIds, List.mem_append] <;> grind

theorem Subst.removeCtx_range (σ : Subst) (c : Ctx) :
    ∀ i ∈ (substRemoveCtx σ c).rangeIds, i ∈ σ.rangeIds := by
  induction σ with
  | nil => simp [substRemoveCtx]
  | cons e r ih =>
    obtain ⟨w, u⟩ := e
    simp only [substRemoveCtx]
    split <;> simp only [Subst.rangeIds, List.mem_append] <;> grind

/-- `i` is an id of the original (`old`) or of the range of one of the two substitutions -/
def OccSub (ps cs : Subst) (old : List Nat) (i : Nat) : Prop :=
  i ∈ old ∨ i ∈ ps.rangeIds ∨ i ∈ cs.rangeIds

mutual
  theorem occIds_substTerm (ps cs : Subst) :
      (t : Term) → ∀ i ∈ (substTerm ps cs t).occIds, OccSub ps cs t.occIds i
    | .var .prd v ty => by
      intro i; simp only [substTerm]
      split
      · intro h; exact Or.inl h
      · next h => intro hi; exact Or.inr (Or.inl (Subst.find_range h i hi))
    | .var .cns v ty => by
      intro i; simp only [substTerm]
      split
      · intro h; exact Or.inl h
      · next h => intro hi; exact Or.inr (Or.inr (Subst.find_range h i hi))
    | .lit n => by simp [substTerm, Term.occIds]
    | .op a o b => by
      intro i; simp only [substTerm, Term.occIds, List.mem_append, OccSub]
      have := occIds_substTerm ps cs a i; have := occIds_substTerm ps cs b i
      unfold OccSub at *; grind
    | .mu pc v ty s => by
      intro i; simp only [substTerm, Term.occIds]
      have := occIds_substStmt (substRemove ps v) (substRemove cs v) s i
      have := Subst.remove_range ps v i; have := Subst.remove_range cs v i
      unfold OccSub at *; grind
    | .xtor pc n as ty => by
      intro i; simp only [substTerm, Term.occIds]; exact occIds_substArgs ps cs as i
    | .xcase pc ty cl => by
      intro i; simp only [substTerm, Term.occIds]; exact occIds_substClauses ps cs cl i
  theorem occIds_substArgs (ps cs : Subst) :
      (as : Args) → ∀ i ∈ (substArgs ps cs as).occIds, OccSub ps cs as.occIds i
    | .nil => by simp [substArgs, Args.occIds]
    | .cons pc t r => by
      intro i; simp only [substArgs, Args.occIds, List.mem_append]
      have := occIds_substTerm ps cs t i; have := occIds_substArgs ps cs r i
      unfold OccSub at *; grind
  theorem occIds_substClauses (ps cs : Subst) :
      (cl : Clauses) → ∀ i ∈ (substClauses ps cs cl).occIds, OccSub ps cs cl.occIds i
    | .nil => by simp [substClauses, Clauses.occIds]
    | .cons x ctx b r => by
      intro i; simp only [substClauses, Clauses.occIds, List.mem_append]
      have := occIds_substStmt (substRemoveCtx ps ctx) (substRemoveCtx cs ctx) b i
      have := Subst.removeCtx_range ps ctx i; have := Subst.removeCtx_range cs ctx i
      have := occIds_substClauses ps cs r i
      unfold OccSub at *; grind
  theorem occIds_substStmt (ps cs : Subst) :
      (s : Stmt) → ∀ i ∈ (substStmt ps cs s).occIds, OccSub ps cs s.occIds i
    | .cut ty p c => by
      intro i; simp only [substStmt, Stmt.occIds, List.mem_append]
      have := occIds_substTerm ps cs p i; have := occIds_substTerm ps cs c i
      unfold OccSub at *; grind
    | .ifc srt a b t e => by
      intro i; simp only [substStmt, Stmt.occIds, List.mem_append]
      have := occIds_substTerm ps cs a i; have := occIds_substTerm ps cs b i
      have := occIds_substStmt ps cs t i; have := occIds_substStmt ps cs e i
      unfold OccSub at *; grind
    | .ifz srt a t e => by
      intro i; simp only [substStmt, Stmt.occIds, List.mem_append]
      have := occIds_substTerm ps cs a i
      have := occIds_substStmt ps cs t i; have := occIds_substStmt ps cs e i
      unfold OccSub at *; grind
    | .print nl a n => by
      intro i; simp only [substStmt, Stmt.occIds, List.mem_append]
      have := occIds_substTerm ps cs a i; have := occIds_substStmt ps cs n i
      unfold OccSub at *; grind
    | .call f as ty => by
      intro i; simp only [substStmt, Stmt.occIds]; exact occIds_substArgs ps cs as i
    | .exit a ty => by
      intro i; simp only [substStmt, Stmt.occIds]; exact occIds_substTerm ps cs a i
end

theorem occIds_substIfAny (ps cs : Subst) (s : Stmt) :
    ∀ i ∈ (substIfAny ps cs s).occIds, OccSub ps cs s.occIds i := by
  unfold substIfAny; split
  · exact fun i hi => Or.inl hi
  · exact occIds_substStmt ps cs s

theorem uniquifyCtx_range (c : Ctx) (n : Nat) :
    (∀ i ∈ (uniquifyCtx c n).varSubst.rangeIds, i ∈ ctxIds (uniquifyCtx c n).ctx) ∧
    (∀ i ∈ (uniquifyCtx c n).covarSubst.rangeIds, i ∈ ctxIds (uniquifyCtx c n).ctx) := by
  induction c generalizing n with
  | nil => simp [uniquifyCtx, Subst.rangeIds]
  | cons b r ih =>
    simp only [uniquifyCtx, freshIdentifier]
    split
    · have := ih (n + 1)
      split <;> simp only [Subst.rangeIds, Term.occIds, ctxIds, List.map_cons, List.mem_append,
        List.mem_cons] at * <;> grind
    · have := ih n
      simp only [ctxIds, List.map_cons, List.mem_cons] at *
      grind

end Scc.Core
