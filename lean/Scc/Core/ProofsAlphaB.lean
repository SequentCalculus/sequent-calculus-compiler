/-
  Scc.Core.ProofsAlphaB — the name counter of `focus` only grows (`focusStmt_le`), and the notion of
  "generated name" used for freshness.
-/
import Scc.Core.Focus
import Scc.Core.ProofsAlphaA

namespace Scc.Core

/-- `i` is a name that `focus` generates at a counter `> n` (`fresh_var` / `fresh_covar`) -/
def Gen (n : Nat) (i : Ident) : Prop := (i.name = "x" ∨ i.name = "a") ∧ n < i.id

/-- no identifier of the list is generated after `n` -/
def FreshL (n : Nat) (l : List Ident) : Prop := ∀ i ∈ l, ¬ Gen n i

theorem Gen.mono {n m : Nat} {i : Ident} (h : Gen m i) (hn : n ≤ m) : Gen n i :=
  ⟨h.1, Nat.lt_of_le_of_lt hn h.2⟩

theorem FreshL.mono {n m : Nat} {l : List Ident} (h : FreshL n l) (hn : n ≤ m) : FreshL m l :=
  fun i hi hg => h i hi (hg.mono hn)

@[simp] theorem FreshL_nil (n : Nat) : FreshL n [] := by simp [FreshL]

@[simp] theorem FreshL_append (n : Nat) (a b : List Ident) :
    FreshL n (a ++ b) ↔ FreshL n a ∧ FreshL n b := by
  simp only [FreshL, List.mem_append]
  constructor
  · intro h; exact ⟨fun i hi => h i (Or.inl hi), fun i hi => h i (Or.inr hi)⟩
  · rintro ⟨h1, h2⟩ i (hi | hi)
    · exact h1 i hi
    · exact h2 i hi

@[simp] theorem FreshL_cons (n : Nat) (a : Ident) (b : List Ident) :
    FreshL n (a :: b) ↔ ¬ Gen n a ∧ FreshL n b := by
  simp [FreshL]

theorem gen_x (n m : Nat) (h : n ≤ m) : Gen n ⟨"x", m + 1⟩ := ⟨Or.inl rfl, by simp; omega⟩
theorem gen_a (n m : Nat) (h : n ≤ m) : Gen n ⟨"a", m + 1⟩ := ⟨Or.inr rfl, by simp; omega⟩
theorem not_gen_x (m : Nat) : ¬ Gen (m + 1) ⟨"x", m + 1⟩ := fun h => Nat.lt_irrefl _ h.2
theorem not_gen_a (m : Nat) : ¬ Gen (m + 1) ⟨"a", m + 1⟩ := fun h => Nat.lt_irrefl _ h.2

/-- a name that is not generated after `m` differs from everything generated after `m` -/
theorem not_mem_of_gen {m : Nat} {x : Ident} {ext : List Ident} (hx : ¬ Gen m x)
    (he : ∀ i ∈ ext, Gen m i) : x ∉ ext := fun h => hx (he x h)

def MonoK (k : Cont) : Prop := ∀ b m, m ≤ (k b m).2
def MonoKV (k : ContVec) : Prop := ∀ bs m, m ≤ (k bs m).2

private def l1 (t : Term) (n : Nat) : Prop := n ≤ (focusTerm t n).2
private def l2 (cl : Clauses) (n : Nat) : Prop := n ≤ (focusClauses cl n).2
private def l3 (s : Stmt) (n : Nat) : Prop := n ≤ (focusStmt s n).2
private def l4 (t : Term) (k : Cont) (n : Nat) : Prop := MonoK k → n ≤ (bindTerm t k n).2
private def l5 (as : Args) (k : ContVec) (n : Nat) : Prop := MonoKV k → n ≤ (bindMany as k n).2

private theorem focus_le_all :
    (∀ t n, l1 t n) ∧ (∀ cl n, l2 cl n) ∧ (∀ s n, l3 s n) ∧ (∀ t k n, l4 t k n) ∧
      (∀ as k n, l5 as k n) := by
  apply focusTerm.mutual_induct (motive_1 := l1) (motive_2 := l2) (motive_3 := l3)
    (motive_4 := l4) (motive_5 := l5)
  -- focusTerm
  · intro pc v ty n; simp [l1, focusTerm]
  · intro k n; simp [l1, focusTerm]
  · intro a o b n; simp [l1, focusTerm]
  · intro pc v ty s n s' n1 heq ih
    simp only [l1, l3, focusTerm, heq] at ih ⊢; exact ih
  · intro pc name as ty n; simp [l1, focusTerm]
  · intro pc ty cl n cl' n1 heq ih
    simp only [l1, l2, focusTerm, heq] at ih ⊢; exact ih
  -- bindTerm
  · intro pc v ty k n hk
    simp only [bindTerm]; exact hk _ _
  · intro i k n x n1 hfresh r n2 hkeq hk
    simp only [freshVar, freshIdentifier, Prod.mk.injEq] at hfresh
    obtain ⟨rfl, rfl⟩ := hfresh
    have := hk ⟨⟨"x", n + 1⟩, .prd, .i64⟩ (n + 1)
    simp only [bindTerm, freshVar, freshIdentifier, hkeq] at this ⊢
    omega
  · intro a o b k n ih1 ih2 hk
    simp only [bindTerm]
    apply ih2
    intro b1 n1
    apply ih1 b1 n1
    intro b2 n2
    have := hk ⟨⟨"x", n2 + 1⟩, .prd, .i64⟩ (n2 + 1)
    simp only [freshVar, freshIdentifier]
    omega
  · intro v ty s k n x n1 hfresh s' n2 hs r n3 hkeq ih hk
    simp only [freshVar, freshIdentifier, Prod.mk.injEq] at hfresh
    obtain ⟨rfl, rfl⟩ := hfresh
    have h2 := hk ⟨⟨"x", n + 1⟩, .prd, ty⟩ n2
    simp only [l3, hs] at ih
    simp only [bindTerm, freshVar, freshIdentifier, hs, hkeq] at h2 ⊢
    omega
  · intro v ty s k n x n1 hfresh r n2 hkeq s' n3 hs ih hk
    simp only [freshCovar, freshIdentifier, Prod.mk.injEq] at hfresh
    obtain ⟨rfl, rfl⟩ := hfresh
    have h2 := hk ⟨⟨"a", n + 1⟩, .cns, ty⟩ (n + 1)
    simp only [l3, hs] at ih
    simp only [bindTerm, freshCovar, freshIdentifier, hs, hkeq] at h2 ⊢
    omega
  · intro name as ty k n ih hk
    simp only [bindTerm]
    apply ih
    intro bs n2
    have := hk ⟨⟨"x", n2 + 1⟩, .prd, ty⟩ (n2 + 1)
    simp only [freshVar, freshIdentifier]
    omega
  · intro name as ty k n ih hk
    simp only [bindTerm]
    apply ih
    intro bs n2
    have := hk ⟨⟨"a", n2 + 1⟩, .cns, ty⟩ (n2 + 1)
    simp only [freshCovar, freshIdentifier]
    omega
  · intro ty cl k n x n1 hfresh r n2 hkeq cl' n3 hs ih hk
    simp only [freshVar, freshIdentifier, Prod.mk.injEq] at hfresh
    obtain ⟨rfl, rfl⟩ := hfresh
    have h2 := hk ⟨⟨"x", n + 1⟩, .prd, ty⟩ (n + 1)
    simp only [l2, hs] at ih
    simp only [bindTerm, freshVar, freshIdentifier, hs, hkeq] at h2 ⊢
    omega
  · intro ty cl k n x n1 hfresh r n2 hkeq cl' n3 hs ih hk
    simp only [freshCovar, freshIdentifier, Prod.mk.injEq] at hfresh
    obtain ⟨rfl, rfl⟩ := hfresh
    have h2 := hk ⟨⟨"a", n + 1⟩, .cns, ty⟩ (n + 1)
    simp only [l2, hs] at ih
    simp only [bindTerm, freshCovar, freshIdentifier, hs, hkeq] at h2 ⊢
    omega
  -- bindMany
  · intro k n hk
    simp only [bindMany]; exact hk _ _
  · intro pc t r k n ih1 ih2 hk
    simp only [bindMany]
    apply ih2
    intro b n1
    apply ih1 b n1
    intro bs n2
    exact hk _ _
  -- focusClauses
  · intro n; simp [l2, focusClauses]
  · intro x ctx b r n b' n1 hb r' n2 hr ihb ihr
    simp only [l2, l3, hb, hr] at ihb ihr
    simp only [l2, focusClauses, hb, hr]
    omega
  -- focusStmt: cut
  · intro ty pc name as ty1 c n ihc ih5
    simp only [l3, focusStmt]
    apply ih5
    intro bs n1
    exact ihc n1
  · intro ty p dpc name as ty1 n hnx ihp ih5
    simp only [l3]
    rw [focusStmt.eq_2 _ _ _ _ _ _ _ hnx]
    apply ih5
    intro bs n1
    exact ihp n1
  · intro ty a o b c n hnx ihc ih1 ih2
    simp only [l3]
    rw [focusStmt.eq_3 _ _ _ _ _ _ hnx]
    apply ih2
    intro b1 n1
    apply ih1 b1 n1
    intro b2 n2
    exact ihc n2
  · intro ty p c n hnp hnc hnop p' n1 hp c' n2 hc ihp ihc
    simp only [l3, l1, hp, hc] at ihp ihc ⊢
    rw [focusStmt.eq_4 _ _ _ _ hnp hnc hnop]
    simp only [hp, hc]
    omega
  -- ifc, ifz, print, call, exit
  · intro srt a b t e n iht ihe ih1 ih2
    simp only [l3, focusStmt]
    apply ih2
    intro b1 n1
    apply ih1 b1 n1
    intro b2 n2
    have h1 := iht n2
    have h2 := ihe (focusStmt t n2).2
    simp only [l3] at h1 h2
    show n2 ≤ (focusStmt e (focusStmt t n2).2).2
    omega
  · intro srt a t e n iht ihe ih1
    simp only [l3, focusStmt]
    apply ih1
    intro b1 n1
    have h1 := iht n1
    have h2 := ihe (focusStmt t n1).2
    simp only [l3] at h1 h2
    show n1 ≤ (focusStmt e (focusStmt t n1).2).2
    omega
  · intro nl a nx n ihn ih1
    simp only [l3, focusStmt]
    apply ih1
    intro b1 n1
    exact ihn n1
  · intro f as ty n ih5
    simp only [l3, focusStmt]
    apply ih5
    intro bs n1
    exact Nat.le_refl _
  · intro a ty n ih4
    simp only [l3, focusStmt]
    apply ih4
    intro b n1
    exact Nat.le_refl _

theorem focusTerm_le (t : Term) (n : Nat) : n ≤ (focusTerm t n).2 := focus_le_all.1 t n
theorem focusClauses_le (cl : Clauses) (n : Nat) : n ≤ (focusClauses cl n).2 := focus_le_all.2.1 cl n
theorem focusStmt_le (s : Stmt) (n : Nat) : n ≤ (focusStmt s n).2 := focus_le_all.2.2.1 s n
theorem bindTerm_le (t : Term) (k : Cont) (n : Nat) (hk : MonoK k) : n ≤ (bindTerm t k n).2 :=
  focus_le_all.2.2.2.1 t k n hk
theorem bindMany_le (as : Args) (k : ContVec) (n : Nat) (hk : MonoKV k) :
    n ≤ (bindMany as k n).2 := focus_le_all.2.2.2.2 as k n hk

end Scc.Core
