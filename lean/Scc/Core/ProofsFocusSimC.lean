/-
  Scc.Core.ProofsFocusSimC — the simulation, part C: the proper step.  When the unfocused statement has no
  non-variable argument left (`split = none`) both machines take the corresponding step (`step_proper`).  The
  other case, a ς-step of the ς-machine while the focused machine waits, is `step_sigma` in ProofsFocusSimD.lean.
-/
import Scc.Core.ProofsFocusSimB

namespace Scc.Core
namespace FocusSim

structure SRel (st1 : State) (st2 : FsState) : Prop where
  out : st1.out = st2.out
  env : ER st1.fresh st1.env st2.env
  code : CodeS st1.fresh (keys st1.env) st1.stmt (keys st2.env) st2.stmt

/-- results of a proper step (the ς-counter `k` does not change) -/
def StepR (k : Nat) : Step State → Step FsState → Prop
  | .next st1, .next st2 => SRel st1 st2 ∧ st1.fresh = k
  | .final r, .final r' => r = r'
  | _, _ => False

section
variable {st1 : State} {st2 : FsState}

theorem goto_rel (h : SRel st1 st2) {s : Stmt} {s2 : FsStmt} {ρ : CEnv} {ρ2 : FEnv}
    (he : ER st1.fresh ρ ρ2) (hc : CodeS st1.fresh (keys ρ) s (keys ρ2) s2) :
    StepR st1.fresh (st1.goto s ρ) (st2.goto s2 ρ2) := by
  simp only [State.goto, FsState.goto, StepR]
  exact ⟨⟨h.out, he, hc⟩, trivial⟩

theorem select_rel (h : SRel st1 st2) {ρ : CEnv} {ρ2 : FEnv} (he : ER st1.fresh ρ ρ2)
    {cl : Clauses} {cl2 : FsClauses} (hc : CodeC st1.fresh (keys ρ) cl (keys ρ2) cl2) (x : Ident)
    {vs : List CVal} {vs2 : List FVal} (hv : VsR st1.fresh vs vs2) :
    StepR st1.fresh (st1.select ρ cl x vs) (st2.select ρ2 cl2 x vs2) := by
  obtain ⟨hok, n, hf, hdb⟩ := hc
  simp only [State.select, FsState.select]
  rcases find_rel x cl n cl2 hok hf hdb with ⟨h1, h2⟩ | ⟨ctx, body, ctx2, body2, h1, h2, hl, hcode⟩
  · simp [h1, h2, StepR, stuck]
  · simp only [h1, h2]
    have := bind_rel he ctx ctx2 hl hv
    cases h3 : Env.bind ρ ctx vs <;> cases h4 : Env.bind ρ2 ctx2 vs2 <;>
      simp only [h3, h4, ExRel] at this ⊢
    · simp [StepR, stuck, this]
    · obtain ⟨he', hk1, hk2⟩ := this
      refine goto_rel h he' ?_
      rw [hk1, hk2]
      exact hcode

theorem pass_rel (h : SRel st1 st2) {pv cv : CVal} {pv2 cv2 : FVal} (hp : VR st1.fresh pv pv2)
    (hc : VR st1.fresh cv cv2) : StepR st1.fresh (st1.pass pv cv) (st2.pass pv2 cv2) := by
  cases hc with
  | mutilde he hcode => exact goto_rel h (ER.cons _ _ hp he) hcode
  | case he hcode =>
    cases hp with
    | con c hvs => exact select_rel h he hcode c hvs
    | _ => simp [State.pass, FsState.pass, StepR, stuck]
  | halt =>
    cases hp with
    | int n => simp [State.pass, FsState.pass, StepR]
    | _ => simp [State.pass, FsState.pass, StepR, stuck]
  | _ => simp [State.pass, FsState.pass, StepR, stuck]

theorem invoke_rel (h : SRel st1 st2) {pv : CVal} {pv2 : FVal} (hp : VR st1.fresh pv pv2)
    (d : Ident) {vs : List CVal} {vs2 : List FVal} (hvs : VsR st1.fresh vs vs2) :
    StepR st1.fresh (st1.invoke pv d vs) (st2.invoke pv2 d vs2) := by
  cases hp with
  | cocase he hcode => exact select_rel h he hcode d hvs
  | thunk he hcode => exact goto_rel h (ER.cons _ _ (VR.dtor d hvs) he) hcode
  | _ => simp [State.invoke, FsState.invoke, StepR, stuck]

theorem stepCut_data_nonmu {st : State} {p c : Term} (hm : ¬ ∃ pc a t s, p = .mu pc a t s) :
    stepCut false st p c =
      (match prdVal st.env p with
        | .error e => stuck e
        | .ok pv =>
          match cnsVal st.env c with
          | .error e => stuck e
          | .ok cv => st.pass pv cv) := by
  unfold stepCut
  cases p with
  | mu pc a t s => exact absurd ⟨_, _, _, _, rfl⟩ hm
  | _ => rfl

theorem fsStepCut_data_nonmu {st : FsState} {p c : FsTerm} (hm : ¬ ∃ pc a t s, p = .mu pc a t s) :
    fsStepCut false st p c =
      (match fsPrdVal st.env p with
        | .error e => stuck e
        | .ok pv =>
          match fsCnsVal st.env c with
          | .error e => stuck e
          | .ok cv => st.pass pv cv) := by
  unfold fsStepCut
  cases p with
  | mu pc a t s => exact absurd ⟨_, _, _, _, rfl⟩ hm
  | _ => rfl

theorem stepCut_rel (h : SRel st1 st2) (cod : Bool) {p c : Term} {p2 c2 : FsTerm}
    (hp : ExRel (VR st1.fresh) (prdVal st1.env p) (fsPrdVal st2.env p2))
    (hc : ExRel (VR st1.fresh) (cnsVal st1.env c) (fsCnsVal st2.env c2))
    (hmu : (∃ pc a t s, p = .mu pc a t s) ↔ (∃ pc a t s, p2 = .mu pc a t s)) :
    StepR st1.fresh (stepCut cod st1 p c) (fsStepCut cod st2 p2 c2) := by
  have he := h.env
  cases cod
  · by_cases hm : ∃ pc a t s, p = .mu pc a t s
    · obtain ⟨pc, a, t, s, rfl⟩ := hm
      obtain ⟨pc2, a2, t2, s2, rfl⟩ := hmu.mp ⟨_, _, _, _, rfl⟩
      simp only [prdVal, fsPrdVal, ExRel] at hp
      cases hp with
      | thunk _ hcode =>
        simp only [stepCut, fsStepCut, Bool.false_eq_true, if_false]
        cases h1 : cnsVal st1.env c <;> cases h2 : fsCnsVal st2.env c2 <;>
          simp only [h1, h2, ExRel] at hc ⊢
        · simp [StepR, stuck, hc]
        · exact goto_rel h (ER.cons _ _ hc he) hcode
    · have hm2 : ¬ ∃ pc a t s, p2 = .mu pc a t s := fun e => hm (hmu.mpr e)
      rw [stepCut_data_nonmu hm, fsStepCut_data_nonmu hm2]
      cases h1 : prdVal st1.env p <;> cases h2 : fsPrdVal st2.env p2 <;>
        simp only [h1, h2, ExRel] at hp ⊢
      · simp [StepR, stuck, hp]
      · cases h3 : cnsVal st1.env c <;> cases h4 : fsCnsVal st2.env c2 <;>
          simp only [h3, h4, ExRel] at hc ⊢
        · simp [StepR, stuck, hc]
        · exact pass_rel h hp hc
  · simp only [stepCut, fsStepCut, if_true]
    cases h3 : cnsVal st1.env c <;> cases h4 : fsCnsVal st2.env c2 <;>
      simp only [h3, h4, ExRel] at hc ⊢
    · simp [StepR, stuck, hc]
    · cases hc with
      | mutilde he' hcode =>
        cases h1 : prdVal st1.env p <;> cases h2 : fsPrdVal st2.env p2 <;>
          simp only [h1, h2, ExRel] at hp ⊢
        · simp [StepR, stuck, hp]
        · exact goto_rel h (ER.cons _ _ hp he') hcode
      | dtor d hvs =>
        cases h1 : prdVal st1.env p <;> cases h2 : fsPrdVal st2.env p2 <;>
          simp only [h1, h2, ExRel] at hp ⊢
        · simp [StepR, stuck, hp]
        · exact invoke_rel h hp d hvs
      | _ => simp [StepR, stuck]

end

structure DefRel (d1 : Def) (d2 : FsDef) : Prop where
  name : d1.name = d2.name
  chis : d1.ctx.map (·.chi) = d2.ctx.map (·.chi)
  code : CodeS 0 (ctxVars d1.ctx) d1.body (ctxVars d2.ctx) d2.body

def DefsRel : List Def → List FsDef → Prop
  | [], [] => True
  | d :: r, d' :: r' => DefRel d d' ∧ DefsRel r r'
  | _, _ => False

structure PRel (p1 : Prog) (q : FsProg) : Prop where
  codata : p1.codataTypes = q.codataTypes
  defs : DefsRel p1.defs q.defs

theorem find_def_rel (f : Ident → Bool) : ∀ {ds : List Def} {ds' : List FsDef}, DefsRel ds ds' →
    (ds.find? (fun d => f d.name) = none ∧ ds'.find? (fun d => f d.name) = none) ∨
    ∃ d d', ds.find? (fun d => f d.name) = some d ∧ ds'.find? (fun d => f d.name) = some d' ∧
      DefRel d d'
  | [], [], _ => Or.inl ⟨rfl, rfl⟩
  | [], _ :: _, h => by simp [DefsRel] at h
  | _ :: _, [], h => by simp [DefsRel] at h
  | d :: r, d' :: r', h => by
    obtain ⟨h1, h2⟩ := h
    simp only [List.find?_cons, ← h1.name]
    cases hf : f d.name
    · exact find_def_rel f h2
    · exact Or.inr ⟨d, d', rfl, rfl, h1⟩

theorem DefRel.ctx_length {d1 : Def} {d2 : FsDef} (h : DefRel d1 d2) :
    d1.ctx.length = d2.ctx.length := by
  have := congrArg List.length h.chis
  simpa using this

theorem step_proper {p1 : Prog} {q : FsProg} (hP : PRel p1 q) {st1 : State} {st2 : FsState}
    (h : SRel st1 st2) (hs : st1.stmt.split = none) :
    StepR st1.fresh (step p1 st1) (fsStep q st2) := by
  obtain ⟨hout, he, hcode⟩ := h
  have h : SRel st1 st2 := ⟨hout, he, hcode⟩
  obtain ⟨hok, n, hf, hdb⟩ := hcode
  unfold step fsStep
  simp only [sigmaStep, hs]
  cases hst : st1.stmt with
  | cut ty p c =>
    rw [hst] at hs hok hf hdb
    obtain ⟨hpv, hcv, hfoc⟩ := cut_none hs hok.cuts hok.pcs n
    rw [hfoc] at hdb
    simp only [FsStmt.embed, dbS] at hdb
    obtain ⟨p2, c2, hst2, hp2, hc2⟩ := fsS_inv_cut hdb.symm
    rw [hst2]
    simp only [Stmt.idents, FreshL_append] at hf
    obtain ⟨hokp, hokc⟩ := hok.cut
    simp only [hP.codata]
    exact stepCut_rel h _ (prdVal_rel he hpv hokp hf.1 hp2.symm)
      (cnsVal_rel he hcv hokc (hf.2.mono (fval_le ty p n)) hc2.symm) (fval_mu_iff hp2.symm)
  | ifc srt a b t e =>
    rw [hst] at hs hok hf hdb
    have hab := Stmt.split_none_ifc hs
    obtain ⟨pa, va, ta, rfl⟩ := Term.isVar_eq hab.1
    obtain ⟨pb, vb, tb, rfl⟩ := Term.isVar_eq hab.2
    rw [focusStmt_ifc_eq] at hdb
    simp only [bindTerm, kIfc, FsStmt.embed, varI64, dbS, dbT] at hdb
    obtain ⟨a2, b2, t2, e2, hst2, ha2, hb2, ht2, he2⟩ := fsS_inv_ifc hdb.symm
    rw [hst2]
    simp only [Stmt.idents, Term.idents, FreshL_append] at hf
    obtain ⟨h1, h2, h3⟩ := hok
    simp only [Stmt.cutsOk, Bool.and_eq_true] at h1
    simp only [Stmt.pcOk, Bool.and_eq_true] at h2
    simp only [Stmt.idents, SigLt_append] at h3
    simp only [lookupInt_rel he ha2.symm, lookupInt_rel he hb2.symm]
    cases st2.env.lookupInt a2 with
    | error _ => simp [StepR, stuck]
    | ok x =>
      cases st2.env.lookupInt b2 with
      | error _ => simp [StepR, stuck]
      | ok y =>
        by_cases hc : compare srt x y = true
        · simp only [hc, if_true]
          exact goto_rel h he ⟨⟨h1.1.2, h2.1.2, h3.1.2⟩, n, hf.1.2, ht2.symm⟩
        · simp only [hc, Bool.false_eq_true, if_false]
          exact goto_rel h he ⟨⟨h1.2, h2.2, h3.2⟩, _, hf.2.mono (focusStmt_le t n), he2.symm⟩
  | ifz srt a t e =>
    rw [hst] at hs hok hf hdb
    have hab := Stmt.split_none_ifz hs
    obtain ⟨pa, va, ta, rfl⟩ := Term.isVar_eq hab
    rw [focusStmt_ifz_eq] at hdb
    simp only [bindTerm, kIfz, FsStmt.embed, varI64, dbS, dbT] at hdb
    obtain ⟨a2, t2, e2, hst2, ha2, ht2, he2⟩ := fsS_inv_ifz hdb.symm
    rw [hst2]
    simp only [Stmt.idents, Term.idents, FreshL_append] at hf
    obtain ⟨h1, h2, h3⟩ := hok
    simp only [Stmt.cutsOk, Bool.and_eq_true] at h1
    simp only [Stmt.pcOk, Bool.and_eq_true] at h2
    simp only [Stmt.idents, SigLt_append] at h3
    simp only [lookupInt_rel he ha2.symm]
    cases st2.env.lookupInt a2 with
    | error _ => simp [StepR, stuck]
    | ok x =>
      by_cases hc : compare srt x 0 = true
      · simp only [hc, if_true]
        exact goto_rel h he ⟨⟨h1.1.2, h2.1.2, h3.1.2⟩, n, hf.1.2, ht2.symm⟩
      · simp only [hc, Bool.false_eq_true, if_false]
        exact goto_rel h he ⟨⟨h1.2, h2.2, h3.2⟩, _, hf.2.mono (focusStmt_le t n), he2.symm⟩
  | print nl a nx =>
    rw [hst] at hs hok hf hdb
    have hab := Stmt.split_none_print hs
    obtain ⟨pa, va, ta, rfl⟩ := Term.isVar_eq hab
    rw [focusStmt_print_eq] at hdb
    simp only [bindTerm, kPrint, FsStmt.embed, varI64, dbS, dbT] at hdb
    obtain ⟨a2, t2, hst2, ha2, ht2⟩ := fsS_inv_print hdb.symm
    rw [hst2]
    simp only [Stmt.idents, Term.idents, FreshL_append] at hf
    obtain ⟨h1, h2, h3⟩ := hok
    simp only [Stmt.cutsOk, Bool.and_eq_true] at h1
    simp only [Stmt.pcOk, Bool.and_eq_true] at h2
    simp only [Stmt.idents, SigLt_append] at h3
    simp only [lookupInt_rel he ha2.symm]
    cases st2.env.lookupInt a2 with
    | error _ => simp [StepR, stuck]
    | ok x =>
      simp only [StepR]
      exact ⟨⟨by simp [hout], he, ⟨⟨h1.2, h2.2, h3.2⟩, n, hf.2, ht2.symm⟩⟩, trivial⟩
  | call f as ty =>
    rw [hst] at hs hok hf hdb
    have has := Stmt.split_none_call hs
    rw [focusStmt_call_eq, bindMany_allVars as has] at hdb
    simp only [kCall, FsStmt.embed, dbS] at hdb
    obtain ⟨as2, hst2, hA⟩ := fsS_inv_call hdb.symm
    rw [hst2]
    simp only
    rcases find_def_rel (fun nm => decide (nm = f)) hP.defs with ⟨h1, h2⟩ | ⟨d, d', h1, h2, hd⟩
    · simp [h1, h2, StepR, stuck]
    · simp only [h1, h2]
      have hl := argVals_rel he as has as2 hA.symm
      cases h3 : argVals st1.env as <;> cases h4 : st2.env.lookupAll as2 <;>
        simp only [h3, h4, ExRel] at hl ⊢
      · simp [StepR, stuck, hl]
      · have hb := bind_rel (ρ := []) (ρ' := []) (k := st1.fresh) ER.nil d.ctx d'.ctx
          hd.ctx_length hl
        cases h5 : Env.bind ([] : CEnv) d.ctx _ <;> cases h6 : Env.bind ([] : FEnv) d'.ctx _ <;>
          simp only [h5, h6, ExRel] at hb ⊢
        · simp [StepR, stuck, hb]
        · obtain ⟨he', hk1, hk2⟩ := hb
          refine goto_rel h he' ?_
          rw [hk1, hk2]
          simpa using hd.code.mono (Nat.zero_le _)
  | exit a ty =>
    rw [hst] at hs hok hf hdb
    have hab := Stmt.split_none_exit hs
    obtain ⟨pa, va, ta, rfl⟩ := Term.isVar_eq hab
    rw [focusStmt_exit_eq] at hdb
    simp only [bindTerm, kExit, FsStmt.embed, varI64, dbS, dbT] at hdb
    obtain ⟨a2, hst2, ha2⟩ := fsS_inv_exit hdb.symm
    rw [hst2]
    simp only [lookupInt_rel he ha2.symm]
    cases st2.env.lookupInt a2 <;> simp [StepR, stuck]

end FocusSim
end Scc.Core
