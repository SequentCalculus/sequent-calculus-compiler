/-
  Scc.Core.ProofsScopeC — proof side of C03 "binders are distinct from every free name", part C:
  focusing does not create free names: if all free ids of `s` are `≤ m0`, so are all free ids of `focusStmt s`
  (`focusStmt_scoped`); the variables introduced by `bind` are used only under their binder.
-/
import Scc.Core.ProofsScopeA

namespace Scc.Core

section
variable (m0 : Nat)

/-- the binding handed to a continuation refers to a bound or an old id -/
def BindOK (B : List Nat) (b : Binding) : Prop := b.var.id ≤ m0 ∨ b.var.id ∈ B

private def f1 (t : Term) (n : Nat) : Prop :=
  ∀ B, (∀ i ∈ t.freeIds B, i ≤ m0) → ∀ i ∈ (focusTerm t n).1.freeIds B, i ≤ m0
private def f2 (cl : Clauses) (n : Nat) : Prop :=
  ∀ B, (∀ i ∈ cl.freeIds B, i ≤ m0) → ∀ i ∈ (focusClauses cl n).1.freeIds B, i ≤ m0
private def f3 (s : Stmt) (n : Nat) : Prop :=
  ∀ B, (∀ i ∈ s.freeIds B, i ≤ m0) → ∀ i ∈ (focusStmt s n).1.freeIds B, i ≤ m0
private def f4 (t : Term) (k : Cont) (n : Nat) : Prop :=
  ∀ B, (∀ i ∈ t.freeIds B, i ≤ m0) →
    (∀ b n1 B', (∀ x ∈ B, x ∈ B') → BindOK m0 B' b → ∀ i ∈ (k b n1).1.freeIds B', i ≤ m0) →
    ∀ i ∈ (bindTerm t k n).1.freeIds B, i ≤ m0
private def f5 (as : Args) (k : ContVec) (n : Nat) : Prop :=
  ∀ B, (∀ i ∈ as.freeIds B, i ≤ m0) →
    (∀ bs n1 B', (∀ x ∈ B, x ∈ B') → (∀ b ∈ bs, BindOK m0 B' b) →
      ∀ i ∈ (k bs n1).1.freeIds B', i ≤ m0) →
    ∀ i ∈ (bindMany as k n).1.freeIds B, i ≤ m0

theorem BindOK.mono {B B' : List Nat} {b : Binding} (h : BindOK m0 B b) (hs : ∀ x ∈ B, x ∈ B') :
    BindOK m0 B' b := by
  unfold BindOK at *; grind

/-- the unbound ones among the ids `l` are old iff every id of `l` is old or bound -/
theorem low_unbound {B l : List Nat} :
    (∀ i ∈ unbound B l, i ≤ m0) ↔ ∀ i ∈ l, i ≤ m0 ∨ i ∈ B := by
  simp only [mem_unbound]
  constructor
  · intro h i hi
    by_cases hB : i ∈ B
    · exact Or.inr hB
    · exact Or.inl (h i ⟨hi, hB⟩)
  · rintro h i ⟨hi, hB⟩
    exact (h i hi).resolve_right hB

theorem low_one {B : List Nat} {b : Binding} :
    (∀ i ∈ unbound B [b.var.id], i ≤ m0) ↔ BindOK m0 B b := by
  rw [low_unbound, List.forall_mem_singleton]; rfl

theorem low_two {B : List Nat} {a b : Binding} :
    (∀ i ∈ unbound B [a.var.id, b.var.id], i ≤ m0) ↔ BindOK m0 B a ∧ BindOK m0 B b := by
  rw [low_unbound, List.forall_mem_cons, List.forall_mem_singleton]; rfl

theorem low_ctx {B : List Nat} {bs : List Binding} :
    (∀ i ∈ unbound B (ctxIds bs), i ≤ m0) ↔ ∀ b ∈ bs, BindOK m0 B b := by
  rw [low_unbound, ctxIds, List.forall_mem_map]; rfl

theorem BindOK.fresh (B : List Nat) (x : Ident) (pc : PC) (ty : Ty) :
    BindOK m0 (x.id :: B) ⟨x, pc, ty⟩ := Or.inr List.mem_cons_self

theorem focusStmt_scoped (s : Stmt) (n : Nat) : f3 m0 s n := by
  apply focusStmt.induct (motive_1 := f1 m0) (motive_2 := f2 m0) (motive_3 := f3 m0)
    (motive_4 := f4 m0) (motive_5 := f5 m0)
  -- focusTerm
  · intro pc v ty n B h
    simpa only [focusTerm, Term.freeIds, FsTerm.freeIds] using h
  · intro k n B _
    simp [focusTerm, FsTerm.freeIds]
  · intro a o b n B _
    simp [focusTerm, panicTerm, FsTerm.freeIds]
  · intro pc v ty s n s' n1 heq ih B h
    simp only [Term.freeIds] at h
    have := ih (v.id :: B) h
    rw [heq] at this
    simpa only [focusTerm, heq, FsTerm.freeIds] using this
  · intro pc name as ty n B _
    simp [focusTerm, panicTerm, FsTerm.freeIds]
  · intro pc ty cl n cl' n1 heq ih B h
    simp only [Term.freeIds] at h
    have := ih B h
    rw [heq] at this
    simpa only [focusTerm, heq, FsTerm.freeIds] using this
  -- bindTerm
  · intro pc v ty k n B h hk
    simp only [bindTerm]
    simp only [Term.freeIds] at h
    exact hk _ n B (fun _ hx => hx) ((low_one m0 (b := ⟨v, pc, ty⟩)).mp h)
  · intro i k n x n1 hfresh r n2 hkeq B h hk
    simp only [freshVar, freshIdentifier, Prod.mk.injEq] at hfresh
    obtain ⟨rfl, rfl⟩ := hfresh
    have := hk _ (n + 1) _ (fun _ => List.mem_cons_of_mem _) (BindOK.fresh m0 B ⟨"x", n + 1⟩ .prd .i64)
    rw [hkeq] at this
    simpa only [bindTerm, freshVar, freshIdentifier, hkeq, FsStmt.freeIds, FsTerm.freeIds,
      List.nil_append] using this
  · intro a o b k n ih1 ih2 B h hk
    simp only [Term.freeIds, List.forall_mem_append] at h
    simp only [bindTerm]
    apply ih2 B h.1
    intro b1 n1 B1 hB1 hb1
    apply ih1 b1 n1 B1 (fun i hi => h.2 i (Term.freeIds_mono b B B1 hB1 i hi))
    intro b2 n2 B2 hB2 hb2
    have := hk _ (n2 + 1) _ (fun x hx => List.mem_cons_of_mem _ (hB2 x (hB1 x hx)))
      (BindOK.fresh m0 B2 ⟨"x", n2 + 1⟩ .prd .i64)
    simp only [freshVar, freshIdentifier, FsStmt.freeIds, FsTerm.freeIds, List.forall_mem_append,
      low_two]
    exact ⟨⟨hb1.mono m0 hB2, hb2⟩, this⟩
  · intro v ty s k n x n1 hfresh s' n2 hs r n3 hkeq ih B h hk
    simp only [freshVar, freshIdentifier, Prod.mk.injEq] at hfresh
    obtain ⟨rfl, rfl⟩ := hfresh
    simp only [Term.freeIds] at h
    have h1 := ih (v.id :: B) h
    rw [hs] at h1
    have h2 := hk _ n2 _ (fun _ => List.mem_cons_of_mem _) (BindOK.fresh m0 B ⟨"x", n + 1⟩ .prd ty)
    rw [hkeq] at h2
    simp only [bindTerm, freshVar, freshIdentifier, hs, hkeq, FsStmt.freeIds, FsTerm.freeIds,
      List.forall_mem_append]
    exact ⟨h1, h2⟩
  · intro v ty s k n x n1 hfresh r n2 hkeq s' n3 hs ih B h hk
    simp only [freshCovar, freshIdentifier, Prod.mk.injEq] at hfresh
    obtain ⟨rfl, rfl⟩ := hfresh
    simp only [Term.freeIds] at h
    have h1 := ih (v.id :: B) h
    rw [hs] at h1
    have h2 := hk _ (n + 1) _ (fun _ => List.mem_cons_of_mem _)
      (BindOK.fresh m0 B ⟨"a", n + 1⟩ .cns ty)
    rw [hkeq] at h2
    simp only [bindTerm, freshCovar, freshIdentifier, hs, hkeq, FsStmt.freeIds, FsTerm.freeIds,
      List.forall_mem_append]
    exact ⟨h2, h1⟩
  · intro name as ty k n ih B h hk
    simp only [Term.freeIds] at h
    simp only [bindTerm]
    apply ih B h
    intro bs n2 B2 hB2 hbs
    have := hk _ (n2 + 1) _ (fun x hx => List.mem_cons_of_mem _ (hB2 x hx))
      (BindOK.fresh m0 B2 ⟨"x", n2 + 1⟩ .prd ty)
    simp only [freshVar, freshIdentifier, FsStmt.freeIds, FsTerm.freeIds, List.forall_mem_append,
      low_ctx]
    exact ⟨hbs, this⟩
  · intro name as ty k n ih B h hk
    simp only [Term.freeIds] at h
    simp only [bindTerm]
    apply ih B h
    intro bs n2 B2 hB2 hbs
    have := hk _ (n2 + 1) _ (fun x hx => List.mem_cons_of_mem _ (hB2 x hx))
      (BindOK.fresh m0 B2 ⟨"a", n2 + 1⟩ .cns ty)
    simp only [freshCovar, freshIdentifier, FsStmt.freeIds, FsTerm.freeIds, List.forall_mem_append,
      low_ctx]
    exact ⟨this, hbs⟩
  · intro ty cl k n x n1 hfresh r n2 hkeq cl' n3 hs ih B h hk
    simp only [freshVar, freshIdentifier, Prod.mk.injEq] at hfresh
    obtain ⟨rfl, rfl⟩ := hfresh
    simp only [Term.freeIds] at h
    have h1 := ih B h
    rw [hs] at h1
    have h2 := hk _ (n + 1) _ (fun _ => List.mem_cons_of_mem _)
      (BindOK.fresh m0 B ⟨"x", n + 1⟩ .prd ty)
    rw [hkeq] at h2
    simp only [bindTerm, freshVar, freshIdentifier, hs, hkeq, FsStmt.freeIds, FsTerm.freeIds,
      List.forall_mem_append]
    exact ⟨h1, h2⟩
  · intro ty cl k n x n1 hfresh r n2 hkeq cl' n3 hs ih B h hk
    simp only [freshCovar, freshIdentifier, Prod.mk.injEq] at hfresh
    obtain ⟨rfl, rfl⟩ := hfresh
    simp only [Term.freeIds] at h
    have h1 := ih B h
    rw [hs] at h1
    have h2 := hk _ (n + 1) _ (fun _ => List.mem_cons_of_mem _)
      (BindOK.fresh m0 B ⟨"a", n + 1⟩ .cns ty)
    rw [hkeq] at h2
    simp only [bindTerm, freshCovar, freshIdentifier, hs, hkeq, FsStmt.freeIds, FsTerm.freeIds,
      List.forall_mem_append]
    exact ⟨h2, h1⟩
  -- bindMany
  · intro k n B _ hk
    simp only [bindMany]
    exact hk [] n B (fun _ hx => hx) (fun _ hb => nomatch hb)
  · intro pc t r k n ih1 ih2 B h hk
    simp only [Args.freeIds, List.forall_mem_append] at h
    simp only [bindMany]
    apply ih2 B h.1
    intro b n1 B1 hB1 hb
    apply ih1 b n1 B1 (fun i hi => h.2 i (Args.freeIds_mono r B B1 hB1 i hi))
    intro bs n2 B2 hB2 hbs
    exact hk (b :: bs) n2 B2 (fun x hx => hB2 x (hB1 x hx))
      (List.forall_mem_cons.mpr ⟨hb.mono m0 hB2, hbs⟩)
  -- focusClauses
  · intro n B _
    simp [focusClauses, FsClauses.freeIds]
  · intro x ctx b r n b' n1 hb r' n2 hr ihb ihr B h
    simp only [Clauses.freeIds, List.forall_mem_append] at h
    have h1 := ihb (ctxIds ctx ++ B) h.1
    have h2 := ihr B h.2
    rw [hb] at h1; rw [hr] at h2
    simp only [focusClauses, hb, hr, FsClauses.freeIds, List.forall_mem_append]
    exact ⟨h1, h2⟩
  -- focusStmt: cut
  · intro ty pc name as ty1 c n ihc ih5 B h
    simp only [Stmt.freeIds, Term.freeIds, List.forall_mem_append] at h
    simp only [focusStmt]
    apply ih5 B h.1
    intro bs n1 B1 hB1 hbs
    have := ihc n1 B1 (fun i hi => h.2 i (Term.freeIds_mono c B B1 hB1 i hi))
    simp only [FsStmt.freeIds, FsTerm.freeIds, List.forall_mem_append, low_ctx]
    exact ⟨hbs, this⟩
  · intro ty p dpc name as ty1 n hnx ihp ih5 B h
    simp only [Stmt.freeIds, Term.freeIds, List.forall_mem_append] at h
    rw [focusStmt.eq_2 _ _ _ _ _ _ _ hnx]
    apply ih5 B h.2
    intro bs n1 B1 hB1 hbs
    have := ihp n1 B1 (fun i hi => h.1 i (Term.freeIds_mono p B B1 hB1 i hi))
    simp only [FsStmt.freeIds, FsTerm.freeIds, List.forall_mem_append, low_ctx]
    exact ⟨this, hbs⟩
  · intro ty a o b c n hnx ihc ih1 ih2 B h
    simp only [Stmt.freeIds, Term.freeIds, List.forall_mem_append] at h
    rw [focusStmt.eq_3 _ _ _ _ _ _ hnx]
    apply ih2 B h.1.1
    intro b1 n1 B1 hB1 hb1
    apply ih1 b1 n1 B1 (fun i hi => h.1.2 i (Term.freeIds_mono b B B1 hB1 i hi))
    intro b2 n2 B2 hB2 hb2
    have := ihc n2 B2 (fun i hi => h.2 i (Term.freeIds_mono c B B2
      (fun x hx => hB2 x (hB1 x hx)) i hi))
    simp only [FsStmt.freeIds, FsTerm.freeIds, List.forall_mem_append, low_two]
    exact ⟨⟨hb1.mono m0 hB2, hb2⟩, this⟩
  · intro ty p c n hnp hnc hnop p' n1 hp c' n2 hc ihp ihc B h
    simp only [Stmt.freeIds, List.forall_mem_append] at h
    rw [focusStmt.eq_4 _ _ _ _ hnp hnc hnop]
    have h1 := ihp B h.1
    have h2 := ihc B h.2
    rw [hp] at h1; rw [hc] at h2
    simp only [hp, hc, FsStmt.freeIds, List.forall_mem_append]
    exact ⟨h1, h2⟩
  -- focusStmt: ifc, ifz, print, call, exit
  · intro srt a b t e n iht ihe ih1 ih2 B h
    simp only [Stmt.freeIds, List.forall_mem_append] at h
    simp only [focusStmt]
    apply ih2 B h.1.1.1
    intro b1 n1 B1 hB1 hb1
    apply ih1 b1 n1 B1 (fun i hi => h.1.1.2 i (Term.freeIds_mono b B B1 hB1 i hi))
    intro b2 n2 B2 hB2 hb2
    have hBB : ∀ x ∈ B, x ∈ B2 := fun x hx => hB2 x (hB1 x hx)
    have h1 := iht n2 B2 (fun i hi => h.1.2 i (Stmt.freeIds_mono t B B2 hBB i hi))
    have h2 := ihe (focusStmt t n2).2 B2 (fun i hi => h.2 i (Stmt.freeIds_mono e B B2 hBB i hi))
    simp only [FsStmt.freeIds, List.forall_mem_append, low_two]
    exact ⟨⟨⟨hb1.mono m0 hB2, hb2⟩, h1⟩, h2⟩
  · intro srt a t e n iht ihe ih1 B h
    simp only [Stmt.freeIds, List.forall_mem_append] at h
    simp only [focusStmt]
    apply ih1 B h.1.1
    intro b1 n1 B1 hB1 hb1
    have h1 := iht n1 B1 (fun i hi => h.1.2 i (Stmt.freeIds_mono t B B1 hB1 i hi))
    have h2 := ihe (focusStmt t n1).2 B1 (fun i hi => h.2 i (Stmt.freeIds_mono e B B1 hB1 i hi))
    simp only [FsStmt.freeIds, List.forall_mem_append, low_one]
    exact ⟨⟨hb1, h1⟩, h2⟩
  · intro nl a nx n ihn ih1 B h
    simp only [Stmt.freeIds, List.forall_mem_append] at h
    simp only [focusStmt]
    apply ih1 B h.1
    intro b1 n1 B1 hB1 hb1
    have h1 := ihn n1 B1 (fun i hi => h.2 i (Stmt.freeIds_mono nx B B1 hB1 i hi))
    simp only [FsStmt.freeIds, List.forall_mem_append, low_one]
    exact ⟨hb1, h1⟩
  · intro f as ty n ih5 B h
    simp only [Stmt.freeIds] at h
    simp only [focusStmt]
    apply ih5 B h
    intro bs n1 B1 hB1 hbs
    simp only [FsStmt.freeIds, low_ctx]
    exact hbs
  · intro a ty n ih4 B h
    simp only [Stmt.freeIds] at h
    simp only [focusStmt]
    apply ih4 B h
    intro b n1 B1 hB1 hb
    simp only [FsStmt.freeIds, low_one]
    exact hb

end

end Scc.Core
