/-
  Scc.Core.ProofsUniqueC — proof side of C03 "unique binders", part C: whole programs.
  `focusProg_binders`: for a program whose binders all have id 0, in every definition of
  `focusProg p` the parameters and ALL binders are pairwise distinct and lie in
  `(p.maxId, (focusProg p).maxId]`.
-/
import Scc.Core.ProofsUniqueB

namespace Scc.Core

def Def.ids (d : Def) : List Nat := ctxIds d.ctx ++ d.body.binderIds
def FsDef.ids (d : FsDef) : List Nat := ctxIds d.ctx ++ d.body.binderIds

/-- precondition of C03 (binders): every parameter and every binder has id 0 — what fun2core
    produces (all its identifiers have id 0) -/
def Prog.BindersZero (p : Prog) : Prop := ∀ d ∈ p.defs, ∀ b ∈ d.ids, b = 0

/-- pairwise distinct ids from `(lo, hi]` -/
def Within (lo hi : Nat) (l : List Nat) : Prop := l.Nodup ∧ ∀ b ∈ l, lo < b ∧ b ≤ hi

theorem uniquifyDefs_within (ds : List Def) (n : Nat) (hz : ∀ d ∈ ds, ∀ b ∈ d.ids, b = 0) :
    n ≤ (uniquifyDefs ds n).2 ∧
      ∀ d' ∈ (uniquifyDefs ds n).1, Within n (uniquifyDefs ds n).2 d'.ids := by
  induction ds generalizing n with
  | nil => simp [uniquifyDefs]
  | cons d r ih =>
    have h1 := uniquifyDef_fresh d n (hz d (by simp))
    have h2 := ih (uniquifyDef d n).2 (fun d' hd' => hz d' (by simp [hd']))
    simp only [uniquifyDefs, List.mem_cons, forall_eq_or_imp]
    unfold Fresh Within Def.ids at *
    grind

theorem focusDef_within (M m0 : Nat) (d : Def) (n : Nat) (hM : M ≤ n) (hm : m0 ≤ M)
    (hd : Within m0 M d.ids) :
    n ≤ (focusDef d n).2 ∧ Within m0 (focusDef d n).2 (focusDef d n).1.ids := by
  have ho : OldOK M (ctxIds d.ctx ++ d.body.binderIds) := ⟨hd.1, fun b hb => (hd.2 b hb).2⟩
  have h := (focusStmt_ext M d.body n hM ho.right).prependOld ho hM
  simp only [focusDef, FsDef.ids]
  unfold Ext Within Def.ids at *
  grind

theorem focusDefs_within (M m0 : Nat) (ds : List Def) (n : Nat) (hM : M ≤ n) (hm : m0 ≤ M)
    (hd : ∀ d ∈ ds, Within m0 M d.ids) :
    n ≤ (focusDefs ds n).2 ∧ ∀ d' ∈ (focusDefs ds n).1, Within m0 (focusDefs ds n).2 d'.ids := by
  induction ds generalizing n with
  | nil => simp [focusDefs]
  | cons d r ih =>
    have h1 := focusDef_within M m0 d n hM hm (hd d (by simp))
    have h2 := ih (focusDef d n).2 (by omega) (fun d' hd' => hd d' (by simp [hd']))
    simp only [focusDefs, List.mem_cons, forall_eq_or_imp]
    unfold Within at *
    grind

/-- all binders of every definition of `focusProg p` are pairwise distinct, new
    (`> p.maxId`) and `≤` the final counter -/
theorem focusProg_binders (p : Prog) (hz : p.BindersZero) :
    p.maxId ≤ (focusProg p).maxId ∧
      ∀ d ∈ (focusProg p).defs, Within p.maxId (focusProg p).maxId d.ids := by
  have h1 := uniquifyDefs_within p.defs p.maxId hz
  have h2 := focusDefs_within (uniquifyDefs p.defs p.maxId).2 p.maxId (uniquifyDefs p.defs p.maxId).1
    (uniquifyDefs p.defs p.maxId).2 (Nat.le_refl _) h1.1 h1.2
  simp only [focusProg, focusOnly, uniquifyProg]
  exact ⟨by omega, h2.2⟩

end Scc.Core
