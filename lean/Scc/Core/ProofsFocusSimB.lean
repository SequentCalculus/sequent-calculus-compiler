/-
  Scc.Core.ProofsFocusSimB — the simulation, part B: the focused form of a statement without
  non-variable arguments (a "value cut"), and related values of related terms.
-/
import Scc.Core.ProofsFocusSimA

namespace Scc.Core
namespace FocusSim

theorem fsT_inv_var {sc : List Ident} {p2 : FsTerm} {pc : PC} {d : DVar}
    (h : dbT sc p2.embed = .var pc d) : ∃ v ty, p2 = .var pc v ty ∧ dbVar sc v = d := by
  cases p2 <;> simp [FsTerm.embed, dbT] at h
  exact ⟨_, _, by rw [h.1], h.2⟩

theorem fsT_inv_lit {sc : List Ident} {p2 : FsTerm} {i : Int}
    (h : dbT sc p2.embed = .lit i) : p2 = .lit i := by
  cases p2 <;> simp [FsTerm.embed, dbT] at h
  rw [h]

theorem fsT_inv_op {sc : List Ident} {p2 : FsTerm} {pa pb : PC} {da db : DVar} {o : BinOp}
    (h : dbT sc p2.embed = .op (.var pa da) o (.var pb db)) :
    ∃ a b, p2 = .op a o b ∧ dbVar sc a = da ∧ dbVar sc b = db := by
  cases p2 <;> simp [FsTerm.embed, dbT, varI64] at h
  exact ⟨_, _, by rw [h.2.1], h.1.2, h.2.2.2⟩

theorem fsT_inv_mu {sc : List Ident} {p2 : FsTerm} {pc : PC} {ty : Ty} {d : DStmt}
    (h : dbT sc p2.embed = .mu pc ty d) :
    ∃ v s2, p2 = .mu pc v ty s2 ∧ dbS (v :: sc) s2.embed = d := by
  cases p2 <;> simp [FsTerm.embed, dbT] at h
  exact ⟨_, _, by rw [h.1, h.2.1], h.2.2⟩

theorem fsT_inv_xtor {sc : List Ident} {p2 : FsTerm} {pc : PC} {name : Ident} {ty : Ty} {A : DArgs}
    (h : dbT sc p2.embed = .xtor pc name A ty) :
    ∃ as2, p2 = .xtor pc name as2 ty ∧ dbA sc (ctxToArgs as2) = A := by
  cases p2 <;> simp [FsTerm.embed, dbT] at h
  exact ⟨_, by rw [h.1, h.2.1, h.2.2.2], h.2.2.1⟩

theorem fsT_inv_xcase {sc : List Ident} {p2 : FsTerm} {pc : PC} {ty : Ty} {d : DClauses}
    (h : dbT sc p2.embed = .xcase pc ty d) :
    ∃ cl2, p2 = .xcase pc ty cl2 ∧ dbC sc cl2.embed = d := by
  cases p2 <;> simp [FsTerm.embed, dbT] at h
  exact ⟨_, by rw [h.1, h.2.1], h.2.2⟩

theorem fsC_inv_nil {sc : List Ident} {c2 : FsClauses} (h : dbC sc c2.embed = .nil) : c2 = .nil := by
  cases c2 <;> simp [FsClauses.embed, dbC] at h
  rfl

theorem fsC_inv_cons {sc : List Ident} {c2 : FsClauses} {x : Ident} {sig : List (PC × Ty)}
    {d : DStmt} {r : DClauses} (h : dbC sc c2.embed = .cons x sig d r) :
    ∃ ctx b r', c2 = .cons x ctx b r' ∧ ctxSig ctx = sig ∧ dbS (ctxVars ctx ++ sc) b.embed = d ∧
      dbC sc r'.embed = r := by
  cases c2 <;> simp [FsClauses.embed, dbC] at h
  exact ⟨_, _, _, by rw [h.1], h.2.1, h.2.2.1, h.2.2.2⟩

theorem fsS_inv_cut {sc : List Ident} {s2 : FsStmt} {ty : Ty} {p c : DTerm}
    (h : dbS sc s2.embed = .cut ty p c) :
    ∃ p2 c2, s2 = .cut ty p2 c2 ∧ dbT sc p2.embed = p ∧ dbT sc c2.embed = c := by
  cases s2 with
  | ifc s a b t e => cases b <;> simp [FsStmt.embed, dbS] at h
  | cut ty' p' c' =>
    simp only [FsStmt.embed, dbS, DStmt.cut.injEq] at h
    exact ⟨_, _, by rw [h.1], h.2.1, h.2.2⟩
  | _ => simp [FsStmt.embed, dbS] at h

theorem fsS_inv_ifc {sc : List Ident} {s2 : FsStmt} {srt : IfSort} {pa pb : PC} {da db : DVar}
    {t e : DStmt} (h : dbS sc s2.embed = .ifc srt (.var pa da) (.var pb db) t e) :
    ∃ a2 b2 t2 e2, s2 = .ifc srt a2 (some b2) t2 e2 ∧ dbVar sc a2 = da ∧ dbVar sc b2 = db ∧
      dbS sc t2.embed = t ∧ dbS sc e2.embed = e := by
  cases s2 with
  | ifc s a b t' e' =>
    cases b with
    | none => simp [FsStmt.embed, dbS] at h
    | some b =>
      simp only [FsStmt.embed, dbS, dbT, varI64, DStmt.ifc.injEq, DTerm.var.injEq] at h
      exact ⟨_, _, _, _, by rw [h.1], h.2.1.2, h.2.2.1.2, h.2.2.2.1, h.2.2.2.2⟩
  | _ => simp [FsStmt.embed, dbS] at h

theorem fsS_inv_ifz {sc : List Ident} {s2 : FsStmt} {srt : IfSort} {pa : PC} {da : DVar}
    {t e : DStmt} (h : dbS sc s2.embed = .ifz srt (.var pa da) t e) :
    ∃ a2 t2 e2, s2 = .ifc srt a2 none t2 e2 ∧ dbVar sc a2 = da ∧
      dbS sc t2.embed = t ∧ dbS sc e2.embed = e := by
  cases s2 with
  | ifc s a b t' e' =>
    cases b with
    | some b => simp [FsStmt.embed, dbS] at h
    | none =>
      simp only [FsStmt.embed, dbS, dbT, varI64, DStmt.ifz.injEq, DTerm.var.injEq] at h
      exact ⟨_, _, _, by rw [h.1], h.2.1.2, h.2.2.1, h.2.2.2⟩
  | _ => simp [FsStmt.embed, dbS] at h

theorem fsS_inv_print {sc : List Ident} {s2 : FsStmt} {nl : Bool} {pa : PC} {da : DVar}
    {t : DStmt} (h : dbS sc s2.embed = .print nl (.var pa da) t) :
    ∃ a2 t2, s2 = .print nl a2 t2 ∧ dbVar sc a2 = da ∧ dbS sc t2.embed = t := by
  cases s2 with
  | ifc s a b t' e' => cases b <;> simp [FsStmt.embed, dbS] at h
  | print nl' a' n' =>
    simp only [FsStmt.embed, dbS, dbT, varI64, DStmt.print.injEq, DTerm.var.injEq] at h
    exact ⟨_, _, by rw [h.1], h.2.1.2, h.2.2⟩
  | _ => simp [FsStmt.embed, dbS] at h

theorem fsS_inv_call {sc : List Ident} {s2 : FsStmt} {f : Ident} {A : DArgs} {ty : Ty}
    (h : dbS sc s2.embed = .call f A ty) :
    ∃ as2, s2 = .call f as2 ∧ dbA sc (ctxToArgs as2) = A := by
  cases s2 with
  | ifc s a b t' e' => cases b <;> simp [FsStmt.embed, dbS] at h
  | call f' as' =>
    simp only [FsStmt.embed, dbS, DStmt.call.injEq] at h
    exact ⟨_, by rw [h.1], h.2.1⟩
  | _ => simp [FsStmt.embed, dbS] at h

theorem fsS_inv_exit {sc : List Ident} {s2 : FsStmt} {pa : PC} {da : DVar} {ty : Ty}
    (h : dbS sc s2.embed = .exit (.var pa da) ty) :
    ∃ a2, s2 = .exit a2 ∧ dbVar sc a2 = da := by
  cases s2 with
  | ifc s a b t' e' => cases b <;> simp [FsStmt.embed, dbS] at h
  | exit a' =>
    simp only [FsStmt.embed, dbS, dbT, varI64, DStmt.exit.injEq, DTerm.var.injEq] at h
    exact ⟨_, rfl, h.1.2⟩
  | _ => simp [FsStmt.embed, dbS] at h

def _root_.Scc.Core.Term.varName : Term → Ident
  | .var _ v _ => v
  | _ => default

/-- the focused form of `t` in a cut at type `ty` all of whose arguments are variables -/
def fval (ty : Ty) : Term → Nat → FsTerm × Nat
  | .var pc v t', n => (.var pc v t', n)
  | .lit i, n => (.lit i, n)
  | .op a o b, n => (.op a.varName o b.varName, n)
  | .mu pc v t' s, n => (.mu pc v t' (focusStmt s n).1, (focusStmt s n).2)
  | .xtor pc name as _, n => (.xtor pc name as.toCtx ty, n)
  | .xcase pc t' cl, n => (.xcase pc t' (focusClauses cl n).1, (focusClauses cl n).2)

/-- operands / arguments are variables -/
def _root_.Scc.Core.Term.isVal : Term → Bool
  | .op a _ b => a.isVar && b.isVar
  | .xtor _ _ as _ => as.split.isNone
  | _ => true

theorem fval_le (ty : Ty) (t : Term) (n : Nat) : n ≤ (fval ty t n).2 := by
  cases t <;> simp only [fval, Nat.le_refl]
  · exact focusStmt_le _ _
  · exact focusClauses_le _ _

theorem focusTerm_eq_fval (ty : Ty) (t : Term) (n : Nat)
    (h1 : ∀ pc name as t1, t ≠ .xtor pc name as t1) (h2 : ∀ a o b, t ≠ .op a o b) :
    focusTerm t n = fval ty t n := by
  cases t with
  | xtor pc name as t1 => exact absurd rfl (h1 pc name as t1)
  | op a o b => exact absurd rfl (h2 a o b)
  | _ => rfl

theorem Stmt.cutsOk_cut {ty : Ty} {p c : Term} (h : (Stmt.cut ty p c).cutsOk = true) :
    p.cutsOk = true ∧ c.cutsOk = true := by
  cases p <;> cases c <;> simp_all [Stmt.cutsOk, Term.cutsOk]

theorem PC.cns_ne_prd : (PC.cns == PC.prd) = false := by decide

theorem isVal_of_ne {t : Term} (h1 : ∀ pc name as t1, t ≠ .xtor pc name as t1)
    (h2 : ∀ a o b, t ≠ .op a o b) : t.isVal = true := by
  cases t with
  | xtor pc name as t1 => exact absurd rfl (h1 pc name as t1)
  | op a o b => exact absurd rfl (h2 a o b)
  | _ => rfl

/-- shape of a cut on which the ς-machine does not take a ς-step -/
theorem cut_none {ty : Ty} {p c : Term} (hs : (Stmt.cut ty p c).split = none)
    (hok : (Stmt.cut ty p c).cutsOk = true) (hpc : (Stmt.cut ty p c).pcOk = true) (n : Nat) :
    p.isVal = true ∧ c.isVal = true ∧
    (focusStmt (.cut ty p c) n).1 = .cut ty (fval ty p n).1 (fval ty c (fval ty p n).2).1 := by
  simp only [Stmt.pcOk, Bool.and_eq_true] at hpc
  have hco : ∀ a o b, c ≠ .op a o b := by
    intro a o b e; subst e; simp [Term.pcOk, PC.cns_ne_prd] at hpc
  by_cases hpx : ∃ pc k as t1, p = .xtor pc k as t1
  · obtain ⟨pc, k, as, t1, rfl⟩ := hpx
    have hcx : ∀ dpc d ds dt, c ≠ .xtor dpc d ds dt := by
      intro dpc d ds dt e; subst e; simp [Stmt.cutsOk] at hok
    have has := Stmt.split_none_cut_xtorL hs
    refine ⟨by simp [Term.isVal, has], isVal_of_ne hcx hco, ?_⟩
    rw [focusStmt_cut1_eq, bindMany_allVars as has]
    simp only [kCut1]
    rw [focusTerm_eq_fval ty c n hcx hco]
    rfl
  · have hpx' : ∀ pc k as t1, p ≠ .xtor pc k as t1 := fun pc k as t1 e => hpx ⟨pc, k, as, t1, e⟩
    by_cases hcx : ∃ dpc d ds dt, c = .xtor dpc d ds dt
    · obtain ⟨dpc, d, ds, dt, rfl⟩ := hcx
      have hpo : ∀ a o b, p ≠ .op a o b := by
        intro a o b e; subst e; simp [Stmt.cutsOk] at hok
      have hds := Stmt.split_none_cut_xtorR hpx' hs
      refine ⟨isVal_of_ne hpx' hpo, by simp [Term.isVal, hds], ?_⟩
      rw [focusStmt_cut2_eq _ _ _ _ _ _ _ (fun pc k as t1 e => hpx' pc k as t1 e),
        bindMany_allVars ds hds]
      simp only [kCut2]
      rw [focusTerm_eq_fval ty p n hpx' hpo]
      rfl
    · have hcx' : ∀ dpc d ds dt, c ≠ .xtor dpc d ds dt :=
        fun dpc d ds dt e => hcx ⟨dpc, d, ds, dt, e⟩
      have hcv : c.isVal = true := isVal_of_ne hcx' hco
      by_cases hpo : ∃ a o b, p = .op a o b
      · obtain ⟨a, o, b, rfl⟩ := hpo
        have hab := Stmt.split_none_cut_op hcx' hs
        obtain ⟨pa, va, ta, rfl⟩ := Term.isVar_eq hab.1
        obtain ⟨pb, vb, tb, rfl⟩ := Term.isVar_eq hab.2
        refine ⟨by simp [Term.isVal, Term.isVar], hcv, ?_⟩
        rw [focusStmt_cut3_eq _ _ _ _ _ _ (fun dpc d ds dt e => hcx' dpc d ds dt e)]
        simp only [bindTerm, kCut3]
        rw [focusTerm_eq_fval ty c n hcx' hco]
        rfl
      · have hpo' : ∀ a o b, p ≠ .op a o b := fun a o b e => hpo ⟨a, o, b, e⟩
        refine ⟨isVal_of_ne hpx' hpo', hcv, ?_⟩
        rw [focusStmt_cut4_eq _ _ _ _ (fun pc k as t1 e => hpx' pc k as t1 e)
          (fun dpc d ds dt e => hcx' dpc d ds dt e) (fun a o b e => hpo' a o b e)]
        simp only
        rw [focusTerm_eq_fval ty p n hpx' hpo', focusTerm_eq_fval ty c _ hcx' hco]

/-! ## related terms have related values -/

structure OKT (k : Nat) (pc : PC) (t : Term) : Prop where
  cuts : t.cutsOk = true
  pcs : t.pcOk pc = true
  sig : SigLt k t.idents

theorem OKS.cut {k : Nat} {ty : Ty} {p c : Term} (h : OKS k (.cut ty p c)) :
    OKT k .prd p ∧ OKT k .cns c := by
  obtain ⟨h1, h2, h3⟩ := h
  have := Stmt.cutsOk_cut h1
  simp only [Stmt.pcOk, Bool.and_eq_true] at h2
  simp only [Stmt.idents, SigLt_append] at h3
  exact ⟨⟨this.1, h2.1, h3.1⟩, ⟨this.2, h2.2, h3.2⟩⟩

theorem prdVal_rel {k : Nat} {ρ : CEnv} {ρ' : FEnv} (he : ER k ρ ρ') {ty : Ty} {p : Term} {n : Nat}
    {p2 : FsTerm} (hv : p.isVal = true) (hok : OKT k .prd p) (hf : FreshL n p.idents)
    (h : dbT (keys ρ) (fval ty p n).1.embed = dbT (keys ρ') p2.embed) :
    ExRel (VR k) (prdVal ρ p) (fsPrdVal ρ' p2) := by
  cases p with
  | var pc v t' =>
    simp only [fval, FsTerm.embed, dbT] at h
    obtain ⟨v2, ty2, rfl, hv2⟩ := fsT_inv_var h.symm
    exact lookup_rel he hv2.symm
  | lit i =>
    simp only [fval, FsTerm.embed, dbT] at h
    obtain rfl := fsT_inv_lit h.symm
    simp [prdVal, fsPrdVal, ExRel, VR.int]
  | op a o b =>
    simp only [Term.isVal, Bool.and_eq_true] at hv
    obtain ⟨pa, va, ta, rfl⟩ := Term.isVar_eq hv.1
    obtain ⟨pb, vb, tb, rfl⟩ := Term.isVar_eq hv.2
    simp only [fval, Term.varName, FsTerm.embed, varI64, dbT] at h
    obtain ⟨a2, b2, rfl, ha, hb⟩ := fsT_inv_op h.symm
    simp only [prdVal, fsPrdVal, lookupInt_rel he ha.symm, lookupInt_rel he hb.symm]
    cases ρ'.lookupInt a2 <;> cases ρ'.lookupInt b2 <;> simp only [ExRel]
    cases arith o _ _ <;> simp [VR.int]
  | mu pc a t' s =>
    simp only [fval, FsTerm.embed, dbT] at h
    obtain ⟨a2, s2, rfl, hs⟩ := fsT_inv_mu h.symm
    simp only [Term.idents, FreshL_cons] at hf
    have hoks : OKS k s := by
      obtain ⟨h1, h2, h3⟩ := hok
      simp only [Term.cutsOk] at h1
      simp only [Term.pcOk, Bool.and_eq_true] at h2
      simp only [Term.idents, SigLt_cons] at h3
      exact ⟨h1, h2.2, h3.2⟩
    simp only [prdVal, fsPrdVal, ExRel]
    exact VR.thunk he ⟨hoks, n, hf.2, hs.symm⟩
  | xtor pc name as t1 =>
    simp only [Term.isVal, Option.isNone_iff_eq_none] at hv
    simp only [fval, FsTerm.embed, dbT] at h
    obtain ⟨as2, rfl, hA⟩ := fsT_inv_xtor h.symm
    have := argVals_rel he as hv as2 hA.symm
    simp only [prdVal, fsPrdVal]
    cases h1 : argVals ρ as <;> cases h2 : ρ'.lookupAll as2 <;> simp only [h1, h2, ExRel] at this ⊢
    · exact this
    · exact VR.con name this
  | xcase pc t' cl =>
    simp only [fval, FsTerm.embed, dbT] at h
    obtain ⟨cl2, rfl, hc⟩ := fsT_inv_xcase h.symm
    simp only [Term.idents] at hf
    have hokc : OKC k cl := by
      obtain ⟨h1, h2, h3⟩ := hok
      simp only [Term.cutsOk] at h1
      simp only [Term.pcOk, Bool.and_eq_true] at h2
      simp only [Term.idents] at h3
      exact ⟨h1, h2.2, h3⟩
    simp only [prdVal, fsPrdVal, ExRel]
    exact VR.cocase he ⟨hokc, n, hf, hc.symm⟩

theorem cnsVal_rel {k : Nat} {ρ : CEnv} {ρ' : FEnv} (he : ER k ρ ρ') {ty : Ty} {c : Term} {n : Nat}
    {c2 : FsTerm} (hv : c.isVal = true) (hok : OKT k .cns c) (hf : FreshL n c.idents)
    (h : dbT (keys ρ) (fval ty c n).1.embed = dbT (keys ρ') c2.embed) :
    ExRel (VR k) (cnsVal ρ c) (fsCnsVal ρ' c2) := by
  cases c with
  | var pc v t' =>
    simp only [fval, FsTerm.embed, dbT] at h
    obtain ⟨v2, ty2, rfl, hv2⟩ := fsT_inv_var h.symm
    exact lookup_rel he hv2.symm
  | lit i =>
    have := hok.pcs
    simp [Term.pcOk, PC.cns_ne_prd] at this
  | op a o b =>
    have := hok.pcs
    simp [Term.pcOk, PC.cns_ne_prd] at this
  | mu pc a t' s =>
    simp only [fval, FsTerm.embed, dbT] at h
    obtain ⟨a2, s2, rfl, hs⟩ := fsT_inv_mu h.symm
    simp only [Term.idents, FreshL_cons] at hf
    have hoks : OKS k s := by
      obtain ⟨h1, h2, h3⟩ := hok
      simp only [Term.cutsOk] at h1
      simp only [Term.pcOk, Bool.and_eq_true] at h2
      simp only [Term.idents, SigLt_cons] at h3
      exact ⟨h1, h2.2, h3.2⟩
    simp only [cnsVal, fsCnsVal, ExRel]
    exact VR.mutilde he ⟨hoks, n, hf.2, hs.symm⟩
  | xtor pc name as t1 =>
    simp only [Term.isVal, Option.isNone_iff_eq_none] at hv
    simp only [fval, FsTerm.embed, dbT] at h
    obtain ⟨as2, rfl, hA⟩ := fsT_inv_xtor h.symm
    have := argVals_rel he as hv as2 hA.symm
    simp only [cnsVal, fsCnsVal]
    cases h1 : argVals ρ as <;> cases h2 : ρ'.lookupAll as2 <;> simp only [h1, h2, ExRel] at this ⊢
    · exact this
    · exact VR.dtor name this
  | xcase pc t' cl =>
    simp only [fval, FsTerm.embed, dbT] at h
    obtain ⟨cl2, rfl, hc⟩ := fsT_inv_xcase h.symm
    simp only [Term.idents] at hf
    have hokc : OKC k cl := by
      obtain ⟨h1, h2, h3⟩ := hok
      simp only [Term.cutsOk] at h1
      simp only [Term.pcOk, Bool.and_eq_true] at h2
      simp only [Term.idents] at h3
      exact ⟨h1, h2.2, h3⟩
    simp only [cnsVal, fsCnsVal, ExRel]
    exact VR.case he ⟨hokc, n, hf, hc.symm⟩

/-- a `μ` stays a `μ` -/
theorem fval_mu_iff {sc sc' : List Ident} {ty : Ty} {p : Term} {n : Nat} {p2 : FsTerm}
    (h : dbT sc (fval ty p n).1.embed = dbT sc' p2.embed) :
    (∃ pc a t s, p = .mu pc a t s) ↔ (∃ pc a t s, p2 = .mu pc a t s) := by
  constructor
  · rintro ⟨pc, a, t, s, rfl⟩
    simp only [fval, FsTerm.embed, dbT] at h
    obtain ⟨a2, s2, rfl, -⟩ := fsT_inv_mu h.symm
    exact ⟨_, _, _, _, rfl⟩
  · rintro ⟨pc, a, t, s, rfl⟩
    cases p <;> simp [fval, FsTerm.embed, dbT, varI64] at h
    exact ⟨_, _, _, _, rfl⟩

theorem find_rel {k : Nat} {sc1 sc2 : List Ident} (x : Ident) :
    (cl : Clauses) → ∀ (n : Nat) (cl2 : FsClauses), OKC k cl → FreshL n cl.idents →
      dbC sc1 (focusClauses cl n).1.embed = dbC sc2 cl2.embed →
      (cl.find x = none ∧ cl2.find x = none) ∨
      ∃ ctx body ctx2 body2, cl.find x = some (ctx, body) ∧ cl2.find x = some (ctx2, body2) ∧
        ctx.length = ctx2.length ∧ CodeS k (ctxVars ctx ++ sc1) body (ctxVars ctx2 ++ sc2) body2
  | .nil, n, cl2, _, _, h => by
    simp only [focusClauses, FsClauses.embed, dbC] at h
    obtain rfl := fsC_inv_nil h.symm
    exact Or.inl ⟨rfl, rfl⟩
  | .cons x0 ctx b r, n, cl2, hok, hf, h => by
    rw [focusClauses_cons_eq] at h
    simp only [FsClauses.embed, dbC] at h
    obtain ⟨ctx2, b2, r2, rfl, hsig, hb, hr⟩ := fsC_inv_cons h.symm
    simp only [Clauses.idents, FreshL_append] at hf
    obtain ⟨h1, h2, h3⟩ := hok
    simp only [Clauses.cutsOk, Bool.and_eq_true] at h1
    simp only [Clauses.pcOk, Bool.and_eq_true] at h2
    simp only [Clauses.idents, SigLt_append] at h3
    simp only [Clauses.find, FsClauses.find]
    by_cases hx : x0 = x
    · simp only [hx, if_true]
      refine Or.inr ⟨ctx, b, ctx2, b2, rfl, rfl, (ctxSig_length hsig).symm, ?_⟩
      exact ⟨⟨h1.1, h2.1, h3.1.2⟩, n, hf.1.2, hb.symm⟩
    · simp only [hx, if_false]
      exact find_rel x r (focusStmt b n).2 r2 ⟨h1.2, h2.2, h3.2⟩
        (hf.2.mono (focusStmt_le b n)) hr.symm

end FocusSim
end Scc.Core
