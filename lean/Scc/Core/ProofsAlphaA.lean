/-
  Scc.Core.ProofsAlphaA — α-equivalence of (unfocused) Core as EQUALITY OF NAMELESS IMAGES.
  `dbS sc s` replaces every variable occurrence of `s` by its position in the scope `sc` (a list of
  identifiers, innermost first, first match wins — exactly the lookup order of the machine's
  environments) or keeps the name if it is not in scope; binder names are dropped.  Two statements
  in two scopes are α-equivalent iff their images are equal, so symmetry/transitivity are free.
  Proved here: the weakening law (`dbS_insert`: inserting names that do not occur shifts indices) and
  inversion lemmas.  (Proof file: nothing here is executable model code.)
-/
import Scc.Core.Sem
import Scc.Core.ProofsEmbed

namespace Scc.Core

inductive DVar where
  | bound (i : Nat)
  | free (x : Ident)
  deriving DecidableEq

mutual
  inductive DTerm where
    | var (pc : PC) (v : DVar)
    | lit (n : Int)
    | op (a : DTerm) (o : BinOp) (b : DTerm)
    | mu (pc : PC) (ty : Ty) (s : DStmt)
    | xtor (pc : PC) (name : Ident) (args : DArgs) (ty : Ty)
    | xcase (pc : PC) (ty : Ty) (cl : DClauses)
  inductive DArgs where
    | nil
    | cons (pc : PC) (t : DTerm) (rest : DArgs)
  inductive DClauses where
    | nil
    | cons (xtor : Ident) (sig : List (PC × Ty)) (body : DStmt) (rest : DClauses)
  inductive DStmt where
    | cut (ty : Ty) (p : DTerm) (c : DTerm)
    | ifc (sort : IfSort) (a : DTerm) (b : DTerm) (t : DStmt) (e : DStmt)
    | ifz (sort : IfSort) (a : DTerm) (t : DStmt) (e : DStmt)
    | print (nl : Bool) (a : DTerm) (n : DStmt)
    | call (f : Ident) (args : DArgs) (ty : Ty)
    | exit (a : DTerm) (ty : Ty)
end

/-- shift the indices `≥ c` by `j` -/
def DVar.shift (c j : Nat) : DVar → DVar
  | .bound i => if i < c then .bound i else .bound (i + j)
  | .free x => .free x

mutual
  def DTerm.shift (c j : Nat) : DTerm → DTerm
    | .var pc v => .var pc (v.shift c j)
    | .lit n => .lit n
    | .op a o b => .op (a.shift c j) o (b.shift c j)
    | .mu pc ty s => .mu pc ty (s.shift (c + 1) j)
    | .xtor pc k as ty => .xtor pc k (as.shift c j) ty
    | .xcase pc ty cl => .xcase pc ty (cl.shift c j)
  def DArgs.shift (c j : Nat) : DArgs → DArgs
    | .nil => .nil
    | .cons pc t r => .cons pc (t.shift c j) (r.shift c j)
  def DClauses.shift (c j : Nat) : DClauses → DClauses
    | .nil => .nil
    | .cons x sig b r => .cons x sig (b.shift (c + sig.length) j) (r.shift c j)
  def DStmt.shift (c j : Nat) : DStmt → DStmt
    | .cut ty p q => .cut ty (p.shift c j) (q.shift c j)
    | .ifc s a b t e => .ifc s (a.shift c j) (b.shift c j) (t.shift c j) (e.shift c j)
    | .ifz s a t e => .ifz s (a.shift c j) (t.shift c j) (e.shift c j)
    | .print nl a n => .print nl (a.shift c j) (n.shift c j)
    | .call f as ty => .call f (as.shift c j) ty
    | .exit a ty => .exit (a.shift c j) ty
end

/-- position of `x` in the scope (first match, like `Env.lookup`) -/
def dbVar : List Ident → Ident → DVar
  | [], x => .free x
  | y :: r, x => if y = x then .bound 0 else (dbVar r x).shift 0 1

def ctxVars (c : Ctx) : List Ident := c.map (·.var)

def ctxSig (c : Ctx) : List (PC × Ty) := c.map fun b => (b.chi, b.ty)

mutual
  def dbT (sc : List Ident) : Term → DTerm
    | .var pc v _ => .var pc (dbVar sc v)
    | .lit n => .lit n
    | .op a o b => .op (dbT sc a) o (dbT sc b)
    | .mu pc v ty s => .mu pc ty (dbS (v :: sc) s)
    | .xtor pc k as ty => .xtor pc k (dbA sc as) ty
    | .xcase pc ty cl => .xcase pc ty (dbC sc cl)
  def dbA (sc : List Ident) : Args → DArgs
    | .nil => .nil
    | .cons pc t r => .cons pc (dbT sc t) (dbA sc r)
  def dbC (sc : List Ident) : Clauses → DClauses
    | .nil => .nil
    | .cons x ctx b r => .cons x (ctxSig ctx) (dbS (ctxVars ctx ++ sc) b) (dbC sc r)
  def dbS (sc : List Ident) : Stmt → DStmt
    | .cut ty p c => .cut ty (dbT sc p) (dbT sc c)
    | .ifc s a b t e => .ifc s (dbT sc a) (dbT sc b) (dbS sc t) (dbS sc e)
    | .ifz s a t e => .ifz s (dbT sc a) (dbS sc t) (dbS sc e)
    | .print nl a n => .print nl (dbT sc a) (dbS sc n)
    | .call f as ty => .call f (dbA sc as) ty
    | .exit a ty => .exit (dbT sc a) ty
end

/-! ## all identifiers (binders and occurrences) -/

mutual
  def Term.idents : Term → List Ident
    | .var _ v _ => [v]
    | .lit _ => []
    | .op a _ b => a.idents ++ b.idents
    | .mu _ v _ s => v :: s.idents
    | .xtor _ _ as _ => as.idents
    | .xcase _ _ cl => cl.idents
  def Args.idents : Args → List Ident
    | .nil => []
    | .cons _ t r => t.idents ++ r.idents
  def Clauses.idents : Clauses → List Ident
    | .nil => []
    | .cons _ ctx b r => ctxVars ctx ++ b.idents ++ r.idents
  def Stmt.idents : Stmt → List Ident
    | .cut _ p c => p.idents ++ c.idents
    | .ifc _ a b t e => a.idents ++ b.idents ++ t.idents ++ e.idents
    | .ifz _ a t e => a.idents ++ t.idents ++ e.idents
    | .print _ a n => a.idents ++ n.idents
    | .call _ as _ => as.idents
    | .exit a _ => a.idents
end

theorem DVar.shift_shift_zero (v : DVar) (j : Nat) :
    (v.shift 0 j).shift 0 1 = v.shift 0 (j + 1) := by
  cases v <;> simp [DVar.shift]; omega

theorem DVar.shift_comm (v : DVar) (c j : Nat) :
    (v.shift c j).shift 0 1 = (v.shift 0 1).shift (c + 1) j := by
  cases v with
  | free x => simp [DVar.shift]
  | bound i =>
    simp only [DVar.shift, Nat.not_lt_zero, if_false]
    by_cases h : i < c
    · simp [h]
    · simp [h]; omega

theorem DVar.shift_zero (v : DVar) (c : Nat) : v.shift c 0 = v := by
  cases v <;> simp [DVar.shift]

theorem dbVar_append_not_mem (ext sc : List Ident) (x : Ident) (h : x ∉ ext) :
    dbVar (ext ++ sc) x = (dbVar sc x).shift 0 ext.length := by
  induction ext with
  | nil => simp [DVar.shift_zero]
  | cons y r ih =>
    simp only [List.mem_cons, not_or] at h
    have hy : ¬ y = x := fun e => h.1 e.symm
    simp only [List.cons_append, dbVar, hy, if_false, ih h.2, List.length_cons,
      DVar.shift_shift_zero]

theorem dbVar_insert (pre ext sc : List Ident) (x : Ident) (h : x ∉ ext) :
    dbVar (pre ++ ext ++ sc) x = (dbVar (pre ++ sc) x).shift pre.length ext.length := by
  induction pre with
  | nil => simpa using dbVar_append_not_mem ext sc x h
  | cons y r ih =>
    simp only [List.cons_append, dbVar, List.length_cons]
    split
    · simp [DVar.shift]
    · rw [ih, DVar.shift_comm]

mutual
  theorem dbT_insert (ext : List Ident) : (u : Term) → ∀ pre sc, (∀ y ∈ ext, y ∉ u.idents) →
      dbT (pre ++ ext ++ sc) u = (dbT (pre ++ sc) u).shift pre.length ext.length
    | .var pc v ty, pre, sc, h => by
      simp only [dbT, DTerm.shift]
      rw [dbVar_insert]
      intro hv; exact h v hv (by simp [Term.idents])
    | .lit n, _, _, _ => by simp [dbT, DTerm.shift]
    | .op a o b, pre, sc, h => by
      simp only [Term.idents, List.mem_append, not_or] at h
      simp only [dbT, DTerm.shift]
      rw [dbT_insert ext a pre sc (fun y hy => (h y hy).1),
        dbT_insert ext b pre sc (fun y hy => (h y hy).2)]
    | .mu pc v ty s, pre, sc, h => by
      simp only [Term.idents, List.mem_cons, not_or] at h
      simp only [dbT, DTerm.shift]
      have := dbS_insert ext s (v :: pre) sc (fun y hy => (h y hy).2)
      simp only [List.cons_append, List.length_cons] at this
      rw [this]
    | .xtor pc k as ty, pre, sc, h => by
      simp only [Term.idents] at h
      simp only [dbT, DTerm.shift]
      rw [dbA_insert ext as pre sc h]
    | .xcase pc ty cl, pre, sc, h => by
      simp only [Term.idents] at h
      simp only [dbT, DTerm.shift]
      rw [dbC_insert ext cl pre sc h]
  theorem dbA_insert (ext : List Ident) : (u : Args) → ∀ pre sc, (∀ y ∈ ext, y ∉ u.idents) →
      dbA (pre ++ ext ++ sc) u = (dbA (pre ++ sc) u).shift pre.length ext.length
    | .nil, _, _, _ => by simp [dbA, DArgs.shift]
    | .cons pc t r, pre, sc, h => by
      simp only [Args.idents, List.mem_append, not_or] at h
      simp only [dbA, DArgs.shift]
      rw [dbT_insert ext t pre sc (fun y hy => (h y hy).1),
        dbA_insert ext r pre sc (fun y hy => (h y hy).2)]
  theorem dbC_insert (ext : List Ident) : (u : Clauses) → ∀ pre sc, (∀ y ∈ ext, y ∉ u.idents) →
      dbC (pre ++ ext ++ sc) u = (dbC (pre ++ sc) u).shift pre.length ext.length
    | .nil, _, _, _ => by simp [dbC, DClauses.shift]
    | .cons x ctx b r, pre, sc, h => by
      simp only [Clauses.idents, List.mem_append, not_or] at h
      simp only [dbC, DClauses.shift]
      have := dbS_insert ext b (ctxVars ctx ++ pre) sc (fun y hy => (h y hy).1.2)
      simp only [List.append_assoc, List.length_append] at this
      rw [dbC_insert ext r pre sc (fun y hy => (h y hy).2)]
      simp only [List.append_assoc]
      rw [this]
      simp [ctxSig, ctxVars, Nat.add_comm]
  theorem dbS_insert (ext : List Ident) : (u : Stmt) → ∀ pre sc, (∀ y ∈ ext, y ∉ u.idents) →
      dbS (pre ++ ext ++ sc) u = (dbS (pre ++ sc) u).shift pre.length ext.length
    | .cut ty p c, pre, sc, h => by
      simp only [Stmt.idents, List.mem_append, not_or] at h
      simp only [dbS, DStmt.shift]
      rw [dbT_insert ext p pre sc (fun y hy => (h y hy).1),
        dbT_insert ext c pre sc (fun y hy => (h y hy).2)]
    | .ifc srt a b t e, pre, sc, h => by
      simp only [Stmt.idents, List.mem_append, not_or] at h
      simp only [dbS, DStmt.shift]
      rw [dbT_insert ext a pre sc (fun y hy => (h y hy).1.1.1),
        dbT_insert ext b pre sc (fun y hy => (h y hy).1.1.2),
        dbS_insert ext t pre sc (fun y hy => (h y hy).1.2),
        dbS_insert ext e pre sc (fun y hy => (h y hy).2)]
    | .ifz srt a t e, pre, sc, h => by
      simp only [Stmt.idents, List.mem_append, not_or] at h
      simp only [dbS, DStmt.shift]
      rw [dbT_insert ext a pre sc (fun y hy => (h y hy).1.1),
        dbS_insert ext t pre sc (fun y hy => (h y hy).1.2),
        dbS_insert ext e pre sc (fun y hy => (h y hy).2)]
    | .print nl a n, pre, sc, h => by
      simp only [Stmt.idents, List.mem_append, not_or] at h
      simp only [dbS, DStmt.shift]
      rw [dbT_insert ext a pre sc (fun y hy => (h y hy).1),
        dbS_insert ext n pre sc (fun y hy => (h y hy).2)]
    | .call f as ty, pre, sc, h => by
      simp only [Stmt.idents] at h
      simp only [dbS, DStmt.shift]
      rw [dbA_insert ext as pre sc h]
    | .exit a ty, pre, sc, h => by
      simp only [Stmt.idents] at h
      simp only [dbS, DStmt.shift]
      rw [dbT_insert ext a pre sc h]
end

/-! ### weakening of α-equivalences (two-sided corollaries) -/

theorem dbVar_weaken {sc sc' ext ext' : List Ident} {x x' : Ident} (hl : ext.length = ext'.length)
    (hx : x ∉ ext) (hx' : x' ∉ ext') (h : dbVar sc x = dbVar sc' x') :
    dbVar (ext ++ sc) x = dbVar (ext' ++ sc') x' := by
  rw [dbVar_append_not_mem _ _ _ hx, dbVar_append_not_mem _ _ _ hx', h, hl]

theorem dbT_weaken {sc sc' ext ext' : List Ident} {u u' : Term} (hl : ext.length = ext'.length)
    (hx : ∀ y ∈ ext, y ∉ u.idents) (hx' : ∀ y ∈ ext', y ∉ u'.idents) (h : dbT sc u = dbT sc' u') :
    dbT (ext ++ sc) u = dbT (ext' ++ sc') u' := by
  have h1 := dbT_insert ext u [] sc hx
  have h2 := dbT_insert ext' u' [] sc' hx'
  simp only [List.nil_append, List.length_nil] at h1 h2
  rw [h1, h2, h, hl]

theorem dbA_weaken {sc sc' ext ext' : List Ident} {u u' : Args} (hl : ext.length = ext'.length)
    (hx : ∀ y ∈ ext, y ∉ u.idents) (hx' : ∀ y ∈ ext', y ∉ u'.idents) (h : dbA sc u = dbA sc' u') :
    dbA (ext ++ sc) u = dbA (ext' ++ sc') u' := by
  have h1 := dbA_insert ext u [] sc hx
  have h2 := dbA_insert ext' u' [] sc' hx'
  simp only [List.nil_append, List.length_nil] at h1 h2
  rw [h1, h2, h, hl]

theorem dbC_weaken {sc sc' ext ext' : List Ident} {u u' : Clauses} (hl : ext.length = ext'.length)
    (hx : ∀ y ∈ ext, y ∉ u.idents) (hx' : ∀ y ∈ ext', y ∉ u'.idents) (h : dbC sc u = dbC sc' u') :
    dbC (ext ++ sc) u = dbC (ext' ++ sc') u' := by
  have h1 := dbC_insert ext u [] sc hx
  have h2 := dbC_insert ext' u' [] sc' hx'
  simp only [List.nil_append, List.length_nil] at h1 h2
  rw [h1, h2, h, hl]

theorem dbS_weaken {sc sc' ext ext' : List Ident} {u u' : Stmt} (hl : ext.length = ext'.length)
    (hx : ∀ y ∈ ext, y ∉ u.idents) (hx' : ∀ y ∈ ext', y ∉ u'.idents) (h : dbS sc u = dbS sc' u') :
    dbS (ext ++ sc) u = dbS (ext' ++ sc') u' := by
  have h1 := dbS_insert ext u [] sc hx
  have h2 := dbS_insert ext' u' [] sc' hx'
  simp only [List.nil_append, List.length_nil] at h1 h2
  rw [h1, h2, h, hl]

/-! ## inversion: the image determines the shape -/

theorem dbT_eq_var {sc : List Ident} {t : Term} {pc : PC} {d : DVar} (h : dbT sc t = .var pc d) :
    ∃ v ty, t = .var pc v ty ∧ dbVar sc v = d := by
  cases t <;> simp [dbT] at h
  exact ⟨_, _, by rw [h.1], h.2⟩

theorem dbT_eq_lit {sc : List Ident} {t : Term} {n : Int} (h : dbT sc t = .lit n) : t = .lit n := by
  cases t <;> simp [dbT] at h
  rw [h]

theorem dbT_eq_op {sc : List Ident} {t : Term} {a b : DTerm} {o : BinOp} (h : dbT sc t = .op a o b) :
    ∃ a' b', t = .op a' o b' ∧ dbT sc a' = a ∧ dbT sc b' = b := by
  cases t <;> simp [dbT] at h
  exact ⟨_, _, by rw [h.2.1], h.1, h.2.2⟩

theorem dbT_eq_mu {sc : List Ident} {t : Term} {pc : PC} {ty : Ty} {d : DStmt}
    (h : dbT sc t = .mu pc ty d) : ∃ v s, t = .mu pc v ty s ∧ dbS (v :: sc) s = d := by
  cases t <;> simp [dbT] at h
  exact ⟨_, _, by rw [h.1, h.2.1], h.2.2⟩

theorem dbT_eq_xtor {sc : List Ident} {t : Term} {pc : PC} {k : Ident} {ty : Ty} {d : DArgs}
    (h : dbT sc t = .xtor pc k d ty) : ∃ as, t = .xtor pc k as ty ∧ dbA sc as = d := by
  cases t <;> simp [dbT] at h
  exact ⟨_, by rw [h.1, h.2.1, h.2.2.2], h.2.2.1⟩

theorem dbT_eq_xcase {sc : List Ident} {t : Term} {pc : PC} {ty : Ty} {d : DClauses}
    (h : dbT sc t = .xcase pc ty d) : ∃ cl, t = .xcase pc ty cl ∧ dbC sc cl = d := by
  cases t <;> simp [dbT] at h
  exact ⟨_, by rw [h.1, h.2.1], h.2.2⟩

theorem dbA_eq_nil {sc : List Ident} {as : Args} (h : dbA sc as = .nil) : as = .nil := by
  cases as <;> simp [dbA] at h
  rfl

theorem dbA_eq_cons {sc : List Ident} {as : Args} {pc : PC} {d : DTerm} {r : DArgs}
    (h : dbA sc as = .cons pc d r) : ∃ t r', as = .cons pc t r' ∧ dbT sc t = d ∧ dbA sc r' = r := by
  cases as <;> simp [dbA] at h
  exact ⟨_, _, by rw [h.1], h.2.1, h.2.2⟩

theorem dbC_eq_nil {sc : List Ident} {cl : Clauses} (h : dbC sc cl = .nil) : cl = .nil := by
  cases cl <;> simp [dbC] at h
  rfl

theorem dbC_eq_cons {sc : List Ident} {cl : Clauses} {x : Ident} {sig : List (PC × Ty)}
    {d : DStmt} {r : DClauses} (h : dbC sc cl = .cons x sig d r) :
    ∃ ctx b r', cl = .cons x ctx b r' ∧ ctxSig ctx = sig ∧ dbS (ctxVars ctx ++ sc) b = d ∧
      dbC sc r' = r := by
  cases cl <;> simp [dbC] at h
  exact ⟨_, _, _, by rw [h.1], h.2.1, h.2.2.1, h.2.2.2⟩

theorem dbS_eq_cut {sc : List Ident} {s : Stmt} {ty : Ty} {p c : DTerm} (h : dbS sc s = .cut ty p c) :
    ∃ p' c', s = .cut ty p' c' ∧ dbT sc p' = p ∧ dbT sc c' = c := by
  cases s <;> simp [dbS] at h
  exact ⟨_, _, by rw [h.1], h.2.1, h.2.2⟩

theorem dbS_eq_ifc {sc : List Ident} {s : Stmt} {srt : IfSort} {a b : DTerm} {t e : DStmt}
    (h : dbS sc s = .ifc srt a b t e) :
    ∃ a' b' t' e', s = .ifc srt a' b' t' e' ∧ dbT sc a' = a ∧ dbT sc b' = b ∧ dbS sc t' = t ∧
      dbS sc e' = e := by
  cases s <;> simp [dbS] at h
  exact ⟨_, _, _, _, by rw [h.1], h.2.1, h.2.2.1, h.2.2.2.1, h.2.2.2.2⟩

theorem dbS_eq_ifz {sc : List Ident} {s : Stmt} {srt : IfSort} {a : DTerm} {t e : DStmt}
    (h : dbS sc s = .ifz srt a t e) :
    ∃ a' t' e', s = .ifz srt a' t' e' ∧ dbT sc a' = a ∧ dbS sc t' = t ∧ dbS sc e' = e := by
  cases s <;> simp [dbS] at h
  exact ⟨_, _, _, by rw [h.1], h.2.1, h.2.2.1, h.2.2.2⟩

theorem dbS_eq_print {sc : List Ident} {s : Stmt} {nl : Bool} {a : DTerm} {n : DStmt}
    (h : dbS sc s = .print nl a n) :
    ∃ a' n', s = .print nl a' n' ∧ dbT sc a' = a ∧ dbS sc n' = n := by
  cases s <;> simp [dbS] at h
  exact ⟨_, _, by rw [h.1], h.2.1, h.2.2⟩

theorem dbS_eq_call {sc : List Ident} {s : Stmt} {f : Ident} {as : DArgs} {ty : Ty}
    (h : dbS sc s = .call f as ty) : ∃ as', s = .call f as' ty ∧ dbA sc as' = as := by
  cases s <;> simp [dbS] at h
  exact ⟨_, by rw [h.1, h.2.2], h.2.1⟩

theorem dbS_eq_exit {sc : List Ident} {s : Stmt} {a : DTerm} {ty : Ty}
    (h : dbS sc s = .exit a ty) : ∃ a', s = .exit a' ty ∧ dbT sc a' = a := by
  cases s <;> simp [dbS] at h
  exact ⟨_, by rw [h.2], h.1⟩

theorem ctxSig_length {c c' : Ctx} (h : ctxSig c = ctxSig c') : c.length = c'.length := by
  have := congrArg List.length h
  simpa [ctxSig] using this

theorem ctxVars_length (c : Ctx) : (ctxVars c).length = c.length := by simp [ctxVars]

end Scc.Core
