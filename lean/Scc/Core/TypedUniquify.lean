/-
  Scc.Core.TypedUniquify — proof file: `uniquify` PRESERVES CORE TYPING and strictness.
  For a well-typed program whose binders all carry id 0 and whose occurrence ids are `≤ maxId`
  (three of the four fields of `Input`, Scc/Props/C03.lean):   `(uniquifyProg p).wellTyped = true`   (`uniquifyProg_wellTyped`)   and
  `p.strictOk = true → (uniquifyProg p).strictOk = true`     (`uniquifyProg_strictOk`).
  Method (Scc/Core/TypedNameless.lean): `Stmt.check` = the check of the nameless form (unchanged by
  `uniquify`: `uniquifyProg_alpha`) ∧ `annOk` (variable occurrences carry the type their position
  expects).  `annOk` is preserved because the substitutions of `uniquify` replace an occurrence of a
  binder by a variable annotated with THE BINDER'S type (`TySub`), which for a well-typed statement
  is the type the position expects (`subst_annOk_stmt`); functional induction over `uniquify`
  (`uniquify_annOk`), the typing of the intermediate (substituted) statements again by the split.
-/
import Scc.Core.TypedNameless
import Scc.Core.ProofsUniqAlphaD
import Scc.Core.ProofsUniqAlphaE

namespace Scc.Core

theorem lookupBinding_append_not_mem (pre Γ : Ctx) (u : Ident) (h : u ∉ ctxVars pre) :
    lookupBinding (pre ++ Γ) u = lookupBinding Γ u := by
  induction pre with
  | nil => rfl
  | cons b r ih =>
    simp only [ctxVars, List.map_cons, List.mem_cons, not_or] at h
    simp only [List.cons_append, lookupBinding]
    rw [if_neg (fun e => h.1 e.symm)]
    exact ih h.2

/-- a variable bound in `Γ` is replaced (if at all) by a variable of its chirality annotated with
    its type -/
def TySub (ps cs : Subst) (Γ : Ctx) : Prop :=
  ∀ v b, lookupBinding Γ v = some b →
    (b.chi = .prd → ∀ t, substFind ps v = some t → ∃ w, t = .var .prd w b.ty) ∧
    (b.chi = .cns → ∀ t, substFind cs v = some t → ∃ w, t = .var .cns w b.ty)

theorem TySub.ext {ps cs : Subst} {Γ : Ctx} (h : TySub ps cs Γ) (pre : Ctx) {ps1 cs1 : Subst}
    (hp : Removed (ctxVars pre) ps ps1) (hc : Removed (ctxVars pre) cs cs1) :
    TySub ps1 cs1 (pre ++ Γ) := by
  intro v b hl
  by_cases hm : v ∈ ctxVars pre
  · refine ⟨fun _ t ht => ?_, fun _ t ht => ?_⟩
    · rw [hp.mem v hm] at ht; cases ht
    · rw [hc.mem v hm] at ht; cases ht
  · rw [lookupBinding_append_not_mem pre Γ v hm] at hl
    obtain ⟨h1, h2⟩ := h v b hl
    refine ⟨fun hb t ht => h1 hb t ?_, fun hb t ht => h2 hb t ?_⟩
    · rw [hp.not_mem v hm] at ht; exact ht
    · rw [hc.not_mem v hm] at ht; exact ht

theorem TySub.cons {ps cs : Subst} {Γ : Ctx} (h : TySub ps cs Γ) (b : Binding) :
    TySub (substRemove ps b.var) (substRemove cs b.var) (b :: Γ) := by
  have := h.ext [b] (ps1 := substRemove ps b.var) (cs1 := substRemove cs b.var)
    (by simpa [ctxVars] using Removed.single ps b.var)
    (by simpa [ctxVars] using Removed.single cs b.var)
  simpa using this

section
variable (P : Prog)

mutual
  theorem subst_annOk_term : (t : Term) → ∀ (ps cs : Subst) (Γ : Ctx) (pc : PC) (ty : Ty),
      TySub ps cs Γ → t.check P Γ pc ty = true → (substTerm ps cs t).annOk P.denv pc ty = true
    | .var .prd v ty', ps, cs, Γ, pc, ty, hS, h => by
      simp only [Term.check, Bool.and_eq_true] at h
      obtain ⟨⟨h1, h2⟩, h3⟩ := h
      simp only [substTerm]
      cases hf : substFind ps v with
      | none => simpa [Term.annOk] using h2
      | some p =>
        simp only
        cases hl : lookupBinding Γ v with
        | none => rw [hl] at h3; cases h3
        | some b =>
          rw [hl] at h3
          simp only [Bool.and_eq_true] at h3
          have hb : b.chi = .prd := by rw [eq_of_beq h3.1, ← eq_of_beq h1]
          obtain ⟨w, rfl⟩ := (hS v b hl).1 hb p hf
          simpa [Term.annOk] using h3.2
    | .var .cns v ty', ps, cs, Γ, pc, ty, hS, h => by
      simp only [Term.check, Bool.and_eq_true] at h
      obtain ⟨⟨h1, h2⟩, h3⟩ := h
      simp only [substTerm]
      cases hf : substFind cs v with
      | none => simpa [Term.annOk] using h2
      | some p =>
        simp only
        cases hl : lookupBinding Γ v with
        | none => rw [hl] at h3; cases h3
        | some b =>
          rw [hl] at h3
          simp only [Bool.and_eq_true] at h3
          have hb : b.chi = .cns := by rw [eq_of_beq h3.1, ← eq_of_beq h1]
          obtain ⟨w, rfl⟩ := (hS v b hl).2 hb p hf
          simpa [Term.annOk] using h3.2
    | .lit k, _, _, _, _, _, _, _ => by simp [substTerm, Term.annOk]
    | .op a o b, ps, cs, Γ, pc, ty, hS, h => by
      simp only [Term.check, Bool.and_eq_true] at h
      simp only [substTerm, Term.annOk, Bool.and_eq_true]
      exact ⟨subst_annOk_term a ps cs Γ .prd .i64 hS h.1.2, subst_annOk_term b ps cs Γ .prd .i64 hS h.2⟩
    | .mu pc' v ty' s, ps, cs, Γ, pc, ty, hS, h => by
      simp only [Term.check, Bool.and_eq_true] at h
      simp only [substTerm, Term.annOk]
      exact subst_annOk_stmt s _ _ _ (hS.cons ⟨v, pc.flip, ty⟩) h.2
    | .xtor pc' name as ty', ps, cs, Γ, pc, ty, hS, h => by
      simp only [Term.check, Bool.and_eq_true] at h
      obtain ⟨_, h⟩ := h
      simp only [substTerm, Term.annOk, Prog.denv]
      cases ty with
      | i64 => rfl
      | decl T =>
        simp only at h ⊢
        cases hd : findDecl (if pc == .prd then P.dataTypes else P.codataTypes) T with
        | none => rfl
        | some d =>
          rw [hd] at h
          simp only at h ⊢
          cases hs : findSig d.xtors name with
          | none => rfl
          | some sig =>
            rw [hs] at h
            simp only at h ⊢
            exact subst_annOk_args as ps cs Γ sig.args hS h
    | .xcase pc' ty' cl, ps, cs, Γ, pc, ty, hS, h => by
      simp only [Term.check, Bool.and_eq_true] at h
      obtain ⟨_, h⟩ := h
      simp only [substTerm, Term.annOk]
      cases ty with
      | i64 => cases h
      | decl T =>
        simp only at h
        cases hd : findDecl (if pc == .prd then P.codataTypes else P.dataTypes) T with
        | none => rw [hd] at h; cases h
        | some d =>
          rw [hd] at h
          simp only [Bool.and_eq_true] at h
          exact subst_annOk_clauses cl ps cs Γ d.xtors hS h.1
  theorem subst_annOk_args : (as : Args) → ∀ (ps cs : Subst) (Γ : Ctx) (sig : Ctx),
      TySub ps cs Γ → as.check P Γ sig = true →
      (substArgs ps cs as).annOk P.denv (ctxSig sig) = true
    | .nil, _, _, _, _, _, _ => by simp [substArgs, Args.annOk]
    | .cons pc t r, ps, cs, Γ, [], hS, h => by simp [Args.check] at h
    | .cons pc t r, ps, cs, Γ, b :: bs, hS, h => by
      simp only [Args.check, Bool.and_eq_true] at h
      simp only [substArgs, ctxSig, List.map_cons, Args.annOk, Bool.and_eq_true]
      exact ⟨subst_annOk_term t ps cs Γ pc b.ty hS h.1.2, subst_annOk_args r ps cs Γ bs hS h.2⟩
  theorem subst_annOk_clauses : (cl : Clauses) → ∀ (ps cs : Subst) (Γ : Ctx) (sigs : List XtorSig),
      TySub ps cs Γ → cl.check P Γ sigs = true → (substClauses ps cs cl).annOk P.denv = true
    | .nil, _, _, _, _, _, _ => by simp [substClauses, Clauses.annOk]
    | .cons x ctx b r, ps, cs, Γ, sigs, hS, h => by
      simp only [Clauses.check, Bool.and_eq_true] at h
      simp only [substClauses, Clauses.annOk, Bool.and_eq_true]
      exact ⟨subst_annOk_stmt b _ _ _ (hS.ext ctx (Removed.ctx ps ctx) (Removed.ctx cs ctx)) h.1.2,
        subst_annOk_clauses r ps cs Γ sigs hS h.2⟩
  theorem subst_annOk_stmt : (s : Stmt) → ∀ (ps cs : Subst) (Γ : Ctx),
      TySub ps cs Γ → s.check P Γ = true → (substStmt ps cs s).annOk P.denv = true
    | .cut ty p c, ps, cs, Γ, hS, h => by
      simp only [Stmt.check, Bool.and_eq_true] at h
      simp only [substStmt, Stmt.annOk, Bool.and_eq_true]
      exact ⟨subst_annOk_term p ps cs Γ .prd ty hS h.1, subst_annOk_term c ps cs Γ .cns ty hS h.2⟩
    | .ifc srt a b t e, ps, cs, Γ, hS, h => by
      simp only [Stmt.check, Bool.and_eq_true] at h
      simp only [substStmt, Stmt.annOk, Bool.and_eq_true]
      exact ⟨⟨⟨subst_annOk_term a ps cs Γ .prd .i64 hS h.1.1.1,
        subst_annOk_term b ps cs Γ .prd .i64 hS h.1.1.2⟩, subst_annOk_stmt t ps cs Γ hS h.1.2⟩,
        subst_annOk_stmt e ps cs Γ hS h.2⟩
    | .ifz srt a t e, ps, cs, Γ, hS, h => by
      simp only [Stmt.check, Bool.and_eq_true] at h
      simp only [substStmt, Stmt.annOk, Bool.and_eq_true]
      exact ⟨⟨subst_annOk_term a ps cs Γ .prd .i64 hS h.1.1, subst_annOk_stmt t ps cs Γ hS h.1.2⟩,
        subst_annOk_stmt e ps cs Γ hS h.2⟩
    | .print nl a n, ps, cs, Γ, hS, h => by
      simp only [Stmt.check, Bool.and_eq_true] at h
      simp only [substStmt, Stmt.annOk, Bool.and_eq_true]
      exact ⟨subst_annOk_term a ps cs Γ .prd .i64 hS h.1, subst_annOk_stmt n ps cs Γ hS h.2⟩
    | .call f as ty, ps, cs, Γ, hS, h => by
      simp only [Stmt.check] at h
      simp only [substStmt, Stmt.annOk, Prog.denv]
      cases hd : P.defs.find? (fun d => d.name = f) with
      | none => rfl
      | some d =>
        rw [hd] at h
        simp only [Option.map_some] at h ⊢
        exact subst_annOk_args as ps cs Γ d.ctx hS h
    | .exit a ty, ps, cs, Γ, hS, h => by
      simp only [Stmt.check] at h
      simp only [substStmt, Stmt.annOk]
      exact subst_annOk_term a ps cs Γ .prd .i64 hS h
end

/-- a substitution that is a renaming of the scope (equal nameless forms) and respects the types
    of the binders preserves typing -/
theorem check_substStmt {s : Stmt} {Γ Γ' : Ctx} {ps cs : Subst} (hc : s.check P Γ = true)
    (hdb : dbS (ctxVars Γ) s = dbS (ctxVars Γ') (substStmt ps cs s)) (hsig : ctxSig Γ' = ctxSig Γ)
    (hT : TySub ps cs Γ) : (substStmt ps cs s).check P Γ' = true := by
  have hc' := hc
  rw [stmt_check_split, Bool.and_eq_true] at hc'
  rw [stmt_check_split, Bool.and_eq_true, ← hdb, hsig]
  exact ⟨hc'.1, subst_annOk_stmt P s ps cs Γ hT hc⟩

end

/-! ## the substitutions of `uniquify` respect the types of the binders -/

theorem tySub_single_cns (v w : Ident) (ty : Ty) (Γ : Ctx) :
    TySub [] [(v, .var .cns w ty)] (⟨v, .cns, ty⟩ :: Γ) := by
  intro u b hl
  refine ⟨fun _ t ht => by simp [substFind] at ht, fun _ t ht => ?_⟩
  simp only [substFind] at ht
  split at ht
  · next hv =>
    subst hv
    simp only [lookupBinding, if_true, Option.some.injEq] at hl
    subst hl
    cases ht
    exact ⟨w, rfl⟩
  · cases ht

theorem tySub_single_prd (v w : Ident) (ty : Ty) (Γ : Ctx) :
    TySub [(v, .var .prd w ty)] [] (⟨v, .prd, ty⟩ :: Γ) := by
  intro u b hl
  refine ⟨fun _ t ht => ?_, fun _ t ht => by simp [substFind] at ht⟩
  simp only [substFind] at ht
  split at ht
  · next hv =>
    subst hv
    simp only [lookupBinding, if_true, Option.some.injEq] at hl
    subst hl
    cases ht
    exact ⟨w, rfl⟩
  · cases ht

theorem uniquifyCtx_tySub (c : Ctx) (n : Nat) (hz : ∀ b ∈ c, b.var.id = 0) (Γ : Ctx) :
    TySub (uniquifyCtx c n).varSubst (uniquifyCtx c n).covarSubst (c ++ Γ) := by
  induction c generalizing n with
  | nil =>
    intro v b _
    simp [uniquifyCtx, substFind]
  | cons b0 r ih =>
    have hb : b0.var.id = 0 := hz b0 (by simp)
    have ih' := ih (n + 1) (fun b' hb' => hz b' (by simp [hb']))
    intro v b hl
    simp only [List.cons_append, lookupBinding] at hl
    by_cases hv : b0.var = v
    · rw [if_pos hv] at hl
      cases hl
      simp only [uniquifyCtx, hb, freshIdentifier, if_true]
      cases hchi : b0.chi with
      | prd =>
        refine ⟨fun _ t ht => ?_, fun h => nomatch h⟩
        simp only [substFind, hv, if_true, Option.some.injEq] at ht
        exact ⟨_, ht.symm⟩
      | cns =>
        refine ⟨(fun h => nomatch h), fun _ t ht => ?_⟩
        simp only [substFind, hv, if_true, Option.some.injEq] at ht
        exact ⟨_, ht.symm⟩
    · rw [if_neg hv] at hl
      obtain ⟨h1, h2⟩ := ih' v b hl
      simp only [uniquifyCtx, hb, freshIdentifier, if_true]
      cases b0.chi with
      | prd =>
        refine ⟨fun hb t ht => h1 hb t ?_, h2⟩
        simpa only [substFind, hv, if_false] using ht
      | cns =>
        refine ⟨h1, fun hb t ht => h2 hb t ?_⟩
        simpa only [substFind, hv, if_false] using ht

/-! ## `uniquify` preserves `annOk` (functional induction) -/

section
variable (P : Prog)

/-- the four motives of the functional induction `uniquify_annOk`: for a checked term / clause list / statement /
    argument list with binders 0 and ids `≤ n`, the uniquified one satisfies `annOk`, and the counter grows -/
private def A1 (t : Term) (n : Nat) : Prop :=
  ∀ Γ pc ty, t.check P Γ pc ty = true → (∀ b ∈ t.binderIds, b = 0) → IdsLe n t.idents →
    (uniquifyTerm t n).1.annOk P.denv pc ty = true ∧ n ≤ (uniquifyTerm t n).2
private def A2 (cl : Clauses) (n : Nat) : Prop :=
  ∀ Γ sigs, cl.check P Γ sigs = true → (∀ b ∈ cl.binderIds, b = 0) → IdsLe n cl.idents →
    (uniquifyClauses cl n).1.annOk P.denv = true ∧ n ≤ (uniquifyClauses cl n).2
private def A3 (s : Stmt) (n : Nat) : Prop :=
  ∀ Γ, s.check P Γ = true → (∀ b ∈ s.binderIds, b = 0) → IdsLe n s.idents →
    (uniquifyStmt s n).1.annOk P.denv = true ∧ n ≤ (uniquifyStmt s n).2
private def A4 (as : Args) (n : Nat) : Prop :=
  ∀ Γ sig, as.check P Γ sig = true → (∀ b ∈ as.binderIds, b = 0) → IdsLe n as.idents →
    (uniquifyArgs as n).1.annOk P.denv (ctxSig sig) = true ∧ n ≤ (uniquifyArgs as n).2

theorem uniquify_annOk (s : Stmt) (n : Nat) : A3 P s n := by
  apply uniquifyStmt.induct (motive1 := A1 P) (motive2 := A2 P) (motive3 := A3 P) (motive4 := A4 P)
  -- uniquifyTerm: var, lit
  · intro n pc' v ty' Γ pc ty hc _ _
    simp only [Term.check, Bool.and_eq_true] at hc
    simp only [uniquifyTerm, Term.annOk]
    exact ⟨hc.1.2, Nat.le_refl _⟩
  · intro n k Γ pc ty _ _ _
    simp [uniquifyTerm, Term.annOk]
  -- op
  · intro n a o b a' n1 ha b' n2 hb iha ihb Γ pc ty hc hz hi
    simp only [Term.check, Bool.and_eq_true] at hc
    simp only [Term.binderIds, List.mem_append] at hz
    simp only [Term.idents, IdsLe_append] at hi
    obtain ⟨e1, l1⟩ := iha Γ .prd .i64 hc.1.2 (fun x hx => hz x (Or.inl hx)) hi.1
    rw [ha] at e1 l1
    obtain ⟨e2, l2⟩ := ihb Γ .prd .i64 hc.2 (fun x hx => hz x (Or.inr hx)) (hi.2.mono l1)
    rw [hb] at e2 l2
    simp only at e1 l1 e2 l2
    simp only [uniquifyTerm, ha, hb, Term.annOk, Bool.and_eq_true]
    exact ⟨⟨e1, e2⟩, by omega⟩
  -- μ binding a covariable, id 0
  · intro n v ty' s hv newVar n1 hfresh s' n2 hs ih Γ pc ty hc hz hi
    simp only [freshIdentifier, Prod.mk.injEq] at hfresh
    obtain ⟨rfl, rfl⟩ := hfresh
    simp only [Term.check, Bool.and_eq_true] at hc
    obtain ⟨⟨h1, h2⟩, h3⟩ := hc
    obtain rfl := PC.beq_eq h1
    obtain rfl : ty' = ty := eq_of_beq h2
    simp only [PC.flip] at h3
    simp only [Term.binderIds, List.mem_cons] at hz
    simp only [Term.idents, IdsLe_cons] at hi
    have hchi := (stmt_check_chi P s _ h3).2
    simp only [ctxVars_cons, List.map_cons] at hchi
    obtain ⟨hR, hok⟩ := ren_single_cns n v hv ty' (ctxVars Γ) (Γ.map (·.chi))
    have hren := ren_stmt s hR hok.vp hok.vc hok.gp hok.gc hi.2 hchi
    have hc' : (substStmt [] [(v, .var .cns ⟨v.name, n + 1⟩ ty')] s).check P
        (⟨⟨v.name, n + 1⟩, .cns, ty'⟩ :: Γ) = true :=
      check_substStmt P h3 (by simpa only [ctxVars_cons] using hren) (by simp [ctxSig])
        (tySub_single_cns v _ ty' Γ)
    obtain ⟨e, l⟩ := ih _ hc'
      (by
        rw [binderIds_substStmt _ _ (by simp [Subst.allVars]) (by simp [Subst.allVars])]
        exact fun x hx => hz x (Or.inr hx))
      (idsLe_substStmt s hok.lp hok.lc (hi.2.mono (Nat.le_succ _)))
    rw [hs] at e l
    simp only at e l
    simp only [uniquifyTerm, hv, freshIdentifier, hs, if_true, Term.annOk]
    exact ⟨e, by omega⟩
  -- μ~ binding a variable, id 0
  · intro n v ty' s hv newVar n1 hfresh s' n2 hs ih Γ pc ty hc hz hi
    simp only [freshIdentifier, Prod.mk.injEq] at hfresh
    obtain ⟨rfl, rfl⟩ := hfresh
    simp only [Term.check, Bool.and_eq_true] at hc
    obtain ⟨⟨h1, h2⟩, h3⟩ := hc
    obtain rfl := PC.beq_eq h1
    obtain rfl : ty' = ty := eq_of_beq h2
    simp only [PC.flip] at h3
    simp only [Term.binderIds, List.mem_cons] at hz
    simp only [Term.idents, IdsLe_cons] at hi
    have hchi := (stmt_check_chi P s _ h3).2
    simp only [ctxVars_cons, List.map_cons] at hchi
    obtain ⟨hR, hok⟩ := ren_single_prd n v hv ty' (ctxVars Γ) (Γ.map (·.chi))
    have hren := ren_stmt s hR hok.vp hok.vc hok.gp hok.gc hi.2 hchi
    have hc' : (substStmt [(v, .var .prd ⟨v.name, n + 1⟩ ty')] [] s).check P
        (⟨⟨v.name, n + 1⟩, .prd, ty'⟩ :: Γ) = true :=
      check_substStmt P h3 (by simpa only [ctxVars_cons] using hren) (by simp [ctxSig])
        (tySub_single_prd v _ ty' Γ)
    obtain ⟨e, l⟩ := ih _ hc'
      (by
        rw [binderIds_substStmt _ _ (by simp [Subst.allVars]) (by simp [Subst.allVars])]
        exact fun x hx => hz x (Or.inr hx))
      (idsLe_substStmt s hok.lp hok.lc (hi.2.mono (Nat.le_succ _)))
    rw [hs] at e l
    simp only at e l
    simp only [uniquifyTerm, hv, freshIdentifier, hs, if_true, Term.annOk]
    exact ⟨e, by omega⟩
  -- μ with id ≠ 0: excluded
  · intro n pc' v ty' s hv s' n2 hs ih Γ pc ty _ hz _
    exact absurd (hz v.id (by simp [Term.binderIds])) hv
  -- xtor
  · intro n pc' name as ty' as' n1 has ih Γ pc ty hc hz hi
    simp only [Term.check, Bool.and_eq_true] at hc
    obtain ⟨_, hc⟩ := hc
    simp only [Term.binderIds] at hz
    simp only [Term.idents] at hi
    simp only [uniquifyTerm, has, Term.annOk, Prog.denv]
    cases ty with
    | i64 => cases hc
    | decl T =>
      simp only at hc ⊢
      cases hd : findDecl (if pc == .prd then P.dataTypes else P.codataTypes) T with
      | none => rw [hd] at hc; cases hc
      | some d =>
        rw [hd] at hc
        simp only at hc ⊢
        cases hsg : findSig d.xtors name with
        | none => rw [hsg] at hc; cases hc
        | some sig =>
          rw [hsg] at hc
          simp only at hc ⊢
          have := ih Γ sig.args hc hz hi
          rw [has] at this
          exact this
  -- xcase
  · intro n pc' ty' cs cl' n1 hcl ih Γ pc ty hc hz hi
    simp only [Term.check, Bool.and_eq_true] at hc
    obtain ⟨_, hc⟩ := hc
    simp only [Term.binderIds] at hz
    simp only [Term.idents] at hi
    simp only [uniquifyTerm, hcl, Term.annOk]
    cases ty with
    | i64 => cases hc
    | decl T =>
      simp only at hc
      cases hd : findDecl (if pc == .prd then P.codataTypes else P.dataTypes) T with
      | none => rw [hd] at hc; cases hc
      | some d =>
        rw [hd] at hc
        simp only [Bool.and_eq_true] at hc
        have := ih Γ d.xtors hc.1 hz hi
        rw [hcl] at this
        exact this
  -- uniquifyClauses
  · intro n Γ sigs _ _ _
    simp [uniquifyClauses, Clauses.annOk]
  · intro n x ctx b r u s' n2 hs cl' n1 hr ihb ihr Γ sigs hc hz hi
    simp only [u] at hs ihb
    simp only [Clauses.check, Bool.and_eq_true] at hc
    obtain ⟨⟨_, hcb⟩, hcr⟩ := hc
    simp only [Clauses.binderIds, List.mem_append] at hz
    simp only [Clauses.idents, IdsLe_append] at hi
    have hzc : ∀ b' ∈ ctx, b'.var.id = 0 := fun b' hb' =>
      hz _ (Or.inl (Or.inl (by simp only [ctxIds, List.mem_map]; exact ⟨b', hb', rfl⟩)))
    have hchi := (stmt_check_chi P b _ hcb).2
    rw [ctxVars_append, List.map_append] at hchi
    have hR := uniquifyCtx_ren ctx n hzc (ctxVars Γ) (Γ.map (·.chi))
    have hok := uniquifyCtx_substOK ctx n hzc
    have hle := uniquifyCtx_le ctx n
    have hren := ren_stmt b hR hok.vp hok.vc hok.gp hok.gc hi.1.2 hchi
    rw [substIfAny_eq] at hs ihb
    have hc' : (substStmt (uniquifyCtx ctx n).varSubst (uniquifyCtx ctx n).covarSubst b).check P
        ((uniquifyCtx ctx n).ctx ++ Γ) = true :=
      check_substStmt P hcb (by simpa only [ctxVars_append] using hren)
        (by rw [ctxSig_append, ctxSig_append, uniquifyCtx_sig]) (uniquifyCtx_tySub ctx n hzc Γ)
    obtain ⟨e, l⟩ := ihb _ hc'
      (by
        rw [binderIds_substStmt _ _ (uniquifyCtx_allVars ctx n).1 (uniquifyCtx_allVars ctx n).2]
        exact fun y hy => hz y (Or.inl (Or.inr hy)))
      (idsLe_substStmt b hok.lp hok.lc (hi.1.2.mono hle))
    rw [hs] at e l
    simp only at e l
    obtain ⟨e2, l2⟩ := ihr Γ sigs hcr (fun y hy => hz y (Or.inr hy))
      (hi.2.mono (Nat.le_trans hle l))
    rw [hr] at e2 l2
    simp only at e2 l2
    simp only [uniquifyClauses, substIfAny_eq, hs, hr, Clauses.annOk, Bool.and_eq_true]
    exact ⟨⟨e, e2⟩, by omega⟩
  -- uniquifyStmt: cut
  · intro n ty p c p' n1 hp c' n2 hc ihp ihc Γ hck hz hi
    simp only [Stmt.check, Bool.and_eq_true] at hck
    simp only [Stmt.binderIds, List.mem_append] at hz
    simp only [Stmt.idents, IdsLe_append] at hi
    obtain ⟨e1, l1⟩ := ihp Γ .prd ty hck.1 (fun x hx => hz x (Or.inl hx)) hi.1
    rw [hp] at e1 l1
    obtain ⟨e2, l2⟩ := ihc Γ .cns ty hck.2 (fun x hx => hz x (Or.inr hx)) (hi.2.mono l1)
    rw [hc] at e2 l2
    simp only at e1 l1 e2 l2
    simp only [uniquifyStmt, hp, hc, Stmt.annOk, Bool.and_eq_true]
    exact ⟨⟨e1, e2⟩, by omega⟩
  -- ifc
  · intro n srt a b t e a' n1 ha b' n2 hb t' n3 ht e' n4 he iha ihb iht ihe Γ hck hz hi
    simp only [Stmt.check, Bool.and_eq_true] at hck
    simp only [Stmt.binderIds, List.mem_append] at hz
    simp only [Stmt.idents, IdsLe_append] at hi
    obtain ⟨e1, l1⟩ := iha Γ .prd .i64 hck.1.1.1 (fun x hx => hz x (Or.inl (Or.inl (Or.inl hx))))
      hi.1.1.1
    rw [ha] at e1 l1
    obtain ⟨e2, l2⟩ := ihb Γ .prd .i64 hck.1.1.2 (fun x hx => hz x (Or.inl (Or.inl (Or.inr hx))))
      (hi.1.1.2.mono l1)
    rw [hb] at e2 l2
    simp only at e1 l1 e2 l2
    obtain ⟨e3, l3⟩ := iht Γ hck.1.2 (fun x hx => hz x (Or.inl (Or.inr hx))) (hi.1.2.mono (by omega))
    rw [ht] at e3 l3
    simp only at e3 l3
    obtain ⟨e4, l4⟩ := ihe Γ hck.2 (fun x hx => hz x (Or.inr hx)) (hi.2.mono (by omega))
    rw [he] at e4 l4
    simp only at e4 l4
    simp only [uniquifyStmt, ha, hb, ht, he, Stmt.annOk, Bool.and_eq_true]
    exact ⟨⟨⟨⟨e1, e2⟩, e3⟩, e4⟩, by omega⟩
  -- ifz
  · intro n srt a t e a' n1 ha t' n3 ht e' n4 he iha iht ihe Γ hck hz hi
    simp only [Stmt.check, Bool.and_eq_true] at hck
    simp only [Stmt.binderIds, List.mem_append] at hz
    simp only [Stmt.idents, IdsLe_append] at hi
    obtain ⟨e1, l1⟩ := iha Γ .prd .i64 hck.1.1 (fun x hx => hz x (Or.inl (Or.inl hx))) hi.1.1
    rw [ha] at e1 l1
    simp only at e1 l1
    obtain ⟨e3, l3⟩ := iht Γ hck.1.2 (fun x hx => hz x (Or.inl (Or.inr hx))) (hi.1.2.mono l1)
    rw [ht] at e3 l3
    simp only at e3 l3
    obtain ⟨e4, l4⟩ := ihe Γ hck.2 (fun x hx => hz x (Or.inr hx)) (hi.2.mono (by omega))
    rw [he] at e4 l4
    simp only at e4 l4
    simp only [uniquifyStmt, ha, ht, he, Stmt.annOk, Bool.and_eq_true]
    exact ⟨⟨⟨e1, e3⟩, e4⟩, by omega⟩
  -- print
  · intro n nl a nx a' n1 ha nx' n2 hn iha ihn Γ hck hz hi
    simp only [Stmt.check, Bool.and_eq_true] at hck
    simp only [Stmt.binderIds, List.mem_append] at hz
    simp only [Stmt.idents, IdsLe_append] at hi
    obtain ⟨e1, l1⟩ := iha Γ .prd .i64 hck.1 (fun x hx => hz x (Or.inl hx)) hi.1
    rw [ha] at e1 l1
    simp only at e1 l1
    obtain ⟨e2, l2⟩ := ihn Γ hck.2 (fun x hx => hz x (Or.inr hx)) (hi.2.mono l1)
    rw [hn] at e2 l2
    simp only at e2 l2
    simp only [uniquifyStmt, ha, hn, Stmt.annOk, Bool.and_eq_true]
    exact ⟨⟨e1, e2⟩, by omega⟩
  -- call
  · intro n f as ty as' n1 has ih Γ hck hz hi
    simp only [Stmt.check] at hck
    simp only [Stmt.binderIds] at hz
    simp only [Stmt.idents] at hi
    simp only [uniquifyStmt, has, Stmt.annOk, Prog.denv]
    cases hd : P.defs.find? (fun d => d.name = f) with
    | none => rw [hd] at hck; cases hck
    | some d =>
      rw [hd] at hck
      simp only [Option.map_some] at hck ⊢
      have := ih Γ d.ctx hck hz hi
      rw [has] at this
      exact this
  -- exit
  · intro n a ty a' n1 ha ih Γ hck hz hi
    simp only [Stmt.check] at hck
    simp only [Stmt.binderIds] at hz
    simp only [Stmt.idents] at hi
    have := ih Γ .prd .i64 hck hz hi
    rw [ha] at this
    simpa only [uniquifyStmt, ha, Stmt.annOk] using this
  -- uniquifyArgs
  · intro n Γ sig _ _ _
    simp [uniquifyArgs, Args.annOk]
  · intro n pc t r t' n1 ht r' n2 hr iht ihr Γ sig hck hz hi
    cases sig with
    | nil => simp [Args.check] at hck
    | cons b bs =>
      simp only [Args.check, Bool.and_eq_true] at hck
      simp only [Args.binderIds, List.mem_append] at hz
      simp only [Args.idents, IdsLe_append] at hi
      obtain ⟨e1, l1⟩ := iht Γ pc b.ty hck.1.2 (fun x hx => hz x (Or.inl hx)) hi.1
      rw [ht] at e1 l1
      simp only at e1 l1
      obtain ⟨e2, l2⟩ := ihr Γ bs hck.2 (fun x hx => hz x (Or.inr hx)) (hi.2.mono l1)
      rw [hr] at e2 l2
      simp only at e2 l2
      simp only [uniquifyArgs, ht, hr, ctxSig, List.map_cons, Args.annOk, Bool.and_eq_true]
      exact ⟨⟨e1, e2⟩, by omega⟩

/-- `uniquify` preserves the typing of a definition (checked against the ORIGINAL program `P`;
    the uniquified program has the same `denv`, see below) -/
theorem uniquifyDef_check (d : Def) (n : Nat) (hc : d.body.check P d.ctx = true)
    (h : UniqInput n d) :
    (uniquifyDef d n).1.body.check P (uniquifyDef d n).1.ctx = true := by
  have hR := uniquifyCtx_ren d.ctx n h.ctxZero [] []
  have hok := uniquifyCtx_substOK d.ctx n h.ctxZero
  have hle := uniquifyCtx_le d.ctx n
  simp only [List.append_nil] at hR
  have hren := ren_stmt d.body hR hok.vp hok.vc hok.gp hok.gc h.ids h.chi
  have hsig := uniquifyCtx_sig d.ctx n
  have hT := uniquifyCtx_tySub d.ctx n h.ctxZero []
  simp only [List.append_nil] at hT
  -- the substituted body is well-typed in the renamed context
  have hc' := check_substStmt P hc hren hsig hT
  -- nameless part: `uniquifyDef_alpha`
  obtain ⟨hα, _, _⟩ := uniquifyDef_alpha d n h
  -- annotation part: the functional induction
  have hA := (uniquify_annOk P
    (substStmt (uniquifyCtx d.ctx n).varSubst (uniquifyCtx d.ctx n).covarSubst d.body)
    (uniquifyCtx d.ctx n).maxId _ hc'
    (by
      rw [binderIds_substStmt _ _ (uniquifyCtx_allVars d.ctx n).1 (uniquifyCtx_allVars d.ctx n).2]
      exact h.bindersZero)
    (idsLe_substStmt d.body hok.lp hok.lc (h.ids.mono hle))).1
  have hc0 := hc
  rw [stmt_check_split, Bool.and_eq_true] at hc0
  rw [stmt_check_split, Bool.and_eq_true, ← hα.body]
  refine ⟨?_, ?_⟩
  · have : ctxSig (uniquifyDef d n).1.ctx = ctxSig d.ctx := by
      simp only [uniquifyDef]; exact hsig
    rw [this]; exact hc0.1
  · simpa only [uniquifyDef, substIfAny_eq] using hA

theorem uniquifyDefs_check : ∀ (ds : List Def) (n : Nat),
    (∀ d ∈ ds, d.body.check P d.ctx = true ∧ UniqInput n d) →
    ∀ d' ∈ (uniquifyDefs ds n).1, d'.body.check P d'.ctx = true
  | [], n, _ => by simp [uniquifyDefs]
  | d :: r, n, h => by
    intro d' hd'
    simp only [uniquifyDefs, List.mem_cons] at hd'
    obtain ⟨_, _, hle⟩ := uniquifyDef_alpha d n (h d (by simp)).2
    rcases hd' with rfl | hd'
    · exact uniquifyDef_check P d n (h d (by simp)).1 (h d (by simp)).2
    · exact uniquifyDefs_check r _ (fun d0 hd0 =>
        let hh := h d0 (by simp [hd0])
        ⟨hh.1, hh.2.ctxZero, hh.2.bindersZero, hh.2.ids.mono hle, hh.2.chi⟩) d' hd'

end

/-! ## the uniquified program has the same `denv` -/

theorem uniquifyDefs_sigs : ∀ (ds : List Def) (n : Nat),
    (uniquifyDefs ds n).1.map (fun d => (d.name, ctxSig d.ctx)) =
      ds.map (fun d => (d.name, ctxSig d.ctx))
  | [], n => by simp [uniquifyDefs]
  | d :: r, n => by
    simp only [uniquifyDefs, List.map_cons, uniquifyDefs_sigs r, uniquifyDef, uniquifyCtx_sig]

theorem find_sig_map (f : Ident) : ∀ (ds : List Def),
    (ds.find? (fun d => d.name = f)).map (fun d => ctxSig d.ctx) =
      ((ds.map fun d => (d.name, ctxSig d.ctx)).find? (fun p => p.1 = f)).map (·.2)
  | [] => rfl
  | d :: r => by
    simp only [List.map_cons, List.find?_cons]
    by_cases h : d.name = f
    · simp [h]
    · simp [h, find_sig_map f r]

theorem denv_congr {P Q : Prog} (hd : P.dataTypes = Q.dataTypes)
    (hc : P.codataTypes = Q.codataTypes)
    (hs : P.defs.map (fun d => (d.name, ctxSig d.ctx)) = Q.defs.map (fun d => (d.name, ctxSig d.ctx))) :
    P.denv = Q.denv := by
  simp only [Prog.denv, hd, hc, DEnv.mk.injEq, true_and]
  funext f
  rw [find_sig_map, find_sig_map, hs]

theorem check_congr {P Q : Prog} (h : P.denv = Q.denv) (s : Stmt) (Γ : Ctx) :
    s.check P Γ = s.check Q Γ := by
  rw [stmt_check_split, stmt_check_split, h]

theorem uniquifyProg_denv (p : Prog) : (uniquifyProg p).denv = p.denv :=
  denv_congr rfl rfl (by simp only [uniquifyProg]; exact uniquifyDefs_sigs p.defs p.maxId)

/-- **`uniquify` preserves Core typing** (binders 0, occurrence ids `≤ maxId`) -/
theorem uniquifyProg_wellTyped (p : Prog) (ht : p.wellTyped = true) (hz : p.BindersZero)
    (ho : p.OccsOld) : (uniquifyProg p).wellTyped = true := by
  have hin := uniqInput_of_typed p ht hz ho
  have ht' := ht
  simp only [Prog.wellTyped, List.all_eq_true] at ht' ⊢
  intro d' hd'
  rw [check_congr (uniquifyProg_denv p)]
  exact uniquifyDefs_check p p.defs p.maxId (fun d hd => ⟨ht' d hd, hin d hd⟩) d' hd'

/-- `uniquify` preserves strictness of the bodies -/
theorem uniquifyProg_strict (p : Prog) (ht : p.wellTyped = true) (hz : p.BindersZero)
    (ho : p.OccsOld) (hs : ∀ d ∈ p.defs, d.body.strict p = true) :
    ∀ d' ∈ (uniquifyProg p).defs, d'.body.strict (uniquifyProg p) = true := by
  have hα := (uniquifyProg_alpha p (uniqInput_of_typed p ht hz ho)).1
  refine DefsAlpha.forall_body (Q := fun d => d.body.strict (uniquifyProg p) = true) ?_ hα ?_
  · intro d d' h hq
    rw [← stmt_strict_db _ _ (ctxVars d'.ctx), ← h.body, stmt_strict_db]
    exact hq
  · intro d hd
    rw [← stmt_strict_db _ _ [], dstmt_strict_congr (P := uniquifyProg p) (Q := p) rfl rfl,
      stmt_strict_db]
    exact hs d hd

theorem uniquifyProg_strictOk (p : Prog) (ht : p.wellTyped = true) (hz : p.BindersZero)
    (ho : p.OccsOld) (hs : p.strictOk = true) : (uniquifyProg p).strictOk = true := by
  simp only [Prog.strictOk, Bool.and_eq_true, List.all_eq_true] at hs ⊢
  exact ⟨hs.1, uniquifyProg_strict p ht hz ho hs.2⟩

end Scc.Core
