/-
  Scc.Core.ProofsUniqAlphaB — `uniquify` is an α-renaming: the nameless form of a statement (in any
  scope) is unchanged by `uniquifyStmt`, provided all binders carry id 0 (they are all renamed), all
  ids are below the counter (the new names are fresh) and variable occurrences have the chirality of
  their binders (`DStmt.chiWS`, a consequence of typing).
-/
import Scc.Core.ProofsUniqAlphaA
import Scc.Core.ProofsUniqueB

namespace Scc.Core

theorem substRemove_nil (v : Ident) : substRemove [] v = [] := rfl
theorem substRemoveCtx_nil (c : Ctx) : substRemoveCtx [] c = [] := rfl

mutual
  theorem substTerm_nil : (t : Term) → substTerm [] [] t = t
    | .var .prd v ty => by simp [substTerm, substFind]
    | .var .cns v ty => by simp [substTerm, substFind]
    | .lit k => by simp [substTerm]
    | .op a o b => by simp [substTerm, substTerm_nil a, substTerm_nil b]
    | .mu pc v ty s => by simp [substTerm, substRemove_nil, substStmt_nil s]
    | .xtor pc k as ty => by simp [substTerm, substArgs_nil as]
    | .xcase pc ty cl => by simp [substTerm, substClauses_nil cl]
  theorem substArgs_nil : (as : Args) → substArgs [] [] as = as
    | .nil => by simp [substArgs]
    | .cons pc t r => by simp [substArgs, substTerm_nil t, substArgs_nil r]
  theorem substClauses_nil : (cl : Clauses) → substClauses [] [] cl = cl
    | .nil => by simp [substClauses]
    | .cons x ctx b r => by
      simp [substClauses, substRemoveCtx_nil, substStmt_nil b, substClauses_nil r]
  theorem substStmt_nil : (s : Stmt) → substStmt [] [] s = s
    | .cut ty p c => by simp [substStmt, substTerm_nil p, substTerm_nil c]
    | .ifc srt a b t e => by
      simp [substStmt, substTerm_nil a, substTerm_nil b, substStmt_nil t, substStmt_nil e]
    | .ifz srt a t e => by simp [substStmt, substTerm_nil a, substStmt_nil t, substStmt_nil e]
    | .print nl a n => by simp [substStmt, substTerm_nil a, substStmt_nil n]
    | .call f as ty => by simp [substStmt, substArgs_nil as]
    | .exit a ty => by simp [substStmt, substTerm_nil a]
end

theorem substIfAny_eq (ps cs : Subst) (s : Stmt) : substIfAny ps cs s = substStmt ps cs s := by
  unfold substIfAny
  split
  · next h =>
    simp only [Bool.and_eq_true, List.isEmpty_iff] at h
    rw [h.1, h.2, substStmt_nil]
  · rfl

/-- all right-hand sides have ids `≤ m` -/
def Subst.RangeLe (m : Nat) (σ : Subst) : Prop :=
  ∀ x t, substFind σ x = some t → IdsLe m t.idents

theorem Removed.rangeLe {pre σ σ1 m} (h : Removed pre σ σ1) (hv : Subst.RangeLe m σ) :
    Subst.RangeLe m σ1 := fun x t hf => hv x t (h.find_some hf)

section
variable {m : Nat}

mutual
  theorem idsLe_substTerm : (t : Term) → ∀ {ps cs : Subst}, Subst.RangeLe m ps →
      Subst.RangeLe m cs → IdsLe m t.idents → IdsLe m (substTerm ps cs t).idents
    | .var .prd v ty, ps, cs, hp, _, hi => by
      simp only [substTerm]
      cases hf : substFind ps v with
      | none => exact hi
      | some t => exact hp v t hf
    | .var .cns v ty, ps, cs, _, hc, hi => by
      simp only [substTerm]
      cases hf : substFind cs v with
      | none => exact hi
      | some t => exact hc v t hf
    | .lit k, _, _, _, _, hi => by simpa [substTerm] using hi
    | .op a o b, ps, cs, hp, hc, hi => by
      simp only [Term.idents, IdsLe_append] at hi
      simp only [substTerm, Term.idents, IdsLe_append]
      exact ⟨idsLe_substTerm a hp hc hi.1, idsLe_substTerm b hp hc hi.2⟩
    | .mu pc v ty s, ps, cs, hp, hc, hi => by
      simp only [Term.idents, IdsLe_cons] at hi
      simp only [substTerm, Term.idents, IdsLe_cons]
      exact ⟨hi.1, idsLe_substStmt s ((Removed.single ps v).rangeLe hp)
        ((Removed.single cs v).rangeLe hc) hi.2⟩
    | .xtor pc k as ty, ps, cs, hp, hc, hi => by
      simp only [Term.idents] at hi
      simp only [substTerm, Term.idents]
      exact idsLe_substArgs as hp hc hi
    | .xcase pc ty cl, ps, cs, hp, hc, hi => by
      simp only [Term.idents] at hi
      simp only [substTerm, Term.idents]
      exact idsLe_substClauses cl hp hc hi
  theorem idsLe_substArgs : (as : Args) → ∀ {ps cs : Subst}, Subst.RangeLe m ps →
      Subst.RangeLe m cs → IdsLe m as.idents → IdsLe m (substArgs ps cs as).idents
    | .nil, _, _, _, _, _ => by simp [substArgs, Args.idents]
    | .cons pc t r, ps, cs, hp, hc, hi => by
      simp only [Args.idents, IdsLe_append] at hi
      simp only [substArgs, Args.idents, IdsLe_append]
      exact ⟨idsLe_substTerm t hp hc hi.1, idsLe_substArgs r hp hc hi.2⟩
  theorem idsLe_substClauses : (cl : Clauses) → ∀ {ps cs : Subst}, Subst.RangeLe m ps →
      Subst.RangeLe m cs → IdsLe m cl.idents → IdsLe m (substClauses ps cs cl).idents
    | .nil, _, _, _, _, _ => by simp [substClauses, Clauses.idents]
    | .cons x ctx b r, ps, cs, hp, hc, hi => by
      simp only [Clauses.idents, IdsLe_append] at hi
      simp only [substClauses, Clauses.idents, IdsLe_append]
      exact ⟨⟨hi.1.1, idsLe_substStmt b ((Removed.ctx ps ctx).rangeLe hp)
        ((Removed.ctx cs ctx).rangeLe hc) hi.1.2⟩, idsLe_substClauses r hp hc hi.2⟩
  theorem idsLe_substStmt : (s : Stmt) → ∀ {ps cs : Subst}, Subst.RangeLe m ps →
      Subst.RangeLe m cs → IdsLe m s.idents → IdsLe m (substStmt ps cs s).idents
    | .cut ty p c, ps, cs, hp, hc, hi => by
      simp only [Stmt.idents, IdsLe_append] at hi
      simp only [substStmt, Stmt.idents, IdsLe_append]
      exact ⟨idsLe_substTerm p hp hc hi.1, idsLe_substTerm c hp hc hi.2⟩
    | .ifc srt a b t e, ps, cs, hp, hc, hi => by
      simp only [Stmt.idents, IdsLe_append] at hi
      simp only [substStmt, Stmt.idents, IdsLe_append]
      exact ⟨⟨⟨idsLe_substTerm a hp hc hi.1.1.1, idsLe_substTerm b hp hc hi.1.1.2⟩,
        idsLe_substStmt t hp hc hi.1.2⟩, idsLe_substStmt e hp hc hi.2⟩
    | .ifz srt a t e, ps, cs, hp, hc, hi => by
      simp only [Stmt.idents, IdsLe_append] at hi
      simp only [substStmt, Stmt.idents, IdsLe_append]
      exact ⟨⟨idsLe_substTerm a hp hc hi.1.1, idsLe_substStmt t hp hc hi.1.2⟩,
        idsLe_substStmt e hp hc hi.2⟩
    | .print nl a nx, ps, cs, hp, hc, hi => by
      simp only [Stmt.idents, IdsLe_append] at hi
      simp only [substStmt, Stmt.idents, IdsLe_append]
      exact ⟨idsLe_substTerm a hp hc hi.1, idsLe_substStmt nx hp hc hi.2⟩
    | .call f as ty, ps, cs, hp, hc, hi => by
      simp only [Stmt.idents] at hi
      simp only [substStmt, Stmt.idents]
      exact idsLe_substArgs as hp hc hi
    | .exit a ty, ps, cs, hp, hc, hi => by
      simp only [Stmt.idents] at hi
      simp only [substStmt, Stmt.idents]
      exact idsLe_substTerm a hp hc hi
end

end

/-! ## the binder loop `uniquifyCtx` (all binders have id 0) -/

theorem uniquifyCtx_sig (c : Ctx) (n : Nat) : ctxSig (uniquifyCtx c n).ctx = ctxSig c := by
  induction c generalizing n with
  | nil => simp [uniquifyCtx, ctxSig]
  | cons b r ih =>
    simp only [uniquifyCtx, freshIdentifier]
    split
    · split <;> simp [ctxSig] at * <;> exact ih _
    · simp [ctxSig] at *; exact ih _

theorem uniquifyCtx_le (c : Ctx) (n : Nat) : n ≤ (uniquifyCtx c n).maxId := by
  induction c generalizing n with
  | nil => simp [uniquifyCtx]
  | cons b r ih =>
    simp only [uniquifyCtx, freshIdentifier]
    split
    · have := ih (n + 1); split <;> simp only <;> omega
    · exact ih n

/-- what is known of the two substitutions produced by the binder loop -/
structure CtxSubstOK (n m : Nat) (ps cs : Subst) : Prop where
  vp : Subst.VarsOf .prd ps
  vc : Subst.VarsOf .cns cs
  gp : Subst.RangeGt n ps
  gc : Subst.RangeGt n cs
  lp : Subst.RangeLe m ps
  lc : Subst.RangeLe m cs

theorem CtxSubstOK.nil (n m : Nat) : CtxSubstOK n m [] [] := by
  constructor <;> intro x <;> simp [substFind]

theorem CtxSubstOK.consP {n m : Nat} {ps cs : Subst} (h : CtxSubstOK (n + 1) m ps cs) (hm : n + 1 ≤ m)
    (v : Ident) (nm : String) (ty : Ty) :
    CtxSubstOK n m ((v, .var .prd ⟨nm, n + 1⟩ ty) :: ps) cs := by
  refine ⟨?_, h.vc, ?_, fun x pc w ty hf => Nat.lt_of_succ_lt (h.gc x pc w ty hf), ?_, h.lc⟩
  · intro x t hf
    simp only [substFind] at hf
    split at hf
    · cases hf; exact ⟨_, _, rfl⟩
    · exact h.vp x t hf
  · intro x pc w ty' hf
    simp only [substFind] at hf
    split at hf
    · cases hf; simp
    · exact Nat.lt_of_succ_lt (h.gp x pc w ty' hf)
  · intro x t hf
    simp only [substFind] at hf
    split at hf
    · cases hf; simpa [Term.idents] using hm
    · exact h.lp x t hf

theorem CtxSubstOK.consC {n m : Nat} {ps cs : Subst} (h : CtxSubstOK (n + 1) m ps cs) (hm : n + 1 ≤ m)
    (v : Ident) (nm : String) (ty : Ty) :
    CtxSubstOK n m ps ((v, .var .cns ⟨nm, n + 1⟩ ty) :: cs) := by
  refine ⟨h.vp, ?_, fun x pc w ty hf => Nat.lt_of_succ_lt (h.gp x pc w ty hf), ?_, h.lp, ?_⟩
  · intro x t hf
    simp only [substFind] at hf
    split at hf
    · cases hf; exact ⟨_, _, rfl⟩
    · exact h.vc x t hf
  · intro x pc w ty' hf
    simp only [substFind] at hf
    split at hf
    · cases hf; simp
    · exact Nat.lt_of_succ_lt (h.gc x pc w ty' hf)
  · intro x t hf
    simp only [substFind] at hf
    split at hf
    · cases hf; simpa [Term.idents] using hm
    · exact h.lc x t hf

theorem uniquifyCtx_substOK (c : Ctx) (n : Nat) (hz : ∀ b ∈ c, b.var.id = 0) :
    CtxSubstOK n (uniquifyCtx c n).maxId (uniquifyCtx c n).varSubst (uniquifyCtx c n).covarSubst := by
  induction c generalizing n with
  | nil => simpa [uniquifyCtx] using CtxSubstOK.nil n n
  | cons b r ih =>
    have hb : b.var.id = 0 := hz b (by simp)
    have ih' := ih (n + 1) (fun b' hb' => hz b' (by simp [hb']))
    have hle := uniquifyCtx_le r (n + 1)
    simp only [uniquifyCtx, hb, freshIdentifier, if_true]
    split
    · exact ih'.consP hle _ _ _
    · exact ih'.consC hle _ _ _

theorem uniquifyCtx_idsLe (c : Ctx) (n : Nat) (hz : ∀ b ∈ c, b.var.id = 0) :
    IdsLe (uniquifyCtx c n).maxId (ctxVars (uniquifyCtx c n).ctx) := by
  induction c generalizing n with
  | nil => simp [uniquifyCtx, ctxVars]
  | cons b r ih =>
    have hb : b.var.id = 0 := hz b (by simp)
    have ih' := ih (n + 1) (fun b' hb' => hz b' (by simp [hb']))
    have hle := uniquifyCtx_le r (n + 1)
    simp only [uniquifyCtx, hb, freshIdentifier, if_true]
    split <;> simp only [ctxVars, List.map_cons, IdsLe_cons] <;> exact ⟨hle, ih'⟩

theorem ctxVars_cons (b : Binding) (r : Ctx) : ctxVars (b :: r) = b.var :: ctxVars r := rfl

theorem DVar.chiOK_shift1 {chis : List PC} {c pc : PC} {v : DVar} :
    (v.shift 0 1).chiOK (c :: chis) pc ↔ v.chiOK chis pc :=
  DVar.chiOK_shift (pre := [c])

theorem uniquifyCtx_ren (c : Ctx) (n : Nat) (hz : ∀ b ∈ c, b.var.id = 0) (sc0 : List Ident)
    (chis0 : List PC) :
    REN n (uniquifyCtx c n).varSubst (uniquifyCtx c n).covarSubst (ctxVars c ++ sc0)
      (ctxVars (uniquifyCtx c n).ctx ++ sc0) (c.map (·.chi) ++ chis0) := by
  induction c generalizing n with
  | nil =>
    intro pc x _ _
    cases pc <;> simp [uniquifyCtx, selSubst, substName, substFind, ctxVars]
  | cons b r ih =>
    have hb : b.var.id = 0 := hz b (by simp)
    have hz' : ∀ b' ∈ r, b'.var.id = 0 := fun b' hb' => hz b' (by simp [hb'])
    have ih' := ih (n + 1) hz'
    have hok := uniquifyCtx_substOK r (n + 1) hz'
    intro pc x hx hchi
    -- the name `x` is renamed to by the tail
    have key : ∀ x' : Ident, (x' = x ∨ n + 1 < x'.id) → (⟨b.var.name, n + 1⟩ : Ident) ≠ x' := by
      intro x' h e
      rcases h with h | h
      · rw [← e] at h; rw [← h] at hx; simp at hx; omega
      · rw [← e] at h; simp at h
    by_cases hxb : b.var = x
    · -- the head binder
      subst hxb
      simp only [ctxVars, List.map_cons, List.cons_append, dbVar, if_true, DVar.chiOK,
        List.getElem?_cons_zero, Option.some.injEq] at hchi ⊢
      subst hchi
      simp only [uniquifyCtx, hb, freshIdentifier, if_true]
      split
      · next hc => simp [selSubst, hc, substName, substFind, dbVar]
      · next hc => simp [selSubst, hc, substName, substFind, dbVar]
    · simp only [ctxVars_cons, List.map_cons, List.cons_append, dbVar, hxb, if_false] at hchi ⊢
      have hchi' := DVar.chiOK_shift1.mp hchi
      have hrec := ih' pc x (by omega) hchi'
      have hsel : substName (selSubst pc (uniquifyCtx (b :: r) n).varSubst
          (uniquifyCtx (b :: r) n).covarSubst) x =
          substName (selSubst pc (uniquifyCtx r (n + 1)).varSubst
            (uniquifyCtx r (n + 1)).covarSubst) x := by
        simp only [uniquifyCtx, hb, freshIdentifier, if_true]
        split <;> cases pc <;> simp [selSubst, substName, substFind, hxb]
      have hne : (⟨b.var.name, n + 1⟩ : Ident) ≠ substName (selSubst pc
          (uniquifyCtx r (n + 1)).varSubst (uniquifyCtx r (n + 1)).covarSubst) x := by
        apply key
        have hr : Subst.RangeGt (n + 1) (selSubst pc (uniquifyCtx r (n + 1)).varSubst
            (uniquifyCtx r (n + 1)).covarSubst) := by
          cases pc
          · exact hok.gp
          · exact hok.gc
        exact substName_id_or_range hr x
      rw [hsel]
      have hctx : ctxVars (uniquifyCtx (b :: r) n).ctx =
          ⟨b.var.name, n + 1⟩ :: ctxVars (uniquifyCtx r (n + 1)).ctx := by
        simp only [uniquifyCtx, hb, freshIdentifier, if_true]
        split <;> simp [ctxVars_cons]
      rw [hctx]
      simp only [List.cons_append, dbVar, hne, if_false]
      rw [hrec]

end Scc.Core
