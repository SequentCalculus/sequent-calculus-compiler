/-
  Scc.Core.TypingInv — what a successful `Term.check` (Scc/Core/Typing.lean) says about a variable, a μ-abstraction,
  an xtor and an xcase: the annotations are those of the position, and the lookups in the context resp. in the
  declarations succeeded (`Term.check_var`, `_xtor`, `_xcase`, and `Term.check_mu` beside its equivalence: the inversions the typing
  proofs of focusing use), and the same as equivalences (`check_*_iff`, `check_call_iff`), whose converse directions build a check from
  its parts (the typing proofs of the translation from Fun).  `lit`, `op` and the other statement forms are read
  off by unfolding where needed.  Before them: the equality tests of the checker are the derived `BEq` instances,
  which are lawful, and `lookupBinding` reads a context by first hit on the variable.
-/
import Scc.Core.Typing

namespace Scc.Core

/-! ## lawful equality tests of the syntax types (the derived `BEq` instances) -/

instance : LawfulBEq Ident where
  eq_of_beq := by
    intro a b h
    cases a; cases b
    simp only [BEq.beq, instBEqIdent.beq] at h
    simp_all
  rfl := by
    intro a; cases a; simp [BEq.beq, instBEqIdent.beq]

instance : LawfulBEq Ty where
  eq_of_beq := by
    intro a b h
    cases a <;> cases b
    · rfl
    · simp only [BEq.beq, instBEqTy.beq] at h; cases h
    · simp only [BEq.beq, instBEqTy.beq] at h; cases h
    · simp only [BEq.beq, instBEqTy.beq] at h
      rename_i x y
      have : (x == y) = true := h
      rw [eq_of_beq this]
  rfl := by
    intro a; cases a
    · simp [BEq.beq, instBEqTy.beq]
    · simp only [BEq.beq, instBEqTy.beq]
      exact (beq_self_eq_true (_ : Ident))

instance : LawfulBEq PC where
  eq_of_beq := by
    intro a b h
    cases a <;> cases b <;> first | rfl | (simp [BEq.beq, instBEqPC.beq] at h; cases h)
  rfl := by
    intro a; cases a <;> simp [BEq.beq, instBEqPC.beq]

/-! ## `lookupBinding` reads a context by first hit on the variable -/

theorem lookupBinding_var : ∀ {Γ : Ctx} {v : Ident} {b : Binding}, lookupBinding Γ v = some b → b.var = v
  | [], _, _, h => by simp [lookupBinding] at h
  | a :: r, v, b, h => by
    simp only [lookupBinding] at h
    split at h
    · cases h; assumption
    · exact lookupBinding_var h

theorem lookupBinding_mem : ∀ {Γ : Ctx} {v : Ident} {b : Binding}, lookupBinding Γ v = some b → b ∈ Γ
  | [], _, _, h => by simp [lookupBinding] at h
  | a :: r, v, b, h => by
    simp only [lookupBinding] at h
    split at h
    · cases h; simp
    · exact List.mem_cons_of_mem _ (lookupBinding_mem h)

theorem lookupBinding_none : ∀ {Γ : Ctx} {v : Ident}, lookupBinding Γ v = none → ∀ b ∈ Γ, b.var ≠ v
  | [], _, _, b, hb => by simp at hb
  | a :: r, v, h, b, hb => by
    simp only [lookupBinding] at h
    split at h
    · cases h
    · rename_i hne
      rcases List.mem_cons.1 hb with rfl | hb
      · exact hne
      · exact lookupBinding_none h b hb

theorem lookupBinding_none_of : ∀ {Γ : Ctx} {v : Ident}, (∀ b ∈ Γ, b.var ≠ v) → lookupBinding Γ v = none
  | [], _, _ => rfl
  | a :: r, v, h => by
    simp only [lookupBinding]
    rw [if_neg (h a (by simp))]
    exact lookupBinding_none_of (fun b hb => h b (by simp [hb]))

theorem lookupBinding_append (Γ Δ : Ctx) (v : Ident) :
    lookupBinding (Γ ++ Δ) v = (match lookupBinding Γ v with
      | some b => some b
      | none => lookupBinding Δ v) := by
  induction Γ with
  | nil => simp [lookupBinding]
  | cons a r ih =>
    simp only [List.cons_append, lookupBinding]
    split
    · rfl
    · exact ih

theorem lookupBinding_cons_ne {a : Binding} {Γ : Ctx} {v : Ident} (h : a.var ≠ v) :
    lookupBinding (a :: Γ) v = lookupBinding Γ v := by
  simp [lookupBinding, h]

theorem lookupBinding_cons_self (a : Binding) (Γ : Ctx) : lookupBinding (a :: Γ) a.var = some a := by
  simp [lookupBinding]

variable {P : Prog} {Γ : Ctx} {pc pc' : PC} {ty ty' : Ty}

theorem Term.check_var {v : Ident} (h : (Term.var pc' v ty').check P Γ pc ty = true) :
    pc' = pc ∧ ty' = ty ∧ ∃ b, lookupBinding Γ v = some b ∧ b.chi = pc ∧ b.ty = ty := by
  simp only [Term.check, Bool.and_eq_true, beq_iff_eq] at h
  obtain ⟨⟨h1, h2⟩, h⟩ := h
  split at h
  · next b hb =>
    simp only [Bool.and_eq_true, beq_iff_eq] at h
    exact ⟨h1, h2, b, hb, h.1, h.2⟩
  · cases h

theorem Term.check_xtor {name : Ident} {as : Args} (h : (Term.xtor pc' name as ty').check P Γ pc ty = true) :
    pc' = pc ∧ ty' = ty ∧ ∃ T d sig, ty = .decl T ∧
      findDecl (if pc == .prd then P.dataTypes else P.codataTypes) T = some d ∧
      findSig d.xtors name = some sig ∧ as.check P Γ sig.args = true := by
  simp only [Term.check, Bool.and_eq_true] at h
  obtain ⟨⟨h1, h2⟩, h⟩ := h
  refine ⟨eq_of_beq h1, eq_of_beq h2, ?_⟩
  cases ty with
  | i64 => cases h
  | decl T =>
    simp only at h
    split at h
    · cases h
    · next d hf =>
      split at h
      · cases h
      · next sig hsig => exact ⟨T, d, sig, rfl, hf, hsig, h⟩

theorem Term.check_xcase {cl : Clauses} (h : (Term.xcase pc' ty' cl).check P Γ pc ty = true) :
    pc' = pc ∧ ty' = ty ∧ ∃ T d, ty = .decl T ∧
      findDecl (if pc == .prd then P.codataTypes else P.dataTypes) T = some d ∧
      cl.check P Γ d.xtors = true ∧ cl.covers d.xtors = true := by
  simp only [Term.check, Bool.and_eq_true] at h
  obtain ⟨⟨h1, h2⟩, h⟩ := h
  refine ⟨eq_of_beq h1, eq_of_beq h2, ?_⟩
  cases ty with
  | i64 => cases h
  | decl T =>
    simp only at h
    split at h
    · cases h
    · next d hf =>
      simp only [Bool.and_eq_true] at h
      exact ⟨T, d, rfl, hf, h.1, h.2⟩

/-! ## the same as equivalences: the converse directions build a check from its parts -/

theorem check_var_iff {v : Ident} :
    (Term.var pc' v ty').check P Γ pc ty = true ↔
      pc' = pc ∧ ty' = ty ∧ lookupBinding Γ v = some ⟨v, pc, ty⟩ := by
  constructor
  · intro h
    obtain ⟨h1, h2, b, hl, hc, ht⟩ := Term.check_var h
    refine ⟨h1, h2, ?_⟩
    have hv := lookupBinding_var hl
    obtain ⟨bv, bc, bt⟩ := b
    simp only at hc ht hv
    rw [hl, hv, hc, ht]
  · rintro ⟨h1, h2, h3⟩
    simp [Term.check, h1, h2, h3]

theorem check_mu_iff {v : Ident} {s : Stmt} :
    (Term.mu pc' v ty' s).check P Γ pc ty = true ↔
      pc' = pc ∧ ty' = ty ∧ s.check P (⟨v, pc.flip, ty⟩ :: Γ) = true := by
  simp only [Term.check, Bool.and_eq_true, beq_iff_eq, and_assoc]

theorem Term.check_mu {v : Ident} {s : Stmt} (h : (Term.mu pc' v ty' s).check P Γ pc ty = true) :
    pc' = pc ∧ ty' = ty ∧ s.check P (⟨v, pc.flip, ty⟩ :: Γ) = true := check_mu_iff.1 h

theorem check_xtor_iff {name : Ident} {as : Args} :
    (Term.xtor pc' name as ty').check P Γ pc ty = true ↔
      pc' = pc ∧ ty' = ty ∧ ∃ T d sig, ty = .decl T ∧
        findDecl (if pc == .prd then P.dataTypes else P.codataTypes) T = some d ∧
        findSig d.xtors name = some sig ∧ as.check P Γ sig.args = true := by
  refine ⟨Term.check_xtor, ?_⟩
  rintro ⟨h1, h2, T, d, sig, rfl, hd, hs, h⟩
  simp only [Term.check, Bool.and_eq_true]
  refine ⟨⟨beq_iff_eq.2 h1, beq_iff_eq.2 h2⟩, ?_⟩
  simp only [hd, hs, h]

theorem check_xcase_iff {cl : Clauses} :
    (Term.xcase pc' ty' cl).check P Γ pc ty = true ↔
      pc' = pc ∧ ty' = ty ∧ ∃ T d, ty = .decl T ∧
        findDecl (if pc == .prd then P.codataTypes else P.dataTypes) T = some d ∧
        cl.check P Γ d.xtors = true ∧ cl.covers d.xtors = true := by
  refine ⟨Term.check_xcase, ?_⟩
  rintro ⟨h1, h2, T, d, rfl, hd, h3, h4⟩
  simp only [Term.check, Bool.and_eq_true]
  refine ⟨⟨beq_iff_eq.2 h1, beq_iff_eq.2 h2⟩, ?_⟩
  simp only [hd, h3, h4, Bool.and_self]

theorem check_call_iff {f : Ident} {as : Args} {ty : Ty} :
    (Stmt.call f as ty).check P Γ = true ↔
      ∃ d, P.defs.find? (fun d => d.name = f) = some d ∧ as.check P Γ d.ctx = true := by
  simp only [Stmt.check]
  cases hf : P.defs.find? (fun d => d.name = f) with
  | none => simp
  | some d => simp

end Scc.Core
