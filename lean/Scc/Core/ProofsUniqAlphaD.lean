/-
  Scc.Core.ProofsUniqAlphaD — from typing to the hypotheses of the α-renaming lemma, and whole
  programs: for a well-typed program whose binders all carry id 0 and whose ids are `≤ maxId`,
  `uniquifyProg p` is definition-wise α-equivalent to `p` and all its ids are `≤` its counter
  (`uniquifyProg_alpha`), hence, for bodies acceptable to `focus` (`OKS 0`), `FocusInput p (uniquifyProg p)`
  (`uniquify_focusInput`).
-/
import Scc.Core.ProofsUniqAlphaC
import Scc.Core.ProofsFocusSem
import Scc.Core.ProofsUniqueE

namespace Scc.Core

/-! ## typing gives chirality flags and chirality-consistent scoping -/

theorem ctxVars_append (a b : Ctx) : ctxVars (a ++ b) = ctxVars a ++ ctxVars b := by
  simp [ctxVars]

theorem lookupBinding_dbVar : ∀ (Γ : Ctx) (v : Ident) (b : Binding), lookupBinding Γ v = some b →
    (dbVar (ctxVars Γ) v).chiOK (Γ.map (·.chi)) b.chi
  | [], v, b, h => by simp [lookupBinding] at h
  | c :: r, v, b, h => by
    simp only [lookupBinding] at h
    simp only [ctxVars_cons, dbVar, List.map_cons]
    split at h
    · next hc =>
      cases h
      simp [hc, DVar.chiOK]
    · next hc =>
      simp only [hc, if_false]
      exact DVar.chiOK_shift1.mpr (lookupBinding_dbVar r v b h)

mutual
  theorem term_check_chi (P : Prog) : (t : Term) → ∀ (Γ : Ctx) (pc : PC) (ty : Ty),
      t.check P Γ pc ty = true → t.pcOk pc = true ∧ (dbT (ctxVars Γ) t).chiWS (Γ.map (·.chi))
    | .var pc' v ty', Γ, pc, ty, h => by
      simp only [Term.check, Bool.and_eq_true] at h
      refine ⟨rfl, ?_⟩
      simp only [dbT, DTerm.chiWS]
      cases hl : lookupBinding Γ v with
      | none => rw [hl] at h; simp at h
      | some b =>
        rw [hl] at h
        simp only [Bool.and_eq_true] at h
        have h1 := PC.beq_eq h.1.1
        have h2 := PC.beq_eq h.2.1
        rw [h1, ← h2]
        exact lookupBinding_dbVar Γ v b hl
    | .lit k, Γ, pc, ty, h => by
      simp only [Term.check, Bool.and_eq_true] at h
      exact ⟨by simp [Term.pcOk, h.1], by simp [dbT, DTerm.chiWS]⟩
    | .op a o b, Γ, pc, ty, h => by
      simp only [Term.check, Bool.and_eq_true] at h
      have ha := term_check_chi P a Γ .prd .i64 h.1.2
      have hb := term_check_chi P b Γ .prd .i64 h.2
      exact ⟨by simp [Term.pcOk, h.1.1.1, ha.1, hb.1], by simp [dbT, DTerm.chiWS, ha.2, hb.2]⟩
    | .mu pc' v ty' s, Γ, pc, ty, h => by
      simp only [Term.check, Bool.and_eq_true] at h
      have hs := stmt_check_chi P s (⟨v, pc.flip, ty⟩ :: Γ) h.2
      have hpc := PC.beq_eq h.1.1
      refine ⟨by simp [Term.pcOk, h.1.1, hs.1], ?_⟩
      simp only [dbT, DTerm.chiWS]
      rw [hpc]
      simpa [ctxVars_cons] using hs.2
    | .xtor pc' name as ty', Γ, pc, ty, h => by
      simp only [Term.check, Bool.and_eq_true] at h
      obtain ⟨h1, h2⟩ := h
      cases ty with
      | i64 => simp at h2
      | decl T =>
        simp only at h2
        split at h2
        · simp at h2
        · next d _ =>
          split at h2
          · simp at h2
          · next sig _ =>
            have ha := args_check_chi P as Γ sig.args h2
            exact ⟨by simp [Term.pcOk, h1.1, ha.1], by simpa [dbT, DTerm.chiWS] using ha.2⟩
    | .xcase pc' ty' cl, Γ, pc, ty, h => by
      simp only [Term.check, Bool.and_eq_true] at h
      obtain ⟨h1, h2⟩ := h
      cases ty with
      | i64 => simp at h2
      | decl T =>
        simp only at h2
        split at h2
        · simp at h2
        · next d _ =>
          simp only [Bool.and_eq_true] at h2
          have hc := clauses_check_chi P cl Γ d.xtors h2.1
          exact ⟨by simp [Term.pcOk, h1.1, hc.1], by simpa [dbT, DTerm.chiWS] using hc.2⟩
  theorem args_check_chi (P : Prog) : (as : Args) → ∀ (Γ : Ctx) (sig : Ctx),
      as.check P Γ sig = true → as.pcOk = true ∧ (dbA (ctxVars Γ) as).chiWS (Γ.map (·.chi))
    | .nil, Γ, sig, _ => by simp [Args.pcOk, dbA, DArgs.chiWS]
    | .cons pc t r, Γ, [], h => by simp [Args.check] at h
    | .cons pc t r, Γ, b :: bs, h => by
      simp only [Args.check, Bool.and_eq_true] at h
      have ht := term_check_chi P t Γ pc b.ty h.1.2
      have hr := args_check_chi P r Γ bs h.2
      exact ⟨by simp [Args.pcOk, ht.1, hr.1], by simp [dbA, DArgs.chiWS, ht.2, hr.2]⟩
  theorem clauses_check_chi (P : Prog) : (cl : Clauses) → ∀ (Γ : Ctx) (sigs : List XtorSig),
      cl.check P Γ sigs = true → cl.pcOk = true ∧ (dbC (ctxVars Γ) cl).chiWS (Γ.map (·.chi))
    | .nil, Γ, sigs, _ => by simp [Clauses.pcOk, dbC, DClauses.chiWS]
    | .cons x ctx b r, Γ, sigs, h => by
      simp only [Clauses.check, Bool.and_eq_true] at h
      have hb := stmt_check_chi P b (ctx ++ Γ) h.1.2
      have hr := clauses_check_chi P r Γ sigs h.2
      refine ⟨by simp [Clauses.pcOk, hb.1, hr.1], ?_⟩
      simp only [dbC, DClauses.chiWS, ctxSig_map_fst]
      refine ⟨?_, hr.2⟩
      simpa [ctxVars_append] using hb.2
  theorem stmt_check_chi (P : Prog) : (s : Stmt) → ∀ (Γ : Ctx),
      s.check P Γ = true → s.pcOk = true ∧ (dbS (ctxVars Γ) s).chiWS (Γ.map (·.chi))
    | .cut ty p c, Γ, h => by
      simp only [Stmt.check, Bool.and_eq_true] at h
      have hp := term_check_chi P p Γ .prd ty h.1
      have hc := term_check_chi P c Γ .cns ty h.2
      exact ⟨by simp [Stmt.pcOk, hp.1, hc.1], by simp [dbS, DStmt.chiWS, hp.2, hc.2]⟩
    | .ifc srt a b t e, Γ, h => by
      simp only [Stmt.check, Bool.and_eq_true] at h
      have ha := term_check_chi P a Γ .prd .i64 h.1.1.1
      have hb := term_check_chi P b Γ .prd .i64 h.1.1.2
      have ht := stmt_check_chi P t Γ h.1.2
      have he := stmt_check_chi P e Γ h.2
      exact ⟨by simp [Stmt.pcOk, ha.1, hb.1, ht.1, he.1],
        by simp [dbS, DStmt.chiWS, ha.2, hb.2, ht.2, he.2]⟩
    | .ifz srt a t e, Γ, h => by
      simp only [Stmt.check, Bool.and_eq_true] at h
      have ha := term_check_chi P a Γ .prd .i64 h.1.1
      have ht := stmt_check_chi P t Γ h.1.2
      have he := stmt_check_chi P e Γ h.2
      exact ⟨by simp [Stmt.pcOk, ha.1, ht.1, he.1], by simp [dbS, DStmt.chiWS, ha.2, ht.2, he.2]⟩
    | .print nl a n, Γ, h => by
      simp only [Stmt.check, Bool.and_eq_true] at h
      have ha := term_check_chi P a Γ .prd .i64 h.1
      have hn := stmt_check_chi P n Γ h.2
      exact ⟨by simp [Stmt.pcOk, ha.1, hn.1], by simp [dbS, DStmt.chiWS, ha.2, hn.2]⟩
    | .call f as ty, Γ, h => by
      simp only [Stmt.check] at h
      split at h
      · simp at h
      · next d _ =>
        have ha := args_check_chi P as Γ d.ctx h
        exact ⟨by simp [Stmt.pcOk, ha.1], by simpa [dbS, DStmt.chiWS] using ha.2⟩
    | .exit a ty, Γ, h => by
      simp only [Stmt.check] at h
      have ha := term_check_chi P a Γ .prd .i64 h
      exact ⟨by simp [Stmt.pcOk, ha.1], by simpa [dbS, DStmt.chiWS] using ha.2⟩
end

/-! ## identifiers are binders or occurrences -/

mutual
  theorem Term.idents_ids : (t : Term) → ∀ i ∈ t.idents, i.id ∈ t.binderIds ∨ i.id ∈ t.occIds
    | .var pc v ty => by simp [Term.idents, Term.occIds]
    | .lit k => by simp [Term.idents]
    | .op a o b => by
      intro i hi
      simp only [Term.idents, List.mem_append] at hi
      simp only [Term.binderIds, Term.occIds, List.mem_append]
      rcases hi with hi | hi
      · rcases Term.idents_ids a i hi with h | h <;> simp [h]
      · rcases Term.idents_ids b i hi with h | h <;> simp [h]
    | .mu pc v ty s => by
      intro i hi
      simp only [Term.idents, List.mem_cons] at hi
      simp only [Term.binderIds, Term.occIds, List.mem_cons]
      rcases hi with rfl | hi
      · simp
      · rcases Stmt.idents_ids s i hi with h | h <;> simp [h]
    | .xtor pc k as ty => by
      intro i hi
      simp only [Term.idents] at hi
      simp only [Term.binderIds, Term.occIds]
      exact Args.idents_ids as i hi
    | .xcase pc ty cl => by
      intro i hi
      simp only [Term.idents] at hi
      simp only [Term.binderIds, Term.occIds]
      exact Clauses.idents_ids cl i hi
  theorem Args.idents_ids : (as : Args) → ∀ i ∈ as.idents, i.id ∈ as.binderIds ∨ i.id ∈ as.occIds
    | .nil => by simp [Args.idents]
    | .cons pc t r => by
      intro i hi
      simp only [Args.idents, List.mem_append] at hi
      simp only [Args.binderIds, Args.occIds, List.mem_append]
      rcases hi with hi | hi
      · rcases Term.idents_ids t i hi with h | h <;> simp [h]
      · rcases Args.idents_ids r i hi with h | h <;> simp [h]
  theorem Clauses.idents_ids : (cl : Clauses) →
      ∀ i ∈ cl.idents, i.id ∈ cl.binderIds ∨ i.id ∈ cl.occIds
    | .nil => by simp [Clauses.idents]
    | .cons x ctx b r => by
      intro i hi
      simp only [Clauses.idents, List.mem_append] at hi
      simp only [Clauses.binderIds, Clauses.occIds, List.mem_append]
      rcases hi with (hi | hi) | hi
      · left; left; left
        simp only [ctxVars, List.mem_map] at hi
        obtain ⟨b', hb', rfl⟩ := hi
        simp only [ctxIds, List.mem_map]
        exact ⟨b', hb', rfl⟩
      · rcases Stmt.idents_ids b i hi with h | h <;> simp [h]
      · rcases Clauses.idents_ids r i hi with h | h <;> simp [h]
  theorem Stmt.idents_ids : (s : Stmt) → ∀ i ∈ s.idents, i.id ∈ s.binderIds ∨ i.id ∈ s.occIds
    | .cut ty p c => by
      intro i hi
      simp only [Stmt.idents, List.mem_append] at hi
      simp only [Stmt.binderIds, Stmt.occIds, List.mem_append]
      rcases hi with hi | hi
      · rcases Term.idents_ids p i hi with h | h <;> simp [h]
      · rcases Term.idents_ids c i hi with h | h <;> simp [h]
    | .ifc srt a b t e => by
      intro i hi
      simp only [Stmt.idents, List.mem_append] at hi
      simp only [Stmt.binderIds, Stmt.occIds, List.mem_append]
      rcases hi with ((hi | hi) | hi) | hi
      · rcases Term.idents_ids a i hi with h | h <;> simp [h]
      · rcases Term.idents_ids b i hi with h | h <;> simp [h]
      · rcases Stmt.idents_ids t i hi with h | h <;> simp [h]
      · rcases Stmt.idents_ids e i hi with h | h <;> simp [h]
    | .ifz srt a t e => by
      intro i hi
      simp only [Stmt.idents, List.mem_append] at hi
      simp only [Stmt.binderIds, Stmt.occIds, List.mem_append]
      rcases hi with (hi | hi) | hi
      · rcases Term.idents_ids a i hi with h | h <;> simp [h]
      · rcases Stmt.idents_ids t i hi with h | h <;> simp [h]
      · rcases Stmt.idents_ids e i hi with h | h <;> simp [h]
    | .print nl a n => by
      intro i hi
      simp only [Stmt.idents, List.mem_append] at hi
      simp only [Stmt.binderIds, Stmt.occIds, List.mem_append]
      rcases hi with hi | hi
      · rcases Term.idents_ids a i hi with h | h <;> simp [h]
      · rcases Stmt.idents_ids n i hi with h | h <;> simp [h]
    | .call f as ty => by
      intro i hi
      simp only [Stmt.idents] at hi
      simp only [Stmt.binderIds, Stmt.occIds]
      exact Args.idents_ids as i hi
    | .exit a ty => by
      intro i hi
      simp only [Stmt.idents] at hi
      simp only [Stmt.binderIds, Stmt.occIds]
      exact Term.idents_ids a i hi
end

/-- what `uniquify` needs of a definition -/
structure UniqInput (n : Nat) (d : Def) : Prop where
  ctxZero : ∀ b ∈ d.ctx, b.var.id = 0
  bindersZero : ∀ b ∈ d.body.binderIds, b = 0
  ids : IdsLe n d.body.idents
  chi : (dbS (ctxVars d.ctx) d.body).chiWS (d.ctx.map (·.chi))

theorem uniquifyDef_alpha (d : Def) (n : Nat) (h : UniqInput n d) :
    DefAlpha d (uniquifyDef d n).1 ∧ IdsLe (uniquifyDef d n).2 (uniquifyDef d n).1.body.idents ∧
      n ≤ (uniquifyDef d n).2 := by
  have hR := uniquifyCtx_ren d.ctx n h.ctxZero [] []
  have hok := uniquifyCtx_substOK d.ctx n h.ctxZero
  have hle := uniquifyCtx_le d.ctx n
  simp only [List.append_nil] at hR
  have hren := ren_stmt d.body hR hok.vp hok.vc hok.gp hok.gc h.ids h.chi
  have hsig := uniquifyCtx_sig d.ctx n
  have hU := uniquifyStmt_alpha
    (substStmt (uniquifyCtx d.ctx n).varSubst (uniquifyCtx d.ctx n).covarSubst d.body)
    (uniquifyCtx d.ctx n).maxId (ctxVars (uniquifyCtx d.ctx n).ctx) (d.ctx.map (·.chi))
    (by
      rw [binderIds_substStmt _ _ (uniquifyCtx_allVars d.ctx n).1 (uniquifyCtx_allVars d.ctx n).2]
      exact h.bindersZero)
    (idsLe_substStmt d.body hok.lp hok.lc (h.ids.mono hle))
    (by rw [← hren]; exact h.chi)
  obtain ⟨e, i, l⟩ := hU
  simp only [uniquifyDef, substIfAny_eq]
  refine ⟨⟨rfl, ?_, ?_⟩, i, by omega⟩
  · simp only
    rw [← ctxSig_map_fst, ← ctxSig_map_fst, hsig]
  · simp only
    rw [hren, e]

theorem uniquifyDefs_alpha : ∀ (ds : List Def) (n : Nat), (∀ d ∈ ds, UniqInput n d) →
    DefsAlpha ds (uniquifyDefs ds n).1 ∧
    (∀ d' ∈ (uniquifyDefs ds n).1, IdsLe (uniquifyDefs ds n).2 d'.body.idents) ∧
    n ≤ (uniquifyDefs ds n).2
  | [], n, _ => by simp [uniquifyDefs, DefsAlpha]
  | d :: r, n, h => by
    obtain ⟨h1, h2, h3⟩ := uniquifyDef_alpha d n (h d (by simp))
    obtain ⟨r1, r2, r3⟩ := uniquifyDefs_alpha r (uniquifyDef d n).2 (fun d' hd' =>
      let hh := h d' (by simp [hd'])
      ⟨hh.ctxZero, hh.bindersZero, hh.ids.mono h3, hh.chi⟩)
    simp only [uniquifyDefs, DefsAlpha]
    refine ⟨⟨h1, r1⟩, ?_, by omega⟩
    intro d' hd'
    rcases List.mem_cons.mp hd' with rfl | hd'
    · exact h2.mono r3
    · exact r2 d' hd'

/-- **`uniquify` is an α-renaming** (definition-wise equal nameless forms), and all identifiers of
    the result are `≤` its counter -/
theorem uniquifyProg_alpha (p : Prog) (h : ∀ d ∈ p.defs, UniqInput p.maxId d) :
    DefsAlpha p.defs (uniquifyProg p).defs ∧
    (∀ d' ∈ (uniquifyProg p).defs, IdsLe (uniquifyProg p).maxId d'.body.idents) := by
  obtain ⟨h1, h2, _⟩ := uniquifyDefs_alpha p.defs p.maxId h
  exact ⟨h1, h2⟩

theorem freshL_of_idsLe {n : Nat} {l : List Ident} (h : IdsLe n l) : FreshL n l :=
  fun i hi hg => by have := h i hi; have := hg.2; omega

open FocusSim in
theorem uniquify_focusInput (p : Prog) (h : ∀ d ∈ p.defs, UniqInput p.maxId d)
    (hok : ∀ d ∈ p.defs, OKS 0 d.body) : FocusInput p (uniquifyProg p) := by
  obtain ⟨h1, h2⟩ := uniquifyProg_alpha p h
  exact ⟨rfl, h1, hok, fun d hd => freshL_of_idsLe (h2 d hd)⟩

/-- `UniqInput` from typing, binders with id 0 and old occurrences -/
theorem uniqInput_of_typed (p : Prog) (ht : p.wellTyped = true) (hz : p.BindersZero)
    (ho : p.OccsOld) : ∀ d ∈ p.defs, UniqInput p.maxId d := by
  intro d hd
  simp only [Prog.wellTyped, List.all_eq_true] at ht
  have hz' := hz d hd
  simp only [Def.ids, List.mem_append] at hz'
  refine ⟨?_, fun b hb => hz' b (Or.inr hb), ?_, (stmt_check_chi p d.body d.ctx (ht d hd)).2⟩
  · intro b hb
    exact hz' b.var.id (Or.inl (by simp only [ctxIds, List.mem_map]; exact ⟨b, hb, rfl⟩))
  · intro i hi
    rcases Stmt.idents_ids d.body i hi with h | h
    · rw [hz' i.id (Or.inr h)]; exact Nat.zero_le _
    · exact ho d hd i.id h

end Scc.Core
