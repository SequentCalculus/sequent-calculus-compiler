/-
  Scc.Core.ProofsAlphaSimC — the ς-machine is invariant under α-equivalence, one step and runs:
  two definition-wise α-equivalent programs without ς-names run in LOCK-STEP on the ς-machine and
  produce equal behaviours for every fuel (`alpha_run_eq`).
-/
import Scc.Core.ProofsAlphaSimB
import Scc.Core.ProofsFocusSimD
import Scc.Core.ProofsFocusSem

namespace Scc.Core
namespace AlphaSim

open FocusSim (keys SigLt keys_nil keys_cons)

structure SRelA (st1 st2 : State) : Prop where
  out : st1.out = st2.out
  fresh : st1.fresh = st2.fresh
  env : EA st1.fresh st1.env st2.env
  code : CodeA st1.fresh (keys st1.env) st1.stmt (keys st2.env) st2.stmt

def StepRA : Step State → Step State → Prop
  | .next st1, .next st2 => SRelA st1 st2
  | .final r, .final r' => r = r'
  | _, _ => False

section
variable {st1 st2 : State}

theorem goto_rel (h : SRelA st1 st2) {s s2 : Stmt} {ρ ρ2 : CEnv}
    (he : EA st1.fresh ρ ρ2) (hc : CodeA st1.fresh (keys ρ) s (keys ρ2) s2) :
    StepRA (st1.goto s ρ) (st2.goto s2 ρ2) := by
  simp only [State.goto, StepRA]
  exact ⟨h.out, h.fresh, he, hc⟩

theorem select_rel (h : SRelA st1 st2) {ρ ρ2 : CEnv} (he : EA st1.fresh ρ ρ2)
    {cl cl2 : Clauses} (hc : CodeAC st1.fresh (keys ρ) cl (keys ρ2) cl2) (x : Ident)
    {vs vs2 : List CVal} (hv : VsA st1.fresh vs vs2) :
    StepRA (st1.select ρ cl x vs) (st2.select ρ2 cl2 x vs2) := by
  simp only [State.select]
  rcases find_rel x cl cl2 hc.db hc.sig1 hc.sig2 with
    ⟨h1, h2⟩ | ⟨ctx, body, ctx2, body2, h1, h2, hl, hcode⟩
  · simp [h1, h2, StepRA, stuck]
  · simp only [h1, h2]
    have := bind_rel he ctx ctx2 hl hv
    cases h3 : Env.bind ρ ctx vs <;> cases h4 : Env.bind ρ2 ctx2 vs2 <;>
      simp only [h3, h4, ExRel] at this ⊢
    · simp [StepRA, stuck, this]
    · obtain ⟨he', hk1, hk2⟩ := this
      refine goto_rel h he' ?_
      rw [hk1, hk2]
      exact hcode

theorem pass_rel (h : SRelA st1 st2) {pv cv pv2 cv2 : CVal} (hp : VA st1.fresh pv pv2)
    (hc : VA st1.fresh cv cv2) : StepRA (st1.pass pv cv) (st2.pass pv2 cv2) := by
  cases hc with
  | mutilde he hcode => exact goto_rel h (EA.cons _ _ hp he) hcode
  | case he hcode =>
    cases hp with
    | con c hvs => exact select_rel h he hcode c hvs
    | _ => simp [State.pass, StepRA, stuck]
  | halt =>
    cases hp with
    | int n => simp [State.pass, StepRA]
    | _ => simp [State.pass, StepRA, stuck]
  | _ => simp [State.pass, StepRA, stuck]

theorem invoke_rel (h : SRelA st1 st2) {pv pv2 : CVal} (hp : VA st1.fresh pv pv2)
    (d : Ident) {vs vs2 : List CVal} (hvs : VsA st1.fresh vs vs2) :
    StepRA (st1.invoke pv d vs) (st2.invoke pv2 d vs2) := by
  cases hp with
  | cocase he hcode => exact select_rel h he hcode d hvs
  | thunk he hcode => exact goto_rel h (EA.cons _ _ (VA.dtor d hvs) he) hcode
  | _ => simp [State.invoke, StepRA, stuck]

theorem stepCut_rel (h : SRelA st1 st2) (cod : Bool) {p c p2 c2 : Term}
    (hp : ExRel (VA st1.fresh) (prdVal st1.env p) (prdVal st2.env p2))
    (hc : ExRel (VA st1.fresh) (cnsVal st1.env c) (cnsVal st2.env c2))
    (hmu : (∃ pc a t s, p = .mu pc a t s) ↔ (∃ pc a t s, p2 = .mu pc a t s)) :
    StepRA (stepCut cod st1 p c) (stepCut cod st2 p2 c2) := by
  have he := h.env
  cases cod
  · by_cases hm : ∃ pc a t s, p = .mu pc a t s
    · obtain ⟨pc, a, t, s, rfl⟩ := hm
      obtain ⟨pc2, a2, t2, s2, rfl⟩ := hmu.mp ⟨_, _, _, _, rfl⟩
      simp only [prdVal, ExRel] at hp
      cases hp with
      | thunk _ hcode =>
        simp only [stepCut, Bool.false_eq_true, if_false]
        cases h1 : cnsVal st1.env c <;> cases h2 : cnsVal st2.env c2 <;>
          simp only [h1, h2, ExRel] at hc ⊢
        · simp [StepRA, stuck, hc]
        · exact goto_rel h (EA.cons _ _ hc he) hcode
    · have hm2 : ¬ ∃ pc a t s, p2 = .mu pc a t s := fun e => hm (hmu.mpr e)
      rw [FocusSim.stepCut_data_nonmu hm, FocusSim.stepCut_data_nonmu hm2]
      cases h1 : prdVal st1.env p <;> cases h2 : prdVal st2.env p2 <;>
        simp only [h1, h2, ExRel] at hp ⊢
      · simp [StepRA, stuck, hp]
      · cases h3 : cnsVal st1.env c <;> cases h4 : cnsVal st2.env c2 <;>
          simp only [h3, h4, ExRel] at hc ⊢
        · simp [StepRA, stuck, hc]
        · exact pass_rel h hp hc
  · simp only [stepCut, if_true]
    cases h3 : cnsVal st1.env c <;> cases h4 : cnsVal st2.env c2 <;>
      simp only [h3, h4, ExRel] at hc ⊢
    · simp [StepRA, stuck, hc]
    · cases hc with
      | mutilde he' hcode =>
        cases h1 : prdVal st1.env p <;> cases h2 : prdVal st2.env p2 <;>
          simp only [h1, h2, ExRel] at hp ⊢
        · simp [StepRA, stuck, hp]
        · exact goto_rel h (EA.cons _ _ hp he') hcode
      | dtor d hvs =>
        cases h1 : prdVal st1.env p <;> cases h2 : prdVal st2.env p2 <;>
          simp only [h1, h2, ExRel] at hp ⊢
        · simp [StepRA, stuck, hp]
        · exact invoke_rel h hp d hvs
      | _ => simp [StepRA, stuck]

end

structure DefRelA (d1 d2 : Def) : Prop where
  name : d1.name = d2.name
  chis : d1.ctx.map (·.chi) = d2.ctx.map (·.chi)
  code : CodeA 0 (ctxVars d1.ctx) d1.body (ctxVars d2.ctx) d2.body

def DefsRelA : List Def → List Def → Prop
  | [], [] => True
  | d :: r, d' :: r' => DefRelA d d' ∧ DefsRelA r r'
  | _, _ => False

structure PRelA (p1 p2 : Prog) : Prop where
  codata : p1.codataTypes = p2.codataTypes
  defs : DefsRelA p1.defs p2.defs

theorem find_def_rel (f : Ident → Bool) : ∀ {ds ds' : List Def}, DefsRelA ds ds' →
    (ds.find? (fun d => f d.name) = none ∧ ds'.find? (fun d => f d.name) = none) ∨
    ∃ d d', ds.find? (fun d => f d.name) = some d ∧ ds'.find? (fun d => f d.name) = some d' ∧
      DefRelA d d'
  | [], [], _ => Or.inl ⟨rfl, rfl⟩
  | [], _ :: _, h => by simp [DefsRelA] at h
  | _ :: _, [], h => by simp [DefsRelA] at h
  | d :: r, d' :: r', h => by
    obtain ⟨h1, h2⟩ := h
    simp only [List.find?_cons, ← h1.name]
    cases hf : f d.name
    · exact find_def_rel f h2
    · exact Or.inr ⟨d, d', rfl, rfl, h1⟩

theorem DefRelA.ctx_length {d1 d2 : Def} (h : DefRelA d1 d2) : d1.ctx.length = d2.ctx.length := by
  have := congrArg List.length h.chis
  simpa using this

theorem ty_alpha {sc1 sc2 : List Ident} {t1 t2 : Term} (h : dbT sc1 t1 = dbT sc2 t2)
    (hv : t1.isVar = false) : t1.ty = t2.ty := by
  cases t1 with
  | var pc v ty => simp [Term.isVar] at hv
  | lit i => simp only [dbT] at h; obtain rfl := dbT_eq_lit h.symm; rfl
  | op a o b => simp only [dbT] at h; obtain ⟨a', b', rfl, -, -⟩ := dbT_eq_op h.symm; rfl
  | mu pc v ty s => simp only [dbT] at h; obtain ⟨v', s', rfl, -⟩ := dbT_eq_mu h.symm; rfl
  | xtor pc k as ty => simp only [dbT] at h; obtain ⟨as', rfl, -⟩ := dbT_eq_xtor h.symm; rfl
  | xcase pc ty cl => simp only [dbT] at h; obtain ⟨cl', rfl, -⟩ := dbT_eq_xcase h.symm; rfl

theorem sigLt_sigmaCut {k : Nat} {s : Stmt} {pc : PC} {t : Term} {S : Term → Stmt}
    (hs : s.split = some (pc, t, S)) (hsig : SigLt k s.idents) (ty : Ty) :
    SigLt (k + 1) (sigmaCut pc t (sigmaName k) (S (.var pc (sigmaName k) ty))).idents := by
  have hsp := SSplit.of_split s hs
  intro i hi hn
  rcases FocusSim.sigmaCut_idents _ _ _ _ i hi with h | h | h
  · exact Nat.lt_succ_of_lt (hsig i (hsp.idents_t i h) hn)
  · subst h; simp [sigmaName]
  · rcases hsp.idents_S _ i h with h | h
    · exact Nat.lt_succ_of_lt (hsig i h hn)
    · simp only [Term.idents, List.mem_singleton] at h
      subst h; simp [sigmaName]

theorem step_rel {p1 p2 : Prog} (hP : PRelA p1 p2) {st1 st2 : State} (h : SRelA st1 st2) :
    StepRA (step p1 st1) (step p2 st2) := by
  obtain ⟨hout, hfr, he, hcode⟩ := h
  have h : SRelA st1 st2 := ⟨hout, hfr, he, hcode⟩
  obtain ⟨hdb, hs1, hs2⟩ := hcode
  rcases split_alpha hdb with ⟨hn1, hn2⟩ | ⟨pc, t1, S1, t2, S2, hsp1, hsp2, ht⟩
  · -- a proper step
    unfold step
    simp only [sigmaStep, hn1, hn2]
    cases hst : st1.stmt with
    | cut ty p c =>
      rw [hst] at hn1 hs1 hdb
      simp only [dbS] at hdb
      obtain ⟨p', c', hst2, hp, hc⟩ := dbS_eq_cut hdb.symm
      rw [hst2] at hs2 ⊢
      simp only [Stmt.idents, FocusSim.SigLt_append] at hs1 hs2
      simp only [hP.codata]
      exact stepCut_rel h _ (prdVal_rel he hp.symm hs1.1 hs2.1)
        (cnsVal_rel he hc.symm hs1.2 hs2.2) (mu_alpha_iff hp.symm)
    | ifc srt a b t e =>
      rw [hst] at hn1 hs1 hdb
      have hab := Stmt.split_none_ifc hn1
      obtain ⟨pa, va, ta, rfl⟩ := Term.isVar_eq hab.1
      obtain ⟨pb, vb, tb, rfl⟩ := Term.isVar_eq hab.2
      simp only [dbS, dbT] at hdb
      obtain ⟨a', b', t', e', hst2, ha, hb, ht', he'⟩ := dbS_eq_ifc hdb.symm
      obtain ⟨va', ta', rfl, hva⟩ := dbT_eq_var ha
      obtain ⟨vb', tb', rfl, hvb⟩ := dbT_eq_var hb
      rw [hst2] at hs2 ⊢
      simp only [Stmt.idents, FocusSim.SigLt_append] at hs1 hs2
      simp only [lookupInt_rel he hva.symm, lookupInt_rel he hvb.symm]
      cases st2.env.lookupInt va' with
      | error _ => simp [StepRA, stuck]
      | ok x =>
        cases st2.env.lookupInt vb' with
        | error _ => simp [StepRA, stuck]
        | ok y =>
          by_cases hc : compare srt x y = true
          · simp only [hc, if_true]
            exact goto_rel h he ⟨ht'.symm, hs1.1.2, hs2.1.2⟩
          · simp only [hc, Bool.false_eq_true, if_false]
            exact goto_rel h he ⟨he'.symm, hs1.2, hs2.2⟩
    | ifz srt a t e =>
      rw [hst] at hn1 hs1 hdb
      have hab := Stmt.split_none_ifz hn1
      obtain ⟨pa, va, ta, rfl⟩ := Term.isVar_eq hab
      simp only [dbS, dbT] at hdb
      obtain ⟨a', t', e', hst2, ha, ht', he'⟩ := dbS_eq_ifz hdb.symm
      obtain ⟨va', ta', rfl, hva⟩ := dbT_eq_var ha
      rw [hst2] at hs2 ⊢
      simp only [Stmt.idents, FocusSim.SigLt_append] at hs1 hs2
      simp only [lookupInt_rel he hva.symm]
      cases st2.env.lookupInt va' with
      | error _ => simp [StepRA, stuck]
      | ok x =>
        by_cases hc : compare srt x 0 = true
        · simp only [hc, if_true]
          exact goto_rel h he ⟨ht'.symm, hs1.1.2, hs2.1.2⟩
        · simp only [hc, Bool.false_eq_true, if_false]
          exact goto_rel h he ⟨he'.symm, hs1.2, hs2.2⟩
    | print nl a nx =>
      rw [hst] at hn1 hs1 hdb
      have hab := Stmt.split_none_print hn1
      obtain ⟨pa, va, ta, rfl⟩ := Term.isVar_eq hab
      simp only [dbS, dbT] at hdb
      obtain ⟨a', nx', hst2, ha, hn'⟩ := dbS_eq_print hdb.symm
      obtain ⟨va', ta', rfl, hva⟩ := dbT_eq_var ha
      rw [hst2] at hs2 ⊢
      simp only [Stmt.idents, FocusSim.SigLt_append] at hs1 hs2
      simp only [lookupInt_rel he hva.symm]
      cases st2.env.lookupInt va' with
      | error _ => simp [StepRA, stuck]
      | ok x =>
        simp only [StepRA]
        exact ⟨by simp [hout], hfr, he, ⟨hn'.symm, hs1.2, hs2.2⟩⟩
    | call f as ty =>
      rw [hst] at hn1 hs1 hdb
      simp only [dbS] at hdb
      obtain ⟨as', hst2, hA⟩ := dbS_eq_call hdb.symm
      rw [hst2]
      simp only
      rcases find_def_rel (fun nm => decide (nm = f)) hP.defs with ⟨h1, h2⟩ | ⟨d, d', h1, h2, hd⟩
      · simp [h1, h2, StepRA, stuck]
      · simp only [h1, h2]
        have hl := argVals_rel he as as' hA.symm
        cases h3 : argVals st1.env as <;> cases h4 : argVals st2.env as' <;>
          simp only [h3, h4, ExRel] at hl ⊢
        · simp [StepRA, stuck, hl]
        · have hb := bind_rel (ρ := []) (ρ' := []) (k := st1.fresh) EA.nil d.ctx d'.ctx
            hd.ctx_length hl
          cases h5 : Env.bind ([] : CEnv) d.ctx _ <;> cases h6 : Env.bind ([] : CEnv) d'.ctx _ <;>
            simp only [h5, h6, ExRel] at hb ⊢
          · simp [StepRA, stuck, hb]
          · obtain ⟨he', hk1, hk2⟩ := hb
            refine goto_rel h he' ?_
            rw [hk1, hk2]
            simpa using hd.code.mono (Nat.zero_le _)
    | exit a ty =>
      rw [hst] at hn1 hs1 hdb
      have hab := Stmt.split_none_exit hn1
      obtain ⟨pa, va, ta, rfl⟩ := Term.isVar_eq hab
      simp only [dbS, dbT] at hdb
      obtain ⟨a', hst2, ha⟩ := dbS_eq_exit hdb.symm
      obtain ⟨va', ta', rfl, hva⟩ := dbT_eq_var ha
      rw [hst2]
      simp only [lookupInt_rel he hva.symm]
      cases st2.env.lookupInt va' <;> simp [StepRA, stuck]
  · -- a ς-step on both sides
    rw [FocusSim.step_of_split_some hsp1, FocusSim.step_of_split_some hsp2]
    simp only [StepRA]
    have hnv := (SSplit.of_split _ hsp1).notVar
    have hty := ty_alpha ht hnv
    have hy1 : sigmaName st1.fresh ∉ st1.stmt.idents := by
      intro hmem; have := hs1 _ hmem rfl; simp [sigmaName] at this
    have hy2 : sigmaName st1.fresh ∉ st2.stmt.idents := by
      intro hmem; have := hs2 _ hmem rfl; simp [sigmaName] at this
    have hw : dbS (sigmaName st1.fresh :: keys st1.env) st1.stmt =
        dbS (sigmaName st1.fresh :: keys st2.env) st2.stmt := by
      have := dbS_weaken (sc := keys st1.env) (sc' := keys st2.env)
        (ext := [sigmaName st1.fresh]) (ext' := [sigmaName st1.fresh]) rfl
        (by simpa using hy1) (by simpa using hy2) hdb
      simpa using this
    have hplug := plug_alpha (x1 := .var pc (sigmaName st1.fresh) t1.ty)
      (x2 := .var pc (sigmaName st1.fresh) t2.ty) hsp1 hsp2 hw (by simp [dbT, dbVar])
    refine ⟨hout, by simp [hfr], he.mono (Nat.le_succ _), ?_, ?_, ?_⟩
    · simp only
      rw [← hfr]
      rw [hty] at hplug
      cases pc
      · simp only [sigmaCut, dbS, dbT, ht, hty, hplug]
      · simp only [sigmaCut, dbS, dbT, ht, hty, hplug]
    · exact sigLt_sigmaCut hsp1 hs1 _
    · simp only
      rw [← hfr]
      exact sigLt_sigmaCut hsp2 hs2 _

theorem stepN_eq {p1 p2 : Prog} (hP : PRelA p1 p2) : ∀ (f : Nat) (st1 st2 : State),
    SRelA st1 st2 → stepN p1 f st1 = stepN p2 f st2
  | 0, st1, st2, h => by simp [stepN, h.out]
  | f + 1, st1, st2, h => by
    have hs := step_rel hP h
    simp only [stepN]
    cases h1 : step p1 st1 <;> cases h2 : step p2 st2 <;> simp only [h1, h2, StepRA] at hs ⊢
    · exact stepN_eq hP f _ _ hs
    · simp [hs, h.out]

theorem entryEnv_rel : ∀ (c1 c2 : Ctx) (args : List (BitVec 64)),
    c1.map (·.chi) = c2.map (·.chi) →
    ExRel (fun e e' => EA 0 e e' ∧ keys e = ctxVars c1 ∧ keys e' = ctxVars c2)
      (entryEnv c1 args : Except Why CEnv) (entryEnv c2 args : Except Why CEnv)
  | [], [], args, _ => by
    cases args <;> simp [entryEnv, ExRel, EA.nil, ctxVars]
  | [], _ :: _, _, h => by simp at h
  | _ :: _, [], _, h => by simp at h
  | b :: bs, b' :: bs', args, h => by
    simp only [List.map_cons, List.cons.injEq] at h
    obtain ⟨hb, hr⟩ := h
    cases hchi : b.chi with
    | cns =>
      have hchi' : b'.chi = .cns := by rw [← hb, hchi]
      have := entryEnv_rel bs bs' args hr
      simp only [entryEnv, hchi, hchi']
      cases h1 : (entryEnv bs args : Except Why CEnv) <;>
        cases h2 : (entryEnv bs' args : Except Why CEnv) <;> simp only [h1, h2, ExRel] at this ⊢
      · exact this
      · exact ⟨EA.cons _ _ VA.halt this.1, by simp [ctxVars, this.2.1], by simp [ctxVars, this.2.2]⟩
    | prd =>
      have hchi' : b'.chi = .prd := by rw [← hb, hchi]
      cases args with
      | nil => simp [entryEnv, hchi, hchi', ExRel]
      | cons a as =>
        have := entryEnv_rel bs bs' as hr
        simp only [entryEnv, hchi, hchi']
        cases h1 : (entryEnv bs as : Except Why CEnv) <;>
          cases h2 : (entryEnv bs' as : Except Why CEnv) <;> simp only [h1, h2, ExRel] at this ⊢
        · exact this
        · exact ⟨EA.cons _ _ (VA.int a) this.1, by simp [ctxVars, this.2.1],
            by simp [ctxVars, this.2.2]⟩

/-- **α-equivalent programs have equal runs on the ς-machine**, for every fuel -/
theorem run_eq_of_prel {p1 p2 : Prog} (hP : PRelA p1 p2) (args : List (BitVec 64)) (f : Nat) :
    run p1 args f = run p2 args f := by
  unfold run
  rcases find_def_rel (fun nm => decide (nm.name = mainName)) hP.defs with
    ⟨h1, h2⟩ | ⟨d, d', h1, h2, hd⟩
  · simp only [h1, h2]
  · simp only [h1, h2]
    have := entryEnv_rel d.ctx d'.ctx args hd.chis
    cases h3 : (entryEnv d.ctx args : Except Why CEnv) <;>
      cases h4 : (entryEnv d'.ctx args : Except Why CEnv) <;> simp only [h3, h4, ExRel] at this ⊢
    · rw [this]
    · obtain ⟨he, hk1, hk2⟩ := this
      exact stepN_eq hP f _ _ ⟨rfl, rfl, he, by simpa only [hk1, hk2] using hd.code⟩

theorem defsRelA_of_alpha : ∀ {ds ds' : List Def}, DefsAlpha ds ds' →
    (∀ d ∈ ds, SigLt 0 d.body.idents) → (∀ d ∈ ds', SigLt 0 d.body.idents) → DefsRelA ds ds'
  | [], [], _, _, _ => trivial
  | [], _ :: _, h, _, _ => by simp [DefsAlpha] at h
  | _ :: _, [], h, _, _ => by simp [DefsAlpha] at h
  | d :: r, d' :: r', h, h1, h2 => by
    obtain ⟨ha, hr⟩ := h
    exact ⟨⟨ha.name, ha.chis, ha.body, h1 d (by simp), h2 d' (by simp)⟩,
      defsRelA_of_alpha hr (fun x hx => h1 x (by simp [hx])) (fun x hx => h2 x (by simp [hx]))⟩

/-- **the ς-machine is invariant under α-equivalence of programs** in which no identifier is named `ς` (`SigLt 0`) -/
theorem alpha_run_eq {p1 p2 : Prog} (hc : p1.codataTypes = p2.codataTypes)
    (hα : DefsAlpha p1.defs p2.defs) (h1 : ∀ d ∈ p1.defs, SigLt 0 d.body.idents)
    (h2 : ∀ d ∈ p2.defs, SigLt 0 d.body.idents) (args : List (BitVec 64)) (f : Nat) :
    run p1 args f = run p2 args f :=
  run_eq_of_prel ⟨hc, defsRelA_of_alpha hα h1 h2⟩ args f

end AlphaSim
end Scc.Core
