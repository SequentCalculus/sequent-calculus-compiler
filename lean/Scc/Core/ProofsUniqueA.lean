/-
  Scc.Core.ProofsUniqueA — proof side of C03 "unique binders", part A: binder lists of unfocused Core, the
  interval invariant `Ext` (the binders after focusing are old binders or come from the counter interval, and
  are duplicate-free) and `focusStmt_ext`: focusing establishes it.  Nothing is said about old binders being
  kept: the panic arms of `focus` drop theirs.
-/
import Scc.Core.Focus
import Scc.Core.Unique

namespace Scc.Core

mutual
  def Term.binderIds : Term → List Nat
    | .var _ _ _ => []
    | .lit _ => []
    | .op a _ b => a.binderIds ++ b.binderIds
    | .mu _ v _ s => v.id :: s.binderIds
    | .xtor _ _ as _ => as.binderIds
    | .xcase _ _ cl => cl.binderIds
  def Args.binderIds : Args → List Nat
    | .nil => []
    | .cons _ t r => t.binderIds ++ r.binderIds
  def Clauses.binderIds : Clauses → List Nat
    | .nil => []
    | .cons _ ctx b r => ctxIds ctx ++ b.binderIds ++ r.binderIds
  def Stmt.binderIds : Stmt → List Nat
    | .cut _ p c => p.binderIds ++ c.binderIds
    | .ifc _ a b t e => a.binderIds ++ b.binderIds ++ t.binderIds ++ e.binderIds
    | .ifz _ a t e => a.binderIds ++ t.binderIds ++ e.binderIds
    | .print _ a n => a.binderIds ++ n.binderIds
    | .call _ as _ => as.binderIds
    | .exit a _ => a.binderIds
end

/-- `l` extends `old` by new ids from the interval `(n, n']`: every element of `l` is an old binder
    (`≤ M`) or a new one, and `l` has no duplicates -/
def Ext (M : Nat) (l old : List Nat) (n n' : Nat) : Prop :=
  n ≤ n' ∧ l.Nodup ∧ ∀ b ∈ l, (b ∈ old ∧ b ≤ M) ∨ (n < b ∧ b ≤ n')

/-- the old binders: duplicate-free and below `M` -/
def OldOK (M : Nat) (old : List Nat) : Prop := old.Nodup ∧ ∀ b ∈ old, b ≤ M


theorem OldOK.tail {M b old} (h : OldOK M (b :: old)) : OldOK M old :=
  ⟨(List.nodup_cons.mp h.1).2, fun x hx => h.2 x (List.mem_cons_of_mem _ hx)⟩
theorem OldOK.left {M o1 o2} (h : OldOK M (o1 ++ o2)) : OldOK M o1 :=
  ⟨(List.nodup_append.mp h.1).1, fun x hx => h.2 x (List.mem_append_left _ hx)⟩
theorem OldOK.right {M o1 o2} (h : OldOK M (o1 ++ o2)) : OldOK M o2 :=
  ⟨(List.nodup_append.mp h.1).2.1, fun x hx => h.2 x (List.mem_append_right _ hx)⟩
theorem OldOK.disj {M o1 o2} (h : OldOK M (o1 ++ o2)) : ∀ b, b ∈ o1 → b ∈ o2 → False :=
  fun b h1 h2 => (List.nodup_append.mp h.1).2.2 b h1 b h2 rfl

theorem OldOK.comm {M o1 o2} (h : OldOK M (o1 ++ o2)) : OldOK M (o2 ++ o1) :=
  ⟨List.perm_append_comm.nodup_iff.mp h.1, fun x hx => h.2 x (List.perm_append_comm.subset hx)⟩

theorem Ext.nil {M old n n'} (h : n ≤ n') : Ext M [] old n n' := by simp [Ext, h]

theorem Ext.append {M l1 o1 l2 o2 n n1 n2} (h1 : Ext M l1 o1 n n1) (h2 : Ext M l2 o2 n1 n2)
    (hM : M ≤ n) (hd : ∀ b, b ∈ o1 → b ∈ o2 → False) : Ext M (l1 ++ l2) (o1 ++ o2) n n2 := by
  obtain ⟨a1, b1, c1⟩ := h1
  obtain ⟨a2, b2, c2⟩ := h2
  refine ⟨Nat.le_trans a1 a2, List.nodup_append.mpr ⟨b1, b2, fun x hx y hy e => ?_⟩,
    fun b hb => ?_⟩
  · subst e
    rcases c1 x hx with ⟨ho1, _⟩ | ⟨_, _⟩ <;> rcases c2 x hy with ⟨ho2, _⟩ | ⟨_, _⟩
    · exact hd x ho1 ho2
    all_goals omega
  · rcases List.mem_append.mp hb with hb | hb
    · exact (c1 b hb).imp (fun ⟨a, c⟩ => ⟨List.mem_append_left _ a, c⟩) (fun ⟨a, c⟩ => ⟨a, by omega⟩)
    · exact (c2 b hb).imp (fun ⟨a, c⟩ => ⟨List.mem_append_right _ a, c⟩)
        (fun ⟨a, c⟩ => ⟨by omega, c⟩)

theorem Ext.consNew {M l old n n'} (h : Ext M l old (n+1) n') (hM : M ≤ n) :
    Ext M ((n+1) :: l) old n n' := by
  obtain ⟨h1, h2, h3⟩ := h
  refine ⟨by omega, List.nodup_cons.mpr ⟨fun hm => ?_, h2⟩, fun b hb => ?_⟩
  · rcases h3 _ hm with ⟨_, hle⟩ | ⟨hlt, _⟩ <;> omega
  · rcases List.mem_cons.mp hb with rfl | hb
    · exact Or.inr ⟨Nat.lt_succ_self n, h1⟩
    · exact (h3 b hb).imp id (fun ⟨a, c⟩ => ⟨by omega, c⟩)

theorem Ext.consOld {M l old b n n'} (h : Ext M l old n n') (ho : OldOK M (b :: old)) (hM : M ≤ n) :
    Ext M (b :: l) (b :: old) n n' := by
  obtain ⟨h1, h2, h3⟩ := h
  have hbM : b ≤ M := ho.2 b List.mem_cons_self
  refine ⟨h1, List.nodup_cons.mpr ⟨fun hm => ?_, h2⟩, fun x hx => ?_⟩
  · rcases h3 b hm with ⟨hin, _⟩ | ⟨hlt, _⟩
    · exact (List.nodup_cons.mp ho.1).1 hin
    · omega
  · rcases List.mem_cons.mp hx with rfl | hx
    · exact Or.inl ⟨List.mem_cons_self, hbM⟩
    · exact (h3 x hx).imp (fun ⟨a, c⟩ => ⟨List.mem_cons_of_mem _ a, c⟩) id

theorem Ext.weaken {M l old old' n n1 n'} (h : Ext M l old n1 n') (hn : n ≤ n1)
    (hs : ∀ b, b ∈ old → b ∈ old') : Ext M l old' n n' :=
  ⟨Nat.le_trans hn h.1, h.2.1, fun b hb => (h.2.2 b hb).imp
    (fun ⟨a, c⟩ => ⟨hs b a, c⟩) (fun ⟨a, c⟩ => ⟨Nat.lt_of_le_of_lt hn a, c⟩)⟩

theorem Ext.perm {M l l' old n n'} (h : Ext M l old n n') (hp : l.Perm l') : Ext M l' old n n' := by
  unfold Ext at *
  refine ⟨h.1, hp.nodup_iff.mp h.2.1, fun b hb => h.2.2 b (hp.mem_iff.mpr hb)⟩

theorem Ext.le {M l old n n'} (h : Ext M l old n n') : n ≤ n' := h.1

/-- binders `c` that stay where they are, in front of an extension -/
theorem Ext.prependOld {M c l old n n'} (h : Ext M l old n n') (ho : OldOK M (c ++ old))
    (hM : M ≤ n) : Ext M (c ++ l) (c ++ old) n n' := by
  induction c with
  | nil => exact h
  | cons b c ih => exact (ih ho.tail).consOld ho hM

/-- the shape of every `bind`: one fresh binder `n+1` and two extensions, one of which has the
counter first; where the fresh binder stands among them does not matter -/
theorem Ext.wrap {M l1 o1 l2 o2 n n1 n2 l old} (h1 : Ext M l1 o1 (n + 1) n1)
    (h2 : Ext M l2 o2 n1 n2) (hM : M ≤ n) (hd : ∀ b, b ∈ o1 → b ∈ o2 → False)
    (hl : ((n + 1) :: (l1 ++ l2)).Perm l) (ho : ∀ b, b ∈ o1 ++ o2 → b ∈ old) :
    Ext M l old n n2 :=
  (((h1.append h2 (by omega) hd).consNew hM).perm hl).weaken (Nat.le_refl _) ho

section focus
variable (M : Nat)

private def m1 (t : Term) (n : Nat) : Prop :=
  M ≤ n → OldOK M t.binderIds →
    Ext M (focusTerm t n).1.binderIds t.binderIds n (focusTerm t n).2
private def m2 (cl : Clauses) (n : Nat) : Prop :=
  M ≤ n → OldOK M cl.binderIds →
    Ext M (focusClauses cl n).1.binderIds cl.binderIds n (focusClauses cl n).2
private def m3 (s : Stmt) (n : Nat) : Prop :=
  M ≤ n → OldOK M s.binderIds →
    Ext M (focusStmt s n).1.binderIds s.binderIds n (focusStmt s n).2
private def m4 (t : Term) (k : Cont) (n : Nat) : Prop :=
  ∀ oldK, M ≤ n → OldOK M (t.binderIds ++ oldK) →
    (∀ b n1, n ≤ n1 → Ext M (k b n1).1.binderIds oldK n1 (k b n1).2) →
    Ext M (bindTerm t k n).1.binderIds (t.binderIds ++ oldK) n (bindTerm t k n).2
private def m5 (as : Args) (k : ContVec) (n : Nat) : Prop :=
  ∀ oldK, M ≤ n → OldOK M (as.binderIds ++ oldK) →
    (∀ bs n1, n ≤ n1 → Ext M (k bs n1).1.binderIds oldK n1 (k bs n1).2) →
    Ext M (bindMany as k n).1.binderIds (as.binderIds ++ oldK) n (bindMany as k n).2

theorem focusStmt_ext (s : Stmt) (n : Nat) : m3 M s n := by
  apply focusStmt.induct (motive_1 := m1 M) (motive_2 := m2 M) (motive_3 := m3 M)
    (motive_4 := m4 M) (motive_5 := m5 M)
  -- focusTerm
  · intro pc v ty n hM _
    simp [focusTerm, Term.binderIds, FsTerm.binderIds, Ext]
  · intro k n hM _
    simp [focusTerm, Term.binderIds, FsTerm.binderIds, Ext]
  · intro a o b n hM _
    simp [focusTerm, panicTerm, FsTerm.binderIds, Ext]
  · intro pc v ty s n s' n1 heq ih hM hold
    simp only [Term.binderIds] at hold
    simp only [focusTerm, heq, Term.binderIds, FsTerm.binderIds]
    have ih := ih hM hold.tail
    rw [heq] at ih
    exact ih.consOld hold hM
  · intro pc name as ty n hM _
    simp [focusTerm, panicTerm, FsTerm.binderIds, Ext]
  · intro pc ty cl n cl' n1 heq ih hM hold
    simp only [Term.binderIds] at hold
    simp only [focusTerm, heq, Term.binderIds, FsTerm.binderIds]
    have ih := ih hM hold
    rw [heq] at ih
    exact ih
  -- bindTerm
  · intro pc v ty k n oldK hM hold hk
    simp only [bindTerm, Term.binderIds, List.nil_append]
    exact hk _ n (Nat.le_refl _)
  · intro i k n x n1 hfresh r n2 hkeq oldK hM hold hk
    simp only [freshVar, freshIdentifier, Prod.mk.injEq] at hfresh
    obtain ⟨rfl, rfl⟩ := hfresh
    have h := hk ⟨⟨"x", n + 1⟩, .prd, .i64⟩ (n + 1) (by omega)
    simp only [bindTerm, freshVar, freshIdentifier, hkeq, Term.binderIds, FsStmt.binderIds,
      FsTerm.binderIds, List.nil_append]
    rw [hkeq] at h
    exact h.consNew hM
  · intro a o b k n ih1 ih2 oldK hM hold hk
    simp only [Term.binderIds, List.append_assoc] at hold ⊢
    simp only [bindTerm]
    apply ih2 (b.binderIds ++ oldK) hM hold
    intro b1 n1 hn1
    apply ih1 b1 n1 oldK (by omega) hold.right
    intro b2 n2 hn2
    have h := hk ⟨⟨"x", n2 + 1⟩, .prd, .i64⟩ (n2 + 1) (by omega)
    simp only [freshVar, freshIdentifier]
    rcases hkeq : k ⟨⟨"x", n2 + 1⟩, .prd, .i64⟩ (n2 + 1) with ⟨r, n3⟩
    rw [hkeq] at h
    simp only [FsStmt.binderIds, FsTerm.binderIds, List.nil_append]
    exact h.consNew (by omega)
  · intro v ty s k n x n1 hfresh s' n2 hs r n3 hkeq ih oldK hM hold hk
    simp only [freshVar, freshIdentifier, Prod.mk.injEq] at hfresh
    obtain ⟨rfl, rfl⟩ := hfresh
    simp only [Term.binderIds, List.cons_append] at hold ⊢
    have h1 := ih (by omega) hold.tail.left
    rw [hs] at h1
    have h2 := hk ⟨⟨"x", n + 1⟩, .prd, ty⟩ n2 (by have := h1.le; omega)
    rw [hkeq] at h2
    simp only [bindTerm, freshVar, freshIdentifier, hs, hkeq, FsStmt.binderIds, FsTerm.binderIds]
    exact (h1.consOld (OldOK.left (o1 := v.id :: s.binderIds) hold) (by omega)).wrap h2 hM
      (OldOK.disj (o1 := v.id :: s.binderIds) hold)
      (List.perm_middle (l₁ := v.id :: s'.binderIds)).symm (fun _ hb => hb)
  · intro v ty s k n x n1 hfresh r n2 hkeq s' n3 hs ih oldK hM hold hk
    simp only [freshCovar, freshIdentifier, Prod.mk.injEq] at hfresh
    obtain ⟨rfl, rfl⟩ := hfresh
    simp only [Term.binderIds, List.cons_append] at hold ⊢
    have h2 := hk ⟨⟨"a", n + 1⟩, .cns, ty⟩ (n + 1) (by omega)
    rw [hkeq] at h2
    have h1 := ih (by have := h2.le; omega) hold.tail.left
    rw [hs] at h1
    simp only [bindTerm, freshCovar, freshIdentifier, hs, hkeq, FsStmt.binderIds, FsTerm.binderIds]
    have hold' : OldOK M ((v.id :: s.binderIds) ++ oldK) := hold
    exact h2.wrap (h1.consOld hold'.left (by have := h2.le; omega)) hM
      (fun b hb hb' => hold'.disj b hb' hb) (List.Perm.refl _)
      (fun _ hb => List.perm_append_comm.subset hb)
  · intro name as ty k n ih oldK hM hold hk
    simp only [Term.binderIds] at hold ⊢
    simp only [bindTerm]
    apply ih oldK hM hold
    intro bs n2 hn2
    have h := hk ⟨⟨"x", n2 + 1⟩, .prd, ty⟩ (n2 + 1) (by omega)
    simp only [freshVar, freshIdentifier]
    rcases hkeq : k ⟨⟨"x", n2 + 1⟩, .prd, ty⟩ (n2 + 1) with ⟨r, n3⟩
    rw [hkeq] at h
    simp only [FsStmt.binderIds, FsTerm.binderIds, List.nil_append]
    exact h.consNew (by omega)
  · intro name as ty k n ih oldK hM hold hk
    simp only [Term.binderIds] at hold ⊢
    simp only [bindTerm]
    apply ih oldK hM hold
    intro bs n2 hn2
    have h := hk ⟨⟨"a", n2 + 1⟩, .cns, ty⟩ (n2 + 1) (by omega)
    simp only [freshCovar, freshIdentifier]
    rcases hkeq : k ⟨⟨"a", n2 + 1⟩, .cns, ty⟩ (n2 + 1) with ⟨r, n3⟩
    rw [hkeq] at h
    simp only [FsStmt.binderIds, FsTerm.binderIds, List.append_nil]
    exact h.consNew (by omega)
  · intro ty cl k n x n1 hfresh r n2 hkeq cl' n3 hs ih oldK hM hold hk
    simp only [freshVar, freshIdentifier, Prod.mk.injEq] at hfresh
    obtain ⟨rfl, rfl⟩ := hfresh
    simp only [Term.binderIds] at hold ⊢
    have h2 := hk ⟨⟨"x", n + 1⟩, .prd, ty⟩ (n + 1) (by omega)
    rw [hkeq] at h2
    have h1 := ih (by have := h2.le; omega) hold.left
    rw [hs] at h1
    simp only [bindTerm, freshVar, freshIdentifier, hs, hkeq, FsStmt.binderIds, FsTerm.binderIds]
    exact h2.wrap h1 hM (fun b hb hb' => hold.disj b hb' hb)
      ((List.perm_append_comm.cons _).trans List.perm_middle.symm)
      (fun _ hb => List.perm_append_comm.subset hb)
  · intro ty cl k n x n1 hfresh r n2 hkeq cl' n3 hs ih oldK hM hold hk
    simp only [freshCovar, freshIdentifier, Prod.mk.injEq] at hfresh
    obtain ⟨rfl, rfl⟩ := hfresh
    simp only [Term.binderIds] at hold ⊢
    have h2 := hk ⟨⟨"a", n + 1⟩, .cns, ty⟩ (n + 1) (by omega)
    rw [hkeq] at h2
    have h1 := ih (by have := h2.le; omega) hold.left
    rw [hs] at h1
    simp only [bindTerm, freshCovar, freshIdentifier, hs, hkeq, FsStmt.binderIds, FsTerm.binderIds]
    exact h2.wrap h1 hM (fun b hb hb' => hold.disj b hb' hb) (List.Perm.refl _)
      (fun _ hb => List.perm_append_comm.subset hb)
  -- bindMany
  · intro k n oldK hM hold hk
    simp only [bindMany, Args.binderIds, List.nil_append]
    exact hk [] n (Nat.le_refl _)
  · intro pc t r k n ih1 ih2 oldK hM hold hk
    simp only [Args.binderIds, List.append_assoc] at hold ⊢
    simp only [bindMany]
    apply ih2 (r.binderIds ++ oldK) hM hold
    intro b n1 hn1
    apply ih1 b n1 oldK (by omega) hold.right
    intro bs n2 hn2
    exact hk (b :: bs) n2 (by omega)
  -- focusClauses
  · intro n hM _
    simp [focusClauses, FsClauses.binderIds, Clauses.binderIds, Ext]
  · intro x ctx b r n b' n1 hb r' n2 hr ihb ihr hM hold
    simp only [Clauses.binderIds, List.append_assoc] at hold ⊢
    have h1 := ihb hM hold.right.left
    rw [hb] at h1
    have h2 := ihr (by have := h1.le; omega) hold.right.right
    rw [hr] at h2
    simp only [focusClauses, hb, hr, FsClauses.binderIds, List.append_assoc]
    exact (h1.append h2 hM hold.right.disj).prependOld hold hM
  -- focusStmt: cut
  · intro ty pc name as ty1 c n ihc ih5 hM hold
    simp only [Stmt.binderIds, Term.binderIds] at hold ⊢
    simp only [focusStmt]
    apply ih5 c.binderIds hM hold
    intro bs n1 hn1
    have h := ihc n1 (by omega) hold.right
    simpa only [FsStmt.binderIds, FsTerm.binderIds, List.nil_append] using h
  · intro ty p dpc name as ty1 n hnx ihp ih5 hM hold
    simp only [Stmt.binderIds, Term.binderIds] at hold ⊢
    rw [focusStmt.eq_2 _ _ _ _ _ _ _ hnx]
    refine (ih5 p.binderIds hM hold.comm ?_).weaken (Nat.le_refl _) (by simp; grind)
    intro bs n1 hn1
    have h := ihp n1 (by omega) hold.left
    simpa only [FsStmt.binderIds, FsTerm.binderIds, List.append_nil] using h
  · intro ty a o b c n hnx ihc ih1 ih2 hM hold
    simp only [Stmt.binderIds, Term.binderIds, List.append_assoc] at hold ⊢
    rw [focusStmt.eq_3 _ _ _ _ _ _ hnx]
    apply ih2 (b.binderIds ++ c.binderIds) hM hold
    intro b1 n1 hn1
    apply ih1 b1 n1 c.binderIds (by omega) hold.right
    intro b2 n2 hn2
    have h := ihc n2 (by omega) hold.right.right
    simpa only [FsStmt.binderIds, FsTerm.binderIds, List.nil_append] using h
  · intro ty p c n hnp hnc hnop p' n1 hp c' n2 hc ihp ihc hM hold
    simp only [Stmt.binderIds] at hold ⊢
    rw [focusStmt.eq_4 _ _ _ _ hnp hnc hnop]
    have h1 := ihp hM hold.left
    rw [hp] at h1
    have h2 := ihc (by have := h1.le; omega) hold.right
    rw [hc] at h2
    simp only [hp, hc, FsStmt.binderIds]
    exact h1.append h2 hM hold.disj
  -- focusStmt: ifc, ifz, print, call, exit
  · intro srt a b t e n iht ihe ih1 ih2 hM hold
    simp only [Stmt.binderIds, List.append_assoc] at hold ⊢
    simp only [focusStmt]
    apply ih2 (b.binderIds ++ (t.binderIds ++ e.binderIds)) hM hold
    intro b1 n1 hn1
    apply ih1 b1 n1 (t.binderIds ++ e.binderIds) (by omega) hold.right
    intro b2 n2 hn2
    have h1 := iht n2 (by omega) hold.right.right.left
    have h2 := ihe (focusStmt t n2).2 (by have := h1.le; omega) hold.right.right.right
    simpa only [FsStmt.binderIds] using h1.append h2 (by omega) hold.right.right.disj
  · intro srt a t e n iht ihe ih1 hM hold
    simp only [Stmt.binderIds, List.append_assoc] at hold ⊢
    simp only [focusStmt]
    apply ih1 (t.binderIds ++ e.binderIds) hM hold
    intro b1 n1 hn1
    have h1 := iht n1 (by omega) hold.right.left
    have h2 := ihe (focusStmt t n1).2 (by have := h1.le; omega) hold.right.right
    simpa only [FsStmt.binderIds] using h1.append h2 (by omega) hold.right.disj
  · intro nl a nx n ihn ih1 hM hold
    simp only [Stmt.binderIds] at hold ⊢
    simp only [focusStmt]
    apply ih1 nx.binderIds hM hold
    intro b1 n1 hn1
    simpa only [FsStmt.binderIds] using ihn n1 (by omega) hold.right
  · intro f as ty n ih5 hM hold
    simp only [Stmt.binderIds] at hold ⊢
    simp only [focusStmt]
    have := ih5 [] hM (by simpa using hold) (fun bs n1 _ => by simp [FsStmt.binderIds, Ext])
    simpa using this
  · intro a ty n ih4 hM hold
    simp only [Stmt.binderIds] at hold ⊢
    simp only [focusStmt]
    have := ih4 [] hM (by simpa using hold) (fun b n1 _ => by simp [FsStmt.binderIds, Ext])
    simpa using this

end focus

end Scc.Core
