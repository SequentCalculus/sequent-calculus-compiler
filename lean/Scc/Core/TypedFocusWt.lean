/-
  Scc.Core.TypedFocusWt — proof file: static focusing maps Core-well-typed (`Stmt.check`), strict
  (`Stmt.strict`, Scc/Core/TypedStrict.lean) statements to statements passing the environment-free
  shape typing `Scc.Core2AxCut.wtStmt` of focused Core, in the typing environment `coreTEnv P` read
  off the unfocused program (`focusStmt_wt`).
  Hypotheses on the program: no name is declared both as data and codata type (`typesDisjoint`), the
  xtor names of every declaration are pairwise distinct (`TypeDecl.xtorsDistinct`).
  Proof: functional induction `focusStmt.induct` with five motives (focusTerm, focusClauses,
  focusStmt, bindTerm, bindMany); no counters / freshness are needed since `wt*` ignore scoping.
-/
import Scc.Core.TypedStrict
import Scc.Core.Focus
import Scc.Core2AxCut.Proofs
import Scc.Pipeline.FocusNoPanic

namespace Scc.Core

open Scc.Pipeline
open Scc.Core2AxCut (wtTerm wtStmt wtClauses declOf tyOk sigMatch isCodata contInt)

/-- the typing environment of the focused program, read off the unfocused one -/
def coreTEnv (P : Prog) : Core2AxCut.TEnv :=
  ⟨P.dataTypes ++ [Core2AxCut.contInt], P.codataTypes, P.defs.map fun d => (d.name, d.ctx)⟩

/-! ## bridging lemmas between `Scc.Core.Typing` and `Scc.Core2AxCut.FsTyping` -/

theorem ctxMatches_eq_sigMatch : ∀ (a b : Ctx), ctxMatches a b = sigMatch a b
  | [], [] => rfl
  | [], _ :: _ => rfl
  | _ :: _, [] => rfl
  | a :: as, b :: bs => by simp only [ctxMatches, sigMatch, ctxMatches_eq_sigMatch as bs]

theorem findDecl_eq_beq (ds : List TypeDecl) (T : Ident) :
    findDecl ds T = ds.find? (fun d => d.name == T) := by
  unfold findDecl
  congr 1
  funext d
  by_cases h : d.name = T <;> simp [h]

theorem findSig_eq_beq (sigs : List XtorSig) (x : Ident) :
    Core.findSig sigs x = sigs.find? (fun s => s.name == x) := by
  unfold Core.findSig
  congr 1
  funext d
  by_cases h : d.name = x <;> simp [h]

theorem findSig_of_nodup : ∀ (sigs : List XtorSig), (sigs.map (·.name)).Nodup →
    ∀ s ∈ sigs, Core.findSig sigs s.name = some s
  | [], _, s, hs => by simp at hs
  | a :: r, hn, s, hs => by
    simp only [List.map_cons, List.nodup_cons, List.mem_map, not_exists, not_and] at hn
    simp only [List.mem_cons] at hs
    unfold Core.findSig
    rcases hs with rfl | hs
    · simp
    · have hne : ¬ a.name = s.name := fun e => hn.1 s hs e.symm
      rw [List.find?_cons_of_neg (by simpa using hne)]
      exact findSig_of_nodup r hn.2 s hs

theorem xtors_nodup_of_find {l : List TypeDecl} (hl : ∀ d ∈ l, d.xtorsDistinct = true)
    {T : Ident} {d : TypeDecl} (h : findDecl l T = some d) : (d.xtors.map (·.name)).Nodup := by
  have := hl d (findDecl_name h).1
  simpa [TypeDecl.xtorsDistinct] using this

theorem isCodata_of_find {P : Prog} {T : Ident} {d : TypeDecl}
    (h : findDecl P.codataTypes T = some d) : isCodata P.codataTypes (.decl T) = true := by
  obtain ⟨hm, hn⟩ := findDecl_name h
  simp only [isCodata, List.any_eq_true]
  exact ⟨d, hm, by simp [hn]⟩

theorem isCodata_false_of_data {P : Prog} (hd : typesDisjoint P = true) {T : Ident} {d : TypeDecl}
    (h : findDecl P.dataTypes T = some d) : isCodata P.codataTypes (.decl T) = false := by
  obtain ⟨hm, hn⟩ := findDecl_name h
  cases hc : isCodata P.codataTypes (.decl T) with
  | false => rfl
  | true =>
    simp only [isCodata, List.any_eq_true, beq_iff_eq] at hc
    obtain ⟨c, hcm, hcn⟩ := hc
    simp only [typesDisjoint, List.all_eq_true, decide_eq_true_eq] at hd
    exact absurd (hn.trans hcn.symm) (hd d hm c hcm)

theorem declOf_data {P : Prog} (hd : typesDisjoint P = true) {T : Ident} {d : TypeDecl}
    (h : findDecl P.dataTypes T = some d) : declOf (coreTEnv P) (.decl T) = some d := by
  have hc := isCodata_false_of_data hd h
  rw [findDecl_eq_beq] at h
  simp only [declOf, coreTEnv, hc, Bool.false_eq_true, if_false, List.find?_append, h, Option.some_or]

theorem declOf_codata {P : Prog} {T : Ident} {d : TypeDecl}
    (h : findDecl P.codataTypes T = some d) : declOf (coreTEnv P) (.decl T) = some d := by
  have hc := isCodata_of_find h
  rw [findDecl_eq_beq] at h
  simp only [declOf, coreTEnv, hc, if_true, h]

theorem tyOk_data {P : Prog} (hd : typesDisjoint P = true) {T : Ident} {d : TypeDecl}
    (h : findDecl P.dataTypes T = some d) : tyOk (coreTEnv P) (.decl T) = true := by
  simp only [tyOk, declOf_data hd h, Option.isSome_some]

theorem tyOk_codata {P : Prog} {T : Ident} {d : TypeDecl}
    (h : findDecl P.codataTypes T = some d) : tyOk (coreTEnv P) (.decl T) = true := by
  simp only [tyOk, declOf_codata h, Option.isSome_some]

theorem tyOk_of_declared {P : Prog} (hd : typesDisjoint P = true) {ty : Ty}
    (h : tyDeclared P ty = true) : tyOk (coreTEnv P) ty = true := by
  cases ty with
  | i64 => rfl
  | decl T =>
    simp only [tyDeclared, Bool.or_eq_true, Option.isSome_iff_exists] at h
    rcases h with ⟨d, h⟩ | ⟨d, h⟩
    · exact tyOk_data hd h
    · exact tyOk_codata h

theorem findSig_defs {P : Prog} {f : Ident} {d : Def}
    (h : P.defs.find? (fun d => d.name = f) = some d) :
    Core2AxCut.findSig (coreTEnv P).sigs f = some d.ctx := by
  have h' : P.defs.find? ((fun p : Ident × Ctx => p.1 == f) ∘ fun d : Def => (d.name, d.ctx)) = some d := by
    rw [← h]
    congr 1
    funext d
    by_cases h : d.name = f <;> simp [h]
  simp only [Core2AxCut.findSig, coreTEnv, List.find?_map, h', Option.map_some]

theorem xcase_strict_inv {P : Prog} {pc : PC} {T : Ident} {cl : Clauses} {d : TypeDecl}
    (hs : (Term.xcase pc (.decl T) cl).strict P = true)
    (hf : findDecl (if pc == .prd then P.codataTypes else P.dataTypes) T = some d) :
    cl.tags = d.xtors.map (·.name) ∧ cl.strict P = true := by
  simp only [Term.strict, hf, Bool.and_eq_true, decide_eq_true_eq] at hs
  exact hs

theorem cns_not_op {P : Prog} {Γ : Ctx} {ty : Ty} {c : Term} (h : c.check P Γ .cns ty = true) :
    ∀ a o b, c ≠ .op a o b := by
  intro a o b e
  subst e
  simp [Term.check] at h

section
variable {P : Prog} (hd : typesDisjoint P = true)
include hd

theorem tyOk_xtor_side {pc : PC} {T : Ident} {d : TypeDecl}
    (hf : findDecl (if pc == .prd then P.dataTypes else P.codataTypes) T = some d) :
    tyOk (coreTEnv P) (.decl T) = true := by
  cases pc
  · exact tyOk_data hd (by simpa using hf)
  · exact tyOk_codata (by simpa using hf)

theorem tyOk_xcase_side {pc : PC} {T : Ident} {d : TypeDecl}
    (hf : findDecl (if pc == .prd then P.codataTypes else P.dataTypes) T = some d) :
    tyOk (coreTEnv P) (.decl T) = true := by
  cases pc
  · exact tyOk_codata (by simpa using hf)
  · exact tyOk_data hd (by simpa using hf)

theorem wt_xtor {pc : PC} {T name : Ident} {d : TypeDecl} {sig : XtorSig} {bs : Ctx}
    (hf : findDecl (if pc == .prd then P.dataTypes else P.codataTypes) T = some d)
    (hsig : Core.findSig d.xtors name = some sig) (hm : sigMatch bs sig.args = true) :
    wtTerm (coreTEnv P) pc (.decl T) (.xtor pc name bs (.decl T)) = true := by
  rw [findSig_eq_beq] at hsig
  cases pc
  · have hf' : findDecl P.dataTypes T = some d := by simpa using hf
    have h1 := declOf_data hd hf'
    have h2 : isCodata (coreTEnv P).codata (.decl T) = false := isCodata_false_of_data hd hf'
    simp [wtTerm, h1, h2, hsig, hm]
  · have hf' : findDecl P.codataTypes T = some d := by simpa using hf
    have h1 := declOf_codata hf'
    have h2 : isCodata (coreTEnv P).codata (.decl T) = true := isCodata_of_find hf'
    simp [wtTerm, h1, h2, hsig, hm]

theorem wt_xcase {pc : PC} {T : Ident} {d : TypeDecl} {cl' : FsClauses}
    (hf : findDecl (if pc == .prd then P.codataTypes else P.dataTypes) T = some d)
    (hcl : wtClauses (coreTEnv P) d.xtors cl' = true) :
    wtTerm (coreTEnv P) pc (.decl T) (.xcase pc (.decl T) cl') = true := by
  cases pc
  · have hf' : findDecl P.codataTypes T = some d := by simpa using hf
    have h1 := declOf_codata hf'
    have h2 : isCodata (coreTEnv P).codata (.decl T) = true := isCodata_of_find hf'
    simp [wtTerm, h1, h2, hcl]
  · have hf' : findDecl P.dataTypes T = some d := by simpa using hf
    have h1 := declOf_data hd hf'
    have h2 : isCodata (coreTEnv P).codata (.decl T) = false := isCodata_false_of_data hd hf'
    simp [wtTerm, h1, h2, hcl]

end

theorem wtTerm_mu (E : Core2AxCut.TEnv) (pc : PC) (v : Ident) (ty : Ty) (r : FsStmt) :
    wtTerm E pc ty (.mu pc v ty r) = wtStmt E r := by
  simp [wtTerm]

section
variable {P : Prog} (hd : typesDisjoint P = true)
  (hxd : ∀ d ∈ P.dataTypes, d.xtorsDistinct = true)
  (hxc : ∀ d ∈ P.codataTypes, d.xtorsDistinct = true)

private def W1 (P : Prog) (t : Term) (n : Nat) : Prop :=
  ∀ Γ pc ty, t.check P Γ pc ty = true → t.strict P = true →
    (∀ a o b, t ≠ .op a o b) → (∀ pc n as ty, t ≠ .xtor pc n as ty) →
    wtTerm (coreTEnv P) pc ty (focusTerm t n).1 = true
private def W2 (P : Prog) (cl : Clauses) (n : Nat) : Prop :=
  ∀ Γ (all sigs : List XtorSig), cl.check P Γ all = true → cl.strict P = true →
    cl.tags = sigs.map (·.name) → (∀ s ∈ sigs, Core.findSig all s.name = some s) →
    wtClauses (coreTEnv P) sigs (focusClauses cl n).1 = true
private def W3 (P : Prog) (s : Stmt) (n : Nat) : Prop :=
  ∀ Γ, s.check P Γ = true → s.strict P = true → wtStmt (coreTEnv P) (focusStmt s n).1 = true
private def W4 (P : Prog) (t : Term) (k : Cont) (n : Nat) : Prop :=
  ∀ Γ pc ty, t.check P Γ pc ty = true → t.strict P = true →
    (∀ b m, b.chi = pc → b.ty = ty → wtStmt (coreTEnv P) (k b m).1 = true) →
    wtStmt (coreTEnv P) (bindTerm t k n).1 = true
private def W5 (P : Prog) (as : Args) (k : ContVec) (n : Nat) : Prop :=
  ∀ Γ sig, as.check P Γ sig = true → as.strict P = true →
    (∀ bs m, sigMatch bs sig = true → wtStmt (coreTEnv P) (k bs m).1 = true) →
    wtStmt (coreTEnv P) (bindMany as k n).1 = true

include hxd hxc in
theorem xcase_nodup {pc : PC} {T : Ident} {d : TypeDecl}
    (hf : findDecl (if pc == .prd then P.codataTypes else P.dataTypes) T = some d) :
    (d.xtors.map (·.name)).Nodup := by
  cases pc
  · exact xtors_nodup_of_find hxc (by simpa using hf)
  · exact xtors_nodup_of_find hxd (by simpa using hf)

include hd hxd hxc in
theorem focusStmt_W3 (s : Stmt) (n : Nat) : W3 P s n := by
  apply focusStmt.induct (motive_1 := W1 P) (motive_2 := W2 P) (motive_3 := W3 P)
    (motive_4 := W4 P) (motive_5 := W5 P)
  -- focusTerm: var, lit, op, mu, xtor, xcase
  · intro pc v ty n Γ pc0 ty0 h _ _ _
    simp only [Term.check, Bool.and_eq_true] at h
    simp only [focusTerm, wtTerm, h.1.1, h.1.2, Bool.and_self]
  · intro k n Γ pc0 ty0 h _ _ _
    simpa only [focusTerm, wtTerm, Term.check] using h
  · intro a o b n Γ pc0 ty0 _ _ hno _
    exact absurd rfl (hno a o b)
  · intro pc v ty s n s' n1 heq ih Γ pc0 ty0 h hs _ _
    simp only [Term.check, Bool.and_eq_true] at h
    simp only [Term.strict, Bool.and_eq_true] at hs
    have := ih _ h.2 hs.2
    rw [heq] at this
    simp only [focusTerm, heq, wtTerm, h.1.1, h.1.2, this, Bool.and_self]
  · intro pc name as ty n Γ pc0 ty0 _ _ _ hnx
    exact absurd rfl (hnx pc name as ty)
  · intro pc ty cl n cl' n1 heq ih Γ pc0 ty0 h hs _ _
    obtain ⟨rfl, rfl, T, d, rfl, hf, hcl, _⟩ := Term.check_xcase h
    obtain ⟨htags, hst⟩ := xcase_strict_inv hs hf
    have := ih Γ d.xtors d.xtors hcl hst htags (findSig_of_nodup _ (xcase_nodup hxd hxc hf))
    rw [heq] at this
    simp only [focusTerm, heq]
    exact wt_xcase hd hf this
  -- bindTerm: var, lit, op, mu prd, mu cns, xtor prd, xtor cns, xcase prd, xcase cns
  · intro pc v ty k n Γ pc0 ty0 h _ hk
    simp only [Term.check, Bool.and_eq_true, beq_iff_eq] at h
    simp only [bindTerm]
    exact hk _ n h.1.1 h.1.2
  · intro i k n x n1 hfresh r n2 hkeq Γ pc0 ty0 h _ hk
    simp only [Term.check, Bool.and_eq_true, beq_iff_eq] at h
    obtain ⟨rfl, rfl⟩ := h
    have := hk ⟨x, .prd, .i64⟩ n1 rfl rfl
    rw [hkeq] at this
    simp only [bindTerm, hfresh, hkeq, wtStmt, wtTerm, tyOk, this, beq_self_eq_true, Bool.and_self]
  · intro a o b k n ih1 ih2 Γ pc0 ty0 h hs hk
    simp only [Term.check, Bool.and_eq_true, beq_iff_eq] at h
    obtain ⟨⟨⟨rfl, rfl⟩, ha⟩, hb⟩ := h
    simp only [Term.strict, Bool.and_eq_true] at hs
    simp only [bindTerm]
    apply ih2 Γ .prd .i64 ha hs.1
    intro b1 m1 _ _
    apply ih1 b1 m1 Γ .prd .i64 hb hs.2
    intro b2 m2 _ _
    have := hk ⟨(freshVar m2).1, .prd, .i64⟩ (freshVar m2).2 rfl rfl
    simp only [wtStmt, wtTerm, tyOk, this, beq_self_eq_true, Bool.and_self]
  · intro v ty s k n x n1 hfresh s' n2 hseq r n3 hkeq ih Γ pc0 ty0 h hs hk
    simp only [Term.check, Bool.and_eq_true, beq_iff_eq] at h
    obtain ⟨⟨rfl, rfl⟩, hc⟩ := h
    simp only [Term.strict, Bool.and_eq_true] at hs
    have h1 := ih _ hc hs.2
    rw [hseq] at h1
    have h2 := hk ⟨x, .prd, ty⟩ n2 rfl rfl
    rw [hkeq] at h2
    simp only [bindTerm, hfresh, hseq, hkeq, wtStmt, wtTerm, tyOk_of_declared hd hs.1, h1, h2,
      beq_self_eq_true, Bool.and_self]
  · intro v ty s k n x n1 hfresh r n2 hkeq s' n3 hseq ih Γ pc0 ty0 h hs hk
    simp only [Term.check, Bool.and_eq_true, beq_iff_eq] at h
    obtain ⟨⟨rfl, rfl⟩, hc⟩ := h
    simp only [Term.strict, Bool.and_eq_true] at hs
    have h1 := ih _ hc hs.2
    rw [hseq] at h1
    have h2 := hk ⟨x, .cns, ty⟩ n1 rfl rfl
    rw [hkeq] at h2
    simp only [bindTerm, hfresh, hseq, hkeq, wtStmt, wtTerm, tyOk_of_declared hd hs.1, h1, h2,
      beq_self_eq_true, Bool.and_self]
  · intro name as ty k n ih Γ pc0 ty0 h hs hk
    obtain ⟨rfl, rfl, T, d, sig, rfl, hf, hsig, has⟩ := Term.check_xtor h
    simp only [Term.strict] at hs
    simp only [bindTerm]
    apply ih Γ sig.args has hs
    intro bs m hm
    have h1 := hk ⟨(freshVar m).1, .prd, .decl T⟩ (freshVar m).2 rfl rfl
    have h2 := wt_xtor hd hf hsig hm
    simp only [wtStmt, wtTerm_mu, tyOk_xtor_side hd hf, h1, h2, Bool.and_self]
  · intro name as ty k n ih Γ pc0 ty0 h hs hk
    obtain ⟨rfl, rfl, T, d, sig, rfl, hf, hsig, has⟩ := Term.check_xtor h
    simp only [Term.strict] at hs
    simp only [bindTerm]
    apply ih Γ sig.args has hs
    intro bs m hm
    have h1 := hk ⟨(freshCovar m).1, .cns, .decl T⟩ (freshCovar m).2 rfl rfl
    have h2 := wt_xtor hd hf hsig hm
    simp only [wtStmt, wtTerm_mu, tyOk_xtor_side hd hf, h1, h2, Bool.and_self]
  · intro ty cl k n x n1 hfresh r n2 hkeq cl' n3 hceq ih Γ pc0 ty0 h hs hk
    obtain ⟨rfl, rfl, T, d, rfl, hf, hcl, _⟩ := Term.check_xcase h
    obtain ⟨htags, hst⟩ := xcase_strict_inv hs hf
    have h1 := ih Γ d.xtors d.xtors hcl hst htags (findSig_of_nodup _ (xcase_nodup hxd hxc hf))
    rw [hceq] at h1
    have h2 := hk ⟨x, .prd, .decl T⟩ n1 rfl rfl
    rw [hkeq] at h2
    have h3 := wt_xcase hd hf h1
    simp only [bindTerm, hfresh, hceq, hkeq, wtStmt, wtTerm_mu, tyOk_xcase_side hd hf, h2, h3,
      Bool.and_self]
  · intro ty cl k n x n1 hfresh r n2 hkeq cl' n3 hceq ih Γ pc0 ty0 h hs hk
    obtain ⟨rfl, rfl, T, d, rfl, hf, hcl, _⟩ := Term.check_xcase h
    obtain ⟨htags, hst⟩ := xcase_strict_inv hs hf
    have h1 := ih Γ d.xtors d.xtors hcl hst htags (findSig_of_nodup _ (xcase_nodup hxd hxc hf))
    rw [hceq] at h1
    have h2 := hk ⟨x, .cns, .decl T⟩ n1 rfl rfl
    rw [hkeq] at h2
    have h3 := wt_xcase hd hf h1
    simp only [bindTerm, hfresh, hceq, hkeq, wtStmt, wtTerm_mu, tyOk_xcase_side hd hf, h2, h3,
      Bool.and_self]
  -- bindMany: nil, cons
  · intro k n Γ sig h _ hk
    cases sig with
    | nil =>
      simp only [bindMany]
      exact hk [] n rfl
    | cons _ _ => simp [Args.check] at h
  · intro pc t r k n ih1 ih2 Γ sig h hs hk
    cases sig with
    | nil => simp [Args.check] at h
    | cons b0 bs0 =>
      simp only [Args.check, Bool.and_eq_true, beq_iff_eq] at h
      obtain ⟨⟨hpc, ht⟩, hr⟩ := h
      simp only [Args.strict, Bool.and_eq_true] at hs
      simp only [bindMany]
      apply ih2 Γ pc b0.ty ht hs.1
      intro b m hchi hty
      apply ih1 b m Γ bs0 hr hs.2
      intro bs m2 hm
      apply hk
      simp only [sigMatch, hchi, hpc, hty, hm, beq_self_eq_true, Bool.and_self]
  -- focusClauses: nil, cons
  · intro n Γ all sigs _ _ htags _
    cases sigs with
    | nil => simp only [focusClauses, wtClauses]
    | cons _ _ => simp [Clauses.tags] at htags
  · intro x ctx b r n b' n1 hb r' n2 hr ihb ihr Γ all sigs h hs htags hall
    cases sigs with
    | nil => simp [Clauses.tags] at htags
    | cons s0 rest =>
      simp only [Clauses.tags, List.map_cons, List.cons.injEq] at htags
      obtain ⟨rfl, htags⟩ := htags
      simp only [Clauses.check, Bool.and_eq_true] at h
      obtain ⟨⟨hm, hbc⟩, hrc⟩ := h
      rw [hall s0 (List.mem_cons_self ..)] at hm
      simp only [ctxMatches_eq_sigMatch] at hm
      simp only [Clauses.strict, Bool.and_eq_true] at hs
      have h1 := ihb _ hbc hs.1
      rw [hb] at h1
      have h2 := ihr Γ all rest hrc hs.2 htags (fun s hs => hall s (List.mem_cons_of_mem _ hs))
      rw [hr] at h2
      simp only [focusClauses, hb, hr, wtClauses, hm, h1, h2, beq_self_eq_true, Bool.and_self]
  -- focusStmt: cut (four arms)
  · intro ty pc name as ty1 c n ihc ih5 Γ h hs
    simp only [Stmt.check, Bool.and_eq_true] at h
    obtain ⟨hp, hc⟩ := h
    simp only [Stmt.strict, Term.strict, Bool.and_eq_true] at hs
    obtain ⟨rfl, rfl, T, d, sig, rfl, hf, hsig, has⟩ := Term.check_xtor hp
    simp only [focusStmt]
    apply ih5 Γ sig.args has hs.1.2
    intro bs m hm
    have hnx : ∀ pc n as ty, c ≠ .xtor pc n as ty := by
      intro pc2 n2 as2 t2 e
      subst e
      exact xtor_xtor_false hd hp hc
    have h1 := ihc m Γ .cns (.decl T) hc hs.2 (cns_not_op hc) hnx
    have h2 := wt_xtor hd hf hsig hm
    simp only [wtStmt, tyOk_xtor_side hd hf, h1, h2, Bool.and_self]
  · intro ty p dpc name as ty1 n hnx ihp ih5 Γ h hs
    simp only [Stmt.check, Bool.and_eq_true] at h
    obtain ⟨hp, hc⟩ := h
    simp only [Stmt.strict, Term.strict, Bool.and_eq_true] at hs
    obtain ⟨rfl, rfl, T, d, sig, rfl, hf, hsig, has⟩ := Term.check_xtor hc
    rw [focusStmt.eq_2 _ _ _ _ _ _ _ hnx]
    apply ih5 Γ sig.args has hs.2
    intro bs m hm
    have hnop : ∀ a o b, p ≠ .op a o b := by
      intro a o b e
      subst e
      simp [Term.check] at hp
    have h1 := ihp m Γ .prd (.decl T) hp hs.1.2 hnop hnx
    have h2 := wt_xtor hd hf hsig hm
    simp only [wtStmt, tyOk_xtor_side hd hf, h1, h2, Bool.and_self]
  · intro ty a o b c n hnx ihc ih1 ih2 Γ h hs
    simp only [Stmt.check, Term.check, Bool.and_eq_true, beq_iff_eq] at h
    obtain ⟨⟨⟨⟨_, rfl⟩, ha⟩, hb⟩, hc⟩ := h
    simp only [Stmt.strict, Term.strict, Bool.and_eq_true] at hs
    rw [focusStmt.eq_3 _ _ _ _ _ _ hnx]
    apply ih2 Γ .prd .i64 ha hs.1.2.1
    intro b1 m1 _ _
    apply ih1 b1 m1 Γ .prd .i64 hb hs.1.2.2
    intro b2 m2 _ _
    have h1 := ihc m2 Γ .cns .i64 hc hs.2 (cns_not_op hc) hnx
    simp only [wtStmt, wtTerm, tyOk, h1, beq_self_eq_true, Bool.and_self]
  · intro ty p c n hnp hnc hnop p' n1 hp c' n2 hc ihp ihc Γ h hs
    simp only [Stmt.check, Bool.and_eq_true] at h
    simp only [Stmt.strict, Bool.and_eq_true] at hs
    rw [focusStmt.eq_4 _ _ _ _ hnp hnc hnop]
    have h1 := ihp Γ .prd ty h.1 hs.1.2 hnop hnp
    have h2 := ihc Γ .cns ty h.2 hs.2 (cns_not_op h.2) hnc
    rw [hp] at h1
    rw [hc] at h2
    simp only [hp, hc, wtStmt, tyOk_of_declared hd hs.1.1, h1, h2, Bool.and_self]
  -- focusStmt: ifc, ifz, print, call, exit
  · intro srt a b t e n iht ihe ih1 ih2 Γ h hs
    simp only [Stmt.check, Bool.and_eq_true] at h
    obtain ⟨⟨⟨ha, hb⟩, ht⟩, he⟩ := h
    simp only [Stmt.strict, Bool.and_eq_true] at hs
    obtain ⟨⟨⟨sa, sb⟩, st⟩, se⟩ := hs
    simp only [focusStmt]
    apply ih2 Γ .prd .i64 ha sa
    intro b1 m1 _ _
    apply ih1 b1 m1 Γ .prd .i64 hb sb
    intro b2 m2 _ _
    have h1 := iht m2 Γ ht st
    have h2 := ihe (focusStmt t m2).2 Γ he se
    simp only [wtStmt, h1, h2, Bool.and_self]
  · intro srt a t e n iht ihe ih1 Γ h hs
    simp only [Stmt.check, Bool.and_eq_true] at h
    obtain ⟨⟨ha, ht⟩, he⟩ := h
    simp only [Stmt.strict, Bool.and_eq_true] at hs
    obtain ⟨⟨sa, st⟩, se⟩ := hs
    simp only [focusStmt]
    apply ih1 Γ .prd .i64 ha sa
    intro b1 m1 _ _
    have h1 := iht m1 Γ ht st
    have h2 := ihe (focusStmt t m1).2 Γ he se
    simp only [wtStmt, h1, h2, Bool.and_self]
  · intro nl a nx n ihn ih1 Γ h hs
    simp only [Stmt.check, Bool.and_eq_true] at h
    simp only [Stmt.strict, Bool.and_eq_true] at hs
    simp only [focusStmt]
    apply ih1 Γ .prd .i64 h.1 hs.1
    intro b1 m1 _ _
    have h1 := ihn m1 Γ h.2 hs.2
    simp only [wtStmt, h1]
  · intro f as ty n ih5 Γ h hs
    simp only [Stmt.check] at h
    simp only [Stmt.strict] at hs
    split at h
    · simp at h
    · rename_i d hfd
      simp only [focusStmt]
      apply ih5 Γ d.ctx h hs
      intro bs m hm
      simp only [wtStmt, findSig_defs hfd, hm]
  · intro a ty n ih4 Γ h hs
    simp only [Stmt.check] at h
    simp only [Stmt.strict] at hs
    simp only [focusStmt]
    apply ih4 Γ .prd .i64 h hs
    intro b m _ _
    simp only [wtStmt]

end

/-- **static focusing maps Core-well-typed, strict statements to shape-typed focused statements** -/
theorem focusStmt_wt {P : Prog} (hd : Scc.Pipeline.typesDisjoint P = true)
    (hxd : ∀ d ∈ P.dataTypes, d.xtorsDistinct = true) (hxc : ∀ d ∈ P.codataTypes, d.xtorsDistinct = true)
    (s : Stmt) (n : Nat) (Γ : Ctx) :
    s.check P Γ = true → s.strict P = true →
    Core2AxCut.wtStmt (coreTEnv P) (focusStmt s n).1 = true :=
  fun h hs => focusStmt_W3 hd hxd hxc s n Γ h hs

/-! ## non-vacuity: a program with a data type, a constructor call and a case -/

private def exList : Ident := ⟨"List", 0⟩
private def exProg : Prog :=
  { defs := [⟨⟨"main", 0⟩, [],
      .cut (.decl exList)
        (.xtor .prd ⟨"Cons", 0⟩ (.cons .prd (.op (.lit 1) .sum (.lit 2))
          (.cons .prd (.xtor .prd ⟨"Nil", 0⟩ .nil (.decl exList)) .nil)) (.decl exList))
        (.xcase .cns (.decl exList)
          (.cons ⟨"Nil", 0⟩ [] (.exit (.lit 0) .i64)
          (.cons ⟨"Cons", 0⟩ [⟨⟨"x", 1⟩, .prd, .i64⟩, ⟨⟨"xs", 2⟩, .prd, .decl exList⟩]
            (.exit (.var .prd ⟨"x", 1⟩ .i64) .i64) .nil)))⟩],
    dataTypes := [⟨exList, [⟨⟨"Nil", 0⟩, []⟩,
      ⟨⟨"Cons", 0⟩, [⟨⟨"x", 0⟩, .prd, .i64⟩, ⟨⟨"xs", 0⟩, .prd, .decl exList⟩]⟩]⟩],
    codataTypes := [⟨⟨"Fun", 0⟩, [⟨⟨"Ap", 0⟩, [⟨⟨"x", 0⟩, .prd, .i64⟩, ⟨⟨"a", 0⟩, .cns, .i64⟩]⟩]⟩],
    maxId := 2 }

example : typesDisjoint exProg = true ∧ (∀ d ∈ exProg.dataTypes, d.xtorsDistinct = true) ∧
    (∀ d ∈ exProg.codataTypes, d.xtorsDistinct = true) ∧
    (∀ d ∈ exProg.defs, d.body.check exProg d.ctx = true ∧ d.body.strict exProg = true) := by
  decide

/-- the theorem applied to the example -/
example : ∀ d ∈ exProg.defs, wtStmt (coreTEnv exProg) (focusStmt d.body exProg.maxId).1 = true :=
  fun d hm => focusStmt_wt (by decide) (by decide) (by decide) d.body _ d.ctx
    ((by decide : ∀ d ∈ exProg.defs, d.body.check exProg d.ctx = true) d hm)
    ((by decide : ∀ d ∈ exProg.defs, d.body.strict exProg = true) d hm)


end Scc.Core
