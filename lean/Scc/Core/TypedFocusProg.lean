/-
  Scc.Core.TypedFocusProg — proof file: **uniquify + focus preserve typing** (the link `C12_link_focus`).
  For a Core program `q` that is well-typed (`Prog.wellTyped`), whose binders all carry id 0 and whose
  occurrence ids are `≤ maxId` (three of the four fields of `Input`, Scc/Props/C03.lean), in which no name is both a data and a codata type
  (`typesDisjoint`) and which satisfies the decidable side condition `Prog.strictOk`
  (Scc/Core/TypedStrict.lean: clauses in declaration order, cut / μ types declared, no type `_Cont`,
  xtor names of a declaration distinct):
      `wtFsScopedCheck (focusProg q) = true`            (`focusProg_wtFsScoped`)
  in particular `wtFsCheck (focusProg q) = true` (`focusProg_wtFs`, the hypothesis of `C04_no_panic`).
  Pieces: Scc/Core/TypedUniquify.lean (uniquify preserves `wellTyped` and `strictOk`),
  Scc/Core/TypedFocusWt.lean (`focusStmt_wt`: shape typing), Scc/Core/TypedFocusSc.lean
  (`focusStmt_sc`: scoping), and the facts of C03 about the uniquified program (`uniquifyDefs_within`:
  parameters and binders pairwise distinct, `uniquifyProg_alpha`: all identifiers `≤` the counter).

  At the end: the four requirements of `strictOk` just listed are NECESSARY (model-level counterexamples; none of
  them is producible by the pipeline: the front end orders clauses, rejects duplicate constructor
  names, knows no type `_Cont`, and annotates declared types only), and a non-trivial program
  satisfying all hypotheses.
-/
import Scc.Core.TypedUniquify
import Scc.Core.TypedFocusWt
import Scc.Core.TypedFocusSc
import Scc.Core.ProofsUniqueC
import Scc.Core.ProofsAlphaB

namespace Scc.Core

open Scc.Core2AxCut (wtStmt scStmt wtFsCheck wtFsScopedCheck noContName progTEnv)

/-! ## `focusOnly`: definitions keep their names and parameters -/

theorem focusDefs_sigs : ∀ (ds : List Def) (n : Nat),
    (focusDefs ds n).1.map (fun d => (d.name, d.ctx)) = ds.map (fun d => (d.name, d.ctx))
  | [], n => by simp [focusDefs]
  | d :: r, n => by simp [focusDefs, focusDef, focusDefs_sigs r]

theorem progTEnv_focusOnly (P : Prog) : progTEnv (focusOnly P) = coreTEnv P := by
  simp only [progTEnv, focusOnly, coreTEnv, focusDefs_sigs]

theorem noContName_focusOnly (P : Prog) (hs : P.strictOk = true) :
    noContName (focusOnly P) = true := by
  simp only [Prog.strictOk, Bool.and_eq_true] at hs
  simp only [noContName, focusOnly, Bool.and_eq_true]
  exact ⟨hs.1.1.1.1, hs.1.1.1.2⟩

theorem focusDefs_wt {P : Prog} (hd : Scc.Pipeline.typesDisjoint P = true)
    (hxd : ∀ d ∈ P.dataTypes, d.xtorsDistinct = true)
    (hxc : ∀ d ∈ P.codataTypes, d.xtorsDistinct = true) : ∀ (ds : List Def) (n : Nat),
    (∀ d ∈ ds, d.body.check P d.ctx = true ∧ d.body.strict P = true) →
    ∀ d' ∈ (focusDefs ds n).1, wtStmt (coreTEnv P) d'.body = true
  | [], n, _ => by simp [focusDefs]
  | d :: r, n, h => by
    intro d' hd'
    simp only [focusDefs, List.mem_cons] at hd'
    rcases hd' with rfl | hd'
    · simp only [focusDef]
      exact focusStmt_wt hd hxd hxc d.body n d.ctx (h d (by simp)).1 (h d (by simp)).2
    · exact focusDefs_wt hd hxd hxc r _ (fun d0 hd0 => h d0 (by simp [hd0])) d' hd'

/-- static focusing of a well-typed, strict program (any ids) gives a shape-typed program -/
theorem focusOnly_wtFs (P : Prog) (ht : P.wellTyped = true)
    (hd : Scc.Pipeline.typesDisjoint P = true) (hs : P.strictOk = true) :
    wtFsCheck (focusOnly P) = true := by
  have hs' := hs
  simp only [Prog.strictOk, Bool.and_eq_true, List.all_eq_true] at hs'
  simp only [Prog.wellTyped, List.all_eq_true] at ht
  simp only [wtFsCheck, Bool.and_eq_true, List.all_eq_true, progTEnv_focusOnly]
  refine ⟨noContName_focusOnly P hs, ?_⟩
  intro d' hd'
  exact focusDefs_wt hd hs'.1.1.2 hs'.1.2 P.defs P.maxId
    (fun d hdm => ⟨ht d hdm, hs'.2 d hdm⟩) d' (by simpa only [focusOnly] using hd')

theorem typesDisjoint_uniquify (q : Prog) :
    Scc.Pipeline.typesDisjoint (uniquifyProg q) = Scc.Pipeline.typesDisjoint q := rfl

/-- **uniquify + focus give a shape-typed program** (hypothesis of `C04_no_panic`) -/
theorem focusProg_wtFs (q : Prog) (ht : q.wellTyped = true) (hz : q.BindersZero) (ho : q.OccsOld)
    (hd : Scc.Pipeline.typesDisjoint q = true) (hs : q.strictOk = true) :
    wtFsCheck (focusProg q) = true :=
  focusOnly_wtFs (uniquifyProg q) (uniquifyProg_wellTyped q ht hz ho)
    (by rw [typesDisjoint_uniquify]; exact hd) (uniquifyProg_strictOk q ht hz ho hs)

theorem focusDefs_sc (P : Prog) : ∀ (ds : List Def) (n : Nat),
    (∀ d ∈ ds, d.body.check P d.ctx = true ∧ Good n d.ctx d.body.binderIds d.body.idents) →
    ∀ d' ∈ (focusDefs ds n).1, scStmt d'.ctx d'.body = true
  | [], n, _ => by simp [focusDefs]
  | d :: r, n, h => by
    intro d' hd'
    simp only [focusDefs, List.mem_cons] at hd'
    rcases hd' with rfl | hd'
    · simp only [focusDef]
      exact focusStmt_sc P d.body n d.ctx (h d (by simp)).1 (h d (by simp)).2
    · refine focusDefs_sc P r _ (fun d0 hd0 => ?_) d' hd'
      have hh := h d0 (by simp [hd0])
      refine ⟨hh.1, hh.2.sub ?_ (List.Sublist.refl _) (fun _ hi => hi)⟩
      simp only [focusDef]
      exact focusStmt_le d.body n

/-- static focusing of a well-typed program whose parameters and binders are pairwise distinct
    (per definition) and whose identifiers are all `≤ maxId` gives a well-scoped program -/
theorem focusOnly_sc (P : Prog) (ht : P.wellTyped = true)
    (hg : ∀ d ∈ P.defs, Good P.maxId d.ctx d.body.binderIds d.body.idents) :
    (focusOnly P).defs.all (fun d => scStmt d.ctx d.body) = true := by
  simp only [Prog.wellTyped, List.all_eq_true] at ht
  simp only [List.all_eq_true]
  intro d' hd'
  exact focusDefs_sc P P.defs P.maxId (fun d hdm => ⟨ht d hdm, hg d hdm⟩) d'
    (by simpa only [focusOnly] using hd')

/-- the uniquified program: parameters and binders of a definition pairwise distinct, all
    identifiers `≤` the counter (facts of C03) -/
theorem uniquifyProg_good (q : Prog) (ht : q.wellTyped = true) (hz : q.BindersZero)
    (ho : q.OccsOld) :
    ∀ d ∈ (uniquifyProg q).defs,
      Good (uniquifyProg q).maxId d.ctx d.body.binderIds d.body.idents := by
  intro d hd
  have hw := (uniquifyDefs_within q.defs q.maxId hz).2 d (by simpa only [uniquifyProg] using hd)
  have hi := (uniquifyProg_alpha q (uniqInput_of_typed q ht hz ho)).2 d hd
  unfold Within Def.ids at hw
  exact ⟨hw.1, fun i hi' => (hw.2 i hi').2, hi⟩

/-- **uniquify + focus preserve typing**: the focused program passes the scoped shape typing
    (`C12_link_focus` for every C03 input with disjoint type names satisfying `strictOk`) -/
theorem focusProg_wtFsScoped (q : Prog) (ht : q.wellTyped = true) (hz : q.BindersZero)
    (ho : q.OccsOld) (hd : Scc.Pipeline.typesDisjoint q = true) (hs : q.strictOk = true) :
    wtFsScopedCheck (focusProg q) = true := by
  simp only [wtFsScopedCheck, Bool.and_eq_true]
  exact ⟨focusProg_wtFs q ht hz ho hd hs,
    focusOnly_sc (uniquifyProg q) (uniquifyProg_wellTyped q ht hz ho) (uniquifyProg_good q ht hz ho)⟩

/-! ## the four requirements of `strictOk` are necessary; non-vacuity

Model-level counterexamples: each program below satisfies every hypothesis of `focusProg_wtFsScoped`
except ONE conjunct of `strictOk`, and its focused form fails `wtFsScopedCheck` (even `wtFsCheck`).
None of them is producible by the pipeline (fun2core emits clauses in declaration order, the checker
rejects duplicate constructor names, `_Cont` is not a Fun identifier, only declared types occur). -/

namespace TypedEx

def T : Ident := ⟨"T", 0⟩
def U : Ident := ⟨"U", 0⟩
def mainI : Ident := ⟨"main", 0⟩
def exit0 : Stmt := .exit (.lit 0) .i64

/-- (1) clauses not in declaration order: `⟨A | case { B ⇒ exit 0, A ⇒ exit 0 }⟩` -/
def qOrder : Prog :=
  { defs := [⟨mainI, [],
      .cut (.decl T) (.xtor .prd ⟨"A", 0⟩ .nil (.decl T))
        (.xcase .cns (.decl T) (.cons ⟨"B", 0⟩ [] exit0 (.cons ⟨"A", 0⟩ [] exit0 .nil)))⟩],
    dataTypes := [⟨T, [⟨⟨"A", 0⟩, []⟩, ⟨⟨"B", 0⟩, []⟩]⟩], codataTypes := [], maxId := 0 }

/-- (2) a cut (and two μ-annotations) at an undeclared type: `⟨μa. exit 0 | μ~x. exit 0⟩ : U` -/
def qUndecl : Prog :=
  { defs := [⟨mainI, [],
      .cut (.decl U) (.mu .prd ⟨"a", 0⟩ (.decl U) exit0) (.mu .cns ⟨"x", 0⟩ (.decl U) exit0)⟩],
    dataTypes := [], codataTypes := [], maxId := 0 }

/-- (3) a type called `_Cont` -/
def qCont : Prog :=
  { defs := [⟨mainI, [], exit0⟩], dataTypes := [⟨⟨"_Cont", 0⟩, []⟩], codataTypes := [], maxId := 0 }

/-- (4) two xtors of the same name: `data T { A(x : i64), A }`,
    `⟨A(5) | case { A(x) ⇒ exit 0, A(y) ⇒ exit 0 }⟩` -/
def qDup : Prog :=
  { defs := [⟨mainI, [],
      .cut (.decl T) (.xtor .prd ⟨"A", 0⟩ (.cons .prd (.lit 5) .nil) (.decl T))
        (.xcase .cns (.decl T)
          (.cons ⟨"A", 0⟩ [⟨⟨"x", 0⟩, .prd, .i64⟩] exit0
            (.cons ⟨"A", 0⟩ [⟨⟨"y", 0⟩, .prd, .i64⟩] exit0 .nil)))⟩],
    dataTypes := [⟨T, [⟨⟨"A", 0⟩, [⟨⟨"x", 0⟩, .prd, .i64⟩]⟩, ⟨⟨"A", 0⟩, []⟩]⟩],
    codataTypes := [], maxId := 0 }

/-- the hypotheses of `focusProg_wtFsScoped` other than `strictOk` -/
def OtherHyps (q : Prog) : Prop :=
  q.wellTyped = true ∧ q.BindersZero ∧ q.OccsOld ∧ Scc.Pipeline.typesDisjoint q = true

instance (q : Prog) : Decidable (OtherHyps q) := by
  unfold OtherHyps Prog.BindersZero Prog.OccsOld; infer_instance

/-- the conjuncts of `strictOk`: no `_Cont`, distinct xtor names, strict bodies -/
def strictParts (q : Prog) : Bool × Bool × Bool :=
  (!(q.dataTypes.any fun t => t.name == ⟨"_Cont", 0⟩) &&
      !(q.codataTypes.any fun t => t.name == ⟨"_Cont", 0⟩),
   q.dataTypes.all TypeDecl.xtorsDistinct && q.codataTypes.all TypeDecl.xtorsDistinct,
   q.defs.all fun d => d.body.strict q)

theorem qOrder_uniq : uniquifyProg qOrder = qOrder := by
  simp [uniquifyProg, qOrder, uniquifyDefs, uniquifyDef, uniquifyCtx, substIfAny, uniquifyStmt,
    uniquifyTerm, uniquifyArgs, uniquifyClauses, exit0]

theorem qUndecl_uniq : uniquifyProg qUndecl =
    { qUndecl with
      defs := [⟨mainI, [], .cut (.decl U) (.mu .prd ⟨"a", 1⟩ (.decl U) exit0)
        (.mu .cns ⟨"x", 2⟩ (.decl U) exit0)⟩], maxId := 2 } := by
  simp [uniquifyProg, qUndecl, uniquifyDefs, uniquifyDef, uniquifyCtx, substIfAny, uniquifyStmt,
    uniquifyTerm, freshIdentifier, substStmt, substTerm, exit0]

theorem qCont_uniq : uniquifyProg qCont = qCont := by
  simp [uniquifyProg, qCont, uniquifyDefs, uniquifyDef, uniquifyCtx, substIfAny, uniquifyStmt,
    uniquifyTerm, exit0]

theorem qDup_uniq : uniquifyProg qDup =
    { qDup with
      defs := [⟨mainI, [],
        .cut (.decl T) (.xtor .prd ⟨"A", 0⟩ (.cons .prd (.lit 5) .nil) (.decl T))
          (.xcase .cns (.decl T)
            (.cons ⟨"A", 0⟩ [⟨⟨"x", 1⟩, .prd, .i64⟩] exit0
              (.cons ⟨"A", 0⟩ [⟨⟨"y", 2⟩, .prd, .i64⟩] exit0 .nil)))⟩], maxId := 2 } := by
  simp [uniquifyProg, qDup, uniquifyDefs, uniquifyDef, uniquifyCtx, substIfAny, uniquifyStmt,
    uniquifyTerm, uniquifyArgs, uniquifyClauses, freshIdentifier, substStmt, substTerm,
    exit0]

/-- a program satisfying all hypotheses of `focusProg_wtFsScoped` (all ids 0):
    `def main() { ⟨Cons(1 + 2, Nil) | case { Nil ⇒ exit 0, Cons(x, xs) ⇒ f(x + 1; μ~r. exit r) }⟩ }`
    `def f(n; k) { print n; ⟨n | k⟩ }` — a case with two clauses, a constructor call with non-variable
    arguments, a call with non-variable arguments -/
def exPos : Prog :=
  let L : Ident := ⟨"List", 0⟩
  let x : Ident := ⟨"x", 0⟩
  let n : Ident := ⟨"n", 0⟩
  let k : Ident := ⟨"k", 0⟩
  let r : Ident := ⟨"r", 0⟩
  { defs := [
      ⟨⟨"main", 0⟩, [],
        .cut (.decl L)
          (.xtor .prd ⟨"Cons", 0⟩
            (.cons .prd (.op (.lit 1) .sum (.lit 2))
              (.cons .prd (.xtor .prd ⟨"Nil", 0⟩ .nil (.decl L)) .nil)) (.decl L))
          (.xcase .cns (.decl L)
            (.cons ⟨"Nil", 0⟩ [] (.exit (.lit 0) .i64)
              (.cons ⟨"Cons", 0⟩ [⟨x, .prd, .i64⟩, ⟨⟨"xs", 0⟩, .prd, .decl L⟩]
                (.call ⟨"f", 0⟩
                  (.cons .prd (.op (.var .prd x .i64) .sum (.lit 1))
                    (.cons .cns (.mu .cns r .i64 (.exit (.var .prd r .i64) .i64)) .nil)) .i64)
                .nil)))⟩,
      ⟨⟨"f", 0⟩, [⟨n, .prd, .i64⟩, ⟨k, .cns, .i64⟩],
        .print true (.var .prd n .i64) (.cut .i64 (.var .prd n .i64) (.var .cns k .i64))⟩],
    dataTypes := [⟨L, [⟨⟨"Nil", 0⟩, []⟩,
      ⟨⟨"Cons", 0⟩, [⟨x, .prd, .i64⟩, ⟨⟨"xs", 0⟩, .prd, .decl L⟩]⟩]⟩],
    codataTypes := [], maxId := 0 }
end TypedEx
open TypedEx

/-- (1) only the clause order is wrong, and the focused program is ill-typed -/
example : OtherHyps qOrder ∧ strictParts qOrder = (true, true, false) ∧
    wtFsScopedCheck (focusProg qOrder) = false := by
  refine ⟨by decide, by decide, ?_⟩
  rw [focusProg, qOrder_uniq]; decide

/-- (2) only the cut / μ types are undeclared -/
example : OtherHyps qUndecl ∧ strictParts qUndecl = (true, true, false) ∧
    wtFsScopedCheck (focusProg qUndecl) = false := by
  refine ⟨by decide, by decide, ?_⟩
  rw [focusProg, qUndecl_uniq]; decide

/-- (3) only the type name `_Cont` is wrong -/
example : OtherHyps qCont ∧ strictParts qCont = (false, true, true) ∧
    wtFsScopedCheck (focusProg qCont) = false := by
  refine ⟨by decide, by decide, ?_⟩
  rw [focusProg, qCont_uniq]; decide

/-- (4) only the xtor names of `T` are not distinct (the tags ARE the declared names, in order) -/
example : OtherHyps qDup ∧ strictParts qDup = (true, false, true) ∧
    wtFsScopedCheck (focusProg qDup) = false := by
  refine ⟨by decide, by decide, ?_⟩
  rw [focusProg, qDup_uniq]; decide

example : exPos.wellTyped = true ∧ exPos.BindersZero ∧ exPos.OccsOld ∧
    Scc.Pipeline.typesDisjoint exPos = true ∧ exPos.strictOk = true := by
  unfold Prog.BindersZero Prog.OccsOld
  decide

/-- the theorem applied to it -/
example : wtFsScopedCheck (focusProg exPos) = true :=
  focusProg_wtFsScoped exPos (by decide) (by unfold Prog.BindersZero; decide)
    (by unfold Prog.OccsOld; decide) (by decide) (by decide)

end Scc.Core
