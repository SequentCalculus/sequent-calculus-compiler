/-
  Scc.Core.ProofsFocusSimA — the simulation relation between the ς-machine on an (unfocused) Core
  program and the focused machine on a focused program:
    code:    the focused statement is α-equivalent to `focus` of the unfocused one at SOME counter
             above its generated names (`focus` is independent of the counter up to α, `focusStmt_cong`),
             relative to the key lists of the two environments;
    values:  pointwise, closures by the code relation under their own environments.
  The relation is indexed by the ς-counter `k` of the specification machine (all ς-names of the
  unfocused side are below `k`).
-/
import Scc.Core.ProofsSigmaFocus

namespace Scc.Core
namespace FocusSim

def keys {S C : Type} (ρ : Env S C) : List Ident := ρ.map Prod.fst

@[simp] theorem keys_nil {S C : Type} : keys ([] : Env S C) = [] := rfl
@[simp] theorem keys_cons {S C : Type} (x : Ident) (v : Val S C) (ρ : Env S C) :
    keys ((x, v) :: ρ) = x :: keys ρ := rfl

/-- every ς-name of the list has a number below `k` -/
def SigLt (k : Nat) (l : List Ident) : Prop := ∀ i ∈ l, i.name = "ς" → i.id < k

theorem SigLt.mono {k k' : Nat} {l : List Ident} (h : SigLt k l) (hk : k ≤ k') : SigLt k' l :=
  fun i hi hn => Nat.lt_of_lt_of_le (h i hi hn) hk

@[simp] theorem SigLt_append (k : Nat) (a b : List Ident) :
    SigLt k (a ++ b) ↔ SigLt k a ∧ SigLt k b := by
  simp only [SigLt, List.mem_append]
  constructor
  · intro h; exact ⟨fun i hi => h i (Or.inl hi), fun i hi => h i (Or.inr hi)⟩
  · rintro ⟨h1, h2⟩ i (hi | hi)
    · exact h1 i hi
    · exact h2 i hi

@[simp] theorem SigLt_cons (k : Nat) (a : Ident) (b : List Ident) :
    SigLt k (a :: b) ↔ (a.name = "ς" → a.id < k) ∧ SigLt k b := by
  simp [SigLt]

@[simp] theorem SigLt_nil (k : Nat) : SigLt k [] := by simp [SigLt]

/-- the unfocused statement is acceptable to `focus` and its ς-names are below `k` -/
structure OKS (k : Nat) (s : Stmt) : Prop where
  cuts : s.cutsOk = true
  pcs : s.pcOk = true
  sig : SigLt k s.idents

structure OKC (k : Nat) (cl : Clauses) : Prop where
  cuts : cl.cutsOk = true
  pcs : cl.pcOk = true
  sig : SigLt k cl.idents

theorem OKS.mono {k k' : Nat} {s : Stmt} (h : OKS k s) (hk : k ≤ k') : OKS k' s :=
  ⟨h.cuts, h.pcs, h.sig.mono hk⟩
theorem OKC.mono {k k' : Nat} {s : Clauses} (h : OKC k s) (hk : k ≤ k') : OKC k' s :=
  ⟨h.cuts, h.pcs, h.sig.mono hk⟩

/-- `s2` (in scope `sc2`) is the focused form of `s1` (in scope `sc1`) -/
structure CodeS (k : Nat) (sc1 : List Ident) (s1 : Stmt) (sc2 : List Ident) (s2 : FsStmt) :
    Prop where
  ok : OKS k s1
  foc : ∃ n, FreshL n s1.idents ∧ dbS sc1 (focusStmt s1 n).1.embed = dbS sc2 s2.embed

structure CodeC (k : Nat) (sc1 : List Ident) (c1 : Clauses) (sc2 : List Ident) (c2 : FsClauses) :
    Prop where
  ok : OKC k c1
  foc : ∃ n, FreshL n c1.idents ∧ dbC sc1 (focusClauses c1 n).1.embed = dbC sc2 c2.embed

theorem CodeS.mono {k k' sc1 s1 sc2 s2} (h : CodeS k sc1 s1 sc2 s2) (hk : k ≤ k') :
    CodeS k' sc1 s1 sc2 s2 := ⟨h.ok.mono hk, h.foc⟩
theorem CodeC.mono {k k' sc1 s1 sc2 s2} (h : CodeC k sc1 s1 sc2 s2) (hk : k ≤ k') :
    CodeC k' sc1 s1 sc2 s2 := ⟨h.ok.mono hk, h.foc⟩

mutual
  inductive VR (k : Nat) : CVal → FVal → Prop
    | int (n) : VR k (.int n) (.int n)
    | con (c) {vs vs'} : VsR k vs vs' → VR k (.con c vs) (.con c vs')
    | cocase {ρ ρ' cl cl'} : ER k ρ ρ' → CodeC k (keys ρ) cl (keys ρ') cl' →
        VR k (.cocase ρ cl) (.cocase ρ' cl')
    | thunk {ρ ρ' a a' s s'} : ER k ρ ρ' → CodeS k (a :: keys ρ) s (a' :: keys ρ') s' →
        VR k (.thunk ρ a s) (.thunk ρ' a' s')
    | dtor (d) {vs vs'} : VsR k vs vs' → VR k (.dtor d vs) (.dtor d vs')
    | case {ρ ρ' cl cl'} : ER k ρ ρ' → CodeC k (keys ρ) cl (keys ρ') cl' →
        VR k (.case ρ cl) (.case ρ' cl')
    | mutilde {ρ ρ' x x' s s'} : ER k ρ ρ' → CodeS k (x :: keys ρ) s (x' :: keys ρ') s' →
        VR k (.mutilde ρ x s) (.mutilde ρ' x' s')
    | halt : VR k .halt .halt
  inductive VsR (k : Nat) : List CVal → List FVal → Prop
    | nil : VsR k [] []
    | cons {v v' vs vs'} : VR k v v' → VsR k vs vs' → VsR k (v :: vs) (v' :: vs')
  inductive ER (k : Nat) : CEnv → FEnv → Prop
    | nil : ER k [] []
    | cons (x x') {v v' ρ ρ'} : VR k v v' → ER k ρ ρ' → ER k ((x, v) :: ρ) ((x', v') :: ρ')
end

mutual
  theorem VR.mono {k k' : Nat} (hk : k ≤ k') : ∀ {v w}, VR k v w → VR k' v w
    | _, _, .int n => .int n
    | _, _, .con c h => .con c (VsR.mono hk h)
    | _, _, .cocase he hc => .cocase (ER.mono hk he) (hc.mono hk)
    | _, _, .thunk he hc => .thunk (ER.mono hk he) (hc.mono hk)
    | _, _, .dtor d h => .dtor d (VsR.mono hk h)
    | _, _, .case he hc => .case (ER.mono hk he) (hc.mono hk)
    | _, _, .mutilde he hc => .mutilde (ER.mono hk he) (hc.mono hk)
    | _, _, .halt => .halt
  theorem VsR.mono {k k' : Nat} (hk : k ≤ k') : ∀ {v w}, VsR k v w → VsR k' v w
    | _, _, .nil => .nil
    | _, _, .cons h1 h2 => .cons (VR.mono hk h1) (VsR.mono hk h2)
  theorem ER.mono {k k' : Nat} (hk : k ≤ k') : ∀ {v w}, ER k v w → ER k' v w
    | _, _, .nil => .nil
    | _, _, .cons x x' h1 h2 => .cons x x' (VR.mono hk h1) (ER.mono hk h2)
end

theorem _root_.Scc.Core.DVar.shift_inj {a b : DVar} (h : a.shift 0 1 = b.shift 0 1) : a = b := by
  cases a <;> cases b <;> simp [DVar.shift] at h ⊢ <;> exact h

theorem _root_.Scc.Core.DVar.shift_ne_zero (a : DVar) : a.shift 0 1 ≠ .bound 0 := by
  cases a <;> simp [DVar.shift]

theorem lookup_rel {k : Nat} {ρ : CEnv} {ρ' : FEnv} (h : ER k ρ ρ') {x x' : Ident}
    (hv : dbVar (keys ρ) x = dbVar (keys ρ') x') :
    ExRel (VR k) (ρ.lookup x) (ρ'.lookup x') := by
  induction ρ generalizing ρ' with
  | nil =>
    cases h
    simp only [keys_nil, dbVar, DVar.free.injEq] at hv
    simp [Env.lookup, ExRel, hv]
  | cons e r ih =>
    cases h with
    | cons y y' hval hr =>
      simp only [keys_cons, dbVar] at hv
      simp only [Env.lookup]
      by_cases h1 : y = x <;> by_cases h2 : y' = x' <;>
        simp only [h1, h2, if_true, if_false] at hv ⊢
      · exact hval
      · exact absurd hv.symm (DVar.shift_ne_zero _)
      · exact absurd hv (DVar.shift_ne_zero _)
      · exact ih hr (DVar.shift_inj hv)

theorem lookupInt_rel {k : Nat} {ρ : CEnv} {ρ' : FEnv} (h : ER k ρ ρ') {x x' : Ident}
    (hv : dbVar (keys ρ) x = dbVar (keys ρ') x') : ρ.lookupInt x = ρ'.lookupInt x' := by
  have := lookup_rel h hv
  unfold Env.lookupInt
  cases h1 : ρ.lookup x <;> cases h2 : ρ'.lookup x' <;> simp only [h1, h2, ExRel] at this
  · simp [this]
  · cases this <;> rfl

/-- the bindings of an argument list all of whose arguments are variables -/
def _root_.Scc.Core.Args.toCtx : Args → Ctx
  | .nil => []
  | .cons _ (.var pc v ty) r => ⟨v, pc, ty⟩ :: r.toCtx
  | .cons _ _ r => r.toCtx

theorem split_none_cons {pc : PC} {t : Term} {r : Args} (h : (Args.cons pc t r).split = none) :
    (∃ p v ty, t = .var p v ty) ∧ r.split = none := by
  simp only [Args.split] at h
  split at h
  · next hv =>
    refine ⟨Term.isVar_eq hv, ?_⟩
    split at h
    · simp at h
    · assumption
  · simp at h

theorem bindMany_allVars : (as : Args) → as.split = none → ∀ k n, bindMany as k n = k as.toCtx n
  | .nil, _, k, n => by simp [bindMany, Args.toCtx]
  | .cons pc t r, h, k, n => by
    obtain ⟨⟨p, v, ty, rfl⟩, hr⟩ := split_none_cons h
    simp only [bindMany, bindTerm, Args.toCtx]
    rw [bindMany_allVars r hr]

theorem argVals_rel {k : Nat} {ρ : CEnv} {ρ' : FEnv} (h : ER k ρ ρ') :
    (as : Args) → as.split = none → ∀ bs' : Ctx,
      dbA (keys ρ) (ctxToArgs as.toCtx) = dbA (keys ρ') (ctxToArgs bs') →
      ExRel (VsR k) (argVals ρ as) (ρ'.lookupAll bs')
  | .nil, _, bs', hA => by
    cases bs' with
    | nil => simp [argVals, Env.lookupAll, ExRel, VsR.nil]
    | cons b r => simp [Args.toCtx, ctxToArgs, dbA] at hA
  | .cons pc t r, hs, bs', hA => by
    obtain ⟨⟨p, v, ty, rfl⟩, hr⟩ := split_none_cons hs
    cases bs' with
    | nil => simp [Args.toCtx, ctxToArgs, dbA] at hA
    | cons b r' =>
      simp only [Args.toCtx, ctxToArgs, dbA, dbT, DArgs.cons.injEq, DTerm.var.injEq] at hA
      have hb := lookup_rel h hA.2.1.2
      have ih := argVals_rel h r hr r' hA.2.2
      simp only [argVals, Env.lookupAll]
      cases h1 : ρ.lookup v <;> cases h2 : ρ'.lookup b.var <;> simp only [h1, h2, ExRel] at hb
      · simp [ExRel, hb]
      · cases h3 : argVals ρ r <;> cases h4 : ρ'.lookupAll r' <;>
          simp only [h3, h4, ExRel] at ih
        · simpa [ExRel] using ih
        · exact VsR.cons hb ih

theorem VsR.length {k : Nat} {vs : List CVal} {vs' : List FVal} (h : VsR k vs vs') :
    vs.length = vs'.length := by
  induction vs generalizing vs' with
  | nil => cases h; rfl
  | cons v r ih => cases h with | cons h1 h2 => simp [ih h2]

/-- binding parameters of equal number: both fail with `arity` or both succeed, related, with the
    parameter names in front of the keys -/
theorem bind_rel {k : Nat} {ρ : CEnv} {ρ' : FEnv} (h : ER k ρ ρ') :
    ∀ (ctx ctx' : Ctx) {vs vs'}, ctx.length = ctx'.length → VsR k vs vs' →
      ExRel (fun e e' => ER k e e' ∧ keys e = ctxVars ctx ++ keys ρ ∧
        keys e' = ctxVars ctx' ++ keys ρ') (ρ.bind ctx vs) (ρ'.bind ctx' vs')
  | [], [], vs, vs', _, hv => by
    cases hv <;> simp [Env.bind, ExRel, h, ctxVars]
  | [], _ :: _, _, _, hl, _ => by simp at hl
  | _ :: _, [], _, _, hl, _ => by simp at hl
  | b :: bs, b' :: bs', vs, vs', hl, hv => by
    cases hv with
    | nil => simp [Env.bind, ExRel]
    | cons hv1 hvs =>
      have := bind_rel h bs bs' (by simpa using hl) hvs
      simp only [Env.bind]
      cases h1 : Env.bind ρ bs _ <;> cases h2 : Env.bind ρ' bs' _ <;>
        simp only [h1, h2, ExRel] at this
      · simpa [ExRel] using this
      · simp only [ExRel, keys_cons, ctxVars, List.map_cons, List.cons_append]
        exact ⟨ER.cons _ _ hv1 this.1, by rw [this.2.1]; rfl, by rw [this.2.2]; rfl⟩

end FocusSim
end Scc.Core
