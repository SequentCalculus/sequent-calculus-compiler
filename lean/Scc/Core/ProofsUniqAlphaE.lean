/-
  Scc.Core.ProofsUniqAlphaE — what `uniquify` preserves besides the nameless form:
  `cutsOk` and `pcOk` are properties of the nameless form (hence α-invariant), and every identifier
  of the result carries the NAME of an identifier of the input (so no `ς` is introduced).
  Consequence: `uniquifyProg p` is itself an admissible input of the focusing simulation
  (`uniquifyProg_oks`), which gives the semantic form of "uniquify is an α-renaming".
-/
import Scc.Core.ProofsUniqAlphaD

namespace Scc.Core

/-! ## `cutsOk`, `pcOk` on nameless forms -/

mutual
  def DTerm.cutsOk : DTerm → Bool
    | .var _ _ => true
    | .lit _ => true
    | .op a _ b => a.cutsOk && b.cutsOk
    | .mu _ _ s => s.cutsOk
    | .xtor _ _ as _ => as.cutsOk
    | .xcase _ _ cl => cl.cutsOk
  def DArgs.cutsOk : DArgs → Bool
    | .nil => true
    | .cons _ t r => t.cutsOk && r.cutsOk
  def DClauses.cutsOk : DClauses → Bool
    | .nil => true
    | .cons _ _ b r => b.cutsOk && r.cutsOk
  def DStmt.cutsOk : DStmt → Bool
    | .cut _ (.xtor _ _ as _) (.xtor _ _ _ _) => as.cutsOk && false
    | .cut _ (.op _ _ _) (.xtor _ _ as _) => as.cutsOk && false
    | .cut _ p c => p.cutsOk && c.cutsOk
    | .ifc _ a b t e => a.cutsOk && b.cutsOk && t.cutsOk && e.cutsOk
    | .ifz _ a t e => a.cutsOk && t.cutsOk && e.cutsOk
    | .print _ a n => a.cutsOk && n.cutsOk
    | .call _ as _ => as.cutsOk
    | .exit a _ => a.cutsOk
end

mutual
  theorem dbT_cutsOk (sc : List Ident) : (t : Term) → (dbT sc t).cutsOk = t.cutsOk
    | .var _ _ _ => rfl
    | .lit _ => rfl
    | .op a o b => by simp [dbT, DTerm.cutsOk, Term.cutsOk, dbT_cutsOk sc a, dbT_cutsOk sc b]
    | .mu pc v ty s => by simp [dbT, DTerm.cutsOk, Term.cutsOk, dbS_cutsOk (v :: sc) s]
    | .xtor pc k as ty => by simp [dbT, DTerm.cutsOk, Term.cutsOk, dbA_cutsOk sc as]
    | .xcase pc ty cl => by simp [dbT, DTerm.cutsOk, Term.cutsOk, dbC_cutsOk sc cl]
  theorem dbA_cutsOk (sc : List Ident) : (as : Args) → (dbA sc as).cutsOk = as.cutsOk
    | .nil => rfl
    | .cons pc t r => by simp [dbA, DArgs.cutsOk, Args.cutsOk, dbT_cutsOk sc t, dbA_cutsOk sc r]
  theorem dbC_cutsOk (sc : List Ident) : (cl : Clauses) → (dbC sc cl).cutsOk = cl.cutsOk
    | .nil => rfl
    | .cons x ctx b r => by
      simp [dbC, DClauses.cutsOk, Clauses.cutsOk, dbS_cutsOk (ctxVars ctx ++ sc) b,
        dbC_cutsOk sc r]
  theorem dbS_cutsOk (sc : List Ident) : (s : Stmt) → (dbS sc s).cutsOk = s.cutsOk
    | .cut ty p c => by
      have hp := dbT_cutsOk sc p
      have hc := dbT_cutsOk sc c
      cases p <;> cases c <;>
        simp_all [dbS, dbT, DStmt.cutsOk, Stmt.cutsOk, DTerm.cutsOk, Term.cutsOk]
    | .ifc srt a b t e => by
      simp [dbS, DStmt.cutsOk, Stmt.cutsOk, dbT_cutsOk sc a, dbT_cutsOk sc b, dbS_cutsOk sc t,
        dbS_cutsOk sc e]
    | .ifz srt a t e => by
      simp [dbS, DStmt.cutsOk, Stmt.cutsOk, dbT_cutsOk sc a, dbS_cutsOk sc t, dbS_cutsOk sc e]
    | .print nl a n => by
      simp [dbS, DStmt.cutsOk, Stmt.cutsOk, dbT_cutsOk sc a, dbS_cutsOk sc n]
    | .call f as ty => by simp [dbS, DStmt.cutsOk, Stmt.cutsOk, dbA_cutsOk sc as]
    | .exit a ty => by simp [dbS, DStmt.cutsOk, Stmt.cutsOk, dbT_cutsOk sc a]
end

mutual
  def DTerm.pcOk : PC → DTerm → Bool
    | _, .var _ _ => true
    | pc, .lit _ => pc == .prd
    | pc, .op a _ b => pc == .prd && a.pcOk .prd && b.pcOk .prd
    | pc, .mu pc' _ s => pc' == pc && s.pcOk
    | pc, .xtor pc' _ as _ => pc' == pc && as.pcOk
    | pc, .xcase pc' _ cl => pc' == pc && cl.pcOk
  def DArgs.pcOk : DArgs → Bool
    | .nil => true
    | .cons pc t r => t.pcOk pc && r.pcOk
  def DClauses.pcOk : DClauses → Bool
    | .nil => true
    | .cons _ _ b r => b.pcOk && r.pcOk
  def DStmt.pcOk : DStmt → Bool
    | .cut _ p c => p.pcOk .prd && c.pcOk .cns
    | .ifc _ a b t e => a.pcOk .prd && b.pcOk .prd && t.pcOk && e.pcOk
    | .ifz _ a t e => a.pcOk .prd && t.pcOk && e.pcOk
    | .print _ a n => a.pcOk .prd && n.pcOk
    | .call _ as _ => as.pcOk
    | .exit a _ => a.pcOk .prd
end

mutual
  theorem dbT_pcOk (sc : List Ident) (pc : PC) : (t : Term) → (dbT sc t).pcOk pc = t.pcOk pc
    | .var _ _ _ => rfl
    | .lit _ => rfl
    | .op a o b => by simp [dbT, DTerm.pcOk, Term.pcOk, dbT_pcOk sc .prd a, dbT_pcOk sc .prd b]
    | .mu pc' v ty s => by simp [dbT, DTerm.pcOk, Term.pcOk, dbS_pcOk (v :: sc) s]
    | .xtor pc' k as ty => by simp [dbT, DTerm.pcOk, Term.pcOk, dbA_pcOk sc as]
    | .xcase pc' ty cl => by simp [dbT, DTerm.pcOk, Term.pcOk, dbC_pcOk sc cl]
  theorem dbA_pcOk (sc : List Ident) : (as : Args) → (dbA sc as).pcOk = as.pcOk
    | .nil => rfl
    | .cons pc t r => by simp [dbA, DArgs.pcOk, Args.pcOk, dbT_pcOk sc pc t, dbA_pcOk sc r]
  theorem dbC_pcOk (sc : List Ident) : (cl : Clauses) → (dbC sc cl).pcOk = cl.pcOk
    | .nil => rfl
    | .cons x ctx b r => by
      simp [dbC, DClauses.pcOk, Clauses.pcOk, dbS_pcOk (ctxVars ctx ++ sc) b, dbC_pcOk sc r]
  theorem dbS_pcOk (sc : List Ident) : (s : Stmt) → (dbS sc s).pcOk = s.pcOk
    | .cut ty p c => by
      simp [dbS, DStmt.pcOk, Stmt.pcOk, dbT_pcOk sc .prd p, dbT_pcOk sc .cns c]
    | .ifc srt a b t e => by
      simp [dbS, DStmt.pcOk, Stmt.pcOk, dbT_pcOk sc .prd a, dbT_pcOk sc .prd b, dbS_pcOk sc t,
        dbS_pcOk sc e]
    | .ifz srt a t e => by
      simp [dbS, DStmt.pcOk, Stmt.pcOk, dbT_pcOk sc .prd a, dbS_pcOk sc t, dbS_pcOk sc e]
    | .print nl a n => by
      simp [dbS, DStmt.pcOk, Stmt.pcOk, dbT_pcOk sc .prd a, dbS_pcOk sc n]
    | .call f as ty => by simp [dbS, DStmt.pcOk, Stmt.pcOk, dbA_pcOk sc as]
    | .exit a ty => by simp [dbS, DStmt.pcOk, Stmt.pcOk, dbT_pcOk sc .prd a]
end

theorem DefAlpha.cutsOk {d d' : Def} (h : DefAlpha d d') : d'.body.cutsOk = d.body.cutsOk := by
  rw [← dbS_cutsOk (ctxVars d'.ctx), ← dbS_cutsOk (ctxVars d.ctx), h.body]

theorem DefAlpha.pcOk {d d' : Def} (h : DefAlpha d d') : d'.body.pcOk = d.body.pcOk := by
  rw [← dbS_pcOk (ctxVars d'.ctx), ← dbS_pcOk (ctxVars d.ctx), h.body]

/-- every identifier of the list has a name satisfying `P` -/
def AllN (P : String → Prop) (l : List Ident) : Prop := ∀ i ∈ l, P i.name

@[simp] theorem AllN_nil (P : String → Prop) : AllN P [] := by simp [AllN]
@[simp] theorem AllN_append (P : String → Prop) (a b : List Ident) :
    AllN P (a ++ b) ↔ AllN P a ∧ AllN P b := by
  simp only [AllN, List.mem_append]
  constructor
  · intro h; exact ⟨fun i hi => h i (Or.inl hi), fun i hi => h i (Or.inr hi)⟩
  · rintro ⟨h1, h2⟩ i (hi | hi)
    · exact h1 i hi
    · exact h2 i hi
@[simp] theorem AllN_cons (P : String → Prop) (a : Ident) (b : List Ident) :
    AllN P (a :: b) ↔ P a.name ∧ AllN P b := by
  simp [AllN]

def Subst.RangeN (P : String → Prop) (σ : Subst) : Prop :=
  ∀ x t, substFind σ x = some t → AllN P t.idents

theorem Removed.rangeN {pre σ σ1 P} (h : Removed pre σ σ1) (hv : Subst.RangeN P σ) :
    Subst.RangeN P σ1 := fun x t hf => hv x t (h.find_some hf)

section
variable {P : String → Prop}

mutual
  theorem allN_substTerm : (t : Term) → ∀ {ps cs : Subst}, Subst.RangeN P ps →
      Subst.RangeN P cs → AllN P t.idents → AllN P (substTerm ps cs t).idents
    | .var .prd v ty, ps, cs, hp, _, hi => by
      simp only [substTerm]
      cases hf : substFind ps v with
      | none => exact hi
      | some t => exact hp v t hf
    | .var .cns v ty, ps, cs, _, hc, hi => by
      simp only [substTerm]
      cases hf : substFind cs v with
      | none => exact hi
      | some t => exact hc v t hf
    | .lit k, _, _, _, _, hi => by simpa [substTerm] using hi
    | .op a o b, ps, cs, hp, hc, hi => by
      simp only [Term.idents, AllN_append] at hi
      simp only [substTerm, Term.idents, AllN_append]
      exact ⟨allN_substTerm a hp hc hi.1, allN_substTerm b hp hc hi.2⟩
    | .mu pc v ty s, ps, cs, hp, hc, hi => by
      simp only [Term.idents, AllN_cons] at hi
      simp only [substTerm, Term.idents, AllN_cons]
      exact ⟨hi.1, allN_substStmt s ((Removed.single ps v).rangeN hp)
        ((Removed.single cs v).rangeN hc) hi.2⟩
    | .xtor pc k as ty, ps, cs, hp, hc, hi => by
      simp only [Term.idents] at hi
      simp only [substTerm, Term.idents]
      exact allN_substArgs as hp hc hi
    | .xcase pc ty cl, ps, cs, hp, hc, hi => by
      simp only [Term.idents] at hi
      simp only [substTerm, Term.idents]
      exact allN_substClauses cl hp hc hi
  theorem allN_substArgs : (as : Args) → ∀ {ps cs : Subst}, Subst.RangeN P ps →
      Subst.RangeN P cs → AllN P as.idents → AllN P (substArgs ps cs as).idents
    | .nil, _, _, _, _, _ => by simp [substArgs, Args.idents]
    | .cons pc t r, ps, cs, hp, hc, hi => by
      simp only [Args.idents, AllN_append] at hi
      simp only [substArgs, Args.idents, AllN_append]
      exact ⟨allN_substTerm t hp hc hi.1, allN_substArgs r hp hc hi.2⟩
  theorem allN_substClauses : (cl : Clauses) → ∀ {ps cs : Subst}, Subst.RangeN P ps →
      Subst.RangeN P cs → AllN P cl.idents → AllN P (substClauses ps cs cl).idents
    | .nil, _, _, _, _, _ => by simp [substClauses, Clauses.idents]
    | .cons x ctx b r, ps, cs, hp, hc, hi => by
      simp only [Clauses.idents, AllN_append] at hi
      simp only [substClauses, Clauses.idents, AllN_append]
      exact ⟨⟨hi.1.1, allN_substStmt b ((Removed.ctx ps ctx).rangeN hp)
        ((Removed.ctx cs ctx).rangeN hc) hi.1.2⟩, allN_substClauses r hp hc hi.2⟩
  theorem allN_substStmt : (s : Stmt) → ∀ {ps cs : Subst}, Subst.RangeN P ps →
      Subst.RangeN P cs → AllN P s.idents → AllN P (substStmt ps cs s).idents
    | .cut ty p c, ps, cs, hp, hc, hi => by
      simp only [Stmt.idents, AllN_append] at hi
      simp only [substStmt, Stmt.idents, AllN_append]
      exact ⟨allN_substTerm p hp hc hi.1, allN_substTerm c hp hc hi.2⟩
    | .ifc srt a b t e, ps, cs, hp, hc, hi => by
      simp only [Stmt.idents, AllN_append] at hi
      simp only [substStmt, Stmt.idents, AllN_append]
      exact ⟨⟨⟨allN_substTerm a hp hc hi.1.1.1, allN_substTerm b hp hc hi.1.1.2⟩,
        allN_substStmt t hp hc hi.1.2⟩, allN_substStmt e hp hc hi.2⟩
    | .ifz srt a t e, ps, cs, hp, hc, hi => by
      simp only [Stmt.idents, AllN_append] at hi
      simp only [substStmt, Stmt.idents, AllN_append]
      exact ⟨⟨allN_substTerm a hp hc hi.1.1, allN_substStmt t hp hc hi.1.2⟩,
        allN_substStmt e hp hc hi.2⟩
    | .print nl a nx, ps, cs, hp, hc, hi => by
      simp only [Stmt.idents, AllN_append] at hi
      simp only [substStmt, Stmt.idents, AllN_append]
      exact ⟨allN_substTerm a hp hc hi.1, allN_substStmt nx hp hc hi.2⟩
    | .call f as ty, ps, cs, hp, hc, hi => by
      simp only [Stmt.idents] at hi
      simp only [substStmt, Stmt.idents]
      exact allN_substArgs as hp hc hi
    | .exit a ty, ps, cs, hp, hc, hi => by
      simp only [Stmt.idents] at hi
      simp only [substStmt, Stmt.idents]
      exact allN_substTerm a hp hc hi
end

theorem rangeN_nil : Subst.RangeN P [] := by intro x t h; simp [substFind] at h

theorem rangeN_cons {σ : Subst} (h : Subst.RangeN P σ) (v : Ident) (pc : PC) (w : Ident) (ty : Ty)
    (hw : P w.name) : Subst.RangeN P ((v, .var pc w ty) :: σ) := by
  intro x t hf
  simp only [substFind] at hf
  split at hf
  · cases hf; simpa [Term.idents] using hw
  · exact h x t hf

theorem uniquifyCtx_names (c : Ctx) (n : Nat) (h : AllN P (ctxVars c)) :
    AllN P (ctxVars (uniquifyCtx c n).ctx) ∧ Subst.RangeN P (uniquifyCtx c n).varSubst ∧
      Subst.RangeN P (uniquifyCtx c n).covarSubst := by
  induction c generalizing n with
  | nil => exact ⟨by simp [uniquifyCtx, ctxVars], rangeN_nil, rangeN_nil⟩
  | cons b r ih =>
    simp only [ctxVars_cons, AllN_cons] at h
    simp only [uniquifyCtx, freshIdentifier]
    split
    · obtain ⟨h1, h2, h3⟩ := ih (n + 1) h.2
      split
      · exact ⟨by simp [ctxVars_cons, h.1, h1], rangeN_cons h2 _ _ _ _ h.1, h3⟩
      · exact ⟨by simp [ctxVars_cons, h.1, h1], h2, rangeN_cons h3 _ _ _ _ h.1⟩
    · obtain ⟨h1, h2, h3⟩ := ih n h.2
      exact ⟨by simp [ctxVars_cons, h.1, h1], h2, h3⟩

end

/-! ### `uniquify` introduces no new names -/

def N1 (t : Term) (n : Nat) : Prop :=
  ∀ P : String → Prop, AllN P t.idents → AllN P (uniquifyTerm t n).1.idents
def N2 (cl : Clauses) (n : Nat) : Prop :=
  ∀ P : String → Prop, AllN P cl.idents → AllN P (uniquifyClauses cl n).1.idents
def N3 (s : Stmt) (n : Nat) : Prop :=
  ∀ P : String → Prop, AllN P s.idents → AllN P (uniquifyStmt s n).1.idents
def N4 (as : Args) (n : Nat) : Prop :=
  ∀ P : String → Prop, AllN P as.idents → AllN P (uniquifyArgs as n).1.idents

theorem uniquifyStmt_names (s : Stmt) (n : Nat) : N3 s n := by
  apply uniquifyStmt.induct (motive1 := N1) (motive2 := N2) (motive3 := N3) (motive4 := N4)
  · intro n pc v ty P hi
    simpa only [uniquifyTerm] using hi
  · intro n k P hi
    simpa only [uniquifyTerm] using hi
  · intro n a o b a' n1 ha b' n2 hb iha ihb P hi
    simp only [Term.idents, AllN_append] at hi
    have h1 := iha P hi.1
    have h2 := ihb P hi.2
    rw [ha] at h1; rw [hb] at h2
    simp only [uniquifyTerm, ha, hb, Term.idents, AllN_append]
    exact ⟨h1, h2⟩
  · intro n v ty s hv newVar n1 hfresh s' n2 hs ih P hi
    simp only [freshIdentifier, Prod.mk.injEq] at hfresh
    obtain ⟨rfl, rfl⟩ := hfresh
    simp only [Term.idents, AllN_cons] at hi
    have h := ih P (allN_substStmt s rangeN_nil (rangeN_cons rangeN_nil _ _ _ _ hi.1) hi.2)
    rw [hs] at h
    simp only [uniquifyTerm, hv, freshIdentifier, hs, if_true, Term.idents, AllN_cons]
    exact ⟨hi.1, h⟩
  · intro n v ty s hv newVar n1 hfresh s' n2 hs ih P hi
    simp only [freshIdentifier, Prod.mk.injEq] at hfresh
    obtain ⟨rfl, rfl⟩ := hfresh
    simp only [Term.idents, AllN_cons] at hi
    have h := ih P (allN_substStmt s (rangeN_cons rangeN_nil _ _ _ _ hi.1) rangeN_nil hi.2)
    rw [hs] at h
    simp only [uniquifyTerm, hv, freshIdentifier, hs, if_true, Term.idents, AllN_cons]
    exact ⟨hi.1, h⟩
  · intro n pc v ty s hv s' n2 hs ih P hi
    simp only [Term.idents, AllN_cons] at hi
    have h := ih P hi.2
    rw [hs] at h
    simp only [uniquifyTerm, hv, hs, if_false, Term.idents, AllN_cons]
    exact ⟨hi.1, h⟩
  · intro n pc name as ty as' n1 has ih P hi
    simp only [Term.idents] at hi
    have h := ih P hi
    rw [has] at h
    simpa only [uniquifyTerm, has, Term.idents] using h
  · intro n pc ty cs cl' n1 hcl ih P hi
    simp only [Term.idents] at hi
    have h := ih P hi
    rw [hcl] at h
    simpa only [uniquifyTerm, hcl, Term.idents] using h
  -- clauses
  · intro n P _
    simp [uniquifyClauses, Clauses.idents]
  · intro n x ctx b r u s' n2 hs cl' n1 hr ihb ihr P hi
    simp only [u] at hs ihb
    simp only [Clauses.idents, AllN_append] at hi
    obtain ⟨c1, c2, c3⟩ := uniquifyCtx_names (P := P) ctx n hi.1.1
    rw [substIfAny_eq] at hs ihb
    have h1 := ihb P (allN_substStmt b c2 c3 hi.1.2)
    have h2 := ihr P hi.2
    rw [hs] at h1; rw [hr] at h2
    simp only [uniquifyClauses, substIfAny_eq, hs, hr, Clauses.idents, AllN_append]
    exact ⟨⟨c1, h1⟩, h2⟩
  -- statements
  · intro n ty p c p' n1 hp c' n2 hc ihp ihc P hi
    simp only [Stmt.idents, AllN_append] at hi
    have h1 := ihp P hi.1
    have h2 := ihc P hi.2
    rw [hp] at h1; rw [hc] at h2
    simp only [uniquifyStmt, hp, hc, Stmt.idents, AllN_append]
    exact ⟨h1, h2⟩
  · intro n srt a b t e a' n1 ha b' n2 hb t' n3 ht e' n4 he iha ihb iht ihe P hi
    simp only [Stmt.idents, AllN_append] at hi
    have h1 := iha P hi.1.1.1
    have h2 := ihb P hi.1.1.2
    have h3 := iht P hi.1.2
    have h4 := ihe P hi.2
    rw [ha] at h1; rw [hb] at h2; rw [ht] at h3; rw [he] at h4
    simp only [uniquifyStmt, ha, hb, ht, he, Stmt.idents, AllN_append]
    exact ⟨⟨⟨h1, h2⟩, h3⟩, h4⟩
  · intro n srt a t e a' n1 ha t' n3 ht e' n4 he iha iht ihe P hi
    simp only [Stmt.idents, AllN_append] at hi
    have h1 := iha P hi.1.1
    have h3 := iht P hi.1.2
    have h4 := ihe P hi.2
    rw [ha] at h1; rw [ht] at h3; rw [he] at h4
    simp only [uniquifyStmt, ha, ht, he, Stmt.idents, AllN_append]
    exact ⟨⟨h1, h3⟩, h4⟩
  · intro n nl a nx a' n1 ha nx' n2 hn iha ihn P hi
    simp only [Stmt.idents, AllN_append] at hi
    have h1 := iha P hi.1
    have h2 := ihn P hi.2
    rw [ha] at h1; rw [hn] at h2
    simp only [uniquifyStmt, ha, hn, Stmt.idents, AllN_append]
    exact ⟨h1, h2⟩
  · intro n f as ty as' n1 has ih P hi
    simp only [Stmt.idents] at hi
    have h := ih P hi
    rw [has] at h
    simpa only [uniquifyStmt, has, Stmt.idents] using h
  · intro n a ty a' n1 ha ih P hi
    simp only [Stmt.idents] at hi
    have h := ih P hi
    rw [ha] at h
    simpa only [uniquifyStmt, ha, Stmt.idents] using h
  -- args
  · intro n P _
    simp [uniquifyArgs, Args.idents]
  · intro n pc t r t' n1 ht r' n2 hr iht ihr P hi
    simp only [Args.idents, AllN_append] at hi
    have h1 := iht P hi.1
    have h2 := ihr P hi.2
    rw [ht] at h1; rw [hr] at h2
    simp only [uniquifyArgs, ht, hr, Args.idents, AllN_append]
    exact ⟨h1, h2⟩

theorem uniquifyDef_names (P : String → Prop) (d : Def) (n : Nat) (hc : AllN P (ctxVars d.ctx))
    (hb : AllN P d.body.idents) : AllN P (uniquifyDef d n).1.body.idents := by
  obtain ⟨_, c2, c3⟩ := uniquifyCtx_names (P := P) d.ctx n hc
  have := uniquifyStmt_names
    (substStmt (uniquifyCtx d.ctx n).varSubst (uniquifyCtx d.ctx n).covarSubst d.body)
    (uniquifyCtx d.ctx n).maxId P (allN_substStmt d.body c2 c3 hb)
  simpa only [uniquifyDef, substIfAny_eq] using this

theorem uniquifyDefs_names (P : String → Prop) : ∀ (ds : List Def) (n : Nat),
    (∀ d ∈ ds, AllN P (ctxVars d.ctx) ∧ AllN P d.body.idents) →
    ∀ d' ∈ (uniquifyDefs ds n).1, AllN P d'.body.idents
  | [], n, _ => by simp [uniquifyDefs]
  | d :: r, n, h => by
    intro d' hd'
    simp only [uniquifyDefs, List.mem_cons] at hd'
    rcases hd' with rfl | hd'
    · exact uniquifyDef_names P d n (h d (by simp)).1 (h d (by simp)).2
    · exact uniquifyDefs_names P r _ (fun d0 hd0 => h d0 (by simp [hd0])) d' hd'

theorem DefsAlpha.forall_body {Q : Def → Prop} (hQ : ∀ d d', DefAlpha d d' → Q d → Q d') :
    ∀ {ds ds' : List Def}, DefsAlpha ds ds' → (∀ d ∈ ds, Q d) → ∀ d' ∈ ds', Q d'
  | [], [], _, _ => by simp
  | [], _ :: _, h, _ => by simp [DefsAlpha] at h
  | _ :: _, [], h, _ => by simp [DefsAlpha] at h
  | d :: r, d' :: r', h, hq => by
    obtain ⟨h1, h2⟩ := h
    intro x hx
    rcases List.mem_cons.mp hx with rfl | hx
    · exact hQ d _ h1 (hq d (by simp))
    · exact DefsAlpha.forall_body hQ h2 (fun d0 hd0 => hq d0 (by simp [hd0])) x hx

open FocusSim in
/-- the uniquified program is itself an admissible input of the focusing simulation -/
theorem uniquifyProg_oks (p : Prog) (h : ∀ d ∈ p.defs, UniqInput p.maxId d)
    (hok : ∀ d ∈ p.defs, OKS 0 d.body) (hctx : ∀ d ∈ p.defs, AllN (· ≠ "ς") (ctxVars d.ctx)) :
    ∀ d' ∈ (uniquifyProg p).defs, OKS 0 d'.body := by
  obtain ⟨hα, _⟩ := uniquifyProg_alpha p h
  have hc : ∀ d' ∈ (uniquifyProg p).defs, d'.body.cutsOk = true :=
    DefsAlpha.forall_body (Q := fun d => d.body.cutsOk = true)
      (fun d d' ha hq => by rw [ha.cutsOk]; exact hq) hα (fun d hd => (hok d hd).cuts)
  have hp : ∀ d' ∈ (uniquifyProg p).defs, d'.body.pcOk = true :=
    DefsAlpha.forall_body (Q := fun d => d.body.pcOk = true)
      (fun d d' ha hq => by rw [ha.pcOk]; exact hq) hα (fun d hd => (hok d hd).pcs)
  have hn := uniquifyDefs_names (· ≠ "ς") p.defs p.maxId (fun d hd =>
    ⟨hctx d hd, fun i hi hn => by have := (hok d hd).sig i hi hn; omega⟩)
  intro d' hd'
  refine ⟨hc d' hd', hp d' hd', ?_⟩
  intro i hi hnm
  exact absurd hnm (hn d' hd' i hi)

end Scc.Core
