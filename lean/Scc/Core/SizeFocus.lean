/-
  Scc.Core.SizeFocus — C19 for static focusing (second half of `Prog::focus`): node counts of focused
  Core (`fsTermSize` / `fsStmtSize` / `fsDefSize` / `fsProgSize`, counted like `termSize` … of
  Scc.Fun2Core.Size: one per node, one per binding of an argument list / clause context / operand)
  and the bound  |focus s| ≤ 4 · |s|.

  Why linear: `bindTerm t k` calls its continuation `k` exactly ONCE (CPS, no duplication), and wraps
  its result into at most one cut, one μ~/μ binder and the focused `t`:
     literal          ⟨n | μ~x. k x⟩                      3 new nodes (+ the slot of `x` at the use)
     a ⊙ b            ⟨x1 ⊙ x2 | μ~x. k x⟩                5 new nodes
     μ / case / cocase ⟨t' | μ~x. k x⟩ / ⟨μa. k a | t'⟩     3 new nodes + |t'|
     K(args)          ⟨K(xs) | μ~x. k x⟩                  3 + |args| new nodes
  so `|bindTerm t k| + 1 ≤ |k ..| + 4·|t|` whenever `|k b| ≤ K` for every binding `b`.   Proof file.
-/
import Scc.Core.Focus
import Scc.Core.SizeUniquify

namespace Scc.Core.SizeFocus

open Scc.Core.SizeUniquify
open Scc.Fun2Core (termSize argsSize clausesSize stmtSize defSize defsSize progSize)

/-! ## node counts of focused Core -/

mutual
  def fsTermSize : FsTerm → Nat
    | .var _ _ _ => 1
    | .lit _ => 1
    | .op _ _ _ => 3
    | .mu _ _ _ s => 1 + fsStmtSize s
    | .xtor _ _ args _ => 1 + args.length
    | .xcase _ _ cs => 1 + fsClausesSize cs
  def fsClausesSize : FsClauses → Nat
    | .nil => 0
    | .cons _ ctx body rest => 1 + ctx.length + fsStmtSize body + fsClausesSize rest
  def fsStmtSize : FsStmt → Nat
    | .cut _ p c => 1 + fsTermSize p + fsTermSize c
    | .ifc _ _ none t e => 2 + fsStmtSize t + fsStmtSize e
    | .ifc _ _ (some _) t e => 3 + fsStmtSize t + fsStmtSize e
    | .print _ _ n => 2 + fsStmtSize n
    | .call _ args => 1 + args.length
    | .exit _ => 2
end

/-- size of a focused definition: 1 + parameters + body -/
def fsDefSize (d : FsDef) : Nat := 1 + d.ctx.length + fsStmtSize d.body

def fsDefsSize : List FsDef → Nat
  | [] => 0
  | d :: ds => fsDefSize d + fsDefsSize ds

def fsProgSize (p : FsProg) : Nat := fsDefsSize p.defs

private def m1 (t : Term) (n : Nat) : Prop := fsTermSize (focusTerm t n).1 ≤ 4 * termSize t
private def m2 (cl : Clauses) (n : Nat) : Prop :=
  fsClausesSize (focusClauses cl n).1 ≤ 4 * clausesSize cl
private def m3 (s : Stmt) (n : Nat) : Prop := fsStmtSize (focusStmt s n).1 ≤ 4 * stmtSize s
private def m4 (t : Term) (k : Cont) (n : Nat) : Prop :=
  ∀ K, (∀ b n1, fsStmtSize (k b n1).1 ≤ K) →
    fsStmtSize (bindTerm t k n).1 + 1 ≤ K + 4 * termSize t
private def m5 (as : Args) (k : ContVec) (n : Nat) : Prop :=
  ∀ K, (∀ bs n1, bs.length = as.toList.length → fsStmtSize (k bs n1).1 ≤ K + bs.length) →
    fsStmtSize (bindMany as k n).1 ≤ K + 4 * argsSize as

/-- closes the arithmetic goal of a case of the size induction: `simp only … at *` unfolds the size functions and
    the fresh-name helpers at the constructors at hand, in the goal and in every hypothesis (the induction
    hypotheses instantiated before by `have`), and `omega` does the rest -/
local macro "fin" : tactic =>
  `(tactic| (try dsimp only at *
             simp only [freshVar, freshCovar, freshIdentifier, fsStmtSize, fsTermSize, fsClausesSize,
               termSize, stmtSize, argsSize, clausesSize, List.length_cons, List.length_nil] at *
             omega))

theorem focusStmt_size (s : Stmt) (n : Nat) : fsStmtSize (focusStmt s n).1 ≤ 4 * stmtSize s := by
  show m3 s n
  apply focusStmt.induct (motive_1 := m1) (motive_2 := m2) (motive_3 := m3)
    (motive_4 := m4) (motive_5 := m5)
  -- focusTerm
  · intro pc v ty n; simp [m1, focusTerm, fsTermSize, termSize]
  · intro k n; simp [m1, focusTerm, fsTermSize, termSize]
  · intro a o b n; simp only [m1, focusTerm, panicTerm, fsTermSize, termSize]; omega
  · intro pc v ty s n s' n1 heq ih
    simp only [m1, m3] at *
    rw [heq] at ih
    simp only [focusTerm, heq]; fin
  · intro pc name as ty n; simp only [m1, focusTerm, panicTerm, fsTermSize, termSize]; omega
  · intro pc ty cl n cl' n1 heq ih
    simp only [m1, m2] at *
    rw [heq] at ih
    simp only [focusTerm, heq]; fin
  -- bindTerm
  · intro pc v ty k n K hK
    have := hK ⟨v, pc, ty⟩ n
    simp only [bindTerm, termSize]; omega
  · intro i k n x n1 hf s' n2 hk K hK
    have := hK ⟨x, .prd, .i64⟩ n1
    rw [hk] at this
    simp only [bindTerm, hf, hk]; fin
  · intro a o b k n ihb iha K hK
    simp only [m4] at ihb iha
    have h := iha (K + 4 + 4 * termSize b) (fun b1 n1 => by
      have h2 := ihb b1 n1 (K + 5) (fun b2 n2 => by
        have := hK ⟨⟨"x", n2 + 1⟩, .prd, .i64⟩ (n2 + 1)
        fin)
      omega)
    simp only [bindTerm, termSize]; omega
  · intro v ty s k n x n1 hf s' n2 hs r n3 hk ih K hK
    simp only [m3] at ih
    rw [hs] at ih
    have := hK ⟨x, .prd, ty⟩ n2
    rw [hk] at this
    simp only [bindTerm, hf, hs, hk]; fin
  · intro v ty s k n x n1 hf r n2 hk s' n3 hs ih K hK
    simp only [m3] at ih
    rw [hs] at ih
    have := hK ⟨x, .cns, ty⟩ n1
    rw [hk] at this
    simp only [bindTerm, hf, hs, hk]; fin
  · intro name as ty k n ih K hK
    simp only [m5] at ih
    have h := ih (K + 3) (fun bs n1 hbs => by
      have := hK ⟨⟨"x", n1 + 1⟩, .prd, ty⟩ (n1 + 1)
      fin)
    simp only [bindTerm, termSize]; omega
  · intro name as ty k n ih K hK
    simp only [m5] at ih
    have h := ih (K + 3) (fun bs n1 hbs => by
      have := hK ⟨⟨"a", n1 + 1⟩, .cns, ty⟩ (n1 + 1)
      fin)
    simp only [bindTerm, termSize]; omega
  · intro ty cl k n x n1 hf r n2 hk cl' n3 hc ih K hK
    simp only [m2] at ih
    rw [hc] at ih
    have := hK ⟨x, .prd, ty⟩ n1
    rw [hk] at this
    simp only [bindTerm, hf, hc, hk]; fin
  · intro ty cl k n x n1 hf r n2 hk cl' n3 hc ih K hK
    simp only [m2] at ih
    rw [hc] at ih
    have := hK ⟨x, .cns, ty⟩ n1
    rw [hk] at this
    simp only [bindTerm, hf, hc, hk]; fin
  -- bindMany
  · intro k n K hK
    have := hK [] n (by simp [Args.toList])
    simp only [bindMany, argsSize]; simpa using this
  · intro pc t r k n ihr iht K hK
    simp only [m4, m5] at ihr iht
    have h := iht (K + 1 + 4 * argsSize r) (fun b n1 => by
      have h2 := ihr b n1 (K + 1) (fun bs n2 hbs => by
        have := hK (b :: bs) n2 (by simp [Args.toList, hbs])
        simp only [List.length_cons] at this; omega)
      omega)
    simp only [bindMany, argsSize]; omega
  -- focusClauses
  · intro n; simp [m2, focusClauses, fsClausesSize, clausesSize]
  · intro x ctx b r n s' n1 hb cl' n2 hr ihb ihr
    simp only [m2, m3] at *
    rw [hb] at ihb; rw [hr] at ihr
    simp only [focusClauses, hb, hr]; fin
  -- focusStmt: cut
  · intro ty pc name as ty1 c n ihc ih
    simp only [m1, m5] at ihc ih
    have h := ih (2 + 4 * termSize c) (fun bs n1 hbs => by
      have := ihc n1
      fin)
    simp only [m3, focusStmt, stmtSize, termSize]; omega
  · intro ty p dpc name as ty1 n hp ihp ih
    simp only [m1, m5] at ihp ih
    have h := ih (2 + 4 * termSize p) (fun bs n1 hbs => by
      have := ihp n1
      fin)
    simp only [m3]
    rw [focusStmt.eq_2 _ _ _ _ _ _ _ hp]
    simp only [stmtSize, termSize]; omega
  · intro ty a o b c n hc ihc ihb iha
    simp only [m1, m4] at ihc ihb iha
    have h := iha (4 + 4 * termSize c + 4 * termSize b) (fun b1 n1 => by
      have h2 := ihb b1 n1 (4 + 4 * termSize c) (fun b2 n2 => by
        have := ihc n2
        fin)
      omega)
    simp only [m3]
    rw [focusStmt.eq_3 _ _ _ _ _ _ hc]
    simp only [stmtSize, termSize]; omega
  · intro ty p c n hp hc hop p' n1 hpp c' n2 hcc ihp ihc
    simp only [m1] at ihp ihc
    rw [hpp] at ihp; rw [hcc] at ihc
    simp only [m3]
    rw [focusStmt.eq_4 _ _ _ _ hp hc hop]
    simp only [hpp, hcc]; fin
  -- ifc
  · intro srt a b t e n iht ihe ihb iha
    simp only [m3, m4] at iht ihe ihb iha
    have h := iha (3 + 4 * stmtSize t + 4 * stmtSize e + 4 * termSize b) (fun b1 n1 => by
      have h2 := ihb b1 n1 (3 + 4 * stmtSize t + 4 * stmtSize e) (fun b2 n2 => by
        have h1 := iht n2
        have h3 := ihe (focusStmt t n2).2
        fin)
      omega)
    simp only [m3, focusStmt, stmtSize]; omega
  · intro srt a t e n iht ihe iha
    simp only [m3, m4] at iht ihe iha
    have h := iha (2 + 4 * stmtSize t + 4 * stmtSize e) (fun b1 n1 => by
      have h1 := iht n1
      have h3 := ihe (focusStmt t n1).2
      fin)
    simp only [m3, focusStmt, stmtSize]; omega
  -- print
  · intro nl a nx n ihn iha
    simp only [m3, m4] at ihn iha
    have h := iha (2 + 4 * stmtSize nx) (fun b1 n1 => by
      have h1 := ihn n1
      fin)
    simp only [m3, focusStmt, stmtSize]; omega
  -- call
  · intro f as ty n ih
    simp only [m5] at ih
    have h := ih 1 (fun bs n1 hbs => by simp only [fsStmtSize]; omega)
    simp only [m3, focusStmt, stmtSize]; omega
  -- exit
  · intro a ty n ih
    simp only [m4] at ih
    have h := ih 2 (fun b n1 => by simp only [fsStmtSize]; omega)
    simp only [m3, focusStmt, stmtSize]; omega

theorem focusDef_size (d : Def) (n : Nat) : fsDefSize (focusDef d n).1 ≤ 4 * defSize d := by
  have := focusStmt_size d.body n
  simp only [focusDef, fsDefSize, defSize]; omega

theorem focusDef_ctx (d : Def) (n : Nat) : (focusDef d n).1.ctx = d.ctx := rfl

theorem focusDefs_size (ds : List Def) (n : Nat) : fsDefsSize (focusDefs ds n).1 ≤ 4 * defsSize ds := by
  induction ds generalizing n with
  | nil => simp [focusDefs, fsDefsSize, defsSize]
  | cons d r ih =>
    have h1 := focusDef_size d n
    have h2 := ih (focusDef d n).2
    simp only [focusDefs, fsDefsSize, defsSize]; omega

theorem focusDefs_ctxs (ds : List Def) (n : Nat) :
    (focusDefs ds n).1.map (·.ctx) = ds.map (·.ctx) := by
  induction ds generalizing n with
  | nil => simp [focusDefs]
  | cons d r ih => simp only [focusDefs, List.map_cons, focusDef_ctx, ih]

/-- focusing of a uniquified program: at most 4 times the size -/
theorem focusOnly_size (p : Prog) : fsProgSize (focusOnly p) ≤ 4 * progSize p := by
  simp only [focusOnly, fsProgSize, progSize]; exact focusDefs_size _ _

/-- C19, S2 → S3 (`Prog::focus` = uniquify; focus): `|S3| ≤ 4 · |S2|` -/
theorem focusProg_size (p : Prog) : fsProgSize (focusProg p) ≤ 4 * progSize p := by
  have := focusOnly_size (uniquifyProg p)
  rw [uniquifyProg_size] at this
  exact this

theorem focusProgE_size {p : Prog} {q : FsProg} (h : focusProgE p = .ok q) :
    fsProgSize q ≤ 4 * progSize p := by
  unfold focusProgE at h
  split at h
  · cases h
  · split at h
    · cases h
    · cases h; exact focusProg_size p

theorem focusProg_types (p : Prog) :
    (focusProg p).dataTypes = p.dataTypes ∧ (focusProg p).codataTypes = p.codataTypes := by
  simp [focusProg, focusOnly, uniquifyProg]

theorem focusProg_ctx_lengths (p : Prog) :
    (focusProg p).defs.map (·.ctx.length) = p.defs.map (·.ctx.length) := by
  have h1 := focusDefs_ctxs (uniquifyProg p).defs (uniquifyProg p).maxId
  have h2 := uniquifyDefs_ctx_lengths p.defs p.maxId
  have e : ∀ (l : List FsDef), l.map (·.ctx.length) = (l.map (·.ctx)).map List.length := by
    intro l; simp
  have e' : ∀ (l : List Def), l.map (·.ctx.length) = (l.map (·.ctx)).map List.length := by
    intro l; simp
  simp only [focusProg, focusOnly]
  rw [e, h1, ← e']
  simpa [uniquifyProg] using h2

end Scc.Core.SizeFocus
