/-
  Scc.Core.ProofsSplit — consequences of the reading `s = S[t]` of an unfocused statement (`Stmt.split`,
  Sem.lean; as the inductive relation `SSplit` of ProofsFocusSigma.lean): `t` is not a variable, the identifiers
  of `t` and `S[h]`, plugging is a congruence for α-equivalence; and two properties of `s` that pass to `t` and
  to every `S[x]` with `x` a variable: the chirality flags agree with the positions (`pcOk`, defined here), and
  the cut shapes on which `focus` panics do not occur (`cutsOk`).
-/
import Scc.Core.ProofsAlphaA
import Scc.Core.ProofsFocusSigma

namespace Scc.Core

theorem ASplit.notVar {as pc t A} (h : ASplit as pc t A) : t.isVar = false := by
  induction h with
  | here _ _ _ hv => exact hv
  | there _ _ _ _ _ ih => exact ih

theorem SSplit.notVar {s pc t S} (h : SSplit s pc t S) : t.isVar = false := by
  cases h <;> first | assumption | exact ASplit.notVar (by assumption)

theorem ASplit.idents_t {as pc t A} (h : ASplit as pc t A) : ∀ i ∈ t.idents, i ∈ as.idents := by
  induction h with
  | here _ _ _ _ => intro i hi; simp [Args.idents, hi]
  | there _ _ _ _ _ ih => intro i hi; simp [Args.idents, ih i hi]

theorem ASplit.idents_A {as pc t A} (h : ASplit as pc t A) (x : Term) :
    ∀ i ∈ (A x).idents, i ∈ as.idents ∨ i ∈ x.idents := by
  induction h with
  | here _ _ _ _ =>
    intro i hi; simp only [Args.idents, List.mem_append] at hi ⊢
    rcases hi with hi | hi
    · exact Or.inr hi
    · exact Or.inl (Or.inr hi)
  | there _ _ _ _ _ ih =>
    intro i hi; simp only [Args.idents, List.mem_append] at hi ⊢
    rcases hi with hi | hi
    · exact Or.inl (Or.inl hi)
    · rcases ih i hi with h | h
      · exact Or.inl (Or.inr h)
      · exact Or.inr h

theorem SSplit.idents_t {s pc t S} (h : SSplit s pc t S) : ∀ i ∈ t.idents, i ∈ s.idents := by
  cases h with
  | cutL _ _ _ _ _ _ ha => intro i hi; simp [Stmt.idents, Term.idents, ha.idents_t i hi]
  | cutLR _ _ _ _ _ _ _ _ _ _ ha => intro i hi; simp [Stmt.idents, Term.idents, ha.idents_t i hi]
  | cutR _ _ _ _ _ _ _ ha => intro i hi; simp [Stmt.idents, Term.idents, ha.idents_t i hi]
  | call _ _ _ ha => intro i hi; simp [Stmt.idents, ha.idents_t i hi]
  | _ => intro i hi; simp [Stmt.idents, Term.idents, hi]

theorem SSplit.idents_S {s pc t S} (h : SSplit s pc t S) (x : Term) :
    ∀ i ∈ (S x).idents, i ∈ s.idents ∨ i ∈ x.idents := by
  cases h with
  | cutL _ _ _ _ _ _ ha =>
    intro i hi; simp only [Stmt.idents, Term.idents, List.mem_append] at hi ⊢
    rcases hi with hi | hi
    · rcases ha.idents_A x i hi with h | h
      · exact Or.inl (Or.inl h)
      · exact Or.inr h
    · exact Or.inl (Or.inr hi)
  | cutLR _ _ _ _ _ _ _ _ _ _ ha =>
    intro i hi; simp only [Stmt.idents, Term.idents, List.mem_append] at hi ⊢
    rcases hi with hi | hi
    · exact Or.inl (Or.inl hi)
    · rcases ha.idents_A x i hi with h | h
      · exact Or.inl (Or.inr h)
      · exact Or.inr h
  | cutR _ _ _ _ _ _ _ ha =>
    intro i hi; simp only [Stmt.idents, Term.idents, List.mem_append] at hi ⊢
    rcases hi with hi | hi
    · exact Or.inl (Or.inl hi)
    · rcases ha.idents_A x i hi with h | h
      · exact Or.inl (Or.inr h)
      · exact Or.inr h
  | call _ _ _ ha =>
    intro i hi; simp only [Stmt.idents] at hi ⊢
    exact ha.idents_A x i hi
  | _ =>
    intro i hi; simp only [Stmt.idents, Term.idents, List.mem_append] at hi ⊢
    grind

/-! ### plugging is a congruence for α-equivalence -/

theorem ASplit.plug {as pc t A} (h : ASplit as pc t A) {sc1 sc2 : List Ident} {x y : Term}
    (he : dbA sc1 as = dbA sc2 as) (hx : dbT sc1 x = dbT sc2 y) :
    dbA sc1 (A x) = dbA sc2 (A y) := by
  induction h with
  | here _ _ _ _ =>
    simp only [dbA, DArgs.cons.injEq, true_and] at he ⊢
    exact ⟨hx, he.2⟩
  | there _ _ _ _ _ ih =>
    simp only [dbA, DArgs.cons.injEq, true_and] at he ⊢
    exact ⟨he.1, ih he.2⟩

theorem SSplit.plug {s pc t S} (h : SSplit s pc t S) {sc1 sc2 : List Ident} {x y : Term}
    (he : dbS sc1 s = dbS sc2 s) (hx : dbT sc1 x = dbT sc2 y) :
    dbS sc1 (S x) = dbS sc2 (S y) := by
  cases h with
  | cutL _ _ _ _ _ _ ha =>
    simp only [dbS, dbT, DStmt.cut.injEq, DTerm.xtor.injEq, true_and, and_true] at he ⊢
    exact ⟨ha.plug he.1 hx, he.2⟩
  | cutLR _ _ _ _ _ _ _ _ _ _ ha =>
    simp only [dbS, dbT, DStmt.cut.injEq, DTerm.xtor.injEq, true_and, and_true] at he ⊢
    exact ⟨he.1, ha.plug he.2 hx⟩
  | cutR _ _ _ _ _ _ _ ha =>
    simp only [dbS, dbT, DStmt.cut.injEq, DTerm.xtor.injEq, true_and, and_true] at he ⊢
    exact ⟨he.1, ha.plug he.2 hx⟩
  | call _ _ _ ha =>
    simp only [dbS, DStmt.call.injEq, true_and, and_true] at he ⊢
    exact ha.plug he hx
  | opL | opR =>
    simp only [dbS, dbT, DStmt.cut.injEq, DTerm.op.injEq, true_and] at he ⊢
    grind
  | ifcL | ifcR =>
    simp only [dbS, DStmt.ifc.injEq, true_and] at he ⊢
    grind
  | ifz =>
    simp only [dbS, DStmt.ifz.injEq, true_and] at he ⊢
    grind
  | print =>
    simp only [dbS, DStmt.print.injEq, true_and] at he ⊢
    grind
  | exit =>
    simp only [dbS, DStmt.exit.injEq, and_true] at he ⊢
    exact hx

/-! ## chirality flags agree with positions (what typing guarantees; `Term<Prd>`/`Term<Cns>` in Rust) -/

mutual
  /-- `pc` = chirality of the position the term stands in: binder-like constructors carry that
      chirality, literals and operators are producers.  Stronger than `Term.chiOk` of Uniquify.lean, which
      asks the second half only and does not look at the flags of `μ`, xtor and xcase. -/
  def Term.pcOk : PC → Term → Bool
    | _, .var _ _ _ => true
    | pc, .lit _ => pc == .prd
    | pc, .op a _ b => pc == .prd && a.pcOk .prd && b.pcOk .prd
    | pc, .mu pc' _ _ s => pc' == pc && s.pcOk
    | pc, .xtor pc' _ as _ => pc' == pc && as.pcOk
    | pc, .xcase pc' _ cl => pc' == pc && cl.pcOk
  def Args.pcOk : Args → Bool
    | .nil => true
    | .cons pc t r => t.pcOk pc && r.pcOk
  def Clauses.pcOk : Clauses → Bool
    | .nil => true
    | .cons _ _ b r => b.pcOk && r.pcOk
  def Stmt.pcOk : Stmt → Bool
    | .cut _ p c => p.pcOk .prd && c.pcOk .cns
    | .ifc _ a b t e => a.pcOk .prd && b.pcOk .prd && t.pcOk && e.pcOk
    | .ifz _ a t e => a.pcOk .prd && t.pcOk && e.pcOk
    | .print _ a n => a.pcOk .prd && n.pcOk
    | .call _ as _ => as.pcOk
    | .exit a _ => a.pcOk .prd
end

theorem ASplit.pcOk {as pc t A} (h : ASplit as pc t A) (hok : as.pcOk = true) :
    t.pcOk pc = true ∧ ∀ x, x.pcOk pc = true → (A x).pcOk = true := by
  induction h with
  | here _ _ _ _ =>
    simp only [Args.pcOk, Bool.and_eq_true] at hok ⊢
    exact ⟨hok.1, fun x hx => ⟨hx, hok.2⟩⟩
  | there _ _ _ _ _ ih =>
    simp only [Args.pcOk, Bool.and_eq_true] at hok ⊢
    exact ⟨(ih hok.2).1, fun x hx => ⟨hok.1, (ih hok.2).2 x hx⟩⟩

theorem SSplit.pcOk {s pc t S} (h : SSplit s pc t S) (hok : s.pcOk = true) :
    t.pcOk pc = true ∧ ∀ x, x.pcOk pc = true → (S x).pcOk = true := by
  cases h with
  | cutL _ _ _ _ _ _ ha =>
    simp only [Stmt.pcOk, Term.pcOk, Bool.and_eq_true] at hok ⊢
    exact ⟨(ha.pcOk hok.1.2).1, fun x hx => ⟨⟨hok.1.1, (ha.pcOk hok.1.2).2 x hx⟩, hok.2⟩⟩
  | cutLR _ _ _ _ _ _ _ _ _ _ ha =>
    simp only [Stmt.pcOk, Term.pcOk, Bool.and_eq_true] at hok ⊢
    exact ⟨(ha.pcOk hok.2.2).1, fun x hx => ⟨hok.1, hok.2.1, (ha.pcOk hok.2.2).2 x hx⟩⟩
  | cutR _ _ _ _ _ _ _ ha =>
    simp only [Stmt.pcOk, Term.pcOk, Bool.and_eq_true] at hok ⊢
    exact ⟨(ha.pcOk hok.2.2).1, fun x hx => ⟨hok.1, hok.2.1, (ha.pcOk hok.2.2).2 x hx⟩⟩
  | call _ _ _ ha =>
    simp only [Stmt.pcOk] at hok ⊢
    exact ha.pcOk hok
  | _ =>
    simp only [Stmt.pcOk, Term.pcOk, Bool.and_eq_true] at hok ⊢
    grind

/-! ## the cut shapes on which `focus` panics do not arise -/

theorem ASplit.cutsOk {as pc t A} (h : ASplit as pc t A) (hok : as.cutsOk = true) :
    t.cutsOk = true ∧ ∀ x, x.cutsOk = true → (A x).cutsOk = true := by
  induction h with
  | here _ _ _ _ =>
    simp only [Args.cutsOk, Bool.and_eq_true] at hok ⊢
    exact ⟨hok.1, fun x hx => ⟨hx, hok.2⟩⟩
  | there _ _ _ _ _ ih =>
    simp only [Args.cutsOk, Bool.and_eq_true] at hok ⊢
    exact ⟨(ih hok.2).1, fun x hx => ⟨hok.1, (ih hok.2).2 x hx⟩⟩

theorem Stmt.cutsOk_cut_xtorL {ty pc k as t cn} (h : (Stmt.cut ty (.xtor pc k as t) cn).cutsOk = true) :
    as.cutsOk = true ∧ cn.cutsOk = true ∧ ∀ as', as'.cutsOk = true →
      (Stmt.cut ty (.xtor pc k as' t) cn).cutsOk = true := by
  cases cn <;> simp_all [Stmt.cutsOk, Term.cutsOk]

theorem Stmt.cutsOk_cut_xtorR {ty p dpc d ds dt} (h : (Stmt.cut ty p (.xtor dpc d ds dt)).cutsOk = true) :
    p.cutsOk = true ∧ ds.cutsOk = true ∧ ∀ ds', ds'.cutsOk = true →
      (Stmt.cut ty p (.xtor dpc d ds' dt)).cutsOk = true := by
  cases p <;> simp_all [Stmt.cutsOk, Term.cutsOk]

theorem Stmt.cutsOk_cut_op {ty a o b cn} (h : (Stmt.cut ty (.op a o b) cn).cutsOk = true) :
    a.cutsOk = true ∧ b.cutsOk = true ∧ cn.cutsOk = true ∧ ∀ a' b', a'.cutsOk = true →
      b'.cutsOk = true → (Stmt.cut ty (.op a' o b') cn).cutsOk = true := by
  cases cn <;> simp_all [Stmt.cutsOk, Term.cutsOk]

theorem SSplit.cutsOk {s pc t S} (h : SSplit s pc t S) (hok : s.cutsOk = true) :
    t.cutsOk = true ∧ ∀ x, x.cutsOk = true → (S x).cutsOk = true := by
  cases h with
  | cutL _ _ _ _ _ _ ha =>
    obtain ⟨h1, h2, h3⟩ := Stmt.cutsOk_cut_xtorL hok
    exact ⟨(ha.cutsOk h1).1, fun x hx => h3 _ ((ha.cutsOk h1).2 x hx)⟩
  | cutLR _ _ _ _ _ _ _ _ _ _ ha => simp [Stmt.cutsOk] at hok
  | cutR _ _ _ _ _ _ _ ha =>
    obtain ⟨h1, h2, h3⟩ := Stmt.cutsOk_cut_xtorR hok
    exact ⟨(ha.cutsOk h2).1, fun x hx => h3 _ ((ha.cutsOk h2).2 x hx)⟩
  | call _ _ _ ha =>
    simp only [Stmt.cutsOk] at hok ⊢
    exact ha.cutsOk hok
  | opL =>
    obtain ⟨h1, h2, h3, h4⟩ := Stmt.cutsOk_cut_op hok
    exact ⟨h1, fun x hx => h4 _ _ hx h2⟩
  | opR =>
    obtain ⟨h1, h2, h3, h4⟩ := Stmt.cutsOk_cut_op hok
    exact ⟨h2, fun x hx => h4 _ _ h1 hx⟩
  | _ =>
    simp only [Stmt.cutsOk, Bool.and_eq_true] at hok ⊢
    grind

theorem Stmt.cutOkTop_of_cutsOk {s : Stmt} (h : s.cutsOk = true) : s.cutOkTop = true := by
  unfold Stmt.cutOkTop
  split <;> simp_all [Stmt.cutsOk]

end Scc.Core
