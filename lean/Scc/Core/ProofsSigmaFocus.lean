/-
  Scc.Core.ProofsSigmaFocus — the ς-step of the specification machine does not change the focused
  form of a statement, up to α-equivalence:
      focus ⟨t | μ~ς.S[ς]⟩  ≡α  focus S[t]          (and the dual for a consumer `t`)
  (`sigma_focus`).  Together with `focusStmt_cong` this is the whole static content of
  "focusing follows the ς-rules".
-/
import Scc.Core.ProofsAlphaE
import Scc.Core.ProofsSplit

namespace Scc.Core

/-- the continuation `fun x => focus (S[x])` of `focusStmt_split` -/
def kFoc (S : Term → Stmt) : Cont := fun b n' => focusStmt (S b.toTerm) n'

theorem monoK_kFoc (S : Term → Stmt) : MonoK (kFoc S) := fun _ m => focusStmt_le _ m

theorem focusStmt_split' (s : Stmt) (pc : PC) (t : Term) (S : Term → Stmt)
    (h : s.split = some (pc, t, S)) (hok : s.cutOkTop = true) (n : Nat) :
    focusStmt s n = bindTerm t (kFoc S) n := focusStmt_split s pc t S h hok n

section
variable {s : Stmt} {pc : PC} {t : Term} {S : Term → Stmt}

/-- `S[y]` under `y` and `S[z]` under `z` have the same focused form -/
theorem sigma_core (h : SSplit s pc t S) {sc : List Ident} {n0 : Nat}
    (hf : FreshL n0 s.idents) {y z : Ident} (hy : y ∉ s.idents) (hyg : ∀ m, ¬ Gen m y)
    {ext ext' : List Ident} {m m' j j' : Nat} (hl : ext.length = ext'.length)
    (he : ExtOK n0 j ext) (he' : ExtOK n0 j' ext') (hz : Gen n0 z) (hz' : ¬ Gen m' z)
    (hm : n0 ≤ m) (hm' : n0 ≤ m') (pc' : PC) (ty ty' : Ty) :
    dbS (y :: (ext ++ sc)) (focusStmt (S (.var pc' y ty)) m).1.embed =
      dbS (z :: (ext' ++ sc)) (focusStmt (S (.var pc' z ty')) m').1.embed := by
  apply focusStmt_cong
  · apply h.plug
    · have := dbS_weaken (sc := sc) (sc' := sc) (ext := y :: ext) (ext' := z :: ext') (u := s)
        (u' := s) (by simp [hl])
        (by
          intro i hi
          rcases List.mem_cons.mp hi with rfl | hi
          · exact hy
          · exact he.not_mem hf i hi)
        (by
          intro i hi
          rcases List.mem_cons.mp hi with rfl | hi
          · exact fun hzz => hf _ hzz hz
          · exact he'.not_mem hf i hi) rfl
      simpa using this
    · simp [dbT, dbVar]
  · intro i hi
    rcases h.idents_S _ i hi with hi | hi
    · exact hf.mono hm i hi
    · simp only [Term.idents, List.mem_singleton] at hi
      subst hi; exact hyg m
  · intro i hi
    rcases h.idents_S _ i hi with hi | hi
    · exact hf.mono hm' i hi
    · simp only [Term.idents, List.mem_singleton] at hi
      subst hi; exact hz'

theorem kcong_sig_xtorP (h : SSplit s pc t S) {sc : List Ident} {n : Nat}
    (hf : FreshL n s.idents) {y : Ident} (hy : y ∉ s.idents) (hyg : ∀ m, ¬ Gen m y)
    (name : Ident) (ty : Ty) :
    KCongV n n sc sc (kCut1 ty .prd name (.mu .cns y ty (S (.var .prd y ty))))
      (kXtorP name ty (kFoc S)) where
  mono := fun b m => focusTerm_le _ m
  mono' := fun b m => by
    have := focusStmt_le (S (Binding.toTerm ⟨xN m, .prd, ty⟩)) (m + 1)
    simp only [kXtorP, kFoc]; omega
  cong := by
    intro ext ext' bs bs' m m' hm hm' hl he he' hg hg' hA
    simp only [kCut1, kXtorP, kFoc, focusTerm_mu_eq, Binding.toTerm, FsStmt.embed, FsTerm.embed,
      dbS, dbT]
    rw [hA, sigma_core h hf hy hyg (z := xN m') hl he he' (gen_x n m' hm') (not_gen_x m') hm
      (by omega) .prd ty ty]

theorem kcong_sig_xtorC (h : SSplit s pc t S) {sc : List Ident} {n : Nat}
    (hf : FreshL n s.idents) {y : Ident} (hy : y ∉ s.idents) (hyg : ∀ m, ¬ Gen m y)
    (name : Ident) (ty : Ty) :
    KCongV n n sc sc (kCut2 ty (.mu .prd y ty (S (.var .cns y ty))) .cns name)
      (kXtorC name ty (kFoc S)) where
  mono := fun b m => focusTerm_le _ m
  mono' := fun b m => by
    have := focusStmt_le (S (Binding.toTerm ⟨aN m, .cns, ty⟩)) (m + 1)
    simp only [kXtorC, kFoc]; omega
  cong := by
    intro ext ext' bs bs' m m' hm hm' hl he he' hg hg' hA
    simp only [kCut2, kXtorC, kFoc, focusTerm_mu_eq, Binding.toTerm, FsStmt.embed, FsTerm.embed,
      dbS, dbT]
    rw [hA, sigma_core h hf hy hyg (z := aN m') hl he he' (gen_a n m' hm') (not_gen_a m') hm
      (by omega) .cns ty ty]

theorem kcong_sig_op2 (h : SSplit s pc t S) {sc : List Ident} {n : Nat}
    (hf : FreshL n s.idents) {y : Ident} (hy : y ∉ s.idents) (hyg : ∀ m, ¬ Gen m y) (o : BinOp)
    {ext1 ext1' : List Ident}
    {m1 m1' : Nat} (hm : n ≤ m1) (hm' : n ≤ m1') (hl : ext1.length = ext1'.length)
    (he : ExtOK n m1 ext1) (he' : ExtOK n m1' ext1') {b1 b1' : Binding}
    (hb : ¬ Gen m1 b1.var) (hb' : ¬ Gen m1' b1'.var)
    (hv : dbVar (ext1 ++ sc) b1.var = dbVar (ext1' ++ sc) b1'.var) :
    KCong m1 m1' (ext1 ++ sc) (ext1' ++ sc)
      (kCut3 .i64 b1 o (.mu .cns y .i64 (S (.var .prd y .i64)))) (kOp2 b1' o (kFoc S)) where
  mono := fun b m => focusTerm_le _ m
  mono' := fun b m => by
    have := focusStmt_le (S (Binding.toTerm ⟨xN m, .prd, .i64⟩)) (m + 1)
    simp only [kOp2, kFoc]; omega
  cong := by
    intro ext2 ext2' b2 b2' m2 m2' h2 h2' hl2 he2 he2' hchi hg hg' hv2
    simp only [kCut3, kOp2, kFoc, focusTerm_mu_eq, Binding.toTerm, FsStmt.embed, FsTerm.embed,
      varI64, dbS, dbT]
    have e1 := dbVar_weaken hl2 (not_mem_of_gen hb (fun i hi => (he2 i hi).1))
      (not_mem_of_gen hb' (fun i hi => (he2' i hi).1)) hv
    have e3 := sigma_core h (sc := sc) hf hy hyg (z := xN m2') (ext := ext2 ++ ext1) (ext' := ext2' ++ ext1')
      (m := m2) (m' := m2' + 1) (by simp [hl, hl2]) (he.append he2 hm h2) (he'.append he2' hm' h2')
      (gen_x n m2' (by omega)) (not_gen_x m2') (by omega) (by omega) .prd .i64 .i64
    simp only [List.append_assoc] at e3
    rw [e1, hv2, e3]

end

theorem kcong_refl_C4 (b : Term) : ∀ (k : Cont) (n : Nat), C4 b k n :=
  fun k n => focus_cong_all.2.2.2.1 b k n

theorem PC.beq_eq {a b : PC} (h : (a == b) = true) : a = b := by
  cases a <;> cases b <;> first | rfl | exact absurd h (by decide)

theorem not_gen_x_le {n m : Nat} (h : n + 1 ≤ m) : ¬ Gen m (xN n) :=
  fun hg => by have := hg.2; simp [xN] at this; omega
theorem not_gen_a_le {n m : Nat} (h : n + 1 ≤ m) : ¬ Gen m (aN n) :=
  fun hg => by have := hg.2; simp [aN] at this; omega

/-- **the ς-step preserves the focused form** -/
theorem sigma_focus {s : Stmt} {pc : PC} {t : Term} {S : Term → Stmt}
    (hs : s.split = some (pc, t, S)) (hok : s.cutOkTop = true) (hchi : t.pcOk pc = true)
    {y : Ident} (hy : y ∉ s.idents) (hyg : ∀ m, ¬ Gen m y) {n : Nat} (hf : FreshL n s.idents)
    (sc : List Ident) :
    dbS sc (focusStmt (sigmaCut pc t y (S (.var pc y t.ty))) n).1.embed =
      dbS sc (focusStmt s n).1.embed := by
  have h := SSplit.of_split s hs
  have hft : FreshL n t.idents := fun i hi => hf i (h.idents_t i hi)
  have hnv := h.notVar
  rw [focusStmt_split' s pc t S hs hok n]
  have core0 : ∀ (z : Ident) (m m' : Nat), Gen n z → ¬ Gen m' z → n ≤ m → n ≤ m' →
      ∀ (pc' : PC) (ty ty' : Ty),
      dbS (y :: sc) (focusStmt (S (.var pc' y ty)) m).1.embed =
        dbS (z :: sc) (focusStmt (S (.var pc' z ty')) m').1.embed := by
    intro z m m' hz hz' hm hm' pc' ty ty'
    have := sigma_core h (sc := sc) hf hy hyg (ext := []) (ext' := []) (m := m) (m' := m') rfl
      (ExtOK.nil n n) (ExtOK.nil n n) hz hz' hm hm' pc' ty ty'
    simpa using this
  cases pc with
  | prd =>
    cases t with
    | var pc' v ty => simp [Term.isVar] at hnv
    | lit i =>
      simp only [sigmaCut, Term.ty]
      rw [focusStmt_cut4_eq _ _ _ _ (by intro _ _ _ _ e; cases e) (by intro _ _ _ _ e; cases e)
        (by intro _ _ _ e; cases e), bindTerm_lit_eq]
      simp only [focusTerm, kFoc, Binding.toTerm, FsStmt.embed, FsTerm.embed,
        dbS, dbT]
      rw [core0 (xN n) n (n + 1) (gen_x n n (Nat.le_refl _)) (not_gen_x n) (Nat.le_refl _)
        (by omega)]
    | op a o b =>
      simp only [sigmaCut, Term.ty]
      simp only [Term.idents, FreshL_append] at hft
      rw [focusStmt_cut3_eq _ _ _ _ _ _ (by intro _ _ _ _ e; cases e), bindTerm_op_eq]
      apply bindTerm_cong rfl hft.1 hft.1
      exact kcong_bind (K := fun b1 => kCut3 .i64 b1 o (.mu .cns y .i64 (S (.var .prd y .i64))))
        (K' := fun b1 => kOp2 b1 o (kFoc S)) (fun b1 n1 => kcong_refl_C4 b _ n1) rfl hft.2 hft.2
        (fun b1 => monoK_kCut3 _ b1 o _) (fun b1 => monoK_kOp2 (monoK_kFoc S) b1 o)
        (fun ext ext' b1 b1' m m' hm hm' hl he he' _ hg hg' hv =>
          kcong_sig_op2 h hf hy hyg o hm hm' hl he he' hg hg' hv)
    | mu pc' a ty s0 =>
      simp only [Term.pcOk, Bool.and_eq_true] at hchi
      obtain rfl := PC.beq_eq hchi.1
      simp only [Term.idents, FreshL_cons] at hft
      simp only [sigmaCut, Term.ty]
      rw [focusStmt_cut4_eq _ _ _ _ (by intro _ _ _ _ e; cases e) (by intro _ _ _ _ e; cases e)
        (by intro _ _ _ e; cases e), bindTerm_muP_eq]
      simp only [focusTerm_mu_eq, kFoc, Binding.toTerm, FsStmt.embed, FsTerm.embed, dbS, dbT]
      have := focusStmt_le s0 n
      have := focusStmt_le s0 (n + 1)
      rw [focusStmt_cong (sc := a :: sc) (sc' := a :: sc) (s := s0) (s' := s0) (n := n)
          (n' := n + 1) rfl hft.2 (hft.2.mono (by omega)),
        core0 (xN n) (focusStmt s0 n).2 (focusStmt s0 (n + 1)).2 (gen_x n n (Nat.le_refl _))
          (not_gen_x_le (by omega)) (by omega) (by omega)]
    | xtor pc' name as ty =>
      simp only [Term.pcOk, Bool.and_eq_true] at hchi
      obtain rfl := PC.beq_eq hchi.1
      simp only [Term.idents] at hft
      simp only [sigmaCut, Term.ty]
      rw [focusStmt_cut1_eq, bindTerm_xtorP_eq]
      exact bindMany_cong rfl hft hft (kcong_sig_xtorP h hf hy hyg name ty)
    | xcase pc' ty cl =>
      simp only [Term.pcOk, Bool.and_eq_true] at hchi
      obtain rfl := PC.beq_eq hchi.1
      simp only [Term.idents] at hft
      simp only [sigmaCut, Term.ty]
      rw [focusStmt_cut4_eq _ _ _ _ (by intro _ _ _ _ e; cases e) (by intro _ _ _ _ e; cases e)
        (by intro _ _ _ e; cases e), bindTerm_xcaseP_eq]
      simp only [focusTerm_xcase_eq, focusTerm_mu_eq, kFoc, Binding.toTerm, FsStmt.embed,
        FsTerm.embed, dbS, dbT]
      have := focusClauses_le cl n
      have := focusStmt_le (S (.var .prd (xN n) ty)) (n + 1)
      rw [focusClauses_cong (sc := sc) (sc' := sc) (cl := cl) (cl' := cl) (n := n)
          (n' := (focusStmt (S (.var .prd (xN n) ty)) (n + 1)).2) rfl hft (hft.mono (by omega)),
        core0 (xN n) (focusClauses cl n).2 (n + 1) (gen_x n n (Nat.le_refl _))
          (not_gen_x n) (by omega) (by omega)]
  | cns =>
    cases t with
    | var pc' v ty => simp [Term.isVar] at hnv
    | lit i => simp only [Term.pcOk] at hchi; exact absurd hchi (by decide)
    | op a o b =>
      simp only [Term.pcOk, Bool.and_eq_true] at hchi; exact absurd hchi.1.1 (by decide)
    | mu pc' v ty s0 =>
      simp only [Term.pcOk, Bool.and_eq_true] at hchi
      obtain rfl := PC.beq_eq hchi.1
      simp only [Term.idents, FreshL_cons] at hft
      simp only [sigmaCut, Term.ty]
      rw [focusStmt_cut4_eq _ _ _ _ (by intro _ _ _ _ e; cases e) (by intro _ _ _ _ e; cases e)
        (by intro _ _ _ e; cases e), bindTerm_muC_eq]
      simp only [focusTerm_mu_eq, kFoc, Binding.toTerm, FsStmt.embed, FsTerm.embed, dbS, dbT]
      have := focusStmt_le (S (.var .cns y ty)) n
      have := focusStmt_le (S (.var .cns (aN n) ty)) (n + 1)
      rw [focusStmt_cong (sc := v :: sc) (sc' := v :: sc) (s := s0) (s' := s0)
          (n := (focusStmt (S (.var .cns y ty)) n).2)
          (n' := (focusStmt (S (.var .cns (aN n) ty)) (n + 1)).2) rfl (hft.2.mono (by omega))
          (hft.2.mono (by omega)),
        core0 (aN n) n (n + 1) (gen_a n n (Nat.le_refl _)) (not_gen_a n) (by omega) (by omega)]
    | xtor pc' name as ty =>
      simp only [Term.pcOk, Bool.and_eq_true] at hchi
      obtain rfl := PC.beq_eq hchi.1
      simp only [Term.idents] at hft
      simp only [sigmaCut, Term.ty]
      rw [focusStmt_cut2_eq _ _ _ _ _ _ _ (by intro _ _ _ _ e; cases e), bindTerm_xtorC_eq]
      exact bindMany_cong rfl hft hft (kcong_sig_xtorC h hf hy hyg name ty)
    | xcase pc' ty cl =>
      simp only [Term.pcOk, Bool.and_eq_true] at hchi
      obtain rfl := PC.beq_eq hchi.1
      simp only [Term.idents] at hft
      simp only [sigmaCut, Term.ty]
      rw [focusStmt_cut4_eq _ _ _ _ (by intro _ _ _ _ e; cases e) (by intro _ _ _ _ e; cases e)
        (by intro _ _ _ e; cases e), bindTerm_xcaseC_eq]
      simp only [focusTerm_xcase_eq, focusTerm_mu_eq, kFoc, Binding.toTerm, FsStmt.embed,
        FsTerm.embed, dbS, dbT]
      have := focusStmt_le (S (.var .cns y ty)) n
      have := focusStmt_le (S (.var .cns (aN n) ty)) (n + 1)
      rw [focusClauses_cong (sc := sc) (sc' := sc) (cl := cl) (cl' := cl)
          (n := (focusStmt (S (.var .cns y ty)) n).2)
          (n' := (focusStmt (S (.var .cns (aN n) ty)) (n + 1)).2) rfl (hft.mono (by omega))
          (hft.mono (by omega)),
        core0 (aN n) n (n + 1) (gen_a n n (Nat.le_refl _)) (not_gen_a n) (by omega) (by omega)]

end Scc.Core
