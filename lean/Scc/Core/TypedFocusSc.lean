/-
  Scc.Core.TypedFocusSc — proof file: static focusing maps Core-well-typed statements (checked by
  `Stmt.check`, Scc/Core/Typing.lean) in a context with pairwise distinct ids, all ids below the name
  counter, to WELL-SCOPED focused statements (`Core2AxCut.scStmt`, Scc/Core2AxCut/FsTyping.lean):
  theorem `focusStmt_sc`.

  `Stmt.check` looks variables up by full identifier, `scStmt` by numeric id; with pairwise distinct
  ids in the context the two agree.  The names generated by `bind` are above the counter, hence
  distinct from everything in the context and in the term still to be focused.
-/
import Scc.Core.TypingInv
import Scc.Core.ProofsUniqAlphaA
import Scc.Core.ProofsUniqueA
import Scc.Core.ProofsAlphaB
import Scc.Core2AxCut.FreeVars

namespace Scc.Core

open Scc.Core2AxCut (scStmt scTerm scClauses occFs lookupFs flipPC)

/-- the ids of the context and of the binders are pairwise distinct and `≤ n`; all identifiers `≤ n` -/
def Good (n : Nat) (Γ : Ctx) (bs : List Nat) (ids : List Ident) : Prop :=
  (ctxIds Γ ++ bs).Nodup ∧ (∀ i ∈ ctxIds Γ ++ bs, i ≤ n) ∧ IdsLe n ids

/-- a block of generated bindings: pairwise distinct ids from the counter interval `(n, m]` -/
def Fr (n m : Nat) (Δ : Ctx) : Prop := (ctxIds Δ).Nodup ∧ ∀ i ∈ ctxIds Δ, n < i ∧ i ≤ m

/-- proves `l <+ t` where `t` is a tree of appends with `l` (or `[]`) among its leaves: it descends into the right
    or the left summand (`List.sublist_append_of_sublist_right/_left`), backtracking, until `Sublist.refl` or
    `nil_sublist` applies -/
syntax "sub_tac" : tactic
macro_rules
  | `(tactic| sub_tac) => `(tactic| first
      | exact List.Sublist.refl _
      | exact List.nil_sublist _
      | (apply List.sublist_append_of_sublist_right; sub_tac)
      | (apply List.sublist_append_of_sublist_left; sub_tac))

/-! ## lookup by identifier vs lookup by id -/

theorem lookupFs_of_mem {Γ : Ctx} {b : Binding} (hn : (ctxIds Γ).Nodup) (hb : b ∈ Γ) :
    lookupFs Γ b.var.id = some b := by
  induction Γ with
  | nil => simp at hb
  | cons a r ih =>
    simp only [ctxIds, List.map_cons, List.nodup_cons, List.mem_map] at hn
    simp only [lookupFs, List.find?_cons]
    rcases List.mem_cons.mp hb with rfl | hb
    · simp
    · have : (a.var.id == b.var.id) = false := by
        simp only [beq_eq_false_iff_ne]; intro he; exact hn.1 ⟨b, hb, he.symm⟩
      simp only [this]; exact ih hn.2 hb

theorem lookupFs_some {Γ : Ctx} {i : Nat} {b : Binding} (h : lookupFs Γ i = some b) :
    b ∈ Γ ∧ b.var.id = i := by
  unfold lookupFs at h
  exact ⟨List.mem_of_find?_eq_some h, by simpa using List.find?_some h⟩

theorem lookupFs_append_fresh {Δ Γ : Ctx} {i : Nat} (h : i ∉ ctxIds Δ) :
    lookupFs (Δ ++ Γ) i = lookupFs Γ i := by
  unfold lookupFs
  rw [List.find?_append]
  have : Δ.find? (fun b => b.var.id == i) = none := by
    rw [List.find?_eq_none]
    intro b hb
    simp only [beq_iff_eq]
    intro he
    exact h (by simp only [ctxIds, List.mem_map]; exact ⟨b, hb, he⟩)
  rw [this]; rfl

theorem occFs_iff {Γ : Ctx} {b : Binding} : occFs Γ b = true ↔ lookupFs Γ b.var.id = some b := by
  simp [occFs]

theorem occFs_mem {Γ : Ctx} {b : Binding} (h : occFs Γ b = true) : b.var.id ∈ ctxIds Γ := by
  have := (lookupFs_some (occFs_iff.mp h)).1
  simp only [ctxIds, List.mem_map]; exact ⟨b, this, rfl⟩

theorem occFs_cons_self (Γ : Ctx) (b : Binding) : occFs (b :: Γ) b = true := by
  simp [occFs, lookupFs]

theorem occFs_append_fresh {Δ Γ : Ctx} {b : Binding} (h : occFs Γ b = true) (hf : b.var.id ∉ ctxIds Δ) :
    occFs (Δ ++ Γ) b = true := by
  rw [occFs_iff] at *
  rw [lookupFs_append_fresh hf]; exact h

/-- an occurrence accepted by the Core checker is an occurrence in the sense of `scStmt` -/
theorem occFs_of_lookupBinding {Γ : Ctx} {v : Ident} {b : Binding} {pc : PC} {ty : Ty}
    (hn : (ctxIds Γ).Nodup) (h : lookupBinding Γ v = some b) (hc : b.chi = pc) (ht : b.ty = ty) :
    occFs Γ ⟨v, pc, ty⟩ = true := by
  have hv := lookupBinding_var h
  have hm := lookupBinding_mem h
  have : b = ⟨v, pc, ty⟩ := by cases b; simp_all
  subst this
  exact occFs_iff.mpr (lookupFs_of_mem hn hm)

theorem binding_eta {b : Binding} {pc : PC} {ty : Ty} (hc : b.chi = pc) (ht : b.ty = ty) :
    (⟨b.var, pc, ty⟩ : Binding) = b := by cases b; simp_all

/-! ## weakening of the Core check: bindings whose names do not occur can be inserted anywhere -/

theorem lookupBinding_insert (Γ1 Δ Γ2 : Ctx) (v : Ident) (h : ∀ d ∈ Δ, d.var ≠ v) :
    lookupBinding (Γ1 ++ Δ ++ Γ2) v = lookupBinding (Γ1 ++ Γ2) v := by
  induction Γ1 with
  | nil =>
    simp only [List.nil_append]
    induction Δ with
    | nil => rfl
    | cons d r ih =>
      simp only [List.cons_append, lookupBinding]
      rw [if_neg (h d (by simp))]
      exact ih (fun d' hd' => h d' (by simp [hd']))
  | cons a r ih =>
    simp only [List.cons_append, lookupBinding, ih]

mutual
  theorem Term.check_insert (P : Prog) (Δ : Ctx) : (t : Term) → ∀ (Γ1 Γ2 : Ctx) (pc : PC) (ty : Ty),
      (∀ d ∈ Δ, d.var ∉ t.idents) →
      t.check P (Γ1 ++ Δ ++ Γ2) pc ty = t.check P (Γ1 ++ Γ2) pc ty
    | .var pc' v ty', Γ1, Γ2, pc, ty, h => by
      simp only [Term.idents, List.mem_singleton] at h
      simp only [Term.check, lookupBinding_insert Γ1 Δ Γ2 v h]
    | .lit _, _, _, _, _, _ => by simp only [Term.check]
    | .op a _ b, Γ1, Γ2, pc, ty, h => by
      simp only [Term.idents, List.mem_append, not_or] at h
      simp only [Term.check, Term.check_insert P Δ a Γ1 Γ2 _ _ (fun d hd => (h d hd).1),
        Term.check_insert P Δ b Γ1 Γ2 _ _ (fun d hd => (h d hd).2)]
    | .mu pc' v ty' s, Γ1, Γ2, pc, ty, h => by
      simp only [Term.idents, List.mem_cons, not_or] at h
      have := Stmt.check_insert P Δ s (⟨v, pc.flip, ty⟩ :: Γ1) Γ2 (fun d hd => (h d hd).2)
      simp only [List.cons_append] at this
      simp only [Term.check, this]
    | .xtor pc' name as ty', Γ1, Γ2, pc, ty, h => by
      simp only [Term.idents] at h
      have h' : ∀ sig, as.check P (Γ1 ++ Δ ++ Γ2) sig = as.check P (Γ1 ++ Γ2) sig :=
        fun sig => Args.check_insert P Δ as Γ1 Γ2 sig h
      simp only [Term.check, h']
    | .xcase pc' ty' cl, Γ1, Γ2, pc, ty, h => by
      simp only [Term.idents] at h
      have h' : ∀ sigs, cl.check P (Γ1 ++ Δ ++ Γ2) sigs = cl.check P (Γ1 ++ Γ2) sigs :=
        fun sigs => Clauses.check_insert P Δ cl Γ1 Γ2 sigs h
      simp only [Term.check, h']
  theorem Args.check_insert (P : Prog) (Δ : Ctx) : (as : Args) → ∀ (Γ1 Γ2 : Ctx) (sig : Ctx),
      (∀ d ∈ Δ, d.var ∉ as.idents) →
      as.check P (Γ1 ++ Δ ++ Γ2) sig = as.check P (Γ1 ++ Γ2) sig
    | .nil, _, _, sig, _ => by cases sig <;> simp only [Args.check]
    | .cons pc t r, Γ1, Γ2, sig, h => by
      simp only [Args.idents, List.mem_append, not_or] at h
      cases sig with
      | nil => simp only [Args.check]
      | cons b bs =>
        simp only [Args.check, Term.check_insert P Δ t Γ1 Γ2 _ _ (fun d hd => (h d hd).1),
          Args.check_insert P Δ r Γ1 Γ2 _ (fun d hd => (h d hd).2)]
  theorem Clauses.check_insert (P : Prog) (Δ : Ctx) : (cl : Clauses) →
      ∀ (Γ1 Γ2 : Ctx) (sigs : List XtorSig), (∀ d ∈ Δ, d.var ∉ cl.idents) →
      cl.check P (Γ1 ++ Δ ++ Γ2) sigs = cl.check P (Γ1 ++ Γ2) sigs
    | .nil, _, _, _, _ => by simp only [Clauses.check]
    | .cons x ctx b r, Γ1, Γ2, sigs, h => by
      simp only [Clauses.idents, List.mem_append, not_or] at h
      have hb := Stmt.check_insert P Δ b (ctx ++ Γ1) Γ2 (fun d hd => (h d hd).1.2)
      have hr := Clauses.check_insert P Δ r Γ1 Γ2 sigs (fun d hd => (h d hd).2)
      have e1 : ctx ++ (Γ1 ++ Δ ++ Γ2) = ctx ++ Γ1 ++ Δ ++ Γ2 := by simp only [List.append_assoc]
      have e2 : ctx ++ (Γ1 ++ Γ2) = ctx ++ Γ1 ++ Γ2 := by simp only [List.append_assoc]
      simp only [Clauses.check, hr, e1, e2, hb]
  theorem Stmt.check_insert (P : Prog) (Δ : Ctx) : (s : Stmt) → ∀ (Γ1 Γ2 : Ctx),
      (∀ d ∈ Δ, d.var ∉ s.idents) →
      s.check P (Γ1 ++ Δ ++ Γ2) = s.check P (Γ1 ++ Γ2)
    | .cut ty p c, Γ1, Γ2, h => by
      simp only [Stmt.idents, List.mem_append, not_or] at h
      simp only [Stmt.check, Term.check_insert P Δ p Γ1 Γ2 _ _ (fun d hd => (h d hd).1),
        Term.check_insert P Δ c Γ1 Γ2 _ _ (fun d hd => (h d hd).2)]
    | .ifc _ a b t e, Γ1, Γ2, h => by
      simp only [Stmt.idents, List.mem_append, not_or] at h
      simp only [Stmt.check, Term.check_insert P Δ a Γ1 Γ2 _ _ (fun d hd => (h d hd).1.1.1),
        Term.check_insert P Δ b Γ1 Γ2 _ _ (fun d hd => (h d hd).1.1.2),
        Stmt.check_insert P Δ t Γ1 Γ2 (fun d hd => (h d hd).1.2),
        Stmt.check_insert P Δ e Γ1 Γ2 (fun d hd => (h d hd).2)]
    | .ifz _ a t e, Γ1, Γ2, h => by
      simp only [Stmt.idents, List.mem_append, not_or] at h
      simp only [Stmt.check, Term.check_insert P Δ a Γ1 Γ2 _ _ (fun d hd => (h d hd).1.1),
        Stmt.check_insert P Δ t Γ1 Γ2 (fun d hd => (h d hd).1.2),
        Stmt.check_insert P Δ e Γ1 Γ2 (fun d hd => (h d hd).2)]
    | .print _ a nx, Γ1, Γ2, h => by
      simp only [Stmt.idents, List.mem_append, not_or] at h
      simp only [Stmt.check, Term.check_insert P Δ a Γ1 Γ2 _ _ (fun d hd => (h d hd).1),
        Stmt.check_insert P Δ nx Γ1 Γ2 (fun d hd => (h d hd).2)]
    | .call f as _, Γ1, Γ2, h => by
      simp only [Stmt.idents] at h
      have h' : ∀ sig, as.check P (Γ1 ++ Δ ++ Γ2) sig = as.check P (Γ1 ++ Γ2) sig :=
        fun sig => Args.check_insert P Δ as Γ1 Γ2 sig h
      simp only [Stmt.check, h']
    | .exit a _, Γ1, Γ2, h => by
      simp only [Stmt.idents] at h
      simp only [Stmt.check, Term.check_insert P Δ a Γ1 Γ2 _ _ h]
end

theorem Fr.nil (n m : Nat) : Fr n m [] := by simp [Fr, ctxIds]

theorem Fr.cons {n m : Nat} {Δ : Ctx} (s : String) (pc : PC) (ty : Ty) (h : Fr n m Δ) (hm : n ≤ m) :
    Fr n (m + 1) (⟨⟨s, m + 1⟩, pc, ty⟩ :: Δ) := by
  show ((m + 1) :: ctxIds Δ).Nodup ∧ ∀ i ∈ (m + 1) :: ctxIds Δ, n < i ∧ i ≤ m + 1
  refine ⟨List.nodup_cons.mpr ⟨fun hi => ?_, h.1⟩, fun i hi => ?_⟩
  · have := h.2 _ hi; omega
  · rcases List.mem_cons.mp hi with rfl | hi
    · omega
    · have := h.2 i hi; omega

theorem Fr.single {n m : Nat} (s : String) (pc : PC) (ty : Ty) (hm : n ≤ m) :
    Fr n (m + 1) [⟨⟨s, m + 1⟩, pc, ty⟩] := Fr.cons s pc ty (Fr.nil n m) hm

theorem Fr.mono {n m m' : Nat} {Δ : Ctx} (h : Fr n m Δ) (hm : m ≤ m') : Fr n m' Δ :=
  ⟨h.1, fun i hi => ⟨(h.2 i hi).1, Nat.le_trans (h.2 i hi).2 hm⟩⟩

theorem Fr.append {n m1 m2 : Nat} {Δ1 Δ2 : Ctx} (h1 : Fr n m1 Δ1) (h2 : Fr m1 m2 Δ2) (hn : n ≤ m1)
    (hm : m1 ≤ m2) : Fr n m2 (Δ2 ++ Δ1) := by
  have e : ctxIds (Δ2 ++ Δ1) = ctxIds Δ2 ++ ctxIds Δ1 := List.map_append
  rw [Fr, e]
  refine ⟨List.nodup_append.mpr ⟨h2.1, h1.1, fun a ha b hb e => ?_⟩, fun i hi => ?_⟩
  · have := h2.2 a ha; have := h1.2 b hb; omega
  · rcases List.mem_append.mp hi with hi | hi
    · have := h2.2 i hi; omega
    · have := h1.2 i hi; omega

theorem Good.nodup_ctx {n : Nat} {Γ : Ctx} {bs : List Nat} {ids : List Ident} (h : Good n Γ bs ids) :
    (ctxIds Γ).Nodup := (List.nodup_append.mp h.1).1

theorem Good.ext {n m : Nat} {Γ Δ : Ctx} {bs bs' : List Nat} {ids ids' : List Ident}
    (h : Good n Γ bs ids) (hm : n ≤ m) (hΔ : Fr n m Δ) (hbs : bs'.Sublist bs)
    (hids : ∀ i ∈ ids', i ∈ ids) : Good m (Δ ++ Γ) bs' ids' := by
  obtain ⟨h1, h2, h3⟩ := h
  have e : ctxIds (Δ ++ Γ) ++ bs' = ctxIds Δ ++ (ctxIds Γ ++ bs') := by
    simp only [ctxIds, List.map_append, List.append_assoc]
  have hle : ∀ i ∈ ctxIds Γ ++ bs', i ≤ n := fun i hi =>
    h2 i ((List.Sublist.append_left hbs _).subset hi)
  rw [Good, e]
  refine ⟨List.nodup_append.mpr ⟨hΔ.1, h1.sublist (List.Sublist.append_left hbs _),
    fun a ha b hb e => ?_⟩, fun i hi => ?_, fun i hi => Nat.le_trans (h3 i (hids i hi)) hm⟩
  · have := hΔ.2 a ha; have := hle b hb; omega
  · rcases List.mem_append.mp hi with hi | hi
    · exact (hΔ.2 i hi).2
    · exact Nat.le_trans (hle i hi) hm

theorem Good.sub {n m : Nat} {Γ : Ctx} {bs bs' : List Nat} {ids ids' : List Ident}
    (h : Good n Γ bs ids) (hm : n ≤ m) (hbs : bs'.Sublist bs)
    (hids : ∀ i ∈ ids', i ∈ ids) : Good m Γ bs' ids' :=
  Good.ext (Δ := []) h hm (Fr.nil _ _) hbs hids

theorem Good.bind {n : Nat} {Γ ctx : Ctx} {bs bs' : List Nat} {ids ids' : List Ident}
    (h : Good n Γ bs ids) (hbs : (ctxIds ctx ++ bs').Sublist bs)
    (hids : ∀ i ∈ ids', i ∈ ids) : Good n (ctx ++ Γ) bs' ids' := by
  obtain ⟨h1, h2, h3⟩ := h
  have hsub := List.Sublist.append_left hbs (ctxIds Γ)
  have e : ctxIds (ctx ++ Γ) ++ bs' = ctxIds ctx ++ (ctxIds Γ ++ bs') := by
    simp only [ctxIds, List.map_append, List.append_assoc]
  have hp : (ctxIds ctx ++ (ctxIds Γ ++ bs')).Perm (ctxIds Γ ++ (ctxIds ctx ++ bs')) :=
    List.perm_append_comm_assoc _ _ _
  rw [Good, e]
  exact ⟨hp.nodup_iff.mpr (h1.sublist hsub), fun i hi => h2 i (hsub.subset (hp.mem_iff.mp hi)),
    fun i hi => h3 i (hids i hi)⟩

theorem Good.cons {n : Nat} {Γ : Ctx} {v : Ident} (pc : PC) (ty : Ty) {bs : List Nat}
    {ids ids' : List Ident} (h : Good n Γ (v.id :: bs) ids) (hids : ∀ i ∈ ids', i ∈ ids) :
    Good n (⟨v, pc, ty⟩ :: Γ) bs ids' :=
  Good.bind (ctx := [⟨v, pc, ty⟩]) h (List.Sublist.refl _) hids

/-- every id of the extended context is below the new counter -/
theorem Good.ctx_le {n m : Nat} {Γ Δ : Ctx} {bs : List Nat} {ids : List Ident}
    (h : Good n Γ bs ids) (hm : n ≤ m) (hΔ : Fr n m Δ) : ∀ i ∈ ctxIds (Δ ++ Γ), i ≤ m := by
  intro i hi
  have e : ctxIds (Δ ++ Γ) = ctxIds Δ ++ ctxIds Γ := List.map_append
  rw [e] at hi
  rcases List.mem_append.mp hi with hi | hi
  · exact (hΔ.2 i hi).2
  · exact Nat.le_trans (h.2.1 i (List.mem_append_left _ hi)) hm

theorem occFs_up {m1 m2 : Nat} {Γ Δ : Ctx} {b : Binding} (hle : ∀ i ∈ ctxIds Γ, i ≤ m1)
    (hΔ : Fr m1 m2 Δ) (h : occFs Γ b = true) : occFs (Δ ++ Γ) b = true := by
  apply occFs_append_fresh h
  intro hm
  have := hle _ (occFs_mem h)
  have := hΔ.2 _ hm
  omega

theorem fresh_not_idents {n m : Nat} {Δ : Ctx} {ids : List Ident} (hΔ : Fr n m Δ)
    (hi : IdsLe n ids) : ∀ d ∈ Δ, d.var ∉ ids := by
  intro d hd hm
  have h1 := hΔ.2 d.var.id (by simp only [ctxIds, List.mem_map]; exact ⟨d, hd, rfl⟩)
  have h2 := hi _ hm
  omega

theorem Term.check_ext {P : Prog} {n m : Nat} {Γ Δ : Ctx} {bs : List Nat} {ids : List Ident}
    {t : Term} {pc : PC} {ty : Ty} (h : t.check P Γ pc ty = true) (hg : Good n Γ bs ids)
    (hΔ : Fr n m Δ) (hids : ∀ i ∈ t.idents, i ∈ ids) : t.check P (Δ ++ Γ) pc ty = true := by
  have := Term.check_insert P Δ t [] Γ pc ty
    (fresh_not_idents hΔ (fun i hi => hg.2.2 i (hids i hi)))
  simp only [List.nil_append] at this; rw [this]; exact h

theorem Args.check_ext {P : Prog} {n m : Nat} {Γ Δ : Ctx} {bs : List Nat} {ids : List Ident}
    {as : Args} {sig : Ctx} (h : as.check P Γ sig = true) (hg : Good n Γ bs ids)
    (hΔ : Fr n m Δ) (hids : ∀ i ∈ as.idents, i ∈ ids) : as.check P (Δ ++ Γ) sig = true := by
  have := Args.check_insert P Δ as [] Γ sig
    (fresh_not_idents hΔ (fun i hi => hg.2.2 i (hids i hi)))
  simp only [List.nil_append] at this; rw [this]; exact h

theorem Stmt.check_ext {P : Prog} {n m : Nat} {Γ Δ : Ctx} {bs : List Nat} {ids : List Ident}
    {s : Stmt} (h : s.check P Γ = true) (hg : Good n Γ bs ids)
    (hΔ : Fr n m Δ) (hids : ∀ i ∈ s.idents, i ∈ ids) : s.check P (Δ ++ Γ) = true := by
  have := Stmt.check_insert P Δ s [] Γ
    (fresh_not_idents hΔ (fun i hi => hg.2.2 i (hids i hi)))
  simp only [List.nil_append] at this; rw [this]; exact h

theorem flipPC_eq (pc : PC) : flipPC pc = pc.flip := by cases pc <;> rfl

/-- `k` produces a well-scoped statement in every extension of `Γ` by generated bindings, when it is
    handed a binding that occurs in the extended context with chirality `pc` and type `ty` -/
def KOK (Γ : Ctx) (n : Nat) (pc : PC) (ty : Ty) (k : Cont) : Prop :=
  ∀ (Δ : Ctx) (b : Binding) (m : Nat), n ≤ m → Fr n m Δ → occFs (Δ ++ Γ) b = true →
    b.chi = pc → b.ty = ty → scStmt (Δ ++ Γ) (k b m).1 = true

def KVOK (Γ : Ctx) (n : Nat) (k : ContVec) : Prop :=
  ∀ (Δ : Ctx) (bs : List Binding) (m : Nat), n ≤ m → Fr n m Δ →
    (∀ b ∈ bs, occFs (Δ ++ Γ) b = true) → scStmt (Δ ++ Γ) (k bs m).1 = true

section
variable (P : Prog)

private def S1 (t : Term) (n : Nat) : Prop :=
  ∀ (Γ : Ctx) (pc : PC) (ty : Ty), t.check P Γ pc ty = true → Good n Γ t.binderIds t.idents →
    scTerm Γ (focusTerm t n).1 = true
private def S2 (cl : Clauses) (n : Nat) : Prop :=
  ∀ (Γ : Ctx) (sigs : List XtorSig), cl.check P Γ sigs = true → Good n Γ cl.binderIds cl.idents →
    scClauses Γ (focusClauses cl n).1 = true
private def S3 (s : Stmt) (n : Nat) : Prop :=
  ∀ (Γ : Ctx), s.check P Γ = true → Good n Γ s.binderIds s.idents →
    scStmt Γ (focusStmt s n).1 = true
private def S4 (t : Term) (k : Cont) (n : Nat) : Prop :=
  ∀ (Γ : Ctx) (pc : PC) (ty : Ty), t.check P Γ pc ty = true → Good n Γ t.binderIds t.idents →
    MonoK k → KOK Γ n pc ty k → scStmt Γ (bindTerm t k n).1 = true
private def S5 (as : Args) (k : ContVec) (n : Nat) : Prop :=
  ∀ (Γ : Ctx) (sig : Ctx), as.check P Γ sig = true → Good n Γ as.binderIds as.idents →
    MonoKV k → KVOK Γ n k → scStmt Γ (bindMany as k n).1 = true

/-- a checked variable occurrence -/
private theorem var_occ {Γ : Ctx} {pc' pc : PC} {v : Ident} {ty' ty : Ty}
    (h : (Term.var pc' v ty').check P Γ pc ty = true) (hn : (ctxIds Γ).Nodup) :
    pc' = pc ∧ ty' = ty ∧ occFs Γ ⟨v, pc', ty'⟩ = true := by
  obtain ⟨rfl, rfl, b, hb, h1, h2⟩ := Term.check_var h
  exact ⟨rfl, rfl, occFs_of_lookupBinding hn hb h1 h2⟩

theorem focusStmt_sc_aux (s : Stmt) (n : Nat) : S3 P s n := by
  apply focusStmt.induct (motive_1 := S1 P) (motive_2 := S2 P) (motive_3 := S3 P)
    (motive_4 := S4 P) (motive_5 := S5 P)
  -- focusTerm
  · intro pc' v ty' n Γ pc ty h hg
    simp only [focusTerm, scTerm]
    exact (var_occ P h hg.nodup_ctx).2.2
  · intro k n Γ pc ty _ _
    simp [focusTerm, scTerm]
  · intro a o b n Γ pc ty _ _
    simp [focusTerm, panicTerm, scTerm]
  · intro pc' v ty' s n s' n1 heq ih Γ pc ty h hg
    obtain ⟨rfl, rfl, h⟩ := Term.check_mu h
    simp only [Term.binderIds, Term.idents] at hg
    have := ih _ h (hg.cons pc'.flip ty' (fun i hi => by simp [hi]))
    rw [heq] at this
    simp only [focusTerm, heq, scTerm, flipPC_eq]
    exact this
  · intro pc' name as ty' n Γ pc ty _ _
    simp [focusTerm, panicTerm, scTerm]
  · intro pc' ty' cl n cl' n1 heq ih Γ pc ty h hg
    obtain ⟨_, _, _, d, _, _, h, _⟩ := Term.check_xcase h
    simp only [Term.binderIds, Term.idents] at hg
    have := ih Γ d.xtors h hg
    rw [heq] at this
    simpa only [focusTerm, heq, scTerm] using this
  -- bindTerm
  · intro pc' v ty' k n Γ pc ty h hg hmono hk
    obtain ⟨h1, h2, h3⟩ := var_occ P h hg.nodup_ctx
    simp only [bindTerm]
    exact hk [] ⟨v, pc', ty'⟩ n (Nat.le_refl _) (Fr.nil _ _) h3 h1 h2
  · intro i k n x n1 hfresh r n2 hkeq Γ pc ty h hg hmono hk
    simp only [freshVar, freshIdentifier, Prod.mk.injEq] at hfresh
    obtain ⟨rfl, rfl⟩ := hfresh
    simp only [Term.check, Bool.and_eq_true, beq_iff_eq] at h
    obtain ⟨rfl, rfl⟩ := h
    have := hk [⟨⟨"x", n + 1⟩, .prd, .i64⟩] ⟨⟨"x", n + 1⟩, .prd, .i64⟩ (n + 1) (by omega)
      (Fr.single "x" .prd .i64 (Nat.le_refl n)) (occFs_cons_self _ _) rfl rfl
    rw [hkeq] at this
    simp only [bindTerm, freshVar, freshIdentifier, hkeq, scStmt, scTerm, flipPC, Bool.true_and]
    exact this
  · intro a o b k n ih1 ih2 Γ pc ty h hg hmono hk
    simp only [Term.check, Bool.and_eq_true, beq_iff_eq] at h
    obtain ⟨⟨⟨rfl, rfl⟩, ha⟩, hb⟩ := h
    simp only [Term.binderIds, Term.idents] at hg
    simp only [bindTerm]
    have hmono2 : ∀ b1 : Binding, MonoK (fun b2 n =>
        match freshVar n with
        | (x, n1) =>
          match k ⟨x, .prd, .i64⟩ n1 with
          | (r, n2) => (FsStmt.cut .i64 (.op b1.var o b2.var) (.mu .cns x .i64 r), n2)) := by
      intro b1 b2 m
      have := hmono ⟨⟨"x", m + 1⟩, .prd, .i64⟩ (m + 1)
      simp only [freshVar, freshIdentifier]
      omega
    apply ih2 Γ .prd .i64 ha (hg.sub (Nat.le_refl _) (by sub_tac) (fun i hi => by simp [hi]))
    · intro b1 m1
      exact bindTerm_le _ _ _ (hmono2 b1)
    intro Δ1 b1 m1 hm1 hΔ1 hocc1 hc1 ht1
    apply ih1 b1 m1 (Δ1 ++ Γ) .prd .i64 (Term.check_ext hb hg hΔ1 (fun i hi => by simp [hi]))
      (hg.ext hm1 hΔ1 (by sub_tac) (fun i hi => by simp [hi])) (hmono2 b1)
    intro Δ2 b2 m2 hm2 hΔ2 hocc2 hc2 ht2
    have hocc1' := occFs_up (hg.ctx_le hm1 hΔ1) hΔ2 hocc1
    have := hk (⟨⟨"x", m2 + 1⟩, .prd, .i64⟩ :: (Δ2 ++ Δ1)) ⟨⟨"x", m2 + 1⟩, .prd, .i64⟩ (m2 + 1)
      (by omega) (Fr.cons "x" .prd .i64 (Fr.append hΔ1 hΔ2 hm1 hm2) (by omega))
      (occFs_cons_self _ _) rfl rfl
    simp only [List.cons_append, List.append_assoc] at this
    simp only [freshVar, freshIdentifier, scStmt, scTerm, flipPC, Bool.and_eq_true,
      binding_eta hc1 ht1, binding_eta hc2 ht2]
    exact ⟨⟨hocc1', hocc2⟩, this⟩
  · intro v ty' s k n x n1 hfresh s' n2 hs r n3 hkeq ih Γ pc ty h hg hmono hk
    simp only [freshVar, freshIdentifier, Prod.mk.injEq] at hfresh
    obtain ⟨rfl, rfl⟩ := hfresh
    obtain ⟨rfl, rfl, hs0⟩ := Term.check_mu h
    simp only [Term.binderIds, Term.idents] at hg
    have h1 := ih _ hs0 ((hg.cons PC.prd.flip ty' (fun i hi => by simp [hi])).sub
      (Nat.le_succ n) (List.Sublist.refl _) (fun i hi => hi))
    rw [hs] at h1
    have hle : n + 1 ≤ n2 := by have := focusStmt_le s (n + 1); rw [hs] at this; exact this
    have h2 := hk [⟨⟨"x", n + 1⟩, .prd, ty'⟩] ⟨⟨"x", n + 1⟩, .prd, ty'⟩ n2 (by omega)
      ((Fr.single "x" .prd ty' (Nat.le_refl n)).mono hle) (occFs_cons_self _ _) rfl rfl
    rw [hkeq] at h2
    simp only [bindTerm, freshVar, freshIdentifier, hs, hkeq, scStmt, scTerm, flipPC,
      Bool.and_eq_true]
    exact ⟨h1, h2⟩
  · intro v ty' s k n x n1 hfresh r n2 hkeq s' n3 hs ih Γ pc ty h hg hmono hk
    simp only [freshCovar, freshIdentifier, Prod.mk.injEq] at hfresh
    obtain ⟨rfl, rfl⟩ := hfresh
    obtain ⟨rfl, rfl, hs0⟩ := Term.check_mu h
    simp only [Term.binderIds, Term.idents] at hg
    have hle : n + 1 ≤ n2 := by
      have := hmono ⟨⟨"a", n + 1⟩, .cns, ty'⟩ (n + 1); rw [hkeq] at this; exact this
    have h1 := ih _ hs0 ((hg.cons PC.cns.flip ty' (fun i hi => by simp [hi])).sub
      (by omega : n ≤ n2) (List.Sublist.refl _) (fun i hi => hi))
    rw [hs] at h1
    have h2 := hk [⟨⟨"a", n + 1⟩, .cns, ty'⟩] ⟨⟨"a", n + 1⟩, .cns, ty'⟩ (n + 1) (by omega)
      (Fr.single "a" .cns ty' (Nat.le_refl n)) (occFs_cons_self _ _) rfl rfl
    rw [hkeq] at h2
    simp only [bindTerm, freshCovar, freshIdentifier, hs, hkeq, scStmt, scTerm, flipPC,
      Bool.and_eq_true]
    exact ⟨h2, h1⟩
  · intro name as ty' k n ih Γ pc ty h hg hmono hk
    obtain ⟨rfl, rfl, _, _, sig, _, _, _, has⟩ := Term.check_xtor h
    simp only [Term.binderIds, Term.idents] at hg
    simp only [bindTerm]
    apply ih Γ sig.args has hg
    · intro bs m
      have := hmono ⟨⟨"x", m + 1⟩, .prd, ty'⟩ (m + 1)
      simp only [freshVar, freshIdentifier]
      omega
    intro Δ bs m hm hΔ hbs
    have := hk (⟨⟨"x", m + 1⟩, .prd, ty'⟩ :: Δ) ⟨⟨"x", m + 1⟩, .prd, ty'⟩ (m + 1)
      (by omega) (Fr.cons "x" .prd ty' hΔ hm) (occFs_cons_self _ _) rfl rfl
    simp only [List.cons_append] at this
    simp only [freshVar, freshIdentifier, scStmt, scTerm, flipPC, Bool.and_eq_true,
      List.all_eq_true]
    exact ⟨hbs, this⟩
  · intro name as ty' k n ih Γ pc ty h hg hmono hk
    obtain ⟨rfl, rfl, _, _, sig, _, _, _, has⟩ := Term.check_xtor h
    simp only [Term.binderIds, Term.idents] at hg
    simp only [bindTerm]
    apply ih Γ sig.args has hg
    · intro bs m
      have := hmono ⟨⟨"a", m + 1⟩, .cns, ty'⟩ (m + 1)
      simp only [freshCovar, freshIdentifier]
      omega
    intro Δ bs m hm hΔ hbs
    have := hk (⟨⟨"a", m + 1⟩, .cns, ty'⟩ :: Δ) ⟨⟨"a", m + 1⟩, .cns, ty'⟩ (m + 1)
      (by omega) (Fr.cons "a" .cns ty' hΔ hm) (occFs_cons_self _ _) rfl rfl
    simp only [List.cons_append] at this
    simp only [freshCovar, freshIdentifier, scStmt, scTerm, flipPC, Bool.and_eq_true,
      List.all_eq_true]
    exact ⟨this, hbs⟩
  · intro ty' cl k n x n1 hfresh r n2 hkeq cl' n3 hs ih Γ pc ty h hg hmono hk
    simp only [freshVar, freshIdentifier, Prod.mk.injEq] at hfresh
    obtain ⟨rfl, rfl⟩ := hfresh
    obtain ⟨rfl, rfl, _, d, _, _, hcl, _⟩ := Term.check_xcase h
    simp only [Term.binderIds, Term.idents] at hg
    have hle : n + 1 ≤ n2 := by
      have := hmono ⟨⟨"x", n + 1⟩, .prd, ty'⟩ (n + 1); rw [hkeq] at this; exact this
    have h1 := ih Γ d.xtors hcl (hg.sub (by omega : n ≤ n2) (List.Sublist.refl _) (fun i hi => hi))
    rw [hs] at h1
    have h2 := hk [⟨⟨"x", n + 1⟩, .prd, ty'⟩] ⟨⟨"x", n + 1⟩, .prd, ty'⟩ (n + 1) (by omega)
      (Fr.single "x" .prd ty' (Nat.le_refl n)) (occFs_cons_self _ _) rfl rfl
    rw [hkeq] at h2
    simp only [bindTerm, freshVar, freshIdentifier, hs, hkeq, scStmt, scTerm, flipPC,
      Bool.and_eq_true]
    exact ⟨h1, h2⟩
  · intro ty' cl k n x n1 hfresh r n2 hkeq cl' n3 hs ih Γ pc ty h hg hmono hk
    simp only [freshCovar, freshIdentifier, Prod.mk.injEq] at hfresh
    obtain ⟨rfl, rfl⟩ := hfresh
    obtain ⟨rfl, rfl, _, d, _, _, hcl, _⟩ := Term.check_xcase h
    simp only [Term.binderIds, Term.idents] at hg
    have hle : n + 1 ≤ n2 := by
      have := hmono ⟨⟨"a", n + 1⟩, .cns, ty'⟩ (n + 1); rw [hkeq] at this; exact this
    have h1 := ih Γ d.xtors hcl (hg.sub (by omega : n ≤ n2) (List.Sublist.refl _) (fun i hi => hi))
    rw [hs] at h1
    have h2 := hk [⟨⟨"a", n + 1⟩, .cns, ty'⟩] ⟨⟨"a", n + 1⟩, .cns, ty'⟩ (n + 1) (by omega)
      (Fr.single "a" .cns ty' (Nat.le_refl n)) (occFs_cons_self _ _) rfl rfl
    rw [hkeq] at h2
    simp only [bindTerm, freshCovar, freshIdentifier, hs, hkeq, scStmt, scTerm, flipPC,
      Bool.and_eq_true]
    exact ⟨h2, h1⟩
  -- bindMany
  · intro k n Γ sig _ _ hmono hk
    simp only [bindMany]
    exact hk [] [] n (Nat.le_refl _) (Fr.nil _ _) (by simp)
  · intro pc t r k n ih1 ih2 Γ sig h hg hmono hk
    cases sig with
    | nil => simp [Args.check] at h
    | cons b0 sig' =>
      simp only [Args.check, Bool.and_eq_true] at h
      obtain ⟨⟨_, ht⟩, hr⟩ := h
      simp only [Args.binderIds, Args.idents] at hg
      simp only [bindMany]
      have hmono2 : ∀ b : Binding, MonoKV (fun bs n => k (b :: bs) n) := fun b bs m => hmono _ m
      apply ih2 Γ pc b0.ty ht (hg.sub (Nat.le_refl _) (by sub_tac) (fun i hi => by simp [hi]))
      · intro b m
        exact bindMany_le _ _ _ (hmono2 b)
      intro Δ1 b1 m1 hm1 hΔ1 hocc1 _ _
      apply ih1 b1 m1 (Δ1 ++ Γ) sig' (Args.check_ext hr hg hΔ1 (fun i hi => by simp [hi]))
        (hg.ext hm1 hΔ1 (by sub_tac) (fun i hi => by simp [hi])) (hmono2 b1)
      intro Δ2 bs m2 hm2 hΔ2 hbs
      have hocc1' := occFs_up (hg.ctx_le hm1 hΔ1) hΔ2 hocc1
      have := hk (Δ2 ++ Δ1) (b1 :: bs) m2 (by omega) (Fr.append hΔ1 hΔ2 hm1 hm2) (by
        intro b hb
        simp only [List.mem_cons] at hb
        rcases hb with rfl | hb
        · simpa only [List.append_assoc] using hocc1'
        · simpa only [List.append_assoc] using hbs b hb)
      simpa only [List.append_assoc] using this
  -- focusClauses
  · intro n Γ sigs _ _
    simp [focusClauses, scClauses]
  · intro x ctx b r n b' n1 hb r' n2 hr ihb ihr Γ sigs h hg
    simp only [Clauses.check, Bool.and_eq_true] at h
    obtain ⟨⟨_, hcb⟩, hcr⟩ := h
    simp only [Clauses.binderIds, Clauses.idents] at hg
    have h1 := ihb (ctx ++ Γ) hcb (hg.bind (by sub_tac) (fun i hi => by simp [hi]))
    have hle : n ≤ n1 := by have := focusStmt_le b n; rw [hb] at this; exact this
    have h2 := ihr Γ sigs hcr (hg.sub hle (by sub_tac) (fun i hi => by simp [hi]))
    rw [hb] at h1; rw [hr] at h2
    simp only [focusClauses, hb, hr, scClauses, Bool.and_eq_true]
    exact ⟨h1, h2⟩
  -- focusStmt: cut
  · intro ty pc name as ty1 c n ihc ih5 Γ h hg
    simp only [Stmt.check, Bool.and_eq_true] at h
    obtain ⟨hx, hc⟩ := h
    obtain ⟨_, _, _, _, sig, _, _, _, has⟩ := Term.check_xtor hx
    simp only [Stmt.binderIds, Stmt.idents, Term.binderIds, Term.idents] at hg
    simp only [focusStmt]
    apply ih5 Γ sig.args has (hg.sub (Nat.le_refl _) (by sub_tac) (fun i hi => by simp [hi]))
    · intro bs m
      exact focusTerm_le c m
    intro Δ bs m hm hΔ hbs
    have := ihc m (Δ ++ Γ) .cns ty (Term.check_ext hc hg hΔ (fun i hi => by simp [hi]))
      (hg.ext hm hΔ (by sub_tac) (fun i hi => by simp [hi]))
    simp only [scStmt, scTerm, Bool.and_eq_true, List.all_eq_true]
    exact ⟨hbs, this⟩
  · intro ty p dpc name as ty1 n hnx ihp ih5 Γ h hg
    simp only [Stmt.check, Bool.and_eq_true] at h
    obtain ⟨hp, hx⟩ := h
    obtain ⟨_, _, _, _, sig, _, _, _, has⟩ := Term.check_xtor hx
    simp only [Stmt.binderIds, Stmt.idents, Term.binderIds, Term.idents] at hg
    rw [focusStmt.eq_2 _ _ _ _ _ _ _ hnx]
    apply ih5 Γ sig.args has (hg.sub (Nat.le_refl _) (by sub_tac) (fun i hi => by simp [hi]))
    · intro bs m
      exact focusTerm_le p m
    intro Δ bs m hm hΔ hbs
    have := ihp m (Δ ++ Γ) .prd ty (Term.check_ext hp hg hΔ (fun i hi => by simp [hi]))
      (hg.ext hm hΔ (by sub_tac) (fun i hi => by simp [hi]))
    simp only [scStmt, scTerm, Bool.and_eq_true, List.all_eq_true]
    exact ⟨this, hbs⟩
  · intro ty a o b c n hnx ihc ih1 ih2 Γ h hg
    simp only [Stmt.check, Term.check, Bool.and_eq_true, beq_iff_eq] at h
    obtain ⟨⟨⟨_, ha⟩, hb⟩, hc⟩ := h
    simp only [Stmt.binderIds, Stmt.idents, Term.binderIds, Term.idents] at hg
    rw [focusStmt.eq_3 _ _ _ _ _ _ hnx]
    have hmono2 : ∀ b1 : Binding, MonoK (fun b2 n =>
        match focusTerm c n with
        | (c', n1) => (FsStmt.cut ty (.op b1.var o b2.var) c', n1)) :=
      fun b1 b2 m => focusTerm_le c m
    apply ih2 Γ .prd .i64 ha (hg.sub (Nat.le_refl _) (by sub_tac) (fun i hi => by simp [hi]))
    · intro b1 m1
      exact bindTerm_le _ _ _ (hmono2 b1)
    intro Δ1 b1 m1 hm1 hΔ1 hocc1 hc1 ht1
    apply ih1 b1 m1 (Δ1 ++ Γ) .prd .i64 (Term.check_ext hb hg hΔ1 (fun i hi => by simp [hi]))
      (hg.ext hm1 hΔ1 (by sub_tac) (fun i hi => by simp [hi])) (hmono2 b1)
    intro Δ2 b2 m2 hm2 hΔ2 hocc2 hc2 ht2
    have hocc1' := occFs_up (hg.ctx_le hm1 hΔ1) hΔ2 hocc1
    have hΔ := Fr.append hΔ1 hΔ2 hm1 hm2
    have := ihc m2 ((Δ2 ++ Δ1) ++ Γ) .cns ty
      (Term.check_ext hc hg hΔ (fun i hi => by simp [hi]))
      (hg.ext (by omega) hΔ (by sub_tac) (fun i hi => by simp [hi]))
    simp only [List.append_assoc] at this
    simp only [scStmt, scTerm, Bool.and_eq_true, binding_eta hc1 ht1, binding_eta hc2 ht2]
    exact ⟨⟨hocc1', hocc2⟩, this⟩
  · intro ty p c n hnp hnc hnop p' n1 hp c' n2 hc ihp ihc Γ h hg
    simp only [Stmt.check, Bool.and_eq_true] at h
    simp only [Stmt.binderIds, Stmt.idents] at hg
    rw [focusStmt.eq_4 _ _ _ _ hnp hnc hnop]
    have hle : n ≤ n1 := by have := focusTerm_le p n; rw [hp] at this; exact this
    have h1 := ihp Γ .prd ty h.1 (hg.sub (Nat.le_refl _) (by sub_tac) (fun i hi => by simp [hi]))
    have h2 := ihc Γ .cns ty h.2 (hg.sub hle (by sub_tac) (fun i hi => by simp [hi]))
    rw [hp] at h1; rw [hc] at h2
    simp only [hp, hc, scStmt, Bool.and_eq_true]
    exact ⟨h1, h2⟩
  -- focusStmt: ifc, ifz, print, call, exit
  · intro srt a b t e n iht ihe ih1 ih2 Γ h hg
    simp only [Stmt.check, Bool.and_eq_true] at h
    obtain ⟨⟨⟨ha, hb⟩, hct⟩, hce⟩ := h
    simp only [Stmt.binderIds, Stmt.idents] at hg
    simp only [focusStmt]
    have hmono2 : ∀ b1 : Binding, MonoK (fun b2 n =>
        match focusStmt t n with
        | (t', n1) =>
          match focusStmt e n1 with
          | (e', n2) => (FsStmt.ifc srt b1.var (some b2.var) t' e', n2)) := by
      intro b1 b2 m
      have h1 := focusStmt_le t m
      have h2 := focusStmt_le e (focusStmt t m).2
      simp only []
      omega
    apply ih2 Γ .prd .i64 ha (hg.sub (Nat.le_refl _) (by sub_tac) (fun i hi => by simp [hi]))
    · intro b1 m1
      exact bindTerm_le _ _ _ (hmono2 b1)
    intro Δ1 b1 m1 hm1 hΔ1 hocc1 hc1 ht1
    apply ih1 b1 m1 (Δ1 ++ Γ) .prd .i64 (Term.check_ext hb hg hΔ1 (fun i hi => by simp [hi]))
      (hg.ext hm1 hΔ1 (by sub_tac) (fun i hi => by simp [hi])) (hmono2 b1)
    intro Δ2 b2 m2 hm2 hΔ2 hocc2 hc2 ht2
    have hocc1' := occFs_up (hg.ctx_le hm1 hΔ1) hΔ2 hocc1
    have hΔ := Fr.append hΔ1 hΔ2 hm1 hm2
    have h1 := iht m2 ((Δ2 ++ Δ1) ++ Γ) (Stmt.check_ext hct hg hΔ (fun i hi => by simp [hi]))
      (hg.ext (by omega) hΔ (by sub_tac) (fun i hi => by simp [hi]))
    have hle := focusStmt_le t m2
    have h2 := ihe (focusStmt t m2).2 ((Δ2 ++ Δ1) ++ Γ)
      (Stmt.check_ext hce hg hΔ (fun i hi => by simp [hi]))
      (hg.ext (by omega) (hΔ.mono hle) (by sub_tac) (fun i hi => by simp [hi]))
    simp only [List.append_assoc] at h1 h2
    simp only [scStmt, Bool.and_eq_true, binding_eta hc1 ht1, binding_eta hc2 ht2]
    exact ⟨⟨⟨hocc1', hocc2⟩, h1⟩, h2⟩
  · intro srt a t e n iht ihe ih1 Γ h hg
    simp only [Stmt.check, Bool.and_eq_true] at h
    obtain ⟨⟨ha, hct⟩, hce⟩ := h
    simp only [Stmt.binderIds, Stmt.idents] at hg
    simp only [focusStmt]
    apply ih1 Γ .prd .i64 ha (hg.sub (Nat.le_refl _) (by sub_tac) (fun i hi => by simp [hi]))
    · intro b1 m
      have h1 := focusStmt_le t m
      have h2 := focusStmt_le e (focusStmt t m).2
      simp only []
      omega
    intro Δ b1 m hm hΔ hocc1 hc1 ht1
    have h1 := iht m (Δ ++ Γ) (Stmt.check_ext hct hg hΔ (fun i hi => by simp [hi]))
      (hg.ext hm hΔ (by sub_tac) (fun i hi => by simp [hi]))
    have hle := focusStmt_le t m
    have h2 := ihe (focusStmt t m).2 (Δ ++ Γ)
      (Stmt.check_ext hce hg hΔ (fun i hi => by simp [hi]))
      (hg.ext (by omega) (hΔ.mono hle) (by sub_tac) (fun i hi => by simp [hi]))
    simp only [scStmt, Bool.and_eq_true, binding_eta hc1 ht1, and_true]
    exact ⟨⟨hocc1, h1⟩, h2⟩
  · intro nl a nx n ihn ih1 Γ h hg
    simp only [Stmt.check, Bool.and_eq_true] at h
    obtain ⟨ha, hcn⟩ := h
    simp only [Stmt.binderIds, Stmt.idents] at hg
    simp only [focusStmt]
    apply ih1 Γ .prd .i64 ha (hg.sub (Nat.le_refl _) (by sub_tac) (fun i hi => by simp [hi]))
    · intro b1 m
      exact focusStmt_le nx m
    intro Δ b1 m hm hΔ hocc1 hc1 ht1
    have h1 := ihn m (Δ ++ Γ) (Stmt.check_ext hcn hg hΔ (fun i hi => by simp [hi]))
      (hg.ext hm hΔ (by sub_tac) (fun i hi => by simp [hi]))
    simp only [scStmt, Bool.and_eq_true, binding_eta hc1 ht1]
    exact ⟨hocc1, h1⟩
  · intro f as ty n ih5 Γ h hg
    simp only [Stmt.check] at h
    simp only [Stmt.binderIds, Stmt.idents] at hg
    simp only [focusStmt]
    split at h
    · simp at h
    · rename_i d _
      apply ih5 Γ d.ctx h hg
      · intro bs m; exact Nat.le_refl _
      intro Δ bs m hm hΔ hbs
      simp only [scStmt, List.all_eq_true]
      exact hbs
  · intro a ty n ih4 Γ h hg
    simp only [Stmt.check] at h
    simp only [Stmt.binderIds, Stmt.idents] at hg
    simp only [focusStmt]
    apply ih4 Γ .prd .i64 h hg
    · intro b m; exact Nat.le_refl _
    intro Δ b m hm hΔ hocc hc ht
    simp only [scStmt, binding_eta hc ht]
    exact hocc

end

theorem focusStmt_sc (P : Prog) (s : Stmt) (n : Nat) (Γ : Ctx) :
    s.check P Γ = true → Good n Γ s.binderIds s.idents →
    Core2AxCut.scStmt Γ (focusStmt s n).1 = true :=
  focusStmt_sc_aux P s n Γ

/-! ## non-vacuity: a concrete well-typed statement in a `Good` context -/

/-- `exit (n + 2)` in the context `n : prd i64`; the name counter is `1` -/
example :
    let P : Prog := ⟨[], [], [], 1⟩
    let Γ : Ctx := [⟨⟨"n", 1⟩, .prd, .i64⟩]
    let s : Stmt := .exit (.op (.var .prd ⟨"n", 1⟩ .i64) .sum (.lit 2)) .i64
    s.check P Γ = true ∧ Good 1 Γ s.binderIds s.idents ∧
      Core2AxCut.scStmt Γ (focusStmt s 1).1 = true := by
  intro P Γ s
  have hc : s.check P Γ = true := by decide
  have hg : Good 1 Γ s.binderIds s.idents := by
    simp [Good, IdsLe, ctxIds, Γ, s, Stmt.binderIds, Term.binderIds, Stmt.idents, Term.idents]
  exact ⟨hc, hg, focusStmt_sc P s 1 Γ hc hg⟩

/-- a statement with binders: `⟨μ a. ⟨n | a⟩ | μ~ y. exit y⟩` -/
example :
    let P : Prog := ⟨[], [], [], 3⟩
    let Γ : Ctx := [⟨⟨"n", 1⟩, .prd, .i64⟩]
    let s : Stmt := .cut .i64
      (.mu .prd ⟨"a", 2⟩ .i64 (.cut .i64 (.var .prd ⟨"n", 1⟩ .i64) (.var .cns ⟨"a", 2⟩ .i64)))
      (.mu .cns ⟨"y", 3⟩ .i64 (.exit (.var .prd ⟨"y", 3⟩ .i64) .i64))
    s.check P Γ = true ∧ Good 3 Γ s.binderIds s.idents := by
  intro P Γ s
  refine ⟨by decide, ?_⟩
  simp [Good, IdsLe, ctxIds, Γ, s, Stmt.binderIds, Term.binderIds, Stmt.idents, Term.idents]


end Scc.Core
