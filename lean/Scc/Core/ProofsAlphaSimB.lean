/-
  Scc.Core.ProofsAlphaSimB — the ς-machine is invariant under α-equivalence: relation between two
  states of the ς-machine (on two definition-wise α-equivalent programs) whose statements have the
  same nameless form relative to the key lists of their environments, and whose values are related
  pointwise (closures by the same relation).  Values, lookups, clause selection.
-/
import Scc.Core.ProofsAlphaSimA
import Scc.Core.ProofsFocusSimA

namespace Scc.Core
namespace AlphaSim

open FocusSim (keys SigLt keys_nil keys_cons)

structure CodeA (k : Nat) (sc1 : List Ident) (s1 : Stmt) (sc2 : List Ident) (s2 : Stmt) : Prop where
  db : dbS sc1 s1 = dbS sc2 s2
  sig1 : SigLt k s1.idents
  sig2 : SigLt k s2.idents

structure CodeAC (k : Nat) (sc1 : List Ident) (c1 : Clauses) (sc2 : List Ident) (c2 : Clauses) :
    Prop where
  db : dbC sc1 c1 = dbC sc2 c2
  sig1 : SigLt k c1.idents
  sig2 : SigLt k c2.idents

theorem CodeA.mono {k k' sc1 s1 sc2 s2} (h : CodeA k sc1 s1 sc2 s2) (hk : k ≤ k') :
    CodeA k' sc1 s1 sc2 s2 := ⟨h.db, h.sig1.mono hk, h.sig2.mono hk⟩
theorem CodeAC.mono {k k' sc1 s1 sc2 s2} (h : CodeAC k sc1 s1 sc2 s2) (hk : k ≤ k') :
    CodeAC k' sc1 s1 sc2 s2 := ⟨h.db, h.sig1.mono hk, h.sig2.mono hk⟩

mutual
  inductive VA (k : Nat) : CVal → CVal → Prop
    | int (n) : VA k (.int n) (.int n)
    | con (c) {vs vs'} : VsA k vs vs' → VA k (.con c vs) (.con c vs')
    | cocase {ρ ρ' cl cl'} : EA k ρ ρ' → CodeAC k (keys ρ) cl (keys ρ') cl' →
        VA k (.cocase ρ cl) (.cocase ρ' cl')
    | thunk {ρ ρ' a a' s s'} : EA k ρ ρ' → CodeA k (a :: keys ρ) s (a' :: keys ρ') s' →
        VA k (.thunk ρ a s) (.thunk ρ' a' s')
    | dtor (d) {vs vs'} : VsA k vs vs' → VA k (.dtor d vs) (.dtor d vs')
    | case {ρ ρ' cl cl'} : EA k ρ ρ' → CodeAC k (keys ρ) cl (keys ρ') cl' →
        VA k (.case ρ cl) (.case ρ' cl')
    | mutilde {ρ ρ' x x' s s'} : EA k ρ ρ' → CodeA k (x :: keys ρ) s (x' :: keys ρ') s' →
        VA k (.mutilde ρ x s) (.mutilde ρ' x' s')
    | halt : VA k .halt .halt
  inductive VsA (k : Nat) : List CVal → List CVal → Prop
    | nil : VsA k [] []
    | cons {v v' vs vs'} : VA k v v' → VsA k vs vs' → VsA k (v :: vs) (v' :: vs')
  inductive EA (k : Nat) : CEnv → CEnv → Prop
    | nil : EA k [] []
    | cons (x x') {v v' ρ ρ'} : VA k v v' → EA k ρ ρ' → EA k ((x, v) :: ρ) ((x', v') :: ρ')
end

mutual
  theorem VA.mono {k k' : Nat} (hk : k ≤ k') : ∀ {v w}, VA k v w → VA k' v w
    | _, _, .int n => .int n
    | _, _, .con c h => .con c (VsA.mono hk h)
    | _, _, .cocase he hc => .cocase (EA.mono hk he) (hc.mono hk)
    | _, _, .thunk he hc => .thunk (EA.mono hk he) (hc.mono hk)
    | _, _, .dtor d h => .dtor d (VsA.mono hk h)
    | _, _, .case he hc => .case (EA.mono hk he) (hc.mono hk)
    | _, _, .mutilde he hc => .mutilde (EA.mono hk he) (hc.mono hk)
    | _, _, .halt => .halt
  theorem VsA.mono {k k' : Nat} (hk : k ≤ k') : ∀ {v w}, VsA k v w → VsA k' v w
    | _, _, .nil => .nil
    | _, _, .cons h1 h2 => .cons (VA.mono hk h1) (VsA.mono hk h2)
  theorem EA.mono {k k' : Nat} (hk : k ≤ k') : ∀ {v w}, EA k v w → EA k' v w
    | _, _, .nil => .nil
    | _, _, .cons x x' h1 h2 => .cons x x' (VA.mono hk h1) (EA.mono hk h2)
end

theorem lookup_rel {k : Nat} {ρ ρ' : CEnv} (h : EA k ρ ρ') {x x' : Ident}
    (hv : dbVar (keys ρ) x = dbVar (keys ρ') x') :
    ExRel (VA k) (ρ.lookup x) (ρ'.lookup x') := by
  induction ρ generalizing ρ' with
  | nil =>
    cases h
    simp only [keys_nil, dbVar, DVar.free.injEq] at hv
    simp [Env.lookup, ExRel, hv]
  | cons e r ih =>
    cases h with
    | cons y y' hval hr =>
      simp only [keys_cons, dbVar] at hv
      simp only [Env.lookup]
      by_cases h1 : y = x <;> by_cases h2 : y' = x' <;>
        simp only [h1, h2, if_true, if_false] at hv ⊢
      · exact hval
      · exact absurd hv.symm (DVar.shift_ne_zero _)
      · exact absurd hv (DVar.shift_ne_zero _)
      · exact ih hr (DVar.shift_inj hv)

theorem lookupInt_rel {k : Nat} {ρ ρ' : CEnv} (h : EA k ρ ρ') {x x' : Ident}
    (hv : dbVar (keys ρ) x = dbVar (keys ρ') x') : ρ.lookupInt x = ρ'.lookupInt x' := by
  have := lookup_rel h hv
  unfold Env.lookupInt
  cases h1 : ρ.lookup x <;> cases h2 : ρ'.lookup x' <;> simp only [h1, h2, ExRel] at this
  · simp [this]
  · cases this <;> rfl

theorem argVals_nonvar (ρ : CEnv) (pc : PC) (t : Term) (r : Args) (h : t.isVar = false) :
    argVals ρ (.cons pc t r) = .error .shape := by
  cases t <;> simp [Term.isVar] at h <;> rfl

theorem isVar_alpha {sc1 sc2 : List Ident} {t1 t2 : Term} (h : dbT sc1 t1 = dbT sc2 t2) :
    t1.isVar = t2.isVar := by
  rw [← dbT_isVar sc1 t1, ← dbT_isVar sc2 t2, h]

theorem argVals_rel {k : Nat} {ρ ρ' : CEnv} (h : EA k ρ ρ') :
    (as : Args) → ∀ as' : Args, dbA (keys ρ) as = dbA (keys ρ') as' →
      ExRel (VsA k) (argVals ρ as) (argVals ρ' as')
  | .nil, as', hA => by
    simp only [dbA] at hA
    obtain rfl := dbA_eq_nil hA.symm
    simp [argVals, ExRel, VsA.nil]
  | .cons pc t r, as', hA => by
    simp only [dbA] at hA
    obtain ⟨t', r', rfl, ht, hr⟩ := dbA_eq_cons hA.symm
    have hiv := isVar_alpha ht
    by_cases hv : t.isVar = true
    · obtain ⟨p, v, ty, rfl⟩ := Term.isVar_eq hv
      obtain ⟨p', v', ty', rfl⟩ := Term.isVar_eq (hiv ▸ hv)
      simp only [dbT, DTerm.var.injEq] at ht
      have hb := lookup_rel h ht.2.symm
      have ih := argVals_rel h r r' hr.symm
      simp only [argVals]
      cases h1 : ρ.lookup v <;> cases h2 : ρ'.lookup v' <;> simp only [h1, h2, ExRel] at hb
      · simp [ExRel, hb]
      · cases h3 : argVals ρ r <;> cases h4 : argVals ρ' r' <;> simp only [h3, h4, ExRel] at ih
        · simpa [ExRel] using ih
        · exact VsA.cons hb ih
    · have hv1 : t.isVar = false := by simpa using hv
      have hv2 : t'.isVar = false := by rw [hiv, hv1]
      rw [argVals_nonvar ρ pc t r hv1, argVals_nonvar ρ' pc t' r' (by rw [← hv2, hiv])]
      simp [ExRel]

theorem bind_rel {k : Nat} {ρ ρ' : CEnv} (h : EA k ρ ρ') :
    ∀ (ctx ctx' : Ctx) {vs vs'}, ctx.length = ctx'.length → VsA k vs vs' →
      ExRel (fun e e' => EA k e e' ∧ keys e = ctxVars ctx ++ keys ρ ∧
        keys e' = ctxVars ctx' ++ keys ρ') (ρ.bind ctx vs) (ρ'.bind ctx' vs')
  | [], [], vs, vs', _, hv => by
    cases hv <;> simp [Env.bind, ExRel, h, ctxVars]
  | [], _ :: _, _, _, hl, _ => by simp at hl
  | _ :: _, [], _, _, hl, _ => by simp at hl
  | b :: bs, b' :: bs', vs, vs', hl, hv => by
    cases hv with
    | nil => simp [Env.bind, ExRel]
    | cons hv1 hvs =>
      have := bind_rel h bs bs' (by simpa using hl) hvs
      simp only [Env.bind]
      cases h1 : Env.bind ρ bs _ <;> cases h2 : Env.bind ρ' bs' _ <;>
        simp only [h1, h2, ExRel] at this
      · simpa [ExRel] using this
      · simp only [ExRel, keys_cons, ctxVars, List.map_cons, List.cons_append]
        exact ⟨EA.cons _ _ hv1 this.1, by rw [this.2.1]; rfl, by rw [this.2.2]; rfl⟩

theorem prdVal_op_nonvar (ρ : CEnv) (a b : Term) (o : BinOp)
    (h : ¬ (a.isVar = true ∧ b.isVar = true)) : prdVal ρ (.op a o b) = .error .shape := by
  cases a <;> cases b <;> simp [Term.isVar] at h <;> rfl

theorem prdVal_rel {k : Nat} {ρ ρ' : CEnv} (he : EA k ρ ρ') {p p' : Term}
    (h : dbT (keys ρ) p = dbT (keys ρ') p') (hs : SigLt k p.idents) (hs' : SigLt k p'.idents) :
    ExRel (VA k) (prdVal ρ p) (prdVal ρ' p') := by
  cases p with
  | var pc v t' =>
    simp only [dbT] at h
    obtain ⟨v2, ty2, rfl, hv2⟩ := dbT_eq_var h.symm
    exact lookup_rel he hv2.symm
  | lit i =>
    simp only [dbT] at h
    obtain rfl := dbT_eq_lit h.symm
    simp [prdVal, ExRel, VA.int]
  | op a o b =>
    simp only [dbT] at h
    obtain ⟨a', b', rfl, ha, hb⟩ := dbT_eq_op h.symm
    have hia := isVar_alpha ha.symm
    have hib := isVar_alpha hb.symm
    by_cases hv : a.isVar = true ∧ b.isVar = true
    · obtain ⟨pa, va, ta, rfl⟩ := Term.isVar_eq hv.1
      obtain ⟨pb, vb, tb, rfl⟩ := Term.isVar_eq hv.2
      obtain ⟨pa', va', ta', rfl⟩ := Term.isVar_eq (hia ▸ hv.1)
      obtain ⟨pb', vb', tb', rfl⟩ := Term.isVar_eq (hib ▸ hv.2)
      simp only [dbT, DTerm.var.injEq] at ha hb
      simp only [prdVal, lookupInt_rel he ha.2.symm, lookupInt_rel he hb.2.symm]
      cases ρ'.lookupInt va' <;> cases ρ'.lookupInt vb' <;> simp only [ExRel]
      cases arith o _ _ <;> simp [VA.int]
    · have hv' : ¬ (a'.isVar = true ∧ b'.isVar = true) := by rw [← hia, ← hib]; exact hv
      rw [prdVal_op_nonvar ρ _ _ o hv, prdVal_op_nonvar ρ' _ _ o hv']
      simp [ExRel]
  | mu pc a t' s =>
    simp only [dbT] at h
    obtain ⟨a2, s2, rfl, hs2⟩ := dbT_eq_mu h.symm
    simp only [Term.idents, FocusSim.SigLt_cons] at hs hs'
    simp only [prdVal, ExRel]
    exact VA.thunk he ⟨hs2.symm, hs.2, hs'.2⟩
  | xtor pc name as t1 =>
    simp only [dbT] at h
    obtain ⟨as2, rfl, hA⟩ := dbT_eq_xtor h.symm
    have := argVals_rel he as as2 hA.symm
    simp only [prdVal]
    cases h1 : argVals ρ as <;> cases h2 : argVals ρ' as2 <;> simp only [h1, h2, ExRel] at this ⊢
    · exact this
    · exact VA.con name this
  | xcase pc t' cl =>
    simp only [dbT] at h
    obtain ⟨cl2, rfl, hc⟩ := dbT_eq_xcase h.symm
    simp only [Term.idents] at hs hs'
    simp only [prdVal, ExRel]
    exact VA.cocase he ⟨hc.symm, hs, hs'⟩

theorem cnsVal_rel {k : Nat} {ρ ρ' : CEnv} (he : EA k ρ ρ') {c c' : Term}
    (h : dbT (keys ρ) c = dbT (keys ρ') c') (hs : SigLt k c.idents) (hs' : SigLt k c'.idents) :
    ExRel (VA k) (cnsVal ρ c) (cnsVal ρ' c') := by
  cases c with
  | var pc v t' =>
    simp only [dbT] at h
    obtain ⟨v2, ty2, rfl, hv2⟩ := dbT_eq_var h.symm
    exact lookup_rel he hv2.symm
  | lit i =>
    simp only [dbT] at h
    obtain rfl := dbT_eq_lit h.symm
    simp [cnsVal, ExRel]
  | op a o b =>
    simp only [dbT] at h
    obtain ⟨a', b', rfl, -, -⟩ := dbT_eq_op h.symm
    simp [cnsVal, ExRel]
  | mu pc a t' s =>
    simp only [dbT] at h
    obtain ⟨a2, s2, rfl, hs2⟩ := dbT_eq_mu h.symm
    simp only [Term.idents, FocusSim.SigLt_cons] at hs hs'
    simp only [cnsVal, ExRel]
    exact VA.mutilde he ⟨hs2.symm, hs.2, hs'.2⟩
  | xtor pc name as t1 =>
    simp only [dbT] at h
    obtain ⟨as2, rfl, hA⟩ := dbT_eq_xtor h.symm
    have := argVals_rel he as as2 hA.symm
    simp only [cnsVal]
    cases h1 : argVals ρ as <;> cases h2 : argVals ρ' as2 <;> simp only [h1, h2, ExRel] at this ⊢
    · exact this
    · exact VA.dtor name this
  | xcase pc t' cl =>
    simp only [dbT] at h
    obtain ⟨cl2, rfl, hc⟩ := dbT_eq_xcase h.symm
    simp only [Term.idents] at hs hs'
    simp only [cnsVal, ExRel]
    exact VA.case he ⟨hc.symm, hs, hs'⟩

theorem mu_alpha_iff {sc sc' : List Ident} {p p' : Term} (h : dbT sc p = dbT sc' p') :
    (∃ pc a t s, p = .mu pc a t s) ↔ (∃ pc a t s, p' = .mu pc a t s) := by
  constructor
  · rintro ⟨pc, a, t, s, rfl⟩
    simp only [dbT] at h
    obtain ⟨a2, s2, rfl, -⟩ := dbT_eq_mu h.symm
    exact ⟨_, _, _, _, rfl⟩
  · rintro ⟨pc, a, t, s, rfl⟩
    simp only [dbT] at h
    obtain ⟨a2, s2, rfl, -⟩ := dbT_eq_mu h
    exact ⟨_, _, _, _, rfl⟩

theorem find_rel {k : Nat} {sc1 sc2 : List Ident} (x : Ident) :
    (cl cl2 : Clauses) → dbC sc1 cl = dbC sc2 cl2 → SigLt k cl.idents → SigLt k cl2.idents →
      (cl.find x = none ∧ cl2.find x = none) ∨
      ∃ ctx body ctx2 body2, cl.find x = some (ctx, body) ∧ cl2.find x = some (ctx2, body2) ∧
        ctx.length = ctx2.length ∧ CodeA k (ctxVars ctx ++ sc1) body (ctxVars ctx2 ++ sc2) body2
  | .nil, cl2, h, _, _ => by
    simp only [dbC] at h
    obtain rfl := dbC_eq_nil h.symm
    exact Or.inl ⟨rfl, rfl⟩
  | .cons x0 ctx b r, cl2, h, hs, hs' => by
    simp only [dbC] at h
    obtain ⟨ctx2, b2, r2, rfl, hsig, hb, hr⟩ := dbC_eq_cons h.symm
    simp only [Clauses.idents, FocusSim.SigLt_append] at hs hs'
    simp only [Clauses.find]
    by_cases hx : x0 = x
    · simp only [hx, if_true]
      exact Or.inr ⟨ctx, b, ctx2, b2, rfl, rfl, (ctxSig_length hsig).symm,
        ⟨hb.symm, hs.1.2, hs'.1.2⟩⟩
    · simp only [hx, if_false]
      exact find_rel x r r2 hr.symm hs.2 hs'.2

end AlphaSim
end Scc.Core
