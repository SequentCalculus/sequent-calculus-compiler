/-
  Scc.Core.ProofsFocusSigma — static focusing follows the ς-order of the specification machine:
  if the machine reads an unfocused statement as `S[t]` (`Stmt.split`, Sem.lean: `t` the leftmost
  non-variable argument), then, unless `s` is one of the two shapes of cut on which Rust's `Cut::focus` panics
  (`Stmt.cutOkTop`),
        focus (S[t]) = bind t (fun x => focus (S[x]))
  with the same counter threading (`focusStmt_split`; `x` enters as the term `Binding.toTerm`).  So the
  implementation's `bind`/`bind_many` lifts the same argument as the textbook ς-rule and continues with the same
  residual statement.  `Stmt.split` is first turned into an inductive relation (`ASplit`, `SSplit`: one rule per
  position at which the argument is found); the equation is then read off rule by rule.  For the statements the
  machine does not split, `Stmt.split_none_*` say form by form that the arguments are variables.
-/
import Scc.Core.Focus
import Scc.Core.Sem

namespace Scc.Core

/-- the variable term for a binding handed to a continuation -/
def Binding.toTerm (b : Binding) : Term := .var b.chi b.var b.ty

theorem Term.isVar_eq {t : Term} (h : t.isVar = true) : ∃ pc v ty, t = .var pc v ty := by
  cases t <;> simp [Term.isVar] at h
  exact ⟨_, _, _, rfl⟩

/-- `ASplit as pc t A`: `t` is the leftmost argument of `as` that is not a variable, it stands at a position of
    polarity `pc`, and `A h` is `as` with `h` in its place (`Args.split`, rule by rule) -/
inductive ASplit : Args → PC → Term → (Term → Args) → Prop
  | here (pc : PC) (t : Term) (r : Args) : t.isVar = false →
      ASplit (.cons pc t r) pc t (fun h => .cons pc h r)
  | there (pc : PC) (v : Term) (r : Args) {c : PC} {u : Term} {A : Term → Args} :
      v.isVar = true → ASplit r c u A → ASplit (.cons pc v r) c u (fun h => .cons pc v (A h))

theorem ASplit.of_split : (as : Args) → ∀ {pc t A}, as.split = some (pc, t, A) → ASplit as pc t A
  | .nil, _, _, _, h => by simp [Args.split] at h
  | .cons pc' u r, pc, t, A, h => by
    simp only [Args.split] at h
    split at h
    · next hv =>
      split at h
      · next c u' A' hr =>
        simp only [Option.some.injEq, Prod.mk.injEq] at h
        obtain ⟨rfl, rfl, rfl⟩ := h
        exact .there _ _ _ hv (ASplit.of_split r hr)
      · simp at h
    · next hv =>
      simp only [Option.some.injEq, Prod.mk.injEq] at h
      obtain ⟨rfl, rfl, rfl⟩ := h
      exact .here _ _ _ (by simpa using hv)

/-- the positions at which `Stmt.split` finds the argument to be lifted -/
inductive SSplit : Stmt → PC → Term → (Term → Stmt) → Prop
  | cutL (ty : Ty) (pc : PC) (k : Ident) (as : Args) (t : Ty) (cn : Term) {c u A} :
      ASplit as c u A →
      SSplit (.cut ty (.xtor pc k as t) cn) c u (fun h => .cut ty (.xtor pc k (A h) t) cn)
  | cutLR (ty : Ty) (pc : PC) (k : Ident) (as : Args) (t : Ty) (dpc : PC) (d : Ident) (ds : Args)
      (dt : Ty) {c u D} : as.split = none → ASplit ds c u D →
      SSplit (.cut ty (.xtor pc k as t) (.xtor dpc d ds dt)) c u
        (fun h => .cut ty (.xtor pc k as t) (.xtor dpc d (D h) dt))
  | cutR (ty : Ty) (p : Term) (dpc : PC) (d : Ident) (ds : Args) (dt : Ty) {c u D} :
      (∀ pc k as t, p ≠ .xtor pc k as t) → ASplit ds c u D →
      SSplit (.cut ty p (.xtor dpc d ds dt)) c u (fun h => .cut ty p (.xtor dpc d (D h) dt))
  | opL (ty : Ty) (a : Term) (o : BinOp) (b cn : Term) :
      a.isVar = false → (∀ dpc d ds dt, cn ≠ .xtor dpc d ds dt) →
      SSplit (.cut ty (.op a o b) cn) .prd a (fun h => .cut ty (.op h o b) cn)
  | opR (ty : Ty) (a : Term) (o : BinOp) (b cn : Term) :
      a.isVar = true → b.isVar = false → (∀ dpc d ds dt, cn ≠ .xtor dpc d ds dt) →
      SSplit (.cut ty (.op a o b) cn) .prd b (fun h => .cut ty (.op a o h) cn)
  | ifcL (s : IfSort) (a b : Term) (t e : Stmt) : a.isVar = false →
      SSplit (.ifc s a b t e) .prd a (fun h => .ifc s h b t e)
  | ifcR (s : IfSort) (a b : Term) (t e : Stmt) : a.isVar = true → b.isVar = false →
      SSplit (.ifc s a b t e) .prd b (fun h => .ifc s a h t e)
  | ifz (s : IfSort) (a : Term) (t e : Stmt) : a.isVar = false →
      SSplit (.ifz s a t e) .prd a (fun h => .ifz s h t e)
  | print (nl : Bool) (a : Term) (n : Stmt) : a.isVar = false →
      SSplit (.print nl a n) .prd a (fun h => .print nl h n)
  | call (f : Ident) (as : Args) (ty : Ty) {c u A} : ASplit as c u A →
      SSplit (.call f as ty) c u (fun h => .call f (A h) ty)
  | exit (a : Term) (ty : Ty) : a.isVar = false →
      SSplit (.exit a ty) .prd a (fun h => .exit h ty)

theorem SSplit.of_split (s : Stmt) {pc : PC} {t : Term} {S : Term → Stmt}
    (h : s.split = some (pc, t, S)) : SSplit s pc t S := by
  unfold Stmt.split at h
  split at h
  · next ty kpc k as kt c =>
    split at h
    · next c' u A hs =>
      simp only [Option.some.injEq, Prod.mk.injEq] at h
      obtain ⟨rfl, rfl, rfl⟩ := h
      exact .cutL _ _ _ _ _ _ (ASplit.of_split as hs)
    · next hsn =>
      split at h
      · next dpc d ds dt =>
        split at h
        · next c' u D hs =>
          simp only [Option.some.injEq, Prod.mk.injEq] at h
          obtain ⟨rfl, rfl, rfl⟩ := h
          exact .cutLR _ _ _ _ _ _ _ _ _ hsn (ASplit.of_split ds hs)
        · simp at h
      · simp at h
  · next ty p dpc d ds dt hnx =>
    split at h
    · next c' u D hs =>
      simp only [Option.some.injEq, Prod.mk.injEq] at h
      obtain ⟨rfl, rfl, rfl⟩ := h
      exact .cutR _ _ _ _ _ _ (fun pc k as t e => hnx pc k as t e) (ASplit.of_split ds hs)
    · simp at h
  · next ty a o b c hnx =>
    have hc : ∀ dpc d ds dt, c ≠ .xtor dpc d ds dt := fun dpc d ds dt e => hnx dpc d ds dt e
    split at h
    · next ha =>
      simp only [Option.some.injEq, Prod.mk.injEq] at h
      obtain ⟨rfl, rfl, rfl⟩ := h
      exact .opL _ _ _ _ _ (by simpa using ha) hc
    · next ha =>
      split at h
      · next hb =>
        simp only [Option.some.injEq, Prod.mk.injEq] at h
        obtain ⟨rfl, rfl, rfl⟩ := h
        exact .opR _ _ _ _ _ (by simpa using ha) (by simpa using hb) hc
      · simp at h
  · simp at h
  · next srt a b t' e =>
    split at h
    · next ha =>
      simp only [Option.some.injEq, Prod.mk.injEq] at h
      obtain ⟨rfl, rfl, rfl⟩ := h
      exact .ifcL _ _ _ _ _ (by simpa using ha)
    · next ha =>
      split at h
      · next hb =>
        simp only [Option.some.injEq, Prod.mk.injEq] at h
        obtain ⟨rfl, rfl, rfl⟩ := h
        exact .ifcR _ _ _ _ _ (by simpa using ha) (by simpa using hb)
      · simp at h
  · next srt a t' e =>
    split at h
    · next ha =>
      simp only [Option.some.injEq, Prod.mk.injEq] at h
      obtain ⟨rfl, rfl, rfl⟩ := h
      exact .ifz _ _ _ _ (by simpa using ha)
    · simp at h
  · next nl a nx =>
    split at h
    · next ha =>
      simp only [Option.some.injEq, Prod.mk.injEq] at h
      obtain ⟨rfl, rfl, rfl⟩ := h
      exact .print _ _ _ (by simpa using ha)
    · simp at h
  · next f as ty =>
    split at h
    · next c' u A hs =>
      simp only [Option.some.injEq, Prod.mk.injEq] at h
      obtain ⟨rfl, rfl, rfl⟩ := h
      exact .call _ _ _ (ASplit.of_split as hs)
    · simp at h
  · next a ty =>
    split at h
    · next ha =>
      simp only [Option.some.injEq, Prod.mk.injEq] at h
      obtain ⟨rfl, rfl, rfl⟩ := h
      exact .exit _ _ (by simpa using ha)
    · simp at h

/-! ## `split = none`: the arguments are variables -/

theorem Stmt.split_none_ifc {s a b t e} (h : (Stmt.ifc s a b t e).split = none) :
    a.isVar = true ∧ b.isVar = true := by
  simp only [Stmt.split] at h
  split at h
  · cases h
  · split at h
    · cases h
    · simp_all

theorem Stmt.split_none_ifz {s a t e} (h : (Stmt.ifz s a t e).split = none) : a.isVar = true := by
  simp only [Stmt.split] at h
  split at h
  · cases h
  · simp_all

theorem Stmt.split_none_print {nl a n} (h : (Stmt.print nl a n).split = none) : a.isVar = true := by
  simp only [Stmt.split] at h
  split at h
  · cases h
  · simp_all

theorem Stmt.split_none_exit {a ty} (h : (Stmt.exit a ty).split = none) : a.isVar = true := by
  simp only [Stmt.split] at h
  split at h
  · cases h
  · simp_all

theorem Stmt.split_none_call {f as ty} (h : (Stmt.call f as ty).split = none) : as.split = none := by
  simp only [Stmt.split] at h
  split at h
  · cases h
  · assumption

theorem Stmt.split_none_cut_xtorL {ty pc k as t c} (h : (Stmt.cut ty (.xtor pc k as t) c).split = none) :
    as.split = none := by
  simp only [Stmt.split] at h
  split at h
  · cases h
  · assumption

theorem Stmt.split_none_cut_xtorR {ty p dpc d ds dt} (hp : ∀ pc k as t, p ≠ .xtor pc k as t)
    (h : (Stmt.cut ty p (.xtor dpc d ds dt)).split = none) : ds.split = none := by
  cases p with
  | xtor pc k as t => exact absurd rfl (hp pc k as t)
  | _ =>
    simp only [Stmt.split] at h
    split at h
    · cases h
    · assumption

theorem Stmt.split_none_cut_op {ty a o b c} (hc : ∀ dpc d ds dt, c ≠ .xtor dpc d ds dt)
    (h : (Stmt.cut ty (.op a o b) c).split = none) : a.isVar = true ∧ b.isVar = true := by
  cases c with
  | xtor dpc d ds dt => exact absurd rfl (hc dpc d ds dt)
  | _ =>
    simp only [Stmt.split] at h
    split at h
    · cases h
    · split at h
      · cases h
      · simp_all

/-! ## `focus` lifts the argument that `split` finds -/

theorem ASplit.bindMany_eq {as pc t A} (h : ASplit as pc t A) :
    ∀ k n, bindMany as k n = bindTerm t (fun b n' => bindMany (A b.toTerm) k n') n := by
  induction h with
  | here pc t r hv => intro k n; simp only [bindMany, Binding.toTerm, bindTerm]
  | there pc v r hv _ ih =>
    intro k n
    obtain ⟨p, x, ty, rfl⟩ := Term.isVar_eq hv
    simp only [bindMany, bindTerm]
    exact ih _ n

/-- top-level condition excluding the two shapes on which Rust's `Cut::focus` panics -/
def Stmt.cutOkTop : Stmt → Bool
  | .cut _ (.xtor _ _ _ _) (.xtor _ _ _ _) => false
  | .cut _ (.op _ _ _) (.xtor _ _ _ _) => false
  | _ => true

theorem focusStmt_split (s : Stmt) (pc : PC) (t : Term) (S : Term → Stmt)
    (h : s.split = some (pc, t, S)) (hok : s.cutOkTop = true) (n : Nat) :
    focusStmt s n = bindTerm t (fun b n' => focusStmt (S b.toTerm) n') n := by
  cases SSplit.of_split s h with
  | cutL ty kpc k as kt c hA => simp only [focusStmt]; exact hA.bindMany_eq _ n
  | cutLR => simp [Stmt.cutOkTop] at hok
  | cutR ty p dpc d ds dt hnx hD =>
    have hnx' : ∀ pc k as t, p = .xtor pc k as t → False := fun pc k as t e => hnx pc k as t e
    rw [focusStmt.eq_2 _ _ _ _ _ _ _ hnx', hD.bindMany_eq]
    congr 1
    funext b n'
    rw [focusStmt.eq_2 _ _ _ _ _ _ _ hnx']
  | opL ty a o b c ha hnx =>
    have hnx' : ∀ dpc d ds dt, c = .xtor dpc d ds dt → False := fun dpc d ds dt e => hnx dpc d ds dt e
    rw [focusStmt.eq_3 _ _ _ _ _ _ hnx']
    congr 1
    funext b1 n'
    rw [focusStmt.eq_3 _ _ _ _ _ _ hnx']
    simp only [Binding.toTerm, bindTerm]
  | opR ty a o b c ha hb hnx =>
    have hnx' : ∀ dpc d ds dt, c = .xtor dpc d ds dt → False := fun dpc d ds dt e => hnx dpc d ds dt e
    obtain ⟨p, v, vt, rfl⟩ := Term.isVar_eq ha
    rw [focusStmt.eq_3 _ _ _ _ _ _ hnx']
    simp only [bindTerm]
    congr 1
    funext b2 n'
    rw [focusStmt.eq_3 _ _ _ _ _ _ hnx']
    simp only [Binding.toTerm, bindTerm]
  | ifcL | ifz | print | exit => simp only [focusStmt, Binding.toTerm, bindTerm]
  | ifcR srt a b t' e ha =>
    obtain ⟨p, v, vt, rfl⟩ := Term.isVar_eq ha
    simp only [focusStmt, Binding.toTerm, bindTerm]
  | call f as ty hA => simp only [focusStmt]; exact hA.bindMany_eq _ n

end Scc.Core
