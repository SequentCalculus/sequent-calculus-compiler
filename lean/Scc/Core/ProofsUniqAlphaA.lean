/-
  Scc.Core.ProofsUniqAlphaA — renaming lemma for `uniquify`'s name-based substitution:
  a simultaneous substitution of variables by FRESH variables (`substStmt ps cs`) that implements a
  renaming of the scope (`REN`) does not change the nameless form — provided every variable
  occurrence has the chirality of its binder (`DStmt.chiWS`; the substitution is split by chirality:
  `μ a.s` renames only the covariable occurrences of `a`).
-/
import Scc.Core.ProofsAlphaA
import Scc.Core.Typing
import Scc.Core.Uniquify

namespace Scc.Core

/-! ## chirality-consistent scoping, on nameless forms -/

def DVar.chiOK (chis : List PC) (pc : PC) : DVar → Prop
  | .bound i => chis[i]? = some pc
  | .free _ => True

mutual
  /-- every bound variable occurrence has the chirality of its binder -/
  def DTerm.chiWS (chis : List PC) : DTerm → Prop
    | .var pc v => v.chiOK chis pc
    | .lit _ => True
    | .op a _ b => a.chiWS chis ∧ b.chiWS chis
    | .mu pc _ s => s.chiWS (pc.flip :: chis)
    | .xtor _ _ as _ => as.chiWS chis
    | .xcase _ _ cl => cl.chiWS chis
  def DArgs.chiWS (chis : List PC) : DArgs → Prop
    | .nil => True
    | .cons _ t r => t.chiWS chis ∧ r.chiWS chis
  def DClauses.chiWS (chis : List PC) : DClauses → Prop
    | .nil => True
    | .cons _ sig b r => b.chiWS (sig.map (·.1) ++ chis) ∧ r.chiWS chis
  def DStmt.chiWS (chis : List PC) : DStmt → Prop
    | .cut _ p c => p.chiWS chis ∧ c.chiWS chis
    | .ifc _ a b t e => a.chiWS chis ∧ b.chiWS chis ∧ t.chiWS chis ∧ e.chiWS chis
    | .ifz _ a t e => a.chiWS chis ∧ t.chiWS chis ∧ e.chiWS chis
    | .print _ a n => a.chiWS chis ∧ n.chiWS chis
    | .call _ as _ => as.chiWS chis
    | .exit a _ => a.chiWS chis
end

theorem DVar.chiOK_shift {chis pre : List PC} {pc : PC} {v : DVar} :
    (v.shift 0 pre.length).chiOK (pre ++ chis) pc ↔ v.chiOK chis pc := by
  cases v with
  | free x => simp [DVar.shift, DVar.chiOK]
  | bound i =>
    simp only [DVar.shift, Nat.not_lt_zero, if_false, DVar.chiOK]
    rw [List.getElem?_append_right (by omega)]
    simp

/-- the name a variable is renamed to -/
def substName (σ : Subst) (x : Ident) : Ident :=
  match substFind σ x with
  | some (.var _ w _) => w
  | _ => x

/-- all right-hand sides are variables of chirality `pc` -/
def Subst.VarsOf (pc : PC) (σ : Subst) : Prop :=
  ∀ x t, substFind σ x = some t → ∃ w ty, t = .var pc w ty

/-- all right-hand sides have ids above `n` -/
def Subst.RangeGt (n : Nat) (σ : Subst) : Prop :=
  ∀ x pc w ty, substFind σ x = some (.var pc w ty) → n < w.id

theorem substFind_remove_self (σ : Subst) (y : Ident) : substFind (substRemove σ y) y = none := by
  induction σ with
  | nil => simp [substRemove, substFind]
  | cons e r ih =>
    obtain ⟨w, u⟩ := e
    simp only [substRemove]
    by_cases hw : w = y
    · simp only [hw, if_true, ih]
    · simp only [hw, if_false, substFind, ih]

theorem substFind_remove_ne (σ : Subst) {y x : Ident} (h : x ≠ y) :
    substFind (substRemove σ y) x = substFind σ x := by
  induction σ with
  | nil => simp [substRemove, substFind]
  | cons e r ih =>
    obtain ⟨w, u⟩ := e
    simp only [substRemove]
    by_cases hw : w = y
    · have : ¬ w = x := fun e => h (e.symm.trans hw)
      simp only [hw, if_true, ih, substFind]
      rw [if_neg (by rw [← hw]; exact this)]
    · simp only [hw, if_false, substFind, ih]

theorem ctxHasVar_iff (c : Ctx) (w : Ident) : ctxHasVar c w = true ↔ w ∈ ctxVars c := by
  induction c with
  | nil => simp [ctxHasVar, ctxVars]
  | cons b r ih =>
    simp only [ctxHasVar, ctxVars, List.map_cons, List.mem_cons]
    by_cases hb : b.var = w
    · simp [hb]
    · simp only [hb, if_false]
      rw [ih]
      constructor
      · exact Or.inr
      · rintro (e | h)
        · exact absurd e.symm hb
        · exact h

theorem substFind_removeCtx_mem (σ : Subst) (c : Ctx) {x : Ident} (hx : x ∈ ctxVars c) :
    substFind (substRemoveCtx σ c) x = none := by
  induction σ with
  | nil => simp [substRemoveCtx, substFind]
  | cons e r ih =>
    obtain ⟨w, u⟩ := e
    simp only [substRemoveCtx]
    by_cases hw : ctxHasVar c w = true
    · simp only [hw, if_true, ih]
    · have hw' : w ∉ ctxVars c := fun h => hw ((ctxHasVar_iff c w).mpr h)
      have : ¬ w = x := fun e => hw' (e ▸ hx)
      simp only [hw, Bool.false_eq_true, if_false, substFind, ih, this]

theorem substFind_removeCtx_not_mem (σ : Subst) (c : Ctx) {x : Ident} (hx : x ∉ ctxVars c) :
    substFind (substRemoveCtx σ c) x = substFind σ x := by
  induction σ with
  | nil => simp [substRemoveCtx, substFind]
  | cons e r ih =>
    obtain ⟨w, u⟩ := e
    simp only [substRemoveCtx]
    by_cases hw : ctxHasVar c w = true
    · have hw' := (ctxHasVar_iff c w).mp hw
      have : ¬ w = x := fun e => hx (e ▸ hw')
      simp only [hw, if_true, ih, substFind, this, if_false]
    · simp only [hw, Bool.false_eq_true, if_false, substFind, ih]

/-- a substitution obtained by removing the names `pre` -/
structure Removed (pre : List Ident) (σ σ1 : Subst) : Prop where
  mem : ∀ x, x ∈ pre → substFind σ1 x = none
  not_mem : ∀ x, x ∉ pre → substFind σ1 x = substFind σ x

theorem Removed.single (σ : Subst) (y : Ident) : Removed [y] σ (substRemove σ y) :=
  ⟨fun x hx => by
    simp only [List.mem_singleton] at hx
    subst hx; exact substFind_remove_self σ x,
   fun x hx => substFind_remove_ne σ (by simpa using hx)⟩

theorem Removed.ctx (σ : Subst) (c : Ctx) : Removed (ctxVars c) σ (substRemoveCtx σ c) :=
  ⟨fun _ hx => substFind_removeCtx_mem σ c hx, fun _ hx => substFind_removeCtx_not_mem σ c hx⟩

theorem Removed.find_some {pre σ σ1} (h : Removed pre σ σ1) {x : Ident} {t : Term}
    (hf : substFind σ1 x = some t) : substFind σ x = some t := by
  by_cases hx : x ∈ pre
  · rw [h.mem x hx] at hf; simp at hf
  · rw [h.not_mem x hx] at hf; exact hf

theorem Removed.varsOf {pre σ σ1 pc} (h : Removed pre σ σ1) (hv : Subst.VarsOf pc σ) :
    Subst.VarsOf pc σ1 := fun x t hf => hv x t (h.find_some hf)

theorem Removed.rangeGt {pre σ σ1 n} (h : Removed pre σ σ1) (hv : Subst.RangeGt n σ) :
    Subst.RangeGt n σ1 := fun x pc w ty hf => hv x pc w ty (h.find_some hf)

theorem Removed.name_mem {pre σ σ1} (h : Removed pre σ σ1) {x : Ident} (hx : x ∈ pre) :
    substName σ1 x = x := by
  simp [substName, h.mem x hx]

theorem Removed.name_not_mem {pre σ σ1} (h : Removed pre σ σ1) {x : Ident} (hx : x ∉ pre) :
    substName σ1 x = substName σ x := by
  simp [substName, h.not_mem x hx]

/-! ## renamings of a scope implemented by a pair of substitutions -/

def selSubst (pc : PC) (ps cs : Subst) : Subst :=
  match pc with
  | .prd => ps
  | .cns => cs

/-- the substitutions `(ps, cs)` rename scope `sc` into scope `sc'`: a variable occurrence of
    chirality `pc` whose binder (if any) has that chirality is mapped to the name at the same
    position -/
def REN (n : Nat) (ps cs : Subst) (sc sc' : List Ident) (chis : List PC) : Prop :=
  ∀ (pc : PC) (x : Ident), x.id ≤ n → (dbVar sc x).chiOK chis pc →
    dbVar sc' (substName (selSubst pc ps cs) x) = dbVar sc x

theorem dbVar_prefix_mem {pre : List Ident} {x : Ident} (hx : x ∈ pre) (sc sc' : List Ident) :
    dbVar (pre ++ sc) x = dbVar (pre ++ sc') x := by
  induction pre with
  | nil => simp at hx
  | cons y r ih =>
    simp only [List.cons_append, dbVar]
    by_cases hy : y = x
    · simp [hy]
    · simp only [hy, if_false]
      rcases List.mem_cons.mp hx with e | hx'
      · exact absurd e.symm hy
      · rw [ih hx']

theorem substName_id_or_range {σ : Subst} {n : Nat} (hr : Subst.RangeGt n σ) (x : Ident) :
    substName σ x = x ∨ n < (substName σ x).id := by
  unfold substName
  cases hf : substFind σ x with
  | none => exact Or.inl rfl
  | some t =>
    cases t with
    | var pc w ty => exact Or.inr (hr x pc w ty hf)
    | _ => exact Or.inl rfl

theorem REN.ext {n : Nat} {ps cs : Subst} {sc sc' : List Ident} {chis : List PC}
    (h : REN n ps cs sc sc' chis) (hrp : Subst.RangeGt n ps) (hrc : Subst.RangeGt n cs)
    {pre : List Ident} (hpre : ∀ y ∈ pre, y.id ≤ n) {prechis : List PC}
    (hl : prechis.length = pre.length) {ps1 cs1 : Subst} (hp : Removed pre ps ps1)
    (hc : Removed pre cs cs1) :
    REN n ps1 cs1 (pre ++ sc) (pre ++ sc') (prechis ++ chis) := by
  intro pc x hx hchi
  have hsel : Removed pre (selSubst pc ps cs) (selSubst pc ps1 cs1) := by
    cases pc <;> simpa [selSubst]
  have hrs : Subst.RangeGt n (selSubst pc ps cs) := by cases pc <;> simpa [selSubst]
  by_cases hm : x ∈ pre
  · rw [hsel.name_mem hm]
    exact dbVar_prefix_mem hm sc' sc
  · rw [hsel.name_not_mem hm]
    rw [dbVar_append_not_mem _ _ _ hm] at hchi ⊢
    rw [← hl] at hchi
    have hchi' := DVar.chiOK_shift.mp hchi
    have hx' : substName (selSubst pc ps cs) x ∉ pre := by
      rcases substName_id_or_range hrs x with e | e
      · rw [e]; exact hm
      · intro hmem; have := hpre _ hmem; omega
    rw [dbVar_append_not_mem _ _ _ hx', h pc x hx hchi']

def IdsLe (n : Nat) (l : List Ident) : Prop := ∀ i ∈ l, i.id ≤ n

@[simp] theorem IdsLe_nil (n : Nat) : IdsLe n [] := by simp [IdsLe]
@[simp] theorem IdsLe_append (n : Nat) (a b : List Ident) :
    IdsLe n (a ++ b) ↔ IdsLe n a ∧ IdsLe n b := by
  simp only [IdsLe, List.mem_append]
  constructor
  · intro h; exact ⟨fun i hi => h i (Or.inl hi), fun i hi => h i (Or.inr hi)⟩
  · rintro ⟨h1, h2⟩ i (hi | hi)
    · exact h1 i hi
    · exact h2 i hi
@[simp] theorem IdsLe_cons (n : Nat) (a : Ident) (b : List Ident) :
    IdsLe n (a :: b) ↔ a.id ≤ n ∧ IdsLe n b := by
  simp [IdsLe]
theorem IdsLe.mono {n m : Nat} {l : List Ident} (h : IdsLe n l) (hm : n ≤ m) : IdsLe m l :=
  fun i hi => Nat.le_trans (h i hi) hm

theorem ctxSig_map_fst (c : Ctx) : (ctxSig c).map (·.1) = c.map (·.chi) := by
  simp [ctxSig]

section
variable {n : Nat}

mutual
  theorem ren_term : (t : Term) → ∀ {ps cs : Subst} {sc sc' : List Ident} {chis : List PC},
      REN n ps cs sc sc' chis → Subst.VarsOf .prd ps → Subst.VarsOf .cns cs →
      Subst.RangeGt n ps → Subst.RangeGt n cs → IdsLe n t.idents → (dbT sc t).chiWS chis →
      dbT sc t = dbT sc' (substTerm ps cs t)
    | .var .prd v ty, ps, cs, sc, sc', chis, h, hvp, _, _, _, hi, hw => by
      simp only [Term.idents, IdsLe_cons] at hi
      simp only [dbT, DTerm.chiWS] at hw
      have := h .prd v hi.1 hw
      simp only [selSubst, substName] at this
      simp only [substTerm]
      cases hf : substFind ps v with
      | none => simp only [hf] at this ⊢; simp only [dbT, this]
      | some t =>
        obtain ⟨w, ty', rfl⟩ := hvp v t hf
        simp only [hf] at this ⊢
        simp only [dbT, this]
    | .var .cns v ty, ps, cs, sc, sc', chis, h, _, hvc, _, _, hi, hw => by
      simp only [Term.idents, IdsLe_cons] at hi
      simp only [dbT, DTerm.chiWS] at hw
      have := h .cns v hi.1 hw
      simp only [selSubst, substName] at this
      simp only [substTerm]
      cases hf : substFind cs v with
      | none => simp only [hf] at this ⊢; simp only [dbT, this]
      | some t =>
        obtain ⟨w, ty', rfl⟩ := hvc v t hf
        simp only [hf] at this ⊢
        simp only [dbT, this]
    | .lit k, _, _, _, _, _, _, _, _, _, _, _, _ => by simp [substTerm, dbT]
    | .op a o b, ps, cs, sc, sc', chis, h, hvp, hvc, hrp, hrc, hi, hw => by
      simp only [Term.idents, IdsLe_append] at hi
      simp only [dbT, DTerm.chiWS] at hw
      simp only [substTerm, dbT]
      rw [ren_term a h hvp hvc hrp hrc hi.1 hw.1, ren_term b h hvp hvc hrp hrc hi.2 hw.2]
    | .mu pc v ty s, ps, cs, sc, sc', chis, h, hvp, hvc, hrp, hrc, hi, hw => by
      simp only [Term.idents, IdsLe_cons] at hi
      simp only [dbT, DTerm.chiWS] at hw
      simp only [substTerm, dbT]
      have hR := h.ext hrp hrc (pre := [v]) (by simpa using hi.1) (prechis := [pc.flip]) rfl
        (Removed.single ps v) (Removed.single cs v)
      simp only [List.cons_append, List.nil_append] at hR
      rw [ren_stmt s hR ((Removed.single ps v).varsOf hvp) ((Removed.single cs v).varsOf hvc)
        ((Removed.single ps v).rangeGt hrp) ((Removed.single cs v).rangeGt hrc) hi.2 hw]
    | .xtor pc k as ty, ps, cs, sc, sc', chis, h, hvp, hvc, hrp, hrc, hi, hw => by
      simp only [Term.idents] at hi
      simp only [dbT, DTerm.chiWS] at hw
      simp only [substTerm, dbT]
      rw [ren_args as h hvp hvc hrp hrc hi hw]
    | .xcase pc ty cl, ps, cs, sc, sc', chis, h, hvp, hvc, hrp, hrc, hi, hw => by
      simp only [Term.idents] at hi
      simp only [dbT, DTerm.chiWS] at hw
      simp only [substTerm, dbT]
      rw [ren_clauses cl h hvp hvc hrp hrc hi hw]
  theorem ren_args : (as : Args) → ∀ {ps cs : Subst} {sc sc' : List Ident} {chis : List PC},
      REN n ps cs sc sc' chis → Subst.VarsOf .prd ps → Subst.VarsOf .cns cs →
      Subst.RangeGt n ps → Subst.RangeGt n cs → IdsLe n as.idents → (dbA sc as).chiWS chis →
      dbA sc as = dbA sc' (substArgs ps cs as)
    | .nil, _, _, _, _, _, _, _, _, _, _, _, _ => by simp [substArgs, dbA]
    | .cons pc t r, ps, cs, sc, sc', chis, h, hvp, hvc, hrp, hrc, hi, hw => by
      simp only [Args.idents, IdsLe_append] at hi
      simp only [dbA, DArgs.chiWS] at hw
      simp only [substArgs, dbA]
      rw [ren_term t h hvp hvc hrp hrc hi.1 hw.1, ren_args r h hvp hvc hrp hrc hi.2 hw.2]
  theorem ren_clauses : (cl : Clauses) → ∀ {ps cs : Subst} {sc sc' : List Ident} {chis : List PC},
      REN n ps cs sc sc' chis → Subst.VarsOf .prd ps → Subst.VarsOf .cns cs →
      Subst.RangeGt n ps → Subst.RangeGt n cs → IdsLe n cl.idents → (dbC sc cl).chiWS chis →
      dbC sc cl = dbC sc' (substClauses ps cs cl)
    | .nil, _, _, _, _, _, _, _, _, _, _, _, _ => by simp [substClauses, dbC]
    | .cons x ctx b r, ps, cs, sc, sc', chis, h, hvp, hvc, hrp, hrc, hi, hw => by
      simp only [Clauses.idents, IdsLe_append] at hi
      simp only [dbC, DClauses.chiWS, ctxSig_map_fst] at hw
      simp only [substClauses, dbC]
      have hR := h.ext hrp hrc (pre := ctxVars ctx) hi.1.1 (prechis := ctx.map (·.chi))
        (by simp [ctxVars]) (Removed.ctx ps ctx) (Removed.ctx cs ctx)
      rw [ren_stmt b hR ((Removed.ctx ps ctx).varsOf hvp) ((Removed.ctx cs ctx).varsOf hvc)
        ((Removed.ctx ps ctx).rangeGt hrp) ((Removed.ctx cs ctx).rangeGt hrc) hi.1.2 hw.1,
        ren_clauses r h hvp hvc hrp hrc hi.2 hw.2]
  theorem ren_stmt : (s : Stmt) → ∀ {ps cs : Subst} {sc sc' : List Ident} {chis : List PC},
      REN n ps cs sc sc' chis → Subst.VarsOf .prd ps → Subst.VarsOf .cns cs →
      Subst.RangeGt n ps → Subst.RangeGt n cs → IdsLe n s.idents → (dbS sc s).chiWS chis →
      dbS sc s = dbS sc' (substStmt ps cs s)
    | .cut ty p c, ps, cs, sc, sc', chis, h, hvp, hvc, hrp, hrc, hi, hw => by
      simp only [Stmt.idents, IdsLe_append] at hi
      simp only [dbS, DStmt.chiWS] at hw
      simp only [substStmt, dbS]
      rw [ren_term p h hvp hvc hrp hrc hi.1 hw.1, ren_term c h hvp hvc hrp hrc hi.2 hw.2]
    | .ifc srt a b t e, ps, cs, sc, sc', chis, h, hvp, hvc, hrp, hrc, hi, hw => by
      simp only [Stmt.idents, IdsLe_append] at hi
      simp only [dbS, DStmt.chiWS] at hw
      simp only [substStmt, dbS]
      rw [ren_term a h hvp hvc hrp hrc hi.1.1.1 hw.1, ren_term b h hvp hvc hrp hrc hi.1.1.2 hw.2.1,
        ren_stmt t h hvp hvc hrp hrc hi.1.2 hw.2.2.1, ren_stmt e h hvp hvc hrp hrc hi.2 hw.2.2.2]
    | .ifz srt a t e, ps, cs, sc, sc', chis, h, hvp, hvc, hrp, hrc, hi, hw => by
      simp only [Stmt.idents, IdsLe_append] at hi
      simp only [dbS, DStmt.chiWS] at hw
      simp only [substStmt, dbS]
      rw [ren_term a h hvp hvc hrp hrc hi.1.1 hw.1,
        ren_stmt t h hvp hvc hrp hrc hi.1.2 hw.2.1, ren_stmt e h hvp hvc hrp hrc hi.2 hw.2.2]
    | .print nl a nx, ps, cs, sc, sc', chis, h, hvp, hvc, hrp, hrc, hi, hw => by
      simp only [Stmt.idents, IdsLe_append] at hi
      simp only [dbS, DStmt.chiWS] at hw
      simp only [substStmt, dbS]
      rw [ren_term a h hvp hvc hrp hrc hi.1 hw.1, ren_stmt nx h hvp hvc hrp hrc hi.2 hw.2]
    | .call f as ty, ps, cs, sc, sc', chis, h, hvp, hvc, hrp, hrc, hi, hw => by
      simp only [Stmt.idents] at hi
      simp only [dbS, DStmt.chiWS] at hw
      simp only [substStmt, dbS]
      rw [ren_args as h hvp hvc hrp hrc hi hw]
    | .exit a ty, ps, cs, sc, sc', chis, h, hvp, hvc, hrp, hrc, hi, hw => by
      simp only [Stmt.idents] at hi
      simp only [dbS, DStmt.chiWS] at hw
      simp only [substStmt, dbS]
      rw [ren_term a h hvp hvc hrp hrc hi hw]
end

end

end Scc.Core
