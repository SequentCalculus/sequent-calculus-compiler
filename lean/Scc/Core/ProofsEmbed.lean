/-
  Scc.Core.ProofsEmbed — consistency of the two machines of Sem.lean: a focused program, read as an
  (unfocused) Core program all of whose arguments are variables (`FsProg.embed`), never takes a
  ς-step, and the ς-machine on it runs in lock-step with the focused machine:
      `run q.embed args fuel = fsRun q args fuel`.
  So the focused machine IS the specification machine restricted to focused programs.
-/
import Scc.Core.Sem

namespace Scc.Core

def ctxToArgs : Ctx → Args
  | [] => .nil
  | b :: r => .cons b.chi (.var b.chi b.var b.ty) (ctxToArgs r)

def varI64 (x : Ident) : Term := .var .prd x .i64

mutual
  def FsTerm.embed : FsTerm → Term
    | .var pc v ty => .var pc v ty
    | .lit n => .lit n
    | .op a o b => .op (varI64 a) o (varI64 b)
    | .mu pc v ty s => .mu pc v ty s.embed
    | .xtor pc n as ty => .xtor pc n (ctxToArgs as) ty
    | .xcase pc ty cl => .xcase pc ty cl.embed
  def FsClauses.embed : FsClauses → Clauses
    | .nil => .nil
    | .cons x ctx b r => .cons x ctx b.embed r.embed
  def FsStmt.embed : FsStmt → Stmt
    | .cut ty p c => .cut ty p.embed c.embed
    | .ifc s a (some b) t e => .ifc s (varI64 a) (varI64 b) t.embed e.embed
    | .ifc s a none t e => .ifz s (varI64 a) t.embed e.embed
    | .print nl a n => .print nl (varI64 a) n.embed
    | .call f as => .call f (ctxToArgs as) .i64
    | .exit a => .exit (varI64 a) .i64
end

def FsDef.embed (d : FsDef) : Def := ⟨d.name, d.ctx, d.body.embed⟩

def FsProg.embed (p : FsProg) : Prog := ⟨p.defs.map FsDef.embed, p.dataTypes, p.codataTypes, p.maxId⟩

/-! ## values of the focused machine and values of the ς-machine -/

mutual
  inductive VRel : FVal → CVal → Prop
    | int (n) : VRel (.int n) (.int n)
    | con (k) {vs vs'} : VsRel vs vs' → VRel (.con k vs) (.con k vs')
    | cocase {ρ ρ'} (cl : FsClauses) : ERel ρ ρ' → VRel (.cocase ρ cl) (.cocase ρ' cl.embed)
    | thunk {ρ ρ'} (a) (s : FsStmt) : ERel ρ ρ' → VRel (.thunk ρ a s) (.thunk ρ' a s.embed)
    | dtor (d) {vs vs'} : VsRel vs vs' → VRel (.dtor d vs) (.dtor d vs')
    | case {ρ ρ'} (cl : FsClauses) : ERel ρ ρ' → VRel (.case ρ cl) (.case ρ' cl.embed)
    | mutilde {ρ ρ'} (x) (s : FsStmt) : ERel ρ ρ' → VRel (.mutilde ρ x s) (.mutilde ρ' x s.embed)
    | halt : VRel .halt .halt
  inductive VsRel : List FVal → List CVal → Prop
    | nil : VsRel [] []
    | cons {v v' vs vs'} : VRel v v' → VsRel vs vs' → VsRel (v :: vs) (v' :: vs')
  inductive ERel : FEnv → CEnv → Prop
    | nil : ERel [] []
    | cons (x) {v v' ρ ρ'} : VRel v v' → ERel ρ ρ' → ERel ((x, v) :: ρ) ((x, v') :: ρ')
end

def ExRel {α β : Type} (R : α → β → Prop) : Except Why α → Except Why β → Prop
  | .ok a, .ok b => R a b
  | .error e, .error e' => e = e'
  | _, _ => False

theorem lookup_rel {ρ : FEnv} {ρ' : CEnv} (h : ERel ρ ρ') (x : Ident) :
    ExRel VRel (ρ.lookup x) (ρ'.lookup x) := by
  induction ρ generalizing ρ' with
  | nil => cases h; simp [Env.lookup, ExRel]
  | cons e r ih =>
    cases h with
    | cons y hv hr =>
      simp only [Env.lookup]
      split
      · exact hv
      · exact ih hr

theorem lookupInt_rel {ρ : FEnv} {ρ' : CEnv} (h : ERel ρ ρ') (x : Ident) :
    ρ.lookupInt x = ρ'.lookupInt x := by
  have := lookup_rel h x
  unfold Env.lookupInt
  cases h1 : ρ.lookup x <;> cases h2 : ρ'.lookup x <;> simp only [h1, h2, ExRel] at this
  · simp [this]
  · cases this <;> rfl

theorem lookupAll_rel {ρ : FEnv} {ρ' : CEnv} (h : ERel ρ ρ') (as : Ctx) :
    ExRel VsRel (ρ.lookupAll as) (argVals ρ' (ctxToArgs as)) := by
  induction as with
  | nil => simp [Env.lookupAll, argVals, ctxToArgs, ExRel, VsRel.nil]
  | cons b r ih =>
    have hb := lookup_rel h b.var
    simp only [Env.lookupAll, argVals, ctxToArgs]
    cases h1 : ρ.lookup b.var <;> cases h2 : ρ'.lookup b.var <;> simp only [h1, h2, ExRel] at hb
    · simp [ExRel, hb]
    · cases h3 : ρ.lookupAll r <;> cases h4 : argVals ρ' (ctxToArgs r) <;>
        simp only [h3, h4, ExRel] at ih
      · simpa [ExRel] using ih
      · exact VsRel.cons hb ih

theorem bind_rel {ρ : FEnv} {ρ' : CEnv} (h : ERel ρ ρ') (ctx : Ctx) {vs vs'} (hv : VsRel vs vs') :
    ExRel ERel (ρ.bind ctx vs) (ρ'.bind ctx vs') := by
  induction ctx generalizing vs vs' with
  | nil => cases hv <;> simp [Env.bind, ExRel, h]
  | cons b bs ih =>
    cases hv with
    | nil => simp [Env.bind, ExRel]
    | cons hv1 hvs =>
      have := ih hvs
      simp only [Env.bind]
      cases h1 : Env.bind ρ bs _ <;> cases h2 : Env.bind ρ' bs _ <;> simp only [h1, h2, ExRel] at this
      · simpa [ExRel] using this
      · exact ERel.cons _ hv1 this

theorem find_embed (cl : FsClauses) (k : Ident) :
    cl.embed.find k = (cl.find k).map fun cb => (cb.1, cb.2.embed) := by
  match cl with
  | .nil => simp [FsClauses.embed, Clauses.find, FsClauses.find]
  | .cons x ctx b r =>
    simp only [FsClauses.embed, Clauses.find, FsClauses.find]
    split <;> simp [find_embed r k]

theorem split_ctxToArgs (as : Ctx) : (ctxToArgs as).split = none := by
  induction as with
  | nil => simp [ctxToArgs, Args.split]
  | cons b r ih => simp [ctxToArgs, Args.split, Term.isVar, ih]

theorem split_embed (s : FsStmt) : s.embed.split = none := by
  cases s with
  | cut ty p c =>
    cases p <;> cases c <;>
      simp [FsStmt.embed, FsTerm.embed, Stmt.split, split_ctxToArgs, varI64, Term.isVar]
  | ifc srt a b t e =>
    cases b <;> simp [FsStmt.embed, Stmt.split, varI64, Term.isVar]
  | print nl a n => simp [FsStmt.embed, Stmt.split, varI64, Term.isVar]
  | call f as => simp [FsStmt.embed, Stmt.split, split_ctxToArgs]
  | exit a => simp [FsStmt.embed, Stmt.split, varI64, Term.isVar]

theorem prdVal_rel {ρ : FEnv} {ρ' : CEnv} (h : ERel ρ ρ') (p : FsTerm) :
    ExRel VRel (fsPrdVal ρ p) (prdVal ρ' p.embed) := by
  cases p with
  | var pc v ty => exact lookup_rel h v
  | lit n => simp [fsPrdVal, prdVal, FsTerm.embed, ExRel, VRel.int]
  | op a o b =>
    simp only [fsPrdVal, prdVal, FsTerm.embed, varI64, lookupInt_rel h]
    cases ρ'.lookupInt a <;> cases ρ'.lookupInt b <;> simp only [ExRel]
    cases arith o _ _ <;> simp [VRel.int]
  | mu pc a ty s => simp [fsPrdVal, prdVal, FsTerm.embed, ExRel, VRel.thunk, h]
  | xtor pc k as ty =>
    have := lookupAll_rel h as
    simp only [fsPrdVal, prdVal, FsTerm.embed]
    cases h1 : ρ.lookupAll as <;> cases h2 : argVals ρ' (ctxToArgs as) <;>
      simp only [h1, h2, ExRel] at this ⊢
    · exact this
    · exact VRel.con k this
  | xcase pc ty cl => simp [fsPrdVal, prdVal, FsTerm.embed, ExRel, VRel.cocase, h]

theorem cnsVal_rel {ρ : FEnv} {ρ' : CEnv} (h : ERel ρ ρ') (c : FsTerm) :
    ExRel VRel (fsCnsVal ρ c) (cnsVal ρ' c.embed) := by
  cases c with
  | var pc v ty => exact lookup_rel h v
  | lit n => simp [fsCnsVal, cnsVal, FsTerm.embed, ExRel]
  | op a o b => simp [fsCnsVal, cnsVal, FsTerm.embed, ExRel]
  | mu pc a ty s => simp [fsCnsVal, cnsVal, FsTerm.embed, ExRel, VRel.mutilde, h]
  | xtor pc k as ty =>
    have := lookupAll_rel h as
    simp only [fsCnsVal, cnsVal, FsTerm.embed]
    cases h1 : ρ.lookupAll as <;> cases h2 : argVals ρ' (ctxToArgs as) <;>
      simp only [h1, h2, ExRel] at this ⊢
    · exact this
    · exact VRel.dtor k this
  | xcase pc ty cl => simp [fsCnsVal, cnsVal, FsTerm.embed, ExRel, VRel.case, h]

def StRel (F : FsState) (U : State) : Prop :=
  U.stmt = F.stmt.embed ∧ ERel F.env U.env ∧ U.out = F.out

def StepRel : Step FsState → Step State → Prop
  | .next F, .next U => StRel F U
  | .final r, .final r' => r = r'
  | _, _ => False

theorem goto_rel {F : FsState} {U : State} (h : StRel F U) (s : FsStmt) {ρ : FEnv} {ρ' : CEnv}
    (he : ERel ρ ρ') : StepRel (F.goto s ρ) (U.goto s.embed ρ') := by
  simp only [FsState.goto, State.goto, StepRel, StRel]
  exact ⟨trivial, he, h.2.2⟩

theorem select_rel {F : FsState} {U : State} (h : StRel F U) {ρ : FEnv} {ρ' : CEnv}
    (he : ERel ρ ρ') (cl : FsClauses) (k : Ident) {vs vs'} (hv : VsRel vs vs') :
    StepRel (F.select ρ cl k vs) (U.select ρ' cl.embed k vs') := by
  simp only [FsState.select, State.select, find_embed]
  cases hf : cl.find k with
  | none => simp [StepRel, stuck]
  | some cb =>
    obtain ⟨ctx, body⟩ := cb
    have := bind_rel he ctx hv
    simp only [Option.map_some]
    cases h1 : Env.bind ρ ctx vs <;> cases h2 : Env.bind ρ' ctx vs' <;>
      simp only [h1, h2, ExRel] at this ⊢
    · simp [StepRel, stuck, this]
    · exact goto_rel h body this

theorem pass_rel {F : FsState} {U : State} (h : StRel F U) {pv cv pv' cv'} (hp : VRel pv pv')
    (hc : VRel cv cv') : StepRel (F.pass pv cv) (U.pass pv' cv') := by
  cases hc with
  | mutilde x s hr => exact goto_rel h s (ERel.cons x hp hr)
  | case cl hr =>
    cases hp with
    | con k hvs => exact select_rel h hr cl k hvs
    | _ => simp [FsState.pass, State.pass, StepRel, stuck]
  | halt =>
    cases hp with
    | int n => simp [FsState.pass, State.pass, StepRel]
    | _ => simp [FsState.pass, State.pass, StepRel, stuck]
  | _ => simp [FsState.pass, State.pass, StepRel, stuck]

theorem invoke_rel {F : FsState} {U : State} (h : StRel F U) {pv pv'} (hp : VRel pv pv')
    (d : Ident) {vs vs'} (hvs : VsRel vs vs') :
    StepRel (F.invoke pv d vs) (U.invoke pv' d vs') := by
  cases hp with
  | cocase cl hr => exact select_rel h hr cl d hvs
  | thunk a s hr => exact goto_rel h s (ERel.cons a (VRel.dtor d hvs) hr)
  | _ => simp [FsState.invoke, State.invoke, StepRel, stuck]

theorem stepCut_rel {F : FsState} {U : State} (h : StRel F U) (cod : Bool) (p c : FsTerm) :
    StepRel (fsStepCut cod F p c) (stepCut cod U p.embed c.embed) := by
  have he := h.2.1
  have hc := cnsVal_rel he c
  have hp := prdVal_rel he p
  unfold fsStepCut stepCut
  cases cod
  · -- data / integer type: producer first
    simp only [Bool.false_eq_true, if_false]
    cases p with
    | mu pc a ty s =>
      simp only [FsTerm.embed]
      cases h1 : fsCnsVal F.env c <;> cases h2 : cnsVal U.env c.embed <;>
        simp only [h1, h2, ExRel] at hc ⊢
      · simp [StepRel, stuck, hc]
      · exact goto_rel h s (ERel.cons a hc he)
    | _ =>
      simp only [FsTerm.embed] at hp ⊢
      cases h1 : fsPrdVal F.env _ <;> cases h2 : prdVal U.env _ <;>
        simp only [h1, h2, ExRel] at hp ⊢
      · simp [StepRel, stuck, hp]
      · cases h3 : fsCnsVal F.env c <;> cases h4 : cnsVal U.env c.embed <;>
          simp only [h3, h4, ExRel] at hc ⊢
        · simp [StepRel, stuck, hc]
        · exact pass_rel h hp hc
  · -- codata type: consumer first
    simp only [if_true]
    cases h3 : fsCnsVal F.env c <;> cases h4 : cnsVal U.env c.embed <;>
      simp only [h3, h4, ExRel] at hc ⊢
    · simp [StepRel, stuck, hc]
    · cases hc with
      | mutilde x s hr =>
        cases h1 : fsPrdVal F.env p <;> cases h2 : prdVal U.env p.embed <;>
          simp only [h1, h2, ExRel] at hp ⊢
        · simp [StepRel, stuck, hp]
        · exact goto_rel h s (ERel.cons x hp hr)
      | dtor d hvs =>
        cases h1 : fsPrdVal F.env p <;> cases h2 : prdVal U.env p.embed <;>
          simp only [h1, h2, ExRel] at hp ⊢
        · simp [StepRel, stuck, hp]
        · exact invoke_rel h hp d hvs
      | _ => simp [StepRel, stuck]

theorem find_def_embed (ds : List FsDef) (q : Ident → Bool) :
    (ds.map FsDef.embed).find? (fun d => q d.name) = (ds.find? (fun d => q d.name)).map FsDef.embed := by
  induction ds with
  | nil => simp
  | cons d r ih =>
    simp only [List.map_cons, List.find?_cons, FsDef.embed]
    split <;> simp_all [FsDef.embed]

theorem sigmaStep_embed (x : Ident) (s : FsStmt) : sigmaStep x s.embed = none := by
  simp [sigmaStep, split_embed]

theorem step_rel (q : FsProg) {F : FsState} {U : State} (h : StRel F U) :
    StepRel (fsStep q F) (step q.embed U) := by
  obtain ⟨hs, he, ho⟩ := h
  have h : StRel F U := ⟨hs, he, ho⟩
  unfold step fsStep
  rw [hs, sigmaStep_embed]
  simp only
  cases hF : F.stmt with
  | cut ty p c =>
    simp only [FsStmt.embed]
    exact stepCut_rel h _ p c
  | ifc srt a b t e =>
    cases b with
    | some b =>
      simp only [FsStmt.embed, varI64, lookupInt_rel he]
      cases U.env.lookupInt a with
      | error _ => simp [StepRel, stuck]
      | ok x =>
        cases U.env.lookupInt b with
        | error _ => simp [StepRel, stuck]
        | ok y =>
          by_cases hc : compare srt x y = true
          · simpa only [hc, if_true] using goto_rel h t he
          · simpa only [hc, Bool.false_eq_true, if_false] using goto_rel h e he
    | none =>
      simp only [FsStmt.embed, varI64, lookupInt_rel he]
      cases U.env.lookupInt a with
      | error _ => simp [StepRel, stuck]
      | ok x =>
        by_cases hc : compare srt x 0 = true
        · simpa only [hc, if_true] using goto_rel h t he
        · simpa only [hc, Bool.false_eq_true, if_false] using goto_rel h e he
  | print nl a n =>
    simp only [FsStmt.embed, varI64, lookupInt_rel he]
    cases U.env.lookupInt a with
    | error _ => simp [StepRel, stuck]
    | ok x => simp only [StepRel, StRel]; exact ⟨trivial, he, by rw [ho]⟩
  | call f as =>
    simp only [FsStmt.embed, FsProg.embed]
    rw [find_def_embed q.defs (fun n => decide (n = f))]
    cases hd : q.defs.find? (fun d => decide (d.name = f)) with
    | none => simp [StepRel, stuck]
    | some d =>
      simp only [Option.map_some]
      have hl := lookupAll_rel he as
      cases h1 : F.env.lookupAll as <;> cases h2 : argVals U.env (ctxToArgs as) <;>
        simp only [h1, h2, ExRel] at hl ⊢
      · simp [StepRel, stuck, hl]
      · have hb := bind_rel ERel.nil d.ctx hl
        simp only [FsDef.embed]
        cases h3 : Env.bind ([] : FEnv) d.ctx _ <;> cases h4 : Env.bind ([] : CEnv) d.ctx _ <;>
          simp only [h3, h4, ExRel] at hb ⊢
        · simp [StepRel, stuck, hb]
        · exact goto_rel h d.body hb
  | exit a =>
    simp only [FsStmt.embed, varI64, lookupInt_rel he]
    cases U.env.lookupInt a <;> simp [StepRel, stuck]

theorem stepN_rel (q : FsProg) (fuel : Nat) {F : FsState} {U : State} (h : StRel F U) :
    stepN q.embed fuel U = fsStepN q fuel F := by
  induction fuel generalizing F U with
  | zero => simp [stepN, fsStepN, h.2.2]
  | succ n ih =>
    have hs := step_rel q h
    simp only [stepN, fsStepN]
    cases h1 : fsStep q F <;> cases h2 : step q.embed U <;> simp only [h1, h2, StepRel] at hs ⊢
    · exact ih hs
    · simp [hs, h.2.2]

theorem entryEnv_rel (ctx : Ctx) (args : List (BitVec 64)) :
    ExRel ERel (entryEnv ctx args : Except Why FEnv) (entryEnv ctx args : Except Why CEnv) := by
  induction ctx generalizing args with
  | nil => cases args <;> simp [entryEnv, ExRel, ERel.nil]
  | cons b bs ih =>
    cases hb : b.chi with
    | cns =>
      have := ih args
      simp only [entryEnv, hb]
      cases h1 : (entryEnv bs args : Except Why FEnv) <;>
        cases h2 : (entryEnv bs args : Except Why CEnv) <;> simp only [h1, h2, ExRel] at this ⊢
      · exact this
      · exact ERel.cons _ VRel.halt this
    | prd =>
      cases args with
      | nil => simp [entryEnv, hb, ExRel]
      | cons a as =>
        have := ih as
        simp only [entryEnv, hb]
        cases h1 : (entryEnv bs as : Except Why FEnv) <;>
          cases h2 : (entryEnv bs as : Except Why CEnv) <;> simp only [h1, h2, ExRel] at this ⊢
        · exact this
        · exact ERel.cons _ (VRel.int a) this

/-- the focused machine is the ς-machine on the embedded program, step for step -/
theorem run_embed (q : FsProg) (args : List (BitVec 64)) (fuel : Nat) :
    run q.embed args fuel = fsRun q args fuel := by
  unfold run fsRun
  simp only [FsProg.embed]
  rw [find_def_embed q.defs (fun n => decide (n.name = mainName))]
  cases hd : q.defs.find? (fun d => decide (d.name.name = mainName)) with
  | none => simp
  | some d =>
    simp only [Option.map_some, FsDef.embed]
    have := entryEnv_rel d.ctx args
    cases h1 : (entryEnv d.ctx args : Except Why FEnv) <;>
      cases h2 : (entryEnv d.ctx args : Except Why CEnv) <;> simp only [h1, h2, ExRel] at this ⊢
    · simp [this]
    · exact stepN_rel q fuel ⟨rfl, this, rfl⟩

end Scc.Core
