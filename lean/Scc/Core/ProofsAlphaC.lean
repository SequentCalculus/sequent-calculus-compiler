/-
  Scc.Core.ProofsAlphaC — focusing respects α-equivalence and does not depend on the name counter:
      dbS sc s = dbS sc' s'  →  dbS sc (focus s n) = dbS sc' (focus s' n')
  (the nameless form `dbS` is defined on unfocused statements; focused code is read through `FsStmt.embed` of
  Scc/Core/ProofsEmbed.lean, so the right-hand sides are `dbS sc (focusStmt s n).1.embed`) whenever the counters `n`, `n'` are above the generated names occurring in `s`, `s'`
  (`focusStmt_cong`).  The statement for `bind` is relative to continuations that themselves respect
  α-equivalence in every extension of the scope by generated names (`KCong`).
-/
import Scc.Core.ProofsAlphaB

namespace Scc.Core

def xN (n : Nat) : Ident := ⟨"x", n + 1⟩
def aN (n : Nat) : Ident := ⟨"a", n + 1⟩

/-! ## `focus`/`bind` equations in projection form -/

theorem focusTerm_mu_eq (pc : PC) (v : Ident) (ty : Ty) (s : Stmt) (n : Nat) :
    focusTerm (.mu pc v ty s) n = (.mu pc v ty (focusStmt s n).1, (focusStmt s n).2) := rfl

theorem focusTerm_xcase_eq (pc : PC) (ty : Ty) (cl : Clauses) (n : Nat) :
    focusTerm (.xcase pc ty cl) n = (.xcase pc ty (focusClauses cl n).1, (focusClauses cl n).2) := rfl

theorem focusClauses_cons_eq (x : Ident) (ctx : Ctx) (b : Stmt) (r : Clauses) (n : Nat) :
    focusClauses (.cons x ctx b r) n =
      (.cons x ctx (focusStmt b n).1 (focusClauses r (focusStmt b n).2).1,
        (focusClauses r (focusStmt b n).2).2) := rfl

theorem bindTerm_lit_eq (i : Int) (k : Cont) (n : Nat) :
    bindTerm (.lit i) k n =
      (.cut .i64 (.lit i) (.mu .cns (xN n) .i64 (k ⟨xN n, .prd, .i64⟩ (n + 1)).1),
        (k ⟨xN n, .prd, .i64⟩ (n + 1)).2) := rfl

/-- continuation of the second operand of an operator -/
def kOp2 (b1 : Binding) (o : BinOp) (k : Cont) : Cont := fun b2 n2 =>
  (.cut .i64 (.op b1.var o b2.var) (.mu .cns (xN n2) .i64 (k ⟨xN n2, .prd, .i64⟩ (n2 + 1)).1),
    (k ⟨xN n2, .prd, .i64⟩ (n2 + 1)).2)

theorem bindTerm_op_eq (a b : Term) (o : BinOp) (k : Cont) (n : Nat) :
    bindTerm (.op a o b) k n = bindTerm a (fun b1 n1 => bindTerm b (kOp2 b1 o k) n1) n := rfl

theorem bindTerm_muP_eq (v : Ident) (ty : Ty) (s : Stmt) (k : Cont) (n : Nat) :
    bindTerm (.mu .prd v ty s) k n =
      (.cut ty (.mu .prd v ty (focusStmt s (n + 1)).1)
          (.mu .cns (xN n) ty (k ⟨xN n, .prd, ty⟩ (focusStmt s (n + 1)).2).1),
        (k ⟨xN n, .prd, ty⟩ (focusStmt s (n + 1)).2).2) := rfl

theorem bindTerm_muC_eq (v : Ident) (ty : Ty) (s : Stmt) (k : Cont) (n : Nat) :
    bindTerm (.mu .cns v ty s) k n =
      (.cut ty (.mu .prd (aN n) ty (k ⟨aN n, .cns, ty⟩ (n + 1)).1)
          (.mu .cns v ty (focusStmt s (k ⟨aN n, .cns, ty⟩ (n + 1)).2).1),
        (focusStmt s (k ⟨aN n, .cns, ty⟩ (n + 1)).2).2) := rfl

def kXtorP (name : Ident) (ty : Ty) (k : Cont) : ContVec := fun bs n =>
  (.cut ty (.xtor .prd name bs ty) (.mu .cns (xN n) ty (k ⟨xN n, .prd, ty⟩ (n + 1)).1),
    (k ⟨xN n, .prd, ty⟩ (n + 1)).2)

def kXtorC (name : Ident) (ty : Ty) (k : Cont) : ContVec := fun bs n =>
  (.cut ty (.mu .prd (aN n) ty (k ⟨aN n, .cns, ty⟩ (n + 1)).1) (.xtor .cns name bs ty),
    (k ⟨aN n, .cns, ty⟩ (n + 1)).2)

theorem bindTerm_xtorP_eq (name : Ident) (as : Args) (ty : Ty) (k : Cont) (n : Nat) :
    bindTerm (.xtor .prd name as ty) k n = bindMany as (kXtorP name ty k) n := rfl

theorem bindTerm_xtorC_eq (name : Ident) (as : Args) (ty : Ty) (k : Cont) (n : Nat) :
    bindTerm (.xtor .cns name as ty) k n = bindMany as (kXtorC name ty k) n := rfl

theorem bindTerm_xcaseP_eq (ty : Ty) (cl : Clauses) (k : Cont) (n : Nat) :
    bindTerm (.xcase .prd ty cl) k n =
      (.cut ty (.xcase .prd ty (focusClauses cl (k ⟨xN n, .prd, ty⟩ (n + 1)).2).1)
          (.mu .cns (xN n) ty (k ⟨xN n, .prd, ty⟩ (n + 1)).1),
        (focusClauses cl (k ⟨xN n, .prd, ty⟩ (n + 1)).2).2) := rfl

theorem bindTerm_xcaseC_eq (ty : Ty) (cl : Clauses) (k : Cont) (n : Nat) :
    bindTerm (.xcase .cns ty cl) k n =
      (.cut ty (.mu .prd (aN n) ty (k ⟨aN n, .cns, ty⟩ (n + 1)).1)
          (.xcase .cns ty (focusClauses cl (k ⟨aN n, .cns, ty⟩ (n + 1)).2).1),
        (focusClauses cl (k ⟨aN n, .cns, ty⟩ (n + 1)).2).2) := rfl

theorem bindMany_cons_eq (pc : PC) (t : Term) (r : Args) (k : ContVec) (n : Nat) :
    bindMany (.cons pc t r) k n =
      bindTerm t (fun b n1 => bindMany r (fun bs n2 => k (b :: bs) n2) n1) n := rfl

def kCut1 (ty : Ty) (pc : PC) (name : Ident) (c : Term) : ContVec := fun bs n =>
  (.cut ty (.xtor pc name bs ty) (focusTerm c n).1, (focusTerm c n).2)

def kCut2 (ty : Ty) (p : Term) (dpc : PC) (name : Ident) : ContVec := fun bs n =>
  (.cut ty (focusTerm p n).1 (.xtor dpc name bs ty), (focusTerm p n).2)

def kCut3 (ty : Ty) (b1 : Binding) (o : BinOp) (c : Term) : Cont := fun b2 n =>
  (.cut ty (.op b1.var o b2.var) (focusTerm c n).1, (focusTerm c n).2)

theorem focusStmt_cut1_eq (ty : Ty) (pc : PC) (name : Ident) (as : Args) (t1 : Ty) (c : Term)
    (n : Nat) :
    focusStmt (.cut ty (.xtor pc name as t1) c) n = bindMany as (kCut1 ty pc name c) n := rfl

theorem focusStmt_cut2_eq (ty : Ty) (p : Term) (dpc : PC) (name : Ident) (as : Args) (t1 : Ty)
    (n : Nat) (hnx : ∀ pc name as ty, p = .xtor pc name as ty → False) :
    focusStmt (.cut ty p (.xtor dpc name as t1)) n = bindMany as (kCut2 ty p dpc name) n := by
  rw [focusStmt.eq_2 _ _ _ _ _ _ _ hnx]; rfl

theorem focusStmt_cut3_eq (ty : Ty) (a : Term) (o : BinOp) (b c : Term) (n : Nat)
    (hnx : ∀ dpc name as ty, c = .xtor dpc name as ty → False) :
    focusStmt (.cut ty (.op a o b) c) n =
      bindTerm a (fun b1 n1 => bindTerm b (kCut3 ty b1 o c) n1) n := by
  rw [focusStmt.eq_3 _ _ _ _ _ _ hnx]; rfl

theorem focusStmt_cut4_eq (ty : Ty) (p c : Term) (n : Nat)
    (hnp : ∀ pc name as ty, p = .xtor pc name as ty → False)
    (hnc : ∀ dpc name as ty, c = .xtor dpc name as ty → False)
    (hnop : ∀ a o b, p = .op a o b → False) :
    focusStmt (.cut ty p c) n =
      (.cut ty (focusTerm p n).1 (focusTerm c (focusTerm p n).2).1,
        (focusTerm c (focusTerm p n).2).2) := by
  rw [focusStmt.eq_4 _ _ _ _ hnp hnc hnop]

def kIfc (srt : IfSort) (b1 : Binding) (t e : Stmt) : Cont := fun b2 n2 =>
  (.ifc srt b1.var (some b2.var) (focusStmt t n2).1 (focusStmt e (focusStmt t n2).2).1,
    (focusStmt e (focusStmt t n2).2).2)

def kIfz (srt : IfSort) (t e : Stmt) : Cont := fun b1 n2 =>
  (.ifc srt b1.var none (focusStmt t n2).1 (focusStmt e (focusStmt t n2).2).1,
    (focusStmt e (focusStmt t n2).2).2)

def kPrint (nl : Bool) (nx : Stmt) : Cont := fun b n =>
  (.print nl b.var (focusStmt nx n).1, (focusStmt nx n).2)

def kCall (f : Ident) : ContVec := fun bs n => (.call f bs, n)

def kExit : Cont := fun b n => (.exit b.var, n)

theorem focusStmt_ifc_eq (srt : IfSort) (a b : Term) (t e : Stmt) (n : Nat) :
    focusStmt (.ifc srt a b t e) n =
      bindTerm a (fun b1 n1 => bindTerm b (kIfc srt b1 t e) n1) n := rfl

theorem focusStmt_ifz_eq (srt : IfSort) (a : Term) (t e : Stmt) (n : Nat) :
    focusStmt (.ifz srt a t e) n = bindTerm a (kIfz srt t e) n := rfl

theorem focusStmt_print_eq (nl : Bool) (a : Term) (nx : Stmt) (n : Nat) :
    focusStmt (.print nl a nx) n = bindTerm a (kPrint nl nx) n := rfl

theorem focusStmt_call_eq (f : Ident) (as : Args) (ty : Ty) (n : Nat) :
    focusStmt (.call f as ty) n = bindMany as (kCall f) n := rfl

theorem focusStmt_exit_eq (a : Term) (ty : Ty) (n : Nat) :
    focusStmt (.exit a ty) n = bindTerm a kExit n := rfl

/-- the generated names pushed on the scope between counter `n` and counter `m` -/
def ExtOK (n m : Nat) (ext : List Ident) : Prop := ∀ i ∈ ext, Gen n i ∧ ¬ Gen m i

theorem ExtOK.nil (n m : Nat) : ExtOK n m [] := by simp [ExtOK]

theorem ExtOK.append {n m1 m2 : Nat} {e1 e2 : List Ident} (h1 : ExtOK n m1 e1) (h2 : ExtOK m1 m2 e2)
    (hn : n ≤ m1) (hm : m1 ≤ m2) : ExtOK n m2 (e2 ++ e1) := by
  intro i hi
  rcases List.mem_append.mp hi with hi | hi
  · exact ⟨(h2 i hi).1.mono hn, (h2 i hi).2⟩
  · exact ⟨(h1 i hi).1, fun hg => (h1 i hi).2 (hg.mono hm)⟩

theorem ExtOK.consX {n m j : Nat} {e : List Ident} (h : ExtOK n j e) (hn : n ≤ j) (hm : j < m) :
    ExtOK n m (xN j :: e) := by
  intro i hi
  rcases List.mem_cons.mp hi with rfl | hi
  · exact ⟨gen_x n j hn, fun hg => by have := hg.2; simp [xN] at this; omega⟩
  · exact ⟨(h i hi).1, fun hg => (h i hi).2 (hg.mono (by omega))⟩

theorem ExtOK.consA {n m j : Nat} {e : List Ident} (h : ExtOK n j e) (hn : n ≤ j) (hm : j < m) :
    ExtOK n m (aN j :: e) := by
  intro i hi
  rcases List.mem_cons.mp hi with rfl | hi
  · exact ⟨gen_a n j hn, fun hg => by have := hg.2; simp [aN] at this; omega⟩
  · exact ⟨(h i hi).1, fun hg => (h i hi).2 (hg.mono (by omega))⟩

/-- no name of `ext` (all generated after `n`) occurs in a list that is fresh for `n` -/
theorem ExtOK.not_mem {n m : Nat} {ext : List Ident} (h : ExtOK n m ext) {l : List Ident}
    (hl : FreshL n l) : ∀ y ∈ ext, y ∉ l := fun y hy hyl => hl y hyl (h y hy).1

structure KCong (n n' : Nat) (sc sc' : List Ident) (k k' : Cont) : Prop where
  mono : MonoK k
  mono' : MonoK k'
  cong : ∀ ext ext' b b' m m', n ≤ m → n' ≤ m' → ext.length = ext'.length →
    ExtOK n m ext → ExtOK n' m' ext' → b.chi = b'.chi → ¬ Gen m b.var → ¬ Gen m' b'.var →
    dbVar (ext ++ sc) b.var = dbVar (ext' ++ sc') b'.var →
    dbS (ext ++ sc) (k b m).1.embed = dbS (ext' ++ sc') (k' b' m').1.embed

structure KCongV (n n' : Nat) (sc sc' : List Ident) (k k' : ContVec) : Prop where
  mono : MonoKV k
  mono' : MonoKV k'
  cong : ∀ ext ext' bs bs' m m', n ≤ m → n' ≤ m' → ext.length = ext'.length →
    ExtOK n m ext → ExtOK n' m' ext' → (∀ b ∈ bs, ¬ Gen m b.var) → (∀ b ∈ bs', ¬ Gen m' b.var) →
    dbA (ext ++ sc) (ctxToArgs bs) = dbA (ext' ++ sc') (ctxToArgs bs') →
    dbS (ext ++ sc) (k bs m).1.embed = dbS (ext' ++ sc') (k' bs' m').1.embed

theorem dbVar_head (x : Ident) (sc : List Ident) : dbVar (x :: sc) x = .bound 0 := by
  simp [dbVar]

/-- `k` under the fresh binder `xN j`, called at a later counter `m` (`KCong.underA` is the same for `aN j`) -/
theorem KCong.underX {n n' sc sc' k k'} (hk : KCong n n' sc sc' k k') {ext ext' : List Ident}
    {j j' m m' : Nat} (hn : n ≤ j) (hn' : n' ≤ j') (hm : j < m) (hm' : j' < m')
    (hl : ext.length = ext'.length) (he : ExtOK n j ext) (he' : ExtOK n' j' ext') (ty ty' : Ty) :
    dbS (xN j :: (ext ++ sc)) (k ⟨xN j, .prd, ty⟩ m).1.embed =
      dbS (xN j' :: (ext' ++ sc')) (k' ⟨xN j', .prd, ty'⟩ m').1.embed := by
  have := hk.cong (xN j :: ext) (xN j' :: ext') ⟨xN j, .prd, ty⟩ ⟨xN j', .prd, ty'⟩ m m'
    (by omega) (by omega) (by simp [hl]) (he.consX hn hm) (he'.consX hn' hm') rfl
    (fun hg => by have := hg.2; simp [xN] at this; omega)
    (fun hg => by have := hg.2; simp [xN] at this; omega)
    (by simp [dbVar_head])
  simpa using this

theorem KCong.underA {n n' sc sc' k k'} (hk : KCong n n' sc sc' k k') {ext ext' : List Ident}
    {j j' m m' : Nat} (hn : n ≤ j) (hn' : n' ≤ j') (hm : j < m) (hm' : j' < m')
    (hl : ext.length = ext'.length) (he : ExtOK n j ext) (he' : ExtOK n' j' ext') (ty ty' : Ty) :
    dbS (aN j :: (ext ++ sc)) (k ⟨aN j, .cns, ty⟩ m).1.embed =
      dbS (aN j' :: (ext' ++ sc')) (k' ⟨aN j', .cns, ty'⟩ m').1.embed := by
  have := hk.cong (aN j :: ext) (aN j' :: ext') ⟨aN j, .cns, ty⟩ ⟨aN j', .cns, ty'⟩ m m'
    (by omega) (by omega) (by simp [hl]) (he.consA hn hm) (he'.consA hn' hm') rfl
    (fun hg => by have := hg.2; simp [aN] at this; omega)
    (fun hg => by have := hg.2; simp [aN] at this; omega)
    (by simp [dbVar_head])
  simpa using this

end Scc.Core
