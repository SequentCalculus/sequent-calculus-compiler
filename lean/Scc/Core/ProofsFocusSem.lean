/-
  Scc.Core.ProofsFocusSem — whole programs: if the definitions of `p2` are α-equivalent to those of
  `p1` and all generated-looking names of `p2` are below its counter, then the ς-machine on `p1` and
  the focused machine on `focusOnly p2` have the same runs (`focusOnly_sim_run`).
  With `p2 = p1` this is "static focusing ≈ the ς-rules"; with `p2 = uniquifyProg p1` it is C03's
  first sentence (the α-equivalence of `uniquify` is `uniquifyProg_alpha`, Scc/Core/ProofsUniqAlphaD.lean).
-/
import Scc.Core.ProofsFocusSimD

namespace Scc.Core

open FocusSim

theorem exists_freshL (l : List Ident) : ∃ n, FreshL n l := by
  induction l with
  | nil => exact ⟨0, by simp⟩
  | cons a r ih =>
    obtain ⟨n, hn⟩ := ih
    refine ⟨n + a.id, ?_⟩
    intro i hi hg
    rcases List.mem_cons.mp hi with rfl | hi
    · have := hg.2; omega
    · exact hn i hi (hg.mono (by omega))

theorem focusDefs_le : ∀ (ds : List Def) (n : Nat), n ≤ (focusDefs ds n).2
  | [], n => by simp [focusDefs]
  | d :: r, n => by
    have h1 := focusStmt_le d.body n
    have h2 := focusDefs_le r (focusStmt d.body n).2
    simp only [focusDefs, focusDef]
    omega

/-- definition-wise α-equivalence of two programs (same names, same parameter chiralities) -/
structure DefAlpha (d1 d2 : Def) : Prop where
  name : d1.name = d2.name
  chis : d1.ctx.map (·.chi) = d2.ctx.map (·.chi)
  body : dbS (ctxVars d1.ctx) d1.body = dbS (ctxVars d2.ctx) d2.body

def DefsAlpha : List Def → List Def → Prop
  | [], [] => True
  | d :: r, d' :: r' => DefAlpha d d' ∧ DefsAlpha r r'
  | _, _ => False

theorem DefsAlpha.refl : ∀ ds : List Def, DefsAlpha ds ds
  | [] => trivial
  | _ :: r => ⟨⟨rfl, rfl, rfl⟩, DefsAlpha.refl r⟩

theorem defsRel_focusDefs : ∀ (ds1 ds2 : List Def) (n : Nat), DefsAlpha ds1 ds2 →
    (∀ d ∈ ds1, OKS 0 d.body) → (∀ d ∈ ds2, FreshL n d.body.idents) →
    DefsRel ds1 (focusDefs ds2 n).1
  | [], [], _, _, _, _ => by simp [focusDefs, DefsRel]
  | [], _ :: _, _, h, _, _ => by simp [DefsAlpha] at h
  | _ :: _, [], _, h, _, _ => by simp [DefsAlpha] at h
  | d1 :: r1, d2 :: r2, n, h, hok, hf => by
    obtain ⟨hd, hr⟩ := h
    simp only [focusDefs, focusDef, DefsRel]
    refine ⟨⟨hd.name, hd.chis, hok d1 (by simp), ?_⟩, ?_⟩
    · obtain ⟨n1, hn1⟩ := exists_freshL d1.body.idents
      exact ⟨n1, hn1, focusStmt_cong hd.body hn1 (hf d2 (by simp))⟩
    · exact defsRel_focusDefs r1 r2 _ hr (fun d hd' => hok d (by simp [hd']))
        (fun d hd' => (hf d (by simp [hd'])).mono (focusStmt_le d2.body n))

/-- the hypotheses under which `focusOnly p2` simulates `p1` -/
structure FocusInput (p1 p2 : Prog) : Prop where
  codata : p1.codataTypes = p2.codataTypes
  alpha : DefsAlpha p1.defs p2.defs
  ok : ∀ d ∈ p1.defs, OKS 0 d.body
  fresh : ∀ d ∈ p2.defs, FreshL p2.maxId d.body.idents

theorem prel_focusOnly {p1 p2 : Prog} (h : FocusInput p1 p2) : PRel p1 (focusOnly p2) := by
  refine ⟨?_, ?_⟩
  · simp only [focusOnly]; exact h.codata
  · simp only [focusOnly]
    exact defsRel_focusDefs p1.defs p2.defs p2.maxId h.alpha h.ok h.fresh

/-- **static focusing has the same runs as the ς-machine** (up to the α-equivalence `p1 ≡ p2`) -/
theorem focusOnly_sim_run {p1 p2 : Prog} (h : FocusInput p1 p2) (args : List (BitVec 64)) :
    (∀ f, ∃ f', f' ≤ f ∧ fsRun (focusOnly p2) args f' = run p1 args f) ∧
    (∀ f', ∃ f, run p1 args f = fsRun (focusOnly p2) args f') :=
  focus_sim_run (prel_focusOnly h) args

end Scc.Core
