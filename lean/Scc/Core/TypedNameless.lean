/-
  Scc.Core.TypedNameless — proof file: Core typing (`Stmt.check`, Scc/Core/Typing.lean) and the strictness
  predicate (`Stmt.strict`, Scc/Core/TypedStrict.lean) as functions of the NAMELESS form `dbS`
  (Scc/Core/ProofsAlphaA.lean).
  * `DStmt.check E Δ` : the checker on nameless forms (a bound variable looks its chirality and type
    up in `Δ` by position, a free variable fails);
  * the nameless form drops the type annotation of variable OCCURRENCES, so it determines the check
    only up to `Stmt.annOk`: "every occurrence is annotated with the type its position expects"
    (context-free):       `s.check P Γ = ((dbS (ctxVars Γ) s).check P.denv (ctxSig Γ) && s.annOk P.denv)`
    (`stmt_check_split`);
  * the checkers depend on the program only through `Prog.denv` (type declarations, and per
    definition its name and the chiralities and types of its parameters);
  * `s.strict P = (dbS sc s).strict P` (`stmt_strict_db`).
-/
import Scc.Core.TypedStrict
import Scc.Core.ProofsAlphaA
import Scc.Core2AxCut.Proofs

namespace Scc.Core

/-! ## what the checkers use of a program -/

structure DEnv where
  data : List TypeDecl
  codata : List TypeDecl
  fsig : Ident → Option (List (PC × Ty))

def Prog.denv (P : Prog) : DEnv :=
  ⟨P.dataTypes, P.codataTypes,
    fun f => (P.defs.find? (fun d => d.name = f)).map (fun d => ctxSig d.ctx)⟩

/-! ## the checker on nameless forms -/

def DVar.lookup (Δ : List (PC × Ty)) : DVar → Option (PC × Ty)
  | .bound i => Δ[i]?
  | .free _ => none

mutual
  def DTerm.check (E : DEnv) (Δ : List (PC × Ty)) (pc : PC) (ty : Ty) : DTerm → Bool
    | .var pc' v =>
      pc' == pc &&
        (match v.lookup Δ with
         | some (c, t) => c == pc && t == ty
         | none => false)
    | .lit _ => pc == .prd && ty == .i64
    | .op a _ b => pc == .prd && ty == .i64 && a.check E Δ .prd .i64 && b.check E Δ .prd .i64
    | .mu pc' ty' s => pc' == pc && ty' == ty && s.check E ((pc.flip, ty) :: Δ)
    | .xtor pc' name as ty' =>
      pc' == pc && ty' == ty &&
        (match ty with
         | .i64 => false
         | .decl T =>
           match findDecl (if pc == .prd then E.data else E.codata) T with
           | none => false
           | some d =>
             match findSig d.xtors name with
             | none => false
             | some sig => as.check E Δ (ctxSig sig.args))
    | .xcase pc' ty' cl =>
      pc' == pc && ty' == ty &&
        (match ty with
         | .i64 => false
         | .decl T =>
           match findDecl (if pc == .prd then E.codata else E.data) T with
           | none => false
           | some d => cl.check E Δ d.xtors && cl.covers d.xtors)
  def DArgs.check (E : DEnv) (Δ : List (PC × Ty)) : DArgs → List (PC × Ty) → Bool
    | .nil, [] => true
    | .cons pc t r, b :: bs => pc == b.1 && t.check E Δ pc b.2 && r.check E Δ bs
    | _, _ => false
  def DClauses.check (E : DEnv) (Δ : List (PC × Ty)) : DClauses → List XtorSig → Bool
    | .nil, _ => true
    | .cons x sig b r, sigs =>
      (match findSig sigs x with
       | none => false
       | some s => decide (sig = ctxSig s.args)) &&
      b.check E (sig ++ Δ) && r.check E Δ sigs
  def DClauses.covers : DClauses → List XtorSig → Bool
    | _, [] => true
    | cl, s :: r => cl.has s.name && cl.covers r
  def DClauses.has : DClauses → Ident → Bool
    | .nil, _ => false
    | .cons x _ _ r, k => x == k || r.has k
  def DStmt.check (E : DEnv) (Δ : List (PC × Ty)) : DStmt → Bool
    | .cut ty p c => p.check E Δ .prd ty && c.check E Δ .cns ty
    | .ifc _ a b t e =>
      a.check E Δ .prd .i64 && b.check E Δ .prd .i64 && t.check E Δ && e.check E Δ
    | .ifz _ a t e => a.check E Δ .prd .i64 && t.check E Δ && e.check E Δ
    | .print _ a n => a.check E Δ .prd .i64 && n.check E Δ
    | .call f as _ =>
      (match E.fsig f with
       | none => false
       | some sig => as.check E Δ sig)
    | .exit a _ => a.check E Δ .prd .i64
end

mutual
  /-- every variable occurrence carries the type expected at its position -/
  def Term.annOk (E : DEnv) (pc : PC) (ty : Ty) : Term → Bool
    | .var _ _ ty' => ty' == ty
    | .lit _ => true
    | .op a _ b => a.annOk E .prd .i64 && b.annOk E .prd .i64
    | .mu _ _ _ s => s.annOk E
    | .xtor _ name as _ =>
      (match ty with
       | .i64 => true
       | .decl T =>
         match findDecl (if pc == .prd then E.data else E.codata) T with
         | none => true
         | some d =>
           match findSig d.xtors name with
           | none => true
           | some sig => as.annOk E (ctxSig sig.args))
    | .xcase _ _ cl => cl.annOk E
  def Args.annOk (E : DEnv) : Args → List (PC × Ty) → Bool
    | .cons pc t r, b :: bs => t.annOk E pc b.2 && r.annOk E bs
    | _, _ => true
  def Clauses.annOk (E : DEnv) : Clauses → Bool
    | .nil => true
    | .cons _ _ b r => b.annOk E && r.annOk E
  def Stmt.annOk (E : DEnv) : Stmt → Bool
    | .cut ty p c => p.annOk E .prd ty && c.annOk E .cns ty
    | .ifc _ a b t e => a.annOk E .prd .i64 && b.annOk E .prd .i64 && t.annOk E && e.annOk E
    | .ifz _ a t e => a.annOk E .prd .i64 && t.annOk E && e.annOk E
    | .print _ a n => a.annOk E .prd .i64 && n.annOk E
    | .call f as _ =>
      (match E.fsig f with
       | none => true
       | some sig => as.annOk E sig)
    | .exit a _ => a.annOk E .prd .i64
end

theorem DVar.lookup_shift1 (v : DVar) (s : PC × Ty) (Δ : List (PC × Ty)) :
    (v.shift 0 1).lookup (s :: Δ) = v.lookup Δ := by
  cases v with
  | free x => simp [DVar.shift, DVar.lookup]
  | bound i => simp [DVar.shift, DVar.lookup]

theorem lookup_dbVar : ∀ (Γ : Ctx) (v : Ident),
    (dbVar (ctxVars Γ) v).lookup (ctxSig Γ) = (lookupBinding Γ v).map fun b => (b.chi, b.ty)
  | [], v => by simp [ctxVars, dbVar, DVar.lookup, lookupBinding]
  | c :: r, v => by
    simp only [ctxVars, List.map_cons, dbVar, ctxSig, lookupBinding]
    split
    · simp [DVar.lookup]
    · rw [DVar.lookup_shift1]
      exact lookup_dbVar r v

theorem ctxMatches_true_iff : ∀ (a b : Ctx), ctxMatches a b = true ↔ ctxSig a = ctxSig b
  | [], [] => by simp [ctxMatches, ctxSig]
  | [], _ :: _ => by simp [ctxMatches, ctxSig]
  | _ :: _, [] => by simp [ctxMatches, ctxSig]
  | x :: as, y :: bs => by
    have ih := ctxMatches_true_iff as bs
    simp only [ctxSig] at ih
    simp only [ctxMatches, ctxSig, List.map_cons, List.cons.injEq, Prod.mk.injEq, Bool.and_eq_true,
      beq_iff_eq, ih, and_assoc]

theorem ctxMatches_iff (a b : Ctx) : ctxMatches a b = decide (ctxSig a = ctxSig b) := by
  rw [Bool.eq_iff_iff]
  simp [ctxMatches_true_iff]

theorem ctxSig_append (a b : Ctx) : ctxSig (a ++ b) = ctxSig a ++ ctxSig b := by simp [ctxSig]

theorem ctxVars_append' (a b : Ctx) : ctxVars (a ++ b) = ctxVars a ++ ctxVars b := by
  simp [ctxVars]

mutual
  theorem clauses_has_db (sc : List Ident) : (cl : Clauses) → ∀ k, (dbC sc cl).has k = cl.has k
    | .nil, k => by simp [dbC, DClauses.has, Clauses.has]
    | .cons x ctx b r, k => by simp [dbC, DClauses.has, Clauses.has, clauses_has_db sc r k]
end

theorem clauses_covers_db (sc : List Ident) (cl : Clauses) :
    ∀ sigs, (dbC sc cl).covers sigs = cl.covers sigs
  | [] => by simp [DClauses.covers, Clauses.covers]
  | s :: r => by
    simp [DClauses.covers, Clauses.covers, clauses_has_db sc cl, clauses_covers_db sc cl r]

/-! ## the check splits into the nameless check and the annotation check -/

theorem and_split4 (a b c d : Bool) : (a && b && (c && d)) = ((a && b && c) && d) := by
  cases a <;> cases b <;> cases c <;> cases d <;> rfl

mutual
  theorem term_check_split (P : Prog) : (t : Term) → ∀ (Γ : Ctx) (pc : PC) (ty : Ty),
      t.check P Γ pc ty =
        ((dbT (ctxVars Γ) t).check P.denv (ctxSig Γ) pc ty && t.annOk P.denv pc ty)
    | .var pc' v ty', Γ, pc, ty => by
      simp only [Term.check, dbT, DTerm.check, Term.annOk, lookup_dbVar]
      cases lookupBinding Γ v with
      | none => simp
      | some b =>
        simp only [Option.map_some]
        cases (pc' == pc) <;> cases (ty' == ty) <;> cases (b.chi == pc) <;> cases (b.ty == ty) <;> rfl
    | .lit k, Γ, pc, ty => by simp [Term.check, dbT, DTerm.check, Term.annOk]
    | .op a o b, Γ, pc, ty => by
      simp only [Term.check, dbT, DTerm.check, Term.annOk, term_check_split P a Γ .prd .i64,
        term_check_split P b Γ .prd .i64]
      ac_rfl
    | .mu pc' v ty' s, Γ, pc, ty => by
      have ih := stmt_check_split P s (⟨v, pc.flip, ty⟩ :: Γ)
      simp only [ctxVars, ctxSig, List.map_cons] at ih
      simp only [Term.check, dbT, DTerm.check, Term.annOk, ih, ctxVars, ctxSig]
      simp only [Bool.and_assoc]
    | .xtor pc' name as ty', Γ, pc, ty => by
      simp only [Term.check, dbT, DTerm.check, Term.annOk, Prog.denv]
      cases ty with
      | i64 => simp
      | decl T =>
        simp only
        cases findDecl (if pc == .prd then P.dataTypes else P.codataTypes) T with
        | none => simp
        | some d =>
          simp only
          cases findSig d.xtors name with
          | none => simp
          | some sig =>
            simp only
            have ih := args_check_split P as Γ sig.args
            simp only [Prog.denv] at ih
            rw [ih]
            simp only [Bool.and_assoc]
    | .xcase pc' ty' cl, Γ, pc, ty => by
      simp only [Term.check, dbT, DTerm.check, Term.annOk, Prog.denv]
      cases ty with
      | i64 => simp
      | decl T =>
        simp only
        cases findDecl (if pc == .prd then P.codataTypes else P.dataTypes) T with
        | none => simp
        | some d =>
          simp only
          have ih := clauses_check_split P cl Γ d.xtors
          simp only [Prog.denv] at ih
          rw [ih, clauses_covers_db]
          ac_rfl
  theorem args_check_split (P : Prog) : (as : Args) → ∀ (Γ : Ctx) (sig : Ctx),
      as.check P Γ sig =
        ((dbA (ctxVars Γ) as).check P.denv (ctxSig Γ) (ctxSig sig) && as.annOk P.denv (ctxSig sig))
    | .nil, Γ, [] => by simp [Args.check, dbA, DArgs.check, Args.annOk, ctxSig]
    | .nil, Γ, _ :: _ => by simp [Args.check, dbA, DArgs.check, Args.annOk, ctxSig]
    | .cons pc t r, Γ, [] => by simp [Args.check, dbA, DArgs.check, Args.annOk, ctxSig]
    | .cons pc t r, Γ, b :: bs => by
      have ih1 := term_check_split P t Γ pc b.ty
      have ih2 := args_check_split P r Γ bs
      simp only [ctxSig] at ih2
      simp only [Args.check, dbA, DArgs.check, Args.annOk, ctxSig, List.map_cons, ih1, ih2]
      ac_rfl
  theorem clauses_check_split (P : Prog) : (cl : Clauses) → ∀ (Γ : Ctx) (sigs : List XtorSig),
      cl.check P Γ sigs =
        ((dbC (ctxVars Γ) cl).check P.denv (ctxSig Γ) sigs && cl.annOk P.denv)
    | .nil, Γ, sigs => by simp [Clauses.check, dbC, DClauses.check, Clauses.annOk]
    | .cons x ctx b r, Γ, sigs => by
      have ih1 := stmt_check_split P b (ctx ++ Γ)
      rw [ctxVars_append', ctxSig_append] at ih1
      have ih2 := clauses_check_split P r Γ sigs
      simp only [Clauses.check, dbC, DClauses.check, Clauses.annOk, ih1, ih2]
      cases findSig sigs x with
      | none => simp
      | some s =>
        simp only [ctxMatches_iff]
        ac_rfl
  theorem stmt_check_split (P : Prog) : (s : Stmt) → ∀ (Γ : Ctx),
      s.check P Γ = ((dbS (ctxVars Γ) s).check P.denv (ctxSig Γ) && s.annOk P.denv)
    | .cut ty p c, Γ => by
      simp only [Stmt.check, dbS, DStmt.check, Stmt.annOk, term_check_split P p Γ .prd ty,
        term_check_split P c Γ .cns ty]
      ac_rfl
    | .ifc srt a b t e, Γ => by
      simp only [Stmt.check, dbS, DStmt.check, Stmt.annOk, term_check_split P a Γ .prd .i64,
        term_check_split P b Γ .prd .i64, stmt_check_split P t Γ, stmt_check_split P e Γ]
      ac_rfl
    | .ifz srt a t e, Γ => by
      simp only [Stmt.check, dbS, DStmt.check, Stmt.annOk, term_check_split P a Γ .prd .i64,
        stmt_check_split P t Γ, stmt_check_split P e Γ]
      ac_rfl
    | .print nl a n, Γ => by
      simp only [Stmt.check, dbS, DStmt.check, Stmt.annOk, term_check_split P a Γ .prd .i64,
        stmt_check_split P n Γ]
      ac_rfl
    | .call f as ty, Γ => by
      simp only [Stmt.check, dbS, DStmt.check, Stmt.annOk, Prog.denv]
      cases P.defs.find? (fun d => d.name = f) with
      | none => simp
      | some d =>
        simp only [Option.map_some]
        have ih := args_check_split P as Γ d.ctx
        simp only [Prog.denv] at ih
        exact ih
    | .exit a ty, Γ => by
      simp only [Stmt.check, dbS, DStmt.check, Stmt.annOk, term_check_split P a Γ .prd .i64]
end

/-! ## strictness is a property of the nameless form -/

def DClauses.tags : DClauses → List Ident
  | .nil => []
  | .cons x _ _ r => x :: r.tags

mutual
  def DTerm.strict (P : Prog) : DTerm → Bool
    | .var _ _ => true
    | .lit _ => true
    | .op a _ b => a.strict P && b.strict P
    | .mu _ ty s => tyDeclared P ty && s.strict P
    | .xtor _ _ as _ => as.strict P
    | .xcase pc ty cl =>
      (match ty with
       | .i64 => false
       | .decl T =>
         match findDecl (if pc == .prd then P.codataTypes else P.dataTypes) T with
         | some d => decide (cl.tags = d.xtors.map (·.name))
         | none => false) &&
      cl.strict P
  def DArgs.strict (P : Prog) : DArgs → Bool
    | .nil => true
    | .cons _ t r => t.strict P && r.strict P
  def DClauses.strict (P : Prog) : DClauses → Bool
    | .nil => true
    | .cons _ _ b r => b.strict P && r.strict P
  def DStmt.strict (P : Prog) : DStmt → Bool
    | .cut ty p c => tyDeclared P ty && p.strict P && c.strict P
    | .ifc _ a b t e => a.strict P && b.strict P && t.strict P && e.strict P
    | .ifz _ a t e => a.strict P && t.strict P && e.strict P
    | .print _ a n => a.strict P && n.strict P
    | .call _ as _ => as.strict P
    | .exit a _ => a.strict P
end

theorem clauses_tags_db (sc : List Ident) : (cl : Clauses) → (dbC sc cl).tags = cl.tags
  | .nil => by simp [dbC, DClauses.tags, Clauses.tags]
  | .cons x ctx b r => by simp [dbC, DClauses.tags, Clauses.tags, clauses_tags_db sc r]

mutual
  theorem term_strict_db (P : Prog) : (t : Term) → ∀ sc, (dbT sc t).strict P = t.strict P
    | .var _ _ _, _ => by simp [dbT, DTerm.strict, Term.strict]
    | .lit _, _ => by simp [dbT, DTerm.strict, Term.strict]
    | .op a _ b, sc => by
      simp [dbT, DTerm.strict, Term.strict, term_strict_db P a sc, term_strict_db P b sc]
    | .mu _ v _ s, sc => by
      simp [dbT, DTerm.strict, Term.strict, stmt_strict_db P s (v :: sc)]
    | .xtor _ _ as _, sc => by simp [dbT, DTerm.strict, Term.strict, args_strict_db P as sc]
    | .xcase pc ty cl, sc => by
      simp only [dbT, DTerm.strict, Term.strict, clauses_strict_db P cl sc, clauses_tags_db]
      cases ty with
      | i64 => rfl
      | decl T =>
        simp only
        cases findDecl (if pc == .prd then P.codataTypes else P.dataTypes) T <;> rfl
  theorem args_strict_db (P : Prog) : (as : Args) → ∀ sc, (dbA sc as).strict P = as.strict P
    | .nil, _ => by simp [dbA, DArgs.strict, Args.strict]
    | .cons _ t r, sc => by
      simp [dbA, DArgs.strict, Args.strict, term_strict_db P t sc, args_strict_db P r sc]
  theorem clauses_strict_db (P : Prog) : (cl : Clauses) → ∀ sc, (dbC sc cl).strict P = cl.strict P
    | .nil, _ => by simp [dbC, DClauses.strict, Clauses.strict]
    | .cons _ ctx b r, sc => by
      simp [dbC, DClauses.strict, Clauses.strict, stmt_strict_db P b (ctxVars ctx ++ sc),
        clauses_strict_db P r sc]
  theorem stmt_strict_db (P : Prog) : (s : Stmt) → ∀ sc, (dbS sc s).strict P = s.strict P
    | .cut _ p c, sc => by
      simp [dbS, DStmt.strict, Stmt.strict, term_strict_db P p sc, term_strict_db P c sc]
    | .ifc _ a b t e, sc => by
      simp [dbS, DStmt.strict, Stmt.strict, term_strict_db P a sc, term_strict_db P b sc,
        stmt_strict_db P t sc, stmt_strict_db P e sc]
    | .ifz _ a t e, sc => by
      simp [dbS, DStmt.strict, Stmt.strict, term_strict_db P a sc, stmt_strict_db P t sc,
        stmt_strict_db P e sc]
    | .print _ a n, sc => by
      simp [dbS, DStmt.strict, Stmt.strict, term_strict_db P a sc, stmt_strict_db P n sc]
    | .call _ as _, sc => by simp [dbS, DStmt.strict, Stmt.strict, args_strict_db P as sc]
    | .exit a _, sc => by simp [dbS, DStmt.strict, Stmt.strict, term_strict_db P a sc]
end

/-- `strict` depends on the program only through its type declarations -/
theorem tyDeclared_congr {P Q : Prog} (hd : P.dataTypes = Q.dataTypes)
    (hc : P.codataTypes = Q.codataTypes) (ty : Ty) : tyDeclared P ty = tyDeclared Q ty := by
  cases ty <;> simp [tyDeclared, hd, hc]

mutual
  theorem dterm_strict_congr {P Q : Prog} (hd : P.dataTypes = Q.dataTypes)
      (hc : P.codataTypes = Q.codataTypes) : (t : DTerm) → t.strict P = t.strict Q
    | .var _ _ => by simp [DTerm.strict]
    | .lit _ => by simp [DTerm.strict]
    | .op a _ b => by
      simp [DTerm.strict, dterm_strict_congr hd hc a, dterm_strict_congr hd hc b]
    | .mu _ ty s => by
      simp [DTerm.strict, dstmt_strict_congr hd hc s, tyDeclared_congr hd hc]
    | .xtor _ _ as _ => by simp [DTerm.strict, dargs_strict_congr hd hc as]
    | .xcase pc ty cl => by
      simp only [DTerm.strict, dclauses_strict_congr hd hc cl, hd, hc]
  theorem dargs_strict_congr {P Q : Prog} (hd : P.dataTypes = Q.dataTypes)
      (hc : P.codataTypes = Q.codataTypes) : (as : DArgs) → as.strict P = as.strict Q
    | .nil => by simp [DArgs.strict]
    | .cons _ t r => by
      simp [DArgs.strict, dterm_strict_congr hd hc t, dargs_strict_congr hd hc r]
  theorem dclauses_strict_congr {P Q : Prog} (hd : P.dataTypes = Q.dataTypes)
      (hc : P.codataTypes = Q.codataTypes) : (cl : DClauses) → cl.strict P = cl.strict Q
    | .nil => by simp [DClauses.strict]
    | .cons _ _ b r => by
      simp [DClauses.strict, dstmt_strict_congr hd hc b, dclauses_strict_congr hd hc r]
  theorem dstmt_strict_congr {P Q : Prog} (hd : P.dataTypes = Q.dataTypes)
      (hc : P.codataTypes = Q.codataTypes) : (s : DStmt) → s.strict P = s.strict Q
    | .cut _ p c => by
      simp [DStmt.strict, dterm_strict_congr hd hc p, dterm_strict_congr hd hc c,
        tyDeclared_congr hd hc]
    | .ifc _ a b t e => by
      simp [DStmt.strict, dterm_strict_congr hd hc a, dterm_strict_congr hd hc b,
        dstmt_strict_congr hd hc t, dstmt_strict_congr hd hc e]
    | .ifz _ a t e => by
      simp [DStmt.strict, dterm_strict_congr hd hc a, dstmt_strict_congr hd hc t,
        dstmt_strict_congr hd hc e]
    | .print _ a n => by
      simp [DStmt.strict, dterm_strict_congr hd hc a, dstmt_strict_congr hd hc n]
    | .call _ as _ => by simp [DStmt.strict, dargs_strict_congr hd hc as]
    | .exit a _ => by simp [DStmt.strict, dterm_strict_congr hd hc a]
end

end Scc.Core
