/-
  Scc.Core.ProofsFocusSimD — the simulation, part D: the ς-step keeps the relation; ς-steps
  terminate (measure); runs.  Result (`focus_sim_run`): for related programs every run of the
  ς-machine is matched by a run of the focused machine with at most as much fuel, and every run of
  the focused machine by a run of the ς-machine — with EQUAL behaviours.
-/
import Scc.Core.ProofsFocusSimC

namespace Scc.Core

mutual
  /-- number of ς-steps needed to name the term as an argument -/
  def Term.w : Term → Nat
    | .var _ _ _ => 0
    | .lit _ => 1
    | .op a _ b => 1 + a.w + b.w
    | .mu _ _ _ _ => 1
    | .xtor _ _ as _ => 1 + as.w
    | .xcase _ _ _ => 1
  def Args.w : Args → Nat
    | .nil => 0
    | .cons _ t r => t.w + r.w
end

def Term.wtop : Term → Nat
  | .xtor _ _ as _ => as.w
  | .op a _ b => a.w + b.w
  | _ => 0

/-- number of ς-steps before the next proper step -/
def Stmt.sigmaMeasure : Stmt → Nat
  | .cut _ p c => p.wtop + c.wtop
  | .ifc _ a b _ _ => a.w + b.w
  | .ifz _ a _ _ => a.w
  | .print _ a _ => a.w
  | .call _ as _ => as.w
  | .exit a _ => a.w

theorem Term.wtop_lt {t : Term} (h : t.isVar = false) : t.wtop < t.w := by
  cases t <;> simp [Term.isVar] at h <;> simp [Term.wtop, Term.w] <;> omega

theorem ASplit.w_le {as pc t A} (h : ASplit as pc t A) : t.w ≤ as.w := by
  induction h with
  | here _ _ _ _ => simp [Args.w]
  | there _ _ _ _ _ ih => simp only [Args.w]; omega

theorem SSplit.w_le {s pc t S} (h : SSplit s pc t S) : t.w ≤ s.sigmaMeasure := by
  cases h with
  | cutL _ _ _ _ _ _ ha => have := ha.w_le; simp only [Stmt.sigmaMeasure, Term.wtop]; omega
  | cutLR _ _ _ _ _ _ _ _ _ _ ha =>
    have := ha.w_le; simp only [Stmt.sigmaMeasure, Term.wtop]; omega
  | cutR _ _ _ _ _ _ _ ha => have := ha.w_le; simp only [Stmt.sigmaMeasure, Term.wtop]; omega
  | call _ _ _ ha => have := ha.w_le; simp only [Stmt.sigmaMeasure]; omega
  | _ => simp only [Stmt.sigmaMeasure, Term.wtop]; omega

theorem sigmaCut_measure (pc : PC) (t : Term) (y : Ident) (body : Stmt) :
    (sigmaCut pc t y body).sigmaMeasure = t.wtop := by
  cases pc <;> simp [sigmaCut, Stmt.sigmaMeasure, Term.wtop]

namespace FocusSim

theorem cutsOk_cut_mu_r (ty : Ty) (p : Term) (pc : PC) (v : Ident) (t : Ty) (s : Stmt) :
    (Stmt.cut ty p (.mu pc v t s)).cutsOk = (p.cutsOk && s.cutsOk) := by
  cases p <;> simp [Stmt.cutsOk, Term.cutsOk]

theorem cutsOk_cut_mu_l (ty : Ty) (c : Term) (pc : PC) (v : Ident) (t : Ty) (s : Stmt) :
    (Stmt.cut ty (.mu pc v t s) c).cutsOk = (s.cutsOk && c.cutsOk) := by
  cases c <;> simp [Stmt.cutsOk, Term.cutsOk]

theorem sigmaCut_idents (pc : PC) (t : Term) (y : Ident) (body : Stmt) :
    ∀ i ∈ (sigmaCut pc t y body).idents, i ∈ t.idents ∨ i = y ∨ i ∈ body.idents := by
  intro i hi
  cases pc <;> simp only [sigmaCut, Stmt.idents, Term.idents, List.mem_append, List.mem_cons] at hi <;>
    grind

theorem not_gen_sigma (k m : Nat) : ¬ Gen m (sigmaName k) := by
  intro h
  rcases h.1 with h | h <;> simp [sigmaName] at h

theorem step_sigma {st1 : State} {st2 : FsState} (h : SRel st1 st2) {pc : PC} {t : Term}
    {S : Term → Stmt} (hs : st1.stmt.split = some (pc, t, S)) :
    SRel { st1 with
      stmt := sigmaCut pc t (sigmaName st1.fresh) (S (.var pc (sigmaName st1.fresh) t.ty)),
      fresh := st1.fresh + 1 } st2 := by
  obtain ⟨hout, he, hok, n, hf, hdb⟩ := h
  have hcut := Stmt.cutOkTop_of_cutsOk hok.cuts
  have hsp := SSplit.of_split _ hs
  obtain ⟨hc1, hc2⟩ := hsp.cutsOk hok.cuts
  obtain ⟨hp1, hp2⟩ := hsp.pcOk hok.pcs
  have hy : sigmaName st1.fresh ∉ st1.stmt.idents := by
    intro hmem
    have := hok.sig _ hmem rfl
    simp [sigmaName] at this
  have hyg : ∀ m, ¬ Gen m (sigmaName st1.fresh) := not_gen_sigma _
  have hSid : ∀ i ∈ (S (.var pc (sigmaName st1.fresh) t.ty)).idents,
      i ∈ st1.stmt.idents ∨ i = sigmaName st1.fresh := by
    intro i hi
    rcases hsp.idents_S _ i hi with h | h
    · exact Or.inl h
    · simp only [Term.idents, List.mem_singleton] at h; exact Or.inr h
  have hall : ∀ i ∈ (sigmaCut pc t (sigmaName st1.fresh)
      (S (.var pc (sigmaName st1.fresh) t.ty))).idents,
      i ∈ st1.stmt.idents ∨ i = sigmaName st1.fresh := by
    intro i hi
    rcases sigmaCut_idents _ _ _ _ i hi with h | h | h
    · exact Or.inl (hsp.idents_t i h)
    · exact Or.inr h
    · exact hSid i h
  refine ⟨hout, he.mono (Nat.le_succ _), ⟨?_, ?_, ?_⟩, n, ?_, ?_⟩
  · -- cutsOk
    have hb := hc2 (.var pc (sigmaName st1.fresh) t.ty) rfl
    cases pc
    · simp only [sigmaCut, cutsOk_cut_mu_r, hc1, hb, Bool.and_self]
    · simp only [sigmaCut, cutsOk_cut_mu_l, hc1, hb, Bool.and_self]
  · -- pcOk
    have hb := hp2 (.var pc (sigmaName st1.fresh) t.ty) rfl
    cases pc
    · simp only [sigmaCut, Stmt.pcOk, Term.pcOk, hp1, hb, Bool.and_true]; decide
    · simp only [sigmaCut, Stmt.pcOk, Term.pcOk, hp1, hb, Bool.and_true]; decide
  · -- ς-names
    intro i hi hn
    rcases hall i hi with h | h
    · exact Nat.lt_succ_of_lt (hok.sig i h hn)
    · subst h; simp [sigmaName]
  · intro i hi
    rcases hall i hi with h | h
    · exact hf i h
    · subst h; exact hyg n
  · simp only
    rw [sigma_focus hs hcut hp1 hy hyg hf]
    exact hdb

variable {p1 : Prog} {q : FsProg}

theorem step_of_split_some {st1 : State} {pc : PC} {t : Term} {S : Term → Stmt}
    (hs : st1.stmt.split = some (pc, t, S)) :
    step p1 st1 = .next { st1 with
      stmt := sigmaCut pc t (sigmaName st1.fresh) (S (.var pc (sigmaName st1.fresh) t.ty)),
      fresh := st1.fresh + 1 } := by
  simp [step, sigmaStep, hs]

/-- forward: the focused machine needs at most as much fuel -/
theorem sim_fwd (hP : PRel p1 q) : ∀ (f : Nat) (st1 : State) (st2 : FsState), SRel st1 st2 →
    ∃ f', f' ≤ f ∧ fsStepN q f' st2 = stepN p1 f st1
  | 0, st1, st2, h => ⟨0, Nat.le_refl _, by simp [stepN, fsStepN, h.out]⟩
  | f + 1, st1, st2, h => by
    cases hs : st1.stmt.split with
    | some x =>
      obtain ⟨pc, t, S⟩ := x
      obtain ⟨f', hle, heq⟩ := sim_fwd hP f _ st2 (step_sigma h hs)
      refine ⟨f', by omega, ?_⟩
      rw [heq]
      simp only [stepN, step_of_split_some hs]
    | none =>
      have hst := step_proper hP h hs
      cases h1 : step p1 st1 <;> cases h2 : fsStep q st2 <;> simp only [h1, h2, StepR] at hst
      · obtain ⟨f', hle, heq⟩ := sim_fwd hP f _ _ hst.1
        refine ⟨f' + 1, by omega, ?_⟩
        simp only [stepN, fsStepN, h1, h2, heq]
      · refine ⟨1, by omega, ?_⟩
        simp only [stepN, fsStepN, h1, h2, hst, h.out]

/-- after finitely many ς-steps the ς-machine is at a statement without non-variable arguments -/
theorem catchup : ∀ (m : Nat) (st1 : State) (st2 : FsState), st1.stmt.sigmaMeasure ≤ m →
    SRel st1 st2 → ∃ (j : Nat) (st1' : State), st1'.stmt.split = none ∧ SRel st1' st2 ∧
      ∀ f, stepN p1 (j + f) st1 = stepN p1 f st1'
  | m, st1, st2, hm, h => by
    cases hs : st1.stmt.split with
    | none => exact ⟨0, st1, hs, h, fun f => by simp⟩
    | some x =>
      obtain ⟨pc, t, S⟩ := x
      have hsp := SSplit.of_split _ hs
      have hlt : (sigmaCut pc t (sigmaName st1.fresh)
          (S (.var pc (sigmaName st1.fresh) t.ty))).sigmaMeasure < st1.stmt.sigmaMeasure := by
        rw [sigmaCut_measure]
        exact Nat.lt_of_lt_of_le (Term.wtop_lt hsp.notVar) hsp.w_le
      cases m with
      | zero => omega
      | succ m' =>
        obtain ⟨j, st1', h1, h2, h3⟩ := catchup m' _ st2 (by simp only; omega) (step_sigma h hs)
        refine ⟨j + 1, st1', h1, h2, fun f => ?_⟩
        rw [show j + 1 + f = (j + f) + 1 by omega]
        simp only [stepN, step_of_split_some hs]
        exact h3 f

/-- backward: every run of the focused machine is matched by the ς-machine -/
theorem sim_bwd (hP : PRel p1 q) : ∀ (f' : Nat) (st1 : State) (st2 : FsState), SRel st1 st2 →
    ∃ f, stepN p1 f st1 = fsStepN q f' st2
  | 0, st1, st2, h => ⟨0, by simp [stepN, fsStepN, h.out]⟩
  | f' + 1, st1, st2, h => by
    obtain ⟨j, st1', hs, h', hj⟩ := catchup (p1 := p1) _ st1 st2 (Nat.le_refl _) h
    have hst := step_proper hP h' hs
    cases h1 : step p1 st1' <;> cases h2 : fsStep q st2 <;> simp only [h1, h2, StepR] at hst
    · obtain ⟨f, heq⟩ := sim_bwd hP f' _ _ hst.1
      refine ⟨j + (f + 1), ?_⟩
      rw [hj]
      simp only [stepN, fsStepN, h1, h2, heq]
    · refine ⟨j + 1, ?_⟩
      rw [hj]
      simp only [stepN, fsStepN, h1, h2, hst, h'.out]

theorem entryEnv_rel : ∀ (c1 c2 : Ctx) (args : List (BitVec 64)),
    c1.map (·.chi) = c2.map (·.chi) →
    ExRel (fun e e' => ER 0 e e' ∧ keys e = ctxVars c1 ∧ keys e' = ctxVars c2)
      (entryEnv c1 args : Except Why CEnv) (entryEnv c2 args : Except Why FEnv)
  | [], [], args, _ => by
    cases args <;> simp [entryEnv, ExRel, ER.nil, ctxVars]
  | [], _ :: _, _, h => by simp at h
  | _ :: _, [], _, h => by simp at h
  | b :: bs, b' :: bs', args, h => by
    simp only [List.map_cons, List.cons.injEq] at h
    obtain ⟨hb, hr⟩ := h
    cases hchi : b.chi with
    | cns =>
      have hchi' : b'.chi = .cns := by rw [← hb, hchi]
      have := entryEnv_rel bs bs' args hr
      simp only [entryEnv, hchi, hchi']
      cases h1 : (entryEnv bs args : Except Why CEnv) <;>
        cases h2 : (entryEnv bs' args : Except Why FEnv) <;> simp only [h1, h2, ExRel] at this ⊢
      · exact this
      · exact ⟨ER.cons _ _ VR.halt this.1, by simp [ctxVars, this.2.1], by simp [ctxVars, this.2.2]⟩
    | prd =>
      have hchi' : b'.chi = .prd := by rw [← hb, hchi]
      cases args with
      | nil => simp [entryEnv, hchi, hchi', ExRel]
      | cons a as =>
        have := entryEnv_rel bs bs' as hr
        simp only [entryEnv, hchi, hchi']
        cases h1 : (entryEnv bs as : Except Why CEnv) <;>
          cases h2 : (entryEnv bs' as : Except Why FEnv) <;> simp only [h1, h2, ExRel] at this ⊢
        · exact this
        · exact ⟨ER.cons _ _ (VR.int a) this.1, by simp [ctxVars, this.2.1],
            by simp [ctxVars, this.2.2]⟩

/-- **the ς-machine on `p1` and the focused machine on `q` have the same runs** -/
theorem focus_sim_run (hP : PRel p1 q) (args : List (BitVec 64)) :
    (∀ f, ∃ f', f' ≤ f ∧ fsRun q args f' = run p1 args f) ∧
    (∀ f', ∃ f, run p1 args f = fsRun q args f') := by
  unfold run fsRun
  rcases find_def_rel (fun nm => decide (nm.name = mainName)) hP.defs with
    ⟨h1, h2⟩ | ⟨d, d', h1, h2, hd⟩
  · simp only [h1, h2]
    exact ⟨fun f => ⟨f, Nat.le_refl _, trivial⟩, fun f' => ⟨f', trivial⟩⟩
  · simp only [h1, h2]
    have := entryEnv_rel d.ctx d'.ctx args hd.chis
    cases h3 : (entryEnv d.ctx args : Except Why CEnv) <;>
      cases h4 : (entryEnv d'.ctx args : Except Why FEnv) <;> simp only [h3, h4, ExRel] at this ⊢
    · subst this
      exact ⟨fun f => ⟨f, Nat.le_refl _, rfl⟩, fun f' => ⟨f', rfl⟩⟩
    · obtain ⟨he, hk1, hk2⟩ := this
      have hS : SRel ⟨d.body, _, [], 0⟩ ⟨d'.body, _, []⟩ :=
        ⟨rfl, he, by simpa only [hk1, hk2] using hd.code⟩
      exact ⟨fun f => sim_fwd hP f _ _ hS, fun f' => sim_bwd hP f' _ _ hS⟩

end FocusSim
end Scc.Core
