/-
  Scc.Core.SizeUniquify — C19 for `uniquify` (first half of `Prog::focus`): the node count of
  Scc.Fun2Core.Size (`termSize` / `stmtSize` / `defSize` / `progSize`, the measure in which the bound
  of fun2core is stated) is preserved EXACTLY: uniquify only renames binders (substitution of
  variables for variables) and keeps every context at its length.   Proof file.
-/
import Scc.Core.Uniquify
import Scc.Fun2Core.Size

namespace Scc.Core.SizeUniquify

open Scc.Fun2Core (termSize argsSize clausesSize stmtSize defSize defsSize progSize)

theorem Subst.allVars_find_termSize {σ : Subst} (h : σ.allVars = true) {v : Ident} {t : Term}
    (hf : substFind σ v = some t) : termSize t = 1 := by
  induction σ with
  | nil => simp [substFind] at hf
  | cons e r ih =>
    obtain ⟨w, u⟩ := e
    cases u <;> simp [Subst.allVars] at h
    simp only [substFind] at hf
    split at hf
    · cases hf; simp [termSize]
    · exact ih h hf

mutual
  theorem termSize_substTerm (ps cs : Subst) (hp : ps.allVars = true) (hc : cs.allVars = true) :
      (t : Term) → termSize (substTerm ps cs t) = termSize t
    | .var .prd v ty => by
      simp only [substTerm]
      split
      · rfl
      · next h => simp [Subst.allVars_find_termSize hp h, termSize]
    | .var .cns v ty => by
      simp only [substTerm]
      split
      · rfl
      · next h => simp [Subst.allVars_find_termSize hc h, termSize]
    | .lit n => by simp [substTerm]
    | .op a o b => by
      simp [substTerm, termSize, termSize_substTerm ps cs hp hc a, termSize_substTerm ps cs hp hc b]
    | .mu pc v ty s => by
      simp [substTerm, termSize,
        stmtSize_substStmt _ _ (Subst.allVars_remove hp v) (Subst.allVars_remove hc v) s]
    | .xtor pc n as ty => by simp [substTerm, termSize, argsSize_substArgs ps cs hp hc as]
    | .xcase pc ty cl => by simp [substTerm, termSize, clausesSize_substClauses ps cs hp hc cl]
  theorem argsSize_substArgs (ps cs : Subst) (hp : ps.allVars = true) (hc : cs.allVars = true) :
      (as : Args) → argsSize (substArgs ps cs as) = argsSize as
    | .nil => by simp [substArgs]
    | .cons pc t r => by
      simp [substArgs, argsSize, termSize_substTerm ps cs hp hc t, argsSize_substArgs ps cs hp hc r]
  theorem clausesSize_substClauses (ps cs : Subst) (hp : ps.allVars = true) (hc : cs.allVars = true) :
      (cl : Clauses) → clausesSize (substClauses ps cs cl) = clausesSize cl
    | .nil => by simp [substClauses]
    | .cons x ctx b r => by
      simp [substClauses, clausesSize, clausesSize_substClauses ps cs hp hc r,
        stmtSize_substStmt _ _ (Subst.allVars_removeCtx hp ctx) (Subst.allVars_removeCtx hc ctx) b]
  theorem stmtSize_substStmt (ps cs : Subst) (hp : ps.allVars = true) (hc : cs.allVars = true) :
      (s : Stmt) → stmtSize (substStmt ps cs s) = stmtSize s
    | .cut ty p c => by
      simp [substStmt, stmtSize, termSize_substTerm ps cs hp hc p, termSize_substTerm ps cs hp hc c]
    | .ifc srt a b t e => by
      simp [substStmt, stmtSize, termSize_substTerm ps cs hp hc a, termSize_substTerm ps cs hp hc b,
        stmtSize_substStmt ps cs hp hc t, stmtSize_substStmt ps cs hp hc e]
    | .ifz srt a t e => by
      simp [substStmt, stmtSize, termSize_substTerm ps cs hp hc a,
        stmtSize_substStmt ps cs hp hc t, stmtSize_substStmt ps cs hp hc e]
    | .print nl a n => by
      simp [substStmt, stmtSize, termSize_substTerm ps cs hp hc a, stmtSize_substStmt ps cs hp hc n]
    | .call f as ty => by simp [substStmt, stmtSize, argsSize_substArgs ps cs hp hc as]
    | .exit a ty => by simp [substStmt, stmtSize, termSize_substTerm ps cs hp hc a]
end

theorem stmtSize_substIfAny (ps cs : Subst) (hp : ps.allVars = true) (hc : cs.allVars = true)
    (s : Stmt) : stmtSize (substIfAny ps cs s) = stmtSize s := by
  unfold substIfAny; split
  · rfl
  · exact stmtSize_substStmt ps cs hp hc s

theorem uniquifyCtx_ctx_length (c : Ctx) (n : Nat) : (uniquifyCtx c n).ctx.length = c.length := by
  induction c generalizing n with
  | nil => simp [uniquifyCtx]
  | cons b r ih =>
    simp only [uniquifyCtx, freshIdentifier]
    split
    · split <;> simp [ih]
    · simp [ih]

private def m1 (t : Term) (n : Nat) : Prop := termSize (uniquifyTerm t n).1 = termSize t
private def m2 (cl : Clauses) (n : Nat) : Prop := clausesSize (uniquifyClauses cl n).1 = clausesSize cl
private def m3 (s : Stmt) (n : Nat) : Prop := stmtSize (uniquifyStmt s n).1 = stmtSize s
private def m4 (as : Args) (n : Nat) : Prop := argsSize (uniquifyArgs as n).1 = argsSize as

/-- uniquify preserves the node count of a statement exactly -/
theorem uniquifyStmt_size (s : Stmt) (n : Nat) : stmtSize (uniquifyStmt s n).1 = stmtSize s := by
  show m3 s n
  apply uniquifyStmt.induct (motive1 := m1) (motive2 := m2) (motive3 := m3) (motive4 := m4)
  -- uniquifyTerm
  · intro n pc v ty; simp [m1, uniquifyTerm]
  · intro n k; simp [m1, uniquifyTerm]
  · intro n a o b a' n1 ha b' n2 hb iha ihb
    simp only [m1] at *
    rw [ha] at iha; rw [hb] at ihb
    simp only [uniquifyTerm, ha, hb, termSize] at *; omega
  · intro n v ty s hv newVar n1 hfresh s' n2 hs ih
    simp only [m1, m3] at *
    rw [hs, stmtSize_substStmt _ _ (by simp [Subst.allVars]) (by simp [Subst.allVars])] at ih
    simp only [uniquifyTerm, hv, hfresh, hs, if_true, termSize] at *; omega
  · intro n v ty s hv newVar n1 hfresh s' n2 hs ih
    simp only [m1, m3] at *
    rw [hs, stmtSize_substStmt _ _ (by simp [Subst.allVars]) (by simp [Subst.allVars])] at ih
    simp only [uniquifyTerm, hv, hfresh, hs, if_true, termSize] at *; omega
  · intro n pc v ty s hv s' n2 hs ih
    simp only [m1, m3] at *
    rw [hs] at ih
    simp only [uniquifyTerm, hv, hs, if_false, termSize] at *; omega
  · intro n pc name as ty as' n1 has ih
    simp only [m1, m4] at *
    rw [has] at ih
    simp only [uniquifyTerm, has, termSize] at *; omega
  · intro n pc ty cs cl' n1 hcl ih
    simp only [m1, m2] at *
    rw [hcl] at ih
    simp only [uniquifyTerm, hcl, termSize] at *; omega
  -- uniquifyClauses
  · intro n; simp [m2, uniquifyClauses]
  · intro n x ctx b r u s' n2 hs cl' n1 hr ihb ihr
    simp only [m2, m3, u] at *
    rw [hs, stmtSize_substIfAny _ _ (uniquifyCtx_allVars ctx n).1 (uniquifyCtx_allVars ctx n).2] at ihb
    rw [hr] at ihr
    simp only [uniquifyClauses, hs, hr, clausesSize, uniquifyCtx_ctx_length] at *; omega
  -- uniquifyStmt
  · intro n ty p c p' n1 hp c' n2 hc ihp ihc
    simp only [m1, m3] at *
    rw [hp] at ihp; rw [hc] at ihc
    simp only [uniquifyStmt, hp, hc, stmtSize] at *; omega
  · intro n srt a b t e a' n1 ha b' n2 hb t' n3 ht e' n4 he iha ihb iht ihe
    simp only [m1, m3] at *
    rw [ha] at iha; rw [hb] at ihb; rw [ht] at iht; rw [he] at ihe
    simp only [uniquifyStmt, ha, hb, ht, he, stmtSize] at *; omega
  · intro n srt a t e a' n1 ha t' n2 ht e' n3 he iha iht ihe
    simp only [m1, m3] at *
    rw [ha] at iha; rw [ht] at iht; rw [he] at ihe
    simp only [uniquifyStmt, ha, ht, he, stmtSize] at *; omega
  · intro n nl a nx a' n1 ha nx' n2 hnx iha ihnx
    simp only [m1, m3] at *
    rw [ha] at iha; rw [hnx] at ihnx
    simp only [uniquifyStmt, ha, hnx, stmtSize] at *; omega
  · intro n f as ty as' n1 has ih
    simp only [m3, m4] at *
    rw [has] at ih
    simp only [uniquifyStmt, has, stmtSize] at *; omega
  · intro n a ty a' n1 ha ih
    simp only [m1, m3] at *
    rw [ha] at ih
    simp only [uniquifyStmt, ha, stmtSize] at *; omega
  -- uniquifyArgs
  · intro n; simp [m4, uniquifyArgs]
  · intro n pc t r t' n1 ht r' n2 hr iht ihr
    simp only [m1, m4] at *
    rw [ht] at iht; rw [hr] at ihr
    simp only [uniquifyArgs, ht, hr, argsSize] at *; omega

theorem uniquifyDef_size (d : Def) (n : Nat) : defSize (uniquifyDef d n).1 = defSize d := by
  simp only [uniquifyDef, defSize, uniquifyCtx_ctx_length, uniquifyStmt_size,
    stmtSize_substIfAny _ _ (uniquifyCtx_allVars d.ctx n).1 (uniquifyCtx_allVars d.ctx n).2]

theorem uniquifyDef_ctx_length (d : Def) (n : Nat) :
    (uniquifyDef d n).1.ctx.length = d.ctx.length := by
  simp only [uniquifyDef, uniquifyCtx_ctx_length]

theorem uniquifyDefs_size (ds : List Def) (n : Nat) :
    defsSize (uniquifyDefs ds n).1 = defsSize ds := by
  induction ds generalizing n with
  | nil => simp [uniquifyDefs, defsSize]
  | cons d r ih => simp only [uniquifyDefs, defsSize, uniquifyDef_size, ih]

/-- C19, uniquify: the size of the program is preserved exactly -/
theorem uniquifyProg_size (p : Prog) : progSize (uniquifyProg p) = progSize p := by
  simp only [uniquifyProg, progSize, uniquifyDefs_size]

theorem uniquifyProg_types (p : Prog) :
    (uniquifyProg p).dataTypes = p.dataTypes ∧ (uniquifyProg p).codataTypes = p.codataTypes := by
  simp [uniquifyProg]

theorem uniquifyDefs_ctx_lengths (ds : List Def) (n : Nat) :
    (uniquifyDefs ds n).1.map (·.ctx.length) = ds.map (·.ctx.length) := by
  induction ds generalizing n with
  | nil => simp [uniquifyDefs]
  | cons d r ih => simp only [uniquifyDefs, List.map_cons, uniquifyDef_ctx_length, ih]

end Scc.Core.SizeUniquify
