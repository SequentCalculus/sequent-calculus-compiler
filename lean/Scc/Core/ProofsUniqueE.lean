/-
  Scc.Core.ProofsUniqueE — C03 "unique binders": the final assembly.
  `focusProg_uniqueBinders`: for every program whose binders all have id 0 and whose variable
  occurrences have ids `≤ maxId` (in particular for every fun2core output: all ids 0), every
  definition of `focusProg p` satisfies `UniqueBindersGlobal` and `UniqueBinders`.
-/
import Scc.Core.ProofsUniqueC
import Scc.Core.ProofsUniqueD
import Scc.Core.ProofsScopeB
import Scc.Core.ProofsScopeC

namespace Scc.Core

/-! ## every occurrence is free, bound outside, or bound by a binder of the term -/

mutual
  theorem FsTerm.occ_cases : (t : FsTerm) → (B : List Nat) →
      ∀ i ∈ t.occIds, i ∈ t.freeIds B ∨ i ∈ B ∨ i ∈ t.binderIds
    | .var _ v _, B => by
      intro i; simp only [FsTerm.occIds, FsTerm.freeIds, mem_unbound]; grind
    | .lit _, _ => by simp [FsTerm.occIds]
    | .op a _ b, B => by
      intro i; simp only [FsTerm.occIds, FsTerm.freeIds, mem_unbound]; grind
    | .mu _ v _ s, B => by
      intro i hi
      have := FsStmt.occ_cases s (v.id :: B) i hi
      simp only [FsTerm.freeIds, FsTerm.binderIds, List.mem_cons] at *
      grind
    | .xtor _ _ as _, B => by
      intro i; simp only [FsTerm.occIds, FsTerm.freeIds, mem_unbound]; grind
    | .xcase _ _ cl, B => by
      intro i hi
      simpa only [FsTerm.freeIds, FsTerm.binderIds] using FsClauses.occ_cases cl B i hi
  theorem FsClauses.occ_cases : (cl : FsClauses) → (B : List Nat) →
      ∀ i ∈ cl.occIds, i ∈ cl.freeIds B ∨ i ∈ B ∨ i ∈ cl.binderIds
    | .nil, _ => by simp [FsClauses.occIds]
    | .cons _ ctx b r, B => by
      intro i hi
      simp only [FsClauses.occIds, List.mem_append] at hi
      have := FsStmt.occ_cases b (ctxIds ctx ++ B) i
      have := FsClauses.occ_cases r B i
      simp only [FsClauses.freeIds, FsClauses.binderIds, List.mem_append] at *
      grind
  theorem FsStmt.occ_cases : (s : FsStmt) → (B : List Nat) →
      ∀ i ∈ s.occIds, i ∈ s.freeIds B ∨ i ∈ B ∨ i ∈ s.binderIds
    | .cut _ p c, B => by
      intro i hi
      simp only [FsStmt.occIds, List.mem_append] at hi
      have := FsTerm.occ_cases p B i
      have := FsTerm.occ_cases c B i
      simp only [FsStmt.freeIds, FsStmt.binderIds, List.mem_append] at *
      grind
    | .ifc _ a (some b) t e, B => by
      intro i hi
      simp only [FsStmt.occIds, List.mem_cons, List.mem_append] at hi
      have := FsStmt.occ_cases t B i
      have := FsStmt.occ_cases e B i
      simp only [FsStmt.freeIds, FsStmt.binderIds, List.mem_append, mem_unbound, List.mem_cons,
        List.not_mem_nil, or_false] at *
      grind
    | .ifc _ a none t e, B => by
      intro i hi
      simp only [FsStmt.occIds, List.mem_cons, List.mem_append] at hi
      have := FsStmt.occ_cases t B i
      have := FsStmt.occ_cases e B i
      simp only [FsStmt.freeIds, FsStmt.binderIds, List.mem_append, mem_unbound, List.mem_cons,
        List.not_mem_nil, or_false] at *
      grind
    | .print _ a n, B => by
      intro i hi
      simp only [FsStmt.occIds, List.mem_cons] at hi
      have := FsStmt.occ_cases n B i
      simp only [FsStmt.freeIds, FsStmt.binderIds, List.mem_append, mem_unbound, List.mem_cons,
        List.not_mem_nil, or_false] at *
      grind
    | .call _ as, B => by
      intro i; simp only [FsStmt.occIds, FsStmt.freeIds, mem_unbound]; grind
    | .exit a, B => by
      intro i; simp only [FsStmt.occIds, FsStmt.freeIds, mem_unbound]; grind
end

/-- precondition of C03 (occurrences): every variable occurrence has an id `≤ maxId`
    (fun2core output: all ids are 0) -/
def Prog.OccsOld (p : Prog) : Prop := ∀ d ∈ p.defs, ∀ i ∈ d.body.occIds, i ≤ p.maxId

theorem uniquifyDefs_scoped (m0 : Nat) (ds : List Def) (n : Nat)
    (hz : ∀ d ∈ ds, ∀ b ∈ d.ids, b = 0) (ho : ∀ d ∈ ds, ∀ i ∈ d.body.occIds, i ≤ m0) :
    ∀ d' ∈ (uniquifyDefs ds n).1, ∀ i ∈ d'.body.freeIds (ctxIds d'.ctx), i ≤ m0 := by
  induction ds generalizing n with
  | nil => simp [uniquifyDefs]
  | cons d r ih =>
    have h1 := uniquifyDef_scoped m0 d n (hz d (by simp)) (ho d (by simp))
    have h2 := ih (uniquifyDef d n).2 (fun d' hd' => hz d' (by simp [hd']))
      (fun d' hd' => ho d' (by simp [hd']))
    simp only [uniquifyDefs, List.mem_cons, forall_eq_or_imp]
    exact ⟨h1, h2⟩

theorem focusDefs_scoped (m0 : Nat) (ds : List Def) (n : Nat)
    (h : ∀ d ∈ ds, ∀ i ∈ d.body.freeIds (ctxIds d.ctx), i ≤ m0) :
    ∀ d' ∈ (focusDefs ds n).1, ∀ i ∈ d'.body.freeIds (ctxIds d'.ctx), i ≤ m0 := by
  induction ds generalizing n with
  | nil => simp [focusDefs]
  | cons d r ih =>
    have h1 := focusStmt_scoped m0 d.body n (ctxIds d.ctx) (h d (by simp))
    have h2 := ih (focusDef d n).2 (fun d' hd' => h d' (by simp [hd']))
    simp only [focusDefs, List.mem_cons, forall_eq_or_imp]
    exact ⟨by simpa only [focusDef] using h1, h2⟩

theorem focusProg_scoped (p : Prog) (hz : p.BindersZero) (ho : p.OccsOld) :
    ∀ d ∈ (focusProg p).defs, ∀ i ∈ d.body.freeIds (ctxIds d.ctx), i ≤ p.maxId := by
  have h1 := uniquifyDefs_scoped p.maxId p.defs p.maxId hz ho
  have h2 := focusDefs_scoped p.maxId (uniquifyDefs p.defs p.maxId).1
    (uniquifyDefs p.defs p.maxId).2 h1
  simpa only [focusProg, focusOnly, uniquifyProg] using h2

/-- C03, second sentence (global form): in every definition of `focusProg p` all parameters and
    binders are pairwise distinct, no binder is a free name, every id is `≤ maxId` -/
theorem focusProg_uniqueBindersGlobal (p : Prog) (hz : p.BindersZero) (ho : p.OccsOld) :
    ∀ d ∈ (focusProg p).defs, UniqueBindersGlobal (focusProg p).maxId d := by
  intro d hd
  obtain ⟨hle, hw⟩ := focusProg_binders p hz
  have hw := hw d hd
  have hf := focusProg_scoped p hz ho d hd
  unfold Within FsDef.ids at hw
  refine ⟨hw.1, ?_, ?_⟩
  · intro i hi hb
    have := hf i hi
    have := hw.2 i (by simp [hb])
    omega
  · intro i hi
    simp only [List.mem_append] at hi
    rcases hi with hi | hi
    · exact (hw.2 i (by simpa only [List.mem_append] using hi)).2
    · rcases FsStmt.occ_cases d.body (ctxIds d.ctx) i hi with h | h | h
      · have := hf i h; omega
      · exact (hw.2 i (by simp [h])).2
      · exact (hw.2 i (by simp [h])).2

theorem focusProg_uniqueBinders (p : Prog) (hz : p.BindersZero) (ho : p.OccsOld) :
    ∀ d ∈ (focusProg p).defs, UniqueBinders (focusProg p).maxId d :=
  fun d hd => uniqueBinders_of_global (focusProg_uniqueBindersGlobal p hz ho d hd)

end Scc.Core
