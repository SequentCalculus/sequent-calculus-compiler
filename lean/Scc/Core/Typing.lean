/-
  Scc.Core.Typing — a (simple, executable) type checker for unfocused Core programs, the typing
  notion of C03 ("for every well-typed Core program ...") and of the typing links of C12.  core_lang has no checker of its own; the
  rules are the standard ones of the sequent calculus with the declarations of the program:
  a context is a list of bindings (first match wins, like the machine's environments), one
  namespace for variables and covariables.   Core imports only; executable.
-/
import Scc.Core.Syntax

namespace Scc.Core

def lookupBinding : Ctx → Ident → Option Binding
  | [], _ => none
  | b :: r, v => if b.var = v then some b else lookupBinding r v

def findDecl (ds : List TypeDecl) (T : Ident) : Option TypeDecl := ds.find? fun d => d.name = T

def findSig (sigs : List XtorSig) (x : Ident) : Option XtorSig := sigs.find? fun s => s.name = x

def PC.flip : PC → PC
  | .prd => .cns
  | .cns => .prd

/-- same length, same chiralities and types (names are the clause's own) -/
def ctxMatches : Ctx → Ctx → Bool
  | [], [] => true
  | a :: as, b :: bs => a.chi == b.chi && a.ty == b.ty && ctxMatches as bs
  | _, _ => false

mutual
  /-- `t` is a term of chirality `pc` and type `ty` in context `Γ` -/
  def Term.check (P : Prog) (Γ : Ctx) (pc : PC) (ty : Ty) : Term → Bool
    | .var pc' v ty' =>
      pc' == pc && ty' == ty &&
        (match lookupBinding Γ v with
         | some b => b.chi == pc && b.ty == ty
         | none => false)
    | .lit _ => pc == .prd && ty == .i64
    | .op a _ b => pc == .prd && ty == .i64 && a.check P Γ .prd .i64 && b.check P Γ .prd .i64
    | .mu pc' v ty' s => pc' == pc && ty' == ty && s.check P (⟨v, pc.flip, ty⟩ :: Γ)
    | .xtor pc' name as ty' =>
      pc' == pc && ty' == ty &&
        (match ty with
         | .i64 => false
         | .decl T =>
           match findDecl (if pc == .prd then P.dataTypes else P.codataTypes) T with
           | none => false
           | some d =>
             match findSig d.xtors name with
             | none => false
             | some sig => as.check P Γ sig.args)
    | .xcase pc' ty' cl =>
      pc' == pc && ty' == ty &&
        (match ty with
         | .i64 => false
         | .decl T =>
           match findDecl (if pc == .prd then P.codataTypes else P.dataTypes) T with
           | none => false
           | some d => cl.check P Γ d.xtors && cl.covers d.xtors)
  def Args.check (P : Prog) (Γ : Ctx) : Args → Ctx → Bool
    | .nil, [] => true
    | .cons pc t r, b :: bs => pc == b.chi && t.check P Γ pc b.ty && r.check P Γ bs
    | _, _ => false
  /-- every clause is for an xtor of the type, with matching parameters, and its body is typed -/
  def Clauses.check (P : Prog) (Γ : Ctx) : Clauses → List XtorSig → Bool
    | .nil, _ => true
    | .cons x ctx b r, sigs =>
      (match findSig sigs x with
       | none => false
       | some sig => ctxMatches ctx sig.args) &&
      b.check P (ctx ++ Γ) && r.check P Γ sigs
  /-- every xtor of the type has a clause -/
  def Clauses.covers : Clauses → List XtorSig → Bool
    | _, [] => true
    | cl, s :: r => cl.has s.name && cl.covers r
  def Clauses.has : Clauses → Ident → Bool
    | .nil, _ => false
    | .cons x _ _ r, k => x == k || r.has k
  def Stmt.check (P : Prog) (Γ : Ctx) : Stmt → Bool
    | .cut ty p c => p.check P Γ .prd ty && c.check P Γ .cns ty
    | .ifc _ a b t e =>
      a.check P Γ .prd .i64 && b.check P Γ .prd .i64 && t.check P Γ && e.check P Γ
    | .ifz _ a t e => a.check P Γ .prd .i64 && t.check P Γ && e.check P Γ
    | .print _ a n => a.check P Γ .prd .i64 && n.check P Γ
    | .call f as _ =>
      (match P.defs.find? (fun d => d.name = f) with
       | none => false
       | some d => as.check P Γ d.ctx)
    | .exit a _ => a.check P Γ .prd .i64
end

/-- a well-typed Core program -/
def Prog.wellTyped (P : Prog) : Bool := P.defs.all fun d => d.body.check P d.ctx

/-- line interface: Core dump text ↦ `OK true` / `OK false` -/
def runLineWellTyped (dump : String) : String :=
  match Sexp.parse dump with
  | none => "ERR sexp"
  | some sx =>
    match readProg (dump.length + 10) sx with
    | none => "ERR read"
    | some p => "OK " ++ toString p.wellTyped

end Scc.Core
