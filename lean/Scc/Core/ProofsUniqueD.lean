/-
  Scc.Core.ProofsUniqueD — proof side of C03 "unique binders", part D:
  global distinctness implies distinctness along every path (`uniqueBinders_of_global`),
  soundness of the executable checker (`uniqueBindersCheck_sound`).
-/
import Scc.Core.Unique

namespace Scc.Core

theorem nodupB_iff (l : List Nat) : nodupB l = true ↔ l.Nodup := by
  induction l with
  | nil => simp [nodupB]
  | cons a l ih => simp [nodupB, ih, List.nodup_cons]

mutual
  theorem FsTerm.uniquePath_of_nodup : (t : FsTerm) → (seen : List Nat) → t.binderIds.Nodup →
      (∀ b ∈ t.binderIds, b ∉ seen) → t.UniquePath seen
    | .var _ _ _, _, _, _ => by simp [FsTerm.UniquePath]
    | .lit _, _, _, _ => by simp [FsTerm.UniquePath]
    | .op _ _ _, _, _, _ => by simp [FsTerm.UniquePath]
    | .xtor _ _ _ _, _, _, _ => by simp [FsTerm.UniquePath]
    | .mu _ v _ s, seen, hn, hs => by
      simp only [FsTerm.binderIds, List.nodup_cons, List.mem_cons] at hn hs
      simp only [FsTerm.UniquePath]
      refine ⟨hs _ (Or.inl rfl), FsStmt.uniquePath_of_nodup s _ hn.2 ?_⟩
      intro b hb
      simp only [List.mem_cons, not_or]
      exact ⟨fun h => hn.1 (h ▸ hb), hs b (Or.inr hb)⟩
    | .xcase _ _ cl, seen, hn, hs => by
      simp only [FsTerm.binderIds] at hn hs
      simp only [FsTerm.UniquePath]
      exact FsClauses.uniquePath_of_nodup cl seen hn hs
  theorem FsClauses.uniquePath_of_nodup : (cl : FsClauses) → (seen : List Nat) →
      cl.binderIds.Nodup → (∀ b ∈ cl.binderIds, b ∉ seen) → cl.UniquePath seen
    | .nil, _, _, _ => by simp [FsClauses.UniquePath]
    | .cons _ ctx b r, seen, hn, hs => by
      simp only [FsClauses.binderIds, List.nodup_append, List.mem_append] at hn hs
      simp only [FsClauses.UniquePath]
      refine ⟨hn.1.1, fun i hi => hs i (Or.inl (Or.inl hi)),
        FsStmt.uniquePath_of_nodup b _ hn.1.2.1 ?_,
        FsClauses.uniquePath_of_nodup r seen hn.2.1 (fun i hi => hs i (Or.inr hi))⟩
      intro i hi
      simp only [List.mem_append, not_or]
      exact ⟨fun h => hn.1.2.2 i h i hi rfl, hs i (Or.inl (Or.inr hi))⟩
  theorem FsStmt.uniquePath_of_nodup : (s : FsStmt) → (seen : List Nat) → s.binderIds.Nodup →
      (∀ b ∈ s.binderIds, b ∉ seen) → s.UniquePath seen
    | .cut _ p c, seen, hn, hs => by
      simp only [FsStmt.binderIds, List.nodup_append, List.mem_append] at hn hs
      simp only [FsStmt.UniquePath]
      exact ⟨FsTerm.uniquePath_of_nodup p seen hn.1 (fun i hi => hs i (Or.inl hi)),
        FsTerm.uniquePath_of_nodup c seen hn.2.1 (fun i hi => hs i (Or.inr hi))⟩
    | .ifc _ _ _ t e, seen, hn, hs => by
      simp only [FsStmt.binderIds, List.nodup_append, List.mem_append] at hn hs
      simp only [FsStmt.UniquePath]
      exact ⟨FsStmt.uniquePath_of_nodup t seen hn.1 (fun i hi => hs i (Or.inl hi)),
        FsStmt.uniquePath_of_nodup e seen hn.2.1 (fun i hi => hs i (Or.inr hi))⟩
    | .print _ _ n, seen, hn, hs => by
      simp only [FsStmt.binderIds] at hn hs
      simp only [FsStmt.UniquePath]
      exact FsStmt.uniquePath_of_nodup n seen hn hs
    | .call _ _, _, _, _ => by simp [FsStmt.UniquePath]
    | .exit _, _, _, _ => by simp [FsStmt.UniquePath]
end

/-- distinctness of all binders implies distinctness along every path -/
theorem uniqueBinders_of_global {m : Nat} {d : FsDef} (h : UniqueBindersGlobal m d) :
    UniqueBinders m d := by
  obtain ⟨hn, hf, hle⟩ := h
  simp only [List.nodup_append] at hn
  refine ⟨hn.1, FsStmt.uniquePath_of_nodup _ _ hn.2.1 ?_, hle⟩
  intro b hb
  simp only [List.mem_append, not_or]
  exact ⟨fun h => hn.2.2 b h b hb rfl, fun h => hf b h hb⟩

theorem uniqueBindersCheckDef_sound {m : Nat} {d : FsDef} (h : uniqueBindersCheckDef m d = true) :
    UniqueBindersGlobal m d := by
  simp only [uniqueBindersCheckDef, Bool.and_eq_true, nodupB_iff, List.all_eq_true,
    Bool.not_eq_true', decide_eq_true_eq] at h
  refine ⟨h.1.1, fun i hi hb => ?_, h.2⟩
  have := h.1.2 i hi
  simp [hb] at this

theorem uniqueBindersCheck_sound {p : FsProg} (h : uniqueBindersCheck p = true) :
    ∀ d ∈ p.defs, UniqueBindersGlobal p.maxId d ∧ UniqueBinders p.maxId d := by
  intro d hd
  simp only [uniqueBindersCheck, List.all_eq_true] at h
  have := uniqueBindersCheckDef_sound (h d hd)
  exact ⟨this, uniqueBinders_of_global this⟩

end Scc.Core
