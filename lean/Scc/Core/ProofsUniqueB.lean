/-
  Scc.Core.ProofsUniqueB — proof side of C03 "unique binders", part B:
  `uniquify` on a program whose binders all have id 0 gives every binder a new id from the counter
  interval, all distinct (`uniquifyStmt_fresh`, `uniquifyDef_fresh`).
-/
import Scc.Core.ProofsUniqueA

namespace Scc.Core

/-! ## variable-for-variable substitution does not touch binders -/

theorem Subst.allVars_find_var {σ : Subst} (h : σ.allVars = true) {v : Ident} {t : Term}
    (hf : substFind σ v = some t) : ∃ pc w ty, t = .var pc w ty := by
  induction σ with
  | nil => simp [substFind] at hf
  | cons e r ih =>
    obtain ⟨w, u⟩ := e
    cases u <;> simp [Subst.allVars] at h
    simp only [substFind] at hf
    split at hf
    · cases hf; exact ⟨_, _, _, rfl⟩
    · exact ih h hf

mutual
  theorem binderIds_substTerm (ps cs : Subst) (hp : ps.allVars = true) (hc : cs.allVars = true) :
      (t : Term) → (substTerm ps cs t).binderIds = t.binderIds
    | .var .prd v ty => by
      simp only [substTerm]
      split
      · rfl
      · next h =>
        obtain ⟨_, _, _, rfl⟩ := Subst.allVars_find_var hp h
        simp [Term.binderIds]
    | .var .cns v ty => by
      simp only [substTerm]
      split
      · rfl
      · next h =>
        obtain ⟨_, _, _, rfl⟩ := Subst.allVars_find_var hc h
        simp [Term.binderIds]
    | .lit n => by simp [substTerm]
    | .op a o b => by
      simp [substTerm, Term.binderIds, binderIds_substTerm ps cs hp hc a,
        binderIds_substTerm ps cs hp hc b]
    | .mu pc v ty s => by
      simp [substTerm, Term.binderIds,
        binderIds_substStmt _ _ (Subst.allVars_remove hp v) (Subst.allVars_remove hc v) s]
    | .xtor pc n as ty => by simp [substTerm, Term.binderIds, binderIds_substArgs ps cs hp hc as]
    | .xcase pc ty cl => by simp [substTerm, Term.binderIds, binderIds_substClauses ps cs hp hc cl]
  theorem binderIds_substArgs (ps cs : Subst) (hp : ps.allVars = true) (hc : cs.allVars = true) :
      (as : Args) → (substArgs ps cs as).binderIds = as.binderIds
    | .nil => by simp [substArgs]
    | .cons pc t r => by
      simp [substArgs, Args.binderIds, binderIds_substTerm ps cs hp hc t,
        binderIds_substArgs ps cs hp hc r]
  theorem binderIds_substClauses (ps cs : Subst) (hp : ps.allVars = true) (hc : cs.allVars = true) :
      (cl : Clauses) → (substClauses ps cs cl).binderIds = cl.binderIds
    | .nil => by simp [substClauses]
    | .cons x ctx b r => by
      simp [substClauses, Clauses.binderIds, binderIds_substClauses ps cs hp hc r,
        binderIds_substStmt _ _ (Subst.allVars_removeCtx hp ctx) (Subst.allVars_removeCtx hc ctx) b]
  theorem binderIds_substStmt (ps cs : Subst) (hp : ps.allVars = true) (hc : cs.allVars = true) :
      (s : Stmt) → (substStmt ps cs s).binderIds = s.binderIds
    | .cut ty p c => by
      simp [substStmt, Stmt.binderIds, binderIds_substTerm ps cs hp hc p,
        binderIds_substTerm ps cs hp hc c]
    | .ifc srt a b t e => by
      simp [substStmt, Stmt.binderIds, binderIds_substTerm ps cs hp hc a,
        binderIds_substTerm ps cs hp hc b, binderIds_substStmt ps cs hp hc t,
        binderIds_substStmt ps cs hp hc e]
    | .ifz srt a t e => by
      simp [substStmt, Stmt.binderIds, binderIds_substTerm ps cs hp hc a,
        binderIds_substStmt ps cs hp hc t, binderIds_substStmt ps cs hp hc e]
    | .print nl a n => by
      simp [substStmt, Stmt.binderIds, binderIds_substTerm ps cs hp hc a,
        binderIds_substStmt ps cs hp hc n]
    | .call f as ty => by simp [substStmt, Stmt.binderIds, binderIds_substArgs ps cs hp hc as]
    | .exit a ty => by simp [substStmt, Stmt.binderIds, binderIds_substTerm ps cs hp hc a]
end

theorem binderIds_substIfAny (ps cs : Subst) (hp : ps.allVars = true) (hc : cs.allVars = true)
    (s : Stmt) : (substIfAny ps cs s).binderIds = s.binderIds := by
  unfold substIfAny; split
  · rfl
  · exact binderIds_substStmt ps cs hp hc s

/-- `l` consists of pairwise distinct ids from the counter interval `(n, n']` -/
def Fresh (l : List Nat) (n n' : Nat) : Prop := n ≤ n' ∧ l.Nodup ∧ ∀ b ∈ l, n < b ∧ b ≤ n'

theorem Fresh.nil {n n'} (h : n ≤ n') : Fresh [] n n' := by simp [Fresh, h]

theorem Fresh.append {l1 l2 n n1 n2} (h1 : Fresh l1 n n1) (h2 : Fresh l2 n1 n2) :
    Fresh (l1 ++ l2) n n2 := by
  unfold Fresh at *
  simp only [List.nodup_append, List.mem_append] at *
  grind

theorem Fresh.cons {l n n'} (h : Fresh l (n + 1) n') : Fresh ((n + 1) :: l) n n' := by
  unfold Fresh at *
  simp only [List.nodup_cons, List.mem_cons] at *
  grind

theorem Fresh.le {l n n'} (h : Fresh l n n') : n ≤ n' := h.1

theorem uniquifyCtx_fresh (c : Ctx) (n : Nat) (hz : ∀ b ∈ ctxIds c, b = 0) :
    Fresh (ctxIds (uniquifyCtx c n).ctx) n (uniquifyCtx c n).maxId := by
  induction c generalizing n with
  | nil => simp [uniquifyCtx, ctxIds, Fresh]
  | cons b r ih =>
    have hb : b.var.id = 0 := hz _ (by simp [ctxIds])
    have hr : ∀ b ∈ ctxIds r, b = 0 := fun x hx => hz x (by simp [ctxIds] at hx ⊢; grind)
    have := ih (n + 1) hr
    simp only [uniquifyCtx, hb, freshIdentifier, if_true]
    split <;> simpa [ctxIds] using this.cons

private def u1 (t : Term) (n : Nat) : Prop :=
  (∀ b ∈ t.binderIds, b = 0) → Fresh (uniquifyTerm t n).1.binderIds n (uniquifyTerm t n).2
private def u2 (cl : Clauses) (n : Nat) : Prop :=
  (∀ b ∈ cl.binderIds, b = 0) → Fresh (uniquifyClauses cl n).1.binderIds n (uniquifyClauses cl n).2
private def u3 (s : Stmt) (n : Nat) : Prop :=
  (∀ b ∈ s.binderIds, b = 0) → Fresh (uniquifyStmt s n).1.binderIds n (uniquifyStmt s n).2
private def u4 (as : Args) (n : Nat) : Prop :=
  (∀ b ∈ as.binderIds, b = 0) → Fresh (uniquifyArgs as n).1.binderIds n (uniquifyArgs as n).2

theorem uniquifyStmt_fresh (s : Stmt) (n : Nat) : u3 s n := by
  apply uniquifyStmt.induct (motive1 := u1) (motive2 := u2) (motive3 := u3) (motive4 := u4)
  -- uniquifyTerm
  · intro n pc v ty _
    simp [uniquifyTerm, Term.binderIds, Fresh]
  · intro n k _
    simp [uniquifyTerm, Term.binderIds, Fresh]
  · intro n a o b a' n1 ha b' n2 hb iha ihb hz
    simp only [Term.binderIds, List.mem_append] at hz
    have h1 := iha (fun x hx => hz x (Or.inl hx))
    have h2 := ihb (fun x hx => hz x (Or.inr hx))
    rw [ha] at h1; rw [hb] at h2
    simp only [uniquifyTerm, ha, hb, Term.binderIds]
    exact h1.append h2
  · intro n v ty s hv newVar n1 hfresh s' n2 hs ih hz
    simp only [freshIdentifier, Prod.mk.injEq] at hfresh
    obtain ⟨rfl, rfl⟩ := hfresh
    simp only [Term.binderIds, List.mem_cons] at hz
    have h := ih (by
      rw [binderIds_substStmt _ _ (by simp [Subst.allVars]) (by simp [Subst.allVars])]
      exact fun x hx => hz x (Or.inr hx))
    rw [hs] at h
    simp only [uniquifyTerm, hv, freshIdentifier, hs, if_true, Term.binderIds]
    exact h.cons
  · intro n v ty s hv newVar n1 hfresh s' n2 hs ih hz
    simp only [freshIdentifier, Prod.mk.injEq] at hfresh
    obtain ⟨rfl, rfl⟩ := hfresh
    simp only [Term.binderIds, List.mem_cons] at hz
    have h := ih (by
      rw [binderIds_substStmt _ _ (by simp [Subst.allVars]) (by simp [Subst.allVars])]
      exact fun x hx => hz x (Or.inr hx))
    rw [hs] at h
    simp only [uniquifyTerm, hv, freshIdentifier, hs, if_true, Term.binderIds]
    exact h.cons
  · intro n pc v ty s hv s' n2 hs ih hz
    exact absurd (hz v.id (by simp [Term.binderIds])) hv
  · intro n pc name as ty as' n1 has ih hz
    simp only [Term.binderIds] at hz
    have h := ih hz
    rw [has] at h
    simpa only [uniquifyTerm, has, Term.binderIds] using h
  · intro n pc ty cs cl' n1 hcl ih hz
    simp only [Term.binderIds] at hz
    have h := ih hz
    rw [hcl] at h
    simpa only [uniquifyTerm, hcl, Term.binderIds] using h
  -- uniquifyClauses
  · intro n _
    simp [uniquifyClauses, Clauses.binderIds, Fresh]
  · intro n x ctx b r u s' n2 hs cl' n1 hr ihb ihr hz
    simp only [u] at hs ihb
    simp only [Clauses.binderIds, List.mem_append] at hz
    have h0 := uniquifyCtx_fresh ctx n (fun y hy => hz y (Or.inl (Or.inl hy)))
    have h1 := ihb (by
      rw [binderIds_substIfAny _ _ (uniquifyCtx_allVars ctx n).1 (uniquifyCtx_allVars ctx n).2]
      exact fun y hy => hz y (Or.inl (Or.inr hy)))
    have h2 := ihr (fun y hy => hz y (Or.inr hy))
    rw [hs] at h1; rw [hr] at h2
    simp only [uniquifyClauses, hs, hr, Clauses.binderIds]
    exact (h0.append h1).append h2
  -- uniquifyStmt
  · intro n ty p c p' n1 hp c' n2 hc ihp ihc hz
    simp only [Stmt.binderIds, List.mem_append] at hz
    have h1 := ihp (fun x hx => hz x (Or.inl hx))
    have h2 := ihc (fun x hx => hz x (Or.inr hx))
    rw [hp] at h1; rw [hc] at h2
    simp only [uniquifyStmt, hp, hc, Stmt.binderIds]
    exact h1.append h2
  · intro n srt a b t e a' n1 ha b' n2 hb t' n3 ht e' n4 he iha ihb iht ihe hz
    simp only [Stmt.binderIds, List.mem_append] at hz
    have h1 := iha (fun x hx => hz x (Or.inl (Or.inl (Or.inl hx))))
    have h2 := ihb (fun x hx => hz x (Or.inl (Or.inl (Or.inr hx))))
    have h3 := iht (fun x hx => hz x (Or.inl (Or.inr hx)))
    have h4 := ihe (fun x hx => hz x (Or.inr hx))
    rw [ha] at h1; rw [hb] at h2; rw [ht] at h3; rw [he] at h4
    simp only [uniquifyStmt, ha, hb, ht, he, Stmt.binderIds]
    exact ((h1.append h2).append h3).append h4
  · intro n srt a t e a' n1 ha t' n3 ht e' n4 he iha iht ihe hz
    simp only [Stmt.binderIds, List.mem_append] at hz
    have h1 := iha (fun x hx => hz x (Or.inl (Or.inl hx)))
    have h3 := iht (fun x hx => hz x (Or.inl (Or.inr hx)))
    have h4 := ihe (fun x hx => hz x (Or.inr hx))
    rw [ha] at h1; rw [ht] at h3; rw [he] at h4
    simp only [uniquifyStmt, ha, ht, he, Stmt.binderIds]
    exact (h1.append h3).append h4
  · intro n nl a nx a' n1 ha nx' n2 hn iha ihn hz
    simp only [Stmt.binderIds, List.mem_append] at hz
    have h1 := iha (fun x hx => hz x (Or.inl hx))
    have h2 := ihn (fun x hx => hz x (Or.inr hx))
    rw [ha] at h1; rw [hn] at h2
    simp only [uniquifyStmt, ha, hn, Stmt.binderIds]
    exact h1.append h2
  · intro n f as ty as' n1 has ih hz
    simp only [Stmt.binderIds] at hz
    have h := ih hz
    rw [has] at h
    simpa only [uniquifyStmt, has, Stmt.binderIds] using h
  · intro n a ty a' n1 ha ih hz
    simp only [Stmt.binderIds] at hz
    have h := ih hz
    rw [ha] at h
    simpa only [uniquifyStmt, ha, Stmt.binderIds] using h
  -- uniquifyArgs
  · intro n _
    simp [uniquifyArgs, Args.binderIds, Fresh]
  · intro n pc t r t' n1 ht r' n2 hr iht ihr hz
    simp only [Args.binderIds, List.mem_append] at hz
    have h1 := iht (fun x hx => hz x (Or.inl hx))
    have h2 := ihr (fun x hx => hz x (Or.inr hx))
    rw [ht] at h1; rw [hr] at h2
    simp only [uniquifyArgs, ht, hr, Args.binderIds]
    exact h1.append h2

theorem uniquifyDef_fresh (d : Def) (n : Nat)
    (hz : ∀ b ∈ ctxIds d.ctx ++ d.body.binderIds, b = 0) :
    Fresh (ctxIds (uniquifyDef d n).1.ctx ++ (uniquifyDef d n).1.body.binderIds) n
      (uniquifyDef d n).2 := by
  simp only [List.mem_append] at hz
  have h0 := uniquifyCtx_fresh d.ctx n (fun y hy => hz y (Or.inl hy))
  have h1 := uniquifyStmt_fresh
    (substIfAny (uniquifyCtx d.ctx n).varSubst (uniquifyCtx d.ctx n).covarSubst d.body)
    (uniquifyCtx d.ctx n).maxId (by
      rw [binderIds_substIfAny _ _ (uniquifyCtx_allVars d.ctx n).1 (uniquifyCtx_allVars d.ctx n).2]
      exact fun y hy => hz y (Or.inr hy))
  simp only [uniquifyDef]
  exact h0.append h1

end Scc.Core
