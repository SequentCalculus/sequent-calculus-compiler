/-
  Scc.X86.ConcMach — two generic facts about the x86-64 SPEC machine (Scc/X86/Machine.lean), for ANY program:
  * `maxHeapWritten ≤ heapBytes` is an invariant of `step` (a store outside the heap region faults): the
    highest heap address ever written lies inside the heap region;
  * MONOTONICITY IN THE HEAP SIZE: a transition that does not fault in a configuration with a SMALLER heap
    region (same base, same stack, heap below the stack) is the same transition in the larger configuration
    (`Sub c' c`); hence a run that ends with `done v` in the smaller heap is, state by state, the run in the
    larger heap, with the same `maxHeapWritten`.
-/
import Scc.X86.ProofsStep

namespace Scc.X86.Conc

structure Sub (c' c : MachCfg) : Prop where
  code : c'.codeBase = c.codeBase
  base : c'.heapBase = c.heapBase
  bytes : c'.heapBytes ≤ c.heapBytes
  low : c'.stackLow = c.stackLow
  top : c'.stackTop = c.stackTop
  below : c.heapBase + c.heapBytes ≤ c.stackLow

variable {c' c : MachCfg}

def MhwOK (c : MachCfg) (s : State) : Prop := s.maxHeapWritten ≤ c.heapBytes

theorem wrRaw_mhw {s s' : State} {r : Reg} {v : Option Word} (h : wrRaw s r v = .ok s') :
    s'.maxHeapWritten = s.maxHeapWritten := by
  unfold wrRaw at h
  split at h
  · cases h; rfl
  · cases h

theorem wr_mhw {s s' : State} {r : Reg} {v : Word} (h : wr s r v = .ok s') :
    s'.maxHeapWritten = s.maxHeapWritten := wrRaw_mhw h

theorem storeWordRaw_mhw {s s' : State} {a : Word} {v : Option Word} (h : storeWordRaw c s a v = .ok s')
    (hs : MhwOK c s) : MhwOK c s' := by
  unfold storeWordRaw at h
  dsimp only at h
  split at h
  · cases h
  · split at h
    · rename_i hin
      cases v with
      | none => cases h
      | some w =>
        cases h
        unfold MhwOK at *
        unfold inHeap at hin
        simp only [Bool.and_eq_true, decide_eq_true_eq] at hin
        show max s.maxHeapWritten _ ≤ _
        omega
    · split at h
      · cases h; exact hs
      · cases h

theorem writeLoc_mhw {s s' : State} {l : Loc} {v : Word} (h : writeLoc c s l v = .ok s') (hs : MhwOK c s) :
    MhwOK c s' := by
  cases l with
  | r r =>
    have := wr_mhw (show wr s r v = .ok s' from h)
    unfold MhwOK at *; omega
  | m b d =>
    simp only [writeLoc] at h
    cases he : ea s b d with
    | error e => rw [he] at h; cases h
    | ok a => rw [he] at h; exact storeWordRaw_mhw h hs

theorem alu_mhw {op : Word → Word → Word} {s s' : State} {dst : Loc} {src : Src}
    (h : alu c op s dst src = .ok s') (hs : MhwOK c s) : MhwOK c s' := by
  unfold alu at h
  cases h1 : readLoc c s dst with
  | error e => rw [h1] at h; cases h
  | ok a =>
    rw [h1] at h; dsimp only at h
    cases h2 : readSrc c s src with
    | error e => rw [h2] at h; cases h
    | ok b =>
      rw [h2] at h; dsimp only at h
      cases h3 : writeLoc c s dst (op a b) with
      | error e => rw [h3] at h; cases h
      | ok s1 =>
        rw [h3] at h; cases h
        have := writeLoc_mhw h3 hs
        exact this

theorem cmpOp_mhw {s s' : State} {a : Loc} {b : Src} (h : cmpOp c s a b = .ok s') (hs : MhwOK c s) :
    MhwOK c s' := by
  unfold cmpOp at h
  cases h1 : readLoc c s a with
  | error e => rw [h1] at h; cases h
  | ok x =>
    rw [h1] at h; dsimp only at h
    cases h2 : readSrc c s b with
    | error e => rw [h2] at h; cases h
    | ok y => rw [h2] at h; cases h; exact hs

theorem idivOp_mhw {s s' : State} {src : Loc} (h : idivOp c s src = .ok s') (hs : MhwOK c s) :
    MhwOK c s' := by
  unfold idivOp at h
  cases h1 : rd s 4 with
  | error e => rw [h1] at h; cases h
  | ok a =>
    cases h2 : rd s 5 with
    | error e => rw [h1, h2] at h; cases h
    | ok d =>
      cases h3 : readLoc c s src with
      | error e => rw [h1, h2, h3] at h; cases h
      | ok b =>
        rw [h1, h2, h3] at h
        dsimp only at h
        by_cases hd : d ≠ (if a.slt 0 then BitVec.ofInt 64 (-1) else 0)
        · rw [if_pos hd] at h; cases h
        · rw [if_neg hd] at h
          by_cases hb : b = 0
          · rw [if_pos hb] at h; cases h
          · rw [if_neg hb] at h
            by_cases ho : (a = minInt64 && b = BitVec.ofInt 64 (-1)) = true
            · rw [if_pos ho] at h; cases h
            · rw [if_neg ho] at h
              cases h4 : wr s 4 (a.sdiv b) with
              | error e => rw [h4] at h; cases h
              | ok s1 =>
                rw [h4] at h; dsimp only at h
                cases h5 : wr s1 5 (a.srem b) with
                | error e => rw [h5] at h; cases h
                | ok s2 =>
                  rw [h5] at h; cases h
                  have e1 := wr_mhw h4
                  have e2 := wr_mhw h5
                  unfold MhwOK at *
                  show s2.maxHeapWritten ≤ _
                  omega

theorem seqNext_ok {r : M State} {s' : State} {ctl : Ctl} (h : seqNext r = .ok (s', ctl)) : r = .ok s' := by
  unfold seqNext at h
  cases r with
  | error e => cases h
  | ok s => cases h; rfl

theorem jcc_state {s s' : State} {cond : Word → Word → Bool} {l : String} {ctl : Ctl}
    (h : jcc s cond l = .ok (s', ctl)) : s' = s := by
  unfold jcc at h
  cases hf : s.flags with
  | none => rw [hf] at h; cases h
  | some ab => rw [hf] at h; cases h; rfl

theorem execCode_mhw {la : String → Option Nat} {code : Code} {s s' : State} {ctl : Ctl}
    (h : execCode c la code s = .ok (s', ctl)) (hs : MhwOK c s) : MhwOK c s' := by
  have hw : ∀ {r : Reg} {v : Option Word} {s1 s2 : State}, MhwOK c s1 → wrRaw s1 r v = .ok s2 → MhwOK c s2 := by
    intro r v s1 s2 h1 h2
    have := wrRaw_mhw h2
    unfold MhwOK at *; omega
  cases code <;> simp only [execCode] at h
  case ADD => exact alu_mhw (seqNext_ok h) hs
  case ADDRM => exact alu_mhw (seqNext_ok h) hs
  case ADDMR => exact alu_mhw (seqNext_ok h) hs
  case ADDI => exact alu_mhw (seqNext_ok h) hs
  case ADDIM => exact alu_mhw (seqNext_ok h) hs
  case SUB => exact alu_mhw (seqNext_ok h) hs
  case SUBRM => exact alu_mhw (seqNext_ok h) hs
  case SUBMR => exact alu_mhw (seqNext_ok h) hs
  case SUBI => exact alu_mhw (seqNext_ok h) hs
  case IMUL => exact alu_mhw (seqNext_ok h) hs
  case IMULRM => exact alu_mhw (seqNext_ok h) hs
  case IMULMR => cases h
  case IDIV => exact idivOp_mhw (seqNext_ok h) hs
  case IDIVM => exact idivOp_mhw (seqNext_ok h) hs
  case CQO =>
    cases h1 : rd s 4 with
    | error e => rw [h1] at h; cases h
    | ok a => rw [h1] at h; exact hw hs (seqNext_ok h)
  case JMP r =>
    cases h1 : rd s r with
    | error e => rw [h1] at h; cases h
    | ok a => rw [h1] at h; cases h; exact hs
  case JMPL => cases h; exact hs
  case JMPLN => cases h; exact hs
  case LEAL r l =>
    cases h1 : la l with
    | none => rw [h1] at h; cases h
    | some a => rw [h1] at h; exact hw hs (seqNext_ok h)
  case MOV r r1 =>
    cases h1 : rdRaw s r1 with
    | error e => rw [h1] at h; cases h
    | ok v => rw [h1] at h; exact hw hs (seqNext_ok h)
  case MOVS r r1 i =>
    cases h1 : rdRaw s r with
    | error e => rw [h1] at h; cases h
    | ok v =>
      cases h2 : ea s r1 i with
      | error e => rw [h1, h2] at h; cases h
      | ok a => rw [h1, h2] at h; exact storeWordRaw_mhw (seqNext_ok h) hs
  case MOVL r r1 i =>
    cases h1 : ea s r1 i with
    | error e => rw [h1] at h; cases h
    | ok a =>
      rw [h1] at h; dsimp only at h
      cases h2 : loadWordRaw c s a with
      | error e => rw [h2] at h; cases h
      | ok v => rw [h2] at h; exact hw hs (seqNext_ok h)
  case MOVI r i =>
    split at h
    · exact hw hs (seqNext_ok h)
    · cases h
  case MOVIM r i1 i2 =>
    cases h1 : imm32 i2 with
    | error e => rw [h1] at h; cases h
    | ok v => rw [h1] at h; exact writeLoc_mhw (seqNext_ok h) hs
  case CMP => exact cmpOp_mhw (seqNext_ok h) hs
  case CMPRM => exact cmpOp_mhw (seqNext_ok h) hs
  case CMPMR => exact cmpOp_mhw (seqNext_ok h) hs
  case CMPI => exact cmpOp_mhw (seqNext_ok h) hs
  case CMPIM => exact cmpOp_mhw (seqNext_ok h) hs
  case JEL => rw [jcc_state h]; exact hs
  case JNEL => rw [jcc_state h]; exact hs
  case JLL => rw [jcc_state h]; exact hs
  case JLEL => rw [jcc_state h]; exact hs
  case JGL => rw [jcc_state h]; exact hs
  case JGEL => rw [jcc_state h]; exact hs
  case PUSH r =>
    cases h1 : rdRaw s r with
    | error e => rw [h1] at h; cases h
    | ok v =>
      cases h2 : rd s 0 with
      | error e => rw [h1, h2] at h; cases h
      | ok sp =>
        rw [h1, h2] at h; dsimp only at h
        cases h3 : storeWordRaw c s (sp - 8) v with
        | error e => rw [h3] at h; cases h
        | ok s1 =>
          rw [h3] at h
          exact hw (storeWordRaw_mhw h3 hs) (seqNext_ok h)
  case POP r =>
    cases h1 : rd s 0 with
    | error e => rw [h1] at h; cases h
    | ok sp =>
      rw [h1] at h; dsimp only at h
      cases h2 : loadWordRaw c s sp with
      | error e => rw [h2] at h; cases h
      | ok v =>
        rw [h2] at h; dsimp only at h
        cases h3 : wr s 0 (sp + 8) with
        | error e => rw [h3] at h; cases h
        | ok s1 =>
          rw [h3] at h
          exact hw (hw hs h3) (seqNext_ok h)
  case CALL => cases h; exact hs
  case RET => cases h; exact hs
  all_goals (cases h; exact hs)

theorem callExt_mhw {s s' : State} {f : String} (h : callExt s f = .ok s') :
    s'.maxHeapWritten = s.maxHeapWritten := by
  unfold callExt at h
  split at h
  · cases h
  · cases h1 : rd s 0 with
    | error e => rw [h1] at h; cases h
    | ok sp =>
      cases h2 : rd s 7 with
      | error e => rw [h1, h2] at h; cases h
      | ok arg =>
        rw [h1, h2] at h; dsimp only at h
        split at h
        · cases h
        · have := Except.ok.inj h
          subst this
          rfl

theorem step_mhw {m : MonCfg} {p : Prog} {s s' : State} (h : step m p s = .inl s') (hs : MhwOK m.mach s) :
    MhwOK m.mach s' := by
  unfold step at h
  cases hc : p.code[s.pc]? with
  | none => rw [hc] at h; cases h
  | some code =>
    rw [hc] at h; dsimp only at h
    cases hx : execCode m.mach p.labelAddr code s with
    | error e => rw [hx] at h; cases h
    | ok r =>
      obtain ⟨s1, ctl⟩ := r
      rw [hx] at h; dsimp only at h
      have h1 := execCode_mhw hx hs
      have h1' : MhwOK m.mach (if codeSize code = 0 then s1 else { s1 with steps := s1.steps + 1 }) := by
        split
        · exact h1
        · exact h1
      generalize (if codeSize code = 0 then s1 else { s1 with steps := s1.steps + 1 }) = s2 at h h1'
      cases ctl with
      | next => cases h; exact h1'
      | jumpLabel l =>
        dsimp only at h
        cases hl : p.labelIdx[l]? with
        | none => rw [hl] at h; cases h
        | some i => rw [hl] at h; cases h; exact h1'
      | jumpAddr a =>
        dsimp only at h
        cases hl : p.addrIdx[a]? with
        | none => rw [hl] at h; cases h
        | some i => rw [hl] at h; cases h; exact h1'
      | callExt f =>
        dsimp only at h
        cases hl : callExt s2 f with
        | error e => rw [hl] at h; cases h
        | ok s3 =>
          rw [hl] at h; cases h
          have := callExt_mhw hl
          unfold MhwOK at *
          show s3.maxHeapWritten ≤ _
          omega
      | ret =>
        dsimp only at h
        cases hl : retCheck m.mach s2 with
        | ok v => rw [hl] at h; cases h
        | error r =>
          rw [hl] at h
          split at h <;> cases h

theorem stepN_mhw {m : MonCfg} {p : Prog} : ∀ (n : Nat) {s s' : State}, stepN m p n s = .inl s' →
    MhwOK m.mach s → MhwOK m.mach s'
  | 0, s, s', h, hs => by simp only [stepN, Sum.inl.injEq] at h; subst h; exact hs
  | n + 1, s, s', h, hs => by
    simp only [stepN] at h
    cases hst : step m p s with
    | inr r => rw [hst] at h; cases h
    | inl s1 => rw [hst] at h; exact stepN_mhw n h (step_mhw hst hs)

theorem mhwOK_init (c : MachCfg) (args : List Word) (entry : Nat) : MhwOK c (initState c args entry) :=
  Nat.zero_le _

section Mono

variable (S : Sub c' c)
include S

theorem inHeap_mono {n : Nat} (h : inHeap c' n = true) : inHeap c n = true := by
  unfold inHeap at *
  simp only [Bool.and_eq_true, decide_eq_true_eq] at *
  have := S.base; have := S.bytes
  omega

theorem inStack_eq (n : Nat) : inStack c' n = inStack c n := by
  unfold inStack
  rw [S.low, S.top]

theorem not_inHeap_of_inStack {n : Nat} (h : inStack c n = true) : inHeap c n = false := by
  unfold inStack at h
  unfold inHeap
  simp only [Bool.and_eq_true, decide_eq_true_eq] at h
  rw [Bool.and_eq_false_iff]; right
  rw [decide_eq_false_iff_not]
  have := S.below
  omega

theorem loadWordRaw_mono {s : State} {a : Word} {v : Option Word} (h : loadWordRaw c' s a = .ok v) :
    loadWordRaw c s a = .ok v := by
  unfold loadWordRaw at *
  dsimp only at *
  by_cases hal : a.toNat % 8 ≠ 0
  · rw [if_pos hal] at h; cases h
  · rw [if_neg hal] at h ⊢
    by_cases hh : inHeap c' a.toNat = true
    · rw [if_pos hh] at h
      rw [if_pos (inHeap_mono S hh)]
      exact h
    · rw [if_neg hh] at h
      by_cases hst : inStack c' a.toNat = true
      · rw [if_pos hst] at h
        rw [inStack_eq S] at hst
        have := not_inHeap_of_inStack S hst
        rw [this, hst]
        simpa using h
      · rw [if_neg hst] at h; cases h

theorem loadWord_mono {s : State} {a : Word} {v : Word} (h : loadWord c' s a = .ok v) :
    loadWord c s a = .ok v := by
  unfold loadWord at *
  cases h1 : loadWordRaw c' s a with
  | error e => rw [h1] at h; cases h
  | ok o =>
    rw [h1] at h
    rw [loadWordRaw_mono S h1]
    exact h

theorem storeWordRaw_mono {s s' : State} {a : Word} {v : Option Word} (h : storeWordRaw c' s a v = .ok s') :
    storeWordRaw c s a v = .ok s' := by
  unfold storeWordRaw at *
  dsimp only at *
  by_cases hal : a.toNat % 8 ≠ 0
  · rw [if_pos hal] at h; cases h
  · rw [if_neg hal] at h ⊢
    by_cases hh : inHeap c' a.toNat = true
    · rw [if_pos hh] at h
      rw [if_pos (inHeap_mono S hh), ← S.base]
      exact h
    · rw [if_neg hh] at h
      by_cases hst : inStack c' a.toNat = true
      · rw [if_pos hst] at h
        rw [inStack_eq S] at hst
        have := not_inHeap_of_inStack S hst
        rw [this, hst]
        simpa using h
      · rw [if_neg hst] at h; cases h

theorem readLoc_mono {s : State} {l : Loc} {v : Word} (h : readLoc c' s l = .ok v) : readLoc c s l = .ok v := by
  cases l with
  | r r => exact h
  | m b d =>
    simp only [readLoc] at *
    cases he : ea s b d with
    | error e => rw [he] at h; cases h
    | ok a => rw [he] at h; dsimp only at h ⊢; exact loadWord_mono S h

theorem writeLoc_mono {s s' : State} {l : Loc} {v : Word} (h : writeLoc c' s l v = .ok s') :
    writeLoc c s l v = .ok s' := by
  cases l with
  | r r => exact h
  | m b d =>
    simp only [writeLoc] at *
    cases he : ea s b d with
    | error e => rw [he] at h; cases h
    | ok a => rw [he] at h; dsimp only at h ⊢; exact storeWordRaw_mono S h

theorem readSrc_mono {s : State} {x : Src} {v : Word} (h : readSrc c' s x = .ok v) : readSrc c s x = .ok v := by
  cases x with
  | loc l => exact readLoc_mono S h
  | imm i => exact h

theorem alu_mono {op : Word → Word → Word} {s s' : State} {dst : Loc} {src : Src}
    (h : alu c' op s dst src = .ok s') : alu c op s dst src = .ok s' := by
  unfold alu at *
  cases h1 : readLoc c' s dst with
  | error e => rw [h1] at h; cases h
  | ok a =>
    rw [h1] at h; dsimp only at h
    rw [readLoc_mono S h1]; dsimp only
    cases h2 : readSrc c' s src with
    | error e => rw [h2] at h; cases h
    | ok b =>
      rw [h2] at h; dsimp only at h
      rw [readSrc_mono S h2]; dsimp only
      cases h3 : writeLoc c' s dst (op a b) with
      | error e => rw [h3] at h; cases h
      | ok s1 =>
        rw [h3] at h
        rw [writeLoc_mono S h3]
        exact h

theorem cmpOp_mono {s s' : State} {a : Loc} {b : Src} (h : cmpOp c' s a b = .ok s') :
    cmpOp c s a b = .ok s' := by
  unfold cmpOp at *
  cases h1 : readLoc c' s a with
  | error e => rw [h1] at h; cases h
  | ok x =>
    rw [h1] at h; dsimp only at h
    rw [readLoc_mono S h1]; dsimp only
    cases h2 : readSrc c' s b with
    | error e => rw [h2] at h; cases h
    | ok y =>
      rw [h2] at h
      rw [readSrc_mono S h2]
      exact h

theorem idivOp_mono {s s' : State} {src : Loc} (h : idivOp c' s src = .ok s') : idivOp c s src = .ok s' := by
  unfold idivOp at *
  cases h1 : rd s 4 with
  | error e => rw [h1] at h; cases h
  | ok a =>
    cases h2 : rd s 5 with
    | error e => rw [h1, h2] at h; cases h
    | ok d =>
      cases h3 : readLoc c' s src with
      | error e => rw [h1, h2, h3] at h; cases h
      | ok b =>
        rw [h1, h2, h3] at h
        rw [readLoc_mono S h3]
        exact h

theorem seqNext_mono {r' r : M State} (hr : ∀ s1, r' = .ok s1 → r = .ok s1) {x : State × Ctl}
    (h : seqNext r' = .ok x) : seqNext r = .ok x := by
  unfold seqNext at *
  cases r' with
  | error e => cases h
  | ok s1 => rw [hr s1 rfl]; exact h

theorem execCode_mono {la : String → Option Nat} {code : Code} {s : State} {x : State × Ctl}
    (h : execCode c' la code s = .ok x) : execCode c la code s = .ok x := by
  cases code <;> simp only [execCode] at h ⊢
  case ADD => exact seqNext_mono S (fun _ => alu_mono S) h
  case ADDRM => exact seqNext_mono S (fun _ => alu_mono S) h
  case ADDMR => exact seqNext_mono S (fun _ => alu_mono S) h
  case ADDI => exact seqNext_mono S (fun _ => alu_mono S) h
  case ADDIM => exact seqNext_mono S (fun _ => alu_mono S) h
  case SUB => exact seqNext_mono S (fun _ => alu_mono S) h
  case SUBRM => exact seqNext_mono S (fun _ => alu_mono S) h
  case SUBMR => exact seqNext_mono S (fun _ => alu_mono S) h
  case SUBI => exact seqNext_mono S (fun _ => alu_mono S) h
  case IMUL => exact seqNext_mono S (fun _ => alu_mono S) h
  case IMULRM => exact seqNext_mono S (fun _ => alu_mono S) h
  case IDIV => exact seqNext_mono S (fun _ => idivOp_mono S) h
  case IDIVM => exact seqNext_mono S (fun _ => idivOp_mono S) h
  case MOVS r r1 i =>
    cases h1 : rdRaw s r with
    | error e => rw [h1] at h; cases h
    | ok v =>
      cases h2 : ea s r1 i with
      | error e => rw [h1, h2] at h; cases h
      | ok a =>
        rw [h1, h2] at h
        exact seqNext_mono S (fun _ => storeWordRaw_mono S) h
  case MOVL r r1 i =>
    cases h1 : ea s r1 i with
    | error e => rw [h1] at h; cases h
    | ok a =>
      rw [h1] at h; dsimp only at h
      cases h2 : loadWordRaw c' s a with
      | error e => rw [h2] at h; cases h
      | ok v =>
        rw [h2] at h
        dsimp only
        rw [loadWordRaw_mono S h2]
        exact h
  case MOVIM r i1 i2 =>
    cases h1 : imm32 i2 with
    | error e => rw [h1] at h; cases h
    | ok v =>
      rw [h1] at h
      exact seqNext_mono S (fun _ => writeLoc_mono S) h
  case CMP => exact seqNext_mono S (fun _ => cmpOp_mono S) h
  case CMPRM => exact seqNext_mono S (fun _ => cmpOp_mono S) h
  case CMPMR => exact seqNext_mono S (fun _ => cmpOp_mono S) h
  case CMPI => exact seqNext_mono S (fun _ => cmpOp_mono S) h
  case CMPIM => exact seqNext_mono S (fun _ => cmpOp_mono S) h
  case PUSH r =>
    cases h1 : rdRaw s r with
    | error e => rw [h1] at h; cases h
    | ok v =>
      cases h2 : rd s 0 with
      | error e => rw [h1, h2] at h; cases h
      | ok sp =>
        rw [h1, h2] at h; dsimp only at h
        cases h3 : storeWordRaw c' s (sp - 8) v with
        | error e => rw [h3] at h; cases h
        | ok s1 =>
          rw [h3] at h
          dsimp only
          rw [storeWordRaw_mono S h3]
          exact h
  case POP r =>
    cases h1 : rd s 0 with
    | error e => rw [h1] at h; cases h
    | ok sp =>
      rw [h1] at h; dsimp only at h
      cases h2 : loadWordRaw c' s sp with
      | error e => rw [h2] at h; cases h
      | ok v =>
        rw [h2] at h
        dsimp only
        rw [loadWordRaw_mono S h2]
        exact h
  all_goals exact h

theorem retCheck_mono {s : State} {v : Word} (h : retCheck c' s = .ok v) : retCheck c s = .ok v := by
  unfold retCheck at *
  cases h1 : rd s 0 with
  | error e => rw [h1] at h; cases h
  | ok sp =>
    rw [h1] at h; dsimp only at h
    cases h2 : loadWord c' s sp with
    | error e => rw [h2] at h; cases h
    | ok w =>
      rw [h2] at h
      dsimp only
      rw [loadWord_mono S h2, ← S.top]
      exact h

end Mono

/-- `retCheck` reports faults and violations of the calling convention only -/
theorem retCheck_error {c : MachCfg} {s : State} {r : Res} (h : retCheck c s = .error r) :
    (∃ e n, r = .fault e n) ∨ ∃ w, r = .ccViolation w := by
  unfold retCheck at h
  cases h1 : rd s 0 with
  | error e => rw [h1] at h; cases h; exact .inl ⟨_, _, rfl⟩
  | ok sp =>
    rw [h1] at h; dsimp only at h
    cases h2 : loadWord c s sp with
    | error e => rw [h2] at h; cases h; exact .inl ⟨_, _, rfl⟩
    | ok w =>
      rw [h2] at h; dsimp only at h
      split at h
      · cases h; exact .inl ⟨_, _, rfl⟩
      · split at h
        · cases h; exact .inr ⟨_, rfl⟩
        · split at h
          · cases h; exact .inr ⟨_, rfl⟩
          · cases h3 : rd s 4 with
            | error e => rw [h3] at h; cases h; exact .inl ⟨_, _, rfl⟩
            | ok v' => rw [h3] at h; cases h

theorem retCheck_error_not_done {c : MachCfg} {s : State} {r : Res} (h : retCheck c s = .error r) (v : Word) :
    r ≠ .done v := by
  rcases retCheck_error h with ⟨_, _, rfl⟩ | ⟨_, rfl⟩ <;> exact Res.noConfusion

theorem step_mono {m' m : MonCfg} (S : Sub m'.mach m.mach) {p : Prog} {s s' : State}
    (h : step m' p s = .inl s') : step m p s = .inl s' := by
  unfold step at *
  cases hc : p.code[s.pc]? with
  | none => rw [hc] at h; cases h
  | some code =>
    rw [hc] at h; dsimp only at h ⊢
    cases hx : execCode m'.mach p.labelAddr code s with
    | error e => rw [hx] at h; cases h
    | ok r =>
      rw [hx] at h
      rw [execCode_mono S hx]
      obtain ⟨s1, ctl⟩ := r
      dsimp only at h ⊢
      cases ctl with
      | ret =>
        dsimp only at h
        cases hl : retCheck m'.mach (if codeSize code = 0 then s1 else { s1 with steps := s1.steps + 1 }) with
        | ok v => rw [hl] at h; cases h
        | error r => rw [hl] at h; split at h <;> cases h
      | _ => exact h

theorem step_mono_done {m' m : MonCfg} (S : Sub m'.mach m.mach) {p : Prog} {s : State} {v : Word}
    (h : step m' p s = .inr (.done v)) : step m p s = .inr (.done v) := by
  unfold step at *
  cases hc : p.code[s.pc]? with
  | none => rw [hc] at h; cases h
  | some code =>
    rw [hc] at h; dsimp only at h ⊢
    cases hx : execCode m'.mach p.labelAddr code s with
    | error e => rw [hx] at h; cases h
    | ok r =>
      rw [hx] at h
      rw [execCode_mono S hx]
      obtain ⟨s1, ctl⟩ := r
      dsimp only at h ⊢
      cases ctl with
      | ret =>
        dsimp only at h ⊢
        cases hl : retCheck m'.mach (if codeSize code = 0 then s1 else { s1 with steps := s1.steps + 1 }) with
        | ok v' =>
          rw [hl] at h
          rw [retCheck_mono S hl]
          exact h
        | error r =>
          exfalso
          rw [hl] at h
          have hnd := retCheck_error_not_done hl
          cases r with
          | done v'' => exact hnd _ rfl
          | _ => simp at h
      | next => cases h
      | jumpLabel l =>
        dsimp only at h
        cases hl : p.labelIdx[l]? with
        | none => rw [hl] at h; cases h
        | some i => rw [hl] at h; cases h
      | jumpAddr a =>
        dsimp only at h
        cases hl : p.addrIdx[a]? with
        | none => rw [hl] at h; cases h
        | some i => rw [hl] at h; cases h
      | callExt f =>
        dsimp only at h
        cases hl : callExt (if codeSize code = 0 then s1 else { s1 with steps := s1.steps + 1 }) f with
        | error e => rw [hl] at h; cases h
        | ok s3 => rw [hl] at h; cases h

theorem stepN_mono {m' m : MonCfg} (S : Sub m'.mach m.mach) {p : Prog} : ∀ (n : Nat) {s s' : State},
    stepN m' p n s = .inl s' → stepN m p n s = .inl s'
  | 0, s, s', h => h
  | n + 1, s, s', h => by
    simp only [stepN] at h ⊢
    cases hst : step m' p s with
    | inr r => rw [hst] at h; cases h
    | inl s1 =>
      rw [hst] at h
      rw [step_mono S hst]
      exact stepN_mono S n h

end Scc.X86.Conc
