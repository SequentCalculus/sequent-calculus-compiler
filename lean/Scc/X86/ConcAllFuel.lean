/-
  Scc.X86.ConcAllFuel — EVERY AMOUNT OF MACHINE FUEL, runs that do not terminate included: the count of
  transitions along a run (`Track.run`) and the progress of the positional machine (`weight_ge`,
  Scc/AxCut/PosProgress.lean) with the entry and the run loop.  If the positional
  machine is still running after `N·(M + 1) + |main|` steps, the x86-64 machine started at `asm_main` makes at
  least `N` transitions without fault, so with fuel `N` its result is `outOfFuel`.
-/
import Scc.AxCut.PosProgress
import Scc.X86.ConcC10
import Scc.X86.ConcCC

namespace Scc.X86.Conc

open Scc.AxCut Scc.Backend Scc.X86.Ref
open Scc.Props.C14Generic (LabelSafe)
open Scc.Props.C06Generic (outAfter WithinCapacity Reachable EnoughHeap CodeFits statesOf stopsWithin)
open Scc.Heap (HState InvS InvW Exhausted)
open Scc.Heap.Refine (HRef FrLe Room FrPk)

/-- a machine that makes `n` transitions without ending has not ended with less fuel -/
theorem runLoop_outOfFuel {m : MonCfg} (hm : m.heap = false) (p : Prog) : ∀ (f n : Nat) (s s' : State) (b : Nat),
    stepN m p n s = .inl s' → f ≤ n → (runLoop m p f s b).res = .outOfFuel
  | 0, _, _, _, _, _, _ => rfl
  | f + 1, 0, _, _, _, _, h => absurd h (by omega)
  | f + 1, n + 1, s, s', b, hs, h => by
    simp only [stepN] at hs
    simp only [runLoop, monitor_off hm]
    cases hst : step m p s with
    | inr r => rw [hst] at hs; cases hs
    | inl s1 =>
      rw [hst] at hs
      exact runLoop_outOfFuel hm p f n s1 s' _ hs (by omega)

/-- PROGRESS FROM THE MACHINE'S INITIAL STATE, for any source of the peak hypothesis -/
theorem data_programs_progress_gen (p : AxCut.Prog) (args : List Word) (hooks : Bool) (body routine : List Code)
    (nargs : Nat) (d0 : Def) (ops : List MockOp) (c' : Nat)
    (hsafe : LabelSafe p = true) (htp : LinTypedProg p) (hprog : ProgOK p)
    (hcompM : (compile mockSym hooks p).run 0 = .ok ((ops, nargs), c')) (hfit : CodeFits ops)
    (hcompX : compileX86 p hooks 0 = .ok (body, nargs)) (hrout : intoRoutine body nargs = .ok routine)
    (hnd : (labs routine).Nodup)
    (hd : p.defs.head? = some d0) (hentry : ∀ b ∈ d0.ctx, b.chi = .ext ∧ b.ty = .i64)
    (hlen : d0.ctx.length = args.length)
    (hcap : ∀ st, Reachable p ⟨d0.ctx, args.map .int, d0.body⟩ st → 2 * st.ctx.length ≤ 266)
    (fuel : Nat) (hfuel : fuel + 1 < 2 ^ 64)
    (cfg : MonCfg) (MO : MachOK cfg.mach)
    (hb8 : cfg.mach.heapBase % 8 = 0) (hb0 : 0 < cfg.mach.heapBase)
    (Pk A M : Nat) (hA : ∀ d ∈ p.defs, LetLe A d.body) (hM : ∀ d ∈ p.defs, stmtSize d.body ≤ M)
    (hbytes : 64 * (Pk + A + 2) ≤ cfg.mach.heapBytes)
    (items : List (Code × Nat)) (hitems : (items.map (·.1)).map stripC = routine.map stripC)
    (hfitX : addrAt cfg.mach.codeBase routine routine.length < 2 ^ 64)
    (hPH : PeakHyp p hooks routine ops cfg items args d0 Pk (A * fuel + 1))
    (out : List (Bool × Word))
    (hrun : Pos.runState p fuel ⟨d0.ctx, args.map .int, d0.body⟩ [] = ⟨out, .outOfFuel⟩)
    (N : Nat) (hN : N * (M + 1) + stmtSize d0.body ≤ fuel) :
    (mkProg cfg.mach items).labelIdx["asm_main"]? = some 6 ∧ args.length ≤ 5 ∧
    ∃ n X, N ≤ n ∧ stepN cfg (mkProg cfg.mach items) n (initState cfg.mach args 6) = .inl X := by
  have hmem : d0 ∈ p.defs := List.mem_of_mem_head? hd
  have hc0 := hcap _ Reachable.refl
  simp only at hc0
  obtain ⟨F, pre, st0, h, n0, X0, a, En⟩ := entry_setup p args hooks body routine nargs d0 ops c' hsafe htp
    hcompM hcompX hrout hnd hd hentry hlen hc0 cfg MO hb0 (by omega) items hitems
  have hFc := En.fc
  have hA' : ∀ d ∈ p.defs, K.AllocLe A d.body := fun d hd => allocLe_of_letLe d.body (hprog.2 d hd).1 (hA d hd)
  obtain ⟨_, _, _, _, n, X, _, hX, hw, _⟩ := (Track.peakTrack (En.boundaries hb8 hnd hfitX hcompM hsafe htp hfit hprog)
    hA' hbytes).run fuel 0 _ _ _ (En.peakRun hcap hprog hmem hA' hb0 hbytes (hPH F n0 X0 hFc En.steps) hfuel
      (Nat.le_refl _))
  have hN' := weight_ge hM fuel N _ [] (hM d0 hmem) (K.valAll_ints _ args) (by rw [hrun]) hN
  exact ⟨En.main, En.nargs, n0 + n, X, by omega, stepN_trans cfg _ En.steps hX⟩

theorem run_eq_runState {p : AxCut.Prog} {d0 : Def} {args : List Word} (hd : p.defs.head? = some d0)
    (hlen : d0.ctx.length = args.length) (fuel : Nat) :
    Pos.run p args fuel = Pos.runState p fuel ⟨d0.ctx, args.map .int, d0.body⟩ [] := by
  unfold Pos.run
  cases hdefs : p.defs with
  | nil => rw [hdefs] at hd; simp at hd
  | cons d ds =>
    rw [hdefs] at hd
    simp only [List.head?_cons, Option.some.injEq] at hd
    subst hd
    simp only
    rw [if_neg (by omega)]

/-- EVERY AMOUNT OF MACHINE FUEL (heap monitor off), for any source of the peak hypothesis: the result of the machine
on the items of the routine is `outOfFuel`, or `done v` with `v` the result of the positional machine — provided the
positional machine never gets stuck (no division by zero / overflow) and the peak of blocks in use is bounded -/
theorem data_programs_all_fuel_gen (p : AxCut.Prog) (args : List Word) (hooks : Bool) (body routine : List Code)
    (nargs : Nat) (d0 : Def) (ops : List MockOp) (c' : Nat)
    (hsafe : LabelSafe p = true) (htp : LinTypedProg p) (hprog : ProgOK p)
    (hcompM : (compile mockSym hooks p).run 0 = .ok ((ops, nargs), c')) (hfit : CodeFits ops)
    (hcompX : compileX86 p hooks 0 = .ok (body, nargs)) (hrout : intoRoutine body nargs = .ok routine)
    (hnd : (labs routine).Nodup)
    (hd : p.defs.head? = some d0) (hentry : ∀ b ∈ d0.ctx, b.chi = .ext ∧ b.ty = .i64)
    (hlen : d0.ctx.length = args.length)
    (hcap : ∀ st, Reachable p ⟨d0.ctx, args.map .int, d0.body⟩ st → 2 * st.ctx.length ≤ 266)
    (hnostuck : ∀ fuel w, (Pos.run p args fuel).res ≠ .stuck w)
    (cfg : MonCfg) (MO : MachOK cfg.mach) (hheap : cfg.heap = false)
    (hb8 : cfg.mach.heapBase % 8 = 0) (hb0 : 0 < cfg.mach.heapBase)
    (Pk A M : Nat) (hA : ∀ d ∈ p.defs, LetLe A d.body) (hM : ∀ d ∈ p.defs, stmtSize d.body ≤ M)
    (hbytes : 64 * (Pk + A + 2) ≤ cfg.mach.heapBytes)
    (items : List (Code × Nat)) (hitems : (items.map (·.1)).map stripC = routine.map stripC)
    (hfitX : addrAt cfg.mach.codeBase routine routine.length < 2 ^ 64)
    (fuel' : Nat) (hf : fuel' * (M + 1) + stmtSize d0.body + 1 < 2 ^ 64)
    (hPH : PeakHyp p hooks routine ops cfg items args d0 Pk (A * (fuel' * (M + 1) + stmtSize d0.body) + 1)) :
    (runItems items args fuel' cfg).res = .outOfFuel ∨
      ∃ v out, Pos.run p args (fuel' * (M + 1) + stmtSize d0.body) = ⟨out, .done v⟩ ∧
        (runItems items args fuel' cfg).res = .done v := by
  have hrs := run_eq_runState hd hlen (fuel' * (M + 1) + stmtSize d0.body)
  cases hres : Pos.run p args (fuel' * (M + 1) + stmtSize d0.body) with
  | mk out res =>
  cases res with
  | stuck w => exact absurd (by rw [hres]) (hnostuck (fuel' * (M + 1) + stmtSize d0.body) w)
  | done v =>
    obtain ⟨f0, _, h2, _⟩ := data_programs_run_gen p args hooks body routine nargs d0 ops c' hsafe htp hprog
      hcompM hfit hcompX hrout hnd hd hentry hcap _ out v hf hres cfg MO hheap hb8 hb0 Pk A hA hbytes items
      hitems hfitX hPH
    rcases CC.runItems_res_of_done (items := items) (args := args) (cfg := cfg) (f0 := f0) (v := v) h2 fuel'
      with h | h
    · exact Or.inl h
    · exact Or.inr ⟨v, out, rfl, h⟩
  | outOfFuel =>
    left
    rw [hrs] at hres
    obtain ⟨hmain, hargs, n, X, hn, hX⟩ := data_programs_progress_gen p args hooks body routine nargs d0 ops c' hsafe
      htp hprog hcompM hfit hcompX hrout hnd hd hentry hlen hcap _ hf cfg MO hb8 hb0 Pk A M hA hM hbytes items hitems
      hfitX hPH out hres fuel' (Nat.le_refl _)
    unfold runItems
    simp only [hmain]
    rw [if_neg (by omega)]
    exact runLoop_outOfFuel hheap _ fuel' n _ X 0 hX hn

/-- EVERY AMOUNT OF MACHINE FUEL (heap monitor off): the result of the machine on the items of the routine is
`outOfFuel`, or `done v` with `v` the result of the positional machine — provided the positional machine
never gets stuck (no division by zero / overflow) and the peak of blocks in use is bounded -/
theorem data_programs_all_fuel (p : AxCut.Prog) (args : List Word) (hooks : Bool) (body routine : List Code)
    (nargs : Nat) (d0 : Def) (ops : List MockOp) (c' : Nat)
    (hsafe : LabelSafe p = true) (htp : LinTypedProg p) (hprog : ProgOK p)
    (hcompM : (compile mockSym hooks p).run 0 = .ok ((ops, nargs), c')) (hfit : CodeFits ops)
    (hcompX : compileX86 p hooks 0 = .ok (body, nargs)) (hrout : intoRoutine body nargs = .ok routine)
    (hnd : (labs routine).Nodup)
    (hd : p.defs.head? = some d0) (hentry : ∀ b ∈ d0.ctx, b.chi = .ext ∧ b.ty = .i64)
    (hlen : d0.ctx.length = args.length)
    (hcap : ∀ st, Reachable p ⟨d0.ctx, args.map .int, d0.body⟩ st → 2 * st.ctx.length ≤ 266)
    (hnostuck : ∀ fuel w, (Pos.run p args fuel).res ≠ .stuck w)
    (cfg : MonCfg) (MO : MachOK cfg.mach) (hk : cfg.consts = consts) (hheap : cfg.heap = false)
    (hb8 : cfg.mach.heapBase % 8 = 0) (hb0 : 0 < cfg.mach.heapBase)
    (Pk A M : Nat) (hA : ∀ d ∈ p.defs, LetLe A d.body) (hM : ∀ d ∈ p.defs, stmtSize d.body ≤ M)
    (hbytes : 64 * (Pk + A + 2) ≤ cfg.mach.heapBytes)
    (items : List (Code × Nat)) (hitems : (items.map (·.1)).map stripC = routine.map stripC)
    (hfitX : addrAt cfg.mach.codeBase routine routine.length < 2 ^ 64)
    (fuel' : Nat) (hf : fuel' * (M + 1) + stmtSize d0.body + 1 < 2 ^ 64)
    (hP : PeakAtMost p hooks routine ops cfg items args Pk (A * (fuel' * (M + 1) + stmtSize d0.body) + 1)) :
    (runItems items args fuel' cfg).res = .outOfFuel ∨
      ∃ v out, Pos.run p args (fuel' * (M + 1) + stmtSize d0.body) = ⟨out, .done v⟩ ∧
        (runItems items args fuel' cfg).res = .done v :=
  data_programs_all_fuel_gen p args hooks body routine nargs d0 ops c' hsafe htp hprog hcompM hfit hcompX hrout hnd hd
    hentry hlen hcap hnostuck cfg MO hheap hb8 hb0 Pk A M hA hM hbytes items hitems hfitX fuel' hf
    (peakHyp_of_peakAtMost hk hP)

theorem stepN_monOff (m : MonCfg) (p : Prog) : ∀ (n : Nat) (s : State), stepN (monOff m) p n s = stepN m p n s
  | 0, _ => rfl
  | n + 1, s => by
    simp only [stepN, step_monOff]
    cases step m p s with
    | inl s1 => exact stepN_monOff m p n s1
    | inr r => rfl

/-- the peak hypothesis does not look at the heap-monitor flag -/
theorem peakAtMost_monOff {p : AxCut.Prog} {hooks : Bool} {routine : List Code} {ops : List MockOp} {cfg : MonCfg}
    {items : List (Code × Nat)} {args : List Word} {Pk C : Nat}
    (h : PeakAtMost p hooks routine ops cfg items args Pk C) :
    PeakAtMost p hooks routine ops (monOff cfg) items args Pk C := by
  intro n X st hn hB below inUse hsh hb
  have hn' : stepN cfg (mkProg cfg.mach items) n (initState cfg.mach args 6) = .inl X := by
    rw [← stepN_monOff]; exact hn
  exact h n X st hn' hB below inUse hsh hb

end Scc.X86.Conc
