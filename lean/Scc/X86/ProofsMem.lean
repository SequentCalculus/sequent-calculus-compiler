/-
  Scc.X86.ProofsMem — Theorem-B contracts for the memory combinators of
  /repo/lang/axcut2x86_64/src/memory.rs on the SPEC machine (Machine.lean), against the heap model
  Scc/Heap/Model.lean:
    * `skip_if_zero`, `if_zero_then_else` (register condition and heap-word condition): which branch
      runs (`execFwd_jel_*`, `execFwd_ite_*`, `skipIfZero_*`, `ifZeroThenElse_*`);
    * `share_block_n` ⟶ `Scc.Heap.shareBlock`, `erase_block` ⟶ `Scc.Heap.eraseBlock`
      (`shareBlockN_contract`, `eraseBlock_contract`), for a pointer in a register AND in a spill slot:
      if the heap model performs the operation on the abstract heap, the emitted code runs without a
      fault from every boundary state related to that heap and ends in a boundary state related to
      the model's result; stack, trace and all registers but TEMP (and FREE for erase) are unchanged.

  Block semantics with FORWARD local labels (`execFwd`): like `execStraight`, but a jump to a label
  defined further down in the same block continues there; any other transfer of control leaves the
  block.  All jumps emitted by memory.rs are forward jumps to fresh labels (`labName_inj`), which is
  what the machine's `step` does with them when the labels are unique in the text (C14-T3).
  Heap-model words are unbounded naturals: the contracts assume that the incremented count stays
  below 2^64 (the model does not wrap).
-/
import Scc.X86.ProofsTransfer
import Scc.X86.ProofsStep
import Scc.Backend.Proofs
import Std.Data.String.ToNat

set_option linter.unusedSimpArgs false
set_option linter.unusedVariables false

namespace Scc.X86

open Scc.Backend (GenM freshLabel)

/-- the code after the first definition of label `l` -/
def skipTo (l : String) : List Code → Option (List Code)
  | [] => none
  | c :: cs =>
    match c with
    | .LAB l' => if l' = l then some cs else skipTo l cs
    | _ => skipTo l cs

theorem skipTo_length {l : String} : ∀ {cs r : List Code}, skipTo l cs = some r → r.length < cs.length
  | [], _, h => by simp [skipTo] at h
  | c :: cs, r, h => by
    cases c <;> simp only [skipTo] at h
    case LAB l' =>
      split at h
      · injection h with h; subst h; simp
      · have := skipTo_length h; simp; omega
    all_goals (have := skipTo_length h; simp; omega)

/-- execution of a block: fall-through instructions in sequence; a jump to a label defined further
down in the block continues there; every other control transfer (and a jump to a foreign label)
ends the block with that control -/
def execFwd (c : MachCfg) (la : String → Option Nat) (code : List Code) (s : State) : M (State × Ctl) :=
  match code with
  | [] => .ok (s, .next)
  | cd :: cs =>
    match execCode c la cd s with
    | .error e => .error e
    | .ok (s1, .next) => execFwd c la cs s1
    | .ok (s1, .jumpLabel l) =>
      match _h : skipTo l cs with
      | some rest => execFwd c la rest s1
      | none => .ok (s1, .jumpLabel l)
    | .ok (s1, ctl) => .ok (s1, ctl)
termination_by code.length
decreasing_by
  · simp
  · have := skipTo_length _h; simp; omega

theorem skipTo_append (l : String) (b : List Code) : ∀ (a : List Code),
    skipTo l (a ++ b) = match skipTo l a with
      | some r => some (r ++ b)
      | none => skipTo l b
  | [] => by simp [skipTo]
  | c :: cs => by
    cases c <;> simp only [List.cons_append, skipTo, skipTo_append l b cs]
    case LAB l' => split <;> simp

section Fwd
variable (c : MachCfg) (la : String → Option Nat)

/-- how the continuation of a block is entered -/
def contFwd (b : List Code) : M (State × Ctl) → M (State × Ctl)
  | .error e => .error e
  | .ok (s', .next) => execFwd c la b s'
  | .ok (s', .jumpLabel l) =>
    match skipTo l b with
    | some rest => execFwd c la rest s'
    | none => .ok (s', .jumpLabel l)
  | .ok (s', ctl) => .ok (s', ctl)

theorem execFwd_nil (s : State) : execFwd c la [] s = .ok (s, .next) := by
  rw [execFwd]

theorem execFwd_cons (cd : Code) (cs : List Code) (s : State) :
    execFwd c la (cd :: cs) s = contFwd c la cs (execCode c la cd s) := by
  rw [execFwd]
  cases h : execCode c la cd s with
  | error e => simp [contFwd]
  | ok r =>
    obtain ⟨s1, n⟩ := r
    cases n with
    | next => simp [contFwd]
    | jumpLabel l =>
      simp only [contFwd]
      split <;> rename_i h2 <;> simp [h2]
    | jumpAddr a => simp [contFwd]
    | callExt f => simp [contFwd]
    | ret => simp [contFwd]

theorem execFwd_append (b : List Code) : ∀ (n : Nat) (a : List Code) (s : State), a.length ≤ n →
    execFwd c la (a ++ b) s = contFwd c la b (execFwd c la a s) := by
  intro n
  induction n with
  | zero =>
    intro a s h
    have : a = [] := List.eq_nil_of_length_eq_zero (Nat.le_zero.mp h)
    subst this
    simp [execFwd_nil, contFwd]
  | succ n ih =>
    intro a s h
    cases a with
    | nil => simp [execFwd_nil, contFwd]
    | cons cd cs =>
      have hcs : cs.length ≤ n := by simpa using h
      rw [List.cons_append, execFwd_cons, execFwd_cons]
      cases hex : execCode c la cd s with
      | error e => simp [contFwd]
      | ok r =>
        obtain ⟨s1, nx⟩ := r
        cases nx with
        | next => simp only [contFwd]; exact ih cs s1 hcs
        | jumpAddr x => simp [contFwd]
        | callExt f => simp [contFwd]
        | ret => simp [contFwd]
        | jumpLabel l =>
          simp only [contFwd, skipTo_append]
          cases hsk : skipTo l cs with
          | none => simp
          | some r =>
            have := skipTo_length hsk
            simp only
            exact ih r s1 (by omega)

theorem execFwd_straight (pre : List Code) (rest : List Code) (s s' : State)
    (h : execStraight c la pre s = .ok s') :
    execFwd c la (pre ++ rest) s = execFwd c la rest s' := by
  induction pre generalizing s with
  | nil => simp only [execStraight, Except.ok.injEq] at h; subst h; rfl
  | cons cd cs ih =>
    simp only [execStraight] at h
    rw [List.cons_append, execFwd_cons]
    cases hex : execCode c la cd s with
    | error e => simp [hex] at h
    | ok r =>
      obtain ⟨s1, ctl⟩ := r
      cases ctl <;> simp only [hex] at h <;> first | (simp only [contFwd]; exact ih s1 h) | cases h

theorem execFwd_straight_only (pre : List Code) (s s' : State) (h : execStraight c la pre s = .ok s') :
    execFwd c la pre s = .ok (s', .next) := by
  have := execFwd_straight c la pre [] s s' h
  rwa [List.append_nil, execFwd_nil] at this

theorem exec_JEL (l : String) {s : State} {a b : Word} (hf : s.flags = some (a, b)) :
    execCode c la (.JEL l) s = .ok (s, if a = b then .jumpLabel l else .next) := by
  simp only [execCode, jcc, hf]
  by_cases h : a = b <;> simp [h]

theorem exec_COMMENT (m : String) (s : State) : execCode c la (.COMMENT m) s = .ok (s, .next) := rfl
theorem exec_LAB (l : String) (s : State) : execCode c la (.LAB l) s = .ok (s, .next) := rfl
theorem exec_JMPL (l : String) (s : State) : execCode c la (.JMPL l) s = .ok (s, .jumpLabel l) := rfl

/-- `je l; body; l:` with equal operands recorded: the body is skipped (the label is fresh for it) -/
theorem execFwd_jel_taken (body : List Code) (l : String) (s : State) {a : Word}
    (hf : s.flags = some (a, a)) (hfresh : skipTo l body = none) :
    execFwd c la ([.JEL l] ++ body ++ [.LAB l]) s = .ok (s, .next) := by
  rw [List.append_assoc, List.singleton_append, execFwd_cons, exec_JEL c la l hf]
  simp [contFwd, skipTo_append, hfresh, skipTo, execFwd_nil]

theorem execFwd_jel_not_taken (body : List Code) (l : String) (s s' : State) {a b : Word}
    (hf : s.flags = some (a, b)) (hne : a ≠ b) (hbody : execFwd c la body s = .ok (s', .next)) :
    execFwd c la ([.JEL l] ++ body ++ [.LAB l]) s = .ok (s', .next) := by
  rw [List.append_assoc, List.singleton_append, execFwd_cons, exec_JEL c la l hf]
  simp only [hne, if_false, contFwd]
  rw [execFwd_append c la _ body.length body s (Nat.le_refl _), hbody]
  simp only [contFwd]
  rw [execFwd_cons]
  simp [exec_LAB, contFwd, execFwd_nil]

/-- `je lt; else; jmp le; lt: then; le:` with equal operands recorded: exactly the then-branch runs -/
theorem execFwd_ite_then (thenB elseB : List Code) (lt le : String) (s s' : State) {a : Word}
    (hf : s.flags = some (a, a)) (hfresh : skipTo lt elseB = none)
    (hthen : execFwd c la thenB s = .ok (s', .next)) :
    execFwd c la ([.JEL lt] ++ elseB ++ [.JMPL le, .LAB lt] ++ thenB ++ [.LAB le]) s = .ok (s', .next) := by
  simp only [List.append_assoc, List.singleton_append, List.cons_append, List.nil_append]
  rw [execFwd_cons, exec_JEL c la lt hf]
  simp only [if_true, contFwd, skipTo_append, hfresh]
  simp only [List.cons_append, List.nil_append, skipTo, if_true]
  rw [execFwd_append c la _ thenB.length thenB s (Nat.le_refl _), hthen]
  simp only [contFwd]
  rw [execFwd_cons]
  simp [exec_LAB, contFwd, execFwd_nil]

theorem execFwd_ite_else (thenB elseB : List Code) (lt le : String) (s s' : State) {a b : Word}
    (hf : s.flags = some (a, b)) (hne : a ≠ b) (hlab : lt ≠ le) (hfresh : skipTo le thenB = none)
    (helse : execFwd c la elseB s = .ok (s', .next)) :
    execFwd c la ([.JEL lt] ++ elseB ++ [.JMPL le, .LAB lt] ++ thenB ++ [.LAB le]) s = .ok (s', .next) := by
  simp only [List.append_assoc, List.singleton_append, List.cons_append, List.nil_append]
  rw [execFwd_cons, exec_JEL c la lt hf]
  simp only [hne, if_false, contFwd]
  rw [execFwd_append c la _ elseB.length elseB s (Nat.le_refl _), helse]
  simp only [contFwd, List.cons_append, List.nil_append]
  rw [execFwd_cons]
  simp only [exec_JMPL, contFwd, skipTo, hlab, if_false, skipTo_append, hfresh, if_true]
  simp [execFwd_nil]

end Fwd

theorem skipTo_spec {l : String} : ∀ {cs rest : List Code}, skipTo l cs = some rest →
    ∃ j, cs[j]? = some (.LAB l) ∧ rest = cs.drop (j + 1)
  | [], _, h => by simp [skipTo] at h
  | cd :: cs, rest, h => by
    have key : skipTo l cs = some rest → ∃ j, (cd :: cs)[j]? = some (.LAB l) ∧ rest = (cd :: cs).drop (j + 1) := by
      intro h'
      obtain ⟨j, h1, h2⟩ := skipTo_spec h'
      exact ⟨j + 1, by simpa using h1, by simpa using h2⟩
    cases cd <;> simp only [skipTo] at h
    case LAB l' =>
      split at h
      · rename_i e
        injection h with h
        exact ⟨0, by simp [e], by simp [h]⟩
      · exact key h
    all_goals exact key h

theorem execFwd_setPS (c : MachCfg) (la : String → Option Nat) (p k : Nat) :
    ∀ (n : Nat) (codes : List Code) (s : State), codes.length ≤ n →
      execFwd c la codes (setPS s p k) = mapPS p k (execFwd c la codes s) := by
  intro n
  induction n with
  | zero =>
    intro codes s h
    have : codes = [] := List.eq_nil_of_length_eq_zero (Nat.le_zero.mp h)
    subst this
    simp [execFwd_nil, mapPS]
  | succ n ih =>
    intro codes s h
    cases codes with
    | nil => simp [execFwd_nil, mapPS]
    | cons cd cs =>
      have hcs : cs.length ≤ n := by simpa using h
      rw [execFwd_cons, execFwd_cons, execCode_setPS]
      cases hex : execCode c la cd s with
      | error e => simp [mapPS, contFwd]
      | ok r =>
        obtain ⟨s1, ctl⟩ := r
        cases ctl with
        | next => simp only [mapPS, contFwd]; exact ih cs s1 hcs
        | jumpAddr a => simp [mapPS, contFwd]
        | callExt f => simp [mapPS, contFwd]
        | ret => simp [mapPS, contFwd]
        | jumpLabel l =>
          simp only [mapPS, contFwd]
          cases hsk : skipTo l cs with
          | none => simp [mapPS]
          | some rest =>
            have := skipTo_length hsk
            simp only
            exact ih rest s1 (by omega)

/-- the program text contains the block `codes` at index `pc0`, and every label the block defines
resolves to its position in the block (i.e. it is defined nowhere earlier in the text; with unique
labels, C14-T3, nowhere else) -/
structure BlockAt (p : Prog) (pc0 : Nat) (codes : List Code) : Prop where
  code : ∀ i (h : i < codes.length), p.code[pc0 + i]? = some codes[i]
  labels : ∀ j l, codes[j]? = some (.LAB l) → p.labelIdx[l]? = some (pc0 + j)

theorem step_jumpLabel {m : MonCfg} {p : Prog} {s s1 : State} {code : Code} {l : String} {i : Nat}
    (hf : p.code[s.pc]? = some code)
    (hx : execCode m.mach p.labelAddr code s = .ok (s1, .jumpLabel l)) (hl : p.labelIdx[l]? = some i) :
    step m p s = .inl (setPS s1 i (s.steps + (if codeSize code = 0 then 0 else 1))) := by
  obtain ⟨_, hst⟩ := execCode_pc_steps hx
  unfold step
  simp only [hf, hx, hl]
  by_cases h0 : codeSize code = 0
  · simp only [h0, if_true, Nat.add_zero, setPS, ← hst]
  · simp only [h0, if_false, setPS, hst]

theorem stepN_add (m : MonCfg) (p : Prog) (a b : Nat) (s s1 : State) (h : stepN m p a s = .inl s1) :
    stepN m p (a + b) s = stepN m p b s1 := by
  induction a generalizing s with
  | zero => simp only [stepN, Sum.inl.injEq] at h; subst h; simp
  | succ a ih =>
    simp only [stepN] at h
    rw [Nat.succ_add]
    simp only [stepN]
    cases hs : step m p s with
    | inr r => simp [hs] at h
    | inl s2 => simp only [hs] at h ⊢; exact ih s2 h

theorem stepN_one (m : MonCfg) (p : Prog) (s : State) : stepN m p 1 s = step m p s := by
  simp only [stepN]
  cases step m p s <;> rfl

/-- THE BRIDGE for blocks with forward local labels: if the text contains the block and the block's
labels are its own, then whenever `execFwd` runs the block (from offset `off`) to its end, iterating
the machine's `step` does the same and arrives just behind the block. -/
theorem steps_fwd (m : MonCfg) (p : Prog) (pc0 : Nat) (codes : List Code) (hb : BlockAt p pc0 codes) :
    ∀ (n off : Nat) (s s' : State), codes.length - off ≤ n → off ≤ codes.length → s.pc = pc0 + off →
      execFwd m.mach p.labelAddr (codes.drop off) s = .ok (s', .next) →
      ∃ k steps', stepN m p k s = .inl (setPS s' (pc0 + codes.length) steps') := by
  intro n
  induction n with
  | zero =>
    intro off s s' hn hoff hpc hx
    have : off = codes.length := by omega
    subst this
    rw [List.drop_length, execFwd_nil] at hx
    simp only [Except.ok.injEq, Prod.mk.injEq, and_true] at hx
    subst hx
    exact ⟨0, s.steps, by simp only [stepN, setPS, ← hpc]⟩
  | succ n ih =>
    intro off s s' hn hoff hpc hx
    by_cases hlt : off < codes.length
    · have hdrop : codes.drop off = codes[off] :: codes.drop (off + 1) := by
        rw [List.drop_eq_getElem_cons hlt]
      have hf : p.code[s.pc]? = some codes[off] := by rw [hpc]; exact hb.code off hlt
      rw [hdrop, execFwd_cons] at hx
      cases hex : execCode m.mach p.labelAddr codes[off] s with
      | error e => simp [hex, contFwd] at hx
      | ok r =>
        obtain ⟨s1, ctl⟩ := r
        rw [hex] at hx
        cases ctl with
        | next =>
          simp only [contFwd] at hx
          have hstep := step_next hf hex
          have hx' := execFwd_setPS m.mach p.labelAddr (s.pc + 1)
            (s.steps + (if codeSize codes[off] = 0 then 0 else 1)) _ (codes.drop (off + 1)) s1 (Nat.le_refl _)
          rw [hx] at hx'
          obtain ⟨k, st, hk⟩ := ih (off + 1) _ _ (by omega) (by omega)
            (by simp only [setPS]; omega) hx'
          refine ⟨1 + k, st, ?_⟩
          rw [stepN_add m p 1 k s _ ((stepN_one m p s).trans hstep)]
          exact hk
        | jumpLabel l =>
          simp only [contFwd] at hx
          cases hsk : skipTo l (codes.drop (off + 1)) with
          | none => simp [hsk] at hx
          | some rest =>
            simp only [hsk] at hx
            obtain ⟨j, hj, hrest⟩ := skipTo_spec hsk
            have hj' : codes[off + 1 + j]? = some (.LAB l) := by
              rw [List.getElem?_drop] at hj; exact hj
            obtain ⟨hjlt, hjeq⟩ := List.getElem?_eq_some_iff.1 hj'
            have hl := hb.labels _ _ hj'
            have hstep := step_jumpLabel hf hex hl
            have hdrop2 : codes.drop (off + 1 + j) = .LAB l :: rest := by
              rw [List.drop_eq_getElem_cons hjlt, hrest, List.drop_drop, hjeq]
              rfl
            have hx2 : execFwd m.mach p.labelAddr (codes.drop (off + 1 + j)) s1 = .ok (s', .next) := by
              rw [hdrop2, execFwd_cons, exec_LAB]
              simp only [contFwd]
              exact hx
            have hx' := execFwd_setPS m.mach p.labelAddr (pc0 + (off + 1 + j))
              (s.steps + (if codeSize codes[off] = 0 then 0 else 1)) _ (codes.drop (off + 1 + j)) s1
              (Nat.le_refl _)
            rw [hx2] at hx'
            obtain ⟨k, st, hk⟩ := ih (off + 1 + j) _ _ (by omega) (by omega) (by simp only [setPS]) hx'
            refine ⟨1 + k, st, ?_⟩
            rw [stepN_add m p 1 k s _ ((stepN_one m p s).trans hstep)]
            exact hk
        | jumpAddr a => simp [contFwd] at hx
        | callExt f => simp [contFwd] at hx
        | ret => simp [contFwd] at hx
    · have : off = codes.length := by omega
      subst this
      rw [List.drop_length, execFwd_nil] at hx
      simp only [Except.ok.injEq, Prod.mk.injEq, and_true] at hx
      subst hx
      exact ⟨0, s.steps, by simp only [stepN, setPS, ← hpc]⟩

theorem labName_inj {m n : Nat} : labName m = labName n ↔ m = n := Scc.Backend.lab_toString_inj

theorem skipIfZero_run (condition : Temporary) (toSkip : List Code) (k : Nat) :
    (skipIfZero condition toSkip).run k =
      .ok (compareImmediate condition 0 ++ [.JEL (labName (k + 1))] ++ toSkip ++
        [.LAB (labName (k + 1))], k + 1) := rfl

/-- memory.rs if_zero_then_else: shape of the code (`offset = none`: the register itself is
compared with 0; `some off`: the heap word `[condition + off]`) -/
theorem ifZeroThenElse_run (condition : Reg) (offset : Option Int) (thenBranch elseBranch : List Code)
    (k : Nat) :
    (ifZeroThenElse condition offset thenBranch elseBranch).run k =
      .ok ([(match offset with
              | some off => Code.CMPIM condition off 0
              | none => Code.CMPI condition 0), .JEL (labName (k + 1))] ++ elseBranch ++
        [.JMPL (labName (k + 2)), .LAB (labName (k + 1))] ++ thenBranch ++
        [.LAB (labName (k + 2))], k + 2) := rfl

def regIs (st : State) (r : Nat) (v : Word) : Prop := st.regs[r]? = some (some v)

theorem rd_regIs {st : State} {r : Nat} {v : Word} (h : regIs st r v) : rd st r = .ok v := by
  unfold regIs at h; simp [rd, h]

theorem rdRaw_regIs {st : State} {r : Nat} {v : Word} (h : regIs st r v) : rdRaw st r = .ok (some v) := by
  unfold regIs at h; simp [rdRaw, h]

theorem regIs_of_tempVal {sp : Word} {st : State} {r : Nat} {v : Word}
    (h : tempVal sp st (.reg r) = some v) : regIs st r v := by
  unfold regIs
  simp only [tempVal] at h
  cases hr : st.regs[r]? with
  | none => simp [hr] at h
  | some o => simp only [hr, Option.join_some] at h; rw [h]

def State.setReg (st : State) (r : Nat) (v : Option Word) : State :=
  { st with regs := st.regs.set! r v }

theorem wrRaw_ok {st : State} {r : Nat} (h : r < st.regs.size) (v : Option Word) :
    wrRaw st r v = .ok (st.setReg r v) := by
  simp [wrRaw, h, State.setReg]

theorem setReg_same {st : State} {r : Nat} (h : r < st.regs.size) (v : Option Word) :
    (st.setReg r v).regs[r]? = some v := by
  simp [State.setReg, Array.set!_eq_setIfInBounds, Array.getElem?_setIfInBounds, h]

theorem setReg_other {st : State} {r x : Nat} (h : x ≠ r) (v : Option Word) :
    (st.setReg r v).regs[x]? = st.regs[x]? := by
  have : ¬ r = x := fun e => h e.symm
  simp [State.setReg, Array.set!_eq_setIfInBounds, Array.getElem?_setIfInBounds, this]

theorem setReg_size (st : State) (r : Nat) (v : Option Word) :
    (st.setReg r v).regs.size = st.regs.size := by
  simp [State.setReg]

/-- `p` is the address of a word of the heap region -/
structure HeapAddr (c : MachCfg) (p : Word) : Prop where
  aligned : p.toNat % 8 = 0
  inHeap : inHeap c p.toNat = true

def State.heapGet (st : State) (p : Word) : Word := st.heapMem.getD p.toNat 0

def State.heapSet (c : MachCfg) (st : State) (p v : Word) : State :=
  { st with heapMem := st.heapMem.insert p.toNat v,
            maxHeapWritten := max st.maxHeapWritten (p.toNat + 8 - c.heapBase) }

theorem imm32_zero : imm32 0 = .ok 0 := by
  simp [imm32, fitsI32]

theorem ea_zero {st : State} {r : Nat} {p : Word} (h : regIs st r p) : ea st r 0 = .ok p := by
  simp [ea, rd_regIs h, imm32_zero]

theorem loadWord_heap {c : MachCfg} {st : State} {p : Word} (ha : HeapAddr c p) :
    loadWord c st p = .ok (st.heapGet p) := by
  simp [loadWord, loadWordRaw, ha.aligned, ha.inHeap, State.heapGet]

theorem storeWord_heap {c : MachCfg} {st : State} {p : Word} (ha : HeapAddr c p) (v : Word) :
    storeWord c st p v = .ok (st.heapSet c p v) := by
  simp [storeWord, storeWordRaw, ha.aligned, ha.inHeap, State.heapSet]

section Exec
variable (c : MachCfg) (la : String → Option Nat)

theorem exec_CMPI0 {st : State} {r : Nat} {x : Word} (h : regIs st r x) :
    execCode c la (.CMPI r 0) st = .ok ({ st with flags := some (x, 0) }, .next) := by
  simp [execCode, cmpOp, readLoc, readSrc, rd_regIs h, imm32_zero, seqNext]

theorem exec_CMPIM0_heap {st : State} {r : Nat} {p : Word} (h : regIs st r p) (ha : HeapAddr c p) :
    execCode c la (.CMPIM r 0 0) st = .ok ({ st with flags := some (st.heapGet p, 0) }, .next) := by
  simp [execCode, cmpOp, readLoc, readSrc, ea_zero h, loadWord_heap ha, imm32_zero, seqNext]

theorem exec_ADDIM_heap {st : State} {r : Nat} {p : Word} (h : regIs st r p) (ha : HeapAddr c p)
    {n : Int} (hn : fitsI32 n = true) :
    execCode c la (.ADDIM r 0 n) st =
      .ok ({ (st.heapSet c p (st.heapGet p + BitVec.ofInt 64 n)) with flags := none }, .next) := by
  simp [execCode, alu, readLoc, readSrc, writeLoc, ea_zero h, loadWord_heap ha, storeWord_heap ha,
    imm32, hn, seqNext]

theorem exec_MOVS_heap {st : State} {r b : Nat} {v p : Word} (hr : regIs st r v) (hb : regIs st b p)
    (ha : HeapAddr c p) : execCode c la (.MOVS r b 0) st = .ok (st.heapSet c p v, .next) := by
  have := storeWord_heap (st := st) ha v
  simp only [storeWord] at this
  simp [execCode, rdRaw_regIs hr, ea_zero hb, this, seqNext]

theorem exec_MOV {st : State} {r r1 : Nat} {v : Option Word} (hr : st.regs[r1]? = some v)
    (h : r < st.regs.size) : execCode c la (.MOV r r1) st = .ok (st.setReg r v, .next) := by
  simp [execCode, rdRaw, hr, wrRaw_ok h, seqNext]

end Exec

/-- machine state `st` represents the abstract heap `h`: same region, same words (as naturals),
HEAP and FREE registers hold the two list heads -/
structure HeapRel (c : MachCfg) (st : State) (h : Scc.Heap.HState) : Prop where
  base : h.base = c.heapBase
  limit : h.limit = c.heapBase + c.heapBytes
  mem : ∀ a, h.mem.get a = (st.heapMem.getD a 0).toNat
  heap : ∃ w, regIs st HEAP w ∧ w.toNat = h.heap
  free : ∃ w, regIs st FREE w ∧ w.toNat = h.free

/-- what a memory operation leaves alone: trace, pc, step counter, the whole stack, and every
register not listed in `except` -/
structure FrameH (st st' : State) (except : List Nat) : Prop where
  out : st'.out = st.out
  pc : st'.pc = st.pc
  steps : st'.steps = st.steps
  stack : ∀ n : Nat, st'.stackMem[n]? = st.stackMem[n]?
  regs : ∀ r, r ∉ except → st'.regs[r]? = st.regs[r]?

theorem FrameH.refl (st : State) (ex : List Nat) : FrameH st st ex :=
  ⟨rfl, rfl, rfl, fun _ => rfl, fun _ _ => rfl⟩

theorem FrameH.trans {s1 s2 s3 : State} {e1 e2 e3 : List Nat} (h1 : FrameH s1 s2 e1) (h2 : FrameH s2 s3 e2)
    (he1 : ∀ r, r ∈ e1 → r ∈ e3) (he2 : ∀ r, r ∈ e2 → r ∈ e3) : FrameH s1 s3 e3 :=
  ⟨h2.out.trans h1.out, h2.pc.trans h1.pc, h2.steps.trans h1.steps,
   fun n => (h2.stack n).trans (h1.stack n),
   fun r hr => (h2.regs r (fun h => hr (he2 r h))).trans (h1.regs r (fun h => hr (he1 r h)))⟩

/-- a stack-only step (Theorem-B lemmas of ProofsTransfer) as a frame -/
theorem FrameH.of_preserved {c : MachCfg} {sp : Word} {st st' : State} (B : Boundary c st sp)
    (B' : Boundary c st' sp) (P : Preserved sp st st' none) : FrameH st st' [TEMP] := by
  refine ⟨P.same.out, P.same.pc, P.same.steps, fun n => P.mem n (fun _ h => by cases h), ?_⟩
  intro r hr
  by_cases h16 : r < 16
  · exact P.regs r h16 (fun e => hr (by simp [e])) (by simp)
  · have h1 : st.regs.size ≤ r := by rw [B.size]; omega
    have h2 : st'.regs.size ≤ r := by rw [B'.size]; omega
    rw [Array.getElem?_eq_none h1, Array.getElem?_eq_none h2]

theorem HeapRel.of_same {c : MachCfg} {st st' : State} {h : Scc.Heap.HState} (R : HeapRel c st h)
    (hm : st'.heapMem = st.heapMem) (hH : st'.regs[HEAP]? = st.regs[HEAP]?)
    (hF : st'.regs[FREE]? = st.regs[FREE]?) : HeapRel c st' h := by
  obtain ⟨wh, hwh, ewh⟩ := R.heap
  obtain ⟨wf, hwf, ewf⟩ := R.free
  exact ⟨R.base, R.limit, fun a => by rw [hm]; exact R.mem a,
    ⟨wh, by unfold regIs at *; rw [hH]; exact hwh, ewh⟩,
    ⟨wf, by unfold regIs at *; rw [hF]; exact hwf, ewf⟩⟩

/-- heap model read = machine word -/
theorem heap_rd_spec {c : MachCfg} {st : State} {h : Scc.Heap.HState} (R : HeapRel c st h)
    (h8 : c.heapBase % 8 = 0) {p : Word} {v : Nat} (hrd : Scc.Heap.rd h p.toNat = .ok v) :
    HeapAddr c p ∧ v = (st.heapGet p).toNat := by
  unfold Scc.Heap.rd at hrd
  rw [R.base, R.limit] at hrd
  split at hrd
  · rename_i h1
    split at hrd
    · rename_i h2
      cases hrd
      refine ⟨⟨by omega, ?_⟩, R.mem _⟩
      simp only [inHeap, Bool.and_eq_true, decide_eq_true_eq]
      exact h1
    · cases hrd
  · cases hrd

/-- heap model write = machine store -/
theorem heap_wr_spec {c : MachCfg} {st : State} {h h' : Scc.Heap.HState} (R : HeapRel c st h)
    {p : Word} {v : Nat} (w : Word) (hw : w.toNat = v)
    (hwr : Scc.Heap.wr h p.toNat v = .ok h') :
    h' = { h with mem := h.mem.set p.toNat v } ∧ HeapRel c (st.heapSet c p w) h' := by
  unfold Scc.Heap.wr at hwr
  split at hwr
  · split at hwr
    · cases hwr
      refine ⟨rfl, R.base, R.limit, ?_, R.heap, R.free⟩
      intro a
      simp only [Scc.Heap.Mem.get_set, State.heapSet, Std.HashMap.getD_insert]
      by_cases e : p.toNat = a
      · simp [e, hw]
      · simp [e, R.mem a]
    · cases hwr
  · cases hwr

/-- the instructions that bring the contents of `t` into a register (`jumpReg t`) -/
def loadPtr : Temporary → List Code
  | .reg _ => []
  | .spill p => [.MOVL TEMP STACK (stackOffset p)]

theorem Preserved.refl (sp : Word) (st : State) (t : Option Temporary) : Preserved sp st st t :=
  ⟨Same.refl st, fun _ _ _ _ => rfl, fun _ _ => rfl⟩

section Contracts
variable {c : MachCfg} {la : String → Option Nat} {st : State} {sp : Word}

theorem loadPtr_correct (B : Boundary c st sp) {t : Temporary} (ht : TempOK t) {p : Word}
    (hv : tempVal sp st t = some p) :
    ∃ st', execStraight c la (loadPtr t) st = .ok st' ∧ Boundary c st' sp ∧ regIs st' (jumpReg t) p ∧
      Preserved sp st st' none := by
  cases t with
  | reg r => exact ⟨st, rfl, B, regIs_of_tempVal hv, Preserved.refl sp st none⟩
  | spill q =>
    have hx := t_moveToRegister (la := la) (τ := tview sp st) opndOK_temp ht.opnd (t := .spill q)
    obtain ⟨st', e, b, hvals, _, hp⟩ := transfer B la hx (t := none)
      (fun u _ hT => by simp [hT, tview])
    refine ⟨st', e, b, ?_, hp⟩
    have := hvals _ opndOK_temp
    simp only [TState.set_val, if_true] at this
    exact regIs_of_tempVal (sp := sp) (r := TEMP) (by rw [this]; exact hv)

theorem tempVal_preserved {st' : State} (P : Preserved sp st st' none) {t : Temporary} (ht : TempOK t) :
    tempVal sp st' t = tempVal sp st t := by
  cases t with
  | reg r =>
    simp only [tempVal]
    rw [P.regs r ht.2 (fun e => ht.ne_temp (by rw [e])) (by simp)]
  | spill q =>
    simp only [tempVal]
    exact P.mem _ (fun _ h => by cases h)

theorem toNat_add_ofInt_nat (w : Word) (n : Nat) (h : w.toNat + n < 2 ^ 64) :
    (w + BitVec.ofInt 64 (n : Int)).toNat = w.toNat + n := by
  rw [BitVec.ofInt_natCast, BitVec.toNat_add, BitVec.toNat_ofNat]
  omega

theorem toNat_add_neg_one (w : Word) (h : w ≠ 0) : (w + BitVec.ofInt 64 (-1)).toNat = w.toNat - 1 := by
  have h0 : w.toNat ≠ 0 := fun e => h (BitVec.eq_of_toNat_eq (by simpa using e))
  have hlt : w.toNat < 2 ^ 64 := w.isLt
  have : (BitVec.ofInt 64 (-1)).toNat = 2 ^ 64 - 1 := by decide
  rw [BitVec.toNat_add, this]
  omega

theorem refcount_zero : REFERENCE_COUNT_OFFSET = 0 := by decide
theorem next_zero : NEXT_ELEMENT_OFFSET = 0 := by decide

theorem shareBlockN_run (t : Temporary) (n k : Nat) :
    (shareBlockN t n).run k =
      .ok (compareImmediate t 0 ++ [.JEL (labName (k + 1))] ++
        ([.COMMENT "####increment refcount"] ++ loadPtr t ++ [.ADDIM (jumpReg t) 0 (n : Int)]) ++
        [.LAB (labName (k + 1))], k + 1) := by
  cases t <;> rfl

/-- CONTRACT of `share_block_n`: whenever the heap model shares the block `p` (`n` more references),
the emitted code — pointer in a register or in a spill slot — runs to its end from every boundary
state that represents the heap, and the final state represents the model's result; only TEMP, the
flags and that one heap word change. -/
theorem shareBlockN_contract (h8 : c.heapBase % 8 = 0) (B : Boundary c st sp) {h h' : Scc.Heap.HState}
    (R : HeapRel c st h) {t : Temporary} (ht : TempOK t) {p : Word} (hv : tempVal sp st t = some p)
    {n : Nat} (hn : fitsI32 (n : Int) = true) (hop : Scc.Heap.shareBlock h p.toNat n = .ok h')
    (hno : p ≠ 0 → h.mem.get p.toNat + n < 2 ^ 64) (k : Nat) :
    ∃ code, (shareBlockN t n).run k = .ok (code, k + 1) ∧
      ∃ st', execFwd c la code st = .ok (st', .next) ∧ Boundary c st' sp ∧ HeapRel c st' h' ∧
        FrameH st st' [TEMP] := by
  refine ⟨_, shareBlockN_run t n k, ?_⟩
  obtain ⟨st1, e1, B1, hfl, P1⟩ := compareImmediate_correct (la := la) B ht (i := 0) (by decide) hv
  have hfl1 : st1.flags = some (p, 0) := by rw [hfl]; simp
  have F1 := FrameH.of_preserved B B1 P1
  have R1 : HeapRel c st1 h :=
    R.of_same P1.same.heapMem (F1.regs HEAP (by decide)) (F1.regs FREE (by decide))
  rw [List.append_assoc, List.append_assoc, execFwd_straight c la _ _ st st1 e1]
  rw [← List.append_assoc]
  by_cases hp : p = 0
  · subst hp
    have : h' = h := by
      simp [Scc.Heap.shareBlock] at hop
      exact hop.symm
    subst this
    refine ⟨st1, execFwd_jel_taken c la _ _ st1 hfl1 ?_, B1, R1, F1⟩
    cases t <;> simp [skipTo, loadPtr]
  · have hp' : p.toNat ≠ 0 := fun e => hp (BitVec.eq_of_toNat_eq (by simpa using e))
    unfold Scc.Heap.shareBlock at hop
    rw [if_neg hp'] at hop
    have hv1 : tempVal sp st1 t = some p := by rw [tempVal_preserved P1 ht]; exact hv
    obtain ⟨st2, e2, B2, hr2, P2⟩ := loadPtr_correct (la := la) B1 ht hv1
    have F2 := FrameH.of_preserved B1 B2 P2
    have R2 : HeapRel c st2 h :=
      R1.of_same P2.same.heapMem (F2.regs HEAP (by decide)) (F2.regs FREE (by decide))
    cases hrd : Scc.Heap.rd h p.toNat with
    | error f => simp [hrd] at hop
    | ok cnt =>
      simp only [hrd] at hop
      obtain ⟨ha, hcnt⟩ := heap_rd_spec R2 h8 hrd
      have hget : h.mem.get p.toNat = (st2.heapGet p).toNat := R2.mem _
      have hw : (st2.heapGet p + BitVec.ofInt 64 (n : Int)).toNat = cnt + n := by
        rw [toNat_add_ofInt_nat _ _ (by rw [← hget]; exact hno hp), ← hcnt]
      obtain ⟨_, R3⟩ := heap_wr_spec R2 _ hw hop
      have e3 := exec_ADDIM_heap c la hr2 ha hn
      refine ⟨{ (st2.heapSet c p (st2.heapGet p + BitVec.ofInt 64 (n : Int))) with flags := none },
        execFwd_jel_not_taken c la _ _ st1 _ hfl1 hp ?_, ⟨B2.size, B2.rsp, B2.sp⟩,
        R3.of_same rfl rfl rfl, ?_⟩
      · rw [List.append_assoc, List.singleton_append, execFwd_cons, exec_COMMENT]
        simp only [contFwd]
        rw [execFwd_straight c la _ _ st1 st2 e2, execFwd_cons, e3]
        simp [contFwd, execFwd_nil]
      · exact (F1.trans F2 (fun _ h => h) (fun _ h => h)).trans
          ⟨rfl, rfl, rfl, fun _ => rfl, fun _ _ => rfl⟩ (fun _ h => h) (fun _ h => h)

/-- `skip_if_zero` on a zero condition (register or spill slot): nothing but the comparison runs -/
theorem skipIfZero_zero (B : Boundary c st sp) {cond : Temporary} (ht : TempOK cond)
    (hv : tempVal sp st cond = some 0) (body : List Code) (k : Nat)
    (hfresh : skipTo (labName (k + 1)) body = none) :
    ∃ code, (skipIfZero cond body).run k = .ok (code, k + 1) ∧
      ∃ st', execFwd c la code st = .ok (st', .next) ∧ Boundary c st' sp ∧ Preserved sp st st' none := by
  refine ⟨_, skipIfZero_run cond body k, ?_⟩
  obtain ⟨st1, e1, B1, hfl, P1⟩ := compareImmediate_correct (la := la) B ht (i := 0) (by decide) hv
  have hfl1 : st1.flags = some ((0 : Word), 0) := by rw [hfl]; simp
  rw [List.append_assoc, List.append_assoc, execFwd_straight c la _ _ st st1 e1, ← List.append_assoc]
  exact ⟨st1, execFwd_jel_taken c la _ _ st1 hfl1 hfresh, B1, P1⟩

/-- `skip_if_zero` on a non-zero condition: after the comparison (state `st1`: only TEMP and the
flags differ) the body runs, and the block ends where the body ends -/
theorem skipIfZero_nonzero (B : Boundary c st sp) {cond : Temporary} (ht : TempOK cond) {x : Word}
    (hv : tempVal sp st cond = some x) (hx : x ≠ 0) (body : List Code) (k : Nat) :
    ∃ code, (skipIfZero cond body).run k = .ok (code, k + 1) ∧
      ∃ st1, Boundary c st1 sp ∧ Preserved sp st st1 none ∧ st1.flags = some (x, 0) ∧
        ∀ st', execFwd c la body st1 = .ok (st', .next) → execFwd c la code st = .ok (st', .next) := by
  refine ⟨_, skipIfZero_run cond body k, ?_⟩
  obtain ⟨st1, e1, B1, hfl, P1⟩ := compareImmediate_correct (la := la) B ht (i := 0) (by decide) hv
  have hfl1 : st1.flags = some (x, 0) := by rw [hfl]; simp
  refine ⟨st1, B1, P1, hfl1, fun st' hb => ?_⟩
  rw [List.append_assoc, List.append_assoc, execFwd_straight c la _ _ st st1 e1, ← List.append_assoc]
  exact execFwd_jel_not_taken c la _ _ st1 st' hfl1 hx hb

/-- the word `if_zero_then_else` tests: the register itself, or the heap word it points to -/
def iteWord (st : State) (x : Word) : Option Int → Word
  | none => x
  | some _ => st.heapGet x

/-- `if_zero_then_else` (condition register `r`; `offset = none`: the register is tested,
`offset = some 0`: the heap word `[r + 0]`): the tested word is zero ⟹ exactly the then-branch runs
(from the state with the comparison recorded) -/
theorem ifZeroThenElse_zero {r : Nat} {x : Word} (hr : regIs st r x) {offset : Option Int}
    (ho : offset = none ∨ (offset = some 0 ∧ HeapAddr c x)) (hz : iteWord st x offset = 0)
    (tb eb : List Code) (k : Nat) (hfresh : skipTo (labName (k + 1)) eb = none) :
    ∃ code, (ifZeroThenElse r offset tb eb).run k = .ok (code, k + 2) ∧
      ∀ st', execFwd c la tb { st with flags := some (0, 0) } = .ok (st', .next) →
        execFwd c la code st = .ok (st', .next) := by
  refine ⟨_, ifZeroThenElse_run r offset tb eb k, fun st' hb => ?_⟩
  simp only [List.cons_append, List.nil_append, List.append_assoc]
  rw [execFwd_cons]
  have hcmp : ∀ (o : Option Int), (o = none ∨ (o = some 0 ∧ HeapAddr c x)) → iteWord st x o = 0 →
      execCode c la (match o with
        | some off => Code.CMPIM r off 0
        | none => Code.CMPI r 0) st = .ok ({ st with flags := some (0, 0) }, .next) := by
    intro o ho' hz'
    rcases ho' with rfl | ⟨rfl, ha⟩
    · simp only [iteWord] at hz'; subst hz'; exact exec_CMPI0 c la hr
    · simp only [iteWord] at hz'; rw [exec_CMPIM0_heap c la hr ha, hz']
  rw [hcmp offset ho hz]
  simp only [contFwd]
  have := execFwd_ite_then c la tb eb (labName (k + 1)) (labName (k + 2))
    { st with flags := some (0, 0) } st' (a := 0) rfl hfresh hb
  simpa only [List.cons_append, List.nil_append, List.append_assoc, List.singleton_append] using this

/-- … the tested word is not zero ⟹ exactly the else-branch runs -/
theorem ifZeroThenElse_nonzero {r : Nat} {x : Word} (hr : regIs st r x) {offset : Option Int}
    (ho : offset = none ∨ (offset = some 0 ∧ HeapAddr c x)) (hz : iteWord st x offset ≠ 0)
    (tb eb : List Code) (k : Nat) (hfresh : skipTo (labName (k + 2)) tb = none) :
    ∃ code, (ifZeroThenElse r offset tb eb).run k = .ok (code, k + 2) ∧
      ∀ st', execFwd c la eb { st with flags := some (iteWord st x offset, 0) } = .ok (st', .next) →
        execFwd c la code st = .ok (st', .next) := by
  refine ⟨_, ifZeroThenElse_run r offset tb eb k, fun st' hb => ?_⟩
  have h12 : labName (k + 1) ≠ labName (k + 2) := fun e => by have := labName_inj.mp e; omega
  simp only [List.cons_append, List.nil_append, List.append_assoc]
  rw [execFwd_cons]
  have hcmp : ∀ (o : Option Int), (o = none ∨ (o = some 0 ∧ HeapAddr c x)) →
      execCode c la (match o with
        | some off => Code.CMPIM r off 0
        | none => Code.CMPI r 0) st = .ok ({ st with flags := some (iteWord st x o, 0) }, .next) := by
    intro o ho'
    rcases ho' with rfl | ⟨rfl, ha⟩
    · exact exec_CMPI0 c la hr
    · exact exec_CMPIM0_heap c la hr ha
  rw [hcmp offset ho]
  simp only [contFwd]
  have := execFwd_ite_else c la tb eb (labName (k + 1)) (labName (k + 2))
    { st with flags := some (iteWord st x offset, 0) } st' (a := iteWord st x offset) (b := 0) rfl hz h12
    hfresh hb
  simpa only [List.cons_append, List.nil_append, List.append_assoc, List.singleton_append] using this

/-- erase_valid_object for the pointer in register `r` (labels `l1` = then, `l2` = end) -/
def eraseInner (r : Nat) (l1 l2 : String) : List Code :=
  .CMPIM r 0 0 :: ([.JEL l1] ++
    [.COMMENT "######either decrement refcount ...", .ADDIM r 0 (-1)] ++
    [.JMPL l2, .LAB l1] ++
    [.COMMENT "######... or add block to lazy free list", .MOVS FREE r 0, .MOV FREE r] ++
    [.LAB l2])

/-- erase_block for the pointer in register `r` -/
def eraseCode (r : Nat) (l1 l2 l3 : String) : List Code :=
  .CMPI r 0 :: ([.JEL l3] ++ (.COMMENT "######check refcount" :: eraseInner r l1 l2) ++ [.LAB l3])

theorem eraseBlock_run (t : Temporary) (k : Nat) :
    (eraseBlock t).run k =
      .ok (loadPtr t ++ eraseCode (jumpReg t) (labName (k + 1)) (labName (k + 2)) (labName (k + 3)),
        k + 3) := by
  cases t <;> rfl

/-- CONTRACT of `erase_block`: whenever the heap model erases one reference to `p` (null: nothing;
count 0: the block goes onto the lazy free list and FREE := p; otherwise the count is decremented),
the emitted code — pointer in a register or in a spill slot — runs to its end from every boundary state
that represents the heap, and the final state represents the model's result; only TEMP, FREE, the
flags and the header word of `p` change. -/
theorem eraseBlock_contract (h8 : c.heapBase % 8 = 0) (B : Boundary c st sp) {h h' : Scc.Heap.HState}
    (R : HeapRel c st h) {t : Temporary} (ht : TempOK t) {p : Word} (hv : tempVal sp st t = some p)
    (hop : Scc.Heap.eraseBlock h p.toNat = .ok h') (k : Nat) :
    ∃ code, (eraseBlock t).run k = .ok (code, k + 3) ∧
      ∃ st', execFwd c la code st = .ok (st', .next) ∧ Boundary c st' sp ∧ HeapRel c st' h' ∧
        FrameH st st' [TEMP, FREE] := by
  refine ⟨_, eraseBlock_run t k, ?_⟩
  have h12 : labName (k + 1) ≠ labName (k + 2) := fun e => by have := labName_inj.mp e; omega
  have h13 : labName (k + 1) ≠ labName (k + 3) := fun e => by have := labName_inj.mp e; omega
  have h23 : labName (k + 2) ≠ labName (k + 3) := fun e => by have := labName_inj.mp e; omega
  obtain ⟨st1, e1, B1, hr1, P1⟩ := loadPtr_correct (la := la) B ht hv
  have F1 := FrameH.of_preserved B B1 P1
  have R1 : HeapRel c st1 h :=
    R.of_same P1.same.heapMem (F1.regs HEAP (by decide)) (F1.regs FREE (by decide))
  rw [execFwd_straight c la _ _ st st1 e1]
  -- the outer test `cmp r, 0`
  let st2 : State := { st1 with flags := some (p, 0) }
  have B2 : Boundary c st2 sp := ⟨B1.size, B1.rsp, B1.sp⟩
  have R2 : HeapRel c st2 h := R1.of_same rfl rfl rfl
  have F2 : FrameH st st2 [TEMP, FREE] :=
    F1.trans (⟨rfl, rfl, rfl, fun _ => rfl, fun _ _ => rfl⟩ : FrameH st1 st2 []) (by simp)
      (by simp)
  have hr2 : regIs st2 (jumpReg t) p := hr1
  unfold eraseCode
  rw [execFwd_cons, exec_CMPI0 c la hr1]
  simp only [contFwd]
  by_cases hp : p = 0
  · subst hp
    have : h' = h := by
      simp [Scc.Heap.eraseBlock] at hop
      exact hop.symm
    subst this
    refine ⟨st2, execFwd_jel_taken c la _ _ st2 rfl ?_, B2, R2, F2⟩
    simp [skipTo, eraseInner, h13, h23]
  · have hp' : p.toNat ≠ 0 := fun e => hp (BitVec.eq_of_toNat_eq (by simpa using e))
    unfold Scc.Heap.eraseBlock at hop
    rw [if_neg hp'] at hop
    cases hrd : Scc.Heap.rd h p.toNat with
    | error f => simp [hrd] at hop
    | ok cnt =>
      simp only [hrd] at hop
      obtain ⟨ha, hcnt⟩ := heap_rd_spec R2 h8 hrd
      -- the inner test `cmp qword [r + 0], 0`
      let st3 : State := { st2 with flags := some (st2.heapGet p, 0) }
      have B3 : Boundary c st3 sp := ⟨B1.size, B1.rsp, B1.sp⟩
      have R3 : HeapRel c st3 h := R1.of_same rfl rfl rfl
      have hr3 : regIs st3 (jumpReg t) p := hr1
      have hget3 : st3.heapGet p = st2.heapGet p := rfl
      have F3 : FrameH st st3 [TEMP, FREE] :=
        F1.trans (⟨rfl, rfl, rfl, fun _ => rfl, fun _ _ => rfl⟩ : FrameH st1 st3 []) (by simp)
          (by simp)
      suffices hbody : ∃ st', execFwd c la ([.JEL (labName (k + 1))] ++
            [.COMMENT "######either decrement refcount ...", .ADDIM (jumpReg t) 0 (-1)] ++
            [.JMPL (labName (k + 2)), .LAB (labName (k + 1))] ++
            [.COMMENT "######... or add block to lazy free list", .MOVS FREE (jumpReg t) 0,
              .MOV FREE (jumpReg t)] ++ [.LAB (labName (k + 2))]) st3 = .ok (st', .next) ∧
            Boundary c st' sp ∧ HeapRel c st' h' ∧ FrameH st3 st' [TEMP, FREE] by
        obtain ⟨st', ex, B', R', F'⟩ := hbody
        refine ⟨st', execFwd_jel_not_taken c la _ _ st2 st' rfl hp ?_, B', R',
          F3.trans F' (fun _ h => h) (fun _ h => h)⟩
        rw [execFwd_cons, exec_COMMENT]
        simp only [contFwd]
        unfold eraseInner
        rw [execFwd_cons, exec_CMPIM0_heap c la hr2 ha]
        simp only [contFwd]
        exact ex
      by_cases hc0 : cnt = 0
      · -- count 0: onto the lazy free list
        subst hc0
        have hw0 : st2.heapGet p = 0 := BitVec.eq_of_toNat_eq (by simpa using hcnt.symm)
        have hfl3 : st3.flags = some ((0 : Word), 0) := by simp [st3, hw0]
        obtain ⟨f, hf, ef⟩ := R3.free
        simp only [if_true] at hop
        cases hwr : Scc.Heap.wr h p.toNat h.free with
        | error e => simp [hwr] at hop
        | ok h1 =>
          simp only [hwr, Except.ok.injEq] at hop
          obtain ⟨eh1, R4⟩ := heap_wr_spec R3 f ef hwr
          let st4 : State := st3.heapSet c p f
          have hr4 : st4.regs[jumpReg t]? = some (some p) := hr1
          have hsz : FREE < st4.regs.size := by
            show FREE < st1.regs.size
            rw [B1.size]; decide
          let st5 : State := st4.setReg FREE (some p)
          refine ⟨st5, ?_, ?_, ?_, ?_⟩
          · refine execFwd_ite_then c la _ _ _ _ st3 st5 hfl3 (by simp [skipTo]) ?_
            rw [execFwd_cons, exec_COMMENT]
            simp only [contFwd]
            rw [execFwd_cons, exec_MOVS_heap c la hf hr3 ha]
            simp only [contFwd]
            rw [execFwd_cons, exec_MOV c la hr4 hsz]
            simp only [contFwd, execFwd_nil]
            rfl
          · refine ⟨by rw [setReg_size]; exact B1.size, ?_, B1.sp⟩
            rw [setReg_other (by decide)]
            exact B1.rsp
          · subst hop
            obtain ⟨wh, hwh, ewh⟩ := R4.heap
            refine ⟨R4.base, R4.limit, R4.mem, ⟨wh, ?_, ewh⟩, ⟨p, setReg_same hsz _, rfl⟩⟩
            unfold regIs at hwh ⊢
            rw [setReg_other (by decide)]
            exact hwh
          · refine ⟨rfl, rfl, rfl, fun _ => rfl, fun r hr => ?_⟩
            exact setReg_other (fun e => hr (by simp [e])) _
      · -- count ≠ 0: decrement
        have hw0 : st2.heapGet p ≠ 0 := fun e => hc0 (by rw [hcnt, e]; rfl)
        rw [if_neg hc0] at hop
        have hw : (st3.heapGet p + BitVec.ofInt 64 (-1)).toNat = cnt - 1 := by
          rw [hget3, toNat_add_neg_one _ hw0, ← hcnt]
        obtain ⟨_, R4⟩ := heap_wr_spec R3 _ hw hop
        refine ⟨{ (st3.heapSet c p (st3.heapGet p + BitVec.ofInt 64 (-1))) with flags := none }, ?_,
          ⟨B1.size, B1.rsp, B1.sp⟩, R4.of_same rfl rfl rfl,
          ⟨rfl, rfl, rfl, fun _ => rfl, fun _ _ => rfl⟩⟩
        refine execFwd_ite_else c la _ _ _ _ st3 _ (a := st2.heapGet p) (b := 0) rfl hw0 h12
          (by simp [skipTo]) ?_
        rw [execFwd_cons, exec_COMMENT]
        simp only [contFwd]
        rw [execFwd_cons, exec_ADDIM_heap c la hr3 ha (by decide)]
        simp only [contFwd, execFwd_nil]

end Contracts

end Scc.X86
