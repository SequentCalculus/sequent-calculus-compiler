/-
  Scc.X86.MemCode — WHAT memory.rs of the x86-64 backend emits.  The methods without a capacity check
  (`skip_if_zero`, `if_zero_then_else`, `erase_block`, `share_block_n`, `acquire_block`) return the pure
  code `…C` from every label counter; `store` succeeds exactly when its temporaries exist and then returns
  the backend-independent code `Scc.Mem.StoreCode.storeFieldsC` of the leaves `memCode`; `load` succeeds only
  when its temporaries exist and then returns `Scc.Mem.LoadCode.loadC` of the leaves `loadCode`.
-/
import Scc.X86.Backend
import Scc.Mem.LoadCode
import Scc.Backend.ProofsGen

namespace Scc.X86

open Scc.AxCut
open Scc.Backend (GenM TempNum freshLabel Gen Emits)

/-- utils.rs temporary_from_position, total -/
def posTemp (n : Nat) : Temporary := if n + 4 < 16 then .reg (n + 4) else .spill (n - 11)

theorem temporaryFromPosition_eq {n : Nat} (h : n < 267) : temporaryFromPosition n = .ok (posTemp n) := by
  unfold temporaryFromPosition posTemp
  have hR : RESERVED = 4 := rfl
  have hN : REGISTER_NUM = 16 := rfl
  have hS : RESERVED_SPILLS = 1 := rfl
  have hP : SPILL_NUM = 256 := rfl
  simp only [hR, hN, hS, hP]
  by_cases h1 : n + 4 < 16
  · simp [h1]
  · have : n + 4 - 16 + 1 < 256 := by omega
    have e : n + 4 - 16 + 1 = n - 11 := by omega
    rw [if_neg h1, if_neg h1, if_pos this, e]

/-- the capacity check of the backend is the success of `temporary_from_position` -/
theorem temporaryFromPosition_ok_iff {n : Nat} {t : Temporary} :
    temporaryFromPosition n = .ok t ↔ n < 267 ∧ t = posTemp n := by
  by_cases h : n < 267
  · rw [temporaryFromPosition_eq h]
    exact ⟨fun e => ⟨h, by cases e; rfl⟩, fun e => by rw [e.2]⟩
  · refine ⟨fun e => ?_, fun e => absurd e.1 h⟩
    have hR : RESERVED = 4 := rfl
    have hN : REGISTER_NUM = 16 := rfl
    have hS : RESERVED_SPILLS = 1 := rfl
    have hP : SPILL_NUM = 256 := rfl
    simp only [temporaryFromPosition, hR, hN, hS, hP] at e
    rw [if_neg (by omega), if_neg (by omega)] at e
    cases e

theorem posTemp_inj {m n : Nat} : posTemp m = posTemp n ↔ m = n := by
  unfold posTemp
  constructor
  · intro h
    by_cases h1 : m + 4 < 16 <;> by_cases h2 : n + 4 < 16 <;> simp only [h1, h2, if_true, if_false] at h
    · injection h with h; omega
    · cases h
    · cases h
    · injection h with h; omega
  · rintro rfl; rfl

theorem gen_freshTemporary (num : TempNum) (ctx : Ctx) :
    Gen (freshTemporary num ctx) (2 * ctx.length + num.toNat < 267)
      (fun k => (posTemp (2 * ctx.length + num.toNat), k)) := by
  unfold freshTemporary liftE
  split
  · rename_i t ht
    obtain ⟨h1, h2⟩ := temporaryFromPosition_ok_iff.1 ht
    rw [h2]
    exact (Gen.pure _).congr ⟨fun _ => h1, fun _ => trivial⟩
  · rename_i e he
    refine Gen.throw.congr ⟨False.elim, fun h => ?_⟩
    rw [temporaryFromPosition_eq h] at he
    cases he

theorem posTemp_reg {m : Nat} (h : m + 4 < 16) : posTemp m = .reg (m + 4) := by
  unfold posTemp; rw [if_pos h]

theorem posTemp_spill {m : Nat} (h : ¬ m + 4 < 16) : posTemp m = .spill (m - 11) := by
  unfold posTemp; rw [if_neg h]

/-- memory.rs BlockPosition ↦ the model's -/
def posMap : BlockPosition → Scc.Heap.BlockPosition
  | .last => .last
  | .other => .other

theorem restLength_eq (n : Nat) (pos : BlockPosition) :
    restLength n pos = Scc.Heap.restLength n (posMap pos) := by
  cases pos <;> rfl

/-- memory.rs LoadMode ↦ the model's -/
def modeMap : LoadMode → Scc.Heap.LoadMode
  | .release => .release
  | .share => .share

end Scc.X86

namespace Scc.X86.Mem

open Scc.AxCut
open Scc.Backend (GenM TempNum freshLabel Gen Emits)

/-- memory.rs skip_if_zero from the label counter `k` (draws `k + 1`) -/
def skipIfZeroC (cond : Temporary) (toSkip : List Code) (k : Nat) : List Code :=
  compareImmediate cond 0 ++ [.JEL (labName (k + 1))] ++ toSkip ++ [.LAB (labName (k + 1))]

def cmpZero (cond : Reg) : Option Int → Code
  | some off => .CMPIM cond off 0
  | none => .CMPI cond 0

/-- memory.rs if_zero_then_else from the label counter `k` (draws `k + 1`, `k + 2`) -/
def ifZeroThenElseC (cond : Reg) (offset : Option Int) (tb eb : List Code) (k : Nat) : List Code :=
  [cmpZero cond offset, .JEL (labName (k + 1))] ++ eb ++ [.JMPL (labName (k + 2)), .LAB (labName (k + 1))] ++ tb ++
    [.LAB (labName (k + 2))]

theorem ifZeroThenElse_run (cond : Reg) (offset : Option Int) (tb eb : List Code) (k : Nat) :
    (ifZeroThenElse cond offset tb eb).run k = .ok (ifZeroThenElseC cond offset tb eb k, k + 2) := by
  cases offset <;> rfl

/-- memory.rs erase_valid_object for the block in `r` from the label counter `k` (draws `k + 1`, `k + 2`): reference
count 0 — the block goes onto the lazy free list, otherwise the count is decremented -/
def eraseValidObjectC (r : Reg) (k : Nat) : List Code :=
  ifZeroThenElseC r (some REFERENCE_COUNT_OFFSET)
    [.COMMENT "######... or add block to lazy free list", .MOVS FREE r NEXT_ELEMENT_OFFSET, .MOV FREE r]
    [.COMMENT "######either decrement refcount ...", .ADDIM r REFERENCE_COUNT_OFFSET (-1)] k

/-- memory.rs erase_block from the label counter `k` (draws three labels) -/
def eraseBlockC : Temporary → Nat → List Code
  | .reg r, k => skipIfZeroC (.reg r) ([.COMMENT "######check refcount"] ++ eraseValidObjectC r k) (k + 2)
  | .spill p, k => [.MOVL TEMP STACK (stackOffset p)] ++
      skipIfZeroC (.reg TEMP) ([.COMMENT "######check refcount"] ++ eraseValidObjectC TEMP k) (k + 2)

theorem eraseBlock_run (t : Temporary) (k : Nat) : (eraseBlock t).run k = .ok (eraseBlockC t k, k + 3) := by
  cases t <;> rfl

/-- memory.rs share_block_n from the label counter `k` (draws one label) -/
def shareBlockNC (t : Temporary) (n : Nat) (k : Nat) : List Code :=
  match t with
  | .reg r => skipIfZeroC t ([.COMMENT "####increment refcount"] ++ [.ADDIM r REFERENCE_COUNT_OFFSET (n : Int)]) k
  | .spill p => skipIfZeroC t ([.COMMENT "####increment refcount"] ++ [.MOVL TEMP STACK (stackOffset p),
      .ADDIM TEMP REFERENCE_COUNT_OFFSET (n : Int)]) k

theorem shareBlockN_run (t : Temporary) (n k : Nat) : (shareBlockN t n).run k = .ok (shareBlockNC t n k, k + 1) := by
  cases t <;> rfl

/-- acquire_block::erase_fields from the label counter `k` (three labels per field) -/
def eraseFieldsC (r : Reg) : Nat → Nat → Nat → List Code
  | 0, _, _ => []
  | n + 1, offset, k =>
    [.COMMENT ("#####check child " ++ toString (offset + 1) ++ " for erasure"),
      .MOVL TEMP r (fieldOffset .fst offset)] ++ eraseBlockC (.reg TEMP) k ++ eraseFieldsC r n (offset + 1) (k + 3)

/-- the move of HEAP into the target of `acquire_block` -/
def acquireHead : Temporary → List Code
  | .reg r => [.MOV r HEAP]
  | .spill p => [.MOV TEMP HEAP, .MOVS HEAP STACK (stackOffset p)]

/-- the register through which memory.rs reaches the block the temporary `t` points to: `t` itself, or TEMP for a
spill slot (the target of `acquire_block`, a pointer just loaded by `load_field`); the same function as `jumpReg`
of ProofsArith.lean (`shareReg_eq`, MemProofsLoad.lean) -/
def shareReg : Temporary → Reg
  | .reg r => r
  | .spill _ => TEMP

/-- memory.rs acquire_block from the label counter `k` (draws 13 labels) -/
def acquireBlockC (t : Temporary) (k : Nat) : List Code :=
  acquireHead t ++ [.COMMENT "##get next free block into heap register",
      .COMMENT "###(1) check linear free list for next block", .MOVL HEAP HEAP NEXT_ELEMENT_OFFSET] ++
    ifZeroThenElseC HEAP none
      ([.COMMENT "###(2) check non-linear lazy free list for next block", .MOV HEAP FREE,
          .MOVL FREE FREE NEXT_ELEMENT_OFFSET] ++
        ifZeroThenElseC FREE none
          [.COMMENT "###(3) fall back to bump allocation", .MOV FREE HEAP,
            .ADDI FREE (fieldOffset .fst FIELDS_PER_BLOCK)]
          ([.COMMENT "####mark linear free list empty", .MOVIM HEAP NEXT_ELEMENT_OFFSET 0,
            .COMMENT "####erase children of next block"] ++ eraseFieldsC HEAP FIELDS_PER_BLOCK 0 k) (k + 9))
      [.COMMENT "####initialize refcount of just acquired block", .MOVIM (shareReg t) REFERENCE_COUNT_OFFSET 0]
      (k + 11)

theorem acquireBlock_run (t : Temporary) (k : Nat) :
    (acquireBlock t).run k = .ok (acquireBlockC t k, k + 13) := by
  cases t <;> rfl

/-- memory.rs store_field for the temporary `t` (through TEMP for a spilled one) -/
def storeFieldC : Temporary → Reg → Int → List Code
  | .reg r, blk, fo => [.MOVS r blk fo]
  | .spill p, blk, fo => [.MOVL TEMP STACK (stackOffset p), .MOVS TEMP blk fo]

@[reducible] def memCode : Scc.Mem.StoreCode Code Temporary where
  ρ := Reg
  lab := .LAB
  comment := .COMMENT
  pos := posTemp
  cap := 267
  okBlk := fun r => 2 ≤ r ∧ r < 16
  offOk := fun off => off ≤ 1000
  offOk_mono := fun h1 h2 => Nat.le_trans h1 h2
  offOk_block := by decide
  heapR := HEAP
  heapR_ok := by decide
  stF := fun t r num off => storeFieldC t r (fieldOffset num off)
  stZ := storeZero
  acqLabs := 13
  acq := fun m k => acquireBlockC (posTemp m) k
  zero := fun m => loadImmediate (posTemp m) 0

theorem gen_storeField (num : TempNum) (ctx : Ctx) (blk off : Nat) :
    Gen (storeField num ctx blk off) (2 * ctx.length + num.toNat < 267)
      (fun k => (storeFieldC (posTemp (2 * ctx.length + num.toNat)) blk (fieldOffset num off), k)) := by
  unfold storeField
  refine (Gen.bindc (gen_freshTemporary num ctx) (c2 := True) ?_).congr (by simp)
  cases posTemp (2 * ctx.length + num.toNat) <;> exact Gen.pure _

theorem gen_storeValue (b : Binding) (ctx : Ctx) (blk off : Nat) :
    Gen (storeValue b ctx blk off) (2 * ctx.length + 1 < 267)
      (fun k => (memCode.storeValueC b ctx.length blk off, k)) := by
  unfold storeValue Scc.Mem.StoreCode.storeValueC
  by_cases hχ : (b.chi == .ext) = true
  · simp only [hχ, if_true]
    refine (Gen.bindc (gen_storeField .snd ctx blk off) (c2 := True) ?_).congr (by simp [TempNum.toNat])
    exact Gen.pure _
  · simp only [hχ, Bool.false_eq_true, if_false]
    refine (Gen.bindc (gen_storeField .snd ctx blk off) (Gen.bindc (gen_storeField .fst ctx blk off)
      (c2 := True) ?_)).congr ?_
    · exact Gen.pure _
    · simp only [TempNum.toNat]
      exact ⟨fun h => h.1, fun h => ⟨h, by omega, trivial⟩⟩

theorem gen_storeValuesLoop (rem : Ctx) (blk : Nat) : ∀ (bsRev : List Binding) (ff : Nat),
    Gen (storeValuesLoop rem blk bsRev ff) (bsRev.length ≤ ff ∧ (bsRev = [] ∨ 2 * (rem.length + bsRev.length) ≤ 267))
      (fun k => (memCode.storeLoopC rem.length blk bsRev ff, k))
  | [], _ => (Gen.pure _).congr (by simp)
  | b :: rest, ff => by
    unfold storeValuesLoop
    have hp : Gen (pred1 ff) (0 < ff) (fun k => (ff - 1, k)) := by
      cases ff with
      | zero => exact Gen.throw.congr (by simp)
      | succ n => exact (Gen.pure _).congr (by simp)
    have hlen : (rem ++ rest.reverse).length = rem.length + rest.length := by simp
    refine (Gen.bindc hp (Gen.bindc (gen_storeValue b _ blk _) (Gen.bind (gen_storeValuesLoop rem blk rest (ff - 1))
      (fun r => Gen.pure _) (F := fun k => (memCode.storeLoopC rem.length blk (b :: rest) ff, k))
      fun _ => ?_))).congr ?_
    · simp [Scc.Mem.StoreCode.storeLoopC]
    · rw [hlen]
      simp only [List.length_cons, reduceCtorEq, false_or, and_true]
      constructor
      · rintro ⟨h1, h2, h3, h4⟩; omega
      · rintro ⟨h1, h2⟩
        refine ⟨by omega, by omega, by omega, ?_⟩
        by_cases hr : rest = []
        · exact Or.inl hr
        · exact Or.inr (by omega)

theorem gen_storeValues (toStore rem : Ctx) (blk ff : Nat) :
    Gen (storeValues toStore rem blk ff)
      (toStore.length ≤ ff ∧ (toStore = [] ∨ 2 * (rem.length + toStore.length) ≤ 267))
      (fun k => (memCode.storeValuesC toStore rem.length blk ff, k)) := by
  unfold storeValues
  refine (Gen.bind (gen_storeValuesLoop rem blk toStore.reverse ff) (fun r => Gen.pure _) fun _ => ?_).congr
    (by simp)
  simp only [Scc.Mem.StoreCode.storeValuesC, Scc.Mem.StoreCode.storeZerosC, storeZeros, List.flatMap_def]

theorem restLength_fits (n : Nat) (pos : BlockPosition) : n - restLength n pos ≤ FIELDS_PER_BLOCK - pos.toNat := by
  unfold restLength
  split <;> omega

/-- with fuel beyond the number of fields, `store_fields` succeeds exactly when its temporaries exist, and
returns the backend-independent code -/
theorem gen_storeFields : ∀ (fuel : Nat) (toStore rem : Ctx) (pos : BlockPosition), toStore.length < fuel →
    Gen (storeFields fuel toStore rem pos) (memCode.FitsS toStore rem.length (posMap pos))
      (memCode.storeFieldsC fuel toStore rem.length (posMap pos))
  | 0, _, _, _, h => absurd h (Nat.not_lt_zero _)
  | fuel + 1, toStore, rem, pos, hn => by
    unfold storeFields
    unfold Scc.Mem.StoreCode.FitsS
    simp only [Scc.Mem.StoreCode.storeFieldsC]
    by_cases hne : toStore = []
    · subst hne
      simp only [List.isEmpty_nil, if_true]
      cases pos with
      | last =>
        simp only [if_true, posMap]
        refine (Gen.bindc (gen_freshTemporary .fst rem) (c2 := True) ?_).congr ?_
        · exact Gen.pure _
        · simp only [TempNum.toNat, List.length_nil, reduceCtorEq, and_false, false_or, and_true, Nat.add_zero,
            false_imp_iff]
          show _ ↔ 2 * (rem.length + 0) ≤ 267 ∧ 2 * rem.length < 267
          omega
      | other => exact (Gen.pure _).congr (by simp [posMap])
    · have hie : toStore.isEmpty = false := List.isEmpty_eq_false_iff.mpr hne
      have hpos : 0 < toStore.length := List.length_pos_iff.mpr hne
      simp only [hie, Bool.false_eq_true, if_false, if_neg hne, false_and, false_or]
      have hrl : Scc.Heap.restLength toStore.length (posMap pos) = restLength toStore.length pos :=
        (restLength_eq _ _).symm
      have hrlt : restLength toStore.length pos < toStore.length := by
        rw [restLength_eq]; exact Scc.Heap.restLength_lt _ _ hpos
      have hfit := restLength_fits toStore.length pos
      rw [hrl]
      generalize restLength toStore.length pos = rl at hrlt hfit ⊢
      have hlt : (rem ++ toStore.take rl).length = rem.length + rl := by
        simp [List.length_take]; omega
      have hlt2 : (toStore.take rl).length = rl := by simp [List.length_take]; omega
      have hdne : toStore.drop rl ≠ [] := fun e => by
        have := congrArg List.length e; simp only [List.length_drop, List.length_nil] at this; omega
      have h3 := gen_storeValues (toStore.drop rl) (rem ++ toStore.take rl) HEAP (FIELDS_PER_BLOCK - pos.toNat)
      rw [hlt] at h3
      have h5 := gen_storeFields fuel (toStore.take rl) rem .other (by rw [hlt2]; omega)
      have tail : ∀ c1 : List Code, Gen (do
            let c3 ← storeValues (toStore.drop rl) (rem ++ toStore.take rl) HEAP (FIELDS_PER_BLOCK - pos.toNat)
            let t ← freshTemporary .fst (rem ++ toStore.take rl)
            let c4 ← acquireBlock t
            let c5 ← storeFields fuel (toStore.take rl) rem .other
            pure (c1 ++ (if pos = .last then [Code.COMMENT "#allocate memory"] else []) ++ c3 ++
              [.COMMENT "##acquire free block from heap register"] ++ c4 ++ c5))
          (2 * (rem.length + toStore.length) ≤ 267)
          (fun k =>
            let r := memCode.storeFieldsC fuel (toStore.take rl) rem.length .other (k + 13)
            (c1 ++ (if pos = .last then [Code.COMMENT "#allocate memory"] else []) ++
              memCode.storeValuesC (toStore.drop rl) (rem.length + rl) HEAP (FIELDS_PER_BLOCK - pos.toNat) ++
              [.COMMENT "##acquire free block from heap register"] ++
              acquireBlockC (posTemp (2 * (rem.length + rl))) k ++ r.1, r.2)) := by
        intro c1
        have hin : ∀ pre : List Code, Gen (do
              let c4 ← acquireBlock (posTemp (2 * (rem.length + rl)))
              let c5 ← storeFields fuel (toStore.take rl) rem .other
              pure (pre ++ c4 ++ c5))
            (True ∧ memCode.FitsS (toStore.take rl) rem.length .other ∧ True)
            (fun k =>
              let r := memCode.storeFieldsC fuel (toStore.take rl) rem.length .other (k + 13)
              (pre ++ acquireBlockC (posTemp (2 * (rem.length + rl))) k ++ r.1, r.2)) := fun pre =>
          Gen.bind (Gen.of_run (acquireBlock_run _)) (fun c4 => Gen.bind h5 (fun c5 => Gen.pure _) fun _ => rfl)
            fun _ => rfl
        have hf := gen_freshTemporary .fst (rem ++ toStore.take rl)
        simp only [TempNum.toNat, Nat.add_zero, hlt] at hf
        refine (Gen.bindc h3 (Gen.bindc hf (hin _))).congr ?_
        simp only [List.length_drop, hdne, false_or, true_and, and_true, hlt2,
          Scc.Mem.StoreCode.FitsS, reduceCtorEq, true_imp_iff]
        constructor
        · rintro ⟨⟨_, h⟩, _⟩; omega
        · intro h
          refine ⟨⟨hfit, by omega⟩, by omega, ?_⟩
          by_cases hr : toStore.take rl = []
          · exact Or.inl hr
          · exact Or.inr ⟨by omega, by omega, by omega⟩
      cases pos with
      | last =>
        have := tail []
        simp only [reduceCtorEq, if_false, if_true, posMap, false_imp_iff, and_true] at this ⊢
        refine (Gen.bindc (Gen.pure _) this).congr ?_
        simp only [hne, false_and, false_or, true_and]
        omega
      | other =>
        have hsf := gen_storeField .fst (rem ++ toStore) HEAP (FIELDS_PER_BLOCK - 1)
        simp only [TempNum.toNat, Nat.add_zero, List.length_append] at hsf
        have := tail ([Code.COMMENT "##store link to previous block"] ++
            storeFieldC (posTemp (2 * (rem.length + toStore.length))) HEAP
              (fieldOffset .fst (FIELDS_PER_BLOCK - 1)))
        simp only [reduceCtorEq, if_false, if_true, posMap, true_imp_iff] at this ⊢
        refine (Gen.bindc hsf (Gen.bindc (Gen.pure _) this)).congr ?_
        simp only [hne, false_and, false_or, true_and]
        omega

/-- `store` succeeds exactly when its temporaries exist, and returns the code of `memCode` -/
theorem gen_store (toStore rem : Ctx) :
    Gen (store toStore rem) (memCode.FitsS toStore rem.length .last)
      (memCode.storeFieldsC (toStore.length + 1) toStore rem.length .last) :=
  gen_storeFields _ toStore rem .last (Nat.lt_succ_self _)

theorem emits_store (toStore rem : Ctx) :
    Emits (store toStore rem) (memCode.FitsS toStore rem.length .last)
      (memCode.storeFieldsC (toStore.length + 1) toStore rem.length .last) :=
  (gen_store toStore rem).emits

theorem store_run (toStore rem : Ctx) (k : Nat) (hcap : 2 * (rem.length + toStore.length) ≤ 267) :
    (store toStore rem).run k = .ok (memCode.storeFieldsC (toStore.length + 1) toStore rem.length .last k) :=
  (gen_store toStore rem).run (Or.inr ⟨hcap, by show 2 * rem.length < 267; omega, fun e => by cases e⟩) k

/-- memory.rs load_field for the temporary `t` (through TEMP for a spilled one) -/
def loadFieldC : Temporary → Reg → Int → List Code
  | .reg r, blk, fo => [.MOVL r blk fo]
  | .spill p, blk, fo => [.MOVL TEMP blk fo, .MOVS TEMP STACK (stackOffset p)]

/-- the move of a spilled object pointer into TEMP -/
def loadHead : Temporary → List Code
  | .reg _ => []
  | .spill p => [.MOVL TEMP STACK (stackOffset p)]

/-- load::load_register around its two branches, from the label counter `k`: the test of the reference count
of the object in the register `mb` -/
def loadTopC (mb : Reg) (cT cE : List Code) (k : Nat) : List Code :=
  [.COMMENT "##check refcount"] ++
    ifZeroThenElseC mb (some REFERENCE_COUNT_OFFSET)
      ([.COMMENT "##... or release blocks onto linear free list when loading"] ++ cT)
      ([.COMMENT "##either decrement refcount and share children...", .ADDIM mb REFERENCE_COUNT_OFFSET (-1)] ++ cE) k

/-- the leaves of `load_fields`: a spilled block pointer goes through TEMPORARY_TEMP (rax), which is saved in
the spill slot SPILL_TEMP -/
@[reducible] def loadCode : Scc.Mem.LoadCode Code Temporary where
  toStoreCode := memCode
  ldF := fun t r num off => loadFieldC t r (fieldOffset num off)
  shrLabs := 1
  shr := fun m k => shareBlockNC (.reg (shareReg (posTemp m))) 1 k
  release := releaseBlock
  isSpill := fun m => !decide (m + 4 < 16)
  regOf := fun m => m + 4
  regOf_ok := fun {m} _ h => by
    simp only [Bool.not_eq_false', decide_eq_true_eq] at h
    show 2 ≤ m + 4 ∧ m + 4 < 16
    omega
  ttR := TEMPORARY_TEMP
  ttR_ok := by decide
  evac := [.MOVS TEMPORARY_TEMP STACK (stackOffset SPILL_TEMP)]
  ldBlk := fun m => [.MOVL TEMPORARY_TEMP STACK (stackOffset (m - 11))]
  restore := [.MOVL TEMPORARY_TEMP STACK (stackOffset SPILL_TEMP)]
  topLabs := 2
  top := fun m cT cE k =>
    [.COMMENT "#load from memory"] ++ loadHead (posTemp m) ++ loadTopC (shareReg (posTemp m)) cT cE k

theorem gen_loadField (num : TempNum) (ctx : Ctx) (blk off : Nat) :
    Gen (loadField num ctx blk off) (2 * ctx.length + num.toNat < 267)
      (fun k => (loadFieldC (posTemp (2 * ctx.length + num.toNat)) blk (fieldOffset num off), k)) := by
  unfold loadField
  refine (Gen.bindc (gen_freshTemporary num ctx) (c2 := True) ?_).congr (by simp)
  cases posTemp (2 * ctx.length + num.toNat) <;> exact Gen.pure _

theorem gen_loadValue (b : Binding) (ctx : Ctx) (blk off : Nat) (mode : LoadMode) :
    Gen (loadValue b ctx blk off mode) (2 * ctx.length + 1 < 267)
      (fun k => loadCode.loadValueC b ctx.length blk off (modeMap mode) k) := by
  unfold loadValue Scc.Mem.LoadCode.loadValueC
  by_cases hχ : (b.chi != .ext) = true
  · simp only [hχ, if_true]
    have hf := gen_freshTemporary .fst ctx
    simp only [TempNum.toNat, Nat.add_zero] at hf
    cases mode with
    | share =>
      simp only [modeMap, if_true]
      refine (Gen.bindc (gen_loadField .snd ctx blk off) (Gen.bindc (gen_loadField .fst ctx blk off)
        (Gen.bindc hf (c2 := True) ?_))).congr ?_
      · simp only [TempNum.toNat, Nat.add_zero]
        generalize posTemp (2 * ctx.length) = t
        cases t <;>
          exact (Gen.bind (Gen.of_run (shareBlockN_run _ 1)) (fun c3 => Gen.pure _) fun _ => rfl).congr (by simp)
      · simp only [TempNum.toNat]
        exact ⟨fun h => h.1, fun h => ⟨h, by omega, by omega, trivial⟩⟩
    | release =>
      simp only [modeMap, reduceCtorEq, if_false]
      refine (Gen.bindc (gen_loadField .snd ctx blk off) (Gen.bindc (gen_loadField .fst ctx blk off)
        (Gen.bindc hf (c2 := True) ?_))).congr ?_
      · exact Gen.pure _
      · simp only [TempNum.toNat]
        exact ⟨fun h => h.1, fun h => ⟨h, by omega, by omega, trivial⟩⟩
  · simp only [hχ, Bool.false_eq_true, if_false]
    refine (Gen.bindc (gen_loadField .snd ctx blk off) (c2 := True) ?_).congr (by simp [TempNum.toNat])
    exact Gen.pure _

theorem gen_loadValuesLoop (existing : Ctx) (blk : Nat) (mode : LoadMode) : ∀ (bsRev : List Binding) (ff : Nat),
    Gen (loadValuesLoop existing blk mode bsRev ff)
      (bsRev.length ≤ ff ∧ (bsRev = [] ∨ 2 * (existing.length + bsRev.length) ≤ 267))
      (fun k => loadCode.loadLoopC existing.length blk (modeMap mode) bsRev ff k)
  | [], _ => (Gen.pure _).congr (by simp)
  | b :: rest, ff => by
    unfold loadValuesLoop
    have hp : Gen (pred1 ff) (0 < ff) (fun k => (ff - 1, k)) := by
      cases ff with
      | zero => exact Gen.throw.congr (by simp)
      | succ n => exact (Gen.pure _).congr (by simp)
    have hlen : (existing ++ rest.reverse).length = existing.length + rest.length := by simp
    have hv := gen_loadValue b (existing ++ rest.reverse) blk (ff - 1) mode
    rw [hlen] at hv
    refine (Gen.bindc hp (Gen.bind hv (fun c => Gen.bind (gen_loadValuesLoop existing blk mode rest (ff - 1))
      (fun cs => Gen.pure _) fun _ => rfl) fun _ => ?_)).congr ?_
    · simp [Scc.Mem.LoadCode.loadLoopC]
    · simp only [List.length_cons, reduceCtorEq, false_or, and_true]
      constructor
      · rintro ⟨h1, h2, h3, h4⟩; omega
      · rintro ⟨h1, h2⟩
        refine ⟨by omega, by omega, by omega, ?_⟩
        by_cases hr : rest = []
        · exact Or.inl hr
        · exact Or.inr (by omega)

theorem gen_loadValues (toLoad existing : Ctx) (blk ff : Nat) (mode : LoadMode) :
    Gen (loadValues toLoad existing blk ff mode)
      (toLoad.length ≤ ff ∧ (toLoad = [] ∨ 2 * (existing.length + toLoad.length) ≤ 267))
      (fun k => loadCode.loadValuesC toLoad existing.length blk ff (modeMap mode) k) := by
  unfold loadValues
  exact (Gen.bind (gen_loadValuesLoop existing blk mode toLoad.reverse ff) (fun r => Gen.pure _) fun _ => rfl).congr
    (by simp)

/-- one block of `load_fields`, the block pointer in the register `mbr` -/
theorem gen_loadFieldsBlock (mbr : Nat) (toLoadNext ctxAll ctxRest : Ctx) (pos : BlockPosition) (mode : LoadMode) :
    Gen (loadFieldsBlock mbr toLoadNext ctxAll ctxRest pos mode)
      ((pos = .other → 2 * ctxAll.length < 267) ∧ toLoadNext.length ≤ FIELDS_PER_BLOCK - pos.toNat ∧
        (toLoadNext = [] ∨ 2 * (ctxRest.length + toLoadNext.length) ≤ 267))
      (fun k => loadCode.loadBlockC mbr toLoadNext ctxAll.length ctxRest.length (posMap pos) (modeMap mode) k) := by
  unfold loadFieldsBlock Scc.Mem.LoadCode.loadBlockC
  have hv := gen_loadValues toLoadNext ctxRest mbr (FIELDS_PER_BLOCK - pos.toNat) mode
  cases pos with
  | last =>
    simp only [reduceCtorEq, if_false, posMap]
    refine (Gen.bindc (Gen.pure _) (Gen.bind hv (fun c3 => Gen.pure _) fun _ => ?_)).congr (by simp)
    cases mode <;> rfl
  | other =>
    simp only [if_true, posMap]
    have hl := gen_loadField .fst ctxAll mbr (FIELDS_PER_BLOCK - 1)
    simp only [TempNum.toNat, Nat.add_zero] at hl
    refine Gen.congr (Gen.bindc hl ?_) (c := 2 * ctxAll.length < 267 ∧ (True ∧
      ((toLoadNext.length ≤ FIELDS_PER_BLOCK - BlockPosition.other.toNat ∧
        (toLoadNext = [] ∨ 2 * (ctxRest.length + toLoadNext.length) ≤ 267)) ∧ True))) (by simp)
    refine Gen.bindc (Gen.pure _) ?_
    refine Gen.bind hv (fun c3 => Gen.pure _) fun _ => ?_
    cases mode <;> rfl

/-- a successful run of `load_fields` returns the backend-independent code, and the temporaries fit -/
theorem emits_loadFields : ∀ (fuel : Nat) (toLoad existing : Ctx) (pos : BlockPosition) (mode : LoadMode) (rf : Bool),
    Emits (loadFields fuel toLoad existing pos mode rf)
      (toLoad = [] ∨ 2 * (existing.length + toLoad.length) ≤ 267)
      (fun k => loadCode.loadFieldsC fuel toLoad existing.length (posMap pos) (modeMap mode) rf k)
  | 0, _, _, _, _, _ => Emits.throw
  | fuel + 1, toLoad, existing, pos, mode, rf => by
    unfold loadFields
    by_cases hne : toLoad = []
    · subst hne
      simp only [List.isEmpty_nil, if_true]
      exact (Gen.pure _).emits.mono fun _ => by simp
    · have hie : toLoad.isEmpty = false := List.isEmpty_eq_false_iff.mpr hne
      have hpos : 0 < toLoad.length := List.length_pos_iff.mpr hne
      simp only [hie, Bool.false_eq_true, if_false]
      have hrl : Scc.Heap.restLength toLoad.length (posMap pos) = restLength toLoad.length pos :=
        (restLength_eq _ _).symm
      have hrlt : restLength toLoad.length pos < toLoad.length := by
        rw [restLength_eq]; exact Scc.Heap.restLength_lt _ _ hpos
      have hlt : (existing ++ toLoad.take (restLength toLoad.length pos)).length =
          existing.length + restLength toLoad.length pos := by simp [List.length_take]; omega
      have hla : (existing ++ toLoad).length = existing.length + toLoad.length := by simp
      have hf := (gen_freshTemporary .fst (existing ++ toLoad.take (restLength toLoad.length pos))).emits
      simp only [TempNum.toNat, Nat.add_zero, hlt] at hf
      refine (Emits.bind (emits_loadFields fuel (toLoad.take (restLength toLoad.length pos)) existing .other mode rf)
        (h := fun r0 k1 =>
          if loadCode.isSpill (2 * (existing.length + restLength toLoad.length pos)) then
            let rb := loadCode.loadBlockC loadCode.ttR (toLoad.drop (restLength toLoad.length pos))
              (existing.length + toLoad.length) (existing.length + restLength toLoad.length pos) (posMap pos)
              (modeMap mode) k1
            ((r0.1 ++ (if r0.2 then [] else
                  [Code.COMMENT "###evacuate additional scratch register for memory block"] ++ loadCode.evac) ++
                loadCode.ldBlk (2 * (existing.length + restLength toLoad.length pos)) ++ rb.1 ++
                (if posMap pos = .last then [Code.COMMENT "###restore evacuated register"] ++ loadCode.restore
                  else []), true), rb.2)
          else
            let rb := loadCode.loadBlockC (loadCode.regOf (2 * (existing.length + restLength toLoad.length pos)))
              (toLoad.drop (restLength toLoad.length pos))
              (existing.length + toLoad.length) (existing.length + restLength toLoad.length pos) (posMap pos)
              (modeMap mode) k1
            ((r0.1 ++ rb.1, r0.2), rb.2))
        (c2 := 2 * (existing.length + toLoad.length) ≤ 267) (fun r0 => ?_) fun k => ?_).mono fun h => Or.inr h.2
      · obtain ⟨c0, rf1⟩ := r0
        refine (Emits.bindc hf ?_).mono (c := 2 * (existing.length + restLength toLoad.length pos) < 267 ∧
          2 * (existing.length + toLoad.length) ≤ 267) fun h => h.2
        have hb := fun mbr => (gen_loadFieldsBlock mbr (toLoad.drop (restLength toLoad.length pos)) (existing ++ toLoad)
          (existing ++ toLoad.take (restLength toLoad.length pos)) pos mode).emits
        simp only [hla, hlt] at hb
        have hcap : ∀ {P Q : Prop}, (P ∧ Q ∧ (toLoad.drop (restLength toLoad.length pos) = [] ∨
            2 * (existing.length + restLength toLoad.length pos +
              (toLoad.drop (restLength toLoad.length pos)).length) ≤ 267)) →
            2 * (existing.length + toLoad.length) ≤ 267 := fun h => by
          rcases h.2.2 with h1 | h1
          · have := congrArg List.length h1; simp only [List.length_drop, List.length_nil] at this; omega
          · simp only [List.length_drop] at h1; omega
        by_cases hsp : 2 * (existing.length + restLength toLoad.length pos) + 4 < 16
        · rw [posTemp_reg hsp]
          simp only [hsp, decide_true, Bool.not_true, Bool.false_eq_true, if_false]
          exact (Emits.bind (hb _) (fun c => (Gen.pure _).emits) fun _ => rfl).mono fun h => hcap h.1
        · rw [posTemp_spill hsp]
          simp only [hsp, decide_false, Bool.not_false, if_true]
          refine (Emits.bind (hb _) (fun c => (Gen.pure _).emits) fun _ => ?_).mono fun h => hcap h.1
          cases rf1 <;> cases pos <;> simp [posMap, List.append_assoc]
      · simp only [Scc.Mem.LoadCode.loadFieldsC, if_neg hne, hrl]
        rfl

theorem emits_loadRegister (mb : Reg) (toLoad existing : Ctx) :
    Emits (loadRegister mb toLoad existing) (toLoad = [] ∨ 2 * (existing.length + toLoad.length) ≤ 267)
      (fun k =>
        let rT := loadCode.loadFieldsC (toLoad.length + 1) toLoad existing.length .last .release false k
        let rE := loadCode.loadFieldsC (toLoad.length + 1) toLoad existing.length .last .share false rT.2
        (loadTopC mb rT.1.1 rE.1.1 rE.2, rE.2 + 2)) := by
  unfold loadRegister
  refine Emits.mono (c := (toLoad = [] ∨ 2 * (existing.length + toLoad.length) ≤ 267) ∧ True) ?_ fun h => h.1
  refine Emits.bind (emits_loadFields (toLoad.length + 1) toLoad existing .last .release false)
    (h := fun rT k1 =>
      let rE := loadCode.loadFieldsC (toLoad.length + 1) toLoad existing.length .last .share false k1
      (loadTopC mb rT.1 rE.1.1 rE.2, rE.2 + 2))
    (fun rT => ?_) fun _ => rfl
  obtain ⟨cT, bT⟩ := rT
  refine Emits.mono (c := (toLoad = [] ∨ 2 * (existing.length + toLoad.length) ≤ 267) ∧ True) ?_ fun _ => trivial
  refine Emits.bind (emits_loadFields (toLoad.length + 1) toLoad existing .last .share false)
    (h := fun rE k2 => (loadTopC mb cT rE.1 k2, k2 + 2)) (fun rE => ?_) fun _ => rfl
  obtain ⟨cE, bE⟩ := rE
  refine Emits.mono (c := True ∧ True) ?_ fun _ => trivial
  exact Emits.bind (Gen.of_run (ifZeroThenElse_run mb (some REFERENCE_COUNT_OFFSET) _ _)).emits (fun c => (Gen.pure _).emits) fun _ => rfl

theorem emits_load (toLoad existing : Ctx) :
    Emits (load toLoad existing) (toLoad = [] ∨ 2 * (existing.length + toLoad.length) ≤ 267)
      (loadCode.loadC toLoad existing.length) := by
  unfold load Scc.Mem.LoadCode.loadC
  by_cases hne : toLoad = []
  · subst hne
    simp only [List.isEmpty_nil, if_true]
    exact (Gen.pure _).emits.mono fun _ => by simp
  · have hie : toLoad.isEmpty = false := List.isEmpty_eq_false_iff.mpr hne
    simp only [hie, Bool.false_eq_true, if_false, if_neg hne]
    have hf := (gen_freshTemporary .fst existing).emits
    simp only [TempNum.toNat, Nat.add_zero] at hf
    refine (Emits.bindc hf ?_).mono fun h => h.2
    generalize posTemp (2 * existing.length) = t
    cases t <;>
      exact (Emits.bind (emits_loadRegister _ toLoad existing) (fun c => (Gen.pure _).emits) fun _ => rfl).mono
        fun h => h.1

end Scc.X86.Mem
