/-
  Scc.X86.RefClosHCall — `XDefsAt cs hooks prog`: the x86 code of every definition is in the loaded routine behind
  its label (what `call` needs, Scc/Backend/ThreeWayInt.lean), and THE THREE-WAY SIMULATION OF `exit` (result into
  rax, jump to `cleanup`, epilogue, `ret` with a successful exit check) under the relation `X3`, with
  `Mid`: none of the machine states up to the final `ret` is at a `#ctx` comment (Scc/X86/ConcKMid.lean; for the
  heap monitor).
  `XDefsAt` stands under the name `Scc.X86.Ref.K.XDefsAt` here and under `Scc.X86.Ref.XDefsAt` in
  Scc/X86/RefHeapInt.lean, because the property statements refer to both names.
-/
import Scc.X86.ThreeWayTarget

namespace Scc.X86.Ref.K

open Scc.AxCut Scc.AxCut.Pos Scc.Backend Scc.Backend.Abs Scc.Backend.Sim Scc.Backend.Sim2
open Scc.Heap (HState InvS InvW)
open Scc.Heap.Refine (HRef)

/-- every definition's x86 code is in the routine, behind its label -/
def XDefsAt (cs : List Code) (hooks : Bool) (prog : AxCut.Prog) : Prop :=
  ∀ d ∈ prog.defs, ∃ i k k' items, labIdx cs (d.name.print ++ "_") = some i ∧
    cs[i]? = some (Code.LAB (d.name.print ++ "_")) ∧
    (codeStatementR x86Backend hooks natRen prog.types d.body d.ctx).run k = .ok (items, k') ∧
    XAt cs (i + 1) items

/-- … as the generic `call_x3` asks it -/
theorem XDefsAt.toM {F : Frame} {H : FrameOK F} {h8 : F.c.heapBase % 8 = 0} {mon : MonCfg} {hmon : mon.mach = F.c}
    {px : X86.Prog} {cs : List Code} {L : Loaded px cs} {hndL : (labs cs).Nodup} {G : Prop} {hooks : Bool}
    {prog : AxCut.Prog} (DX : XDefsAt cs hooks prog) :
    ThreeWay.XDefsAt (machine F H h8 mon hmon px cs L hndL G) hooks prog := by
  intro d hd
  obtain ⟨i, k, k', items, _, hlab, hrun, hat⟩ := DX d hd
  obtain ⟨hlt, hget⟩ := List.getElem?_eq_some_iff.1 hlab
  refine ⟨i, k, k', items, ⟨cs.take i, cs.drop (i + 1), ?_, by simp [Nat.min_eq_left (Nat.le_of_lt hlt)]⟩, hrun, hat⟩
  show cs = cs.take i ++ [Code.LAB (d.name.print ++ "_")] ++ cs.drop (i + 1)
  rw [← hget]
  simp

section Exit3

variable {F : Frame} (HF : FrameOK F) {mon : MonCfg} (hmon : mon.mach = F.c)
  {px : X86.Prog} {cs pre : List Code} (L : Loaded px cs) (hcs : cs = pre ++ cleanup)
  (hclean : "cleanup" ∉ labs pre) {st0 : State} {h : Word} (E : EntryFacts F st0 h)

include HF hmon L hcs hclean E in
/-- THREE-WAY SIMULATION OF `exit`: the result goes to rax, the jump to `cleanup`, the epilogue and `ret`
pass the exit check and return the result -/
theorem exit_x3 {P : Program} {hooks : Bool} {prog : AxCut.Prog} {Γ : Ctx} {ρ : List Value} {a : Ident}
    {cfg : Config} {v : Word}
    (R : RelX P hooks prog ⟨Γ, ρ, .exit a⟩ cfg) (ha : readInt Γ ρ a = .ok v)
    {hs : HState} {ι : Nat → Nat} {κ : Nat → Nat → Word} {st : State} (X : X3 F Γ cfg hs ι κ st)
    {kx kx' : Nat} {items : List Code}
    (hrunX : (codeStatementR x86Backend hooks natRen prog.types (.exit a) Γ).run kx = .ok (items, kx'))
    (hatX : XAt cs st.pc items) :
    ∃ k stL, stepN mon px k st = .inl stL ∧ step mon px stL = .inr (.done v) ∧ stL.out = cfg.out ∧
      Mid mon px cs k st ∧ ¬ CtxAt cs stL.pc := by
  obtain ⟨i, hi, hl, hg⟩ := R.readInt ha
  simp only at hi hl
  rw [ctxPosition_eq_posOf] at hi
  have hchi : Γ[i].chi = .ext := by
    have := (R.vals i hl (by show _ < ρ.length; have hlen : ρ.length = Γ.length := R.len; omega)).2.2.1
    simp only at this
    obtain ⟨_, hpo, hval⟩ := readInt_ok ha
    rw [hi] at hpo
    cases hpo
    rw [List.getElem?_eq_getElem (by show _ < ρ.length; have hlen : ρ.length = Γ.length := R.len; omega)] at hval
    injection hval with hval
    rw [this, hval]; rfl
  simp only [codeStatementR, run_bind_ok, run_pure_ok] at hrunX
  obtain ⟨tX, _, htX, rfl, rfl⟩ := hrunX
  obtain ⟨pX, hpX, hltX, rfl, rfl⟩ := (x86_vt_run_ok _ _ _ _ _ _).1 htX
  rw [hi] at hpX
  injection hpX with hpX
  subst hpX
  simp only [TempNum.toNat] at hltX
  generalize hc0 : hookCode x86Backend hooks Γ ++ [x86Backend.comment ("exit " ++ a.print)] = c0 at hatX
  have hc0c : ∀ y ∈ c0, ∃ m', y = Code.COMMENT m' := by rw [← hc0]; exact hook_comments hooks Γ _
  replace hatX : XAt cs st.pc (c0 ++ (mov (.reg RETURN1) (posTemp (2 * i + 1)) ++ [Code.JMPL "cleanup"])) := by
    have : x86Backend.mov x86Backend.return1 (posTemp (2 * i + TempNum.snd.toNat)) ++
        x86Backend.jumpLabel "cleanup" = mov (.reg RETURN1) (posTemp (2 * i + 1)) ++ [Code.JMPL "cleanup"] := rfl
    rw [← this]
    simpa [List.append_assoc] using hatX
  obtain ⟨k0, hk0⟩ := x_steps_straight mon L hatX.left
    (execStraight_comments mon.mach px.labelAddr c0 st hc0c)
  have X0 : X3 F Γ cfg hs ι κ (setPS st (st.pc + c0.length) k0) := X3R.setPS X _ _
  have hw := X0.words i hl v hg
  rw [hchi] at hw
  have hr : TempOK (.reg RETURN1) := ⟨by decide, by decide⟩
  obtain ⟨st1, e1, B1, hv1, P1⟩ := mov_correct (la := px.labelAddr) X0.bnd hr (tempOK_posTemp hltX)
  rw [← hmon] at e1
  obtain ⟨k1, hk1⟩ := x_steps_straight mon L (s := setPS st (st.pc + c0.length) k0) hatX.right.left e1
  have hrax : tempVal F.sp st1 (.reg RETURN1) = some v := by rw [hv1]; exact hw
  have hidx : labIdx cs "cleanup" = some pre.length := by
    have : cs = pre ++ Code.LAB "cleanup" :: (epilogue.tail ++ [Code.RET]) := by
      rw [hcs, cleanup_eq]; rfl
    rw [this]
    exact labIdx_append_of_not_mem _ _ _ hclean
  obtain ⟨csa, csb, hcsJ, hpcJ⟩ := hatX.right.right
  obtain ⟨k2, hk2⟩ := Scc.X86.Ref.step_jump mon L (cs1 := csa) (code := Code.JMPL "cleanup") (rest := csb)
    (s := setPS st1 ((setPS st (st.pc + c0.length) k0).pc + (mov (.reg RETURN1) (posTemp (2 * i + 1))).length) k1)
    (by rw [hcsJ]; simp [List.append_assoc]) (by simp [setPS] at hpcJ ⊢; omega)
    (show execCode mon.mach px.labelAddr (Code.JMPL "cleanup") _ = .ok (_, .jumpLabel "cleanup") from rfl) hidx
  have hsp1 : F.st1.regs[0]? = some (some F.sp) := E.pro.rsp
  obtain ⟨st3, e3, S3, hsize3, hrsp3, hcal3, hreg3, hmem3⟩ :=
    prologue_epilogue_machine (la := px.labelAddr) E.entry E.pro (st2 := setPS (setPS st1 _ k1) pre.length k2)
      B1.size (by show st1.regs[0]? = _; rw [B1.rsp, hsp1])
      (fun n hn => by
        show st1.stackMem[n]? = _
        rw [P1.frame HF n hn]
        exact X0.frame n hn)
  have hcE : cs = pre ++ epilogue ++ [Code.RET] := by rw [hcs, cleanup_eq]; simp
  rw [← hmon] at e3
  obtain ⟨k3, hk3⟩ := steps_block mon L hcE (by simp [setPS]) e3
  have hcR : cs = (pre ++ epilogue) ++ Code.RET :: [] := by rw [hcE]
  obtain ⟨code', hf', hs'⟩ := L.fetch hcR
  have hcode' := stripC_ret hs'
  subst hcode'
  have hret : retCheck mon.mach (setPS st3 (pre.length + epilogue.length) k3) = .ok v := by
    rw [hmon]
    have hm := E.mtop
    apply retCheck_ok HF.cfg E.top8 E.room
    · show st3.regs[0]? = _
      rw [hrsp3, hm]
    · show st3.stackMem[F.c.stackTop - 8]? = _
      rw [hmem3 _ (by rw [hm]; exact Nat.le_refl _)]
      exact E.retw
    · intro r hr'
      show st3.regs[r]? = _
      rw [hcal3 r (by simpa [calleeSaved] using hr')]
      exact E.callee r hr'
    · show st3.regs[4]? = _
      rw [hreg3 4 (by decide) (by decide) (by decide)]
      show st1.regs[4]? = _
      have := hrax
      simp only [tempVal, RETURN1_eq] at this
      cases h4 : st1.regs[4]? with
      | none => rw [h4] at this; simp at this
      | some x => rw [h4] at this; simp at this; rw [this]
  have hmid : Mid mon px cs _ st := Mid.transS (mid_comments mon L hatX.left hc0c (by
      rw [← hc0]; exact noCtx_tail_hook hooks Γ (by
        exact not_isCtx_lit_head _ _ _ (by decide)))) hk0
    (MidS.trans (midS_straight mon L hatX.right.left e1 (noCtx_mov _ _)) hk1
      (MidS.trans (midS_one (not_ctxAt_of_xat hatX.right.right (not_isCtx_of_noComment rfl)))
        ((stepN_one mon px _).trans hk2)
        (midS_straight mon L (blk := epilogue) ⟨pre, [Code.RET], hcE, by simp [setPS]⟩ e3
          (by unfold epilogue; nc))))
  refine ⟨_, _, stepN_trans mon px hk0 (stepN_trans mon px hk1 (stepN_trans mon px ((stepN_one mon px _).trans hk2)
    hk3)), step_ret (by simpa [setPS, Nat.add_assoc] using hf') hret, ?_, hmid,
    not_ctxAt_of_split hcR (by simp [setPS]) (not_isCtx_of_noComment rfl)⟩
  show st3.out = cfg.out
  rw [S3.out]
  show st1.out = cfg.out
  rw [P1.same.out]
  exact X0.out

end Exit3

end Scc.X86.Ref.K
