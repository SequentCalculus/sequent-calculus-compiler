/-
  Scc.X86.ConcKHook — THE HEAP MONITOR AT A STATEMENT BOUNDARY (hooks on), ALL PROGRAMS: `monitor_boundary`
  (Scc/X86/ConcHook.lean: programs without closures) for the closure-aware relation `Scc.X86.Ref.K.Rel3`.  At a
  machine state in relation `K.Rel3` to a positional state the program counter is at the `#ctx […]` comment of the
  statement (`Conc.post_first_hook`), the monitor's parser reads the kinds of the context back from it and its
  check succeeds inside its window (`Conc.heapCheck_ok`: completeness of `invCheckFn`).
  `heapCheck_boundary`: the executable check at a boundary UP TO LABELS AND COMMENTS (`BoundaryOf`: after the
  `jmp reg` of an `invoke` the machine is past the hook comment; the check, run with the kinds of the boundary's
  context, succeeds there as well — it does not look at the program counter).
-/
import Scc.X86.ConcKC10
import Scc.X86.ConcHook

namespace Scc.X86.ConcK

open Scc.AxCut Scc.Backend Scc.Backend.Abs Scc.X86.Ref
open Scc.Heap (HState InvS InvW)
open Scc.X86.Conc (HeapInvAt HeapShapeAt ctxKinds heapCheck_ok post_first_hook)

/-- THE MONITOR AT A STATEMENT BOUNDARY, hooks on, on the items of the routine, all programs -/
theorem monitor_boundary {F : Frame} {cfg : MonCfg} (hFc : F.c = cfg.mach) (hk : cfg.consts = consts)
    {routine : List Code} {items : List (Code × Nat)} (hitems : items.map (·.1) = routine)
    {P : Program} {prog : AxCut.Prog} {st : Pos.State} {cfgA : Config} {hs : HState} {X : State}
    (R : K.Rel3 F routine P true prog st cfgA hs X)
    (hparse : ∀ Γ, Code.COMMENT (ctxHookComment Γ) ∈ routine → parseCtx (ctxHookComment Γ) = some (ctxKinds Γ)) :
    ∃ below inUse, HeapShapeAt cfg X below inUse ∧
      (cfg.heap = false → monitor cfg (mkProg cfg.mach items) X = .ok none) ∧
      (cfg.heap = true → 64 * below + 64 ≤ X.maxHeapWritten + 512 →
        monitor cfg (mkProg cfg.mach items) X = .ok (some below)) := by
  obtain ⟨Γ', ι, κ, hkeys, RX, X3h, _, k, k', its, hrun, hat⟩ := R
  exact Conc.monitor_x3 hFc hk hitems RX X3h hrun hat fun h => hparse Γ' (List.mem_of_getElem? h)

/-- THE EXECUTABLE HEAP CHECK SUCCEEDS AT EVERY STATEMENT BOUNDARY (inside the monitor's window), all programs -/
theorem heapCheck_boundary {p : AxCut.Prog} {hooks : Bool} {routine : List Code} {ops : List MockOp}
    {cfg : MonCfg} (hk : cfg.consts = consts) {st : Pos.State} {X : State}
    (B : BoundaryOf p hooks routine ops cfg st X) :
    ∃ below inUse, HeapShapeAt cfg X below inUse ∧
      (64 * below + 64 ≤ X.maxHeapWritten + 512 → heapCheck cfg X (ctxKinds st.ctx) = .ok below) := by
  obtain ⟨roots, h, f, lin, lazy, live, F, hr, hh, hf, I⟩ := heapInvAt_of_boundary hk B
  refine ⟨(F - cfg.mach.heapBase) / 64, live.length, ⟨h, f, _, lin, lazy, live, F, hh, hf, I, rfl, rfl⟩, ?_⟩
  intro hw
  apply heapCheck_ok hr hh hf I
  have hFb := I.frontier_block
  unfold Scc.Heap.IsBlock at hFb
  omega

end Scc.X86.ConcK
