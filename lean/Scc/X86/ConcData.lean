/-
  Scc.X86.ConcData — FROM THE BLOCKS IN USE TO THE SIZE OF THE SOURCE-LEVEL DATA, for every backend: nothing in the
  file mentions a machine; it is about the positional machine, the abstract heap of Theorem A and the block heap.
  (The namespace is `Scc.X86.Conc` because the statements of the run theorems of all backends refer to
  `valsFields` under this full name.)  At a statement boundary
  whose deferred free list is empty, the number of heap blocks in use is at most the number of FIELDS of the
  object values held by the variables of the positional machine (`valsFields st.env`):
      blocks in use  ≤  fields of the objects of the abstract heap     (`live_le_heapFields`, RefineNoGarb)
                     ≤  fields of the object nodes of the environment  (`heapFields_le_vals`, here).
  The second step: every object of the abstract heap of Theorem A is referenced (`HeapOK.counts`) — by a
  variable or by an object with a larger id (`ord`) — so it is the representative (`RepV`) of a node of some
  value of the environment; a shared object represents several nodes, so the count of nodes is an upper bound.
-/
import Scc.X86.ConcPeakRun
import Scc.Heap.RefineNoGarb

namespace Scc.X86.Conc

open Scc.AxCut Scc.Backend Scc.Backend.Abs Scc.Backend.Sim
open Scc.Backend.Sim2
open Scc.Heap (HState InvS InvW)
open Scc.Heap.Refine (HRef heapFields live_le_heapFields sum_le_of_nodup_subset)

mutual
  /-- the number of fields of the object (and closure) nodes of a value -/
  def valFields : Pos.Value → Nat
    | .int _ => 0
    | .obj _ fields => fields.length + valsFields fields
    | .clo _ env _ => env.length + valsFields env
  def valsFields : List Pos.Value → Nat
    | [] => 0
    | v :: vs => valFields v + valsFields vs
end

def objW (h : Heap) (id : Nat) : Nat :=
  match h.get id with
  | some o => o.fields.length
  | none => 0

def ClosedIds (h : Heap) (L : List Nat) : Prop :=
  ∀ id ∈ L, ∀ o, h.get id = some o → ∀ c ∈ o.children, c ∈ L

theorem ClosedIds.append {h : Heap} {L1 L2 : List Nat} (h1 : ClosedIds h L1) (h2 : ClosedIds h L2) :
    ClosedIds h (L1 ++ L2) := by
  intro id hid o ho c hc
  rcases List.mem_append.1 hid with hm | hm
  · exact List.mem_append_left _ (h1 id hm o ho c hc)
  · exact List.mem_append_right _ (h2 id hm o ho c hc)

theorem closedIds_nil (h : Heap) : ClosedIds h [] := fun _ hid => by simp at hid

def fieldsChildren (fs : List Abs.Field) : List Nat :=
  fs.filterMap fun f => if f.chi != Chi.ext && f.ptr != 0 then some f.ptr.toNat else none

mutual
  theorem repV_cover {P : Program} {hooks : Bool} {types : List TypeDecl} {h : Heap} :
      ∀ {v : Pos.Value} {ptr : Option Word} {w : Word}, RepV P hooks types h v ptr w →
      ∃ L, ClosedIds h L ∧ (Sim2.kindOf v ≠ Chi.ext → ∀ r, ptr = some r → r ≠ 0 → r.toNat ∈ L) ∧
        (L.map (objW h)).sum ≤ valFields v
    | _, _, _, .int n p => ⟨[], closedIds_nil h, fun hk => absurd rfl hk, by simp⟩
    | _, _, _, .obj tag fields r hB => by
      obtain ⟨L, hc, hr, hs⟩ := repB_cover hB
      refine ⟨L, hc, fun _ r' e h0 => ?_, by simpa [valFields] using hs⟩
      injection e with e
      subst e
      exact hr h0
    | _, _, _, .clo envCtx envCtx' env clauses r a _ hB _ => by
      obtain ⟨L, hc, hr, hs⟩ := repB_cover hB
      refine ⟨L, hc, fun _ r' e h0 => ?_, by simpa [valFields] using hs⟩
      injection e with e
      subst e
      exact hr h0
  theorem repB_cover {P : Program} {hooks : Bool} {types : List TypeDecl} {h : Heap} :
      ∀ {vs : List Pos.Value} {r : Word}, RepB P hooks types h vs r →
      ∃ L, ClosedIds h L ∧ (r ≠ 0 → r.toNat ∈ L) ∧ (L.map (objW h)).sum ≤ vs.length + valsFields vs
    | _, _, .empty => ⟨[], closedIds_nil h, fun h0 => absurd rfl h0, by simp⟩
    | _, _, .block v vs r o hr0 hg hF => by
      obtain ⟨L, hc, hch, hs, hlen⟩ := repF_cover hF
      refine ⟨r.toNat :: L, ?_, fun _ => by simp, ?_⟩
      · intro id hid o' ho' c hcc
        rcases List.mem_cons.1 hid with rfl | hid
        · rw [hg] at ho'
          injection ho' with ho'
          subst ho'
          exact List.mem_cons_of_mem _ (hch c hcc)
        · exact List.mem_cons_of_mem _ (hc id hid o' ho' c hcc)
      · have hw : objW h r.toNat = (v :: vs).length := by
          unfold objW
          rw [hg]
          exact hlen.symm
        simp only [List.map_cons, List.sum_cons, hw]
        omega
  theorem repF_cover {P : Program} {hooks : Bool} {types : List TypeDecl} {h : Heap} :
      ∀ {vs : List Pos.Value} {fs : List Abs.Field}, RepF P hooks types h vs fs →
      ∃ L, ClosedIds h L ∧ (∀ c ∈ fieldsChildren fs, c ∈ L) ∧ (L.map (objW h)).sum ≤ valsFields vs ∧
        vs.length = fs.length
    | _, _, .nil => ⟨[], closedIds_nil h, fun c hc => by simp [fieldsChildren] at hc, by simp [valsFields], rfl⟩
    | _, _, .cons v vs f fs hV hk hF => by
      obtain ⟨L1, hc1, hr1, hs1⟩ := repV_cover hV
      obtain ⟨L2, hc2, hch2, hs2, hlen⟩ := repF_cover hF
      refine ⟨L1 ++ L2, hc1.append hc2, ?_, ?_, by simp [hlen]⟩
      · intro c hc
        unfold fieldsChildren at hc
        rw [List.filterMap_cons] at hc
        split at hc
        · exact List.mem_append_right _ (hch2 c hc)
        · rename_i x hx
          rcases List.mem_cons.1 hc with rfl | hc
          · -- the child of the first field
            by_cases hcond : (f.chi != Chi.ext && f.ptr != 0) = true
            · rw [if_pos hcond] at hx
              injection hx with hx
              subst hx
              simp only [Bool.and_eq_true, bne_iff_ne, ne_eq] at hcond
              have hfc : f.chi ≠ Chi.ext := (chi_bne_ext _).mp hcond.1
              have hne : Sim2.kindOf v ≠ Chi.ext := by rw [← hk]; exact hfc
              have hext : (f.chi == Chi.ext) = false := (Sim2.chi_beq_ext_false _).mpr hfc
              apply List.mem_append_left
              exact hr1 hne f.ptr (by rw [hext]; rfl) hcond.2
            · rw [if_neg hcond] at hx; cases hx
          · exact List.mem_append_right _ (hch2 c hc)
      · simp only [List.map_append, List.sum_append, valsFields]
        omega
end

theorem heapFields_le_vals {P : Program} {hooks : Bool} {prog : AxCut.Prog} {Γ : Ctx} {ρ : List Pos.Value}
    {s : Stmt} {cfg : Config} (R : RelX P hooks prog ⟨Γ, ρ, s⟩ cfg)
    (hord : ∀ e ∈ cfg.heap, ∀ c ∈ e.2.children, c < e.1) :
    heapFields cfg.heap ≤ valsFields ρ := by
  have hlen : ρ.length = Γ.length := R.len
  -- one closed list of ids per position
  have hpos : ∀ (n : Nat), n ≤ Γ.length → ∃ L, ClosedIds cfg.heap L ∧
      (∀ i (hi : i < Γ.length), i < n → Γ[i].chi ≠ .ext → ∀ r, cfg.temps.get (2 * i) = some r → r ≠ 0 →
        r.toNat ∈ L) ∧ (L.map (objW cfg.heap)).sum ≤ valsFields (ρ.take n) := by
    intro n
    induction n with
    | zero => intro _; exact ⟨[], closedIds_nil _, fun i _ hi => absurd hi (Nat.not_lt_zero _), by simp [valsFields]⟩
    | succ n ih =>
      intro hn
      obtain ⟨L, hc, hr, hs⟩ := ih (by omega)
      have hn1 : n < Γ.length := by omega
      have hn2 : n < ρ.length := by omega
      obtain ⟨hV, _, hkind, _⟩ := R.vals n hn1 hn2
      simp only at hV hkind
      obtain ⟨L1, hc1, hr1, hs1⟩ := repV_cover hV
      refine ⟨L ++ L1, hc.append hc1, ?_, ?_⟩
      · intro i hi hin hchi r hg h0
        by_cases hlt : i < n
        · exact List.mem_append_left _ (hr i hi hlt hchi r hg h0)
        · have e : i = n := by omega
          subst e
          apply List.mem_append_right
          have hne : Sim2.kindOf ρ[i] ≠ Chi.ext := by rw [← hkind]; exact hchi
          have hext : (Γ[i].chi == Chi.ext) = false := (Sim2.chi_beq_ext_false _).mpr hchi
          exact hr1 hne r (by rw [hext]; exact hg) h0
      · have htake : ρ.take (n + 1) = ρ.take n ++ [ρ[n]] := by
          rw [List.take_succ, List.getElem?_eq_getElem hn2]; rfl
        have happ : ∀ (a b : List Pos.Value), valsFields (a ++ b) = valsFields a + valsFields b := by
          intro a b
          induction a with
          | nil => simp [valsFields]
          | cons x a ih => simp only [List.cons_append, valsFields, ih]; omega
        rw [htake, happ]
        simp only [List.map_append, List.sum_append, valsFields]
        omega
  obtain ⟨L, hc, hr, hs⟩ := hpos Γ.length (Nat.le_refl _)
  rw [← hlen, List.take_length] at hs
  -- every object of the heap is in `L`
  have H : HeapOK cfg.heap (roots Γ cfg.temps) cfg.next := R.heap
  have hroot : ∀ id ∈ roots Γ cfg.temps, id ∈ L := by
    intro id hid
    unfold roots at hid
    have key : ∀ (Δ : Ctx) (k : Nat), (∀ j (hj : j < Δ.length), ∃ hi : k + j < Γ.length, Γ[k + j] = Δ[j]) →
        id ∈ roots.go cfg.temps Δ k → id ∈ L := by
      intro Δ
      induction Δ with
      | nil => intro k _ hm; simp [roots.go] at hm
      | cons b Δ ih =>
        intro k hΔ hm
        simp only [roots.go] at hm
        rcases List.mem_append.1 hm with hm | hm
        · obtain ⟨hi, hb⟩ := hΔ 0 (by simp)
          simp only [Nat.add_zero, List.getElem_cons_zero] at hi hb
          split at hm
          · rename_i hchi
            cases hg : cfg.temps.get (2 * k) with
            | none => rw [hg] at hm; simp at hm
            | some p =>
              rw [hg] at hm
              simp only at hm
              split at hm
              · rename_i hp0
                simp only [List.mem_singleton] at hm
                subst hm
                exact hr k hi (by omega) (by rw [hb]; exact (chi_bne_ext _).mp hchi) p hg
                  (by simpa using hp0)
              · simp at hm
          · simp at hm
        · apply ih (k + 1) _ hm
          intro j hj
          obtain ⟨hi, hb⟩ := hΔ (j + 1) (by simpa using hj)
          refine ⟨by omega, ?_⟩
          have e : k + 1 + j = k + (j + 1) := by omega
          simp only [e]
          simpa using hb
    exact key Γ 0 (fun j hj => ⟨by omega, by simp⟩) hid
  have hall : ∀ (n : Nat), ∀ e ∈ cfg.heap, cfg.next - e.1 ≤ n → e.1 ∈ L := by
    intro n
    induction n with
    | zero =>
      intro e he hle
      have := (H.ids e he).2.1
      omega
    | succ n ih =>
      intro e he hle
      have hcnt := H.counts e he
      rw [refCount_eq] at hcnt
      by_cases hrt : 0 < (roots Γ cfg.temps).count e.1
      · exact hroot e.1 (List.count_pos_iff.1 hrt)
      · have hcs : 0 < childSum cfg.heap e.1 := by omega
        obtain ⟨e', he', hmem⟩ := Scc.Heap.Refine.childSum_pos hcs
        have hlt := hord e' he' e.1 hmem
        have hid' := (H.ids e' he').2.1
        have he'L : e'.1 ∈ L := ih e' he' (by omega)
        exact hc e'.1 he'L e'.2 (Sim2.heap_mem_get H.nodup he') e.1 hmem
  -- the sum
  have hsub : ∀ id ∈ cfg.heap.map (·.1), id ∈ L := by
    intro id hid
    obtain ⟨e, he, rfl⟩ := List.mem_map.1 hid
    exact hall (cfg.next - e.1) e he (Nat.le_refl _)
  have hsum := sum_le_of_nodup_subset (objW cfg.heap) (cfg.heap.map (·.1)) L H.nodup hsub
  have hfe : heapFields cfg.heap = ((cfg.heap.map (·.1)).map (objW cfg.heap)).sum := by
    unfold heapFields
    rw [List.map_map]
    congr 1
    apply List.map_congr_left
    intro e he
    simp only [Function.comp, objW]
    rw [Sim2.heap_mem_get H.nodup he]
  omega

/-- without garbage the live blocks are at most the fields of the values of the environment, whatever words the
machine's view `mapFields g` of the heap holds: every block belongs to an object of the abstract heap
(`live_le_heapFields`), and the objects are those of the values -/
theorem live_le_valsFields {g : Nat → List Abs.Field → List Abs.Field} (G : Scc.Heap.Refine.FieldsOK g) {P : Program}
    {hooks : Bool} {prog : AxCut.Prog} {Γ : Ctx} {ρ : List Pos.Value} {s : Stmt} {cfg : Config}
    (R : RelX P hooks prog ⟨Γ, ρ, s⟩ cfg) {rs0 : List Nat} {next : Nat} {hs : HState} {ι : Nat → Nat}
    (H : HRef (Scc.Heap.Refine.mapFields g cfg.heap) rs0 next hs ι) {rs lin live : List Nat} {Fr : Nat}
    (I : InvS hs rs [] lin [] live Fr) : live.length ≤ valsFields ρ := by
  have h1 := live_le_heapFields H I
  rw [show heapFields (Scc.Heap.Refine.mapFields g cfg.heap) = heapFields cfg.heap from
    Scc.Heap.Refine.mapFields_totalFields G cfg.heap] at h1
  have hord : ∀ e ∈ cfg.heap, ∀ c ∈ e.2.children, c < e.1 := fun e he c hc =>
    H.ord _ (Scc.Heap.Refine.mem_mapFields he) c (by
      show c ∈ (Scc.Heap.Refine.mapObj g e.1 e.2).children
      rw [G.children]; exact hc)
  exact Nat.le_trans h1 (heapFields_le_vals R hord)

end Scc.X86.Conc
