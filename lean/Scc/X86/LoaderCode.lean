/-
  Scc.X86.LoaderCode — `parseLine (printCode c) = some (some c)` for EVERY constructor of the backend's
  instruction type `Scc.X86.Code` except labels (two lines) and comments (read without their trailing
  blanks), which have their own statements (`reads_LAB`, `reads_COMMENT`).
  The ordinary forms (a mnemonic other than `jmp`, up to two operands) are described by `descr`: the printer
  writes the mnemonic and the operands (`descr_print`), `mkInstr` builds the form back from them
  (`descr_mk`), so ONE round trip serves them all (`reads_descr`, over the line shapes `parse_line0/1/2` and
  the operand classes `OpTxt` of LoaderInstr.lean / LoaderLemmas.lean).

  `CodeOK c`: the operands of `c` are text-safe — register numbers < 16, every label / symbol it
  mentions passes the loader's symbol test `symOKC` (non-empty, symbol characters only, no line break,
  not a register name, not a decimal number), comments contain no line break.
-/
import Scc.X86.LoaderInstr

namespace Scc.X86.Loader

set_option linter.unusedSimpArgs false

theorem memStr_toList (r : Nat) (i : Int) : (memStr r i).toList = memC r i := by
  simp [memStr, memC, regC, immC, String.toList_append]

/-- text-safety of the operands of one item -/
structure CodeOK (c : Code) : Prop where
  regs : ∀ r ∈ codeRegs c, r < 16
  refs : ∀ l, codeLabelRef c = some l → symOKC l.toList
  defs : ∀ l, codeLabelDef c = some l → symOKC l.toList
  ext : ∀ f, c = .EXTERN f → symOKC f.toList
  comment : ∀ m, c = .COMMENT m → '\n' ∉ m.toList

/-- what `parseLine` returns for a printed one-line item, and the line is a single line -/
def Reads (c : Code) : Prop := parseLine (printCode c) = some (some c) ∧ '\n' ∉ (printCode c).toList

/-! ## the ordinary forms: a mnemonic other than `jmp` and up to two operands -/

/-- an operand as `printCode` writes it: `mem`: `[r + i]`; `mem'`: `[r +i]`, which only `cmp r, [m]` uses;
`qmem`: `qword [r + i]`; `rel`: `[rel l]`, the address of a label; `sym`: a bare symbol, the target of a
conditional jump or of `call` -/
inductive OpT where
  | reg (r : Nat)
  | mem (r : Nat) (i : Int)
  | mem' (r : Nat) (i : Int)
  | qmem (r : Nat) (i : Int)
  | rel (l : String)
  | imm (i : Int)
  | sym (s : String)

def OpT.txt : OpT → List Char
  | .reg r => regC r
  | .mem r i => memC r i
  | .mem' r i => memC' r i
  | .qmem r i => qmemC r i
  | .rel l => relC l.toList
  | .imm i => immC i
  | .sym s => s.toList

def OpT.opnd : OpT → Opnd
  | .reg r => .reg r
  | .mem r i | .mem' r i => .mem r i
  | .qmem r i => .qmem r i
  | .rel l => .rel l
  | .imm i => .imm i
  | .sym s => .sym s

/-- the register exists, the symbol is text-safe -/
def OpT.OK : OpT → Prop
  | .reg r | .mem r _ | .mem' r _ | .qmem r _ => r < 16
  | .rel l | .sym l => symOKC l.toList
  | .imm _ => True

/-- one lemma per class of operands (LoaderLemmas.lean), as one statement -/
theorem OpT.opTxt : ∀ {o : OpT}, o.OK → OpTxt o.txt o.opnd
  | .reg _, h => opTxt_reg h
  | .mem _ i, h => opTxt_mem h i
  | .mem' _ i, h => opTxt_mem' h i
  | .qmem _ i, h => opTxt_qmem h i
  | .rel l, h => by have := opTxt_rel h; rwa [String.ofList_toList] at this
  | .imm i, _ => opTxt_imm i
  | .sym s, h => by have := opTxt_sym h; rwa [String.ofList_toList] at this

/-- mnemonic and operands of the forms that `mkInstr` builds from a mnemonic other than `jmp` -/
def descr : Code → Option (String × List OpT)
  | .ADD r r1 => some ("add", [.reg r, .reg r1])
  | .ADDRM r r1 i => some ("add", [.reg r, .mem r1 i])
  | .ADDMR r1 i r => some ("add", [.mem r1 i, .reg r])
  | .ADDI r i => some ("add", [.reg r, .imm i])
  | .ADDIM r i1 i2 => some ("add", [.qmem r i1, .imm i2])
  | .SUB r r1 => some ("sub", [.reg r, .reg r1])
  | .SUBRM r r1 i => some ("sub", [.reg r, .mem r1 i])
  | .SUBMR r1 i r => some ("sub", [.mem r1 i, .reg r])
  | .SUBI r i => some ("sub", [.reg r, .imm i])
  | .IMUL r r1 => some ("imul", [.reg r, .reg r1])
  | .IMULRM r r1 i => some ("imul", [.reg r, .mem r1 i])
  | .IMULMR r1 i r => some ("imul", [.mem r1 i, .reg r])
  | .IDIV r => some ("idiv", [.reg r])
  | .IDIVM r i => some ("idiv", [.qmem r i])
  | .CQO => some ("cqo", [])
  | .LEAL r l => some ("lea", [.reg r, .rel l])
  | .MOV r r1 => some ("mov", [.reg r, .reg r1])
  | .MOVS r r1 i => some ("mov", [.mem r1 i, .reg r])
  | .MOVL r r1 i => some ("mov", [.reg r, .mem r1 i])
  | .MOVI r i => some ("mov", [.reg r, .imm i])
  | .MOVIM r i1 i2 => some ("mov", [.qmem r i1, .imm i2])
  | .CMP r r1 => some ("cmp", [.reg r, .reg r1])
  | .CMPRM r r1 i => some ("cmp", [.reg r, .mem' r1 i])
  | .CMPMR r i r1 => some ("cmp", [.mem r i, .reg r1])
  | .CMPI r i => some ("cmp", [.reg r, .imm i])
  | .CMPIM r i1 i2 => some ("cmp", [.qmem r i1, .imm i2])
  | .JEL l => some ("je", [.sym l])
  | .JNEL l => some ("jne", [.sym l])
  | .JLL l => some ("jl", [.sym l])
  | .JLEL l => some ("jle", [.sym l])
  | .JGL l => some ("jg", [.sym l])
  | .JGEL l => some ("jge", [.sym l])
  | .PUSH r => some ("push", [.reg r])
  | .POP r => some ("pop", [.reg r])
  | .CALL f => some ("call", [.sym f])
  | .RET => some ("ret", [])
  | _ => none

def lineOf (mn : List Char) : List (List Char) → List Char
  | [] => line0 mn
  | [a] => line1 mn a
  | [a, b] => line2 mn a b
  | _ => []

/-- `printCode` writes the form as its mnemonic and operands -/
theorem descr_print (c : Code) : ∀ d ∈ descr c, (printCode c).toList = lineOf d.1.toList (d.2.map OpT.txt) := by
  cases c <;>
    simp [descr, lineOf, OpT.txt, printCode, INDENT, line0, line1, line2, regC, immC, qmemC, relC, memC',
      String.toList_append, memStr_toList]

/-- `mkInstr` builds the form back from its mnemonic and operands; the mnemonic is an ordinary one -/
theorem descr_mk (c : Code) : ∀ d ∈ descr c, mnOK d.1.toList = true ∧ d.2.length ≤ 2 ∧
    mkInstr d.1 (d.2.map OpT.opnd) = some c := by
  cases c <;> simp only [descr, Option.mem_def, Option.some.injEq, reduceCtorEq, false_imp_iff, implies_true,
    forall_eq'] <;> exact ⟨by decide, by simp, rfl⟩

/-- the register of the operand is one of the item's, the symbol is the label it refers to -/
def OpT.OccursIn (c : Code) : OpT → Prop
  | .reg r | .mem r _ | .mem' r _ | .qmem r _ => r ∈ codeRegs c
  | .rel l | .sym l => codeLabelRef c = some l
  | .imm _ => True

theorem descr_of (c : Code) : ∀ d ∈ descr c, ∀ o ∈ d.2, o.OccursIn c := by
  cases c <;> simp only [descr, Option.mem_def, Option.some.injEq, reduceCtorEq, false_imp_iff, implies_true,
    forall_eq', OpT.OccursIn, codeRegs, codeLabelRef, List.mem_cons, List.not_mem_nil, or_false, forall_eq_or_imp,
    forall_eq, true_or, or_true, and_self]

theorem descr_ok {c : Code} (h : CodeOK c) (d : String × List OpT) (hd : d ∈ descr c) (o : OpT) (ho : o ∈ d.2) :
    o.OK := by
  have := descr_of c d hd o ho
  cases o <;> first | exact h.regs _ this | exact h.refs _ this | trivial

/-- a line made of an ordinary mnemonic and text-safe operands is read as `mkInstr` of them -/
theorem parse_lineOf {s : String} {mn : List Char} {ops : List OpT} (hm : mnOK mn = true) (hl : ops.length ≤ 2)
    (hok : ∀ o ∈ ops, o.OK) (hs : s.toList = lineOf mn (ops.map OpT.txt)) :
    parseLine s = some (mkInstr (String.ofList mn) (ops.map OpT.opnd)) ∧ '\n' ∉ s.toList :=
  match ops, hl, hok, hs with
  | [], _, _, hs => parse_line0 hs hm
  | [a], _, hok, hs => parse_line1 hs hm (OpT.opTxt (hok a (by simp)))
  | [a, b], _, hok, hs => parse_line2 hs hm (OpT.opTxt (hok a (by simp))) (OpT.opTxt (hok b (by simp)))
  | _ :: _ :: _ :: _, hl, _, _ => by simp at hl

/-- THE ROUND TRIP of the ordinary forms -/
theorem reads_descr {c : Code} (h : CodeOK c) {d : String × List OpT} (hd : d ∈ descr c) : Reads c := by
  obtain ⟨hm, hl, hk⟩ := descr_mk c d hd
  have := parse_lineOf hm hl (descr_ok h d hd) (descr_print c d hd)
  rwa [String.ofList_toList, hk] at this

/-! ## `jmp`, sections, symbols -/

theorem reads_JMP (r : Nat) (h : CodeOK (.JMP r)) : Reads (.JMP r) := by
  have hr : r < 16 := h.regs r (.head _)
  have hs : (printCode (.JMP r)).toList = line1 "jmp".toList (regC r) := by
    simp [printCode, INDENT, line0, line1, line2, regC, immC, qmemC, relC, memC', String.toList_append, memStr_toList]
  exact parse_jmp1 hs (opTxt_reg hr)
    (dropPrefix?_none_of_not_mem (c := ' ') (by decide) (fun hm => (regC_chars hr _ hm).1 rfl))

theorem reads_JMPL (l : String) (h : CodeOK (.JMPL l)) : Reads (.JMPL l) := by
  have hl : symOKC l.toList := h.refs l rfl
  have hs : (printCode (.JMPL l)).toList = line1 "jmp".toList l.toList := by
    simp [printCode, INDENT, line0, line1, line2, regC, immC, qmemC, relC, memC', String.toList_append, memStr_toList]
  have := parse_jmp1 hs (opTxt_sym hl)
    (dropPrefix?_none_of_not_mem (c := ' ') (by decide) (symOKC_not_mem hl (by decide)))
  simp only [String.ofList_toList] at this
  exact this

theorem reads_JMPLN (l : String) (h : CodeOK (.JMPLN l)) : Reads (.JMPLN l) := by
  have hl : symOKC l.toList := h.refs l rfl
  have hs : (printCode (.JMPLN l)).toList = line1 "jmp".toList ("near ".toList ++ l.toList) := by
    simp [printCode, INDENT, line0, line1, line2, regC, immC, qmemC, relC, memC', String.toList_append, memStr_toList]
  have := parse_jmp_near hs hl
  simp only [String.ofList_toList] at this
  exact this

theorem reads_NOEXECSTACK : Reads .NOEXECSTACK := by
  constructor
  · decide +kernel
  · decide +kernel

theorem reads_TEXT : Reads .TEXT := by
  constructor
  · decide +kernel
  · decide +kernel

theorem reads_GLOBAL (l : String) (h : CodeOK (.GLOBAL l)) : Reads (.GLOBAL l) := by
  have hl : symOKC l.toList := h.refs l rfl
  have hs : (printCode (.GLOBAL l)).toList = "global".toList ++ ' ' :: l.toList := by
    simp [printCode, String.toList_append]
  have := parse_global hs hl
  simp only [String.ofList_toList] at this
  exact this

theorem reads_EXTERN (f : String) (h : CodeOK (.EXTERN f)) : Reads (.EXTERN f) := by
  have hl : symOKC f.toList := h.ext f rfl
  have hs : (printCode (.EXTERN f)).toList = "extern".toList ++ ' ' :: f.toList := by
    simp [printCode, String.toList_append]
  have := parse_extern hs hl
  simp only [String.ofList_toList] at this
  exact this

/-- EVERY one-line item with text-safe operands is read back exactly -/
theorem parseLine_printCode (c : Code) (h : CodeOK c) (hlab : ∀ l, c ≠ .LAB l) (hcom : ∀ m, c ≠ .COMMENT m) :
    Reads c := by
  cases hd : descr c with
  | some d => exact reads_descr h hd
  | none =>
    cases c with
    | JMP r => exact reads_JMP r h
    | JMPL l => exact reads_JMPL l h
    | JMPLN l => exact reads_JMPLN l h
    | LAB l => exact absurd rfl (hlab l)
    | NOEXECSTACK => exact reads_NOEXECSTACK
    | TEXT => exact reads_TEXT
    | GLOBAL l => exact reads_GLOBAL l h
    | EXTERN f => exact reads_EXTERN f h
    | COMMENT m => exact absurd rfl (hcom m)
    | _ => cases hd

/-- a printed label: an empty line, then `L:` which is read back as the label -/
theorem reads_LAB (l : String) (h : CodeOK (.LAB l)) :
    printCode (.LAB l) = "\n" ++ (l ++ ":") ∧
    parseLine (l ++ ":") = some (some (.LAB l)) ∧ '\n' ∉ (l ++ ":").toList := by
  have hl : symOKC l.toList := h.defs l rfl
  have hs : (l ++ ":").toList = l.toList ++ [':'] := by simp [String.toList_append]
  have := parse_label hs hl
  simp only [String.ofList_toList] at this
  refine ⟨?_, this⟩
  simp [printCode, String.append_assoc]

/-- a printed comment is ONE line that is read back as a comment, with the text up to its trailing blanks -/
theorem reads_COMMENT (m : String) (h : CodeOK (.COMMENT m)) :
    parseLine (printCode (.COMMENT m)) = some (some (.COMMENT (String.ofList (rtrimC m.toList)))) ∧
    '\n' ∉ (printCode (.COMMENT m)).toList := by
  have hs : (printCode (.COMMENT m)).toList = ' ' :: ' ' :: ' ' :: ' ' :: ';' :: ' ' :: m.toList := by
    simp [printCode, INDENT, String.toList_append]
  refine ⟨parse_comment hs, ?_⟩
  rw [hs]; intro hm
  simp only [List.mem_cons] at hm
  rcases hm with hm | hm | hm | hm | hm | hm | hm
  · revert hm; decide
  · revert hm; decide
  · revert hm; decide
  · revert hm; decide
  · revert hm; decide
  · revert hm; decide
  · exact h.comment m rfl hm

end Scc.X86.Loader
