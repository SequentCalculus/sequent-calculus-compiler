/-
  Scc.X86.CCProofsSites — property C13, x86-64, static facts about the emitted text: what the shape
  `CCShape plainCC body` of Scc/X86/CCProofsStatic.lean says about CALL SITES and about the whole routine.

  (i)   `ccShape_call_site`: every `call` of the body is the call of a print block: it is preceded by
        `blockBefore t ctx` (argument staging; save sequence; argument move) and followed by
        `blockAfter ctx` (restore sequence) for ONE context `ctx` and a source `t` that is the `Snd`
        temporary of a variable of `ctx`; `save_restore_mirror`: the restore sequence undoes the save
        sequence (same backup moves reversed in direction, same padding, pops in reverse push order);
        `mem_callerSave_iff`: the saved registers are EXACTLY the caller-save registers rax … r11 that
        hold a live temporary of `ctx`; the backup registers are free callee-saved registers.
  (ii)  `spDelta` / `spSum`: static displacement of `rsp`.  `routine_call_parity`: at every call site of
        the routine the displacement from the routine entry is ≡ 8 (mod 16), i.e. with the System V
        entry condition `rsp ≡ 8 (mod 16)` the call is made with `rsp ≡ 0 (mod 16)`;
        `routine_balanced`: the displacement at the final `ret` is 0.
  (iii) the routine is head ++ body ++ epilogue ++ [ret] (`routine_anatomy`, ProofsCC.lean); the prologue pushes
        `calleeSaved` (ALL callee-saved registers of the machine model) and the epilogue pops them in
        reverse order; `routine_spill_refs`: every `rsp`-relative operand of the routine lies inside the
        spill area reserved by the prologue (`sub rsp, 2048`).
  (iv)  `ccShape_nonplain_in_block`: an instruction of the body that writes `rsp` or is a push / pop / call
        belongs to a print block.
  (i) and (iv) are the two readings — by lists and by positions — of ONE induction over the shape,
  `Shape.split_at` of Scc/Backend/ProofsBlocks.lean (an instruction that is not plain lies in a block), at the
  print blocks; the splitting of a list at its only call is `split_unique` / `split_middle` there.
-/
import Scc.X86.CCProofsStatic

namespace Scc.X86

open Scc.AxCut

/-- what the instruction adds to `rsp` (instructions that write `rsp` in any other way do not occur:
    `plainCC`) -/
def spDelta : Code → Int
  | .PUSH _ => -8
  | .POP _ => 8
  | .SUBI r i => if r = 0 then -i else 0
  | .ADDI r i => if r = 0 then i else 0
  | _ => 0

def spSum (l : List Code) : Int := (l.map spDelta).sum

@[simp] theorem spSum_nil : spSum [] = 0 := rfl
@[simp] theorem spSum_cons (c : Code) (l : List Code) : spSum (c :: l) = spDelta c + spSum l := by
  simp [spSum]
@[simp] theorem spSum_append (a b : List Code) : spSum (a ++ b) = spSum a + spSum b := by
  simp [spSum]

theorem spDelta_plain {c : Code} (h : plainCC c = true) : spDelta c = 0 := by
  cases c <;> simp [plainCC, isStackOp, codeWrites, codeMems] at h <;> simp [spDelta, *]

theorem spSum_allCC {l : List Code} (h : AllCC l) : spSum l = 0 := by
  induction l with
  | nil => rfl
  | cons c rest ih =>
    simp only [AllCC, List.all_cons, Bool.and_eq_true] at h
    rw [spSum_cons, spDelta_plain h.1, ih h.2]; rfl

theorem spSum_push (l : List Nat) : spSum (l.map Code.PUSH) = -8 * (l.length : Int) := by
  induction l with
  | nil => rfl
  | cons r rest ih => simp only [List.map_cons, spSum_cons, ih, spDelta, List.length_cons]; omega

theorem spSum_pop (l : List Nat) : spSum (l.map Code.POP) = 8 * (l.length : Int) := by
  induction l with
  | nil => rfl
  | cons r rest ih => simp only [List.map_cons, spSum_cons, ih, spDelta, List.length_cons]; omega

theorem spSum_backupMoves (first : Nat) (l : List Nat) (k : Nat) : spSum (backupMoves first l k) = 0 := by
  induction l generalizing k with
  | nil => rfl
  | cons r rest ih =>
    have : backupMoves first (r :: rest) k = Code.MOV (first + k) r :: backupMoves first rest (k + 1) := by
      simp [backupMoves, List.zipIdx_cons]
    rw [this, spSum_cons, ih]; rfl

theorem spSum_restoreMoves (first : Nat) (l : List Nat) (k : Nat) : spSum (restoreMoves first l k) = 0 := by
  induction l generalizing k with
  | nil => rfl
  | cons r rest ih =>
    have : restoreMoves first (r :: rest) k = Code.MOV r (first + k) :: restoreMoves first rest (k + 1) := by
      simp [restoreMoves, List.zipIdx_cons]
    rw [this, spSum_cons, ih]; rfl

/-- number of registers that `save_caller_save_registers` pushes -/
def pushedCount (first : Nat) (L : List Nat) : Nat := L.length - backupRegistersUsed first L

theorem spSum_save (first : Nat) (L : List Nat) :
    spSum (saveCallerSaveRegisters first L) =
      -8 * (pushedCount first L : Int) - (if pushedCount first L % 2 = 0 then 8 else 0) := by
  rw [save_eq]
  simp only [spSum_append, spSum_backupMoves, spSum_push, List.length_drop, pushedCount]
  by_cases h : (L.length - backupRegistersUsed first L) % 2 = 0
  · simp only [h, if_true, spSum_cons, spSum_nil, spDelta]; omega
  · simp only [h, if_false, spSum_nil]; omega

theorem spSum_restore (first : Nat) (L : List Nat) :
    spSum (restoreCallerSaveRegisters first L) =
      8 * (pushedCount first L : Int) + (if pushedCount first L % 2 = 0 then 8 else 0) := by
  rw [restore_eq]
  simp only [spSum_append, spSum_restoreMoves, spSum_pop, List.length_drop, List.length_reverse, pushedCount]
  by_cases h : (L.length - backupRegistersUsed first L) % 2 = 0
  · simp only [h, if_true, spSum_cons, spSum_nil, spDelta]; omega
  · simp only [h, if_false, spSum_nil]; omega

def blockBefore (t : Temporary) (ctx : Ctx) : List Code :=
  printPre t ++ [Code.COMMENT "#save caller-save registers"] ++
    saveCallerSaveRegisters (callerSaveRegistersInfo ctx).1 (callerSaveRegistersInfo ctx).2 ++
    [Code.COMMENT "#move argument into place", printArgMove t]

def blockAfter (ctx : Ctx) : List Code :=
  Code.COMMENT "#restore caller-save registers" ::
    restoreCallerSaveRegisters (callerSaveRegistersInfo ctx).1 (callerSaveRegistersInfo ctx).2

def printFn (nl : Bool) : String := if nl then "println_i64" else "print_i64"

theorem printI64_split (nl : Bool) (t : Temporary) (ctx : Ctx) :
    printI64 nl t ctx = blockBefore t ctx ++ Code.CALL (printFn nl) :: blockAfter ctx := by
  rw [printI64_eq]
  simp [blockBefore, blockAfter, printFn]

def NoCall (l : List Code) : Prop := ∀ c ∈ l, isCall c = false

theorem noCall_append {a b : List Code} (ha : NoCall a) (hb : NoCall b) : NoCall (a ++ b) :=
  fun c hc => (List.mem_append.1 hc).elim (ha c) (hb c)

theorem noCall_save (first : Nat) (L : List Nat) : NoCall (saveCallerSaveRegisters first L) := by
  intro code hcode
  rw [save_eq] at hcode
  simp only [List.mem_append, backupMoves, List.mem_map] at hcode
  rcases hcode with (⟨_, _, rfl⟩ | ⟨_, _, rfl⟩) | hcode
  · rfl
  · rfl
  · split at hcode <;> simp at hcode; subst hcode; rfl

theorem noCall_restore (first : Nat) (L : List Nat) : NoCall (restoreCallerSaveRegisters first L) := by
  intro code hcode
  rw [restore_eq] at hcode
  simp only [List.mem_append, restoreMoves, List.mem_map] at hcode
  rcases hcode with (⟨_, _, rfl⟩ | hcode) | ⟨_, _, rfl⟩
  · rfl
  · split at hcode <;> simp at hcode; subst hcode; rfl
  · rfl

theorem noCall_blockBefore (t : Temporary) (ctx : Ctx) : NoCall (blockBefore t ctx) := by
  unfold blockBefore
  refine noCall_append (noCall_append (noCall_append ?_ ?_) (noCall_save _ _)) ?_
  · cases t <;> simp [NoCall, printPre, moveToRegister, isCall]
  · simp [NoCall, isCall]
  · simp [NoCall, isCall, printArgMove]

theorem noCall_blockAfter (ctx : Ctx) : NoCall (blockAfter ctx) := by
  intro c hc
  simp only [blockAfter, List.mem_cons] at hc
  rcases hc with rfl | hc
  · rfl
  · exact noCall_restore _ _ c hc

theorem spSum_printPre (t : Temporary) : spSum (printPre t) = 0 := by
  cases t <;> simp [printPre, moveToRegister, spDelta]

/-- (ii) for one block: between the block entry and its call `rsp` moves by an ODD number of words -/
theorem spSum_blockBefore (t : Temporary) (ctx : Ctx) : spSum (blockBefore t ctx) % 16 = 8 := by
  simp only [blockBefore, spSum_append, spSum_printPre, spSum_save, spSum_cons, spSum_nil, spDelta,
    printArgMove]
  split <;> omega

theorem spSum_printI64 (nl : Bool) (t : Temporary) (ctx : Ctx) : spSum (printI64 nl t ctx) = 0 := by
  rw [printI64_split]
  simp only [blockBefore, blockAfter, spSum_append, spSum_printPre, spSum_save, spSum_restore, spSum_cons,
    spSum_nil, spDelta, printArgMove]
  split <;> omega

theorem spSum_ccShape {body : List Code} (h : CCShape plainCC body) : spSum body = 0 := by
  induction h with
  | nil => rfl
  | plain hc _ ih => rw [spSum_cons, spDelta_plain hc, ih]; rfl
  | print _ _ ih => rw [spSum_append, spSum_printI64, ih]; rfl

theorem plainCC_noCall {c : Code} (h : plainCC c = true) : isCall c = false := by
  cases c <;> first | rfl | simp [plainCC, isStackOp] at h

/-- (i) EVERY CALL SITE of a body is the call of a print block -/
theorem ccShape_call_site {body : List Code} (h : CCShape plainCC body) :
    ∀ {pre post : List Code} {f : String}, body = pre ++ Code.CALL f :: post →
    ∃ pre' nl t ctx post', PrintSrc ctx t ∧ CCShape plainCC pre' ∧ CCShape plainCC post' ∧
      f = printFn nl ∧ pre = pre' ++ blockBefore t ctx ∧ post = blockAfter ctx ++ post' := by
  intro pre post f e
  obtain ⟨pre', m1, m2, post', ⟨nl, t, ctx, hs, hb⟩, h1, h2, hp, hq⟩ :=
    h.toShape.split_at (x := Code.CALL f) (by rfl) e
  rw [printI64_split] at hb
  obtain ⟨r1, r2, r3⟩ := Scc.Backend.Blocks.split_unique (p := isCall) (noCall_blockBefore t ctx) rfl hb.symm
    (noCall_blockAfter ctx)
  simp only [Code.CALL.injEq] at r2
  exact ⟨pre', nl, t, ctx, post', hs, .ofShape h1, .ofShape h2, r2.symm, by rw [hp, r1], by rw [hq, r3]⟩

/-- (ii) for bodies: the displacement of `rsp` between the start of the body and any of its call
    sites is an odd number of words -/
theorem ccShape_call_parity {body : List Code} (h : CCShape plainCC body) {pre post : List Code} {f : String}
    (e : body = pre ++ Code.CALL f :: post) : spSum pre % 16 = 8 := by
  obtain ⟨pre', nl, t, ctx, post', _, h1, _, _, hp, _⟩ := ccShape_call_site h e
  rw [hp, spSum_append, spSum_ccShape h1]
  have := spSum_blockBefore t ctx
  omega

theorem plainCC_spec {c : Code} (h : plainCC c = true) :
    isStackOp c = false ∧ 0 ∉ codeWrites c ∧ ∀ bi ∈ codeMems c, bi.1 = 0 → slotOK bi.2 = true := by
  simp only [plainCC, Bool.and_eq_true, Bool.not_eq_true', List.all_eq_true, bne_iff_ne, ne_eq,
    Bool.or_eq_true] at h
  refine ⟨h.1.1, fun h0 => h.1.2 0 h0 rfl, fun bi hbi h0 => ?_⟩
  rcases h.2 bi hbi with h1 | h1
  · exact absurd h0 h1
  · exact h1

/-- (iv) an instruction of the body that is NOT plain (it writes `rsp`, or is a push / pop / call /
    ret) lies inside a print block: `body.drop j` starts with `printI64 nl t ctx` and the instruction
    is one of the block's -/
theorem ccShape_nonplain_in_block {plain : Code → Bool} {body : List Code} (h : CCShape plain body) :
    ∀ (k : Nat) (c : Code), body[k]? = some c → plain c = false →
      ∃ j nl t ctx, PrintSrc ctx t ∧ j ≤ k ∧ k < j + (printI64 nl t ctx).length ∧
        (body.drop j).take (printI64 nl t ctx).length = printI64 nl t ctx := by
  intro k c hk hp
  obtain ⟨j, _, ⟨nl, t, ctx, hs, rfl⟩, h1, h2, h3⟩ := h.toShape.nonplain_in_block hk hp
  exact ⟨j, nl, t, ctx, hs, h1, h2, h3⟩

/-- register `r` holds a live temporary of the context: the `Snd` temporary of any variable, the
    `Fst` temporary of a non-integer -/
def LiveReg (ctx : Ctx) (r : Nat) : Prop :=
  ∃ i b, ctx[i]? = some b ∧ (r = 2 * i + 5 ∨ (r = 2 * i + 4 ∧ b.chi ≠ .ext))

theorem mem_regsToSave_inv (l : List Binding) (k r : Nat) (h : r ∈ regsToSave l k) :
    ∃ i b, l[i]? = some b ∧ (r = 4 + 2 * (k + i) + 1 ∨ (r = 4 + 2 * (k + i) ∧ b.chi ≠ .ext)) := by
  induction l generalizing k with
  | nil => simp [regsToSave] at h
  | cons b0 rest ih =>
    rw [regsToSave_cons, List.mem_append] at h
    rcases h with h | h
    · refine ⟨0, b0, rfl, ?_⟩
      split at h
      · simp at h; left; omega
      · rename_i hne
        simp at h
        rcases h with h | h
        · right; exact ⟨by omega, fun e => hne (by rw [e]; decide)⟩
        · left; omega
    · obtain ⟨i, b, hb, hr⟩ := ih (k + 1) h
      refine ⟨i + 1, b, by simpa using hb, ?_⟩
      rcases hr with hr | hr
      · left; omega
      · right; exact ⟨by omega, hr.2⟩

/-- (i) EXACTNESS: `registers_to_save` = the caller-save registers rax … r11 (backend numbers 4 … 11)
    that hold a live temporary of the context -/
theorem mem_callerSave_iff (ctx : Ctx) (r : Nat) :
    r ∈ (callerSaveRegistersInfo ctx).2 ↔ (4 ≤ r ∧ r ≤ 11 ∧ LiveReg ctx r) := by
  rw [csri_eq]
  dsimp only
  constructor
  · intro h
    obtain ⟨i, b, hb, hr⟩ := mem_regsToSave_inv _ 0 r h
    have hi : i < (ctx.take 4).length := by
      rcases Nat.lt_or_ge i (ctx.take 4).length with h' | h'
      · exact h'
      · simp [List.getElem?_eq_none h'] at hb
    have hi4 : i < 4 := by simp at hi; omega
    have hb' : ctx[i]? = some b := by rw [List.getElem?_take_of_lt hi4] at hb; exact hb
    rcases hr with hr | hr
    · exact ⟨by omega, by omega, i, b, hb', Or.inl (by omega)⟩
    · exact ⟨by omega, by omega, i, b, hb', Or.inr ⟨by omega, hr.2⟩⟩
  · rintro ⟨h4, h11, i, b, hb, hr⟩
    have hi4 : i < 4 := by rcases hr with hr | hr <;> omega
    have hb' : (ctx.take 4)[i]? = some b := by rw [List.getElem?_take_of_lt hi4]; exact hb
    have := mem_regsToSave (ctx.take 4) 0 i b hb'
    rcases hr with hr | hr
    · have e : 4 + 2 * (0 + i) + 1 = r := by omega
      rw [← e]; exact this.1
    · have e : 4 + 2 * (0 + i) = r := by omega
      rw [← e]; exact this.2 hr.2

/-- the backup registers are free (above every live register) callee-saved registers r12 … r15 -/
theorem backupRegs_free (ctx : Ctx) :
    12 ≤ (callerSaveRegistersInfo ctx).1 ∧ 2 * ctx.length + 4 ≤ (callerSaveRegistersInfo ctx).1 ∧
    ((callerSaveRegistersInfo ctx).1 + backupRegistersUsed (callerSaveRegistersInfo ctx).1
      (callerSaveRegistersInfo ctx).2 ≤ 16 ∨
     backupRegistersUsed (callerSaveRegistersInfo ctx).1 (callerSaveRegistersInfo ctx).2 = 0) := by
  rw [csri_eq]
  dsimp only
  refine ⟨Nat.le_max_right _ _, Nat.le_max_left _ _, ?_⟩
  unfold backupRegistersUsed
  simp only [show REGISTER_NUM = 16 from rfl]
  omega

/-- (i) MIRROR: the restore sequence undoes the save sequence: the same registers come back from
    the same backup registers, the padding is removed iff it was added, and the pops are the pushes
    in reverse order -/
theorem save_restore_mirror (first : Nat) (L : List Nat) :
    ∃ (moved pushed : List Nat) (pad : Bool), moved ++ pushed = L ∧
      saveCallerSaveRegisters first L =
        backupMoves first moved 0 ++ pushed.map Code.PUSH ++ (if pad then [Code.SUBI 0 8] else []) ∧
      restoreCallerSaveRegisters first L =
        restoreMoves first moved 0 ++ (if pad then [Code.ADDI 0 8] else []) ++ pushed.reverse.map Code.POP := by
  refine ⟨L.take (backupRegistersUsed first L), L.drop (backupRegistersUsed first L),
    decide ((L.length - backupRegistersUsed first L) % 2 = 0), List.take_append_drop _ _, ?_, ?_⟩
  · rw [save_eq]; simp
  · rw [restore_eq]; simp

/-- (iii) PAIRING: the prologue pushes exactly the callee-saved registers of the System V ABI (the
    machine model's `calleeSaved`) and reserves the spill area; the epilogue releases the spill area
    and pops the same registers in reverse order -/
theorem prologue_epilogue_pairing :
    prologue = [Code.COMMENT "setup", Code.COMMENT "save registers"] ++ calleeSaved.map Code.PUSH ++
      [Code.COMMENT "reserve space for register spills", Code.SUBI 0 2048,
       Code.COMMENT "initialize heap pointer", Code.MOV 2 7, Code.COMMENT "initialize free pointer",
       Code.MOV 3 2, Code.ADDI 3 64] ∧
    epilogue = [Code.LAB "cleanup", Code.COMMENT "free space for register spills", Code.ADDI 0 2048,
       Code.COMMENT "restore registers"] ++ calleeSaved.reverse.map Code.POP :=
  ⟨rfl, rfl⟩

theorem allCC_moveArguments : ∀ (n : Nat) (codes : List Code), moveArguments n = .ok codes → AllCC codes
  | 0, codes, h => by
    simp only [moveArguments, Except.ok.injEq] at h; subst h; rfl
  | 1, codes, h => by
    simp only [moveArguments] at h
    split at h
    · rename_i target src ht hs
      cases h
      have hm := List.mem_of_getElem? ht
      simp only [consts, List.mem_cons, List.not_mem_nil, or_false] at hm
      simp [AllCC, plainCC, isStackOp, codeWrites, codeMems]; omega
    · cases h
  | n + 2, codes, h => by
    simp only [moveArguments] at h
    split at h
    · cases h
    · split at h
      · rename_i target src rest ht hs hrest
        cases h
        have hm := List.mem_of_getElem? ht
        simp only [consts, List.mem_cons, List.not_mem_nil, or_false] at hm
        refine allCC_append ?_ (allCC_moveArguments (n + 1) rest hrest)
        simp [AllCC, plainCC, isStackOp, codeWrites, codeMems]; omega
      · cases h

theorem spSum_routineHead {moves : List Code} (hm : AllCC moves) : spSum (routineHead moves) = -2096 := by
  simp only [routineHead, spSum_append, spSum_allCC hm]
  rfl

theorem spSum_epilogue : spSum epilogue = 2096 := rfl

theorem noCall_of_allCC {l : List Code} (h : AllCC l) : NoCall l :=
  fun c hc => plainCC_noCall (List.all_eq_true.1 h c hc)

theorem noCall_routineHead {moves : List Code} (hm : AllCC moves) : NoCall (routineHead moves) := by
  unfold routineHead
  refine noCall_append (noCall_append (noCall_append ?_ ?_) (noCall_append ?_ (noCall_of_allCC hm))) ?_
  · simp [NoCall, isCall]
  · simp [NoCall, isCall, preamble]
  · intro c hc
    simp only [prologue, List.mem_append, List.mem_cons, List.mem_map, List.not_mem_nil, or_false] at hc
    rcases hc with ((rfl | rfl) | ⟨_, _, rfl⟩) | rfl | rfl | rfl | rfl | rfl | rfl | rfl <;> rfl
  · simp [NoCall, isCall]

theorem noCall_epilogue_ret : NoCall (epilogue ++ [Code.RET]) := by
  intro c hc
  simp only [epilogue, List.mem_append, List.mem_cons, List.mem_map, List.not_mem_nil, or_false] at hc
  rcases hc with ((rfl | rfl | rfl | rfl) | ⟨_, _, rfl⟩) | rfl <;> rfl

/-- (ii) PARITY AT EVERY CALL SITE OF THE ROUTINE: the static displacement of `rsp` between the
    routine entry and the call is ≡ 8 (mod 16); with the ABI entry condition `rsp ≡ 8 (mod 16)` the
    call is made with `rsp ≡ 0 (mod 16)` (`call_aligned_of_parity`) -/
theorem routine_call_parity {body routine : List Code} {n : Nat} (hb : CCShape plainCC body)
    (h : intoRoutine body n = .ok routine) {pre post : List Code} {f : String}
    (e : routine = pre ++ Code.CALL f :: post) : spSum pre % 16 = 8 := by
  obtain ⟨moves, hm, hr⟩ := routine_anatomy h
  have hmoves := allCC_moveArguments n moves hm
  rw [hr, List.append_assoc] at e
  obtain ⟨pre', post', h1, h2, _⟩ := Scc.Backend.Blocks.split_middle (p := isCall) rfl (noCall_routineHead hmoves) noCall_epilogue_ret e
  rw [h1, spSum_append, spSum_routineHead hmoves]
  have := ccShape_call_parity hb h2
  omega

/-- with the ABI entry alignment, `entry + displacement` is 16-aligned at the call -/
theorem call_aligned_of_parity {entry : Nat} {d : Int} (he : entry % 16 = 8) (hd : d % 16 = 8) :
    ((entry : Int) + d) % 16 = 0 := by omega

/-- (ii)/(iii) BALANCE: at the final `ret` the static displacement is 0 (`rsp` is back at its entry
    value) -/
theorem routine_balanced {body routine : List Code} {n : Nat} (hb : CCShape plainCC body)
    (h : intoRoutine body n = .ok routine) : spSum routine.dropLast = 0 ∧ routine.getLast? = some Code.RET := by
  obtain ⟨moves, hm, hr⟩ := routine_anatomy h
  have hmoves := allCC_moveArguments n moves hm
  have e : routine = (routineHead moves ++ body ++ epilogue) ++ [Code.RET] := by
    rw [hr]; simp
  rw [e, List.dropLast_concat, List.getLast?_concat]
  refine ⟨?_, rfl⟩
  rw [spSum_append, spSum_append, spSum_routineHead hmoves, spSum_ccShape hb, spSum_epilogue]
  rfl

def spillRefsOK (c : Code) : Bool := (codeMems c).all (fun bi => bi.1 != 0 || slotOK bi.2)

theorem spillRefsOK_of_plainCC {c : Code} (h : plainCC c = true) : spillRefsOK c = true := by
  simp only [plainCC, Bool.and_eq_true] at h
  exact h.2

theorem spillRefs_save (first : Nat) (L : List Nat) :
    (saveCallerSaveRegisters first L).all spillRefsOK = true := by
  rw [List.all_eq_true]
  intro code hcode
  rw [save_eq] at hcode
  simp only [List.mem_append, backupMoves, List.mem_map] at hcode
  rcases hcode with (⟨_, _, rfl⟩ | ⟨_, _, rfl⟩) | hcode
  · rfl
  · rfl
  · split at hcode <;> simp at hcode; subst hcode; rfl

theorem spillRefs_restore (first : Nat) (L : List Nat) :
    (restoreCallerSaveRegisters first L).all spillRefsOK = true := by
  rw [List.all_eq_true]
  intro code hcode
  rw [restore_eq] at hcode
  simp only [List.mem_append, restoreMoves, List.mem_map] at hcode
  rcases hcode with (⟨_, _, rfl⟩ | hcode) | ⟨_, _, rfl⟩
  · rfl
  · split at hcode <;> simp at hcode; subst hcode; rfl
  · rfl

theorem spillRefs_printI64 (nl : Bool) {t : Temporary} (ht : OpndOK t) (ctx : Ctx) :
    (printI64 nl t ctx).all spillRefsOK = true := by
  rw [printI64_eq]
  simp only [List.all_append, spillRefs_save, spillRefs_restore, Bool.and_true]
  have h1 : (printPre t).all spillRefsOK = true := by
    cases t with
    | reg r => rfl
    | spill p =>
      simp only [OpndOK] at ht
      simp [printPre, moveToRegister, spillRefsOK, codeMems, STACK_eq, slotOK_stackOffset ht]
  rw [h1]
  rfl

theorem spillRefs_ccShape {body : List Code} (h : CCShape plainCC body) : body.all spillRefsOK = true := by
  induction h with
  | nil => rfl
  | plain hc _ ih => rw [List.all_cons, spillRefsOK_of_plainCC hc, ih]; rfl
  | @print nl t ctx rest hs _ ih =>
    rw [List.all_append, spillRefs_printI64 nl hs.tempOK.1.opnd ctx, ih]; rfl

/-- (iii) SPILL AREA: the prologue reserves `SPILL_SPACE = 2048` bytes (`sub rsp, 2048`); every
    `rsp`-relative memory operand of every instruction of the routine addresses an 8-aligned word
    `[rsp + d]` with `0 ≤ d` and `d + 8 ≤ 2048`, and all of them are executed with `rsp` at the bottom
    of the spill area (in a print block the only one, the staging of a spilled argument, comes BEFORE
    the first push: `blockBefore` starts with `printPre`) -/
theorem routine_spill_refs {body routine : List Code} {n : Nat} (hb : CCShape plainCC body)
    (h : intoRoutine body n = .ok routine) : routine.all spillRefsOK = true := by
  obtain ⟨moves, hm, hr⟩ := routine_anatomy h
  have hmoves := allCC_moveArguments n moves hm
  rw [hr]
  simp only [List.all_append, Bool.and_eq_true, routineHead]
  refine ⟨⟨⟨⟨⟨rfl, rfl⟩, ⟨rfl, ?_⟩⟩, rfl⟩, spillRefs_ccShape hb⟩, ⟨rfl, rfl⟩⟩
  exact List.all_eq_true.2 fun c hc => spillRefsOK_of_plainCC (List.all_eq_true.1 hmoves c hc)

end Scc.X86
