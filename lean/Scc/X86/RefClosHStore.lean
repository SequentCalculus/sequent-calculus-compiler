/-
  Scc.X86.RefClosHStore — `storeK` (the words of the stored closure fields, in the vocabulary of the x86-64 machine)
  and `X3R.ref_lt`: the references held by the variables of a related context are heap addresses.  The abstract
  `store` against `Memory::store` itself is `Scc.Backend.ThreeWay.store_x3` (Backend/ThreeWayLet.lean) at the
  x86-64 target (ThreeWayTarget.lean).
-/
import Scc.X86.RefClosHX3
import Scc.Backend.ProofsHeap2
import Scc.Heap.RefineFrontier
import Scc.Heap.RefineHRef
import Scc.Backend.ProofsRoots
import Scc.Backend.StepProv

namespace Scc.X86.Ref.K

open Scc.AxCut Scc.Backend Scc.Backend.Abs
open Scc.Heap (HState InvS InvW)
open Scc.Heap.Refine (HRef imgW fieldImg kindB href_store FrLe Room frLe_store FrPk frPk_store href_head_lt href_root_mem chi_bne_iff ofNat_of_toNat)
open Scc.Backend.Prov (readFields_spec)
open Scc.Backend.Sim2 (roots_split)

theorem kindB_trF (κ : Nat → Nat → Word) (id j : Nat) (f : Abs.Field) : kindB (trF κ id j f) = kindB f := rfl

/-- the references held by the variables of a related context are addresses inside the heap -/
theorem X3R.ref_lt {F : Frame} {Γ : Ctx} {cfg : Config} {hs : HState} {ι : Nat → Nat} {κ : Nat → Nat → Word} {st : State}
    (X : X3 F Γ cfg hs ι κ st) {i : Nat} (hi : i < Γ.length) (hc : Γ[i].chi ≠ .ext) {r : Word}
    (hr : cfg.temps.get (2 * i) = some r) (h0 : r ≠ 0) :
    ι r.toNat < 2 ^ 64 ∧ r.toNat < cfg.next := by
  have hm := Scc.Backend.Sim2.mem_roots hi hc hr h0
  obtain ⟨o, ho⟩ := href_root_mem X.href hm
  have h1 := href_head_lt X.href ho
  have h2 := X.hrel.limit
  have h3 := X.bnd.sp.cfg.heapBelow
  have h4 := X.bnd.sp.cfg.top
  have h5 := X.bnd.sp.high
  have h6 := X.bnd.sp.low
  have h7 := (X.href.abs.ids _ ho).2.1
  simp only at h1 h7
  constructor
  · omega
  · exact h7

/-- the words of the stored closure fields: what the machine holds at the stored positions -/
def storeK (F : Frame) (st : State) (κ : Nat → Nat → Word) (id n : Nat) : Nat → Nat → Word :=
  fun i j => if i = id then (tempVal F.sp st (posTemp (2 * (n + j) + 1))).getD 0 else κ i j

end Scc.X86.Ref.K
