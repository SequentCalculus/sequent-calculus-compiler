/-
  Scc.X86.MemProofsLoad — the contract of `load` (memory.rs: release_block, load_field,
  load_value(s), load_fields, Memory::load with load_register) against `Scc.Heap.loadObj`:
  unique branch (count 0: the blocks go back onto the linear free list, the children move into the
  environment) and shared branch (count > 0: decrement, every pointer child is shared), for objects
  of ANY number of fields (one block or a chain) and EVERY placement of the loaded variables and of
  the memory-block temporaries (registers and spill slots; a spilled memory block is accessed through
  TEMPORARY_TEMP = rax, which is evacuated to SPILL_TEMP and restored at the end).  The proof is the
  backend-independent `Scc.Mem.LoadSpec.load_does` (Mem/Load.lean) at the leaves `loadSpec`.
-/
import Scc.X86.MemProofsStore
import Scc.X86.Total
import Scc.Mem.Load

set_option linter.unusedSimpArgs false

namespace Scc.X86

open Scc.AxCut
open Scc.Backend (GenM TempNum freshLabel)
open Scc.Heap (HOk rd_eq_ok wr_eq_ok)

section Prim
variable {c : MachCfg} {μ : MState} {h h' : Scc.Heap.HState}

/-- `t := [mbr + off]` (through TEMP for a spilled `t`) is the model's `rd` -/
theorem m_loadFieldCode (C : HeapCfgOK c) (H : HRelM c μ h) {t : Temporary} (ht : TempOK t)
    {mbr : Nat} (hb1 : 2 ≤ mbr) (hb2 : mbr < 16) {b : Word} (hvb : μ.val (.reg mbr) = some b)
    {off : Nat} (ho : off < 2 ^ 31) {v : Nat} (hrd : Scc.Heap.rd h (b.toNat + off) = .ok v) :
    ∃ μ' w, mFwd c (Mem.loadFieldC t mbr (off : Int)) μ = some (μ', .next) ∧ w.toNat = v ∧
      μ'.val t = some w ∧ μ'.val (.reg (jumpReg t)) = some w ∧ μ'.heap = μ.heap ∧ μ'.flags = μ.flags ∧
      (∀ u, u ≠ t → u ≠ .reg TEMP → μ'.val u = μ.val u) := by
  obtain ⟨hok, hv⟩ := rd_eq_ok.1 hrd
  have ha := haddr_ok C H ho hok
  have hb0 : ¬ mbr = 0 := by omega
  have hbo : 1 ≤ mbr := by omega
  cases t with
  | reg r =>
    have hro : regOpnd r = some (.reg r) := regOpnd_of ht.opnd
    refine ⟨μ.setT (.reg r) (some (μ.heap (b.toNat + off))), μ.heap (b.toNat + off), ?_,
      by rw [hv, H.mem], by simp, by simp [jumpReg], rfl, rfl, fun u hu _ => by simp [hu]⟩
    simp [Mem.loadFieldC, mFwd_cons, mFwd_nil, mcont, mexecC, mexec, hb0, hro, maddr, hbo, hb2, hvb, ha]
  | spill p =>
    have hmo : memOpnd 0 (stackOffset p) = some (.spill p) := memOpnd_of ht.opnd
    refine ⟨(μ.setT (.reg 1) (some (μ.heap (b.toNat + off)))).setT (.spill p) (some (μ.heap (b.toNat + off))),
      μ.heap (b.toNat + off), ?_, by rw [hv, H.mem], by simp, by simp [jumpReg, TEMP_eq], rfl, rfl,
      fun u hu hT => by rw [TEMP_eq] at hT; simp [hu, hT]⟩
    simp [Mem.loadFieldC, mFwd_cons, mFwd_nil, mcont, mexecC, mexec, hb0, hmo, maddr, hbo, hb2, hvb, ha, TEMP_eq,
      STACK_eq, regOpnd1]

theorem shareBlockNC_reg (r k : Nat) : Mem.shareBlockNC (.reg r) 1 k =
    [.CMPI r 0, .JEL (labName (k + 1)), .COMMENT "####increment refcount", .ADDIM r 0 1, .LAB (labName (k + 1))] := rfl

/-- the register in which a pointer just loaded is shared is the one through which the temporary is reached -/
theorem shareReg_eq (t : Temporary) : Mem.shareReg t = jumpReg t := by cases t <;> rfl

theorem labsIn_shareCode (r k : Nat) : LabsIn (Mem.shareBlockNC (.reg r) 1 k) k (k + 1) := by
  intro l hl
  simp only [shareBlockNC_reg, List.mem_cons, reduceCtorEq, false_or, Code.LAB.injEq, List.not_mem_nil, or_false] at hl
  exact ⟨k + 1, hl, by omega, by omega⟩

/-- `share_block` on the view, pointer in ANY register (also TEMP): one more reference -/
theorem m_share1 (C : HeapCfgOK c) (H : HRelM c μ h) {r : Nat} (h1 : 1 ≤ r) (h2 : r < 16) {p : Word}
    (hv : μ.val (.reg r) = some p) (hop : Scc.Heap.shareBlock h p.toNat 1 = .ok h')
    (hno : p ≠ 0 → h.mem.get p.toNat + 1 < 2 ^ 64) (k : Nat) :
    ∃ μ', mFwd c (Mem.shareBlockNC (.reg r) 1 k) μ = some (μ', .next) ∧ HRelM c μ' h' ∧ μ'.val = μ.val := by
  rw [shareBlockNC_reg]
  generalize labName (k + 1) = l
  have hro : regOpnd r = some (.reg r) := regOpnd_of ⟨h1, h2⟩
  have hr0 : ¬ r = 0 := by omega
  by_cases hp : p = 0
  · subst hp
    have : h' = h := by
      simp [Scc.Heap.shareBlock] at hop
      exact hop.symm
    subst this
    refine ⟨μ.setF (some (0, 0)), ?_, H.setF _, rfl⟩
    simp [mFwd_cons, mFwd_nil, mcont, mexecC, mexec, hro, hv, skipTo, fitsI32]
  · have hp' : p.toNat ≠ 0 := fun e => hp (BitVec.eq_of_toNat_eq (by simpa using e))
    have hpz : ¬ p = 0#64 := hp
    unfold Scc.Heap.shareBlock at hop
    rw [if_neg hp'] at hop
    cases hrd : Scc.Heap.rd h p.toNat with
    | error f => simp [hrd] at hop
    | ok cnt =>
      simp only [hrd] at hop
      obtain ⟨hok, hcnt⟩ := rd_eq_ok.1 hrd
      obtain ⟨_, rfl⟩ := wr_eq_ok.1 hop
      have ha : haddr c p 0 = some p.toNat := haddr_ok0 C H hok
      have hw : (μ.heap p.toNat + BitVec.ofInt 64 1).toNat = cnt + 1 := by
        have := toNat_add_ofInt_nat (μ.heap p.toNat) 1 (by rw [← H.mem]; exact hno hp)
        rw [hcnt, H.mem]; simpa using this
      refine ⟨(μ.setH p.toNat (μ.heap p.toNat + BitVec.ofInt 64 1)).setF none, ?_, ?_, rfl⟩
      · simp [mFwd_cons, mFwd_nil, mcont, mexecC, mexec, hro, hv, skipTo, fitsI32, hpz, hr0, maddr,
          h1, h2, ha]
      · have := (H.setH p.toNat (μ.heap p.toNat + BitVec.ofInt 64 1)).setF none
        rw [hw] at this
        exact this

end Prim

/-- the model's kind of a variable: `true` = it has a pointer part (not `ext`) -/
def kindOf (b : Binding) : Bool := b.chi != .ext

theorem kindOf_eq : kindOf = Scc.Mem.kindOf := rfl

theorem posTemp_odd_ne {n mbr : Nat} (hme : mbr % 2 = 0) : posTemp (2 * n + 1) ≠ .reg mbr := by
  unfold posTemp
  split
  · intro e; injection e with e; omega
  · intro e; cases e

/-- the flag after a level: at the last (outermost) block the register has been restored (the same function as
`Scc.Mem.outFlag`, over which the contract of `load_fields` is stated) -/
def outFlag (rf' : Bool) : BlockPosition → Bool
  | .last => false
  | .other => rf'

theorem outFlag_imp {rf' : Bool} {pos : BlockPosition} (h : outFlag rf' pos = true) : rf' = true := by
  cases pos <;> simp [outFlag] at h; exact h

section Leaves
variable {c : MachCfg}

/-- `release_block` on the view: the block in register `mbr` becomes the head of the linear free list -/
theorem m_release (C : HeapCfgOK c) {μ : MState} {s1 s2 : Scc.Heap.HState} (H : HRelM c μ s1) {mbr : Nat}
    (hm1 : 4 ≤ mbr) (hm2 : mbr < 16) {wb : Word} (hvb : μ.val (.reg mbr) = some wb)
    (hrel : Scc.Heap.releaseBlock s1 wb.toNat = .ok s2) :
    ∃ μ1, mFwd c (releaseBlock mbr) μ = some (μ1, .next) ∧ HRelM c μ1 s2 ∧
      (∀ u, u ≠ .reg HEAP → μ1.val u = μ.val u) := by
  simp only [Scc.Heap.releaseBlock] at hrel
  cases hw : Scc.Heap.wr s1 wb.toNat s1.heap with
  | error e => simp [hw] at hrel
  | ok sx =>
    simp only [hw, Except.ok.injEq] at hrel
    subst hrel
    obtain ⟨hok, rfl⟩ := wr_eq_ok.1 hw
    obtain ⟨wH, hH, eH⟩ := H.heap
    have ha : haddr c wb 0 = some wb.toNat := haddr_ok0 C H hok
    have hro : regOpnd mbr = some (.reg mbr) := regOpnd_of ⟨by omega, hm2⟩
    have hm0 : ¬ mbr = 0 := by omega
    rw [HEAP_eq] at hH
    refine ⟨(μ.setH wb.toNat wH).setT (.reg 2) (some wb), ?_, ?_, ?_⟩
    · simp [releaseBlock, mFwd_cons, mFwd_nil, mcont, mexecC, mexec, hro, hm0, maddr, hm2, hvb, ha, hH,
        next_zero, HEAP_eq, regOpnd2, show 1 ≤ mbr by omega]
    · obtain ⟨wf, hwf, ewf⟩ := H.free
      have := H.setH wb.toNat wH
      rw [eH] at this
      exact ⟨this.base, this.limit, this.mem, ⟨wb, by simp [HEAP_eq], rfl⟩,
        ⟨wf, by rw [FREE_eq] at hwf ⊢; simp [hwf], ewf⟩⟩
    · intro u hu; rw [HEAP_eq] at hu; simp [hu]

theorem m_evac (μ : MState) :
    mFwd c [.MOVS TEMPORARY_TEMP STACK (stackOffset SPILL_TEMP)] μ =
      some (μ.setT (.spill 0) (μ.val (.reg 4)), .next) := by
  have hmo0 : memOpnd 0 (stackOffset 0) = some (.spill 0) := memOpnd_of (show (0 : Nat) < 256 by decide)
  have hTT : TEMPORARY_TEMP = 4 := rfl
  have hST : SPILL_TEMP = 0 := rfl
  simp [mFwd_cons, mFwd_nil, mcont, mexecC, mexec, hTT, hST, STACK_eq, hmo0, regOpnd4]

theorem m_fetch (μ : MState) {q : Nat} (hq : q < 256) :
    mFwd c [.MOVL TEMPORARY_TEMP STACK (stackOffset q)] μ = some (μ.setT (.reg 4) (μ.val (.spill q)), .next) := by
  have hmoq : memOpnd 0 (stackOffset q) = some (.spill q) := memOpnd_of (show OpndOK (.spill _) from hq)
  have hTT : TEMPORARY_TEMP = 4 := rfl
  simp [mFwd_cons, mFwd_nil, mcont, mexecC, mexec, hTT, STACK_eq, hmoq, regOpnd4]

theorem top_eq (m : Nat) (cT cE : List Code) (k : Nat) :
    Mem.loadCode.top m cT cE k =
      ([.COMMENT "#load from memory"] ++ loadPtr (posTemp m) ++
        [.COMMENT "##check refcount", .CMPIM (jumpReg (posTemp m)) 0 0]) ++
      ([.JEL (labName (k + 1))] ++
        ([.COMMENT "##either decrement refcount and share children...",
          .ADDIM (jumpReg (posTemp m)) 0 (-1)] ++ cE) ++
        [.JMPL (labName (k + 2)), .LAB (labName (k + 1))] ++
        ([.COMMENT "##... or release blocks onto linear free list when loading"] ++ cT) ++
        [.LAB (labName (k + 2))]) := by
  show [Code.COMMENT "#load from memory"] ++ Mem.loadHead (posTemp m) ++
    Mem.loadTopC (Mem.shareReg (posTemp m)) cT cE k = _
  cases posTemp m <;> rfl

/-- the head of `load`: the object pointer in a register, the count compared with 0 -/
theorem m_loadTop_head (C : HeapCfgOK c) {μ : MState} {h : Scc.Heap.HState} (H : HRelM c μ h) {m : Nat}
    (hm : m < 267) {pw : Word} (hp : μ.val (posTemp m) = some pw) (hok : HOk h pw.toNat) :
    ∃ μ1 : MState, mFwd c ([.COMMENT "#load from memory"] ++ loadPtr (posTemp m) ++
        [.COMMENT "##check refcount", .CMPIM (jumpReg (posTemp m)) 0 0]) μ =
        some (μ1.setF (some (μ.heap pw.toNat, 0)), .next) ∧
      μ1.val (.reg (jumpReg (posTemp m))) = some pw ∧ μ1.heap = μ.heap ∧
      (∀ u, u ≠ .reg TEMP → μ1.val u = μ.val u) := by
  have htm := tempOK_posTemp hm
  have ha : haddr c pw 0 = some pw.toNat := haddr_ok0 C H hok
  cases hpt : posTemp m with
  | reg r =>
    rw [hpt] at hp htm
    have hr0 : ¬ r = 0 := by have := htm.1; omega
    have h1 : 1 ≤ r := by have := htm.1; omega
    refine ⟨μ, ?_, by simpa [jumpReg] using hp, rfl, fun _ _ => rfl⟩
    simp [loadPtr, jumpReg, mFwd_cons, mFwd_nil, mcont, mexecC, mexec, hr0, maddr, h1, htm.2, hp, ha, fitsI32]
  | spill q =>
    rw [hpt] at hp htm
    have hmo : memOpnd 0 (stackOffset q) = some (.spill q) := memOpnd_of htm.opnd
    refine ⟨μ.setT (.reg 1) (some pw), ?_, by simp [jumpReg, TEMP_eq], rfl,
      fun u hu => by rw [TEMP_eq] at hu; simp [hu]⟩
    simp [loadPtr, jumpReg, mFwd_cons, mFwd_nil, mcont, mexecC, mexec, maddr, hp, ha, fitsI32, TEMP_eq,
      STACK_eq, hmo, regOpnd1]

/-- the contracts of the leaves of `load_fields`: `load_field` goes through TEMP for a spilled target, and the
pointer it leaves there is shared; block pointers are in even registers from rax on -/
def loadSpec (C : HeapCfgOK c) : Scc.Mem.LoadSpec (memView c) Mem.loadCode where
  toStoreSpec := memSpec C
  ttPos := 0
  slotT := .spill 0
  isTT := fun u => decide (u = .reg 4)
  isTT_iff := fun {u} => by
    show decide (u = .reg 4) = true ↔ u = .reg 4
    simp
  blkR := fun r => 4 ≤ r ∧ r < 16 ∧ r % 2 = 0
  blkR_ok := fun {r : Nat} (h : 4 ≤ r ∧ r < 16 ∧ r % 2 = 0) => (⟨by omega, h.2.1⟩ : 2 ≤ r ∧ r < 16)
  blkR_odd := fun h _ => posTemp_odd_ne h.2.2
  blkR_ne_heap := fun {r : Nat} (h : 4 ≤ r ∧ r < 16 ∧ r % 2 = 0) e => by
    have e : Temporary.reg r = .reg HEAP := e
    injection e with e; rw [HEAP_eq] at e; omega
  blkR_regOf := fun {m} _ h => by
    have h : (!decide (2 * m + 4 < 16)) = false := h
    simp only [Bool.not_eq_false', decide_eq_true_eq] at h
    show 4 ≤ 2 * m + 4 ∧ 2 * m + 4 < 16 ∧ (2 * m + 4) % 2 = 0
    omega
  pos_regOf := fun {m} _ h => by
    have h : (!decide (m + 4 < 16)) = false := h
    simp only [Bool.not_eq_false', decide_eq_true_eq] at h
    exact posTemp_reg h
  pos_inj := fun _ _ e => posTemp_inj.1 e
  isSpill_mono := fun {m m'} hle h => by
    have h : (!decide (m + 4 < 16)) = true := h
    show (!decide (m' + 4 < 16)) = true
    simp only [Bool.not_eq_true', decide_eq_false_iff_not] at h ⊢
    omega
  spill := fun {m0} hm0 hs0 => by
    exact {
      tt_blk := (⟨Nat.le_refl 4, by omega, rfl⟩ : 4 ≤ 4 ∧ 4 < 16 ∧ 4 % 2 = 0)
      tt_pos := rfl
      tt_lt := fun {m} h => by
        have h : (!decide (m + 4 < 16)) = true := h
        simp only [Bool.not_eq_true', decide_eq_false_iff_not] at h
        show 0 < m
        omega
      pos_ne_slot := fun {m} _ => by
        show posTemp m ≠ .spill 0
        unfold posTemp
        split
        · intro e; cases e
        · intro e; injection e with e; omega
      slot_keep := fun e => by cases e
      slot_ne_heap := fun e => by cases e
      evac_does := fun {μ s} H =>
        ⟨_, m_evac μ, H.setT (by simp) (by simp) _, fun u hu => by
          have hu : u ≠ .spill 0 := hu
          show (μ.setT (.spill 0) (μ.val (.reg 4))).val u = μ.val u
          simp [hu], by
          show (μ.setT (.spill 0) (μ.val (.reg 4))).val (.spill 0) = μ.val (.reg 4)
          simp⟩
      ldBlk_does := fun {μ s m} H hm hs => by
        have hs : (!decide (m + 4 < 16)) = true := hs
        simp only [Bool.not_eq_true', decide_eq_false_iff_not] at hs
        have hm : m < 267 := hm
        refine ⟨_, m_fetch μ (q := m - 11) (by omega), H.setT (by simp [HEAP_eq]) (by simp [FREE_eq]) _,
          fun u hu => by
            have hu : u ≠ .reg 4 := hu
            show (μ.setT (.reg 4) (μ.val (.spill (m - 11)))).val u = μ.val u
            simp [hu], ?_⟩
        show (μ.setT (.reg 4) (μ.val (.spill (m - 11)))).val (.reg 4) = μ.val (posTemp m)
        rw [posTemp_spill hs]; simp
      restore_does := fun {μ s} H =>
        ⟨_, m_fetch μ (q := 0) (by decide), H.setT (by simp [HEAP_eq]) (by simp [FREE_eq]) _,
          fun u hu => by
            have hu : u ≠ .reg 4 := hu
            show (μ.setT (.reg 4) (μ.val (.spill 0))).val u = μ.val u
            simp [hu], by
          show (μ.setT (.reg 4) (μ.val (.spill 0))).val (.reg 4) = μ.val (.spill 0)
          simp⟩ }
  ldF_does := fun {μ s m r b num off v} H hm hr hvb ho hrd => by
    have hlt : Scc.Heap.fieldOffset num.toNat off < 2 ^ 31 := by
      have ho : off ≤ 1000 := ho
      cases num <;> simp [Scc.Heap.fieldOffset, TempNum.toNat] <;> omega
    obtain ⟨n1, n2, n3⟩ := posTemp_ne_low hm
    obtain ⟨μ', w, x, ew, v1, -, hp, -, F⟩ := m_loadFieldCode C H (tempOK_posTemp hm) hr.1 hr.2 hvb hlt hrd
    rw [← fieldOffset_nat] at x
    refine ⟨μ', ?_, H.of_frame hp (F _ (Ne.symm n2) (by simp [HEAP_eq, TEMP_eq]))
      (F _ (Ne.symm n3) (by simp [FREE_eq, TEMP_eq])), fun u hu => F u hu.2 hu.1, w, v1, ew⟩
    exact x
  ldS_does := fun {μ s s' m r b off pv} k H hm hr hvb ho hrd hsh hno => by
    have hlt : Scc.Heap.fstOff off < 2 ^ 31 := by
      have ho : off ≤ 1000 := ho
      simp [Scc.Heap.fstOff, Scc.Heap.fieldOffset]; omega
    obtain ⟨n1, n2, n3⟩ := posTemp_ne_low hm
    obtain ⟨μ2, p, x2, ep, v2, v2j, hp2, -, F2⟩ := m_loadFieldCode C H (tempOK_posTemp hm) hr.1 hr.2 hvb hlt hrd
    have H2 : HRelM c μ2 s := H.of_frame hp2 (F2 _ (Ne.symm n2) (by simp [HEAP_eq, TEMP_eq]))
      (F2 _ (Ne.symm n3) (by simp [FREE_eq, TEMP_eq]))
    have hjr := jumpReg_bounds (tempOK_posTemp hm)
    rw [← ep] at hsh
    have hno' : p ≠ 0 → s.mem.get p.toNat + 1 < 2 ^ 64 := fun hp0 =>
      Scc.Heap.shareBlock_lt hsh hno (fun e => hp0 (BitVec.eq_of_toNat_eq (by simpa using e)))
    obtain ⟨μ3, x3, H3, F3⟩ := m_share1 C H2 hjr.1 hjr.2.1 v2j hsh hno' k
    rw [← fieldOffset_fst] at x2
    refine ⟨μ3, ?_, H3, fun u hu => by
      show μ3.val u = μ.val u
      rw [F3]; exact F2 u hu.2 hu.1, p, by
      show μ3.val (posTemp m) = some p
      rw [F3]; exact v2, ep⟩
    show mFwd c (Mem.loadFieldC (posTemp m) r (fieldOffset .fst off) ++
      Mem.shareBlockNC (.reg (Mem.shareReg (posTemp m))) 1 k) μ = some (μ3, .next)
    rw [shareReg_eq]
    exact mFwd_seq c x2 x3
  release_does := fun {μ s s' r b} H hr hvb hrel => by
    obtain ⟨μ1, x1, H1, F1⟩ := m_release C H hr.1 hr.2.1 hvb hrel
    exact ⟨μ1, x1, H1, fun u hu => F1 u hu.2, trivial⟩
  top_then := fun {μ s m pw cT cE k0 k P} H hm hp hrd hlE hT => by
    have hlE : LabsIn cE k0 k := labsIn_iff.2 hlE
    obtain ⟨hok, hcnt⟩ := rd_eq_ok.1 hrd
    obtain ⟨st1, e1, v1, hh1, F1⟩ := m_loadTop_head C H hm hp hok
    have hx0 : μ.heap pw.toNat = 0#64 := BitVec.eq_of_toNat_eq (by rw [← H.mem, ← hcnt]; rfl)
    have H1 : HRelM c (st1.setF (some (μ.heap pw.toNat, 0))) s :=
      (H.of_frame hh1 (F1 _ (by simp [HEAP_eq, TEMP_eq])) (F1 _ (by simp [FREE_eq, TEMP_eq]))).setF _
    obtain ⟨μ', x, p⟩ := hT _ H1 (fun u hu => by
      show (st1.setF (some (μ.heap pw.toNat, 0))).val u = μ.val u
      simp only [MState.setF_val]; exact F1 u hu)
    refine ⟨μ', ?_, p⟩
    show mFwd c (Mem.loadCode.top m cT cE k) μ = some (μ', .next)
    rw [top_eq, mFwd_pre c e1]
    rw [hx0] at x ⊢
    refine mFwd_ite_then c _ _ _ _ _ _ (a := 0#64) rfl ?_ (mFwd_seq c (mFwd_comment c _ _) x)
    rw [skipTo_append]
    simp only [skipTo]
    exact hlE.skipTo_none (Or.inr (by omega))
  top_else := fun {μ s s0 m pw cT cE k0 k cnt P} H hm hp hrd hz hwr hlT hE => by
    have hlT : LabsIn cT k0 k := labsIn_iff.2 hlT
    obtain ⟨hok, hcnt⟩ := rd_eq_ok.1 hrd
    obtain ⟨st1, e1, v1, hh1, F1⟩ := m_loadTop_head C H hm hp hok
    obtain ⟨j1, j16, j2, j3, j0⟩ := jumpReg_bounds (tempOK_posTemp hm)
    have ha : haddr c pw 0 = some pw.toNat := haddr_ok0 C H hok
    have hx0 : ¬ μ.heap pw.toNat = 0#64 := fun e => hz (by rw [hcnt, H.mem, e]; rfl)
    obtain ⟨_, rfl⟩ := wr_eq_ok.1 hwr
    have hw : (μ.heap pw.toNat + BitVec.ofInt 64 (-1)).toNat = cnt - 1 := by
      rw [toNat_add_neg_one _ hx0, hcnt, H.mem]
    let μ2 : MState := (st1.setH pw.toNat (μ.heap pw.toNat + BitVec.ofInt 64 (-1))).setF none
    have H2 : HRelM c μ2 { s with mem := s.mem.set pw.toNat (cnt - 1) } := by
      have := ((H.of_frame hh1 (F1 _ (by simp [HEAP_eq, TEMP_eq])) (F1 _ (by simp [FREE_eq, TEMP_eq]))).setH
        pw.toNat (μ.heap pw.toNat + BitVec.ofInt 64 (-1))).setF none
      rw [hw] at this
      exact this
    have x2 : mFwd c [.COMMENT "##either decrement refcount and share children...",
        .ADDIM (jumpReg (posTemp m)) 0 (-1)]
        (st1.setF (some (μ.heap pw.toNat, 0))) = some (μ2, .next) := by
      simp [mFwd_cons, mFwd_nil, mcont, mexecC, mexec, j0, maddr, j1, j16, v1, ha, fitsI32, μ2, hh1]
    have hfr2 : ∀ u, u ≠ .reg TEMP → μ2.val u = μ.val u := fun u hu => by
      simp only [μ2, MState.setF_val, MState.setH_val]
      exact F1 u hu
    clear_value μ2
    obtain ⟨μ', x, p⟩ := hE μ2 H2 hfr2
    refine ⟨μ', ?_, p⟩
    show mFwd c (Mem.loadCode.top m cT cE k) μ = some (μ', .next)
    rw [top_eq, mFwd_pre c e1]
    refine mFwd_ite_else c _ _ _ _ _ _ (a := μ.heap pw.toNat) (b := 0) rfl hx0
      (fun e => by have := labName_inj.mp e; omega) ?_ (mFwd_seq c x2 x)
    rw [skipTo_append]
    simp only [skipTo]
    exact hlT.skipTo_none (Or.inr (by omega))

end Leaves

theorem loadCode_counts : Mem.loadCode.LoadCounts (fun a b code => a ≤ b ∧ Scc.Mem.LabsIn Code.LAB code a b) :=
  Mem.loadCode.loadCounts_labsIn (fun _ _ h => by cases h)
    (fun t r num off l => by cases t <;> simp [Mem.loadFieldC])
    (fun m k => labsIn_iff.1 (labsIn_shareCode (Mem.shareReg (posTemp m)) k))
    (fun r l => by simp [releaseBlock]) (fun l => by simp) (fun m l => by simp) (fun l => by simp)

/-- the labels of the test of the reference count come after those of the two branches -/
theorem counts_top (m : Nat) {a b c : Nat} {x y : List Code} (hT : a ≤ b ∧ Scc.Mem.LabsIn Code.LAB x a b)
    (hE : b ≤ c ∧ Scc.Mem.LabsIn Code.LAB y b c) :
    a ≤ c + 2 ∧ Scc.Mem.LabsIn Code.LAB (Mem.loadCode.top m x y c) a (c + 2) := by
  refine ⟨by omega, labsIn_iff.1 ?_⟩
  have hT2 := labsIn_iff.2 hT.2
  have hE2 := labsIn_iff.2 hE.2
  rw [top_eq]
  refine LabsIn.append (LabsIn.of_noLab _ _ (fun l => by cases posTemp m <;> simp [loadPtr])) ?_
  refine LabsIn.append (LabsIn.append (LabsIn.append (LabsIn.append (LabsIn.of_noLab _ _ (by simp)) ?_) ?_) ?_) ?_
  · exact (LabsIn.of_noLab _ _ (by simp)).append (hE2.mono hT.1 (by omega))
  · exact ((LabsIn.nil _ _).cons_lab (n := c + 1) (by omega) (by omega)).cons_other (by simp)
  · exact ((noLab_comment _).labsIn _ _).append (hT2.mono (Nat.le_refl _) (by omega))
  · exact (LabsIn.nil _ _).cons_lab (by omega) (by omega)

section Load
variable {c : MachCfg}

/-- CONTRACT of `load` on the view: unique branch (count 0) and shared branch (count > 0), ANY number
of fields, every placement -/
theorem m_load (C : HeapCfgOK c) {μ : MState} {h h' : Scc.Heap.HState} (H : HRelM c μ h)
    {toLoad existing : Ctx} (hcap : 2 * (existing.length + toLoad.length) ≤ 267) {pw : Word}
    (hp : μ.val (posTemp (2 * existing.length)) = some pw) {vals : List Scc.Heap.Field}
    (hop : Scc.Heap.loadObj h pw.toNat (toLoad.map kindOf) = .ok (h', vals))
    (hno : h.mem.get pw.toNat ≠ 0 → ∀ a, h'.mem.get a < 2 ^ 64) (k : Nat) :
    ∃ code k', (load toLoad existing).run k = .ok (code, k') ∧ k ≤ k' ∧ LabsIn code k k' ∧
      ∃ μ', mFwd c code μ = some (μ', .next) ∧ HRelM c μ' h' ∧ EnvFields μ' existing.length toLoad vals ∧
        (∀ u, u ≠ .reg TEMP → u ≠ .reg HEAP → u ≠ .spill 0 →
          (∀ m, 2 * existing.length ≤ m → m < 2 * (existing.length + toLoad.length) → u ≠ posTemp m) →
          μ'.val u = μ.val u) := by
  have hrun : (load toLoad existing).run k = .ok (Mem.loadCode.loadC toLoad existing.length k) := by
    have ht := Total.tot_load (Total.good_of_fitsX86 (Total.fitsX86_of_le
      (n := toLoad.length + existing.length) (by omega))) toLoad existing (Nat.le_refl _) k
    cases hr : (load toLoad existing).run k with
    | error e => rw [hr] at ht; exact ht.elim
    | ok r => rw [(Mem.emits_load toLoad existing k r hr).2]
  have hl := loadCode_counts.loadC counts_top toLoad existing.length k
  obtain ⟨μ', x, H', E', F'⟩ := (loadSpec C).load_does loadCode_counts H hcap hp (kindOf_eq ▸ hop) hno k
  exact ⟨_, _, hrun, hl.1, labsIn_iff.2 hl.2, μ', x, H', (envFields_iff C).2 E', fun u hT hH hS hu => F' u hT hH hS hu⟩

end Load

/-- CONTRACT of `load` (memory.rs Memory::load) on the SPEC machine, for ANY number of fields and EVERY
placement: the object whose pointer is in the first temporary of position `|existing|` is unpacked
into the variables `toLoad` (positions `|existing| …`) exactly as `Scc.Heap.loadObj` does on the
abstract heap — unique branch (count 0): the blocks of the chain go back onto the linear free list,
the children move; shared branch (count > 0): the count is decremented and every pointer child gets one
more reference.  From every boundary state representing a heap on which the model succeeds, the code
runs to its end; the final state is a boundary state with the same `rsp`, represents the model's
result heap, and the variables hold the loaded fields (`EnvFields`).
Changed: TEMP, HEAP, the flags, the heap, the spill slot SPILL_TEMP, the temporaries of the loaded
positions; preserved: FREE, every variable of `existing` (TEMPORARY_TEMP = rax included: evacuated
and restored), the stack outside the spill area.
`hno` (shared branch only): the incremented counts of the model (unbounded naturals) fit in 64 bits. -/
theorem load_contract {c : MachCfg} {la : String → Option Nat} {st : State} {sp : Word}
    (h8 : c.heapBase % 8 = 0) (B : Boundary c st sp) {h h' : Scc.Heap.HState} (R : HeapRel c st h)
    {toLoad existing : Ctx} (hcap : 2 * (existing.length + toLoad.length) ≤ 267) {pw : Word}
    (hp : tempVal sp st (posTemp (2 * existing.length)) = some pw) {vals : List Scc.Heap.Field}
    (hop : Scc.Heap.loadObj h pw.toNat (toLoad.map kindOf) = .ok (h', vals))
    (hno : h.mem.get pw.toNat ≠ 0 → ∀ a, h'.mem.get a < 2 ^ 64) (k : Nat) :
    ∃ code k', (load toLoad existing).run k = .ok (code, k') ∧ k ≤ k' ∧ LabsIn code k k' ∧
      ∃ st', execFwd c la code st = .ok (st', .next) ∧ Boundary c st' sp ∧ HeapRel c st' h' ∧
        EnvFields (mview sp st') existing.length toLoad vals ∧
        FrameT sp st st' (fun u => u = .reg TEMP ∨ u = .reg HEAP ∨ u = .spill 0 ∨
          ∃ m, 2 * existing.length ≤ m ∧ m < 2 * (existing.length + toLoad.length) ∧ u = posTemp m) := by
  obtain ⟨code, k', hrun, hk, hl, μ', hx, H', E', hfr⟩ :=
    m_load (heapCfgOK_of_boundary h8 B) (heapRel_mview (sp := sp) R) hcap (μ := mview sp st) hp hop hno k
  obtain ⟨st', e, B', M', F⟩ := m_to_machine la B hx
    (changed := fun u => u = .reg TEMP ∨ u = .reg HEAP ∨ u = .spill 0 ∨
      ∃ m, 2 * existing.length ≤ m ∧ m < 2 * (existing.length + toLoad.length) ∧ u = posTemp m)
    (fun u hu => hfr u (fun e => hu (Or.inl e)) (fun e => hu (Or.inr (Or.inl e)))
      (fun e => hu (Or.inr (Or.inr (Or.inl e))))
      (fun m h1 h2 e => hu (Or.inr (Or.inr (Or.inr ⟨m, h1, h2, e⟩)))))
  refine ⟨code, k', hrun, hk, hl, st', e, B', heapRel_of_mrep M' H', ?_, F⟩
  exact envFields_slots.2 ((envFields_slots.1 E').congr (fun m _ h2 => M'.vals _ (tempOK_posTemp (by omega)).opnd))

end Scc.X86
