/-
  Scc.X86.ConcCheck — the EXECUTABLE heap check of the x86-64 SPEC machine (`heapCheck`, Scc/X86/Machine.lean)
  succeeds wherever its predicate holds: `HeapInvAt` (ConcInv.lean) for the full heap region, plus the
  monitor's window (`frontier + 64 ≤ heapBase + maxHeapWritten + 512`: the monitor checks the invariant for the
  region up to 512 bytes above the highest word ever stored).  From the COMPLETENESS of `invCheckFn`
  (Scc/Heap/ProofsCheckComplete.lean).
-/
import Scc.X86.ConcInv
import Scc.Heap.ProofsCheckComplete

namespace Scc.X86.Conc

open Scc.Heap (InvW invCheckFn_complete)

/-- the invariant for a smaller region: only the room for the frontier block depends on the limit -/
theorem invW_window {m : Nat → Nat} {base limit limit' heap free : Nat} {roots pend lin lazy live : List Nat}
    {F : Nat} (I : InvW m base limit heap free roots pend lin lazy live F) (h1 : limit' ≤ limit)
    (h2 : F + 64 ≤ limit') : InvW m base limit' heap free roots pend lin lazy live F :=
  { I with frontier_room := h2, zero_above := fun a ha hl hm => I.zero_above a ha (by omega) hm }

/-- THE MONITOR'S CHECK SUCCEEDS where the invariant holds and the frontier lies inside the monitor's window;
it reports the number of blocks below the frontier -/
theorem heapCheck_ok {m : MonCfg} {X : State} {kinds : List Bool} {roots : List Word} {h f : Word}
    {lin lazy live : List Nat} {F : Nat}
    (hr : (rootLocs m.consts kinds).mapM (fun l => readLoc m.mach X l) = .ok roots)
    (hh : rd X m.consts.heap = .ok h) (hf : rd X m.consts.free = .ok f)
    (I : InvW (memFn X) m.mach.heapBase (m.mach.heapBase + m.mach.heapBytes) h.toNat f.toNat
      (roots.map (·.toNat)) [] lin lazy live F)
    (hw : F + 64 ≤ m.mach.heapBase + X.maxHeapWritten + 512) :
    heapCheck m X kinds = .ok ((F - m.mach.heapBase) / 64) := by
  have hFr := I.frontier_room
  have I' := invW_window (limit' := min (m.mach.heapBase + m.mach.heapBytes) (m.mach.heapBase + X.maxHeapWritten + 512))
    I (Nat.min_le_left _ _) (by rw [Nat.le_min]; exact ⟨hFr, hw⟩)
  obtain ⟨live', hc, _⟩ := invCheckFn_complete I'
  unfold heapCheck
  have hr' : List.mapM (fun l => readLoc m.mach X l)
      (List.map (fun (ki : Bool × Nat) => tempLoc m.consts (2 * ki.2)) (List.filter (fun x => x.1) kinds.zipIdx)) =
      .ok roots := hr
  simp only [hr', hh, hf]
  have hc' : Scc.Heap.invCheckFn (fun a => (X.heapMem.getD a 0).toNat) m.mach.heapBase
      (min (m.mach.heapBase + m.mach.heapBytes) (m.mach.heapBase + X.maxHeapWritten + 512)) h.toNat f.toNat
      (roots.map (·.toNat)) [] = .ok (lin, lazy, live', F) := hc
  rw [hc']
  rfl

end Scc.X86.Conc
