/-
  Scc.X86.CCProofsRun — property C13, x86-64, DYNAMIC part: THE CALLING-CONVENTION MONITOR NEVER FIRES
  on the routine of an integer program — for all arguments, all fuel, every run (terminating or not,
  typed or not, whatever the values): the result of the SPEC machine is never `cc-violation` (a
  callee-saved register or `rsp` not restored at `ret`), never the fault `misaligned-call` (`rsp` not
  16-aligned at a call of the print runtime), never `ret-to-non-sentinel`.

  Proof: a single-step invariant `Inv` of the machine's transition function `step`:
    the item list from the program counter on starts with a straight-line segment `todo` whose
    `Future` (CCProofsSeg.lean) is the boundary invariant `Core` at a position from which the text is a
    `CCShape plainInt` body followed by the epilogue (or: `RetReady` at the final `ret`).
  Segments are: the routine header (entered at `asm_main`), a print block, the epilogue; between them
  single plain instructions, whose direct jumps lead to a label of the text, and every label of the
  text other than `asm_main` sits at a boundary position (`bodyAt_label`).
  The loader (`mkProg`) is covered: `holds_mkProg` (label table = first definition).  The parser is NOT:
  the theorems speak about the machine running the item list of the routine (`runItems`), and about
  `run text` for any text that parses to those items.
-/
import Scc.X86.CCProofsSeg

set_option linter.unusedSimpArgs false

namespace Scc.X86.CC

open Scc.AxCut
open Scc.Backend.Blocks (drop_append_ge drop_eq_append_get drop_add_of_append drop_at_middle)

/-- index of the first definition of label `l` in `cs`, counting from `k` -/
def firstLab (l : String) : List Code → Nat → Option Nat
  | [], _ => none
  | c :: cs, k => if c = Code.LAB l then some k else firstLab l cs (k + 1)

theorem firstLab_some {l : String} : ∀ {cs : List Code} {k i : Nat}, firstLab l cs k = some i →
    k ≤ i ∧ cs[i - k]? = some (Code.LAB l)
  | [], _, _, h => by simp [firstLab] at h
  | c :: cs, k, i, h => by
    simp only [firstLab] at h
    split at h
    · rename_i hc
      cases h
      simp [hc]
    · obtain ⟨h1, h2⟩ := firstLab_some h
      refine ⟨by omega, ?_⟩
      have : i - k = (i - (k + 1)) + 1 := by omega
      rw [this, List.getElem?_cons_succ]
      exact h2

def labStep (m : Std.HashMap String Nat) (ci : Code × Nat) : Std.HashMap String Nat :=
  match ci.1 with
  | .LAB l => if m.contains l then m else m.insert l ci.2
  | _ => m

theorem labFold (l : String) : ∀ (cs : List Code) (k : Nat) (m : Std.HashMap String Nat),
    ((cs.zipIdx k).foldl labStep m)[l]? = (m[l]?).or (firstLab l cs k)
  | [], k, m => by simp [firstLab]
  | c :: rest, k, m => by
    simp only [List.zipIdx_cons, List.foldl_cons]
    rw [labFold l rest (k + 1)]
    simp only [firstLab]
    by_cases hc : c = Code.LAB l
    · subst hc
      simp only [labStep, if_true]
      by_cases hm : m.contains l = true
      · rw [if_pos hm]
        have : ∃ i, m[l]? = some i := by
          rw [Std.HashMap.contains_eq_isSome_getElem?] at hm
          exact Option.isSome_iff_exists.1 hm
        obtain ⟨i, hi⟩ := this
        simp [hi]
      · rw [if_neg hm]
        have hnone : m[l]? = none := by
          rw [Std.HashMap.contains_eq_isSome_getElem?] at hm
          simpa using hm
        simp [hnone]
    · rw [if_neg hc]
      have : (labStep m (c, k))[l]? = m[l]? := by
        unfold labStep
        cases c <;> try rfl
        rename_i l'
        have hne : l' ≠ l := fun e => hc (by rw [e])
        dsimp only
        split
        · rfl
        · rw [Std.HashMap.getElem?_insert]
          simp [hne]
      rw [this]

theorem mkLabelIdx_spec (cs : List Code) (l : String) : (mkLabelIdx cs)[l]? = firstLab l cs 0 := by
  have := labFold l cs 0 ∅
  simp only [Std.HashMap.getElem?_empty, Option.none_or] at this
  exact this

/-- forget the text of a comment (the machine's parser trims it; comments have no semantics) -/
def stripC : Code → Code
  | .COMMENT _ => .COMMENT ""
  | c => c

theorem execCode_stripC (c : MachCfg) (la : String → Option Nat) (code : Code) (s : State) :
    execCode c la (stripC code) s = execCode c la code s := by
  cases code <;> rfl

theorem execCode_congr {c : MachCfg} {la : String → Option Nat} {code code' : Code} (h : stripC code' = stripC code)
    (s : State) : execCode c la code' s = execCode c la code s := by
  rw [← execCode_stripC c la code', h, execCode_stripC]

theorem stripC_of_not_comment {code : Code} (hn : ∀ m, code ≠ Code.COMMENT m) : stripC code = code := by
  cases code <;> first | rfl | exact absurd rfl (hn _)

theorem eq_of_stripC {code code' : Code} (h : stripC code' = stripC code) (hn : ∀ m, code ≠ Code.COMMENT m) :
    code' = code := by
  rw [stripC_of_not_comment hn] at h
  cases code' <;> first | exact h | exact absurd h.symm (hn _)

theorem firstLab_stripC (l : String) : ∀ (cs : List Code) (k : Nat),
    firstLab l (cs.map stripC) k = firstLab l cs k
  | [], _ => rfl
  | c :: cs, k => by
    simp only [List.map_cons, firstLab]
    have : (stripC c = Code.LAB l) ↔ (c = Code.LAB l) := by
      cases c <;> simp [stripC]
    by_cases hc : c = Code.LAB l
    · rw [if_pos hc, if_pos (this.2 hc)]
    · rw [if_neg hc, if_neg (fun h => hc (this.1 h))]
      exact firstLab_stripC l cs (k + 1)

/-- the program holds the item list UP TO THE TEXT OF COMMENTS; labels resolve to their first
    definition -/
structure Holds (p : Prog) (routine : List Code) : Prop where
  code : ∀ i : Nat, (p.code[i]?).map stripC = (routine[i]?).map stripC
  labels : ∀ l, p.labelIdx[l]? = firstLab l routine 0

theorem holds_mkProg (c : MachCfg) (items : List (Code × Nat)) (routine : List Code)
    (h : (items.map (·.1)).map stripC = routine.map stripC) : Holds (mkProg c items) routine := by
  refine ⟨fun i => ?_, fun l => ?_⟩
  · have : (mkProg c items).code[i]? = (items.map (·.1))[i]? := by simp [mkProg]
    rw [this, ← List.getElem?_map, ← List.getElem?_map, h]
  · show (mkLabelIdx (items.map (·.1)))[l]? = _
    rw [mkLabelIdx_spec, ← firstLab_stripC, h, firstLab_stripC]

theorem Holds.fetch {p : Prog} {routine : List Code} (Hp : Holds p routine) {i : Nat} {code : Code}
    (h : routine[i]? = some code) : ∃ code', p.code[i]? = some code' ∧ stripC code' = stripC code := by
  have := Hp.code i
  rw [h] at this
  cases hp : p.code[i]? with
  | none => rw [hp] at this; simp at this
  | some code' =>
    rw [hp] at this
    simp only [Option.map_some, Option.some.injEq] at this
    exact ⟨code', rfl, this⟩

def isLab : Code → Bool
  | .LAB _ => true
  | _ => false

def NoLab (l : List Code) : Prop := ∀ c ∈ l, isLab c = false

theorem noLab_append {a b : List Code} (ha : NoLab a) (hb : NoLab b) : NoLab (a ++ b) :=
  fun c hc => (List.mem_append.1 hc).elim (ha c) (hb c)

theorem noLab_printI64 (nl : Bool) (t : Temporary) (ctx : Ctx) : NoLab (printI64 nl t ctx) := fun c hc => by
  rcases Mem.items_printI64 nl t ctx c hc with h | h
  · cases h with
    | com _ => rfl
    | instr hf _ _ => cases c <;> first | rfl | cases hf
  · cases h <;> rfl

/-- the text from position `i` on is a body shape followed by the epilogue -/
def BodyAt (routine : List Code) (i : Nat) : Prop :=
  ∃ rest, CCShape plainInt rest ∧ routine.drop i = rest ++ (epilogue ++ [Code.RET])

theorem ccShape_drop_label {plain : Code → Bool} {body : List Code} (h : CCShape plain body) :
    ∀ (j : Nat) (l : String), body[j]? = some (Code.LAB l) → CCShape plain (body.drop j) := fun j l hj =>
  .ofShape (h.toShape.drop_at (fun _ ⟨nl, t, ctx, _, e⟩ hm => by
    have := noLab_printI64 nl t ctx _ (e ▸ hm); cases this) j hj)

/-- `move_arguments` emits comments and register moves to rdx rdi r9 r11 r13 -/
def isArgMove : Code → Bool
  | .COMMENT _ => true
  | .MOV r _ => decide (1 ≤ r)
  | _ => false

theorem moveArguments_shape : ∀ (n : Nat) (codes : List Code), moveArguments n = .ok codes →
    ∀ c ∈ codes, isArgMove c = true
  | 0, codes, h => by
    simp only [moveArguments, Except.ok.injEq] at h; subst h; simp [isArgMove]
  | 1, codes, h => by
    simp only [moveArguments] at h
    split at h
    · rename_i target src ht hs
      cases h
      have hm := List.mem_of_getElem? ht
      simp only [consts, List.mem_cons, List.not_mem_nil, or_false] at hm
      intro c hc
      simp only [List.mem_cons, List.not_mem_nil, or_false] at hc
      rcases hc with rfl | rfl
      · rfl
      · simp only [isArgMove, decide_eq_true_eq]; omega
    · cases h
  | n + 2, codes, h => by
    simp only [moveArguments] at h
    split at h
    · cases h
    · split at h
      · rename_i target src rest ht hs hrest
        cases h
        have hm := List.mem_of_getElem? ht
        simp only [consts, List.mem_cons, List.not_mem_nil, or_false] at hm
        intro c hc
        simp only [List.cons_append, List.nil_append, List.mem_cons] at hc
        rcases hc with rfl | rfl | hc
        · rfl
        · simp only [isArgMove, decide_eq_true_eq]; omega
        · exact moveArguments_shape (n + 1) rest hrest c hc
      · cases h

theorem straightInt_of_isArgMove {c : Code} (h : isArgMove c = true) : straightInt c = true := by
  cases c <;> simp [isArgMove] at h <;>
    simp [straightInt, plainInt, plainCC, isStackOp, codeWrites, codeMems, isIndirect, codeJumpRef]
  omega

theorem isLab_of_isArgMove {c : Code} (h : isArgMove c = true) : isLab c = false := by
  cases c <;> simp [isArgMove] at h <;> rfl

theorem head_labels {moves : List Code} (hm : ∀ c ∈ moves, isArgMove c = true) :
    ∀ c ∈ routineHead moves, ∀ l, c = Code.LAB l → l = "asm_main" := by
  intro c hc l hl
  subst hl
  simp only [routineHead, preamble, prologue, List.mem_append, List.mem_cons, List.mem_map,
    List.not_mem_nil, or_false, Code.LAB.injEq] at hc
  rcases hc with ((h | h) | h) | h
  · cases h
  · simpa using h
  · rcases h with h | h
    · rcases h with ((h | h) | ⟨_, _, h⟩) | h <;> simp at h
    · have := isLab_of_isArgMove (hm _ h); cases this
  · cases h

theorem tail_labels (j : Nat) (l : String) (h : (epilogue ++ [Code.RET])[j]? = some (Code.LAB l)) : j = 0 := by
  cases j with
  | zero => rfl
  | succ j =>
    have e : epilogue ++ [Code.RET] = Code.LAB "cleanup" ::
        ([Code.COMMENT "free space for register spills", Code.ADDI 0 2048, Code.COMMENT "restore registers"] ++
          [15, 14, 13, 12, 3, 2].map Code.POP ++ [Code.RET]) := rfl
    rw [e, List.getElem?_cons_succ] at h
    have hm := List.mem_of_getElem? h
    simp at hm

/-- EVERY LABEL OF THE ROUTINE OTHER THAN `asm_main` IS AT A BOUNDARY POSITION -/
theorem bodyAt_label {body routine moves : List Code} (hb : CCShape plainInt body)
    (hm : ∀ c ∈ moves, isArgMove c = true)
    (hr : routine = routineHead moves ++ body ++ (epilogue ++ [Code.RET])) {i : Nat} {l : String}
    (hi : routine[i]? = some (Code.LAB l)) (hl : l ≠ "asm_main") : BodyAt routine i := by
  subst hr
  exact drop_at_middle (S := CCShape plainInt) (fun hm' => hl (head_labels hm _ hm' l rfl))
    (fun j => ccShape_drop_label hb j l) .nil (fun j => tail_labels j l) hi

/-- results that are not reports of the calling-convention monitor -/
def CCSafe : Res → Prop
  | .ccViolation _ => False
  | .fault why _ => why ≠ "misaligned-call" ∧ why ≠ "ret-to-non-sentinel"
  | _ => True

theorem ccSafe_fault {e : String} (h : OKErr e) (ln : Nat) : CCSafe (.fault e ln) := ⟨h.1, h.2.1⟩

section Step
variable {m : MonCfg} {p : Prog}

theorem step_err {s : State} {code : Code} {e : String} (hf : p.code[s.pc]? = some code)
    (hx : execCode m.mach p.labelAddr code s = .error e) :
    step m p s = .inr (.fault e (p.lineOf s.pc)) := by
  unfold step
  simp only [hf, hx]

theorem step_jump {s s1 : State} {code : Code} {l : String} {i : Nat} (hf : p.code[s.pc]? = some code)
    (hx : execCode m.mach p.labelAddr code s = .ok (s1, .jumpLabel l)) (hl : p.labelIdx[l]? = some i) :
    step m p s = .inl (setPS s1 i (s.steps + (if codeSize code = 0 then 0 else 1))) := by
  obtain ⟨_, hst⟩ := execCode_pc_steps hx
  unfold step
  simp only [hf, hx, hl]
  by_cases h0 : codeSize code = 0
  · simp only [h0, if_true, Nat.add_zero, setPS, ← hst]
  · simp only [h0, if_false, setPS, hst]

theorem step_jump_undef {s s1 : State} {code : Code} {l : String} (hf : p.code[s.pc]? = some code)
    (hx : execCode m.mach p.labelAddr code s = .ok (s1, .jumpLabel l)) (hl : p.labelIdx[l]? = none) :
    step m p s = .inr (.fault s!"undefined-label {l}" (p.lineOf s.pc)) := by
  unfold step
  simp only [hf, hx, hl]

/-- the body of `callExt` after the name check -/
def callBody' (s : State) (f : String) : M State :=
  match rd s 0, rd s 7 with
  | .error e, _ => .error e
  | _, .error e => .error e
  | .ok sp, .ok arg =>
    if sp.toNat % 16 ≠ 0 then .error "misaligned-call"
    else .ok { s with
      out := (f == "println_i64", arg) :: s.out,
      regs := poisonRegs s.regs callerSaved,
      flags := none,
      stackMem := s.stackMem.filter (fun a _ => decide (sp.toNat ≤ a)) }

theorem callExt_def' (s : State) (f : String) :
    callExt s f = if f ≠ "print_i64" && f ≠ "println_i64" then .error s!"call-unknown {f}"
      else callBody' s f := rfl

theorem callBody_setPS' (s : State) (f : String) (pc k : Nat) :
    callBody' (setPS s pc k) f = mapS pc k (callBody' s f) := by
  unfold callBody'
  simp only [rd_setPS]
  cases rd s 0 with
  | error e => rfl
  | ok sp =>
    cases rd s 7 with
    | error e => rfl
    | ok arg =>
      simp only
      by_cases h2 : sp.toNat % 16 ≠ 0
      · rw [if_pos h2, if_pos h2]; simp only [mapS]
      · rw [if_neg h2, if_neg h2]; simp only [mapS, setPS]

theorem callExt_setPS' (s : State) (f : String) (pc k : Nat) :
    callExt (setPS s pc k) f = mapS pc k (callExt s f) := by
  rw [callExt_def', callExt_def']
  by_cases h1 : (f ≠ "print_i64" && f ≠ "println_i64") = true
  · rw [if_pos h1, if_pos h1]; simp only [mapS]
  · rw [if_neg h1, if_neg h1]; exact callBody_setPS' s f pc k

theorem callExt_pc {s s2 : State} {f : String} (h : callExt s f = .ok s2) : s2.pc = s.pc ∧ s2.steps = s.steps := by
  have := callExt_setPS' s f s.pc s.steps
  rw [setPS_self, h] at this
  simp only [mapS, Except.ok.injEq] at this
  have h1 : s2.pc = (setPS s2 s.pc s.steps).pc := by rw [← this]
  have h2 : s2.steps = (setPS s2 s.pc s.steps).steps := by rw [← this]
  exact ⟨h1, h2⟩

theorem step_call {m : MonCfg} {p : Prog} {s : State} {f : String} (hf : p.code[s.pc]? = some (Code.CALL f)) :
    step m p s =
      match callExt s f with
      | .ok s2 => .inl (setPS s2 (s.pc + 1) (s.steps + 1))
      | .error e => .inr (.fault e (p.lineOf s.pc)) := by
  have hcs : ¬ codeSize (Code.CALL f) = 0 := by simp [codeSize]
  unfold step
  simp only [hf, execCode]
  rw [if_neg hcs]
  have e1 : ({ s with steps := s.steps + 1 } : State) = setPS s s.pc (s.steps + 1) := rfl
  rw [e1, callExt_setPS']
  cases callExt s f with
  | error e => rfl
  | ok s2 => rfl

theorem step_ret {m : MonCfg} {p : Prog} {s : State} (hf : p.code[s.pc]? = some Code.RET) :
    step m p s =
      match retCheck m.mach (setPS s s.pc (s.steps + 1)) with
      | .ok v => .inr (.done v)
      | .error (.fault e _) => .inr (.fault e (p.lineOf s.pc))
      | .error r => .inr r := by
  have hcs : ¬ codeSize Code.RET = 0 := by decide
  unfold step
  simp only [hf, execCode]
  rw [if_neg hcs]
  rfl

theorem execSeq_setPS' (c : MachCfg) (la : String → Option Nat) (codes : List Code) (s : State)
    (pc k : Nat) : execSeq c la codes (setPS s pc k) = mapS pc k (execSeq c la codes s) := by
  induction codes generalizing s with
  | nil => rfl
  | cons code rest ih =>
    simp only [execSeq, execCode_setPS]
    cases execCode c la code s with
    | error e => rfl
    | ok r =>
      obtain ⟨s1, ctl⟩ := r
      cases ctl with
      | next => simp only [mapPS, ih]
      | callExt f =>
        simp only [mapPS, callExt_setPS']
        cases callExt s1 f with
        | error e => rfl
        | ok s2 => simp only [mapS, ih]
      | jumpLabel l => rfl
      | jumpAddr a => rfl
      | ret => rfl

theorem Future.setPS {c : MachCfg} {la : String → Option Nat} {Q : State → Prop}
    (hQ : ∀ s pc k, Q s → Q (setPS s pc k)) {l : List Code} {s : State} (h : Future c la Q l s) (pc k : Nat) :
    Future c la Q l (setPS s pc k) := by
  unfold Future at h ⊢
  rw [execSeq_setPS']
  cases hx : execSeq c la l s with
  | error e => simp only [hx, mapS] at h ⊢; exact h
  | ok s1 => simp only [hx, mapS] at h ⊢; exact hQ _ _ _ h

theorem step_seg {s : State} {code : Code} {rest : List Code} {Q : State → Prop}
    (hQ : ∀ s pc k, Q s → Q (setPS s pc k)) (hf : p.code[s.pc]? = some code)
    (hF : Future m.mach p.labelAddr Q (code :: rest) s) :
    match step m p s with
    | .inl s' => s'.pc = s.pc + 1 ∧ Future m.mach p.labelAddr Q rest s'
    | .inr r => CCSafe r := by
  unfold Future at hF
  simp only [execSeq] at hF
  cases hx : execCode m.mach p.labelAddr code s with
  | error e =>
    simp only [hx] at hF
    rw [step_err hf hx]
    exact ccSafe_fault hF _
  | ok r =>
    obtain ⟨s1, ctl⟩ := r
    simp only [hx] at hF
    cases ctl with
    | next =>
      rw [step_next hf hx]
      exact ⟨rfl, Future.setPS hQ (by unfold Future; exact hF) _ _⟩
    | callExt f =>
      rcases execCode_ctl hx with h' | ⟨l, _, h'⟩ | ⟨l, _, h'⟩ | ⟨r, a, _, h'⟩ | ⟨f', hcode, hf', hs1⟩ | ⟨_, h', _⟩
      · cases h'
      · cases h'
      · cases h'
      · cases h'
      · cases hf'
        subst hs1
        subst hcode
        rw [step_call hf]
        cases hc : callExt s1 f with
        | error e =>
          simp only [hc] at hF ⊢
          exact ccSafe_fault hF _
        | ok s2 =>
          simp only [hc] at hF ⊢
          exact ⟨rfl, Future.setPS hQ (by unfold Future; exact hF) _ _⟩
      · cases h'
    | jumpLabel l => exact absurd rfl hF.2.2
    | jumpAddr a => exact absurd rfl hF.2.2
    | ret => exact absurd rfl hF.2.2

end Step

/-- where the current segment leads: to a boundary inside the body, or to the final return (the two cases of `PostT`) -/
inductive Tgt where
  | body
  | ret

/-- what holds at the end of the current segment, at text position `i` -/
def PostT (c : MachCfg) (routine : List Code) (tgt : Tgt) (i : Nat) (s : State) : Prop :=
  match tgt with
  | .body => Core c s ∧ BodyAt routine i
  | .ret => RetReady c s ∧ routine.drop i = [Code.RET]

theorem PostT.setPS {c : MachCfg} {routine : List Code} {tgt : Tgt} {i : Nat} (s : State) (pc k : Nat)
    (h : PostT c routine tgt i s) : PostT c routine tgt i (setPS s pc k) := by
  cases tgt with
  | body => exact ⟨h.1.setPS _ _, h.2⟩
  | ret => exact ⟨h.1.setPS _ _, h.2⟩

/-- THE INVARIANT of `step`: the text from the program counter on starts with a segment `todo` whose
    future is the boundary invariant (or the exit condition) at the position behind it -/
def Inv (m : MonCfg) (p : Prog) (routine : List Code) (s : State) : Prop :=
  ∃ todo tgt, (∀ j (h : j < todo.length), routine[s.pc + j]? = some todo[j]) ∧
    Future m.mach p.labelAddr (PostT m.mach routine tgt (s.pc + todo.length)) todo s

section InvStep
variable {m : MonCfg} {p : Prog} {routine body moves : List Code}

theorem inv_step_seg {s : State} {code : Code} {rest : List Code} {tgt : Tgt} (Hp : Holds p routine)
    (hcode : ∀ j (h : j < (code :: rest).length), routine[s.pc + j]? = some (code :: rest)[j])
    (hF : Future m.mach p.labelAddr (PostT m.mach routine tgt (s.pc + (code :: rest).length)) (code :: rest) s) :
    match step m p s with
    | .inl s' => Inv m p routine s'
    | .inr r => CCSafe r := by
  have hget : routine[s.pc]? = some code := by
    have := hcode 0 (by simp)
    simpa using this
  obtain ⟨code', hf, hst⟩ := Hp.fetch hget
  have hF' : Future m.mach p.labelAddr (PostT m.mach routine tgt (s.pc + (code :: rest).length)) (code' :: rest) s := by
    unfold Future at hF ⊢
    simp only [execSeq] at hF ⊢
    rw [execCode_congr hst]
    exact hF
  have := step_seg (m := m) (p := p) (fun s pc k h => PostT.setPS s pc k h) hf hF'
  cases hs : step m p s with
  | inr r => simp only [hs] at this ⊢; exact this
  | inl s' =>
    simp only [hs] at this ⊢
    obtain ⟨hpc, hF'⟩ := this
    refine ⟨rest, tgt, ?_, ?_⟩
    · intro j hj
      have := hcode (j + 1) (by simpa using hj)
      rw [hpc, Nat.add_assoc, Nat.add_comm 1 j]
      simpa using this
    · have e : s'.pc + rest.length = s.pc + (code :: rest).length := by
        rw [hpc, List.length_cons]; omega
      rw [e]
      exact hF'

/-- THE INVARIANT IS PRESERVED by every transition of the machine, and a run that ends, ends with a
    result that is not a report of the calling-convention monitor -/
theorem inv_step (H : CfgCC m.mach) (Hp : Holds p routine) (hb : CCShape plainInt body)
    (hm : ∀ c ∈ moves, isArgMove c = true)
    (hr : routine = routineHead moves ++ body ++ (epilogue ++ [Code.RET])) {s : State}
    (I : Inv m p routine s) :
    match step m p s with
    | .inl s' => Inv m p routine s'
    | .inr r => CCSafe r := by
  obtain ⟨todo, tgt, hcode, hF⟩ := I
  cases todo with
  | cons code rest => exact inv_step_seg Hp hcode hF
  | nil =>
    have hF' : PostT m.mach routine tgt s.pc s := by simpa [Future, execSeq] using hF
    cases tgt with
    | ret =>
      -- the final `ret`
      obtain ⟨R, hd⟩ := hF'
      have hget : routine[s.pc]? = some Code.RET := by
        have := drop_eq_append_get (a := [Code.RET]) (b := []) (by simpa using hd) 0 (by simp)
        simpa using this
      obtain ⟨code', hf, hst⟩ := Hp.fetch hget
      have : code' = Code.RET := eq_of_stripC hst (fun m h => by cases h)
      subst this
      rw [step_ret hf]
      rcases retCheck_safe H (R.setPS s.pc (s.steps + 1)) with ⟨v, hv⟩ | ⟨e, he, hme⟩
      · rw [hv]; trivial
      · rw [he]; exact ccSafe_fault hme.okErr _
    | body =>
      obtain ⟨C, rest, hshape, hd⟩ := hF'
      cases hshape with
      | nil =>
        -- the epilogue
        refine inv_step_seg (tgt := .ret) (code := Code.LAB "cleanup")
          (rest := [Code.COMMENT "free space for register spills", Code.ADDI 0 2048,
            Code.COMMENT "restore registers"] ++ [15, 14, 13, 12, 3, 2].map Code.POP) Hp ?_ ?_
        · exact drop_eq_append_get (a := epilogue) (b := [Code.RET]) (by simpa using hd)
        · have hF2 := epilogue_future (la := p.labelAddr) H C
          refine hF2.mono fun s' hs' => ⟨hs', ?_⟩
          exact drop_add_of_append (a := epilogue) (b := [Code.RET]) (by simpa using hd)
      | @plain code rest' hc hrest' =>
        -- a plain instruction
        have hget : routine[s.pc]? = some code := by
          have := drop_eq_append_get (a := [code]) (b := rest' ++ (epilogue ++ [Code.RET])) (by simpa using hd) 0
            (by simp)
          simpa using this
        obtain ⟨code', hf, hst⟩ := Hp.fetch hget
        have hnext : BodyAt routine (s.pc + 1) :=
          ⟨rest', hrest', drop_add_of_append (a := [code]) (b := rest' ++ (epilogue ++ [Code.RET]))
            (by simpa using hd)⟩
        cases hx' : execCode m.mach p.labelAddr code' s with
        | error e =>
          rw [step_err hf hx']
          exact ccSafe_fault (execCode_err hx').okErr _
        | ok r =>
          obtain ⟨s1, ctl⟩ := r
          have hx : execCode m.mach p.labelAddr code s = .ok (s1, ctl) := by
            rw [← execCode_congr hst]; exact hx'
          obtain ⟨C1, hctl⟩ := plain_exec H C hc hx
          rcases hctl with rfl | ⟨l, _, rfl, hl⟩
          · rw [step_next hf hx']
            exact ⟨[], .body, fun j hj => by simp at hj, Future.nil ⟨C1.setPS _ _, hnext⟩⟩
          · cases hlab : p.labelIdx[l]? with
            | none =>
              rw [step_jump_undef hf hx' hlab]
              exact ccSafe_fault (merr_undefLabel l).okErr _
            | some i =>
              rw [step_jump hf hx' hlab]
              rw [Hp.labels] at hlab
              obtain ⟨_, hi⟩ := firstLab_some hlab
              simp only [Nat.sub_zero] at hi
              exact ⟨[], .body, fun j hj => by simp at hj,
                Future.nil ⟨C1.setPS _ _, bodyAt_label hb hm hr hi hl⟩⟩
      | @print nl t ctx rest' hs hrest' =>
        -- a print block
        rw [List.append_assoc] at hd
        have hne : printI64 nl t ctx ≠ [] := by
          rw [printI64_split]; simp
        obtain ⟨code, blk, hblk⟩ := List.exists_cons_of_ne_nil hne
        have hF2 : Future m.mach p.labelAddr (PostT m.mach routine .body (s.pc + (code :: blk).length))
            (code :: blk) s := by
          rw [← hblk]
          refine (block_future (la := p.labelAddr) H hs nl C).mono fun s' hs' => ⟨hs', rest', hrest', ?_⟩
          exact drop_add_of_append hd
        refine inv_step_seg (tgt := .body) Hp ?_ hF2
        rw [← hblk]
        exact drop_eq_append_get hd

end InvStep

theorem monitor_err {m : MonCfg} {p : Prog} {s : State} {r : Res} (h : monitor m p s = .error r) :
    ∃ e ln, r = .invFail e ln := by
  unfold monitor at h
  split at h
  · cases h
  · split at h
    · split at h
      · cases h
      · split at h
        · cases h
        · cases h; exact ⟨_, _, rfl⟩
    · cases h

theorem finish_res (s : State) (b : Nat) (r : Res) : (finish s b r).res = r := rfl

theorem runLoop_safe {m : MonCfg} {p : Prog} {routine body moves : List Code} (H : CfgCC m.mach)
    (Hp : Holds p routine) (hb : CCShape plainInt body) (hm : ∀ c ∈ moves, isArgMove c = true)
    (hr : routine = routineHead moves ++ body ++ (epilogue ++ [Code.RET])) :
    ∀ (fuel : Nat) (s : State) (blocks : Nat), Inv m p routine s → CCSafe (runLoop m p fuel s blocks).res
  | 0, s, blocks, _ => trivial
  | fuel + 1, s, blocks, I => by
    simp only [runLoop]
    cases hmon : monitor m p s with
    | error r =>
      obtain ⟨e, ln, rfl⟩ := monitor_err hmon
      trivial
    | ok b =>
      dsimp only
      have := inv_step H Hp hb hm hr I
      cases hs : step m p s with
      | inl s1 =>
        simp only [hs] at this ⊢
        exact runLoop_safe H Hp hb hm hr fuel s1 _ this
      | inr r =>
        simp only [hs] at this ⊢
        rw [finish_res]
        exact this

theorem runLoop_mono {m : MonCfg} {p : Prog} : ∀ (f : Nat) (s : State) (b : Nat),
    (runLoop m p f s b).res ≠ .outOfFuel → ∀ k, runLoop m p (f + k) s b = runLoop m p f s b
  | 0, s, b, h, k => absurd rfl h
  | f + 1, s, b, h, k => by
    rw [show f + 1 + k = (f + k) + 1 by omega]
    simp only [runLoop] at h ⊢
    cases hmon : monitor m p s with
    | error r => rfl
    | ok b' =>
      simp only [hmon] at h ⊢
      cases hs : step m p s with
      | inr r => rfl
      | inl s1 =>
        simp only [hs] at h ⊢
        exact runLoop_mono f s1 _ h k

theorem runLoop_res_of_done {m : MonCfg} {p : Prog} {f0 : Nat} {s : State} {b : Nat} {v : Word}
    (h : (runLoop m p f0 s b).res = .done v) (f : Nat) :
    (runLoop m p f s b).res = .outOfFuel ∨ (runLoop m p f s b).res = .done v := by
  by_cases hle : f ≤ f0
  · by_cases hof : (runLoop m p f s b).res = .outOfFuel
    · exact Or.inl hof
    · have := runLoop_mono f s b hof (f0 - f)
      rw [show f + (f0 - f) = f0 by omega] at this
      rw [← this]; exact Or.inr h
  · have := runLoop_mono f0 s b (by rw [h]; intro e; cases e) (f - f0)
    rw [show f0 + (f - f0) = f by omega] at this
    rw [this]; exact Or.inr h

theorem foldl_set_size (l : List (Reg × Word)) (a : Array (Option Word)) :
    (l.foldl (fun a (ra : Reg × Word) => a.set! ra.1 (some ra.2)) a).size = a.size := by
  induction l generalizing a with
  | nil => rfl
  | cons x rest ih => rw [List.foldl_cons, ih]; simp

theorem foldl_set_get (l : List (Reg × Word)) (a : Array (Option Word)) (r : Nat) (h : ∀ x ∈ l, x.1 ≠ r) :
    (l.foldl (fun a (ra : Reg × Word) => a.set! ra.1 (some ra.2)) a)[r]? = a[r]? := by
  induction l generalizing a with
  | nil => rfl
  | cons x rest ih =>
    rw [List.foldl_cons, ih _ (fun y hy => h y (by simp [hy]))]
    have := h x (by simp)
    simp [Array.set!_eq_setIfInBounds, Array.getElem?_setIfInBounds, this]

theorem initRegs_spec (c : MachCfg) (args : List Word) :
    ∃ r2 : Array (Option Word), r2.size = 16 ∧
      (∀ r : Nat, r ∈ calleeSaved → r2[r]? = some (some (calleeSentinel r))) ∧
      initRegs c args = (r2.set! 7 (some (BitVec.ofNat 64 c.heapBase))).set! 0
        (some (BitVec.ofNat 64 (c.stackTop - 8))) := by
  refine ⟨(argRegs.zip args).foldl (fun a (ra : Reg × Word) => a.set! ra.1 (some ra.2))
    (calleeSaved.foldl (fun a r => a.set! r (some (calleeSentinel r))) (Array.replicate 16 none)), ?_, ?_, rfl⟩
  · rw [foldl_set_size]; rfl
  · intro r hr
    have hna : ∀ x ∈ argRegs.zip args, x.1 ≠ r := by
      intro x hx e
      have := (List.of_mem_zip hx).1
      rw [e] at this
      simp only [calleeSaved, List.mem_cons, List.not_mem_nil, or_false] at hr
      rcases hr with rfl | rfl | rfl | rfl | rfl | rfl <;> simp [argRegs] at this
    rw [foldl_set_get _ _ r hna]
    simp only [calleeSaved, List.mem_cons, List.not_mem_nil, or_false] at hr
    rcases hr with rfl | rfl | rfl | rfl | rfl | rfl <;> rfl

theorem entry_initState (c : MachCfg) (args : List Word) (entry : Nat) : Entry c (initState c args entry) := by
  obtain ⟨r2, h2, hcs2, hI⟩ := initRegs_spec c args
  have hregs : (initState c args entry).regs = (r2.set! 7 (some (BitVec.ofNat 64 c.heapBase))).set! 0
      (some (BitVec.ofNat 64 (c.stackTop - 8))) := hI
  refine ⟨?_, ?_, ⟨BitVec.ofNat 64 c.heapBase, ?_⟩, ?_, ?_⟩
  · rw [hregs]; simp [h2]
  · rw [hregs]; simp [Array.set!_eq_setIfInBounds, Array.getElem?_setIfInBounds, h2]
  · rw [hregs]; simp [Array.set!_eq_setIfInBounds, Array.getElem?_setIfInBounds, h2]
  · show ((∅ : Std.HashMap Nat Word).insert (c.stackTop - 8) retSentinel)[c.stackTop - 8]? = _
    simp
  · intro r hr
    have hr0 : r ≠ 0 ∧ r ≠ 7 := by
      simp only [calleeSaved, List.mem_cons, List.not_mem_nil, or_false] at hr
      rcases hr with rfl | rfl | rfl | rfl | rfl | rfl <;> exact ⟨by decide, by decide⟩
    rw [hregs]
    simp only [Array.set!_eq_setIfInBounds, Array.getElem?_setIfInBounds]
    rw [if_neg (fun e => hr0.1 e.symm), if_neg (fun e => hr0.2 e.symm)]
    exact hcs2 r hr

/-- the machine on an item list (what `run` does after parsing) -/
def runItems (items : List (Code × Nat)) (args : List Word) (fuel : Nat) (cfg : MonCfg) : RunResult :=
  let p := mkProg cfg.mach items
  match p.labelIdx["asm_main"]? with
  | none => emptyResult (.fault "undefined-label asm_main" 0)
  | some entry =>
    if args.length > 5 then emptyResult (.fault "too-many-arguments" 0)
    else runLoop cfg p fuel (initState cfg.mach args entry) 0

theorem run_eq_runItems' {text : String} {items : List (Code × Nat)} (h : parseText text = .ok items)
    (args : List Word) (fuel : Nat) (cfg : MonCfg) : run text args fuel cfg = runItems items args fuel cfg := by
  unfold run runItems
  rw [h]
  rfl

theorem runItems_res_of_done {items : List (Code × Nat)} {args : List Word} {cfg : MonCfg} {f0 : Nat}
    {v : Word} (h : (runItems items args f0 cfg).res = .done v) (f : Nat) :
    (runItems items args f cfg).res = .outOfFuel ∨ (runItems items args f cfg).res = .done v := by
  unfold runItems at h ⊢
  dsimp only at h ⊢
  cases hl : (mkProg cfg.mach items).labelIdx["asm_main"]? with
  | none => simp only [hl] at h; cases h
  | some entry =>
    simp only [hl] at h ⊢
    split at h
    · cases h
    · rename_i hn
      rw [if_neg hn]
      exact runLoop_res_of_done h f

theorem entry_index (moves rest : List Code) :
    firstLab "asm_main" (routineHead moves ++ rest) 0 = some 6 := by
  simp [routineHead, preamble, firstLab]

theorem routine_drop_entry (moves rest : List Code) :
    (routineHead moves ++ rest).drop 6 =
      (Code.LAB "asm_main" :: (prologue ++ (moves ++ [Code.COMMENT "actual code"]))) ++ rest := by
  simp [routineHead, preamble]

/-- C13, the dynamic half, INTEGER PROGRAMS: on the item list of the routine the calling-convention monitor never
    fires — all arguments, all fuel, every setting of the monitor flags, on a machine configuration satisfying `CfgCC`
    (CCProofsSeg.lean: 16-aligned stack top, room for the frame) -/
theorem cc_safe_items {p : AxCut.Prog} (hp : Scc.Backend.Shape.IntProgC p) {hooks : Bool} {c0 : Nat}
    {body routine : List Code} {nargs : Nat} (hc : compileX86 p hooks c0 = .ok (body, nargs))
    (hr : intoRoutine body nargs = .ok routine) (cfg : MonCfg) (H : CfgCC cfg.mach)
    (items : List (Code × Nat)) (hitems : (items.map (·.1)).map stripC = routine.map stripC)
    (args : List Word) (fuel : Nat) : CCSafe (runItems items args fuel cfg).res := by
  have hb := compile_ccShape_int hp hc
  obtain ⟨moves, hmv, hrt⟩ := routine_anatomy hr
  have hm := moveArguments_shape nargs moves hmv
  have Hp : Holds (mkProg cfg.mach items) routine := holds_mkProg cfg.mach items routine hitems
  unfold runItems
  dsimp only
  have hentry : (mkProg cfg.mach items).labelIdx["asm_main"]? = some 6 := by
    rw [Hp.labels, hrt, List.append_assoc]
    exact entry_index moves _
  rw [hentry]
  dsimp only
  split
  · exact ⟨by decide, by decide⟩
  · apply runLoop_safe H Hp hb hm hrt
    have hdrop : routine.drop 6 =
        (Code.LAB "asm_main" :: (prologue ++ (moves ++ [Code.COMMENT "actual code"]))) ++
          (body ++ (epilogue ++ [Code.RET])) := by
      rw [hrt, List.append_assoc]; exact routine_drop_entry moves _
    refine ⟨Code.LAB "asm_main" :: (prologue ++ (moves ++ [Code.COMMENT "actual code"])), .body, ?_, ?_⟩
    · exact drop_eq_append_get hdrop
    · refine (prologue_future (la := (mkProg cfg.mach items).labelAddr) H
        (entry_initState cfg.mach args 6) (fun c hc => straightInt_of_isArgMove (hm c hc))).mono
        fun s' hs' => ⟨hs', body, hb, ?_⟩
      exact drop_add_of_append hdrop

/-- the same for the machine's own entry point `run` on any text that parses to the items of the
    routine -/
theorem cc_safe_run {p : AxCut.Prog} (hp : Scc.Backend.Shape.IntProgC p) {hooks : Bool} {c0 : Nat}
    {body routine : List Code} {nargs : Nat} (hc : compileX86 p hooks c0 = .ok (body, nargs))
    (hr : intoRoutine body nargs = .ok routine) (cfg : MonCfg) (H : CfgCC cfg.mach)
    {text : String} {items : List (Code × Nat)} (hparse : parseText text = .ok items)
    (hitems : (items.map (·.1)).map stripC = routine.map stripC) (args : List Word) (fuel : Nat) :
    CCSafe (run text args fuel cfg).res := by
  rw [run_eq_runItems' hparse]
  exact cc_safe_items hp hc hr cfg H items hitems args fuel

end Scc.X86.CC
