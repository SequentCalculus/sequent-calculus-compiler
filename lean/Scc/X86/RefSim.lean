/-
  Scc.X86.RefSim — Theorem B (x86-64), heap-free instructions: every step of the abstract backend
  machine on an instruction `op` is simulated by the x86-64 SPEC machine on the rendering of `op`
  (`OpRel`), re-establishing the representation relation `RepX86` (RefDefs.lean).
  This file: the state-level lemmas, one per abstract instruction (`execStraight` / `execSeq` / `execCode` of
  the rendering from a represented state); on the transition function: RefStep.lean.
-/
import Scc.X86.RefBridge
import Scc.Backend.ProofsSim
import Scc.Backend.ProofsAbsStep
import Scc.Backend.ProofsPM

namespace Scc.X86.Ref

open Scc.AxCut Scc.Backend Scc.Backend.Abs Scc.Backend.Sim Scc.Backend.PM

/-- sanity of the frame: the configuration, the entry `rsp` (8 mod 16, System V), room for the
    callee-save area, the spill area and the pushes of the print sequence -/
structure FrameOK (F : Frame) : Prop where
  cfg : CfgOK F.c
  m16 : F.m % 16 = 8
  low : F.c.stackLow + 2168 ≤ F.m
  high : F.m ≤ F.c.stackTop

theorem FrameOK.spN_lt {F : Frame} (H : FrameOK F) : F.spN < 2 ^ 64 := by
  have := H.cfg.top; have := H.high; unfold Frame.spN; omega

theorem FrameOK.sp_toNat {F : Frame} (H : FrameOK F) : F.sp.toNat = F.spN := by
  unfold Frame.sp
  simp [BitVec.toNat_ofNat, Nat.mod_eq_of_lt H.spN_lt]

theorem FrameOK.spOK {F : Frame} (H : FrameOK F) : SpOK F.c F.sp := by
  have h1 := H.low; have h2 := H.high; have h3 := H.m16
  have e : F.sp.toNat = F.spN := H.sp_toNat
  have e2 : F.spN = F.m - 2096 := rfl
  refine ⟨H.cfg, ?_, ?_, ?_⟩
  · rw [e, e2]; omega
  · rw [e, e2]; omega
  · rw [e, e2]; omega

/-- spill slots lie below the callee-save area -/
theorem FrameOK.slot_lt {F : Frame} (H : FrameOK F) (p : Nat) : slotAddr F.sp p < F.m - 48 := by
  have h1 := H.low
  have e : F.sp.toNat = F.spN := H.sp_toNat
  have e2 : F.spN = F.m - 2096 := rfl
  unfold slotAddr
  rw [e, e2]
  omega

theorem tempOK_ne_of_slot {sp : Word} {p q : Nat} (hp : p < 256) (hq : q < 256) (h : p ≠ q) :
    slotAddr sp p ≠ slotAddr sp q := fun e => h ((slotAddr_inj hp hq).1 e)

/-- a temporary other than the target and TEMP keeps its contents -/
theorem _root_.Scc.X86.Preserved.temp {sp : Word} {st st' : State} {u : Option Temporary} (P : Preserved sp st st' u)
    {w : Temporary} (hw : OpndOK w) (hT : w ≠ .reg TEMP) (hne : some w ≠ u)
    (hu : ∀ p, u = some (.spill p) → p < 256) :
    tempVal sp st' w = tempVal sp st w := by
  cases w with
  | reg r =>
    simp only [tempVal]
    rw [P.regs r hw.2 (fun e => hT (by rw [e])) hne]
  | spill q =>
    simp only [tempVal]
    rw [P.mem]
    intro p hp
    have hq : q < 256 := hw
    exact tempOK_ne_of_slot hq (hu p hp) (fun e => hne (by rw [hp, e]))

theorem _root_.Scc.X86.Preserved.frame {F : Frame} (H : FrameOK F) {st st' : State} {u : Option Temporary}
    (P : Preserved F.sp st st' u) : ∀ n, F.m - 48 ≤ n → st'.stackMem[n]? = st.stackMem[n]? := by
  intro n hn
  apply P.mem
  intro p _ e
  have := H.slot_lt p
  omega

theorem tempOK_posW {t : Nat} (h : PosW t) : TempOK (posTemp t) := tempOK_posTemp h.2

theorem posTemp_ne_ret1 {t : Nat} (h : PosW t) : posTemp t ≠ .reg RETURN1 := by
  unfold posTemp
  have := h.1
  split
  · intro e; injection e with e; simp [RETURN1_eq] at e; omega
  · intro e; cases e

theorem posTemp_ne_spill0 {t : Nat} (h : t < 267) : posTemp t ≠ .spill SPILL_TEMP := by
  have := tempOK_posTemp h
  intro e; rw [e] at this
  have := this.1
  simp [SPILL_TEMP, consts] at this

theorem opndOK_scratchLoc (b : Bool) : OpndOK (scratchLoc b) := by
  cases b
  · exact opndOK_temp
  · show (SPILL_TEMP : Nat) < 256
    decide

theorem posW_ne_temp {t : Nat} (h : PosW t) : t ≠ Mock.T_TEMP := by
  have := h.2; unfold Mock.T_TEMP; omega

theorem posW_ne_ret1 {t : Nat} (h : PosW t) : t ≠ Mock.T_RET1 := by
  have := h.2; unfold Mock.T_RET1; omega

section Ops

variable {F : Frame} (H : FrameOK F) {la : String → Option Nat} {cfg : Config} {st : State}
include H

/-- the generic re-establishment after an instruction that writes one position temporary -/
theorem RepX86.write (R : RepX86 F .normal cfg st) {st' : State} {t : Nat} (ht : PosW t)
    {v : Word} (B' : Boundary F.c st' F.sp) (hv : tempVal F.sp st' (posTemp t) = some v)
    (P : Preserved F.sp st st' (some (posTemp t))) {pc' : Nat} :
    RepX86 F .normal { cfg with pc := pc', temps := (clobberTemp cfg.temps).set t v } st' := by
  have hok := tempOK_posW ht
  have hlt : ∀ p, some (posTemp t) = some (Temporary.spill p) → p < 256 := by
    intro p e; injection e with e; rw [e] at hok; exact hok.2
  refine ⟨B', ?_, ?_, ?_, ?_, ?_⟩
  · intro t' v' ht' hg
    by_cases e : t' = t
    · subst e
      rw [get_set_same] at hg
      cases hg; exact hv
    · simp only at hg
      rw [get_set_other _ _ e, get_clobberTemp _ (posW_ne_temp ht')] at hg
      rw [P.temp (tempOK_posW ht').opnd (tempOK_posW ht').ne_temp
        (fun e' => e (posTemp_inj.1 (by injection e'))) hlt]
      exact R.temps t' v' ht' hg
  · intro v' hg
    simp only at hg
    rw [get_set_other _ _ (posW_ne_ret1 ht).symm, get_clobberTemp _ (by decide)] at hg
    exact absurd (R.ret v' hg).1 (by simp)
  · intro b hb; cases hb
  · rw [P.same.out]; exact R.out
  · intro n hn
    rw [P.frame H n hn]; exact R.frame n hn

theorem rep_li (R : RepX86 F .normal cfg st) {t : Nat} (ht : PosW t) {imm : Int}
    (h64 : fitsI64 imm = true) :
    ∃ st', execStraight F.c la (loadImmediate (posTemp t) imm) st = .ok st' ∧
      RepX86 F .normal
        { cfg with pc := cfg.pc + 1, temps := (clobberTemp cfg.temps).set t (BitVec.ofInt 64 imm) } st' := by
  obtain ⟨st', e, B', hv, P⟩ := loadImmediate_correct (la := la) R.bnd (tempOK_posW ht) h64
  exact ⟨st', e, R.write H ht B' hv P⟩

theorem rep_binop (R : RepX86 F .normal cfg st) {o : BinOp} {t a b : Nat} (ht : PosW t) (ha : PosW a)
    (hb : PosW b) (hta : t ≠ a) (htb : t ≠ b) (h3 : 3 ≤ t) {va vb v : Word}
    (hva : cfg.temps.get a = some va) (hvb : cfg.temps.get b = some vb)
    (hev : Abs.evalBinOp o va vb = .ok v) :
    ∃ st', execStraight F.c la (binop o (posTemp t) (posTemp a) (posTemp b)) st = .ok st' ∧
      RepX86 F .normal { cfg with pc := cfg.pc + 1, temps := (clobberTemp cfg.temps).set t v } st' := by
  have D : DivPlacement (posTemp t) (posTemp a) (posTemp b) := by
    refine ⟨tempOK_posW ht, tempOK_posW ha, tempOK_posW hb, fun e => hta (posTemp_inj.1 e),
      fun e => htb (posTemp_inj.1 e), ?_, ?_, ?_⟩
    · have := posTemp_ne_ret1 ht; simpa [RETURN1_eq] using this
    · unfold posTemp
      split
      · intro e; injection e with e; omega
      · intro e; cases e
    · have := posTemp_ne_ret1 hb; simpa [RETURN1_eq] using this
  obtain ⟨st', e, B', hv, P⟩ := binop_correct (la := la) R.bnd o D (R.temps a va ha hva)
    (R.temps b vb hb hvb) (evalOp_of_evalBinOp hev)
  exact ⟨st', e, R.write H ht B' hv P⟩

/-- after an instruction that changes nothing but TEMP and the flags -/
theorem RepX86.keep (R : RepX86 F .normal cfg st) {st' : State} (B' : Boundary F.c st' F.sp)
    (P : Preserved F.sp st st' none) {pc' : Nat} :
    RepX86 F .normal { cfg with pc := pc', temps := clobberTemp cfg.temps } st' := by
  refine ⟨B', ?_, ?_, ?_, ?_, ?_⟩
  · intro t' v' ht' hg
    simp only at hg
    rw [get_clobberTemp _ (posW_ne_temp ht')] at hg
    rw [P.temp (tempOK_posW ht').opnd (tempOK_posW ht').ne_temp (by simp) (by simp)]
    exact R.temps t' v' ht' hg
  · intro v' hg
    simp only at hg
    rw [get_clobberTemp _ (by decide)] at hg
    exact absurd (R.ret v' hg).1 (by simp)
  · intro b hb; cases hb
  · rw [P.same.out]; exact R.out
  · intro n hn
    rw [P.frame H n hn]; exact R.frame n hn

omit H in
theorem ifSortHolds_eq (c : IfSort) (a b : Word) : ifSortHolds c a b = Abs.evalCond c a b := by
  cases c <;> rfl

/-- `jif`: the comparison, then the conditional jump decides as the abstract machine does -/
theorem rep_jif (R : RepX86 F .normal cfg st) {c : IfSort} {a b : Nat} (ha : PosW a) (hb : PosW b)
    {va vb : Word} (hva : cfg.temps.get a = some va) (hvb : cfg.temps.get b = some vb) (l : String)
    (pc' : Nat) :
    ∃ st', execStraight F.c la (compare (posTemp a) (posTemp b)) st = .ok st' ∧
      RepX86 F .normal { cfg with pc := pc', temps := clobberTemp cfg.temps } st' ∧
      execCode F.c la (condJump c l) st' =
        .ok (st', if Abs.evalCond c va vb then .jumpLabel l else .next) := by
  obtain ⟨st', e, B', hf, P⟩ := compare_correct (la := la) R.bnd (tempOK_posW ha) (tempOK_posW hb)
    (R.temps a va ha hva) (R.temps b vb hb hvb)
  refine ⟨st', e, R.keep H B' P, ?_⟩
  rw [condJump_correct F.c la c l st' hf, ifSortHolds_eq]

theorem rep_jifz (R : RepX86 F .normal cfg st) {c : IfSort} {a : Nat} (ha : PosW a)
    {va : Word} (hva : cfg.temps.get a = some va) (l : String) (pc' : Nat) :
    ∃ st', execStraight F.c la (compareImmediate (posTemp a) 0) st = .ok st' ∧
      RepX86 F .normal { cfg with pc := pc', temps := clobberTemp cfg.temps } st' ∧
      execCode F.c la (condJump c l) st' =
        .ok (st', if Abs.evalCond c va 0 then .jumpLabel l else .next) := by
  obtain ⟨st', e, B', hf, P⟩ := compareImmediate_correct (la := la) R.bnd (tempOK_posW ha) (i := 0)
    (by decide) (R.temps a va ha hva)
  refine ⟨st', e, R.keep H B' P, ?_⟩
  have hf' : st'.flags = some (va, 0) := by rw [hf]; rfl
  rw [condJump_correct F.c la c l st' hf', ifSortHolds_eq]

/-- `mov RET1 s` (exit.rs): rax := the result -/
theorem rep_movRet (R : RepX86 F .normal cfg st) {s : Nat} (hs : PosW s) (pc' : Nat) :
    ∃ st', execStraight F.c la (mov (.reg RETURN1) (posTemp s)) st = .ok st' ∧
      RepX86 F .exit
        { cfg with pc := pc', temps := (clobberTemp cfg.temps).put Mock.T_RET1 (cfg.temps.get s) } st' := by
  have hr : TempOK (.reg RETURN1) := ⟨by decide, by decide⟩
  obtain ⟨st', e, B', hv, P⟩ := mov_correct (la := la) R.bnd hr (tempOK_posW hs)
  have hlt : ∀ p, some (Temporary.reg RETURN1) = some (Temporary.spill p) → p < 256 := by
    intro p e; cases e
  refine ⟨st', e, B', ?_, ?_, ?_, ?_, ?_⟩
  · intro t' v' ht' hg
    simp only at hg
    rw [get_put_other _ _ (posW_ne_ret1 ht'), get_clobberTemp _ (posW_ne_temp ht')] at hg
    rw [P.temp (tempOK_posW ht').opnd (tempOK_posW ht').ne_temp
      (fun e' => posTemp_ne_ret1 ht' (by injection e')) hlt]
    exact R.temps t' v' ht' hg
  · intro v' hg
    simp only at hg
    rw [get_put_same] at hg
    exact ⟨rfl, by rw [hv]; exact R.temps s v' hs hg⟩
  · intro b hb; cases hb
  · rw [P.same.out]; exact R.out
  · intro n hn
    rw [P.frame H n hn]; exact R.frame n hn

omit H in
/-- `mov t s` between two position temporaries; when not both are spill slots TEMP is untouched -/
theorem mov_keeps_temp {c : MachCfg} {sp : Word} {st : State} (B : Boundary c st sp) {t s : Temporary}
    (ht : TempOK t) (hs : TempOK s) (hns : ¬ (isSpill t = true ∧ isSpill s = true)) :
    ∃ st', execStraight c la (mov t s) st = .ok st' ∧ Boundary c st' sp ∧
      tempVal sp st' t = tempVal sp st s ∧ Preserved sp st st' (some t) ∧
      tempVal sp st' (.reg TEMP) = tempVal sp st (.reg TEMP) := by
  have hx : texecList la (mov t s) (tview sp st) = some ((tview sp st).set t ((tview sp st).val s)) := by
    cases s with
    | reg rs => simp only [mov]; exact t_moveFromRegister hs.opnd ht.opnd
    | spill ps =>
      cases t with
      | reg rt => simp only [mov]; exact t_moveToRegister ht.opnd hs.opnd
      | spill pt => exact absurd ⟨rfl, rfl⟩ hns
  obtain ⟨st', e, B', hvals, _, P⟩ := transfer B la hx (t := some t)
    (fun u hne _ => by simp only [TState.set_val]; rw [if_neg (fun e => hne (by rw [e]))]; rfl)
  refine ⟨st', e, B', ?_, P, ?_⟩
  · rw [hvals t ht.opnd]; simp [tview]
  · rw [hvals _ opndOK_temp]
    simp only [TState.set_val]
    rw [if_neg (fun e => ht.ne_temp e.symm)]; rfl

omit H in
theorem posW_put_others (R : RepX86 F g cfg st) {st' : State} {t : Nat} (ht : PosW t)
    (P : Preserved F.sp st st' (some (posTemp t))) (x : Option Word) :
    ∀ t' v', PosW t' → t' ≠ t → ((clobberTemp cfg.temps).put t x).get t' = some v' →
      tempVal F.sp st' (posTemp t') = some v' := by
  intro t' v' ht' hne hg
  have hok := tempOK_posW ht
  have hlt : ∀ p, some (posTemp t) = some (Temporary.spill p) → p < 256 := by
    intro p e; injection e with e; rw [e] at hok; exact hok.2
  rw [get_put_other _ _ hne, get_clobberTemp _ (posW_ne_temp ht')] at hg
  rw [P.temp (tempOK_posW ht').opnd (tempOK_posW ht').ne_temp
    (fun e' => hne (posTemp_inj.1 (by injection e'))) hlt]
  exact R.temps t' v' ht' hg

theorem rep_mov {g : Mode} (R : RepX86 F g cfg st) {t s : Nat} (ht : PosW t) (hs : PosW s)
    (hns : g = .pm false → ¬ (isSpill (posTemp t) = true ∧ isSpill (posTemp s) = true)) (pc' : Nat) :
    ∃ st', execStraight F.c la (mov (posTemp t) (posTemp s)) st = .ok st' ∧
      RepX86 F g { cfg with pc := pc', temps := (clobberTemp cfg.temps).put t (cfg.temps.get s) } st' := by
  have hok := tempOK_posW ht
  have hlt : ∀ p, some (posTemp t) = some (Temporary.spill p) → p < 256 := by
    intro p e; injection e with e; rw [e] at hok; exact hok.2
  have key : ∃ st', execStraight F.c la (mov (posTemp t) (posTemp s)) st = .ok st' ∧
      Boundary F.c st' F.sp ∧ tempVal F.sp st' (posTemp t) = tempVal F.sp st (posTemp s) ∧
      Preserved F.sp st st' (some (posTemp t)) ∧
      (g = .pm false → tempVal F.sp st' (.reg TEMP) = tempVal F.sp st (.reg TEMP)) := by
    by_cases hg : g = .pm false
    · obtain ⟨st', e, B', hv, P, hT⟩ := mov_keeps_temp (la := la) R.bnd hok (tempOK_posW hs) (hns hg)
      exact ⟨st', e, B', hv, P, fun _ => hT⟩
    · obtain ⟨st', e, B', hv, P⟩ := mov_correct (la := la) R.bnd hok (tempOK_posW hs)
      exact ⟨st', e, B', hv, P, fun h => absurd h hg⟩
  obtain ⟨st', e, B', hv, P, hT⟩ := key
  refine ⟨st', e, B', ?_, ?_, ?_, ?_, ?_⟩
  · intro t' v' ht' hg
    by_cases e' : t' = t
    · subst e'
      simp only at hg
      rw [get_put_same] at hg
      rw [hv]; exact R.temps s v' hs hg
    · exact posW_put_others R ht P _ t' v' ht' e' hg
  · intro v' hg
    simp only at hg
    rw [get_put_other _ _ (posW_ne_ret1 ht).symm, get_clobberTemp _ (by decide)] at hg
    obtain ⟨h1, h2⟩ := R.ret v' hg
    refine ⟨h1, ?_⟩
    rw [P.temp (w := .reg RETURN1) ⟨by decide, by decide⟩ (by decide)
      (fun e' => posTemp_ne_ret1 ht (by injection e' with e'; exact e'.symm)) hlt]
    exact h2
  · intro b hb w hw
    cases b with
    | true =>
      rw [P.temp (w := scratchLoc true) (opndOK_scratchLoc true) (by simp [scratchLoc])
        (fun e' => posTemp_ne_spill0 ht.2 (by injection e' with e'; exact e'.symm)) hlt]
      exact R.scratch true hb w hw
    | false =>
      show tempVal F.sp st' (.reg TEMP) = some w
      rw [hT hb]
      exact R.scratch false hb w hw
  · rw [P.same.out]; exact R.out
  · intro n hn
    rw [P.frame H n hn]; exact R.frame n hn

omit H in
theorem storeTemporary_eq (t : Temporary) (b : Bool) : storeTemporary t b = mov (scratchLoc b) t := by
  cases t <;> cases b <;> rfl

omit H in
theorem restoreTemporary_true_eq (t : Temporary) : restoreTemporary t true = mov t (scratchLoc true) := by
  cases t <;> rfl

omit H in
theorem restoreTemporary_false_eq (t : Temporary) :
    restoreTemporary t false = moveFromRegister t TEMP := by
  cases t <;> rfl

/-- `save t`: the scratch cell := t (TEMP or the reserved slot SPILL_TEMP) -/
theorem rep_save {g : Mode} (R : RepX86 F g cfg st) {t : Nat} (ht : PosW t) (b : Bool)
    (hg : g = .normal ∨ g = .pm b) (pc' : Nat) :
    ∃ st', execStraight F.c la (storeTemporary (posTemp t) b) st = .ok st' ∧
      RepX86 F (.pm b)
        { cfg with pc := pc', temps := clobberTemp cfg.temps, scratch := cfg.temps.get t } st' := by
  have hok := tempOK_posW ht
  have hso := opndOK_scratchLoc b
  obtain ⟨st', e, B', hv, P⟩ := transfer_upd R.bnd la hso
    (t_mov (la := la) (τ := tview F.sp st) hso hok.opnd hok.ne_temp)
  have hlt : ∀ p, some (scratchLoc b) = some (Temporary.spill p) → p < 256 := by
    intro p e'; injection e' with e'
    cases b <;> simp [scratchLoc] at e'
    subst e'; decide
  have hne : ∀ {u : Nat}, u < 267 → some (posTemp u) ≠ some (scratchLoc b) := by
    intro u hu e'
    injection e' with e'
    cases b
    · exact (tempOK_posTemp hu).ne_temp e'
    · exact posTemp_ne_spill0 hu e'
  refine ⟨st', by rw [storeTemporary_eq]; exact e, B', ?_, ?_, ?_, ?_, ?_⟩
  · intro t' v' ht' hg'
    simp only at hg'
    rw [get_clobberTemp _ (posW_ne_temp ht')] at hg'
    rw [P.temp (tempOK_posW ht').opnd (tempOK_posW ht').ne_temp (hne ht'.2) hlt]
    exact R.temps t' v' ht' hg'
  · intro v' hg'
    simp only at hg'
    rw [get_clobberTemp _ (by decide)] at hg'
    have := (R.ret v' hg').1
    rcases hg with h | h <;> rw [h] at this <;> cases this
  · intro b' hb' w hw
    injection hb' with hb'
    subst hb'
    simp only at hw
    show tempVal F.sp st' (scratchLoc b) = some w
    rw [hv]
    exact R.temps t w ht hw
  · rw [P.same.out]; exact R.out
  · intro n hn
    rw [P.frame H n hn]; exact R.frame n hn

theorem rep_restore (b : Bool) (R : RepX86 F (.pm b) cfg st) {t : Nat} (ht : PosW t) (pc' : Nat) :
    ∃ st', execStraight F.c la (restoreTemporary (posTemp t) b) st = .ok st' ∧
      RepX86 F .normal { cfg with pc := pc', temps := (clobberTemp cfg.temps).put t cfg.scratch } st' := by
  have hok := tempOK_posW ht
  have hlt : ∀ p, some (posTemp t) = some (Temporary.spill p) → p < 256 := by
    intro p e; injection e with e; rw [e] at hok; exact hok.2
  have key : ∃ st', execStraight F.c la (restoreTemporary (posTemp t) b) st = .ok st' ∧
      Boundary F.c st' F.sp ∧ tempVal F.sp st' (posTemp t) = tempVal F.sp st (scratchLoc b) ∧
      Preserved F.sp st st' (some (posTemp t)) := by
    cases b with
    | true =>
      rw [restoreTemporary_true_eq]
      exact transfer_upd R.bnd la hok.opnd
        (t_mov (la := la) (τ := tview F.sp st) hok.opnd (opndOK_scratchLoc true) (by simp [scratchLoc]))
    | false =>
      rw [restoreTemporary_false_eq]
      refine transfer_upd R.bnd la hok.opnd ⟨_, t_moveFromRegister opndOK_temp hok.opnd, ?_, ?_⟩
      · simp [scratchLoc, tview]
      · intro u hu _; simp [hu]
  obtain ⟨st', e, B', hv, P⟩ := key
  refine ⟨st', e, B', ?_, ?_, ?_, ?_, ?_⟩
  · intro t' v' ht' hg
    by_cases e' : t' = t
    · subst e'
      simp only at hg
      rw [get_put_same] at hg
      rw [hv]; exact R.scratch b rfl v' hg
    · exact posW_put_others R ht P _ t' v' ht' e' hg
  · intro v' hg
    simp only at hg
    rw [get_put_other _ _ (posW_ne_ret1 ht).symm, get_clobberTemp _ (by decide)] at hg
    exact absurd (R.ret v' hg).1 (by simp)
  · intro b' hb'; cases hb'
  · rw [P.same.out]; exact R.out
  · intro n hn
    rw [P.frame H n hn]; exact R.frame n hn

/-- `print`: the caller-save dance around the external call keeps every live word part -/
theorem rep_print (R : RepX86 F .normal cfg st) {nl : Bool} {s : Nat} (hs : PosW s) (ctx : Ctx)
    (hlive : s < 2 * ctx.length) {v : Word} (hv : cfg.temps.get s = some v) (pc' : Nat) :
    ∃ st', execSeq F.c la (printI64 nl (posTemp s) ctx) st = .ok st' ∧
      RepX86 F .normal { cfg with pc := pc', temps := keepPositions cfg.temps ctx.length,
                                  out := (nl, v) :: cfg.out } st' := by
  have h1 := H.low; have h2 := H.high; have h3 := H.m16
  have e2 : F.spN = F.m - 2096 := rfl
  have hspe : F.sp = BitVec.ofNat 64 F.spN := rfl
  obtain ⟨st', e, ho, K⟩ := print_preserves_machine (la := la) H.cfg nl ctx (posTemp s) (tempOK_posW hs)
    (by
      intro r hr
      unfold posTemp at hr
      split at hr
      · injection hr with hr; omega
      · cases hr)
    R.bnd.size (m := F.spN) (by rw [← hspe]; exact R.bnd.rsp) (by rw [e2]; omega) (by rw [e2]; omega)
    (by rw [e2]; omega) (x := v) (by rw [← hspe]; exact R.temps s v hs hv)
  refine ⟨st', e, ⟨K.size, by rw [K.rsp]; exact R.bnd.rsp, R.bnd.sp⟩, ?_, ?_, ?_, ?_, ?_⟩
  · intro t' v' ht' hg
    simp only at hg
    rw [get_keepPositions] at hg
    split at hg
    · rename_i hlt
      have hold := R.temps t' v' ht' hg
      obtain ⟨i, hi⟩ : ∃ i, t' = 2 * i + 1 := ⟨t' / 2, by have := ht'.1; omega⟩
      subst hi
      have hi : i < ctx.length := by omega
      unfold posTemp at hold ⊢
      by_cases hr : 2 * i + 1 + 4 < 16
      · rw [if_pos hr] at hold ⊢
        simp only [tempVal] at hold ⊢
        have := K.snd i ctx[i] (by simp [hi]) (by omega)
        rw [show 2 * i + 1 + 4 = 2 * i + 5 by omega]
        rw [show 2 * i + 1 + 4 = 2 * i + 5 by omega] at hold
        rw [this]; exact hold
      · rw [if_neg hr] at hold ⊢
        simp only [tempVal] at hold ⊢
        rw [K.mem _ (by simp only [slotAddr, H.sp_toNat]; omega)]
        exact hold
    · cases hg
  · intro v' hg
    simp only at hg
    rw [get_keepPositions] at hg
    split at hg
    · exact absurd (R.ret v' hg).1 (by simp)
    · cases hg
  · intro b hb; cases hb
  · rw [ho, R.out]
  · intro n hn
    rw [K.mem n (by rw [e2]; omega)]; exact R.frame n hn

end Ops

end Scc.X86.Ref
