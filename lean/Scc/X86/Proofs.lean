/-
  Scc.X86.Proofs — proof infrastructure for the x86-64 backend theorems.

  * `execStraight`: running a list of instructions as straight-line code on the SPEC machine
    (`Scc.X86.execCode` of Machine.lean); the bridge to the machine's own `step` function is
    `steps_straight` in ProofsStep.lean (a program that contains the list at `pc` performs exactly these
    transitions).
  * `AState` / `aexec`: a FUNCTIONAL VIEW of the machine state restricted to registers, flags and
    stack memory (total functions instead of `Array` / `HashMap`, `Option` instead of `Except`), with
    the simulation theorem `sim_exec`: whenever the view can execute an instruction, the machine
    executes it with the same effect and touches nothing else (heap, trace, counters).
    The calling-convention and print lemmas are proved on this view; the arithmetic, compare and move
    lemmas on the temporary-level view above it (ProofsFrame.lean, transferred in ProofsTransfer.lean);
    the memory contracts of ProofsMem.lean directly on the machine state.
-/
import Scc.X86.Machine
import Scc.X86.Backend

namespace Scc.X86

/-- Run instructions one after the other; every one must fall through. -/
def execStraight (c : MachCfg) (la : String → Option Nat) : List Code → State → M State
  | [], s => .ok s
  | code :: rest, s =>
    match execCode c la code s with
    | .ok (s1, .next) => execStraight c la rest s1
    | .ok (_, _) => .error "control-transfer"
    | .error e => .error e

theorem execStraight_append (c : MachCfg) (la : String → Option Nat) (l1 l2 : List Code) (s : State) :
    execStraight c la (l1 ++ l2) s =
      match execStraight c la l1 s with
      | .ok s1 => execStraight c la l2 s1
      | .error e => .error e := by
  induction l1 generalizing s with
  | nil => simp [execStraight]
  | cons code rest ih =>
    simp only [List.cons_append, execStraight]
    cases h : execCode c la code s with
    | error e => simp
    | ok r =>
      obtain ⟨s1, ctl⟩ := r
      cases ctl <;> simp [ih]

/-- Registers, stack memory (by byte address) and flags as total functions. -/
structure AState where
  reg : Nat → Option Word
  mem : Nat → Option Word
  flags : Option (Word × Word)

def AState.setReg (a : AState) (r : Nat) (v : Option Word) : AState :=
  { a with reg := fun x => if x = r then v else a.reg x }

def AState.setMem (a : AState) (n : Nat) (v : Option Word) : AState :=
  { a with mem := fun x => if x = n then v else a.mem x }

@[simp] theorem AState.setReg_reg (a : AState) (r : Nat) (v : Option Word) (x : Nat) :
    (a.setReg r v).reg x = if x = r then v else a.reg x := rfl
@[simp] theorem AState.setReg_mem (a : AState) (r : Nat) (v : Option Word) :
    (a.setReg r v).mem = a.mem := rfl
@[simp] theorem AState.setReg_flags (a : AState) (r : Nat) (v : Option Word) :
    (a.setReg r v).flags = a.flags := rfl
@[simp] theorem AState.setMem_mem (a : AState) (n : Nat) (v : Option Word) (x : Nat) :
    (a.setMem n v).mem x = if x = n then v else a.mem x := rfl
@[simp] theorem AState.setMem_reg (a : AState) (n : Nat) (v : Option Word) :
    (a.setMem n v).reg = a.reg := rfl
@[simp] theorem AState.setMem_flags (a : AState) (n : Nat) (v : Option Word) :
    (a.setMem n v).flags = a.flags := rfl

def ardRaw (a : AState) (r : Reg) : Option (Option Word) := if r < 16 then some (a.reg r) else none
def ard (a : AState) (r : Reg) : Option Word := if r < 16 then a.reg r else none
def awrRaw (a : AState) (r : Reg) (v : Option Word) : Option AState :=
  if r < 16 then some (a.setReg r v) else none
def awr (a : AState) (r : Reg) (v : Word) : Option AState := awrRaw a r (some v)

/-- A stack address: aligned, inside the stack region, not in the heap region. -/
def aaddr (c : MachCfg) (w : Word) : Option Nat :=
  let n := w.toNat
  if n % 8 = 0 ∧ inHeap c n = false ∧ inStack c n = true then some n else none

def aloadRaw (c : MachCfg) (a : AState) (w : Word) : Option (Option Word) :=
  match aaddr c w with
  | some n => some (a.mem n)
  | none => none

def aload (c : MachCfg) (a : AState) (w : Word) : Option Word :=
  match aloadRaw c a w with
  | some (some v) => some v
  | _ => none

def astoreRaw (c : MachCfg) (a : AState) (w : Word) (v : Option Word) : Option AState :=
  match aaddr c w with
  | some n => some (a.setMem n v)
  | none => none

def aimm32 (i : Int) : Option Word := if fitsI32 i then some (BitVec.ofInt 64 i) else none

def aea (a : AState) (r : Reg) (i : Int) : Option Word :=
  match ard a r, aimm32 i with
  | some b, some d => some (b + d)
  | _, _ => none

def areadLoc (c : MachCfg) (a : AState) : Loc → Option Word
  | .r r => ard a r
  | .m b d => match aea a b d with
    | some w => aload c a w
    | none => none

def awriteLoc (c : MachCfg) (a : AState) (l : Loc) (v : Word) : Option AState :=
  match l with
  | .r r => awr a r v
  | .m b d => match aea a b d with
    | some w => astoreRaw c a w (some v)
    | none => none

def areadSrc (c : MachCfg) (a : AState) : Src → Option Word
  | .loc l => areadLoc c a l
  | .imm i => aimm32 i

def aalu (c : MachCfg) (op : Word → Word → Word) (a : AState) (dst : Loc) (src : Src) : Option AState :=
  match areadLoc c a dst with
  | none => none
  | some x =>
    match areadSrc c a src with
    | none => none
    | some y =>
      match awriteLoc c a dst (op x y) with
      | none => none
      | some a1 => some { a1 with flags := none }

def acmp (c : MachCfg) (a : AState) (l : Loc) (s : Src) : Option AState :=
  match areadLoc c a l with
  | none => none
  | some x =>
    match areadSrc c a s with
    | none => none
    | some y => some { a with flags := some (x, y) }

def signExt (x : Word) : Word := if x.slt 0 then BitVec.ofInt 64 (-1) else 0

def aidiv (c : MachCfg) (a : AState) (src : Loc) : Option AState :=
  match ard a 4, ard a 5, areadLoc c a src with
  | some x, some d, some y =>
    if d ≠ signExt x then none
    else if y = 0 then none
    else if x = minInt64 && y = BitVec.ofInt 64 (-1) then none
    else
      match awr a 4 (x.sdiv y) with
      | none => none
      | some a1 =>
        match awr a1 5 (x.srem y) with
        | none => none
        | some a2 => some { a2 with flags := none }
  | _, _, _ => none

/-- The view's semantics of the fall-through instructions (registers / stack memory only). -/
def aexec (c : MachCfg) (la : String → Option Nat) (code : Code) (a : AState) : Option AState :=
  match code with
  | .ADD r r1 => aalu c (· + ·) a (.r r) (.loc (.r r1))
  | .ADDRM r r1 i => aalu c (· + ·) a (.r r) (.loc (.m r1 i))
  | .ADDMR r1 i r => aalu c (· + ·) a (.m r1 i) (.loc (.r r))
  | .ADDI r i => aalu c (· + ·) a (.r r) (.imm i)
  | .ADDIM r i1 i2 => aalu c (· + ·) a (.m r i1) (.imm i2)
  | .SUB r r1 => aalu c (· - ·) a (.r r) (.loc (.r r1))
  | .SUBRM r r1 i => aalu c (· - ·) a (.r r) (.loc (.m r1 i))
  | .SUBMR r1 i r => aalu c (· - ·) a (.m r1 i) (.loc (.r r))
  | .SUBI r i => aalu c (· - ·) a (.r r) (.imm i)
  | .IMUL r r1 => aalu c (· * ·) a (.r r) (.loc (.r r1))
  | .IMULRM r r1 i => aalu c (· * ·) a (.r r) (.loc (.m r1 i))
  | .IDIV r => aidiv c a (.r r)
  | .IDIVM r i => aidiv c a (.m r i)
  | .CQO =>
    match ard a 4 with
    | some x => awr a 5 (signExt x)
    | none => none
  | .LEAL r l =>
    match la l with
    | some n => awr a r (BitVec.ofNat 64 n)
    | none => none
  | .MOV r r1 =>
    match ardRaw a r1 with
    | some v => awrRaw a r v
    | none => none
  | .MOVS r r1 i =>
    match ardRaw a r, aea a r1 i with
    | some v, some w => astoreRaw c a w v
    | _, _ => none
  | .MOVL r r1 i =>
    match aea a r1 i with
    | some w =>
      match aloadRaw c a w with
      | some v => awrRaw a r v
      | none => none
    | none => none
  | .MOVI r i => if fitsI64 i then awr a r (BitVec.ofInt 64 i) else none
  | .MOVIM r i1 i2 =>
    match aimm32 i2 with
    | some v => awriteLoc c a (.m r i1) v
    | none => none
  | .CMP r r1 => acmp c a (.r r) (.loc (.r r1))
  | .CMPRM r r1 i => acmp c a (.r r) (.loc (.m r1 i))
  | .CMPMR r i r1 => acmp c a (.m r i) (.loc (.r r1))
  | .CMPI r i => acmp c a (.r r) (.imm i)
  | .CMPIM r i1 i2 => acmp c a (.m r i1) (.imm i2)
  | .PUSH r =>
    match ardRaw a r, ard a 0 with
    | some v, some sp =>
      match astoreRaw c a (sp - 8) v with
      | some a1 => awr a1 0 (sp - 8)
      | none => none
    | _, _ => none
  | .POP r =>
    match ard a 0 with
    | some sp =>
      match aloadRaw c a sp with
      | some v =>
        match awr a 0 (sp + 8) with
        | some a1 => awrRaw a1 r v
        | none => none
      | none => none
    | none => none
  | .LAB _ | .NOEXECSTACK | .TEXT | .GLOBAL _ | .EXTERN _ | .COMMENT _ => some a
  | _ => none

def aexecList (c : MachCfg) (la : String → Option Nat) : List Code → AState → Option AState
  | [], a => some a
  | code :: rest, a =>
    match aexec c la code a with
    | some a1 => aexecList c la rest a1
    | none => none

theorem aexecList_append (c : MachCfg) (la : String → Option Nat) (l1 l2 : List Code) (a : AState) :
    aexecList c la (l1 ++ l2) a =
      match aexecList c la l1 a with
      | some a1 => aexecList c la l2 a1
      | none => none := by
  induction l1 generalizing a with
  | nil => simp [aexecList]
  | cons code rest ih =>
    simp only [List.cons_append, aexecList]
    cases aexec c la code a <;> simp [ih]

/-- The machine state `st` is viewed as `a`. -/
structure Rel (st : State) (a : AState) : Prop where
  size : st.regs.size = 16
  regs : ∀ r, r < 16 → st.regs[r]? = some (a.reg r)
  mem : ∀ n, st.stackMem[n]? = a.mem n
  flags : st.flags = a.flags

/-- Everything outside the view is unchanged. -/
structure Same (st st' : State) : Prop where
  heapMem : st'.heapMem = st.heapMem
  out : st'.out = st.out
  pc : st'.pc = st.pc
  maxHeapWritten : st'.maxHeapWritten = st.maxHeapWritten
  steps : st'.steps = st.steps

theorem Same.refl (st : State) : Same st st := ⟨rfl, rfl, rfl, rfl, rfl⟩

theorem Same.trans {s1 s2 s3 : State} (h1 : Same s1 s2) (h2 : Same s2 s3) : Same s1 s3 :=
  ⟨h2.heapMem.trans h1.heapMem, h2.out.trans h1.out, h2.pc.trans h1.pc,
   h2.maxHeapWritten.trans h1.maxHeapWritten, h2.steps.trans h1.steps⟩

section Sim
variable {c : MachCfg} {st : State} {a : AState}

theorem sim_rdRaw (h : Rel st a) {r : Reg} {v : Option Word} (hr : ardRaw a r = some v) :
    rdRaw st r = .ok v := by
  unfold ardRaw at hr
  split at hr
  · rename_i hlt
    cases hr
    simp [rdRaw, h.regs r hlt]
  · cases hr

theorem sim_rd (h : Rel st a) {r : Reg} {v : Word} (hr : ard a r = some v) : rd st r = .ok v := by
  unfold ard at hr
  split at hr
  · rename_i hlt
    simp [rd, h.regs r hlt, hr]
  · cases hr

theorem sim_wrRaw (h : Rel st a) {r : Reg} {v : Option Word} {a' : AState}
    (hw : awrRaw a r v = some a') :
    ∃ st', wrRaw st r v = .ok st' ∧ Rel st' a' ∧ Same st st' := by
  unfold awrRaw at hw
  split at hw
  · rename_i hlt
    cases hw
    refine ⟨{ st with regs := st.regs.set! r v }, ?_, ?_, ?_⟩
    · simp [wrRaw, h.size, hlt]
    · refine ⟨by simp [h.size], ?_, h.mem, h.flags⟩
      intro x hx
      simp only [AState.setReg_reg, Array.set!_eq_setIfInBounds, Array.getElem?_setIfInBounds]
      by_cases hxr : r = x
      · subst hxr; simp [h.size, hlt]
      · have : ¬ x = r := fun e => hxr e.symm
        simp [hxr, this, h.regs x hx]
    · exact ⟨rfl, rfl, rfl, rfl, rfl⟩
  · cases hw

theorem sim_wr (h : Rel st a) {r : Reg} {v : Word} {a' : AState} (hw : awr a r v = some a') :
    ∃ st', wr st r v = .ok st' ∧ Rel st' a' ∧ Same st st' := sim_wrRaw h hw

theorem aaddr_spec {w : Word} {n : Nat} (hn : aaddr c w = some n) :
    n = w.toNat ∧ w.toNat % 8 = 0 ∧ inHeap c w.toNat = false ∧ inStack c w.toNat = true := by
  unfold aaddr at hn
  simp only at hn
  split at hn
  · rename_i hc
    cases hn
    exact ⟨rfl, hc.1, hc.2.1, hc.2.2⟩
  · cases hn

theorem sim_loadRaw (h : Rel st a) {w : Word} {v : Option Word} (hl : aloadRaw c a w = some v) :
    loadWordRaw c st w = .ok v := by
  unfold aloadRaw at hl
  split at hl
  · rename_i n hn
    obtain ⟨rfl, h8, hh, hs⟩ := aaddr_spec hn
    cases hl
    simp [loadWordRaw, h8, hh, hs, h.mem]
  · cases hl

theorem sim_load (h : Rel st a) {w : Word} {v : Word} (hl : aload c a w = some v) :
    loadWord c st w = .ok v := by
  unfold aload at hl
  split at hl
  · rename_i v' hv
    cases hl
    simp [loadWord, sim_loadRaw h hv]
  · cases hl

theorem sim_storeRaw (h : Rel st a) {w : Word} {v : Option Word} {a' : AState}
    (hs : astoreRaw c a w v = some a') :
    ∃ st', storeWordRaw c st w v = .ok st' ∧ Rel st' a' ∧ Same st st' := by
  unfold astoreRaw at hs
  split at hs
  · rename_i n hn
    obtain ⟨rfl, h8, hh, hst⟩ := aaddr_spec hn
    cases hs
    refine ⟨{ st with stackMem := match v with
                | some x => st.stackMem.insert w.toNat x
                | none => st.stackMem.erase w.toNat }, ?_, ?_, ?_⟩
    · cases v <;> simp [storeWordRaw, h8, hh, hst]
    · refine ⟨h.size, h.regs, ?_, h.flags⟩
      intro x
      simp only [AState.setMem_mem]
      cases v with
      | none =>
        simp only [Std.HashMap.getElem?_erase]
        by_cases hx : w.toNat = x
        · subst hx; simp
        · have : ¬ x = w.toNat := fun e => hx e.symm
          simp [hx, this, h.mem]
      | some y =>
        simp only [Std.HashMap.getElem?_insert]
        by_cases hx : w.toNat = x
        · subst hx; simp
        · have : ¬ x = w.toNat := fun e => hx e.symm
          simp [hx, this, h.mem]
    · exact ⟨rfl, rfl, rfl, rfl, rfl⟩
  · cases hs

theorem sim_imm32 {i : Int} {v : Word} (hi : aimm32 i = some v) : imm32 i = .ok v := by
  unfold aimm32 at hi
  split at hi
  · rename_i hf; cases hi; simp [imm32, hf]
  · cases hi

theorem sim_ea (h : Rel st a) {r : Reg} {i : Int} {w : Word} (he : aea a r i = some w) :
    ea st r i = .ok w := by
  unfold aea at he
  split at he
  · rename_i b d hb hd
    cases he
    simp [ea, sim_rd h hb, sim_imm32 hd]
  · cases he

theorem sim_readLoc (h : Rel st a) {l : Loc} {v : Word} (hl : areadLoc c a l = some v) :
    readLoc c st l = .ok v := by
  cases l with
  | r r => exact sim_rd h hl
  | m b d =>
    simp only [areadLoc] at hl
    split at hl
    · rename_i w hw
      simp [readLoc, sim_ea h hw, sim_load h hl]
    · cases hl

theorem sim_writeLoc (h : Rel st a) {l : Loc} {v : Word} {a' : AState}
    (hw : awriteLoc c a l v = some a') :
    ∃ st', writeLoc c st l v = .ok st' ∧ Rel st' a' ∧ Same st st' := by
  cases l with
  | r r => exact sim_wr h hw
  | m b d =>
    simp only [awriteLoc] at hw
    split at hw
    · rename_i w hea
      obtain ⟨st', h1, h2, h3⟩ := sim_storeRaw h hw
      exact ⟨st', by simp [writeLoc, sim_ea h hea, storeWord, h1], h2, h3⟩
    · cases hw

theorem sim_readSrc (h : Rel st a) {s : Src} {v : Word} (hs : areadSrc c a s = some v) :
    readSrc c st s = .ok v := by
  cases s with
  | loc l => exact sim_readLoc h hs
  | imm i => exact sim_imm32 hs

theorem Rel.setFlags {st : State} {a : AState} (h : Rel st a) (f : Option (Word × Word)) :
    Rel { st with flags := f } { a with flags := f } :=
  ⟨h.size, h.regs, h.mem, rfl⟩

theorem sim_alu (h : Rel st a) {op : Word → Word → Word} {dst : Loc} {src : Src} {a' : AState}
    (hx : aalu c op a dst src = some a') :
    ∃ st', alu c op st dst src = .ok st' ∧ Rel st' a' ∧ Same st st' := by
  unfold aalu at hx
  split at hx
  · cases hx
  · rename_i x hrd
    split at hx
    · cases hx
    · rename_i y hrs
      split at hx
      · cases hx
      · rename_i a1 hw
        cases hx
        obtain ⟨st1, h1, h2, h3⟩ := sim_writeLoc h hw
        refine ⟨{ st1 with flags := none }, ?_, h2.setFlags none, ⟨h3.heapMem, h3.out, h3.pc, h3.maxHeapWritten, h3.steps⟩⟩
        simp [alu, sim_readLoc h hrd, sim_readSrc h hrs, h1]

theorem sim_cmp (h : Rel st a) {l : Loc} {s : Src} {a' : AState}
    (hx : acmp c a l s = some a') :
    ∃ st', cmpOp c st l s = .ok st' ∧ Rel st' a' ∧ Same st st' := by
  unfold acmp at hx
  split at hx
  · cases hx
  · rename_i x hrd
    split at hx
    · cases hx
    · rename_i y hrs
      cases hx
      exact ⟨{ st with flags := some (x, y) }, by simp [cmpOp, sim_readLoc h hrd, sim_readSrc h hrs],
        h.setFlags _, ⟨rfl, rfl, rfl, rfl, rfl⟩⟩

theorem sim_idiv (h : Rel st a) {src : Loc} {a' : AState} (hx : aidiv c a src = some a') :
    ∃ st', idivOp c st src = .ok st' ∧ Rel st' a' ∧ Same st st' := by
  unfold aidiv at hx
  split at hx
  · rename_i x d y hx4 hx5 hsrc
    split at hx
    · cases hx
    · rename_i hd
      split at hx
      · cases hx
      · rename_i hy0
        split at hx
        · cases hx
        · rename_i hov
          split at hx
          · cases hx
          · rename_i a1 hw1
            split at hx
            · cases hx
            · rename_i a2 hw2
              cases hx
              obtain ⟨st1, e1, r1, s1⟩ := sim_wr h hw1
              obtain ⟨st2, e2, r2, s2⟩ := sim_wr r1 hw2
              refine ⟨{ st2 with flags := none }, ?_, r2.setFlags none, ?_⟩
              · simp only [signExt] at hd
                simp only [idivOp, sim_rd h hx4, sim_rd h hx5, sim_readLoc h hsrc]
                rw [if_neg hd, if_neg hy0, if_neg hov]
                simp only [e1, e2]
              · have := s1.trans s2
                exact ⟨this.heapMem, this.out, this.pc, this.maxHeapWritten, this.steps⟩
  · cases hx

theorem seqNext_ok {r : M State} {st' : State} (h : r = .ok st') : seqNext r = .ok (st', .next) := by
  simp [seqNext, h]

/-- SIMULATION: if the view executes `code`, so does the machine, falling through, with the same
    effect on the view and no effect on anything else. -/
theorem sim_exec (la : String → Option Nat) (h : Rel st a) {code : Code} {a' : AState}
    (hx : aexec c la code a = some a') :
    ∃ st', execCode c la code st = .ok (st', .next) ∧ Rel st' a' ∧ Same st st' := by
  cases code <;> simp only [aexec] at hx
  case ADD r r1 => obtain ⟨s, e, r, m⟩ := sim_alu h hx; exact ⟨s, by simp [execCode, seqNext, e], r, m⟩
  case ADDRM r r1 i => obtain ⟨s, e, r, m⟩ := sim_alu h hx; exact ⟨s, by simp [execCode, seqNext, e], r, m⟩
  case ADDMR r1 i r => obtain ⟨s, e, r, m⟩ := sim_alu h hx; exact ⟨s, by simp [execCode, seqNext, e], r, m⟩
  case ADDI r i => obtain ⟨s, e, r, m⟩ := sim_alu h hx; exact ⟨s, by simp [execCode, seqNext, e], r, m⟩
  case ADDIM r i1 i2 => obtain ⟨s, e, r, m⟩ := sim_alu h hx; exact ⟨s, by simp [execCode, seqNext, e], r, m⟩
  case SUB r r1 => obtain ⟨s, e, r, m⟩ := sim_alu h hx; exact ⟨s, by simp [execCode, seqNext, e], r, m⟩
  case SUBRM r r1 i => obtain ⟨s, e, r, m⟩ := sim_alu h hx; exact ⟨s, by simp [execCode, seqNext, e], r, m⟩
  case SUBMR r1 i r => obtain ⟨s, e, r, m⟩ := sim_alu h hx; exact ⟨s, by simp [execCode, seqNext, e], r, m⟩
  case SUBI r i => obtain ⟨s, e, r, m⟩ := sim_alu h hx; exact ⟨s, by simp [execCode, seqNext, e], r, m⟩
  case IMUL r r1 => obtain ⟨s, e, r, m⟩ := sim_alu h hx; exact ⟨s, by simp [execCode, seqNext, e], r, m⟩
  case IMULRM r r1 i => obtain ⟨s, e, r, m⟩ := sim_alu h hx; exact ⟨s, by simp [execCode, seqNext, e], r, m⟩
  case IDIV r => obtain ⟨s, e, r, m⟩ := sim_idiv h hx; exact ⟨s, by simp [execCode, seqNext, e], r, m⟩
  case IDIVM r i => obtain ⟨s, e, r, m⟩ := sim_idiv h hx; exact ⟨s, by simp [execCode, seqNext, e], r, m⟩
  case CQO =>
    split at hx
    · rename_i x h4
      obtain ⟨s, e, r, m⟩ := sim_wr h hx
      refine ⟨s, ?_, r, m⟩
      simp only [signExt] at e
      simp only [execCode, sim_rd h h4, seqNext, e]
    · cases hx
  case LEAL r l =>
    split at hx
    · rename_i n hl
      obtain ⟨s, e, r, m⟩ := sim_wr h hx
      exact ⟨s, by simp [execCode, hl, seqNext, e], r, m⟩
    · cases hx
  case MOV r r1 =>
    split at hx
    · rename_i v hv
      obtain ⟨s, e, r, m⟩ := sim_wrRaw h hx
      exact ⟨s, by simp [execCode, sim_rdRaw h hv, seqNext, e], r, m⟩
    · cases hx
  case MOVS r r1 i =>
    split at hx
    · rename_i v w hv hw
      obtain ⟨s, e, r, m⟩ := sim_storeRaw h hx
      exact ⟨s, by simp [execCode, sim_rdRaw h hv, sim_ea h hw, seqNext, e], r, m⟩
    · cases hx
  case MOVL r r1 i =>
    split at hx
    · rename_i w hw
      split at hx
      · rename_i v hv
        obtain ⟨s, e, r, m⟩ := sim_wrRaw h hx
        exact ⟨s, by simp [execCode, sim_ea h hw, sim_loadRaw h hv, seqNext, e], r, m⟩
      · cases hx
    · cases hx
  case MOVI r i =>
    split at hx
    · rename_i hf
      obtain ⟨s, e, r, m⟩ := sim_wr h hx
      exact ⟨s, by simp [execCode, hf, seqNext, e], r, m⟩
    · cases hx
  case MOVIM r i1 i2 =>
    split at hx
    · rename_i v hv
      obtain ⟨s, e, r, m⟩ := sim_writeLoc h hx
      exact ⟨s, by simp [execCode, sim_imm32 hv, seqNext, e], r, m⟩
    · cases hx
  case CMP r r1 => obtain ⟨s, e, r, m⟩ := sim_cmp h hx; exact ⟨s, by simp [execCode, seqNext, e], r, m⟩
  case CMPRM r r1 i => obtain ⟨s, e, r, m⟩ := sim_cmp h hx; exact ⟨s, by simp [execCode, seqNext, e], r, m⟩
  case CMPMR r i r1 => obtain ⟨s, e, r, m⟩ := sim_cmp h hx; exact ⟨s, by simp [execCode, seqNext, e], r, m⟩
  case CMPI r i => obtain ⟨s, e, r, m⟩ := sim_cmp h hx; exact ⟨s, by simp [execCode, seqNext, e], r, m⟩
  case CMPIM r i1 i2 => obtain ⟨s, e, r, m⟩ := sim_cmp h hx; exact ⟨s, by simp [execCode, seqNext, e], r, m⟩
  case PUSH r =>
    split at hx
    · rename_i v sp hv hsp
      split at hx
      · rename_i a1 hst
        obtain ⟨s1, e1, r1, m1⟩ := sim_storeRaw h hst
        obtain ⟨s2, e2, r2, m2⟩ := sim_wr r1 hx
        exact ⟨s2, by simp only [execCode, sim_rdRaw h hv, sim_rd h hsp, e1, seqNext, e2], r2, m1.trans m2⟩
      · cases hx
    · cases hx
  case POP r =>
    split at hx
    · rename_i sp hsp
      split at hx
      · rename_i v hv
        split at hx
        · rename_i a1 hw
          obtain ⟨s1, e1, r1, m1⟩ := sim_wr h hw
          obtain ⟨s2, e2, r2, m2⟩ := sim_wrRaw r1 hx
          exact ⟨s2, by simp only [execCode, sim_rd h hsp, sim_loadRaw h hv, e1, seqNext, e2], r2, m1.trans m2⟩
        · cases hx
      · cases hx
    · cases hx
  case LAB l => cases hx; exact ⟨st, by simp [execCode], h, Same.refl st⟩
  case NOEXECSTACK => cases hx; exact ⟨st, by simp [execCode], h, Same.refl st⟩
  case TEXT => cases hx; exact ⟨st, by simp [execCode], h, Same.refl st⟩
  case GLOBAL l => cases hx; exact ⟨st, by simp [execCode], h, Same.refl st⟩
  case EXTERN l => cases hx; exact ⟨st, by simp [execCode], h, Same.refl st⟩
  case COMMENT l => cases hx; exact ⟨st, by simp [execCode], h, Same.refl st⟩
  all_goals cases hx

theorem sim_execList (la : String → Option Nat) {codes : List Code} (h : Rel st a) {a' : AState}
    (hx : aexecList c la codes a = some a') :
    ∃ st', execStraight c la codes st = .ok st' ∧ Rel st' a' ∧ Same st st' := by
  induction codes generalizing st a with
  | nil => cases hx; exact ⟨st, rfl, h, Same.refl st⟩
  | cons code rest ih =>
    simp only [aexecList] at hx
    split at hx
    · rename_i a1 h1
      obtain ⟨st1, e1, r1, m1⟩ := sim_exec la h h1
      obtain ⟨st2, e2, r2, m2⟩ := ih r1 hx
      exact ⟨st2, by simp [execStraight, e1, e2], r2, m1.trans m2⟩
    · cases hx

end Sim

def State.view (st : State) : AState :=
  { reg := fun r => (st.regs[r]?).join, mem := fun n => st.stackMem[n]?, flags := st.flags }

theorem State.rel_view (st : State) (h : st.regs.size = 16) : Rel st st.view := by
  refine ⟨h, ?_, fun _ => rfl, rfl⟩
  intro r hr
  have : r < st.regs.size := by omega
  simp [State.view, Array.getElem?_eq_getElem this]

end Scc.X86
