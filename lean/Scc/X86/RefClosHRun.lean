/-
  Scc.X86.RefClosHRun — THE STEP OF THE RUN THEOREM on x86-64 for ALL programs (data types and closures): the
  three-way step for all eleven statement forms (from Theorem A's `TheoremA_full` with the machine carried along; the
  closure invariant `XC` of RefClosDefs.lean is part of the relation), and the relation at the initial state
  (`x3_init`; the definitions in the routine: `Ref.xdefsAt_of_compile`, RefHeapRun.lean).  The run and the composition: Scc/X86/ConcKRun.lean.
  The step is the generic `ThreeWay.step3K` (Scc/Backend/ThreeWayRun.lean: the nine statement forms other than
  `create` / `invoke` with `XC.step`, then `create` and `invoke`) at the x86-64 machine `machineI`.
  The step is proved once, in the form with all the bookkeeping (`step3M`, claim `StepSim3M`):
  * `FrPk`: the allocation frontier moves only when both free lists are exhausted afterwards;
  * the room a step needs and the distance the frontier may move are those of the CURRENT statement
    (`allocArity`: the number of fields of a `let`, the number of variables of the environment of a `create`,
    0 for every other statement);
  * a `call` and an `invoke` execute an item of non-zero size (`IsJump`, the real transition);
  * `Mid mon px cs n X`: none of the machine states strictly between the statement boundary `X` and the state
    reached after the `n` simulated transitions is at a `#ctx` comment — so the heap monitor is not consulted
    there (for `C09_x86_monitor_never_fires`, Props/C09X86Mon.lean: the monitor on the states between two boundaries).  The statement comments of `op` and
    `call` start with a NAME; for them this needs that the name does not start with `#` (`HeadHF`);
  * `XR = X' ∨ ¬ CtxAt cs XR.pc`: the machine state at the next boundary is the boundary state itself (at the
    hook of the next statement) or — after the `jmp reg` of an `invoke` — a state that is not at a `#ctx` comment;
  and for the last step (`exit`): the states up to the final `ret`.
  `step3` (claim `StepSim3`: room for 134 blocks, the frontier moves by at most 133, none of the bookkeeping) is its
  corollary.
  In the namespace `Scc.X86.Ref.K`: the three-way relation carries the per-instance code-pointer map `κ`.
-/
import Scc.AxCut.PosHered
import Scc.X86.ConcKNoCtx
import Scc.X86.ConcPeak
import Scc.X86.RefClosHInit
import Scc.Backend.ThreeWayInvoke
import Scc.X86.RefClosXC
import Scc.X86.RefClosHLet
import Scc.X86.ThreeWayNav
import Scc.X86.RefClosTol
import Scc.X86.RefCompose
import Scc.Props.C06Generic
import Scc.X86.RefHeapRun
import Scc.AxCut.PosStep

set_option linter.unusedSimpArgs false

namespace Scc.X86.Ref.K

open Scc.AxCut Scc.AxCut.Pos Scc.Backend Scc.Backend.Abs Scc.Backend.Sim
open Scc.Backend.Sim2 Scc.Backend.Keys
open Scc.Props.C14Generic (LabelSafe)
open Scc.Props.C06Generic (outAfter WithinCapacity EnoughHeap CodeFits)
open Scc.Heap (HState InvS InvW)
open Scc.Heap.Refine (HRef FrLe Room FrPk)

mutual
  /-- statements of programs with data types but without closures: no `create`, no `invoke` (the predicate of
  Scc/X86/RefHeapRun.lean under the name `Scc.X86.Ref.K.DataStmt`, to which the property statements refer) -/
  def DataStmt : Stmt → Prop
    | .lit _ _ next _ => DataStmt next
    | .op _ _ _ _ next _ => DataStmt next
    | .print _ _ next _ => DataStmt next
    | .ifc _ _ _ t e => DataStmt t ∧ DataStmt e
    | .exit _ => True
    | .call _ _ => True
    | .subst _ next => DataStmt next
    | .letS _ _ _ _ next _ => DataStmt next
    | .switch _ _ clauses _ => DataClauses clauses
    | .create _ _ _ _ _ _ _ => False
    | .invoke _ _ _ _ => False
  def DataClauses : Clauses → Prop
    | .nil => True
    | .cons _ _ body rest => DataStmt body ∧ DataClauses rest
end

/-- what the run needs of the current statement: literals within i64 (the same is kept for the methods of
every closure VALUE by the closure invariant `XC`) -/
def StmtOK (s : Stmt) : Prop := StmtB (fun n => fitsI64 n = true) maxSubstX86 s

/-- the same for the program: tables of at most `maxTagsX86` xtors, every definition `StmtOK`
(`ProgInRange`) -/
def ProgOK (p : AxCut.Prog) : Prop :=
  (∀ d ∈ p.types, d.xtors.length ≤ maxTagsX86) ∧ ∀ d ∈ p.defs, StmtOK d.body

theorem dataClauses_nth : ∀ {cs : Clauses} {i : Nat} {c : Clause}, DataClauses cs → nthClause cs i = some c →
    DataStmt c.body
  | .nil, _, _, _, h => by simp [nthClause] at h
  | .cons x ctx body rest, 0, c, hd, h => by
    simp only [nthClause, Option.some.injEq] at h
    subst h
    exact hd.1
  | .cons x ctx body rest, i + 1, c, hd, h => by
    simp only [nthClause] at h
    exact dataClauses_nth hd.2 h

/-- THE THREE-WAY RELATION at a statement boundary (with the closure invariant `XC`) -/
def Rel3 (F : Frame) (cs : List Code) (P : Program) (hooks : Bool) (prog : AxCut.Prog) (st : Pos.State)
    (cfg : Config) (hs : HState) (X : State) : Prop :=
  ∃ (Γ' : Ctx) (ι : Nat → Nat) (κ : Nat → Nat → Word), Γ'.keys = st.ctx.keys ∧ RelX P hooks prog ⟨Γ', st.env, st.stmt⟩ cfg ∧
    X3 F Γ' cfg hs ι κ X ∧ XC P F.c cs hooks prog.types F Γ' st.env cfg κ X ∧
    ∃ k k' items, (codeStatementR x86Backend hooks natRen prog.types st.stmt Γ').run k = .ok (items, k') ∧
      XAt cs X.pc items

/-- the three-way simulation claim for one step of the positional machine.  The relation holds again at
the statement-boundary state `X'`; the machine itself is at `XR`, which is `X'` or `X'` moved forward over
labels and comments (`Tol`: after the `jmp reg` of an `invoke` of a single-method closure) -/
def StepSim3 (F : Frame) (mon : MonCfg) (px : X86.Prog) (cs : List Code) (P : Program) (hooks : Bool)
    (prog : AxCut.Prog) (st : Pos.State) (cfg : Config) (hs : HState) (X : State) : Prop :=
  match Pos.step prog st with
  | .next st' o =>
    WithinCapacity st'.ctx → 2 * st'.ctx.length ≤ 266 →
    ∃ cfg' hs' X' XR n, stepN mon px n X = .inl XR ∧ Tol cs X' XR ∧ cfg'.out = outAfter o cfg.out ∧
      cfg'.next ≤ cfg.next + 1 ∧
      FrLe hs hs' (64 * 133) ∧ Rel3 F cs P hooks prog st' cfg' hs' X' ∧ StmtOK st'.stmt
  | .done v => ∃ n XL, stepN mon px n X = .inl XL ∧ step mon px XL = .inr (.done v) ∧ XL.out = cfg.out
  | .stuck _ => True

/-- the same with the bookkeeping of the runs.  For C10 and the progress argument: the frontier moves only when both
free lists are exhausted (`FrPk`), by at most the allocation of the current statement, and a `call` or an `invoke`
executes an item of non-zero size.  For the heap monitor: none of the machine states strictly between `X` and the
state after the `n` transitions is at a `#ctx` comment (`Mid`; for `op` and `call`, whose statement comment starts
with a name, provided that name does not start with `#`: `HeadHF`), and the machine state at the next boundary is
the boundary state itself or — after the `jmp reg` of an `invoke` — not at a `#ctx` comment; for the last step
(`exit`): the states up to the final `ret` -/
def StepSim3M (F : Frame) (mon : MonCfg) (px : X86.Prog) (cs : List Code) (P : Program) (hooks : Bool)
    (prog : AxCut.Prog) (st : Pos.State) (cfg : Config) (hs : HState) (X : State) : Prop :=
  match Pos.step prog st with
  | .next st' o =>
    WithinCapacity st'.ctx → 2 * st'.ctx.length ≤ 266 →
    ∃ cfg' hs' X' XR n, stepN mon px n X = .inl XR ∧ Tol cs X' XR ∧
      (IsJump st.stmt → ∃ n1 Xm, n1 < n ∧ stepN mon px n1 X = .inl Xm ∧ ¬ NoopAt cs Xm.pc) ∧
      cfg'.out = outAfter o cfg.out ∧ cfg'.next ≤ cfg.next + 1 ∧
      FrLe hs hs' (64 * allocArity st.stmt) ∧ FrPk hs hs' ∧ Rel3 F cs P hooks prog st' cfg' hs' X' ∧
      StmtOK st'.stmt ∧ (HeadHF st.stmt → Mid mon px cs n X) ∧ (XR = X' ∨ ¬ CtxAt cs XR.pc)
  | .done v => ∃ n XL, stepN mon px n X = .inl XL ∧ step mon px XL = .inr (.done v) ∧ XL.out = cfg.out ∧
      Mid mon px cs n X ∧ ¬ CtxAt cs XL.pc
  | .stuck _ => True

/-- the uniform bound of 133 blocks on the frontier instead of that of the current statement, without the rest of
the bookkeeping -/
theorem StepSim3M.toBase {F : Frame} {mon : MonCfg} {px : X86.Prog} {cs : List Code} {P : Program} {hooks : Bool}
    {prog : AxCut.Prog} {st : Pos.State} {cfg : Config} {hs : HState} {X : State}
    (h : StepSim3M F mon px cs P hooks prog st cfg hs X) (hA : allocArity st.stmt ≤ 133) :
    StepSim3 F mon px cs P hooks prog st cfg hs X := by
  unfold StepSim3M at h
  unfold StepSim3
  cases hst : Pos.step prog st with
  | next st' o =>
    simp only [hst] at h ⊢
    intro hc hc2
    obtain ⟨cfg', hs', X', XR, n, h1, h2, _, h4, h5, h6, _, h8, h9, _⟩ := h hc hc2
    exact ⟨cfg', hs', X', XR, n, h1, h2, h4, h5, FrLe.mono h6 (by omega), h8, h9⟩
  | done v =>
    simp only [hst] at h ⊢
    obtain ⟨n, XL, h1, h2, h3, _⟩ := h
    exact ⟨n, XL, h1, h2, h3⟩
  | stuck e => simp only [hst]

/-- behind every item of the routine there is one of non-zero size (the `ret` of the cleanup) -/
theorem real_after (pre : List Code) : ∀ idx, idx < (pre ++ cleanup).length →
    ∃ i, idx ≤ i ∧ ∃ h : i < (pre ++ cleanup).length, codeSize (pre ++ cleanup)[i] ≠ 0 := by
  intro idx hidx
  have hl : cleanup.length = cleanup.length - 1 + 1 := rfl
  have hget : (pre ++ cleanup)[pre.length + (cleanup.length - 1)]? = some Code.RET := by
    rw [List.getElem?_append_right (by omega), Nat.add_sub_cancel_left]
    rfl
  obtain ⟨h, he⟩ := List.getElem?_eq_some_iff.mp hget
  refine ⟨pre.length + (cleanup.length - 1), ?_, h, ?_⟩
  · simp only [List.length_append] at hidx
    omega
  · rw [he]
    simp [codeSize]

section Run3

variable {F : Frame} (HF : FrameOK F) (h8 : F.c.heapBase % 8 = 0) {mon : MonCfg} (hmon : mon.mach = F.c)
  {px : X86.Prog} {cs pre : List Code} (LA : LoadedA F.c px cs) (hndL : (labs cs).Nodup)
  (hfitX : addrAt F.c.codeBase cs cs.length < 2 ^ 64) (hcs : cs = pre ++ cleanup)
  (hclean : "cleanup" ∉ labs pre) {st0 : State} {h : Word} (E : EntryFacts F st0 h)

include HF h8 hmon LA hndL hfitX hcs hclean E in
/-- THE THREE-WAY STEP: Theorem A's `TheoremA_full` with the x86-64 machine carried along, for ALL ELEVEN
statement forms -/
theorem step3M (hooks : Bool) (prog : AxCut.Prog) (c : Nat) (code : List MockOp) (nargs c' : Nat)
    (hcomp : (compile mockSym hooks prog).run c = .ok ((code, nargs), c'))
    (hsafe : LabelSafe prog = true) (hfit : CodeFits code)
    (DX : XDefsAt cs hooks prog) (hprog : ProgOK prog)
    (st : Pos.State) (cfg : Config) (hs : HState) (X : State)
    (R : Rel3 F cs (Program.ofOps code) hooks prog st cfg hs X)
    (T : Pos.StateTyped prog st) (hheap : EnoughHeap cfg) (hok : StmtOK st.stmt)
    (hroom : Room hs (64 * allocArity st.stmt + 64)) :
    StepSim3M F mon px cs (Program.ofOps code) hooks prog st cfg hs X := by
  have L := LA.loaded
  have hreal : ∀ idx, idx < cs.length → ∃ i, idx ≤ i ∧ ∃ h : i < cs.length, codeSize cs[i] ≠ 0 := by
    rw [hcs]; exact real_after pre
  obtain ⟨Γ', ι, κ, hk, RX, X3h, C, kx, kx', items, hrunX, hatX⟩ := R
  unfold StepSim3M
  cases hst : Pos.step prog st with
  | stuck e => trivial
  | done v =>
    simp only
    obtain ⟨a, hsa, hra⟩ := Pos.step_done_iff.1 hst
    rw [hsa] at RX hrunX
    exact exit_x3 HF hmon L hcs hclean E RX (by rw [readInt_keys hk]; exact hra) X3h hrunX hatX
  | next st' o =>
    simp only
    intro hcap hcap2
    have htag := tag_fits hprog.1
    obtain ⟨cfg', hs', X', kp', Γ'', ι', κ', hrun, rfl, hout, hnx, hfr, hpk, hk', R', X3', C', ⟨k1, k1', items', hr', hat'⟩,
      hq'⟩ :=
      ThreeWay.step3K (machineI F HF h8 mon hmon px cs LA hndL hfitX (HeadHF st.stmt) hreal)
        (MethodsX F.c cs hooks prog.types) hooks prog c code nargs c' hcomp hsafe hfit
        (XDefsAt.toM (hmon := hmon) (L := L) (hndL := hndL) DX) (hered_stmtB _ _) hprog.2 (fun h => h.1)
        (fun d hd pos hp => (htag d hd pos hp).1) (fun d hd pos hp => (htag d hd pos hp).2)
        (show 267 ≤ 2 ^ 31 by decide) (fun h => h) (fun h1 h2 => ⟨h1, h2⟩) st cfg hs X X.pc hk RX (X3.toT HF h8 X3h) C.toG
        hrunX hatX rfl T hheap hok (headOK HF h8 hmon L hndL st.stmt) hroom hst hcap (by show _ < 267; omega)
    have X3'' := X3.ofT HF h8 X3'
    rcases hrun with ⟨⟨m, hm, hmid⟩, hj⟩ | ⟨XR, m, hm, T', hreal1, hmid, hland⟩
    · by_cases hjs : IsJump st.stmt
      · obtain ⟨m', hm', hmid', hreal'⟩ := hj hjs
        exact ⟨cfg', hs', X', X', m', hm', Tol.refl _ _, fun _ => hreal', hout, hnx, hfr, hpk,
          ⟨Γ'', ι', κ', hk', R', X3'', XC.ofG C', k1, k1', items', hr', hat'⟩, hq', hmid', Or.inl rfl⟩
      · exact ⟨cfg', hs', X', X', m, hm, Tol.refl _ _, fun h => absurd h hjs, hout, hnx, hfr, hpk,
          ⟨Γ'', ι', κ', hk', R', X3'', XC.ofG C', k1, k1', items', hr', hat'⟩, hq', hmid, Or.inl rfl⟩
    · exact ⟨cfg', hs', X', XR, m, hm, T', fun _ => hreal1, hout, hnx, hfr, hpk,
        ⟨Γ'', ι', κ', hk', R', X3'', XC.ofG C', k1, k1', items', hr', hat'⟩, hq', hmid, hland⟩

include HF h8 hmon LA hndL hfitX hcs hclean E in
/-- the three-way step with the uniform bounds: a context has at most 133 variables, so a `let` or a `create`
stores at most 133 fields -/
theorem step3 (hooks : Bool) (prog : AxCut.Prog) (c : Nat) (code : List MockOp) (nargs c' : Nat)
    (hcomp : (compile mockSym hooks prog).run c = .ok ((code, nargs), c'))
    (hsafe : LabelSafe prog = true) (hfit : CodeFits code)
    (DX : XDefsAt cs hooks prog) (hprog : ProgOK prog)
    (st : Pos.State) (cfg : Config) (hs : HState) (X : State)
    (R : Rel3 F cs (Program.ofOps code) hooks prog st cfg hs X)
    (T : Pos.StateTyped prog st) (hheap : EnoughHeap cfg) (hok : StmtOK st.stmt)
    (hroom : Room hs (64 * 134)) :
    StepSim3 F mon px cs (Program.ofOps code) hooks prog st cfg hs X := by
  have hA : allocArity st.stmt ≤ 133 := by
    obtain ⟨Γ', ι, κ, hk, _, X3h, _⟩ := R
    have h1 := allocArity_le_length T.1
    have h2 := keys_length hk
    have h3 := X3h.cap
    omega
  exact (step3M HF h8 hmon LA hndL hfitX hcs hclean E hooks prog c code nargs c' hcomp hsafe hfit DX hprog st cfg
    hs X R T hheap hok (hroom.mono (by omega))).toBase hA

end Run3

/-- the right half of the relation at the entry: integer parameters, empty heap -/
theorem x3_init {F : Frame} {args : List Word} {st : State} {Γ : Ctx} {a : Nat}
    (R : RepX86 F .normal (initConfig 0 args) st)
    (HR : HeapRel F.c st (Scc.Heap.init F.c.heapBase (F.c.heapBase + F.c.heapBytes)))
    (hext : ∀ b ∈ Γ, b.chi = .ext) (hcap : 2 * Γ.length ≤ 266)
    (hb : 0 < F.c.heapBase) (hl : 128 ≤ F.c.heapBytes) (ι : Nat → Nat) (κ : Nat → Nat → Word) :
    X3 F Γ (initConfig a args) (Scc.Heap.init F.c.heapBase (F.c.heapBase + F.c.heapBytes)) ι κ st := by
  have hroots : roots Γ (initConfig a args).temps = [] := roots_go_all_ext _ Γ 0 hext
  unfold X3
  rw [hroots]
  refine ⟨R.bnd, hcap, ?_, ?_, R.out, R.frame, HR, Scc.Heap.Refine.href_init' ι hb (by omega)⟩
  · intro i hi w hw
    have hc : Γ[i].chi = .ext := hext _ (List.getElem_mem hi)
    rw [hc]
    exact R.temps (2 * i + 1) w ⟨by omega, by omega⟩ hw
  · intro i hi hc
    exact absurd (hext _ (List.getElem_mem hi)) hc

end Scc.X86.Ref.K
