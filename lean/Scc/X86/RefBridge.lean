/-
  Scc.X86.RefBridge — from instruction lists to the transition function of the x86-64 SPEC machine, for
  a program that is LOADED from an item list `cs` up to the text of comments (`Loaded`):
  * `steps_block`      a straight-line block (`execStraight`) at the program counter;
  * `steps_block_seq`  a block with external calls (`execSeq`: the print runtime);
  * `step_jump`, `step_fall`  one instruction that transfers control to a label / falls through.
  Comments carry no semantics (`execCode_strip`), so the simulation never depends on their text: the
  parser of the machine does not reproduce it exactly (it trims blanks).
-/
import Scc.X86.RefDefs
import Scc.X86.ProofsPrint
import Scc.X86.ProofsMem

namespace Scc.X86.Ref

def labIdx (cs : List Code) (l : String) : Option Nat := cs.findIdx? (fun c => decide (c = Code.LAB l))

/-- the program `p` holds the item list `cs` (up to the text of comments); a label resolves to the
    index of its first definition -/
structure Loaded (p : Prog) (cs : List Code) : Prop where
  code : ∀ i : Nat, (p.code[i]?).map stripC = (cs[i]?).map stripC
  labels : ∀ l, p.labelIdx[l]? = labIdx cs l

theorem execCode_strip (c : MachCfg) (la : String → Option Nat) (code : Code) (s : State) :
    execCode c la (stripC code) s = execCode c la code s := by
  cases code <;> rfl

theorem codeSize_strip (code : Code) : codeSize (stripC code) = codeSize code := by
  cases code <;> rfl

theorem execStraight_strip (c : MachCfg) (la : String → Option Nat) :
    ∀ (a b : List Code) (s : State), a.map stripC = b.map stripC →
      execStraight c la a s = execStraight c la b s
  | [], [], _, _ => rfl
  | [], _ :: _, _, h => by simp at h
  | _ :: _, [], _, h => by simp at h
  | x :: a, y :: b, s, h => by
    simp only [List.map_cons, List.cons.injEq] at h
    simp only [execStraight]
    rw [← execCode_strip c la x, h.1, execCode_strip]
    cases execCode c la y s with
    | error e => rfl
    | ok r =>
      obtain ⟨s1, ctl⟩ := r
      cases ctl <;> simp only
      exact execStraight_strip c la a b s1 h.2

theorem execSeq_strip (c : MachCfg) (la : String → Option Nat) :
    ∀ (a b : List Code) (s : State), a.map stripC = b.map stripC →
      execSeq c la a s = execSeq c la b s
  | [], [], _, _ => rfl
  | [], _ :: _, _, h => by simp at h
  | _ :: _, [], _, h => by simp at h
  | x :: a, y :: b, s, h => by
    simp only [List.map_cons, List.cons.injEq] at h
    simp only [execSeq]
    rw [← execCode_strip c la x, h.1, execCode_strip]
    cases execCode c la y s with
    | error e => rfl
    | ok r =>
      obtain ⟨s1, ctl⟩ := r
      cases ctl <;> simp only
      · exact execSeq_strip c la a b s1 h.2
      · cases callExt s1 _ with
        | error e => rfl
        | ok s2 => exact execSeq_strip c la a b s2 h.2

def seg (p : Prog) (pc n : Nat) : List Code := (p.code.toList.drop pc).take n

theorem Loaded.segment {p : Prog} {cs cs1 blk rest : List Code} (L : Loaded p cs)
    (hcs : cs = cs1 ++ blk ++ rest) :
    (∀ i (h : i < (seg p cs1.length blk.length).length),
      p.code[cs1.length + i]? = some (seg p cs1.length blk.length)[i]) ∧
    (seg p cs1.length blk.length).map stripC = blk.map stripC ∧
    (seg p cs1.length blk.length).length = blk.length := by
  have hlen : ∀ i, i < blk.length → cs1.length + i < p.code.size := by
    intro i hi
    have h1 := L.code (cs1.length + i)
    have h2 : cs[cs1.length + i]? = some blk[i] := by
      rw [hcs, List.append_assoc, List.getElem?_append_right (by omega)]
      simp [List.getElem?_append_left hi]
    rw [h2] at h1
    cases h3 : p.code[cs1.length + i]? with
    | none => rw [h3] at h1; simp at h1
    | some x =>
      cases Nat.lt_or_ge (cs1.length + i) p.code.size with
      | inl h => exact h
      | inr hge =>
        have : p.code[cs1.length + i]? = none := by
          rw [Array.getElem?_eq_none_iff]; omega
        rw [this] at h3; cases h3
  have hl : (seg p cs1.length blk.length).length = blk.length := by
    have hle : blk.length ≤ p.code.size - cs1.length := by
      cases hb : blk.length with
      | zero => omega
      | succ n => have := hlen n (by omega); omega
    simp only [seg, List.length_take, List.length_drop, Array.length_toList]
    omega
  refine ⟨?_, ?_, hl⟩
  · intro i hi
    unfold seg at hi ⊢
    rw [List.getElem_take, List.getElem_drop]
    simp
  · apply List.ext_getElem?
    intro i
    by_cases hi : i < blk.length
    · have h1 := L.code (cs1.length + i)
      have h2 : cs[cs1.length + i]? = some blk[i] := by
        rw [hcs, List.append_assoc, List.getElem?_append_right (by omega)]
        simp [List.getElem?_append_left hi]
      rw [h2] at h1
      rw [List.getElem?_map, List.getElem?_map, List.getElem?_eq_getElem hi]
      unfold seg
      rw [List.getElem?_take_of_lt hi, List.getElem?_drop]
      simpa using h1
    · rw [List.getElem?_eq_none (by simp; omega), List.getElem?_eq_none (by simp; omega)]

theorem steps_block (m : MonCfg) {p : Prog} {cs cs1 blk rest : List Code} (L : Loaded p cs)
    (hcs : cs = cs1 ++ blk ++ rest) {s s' : State} (hpc : s.pc = cs1.length)
    (hx : execStraight m.mach p.labelAddr blk s = .ok s') :
    ∃ k, stepN m p blk.length s = .inl (setPS s' (cs1.length + blk.length) k) := by
  obtain ⟨h1, h2, h3⟩ := L.segment hcs
  have hx' : execStraight m.mach p.labelAddr (seg p cs1.length blk.length) s = .ok s' := by
    rw [execStraight_strip _ _ _ _ _ h2]; exact hx
  have := steps_straight m p (seg p cs1.length blk.length) s s' (by rw [hpc]; exact h1) hx'
  rw [h3, hpc] at this
  exact ⟨_, this⟩

/-- the part of `callExt` behind the check of the function name -/
def callBody (s : State) (f : String) : M State :=
  match rd s 0, rd s 7 with
  | .error e, _ => .error e
  | _, .error e => .error e
  | .ok sp, .ok arg =>
    if sp.toNat % 16 ≠ 0 then .error "misaligned-call"
    else .ok { s with
      out := (f == "println_i64", arg) :: s.out,
      regs := poisonRegs s.regs callerSaved,
      flags := none,
      stackMem := s.stackMem.filter (fun a _ => decide (sp.toNat ≤ a)) }

theorem callExt_def (s : State) (f : String) :
    callExt s f = if f ≠ "print_i64" && f ≠ "println_i64" then .error s!"call-unknown {f}"
      else callBody s f := rfl

theorem callBody_setPS (s : State) (f : String) (pc k : Nat) :
    callBody (setPS s pc k) f = mapS pc k (callBody s f) := by
  unfold callBody
  simp only [rd_setPS]
  cases rd s 0 with
  | error e => rfl
  | ok sp =>
    cases rd s 7 with
    | error e => rfl
    | ok arg =>
      simp only
      by_cases h2 : sp.toNat % 16 ≠ 0
      · rw [if_pos h2, if_pos h2]; simp only [mapS]
      · rw [if_neg h2, if_neg h2]; simp only [mapS, setPS]

theorem callExt_setPS (s : State) (f : String) (pc k : Nat) :
    callExt (setPS s pc k) f = mapS pc k (callExt s f) := by
  rw [callExt_def, callExt_def]
  by_cases h1 : (f ≠ "print_i64" && f ≠ "println_i64") = true
  · rw [if_pos h1, if_pos h1]; simp only [mapS]
  · rw [if_neg h1, if_neg h1]; exact callBody_setPS s f pc k

theorem callExt_pc_steps {s s2 : State} {f : String} (h : callExt s f = .ok s2) :
    s2.pc = s.pc ∧ s2.steps = s.steps := by
  have := callExt_setPS s f s.pc s.steps
  rw [setPS_self, h] at this
  simp only [mapS, Except.ok.injEq] at this
  have h1 : s2.pc = (setPS s2 s.pc s.steps).pc := by rw [← this]
  have h2 : s2.steps = (setPS s2 s.pc s.steps).steps := by rw [← this]
  exact ⟨h1, h2⟩

theorem execSeq_setPS (c : MachCfg) (la : String → Option Nat) (codes : List Code) (s : State)
    (pc k : Nat) : execSeq c la codes (setPS s pc k) = mapS pc k (execSeq c la codes s) := by
  induction codes generalizing s with
  | nil => rfl
  | cons code rest ih =>
    simp only [execSeq, execCode_setPS]
    cases execCode c la code s with
    | error e => rfl
    | ok r =>
      obtain ⟨s1, ctl⟩ := r
      cases ctl <;> simp only [mapPS, ih]
      case callExt f =>
        rw [callExt_setPS]
        cases callExt s1 f with
        | error e => rfl
        | ok s2 => simp only [mapS, ih]
      all_goals rfl

theorem step_call {m : MonCfg} {p : Prog} {s s1 s2 : State} {code : Code} {f : String}
    (hf : p.code[s.pc]? = some code)
    (hx : execCode m.mach p.labelAddr code s = .ok (s1, .callExt f)) (hc : callExt s1 f = .ok s2) :
    step m p s = .inl (setPS s2 (s.pc + 1) (s.steps + (if codeSize code = 0 then 0 else 1))) := by
  obtain ⟨_, hst⟩ := execCode_pc_steps hx
  unfold step
  simp only [hf, hx]
  by_cases h0 : codeSize code = 0
  · simp only [h0, if_true, hc, Nat.add_zero]
    obtain ⟨_, h2⟩ := callExt_pc_steps hc
    simp only [setPS, ← hst, ← h2]
  · simp only [h0, if_false]
    have hc' : callExt { s1 with steps := s1.steps + 1 } f = .ok (setPS s2 s2.pc (s1.steps + 1)) := by
      have := callExt_setPS s1 f s1.pc (s1.steps + 1)
      rw [hc] at this
      simp only [mapS] at this
      obtain ⟨h1, _⟩ := callExt_pc_steps hc
      rw [h1]
      exact this
    simp only [hc']
    simp only [setPS, hst]

theorem steps_seq (m : MonCfg) (p : Prog) (codes : List Code) (s s' : State)
    (hcode : ∀ i (h : i < codes.length), p.code[s.pc + i]? = some codes[i])
    (hx : execSeq m.mach p.labelAddr codes s = .ok s') :
    ∃ k, stepN m p codes.length s = .inl (setPS s' (s.pc + codes.length) k) := by
  induction codes generalizing s s' with
  | nil =>
    simp only [execSeq, Except.ok.injEq] at hx
    subst hx
    exact ⟨s.steps, rfl⟩
  | cons code rest ih =>
    have hf : p.code[s.pc]? = some code := by
      have := hcode 0 (by simp)
      rw [List.getElem_cons_zero] at this
      simpa using this
    have hrest : ∀ (s1 : State) (k1 : Nat), ∀ i (h : i < rest.length),
        p.code[(setPS s1 (s.pc + 1) k1).pc + i]? = some rest[i] := by
      intro s1 k1 i hi
      have := hcode (i + 1) (by simpa using hi)
      simp only [List.getElem_cons_succ] at this
      rw [← this]
      simp only [setPS]
      congr 1; omega
    simp only [execSeq] at hx
    cases hc : execCode m.mach p.labelAddr code s with
    | error e => simp [hc] at hx
    | ok r =>
      obtain ⟨s1, ctl⟩ := r
      cases ctl <;> simp only [hc] at hx <;> try cases hx
      case next =>
        have hstep := step_next hf hc
        simp only [List.length_cons, stepN, hstep]
        have hx' : execSeq m.mach p.labelAddr rest
            (setPS s1 (s.pc + 1) (s.steps + (if codeSize code = 0 then 0 else 1))) =
            .ok (setPS s' (s.pc + 1) (s.steps + (if codeSize code = 0 then 0 else 1))) := by
          rw [execSeq_setPS, hx]; rfl
        obtain ⟨k, hk⟩ := ih _ _ (hrest s1 _) hx'
        refine ⟨k, ?_⟩
        rw [hk]
        simp only [setPS]
        congr 2; omega
      case callExt f =>
        cases hce : callExt s1 f with
        | error e => simp [hce] at hx
        | ok s2 =>
          simp only [hce] at hx
          have hstep := step_call hf hc hce
          simp only [List.length_cons, stepN, hstep]
          have hx' : execSeq m.mach p.labelAddr rest
              (setPS s2 (s.pc + 1) (s.steps + (if codeSize code = 0 then 0 else 1))) =
              .ok (setPS s' (s.pc + 1) (s.steps + (if codeSize code = 0 then 0 else 1))) := by
            rw [execSeq_setPS, hx]; rfl
          obtain ⟨k, hk⟩ := ih _ _ (hrest s2 _) hx'
          refine ⟨k, ?_⟩
          rw [hk]
          simp only [setPS]
          congr 2; omega

/-- a block with external calls at the program counter -/
theorem steps_block_seq (m : MonCfg) {p : Prog} {cs cs1 blk rest : List Code} (L : Loaded p cs)
    (hcs : cs = cs1 ++ blk ++ rest) {s s' : State} (hpc : s.pc = cs1.length)
    (hx : execSeq m.mach p.labelAddr blk s = .ok s') :
    ∃ k, stepN m p blk.length s = .inl (setPS s' (cs1.length + blk.length) k) := by
  obtain ⟨h1, h2, h3⟩ := L.segment hcs
  have hx' : execSeq m.mach p.labelAddr (seg p cs1.length blk.length) s = .ok s' := by
    rw [execSeq_strip _ _ _ _ _ h2]; exact hx
  obtain ⟨k, hk⟩ := steps_seq m p (seg p cs1.length blk.length) s s' (by rw [hpc]; exact h1) hx'
  rw [h3, hpc] at hk
  exact ⟨k, hk⟩

theorem Loaded.fetch {p : Prog} {cs cs1 rest : List Code} {code : Code} (L : Loaded p cs)
    (hcs : cs = cs1 ++ code :: rest) :
    ∃ code', p.code[cs1.length]? = some code' ∧ stripC code' = stripC code := by
  have h1 := L.code cs1.length
  have h2 : cs[cs1.length]? = some code := by rw [hcs]; simp
  rw [h2] at h1
  cases h3 : p.code[cs1.length]? with
  | none => rw [h3] at h1; simp at h1
  | some x => rw [h3] at h1; simp at h1; exact ⟨x, rfl, h1⟩

theorem step_jump (m : MonCfg) {p : Prog} {cs cs1 rest : List Code} {code : Code} (L : Loaded p cs)
    (hcs : cs = cs1 ++ code :: rest) {s s1 : State} (hpc : s.pc = cs1.length) {l : String} {i : Nat}
    (hx : execCode m.mach p.labelAddr code s = .ok (s1, .jumpLabel l)) (hl : labIdx cs l = some i) :
    ∃ k, step m p s = .inl (setPS s1 i k) := by
  obtain ⟨code', hf, hs⟩ := L.fetch hcs
  have hx' : execCode m.mach p.labelAddr code' s = .ok (s1, .jumpLabel l) := by
    rw [← execCode_strip, hs, execCode_strip]; exact hx
  exact ⟨_, step_jumpLabel (by rw [hpc]; exact hf) hx' (by rw [L.labels]; exact hl)⟩

theorem step_fall (m : MonCfg) {p : Prog} {cs cs1 rest : List Code} {code : Code} (L : Loaded p cs)
    (hcs : cs = cs1 ++ code :: rest) {s s1 : State} (hpc : s.pc = cs1.length)
    (hx : execCode m.mach p.labelAddr code s = .ok (s1, .next)) :
    ∃ k, step m p s = .inl (setPS s1 (cs1.length + 1) k) := by
  obtain ⟨code', hf, hs⟩ := L.fetch hcs
  have hx' : execCode m.mach p.labelAddr code' s = .ok (s1, .next) := by
    rw [← execCode_strip, hs, execCode_strip]; exact hx
  have := step_next (m := m) (p := p) (by rw [hpc]; exact hf) hx'
  rw [hpc] at this
  exact ⟨_, this⟩

end Scc.X86.Ref
