/-
  Scc.X86.RefDefs — SPEC definitions for "Theorem B" (C06, x86-64): the REFINEMENT from the abstract
  backend machine `Scc.Backend.Abs` (AbstractMachine.lean: executes the `MockOp`s that the generic code
  generator emits with the mock backend) to the x86-64 SPEC machine (Scc/X86/Machine.lean) executing
  the instructions that the SAME generator emits with `x86Backend`.

  * `OpRel g op blk g'` — the x86 instruction list `blk` is the rendering of the abstract instruction
    `op` (temporary `t` of the mock numbering ↦ `posTemp t` = utils.rs temporary_from_position: registers
    4..15, then spill slots 1..255; RET1 ↦ rax), together with the static side conditions under which
    the backend method is correct (operands within capacity, fresh target of `op`, literal within i64).
    `g`, `g'` : `Mode` is the scratch discipline of parallel_moves.rs before / after the instruction:
    between a `save` and the matching `restore` (`Mode.pm spill`) the abstract scratch cell lives in
    TEMP (`spill = false`: then no spill-to-spill `mov`, which goes through TEMP, may occur) or in the
    reserved slot SPILL_TEMP (`spill = true`).
  * `Seg g ops cs g'` — the code list `cs` is the concatenation of the renderings of `ops`.
  * `At ops cs a i g` — abstract address `a` of `Program.ofOps ops` corresponds to item index `i` of
    the x86 item list `cs`: the suffixes from there on are related by `Seg`.
  * `RepX86` — the representation relation: temporary `t` of the abstract machine ↔ register / spill
    slot `posTemp t`; RET1 ↔ rax; scratch ↔ TEMP / SPILL_TEMP; equal traces; `rsp` at the statement
    boundary value with the callee-save area and the caller's stack above it untouched (what the
    epilogue needs).  INTEGER FRAGMENT: only the WORD parts of the positions (odd temporaries) are
    tracked, and the abstract heap is not represented (see the header of Props/C06X86.lean).
-/
import Scc.X86.MemProofsStore
import Scc.X86.ProofsCCMachine
import Scc.Backend.SimDefs

namespace Scc.X86.Ref

open Scc.AxCut Scc.Backend Scc.Backend.Abs Scc.Backend.Sim

/-- scratch discipline of parallel_moves.rs -/
inductive Mode where
  | normal
  | pm (spill : Bool)
  /-- between `mov RET1 t` and `jumplabel cleanup`: rax holds the result -/
  | exit
  deriving DecidableEq, Repr

/-- the word-part temporary of a position within the capacity of utils.rs temporary_from_position -/
def PosW (t : Nat) : Prop := t % 2 = 1 ∧ t < 267

instance (t : Nat) : Decidable (PosW t) := by unfold PosW; infer_instance

def isSpill : Temporary → Bool
  | .spill _ => true
  | .reg _ => false

/-- where parallel_moves.rs keeps the saved value of a cycle -/
def scratchLoc (spill : Bool) : Temporary := if spill then .spill SPILL_TEMP else .reg TEMP

/-- `blk` renders `op`; `g ⟶ g'` is the scratch mode before / after -/
def OpRel (g : Mode) (op : MockOp) (blk : List Code) (g' : Mode) : Prop :=
  match op with
  | .comment m => blk = [.COMMENT m] ∧ g' = g
  | .label n => blk = [.LAB n] ∧ g = .normal ∧ g' = .normal
  | .jumpLabel n => blk = [.JMPL n] ∧ g' = .normal ∧ (g = .normal ∨ (g = .exit ∧ n = "cleanup"))
  | .jif c a b n => blk = jumpLabelIf c (posTemp a) (posTemp b) n ∧ PosW a ∧ PosW b ∧
      g = .normal ∧ g' = .normal
  | .jifz c a n => blk = jumpLabelIfZero c (posTemp a) n ∧ PosW a ∧ g = .normal ∧ g' = .normal
  | .li t imm => blk = loadImmediate (posTemp t) imm ∧ PosW t ∧ fitsI64 imm = true ∧
      g = .normal ∧ g' = .normal
  | .binop o t a b => blk = binop o (posTemp t) (posTemp a) (posTemp b) ∧ PosW t ∧ PosW a ∧ PosW b ∧
      t ≠ a ∧ t ≠ b ∧ 3 ≤ t ∧ g = .normal ∧ g' = .normal
  | .mov t s =>
      (t = Mock.T_RET1 ∧ PosW s ∧ blk = mov (.reg RETURN1) (posTemp s) ∧ g = .normal ∧ g' = .exit) ∨
      (PosW t ∧ PosW s ∧ blk = mov (posTemp t) (posTemp s) ∧ g' = g ∧
        (g = .pm false → ¬ (isSpill (posTemp t) = true ∧ isSpill (posTemp s) = true)))
  | .print nl s kinds => ∃ ctx : Ctx, blk = printI64 nl (posTemp s) ctx ∧ kinds = Mock.kindsOf ctx ∧
      PosW s ∧ s < 2 * ctx.length ∧ g = .normal ∧ g' = .normal
  | .save t _ => ∃ b, blk = storeTemporary (posTemp t) b ∧ PosW t ∧ (g = .normal ∨ g = .pm b) ∧ g' = .pm b
  | .restore t _ => ∃ b, blk = restoreTemporary (posTemp t) b ∧ PosW t ∧ g = .pm b ∧ g' = .normal
  | _ => False

/-- `cs` is the concatenation of the renderings of `ops` -/
inductive Seg : Mode → List MockOp → List Code → Mode → Prop where
  | nil (g : Mode) : Seg g [] [] g
  | cons {g g1 g' : Mode} {op : MockOp} {blk : List Code} {ops : List MockOp} {cs : List Code} :
      OpRel g op blk g1 → Seg g1 ops cs g' → Seg g (op :: ops) (blk ++ cs) g'

theorem Seg.append {g g1 g' : Mode} {o1 o2 : List MockOp} {c1 c2 : List Code}
    (h1 : Seg g o1 c1 g1) (h2 : Seg g1 o2 c2 g') : Seg g (o1 ++ o2) (c1 ++ c2) g' := by
  induction h1 with
  | nil g => simpa using h2
  | cons hop _ ih =>
    rw [List.cons_append, List.append_assoc]
    exact Seg.cons hop (ih h2)

theorem Seg.single {g g' : Mode} {op : MockOp} {blk : List Code} (h : OpRel g op blk g') :
    Seg g [op] blk g' := by
  have := Seg.cons h (Seg.nil g')
  simpa using this

theorem Seg.split {g g' : Mode} : ∀ {o1 o2 : List MockOp} {cs : List Code}, Seg g (o1 ++ o2) cs g' →
    ∃ c1 c2 gm, cs = c1 ++ c2 ∧ Seg g o1 c1 gm ∧ Seg gm o2 c2 g'
  | [], o2, cs, h => ⟨[], cs, g, rfl, Seg.nil g, h⟩
  | op :: o1, o2, cs, h => by
    cases h with
    | cons hop hrest =>
      obtain ⟨c1, c2, gm, e, s1, s2⟩ := Seg.split hrest
      exact ⟨_ ++ c1, c2, gm, by rw [e, List.append_assoc], Seg.cons hop s1, s2⟩

/-- abstract address `a` ↔ item index `i`: the suffixes from there are related -/
def At (ops : List MockOp) (cs : List Code) (a i : Nat) (g : Mode) : Prop :=
  ∃ ops1 ops2 cs1 cs2 tail, ops = ops1 ++ ops2 ∧ cs = cs1 ++ cs2 ++ tail ∧ instrCount ops1 = a ∧
    cs1.length = i ∧ Seg g ops2 cs2 .normal

/-- what is fixed during a run: machine configuration, `rsp` at statement boundaries, the state after
    the prologue (for the callee-save area) -/
structure Frame where
  c : MachCfg
  /-- entry value of `rsp` -/
  m : Nat
  /-- state after the prologue -/
  st1 : State

def Frame.spN (F : Frame) : Nat := F.m - 2096
def Frame.sp (F : Frame) : Word := BitVec.ofNat 64 F.spN

/-- THE REPRESENTATION RELATION (integer fragment) -/
structure RepX86 (F : Frame) (g : Mode) (cfg : Config) (st : State) : Prop where
  bnd : Boundary F.c st F.sp
  temps : ∀ t v, PosW t → cfg.temps.get t = some v → tempVal F.sp st (posTemp t) = some v
  /-- RET1 is rax (defined only between `mov RET1 t` and `jumplabel cleanup`) -/
  ret : ∀ v, cfg.temps.get Mock.T_RET1 = some v → g = .exit ∧ tempVal F.sp st (.reg RETURN1) = some v
  /-- the scratch cell of parallel moves -/
  scratch : ∀ b, g = .pm b → ∀ w, cfg.scratch = some w → tempVal F.sp st (scratchLoc b) = some w
  out : st.out = cfg.out
  /-- callee-save area and everything above it: as the prologue left it -/
  frame : ∀ n, F.m - 48 ≤ n → st.stackMem[n]? = F.st1.stackMem[n]?

/-- comments carry no semantics: codes are compared up to the text of comments -/
def stripC : Code → Code
  | .COMMENT _ => .COMMENT ""
  | c => c

end Scc.X86.Ref
