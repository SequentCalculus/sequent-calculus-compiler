/-
  Scc.X86.ThreeWayTarget — the x86-64 machine as a `Machine x86Backend` (Scc/Backend/ThreeWayStep.lean): the
  per-method contracts (Scc/X86/Proofs*.lean, MemProofs*.lean) and the lifting of blocks to runs of the loaded
  routine (RefHeapBridge.lean, ConcKMid.lean) as the fields of the interface, and `Scc.X86.Ref.K.X3R` as the
  generic relation at this instance (`x3r_iff`).  A run of the instance is `stepN` with `MidS` / `Mid`, guarded by a
  proposition `G` (for `op` / `call`: the name at the head of the statement comment does not start with `#`).
  The machine with addresses and the navigation of `switch` / `invoke`: ThreeWayNav.lean.
-/
import Scc.Backend.ThreeWaySwitch
import Scc.X86.RefClosHStore
import Scc.X86.MemProofsLoad
import Scc.X86.ConcKNoCtx
import Scc.X86.RefClosHMoves
import Scc.X86.RefHeapInt

set_option linter.unusedVariables false

namespace Scc.X86.Ref.K

open Scc.AxCut Scc.Backend Scc.Backend.Abs
open Scc.Heap (HState InvS InvW)
open Scc.Heap.Refine (HRef imgW FrLe)
open Scc.Backend.NamesC (MM)

/-- a text that differs from `#ctx [` is no hook of the heap monitor -/
theorem not_isCtx_of_mm {m : String} (h : MM m) : ¬ IsCtx (.COMMENT m) := by
  rintro ⟨msg, e, hp⟩
  injection e with e
  subst e
  apply hp
  unfold parseCtx
  have := Scc.X86.Loader.dropPrefix?_none_of_mismatch [] h
  rw [List.append_nil] at this
  show (match dropPrefix? "#ctx [".toList m.toList with | none => none | some rest => _) = none
  rw [show "#ctx [".toList = Scc.Backend.NamesC.ctxP from rfl, this]

/-- `FrameH` (every register but the listed ones, the whole stack) keeps the temporaries of positions -/
theorem frameH_posTemp {F : Frame} {st st' : State} {ex : List Nat} (FH : FrameH st st' ex)
    (hex : ∀ r ∈ ex, r < 4) (t : Nat) : tempVal F.sp st' (posTemp t) = tempVal F.sp st (posTemp t) := by
  unfold posTemp
  split
  · simp only [tempVal]
    rw [FH.regs _ (fun hm => by have := hex _ hm; omega)]
  · simp only [tempVal]
    exact FH.stack _

section
variable (F : Frame) (H : FrameOK F) (h8 : F.c.heapBase % 8 = 0) (la : String → Option Nat)

/-- the boundary invariant of the relation: the machine's, and the callee-save area as the prologue left it -/
def Bnd (st : State) : Prop :=
  Boundary F.c st F.sp ∧ ∀ n, F.m - 48 ≤ n → st.stackMem[n]? = F.st1.stackMem[n]?

/-- the x86-64 machine as a `Target`: the 267 temporaries of positions (`posTemp`) and the word each holds
(`tvOf F`), the boundary invariant `Bnd F`, the heap view `HeapRel`, jump tables of stride 5; a block is executed
by `execFwd` and leaves the program counter alone; the other fields are the contracts of memory.rs
(MemProofs*.lean) -/
def target : ThreeWay.Target x86Backend where
  S := State
  ntemps := 267
  ntemps_le := by decide
  posT := posTemp
  tv := tvOf F
  OutOK st o := st.out = o
  Bnd := Bnd F
  HRel st hs := HeapRel F.c st hs
  stride := 5#64
  jumpLength_stride := fun pos => by
    show BitVec.ofInt 64 ((5 : Int) * (pos : Int)) = BitVec.ofInt 64 pos * 5#64
    rw [BitVec.ofInt_mul, BitVec.mul_comm]
    rfl
  shareMax := 2 ^ 31
  shareMax_le := by decide
  Exec code st st' := execFwd F.c la code st = .ok (st', .next) ∧ st'.pc = st.pc
  limit_lt := fun {st hs} B R => by
    have h2 := R.limit
    have h3 := B.1.sp.cfg.heapBelow
    have h4 := B.1.sp.cfg.top
    have h5 := B.1.sp.high
    have h6 := B.1.sp.low
    omega
  erase := by
    intro st hs hs' t p B R ht hv hop kk
    obtain ⟨code, hrun, st', hx, B', HR', FH⟩ :=
      eraseBlock_contract (la := la) h8 B.1 R (tempOK_posTemp ht) hv hop kk
    exact ⟨code, hrun, st', ⟨hx, FH.pc⟩, ⟨B', fun n hn => by rw [FH.stack]; exact B.2 n hn⟩, HR',
      fun u _ => frameH_posTemp FH (by decide) u, fun _ h => FH.out.trans h⟩
  share := by
    intro st hs hs' t p n B R ht hv hn hop hno kk
    obtain ⟨code, hrun, st', hx, B', HR', FH⟩ :=
      shareBlockN_contract (la := la) h8 B.1 R (tempOK_posTemp ht) hv (n := n)
        (by unfold fitsI32; simp; omega) hop hno kk
    exact ⟨code, hrun, st', ⟨hx, FH.pc⟩, ⟨B', fun m hm => by rw [FH.stack]; exact B.2 m hm⟩, HR',
      fun u _ => frameH_posTemp FH (by decide) u, fun _ h => FH.out.trans h⟩
  LabsIn := Scc.X86.LabsIn
  store := by
    intro st hs hs' toStore rem fs ptr B R hcap _ hE hop kk
    obtain ⟨code, kk', hrun, hle, hlabs, st', hx, B', HR', hw, FT⟩ :=
      store_contract (la := la) h8 B.1 R (toStore := toStore) (rem := rem) hcap
        ((envFields_iff (heapCfgOK_of_boundary h8 B.1)).2 hE) hop kk
    refine ⟨code, kk', hrun, hle, hlabs, st', ⟨hx, FT.pc⟩, ⟨B', fun m hm => ?_⟩, HR', hw, fun t ht => ?_,
      fun _ h => FT.out.trans h⟩
    · rw [← B.2 m hm]
      apply FT.outside
      intro q _ e
      have := H.slot_lt q
      omega
    · apply FT.temps _ (tempOK_posTemp (by have : 2 * (rem.length + toStore.length) ≤ 267 := hcap; omega)).opnd
      intro hc
      rcases hc with e | e | e | ⟨j, _, e⟩
      · exact posTemp_ne_low t (by decide) e
      · exact posTemp_ne_low t (by decide) e
      · exact posTemp_ne_low t (by decide) e
      · have := posTemp_inj.1 e; omega
  mem_lt := fun {st hs} R a => by rw [R.mem a]; exact (st.heapMem.getD a 0).isLt
  load := by
    intro st hs hs' toLoad existing pw vals B R hcap hp hop hno kk
    obtain ⟨code, kk', hrun, hle, hlabs, st', hx, B', HR', hE, FT⟩ :=
      load_contract (la := la) h8 B.1 R (toLoad := toLoad) (existing := existing) hcap hp hop hno kk
    refine ⟨code, kk', hrun, hle, hlabs, st', ⟨hx, FT.pc⟩, ⟨B', fun m hm => ?_⟩, HR',
      (envFields_iff (heapCfgOK_of_boundary h8 B')).1 hE, fun t ht => ?_, fun _ h => FT.out.trans h⟩
    · rw [← B.2 m hm]
      apply FT.outside
      intro q _ e
      have := H.slot_lt q
      omega
    · apply FT.temps _ (tempOK_posTemp (by have : 2 * (existing.length + toLoad.length) ≤ 267 := hcap; omega)).opnd
      intro hc
      rcases hc with e | e | e | ⟨m, h1, _, e⟩
      · exact posTemp_ne_low t (by decide) e
      · exact posTemp_ne_low t (by decide) e
      · exact posTemp_ne_spill0' t e
      · have := posTemp_inj.1 e; omega

variable {F H h8 la}
variable {Γ : Ctx} {cfg : Config} {rs : List Nat} {hs : HState} {ι : Nat → Nat} {κ : Nat → Nat → Word} {st : State}

/-- `Scc.X86.Ref.XAt` is the generic `ThreeWay.XAt` at x86-64 code; the two are used for one another -/
theorem xat_iff {cs items : List Code} {k : Nat} : XAt cs k items ↔ ThreeWay.XAt cs k items := Iff.rfl

/-- the x86-64 relation is the generic one at the instance -/
theorem x3r_iff : X3R F Γ cfg rs hs ι κ st ↔ ThreeWay.X3R (target F H h8 la) Γ cfg rs hs ι κ st := by
  constructor
  · intro X
    exact ⟨⟨X.bnd, X.frame⟩, by have := X.cap; show _ ≤ 267; omega,
      fun i hi a ha => by have := X.words i hi a ha; rw [trWs_eq] at this; exact this, X.ptrs, X.out, X.hrel,
      by have := X.href; rw [trHeap_eq] at this; exact this⟩
  · intro X
    exact ⟨X.bnd.1, by have : _ ≤ 267 := X.cap; omega,
      fun i hi a ha => by rw [trWs_eq]; exact X.words i hi a ha, X.ptrs, X.out, X.bnd.2, X.hrel,
      by rw [trHeap_eq]; exact X.href⟩

end

section
variable (F : Frame) (H : FrameOK F) (h8 : F.c.heapBase % 8 = 0) (mon : MonCfg) (hmon : mon.mach = F.c)
  (px : X86.Prog) (cs : List Code) (L : Loaded px cs) (hndL : (labs cs).Nodup) (G : Prop)

theorem Bnd.setPS {F : Frame} {st : State} (B : Bnd F st) (pc k : Nat) : Bnd F (setPS st pc k) :=
  ⟨⟨B.1.size, B.1.rsp, B.1.sp⟩, B.2⟩

theorem keep_setPS (F : Frame) (H : FrameOK F) (h8 : F.c.heapBase % 8 = 0) (la : String → Option Nat) (st : State) (pc k : Nat) :
    ThreeWay.Keep (target F H h8 la) st (setPS st pc k) (fun _ => False) :=
  ⟨fun u _ _ => tempVal_setPS _ _ _ _ _, fun _ h => h, fun hs R => heapRel_setPS R _ _⟩

theorem not_noop_of_xat {cs : List Code} {pc : Nat} {code : Code} {rest : List Code}
    (h : XAt cs pc (code :: rest)) (hs : codeSize code ≠ 0) : ¬ NoopAt cs pc := by
  obtain ⟨cs1, rest', e, hl⟩ := h
  rintro ⟨c, hc, hz⟩
  have : cs[pc]? = some code := by
    rw [e, ← hl]
    simp
  rw [this] at hc
  injection hc with hc
  subst hc
  exact hs hz

/-- what `Preserved … none` (only TEMP and the flags change) keeps -/
theorem keep_preserved {F : Frame} (H : FrameOK F) (h8 : F.c.heapBase % 8 = 0) (la : String → Option Nat) {st st' : State}
    (P : Preserved F.sp st st' none) : ThreeWay.Keep (target F H h8 la) st st' (fun _ => False) :=
  ⟨fun u hu _ => mach_keep_none P hu, fun _ h => P.same.out.trans h,
   fun hs R => heapRel_preserved R P (by simp) (by simp)⟩

theorem bnd_preserved {F : Frame} (H : FrameOK F) {st st' : State} (B : Bnd F st) (B' : Boundary F.c st' F.sp)
    {u : Option Temporary} (P : Preserved F.sp st st' u) : Bnd F st' :=
  ⟨B', fun m hm => by rw [P.frame H m hm]; exact B.2 m hm⟩

include H hmon L hndL in
/-- a comparison that leaves `(a, b)` in the flags, then the conditional jump: to the label or on -/
theorem run_condJump {k k' : Nat} {st st1 : State} {srt : IfSort} {l : String} {cmp : List Code} {a b : Word}
    (hat : ThreeWay.XAt cs k (cmp ++ [condJump srt l])) (hlab : ThreeWay.XAt cs k' [Code.LAB l]) (hpc : st.pc = k)
    (B : Bnd F st) (e1 : execStraight F.c px.labelAddr cmp st = .ok st1) (B1 : Boundary F.c st1 F.sp)
    (hfl : st1.flags = some (a, b)) (P1 : Preserved F.sp st st1 none) (hn : NoCtx cmp) :
    ∃ st', (∃ m, stepN mon px m st = .inl st' ∧ (G → MidS mon px cs m st)) ∧
      st'.pc = (if Pos.evalCmp srt a b then k' else k + (cmp ++ [condJump srt l]).length) ∧ Bnd F st' ∧
      ThreeWay.Keep (target F H h8 px.labelAddr) st st' (fun _ => False) := by
  subst hpc
  rw [← hmon] at e1
  obtain ⟨k1, hk1⟩ := x_steps_straight mon L hat.left e1
  have hm1 := midS_straight mon L hat.left e1 hn
  have hjx : execCode mon.mach px.labelAddr (condJump srt l) (setPS st1 (st.pc + cmp.length) k1) =
      .ok (setPS st1 (st.pc + cmp.length) k1, if Pos.evalCmp srt a b then .jumpLabel l else .next) := by
    rw [execCode_setPS, hmon, condJump_correct F.c px.labelAddr srt l st1 hfl, ifSortHolds_eq,
      Scc.Backend.Sim.evalCond_eq_evalCmp]
    split <;> rfl
  have hmJ : MidS mon px cs 1 (setPS st1 (st.pc + cmp.length) k1) :=
    midS_one (not_ctxAt_of_xat (rest := []) hat.right (not_isCtx_condJump _ _))
  obtain ⟨csa, csb, hcs, hpcA⟩ := hat.right
  have K1 : ThreeWay.Keep (target F H h8 px.labelAddr) st st1 (fun _ => False) := keep_preserved H h8 _ P1
  have B1' : Bnd F st1 := bnd_preserved H B B1 P1
  by_cases hcnd : Pos.evalCmp srt a b = true
  · rw [if_pos hcnd] at hjx
    simp only [hcnd, if_true]
    have hidx : labIdx cs l = some k' := by
      apply labIdx_of_nodup hndL
      obtain ⟨c1, c2, e, hl⟩ := hlab
      rw [e, ← hl]; simp
    obtain ⟨k2, hk2⟩ := Scc.X86.Ref.step_jump mon L (cs1 := csa) (code := condJump srt l) (rest := csb)
      (by rw [hcs]; simp [List.append_assoc]) (by simp [setPS]; exact hpcA.symm) hjx hidx
    refine ⟨_, ⟨_, stepN_trans mon px hk1 ((stepN_one mon px _).trans hk2), fun _ => MidS.trans hm1 hk1 hmJ⟩, rfl,
      (B1'.setPS _ _).setPS _ _, ThreeWay.Keep.then K1 (ThreeWay.Keep.then (keep_setPS F H h8 _ _ _ _) (keep_setPS F H h8 _ _ _ _))⟩
  · have hcnd' : Pos.evalCmp srt a b = false := by simpa using hcnd
    rw [if_neg hcnd] at hjx
    simp only [hcnd', Bool.false_eq_true, if_false]
    obtain ⟨k2, hk2⟩ := step_fall mon L (cs1 := csa) (code := condJump srt l) (rest := csb)
      (by rw [hcs]; simp [List.append_assoc]) (by simp [setPS]; exact hpcA.symm) hjx
    refine ⟨_, ⟨_, stepN_trans mon px hk1 ((stepN_one mon px _).trans hk2), fun _ => MidS.trans hm1 hk1 hmJ⟩, ?_,
      (B1'.setPS _ _).setPS _ _, ThreeWay.Keep.then K1 (ThreeWay.Keep.then (keep_setPS F H h8 _ _ _ _) (keep_setPS F H h8 _ _ _ _))⟩
    simp [setPS, ← hpcA]; omega

/-- the target on the loaded routine `cs`: a run is `stepN` of the machine.  Under the guard `G` a run also says
that the states it passes are not at a `#ctx` comment (the heap monitor is not consulted there): all of them
from the first on for `RunS` / `RunSR` (`MidS`), all but the first — the hook of the statement itself — for
`RunH` / `RunHR` (`Mid`).  `RunSR` / `RunHR` say in addition that one state on the way is at an item of non-zero
size (a real transition, for the progress argument).  The step theorems (RefClosHRun.lean, RefHeapRun.lean) take
`HeadHF s` for `G`: for `op` and `call`, whose statement comment starts with a name, that this name does not start
with `#` -/
def machine : ThreeWay.Machine x86Backend where
  toTarget := target F H h8 px.labelAddr
  cs := cs
  pcAt st k := st.pc = k
  RunS _ st _ st' := ∃ m, stepN mon px m st = .inl st' ∧ (G → MidS mon px cs m st)
  RunH _ st _ st' := ∃ m, stepN mon px m st = .inl st' ∧ (G → Mid mon px cs m st)
  runS_refl := fun _ s => ⟨0, rfl, fun _ => MidS.zero _⟩
  runS_trans := fun ⟨a, ha, ma⟩ ⟨b, hb, mb⟩ =>
    ⟨a + b, stepN_trans mon px ha hb, fun g => MidS.trans (ma g) ha (mb g)⟩
  runH_trans := fun ⟨a, ha, ma⟩ ⟨b, hb, mb⟩ =>
    ⟨a + b, stepN_trans mon px ha hb, fun g => Mid.transS (ma g) ha (mb g)⟩
  RunSR _ st _ st' := ∃ m, stepN mon px m st = .inl st' ∧ (G → MidS mon px cs m st) ∧
    ∃ n1 Xm, n1 < m ∧ stepN mon px n1 st = .inl Xm ∧ ¬ NoopAt cs Xm.pc
  RunHR _ st _ st' := ∃ m, stepN mon px m st = .inl st' ∧ (G → Mid mon px cs m st) ∧
    ∃ n1 Xm, n1 < m ∧ stepN mon px n1 st = .inl Xm ∧ ¬ NoopAt cs Xm.pc
  runH_transR := fun ⟨a, ha, ma⟩ ⟨b, hb, mb, n1, Xm, hlt, hn1, hre⟩ =>
    ⟨a + b, stepN_trans mon px ha hb, fun g => Mid.transS (ma g) ha (mb g), a + n1, Xm, by omega,
      stepN_trans mon px ha hn1, hre⟩
  runHR_trans := fun ⟨a, ha, ma, n1, Xm, hlt, hn1, hre⟩ ⟨b, hb, mb⟩ =>
    ⟨a + b, stepN_trans mon px ha hb, fun g => Mid.transS (ma g) ha (mb g), n1, Xm, by omega, hn1, hre⟩
  runHR_runH := fun ⟨a, ha, ma, _⟩ => ⟨a, ha, ma⟩
  NoHook := NoCtx
  CommentOK m := G → ¬ IsCtx (.COMMENT m)
  commentOK_of_mm := fun h _ => not_isCtx_of_mm h
  vt := fun h => by
    obtain ⟨pos, h1, h2, h3, h4⟩ := (x86_vt_run_ok _ _ _ _ _ _).1 h
    exact ⟨pos, h1, h2, h3, h4.symm⟩
  lift := by
    intro k blk st st' hat hpc hx hn B'
    subst hpc
    have hx1 := hx.1
    rw [← hmon] at hx1
    obtain ⟨n1, steps1, hn1, hm1⟩ := x_steps_fwdM mon L hndL hat hx1 hn
    exact ⟨_, ⟨n1, hn1, fun _ => hm1⟩, rfl, B'.setPS _ _, keep_setPS F H h8 _ _ _ _⟩
  noHook_erase := fun h => noCtx_eraseBlock h
  noHook_share := fun h => noCtx_shareBlockN h
  noHook_store := fun h => noCtx_store h
  noHook_load := fun h => noCtx_load h
  load_nil := fun _ _ => rfl
  run_comment := by
    intro k st m hat hpc hm B
    subst hpc
    have hx : execStraight mon.mach px.labelAddr [Code.COMMENT m] st = .ok st := rfl
    obtain ⟨k0, hk0⟩ := x_steps_straight mon L hat hx
    exact ⟨_, ⟨_, hk0, fun g => midS_straight mon L hat hx (NoCtx.cons (hm g) NoCtx.nil)⟩, rfl,
      B.setPS _ _, keep_setPS F H h8 _ _ _ _⟩
  run_c0 := by
    intro k st hooks Γ m hat hpc hm B
    subst hpc
    have hc0c := hook_comments hooks Γ m
    obtain ⟨k0, hk0⟩ := x_steps_straight mon L hat (execStraight_comments mon.mach px.labelAddr _ st hc0c)
    exact ⟨_, ⟨_, hk0, fun g => mid_comments mon L hat hc0c (noCtx_tail_hook hooks Γ (hm g))⟩, rfl,
      B.setPS _ _, keep_setPS F H h8 _ _ _ _, fun u => tempVal_setPS _ _ _ _ _⟩
  LabelOK _ := True
  labelOK_fresh _ := trivial
  labelOK_def _ := trivial
  labelOK_table _ _ := trivial
  run_label := by
    intro k st l hat hpc _ B
    subst hpc
    have hx : execStraight mon.mach px.labelAddr [Code.LAB l] st = .ok st := rfl
    obtain ⟨k0, hk0⟩ := x_steps_straight mon L hat hx
    exact ⟨_, ⟨_, hk0, fun _ => midS_straight mon L hat hx (by nc)⟩, rfl, B.setPS _ _, keep_setPS F H h8 _ _ _ _⟩
  immOK n := fitsI64 n = true
  loadImm := by
    intro k st t n hat hpc B ht hfit
    subst hpc
    obtain ⟨st2, hx2, B2, hv2, P2⟩ := loadImmediate_correct (la := px.labelAddr) B.1 (tempOK_posTemp ht) hfit
    rw [← hmon] at hx2
    obtain ⟨k2, hk2⟩ := x_steps_straight mon L hat hx2
    refine ⟨_, ⟨_, hk2, fun _ => midS_straight mon L hat hx2 (noCtx_loadImmediate _ _)⟩, rfl,
      (bnd_preserved H B B2 P2).setPS _ _,
      by show tempVal F.sp (setPS st2 _ _) _ = _; rw [tempVal_setPS]; exact hv2,
      ThreeWay.Keep.then ⟨fun u hu hne => mach_keep_some ht P2 hu hne, fun _ h => P2.same.out.trans h,
        fun hs R => heapRel_preserved R P2
          (fun e => posTemp_ne_low t (r := HEAP) (by decide) (Option.some.inj e))
          (fun e => posTemp_ne_low t (r := FREE) (by decide) (Option.some.inj e))⟩ (keep_setPS F H h8 _ _ _ _)⟩
  binop := by
    intro k st o pt p1 p2 a b r hat hpc B ht h1 h2 hw1 hw2 hv
    subst hpc
    replace ht : 2 * pt + 1 < 267 := ht
    have D : DivPlacement (posTemp (2 * pt + 1)) (posTemp (2 * p1 + 1)) (posTemp (2 * p2 + 1)) := by
      refine ⟨tempOK_posTemp ht, tempOK_posTemp (by omega), tempOK_posTemp (by omega),
        fun e => by have := posTemp_inj.1 e; omega, fun e => by have := posTemp_inj.1 e; omega, ?_, ?_, ?_⟩
      · unfold posTemp; split
        · intro e; injection e with e; omega
        · intro e; cases e
      · unfold posTemp; split
        · intro e; injection e with e; omega
        · intro e; cases e
      · unfold posTemp; split
        · intro e; injection e with e; omega
        · intro e; cases e
    obtain ⟨st2, hx2, B2, hv2, P2⟩ := binop_correct (la := px.labelAddr) B.1 o D hw1 hw2 hv
    rw [← hmon] at hx2
    obtain ⟨k2, hk2⟩ := x_steps_straight mon L hat hx2
    refine ⟨_, ⟨_, hk2, fun _ => midS_straight mon L hat hx2 (noCtx_binop _ _ _ _)⟩, rfl,
      (bnd_preserved H B B2 P2).setPS _ _,
      by show tempVal F.sp (setPS st2 _ _) _ = _; rw [tempVal_setPS]; exact hv2,
      ThreeWay.Keep.then ⟨fun u hu hne => mach_keep_some ht P2 hu hne, fun _ h => P2.same.out.trans h,
        fun hs R => heapRel_preserved R P2
          (fun e => posTemp_ne_low _ (r := HEAP) (by decide) (Option.some.inj e))
          (fun e => posTemp_ne_low _ (r := FREE) (by decide) (Option.some.inj e))⟩ (keep_setPS F H h8 _ _ _ _)⟩
  print := by
    intro k st nl p Γ kx kx' code v hrun hat hpc B hp hcap hw
    subst hpc
    have hc1 : code = printI64 nl (posTemp (2 * p + 1)) Γ ∧ kx' = kx := by
      have : (x86Backend.printI64 nl (posTemp (2 * p + 1)) Γ).run kx =
          .ok (printI64 nl (posTemp (2 * p + 1)) Γ, kx) := rfl
      replace hrun : (x86Backend.printI64 nl (posTemp (2 * p + 1)) Γ).run kx = .ok (code, kx') := hrun
      rw [this] at hrun
      have := Prod.mk.inj (Except.ok.inj hrun)
      exact ⟨this.1.symm, this.2.symm⟩
    obtain ⟨rfl, rfl⟩ := hc1
    refine ⟨rfl, ?_⟩
    have hlt : 2 * p + 1 < 267 := by have : 2 * Γ.length ≤ 267 := hcap; omega
    have h1 := H.low; have h2' := H.high; have h3 := H.m16
    have e2 : F.spN = F.m - 2096 := rfl
    have hspe : F.sp = BitVec.ofNat 64 F.spN := rfl
    obtain ⟨st2, ex, ho, K⟩ := print_preserves_machine (la := px.labelAddr) H.cfg nl Γ (posTemp (2 * p + 1))
      (tempOK_posTemp hlt)
      (by
        intro r hr
        unfold posTemp at hr
        split at hr
        · injection hr with hr; omega
        · cases hr)
      B.1.size (m := F.spN) (by rw [← hspe]; exact B.1.rsp) (by rw [e2]; omega) (by rw [e2]; omega)
      (by rw [e2]; omega) (x := v) (by rw [← hspe]; exact hw)
    rw [← hmon] at ex
    obtain ⟨k2', hk2⟩ := x_steps_seq mon L hat ex
    refine ⟨_, ⟨_, hk2, fun _ => midS_seq mon L hat ex (noCtx_printI64 _ _ _)⟩, rfl,
      Bnd.setPS ⟨⟨K.size, by rw [K.rsp]; exact B.1.rsp, B.1.sp⟩, fun m hm => by
        rw [K.mem m (by rw [e2]; omega)]; exact B.2 m hm⟩ _ _, ?_, ?_, ?_, ?_⟩
    · intro j hj
      show tempVal F.sp (setPS st2 _ _) (posTemp (2 * j + 1)) = tempVal F.sp st (posTemp (2 * j + 1))
      rw [tempVal_setPS]
      unfold posTemp
      by_cases hr : 2 * j + 1 + 4 < 16
      · simp only [if_pos hr]
        simp only [tempVal]
        have := K.snd j Γ[j] (by simp [hj]) (by omega)
        rw [show 2 * j + 1 + 4 = 2 * j + 5 by omega, this]
      · simp only [if_neg hr]
        simp only [tempVal]
        exact K.mem _ (by simp only [slotAddr, H.sp_toNat]; have : 2 * Γ.length ≤ 267 := hcap; omega)
    · intro j hj hc
      show tempVal F.sp (setPS st2 _ _) (posTemp (2 * j)) = tempVal F.sp st (posTemp (2 * j))
      rw [tempVal_setPS]
      unfold posTemp
      by_cases hr : 2 * j + 4 < 16
      · simp only [if_pos hr]
        simp only [tempVal]
        have := K.fst j Γ[j] (by simp [hj]) hc (by omega)
        rw [this]
      · simp only [if_neg hr]
        simp only [tempVal]
        exact K.mem _ (by simp only [slotAddr, H.sp_toNat]; have : 2 * Γ.length ≤ 267 := hcap; omega)
    · intro o hoo
      show (setPS st2 _ _).out = _
      rw [← hoo]; exact ho
    · intro hs R
      apply heapRel_setPS
      refine ⟨R.base, R.limit, fun a' => by rw [K.heapMem]; exact R.mem a', ?_, ?_⟩
      · obtain ⟨w, hw', e⟩ := R.heap
        exact ⟨w, by unfold regIs at hw' ⊢; rw [show HEAP = 2 from rfl, K.heap]; exact hw', e⟩
      · obtain ⟨w, hw', e⟩ := R.free
        exact ⟨w, by unfold regIs at hw' ⊢; rw [show FREE = 3 from rfl, K.free]; exact hw', e⟩
  jumpIf := by
    intro k k' st srt s1 s2 l a b hat hlab hpc B h1 h2 hw1 hw2
    obtain ⟨st1, e1, B1, hf, P1⟩ := compare_correct (la := px.labelAddr) B.1
      (tempOK_posTemp h1) (tempOK_posTemp h2) hw1 hw2
    obtain ⟨st', hr, hpc', B', K'⟩ := run_condJump F H h8 mon hmon px cs L hndL G hat hlab hpc B e1 B1 hf P1
      (noCtx_compare _ _)
    exact ⟨st', hr, hpc', B', K'⟩
  jumpLabel := by
    intro k k' st l hat hlab hpc B
    subst hpc
    have hidx : labIdx cs l = some k' := by
      apply labIdx_of_nodup hndL
      obtain ⟨c1, c2, e, hl⟩ := hlab
      rw [e, ← hl]; simp; rfl
    have hat' : XAt cs st.pc (Code.JMPL l :: []) := hat
    obtain ⟨csa, csb, hcs, hpcA⟩ := hat'
    obtain ⟨k2, hk2⟩ := Scc.X86.Ref.step_jump mon L (cs1 := csa) (code := Code.JMPL l) (rest := csb)
      (s := st) (by rw [hcs]; simp [List.append_assoc]) hpcA.symm
      (show execCode mon.mach px.labelAddr (Code.JMPL l) _ = .ok (_, .jumpLabel l) from rfl) hidx
    exact ⟨_, ⟨1, (stepN_one mon px _).trans hk2,
      fun _ => midS_one (not_ctxAt_of_xat (rest := []) hat (not_isCtx_of_noComment rfl)),
      0, st, by omega, rfl, not_noop_of_xat (rest := []) hat (by simp [codeSize])⟩, rfl, B.setPS _ _,
      keep_setPS F H h8 _ _ _ _⟩
  jumpIfZero := by
    intro k k' st srt s1 l a hat hlab hpc B h1 hw1
    obtain ⟨st1, e1, B1, hf, P1⟩ := compareImmediate_correct (la := px.labelAddr) B.1
      (tempOK_posTemp h1) (i := 0) (by decide) hw1
    obtain ⟨st', hr, hpc', B', K'⟩ := run_condJump F H h8 mon hmon px cs L hndL G (b := 0) hat hlab hpc B e1 B1
      (by rw [hf]; rfl) P1 (noCtx_compareImmediate _ _)
    exact ⟨st', hr, hpc', B', K'⟩
  exchange := by
    intro P tm Γ newΓ c c' code k st cfg h hat hpc B _ htv
    subst hpc
    obtain ⟨ops, hops, SS⟩ := mseg_codeExchange tm Γ newΓ h
    refine ⟨ops, hops, fun hcode => ?_⟩
    obtain ⟨cfg', st', n, hs, hn, hpc', R', _, hm⟩ :=
      mseg_follow H hmon L (P := P) (st0 := st) SS cfg st hcode hat
        ⟨B.1, fun t v ht hg => htv t v ht hg, (fun b hb => by cases hb), MKeep.refl F st⟩ (noCtx_codeExchange h)
    refine ⟨cfg', st', hs, ⟨n, hn, fun _ => hm⟩, hpc', ⟨R'.bnd, fun n hn => by rw [R'.keep.frame n hn]; exact B.2 n hn⟩,
      R'.temps, fun _ ho => R'.keep.out.trans ho, fun hs R => ?_⟩
    exact ⟨R.base, R.limit, fun a => by rw [R'.keep.heapMem]; exact R.mem a,
      by
        obtain ⟨w, hw, e⟩ := R.heap
        exact ⟨w, by unfold regIs at hw ⊢; rw [R'.keep.heap]; exact hw, e⟩,
      by
        obtain ⟨w, hw, e⟩ := R.free
        exact ⟨w, by unfold regIs at hw ⊢; rw [R'.keep.free]; exact hw, e⟩⟩

end

section
variable {F : Frame} (H : FrameOK F) (h8 : F.c.heapBase % 8 = 0) {la : String → Option Nat}
  {Γ : Ctx} {cfg : Config} {hs : HState} {ι : Nat → Nat} {κ : Nat → Nat → Word} {st : State}

/-- `x3r_iff` at a statement boundary; it serves at every machine over this target (`machine`, `machineA`,
`machineN`, `machineI`: their `toTarget` unfolds to `target F H h8 px.labelAddr`) -/
theorem X3.toT (X : X3 F Γ cfg hs ι κ st) : ThreeWay.X3 (target F H h8 la) Γ cfg hs ι κ st := x3r_iff.1 X

theorem X3.ofT (X : ThreeWay.X3 (target F H h8 la) Γ cfg hs ι κ st) : X3 F Γ cfg hs ι κ st := x3r_iff.2 X

end

end Scc.X86.Ref.K
