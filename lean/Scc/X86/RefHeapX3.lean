/-
  Scc.X86.RefHeapX3 — basic facts about the relation `X3R` (RefHeapDefs.lean): it does not look at the
  abstract program counter, its heap view (`HeapRel`) not at the program counter / step counter of the machine;
  what `Preserved` keeps of the heap view.  (The facts about `HRef`
  alone: Scc/Heap/RefineHRef.lean.)
-/
import Scc.X86.RefHeapTr
import Scc.X86.RefStep
import Scc.X86.MemProofsLoad
import Scc.Heap.RefineHRef
import Scc.Backend.ProofsRep2

namespace Scc.X86.Ref

open Scc.AxCut Scc.Backend.Abs
open Scc.Heap (HState InvS InvW)
open Scc.Heap.Refine (HRef imgW fieldImg kindB)

theorem posTemp_ne_low (t : Nat) {r : Nat} (hr : r < 4) : posTemp t ≠ .reg r := by
  unfold posTemp
  split
  · intro e; injection e with e; omega
  · intro e; cases e

theorem posTemp_ne_spill0' (t : Nat) : posTemp t ≠ .spill 0 := by
  unfold posTemp
  split
  · intro e; cases e
  · intro e; injection e with e; omega

theorem heapRel_setPS {c : MachCfg} {st : State} {hs : HState} (R : HeapRel c st hs) (pc k : Nat) :
    HeapRel c (setPS st pc k) hs := ⟨R.base, R.limit, R.mem, R.heap, R.free⟩

theorem X3R.setPc {F : Frame} {Γ : Ctx} {cfg : Config} {rs : List Nat} {hs : HState} {ι : Nat → Nat}
    {st : State} (X : X3R F Γ cfg rs hs ι st) (pc : Nat) : X3R F Γ { cfg with pc := pc } rs hs ι st :=
  ⟨X.bnd, X.cap, X.words, X.ptrs, X.out, X.frame, X.hrel, X.href⟩

/-- `Preserved` keeps the heap view: the heap memory is the same, HEAP and FREE are no targets -/
theorem heapRel_preserved {c : MachCfg} {sp : Word} {st st' : State} {hs : HState} (R : HeapRel c st hs)
    {u : Option Temporary} (P : Preserved sp st st' u) (h2 : u ≠ some (.reg HEAP)) (h3 : u ≠ some (.reg FREE)) :
    HeapRel c st' hs := by
  refine ⟨R.base, R.limit, ?_, ?_, ?_⟩
  · intro a; rw [P.same.heapMem]; exact R.mem a
  · obtain ⟨w, hw, e⟩ := R.heap
    refine ⟨w, ?_, e⟩
    unfold regIs at hw ⊢
    rw [P.regs HEAP (by decide) (by decide) (fun e => h2 e.symm)]
    exact hw
  · obtain ⟨w, hw, e⟩ := R.free
    refine ⟨w, ?_, e⟩
    unfold regIs at hw ⊢
    rw [P.regs FREE (by decide) (by decide) (fun e => h3 e.symm)]
    exact hw

end Scc.X86.Ref
