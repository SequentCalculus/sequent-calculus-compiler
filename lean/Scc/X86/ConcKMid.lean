/-
  Scc.X86.ConcKMid — WHERE THE MACHINE IS BETWEEN TWO STATEMENT BOUNDARIES.

  The heap monitor of the SPEC machine looks at the heap whenever the program counter is at a comment whose text
  parses as a `#ctx […]` hook (`parseCtx msg ≠ none`): `IsCtx`, `CtxAt cs i`.  The step lemmas of the three-way
  simulation export `stepN mon px n X = .inl X'` only; to know that the monitor is not consulted at the states
  strictly between `X` and `X'` one needs their program counters: `MidS m p cs n s` — the states after `k < n`
  transitions from `s` (START INCLUDED) are not at a `#ctx` comment; `Mid` — the same for `0 < k < n` (the start is
  the statement boundary, which IS at the hook).  Both compose along `stepN_trans`; the primitives are a
  straight-line block, a block with calls of the print runtime and a block with forward local labels: the program
  counter stays inside the block, so `NoCtx blk` (no item of the block is a `#ctx` comment) suffices.
-/
import Scc.X86.RefClosTol

set_option linter.unusedVariables false

namespace Scc.X86.Ref

/-- a comment the heap monitor reacts to -/
def IsCtx (c : Code) : Prop := ∃ msg, c = .COMMENT msg ∧ parseCtx msg ≠ none

structure NoCtx (l : List Code) : Prop where
  all : ∀ c ∈ l, ¬ IsCtx c

def CtxAt (cs : List Code) (i : Nat) : Prop := ∃ c, cs[i]? = some c ∧ IsCtx c

theorem NoCtx.nil : NoCtx [] := ⟨fun _ h => by cases h⟩

theorem noCtx_append {a b : List Code} : NoCtx (a ++ b) ↔ NoCtx a ∧ NoCtx b := by
  constructor
  · intro h
    exact ⟨⟨fun c hc => h.all c (List.mem_append.2 (Or.inl hc))⟩,
      ⟨fun c hc => h.all c (List.mem_append.2 (Or.inr hc))⟩⟩
  · rintro ⟨h1, h2⟩
    refine ⟨fun c hc => ?_⟩
    rcases List.mem_append.1 hc with hc | hc
    · exact h1.all c hc
    · exact h2.all c hc

theorem noCtx_cons {c : Code} {l : List Code} : NoCtx (c :: l) ↔ ¬ IsCtx c ∧ NoCtx l := by
  constructor
  · intro h
    exact ⟨h.all c (by simp), ⟨fun x hx => h.all x (by simp [hx])⟩⟩
  · rintro ⟨h1, h2⟩
    refine ⟨fun x hx => ?_⟩
    rcases List.mem_cons.1 hx with rfl | hx
    · exact h1
    · exact h2.all x hx

theorem NoCtx.append {a b : List Code} (ha : NoCtx a) (hb : NoCtx b) : NoCtx (a ++ b) :=
  noCtx_append.2 ⟨ha, hb⟩

theorem NoCtx.cons {c : Code} {l : List Code} (hc : ¬ IsCtx c) (hl : NoCtx l) : NoCtx (c :: l) :=
  noCtx_cons.2 ⟨hc, hl⟩

theorem not_isCtx_of_ne {c : Code} (h : ∀ m, c ≠ .COMMENT m) : ¬ IsCtx c := by
  rintro ⟨m, e, _⟩; exact h m e

theorem not_isCtx_comment {m : String} (h : parseCtx m = none) : ¬ IsCtx (.COMMENT m) := by
  rintro ⟨m', e, hm⟩
  injection e with e
  subst e
  exact hm h

theorem noCtx_of_noComment {l : List Code} (h : ∀ c ∈ l, ∀ m, c ≠ .COMMENT m) : NoCtx l :=
  ⟨fun c hc => not_isCtx_of_ne (h c hc)⟩

theorem not_ctxAt_of_xat {cs : List Code} {pc : Nat} {code : Code} {rest : List Code}
    (h : XAt cs pc (code :: rest)) (hc : ¬ IsCtx code) : ¬ CtxAt cs pc := by
  obtain ⟨cs1, rest', e, hl⟩ := h
  rintro ⟨c, hg, hi⟩
  have : cs[pc]? = some code := by rw [e, ← hl]; simp
  rw [this] at hg
  injection hg with hg
  subst hg
  exact hc hi

theorem not_ctxAt_of_split {cs cs1 rest : List Code} {code : Code} (hcs : cs = cs1 ++ code :: rest)
    {pc : Nat} (hpc : pc = cs1.length) (hc : ¬ IsCtx code) : ¬ CtxAt cs pc :=
  not_ctxAt_of_xat (rest := []) ⟨cs1, rest, by rw [hcs]; simp, hpc.symm⟩ hc

theorem not_ctxAt_of_getElem {cs : List Code} {i : Nat} {c : Code} (h : cs[i]? = some c) (hc : ¬ IsCtx c) :
    ¬ CtxAt cs i := by
  rintro ⟨c', hg, hi⟩
  rw [h] at hg
  injection hg with hg
  subst hg
  exact hc hi

theorem not_ctxAt_of_size {cs : List Code} {i : Nat} (h : i < cs.length) (hs : codeSize cs[i] ≠ 0) :
    ¬ CtxAt cs i := by
  rintro ⟨c, hg, m, e, _⟩
  rw [List.getElem?_eq_getElem h] at hg
  injection hg with hg
  rw [hg, e] at hs
  exact hs rfl

theorem noCtx_tail_append {a b : List Code} (h1 : NoCtx a.tail) (h2 : NoCtx b) (ha : a ≠ []) :
    NoCtx (a ++ b).tail := by
  cases a with
  | nil => exact absurd rfl ha
  | cons x t => exact noCtx_append.2 ⟨h1, h2⟩

theorem not_ctxAt_of_block {cs blk : List Code} {pc j : Nat} (hat : XAt cs pc blk) (hn : NoCtx blk)
    (hj : j < blk.length) : ¬ CtxAt cs (pc + j) := by
  obtain ⟨cs1, rest, e, hl⟩ := hat
  rintro ⟨c, hg, hi⟩
  have : cs[pc + j]? = some blk[j] := by
    rw [e, ← hl, List.append_assoc, List.getElem?_append_right (by omega)]
    simp [List.getElem?_append_left hj]
  rw [this] at hg
  injection hg with hg
  subst hg
  exact hn.all _ (List.getElem_mem hj) hi

/-- the states after `k < n` transitions from `s` (start included) are not at a `#ctx` comment -/
def MidS (m : MonCfg) (p : Prog) (cs : List Code) (n : Nat) (s : State) : Prop :=
  ∀ k sk, k < n → stepN m p k s = .inl sk → ¬ CtxAt cs sk.pc

/-- the states STRICTLY between `s` and the state after `n` transitions are not at a `#ctx` comment -/
def Mid (m : MonCfg) (p : Prog) (cs : List Code) (n : Nat) (s : State) : Prop :=
  ∀ k sk, 0 < k → k < n → stepN m p k s = .inl sk → ¬ CtxAt cs sk.pc

section
variable {m : MonCfg} {p : Prog} {cs : List Code}

theorem MidS.mid {n : Nat} {s : State} (h : MidS m p cs n s) : Mid m p cs n s :=
  fun k sk _ hk hs => h k sk hk hs

theorem MidS.zero (s : State) : MidS m p cs 0 s := fun k _ hk => absurd hk (Nat.not_lt_zero _)

theorem Mid.zero (s : State) : Mid m p cs 0 s := fun k _ _ hk => absurd hk (Nat.not_lt_zero _)

theorem Mid.one (s : State) : Mid m p cs 1 s := fun k _ h0 hk => by omega

theorem midS_one {s : State} (h : ¬ CtxAt cs s.pc) : MidS m p cs 1 s := by
  intro k sk hk hs
  have : k = 0 := by omega
  subst this
  simp only [stepN, Sum.inl.injEq] at hs
  subst hs
  exact h

theorem stepN_split {a : Nat} {s s1 : State} (hs : stepN m p a s = .inl s1) (k : Nat) (hk : a ≤ k) :
    stepN m p k s = stepN m p (k - a) s1 := by
  have := stepN_add m p a (k - a) s s1 hs
  rw [show a + (k - a) = k by omega] at this
  exact this

theorem MidS.trans {a b : Nat} {s s1 : State} (h1 : MidS m p cs a s) (hs : stepN m p a s = .inl s1)
    (h2 : MidS m p cs b s1) : MidS m p cs (a + b) s := by
  intro k sk hk hsk
  by_cases hlt : k < a
  · exact h1 k sk hlt hsk
  · rw [stepN_split hs k (by omega)] at hsk
    exact h2 (k - a) sk (by omega) hsk

/-- a first part whose start is excluded, then a part whose start is included -/
theorem Mid.transS {a b : Nat} {s s1 : State} (h1 : Mid m p cs a s) (hs : stepN m p a s = .inl s1)
    (h2 : MidS m p cs b s1) : Mid m p cs (a + b) s := by
  intro k sk h0 hk hsk
  by_cases hlt : k < a
  · exact h1 k sk h0 hlt hsk
  · rw [stepN_split hs k (by omega)] at hsk
    exact h2 (k - a) sk (by omega) hsk

/-- two parts whose starts are excluded, the junction is not at a `#ctx` comment -/
theorem Mid.trans' {a b : Nat} {s s1 : State} (h1 : Mid m p cs a s) (hs : stepN m p a s = .inl s1)
    (h2 : Mid m p cs b s1) (hj : 0 < a → 0 < b → ¬ CtxAt cs s1.pc) : Mid m p cs (a + b) s := by
  intro k sk h0 hk hsk
  by_cases hlt : k < a
  · exact h1 k sk h0 hlt hsk
  · rw [stepN_split hs k (by omega)] at hsk
    by_cases he : k = a
    · subst he
      simp only [Nat.sub_self, stepN, Sum.inl.injEq] at hsk
      subst hsk
      exact hj h0 (by omega)
    · exact h2 (k - a) sk (by omega) (by omega) hsk

theorem Mid.of_eq {n n' : Nat} {s : State} (h : Mid m p cs n s) (e : n = n') : Mid m p cs n' s := e ▸ h

theorem MidS.of_eq {n n' : Nat} {s : State} (h : MidS m p cs n s) (e : n = n') : MidS m p cs n' s := e ▸ h

theorem MidS.mono {n n' : Nat} {s : State} (h : MidS m p cs n s) (e : n' ≤ n) : MidS m p cs n' s :=
  fun k sk hk hs => h k sk (by omega) hs

theorem Mid.mono {n n' : Nat} {s : State} (h : Mid m p cs n s) (e : n' ≤ n) : Mid m p cs n' s :=
  fun k sk h0 hk hs => h k sk h0 (by omega) hs

/-- the states between, seen from a state further on (`Tol`: the machine ahead by labels and comments) -/
theorem Mid.shift {n d : Nat} {s s1 : State} (h : Mid m p cs n s) (hs : stepN m p d s = .inl s1) (hd : d ≤ n) :
    Mid m p cs (n - d) s1 := by
  intro k sk h0 hk hsk
  have := stepN_add m p d k s s1 hs
  rw [hsk] at this
  exact h (d + k) sk (by omega) (by omega) this

theorem MidS.shift {n d : Nat} {s s1 : State} (h : MidS m p cs n s) (hs : stepN m p d s = .inl s1) (hd : d ≤ n) :
    MidS m p cs (n - d) s1 := by
  intro k sk hk hsk
  have := stepN_add m p d k s s1 hs
  rw [hsk] at this
  exact h (d + k) sk (by omega) this

end

/-- straight-line code is code with calls of the print runtime (without calls) -/
theorem execSeq_of_straight (c : MachCfg) (la : String → Option Nat) : ∀ (codes : List Code) (s s' : State),
    execStraight c la codes s = .ok s' → execSeq c la codes s = .ok s'
  | [], _, _, h => h
  | code :: rest, s, s', h => by
    simp only [execStraight] at h
    simp only [execSeq]
    cases hc : execCode c la code s with
    | error e => simp [hc] at h
    | ok r =>
      obtain ⟨s1, ctl⟩ := r
      cases ctl <;> simp only [hc] at h ⊢ <;> try cases h
      exact execSeq_of_straight c la rest s1 s' h

/-- code with calls of the print runtime: after `j` transitions the program counter is `j` items further -/
theorem seq_pcs (m : MonCfg) (p : Prog) : ∀ (codes : List Code) (s s' : State),
    (∀ i (h : i < codes.length), p.code[s.pc + i]? = some codes[i]) →
    execSeq m.mach p.labelAddr codes s = .ok s' →
    ∀ j sj, j ≤ codes.length → stepN m p j s = .inl sj → sj.pc = s.pc + j
  | [], s, s', _, _, j, sj, hj, hs => by
    have : j = 0 := by simpa using hj
    subst this
    simp only [stepN, Sum.inl.injEq] at hs
    subst hs; rfl
  | code :: rest, s, s', hcode, hx, j, sj, hj, hs => by
    cases j with
    | zero =>
      simp only [stepN, Sum.inl.injEq] at hs
      subst hs; rfl
    | succ j =>
      have hf : p.code[s.pc]? = some code := by
        have := hcode 0 (by simp)
        rw [List.getElem_cons_zero] at this
        simpa using this
      have hrest : ∀ (s1 : State) (k1 : Nat), ∀ i (h : i < rest.length),
          p.code[(setPS s1 (s.pc + 1) k1).pc + i]? = some rest[i] := by
        intro s1 k1 i hi
        have := hcode (i + 1) (by simpa using hi)
        simp only [List.getElem_cons_succ] at this
        rw [← this]
        simp only [setPS]
        congr 1; omega
      simp only [execSeq] at hx
      cases hc : execCode m.mach p.labelAddr code s with
      | error e => simp [hc] at hx
      | ok r =>
        obtain ⟨s1, ctl⟩ := r
        cases ctl <;> simp only [hc] at hx <;> try cases hx
        case next =>
          have hstep := step_next hf hc
          simp only [stepN, hstep] at hs
          have hx' : execSeq m.mach p.labelAddr rest
              (setPS s1 (s.pc + 1) (s.steps + (if codeSize code = 0 then 0 else 1))) =
              .ok (setPS s' (s.pc + 1) (s.steps + (if codeSize code = 0 then 0 else 1))) := by
            rw [execSeq_setPS, hx]; rfl
          have := seq_pcs m p rest _ _ (hrest s1 _) hx' j sj (by simpa using hj) hs
          rw [this]; simp only [setPS]; omega
        case callExt f =>
          cases hce : callExt s1 f with
          | error e => simp [hce] at hx
          | ok s2 =>
            simp only [hce] at hx
            have hstep := step_call hf hc hce
            simp only [stepN, hstep] at hs
            have hx' : execSeq m.mach p.labelAddr rest
                (setPS s2 (s.pc + 1) (s.steps + (if codeSize code = 0 then 0 else 1))) =
                .ok (setPS s' (s.pc + 1) (s.steps + (if codeSize code = 0 then 0 else 1))) := by
              rw [execSeq_setPS, hx]; rfl
            have := seq_pcs m p rest _ _ (hrest s2 _) hx' j sj (by simpa using hj) hs
            rw [this]; simp only [setPS]; omega

theorem straight_pcs (m : MonCfg) (p : Prog) (codes : List Code) (s s' : State)
    (hcode : ∀ i (h : i < codes.length), p.code[s.pc + i]? = some codes[i])
    (hx : execStraight m.mach p.labelAddr codes s = .ok s') :
    ∀ j sj, j ≤ codes.length → stepN m p j s = .inl sj → sj.pc = s.pc + j :=
  seq_pcs m p codes s s' hcode (execSeq_of_straight _ _ _ _ _ hx)

/-- a block with forward local labels: the machine arrives just behind the block, and until then the program
counter stays inside the block -/
theorem steps_fwdM (m : MonCfg) (p : Prog) (pc0 : Nat) (codes : List Code) (hb : BlockAt p pc0 codes) :
    ∀ (n off : Nat) (s s' : State), codes.length - off ≤ n → off ≤ codes.length → s.pc = pc0 + off →
      execFwd m.mach p.labelAddr (codes.drop off) s = .ok (s', .next) →
      ∃ k steps', stepN m p k s = .inl (setPS s' (pc0 + codes.length) steps') ∧
        ∀ j sj, j < k → stepN m p j s = .inl sj → pc0 ≤ sj.pc ∧ sj.pc < pc0 + codes.length := by
  intro n
  induction n with
  | zero =>
    intro off s s' hn hoff hpc hx
    have : off = codes.length := by omega
    subst this
    rw [List.drop_length, execFwd_nil] at hx
    simp only [Except.ok.injEq, Prod.mk.injEq, and_true] at hx
    subst hx
    exact ⟨0, s.steps, by simp only [stepN, setPS, ← hpc], fun j _ hj => absurd hj (Nat.not_lt_zero _)⟩
  | succ n ih =>
    intro off s s' hn hoff hpc hx
    by_cases hlt : off < codes.length
    · have hdrop : codes.drop off = codes[off] :: codes.drop (off + 1) := by
        rw [List.drop_eq_getElem_cons hlt]
      have hf : p.code[s.pc]? = some codes[off] := by rw [hpc]; exact hb.code off hlt
      rw [hdrop, execFwd_cons] at hx
      cases hex : execCode m.mach p.labelAddr codes[off] s with
      | error e => simp [hex, contFwd] at hx
      | ok r =>
        obtain ⟨s1, ctl⟩ := r
        rw [hex] at hx
        cases ctl with
        | next =>
          simp only [contFwd] at hx
          have hstep := step_next hf hex
          have hx' := execFwd_setPS m.mach p.labelAddr (s.pc + 1)
            (s.steps + (if codeSize codes[off] = 0 then 0 else 1)) _ (codes.drop (off + 1)) s1 (Nat.le_refl _)
          rw [hx] at hx'
          obtain ⟨k, st, hk, hmid⟩ := ih (off + 1) _ _ (by omega) (by omega)
            (by simp only [setPS]; omega) hx'
          refine ⟨1 + k, st, ?_, ?_⟩
          · rw [stepN_add m p 1 k s _ ((stepN_one m p s).trans hstep)]
            exact hk
          · intro j sj hj hsj
            cases j with
            | zero =>
              simp only [stepN, Sum.inl.injEq] at hsj
              subst hsj
              omega
            | succ j =>
              rw [show j + 1 = 1 + j by omega, stepN_add m p 1 j s _ ((stepN_one m p s).trans hstep)] at hsj
              exact hmid j sj (by omega) hsj
        | jumpLabel l =>
          simp only [contFwd] at hx
          cases hsk : skipTo l (codes.drop (off + 1)) with
          | none => simp [hsk] at hx
          | some rest =>
            simp only [hsk] at hx
            obtain ⟨j0, hj0, hrest⟩ := skipTo_spec hsk
            have hj' : codes[off + 1 + j0]? = some (.LAB l) := by
              rw [List.getElem?_drop] at hj0; exact hj0
            obtain ⟨hjlt, hjeq⟩ := List.getElem?_eq_some_iff.1 hj'
            have hl := hb.labels _ _ hj'
            have hstep := step_jumpLabel hf hex hl
            have hdrop2 : codes.drop (off + 1 + j0) = .LAB l :: rest := by
              rw [List.drop_eq_getElem_cons hjlt, hrest, List.drop_drop, hjeq]
              rfl
            have hx2 : execFwd m.mach p.labelAddr (codes.drop (off + 1 + j0)) s1 = .ok (s', .next) := by
              rw [hdrop2, execFwd_cons, exec_LAB]
              simp only [contFwd]
              exact hx
            have hx' := execFwd_setPS m.mach p.labelAddr (pc0 + (off + 1 + j0))
              (s.steps + (if codeSize codes[off] = 0 then 0 else 1)) _ (codes.drop (off + 1 + j0)) s1
              (Nat.le_refl _)
            rw [hx2] at hx'
            obtain ⟨k, st, hk, hmid⟩ := ih (off + 1 + j0) _ _ (by omega) (by omega) (by simp only [setPS]) hx'
            refine ⟨1 + k, st, ?_, ?_⟩
            · rw [stepN_add m p 1 k s _ ((stepN_one m p s).trans hstep)]
              exact hk
            · intro j sj hj hsj
              cases j with
              | zero =>
                simp only [stepN, Sum.inl.injEq] at hsj
                subst hsj
                omega
              | succ j =>
                rw [show j + 1 = 1 + j by omega, stepN_add m p 1 j s _ ((stepN_one m p s).trans hstep)] at hsj
                exact hmid j sj (by omega) hsj
        | jumpAddr a => simp [contFwd] at hx
        | callExt f => simp [contFwd] at hx
        | ret => simp [contFwd] at hx
    · have : off = codes.length := by omega
      subst this
      rw [List.drop_length, execFwd_nil] at hx
      simp only [Except.ok.injEq, Prod.mk.injEq, and_true] at hx
      subst hx
      exact ⟨0, s.steps, by simp only [stepN, setPS, ← hpc], fun j _ hj => absurd hj (Nat.not_lt_zero _)⟩

section Blocks
variable (m : MonCfg) {p : Prog} {cs : List Code} (L : Loaded p cs)

include L in
theorem midS_seq {blk : List Code} {s s' : State} (hat : XAt cs s.pc blk)
    (hx : execSeq m.mach p.labelAddr blk s = .ok s') (hn : NoCtx blk) : MidS m p cs blk.length s := by
  obtain ⟨cs1, rest, e, hl⟩ := hat
  obtain ⟨h1, h2, h3⟩ := L.segment e
  have hx' : execSeq m.mach p.labelAddr (seg p cs1.length blk.length) s = .ok s' := by
    rw [execSeq_strip _ _ _ _ _ h2]; exact hx
  intro k sk hk hsk
  have hpc := seq_pcs m p (seg p cs1.length blk.length) s s' (by rw [← hl]; exact h1) hx' k sk
    (by rw [h3]; omega) hsk
  rw [hpc]
  exact not_ctxAt_of_block ⟨cs1, rest, e, hl⟩ hn hk

include L in
theorem midS_straight {blk : List Code} {s s' : State} (hat : XAt cs s.pc blk)
    (hx : execStraight m.mach p.labelAddr blk s = .ok s') (hn : NoCtx blk) : MidS m p cs blk.length s :=
  midS_seq m L hat (execSeq_of_straight _ _ _ _ _ hx) hn

include L in
/-- a straight-line block at the program counter whose FIRST item may be a `#ctx` comment -/
theorem mid_straight_tail {blk : List Code} {s s' : State} (hat : XAt cs s.pc blk)
    (hx : execStraight m.mach p.labelAddr blk s = .ok s') (hn : NoCtx blk.tail) : Mid m p cs blk.length s := by
  obtain ⟨cs1, rest, e, hl⟩ := hat
  obtain ⟨h1, h2, h3⟩ := L.segment e
  have hx' : execStraight m.mach p.labelAddr (seg p cs1.length blk.length) s = .ok s' := by
    rw [execStraight_strip _ _ _ _ _ h2]; exact hx
  intro k sk h0 hk hsk
  have hpc := straight_pcs m p (seg p cs1.length blk.length) s s' (by rw [← hl]; exact h1) hx' k sk
    (by rw [h3]; omega) hsk
  rw [hpc]
  rintro ⟨c, hg, hi⟩
  have : cs[s.pc + k]? = some blk[k] := by
    rw [e, ← hl, List.append_assoc, List.getElem?_append_right (by omega)]
    simp [List.getElem?_append_left hk]
  rw [this] at hg
  injection hg with hg
  subst hg
  have hmem : blk[k] ∈ blk.tail := by
    cases blk with
    | nil => simp at hk
    | cons b t =>
      cases k with
      | zero => omega
      | succ k => simp
  exact hn.all _ hmem hi

include L in
/-- a block of comments at the program counter whose FIRST item may be a `#ctx` comment (the hook of the
statement): the states strictly behind the start are not at a `#ctx` comment -/
theorem mid_comments {blk : List Code} {s : State} (hat : XAt cs s.pc blk)
    (hc : ∀ y ∈ blk, ∃ m', y = Code.COMMENT m') (hn : NoCtx blk.tail) : Mid m p cs blk.length s :=
  mid_straight_tail m L hat (execStraight_comments m.mach p.labelAddr blk s hc) hn

include L in
theorem x_steps_fwdM (hnd : (labs cs).Nodup) {blk : List Code} {s s' : State} (hat : XAt cs s.pc blk)
    (hx : execFwd m.mach p.labelAddr blk s = .ok (s', .next)) (hn : NoCtx blk) :
    ∃ k steps', stepN m p k s = .inl (setPS s' (s.pc + blk.length) steps') ∧ MidS m p cs k s := by
  obtain ⟨cs1, rest, hcs, hl⟩ := hat
  obtain ⟨h1, h2, h3⟩ := L.segment hcs
  have hb : BlockAt p cs1.length (seg p cs1.length blk.length) := by
    refine ⟨h1, ?_⟩
    intro j l hj
    have hjlt : j < blk.length := by
      rcases Nat.lt_or_ge j (seg p cs1.length blk.length).length with h | h
      · rw [h3] at h; exact h
      · rw [List.getElem?_eq_none h] at hj; cases hj
    have hblk : blk[j]? = some (.LAB l) := by
      have := congrArg (fun x => x[j]?) h2
      simp only [List.getElem?_map, hj, Option.map_some] at this
      rw [List.getElem?_eq_getElem hjlt] at this ⊢
      simp only [Option.map_some, Option.some.injEq] at this
      rw [stripC_eq_lab this.symm]
    have hcsj : cs[cs1.length + j]? = some (.LAB l) := by
      rw [hcs, List.append_assoc, List.getElem?_append_right (by omega)]
      simp only [Nat.add_sub_cancel_left]
      rw [List.getElem?_append_left hjlt]
      exact hblk
    rw [L.labels]
    exact labIdx_of_nodup hnd hcsj
  have hx' : execFwd m.mach p.labelAddr (seg p cs1.length blk.length) s = .ok (s', .next) := by
    rw [execFwd_strip _ _ _ _ _ _ (Nat.le_refl _) h2]; exact hx
  obtain ⟨k, st, hk, hmid⟩ := steps_fwdM m p cs1.length _ hb (seg p cs1.length blk.length).length 0 s s'
    (by omega) (by omega) (by rw [← hl]; rfl) (by simpa using hx')
  rw [h3] at hk hmid
  refine ⟨k, st, by rw [← hl]; exact hk, ?_⟩
  intro j sj hj hsj
  obtain ⟨g1, g2⟩ := hmid j sj hj hsj
  have : sj.pc = s.pc + (sj.pc - cs1.length) := by omega
  rw [this]
  exact not_ctxAt_of_block ⟨cs1, rest, hcs, hl⟩ hn (by omega)

end Blocks

theorem monitor_not_ctx {cfg : MonCfg} {cs : List Code} {items : List (Code × Nat)} (hitems : items.map (·.1) = cs)
    {X : State} (h : ¬ CtxAt cs X.pc) : monitor cfg (mkProg cfg.mach items) X = .ok none := by
  unfold monitor
  split
  · rfl
  · have hcode : (mkProg cfg.mach items).code[X.pc]? = cs[X.pc]? := by
      show (items.map (·.1)).toArray[X.pc]? = _
      rw [hitems, List.getElem?_toArray]
    rw [hcode]
    cases hg : cs[X.pc]? with
    | none => rfl
    | some c =>
      cases c with
      | COMMENT msg =>
        simp only
        cases hp : parseCtx msg with
        | none => rfl
        | some kinds =>
          exfalso
          exact h ⟨_, hg, msg, rfl, by rw [hp]; intro e; cases e⟩
      | _ => rfl

end Scc.X86.Ref
