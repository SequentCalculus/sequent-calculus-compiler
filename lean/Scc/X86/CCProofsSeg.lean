/-
  Scc.X86.CCProofsSeg — property C13, x86-64, DYNAMIC part, the segments of a routine on the SPEC
  machine (Scc/X86/Machine.lean), WITHOUT any hypothesis on the values the program computes
  (registers and stack words may be undefined, operands arbitrary):

  * `Core c s`     — the calling-convention invariant at statement boundaries: 16 registers, `rsp` at the
                     bottom of the spill area, the six callee-saved entry values (sentinels) in the save
                     area above it, the return sentinel above those;
  * `RetReady c s` — what the exit check `retCheck` needs: `rsp` at its entry value, the sentinel there,
                     the callee-saved registers at their entry values;
  * `Future Q l s` — running the straight-line segment `l` (with external calls, `execSeq`) from `s`
                     either ends in a state satisfying `Q` or stops with an error that is NOT a fault of
                     the calling-convention monitor (`OKErr`).
  Proved: `straight_future` (plain instructions of integer programs keep `Core`), `prologue_future`
  (entry state ⟶ `Core`), `block_future` (a print block keeps `Core`: the call is made with
  `rsp ≡ 0 (mod 16)` WHATEVER the registers hold), `epilogue_future` (`Core` ⟶ `RetReady`),
  `retCheck_safe` (`RetReady` ⟶ the exit check ends in `done` or `read-undefined rax`).
-/
import Scc.X86.CCProofsFrame
import Scc.X86.ProofsStep

set_option linter.unusedSimpArgs false

namespace Scc.X86.CC

open Scc.AxCut

/-- the machine configuration is sane, the stack top is 16-aligned (so that the System V entry
    condition `rsp ≡ 8 (mod 16)` holds) and the stack region has room for the frame of the routine:
    return word, save area (48), spill area (2048), pushes of a print block (72) -/
structure CfgCC (c : MachCfg) : Prop where
  ok : CfgOK c
  top16 : c.stackTop % 16 = 0
  room : c.stackLow + 2176 ≤ c.stackTop

theorem cfgCC_default : CfgCC {} := ⟨cfgOK_default, by decide, by decide⟩

/-- the calling-convention invariant at statement boundaries -/
structure Core (c : MachCfg) (s : State) : Prop where
  size : s.regs.size = 16
  rsp : s.regs[0]? = some (some (BitVec.ofNat 64 (c.stackTop - 8 - 2096)))
  saved : ∀ k (hk : k < 6), s.stackMem[c.stackTop - 8 - 8 * (k + 1)]? =
    some (calleeSentinel ([2, 3, 12, 13, 14, 15][k]'hk))
  ret : s.stackMem[c.stackTop - 8]? = some retSentinel

/-- the state in which `ret` passes the exit check -/
structure RetReady (c : MachCfg) (s : State) : Prop where
  size : s.regs.size = 16
  rsp : s.regs[0]? = some (some (BitVec.ofNat 64 (c.stackTop - 8)))
  ret : s.stackMem[c.stackTop - 8]? = some retSentinel
  cs : ∀ r ∈ calleeSaved, s.regs[r]? = some (some (calleeSentinel r))

/-- the entry state of `asm_main` (System V) -/
structure Entry (c : MachCfg) (s : State) : Prop where
  size : s.regs.size = 16
  rsp : s.regs[0]? = some (some (BitVec.ofNat 64 (c.stackTop - 8)))
  rdi : ∃ h, s.regs[7]? = some (some h)
  ret : s.stackMem[c.stackTop - 8]? = some retSentinel
  cs : ∀ r ∈ calleeSaved, s.regs[r]? = some (some (calleeSentinel r))

theorem Core.setPS {c : MachCfg} {s : State} (h : Core c s) (p k : Nat) : Core c (setPS s p k) :=
  ⟨h.size, h.rsp, h.saved, h.ret⟩

theorem RetReady.setPS {c : MachCfg} {s : State} (h : RetReady c s) (p k : Nat) : RetReady c (setPS s p k) :=
  ⟨h.size, h.rsp, h.ret, h.cs⟩

section Seq
variable {c : MachCfg} {la : String → Option Nat}

theorem execSeq_append (l1 l2 : List Code) (s : State) :
    execSeq c la (l1 ++ l2) s =
      match execSeq c la l1 s with
      | .ok s1 => execSeq c la l2 s1
      | .error e => .error e := by
  induction l1 generalizing s with
  | nil => simp [execSeq]
  | cons code rest ih =>
    simp only [List.cons_append, execSeq]
    cases h : execCode c la code s with
    | error e => simp
    | ok r =>
      obtain ⟨s1, ctl⟩ := r
      cases ctl <;> simp only [ih]
      cases callExt s1 _ <;> simp [ih]

theorem execSeq_noCall {l : List Code} (h : NoCall l) (s : State) : execSeq c la l s = execStraight c la l s := by
  induction l generalizing s with
  | nil => rfl
  | cons code rest ih =>
    have hc : isCall code = false := h code (by simp)
    simp only [execSeq, execStraight]
    cases hx : execCode c la code s with
    | error e => rfl
    | ok r =>
      obtain ⟨s1, ctl⟩ := r
      cases ctl with
      | next => exact ih (fun c' hc' => h c' (by simp [hc'])) s1
      | callExt f =>
        rcases execCode_ctl hx with h' | ⟨l, _, h'⟩ | ⟨l, _, h'⟩ | ⟨r, a, _, h'⟩ | ⟨f', hcode, _, _⟩ | ⟨_, h', _⟩
        · cases h'
        · cases h'
        · cases h'
        · cases h'
        · rw [hcode] at hc; cases hc
        · cases h'
      | jumpLabel l => rfl
      | jumpAddr a => rfl
      | ret => rfl

/-- running the segment `l` from `s` ends in `Q` or stops with an error that the calling-convention
    monitor does not raise -/
def Future (c : MachCfg) (la : String → Option Nat) (Q : State → Prop) (l : List Code) (s : State) : Prop :=
  match execSeq c la l s with
  | .ok s' => Q s'
  | .error e => OKErr e

theorem Future.nil {Q : State → Prop} {s : State} (h : Q s) : Future c la Q [] s := h

theorem Future.append {Q : State → Prop} {l1 l2 : List Code} {s : State}
    (h : Future c la (Future c la Q l2) l1 s) : Future c la Q (l1 ++ l2) s := by
  unfold Future at h ⊢
  rw [execSeq_append]
  cases h1 : execSeq c la l1 s with
  | error e => simp only [h1] at h ⊢; exact h
  | ok s1 => simp only [h1] at h ⊢; exact h

theorem Future.mono {Q Q' : State → Prop} {l : List Code} {s : State} (h : Future c la Q l s)
    (hq : ∀ s', Q s' → Q' s') : Future c la Q' l s := by
  unfold Future at h ⊢
  cases h1 : execSeq c la l s with
  | error e => simp only [h1] at h ⊢; exact h
  | ok s1 => simp only [h1] at h ⊢; exact hq _ h

theorem Future.call {Q : State → Prop} {f : String} {rest : List Code} {s : State}
    (h : match callExt s f with
      | .ok s2 => Future c la Q rest s2
      | .error e => OKErr e) : Future c la Q (Code.CALL f :: rest) s := by
  unfold Future
  simp only [execSeq, execCode]
  cases hc : callExt s f <;> simp only [hc] at h ⊢ <;> exact h

theorem Future.ofStraight {Q : State → Prop} {l : List Code} {s s' : State} (hn : NoCall l)
    (hx : execStraight c la l s = .ok s') (hq : Q s') : Future c la Q l s := by
  unfold Future
  rw [execSeq_noCall hn, hx]
  exact hq

end Seq

/- from here on `Future` is used through the lemmas above: unfolding it by `whnf` on a concrete segment would
run the machine -/
attribute [irreducible] Future

section Plain
variable {c : MachCfg} {la : String → Option Nat}

theorem plainInt_spec {code : Code} (h : plainInt code = true) :
    plainCC code = true ∧ (∀ bi ∈ codeMems code, bi.1 = 0) ∧ isIndirect code = false ∧
      (∀ l, codeJumpRef code = some l → l ≠ "asm_main") := by
  simp only [plainInt, Bool.and_eq_true, List.all_eq_true, beq_iff_eq, Bool.not_eq_true'] at h
  refine ⟨h.1.1.1, h.1.1.2, h.1.2, ?_⟩
  intro l hl
  have := h.2
  rw [hl] at this
  simpa using this

theorem ofNat_add_ofInt {m : Nat} {i : Int} (h0 : 0 ≤ i) (hm : m + i.toNat < 2 ^ 64) :
    (BitVec.ofNat 64 m + BitVec.ofInt 64 i).toNat = m + i.toNat := by
  obtain ⟨k, rfl⟩ := Int.eq_ofNat_of_zero_le h0
  simp only [Int.toNat_natCast] at hm ⊢
  rw [show BitVec.ofInt 64 ((k : Nat) : Int) = BitVec.ofNat 64 k from by simp [BitVec.ofInt_natCast]]
  rw [ofNat_add hm, ofNat_toNat hm]

/-- a frame that does not touch `rsp`, the save area or the return word keeps the invariant -/
theorem core_of_fr {s s' : State} {W : List Nat} {A : Nat → Prop} (C : Core c s) (F : Fr W A s s')
    (h0 : 0 ∉ W) (hA : ∀ n, A n → n < c.stackTop - 8 - 48) : Core c s' := by
  refine ⟨F.size.trans C.size, (F.regs 0 h0).trans C.rsp, ?_, ?_⟩
  · intro k hk
    rw [F.mem _ (fun h => by have := hA _ h; omega)]
    exact C.saved k hk
  · rw [F.mem _ (fun h => by have := hA _ h; omega)]
    exact C.ret

/-- under `Core`, the memory operands of a plain instruction of an integer program address the spill
    area -/
theorem memAddrs_plainInt (H : CfgCC c) {s : State} (C : Core c s) {code : Code} (hp : plainInt code = true) :
    ∀ n, MemAddrs s code n → n < c.stackTop - 8 - 48 := by
  obtain ⟨hcc, hb0, _, _⟩ := plainInt_spec hp
  obtain ⟨_, _, hslot⟩ := plainCC_spec hcc
  rintro n ⟨b, i, hmem, v, hv, rfl⟩
  have hb : b = 0 := hb0 (b, i) hmem
  subst hb
  have hs := hslot (0, i) hmem rfl
  simp only [slotOK, Bool.and_eq_true, decide_eq_true_eq] at hs
  have hv' : v = BitVec.ofNat 64 (c.stackTop - 8 - 2096) := by
    simp only [rd, C.rsp, Except.ok.injEq] at hv
    exact hv.symm
  have ht := H.ok.top
  have hr := H.room
  rw [hv', ofNat_add_ofInt hs.1.1 (by omega)]
  omega

def straightInt (code : Code) : Bool := plainInt code && (codeJumpRef code).isNone

theorem plain_exec (H : CfgCC c) {s s1 : State} {code : Code} {ctl : Ctl} (C : Core c s)
    (hp : plainInt code = true) (hx : execCode c la code s = .ok (s1, ctl)) :
    Core c s1 ∧ (ctl = .next ∨ ∃ l, codeJumpRef code = some l ∧ ctl = .jumpLabel l ∧ l ≠ "asm_main") := by
  obtain ⟨hcc, _, hind, hlab⟩ := plainInt_spec hp
  obtain ⟨hso, hw0, _⟩ := plainCC_spec hcc
  refine ⟨core_of_fr C (execCode_fr hx hso) hw0 (memAddrs_plainInt H C hp), ?_⟩
  rcases execCode_ctl hx with h' | ⟨l, hl, h'⟩ | ⟨l, hcode, _⟩ | ⟨r, a, hcode, _⟩ | ⟨f, hcode, _, _⟩ | ⟨hcode, _, _⟩
  · exact Or.inl h'
  · exact Or.inr ⟨l, hl, h', hlab l hl⟩
  · rw [hcode] at hind; cases hind
  · rw [hcode] at hind; cases hind
  · rw [hcode] at hso; cases hso
  · rw [hcode] at hso; cases hso

theorem straight_future (H : CfgCC c) : ∀ (l : List Code), (∀ code ∈ l, straightInt code = true) →
    ∀ s, Core c s → Future c la (Core c) l s
  | [], _, s, C => Future.nil C
  | code :: rest, hl, s, C => by
    have hs := hl code (by simp)
    simp only [straightInt, Bool.and_eq_true] at hs
    unfold Future
    simp only [execSeq]
    cases hx : execCode c la code s with
    | error e => exact (execCode_err hx).okErr
    | ok r =>
      obtain ⟨s1, ctl⟩ := r
      obtain ⟨C1, hctl⟩ := plain_exec H C hs.1 hx
      rcases hctl with rfl | ⟨l, hl', _, _⟩
      · have h1 := straight_future H rest (fun c' hc' => hl c' (by simp [hc'])) s1 C1
        unfold Future at h1
        exact h1
      · rw [hl'] at hs; simp at hs

end Plain

section Segs
variable {c : MachCfg} {la : String → Option Nat}

theorem csList_mem (k : Nat) (hk : k < 6) : ([2, 3, 12, 13, 14, 15] : List Nat)[k]'hk ∈ calleeSaved := by
  have : k = 0 ∨ k = 1 ∨ k = 2 ∨ k = 3 ∨ k = 4 ∨ k = 5 := by omega
  rcases this with rfl | rfl | rfl | rfl | rfl | rfl <;> simp [calleeSaved]

theorem prologue_core (H : CfgCC c) {s : State} (E : Entry c s) :
    ∃ s1, execStraight c la prologue s = .ok s1 ∧ Core c s1 := by
  have ht := H.ok.top
  have hr := H.room
  have h16 := H.top16
  obtain ⟨h, h7⟩ := E.rdi
  have EO : EntryOK c s (c.stackTop - 8) := ⟨H.ok, E.size, E.rsp, by omega, by omega, by omega⟩
  obtain ⟨s1, e1, P⟩ := prologue_machine (la := la) EO h7
  refine ⟨s1, e1, P.size, P.rsp, ?_, ?_⟩
  · intro k hk
    have h1 := P.saved k hk
    rw [E.cs _ (csList_mem k hk)] at h1
    injection h1
  · rw [P.mem _ (fun k hk => by omega)]
    exact E.ret

theorem noCall_prologue : NoCall prologue := by
  intro c hc
  simp only [prologue, List.mem_append, List.mem_cons, List.mem_map, List.not_mem_nil, or_false] at hc
  rcases hc with ((rfl | rfl) | ⟨_, _, rfl⟩) | rfl | rfl | rfl | rfl | rfl | rfl | rfl <;> rfl

/-- the routine header from `asm_main:` to the first instruction of the body -/
theorem prologue_future (H : CfgCC c) {s : State} (E : Entry c s) {moves : List Code}
    (hm : ∀ code ∈ moves, straightInt code = true) :
    Future c la (Core c) (Code.LAB "asm_main" :: (prologue ++ (moves ++ [Code.COMMENT "actual code"]))) s := by
  obtain ⟨s1, e1, C1⟩ := prologue_core (la := la) H E
  have h2 : Future c la (Core c) (moves ++ [Code.COMMENT "actual code"]) s1 :=
    straight_future H _ (fun code hc => by
      rcases List.mem_append.1 hc with hc | hc
      · exact hm code hc
      · simp only [List.mem_singleton] at hc; subst hc; rfl) s1 C1
  have h3 : Future c la (Core c) (prologue ++ (moves ++ [Code.COMMENT "actual code"])) s :=
    Future.append (Future.ofStraight noCall_prologue e1 h2)
  unfold Future at h3 ⊢
  simp only [execSeq, execCode]
  exact h3

theorem epilogue_ready (H : CfgCC c) {s : State} (C : Core c s) :
    ∃ s3, execStraight c la epilogue s = .ok s3 ∧ RetReady c s3 := by
  have ht := H.ok.top
  have hr := H.room
  have h16 := H.top16
  have R := s.rel_view C.size
  have hsp : s.view.reg 0 = some (BitVec.ofNat 64 (c.stackTop - 8 - 2096)) := by
    have := R.regs 0 (by decide); rw [C.rsp] at this; injection this with e; exact e.symm
  obtain ⟨a3, e3, E3⟩ := a_epilogue (la := la) H.ok s.view (c.stackTop - 8) hsp (by omega) (by omega) (by omega)
  obtain ⟨s3, es, R3, _⟩ := sim_execList la R e3
  refine ⟨s3, es, R3.size, ?_, ?_, ?_⟩
  · rw [R3.regs 0 (by decide), E3.rsp]
  · rw [R3.mem, E3.mem]
    exact C.ret
  · have key : ∀ k (hk : k < 6), s3.regs[[2, 3, 12, 13, 14, 15][k]'hk]? =
        some (some (calleeSentinel ([2, 3, 12, 13, 14, 15][k]'hk))) := by
      intro k hk
      rw [R3.regs _ (csList_lt k hk), E3.restored k hk]
      show some (s.stackMem[c.stackTop - 8 - 8 * (k + 1)]?) = _
      rw [C.saved k hk]
    intro r hr
    simp only [calleeSaved, List.mem_cons, List.not_mem_nil, or_false] at hr
    rcases hr with rfl | rfl | rfl | rfl | rfl | rfl
    · exact key 0 (by decide)
    · exact key 1 (by decide)
    · exact key 2 (by decide)
    · exact key 3 (by decide)
    · exact key 4 (by decide)
    · exact key 5 (by decide)

theorem noCall_epilogue : NoCall epilogue := by
  intro c hc
  simp only [epilogue, List.mem_append, List.mem_cons, List.mem_map, List.not_mem_nil, or_false] at hc
  rcases hc with (rfl | rfl | rfl | rfl) | ⟨_, _, rfl⟩ <;> rfl

theorem epilogue_future (H : CfgCC c) {s : State} (C : Core c s) : Future c la (RetReady c) epilogue s := by
  obtain ⟨s3, e3, R3⟩ := epilogue_ready (la := la) H C
  exact Future.ofStraight noCall_epilogue e3 R3

/-- the exit check from `RetReady`: `done`, or the result register is undefined — never a
    calling-convention violation -/
theorem retCheck_safe (H : CfgCC c) {s : State} (R : RetReady c s) :
    (∃ v, retCheck c s = .ok v) ∨ (∃ e, retCheck c s = .error (.fault e 0) ∧ MErr e) := by
  have ht := H.ok.top
  have hb := H.ok.heapBelow
  have hr := H.room
  have h16 := H.top16
  cases h4 : s.regs[4]? with
  | none =>
    have : 4 < s.regs.size := by rw [R.size]; decide
    simp [Array.getElem?_eq_getElem this] at h4
  | some o =>
    cases o with
    | some v =>
      exact Or.inl ⟨v, retCheck_ok H.ok (by omega) (by omega) R.rsp R.ret R.cs h4⟩
    | none =>
      refine Or.inr ⟨_, ?_, merr_undefReg 4⟩
      have hlt : c.stackTop - 8 < 2 ^ 64 := by omega
      have e : (BitVec.ofNat 64 (c.stackTop - 8)).toNat = c.stackTop - 8 := by
        simp [BitVec.toNat_ofNat, Nat.mod_eq_of_lt hlt]
      have hload : loadWord c s (BitVec.ofNat 64 (c.stackTop - 8)) = .ok retSentinel := by
        have h1 : (c.stackTop - 8) % 8 = 0 := by omega
        have h2 : inHeap c (c.stackTop - 8) = false := by
          unfold inHeap; rw [Bool.and_eq_false_iff]; right; rw [decide_eq_false_iff_not]; omega
        have h3 : inStack c (c.stackTop - 8) = true := by
          unfold inStack; rw [Bool.and_eq_true, decide_eq_true_eq, decide_eq_true_eq]; omega
        simp [loadWord, loadWordRaw, e, h1, h2, h3, R.ret]
      have hfind : calleeSaved.find? (fun r => s.regs[r]? != some (some (calleeSentinel r))) = none := by
        rw [List.find?_eq_none]
        intro r hr
        simp [R.cs r hr]
      simp only [retCheck, rd, R.rsp, hload, h4, hfind, e]
      simp
      omega

/-- view level: the part of a print block before the call runs for ANY register contents and ends
    with `rsp ≡ 0 (mod 16)` and the stack from the boundary `rsp` upwards unchanged; from any state
    with that `rsp` the part after the call runs and puts `rsp` back -/
theorem a_print_frame (hc : CfgOK c) (ctx : Ctx) (t : Temporary) (hsrc : TempOK t)
    (a : AState) (m : Nat) (hsp : a.reg 0 = some (BitVec.ofNat 64 m)) (h16 : m % 16 = 8)
    (hlow : c.stackLow + 72 ≤ m) (htop : m + 2048 ≤ c.stackTop) :
    ∃ a4 sp, aexecList c la (blockBefore t ctx) a = some a4 ∧ a4.reg 0 = some (BitVec.ofNat 64 sp) ∧
      sp % 16 = 0 ∧ sp ≤ m ∧ (∀ n, m ≤ n → a4.mem n = a.mem n) ∧
      ∀ a5 : AState, a5.reg 0 = some (BitVec.ofNat 64 sp) →
        ∃ a8, aexecList c la (blockAfter ctx) a5 = some a8 ∧ a8.reg 0 = some (BitVec.ofNat 64 m) ∧
          a8.mem = a5.mem := by
  have hcs := csri_eq ctx
  generalize hfirst : max (2 * ctx.length + 4) 12 = first at hcs
  generalize hLdef : regsToSave (ctx.take 4) 0 = L at hcs
  have hb := regsToSave_bounds (ctx.take 4) 0
  rw [hLdef] at hb
  obtain ⟨hb1, hb2⟩ := hb
  have hlen4 : (ctx.take 4).length ≤ 4 := by simp; omega
  have hLlen : L.length ≤ 8 := by omega
  have hL : ∀ r ∈ L, 4 ≤ r ∧ r < 12 := fun r hr => by have := hb1 r hr; omega
  have hf12 : 12 ≤ first := by rw [← hfirst]; exact Nat.le_max_right _ _
  have hnd : L.Nodup := hLdef ▸ regsToSave_nodup _ _
  have ht := hc.top
  have h8 : m % 8 = 0 := by omega
  -- the staging of a spilled argument
  have hpre : ∃ a0, aexecList c la (printPre t) a = some a0 ∧ a0.reg 0 = a.reg 0 ∧ a0.mem = a.mem := by
    cases t with
    | reg r => exact ⟨a, rfl, rfl, rfl⟩
    | spill p =>
      have hp : p < 256 := hsrc.2
      have hw : StackWord c (m + (2048 - 8 * (p + 1))) := ⟨by omega, by omega, by omega⟩
      have hoff : stackOffset p = ((2048 - 8 * (p + 1) : Nat) : Int) := by rw [stackOffset_eq]; omega
      refine ⟨a.setReg 1 (a.mem (m + (2048 - 8 * (p + 1)))), ?_, by simp, rfl⟩
      simp only [printPre, moveToRegister, List.singleton_append, aexecList_cons', aexec_COMMENT, TEMP_eq,
        STACK_eq]
      rw [aexec_MOVL_rsp hc hoff (by decide : 1 < 16) hsp (fitsI32_stackOffset hp) hw]
      rfl
  obtain ⟨a0, e0, hsp0', M0⟩ := hpre
  have hsp0 : a0.reg 0 = some (BitVec.ofNat 64 m) := by rw [hsp0', hsp]
  obtain ⟨a3, e3, hsp3, R3, B3, S3, M3⟩ := a_saveSeq (la := la) hc first L hL hLlen hf12 a0 m hsp0 h8 hlow
    (by omega)
  generalize hused : backupRegistersUsed first L = used at hsp3
  have hu1 : used ≤ L.length := by rw [← hused]; unfold backupRegistersUsed; omega
  have hcsp : callSp m (L.length - used) % 16 = 0 ∧ callSp m (L.length - used) ≤ m := by
    unfold callSp; split <;> omega
  have hsr : jumpReg t < 16 := by
    cases t with
    | reg r => exact hsrc.2
    | spill p => simp [jumpReg, TEMP_eq]
  refine ⟨a3.setReg 7 (a3.reg (jumpReg t)), callSp m (L.length - used), ?_, ?_, hcsp.1, hcsp.2, ?_, ?_⟩
  · unfold blockBefore
    rw [hcs]
    dsimp only
    rw [aexecList_append, aexecList_append, aexecList_append, e0]
    dsimp only [aexecList, aexec_COMMENT]
    rw [e3]
    dsimp only
    simp only [aexecList_cons', aexec_COMMENT, printArgMove, aexec_MOV' (by decide : 7 < 16) hsr, aexecList]
  · simp only [AState.setReg_reg, show ¬ ((0 : Nat) = 7) by decide, if_false]
    exact hsp3
  · intro n hn
    simp only [AState.setReg_mem]
    rw [M3 n hn, M0]
  · intro a5 hsp5
    have hsp5' : a5.reg 0 = some (BitVec.ofNat 64 (callSp m (L.length - backupRegistersUsed first L))) := by
      rw [hused]; exact hsp5
    obtain ⟨a8, e8, hsp8, _, _, _, M8⟩ := a_restoreSeq (la := la) hc first L hL hnd hLlen hf12 a5 m hsp5' h8
      hlow (by omega)
    refine ⟨a8, ?_, hsp8, M8⟩
    unfold blockAfter
    rw [hcs]
    dsimp only
    rw [aexecList_cons', aexec_COMMENT]
    exact e8

/-- A PRINT BLOCK KEEPS THE INVARIANT, whatever the registers hold: the save sequence always runs,
    the call is made with `rsp ≡ 0 (mod 16)` (the only error it can raise is an undefined argument), and
    the restore sequence puts `rsp` back; the save area and the return word are never touched -/
theorem block_future (H : CfgCC c) {ctx : Ctx} {t : Temporary} (hs : PrintSrc ctx t) (nl : Bool)
    {s : State} (C : Core c s) : Future c la (Core c) (printI64 nl t ctx) s := by
  have ht := H.ok.top
  have hr := H.room
  have h16 := H.top16
  have R := s.rel_view C.size
  have hsp : s.view.reg 0 = some (BitVec.ofNat 64 (c.stackTop - 8 - 2096)) := by
    have := R.regs 0 (by decide); rw [C.rsp] at this; injection this with e; exact e.symm
  obtain ⟨a4, sp, e4, hsp4, hal, hle, M4, hafter⟩ := a_print_frame (la := la) H.ok ctx t hs.tempOK.1 s.view
    (c.stackTop - 8 - 2096) hsp (by omega) (by omega) (by omega)
  obtain ⟨s4, es4, R4, _⟩ := sim_execList la R e4
  rw [printI64_split]
  apply Future.append
  apply Future.ofStraight (noCall_blockBefore t ctx) es4
  apply Future.call
  have hsp4' : rd s4 0 = .ok (BitVec.ofNat 64 sp) := by
    simp [rd, R4.regs 0 (by decide), hsp4]
  have hlt : sp < 2 ^ 64 := by omega
  cases h7 : a4.reg 7 with
  | none =>
    have : rd s4 7 = .error s!"read-undefined {regName 7}" := by
      simp [rd, R4.regs 7 (by decide), h7]
    have hcall : callExt s4 (printFn nl) = .error s!"read-undefined {regName 7}" := by
      unfold callExt
      have hfn : ¬ ((printFn nl ≠ "print_i64" && printFn nl ≠ "println_i64") = true) := by
        cases nl <;> simp [printFn]
      rw [if_neg hfn]
      simp only [hsp4', this]
    rw [hcall]
    exact (merr_undefReg 7).okErr
  | some arg =>
    have hacall : acall a4 (printFn nl) = some (callView a4 sp, (nl, arg)) := by
      unfold acall
      have hfn : ¬ ((printFn nl ≠ "print_i64" && printFn nl ≠ "println_i64") = true) := by
        cases nl <;> simp [printFn]
      rw [if_neg hfn]
      simp only [ard, show (0 : Nat) < 16 by decide, show (7 : Nat) < 16 by decide, if_true, hsp4, h7]
      rw [if_neg (by rw [ofNat_toNat hlt]; omega)]
      simp only [ofNat_toNat hlt]
      cases nl <;> simp [printFn]
    obtain ⟨s5, e5, R5, _, _, _⟩ := sim_call R4 hacall
    rw [e5]
    dsimp only
    have hsp5 : (callView a4 sp).reg 0 = some (BitVec.ofNat 64 sp) := by
      simp [callView, callerSaved, hsp4]
    obtain ⟨a8, e8, hsp8, M8⟩ := hafter _ hsp5
    obtain ⟨s8, es8, R8, _⟩ := sim_execList la R5 e8
    have hq : Core c s8 := by
      have hmem : ∀ n, c.stackTop - 8 - 2096 ≤ n → s8.stackMem[n]? = s.stackMem[n]? := by
        intro n hn
        rw [R8.mem, M8]
        simp only [callView]
        rw [if_pos (by omega), M4 n hn]
        rfl
      refine ⟨R8.size, by rw [R8.regs 0 (by decide), hsp8], ?_, ?_⟩
      · intro k hk
        rw [hmem _ (by omega)]
        exact C.saved k hk
      · rw [hmem _ (by omega)]
        exact C.ret
    exact Future.ofStraight (noCall_blockAfter ctx) es8 hq

end Segs

end Scc.X86.CC
