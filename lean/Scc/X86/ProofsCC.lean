/-
  Scc.X86.ProofsCC — calling-convention lemmas (property C13) for the x86-64 backend, on the
  functional view of Proofs.lean (transfer to the machine by `sim_execList`):
  push / pop lists, `setup` / `cleanup` of into_routine.rs (prologue_epilogue), the arithmetic of the
  stack-pointer invariant (`sp_invariant`), and the alignment of `rsp` at the call of the print runtime FOR EVERY CONTEXT
  (code.rs caller_save_registers_info / save_caller_save_registers).
-/
import Scc.X86.ProofsFrame

namespace Scc.X86

/-- An 8-byte stack word the machine may access. -/
structure StackWord (c : MachCfg) (n : Nat) : Prop where
  aligned : n % 8 = 0
  low : c.stackLow ≤ n
  high : n + 8 ≤ c.stackTop

theorem aaddr_stackWord {c : MachCfg} (hc : CfgOK c) {n : Nat} (h : StackWord c n) :
    aaddr c (BitVec.ofNat 64 n) = some n := by
  have h1 := hc.top
  have h2 := hc.heapBelow
  have hlt : n < 2 ^ 64 := by have := h.high; omega
  have e : (BitVec.ofNat 64 n).toNat = n := by simp [BitVec.toNat_ofNat, Nat.mod_eq_of_lt hlt]
  have : n % 8 = 0 ∧ inHeap c n = false ∧ inStack c n = true := by
    refine ⟨h.aligned, ?_, ?_⟩
    · unfold inHeap
      rw [Bool.and_eq_false_iff]; right
      rw [decide_eq_false_iff_not]; have := h.low; omega
    · unfold inStack
      rw [Bool.and_eq_true, decide_eq_true_eq, decide_eq_true_eq]; exact ⟨h.low, h.high⟩
  simp [aaddr, e, this]

theorem ofNat_sub {m k : Nat} (hk : k ≤ m) (hm : m < 2 ^ 64) :
    BitVec.ofNat 64 m - BitVec.ofNat 64 k = BitVec.ofNat 64 (m - k) := by
  apply BitVec.eq_of_toNat_eq
  simp only [BitVec.toNat_sub, BitVec.toNat_ofNat]
  have hk' : k < 2 ^ 64 := by omega
  rw [Nat.mod_eq_of_lt hm, Nat.mod_eq_of_lt hk', Nat.mod_eq_of_lt (by omega : m - k < 2 ^ 64)]
  omega

theorem ofNat_add {m k : Nat} (hm : m + k < 2 ^ 64) :
    BitVec.ofNat 64 m + BitVec.ofNat 64 k = BitVec.ofNat 64 (m + k) := by
  apply BitVec.eq_of_toNat_eq
  simp only [BitVec.toNat_add, BitVec.toNat_ofNat]
  rw [Nat.mod_eq_of_lt (by omega : m < 2 ^ 64), Nat.mod_eq_of_lt (by omega : k < 2 ^ 64),
    Nat.mod_eq_of_lt hm]

section Micro
variable {c : MachCfg} {la : String → Option Nat} {a : AState}

/-- `push r` with `rsp = m`: the (possibly undefined) register goes to `[m - 8]`, `rsp = m - 8` -/
theorem aexec_PUSH (hc : CfgOK c) {r m : Nat} (hr : r < 16) (hsp : a.reg 0 = some (BitVec.ofNat 64 m))
    (h8 : 8 ≤ m) (hw : StackWord c (m - 8)) :
    aexec c la (.PUSH r) a =
      some ((a.setMem (m - 8) (a.reg r)).setReg 0 (some (BitVec.ofNat 64 (m - 8)))) := by
  have hm : m < 2 ^ 64 := by have := hw.high; have := hc.top; omega
  have e : BitVec.ofNat 64 m - 8 = BitVec.ofNat 64 (m - 8) := ofNat_sub (k := 8) h8 hm
  simp only [aexec, ardRaw, hr, if_true, ard, show (0 : Nat) < 16 by decide, hsp, e, astoreRaw,
    aaddr_stackWord hc hw, awr, awrRaw]

theorem aexec_POP (hc : CfgOK c) {r m : Nat} (hr : r < 16) (hsp : a.reg 0 = some (BitVec.ofNat 64 m))
    (hw : StackWord c m) :
    aexec c la (.POP r) a =
      some ((a.setReg 0 (some (BitVec.ofNat 64 (m + 8)))).setReg r (a.mem m)) := by
  have hm : m + 8 < 2 ^ 64 := by have := hw.high; have := hc.top; omega
  have e : BitVec.ofNat 64 m + 8 = BitVec.ofNat 64 (m + 8) := ofNat_add (k := 8) hm
  simp only [aexec, ard, show (0 : Nat) < 16 by decide, if_true, hsp, aloadRaw, aaddr_stackWord hc hw,
    awr, awrRaw, e, hr]

theorem aexec_SUBI_rsp {m : Nat} {k : Nat} {i : Int} (hi : i = (k : Int))
    (hsp : a.reg 0 = some (BitVec.ofNat 64 m)) (hk : k ≤ m)
    (hm : m < 2 ^ 64) (hk32 : fitsI32 (k : Int) = true) :
    aexec c la (.SUBI 0 i) a =
      some { a.setReg 0 (some (BitVec.ofNat 64 (m - k))) with flags := none } := by
  subst hi
  have e : BitVec.ofNat 64 m - BitVec.ofInt 64 (k : Int) = BitVec.ofNat 64 (m - k) := by
    rw [show BitVec.ofInt 64 (k : Int) = BitVec.ofNat 64 k from by simp [BitVec.ofInt_natCast]]
    exact ofNat_sub hk hm
  simp only [aexec, aalu, areadLoc, ard, show (0 : Nat) < 16 by decide, if_true, hsp, areadSrc, aimm32,
    hk32, awriteLoc, awr, awrRaw, e]

theorem aexec_ADDI_rsp {m : Nat} {k : Nat} {i : Int} (hi : i = (k : Int))
    (hsp : a.reg 0 = some (BitVec.ofNat 64 m))
    (hm : m + k < 2 ^ 64) (hk32 : fitsI32 (k : Int) = true) :
    aexec c la (.ADDI 0 i) a =
      some { a.setReg 0 (some (BitVec.ofNat 64 (m + k))) with flags := none } := by
  subst hi
  have e : BitVec.ofNat 64 m + BitVec.ofInt 64 (k : Int) = BitVec.ofNat 64 (m + k) := by
    rw [show BitVec.ofInt 64 (k : Int) = BitVec.ofNat 64 k from by simp [BitVec.ofInt_natCast]]
    exact ofNat_add hm
  simp only [aexec, aalu, areadLoc, ard, show (0 : Nat) < 16 by decide, if_true, hsp, areadSrc, aimm32,
    hk32, awriteLoc, awr, awrRaw, e]

theorem aexec_MOV' {r r1 : Nat} (hr : r < 16) (hr1 : r1 < 16) :
    aexec c la (.MOV r r1) a = some (a.setReg r (a.reg r1)) := by
  simp [aexec, ardRaw, awrRaw, hr, hr1]

theorem aexec_COMMENT (msg : String) : aexec c la (.COMMENT msg) a = some a := rfl

end Micro

section Lists
variable {c : MachCfg} {la : String → Option Nat}

theorem aexecList_cons' (code : Code) (rest : List Code) (a : AState) :
    aexecList c la (code :: rest) a =
      match aexec c la code a with
      | some a1 => aexecList c la rest a1
      | none => none := rfl

/-- Effect of `push l[0]; push l[1]; …` from `rsp = m`. -/
structure Pushed (a a' : AState) (m : Nat) (l : List Nat) : Prop where
  rsp : a'.reg 0 = some (BitVec.ofNat 64 (m - 8 * l.length))
  regs : ∀ r, r ≠ 0 → a'.reg r = a.reg r
  flags : a'.flags = a.flags
  saved : ∀ k (h : k < l.length), a'.mem (m - 8 * (k + 1)) = a.reg l[k]
  mem : ∀ n, (∀ k, k < l.length → n ≠ m - 8 * (k + 1)) → a'.mem n = a.mem n

theorem a_pushList (hc : CfgOK c) (l : List Nat) (hl : ∀ r ∈ l, r < 16 ∧ r ≠ 0) (a : AState) (m : Nat)
    (hsp : a.reg 0 = some (BitVec.ofNat 64 m)) (h8 : m % 8 = 0)
    (hlow : c.stackLow + 8 * l.length ≤ m) (htop : m ≤ c.stackTop) :
    ∃ a', aexecList c la (l.map Code.PUSH) a = some a' ∧ Pushed a a' m l := by
  induction l generalizing a m with
  | nil => exact ⟨a, rfl, ⟨by simpa using hsp, fun _ _ => rfl, rfl, fun k h => by simp at h, fun _ _ => rfl⟩⟩
  | cons r rest ih =>
    have hr := hl r (by simp)
    have hlen : (r :: rest).length = rest.length + 1 := rfl
    rw [hlen] at hlow
    have hw : StackWord c (m - 8) := ⟨by omega, by omega, by omega⟩
    have h8m : 8 ≤ m := by omega
    simp only [List.map_cons, aexecList_cons', aexec_PUSH hc hr.1 hsp h8m hw]
    obtain ⟨a', e, P⟩ := ih (fun r' h' => hl r' (by simp [h']))
      ((a.setMem (m - 8) (a.reg r)).setReg 0 (some (BitVec.ofNat 64 (m - 8)))) (m - 8) (by simp)
      (by omega) (by omega) (by omega)
    refine ⟨a', e, ⟨?_, ?_, ?_, ?_, ?_⟩⟩
    · rw [P.rsp, hlen]; congr 2; omega
    · intro r' hr'
      rw [P.regs r' hr']
      simp [hr']
    · rw [P.flags]; rfl
    · intro k hk
      cases k with
      | zero =>
        have : a'.mem (m - 8) = ((a.setMem (m - 8) (a.reg r)).setReg 0 (some (BitVec.ofNat 64 (m - 8)))).mem (m - 8) := by
          apply P.mem
          intro k hk'
          omega
        simpa using this
      | succ k =>
        have hk' : k < rest.length := by simpa using hk
        have := P.saved k hk'
        have e2 : m - 8 - 8 * (k + 1) = m - 8 * (k + 1 + 1) := by omega
        rw [e2] at this
        rw [this]
        have hne : rest[k] ≠ 0 := (hl rest[k] (by simp)).2
        simp [hne]
    · intro n hn
      have h0 : n ≠ m - 8 := by have := hn 0 (by simp); simpa using this
      rw [P.mem n (fun k hk => by
        have := hn (k + 1) (by simpa using hk)
        omega)]
      simp [h0]

/-- Effect of `pop l[0]; pop l[1]; …` from `rsp = m`. -/
structure Popped (a a' : AState) (m : Nat) (l : List Nat) : Prop where
  rsp : a'.reg 0 = some (BitVec.ofNat 64 (m + 8 * l.length))
  regs : ∀ r, r ≠ 0 → r ∉ l → a'.reg r = a.reg r
  flags : a'.flags = a.flags
  restored : ∀ k (h : k < l.length), a'.reg l[k] = a.mem (m + 8 * k)
  mem : a'.mem = a.mem

theorem a_popList (hc : CfgOK c) (l : List Nat) (hl : ∀ r ∈ l, r < 16 ∧ r ≠ 0) (hnd : l.Nodup)
    (a : AState) (m : Nat) (hsp : a.reg 0 = some (BitVec.ofNat 64 m)) (h8 : m % 8 = 0)
    (hlow : c.stackLow ≤ m) (htop : m + 8 * l.length ≤ c.stackTop) :
    ∃ a', aexecList c la (l.map Code.POP) a = some a' ∧ Popped a a' m l := by
  induction l generalizing a m with
  | nil => exact ⟨a, rfl, ⟨by simpa using hsp, fun _ _ _ => rfl, rfl, fun k h => by simp at h, rfl⟩⟩
  | cons r rest ih =>
    have hr := hl r (by simp)
    have hlen : (r :: rest).length = rest.length + 1 := rfl
    rw [hlen] at htop
    have hw : StackWord c m := ⟨h8, hlow, by omega⟩
    simp only [List.map_cons, aexecList_cons', aexec_POP hc hr.1 hsp hw]
    have hnd' := List.nodup_cons.1 hnd
    have hr0 : ¬ (0 = r) := fun e => hr.2 e.symm
    obtain ⟨a', e, P⟩ := ih (fun r' h' => hl r' (by simp [h'])) hnd'.2
      ((a.setReg 0 (some (BitVec.ofNat 64 (m + 8)))).setReg r (a.mem m)) (m + 8)
      (by simp [hr0]) (by omega) (by omega) (by omega)
    refine ⟨a', e, ⟨?_, ?_, ?_, ?_, ?_⟩⟩
    · rw [P.rsp, hlen]; congr 2; omega
    · intro r' hr' hnot
      have h1 : r' ≠ r := fun e => hnot (by simp [e])
      have h2 : r' ∉ rest := fun e => hnot (by simp [e])
      rw [P.regs r' hr' h2]
      simp [h1, hr']
    · rw [P.flags]; rfl
    · intro k hk
      cases k with
      | zero =>
        have : a'.reg r = ((a.setReg 0 (some (BitVec.ofNat 64 (m + 8)))).setReg r (a.mem m)).reg r :=
          P.regs r hr.2 hnd'.1
        simpa using this
      | succ k =>
        have hk' : k < rest.length := by simpa using hk
        have := P.restored k hk'
        simp only [List.getElem_cons_succ]
        rw [this]
        have e2 : m + 8 + 8 * k = m + 8 * (k + 1) := by omega
        simp [e2]
    · rw [P.mem]; rfl

/-- popping the reversed list: the register pushed `k`-th comes back from the `k`-th word below the top -/
theorem Popped.restored_rev {a a' : AState} {m : Nat} {l : List Nat} (P : Popped a a' m l.reverse)
    (k : Nat) (h : k < l.length) : a'.reg l[k] = a.mem (m + 8 * (l.length - 1 - k)) := by
  have := P.restored (l.length - 1 - k) (by simp only [List.length_reverse]; omega)
  rw [List.getElem_reverse] at this
  simpa [show l.length - 1 - (l.length - 1 - k) = k by omega] using this

/-- the registers `setup` pushes, as a concrete list (= `consts.calleeSavePushed`) -/
theorem calleeSavePushed_eq : consts.calleeSavePushed = [2, 3, 12, 13, 14, 15] := rfl

/-- `setup` without the parameter moves -/
def prologue : List Code :=
  [.COMMENT "setup", .COMMENT "save registers"] ++ [2, 3, 12, 13, 14, 15].map Code.PUSH ++
  [.COMMENT "reserve space for register spills", .SUBI 0 2048, .COMMENT "initialize heap pointer",
   .MOV 2 7, .COMMENT "initialize free pointer", .MOV 3 2, .ADDI 3 64]

theorem setup_eq (n : Nat) (moves : List Code) (h : moveArguments n = .ok moves) :
    setup n = .ok (prologue ++ moves) := by
  simp [setup, h, prologue, calleeSavePushed_eq, STACK, HEAP, FREE, ARG0, SPILL_SPACE, consts, fieldOffset,
    address, FIELD_SLOT_SIZE, FIELDS_PER_BLOCK, Scc.Backend.TempNum.toNat]

/-- `cleanup` without the final `ret` -/
def epilogue : List Code :=
  [.LAB "cleanup", .COMMENT "free space for register spills", .ADDI 0 2048, .COMMENT "restore registers"] ++
  [15, 14, 13, 12, 3, 2].map Code.POP

theorem cleanup_eq : cleanup = epilogue ++ [.RET] := by
  simp [cleanup, epilogue, calleeSavePushed_eq, STACK, SPILL_SPACE, consts]

/-- everything `into_x86_64_routine` puts before the body -/
def routineHead (moves : List Code) : List Code :=
  [Code.COMMENT "asmsyntax=nasm"] ++ preamble ++ (prologue ++ moves) ++ [Code.COMMENT "actual code"]

/-- the shape of the routine (into_routine.rs) -/
theorem routine_anatomy {body routine : List Code} {n : Nat} (h : intoRoutine body n = .ok routine) :
    ∃ moves, moveArguments n = .ok moves ∧ routine = routineHead moves ++ body ++ (epilogue ++ [Code.RET]) := by
  unfold intoRoutine at h
  cases hm : moveArguments n with
  | error e => simp [setup, hm] at h
  | ok moves =>
    rw [setup_eq n moves hm] at h
    simp only [Except.ok.injEq] at h
    exact ⟨moves, rfl, by rw [← h, ← cleanup_eq]; simp [routineHead]⟩

/-- State after `prologue` from an entry state with `rsp = m`: the six callee-saved registers are
    in the save area `[m - 48, m)`, `rsp = m - 48 - 2048`, HEAP = rdi, FREE = rdi + 64. -/
structure AfterPrologue (a a' : AState) (m : Nat) (h : Word) : Prop where
  rsp : a'.reg 0 = some (BitVec.ofNat 64 (m - 2096))
  heap : a'.reg 2 = some h
  free : a'.reg 3 = some (h + 64)
  regs : ∀ r, r ≠ 0 → r ≠ 2 → r ≠ 3 → a'.reg r = a.reg r
  saved : ∀ k (hk : k < 6), a'.mem (m - 8 * (k + 1)) = a.reg ([2, 3, 12, 13, 14, 15][k]'hk)
  mem : ∀ n, (∀ k, k < 6 → n ≠ m - 8 * (k + 1)) → a'.mem n = a.mem n

theorem a_prologue (hc : CfgOK c) (a : AState) (m : Nat) (h : Word)
    (hsp : a.reg 0 = some (BitVec.ofNat 64 m)) (h8 : m % 8 = 0)
    (hlow : c.stackLow + 2096 ≤ m) (htop : m ≤ c.stackTop) (h7 : a.reg 7 = some h) :
    ∃ a', aexecList c la prologue a = some a' ∧ AfterPrologue a a' m h := by
  obtain ⟨a1, e1, P⟩ := a_pushList (la := la) hc [2, 3, 12, 13, 14, 15] (by decide) a m hsp h8
    (by simp; omega) htop
  have hm : m - 8 * 6 < 2 ^ 64 := by have := hc.top; omega
  have l1 : ([2, 3, 12, 13, 14, 15] : List Nat).length = 6 := rfl
  have hrsp1 : a1.reg 0 = some (BitVec.ofNat 64 (m - 8 * 6)) := by rw [P.rsp, l1]
  have e48 : m - 8 * 6 - 2048 = m - 2096 := by omega
  unfold prologue
  rw [aexecList_append, aexecList_append]
  simp only [aexecList_cons', aexec_COMMENT, e1, aexecList]
  have hsub := aexec_SUBI_rsp (c := c) (la := la) (k := 2048) (i := 2048) rfl hrsp1 (by omega) hm (by decide)
  rw [hsub]
  simp only [aexec_MOV' (by decide : 2 < 16) (by decide : 7 < 16),
    aexec_MOV' (by decide : 3 < 16) (by decide : 2 < 16)]
  have h7' : a1.reg 7 = some h := by rw [P.regs 7 (by decide)]; exact h7
  refine ⟨_, by
    simp only [aexec, aalu, areadLoc, ard, show (3 : Nat) < 16 by decide, if_true, areadSrc, aimm32,
      show fitsI32 64 = true by decide, awriteLoc, awr, awrRaw, AState.setReg_reg]
    simp [h7']
    rfl, ?_⟩
  refine ⟨by simp [e48], by simp [h7'], by simp, ?_, ?_, ?_⟩
  · intro r h0 h2 h3
    simp [h0, h2, h3, P.regs r h0]
  · intro k hk
    have := P.saved k (by simpa using hk)
    simpa using this
  · intro n hn
    have := P.mem n (fun k hk => hn k (by simpa using hk))
    simpa using this

/-- State after `epilogue`: callee-saved registers reloaded from the save area, `rsp = m`. -/
structure AfterEpilogue (a a' : AState) (m : Nat) : Prop where
  rsp : a'.reg 0 = some (BitVec.ofNat 64 m)
  restored : ∀ k (hk : k < 6), a'.reg ([2, 3, 12, 13, 14, 15][k]'hk) = a.mem (m - 8 * (k + 1))
  regs : ∀ r, r ≠ 0 → r ∉ [2, 3, 12, 13, 14, 15] → a'.reg r = a.reg r
  mem : a'.mem = a.mem

theorem a_epilogue (hc : CfgOK c) (a : AState) (m : Nat)
    (hsp : a.reg 0 = some (BitVec.ofNat 64 (m - 2096))) (h8 : m % 8 = 0)
    (hlow : c.stackLow + 2096 ≤ m) (htop : m ≤ c.stackTop) :
    ∃ a', aexecList c la epilogue a = some a' ∧ AfterEpilogue a a' m := by
  have ht := hc.top
  have hadd := aexec_ADDI_rsp (c := c) (la := la) (k := 2048) (i := 2048) rfl hsp (by omega) (by decide)
  have e1 : m - 2096 + 2048 = m - 48 := by omega
  rw [e1] at hadd
  obtain ⟨a2, e2, P⟩ := a_popList (la := la) hc [15, 14, 13, 12, 3, 2] (by decide) (by decide)
    ({ a.setReg 0 (some (BitVec.ofNat 64 (m - 48))) with flags := none } : AState) (m - 48) (by simp)
    (by omega) (by omega) (by simp; omega)
  refine ⟨a2, ?_, ?_⟩
  · unfold epilogue
    rw [aexecList_append]
    simp only [aexecList_cons', aexec_COMMENT, hadd, aexecList]
    rw [show aexec c la (Code.LAB "cleanup") a = some a from rfl]
    simp only [hadd]
    exact e2
  · have l1 : ([15, 14, 13, 12, 3, 2] : List Nat).length = 6 := rfl
    refine ⟨?_, ?_, ?_, ?_⟩
    · rw [P.rsp, l1]; congr 2; omega
    · intro k hk
      rw [Popped.restored_rev (l := [2, 3, 12, 13, 14, 15]) P k hk]
      show a.mem (m - 48 + 8 * (6 - 1 - k)) = a.mem (m - 8 * (k + 1))
      rw [show m - 48 + 8 * (6 - 1 - k) = m - 8 * (k + 1) by omega]
    · intro r h0 hnot
      rw [P.regs r h0 (by simp at hnot ⊢; omega)]
      simp [h0]
    · rw [P.mem]; rfl

/-- prologue_epilogue (view level): whatever the body does, as long as it leaves `rsp` where the
    prologue put it and does not write the save area or anything above it, the epilogue returns
    with the six callee-saved registers and `rsp` at their entry values and the stack above the
    entry `rsp` (the return address) intact. -/
theorem a_prologue_epilogue (hc : CfgOK c) (a0 a1 a2 : AState) (m : Nat) (h : Word)
    (h8 : m % 8 = 0) (hlow : c.stackLow + 2096 ≤ m) (htop : m ≤ c.stackTop)
    (hpro : AfterPrologue a0 a1 m h)
    (hbody_rsp : a2.reg 0 = a1.reg 0)
    (hbody_mem : ∀ n, m - 48 ≤ n → a2.mem n = a1.mem n) :
    ∃ a3, aexecList c la epilogue a2 = some a3 ∧
      a3.reg 0 = some (BitVec.ofNat 64 m) ∧
      (∀ r, r ∈ [2, 3, 12, 13, 14, 15] → a3.reg r = a0.reg r) ∧
      (∀ r, r ≠ 0 → r ∉ [2, 3, 12, 13, 14, 15] → a3.reg r = a2.reg r) ∧
      (∀ n, m ≤ n → a3.mem n = a0.mem n) := by
  obtain ⟨a3, e, E⟩ := a_epilogue (la := la) hc a2 m (by rw [hbody_rsp, hpro.rsp]) h8 hlow htop
  refine ⟨a3, e, E.rsp, ?_, E.regs, ?_⟩
  · intro r hr
    obtain ⟨k, hk, rfl⟩ := List.getElem_of_mem hr
    have hk6 : k < 6 := hk
    rw [E.restored k hk, hbody_mem _ (by omega), hpro.saved k hk]
  · intro n hn
    rw [E.mem, hbody_mem n (by omega), hpro.mem n (fun k hk => by omega)]

/-- The arithmetic behind the stack-pointer invariant: the prologue lowers `rsp` by 2096 = 131 · 16, so the
    entry alignment `rsp ≡ 8 (mod 16)` of System V holds again after it (and statement code leaves `rsp` alone). -/
theorem sp_invariant {m : Nat} (h : m % 16 = 8) (hm : 2096 ≤ m) : (m - 2096) % 16 = 8 := by omega

open Scc.AxCut in
/-- registers_to_save of a context prefix whose first position is `k` -/
def regsToSave (l : List Binding) (k : Nat) : List Nat :=
  ((l.zipIdx k).map (fun (bo : Binding × Nat) =>
      if bo.1.chi == .ext then [CALLER_SAVE_FIRST + 2 * bo.2 + 1]
      else [CALLER_SAVE_FIRST + 2 * bo.2, CALLER_SAVE_FIRST + 2 * bo.2 + 1])).flatten

/-- `caller_save_registers_info` in closed form: the first backup register, and `regsToSave` of the first four
    variables -/
theorem csri_eq (ctx : Scc.AxCut.Ctx) :
    callerSaveRegistersInfo ctx = (max (2 * ctx.length + 4) 12, regsToSave (ctx.take 4) 0) := rfl

theorem regsToSave_cons (b : Scc.AxCut.Binding) (rest : List Scc.AxCut.Binding) (k : Nat) :
    regsToSave (b :: rest) k =
      (if b.chi == .ext then [4 + 2 * k + 1] else [4 + 2 * k, 4 + 2 * k + 1]) ++ regsToSave rest (k + 1) := by
  simp [regsToSave, List.zipIdx_cons, CALLER_SAVE_FIRST, consts]

theorem regsToSave_bounds (l : List Scc.AxCut.Binding) (k : Nat) :
    (∀ r ∈ regsToSave l k, 4 + 2 * k ≤ r ∧ r < 4 + 2 * (k + l.length)) ∧
    (regsToSave l k).length ≤ 2 * l.length := by
  induction l generalizing k with
  | nil => simp [regsToSave]
  | cons b rest ih =>
    obtain ⟨ih1, ih2⟩ := ih (k + 1)
    rw [regsToSave_cons]
    have hF : CALLER_SAVE_FIRST = 4 := rfl
    constructor
    · intro r hr
      rw [List.mem_append] at hr
      rcases hr with hr | hr
      · split at hr <;> simp [hF] at hr <;> (simp only [List.length_cons]; omega)
      · have := ih1 r hr
        simp only [List.length_cons]; omega
    · rw [List.length_append]
      split <;> simp only [List.length_cons, List.length_nil] <;> omega

/-- the MOV block of save_caller_save_registers: register `l[j]` is copied to `first + k + j` -/
def backupMoves (first : Nat) (l : List Nat) (k : Nat) : List Code :=
  (l.zipIdx k).map (fun (ro : Nat × Nat) => Code.MOV (first + ro.2) ro.1)

/-- the MOV block of restore_caller_save_registers -/
def restoreMoves (first : Nat) (l : List Nat) (k : Nat) : List Code :=
  (l.zipIdx k).map (fun (ro : Nat × Nat) => Code.MOV ro.1 (first + ro.2))

theorem a_backupMoves (l : List Nat) (first k : Nat) (a : AState) (hsrc : ∀ r ∈ l, r < first)
    (hlen : l.length = 0 ∨ first + k + l.length ≤ 16) :
    ∃ a', aexecList c la (backupMoves first l k) a = some a' ∧
      (∀ j (h : j < l.length), a'.reg (first + k + j) = a.reg l[j]) ∧
      (∀ r, (r < first + k ∨ first + k + l.length ≤ r) → a'.reg r = a.reg r) ∧
      a'.mem = a.mem ∧ a'.flags = a.flags := by
  induction l generalizing k a with
  | nil => exact ⟨a, rfl, fun j h => by simp at h, fun _ _ => rfl, rfl, rfl⟩
  | cons r rest ih =>
    have hr : r < first := hsrc r (by simp)
    simp only [List.length_cons] at hlen
    have hlen : first + k + (rest.length + 1) ≤ 16 := by omega
    have hcons : backupMoves first (r :: rest) k = Code.MOV (first + k) r :: backupMoves first rest (k + 1) := by
      simp [backupMoves, List.zipIdx_cons]
    rw [hcons, aexecList_cons', aexec_MOV' (by omega) (by omega)]
    obtain ⟨a', e, h2, h3, h4, h5⟩ := ih (k + 1) (a.setReg (first + k) (a.reg r))
      (fun r' h' => hsrc r' (by simp [h'])) (by omega)
    refine ⟨a', e, ?_, ?_, by rw [h4]; rfl, by rw [h5]; rfl⟩
    · intro j hj
      cases j with
      | zero =>
        have := h3 (first + k) (Or.inl (by omega))
        simpa using this
      | succ j =>
        have hj' : j < rest.length := by simpa using hj
        have := h2 j hj'
        have e2 : first + (k + 1) + j = first + k + (j + 1) := by omega
        rw [e2] at this
        rw [this]
        have : rest[j] < first := hsrc rest[j] (by simp)
        have hne : rest[j] ≠ first + k := by omega
        simp [hne]
    · intro r' hr'
      simp only [List.length_cons] at hr'
      rw [h3 r' (by omega)]
      have hne : r' ≠ first + k := by omega
      simp [hne]

theorem save_eq (first : Nat) (L : List Nat) :
    saveCallerSaveRegisters first L =
      backupMoves first (L.take (backupRegistersUsed first L)) 0 ++
      (L.drop (backupRegistersUsed first L)).map Code.PUSH ++
      (if (L.length - backupRegistersUsed first L) % 2 = 0 then [Code.SUBI 0 8] else []) := by
  simp [saveCallerSaveRegisters, backupMoves, STACK, address, FIELD_SLOT_SIZE, consts]

theorem a_restoreMoves (l : List Nat) (first k : Nat) (a : AState) (hsrc : ∀ r ∈ l, r < first)
    (hnd : l.Nodup) (hlen : l.length = 0 ∨ first + k + l.length ≤ 16) :
    ∃ a', aexecList c la (restoreMoves first l k) a = some a' ∧
      (∀ j (h : j < l.length), a'.reg l[j] = a.reg (first + k + j)) ∧
      (∀ r, r ∉ l → a'.reg r = a.reg r) ∧ a'.mem = a.mem ∧ a'.flags = a.flags := by
  induction l generalizing k a with
  | nil => exact ⟨a, rfl, fun j h => by simp at h, fun _ _ => rfl, rfl, rfl⟩
  | cons r rest ih =>
    have hr : r < first := hsrc r (by simp)
    simp only [List.length_cons] at hlen
    have hlen : first + k + (rest.length + 1) ≤ 16 := by omega
    have hnd' := List.nodup_cons.1 hnd
    have hcons : restoreMoves first (r :: rest) k = Code.MOV r (first + k) :: restoreMoves first rest (k + 1) := by
      simp [restoreMoves, List.zipIdx_cons]
    rw [hcons, aexecList_cons', aexec_MOV' (by omega) (by omega)]
    obtain ⟨a', e, h2, h3, h4, h5⟩ := ih (k + 1) (a.setReg r (a.reg (first + k)))
      (fun r' h' => hsrc r' (by simp [h'])) hnd'.2 (by omega)
    refine ⟨a', e, ?_, ?_, by rw [h4]; rfl, by rw [h5]; rfl⟩
    · intro j hj
      cases j with
      | zero =>
        have := h3 r hnd'.1
        simpa using this
      | succ j =>
        have hj' : j < rest.length := by simpa using hj
        have := h2 j hj'
        simp only [List.getElem_cons_succ]
        rw [this]
        have hlt : r < first := hr
        have hne : first + (k + 1) + j ≠ r := by omega
        simp [hne]
        congr 1; omega
    · intro r' hr'
      have h1 : r' ≠ r := fun e => hr' (by simp [e])
      have h2' : r' ∉ rest := fun e => hr' (by simp [e])
      rw [h3 r' h2']
      simp [h1]

theorem restore_eq (first : Nat) (L : List Nat) :
    restoreCallerSaveRegisters first L =
      restoreMoves first (L.take (backupRegistersUsed first L)) 0 ++
      (if (L.length - backupRegistersUsed first L) % 2 = 0 then [Code.ADDI 0 8] else []) ++
      (L.drop (backupRegistersUsed first L)).reverse.map Code.POP := by
  simp [restoreCallerSaveRegisters, restoreMoves, STACK, address, FIELD_SLOT_SIZE, consts]

/-- `rsp` at the call: below the pushed registers, plus the padding word when their number is even -/
def callSp (m n2 : Nat) : Nat := m - 8 * n2 - (if n2 % 2 = 0 then 8 else 0)

/-- The save sequence from `rsp = m`: the first `backupRegistersUsed` registers of `L` are copied to the
    registers from `first` on, the others are pushed below `m`, and `rsp` ends at `callSp`. -/
theorem a_saveSeq (hc : CfgOK c) (first : Nat) (L : List Nat) (hL : ∀ r ∈ L, 4 ≤ r ∧ r < 12)
    (hLlen : L.length ≤ 8) (hf : 12 ≤ first) (a0 : AState) (m : Nat)
    (hsp : a0.reg 0 = some (BitVec.ofNat 64 m)) (h8 : m % 8 = 0)
    (hlow : c.stackLow + 72 ≤ m) (htop : m ≤ c.stackTop) :
    ∃ a3, aexecList c la (saveCallerSaveRegisters first L) a0 = some a3 ∧
      a3.reg 0 = some (BitVec.ofNat 64 (callSp m (L.length - backupRegistersUsed first L))) ∧
      (∀ r, r ≠ 0 → r < first → a3.reg r = a0.reg r) ∧
      (∀ j (h : j < (L.take (backupRegistersUsed first L)).length),
        a3.reg (first + j) = a0.reg (L.take (backupRegistersUsed first L))[j]) ∧
      (∀ j (h : j < (L.drop (backupRegistersUsed first L)).length),
        a3.mem (m - 8 * (j + 1)) = a0.reg (L.drop (backupRegistersUsed first L))[j]) ∧
      (∀ n, m ≤ n → a3.mem n = a0.mem n) := by
  generalize hused : backupRegistersUsed first L = used
  have hu1 : used ≤ L.length := by
    rw [← hused]; unfold backupRegistersUsed; omega
  have hu2 : first + used ≤ 16 ∨ used = 0 := by
    rw [← hused]; unfold backupRegistersUsed
    simp only [show REGISTER_NUM = 16 from rfl]; omega
  rw [save_eq, hused, aexecList_append, aexecList_append]
  obtain ⟨a1, e1, b1, r1, m1, _⟩ := a_backupMoves (la := la) (L.take used) first 0 a0
    (fun r hr => by have := hL r (List.mem_of_mem_take hr); omega)
    (by simp only [List.length_take]; omega)
  have hsp1 : a1.reg 0 = some (BitVec.ofNat 64 m) := by rw [r1 0 (Or.inl (by omega))]; exact hsp
  rw [e1]
  dsimp only
  have hdl : (L.drop used).length = L.length - used := by simp
  have htl : (L.take used).length = used := by simp; omega
  obtain ⟨a2, e2, P⟩ := a_pushList (la := la) hc (L.drop used)
    (fun r hr => by have := hL r (List.mem_of_mem_drop hr); omega) a1 m hsp1 h8
    (by rw [hdl]; omega) htop
  rw [e2]
  dsimp only
  have Prsp : a2.reg 0 = some (BitVec.ofNat 64 (m - 8 * (L.length - used))) := by rw [P.rsp, hdl]
  have R2 : ∀ r, r ≠ 0 → r < first → a2.reg r = a0.reg r := by
    intro r h0 hlt
    rw [P.regs r h0, r1 r (Or.inl (by omega))]
  have B2 : ∀ j (h : j < (L.take used).length), a2.reg (first + j) = a0.reg (L.take used)[j] := by
    intro j hj
    rw [P.regs _ (by omega)]
    have := b1 j hj
    simpa using this
  have S2 : ∀ j (h : j < (L.drop used).length), a2.mem (m - 8 * (j + 1)) = a0.reg (L.drop used)[j] := by
    intro j hj
    rw [P.saved j hj]
    have hlt : (L.drop used)[j] < first := by
      have := hL _ (List.mem_of_mem_drop (List.getElem_mem hj)); omega
    exact r1 _ (Or.inl (by omega))
  have M2 : ∀ n, m ≤ n → a2.mem n = a0.mem n := by
    intro n hn
    rw [P.mem n (fun k hk => by rw [hdl] at hk; omega), m1]
  by_cases hpar : (L.length - used) % 2 = 0
  · rw [if_pos hpar]
    have hm : m - 8 * (L.length - used) < 2 ^ 64 := by have := hc.top; omega
    have hsub := aexec_SUBI_rsp (c := c) (la := la) (a := a2) (k := 8) (i := 8) rfl Prsp (by omega) hm
      (by decide)
    refine ⟨_, by rw [aexecList_cons', hsub]; rfl, ?_, ?_, ?_, ?_, ?_⟩
    · simp [callSp, hpar]
    · intro r h0 hlt; simp [h0, R2 r h0 hlt]
    · intro j hj
      have : first + j ≠ 0 := by omega
      show (if first + j = 0 then _ else a2.reg (first + j)) = _
      rw [if_neg this]; exact B2 j hj
    · intro j hj; exact S2 j hj
    · intro n hn; exact M2 n hn
  · rw [if_neg hpar]
    refine ⟨a2, rfl, ?_, R2, B2, S2, M2⟩
    rw [Prsp]; simp [callSp, hpar]

/-- State after the save sequence of `print_i64`. -/
structure Saved (a a' : AState) (m m' : Nat) (first : Nat) (L : List Nat) : Prop where
  rsp : a'.reg 0 = some (BitVec.ofNat 64 m')
  /-- print_alignment: the call happens with `rsp ≡ 0 (mod 16)` -/
  aligned : m' % 16 = 0
  below : m' ≤ m
  room : m ≤ m' + 72

/-- print_alignment FOR EVERY CONTEXT: from a statement boundary (`rsp ≡ 8 mod 16`) the save
    sequence ends with `rsp ≡ 0 (mod 16)`: `|registers_to_save| - backup_registers_used` registers are
    pushed and one padding word is added exactly when that number is even. -/
theorem a_save_aligned (hc : CfgOK c) (ctx : Scc.AxCut.Ctx) (a : AState) (m : Nat)
    (hsp : a.reg 0 = some (BitVec.ofNat 64 m)) (h16 : m % 16 = 8)
    (hlow : c.stackLow + 72 ≤ m) (htop : m ≤ c.stackTop) :
    ∃ a' m', aexecList c la (saveCallerSaveRegisters (callerSaveRegistersInfo ctx).1
        (callerSaveRegistersInfo ctx).2) a = some a' ∧
      Saved a a' m m' (callerSaveRegistersInfo ctx).1 (callerSaveRegistersInfo ctx).2 := by
  rw [csri_eq]
  dsimp only
  have hb := regsToSave_bounds (ctx.take 4) 0
  generalize regsToSave (ctx.take 4) 0 = L at hb
  obtain ⟨hb1, hb2⟩ := hb
  have hlen4 : (ctx.take 4).length ≤ 4 := by simp; omega
  have hLlen : L.length ≤ 8 := by omega
  obtain ⟨a3, e3, hsp3, _⟩ := a_saveSeq (la := la) hc (max (2 * ctx.length + 4) 12) L
    (fun r hr => by have := hb1 r hr; omega) hLlen (Nat.le_max_right _ _) a m hsp (by omega) hlow htop
  have hn : L.length - backupRegistersUsed (max (2 * ctx.length + 4) 12) L ≤ 8 := by omega
  refine ⟨a3, _, e3, hsp3, ?_, ?_, ?_⟩ <;> (unfold callSp; split <;> omega)

end Lists

end Scc.X86
