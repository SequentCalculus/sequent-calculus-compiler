/-
  Scc.X86.RefRun — Theorem B (x86-64) for whole runs: a terminating run `Abs.runFrom … = ⟨out, done v⟩`
  of the abstract backend machine from a represented configuration is reproduced by the x86-64 SPEC
  machine (`runLoop`: same trace, same result).  The initial state: `init_sim`, RefInit.lean.
-/
import Scc.X86.RefStep

namespace Scc.X86.Ref

open Scc.Backend Scc.Backend.Abs Scc.Backend.Sim

theorem monitor_off {m : MonCfg} (h : m.heap = false) (p : Prog) (s : State) : monitor m p s = .ok none := by
  simp [monitor, h]

theorem runLoop_stepN {m : MonCfg} (hm : m.heap = false) (p : Prog) :
    ∀ (k n : Nat) (s s' : State) (b : Nat), stepN m p k s = .inl s' →
      runLoop m p (k + n) s b = runLoop m p n s' b
  | 0, n, s, s', b, h => by
    simp only [stepN, Sum.inl.injEq] at h; subst h; simp
  | k + 1, n, s, s', b, h => by
    simp only [stepN] at h
    cases hs : step m p s with
    | inr r => simp [hs] at h
    | inl s1 =>
      simp only [hs] at h
      rw [show k + 1 + n = (k + n) + 1 by omega]
      simp only [runLoop, monitor_off hm, hs]
      exact runLoop_stepN hm p k n s1 s' b h

theorem runLoop_done {m : MonCfg} (hm : m.heap = false) (p : Prog) (n : Nat) (s : State) (b : Nat)
    {v : Word} (h : step m p s = .inr (.done v)) :
    (runLoop m p (n + 1) s b).out = s.out.reverse ∧ (runLoop m p (n + 1) s b).res = .done v := by
  simp [runLoop, monitor_off hm, h, finish]

section Run

variable {F : Frame} (H : FrameOK F) {mon : MonCfg} (hmon : mon.mach = F.c) {p : Prog}
  {ops : List MockOp} {cs hdr body : List Code}
  (L : Loaded p cs) (hcs : cs = hdr ++ body ++ cleanup) (W : Seg .normal ops body .normal)
  (hnodup : (labelNames ops).Nodup) (hhdr : ∀ n ∈ labelNames ops, n ∉ labs hdr)
  (hclean : "cleanup" ∉ labs hdr ++ labelNames ops)
  {st0 : State} {h : Word} (E : EntryFacts F st0 h)

include H hmon L hcs W hnodup hhdr hclean E in
/-- THEOREM B for runs: a terminating run of the abstract machine from a represented configuration is
    reproduced by the x86-64 machine -/
theorem abs_run_sim : ∀ (n : Nat) (cfg : Config) (g : Mode) (st : State) (out : List (Bool × Word))
    (v : Word), RepX86 F g cfg st → At ops cs cfg.pc st.pc g →
    Abs.runFrom (Program.ofOps ops) n cfg = ⟨out, .done v⟩ →
    ∃ k stL, stepN mon p k st = .inl stL ∧ step mon p stL = .inr (.done v) ∧ stL.out.reverse = out
  | 0, cfg, g, st, out, v, R, A, hr => by simp [Abs.runFrom] at hr
  | n + 1, cfg, g, st, out, v, R, A, hr => by
    simp only [Abs.runFrom] at hr
    cases hs : Abs.step (Program.ofOps ops) cfg with
    | halt r =>
      simp only [hs, Behaviour.mk.injEq] at hr
      obtain ⟨ho, hres⟩ := hr
      subst hres
      obtain ⟨k, stL, hk, hL, hout⟩ := sim_halt H hmon L hcs W hnodup hclean E hs R A
      exact ⟨k, stL, hk, hL, by rw [hout, ho]⟩
    | next cfg' =>
      simp only [hs] at hr
      obtain ⟨k1, st', g', hk1, R', A'⟩ := sim_step H hmon L hcs W hnodup hhdr hs R A
      obtain ⟨k, stL, hk, hL, hout⟩ := abs_run_sim n cfg' g' st' out v R' A' hr
      exact ⟨k1 + k, stL, by rw [stepN_add mon p k1 k st st' hk1]; exact hk, hL, hout⟩

end Run

end Scc.X86.Ref
