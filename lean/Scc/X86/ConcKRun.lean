/-
  Scc.X86.ConcKRun — the STATEMENT BOUNDARIES of the x86-64 run of ANY program (data types and closures),
  made explicit, for the closure-aware three-way relation `Scc.X86.Ref.K.Rel3` (Scc/X86/RefClosHRun.lean).

  The `jmp reg` of an `invoke` of a single-method closure lands on the first item of non-zero size behind the
  method label, so the machine is not AT the statement-boundary state `X0` the relation speaks about but at `X0`
  moved forward over labels and comments (`Tol cs X0 X`, Scc/X86/RefClosTol.lean; registers, stack, heap, output
  are those of `X0`).  A statement boundary of the run (`Bd`) is therefore a machine state `X` with `Tol cs X0 X`
  for a state `X0` in relation `K.Rel3`; the simulation runs from `X0`, the machine from `X`, and `tol_next` lets
  the machine catch up: it reaches the next boundary up to `Tol` again, with a transition of its own if the
  simulated step executes an item of non-zero size, and through states that are not at `#ctx` comments if the
  simulation does.  `Bd.next` (`K.step3M` ∘ `tol_next`) and `Bd.done` are the step and the end of every induction
  along a run: `boundaries` hands them to Scc/Backend/TrackHeap.lean with the boundary state hidden (`BdAt`), and
  `Track.run` carries the invariants of the runs.  Behind the entry of Scc/X86/ConcKEntry.lean this gives a
  boundary for EVERY state of a terminating run, in order (`programs_chain`), and THEOREM A ∘ THEOREM B on the
  items of the routine (`programs_items`).
-/
import Scc.X86.ConcKInv
import Scc.AxCut.PosHered
import Scc.X86.ConcKNoCtx
import Scc.X86.ConcPeak
import Scc.X86.ConcRun

namespace Scc.X86.ConcK

open Scc.AxCut Scc.Backend Scc.Backend.Abs Scc.X86.Ref
open Scc.Backend.Keys
open Scc.Props.C14Generic (LabelSafe)
open Scc.Props.C06Generic (outAfter WithinCapacity Reachable EnoughHeap CodeFits statesOf stopsWithin
  reachable_mem_statesOf)
open Scc.Heap (HState InvS InvW)
open Scc.Heap.Refine (HRef FrLe Room FrPk)
open Scc.X86.Conc (BChain HeapInvAt ctxKinds ctxKinds_keys Steps bchain_of_chain AtEnd)
open Scc.Backend.Track (Track Chain weight Ends Boundaries RoomRun)

section TolRun
variable (m : MonCfg) {p : Prog} {cs : List Code} (L : Loaded p cs)

include L in
/-- the simulation runs from the boundary state `X0` to the machine state `XR` (the next boundary `X'` up to
`Tol`), the machine is at `X` (`X0` up to `Tol`): the machine reaches a state that is `X'` up to `Tol`;
* with at least one transition, if one of the simulated transitions is at an item of non-zero size;
* through states that are not at `#ctx` comments, if the simulation runs through such states; then the machine
  arrives at `X'` itself or at a state that is not at a `#ctx` comment, if that holds of `XR` and `X` -/
theorem tol_next {X0 X X' XR : State} (T : Tol cs X0 X) {n : Nat} (h : stepN m p n X0 = .inl XR)
    (T' : Tol cs X' XR) :
    ∃ k XR', stepN m p k X = .inl XR' ∧ Tol cs X' XR' ∧
      ((∃ n1 Xm, n1 < n ∧ stepN m p n1 X0 = .inl Xm ∧ ¬ NoopAt cs Xm.pc) → 1 ≤ k) ∧
      (Mid m p cs n X0 → (XR = X' ∨ ¬ CtxAt cs XR.pc) → (X = X0 ∨ ¬ CtxAt cs X.pc) →
        Mid m p cs k X ∧ (XR' = X' ∨ ¬ CtxAt cs XR'.pc)) := by
  have hle := T.le
  have hreal_d : (∃ n1 Xm, n1 < n ∧ stepN m p n1 X0 = .inl Xm ∧ ¬ NoopAt cs Xm.pc) →
      ∃ n1, n1 < n ∧ X.pc - X0.pc ≤ n1 := by
    rintro ⟨n1, Xm, hn1, hXm, hnn⟩
    refine ⟨n1, hn1, ?_⟩
    rcases Nat.lt_or_ge n1 (X.pc - X0.pc) with hlt | hge
    · exfalso
      have h1 := noop_steps m L n1 X0 (fun i h1 h2 => T.noop i h1 (by omega))
      rw [h1] at hXm
      injection hXm with hXm
      subst hXm
      exact hnn (T.noop _ (by simp [setPS]) (by simp [setPS]; omega))
    · exact hge
  by_cases hn : X.pc - X0.pc ≤ n
  · refine ⟨n - (X.pc - X0.pc), XR, ?_, T', ?_, fun hm hland _ => ⟨hm.shift (T.steps m L) hn, hland⟩⟩
    · have := stepN_add m p (X.pc - X0.pc) (n - (X.pc - X0.pc)) X0 X (T.steps m L)
      rw [show X.pc - X0.pc + (n - (X.pc - X0.pc)) = n by omega] at this
      rw [← this]; exact h
    · intro hr
      obtain ⟨n1, h1, h2⟩ := hreal_d hr
      omega
  · -- all the simulated transitions are labels and comments behind which the machine already is
    have hT : Tol cs X' X := by
      have h1 := noop_steps m L n X0 (fun i h1 h2 => T.noop i h1 (by omega))
      rw [h1] at h
      injection h with h
      subst h
      refine T'.trans ⟨by simp [setPS]; omega, ?_, ?_⟩
      · conv => lhs; rw [T.eq]
        rfl
      · intro i hi1 hi2
        exact T.noop i (by simp [setPS] at hi1; omega) hi2
    refine ⟨0, X, rfl, hT, ?_, fun _ _ hX => ⟨Mid.zero _, Or.inr ?_⟩⟩
    · intro hr
      obtain ⟨n1, h1, h2⟩ := hreal_d hr
      omega
    · rcases hX with e | hne
      · exfalso; rw [e] at hn; omega
      · exact hne

end TolRun

/-- a statement boundary of the run: a typed state of the positional machine, all of whose successors fit the
temporaries, in relation `K.Rel3` to the machine state `X0`; the machine is at `X`: `X0` moved forward over labels
and comments (`Tol`) -/
structure Bd (F : Frame) (cs : List Code) (P : Program) (hooks : Bool) (prog : AxCut.Prog)
    (st : Pos.State) (cfg : Config) (hs : HState) (X0 X : State) : Prop where
  typed : Pos.StateTyped prog st
  cap : ∀ st', Reachable prog st st' → 2 * st'.ctx.length ≤ 266
  tol : Tol cs X0 X
  rel : K.Rel3 F cs P hooks prog st cfg hs X0
  ok : K.StmtOK st.stmt

theorem Bd.heapRel {F : Frame} {cs : List Code} {P : Program} {hooks : Bool} {prog : AxCut.Prog} {st : Pos.State}
    {cfg : Config} {hs : HState} {X0 X : State} (B : Bd F cs P hooks prog st cfg hs X0 X) : HeapRel F.c X0 hs := by
  obtain ⟨Γ', ι, κ, _, _, X3h, _⟩ := B.rel
  exact X3h.hrel

theorem Bd.witness {F : Frame} {cs : List Code} {P : Program} {hooks : Bool} {prog : AxCut.Prog} {st : Pos.State}
    {cfg : Config} {hs : HState} {X0 X : State} (B : Bd F cs P hooks prog st cfg hs X0 X) :
    ∃ rs lin lazy live Fr, InvS hs rs [] lin lazy live Fr := by
  obtain ⟨Γ', ι, κ, _, _, X3h, _⟩ := B.rel
  obtain ⟨lin, lazy, live, Fr, I⟩ := X3h.href.conc
  exact ⟨_, lin, lazy, live, Fr, I⟩

/-- the statement allocates at most as many blocks as the temporaries hold variables -/
theorem Bd.alloc_le {F : Frame} {cs : List Code} {P : Program} {hooks : Bool} {prog : AxCut.Prog} {st : Pos.State}
    {cfg : Config} {hs : HState} {X0 X : State} (B : Bd F cs P hooks prog st cfg hs X0 X) :
    K.allocArity st.stmt ≤ 133 := by
  obtain ⟨Γ', ι, κ, hk, _, X3h, _⟩ := B.rel
  have h1 := K.allocArity_le_length B.typed.1
  have h2 := keys_length hk
  have h3 := X3h.cap
  omega

/-- a statement boundary with the output so far, for a machine at `X` (the boundary state `X0` is hidden: the runs
see nothing of `Tol`) -/
def BdAt (F : Frame) (cs : List Code) (P : Program) (hooks : Bool) (prog : AxCut.Prog) (st : Pos.State)
    (acc : List (Bool × Word)) (cfg : Config) (hs : HState) (X : State) : Prop :=
  ∃ X0, Bd F cs P hooks prog st cfg hs X0 X ∧ cfg.out = acc

section Run3

variable {F : Frame} (HF : FrameOK F) (h8 : F.c.heapBase % 8 = 0) {mon : MonCfg} (hmon : mon.mach = F.c)
  {px : X86.Prog} {cs pre : List Code} (LA : LoadedA F.c px cs) (hndL : (labs cs).Nodup)
  (hfitX : addrAt F.c.codeBase cs cs.length < 2 ^ 64) (hcs : cs = pre ++ cleanup)
  (hclean : "cleanup" ∉ labs pre) {st0 : State} {h : Word} (E : EntryFacts F st0 h)

include HF h8 hmon LA hndL hfitX hcs hclean E in
/-- FROM A BOUNDARY TO THE NEXT: a step of the positional machine is reproduced by the machine (`K.step3M`, the
machine possibly ahead of the boundary state: `tol_next`), and the next state is a boundary again.  With the
bookkeeping of the runs: output, object counter, frontier (`FrLe`, `FrPk`), at least one transition for a `call`
or an `invoke`, and the program counters in between (for `op` and `call` if the name at the head of the statement
comment does not start with `#`) -/
theorem Bd.next (hooks : Bool) (prog : AxCut.Prog) (c : Nat) (code : List MockOp) (nargs c' : Nat)
    (hcomp : (compile mockSym hooks prog).run c = .ok ((code, nargs), c'))
    (hsafe : LabelSafe prog = true) (htp : LinTypedProg prog) (hfit : CodeFits code)
    (DX : K.XDefsAt cs hooks prog) (hprog : K.ProgOK prog)
    {st st' : Pos.State} {o : Option (Bool × Word)} {cfg : Config} {hs : HState} {X0 X : State}
    (B : Bd F cs (Program.ofOps code) hooks prog st cfg hs X0 X) (hheap : EnoughHeap cfg)
    (hroom : Room hs (64 * K.allocArity st.stmt + 64)) (hst : Pos.step prog st = .next st' o) :
    ∃ cfg' hs' X' XR k, stepN mon px k X = .inl XR ∧ Bd F cs (Program.ofOps code) hooks prog st' cfg' hs' X' XR ∧
      cfg'.out = outAfter o cfg.out ∧ cfg'.next ≤ cfg.next + 1 ∧
      FrLe hs hs' (64 * K.allocArity st.stmt) ∧ FrPk hs hs' ∧ (K.IsJump st.stmt → 1 ≤ k) ∧
      (K.HeadHF st.stmt → (X = X0 ∨ ¬ CtxAt cs X.pc) → Mid mon px cs k X ∧ (XR = X' ∨ ¬ CtxAt cs XR.pc)) := by
  have hsim := K.step3M HF h8 hmon LA hndL hfitX hcs hclean E hooks prog c code nargs c' hcomp hsafe hfit
    DX hprog st cfg hs X0 B.rel B.typed hheap B.ok hroom
  have hsafe' := Pos.step_safe htp st B.typed
  unfold K.StepSim3M at hsim
  simp only [hst] at hsim
  rw [hst] at hsafe'
  have hc' := B.cap st' (Reachable.step Reachable.refl hst)
  obtain ⟨cfg', hs', X', XR, n, h1, T', hreal, h2, h3, hfr, hpk, R', hok', hmid, hland⟩ :=
    hsim (Ref.withinCapacity_of_le hc') hc'
  obtain ⟨k, XR', hk, T'', hk1, hm⟩ := tol_next mon LA.loaded B.tol h1 T'
  exact ⟨cfg', hs', X', XR', k, hk,
    ⟨hsafe', fun st'' hr => B.cap st'' (Scc.Props.C06Generic.reachable_prepend hst hr), T'', R', hok'⟩, h2, h3, hfr,
    hpk, fun hj => hk1 (hreal hj), fun hhf hX => hm (hmid hhf) hland hX⟩

include HF h8 hmon LA hndL hfitX hcs hclean E in
/-- THE LAST STEP: from the boundary of an `exit` the machine runs to the final `ret`, through states that are not
at `#ctx` comments -/
theorem Bd.done (hooks : Bool) (prog : AxCut.Prog) (c : Nat) (code : List MockOp) (nargs c' : Nat)
    (hcomp : (compile mockSym hooks prog).run c = .ok ((code, nargs), c'))
    (hsafe : LabelSafe prog = true) (hfit : CodeFits code)
    (DX : K.XDefsAt cs hooks prog) (hprog : K.ProgOK prog)
    {st : Pos.State} {v : Word} {cfg : Config} {hs : HState} {X0 X : State}
    (B : Bd F cs (Program.ofOps code) hooks prog st cfg hs X0 X) (hheap : EnoughHeap cfg)
    (hroom : Room hs (64 * K.allocArity st.stmt + 64)) (hst : Pos.step prog st = .done v) :
    ∃ k XL, stepN mon px k X = .inl XL ∧ step mon px XL = .inr (.done v) ∧ XL.out = cfg.out ∧
      Mid mon px cs k X ∧ ¬ CtxAt cs XL.pc := by
  have L := LA.loaded
  have hsim := K.step3M HF h8 hmon LA hndL hfitX hcs hclean E hooks prog c code nargs c' hcomp hsafe hfit
    DX hprog st cfg hs X0 B.rel B.typed hheap B.ok hroom
  unfold K.StepSim3M at hsim
  simp only [hst] at hsim
  obtain ⟨n, XL, h1, h2, h3, hmid, hlast⟩ := hsim
  -- the machine from `X`: the rest of the simulated transitions
  have TL := B.tol
  have hle := TL.le
  have hd : X.pc - X0.pc ≤ n := by
    rcases Nat.lt_or_ge n (X.pc - X0.pc) with hlt | hge
    · exfalso
      have h1' := noop_steps mon L n X0 (fun i h1 h2 => TL.noop i h1 (by omega))
      rw [h1'] at h1
      injection h1 with h1
      subst h1
      have := noop_step mon L (s := setPS X0 (X0.pc + n) X0.steps)
        (TL.noop (X0.pc + n) (by omega) (by omega))
      rw [this] at h2
      cases h2
    · exact hge
  refine ⟨n - (X.pc - X0.pc), XL, ?_, h2, h3, hmid.shift (TL.steps mon L) hd, hlast⟩
  have := stepN_add mon px (X.pc - X0.pc) (n - (X.pc - X0.pc)) X0 X (TL.steps mon L)
  rw [show X.pc - X0.pc + (n - (X.pc - X0.pc)) = n by omega] at this
  rw [← this]; exact h1

include HF h8 hmon LA hndL hfitX hcs hclean E in
theorem boundaries (hooks : Bool) (prog : AxCut.Prog) (c : Nat) (code : List MockOp) (nargs c' : Nat)
    (hcomp : (compile mockSym hooks prog).run c = .ok ((code, nargs), c'))
    (hsafe : LabelSafe prog = true) (htp : LinTypedProg prog) (hfit : CodeFits code)
    (DX : K.XDefsAt cs hooks prog) (hprog : K.ProgOK prog) :
    Boundaries (Steps mon px) prog (BdAt F cs (Program.ofOps code) hooks prog) (AtEnd mon px) F.c.heapBase
      F.c.heapBytes where
  refl _ := rfl
  trans := stepN_trans mon px
  witness := fun ⟨_, B, _⟩ => B.witness
  hbase := fun ⟨_, B, _⟩ => B.heapRel.base
  hlimit := fun ⟨_, B, _⟩ => B.heapRel.limit
  next := by
    rintro st acc cfg hs X st' o ⟨X0, B, hacc⟩ hheap hroom hst
    obtain ⟨cfg', hs', X', XR, k, hk, B', h2, h3, hfr, hpk, hj, _⟩ := B.next HF h8 hmon LA hndL hfitX hcs hclean E hooks
      prog c code nargs c' hcomp hsafe htp hfit DX hprog hheap hroom hst
    exact ⟨cfg', hs', k, XR, hk, ⟨X', B', by rw [h2, hacc]⟩, h3, hfr, hpk, hj⟩
  done := by
    rintro st acc cfg hs X v ⟨X0, B, hacc⟩ hheap hroom hst
    obtain ⟨k, XL, hk, h2, h3, _⟩ := B.done HF h8 hmon LA hndL hfitX hcs hclean E hooks prog c code nargs c' hcomp
      hsafe hfit DX hprog hheap hroom hst
    exact ⟨k, XL, hk, h2, by rw [h3, hacc]⟩

end Run3

/-- a machine state at a STATEMENT BOUNDARY of the run of the routine (any program): the state `X0` related by
the closure-aware three-way relation `K.Rel3` (for the frame of the run) to a state of the positional machine,
or that state moved forward over labels and comments (`Tol`: the machine after the `jmp reg` of an `invoke`) -/
def BoundaryOf (p : AxCut.Prog) (hooks : Bool) (routine : List Code) (ops : List MockOp) (cfg : MonCfg)
    (st : Pos.State) (X : State) : Prop :=
  ∃ (F : Frame) (cfgA : Config) (hs : HState) (X0 : State), F.c = cfg.mach ∧ Tol routine X0 X ∧
    K.Rel3 F routine (Program.ofOps ops) hooks p st cfgA hs X0

theorem heapInvAt_of_boundary {p : AxCut.Prog} {hooks : Bool} {routine : List Code} {ops : List MockOp}
    {cfg : MonCfg} (hk : cfg.consts = consts) {st : Pos.State} {X : State}
    (B : BoundaryOf p hooks routine ops cfg st X) :
    HeapInvAt cfg X (ctxKinds st.ctx) (cfg.mach.heapBase + cfg.mach.heapBytes) := by
  obtain ⟨F, cfgA, hs, X0, hFc, T, Γ', ι, κ, hkeys, RX, X3h, _⟩ := B
  have := (heapInvAt_of_x3 (m := cfg) hFc.symm hk RX X3h).1
  rw [ctxKinds_keys hkeys, hFc] at this
  exact heapInvAt_tol T this

section EntryRun

variable {p : AxCut.Prog} {args : List Word} {hooks : Bool} {routine : List Code} {d0 : Def} {ops : List MockOp}
  {cfg : MonCfg} {items : List (Code × Nat)} {F : Frame} {pre : List Code} {st0 : State} {h : Word} {n0 : Nat}
  {X0 : State} {a : Nat} (En : Entry p args hooks routine d0 ops cfg items F pre st0 h n0 X0 a)

include En in
theorem Entry.boundaries (hb8 : cfg.mach.heapBase % 8 = 0) (hnd : (labs routine).Nodup)
    (hfitX : addrAt cfg.mach.codeBase routine routine.length < 2 ^ 64) {nargs c' : Nat}
    (hcompM : (compile mockSym hooks p).run 0 = .ok ((ops, nargs), c')) (hsafe : LabelSafe p = true)
    (htp : LinTypedProg p) (hfit : CodeFits ops) (hprog : K.ProgOK p) :
    Boundaries (Steps cfg (mkProg cfg.mach items)) p (BdAt F routine (Program.ofOps ops) hooks p)
      (AtEnd cfg (mkProg cfg.mach items)) cfg.mach.heapBase cfg.mach.heapBytes := by
  have hFc := En.fc
  have := ConcK.boundaries En.frame (by rw [hFc]; exact hb8) hFc.symm En.loaded hnd (by rw [hFc]; exact hfitX) En.split
    En.clean En.entry hooks p 0 ops nargs c' hcompM hsafe htp hfit En.defs hprog
  rwa [hFc] at this

include En in
theorem Entry.bdAt (hcap : ∀ st, Reachable p ⟨d0.ctx, args.map .int, d0.body⟩ st → 2 * st.ctx.length ≤ 266)
    (hprog : K.ProgOK p) (hmem : d0 ∈ p.defs) :
    BdAt F routine (Program.ofOps ops) hooks p ⟨d0.ctx, args.map .int, d0.body⟩ [] (initConfig a args)
      (Scc.Heap.init F.c.heapBase (F.c.heapBase + F.c.heapBytes)) X0 :=
  ⟨X0, ⟨En.typed, hcap, Tol.refl _ _, En.rel, hprog.2 d0 hmem⟩, rfl⟩

include En in
/-- the run loop from `asm_main`: through the header, then along transitions to a final `ret` -/
theorem Entry.runItems_done (hheap : cfg.heap = false) {n : Nat} {XL : State} {v : Word} {acc : List (Bool × Word)}
    (g1 : stepN cfg (mkProg cfg.mach items) n X0 = .inl XL) (g2 : AtEnd cfg (mkProg cfg.mach items) v acc XL) :
    ∃ fuel', (runItems items args fuel' cfg).out = acc.reverse ∧ (runItems items args fuel' cfg).res = .done v := by
  refine ⟨n0 + (n + 1), ?_⟩
  have hrl : runItems items args (n0 + (n + 1)) cfg =
      runLoop cfg (mkProg cfg.mach items) (n0 + (n + 1)) (initState cfg.mach args 6) 0 := by
    unfold runItems
    simp only [En.main]
    rw [if_neg (by have := En.nargs; omega)]
  rw [hrl, runLoop_stepN hheap _ n0 (n + 1) _ _ 0 En.steps, runLoop_stepN hheap _ n 1 _ _ 0 g1]
  obtain ⟨h1, h2⟩ := runLoop_done hheap (mkProg cfg.mach items) 0 XL 0 g2.1
  exact ⟨by rw [h1, g2.2], h2⟩

end EntryRun

/-- the whole run from the machine's initial state: the machine passes through a boundary state for EVERY
state of the terminating run of the positional machine, in order -/
theorem programs_chain (p : AxCut.Prog) (args : List Word) (hooks : Bool) (body routine : List Code)
    (nargs : Nat) (d0 : Def) (ops : List MockOp) (c' : Nat)
    (hsafe : LabelSafe p = true) (htp : LinTypedProg p) (hprog : K.ProgOK p)
    (hcompM : (compile mockSym hooks p).run 0 = .ok ((ops, nargs), c')) (hfit : CodeFits ops)
    (hcompX : compileX86 p hooks 0 = .ok (body, nargs)) (hrout : intoRoutine body nargs = .ok routine)
    (hnd : (labs routine).Nodup)
    (hd : p.defs.head? = some d0) (hentry : ∀ b ∈ d0.ctx, b.chi = .ext ∧ b.ty = .i64)
    (hcap : ∀ st, Reachable p ⟨d0.ctx, args.map .int, d0.body⟩ st → 2 * st.ctx.length ≤ 266)
    (fuel : Nat) (out : List (Bool × Word)) (v : Word) (hfuel : fuel + 1 < 2 ^ 64)
    (hrun : Pos.run p args fuel = ⟨out, .done v⟩)
    (cfg : MonCfg) (MO : MachOK cfg.mach)
    (hb8 : cfg.mach.heapBase % 8 = 0) (hb0 : 0 < cfg.mach.heapBase)
    (hbytes : 128 + 64 * 134 * fuel ≤ cfg.mach.heapBytes)
    (items : List (Code × Nat)) (hitems : (items.map (·.1)).map stripC = routine.map stripC)
    (hfitX : addrAt cfg.mach.codeBase routine routine.length < 2 ^ 64) :
    (mkProg cfg.mach items).labelIdx["asm_main"]? = some 6 ∧
    ∃ n0 X0, stepN cfg (mkProg cfg.mach items) n0 (initState cfg.mach args 6) = .inl X0 ∧
      BChain cfg (mkProg cfg.mach items) (BoundaryOf p hooks routine ops cfg)
        (statesOf p fuel ⟨d0.ctx, args.map .int, d0.body⟩) X0 ∧
      stopsWithin p fuel ⟨d0.ctx, args.map .int, d0.body⟩ = true := by
  obtain ⟨hmem, hlen, hrun'⟩ := Scc.Props.C06Generic.run_entry hd hrun ⟨_, rfl⟩
  have hc0 := hcap _ Reachable.refl
  simp only at hc0
  obtain ⟨F, pre, st0, h, n0, X0, a, En⟩ := entry_setup p args hooks body routine nargs d0 ops c' hsafe htp
    hcompM hcompX hrout hnd hd hentry hlen hc0 cfg MO hb0 (by omega) items hitems
  have hFc := En.fc
  have hch := ((Track.roomTrack (En.boundaries hb8 hnd hfitX hcompM hsafe htp hfit hprog) (cap := 133)
    fun ⟨_, B, _⟩ => B.alloc_le).run fuel 0 _ [] X0 ⟨_, _, En.bdAt hcap hprog hmem, by rw [En.next1]; omega,
      Scc.Heap.Refine.room_init (by rw [hFc]; exact hb0) (by rw [hFc]; omega) (by rw [hFc]; omega)⟩).1
  exact ⟨En.main, n0, X0, En.steps, bchain_of_chain (hch.mono fun st X ⟨_, _, cfgA, hs, ⟨X1, B, _⟩, _⟩ =>
    ⟨F, cfgA, hs, X1, hFc, B.tol, B.rel⟩), Track.stopsWithin_of_done p fuel _ _ _ _ hrun'⟩

/-- END TO END for ALL programs (data types and closures), on the ITEMS of the emitted routine: a
terminating run of the AxCut positional machine is reproduced — same trace, same result — by the x86-64
SPEC machine started at `asm_main` on any item list that agrees with the emitted routine up to the text
of comments. -/
theorem programs_items (p : AxCut.Prog) (args : List Word) (hooks : Bool) (body routine : List Code)
    (nargs : Nat) (d0 : Def) (ops : List MockOp) (c' : Nat)
    (hsafe : LabelSafe p = true) (htp : LinTypedProg p) (hprog : K.ProgOK p)
    (hcompM : (compile mockSym hooks p).run 0 = .ok ((ops, nargs), c')) (hfit : CodeFits ops)
    (hcompX : compileX86 p hooks 0 = .ok (body, nargs)) (hrout : intoRoutine body nargs = .ok routine)
    (hnd : (labs routine).Nodup)
    (hd : p.defs.head? = some d0) (hentry : ∀ b ∈ d0.ctx, b.chi = .ext ∧ b.ty = .i64)
    (hcap : ∀ st, Reachable p ⟨d0.ctx, args.map .int, d0.body⟩ st → 2 * st.ctx.length ≤ 266)
    (fuel : Nat) (out : List (Bool × Word)) (v : Word) (hfuel : fuel + 1 < 2 ^ 64)
    (hrun : Pos.run p args fuel = ⟨out, .done v⟩)
    (cfg : MonCfg) (MO : MachOK cfg.mach) (hheap : cfg.heap = false)
    (hb8 : cfg.mach.heapBase % 8 = 0) (hb0 : 0 < cfg.mach.heapBase)
    (hbytes : 128 + 64 * 134 * fuel ≤ cfg.mach.heapBytes)
    (items : List (Code × Nat)) (hitems : (items.map (·.1)).map stripC = routine.map stripC)
    (hfitX : addrAt cfg.mach.codeBase routine routine.length < 2 ^ 64) :
    ∃ fuel', (runItems items args fuel' cfg).out = out ∧ (runItems items args fuel' cfg).res = .done v := by
  obtain ⟨hmem, hlen, hrun'⟩ := Scc.Props.C06Generic.run_entry hd hrun ⟨_, rfl⟩
  have hc0 := hcap _ Reachable.refl
  simp only at hc0
  obtain ⟨F, pre, st0, h, n0, X0, a, En⟩ := entry_setup p args hooks body routine nargs d0 ops c' hsafe htp
    hcompM hcompX hrout hnd hd hentry hlen hc0 cfg MO hb0 (by omega) items hitems
  have hFc := En.fc
  obtain ⟨n, XL, accL, g1, hout, g2⟩ := Track.room_done (En.boundaries hb8 hnd hfitX hcompM hsafe htp hfit hprog)
    (cap := 133) (fun ⟨_, B, _⟩ => B.alloc_le) (n := fuel) (r := 0) ⟨_, _, En.bdAt hcap hprog hmem,
      by rw [En.next1]; omega, Scc.Heap.Refine.room_init (by rw [hFc]; exact hb0) (by rw [hFc]; omega) (by rw [hFc]; omega)⟩ hrun'
  rw [← hout]
  exact En.runItems_done hheap g1 g2

end Scc.X86.ConcK
