/-
  Scc.X86.ConcKC10 — C10 (heap footprint) on concrete x86-64 runs of ALL programs (data types and closures), for the
  closure-aware relation (programs without closures: Scc/X86/ConcC10.lean).
  The runs under the footprint bound (`Track.peakTrack`, `Track.peak_done` of `Entry.boundaries`; `Entry.peakInv`,
  `Entry.peakRun`: the invariant at the first boundary) with the entry (`entry_setup`, ConcKEntry.lean) and the
  machine facts of ConcMach.lean / ConcC10.lean (`HeapShapeAt`; they do not mention the relation).
  * `PeakAtMost … Pk C` — at no statement boundary (`BoundaryOf`: up to labels and comments) of the machine's
    run are more than `Pk` blocks in use;
  * `programs_peak` — the terminating run under the bound: a boundary for every state of the positional run, at
    most `Pk + 1` blocks below the frontier at each; `programs_prefix` — the same for any number of steps of a run
    that need not terminate; `programs_peak_items` — on the run loop: trace, result, highest heap address written.
-/
import Scc.X86.ConcKPeakRun
import Scc.X86.ConcC10

namespace Scc.X86.ConcK

open Scc.AxCut Scc.Backend Scc.Backend.Abs Scc.X86.Ref
open Scc.Props.C14Generic (LabelSafe)
open Scc.Props.C06Generic (outAfter WithinCapacity Reachable EnoughHeap CodeFits statesOf stopsWithin)
open Scc.Heap (HState InvS InvW Exhausted)
open Scc.Heap.Refine (HRef FrLe Room FrPk)
open Scc.X86.Conc (BChain FrBound LiveLe LiveLe0 HeapShapeAt heapShapeAt_of_rel runLoop_done_mhw stepN_mhw mhwOK_init
  Steps bchain_of_chain frBound_init)

theorem heapRel_tol {c : MachCfg} {cs : List Code} {X0 X : State} {hs : HState} (T : Tol cs X0 X)
    (R : HeapRel c X0 hs) : HeapRel c X hs := by
  rw [T.eq]; exact Ref.heapRel_setPS R _ _

/-- THE PEAK HYPOTHESIS, all programs: at no statement boundary of the machine's run (from `asm_main`) are more
than `Pk` blocks in use.  Only boundaries with at most `C` blocks below the frontier matter.  (`Conc.PeakAtMost`,
Scc/X86/ConcC10.lean, reads the same; there `BoundaryOf` is the data-only one, here `ConcK.BoundaryOf`: a boundary up
to labels and comments) -/
def PeakAtMost (p : AxCut.Prog) (hooks : Bool) (routine : List Code) (ops : List MockOp) (cfg : MonCfg)
    (items : List (Code × Nat)) (args : List Word) (Pk C : Nat) : Prop :=
  ∀ n X st, stepN cfg (mkProg cfg.mach items) n (initState cfg.mach args 6) = .inl X →
    BoundaryOf p hooks routine ops cfg st X → ∀ below inUse, HeapShapeAt cfg X below inUse → below ≤ C →
    inUse ≤ Pk

theorem peakAtMost_trivial (p : AxCut.Prog) (hooks : Bool) (routine : List Code) (ops : List MockOp)
    (cfg : MonCfg) (items : List (Code × Nat)) (args : List Word) (C : Nat) :
    PeakAtMost p hooks routine ops cfg items args C C :=
  fun _ _ _ _ _ _ _ h hb => Nat.le_trans h.inUse_le hb

/-- the peak hypothesis on block-level states, from the one on machine states -/
theorem peakFrom_of_peakAtMost {p : AxCut.Prog} {hooks : Bool} {routine : List Code} {ops : List MockOp}
    {cfg : MonCfg} {items : List (Code × Nat)} {args : List Word} {Pk C : Nat} (hk : cfg.consts = consts)
    (hP : PeakAtMost p hooks routine ops cfg items args Pk C) {F : Frame} (hFc : F.c = cfg.mach) {n0 : Nat}
    {X0 : State} (h0 : stepN cfg (mkProg cfg.mach items) n0 (initState cfg.mach args 6) = .inl X0)
    (st : Pos.State) :
    PeakFrom F cfg (mkProg cfg.mach items) routine (Program.ofOps ops) hooks p st X0 Pk C := by
  intro n XR st' _ cfg' hs' _ hn ⟨X', B, _⟩ hC rs lin live Fr I
  exact hP (n0 + n) XR st' (stepN_trans cfg _ h0 hn) ⟨F, cfg', hs', X', hFc, B.tol, B.rel⟩ _ _
    (heapShapeAt_of_rel hFc.symm hk (heapRel_tol B.tol B.heapRel) I) (hC _ _ _ _ _ I)

section EntryPeak

variable {p : AxCut.Prog} {args : List Word} {hooks : Bool} {routine : List Code} {d0 : Def} {ops : List MockOp}
  {cfg : MonCfg} {items : List (Code × Nat)} {F : Frame} {pre : List Code} {st0 : State} {h : Word} {n0 : Nat}
  {X0 : State} {a : Nat} (En : Entry p args hooks routine d0 ops cfg items F pre st0 h n0 X0 a)
  (hcap : ∀ st, Reachable p ⟨d0.ctx, args.map .int, d0.body⟩ st → 2 * st.ctx.length ≤ 266)
  (hprog : K.ProgOK p) (hmem : d0 ∈ p.defs) {A Pk C : Nat} (hA : ∀ d ∈ p.defs, K.AllocLe A d.body)
  (hb0 : 0 < cfg.mach.heapBase) (hbytes : 64 * (Pk + A + 2) ≤ cfg.mach.heapBytes) {mon : MonCfg} {px : X86.Prog}
  (hP : PeakFrom F mon px routine (Program.ofOps ops) hooks p ⟨d0.ctx, args.map .int, d0.body⟩ X0 Pk C)

include En hcap hprog hmem hA hb0 hbytes hP in
/-- the invariant of the runs under the footprint bound at the first boundary -/
theorem Entry.peakInv :
    PeakInv F mon px routine (Program.ofOps ops) hooks p A Pk C ⟨d0.ctx, args.map .int, d0.body⟩ [] (initConfig a args)
      (Scc.Heap.init F.c.heapBase (F.c.heapBase + F.c.heapBytes)) X0 1 :=
  ⟨En.bdAt hcap hprog hmem, hA d0 hmem, K.valAll_ints _ args,
    frBound_init (by rw [En.fc]; exact hb0) (by rw [En.fc]; omega) (by omega),
    frBound_init (by rw [En.fc]; exact hb0) (by rw [En.fc]; omega) (Nat.le_refl _), hP⟩

include En hcap hprog hmem hA hb0 hbytes hP in
theorem Entry.peakRun {fuel : Nat} (hfuel : fuel + 1 < 2 ^ 64) (hC : A * fuel + 1 ≤ C) :
    Track.PeakRun (Steps mon px) p (BdAt F routine (Program.ofOps ops) hooks p) A Pk C fuel
      ⟨d0.ctx, args.map .int, d0.body⟩ [] X0 :=
  ⟨_, _, 1, En.peakInv hcap hprog hmem hA hb0 hbytes hP, by rw [En.next1]; omega, by omega⟩

end EntryPeak

/-- the chain of block-level facts as a chain of facts about the raw machine states, using the peak
hypothesis at every state of the chain (they are all on the run) -/
theorem bchain_shape {p : AxCut.Prog} {hooks : Bool} {routine : List Code} {ops : List MockOp} {cfg : MonCfg}
    {items : List (Code × Nat)} {args : List Word} {Pk C : Nat} {F : Frame} (hFc : F.c = cfg.mach)
    (hk : cfg.consts = consts) (hP : PeakAtMost p hooks routine ops cfg items args Pk C) :
    ∀ (sts : List Pos.State) (X : State) (k : Nat),
      stepN cfg (mkProg cfg.mach items) k (initState cfg.mach args 6) = .inl X →
      BChain cfg (mkProg cfg.mach items) (ChainRel F routine (Program.ofOps ops) hooks p Pk C) sts X →
      BChain cfg (mkProg cfg.mach items) (fun st X => BoundaryOf p hooks routine ops cfg st X ∧
        ∃ below inUse, HeapShapeAt cfg X below inUse ∧ below ≤ Pk + 1 ∧ inUse ≤ Pk) sts X := by
  intro sts
  induction sts with
  | nil => intro X k _ _; trivial
  | cons st rest ih =>
    intro X k hk' hc
    obtain ⟨⟨X1, cfgA, hs, T, R, hfb, hcC⟩, hrest⟩ := hc
    have hB : BoundaryOf p hooks routine ops cfg st X := ⟨F, cfgA, hs, X1, hFc, T, R⟩
    have hX3 : ∃ Γ' ι κ, K.X3 F Γ' cfgA hs ι κ X1 := by
      obtain ⟨Γ', ι, κ, _, _, X3h, _⟩ := R
      exact ⟨Γ', ι, κ, X3h⟩
    obtain ⟨Γ', ι, κ, X3h⟩ := hX3
    obtain ⟨lin, lazy, live, Fr, I⟩ := X3h.href.conc
    have hsh := heapShapeAt_of_rel (m := cfg) hFc.symm hk (heapRel_tol T X3h.hrel) I
    refine ⟨⟨hB, _, _, hsh, hfb _ _ _ _ _ I, hP k X st hk' hB _ _ hsh (hcC _ _ _ _ _ I)⟩, ?_⟩
    rcases hrest with e | ⟨n', X', hn', hc'⟩
    · exact Or.inl e
    · exact Or.inr ⟨n', X', hn', ih X' (k + n') (stepN_trans cfg _ hk' hn') hc'⟩

/-- C10 ON THE MACHINE, all programs: the run under the footprint bound -/
theorem programs_peak (p : AxCut.Prog) (args : List Word) (hooks : Bool) (body routine : List Code)
    (nargs : Nat) (d0 : Def) (ops : List MockOp) (c' : Nat)
    (hsafe : LabelSafe p = true) (htp : LinTypedProg p) (hprog : K.ProgOK p)
    (hcompM : (compile mockSym hooks p).run 0 = .ok ((ops, nargs), c')) (hfit : CodeFits ops)
    (hcompX : compileX86 p hooks 0 = .ok (body, nargs)) (hrout : intoRoutine body nargs = .ok routine)
    (hnd : (labs routine).Nodup)
    (hd : p.defs.head? = some d0) (hentry : ∀ b ∈ d0.ctx, b.chi = .ext ∧ b.ty = .i64)
    (hcap : ∀ st, Reachable p ⟨d0.ctx, args.map .int, d0.body⟩ st → 2 * st.ctx.length ≤ 266)
    (fuel : Nat) (out : List (Bool × Word)) (v : Word) (hfuel : fuel + 1 < 2 ^ 64)
    (hrun : Pos.run p args fuel = ⟨out, .done v⟩)
    (cfg : MonCfg) (MO : MachOK cfg.mach) (hk : cfg.consts = consts)
    (hb8 : cfg.mach.heapBase % 8 = 0) (hb0 : 0 < cfg.mach.heapBase)
    (Pk A : Nat) (hA : ∀ d ∈ p.defs, K.AllocLe A d.body) (hbytes : 64 * (Pk + A + 2) ≤ cfg.mach.heapBytes)
    (items : List (Code × Nat)) (hitems : (items.map (·.1)).map stripC = routine.map stripC)
    (hfitX : addrAt cfg.mach.codeBase routine routine.length < 2 ^ 64)
    (hP : PeakAtMost p hooks routine ops cfg items args Pk (A * fuel + 1)) :
    (mkProg cfg.mach items).labelIdx["asm_main"]? = some 6 ∧
    ∃ n0 X0 n XL, stepN cfg (mkProg cfg.mach items) n0 (initState cfg.mach args 6) = .inl X0 ∧
      BChain cfg (mkProg cfg.mach items)
        (fun st X => BoundaryOf p hooks routine ops cfg st X ∧
          ∃ below inUse, HeapShapeAt cfg X below inUse ∧ below ≤ Pk + 1 ∧ inUse ≤ Pk)
        (statesOf p fuel ⟨d0.ctx, args.map .int, d0.body⟩) X0 ∧
      stepN cfg (mkProg cfg.mach items) n X0 = .inl XL ∧ step cfg (mkProg cfg.mach items) XL = .inr (.done v) ∧
      XL.out.reverse = out ∧ XL.maxHeapWritten ≤ cfg.mach.heapBytes := by
  obtain ⟨hmem, hlen, hrun'⟩ := Scc.Props.C06Generic.run_entry hd hrun ⟨_, rfl⟩
  have hc0 := hcap _ Reachable.refl
  simp only at hc0
  obtain ⟨F, pre, st0, h, n0, X0, a, En⟩ := entry_setup p args hooks body routine nargs d0 ops c' hsafe htp
    hcompM hcompX hrout hnd hd hentry hlen hc0 cfg MO hb0 (by omega) items hitems
  have hFc := En.fc
  have H := En.boundaries hb8 hnd hfitX hcompM hsafe htp hfit hprog
  have I0 := En.peakRun hcap hprog hmem hA hb0 hbytes
    (peakFrom_of_peakAtMost hk hP hFc En.steps ⟨d0.ctx, args.map .int, d0.body⟩) hfuel (Nat.le_refl _)
  obtain ⟨n, XL, accL, g1, hout, g2, g3⟩ := Track.peak_done H hA hbytes (n := fuel) (r := 0) I0 hrun'
  have hch := bchain_of_chain (((Track.peakTrack H hA hbytes).run fuel 0 _ _ _ I0).1.mono chainRel_of_peakRun)
  refine ⟨En.main, n0, X0, n, XL, En.steps, bchain_shape hFc hk hP _ X0 n0 En.steps hch, g1, g2, by rw [g3, hout], ?_⟩
  exact stepN_mhw (n0 + n) (stepN_trans cfg _ En.steps g1) (mhwOK_init cfg.mach args 6)

/-- C09/C10 ON THE MACHINE FOR EVERY PREFIX OF EVERY RUN (terminating or not), all programs: for ANY number
`fuel` of steps of the positional machine, the machine started at `asm_main` passes — without fault — through a
boundary state for every state the positional machine goes through in `fuel` steps -/
theorem programs_prefix (p : AxCut.Prog) (args : List Word) (hooks : Bool) (body routine : List Code)
    (nargs : Nat) (d0 : Def) (ops : List MockOp) (c' : Nat)
    (hsafe : LabelSafe p = true) (htp : LinTypedProg p) (hprog : K.ProgOK p)
    (hcompM : (compile mockSym hooks p).run 0 = .ok ((ops, nargs), c')) (hfit : CodeFits ops)
    (hcompX : compileX86 p hooks 0 = .ok (body, nargs)) (hrout : intoRoutine body nargs = .ok routine)
    (hnd : (labs routine).Nodup)
    (hd : p.defs.head? = some d0) (hentry : ∀ b ∈ d0.ctx, b.chi = .ext ∧ b.ty = .i64)
    (hlen : d0.ctx.length = args.length)
    (hcap : ∀ st, Reachable p ⟨d0.ctx, args.map .int, d0.body⟩ st → 2 * st.ctx.length ≤ 266)
    (fuel : Nat) (hfuel : fuel + 1 < 2 ^ 64)
    (cfg : MonCfg) (MO : MachOK cfg.mach) (hk : cfg.consts = consts)
    (hb8 : cfg.mach.heapBase % 8 = 0) (hb0 : 0 < cfg.mach.heapBase)
    (Pk A : Nat) (hA : ∀ d ∈ p.defs, K.AllocLe A d.body) (hbytes : 64 * (Pk + A + 2) ≤ cfg.mach.heapBytes)
    (items : List (Code × Nat)) (hitems : (items.map (·.1)).map stripC = routine.map stripC)
    (hfitX : addrAt cfg.mach.codeBase routine routine.length < 2 ^ 64)
    (hP : PeakAtMost p hooks routine ops cfg items args Pk (A * fuel + 1)) :
    (mkProg cfg.mach items).labelIdx["asm_main"]? = some 6 ∧
    ∃ n0 X0, stepN cfg (mkProg cfg.mach items) n0 (initState cfg.mach args 6) = .inl X0 ∧
      BChain cfg (mkProg cfg.mach items)
        (fun st X => BoundaryOf p hooks routine ops cfg st X ∧
          ∃ below inUse, HeapShapeAt cfg X below inUse ∧ below ≤ Pk + 1 ∧ inUse ≤ Pk)
        (statesOf p fuel ⟨d0.ctx, args.map .int, d0.body⟩) X0 := by
  have hmem : d0 ∈ p.defs := List.mem_of_mem_head? hd
  have hc0 := hcap _ Reachable.refl
  simp only at hc0
  obtain ⟨F, pre, st0, h, n0, X0, a, En⟩ := entry_setup p args hooks body routine nargs d0 ops c' hsafe htp
    hcompM hcompX hrout hnd hd hentry hlen hc0 cfg MO hb0 (by omega) items hitems
  have hFc := En.fc
  have H := En.boundaries hb8 hnd hfitX hcompM hsafe htp hfit hprog
  have I0 := En.peakRun hcap hprog hmem hA hb0 hbytes
    (peakFrom_of_peakAtMost hk hP hFc En.steps ⟨d0.ctx, args.map .int, d0.body⟩) hfuel (Nat.le_refl _)
  have hch := bchain_of_chain (((Track.peakTrack H hA hbytes).run fuel 0 _ _ _ I0).1.mono chainRel_of_peakRun)
  exact ⟨En.main, n0, X0, En.steps, bchain_shape hFc hk hP _ X0 n0 En.steps hch⟩

/-- `programs_peak` on the run loop: trace, result and the highest heap address written -/
theorem programs_peak_items (p : AxCut.Prog) (args : List Word) (hooks : Bool) (body routine : List Code)
    (nargs : Nat) (d0 : Def) (ops : List MockOp) (c' : Nat)
    (hsafe : LabelSafe p = true) (htp : LinTypedProg p) (hprog : K.ProgOK p)
    (hcompM : (compile mockSym hooks p).run 0 = .ok ((ops, nargs), c')) (hfit : CodeFits ops)
    (hcompX : compileX86 p hooks 0 = .ok (body, nargs)) (hrout : intoRoutine body nargs = .ok routine)
    (hnd : (labs routine).Nodup)
    (hd : p.defs.head? = some d0) (hentry : ∀ b ∈ d0.ctx, b.chi = .ext ∧ b.ty = .i64)
    (hcap : ∀ st, Reachable p ⟨d0.ctx, args.map .int, d0.body⟩ st → 2 * st.ctx.length ≤ 266)
    (fuel : Nat) (out : List (Bool × Word)) (v : Word) (hfuel : fuel + 1 < 2 ^ 64)
    (hrun : Pos.run p args fuel = ⟨out, .done v⟩)
    (cfg : MonCfg) (MO : MachOK cfg.mach) (hk : cfg.consts = consts) (hheap : cfg.heap = false)
    (hb8 : cfg.mach.heapBase % 8 = 0) (hb0 : 0 < cfg.mach.heapBase)
    (Pk A : Nat) (hA : ∀ d ∈ p.defs, K.AllocLe A d.body) (hbytes : 64 * (Pk + A + 2) ≤ cfg.mach.heapBytes)
    (items : List (Code × Nat)) (hitems : (items.map (·.1)).map stripC = routine.map stripC)
    (hfitX : addrAt cfg.mach.codeBase routine routine.length < 2 ^ 64)
    (hP : PeakAtMost p hooks routine ops cfg items args Pk (A * fuel + 1)) :
    ∃ fuel', (runItems items args fuel' cfg).out = out ∧ (runItems items args fuel' cfg).res = .done v ∧
      (runItems items args fuel' cfg).maxHeapWritten ≤ cfg.mach.heapBytes := by
  obtain ⟨hmain, n0, X0, n, XL, h0, _, g1, g2, g3, hm⟩ := programs_peak p args hooks body routine nargs d0 ops
    c' hsafe htp hprog hcompM hfit hcompX hrout hnd hd hentry hcap fuel out v hfuel hrun cfg MO hk hb8 hb0 Pk A hA
    hbytes items hitems hfitX hP
  have hargs : ¬ args.length > 5 := by
    have hlen := (Scc.Props.C06Generic.run_entry hd hrun ⟨_, rfl⟩).2.1
    obtain ⟨_, hnargs⟩ := Sim.mock_entry hcompM hd
    rw [hnargs, hlen] at hrout
    obtain ⟨moves, hmv, _⟩ := intoRoutine_shape hrout
    have := moveArguments_le _ _ hmv
    omega
  refine ⟨n0 + (n + 1), ?_⟩
  have hrl : runItems items args (n0 + (n + 1)) cfg =
      runLoop cfg (mkProg cfg.mach items) (n0 + (n + 1)) (initState cfg.mach args 6) 0 := by
    unfold runItems
    simp only [hmain]
    rw [if_neg hargs]
  rw [hrl, runLoop_stepN hheap _ n0 (n + 1) _ _ 0 h0, runLoop_stepN hheap _ n 1 _ _ 0 g1]
  obtain ⟨h1, h2⟩ := runLoop_done hheap (mkProg cfg.mach items) 0 XL 0 g2
  refine ⟨by rw [h1]; exact g3, h2, ?_⟩
  rw [runLoop_done_mhw hheap (mkProg cfg.mach items) 0 XL 0 g2]
  exact hm

end Scc.X86.ConcK
