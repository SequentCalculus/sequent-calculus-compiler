/-
  Scc.X86.RefParam — the code generated with the x86-64 backend RENDERS the code generated with the mock
  backend: for an integer statement `s` (lit op print ifc exit call subst on `ext` contexts) that is
  linearly typed, with literals in `i64`, whenever the generic generator instantiated with
  `x86Backend` succeeds (no "Out of temporaries"), the generator instantiated with `mockSym` succeeds
  from the same label counter, ends with the same counter, and the two code lists are related by
  `Seg` (RefDefs.lean): instruction by instruction, `t ↦ posTemp t`, with the side conditions of the
  per-instruction simulation (`OpRel`).  Parallel moves: the spanning forests correspond under
  `posTemp` (RefPM.lean), `contains_spill_edge = false` implies that no `mov` of the root is
  spill-to-spill (so TEMP may hold the saved value).
  The walk over the generator is that of Scc/Backend/ProofsRender.lean; this file holds what it asks of the backend.
-/
import Scc.X86.RefPM
import Scc.Backend.ProofsRender
import Scc.X86.RefDefs
import Scc.X86.ProofsWfProg
import Scc.Props.C06Generic

namespace Scc.X86.Ref

open Scc.AxCut Scc.Backend Scc.Backend.Sim
open Scc.Props.C06Generic (IntStmt IntCtx IntProg)

theorem temp_beq (x y : Temporary) : (x == y) = decide (x = y) := by
  cases x <;> cases y <;> simp [BEq.beq, instBEqTemporary.beq]

theorem tempLt_posTemp (a b : Nat) : tempLt (posTemp a) (posTemp b) = decide (a < b) := by
  unfold posTemp
  by_cases h1 : a + 4 < 16 <;> by_cases h2 : b + 4 < 16 <;> simp only [h1, h2, if_true, if_false, tempLt]
  · simp
  · simp; omega
  · simp; omega
  · simp; omega

theorem tempMap_posTemp : TempMap mockSym x86Backend posTemp where
  lt := fun a b => by
    show tempLt (posTemp a) (posTemp b) = decide (a < b)
    exact tempLt_posTemp a b
  eq := fun a b => by
    show (posTemp a == posTemp b) = (a == b)
    rw [temp_beq]
    by_cases h : a = b
    · subst h; simp
    · have : posTemp a ≠ posTemp b := fun e => h (posTemp_inj.1 e)
      simp [h, this]

mutual
  /-- no edge `parent → child` of the tree joins two spill slots -/
  def NoSS (parent : Temporary) : Tree Temporary → Prop
    | .backEdge => True
    | .node t kids => ¬ (isSpill parent = true ∧ isSpill t = true) ∧ NoSSs t kids
  def NoSSs (parent : Temporary) : List (Tree Temporary) → Prop
    | [] => True
    | k :: ks => NoSS parent k ∧ NoSSs parent ks
end

mutual
  theorem noSS_of_register (rs : Bool) (r : Nat) : ∀ (tr : Tree Temporary),
      spillEdgeRegister rs tr = false → NoSS (.reg r) tr
    | .backEdge, _ => trivial
    | .node (.reg r') kids, h => by
      simp only [spillEdgeRegister] at h
      exact ⟨by simp [isSpill], noSSs_of_register rs r' kids h⟩
    | .node (.spill p) kids, h => by
      simp only [spillEdgeRegister] at h
      exact ⟨by simp [isSpill], noSSs_of_spill rs p kids h⟩
  theorem noSS_of_spill (rs : Bool) (p : Nat) : ∀ (tr : Tree Temporary),
      spillEdgeSpill rs tr = false → NoSS (.spill p) tr
    | .backEdge, _ => trivial
    | .node (.reg r') kids, h => by
      simp only [spillEdgeSpill] at h
      exact ⟨by simp [isSpill], noSSs_of_register rs r' kids h⟩
    | .node (.spill p') kids, h => by
      simp [spillEdgeSpill] at h
  theorem noSSs_of_register (rs : Bool) (r : Nat) : ∀ (l : List (Tree Temporary)),
      anySpillEdgeRegister rs l = false → NoSSs (.reg r) l
    | [], _ => trivial
    | k :: ks, h => by
      simp only [anySpillEdgeRegister, Bool.or_eq_false_iff] at h
      exact ⟨noSS_of_register rs r k h.1, noSSs_of_register rs r ks h.2⟩
  theorem noSSs_of_spill (rs : Bool) (p : Nat) : ∀ (l : List (Tree Temporary)),
      anySpillEdgeSpill rs l = false → NoSSs (.spill p) l
    | [], _ => trivial
    | k :: ks, h => by
      simp only [anySpillEdgeSpill, Bool.or_eq_false_iff] at h
      exact ⟨noSS_of_spill rs p k h.1, noSSs_of_spill rs p ks h.2⟩
end

theorem noSSs_of_containsSpillEdge (t : Temporary) (kids : List (Tree Temporary))
    (h : containsSpillEdge (.startNode t kids) = false) : NoSSs t kids := by
  cases t with
  | reg r => exact noSSs_of_register false r kids h
  | spill p => exact noSSs_of_spill true p kids h

/-- the mode of the scratch cell after the moves of a tree: a tree that refers back to its root (`back`) goes
through the scratch cell and leaves it in mode `.pm b`; any other tree leaves the mode as it is -/
def afterTree (b : Bool) (back : Bool) (g : Mode) : Mode := if back then .pm b else g

/-- the side condition of a `mov` from `p` to `c` in scratch mode `g`: while TEMP holds the saved value, no
spill-to-spill move (it goes through TEMP) -/
def MovOK (g : Mode) (p c : Temporary) : Prop := g = .pm false → ¬ (isSpill c = true ∧ isSpill p = true)

mutual
  theorem edgesT_of_noSS {P : Temporary → Temporary → Prop}
      (h : ∀ p c, ¬ (isSpill p = true ∧ isSpill c = true) → P p c) (parent : Temporary) :
      ∀ tr : Tree Temporary, NoSS parent tr → Render.EdgesT P parent tr
    | .backEdge, _ => trivial
    | .node t kids, hn => ⟨h _ _ hn.1, edgesTs_of_noSS h t kids hn.2⟩
  theorem edgesTs_of_noSS {P : Temporary → Temporary → Prop}
      (h : ∀ p c, ¬ (isSpill p = true ∧ isSpill c = true) → P p c) (parent : Temporary) :
      ∀ l : List (Tree Temporary), NoSSs parent l → Render.EdgesTs P parent l
    | [], _ => trivial
    | k :: ks, hn => ⟨edgesT_of_noSS h parent k hn.1, edgesTs_of_noSS h parent ks hn.2⟩
end

theorem seg_of_segG {g g' : Mode} {ops : List MockOp} {cs : List Code} (h : Render.SegG OpRel g ops cs g') :
    Seg g ops cs g' := by
  induction h with
  | nil g => exact Seg.nil g
  | cons hop _ ih => exact Seg.cons hop ih

/-- parallel_moves.rs on x86-64: `store_temporary`, `restore_temporary`, `mov`, `comment` render `save`, `restore`,
`mov`, `comment`; `contains_spill_edge = false` excludes spill-to-spill moves -/
theorem moveOps : Render.MoveOps x86Backend posTemp PosW OpRel .normal Mode.pm MovOK where
  tm := tempMap_posTemp
  save hp hg := ⟨_, rfl, hp, hg, rfl⟩
  restore ht := ⟨_, rfl, ht, rfl, rfl⟩
  mov ht hs he := Or.inr ⟨ht, hs, rfl, rfl, he⟩
  comment := ⟨rfl, rfl⟩
  edges t kids := by
    cases hb : x86Backend.containsSpillEdge (.startNode t kids) with
    | true =>
      refine Render.EdgesTs.of_forall (fun p c g hg hgf => ?_) t kids
      rcases hg with h | h <;> rw [h] at hgf <;> cases hgf
    | false =>
      exact edgesTs_of_noSS (fun p c hpc g _ _ hc => hpc ⟨hc.2, hc.1⟩) t kids (noSSs_of_containsSpillEdge t kids hb)

theorem seg_treeMoves (b : Bool) (parent : Nat) (hp : PosW parent) : ∀ (tr : Tree Nat) (g : Mode),
    (g = .normal ∨ g = .pm b) → TreeOK PosW tr → (b = false → NoSS (posTemp parent) (mapT posTemp tr)) →
    Seg g (treeMoves mockSym parent false tr) (treeMoves x86Backend (posTemp parent) b (mapT posTemp tr))
      (afterTree b (Tree.refersBack tr) g) := by
  intro tr g hg hw hn
  refine seg_of_segG (Render.seg_treeMoves moveOps b parent hp tr g hg hw ?_)
  cases b with
  | true =>
    refine Render.EdgesT.of_forall (fun p c g hg hgf => ?_) _ _
    rcases hg with h | h <;> rw [h] at hgf <;> cases hgf
  | false => exact edgesT_of_noSS (fun p c hpc g _ _ hc => hpc ⟨hc.2, hc.1⟩) _ _ (hn rfl)

theorem x86_ctxPosition_go (id : Nat) : ∀ (Γ : Ctx) (k : Nat),
    X86.ctxPosition Γ id k = (Γ.findIdx? (fun b => b.var.id == id)).map (· + k)
  | [], k => rfl
  | b :: bs, k => by
    simp only [X86.ctxPosition, List.findIdx?_cons]
    by_cases h : (b.var.id == id) = true
    · simp [h]
    · simp only [h, if_false, Bool.false_eq_true]
      rw [x86_ctxPosition_go id bs (k + 1)]
      cases List.findIdx? (fun b => b.var.id == id) bs <;> simp [Nat.add_assoc, Nat.add_comm 1]

theorem x86_ctxPosition_eq_posOf (Γ : Ctx) (id : Nat) : X86.ctxPosition Γ id 0 = Pos.posOf Γ id := by
  unfold Pos.posOf
  rw [x86_ctxPosition_go]
  cases List.findIdx? (fun b => b.var.id == id) Γ <;> simp

theorem tfp_ok {n : Nat} {t : Temporary} (h : temporaryFromPosition n = .ok t) :
    n < 267 ∧ t = posTemp n := by
  by_cases hn : n < 267
  · rw [temporaryFromPosition_eq hn] at h
    cases h; exact ⟨hn, rfl⟩
  · exfalso
    unfold temporaryFromPosition at h
    have hR : RESERVED = 4 := rfl
    have hN : REGISTER_NUM = 16 := rfl
    have hS : RESERVED_SPILLS = 1 := rfl
    have hP : SPILL_NUM = 256 := rfl
    simp only [hR, hN, hS, hP] at h
    rw [if_neg (by omega), if_neg (by omega)] at h
    cases h

theorem x86_vt_run_ok (num : TempNum) (ctx : Ctx) (id : Nat) (c : Nat) (t : Temporary) (c' : Nat) :
    (X86.variableTemporary num ctx id).run c = .ok (t, c') ↔
      ∃ pos, Pos.posOf ctx id = some pos ∧ 2 * pos + num.toNat < 267 ∧
        t = posTemp (2 * pos + num.toNat) ∧ c = c' := by
  unfold X86.variableTemporary
  rw [x86_ctxPosition_eq_posOf]
  cases hp : Pos.posOf ctx id with
  | none => simp [run_throw_ok]
  | some pos =>
    simp only [Option.some.injEq, exists_eq_left']
    cases ht : temporaryFromPosition (2 * pos + num.toNat) with
    | error e =>
      simp only [liftE, run_throw_ok, false_iff]
      rintro ⟨hlt, _⟩
      rw [temporaryFromPosition_eq hlt] at ht; cases ht
    | ok t' =>
      obtain ⟨hlt, rfl⟩ := tfp_ok ht
      simp only [liftE, run_pure_ok]
      constructor
      · rintro ⟨rfl, rfl⟩; exact ⟨hlt, rfl, rfl⟩
      · rintro ⟨_, rfl, rfl⟩; exact ⟨rfl, rfl⟩

/-- the mock run that corresponds to a successful x86 run of `variable_temporary` -/
theorem vt_rel {num : TempNum} {ctx : Ctx} {id : Nat} {c : Nat} {t : Temporary} {c' : Nat}
    (h : (x86Backend.variableTemporary num ctx id).run c = .ok (t, c')) :
    ∃ pos, Pos.posOf ctx id = some pos ∧ 2 * pos + num.toNat < 267 ∧ t = posTemp (2 * pos + num.toNat) ∧
      c' = c ∧ (mockSym.variableTemporary num ctx id).run c = .ok (2 * pos + num.toNat, c) := by
  obtain ⟨pos, hp, hlt, rfl, rfl⟩ := (x86_vt_run_ok num ctx id c t c').1 h
  refine ⟨pos, hp, hlt, rfl, rfl, ?_⟩
  rw [mockSym_variableTemporary, vt_run_ok]
  exact ⟨pos, by rw [ctxPosition_eq_posOf]; exact hp, rfl, rfl⟩

theorem posW_snd {pos : Nat} (h : 2 * pos + TempNum.snd.toNat < 267) : PosW (2 * pos + TempNum.snd.toNat) := by
  simp only [TempNum.toNat] at h ⊢
  exact ⟨by omega, h⟩

/-- the x86-64 `variable_temporary` under `posTemp`; the word part (`.snd`) of a position is a `PosW` -/
theorem varTemps : Render.VarTemps x86Backend posTemp PosW (· = .snd) where
  vt h := by
    obtain ⟨pos, hp, hlt, rfl, rfl, hm⟩ := vt_rel h
    exact ⟨pos, hp, rfl, rfl, fun e => by subst e; exact posW_snd hlt, hm⟩

/-- the x86-64 methods render the mock instructions of integer statements -/
theorem stmtOps : Render.StmtOps x86Backend posTemp PosW OpRel .normal .exit (fun n => fitsI64 n = true) where
  comment := ⟨rfl, rfl⟩
  label := ⟨rfl, rfl, rfl⟩
  jumpLabel := ⟨rfl, rfl, Or.inl rfl⟩
  jumpCleanup := ⟨rfl, rfl, Or.inr ⟨rfl, rfl⟩⟩
  movRet hs := Or.inl ⟨rfl, hs, rfl, rfl, rfl⟩
  li ht hn := ⟨rfl, ht, hn, rfl, rfl⟩
  binop ht ha hb hat hbt := ⟨rfl, ht, ha, hb, by omega, by omega, by have := ha.1; have := ht.1; omega, rfl, rfl⟩
  jifz ha := ⟨rfl, ha, rfl, rfl⟩
  jif ha hb := ⟨rfl, ha, hb, rfl, rfl⟩
  print {nl s Γ c code c'} hs hlt hpr := by
    have : (x86Backend.printI64 nl (posTemp s) Γ).run c = .ok (printI64 nl (posTemp s) Γ, c) := rfl
    rw [this] at hpr
    injection hpr with e; injection e with e1 e2
    subst e1 e2
    exact ⟨rfl, Γ, rfl, rfl, hs, hlt, rfl, rfl⟩

theorem litHered (M : Nat) : Render.LitHered (StmtB (fun n => fitsI64 n = true) M) (fun n => fitsI64 n = true) where
  lit h := by simpa only [StmtB] using h
  op h := by simpa only [StmtB] using h
  print h := by simpa only [StmtB] using h
  ifc h := by simpa only [StmtB] using h
  subst h := by simp only [StmtB] at h; exact h.2

/-- THE RENDERING THEOREM: whenever the x86-64 code generator succeeds on a linearly typed integer
    program with literals in `i64`, the mock code generator succeeds from the same counter, and the x86
    body is the rendering (`Seg`) of the mock code -/
theorem seg_compile (hooks : Bool) (p : AxCut.Prog) (htp : LinTypedProg p) (hip : IntProg p)
    (hr : ProgInRange p) {c : Nat} {body : List Code} {nargs : Nat}
    (h : compileX86 p hooks c = .ok (body, nargs)) :
    ∃ ops c', (compile mockSym hooks p).run c = .ok ((ops, nargs), c') ∧ Seg .normal ops body .normal := by
  unfold compileX86 at h
  cases hx : (compile x86Backend hooks p).run c with
  | error e => rw [hx] at h; cases h
  | ok r =>
    obtain ⟨⟨body', nargs'⟩, c'⟩ := r
    rw [hx] at h
    simp only [Except.ok.injEq, Prod.mk.injEq] at h
    obtain ⟨rfl, rfl⟩ := h
    obtain ⟨ops, hm, S⟩ := Render.seg_compile moveOps varTemps stmtOps (litHered maxSubstX86) hooks p htp hip hr.2 hx
    exact ⟨ops, c', hm, seg_of_segG S⟩

end Scc.X86.Ref
