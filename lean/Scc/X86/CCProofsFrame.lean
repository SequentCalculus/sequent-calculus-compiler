/-
  Scc.X86.CCProofsFrame — property C13, x86-64: what ONE instruction can do on the SPEC machine
  (Scc/X86/Machine.lean), whatever the values involved (no definedness hypothesis).  `execCode_spec` is one case
  analysis on the instruction forms; `CodeSpec` says what comes out: the instruction fails with one of the
  machine's own messages (`MErr`; none of them is a fault of the calling-convention monitor or the
  `control-transfer` stop of a segment: `OKErr`), or — unless it is push / pop / call / ret — its post-state
  agrees with the pre-state outside the registers `codeWrites` and the stack words its memory operands `codeMems`
  address (`Fr`, `MemAddrs`), so these two tables of CCProofsStatic.lean are SOUND for the machine; and control
  afterwards is as `CtlOf` says.  The primitives of the machine are treated once each in the same form (`Act`:
  error or frame).  `execCode_err`, `execCode_fr`, `execCode_ctl` are the three readings the later files use.
-/
import Scc.X86.CCProofsSites

namespace Scc.X86

def errPrefixes : List String :=
  ["bad-register ", "read-undefined ", "unaligned ", "oob ", "store-undefined-to-heap ",
   "imm-out-of-range ", "undefined-label "]

def errFixed : List String :=
  ["idiv-rdx-not-sign-extension", "div-by-zero", "div-overflow", "illegal-instruction imul-to-memory"]

inductive MErr : String → Prop where
  | pre (p x : String) : p ∈ errPrefixes → MErr (p ++ x)
  | fixed (e : String) : e ∈ errFixed → MErr e

/-- messages that are not raised by the calling-convention monitor (nor by `execSeq` for a control
    transfer inside a straight-line segment) -/
def OKErr (e : String) : Prop :=
  e ≠ "misaligned-call" ∧ e ≠ "ret-to-non-sentinel" ∧ e ≠ "control-transfer"

theorem MErr.okErr {e : String} (h : MErr e) : OKErr e := by
  cases h with
  | pre p x hp =>
    simp only [errPrefixes, List.mem_cons, List.not_mem_nil, or_false] at hp
    rcases hp with rfl | rfl | rfl | rfl | rfl | rfl | rfl <;>
      exact ⟨Str.append_ne_prefix (by decide), Str.append_ne_prefix (by decide), Str.append_ne_prefix (by decide)⟩
  | fixed e he =>
    simp only [errFixed, List.mem_cons, List.not_mem_nil, or_false] at he
    rcases he with rfl | rfl | rfl | rfl <;> exact ⟨by decide, by decide, by decide⟩

theorem merr_badReg (r : Nat) : MErr s!"bad-register {r}" :=
  MErr.pre "bad-register " (toString r) (by simp [errPrefixes])
theorem merr_undefReg (r : Nat) : MErr s!"read-undefined {regName r}" :=
  MErr.pre "read-undefined " (regName r) (by simp [errPrefixes])
theorem merr_undefMem (n : Nat) : MErr s!"read-undefined [{n}]" := by
  have : (s!"read-undefined [{n}]" : String) = "read-undefined " ++ ("[" ++ toString n ++ "]") := by
    show "read-undefined [" ++ toString n ++ "]" = _
    rw [show ("read-undefined [" : String) = "read-undefined " ++ "[" from by decide]
    simp only [String.append_assoc]
  rw [this]
  exact MErr.pre _ _ (by simp [errPrefixes])
theorem merr_undefFlags : MErr "read-undefined flags" :=
  MErr.pre "read-undefined " "flags" (by simp [errPrefixes])
theorem merr_unaligned (n : Nat) : MErr s!"unaligned {n}" :=
  MErr.pre "unaligned " (toString n) (by simp [errPrefixes])
theorem merr_oob (n : Nat) : MErr s!"oob {n}" := MErr.pre "oob " (toString n) (by simp [errPrefixes])
theorem merr_storeUndef (n : Nat) : MErr s!"store-undefined-to-heap {n}" :=
  MErr.pre "store-undefined-to-heap " (toString n) (by simp [errPrefixes])
theorem merr_imm (i : Int) : MErr s!"imm-out-of-range {i}" :=
  MErr.pre "imm-out-of-range " (toString i) (by simp [errPrefixes])
theorem merr_undefLabel (l : String) : MErr s!"undefined-label {l}" :=
  MErr.pre "undefined-label " l (by simp [errPrefixes])

section Errs
variable {c : MachCfg} {s : State} {e : String}

theorem rdRaw_err {r : Reg} (h : rdRaw s r = .error e) : MErr e := by
  unfold rdRaw at h
  split at h
  · cases h
  · cases h; exact merr_badReg r

theorem rd_err {r : Reg} (h : rd s r = .error e) : MErr e := by
  unfold rd at h
  split at h
  · cases h
  · cases h; exact merr_undefReg r
  · cases h; exact merr_badReg r

theorem loadWordRaw_err {a : Word} (h : loadWordRaw c s a = .error e) : MErr e := by
  unfold loadWordRaw at h
  dsimp only at h
  split at h
  · cases h; exact merr_unaligned _
  · split at h
    · cases h
    · split at h
      · cases h
      · cases h; exact merr_oob _

theorem loadWord_err {a : Word} (h : loadWord c s a = .error e) : MErr e := by
  unfold loadWord at h
  split at h
  · cases h
  · cases h; exact merr_undefMem _
  · rename_i e' he
    cases h; exact loadWordRaw_err he

theorem imm32_err {i : Int} {e : String} (h : imm32 i = .error e) : MErr e := by
  unfold imm32 at h
  split at h
  · cases h
  · cases h; exact merr_imm i

theorem ea_err {r : Reg} {i : Int} (h : ea s r i = .error e) : MErr e := by
  unfold ea at h
  cases h1 : rd s r with
  | error e1 => simp only [h1] at h; cases h; exact rd_err h1
  | ok b =>
    cases h2 : imm32 i with
    | error e2 => simp only [h1, h2] at h; cases h; exact imm32_err h2
    | ok d => simp only [h1, h2] at h; cases h

theorem readLoc_err {l : Loc} (h : readLoc c s l = .error e) : MErr e := by
  cases l with
  | r r => exact rd_err h
  | m b d =>
    simp only [readLoc] at h
    split at h
    · exact loadWord_err h
    · rename_i e' he; cases h; exact ea_err he

theorem readSrc_err {l : Src} (h : readSrc c s l = .error e) : MErr e := by
  cases l with
  | loc l => exact readLoc_err h
  | imm i => exact imm32_err h

end Errs

/-- `s'` differs from `s` at most in the registers `W`, the stack words with an address in `A`, and in
    flags / heap / trace / counters -/
structure Fr (W : List Nat) (A : Nat → Prop) (s s' : State) : Prop where
  size : s'.regs.size = s.regs.size
  regs : ∀ r, r ∉ W → s'.regs[r]? = s.regs[r]?
  mem : ∀ n, ¬ A n → s'.stackMem[n]? = s.stackMem[n]?

theorem Fr.refl (W : List Nat) (A : Nat → Prop) (s : State) : Fr W A s s := ⟨rfl, fun _ _ => rfl, fun _ _ => rfl⟩

theorem Fr.mono {W W' : List Nat} {A A' : Nat → Prop} {s s' : State} (h : Fr W A s s')
    (hW : ∀ r, r ∈ W → r ∈ W') (hA : ∀ n, A n → A' n) : Fr W' A' s s' :=
  ⟨h.size, fun r hr => h.regs r (fun h' => hr (hW r h')), fun n hn => h.mem n (fun h' => hn (hA n h'))⟩

theorem Fr.trans {W : List Nat} {A : Nat → Prop} {s1 s2 s3 : State} (h1 : Fr W A s1 s2) (h2 : Fr W A s2 s3) :
    Fr W A s1 s3 :=
  ⟨h2.size.trans h1.size, fun r hr => (h2.regs r hr).trans (h1.regs r hr),
   fun n hn => (h2.mem n hn).trans (h1.mem n hn)⟩

theorem Fr.setFlags {W : List Nat} {A : Nat → Prop} {s s' : State} (h : Fr W A s s') (f : Option (Word × Word)) :
    Fr W A s { s' with flags := f } := ⟨h.size, h.regs, h.mem⟩

def NoAddr : Nat → Prop := fun _ => False

/-! ## what a state-changing action of the machine does

`Act W A s r`: the action `r`, started in `s`, fails with one of the machine's own messages or ends within
the frame `W` / `A`.  One lemma per primitive. -/

def Act (W : List Nat) (A : Nat → Prop) (s : State) : M State → Prop
  | .error e => MErr e
  | .ok s' => Fr W A s s'

section Acts
variable {c : MachCfg} {s : State} {W : List Nat} {A : Nat → Prop}

theorem Act.ok {s' : State} (h : Fr W A s s') : Act W A s (.ok s') := h
theorem Act.err {e : String} (h : MErr e) : Act W A s (.error e) := h

theorem Act.error {r : M State} {e : String} (h : Act W A s r) (hr : r = .error e) : MErr e := by
  subst hr; exact h

theorem Act.mono {W' : List Nat} {A' : Nat → Prop} {r : M State} (h : Act W A s r) (hW : ∀ x, x ∈ W → x ∈ W')
    (hA : ∀ n, A n → A' n) : Act W' A' s r := by
  cases r with
  | error e => exact h
  | ok s' => exact Fr.mono h hW hA

theorem wrRaw_act (r : Reg) (v : Option Word) : Act [r] NoAddr s (wrRaw s r v) := by
  unfold wrRaw
  split
  · refine .ok ⟨by simp, ?_, fun _ _ => rfl⟩
    intro x hx
    have hne : ¬ r = x := fun e => hx (by simp [e])
    simp only [Array.set!_eq_setIfInBounds, Array.getElem?_setIfInBounds, hne, if_false]
  · exact .err (merr_badReg r)

theorem wr_act (r : Reg) (v : Word) : Act [r] NoAddr s (wr s r v) := wrRaw_act r (some v)

theorem storeWordRaw_act (a : Word) (v : Option Word) : Act [] (· = a.toNat) s (storeWordRaw c s a v) := by
  unfold storeWordRaw
  dsimp only
  split
  · exact .err (merr_unaligned _)
  · split
    · split
      · exact .ok ⟨rfl, fun _ _ => rfl, fun _ _ => rfl⟩
      · exact .err (merr_storeUndef _)
    · split
      · refine .ok ⟨rfl, fun _ _ => rfl, ?_⟩
        intro n hn
        have hne : ¬ a.toNat = n := fun e => hn e.symm
        cases v with
        | none => simp only [Std.HashMap.getElem?_erase]; simp [hne]
        | some w => simp only [Std.HashMap.getElem?_insert]; simp [hne]
      · exact .err (merr_oob _)

def OpAddr (s : State) (b : Nat) (i : Int) : Nat → Prop :=
  fun n => ∃ v, rd s b = .ok v ∧ n = (v + BitVec.ofInt 64 i).toNat

theorem ea_spec {b : Reg} {i : Int} {a : Word} (h : ea s b i = .ok a) :
    ∃ v, rd s b = .ok v ∧ a = v + BitVec.ofInt 64 i := by
  unfold ea at h
  split at h
  · rename_i v d hv hd
    cases h
    refine ⟨v, hv, ?_⟩
    unfold imm32 at hd
    split at hd
    · cases hd; rfl
    · cases hd
  · cases h
  · cases h

theorem writeLoc_act_r (r : Reg) (v : Word) : Act [r] NoAddr s (writeLoc c s (.r r) v) := wr_act r v

theorem writeLoc_act_m (b : Reg) (i : Int) (v : Word) : Act [] (OpAddr s b i) s (writeLoc c s (.m b i) v) := by
  simp only [writeLoc]
  split
  · next a ha =>
    obtain ⟨w, hw, rfl⟩ := ea_spec ha
    exact (storeWordRaw_act _ _).mono (fun _ h => h) (fun n hn => ⟨w, hw, hn⟩)
  · next he => exact .err (ea_err he)

theorem alu_act {op : Word → Word → Word} {dst : Loc} (src : Src)
    (hw : ∀ v, Act W A s (writeLoc c s dst v)) : Act W A s (alu c op s dst src) := by
  unfold alu
  cases h1 : readLoc c s dst with
  | error e => exact .err (readLoc_err h1)
  | ok a =>
    cases h2 : readSrc c s src with
    | error e => exact .err (readSrc_err h2)
    | ok b =>
      dsimp only
      have h := hw (op a b)
      cases h3 : writeLoc c s dst (op a b) with
      | error e => rw [h3] at h; exact h
      | ok s1 => rw [h3] at h; exact .ok (Fr.setFlags h none)

theorem cmpOp_act (a : Loc) (b : Src) : Act [] NoAddr s (cmpOp c s a b) := by
  unfold cmpOp
  split
  · next he => exact .err (readLoc_err he)
  · split
    · next he => exact .err (readSrc_err he)
    · exact .ok ⟨rfl, fun _ _ => rfl, fun _ _ => rfl⟩

theorem idivOp_act (src : Loc) : Act [4, 5] NoAddr s (idivOp c s src) := by
  unfold idivOp
  cases h1 : rd s 4 with
  | error e1 => exact .err (rd_err h1)
  | ok a =>
    cases h2 : rd s 5 with
    | error e2 => exact .err (rd_err h2)
    | ok d =>
      cases h3 : readLoc c s src with
      | error e3 => exact .err (readLoc_err h3)
      | ok b =>
        dsimp only
        by_cases c1 : d ≠ (if a.slt 0 then BitVec.ofInt 64 (-1) else 0)
        · rw [if_pos c1]; exact .err (.fixed _ (by simp [errFixed]))
        · rw [if_neg c1]
          by_cases c2 : b = 0
          · rw [if_pos c2]; exact .err (.fixed _ (by simp [errFixed]))
          · rw [if_neg c2]
            by_cases c3 : (a = minInt64 && b = BitVec.ofInt 64 (-1)) = true
            · rw [if_pos c3]; exact .err (.fixed _ (by simp [errFixed]))
            · rw [if_neg c3]
              have f1 := (wr_act (s := s) 4 (a.sdiv b)).mono (W' := [4, 5]) (by simp) (fun _ h => h)
              cases h4 : wr s 4 (a.sdiv b) with
              | error e4 => rw [h4] at f1; exact f1
              | ok s1 =>
                rw [h4] at f1
                dsimp only
                have f2 := (wr_act (s := s1) 5 (a.srem b)).mono (W' := [4, 5]) (by simp) (fun _ h => h)
                cases h5 : wr s1 5 (a.srem b) with
                | error e5 => rw [h5] at f2; exact f2
                | ok s2 => rw [h5] at f2; exact .ok ((Fr.trans f1 f2).setFlags none)

end Acts

/-- the stack words an instruction may write: the addresses of its memory operands -/
def MemAddrs (s : State) (code : Code) : Nat → Prop :=
  fun n => ∃ b i, (b, i) ∈ codeMems code ∧ OpAddr s b i n

/-- control after an instruction: fall through, or exactly the transfer the instruction denotes -/
def CtlOf (code : Code) (s s' : State) (ctl : Ctl) : Prop :=
  ctl = .next ∨ (∃ l, codeJumpRef code = some l ∧ ctl = .jumpLabel l) ∨
    (∃ l, code = .JMPLN l ∧ ctl = .jumpLabel l) ∨ (∃ r a, code = .JMP r ∧ ctl = .jumpAddr a) ∨
    (∃ f, code = .CALL f ∧ ctl = .callExt f ∧ s' = s) ∨ (code = .RET ∧ ctl = .ret ∧ s' = s)

/-- what one instruction does: it fails with a message of the machine, or — unless it is a push / pop / call /
    ret — it stays within the frame that `codeWrites` / `codeMems` announce, and control is as `CtlOf` says -/
def CodeSpec (code : Code) (s : State) : M (State × Ctl) → Prop
  | .error e => MErr e
  | .ok (s', ctl) =>
    (isStackOp code = false → Fr (codeWrites code) (MemAddrs s code) s s') ∧ CtlOf code s s' ctl

section Spec
variable {c : MachCfg} {s : State} {code : Code}

theorem CodeSpec.seqNext {W : List Nat} {A : Nat → Prop} {r : M State} (h : Act W A s r)
    (hW : isStackOp code = false → ∀ x ∈ W, x ∈ codeWrites code)
    (hA : isStackOp code = false → ∀ n, A n → MemAddrs s code n) : CodeSpec code s (X86.seqNext r) := by
  cases r with
  | error e => exact h
  | ok s' => exact ⟨fun hs => Fr.mono h (hW hs) (hA hs), Or.inl rfl⟩

/-- push / pop / call / ret: the frame is not claimed -/
theorem CodeSpec.stackOp {r : M State} (hs : isStackOp code = true) (h : ∀ e, r = .error e → MErr e) :
    CodeSpec code s (X86.seqNext r) := by
  cases r with
  | error e => exact h e rfl
  | ok s' => exact ⟨fun h' => by rw [hs] at h'; exact Bool.noConfusion h', Or.inl rfl⟩

theorem CodeSpec.reg {r : Reg} {x : M State} (h : Act [r] NoAddr s x) (hr : r ∈ codeWrites code) :
    CodeSpec code s (X86.seqNext x) :=
  .seqNext h (fun _ y hy => by simp only [List.mem_singleton] at hy; exact hy ▸ hr) (fun _ _ hn => hn.elim)

theorem CodeSpec.mem {b : Reg} {i : Int} {x : M State} (h : Act [] (OpAddr s b i) s x) (hm : (b, i) ∈ codeMems code) :
    CodeSpec code s (X86.seqNext x) :=
  .seqNext h (fun _ y hy => by simp at hy) (fun _ n hn => ⟨b, i, hm, hn⟩)

theorem CodeSpec.flags {x : M State} (h : Act [] NoAddr s x) : CodeSpec code s (X86.seqNext x) :=
  .seqNext h (fun _ y hy => by simp at hy) (fun _ _ hn => hn.elim)

theorem CodeSpec.stay {ctl : Ctl} (h : CtlOf code s s ctl) : CodeSpec code s (.ok (s, ctl)) :=
  ⟨fun _ => Fr.refl _ _ _, h⟩

theorem CodeSpec.jcc {cond : Word → Word → Bool} {l : String} (hl : codeJumpRef code = some l) :
    CodeSpec code s (X86.jcc s cond l) := by
  unfold X86.jcc
  split
  · exact merr_undefFlags
  · refine .stay ?_
    split
    · exact Or.inr (Or.inl ⟨l, hl, rfl⟩)
    · exact Or.inl rfl

/-- THE CLASSIFICATION OF THE INSTRUCTIONS, against the machine: `codeWrites` / `codeMems` / `codeJumpRef` are
    SOUND, and every error is one of the machine's own messages -/
theorem execCode_spec (la : String → Option Nat) (code : Code) (s : State) :
    CodeSpec code s (execCode c la code s) := by
  cases code <;> simp only [execCode]
  case ADD r r1 => exact .reg (alu_act _ (writeLoc_act_r r)) (by simp [codeWrites])
  case ADDRM r r1 i => exact .reg (alu_act _ (writeLoc_act_r r)) (by simp [codeWrites])
  case ADDMR r1 i r => exact .mem (alu_act _ (writeLoc_act_m r1 i)) (by simp [codeMems])
  case ADDI r i => exact .reg (alu_act _ (writeLoc_act_r r)) (by simp [codeWrites])
  case ADDIM r i1 i2 => exact .mem (alu_act _ (writeLoc_act_m r i1)) (by simp [codeMems])
  case SUB r r1 => exact .reg (alu_act _ (writeLoc_act_r r)) (by simp [codeWrites])
  case SUBRM r r1 i => exact .reg (alu_act _ (writeLoc_act_r r)) (by simp [codeWrites])
  case SUBMR r1 i r => exact .mem (alu_act _ (writeLoc_act_m r1 i)) (by simp [codeMems])
  case SUBI r i => exact .reg (alu_act _ (writeLoc_act_r r)) (by simp [codeWrites])
  case IMUL r r1 => exact .reg (alu_act _ (writeLoc_act_r r)) (by simp [codeWrites])
  case IMULRM r r1 i => exact .reg (alu_act _ (writeLoc_act_r r)) (by simp [codeWrites])
  case IMULMR => exact .fixed _ (by simp [errFixed])
  case IDIV r => exact .seqNext (idivOp_act _) (fun _ => by simp [codeWrites]) (fun _ _ h => h.elim)
  case IDIVM r i => exact .seqNext (idivOp_act _) (fun _ => by simp [codeWrites]) (fun _ _ h => h.elim)
  case CQO =>
    split
    · next he => exact rd_err he
    · exact .reg (wr_act 5 _) (by simp [codeWrites])
  case JMP r =>
    split
    · next he => exact rd_err he
    · exact .stay (Or.inr (Or.inr (Or.inr (Or.inl ⟨r, _, rfl, rfl⟩))))
  case JMPL l => exact .stay (Or.inr (Or.inl ⟨l, rfl, rfl⟩))
  case JMPLN l => exact .stay (Or.inr (Or.inr (Or.inl ⟨l, rfl, rfl⟩)))
  case LEAL r l =>
    split
    · exact merr_undefLabel l
    · exact .reg (wr_act r _) (by simp [codeWrites])
  case MOV r r1 =>
    split
    · next he => exact rdRaw_err he
    · exact .reg (wrRaw_act r _) (by simp [codeWrites])
  case MOVS r r1 i =>
    cases h1 : rdRaw s r with
    | error e1 => exact rdRaw_err h1
    | ok v =>
      cases h2 : ea s r1 i with
      | error e2 => exact ea_err h2
      | ok a =>
        obtain ⟨w, hw, rfl⟩ := ea_spec h2
        exact .mem (b := r1) (i := i) ((storeWordRaw_act _ v).mono (fun _ h => h) (fun n hn => ⟨w, hw, hn⟩))
          (by simp [codeMems])
  case MOVL r r1 i =>
    split
    · next he => exact ea_err he
    · split
      · next he => exact loadWordRaw_err he
      · exact .reg (wrRaw_act r _) (by simp [codeWrites])
  case MOVI r i =>
    split
    · exact .reg (wr_act r _) (by simp [codeWrites])
    · exact merr_imm i
  case MOVIM r i1 i2 =>
    split
    · next he => exact imm32_err he
    · exact .mem (writeLoc_act_m r i1 _) (by simp [codeMems])
  case CMP => exact .flags (cmpOp_act _ _)
  case CMPRM => exact .flags (cmpOp_act _ _)
  case CMPMR => exact .flags (cmpOp_act _ _)
  case CMPI => exact .flags (cmpOp_act _ _)
  case CMPIM => exact .flags (cmpOp_act _ _)
  case JEL l => exact .jcc rfl
  case JNEL l => exact .jcc rfl
  case JLL l => exact .jcc rfl
  case JLEL l => exact .jcc rfl
  case JGL l => exact .jcc rfl
  case JGEL l => exact .jcc rfl
  case PUSH r =>
    cases h1 : rdRaw s r with
    | error e1 => exact rdRaw_err h1
    | ok v =>
      cases h2 : rd s 0 with
      | error e2 => exact rd_err h2
      | ok sp =>
        dsimp only
        split
        · next he => exact (storeWordRaw_act _ _).error he
        · exact .stackOp rfl fun _ he => (wr_act 0 _).error he
  case POP r =>
    split
    · next he => exact rd_err he
    · split
      · next he => exact loadWordRaw_err he
      · split
        · next he => exact (wr_act 0 _).error he
        · exact .stackOp rfl fun _ he => (wrRaw_act r _).error he
  case CALL f => exact ⟨fun h => by simp [isStackOp] at h, Or.inr (Or.inr (Or.inr (Or.inr (Or.inl ⟨f, rfl, rfl, rfl⟩))))⟩
  case RET => exact ⟨fun h => by simp [isStackOp] at h, Or.inr (Or.inr (Or.inr (Or.inr (Or.inr ⟨rfl, rfl, rfl⟩))))⟩
  all_goals exact .stay (Or.inl rfl)

theorem execCode_err {la : String → Option Nat} {e : String} (h : execCode c la code s = .error e) : MErr e := by
  have := execCode_spec (c := c) la code s
  rw [h] at this
  exact this

/-- SOUNDNESS of `codeWrites` / `codeMems`: an instruction other than push / pop / call / ret changes at most the
    registers it is said to write and the stack words its memory operands address -/
theorem execCode_fr {la : String → Option Nat} {s' : State} {ctl : Ctl}
    (h : execCode c la code s = .ok (s', ctl)) (hns : isStackOp code = false) :
    Fr (codeWrites code) (MemAddrs s code) s s' := by
  have := execCode_spec (c := c) la code s
  rw [h] at this
  exact this.1 hns

theorem execCode_ctl {la : String → Option Nat} {s' : State} {ctl : Ctl}
    (h : execCode c la code s = .ok (s', ctl)) : CtlOf code s s' ctl := by
  have := execCode_spec (c := c) la code s
  rw [h] at this
  exact this.2

end Spec

end Scc.X86
