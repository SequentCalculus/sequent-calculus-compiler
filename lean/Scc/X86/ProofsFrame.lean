/-
  Scc.X86.ProofsFrame — the stack frame (spill area, config.rs stack_offset) and the
  TEMPORARY-LEVEL view of the machine: a state is a map `Temporary → Option Word` (registers
  rcx..r15 and spill slots 0..255 of the current frame) plus flags; `texec` gives the semantics of the
  instructions whose memory operands are rsp-relative spill slots.  `tsim_execList`: whatever the
  temporary-level view executes, the functional view `aexec` of Proofs.lean (hence the SPEC
  machine) executes with the same effect, leaving rsp and all stack memory outside the spill area
  unchanged.  The arithmetic / compare / move lemmas are proved on this level, where there is no
  address arithmetic and no side condition on rsp.
-/
import Scc.X86.Proofs

namespace Scc.X86

/-- The configuration is sane: the heap region lies below the stack region, addresses fit. -/
structure CfgOK (c : MachCfg) : Prop where
  heapBelow : c.heapBase + c.heapBytes ≤ c.stackLow
  top : c.stackTop ≤ 2 ^ 63

theorem cfgOK_default : CfgOK {} := ⟨by decide, by decide⟩

/-- `sp` is a legal value of `rsp` at a statement boundary: 8-aligned, with the whole spill area
`[sp, sp + 2048)` inside the stack region. -/
structure SpOK (c : MachCfg) (sp : Word) : Prop where
  cfg : CfgOK c
  aligned : sp.toNat % 8 = 0
  low : c.stackLow ≤ sp.toNat
  high : sp.toNat + 2048 ≤ c.stackTop

/-- Byte address of spill slot `p` (config.rs stack_offset) when `rsp = sp`. -/
def slotAddr (sp : Word) (p : Nat) : Nat := sp.toNat + (2048 - 8 * (p + 1))

theorem stackOffset_eq (p : Nat) : stackOffset p = 2048 - 8 * ((p : Int) + 1) := by
  simp [stackOffset, SPILL_SPACE, consts]

theorem fitsI32_stackOffset {p : Nat} (hp : p < 256) : fitsI32 (stackOffset p) = true := by
  rw [stackOffset_eq]; simp [fitsI32]; omega

theorem slot_toNat {c : MachCfg} {sp : Word} (S : SpOK c sp) {p : Nat} (hp : p < 256) :
    (sp + BitVec.ofInt 64 (stackOffset p)).toNat = slotAddr sp p := by
  have h1 := S.high
  have h2 := S.cfg.top
  rw [stackOffset_eq]
  simp only [BitVec.toNat_add, BitVec.toNat_ofInt, slotAddr]
  have hsp : sp.toNat < 2 ^ 64 := sp.isLt
  omega

theorem aaddr_slot {c : MachCfg} {sp : Word} (S : SpOK c sp) {p : Nat} (hp : p < 256) :
    aaddr c (sp + BitVec.ofInt 64 (stackOffset p)) = some (slotAddr sp p) := by
  have h0 := S.aligned
  have h1 := S.high
  have h2 := S.low
  have h3 := S.cfg.heapBelow
  simp only [aaddr, slot_toNat S hp]
  have : slotAddr sp p % 8 = 0 ∧ inHeap c (slotAddr sp p) = false ∧ inStack c (slotAddr sp p) = true := by
    refine ⟨?_, ?_, ?_⟩
    · simp only [slotAddr]; omega
    · unfold inHeap slotAddr
      rw [Bool.and_eq_false_iff]; right
      rw [decide_eq_false_iff_not]; omega
    · unfold inStack slotAddr
      rw [Bool.and_eq_true, decide_eq_true_eq, decide_eq_true_eq]; omega
  simp [this]

theorem slotAddr_inj {sp : Word} {p q : Nat} (hp : p < 256) (hq : q < 256) :
    slotAddr sp p = slotAddr sp q ↔ p = q := by
  simp only [slotAddr]; omega


structure TState where
  val : Temporary → Option Word
  flags : Option (Word × Word)

def TState.set (τ : TState) (t : Temporary) (v : Option Word) : TState :=
  { τ with val := fun u => if u = t then v else τ.val u }

@[simp] theorem TState.set_val (τ : TState) (t u : Temporary) (v : Option Word) :
    (τ.set t v).val u = if u = t then v else τ.val u := rfl
@[simp] theorem TState.set_flags (τ : TState) (t : Temporary) (v : Option Word) :
    (τ.set t v).flags = τ.flags := rfl

/-- The spill slot whose `stack_offset` is `i`. -/
def slotOfDisp (i : Int) : Option Nat :=
  if 0 ≤ i ∧ i < 2048 ∧ i % 8 = 0 then some ((2048 - i).toNat / 8 - 1) else none

theorem slotOfDisp_stackOffset {p : Nat} (hp : p < 256) : slotOfDisp (stackOffset p) = some p := by
  rw [stackOffset_eq]
  unfold slotOfDisp
  rw [if_pos (by omega)]
  congr 1
  omega

theorem slotOfDisp_spec {i : Int} {p : Nat} (h : slotOfDisp i = some p) :
    i = stackOffset p ∧ p < 256 := by
  unfold slotOfDisp at h
  split at h
  · rename_i hc
    cases h
    rw [stackOffset_eq]
    omega
  · cases h

/-- register operand (rsp is not an operand on this level) -/
def regOpnd (r : Nat) : Option Temporary := if 1 ≤ r ∧ r < 16 then some (.reg r) else none
/-- memory operand `[rsp + stack_offset p]` -/
def memOpnd (b : Nat) (i : Int) : Option Temporary :=
  if b = 0 then (slotOfDisp i).map Temporary.spill else none

/-- `dst := op dst src` on operands; both must be defined; flags become undefined -/
def talu (op : Word → Word → Word) (τ : TState) (dst : Option Temporary) (src : Option (Option Word)) :
    Option TState :=
  match dst, src with
  | some d, some (some y) =>
    match τ.val d with
    | some x => some { τ.set d (some (op x y)) with flags := none }
    | none => none
  | _, _ => none

def tsrc (τ : TState) (o : Option Temporary) : Option (Option Word) := o.map τ.val
def timm (i : Int) : Option (Option Word) := if fitsI32 i then some (some (BitVec.ofInt 64 i)) else none

def tcmp (τ : TState) (l : Option Temporary) (src : Option (Option Word)) : Option TState :=
  match l, src with
  | some d, some (some y) =>
    match τ.val d with
    | some x => some { τ with flags := some (x, y) }
    | none => none
  | _, _ => none

def tidiv (τ : TState) (src : Option Temporary) : Option TState :=
  match τ.val (.reg 4), τ.val (.reg 5), src with
  | some x, some d, some s =>
    match τ.val s with
    | some y =>
      if d ≠ signExt x then none
      else if y = 0 then none
      else if x = minInt64 && y = BitVec.ofInt 64 (-1) then none
      else some { (τ.set (.reg 4) (some (x.sdiv y))).set (.reg 5) (some (x.srem y)) with flags := none }
    | none => none
  | _, _, _ => none

def tmove (τ : TState) (dst src : Option Temporary) : Option TState :=
  match dst, src with
  | some d, some s => some (τ.set d (τ.val s))
  | _, _ => none

/-- Temporary-level semantics (fall-through instructions with register / spill-slot operands). -/
def texec (la : String → Option Nat) (code : Code) (τ : TState) : Option TState :=
  match code with
  | .ADD r r1 => talu (· + ·) τ (regOpnd r) (tsrc τ (regOpnd r1))
  | .ADDRM r b i => talu (· + ·) τ (regOpnd r) (tsrc τ (memOpnd b i))
  | .ADDMR b i r => talu (· + ·) τ (memOpnd b i) (tsrc τ (regOpnd r))
  | .ADDI r i => talu (· + ·) τ (regOpnd r) (timm i)
  | .SUB r r1 => talu (· - ·) τ (regOpnd r) (tsrc τ (regOpnd r1))
  | .SUBRM r b i => talu (· - ·) τ (regOpnd r) (tsrc τ (memOpnd b i))
  | .SUBMR b i r => talu (· - ·) τ (memOpnd b i) (tsrc τ (regOpnd r))
  | .SUBI r i => talu (· - ·) τ (regOpnd r) (timm i)
  | .IMUL r r1 => talu (· * ·) τ (regOpnd r) (tsrc τ (regOpnd r1))
  | .IMULRM r b i => talu (· * ·) τ (regOpnd r) (tsrc τ (memOpnd b i))
  | .IDIV r => tidiv τ (regOpnd r)
  | .IDIVM b i => tidiv τ (memOpnd b i)
  | .CQO =>
    match τ.val (.reg 4) with
    | some x => some (τ.set (.reg 5) (some (signExt x)))
    | none => none
  | .LEAL r l =>
    match la l, regOpnd r with
    | some n, some d => some (τ.set d (some (BitVec.ofNat 64 n)))
    | _, _ => none
  | .MOV r r1 => tmove τ (regOpnd r) (regOpnd r1)
  | .MOVS r b i => tmove τ (memOpnd b i) (regOpnd r)
  | .MOVL r b i => tmove τ (regOpnd r) (memOpnd b i)
  | .MOVI r i =>
    match regOpnd r with
    | some d => if fitsI64 i then some (τ.set d (some (BitVec.ofInt 64 i))) else none
    | none => none
  | .MOVIM b i1 i2 =>
    match memOpnd b i1 with
    | some d => if fitsI32 i2 then some (τ.set d (some (BitVec.ofInt 64 i2))) else none
    | none => none
  | .CMP r r1 => tcmp τ (regOpnd r) (tsrc τ (regOpnd r1))
  | .CMPRM r b i => tcmp τ (regOpnd r) (tsrc τ (memOpnd b i))
  | .CMPMR b i r1 => tcmp τ (memOpnd b i) (tsrc τ (regOpnd r1))
  | .CMPI r i => tcmp τ (regOpnd r) (timm i)
  | .CMPIM b i1 i2 => tcmp τ (memOpnd b i1) (timm i2)
  | .LAB _ | .NOEXECSTACK | .TEXT | .GLOBAL _ | .EXTERN _ | .COMMENT _ => some τ
  | _ => none

def texecList (la : String → Option Nat) : List Code → TState → Option TState
  | [], τ => some τ
  | code :: rest, τ =>
    match texec la code τ with
    | some τ1 => texecList la rest τ1
    | none => none

theorem texecList_append (la : String → Option Nat) (l1 l2 : List Code) (τ : TState) :
    texecList la (l1 ++ l2) τ =
      match texecList la l1 τ with
      | some τ1 => texecList la l2 τ1
      | none => none := by
  induction l1 generalizing τ with
  | nil => simp [texecList]
  | cons code rest ih =>
    simp only [List.cons_append, texecList]
    cases texec la code τ <;> simp [ih]

/-- `a` (with `rsp = sp`) is viewed as `τ`. -/
structure TRel (sp : Word) (a : AState) (τ : TState) : Prop where
  rsp : a.reg 0 = some sp
  regs : ∀ r, 1 ≤ r → r < 16 → a.reg r = τ.val (.reg r)
  slots : ∀ p, p < 256 → a.mem (slotAddr sp p) = τ.val (.spill p)
  flags : a.flags = τ.flags

/-- Stack memory outside the spill area of the frame is untouched. -/
def OutsideSame (sp : Word) (a a' : AState) : Prop :=
  ∀ n, (∀ p, p < 256 → n ≠ slotAddr sp p) → a'.mem n = a.mem n

theorem OutsideSame.refl (sp : Word) (a : AState) : OutsideSame sp a a := fun _ _ => rfl
theorem OutsideSame.trans {sp : Word} {a1 a2 a3 : AState} (h1 : OutsideSame sp a1 a2)
    (h2 : OutsideSame sp a2 a3) : OutsideSame sp a1 a3 :=
  fun n hn => (h2 n hn).trans (h1 n hn)

def opLoc : Temporary → Loc
  | .reg r => .r r
  | .spill p => .m 0 (stackOffset p)

/-- raw (possibly undefined) read / write of an operand on the functional view -/
def areadRawT (c : MachCfg) (a : AState) : Temporary → Option (Option Word)
  | .reg r => ardRaw a r
  | .spill p => match aea a 0 (stackOffset p) with
    | some w => aloadRaw c a w
    | none => none

def awriteRawT (c : MachCfg) (a : AState) (t : Temporary) (v : Option Word) : Option AState :=
  match t with
  | .reg r => awrRaw a r v
  | .spill p => match aea a 0 (stackOffset p) with
    | some w => astoreRaw c a w v
    | none => none

section TSim
variable {c : MachCfg} {sp : Word} {a : AState} {τ : TState}

theorem regOpnd_spec {r : Nat} {t : Temporary} (h : regOpnd r = some t) :
    t = .reg r ∧ 1 ≤ r ∧ r < 16 := by
  unfold regOpnd at h
  split at h
  · rename_i hc; cases h; exact ⟨rfl, hc⟩
  · cases h

theorem memOpnd_spec {b : Nat} {i : Int} {t : Temporary} (h : memOpnd b i = some t) :
    ∃ p, t = .spill p ∧ b = 0 ∧ i = stackOffset p ∧ p < 256 := by
  unfold memOpnd at h
  split at h
  · rename_i hb
    cases hs : slotOfDisp i with
    | none => simp [hs] at h
    | some p =>
      simp [hs] at h
      obtain ⟨h1, h2⟩ := slotOfDisp_spec hs
      exact ⟨p, h.symm, hb, h1, h2⟩
  · cases h

def OpndOK : Temporary → Prop
  | .reg r => 1 ≤ r ∧ r < 16
  | .spill p => p < 256

theorem aea_slot' (h : TRel sp a τ) {p : Nat} (hp : p < 256) :
    aea a 0 (stackOffset p) = some (sp + BitVec.ofInt 64 (stackOffset p)) := by
  simp [aea, ard, h.rsp, aimm32, fitsI32_stackOffset hp]

theorem t_readRaw (S : SpOK c sp) (h : TRel sp a τ) {t : Temporary} (ht : OpndOK t) :
    areadRawT c a t = some (τ.val t) := by
  cases t with
  | reg r => simp [areadRawT, ardRaw, ht.2, h.regs r ht.1 ht.2]
  | spill p => simp [areadRawT, aea_slot' h ht, aloadRaw, aaddr_slot S ht, h.slots p ht]

theorem t_readLoc (S : SpOK c sp) (h : TRel sp a τ) {t : Temporary} (ht : OpndOK t) :
    areadLoc c a (opLoc t) = τ.val t := by
  cases t with
  | reg r => simp [opLoc, areadLoc, ard, ht.2, h.regs r ht.1 ht.2]
  | spill p =>
    simp only [opLoc, areadLoc, aea_slot' h ht, aload, aloadRaw, aaddr_slot S ht, h.slots p ht]
    cases τ.val (.spill p) <;> rfl

theorem TRel.set_reg (h : TRel sp a τ) {r : Nat} (h1 : 1 ≤ r) (v : Option Word) :
    TRel sp (a.setReg r v) (τ.set (.reg r) v) := by
  refine ⟨?_, ?_, ?_, h.flags⟩
  · have : ¬ (0 = r) := by omega
    simp [this, h.rsp]
  · intro r' h1' h2'
    by_cases e : r' = r
    · subst e; simp
    · have : Temporary.reg r' ≠ Temporary.reg r := fun x => e (by injection x)
      simp [e, this, h.regs r' h1' h2']
  · intro p hp
    simp [h.slots p hp]

theorem TRel.set_slot (h : TRel sp a τ) {p : Nat} (hp : p < 256) (v : Option Word) :
    TRel sp (a.setMem (slotAddr sp p) v) (τ.set (.spill p) v) := by
  refine ⟨by simp [h.rsp], ?_, ?_, h.flags⟩
  · intro r h1 h2
    simp [h.regs r h1 h2]
  · intro q hq
    by_cases e : q = p
    · subst e; simp
    · have : Temporary.spill q ≠ Temporary.spill p := fun x => e (by injection x)
      have : slotAddr sp q ≠ slotAddr sp p := fun x => e ((slotAddr_inj hq hp).1 x)
      simp [*, h.slots q hq]

theorem TRel.set_flags (h : TRel sp a τ) (f : Option (Word × Word)) :
    TRel sp { a with flags := f } { τ with flags := f } :=
  ⟨h.rsp, h.regs, h.slots, rfl⟩

theorem t_writeRaw (S : SpOK c sp) (h : TRel sp a τ) {t : Temporary} (ht : OpndOK t) (v : Option Word) :
    ∃ a', awriteRawT c a t v = some a' ∧ TRel sp a' (τ.set t v) ∧ OutsideSame sp a a' := by
  cases t with
  | reg r =>
    exact ⟨a.setReg r v, by simp [awriteRawT, awrRaw, ht.2], h.set_reg ht.1 v, fun _ _ => rfl⟩
  | spill p =>
    refine ⟨a.setMem (slotAddr sp p) v, by simp [awriteRawT, aea_slot' h ht, astoreRaw, aaddr_slot S ht],
      h.set_slot ht v, ?_⟩
    intro n hn
    simp [hn p ht]

theorem t_writeLoc (S : SpOK c sp) (h : TRel sp a τ) {t : Temporary} (ht : OpndOK t) (v : Word) :
    ∃ a', awriteLoc c a (opLoc t) v = some a' ∧ TRel sp a' (τ.set t (some v)) ∧ OutsideSame sp a a' := by
  obtain ⟨a', e, r, o⟩ := t_writeRaw S h ht (some v)
  refine ⟨a', ?_, r, o⟩
  cases t with
  | reg r => exact e
  | spill p => exact e

theorem regOpnd_ok {r : Nat} {t : Temporary} (h : regOpnd r = some t) : OpndOK t ∧ opLoc t = .r r := by
  obtain ⟨rfl, h1, h2⟩ := regOpnd_spec h
  exact ⟨⟨h1, h2⟩, rfl⟩

theorem memOpnd_ok {b : Nat} {i : Int} {t : Temporary} (h : memOpnd b i = some t) :
    OpndOK t ∧ opLoc t = .m b i := by
  obtain ⟨p, e1, e2, e3, hp⟩ := memOpnd_spec h
  rw [e1, e2, e3]
  exact ⟨hp, rfl⟩

theorem tsim_alu (S : SpOK c sp) (h : TRel sp a τ) {op : Word → Word → Word}
    {dst : Option Temporary} {dl : Loc} (hdst : ∀ t, dst = some t → OpndOK t ∧ opLoc t = dl)
    {src : Option (Option Word)} {sl : Src} (hsrc : ∀ y, src = some (some y) → areadSrc c a sl = some y)
    {τ' : TState} (hx : talu op τ dst src = some τ') :
    ∃ a', aalu c op a dl sl = some a' ∧ TRel sp a' τ' ∧ OutsideSame sp a a' := by
  unfold talu at hx
  split at hx
  · rename_i d y
    obtain ⟨hd, rfl⟩ := hdst d rfl
    split at hx
    · rename_i x hvx
      cases hx
      obtain ⟨a1, e1, r1, o1⟩ := t_writeLoc S h hd (op x y)
      refine ⟨{ a1 with flags := none }, ?_, r1.set_flags none, o1⟩
      simp [aalu, t_readLoc S h hd, hvx, hsrc y rfl, e1]
    · cases hx
  · cases hx

theorem tsrc_reg (S : SpOK c sp) (h : TRel sp a τ) {r : Nat} (y : Word)
    (hy : tsrc τ (regOpnd r) = some (some y)) : areadSrc c a (.loc (.r r)) = some y := by
  cases ho : regOpnd r with
  | none => simp [tsrc, ho] at hy
  | some t =>
    obtain ⟨hok, hl⟩ := regOpnd_ok ho
    simp only [tsrc, ho, Option.map_some, Option.some.injEq] at hy
    simp [areadSrc, ← hl, t_readLoc S h hok, hy]

theorem tsrc_mem (S : SpOK c sp) (h : TRel sp a τ) {b : Nat} {i : Int} (y : Word)
    (hy : tsrc τ (memOpnd b i) = some (some y)) : areadSrc c a (.loc (.m b i)) = some y := by
  cases ho : memOpnd b i with
  | none => simp [tsrc, ho] at hy
  | some t =>
    obtain ⟨hok, hl⟩ := memOpnd_ok ho
    simp only [tsrc, ho, Option.map_some, Option.some.injEq] at hy
    simp [areadSrc, ← hl, t_readLoc S h hok, hy]

theorem tsrc_imm {i : Int} (y : Word) (hy : timm i = some (some y)) :
    areadSrc c a (.imm i) = some y := by
  unfold timm at hy
  split at hy
  · rename_i hf
    simp only [Option.some.injEq] at hy
    simp [areadSrc, aimm32, hf, hy]
  · cases hy

theorem tsim_cmp (S : SpOK c sp) (h : TRel sp a τ)
    {dst : Option Temporary} {dl : Loc} (hdst : ∀ t, dst = some t → OpndOK t ∧ opLoc t = dl)
    {src : Option (Option Word)} {sl : Src} (hsrc : ∀ y, src = some (some y) → areadSrc c a sl = some y)
    {τ' : TState} (hx : tcmp τ dst src = some τ') :
    ∃ a', acmp c a dl sl = some a' ∧ TRel sp a' τ' ∧ OutsideSame sp a a' := by
  unfold tcmp at hx
  split at hx
  · rename_i d y
    obtain ⟨hd, rfl⟩ := hdst d rfl
    split at hx
    · rename_i x hvx
      cases hx
      exact ⟨{ a with flags := some (x, y) }, by simp [acmp, t_readLoc S h hd, hvx, hsrc y rfl],
        h.set_flags _, fun _ _ => rfl⟩
    · cases hx
  · cases hx

theorem tsim_idiv (S : SpOK c sp) (h : TRel sp a τ)
    {src : Option Temporary} {sl : Loc} (hsrc : ∀ t, src = some t → OpndOK t ∧ opLoc t = sl)
    {τ' : TState} (hx : tidiv τ src = some τ') :
    ∃ a', aidiv c a sl = some a' ∧ TRel sp a' τ' ∧ OutsideSame sp a a' := by
  unfold tidiv at hx
  split at hx
  · rename_i x d s h4 h5
    obtain ⟨hs, rfl⟩ := hsrc s rfl
    split at hx
    · rename_i y hvy
      split at hx
      · cases hx
      · rename_i hd
        split at hx
        · cases hx
        · rename_i hy0
          split at hx
          · cases hx
          · rename_i hov
            cases hx
            have r1 := (h.set_reg (by decide : 1 ≤ 4) (some (x.sdiv y)))
            have r2 := (r1.set_reg (by decide : 1 ≤ 5) (some (x.srem y)))
            refine ⟨_, ?_, r2.set_flags none, fun _ _ => rfl⟩
            have e4 : a.reg 4 = some x := by rw [h.regs 4 (by decide) (by decide)]; exact h4
            have e5 : a.reg 5 = some d := by rw [h.regs 5 (by decide) (by decide)]; exact h5
            simp only [aidiv, ard, e4, e5, t_readLoc S h hs, hvy]
            simp only [show (4 : Nat) < 16 by decide, show (5 : Nat) < 16 by decide, if_true]
            rw [if_neg hd, if_neg hy0, if_neg hov]
            simp [awr, awrRaw]
    · cases hx
  · cases hx

theorem tsim_move (S : SpOK c sp) (h : TRel sp a τ) {d s : Temporary} (hd : OpndOK d) :
    ∃ a', TRel sp a' (τ.set d (τ.val s)) ∧ OutsideSame sp a a' ∧
      awriteRawT c a d (τ.val s) = some a' := by
  obtain ⟨a', e, r, o⟩ := t_writeRaw S h hd (τ.val s)
  exact ⟨a', r, o, e⟩

theorem tsim_exec (S : SpOK c sp) (la : String → Option Nat) (h : TRel sp a τ) {code : Code}
    {τ' : TState} (hx : texec la code τ = some τ') :
    ∃ a', aexec c la code a = some a' ∧ TRel sp a' τ' ∧ OutsideSame sp a a' := by
  cases code <;> simp only [texec] at hx
  case ADD r r1 => exact tsim_alu S h (fun t e => regOpnd_ok e) (tsrc_reg S h) hx
  case ADDRM r b i => exact tsim_alu S h (fun t e => regOpnd_ok e) (tsrc_mem S h) hx
  case ADDMR b i r => exact tsim_alu S h (fun t e => memOpnd_ok e) (tsrc_reg S h) hx
  case ADDI r i => exact tsim_alu S h (fun t e => regOpnd_ok e) tsrc_imm hx
  case SUB r r1 => exact tsim_alu S h (fun t e => regOpnd_ok e) (tsrc_reg S h) hx
  case SUBRM r b i => exact tsim_alu S h (fun t e => regOpnd_ok e) (tsrc_mem S h) hx
  case SUBMR b i r => exact tsim_alu S h (fun t e => memOpnd_ok e) (tsrc_reg S h) hx
  case SUBI r i => exact tsim_alu S h (fun t e => regOpnd_ok e) tsrc_imm hx
  case IMUL r r1 => exact tsim_alu S h (fun t e => regOpnd_ok e) (tsrc_reg S h) hx
  case IMULRM r b i => exact tsim_alu S h (fun t e => regOpnd_ok e) (tsrc_mem S h) hx
  case IDIV r => exact tsim_idiv S h (fun t e => regOpnd_ok e) hx
  case IDIVM b i => exact tsim_idiv S h (fun t e => memOpnd_ok e) hx
  case CQO =>
    split at hx
    · rename_i x h4
      cases hx
      have e4 : a.reg 4 = some x := by rw [h.regs 4 (by decide) (by decide)]; exact h4
      exact ⟨a.setReg 5 (some (signExt x)), by simp [aexec, ard, e4, awr, awrRaw],
        h.set_reg (by decide) _, fun _ _ => rfl⟩
    · cases hx
  case LEAL r l =>
    split at hx
    · rename_i n d hl hr
      cases hx
      obtain ⟨rfl, h1, h2⟩ := regOpnd_spec hr
      exact ⟨a.setReg r (some (BitVec.ofNat 64 n)), by simp [aexec, hl, awr, awrRaw, h2],
        h.set_reg h1 _, fun _ _ => rfl⟩
    · cases hx
  case MOV r r1 =>
    unfold tmove at hx
    split at hx
    · rename_i d s hd hs
      cases hx
      obtain ⟨rfl, h1, h2⟩ := regOpnd_spec hd
      obtain ⟨rfl, h1', h2'⟩ := regOpnd_spec hs
      refine ⟨a.setReg r (a.reg r1), by simp [aexec, ardRaw, awrRaw, h2, h2'], ?_, fun _ _ => rfl⟩
      rw [h.regs r1 h1' h2']
      exact h.set_reg h1 _
    · cases hx
  case MOVS r b i =>
    unfold tmove at hx
    split at hx
    · rename_i d s hd hs
      cases hx
      obtain ⟨p, e1, e2, e3, hp⟩ := memOpnd_spec hd
      rw [e1, e2, e3]
      obtain ⟨rfl, h1, h2⟩ := regOpnd_spec hs
      obtain ⟨a', r', o', e'⟩ := tsim_move (c := c) S h (d := .spill p) (s := .reg r) hp
      refine ⟨a', ?_, r', o'⟩
      simp only [aexec, ardRaw, h2, if_true, h.regs r h1 h2]
      simp only [awriteRawT, aea_slot' h hp] at e' ⊢
      exact e'
    · cases hx
  case MOVL r b i =>
    unfold tmove at hx
    split at hx
    · rename_i d s hd hs
      cases hx
      obtain ⟨rfl, h1, h2⟩ := regOpnd_spec hd
      obtain ⟨p, e1, e2, e3, hp⟩ := memOpnd_spec hs
      rw [e1, e2, e3]
      refine ⟨a.setReg r (a.mem (slotAddr sp p)),
        by simp [aexec, aea_slot' h hp, aloadRaw, aaddr_slot S hp, awrRaw, h2], ?_, fun _ _ => rfl⟩
      rw [h.slots p hp]
      exact h.set_reg h1 _
    · cases hx
  case MOVI r i =>
    split at hx
    · rename_i d hd
      split at hx
      · rename_i hf
        cases hx
        obtain ⟨rfl, h1, h2⟩ := regOpnd_spec hd
        exact ⟨a.setReg r (some (BitVec.ofInt 64 i)), by simp [aexec, hf, awr, awrRaw, h2],
          h.set_reg h1 _, fun _ _ => rfl⟩
      · cases hx
    · cases hx
  case MOVIM b i1 i2 =>
    split at hx
    · rename_i d hd
      split at hx
      · rename_i hf
        cases hx
        obtain ⟨hok, hl⟩ := memOpnd_ok hd
        obtain ⟨a', e, r', o'⟩ := t_writeLoc (c := c) S h hok (BitVec.ofInt 64 i2)
        exact ⟨a', by simp [aexec, aimm32, hf, ← hl, e], r', o'⟩
      · cases hx
    · cases hx
  case CMP r r1 => exact tsim_cmp S h (fun t e => regOpnd_ok e) (tsrc_reg S h) hx
  case CMPRM r b i => exact tsim_cmp S h (fun t e => regOpnd_ok e) (tsrc_mem S h) hx
  case CMPMR b i r1 => exact tsim_cmp S h (fun t e => memOpnd_ok e) (tsrc_reg S h) hx
  case CMPI r i => exact tsim_cmp S h (fun t e => regOpnd_ok e) tsrc_imm hx
  case CMPIM b i1 i2 => exact tsim_cmp S h (fun t e => memOpnd_ok e) tsrc_imm hx
  case LAB l => cases hx; exact ⟨a, rfl, h, fun _ _ => rfl⟩
  case NOEXECSTACK => cases hx; exact ⟨a, rfl, h, fun _ _ => rfl⟩
  case TEXT => cases hx; exact ⟨a, rfl, h, fun _ _ => rfl⟩
  case GLOBAL l => cases hx; exact ⟨a, rfl, h, fun _ _ => rfl⟩
  case EXTERN l => cases hx; exact ⟨a, rfl, h, fun _ _ => rfl⟩
  case COMMENT l => cases hx; exact ⟨a, rfl, h, fun _ _ => rfl⟩
  all_goals cases hx

theorem tsim_execList (S : SpOK c sp) (la : String → Option Nat) {codes : List Code}
    (h : TRel sp a τ) {τ' : TState} (hx : texecList la codes τ = some τ') :
    ∃ a', aexecList c la codes a = some a' ∧ TRel sp a' τ' ∧ OutsideSame sp a a' := by
  induction codes generalizing a τ with
  | nil => cases hx; exact ⟨a, rfl, h, OutsideSame.refl sp a⟩
  | cons code rest ih =>
    simp only [texecList] at hx
    split at hx
    · rename_i τ1 h1
      obtain ⟨a1, e1, r1, o1⟩ := tsim_exec S la h h1
      obtain ⟨a2, e2, r2, o2⟩ := ih r1 hx
      exact ⟨a2, by simp [aexecList, e1, e2], r2, o1.trans o2⟩
    · cases hx

end TSim

end Scc.X86
