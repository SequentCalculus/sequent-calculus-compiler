/-
  Scc.X86.ConcCC — the calling-convention monitor on runs of programs with data types: independence of the
  run from the heap-monitor flag (a run with the heap monitor ON ends as the run with the monitor OFF or in
  a report of the heap monitor), used to state the dynamic C13 theorem for every monitor configuration.
-/
import Scc.X86.CCProofsRun
import Scc.X86.RefHeapRun

namespace Scc.X86.Conc

open Scc.X86.CC

def monOff (m : MonCfg) : MonCfg := { m with heap := false }

theorem step_monOff (m : MonCfg) (p : Prog) (s : State) : step (monOff m) p s = step m p s := rfl

/-- a run with the heap monitor ON ends as the run with the monitor OFF, or in a report of the HEAP monitor -/
theorem runLoop_monitor_indep (m : MonCfg) (p : Prog) : ∀ (f : Nat) (s : State) (b b' : Nat),
    (runLoop m p f s b).res = (runLoop (monOff m) p f s b').res ∨
      ∃ e ln, (runLoop m p f s b).res = .invFail e ln
  | 0, s, b, b' => Or.inl rfl
  | f + 1, s, b, b' => by
    simp only [runLoop]
    have hoff : monitor (monOff m) p s = .ok none := by simp [monitor, monOff]
    rw [hoff]
    dsimp only
    rw [step_monOff]
    cases hmon : monitor m p s with
    | error r =>
      obtain ⟨e, ln, rfl⟩ := monitor_err hmon
      exact Or.inr ⟨e, ln, rfl⟩
    | ok bb =>
      dsimp only
      cases hs : step m p s with
      | inl s1 => exact runLoop_monitor_indep m p f s1 _ _
      | inr r => exact Or.inl rfl

theorem runItems_monitor_indep (items : List (Code × Nat)) (args : List Word) (f : Nat) (m : MonCfg) :
    (Ref.runItems items args f m).res = (Ref.runItems items args f (monOff m)).res ∨
      ∃ e ln, (Ref.runItems items args f m).res = .invFail e ln := by
  have hm : (monOff m).mach = m.mach := rfl
  unfold Ref.runItems
  dsimp only
  rw [hm]
  cases hl : (mkProg m.mach items).labelIdx["asm_main"]? with
  | none => exact Or.inl rfl
  | some entry =>
    dsimp only
    split
    · exact Or.inl rfl
    · exact runLoop_monitor_indep m _ f _ 0 0

end Scc.X86.Conc
