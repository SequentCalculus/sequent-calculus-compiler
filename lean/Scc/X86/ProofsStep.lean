/-
  Scc.X86.ProofsStep — the bridge from `execStraight` (the form in which the Theorem-B lemmas are
  stated) to the machine's own transition function `Scc.X86.step`: if the program contains the
  instruction list at the program counter, then `step` iterated over it performs exactly the
  transitions of `execStraight`, advancing `pc` (and counting the executed instructions).
  The key fact is that `execCode` neither reads nor writes the fields `pc` and `steps`.
-/
import Scc.X86.Proofs

namespace Scc.X86

def setPS (s : State) (pc' steps' : Nat) : State := { s with pc := pc', steps := steps' }

def mapPS (p k : Nat) (r : M (State × Ctl)) : M (State × Ctl) :=
  match r with
  | .ok (s, ctl) => .ok (setPS s p k, ctl)
  | .error e => .error e

def mapS (p k : Nat) (r : M State) : M State :=
  match r with
  | .ok s => .ok (setPS s p k)
  | .error e => .error e

section Frame
variable (c : MachCfg) (s : State) (p k : Nat)

theorem rd_setPS (r : Reg) : rd (setPS s p k) r = rd s r := rfl
theorem rdRaw_setPS (r : Reg) : rdRaw (setPS s p k) r = rdRaw s r := rfl
theorem ea_setPS (r : Reg) (i : Int) : ea (setPS s p k) r i = ea s r i := rfl
theorem loadWordRaw_setPS (a : Word) : loadWordRaw c (setPS s p k) a = loadWordRaw c s a := rfl
theorem loadWord_setPS (a : Word) : loadWord c (setPS s p k) a = loadWord c s a := rfl
theorem readLoc_setPS (l : Loc) : readLoc c (setPS s p k) l = readLoc c s l := by cases l <;> rfl
theorem readSrc_setPS (l : Src) : readSrc c (setPS s p k) l = readSrc c s l := by
  cases l with
  | loc l => exact readLoc_setPS c s p k l
  | imm i => rfl

theorem wrRaw_setPS (r : Reg) (v : Option Word) :
    wrRaw (setPS s p k) r v = mapS p k (wrRaw s r v) := by
  unfold wrRaw
  by_cases h : r < s.regs.size
  · simp [setPS, h, mapS]
  · simp [setPS, h, mapS]

theorem wr_setPS (r : Reg) (v : Word) : wr (setPS s p k) r v = mapS p k (wr s r v) :=
  wrRaw_setPS s p k r (some v)

theorem storeWordRaw_setPS (a : Word) (v : Option Word) :
    storeWordRaw c (setPS s p k) a v = mapS p k (storeWordRaw c s a v) := by
  unfold storeWordRaw
  by_cases h1 : a.toNat % 8 ≠ 0
  · simp [h1, mapS]
  · by_cases h2 : inHeap c a.toNat = true
    · cases v <;> simp [setPS, h1, h2, mapS]
    · by_cases h3 : inStack c a.toNat = true
      · simp [setPS, h1, h2, h3, mapS]
      · simp [setPS, h1, h2, h3, mapS]

theorem storeWord_setPS (a : Word) (v : Word) :
    storeWord c (setPS s p k) a v = mapS p k (storeWord c s a v) := storeWordRaw_setPS c s p k a (some v)

theorem writeLoc_setPS (l : Loc) (v : Word) :
    writeLoc c (setPS s p k) l v = mapS p k (writeLoc c s l v) := by
  cases l with
  | r r => exact wr_setPS s p k r v
  | m b d =>
    simp only [writeLoc, ea_setPS]
    cases ea s b d with
    | error e => rfl
    | ok a => exact storeWord_setPS c s p k a v

theorem alu_setPS (op : Word → Word → Word) (dst : Loc) (src : Src) :
    alu c op (setPS s p k) dst src = mapS p k (alu c op s dst src) := by
  simp only [alu, readLoc_setPS, readSrc_setPS]
  cases readLoc c s dst with
  | error e => rfl
  | ok a =>
    cases readSrc c s src with
    | error e => rfl
    | ok b =>
      simp only [writeLoc_setPS]
      cases writeLoc c s dst (op a b) with
      | error e => rfl
      | ok s1 => rfl

theorem cmpOp_setPS (a : Loc) (b : Src) :
    cmpOp c (setPS s p k) a b = mapS p k (cmpOp c s a b) := by
  simp only [cmpOp, readLoc_setPS, readSrc_setPS]
  cases readLoc c s a with
  | error e => rfl
  | ok x =>
    cases readSrc c s b with
    | error e => rfl
    | ok y => rfl

theorem idivOp_setPS (src : Loc) :
    idivOp c (setPS s p k) src = mapS p k (idivOp c s src) := by
  simp only [idivOp, rd_setPS, readLoc_setPS]
  cases rd s 4 with
  | error e => rfl
  | ok a =>
    cases rd s 5 with
    | error e => rfl
    | ok d =>
      cases readLoc c s src with
      | error e => rfl
      | ok b =>
        simp only
        by_cases h1 : d ≠ (if a.slt 0 then BitVec.ofInt 64 (-1) else 0)
        · rw [if_pos h1, if_pos h1]; rfl
        · rw [if_neg h1, if_neg h1]
          by_cases h2 : b = 0
          · rw [if_pos h2, if_pos h2]; rfl
          · rw [if_neg h2, if_neg h2]
            by_cases h3 : (a = minInt64 && b = BitVec.ofInt 64 (-1)) = true
            · rw [if_pos h3, if_pos h3]; rfl
            · rw [if_neg h3, if_neg h3]
              simp only [wr_setPS]
              cases wr s 4 (a.sdiv b) with
              | error e => rfl
              | ok s1 =>
                simp only [mapS, wr_setPS]
                cases wr s1 5 (a.srem b) with
                | error e => rfl
                | ok s2 => rfl

theorem seqNext_mapS (r : M State) : seqNext (mapS p k r) = mapPS p k (seqNext r) := by
  cases r <;> rfl

theorem jcc_setPS (cond : Word → Word → Bool) (l : String) :
    jcc (setPS s p k) cond l = mapPS p k (jcc s cond l) := by
  unfold jcc
  show (match s.flags with
    | none => Except.error "read-undefined flags"
    | some (a, b) => Except.ok (setPS s p k, if cond a b then Ctl.jumpLabel l else Ctl.next)) = _
  cases s.flags with
  | none => rfl
  | some ab => obtain ⟨a, b⟩ := ab; rfl

/-- `execCode` neither reads nor writes `pc` and `steps`. -/
theorem execCode_setPS (la : String → Option Nat) (code : Code) :
    execCode c la code (setPS s p k) = mapPS p k (execCode c la code s) := by
  cases code <;>
    simp only [execCode, alu_setPS, cmpOp_setPS, idivOp_setPS, seqNext_mapS, jcc_setPS, rd_setPS,
      rdRaw_setPS, ea_setPS, loadWordRaw_setPS, readLoc_setPS]
  case IMULMR => rfl
  case CQO =>
    cases rd s 4 with
    | error e => rfl
    | ok a => simp only [wr_setPS, seqNext_mapS]
  case JMP r =>
    cases rd s r with
    | error e => rfl
    | ok a => rfl
  case JMPL l => rfl
  case JMPLN l => rfl
  case LEAL r l =>
    cases la l with
    | none => rfl
    | some a => simp only [wr_setPS, seqNext_mapS]
  case MOV r r1 =>
    cases rdRaw s r1 with
    | error e => rfl
    | ok v => simp only [wrRaw_setPS, seqNext_mapS]
  case MOVS r r1 i =>
    cases rdRaw s r with
    | error e => rfl
    | ok v =>
      cases ea s r1 i with
      | error e => rfl
      | ok a => simp only [storeWordRaw_setPS, seqNext_mapS]
  case MOVL r r1 i =>
    cases ea s r1 i with
    | error e => rfl
    | ok a =>
      simp only
      cases loadWordRaw c s a with
      | error e => rfl
      | ok v => simp only [wrRaw_setPS, seqNext_mapS]
  case MOVI r i =>
    split
    · simp only [wr_setPS, seqNext_mapS]
    · rfl
  case MOVIM r i1 i2 =>
    cases imm32 i2 with
    | error e => rfl
    | ok v => simp only [writeLoc_setPS, seqNext_mapS]
  case PUSH r =>
    cases rdRaw s r with
    | error e => rfl
    | ok v =>
      cases rd s 0 with
      | error e => rfl
      | ok sp =>
        simp only [storeWordRaw_setPS]
        cases storeWordRaw c s (sp - 8) v with
        | error e => rfl
        | ok s1 =>
          simp only [mapS, wr_setPS]
          cases wr s1 0 (sp - 8) <;> rfl
  case POP r =>
    cases rd s 0 with
    | error e => rfl
    | ok sp =>
      simp only
      cases loadWordRaw c s sp with
      | error e => rfl
      | ok v =>
        simp only [wr_setPS]
        cases wr s 0 (sp + 8) with
        | error e => rfl
        | ok s1 =>
          simp only [mapS, wrRaw_setPS]
          cases wrRaw s1 r v <;> rfl
  all_goals rfl

end Frame

theorem setPS_self (s : State) : setPS s s.pc s.steps = s := rfl

theorem execCode_pc_steps {c : MachCfg} {la : String → Option Nat} {code : Code} {s s1 : State} {ctl : Ctl}
    (h : execCode c la code s = .ok (s1, ctl)) : s1.pc = s.pc ∧ s1.steps = s.steps := by
  have := execCode_setPS c s s.pc s.steps la code
  rw [setPS_self, h] at this
  simp only [mapPS, Except.ok.injEq, Prod.mk.injEq, and_true] at this
  have h1 : s1.pc = (setPS s1 s.pc s.steps).pc := by rw [← this]
  have h2 : s1.steps = (setPS s1 s.pc s.steps).steps := by rw [← this]
  exact ⟨h1, h2⟩

theorem execStraight_setPS (c : MachCfg) (la : String → Option Nat) (codes : List Code) (s : State)
    (p k : Nat) : execStraight c la codes (setPS s p k) = mapS p k (execStraight c la codes s) := by
  induction codes generalizing s with
  | nil => rfl
  | cons code rest ih =>
    simp only [execStraight, execCode_setPS]
    cases execCode c la code s with
    | error e => rfl
    | ok r =>
      obtain ⟨s1, ctl⟩ := r
      cases ctl <;> simp only [mapPS, ih] <;> rfl

/-- `n` transitions of the machine (`Sum.inr` = the run ended) -/
def stepN (m : MonCfg) (p : Prog) : Nat → State → State ⊕ Res
  | 0, s => .inl s
  | n + 1, s =>
    match step m p s with
    | .inl s1 => stepN m p n s1
    | .inr r => .inr r

/-- number of real instructions (labels, comments, directives have size 0 and are not counted) -/
def realCount (codes : List Code) : Nat := (codes.filter (fun code => codeSize code ≠ 0)).length

theorem step_next {m : MonCfg} {p : Prog} {s s1 : State} {code : Code}
    (hf : p.code[s.pc]? = some code)
    (hx : execCode m.mach p.labelAddr code s = .ok (s1, .next)) :
    step m p s = .inl (setPS s1 (s.pc + 1) (s.steps + (if codeSize code = 0 then 0 else 1))) := by
  obtain ⟨_, hst⟩ := execCode_pc_steps hx
  unfold step
  simp only [hf, hx]
  by_cases h0 : codeSize code = 0
  · simp only [h0, if_true, Nat.add_zero, setPS, ← hst]
  · simp only [h0, if_false, setPS, hst]

/-- THE BRIDGE: if the program has `codes` at `pc`, the machine's `step` function iterated
    `codes.length` times does what `execStraight` does, with `pc` advanced past the list. -/
theorem steps_straight (m : MonCfg) (p : Prog) (codes : List Code) (s s' : State)
    (hcode : ∀ i (h : i < codes.length), p.code[s.pc + i]? = some codes[i])
    (hx : execStraight m.mach p.labelAddr codes s = .ok s') :
    stepN m p codes.length s = .inl (setPS s' (s.pc + codes.length) (s.steps + realCount codes)) := by
  induction codes generalizing s s' with
  | nil =>
    simp only [execStraight, Except.ok.injEq] at hx
    subst hx
    rfl
  | cons code rest ih =>
    simp only [execStraight] at hx
    cases hc : execCode m.mach p.labelAddr code s with
    | error e => simp [hc] at hx
    | ok r =>
      obtain ⟨s1, ctl⟩ := r
      cases ctl <;> simp only [hc] at hx <;> try cases hx
      have hf : p.code[s.pc]? = some code := by
        have := hcode 0 (by simp)
        rw [List.getElem_cons_zero] at this
        simpa using this
      have hstep := step_next hf hc
      simp only [List.length_cons, stepN, hstep]
      have hx' : execStraight m.mach p.labelAddr rest
          (setPS s1 (s.pc + 1) (s.steps + (if codeSize code = 0 then 0 else 1))) =
          .ok (setPS s' (s.pc + 1) (s.steps + (if codeSize code = 0 then 0 else 1))) := by
        rw [execStraight_setPS, hx]; rfl
      have := ih (setPS s1 (s.pc + 1) (s.steps + (if codeSize code = 0 then 0 else 1)))
        (setPS s' (s.pc + 1) (s.steps + (if codeSize code = 0 then 0 else 1))) (by
        intro i hi
        have := hcode (i + 1) (by simpa using hi)
        simp only [List.getElem_cons_succ] at this
        rw [← this]
        simp only [setPS]
        congr 1; omega) hx'
      rw [this]
      congr 1
      simp only [setPS, realCount, List.filter_cons]
      by_cases h0 : codeSize code = 0
      · simp [h0]; omega
      · simp [h0]; omega

end Scc.X86
