/-
  Scc.X86.RefCompose — composition of Theorem A (C06Generic: AxCut positional machine ⟶ abstract backend
  machine on the mock code) with Theorem B (RefRun / RefInit / RefParam: abstract backend machine ⟶
  x86-64 SPEC machine on the items of the routine) for INTEGER programs: `int_programs_items`.
-/
import Scc.X86.RefInit
import Scc.X86.RefParam
import Scc.Props.C06Generic
import Scc.Backend.ProofsMockEntry

namespace Scc.X86.Ref

open Scc.AxCut Scc.Backend Scc.Backend.Abs Scc.Backend.Sim
open Scc.Props.C06Generic
open Scc.Props.C14Generic (LabelSafe)

/-- `Scc.X86.run` behind the parser: run the item list from `asm_main` -/
def runItems (items : List (Code × Nat)) (args : List Word) (fuel : Nat) (cfg : MonCfg) : RunResult :=
  let p := mkProg cfg.mach items
  match p.labelIdx["asm_main"]? with
  | none => emptyResult (.fault "undefined-label asm_main" 0)
  | some entry =>
    if args.length > 5 then emptyResult (.fault "too-many-arguments" 0)
    else runLoop cfg p fuel (initState cfg.mach args entry) 0

theorem run_eq_runItems {text : String} {items : List (Code × Nat)} (h : parseText text = .ok items)
    (args : List Word) (fuel : Nat) (cfg : MonCfg) : run text args fuel cfg = runItems items args fuel cfg := by
  unfold run runItems
  rw [h]
  rfl

/-- THEOREM A ∘ THEOREM B for integer programs, on the ITEMS of the routine: a terminating run of the
    AxCut positional machine is reproduced — same trace, same result — by the x86-64 SPEC machine
    started at `asm_main` on any item list that agrees with the emitted routine up to the text of
    comments. -/
theorem int_programs_items (p : AxCut.Prog) (args : List Word) (hooks : Bool) (body routine : List Code)
    (nargs : Nat) (d0 : Def)
    (hsafe : LabelSafe p = true) (htp : LinTypedProg p) (hip : IntProg p) (hrange : ProgInRange p)
    (hcompX : compileX86 p hooks 0 = .ok (body, nargs)) (hrout : intoRoutine body nargs = .ok routine)
    (hd : p.defs.head? = some d0)
    (hcap : ∀ st, Reachable p ⟨d0.ctx, args.map .int, d0.body⟩ st → WithinCapacity st.ctx)
    (fuel : Nat) (out : List (Bool × Word)) (v : Word) (hrun : Pos.run p args fuel = ⟨out, .done v⟩)
    (cfg : MonCfg) (MO : MachOK cfg.mach) (hheap : cfg.heap = false)
    (items : List (Code × Nat)) (hitems : (items.map (·.1)).map stripC = routine.map stripC) :
    ∃ fuel', (runItems items args fuel' cfg).out = out ∧ (runItems items args fuel' cfg).res = .done v := by
  obtain ⟨ops, c', hcompM, W⟩ := seg_compile hooks p htp hip hrange hcompX
  obtain ⟨⟨rest, hops⟩, hnargs⟩ := mock_entry hcompM hd
  -- Theorem A
  obtain ⟨fuelA, hA⟩ := TheoremA_run_int hooks p 0 ops nargs c' d0 args fuel out v hcompM hsafe htp hip hd
    hcap hrun
  have hnodupD := Scc.Props.C14Generic.labels_unique hooks p 0 ops nargs c' hcompM hsafe
  have hnodup : (labelNames ops).Nodup := by rw [labelNames_eq_dfns]; exact hnodupD
  obtain ⟨hasm, hcln⟩ := mock_labels_ne hcompM
  have hdup : duplicateLabel (Program.ofOps ops).labels = none := by
    apply duplicateLabel_none
    show ((layout ops 0).2.map (·.1)).Nodup
    rw [layout_snd_names]
    exact hnodup
  have hentry : (Program.ofOps ops).labelAddr (d0.name.print ++ "_") = some 0 := by
    rw [hops]; exact mock_entry_addr _ _
  unfold Abs.run at hA
  simp only [hdup, hentry] at hA
  have hlen : nargs = args.length := by
    rw [hnargs]
    unfold Pos.run at hrun
    cases hdefs : p.defs with
    | nil => rw [hdefs] at hd; simp at hd
    | cons d ds =>
      rw [hdefs] at hd hrun
      simp only [List.head?_cons, Option.some.injEq] at hd
      subst hd
      simp only at hrun
      by_cases hl : d.ctx.length ≠ args.length
      · simp [hl] at hrun
      · omega
  rw [hlen] at hrout
  have hargs : args.length ≤ 5 := by
    obtain ⟨moves, hm, _⟩ := intoRoutine_shape hrout
    exact moveArguments_le _ _ hm
  have L := loaded_mkProg cfg.mach items routine hitems
  obtain ⟨hdr, F, h, st0', k0, st2, hcs, hlabs, hidx, hFc, HF, E, hk0, hpc, R⟩ :=
    init_sim MO hargs hrout L
  -- Theorem B
  obtain ⟨k, stL, hk, hL, hout⟩ := abs_run_sim HF (mon := cfg) hFc.symm L hcs W hnodup
    (by intro n hn; rw [hlabs]; intro hm; simp at hm; subst hm; exact hasm hn)
    (by rw [hlabs]; simp; exact hcln)
    E fuelA (initConfig 0 args) .normal st2 out v R
    ⟨[], ops, hdr, body, cleanup, rfl, hcs, rfl, hpc.symm, W⟩ hA
  refine ⟨k0 + (k + 1), ?_⟩
  have hlab : (mkProg cfg.mach items).labelIdx["asm_main"]? = some 6 := by rw [L.labels]; exact hidx
  have hrl : runItems items args (k0 + (k + 1)) cfg =
      runLoop cfg (mkProg cfg.mach items) (k0 + (k + 1)) (initState cfg.mach args 6) 0 := by
    unfold runItems
    simp only [hlab]
    rw [if_neg (by omega)]
  rw [hrl, runLoop_stepN hheap _ k0 (k + 1) _ _ 0 hk0, runLoop_stepN hheap _ k 1 _ _ 0 hk]
  obtain ⟨h1, h2⟩ := runLoop_done hheap (mkProg cfg.mach items) 0 stL 0 hL
  exact ⟨by rw [h1]; exact hout, h2⟩

end Scc.X86.Ref
