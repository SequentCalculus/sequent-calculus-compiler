/-
  Scc.X86.WfFinal — C14 for x86-64, the x86-64 instances of the generic label theorems of
  Scc/Backend/ProofsRefs.lean, and the resulting facts about the ROUTINE:

  * `refOps_x86`     which labels the codes returned by every method of `x86Backend` refer to (memory methods:
                     only the local labels `lab<n>` they define themselves) — `RefOps`;
  * `pieceOps_x86`   every method returns codes that are not `extern` / `global` / `imul [mem], reg`, whose
                     `call`s go to the two runtime symbols, and in which `jmp near` only occurs directly after a
                     label or another `jmp near` (`TCq`); `mul` under the hypothesis that the target variable
                     differs from the sources (`Scc.X86.Total.x86_vt_inj`);
  * `wfSpec_routine` `Wf.WfSpec routine` for the routine of every `LabelSafe`, linearly typed program in range.
  memory.rs: a `Mem.Blk` has the shape of every item and refers only to labels it defines (`MW`, `Mem.Blk.mw`), so
  the four memory methods do (`postMW_*`); code.rs: the items of the forms of Scc/X86/CodeBlk.lean are plain (`PL`).
-/
import Scc.Backend.ProofsRefs
import Scc.Backend.BlkClosed
import Scc.X86.MemBlk
import Scc.X86.CodeBlk
import Scc.X86.WfItems
import Scc.X86.RefSideLabels
import Scc.X86.Total

set_option linter.unusedSimpArgs false

namespace Scc.X86.Wf

open Scc.AxCut Scc.Backend Scc.X86.Ref
open Scc.Backend.Refs

/-- the label an item refers to that must be DEFINED in the text (`call` and `global` aside) -/
def iref : Code → Option String
  | .CALL _ | .GLOBAL _ => none
  | c => codeLabelRef c

/-- the label view of the x86-64 items (Backend/ProofsRefs.lean): the label an item defines, the label it refers to -/
def V : View Code := ⟨codeLabelDef, iref⟩

theorem V_labs (l : List Code) : V.labs l = labs l := rfl

/-- lax shape: no `extern`, no `global`, `call` only of the runtime symbols -/
def shB' : Code → Bool
  | .EXTERN _ | .GLOBAL _ => false
  | .CALL f => externals.contains f
  | _ => true

/-- shape: moreover no `imul [mem], reg` -/
def shB : Code → Bool
  | .IMULMR _ _ _ => false
  | c => shB' c

def njB : Code → Bool
  | .JMPLN _ => false
  | _ => true

/-- plain items: shape, no label defined, no label referenced -/
def plB (c : Code) : Bool := shB c && (codeLabelDef c).isNone && (iref c).isNone
/-- plain items of the lax shape (`mul` may emit `imul [mem], reg`) -/
def plB' (c : Code) : Bool := shB' c && (codeLabelDef c).isNone && (iref c).isNone

abbrev PL (l : List Code) : Prop := l.all plB = true
abbrev PL' (l : List Code) : Prop := l.all plB' = true

theorem pl_append {a b : List Code} : PL (a ++ b) ↔ PL a ∧ PL b := by simp [PL, List.all_append]
theorem pl_cons {c : Code} {l : List Code} : PL (c :: l) ↔ plB c = true ∧ PL l := by simp [PL, List.all_cons]
theorem pl_nil : PL [] := rfl
theorem pl'_append {a b : List Code} : PL' (a ++ b) ↔ PL' a ∧ PL' b := by simp [PL', List.all_append]

theorem plB'_of_plB {c : Code} (h : plB c = true) : plB' c = true := by
  cases c <;> first | exact h | cases h

theorem PL.lax {l : List Code} (h : PL l) : PL' l := by
  simp only [PL, PL', List.all_eq_true] at h ⊢
  exact fun c hc => plB'_of_plB (h c hc)

theorem PL'.noRefs {l : List Code} (h : PL' l) : NoRefs V l := noRefs_of_plain (sh := shB') h

theorem PL.noRefs {l : List Code} (h : PL l) : NoRefs V l := h.lax.noRefs

theorem PL'.nl {l : List Code} (h : PL' l) : NL l := fun c hc =>
  (plainB_iff.1 (List.all_eq_true.1 (show l.all (plainB V shB') = true from h) c hc)).2.1

/-! ## code.rs -/

/-- a `Leaf` is a plain item: it defines and refers to no label -/
theorem _root_.Scc.X86.Mem.Leaf.pl {rok iok : Prop} {c : Code} (h : Mem.Leaf rok iok c) : plB c = true := by
  cases h with
  | com _ => rfl
  | instr hf _ _ => cases c <;> first | rfl | cases hf

/-- code of the form of code.rs (Scc/X86/CodeBlk.lean) is plain -/
theorem _root_.Scc.X86.Mem.CItems.pl {rok iok : Prop} {l : List Code} (h : Mem.CItems rok iok l) : PL l :=
  List.all_eq_true.2 fun c hc => (h c hc).1.pl

theorem pl_moveToRegister (r : Reg) (t : Temporary) : PL (moveToRegister r t) :=
  (Mem.items_moveToRegister (iok := True) r t).pl

theorem pl_mulToRegister (r : Reg) (t : Temporary) : PL (mulToRegister r t) :=
  (Mem.items_mulToRegister (iok := True) r t).pl

theorem pl'_mulToSpill (p : Nat) (t : Temporary) : PL' (mulToSpill p t) := by
  unfold mulToSpill; split <;> rfl

/-- `mul` may emit `imul [mem], reg`: the lax shape -/
theorem pl'_opCommutative {f : Reg → Temporary → List Code} {g : Nat → Temporary → List Code}
    (hf : ∀ r t, PL' (f r t)) (hg : ∀ p t, PL' (g p t)) (t s1 s2 : Temporary) :
    PL' (opCommutative f g t s1 s2) := by
  unfold opCommutative
  split
  · split
    · exact hf _ _
    · split
      · exact hf _ _
      · exact pl'_append.2 ⟨(pl_moveToRegister _ _).lax, hf _ _⟩
  · split
    · exact hg _ _
    · split
      · exact hg _ _
      · exact pl'_append.2 ⟨pl'_append.2 ⟨(pl_moveToRegister _ _).lax, hf _ _⟩, rfl⟩

theorem pl_compare (a b : Temporary) : PL (compare a b) := (Mem.items_compare (iok := True) a b).pl

theorem pl_compareImmediate (t : Temporary) (i : Int) : PL (compareImmediate t i) :=
  (Mem.items_compareImmediate t i).pl

theorem pl_binop_fresh (o : BinOp) {t s1 s2 : Temporary} (h1 : t ≠ s1) (h2 : t ≠ s2) : PL (binop o t s1 s2) :=
  (Mem.items_binop (iok := True) o fun _ _ _ => ⟨h1, h2⟩).pl

theorem pl'_binop (o : BinOp) (t s1 s2 : Temporary) : PL' (binop o t s1 s2) := by
  by_cases ho : o = .prod
  · subst ho
    exact pl'_opCommutative (fun r t => (pl_mulToRegister r t).lax) pl'_mulToSpill t s1 s2
  · exact (Mem.items_binop (iok := True) o fun e => absurd e ho).pl.lax

theorem pl_binop_sum (t s1 s2 : Temporary) : PL (binop .sum t s1 s2) := (Mem.items_add (iok := True) t s1 s2).pl

theorem pl_mov (t s : Temporary) : PL (mov t s) := (Mem.items_mov (iok := True) t s).pl

theorem pl_jump (t : Temporary) : PL (jump t) := by
  unfold jump; split <;> rfl

theorem pl_loadImmediate (t : Temporary) (i : Int) : PL (loadImmediate t i) := (Mem.items_loadImmediate t i).pl

theorem pl_addAndJump (t : Temporary) (i : Int) : PL (addAndJump t i) := by
  unfold addAndJump; split <;> rfl

theorem pl_storeTemporary (t : Temporary) (sp : Bool) : PL (storeTemporary t sp) :=
  (Mem.items_storeTemporary (iok := True) t sp).pl

theorem pl_restoreTemporary (t : Temporary) (sp : Bool) : PL (restoreTemporary t sp) :=
  (Mem.items_restoreTemporary (iok := True) t sp).pl

theorem pl_printI64 (nl : Bool) (t : Temporary) (ctx : Ctx) : PL (printI64 nl t ctx) :=
  List.all_eq_true.2 fun c hc => (Mem.items_printI64 nl t ctx c hc).elim (·.pl)
    (fun h => by cases h <;> first | rfl | (cases nl <;> rfl))

/-! ## references of the label-taking methods -/

theorem iref_condJump (s : IfSort) (l : String) : iref (condJump s l) = some l := by cases s <;> rfl

theorem refsTo_of_pl_single {a : List Code} {c : Code} {l : String} (ha : PL a) (hc : iref c = some l) :
    RefsTo V l (a ++ [c]) := refsTo_plain_single (sh := shB) ha hc

theorem refsTo_jumpLabelIf (s : IfSort) (a b : Temporary) (l : String) : RefsTo V l (jumpLabelIf s a b l) :=
  refsTo_of_pl_single (pl_compare a b) (iref_condJump s l)

theorem refsTo_jumpLabelIfZero (s : IfSort) (a : Temporary) (l : String) :
    RefsTo V l (jumpLabelIfZero s a l) :=
  refsTo_of_pl_single (pl_compareImmediate a 0) (iref_condJump s l)

theorem refsTo_loadLabel (t : Temporary) (l : String) : RefsTo V l (loadLabel t l) := by
  unfold loadLabel
  intro r hr
  split at hr <;> simpa [View.refs, V, iref, codeLabelRef] using hr

/-! ## jump tables: `jmp near` only after a label or another `jmp near` -/

/-- the list passes `tableOK` from both states -/
def TCq (l : List Code) : Prop := ∀ b, tableOK l b = true

theorem tableOK_append : ∀ (a c : List Code) (b0 : Bool), tableOK a b0 = true → TCq c → tableOK (a ++ c) b0 = true
  | [], c, b0, _, hc => hc b0
  | x :: rest, c, b0, ha, hc => by
    cases x <;> simp only [List.cons_append, tableOK] at ha ⊢ <;>
      first
        | exact tableOK_append rest c _ ha hc
        | (split at ha
           · rw [if_pos (by assumption)]; exact tableOK_append rest c _ ha hc
           · cases ha)

theorem TCq.append {a c : List Code} (ha : TCq a) (hc : TCq c) : TCq (a ++ c) :=
  fun b => tableOK_append a c b (ha b) hc

theorem TCq.nil : TCq [] := fun _ => rfl

theorem tcq_of_nj : ∀ {l : List Code}, l.all njB = true → TCq l
  | [], _ => TCq.nil
  | x :: rest, h => by
    simp only [List.all_cons, Bool.and_eq_true] at h
    intro b
    cases x <;> simp only [tableOK] <;> first | exact tcq_of_nj h.2 _ | (cases h.1)

theorem tableOK_jmplns : ∀ (ls : List String) (rest : List Code), TCq rest →
    tableOK (ls.map Code.JMPLN ++ rest) true = true
  | [], rest, h => h true
  | l :: ls, rest, h => by
    simp only [List.map_cons, List.cons_append, tableOK, if_true]
    exact tableOK_jmplns ls rest h

theorem tcq_table (l : String) (cs : Clauses) (base : String) :
    TCq (x86Backend.label l :: codeTable x86Backend cs base) := by
  obtain ⟨ls, e⟩ := codeTable_jmplns cs base
  intro b
  rw [e]
  show tableOK (ls.map Code.JMPLN) true = true
  have := tableOK_jmplns ls [] TCq.nil
  rwa [List.append_nil] at this

/-! ## memory.rs: shape and closedness -/

/-- shape, and not a `jmp near`: what memory.rs emits -/
def sjB (c : Code) : Bool := shB c && njB c

/-- every item has the shape `sjB` and every referenced label is defined in the list -/
def MW (l : List Code) : Prop := l.all sjB = true ∧ Closed V l

theorem sjB_of_plB {c : Code} (h : plB c = true) : sjB c = true := by
  cases c <;> first | rfl | cases h | (simpa [plB, sjB, shB, shB', njB, iref, codeLabelDef] using h)

theorem PL.mw {l : List Code} (h : PL l) : MW l := by
  refine ⟨?_, h.noRefs.closed⟩
  simp only [PL, List.all_eq_true] at h ⊢
  exact fun c hc => sjB_of_plB (h c hc)

theorem MW.nil : MW [] := pl_nil.mw

theorem MW.append {a b : List Code} (ha : MW a) (hb : MW b) : MW (a ++ b) :=
  ⟨by rw [List.all_append, ha.1, hb.1]; rfl, ha.2.append hb.2⟩

abbrev PostMW (m : GenM (List Code)) : Prop := Post m MW

theorem labs_single_lab (l : String) : V.labs [Code.LAB l] = [l] := rfl

/-- code of memory.rs has the shape and refers only to labels it defines -/
theorem _root_.Scc.X86.Mem.Blk.mw {rok iok : Prop} {l : List Code} (h : Mem.Blk rok iok l) : MW l :=
  Scc.Backend.Blk.plain_closed V (sh := shB) (sh' := sjB) (fun _ hl => hl.pl) (fun _ => sjB_of_plB)
    (fun _ _ => ⟨rfl, rfl⟩) (fun _ => ⟨rfl, rfl⟩) (fun _ => ⟨rfl, rfl, rfl⟩) h

theorem postMW_store (toStore ctx : Ctx) : PostMW (store toStore ctx) :=
  fun _ _ _ h => (Mem.blk_store toStore ctx h).mw

theorem postMW_load (toLoad ctx : Ctx) : PostMW (load toLoad ctx) :=
  fun _ _ _ h => (Mem.blk_load toLoad ctx h).mw

theorem postMW_eraseBlock (t : Temporary) : PostMW (eraseBlock t) :=
  fun _ _ _ h => (Mem.blk_eraseBlock t h).mw

theorem postMW_shareBlockN (t : Temporary) (n : Nat) : PostMW (shareBlockN t n) :=
  fun _ _ _ h => (Mem.blk_shareBlockN t n h).mw

theorem refOps_x86 : RefOps x86Backend V where
  comment := fun _ => ⟨rfl, rfl⟩
  label := fun _ => ⟨rfl, rfl⟩
  jump := fun t => (pl_jump t).noRefs
  jumpLabel := fun l => refsTo_single (c := Code.JMPL l) rfl
  jumpLabelFixed := fun l => refsTo_single (c := Code.JMPLN l) rfl
  jumpLabelIf := refsTo_jumpLabelIf
  jumpLabelIfZero := refsTo_jumpLabelIfZero
  loadImmediate := fun t n => (pl_loadImmediate t n).noRefs
  loadLabel := refsTo_loadLabel
  addAndJump := fun t n => (pl_addAndJump t n).noRefs
  binop := fun o t a b => (pl'_binop o t a b).noRefs
  mov := fun t s => (pl_mov t s).noRefs
  printI64 := fun nl t ctx => Post.pure (pl_printI64 nl t ctx).noRefs.closed
  eraseBlock := fun t => (postMW_eraseBlock t).mono fun _ h => h.2
  shareBlockN := fun t n => (postMW_shareBlockN t n).mono fun _ h => h.2
  store := fun a b => (postMW_store a b).mono fun _ h => h.2
  load := fun a b => (postMW_load a b).mono fun _ h => h.2
  storeTemporary := fun t sp => (pl_storeTemporary t sp).noRefs
  restoreTemporary := fun t sp => (pl_restoreTemporary t sp).noRefs

/-- shape of every item, and `jmp near` only in tables -/
def QX (l : List Code) : Prop := l.all shB = true ∧ TCq l

theorem shB_of_sjB {c : Code} (h : sjB c = true) : shB c = true := by
  simp only [sjB, Bool.and_eq_true] at h; exact h.1
theorem njB_of_sjB {c : Code} (h : sjB c = true) : njB c = true := by
  simp only [sjB, Bool.and_eq_true] at h; exact h.2

theorem MW.qx {l : List Code} (h : MW l) : QX l := by
  have h1 := h.1
  simp only [List.all_eq_true] at h1
  refine ⟨?_, tcq_of_nj ?_⟩
  · simp only [List.all_eq_true]; exact fun c hc => shB_of_sjB (h1 c hc)
  · simp only [List.all_eq_true]; exact fun c hc => njB_of_sjB (h1 c hc)

theorem PL.qx {l : List Code} (h : PL l) : QX l := h.mw.qx

theorem QX.append {a b : List Code} (ha : QX a) (hb : QX b) : QX (a ++ b) :=
  ⟨by rw [List.all_append, ha.1, hb.1]; rfl, ha.2.append hb.2⟩

theorem all_shB_codeTable (base : String) (cs : Clauses) : (codeTable x86Backend cs base).all shB = true := by
  obtain ⟨ls, e⟩ := codeTable_jmplns cs base
  rw [e]
  simp only [List.all_map, List.all_eq_true, Function.comp]
  exact fun _ _ => rfl

theorem pieceOps_x86 : PieceOps x86Backend QX where
  nil := pl_nil.qx
  append := QX.append
  comment := fun m => PL.qx (l := [_]) rfl
  label := fun l => ⟨rfl, tcq_of_nj rfl⟩
  table := fun l cs base => ⟨by
    show (true && (codeTable x86Backend cs base).all shB) = true
    rw [all_shB_codeTable]; rfl, tcq_table l cs base⟩
  jump := fun t => (pl_jump t).qx
  jumpLabel := fun l => ⟨rfl, tcq_of_nj rfl⟩
  jumpLabelIf := fun s a b l => by
    refine QX.append (pl_compare a b).qx ⟨?_, tcq_of_nj ?_⟩ <;> cases s <;> rfl
  jumpLabelIfZero := fun s a l => by
    refine QX.append (pl_compareImmediate a 0).qx ⟨?_, tcq_of_nj ?_⟩ <;> cases s <;> rfl
  loadImmediate := fun t n => (pl_loadImmediate t n).qx
  loadLabel := fun t l => by
    show QX (loadLabel t l)
    unfold loadLabel
    split
    · exact ⟨rfl, tcq_of_nj rfl⟩
    · exact ⟨rfl, tcq_of_nj rfl⟩
  addAndJump := fun t n => (pl_addAndJump t n).qx
  binop := fun o Γ x a b t s1 s2 hxa hxb ht h1 h2 => by
    refine (pl_binop_fresh o ?_ ?_).qx
    · intro e; subst e; exact hxa (Scc.X86.Total.x86_vt_inj ht h1).2
    · intro e; subst e; exact hxb (Scc.X86.Total.x86_vt_inj ht h2).2
  binopTemp := fun t => (pl_binop_sum (.reg TEMP) (.reg TEMP) t).qx
  mov := fun t s => (pl_mov t s).qx
  printI64 := fun nl t ctx => Post.pure (pl_printI64 nl t ctx).qx
  eraseBlock := fun t => (postMW_eraseBlock t).mono fun _ h => h.qx
  shareBlockN := fun t n => (postMW_shareBlockN t n).mono fun _ h => h.qx
  store := fun a b => (postMW_store a b).mono fun _ h => h.qx
  load := fun a b => (postMW_load a b).mono fun _ h => h.qx
  storeTemporary := fun t sp => (pl_storeTemporary t sp).qx
  restoreTemporary := fun t sp => (pl_restoreTemporary t sp).qx

open Scc.Props.C14Generic (LabelSafe progXtorNames)

theorem compileX86_run {p : AxCut.Prog} {hooks : Bool} {k : Nat} {body : List Code} {nargs : Nat}
    (h : compileX86 p hooks k = .ok (body, nargs)) :
    ∃ k', (compileR x86Backend hooks natRen p).run k = .ok ((body, nargs), k') := by
  unfold compileX86 at h
  cases hr : (compile x86Backend hooks p).run k with
  | error e => rw [hr] at h; cases h
  | ok r =>
    obtain ⟨⟨body', nargs'⟩, k'⟩ := r
    rw [hr] at h
    simp only [Except.ok.injEq, Prod.mk.injEq] at h
    obtain ⟨rfl, rfl⟩ := h
    exact ⟨k', hr⟩

/-- the body: every referenced label is defined in the body or is `cleanup`; shape; tables -/
theorem body_facts {p : AxCut.Prog} {hooks : Bool} {k : Nat} {body : List Code} {nargs : Nat}
    (htp : LinTypedProg p) (h : compileX86 p hooks k = .ok (body, nargs)) :
    (∀ l ∈ V.refs body, l ∈ labs body ∨ l = "cleanup") ∧ body.all shB = true ∧ TCq body := by
  obtain ⟨k', hr⟩ := compileX86_run h
  have h1 := refs_defined refOps_x86 hooks natRen p (callsDefined_of_linTyped htp) k _ k' hr
  have h2 := piece_compileR pieceOps_x86 hooks natRen p (opFresh_of_linTypedProg htp) k _ k' hr
  exact ⟨h1, h2.1, h2.2⟩

theorem pl_moveArguments : ∀ (n : Nat) (codes : List Code), moveArguments n = .ok codes → PL codes
  | 0, codes, h => by simp only [moveArguments] at h; cases h; decide
  | 1, codes, h => by
    simp only [moveArguments] at h
    split at h
    · cases h; exact pl_cons.2 ⟨by decide, rfl⟩
    · cases h
  | n + 2, codes, h => by
    simp only [moveArguments] at h
    split at h
    · cases h
    · split at h
      · rename_i rest hrest
        cases h
        exact pl_append.2 ⟨pl_cons.2 ⟨by decide, rfl⟩, pl_moveArguments (n + 1) _ hrest⟩
      · cases h

theorem pl_prologue : PL prologue := by decide

theorem count_u_print : ("print_i64".toList.count '_' = 1) ∧ ("println_i64".toList.count '_' = 1) := by decide

theorem extsOf_append (a b : List Code) : extsOf (a ++ b) = extsOf a ++ extsOf b := by
  simp [extsOf, List.filterMap_append]

theorem extsOf_of_shB {l : List Code} (h : l.all shB = true) : extsOf l = [] := by
  unfold extsOf
  rw [List.filterMap_eq_nil_iff]
  intro c hc
  simp only [List.all_eq_true] at h
  have := h c hc
  cases c <;> first | rfl | cases this

theorem shB_of_plB {c : Code} (h : plB c = true) : shB c = true := shB_of_sjB (sjB_of_plB h)

theorem PL.all_shB {l : List Code} (h : PL l) : l.all shB = true := h.qx.1

theorem not_imulmr_of_shB {c : Code} (h : shB c = true) : ∀ b i r, c ≠ .IMULMR b i r := by
  intro b i r e; subst e; cases h

theorem call_of_shB {c : Code} (h : shB c = true) {f : String} (e : c = .CALL f) : f ∈ externals := by
  subst e
  have : externals.contains f = true := h
  simpa using this

/-- neither `imul [mem], reg` nor `call` -/
def hcB : Code → Bool
  | .IMULMR _ _ _ | .CALL _ => false
  | _ => true

/-- the first seven items of the routine (`intoRoutine_shape`, X86/RefInit.lean) -/
def head7 : List Code :=
  [Code.COMMENT "asmsyntax=nasm", .NOEXECSTACK, .TEXT, .EXTERN "print_i64", .EXTERN "println_i64",
    .GLOBAL "asm_main", .LAB "asm_main"]

theorem header_eq (moves : List Code) : header moves = head7 ++ (prologue ++ moves ++ [Code.COMMENT "actual code"]) := rfl

/-- **the routine of every `LabelSafe`, linearly typed program in range satisfies `WfSpec`** -/
theorem wfSpec_routine {p : AxCut.Prog} {hooks : Bool} {k : Nat} {body routine : List Code} {nargs : Nat}
    (hsafe : LabelSafe p = true) (htp : LinTypedProg p) (hrange : ProgInRange p)
    (h : compileX86 p hooks k = .ok (body, nargs)) (hr : intoRoutine body nargs = .ok routine) :
    WfSpec routine := by
  obtain ⟨hrefs, hsh, htc⟩ := body_facts htp h
  obtain ⟨moves, hm, hshape⟩ := intoRoutine_shape hr
  have hrt : routine = head7 ++ ((prologue ++ moves ++ [Code.COMMENT "actual code"]) ++ (body ++ cleanup)) := by
    rw [hshape]; simp [head7]
  have hplS : PL (prologue ++ moves ++ [Code.COMMENT "actual code"]) :=
    pl_append.2 ⟨pl_append.2 ⟨pl_prologue, pl_moveArguments _ _ hm⟩, by decide⟩
  generalize hS : prologue ++ moves ++ [Code.COMMENT "actual code"] = S at hrt hplS
  have hnodup := labels_unique_x86 hsafe h hr
  have hlabS : labs S = [] := hplS.lax.nl.labs
  have hlabs : labs routine = "asm_main" :: (labs body ++ ["cleanup"]) := by
    rw [hrt, Ref.labs_append, Ref.labs_append, Ref.labs_append, hlabS, labs_cleanup]; rfl
  have hexts : extsOf routine = ["print_i64", "println_i64"] := by
    rw [hrt, extsOf_append, extsOf_append, extsOf_append, extsOf_of_shB hplS.all_shB, extsOf_of_shB hsh]
    decide
  -- the labels of the body are not runtime symbols
  obtain ⟨k', g⟩ := g_body h hsafe
  obtain ⟨ls, els, hne⟩ := (Lab.body_labels hsafe g).1
  have hmem : ∀ c ∈ routine, c ∈ head7 ∨ c ∈ S ∨ c ∈ body ∨ c ∈ cleanup := by
    intro c hc
    rw [hrt] at hc
    simpa [List.mem_append] using hc
  have hshS := hplS.all_shB
  simp only [List.all_eq_true] at hshS hsh
  have h7 : head7.all hcB = true := by decide
  have hcl : cleanup.all hcB = true := by decide
  -- one case split on where an item is: it has the shape, or it is one of the items of the head and the tail
  -- (no `imul [mem], reg`, no `call`)
  have hitem : ∀ c ∈ routine, shB c = true ∨ (hcB c = true ∧ (c ∈ head7 ∨ c ∈ cleanup)) := by
    intro c hc
    rcases hmem c hc with hc | hc | hc | hc
    · exact Or.inr ⟨List.all_eq_true.1 h7 _ hc, Or.inl hc⟩
    · exact Or.inl (hshS _ hc)
    · exact Or.inl (hsh _ hc)
    · exact Or.inr ⟨List.all_eq_true.1 hcl _ hc, Or.inr hc⟩
  -- every label the view refers to is defined
  have hclosed : Closed V routine := by
    rw [hrt, ← List.append_assoc]
    exact closed_wrap (cl := "cleanup") ((show NoRefs V head7 from rfl).append hplS.noRefs)
      (show NoRefs V cleanup from rfl) hrefs (by decide)
  have hext : ∀ f, shB (.CALL f) = true → f ∈ extsOf routine := fun f h => by
    rw [hexts]; exact call_of_shB h rfl
  refine ⟨hnodup, ?_, ?_, ?_, ?_, ?_⟩
  · -- externs
    intro f hf
    rw [hexts] at hf
    have hf' : f = "print_i64" ∨ f = "println_i64" := by simpa using hf
    refine ⟨by rcases hf' with rfl | rfl <;> decide, ?_⟩
    rw [hlabs, els]
    simp only [List.mem_cons, List.mem_append, List.mem_map, List.mem_singleton, List.not_mem_nil, or_false,
      not_or, not_exists, not_and]
    refine ⟨by rcases hf' with rfl | rfl <;> decide, fun l hl e => Lab.R_ne_ext (hne l hl) hf' e,
      by rcases hf' with rfl | rfl <;> decide⟩
  · -- references: `call` goes to an extern, `global` names the entry, the others are references of the view
    intro c hc l hl
    by_cases hcall : ∃ f, c = .CALL f
    · obtain ⟨f, rfl⟩ := hcall
      cases hl
      rcases hitem _ hc with h | ⟨h, _⟩
      · exact Or.inr (hext _ h)
      · cases h
    · by_cases hg : ∃ g, c = .GLOBAL g
      · obtain ⟨g, rfl⟩ := hg
        cases hl
        rcases hitem _ hc with h | ⟨_, h | h⟩
        · cases h
        · have : l = "asm_main" := by simpa [head7] using h
          subst this
          exact Or.inl (by rw [hlabs]; simp)
        · exact absurd h (by simp [cleanup])
      · have hi : iref c = some l := by
          cases c <;> first | exact hl | exact absurd ⟨_, rfl⟩ hcall | exact absurd ⟨_, rfl⟩ hg
        exact Or.inl (hclosed l (List.mem_filterMap.2 ⟨c, hc, hi⟩))
  · -- operands
    intro c hc
    rcases routine_operandsOK hrange h hr c hc with h1 | ⟨b, i, r, rfl⟩
    · exact h1
    · exfalso
      rcases hitem _ hc with h | ⟨h, _⟩
      · exact not_imulmr_of_shB h _ _ _ rfl
      · cases h
  · -- calls
    intro c hc f e
    subst e
    rcases hitem _ hc with h | ⟨h, _⟩
    · exact hext _ h
    · cases h
  · -- tables
    rw [hrt]
    have t7 : TCq head7 := tcq_of_nj (by decide)
    have tc : TCq cleanup := tcq_of_nj (by decide)
    exact (t7.append (hplS.qx.2.append (htc.append tc))) false

end Scc.X86.Wf
