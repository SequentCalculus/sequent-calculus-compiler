/-
  Scc.X86.ProofsArith — Theorem-B lemmas for the x86-64 backend's integer instructions
  (code.rs: add / mul via op_commutative, sub, div, rem, compare + conditional jumps, mov,
  load_immediate, load_label, add_and_jump) for ALL operand values and ALL placements
  (register / spill slot / aliasing), proved on the temporary-level view (ProofsFrame.lean).
  The transfer to the SPEC machine is in ProofsTransfer.lean.
-/
import Scc.X86.ProofsFrame

namespace Scc.X86

theorem TEMP_eq : TEMP = 1 := rfl
theorem STACK_eq : STACK = 0 := rfl
theorem RETURN1_eq : RETURN1 = 4 := rfl
theorem RETURN2_eq : RETURN2 = 5 := rfl

/-- A temporary that can hold a variable: registers 4..15, spill slots 1..255 (utils.rs). -/
def TempOK : Temporary → Prop
  | .reg r => 4 ≤ r ∧ r < 16
  | .spill p => 1 ≤ p ∧ p < 256

theorem TempOK.opnd {t : Temporary} (h : TempOK t) : OpndOK t := by
  cases t with
  | reg r => exact ⟨by have := h.1; omega, h.2⟩
  | spill p => exact h.2

theorem TempOK.ne_temp {t : Temporary} (h : TempOK t) : t ≠ .reg TEMP := by
  intro e; subst e; have := h.1; simp [TEMP_eq] at this

theorem opndOK_temp : OpndOK (.reg TEMP) := ⟨by decide, by decide⟩

/-- `τ'` is `τ` with temporary `t` set to `v`; only the scratch register TEMP (rcx) and the flags
    may have changed besides. -/
structure TUpd (τ τ' : TState) (t : Temporary) (v : Option Word) : Prop where
  val : τ'.val t = v
  others : ∀ u, u ≠ t → u ≠ .reg TEMP → τ'.val u = τ.val u

theorem regOpnd_of {r : Nat} (h : OpndOK (.reg r)) : regOpnd r = some (.reg r) := by
  simp [regOpnd, h.1, h.2]

theorem memOpnd_of {p : Nat} (h : OpndOK (.spill p)) : memOpnd STACK (stackOffset p) = some (.spill p) := by
  simp [memOpnd, STACK_eq, slotOfDisp_stackOffset h]

section Level
variable {la : String → Option Nat}

theorem texecList_cons (code : Code) (rest : List Code) (τ : TState) :
    texecList la (code :: rest) τ =
      match texec la code τ with
      | some τ1 => texecList la rest τ1
      | none => none := rfl

theorem texec_MOV (τ : TState) (r r1 : Nat) : texec la (.MOV r r1) τ = tmove τ (regOpnd r) (regOpnd r1) := rfl
theorem texec_MOVL (τ : TState) (r b : Nat) (i : Int) :
    texec la (.MOVL r b i) τ = tmove τ (regOpnd r) (memOpnd b i) := rfl
theorem texec_MOVS (τ : TState) (r b : Nat) (i : Int) :
    texec la (.MOVS r b i) τ = tmove τ (memOpnd b i) (regOpnd r) := rfl

theorem t_moveToRegister {τ : TState} {r : Nat} (hr : OpndOK (.reg r)) {t : Temporary} (ht : OpndOK t) :
    texecList la (moveToRegister r t) τ = some (τ.set (.reg r) (τ.val t)) := by
  cases t with
  | reg r1 => simp [moveToRegister, texecList, texec, tmove, regOpnd_of hr, regOpnd_of ht]
  | spill p => simp [moveToRegister, texecList, texec, tmove, regOpnd_of hr, memOpnd_of ht]

theorem t_moveFromRegister {τ : TState} {r : Nat} (hr : OpndOK (.reg r)) {t : Temporary} (ht : OpndOK t) :
    texecList la (moveFromRegister t r) τ = some (τ.set t (τ.val (.reg r))) := by
  cases t with
  | reg r1 => simp [moveFromRegister, texecList, texec, tmove, regOpnd_of hr, regOpnd_of ht]
  | spill p => simp [moveFromRegister, texecList, texec, tmove, regOpnd_of hr, memOpnd_of ht]

/-- B-mov: `mov t s` copies the (possibly undefined) contents of `s` into `t` -/
theorem t_mov {τ : TState} {t s : Temporary} (ht : OpndOK t) (hs : OpndOK s)
    (hsT : s ≠ .reg TEMP) :
    ∃ τ', texecList la (mov t s) τ = some τ' ∧ TUpd τ τ' t (τ.val s) := by
  cases s with
  | reg rs =>
    refine ⟨_, by simp only [mov]; exact t_moveFromRegister hs ht, ⟨by simp, fun u hu _ => by simp [hu]⟩⟩
  | spill ps =>
    cases t with
    | reg rt =>
      refine ⟨_, by simp only [mov]; exact t_moveToRegister ht hs, ⟨by simp, fun u hu _ => by simp [hu]⟩⟩
    | spill pt =>
      refine ⟨_, by
        simp only [mov]
        rw [texecList_append, t_moveToRegister opndOK_temp hs]
        exact t_moveFromRegister opndOK_temp ht, ⟨by simp, fun u hu hT => by simp [hu, hT]⟩⟩

/-- Contract of an `op_to_register` function (add_to_register, sub_to_register, mul_to_register). -/
def RegOpSpec (la : String → Option Nat) (op : Word → Word → Word)
    (opToRegister : Nat → Temporary → List Code) : Prop :=
  ∀ (τ : TState) (r : Nat) (t : Temporary) (x y : Word),
    OpndOK (.reg r) → OpndOK t → τ.val (.reg r) = some x → τ.val t = some y →
    texecList la (opToRegister r t) τ = some { τ.set (.reg r) (some (op x y)) with flags := none }

/-- Contract of an `op_to_spill` function (add_to_spill, sub_to_spill). -/
def SpillOpSpec (la : String → Option Nat) (op : Word → Word → Word)
    (opToSpill : Nat → Temporary → List Code) : Prop :=
  ∀ (τ : TState) (p : Nat) (t : Temporary) (x y : Word),
    OpndOK (.spill p) → TempOK t → τ.val (.spill p) = some x → τ.val t = some y →
    ∃ τ', texecList la (opToSpill p t) τ = some τ' ∧ TUpd τ τ' (.spill p) (some (op x y))

theorem regOp_spec_of (op : Word → Word → Word) (opToRegister : Nat → Temporary → List Code)
    (mkR : Nat → Nat → Code) (mkM : Nat → Nat → Int → Code)
    (hR : ∀ (τ : TState) r r1, texec la (mkR r r1) τ = talu op τ (regOpnd r) (tsrc τ (regOpnd r1)))
    (hM : ∀ (τ : TState) r b i, texec la (mkM r b i) τ = talu op τ (regOpnd r) (tsrc τ (memOpnd b i)))
    (hreg : ∀ r r1, opToRegister r (.reg r1) = [mkR r r1])
    (hspill : ∀ r p, opToRegister r (.spill p) = [mkM r STACK (stackOffset p)]) :
    RegOpSpec la op opToRegister := by
  intro τ r t x y hr ht hx hy
  cases t with
  | reg r1 => simp [hreg, texecList, hR, talu, tsrc, regOpnd_of hr, regOpnd_of ht, hx, hy]
  | spill p => simp [hspill, texecList, hM, talu, tsrc, regOpnd_of hr, memOpnd_of ht, hx, hy]

theorem addToRegister_spec : RegOpSpec la (· + ·) addToRegister :=
  regOp_spec_of (· + ·) addToRegister .ADD .ADDRM (fun _ _ _ => rfl) (fun _ _ _ _ => rfl)
    (fun _ _ => rfl) (fun _ _ => rfl)

theorem subToRegister_spec : RegOpSpec la (· - ·) subToRegister :=
  regOp_spec_of (· - ·) subToRegister .SUB .SUBRM (fun _ _ _ => rfl) (fun _ _ _ _ => rfl)
    (fun _ _ => rfl) (fun _ _ => rfl)

theorem mulToRegister_spec : RegOpSpec la (· * ·) mulToRegister :=
  regOp_spec_of (· * ·) mulToRegister .IMUL .IMULRM (fun _ _ _ => rfl) (fun _ _ _ _ => rfl)
    (fun _ _ => rfl) (fun _ _ => rfl)

theorem spillOp_spec_of (op : Word → Word → Word) (opToSpill : Nat → Temporary → List Code)
    (mk : Nat → Int → Nat → Code)
    (hmk : ∀ (τ : TState) b i r, texec la (mk b i r) τ = talu op τ (memOpnd b i) (tsrc τ (regOpnd r)))
    (hreg : ∀ p r, opToSpill p (.reg r) = [mk STACK (stackOffset p) r])
    (hspill : ∀ p q, opToSpill p (.spill q) =
      [.MOVL TEMP STACK (stackOffset q), mk STACK (stackOffset p) TEMP]) :
    SpillOpSpec la op opToSpill := by
  intro τ p t x y hp ht hx hy
  cases t with
  | reg r1 =>
    have e : texecList la (opToSpill p (.reg r1)) τ =
        some { τ.set (.spill p) (some (op x y)) with flags := none } := by
      simp [hreg, texecList, hmk, talu, tsrc, regOpnd_of ht.opnd, memOpnd_of hp, hx, hy]
    exact ⟨_, e, ⟨by simp, fun u hu _ => by simp [hu]⟩⟩
  | spill q =>
    have e : texecList la (opToSpill p (.spill q)) τ =
        some { (τ.set (.reg TEMP) (τ.val (.spill q))).set (.spill p) (some (op x y)) with flags := none } := by
      simp [hspill, texecList, texec_MOVL, tmove, hmk, talu, tsrc, regOpnd_of opndOK_temp, memOpnd_of hp,
        memOpnd_of ht.opnd, hx, hy]
    exact ⟨_, e, ⟨by simp, fun u hu hT => by simp [hu, hT]⟩⟩

theorem addToSpill_spec : SpillOpSpec la (· + ·) addToSpill :=
  spillOp_spec_of (· + ·) addToSpill .ADDMR (fun _ _ _ _ => rfl) (fun _ _ => rfl) (fun _ _ => rfl)

theorem subToSpill_spec : SpillOpSpec la (· - ·) subToSpill :=
  spillOp_spec_of (· - ·) subToSpill .SUBMR (fun _ _ _ _ => rfl) (fun _ _ => rfl) (fun _ _ => rfl)

/-- op_commutative with a register target (any aliasing with the sources) -/
theorem t_opCommutative_reg {op : Word → Word → Word} {opR : Nat → Temporary → List Code}
    {opS : Nat → Temporary → List Code} (hR : RegOpSpec la op opR) (comm : ∀ x y, op x y = op y x)
    {τ : TState} {r : Nat} {s1 s2 : Temporary} (ht : TempOK (.reg r)) (h1 : TempOK s1) (h2 : TempOK s2)
    {x y : Word} (hx : τ.val s1 = some x) (hy : τ.val s2 = some y) :
    ∃ τ', texecList la (opCommutative opR opS (.reg r) s1 s2) τ = some τ' ∧
      TUpd τ τ' (.reg r) (some (op x y)) := by
  simp only [opCommutative]
  by_cases e1 : Temporary.reg r = s1
  · subst e1
    rw [if_pos rfl]
    exact ⟨_, hR τ r s2 x y ht.opnd h2.opnd hx hy, ⟨by simp, fun u hu _ => by simp [hu]⟩⟩
  · rw [if_neg e1]
    by_cases e2 : Temporary.reg r = s2
    · subst e2
      rw [if_pos rfl]
      exact ⟨_, hR τ r s1 y x ht.opnd h1.opnd hy hx, ⟨by simp [comm x y], fun u hu _ => by simp [hu]⟩⟩
    · rw [if_neg e2, texecList_append, t_moveToRegister ht.opnd h1.opnd]
      have hx' : (τ.set (.reg r) (τ.val s1)).val (.reg r) = some x := by simp [hx]
      have hy' : (τ.set (.reg r) (τ.val s1)).val s2 = some y := by
        rw [TState.set_val, if_neg (fun e => e2 e.symm)]; exact hy
      exact ⟨_, hR _ r s2 x y ht.opnd h2.opnd hx' hy', ⟨by simp, fun u hu _ => by simp [hu]⟩⟩

/-- op_commutative with a spilled target different from both sources -/
theorem t_opCommutative_spill {op : Word → Word → Word} {opR : Nat → Temporary → List Code}
    {opS : Nat → Temporary → List Code} (hR : RegOpSpec la op opR)
    {τ : TState} {p : Nat} {s1 s2 : Temporary} (ht : TempOK (.spill p)) (h1 : TempOK s1) (h2 : TempOK s2)
    (n1 : Temporary.spill p ≠ s1) (n2 : Temporary.spill p ≠ s2)
    {x y : Word} (hx : τ.val s1 = some x) (hy : τ.val s2 = some y) :
    ∃ τ', texecList la (opCommutative opR opS (.spill p) s1 s2) τ = some τ' ∧
      TUpd τ τ' (.spill p) (some (op x y)) := by
  simp only [opCommutative]
  rw [if_neg n1, if_neg n2, texecList_append, texecList_append, t_moveToRegister opndOK_temp h1.opnd]
  have hx' : (τ.set (.reg TEMP) (τ.val s1)).val (.reg TEMP) = some x := by simp [hx]
  have hy' : (τ.set (.reg TEMP) (τ.val s1)).val s2 = some y := by simp [h2.ne_temp, hy]
  simp only [hR _ TEMP s2 x y opndOK_temp h2.opnd hx' hy']
  refine ⟨_, by
    rw [texecList_cons, texec_MOVS]
    simp only [tmove, regOpnd_of opndOK_temp, memOpnd_of ht.opnd, texecList]; rfl, ?_⟩
  exact ⟨by simp, fun u hu hT => by simp [hu, hT]⟩

/-- op_commutative with a spilled target that is also a source -/
theorem t_opCommutative_spill_alias {op : Word → Word → Word} {opR : Nat → Temporary → List Code}
    {opS : Nat → Temporary → List Code} (hS : SpillOpSpec la op opS) (comm : ∀ x y, op x y = op y x)
    {τ : TState} {p : Nat} {s1 s2 : Temporary} (ht : TempOK (.spill p)) (h1 : TempOK s1) (h2 : TempOK s2)
    (al : Temporary.spill p = s1 ∨ Temporary.spill p = s2)
    {x y : Word} (hx : τ.val s1 = some x) (hy : τ.val s2 = some y) :
    ∃ τ', texecList la (opCommutative opR opS (.spill p) s1 s2) τ = some τ' ∧
      TUpd τ τ' (.spill p) (some (op x y)) := by
  simp only [opCommutative]
  by_cases e1 : Temporary.spill p = s1
  · subst e1
    rw [if_pos rfl]
    exact hS τ p s2 x y ht.opnd h2 hx hy
  · rw [if_neg e1]
    have e2 : Temporary.spill p = s2 := al.resolve_left e1
    subst e2
    rw [if_pos rfl, comm x y]
    exact hS τ p s1 y x ht.opnd h1 hy hx

/-- B-add: `add t s1 s2` for every placement and aliasing -/
theorem t_add {τ : TState} {t s1 s2 : Temporary} (ht : TempOK t) (h1 : TempOK s1) (h2 : TempOK s2)
    {x y : Word} (hx : τ.val s1 = some x) (hy : τ.val s2 = some y) :
    ∃ τ', texecList la (add t s1 s2) τ = some τ' ∧ TUpd τ τ' t (some (x + y)) := by
  unfold add
  cases t with
  | reg r => exact t_opCommutative_reg addToRegister_spec BitVec.add_comm ht h1 h2 hx hy
  | spill p =>
    by_cases al : Temporary.spill p = s1 ∨ Temporary.spill p = s2
    · exact t_opCommutative_spill_alias addToSpill_spec BitVec.add_comm ht h1 h2 al hx hy
    · exact t_opCommutative_spill addToRegister_spec ht h1 h2 (fun e => al (Or.inl e))
        (fun e => al (Or.inr e)) hx hy

/-- B-mul: `mul t s1 s2`; a SPILLED target must differ from both sources (otherwise the backend
    emits `imul [mem], reg`, which does not exist: `mul_alias_illegal` in ProofsWf.lean) -/
theorem t_mul {τ : TState} {t s1 s2 : Temporary} (ht : TempOK t) (h1 : TempOK s1) (h2 : TempOK s2)
    (hal : ∀ p, t = .spill p → t ≠ s1 ∧ t ≠ s2)
    {x y : Word} (hx : τ.val s1 = some x) (hy : τ.val s2 = some y) :
    ∃ τ', texecList la (mul t s1 s2) τ = some τ' ∧ TUpd τ τ' t (some (x * y)) := by
  unfold mul
  cases t with
  | reg r => exact t_opCommutative_reg mulToRegister_spec BitVec.mul_comm ht h1 h2 hx hy
  | spill p =>
    obtain ⟨n1, n2⟩ := hal p rfl
    exact t_opCommutative_spill mulToRegister_spec ht h1 h2 n1 n2 hx hy

/-- B-sub: `sub t s1 s2` for every placement and aliasing -/
theorem t_sub {τ : TState} {t s1 s2 : Temporary} (ht : TempOK t) (h1 : TempOK s1) (h2 : TempOK s2)
    {x y : Word} (hx : τ.val s1 = some x) (hy : τ.val s2 = some y) :
    ∃ τ', texecList la (sub t s1 s2) τ = some τ' ∧ TUpd τ τ' t (some (x - y)) := by
  have hR := @subToRegister_spec la
  -- the common path: TEMP := s1; TEMP -= s2
  have common : texecList la (moveToRegister TEMP s1 ++ subToRegister TEMP s2) τ =
      some { (τ.set (.reg TEMP) (τ.val s1)).set (.reg TEMP) (some (x - y)) with flags := none } := by
    rw [texecList_append, t_moveToRegister opndOK_temp h1.opnd]
    have hx' : (τ.set (.reg TEMP) (τ.val s1)).val (.reg TEMP) = some x := by simp [hx]
    have hy' : (τ.set (.reg TEMP) (τ.val s1)).val s2 = some y := by simp [h2.ne_temp, hy]
    exact hR _ TEMP s2 x y opndOK_temp h2.opnd hx' hy'
  unfold sub
  cases t with
  | reg r =>
    simp only
    by_cases e1 : Temporary.reg r = s1
    · subst e1
      rw [if_pos rfl]
      exact ⟨_, hR τ r s2 x y ht.opnd h2.opnd hx hy, ⟨by simp, fun u hu _ => by simp [hu]⟩⟩
    · rw [if_neg e1]
      by_cases e2 : Temporary.reg r = s2
      · subst e2
        rw [if_pos rfl, texecList_append, common]
        refine ⟨_, by
          dsimp only
          rw [texecList_cons, texec_MOV]
          simp only [tmove, regOpnd_of opndOK_temp, regOpnd_of ht.opnd, texecList]; rfl, ?_⟩
        exact ⟨by simp, fun u hu hT => by simp [hu, hT]⟩
      · rw [if_neg e2, texecList_append, t_moveToRegister ht.opnd h1.opnd]
        have hx' : (τ.set (.reg r) (τ.val s1)).val (.reg r) = some x := by simp [hx]
        have hy' : (τ.set (.reg r) (τ.val s1)).val s2 = some y := by
          rw [TState.set_val, if_neg (fun e => e2 e.symm)]; exact hy
        exact ⟨_, hR _ r s2 x y ht.opnd h2.opnd hx' hy', ⟨by simp, fun u hu _ => by simp [hu]⟩⟩
  | spill p =>
    simp only
    by_cases e1 : Temporary.spill p = s1
    · subst e1
      rw [if_pos rfl]
      exact subToSpill_spec τ p s2 x y ht.opnd h2 hx hy
    · rw [if_neg e1, texecList_append, common]
      refine ⟨_, by
        dsimp only
        rw [texecList_cons, texec_MOVS]
        simp only [tmove, regOpnd_of opndOK_temp, memOpnd_of ht.opnd, texecList]; rfl, ?_⟩
      exact ⟨by simp, fun u hu hT => by simp [hu, hT]⟩

theorem texec_CQO (τ : TState) : texec la .CQO τ =
    match τ.val (.reg 4) with
    | some x => some (τ.set (.reg 5) (some (signExt x)))
    | none => none := rfl
theorem texec_IDIV (τ : TState) (r : Nat) : texec la (.IDIV r) τ = tidiv τ (regOpnd r) := rfl
theorem texec_IDIVM (τ : TState) (b : Nat) (i : Int) : texec la (.IDIVM b i) τ = tidiv τ (memOpnd b i) := rfl

/-- the operands excluded by the property: division by zero and MIN / -1 -/
def DivOK (x y : Word) : Prop := y ≠ 0 ∧ ¬ (x = minInt64 ∧ y = BitVec.ofInt 64 (-1))

theorem tidiv_ok {τ : TState} {o : Temporary} {x y : Word} (h4 : τ.val (.reg 4) = some x)
    (h5 : τ.val (.reg 5) = some (signExt x)) (ho : τ.val o = some y) (hd : DivOK x y) :
    tidiv τ (some o) =
      some { (τ.set (.reg 4) (some (x.sdiv y))).set (.reg 5) (some (x.srem y)) with flags := none } := by
  have h3 : ¬ ((x = minInt64 && y = BitVec.ofInt 64 (-1)) = true) := by
    simp only [Bool.and_eq_true, decide_eq_true_eq]; exact hd.2
  simp only [tidiv, h4, h5, ho]
  rw [if_neg (by simp), if_neg hd.1, if_neg h3]

/-- `div`'s helper: CQO; IDIV by `s2` (by TEMP when `s2` is RETURN2, whose value was moved there) -/
theorem t_divBy {τ : TState} {s2 : Temporary} (h2 : OpndOK s2) (hs4 : s2 ≠ .reg 4)
    {x y : Word} (hx : τ.val (.reg 4) = some x)
    (hy : (if s2 = .reg 5 then τ.val (.reg TEMP) else τ.val s2) = some y) (hd : DivOK x y) :
    texecList la (divBy s2) τ =
      some { ((τ.set (.reg 5) (some (signExt x))).set (.reg 4) (some (x.sdiv y))).set (.reg 5)
              (some (x.srem y)) with flags := none } := by
  have h4' : (τ.set (.reg 5) (some (signExt x))).val (.reg 4) = some x := by simp [hx]
  have h5' : (τ.set (.reg 5) (some (signExt x))).val (.reg 5) = some (signExt x) := by simp
  cases s2 with
  | reg r =>
    by_cases e : r = RETURN2
    · subst e
      have hy' : (τ.set (.reg 5) (some (signExt x))).val (.reg TEMP) = some y := by
        simpa [RETURN2_eq, TEMP_eq] using hy
      simp only [divBy, if_true, texecList_cons, texec_CQO, hx, texec_IDIV, regOpnd_of opndOK_temp,
        tidiv_ok h4' h5' hy' hd, texecList]
    · have hr5 : Temporary.reg r ≠ Temporary.reg 5 := fun h => e (by injection h)
      have hy' : (τ.set (.reg 5) (some (signExt x))).val (.reg r) = some y := by
        rw [if_neg hr5] at hy
        simp [hr5, hy]
      simp only [divBy, if_neg e, texecList_cons, texec_CQO, hx, texec_IDIV, regOpnd_of h2,
        tidiv_ok h4' h5' hy' hd, texecList]
  | spill p =>
    have hy' : (τ.set (.reg 5) (some (signExt x))).val (.spill p) = some y := by
      simpa using hy
    simp only [divBy, texecList_cons, texec_CQO, hx, texec_IDIVM, memOpnd_of h2,
      tidiv_ok h4' h5' hy' hd, texecList]

/-- hypotheses of B-div / B-rem on the placement: the target is fresh (differs from both sources)
    and is neither RETURN1 nor RETURN2 (true for every variable position ≥ 1); the divisor is not in
    RETURN1 (true for every second temporary) -/
structure DivPlacement (t s1 s2 : Temporary) : Prop where
  ht : TempOK t
  hs1 : TempOK s1
  hs2 : TempOK s2
  t_ne_s1 : t ≠ s1
  t_ne_s2 : t ≠ s2
  t_ne_ret1 : t ≠ .reg 4
  t_ne_ret2 : t ≠ .reg 5
  s2_ne_ret1 : s2 ≠ .reg 4

/-- state after the common prefix of div / rem: TEMP := RETURN2; t := RETURN1; RETURN1 := s1; CQO; IDIV -/
theorem t_divPrefix {τ : TState} {t s1 s2 : Temporary} (P : DivPlacement t s1 s2)
    {x y : Word} (hx : τ.val s1 = some x) (hy : τ.val s2 = some y) (hd : DivOK x y) :
    texecList la ([Code.MOV TEMP RETURN2] ++ moveFromRegister t RETURN1 ++ moveToRegister RETURN1 s1 ++
        divBy s2) τ =
      some { (((((τ.set (.reg TEMP) (τ.val (.reg 5))).set t (τ.val (.reg 4))).set (.reg 4) (some x)).set
              (.reg 5) (some (signExt x))).set (.reg 4) (some (x.sdiv y))).set (.reg 5)
              (some (x.srem y)) with flags := none } := by
  have o1 : OpndOK (.reg 1) := ⟨by decide, by decide⟩
  have o4 : OpndOK (.reg 4) := ⟨by decide, by decide⟩
  have o5 : OpndOK (.reg 5) := ⟨by decide, by decide⟩
  have hs1T : s1 ≠ .reg 1 := P.hs1.ne_temp
  have hs2T : s2 ≠ .reg 1 := P.hs2.ne_temp
  have htT : t ≠ .reg 1 := P.ht.ne_temp
  simp only [RETURN1_eq, RETURN2_eq, TEMP_eq]
  have e1 : texecList la [Code.MOV 1 5] τ = some (τ.set (.reg 1) (τ.val (.reg 5))) := by
    simp only [texecList_cons, texec_MOV, tmove, regOpnd_of o1, regOpnd_of o5, texecList]
  rw [texecList_append, texecList_append, texecList_append, e1]
  dsimp only
  rw [t_moveFromRegister o4 P.ht.opnd]
  dsimp only
  rw [t_moveToRegister o4 P.hs1.opnd]
  dsimp only
  have v1 : ((τ.set (.reg 1) (τ.val (.reg 5))).set t ((τ.set (.reg 1) (τ.val (.reg 5))).val
      (.reg 4))).val s1 = some x := by
    simp [P.t_ne_s1.symm, hs1T, hx]
  have v4 : (τ.set (.reg 1) (τ.val (.reg 5))).val (.reg 4) = τ.val (.reg 4) := by simp
  rw [v1, v4]
  have hx4 : (((τ.set (.reg 1) (τ.val (.reg 5))).set t (τ.val (.reg 4))).set (.reg 4)
      (some x)).val (.reg 4) = some x := by simp
  have hyv : (if s2 = .reg 5 then
        (((τ.set (.reg 1) (τ.val (.reg 5))).set t (τ.val (.reg 4))).set (.reg 4) (some x)).val (.reg TEMP)
      else (((τ.set (.reg 1) (τ.val (.reg 5))).set t (τ.val (.reg 4))).set (.reg 4) (some x)).val s2)
      = some y := by
    by_cases e : s2 = .reg 5
    · subst e
      rw [if_pos rfl]
      simp [TEMP_eq, htT.symm, hy]
    · rw [if_neg e]
      simp [P.s2_ne_ret1, P.t_ne_s2.symm, hs2T, hy]
  rw [t_divBy P.hs2.opnd P.s2_ne_ret1 hx4 hyv hd]

/-- B-div: the RETURN1 / RETURN2 / TEMP dance leaves `x / y` in the target and restores rax, rdx -/
theorem t_div {τ : TState} {t s1 s2 : Temporary} (P : DivPlacement t s1 s2)
    {x y : Word} (hx : τ.val s1 = some x) (hy : τ.val s2 = some y) (hd : DivOK x y) :
    ∃ τ', texecList la (div t s1 s2) τ = some τ' ∧ TUpd τ τ' t (some (x.sdiv y)) := by
  have o1 : OpndOK (.reg 1) := ⟨by decide, by decide⟩
  have o4 : OpndOK (.reg 4) := ⟨by decide, by decide⟩
  have o5 : OpndOK (.reg 5) := ⟨by decide, by decide⟩
  have htT : t ≠ .reg 1 := P.ht.ne_temp
  have ht4 := P.t_ne_ret1
  have ht5 := P.t_ne_ret2
  unfold div
  rw [texecList_append, texecList_append, texecList_append, texecList_append, t_divPrefix P hx hy hd]
  simp only [RETURN1_eq, RETURN2_eq, TEMP_eq]
  simp only [texecList_cons, texec_MOV, tmove, regOpnd_of o1, regOpnd_of o4, regOpnd_of o5, texecList]
  rw [t_moveToRegister o4 P.ht.opnd]
  dsimp only
  rw [t_moveFromRegister o5 P.ht.opnd]
  dsimp only
  refine ⟨_, rfl, ?_, ?_⟩
  · simp [ht4, ht5, ht4.symm, ht5.symm]
  · intro u hu hT
    have hT' : u ≠ .reg 1 := hT
    by_cases e5 : u = .reg 5
    · subst e5; simp [htT.symm, ht4.symm, ht5.symm, htT, ht4, ht5]
    · by_cases e4 : u = .reg 4
      · subst e4; simp [htT.symm, ht4.symm, ht5.symm, htT, ht4, ht5]
      · simp [e4, e5, hu, hT']

/-- B-rem: same dance, the remainder (sign of the dividend) ends in the target -/
theorem t_rem {τ : TState} {t s1 s2 : Temporary} (P : DivPlacement t s1 s2)
    {x y : Word} (hx : τ.val s1 = some x) (hy : τ.val s2 = some y) (hd : DivOK x y) :
    ∃ τ', texecList la (rem t s1 s2) τ = some τ' ∧ TUpd τ τ' t (some (x.srem y)) := by
  have o1 : OpndOK (.reg 1) := ⟨by decide, by decide⟩
  have o4 : OpndOK (.reg 4) := ⟨by decide, by decide⟩
  have o5 : OpndOK (.reg 5) := ⟨by decide, by decide⟩
  have htT : t ≠ .reg 1 := P.ht.ne_temp
  have ht4 := P.t_ne_ret1
  have ht5 := P.t_ne_ret2
  unfold rem
  rw [texecList_append, texecList_append, texecList_append, t_divPrefix P hx hy hd]
  simp only [RETURN1_eq, RETURN2_eq, TEMP_eq]
  rw [t_moveToRegister o4 P.ht.opnd]
  dsimp only
  rw [t_moveFromRegister o5 P.ht.opnd]
  dsimp only
  simp only [texecList_cons, texec_MOV, tmove, regOpnd_of o1, regOpnd_of o5, texecList]
  refine ⟨_, rfl, ?_, ?_⟩
  · simp [ht4, ht5, ht4.symm, ht5.symm]
  · intro u hu hT
    have hT' : u ≠ .reg 1 := hT
    by_cases e5 : u = .reg 5
    · subst e5; simp [htT.symm, ht4.symm, ht5.symm, htT, ht4, ht5]
    · by_cases e4 : u = .reg 4
      · subst e4; simp [htT.symm, ht4.symm, ht5.symm, htT, ht4, ht5]
      · simp [e4, e5, hu, hT']

theorem texec_CMP (τ : TState) (r r1 : Nat) : texec la (.CMP r r1) τ = tcmp τ (regOpnd r) (tsrc τ (regOpnd r1)) := rfl
theorem texec_CMPRM (τ : TState) (r b : Nat) (i : Int) :
    texec la (.CMPRM r b i) τ = tcmp τ (regOpnd r) (tsrc τ (memOpnd b i)) := rfl
theorem texec_CMPMR (τ : TState) (r1 b : Nat) (i : Int) :
    texec la (.CMPMR b i r1) τ = tcmp τ (memOpnd b i) (tsrc τ (regOpnd r1)) := rfl
theorem texec_CMPI (τ : TState) (r : Nat) (i : Int) : texec la (.CMPI r i) τ = tcmp τ (regOpnd r) (timm i) := rfl
theorem texec_CMPIM (τ : TState) (b : Nat) (i1 i2 : Int) :
    texec la (.CMPIM b i1 i2) τ = tcmp τ (memOpnd b i1) (timm i2) := rfl

/-- B-compare: `compare fst snd` records the two operands in the flags; nothing but TEMP changes -/
theorem t_compare {τ : TState} {fst snd : Temporary} (h1 : TempOK fst) (h2 : TempOK snd)
    {x y : Word} (hx : τ.val fst = some x) (hy : τ.val snd = some y) :
    ∃ τ', texecList la (compare fst snd) τ = some τ' ∧ τ'.flags = some (x, y) ∧
      ∀ u, u ≠ .reg TEMP → τ'.val u = τ.val u := by
  cases fst with
  | reg r1 =>
    cases snd with
    | reg r2 =>
      refine ⟨{ τ with flags := some (x, y) }, ?_, rfl, fun _ _ => rfl⟩
      simp [compare, texecList, texec_CMP, tcmp, tsrc, regOpnd_of h1.opnd, regOpnd_of h2.opnd, hx, hy]
    | spill p2 =>
      refine ⟨{ τ with flags := some (x, y) }, ?_, rfl, fun _ _ => rfl⟩
      simp [compare, texecList, texec_CMPRM, tcmp, tsrc, regOpnd_of h1.opnd, memOpnd_of h2.opnd, hx, hy]
  | spill p1 =>
    cases snd with
    | reg r2 =>
      refine ⟨{ τ with flags := some (x, y) }, ?_, rfl, fun _ _ => rfl⟩
      simp [compare, texecList, texec_CMPMR, tcmp, tsrc, regOpnd_of h2.opnd, memOpnd_of h1.opnd, hx, hy]
    | spill p2 =>
      refine ⟨{ τ.set (.reg TEMP) (τ.val (.spill p1)) with flags := some (x, y) }, ?_, rfl,
        fun u hu => by simp [hu]⟩
      simp [compare, texecList, texec_MOVL, tmove, texec_CMPRM, tcmp, tsrc, regOpnd_of opndOK_temp,
        memOpnd_of h1.opnd, memOpnd_of h2.opnd, hx, hy]

/-- B-compare with an immediate (the `== 0` forms): nothing changes but the flags -/
theorem t_compareImmediate {τ : TState} {t : Temporary} (h1 : TempOK t) {i : Int} (hi : fitsI32 i = true)
    {x : Word} (hx : τ.val t = some x) :
    texecList la (compareImmediate t i) τ = some { τ with flags := some (x, BitVec.ofInt 64 i) } := by
  cases t with
  | reg r => simp [compareImmediate, texecList, texec_CMPI, tcmp, timm, hi, regOpnd_of h1.opnd, hx]
  | spill p => simp [compareImmediate, texecList, texec_CMPIM, tcmp, timm, hi, memOpnd_of h1.opnd, hx]

/-- B-load_immediate, for EVERY `i64` literal and EVERY placement of the target.  (Repaired code,
    /repo 512f045: a literal outside i32 reaches a SPILLED target through TEMP — `mov rcx, imm64;
    mov [rsp + off], rcx` — instead of the non-existent `mov qword [rsp + off], imm64` of defect D5.) -/
theorem t_loadImmediate {τ : TState} {t : Temporary} (ht : TempOK t) {v : Int} (h64 : fitsI64 v = true) :
    ∃ τ', texecList la (loadImmediate t v) τ = some τ' ∧ TUpd τ τ' t (some (BitVec.ofInt 64 v)) := by
  cases t with
  | reg r =>
    refine ⟨τ.set (.reg r) (some (BitVec.ofInt 64 v)), ?_, ⟨by simp, fun u hu _ => by simp [hu]⟩⟩
    simp [loadImmediate, texecList, texec, regOpnd_of ht.opnd, h64]
  | spill p =>
    by_cases h32 : fitsI32 v = true
    · refine ⟨τ.set (.spill p) (some (BitVec.ofInt 64 v)), ?_, ⟨by simp, fun u hu _ => by simp [hu]⟩⟩
      simp [loadImmediate, texecList, texec, memOpnd_of ht.opnd, h32]
    · refine ⟨(τ.set (.reg TEMP) (some (BitVec.ofInt 64 v))).set (.spill p) (some (BitVec.ofInt 64 v)), ?_,
        ⟨by simp, fun u hu hT => by simp [hu, hT]⟩⟩
      simp [loadImmediate, h32, texecList, texec, tmove, regOpnd_of opndOK_temp, memOpnd_of ht.opnd, h64]

/-- B-load_label: the address of the label ends in the target -/
theorem t_loadLabel {τ : TState} {t : Temporary} (ht : TempOK t) {name : String} {n : Nat}
    (hl : la name = some n) :
    ∃ τ', texecList la (loadLabel t name) τ = some τ' ∧ TUpd τ τ' t (some (BitVec.ofNat 64 n)) := by
  cases t with
  | reg r =>
    refine ⟨τ.set (.reg r) (some (BitVec.ofNat 64 n)), ?_, ⟨by simp, fun u hu _ => by simp [hu]⟩⟩
    simp [loadLabel, texecList, texec, regOpnd_of ht.opnd, hl]
  | spill p =>
    refine ⟨(τ.set (.reg TEMP) (some (BitVec.ofNat 64 n))).set (.spill p) (some (BitVec.ofNat 64 n)), ?_,
      ⟨by simp, fun u hu hT => by simp [hu, hT]⟩⟩
    simp [loadLabel, texecList, texec, tmove, regOpnd_of opndOK_temp, memOpnd_of ht.opnd, hl]

theorem texec_ADDI (τ : TState) (r : Nat) (i : Int) : texec la (.ADDI r i) τ = talu (· + ·) τ (regOpnd r) (timm i) := rfl

/-- the register an indirect jump through temporary `t` uses -/
def jumpReg : Temporary → Nat
  | .reg r => r
  | .spill _ => TEMP

/-- code.rs add_and_jump without its final `jmp` -/
def addAndJumpPre (t : Temporary) (imm : Int) : List Code :=
  match t with
  | .reg r => [.ADDI r imm]
  | .spill p => [.MOVL TEMP STACK (stackOffset p), .ADDI TEMP imm]

theorem addAndJump_eq (t : Temporary) (imm : Int) :
    addAndJump t imm = addAndJumpPre t imm ++ [.JMP (jumpReg t)] := by
  cases t <;> rfl

/-- B-add_and_jump (invoke): the jump register ends with `x + imm`, `x` the table address in `t`; `t` stays defined -/
theorem t_addAndJumpPre {τ : TState} {t : Temporary} (ht : TempOK t) {imm : Int} (hi : fitsI32 imm = true)
    {x : Word} (hx : τ.val t = some x) :
    ∃ τ', texecList la (addAndJumpPre t imm) τ = some τ' ∧
      τ'.val (.reg (jumpReg t)) = some (x + BitVec.ofInt 64 imm) ∧ (τ'.val t).isSome ∧
      ∀ u, u ≠ t → u ≠ .reg TEMP → τ'.val u = τ.val u := by
  cases t with
  | reg r =>
    refine ⟨{ τ.set (.reg r) (some (x + BitVec.ofInt 64 imm)) with flags := none }, ?_, by simp [jumpReg],
      by simp, fun u hu _ => by simp [hu]⟩
    simp [addAndJumpPre, texecList, texec_ADDI, talu, timm, hi, regOpnd_of ht.opnd, hx]
  | spill p =>
    refine ⟨{ (τ.set (.reg TEMP) (some x)).set (.reg TEMP) (some (x + BitVec.ofInt 64 imm)) with flags := none },
      ?_, by simp [jumpReg], by simp [hx], fun u _ hT => by simp [hT]⟩
    simp [addAndJumpPre, texecList, texec_MOVL, tmove, texec_ADDI, talu, timm, hi, regOpnd_of opndOK_temp,
      memOpnd_of ht.opnd, hx]

/-- switch.rs: `load_label TEMP l; add TEMP TEMP tag` (then `jump TEMP`): TEMP = address of the
    table + the tag; correct for a tag in a register AND in a spill slot -/
theorem t_switchPre {τ : TState} {tag : Temporary} (ht : TempOK tag) {l : String} {n : Nat}
    (hl : la l = some n) {x : Word} (hx : τ.val tag = some x) :
    ∃ τ', texecList la (loadLabel (.reg TEMP) l ++ add (.reg TEMP) (.reg TEMP) tag) τ = some τ' ∧
      τ'.val (.reg TEMP) = some (BitVec.ofNat 64 n + x) ∧
      ∀ u, u ≠ .reg TEMP → τ'.val u = τ.val u := by
  have e1 : texecList la (loadLabel (.reg TEMP) l) τ = some (τ.set (.reg TEMP) (some (BitVec.ofNat 64 n))) := by
    simp [loadLabel, texecList, texec, regOpnd_of opndOK_temp, hl]
  have hx' : (τ.set (.reg TEMP) (some (BitVec.ofNat 64 n))).val tag = some x := by
    simp [ht.ne_temp, hx]
  have e2 := addToRegister_spec (la := la) (τ.set (.reg TEMP) (some (BitVec.ofNat 64 n))) TEMP tag
    (BitVec.ofNat 64 n) x opndOK_temp ht.opnd (by simp) hx'
  refine ⟨_, by
    rw [texecList_append, e1]
    simp only [add, opCommutative, if_true]
    exact e2, by simp, fun u hu => by simp [hu]⟩

end Level

end Scc.X86
