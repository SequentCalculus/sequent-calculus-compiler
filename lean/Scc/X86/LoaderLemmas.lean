/-
  Scc.X86.LoaderLemmas — lemmas about the character-list functions of the x86-64 loader
  (Scc/X86/Machine.lean: `trimL`, `trimC`, `splitAt1`, `dropPrefix?`, `parseInt`, `regOfName`,
  `splitOnChar`, `parseOpnd`) and the OPERAND texts the printer (Scc/X86/Instr.lean `printCode`)
  produces: registers, `[r + i]`, `[r +i]`, `qword [r + i]`, immediates (every `Int`, negative and
  64-bit included), `[rel L]`, symbols.  `OpTxt cs o`: the text `cs` is a trimmed, comma-free,
  single-line operand that `parseOpnd` reads as `o`.
-/
import Scc.X86.Machine
import Scc.StringLemmas

namespace Scc.X86.Loader

open Scc.Str

theorem trimL_space (cs : List Char) : trimL (' ' :: cs) = trimL cs := rfl

theorem trimL_of_head {cs : List Char} (h : cs.head? ≠ some ' ') : trimL cs = cs := by
  cases cs with
  | nil => rfl
  | cons c cs =>
    have hc : c ≠ ' ' := fun e => h (by simp [e])
    unfold trimL
    split
    · rename_i heq; cases heq; exact absurd rfl hc
    · rfl

theorem trimC_space (cs : List Char) : trimC (' ' :: cs) = trimC cs := rfl

def Trimmed (cs : List Char) : Prop := cs.head? ≠ some ' ' ∧ cs.getLast? ≠ some ' '

theorem trimC_of_trimmed {cs : List Char} (h : Trimmed cs) : trimC cs = cs := by
  unfold trimC
  rw [trimL_of_head h.1, trimL_of_head (by rw [List.head?_reverse]; exact h.2), List.reverse_reverse]

theorem trimC_indent {cs : List Char} (h : Trimmed cs) : trimC (' ' :: ' ' :: ' ' :: ' ' :: cs) = cs := by
  rw [trimC_space, trimC_space, trimC_space, trimC_space, trimC_of_trimmed h]

theorem trimmed_append {a b : List Char} (ha : a.head? ≠ some ' ') (ha' : a ≠ [])
    (hb : b.getLast? ≠ some ' ') (hb' : b ≠ []) : Trimmed (a ++ b) := by
  constructor
  · cases a with
    | nil => exact absurd rfl ha'
    | cons x xs => simpa using ha
  · rw [List.getLast?_append]
    cases hl : b.getLast? with
    | none => exact absurd (List.getLast?_eq_none_iff.1 hl) hb'
    | some c => rw [hl] at hb; simpa using hb

theorem trimL_append_ne {a : List Char} {c : Char} (b : List Char) (hc : c ≠ ' ') :
    trimL (a ++ c :: b) = trimL a ++ c :: b := by
  induction a with
  | nil => simp only [List.nil_append]; rw [trimL_of_head (by simp [hc])]; rfl
  | cons x xs ih =>
    by_cases hx : x = ' '
    · subst hx; simp only [List.cons_append, trimL_space]; exact ih
    · rw [trimL_of_head (cs := x :: xs) (by simp [hx])]
      rw [List.cons_append, trimL_of_head (by simp [hx])]

theorem trimC_semicolon (x : List Char) : trimC (';' :: x) = ';' :: (trimL x.reverse).reverse := by
  unfold trimC
  rw [trimL_of_head (cs := ';' :: x) (by simp), List.reverse_cons,
    trimL_append_ne (a := x.reverse) (c := ';') [] (by decide)]
  simp

def rtrimC (m : List Char) : List Char := (trimL m.reverse).reverse

theorem trimL_append_space (r : List Char) :
    trimL (r ++ [' ']) = if trimL r = [] then [] else trimL r ++ [' '] := by
  induction r with
  | nil => rfl
  | cons c cs ih =>
    by_cases hc : c = ' '
    · subst hc; exact ih
    · have h1 : trimL (c :: (cs ++ [' '])) = c :: (cs ++ [' ']) := trimL_of_head (by simp [hc])
      have h2 : trimL (c :: cs) = c :: cs := trimL_of_head (by simp [hc])
      rw [List.cons_append, h1, h2]; simp

/-- `; m` trimmed, without the `;`: one blank and `m` without its trailing blanks, or nothing -/
theorem comment_trim (m : List Char) :
    (trimL (' ' :: m).reverse).reverse = if rtrimC m = [] then [] else ' ' :: rtrimC m := by
  rw [List.reverse_cons, trimL_append_space]
  unfold rtrimC
  by_cases h : trimL m.reverse = []
  · simp [h]
  · simp [h]

theorem splitAt1_append {c : Char} {a : List Char} (b : List Char) (ha : c ∉ a) :
    splitAt1 c (a ++ c :: b) = some (a, b) := by
  induction a with
  | nil => simp [splitAt1]
  | cons x xs ih =>
    have hx : x ≠ c := fun e => ha (by simp [e])
    have hxs : c ∉ xs := fun e => ha (by simp [e])
    simp only [List.cons_append, splitAt1, hx, if_false, ih hxs]

theorem splitAt1_none {c : Char} {a : List Char} (ha : c ∉ a) : splitAt1 c a = none := by
  induction a with
  | nil => rfl
  | cons x xs ih =>
    have hx : x ≠ c := fun e => ha (by simp [e])
    have hxs : c ∉ xs := fun e => ha (by simp [e])
    simp only [splitAt1, hx, if_false, ih hxs]

theorem dropPrefix?_append (p rest : List Char) : dropPrefix? p (p ++ rest) = some rest := by
  induction p with
  | nil => rfl
  | cons x xs ih => simp [dropPrefix?, ih]

theorem dropPrefix?_some {p cs rest : List Char} (h : dropPrefix? p cs = some rest) : cs = p ++ rest := by
  induction p generalizing cs with
  | nil => simp [dropPrefix?] at h; simp [h]
  | cons x xs ih =>
    cases cs with
    | nil => simp [dropPrefix?] at h
    | cons c cs =>
      simp only [dropPrefix?] at h
      split at h
      · rename_i hxc; subst hxc; rw [ih h]; rfl
      · cases h

theorem dropPrefix?_none_of_not_mem {p cs : List Char} {c : Char} (hp : c ∈ p) (hcs : c ∉ cs) :
    dropPrefix? p cs = none := by
  cases h : dropPrefix? p cs with
  | none => rfl
  | some rest =>
    have := dropPrefix?_some h
    exact absurd (by rw [this]; simp [hp]) hcs

/-- the first position at which two texts differ comes before either ends -/
def mismatch : List Char → List Char → Bool
  | x :: p, y :: a => if x = y then mismatch p a else true
  | _, _ => false

theorem dropPrefix?_none_of_mismatch {p a : List Char} (b : List Char) (h : mismatch p a = true) :
    dropPrefix? p (a ++ b) = none := by
  induction p generalizing a with
  | nil => simp [mismatch] at h
  | cons x xs ih =>
    cases a with
    | nil => simp [mismatch] at h
    | cons y ys =>
      simp only [mismatch] at h
      simp only [List.cons_append, dropPrefix?]
      split
      · rename_i hxy; simp only [hxy, if_true] at h; exact ih h
      · rfl

theorem splitOnChar_of_not_mem {c : Char} {a : List Char} (cur : List Char) (ha : c ∉ a) :
    splitOnChar c a cur = [cur.reverse ++ a] := by
  induction a generalizing cur with
  | nil => simp [splitOnChar]
  | cons x xs ih =>
    have hx : x ≠ c := fun e => ha (by simp [e])
    have hxs : c ∉ xs := fun e => ha (by simp [e])
    simp only [splitOnChar, hx, if_false, ih _ hxs]; simp

theorem splitOnChar_append {c : Char} {a : List Char} (b cur : List Char) (ha : c ∉ a) :
    splitOnChar c (a ++ c :: b) cur = (cur.reverse ++ a) :: splitOnChar c b [] := by
  induction a generalizing cur with
  | nil => simp [splitOnChar]
  | cons x xs ih =>
    have hx : x ≠ c := fun e => ha (by simp [e])
    have hxs : c ∉ xs := fun e => ha (by simp [e])
    simp only [List.cons_append, splitOnChar, hx, if_false, ih _ hxs]; simp

/-! ## register names -/

def regC (r : Nat) : List Char := (regName r).toList

theorem regOfName_regName : ∀ r, r < 16 → regOfName (regName r) = some r := by decide

theorem regOfName_some {s : String} {r : Nat} (h : regOfName s = some r) : s ∈ regNames := by
  unfold regOfName at h
  simp only at h
  split at h
  · rename_i hlt
    exact List.idxOf_lt_length_iff.1 (by simpa [regNames] using hlt)
  · cases h

theorem regOfName_none_of_head {cs : List Char} (h : cs.head? ≠ some 'r') :
    regOfName (String.ofList cs) = none := by
  cases hr : regOfName (String.ofList cs) with
  | none => rfl
  | some r =>
    have hm := regOfName_some hr
    have : ∀ s ∈ regNames, s.toList.head? = some 'r' := by decide
    have := this _ hm
    rw [String.toList_ofList] at this
    exact absurd this h

/-- per-register facts about the printed name, all decided on the sixteen names -/
theorem regC_facts : ∀ r, r < 16 →
    (regC r ≠ [] ∧ (regC r).head? = some 'r' ∧
     (∀ c ∈ regC r, c ≠ ' ' ∧ c ≠ ',' ∧ c ≠ '\n' ∧ c ≠ ':' ∧ c ≠ '+' ∧ c ≠ '[' ∧ c ≠ ']' ∧ c ≠ ';') ∧
     regOfName (String.ofList (regC r)) = some r ∧
     mismatch "rel ".toList (regC r) = true ∧ mismatch "qword ".toList (regC r) = true) := by
  decide

theorem regC_ne_nil {r : Nat} (h : r < 16) : regC r ≠ [] := (regC_facts r h).1
theorem regC_head {r : Nat} (h : r < 16) : (regC r).head? = some 'r' := (regC_facts r h).2.1
theorem regC_chars {r : Nat} (h : r < 16) :
    ∀ c ∈ regC r, c ≠ ' ' ∧ c ≠ ',' ∧ c ≠ '\n' ∧ c ≠ ':' ∧ c ≠ '+' ∧ c ≠ '[' ∧ c ≠ ']' ∧ c ≠ ';' :=
  (regC_facts r h).2.2.1
theorem regC_parse {r : Nat} (h : r < 16) : regOfName (String.ofList (regC r)) = some r :=
  (regC_facts r h).2.2.2.1

theorem not_mem_of_chars {cs : List Char} {c : Char} {P : Char → Prop} (h : ∀ x ∈ cs, P x) (hc : ¬ P c) :
    c ∉ cs := fun hm => hc (h c hm)

/-! ## immediates -/

def immC (i : Int) : List Char := (immStr i).toList

theorem immC_ofNat (n : Nat) : immC (Int.ofNat n) = Nat.toDigits 10 n := by
  show (Nat.repr n).toList = _
  exact Nat.toList_repr

theorem immC_negSucc (n : Nat) : immC (Int.negSucc n) = '-' :: Nat.toDigits 10 (n + 1) := by
  show ("-" ++ Nat.repr (n + 1)).toList = _
  rw [String.toList_append, Nat.toList_repr]; rfl

theorem isDigitStr_toDigits (n : Nat) : isDigitStr (Nat.toDigits 10 n) = true := by
  unfold isDigitStr
  have hne : Nat.toDigits 10 n ≠ [] := Nat.toDigits_ne_nil
  simp only [Bool.and_eq_true, Bool.not_eq_true', List.all_eq_true]
  refine ⟨?_, isDigit_toDigits n⟩
  cases h : Nat.toDigits 10 n with
  | nil => exact absurd h hne
  | cons _ _ => rfl

theorem natOfDigits_toDigits (n : Nat) : natOfDigits (Nat.toDigits 10 n) = n :=
  Nat.ofDigitChars_ten_toDigits

def immChar (c : Char) : Bool := c.isDigit || c == '-'

theorem immC_chars (i : Int) : ∀ c ∈ immC i, immChar c = true := by
  intro c hc
  cases i with
  | ofNat n =>
    rw [immC_ofNat] at hc
    simp [immChar, isDigit_toDigits n c hc]
  | negSucc n =>
    rw [immC_negSucc] at hc
    simp only [List.mem_cons] at hc
    rcases hc with rfl | hc
    · rfl
    · simp [immChar, isDigit_toDigits (n + 1) c hc]

theorem immC_ne_nil (i : Int) : immC i ≠ [] := by
  cases i with
  | ofNat n => rw [immC_ofNat]; exact Nat.toDigits_ne_nil
  | negSucc n => rw [immC_negSucc]; simp

theorem immChar_ne {c : Char} (h : immChar c = true) :
    c ≠ ' ' ∧ c ≠ ',' ∧ c ≠ '\n' ∧ c ≠ ':' ∧ c ≠ '+' ∧ c ≠ '[' ∧ c ≠ ']' ∧ c ≠ ';' ∧ c ≠ 'r' ∧ c ≠ 'q' := by
  refine ⟨?_, ?_, ?_, ?_, ?_, ?_, ?_, ?_, ?_, ?_⟩ <;> (intro e; subst e; revert h; decide)

theorem parseInt_immC (i : Int) : parseInt (immC i) = some i := by
  cases i with
  | ofNat n =>
    rw [immC_ofNat]
    unfold parseInt
    split
    · rename_i ds heq
      have := isDigit_toDigits n '-' (by rw [heq]; simp)
      exact absurd this (by decide)
    · simp only [isDigitStr_toDigits, if_true, natOfDigits_toDigits]; rfl
  | negSucc n =>
    rw [immC_negSucc]
    unfold parseInt
    simp only [isDigitStr_toDigits, if_true, natOfDigits_toDigits]
    rw [Int.negSucc_eq]; rfl

theorem immC_head (i : Int) : ∀ c, (immC i).head? = some c → immChar c = true := by
  intro c hc
  exact immC_chars i c (List.mem_of_mem_head? hc)

theorem immC_last (i : Int) : ∀ c, (immC i).getLast? = some c → immChar c = true := by
  intro c hc
  exact immC_chars i c (List.mem_of_getLast? hc)

theorem immC_trimmed (i : Int) : Trimmed (immC i) := by
  constructor
  · intro h; exact absurd (immC_head i _ h) (by decide)
  · intro h; exact absurd (immC_last i _ h) (by decide)

/-! ## symbols -/

/-- the loader's symbol test on character lists (`symOK` of Props/C06X86.lean, restated here because
    the Props file imports this one) -/
def symOKC (l : List Char) : Prop :=
  l ≠ [] ∧ (∀ c ∈ l, isSymChar c = true ∧ c ≠ '\n') ∧ regOfName (String.ofList l) = none ∧ parseInt l = none

theorem isSymChar_ne {c : Char} (h : isSymChar c = true) :
    c ≠ ' ' ∧ c ≠ ',' ∧ c ≠ '[' ∧ c ≠ ']' ∧ c ≠ ':' ∧ c ≠ ';' := by
  simp only [isSymChar, Bool.and_eq_true, decide_eq_true_eq] at h
  obtain ⟨⟨⟨⟨⟨a, b⟩, c⟩, d⟩, e⟩, f⟩ := h
  exact ⟨a, b, c, d, e, f⟩

theorem symOKC_all {l : List Char} (h : symOKC l) : l.all isSymChar = true := by
  simp only [List.all_eq_true]; exact fun c hc => (h.2.1 c hc).1

theorem symOKC_isEmpty {l : List Char} (h : symOKC l) : l.isEmpty = false := by
  cases l with
  | nil => exact absurd rfl h.1
  | cons _ _ => rfl

theorem symOKC_not_mem {l : List Char} (h : symOKC l) {c : Char} (hc : isSymChar c = false) : c ∉ l :=
  fun hm => by have := (h.2.1 c hm).1; rw [hc] at this; cases this

theorem symOKC_trimmed {l : List Char} (h : symOKC l) : Trimmed l := by
  constructor
  · intro e; exact symOKC_not_mem h (c := ' ') (by decide) (List.mem_of_mem_head? e)
  · intro e; exact symOKC_not_mem h (c := ' ') (by decide) (List.mem_of_getLast? e)

/-! ## operand texts -/

/-- `cs` is a trimmed, comma-free, single-line operand text that the loader reads as `o`, and that
    does not end in a colon -/
structure OpTxt (cs : List Char) (o : Opnd) : Prop where
  ne : cs ≠ []
  trimmed : Trimmed cs
  lastc : cs.getLast? ≠ some ':'
  nocomma : ',' ∉ cs
  nonl : '\n' ∉ cs
  parse : parseOpnd cs = some o

theorem parseBracket_brackets (inner : List Char) : parseBracket ('[' :: (inner ++ [']'])) = some inner := by
  simp [parseBracket]

theorem parseBracket_none {cs : List Char} (h : cs.head? ≠ some '[') : parseBracket cs = none := by
  unfold parseBracket
  split
  · exact absurd rfl h
  · rfl

theorem opTxt_reg {r : Nat} (hr : r < 16) : OpTxt (regC r) (.reg r) := by
  have hc := regC_chars hr
  have hne := regC_ne_nil hr
  have hh := regC_head hr
  have htr : Trimmed (regC r) :=
    ⟨by rw [hh]; decide, fun e => (hc _ (List.mem_of_getLast? e)).1 rfl⟩
  refine ⟨hne, htr, fun e => (hc _ (List.mem_of_getLast? e)).2.2.2.1 rfl,
    fun e => (hc _ e).2.1 rfl, fun e => (hc _ e).2.2.1 rfl, ?_⟩
  unfold parseOpnd
  simp only [trimC_of_trimmed htr]
  have h1 : dropPrefix? "qword ".toList (regC r) = none := by
    have := dropPrefix?_none_of_mismatch (a := regC r) [] (regC_facts r hr).2.2.2.2.2
    simpa using this
  have h2 : parseBracket (regC r) = none := parseBracket_none (by rw [hh]; decide)
  simp only [h1, h2, regC_parse hr]

theorem parseOpnd_imm (i : Int) : parseOpnd (immC i) = some (.imm i) := by
  have hch := immC_chars i
  have hne := immC_ne_nil i
  unfold parseOpnd
  simp only [trimC_of_trimmed (immC_trimmed i)]
  have hhead : ∀ c, immChar c = false → (immC i).head? ≠ some c := by
    intro c hc e; have := immC_head i c e; rw [hc] at this; cases this
  have h1 : dropPrefix? "qword ".toList (immC i) = none := by
    cases h : immC i with
    | nil => exact absurd h hne
    | cons c cs =>
      have : c ≠ 'q' := fun e => hhead 'q' (by decide) (by rw [h, e]; rfl)
      show dropPrefix? ('q' :: _) (c :: cs) = none
      simp only [dropPrefix?]
      rw [if_neg (fun e => this e.symm)]
  have h2 : parseBracket (immC i) = none := parseBracket_none (hhead '[' (by decide))
  have h3 : regOfName (String.ofList (immC i)) = none := regOfName_none_of_head (hhead 'r' (by decide))
  simp only [h1, h2, h3, parseInt_immC]

theorem opTxt_imm (i : Int) : OpTxt (immC i) (.imm i) := by
  have hch := immC_chars i
  refine ⟨immC_ne_nil i, immC_trimmed i, ?_, ?_, ?_, parseOpnd_imm i⟩
  · intro e; exact absurd (immC_last i _ e) (by decide)
  · intro e; exact absurd (hch _ e) (by decide)
  · intro e; exact absurd (hch _ e) (by decide)

/-- `[r + i]` -/
def memC (r : Nat) (i : Int) : List Char := '[' :: (regC r ++ ' ' :: '+' :: ' ' :: immC i ++ [']'])
/-- `[r +i]` (the form printed for `CMPRM`) -/
def memC' (r : Nat) (i : Int) : List Char := '[' :: (regC r ++ ' ' :: '+' :: immC i ++ [']'])

theorem parseMemInner_spaced {r : Nat} (hr : r < 16) (i : Int) :
    parseMemInner (regC r ++ ' ' :: '+' :: ' ' :: immC i) = some (r, i) := by
  unfold parseMemInner
  have hc := regC_chars hr
  have hsp : splitAt1 '+' ((regC r ++ [' ']) ++ '+' :: ' ' :: immC i) = some (regC r ++ [' '], ' ' :: immC i) :=
    splitAt1_append _ (by
      intro hm
      simp only [List.mem_append, List.mem_singleton] at hm
      rcases hm with hm | hm
      · exact (hc _ hm).2.2.2.2.1 rfl
      · revert hm; decide)
  rw [show regC r ++ ' ' :: '+' :: ' ' :: immC i = (regC r ++ [' ']) ++ '+' :: ' ' :: immC i by simp, hsp]
  have ht1 : trimC (regC r ++ [' ']) = regC r := by
    have : ∀ r, r < 16 → trimC (regC r ++ [' ']) = regC r := by decide
    exact this r hr
  have ht2 : trimC (' ' :: immC i) = immC i := by rw [trimC_space, trimC_of_trimmed (immC_trimmed i)]
  simp only [ht1, ht2, regC_parse hr, parseInt_immC]

theorem parseMemInner_tight {r : Nat} (hr : r < 16) (i : Int) :
    parseMemInner (regC r ++ ' ' :: '+' :: immC i) = some (r, i) := by
  unfold parseMemInner
  have hc := regC_chars hr
  have hsp : splitAt1 '+' ((regC r ++ [' ']) ++ '+' :: immC i) = some (regC r ++ [' '], immC i) :=
    splitAt1_append _ (by
      intro hm
      simp only [List.mem_append, List.mem_singleton] at hm
      rcases hm with hm | hm
      · exact (hc _ hm).2.2.2.2.1 rfl
      · revert hm; decide)
  rw [show regC r ++ ' ' :: '+' :: immC i = (regC r ++ [' ']) ++ '+' :: immC i by simp, hsp]
  have ht1 : trimC (regC r ++ [' ']) = regC r := by
    have : ∀ r, r < 16 → trimC (regC r ++ [' ']) = regC r := by decide
    exact this r hr
  simp only [ht1, trimC_of_trimmed (immC_trimmed i), regC_parse hr, parseInt_immC]

theorem not_mem_inner {r : Nat} (_hr : r < 16) (i : Int) (mid : List Char) {c : Char}
    (hc1 : c ≠ ' ') (hc2 : c ≠ '+') (hc3 : c ≠ ']') (hr' : ∀ x ∈ regC r, x ≠ c) (hi : immChar c = false)
    (hmid : ∀ x ∈ mid, x = ' ' ∨ x = '+') :
    c ∉ '[' :: (regC r ++ mid ++ immC i ++ [']']) ∨ c = '[' := by
  by_cases hb : c = '['
  · exact Or.inr hb
  · left
    intro hm
    simp only [List.mem_cons, List.mem_append, List.not_mem_nil, or_false] at hm
    rcases hm with hm | ((hm | hm) | hm) | hm
    · exact hb hm
    · exact hr' _ hm rfl
    · rcases hmid _ hm with e | e
      · exact hc1 e
      · exact hc2 e
    · have := immC_chars i _ hm; rw [hi] at this; cases this
    · exact hc3 hm

theorem memC_rel_mismatch {r : Nat} (hr : r < 16) (rest : List Char) :
    dropPrefix? "rel ".toList (regC r ++ rest) = none :=
  dropPrefix?_none_of_mismatch rest (regC_facts r hr).2.2.2.2.1

theorem parseOpnd_bracket {inner : List Char} {r : Nat} {i : Int}
    (hrel : dropPrefix? "rel ".toList inner = none) (hp : parseMemInner inner = some (r, i))
    (htr : Trimmed ('[' :: (inner ++ [']']))) :
    parseOpnd ('[' :: (inner ++ [']'])) = some (.mem r i) := by
  unfold parseOpnd
  simp only [trimC_of_trimmed htr]
  have h1 : dropPrefix? "qword ".toList ('[' :: (inner ++ [']'])) = none := by
    show dropPrefix? ('q' :: _) ('[' :: _) = none
    simp [dropPrefix?]
  simp only [h1, parseBracket_brackets, hrel, hp, Option.map]

theorem trimmed_bracket (inner : List Char) : Trimmed ('[' :: (inner ++ [']'])) := by
  constructor
  · simp
  · rw [show '[' :: (inner ++ [']']) = ('[' :: inner) ++ [']'] by simp, List.getLast?_append]; simp

theorem getLast?_bracket (inner : List Char) : ('[' :: (inner ++ [']'])).getLast? = some ']' := by
  rw [show '[' :: (inner ++ [']']) = ('[' :: inner) ++ [']'] by simp, List.getLast?_append]; simp

theorem opTxt_mem {r : Nat} (hr : r < 16) (i : Int) : OpTxt (memC r i) (.mem r i) := by
  have hc := regC_chars hr
  have e : memC r i = '[' :: ((regC r ++ ' ' :: '+' :: ' ' :: immC i) ++ [']']) := by simp [memC]
  have e' : memC r i = '[' :: (regC r ++ [' ', '+', ' '] ++ immC i ++ [']']) := by simp [memC]
  refine ⟨by simp [memC], by rw [e]; exact trimmed_bracket _, by rw [e, getLast?_bracket]; decide, ?_, ?_, ?_⟩
  · rw [e']
    exact (not_mem_inner hr i _ (by decide) (by decide) (by decide) (fun x hx => (hc x hx).2.1) (by decide)
      (by intro x hx; simp at hx; rcases hx with rfl | rfl | rfl <;> simp)).resolve_right (by decide)
  · rw [e']
    exact (not_mem_inner hr i _ (by decide) (by decide) (by decide) (fun x hx => (hc x hx).2.2.1) (by decide)
      (by intro x hx; simp at hx; rcases hx with rfl | rfl | rfl <;> simp)).resolve_right (by decide)
  · rw [e]
    exact parseOpnd_bracket (memC_rel_mismatch hr _)
      (parseMemInner_spaced hr i) (trimmed_bracket _)

theorem opTxt_mem' {r : Nat} (hr : r < 16) (i : Int) : OpTxt (memC' r i) (.mem r i) := by
  have hc := regC_chars hr
  have e : memC' r i = '[' :: ((regC r ++ ' ' :: '+' :: immC i) ++ [']']) := by simp [memC']
  have e' : memC' r i = '[' :: (regC r ++ [' ', '+'] ++ immC i ++ [']']) := by simp [memC']
  refine ⟨by simp [memC'], by rw [e]; exact trimmed_bracket _, by rw [e, getLast?_bracket]; decide, ?_, ?_, ?_⟩
  · rw [e']
    exact (not_mem_inner hr i _ (by decide) (by decide) (by decide) (fun x hx => (hc x hx).2.1) (by decide)
      (by intro x hx; simp at hx; rcases hx with rfl | rfl <;> simp)).resolve_right (by decide)
  · rw [e']
    exact (not_mem_inner hr i _ (by decide) (by decide) (by decide) (fun x hx => (hc x hx).2.2.1) (by decide)
      (by intro x hx; simp at hx; rcases hx with rfl | rfl <;> simp)).resolve_right (by decide)
  · rw [e]
    exact parseOpnd_bracket (memC_rel_mismatch hr _)
      (parseMemInner_tight hr i) (trimmed_bracket _)

/-- `qword [r + i]` -/
def qmemC (r : Nat) (i : Int) : List Char := "qword ".toList ++ memC r i

theorem opTxt_qmem {r : Nat} (hr : r < 16) (i : Int) : OpTxt (qmemC r i) (.qmem r i) := by
  have hm := opTxt_mem hr i
  have e : memC r i = '[' :: ((regC r ++ ' ' :: '+' :: ' ' :: immC i) ++ [']']) := by simp [memC]
  have htr : Trimmed (qmemC r i) :=
    trimmed_append (by decide) (by decide) hm.trimmed.2 hm.ne
  refine ⟨by simp [qmemC, memC], htr, ?_, ?_, ?_, ?_⟩
  · unfold qmemC; rw [List.getLast?_append, e, getLast?_bracket]; decide
  · unfold qmemC; intro h
    rcases List.mem_append.1 h with h | h
    · revert h; decide
    · exact hm.nocomma h
  · unfold qmemC; intro h
    rcases List.mem_append.1 h with h | h
    · revert h; decide
    · exact hm.nonl h
  · unfold parseOpnd
    simp only [trimC_of_trimmed htr]
    unfold qmemC
    simp only [dropPrefix?_append, trimC_of_trimmed hm.trimmed]
    rw [e, parseBracket_brackets]
    simp only [parseMemInner_spaced hr i, Option.map]

/-- `[rel L]` -/
def relC (l : List Char) : List Char := '[' :: ("rel ".toList ++ l ++ [']'])

theorem opTxt_rel {l : List Char} (hl : symOKC l) : OpTxt (relC l) (.rel (String.ofList l)) := by
  refine ⟨by simp [relC], trimmed_bracket _, by unfold relC; rw [getLast?_bracket]; decide, ?_, ?_, ?_⟩
  · intro h
    simp only [relC, List.mem_cons, List.mem_append] at h
    rcases h with h | (h | h) | h
    · revert h; decide
    · revert h; decide
    · exact symOKC_not_mem hl (by decide) h
    · revert h; decide
  · intro h
    simp only [relC, List.mem_cons, List.mem_append] at h
    rcases h with h | (h | h) | h
    · revert h; decide
    · revert h; decide
    · exact (hl.2.1 _ h).2 rfl
    · revert h; decide
  · unfold parseOpnd relC
    simp only [trimC_of_trimmed (trimmed_bracket _)]
    have h1 : dropPrefix? "qword ".toList ('[' :: ("rel ".toList ++ l ++ [']'])) = none := by
      show dropPrefix? ('q' :: _) ('[' :: _) = none
      simp [dropPrefix?]
    simp only [h1, parseBracket_brackets, dropPrefix?_append, trimC_of_trimmed (symOKC_trimmed hl),
      symOKC_isEmpty hl, symOKC_all hl, Bool.not_false, Bool.and_self, if_true]

theorem opTxt_sym {l : List Char} (hl : symOKC l) : OpTxt l (.sym (String.ofList l)) := by
  have htr := symOKC_trimmed hl
  refine ⟨hl.1, htr, ?_, symOKC_not_mem hl (by decide), fun h => (hl.2.1 _ h).2 rfl, ?_⟩
  · intro e; exact symOKC_not_mem hl (c := ':') (by decide) (List.mem_of_getLast? e)
  · unfold parseOpnd
    simp only [trimC_of_trimmed htr]
    have h1 : dropPrefix? "qword ".toList l = none :=
      dropPrefix?_none_of_not_mem (c := ' ') (by decide) (symOKC_not_mem hl (by decide))
    have h2 : parseBracket l = none :=
      parseBracket_none (fun e => symOKC_not_mem hl (c := '[') (by decide) (List.mem_of_mem_head? e))
    simp only [h1, h2, hl.2.2.1, hl.2.2.2, symOKC_isEmpty hl, symOKC_all hl, Bool.not_false, Bool.and_self,
      if_true]

end Scc.X86.Loader
