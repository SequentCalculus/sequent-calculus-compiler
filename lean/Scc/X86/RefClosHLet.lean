/-
  Scc.X86.RefClosHLet — `LetProv`: what `let` / `create` do to the positions and the heap, in the vocabulary of
  the x86-64 machine (the three-way simulation of `let` and `create` themselves: Scc/Backend/ThreeWayLet.lean at
  the machine of ThreeWayTarget.lean); `Scc.Backend.Prov.LetProv` at `tvOf` gives it (`LetProv.ofT`).  It is the
  form in which Props/C06X86Full.lean states `create`.
-/
import Scc.X86.RefClosHStore
import Scc.X86.RefHeapBridge
import Scc.X86.RefParam
import Scc.X86.ConcKNoCtx

namespace Scc.X86.Ref.K

open Scc.AxCut Scc.Backend Scc.Backend.Abs
open Scc.Heap (HState InvS InvW)
open Scc.Heap.Refine (HRef imgW fieldImg kindB FrLe Room FrPk storeObj_nil)

/-- what `let` / `create` do to the positions and the heap: the
first `N` positions are untouched; the remaining ones are stored into a new object (none: no object) -/
structure LetProv (F : Frame) (Γ : Ctx) (N : Nat) (cfg cfg' : Config) (κ κ' : Nat → Nat → Word)
    (st st' : State) : Prop where
  keep : KeepPos F N cfg cfg' st st'
  obj : ∃ fields, readFields cfg.temps (Mock.kindsOf (Γ.drop N)) N = some fields ∧
    ((Γ.drop N = [] ∧ cfg'.heap = cfg.heap ∧ κ' = κ ∧ cfg'.temps.get (2 * N) = some 0) ∨
     (Γ.drop N ≠ [] ∧ cfg'.heap = (cfg.next, ⟨0, fields⟩) :: cfg.heap ∧ κ' = storeK F st κ cfg.next N ∧
      cfg'.temps.get (2 * N) = some (BitVec.ofNat 64 cfg.next)))

theorem LetProv.ofT {F : Frame} {Γ : Ctx} {N : Nat} {cfg cfg' : Config} {κ κ' : Nat → Nat → Word} {st st' : State}
    (h : Scc.Backend.Prov.LetProv (tvOf F st) (tvOf F st') Γ N cfg cfg' κ κ') :
    LetProv F Γ N cfg cfg' κ κ' st st' := ⟨KeepPos.ofT h.keep, h.obj⟩

end Scc.X86.Ref.K
