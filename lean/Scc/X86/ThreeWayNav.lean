/-
  Scc.X86.ThreeWayNav — the x86-64 machine with addresses (`machineA`, a `MachineA`, from `LoadedA`): `load_label`;
  the navigation of `switch` from the statement to the `load` of the selected clause (`machineN`) — the computed
  jump `lea; add; jmp TEMP` into the table of 5-byte jumps (byte addresses of the loaded routine, `addrAt_table`)
  or the fall through the labels of a single clause; and the navigation of `invoke` (`machineI`): the machine
  jumps through the code pointer of the closure — the BYTE ADDRESS of its method table in the loaded routine
  (`XMethodsAt`) — directly (a type with one method: `jmp reg` lands on the first item of non-zero size at that
  address, so the machine is ahead of the boundary state by labels and comments, `Tol`) or through the table
  (`add reg, 5·tag; jmp reg` lands on the tag-th 5-byte `jmp` of the table, stride 5 = `jump_length`).  `invoke_nav_x86`
  also says: the `jmp reg` is an item of non-zero size (for the progress argument), `Mid`, and where the
  machine lands: at the boundary state itself or not at a `#ctx` comment (for the heap monitor).
-/
import Scc.X86.ThreeWayTarget
import Scc.X86.RefHeapAddr
import Scc.ListLemmas
import Scc.Backend.ProofsLoad
import Scc.X86.RefClosTol
import Scc.X86.RefClosXC

set_option linter.unusedVariables false

namespace Scc.X86.Ref.K

open Scc.AxCut Scc.AxCut.Pos Scc.Backend Scc.Backend.Sim Scc.Backend.Sim2
open Scc.Heap (HState InvS InvW)

/-- the entries of the jump table are 5 bytes each -/
theorem x_codeTable_sizes (base : String) : ∀ (clauses : Clauses),
    (codeTable x86Backend clauses base).map codeSize = List.replicate clauses.length 5
  | .nil => rfl
  | .cons x ctx body r => by
    show (Code.JMPLN _ :: codeTable x86Backend r base).map codeSize = _
    simp [Clauses.length, x_codeTable_sizes base r, List.replicate_succ, codeSize]

/-- the first item of non-zero size at or behind `idx` has the address of `idx`; the items in between have
size 0 -/
theorem first_real (base : Nat) (cs : List Code) (idx : Nat)
    (hex : ∃ i, idx ≤ i ∧ ∃ h : i < cs.length, codeSize cs[i] ≠ 0) :
    ∃ i0, idx ≤ i0 ∧ ∃ h : i0 < cs.length, codeSize cs[i0] ≠ 0 ∧ (∀ i, idx ≤ i → i < i0 → NoopAt cs i) ∧
      addrAt base cs i0 = addrAt base cs idx := by
  obtain ⟨i, hi, hlt, hsz⟩ := hex
  have key : ∀ d idx, idx + d = i → ∃ i0, idx ≤ i0 ∧ ∃ h : i0 < cs.length, codeSize cs[i0] ≠ 0 ∧
      (∀ j, idx ≤ j → j < i0 → NoopAt cs j) ∧ addrAt base cs i0 = addrAt base cs idx := by
    intro d
    induction d with
    | zero =>
      intro idx e
      have : idx = i := by omega
      subst this
      exact ⟨idx, Nat.le_refl _, hlt, hsz, fun j h1 h2 => by omega, rfl⟩
    | succ d ih =>
      intro idx e
      have hlt' : idx < cs.length := by omega
      by_cases hz : codeSize cs[idx] = 0
      · obtain ⟨i0, h1, h2, h3, h4, h5⟩ := ih (idx + 1) (by omega)
        refine ⟨i0, by omega, h2, h3, ?_, ?_⟩
        · intro j hj1 hj2
          by_cases hj : j = idx
          · subst hj
            exact ⟨cs[j], List.getElem?_eq_getElem hlt', hz⟩
          · exact h4 j (by omega) hj2
        · rw [h5, addrAt_succ _ _ _ hlt', hz]
          rfl
      · exact ⟨idx, Nat.le_refl _, hlt', hz, fun j h1 h2 => by omega, rfl⟩
  exact key (i - idx) idx (by omega)

theorem exec_jmp {c : MachCfg} {la : String → Option Nat} {st : State} {r : Nat} {v : Word}
    (h : regIs st r v) : execCode c la (.JMP r) st = .ok (st, .jumpAddr v.toNat) := by
  unfold regIs at h
  simp [execCode, rd, h]

theorem jump_eq (t : Temporary) : jump t = loadPtr t ++ [.JMP (jumpReg t)] := by
  cases t <;> rfl

/-- `add_and_jump` without its `jmp`: the jump register holds the sum, the temporary stays defined -/
theorem addAndJumpPre_correct {c : MachCfg} {la : String → Option Nat} {st : State} {sp : Word}
    (B : Boundary c st sp) {t : Temporary} (ht : TempOK t) {imm : Int}
    (hi : fitsI32 imm = true) {x : Word} (hx : tempVal sp st t = some x) :
    ∃ st', execStraight c la (addAndJumpPre t imm) st = .ok st' ∧ Boundary c st' sp ∧
      Preserved sp st st' (some t) ∧ (tempVal sp st' t).isSome ∧
      execCode c la (.JMP (jumpReg t)) st' = .ok (st', .jumpAddr (x + BitVec.ofInt 64 imm).toNat) := by
  obtain ⟨τ', hx', hv, hdef, ho⟩ := t_addAndJumpPre (la := la) (τ := tview sp st) ht hi hx
  obtain ⟨st', e, b, hvals, _, hp⟩ := transfer B la hx' (t := some t)
    (fun u hne hT => ho u (fun e => hne (by rw [e])) hT)
  refine ⟨st', e, b, hp, by rw [hvals _ ht.opnd]; exact hdef, ?_⟩
  have hjr : OpndOK (.reg (jumpReg t)) := by
    cases t with
    | reg r => exact ht.opnd
    | spill p => exact opndOK_temp
  have := hvals _ hjr
  rw [hv] at this
  have hrd : rd st' (jumpReg t) = .ok (x + BitVec.ofInt 64 imm) := by
    have h2 := view_reg st' b.size hjr.2
    simp only [tempVal] at this
    rw [h2] at this
    simp only [Option.join_some] at this
    simp [rd, h2, this]
  simp [execCode, hrd]

section Nav

variable {F : Frame} (H : FrameOK F) {h8 : F.c.heapBase % 8 = 0} {mon : MonCfg} (hmon : mon.mach = F.c)
  {px : X86.Prog} {cs : List Code} (LA : LoadedA F.c px cs) (hnd : (labs cs).Nodup)
  (hfitX : addrAt F.c.codeBase cs cs.length < 2 ^ 64)

include hfitX in
/-- the entries of a table in the routine have addresses below 2^64 -/
theorem table_entry_lt {A table sfx : List Code} {base : String} {pos : Nat}
    (hcs : cs = A ++ (Code.LAB base :: table) ++ sfx) (hpos : pos < table.length)
    (htsz : table.map codeSize = List.replicate table.length 5) :
    addrAt F.c.codeBase cs A.length + 5 * pos < 2 ^ 64 := by
  have hTlt : A.length + 1 + pos < cs.length := by rw [hcs]; simp; omega
  have haddrT := addrAt_table F.c.codeBase A table sfx base htsz pos (by omega)
  rw [← hcs] at haddrT
  rw [← haddrT]
  exact Nat.lt_of_le_of_lt (addrAt_mono _ _ (Nat.le_of_lt hTlt)) hfitX

include LA hnd in
/-- THE COMPUTED JUMP of `switch` and `invoke`: a `jmp reg` to the address of the `pos`-th entry of a table of
5-byte jumps that stands behind a label lands on that entry; the entry jumps to the label `l` it names, and the
label is passed.  None of the three states is at a `#ctx` comment. -/
theorem table_dispatch {A table pre tail : List Code} {base l : String} {pos : Nat}
    (hcs : cs = A ++ (Code.LAB base :: table) ++ (pre ++ Code.LAB l :: tail))
    (htab : table[pos]? = some (.JMPLN l))
    (htsz : table.map codeSize = List.replicate table.length 5)
    {cs1 rest1 : List Code} {r : Nat} (hcs1 : cs = cs1 ++ Code.JMP r :: rest1)
    {s : State} (hpc : s.pc = cs1.length)
    (hjx : execCode mon.mach px.labelAddr (Code.JMP r) s =
      .ok (s, .jumpAddr (addrAt F.c.codeBase cs A.length + 5 * pos))) :
    ∃ k, stepN mon px 3 s = .inl (setPS s ((A ++ (Code.LAB base :: table) ++ pre).length + 1) k) ∧
      MidS mon px cs 3 s := by
  have L := LA.loaded
  have hposlt : pos < table.length := (List.getElem?_eq_some_iff.1 htab).1
  have hTlt : A.length + 1 + pos < cs.length := by rw [hcs]; simp; omega
  have haddrT := addrAt_table F.c.codeBase A table (pre ++ Code.LAB l :: tail) base htsz pos (by omega)
  rw [← hcs] at haddrT
  have hcsTe : cs[A.length + 1 + pos]? = some (.JMPLN l) := by
    rw [hcs, List.append_assoc, List.getElem?_append_right (by omega)]
    rw [show A.length + 1 + pos - A.length = pos + 1 by omega]
    simp only [List.cons_append, List.getElem?_cons_succ]
    rw [List.getElem?_append_left (by omega)]
    exact htab
  have hidx : px.addrIdx[addrAt F.c.codeBase cs A.length + 5 * pos]? = some (A.length + 1 + pos) := by
    rw [← haddrT]
    apply LA.addrIdx _ hTlt
    have := List.getElem?_eq_getElem hTlt
    rw [hcsTe] at this
    rw [← Option.some.inj this]
    simp [codeSize]
  -- the jump through the register lands on the table entry
  obtain ⟨kc, hkc⟩ := step_jumpA mon L hcs1 hpc hjx hidx
  -- the table entry jumps to the label
  have hiC : cs[(A ++ (Code.LAB base :: table) ++ pre).length]? = some (Code.LAB l) := by
    conv => lhs; rw [hcs, ← List.append_assoc]
    exact getElem?_mid _ _ _
  have hTsplit : cs = cs.take (A.length + 1 + pos) ++ Code.JMPLN l :: cs.drop (A.length + 1 + pos + 1) := by
    have h1 : cs.drop (A.length + 1 + pos) = cs[A.length + 1 + pos] :: cs.drop (A.length + 1 + pos + 1) :=
      List.drop_eq_getElem_cons hTlt
    have h2 : cs[A.length + 1 + pos] = Code.JMPLN l := by
      have := List.getElem?_eq_getElem hTlt
      rw [hcsTe] at this
      exact (Option.some.inj this).symm
    conv => lhs; rw [← List.take_append_drop (A.length + 1 + pos) cs, h1, h2]
  obtain ⟨kd, hkd⟩ := Scc.X86.Ref.step_jump mon L hTsplit (s := setPS s (A.length + 1 + pos) kc)
    (by simp only [setPS, List.length_take]; exact (Nat.min_eq_left (Nat.le_of_lt hTlt)).symm)
    (l := l) rfl (labIdx_of_nodup hnd hiC)
  -- the label
  obtain ⟨ke, hke⟩ := step_fall mon L (cs1 := A ++ (Code.LAB base :: table) ++ pre) (code := Code.LAB l)
    (rest := tail) (by rw [hcs]; simp [List.append_assoc])
    (s := setPS (setPS s (A.length + 1 + pos) kc) (A ++ (Code.LAB base :: table) ++ pre).length kd)
    (by simp [setPS]) (s1 := _) rfl
  refine ⟨ke, stepN_trans mon px ((stepN_one mon px _).trans hkc)
    (stepN_trans mon px ((stepN_one mon px _).trans hkd) ((stepN_one mon px _).trans hke)), ?_⟩
  exact MidS.trans (midS_one (not_ctxAt_of_split hcs1 hpc (not_isCtx_of_noComment rfl)))
    ((stepN_one mon px _).trans hkc)
    (MidS.trans (midS_one (not_ctxAt_of_getElem hcsTe (not_isCtx_of_noComment rfl)))
      ((stepN_one mon px _).trans hkd)
      (midS_one (not_ctxAt_of_getElem hiC (not_isCtx_of_noComment rfl))))

include H hmon LA hnd hfitX in
/-- the machine from the `switch` to the `load` of the selected clause -/
theorem switch_nav_x86 {hooks : Bool} {types : List TypeDecl} {Γ' : Ctx} {b : Binding} {st : State} {x : Ident}
    {ty : Ty} {clauses : Clauses} {fv : FV} {pos : Nat} {c : Clause}
    (B : Bnd F st)
    (hb : b.var.id = x.id) (hfresh : ∀ b' ∈ Γ', b'.var.id ≠ x.id)
    (hclause : nthClause clauses pos = some c)
    (hxw0 : tempVal F.sp st (posTemp (2 * Γ'.length + 1)) = some (BitVec.ofNat 64 pos * 5#64))
    {k k' : Nat} {items : List Code}
    (hrun : (codeStatementR x86Backend hooks natRen types (.switch x ty clauses fv) (Γ' ++ [b])).run k =
      .ok (items, k'))
    (hat : XAt cs st.pc items) :
    ∃ st4 n4 kl kl' lcode kb' body, stepN mon px n4 st = .inl st4 ∧ Bnd F st4 ∧
      ThreeWay.Keep (target F H h8 px.labelAddr) st st4 (fun _ => False) ∧
      (load c.ctx Γ').run kl = .ok (lcode, kl') ∧
      (codeStatementR x86Backend hooks natRen types c.body (Γ' ++ c.ctx)).run kl' = .ok (body, kb') ∧
      XAt cs st4.pc (lcode ++ body) ∧ Mid mon px cs n4 st := by
  have L := LA.loaded
  simp only [codeStatementR, run_bind_ok, run_pure_ok, freshLabelStr_run_ok] at hrun
  obtain ⟨num, k1, ⟨rfl, rfl⟩, c1, k2, h1, c3, k3, h3, rfl, rfl⟩ := hrun
  have hdl : (Γ' ++ [b]).dropLast = Γ' := by simp
  rw [hdl] at h3
  obtain ⟨pre, post, kl, kl', lcode, kb', body,
      (hc3 : _ = pre ++ Code.LAB (clauseLabel _ c.xtor) :: (lcode ++ (body ++ post))),
      (hload : (load c.ctx Γ').run kl = .ok (lcode, kl')), hbody⟩ :=
    ThreeWay.codeClauses_nth x86Backend hooks natRen types Γ' clauses _ pos c _ _ _ h3 hclause
  have hposlt := nthClause_lt clauses pos c hclause
  generalize hc0 : hookCode x86Backend hooks (Γ' ++ [b]) ++
      [x86Backend.comment ("switch " ++ x.print ++ " \\{ ... \\};")] = c0 at hat
  have hc0c : ∀ y ∈ c0, ∃ m', y = Code.COMMENT m' := by rw [← hc0]; exact hook_comments hooks _ _
  have hc0t : NoCtx c0.tail := by
    rw [← hc0]; exact noCtx_tail_hook hooks _ (by
      simp only [String.append_assoc]; exact not_isCtx_lit_head _ _ _ (by decide))
  have hc0pos : c0 ≠ [] := by rw [← hc0]; simp
  generalize hlbl : mangleTy ty ++ "_" ++ natRen (k + 1) = lbl at *
  have hxl : x86Backend.label lbl = Code.LAB lbl := rfl
  rw [hxl] at hat
  by_cases hle : clauses.length ≤ 1
  · -- a single clause: comments and labels only
    have hpos0 : pos = 0 := by omega
    subst hpos0
    simp only [hle, if_true, run_pure_ok] at h1
    obtain ⟨rfl, rfl⟩ := h1
    have hgt : ¬ (clauses.length > 1) := by omega
    simp only [hgt, if_false] at hat
    obtain ⟨post0, kl0', lcode0, kb0', body0,
        (hc30 : _ = Code.LAB (clauseLabel lbl c.xtor) :: (lcode0 ++ (body0 ++ post0))),
        (hload0 : (load c.ctx Γ').run _ = .ok (lcode0, kl0')), hbody0⟩ :=
      ThreeWay.codeClauses_head x86Backend hooks natRen types Γ' clauses lbl c _ _ _ h3 hclause
    rw [hc30] at hat
    have hxc : x86Backend.comment "#there is only one clause, so we can just fall through" =
        Code.COMMENT "#there is only one clause, so we can just fall through" := rfl
    rw [hxc] at hat
    have hatN : XAt cs st.pc ((c0 ++ [Code.COMMENT "#there is only one clause, so we can just fall through",
        Code.LAB lbl, Code.LAB (clauseLabel lbl c.xtor)]) ++ ((lcode0 ++ body0) ++ post0)) := by
      simpa [List.append_assoc] using hat
    have hxN := (execStraight_noops mon.mach px.labelAddr (c0 ++ [Code.COMMENT "#there is only one clause, so we can just fall through",
        Code.LAB lbl, Code.LAB (clauseLabel lbl c.xtor)]) st (by
        intro y hy
        simp only [List.mem_append, List.mem_cons, List.not_mem_nil, or_false] at hy
        rcases hy with hy | rfl | rfl | rfl
        · exact Or.inl (hc0c y hy)
        · exact Or.inl ⟨_, rfl⟩
        · exact Or.inr ⟨_, rfl⟩
        · exact Or.inr ⟨_, rfl⟩))
    obtain ⟨k0, hk0⟩ := x_steps_straight mon L hatN.left hxN
    exact ⟨_, _, _, _, lcode0, _, body0, hk0, B.setPS _ _, keep_setPS F H h8 _ _ _ _, hload0, hbody0,
      hatN.right.left, mid_straight_tail mon L hatN.left hxN (noCtx_tail_append hc0t (by nc) hc0pos)⟩
  · -- a jump table
    have hgt : clauses.length > 1 := by omega
    simp only [hle, if_false, run_bind_ok, run_pure_ok] at h1
    obtain ⟨tt, k4, htt, rfl, rfl⟩ := h1
    obtain ⟨p, hp, hlt, rfl, rfl⟩ := (x86_vt_run_ok _ _ _ _ _ _).1 htt
    have hp' : p = Γ'.length := by
      have := posOf_append_fresh Γ' b (fun b' hb' => by rw [hb]; exact hfresh b' hb')
      rw [hb] at this
      rw [this] at hp
      exact (Option.some.inj hp).symm
    subst hp'
    simp only [TempNum.toNat] at hlt
    simp only [hgt, if_true] at hat
    have hBe : x86Backend.loadLabel x86Backend.temp lbl ++
        x86Backend.binop BinOp.sum x86Backend.temp x86Backend.temp (posTemp (2 * Γ'.length + TempNum.snd.toNat)) ++
        x86Backend.jump x86Backend.temp =
        (loadLabel (.reg TEMP) lbl ++ binop .sum (.reg TEMP) (.reg TEMP) (posTemp (2 * Γ'.length + 1))) ++
          [Code.JMP TEMP] := rfl
    rw [hBe] at hat
    generalize hBdef : loadLabel (.reg TEMP) lbl ++
      binop .sum (.reg TEMP) (.reg TEMP) (posTemp (2 * Γ'.length + 1)) = Bc at hat
    generalize hT : codeTable x86Backend clauses lbl = table at hat
    have htab : table[pos]? = some (.JMPLN (clauseLabel lbl c.xtor)) := by
      rw [← hT]; exact ThreeWay.codeTable_nth x86Backend (j := Code.JMPLN) (fun _ => rfl) lbl clauses pos c hclause
    have htlen : table.length = clauses.length := by rw [← hT]; exact ThreeWay.codeTable_length x86Backend (j := Code.JMPLN) (fun _ => rfl) lbl clauses
    have htsz : table.map codeSize = List.replicate table.length 5 := by
      rw [htlen, ← hT]; exact x_codeTable_sizes lbl clauses
    obtain ⟨cs1, rest0, hcs, hpc⟩ := hat
    generalize hsfx : pre ++ Code.LAB (clauseLabel lbl c.xtor) :: (lcode ++ (body ++ post)) ++ rest0 = sfx
    have hcsT : cs = (cs1 ++ c0 ++ Bc ++ [Code.JMP TEMP]) ++ (Code.LAB lbl :: table) ++ sfx := by
      rw [hcs, hc3, ← hsfx]; simp [List.append_assoc]
    -- (i) the comments
    obtain ⟨k0, hk0⟩ := x_steps_straight mon L (blk := c0)
      ⟨cs1, Bc ++ [Code.JMP TEMP] ++ (Code.LAB lbl :: table) ++ sfx, by rw [hcsT]; simp [List.append_assoc], hpc⟩
      (execStraight_comments mon.mach px.labelAddr c0 st hc0c)
    have Ba : Bnd F (setPS st (st.pc + c0.length) k0) := B.setPS _ _
    have hpca : (setPS st (st.pc + c0.length) k0).pc = (cs1 ++ c0).length := by simp [setPS, hpc]
    have hmka : ThreeWay.Keep (target F H h8 px.labelAddr) st (setPS st (st.pc + c0.length) k0) (fun _ => False) :=
      keep_setPS F H h8 _ _ _ _
    have hxw : tempVal F.sp (setPS st (st.pc + c0.length) k0) (posTemp (2 * Γ'.length + 1)) =
        some (BitVec.ofNat 64 pos * 5#64) := by rw [tempVal_setPS]; exact hxw0
    generalize setPS st (st.pc + c0.length) k0 = sa at hk0 Ba hpca hmka hxw
    -- (ii) the address computation
    have hiL : cs[(cs1 ++ c0 ++ Bc ++ [Code.JMP TEMP]).length]? = some (Code.LAB lbl) := by
      rw [hcsT, List.append_assoc]; exact getElem?_mid _ _ _
    have hl := LA.labelAddr hnd hiL
    obtain ⟨_, sb, hxb, Bb, Pb, hjx⟩ := switchJump_correct (la := px.labelAddr) Ba.1 (tempOK_posTemp hlt) hl hxw
    rw [hBdef, ← hmon] at hxb
    obtain ⟨kb, hkb⟩ := x_steps_straight mon L (blk := Bc) (s := sa)
      ⟨cs1 ++ c0, [Code.JMP TEMP] ++ (Code.LAB lbl :: table) ++ sfx, by rw [hcsT]; simp [List.append_assoc],
        hpca.symm⟩ hxb
    -- (iii) the jump through TEMP lands on the table entry, which jumps to the clause
    have hcsD : cs = (cs1 ++ c0 ++ Bc ++ [Code.JMP TEMP]) ++ (Code.LAB lbl :: table) ++
        (pre ++ Code.LAB (clauseLabel lbl c.xtor) :: (lcode ++ (body ++ post) ++ rest0)) := by
      rw [hcsT, ← hsfx]; simp [List.append_assoc]
    have hbound := table_entry_lt hfitX hcsT (show pos < table.length by omega) htsz
    have hjx' : execCode mon.mach px.labelAddr (Code.JMP TEMP) (setPS sb (sa.pc + Bc.length) kb) =
        .ok (setPS sb (sa.pc + Bc.length) kb,
          .jumpAddr (addrAt F.c.codeBase cs (cs1 ++ c0 ++ Bc ++ [Code.JMP TEMP]).length + 5 * pos)) := by
      rw [execCode_setPS, hmon, hjx, ThreeWay.toNat_table_addr (s := 5) (by decide) (by decide) hbound]
      rfl
    obtain ⟨kc, hkc, hmc⟩ := table_dispatch LA hnd hcsD htab htsz (cs1 := cs1 ++ c0 ++ Bc)
      (rest1 := (Code.LAB lbl :: table) ++ sfx) (by rw [hcsT]; simp [List.append_assoc])
      (by simp [setPS, hpca, Nat.add_assoc]) hjx'
    have hmid : Mid mon px cs _ st := Mid.transS (mid_comments mon L (blk := c0)
        ⟨cs1, Bc ++ [Code.JMP TEMP] ++ (Code.LAB lbl :: table) ++ sfx, by rw [hcsT]; simp [List.append_assoc], hpc⟩
        hc0c hc0t) hk0
      (MidS.trans (midS_straight mon L (blk := Bc) (s := sa)
          ⟨cs1 ++ c0, [Code.JMP TEMP] ++ (Code.LAB lbl :: table) ++ sfx, by rw [hcsT]; simp [List.append_assoc],
            hpca.symm⟩ hxb (by rw [← hBdef]; exact (noCtx_loadLabel _ _).append (noCtx_binop _ _ _ _))) hkb hmc)
    refine ⟨_, _, kl, kl', lcode, kb', body, stepN_trans mon px hk0 (stepN_trans mon px hkb hkc),
      ((bnd_preserved H Ba Bb Pb).setPS _ _).setPS _ _,
      ThreeWay.Keep.then hmka (ThreeWay.Keep.then (keep_preserved H h8 _ Pb)
        (ThreeWay.Keep.then (keep_setPS F H h8 _ _ _ _) (keep_setPS F H h8 _ _ _ _))), hload, hbody, ?_, hmid⟩
    refine ⟨(cs1 ++ c0 ++ Bc ++ [Code.JMP TEMP]) ++ (Code.LAB lbl :: table) ++ pre ++
      [Code.LAB (clauseLabel lbl c.xtor)], post ++ rest0, ?_, ?_⟩
    · rw [hcsT, ← hsfx]; simp [List.append_assoc]
    · simp [setPS]; omega

variable (hreal : ∀ idx, idx < cs.length → ∃ i, idx ≤ i ∧ ∃ h : i < cs.length, codeSize cs[i] ≠ 0)

include H hmon LA hnd hfitX hreal in
/-- the machine from the `invoke` to the `load` of the selected method; with one method the machine may be
ahead of the boundary state `st4` by labels and comments (`Tol`) -/
theorem invoke_nav_x86 {hooks : Bool} {types : List TypeDecl} {Γa : Ctx} {b : Binding}
    {st : State} {x tag : Ident} {ty : Ty} {args : Ctx}
    {clauses : Clauses} {d : TypeDecl} {pos : Nat} {c : Clause} {envCtx' : Ctx} {w : Word}
    (B : Bnd F st)
    (hb : b.var.id = x.id) (hfresh : ∀ b' ∈ Γa, b'.var.id ≠ x.id)
    (hd : lookupTypeDecl types ty = some d) (hx : xtorPosition d tag = some pos)
    (hclause : nthClause clauses pos = some c) (hlc : clauses.length = d.xtors.length)
    (hw : tempVal F.sp st (posTemp (2 * Γa.length + 1)) = some w)
    (hXM : XMethodsAt F.c cs hooks types w envCtx' clauses)
    (hi32 : fitsI32 (jumpLength pos) = true)
    {k k' : Nat} {items : List Code}
    (hrun : (codeStatementR x86Backend hooks natRen types (.invoke x tag ty args) (Γa ++ [b])).run k =
      .ok (items, k'))
    (hat : XAt cs st.pc items) :
    ∃ stR st4 n4 kl kl' lcode kb' body, stepN mon px n4 st = .inl stR ∧ Tol cs st4 stR ∧
      Bnd F st4 ∧ ThreeWay.Keep (target F H h8 px.labelAddr) st st4 (· = 2 * Γa.length + 1) ∧
      (tempVal F.sp st4 (posTemp (2 * Γa.length + 1))).isSome ∧
      (load envCtx' c.ctx).run kl = .ok (lcode, kl') ∧
      (codeStatementR x86Backend hooks natRen types c.body (c.ctx ++ envCtx')).run kl' = .ok (body, kb') ∧
      XAt cs st4.pc (lcode ++ body) ∧
      (∃ n1 Xm, n1 < n4 ∧ stepN mon px n1 st = .inl Xm ∧ ¬ NoopAt cs Xm.pc) ∧
      Mid mon px cs n4 st ∧ (stR = st4 ∨ ¬ CtxAt cs stR.pc) := by
  have L := LA.loaded
  have hn1 : Γa.length < (Γa ++ [b]).length := by simp
  have hgb : (Γa ++ [b])[Γa.length] = b := by simp
  obtain ⟨base, km, km', mcode, idx, hmrun, hatM, hwe⟩ := hXM
  have hposlt := nthClause_lt clauses pos c hclause
  simp only [codeStatementR, run_bind_ok, lookupTypeDeclM_run_ok] at hrun
  obtain ⟨tt, k1, htt, decl, k2, ⟨hd', rfl⟩, hrun⟩ := hrun
  rw [hd] at hd'; cases hd'
  obtain ⟨p, hp, hlt, rfl, rfl⟩ := (x86_vt_run_ok _ _ _ _ _ _).1 htt
  have hp' : p = Γa.length := by
    have := posOf_append_fresh Γa b (fun b' hb' => by rw [hb]; exact hfresh b' hb')
    rw [hb] at this
    rw [this] at hp
    exact (Option.some.inj hp).symm
  subst hp'
  simp only [TempNum.toNat] at hlt
  have hok := tempOK_posTemp hlt
  obtain ⟨csM, restM, hcsM, hlenM⟩ := hatM
  have hidxlt : idx < cs.length := by rw [hcsM]; simp; omega
  have hbound : addrAt F.c.codeBase cs idx < 2 ^ 64 :=
    Nat.lt_of_le_of_lt (addrAt_mono _ _ (Nat.le_of_lt hidxlt)) hfitX
  have hwn : w.toNat = addrAt F.c.codeBase cs idx := by rw [hwe]; exact ofNat_toNat_lt hbound
  by_cases hle : d.xtors.length ≤ 1
  · -- a single method: `jmp` to the address of the label
    have hpos0 : pos = 0 := by omega
    subst hpos0
    simp only [hle, if_true, run_pure_ok] at hrun
    obtain ⟨rfl, rfl⟩ := hrun
    have hgt : ¬ (clauses.length > 1) := by omega
    simp only [hgt, if_false, List.nil_append] at hcsM
    obtain ⟨post0, kl', lcode, kb', body, (hc0 : _ = Code.LAB (clauseLabel base c.xtor) :: (lcode ++ (body ++ post0))),
        (hload : (load envCtx' c.ctx).run _ = .ok (lcode, kl')), hbody⟩ :=
      ThreeWay.codeMethods_head x86Backend hooks natRen types envCtx' clauses base c _ _ _ hmrun hclause
    rw [hc0] at hcsM
    have hje : x86Backend.jump (posTemp (2 * Γa.length + TempNum.snd.toNat)) =
        loadPtr (posTemp (2 * Γa.length + 1)) ++ [Code.JMP (jumpReg (posTemp (2 * Γa.length + 1)))] :=
      jump_eq _
    rw [hje] at hat
    generalize hc0' : hookCode x86Backend hooks (Γa ++ [b]) ++ [x86Backend.comment (invokePrint x tag args)] ++
      [x86Backend.comment "#there is only one clause, so we can jump there directly"] = c0 at hat
    have hc0c : ∀ y ∈ c0, ∃ m', y = Code.COMMENT m' := by
      rw [← hc0']
      intro y hy
      rcases List.mem_append.1 hy with hy | hy
      · exact hook_comments hooks _ _ y hy
      · simp only [List.mem_singleton] at hy; exact ⟨_, hy⟩
    have hatA : XAt cs st.pc (c0 ++ (loadPtr (posTemp (2 * Γa.length + 1)) ++
        [Code.JMP (jumpReg (posTemp (2 * Γa.length + 1)))])) := by
      simpa [List.append_assoc] using hat
    obtain ⟨k0, hk0⟩ := x_steps_straight mon L hatA.left
      (execStraight_comments mon.mach px.labelAddr c0 st hc0c)
    have Ba : Bnd F (setPS st (st.pc + c0.length) k0) := B.setPS _ _
    have hwa : tempVal F.sp (setPS st (st.pc + c0.length) k0) (posTemp (2 * Γa.length + 1)) = some w := by
      rw [tempVal_setPS]; exact hw
    obtain ⟨sb, hxb, Bb, hreg, Pb⟩ := loadPtr_correct (la := px.labelAddr) Ba.1 hok hwa
    rw [← hmon] at hxb
    obtain ⟨kb, hkb⟩ := x_steps_straight mon L (s := setPS st (st.pc + c0.length) k0) hatA.right.left hxb
    have Bb' : Bnd F sb := bnd_preserved H Ba Bb Pb
    -- the jump lands on the first item of non-zero size
    obtain ⟨i0, hi0, hi0lt, hsz0, hnoop, haddr0⟩ := first_real F.c.codeBase cs idx (hreal idx hidxlt)
    have hidxA : px.addrIdx[addrAt F.c.codeBase cs idx]? = some i0 := by
      rw [← haddr0]; exact LA.addrIdx i0 hi0lt hsz0
    have hjx : execCode mon.mach px.labelAddr (Code.JMP (jumpReg (posTemp (2 * Γa.length + 1))))
        (setPS sb ((setPS st (st.pc + c0.length) k0).pc + (loadPtr (posTemp (2 * Γa.length + 1))).length) kb) =
        .ok (setPS sb ((setPS st (st.pc + c0.length) k0).pc + (loadPtr (posTemp (2 * Γa.length + 1))).length) kb,
          .jumpAddr (addrAt F.c.codeBase cs idx)) := by
      rw [execCode_setPS, exec_jmp hreg, hwn]
      rfl
    obtain ⟨cs1, rest1, hcs1, hpc1⟩ := hatA.right.right
    obtain ⟨kc, hkc⟩ := step_jumpA mon L (cs1 := cs1)
      (code := Code.JMP (jumpReg (posTemp (2 * Γa.length + 1)))) (rest := rest1)
      (by rw [hcs1]; simp) (by simp [setPS] at hpc1 ⊢; omega) hjx hidxA
    -- the two labels of the method are passed
    have hcsM' : cs = csM ++ Code.LAB base :: Code.LAB (clauseLabel base c.xtor) ::
        ((lcode ++ body) ++ (post0 ++ restM)) := by
      rw [hcsM]; simp [List.append_assoc]
    have hg0 : cs[idx]? = some (Code.LAB base) := by
      rw [hcsM', ← hlenM]; exact getElem?_mid _ _ _
    have hg1 : cs[idx + 1]? = some (Code.LAB (clauseLabel base c.xtor)) := by
      have e : cs = (csM ++ [Code.LAB base]) ++ Code.LAB (clauseLabel base c.xtor) ::
          ((lcode ++ body) ++ (post0 ++ restM)) := by rw [hcsM']; simp
      have : idx + 1 = (csM ++ [Code.LAB base]).length := by simp [hlenM]
      rw [this]; conv => lhs; rw [e]
      exact getElem?_mid _ _ _
    have hi02 : idx + 2 ≤ i0 := by
      have h0 : i0 ≠ idx := by
        intro e; subst e
        rw [List.getElem?_eq_getElem hi0lt] at hg0
        injection hg0 with hg0
        rw [hg0] at hsz0; exact hsz0 rfl
      have h1 : i0 ≠ idx + 1 := by
        intro e; subst e
        rw [List.getElem?_eq_getElem hi0lt] at hg1
        injection hg1 with hg1
        rw [hg1] at hsz0; exact hsz0 rfl
      omega
    generalize hsR : setPS (setPS sb ((setPS st (st.pc + c0.length) k0).pc +
      (loadPtr (posTemp (2 * Γa.length + 1))).length) kb) i0 kc = sR at hkc
    have BR : Bnd F sR := by rw [← hsR]; exact (Bb'.setPS _ _).setPS _ _
    have KR : ThreeWay.Keep (target F H h8 px.labelAddr) st sR (fun _ => False) := by
      rw [← hsR]
      exact ThreeWay.Keep.then (ThreeWay.Keep.then (ThreeWay.Keep.then (keep_setPS F H h8 _ st _ k0) (keep_preserved H h8 _ Pb))
        (keep_setPS F H h8 _ _ _ _)) (keep_setPS F H h8 _ _ _ _)
    have K4 := ThreeWay.Keep.then KR (keep_setPS F H h8 px.labelAddr sR (idx + 2) sR.steps)
    have hdef4 : (tempVal F.sp (setPS sR (idx + 2) sR.steps) (posTemp (2 * Γa.length + 1))).isSome := by
      have e : tempVal F.sp (setPS sR (idx + 2) sR.steps) (posTemp (2 * Γa.length + 1)) =
          tempVal F.sp st (posTemp (2 * Γa.length + 1)) := K4.tv (2 * Γa.length + 1) (by show _ < 267; omega) id
      rw [e, hw]; rfl
    have hpcR : sR.pc = i0 := by rw [← hsR]; rfl
    have hninv : ¬ IsCtx (Code.COMMENT (invokePrint x tag args)) := by
      unfold invokePrint; simp only [String.append_assoc]
      exact not_isCtx_lit_head _ _ _ (by decide)
    have hmid : Mid mon px cs _ st := Mid.transS (mid_comments mon L hatA.left hc0c (by
        rw [← hc0']
        exact noCtx_tail_append (noCtx_tail_hook hooks _ hninv) (NoCtx.cons (by nc_item) NoCtx.nil) (by simp))) hk0
      (MidS.trans (midS_straight mon L hatA.right.left hxb
          (noCtx_append.1 (by rw [← jump_eq]; exact noCtx_jump _)).1) hkb
        (midS_one (not_ctxAt_of_xat hatA.right.right (not_isCtx_of_noComment rfl))))
    refine ⟨sR, setPS sR (idx + 2) sR.steps, _, km, kl', lcode, kb', body,
      stepN_trans mon px hk0 (stepN_trans mon px hkb ((stepN_one mon px _).trans hkc)), ?_, BR.setPS _ _,
      ⟨fun u hu _ => K4.tv u hu id, K4.out, K4.hrel⟩, hdef4, hload, hbody, ?_, ⟨c0.length + (loadPtr (posTemp (2 * Γa.length + 1))).length, _, by omega,
      stepN_trans mon px hk0 hkb, not_noop_of_xat hatA.right.right (by simp [codeSize])⟩, hmid,
      Or.inr (by rw [hpcR]; exact not_ctxAt_of_size hi0lt hsz0)⟩
    · refine ⟨by simp [setPS]; omega, ?_, ?_⟩
      · simp [setPS]
      · intro i h1 h2
        exact hnoop i (by simp [setPS] at h1; omega) (by rw [hpcR] at h2; exact h2)
    · refine ⟨csM ++ [Code.LAB base, Code.LAB (clauseLabel base c.xtor)], post0 ++ restM, ?_, ?_⟩
      · rw [hcsM']; simp [List.append_assoc]
      · simp [setPS, hlenM]
  · -- through the method table
    have hgt : clauses.length > 1 := by omega
    simp only [hle, if_false, run_bind_ok, run_pure_ok, xtorPositionM_run_ok] at hrun
    obtain ⟨pos', k3, ⟨hx', rfl⟩, rfl, rfl⟩ := hrun
    rw [hx] at hx'; cases hx'
    simp only [hgt, if_true] at hcsM
    obtain ⟨pre, post, kl, kl', lcode, kb', body,
        (hc3 : _ = pre ++ Code.LAB (clauseLabel base c.xtor) :: (lcode ++ (body ++ post))),
        (hload : (load envCtx' c.ctx).run kl = .ok (lcode, kl')), hbody⟩ :=
      ThreeWay.codeMethods_nth x86Backend hooks natRen types envCtx' clauses base pos c _ _ _ hmrun hclause
    generalize hT : codeTable x86Backend clauses base = table at hcsM
    have htab : table[pos]? = some (.JMPLN (clauseLabel base c.xtor)) := by
      rw [← hT]; exact ThreeWay.codeTable_nth x86Backend (j := Code.JMPLN) (fun _ => rfl) base clauses pos c hclause
    have htlen : table.length = clauses.length := by rw [← hT]; exact ThreeWay.codeTable_length x86Backend (j := Code.JMPLN) (fun _ => rfl) base clauses
    have htsz : table.map codeSize = List.replicate table.length 5 := by
      rw [htlen, ← hT]; exact x_codeTable_sizes base clauses
    generalize hsfx : pre ++ Code.LAB (clauseLabel base c.xtor) :: (lcode ++ (body ++ post)) ++ restM = sfx
    have hcsT : cs = csM ++ (Code.LAB base :: table) ++ sfx := by
      rw [hcsM, hc3, ← hsfx]; simp [List.append_assoc]
    have hje : x86Backend.addAndJump (posTemp (2 * Γa.length + TempNum.snd.toNat)) (x86Backend.jumpLength pos) =
        addAndJump (posTemp (2 * Γa.length + 1)) (jumpLength pos) := rfl
    rw [hje] at hat
    generalize hc0' : hookCode x86Backend hooks (Γa ++ [b]) ++ [x86Backend.comment (invokePrint x tag args)] = c0
      at hat
    have hc0c : ∀ y ∈ c0, ∃ m', y = Code.COMMENT m' := by rw [← hc0']; exact hook_comments hooks _ _
    obtain ⟨k0, hk0⟩ := x_steps_straight mon L hat.left
      (execStraight_comments mon.mach px.labelAddr c0 st hc0c)
    have Ba : Bnd F (setPS st (st.pc + c0.length) k0) := B.setPS _ _
    have hwa : tempVal F.sp (setPS st (st.pc + c0.length) k0) (posTemp (2 * Γa.length + 1)) = some w := by
      rw [tempVal_setPS]; exact hw
    have heq := addAndJump_eq (posTemp (2 * Γa.length + 1)) (jumpLength pos)
    obtain ⟨sb, hxb, Bb, Pb, hdefb, hjxb⟩ := addAndJumpPre_correct (la := px.labelAddr) Ba.1 hok hi32 hwa
    rw [heq] at hat
    have hatA : XAt cs st.pc (c0 ++ (addAndJumpPre (posTemp (2 * Γa.length + 1)) (jumpLength pos) ++
        [Code.JMP (jumpReg (posTemp (2 * Γa.length + 1)))])) := hat
    rw [← hmon] at hxb
    obtain ⟨kb, hkb⟩ := x_steps_straight mon L (s := setPS st (st.pc + c0.length) k0) hatA.right.left hxb
    have Bb' : Bnd F sb := bnd_preserved H Ba Bb Pb
    -- the jump lands on the table entry, which jumps to the method
    have hcsD : cs = csM ++ (Code.LAB base :: table) ++
        (pre ++ Code.LAB (clauseLabel base c.xtor) :: (lcode ++ (body ++ post) ++ restM)) := by
      rw [hcsT, ← hsfx]; simp [List.append_assoc]
    have hbound2 : addrAt F.c.codeBase cs idx + 5 * pos < 2 ^ 64 := by
      rw [← hlenM]; exact table_entry_lt hfitX hcsT (show pos < table.length by omega) htsz
    have hwadd : (w + BitVec.ofInt 64 (jumpLength pos)).toNat = addrAt F.c.codeBase cs idx + 5 * pos := by
      have e5 : BitVec.ofInt 64 (jumpLength pos) = BitVec.ofNat 64 pos * 5#64 := by
        show BitVec.ofInt 64 ((5 : Int) * (pos : Int)) = BitVec.ofNat 64 pos * 5#64
        rw [BitVec.ofInt_mul, BitVec.mul_comm]
        simp
      rw [e5, hwe]
      exact ThreeWay.toNat_table_addr (s := 5) (by decide) (by decide) hbound2
    have hjx : execCode mon.mach px.labelAddr (Code.JMP (jumpReg (posTemp (2 * Γa.length + 1))))
        (setPS sb ((setPS st (st.pc + c0.length) k0).pc +
          (addAndJumpPre (posTemp (2 * Γa.length + 1)) (jumpLength pos)).length) kb) =
        .ok (setPS sb ((setPS st (st.pc + c0.length) k0).pc +
          (addAndJumpPre (posTemp (2 * Γa.length + 1)) (jumpLength pos)).length) kb,
          .jumpAddr (addrAt F.c.codeBase cs csM.length + 5 * pos)) := by
      rw [execCode_setPS, hmon, hjxb, hwadd, hlenM]
      rfl
    obtain ⟨cs1, rest1, hcs1, hpc1⟩ := hatA.right.right
    obtain ⟨kc, hkc, hmc⟩ := table_dispatch LA hnd hcsD htab htsz (cs1 := cs1) (rest1 := rest1)
      (by rw [hcs1]; simp) (by simp [setPS] at hpc1 ⊢; omega) hjx
    have hninv : ¬ IsCtx (Code.COMMENT (invokePrint x tag args)) := by
      unfold invokePrint; simp only [String.append_assoc]
      exact not_isCtx_lit_head _ _ _ (by decide)
    have hmid : Mid mon px cs _ st := Mid.transS (mid_comments mon L hatA.left hc0c (by
        rw [← hc0']; exact noCtx_tail_hook hooks _ hninv)) hk0
      (MidS.trans (midS_straight mon L hatA.right.left hxb
          (noCtx_append.1 (by rw [← addAndJump_eq]; exact noCtx_addAndJump _ _)).1) hkb hmc)
    refine ⟨_, _, _, kl, kl', lcode, kb', body, stepN_trans mon px hk0 (stepN_trans mon px hkb hkc),
      Tol.refl _ _, ((Bb'.setPS _ _).setPS _ _).setPS _ _, ⟨?_, ?_, ?_⟩, ?_, hload, hbody, ?_,
      ⟨c0.length + (addAndJumpPre (posTemp (2 * Γa.length + 1)) (jumpLength pos)).length, _, by omega,
      stepN_trans mon px hk0 hkb, not_noop_of_xat hatA.right.right (by simp [codeSize])⟩, hmid, Or.inl rfl⟩
    · intro t ht hne
      show tempVal F.sp _ (posTemp t) = tempVal F.sp st (posTemp t)
      rw [tempVal_setPS, tempVal_setPS, mach_keep_some hlt Pb ht hne, tempVal_setPS]
    · intro o ho
      show _ = o
      rw [← ho]
      exact Pb.same.out
    · intro hs0 R
      exact heapRel_setPS (heapRel_setPS (heapRel_setPS (heapRel_preserved (heapRel_setPS R _ _) Pb
        (fun e => posTemp_ne_low _ (r := HEAP) (by decide) (Option.some.inj e))
        (fun e => posTemp_ne_low _ (r := FREE) (by decide) (Option.some.inj e))) _ _) _ _) _ _
    · rw [tempVal_setPS, tempVal_setPS]
      exact hdefb
    · refine ⟨csM ++ (Code.LAB base :: table) ++ pre ++ [Code.LAB (clauseLabel base c.xtor)], post ++ restM, ?_, ?_⟩
      · rw [hcsT, ← hsfx]; simp [List.append_assoc]
      · simp [setPS]; omega

end Nav

section
variable (F : Frame) (H : FrameOK F) (h8 : F.c.heapBase % 8 = 0) (mon : MonCfg) (hmon : mon.mach = F.c)
  (px : X86.Prog) (cs : List Code) (LA : LoadedA F.c px cs) (hndL : (labs cs).Nodup)
  (hfitX : addrAt F.c.codeBase cs cs.length < 2 ^ 64) (G : Prop)

/-- `machine` with the byte addresses of the loaded routine (`LoadedA`): `load_label` leaves the address of the
label in its temporary -/
def machineA : ThreeWay.MachineA x86Backend where
  toMachine := machine F H h8 mon hmon px cs LA.loaded hndL G
  addrOf idx := BitVec.ofNat 64 (addrAt F.c.codeBase cs idx)
  loadLabel := by
    intro k idx st t l hat hlab hpc B ht
    subst hpc
    replace hat : XAt cs st.pc (loadLabel (posTemp t) l) := hat
    replace hlab : XAt cs idx [Code.LAB l] := hlab
    replace B : Bnd F st := B
    replace ht : t < 267 := ht
    have hiL : cs[idx]? = some (Code.LAB l) := by
      obtain ⟨c1, c2, e, hl⟩ := hlab
      rw [e, ← hl]; simp
    have hl := LA.labelAddr hndL hiL
    obtain ⟨st2, hx2, B2, hv2, P2⟩ := loadLabel_correct (la := px.labelAddr) B.1 (tempOK_posTemp ht) hl
    rw [← hmon] at hx2
    obtain ⟨k2, hk2⟩ := x_steps_straight mon LA.loaded hat hx2
    refine ⟨_, ⟨_, hk2, fun _ => midS_straight mon LA.loaded hat hx2 (noCtx_loadLabel _ _)⟩, rfl,
      (bnd_preserved H B B2 P2).setPS _ _,
      by show tempVal F.sp (setPS st2 _ _) _ = _; rw [tempVal_setPS]; exact hv2,
      ThreeWay.Keep.then ⟨fun u hu hne => mach_keep_some ht P2 hu hne, fun _ h => P2.same.out.trans h,
        fun hs R => heapRel_preserved R P2
          (fun e => posTemp_ne_low t (r := HEAP) (by decide) (Option.some.inj e))
          (fun e => posTemp_ne_low t (r := FREE) (by decide) (Option.some.inj e))⟩ (keep_setPS F H h8 _ _ _ _)⟩

/-- `K.XMethodsAt` is the generic `ThreeWay.XMethodsAt` at `machineA`; the two are used for one another -/
theorem xmethodsAt_iff {hooks : Bool} {types : List TypeDecl} {w : Word} {envCtx : Ctx} {clauses : Clauses} :
    XMethodsAt F.c cs hooks types w envCtx clauses ↔
      ThreeWay.XMethodsAt (machineA F H h8 mon hmon px cs LA hndL G) hooks types w envCtx clauses := Iff.rfl

/-- `machineA` with the navigation of `switch` (`switch_nav_x86`) -/
def machineN : ThreeWay.MachineN x86Backend where
  toMachineA := machineA F H h8 mon hmon px cs LA hndL G
  switch_nav := by
    intro hooks types Γ' b x ty clauses fv pos c k k' kp items st hrun hat hpc B hb hfresh hclause hxw
    subst hpc
    obtain ⟨st4, n4, kl, kl', lcode, kb', body, hn4, B4, K4, hload, hbody, hat4, hmid4⟩ :=
      switch_nav_x86 (h8 := h8) H hmon LA hndL hfitX B hb hfresh hclause hxw hrun hat
    exact ⟨st4, st4.pc, kl, kl', lcode, kb', body, ⟨n4, hn4, fun _ => hmid4⟩, rfl, B4, K4, hload, hbody, hat4⟩

variable (hreal : ∀ idx, idx < cs.length → ∃ i, idx ≤ i ∧ ∃ h : i < cs.length, codeSize cs[i] ≠ 0)

/-- `machineN` with the navigation of `invoke` (`invoke_nav_x86`), the jump through a code pointer.  `RunA` is a run
that may end ahead: the machine is at `stR`, ahead of the state named by labels and comments (`Tol`), and `stR` is
that state or not at a `#ctx` comment -/
def machineI : ThreeWay.MachineI x86Backend where
  toMachineN := machineN F H h8 mon hmon px cs LA hndL hfitX G
  tagOK pos := fitsI32 (jumpLength pos) = true
  RunA _ st _ st' := ∃ stR n, stepN mon px n st = .inl stR ∧ Tol cs st' stR ∧
    (∃ n1 Xm, n1 < n ∧ stepN mon px n1 st = .inl Xm ∧ ¬ NoopAt cs Xm.pc) ∧ (G → Mid mon px cs n st) ∧
    (stR = st' ∨ ¬ CtxAt cs stR.pc)
  runA_trans := by
    rintro a b c s s' s'' ⟨stR, n, hn, T, ⟨n1, Xm, hlt, hn1, hre⟩, hmid, hland⟩ ⟨m, hm, hms⟩
    have L := LA.loaded
    by_cases hle : stR.pc - s'.pc ≤ m
    · have hst := stepN_add mon px (stR.pc - s'.pc) (m - (stR.pc - s'.pc)) s' stR (T.steps mon L)
      rw [show stR.pc - s'.pc + (m - (stR.pc - s'.pc)) = m by omega, hm] at hst
      exact ⟨s'', n + (m - (stR.pc - s'.pc)), stepN_trans mon px hn hst.symm, Tol.refl _ _,
        ⟨n1, Xm, by omega, hn1, hre⟩,
        fun g => Mid.transS (hmid g) hn ((hms g).shift (T.steps mon L) hle), Or.inl rfl⟩
    · have h1 := noop_steps mon L m s' (fun i h1 h2 => T.noop i h1 (by omega))
      rw [h1] at hm
      injection hm with hm
      subst hm
      refine ⟨stR, n, hn, ⟨by simp [setPS]; have := T.le; omega, ?_, ?_⟩, ⟨n1, Xm, hlt, hn1, hre⟩, hmid, ?_⟩
      · conv => lhs; rw [T.eq]
        rfl
      · intro i hi1 hi2
        exact T.noop i (by simp [setPS] at hi1; omega) hi2
      · rcases hland with e | h
        · exfalso; rw [e] at hle; omega
        · exact Or.inr h
  invoke_nav := by
    intro hooks types Γa b x tag ty args clauses d pos c envCtx' w k k' kp items st hrun hat hpc B hcap hb hfresh hd
      hx hclause hlc hw hXM htag
    subst hpc
    obtain ⟨stR, st4, n4, kl, kl', lcode, kb', body, hn4, T4, B4, K4, hdef4, hload, hbody, hat4, hreal4, hmid4,
      hland4⟩ :=
      invoke_nav_x86 (h8 := h8) H hmon LA hndL hfitX hreal B hb hfresh hd hx hclause hlc hw hXM htag hrun hat
    exact ⟨st4, st4.pc, kl, kl', lcode, kb', body, ⟨stR, n4, hn4, T4, hreal4, fun _ => hmid4, hland4⟩, rfl, B4, K4,
      hdef4, hload, hbody, hat4⟩

end

end Scc.X86.Ref.K
