/-
  Scc.X86.ProofsCCMachine — the calling-convention lemmas of ProofsCC.lean on the SPEC machine
  (Machine.lean): prologue / epilogue around an arbitrary body, the exit check `retCheck`, and the
  alignment of `rsp` at the call of the print runtime for every context.
-/
import Scc.X86.ProofsCC

namespace Scc.X86

variable {c : MachCfg} {la : String → Option Nat}

theorem csList_lt (k : Nat) (hk : k < 6) : ([2, 3, 12, 13, 14, 15] : List Nat)[k]'hk < 16 := by
  have : k = 0 ∨ k = 1 ∨ k = 2 ∨ k = 3 ∨ k = 4 ∨ k = 5 := by omega
  rcases this with rfl | rfl | rfl | rfl | rfl | rfl <;> simp

/-- Entry conditions of `asm_main` (System V): `rsp = m`, 8-aligned (in fact ≡ 8 mod 16), enough
    stack below for the save area and the spill area, the return address word at `[m]`. -/
structure EntryOK (c : MachCfg) (st : State) (m : Nat) : Prop where
  cfg : CfgOK c
  size : st.regs.size = 16
  rsp : st.regs[0]? = some (some (BitVec.ofNat 64 m))
  aligned : m % 8 = 0
  low : c.stackLow + 2096 ≤ m
  high : m ≤ c.stackTop

/-- `AfterPrologue` (Scc/X86/ProofsCC.lean) on the machine state -/
structure AfterPrologueM (st st1 : State) (m : Nat) (h : Word) : Prop where
  same : Same st st1
  size : st1.regs.size = 16
  rsp : st1.regs[0]? = some (some (BitVec.ofNat 64 (m - 2096)))
  heap : st1.regs[2]? = some (some h)
  free : st1.regs[3]? = some (some (h + 64))
  regs : ∀ r : Nat, r < 16 → r ≠ 0 → r ≠ 2 → r ≠ 3 → st1.regs[r]? = st.regs[r]?
  saved : ∀ k (hk : k < 6), some (st1.stackMem[m - 8 * (k + 1)]?) = st.regs[[2, 3, 12, 13, 14, 15][k]'hk]?
  mem : ∀ n, (∀ k, k < 6 → n ≠ m - 8 * (k + 1)) → st1.stackMem[n]? = st.stackMem[n]?

theorem prologue_machine {st : State} {m : Nat} (E : EntryOK c st m) {h : Word}
    (h7 : st.regs[7]? = some (some h)) :
    ∃ st1, execStraight c la prologue st = .ok st1 ∧ AfterPrologueM st st1 m h := by
  have R := st.rel_view E.size
  have hv : ∀ r : Nat, r < 16 → st.regs[r]? = some (st.view.reg r) := R.regs
  have hsp : st.view.reg 0 = some (BitVec.ofNat 64 m) := by
    have := hv 0 (by decide); rw [E.rsp] at this; injection this with e; exact e.symm
  have h7' : st.view.reg 7 = some h := by
    have := hv 7 (by decide); rw [h7] at this; injection this with e; exact e.symm
  obtain ⟨a1, e1, P⟩ := a_prologue (la := la) E.cfg st.view m h hsp E.aligned E.low E.high h7'
  obtain ⟨st1, es, R1, S1⟩ := sim_execList la R e1
  refine ⟨st1, es, ⟨S1, R1.size, ?_, ?_, ?_, ?_, ?_, ?_⟩⟩
  · rw [R1.regs 0 (by decide), P.rsp]
  · rw [R1.regs 2 (by decide), P.heap]
  · rw [R1.regs 3 (by decide), P.free]
  · intro r hr h0 h2 h3
    rw [R1.regs r hr, P.regs r h0 h2 h3, hv r hr]
  · intro k hk
    rw [R1.mem, P.saved k hk, hv _ (csList_lt k hk)]
  · intro n hn
    rw [R1.mem, P.mem n hn]; rfl

/-- prologue_epilogue on the machine: for ANY body result `st2` that has `rsp` where the prologue put
    it and the save area and everything above it unchanged, the epilogue ends with `rsp` and the six
    callee-saved registers at their entry values and the caller's stack intact. -/
theorem prologue_epilogue_machine {st0 st1 st2 : State} {m : Nat} {h : Word} (E : EntryOK c st0 m)
    (P : AfterPrologueM st0 st1 m h)
    (hsize : st2.regs.size = 16)
    (hbody_rsp : st2.regs[0]? = st1.regs[0]?)
    (hbody_mem : ∀ n, m - 48 ≤ n → st2.stackMem[n]? = st1.stackMem[n]?) :
    ∃ st3, execStraight c la epilogue st2 = .ok st3 ∧ Same st2 st3 ∧ st3.regs.size = 16 ∧
      st3.regs[0]? = some (some (BitVec.ofNat 64 m)) ∧
      (∀ r, r ∈ [2, 3, 12, 13, 14, 15] → st3.regs[r]? = st0.regs[r]?) ∧
      (∀ r : Nat, r < 16 → r ≠ 0 → r ∉ [2, 3, 12, 13, 14, 15] → st3.regs[r]? = st2.regs[r]?) ∧
      (∀ n, m ≤ n → st3.stackMem[n]? = st0.stackMem[n]?) := by
  have R2 := st2.rel_view hsize
  have hsp2 : st2.view.reg 0 = some (BitVec.ofNat 64 (m - 2096)) := by
    have := R2.regs 0 (by decide); rw [hbody_rsp, P.rsp] at this; injection this with e; exact e.symm
  obtain ⟨a3, e3, E3⟩ := a_epilogue (la := la) E.cfg st2.view m hsp2 E.aligned E.low E.high
  obtain ⟨st3, es, R3, S3⟩ := sim_execList la R2 e3
  refine ⟨st3, es, S3, R3.size, ?_, ?_, ?_, ?_⟩
  · rw [R3.regs 0 (by decide), E3.rsp]
  · intro r hr
    obtain ⟨k, hk, rfl⟩ := List.getElem_of_mem hr
    have hk6 : k < 6 := hk
    have hlow := E.low
    rw [R3.regs _ (csList_lt k hk), E3.restored k hk, ← P.saved k hk, ← hbody_mem _ (by omega)]
    rfl
  · intro r hr h0 hnot
    rw [R3.regs r hr, E3.regs r h0 hnot, ← R2.regs r hr]
  · intro n hn
    have hlow := E.low
    rw [R3.mem, E3.mem]
    show st2.stackMem[n]? = _
    rw [hbody_mem n (by omega), P.mem n (fun k hk => by omega)]

/-- the exit check succeeds: `ret` at the entry `rsp`, return sentinel on the stack, callee-saved
    registers at their sentinels, a defined result in `rax`. -/
theorem retCheck_ok (hc : CfgOK c) {st : State} {v : Word} (h16 : c.stackTop % 8 = 0)
    (hroom : c.stackLow + 8 ≤ c.stackTop)
    (hsp : st.regs[0]? = some (some (BitVec.ofNat 64 (c.stackTop - 8))))
    (hret : st.stackMem[c.stackTop - 8]? = some retSentinel)
    (hcs : ∀ r ∈ calleeSaved, st.regs[r]? = some (some (calleeSentinel r)))
    (hrax : st.regs[4]? = some (some v)) :
    retCheck c st = .ok v := by
  have ht := hc.top
  have hb := hc.heapBelow
  have hlt : c.stackTop - 8 < 2 ^ 64 := by omega
  have e : (BitVec.ofNat 64 (c.stackTop - 8)).toNat = c.stackTop - 8 := by
    simp [BitVec.toNat_ofNat, Nat.mod_eq_of_lt hlt]
  have hload : loadWord c st (BitVec.ofNat 64 (c.stackTop - 8)) = .ok retSentinel := by
    have h1 : (c.stackTop - 8) % 8 = 0 := by omega
    have h2 : inHeap c (c.stackTop - 8) = false := by
      unfold inHeap; rw [Bool.and_eq_false_iff]; right; rw [decide_eq_false_iff_not]; omega
    have h3 : inStack c (c.stackTop - 8) = true := by
      unfold inStack; rw [Bool.and_eq_true, decide_eq_true_eq, decide_eq_true_eq]; omega
    simp [loadWord, loadWordRaw, e, h1, h2, h3, hret]
  have hfind : calleeSaved.find? (fun r => st.regs[r]? != some (some (calleeSentinel r))) = none := by
    rw [List.find?_eq_none]
    intro r hr
    simp [hcs r hr]
  simp only [retCheck, rd, hsp, hload, hrax, hfind, e]
  simp
  omega

/-- print_alignment on the machine, FOR EVERY CONTEXT: from a statement boundary with
    `rsp ≡ 8 (mod 16)` the save sequence of `print_i64` ends with `rsp ≡ 0 (mod 16)`, which is what the
    machine's external-call check (`misaligned-call`) demands. -/
theorem print_alignment_machine (hc : CfgOK c) (ctx : Scc.AxCut.Ctx) {st : State} {m : Nat}
    (hsize : st.regs.size = 16) (hsp : st.regs[0]? = some (some (BitVec.ofNat 64 m)))
    (h16 : m % 16 = 8) (hlow : c.stackLow + 72 ≤ m) (htop : m ≤ c.stackTop) :
    ∃ st' m', execStraight c la (saveCallerSaveRegisters (callerSaveRegistersInfo ctx).1
        (callerSaveRegistersInfo ctx).2) st = .ok st' ∧ Same st st' ∧
      st'.regs[0]? = some (some (BitVec.ofNat 64 m')) ∧ m' % 16 = 0 ∧ m' ≤ m ∧ m ≤ m' + 72 := by
  have R := st.rel_view hsize
  have hsp' : st.view.reg 0 = some (BitVec.ofNat 64 m) := by
    have := R.regs 0 (by decide); rw [hsp] at this; injection this with e; exact e.symm
  obtain ⟨a', m', e, S⟩ := a_save_aligned (la := la) hc ctx st.view m hsp' h16 hlow htop
  obtain ⟨st', es, R', S'⟩ := sim_execList la R e
  exact ⟨st', m', es, S', by rw [R'.regs 0 (by decide), S.rsp], S.aligned, S.below, S.room⟩

end Scc.X86
