/-
  Scc.X86.ConcRun — the STATEMENT BOUNDARIES of the x86-64 run of a program with data types, made explicit: along
  a run of the positional machine, the machine passes (by `stepN`, i.e. without fault) through states related by
  `Rel3` to EVERY state `statesOf` of the run, in order (`BChain`).  The boundaries `Bd` with `step3P`
  (Scc/X86/RefHeapRun.lean) read at them are an instance of Scc/Backend/TrackHeap.lean (`boundaries`), and the run
  is `Track.run` (Scc/Backend/Track.lean).  Before the run: the entry of the closure-aware runs
  (Scc/X86/ConcKEntry.lean) with the data-only relation — at the entry no variable and no field holds a closure.
  `BoundaryOf` is a statement boundary of the machine's run as the property statements name it.
-/
import Scc.X86.ConcInv
import Scc.X86.ConcKEntry
import Scc.Backend.TrackHeap

namespace Scc.X86.Conc

open Scc.AxCut Scc.Backend Scc.Backend.Abs Scc.X86.Ref
open Scc.Backend.Keys
open Scc.Props.C14Generic (LabelSafe)
open Scc.Props.C06Generic (outAfter WithinCapacity Reachable EnoughHeap CodeFits statesOf stopsWithin
  reachable_mem_statesOf)
open Scc.Heap (HState InvS InvW)
open Scc.Heap.Refine (HRef FrLe Room)

/-- from `X` the machine passes through a chain of states (by `stepN`: no fault, no end of the run in
between), one for each positional state of the list, each in relation `Q` to it: `Track.Chain`
(Scc/Backend/Track.lean) with `steps` spelt out for this machine, the form the statements of the run theorems use;
`bchain_of_chain` below turns a `Track.Chain` into it -/
def BChain (mon : MonCfg) (px : X86.Prog) (Q : Pos.State → State → Prop) : List Pos.State → State → Prop
  | [], _ => True
  | st :: rest, X => Q st X ∧ (rest = [] ∨ ∃ n X', stepN mon px n X = .inl X' ∧ BChain mon px Q rest X')

theorem BChain.mem {mon : MonCfg} {px : X86.Prog} {Q : Pos.State → State → Prop} :
    ∀ {sts : List Pos.State} {X : State}, BChain mon px Q sts X → ∀ st ∈ sts,
      ∃ n X', stepN mon px n X = .inl X' ∧ Q st X'
  | [], _, _, st, h => by simp at h
  | s0 :: rest, X, hc, st, h => by
    rcases List.mem_cons.1 h with rfl | h
    · exact ⟨0, X, rfl, hc.1⟩
    · rcases hc.2 with e | ⟨n, X', hn, hc'⟩
      · subst e; simp at h
      · obtain ⟨n', X'', hn', hq⟩ := BChain.mem hc' st h
        exact ⟨n + n', X'', stepN_trans mon px hn hn', hq⟩

theorem BChain.mono {mon : MonCfg} {px : X86.Prog} {Q Q' : Pos.State → State → Prop}
    (hq : ∀ st X, Q st X → Q' st X) :
    ∀ {sts : List Pos.State} {X : State}, BChain mon px Q sts X → BChain mon px Q' sts X
  | [], _, _ => trivial
  | s0 :: rest, X, hc => by
    refine ⟨hq _ _ hc.1, ?_⟩
    rcases hc.2 with e | ⟨n, X', hn, hc'⟩
    · exact Or.inl e
    · exact Or.inr ⟨n, X', hn, BChain.mono hq hc'⟩

theorem BChain.prepend {mon : MonCfg} {px : X86.Prog} {Q : Pos.State → State → Prop} {n : Nat} {X0 X : State}
    (h0 : stepN mon px n X0 = .inl X) :
    ∀ {sts : List Pos.State}, BChain mon px Q sts X → ∀ st ∈ sts, ∃ n' X', stepN mon px n' X0 = .inl X' ∧ Q st X' := by
  intro sts hc st hm
  obtain ⟨n', X', h1, h2⟩ := hc.mem st hm
  exact ⟨n + n', X', stepN_trans mon px h0 h1, h2⟩

abbrev Steps (mon : MonCfg) (px : X86.Prog) (k : Nat) (X Y : State) : Prop := stepN mon px k X = .inl Y

theorem bchain_of_chain {mon : MonCfg} {px : X86.Prog} {Q : Pos.State → State → Prop} :
    ∀ {sts : List Pos.State} {X : State}, Track.Chain (Steps mon px) Q sts X → BChain mon px Q sts X
  | [], _, _ => trivial
  | _ :: _, _, hc => ⟨hc.1, hc.2.imp id fun ⟨n, X', hn, hc'⟩ => ⟨n, X', hn, bchain_of_chain hc'⟩⟩

/-- a statement without closures jumps only by `call` (and allocates what its `let` stores:
`allocArity_of_headData`) -/
theorem isJump_call {s : Stmt} (h : DataStmt s) (hj : K.IsJump s) : ∃ l a, s = .call l a := by
  cases s <;> first | exact ⟨_, _, rfl⟩ | exact hj.elim | exact h.elim

/-- a statement boundary of the run of a program without closures, with the output so far: a typed state of the
positional machine, all of whose successors fit the temporaries, in relation `Rel3` to the machine state -/
structure Bd (F : Frame) (cs : List Code) (P : Program) (hooks : Bool) (prog : AxCut.Prog) (st : Pos.State)
    (acc : List (Bool × Word)) (cfg : Config) (hs : HState) (X : State) : Prop where
  typed : Pos.StateTyped prog st
  cap : ∀ st', Reachable prog st st' → 2 * st'.ctx.length ≤ 266
  rel : Rel3 F cs P hooks prog st cfg hs X
  ok : StmtOK st.stmt
  out : cfg.out = acc

theorem Bd.x3 {F : Frame} {cs : List Code} {P : Program} {hooks : Bool} {prog : AxCut.Prog} {st : Pos.State}
    {acc : List (Bool × Word)} {cfg : Config} {hs : HState} {X : State} (B : Bd F cs P hooks prog st acc cfg hs X) :
    ∃ Γ' ι, X3 F Γ' cfg hs ι X := by
  obtain ⟨Γ', ι, _, _, X3h, _⟩ := B.rel
  exact ⟨Γ', ι, X3h⟩

/-- the statement allocates at most as many blocks as the temporaries hold variables -/
theorem Bd.alloc_le {F : Frame} {cs : List Code} {P : Program} {hooks : Bool} {prog : AxCut.Prog} {st : Pos.State}
    {acc : List (Bool × Word)} {cfg : Config} {hs : HState} {X : State} (B : Bd F cs P hooks prog st acc cfg hs X) :
    K.allocArity st.stmt ≤ 133 := by
  obtain ⟨Γ', ι, hk, _, X3h, _⟩ := B.rel
  have h1 := K.allocArity_le_length B.typed.1
  have h2 := keys_length hk
  have h3 := X3h.cap
  omega

def AtEnd (mon : MonCfg) (px : X86.Prog) (v : Word) (acc : List (Bool × Word)) (XL : State) : Prop :=
  step mon px XL = .inr (.done v) ∧ XL.out = acc

section Run3

variable {F : Frame} (HF : FrameOK F) (h8 : F.c.heapBase % 8 = 0) {mon : MonCfg} (hmon : mon.mach = F.c)
  {px : X86.Prog} {cs pre : List Code} (LA : LoadedA F.c px cs) (hndL : (labs cs).Nodup)
  (hfitX : addrAt F.c.codeBase cs cs.length < 2 ^ 64) (hcs : cs = pre ++ cleanup)
  (hclean : "cleanup" ∉ labs pre) {st0 : State} {h : Word} (E : EntryFacts F st0 h)

include HF h8 hmon LA hndL hfitX hcs hclean E in
theorem boundaries (hooks : Bool) (prog : AxCut.Prog) (c : Nat) (code : List MockOp) (nargs c' : Nat)
    (hcomp : (compile mockSym hooks prog).run c = .ok ((code, nargs), c'))
    (hsafe : LabelSafe prog = true) (htp : LinTypedProg prog) (hfit : CodeFits code)
    (DX : XDefsAt cs hooks prog) (hprog : ProgOK prog) :
    Track.Boundaries (Steps mon px) prog (Bd F cs (Program.ofOps code) hooks prog) (AtEnd mon px) F.c.heapBase
      F.c.heapBytes where
  refl _ := rfl
  trans := stepN_trans mon px
  witness B := by
    obtain ⟨_, _, X3h⟩ := B.x3
    obtain ⟨lin, lazy, live, Fr, I⟩ := X3h.href.conc
    exact ⟨_, lin, lazy, live, Fr, I⟩
  hbase B := by obtain ⟨_, _, X3h⟩ := B.x3; exact X3h.hrel.base
  hlimit B := by obtain ⟨_, _, X3h⟩ := B.x3; exact X3h.hrel.limit
  next := by
    intro st acc cfg hs X st' o B hheap hroom hst
    have hsim := step3P HF h8 hmon LA hndL hfitX hcs hclean E hooks prog c code nargs c' hcomp hsafe hfit
      DX hprog st cfg hs X B.rel B.typed hheap B.ok (by rw [← allocArity_of_headData (headData_of_data B.ok.1)]; exact hroom)
    have hsafe' := Pos.step_safe htp st B.typed
    unfold StepSim3P at hsim
    simp only [hst] at hsim
    rw [hst] at hsafe'
    have hc' := B.cap st' (Reachable.step Reachable.refl hst)
    obtain ⟨cfg', hs', X', n, h1, hpr, h2, h3, hfr, hpk, R', hok'⟩ := hsim (withinCapacity_of_le hc') hc'
    rw [← allocArity_of_headData (headData_of_data B.ok.1)] at hfr
    exact ⟨cfg', hs', n, X', h1, ⟨hsafe', fun st'' hr => B.cap st'' (Scc.Props.C06Generic.reachable_prepend hst hr), R',
      hok', by rw [h2, B.out]⟩, h3, hfr, hpk, fun hj => by
        obtain ⟨l, a, e⟩ := isJump_call B.ok.1 hj
        exact hpr l a e⟩
  done := by
    intro st acc cfg hs X v B hheap hroom hst
    have hsim := step3P HF h8 hmon LA hndL hfitX hcs hclean E hooks prog c code nargs c' hcomp hsafe hfit
      DX hprog st cfg hs X B.rel B.typed hheap B.ok (by rw [← allocArity_of_headData (headData_of_data B.ok.1)]; exact hroom)
    unfold StepSim3P at hsim
    simp only [hst] at hsim
    obtain ⟨n, XL, h1, h2, h3⟩ := hsim
    exact ⟨n, XL, h1, h2, by rw [h3, B.out]⟩

end Run3

/-- `ConcK.Entry` (Scc/X86/ConcKEntry.lean, where the parameters are explained) for the data-only relations
`Rel3` and `XDefsAt` -/
structure Entry (p : AxCut.Prog) (args : List Word) (hooks : Bool) (routine : List Code) (d0 : Def)
    (ops : List MockOp) (cfg : MonCfg) (items : List (Code × Nat)) (F : Frame) (pre : List Code)
    (st0 : State) (h : Word) (n0 : Nat) (X0 : State) (a : Nat) : Prop where
  fc : F.c = cfg.mach
  frame : FrameOK F
  loaded : LoadedA F.c (mkProg cfg.mach items) routine
  split : routine = pre ++ cleanup
  clean : "cleanup" ∉ labs pre
  entry : EntryFacts F st0 h
  defs : XDefsAt routine hooks p
  main : (mkProg cfg.mach items).labelIdx["asm_main"]? = some 6
  steps : stepN cfg (mkProg cfg.mach items) n0 (initState cfg.mach args 6) = .inl X0
  rel : Rel3 F routine (Program.ofOps ops) hooks p ⟨d0.ctx, args.map .int, d0.body⟩ (initConfig a args)
    (Scc.Heap.init F.c.heapBase (F.c.heapBase + F.c.heapBytes)) X0
  next1 : (initConfig a args).next = 1
  typed : Pos.StateTyped p ⟨d0.ctx, args.map .int, d0.body⟩
  nargs : args.length ≤ 5

/-- `ConcK.entry_setup` for the data-only relation -/
theorem entry_setup (p : AxCut.Prog) (args : List Word) (hooks : Bool) (body routine : List Code)
    (nargs : Nat) (d0 : Def) (ops : List MockOp) (c' : Nat)
    (hsafe : LabelSafe p = true) (htp : LinTypedProg p)
    (hcompM : (compile mockSym hooks p).run 0 = .ok ((ops, nargs), c'))
    (hcompX : compileX86 p hooks 0 = .ok (body, nargs)) (hrout : intoRoutine body nargs = .ok routine)
    (hnd : (labs routine).Nodup)
    (hd : p.defs.head? = some d0) (hentry : ∀ b ∈ d0.ctx, b.chi = .ext ∧ b.ty = .i64)
    (hlen : d0.ctx.length = args.length) (hc0 : 2 * d0.ctx.length ≤ 266)
    (cfg : MonCfg) (MO : MachOK cfg.mach)
    (hb0 : 0 < cfg.mach.heapBase) (hbytes : 128 ≤ cfg.mach.heapBytes)
    (items : List (Code × Nat)) (hitems : (items.map (·.1)).map stripC = routine.map stripC) :
    ∃ F pre st0 h n0 X0 a, Entry p args hooks routine d0 ops cfg items F pre st0 h n0 X0 a := by
  obtain ⟨F, pre, st0, h, n0, X0, a, En⟩ := ConcK.entry_setup p args hooks body routine nargs d0 ops c' hsafe htp hcompM
    hcompX hrout hnd hd hentry hlen hc0 cfg MO hb0 hbytes items hitems
  obtain ⟨Γ', ι, κ, hk, RX, X3h, _, hcode⟩ := En.rel
  -- at the entry no variable and no field holds a closure
  have S : Ref.Same F Γ' (initConfig a args) κ X0 := by
    refine ⟨fun i hi _ hc _ => ?_, fun id o hg => by cases hg⟩
    have hchi := keys_chi hk
    have e : Γ'[i].chi = (d0.ctx[i]'(by rw [← keys_length hk]; exact hi)).chi := by
      have := congrArg (fun l => l[i]?) hchi
      simpa [List.getElem?_eq_getElem hi, List.getElem?_eq_getElem (show i < d0.ctx.length by
        rw [← keys_length hk]; exact hi)] using this
    rw [e, (hentry _ (List.getElem_mem _)).1] at hc
    cases hc
  exact ⟨F, pre, st0, h, n0, X0, a, En.fc, En.frame, En.loaded, En.split, En.clean, En.entry, En.defs, En.main,
    En.steps, ⟨Γ', ι, hk, RX, X3h.toData S, hcode⟩, En.next1, En.typed, En.nargs⟩

section EntryRun

variable {p : AxCut.Prog} {args : List Word} {hooks : Bool} {routine : List Code} {d0 : Def} {ops : List MockOp}
  {cfg : MonCfg} {items : List (Code × Nat)} {F : Frame} {pre : List Code} {st0 : State} {h : Word} {n0 : Nat}
  {X0 : State} {a : Nat} (En : Entry p args hooks routine d0 ops cfg items F pre st0 h n0 X0 a)

include En in
theorem Entry.boundaries (hb8 : cfg.mach.heapBase % 8 = 0) (hnd : (labs routine).Nodup)
    (hfitX : addrAt cfg.mach.codeBase routine routine.length < 2 ^ 64) {nargs c' : Nat}
    (hcompM : (compile mockSym hooks p).run 0 = .ok ((ops, nargs), c')) (hsafe : LabelSafe p = true)
    (htp : LinTypedProg p) (hfit : CodeFits ops) (hprog : ProgOK p) :
    Track.Boundaries (Steps cfg (mkProg cfg.mach items)) p (Bd F routine (Program.ofOps ops) hooks p)
      (AtEnd cfg (mkProg cfg.mach items)) cfg.mach.heapBase cfg.mach.heapBytes := by
  have hFc := En.fc
  have := Conc.boundaries En.frame (by rw [hFc]; exact hb8) hFc.symm En.loaded hnd (by rw [hFc]; exact hfitX) En.split
    En.clean En.entry hooks p 0 ops nargs c' hcompM hsafe htp hfit En.defs hprog
  rwa [hFc] at this

include En in
theorem Entry.bd (hcap : ∀ st, Reachable p ⟨d0.ctx, args.map .int, d0.body⟩ st → 2 * st.ctx.length ≤ 266)
    (hprog : ProgOK p) (hmem : d0 ∈ p.defs) :
    Bd F routine (Program.ofOps ops) hooks p ⟨d0.ctx, args.map .int, d0.body⟩ [] (initConfig a args)
      (Scc.Heap.init F.c.heapBase (F.c.heapBase + F.c.heapBytes)) X0 :=
  ⟨En.typed, hcap, En.rel, hprog.2 d0 hmem, rfl⟩

end EntryRun

/-- a machine state at a STATEMENT BOUNDARY of the run of the routine: related by the three-way relation
`Rel3` (for the frame of the run) to a state of the positional machine -/
def BoundaryOf (p : AxCut.Prog) (hooks : Bool) (routine : List Code) (ops : List MockOp) (cfg : MonCfg)
    (st : Pos.State) (X : State) : Prop :=
  ∃ (F : Frame) (cfgA : Config) (hs : HState), F.c = cfg.mach ∧
    Rel3 F routine (Program.ofOps ops) hooks p st cfgA hs X

/-- THE HEAP INVARIANT AT EVERY STATEMENT BOUNDARY: a machine state related by `Rel3` to a positional state
satisfies the monitor's predicate for the kinds of that state's context -/
theorem heapInvAt_of_boundary {p : AxCut.Prog} {hooks : Bool} {routine : List Code} {ops : List MockOp}
    {cfg : MonCfg} (hk : cfg.consts = consts) {st : Pos.State} {X : State}
    (B : BoundaryOf p hooks routine ops cfg st X) :
    HeapInvAt cfg X (ctxKinds st.ctx) (cfg.mach.heapBase + cfg.mach.heapBytes) := by
  obtain ⟨F, cfgA, hs, hFc, Γ', ι, hkeys, RX, X3h, _⟩ := B
  have := (heapInvAt_of_x3 (m := cfg) hFc.symm hk RX X3h).1
  rw [ctxKinds_keys hkeys, hFc] at this
  exact this

/-- the whole run from the machine's initial state: the machine passes through a boundary state for EVERY
state of the terminating run of the positional machine, in order, and ends the run with its result and output -/
theorem data_programs_chain (p : AxCut.Prog) (args : List Word) (hooks : Bool) (body routine : List Code)
    (nargs : Nat) (d0 : Def) (ops : List MockOp) (c' : Nat)
    (hsafe : LabelSafe p = true) (htp : LinTypedProg p) (hprog : ProgOK p)
    (hcompM : (compile mockSym hooks p).run 0 = .ok ((ops, nargs), c')) (hfit : CodeFits ops)
    (hcompX : compileX86 p hooks 0 = .ok (body, nargs)) (hrout : intoRoutine body nargs = .ok routine)
    (hnd : (labs routine).Nodup)
    (hd : p.defs.head? = some d0) (hentry : ∀ b ∈ d0.ctx, b.chi = .ext ∧ b.ty = .i64)
    (hcap : ∀ st, Reachable p ⟨d0.ctx, args.map .int, d0.body⟩ st → 2 * st.ctx.length ≤ 266)
    (fuel : Nat) (out : List (Bool × Word)) (v : Word) (hfuel : fuel + 1 < 2 ^ 64)
    (hrun : Pos.run p args fuel = ⟨out, .done v⟩)
    (cfg : MonCfg) (MO : MachOK cfg.mach)
    (hb8 : cfg.mach.heapBase % 8 = 0) (hb0 : 0 < cfg.mach.heapBase)
    (hbytes : 128 + 64 * 134 * fuel ≤ cfg.mach.heapBytes)
    (items : List (Code × Nat)) (hitems : (items.map (·.1)).map stripC = routine.map stripC)
    (hfitX : addrAt cfg.mach.codeBase routine routine.length < 2 ^ 64) :
    (mkProg cfg.mach items).labelIdx["asm_main"]? = some 6 ∧
    ∃ n0 X0, stepN cfg (mkProg cfg.mach items) n0 (initState cfg.mach args 6) = .inl X0 ∧
      BChain cfg (mkProg cfg.mach items) (BoundaryOf p hooks routine ops cfg)
        (statesOf p fuel ⟨d0.ctx, args.map .int, d0.body⟩) X0 ∧
      stopsWithin p fuel ⟨d0.ctx, args.map .int, d0.body⟩ = true ∧
      (∃ n XL, stepN cfg (mkProg cfg.mach items) n X0 = .inl XL ∧
        step cfg (mkProg cfg.mach items) XL = .inr (.done v) ∧ XL.out.reverse = out) ∧
      args.length ≤ 5 := by
  have hmem : d0 ∈ p.defs := List.mem_of_mem_head? hd
  obtain ⟨_, hlen, hrun'⟩ := Scc.Props.C06Generic.run_entry hd hrun ⟨_, rfl⟩
  have hc0 := hcap _ Reachable.refl
  simp only at hc0
  obtain ⟨F, pre, st0, h, n0, X0, a, En⟩ := entry_setup p args hooks body routine nargs d0 ops c' hsafe htp
    hcompM hcompX hrout hnd hd hentry hlen hc0 cfg MO hb0 (by omega) items hitems
  have hFc := En.fc
  have H := En.boundaries hb8 hnd hfitX hcompM hsafe htp hfit hprog
  have I0 : Track.RoomRun (Bd F routine (Program.ofOps ops) hooks p) 133 (fuel + 0) ⟨d0.ctx, args.map .int, d0.body⟩ []
      X0 := ⟨_, _, En.bd hcap hprog hmem, by rw [En.next1]; omega,
    Scc.Heap.Refine.room_init (by rw [hFc]; exact hb0) (by rw [hFc]; omega) (by rw [hFc]; omega)⟩
  obtain ⟨n, XL, accL, g1, hout, g2, g3⟩ := Track.room_done H (fun B => B.alloc_le) I0 hrun'
  refine ⟨En.main, n0, X0, En.steps, ?_, Track.stopsWithin_of_done p fuel _ _ _ _ hrun', ⟨n, XL, g1, g2, by rw [g3, hout]⟩,
    En.nargs⟩
  exact bchain_of_chain (((Track.roomTrack H fun B => B.alloc_le).run fuel 0 _ _ _ I0).1.mono
    fun st X ⟨_, _, cfgA, hs, B, _⟩ => ⟨F, cfgA, hs, hFc, B.rel⟩)

end Scc.X86.Conc

namespace Scc.X86.Ref

open Scc.AxCut Scc.Backend
open Scc.Props.C14Generic (LabelSafe)
open Scc.Props.C06Generic (Reachable CodeFits)

/-- END TO END for programs with data types (no closures), on the ITEMS of the emitted routine: a
terminating run of the AxCut positional machine is reproduced — same trace, same result — by the x86-64
SPEC machine started at `asm_main` on any item list that agrees with the emitted routine up to the text
of comments. -/
theorem data_programs_items (p : AxCut.Prog) (args : List Word) (hooks : Bool) (body routine : List Code)
    (nargs : Nat) (d0 : Def) (ops : List MockOp) (c' : Nat)
    (hsafe : LabelSafe p = true) (htp : LinTypedProg p) (hprog : ProgOK p)
    (hcompM : (compile mockSym hooks p).run 0 = .ok ((ops, nargs), c')) (hfit : CodeFits ops)
    (hcompX : compileX86 p hooks 0 = .ok (body, nargs)) (hrout : intoRoutine body nargs = .ok routine)
    (hnd : (labs routine).Nodup)
    (hd : p.defs.head? = some d0) (hentry : ∀ b ∈ d0.ctx, b.chi = .ext ∧ b.ty = .i64)
    (hcap : ∀ st, Reachable p ⟨d0.ctx, args.map .int, d0.body⟩ st → 2 * st.ctx.length ≤ 266)
    (fuel : Nat) (out : List (Bool × Word)) (v : Word) (hfuel : fuel + 1 < 2 ^ 64)
    (hrun : Pos.run p args fuel = ⟨out, .done v⟩)
    (cfg : MonCfg) (MO : MachOK cfg.mach) (hheap : cfg.heap = false)
    (hb8 : cfg.mach.heapBase % 8 = 0) (hb0 : 0 < cfg.mach.heapBase)
    (hbytes : 128 + 64 * 134 * fuel ≤ cfg.mach.heapBytes)
    (items : List (Code × Nat)) (hitems : (items.map (·.1)).map stripC = routine.map stripC)
    (hfitX : addrAt cfg.mach.codeBase routine routine.length < 2 ^ 64) :
    ∃ fuel', (runItems items args fuel' cfg).out = out ∧ (runItems items args fuel' cfg).res = .done v := by
  obtain ⟨hlabI, n0, X0, h0, _, _, ⟨n, XL, g1, g2, g3⟩, hargs⟩ :=
    Conc.data_programs_chain p args hooks body routine nargs d0 ops c' hsafe htp hprog hcompM hfit hcompX hrout hnd hd
      hentry hcap fuel out v hfuel hrun cfg MO hb8 hb0 hbytes items hitems hfitX
  refine ⟨n0 + (n + 1), ?_⟩
  have hrl : runItems items args (n0 + (n + 1)) cfg =
      runLoop cfg (mkProg cfg.mach items) (n0 + (n + 1)) (initState cfg.mach args 6) 0 := by
    unfold runItems
    simp only [hlabI]
    rw [if_neg (by omega)]
  rw [hrl, runLoop_stepN hheap _ n0 (n + 1) _ _ 0 h0, runLoop_stepN hheap _ n 1 _ _ 0 g1]
  obtain ⟨h1, h2⟩ := runLoop_done hheap (mkProg cfg.mach items) 0 XL 0 g2
  exact ⟨by rw [h1]; exact g3, h2⟩

end Scc.X86.Ref
