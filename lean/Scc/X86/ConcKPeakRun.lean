/-
  Scc.X86.ConcKPeakRun — THE FOOTPRINT BOUND OF C10 ON THE x86-64 RUNS OF ALL PROGRAMS (data types and closures).
  If at no statement boundary of the run more than `Pk` blocks are in use (`PeakFrom`), the allocation frontier
  never rises above `Pk + 1` blocks, so a heap of `64·(Pk + A + 2)` bytes is enough for a run of ANY length,
  `A` = the largest number of fields of a `let` / of variables captured by a `create` of the program
  (`K.AllocLe A`: a closure environment is stored by the same `Memory::store` as the fields of an object).
  The invariant and its step are those of `Scc/Backend/TrackHeap.lean` (`PeakInv`, `PeakInv.step`, `peakTrack`) for
  the boundaries `ConcK.boundaries`; this file names the instance and the relation of its chains (`ChainRel`).
-/
import Scc.X86.ConcKRun

namespace Scc.X86.ConcK

open Scc.AxCut Scc.Backend Scc.Backend.Abs Scc.X86.Ref
open Scc.Props.C14Generic (LabelSafe)
open Scc.Props.C06Generic (outAfter WithinCapacity Reachable EnoughHeap CodeFits statesOf stopsWithin)
open Scc.Heap (HState InvS InvW Exhausted)
open Scc.Heap.Refine (HRef FrLe Room FrPk)
open Scc.X86.Conc (Steps FrBound LiveLe0)

/-- THE PEAK HYPOTHESIS (`Scc/Backend/TrackHeap.lean`) at the boundaries of the x86-64 run: at every statement
boundary the machine reaches from `X` (up to labels and comments, `Tol`; with at most `C` blocks below the
frontier), at most `Pk` blocks are in use -/
abbrev PeakFrom (F : Frame) (mon : MonCfg) (px : X86.Prog) (cs : List Code) (P : Program) (hooks : Bool)
    (prog : AxCut.Prog) : Pos.State → State → Nat → Nat → Prop :=
  Track.PeakFrom (Steps mon px) prog (BdAt F cs P hooks prog)

/-- … and what the runs under the footprint bound keep at a boundary -/
abbrev PeakInv (F : Frame) (mon : MonCfg) (px : X86.Prog) (cs : List Code) (P : Program) (hooks : Bool)
    (prog : AxCut.Prog) :
    Nat → Nat → Nat → Pos.State → List (Bool × Word) → Config → HState → State → Nat → Prop :=
  Track.PeakInv (Steps mon px) prog (BdAt F cs P hooks prog)

/-- the relation of the chains under the footprint bound: a boundary state, with the two bounds on the frontier -/
def ChainRel (F : Frame) (cs : List Code) (P : Program) (hooks : Bool) (prog : AxCut.Prog) (Pk C : Nat)
    (st : Pos.State) (X : State) : Prop :=
  ∃ X0 cfg hs, Tol cs X0 X ∧ K.Rel3 F cs P hooks prog st cfg hs X0 ∧ FrBound hs (Pk + 1) ∧ FrBound hs C

theorem chainRel_of_peakRun {F : Frame} {mon : MonCfg} {px : X86.Prog} {cs : List Code} {P : Program} {hooks : Bool}
    {prog : AxCut.Prog} {A Pk C : Nat} (st : Pos.State) (X : State)
    (h : ∃ r acc, Track.PeakRun (Steps mon px) prog (BdAt F cs P hooks prog) A Pk C r st acc X) :
    ChainRel F cs P hooks prog Pk C st X := by
  obtain ⟨_, _, cfg, hs, Cb, I, _, hC⟩ := h
  obtain ⟨X0, B, _⟩ := I.bd
  exact ⟨X0, cfg, hs, B.tol, B.rel, I.fb, fun rs lin lazy live F J => by have := I.cb rs lin lazy live F J; omega⟩

end Scc.X86.ConcK
