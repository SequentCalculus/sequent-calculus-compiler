/-
  Scc.X86.ConcKMon — THE HEAP MONITOR NEVER REPORTS, on the run of the machine from `asm_main`, ALL PROGRAMS (data
  types and closures), every amount of machine fuel, terminating or not (`programs_monitor`): the runs with the
  monitor (`monTrack`, `MonRun.done`, ConcKMRun.lean) with the entry (`entry_setupM`, ConcKEntry.lean: the states of
  the header are not at `#ctx` comments) and the run loop (`runLoop_no_invFail`).  The two hypotheses about the run
  (`MonFrom`, ConcKMRun.lean) are stated here on the machine's run from its initial state (`HooksParse`,
  `WindowOK B`, at the states in relation `K.Rel3` exactly: `ExactBoundary`).  The window hypothesis holds for
  `B ≤ 7`; the hooks parse if no hook of the routine lists more than one variable (`hooksOneVar`, decidable: then
  a blank inside a name would show up in the comment).
-/
import Scc.X86.ConcKMRun
import Scc.X86.ConcKAllFuel

namespace Scc.X86.ConcK

open Scc.AxCut Scc.Backend Scc.Backend.Abs Scc.X86.Ref
open Scc.Str
open Scc.Props.C14Generic (LabelSafe)
open Scc.Props.C06Generic (outAfter WithinCapacity Reachable EnoughHeap CodeFits statesOf stopsWithin)
open Scc.Heap (HState InvS InvW Exhausted)
open Scc.Heap.Refine (HRef FrLe Room FrPk)
open Scc.X86.Conc (BChain FrBound LiveLe LiveLe0 HeapShapeAt ctxKinds stmtSize clausesSize stmtSize_pos
  run_eq_runState post_first_hook ctxKinds_keys parseCtx_hook valsFields weight_ge)

/-- the machine state `X` is AT the statement boundary of the positional state `st` (hooks on): in relation
`K.Rel3`, not moved over labels and comments — its program counter is at the `#ctx` hook of the statement -/
def ExactBoundary (p : AxCut.Prog) (routine : List Code) (ops : List MockOp) (cfg : MonCfg) (st : Pos.State)
    (X : State) : Prop :=
  ∃ (F : Frame) (cfgA : Config) (hs : HState), F.c = cfg.mach ∧
    K.Rel3 F routine (Program.ofOps ops) true p st cfgA hs X

/-- THE HOOKS PARSE: at every statement boundary of the machine's run (from `asm_main`) the monitor's parser reads
the kinds of the positional state's context from the comment at the program counter -/
def HooksParse (p : AxCut.Prog) (routine : List Code) (ops : List MockOp) (cfg : MonCfg)
    (items : List (Code × Nat)) (args : List Word) (st0 : Pos.State) : Prop :=
  ∀ n X st, Reachable p st0 st → stepN cfg (mkProg cfg.mach items) n (initState cfg.mach args 6) = .inl X →
    ExactBoundary p routine ops cfg st X →
    ∀ msg, routine[X.pc]? = some (Code.COMMENT msg) → parseCtx msg = some (ctxKinds st.ctx)

/-- THE WINDOW HYPOTHESIS: at every statement boundary of the machine's run with at most `B` blocks
below the frontier, the frontier block lies at most 512 bytes above the highest heap address written -/
def WindowOK (p : AxCut.Prog) (routine : List Code) (ops : List MockOp) (cfg : MonCfg)
    (items : List (Code × Nat)) (args : List Word) (B : Nat) : Prop :=
  ∀ n X st, stepN cfg (mkProg cfg.mach items) n (initState cfg.mach args 6) = .inl X →
    ExactBoundary p routine ops cfg st X → ∀ below inUse, HeapShapeAt cfg X below inUse → below ≤ B →
    64 * below + 64 ≤ X.maxHeapWritten + 512

/-- while at most 7 blocks lie below the frontier, the frontier block is inside the window whatever was written -/
theorem windowOK_small (p : AxCut.Prog) (routine : List Code) (ops : List MockOp) (cfg : MonCfg)
    (items : List (Code × Nat)) (args : List Word) {B : Nat} (hB : B ≤ 7) :
    WindowOK p routine ops cfg items args B := by
  intro n X st _ _ below inUse _ hb
  omega

/-- the hooks parse if the printer/parser round trip holds for every context whose hook is in the routine -/
theorem hooksParse_of_hparse {p : AxCut.Prog} {routine : List Code} {ops : List MockOp} {cfg : MonCfg}
    {items : List (Code × Nat)} {args : List Word} {st0 : Pos.State}
    (hparse : ∀ Γ, Code.COMMENT (ctxHookComment Γ) ∈ routine → parseCtx (ctxHookComment Γ) = some (ctxKinds Γ)) :
    HooksParse p routine ops cfg items args st0 := by
  intro n X st _ _ ⟨F, cfgA, hs, hFc, R⟩ msg hmsg
  obtain ⟨Γ', ι, κ, hkeys, RX, X3h, _, k, k', its, hrun, hat⟩ := R
  obtain ⟨rest, hfirst⟩ := post_first_hook natRen p.types st.stmt Γ' k its k' hrun
  obtain ⟨cs1, cs2, hcs, hlen⟩ := hat
  have hget : routine[X.pc]? = some (Code.COMMENT (ctxHookComment Γ')) := by
    rw [hcs, hfirst, ← hlen]
    simp
  rw [hget] at hmsg
  simp only [Option.some.injEq, Code.COMMENT.injEq] at hmsg
  subst hmsg
  rw [hparse Γ' (List.mem_of_getElem? hget), ctxKinds_keys hkeys]

/-- no `#ctx [` comment of the list has a blank behind the bracket: every hook lists at most one variable -/
def hooksOneVar (cs : List Code) : Bool :=
  cs.all fun c =>
    match c with
    | .COMMENT msg => !(msg.toList.take 6 == "#ctx [".toList) || !((msg.toList.drop 6).contains ' ')
    | _ => true

theorem hparse_of_oneVar {routine : List Code} (h1 : hooksOneVar routine = true) :
    ∀ Γ, Code.COMMENT (ctxHookComment Γ) ∈ routine → parseCtx (ctxHookComment Γ) = some (ctxKinds Γ) := by
  intro Γ hmem
  apply parseCtx_hook
  intro b hb hblank
  let W : List String := Γ.map fun b => b.var.print ++ ":" ++ chiStr b.chi
  have hmsg : (ctxHookComment Γ).toList = "#ctx [".toList ++ ((" ".intercalate W).toList ++ [']']) := by
    show ("#ctx [" ++ " ".intercalate W ++ "]").toList = _
    rw [String.toList_append, String.toList_append, List.append_assoc]
    rfl
  unfold hooksOneVar at h1
  rw [List.all_eq_true] at h1
  have := h1 _ hmem
  simp only at this
  have htake : (ctxHookComment Γ).toList.take 6 = "#ctx [".toList := by
    rw [hmsg]; rfl
  have hdrop : (ctxHookComment Γ).toList.drop 6 = (" ".intercalate W).toList ++ [']'] := by
    rw [hmsg]; rfl
  rw [htake, hdrop] at this
  simp only [beq_self_eq_true, Bool.not_true, Bool.false_or, Bool.not_eq_true', List.contains_eq_mem,
    decide_eq_false_iff_not] at this
  apply this
  apply List.mem_append.2
  left
  rw [intercalate_space]
  apply mem_intercalate_of_mem (W.map String.toList) (b.var.print ++ ":" ++ chiStr b.chi).toList
    (List.mem_map.2 ⟨_, List.mem_map.2 ⟨b, hb, rfl⟩, rfl⟩)
  rw [String.toList_append, String.toList_append]
  exact List.mem_append.2 (Or.inl (List.mem_append.2 (Or.inl hblank)))

theorem PassUpto.mono {mon : MonCfg} {px : X86.Prog} {a b : Nat} {X : State} (h : PassUpto mon px b X)
    (hab : a ≤ b) : PassUpto mon px a X :=
  fun t sk ht hsk => h t sk (by omega) hsk

theorem stepN_stop {m : MonCfg} {p : Prog} {k : Nat} {X XL : State} {r : Res} (hk : stepN m p k X = .inl XL)
    (hr : step m p XL = .inr r) : ∀ t sk, k < t → stepN m p t X ≠ .inl sk := by
  intro t sk ht hsk
  rw [stepN_split hk t (by omega)] at hsk
  have e : t - k = (t - k - 1) + 1 := by omega
  rw [e] at hsk
  simp only [stepN, hr] at hsk
  cases hsk

/-- the monitor passes at every state of a run that ends after `k` transitions, whatever the fuel -/
theorem passUpto_of_stop {m : MonCfg} {p : Prog} {k : Nat} {X XL : State} {r : Res}
    (hk : stepN m p k X = .inl XL) (hr : step m p XL = .inr r) (h : PassUpto m p (k + 1) X) (f : Nat) :
    PassUpto m p f X := by
  intro t sk _ hsk
  by_cases hlt : t < k + 1
  · exact h t sk hlt hsk
  · exact absurd hsk (stepN_stop hk hr t sk (by omega))

/-- THE HEAP MONITOR NEVER REPORTS (hooks on; monitor on or off), ALL PROGRAMS, EVERY AMOUNT OF MACHINE FUEL: on the
items of the routine with their comment texts, under the footprint hypothesis of C10 (`PeakHyp`), the two hypotheses
about the run (`HooksParse`, `WindowOK (Pk + 1)`) and `K.AllHF` (the target of an `op` and the label of a `call` do
not start with `#`: their names start comments of the generated code), the run of the machine never ends in a
report `inv:` of the heap monitor — provided the positional machine never gets stuck. -/
theorem programs_monitor (p : AxCut.Prog) (args : List Word) (body routine : List Code)
    (nargs : Nat) (d0 : Def) (ops : List MockOp) (c' : Nat)
    (hsafe : LabelSafe p = true) (htp : LinTypedProg p) (hprog : K.ProgOK p)
    (hcompM : (compile mockSym true p).run 0 = .ok ((ops, nargs), c')) (hfit : CodeFits ops)
    (hcompX : compileX86 p true 0 = .ok (body, nargs)) (hrout : intoRoutine body nargs = .ok routine)
    (hnd : (labs routine).Nodup)
    (hd : p.defs.head? = some d0) (hentry : ∀ b ∈ d0.ctx, b.chi = .ext ∧ b.ty = .i64)
    (hlen : d0.ctx.length = args.length)
    (hcap : ∀ st, Reachable p ⟨d0.ctx, args.map .int, d0.body⟩ st → 2 * st.ctx.length ≤ 266)
    (hnostuck : ∀ fuel w, (Pos.run p args fuel).res ≠ .stuck w)
    (hHF : ∀ d ∈ p.defs, K.AllHF d.body)
    (cfg : MonCfg) (MO : MachOK cfg.mach) (hk : cfg.consts = consts)
    (hb8 : cfg.mach.heapBase % 8 = 0) (hb0 : 0 < cfg.mach.heapBase)
    (Pk A M : Nat) (hA : ∀ d ∈ p.defs, K.AllocLe A d.body) (hM : ∀ d ∈ p.defs, stmtSize d.body ≤ M)
    (hbytes : 64 * (Pk + A + 2) ≤ cfg.mach.heapBytes)
    (items : List (Code × Nat)) (hitems : items.map (·.1) = routine)
    (hfitX : addrAt cfg.mach.codeBase routine routine.length < 2 ^ 64)
    (fuel' : Nat) (hf : fuel' * (M + 1) + stmtSize d0.body + 1 < 2 ^ 64)
    (hPH : PeakHyp p true routine ops cfg items args d0 Pk (A * (fuel' * (M + 1) + stmtSize d0.body) + 1))
    (hHook : HooksParse p routine ops cfg items args ⟨d0.ctx, args.map .int, d0.body⟩)
    (hWin : WindowOK p routine ops cfg items args (Pk + 1)) :
    ∀ what ln, (runItems items args fuel' cfg).res ≠ .invFail what ln := by
  have hmem : d0 ∈ p.defs := List.mem_of_mem_head? hd
  have hc0 := hcap _ Reachable.refl
  simp only at hc0
  obtain ⟨F, pre, st0, h, n0, X0, a, En⟩ := entry_setupM p args true body routine nargs d0 ops c' hsafe htp
    hcompM hcompX hrout hnd hd hentry hlen hc0 cfg MO hb0 (by omega) items (by rw [hitems])
  have hFc := En.fc
  -- the two hypotheses about the run, from the first boundary on
  have hMF : MonFrom F cfg (mkProg cfg.mach items) routine (Program.ofOps ops) true p
      ⟨d0.ctx, args.map .int, d0.body⟩ X0 (Pk + 1) := by
    intro n X' st' cfg' hs' hr hn R
    have hB : ExactBoundary p routine ops cfg st' X' := ⟨F, cfg', hs', hFc, R⟩
    exact ⟨hHook (n0 + n) X' st' hr (stepN_trans cfg _ En.steps hn) hB,
      hWin (n0 + n) X' st' (stepN_trans cfg _ En.steps hn) hB⟩
  have hhdr : PassUpto cfg (mkProg cfg.mach items) n0 (initState cfg.mach args 6) := passUpto_of_midS hitems En.mid
  have T := monTrack En.frame (by rw [hFc]; exact hb8) hFc.symm hk hitems En.loaded hnd (by rw [hFc]; exact hfitX)
    En.split En.clean En.entry p 0 ops nargs c' hcompM hsafe htp hfit En.defs hprog Pk
    (A * (fuel' * (M + 1) + stmtSize d0.body) + 1) A hA hHF (by rw [hFc]; exact hbytes)
  have I0 : MonRun F cfg items routine (Program.ofOps ops) p A Pk _ (fuel' * (M + 1) + stmtSize d0.body)
      ⟨d0.ctx, args.map .int, d0.body⟩ [] X0 :=
    ⟨_, _, X0, 1, ⟨⟨En.typed, hcap, Tol.refl _ _, En.rel, hprog.2 d0 hmem⟩,
      En.toEntry.peakInv hcap hprog hmem hA hb0 hbytes (hPH F n0 X0 hFc En.steps), Or.inl rfl, hHF d0 hmem,
      K.valAll_ints _ args, hMF⟩, by rw [En.next1]; omega, by omega⟩
  -- the monitor passes at the first `fuel'` states of the run
  have hpass : PassUpto cfg (mkProg cfg.mach items) fuel' (initState cfg.mach args 6) := by
    have hrs := run_eq_runState hd hlen (fuel' * (M + 1) + stmtSize d0.body)
    cases hres : Pos.run p args (fuel' * (M + 1) + stmtSize d0.body) with
    | mk out res =>
    cases res with
    | stuck w => exact absurd (by rw [hres]) (hnostuck (fuel' * (M + 1) + stmtSize d0.body) w)
    | done v =>
      rw [hrs] at hres
      obtain ⟨n, XL, _, ⟨g1, hp⟩, _, ⟨g2, _⟩, hpL⟩ := T.run_done (r := 0) (MonRun.done En.frame (by rw [hFc]; exact hb8) hFc.symm hk
        hitems En.loaded hnd (by rw [hFc]; exact hfitX) En.split En.clean En.entry p 0 ops nargs c' hcompM hsafe htp hfit
        En.defs hprog (by rw [hFc]; exact hbytes)) I0 hres
      have hall : PassUpto cfg (mkProg cfg.mach items) (n0 + (n + 1)) (initState cfg.mach args 6) :=
        hhdr.trans En.steps (hp.trans g1 fun t sk ht hsk => by
          have : t = 0 := by omega
          subst this
          simp only [stepN, Sum.inl.injEq] at hsk
          subst hsk
          exact hpL)
      exact passUpto_of_stop (stepN_trans cfg _ En.steps g1) g2 (by rw [Nat.add_assoc]; exact hall) fuel'
    | outOfFuel =>
      rw [hrs] at hres
      obtain ⟨_, _, _, _, n, X, _, ⟨hX, hp⟩, hw, _⟩ := T.run (fuel' * (M + 1) + stmtSize d0.body) 0 _ _ _ I0
      have hn : fuel' ≤ n := Nat.le_trans (weight_ge hM (fuel' * (M + 1) + stmtSize d0.body) fuel'
        ⟨d0.ctx, args.map .int, d0.body⟩ [] (hM d0 hmem) (K.valAll_ints _ args) (by rw [hres]) (Nat.le_refl _)) hw
      exact (hhdr.trans En.steps hp).mono (by omega)
  intro what ln
  have hargs' : ¬ args.length > 5 := by have := En.nargs; omega
  unfold runItems
  simp only [En.main]
  rw [if_neg hargs']
  exact runLoop_no_invFail cfg _ fuel' _ 0 hpass what ln

/-- … with the room hypothesis on the SOURCE PROGRAM (`valsFields st.env ≤ D` for every reachable state: the
object and closure values held by the variables have at most `D` fields) -/
theorem programs_monitor_size (p : AxCut.Prog) (args : List Word) (body routine : List Code)
    (nargs : Nat) (d0 : Def) (ops : List MockOp) (c' : Nat)
    (hsafe : LabelSafe p = true) (htp : LinTypedProg p) (hprog : K.ProgOK p)
    (hcompM : (compile mockSym true p).run 0 = .ok ((ops, nargs), c')) (hfit : CodeFits ops)
    (hcompX : compileX86 p true 0 = .ok (body, nargs)) (hrout : intoRoutine body nargs = .ok routine)
    (hnd : (labs routine).Nodup)
    (hd : p.defs.head? = some d0) (hentry : ∀ b ∈ d0.ctx, b.chi = .ext ∧ b.ty = .i64)
    (hlen : d0.ctx.length = args.length)
    (hcap : ∀ st, Reachable p ⟨d0.ctx, args.map .int, d0.body⟩ st → 2 * st.ctx.length ≤ 266)
    (hnostuck : ∀ fuel w, (Pos.run p args fuel).res ≠ .stuck w)
    (hHF : ∀ d ∈ p.defs, K.AllHF d.body)
    (D : Nat) (hD : ∀ st, Reachable p ⟨d0.ctx, args.map .int, d0.body⟩ st → valsFields st.env ≤ D)
    (cfg : MonCfg) (MO : MachOK cfg.mach) (hk : cfg.consts = consts)
    (hb8 : cfg.mach.heapBase % 8 = 0) (hb0 : 0 < cfg.mach.heapBase)
    (A M : Nat) (hA : ∀ d ∈ p.defs, K.AllocLe A d.body) (hM : ∀ d ∈ p.defs, stmtSize d.body ≤ M)
    (hbytes : 64 * (D + A + 2) ≤ cfg.mach.heapBytes)
    (items : List (Code × Nat)) (hitems : items.map (·.1) = routine)
    (hfitX : addrAt cfg.mach.codeBase routine routine.length < 2 ^ 64)
    (fuel' : Nat) (hf : fuel' * (M + 1) + stmtSize d0.body + 1 < 2 ^ 64)
    (hHook : HooksParse p routine ops cfg items args ⟨d0.ctx, args.map .int, d0.body⟩)
    (hWin : WindowOK p routine ops cfg items args (D + 1)) :
    ∀ what ln, (runItems items args fuel' cfg).res ≠ .invFail what ln :=
  programs_monitor p args body routine nargs d0 ops c' hsafe htp hprog hcompM hfit hcompX hrout hnd hd hentry hlen
    hcap hnostuck hHF cfg MO hk hb8 hb0 D A M hA hM hbytes items hitems hfitX fuel' hf (peakHyp_of_data hD) hHook hWin

end Scc.X86.ConcK
