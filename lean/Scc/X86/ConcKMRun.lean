/-
  Scc.X86.ConcKMRun — THE HEAP MONITOR ALONG THE RUN: every machine state the run visits passes the heap monitor
  (at the boundaries and strictly between them), for ALL programs (data types and closures).
  A statement boundary `X0` (exact: `K.Rel3`) passes inside the monitor's window (`monitor_boundary_at`, from
  `Conc.monitor_x3`); the states strictly between two boundaries are not at `#ctx` comments (`Mid`, from
  `K.step3M`), so the monitor does not look (`monitor_not_ctx`); the state reached by the `jmp reg` of an `invoke`
  is not at a comment.  `monTrack` carries this along the run by transitions on which the monitor passes
  (`StepsP`; `Track.run`, Scc/Backend/Track.lean), `MonRun.done` to the final `ret`.
  TWO HYPOTHESES ABOUT THE RUN are made (`MonFrom`): the WINDOW of the monitor (the frontier block lies
  within 512 bytes above the highest heap address written — a fact about the write history that the simulation
  does not track; trivial while at most 7 blocks lie below the frontier) and THE HOOK AT THE PROGRAM COUNTER
  PARSES to the kinds of the positional state's context (true when variable names have no blanks; the relation
  `K.Rel3` does not track the names of the generator's context).
-/
import Scc.AxCut.PosProgress
import Scc.X86.ConcKPeakRun
import Scc.X86.ConcKHook

set_option linter.unusedVariables false

namespace Scc.X86.ConcK

open Scc.Backend.Track (Track Chain weight Ends)

open Scc.AxCut Scc.Backend Scc.Backend.Abs Scc.X86.Ref
open Scc.Props.C14Generic (LabelSafe)
open Scc.Props.C06Generic (outAfter WithinCapacity Reachable EnoughHeap CodeFits statesOf stopsWithin)
open Scc.Heap (HState InvS InvW Exhausted)
open Scc.Heap.Refine (HRef FrLe Room FrPk)
open Scc.X86.Conc (Steps AtEnd bchain_of_chain BChain FrBound LiveLe LiveLe0 HeapShapeAt ctxKinds stmtSize clausesSize stmtSize_pos heapCheck_ok
  post_first_hook ctxKinds_keys memFn)

def MonPass (mon : MonCfg) (px : X86.Prog) (s : State) : Prop := ∃ b, monitor mon px s = .ok b

def PassUpto (mon : MonCfg) (px : X86.Prog) (n : Nat) (X : State) : Prop :=
  ∀ t sk, t < n → stepN mon px t X = .inl sk → MonPass mon px sk

theorem PassUpto.zero (mon : MonCfg) (px : X86.Prog) (X : State) : PassUpto mon px 0 X :=
  fun t _ ht => absurd ht (Nat.not_lt_zero _)

theorem PassUpto.trans {mon : MonCfg} {px : X86.Prog} {a b : Nat} {X X1 : State} (h1 : PassUpto mon px a X)
    (hs : stepN mon px a X = .inl X1) (h2 : PassUpto mon px b X1) : PassUpto mon px (a + b) X := by
  intro t sk ht hsk
  by_cases hlt : t < a
  · exact h1 t sk hlt hsk
  · rw [stepN_split hs t (by omega)] at hsk
    exact h2 (t - a) sk (by omega) hsk

/-- the start passes, the states strictly between are not at `#ctx` comments -/
theorem passUpto_of_mid {cfg : MonCfg} {cs : List Code} {items : List (Code × Nat)} (hitems : items.map (·.1) = cs)
    {n : Nat} {X : State} (h0 : MonPass cfg (mkProg cfg.mach items) X)
    (hm : Mid cfg (mkProg cfg.mach items) cs n X) : PassUpto cfg (mkProg cfg.mach items) n X := by
  intro t sk ht hsk
  cases t with
  | zero =>
    simp only [stepN, Sum.inl.injEq] at hsk
    subst hsk; exact h0
  | succ t => exact ⟨none, monitor_not_ctx hitems (hm (t + 1) sk (by omega) ht hsk)⟩

theorem passUpto_of_midS {cfg : MonCfg} {cs : List Code} {items : List (Code × Nat)} (hitems : items.map (·.1) = cs)
    {n : Nat} {X : State} (hm : MidS cfg (mkProg cfg.mach items) cs n X) :
    PassUpto cfg (mkProg cfg.mach items) n X :=
  fun t sk ht hsk => ⟨none, monitor_not_ctx hitems (hm t sk ht hsk)⟩

theorem retCheck_error_not_invFail {c : MachCfg} {s : State} {r : Res} (h : retCheck c s = .error r) (e : String)
    (ln : Nat) : r ≠ .invFail e ln := by
  intro e'
  subst e'
  unfold retCheck at h
  cases h1 : rd s 0 with
  | error e => rw [h1] at h; cases h
  | ok sp =>
    rw [h1] at h; dsimp only at h
    cases h2 : loadWord c s sp with
    | error e => rw [h2] at h; cases h
    | ok w =>
      rw [h2] at h; dsimp only at h
      split at h
      · cases h
      · split at h
        · cases h
        · split at h
          · cases h
          · cases h3 : rd s 4 with
            | error e => rw [h3] at h; cases h
            | ok v' => rw [h3] at h; cases h

theorem step_not_invFail {m : MonCfg} {p : Prog} {s : State} {e : String} {ln : Nat} :
    step m p s ≠ .inr (.invFail e ln) := by
  intro hst
  unfold step at hst
  cases hc : p.code[s.pc]? with
  | none => rw [hc] at hst; cases hst
  | some code =>
    rw [hc] at hst; dsimp only at hst
    cases hx : execCode m.mach p.labelAddr code s with
    | error e => rw [hx] at hst; cases hst
    | ok r =>
      obtain ⟨s1, ctl⟩ := r
      rw [hx] at hst; dsimp only at hst
      cases ctl with
      | next => cases hst
      | jumpLabel l =>
        dsimp only at hst
        cases hl : p.labelIdx[l]? with
        | none => rw [hl] at hst; cases hst
        | some i => rw [hl] at hst; cases hst
      | jumpAddr a =>
        dsimp only at hst
        cases hl : p.addrIdx[a]? with
        | none => rw [hl] at hst; cases hst
        | some i => rw [hl] at hst; cases hst
      | callExt f' =>
        dsimp only at hst
        cases hl : callExt (if codeSize code = 0 then s1 else { s1 with steps := s1.steps + 1 }) f' with
        | error e => rw [hl] at hst; cases hst
        | ok s3 => rw [hl] at hst; cases hst
      | ret =>
        dsimp only at hst
        cases hl : retCheck m.mach (if codeSize code = 0 then s1 else { s1 with steps := s1.steps + 1 }) with
        | ok v => rw [hl] at hst; cases hst
        | error r =>
          rw [hl] at hst
          have hni := retCheck_error_not_invFail hl e ln
          cases r with
          | invFail e' ln' =>
            simp only [Sum.inr.injEq] at hst
            exact hni hst
          | fault e' ln' => simp at hst
          | _ => simp at hst

/-- THE RUN LOOP NEVER ENDS IN A REPORT OF THE HEAP MONITOR if the monitor passes at all the states visited -/
theorem runLoop_no_invFail (m : MonCfg) (p : Prog) : ∀ (f : Nat) (s : State) (b : Nat),
    PassUpto m p f s → ∀ e ln, (runLoop m p f s b).res ≠ .invFail e ln
  | 0, s, b, _, e, ln => by simp [runLoop, finish]
  | f + 1, s, b, h, e, ln => by
    obtain ⟨bb, hb⟩ := h 0 s (by omega) rfl
    simp only [runLoop, hb]
    cases hst : step m p s with
    | inl s1 =>
      simp only
      exact runLoop_no_invFail m p f s1 _ (fun t sk ht hsk => h (t + 1) sk (by omega) (by
        simp only [stepN, hst]; exact hsk)) e ln
    | inr r =>
      simp only [finish]
      intro hr
      exact step_not_invFail (by rw [hst, hr])

/-- THE TWO HYPOTHESES ABOUT THE RUN from the machine state `X` on, at every statement boundary the machine
reaches from `X` (exactly: not moved over labels and comments):
* THE HOOK PARSES: the monitor's parser reads the kinds of the positional state's context from the comment at the
  program counter (true when the names of the variables have no blanks: `Conc.parseCtx_hook`);
* THE WINDOW: the frontier block lies inside the monitor's window — at most 512 bytes above the highest
  heap address written.  Only boundaries with at most `nb` blocks below the frontier matter. -/
def MonFrom (F : Frame) (mon : MonCfg) (px : X86.Prog) (cs : List Code) (P : Program) (hooks : Bool)
    (prog : AxCut.Prog) (st : Pos.State) (X : State) (nb : Nat) : Prop :=
  ∀ n X' st' cfg' hs', Reachable prog st st' → stepN mon px n X = .inl X' →
    K.Rel3 F cs P hooks prog st' cfg' hs' X' →
    (∀ msg, cs[X'.pc]? = some (Code.COMMENT msg) → parseCtx msg = some (ctxKinds st'.ctx)) ∧
    ∀ below inUse, HeapShapeAt mon X' below inUse → below ≤ nb → 64 * below + 64 ≤ X'.maxHeapWritten + 512

theorem MonFrom.step {F : Frame} {mon : MonCfg} {px : X86.Prog} {cs : List Code} {P : Program} {hooks : Bool}
    {prog : AxCut.Prog} {st st1 : Pos.State} {o : Option (Bool × Word)} {X X' : State} {n nb : Nat}
    (h : MonFrom F mon px cs P hooks prog st X nb) (hs : Pos.step prog st = .next st1 o)
    (hn : stepN mon px n X = .inl X') : MonFrom F mon px cs P hooks prog st1 X' nb :=
  fun n' X'' st' cfg' hs' hr hn' R =>
    h (n + n') X'' st' cfg' hs' (Scc.Props.C06Generic.reachable_prepend hs hr) (stepN_trans mon px hn hn') R

/-- the number of blocks below the frontier is a function of the machine state: any heap shape of a state that
represents the block-level state `hs` has at most `B` blocks below the frontier if `hs` has -/
theorem heapShapeAt_below_le {m : MonCfg} {c : MachCfg} (hm : m.mach = c) (hk : m.consts = consts) {X : State}
    {hs : HState} (HR : HeapRel c X hs) {B : Nat} (hfb : FrBound hs B) {below inUse : Nat}
    (h : HeapShapeAt m X below inUse) : below ≤ B := by
  obtain ⟨hw, fw, roots, lin, lazy, live, Fr, hh, hf, I, hb, _⟩ := h
  obtain ⟨w, hw', ew⟩ := HR.heap
  obtain ⟨f, hf', ef⟩ := HR.free
  rw [hk] at hh hf
  have hh' : rd X consts.heap = .ok w := rd_regIs hw'
  have hf'' : rd X consts.free = .ok f := rd_regIs hf'
  rw [hh'] at hh
  rw [hf''] at hf
  injection hh with hh
  injection hf with hf
  subst hh; subst hf
  have hmem : memFn X = hs.mem.get := by
    funext a; exact (HR.mem a).symm
  have J : InvS hs roots [] lin lazy live Fr := by
    unfold InvS
    rw [HR.base, HR.limit, ← ew, ← ef, ← hmem, ← hm]
    exact I
  have := hfb _ _ _ _ _ J
  rw [HR.base, ← hm] at this
  omega

/-- THE MONITOR AT A STATEMENT BOUNDARY, the parser's round trip as a hypothesis about the comment AT THE PROGRAM
COUNTER (`ConcK.monitor_boundary` asks for it for every context whose hook comment is in the routine) -/
theorem monitor_boundary_at {F : Frame} {cfg : MonCfg} (hFc : F.c = cfg.mach) (hk : cfg.consts = consts)
    {routine : List Code} {items : List (Code × Nat)} (hitems : items.map (·.1) = routine)
    {P : Program} {prog : AxCut.Prog} {st : Pos.State} {cfgA : Config} {hs : HState} {X : State}
    (R : K.Rel3 F routine P true prog st cfgA hs X)
    (hparse : ∀ msg, routine[X.pc]? = some (Code.COMMENT msg) → parseCtx msg = some (ctxKinds st.ctx)) :
    ∃ below inUse, HeapShapeAt cfg X below inUse ∧
      (cfg.heap = false → monitor cfg (mkProg cfg.mach items) X = .ok none) ∧
      (cfg.heap = true → 64 * below + 64 ≤ X.maxHeapWritten + 512 →
        monitor cfg (mkProg cfg.mach items) X = .ok (some below)) := by
  obtain ⟨Γ', ι, κ, hkeys, RX, X3h, _, k, k', its, hrun, hat⟩ := R
  exact Conc.monitor_x3 hFc hk hitems RX X3h hrun hat fun h => by
    have := hparse _ h
    rwa [← ctxKinds_keys hkeys] at this

/-- the monitor at a point of the chain: the boundary state itself (at its hook, which parses, inside the
window) or a state that is not at a `#ctx` comment -/
theorem monPass_point {F : Frame} {cfg : MonCfg} (hFc : F.c = cfg.mach) (hk : cfg.consts = consts)
    {cs : List Code} {items : List (Code × Nat)} (hitems : items.map (·.1) = cs)
    {P : Program} {prog : AxCut.Prog} {st : Pos.State} {cfgA : Config} {hs : HState} {X0 X : State}
    (R : K.Rel3 F cs P true prog st cfgA hs X0) (hX : X = X0 ∨ ¬ CtxAt cs X.pc)
    (hmon : X = X0 → (∀ msg, cs[X0.pc]? = some (Code.COMMENT msg) → parseCtx msg = some (ctxKinds st.ctx)) ∧
      ∀ below inUse, HeapShapeAt cfg X0 below inUse → 64 * below + 64 ≤ X0.maxHeapWritten + 512) :
    MonPass cfg (mkProg cfg.mach items) X := by
  rcases hX with rfl | hX
  · obtain ⟨hp, hwin⟩ := hmon rfl
    obtain ⟨below, inUse, hsh, hoff, hon⟩ := monitor_boundary_at hFc hk hitems R hp
    cases hh : cfg.heap with
    | false => exact ⟨_, hoff hh⟩
    | true => exact ⟨_, hon hh (hwin below inUse hsh)⟩
  · exact ⟨none, monitor_not_ctx hitems hX⟩

section RunM

variable {F : Frame} (HF : FrameOK F) (h8 : F.c.heapBase % 8 = 0) {mon : MonCfg} (hmon : mon.mach = F.c)
  (hk : mon.consts = consts) {cs pre : List Code} {items : List (Code × Nat)} (hitems : items.map (·.1) = cs)
  (LA : LoadedA F.c (mkProg mon.mach items) cs) (hndL : (labs cs).Nodup)
  (hfitX : addrAt F.c.codeBase cs cs.length < 2 ^ 64) (hcs : cs = pre ++ cleanup)
  (hclean : "cleanup" ∉ labs pre) {st0 : State} {h : Word} (E : EntryFacts F st0 h)

/-- what the runs with the heap monitor keep at a statement boundary (hooks on): the boundary with its boundary
state `X0`, `PeakInv`, the machine is at `X0` itself or not at a `#ctx` comment, the names at the head of the
statement comments do not start with `#`, the two hypotheses about the run from here on -/
structure MonInv (F : Frame) (mon : MonCfg) (items : List (Code × Nat)) (cs : List Code) (P : Program)
    (prog : AxCut.Prog) (A Pk C : Nat) (st : Pos.State) (acc : List (Bool × Word)) (cfg : Config) (hs : HState)
    (X0 X : State) (Cb : Nat) : Prop where
  /-- the boundary, with its boundary state `X0` named (`peak` holds the same boundary with the state hidden) -/
  bd : Bd F cs P true prog st cfg hs X0 X
  peak : PeakInv F mon (mkProg mon.mach items) cs P true prog A Pk C st acc cfg hs X Cb
  land : X = X0 ∨ ¬ CtxAt cs X.pc
  hf : K.AllHF st.stmt
  hfv : ∀ w ∈ st.env, K.ValAll K.ClausesHF w
  monFrom : MonFrom F mon (mkProg mon.mach items) cs P true prog st X (Pk + 1)

abbrev StepsP (mon : MonCfg) (px : X86.Prog) (k : Nat) (X Y : State) : Prop :=
  stepN mon px k X = .inl Y ∧ PassUpto mon px k X

/-- the invariant of the runs with the heap monitor, with object numbers and the count `Cb` of blocks for `r` more
steps -/
def MonRun (F : Frame) (mon : MonCfg) (items : List (Code × Nat)) (cs : List Code) (P : Program) (prog : AxCut.Prog)
    (A Pk C r : Nat) (st : Pos.State) (acc : List (Bool × Word)) (X : State) : Prop :=
  ∃ cfg hs X0 Cb, MonInv F mon items cs P prog A Pk C st acc cfg hs X0 X Cb ∧ cfg.next + r < 2 ^ 64 ∧ Cb + A * r ≤ C

def FinP (mon : MonCfg) (px : X86.Prog) (v : Word) (acc : List (Bool × Word)) (XL : State) : Prop :=
  AtEnd mon px v acc XL ∧ MonPass mon px XL

include hmon hk hitems in
theorem MonInv.pass {P : Program} {prog : AxCut.Prog} {A Pk C : Nat} {st : Pos.State} {acc : List (Bool × Word)}
    {cfg : Config} {hs : HState} {X0 X : State} {Cb : Nat}
    (I : MonInv F mon items cs P prog A Pk C st acc cfg hs X0 X Cb) : MonPass mon (mkProg mon.mach items) X :=
  monPass_point hmon.symm hk hitems I.bd.rel I.land (fun e => by
    subst e
    obtain ⟨hp, hwin⟩ := I.monFrom 0 X st cfg hs Reachable.refl rfl I.bd.rel
    exact ⟨hp, fun below inUse hsh => hwin below inUse hsh (heapShapeAt_below_le hmon hk I.bd.heapRel I.peak.fb hsh)⟩)

include HF h8 hmon hk hitems LA hndL hfitX hcs hclean E in
/-- THE RUNS WITH THE HEAP MONITOR: from a boundary to the next the monitor passes at the boundary (its hook parses,
inside the window) and is not consulted at the states strictly between (`Mid`, from `Bd.next`); the bookkeeping of
the footprint is `PeakInv.step` -/
theorem monTrack (prog : AxCut.Prog) (c : Nat) (code : List MockOp) (nargs c' : Nat)
    (hcomp : (compile mockSym true prog).run c = .ok ((code, nargs), c'))
    (hsafe : LabelSafe prog = true) (htp : LinTypedProg prog) (hfit : CodeFits code)
    (DX : K.XDefsAt cs true prog) (hprog : K.ProgOK prog) (Pk C A : Nat)
    (hA : ∀ d ∈ prog.defs, K.AllocLe A d.body) (hHF : ∀ d ∈ prog.defs, K.AllHF d.body)
    (hbytes : 64 * (Pk + A + 2) ≤ F.c.heapBytes) :
    Track (StepsP mon (mkProg mon.mach items)) prog (MonRun F mon items cs (Program.ofOps code) prog A Pk C)
      K.jumpW where
  refl X := ⟨rfl, PassUpto.zero _ _ _⟩
  trans h1 h2 := ⟨stepN_trans mon _ h1.1 h2.1, h1.2.trans h1.1 h2.2⟩
  next := by
    rintro r st acc X st' o ⟨cfg, hs, X0, Cb, I, hnext, hC⟩ hst
    rw [Nat.mul_succ] at hC
    have H := boundaries HF h8 hmon LA hndL hfitX hcs hclean E true prog c code nargs c' hcomp hsafe htp hfit DX hprog
    obtain ⟨X0', _, hacc⟩ := I.peak.bd
    obtain ⟨cfg', hs', X', XR, k, hk', B', h2, h3, hfr, hpk, hj, hm⟩ := I.bd.next HF h8 hmon LA hndL hfitX hcs hclean E
      true prog c code nargs c' hcomp hsafe htp hfit DX hprog (by unfold EnoughHeap; omega) (I.peak.room H hbytes) hst
    obtain ⟨hmidk, hland'⟩ := hm (K.headHF_of_all I.hf) I.land
    obtain ⟨hhf', hvalsH'⟩ := K.hered_step K.hered_allHF hHF hst I.hf I.hfv
    exact ⟨k, XR, ⟨hk', passUpto_of_mid hitems (I.pass hmon hk hitems) hmidk⟩, ⟨cfg', hs', X', Cb + A,
      ⟨B', I.peak.step H hA (by omega) hst hk' ⟨X', B', by rw [h2, hacc]⟩ hfr hpk, hland', hhf', hvalsH',
        I.monFrom.step hst hk'⟩, by omega, by omega⟩, K.jumpW_le hj⟩

include HF h8 hmon hk hitems LA hndL hfitX hcs hclean E in
/-- the last step: to the final `ret`, the monitor passing at every state, the last one included -/
theorem MonRun.done (prog : AxCut.Prog) (c : Nat) (code : List MockOp) (nargs c' : Nat)
    (hcomp : (compile mockSym true prog).run c = .ok ((code, nargs), c'))
    (hsafe : LabelSafe prog = true) (htp : LinTypedProg prog) (hfit : CodeFits code)
    (DX : K.XDefsAt cs true prog) (hprog : K.ProgOK prog) {Pk C A : Nat} (hbytes : 64 * (Pk + A + 2) ≤ F.c.heapBytes)
    {r : Nat} {st : Pos.State} {acc : List (Bool × Word)} {X : State} {v : Word}
    (h : MonRun F mon items cs (Program.ofOps code) prog A Pk C (r + 1) st acc X) (hst : Pos.step prog st = .done v) :
    ∃ k XL, StepsP mon (mkProg mon.mach items) k X XL ∧ FinP mon (mkProg mon.mach items) v acc XL := by
  obtain ⟨cfg, hs, X0, Cb, I, hnext, _⟩ := h
  have H := boundaries HF h8 hmon LA hndL hfitX hcs hclean E true prog c code nargs c' hcomp hsafe htp hfit DX hprog
  obtain ⟨_, _, hacc⟩ := I.peak.bd
  obtain ⟨k, XL, hkX, h2, h3, hmidk, hlast⟩ := I.bd.done HF h8 hmon LA hndL hfitX hcs hclean E true prog c code
    nargs c' hcomp hsafe hfit DX hprog (by unfold EnoughHeap; omega) (I.peak.room H hbytes) hst
  exact ⟨k, XL, ⟨hkX, passUpto_of_mid hitems (I.pass hmon hk hitems) hmidk⟩, ⟨h2, by rw [h3, hacc]⟩, none,
    monitor_not_ctx hitems hlast⟩

end RunM

end Scc.X86.ConcK
