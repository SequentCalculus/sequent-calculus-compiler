/-
  Scc.X86.RefSide — SIDE HYPOTHESES of the x86-64 run theorems (C06) that need not be assumed: they follow from
  two decidable per-program checks and from the sanity of the machine configuration.
  * `capCheck`, `cap266_of_check`: every context of a run has at most 133 variables, from the static bound
    `2 * progCap p ≤ 266` (Scc/AxCut/PosCapacity.lean, Props/C06Capacity.lean);
  * `sizeCheck`, `codeFits_of_size`: the mock code fits the address space, from the size bound of the generic
    generator (Scc/Backend/SizeMock.lean: at most `10·(1 + M)` instructions per node);
  * `fuel_lt_of_heap`: a run that has `64·134` bytes of heap per step inside a sane configuration is
    shorter than 2^64 steps;
  * `routine_bytes_le`, `routine_fits`: the size of the routine in bytes, and that it ends below 2^64, from the
    size bound of the code generator (Scc/Backend/SizeX86.lean).
-/
import Scc.Backend.TotalMock
import Scc.X86.RefHeapRun
import Scc.Props.C06Capacity
import Scc.Backend.SizeMock
import Scc.Pipeline.SizeCompose
import Scc.Backend.SideConds
import Scc.Backend.SizeX86

namespace Scc.X86.Ref

open Scc.AxCut Scc.AxCut.Pos Scc.Backend
open Scc.Props.C06Generic (Reachable CodeFits reach_ctx_le)

/-- the static capacity check of the x86-64 backend: at most 133 variables in any context -/
def capCheck (p : AxCut.Prog) : Bool := decide (2 * progCap p ≤ 266)

theorem cap266_of_check {p : AxCut.Prog} (h : capCheck p = true) {d0 : Def} (hd : d0 ∈ p.defs)
    (args : List Word) :
    ∀ st, Reachable p ⟨d0.ctx, args.map .int, d0.body⟩ st → 2 * st.ctx.length ≤ 266 :=
  cap_of_progCap (of_decide_eq_true h) hd args

/-- the static size check: `10·(1 + longest context)·nodes < 2^64` -/
def sizeCheck (p : AxCut.Prog) : Bool :=
  decide (10 * (1 + SizeLin.defsCap p.defs) * SizeLin.defsNodes p.defs < 2 ^ 64)

theorem codeFits_of_size {p : AxCut.Prog} (htp : LinTypedProg p) (h : sizeCheck p = true) {hooks : Bool}
    {c : Nat} {ops : List MockOp} {nargs c' : Nat}
    (hcomp : (compile mockSym hooks p).run c = .ok ((ops, nargs), c')) : CodeFits ops :=
  codeFits_of_nodes htp (of_decide_eq_true h) hcomp

theorem fuel_lt_of_heap {c : MachCfg} (MO : MachOK c) {fuel : Nat}
    (h : 128 + 64 * 134 * fuel ≤ c.heapBytes) : fuel + 1 < 2 ^ 64 := by
  have h1 := MO.cfg.heapBelow
  have h2 := MO.cfg.top
  have h3 := MO.room
  omega

theorem compileX86_nargs_head {p : AxCut.Prog} {hooks : Bool} {c : Nat} {body : List Code} {nargs : Nat}
    (h : compileX86 p hooks c = .ok (body, nargs)) {d0 : Def} (hd : p.defs.head? = some d0) :
    nargs = d0.ctx.length := by
  unfold compileX86 at h
  split at h
  · cases h
  · rename_i r c' hr
    cases h
    exact compile_nargs_head hr hd

/-- the emitted routine has at most `5·(485·(1 + longest context)·nodes + 44)` bytes, from the size bounds of the code
generator (at most `485·(1 + longest context)` items per node, 44 for the wrapper, at most 5 bytes per item) -/
theorem routine_bytes_le {p : AxCut.Prog} {hooks : Bool} {c : Nat} {body routine : List Code} {nargs : Nat}
    (htp : LinTypedProg p) (hc : compileX86 p hooks c = .ok (body, nargs))
    (hr : intoRoutine body nargs = .ok routine) :
    (routine.map codeSize).sum ≤ 5 * (485 * (1 + SizeLin.defsCap p.defs) * SizeLin.defsNodes p.defs + 44) := by
  have h1 := Scc.Backend.SizeX86.x86_compile_length hooks p _ (Nat.le_refl _)
    (Scc.Pipeline.SizeCompose.substOkProg_of_linTyped htp) c body nargs hc
  have h2 := Scc.Backend.SizeX86.intoRoutine_length body nargs routine hr
  have h3 : ∀ cs : List Code, (cs.map codeSize).sum ≤ 5 * cs.length := by
    intro cs
    induction cs with
    | nil => simp
    | cons c cs ih =>
      have : codeSize c ≤ 5 := by cases c <;> simp [codeSize]
      simp only [List.map_cons, List.sum_cons, List.length_cons]
      omega
  have h4 := h3 routine
  omega

/-- … hence it ends below 2^64 when a check on the PROGRAM, not on the code, succeeds -/
theorem routine_fits {p : AxCut.Prog} {hooks : Bool} {c : Nat} {body routine : List Code} {nargs : Nat}
    (htp : LinTypedProg p) (hc : compileX86 p hooks c = .ok (body, nargs))
    (hr : intoRoutine body nargs = .ok routine) (base : Nat)
    (h : base + 5 * (485 * (1 + SizeLin.defsCap p.defs) * SizeLin.defsNodes p.defs + 44) < 2 ^ 64) :
    addrAt base routine routine.length < 2 ^ 64 := by
  have := routine_bytes_le htp hc hr
  simp only [addrAt, List.take_length]
  omega

end Scc.X86.Ref
