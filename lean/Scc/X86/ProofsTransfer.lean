/-
  Scc.X86.ProofsTransfer — the Theorem-B lemmas of ProofsArith.lean stated on the SPEC machine
  (`execStraight` = iterated `Scc.X86.execCode`), obtained through the two simulations
  temporary level → functional view → machine.

  Vocabulary:  `tempVal sp st t` = contents of temporary `t` in machine state `st` whose `rsp` is `sp`
  (a register, or the spill slot `[rsp + stack_offset p]`);  `Boundary c st sp` = `st` is a state at a
  statement boundary (16 registers, `rsp = sp` defined, the spill area inside the stack region);
  `Preserved sp st st' t` = nothing but temporary `t`, the scratch register TEMP (rcx) and the flags
  differs between `st` and `st'` (registers incl. rsp/HEAP/FREE, every stack word, heap, trace).
-/
import Scc.X86.ProofsArith
import Scc.AxCut.SemPos

namespace Scc.X86

/-- Contents of a temporary (`none` = undefined). -/
def tempVal (sp : Word) (st : State) : Temporary → Option Word
  | .reg r => (st.regs[r]?).join
  | .spill p => st.stackMem[slotAddr sp p]?

def tview (sp : Word) (st : State) : TState := { val := tempVal sp st, flags := st.flags }

/-- A machine state at a statement boundary. -/
structure Boundary (c : MachCfg) (st : State) (sp : Word) : Prop where
  size : st.regs.size = 16
  rsp : st.regs[0]? = some (some sp)
  sp : SpOK c sp

/-- Only temporary `t` (if any), TEMP and the flags may differ. -/
structure Preserved (sp : Word) (st st' : State) (t : Option Temporary) : Prop where
  same : Same st st'
  regs : ∀ r : Nat, r < 16 → r ≠ TEMP → some (Temporary.reg r) ≠ t → st'.regs[r]? = st.regs[r]?
  mem : ∀ n, (∀ p, t = some (.spill p) → n ≠ slotAddr sp p) → st'.stackMem[n]? = st.stackMem[n]?

theorem view_reg (st : State) (hsize : st.regs.size = 16) {r : Nat} (hr : r < 16) :
    st.regs[r]? = some (st.view.reg r) := (st.rel_view hsize).regs r hr

theorem trel_tview {c : MachCfg} {st : State} {sp : Word} (B : Boundary c st sp) :
    TRel sp st.view (tview sp st) := by
  refine ⟨?_, fun r _ _ => rfl, fun p _ => rfl, rfl⟩
  have := view_reg st B.size (by decide : 0 < 16)
  rw [B.rsp] at this
  injection this with h
  exact h.symm

theorem tempVal_readLoc {c : MachCfg} {st : State} {sp : Word} (B : Boundary c st sp) {t : Temporary}
    (ht : OpndOK t) {v : Word} (hv : tempVal sp st t = some v) : readLoc c st (opLoc t) = .ok v := by
  apply sim_readLoc (st.rel_view B.size)
  rw [t_readLoc B.sp (trel_tview B) ht]
  exact hv

/-- TRANSFER: a temporary-level execution from the view of `st` is an execution of the machine. -/
theorem transfer {c : MachCfg} {st : State} {sp : Word} (B : Boundary c st sp) (la : String → Option Nat)
    {codes : List Code} {τ' : TState} (hx : texecList la codes (tview sp st) = some τ')
    {t : Option Temporary}
    (hothers : ∀ u, some u ≠ t → u ≠ .reg TEMP → τ'.val u = tempVal sp st u) :
    ∃ st', execStraight c la codes st = .ok st' ∧ Boundary c st' sp ∧
      (∀ u, OpndOK u → tempVal sp st' u = τ'.val u) ∧ st'.flags = τ'.flags ∧ Preserved sp st st' t := by
  obtain ⟨a', ea, ra, oa⟩ := tsim_execList B.sp la (trel_tview B) hx
  obtain ⟨st', es, rs, ss⟩ := sim_execList la (st.rel_view B.size) ea
  have hreg : ∀ r, r < 16 → st'.regs[r]? = some (a'.reg r) := rs.regs
  refine ⟨st', es, ⟨rs.size, ?_, B.sp⟩, ?_, ?_, ⟨ss, ?_, ?_⟩⟩
  · rw [hreg 0 (by decide), ra.rsp]
  · intro u hu
    cases u with
    | reg r => simp [tempVal, hreg r hu.2, ra.regs r hu.1 hu.2]
    | spill p => simp only [tempVal]; rw [rs.mem, ra.slots p hu]
  · rw [rs.flags, ra.flags]
  · intro r hr hrT hrt
    by_cases h0 : r = 0
    · subst h0
      rw [hreg 0 hr, ra.rsp, B.rsp]
    · have h1 : 1 ≤ r := by omega
      rw [hreg r hr, ra.regs r h1 hr, hothers (.reg r) hrt (fun e => hrT (by injection e)),
        view_reg st B.size hr]
      rfl
  · intro n hn
    by_cases hs : ∃ p, p < 256 ∧ n = slotAddr sp p
    · obtain ⟨p, hp, rfl⟩ := hs
      have hne : some (Temporary.spill p) ≠ t := fun e => hn p e.symm rfl
      rw [rs.mem, ra.slots p hp, hothers (.spill p) hne (by simp)]
      rfl
    · have : ∀ p, p < 256 → n ≠ slotAddr sp p := fun p hp e => hs ⟨p, hp, e⟩
      rw [rs.mem, oa n this]
      rfl

theorem transfer_upd {c : MachCfg} {st : State} {sp : Word} (B : Boundary c st sp) (la : String → Option Nat)
    {codes : List Code} {t : Temporary} (ht : OpndOK t) {v : Option Word}
    (h : ∃ τ', texecList la codes (tview sp st) = some τ' ∧ TUpd (tview sp st) τ' t v) :
    ∃ st', execStraight c la codes st = .ok st' ∧ Boundary c st' sp ∧ tempVal sp st' t = v ∧
      Preserved sp st st' (some t) := by
  obtain ⟨τ', hx, hu⟩ := h
  obtain ⟨st', e, b, hv, _, hp⟩ := transfer B la hx (t := some t)
    (fun u hne hT => hu.others u (fun e => hne (by rw [e])) hT)
  exact ⟨st', e, b, by rw [hv t ht, hu.val], hp⟩

section Main
variable {c : MachCfg} {la : String → Option Nat} {st : State} {sp : Word}

theorem add_correct (B : Boundary c st sp) {t s1 s2 : Temporary} (ht : TempOK t) (h1 : TempOK s1)
    (h2 : TempOK s2) {x y : Word} (hx : tempVal sp st s1 = some x) (hy : tempVal sp st s2 = some y) :
    ∃ st', execStraight c la (add t s1 s2) st = .ok st' ∧ Boundary c st' sp ∧
      tempVal sp st' t = some (x + y) ∧ Preserved sp st st' (some t) :=
  transfer_upd B la ht.opnd (t_add (τ := tview sp st) ht h1 h2 hx hy)

theorem sub_correct (B : Boundary c st sp) {t s1 s2 : Temporary} (ht : TempOK t) (h1 : TempOK s1)
    (h2 : TempOK s2) {x y : Word} (hx : tempVal sp st s1 = some x) (hy : tempVal sp st s2 = some y) :
    ∃ st', execStraight c la (sub t s1 s2) st = .ok st' ∧ Boundary c st' sp ∧
      tempVal sp st' t = some (x - y) ∧ Preserved sp st st' (some t) :=
  transfer_upd B la ht.opnd (t_sub (τ := tview sp st) ht h1 h2 hx hy)

/-- B-mul on the machine (a spilled target must not alias a source: see `mul_alias_illegal`) -/
theorem mul_correct (B : Boundary c st sp) {t s1 s2 : Temporary} (ht : TempOK t) (h1 : TempOK s1)
    (h2 : TempOK s2) (hal : ∀ p, t = .spill p → t ≠ s1 ∧ t ≠ s2)
    {x y : Word} (hx : tempVal sp st s1 = some x) (hy : tempVal sp st s2 = some y) :
    ∃ st', execStraight c la (mul t s1 s2) st = .ok st' ∧ Boundary c st' sp ∧
      tempVal sp st' t = some (x * y) ∧ Preserved sp st st' (some t) :=
  transfer_upd B la ht.opnd (t_mul (τ := tview sp st) ht h1 h2 hal hx hy)

/-- B-div on the machine: truncated signed quotient; rax, rdx and everything else restored -/
theorem div_correct (B : Boundary c st sp) {t s1 s2 : Temporary} (P : DivPlacement t s1 s2)
    {x y : Word} (hx : tempVal sp st s1 = some x) (hy : tempVal sp st s2 = some y) (hd : DivOK x y) :
    ∃ st', execStraight c la (div t s1 s2) st = .ok st' ∧ Boundary c st' sp ∧
      tempVal sp st' t = some (x.sdiv y) ∧ Preserved sp st st' (some t) :=
  transfer_upd B la P.ht.opnd (t_div (τ := tview sp st) P hx hy hd)

/-- B-rem on the machine: remainder with the sign of the dividend -/
theorem rem_correct (B : Boundary c st sp) {t s1 s2 : Temporary} (P : DivPlacement t s1 s2)
    {x y : Word} (hx : tempVal sp st s1 = some x) (hy : tempVal sp st s2 = some y) (hd : DivOK x y) :
    ∃ st', execStraight c la (rem t s1 s2) st = .ok st' ∧ Boundary c st' sp ∧
      tempVal sp st' t = some (x.srem y) ∧ Preserved sp st st' (some t) :=
  transfer_upd B la P.ht.opnd (t_rem (τ := tview sp st) P hx hy hd)

/-- B-mov on the machine: the (possibly undefined) contents are copied -/
theorem mov_correct (B : Boundary c st sp) {t s : Temporary} (ht : TempOK t) (hs : TempOK s) :
    ∃ st', execStraight c la (mov t s) st = .ok st' ∧ Boundary c st' sp ∧
      tempVal sp st' t = tempVal sp st s ∧ Preserved sp st st' (some t) :=
  transfer_upd B la ht.opnd (t_mov (τ := tview sp st) ht.opnd hs.opnd hs.ne_temp)

/-- B-load_immediate on the machine: every `i64` literal, every placement (D5: see `t_loadImmediate`) -/
theorem loadImmediate_correct (B : Boundary c st sp) {t : Temporary} (ht : TempOK t) {v : Int}
    (h64 : fitsI64 v = true) :
    ∃ st', execStraight c la (loadImmediate t v) st = .ok st' ∧ Boundary c st' sp ∧
      tempVal sp st' t = some (BitVec.ofInt 64 v) ∧ Preserved sp st st' (some t) :=
  transfer_upd B la ht.opnd (t_loadImmediate (τ := tview sp st) ht h64)

theorem loadLabel_correct (B : Boundary c st sp) {t : Temporary} (ht : TempOK t) {name : String} {n : Nat}
    (hl : la name = some n) :
    ∃ st', execStraight c la (loadLabel t name) st = .ok st' ∧ Boundary c st' sp ∧
      tempVal sp st' t = some (BitVec.ofNat 64 n) ∧ Preserved sp st st' (some t) :=
  transfer_upd B la ht.opnd (t_loadLabel (τ := tview sp st) ht hl)

/-- B-compare on the machine: the flags hold the two operands -/
theorem compare_correct (B : Boundary c st sp) {fst snd : Temporary} (h1 : TempOK fst) (h2 : TempOK snd)
    {x y : Word} (hx : tempVal sp st fst = some x) (hy : tempVal sp st snd = some y) :
    ∃ st', execStraight c la (compare fst snd) st = .ok st' ∧ Boundary c st' sp ∧
      st'.flags = some (x, y) ∧ Preserved sp st st' none := by
  obtain ⟨τ', hx', hf, ho⟩ := t_compare (la := la) (τ := tview sp st) h1 h2 hx hy
  obtain ⟨st', e, b, _, hfl, hp⟩ := transfer B la hx' (t := none) (fun u _ hT => ho u hT)
  exact ⟨st', e, b, by rw [hfl, hf], hp⟩

/-- B-compare with zero on the machine -/
theorem compareImmediate_correct (B : Boundary c st sp) {t : Temporary} (h1 : TempOK t) {i : Int}
    (hi : fitsI32 i = true) {x : Word} (hx : tempVal sp st t = some x) :
    ∃ st', execStraight c la (compareImmediate t i) st = .ok st' ∧ Boundary c st' sp ∧
      st'.flags = some (x, BitVec.ofInt 64 i) ∧ Preserved sp st st' none := by
  have hx' := t_compareImmediate (la := la) (τ := tview sp st) h1 hi hx
  obtain ⟨st', e, b, _, hfl, hp⟩ := transfer B la hx' (t := none) (fun u _ _ => rfl)
  exact ⟨st', e, b, by rw [hfl], hp⟩

/-- B-op on the machine for all five operators at once, in the situation of the code generator
    (fresh target: `DivPlacement`), against the AxCut operator semantics `Pos.evalOp` (which is
    undefined exactly on the excluded operands: division by zero and MIN / -1). -/
theorem binop_correct (B : Boundary c st sp) (o : Scc.AxCut.BinOp) {t s1 s2 : Temporary}
    (P : DivPlacement t s1 s2) {x y r : Word} (hx : tempVal sp st s1 = some x)
    (hy : tempVal sp st s2 = some y) (hev : Scc.AxCut.Pos.evalOp o x y = .ok r) :
    ∃ st', execStraight c la (binop o t s1 s2) st = .ok st' ∧ Boundary c st' sp ∧
      tempVal sp st' t = some r ∧ Preserved sp st st' (some t) := by
  have hmin : Scc.AxCut.Pos.minInt = minInt64 := by decide
  have hm1 : (-1 : BitVec 64) = BitVec.ofInt 64 (-1) := by decide
  cases o with
  | sum =>
    simp only [Scc.AxCut.Pos.evalOp, Except.ok.injEq] at hev; subst hev
    exact add_correct B P.ht P.hs1 P.hs2 hx hy
  | sub =>
    simp only [Scc.AxCut.Pos.evalOp, Except.ok.injEq] at hev; subst hev
    exact sub_correct B P.ht P.hs1 P.hs2 hx hy
  | prod =>
    simp only [Scc.AxCut.Pos.evalOp, Except.ok.injEq] at hev; subst hev
    exact mul_correct B P.ht P.hs1 P.hs2 (fun _ _ => ⟨P.t_ne_s1, P.t_ne_s2⟩) hx hy
  | div =>
    simp only [Scc.AxCut.Pos.evalOp] at hev
    split at hev
    · cases hev
    · rename_i h0
      split at hev
      · cases hev
      · rename_i hov
        simp only [Except.ok.injEq] at hev; subst hev
        exact div_correct B P hx hy ⟨h0, by rw [← hmin, ← hm1]; exact hov⟩
  | rem =>
    simp only [Scc.AxCut.Pos.evalOp] at hev
    split at hev
    · cases hev
    · rename_i h0
      split at hev
      · cases hev
      · rename_i hov
        simp only [Except.ok.injEq] at hev; subst hev
        exact rem_correct B P hx hy ⟨h0, by rw [← hmin, ← hm1]; exact hov⟩

/-- B-add_and_jump on the machine (invoke): the final `jmp` goes to `x + imm` -/
theorem addAndJump_correct (B : Boundary c st sp) {t : Temporary} (ht : TempOK t) {imm : Int}
    (hi : fitsI32 imm = true) {x : Word} (hx : tempVal sp st t = some x) :
    addAndJump t imm = addAndJumpPre t imm ++ [.JMP (jumpReg t)] ∧
    ∃ st', execStraight c la (addAndJumpPre t imm) st = .ok st' ∧ Boundary c st' sp ∧
      Preserved sp st st' (some t) ∧
      execCode c la (.JMP (jumpReg t)) st' = .ok (st', .jumpAddr (x + BitVec.ofInt 64 imm).toNat) := by
  refine ⟨addAndJump_eq t imm, ?_⟩
  obtain ⟨τ', hx', hv, _, ho⟩ := t_addAndJumpPre (la := la) (τ := tview sp st) ht hi hx
  obtain ⟨st', e, b, hvals, _, hp⟩ := transfer B la hx' (t := some t)
    (fun u hne hT => ho u (fun e => hne (by rw [e])) hT)
  refine ⟨st', e, b, hp, ?_⟩
  have hjr : OpndOK (.reg (jumpReg t)) := by
    cases t with
    | reg r => exact ht.opnd
    | spill p => exact opndOK_temp
  have := hvals _ hjr
  rw [hv] at this
  have hrd : rd st' (jumpReg t) = .ok (x + BitVec.ofInt 64 imm) := by
    have h2 := view_reg st' b.size hjr.2
    simp only [tempVal] at this
    rw [h2] at this
    simp only [Option.join_some] at this
    simp [rd, h2, this]
  simp [execCode, hrd]

/-- switch on the machine: `load_label TEMP l; add TEMP TEMP tag; jump TEMP` jumps to
    (address of `l`) + tag, whether the tag is in a register or in a spill slot -/
theorem switchJump_correct (B : Boundary c st sp) {tag : Temporary} (ht : TempOK tag) {l : String} {n : Nat}
    (hl : la l = some n) {x : Word} (hx : tempVal sp st tag = some x) :
    jump (.reg TEMP) = [.JMP TEMP] ∧
    ∃ st', execStraight c la (loadLabel (.reg TEMP) l ++ binop .sum (.reg TEMP) (.reg TEMP) tag) st = .ok st' ∧
      Boundary c st' sp ∧ Preserved sp st st' none ∧
      execCode c la (.JMP TEMP) st' = .ok (st', .jumpAddr (BitVec.ofNat 64 n + x).toNat) := by
  refine ⟨rfl, ?_⟩
  obtain ⟨τ', hx', hv, ho⟩ := t_switchPre (la := la) (τ := tview sp st) ht hl hx
  obtain ⟨st', e, b, hvals, _, hp⟩ := transfer B la hx' (t := none) (fun u _ hT => ho u hT)
  refine ⟨st', e, b, hp, ?_⟩
  have := hvals _ opndOK_temp
  rw [hv] at this
  have hrd : rd st' TEMP = .ok (BitVec.ofNat 64 n + x) := by
    have h2 := view_reg st' b.size (by decide : TEMP < 16)
    simp only [tempVal] at this
    rw [h2] at this
    simp only [Option.join_some] at this
    simp [rd, h2, this]
  simp [execCode, hrd]

end Main

/-- AxCut's comparison `sort` on machine words (signed). -/
def ifSortHolds : Scc.AxCut.IfSort → Word → Word → Bool
  | .eq, a, b => a == b
  | .ne, a, b => a != b
  | .lt, a, b => a.slt b
  | .le, a, b => a.sle b
  | .gt, a, b => b.slt a
  | .ge, a, b => b.sle a

/-- Each conditional jump goes to its label exactly when the comparison recorded in the flags holds. -/
theorem condJump_correct (c : MachCfg) (la : String → Option Nat) (sort : Scc.AxCut.IfSort) (l : String)
    (st : State) {a b : Word} (hf : st.flags = some (a, b)) :
    execCode c la (condJump sort l) st =
      .ok (st, if ifSortHolds sort a b then .jumpLabel l else .next) := by
  cases sort <;> simp [condJump, execCode, jcc, hf, ifSortHolds] <;> (split <;> simp_all)

end Scc.X86
