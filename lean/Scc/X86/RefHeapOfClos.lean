/-
  Scc.X86.RefHeapOfClos — the data-only three-way relation `Ref.X3R` (RefHeapDefs.lean) is the closure-aware
  relation `K.X3R` (RefClosHDefs.lean) plus one invariant, `Same`: the machine holds, for closure-kinded
  variables and fields too, the very word the abstract machine holds (`X3R.toK`, `K.X3R.toData`).  `Same` is kept by
  every step, from what the closure-aware step lemmas say about the positions and the heap (`KeepPos`,
  `SubstProv`, `LetProv`, `LoadProv`, the abstract steps) — as the closure invariant `XC` is (RefClosXC.lean); it
  needs of the machine only the words in the temporaries of positions and is defined and proved kept for every
  backend in Scc/Backend/StepProv.lean.
  So the data-only stack has no step lemmas of its own: its step (`step3P`, RefHeapRun.lean, with `Same.step` of StepProv.lean) and the
  statements of Props/C06X86Heap.lean are those of `Ref.K`, between `toK` and `toData`.
-/
import Scc.X86.RefClosXC
import Scc.X86.RefClosHInit

set_option linter.unusedVariables false

namespace Scc.X86.Ref

open Scc.AxCut Scc.Backend Scc.Backend.Abs Scc.Backend.Sim
open Scc.Heap (HState InvS InvW)
open Scc.Heap.Refine (HRef FrLe Room FrPk)
open Scc.Backend.Prov (SameF fieldWords sameF_fieldWords)

/-- the machine holds the abstract word also where the value is a closure (Scc/Backend/StepProv.lean) -/
abbrev Same (F : Frame) (Γ : Ctx) (cfg : Config) (κ : Nat → Nat → Word) (st : State) : Prop :=
  Scc.Backend.Prov.Same (K.tvOf F st) Γ cfg κ

theorem K.trW_eq (chi : Chi) (a : Word) : K.trW chi a = Ref.trW chi a := by cases chi <;> rfl

/-- where `κ` is the closure fields of the heap itself, the closure-aware translation is the data-only one -/
theorem trHeap_of_same {κ : Nat → Nat → Word} {h : Heap} (hnd : (h.map (·.1)).Nodup) (S : SameF κ h) :
    K.trHeap κ h = trHeap h := by
  rw [K.trHeap_eq]
  exact ThreeWay.trHeap_of_same _ κ hnd S

/-- the closure-aware relation and `Same` make the data-only relation -/
theorem K.X3R.toData {F : Frame} {Γ : Ctx} {cfg : Config} {rs : List Nat} {hs : HState} {ι : Nat → Nat}
    {κ : Nat → Nat → Word} {st : State} (X : K.X3R F Γ cfg rs hs ι κ st) (S : Same F Γ cfg κ st) :
    Ref.X3R F Γ cfg rs hs ι st := by
  have hnd : (cfg.heap.map (·.1)).Nodup := by
    have := X.href.abs.nodup
    rwa [trHeap_ids] at this
  refine ⟨X.bnd, X.cap, ?_, X.ptrs, X.out, X.frame, X.hrel, ?_⟩
  · intro i hi a ha
    by_cases hc : Γ[i].chi = .cns
    · rw [show tempVal F.sp st (posTemp (2 * i + 1)) = some a from S.vars i hi a hc ha, hc]; rfl
    · rw [← K.trW_eq]; exact words_elim (X.words i hi a ha) hc
  · rw [← trHeap_of_same hnd S.flds]; exact X.href

/-- the data-only relation is the closure-aware one for the closure fields of the heap itself -/
theorem X3R.toK {F : Frame} {Γ : Ctx} {cfg : Config} {rs : List Nat} {hs : HState} {ι : Nat → Nat}
    {st : State} (X : X3R F Γ cfg rs hs ι st) :
    K.X3R F Γ cfg rs hs ι (fieldWords cfg.heap) st ∧ Same F Γ cfg (fieldWords cfg.heap) st := by
  have hnd : (cfg.heap.map (·.1)).Nodup := by
    have := X.href.abs.nodup
    rwa [trHeap_ids] at this
  have S := sameF_fieldWords cfg.heap
  refine ⟨⟨X.bnd, X.cap, ?_, X.ptrs, X.out, X.frame, X.hrel, ?_⟩, ?_, S⟩
  · intro i hi a ha
    exact K.words_of (X.words i hi a ha) (fun _ => (K.trW_eq _ _).symm)
  · rw [trHeap_of_same hnd S]; exact X.href
  · intro i hi a hc ha
    show tempVal F.sp st (posTemp (2 * i + 1)) = some a
    rw [X.words i hi a ha, hc]; rfl

theorem K.X3.toData {F : Frame} {Γ : Ctx} {cfg : Config} {hs : HState} {ι : Nat → Nat} {κ : Nat → Nat → Word}
    {st : State} (X : K.X3 F Γ cfg hs ι κ st) (S : Same F Γ cfg κ st) : Ref.X3 F Γ cfg hs ι st :=
  K.X3R.toData X S

theorem X3.toK {F : Frame} {Γ : Ctx} {cfg : Config} {hs : HState} {ι : Nat → Nat} {st : State}
    (X : X3 F Γ cfg hs ι st) :
    K.X3 F Γ cfg hs ι (fieldWords cfg.heap) st ∧ Same F Γ cfg (fieldWords cfg.heap) st := X3R.toK X

theorem ids_of_href {h : Heap} {κ : Nat → Nat → Word} {rs : List Nat} {next : Nat} {hs : HState} {ι : Nat → Nat}
    (R : HRef (K.trHeap κ h) rs next hs ι) : ∀ id o, h.get id = some o → id < next := fun id o hg =>
  (R.abs.ids _ (K.mem_trHeap κ (heap_get_mem hg))).2.1

end Scc.X86.Ref
