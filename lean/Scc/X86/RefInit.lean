/-
  Scc.X86.RefInit — Theorem B (x86-64), the INITIAL STATE and the LOADER of the machine:
  * `loaded_mkProg`: the program the machine builds from an item list (`mkProg`) holds the items, and
    its label table maps every label to the index of its FIRST definition (`Loaded`, RefBridge.lean);
  * `init_sim`: from the machine's entry state (`initState`: System V entry of `asm_main`, at most five
    integer arguments in rsi rdx rcx r8 r9, heap base in rdi) the routine header emitted by
    into_routine.rs (`preamble`; `setup` = callee-save pushes, spill area, HEAP/FREE, `move_arguments`)
    leads to the first item of the body in a state that REPRESENTS (`RepX86`) the initial configuration
    of the abstract backend machine (`initConfig`: argument i in the word part of position i).  The walk
    through the header is `header_exec`, stated on the states it passes and with what it leaves of the heap
    registers, so that `K.init_sim3` (RefClosHInit.lean: heap view, no `#ctx` comment on the way) reads it too.
-/
import Scc.X86.RefRun

set_option linter.unusedSimpArgs false

namespace Scc.X86.Ref

open Scc.Backend Scc.Backend.Abs

/-- the fold of `mkLabelIdx` -/
def labF (m : Std.HashMap String Nat) (ci : Code × Nat) : Std.HashMap String Nat :=
  match ci.1 with
  | .LAB l => if m.contains l then m else m.insert l ci.2
  | _ => m

theorem mkLabelIdx_eq (cs : List Code) : mkLabelIdx cs = cs.zipIdx.foldl labF ∅ := rfl

theorem labF_fold (l : String) : ∀ (cs : List Code) (k : Nat) (m : Std.HashMap String Nat),
    ((cs.zipIdx k).foldl labF m)[l]? =
      match m[l]? with
      | some i => some i
      | none => (cs.findIdx? (fun c => decide (c = Code.LAB l))).map (· + k)
  | [], k, m => by
    simp only [List.zipIdx_nil, List.foldl_nil, List.findIdx?_nil, Option.map_none]
    cases m[l]? <;> rfl
  | c :: rest, k, m => by
    simp only [List.zipIdx_cons, List.foldl_cons]
    rw [labF_fold l rest (k + 1)]
    by_cases hc : ∃ l', c = Code.LAB l'
    · obtain ⟨l', rfl⟩ := hc
      simp only [labF]
      by_cases hm : m.contains l' = true
      · rw [if_pos hm]
        cases hml : m[l]? with
        | some i => rfl
        | none =>
          have hne : l' ≠ l := by
            intro e; subst e
            rw [Std.HashMap.contains_eq_isSome_getElem?, hml] at hm
            simp at hm
          simp only [List.findIdx?_cons]
          have : decide (Code.LAB l' = Code.LAB l) = false := by simp [hne]
          rw [this]
          cases List.findIdx? (fun c => decide (c = Code.LAB l)) rest <;>
            simp [Nat.add_assoc, Nat.add_comm 1]
      · rw [if_neg hm]
        rw [Std.HashMap.getElem?_insert]
        by_cases hne : l' = l
        · subst hne
          have hml : m[l']? = none := by
            rw [Std.HashMap.contains_eq_isSome_getElem?] at hm
            cases h : m[l']? with
            | none => rfl
            | some x => rw [h] at hm; simp at hm
          simp [hml, List.findIdx?_cons]
        · have hb : (l' == l) = false := by simp [hne]
          simp only [hb, Bool.false_eq_true, if_false]
          cases hml : m[l]? with
          | some i => rfl
          | none =>
            simp only [List.findIdx?_cons]
            have : decide (Code.LAB l' = Code.LAB l) = false := by simp [hne]
            rw [this]
            cases List.findIdx? (fun c => decide (c = Code.LAB l)) rest <;>
              simp [Nat.add_assoc, Nat.add_comm 1]
    · have hF : labF m (c, k) = m := by
        cases c <;> first | rfl | exact absurd ⟨_, rfl⟩ hc
      rw [hF]
      have hd : decide (c = Code.LAB l) = false := by
        simp only [decide_eq_false_iff_not]
        intro e; exact hc ⟨l, e⟩
      cases hml : m[l]? with
      | some i => rfl
      | none =>
        simp only [List.findIdx?_cons, hd]
        cases List.findIdx? (fun c => decide (c = Code.LAB l)) rest <;>
          simp [Nat.add_assoc, Nat.add_comm 1]

theorem mkLabelIdx_get (cs : List Code) (l : String) : (mkLabelIdx cs)[l]? = labIdx cs l := by
  rw [mkLabelIdx_eq, show cs.zipIdx = cs.zipIdx 0 from rfl, labF_fold l cs 0 ∅]
  simp only [Std.HashMap.getElem?_empty, labIdx]
  cases List.findIdx? (fun c => decide (c = Code.LAB l)) cs <;> simp

theorem stripC_lab (c : Code) (l : String) : decide (stripC c = Code.LAB l) = decide (c = Code.LAB l) := by
  cases c <;> simp [stripC]

theorem labIdx_strip {a b : List Code} (h : a.map stripC = b.map stripC) (l : String) :
    labIdx a l = labIdx b l := by
  have key : ∀ (x : List Code), labIdx x l = labIdx (x.map stripC) l := by
    intro x
    unfold labIdx
    rw [List.findIdx?_map]
    congr 1
    funext c
    simp only [Function.comp]
    exact (stripC_lab c l).symm
  rw [key a, key b, h]

/-- THE LOADER: `mkProg` holds the items and resolves labels to their first definitions -/
theorem loaded_mkProg (c : MachCfg) (items : List (Code × Nat)) (cs : List Code)
    (h : (items.map (·.1)).map stripC = cs.map stripC) : Loaded (mkProg c items) cs := by
  constructor
  · intro i
    show ((items.map (·.1)).toArray[i]?).map stripC = _
    rw [List.getElem?_toArray, ← List.getElem?_map, h, List.getElem?_map]
  · intro l
    show (mkLabelIdx (items.map (·.1)))[l]? = _
    rw [mkLabelIdx_get]
    exact labIdx_strip h l

/-- sanity of the machine configuration: regions in order, the stack top 16-aligned (so that
    `rsp = stackTop − 8 ≡ 8 (mod 16)` at entry, System V), room for the frame of `asm_main` -/
structure MachOK (c : MachCfg) : Prop where
  cfg : CfgOK c
  top16 : c.stackTop % 16 = 0
  room : c.stackLow + 2176 ≤ c.stackTop

theorem machOK_default : MachOK {} := ⟨cfgOK_default, by decide, by decide⟩

/-- the argument registers of the entry state after the heap pointer (Machine.lean `argRegs`) -/
def argReg (i : Nat) : Nat := [6, 5, 1, 8, 9].getD i 0

/-- folding `set!` over key–value pairs: a key outside the pairs keeps its value -/
theorem foldl_set!_other {α β : Type} (f : β → Nat × α) (r : Nat) :
    ∀ (kvs : List β) (a : Array α), (∀ kv ∈ kvs, (f kv).1 ≠ r) →
      (kvs.foldl (fun a kv => a.set! (f kv).1 (f kv).2) a)[r]? = a[r]?
  | [], _, _ => rfl
  | kv :: kvs, a, h => by
    rw [List.foldl_cons, foldl_set!_other f r kvs _ fun x hx => h x (List.mem_cons_of_mem _ hx),
      Array.set!_eq_setIfInBounds, Array.getElem?_setIfInBounds_ne (h kv List.mem_cons_self)]

theorem foldl_set!_size {α β : Type} (f : β → Nat × α) :
    ∀ (kvs : List β) (a : Array α), (kvs.foldl (fun a kv => a.set! (f kv).1 (f kv).2) a).size = a.size
  | [], _ => rfl
  | kv :: kvs, a => by
    rw [List.foldl_cons, foldl_set!_size f kvs, Array.set!_eq_setIfInBounds, Array.size_setIfInBounds]

/-- … and the `i`-th pair sets its key, if no later pair has the same key and the key is in bounds -/
theorem foldl_set!_get {α β : Type} (f : β → Nat × α) :
    ∀ (kvs : List β) (a : Array α) (i : Nat) (hi : i < kvs.length), (f kvs[i]).1 < a.size →
      (∀ j (hj : j < kvs.length), i < j → (f kvs[j]).1 ≠ (f kvs[i]).1) →
      (kvs.foldl (fun a kv => a.set! (f kv).1 (f kv).2) a)[(f kvs[i]).1]? = some (f kvs[i]).2
  | kv :: kvs, a, 0, _, hlt, h => by
    rw [List.foldl_cons, foldl_set!_other f _ kvs _ fun x hx => by
        obtain ⟨j, hj, rfl⟩ := List.getElem_of_mem hx
        exact h (j + 1) (Nat.succ_lt_succ hj) (Nat.succ_pos j),
      Array.set!_eq_setIfInBounds]
    exact Array.getElem?_setIfInBounds_self_of_lt hlt
  | kv :: kvs, a, i + 1, hi, hlt, h => by
    rw [List.foldl_cons]
    exact foldl_set!_get f kvs _ i (Nat.lt_of_succ_lt_succ hi)
      (by rw [Array.set!_eq_setIfInBounds, Array.size_setIfInBounds]; exact hlt)
      fun j hj hij => h (j + 1) (Nat.succ_lt_succ hj) (Nat.succ_lt_succ hij)

/-- what `initState` establishes (at most five arguments) -/
structure InitFacts (c : MachCfg) (args : List Word) (st : State) : Prop where
  size : st.regs.size = 16
  rsp : st.regs[0]? = some (some (BitVec.ofNat 64 (c.stackTop - 8)))
  heap : st.regs[7]? = some (some (BitVec.ofNat 64 c.heapBase))
  callee : ∀ r ∈ calleeSaved, st.regs[r]? = some (some (calleeSentinel r))
  args : ∀ i (hi : i < args.length), st.regs[argReg i]? = some (some args[i])
  retw : st.stackMem[c.stackTop - 8]? = some retSentinel
  out : st.out = []

theorem initFacts (c : MachCfg) (args : List Word) (hn : args.length ≤ 5) (entry : Nat) :
    InitFacts c args (initState c args entry) := by
  have hsz : ∀ (kvs : List (Reg × Word)), ((kvs.foldl (fun a (ra : Reg × Word) => a.set! ra.1 (some ra.2))
      (calleeSaved.foldl (fun a r => a.set! r (some (calleeSentinel r))) (Array.replicate 16 none))).set! 7
        (some (BitVec.ofNat 64 c.heapBase))).size = 16 := fun kvs => by
    rw [Array.set!_eq_setIfInBounds, Array.size_setIfInBounds,
      foldl_set!_size (fun ra : Reg × Word => (ra.1, some ra.2)),
      foldl_set!_size (fun r : Reg => (r, some (calleeSentinel r))), Array.size_replicate]
  -- registers other than rsp (0) and the heap pointer (7) are read below the two last `set!`
  have hlow : ∀ r, r ≠ 0 → r ≠ 7 → (initState c args entry).regs[r]? =
      ((argRegs.zip args).foldl (fun a (ra : Reg × Word) => a.set! ra.1 (some ra.2))
        (calleeSaved.foldl (fun a r => a.set! r (some (calleeSentinel r))) (Array.replicate 16 none)))[r]? :=
    fun r h0 h7 => by
      show (initRegs c args)[r]? = _
      rw [initRegs, Array.set!_eq_setIfInBounds, Array.getElem?_setIfInBounds_ne (Ne.symm h0),
        Array.set!_eq_setIfInBounds, Array.getElem?_setIfInBounds_ne (Ne.symm h7)]
  refine ⟨?_, ?_, ?_, ?_, ?_, by simp [initState], rfl⟩
  · show (initRegs c args).size = 16
    rw [initRegs, Array.set!_eq_setIfInBounds, Array.size_setIfInBounds]; exact hsz _
  · show (initRegs c args)[0]? = _
    rw [initRegs, Array.set!_eq_setIfInBounds]
    exact Array.getElem?_setIfInBounds_self_of_lt (by rw [hsz]; decide)
  · show (initRegs c args)[7]? = _
    rw [initRegs, Array.set!_eq_setIfInBounds, Array.getElem?_setIfInBounds_ne (by decide),
      Array.set!_eq_setIfInBounds]
    exact Array.getElem?_setIfInBounds_self_of_lt (by
      rw [foldl_set!_size (fun ra : Reg × Word => (ra.1, some ra.2)),
        foldl_set!_size (fun r : Reg => (r, some (calleeSentinel r))), Array.size_replicate]; decide)
  · intro r hr
    have hfacts : ∀ r ∈ calleeSaved, r ≠ 0 ∧ r ≠ 7 ∧ r < 16 ∧ r ∉ argRegs := by decide
    obtain ⟨h0, h7, h16, hna⟩ := hfacts r hr
    obtain ⟨j, hj, rfl⟩ := List.getElem_of_mem hr
    rw [hlow _ h0 h7, foldl_set!_other (fun ra : Reg × Word => (ra.1, some ra.2)) _ _ _
      fun kv hkv e => hna (by rw [← show kv.1 = calleeSaved[j] from e]; exact (List.of_mem_zip hkv).1)]
    exact foldl_set!_get (fun r : Reg => (r, some (calleeSentinel r))) calleeSaved _ j hj
      (by rw [Array.size_replicate]; exact h16)
      fun k hk hjk e => absurd ((List.getElem_inj (by decide : calleeSaved.Nodup)).1 e) (by omega)
  · intro i hi
    have hi5 : i < argRegs.length := by show i < 5; omega
    have hz : i < (argRegs.zip args).length := by rw [List.length_zip]; exact Nat.lt_min.2 ⟨hi5, hi⟩
    have hkey : argReg i = ((argRegs.zip args)[i]).1 := by
      rw [List.getElem_zip]; show argRegs.getD i 0 = _
      rw [List.getD_eq_getElem?_getD, List.getElem?_eq_getElem hi5]; rfl
    have hfacts : ∀ r ∈ argRegs, r ≠ 0 ∧ r ≠ 7 ∧ r < 16 := by decide
    have hm : ((argRegs.zip args)[i]).1 ∈ argRegs := by rw [List.getElem_zip]; exact List.getElem_mem _
    obtain ⟨h0, h7, h16⟩ := hfacts _ hm
    rw [hkey, hlow _ h0 h7]
    have := foldl_set!_get (fun ra : Reg × Word => (ra.1, some ra.2)) (argRegs.zip args)
      (calleeSaved.foldl (fun a r => a.set! r (some (calleeSentinel r))) (Array.replicate 16 none)) i hz
      (by rw [foldl_set!_size (fun r : Reg => (r, some (calleeSentinel r))), Array.size_replicate]; exact h16)
      fun k hk hik e => by
        rw [List.getElem_zip, List.getElem_zip] at e
        exact absurd ((List.getElem_inj (by decide : argRegs.Nodup)).1 e) (by omega)
    rw [this, List.getElem_zip]

/-- `move_arguments n` (n ≤ 5) on the functional view: parameter i ends in register 2 i + 5 (the word
    part of position i); rsp and the stack are untouched -/
theorem a_moveArguments (c : MachCfg) (la : String → Option Nat) : ∀ (n : Nat) (moves : List Code),
    n ≤ 5 → moveArguments n = .ok moves → ∀ (a : AState),
    ∃ a', aexecList c la moves a = some a' ∧ (∀ i, i < n → a'.reg (2 * i + 5) = a.reg (argReg i)) ∧
      a'.reg 0 = a.reg 0 ∧ a'.mem = a.mem := by
  intro n moves hn h a
  have m75 := fun (x : AState) => aexec_MOV' (c := c) (la := la) (a := x) (by decide : 7 < 16) (by decide : 5 < 16)
  have m56 := fun (x : AState) => aexec_MOV' (c := c) (la := la) (a := x) (by decide : 5 < 16) (by decide : 6 < 16)
  have m91 := fun (x : AState) => aexec_MOV' (c := c) (la := la) (a := x) (by decide : 9 < 16) (by decide : 1 < 16)
  have m118 := fun (x : AState) => aexec_MOV' (c := c) (la := la) (a := x) (by decide : 11 < 16) (by decide : 8 < 16)
  have m139 := fun (x : AState) => aexec_MOV' (c := c) (la := la) (a := x) (by decide : 13 < 16) (by decide : 9 < 16)
  have cases5 : n = 0 ∨ n = 1 ∨ n = 2 ∨ n = 3 ∨ n = 4 ∨ n = 5 := by omega
  rcases cases5 with rfl | rfl | rfl | rfl | rfl | rfl
  · have : moves = [.COMMENT "move parameters into place"] := by
      have : moveArguments 0 = .ok [.COMMENT "move parameters into place"] := rfl
      rw [this] at h; injection h with h; exact h.symm
    subst this
    exact ⟨a, rfl, fun i hi => by omega, rfl, rfl⟩
  · have : moves = [.COMMENT "move parameters into place", .MOV 5 6] := by
      have : moveArguments 1 = .ok [.COMMENT "move parameters into place", .MOV 5 6] := rfl
      rw [this] at h; injection h with h; exact h.symm
    subst this
    refine ⟨_, by simp only [aexecList, aexec_COMMENT, m56]; rfl, ?_, by simp, by simp⟩
    intro i hi
    have : i = 0 := by omega
    subst this; simp [argReg]
  · have : moves = [.COMMENT "move parameters into place", .MOV 7 5,
        .COMMENT "move parameters into place", .MOV 5 6] := by
      have : moveArguments 2 = .ok [.COMMENT "move parameters into place", .MOV 7 5,
        .COMMENT "move parameters into place", .MOV 5 6] := rfl
      rw [this] at h; injection h with h; exact h.symm
    subst this
    refine ⟨_, by simp only [aexecList, aexec_COMMENT, m56, m75]; rfl, ?_, by simp, by simp⟩
    intro i hi
    have : i = 0 ∨ i = 1 := by omega
    rcases this with rfl | rfl <;> simp [argReg]
  · have : moves = [.COMMENT "move parameters into place", .MOV 9 1,
        .COMMENT "move parameters into place", .MOV 7 5,
        .COMMENT "move parameters into place", .MOV 5 6] := by
      have : moveArguments 3 = .ok [.COMMENT "move parameters into place", .MOV 9 1,
        .COMMENT "move parameters into place", .MOV 7 5,
        .COMMENT "move parameters into place", .MOV 5 6] := rfl
      rw [this] at h; injection h with h; exact h.symm
    subst this
    refine ⟨_, by simp only [aexecList, aexec_COMMENT, m56, m75, m91]; rfl, ?_, by simp, by simp⟩
    intro i hi
    have : i = 0 ∨ i = 1 ∨ i = 2 := by omega
    rcases this with rfl | rfl | rfl <;> simp [argReg]
  · have : moves = [.COMMENT "move parameters into place", .MOV 11 8,
        .COMMENT "move parameters into place", .MOV 9 1,
        .COMMENT "move parameters into place", .MOV 7 5,
        .COMMENT "move parameters into place", .MOV 5 6] := by
      have : moveArguments 4 = .ok [.COMMENT "move parameters into place", .MOV 11 8,
        .COMMENT "move parameters into place", .MOV 9 1,
        .COMMENT "move parameters into place", .MOV 7 5,
        .COMMENT "move parameters into place", .MOV 5 6] := rfl
      rw [this] at h; injection h with h; exact h.symm
    subst this
    refine ⟨_, by simp only [aexecList, aexec_COMMENT, m56, m75, m91, m118]; rfl, ?_, by simp, by simp⟩
    intro i hi
    have : i = 0 ∨ i = 1 ∨ i = 2 ∨ i = 3 := by omega
    rcases this with rfl | rfl | rfl | rfl <;> simp [argReg]
  · have : moves = [.COMMENT "move parameters into place", .MOV 13 9,
        .COMMENT "move parameters into place", .MOV 11 8,
        .COMMENT "move parameters into place", .MOV 9 1,
        .COMMENT "move parameters into place", .MOV 7 5,
        .COMMENT "move parameters into place", .MOV 5 6] := by
      have : moveArguments 5 = .ok [.COMMENT "move parameters into place", .MOV 13 9,
        .COMMENT "move parameters into place", .MOV 11 8,
        .COMMENT "move parameters into place", .MOV 9 1,
        .COMMENT "move parameters into place", .MOV 7 5,
        .COMMENT "move parameters into place", .MOV 5 6] := rfl
      rw [this] at h; injection h with h; exact h.symm
    subst this
    refine ⟨_, by simp only [aexecList, aexec_COMMENT, m56, m75, m91, m118, m139]; rfl, ?_, by simp, by simp⟩
    intro i hi
    have : i = 0 ∨ i = 1 ∨ i = 2 ∨ i = 3 ∨ i = 4 := by omega
    rcases this with rfl | rfl | rfl | rfl | rfl <;> simp [argReg]

/-- `move_arguments` accepts at most five parameters ("too many arguments for main") -/
theorem moveArguments_le : ∀ (n : Nat) (moves : List Code), moveArguments n = .ok moves → n ≤ 5
  | 0, _, _ => by omega
  | 1, _, _ => by omega
  | n + 2, moves, h => by
    unfold moveArguments at h
    by_cases hn : n + 2 > 5
    · rw [if_pos hn] at h; cases h
    · omega

theorem labs_moveArguments : ∀ (n : Nat) (moves : List Code), n ≤ 5 → moveArguments n = .ok moves →
    labs moves = [] := by
  intro n moves hn h
  have cases5 : n = 0 ∨ n = 1 ∨ n = 2 ∨ n = 3 ∨ n = 4 ∨ n = 5 := by omega
  rcases cases5 with rfl | rfl | rfl | rfl | rfl | rfl <;> (cases h; rfl)

/-- `routine_anatomy` (ProofsCC.lean) with the items before `asm_main:` written out and `cleanup` kept whole -/
theorem intoRoutine_shape {body routine : List Code} {n : Nat} (h : intoRoutine body n = .ok routine) :
    ∃ moves, moveArguments n = .ok moves ∧
      routine = [Code.COMMENT "asmsyntax=nasm", .NOEXECSTACK, .TEXT, .EXTERN "print_i64",
          .EXTERN "println_i64", .GLOBAL "asm_main"] ++ Code.LAB "asm_main" ::
        ((prologue ++ moves ++ [Code.COMMENT "actual code"]) ++ (body ++ cleanup)) := by
  obtain ⟨moves, hm, e⟩ := routine_anatomy h
  exact ⟨moves, hm, by rw [e, ← cleanup_eq]; simp [routineHead, preamble]⟩

theorem not_mem_labs_preamble (l : String) : l ∉ labs [Code.COMMENT "asmsyntax=nasm", .NOEXECSTACK, .TEXT,
    .EXTERN "print_i64", .EXTERN "println_i64", .GLOBAL "asm_main"] :=
  List.not_mem_nil

def header (moves : List Code) : List Code :=
  [Code.COMMENT "asmsyntax=nasm", .NOEXECSTACK, .TEXT, .EXTERN "print_i64", .EXTERN "println_i64",
    .GLOBAL "asm_main", .LAB "asm_main"] ++ (prologue ++ moves ++ [Code.COMMENT "actual code"])

theorem labs_header {n : Nat} {moves : List Code} (hn : n ≤ 5) (hm : moveArguments n = .ok moves) :
    labs (header moves) = ["asm_main"] := by
  unfold header
  rw [labs_append, labs_append, labs_append, labs_moveArguments n moves hn hm]
  rfl

/-- `move_arguments` leaves HEAP and FREE alone -/
theorem a_moveArguments_keep23 (c : MachCfg) (la : String → Option Nat) : ∀ (n : Nat) (moves : List Code),
    n ≤ 5 → moveArguments n = .ok moves → ∀ (a a' : AState), aexecList c la moves a = some a' →
    a'.reg 2 = a.reg 2 ∧ a'.reg 3 = a.reg 3 := by
  intro n moves hn h a a' hx
  have m75 := fun (x : AState) => aexec_MOV' (c := c) (la := la) (a := x) (by decide : 7 < 16) (by decide : 5 < 16)
  have m56 := fun (x : AState) => aexec_MOV' (c := c) (la := la) (a := x) (by decide : 5 < 16) (by decide : 6 < 16)
  have m91 := fun (x : AState) => aexec_MOV' (c := c) (la := la) (a := x) (by decide : 9 < 16) (by decide : 1 < 16)
  have m118 := fun (x : AState) => aexec_MOV' (c := c) (la := la) (a := x) (by decide : 11 < 16) (by decide : 8 < 16)
  have m139 := fun (x : AState) => aexec_MOV' (c := c) (la := la) (a := x) (by decide : 13 < 16) (by decide : 9 < 16)
  have cases5 : n = 0 ∨ n = 1 ∨ n = 2 ∨ n = 3 ∨ n = 4 ∨ n = 5 := by omega
  rcases cases5 with rfl | rfl | rfl | rfl | rfl | rfl
  · have : moves = [.COMMENT "move parameters into place"] := by
      have : moveArguments 0 = .ok [.COMMENT "move parameters into place"] := rfl
      rw [this] at h; injection h with h; exact h.symm
    subst this
    simp only [aexecList, aexec_COMMENT, m56, m75, m91, m118, m139] at hx
    injection hx with hx
    subst hx
    exact ⟨by simp, by simp⟩
  · have : moves = [.COMMENT "move parameters into place", .MOV 5 6] := by
      have : moveArguments 1 = .ok [.COMMENT "move parameters into place", .MOV 5 6] := rfl
      rw [this] at h; injection h with h; exact h.symm
    subst this
    simp only [aexecList, aexec_COMMENT, m56, m75, m91, m118, m139] at hx
    injection hx with hx
    subst hx
    exact ⟨by simp, by simp⟩
  · have : moves = [.COMMENT "move parameters into place", .MOV 7 5,
        .COMMENT "move parameters into place", .MOV 5 6] := by
      have : moveArguments 2 = .ok [.COMMENT "move parameters into place", .MOV 7 5,
        .COMMENT "move parameters into place", .MOV 5 6] := rfl
      rw [this] at h; injection h with h; exact h.symm
    subst this
    simp only [aexecList, aexec_COMMENT, m56, m75, m91, m118, m139] at hx
    injection hx with hx
    subst hx
    exact ⟨by simp, by simp⟩
  · have : moves = [.COMMENT "move parameters into place", .MOV 9 1,
        .COMMENT "move parameters into place", .MOV 7 5,
        .COMMENT "move parameters into place", .MOV 5 6] := by
      have : moveArguments 3 = .ok [.COMMENT "move parameters into place", .MOV 9 1,
        .COMMENT "move parameters into place", .MOV 7 5,
        .COMMENT "move parameters into place", .MOV 5 6] := rfl
      rw [this] at h; injection h with h; exact h.symm
    subst this
    simp only [aexecList, aexec_COMMENT, m56, m75, m91, m118, m139] at hx
    injection hx with hx
    subst hx
    exact ⟨by simp, by simp⟩
  · have : moves = [.COMMENT "move parameters into place", .MOV 11 8,
        .COMMENT "move parameters into place", .MOV 9 1,
        .COMMENT "move parameters into place", .MOV 7 5,
        .COMMENT "move parameters into place", .MOV 5 6] := by
      have : moveArguments 4 = .ok [.COMMENT "move parameters into place", .MOV 11 8,
        .COMMENT "move parameters into place", .MOV 9 1,
        .COMMENT "move parameters into place", .MOV 7 5,
        .COMMENT "move parameters into place", .MOV 5 6] := rfl
      rw [this] at h; injection h with h; exact h.symm
    subst this
    simp only [aexecList, aexec_COMMENT, m56, m75, m91, m118, m139] at hx
    injection hx with hx
    subst hx
    exact ⟨by simp, by simp⟩
  · have : moves = [.COMMENT "move parameters into place", .MOV 13 9,
        .COMMENT "move parameters into place", .MOV 11 8,
        .COMMENT "move parameters into place", .MOV 9 1,
        .COMMENT "move parameters into place", .MOV 7 5,
        .COMMENT "move parameters into place", .MOV 5 6] := by
      have : moveArguments 5 = .ok [.COMMENT "move parameters into place", .MOV 13 9,
        .COMMENT "move parameters into place", .MOV 11 8,
        .COMMENT "move parameters into place", .MOV 9 1,
        .COMMENT "move parameters into place", .MOV 7 5,
        .COMMENT "move parameters into place", .MOV 5 6] := rfl
      rw [this] at h; injection h with h; exact h.symm
    subst this
    simp only [aexecList, aexec_COMMENT, m56, m75, m91, m118, m139] at hx
    injection hx with hx
    subst hx
    exact ⟨by simp, by simp⟩

/-- THE WALK THROUGH THE HEADER, on states: the label `asm_main` (one transition, to `setPS … 7 k1`), then the
prologue, `move_arguments` and the comment as one straight block, ending in `st2`, which represents the initial
configuration of the abstract machine and in which the heap is untouched, HEAP = heap base, FREE = heap base + 64 -/
theorem header_exec {mon : MonCfg} (MO : MachOK mon.mach) {p : Prog}
    {routine body : List Code} {args : List Word} (hn : args.length ≤ 5)
    (hr : intoRoutine body args.length = .ok routine) (L : Loaded p routine) :
    ∃ (moves : List Code) (F : Frame) (k1 k2 : Nat) (st2 : State),
      moveArguments args.length = .ok moves ∧ routine = header moves ++ body ++ cleanup ∧
      labIdx routine "asm_main" = some 6 ∧ F.c = mon.mach ∧ FrameOK F ∧
      EntryFacts F (setPS (initState mon.mach args 6) 7 k1) (BitVec.ofNat 64 mon.mach.heapBase) ∧
      step mon p (initState mon.mach args 6) = .inl (setPS (initState mon.mach args 6) 7 k1) ∧
      execStraight mon.mach p.labelAddr (prologue ++ moves ++ [Code.COMMENT "actual code"])
        (setPS (initState mon.mach args 6) 7 k1) = .ok st2 ∧
      stepN mon p (prologue ++ moves ++ [Code.COMMENT "actual code"]).length
        (setPS (initState mon.mach args 6) 7 k1) = .inl (setPS st2 (header moves).length k2) ∧
      RepX86 F .normal (initConfig 0 args) st2 ∧ st2.heapMem = ∅ ∧
      st2.regs[HEAP]? = some (some (BitVec.ofNat 64 mon.mach.heapBase)) ∧
      st2.regs[FREE]? = some (some (BitVec.ofNat 64 mon.mach.heapBase + 64)) := by
  obtain ⟨moves, hm, hshape⟩ := intoRoutine_shape hr
  have I := initFacts mon.mach args hn 6
  have hc8 := MO.top16
  have hroom := MO.room
  have htop := MO.cfg.top
  have hcs1 : routine = [Code.COMMENT "asmsyntax=nasm", .NOEXECSTACK, .TEXT, .EXTERN "print_i64",
      .EXTERN "println_i64", .GLOBAL "asm_main"] ++ Code.LAB "asm_main" ::
      ((prologue ++ moves ++ [Code.COMMENT "actual code"]) ++ (body ++ cleanup)) := hshape
  have hidx : labIdx routine "asm_main" = some 6 := by
    rw [hcs1]
    exact labIdx_append_of_not_mem _ _ _ (not_mem_labs_preamble _)
  obtain ⟨k1, hk1⟩ := step_fall mon L hcs1 (s := initState mon.mach args 6) rfl
    (show execCode mon.mach p.labelAddr (.LAB "asm_main") (initState mon.mach args 6) =
      .ok (initState mon.mach args 6, .next) from rfl)
  have E : EntryOK mon.mach (setPS (initState mon.mach args 6) 7 k1) (mon.mach.stackTop - 8) :=
    ⟨MO.cfg, I.size, I.rsp, by omega, by omega, by omega⟩
  obtain ⟨st1, e1, P⟩ := prologue_machine (la := p.labelAddr) E (h := BitVec.ofNat 64 mon.mach.heapBase) I.heap
  have R1 := st1.rel_view P.size
  obtain ⟨a', ea, hargs, hrsp, hmem⟩ := a_moveArguments mon.mach p.labelAddr args.length moves hn hm st1.view
  obtain ⟨st2, e2, R2, S2⟩ := sim_execList p.labelAddr R1 ea
  obtain ⟨hk2r, hk3r⟩ := a_moveArguments_keep23 mon.mach p.labelAddr args.length moves hn hm st1.view a' ea
  have hB : execStraight mon.mach p.labelAddr (prologue ++ moves ++ [Code.COMMENT "actual code"])
      (setPS (initState mon.mach args 6) 7 k1) = .ok st2 := by
    rw [execStraight_append, execStraight_append, e1]
    simp only [e2]
    rfl
  have hcs2 : routine = ([Code.COMMENT "asmsyntax=nasm", .NOEXECSTACK, .TEXT, .EXTERN "print_i64",
      .EXTERN "println_i64", .GLOBAL "asm_main"] ++ [Code.LAB "asm_main"]) ++
      (prologue ++ moves ++ [Code.COMMENT "actual code"]) ++ (body ++ cleanup) := by
    rw [hcs1]; simp
  obtain ⟨k2, hk2⟩ := steps_block mon L hcs2 (s := setPS (initState mon.mach args 6) 7 k1) rfl hB
  let F : Frame := ⟨mon.mach, mon.mach.stackTop - 8, st1⟩
  have HF : FrameOK F := ⟨MO.cfg, by show (mon.mach.stackTop - 8) % 16 = 8; omega,
    by show mon.mach.stackLow + 2168 ≤ mon.mach.stackTop - 8; omega, by show mon.mach.stackTop - 8 ≤ mon.mach.stackTop; omega⟩
  refine ⟨moves, F, k1, k2, st2, hm, by rw [hcs1]; simp [header], hidx, rfl, HF,
    ⟨E, P, rfl, by show mon.mach.stackTop % 8 = 0; omega, by show mon.mach.stackLow + 8 ≤ mon.mach.stackTop; omega,
      I.retw, I.callee⟩, hk1, hB, ?_, ?_, ?_, ?_, ?_⟩
  · rw [hk2]; simp only [header, List.length_append, List.length_cons, List.length_nil]
  · have hsp : st2.regs[0]? = some (some F.sp) := by
      rw [R2.regs 0 (by decide), hrsp, ← R1.regs 0 (by decide), P.rsp]
      rfl
    refine ⟨⟨R2.size, hsp, HF.spOK⟩, ?_, ?_, ?_, ?_, ?_⟩
    · intro t v ht hg
      obtain ⟨i, hi, rfl, rfl⟩ := initTemps_get_inv args 0 t v hg
      have hi5 : i < 5 := by omega
      have hpos : posTemp (2 * (0 + i) + 1) = .reg (2 * i + 5) := by
        unfold posTemp
        rw [Nat.zero_add, if_pos (by omega)]
      rw [hpos]
      simp only [tempVal]
      have hlt : 2 * i + 5 < 16 := by omega
      have hareg : argReg i < 16 ∧ argReg i ≠ 0 ∧ argReg i ≠ 2 ∧ argReg i ≠ 3 := by
        have : i = 0 ∨ i = 1 ∨ i = 2 ∨ i = 3 ∨ i = 4 := by omega
        rcases this with rfl | rfl | rfl | rfl | rfl <;> simp [argReg]
      rw [R2.regs _ hlt, hargs i hi, ← R1.regs _ hareg.1, P.regs _ hareg.1 hareg.2.1 hareg.2.2.1 hareg.2.2.2]
      show ((initState mon.mach args 6).regs[argReg i]?).join = _
      rw [I.args i hi]
      rfl
    · intro v hg
      obtain ⟨i, hi, ht, _⟩ := initTemps_get_inv args 0 _ v hg
      exfalso
      unfold Mock.T_RET1 at ht
      omega
    · intro b hb; cases hb
    · rw [S2.out, P.same.out]
      exact I.out
    · intro n _
      rw [R2.mem, hmem]
      rfl
  · rw [S2.heapMem, P.same.heapMem]
    rfl
  · rw [show HEAP = 2 from rfl, R2.regs 2 (by decide), hk2r, ← R1.regs 2 (by decide), P.heap]
  · rw [show FREE = 3 from rfl, R2.regs 3 (by decide), hk3r, ← R1.regs 3 (by decide), P.free]

/-- THE INITIAL-STATE LEMMA: from the entry state of the machine the header of the routine leads to the
    first item of the body, in a state that represents the initial configuration of the abstract
    machine (entry address 0 = the label of the first definition) -/
theorem init_sim {mon : MonCfg} (MO : MachOK mon.mach) {p : Prog}
    {routine body : List Code} {args : List Word} (hn : args.length ≤ 5)
    (hr : intoRoutine body args.length = .ok routine) (L : Loaded p routine) :
    ∃ (hdr : List Code) (F : Frame) (h : Word) (st0' : State) (k : Nat) (st2 : State),
      routine = hdr ++ body ++ cleanup ∧ labs hdr = ["asm_main"] ∧ labIdx routine "asm_main" = some 6 ∧
      F.c = mon.mach ∧ FrameOK F ∧ EntryFacts F st0' h ∧
      stepN mon p k (initState mon.mach args 6) = .inl st2 ∧ st2.pc = hdr.length ∧
      RepX86 F .normal (initConfig 0 args) st2 := by
  obtain ⟨moves, F, k1, k2, st2, hm, hcs, hidx, hF, HF, E, hk1, _, hk2, R, _⟩ := header_exec MO hn hr L
  exact ⟨header moves, F, _, _, 1 + _, _, hcs, labs_header hn hm, hidx, hF, HF, E,
    by rw [stepN_add mon p 1 _ _ _ (by rw [stepN_one]; exact hk1)]; exact hk2, rfl, R.setPS _ _⟩

end Scc.X86.Ref
