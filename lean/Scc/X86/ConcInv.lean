/-
  Scc.X86.ConcInv — the heap invariant of C09 ON THE CONCRETE x86-64 MACHINE STATE, derived from the
  three-way relation at a statement boundary.

  `HeapInvAt m s kinds limit` is the predicate of the executable heap monitor (`heapCheck` of
  Scc/X86/Machine.lean) with the decision procedure `Scc.Heap.invCheckFn` replaced by what it decides,
  the invariant `Scc.Heap.InvW` (Scc/Heap/Inv.lean), on the raw machine components:
    * memory   = the machine's heap words (unwritten words read 0), as naturals;
    * heap/free = the contents of the registers HEAP (rbx) and FREE (rbp);
    * roots    = the contents of the FIRST temporaries (utils.rs temporary_from_position: registers 4..15,
                 then spill slots) of the non-`ext` variables of the context, read exactly as the monitor
                 reads them (`readLoc` of `tempLoc`; in particular they are DEFINED);
    * region   = `[heapBase, limit)`.
  `heapInvAt_of_x3`: a machine state in the right half of the three-way relation — the closure-aware `K.X3`
  (`ConcK.heapInvAt_of_x3`; a closure is a heap object like a constructor object: its pointer part is a root, its
  word part, a code address, is not looked at) and hence the data-only `X3` (`Conc.heapInvAt_of_x3`) — with the left
  half `RelX`, which makes the pointer temporaries of non-`ext` variables defined, satisfies `HeapInvAt` with
  `limit = heapBase + heapBytes`: `HeapRel` (machine memory = block-level state) ∘ `HRef.conc` (the
  block-level state satisfies `InvS` w.r.t. the images of the abstract roots) ∘ agreement of the roots up
  to null pointers (`InvW.roots_congr`).
  `ctxKinds` and the counting lemmas before `HeapInvAt`'s theorems (`ctxKinds_keys`, `zipIdx_filter_kinds`, `count_roots`)
  mention no machine; the other backends use them under these names.
-/
import Scc.X86.RefHeapRun

namespace Scc.X86.Conc

open Scc.AxCut Scc.Backend.Abs Scc.Backend.Sim
open Scc.Backend.Sim2
open Scc.Heap (HState InvS InvW)
open Scc.Heap.Refine (HRef imgW)

/-- the machine's heap memory as the invariant sees it (`heapCheck`: `fun a => (s.heapMem.getD a 0).toNat`) -/
def memFn (s : State) : Nat → Nat := fun a => (s.heapMem.getD a 0).toNat

/-- the kinds a `#ctx […]` hook lists: `true` = not `ext` (the variable has a pointer part) -/
def ctxKinds (Γ : Ctx) : List Bool := Γ.map (fun b => b.chi != Chi.ext)

/-- where the monitor reads the roots (`heapCheck`) -/
def rootLocs (k : X86Consts) (kinds : List Bool) : List Loc :=
  (kinds.zipIdx.filter (·.1)).map (fun (ki : Bool × Nat) => tempLoc k (2 * ki.2))

/-- THE MONITOR'S PREDICATE on a machine state (with `invCheckFn` replaced by `InvW`): the roots, HEAP
and FREE are readable (defined), and the invariant holds for the raw machine memory in `[heapBase, limit)` -/
def HeapInvAt (m : MonCfg) (s : State) (kinds : List Bool) (limit : Nat) : Prop :=
  ∃ (roots : List Word) (h f : Word) (lin lazy live : List Nat) (F : Nat),
    (rootLocs m.consts kinds).mapM (fun l => readLoc m.mach s l) = .ok roots ∧
    rd s m.consts.heap = .ok h ∧ rd s m.consts.free = .ok f ∧
    InvW (memFn s) m.mach.heapBase limit h.toNat f.toNat (roots.map (·.toNat)) [] lin lazy live F

theorem tempLoc_reg {t : Nat} (h : t + 4 < 16) : tempLoc consts t = .r (t + 4) := by
  simp [tempLoc, consts, h]

theorem tempLoc_spill {t : Nat} (h : ¬ t + 4 < 16) : tempLoc consts t = .m 0 (stackOffset (t - 11)) := by
  have e : ((256 * 8 : Nat) : Int) - 8 * (((t + 4 - 16 + 1 : Nat) : Int) + 1) = stackOffset (t - 11) := by
    rw [stackOffset_eq]; omega
  simp only [tempLoc, consts, h, if_false]
  rw [← e]

theorem readLoc_tempLoc {c : MachCfg} {st : State} {sp : Word} (B : Boundary c st sp) {t : Nat}
    (ht : t < 267) {w : Word} (h : tempVal sp st (posTemp t) = some w) :
    readLoc c st (tempLoc consts t) = .ok w := by
  unfold posTemp at h
  by_cases hr : t + 4 < 16
  · rw [if_pos hr] at h
    rw [tempLoc_reg hr]
    exact rd_regIs (regIs_of_tempVal h)
  · rw [if_neg hr] at h
    rw [tempLoc_spill hr]
    have hp : t - 11 < 256 := by omega
    simp only [tempVal] at h
    have hsp : rd st 0 = .ok sp := by simp [rd, B.rsp]
    have hea : ea st 0 (stackOffset (t - 11)) = .ok (sp + BitVec.ofInt 64 (stackOffset (t - 11))) := by
      simp [ea, hsp, imm32, fitsI32_stackOffset hp]
    have hn := slot_toNat B.sp hp
    have h0 := B.sp.aligned
    have h1 := B.sp.high
    have h2 := B.sp.low
    have h3 := B.sp.cfg.heapBelow
    have hal : slotAddr sp (t - 11) % 8 = 0 := by simp only [slotAddr]; omega
    have hnh : inHeap c (slotAddr sp (t - 11)) = false := by
      unfold inHeap slotAddr
      rw [Bool.and_eq_false_iff]; right
      rw [decide_eq_false_iff_not]; omega
    have hst : inStack c (slotAddr sp (t - 11)) = true := by
      unfold inStack slotAddr
      rw [Bool.and_eq_true, decide_eq_true_eq, decide_eq_true_eq]; omega
    simp only [readLoc, hea, loadWord, loadWordRaw, hn, hal, hnh, hst, h]
    simp

theorem ctxKinds_keys {Γ Δ : Ctx} (h : Γ.keys = Δ.keys) : ctxKinds Γ = ctxKinds Δ := by
  have := Scc.Backend.Keys.keys_chi h
  unfold ctxKinds
  have e : ∀ (Γ : Ctx), Γ.map (fun b => b.chi != Chi.ext) = (Γ.map (·.chi)).map (· != Chi.ext) := by
    intro Γ; rw [List.map_map]; rfl
  rw [e, e, this]

/-- the positions the monitor reads, with their indices -/
theorem zipIdx_filter_kinds : ∀ (Γ : Ctx) (k : Nat) (f : Nat → Nat),
    (((ctxKinds Γ).zipIdx k).filter (·.1)).map (fun (ki : Bool × Nat) => f ki.2) =
      (Γ.zipIdx k).filterMap (fun (bi : Binding × Nat) => if bi.1.chi != Chi.ext then some (f bi.2) else none)
  | [], _, _ => rfl
  | b :: Γ, k, f => by
    have ih := zipIdx_filter_kinds Γ (k + 1) f
    simp only [ctxKinds] at ih ⊢
    simp only [List.map_cons, List.zipIdx_cons, List.filter_cons, List.filterMap_cons]
    by_cases hb : (b.chi != Chi.ext) = true
    · simp only [hb, if_true, List.map_cons, ih]
    · have hb' : (b.chi != Chi.ext) = false := by simpa using hb
      simp only [hb', Bool.false_eq_true, if_false, ih]

/-- multiplicities of the non-null roots: the machine words of the pointer temporaries of the non-`ext`
variables against the images of the abstract roots -/
theorem count_roots (σ : Temps) (ι : Nat → Nat) (val : Nat → Nat) (b : Nat) (hb : b ≠ 0) :
    ∀ (Γ : Ctx) (k : Nat),
    (∀ j (hj : j < Γ.length), Γ[j].chi ≠ .ext → ∃ r, σ.get (2 * (k + j)) = some r ∧ val (k + j) = imgW ι r) →
    ((Γ.zipIdx k).filterMap (fun (bi : Binding × Nat) =>
        if bi.1.chi != Chi.ext then some (val bi.2) else none)).count b =
      ((roots.go σ Γ k).map ι).count b
  | [], _, _ => rfl
  | a :: Γ, k, h => by
    have ih := count_roots σ ι val b hb Γ (k + 1) (fun j hj hc => by
      have := h (j + 1) (by simpa using hj) (by simpa using hc)
      rw [show k + (j + 1) = k + 1 + j by omega] at this
      exact this)
    simp only [List.zipIdx_cons, List.filterMap_cons, roots.go]
    by_cases ha : (a.chi != Chi.ext) = true
    · have hne : a.chi ≠ .ext := (chi_bne_ext _).mp ha
      obtain ⟨r, hr, hv⟩ := h 0 (by simp) (by simpa using hne)
      simp only [Nat.add_zero] at hr hv
      simp only [ha, if_true, hr]
      rw [List.count_cons, ih, List.map_append, List.count_append]
      by_cases h0 : r = 0
      · subst h0
        have : ((0 : Word) != 0) = false := by simp
        simp only [this, Bool.false_eq_true, if_false, List.map_nil, List.count_nil, Nat.zero_add]
        rw [hv]
        simp only [imgW, if_true]
        have : ((0 : Nat) == b) = false := by
          rw [beq_eq_false_iff_ne]; exact fun e => hb e.symm
        simp [this]
      · have : (r != 0) = true := by rw [bne_iff_ne]; exact h0
        simp only [this, if_true, List.map_cons, List.map_nil, List.count_cons, List.count_nil]
        rw [hv]
        simp only [imgW, if_neg h0]
        omega
    · have ha' : (a.chi != Chi.ext) = false := by simpa using ha
      simp only [ha', Bool.false_eq_true, if_false, List.nil_append]
      exact ih

end Scc.X86.Conc

namespace Scc.X86.ConcK

open Scc.AxCut Scc.Backend.Abs Scc.X86.Ref
open Scc.Backend.Sim2
open Scc.Heap (HState InvS InvW)
open Scc.Heap.Refine (HRef imgW)
open Scc.X86.Conc (HeapInvAt memFn ctxKinds rootLocs readLoc_tempLoc zipIdx_filter_kinds count_roots)

/-- THE HEAP INVARIANT ON THE CONCRETE MACHINE STATE at a statement boundary (closure-aware relation) -/
theorem heapInvAt_of_x3 {F : Frame} {m : MonCfg} (hm : m.mach = F.c) (hk : m.consts = consts)
    {P : Program} {hooks : Bool} {prog : AxCut.Prog} {Γ : Ctx} {ρ : List Pos.Value} {s : Stmt} {cfg : Config}
    {hs : HState} {ι : Nat → Nat} {κ : Nat → Nat → Word} {st : State}
    (R : RelX P hooks prog ⟨Γ, ρ, s⟩ cfg) (X : Ref.K.X3 F Γ cfg hs ι κ st) :
    HeapInvAt m st (ctxKinds Γ) (F.c.heapBase + F.c.heapBytes) ∧ hs.limit = F.c.heapBase + F.c.heapBytes := by
  obtain ⟨w, hw, ew⟩ := X.hrel.heap
  obtain ⟨f, hf, ef⟩ := X.hrel.free
  obtain ⟨lin, lazy, live, Fr, I⟩ := X.href.conc
  -- the pointer parts on the abstract machine
  let val : Nat → Word := fun i => Ref.K.imgWord ι ((cfg.temps.get (2 * i)).getD 0)
  have hlen : ρ.length = Γ.length := R.len
  have hdef : ∀ i (hi : i < Γ.length), Γ[i].chi ≠ .ext → ∃ r, cfg.temps.get (2 * i) = some r ∧
      tempVal F.sp st (posTemp (2 * i)) = some (val i) ∧ (val i).toNat = imgW ι r := by
    intro i hi hc
    have hv := (R.vals i hi (by rw [hlen]; exact hi)).2.2.2 ((chi_bne_ext _).mpr hc)
    cases hg : cfg.temps.get (2 * i) with
    | none => rw [hg] at hv; cases hv
    | some r =>
      refine ⟨r, rfl, ?_, ?_⟩
      · have := X.ptrs i hi hc r hg
        simpa [val, hg] using this
      · simp only [val, hg, Option.getD_some]
        exact Ref.K.imgWord_toNat (fun h0 => (Ref.K.X3R.ref_lt X hi hc hg h0).1)
  -- what the monitor reads
  have hread : (rootLocs m.consts (ctxKinds Γ)).mapM (fun l => readLoc m.mach st l) =
      .ok (((ctxKinds Γ).zipIdx.filter (·.1)).map (fun (ki : Bool × Nat) => val ki.2)) := by
    unfold rootLocs
    rw [hk, hm]
    have := mapM_ok (fun (ki : Bool × Nat) => readLoc F.c st (tempLoc consts (2 * ki.2)))
      (fun (ki : Bool × Nat) => val ki.2) ((ctxKinds Γ).zipIdx.filter (·.1)) (by
        intro ki hki
        rw [List.mem_filter] at hki
        obtain ⟨hmem, hk1⟩ := hki
        obtain ⟨hidx, hlt, hget⟩ := List.mem_zipIdx hmem
        simp only [Nat.zero_add, Nat.sub_zero] at hlt hget
        have hlt' : ki.2 < Γ.length := by simpa [ctxKinds] using hlt
        have hc : Γ[ki.2].chi ≠ .ext := by
          have : (ctxKinds Γ)[ki.2] = true := by rw [← hget]; exact hk1
          apply (chi_bne_ext _).mp
          simpa [ctxKinds] using this
        obtain ⟨r, _, hv, _⟩ := hdef ki.2 hlt' hc
        exact readLoc_tempLoc X.bnd (by have := X.cap; omega) hv)
    rw [List.mapM_map]
    exact this
  refine ⟨⟨_, w, f, lin, lazy, live, Fr, hread, ?_, ?_, ?_⟩, X.hrel.limit⟩
  · rw [hk]; exact rd_regIs hw
  · rw [hk]; exact rd_regIs hf
  · have hmem : memFn st = hs.mem.get := by
      funext a; exact (X.hrel.mem a).symm
    rw [hm, hmem, ew, ef, ← X.hrel.limit, ← X.hrel.base]
    refine InvW.roots_congr I (fun b hb => ?_)
    rw [List.map_map]
    have e1 := zipIdx_filter_kinds Γ 0 (fun i => (val i).toNat)
    have e1' : List.map ((fun (x : Word) => x.toNat) ∘ fun (ki : Bool × Nat) => val ki.2)
        (List.filter (fun x => x.1) (ctxKinds Γ).zipIdx) =
        (((ctxKinds Γ).zipIdx 0).filter (·.1)).map (fun (ki : Bool × Nat) => (val ki.2).toNat) := rfl
    rw [e1', e1]
    have := count_roots cfg.temps ι (fun i => (val i).toNat) b hb Γ 0 (by
      intro j hj hc
      obtain ⟨r, hr, _, hv⟩ := hdef j hj hc
      exact ⟨r, by rw [Nat.zero_add]; exact hr, by rw [Nat.zero_add]; exact hv⟩)
    rw [this]
    rfl

end Scc.X86.ConcK

namespace Scc.X86.Conc

open Scc.AxCut Scc.Backend.Abs Scc.X86.Ref
open Scc.Backend.Sim2
open Scc.Heap (HState InvS InvW)

/-- THE HEAP INVARIANT ON THE CONCRETE MACHINE STATE at a statement boundary -/
theorem heapInvAt_of_x3 {F : Frame} {m : MonCfg} (hm : m.mach = F.c) (hk : m.consts = consts)
    {P : Program} {hooks : Bool} {prog : AxCut.Prog} {Γ : Ctx} {ρ : List Pos.Value} {s : Stmt} {cfg : Config}
    {hs : HState} {ι : Nat → Nat} {st : State}
    (R : RelX P hooks prog ⟨Γ, ρ, s⟩ cfg) (X : X3 F Γ cfg hs ι st) :
    HeapInvAt m st (ctxKinds Γ) (F.c.heapBase + F.c.heapBytes) ∧ hs.limit = F.c.heapBase + F.c.heapBytes :=
  ConcK.heapInvAt_of_x3 hm hk R X.toK.1

end Scc.X86.Conc
