/-
  Scc.X86.RefClosHMoves — PARALLEL MOVES of ALL temporaries of positions (pointer parts and word parts),
  the move block of `subst` on contexts with object variables.  Moves are agnostic of what the words mean:
  the relation `MRel` looks at nothing but the temporaries of the domain `PosT t := t < 267` (the capacity
  of utils.rs temporary_from_position) and the scratch cell, and records what the block leaves alone
  (`MKeep`: trace, heap, HEAP, FREE, the callee-save area).  The integer fragment (RefDefs/RefSim/RefParam)
  tracks word parts only (`PosW`: odd temporaries).
  The x86 code of `code_exchange` renders the mock code as a list of `comment`/`mov`/`save`/`restore`
  (`mseg_codeExchange`: the instance of Scc/Backend/ProofsRender.lean for all temporaries of positions and all
  bindings); a rendered block is executed by both machines in lockstep (`mseg_follow`), through states that are
  not at a `#ctx` comment (`MidS`), as the code of `code_exchange` contains none (`noCtx_codeExchange`).
  The vocabulary (`PosT`, `MOpRel`, `MSeg`, `MKeep`, `MRel`) stands under the names `Scc.X86.Ref.K.…` here and
  under `Scc.X86.Ref.…` in Scc/X86/RefHeapMoves.lean, because the property statements refer to both sets of
  names; `mseg_iff_ref` passes between the two, and the execution lemmas are proved for this one.
-/
import Scc.X86.RefHeapBridge
import Scc.X86.RefParam
import Scc.X86.RefClosHX3
import Scc.X86.ConcKNoCtx
import Scc.X86.RefHeapMoves

namespace Scc.X86.Ref.K

open Scc.AxCut Scc.Backend Scc.Backend.Abs Scc.Backend.Sim Scc.Backend.PM

/-- a temporary of a position within the capacity of utils.rs temporary_from_position -/
def PosT (t : Nat) : Prop := t < 267

theorem posT_ne_temp {t : Nat} (h : PosT t) : t ≠ Mock.T_TEMP := by
  unfold PosT at h; unfold Mock.T_TEMP; omega

/-- `blk` renders the move instruction `op` -/
def MOpRel (g : Mode) (op : MockOp) (blk : List Code) (g' : Mode) : Prop :=
  match op with
  | .comment m => blk = [.COMMENT m] ∧ g' = g
  | .mov t s => PosT t ∧ PosT s ∧ blk = mov (posTemp t) (posTemp s) ∧ g' = g ∧
      (g = .pm false → ¬ (isSpill (posTemp t) = true ∧ isSpill (posTemp s) = true))
  | .save t _ => ∃ b, blk = storeTemporary (posTemp t) b ∧ PosT t ∧ (g = .normal ∨ g = .pm b) ∧ g' = .pm b
  | .restore t _ => ∃ b, blk = restoreTemporary (posTemp t) b ∧ PosT t ∧ g = .pm b ∧ g' = .normal
  | _ => False

/-- `MSeg g ops cs g'`: the code `cs` renders the move instructions `ops`, one block per instruction, taking
the mode of the scratch cell from `g` to `g'` -/
inductive MSeg : Mode → List MockOp → List Code → Mode → Prop where
  | nil (g : Mode) : MSeg g [] [] g
  | cons {g g1 g' : Mode} {op : MockOp} {blk : List Code} {ops : List MockOp} {cs : List Code} :
      MOpRel g op blk g1 → MSeg g1 ops cs g' → MSeg g (op :: ops) (blk ++ cs) g'

/-- `MSeg` and `Ref.MSeg` (RefHeapMoves.lean) have the same rules -/
theorem mseg_iff_ref {g g' : Mode} {ops : List MockOp} {cs : List Code} :
    MSeg g ops cs g' ↔ Ref.MSeg g ops cs g' := by
  constructor <;> intro h <;> induction h with
  | nil g => exact .nil g
  | cons hop _ ih => exact .cons hop ih

theorem MSeg.append {g g1 g' : Mode} {o1 o2 : List MockOp} {c1 c2 : List Code}
    (h1 : MSeg g o1 c1 g1) (h2 : MSeg g1 o2 c2 g') : MSeg g (o1 ++ o2) (c1 ++ c2) g' :=
  mseg_iff_ref.2 (Ref.MSeg.append (mseg_iff_ref.1 h1) (mseg_iff_ref.1 h2))

theorem MSeg.single {g g' : Mode} {op : MockOp} {blk : List Code} (h : MOpRel g op blk g') :
    MSeg g [op] blk g' := mseg_iff_ref.2 (Ref.MSeg.single h)

/-- what a block of moves leaves alone -/
structure MKeep (F : Frame) (st0 st : State) : Prop where
  out : st.out = st0.out
  heapMem : st.heapMem = st0.heapMem
  heap : st.regs[HEAP]? = st0.regs[HEAP]?
  free : st.regs[FREE]? = st0.regs[FREE]?
  frame : ∀ n, F.m - 48 ≤ n → st.stackMem[n]? = st0.stackMem[n]?

theorem MKeep.refl (F : Frame) (st : State) : MKeep F st st := ⟨rfl, rfl, rfl, rfl, fun _ _ => rfl⟩

theorem MKeep.step {F : Frame} (H : FrameOK F) {st0 st st' : State} (K : MKeep F st0 st) {u : Option Temporary}
    (P : Preserved F.sp st st' u) (h2 : u ≠ some (.reg HEAP)) (h3 : u ≠ some (.reg FREE)) : MKeep F st0 st' :=
  ⟨by rw [P.same.out]; exact K.out, by rw [P.same.heapMem]; exact K.heapMem,
   by rw [P.regs HEAP (by decide) (by decide) (fun e => h2 e.symm)]; exact K.heap,
   by rw [P.regs FREE (by decide) (by decide) (fun e => h3 e.symm)]; exact K.free,
   fun n hn => by rw [P.frame H n hn]; exact K.frame n hn⟩

theorem MKeep.setPS {F : Frame} {st0 st : State} (K : MKeep F st0 st) (pc k : Nat) :
    MKeep F st0 (setPS st pc k) := ⟨K.out, K.heapMem, K.heap, K.free, K.frame⟩

/-- the relation of the move block: a (shadow) configuration of the abstract machine and the machine agree
on every temporary of a position and on the scratch cell; `st0` is the machine state at the start of the
block, of which `MKeep` keeps the parts no move touches -/
structure MRel (F : Frame) (g : Mode) (st0 : State) (cfg : Config) (st : State) : Prop where
  bnd : Boundary F.c st F.sp
  temps : ∀ t v, PosT t → cfg.temps.get t = some v → tempVal F.sp st (posTemp t) = some v
  scratch : ∀ b, g = .pm b → ∀ w, cfg.scratch = some w → tempVal F.sp st (scratchLoc b) = some w
  keep : MKeep F st0 st

theorem MRel.setPS {F : Frame} {g : Mode} {st0 : State} {cfg : Config} {st : State}
    (R : MRel F g st0 cfg st) (pc k : Nat) : MRel F g st0 cfg (setPS st pc k) :=
  ⟨⟨R.bnd.size, R.bnd.rsp, R.bnd.sp⟩, fun t v ht hg => by rw [tempVal_setPS]; exact R.temps t v ht hg,
   fun b hb w hw => by rw [tempVal_setPS]; exact R.scratch b hb w hw, R.keep.setPS pc k⟩

section Ops

variable {F : Frame} (H : FrameOK F) {la : String → Option Nat} {st0 : State} {cfg : Config} {st : State}
include H

omit H in
theorem posT_put_others {g : Mode} (R : MRel F g st0 cfg st) {st' : State} {t : Nat} (ht : PosT t)
    (P : Preserved F.sp st st' (some (posTemp t))) (x : Option Word) :
    ∀ t' v', PosT t' → t' ≠ t → ((clobberTemp cfg.temps).put t x).get t' = some v' →
      tempVal F.sp st' (posTemp t') = some v' := by
  intro t' v' ht' hne hg
  have hok := tempOK_posTemp ht
  have hlt : ∀ p, some (posTemp t) = some (Temporary.spill p) → p < 256 := by
    intro p e; injection e with e; rw [e] at hok; exact hok.2
  rw [get_put_other _ _ hne, get_clobberTemp _ (posT_ne_temp ht')] at hg
  rw [P.temp (tempOK_posTemp ht').opnd (tempOK_posTemp ht').ne_temp
    (fun e' => hne (posTemp_inj.1 (by injection e'))) hlt]
  exact R.temps t' v' ht' hg

theorem mrep_mov {g : Mode} (R : MRel F g st0 cfg st) {t s : Nat} (ht : PosT t) (hs : PosT s)
    (hns : g = .pm false → ¬ (isSpill (posTemp t) = true ∧ isSpill (posTemp s) = true)) (pc' : Nat) :
    ∃ st', execStraight F.c la (mov (posTemp t) (posTemp s)) st = .ok st' ∧
      MRel F g st0 { cfg with pc := pc', temps := (clobberTemp cfg.temps).put t (cfg.temps.get s) } st' := by
  have hok := tempOK_posTemp ht
  have hlt : ∀ p, some (posTemp t) = some (Temporary.spill p) → p < 256 := by
    intro p e; injection e with e; rw [e] at hok; exact hok.2
  have key : ∃ st', execStraight F.c la (mov (posTemp t) (posTemp s)) st = .ok st' ∧
      Boundary F.c st' F.sp ∧ tempVal F.sp st' (posTemp t) = tempVal F.sp st (posTemp s) ∧
      Preserved F.sp st st' (some (posTemp t)) ∧
      (g = .pm false → tempVal F.sp st' (.reg TEMP) = tempVal F.sp st (.reg TEMP)) := by
    by_cases hg : g = .pm false
    · obtain ⟨st', e, B', hv, P, hT⟩ := mov_keeps_temp (la := la) R.bnd hok (tempOK_posTemp hs) (hns hg)
      exact ⟨st', e, B', hv, P, fun _ => hT⟩
    · obtain ⟨st', e, B', hv, P⟩ := mov_correct (la := la) R.bnd hok (tempOK_posTemp hs)
      exact ⟨st', e, B', hv, P, fun h => absurd h hg⟩
  obtain ⟨st', e, B', hv, P, hT⟩ := key
  refine ⟨st', e, B', ?_, ?_, R.keep.step H P (posTemp_ne_heap_free t).1 (posTemp_ne_heap_free t).2⟩
  · intro t' v' ht' hg
    by_cases e' : t' = t
    · subst e'
      simp only at hg
      rw [get_put_same] at hg
      rw [hv]; exact R.temps s v' hs hg
    · exact posT_put_others R ht P _ t' v' ht' e' hg
  · intro b hb w hw
    cases b with
    | true =>
      rw [P.temp (w := scratchLoc true) (opndOK_scratchLoc true) (by simp [scratchLoc])
        (fun e' => posTemp_ne_spill0 ht (by injection e' with e'; exact e'.symm)) hlt]
      exact R.scratch true hb w hw
    | false =>
      show tempVal F.sp st' (.reg TEMP) = some w
      rw [hT hb]
      exact R.scratch false hb w hw

/-- `save t`: the scratch cell := t (TEMP or the reserved slot SPILL_TEMP) -/
theorem mrep_save {g : Mode} (R : MRel F g st0 cfg st) {t : Nat} (ht : PosT t) (b : Bool) (pc' : Nat) :
    ∃ st', execStraight F.c la (storeTemporary (posTemp t) b) st = .ok st' ∧
      MRel F (.pm b) st0
        { cfg with pc := pc', temps := clobberTemp cfg.temps, scratch := cfg.temps.get t } st' := by
  have hok := tempOK_posTemp ht
  have hso := opndOK_scratchLoc b
  obtain ⟨st', e, B', hv, P⟩ := transfer_upd R.bnd la hso
    (t_mov (la := la) (τ := tview F.sp st) hso hok.opnd hok.ne_temp)
  have hlt : ∀ p, some (scratchLoc b) = some (Temporary.spill p) → p < 256 := by
    intro p e'; injection e' with e'
    cases b <;> simp [scratchLoc] at e'
    subst e'; decide
  have hne : ∀ {u : Nat}, u < 267 → some (posTemp u) ≠ some (scratchLoc b) := by
    intro u hu e'
    injection e' with e'
    cases b
    · exact (tempOK_posTemp hu).ne_temp e'
    · exact posTemp_ne_spill0 hu e'
  refine ⟨st', by rw [storeTemporary_eq]; exact e, B', ?_, ?_,
    R.keep.step H P (scratchLoc_ne_heap_free b).1 (scratchLoc_ne_heap_free b).2⟩
  · intro t' v' ht' hg'
    simp only at hg'
    rw [get_clobberTemp _ (posT_ne_temp ht')] at hg'
    rw [P.temp (tempOK_posTemp ht').opnd (tempOK_posTemp ht').ne_temp (hne ht') hlt]
    exact R.temps t' v' ht' hg'
  · intro b' hb' w hw
    injection hb' with hb'
    subst hb'
    simp only at hw
    show tempVal F.sp st' (scratchLoc b) = some w
    rw [hv]
    exact R.temps t w ht hw

theorem mrep_restore (b : Bool) (R : MRel F (.pm b) st0 cfg st) {t : Nat} (ht : PosT t) (pc' : Nat) :
    ∃ st', execStraight F.c la (restoreTemporary (posTemp t) b) st = .ok st' ∧
      MRel F .normal st0 { cfg with pc := pc', temps := (clobberTemp cfg.temps).put t cfg.scratch } st' := by
  have hok := tempOK_posTemp ht
  have hlt : ∀ p, some (posTemp t) = some (Temporary.spill p) → p < 256 := by
    intro p e; injection e with e; rw [e] at hok; exact hok.2
  have key : ∃ st', execStraight F.c la (restoreTemporary (posTemp t) b) st = .ok st' ∧
      Boundary F.c st' F.sp ∧ tempVal F.sp st' (posTemp t) = tempVal F.sp st (scratchLoc b) ∧
      Preserved F.sp st st' (some (posTemp t)) := by
    cases b with
    | true =>
      rw [restoreTemporary_true_eq]
      exact transfer_upd R.bnd la hok.opnd
        (t_mov (la := la) (τ := tview F.sp st) hok.opnd (opndOK_scratchLoc true) (by simp [scratchLoc]))
    | false =>
      rw [restoreTemporary_false_eq]
      refine transfer_upd R.bnd la hok.opnd ⟨_, t_moveFromRegister opndOK_temp hok.opnd, ?_, ?_⟩
      · simp [scratchLoc, tview]
      · intro u hu _; simp [hu]
  obtain ⟨st', e, B', hv, P⟩ := key
  refine ⟨st', e, B', ?_, (fun b' hb' => by cases hb'),
    R.keep.step H P (posTemp_ne_heap_free t).1 (posTemp_ne_heap_free t).2⟩
  intro t' v' ht' hg
  by_cases e' : t' = t
  · subst e'
    simp only at hg
    rw [get_put_same] at hg
    rw [hv]; exact R.scratch b rfl v' hg
  · exact posT_put_others R ht P _ t' v' ht' e' hg

end Ops

section Follow

variable {F : Frame} (H : FrameOK F) {mon : MonCfg} (hmon : mon.mach = F.c) {px : X86.Prog} {cs : List Code}
  (L : Loaded px cs) {P : Program} {st0 : State}

include H hmon L in
/-- the abstract machine (on ANY configuration: moves copy possibly undefined temporaries) and the
x86-64 machine execute a rendered block of moves in lockstep -/
theorem mseg_follow {g g' : Mode} {ops : List MockOp} {items : List Code} (S : MSeg g ops items g') :
    ∀ (cfg : Config) (st : State), CodeAt P cfg.pc ops → XAt cs st.pc items → MRel F g st0 cfg st →
    NoCtx items →
    ∃ cfg' st' n, stepsTo P (instrCount ops) cfg cfg' ∧ stepN mon px n st = .inl st' ∧
      st'.pc = st.pc + items.length ∧ MRel F g' st0 cfg' st' ∧ cfg'.pc = cfg.pc + instrCount ops ∧
      MidS mon px cs n st := by
  induction S with
  | nil g =>
    intro cfg st _ _ R _
    exact ⟨cfg, st, 0, rfl, rfl, by simp, R, by simp [instrCount], MidS.zero _⟩
  | @cons g g1 g' op blk ops cs' hop S ih =>
    intro cfg st hat hatX R hnc
    have hnc' := noCtx_append.1 hnc
    have one : ∃ cfg1 st1 n1, stepsTo P (instrCount [op]) cfg cfg1 ∧ stepN mon px n1 st = .inl st1 ∧
        st1.pc = st.pc + blk.length ∧ MRel F g1 st0 cfg1 st1 ∧ cfg1.pc = cfg.pc + instrCount [op] ∧
        CodeAt P cfg1.pc ops ∧ MidS mon px cs n1 st := by
      cases op <;> simp only [MOpRel] at hop
      case comment m =>
        obtain ⟨rfl, rfl⟩ := hop
        simp only [CodeAt] at hat
        obtain ⟨k0, hk0⟩ := x_steps_straight mon L (blk := [Code.COMMENT m]) hatX.left (by rw [hmon]; rfl)
        exact ⟨cfg, _, _, rfl, hk0, rfl, R.setPS _ _, by simp [instrCount], hat,
          midS_straight mon L (blk := [Code.COMMENT m]) hatX.left (by rw [hmon]; rfl) hnc'.1⟩
      case mov t s =>
        obtain ⟨ht, hs, rfl, rfl, hns⟩ := hop
        simp only [CodeAt] at hat
        obtain ⟨hc, hat'⟩ := hat
        obtain ⟨st1, hx, R1⟩ := mrep_mov H (la := px.labelAddr) R ht hs hns (cfg.pc + 1)
        rw [← hmon] at hx
        obtain ⟨k1, hk1⟩ := x_steps_straight mon L hatX.left hx
        exact ⟨_, _, _, stepsTo_one P _ _ (step_mov' P cfg t s hc (posT_ne_temp ht)), hk1, rfl,
          R1.setPS _ _, rfl, hat', midS_straight mon L hatX.left hx hnc'.1⟩
      case save t sp =>
        obtain ⟨b, rfl, ht, hg, rfl⟩ := hop
        simp only [CodeAt] at hat
        obtain ⟨hc, hat'⟩ := hat
        obtain ⟨st1, hx, R1⟩ := mrep_save H (la := px.labelAddr) R ht b (cfg.pc + 1)
        rw [← hmon] at hx
        obtain ⟨k1, hk1⟩ := x_steps_straight mon L hatX.left hx
        exact ⟨_, _, _, stepsTo_one P _ _ (step_save' P cfg t sp hc), hk1, rfl, R1.setPS _ _, rfl, hat',
          midS_straight mon L hatX.left hx hnc'.1⟩
      case restore t sp =>
        obtain ⟨b, rfl, ht, rfl, rfl⟩ := hop
        simp only [CodeAt] at hat
        obtain ⟨hc, hat'⟩ := hat
        obtain ⟨st1, hx, R1⟩ := mrep_restore H (la := px.labelAddr) b R ht (cfg.pc + 1)
        rw [← hmon] at hx
        obtain ⟨k1, hk1⟩ := x_steps_straight mon L hatX.left hx
        exact ⟨_, _, _, stepsTo_one P _ _ (step_restore' P cfg t sp hc (posT_ne_temp ht)), hk1, rfl,
          R1.setPS _ _, rfl, hat', midS_straight mon L hatX.left hx hnc'.1⟩
    obtain ⟨cfg1, st1, n1, hs1, hn1, hpc1, R1, hpcA, hat1, hm1⟩ := one
    obtain ⟨cfg2, st2, n2, hs2, hn2, hpc2, R2, hpcB, hm2⟩ := ih cfg1 st1 hat1 (by rw [hpc1]; exact hatX.right) R1 hnc'.2
    refine ⟨cfg2, st2, n1 + n2, ?_, stepN_trans mon px hn1 hn2, by rw [hpc2, hpc1, List.length_append]; omega,
      R2, ?_, MidS.trans hm1 hn1 hm2⟩
    · have : instrCount (op :: ops) = instrCount [op] + instrCount ops := by
        rw [show op :: ops = [op] ++ ops from rfl, Subst.instrCount_append]
      rw [this]
      exact stepsTo_trans P _ _ _ _ _ hs1 hs2
    · have : instrCount (op :: ops) = instrCount [op] + instrCount ops := by
        rw [show op :: ops = [op] ++ ops from rfl, Subst.instrCount_append]
      rw [hpcB, hpcA, this]; omega

end Follow

theorem mseg_of_segG {g g' : Mode} {ops : List MockOp} {cs : List Code} (h : Render.SegG MOpRel g ops cs g') :
    MSeg g ops cs g' := mseg_iff_ref.2 (Ref.mseg_of_segG h)

theorem mMoveOps : Render.MoveOps x86Backend posTemp PosT MOpRel .normal Mode.pm MovOK := Ref.mMoveOps

theorem mVarTemps : Render.VarTemps x86Backend posTemp PosT (fun _ => True) where
  vt h := by
    obtain ⟨pos, hp, hlt, rfl, rfl, hm⟩ := vt_rel h
    exact ⟨pos, hp, rfl, rfl, fun _ => hlt, hm⟩

theorem mseg_treeMoves (b : Bool) (parent : Nat) (hp : PosT parent) : ∀ (tr : Tree Nat) (g : Mode),
    (g = .normal ∨ g = .pm b) → TreeOK PosT tr → (b = false → NoSS (posTemp parent) (mapT posTemp tr)) →
    MSeg g (treeMoves mockSym parent false tr) (treeMoves x86Backend (posTemp parent) b (mapT posTemp tr))
      (afterTree b (Tree.refersBack tr) g) :=
  fun tr g hg hw hn => mseg_iff_ref.2 (Ref.mseg_treeMoves b parent hp tr g hg hw hn)

/-- `code_exchange`, all bindings: the x86 code renders the mock code -/
theorem mseg_codeExchange (tm : List (Binding × List Nat)) (Γ newΓ : Ctx)
    {c : Nat} {code : List Code} {c' : Nat}
    (h : (codeExchange x86Backend tm Γ newΓ).run c = .ok (code, c')) :
    ∃ ops, (codeExchange mockSym tm Γ newΓ).run c = .ok (ops, c') ∧ MSeg .normal ops code .normal := by
  obtain ⟨ops, hops, S⟩ := Render.seg_codeExchange mMoveOps mVarTemps trivial tm Γ newΓ (fun _ _ _ => trivial) h
  exact ⟨ops, hops, mseg_of_segG S⟩

mutual
  theorem noCtx_treeMoves (t : Temporary) (sp : Bool) : ∀ (tr : Tree Temporary),
      NoCtx (treeMoves x86Backend t sp tr)
    | .backEdge => by simp only [treeMoves]; exact noCtx_storeTemporary _ _
    | .node target kids => by
      simp only [treeMoves]
      exact (noCtx_treeMovesList target sp kids).append (noCtx_mov _ _)
  theorem noCtx_treeMovesList (t : Temporary) (sp : Bool) : ∀ (trs : List (Tree Temporary)),
      NoCtx (treeMovesList x86Backend t sp trs)
    | [] => by simp only [treeMovesList]; exact NoCtx.nil
    | k :: ks => by
      simp only [treeMovesList]
      exact (noCtx_treeMoves t sp k).append (noCtx_treeMovesList t sp ks)
end

theorem noCtx_rootMoves : ∀ (r : Root Temporary), NoCtx (rootMoves x86Backend r)
  | .startNode t kids => by
    simp only [rootMoves]
    refine (noCtx_treeMovesList _ _ kids).append ?_
    split
    · exact noCtx_restoreTemporary _ _
    · exact NoCtx.nil

theorem noCtx_flatten {ls : List (List Code)} (h : ∀ l ∈ ls, NoCtx l) : NoCtx ls.flatten := by
  refine ⟨fun c hc => ?_⟩
  obtain ⟨l, hl, hcl⟩ := List.mem_flatten.1 hc
  exact (h l hl).all c hcl

theorem noCtx_parallelMoves {pm : List (Temporary × List Temporary)} {code : List Code}
    (h : parallelMoves x86Backend pm = .ok code) : NoCtx code := by
  unfold parallelMoves at h
  cases hf : spanningForest x86Backend pm with
  | error e => rw [hf] at h; cases h
  | ok forest =>
    rw [hf] at h
    simp only [Except.ok.injEq] at h
    subst h
    refine NoCtx.append ?_ (noCtx_flatten (fun l hl => ?_))
    · split
      · exact NoCtx.cons (by nc_item) NoCtx.nil
      · exact NoCtx.nil
    · obtain ⟨r, _, rfl⟩ := List.mem_map.1 hl
      exact noCtx_rootMoves r

theorem noCtx_codeExchange {tm : List (Binding × List Nat)} {Γ newΓ : Ctx} {c c' : Nat} {code : List Code}
    (h : (codeExchange x86Backend tm Γ newΓ).run c = .ok (code, c')) : NoCtx code := by
  unfold codeExchange at h
  simp only [run_bind_ok] at h
  obtain ⟨conns, c1, _, h2⟩ := h
  cases hpm : parallelMoves x86Backend conns with
  | error e => rw [hpm] at h2; simp [run_throw_ok] at h2
  | ok code' =>
    rw [hpm] at h2
    simp only [run_pure_ok] at h2
    obtain ⟨rfl, rfl⟩ := h2
    exact noCtx_parallelMoves hpm

end Scc.X86.Ref.K
