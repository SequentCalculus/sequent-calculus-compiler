/-
  Scc.X86.RefHeapMoves — PARALLEL MOVES of ALL temporaries of positions (pointer parts and word parts), the
  move block of `subst` on contexts with object variables: the vocabulary.  The integer fragment (RefDefs/
  RefSim/RefParam) tracks word parts only (`PosW`: odd temporaries); here the domain is `PosT t := t < 267` (the
  capacity of utils.rs temporary_from_position).
  * `MOpRel`/`MSeg`: the x86 code renders a list of `comment`/`mov`/`save`/`restore`; `mseg_treeMoves`: the x86
    code of one tree of moves renders the mock code.
  * `MRel`: a relation that looks at nothing but the temporaries and the scratch cell — moves are agnostic of
    what the words mean; `MKeep`: what the block leaves alone (trace, heap, HEAP, FREE, the callee-save area).
  The same vocabulary stands under the names `Scc.X86.Ref.K.…` in Scc/X86/RefClosHMoves.lean, because the
  property statements refer to both sets of names; the execution lemmas (one instruction, a block in
  lockstep, no state in between at a `#ctx` comment) are proved there, and the field `exchange` of the
  x86-64 machine (ThreeWayTarget.lean) is built on them.
-/
import Scc.X86.RefHeapBridge
import Scc.X86.RefParam
import Scc.X86.RefHeapX3

namespace Scc.X86.Ref

open Scc.Backend Scc.Backend.Abs

/-- a temporary of a position within the capacity of utils.rs temporary_from_position -/
def PosT (t : Nat) : Prop := t < 267

/-- `blk` renders the move instruction `op` -/
def MOpRel (g : Mode) (op : MockOp) (blk : List Code) (g' : Mode) : Prop :=
  match op with
  | .comment m => blk = [.COMMENT m] ∧ g' = g
  | .mov t s => PosT t ∧ PosT s ∧ blk = mov (posTemp t) (posTemp s) ∧ g' = g ∧
      (g = .pm false → ¬ (isSpill (posTemp t) = true ∧ isSpill (posTemp s) = true))
  | .save t _ => ∃ b, blk = storeTemporary (posTemp t) b ∧ PosT t ∧ (g = .normal ∨ g = .pm b) ∧ g' = .pm b
  | .restore t _ => ∃ b, blk = restoreTemporary (posTemp t) b ∧ PosT t ∧ g = .pm b ∧ g' = .normal
  | _ => False

/-- `MSeg g ops cs g'`: the code `cs` renders the move instructions `ops`, one block per instruction, taking
the mode of the scratch cell from `g` to `g'` -/
inductive MSeg : Mode → List MockOp → List Code → Mode → Prop where
  | nil (g : Mode) : MSeg g [] [] g
  | cons {g g1 g' : Mode} {op : MockOp} {blk : List Code} {ops : List MockOp} {cs : List Code} :
      MOpRel g op blk g1 → MSeg g1 ops cs g' → MSeg g (op :: ops) (blk ++ cs) g'

theorem MSeg.append {g g1 g' : Mode} {o1 o2 : List MockOp} {c1 c2 : List Code}
    (h1 : MSeg g o1 c1 g1) (h2 : MSeg g1 o2 c2 g') : MSeg g (o1 ++ o2) (c1 ++ c2) g' := by
  induction h1 with
  | nil g => simpa using h2
  | cons hop _ ih =>
    rw [List.cons_append, List.append_assoc]
    exact MSeg.cons hop (ih h2)

theorem MSeg.single {g g' : Mode} {op : MockOp} {blk : List Code} (h : MOpRel g op blk g') :
    MSeg g [op] blk g' := by
  have := MSeg.cons h (MSeg.nil g')
  simpa using this

/-- what a block of moves leaves alone -/
structure MKeep (F : Frame) (st0 st : State) : Prop where
  out : st.out = st0.out
  heapMem : st.heapMem = st0.heapMem
  heap : st.regs[HEAP]? = st0.regs[HEAP]?
  free : st.regs[FREE]? = st0.regs[FREE]?
  frame : ∀ n, F.m - 48 ≤ n → st.stackMem[n]? = st0.stackMem[n]?

/-- the relation of the move block: a (shadow) configuration of the abstract machine and the machine agree
on every temporary of a position and on the scratch cell; `st0` is the machine state at the start of the
block, of which `MKeep` keeps the parts no move touches -/
structure MRel (F : Frame) (g : Mode) (st0 : State) (cfg : Config) (st : State) : Prop where
  bnd : Boundary F.c st F.sp
  temps : ∀ t v, PosT t → cfg.temps.get t = some v → tempVal F.sp st (posTemp t) = some v
  scratch : ∀ b, g = .pm b → ∀ w, cfg.scratch = some w → tempVal F.sp st (scratchLoc b) = some w
  keep : MKeep F st0 st

theorem posTemp_ne_heap_free (t : Nat) : some (posTemp t) ≠ some (Temporary.reg HEAP) ∧
    some (posTemp t) ≠ some (Temporary.reg FREE) :=
  ⟨fun e => posTemp_ne_low t (r := HEAP) (by decide) (Option.some.inj e),
   fun e => posTemp_ne_low t (r := FREE) (by decide) (Option.some.inj e)⟩

theorem scratchLoc_ne_heap_free (b : Bool) : some (scratchLoc b) ≠ some (Temporary.reg HEAP) ∧
    some (scratchLoc b) ≠ some (Temporary.reg FREE) := by
  cases b <;> simp [scratchLoc] <;> decide

theorem mseg_of_segG {g g' : Mode} {ops : List MockOp} {cs : List Code} (h : Render.SegG MOpRel g ops cs g') :
    MSeg g ops cs g' := by
  induction h with
  | nil g => exact MSeg.nil g
  | cons hop _ ih => exact MSeg.cons hop ih

theorem mMoveOps : Render.MoveOps x86Backend posTemp PosT MOpRel .normal Mode.pm MovOK where
  tm := tempMap_posTemp
  save hp hg := ⟨_, rfl, hp, hg, rfl⟩
  restore ht := ⟨_, rfl, ht, rfl, rfl⟩
  mov ht hs he := ⟨ht, hs, rfl, rfl, he⟩
  comment := ⟨rfl, rfl⟩
  edges := moveOps.edges

theorem mseg_treeMoves (b : Bool) (parent : Nat) (hp : PosT parent) : ∀ (tr : Tree Nat) (g : Mode),
    (g = .normal ∨ g = .pm b) → TreeOK PosT tr → (b = false → NoSS (posTemp parent) (mapT posTemp tr)) →
    MSeg g (treeMoves mockSym parent false tr) (treeMoves x86Backend (posTemp parent) b (mapT posTemp tr))
      (afterTree b (Tree.refersBack tr) g) := by
  intro tr g hg hw hn
  refine mseg_of_segG (Render.seg_treeMoves mMoveOps b parent hp tr g hg hw ?_)
  cases b with
  | true =>
    refine Render.EdgesT.of_forall (fun p c g hg hgf => ?_) _ _
    rcases hg with h | h <;> rw [h] at hgf <;> cases hgf
  | false => exact edgesT_of_noSS (fun p c hpc g _ _ hc => hpc ⟨hc.2, hc.1⟩) _ _ (hn rfl)

end Scc.X86.Ref
