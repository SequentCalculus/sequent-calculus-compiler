/-
  Scc.X86.ConcC10 — C10 (heap footprint) on concrete x86-64 runs of programs with data types: the
  runs under the footprint bound (`Track.peakTrack` of `Entry.boundaries`) with the entry (`entry_setup`) and with
  the two machine facts of ConcMach.lean.  The hypothesis is about the machine's own run (`PeakAtMost Pk`: at no
  statement boundary are more than `Pk` blocks in use, `HeapShapeAt` reading the blocks off the raw machine
  state); under it a heap of `64·(Pk + A + 2)` bytes suffices for a terminating run of ANY length, at every
  boundary at most `Pk + 1` blocks lie below the frontier, and the highest heap address written lies inside the
  heap region (`data_programs_peak`).  A run that ends with `done v` in a smaller heap is the same run in a
  larger one (`runLoop_larger_heap`), so the bound holds in every heap at least that large.
-/
import Scc.X86.ConcPeakRun
import Scc.X86.ConcMach

namespace Scc.X86.Conc

open Scc.AxCut Scc.Backend Scc.Backend.Abs Scc.X86.Ref
open Scc.Props.C14Generic (LabelSafe)
open Scc.Props.C06Generic (outAfter WithinCapacity Reachable EnoughHeap CodeFits statesOf stopsWithin)
open Scc.Heap (HState InvS InvW Exhausted)
open Scc.Heap.Refine (HRef FrLe Room FrPk)

/-- the heap of the machine state `X` is consistent, with `below` blocks below the allocation frontier,
`inUse` of which are in use (neither on the reusable nor on the deferred free list: reachable, or waiting
beneath a deferred block) -/
def HeapShapeAt (m : MonCfg) (X : State) (below inUse : Nat) : Prop :=
  ∃ (h f : Word) (roots lin lazy live : List Nat) (F : Nat),
    rd X m.consts.heap = .ok h ∧ rd X m.consts.free = .ok f ∧
    InvW (memFn X) m.mach.heapBase (m.mach.heapBase + m.mach.heapBytes) h.toNat f.toNat roots [] lin lazy live F ∧
    (F - m.mach.heapBase) / 64 = below ∧ live.length = inUse

theorem heapShapeAt_of_rel {m : MonCfg} {c : MachCfg} (hm : m.mach = c) (hk : m.consts = consts) {X : State}
    {hs : HState} (HR : HeapRel c X hs) {rs lin lazy live : List Nat} {F : Nat}
    (I : InvS hs rs [] lin lazy live F) : HeapShapeAt m X ((F - hs.base) / 64) live.length := by
  obtain ⟨w, hw, ew⟩ := HR.heap
  obtain ⟨f, hf, ef⟩ := HR.free
  refine ⟨w, f, rs, lin, lazy, live, F, by rw [hk]; exact rd_regIs hw, by rw [hk]; exact rd_regIs hf, ?_,
    by rw [hm, HR.base], rfl⟩
  have hmem : memFn X = hs.mem.get := by
    funext a; exact (HR.mem a).symm
  rw [hm, hmem, ew, ef, ← HR.limit, ← HR.base]
  exact I

/-- THE PEAK HYPOTHESIS: at no statement boundary of the machine's run (from `asm_main`) are more than
`Pk` blocks in use.  Only boundaries with at most `C` blocks below the frontier matter (`C` = the trivial
bound `A·fuel + 1`, `A` the largest number of fields of a `let`: a step of the run moves the frontier by at
most `A` blocks; no other boundary occurs) -/
def PeakAtMost (p : AxCut.Prog) (hooks : Bool) (routine : List Code) (ops : List MockOp) (cfg : MonCfg)
    (items : List (Code × Nat)) (args : List Word) (Pk C : Nat) : Prop :=
  ∀ n X st, stepN cfg (mkProg cfg.mach items) n (initState cfg.mach args 6) = .inl X →
    BoundaryOf p hooks routine ops cfg st X → ∀ below inUse, HeapShapeAt cfg X below inUse → below ≤ C →
    inUse ≤ Pk

theorem HeapShapeAt.inUse_le {m : MonCfg} {X : State} {below inUse : Nat} (h : HeapShapeAt m X below inUse) :
    inUse ≤ below := by
  obtain ⟨_, _, _, lin, lazy, live, F, _, _, I, h1, h2⟩ := h
  have := I.card
  omega

theorem peakAtMost_trivial (p : AxCut.Prog) (hooks : Bool) (routine : List Code) (ops : List MockOp)
    (cfg : MonCfg) (items : List (Code × Nat)) (args : List Word) (C : Nat) :
    PeakAtMost p hooks routine ops cfg items args C C :=
  fun _ _ _ _ _ _ _ h hb => Nat.le_trans h.inUse_le hb

theorem runLoop_done_mhw {m : MonCfg} (hm : m.heap = false) (p : Prog) (n : Nat) (s : State) (b : Nat)
    {v : Word} (h : step m p s = .inr (.done v)) :
    (runLoop m p (n + 1) s b).maxHeapWritten = s.maxHeapWritten := by
  simp [runLoop, monitor_off hm, h, finish]

theorem runLoop_stepN_eq {m : MonCfg} (hm : m.heap = false) (p : Prog) (k n : Nat) (s s' : State) (b : Nat)
    (h : stepN m p k s = .inl s') : runLoop m p (k + n) s b = runLoop m p n s' b :=
  runLoop_stepN hm p k n s s' b h

/-- the peak hypothesis on block-level states, from the one on machine states -/
theorem peakFrom_of_peakAtMost {p : AxCut.Prog} {hooks : Bool} {routine : List Code} {ops : List MockOp}
    {cfg : MonCfg} {items : List (Code × Nat)} {args : List Word} {Pk C : Nat} (hk : cfg.consts = consts)
    (hP : PeakAtMost p hooks routine ops cfg items args Pk C) {F : Frame} (hFc : F.c = cfg.mach) {n0 : Nat}
    {X0 : State} (h0 : stepN cfg (mkProg cfg.mach items) n0 (initState cfg.mach args 6) = .inl X0)
    (st : Pos.State) :
    PeakFrom F cfg (mkProg cfg.mach items) routine (Program.ofOps ops) hooks p st X0 Pk C := by
  intro n X' st' _ cfg' hs' _ hn B hC rs lin live Fr I
  obtain ⟨_, _, X3h⟩ := B.x3
  exact hP (n0 + n) X' st' (stepN_trans cfg _ h0 hn) ⟨F, cfg', hs', hFc, B.rel⟩ _ _
    (heapShapeAt_of_rel hFc.symm hk X3h.hrel I) (hC _ _ _ _ _ I)

/-- the peak hypothesis at the entry: whatever frame and first boundary the header establishes -/
def PeakHyp (p : AxCut.Prog) (hooks : Bool) (routine : List Code) (ops : List MockOp) (cfg : MonCfg)
    (items : List (Code × Nat)) (args : List Word) (d0 : Def) (Pk C : Nat) : Prop :=
  ∀ (F : Frame) (n0 : Nat) (X0 : State), F.c = cfg.mach →
    stepN cfg (mkProg cfg.mach items) n0 (initState cfg.mach args 6) = .inl X0 →
    PeakFrom F cfg (mkProg cfg.mach items) routine (Program.ofOps ops) hooks p ⟨d0.ctx, args.map .int, d0.body⟩ X0 Pk C

theorem peakHyp_of_peakAtMost {p : AxCut.Prog} {hooks : Bool} {routine : List Code} {ops : List MockOp}
    {cfg : MonCfg} {items : List (Code × Nat)} {args : List Word} {d0 : Def} {Pk C : Nat}
    (hk : cfg.consts = consts) (hP : PeakAtMost p hooks routine ops cfg items args Pk C) :
    PeakHyp p hooks routine ops cfg items args d0 Pk C :=
  fun _ _ _ hFc h0 => peakFrom_of_peakAtMost hk hP hFc h0 _

/-- the invariant of the runs under the footprint bound at the first boundary, for `fuel` steps -/
theorem Entry.peakRun {p : AxCut.Prog} {args : List Word} {hooks : Bool} {routine : List Code} {d0 : Def}
    {ops : List MockOp} {cfg : MonCfg} {items : List (Code × Nat)} {F : Frame} {pre : List Code} {st0 : State}
    {h : Word} {n0 : Nat} {X0 : State} {a : Nat}
    (En : Entry p args hooks routine d0 ops cfg items F pre st0 h n0 X0 a)
    (hcap : ∀ st, Reachable p ⟨d0.ctx, args.map .int, d0.body⟩ st → 2 * st.ctx.length ≤ 266)
    (hprog : ProgOK p) (hmem : d0 ∈ p.defs) {A Pk C : Nat} (hA : ∀ d ∈ p.defs, K.AllocLe A d.body)
    (hb0 : 0 < cfg.mach.heapBase) (hbytes : 64 * (Pk + A + 2) ≤ cfg.mach.heapBytes) {mon : MonCfg} {px : X86.Prog}
    (hP : PeakFrom F mon px routine (Program.ofOps ops) hooks p ⟨d0.ctx, args.map .int, d0.body⟩ X0 Pk C)
    {fuel : Nat} (hfuel : fuel + 1 < 2 ^ 64) (hC : A * fuel + 1 ≤ C) :
    Track.PeakRun (Steps mon px) p (Bd F routine (Program.ofOps ops) hooks p) A Pk C fuel
      ⟨d0.ctx, args.map .int, d0.body⟩ [] X0 :=
  ⟨_, _, 1, ⟨En.bd hcap hprog hmem, hA d0 hmem, K.valAll_ints _ args,
    frBound_init (by rw [En.fc]; exact hb0) (by rw [En.fc]; omega) (by omega),
    frBound_init (by rw [En.fc]; exact hb0) (by rw [En.fc]; omega) (Nat.le_refl _), hP⟩,
    by rw [En.next1]; omega, by omega⟩

/-- the chain of block-level facts as a chain of facts about the raw machine states, using the peak
hypothesis at every state of the chain (they are all on the run) -/
theorem bchain_shape {p : AxCut.Prog} {hooks : Bool} {routine : List Code} {ops : List MockOp} {cfg : MonCfg}
    {items : List (Code × Nat)} {args : List Word} {Pk C : Nat} {F : Frame} (hFc : F.c = cfg.mach)
    (hk : cfg.consts = consts) (hP : PeakAtMost p hooks routine ops cfg items args Pk C) :
    ∀ (sts : List Pos.State) (X : State) (k : Nat),
      stepN cfg (mkProg cfg.mach items) k (initState cfg.mach args 6) = .inl X →
      BChain cfg (mkProg cfg.mach items) (fun st X => ∃ cfgA hs,
        Rel3 F routine (Program.ofOps ops) hooks p st cfgA hs X ∧ FrBound hs (Pk + 1) ∧ FrBound hs C) sts X →
      BChain cfg (mkProg cfg.mach items) (fun st X => BoundaryOf p hooks routine ops cfg st X ∧
        ∃ below inUse, HeapShapeAt cfg X below inUse ∧ below ≤ Pk + 1 ∧ inUse ≤ Pk) sts X := by
  intro sts
  induction sts with
  | nil => intro X k _ _; trivial
  | cons st rest ih =>
    intro X k hk' hc
    obtain ⟨⟨cfgA, hs, R, hfb, hcC⟩, hrest⟩ := hc
    have hB : BoundaryOf p hooks routine ops cfg st X := ⟨F, cfgA, hs, hFc, R⟩
    have hX3 : ∃ Γ' ι, X3 F Γ' cfgA hs ι X := by
      obtain ⟨Γ', ι, _, _, X3h, _⟩ := R
      exact ⟨Γ', ι, X3h⟩
    obtain ⟨Γ', ι, X3h⟩ := hX3
    obtain ⟨lin, lazy, live, Fr, I⟩ := X3h.href.conc
    have hsh := heapShapeAt_of_rel (m := cfg) hFc.symm hk X3h.hrel I
    refine ⟨⟨hB, _, _, hsh, hfb _ _ _ _ _ I, hP k X st hk' hB _ _ hsh (hcC _ _ _ _ _ I)⟩, ?_⟩
    rcases hrest with e | ⟨n', X', hn', hc'⟩
    · exact Or.inl e
    · exact Or.inr ⟨n', X', hn', ih X' (k + n') (stepN_trans cfg _ hk' hn') hc'⟩

/-- THE RUN FROM THE MACHINE'S INITIAL STATE UNDER THE FOOTPRINT BOUND, for any source of the peak hypothesis: for ANY
number `fuel` of steps of the positional machine the machine started at `asm_main` passes — without fault — through a
boundary state for every state the positional machine goes through, the frontier below `Pk + 1` blocks at each;
if the positional machine ends within `fuel` steps, the machine ends the run with the same result and output,
having written inside its heap -/
theorem data_programs_run3 (p : AxCut.Prog) (args : List Word) (hooks : Bool) (body routine : List Code)
    (nargs : Nat) (d0 : Def) (ops : List MockOp) (c' : Nat)
    (hsafe : LabelSafe p = true) (htp : LinTypedProg p) (hprog : ProgOK p)
    (hcompM : (compile mockSym hooks p).run 0 = .ok ((ops, nargs), c')) (hfit : CodeFits ops)
    (hcompX : compileX86 p hooks 0 = .ok (body, nargs)) (hrout : intoRoutine body nargs = .ok routine)
    (hnd : (labs routine).Nodup)
    (hd : p.defs.head? = some d0) (hentry : ∀ b ∈ d0.ctx, b.chi = .ext ∧ b.ty = .i64)
    (hlen : d0.ctx.length = args.length)
    (hcap : ∀ st, Reachable p ⟨d0.ctx, args.map .int, d0.body⟩ st → 2 * st.ctx.length ≤ 266)
    (fuel : Nat) (hfuel : fuel + 1 < 2 ^ 64)
    (cfg : MonCfg) (MO : MachOK cfg.mach)
    (hb8 : cfg.mach.heapBase % 8 = 0) (hb0 : 0 < cfg.mach.heapBase)
    (Pk A : Nat) (hA : ∀ d ∈ p.defs, LetLe A d.body) (hbytes : 64 * (Pk + A + 2) ≤ cfg.mach.heapBytes)
    (items : List (Code × Nat)) (hitems : (items.map (·.1)).map stripC = routine.map stripC)
    (hfitX : addrAt cfg.mach.codeBase routine routine.length < 2 ^ 64)
    (hPH : PeakHyp p hooks routine ops cfg items args d0 Pk (A * fuel + 1)) :
    (mkProg cfg.mach items).labelIdx["asm_main"]? = some 6 ∧ args.length ≤ 5 ∧
    ∃ F n0 X0, F.c = cfg.mach ∧ stepN cfg (mkProg cfg.mach items) n0 (initState cfg.mach args 6) = .inl X0 ∧
      BChain cfg (mkProg cfg.mach items) (fun st X => ∃ cfgA hs,
        Rel3 F routine (Program.ofOps ops) hooks p st cfgA hs X ∧ FrBound hs (Pk + 1) ∧
          FrBound hs (A * fuel + 1)) (statesOf p fuel ⟨d0.ctx, args.map .int, d0.body⟩) X0 ∧
      ∀ (out : List (Bool × Word)) (v : Word),
        Pos.runState p fuel ⟨d0.ctx, args.map .int, d0.body⟩ [] = ⟨out, .done v⟩ →
        ∃ n XL, stepN cfg (mkProg cfg.mach items) n X0 = .inl XL ∧
          step cfg (mkProg cfg.mach items) XL = .inr (.done v) ∧ XL.out.reverse = out ∧
          XL.maxHeapWritten ≤ cfg.mach.heapBytes := by
  have hmem : d0 ∈ p.defs := List.mem_of_mem_head? hd
  have hc0 := hcap _ Reachable.refl
  simp only at hc0
  obtain ⟨F, pre, st0, h, n0, X0, a, En⟩ := entry_setup p args hooks body routine nargs d0 ops c' hsafe htp
    hcompM hcompX hrout hnd hd hentry hlen hc0 cfg MO hb0 (by omega) items hitems
  have hFc := En.fc
  have H := En.boundaries hb8 hnd hfitX hcompM hsafe htp hfit hprog
  have hA' : ∀ d ∈ p.defs, K.AllocLe A d.body := fun d hd => allocLe_of_letLe d.body (hprog.2 d hd).1 (hA d hd)
  have I0 := En.peakRun hcap hprog hmem hA' hb0 hbytes (hPH F n0 X0 hFc En.steps) hfuel (Nat.le_refl _)
  refine ⟨En.main, En.nargs, F, n0, X0, hFc, En.steps, bchain_of_chain (((Track.peakTrack H hA' hbytes).run fuel 0 _ _ _
    I0).1.mono fun st X ⟨_, _, cfgA, hs, Cb, I, _, hC⟩ => ⟨cfgA, hs, I.bd.rel, I.fb,
      fun rs lin lazy live F J => by have := I.cb rs lin lazy live F J; omega⟩), fun out v h => ?_⟩
  obtain ⟨n, XL, accL, g1, hout, g2, g3⟩ := Track.peak_done H hA' hbytes (n := fuel) (r := 0) I0 h
  exact ⟨n, XL, g1, g2, by rw [g3, hout],
    stepN_mhw (n0 + n) (stepN_trans cfg _ En.steps g1) (mhwOK_init cfg.mach args 6)⟩

/-- C10 ON THE MACHINE: the run under the footprint bound -/
theorem data_programs_peak (p : AxCut.Prog) (args : List Word) (hooks : Bool) (body routine : List Code)
    (nargs : Nat) (d0 : Def) (ops : List MockOp) (c' : Nat)
    (hsafe : LabelSafe p = true) (htp : LinTypedProg p) (hprog : ProgOK p)
    (hcompM : (compile mockSym hooks p).run 0 = .ok ((ops, nargs), c')) (hfit : CodeFits ops)
    (hcompX : compileX86 p hooks 0 = .ok (body, nargs)) (hrout : intoRoutine body nargs = .ok routine)
    (hnd : (labs routine).Nodup)
    (hd : p.defs.head? = some d0) (hentry : ∀ b ∈ d0.ctx, b.chi = .ext ∧ b.ty = .i64)
    (hcap : ∀ st, Reachable p ⟨d0.ctx, args.map .int, d0.body⟩ st → 2 * st.ctx.length ≤ 266)
    (fuel : Nat) (out : List (Bool × Word)) (v : Word) (hfuel : fuel + 1 < 2 ^ 64)
    (hrun : Pos.run p args fuel = ⟨out, .done v⟩)
    (cfg : MonCfg) (MO : MachOK cfg.mach) (hk : cfg.consts = consts)
    (hb8 : cfg.mach.heapBase % 8 = 0) (hb0 : 0 < cfg.mach.heapBase)
    (Pk A : Nat) (hA : ∀ d ∈ p.defs, LetLe A d.body) (hbytes : 64 * (Pk + A + 2) ≤ cfg.mach.heapBytes)
    (items : List (Code × Nat)) (hitems : (items.map (·.1)).map stripC = routine.map stripC)
    (hfitX : addrAt cfg.mach.codeBase routine routine.length < 2 ^ 64)
    (hP : PeakAtMost p hooks routine ops cfg items args Pk (A * fuel + 1)) :
    (mkProg cfg.mach items).labelIdx["asm_main"]? = some 6 ∧
    ∃ n0 X0 n XL, stepN cfg (mkProg cfg.mach items) n0 (initState cfg.mach args 6) = .inl X0 ∧
      BChain cfg (mkProg cfg.mach items)
        (fun st X => BoundaryOf p hooks routine ops cfg st X ∧
          ∃ below inUse, HeapShapeAt cfg X below inUse ∧ below ≤ Pk + 1 ∧ inUse ≤ Pk)
        (statesOf p fuel ⟨d0.ctx, args.map .int, d0.body⟩) X0 ∧
      stepN cfg (mkProg cfg.mach items) n X0 = .inl XL ∧ step cfg (mkProg cfg.mach items) XL = .inr (.done v) ∧
      XL.out.reverse = out ∧ XL.maxHeapWritten ≤ cfg.mach.heapBytes := by
  obtain ⟨_, hlen, hrun'⟩ := Scc.Props.C06Generic.run_entry hd hrun ⟨_, rfl⟩
  obtain ⟨hmain, _, F, n0, X0, hFc, h0, hch, hdone⟩ := data_programs_run3 p args hooks body routine nargs d0 ops c' hsafe htp hprog hcompM hfit hcompX hrout hnd hd
    hentry hlen hcap fuel hfuel cfg MO hb8 hb0 Pk A hA hbytes items hitems hfitX (peakHyp_of_peakAtMost hk hP)
  obtain ⟨n, XL, g1, g2, g3, hm⟩ := hdone out v hrun'
  exact ⟨hmain, n0, X0, n, XL, h0, bchain_shape hFc hk hP _ X0 n0 h0 hch, g1, g2, g3, hm⟩

/-- C09/C10 ON THE MACHINE FOR EVERY PREFIX OF EVERY RUN (terminating or not): for ANY number `fuel` of steps
of the positional machine, the machine started at `asm_main` passes — without fault — through a boundary
state for every state the positional machine goes through in `fuel` steps -/
theorem data_programs_prefix (p : AxCut.Prog) (args : List Word) (hooks : Bool) (body routine : List Code)
    (nargs : Nat) (d0 : Def) (ops : List MockOp) (c' : Nat)
    (hsafe : LabelSafe p = true) (htp : LinTypedProg p) (hprog : ProgOK p)
    (hcompM : (compile mockSym hooks p).run 0 = .ok ((ops, nargs), c')) (hfit : CodeFits ops)
    (hcompX : compileX86 p hooks 0 = .ok (body, nargs)) (hrout : intoRoutine body nargs = .ok routine)
    (hnd : (labs routine).Nodup)
    (hd : p.defs.head? = some d0) (hentry : ∀ b ∈ d0.ctx, b.chi = .ext ∧ b.ty = .i64)
    (hlen : d0.ctx.length = args.length)
    (hcap : ∀ st, Reachable p ⟨d0.ctx, args.map .int, d0.body⟩ st → 2 * st.ctx.length ≤ 266)
    (fuel : Nat) (hfuel : fuel + 1 < 2 ^ 64)
    (cfg : MonCfg) (MO : MachOK cfg.mach) (hk : cfg.consts = consts)
    (hb8 : cfg.mach.heapBase % 8 = 0) (hb0 : 0 < cfg.mach.heapBase)
    (Pk A : Nat) (hA : ∀ d ∈ p.defs, LetLe A d.body) (hbytes : 64 * (Pk + A + 2) ≤ cfg.mach.heapBytes)
    (items : List (Code × Nat)) (hitems : (items.map (·.1)).map stripC = routine.map stripC)
    (hfitX : addrAt cfg.mach.codeBase routine routine.length < 2 ^ 64)
    (hP : PeakAtMost p hooks routine ops cfg items args Pk (A * fuel + 1)) :
    (mkProg cfg.mach items).labelIdx["asm_main"]? = some 6 ∧
    ∃ n0 X0, stepN cfg (mkProg cfg.mach items) n0 (initState cfg.mach args 6) = .inl X0 ∧
      BChain cfg (mkProg cfg.mach items)
        (fun st X => BoundaryOf p hooks routine ops cfg st X ∧
          ∃ below inUse, HeapShapeAt cfg X below inUse ∧ below ≤ Pk + 1 ∧ inUse ≤ Pk)
        (statesOf p fuel ⟨d0.ctx, args.map .int, d0.body⟩) X0 := by
  obtain ⟨hmain, _, F, n0, X0, hFc, h0, hch, _⟩ := data_programs_run3 p args hooks body routine nargs d0 ops c' hsafe htp hprog hcompM hfit hcompX hrout hnd hd
    hentry hlen hcap fuel hfuel cfg MO hb8 hb0 Pk A hA hbytes items hitems hfitX (peakHyp_of_peakAtMost hk hP)
  exact ⟨hmain, n0, X0, h0, bchain_shape hFc hk hP _ X0 n0 h0 hch⟩

theorem mkProg_congr {c1 c2 : MachCfg} (h : c1.codeBase = c2.codeBase) (items : List (Code × Nat)) :
    mkProg c1 items = mkProg c2 items := by
  unfold mkProg
  rw [h]

theorem initState_congr {c1 c2 : MachCfg} (S : Sub c1 c2) (args : List Word) (entry : Nat) :
    initState c1 args entry = initState c2 args entry := by
  unfold initState initRegs
  rw [S.base, S.top]

/-- a run (heap monitor off) that ends with `done v` within its fuel in the smaller heap is the same run,
with the same trace, result and highest written heap address, in the larger heap -/
theorem runLoop_larger_heap {m' m : MonCfg} (S : Sub m'.mach m.mach) (h' : m'.heap = false) (hm : m.heap = false)
    (p : Prog) : ∀ (f : Nat) (s : State) (b : Nat) (v : Word), (runLoop m' p f s b).res = .done v →
      runLoop m p f s b = runLoop m' p f s b
  | 0, s, b, v, h => by simp [runLoop, finish] at h
  | f + 1, s, b, v, h => by
    simp only [runLoop, monitor_off h', monitor_off hm] at h ⊢
    cases hs : step m' p s with
    | inl s1 =>
      rw [hs] at h
      rw [step_mono S hs]
      exact runLoop_larger_heap S h' hm p f s1 b v h
    | inr r =>
      rw [hs] at h
      have hr : r = .done v := by simpa [finish] using h
      subst hr
      rw [step_mono_done S hs]

theorem runItems_larger_heap {m' m : MonCfg} (S : Sub m'.mach m.mach) (h' : m'.heap = false) (hm : m.heap = false)
    (items : List (Code × Nat)) (args : List Word) (f : Nat) (v : Word)
    (h : (runItems items args f m').res = .done v) : runItems items args f m = runItems items args f m' := by
  unfold runItems at *
  dsimp only at *
  rw [mkProg_congr S.code items] at h ⊢
  cases hl : (mkProg m.mach items).labelIdx["asm_main"]? with
  | none => rfl
  | some entry =>
    rw [hl] at h
    dsimp only at h ⊢
    split
    · rfl
    · rename_i hn
      rw [if_neg hn] at h
      rw [initState_congr S] at h ⊢
      exact runLoop_larger_heap S h' hm _ f _ 0 v h

/-- a terminating run, on the run loop, for any source of the peak hypothesis: trace, result and the highest heap
address written -/
theorem data_programs_run_gen (p : AxCut.Prog) (args : List Word) (hooks : Bool) (body routine : List Code)
    (nargs : Nat) (d0 : Def) (ops : List MockOp) (c' : Nat)
    (hsafe : LabelSafe p = true) (htp : LinTypedProg p) (hprog : ProgOK p)
    (hcompM : (compile mockSym hooks p).run 0 = .ok ((ops, nargs), c')) (hfit : CodeFits ops)
    (hcompX : compileX86 p hooks 0 = .ok (body, nargs)) (hrout : intoRoutine body nargs = .ok routine)
    (hnd : (labs routine).Nodup)
    (hd : p.defs.head? = some d0) (hentry : ∀ b ∈ d0.ctx, b.chi = .ext ∧ b.ty = .i64)
    (hcap : ∀ st, Reachable p ⟨d0.ctx, args.map .int, d0.body⟩ st → 2 * st.ctx.length ≤ 266)
    (fuel : Nat) (out : List (Bool × Word)) (v : Word) (hfuel : fuel + 1 < 2 ^ 64)
    (hrun : Pos.run p args fuel = ⟨out, .done v⟩)
    (cfg : MonCfg) (MO : MachOK cfg.mach) (hheap : cfg.heap = false)
    (hb8 : cfg.mach.heapBase % 8 = 0) (hb0 : 0 < cfg.mach.heapBase)
    (Pk A : Nat) (hA : ∀ d ∈ p.defs, LetLe A d.body) (hbytes : 64 * (Pk + A + 2) ≤ cfg.mach.heapBytes)
    (items : List (Code × Nat)) (hitems : (items.map (·.1)).map stripC = routine.map stripC)
    (hfitX : addrAt cfg.mach.codeBase routine routine.length < 2 ^ 64)
    (hPH : PeakHyp p hooks routine ops cfg items args d0 Pk (A * fuel + 1)) :
    ∃ fuel', (runItems items args fuel' cfg).out = out ∧ (runItems items args fuel' cfg).res = .done v ∧
      (runItems items args fuel' cfg).maxHeapWritten ≤ cfg.mach.heapBytes := by
  obtain ⟨_, hlen, hrun'⟩ := Scc.Props.C06Generic.run_entry hd hrun ⟨_, rfl⟩
  obtain ⟨hmain, hargs, F, n0, X0, hFc, h0, _, hdone⟩ := data_programs_run3 p args hooks body routine nargs d0 ops c' hsafe htp hprog hcompM hfit hcompX hrout hnd hd
    hentry hlen hcap fuel hfuel cfg MO hb8 hb0 Pk A hA hbytes items hitems hfitX hPH
  obtain ⟨n, XL, g1, g2, g3, hm⟩ := hdone out v hrun'
  refine ⟨n0 + (n + 1), ?_⟩
  have hrl : runItems items args (n0 + (n + 1)) cfg =
      runLoop cfg (mkProg cfg.mach items) (n0 + (n + 1)) (initState cfg.mach args 6) 0 := by
    unfold runItems
    simp only [hmain]
    rw [if_neg (by omega)]
  rw [hrl, runLoop_stepN hheap _ n0 (n + 1) _ _ 0 h0, runLoop_stepN hheap _ n 1 _ _ 0 g1]
  obtain ⟨h1, h2⟩ := runLoop_done hheap (mkProg cfg.mach items) 0 XL 0 g2
  refine ⟨by rw [h1]; exact g3, h2, ?_⟩
  rw [runLoop_done_mhw hheap (mkProg cfg.mach items) 0 XL 0 g2]
  exact hm

/-- `data_programs_peak` on the run loop: trace, result and the highest heap address written -/
theorem data_programs_peak_items (p : AxCut.Prog) (args : List Word) (hooks : Bool) (body routine : List Code)
    (nargs : Nat) (d0 : Def) (ops : List MockOp) (c' : Nat)
    (hsafe : LabelSafe p = true) (htp : LinTypedProg p) (hprog : ProgOK p)
    (hcompM : (compile mockSym hooks p).run 0 = .ok ((ops, nargs), c')) (hfit : CodeFits ops)
    (hcompX : compileX86 p hooks 0 = .ok (body, nargs)) (hrout : intoRoutine body nargs = .ok routine)
    (hnd : (labs routine).Nodup)
    (hd : p.defs.head? = some d0) (hentry : ∀ b ∈ d0.ctx, b.chi = .ext ∧ b.ty = .i64)
    (hcap : ∀ st, Reachable p ⟨d0.ctx, args.map .int, d0.body⟩ st → 2 * st.ctx.length ≤ 266)
    (fuel : Nat) (out : List (Bool × Word)) (v : Word) (hfuel : fuel + 1 < 2 ^ 64)
    (hrun : Pos.run p args fuel = ⟨out, .done v⟩)
    (cfg : MonCfg) (MO : MachOK cfg.mach) (hk : cfg.consts = consts) (hheap : cfg.heap = false)
    (hb8 : cfg.mach.heapBase % 8 = 0) (hb0 : 0 < cfg.mach.heapBase)
    (Pk A : Nat) (hA : ∀ d ∈ p.defs, LetLe A d.body) (hbytes : 64 * (Pk + A + 2) ≤ cfg.mach.heapBytes)
    (items : List (Code × Nat)) (hitems : (items.map (·.1)).map stripC = routine.map stripC)
    (hfitX : addrAt cfg.mach.codeBase routine routine.length < 2 ^ 64)
    (hP : PeakAtMost p hooks routine ops cfg items args Pk (A * fuel + 1)) :
    ∃ fuel', (runItems items args fuel' cfg).out = out ∧ (runItems items args fuel' cfg).res = .done v ∧
      (runItems items args fuel' cfg).maxHeapWritten ≤ cfg.mach.heapBytes :=
  data_programs_run_gen p args hooks body routine nargs d0 ops c' hsafe htp hprog hcompM hfit hcompX hrout hnd hd hentry
    hcap fuel out v hfuel hrun cfg MO hheap hb8 hb0 Pk A hA hbytes items hitems hfitX (peakHyp_of_peakAtMost hk hP)

def withHeapBytes (cfg : MonCfg) (bytes : Nat) : MonCfg := { cfg with mach := { cfg.mach with heapBytes := bytes } }

theorem sub_withHeapBytes {cfg : MonCfg} (MO : MachOK cfg.mach) {bytes : Nat} (h : bytes ≤ cfg.mach.heapBytes) :
    Sub (withHeapBytes cfg bytes).mach cfg.mach :=
  ⟨rfl, rfl, h, rfl, rfl, MO.cfg.heapBelow⟩

theorem machOK_withHeapBytes {cfg : MonCfg} (MO : MachOK cfg.mach) {bytes : Nat} (h : bytes ≤ cfg.mach.heapBytes) :
    MachOK (withHeapBytes cfg bytes).mach :=
  ⟨⟨by have := MO.cfg.heapBelow; show cfg.mach.heapBase + bytes ≤ cfg.mach.stackLow; omega, MO.cfg.top⟩,
    MO.top16, MO.room⟩

end Scc.X86.Conc
