/-
  Scc.X86.RefHeapInt — what the three-way simulation of the statements that do not touch the heap (`lit`, `op`,
  `print`, `ifc`, `call`: Scc/Backend/ThreeWayInt.lean at the machine of ThreeWayTarget.lean) needs that mentions
  neither three-way relation: a block with external calls that stands in the loaded routine is run by the machine
  (`x_steps_seq`), and `XDefsAt cs hooks prog`: the x86 code of every definition is in the loaded routine behind
  its label.
  (A jump of the abstract machine: Scc/Backend/ProofsAbsJump.lean; the roots: Scc/Backend/ProofsRoots.lean.)
-/
import Scc.X86.RefHeapBridge
import Scc.Backend.ProofsAbsJump
import Scc.Backend.ProofsRoots

namespace Scc.X86.Ref

open Scc.Backend

/-- a block with external calls (`execSeq`: the print runtime) that stands at the program counter -/
theorem x_steps_seq (m : MonCfg) {p : Prog} {cs : List Code} (L : Loaded p cs) {blk : List Code}
    {s s' : State} (hat : XAt cs s.pc blk) (hx : execSeq m.mach p.labelAddr blk s = .ok s') :
    ∃ k, stepN m p blk.length s = .inl (setPS s' (s.pc + blk.length) k) := by
  obtain ⟨cs1, rest, e, hl⟩ := hat
  have := steps_block_seq m L e hl.symm hx
  rw [hl] at this
  exact this

/-- every definition's x86 code is in the routine, behind its label -/
def XDefsAt (cs : List Code) (hooks : Bool) (prog : AxCut.Prog) : Prop :=
  ∀ d ∈ prog.defs, ∃ i k k' items, labIdx cs (d.name.print ++ "_") = some i ∧
    cs[i]? = some (Code.LAB (d.name.print ++ "_")) ∧
    (codeStatementR x86Backend hooks natRen prog.types d.body d.ctx).run k = .ok (items, k') ∧
    XAt cs (i + 1) items

end Scc.X86.Ref
