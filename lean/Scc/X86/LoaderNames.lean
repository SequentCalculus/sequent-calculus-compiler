/-
  Scc.X86.LoaderNames — WHICH STRINGS the generic code generator (Scc/Backend/Generic.lean) hands to the
  label- and comment-taking methods of a backend.  Generic in the backend record `B`.

  Part 1: strings.  `NoNL s` (no line break), `StrOK okc s` (all characters in a class `okc`), closure
  under `++`, `toString`, `intercalate`, `String.join`, and the printed forms of identifiers / contexts /
  the comment texts of Generic.lean.
  Part 2: `progNamesOK okc p` — the DECIDABLE hypothesis on the names of a program: every identifier
  (definition names, variables, xtor / destructor tags) consists of `okc` characters, every type name
  is free of line breaks, and the mangled name of every type that a `switch` / `create` dispatches on
  consists of `okc` characters.
  Part 3: `OpsNames B P LOK` — what the generator needs from the backend methods for a predicate `P` on
  codes: comments without line break and labels in `LOK` give `P`-codes.  The lifting
  `post_compileR_names` is in Scc/Backend/LoaderNamesC.lean: for a program with `progNamesOK`, every code
  that `compileR B hooks ren p` emits satisfies `P`, where `LOK = GenLabel okc ren`: labels are
  `okc`-strings containing `_` (`f_`, `Ty_7`, `Ty_7_Cons`), `lab<n>`, or `cleanup`.
-/
import Scc.X86.ProofsWfProg
import Scc.X86.LoaderLemmas

set_option linter.unusedSimpArgs false

namespace Scc.X86.Loader

open Scc.AxCut Scc.Backend Scc.Str

/-! ## Part 1: strings -/

def NoNL (s : String) : Prop := '\n' ∉ s.toList

instance (s : String) : Decidable (NoNL s) := by unfold NoNL; exact inferInstance

theorem noNL_ofList {cs : List Char} (h : '\n' ∉ cs) : NoNL (String.ofList cs) := by
  rwa [NoNL, String.toList_ofList]

/-- a fact about a string literal, from the same fact about its characters: a literal unifies with
`String.ofList` of its characters, whereas evaluating `String.toList` of a literal is slow -/
syntax "lit_ok" : tactic
macro_rules | `(tactic| lit_ok) => `(tactic| exact noNL_ofList (by decide))

def StrOK (okc : Char → Bool) (s : String) : Prop := ∀ c ∈ s.toList, okc c = true

theorem noNL_append {a b : String} : NoNL (a ++ b) ↔ NoNL a ∧ NoNL b := by
  simp [NoNL, String.toList_append, not_or]

theorem strOK_append {okc : Char → Bool} {a b : String} : StrOK okc (a ++ b) ↔ StrOK okc a ∧ StrOK okc b := by
  simp only [StrOK, String.toList_append, List.mem_append]
  constructor
  · intro h; exact ⟨fun c hc => h c (Or.inl hc), fun c hc => h c (Or.inr hc)⟩
  · rintro ⟨h1, h2⟩ c (hc | hc)
    · exact h1 c hc
    · exact h2 c hc

/-- what the character class of label-safe names must satisfy -/
structure OkcSpec (okc : Char → Bool) : Prop where
  nl : ∀ c, okc c = true → c ≠ '\n'
  us : okc '_' = true
  digit : ∀ c, c.isDigit = true → okc c = true

theorem StrOK.noNL {okc : Char → Bool} (H : OkcSpec okc) {s : String} (h : StrOK okc s) : NoNL s :=
  fun hm => H.nl _ (h _ hm) rfl

theorem strOK_natToString {okc : Char → Bool} (H : OkcSpec okc) (n : Nat) : StrOK okc (toString n) := by
  intro c hc
  rw [toList_toString_nat] at hc
  exact H.digit c (isDigit_toDigits n c hc)

theorem noNL_intToString (i : Int) : NoNL (toString i) := by
  intro hc
  have := immC_chars i '\n' hc
  revert this; decide

theorem strOK_us {okc : Char → Bool} (H : OkcSpec okc) : StrOK okc "_" := by
  intro c hc
  have : c = '_' := by simpa using hc
  subst this; exact H.us

theorem mem_intercalate {α : Type} {sep : List α} {c : α} : ∀ {ls : List (List α)},
    c ∈ sep.intercalate ls → c ∈ sep ∨ ∃ l ∈ ls, c ∈ l
  | [], h => by simp [Scc.Str.intercalate_nil'] at h
  | [x], h => by rw [List.intercalate_singleton] at h; exact Or.inr ⟨x, by simp, h⟩
  | x :: y :: r, h => by
    rw [List.intercalate_cons_cons] at h
    rcases List.mem_append.1 h with h | h
    · rcases List.mem_append.1 h with h | h
      · exact Or.inr ⟨x, by simp, h⟩
      · exact Or.inl h
    · rcases mem_intercalate (ls := y :: r) h with h | ⟨l, hl, hc⟩
      · exact Or.inl h
      · exact Or.inr ⟨l, by simp at hl ⊢; right; exact hl, hc⟩

theorem noNL_intercalate {sep : String} {l : List String} (hs : NoNL sep) (hl : ∀ x ∈ l, NoNL x) :
    NoNL (sep.intercalate l) := by
  intro hc
  rw [String.toList_intercalate] at hc
  rcases mem_intercalate hc with h | ⟨x, hx, hcx⟩
  · exact hs h
  · obtain ⟨y, hy, rfl⟩ := List.mem_map.1 hx
    exact hl y hy hcx

theorem noNL_join {l : List String} (hl : ∀ x ∈ l, NoNL x) : NoNL (String.join l) := by
  intro hc
  rw [String.toList_join] at hc
  obtain ⟨x, hx, hcx⟩ := List.mem_flatMap.1 hc
  exact hl x hx hcx

def identOK (okc : Char → Bool) (i : Ident) : Bool := i.name.toList.all okc

theorem strOK_print {okc : Char → Bool} (H : OkcSpec okc) {i : Ident} (h : identOK okc i = true) :
    StrOK okc i.print := by
  have hn : StrOK okc i.name := by
    intro c hc
    simp only [identOK, List.all_eq_true] at h
    exact h c hc
  unfold Ident.print
  split
  · exact hn
  · exact strOK_append.2 ⟨strOK_append.2 ⟨hn, strOK_us H⟩, strOK_natToString H _⟩

theorem noNL_print {okc : Char → Bool} (H : OkcSpec okc) {i : Ident} (h : identOK okc i = true) :
    NoNL i.print := (strOK_print H h).noNL H

def tyNoNL (ty : Ty) : Bool := (tyPrint ty).toList.all (· != '\n')

/-- the mangled name of a type that a `switch` / `create` dispatches on is label-safe -/
def tyLabelOK (okc : Char → Bool) (ty : Ty) : Bool := (mangleTy ty).toList.all okc

theorem noNL_tyPrint {ty : Ty} (h : tyNoNL ty = true) : NoNL (tyPrint ty) := by
  simp only [tyNoNL, List.all_eq_true, bne_iff_ne, ne_eq] at h
  exact fun hm => h _ hm rfl

theorem strOK_mangleTy {okc : Char → Bool} {ty : Ty} (h : tyLabelOK okc ty = true) : StrOK okc (mangleTy ty) := by
  intro c hc
  simp only [tyLabelOK, List.all_eq_true] at h
  exact h c hc

def bindingOK (okc : Char → Bool) (b : Binding) : Bool := identOK okc b.var && tyNoNL b.ty

def ctxOK (okc : Char → Bool) (c : Ctx) : Bool := c.all (bindingOK okc)

/-- the invariant on the generator's current context: variable names are label-safe -/
def CtxVars (okc : Char → Bool) (c : Ctx) : Prop := ∀ b ∈ c, identOK okc b.var = true

theorem ctxVars_of_ctxOK {okc : Char → Bool} {c : Ctx} (h : ctxOK okc c = true) : CtxVars okc c := by
  intro b hb
  simp only [ctxOK, List.all_eq_true, bindingOK, Bool.and_eq_true] at h
  exact (h b hb).1

theorem CtxVars.append {okc : Char → Bool} {a b : Ctx} (ha : CtxVars okc a) (hb : CtxVars okc b) :
    CtxVars okc (a ++ b) := fun x hx => (List.mem_append.1 hx).elim (ha x) (hb x)

theorem CtxVars.single {okc : Char → Bool} {v : Ident} {chi : Chi} {ty : Ty} (h : identOK okc v = true) :
    CtxVars okc [⟨v, chi, ty⟩] := by
  intro b hb; simp only [List.mem_singleton] at hb; subst hb; exact h

theorem CtxVars.sub {okc : Char → Bool} {a b : Ctx} (hb : CtxVars okc b) (h : ∀ x ∈ a, x ∈ b) : CtxVars okc a :=
  fun x hx => hb x (h x hx)

theorem noNL_chiStr (c : Chi) : NoNL (chiStr c) := by cases c <;> decide
theorem noNL_ifSortSym (s : IfSort) : NoNL (ifSortSym s) := by cases s <;> decide
theorem noNL_opSym (o : BinOp) : NoNL o.sym := by cases o <;> decide

theorem noNL_varsPrint {okc : Char → Bool} (H : OkcSpec okc) {c : Ctx} (h : CtxVars okc c) : NoNL (varsPrint c) := by
  unfold varsPrint
  refine noNL_intercalate (by lit_ok) ?_
  intro x hx
  obtain ⟨b, hb, rfl⟩ := List.mem_map.1 hx
  exact noNL_print H (h b hb)

theorem noNL_ctxPrint {okc : Char → Bool} (H : OkcSpec okc) {c : Ctx} (h : ctxOK okc c = true) : NoNL (ctxPrint c) := by
  unfold ctxPrint
  refine noNL_intercalate (by lit_ok) ?_
  intro x hx
  obtain ⟨b, hb, rfl⟩ := List.mem_map.1 hx
  simp only [ctxOK, List.all_eq_true, bindingOK, Bool.and_eq_true] at h
  unfold bindingPrint
  simp only [noNL_append]
  exact ⟨⟨⟨⟨⟨noNL_print H (h b hb).1, by lit_ok⟩, by lit_ok⟩, noNL_chiStr _⟩, by lit_ok⟩, noNL_tyPrint (h b hb).2⟩

theorem noNL_ctxHookComment {okc : Char → Bool} (H : OkcSpec okc) {c : Ctx} (h : CtxVars okc c) :
    NoNL (ctxHookComment c) := by
  unfold ctxHookComment
  simp only [noNL_append]
  refine ⟨⟨by lit_ok, noNL_intercalate (by lit_ok) ?_⟩, by lit_ok⟩
  intro x hx
  obtain ⟨b, hb, rfl⟩ := List.mem_map.1 hx
  simp only [noNL_append]
  exact ⟨⟨noNL_print H (h b hb), by lit_ok⟩, noNL_chiStr _⟩

theorem noNL_substComment {okc : Char → Bool} (H : OkcSpec okc) {r : List (Binding × Ident)}
    (h : ∀ e ∈ r, identOK okc e.1.var = true ∧ identOK okc e.2 = true) : NoNL (substComment r) := by
  unfold substComment
  simp only [noNL_append]
  refine ⟨⟨by lit_ok, noNL_join ?_⟩, by lit_ok⟩
  intro x hx
  obtain ⟨e, he, rfl⟩ := List.mem_map.1 hx
  simp only [noNL_append]
  exact ⟨⟨⟨⟨by lit_ok, noNL_print H (h e he).1⟩, by lit_ok⟩, noNL_print H (h e he).2⟩, by lit_ok⟩

theorem noNL_ifcComment {okc : Char → Bool} (H : OkcSpec okc) (sort : IfSort) {fst : Ident} {snd : Option Ident}
    (h1 : identOK okc fst = true) (h2 : ∀ s, snd = some s → identOK okc s = true) :
    NoNL (ifcComment sort fst snd) := by
  unfold ifcComment
  simp only [noNL_append]
  refine ⟨⟨⟨⟨⟨⟨by lit_ok, noNL_print H h1⟩, by lit_ok⟩, noNL_ifSortSym _⟩, by lit_ok⟩, ?_⟩, by lit_ok⟩
  cases snd with
  | none => decide
  | some s => exact noNL_print H (h2 s rfl)

theorem noNL_invokePrint {okc : Char → Bool} (H : OkcSpec okc) {var tag : Ident} {args : Ctx}
    (h1 : identOK okc var = true) (h2 : identOK okc tag = true) (h3 : ctxOK okc args = true) :
    NoNL (invokePrint var tag args) := by
  unfold invokePrint
  simp only [noNL_append]
  refine ⟨⟨⟨⟨by lit_ok, noNL_print H h1⟩, by lit_ok⟩, noNL_print H h2⟩, ?_⟩
  split
  · decide
  · simp only [noNL_append]
    exact ⟨⟨by lit_ok, noNL_ctxPrint H h3⟩, by lit_ok⟩

/-! ## Part 2: the decidable hypothesis on the names of a program -/

mutual
  def stmtNamesOK (okc : Char → Bool) : Stmt → Bool
    | .subst pairs next =>
      pairs.all (fun e => identOK okc e.1.var && identOK okc e.2) && stmtNamesOK okc next
    | .call label _ => identOK okc label
    | .letS var ty tag args next _ =>
      identOK okc var && tyNoNL ty && identOK okc tag && ctxOK okc args && stmtNamesOK okc next
    | .switch var ty clauses _ => identOK okc var && tyLabelOK okc ty && clausesNamesOK okc clauses
    | .create var ty env clauses next _ _ =>
      identOK okc var && tyNoNL ty && tyLabelOK okc ty &&
      (match env with | some e => ctxOK okc e | none => true) &&
      clausesNamesOK okc clauses && stmtNamesOK okc next
    | .invoke var tag _ args => identOK okc var && identOK okc tag && ctxOK okc args
    | .lit var _ next _ => identOK okc var && stmtNamesOK okc next
    | .op var fst _ snd next _ => identOK okc var && identOK okc fst && identOK okc snd && stmtNamesOK okc next
    | .print _ var next _ => identOK okc var && stmtNamesOK okc next
    | .ifc _ fst snd thenc elsec =>
      identOK okc fst && (match snd with | some s => identOK okc s | none => true) &&
      stmtNamesOK okc thenc && stmtNamesOK okc elsec
    | .exit var => identOK okc var
  def clausesNamesOK (okc : Char → Bool) : Clauses → Bool
    | .nil => true
    | .cons xtor ctx body rest =>
      identOK okc xtor && ctxOK okc ctx && stmtNamesOK okc body && clausesNamesOK okc rest
end

def defNamesOK (okc : Char → Bool) (d : Def) : Bool :=
  identOK okc d.name && ctxOK okc d.ctx && stmtNamesOK okc d.body

/-- **the decidable hypothesis on names**: see the file header -/
def progNamesOK (okc : Char → Bool) (p : AxCut.Prog) : Bool := p.defs.all (defNamesOK okc)

/-! ## Part 3: the generator -/

/-- the labels the generic generator produces -/
def GenLabel (okc : Char → Bool) (ren : Nat → String) (l : String) : Prop :=
  (StrOK okc l ∧ '_' ∈ l.toList) ∨ (∃ n, l = "lab" ++ ren n) ∨ l = "cleanup"

section Generic

variable {Code T : Type} (B : Backend Code T) (P : Code → Prop) (LOK : String → Prop)

/-- what the generic generator needs from the backend methods: comments without line break and
    labels in `LOK` give `P`-codes, whatever the temporaries and numbers are.  It is
    `Backend.NamesC.OpsNamesC` (Backend/LoaderNamesC.lean) at the comments `NoNL`, field for field (`OpsNames.toC`);
    the x86-64 theorems are stated with it. -/
structure OpsNames : Prop where
  comment : ∀ m, NoNL m → P (B.comment m)
  label : ∀ l, LOK l → P (B.label l)
  jump : ∀ t, AllP P (B.jump t)
  jumpLabel : ∀ l, LOK l → AllP P (B.jumpLabel l)
  jumpLabelFixed : ∀ l, LOK l → AllP P (B.jumpLabelFixed l)
  jumpLabelIf : ∀ s a b l, LOK l → AllP P (B.jumpLabelIf s a b l)
  jumpLabelIfZero : ∀ s a l, LOK l → AllP P (B.jumpLabelIfZero s a l)
  loadImmediate : ∀ t n, AllP P (B.loadImmediate t n)
  loadLabel : ∀ t l, LOK l → AllP P (B.loadLabel t l)
  addAndJump : ∀ t k, AllP P (B.addAndJump t k)
  binop : ∀ o t s1 s2, AllP P (B.binop o t s1 s2)
  mov : ∀ t s, AllP P (B.mov t s)
  printI64 : ∀ nl t ctx, Post (B.printI64 nl t ctx) (AllP P)
  eraseBlock : ∀ t, Post (B.eraseBlock t) (AllP P)
  shareBlockN : ∀ t n, Post (B.shareBlockN t n) (AllP P)
  store : ∀ a b, Post (B.store a b) (AllP P)
  load : ∀ a b, Post (B.load a b) (AllP P)
  storeTemporary : ∀ t sp, AllP P (B.storeTemporary t sp)
  restoreTemporary : ∀ t sp, AllP P (B.restoreTemporary t sp)

end Generic

end Scc.X86.Loader
