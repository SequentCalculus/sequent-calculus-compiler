/-
  Scc.X86.Total — the x86-64 backend model (`x86Backend`, Scc/X86/Backend.lean) is "total or capacity"
  (property C12, link `codegen_total`; vocabulary of Scc/Backend/TotalDefs.lean).

  Proved here (for ALL arguments, all values of the label counter, all fuel):
  * `x86_total : TotalBackend x86Backend capX86 (fun _ => True)` with `capX86 e := e = "Out of temporaries"`:
    no other panic message of the model is reachable from the backend methods.  In particular
    - `variable_temporary` on a variable of the context never reaches "Variable … not found in context";
    - `store`/`load` never reach "store_fields/load_fields: out of fuel" (fuel = length + 1 suffices because
      `restLength len bp < len` for `len > 0`, as FIELDS_PER_BLOCK - 1 ≥ 2 > 0) nor
      "attempt to subtract with overflow" (`store_values`/`load_values` are always called with
      `free_fields ≥` the number of values);
    - `variable_temporary n Γ id` is `temporary_from_position (2 * pos + n)` for the FIRST position of `id`
      in `Γ`; `temporary_from_position` is injective where it succeeds (`x86_vt_inj`, `x86_vt_det`);
    - the derived `PartialEq` of `Temporary` is equality.
  * `intoRoutine_resOk`, `intoRoutine_ok`: `into_x86_64_routine` fails only with
    "too many arguments for main", and not at all for at most 5 arguments.
  * `fitsX86 n` (every position `< 2 * n` has a temporary) holds iff `2 * n ≤ 267`
    (`fitsX86_of_le`, `not_fitsX86_134`; 267 = REGISTER_NUM - RESERVED + SPILL_NUM - RESERVED_SPILLS).
  * `x86_total_fits : TotalBackend x86Backend (fun _ => False) fitsX86`: when the number of variables fits,
    NO error at all.  `store a b` only requests positions `≤ 2 * (|a| + |b|)`, `load a b` only positions
    `< 2 * (|a| + |b|)`, `variable_temporary n Γ id` only positions `< 2 * |Γ|`.
  Both instances come from one set of lemmas, parametrised by `Good cap N` ("every position below `2 * N`
  has a temporary or fails with a `cap` message").
-/
import Scc.Backend.TotalDefs
import Scc.X86.Backend

namespace Scc.X86.Total

open Scc.AxCut Scc.Backend Scc.Backend.Total

/-- the only panic message of the backend methods that is reachable -/
def capX86 (e : String) : Prop := e = "Out of temporaries"

/-! ## temporary_from_position -/

theorem tfp_lt {q : Nat} (h : q < 267) :
    temporaryFromPosition q = .ok (if q < 12 then .reg (q + 4) else .spill (q - 11)) := by
  unfold temporaryFromPosition
  have hR : RESERVED = 4 := rfl
  have hN : REGISTER_NUM = 16 := rfl
  have hS : RESERVED_SPILLS = 1 := rfl
  have hP : SPILL_NUM = 256 := rfl
  simp only [hR, hN, hS, hP]
  by_cases h12 : q < 12
  · rw [if_pos (by omega), if_pos h12]
  · rw [if_neg (by omega), if_pos (by omega), if_neg h12]
    congr 2; omega

theorem tfp_ge {q : Nat} (h : 267 ≤ q) : temporaryFromPosition q = .error "Out of temporaries" := by
  unfold temporaryFromPosition
  have hR : RESERVED = 4 := rfl
  have hN : REGISTER_NUM = 16 := rfl
  have hS : RESERVED_SPILLS = 1 := rfl
  have hP : SPILL_NUM = 256 := rfl
  simp only [hR, hN, hS, hP]
  rw [if_neg (by omega), if_neg (by omega)]

theorem tfp_ok_lt {q : Nat} {t : Temporary} (h : temporaryFromPosition q = .ok t) : q < 267 := by
  by_cases hq : q < 267
  · exact hq
  · rw [tfp_ge (by omega)] at h; cases h

theorem tfp_inj {q q' : Nat} {t : Temporary} (h : temporaryFromPosition q = .ok t)
    (h' : temporaryFromPosition q' = .ok t) : q = q' := by
  have hq := tfp_ok_lt h
  have hq' := tfp_ok_lt h'
  rw [tfp_lt hq] at h
  rw [tfp_lt hq'] at h'
  have e : (if q < 12 then Temporary.reg (q + 4) else Temporary.spill (q - 11)) =
      (if q' < 12 then Temporary.reg (q' + 4) else Temporary.spill (q' - 11)) := by
    injection h with h; injection h' with h'; rw [h, h']
  by_cases a : q < 12 <;> by_cases b : q' < 12
  · rw [if_pos a, if_pos b] at e; injection e with e; omega
  · rw [if_pos a, if_neg b] at e; cases e
  · rw [if_neg a, if_pos b] at e; cases e
  · rw [if_neg a, if_neg b] at e; injection e with e; omega

theorem tfp_resOk (q : Nat) : ResOk capX86 (temporaryFromPosition q) := by
  by_cases hq : q < 267
  · rw [tfp_lt hq]; trivial
  · rw [tfp_ge (by omega)]; exact rfl

/-! ## capacity, abstractly -/

/-- every position below `2 * N` has a temporary, or fails with a permitted message -/
def Good (cap : String → Prop) (N : Nat) : Prop := ∀ q, q < 2 * N → ResOk cap (temporaryFromPosition q)

theorem Good.mono {cap : String → Prop} {M N : Nat} (h : M ≤ N) (g : Good cap N) : Good cap M :=
  fun q hq => g q (by omega)

theorem good_capX86 (N : Nat) : Good capX86 N := fun q _ => tfp_resOk q

section
variable {cap : String → Prop}

theorem tot_liftE {α : Type} {e : Except String α} (h : ResOk cap e) : Tot cap (liftE e) := by
  cases e with
  | error m => exact TotP.throw h
  | ok a => exact Tot.pure a

theorem tot_freshTemporary {N : Nat} (g : Good cap N) (n : TempNum) (Γ : Ctx) (h : Γ.length < N) :
    Tot cap (freshTemporary n Γ) := by
  unfold freshTemporary
  refine tot_liftE (g _ ?_)
  cases n <;> simp only [TempNum.toNat] <;> omega

theorem tot_skipIfZero (t : Temporary) (l : List Code) : Tot cap (skipIfZero t l) := by
  unfold skipIfZero
  exact Tot.bind Tot.freshLabel fun _ => Tot.pure _

theorem tot_ifZeroThenElse (r : Reg) (o : Option Int) (a b : List Code) :
    Tot cap (ifZeroThenElse r o a b) := by
  unfold ifZeroThenElse
  exact Tot.bind Tot.freshLabel fun _ => Tot.bind Tot.freshLabel fun _ => Tot.pure _

theorem tot_eraseValidObject (r : Reg) : Tot cap (eraseValidObject r) := by
  unfold eraseValidObject
  exact tot_ifZeroThenElse _ _ _ _

theorem tot_eraseBlock (t : Temporary) : Tot cap (eraseBlock t) := by
  unfold eraseBlock
  cases t with
  | reg r =>
    dsimp only
    exact Tot.bind (tot_eraseValidObject _) fun _ => tot_skipIfZero _ _
  | spill p =>
    dsimp only
    exact Tot.bind (tot_eraseValidObject _) fun _ => Tot.bind (tot_skipIfZero _ _) fun _ => Tot.pure _

theorem tot_shareBlockN (t : Temporary) (n : Nat) : Tot cap (shareBlockN t n) := by
  unfold shareBlockN
  cases t <;> exact tot_skipIfZero _ _

theorem tot_eraseFields (r : Reg) : ∀ (n off : Nat), Tot cap (eraseFields r n off)
  | 0, _ => by unfold eraseFields; exact Tot.pure _
  | n + 1, off => by
    unfold eraseFields
    exact Tot.bind (tot_eraseBlock _) fun _ => Tot.bind (tot_eraseFields r n (off + 1)) fun _ => Tot.pure _

theorem tot_acquireBlock (t : Temporary) : Tot cap (acquireBlock t) := by
  unfold acquireBlock
  exact Tot.bind (tot_eraseFields _ _ _) fun _ => Tot.bind (tot_ifZeroThenElse _ _ _ _) fun _ =>
    Tot.bind (tot_ifZeroThenElse _ _ _ _) fun _ => Tot.pure _

/-! ## memory.rs: fields and values -/

theorem tot_storeField {N : Nat} (g : Good cap N) (n : TempNum) (Γ : Ctx) (r : Reg) (off : Nat)
    (h : Γ.length < N) : Tot cap (storeField n Γ r off) := by
  unfold storeField
  refine Tot.bind (tot_freshTemporary g n Γ h) fun t => ?_
  cases t <;> exact Tot.pure _

theorem tot_loadField {N : Nat} (g : Good cap N) (n : TempNum) (Γ : Ctx) (r : Reg) (off : Nat)
    (h : Γ.length < N) : Tot cap (loadField n Γ r off) := by
  unfold loadField
  refine Tot.bind (tot_freshTemporary g n Γ h) fun t => ?_
  cases t <;> exact Tot.pure _

theorem tot_storeValue {N : Nat} (g : Good cap N) (b : Binding) (Γ : Ctx) (r : Reg) (off : Nat)
    (h : Γ.length < N) : Tot cap (storeValue b Γ r off) := by
  unfold storeValue
  refine Tot.bind (tot_storeField g _ _ _ _ h) fun c1 => ?_
  refine TotP.ite (fun _ => Tot.pure _) fun _ => ?_
  exact Tot.bind (tot_storeField g _ _ _ _ h) fun _ => Tot.pure _

theorem tot_loadValue {N : Nat} (g : Good cap N) (b : Binding) (Γ : Ctx) (r : Reg) (off : Nat)
    (m : LoadMode) (h : Γ.length < N) : Tot cap (loadValue b Γ r off m) := by
  unfold loadValue
  refine Tot.bind (tot_loadField g _ _ _ _ h) fun c1 => ?_
  refine TotP.ite (fun _ => ?_) fun _ => Tot.pure _
  refine Tot.bind (tot_loadField g _ _ _ _ h) fun c2 => ?_
  refine Tot.bind (tot_freshTemporary g _ _ h) fun t => ?_
  refine TotP.ite (fun _ => ?_) fun _ => Tot.pure _
  exact Tot.bind (tot_shareBlockN _ _) fun _ => Tot.pure _

theorem tot_pred1 {n : Nat} (h : 0 < n) : TotP cap (fun k => k + 1 = n) (pred1 n) := by
  cases n with
  | zero => omega
  | succ k => exact TotP.pure rfl

/-- `store_values`: never "attempt to subtract with overflow" when `free_fields ≥` the number of values -/
theorem tot_storeValuesLoop {N : Nat} (g : Good cap N) (rem : Ctx) (r : Reg) :
    ∀ (l : List Binding) (ff : Nat), l.length ≤ ff → rem.length + l.length ≤ N →
      Tot cap (storeValuesLoop rem r l ff)
  | [], _, _, _ => by unfold storeValuesLoop; exact Tot.pure _
  | b :: l, ff, h1, h2 => by
    unfold storeValuesLoop
    simp only [List.length_cons] at h1 h2
    refine TotP.bind (tot_pred1 (by omega)) fun off hoff => ?_
    refine Tot.bind (tot_storeValue g _ _ _ _ ?_) fun c => ?_
    · simp only [List.length_append, List.length_reverse]; omega
    refine Tot.bind (tot_storeValuesLoop g rem r l off (by omega) (by omega)) fun p => ?_
    exact Tot.pure _

theorem tot_storeValues {N : Nat} (g : Good cap N) (ts rem : Ctx) (r : Reg) (ff : Nat)
    (h1 : ts.length ≤ ff) (h2 : rem.length + ts.length ≤ N) : Tot cap (storeValues ts rem r ff) := by
  unfold storeValues
  refine Tot.bind (tot_storeValuesLoop g rem r _ ff ?_ ?_) fun p => Tot.pure _
  · simpa only [List.length_reverse] using h1
  · simpa only [List.length_reverse] using h2

theorem tot_loadValuesLoop {N : Nat} (g : Good cap N) (ex : Ctx) (r : Reg) (m : LoadMode) :
    ∀ (l : List Binding) (ff : Nat), l.length ≤ ff → ex.length + l.length ≤ N →
      Tot cap (loadValuesLoop ex r m l ff)
  | [], _, _, _ => by unfold loadValuesLoop; exact Tot.pure _
  | b :: l, ff, h1, h2 => by
    unfold loadValuesLoop
    simp only [List.length_cons] at h1 h2
    refine TotP.bind (tot_pred1 (by omega)) fun off hoff => ?_
    refine Tot.bind (tot_loadValue g _ _ _ _ _ ?_) fun c => ?_
    · simp only [List.length_append, List.length_reverse]; omega
    refine Tot.bind (tot_loadValuesLoop g ex r m l off (by omega) (by omega)) fun p => ?_
    exact Tot.pure _

theorem tot_loadValues {N : Nat} (g : Good cap N) (tl ex : Ctx) (r : Reg) (ff : Nat) (m : LoadMode)
    (h1 : tl.length ≤ ff) (h2 : ex.length + tl.length ≤ N) : Tot cap (loadValues tl ex r ff m) := by
  unfold loadValues
  refine Tot.bind (tot_loadValuesLoop g ex r m _ ff ?_ ?_) fun p => Tot.pure _
  · simpa only [List.length_reverse] using h1
  · simpa only [List.length_reverse] using h2

/-! ## memory.rs: store_fields / load_fields -/

theorem fpb_sub (bp : BlockPosition) : 2 ≤ FIELDS_PER_BLOCK - bp.toNat := by
  have h : FIELDS_PER_BLOCK = 3 := rfl
  cases bp <;> simp only [BlockPosition.toNat, h] <;> omega

/-- a non-empty list of bindings gets strictly shorter for the next block -/
theorem restLength_lt {len : Nat} (bp : BlockPosition) (h : 0 < len) : restLength len bp < len := by
  unfold restLength
  have := fpb_sub bp
  split <;> omega

/-- the values of one block fit into the block -/
theorem sub_restLength_le (len : Nat) (bp : BlockPosition) :
    len - restLength len bp ≤ FIELDS_PER_BLOCK - bp.toNat := by
  unfold restLength
  split <;> omega

theorem tot_storeFields {N : Nat} (g : Good cap N) :
    ∀ (fuel : Nat) (ts rem : Ctx) (bp : BlockPosition), ts.length < fuel → ts.length + rem.length < N →
      Tot cap (storeFields fuel ts rem bp)
  | 0, _, _, _, h, _ => by omega
  | fuel + 1, ts, rem, bp, hf, hN => by
    unfold storeFields
    refine TotP.ite (fun he => ?_) fun he => ?_
    · refine TotP.ite (fun _ => ?_) fun _ => Tot.pure _
      exact Tot.bind (tot_freshTemporary g _ _ (by omega)) fun _ => Tot.pure _
    · have hpos : 0 < ts.length := by
        cases ts with
        | nil => exact absurd rfl he
        | cons _ _ => simp
      have hrl := restLength_lt bp hpos
      have hsub := sub_restLength_le ts.length bp
      dsimp only
      refine TotP.ite (fun _ => ?_) fun _ => ?_
      · refine Tot.bind (tot_storeField g _ _ _ _ ?_) fun _ => ?_
        · simp only [List.length_append]; omega
        refine Tot.bind (Tot.pure _) fun c1 => ?_
        refine Tot.bind (tot_storeValues g _ _ _ _ ?_ ?_) fun c3 => ?_
        · simp only [List.length_drop]; exact hsub
        · simp only [List.length_append, List.length_drop, List.length_take]; omega
        refine Tot.bind (tot_freshTemporary g _ _ ?_) fun t => ?_
        · simp only [List.length_append, List.length_take]; omega
        refine Tot.bind (tot_acquireBlock _) fun c4 => ?_
        refine Tot.bind (tot_storeFields g fuel _ rem .other ?_ ?_) fun c5 => Tot.pure _
        · simp only [List.length_take]; omega
        · simp only [List.length_take]; omega
      · refine Tot.bind (Tot.pure _) fun c1 => ?_
        refine Tot.bind (tot_storeValues g _ _ _ _ ?_ ?_) fun c3 => ?_
        · simp only [List.length_drop]; exact hsub
        · simp only [List.length_append, List.length_drop, List.length_take]; omega
        refine Tot.bind (tot_freshTemporary g _ _ ?_) fun t => ?_
        · simp only [List.length_append, List.length_take]; omega
        refine Tot.bind (tot_acquireBlock _) fun c4 => ?_
        refine Tot.bind (tot_storeFields g fuel _ rem .other ?_ ?_) fun c5 => Tot.pure _
        · simp only [List.length_take]; omega
        · simp only [List.length_take]; omega

theorem tot_loadFieldsBlock {N : Nat} (g : Good cap N) (r : Reg) (next epl epr : Ctx)
    (bp : BlockPosition) (m : LoadMode) (h1 : next.length ≤ FIELDS_PER_BLOCK - bp.toNat)
    (h2 : epr.length + next.length ≤ N) (h3 : bp = .other → epl.length < N) :
    Tot cap (loadFieldsBlock r next epl epr bp m) := by
  unfold loadFieldsBlock
  dsimp only
  refine TotP.ite (fun hb => ?_) fun _ => ?_
  · refine Tot.bind (tot_loadField g _ _ _ _ (h3 hb)) fun _ => ?_
    refine Tot.bind (Tot.pure _) fun c2 => ?_
    exact Tot.bind (tot_loadValues g _ _ _ _ _ h1 h2) fun _ => Tot.pure _
  · refine Tot.bind (Tot.pure _) fun c2 => ?_
    exact Tot.bind (tot_loadValues g _ _ _ _ _ h1 h2) fun _ => Tot.pure _

theorem tot_loadFields {N : Nat} (g : Good cap N) :
    ∀ (fuel : Nat) (tl ex : Ctx) (bp : BlockPosition) (m : LoadMode) (rf : Bool), tl.length < fuel →
      tl.length + ex.length + bp.toNat ≤ N → Tot cap (loadFields fuel tl ex bp m rf)
  | 0, _, _, _, _, _, h, _ => by omega
  | fuel + 1, tl, ex, bp, m, rf, hf, hN => by
    unfold loadFields
    refine TotP.ite (fun he => Tot.pure _) fun he => ?_
    have hpos : 0 < tl.length := by
      cases tl with
      | nil => exact absurd rfl he
      | cons _ _ => simp
    have hrl := restLength_lt bp hpos
    have hsub := sub_restLength_le tl.length bp
    have hother : bp = .other → tl.length + ex.length < N := by
      intro hb; subst hb; simp only [BlockPosition.toNat] at hN; omega
    refine Tot.bind (tot_loadFields g fuel _ ex .other m rf ?_ ?_) fun p => ?_
    · simp only [List.length_take]; omega
    · simp only [List.length_take, BlockPosition.toNat]; omega
    obtain ⟨c0, rf'⟩ := p
    dsimp only
    refine Tot.bind (tot_freshTemporary g _ _ ?_) fun t => ?_
    · simp only [List.length_append, List.length_take]; omega
    have hblock : ∀ r, Tot cap (loadFieldsBlock r (tl.drop (restLength tl.length bp)) (ex ++ tl)
        (ex ++ tl.take (restLength tl.length bp)) bp m) := by
      intro r
      refine tot_loadFieldsBlock g _ _ _ _ _ _ ?_ ?_ ?_
      · simp only [List.length_drop]; exact hsub
      · simp only [List.length_append, List.length_drop, List.length_take]; omega
      · intro hb; have := hother hb; simp only [List.length_append]; omega
    cases t with
    | reg r => exact Tot.bind (hblock r) fun _ => Tot.pure _
    | spill p => exact Tot.bind (hblock _) fun _ => Tot.pure _

theorem tot_store {N : Nat} (g : Good cap N) (a b : Ctx) (h : a.length + b.length < N) :
    Tot cap (store a b) := by
  unfold store
  exact tot_storeFields g _ _ _ _ (by omega) h

theorem tot_loadRegister {N : Nat} (g : Good cap N) (r : Reg) (a b : Ctx) (h : a.length + b.length ≤ N) :
    Tot cap (loadRegister r a b) := by
  unfold loadRegister
  refine Tot.bind (tot_loadFields g _ _ _ _ _ _ (by omega) (by simpa [BlockPosition.toNat] using h))
    fun p => ?_
  refine Tot.bind (tot_loadFields g _ _ _ _ _ _ (by omega) (by simpa [BlockPosition.toNat] using h))
    fun q => ?_
  exact Tot.bind (tot_ifZeroThenElse _ _ _ _) fun _ => Tot.pure _

theorem tot_load {N : Nat} (g : Good cap N) (a b : Ctx) (h : a.length + b.length ≤ N) :
    Tot cap (load a b) := by
  unfold load
  refine TotP.ite (fun _ => Tot.pure _) fun he => ?_
  have hpos : 0 < a.length := by
    cases a with
    | nil => exact absurd rfl he
    | cons _ _ => simp
  refine Tot.bind (tot_freshTemporary g _ _ (by omega)) fun t => ?_
  cases t with
  | reg r => exact Tot.bind (tot_loadRegister g _ _ _ h) fun _ => Tot.pure _
  | spill p => exact Tot.bind (tot_loadRegister g _ _ _ h) fun _ => Tot.pure _

end

/-! ## utils.rs: variable_temporary -/

/-- `ctxPosition` returns the FIRST position of the variable: the binding there has this id -/
theorem ctxPosition_some {id : Nat} : ∀ {Γ : Ctx} {i q : Nat}, ctxPosition Γ id i = some q →
    ∃ p b, q = i + p ∧ p < Γ.length ∧ Γ[p]? = some b ∧ b.var.id = id
  | [], _, _, h => by simp [ctxPosition] at h
  | b :: bs, i, q, h => by
    unfold ctxPosition at h
    split at h
    · rename_i hb
      injection h with h
      exact ⟨0, b, by omega, by simp, rfl, by simpa using hb⟩
    · obtain ⟨p, b', hq, hp, hb', hid⟩ := ctxPosition_some h
      exact ⟨p + 1, b', by omega, by simp; omega, by simpa using hb', hid⟩

/-- `get_position` succeeds on every variable of the context -/
theorem ctxPosition_of_mem {id : Nat} : ∀ {Γ : Ctx} (i : Nat), (∃ b ∈ Γ, b.var.id = id) →
    ∃ q, ctxPosition Γ id i = some q
  | [], _, h => by obtain ⟨b, hb, _⟩ := h; cases hb
  | b :: bs, i, h => by
    unfold ctxPosition
    by_cases hb : (b.var.id == id) = true
    · rw [if_pos hb]; exact ⟨i, rfl⟩
    · rw [if_neg hb]
      obtain ⟨b', hb', hid⟩ := h
      rcases List.mem_cons.mp hb' with rfl | hb'
      · exact absurd (by simpa using hid) hb
      · exact ctxPosition_of_mem (i + 1) ⟨b', hb', hid⟩

theorem vt_run_ok' {n : TempNum} {Γ : Ctx} {id : Nat} {c k : Nat} {t : Temporary}
    (h : (variableTemporary n Γ id).run c = .ok (t, k)) :
    ∃ q, ctxPosition Γ id 0 = some q ∧ temporaryFromPosition (2 * q + n.toNat) = .ok t := by
  unfold variableTemporary at h
  cases hp : ctxPosition Γ id 0 with
  | none =>
    rw [hp] at h
    have h2 : (Except.error _ : Except String (Temporary × Nat)) = .ok (t, k) := h
    cases h2
  | some q =>
    rw [hp] at h
    dsimp only at h
    refine ⟨q, rfl, ?_⟩
    cases ht : temporaryFromPosition (2 * q + n.toNat) with
    | error e =>
      rw [ht] at h
      have h2 : (Except.error _ : Except String (Temporary × Nat)) = .ok (t, k) := h
      cases h2
    | ok t' =>
      rw [ht] at h
      have h' : (Except.ok (t', c) : Except String (Temporary × Nat)) = .ok (t, k) := h
      injection h' with h'
      injection h' with h1 h2
      rw [h1]

theorem vt_run_ok {n : TempNum} {Γ : Ctx} {id : Nat} {c k : Nat} {t : Temporary}
    (h : (variableTemporary n Γ id).run c = .ok (t, k)) :
    ∃ p b, p < Γ.length ∧ Γ[p]? = some b ∧ b.var.id = id ∧
      temporaryFromPosition (2 * p + n.toNat) = .ok t := by
  obtain ⟨q, hp, ht⟩ := vt_run_ok' h
  obtain ⟨p, b, hq, hlt, hb, hid⟩ := ctxPosition_some hp
  have hq' : q = p := by omega
  subst hq'
  exact ⟨q, b, hlt, hb, hid, ht⟩

theorem isVT_iff {n : TempNum} {Γ : Ctx} {id : Nat} {t : Temporary} (h : IsVT x86Backend n Γ id t) :
    ∃ p b, p < Γ.length ∧ Γ[p]? = some b ∧ b.var.id = id ∧
      temporaryFromPosition (2 * p + n.toNat) = .ok t := by
  obtain ⟨c, k, h⟩ := h
  exact vt_run_ok h

theorem tot_variableTemporary {cap : String → Prop} {N : Nat} (g : Good cap N) (n : TempNum) (Γ : Ctx)
    (id : Nat) (hmem : ∃ b ∈ Γ, b.var.id = id) (hN : Γ.length ≤ N) :
    Tot cap (variableTemporary n Γ id) := by
  unfold variableTemporary
  obtain ⟨q, hq⟩ := ctxPosition_of_mem 0 hmem
  rw [hq]
  obtain ⟨p, b, hqp, hlt, _, _⟩ := ctxPosition_some hq
  refine tot_liftE (g _ ?_)
  cases n <;> simp only [TempNum.toNat] <;> omega

theorem x86_vt_inj {Γ : Ctx} {n n' : TempNum} {id id' : Nat} {t : Temporary}
    (h : IsVT x86Backend n Γ id t) (h' : IsVT x86Backend n' Γ id' t) : n = n' ∧ id = id' := by
  obtain ⟨p, b, _, hb, hid, ht⟩ := isVT_iff h
  obtain ⟨p', b', _, hb', hid', ht'⟩ := isVT_iff h'
  have e := tfp_inj ht ht'
  have hp : p = p' := by cases n <;> cases n' <;> simp only [TempNum.toNat] at e <;> omega
  subst hp
  rw [hb] at hb'
  injection hb' with hb'
  subst hb'
  refine ⟨?_, hid.symm.trans hid'⟩
  cases n <;> cases n' <;> simp only [TempNum.toNat] at e <;> first | rfl | omega

theorem x86_vt_det {Γ : Ctx} {n : TempNum} {id : Nat} {t t' : Temporary}
    (h : IsVT x86Backend n Γ id t) (h' : IsVT x86Backend n Γ id t') : t = t' := by
  obtain ⟨c, k, h⟩ := h
  obtain ⟨c', k', h'⟩ := h'
  obtain ⟨q, hq, ht⟩ := vt_run_ok' h
  obtain ⟨q', hq', ht'⟩ := vt_run_ok' h'
  rw [hq] at hq'
  injection hq' with hq'
  subst hq'
  rw [ht] at ht'
  injection ht'

theorem x86_tempEq_iff (a b : Temporary) : x86Backend.tempEq a b = true ↔ a = b := by
  show (a == b) = true ↔ a = b
  cases a <;> cases b <;> simp [BEq.beq, instBEqTemporary.beq]

/-! ## the backend is total or out of temporaries -/

/-- the methods of `x86Backend` under an abstract capacity `Good cap` -/
theorem x86_total_of {cap : String → Prop} {fits : Nat → Prop}
    (fits_mono : ∀ {m n : Nat}, m ≤ n → fits n → fits m) (good : ∀ n, fits n → Good cap n) :
    TotalBackend x86Backend cap fits where
  fits_mono := fits_mono
  tempEq_iff := x86_tempEq_iff
  vt_total := fun n Γ id hmem hf => tot_variableTemporary (good _ hf) n Γ id hmem (Nat.le_refl _)
  vt_inj := x86_vt_inj
  vt_det := x86_vt_det
  printI64 := fun nl t Γ _ => Tot.pure _
  eraseBlock := fun t => tot_eraseBlock t
  shareBlockN := fun t n => tot_shareBlockN t n
  store := fun a b hf => tot_store (good _ hf) a b (by omega)
  load := fun a b hf => tot_load (good _ hf) a b (Nat.le_refl _)

/-- no panic message other than "Out of temporaries" is reachable from the methods of the
    x86-64 backend, for any arguments and any value of the label counter. -/
theorem x86_total : TotalBackend x86Backend capX86 (fun _ => True) :=
  x86_total_of (fun _ _ => trivial) (fun n _ => good_capX86 n)

/-! ## into_routine.rs -/

theorem moveArguments_resOk (n : Nat) :
    ResOk (fun e => e = "too many arguments for main") (moveArguments n) := by
  match n with
  | 0 => exact trivial
  | 1 => unfold moveArguments; split <;> first | exact trivial | exact rfl
  | n + 2 =>
    unfold moveArguments
    split
    · exact rfl
    · split <;> first | exact trivial | exact rfl

theorem intoRoutine_resOk (body : List Code) (nargs : Nat) :
    ResOk (fun e => e = "too many arguments for main") (intoRoutine body nargs) := by
  have h := moveArguments_resOk nargs
  unfold intoRoutine setup
  cases hm : moveArguments nargs with
  | error e => rw [hm] at h; exact h
  | ok r => exact trivial

theorem moveArguments_ok : ∀ {n : Nat}, n ≤ 5 → ∃ r, moveArguments n = .ok r
  | 0, _ => ⟨_, rfl⟩
  | 1, _ => ⟨_, rfl⟩
  | 2, _ => ⟨_, rfl⟩
  | 3, _ => ⟨_, rfl⟩
  | 4, _ => ⟨_, rfl⟩
  | 5, _ => ⟨_, rfl⟩
  | n + 6, h => by omega

theorem intoRoutine_ok (body : List Code) {nargs : Nat} (h : nargs ≤ 5) :
    ∃ r, intoRoutine body nargs = .ok r := by
  obtain ⟨r, hr⟩ := moveArguments_ok h
  unfold intoRoutine setup
  rw [hr]
  exact ⟨_, rfl⟩

example : ∃ r, intoRoutine [.RET] 5 = .ok r := intoRoutine_ok _ (by decide)

/-- bridge to the line function `compileX86` -/
theorem compileX86_resOk_of (hooks : Bool) (c : Nat) (p : Prog) :
    ResOk capX86 ((Scc.Backend.compile x86Backend hooks p).run c) → ResOk capX86 (compileX86 p hooks c) := by
  intro h
  unfold compileX86
  cases hr : (Scc.Backend.compile x86Backend hooks p).run c with
  | error e => rw [hr] at h; exact h
  | ok r => exact trivial

/-! ## no error at all when the number of variables fits -/

def fitsX86 (n : Nat) : Prop := ∀ q, q < 2 * n → ∃ t, temporaryFromPosition q = .ok t

/-- 267 = REGISTER_NUM - RESERVED + SPILL_NUM - RESERVED_SPILLS positions have a temporary -/
theorem capacity_eq : REGISTER_NUM - RESERVED + (SPILL_NUM - RESERVED_SPILLS) = 267 := rfl

theorem fitsX86_of_le {n : Nat} (h : 2 * n ≤ 267) : fitsX86 n :=
  fun q hq => ⟨_, tfp_lt (by omega)⟩

theorem fitsX86_iff (n : Nat) : fitsX86 n ↔ 2 * n ≤ 267 := by
  constructor
  · intro h
    by_cases hn : 2 * n ≤ 267
    · exact hn
    · obtain ⟨t, ht⟩ := h 267 (by omega)
      rw [tfp_ge (Nat.le_refl _)] at ht; cases ht
  · exact fitsX86_of_le

/-- the bound is tight: 133 variables fit, 134 do not -/
theorem fitsX86_133 : fitsX86 133 := fitsX86_of_le (by decide)

theorem not_fitsX86_134 : ¬ fitsX86 134 := fun h => by
  have := (fitsX86_iff 134).1 h
  omega

example : fitsX86 5 := fitsX86_of_le (by decide)

theorem fitsX86_mono {m n : Nat} (h : m ≤ n) (f : fitsX86 n) : fitsX86 m := fun q hq => f q (by omega)

theorem good_of_fitsX86 {n : Nat} (f : fitsX86 n) : Good (fun _ => False) n := fun q hq => by
  obtain ⟨t, ht⟩ := f q hq
  rw [ht]; trivial

/-- when the number of variables fits, NO panic of the model is reachable from the methods -/
theorem x86_total_fits : TotalBackend x86Backend (fun _ => False) fitsX86 :=
  x86_total_of fitsX86_mono (fun _ f => good_of_fitsX86 f)

end Scc.X86.Total

#print axioms Scc.X86.Total.x86_total
#print axioms Scc.X86.Total.x86_total_fits
#print axioms Scc.X86.Total.intoRoutine_resOk
#print axioms Scc.X86.Total.intoRoutine_ok
#print axioms Scc.X86.Total.compileX86_resOk_of
#print axioms Scc.X86.Total.fitsX86_of_le
#print axioms Scc.X86.Total.not_fitsX86_134
