/-
  Scc.X86.RefHeapAddr — byte addresses of the items of a loaded routine (Machine.lean `layoutFrom`,
  `mkAddrIdx`): needed for the COMPUTED jumps of `switch` (`lea TEMP, [table]; add TEMP, tag; jmp TEMP`
  lands on the `tag/5`-th `jmp` of the table, each of which is 5 bytes long).
  * `addrAt base cs i`: the address of item `i`.
  * `LoadedA c p cs`: `Loaded p cs` (RefBridge.lean) together with the address table and the
    address ↦ index map of the program; `loadedA_mkProg`: what `mkProg` builds is loaded in this sense.
  * `step_jumpAddr`: the machine's transition for a jump through a register.
-/
import Scc.X86.RefHeapBridge
import Scc.X86.RefInit

namespace Scc.X86.Ref

/-- byte address of item `i` of `cs` when the first item is placed at `base` -/
def addrAt (base : Nat) (cs : List Code) (i : Nat) : Nat := base + ((cs.take i).map codeSize).sum

theorem addrAt_zero (base : Nat) (cs : List Code) : addrAt base cs 0 = base := by simp [addrAt]

theorem addrAt_succ (base : Nat) (cs : List Code) (i : Nat) (h : i < cs.length) :
    addrAt base cs (i + 1) = addrAt base cs i + codeSize cs[i] := by
  unfold addrAt
  rw [List.take_succ_eq_append_getElem h, List.map_append, List.sum_append]
  simp [Nat.add_assoc]

theorem addrAt_cons (base : Nat) (c : Code) (cs : List Code) (i : Nat) :
    addrAt base (c :: cs) (i + 1) = addrAt (base + codeSize c) cs i := by
  simp [addrAt, Nat.add_assoc]

theorem addrAt_append_right (base : Nat) (a b : List Code) (j : Nat) :
    addrAt base (a ++ b) (a.length + j) = addrAt (addrAt base a a.length) b j := by
  unfold addrAt
  rw [List.take_append, List.take_length]
  simp [List.take_of_length_le, Nat.add_assoc]

theorem addrAt_mono (base : Nat) (cs : List Code) {i j : Nat} (h : i ≤ j) : addrAt base cs i ≤ addrAt base cs j := by
  induction j with
  | zero => have : i = 0 := by omega
            subst this; exact Nat.le_refl _
  | succ j ih =>
    by_cases e : i = j + 1
    · subst e; exact Nat.le_refl _
    · have h1 := ih (by omega)
      by_cases hj : j < cs.length
      · rw [addrAt_succ _ _ _ hj]; omega
      · have : addrAt base cs (j + 1) = addrAt base cs j := by
          unfold addrAt
          rw [List.take_of_length_le (by omega), List.take_of_length_le (by omega)]
        omega

theorem layoutFrom_get : ∀ (cs : List Code) (a i : Nat), i < cs.length →
    (layoutFrom a cs)[i]? = some (addrAt a cs i)
  | [], _, _, h => by simp at h
  | c :: cs, a, 0, _ => by simp [layoutFrom, addrAt]
  | c :: cs, a, i + 1, h => by
    simp only [layoutFrom, List.getElem?_cons_succ]
    rw [layoutFrom_get cs (a + codeSize c) i (by simpa using h), addrAt_cons]

theorem layoutFrom_length : ∀ (cs : List Code) (a : Nat), (layoutFrom a cs).length = cs.length
  | [], _ => rfl
  | c :: cs, a => by simp [layoutFrom, layoutFrom_length cs]

def addrF (m : Std.HashMap Nat Nat) (cai : (Code × Nat) × Nat) : Std.HashMap Nat Nat :=
  if codeSize cai.1.1 = 0 then m else m.insert cai.1.2 cai.2

theorem mkAddrIdx_eq (cs : List Code) (addrs : List Nat) :
    mkAddrIdx cs addrs = ((cs.zip addrs).zipIdx.foldl addrF ∅) := rfl

/-- folding over items laid out from address `A` on: a lookup at an address below `A` is not affected;
the sized item at index `i` is found at its address -/
theorem addrF_fold : ∀ (cs : List Code) (A k : Nat) (m : Std.HashMap Nat Nat),
    (∀ a, a < A → (((cs.zip (layoutFrom A cs)).zipIdx k).foldl addrF m)[a]? = m[a]?) ∧
    (∀ i (h : i < cs.length), codeSize cs[i] ≠ 0 →
      (((cs.zip (layoutFrom A cs)).zipIdx k).foldl addrF m)[addrAt A cs i]? = some (k + i))
  | [], A, k, m => ⟨fun _ _ => rfl, fun i h => by simp at h⟩
  | c :: cs, A, k, m => by
    simp only [layoutFrom, List.zip_cons_cons, List.zipIdx_cons, List.foldl_cons]
    obtain ⟨ih1, ih2⟩ := addrF_fold cs (A + codeSize c) (k + 1) (addrF m ((c, A), k))
    constructor
    · intro a ha
      rw [ih1 a (by omega)]
      unfold addrF
      simp only
      split
      · rfl
      · rw [Std.HashMap.getElem?_insert]
        have : (A == a) = false := by simp; omega
        simp [this]
    · intro i hi hsz
      cases i with
      | zero =>
        simp only [List.getElem_cons_zero] at hsz
        rw [addrAt_zero, ih1 A (by omega)]
        unfold addrF
        simp only [hsz, if_false]
        rw [Std.HashMap.getElem?_insert_self]
        simp
      | succ i =>
        simp only [List.getElem_cons_succ] at hsz
        rw [addrAt_cons, ih2 i (by simpa using hi) hsz]
        congr 1
        omega

theorem mkAddrIdx_get (cs : List Code) (base i : Nat) (h : i < cs.length) (hsz : codeSize cs[i] ≠ 0) :
    (mkAddrIdx cs (layoutFrom base cs))[addrAt base cs i]? = some i := by
  rw [mkAddrIdx_eq, show (cs.zip (layoutFrom base cs)).zipIdx = (cs.zip (layoutFrom base cs)).zipIdx 0 from rfl]
  have := (addrF_fold cs base 0 ∅).2 i h hsz
  simpa using this

theorem map_codeSize_strip {a b : List Code} (h : a.map stripC = b.map stripC) :
    a.map codeSize = b.map codeSize := by
  have : ∀ l : List Code, l.map codeSize = (l.map stripC).map codeSize := by
    intro l
    rw [List.map_map]
    apply List.map_congr_left
    intro c _
    exact (codeSize_strip c).symm
  rw [this a, this b, h]

theorem addrAt_strip {a b : List Code} (h : a.map stripC = b.map stripC) (base i : Nat) :
    addrAt base a i = addrAt base b i := by
  unfold addrAt
  have : (a.take i).map stripC = (b.take i).map stripC := by
    rw [List.map_take, List.map_take, h]
  rw [map_codeSize_strip this]

/-- the program `p` holds the item list `cs` (up to the text of comments) laid out from `c.codeBase` -/
structure LoadedA (c : MachCfg) (p : Prog) (cs : List Code) : Prop where
  loaded : Loaded p cs
  addr : ∀ i, i < cs.length → p.addr[i]? = some (addrAt c.codeBase cs i)
  addrIdx : ∀ i (h : i < cs.length), codeSize cs[i] ≠ 0 → p.addrIdx[addrAt c.codeBase cs i]? = some i

theorem loadedA_mkProg (c : MachCfg) (items : List (Code × Nat)) (cs : List Code)
    (h : (items.map (·.1)).map stripC = cs.map stripC) : LoadedA c (mkProg c items) cs := by
  have hlen : (items.map (·.1)).length = cs.length := by
    have := congrArg List.length h
    simpa using this
  refine ⟨loaded_mkProg c items cs h, ?_, ?_⟩
  · intro i hi
    show (layoutFrom c.codeBase (items.map (·.1))).toArray[i]? = _
    rw [List.getElem?_toArray, layoutFrom_get _ _ _ (by rw [hlen]; exact hi), addrAt_strip h]
  · intro i hi hsz
    show (mkAddrIdx (items.map (·.1)) (layoutFrom c.codeBase (items.map (·.1))))[_]? = _
    rw [← addrAt_strip h]
    apply mkAddrIdx_get _ _ _ (by rw [hlen]; exact hi)
    have e : stripC (items.map (·.1))[i] = stripC cs[i] := by
      have := congrArg (fun l => l[i]?) h
      simp only [List.getElem?_map, List.getElem?_eq_getElem hi,
        List.getElem?_eq_getElem (show i < (items.map (·.1)).length by rw [hlen]; exact hi),
        Option.map_some, Option.some.injEq] at this
      exact this
    rw [← codeSize_strip, e, codeSize_strip]
    exact hsz

theorem LoadedA.labelAddr {c : MachCfg} {p : Prog} {cs : List Code} (L : LoadedA c p cs)
    (hnd : (labs cs).Nodup) {i : Nat} {l : String} (h : cs[i]? = some (.LAB l)) :
    p.labelAddr l = some (addrAt c.codeBase cs i) := by
  have hi : i < cs.length := by
    rcases Nat.lt_or_ge i cs.length with h' | h'
    · exact h'
    · rw [List.getElem?_eq_none h'] at h; cases h
  unfold Prog.labelAddr
  rw [L.loaded.labels, labIdx_of_nodup hnd h]
  exact L.addr i hi

theorem step_jumpAddr {m : MonCfg} {p : Prog} {s s1 : State} {code : Code} {a i : Nat}
    (hf : p.code[s.pc]? = some code)
    (hx : execCode m.mach p.labelAddr code s = .ok (s1, .jumpAddr a)) (hl : p.addrIdx[a]? = some i) :
    step m p s = .inl (setPS s1 i (s.steps + (if codeSize code = 0 then 0 else 1))) := by
  obtain ⟨_, hst⟩ := execCode_pc_steps hx
  unfold step
  simp only [hf, hx, hl]
  by_cases h0 : codeSize code = 0
  · simp only [h0, if_true, Nat.add_zero, setPS, ← hst]
  · simp only [h0, if_false, setPS, hst]

/-- the address of the `j`-th entry of a table of 5-byte jumps behind a label -/
theorem addrAt_table (base : Nat) (cs1 table rest : List Code) (l : String)
    (hsz : table.map codeSize = List.replicate table.length 5) :
    ∀ j, j ≤ table.length →
      addrAt base (cs1 ++ (Code.LAB l :: table) ++ rest) (cs1.length + 1 + j) =
        addrAt base (cs1 ++ (Code.LAB l :: table) ++ rest) cs1.length + 5 * j := by
  intro j
  induction j with
  | zero =>
    intro _
    have hlt : cs1.length < (cs1 ++ (Code.LAB l :: table) ++ rest).length := by simp
    rw [Nat.add_zero, addrAt_succ _ _ _ hlt]
    have : (cs1 ++ (Code.LAB l :: table) ++ rest)[cs1.length] = Code.LAB l := by simp
    rw [this]
    try simp [codeSize]
  | succ j ih =>
    intro hj
    have hlt : cs1.length + 1 + j < (cs1 ++ (Code.LAB l :: table) ++ rest).length := by simp; omega
    rw [show cs1.length + 1 + (j + 1) = cs1.length + 1 + j + 1 by omega, addrAt_succ _ _ _ hlt, ih (by omega)]
    have h1 : (cs1 ++ (Code.LAB l :: table) ++ rest)[cs1.length + 1 + j]? = some (table[j]'(by omega)) := by
      rw [List.append_assoc, List.getElem?_append_right (by omega)]
      rw [show cs1.length + 1 + j - cs1.length = j + 1 by omega]
      simp only [List.cons_append, List.getElem?_cons_succ]
      rw [List.getElem?_append_left (by omega), List.getElem?_eq_getElem]
    have hget : (cs1 ++ (Code.LAB l :: table) ++ rest)[cs1.length + 1 + j] = table[j]'(by omega) := by
      have := List.getElem?_eq_getElem hlt
      rw [h1] at this
      exact (Option.some.inj this).symm
    have hs5 : codeSize (table[j]'(by omega)) = 5 := by
      have := congrArg (fun x => x[j]?) hsz
      simp only [List.getElem?_map, List.getElem?_eq_getElem (show j < table.length by omega),
        Option.map_some] at this
      rw [List.getElem?_replicate] at this
      simp only [show j < table.length by omega, if_true, Option.some.injEq] at this
      exact this
    rw [hget, hs5]
    omega

theorem step_jumpA (m : MonCfg) {p : Prog} {cs cs1 rest : List Code} {code : Code} (L : Loaded p cs)
    (hcs : cs = cs1 ++ code :: rest) {s s1 : State} (hpc : s.pc = cs1.length) {a i : Nat}
    (hx : execCode m.mach p.labelAddr code s = .ok (s1, .jumpAddr a)) (hl : p.addrIdx[a]? = some i) :
    ∃ k, step m p s = .inl (setPS s1 i k) := by
  obtain ⟨code', hf, hs⟩ := L.fetch hcs
  have hx' : execCode m.mach p.labelAddr code' s = .ok (s1, .jumpAddr a) := by
    rw [← execCode_strip, hs, execCode_strip]; exact hx
  exact ⟨_, step_jumpAddr (by rw [hpc]; exact hf) hx' hl⟩

theorem execStraight_noops (c : MachCfg) (la : String → Option Nat) : ∀ (l : List Code) (s : State),
    (∀ x ∈ l, (∃ m, x = Code.COMMENT m) ∨ ∃ n, x = Code.LAB n) → execStraight c la l s = .ok s
  | [], _, _ => rfl
  | x :: l, s, h => by
    have ih := execStraight_noops c la l s (fun y hy => h y (by simp [hy]))
    rcases h x (by simp) with ⟨m, rfl⟩ | ⟨n, rfl⟩
    · simp only [execStraight, execCode]; exact ih
    · simp only [execStraight, execCode]; exact ih

end Scc.X86.Ref
