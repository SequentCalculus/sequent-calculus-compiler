/-
  Scc.X86.RefSideLabels — a side hypothesis of the x86-64 run theorems (C06): THE LABELS OF THE
  EMITTED ROUTINE ARE PAIRWISE DISTINCT for every `LabelSafe` program (`labels_unique_x86`) — the x86-64
  analogue of `C14Generic.labels_unique` (which is about the mock code).  The walk over the generic generator
  is that of Scc/Backend/ProofsLabelsGen.lean; this file says which x86-64 methods define no label and which
  (the memory methods, RefSideLabMem.lean) local labels `lab<n>` drawn from the counter (`labOps_x86`), and
  adds the two labels of the routine wrapper, `asm_main` and `cleanup`.
-/
import Scc.X86.RefSideLabMem
import Scc.X86.RefCompose

namespace Scc.X86.Ref

open Scc.AxCut Scc.Backend

abbrev R : Lbl → String := Lbl.render natRen

theorem labName_eq (n : Nat) : labName n = R (.lab n) := rfl

/-- the labels defined by `items` are the renderings of pairwise distinct structured labels, each either
one of the special labels `S` or a generated label with a number in `(a, b]`; the xtor names of clause
labels are in `X` -/
def G (S : List Lbl) (X : List String) (a b : Nat) (items : List Code) : Prop :=
  a ≤ b ∧ ∃ ls : List Lbl, labs items = ls.map R ∧ ls.Nodup ∧ (∀ l ∈ ls, l ∈ S ∨ InRange a b l) ∧
    ∀ l ∈ ls, ∀ x, l.xtor? = some x → x ∈ X

/-- the special labels are not generated labels with a number above `a` -/
def Below (a : Nat) (S : List Lbl) : Prop := ∀ l ∈ S, ∀ n, l.num = some n → n ≤ a

theorem G_iff {S : List Lbl} {X : List String} {a b : Nat} {items : List Code} :
    G S X a b items ↔ Lab.G S X a b (labs items) := Iff.rfl

theorem G.monoS {S S' : List Lbl} {X : List String} {a b : Nat} {items : List Code} (h : G S X a b items)
    (hS : ∀ l ∈ S, l ∈ S') : G S' X a b items := Lab.G.monoS h hS

theorem G.widen {S : List Lbl} {X : List String} {a b a' b' : Nat} {items : List Code} (h : G S X a b items)
    (h1 : a' ≤ a) (h2 : b ≤ b') : G S X a' b' items := Lab.G.widen h h1 h2

/-- two pieces of code generated one after the other -/
theorem G.append {S1 S2 : List Lbl} {X : List String} {a b c : Nat} {c1 c2 : List Code}
    (h1 : G S1 X a b c1) (h2 : G S2 X b c c2) (hd : ∀ l ∈ S1, ∀ l' ∈ S2, l ≠ l')
    (hb1 : Below a S1) (hb2 : Below a S2) : G (S1 ++ S2) X a c (c1 ++ c2) :=
  Lab.G.append_or (G_iff.1 h1) (G_iff.1 h2) hd hb1 hb2 (Or.inl (labs_append c1 c2))

/-- the same when the second piece stands BEFORE the first in the code -/
theorem G.append' {S1 S2 : List Lbl} {X : List String} {a b c : Nat} {c1 c2 : List Code}
    (h1 : G S1 X a b c1) (h2 : G S2 X b c c2) (hd : ∀ l ∈ S1, ∀ l' ∈ S2, l ≠ l')
    (hb1 : Below a S1) (hb2 : Below a S2) : G (S1 ++ S2) X a c (c2 ++ c1) :=
  Lab.G.append_or (G_iff.1 h1) (G_iff.1 h2) hd hb1 hb2 (Or.inr (labs_append c2 c1))

theorem nl_loadLabel (t : Temporary) (l : String) : NL (loadLabel t l) := by
  cases t <;> simp [loadLabel, NL, codeLabelDef]

theorem nl_jump (t : Temporary) : NL (jump t) := by
  cases t <;> simp [jump, NL, codeLabelDef]

theorem nl_addAndJump (t : Temporary) (i : Int) : NL (addAndJump t i) := by
  cases t <;> simp [addAndJump, NL, codeLabelDef]

theorem nl_jumpLabelIf (s : IfSort) (a b : Temporary) (l : String) : NL (jumpLabelIf s a b l) :=
  NL.append (noLab_compare a b) (noLab_single (noLab_condJump s l))

theorem nl_jumpLabelIfZero (s : IfSort) (a : Temporary) (l : String) : NL (jumpLabelIfZero s a l) :=
  NL.append (noLab_compareImmediate a 0) (noLab_single (noLab_condJump s l))

theorem x86_vt_k {n : TempNum} {Γ : Ctx} {id k : Nat} {t : Temporary} {k' : Nat}
    (h : (x86Backend.variableTemporary n Γ id).run k = .ok (t, k')) : k' = k := by
  obtain ⟨_, _, _, _, e⟩ := (x86_vt_run_ok n Γ id k t k').1 h
  exact e.symm

theorem vt_k' {n : TempNum} {Γ : Ctx} {id k : Nat} {t : Temporary} {k' : Nat}
    (h : (variableTemporary n Γ id).run k = .ok (t, k')) : k' = k := x86_vt_k h

/-- which methods of the x86-64 backend define no label, which local labels drawn from the counter -/
theorem labOps_x86 : Lab.LabOps x86Backend codeLabelDef where
  comment := fun _ => rfl
  label := fun _ => rfl
  jump := fun t => (nl_jump t).labs
  jumpLabel := fun _ => rfl
  jumpLabelFixed := fun _ => rfl
  jumpLabelIf := fun s a b l => (nl_jumpLabelIf s a b l).labs
  jumpLabelIfZero := fun s a l => (nl_jumpLabelIfZero s a l).labs
  loadImmediate := fun t n => (nl_loadImmediate t n).labs
  loadLabel := fun t l => (nl_loadLabel t l).labs
  addAndJump := fun t n => (nl_addAndJump t n).labs
  binop := fun o t a b => labs_nil_of (noLab_binop o t a b)
  mov := fun t s => labs_nil_of (noLab_mov t s)
  storeTemporary := fun t sp => labs_nil_of (noLab_storeTemporary t sp)
  restoreTemporary := fun t sp => labs_nil_of (noLab_restoreTemporary t sp)
  variableTemporary := fun _ _ _ _ _ _ h => x86_vt_k h
  printI64 := fun nl t Γ k code k' h => by
    obtain ⟨rfl, rfl⟩ := (run_pure_ok _ _ _ _).1 h
    exact LFC.of_nl (noLab_printI64 nl t Γ) _
  eraseBlock := fun _ _ _ _ h => lfc_eraseBlock h
  shareBlockN := fun _ _ _ _ _ h => lfc_shareBlockN h
  store := fun _ _ _ _ _ h => lfc_store h
  load := fun _ _ _ _ _ h => lfc_load h

def clauseLbls (m : String) (n : Nat) (cs : Clauses) : List Lbl := (xtorNames cs).map (Lbl.clause m n)

section
variable (hooks : Bool) (types : List TypeDecl)

theorem g_methods (m : String) (n : Nat) : ∀ (cs : Clauses) (env : Ctx) (k : Nat) (items : List Code) (k' : Nat),
    (codeMethodsR x86Backend hooks natRen types env cs (m ++ "_" ++ natRen n)).run k = .ok (items, k') →
    (xtorNames cs).Nodup → clausesXtorsDistinct cs = true → n ≤ k →
    G (clauseLbls m n cs) (xtorNames cs ++ clausesXtorNames cs) k k' items :=
  Lab.g_methods labOps_x86 hooks types m n

end

open Scc.Props.C14Generic (LabelSafe progXtorNames)

/-- the body: the labels of the definitions and generated labels -/
theorem g_body {hooks : Bool} {p : AxCut.Prog} {k : Nat} {body : List Code} {nargs : Nat}
    (h : compileX86 p hooks k = .ok (body, nargs)) (hsafe : LabelSafe p = true) :
    ∃ k', G (Lab.defnLbls p.defs) (progXtorNames p) k k' body := by
  unfold compileX86 at h
  cases hr : (compile x86Backend hooks p).run k with
  | error e => rw [hr] at h; cases h
  | ok r =>
    obtain ⟨⟨body', nargs'⟩, k'⟩ := r
    rw [hr] at h
    simp only [Except.ok.injEq, Prod.mk.injEq] at h
    obtain ⟨rfl, rfl⟩ := h
    exact ⟨k', Lab.g_compile labOps_x86 hr hsafe⟩

theorem labs_cleanup : labs cleanup = ["cleanup"] := by decide

/-- SIDE HYPOTHESIS: THE LABELS OF THE EMITTED ROUTINE ARE PAIRWISE DISTINCT, for every `LabelSafe`
program, both hook settings, every start value of the label counter -/
theorem labels_unique_x86 {hooks : Bool} {p : AxCut.Prog} {k : Nat} {body routine : List Code} {nargs : Nat}
    (hsafe : LabelSafe p = true) (h : compileX86 p hooks k = .ok (body, nargs))
    (hr : intoRoutine body nargs = .ok routine) : (labs routine).Nodup := by
  obtain ⟨k', g⟩ := g_body h hsafe
  obtain ⟨moves, hm, hshape⟩ := intoRoutine_shape hr
  have hrt : routine = header moves ++ (body ++ cleanup) := by
    rw [hshape]; simp [header]
  rw [hrt, labs_append, labs_append, labs_header (moveArguments_le _ _ hm) hm, labs_cleanup]
  exact (Lab.body_labels hsafe g).2

end Scc.X86.Ref
