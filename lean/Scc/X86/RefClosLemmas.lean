/-
  Scc.X86.RefClosLemmas — CLOSURES in the three-way relation (C06 on x86-64): the walk `XV` (RefClosDefs.lean) is the
  walk of Scc/Backend/ClosWalk.lean for `MethodsX` (what is asked of the x86-64 code behind a code pointer): `XV.toG`,
  `XV.ofG`.  So it survives the changes of the heap that the abstract machine makes (`XB.sub`, `XB.kept`) and looks at
  `κ` only on the objects it reaches (`XB.congrK`).
  * `OldFields`: an object with an OLD id that is still in the heap has the fields it had (whatever the abstract
    machine does: `oldFields_steps`, Scc/Backend/StepProv.lean, where the same predicate is `Prov.OldFields`).
-/
import Scc.X86.RefClosDefs
import Scc.Backend.ProofsRep2
import Scc.Backend.ProofsLoad
import Scc.X86.RefSim
import Scc.Backend.ClosWalk

namespace Scc.X86.Ref.K

open Scc.AxCut Scc.AxCut.Pos Scc.Backend.Abs Scc.Backend.Sim2
open Scc.Backend (Prov.XV Prov.XB Prov.XF)

/-- an object of `h'` with an id below `n` is an object of `h` with the same fields: `Prov.OldFields`
(Scc/Backend/StepProv.lean) under the name `Scc.X86.Ref.K.OldFields`, to which the property statements refer -/
def OldFields (n : Nat) (h h' : Heap) : Prop :=
  ∀ id o', id < n → h'.get id = some o' → ∃ o, h.get id = some o ∧ o.fields = o'.fields

/-- what the x86-64 backend says of its code behind a code pointer `w`: the methods stand there (`XMethodsAt`) and
their literals are within i64 -/
def MethodsX (c : MachCfg) (cs : List Code) (hooks : Bool) (types : List TypeDecl) (w : Word) (envCtx : Ctx)
    (clauses : Clauses) : Prop :=
  XMethodsAt c cs hooks types w envCtx clauses ∧ ClausesB (fun n => fitsI64 n = true) maxSubstX86 clauses

section Walk
variable {P : Program} {c : MachCfg} {cs : List Code} {hooks : Bool} {types : List TypeDecl}

mutual
theorem XV.toG {h : Heap} {κ : Nat → Nat → Word} : ∀ {v : Value} {p : Option Word} {a w : Word},
    XV P c cs hooks types h κ v p a w → Prov.XV P hooks types (MethodsX c cs hooks types) h κ v p a w
  | _, _, _, _, .int n p a w => .int n p a w
  | _, _, _, _, .obj tag fields r a w hb => .obj tag fields r a w (XB.toG hb)
  | _, _, _, _, .clo envCtx envCtx' env clauses r a w hk hb hm hx hcb =>
    .clo envCtx envCtx' env clauses r a w hk (XB.toG hb) hm ⟨hx, hcb⟩
theorem XB.toG {h : Heap} {κ : Nat → Nat → Word} : ∀ {vs : List Value} {r : Word},
    XB P c cs hooks types h κ vs r → Prov.XB P hooks types (MethodsX c cs hooks types) h κ vs r
  | _, _, .empty => .empty
  | _, _, .block v vs r o hr0 hg hf => .block v vs r o hr0 hg (XF.toG hf)
theorem XF.toG {h : Heap} {κ : Nat → Nat → Word} : ∀ {vs : List Value} {fs : List Field} {id j : Nat},
    XF P c cs hooks types h κ vs fs id j → Prov.XF P hooks types (MethodsX c cs hooks types) h κ vs fs id j
  | _, _, _, _, .nil id j => .nil id j
  | _, _, _, _, .cons v vs f fs id j hv hr => .cons v vs f fs id j (XV.toG hv) (XF.toG hr)
end

mutual
theorem XV.ofG {h : Heap} {κ : Nat → Nat → Word} : ∀ {v : Value} {p : Option Word} {a w : Word},
    Prov.XV P hooks types (MethodsX c cs hooks types) h κ v p a w → XV P c cs hooks types h κ v p a w
  | _, _, _, _, .int n p a w => .int n p a w
  | _, _, _, _, .obj tag fields r a w hb => .obj tag fields r a w (XB.ofG hb)
  | _, _, _, _, .clo envCtx envCtx' env clauses r a w hk hb hm hx =>
    .clo envCtx envCtx' env clauses r a w hk (XB.ofG hb) hm hx.1 hx.2
theorem XB.ofG {h : Heap} {κ : Nat → Nat → Word} : ∀ {vs : List Value} {r : Word},
    Prov.XB P hooks types (MethodsX c cs hooks types) h κ vs r → XB P c cs hooks types h κ vs r
  | _, _, .empty => .empty
  | _, _, .block v vs r o hr0 hg hf => .block v vs r o hr0 hg (XF.ofG hf)
theorem XF.ofG {h : Heap} {κ : Nat → Nat → Word} : ∀ {vs : List Value} {fs : List Field} {id j : Nat},
    Prov.XF P hooks types (MethodsX c cs hooks types) h κ vs fs id j → XF P c cs hooks types h κ vs fs id j
  | _, _, _, _, .nil id j => .nil id j
  | _, _, _, _, .cons v vs f fs id j hv hr => .cons v vs f fs id j (XV.ofG hv) (XF.ofG hr)
end

/-- the walk survives a change of the heap that keeps the fields of the old objects, for every value that is
still represented in the new heap -/
theorem XB.sub {n : Nat} {h h' : Heap} {κ : Nat → Nat → Word} (hold : OldFields n h h')
    (hids : ∀ id o, h.get id = some o → id < n) : ∀ {vs : List Value} {r : Word},
    XB P c cs hooks types h κ vs r → RepB P hooks types h' vs r → XB P c cs hooks types h' κ vs r :=
  fun hv hr => XB.ofG (Prov.XB.sub hold hids (XB.toG hv) hr)
theorem XF.sub {n : Nat} {h h' : Heap} {κ : Nat → Nat → Word} (hold : OldFields n h h')
    (hids : ∀ id o, h.get id = some o → id < n) : ∀ {vs : List Value} {fs : List Field} {id j : Nat},
    XF P c cs hooks types h κ vs fs id j → RepF P hooks types h' vs fs → XF P c cs hooks types h' κ vs fs id j :=
  fun hv hr => XF.ofG (Prov.XF.sub hold hids (XF.toG hv) hr)

theorem XB.kept {h h' : Heap} {κ : Nat → Nat → Word} (hk : AllFieldsKept h h') :
    ∀ {vs : List Value} {r : Word}, XB P c cs hooks types h κ vs r → XB P c cs hooks types h' κ vs r :=
  fun hv => XB.ofG (Prov.XB.kept hk (XB.toG hv))
theorem XF.kept {h h' : Heap} {κ : Nat → Nat → Word} (hk : AllFieldsKept h h') :
    ∀ {vs : List Value} {fs : List Field} {id j : Nat},
    XF P c cs hooks types h κ vs fs id j → XF P c cs hooks types h' κ vs fs id j :=
  fun hv => XF.ofG (Prov.XF.kept hk (XF.toG hv))

theorem XB.congrK {h : Heap} {κ κ' : Nat → Nat → Word} (hκ : ∀ id o, h.get id = some o → ∀ j, κ' id j = κ id j) :
    ∀ {vs : List Value} {r : Word}, XB P c cs hooks types h κ vs r → XB P c cs hooks types h κ' vs r :=
  fun hv => XB.ofG (Prov.XB.congrK hκ (XB.toG hv))
theorem XF.congrK {h : Heap} {κ κ' : Nat → Nat → Word} (hκ : ∀ id o, h.get id = some o → ∀ j, κ' id j = κ id j) :
    ∀ {vs : List Value} {fs : List Field} {id j : Nat},
    XF P c cs hooks types h κ vs fs id j → (∀ j, κ' id j = κ id j) → XF P c cs hooks types h κ' vs fs id j :=
  fun hv hid => XF.ofG (Prov.XF.congrK hκ (XF.toG hv) hid)

end Walk

end Scc.X86.Ref.K
