/-
  Scc.X86.RefClosHTr — the translation `trHeap κ` of the word parts of an abstract heap (RefClosHDefs.lean) is the
  generic `ThreeWay.trHeap` (Scc/Backend/ThreeWay.lean) with stride 5 (`trWs_eq`, `trF_eq`, `trFs_eq`,
  `trHeap_eq`).  It replaces the fields of every object by as many fields of the same kinds and pointer parts:
  a `mapFields` of Scc/Heap/RefineTr.lean (`fieldsOK_trFs`), so ids, membership and `HeapOK` pass through it.
  `trF_chi`, `trF_ptr`, `trO_with_count`, `trHeap_nil` unfold it on one field, a count, the empty heap;
  `words_of` / `words_elim` read the `words` clause of the relation for one position.
-/
import Scc.X86.RefClosHDefs
import Scc.Heap.RefineTr
import Scc.Backend.ThreeWay

namespace Scc.X86.Ref.K

open Scc.AxCut Scc.Backend Scc.Backend.Abs Scc.Backend.Sim
open Scc.Heap.Refine

theorem trWs_eq (cur : Option Word) (chi : Chi) (a : Word) : trWs cur chi a = ThreeWay.trWs 5#64 cur chi a := by
  cases chi <;> rfl

theorem trF_eq (κ : Nat → Nat → Word) (id j : Nat) (f : Abs.Field) : trF κ id j f = ThreeWay.trF 5#64 κ id j f := by
  unfold trF ThreeWay.trF
  cases f.chi <;> rfl

theorem trFs_eq (κ : Nat → Nat → Word) (id : Nat) : ∀ (j : Nat) (fs : List Abs.Field),
    trFs κ id j fs = ThreeWay.trFs 5#64 κ id j fs
  | _, [] => rfl
  | j, f :: fs => by simp only [trFs, ThreeWay.trFs, trF_eq, trFs_eq κ id (j + 1) fs]

theorem trHeap_eq (κ : Nat → Nat → Word) (h : Heap) : trHeap κ h = ThreeWay.trHeap 5#64 κ h := by
  unfold trHeap ThreeWay.trHeap Scc.Heap.Refine.mapFields
  apply List.map_congr_left
  intro e _
  simp only [trO, Scc.Heap.Refine.mapObj, trFs_eq]

section
variable (κ : Nat → Nat → Word)

theorem trF_chi (id j : Nat) (f : Abs.Field) : (trF κ id j f).chi = f.chi := rfl
theorem trF_ptr (id j : Nat) (f : Abs.Field) : (trF κ id j f).ptr = f.ptr := rfl

theorem trO_with_count (id : Nat) (o : Obj) (c : Nat) :
    trO κ id { o with count := c } = { trO κ id o with count := c } := rfl

theorem trHeap_nil : trHeap κ [] = [] := rfl

/-- the translation of the fields of an object keeps their number and the children, so the `mapFields` lemmas of
Scc/Heap/RefineTr.lean apply to `trHeap κ` -/
theorem fieldsOK_trFs : FieldsOK (fun id fs => trFs κ id 0 fs) := by
  rw [show (fun id fs => trFs κ id 0 fs) = fun id fs => ThreeWay.trFs 5#64 κ id 0 fs from
    funext fun id => funext fun fs => trFs_eq κ id 0 fs]
  exact ThreeWay.fieldsOK_trFs 5#64 κ

theorem trHeap_ids (h : Heap) : (trHeap κ h).map (·.1) = h.map (·.1) := mapFields_ids (g := fun id fs => trFs κ id 0 fs) h

theorem mem_trHeap {h : Heap} {e : Nat × Obj} (he : e ∈ h) : (e.1, trO κ e.1 e.2) ∈ trHeap κ h :=
  mem_mapFields (g := fun id fs => trFs κ id 0 fs) he

theorem heapOK_trHeap {h : Heap} {rs : List Nat} {next : Nat} (H : HeapOK h rs next) :
    HeapOK (trHeap κ h) rs next := heapOK_mapFields (fieldsOK_trFs κ) H

end

/-- the `words` clause from the word the machine holds -/
theorem words_of {x : Option Word} {v : Word} {chi : Chi} {a : Word} (hx : x = some v)
    (hv : chi ≠ .cns → v = trW chi a) : x = some (trWs x chi a) := by
  subst hx
  cases chi with
  | cns => rfl
  | prd => rw [hv (by decide)]; rfl
  | ext => rw [hv (by decide)]; rfl

theorem words_elim {x : Option Word} {chi : Chi} {a : Word} (h : x = some (trWs x chi a)) (hc : chi ≠ .cns) :
    x = some (trW chi a) := by
  cases chi with
  | cns => exact absurd rfl hc
  | prd => exact h
  | ext => exact h

end Scc.X86.Ref.K
