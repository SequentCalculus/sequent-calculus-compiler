/-
  Scc.X86.MemProofsStore — the contract of `store` (memory.rs Memory::store) for the x86-64 backend against
  `Scc.Heap.storeObj`, for objects of ANY number of fields (one block or a chain of linked blocks) and EVERY
  placement of the stored variables and of the acquired-block temporaries (registers and spill slots):
  `store_field` and `store_zero` on the view against the model's `wr` (`m_storeFieldCode`, `m_storeZero`),
  the contracts of the leaves of `store` as a `Scc.Mem.StoreSpec` over the view machine (`memSpec`), and
  `store_contract` on the machine from the backend-independent `Scc.Mem.StoreSpec.storeFields_does`.

  Environment (`FieldAt`, `EnvFields`; `envFields_slots` says that it is `Scc.Mem.EnvFields`): the variable
  at context position `i` lives in the temporaries `posTemp (2 i)` (pointer part, only for non-`ext`
  variables) and `posTemp (2 i + 1)` (word part) — utils.rs temporary_from_position: registers 4..15, then
  spill slots 1..255.
-/
import Scc.X86.MemProofsHeap
import Scc.X86.MemCode
import Scc.Mem.Store

set_option linter.unusedSimpArgs false

namespace Scc.X86

open Scc.AxCut
open Scc.Backend (GenM TempNum freshLabel)
open Scc.Heap (HOk rd_eq_ok wr_eq_ok)

theorem tempOK_posTemp {n : Nat} (h : n < 267) : TempOK (posTemp n) := by
  unfold posTemp
  by_cases h1 : n + 4 < 16
  · rw [if_pos h1]; exact ⟨by omega, h1⟩
  · rw [if_neg h1]; exact ⟨by omega, by omega⟩

theorem posTemp_ne_low {n : Nat} (h : n < 267) :
    posTemp n ≠ .reg TEMP ∧ posTemp n ≠ .reg HEAP ∧ posTemp n ≠ .reg FREE := by
  obtain ⟨a, b, c⟩ := tempOK_ne (tempOK_posTemp h)
  exact ⟨a, b, c⟩

theorem noLab_storeFieldCode (t : Temporary) (blk : Nat) (fo : Int) : NoLab (Mem.storeFieldC t blk fo) := by
  intro l; cases t <;> simp [Mem.storeFieldC, loadPtr]

section Prim
variable {c : MachCfg} {μ : MState} {h h' : Scc.Heap.HState}

/-- `[blk + off] := t` (through TEMP for a spilled `t`) is the model's `wr` -/
theorem m_storeFieldCode (C : HeapCfgOK c) (H : HRelM c μ h) {t : Temporary} (ht : TempOK t) {v : Word}
    (hv : μ.val t = some v) {blk : Nat} (hb1 : 2 ≤ blk) (hb2 : blk < 16) {b : Word}
    (hvb : μ.val (.reg blk) = some b) {off : Nat} (ho : off < 2 ^ 31)
    (hwr : Scc.Heap.wr h (b.toNat + off) v.toNat = .ok h') :
    ∃ μ', mFwd c (Mem.storeFieldC t blk (off : Int)) μ = some (μ', .next) ∧ HRelM c μ' h' ∧
      (∀ u, u ≠ .reg TEMP → μ'.val u = μ.val u) := by
  obtain ⟨hok, rfl⟩ := wr_eq_ok.1 hwr
  have ha := haddr_ok C H ho hok
  have hb0 : ¬ blk = 0 := by omega
  have hbo : 1 ≤ blk := by omega
  cases t with
  | reg r =>
    have hro : regOpnd r = some (.reg r) := regOpnd_of ht.opnd
    refine ⟨μ.setH (b.toNat + off) v, ?_, H.setH _ _, fun _ _ => rfl⟩
    simp [Mem.storeFieldC, loadPtr, jumpReg, mFwd_cons, mFwd_nil, mcont, mexecC, mexec, hb0, hro, maddr, hbo,
      hb2, hvb, ha, hv]
  | spill p =>
    have hmo : memOpnd 0 (stackOffset p) = some (.spill p) := memOpnd_of ht.opnd
    have hb1' : ¬ Temporary.reg blk = .reg 1 := fun e => by injection e with e; omega
    refine ⟨(μ.setT (.reg 1) (some v)).setH (b.toNat + off) v, ?_,
      (H.setT (by simp [HEAP_eq]) (by simp [FREE_eq]) _).setH _ _, fun u hu => ?_⟩
    · simp [Mem.storeFieldC, loadPtr, jumpReg, mFwd_cons, mFwd_nil, mcont, mexecC, mexec, hb0, hmo, maddr, hbo,
        hb2, hvb, ha, hv, TEMP_eq, STACK_eq, regOpnd1, hb1']
    · rw [TEMP_eq] at hu; simp [hu]

/-- `store_zero`: `[blk + fst off] := 0` -/
theorem m_storeZero (C : HeapCfgOK c) (H : HRelM c μ h) {blk : Nat} (hb1 : 2 ≤ blk) (hb2 : blk < 16)
    {b : Word} (hvb : μ.val (.reg blk) = some b) {off : Nat} (ho : off ≤ 1000)
    (hwr : Scc.Heap.wr h (b.toNat + Scc.Heap.fstOff off) 0 = .ok h') :
    ∃ μ', mFwd c (storeZero blk off) μ = some (μ', .next) ∧ HRelM c μ' h' ∧ μ'.val = μ.val := by
  obtain ⟨hok, rfl⟩ := wr_eq_ok.1 hwr
  have hoff : Scc.Heap.fstOff off < 2 ^ 31 := by simp [Scc.Heap.fstOff, Scc.Heap.fieldOffset]; omega
  have ha := haddr_ok C H hoff hok
  have hb0 : ¬ blk = 0 := by omega
  have hbo : 1 ≤ blk := by omega
  refine ⟨μ.setH (b.toNat + Scc.Heap.fstOff off) 0#64, ?_, H.setH _ _, rfl⟩
  simp [storeZero, fieldOffset_fst, mFwd_cons, mFwd_nil, mcont, mexecC, mexec, hb0, maddr, hbo, hb2, hvb, ha,
    fitsI32]

end Prim

/-- the variable `b` at context position `n` holds the model field `f`: an `ext` variable an integer
(word part), any other variable a pointer part and a word part -/
def FieldAt (μ : MState) (n : Nat) (b : Binding) (f : Scc.Heap.Field) : Prop :=
  if (b.chi == .ext) = true then ∃ w : Word, f = .int w.toNat ∧ μ.val (posTemp (2 * n + 1)) = some w
  else ∃ p w : Word, f = .ptr p.toNat w.toNat ∧ μ.val (posTemp (2 * n)) = some p ∧
    μ.val (posTemp (2 * n + 1)) = some w

/-- the variables `Γ` at positions `n, n+1, …` hold the fields `fs` -/
def EnvFields (μ : MState) : Nat → Ctx → List Scc.Heap.Field → Prop
  | _, [], [] => True
  | n, b :: bs, f :: fs => FieldAt μ n b f ∧ EnvFields μ (n + 1) bs fs
  | _, _, _ => False

theorem envFields_slots {μ : MState} : ∀ {n : Nat} {Γ : Ctx} {fs : List Scc.Heap.Field},
    EnvFields μ n Γ fs ↔ Scc.Mem.EnvFields (fun m => μ.val (posTemp m)) n Γ fs
  | _, [], [] => Iff.rfl
  | _, [], _ :: _ => Iff.rfl
  | _, _ :: _, [] => Iff.rfl
  | _, _ :: _, _ :: _ => and_congr Iff.rfl envFields_slots

theorem EnvFields.append {μ : MState} : ∀ {n : Nat} {Γ1 Γ2 : Ctx} {f1 f2 : List Scc.Heap.Field},
    EnvFields μ n Γ1 f1 → EnvFields μ (n + Γ1.length) Γ2 f2 → EnvFields μ n (Γ1 ++ Γ2) (f1 ++ f2) :=
  fun h1 h2 => envFields_slots.2 ((envFields_slots.1 h1).append (envFields_slots.1 h2))

theorem noLab_storeZero (blk off : Nat) : NoLab (storeZero blk off) := by
  intro l; simp [storeZero]

theorem m_loadImmediate0 {c : MachCfg} {μ : MState} {t : Temporary} (ht : TempOK t) :
    mFwd c (loadImmediate t 0) μ = some (μ.setT t (some 0#64), .next) := by
  cases t with
  | reg r =>
    have hro : regOpnd r = some (.reg r) := regOpnd_of ht.opnd
    simp [loadImmediate, mFwd_cons, mFwd_nil, mcont, mexecC, mexec, hro, fitsI64]
  | spill p =>
    have hmo : memOpnd 0 (stackOffset p) = some (.spill p) := memOpnd_of ht.opnd
    simp [loadImmediate, mFwd_cons, mFwd_nil, mcont, mexecC, mexec, hmo, fitsI32, STACK_eq]

theorem noLab_loadImmediate (t : Temporary) (i : Int) : NoLab (loadImmediate t i) := by
  intro l; cases t <;> simp [loadImmediate]; split <;> simp

theorem noLab_comment (m : String) : NoLab [.COMMENT m] := fun l => by simp

/-- the contracts of the leaves of `store`: `store_field` and `store_zero` go through TEMP, `acquire_block`
changes its target -/
def memSpec {c : MachCfg} (C : HeapCfgOK c) : Scc.Mem.StoreSpec (memView c) Mem.memCode where
  reg := .reg
  scratch := fun u => u = .reg TEMP
  freeT := .reg FREE
  clob := fun m u => u = posTemp m
  runs_comment := mFwd_comment c
  reg_keep := fun hr e => by
    have h1 : 2 ≤ _ := hr.1
    injection e with e; rw [TEMP_eq] at e; omega
  pos_keep := fun h => (posTemp_ne_low h).1
  pos_ne_heap := fun h => (posTemp_ne_low h).2.1
  pos_ne_free := fun h => (posTemp_ne_low h).2.2
  clob_self := fun _ => rfl
  clob_pos := fun h _ e => by have := posTemp_inj.1 e; omega
  rel_heap := fun H => H.heap
  stF_does := fun {μ s s' m v r b num off} H hm hv hr hvb ho hwr => by
    have hlt : Scc.Heap.fieldOffset num.toNat off < 2 ^ 31 := by
      have ho : off ≤ 1000 := ho
      cases num <;> simp [Scc.Heap.fieldOffset, TempNum.toNat] <;> omega
    obtain ⟨μ', x, H', F⟩ := m_storeFieldCode C H (tempOK_posTemp hm) hv hr.1 hr.2 hvb hlt hwr
    rw [← fieldOffset_nat] at x
    exact ⟨μ', x, H', fun u hu => F u hu, trivial⟩
  stZ_does := fun H hr hvb ho hwr => by
    obtain ⟨μ', x, H', F⟩ := m_storeZero C H hr.1 hr.2 hvb ho hwr
    exact ⟨μ', x, H', fun u _ => congrFun F u, trivial⟩
  acq_does := fun {μ s s' m new} k H hm hop => by
    obtain ⟨code, hr, -, μ', x, H', hw, F⟩ :=
      m_acquire C H (tempOK_posTemp (n := m) (Nat.lt_of_succ_lt hm)) hop k
    rw [Mem.acquireBlock_run] at hr
    cases hr
    exact ⟨μ', x, H', fun u hu => F u hu.2.2.2 hu.1 hu.2.1 hu.2.2.1, hw⟩
  zero_does := fun {μ s m} H hm => by
    obtain ⟨-, n2, n3⟩ := posTemp_ne_low hm
    exact ⟨_, m_loadImmediate0 (tempOK_posTemp hm), H.setT n2 n3 _, fun u hu => if_neg hu.2, if_pos rfl⟩

theorem envFields_iff {c : MachCfg} (C : HeapCfgOK c) {μ : MState} {n : Nat} {Γ : Ctx} {fs : List Scc.Heap.Field} :
    EnvFields μ n Γ fs ↔ Scc.Mem.EnvFields ((memSpec C).slot μ) n Γ fs := envFields_slots

theorem memCode_counts : Mem.memCode.Counts (fun a b code => a ≤ b ∧ Scc.Mem.LabsIn Code.LAB code a b) :=
  Scc.Mem.StoreCode.counts_labsIn (fun _ _ h => by cases h)
    (fun t r num off => noLab_iff.1 (noLab_storeFieldCode t r (fieldOffset num off)))
    (fun r off => noLab_iff.1 (noLab_storeZero r off))
    (fun m k => labsIn_iff.1 (labsIn_acquireBlockC (posTemp m) k))
    (fun _ => noLab_iff.1 (noLab_loadImmediate _ _))

/-- CONTRACT of `store` (memory.rs Memory::store) on the SPEC machine, for ANY number of fields and
EVERY placement: the variables `toStore` (context positions `|rem| …`, holding the model fields `fs`)
are stored as one object — one block for up to `FIELDS_PER_BLOCK` fields, otherwise a chain of linked
blocks, each block taken by `acquire_block` — exactly as `Scc.Heap.storeObj` does on the abstract heap.
From every boundary state representing a heap on which the model succeeds, the code runs to its end;
the final state is a boundary state with the same `rsp`, represents the model's result heap, and the
first temporary of position `|rem|` holds the object pointer (0 for an object without fields).
Changed: TEMP, HEAP, FREE, the flags, the heap, and first temporaries of the stored positions (targets of
`acquire_block`; position `|rem|` alone for an object without fields); every variable of `rem`, every
second temporary and everything beyond the stored positions is preserved.
The proof is the backend-independent `Scc.Mem.StoreSpec.storeFields_does` at the leaves `memSpec`. -/
theorem store_contract {c : MachCfg} {la : String → Option Nat} {st : State} {sp : Word}
    (h8 : c.heapBase % 8 = 0) (B : Boundary c st sp) {h h' : Scc.Heap.HState} (R : HeapRel c st h)
    {toStore rem : Ctx} {fs : List Scc.Heap.Field} (hcap : 2 * (rem.length + toStore.length) ≤ 267)
    (hE : EnvFields (mview sp st) rem.length toStore fs) {ptr : Nat}
    (hop : Scc.Heap.storeObj h fs = .ok (h', ptr)) (k : Nat) :
    ∃ code k', (store toStore rem).run k = .ok (code, k') ∧ k ≤ k' ∧ LabsIn code k k' ∧
      ∃ st', execFwd c la code st = .ok (st', .next) ∧ Boundary c st' sp ∧ HeapRel c st' h' ∧
        (∃ w, tempVal sp st' (posTemp (2 * rem.length)) = some w ∧ w.toNat = ptr) ∧
        FrameT sp st st' (fun u => u = .reg TEMP ∨ u = .reg HEAP ∨ u = .reg FREE ∨
          ∃ j, j ≤ toStore.length - 1 ∧ u = posTemp (2 * (rem.length + j))) := by
  have C := heapCfgOK_of_boundary h8 B
  obtain ⟨hk, hl⟩ := memCode_counts.storeFieldsC (toStore.length + 1) toStore rem.length .last k
  obtain ⟨μ', hx, H', hfr, w, hw, ew⟩ := (memSpec C).storeFields_does
    (toStore.length + 1) toStore rem.length .last fs 0 (mview sp st) h h' ptr k (Nat.lt_succ_self _)
    (heapRel_mview (sp := sp) R) ((envFields_iff C).1 hE) hcap (by show 2 * rem.length < 267; omega)
    (fun e => by cases e) hop
  obtain ⟨st', e, B', M', F⟩ := m_to_machine la B hx
    (changed := fun u => u = .reg TEMP ∨ u = .reg HEAP ∨ u = .reg FREE ∨
      ∃ j, j ≤ toStore.length - 1 ∧ u = posTemp (2 * (rem.length + j)))
    (fun u hu => hfr u ⟨fun e => hu (Or.inl e), fun e => hu (Or.inr (Or.inl e)),
      fun e => hu (Or.inr (Or.inr (Or.inl e))), fun j hj e => hu (Or.inr (Or.inr (Or.inr ⟨j, hj, e⟩)))⟩)
  have hok : OpndOK (posTemp (2 * rem.length)) := (tempOK_posTemp (by omega)).opnd
  exact ⟨_, _, Mem.store_run toStore rem k hcap, hk, labsIn_iff.2 hl, st', e, B',
    heapRel_of_mrep M' H', ⟨w, by rw [M'.vals _ hok]; exact hw, ew⟩, F⟩

end Scc.X86
