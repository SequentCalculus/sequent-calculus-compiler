/-
  Scc.X86.RefClosXC — CLOSURES in the three-way relation (C06 on x86-64): THE CLOSURE INVARIANT `XC`
  (RefClosDefs.lean) is that of Scc/Backend/ClosWalk.lean (`Prov.XC`) for the x86-64 machine: the machine word
  of a variable is what its word temporary holds (`tvOf`), and of the code behind a code pointer `MethodsX` is
  asked (`XC.toG`, `XC.ofG`).  So every statement form preserves it by the lemmas of ClosWalk.lean, which the
  generic step (`ThreeWay.step3K`, Scc/Backend/ThreeWayRun.lean) applies.
-/
import Scc.X86.RefClosLemmas
import Scc.X86.RefClosHLoad
import Scc.X86.RefClosHCall

namespace Scc.X86.Ref.K

open Scc.AxCut Scc.AxCut.Pos Scc.Backend Scc.Backend.Abs

section
variable {P : Program} {c : MachCfg} {cs : List Code} {hooks : Bool} {types : List TypeDecl} {F : Frame}

theorem XV.int_any {h : Heap} {κ : Nat → Nat → Word} (n : Word) (p : Option Word) (a w : Word) :
    XV P c cs hooks types h κ (.int n) p a w := .int n p a w

theorem XC.toG {Γ : Ctx} {ρ : List Value} {cfg : Config} {κ : Nat → Nat → Word} {st : State}
    (C : XC P c cs hooks types F Γ ρ cfg κ st) :
    Prov.XC P hooks types (MethodsX c cs hooks types) (tvOf F st) Γ ρ cfg κ :=
  fun i h1 h2 w hw => XV.toG (C i h1 h2 w hw)

theorem XC.ofG {Γ : Ctx} {ρ : List Value} {cfg : Config} {κ : Nat → Nat → Word} {st : State}
    (C : Prov.XC P hooks types (MethodsX c cs hooks types) (tvOf F st) Γ ρ cfg κ) :
    XC P c cs hooks types F Γ ρ cfg κ st :=
  fun i h1 h2 w hw => XV.ofG (C i h1 h2 w hw)

end

end Scc.X86.Ref.K
