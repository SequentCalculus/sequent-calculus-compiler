/-
  Scc.X86.RefStep — Theorem B (x86-64), heap-free instructions, on the transition functions:
  `sim_step`: one step `Abs.step P cfg = .next cfg'` of the abstract backend machine on the laid-out mock
  code `ops` is simulated by `k ≥ 1` transitions of the x86-64 SPEC machine on the loaded item list
  `cs = hdr ++ body ++ post` whose `body` renders `ops` (`Seg`), re-establishing `RepX86` and the
  correspondence of the program counters (`At`);
  `sim_halt`: the halting step (`jumplabel cleanup` with the result in RET1) is simulated by the jump
  to `cleanup`, the epilogue and `ret`, whose exit check succeeds with the same result.
  On the way, what every later file of the x86-64 stack uses of item lists and states: `labs` (the labels an
  item list defines) and the `noLab_*` lemmas (the code of a backend method defines none), `tempVal_setPS` /
  `RepX86.setPS` (nothing looks at the program counter and the step counter of the machine), and `EntryFacts`
  (what a run keeps of its entry state, for the exit check of the final `ret`: `step_ret`).
-/
import Scc.X86.RefSim
import Scc.X86.CodeBlk
import Scc.Backend.ProofsMockEntry

namespace Scc.X86.Ref

open Scc.AxCut Scc.Backend Scc.Backend.Abs Scc.Backend.Sim

def labs (cs : List Code) : List String := cs.filterMap codeLabelDef

theorem labs_append (a b : List Code) : labs (a ++ b) = labs a ++ labs b := by
  simp [labs, List.filterMap_append]

theorem labs_nil_of {cs : List Code} (h : ∀ c ∈ cs, codeLabelDef c = none) : labs cs = [] := by
  unfold labs
  rw [List.filterMap_eq_nil_iff]
  exact h

theorem labIdx_append_of_not_mem (pre rest : List Code) (l : String) (h : l ∉ labs pre) :
    labIdx (pre ++ Code.LAB l :: rest) l = some pre.length := by
  unfold labIdx
  rw [List.findIdx?_append]
  have : List.findIdx? (fun c => decide (c = Code.LAB l)) pre = none := by
    rw [List.findIdx?_eq_none_iff]
    intro c hc
    simp only [decide_eq_false_iff_not]
    intro e
    apply h
    unfold labs
    rw [List.mem_filterMap]
    exact ⟨c, hc, by rw [e]; rfl⟩
  rw [this]
  simp [List.findIdx?_cons]

theorem noLab_append {a b : List Code} (ha : ∀ c ∈ a, codeLabelDef c = none)
    (hb : ∀ c ∈ b, codeLabelDef c = none) : ∀ c ∈ a ++ b, codeLabelDef c = none := by
  intro c hc
  rcases List.mem_append.1 hc with h | h
  · exact ha c h
  · exact hb c h

theorem noLab_single {c : Code} (h : codeLabelDef c = none) : ∀ x ∈ [c], codeLabelDef x = none := by
  intro x hx; simp at hx; subst hx; exact h

theorem noLab_condJump (s : IfSort) (l : String) : codeLabelDef (condJump s l) = none := by
  cases s <;> rfl

/-- no `Leaf` defines a label, so the code of no method of code.rs does (its form: Scc/X86/CodeBlk.lean) -/
theorem _root_.Scc.X86.Mem.Leaf.noLab {rok iok : Prop} {c : Code} (h : Mem.Leaf rok iok c) : codeLabelDef c = none := by
  cases h with
  | com _ => rfl
  | instr hf _ _ => cases c <;> first | rfl | cases hf

theorem _root_.Scc.X86.Mem.CItems.noLab {rok iok : Prop} {l : List Code} (h : Mem.CItems rok iok l) :
    ∀ c ∈ l, codeLabelDef c = none := fun c hc => (h c hc).1.noLab

theorem noLab_mov (t s : Temporary) : ∀ c ∈ mov t s, codeLabelDef c = none := (Mem.items_mov (iok := True) t s).noLab

theorem noLab_storeTemporary (t : Temporary) (b : Bool) : ∀ c ∈ storeTemporary t b, codeLabelDef c = none :=
  (Mem.items_storeTemporary (iok := True) t b).noLab

theorem noLab_restoreTemporary (t : Temporary) (b : Bool) :
    ∀ c ∈ restoreTemporary t b, codeLabelDef c = none := (Mem.items_restoreTemporary (iok := True) t b).noLab

theorem noLab_loadImmediate (t : Temporary) (i : Int) : ∀ c ∈ loadImmediate t i, codeLabelDef c = none :=
  (Mem.items_loadImmediate t i).noLab

theorem noLab_compare (a b : Temporary) : ∀ c ∈ compare a b, codeLabelDef c = none :=
  (Mem.items_compare (iok := True) a b).noLab

theorem noLab_compareImmediate (a : Temporary) (i : Int) :
    ∀ c ∈ compareImmediate a i, codeLabelDef c = none := (Mem.items_compareImmediate a i).noLab

theorem noLab_binop (o : BinOp) (t s1 s2 : Temporary) : ∀ c ∈ binop o t s1 s2, codeLabelDef c = none := fun c hc => by
  rcases Mem.items_binop_or (iok := True) o t s1 s2 c hc with h | ⟨_, _, rfl, _⟩
  · exact h.1.noLab
  · rfl

theorem noLab_printI64 (nl : Bool) (s : Temporary) (ctx : Ctx) :
    ∀ c ∈ printI64 nl s ctx, codeLabelDef c = none :=
  fun c hc => (Mem.items_printI64 nl s ctx c hc).elim (·.noLab) (fun h => by cases h <;> rfl)

theorem OpRel.labs {g g' : Mode} {op : MockOp} {blk : List Code} (h : OpRel g op blk g') :
    labs blk = labelNames [op] := by
  cases op <;> simp only [OpRel] at h
  case comment m => rw [h.1]; rfl
  case label n => rw [h.1]; rfl
  case jumpLabel n => rw [h.1]; rfl
  case jif c a b n =>
    rw [h.1]
    exact labs_nil_of (noLab_append (noLab_compare _ _) (noLab_single (noLab_condJump _ _)))
  case jifz c a n =>
    rw [h.1]
    exact labs_nil_of (noLab_append (noLab_compareImmediate _ _) (noLab_single (noLab_condJump _ _)))
  case li t imm => rw [h.1]; exact labs_nil_of (noLab_loadImmediate _ _)
  case binop o t a b => rw [h.1]; exact labs_nil_of (noLab_binop _ _ _ _)
  case mov t s =>
    rcases h with h | h
    · rw [h.2.2.1]; exact labs_nil_of (noLab_mov _ _)
    · rw [h.2.2.1]; exact labs_nil_of (noLab_mov _ _)
  case print nl s kinds =>
    obtain ⟨ctx, h1, _⟩ := h
    rw [h1]; exact labs_nil_of (noLab_printI64 _ _ _)
  case save t sp =>
    obtain ⟨b, h1, _⟩ := h
    rw [h1]; exact labs_nil_of (noLab_storeTemporary _ _)
  case restore t sp =>
    obtain ⟨b, h1, _⟩ := h
    rw [h1]; exact labs_nil_of (noLab_restoreTemporary _ _)
  all_goals exact absurd h (by simp)

theorem Seg.labs {g g' : Mode} {ops : List MockOp} {cs : List Code} (h : Seg g ops cs g') :
    labs cs = labelNames ops := by
  induction h with
  | nil g => rfl
  | @cons g g1 g' op blk ops cs hop _ ih =>
    rw [labs_append, hop.labs, ih, show op :: ops = [op] ++ ops from rfl, labelNames_append]

theorem tempVal_setPS (sp : Word) (st : State) (pc k : Nat) (t : Temporary) :
    tempVal sp (setPS st pc k) t = tempVal sp st t := by
  cases t <;> rfl

theorem RepX86.setPS {F : Frame} {g : Mode} {cfg : Config} {st : State} (R : RepX86 F g cfg st)
    (pc k : Nat) : RepX86 F g cfg (setPS st pc k) :=
  ⟨⟨R.bnd.size, R.bnd.rsp, R.bnd.sp⟩, fun t v ht hg => by rw [tempVal_setPS]; exact R.temps t v ht hg,
   fun v hg => by rw [tempVal_setPS]; exact R.ret v hg,
   fun b hb w hw => by rw [tempVal_setPS]; exact R.scratch b hb w hw, R.out, R.frame⟩

theorem RepX86.setPc {F : Frame} {g : Mode} {cfg : Config} {st : State} (R : RepX86 F g cfg st)
    (pc : Nat) : RepX86 F g { cfg with pc := pc } st :=
  ⟨R.bnd, R.temps, R.ret, R.scratch, R.out, R.frame⟩

section World

variable {F : Frame} (H : FrameOK F) {mon : MonCfg} (hmon : mon.mach = F.c) {p : Prog}
  {ops : List MockOp} {cs hdr body post : List Code}
  (L : Loaded p cs) (hcs : cs = hdr ++ body ++ post) (W : Seg .normal ops body .normal)
  (hnodup : (labelNames ops).Nodup) (hhdr : ∀ n ∈ labelNames ops, n ∉ labs hdr)

include hcs W hnodup hhdr in
theorem label_at {name : String} {a : Nat} (hl : (Program.ofOps ops).labelAddr name = some a) :
    ∃ i, labIdx cs name = some i ∧ At ops cs a i .normal := by
  have hmem := mem_labelNames_of_labelAddr hl
  obtain ⟨o1, o2, ho, hn1⟩ := labelNames_split hmem
  have hca := codeAt_ofOps ops (by rw [← labelNames_eq_dfns]; exact hnodup) o1 _ ho
  simp only [CodeAt] at hca
  have ha : a = instrCount o1 := by
    have := hca.1; rw [hl] at this; injection this
  rw [ho] at W
  obtain ⟨c1, c2, gm, hb, S1, S2⟩ := Seg.split W
  cases S2 with
  | @cons _ g1 _ _ blk _ c2' hop S2' =>
    simp only [OpRel] at hop
    obtain ⟨rfl, rfl, rfl⟩ := hop
    have hidx : labIdx cs name = some (hdr ++ c1).length := by
      have : cs = (hdr ++ c1) ++ Code.LAB name :: (c2' ++ post) := by
        rw [hcs, hb]; simp
      rw [this]
      apply labIdx_append_of_not_mem
      rw [labs_append, S1.labs, List.mem_append]
      rintro (h | h)
      · exact hhdr name hmem h
      · exact hn1 h
    refine ⟨_, hidx, o1, _, hdr ++ c1, [Code.LAB name] ++ c2', post, ho, ?_, ha.symm, rfl, ?_⟩
    · rw [hcs, hb]; simp
    · exact Seg.cons (by simp [OpRel]) S2'

/-- the correspondence after an instruction that falls through -/
theorem At.advance {ops1 ops2 : List MockOp} {op : MockOp} {cs1 blk cs2 tail : List Code} {g1 : Mode}
    (ho : ops = ops1 ++ op :: ops2) (hc : cs = cs1 ++ (blk ++ cs2) ++ tail)
    (hop : instrCount [op] = 1) (S : Seg g1 ops2 cs2 .normal) :
    At ops cs (instrCount ops1 + 1) (cs1.length + blk.length) g1 :=
  ⟨ops1 ++ [op], ops2, cs1 ++ blk, cs2, tail, by rw [ho]; simp, by rw [hc]; simp,
    by rw [Subst.instrCount_append, hop], by simp, S⟩

omit hcs W hhdr in
theorem preserved_refl (sp : Word) (st : State) : Preserved sp st st none :=
  ⟨Same.refl st, fun _ _ _ _ => rfl, fun _ _ => rfl⟩

include H hmon L hcs W hnodup hhdr in
/-- `sim_step` with the position `At` spelled out, by recursion over the rest `ops2` of the mock code: labels
and comments before the instruction at `cfg.pc` are stepped over -/
theorem sim_step_aux {cfg cfg' : Config} (hs : Abs.step (Program.ofOps ops) cfg = .next cfg') :
    ∀ (ops2 ops1 : List MockOp) (cs1 cs2 tail : List Code) (g : Mode) (st : State),
      ops = ops1 ++ ops2 → cs = cs1 ++ cs2 ++ tail → instrCount ops1 = cfg.pc → cs1.length = st.pc →
      Seg g ops2 cs2 .normal → RepX86 F g cfg st →
      ∃ k st' g', stepN mon p k st = .inl st' ∧ RepX86 F g' cfg' st' ∧ At ops cs cfg'.pc st'.pc g'
  | [] => fun ops1 cs1 cs2 tail g st ho hc ha hi S R => by
    exfalso
    have : (Program.ofOps ops).code[cfg.pc]? = none := by
      rw [Array.getElem?_eq_none_iff, ofOps_size, ← ha, ho]; simp
    simp [Abs.step, this, stuck] at hs
  | op :: ops2 => fun ops1 cs1 cs2 tail g st ho hc ha hi S R => by
    cases S with
    | @cons _ g1 _ _ blk _ cs2' hop S' =>
    have hc' : cs = cs1 ++ blk ++ (cs2' ++ tail) := by rw [hc]; simp
    have hcA : cs = cs1 ++ (blk ++ cs2') ++ tail := hc
    -- an instruction that falls through: straight block, abstract pc + 1
    have fin : ∀ (s' : State) (cfgN : Config), instrCount [op] = 1 →
        execStraight F.c p.labelAddr blk st = .ok s' → RepX86 F g1 cfgN s' →
        cfg' = { cfgN with pc := cfg.pc + 1 } →
        ∃ k st' g', stepN mon p k st = .inl st' ∧ RepX86 F g' cfg' st' ∧ At ops cs cfg'.pc st'.pc g' := by
      intro s' cfgN hop1 hx R' hcfg
      rw [← hmon] at hx
      obtain ⟨k, hk⟩ := steps_block mon L hc' hi.symm hx
      refine ⟨_, _, g1, hk, ?_, ?_⟩
      · rw [hcfg]; exact (R'.setPS _ _).setPc _
      · rw [hcfg]
        simp only [setPS]
        rw [← ha]
        exact At.advance ho hcA hop1 S'
    -- a jump to label `n` executed from `s1` (the jump instruction is at index `cs1 ++ pre`)
    have jmp : ∀ (s1 : State) (n : String),
        RepX86 F .normal { cfg with pc := cfg.pc, temps := clobberTemp cfg.temps } s1 →
        ∀ (pre : List Code) {code : Code} {rest : List Code}, cs = (cs1 ++ pre) ++ code :: rest →
        (cs1 ++ pre).length = s1.pc →
        execCode mon.mach p.labelAddr code s1 = .ok (s1, .jumpLabel n) →
        jumpTo (Program.ofOps ops) cfg n = .next cfg' →
        ∃ k st' g', stepN mon p k s1 = .inl st' ∧ RepX86 F g' cfg' st' ∧ At ops cs cfg'.pc st'.pc g' := by
      intro s1 n R1 pre code rest hcJ hpc hx hj
      unfold jumpTo at hj
      cases hl : (Program.ofOps ops).labelAddr n with
      | none => simp [hl, stuck] at hj
      | some a' =>
        simp only [hl] at hj
        injection hj with hj
        obtain ⟨i, hidx, A'⟩ := label_at hcs W hnodup hhdr hl
        obtain ⟨k1, hk1⟩ := step_jump mon L hcJ hpc.symm hx hidx
        refine ⟨1, _, .normal, by rw [stepN_one]; exact hk1, ?_, ?_⟩
        · rw [← hj]
          exact (R1.setPS _ _).setPc a'
        · rw [← hj]; exact A'
    -- compare; conditional jump
    have br : ∀ (s1 : State) (pre : List Code) (c : IfSort) (n : String) (b : Bool),
        execStraight F.c p.labelAddr pre st = .ok s1 →
        RepX86 F .normal { cfg with pc := cfg.pc, temps := clobberTemp cfg.temps } s1 →
        execCode F.c p.labelAddr (condJump c n) s1 = .ok (s1, if b = true then .jumpLabel n else .next) →
        blk = pre ++ [condJump c n] → g1 = .normal → instrCount [op] = 1 →
        (if b = true then jumpTo (Program.ofOps ops) cfg n
          else .next { cfg with pc := cfg.pc + 1, temps := clobberTemp cfg.temps }) = .next cfg' →
        ∃ k st' g', stepN mon p k st = .inl st' ∧ RepX86 F g' cfg' st' ∧ At ops cs cfg'.pc st'.pc g' := by
      intro s1 pre c n b hx R1 hcj hblk hg1 hop1 hs'
      rw [← hmon] at hx hcj
      have hcP : cs = cs1 ++ pre ++ (condJump c n :: (cs2' ++ tail)) := by rw [hc', hblk]; simp
      obtain ⟨k0, hk0⟩ := steps_block mon L hcP hi.symm hx
      have hcj2 : execCode mon.mach p.labelAddr (condJump c n) (setPS s1 (cs1.length + pre.length) k0) =
          .ok (setPS s1 (cs1.length + pre.length) k0, if b = true then .jumpLabel n else .next) := by
        rw [execCode_setPS, hcj]; rfl
      have hcJ : cs = (cs1 ++ pre) ++ condJump c n :: (cs2' ++ tail) := by rw [hcP]
      cases b with
      | true =>
        simp only [if_true] at hs' hcj2
        obtain ⟨k, st', g', hk, R', A'⟩ := jmp _ n (R1.setPS _ _) pre hcJ (by simp [setPS]) hcj2 hs'
        exact ⟨pre.length + k, st', g', by rw [stepN_add mon p _ k st _ hk0]; exact hk, R', A'⟩
      | false =>
        simp only [Bool.false_eq_true, if_false] at hs' hcj2
        injection hs' with hs'
        obtain ⟨k1, hk1⟩ := step_fall mon L hcJ (by simp [setPS]) hcj2
        refine ⟨pre.length + 1, setPS (setPS s1 (cs1.length + pre.length) k0) ((cs1 ++ pre).length + 1) k1,
          .normal, ?_, ?_, ?_⟩
        · rw [stepN_add mon p _ 1 st _ hk0, stepN_one]; exact hk1
        · rw [← hs']
          exact ((R1.setPS _ _).setPS _ _).setPc _
        · rw [← hs']
          simp only [setPS]
          rw [← ha]
          have := At.advance (cs := cs) (blk := blk) ho hcA hop1 S'
          rw [hg1] at this
          rw [hblk] at this
          simpa [Nat.add_assoc] using this
    cases op <;> simp only [OpRel] at hop
    case comment m =>
      obtain ⟨rfl, rfl⟩ := hop
      have hcF : cs = cs1 ++ Code.COMMENT m :: (cs2' ++ tail) := by rw [hc]; simp
      obtain ⟨k1, hk1⟩ := step_fall mon L hcF hi.symm
        (show execCode mon.mach p.labelAddr (.COMMENT m) st = .ok (st, .next) from rfl)
      obtain ⟨k, st', g', hk, R', A'⟩ := sim_step_aux hs ops2 (ops1 ++ [.comment m]) (cs1 ++ [.COMMENT m])
        cs2' tail g1 (setPS st (cs1.length + 1) k1) (by rw [ho]; simp) (by rw [hc]; simp)
        (by rw [Subst.instrCount_append]; simpa [instrCount] using ha) (by simp [setPS]) S' (R.setPS _ _)
      refine ⟨1 + k, st', g', ?_, R', A'⟩
      rw [stepN_add mon p 1 k st _ (by rw [stepN_one]; exact hk1)]
      exact hk
    case label n =>
      obtain ⟨rfl, rfl, rfl⟩ := hop
      have hcF : cs = cs1 ++ Code.LAB n :: (cs2' ++ tail) := by rw [hc]; simp
      obtain ⟨k1, hk1⟩ := step_fall mon L hcF hi.symm
        (show execCode mon.mach p.labelAddr (.LAB n) st = .ok (st, .next) from rfl)
      obtain ⟨k, st', g', hk, R', A'⟩ := sim_step_aux hs ops2 (ops1 ++ [.label n]) (cs1 ++ [.LAB n])
        cs2' tail .normal (setPS st (cs1.length + 1) k1) (by rw [ho]; simp) (by rw [hc]; simp)
        (by rw [Subst.instrCount_append]; simpa [instrCount] using ha) (by simp [setPS]) S' (R.setPS _ _)
      refine ⟨1 + k, st', g', ?_, R', A'⟩
      rw [stepN_add mon p 1 k st _ (by rw [stepN_one]; exact hk1)]
      exact hk
    case li t imm =>
      obtain ⟨rfl, ht, h64, rfl, rfl⟩ := hop
      have hf := fetch_of_split hnodup ho (by simp) (by simp)
      rw [ha] at hf
      rw [step_li _ cfg t imm hf (posW_ne_temp ht)] at hs
      injection hs with hs
      obtain ⟨s', hx, R'⟩ := rep_li H (la := p.labelAddr) R ht h64
      exact fin s' _ rfl hx R' hs.symm
    case binop o t a b =>
      obtain ⟨rfl, ht, hpa, hpb, hta, htb, h3, rfl, rfl⟩ := hop
      have hf := fetch_of_split hnodup ho (by simp) (by simp)
      rw [ha] at hf
      simp only [Abs.step, hf] at hs
      obtain ⟨va, hva, hs⟩ := getT_next hs
      obtain ⟨vb, hvb, hs⟩ := getT_next hs
      cases hev : Abs.evalBinOp o va vb with
      | error e => simp [hev, stuck] at hs
      | ok v =>
        have hstep := step_binop _ cfg o t a b va vb v hf (posW_ne_temp ht) hva hvb hev
        simp only [Abs.step, hf, getT, hva, hvb] at hstep
        rw [hstep] at hs
        injection hs with hs
        obtain ⟨s', hx, R'⟩ := rep_binop H (la := p.labelAddr) R ht hpa hpb hta htb h3 hva hvb hev
        exact fin s' _ rfl hx R' hs.symm
    case jumpLabel n =>
      obtain ⟨rfl, rfl, hg⟩ := hop
      have hf := fetch_of_split hnodup ho (by simp) (by simp)
      rw [ha] at hf
      simp only [Abs.step, hf] at hs
      by_cases hn : (n == "cleanup") = true
      · rw [if_pos hn] at hs
        unfold getT at hs
        cases hv : cfg.temps.get T_RET1 <;> simp [hv, stuck] at hs
      · rw [if_neg hn] at hs
        have hg' : g = .normal := by
          rcases hg with h | ⟨_, h⟩
          · exact h
          · subst h; simp at hn
        subst hg'
        exact jmp st n (R.keep H R.bnd (preserved_refl _ _)) [] (code := .JMPL n) (rest := cs2' ++ tail)
          (by rw [hc]; simp) (by simpa using hi) rfl hs
    case jif c a b n =>
      obtain ⟨rfl, hpa, hpb, rfl, rfl⟩ := hop
      have hf := fetch_of_split hnodup ho (by simp) (by simp)
      rw [ha] at hf
      simp only [Abs.step, hf] at hs
      obtain ⟨va, hva, hs⟩ := getT_next hs
      obtain ⟨vb, hvb, hs⟩ := getT_next hs
      obtain ⟨s1, hx, R1, hcj⟩ := rep_jif H (la := p.labelAddr) R hpa hpb hva hvb n cfg.pc
      exact br s1 _ c n (Abs.evalCond c va vb) hx R1 hcj rfl rfl rfl hs
    case jifz c a n =>
      obtain ⟨rfl, hpa, rfl, rfl⟩ := hop
      have hf := fetch_of_split hnodup ho (by simp) (by simp)
      rw [ha] at hf
      simp only [Abs.step, hf] at hs
      obtain ⟨va, hva, hs⟩ := getT_next hs
      obtain ⟨s1, hx, R1, hcj⟩ := rep_jifz H (la := p.labelAddr) R hpa hva n cfg.pc
      exact br s1 _ c n (Abs.evalCond c va 0) hx R1 hcj rfl rfl rfl hs
    case mov t s' =>
      have hf := fetch_of_split hnodup ho (by simp) (by simp)
      rw [ha] at hf
      rcases hop with ⟨rfl, hps, rfl, rfl, rfl⟩ | ⟨hpt, hps, rfl, rfl, hns⟩
      · rw [step_mov' _ cfg _ s' hf (by decide)] at hs
        injection hs with hs
        obtain ⟨s1, hx, R'⟩ := rep_movRet H (la := p.labelAddr) R hps cfg.pc
        exact fin s1 _ rfl hx R' hs.symm
      · rw [step_mov' _ cfg t s' hf (posW_ne_temp hpt)] at hs
        injection hs with hs
        obtain ⟨s1, hx, R'⟩ := rep_mov H (la := p.labelAddr) R hpt hps hns cfg.pc
        exact fin s1 _ rfl hx R' hs.symm
    case save t sp =>
      obtain ⟨b, rfl, hpt, hg, rfl⟩ := hop
      have hf := fetch_of_split hnodup ho (by simp) (by simp)
      rw [ha] at hf
      rw [step_save' _ cfg t sp hf] at hs
      injection hs with hs
      obtain ⟨s1, hx, R'⟩ := rep_save H (la := p.labelAddr) R hpt b hg cfg.pc
      exact fin s1 _ rfl hx R' hs.symm
    case restore t sp =>
      obtain ⟨b, rfl, hpt, rfl, rfl⟩ := hop
      have hf := fetch_of_split hnodup ho (by simp) (by simp)
      rw [ha] at hf
      rw [step_restore' _ cfg t sp hf (posW_ne_temp hpt)] at hs
      injection hs with hs
      obtain ⟨s1, hx, R'⟩ := rep_restore H (la := p.labelAddr) b R hpt cfg.pc
      exact fin s1 _ rfl hx R' hs.symm
    case print nl s' kinds =>
      obtain ⟨ctx, rfl, rfl, hps, hlive, rfl, rfl⟩ := hop
      have hf := fetch_of_split hnodup ho (by simp) (by simp)
      rw [ha] at hf
      simp only [Abs.step, hf] at hs
      obtain ⟨v, hv, hs⟩ := getT_next hs
      injection hs with hs
      obtain ⟨s1, hx, R'⟩ := rep_print H (la := p.labelAddr) R (nl := nl) hps ctx hlive hv cfg.pc
      rw [← hmon] at hx
      obtain ⟨k, hk⟩ := steps_block_seq mon L hc' hi.symm hx
      refine ⟨_, _, .normal, hk, ?_, ?_⟩
      · rw [← hs]
        have hl : (Mock.kindsOf ctx).length = ctx.length := by simp [Mock.kindsOf]
        rw [hl]
        exact (R'.setPS _ _).setPc _
      · rw [← hs]
        simp only [setPS]
        rw [← ha]
        exact At.advance ho hcA rfl S'
    all_goals exact absurd hop (by simp)

include H hmon L hcs W hnodup hhdr in
/-- THEOREM B for one step of the abstract backend machine -/
theorem sim_step {cfg cfg' : Config} {g : Mode} {st : State}
    (hs : Abs.step (Program.ofOps ops) cfg = .next cfg') (R : RepX86 F g cfg st)
    (A : At ops cs cfg.pc st.pc g) :
    ∃ k st' g', stepN mon p k st = .inl st' ∧ RepX86 F g' cfg' st' ∧ At ops cs cfg'.pc st'.pc g' := by
  obtain ⟨ops1, ops2, cs1, cs2, tail, ho, hc, ha, hi, S⟩ := A
  exact sim_step_aux H hmon L hcs W hnodup hhdr hs ops2 ops1 cs1 cs2 tail g st ho hc ha hi S R

end World

/-- what the run knows about its entry state `st0` (System V entry of `asm_main`, `rsp = F.m`, `mtop`: just below
the top of the stack): the prologue takes `st0` to `F.st1` with `h` in HEAP (`pro`), the word at the top of
the stack is the return address the exit check of `ret` looks for (`retw`), and the callee-saved registers
hold the values it compares (`callee`) -/
structure EntryFacts (F : Frame) (st0 : State) (h : Word) : Prop where
  entry : EntryOK F.c st0 F.m
  pro : AfterPrologueM st0 F.st1 F.m h
  mtop : F.m = F.c.stackTop - 8
  top8 : F.c.stackTop % 8 = 0
  room : F.c.stackLow + 8 ≤ F.c.stackTop
  retw : st0.stackMem[F.c.stackTop - 8]? = some retSentinel
  callee : ∀ r ∈ calleeSaved, st0.regs[r]? = some (some (calleeSentinel r))

theorem retCheck_steps (c : MachCfg) (s : State) (k : Nat) :
    retCheck c { s with steps := k } = retCheck c s := rfl

theorem step_ret {m : MonCfg} {p : Prog} {s : State} {v : Word} (hf : p.code[s.pc]? = some Code.RET)
    (hr : retCheck m.mach s = .ok v) : step m p s = .inr (.done v) := by
  unfold step
  simp only [hf, execCode]
  have : codeSize Code.RET = 3 := rfl
  simp only [this, show ¬ (3 = 0) by decide, if_false, retCheck_steps, hr]

theorem stripC_ret {code : Code} (h : stripC code = stripC Code.RET) : code = Code.RET := by
  cases code <;> first | rfl | (simp [stripC] at h)

section Halt

variable {F : Frame} (H : FrameOK F) {mon : MonCfg} (hmon : mon.mach = F.c) {p : Prog}
  {ops : List MockOp} {cs hdr body : List Code}
  (L : Loaded p cs) (hcs : cs = hdr ++ body ++ cleanup) (W : Seg .normal ops body .normal)
  (hnodup : (labelNames ops).Nodup) (hclean : "cleanup" ∉ labs hdr ++ labelNames ops)
  {st0 : State} {h : Word} (E : EntryFacts F st0 h)

include H hmon L hcs W hnodup hclean E in
/-- `sim_halt` with the position `At` spelled out, by recursion over the rest `ops2` of the mock code -/
theorem sim_halt_aux {cfg : Config} {v : Word}
    (hs : Abs.step (Program.ofOps ops) cfg = .halt (.done v)) :
    ∀ (ops2 ops1 : List MockOp) (cs1 cs2 tail : List Code) (g : Mode) (st : State),
      ops = ops1 ++ ops2 → cs = cs1 ++ cs2 ++ tail → instrCount ops1 = cfg.pc → cs1.length = st.pc →
      Seg g ops2 cs2 .normal → RepX86 F g cfg st →
      ∃ k stL, stepN mon p k st = .inl stL ∧ step mon p stL = .inr (.done v) ∧ stL.out = cfg.out
  | [] => fun ops1 cs1 cs2 tail g st ho hc ha hi S R => by
    exfalso
    have : (Program.ofOps ops).code[cfg.pc]? = none := by
      rw [Array.getElem?_eq_none_iff, ofOps_size, ← ha, ho]; simp
    simp [Abs.step, this, stuck] at hs
  | op :: ops2 => fun ops1 cs1 cs2 tail g st ho hc ha hi S R => by
    cases S with
    | @cons _ g1 _ _ blk _ cs2' hop S' =>
    by_cases hcm : ∃ m, op = .comment m
    · obtain ⟨m, rfl⟩ := hcm
      simp only [OpRel] at hop
      obtain ⟨rfl, rfl⟩ := hop
      have hcF : cs = cs1 ++ Code.COMMENT m :: (cs2' ++ tail) := by rw [hc]; simp
      obtain ⟨k1, hk1⟩ := step_fall mon L hcF hi.symm
        (show execCode mon.mach p.labelAddr (.COMMENT m) st = .ok (st, .next) from rfl)
      obtain ⟨k, stL, hk, hL, hout⟩ := sim_halt_aux hs ops2 (ops1 ++ [.comment m]) (cs1 ++ [.COMMENT m])
        cs2' tail g1 (setPS st (cs1.length + 1) k1) (by rw [ho]; simp) (by rw [hc]; simp)
        (by rw [Subst.instrCount_append]; simpa [instrCount] using ha) (by simp [setPS]) S' (R.setPS _ _)
      exact ⟨1 + k, stL, by rw [stepN_add mon p 1 k st _ (by rw [stepN_one]; exact hk1)]; exact hk, hL, hout⟩
    by_cases hlb : ∃ n, op = .label n
    · obtain ⟨n, rfl⟩ := hlb
      simp only [OpRel] at hop
      obtain ⟨rfl, rfl, rfl⟩ := hop
      have hcF : cs = cs1 ++ Code.LAB n :: (cs2' ++ tail) := by rw [hc]; simp
      obtain ⟨k1, hk1⟩ := step_fall mon L hcF hi.symm
        (show execCode mon.mach p.labelAddr (.LAB n) st = .ok (st, .next) from rfl)
      obtain ⟨k, stL, hk, hL, hout⟩ := sim_halt_aux hs ops2 (ops1 ++ [.label n]) (cs1 ++ [.LAB n])
        cs2' tail .normal (setPS st (cs1.length + 1) k1) (by rw [ho]; simp) (by rw [hc]; simp)
        (by rw [Subst.instrCount_append]; simpa [instrCount] using ha) (by simp [setPS]) S' (R.setPS _ _)
      exact ⟨1 + k, stL, by rw [stepN_add mon p 1 k st _ (by rw [stepN_one]; exact hk1)]; exact hk, hL, hout⟩
    -- a real instruction: it is `jumplabel cleanup`
    have hf := fetch_of_split hnodup ho (fun m e => hcm ⟨m, e⟩) (fun n e => hlb ⟨n, e⟩)
    rw [ha] at hf
    obtain ⟨rfl, hv⟩ := step_done_inv hf hs
    simp only [OpRel] at hop
    obtain ⟨rfl, _, _⟩ := hop
    obtain ⟨hg, hrax⟩ := R.ret v hv
    have hidx : labIdx cs "cleanup" = some (hdr ++ body).length := by
      have : cs = (hdr ++ body) ++ Code.LAB "cleanup" :: (epilogue.tail ++ [Code.RET]) := by
        rw [hcs, cleanup_eq]; rfl
      rw [this]
      apply labIdx_append_of_not_mem
      rw [labs_append, W.labs]
      exact hclean
    have hcJ : cs = cs1 ++ Code.JMPL "cleanup" :: (cs2' ++ tail) := by rw [hc]; simp
    obtain ⟨k1, hk1⟩ := step_jump mon L hcJ hi.symm
      (show execCode mon.mach p.labelAddr (.JMPL "cleanup") st = .ok (st, .jumpLabel "cleanup") from rfl) hidx
    have R2 := R.setPS (hdr ++ body).length k1
    have hsp1 : F.st1.regs[0]? = some (some F.sp) := E.pro.rsp
    obtain ⟨st3, e3, S3, hsize3, hrsp3, hcal3, hreg3, hmem3⟩ :=
      prologue_epilogue_machine (la := p.labelAddr) E.entry E.pro R2.bnd.size
        (by rw [R2.bnd.rsp, hsp1]) R2.frame
    have hcE : cs = (hdr ++ body) ++ epilogue ++ [Code.RET] := by rw [hcs, cleanup_eq]; simp
    rw [← hmon] at e3
    obtain ⟨k2, hk2⟩ := steps_block mon L hcE (by simp [setPS]) e3
    have hcR : cs = ((hdr ++ body) ++ epilogue) ++ Code.RET :: [] := by rw [hcE]
    obtain ⟨code', hf', hs'⟩ := L.fetch hcR
    have hcode' := stripC_ret hs'
    subst hcode'
    have hret : retCheck mon.mach (setPS st3 ((hdr ++ body).length + epilogue.length) k2) = .ok v := by
      rw [hmon]
      have hm := E.mtop
      apply retCheck_ok H.cfg E.top8 E.room
      · show st3.regs[0]? = _
        rw [hrsp3, hm]
      · show st3.stackMem[F.c.stackTop - 8]? = _
        rw [hmem3 _ (by rw [hm]; exact Nat.le_refl _)]
        exact E.retw
      · intro r hr
        show st3.regs[r]? = _
        rw [hcal3 r (by simpa [calleeSaved] using hr)]
        exact E.callee r hr
      · show st3.regs[4]? = _
        rw [hreg3 4 (by decide) (by decide) (by decide)]
        show st.regs[4]? = _
        have := hrax
        simp only [tempVal, RETURN1_eq] at this
        cases h4 : st.regs[4]? with
        | none => rw [h4] at this; simp at this
        | some x => rw [h4] at this; simp at this; rw [this]
    refine ⟨1 + epilogue.length, _, ?_, step_ret (by simpa [setPS, Nat.add_assoc] using hf') hret, ?_⟩
    · rw [stepN_add mon p 1 _ st _ (by rw [stepN_one]; exact hk1)]
      exact hk2
    · show st3.out = cfg.out
      rw [S3.out]
      exact R.out

include H hmon L hcs W hnodup hclean E in
/-- THEOREM B, the halting step: jump to `cleanup`, epilogue, `ret` with a successful exit check -/
theorem sim_halt {cfg : Config} {v : Word} {g : Mode} {st : State}
    (hs : Abs.step (Program.ofOps ops) cfg = .halt (.done v)) (R : RepX86 F g cfg st)
    (A : At ops cs cfg.pc st.pc g) :
    ∃ k stL, stepN mon p k st = .inl stL ∧ step mon p stL = .inr (.done v) ∧ stL.out = cfg.out := by
  obtain ⟨ops1, ops2, cs1, cs2, tail, ho, hc, ha, hi, S⟩ := A
  exact sim_halt_aux H hmon L hcs W hnodup hclean E hs ops2 ops1 cs1 cs2 tail g st ho hc ha hi S R

end Halt

end Scc.X86.Ref
