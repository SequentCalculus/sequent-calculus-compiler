/-
  Scc.X86.RefClosHX3 — what the relation `X3R` (RefClosHDefs.lean) does not look at: the program counter
  and step counter of the machine (`X3R.setPS`) and the abstract program counter (`X3R.setPc`).  What a
  step leaves alone is said per position: `KeepPos F n` keeps the abstract temporaries and the machine's
  word temporaries of the first `n` positions; it is `Prov.KeepPos` (Scc/Backend/StepProv.lean) read
  through `tvOf`, and `mach_keep_some` / `mach_keep_none` get its machine half from `Preserved`.
-/
import Scc.X86.RefClosHTr
import Scc.X86.RefStep
import Scc.X86.MemProofsLoad
import Scc.Props.C09Refine
import Scc.Backend.ProofsRep2
import Scc.X86.RefHeapX3
import Scc.Backend.StepProv

namespace Scc.X86.Ref.K

open Scc.AxCut Scc.Backend Scc.Backend.Abs
open Scc.Heap (HState InvS InvW)
open Scc.Heap.Refine (HRef imgW fieldImg kindB)

theorem imgWord_toNat {ι : Nat → Nat} {r : Word} (h : r ≠ 0 → ι r.toNat < 2 ^ 64) :
    (imgWord ι r).toNat = imgW ι r := ThreeWay.imgWord_toNat h

theorem X3R.setPS {F : Frame} {Γ : Ctx} {cfg : Config} {rs : List Nat} {hs : HState} {ι : Nat → Nat} {κ : Nat → Nat → Word}
    {st : State} (X : X3R F Γ cfg rs hs ι κ st) (pc k : Nat) : X3R F Γ cfg rs hs ι κ (setPS st pc k) :=
  ⟨⟨X.bnd.size, X.bnd.rsp, X.bnd.sp⟩, X.cap,
   fun i hi a ha => by rw [tempVal_setPS]; exact X.words i hi a ha,
   fun i hi hc r hr => by rw [tempVal_setPS]; exact X.ptrs i hi hc r hr,
   X.out, X.frame, heapRel_setPS X.hrel pc k, X.href⟩

theorem X3R.setPc {F : Frame} {Γ : Ctx} {cfg : Config} {rs : List Nat} {hs : HState} {ι : Nat → Nat} {κ : Nat → Nat → Word}
    {st : State} (X : X3R F Γ cfg rs hs ι κ st) (pc : Nat) : X3R F Γ { cfg with pc := pc } rs hs ι κ st :=
  ⟨X.bnd, X.cap, X.words, X.ptrs, X.out, X.frame, X.hrel, X.href⟩

/-- the first `n` positions are untouched: their abstract temporaries, and the machine's temporaries that
hold their word parts -/
structure KeepPos (F : Frame) (n : Nat) (cfg cfg' : Config) (st st' : State) : Prop where
  temps : ∀ t, t < 2 * n → cfg'.temps.get t = cfg.temps.get t
  mach : ∀ i, i < n → tempVal F.sp st' (posTemp (2 * i + 1)) = tempVal F.sp st (posTemp (2 * i + 1))

/-- the word the machine holds in the temporary of the abstract temporary `t` (what Scc/Backend/StepProv.lean
sees of the machine) -/
def tvOf (F : Frame) (st : State) : Nat → Option Word := fun t => tempVal F.sp st (posTemp t)

theorem KeepPos.ofT {F : Frame} {n : Nat} {cfg cfg' : Config} {st st' : State}
    (h : Scc.Backend.Prov.KeepPos (tvOf F st) (tvOf F st') n cfg cfg') : KeepPos F n cfg cfg' st st' :=
  ⟨h.temps, h.mach⟩

theorem mach_keep_some {F : Frame} {st st2 : State} {t0 : Nat} (ht0 : t0 < 267)
    (P : Preserved F.sp st st2 (some (posTemp t0))) {t : Nat} (ht : t < 267) (hne : t ≠ t0) :
    tempVal F.sp st2 (posTemp t) = tempVal F.sp st (posTemp t) := by
  have hok := tempOK_posTemp ht0
  have hlt : ∀ q, some (posTemp t0) = some (Temporary.spill q) → q < 256 := by
    intro q e; injection e with e; rw [e] at hok; exact hok.2
  have hok' := tempOK_posTemp ht
  exact P.temp hok'.opnd hok'.ne_temp (fun e => hne (posTemp_inj.1 (Option.some.inj e))) hlt

theorem mach_keep_none {F : Frame} {st st2 : State} (P : Preserved F.sp st st2 none) {t : Nat} (ht : t < 267) :
    tempVal F.sp st2 (posTemp t) = tempVal F.sp st (posTemp t) := by
  have hok := tempOK_posTemp ht
  exact P.temp hok.opnd hok.ne_temp (by simp) (by simp)

end Scc.X86.Ref.K
