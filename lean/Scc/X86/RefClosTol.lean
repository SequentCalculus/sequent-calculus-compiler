/-
  Scc.X86.RefClosTol — the machine "a few no-ops ahead" (C06 on x86-64, `invoke` of a closure of a type
  with ONE method): `jmp reg` to the byte address of the method label lands on the first item of non-zero
  size at that address — labels and comments have size 0, so the machine is `Tol cs X0 X`: at the state `X`,
  which is the statement-boundary state `X0` moved forward over labels and comments.  The simulation
  continues from `X0`; `tol_run` brings the two together again.
-/
import Scc.X86.RefHeapBridge

namespace Scc.X86.Ref

/-- item `i` of the routine has size 0: a label, a comment (or a directive) -/
def NoopAt (cs : List Code) (i : Nat) : Prop := ∃ code, cs[i]? = some code ∧ codeSize code = 0

/-- `X` is `X0` moved forward over labels and comments -/
structure Tol (cs : List Code) (X0 X : State) : Prop where
  le : X0.pc ≤ X.pc
  eq : X = setPS X0 X.pc X0.steps
  noop : ∀ i, X0.pc ≤ i → i < X.pc → NoopAt cs i

/-- `Scc.X86.setPS_self` (ProofsStep.lean) under the name `Scc.X86.Ref.setPS_self`, to which the property
statements refer -/
theorem setPS_self (s : State) : setPS s s.pc s.steps = s := Scc.X86.setPS_self s

theorem Tol.refl (cs : List Code) (X : State) : Tol cs X X := ⟨Nat.le_refl _, rfl, fun i h1 h2 => by omega⟩

theorem Tol.trans {cs : List Code} {a b c : State} (h1 : Tol cs a b) (h2 : Tol cs b c) : Tol cs a c := by
  refine ⟨Nat.le_trans h1.le h2.le, ?_, ?_⟩
  · have e1 := h1.eq
    have e2 := h2.eq
    rw [e2, e1]
    rfl
  · intro i hi1 hi2
    by_cases h : i < b.pc
    · exact h1.noop i hi1 h
    · exact h2.noop i (by omega) hi2

section
variable (m : MonCfg) {p : Prog} {cs : List Code} (L : Loaded p cs)

include L in
theorem noop_step {s : State} (h : NoopAt cs s.pc) : step m p s = .inl (setPS s (s.pc + 1) s.steps) := by
  have hc := L.code s.pc
  obtain ⟨code, hl, hz⟩ := h
  rw [hl] at hc
  cases hp : p.code[s.pc]? with
  | none => rw [hp] at hc; cases hc
  | some code' =>
    rw [hp] at hc
    simp only [Option.map_some, Option.some.injEq] at hc
    have hz' : codeSize code' = 0 := by rw [← codeSize_strip, hc, codeSize_strip]; exact hz
    cases code' <;> simp [codeSize] at hz' <;> simp [step, hp, execCode, codeSize, setPS]

include L in
theorem noop_steps : ∀ (d : Nat) (s : State), (∀ i, s.pc ≤ i → i < s.pc + d → NoopAt cs i) →
    stepN m p d s = .inl (setPS s (s.pc + d) s.steps)
  | 0, s, _ => rfl
  | d + 1, s, h => by
    simp only [stepN]
    rw [noop_step m L (h s.pc (Nat.le_refl _) (by omega))]
    simp only
    have := noop_steps d (setPS s (s.pc + 1) s.steps) (fun i h1 h2 => h i (by simp [setPS] at h1; omega)
      (by simp [setPS] at h2; omega))
    rw [this]
    simp only [setPS]
    congr 2
    omega

include L in
theorem Tol.steps {X0 X : State} (T : Tol cs X0 X) : stepN m p (X.pc - X0.pc) X0 = .inl X := by
  rw [noop_steps m L (X.pc - X0.pc) X0 (fun i h1 h2 => T.noop i h1 (by have := T.le; omega))]
  have : X0.pc + (X.pc - X0.pc) = X.pc := by have := T.le; omega
  rw [this, ← T.eq]

include L in
/-- the simulation runs from the boundary state `X0`, the machine is at `X`: either the machine reaches the
new state, or the new state is still behind the machine (only labels and comments were passed) -/
theorem tol_run {X0 X X1 : State} (T : Tol cs X0 X) {n : Nat} (h : stepN m p n X0 = .inl X1) :
    (∃ k, stepN m p k X = .inl X1) ∨ Tol cs X1 X := by
  by_cases hn : X.pc - X0.pc ≤ n
  · left
    refine ⟨n - (X.pc - X0.pc), ?_⟩
    have := stepN_add m p (X.pc - X0.pc) (n - (X.pc - X0.pc)) X0 X (T.steps m L)
    rw [show X.pc - X0.pc + (n - (X.pc - X0.pc)) = n by omega] at this
    rw [← this]; exact h
  · right
    have hle := T.le
    have h1 := noop_steps m L n X0 (fun i h1 h2 => T.noop i h1 (by omega))
    rw [h1] at h
    injection h with h
    subst h
    refine ⟨by simp [setPS]; omega, ?_, ?_⟩
    · conv => lhs; rw [T.eq]
      rfl
    · intro i hi1 hi2
      exact T.noop i (by simp [setPS] at hi1; omega) hi2

end

end Scc.X86.Ref
