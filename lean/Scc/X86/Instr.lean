/-
  Scc.X86.Instr — the instruction type of the x86-64 backend and its printer.
  Modelled source: /repo/lang/axcut2x86_64/src/code.rs (`enum Code`, `impl Print for Code`) and
  /repo/lang/axcut2x86_64/src/config.rs (`Register`, `Spill`, `Temporary`, `Immediate` and their
  `Print` impls).  Shared by the machine model (Machine.lean parses text INTO this type) and the
  backend model (Backend.lean produces lists of it).  Core imports only; executable.

  Registers are the backend's numbers `Register(n)`; immediates are `Int` (Rust: i64).
-/
namespace Scc.X86

/-- config.rs: struct Register(pub usize) -/
abbrev Reg := Nat

/-- config.rs: impl Print for Register -/
def regName : Reg → String
  | 0 => "rsp" | 1 => "rcx" | 2 => "rbx" | 3 => "rbp"
  | 4 => "rax" | 5 => "rdx" | 6 => "rsi" | 7 => "rdi"
  | n => "r" ++ toString n

/-- config.rs: enum Temporary { Register(Register), Spill(Spill) } -/
inductive Temporary where
  | reg (r : Nat)
  | spill (p : Nat)
  deriving DecidableEq, Repr, BEq, Inhabited

/-- code.rs: enum Code (same constructor names and argument order as the Rust enum) -/
inductive Code where
  | ADD (r r1 : Nat)
  | ADDRM (r r1 : Nat) (i : Int)
  | ADDMR (r1 : Nat) (i : Int) (r : Nat)
  | ADDI (r : Nat) (i : Int)
  | ADDIM (r : Nat) (i1 i2 : Int)
  | SUB (r r1 : Nat)
  | SUBRM (r r1 : Nat) (i : Int)
  | SUBMR (r1 : Nat) (i : Int) (r : Nat)
  | SUBI (r : Nat) (i : Int)
  | IMUL (r r1 : Nat)
  | IMULRM (r r1 : Nat) (i : Int)
  | IMULMR (r1 : Nat) (i : Int) (r : Nat)
  | IDIV (r : Nat)
  | IDIVM (r : Nat) (i : Int)
  | CQO
  | JMP (r : Nat)
  | JMPL (l : String)
  | JMPLN (l : String)
  | LEAL (r : Nat) (l : String)
  | MOV (r r1 : Nat)
  /-- `mov [r1 + i], r` (store) -/
  | MOVS (r r1 : Nat) (i : Int)
  /-- `mov r, [r1 + i]` (load) -/
  | MOVL (r r1 : Nat) (i : Int)
  | MOVI (r : Nat) (i : Int)
  | MOVIM (r : Nat) (i1 i2 : Int)
  | CMP (r r1 : Nat)
  | CMPRM (r r1 : Nat) (i : Int)
  | CMPMR (r : Nat) (i : Int) (r1 : Nat)
  | CMPI (r : Nat) (i : Int)
  | CMPIM (r : Nat) (i1 i2 : Int)
  | JEL (l : String)
  | JNEL (l : String)
  | JLL (l : String)
  | JLEL (l : String)
  | JGL (l : String)
  | JGEL (l : String)
  | PUSH (r : Nat)
  | POP (r : Nat)
  | CALL (f : String)
  | RET
  | LAB (l : String)
  | NOEXECSTACK
  | TEXT
  | GLOBAL (l : String)
  | EXTERN (f : String)
  | COMMENT (msg : String)
  deriving DecidableEq, Repr, Inhabited

/-- `i32::try_from(val).is_ok()` on an `i64` value (code.rs load_immediate); also the range of every
immediate / displacement field except the one of `mov r64, imm64` (Machine.lean). -/
def fitsI32 (i : Int) : Bool := decide (-2147483648 ≤ i) && decide (i ≤ 2147483647)
/-- the range of `i64` (`Immediate.val`) = the immediate field of `mov r64, imm64` -/
def fitsI64 (i : Int) : Bool := decide (-9223372036854775808 ≤ i) && decide (i ≤ 9223372036854775807)

/-- config.rs: impl Print for Immediate (`format!("{}", val)`) -/
def immStr (i : Int) : String := toString i

def INDENT : String := "    "

/-- `[r + i]` -/
def memStr (r : Reg) (i : Int) : String := "[" ++ regName r ++ " + " ++ immStr i ++ "]"

/-- code.rs: impl Print for Code.  NOTE `CMPRM` has no space after the `+`, and `LAB` starts with
    a hard line break (an empty line precedes every label). -/
def printCode : Code → String
  | .ADD r r1 => INDENT ++ "add " ++ regName r ++ ", " ++ regName r1
  | .ADDRM r r1 i => INDENT ++ "add " ++ regName r ++ ", " ++ memStr r1 i
  | .ADDMR r1 i r => INDENT ++ "add " ++ memStr r1 i ++ ", " ++ regName r
  | .ADDI r i => INDENT ++ "add " ++ regName r ++ ", " ++ immStr i
  | .ADDIM r i1 i2 => INDENT ++ "add qword " ++ memStr r i1 ++ ", " ++ immStr i2
  | .SUB r r1 => INDENT ++ "sub " ++ regName r ++ ", " ++ regName r1
  | .SUBRM r r1 i => INDENT ++ "sub " ++ regName r ++ ", " ++ memStr r1 i
  | .SUBMR r1 i r => INDENT ++ "sub " ++ memStr r1 i ++ ", " ++ regName r
  | .SUBI r i => INDENT ++ "sub " ++ regName r ++ ", " ++ immStr i
  | .IMUL r r1 => INDENT ++ "imul " ++ regName r ++ ", " ++ regName r1
  | .IMULRM r r1 i => INDENT ++ "imul " ++ regName r ++ ", " ++ memStr r1 i
  | .IMULMR r1 i r => INDENT ++ "imul " ++ memStr r1 i ++ ", " ++ regName r
  | .IDIV r => INDENT ++ "idiv " ++ regName r
  | .IDIVM r i => INDENT ++ "idiv qword " ++ memStr r i
  | .CQO => INDENT ++ "cqo"
  | .JMP r => INDENT ++ "jmp " ++ regName r
  | .JMPL l => INDENT ++ "jmp " ++ l
  | .JMPLN l => INDENT ++ "jmp near " ++ l
  | .LEAL r l => INDENT ++ "lea " ++ regName r ++ ", [rel " ++ l ++ "]"
  | .MOV r r1 => INDENT ++ "mov " ++ regName r ++ ", " ++ regName r1
  | .MOVS r r1 i => INDENT ++ "mov " ++ memStr r1 i ++ ", " ++ regName r
  | .MOVL r r1 i => INDENT ++ "mov " ++ regName r ++ ", " ++ memStr r1 i
  | .MOVI r i => INDENT ++ "mov " ++ regName r ++ ", " ++ immStr i
  | .MOVIM r i1 i2 => INDENT ++ "mov qword " ++ memStr r i1 ++ ", " ++ immStr i2
  | .CMP r r1 => INDENT ++ "cmp " ++ regName r ++ ", " ++ regName r1
  | .CMPRM r r1 i => INDENT ++ "cmp " ++ regName r ++ ", [" ++ regName r1 ++ " +" ++ immStr i ++ "]"
  | .CMPMR r i r1 => INDENT ++ "cmp " ++ memStr r i ++ ", " ++ regName r1
  | .CMPI r i => INDENT ++ "cmp " ++ regName r ++ ", " ++ immStr i
  | .CMPIM r i1 i2 => INDENT ++ "cmp qword " ++ memStr r i1 ++ ", " ++ immStr i2
  | .JEL l => INDENT ++ "je " ++ l
  | .JNEL l => INDENT ++ "jne " ++ l
  | .JLL l => INDENT ++ "jl " ++ l
  | .JLEL l => INDENT ++ "jle " ++ l
  | .JGL l => INDENT ++ "jg " ++ l
  | .JGEL l => INDENT ++ "jge " ++ l
  | .PUSH r => INDENT ++ "push " ++ regName r
  | .POP r => INDENT ++ "pop " ++ regName r
  | .CALL f => INDENT ++ "call " ++ f
  | .RET => INDENT ++ "ret"
  | .LAB l => "\n" ++ l ++ ":"
  | .NOEXECSTACK => "section .note.GNU-stack noalloc noexec nowrite progbits"
  | .TEXT => "section .text"
  | .GLOBAL l => "global " ++ l
  | .EXTERN f => "extern " ++ f
  | .COMMENT msg => INDENT ++ "; " ++ msg

/-- /repo/lang/axcut2backend/src/coder.rs: impl Print for AssemblyProg (`intersperse(instructions, line())`) -/
def printProg (cs : List Code) : String := "\n".intercalate (cs.map printCode)

end Scc.X86
