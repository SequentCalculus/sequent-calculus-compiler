/-
  Scc.X86.MemProofsHeap — the view (MemProofsView.lean) against the heap model Scc/Heap/Model.lean: when a
  view state represents an abstract heap (`HRelM`), the model's `rd`/`wr` are heap loads / stores of the
  view, and `erase_block` and `acquire_block` (memory.rs) do on the view, then on the machine, what
  `Scc.Heap.eraseBlock` and `Scc.Heap.acquire` do on the model.  The three cases of `acquire` are proved once
  for all backends (`Scc.Mem.AcqSpec.acquire_does`); this file supplies the view machine as a `Scc.Mem.View`
  and the code and the contracts of the leaves.  The labels a piece of code defines (`LabsIn`, `NoLab`) are
  the notions of `Scc.Mem` at `Code.LAB`.
-/
import Scc.X86.MemProofsView
import Scc.Heap.Access
import Scc.Backend.ProofsGen
import Scc.X86.ProofsWf
import Scc.X86.MemCode
import Scc.Mem.Acquire

set_option linter.unusedSimpArgs false

namespace Scc.X86

export Scc.Heap (heap_storeFields_nil heap_storeFields_cons heap_loadFields_nil heap_loadFields_cons)

open Scc.Backend (GenM TempNum freshLabel)
open Scc.Heap (HOk rd_eq_ok wr_eq_ok)

theorem HEAP_eq : HEAP = 2 := rfl
theorem FREE_eq : FREE = 3 := rfl
theorem regOpnd1 : regOpnd 1 = some (.reg 1) := by decide
theorem regOpnd2 : regOpnd 2 = some (.reg 2) := by decide
theorem regOpnd3 : regOpnd 3 = some (.reg 3) := by decide
theorem regOpnd4 : regOpnd 4 = some (.reg 4) := by decide

/-- the heap region is 8-aligned and lies below 2^63 (so heap addresses never wrap) -/
structure HeapCfgOK (c : MachCfg) : Prop where
  base8 : c.heapBase % 8 = 0
  top : c.heapBase + c.heapBytes ≤ 2 ^ 63

theorem heapCfgOK_of_boundary {c : MachCfg} {st : State} {sp : Word} (h8 : c.heapBase % 8 = 0)
    (B : Boundary c st sp) : HeapCfgOK c := by
  refine ⟨h8, ?_⟩
  have h1 := B.sp.cfg.heapBelow
  have h2 := B.sp.cfg.top
  have h3 := B.sp.low
  have h4 := B.sp.high
  omega

/-- view state `μ` represents the abstract heap `h` -/
structure HRelM (c : MachCfg) (μ : MState) (h : Scc.Heap.HState) : Prop where
  base : h.base = c.heapBase
  limit : h.limit = c.heapBase + c.heapBytes
  mem : ∀ a, h.mem.get a = (μ.heap a).toNat
  heap : ∃ w, μ.val (.reg HEAP) = some w ∧ w.toNat = h.heap
  free : ∃ w, μ.val (.reg FREE) = some w ∧ w.toNat = h.free

theorem heapRel_mview {c : MachCfg} {sp : Word} {st : State} {h : Scc.Heap.HState} (R : HeapRel c st h) :
    HRelM c (mview sp st) h := by
  obtain ⟨wh, hwh, ewh⟩ := R.heap
  obtain ⟨wf, hwf, ewf⟩ := R.free
  refine ⟨R.base, R.limit, R.mem, ⟨wh, ?_, ewh⟩, ⟨wf, ?_, ewf⟩⟩
  · unfold regIs at hwh; simp [mview, tempVal, hwh]
  · unfold regIs at hwf; simp [mview, tempVal, hwf]

theorem heapRel_of_mrep {c : MachCfg} {sp : Word} {st : State} {μ : MState} {h : Scc.Heap.HState}
    (M : MRep c sp st μ) (H : HRelM c μ h) : HeapRel c st h := by
  obtain ⟨wh, hwh, ewh⟩ := H.heap
  obtain ⟨wf, hwf, ewf⟩ := H.free
  refine ⟨H.base, H.limit, fun a => by rw [M.heap]; exact H.mem a,
    ⟨wh, M.regIs (by decide) (by decide) hwh, ewh⟩, ⟨wf, M.regIs (by decide) (by decide) hwf, ewf⟩⟩

section Prim
variable {c : MachCfg} {μ : MState} {h : Scc.Heap.HState}

theorem haddr_ok (C : HeapCfgOK c) (H : HRelM c μ h) {x : Word} {off : Nat} (ho : off < 2 ^ 31)
    (hok : HOk h (x.toNat + off)) : haddr c x (off : Int) = some (x.toNat + off) := by
  obtain ⟨h1, h2, h3⟩ := hok
  rw [H.base] at h1 h3
  rw [H.limit] at h2
  have hb := C.base8
  have ht := C.top
  have hfit : fitsI32 (off : Int) = true := by
    simp only [fitsI32, Bool.and_eq_true, decide_eq_true_eq]; omega
  have hsum : (x + BitVec.ofInt 64 (off : Int)).toNat = x.toNat + off := by
    rw [BitVec.ofInt_natCast, BitVec.toNat_add, BitVec.toNat_ofNat]
    omega
  unfold haddr
  rw [hsum, if_pos]
  refine ⟨hfit, by omega, ?_⟩
  simp only [inHeap, Bool.and_eq_true, decide_eq_true_eq]
  omega

theorem haddr_ok0 (C : HeapCfgOK c) (H : HRelM c μ h) {x : Word} (hok : HOk h x.toNat) :
    haddr c x 0 = some x.toNat := by
  have := haddr_ok C H (x := x) (off := 0) (by decide) (by simpa using hok)
  simpa using this

theorem HRelM.setH (H : HRelM c μ h) (a : Nat) (w : Word) :
    HRelM c (μ.setH a w) { h with mem := h.mem.set a w.toNat } := by
  refine ⟨H.base, H.limit, fun b => ?_, H.heap, H.free⟩
  simp only [Scc.Heap.Mem.get_set, MState.setH_heap]
  by_cases e : a = b
  · subst e; simp
  · have : ¬ b = a := fun h => e h.symm
    simp [e, this, H.mem b]

end Prim

section Erase
variable {c : MachCfg} {μ : MState} {h h' : Scc.Heap.HState}

theorem m_erase_null {r : Nat} (h1 : 1 ≤ r) (h2 : r < 16) (hv : μ.val (.reg r) = some 0)
    (l1 l2 l3 : String) (h13 : l1 ≠ l3) (h23 : l2 ≠ l3) :
    mFwd c (eraseCode r l1 l2 l3) μ = some (μ.setF (some (0, 0)), .next) := by
  have hro : regOpnd r = some (.reg r) := regOpnd_of ⟨h1, h2⟩
  simp [eraseCode, eraseInner, mFwd_cons, mFwd_nil, mcont, mexecC, mexec, hro, hv, skipTo, h13, h23,
    fitsI32]

theorem HRelM.setF (H : HRelM c μ h) (f : Option (Word × Word)) : HRelM c (μ.setF f) h :=
  ⟨H.base, H.limit, H.mem, H.heap, H.free⟩

/-- CONTRACT of `erase_block` on the view, pointer in ANY register `r` (also TEMP): the code runs to
its end, the result represents `Scc.Heap.eraseBlock`, only FREE, the flags and the header word change -/
theorem m_erase (C : HeapCfgOK c) (H : HRelM c μ h) {r : Nat} (h1 : 1 ≤ r) (h2 : r < 16) {p : Word}
    (hv : μ.val (.reg r) = some p) (hop : Scc.Heap.eraseBlock h p.toNat = .ok h')
    (l1 l2 l3 : String) (h12 : l1 ≠ l2) (h13 : l1 ≠ l3) (h23 : l2 ≠ l3) :
    ∃ μ', mFwd c (eraseCode r l1 l2 l3) μ = some (μ', .next) ∧ HRelM c μ' h' ∧
      (∀ u, u ≠ .reg FREE → μ'.val u = μ.val u) := by
  by_cases hp : p = 0
  · subst hp
    have : h' = h := by
      simp [Scc.Heap.eraseBlock] at hop
      exact hop.symm
    subst this
    exact ⟨_, m_erase_null h1 h2 hv l1 l2 l3 h13 h23, H.setF _, fun _ _ => rfl⟩
  · have hp' : p.toNat ≠ 0 := fun e => hp (BitVec.eq_of_toNat_eq (by simpa using e))
    have hro : regOpnd r = some (.reg r) := regOpnd_of ⟨h1, h2⟩
    have hpz : ¬ p = 0#64 := hp
    have hr0 : ¬ r = 0 := by omega
    unfold Scc.Heap.eraseBlock at hop
    rw [if_neg hp'] at hop
    cases hrd : Scc.Heap.rd h p.toNat with
    | error f => simp [hrd] at hop
    | ok cnt =>
      simp only [hrd] at hop
      obtain ⟨hok, hcnt⟩ := rd_eq_ok.1 hrd
      have ha : haddr c p 0 = some p.toNat := haddr_ok0 C H hok
      have hm : maddr c μ r 0 = some p.toNat := by simp [maddr, h1, h2, hv, ha]
      obtain ⟨wf, hwf, ewf⟩ := H.free
      rw [FREE_eq] at hwf
      by_cases hc0 : cnt = 0
      · subst hc0
        have hw0 : μ.heap p.toNat = 0#64 := BitVec.eq_of_toNat_eq (by rw [← H.mem, ← hcnt]; rfl)
        simp only [if_true] at hop
        cases hwr : Scc.Heap.wr h p.toNat h.free with
        | error e => simp [hwr] at hop
        | ok hh =>
          simp only [hwr, Except.ok.injEq] at hop
          obtain ⟨_, rfl⟩ := wr_eq_ok.1 hwr
          subst hop
          refine ⟨((μ.setF (some (0, 0))).setH p.toNat wf).setT (.reg 3) (some p), ?_, ?_, ?_⟩
          · simp [eraseCode, eraseInner, mFwd_cons, mFwd_nil, mcont, mexecC, mexec, hro, hv, skipTo, h12,
              h13, h23, fitsI32, hpz, hr0, hm, hw0, maddr, h1, h2, ha, FREE_eq, regOpnd, hwf]
          · obtain ⟨wh, hwh, ewh⟩ := H.heap
            rw [HEAP_eq] at hwh
            have := (H.setF (some (0, 0))).setH p.toNat wf
            rw [ewf] at this
            exact ⟨this.base, this.limit, this.mem, ⟨wh, by simp [HEAP_eq, hwh], ewh⟩,
              ⟨p, by simp [FREE_eq], rfl⟩⟩
          · intro u hu
            rw [FREE_eq] at hu
            simp [hu]
      · have hw0 : ¬ μ.heap p.toNat = 0#64 := fun e => hc0 (by rw [hcnt, H.mem, e]; rfl)
        rw [if_neg hc0] at hop
        obtain ⟨_, rfl⟩ := wr_eq_ok.1 hop
        have hw : (μ.heap p.toNat + BitVec.ofInt 64 (-1)).toNat = cnt - 1 := by
          rw [toNat_add_neg_one _ hw0, hcnt, H.mem]
        refine ⟨(μ.setH p.toNat (μ.heap p.toNat + BitVec.ofInt 64 (-1))).setF none, ?_, ?_,
          fun _ _ => rfl⟩
        · simp [eraseCode, eraseInner, mFwd_cons, mFwd_nil, mcont, mexecC, mexec, hro, hv, skipTo, h12,
            h13, h23, fitsI32, hpz, hr0, hm, hw0, FREE_eq, regOpnd, maddr, h1, h2, ha]
        · have := (H.setH p.toNat (μ.heap p.toNat + BitVec.ofInt 64 (-1))).setF none
          rw [hw] at this
          exact this

end Erase

def LabsIn (code : List Code) (lo hi : Nat) : Prop :=
  ∀ l, Code.LAB l ∈ code → ∃ n, l = labName n ∧ lo < n ∧ n ≤ hi

/-- no label is defined in the code (`Scc.Mem.NoLab` at `Code.LAB`: `noLab_iff`; `Scc.X86.CC.NoLab` of
CCProofsRun.lean says the same through `isLab`) -/
def NoLab (code : List Code) : Prop := ∀ l, Code.LAB l ∉ code

theorem labsIn_iff {code : List Code} {lo hi : Nat} : LabsIn code lo hi ↔ Scc.Mem.LabsIn Code.LAB code lo hi :=
  Iff.rfl

theorem noLab_iff {code : List Code} : NoLab code ↔ Scc.Mem.NoLab Code.LAB code := Iff.rfl

theorem skipTo_none_of_not_mem {l : String} : ∀ {code : List Code}, Code.LAB l ∉ code → skipTo l code = none
  | [], _ => rfl
  | cd :: cs, h => by
    have h1 : cd ≠ Code.LAB l := fun e => h (by simp [e])
    have h2 : Code.LAB l ∉ cs := fun e => h (by simp [e])
    cases cd <;> simp only [skipTo] <;> try exact skipTo_none_of_not_mem h2
    case LAB l' =>
      have : l' ≠ l := fun e => h1 (by rw [e])
      rw [if_neg this]
      exact skipTo_none_of_not_mem h2

theorem LabsIn.skipTo_none {code : List Code} {lo hi n : Nat} (L : LabsIn code lo hi)
    (hn : n ≤ lo ∨ hi < n) : skipTo (labName n) code = none := by
  apply skipTo_none_of_not_mem
  intro hm
  obtain ⟨m, e, h1, h2⟩ := L _ hm
  have := labName_inj.1 e
  omega

theorem LabsIn.nil (lo hi : Nat) : LabsIn [] lo hi := labsIn_iff.2 (Scc.Mem.NoLab.nil.labsIn lo hi)

theorem LabsIn.append {a b : List Code} {lo hi : Nat} (ha : LabsIn a lo hi) (hb : LabsIn b lo hi) :
    LabsIn (a ++ b) lo hi := labsIn_iff.2 ((labsIn_iff.1 ha).append (labsIn_iff.1 hb))

theorem LabsIn.mono {a : List Code} {lo hi lo' hi' : Nat} (ha : LabsIn a lo hi) (h1 : lo' ≤ lo)
    (h2 : hi ≤ hi') : LabsIn a lo' hi' := labsIn_iff.2 ((labsIn_iff.1 ha).mono h1 h2)

theorem NoLab.append {a b : List Code} (ha : NoLab a) (hb : NoLab b) : NoLab (a ++ b) :=
  noLab_iff.2 ((noLab_iff.1 ha).append (noLab_iff.1 hb))

theorem NoLab.labsIn {a : List Code} (h : NoLab a) (lo hi : Nat) : LabsIn a lo hi :=
  labsIn_iff.2 ((noLab_iff.1 h).labsIn lo hi)

theorem LabsIn.of_noLab {a : List Code} (lo hi : Nat) (h : ∀ l, Code.LAB l ∉ a) : LabsIn a lo hi :=
  NoLab.labsIn h lo hi

theorem LabsIn.cons_lab {a : List Code} {lo hi n : Nat} (ha : LabsIn a lo hi) (h1 : lo < n) (h2 : n ≤ hi) :
    LabsIn (.LAB (labName n) :: a) lo hi := labsIn_iff.2 ((labsIn_iff.1 ha).cons_lab Code.LAB.inj h1 h2)

theorem LabsIn.cons_other {a : List Code} {lo hi : Nat} {cd : Code} (ha : LabsIn a lo hi)
    (h : ∀ l, cd ≠ .LAB l) : LabsIn (cd :: a) lo hi := labsIn_iff.2 ((labsIn_iff.1 ha).cons_other h)

theorem labsIn_eraseCode (r k : Nat) :
    LabsIn (eraseCode r (labName (k + 1)) (labName (k + 2)) (labName (k + 3))) k (k + 3) := by
  intro l h
  simp only [eraseCode, eraseInner, List.mem_cons, List.mem_append, reduceCtorEq, false_or, or_false,
    Code.LAB.injEq, List.not_mem_nil] at h
  rcases h with (h | h) | h
  · exact ⟨k + 1, h, by omega, by omega⟩
  · exact ⟨k + 2, h, by omega, by omega⟩
  · exact ⟨k + 3, h, by omega, by omega⟩

theorem fieldOffset_nat (n : TempNum) (i : Nat) :
    fieldOffset n i = ((Scc.Heap.fieldOffset n.toNat i : Nat) : Int) := by
  rw [fieldOffset_eq]; simp [Scc.Heap.fieldOffset]

theorem fieldOffset_fst (i : Nat) : fieldOffset .fst i = ((Scc.Heap.fstOff i : Nat) : Int) :=
  fieldOffset_nat .fst i

/-- the code that erases child `i` of the block in register `blk` (labels `k+1 … k+3`) -/
def eraseFieldCode (blk i k : Nat) : List Code :=
  [.COMMENT ("#####check child " ++ toString (i + 1) ++ " for erasure"),
   .MOVL TEMP blk (fieldOffset .fst i)] ++
    eraseCode TEMP (labName (k + 1)) (labName (k + 2)) (labName (k + 3))

theorem labsIn_eraseFieldCode (blk i k : Nat) : LabsIn (eraseFieldCode blk i k) k (k + 3) :=
  (labsIn_eraseCode TEMP k).cons_other (by simp) |>.cons_other (by simp)

section EraseFields
variable {c : MachCfg} {μ : MState} {h h' : Scc.Heap.HState}

theorem HRelM.setT (H : HRelM c μ h) {t : Temporary} (h1 : t ≠ .reg HEAP) (h2 : t ≠ .reg FREE)
    (v : Option Word) : HRelM c (μ.setT t v) h := by
  obtain ⟨wh, hwh, ewh⟩ := H.heap
  obtain ⟨wf, hwf, ewf⟩ := H.free
  exact ⟨H.base, H.limit, H.mem, ⟨wh, by simp [Ne.symm h1, hwh], ewh⟩, ⟨wf, by simp [Ne.symm h2, hwf], ewf⟩⟩

theorem maddr_eq {b : Nat} (h1 : 1 ≤ b) (h2 : b < 16) {x : Word} (hv : μ.val (.reg b) = some x) (i : Int) :
    maddr c μ b i = haddr c x i := by
  simp [maddr, h1, h2, hv]

/-- one child: `TEMP := [blk + fst i]; erase TEMP` -/
theorem m_eraseField (C : HeapCfgOK c) (H : HRelM c μ h) {blk : Nat} (hb1 : 2 ≤ blk) (hb2 : blk < 16)
    {b : Word} (hv : μ.val (.reg blk) = some b) {i : Nat} (hi : i < 3) {c0 : Nat}
    (hrd : Scc.Heap.rd h (b.toNat + Scc.Heap.fstOff i) = .ok c0)
    (hop : Scc.Heap.eraseBlock h c0 = .ok h') (k : Nat) :
    ∃ μ', mFwd c (eraseFieldCode blk i k) μ = some (μ', .next) ∧ HRelM c μ' h' ∧
      (∀ u, u ≠ .reg FREE → u ≠ .reg TEMP → μ'.val u = μ.val u) := by
  obtain ⟨hok, hc0⟩ := rd_eq_ok.1 hrd
  have hoff : Scc.Heap.fstOff i < 2 ^ 31 := by simp [Scc.Heap.fstOff, Scc.Heap.fieldOffset]; omega
  have ha := haddr_ok C H hoff hok
  have hm : maddr c μ blk (fieldOffset .fst i) = some (b.toNat + Scc.Heap.fstOff i) := by
    rw [maddr_eq (by omega) hb2 hv, fieldOffset_fst, ha]
  have hb0 : ¬ blk = 0 := by omega
  let μ1 := μ.setT (.reg 1) (some (μ.heap (b.toNat + Scc.Heap.fstOff i)))
  have e1 : mFwd c [.COMMENT ("#####check child " ++ toString (i + 1) ++ " for erasure"),
      .MOVL TEMP blk (fieldOffset .fst i)] μ = some (μ1, .next) := by
    simp [mFwd_cons, mFwd_nil, mcont, mexecC, mexec, hb0, hm, regOpnd, TEMP_eq, μ1]
  have H1 : HRelM c μ1 h := H.setT (by simp [HEAP_eq]) (by simp [FREE_eq]) _
  have hv1 : μ1.val (.reg TEMP) = some (μ.heap (b.toNat + Scc.Heap.fstOff i)) := by simp [μ1, TEMP_eq]
  have hop1 : Scc.Heap.eraseBlock h (μ.heap (b.toNat + Scc.Heap.fstOff i)).toNat = .ok h' := by
    rw [← H.mem, ← hc0]; exact hop
  have l12 : labName (k + 1) ≠ labName (k + 2) := fun e => by have := labName_inj.mp e; omega
  have l13 : labName (k + 1) ≠ labName (k + 3) := fun e => by have := labName_inj.mp e; omega
  have l23 : labName (k + 2) ≠ labName (k + 3) := fun e => by have := labName_inj.mp e; omega
  obtain ⟨μ', e2, H2, F2⟩ := m_erase C H1 (r := TEMP) (by decide) (by decide) hv1 hop1 _ _ _ l12 l13 l23
  refine ⟨μ', mFwd_seq c e1 e2, H2, fun u hF hT => ?_⟩
  rw [F2 u hF]
  rw [TEMP_eq] at hT
  simp [μ1, hT]

end EraseFields

theorem mFwd_pre (c : MachCfg) {pre rest : List Code} {μ μ1 : MState}
    (h : mFwd c pre μ = some (μ1, .next)) : mFwd c (pre ++ rest) μ = mFwd c rest μ1 :=
  mFwd_seq c h rfl

theorem jumpReg_bounds {t : Temporary} (ht : TempOK t) :
    1 ≤ jumpReg t ∧ jumpReg t < 16 ∧ jumpReg t ≠ 2 ∧ jumpReg t ≠ 3 ∧ jumpReg t ≠ 0 := by
  cases t with
  | reg r => have := ht.1; have := ht.2; simp only [jumpReg]; omega
  | spill p => simp [jumpReg, TEMP_eq]

theorem tempOK_ne {t : Temporary} (ht : TempOK t) :
    t ≠ .reg 1 ∧ t ≠ .reg 2 ∧ t ≠ .reg 3 := by
  cases t with
  | reg r =>
    have := ht.1
    refine ⟨?_, ?_, ?_⟩ <;> (intro e; injection e with e; omega)
  | spill p => simp

section Acquire
variable {c : MachCfg} {μ : MState} {h h' : Scc.Heap.HState}

theorem m_acquireHead {t : Temporary} (ht : TempOK t) {wH : Word} (hH : μ.val (.reg 2) = some wH) :
    ∃ μ1, mFwd c (Mem.acquireHead t) μ = some (μ1, .next) ∧ μ1.val t = some wH ∧
      μ1.val (.reg (jumpReg t)) = some wH ∧ μ1.heap = μ.heap ∧
      (∀ u, u ≠ t → u ≠ .reg TEMP → μ1.val u = μ.val u) := by
  cases t with
  | reg r =>
    have hro : regOpnd r = some (.reg r) := regOpnd_of ht.opnd
    refine ⟨μ.setT (.reg r) (some wH), ?_, by simp, by simp [jumpReg], rfl, fun u hu _ => by simp [hu]⟩
    simp [Mem.acquireHead, mFwd_cons, mFwd_nil, mcont, mexecC, mexec, hro, HEAP_eq, regOpnd2, hH]
  | spill p =>
    have hmo : memOpnd 0 (stackOffset p) = some (.spill p) := memOpnd_of ht.opnd
    refine ⟨(μ.setT (.reg 1) (some wH)).setT (.spill p) (some wH), ?_, by simp, by simp [jumpReg, TEMP_eq],
      rfl, fun u hu hT => by rw [TEMP_eq] at hT; simp [hu, hT]⟩
    simp [Mem.acquireHead, mFwd_cons, mFwd_nil, mcont, mexecC, mexec, hmo, HEAP_eq, TEMP_eq, STACK_eq, regOpnd1,
      regOpnd2, hH]

theorem toNat_add_64 (w : Word) (hw : w.toNat + 64 < 2 ^ 64) :
    (w + BitVec.ofInt 64 64).toNat = w.toNat + 64 := by
  have := toNat_add_ofInt_nat w 64 hw
  simpa using this

theorem HRelM.of_frame {μ' : MState} (H : HRelM c μ h) (hh : μ'.heap = μ.heap)
    (h1 : μ'.val (.reg HEAP) = μ.val (.reg HEAP)) (h2 : μ'.val (.reg FREE) = μ.val (.reg FREE)) :
    HRelM c μ' h := by
  obtain ⟨wh, hwh, ewh⟩ := H.heap
  obtain ⟨wf, hwf, ewf⟩ := H.free
  exact ⟨H.base, H.limit, fun a => by rw [hh]; exact H.mem a, ⟨wh, by rw [h1]; exact hwh, ewh⟩,
    ⟨wf, by rw [h2]; exact hwf, ewf⟩⟩

/-- HEAP (`false`) or FREE (`true`) holds the model's register -/
theorem HRelM.sel (H : HRelM c μ h) (b : Bool) :
    ∃ w, μ.val (.reg (if b then FREE else HEAP)) = some w ∧ w.toNat = (if b then h.free else h.heap) := by
  cases b with
  | false => exact H.heap
  | true => exact H.free

@[reducible] def acqCode : Scc.Mem.AcqCode Code Temporary where
  lab := .LAB
  comment := .COMMENT
  head := Mem.acquireHead
  ldNextH := [.MOVL HEAP HEAP NEXT_ELEMENT_OFFSET]
  ite := fun b tb eb k => Mem.ifZeroThenElseC (if b then FREE else HEAP) none tb eb k
  initRc := fun t => [.MOVIM (jumpReg t) REFERENCE_COUNT_OFFSET 0]
  takeLazy := [.MOV HEAP FREE, .MOVL FREE FREE NEXT_ELEMENT_OFFSET]
  bump := [.MOV FREE HEAP, .ADDI FREE (fieldOffset .fst FIELDS_PER_BLOCK)]
  markEmpty := [.MOVIM HEAP NEXT_ELEMENT_OFFSET 0]
  eraseField := fun _ i k => eraseFieldCode HEAP i k

theorem acqC_eq (t : Temporary) (k : Nat) : Mem.acquireBlockC t k = acqCode.acqC t k := by
  cases t <;> rfl

/-- `if_zero_then_else` on a register holding 0: the then-branch runs, with the flags of the comparison -/
theorem m_iteReg_then {r : Nat} (hro : regOpnd r = some (.reg r)) {μ' : MState} (hv : μ.val (.reg r) = some 0)
    {tb eb : List Code} {k : Nat} (hfresh : skipTo (labName (k + 1)) eb = none)
    (hthen : mFwd c tb (μ.setF (some (0, 0))) = some (μ', .next)) :
    mFwd c (Mem.ifZeroThenElseC r none tb eb k) μ = some (μ', .next) := by
  have e1 : mFwd c [Code.CMPI r 0] μ = some (μ.setF (some (0, 0)), .next) := by
    simp [mFwd_cons, mFwd_nil, mcont, mexecC, mexec, hro, hv, fitsI32]
  show mFwd c ([Code.CMPI r 0, .JEL (labName (k + 1))] ++ eb ++ [.JMPL (labName (k + 2)), .LAB (labName (k + 1))] ++
    tb ++ [.LAB (labName (k + 2))]) μ = _
  rw [show [Code.CMPI r 0, .JEL (labName (k + 1))] ++ eb ++ [.JMPL (labName (k + 2)), .LAB (labName (k + 1))] ++
      tb ++ [.LAB (labName (k + 2))] = [Code.CMPI r 0] ++ ([.JEL (labName (k + 1))] ++ eb ++
      [.JMPL (labName (k + 2)), .LAB (labName (k + 1))] ++ tb ++ [.LAB (labName (k + 2))]) by simp,
    mFwd_seq c e1 rfl]
  exact mFwd_ite_then c _ _ _ _ _ _ (a := 0#64) rfl hfresh hthen

theorem m_iteReg_else {r : Nat} (hro : regOpnd r = some (.reg r)) {μ' : MState} {w : Word}
    (hv : μ.val (.reg r) = some w) (hw : w ≠ 0) {tb eb : List Code} {k : Nat}
    (hfresh : skipTo (labName (k + 2)) tb = none)
    (helse : mFwd c eb (μ.setF (some (w, 0))) = some (μ', .next)) :
    mFwd c (Mem.ifZeroThenElseC r none tb eb k) μ = some (μ', .next) := by
  have e1 : mFwd c [Code.CMPI r 0] μ = some (μ.setF (some (w, 0)), .next) := by
    simp [mFwd_cons, mFwd_nil, mcont, mexecC, mexec, hro, hv, fitsI32]
  show mFwd c ([Code.CMPI r 0, .JEL (labName (k + 1))] ++ eb ++ [.JMPL (labName (k + 2)), .LAB (labName (k + 1))] ++
    tb ++ [.LAB (labName (k + 2))]) μ = _
  rw [show [Code.CMPI r 0, .JEL (labName (k + 1))] ++ eb ++ [.JMPL (labName (k + 2)), .LAB (labName (k + 1))] ++
      tb ++ [.LAB (labName (k + 2))] = [Code.CMPI r 0] ++ ([.JEL (labName (k + 1))] ++ eb ++
      [.JMPL (labName (k + 2)), .LAB (labName (k + 1))] ++ tb ++ [.LAB (labName (k + 2))]) by simp,
    mFwd_seq c e1 rfl]
  exact mFwd_ite_else c _ _ _ _ _ _ (a := w) (b := 0) rfl hw
    (fun e => by have := labName_inj.mp e; omega) hfresh helse

theorem labsIn_ifZeroThenElseC (r : Nat) {tb eb : List Code} {lo hi k : Nat} (ht : LabsIn tb lo hi)
    (he : LabsIn eb lo hi) (h1 : lo ≤ k) (h2 : k + 2 ≤ hi) : LabsIn (Mem.ifZeroThenElseC r none tb eb k) lo hi := by
  refine LabsIn.append (LabsIn.append (LabsIn.append (LabsIn.append (LabsIn.of_noLab _ _ (by simp [Mem.cmpZero]))
    he) ?_) ht) ?_
  · exact ((LabsIn.nil _ _).cons_lab (n := k + 1) (by omega) (by omega)).cons_other (by simp)
  · exact (LabsIn.nil _ _).cons_lab (by omega) (by omega)

theorem acqLabs : Scc.Mem.AcqLabs acqCode where
  comment_ne_lab := fun _ _ h => by cases h
  noLab_head := fun t l => by cases t <;> simp [Mem.acquireHead]
  noLab_ldNextH := fun l => by simp
  noLab_initRc := fun t l => by simp
  noLab_takeLazy := fun l => by simp
  noLab_bump := fun l => by simp
  noLab_markEmpty := fun l => by simp
  labs_eraseField := fun _ i k => labsIn_iff.1 (labsIn_eraseFieldCode HEAP i k)
  labs_ite := fun b _ _ _ _ _ ht he h1 h2 =>
    labsIn_iff.1 (labsIn_ifZeroThenElseC (if b then FREE else HEAP) (labsIn_iff.2 ht) (labsIn_iff.2 he) h1 h2)

theorem labsIn_acquireBlockC (t : Temporary) (k : Nat) : LabsIn (Mem.acquireBlockC t k) k (k + 13) := by
  rw [acqC_eq]; exact labsIn_iff.2 (acqLabs.labs_acqC t k)

theorem mFwd_comment (c : MachCfg) (m : String) (μ : MState) :
    mFwd c [.COMMENT m] μ = some (μ, .next) := by
  simp [mFwd_cons, mFwd_nil, mcont, mexecC, mexec]

@[reducible] def memView (c : MachCfg) : Scc.Mem.View where
  κ := Code
  σ := MState
  τ := Temporary
  val := fun μ t => μ.val t
  Runs := fun code μ μ' => mFwd c code μ = some (μ', .next)
  Rel := HRelM c
  runs_nil := mFwd_nil c
  runs_seq := mFwd_seq c

/-- the contracts of the leaves of `acquire_block`: the target is reached through TEMP when it is spilled -/
def acqSpec (C : HeapCfgOK c) : Scc.Mem.AcqSpec (memView c) acqCode where
  toAcqLabs := acqLabs
  heapT := .reg HEAP
  freeT := .reg FREE
  tgt := fun t => t
  ptr := fun t => .reg (jumpReg t)
  okT := TempOK
  scratch := fun u => u = .reg TEMP
  clobE := fun _ _ => False
  tgt_keep := fun ht => ⟨(tempOK_ne ht).1, not_false⟩
  tgt_ne_heap := fun ht => (tempOK_ne ht).2.1
  tgt_ne_free := fun ht => (tempOK_ne ht).2.2
  ptr_ne_heap := fun ht e => by
    injection e with e
    exact (jumpReg_bounds ht).2.2.1 (by rw [e, HEAP_eq])
  runs_comment := mFwd_comment c
  rel_heap := fun H => H.heap
  head_does := fun {μ s t} H ht => by
    obtain ⟨wH, hH, eH⟩ := H.heap
    obtain ⟨t1, t2, t3⟩ := tempOK_ne ht
    obtain ⟨μ1, x1, v1t, v1j, hp1, F1⟩ := m_acquireHead (c := c) ht (by rw [← HEAP_eq]; exact hH)
    exact ⟨μ1, x1, H.of_frame hp1 (F1 _ (Ne.symm t2) (by simp [HEAP_eq, TEMP_eq]))
      (F1 _ (Ne.symm t3) (by simp [FREE_eq, TEMP_eq])), fun u hu => F1 u hu.2 hu.1, v1t.trans hH.symm,
      v1j.trans hH.symm⟩
  ldNextH_does := fun {μ s h0} H hrd => by
    obtain ⟨wH, hH, eH⟩ := H.heap
    obtain ⟨wF, hF, eF⟩ := H.free
    obtain ⟨hok, hh0⟩ := rd_eq_ok.1 hrd
    rw [← eH] at hok hh0
    have aH : haddr c wH 0 = some wH.toNat := haddr_ok0 C H hok
    rw [HEAP_eq] at hH
    refine ⟨μ.setT (.reg 2) (some (μ.heap wH.toNat)), ?_, ⟨H.base, H.limit, H.mem,
      ⟨μ.heap wH.toNat, by simp [HEAP_eq], by rw [hh0, H.mem]⟩, ⟨wF, by rw [FREE_eq] at hF ⊢; simp [hF], eF⟩⟩,
      fun u hu => by
        have hu : u ≠ .reg 2 := by rw [← HEAP_eq]; exact hu
        show (μ.setT (.reg 2) (some (μ.heap wH.toNat))).val u = μ.val u
        simp [hu], trivial⟩
    show mFwd c [.MOVL HEAP HEAP NEXT_ELEMENT_OFFSET] μ = _
    simp [mFwd_cons, mFwd_nil, mcont, mexecC, mexec, HEAP_eq, regOpnd2, next_zero, maddr, hH, aH]
  ite_then := fun {μ s b tb eb k0 k P} H hz hl hT => by
    have hl : LabsIn eb k0 k := labsIn_iff.2 hl
    obtain ⟨w, hw, ew⟩ := H.sel b
    have hw0 : w = 0#64 := BitVec.eq_of_toNat_eq (by rw [ew, hz]; rfl)
    subst hw0
    obtain ⟨μ', x, p⟩ := hT _ (H.setF (some (0, 0))) (fun u => rfl)
    exact ⟨μ', m_iteReg_then (regOpnd_of (by cases b <;> exact ⟨by decide, by decide⟩)) hw
      (hl.skipTo_none (Or.inr (by omega))) x, p⟩
  ite_else := fun {μ s b tb eb k0 k P} H hz hl hE => by
    have hl : LabsIn tb k0 k := labsIn_iff.2 hl
    obtain ⟨w, hw, ew⟩ := H.sel b
    have hw0 : w ≠ 0#64 := fun e => hz (by rw [← ew, e]; rfl)
    obtain ⟨μ', x, p⟩ := hE _ (H.setF (some (w, 0))) (fun u => rfl)
    exact ⟨μ', m_iteReg_else (regOpnd_of (by cases b <;> exact ⟨by decide, by decide⟩)) hw hw0
      (hl.skipTo_none (Or.inr (by omega))) x, p⟩
  initRc_does := fun {μ s s' t w} H ht hv hwr => by
    obtain ⟨j1, j16, j2, j3, j0⟩ := jumpReg_bounds ht
    obtain ⟨hok, rfl⟩ := wr_eq_ok.1 hwr
    have ha : haddr c w 0 = some w.toNat := haddr_ok0 C H hok
    refine ⟨μ.setH w.toNat 0#64, ?_, by simpa using H.setH w.toNat 0#64, fun u _ => rfl, trivial⟩
    show mFwd c [.MOVIM (jumpReg t) REFERENCE_COUNT_OFFSET 0] μ = _
    have hv : μ.val (.reg (jumpReg t)) = some w := hv
    simp [mFwd_cons, mFwd_nil, mcont, mexecC, mexec, refcount_zero, maddr, j1, j16, j0, hv, ha, fitsI32]
  takeLazy_does := fun {μ s f'} H hrf => by
    obtain ⟨wF, hF, eF⟩ := H.free
    obtain ⟨hokF, hf'⟩ := rd_eq_ok.1 hrf
    rw [← eF] at hokF hf'
    have aF : haddr c wF 0 = some wF.toNat := haddr_ok0 C H hokF
    rw [FREE_eq] at hF
    refine ⟨(μ.setT (.reg 2) (some wF)).setT (.reg 3) (some (μ.heap wF.toNat)), ?_, ⟨H.base, H.limit, H.mem,
      ⟨wF, by simp [HEAP_eq], eF⟩, ⟨μ.heap wF.toNat, by simp [FREE_eq], by rw [hf', H.mem]⟩⟩,
      fun u hu => by
        have h2 : u ≠ .reg 2 := by rw [← HEAP_eq]; exact hu.1
        have h3 : u ≠ .reg 3 := by rw [← FREE_eq]; exact hu.2
        show ((μ.setT (.reg 2) (some wF)).setT (.reg 3) (some (μ.heap wF.toNat))).val u = μ.val u
        simp [h2, h3], trivial⟩
    show mFwd c [.MOV HEAP FREE, .MOVL FREE FREE NEXT_ELEMENT_OFFSET] μ = _
    simp [mFwd_cons, mFwd_nil, mcont, mexecC, mexec, HEAP_eq, FREE_eq, regOpnd2, regOpnd3, next_zero, maddr, hF, aF]
  bump_does := fun {μ s} H hok => by
    obtain ⟨wH, hH, eH⟩ := H.heap
    rw [← eH] at hok
    have hno : wH.toNat + 64 < 2 ^ 64 := by
      have h2 := hok.2.1
      have := C.top
      rw [H.limit] at h2
      omega
    rw [HEAP_eq] at hH
    refine ⟨((μ.setT (.reg 3) (some wH)).setT (.reg 3) (some (wH + BitVec.ofInt 64 64))).setF none, ?_,
      ⟨H.base, H.limit, H.mem, ⟨wH, by simp [HEAP_eq, hH], eH⟩,
        ⟨wH + BitVec.ofInt 64 64, by simp [FREE_eq], by rw [toNat_add_64 _ hno, eH]; rfl⟩⟩,
      fun u hu => by
        have h3 : u ≠ .reg 3 := by rw [← FREE_eq]; exact hu
        show (((μ.setT (.reg 3) (some wH)).setT (.reg 3) (some (wH + BitVec.ofInt 64 64))).setF none).val u = μ.val u
        simp [h3], trivial⟩
    show mFwd c [.MOV FREE HEAP, .ADDI FREE (fieldOffset .fst FIELDS_PER_BLOCK)] μ = _
    simp [mFwd_cons, mFwd_nil, mcont, mexecC, mexec, HEAP_eq, FREE_eq, regOpnd2, regOpnd3, fitsI32, hH,
      show fieldOffset .fst FIELDS_PER_BLOCK = 64 from by decide]
  markEmpty_does := fun {μ s s'} H hwr => by
    obtain ⟨wH, hH, eH⟩ := H.heap
    rw [← eH] at hwr
    obtain ⟨hok, rfl⟩ := wr_eq_ok.1 hwr
    have aH : haddr c wH 0 = some wH.toNat := haddr_ok0 C H hok
    rw [HEAP_eq] at hH
    refine ⟨μ.setH wH.toNat 0#64, ?_, by simpa using H.setH wH.toNat 0#64, fun u _ => rfl, trivial⟩
    show mFwd c [.MOVIM HEAP NEXT_ELEMENT_OFFSET 0] μ = _
    simp [mFwd_cons, mFwd_nil, mcont, mexecC, mexec, HEAP_eq, next_zero, maddr, hH, aH, fitsI32]
  eraseField_does := fun {μ s s' t i c0} k H _ hi hrd hop => by
    obtain ⟨wH, hH, eH⟩ := H.heap
    rw [← eH] at hrd
    obtain ⟨μ', x, H', F⟩ := m_eraseField C H (blk := HEAP) (by decide) (by decide) hH hi hrd hop k
    exact ⟨μ', x, H', fun u hu => F u hu.2.1 hu.1, trivial⟩

/-- CONTRACT of `acquire_block` on the view: whenever the heap model acquires a block, the emitted
code — target in a register or in a spill slot — runs to its end, the result represents the model's
result, the target holds the acquired block; only the target, TEMP, HEAP, FREE, the flags and the heap
change.  The three cases of the model are the backend-independent `Scc.Mem.AcqSpec.acquire_does` at the
leaves `acqSpec`. -/
theorem m_acquire (C : HeapCfgOK c) (H : HRelM c μ h) {t : Temporary} (ht : TempOK t) {new : Nat}
    (hop : Scc.Heap.acquire h = .ok (h', new)) (k : Nat) :
    ∃ code, (acquireBlock t).run k = .ok (code, k + 13) ∧ LabsIn code k (k + 13) ∧
      ∃ μ', mFwd c code μ = some (μ', .next) ∧ HRelM c μ' h' ∧
        (∃ w, μ'.val t = some w ∧ w.toNat = new) ∧
        (∀ u, u ≠ t → u ≠ .reg TEMP → u ≠ .reg HEAP → u ≠ .reg FREE → μ'.val u = μ.val u) := by
  obtain ⟨μ', x, H', F', w, hw, ew⟩ := (acqSpec C).acquire_does H ht hop k
  refine ⟨_, Mem.acquireBlock_run t k, ?_, μ', ?_, H', ⟨w, hw, ew⟩,
    fun u hu hT hH hF => F' u ⟨hT, hH, hF, hu, not_false⟩⟩
  · exact labsIn_acquireBlockC t k
  · rw [acqC_eq]; exact x

end Acquire

/-- CONTRACT of `acquire_block` (memory.rs) on the SPEC machine: from every boundary state that
represents an abstract heap on which `Scc.Heap.acquire` succeeds — (1) next block of the linear free
list, (2) head of the lazy free list with deferred erasure of its three children, (3) bump of the
frontier — the emitted code (target in a register or in a spill slot) runs to its end; the final state
is a boundary state with the same `rsp`, represents the model's result heap, and holds the acquired
block in the target.  Only the target, TEMP, HEAP, FREE, the flags and the heap change. -/
theorem acquireBlock_contract {c : MachCfg} {la : String → Option Nat} {st : State} {sp : Word}
    (h8 : c.heapBase % 8 = 0) (B : Boundary c st sp) {h h' : Scc.Heap.HState} (R : HeapRel c st h)
    {t : Temporary} (ht : TempOK t) {new : Nat} (hop : Scc.Heap.acquire h = .ok (h', new)) (k : Nat) :
    ∃ code, (acquireBlock t).run k = .ok (code, k + 13) ∧ LabsIn code k (k + 13) ∧
      ∃ st', execFwd c la code st = .ok (st', .next) ∧ Boundary c st' sp ∧ HeapRel c st' h' ∧
        (∃ w, tempVal sp st' t = some w ∧ w.toNat = new) ∧
        FrameT sp st st' (fun u => u = t ∨ u = .reg TEMP ∨ u = .reg HEAP ∨ u = .reg FREE) := by
  obtain ⟨code, hrun, hl, μ', hx, H', ⟨w, hw, ew⟩, hfr⟩ :=
    m_acquire (heapCfgOK_of_boundary h8 B) (heapRel_mview (sp := sp) R) ht hop k
  obtain ⟨st', e, B', M', F⟩ := m_to_machine la B hx
    (changed := fun u => u = t ∨ u = .reg TEMP ∨ u = .reg HEAP ∨ u = .reg FREE)
    (fun u hu => hfr u (fun e => hu (Or.inl e)) (fun e => hu (Or.inr (Or.inl e)))
      (fun e => hu (Or.inr (Or.inr (Or.inl e)))) (fun e => hu (Or.inr (Or.inr (Or.inr e)))))
  exact ⟨code, hrun, hl, st', e, B', heapRel_of_mrep M' H', ⟨w, by rw [M'.vals t ht.opnd]; exact hw, ew⟩, F⟩

end Scc.X86
