/-
  Scc.X86.ConcPeakRun — THE FOOTPRINT BOUND OF C10 ON THE x86-64 RUNS OF PROGRAMS WITHOUT CLOSURES, in place of the
  coarse room hypothesis of 64·134 bytes per step of the run: if at no statement boundary of the run more than `Pk`
  blocks are in use (`PeakFrom`: blocks that are neither on the reusable nor on the deferred free list), the
  allocation frontier never rises above `Pk + 1` blocks, so a heap of `64·(Pk + A + 2)` bytes is enough for a run of
  ANY length, `A` = the largest number of fields of a `let` of the program (`LetLe A`; `A + 1` blocks = the room the
  memory contract of `Memory::store` asks for).  The invariant and its step are those of
  `Scc/Backend/TrackHeap.lean` for the boundaries `Conc.boundaries`.
-/
import Scc.X86.ConcPeak
import Scc.X86.ConcRun
import Scc.Heap.FrBound

namespace Scc.X86.Conc

open Scc.AxCut Scc.Backend Scc.Backend.Abs Scc.X86.Ref
open Scc.Props.C14Generic (LabelSafe)
open Scc.Props.C06Generic (outAfter WithinCapacity Reachable EnoughHeap CodeFits statesOf stopsWithin)
open Scc.Heap (HState InvS InvW Exhausted)
open Scc.Heap.Refine (HRef FrLe Room FrPk)

mutual
  /-- without closures the bound on the fields of `let`s is the bound on allocations -/
  theorem allocLe_of_letLe {A : Nat} : ∀ (s : Stmt), DataStmt s → LetLe A s → K.AllocLe A s
    | .lit _ _ next _, hd, h => allocLe_of_letLe next hd h
    | .op _ _ _ _ next _, hd, h => allocLe_of_letLe next hd h
    | .print _ _ next _, hd, h => allocLe_of_letLe next hd h
    | .ifc _ _ _ t e, hd, h => ⟨allocLe_of_letLe t hd.1 h.1, allocLe_of_letLe e hd.2 h.2⟩
    | .exit _, _, _ => trivial
    | .call _ _, _, _ => trivial
    | .subst _ next, hd, h => allocLe_of_letLe next hd h
    | .letS _ _ _ _ next _, hd, h => ⟨h.1, allocLe_of_letLe next hd h.2⟩
    | .switch _ _ clauses _, hd, h => allocLeClauses_of_letLe clauses hd h
    | .create _ _ _ _ _ _ _, hd, _ => hd.elim
    | .invoke _ _ _ _, _, _ => trivial
  theorem allocLeClauses_of_letLe {A : Nat} : ∀ (cs : Clauses), DataClauses cs → LetLeClauses A cs →
      K.AllocLeClauses A cs
    | .nil, _, _ => trivial
    | .cons _ _ body rest, hd, h => ⟨allocLe_of_letLe body hd.1 h.1, allocLeClauses_of_letLe rest hd.2 h.2⟩
end

/-- THE PEAK HYPOTHESIS (`Scc/Backend/TrackHeap.lean`) at the boundaries of the x86-64 run of a program without
closures: at every statement boundary the machine reaches from `X` (with at most `C` blocks below the frontier: the
trivial bound, `A` blocks per step of the run — only such boundaries occur), at most `Pk` blocks are in use -/
abbrev PeakFrom (F : Frame) (mon : MonCfg) (px : X86.Prog) (cs : List Code) (P : Program) (hooks : Bool)
    (prog : AxCut.Prog) : Pos.State → State → Nat → Nat → Prop :=
  Track.PeakFrom (Steps mon px) prog (Bd F cs P hooks prog)

end Scc.X86.Conc
