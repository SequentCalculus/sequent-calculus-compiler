/-
  Scc.X86.CodeBlk — the FORM of the code of code.rs and of the two moves of parallel_moves.rs (x86-64): every
  item is a `Mem.Leaf` (Scc/X86/MemBlk.lean: one of the arithmetic, move and compare forms, registers rcx … r15,
  encodable immediates) whose memory operands are spill slots of the frame (`Slots`).  ONE lemma per method says
  so (`items_mov`, `items_sub`, …), under the ranges of the temporaries it is called with (`Mem.TOK`); what the
  later layers need of a method — operands in range, shape, no label, text-safe strings, no `#ctx` hook, the
  calling convention — is read off `Leaf` once per instruction form, not once per method.
  Outside this form: `imul [mem], reg` (`mul` whose spilled target is also a source), the jumps and `lea`
  (label arguments).  `print_i64` is leaves (no range claimed) and the stack operations `PrintItem`.
-/
import Scc.X86.MemBlk

namespace Scc.X86.Mem

open Scc.AxCut

/-- every memory operand of the item is a spill slot of the frame -/
def Slots : Code → Prop
  | .MOVS _ b i | .MOVL _ b i | .ADDRM _ b i | .SUBRM _ b i | .IMULRM _ b i | .CMPRM _ b i
  | .ADDMR b i _ | .SUBMR b i _ | .CMPMR b i _ | .IDIVM b i | .MOVIM b i _ | .ADDIM b i _ | .CMPIM b i _ =>
    b = STACK ∧ ∃ p, p < 256 ∧ i = stackOffset p
  | _ => True

/-- code of code.rs: leaves whose memory operands are spill slots (the ranges are asked under `rok`, the
immediates under `iok`) -/
def CItems (rok iok : Prop) (l : List Code) : Prop := ∀ c ∈ l, Leaf rok iok c ∧ (rok → Slots c)

theorem slot {p : Nat} (h : p < 256) : STACK = STACK ∧ ∃ q, q < 256 ∧ stackOffset p = stackOffset q := ⟨rfl, p, h, rfl⟩

theorem regOK_RETURN1 : RegOK RETURN1 := ⟨by decide, by decide⟩
theorem regOK_RETURN2 : RegOK RETURN2 := ⟨by decide, by decide⟩

namespace CItems
variable {rok iok : Prop}

theorem nil : CItems rok iok [] := fun _ h => by cases h

theorem append {a b : List Code} (ha : CItems rok iok a) (hb : CItems rok iok b) : CItems rok iok (a ++ b) :=
  fun c hc => (List.mem_append.1 hc).elim (ha c) (hb c)

theorem cons {c : Code} {l : List Code} (hf : memForm c = true) (hr : rok → RegsOK c) (hi : iok → ImmOK c)
    (hs : rok → Slots c) (hl : CItems rok iok l) : CItems rok iok (c :: l) := by
  intro x hx
  rcases List.mem_cons.1 hx with rfl | hx
  · exact ⟨.instr hf hr hi, hs⟩
  · exact hl x hx

theorem mono {rok' iok' : Prop} (hr : rok' → rok) (hi : iok' → iok) {l : List Code} (h : CItems rok iok l) :
    CItems rok' iok' l := fun c hc => ⟨(h c hc).1.mono hr hi, fun o => (h c hc).2 (hr o)⟩

theorem ite {p : Prop} [Decidable p] {a b : List Code} (ha : CItems rok iok a) (hb : CItems rok iok b) :
    CItems rok iok (if p then a else b) := by split <;> assumption

end CItems

variable {iok : Prop}

/-! ## code.rs -/

theorem items_moveFromRegister (t : Temporary) (r : Reg) : CItems (TOK t ∧ RegOK r) iok (moveFromRegister t r) := by
  cases t with
  | reg x => exact .cons rfl (fun o => ⟨o.1, o.2⟩) (fun _ => trivial) (fun _ => trivial) .nil
  | spill p => exact .cons rfl (fun o => ⟨o.2, memOK_slot o.1⟩) (fun _ => trivial) (fun o => slot o.1) .nil

theorem items_moveToRegister (r : Reg) (t : Temporary) : CItems (RegOK r ∧ TOK t) iok (moveToRegister r t) := by
  cases t with
  | reg x => exact .cons rfl (fun o => ⟨o.1, o.2⟩) (fun _ => trivial) (fun _ => trivial) .nil
  | spill p => exact .cons rfl (fun o => ⟨o.1, memOK_slot o.2⟩) (fun _ => trivial) (fun o => slot o.2) .nil

theorem items_addToRegister (r : Reg) (t : Temporary) : CItems (RegOK r ∧ TOK t) iok (addToRegister r t) := by
  cases t with
  | reg x => exact .cons rfl (fun o => ⟨o.1, o.2⟩) (fun _ => trivial) (fun _ => trivial) .nil
  | spill p => exact .cons rfl (fun o => ⟨o.1, memOK_slot o.2⟩) (fun _ => trivial) (fun o => slot o.2) .nil

theorem items_subToRegister (r : Reg) (t : Temporary) : CItems (RegOK r ∧ TOK t) iok (subToRegister r t) := by
  cases t with
  | reg x => exact .cons rfl (fun o => ⟨o.1, o.2⟩) (fun _ => trivial) (fun _ => trivial) .nil
  | spill p => exact .cons rfl (fun o => ⟨o.1, memOK_slot o.2⟩) (fun _ => trivial) (fun o => slot o.2) .nil

theorem items_mulToRegister (r : Reg) (t : Temporary) : CItems (RegOK r ∧ TOK t) iok (mulToRegister r t) := by
  cases t with
  | reg x => exact .cons rfl (fun o => ⟨o.1, o.2⟩) (fun _ => trivial) (fun _ => trivial) .nil
  | spill p => exact .cons rfl (fun o => ⟨o.1, memOK_slot o.2⟩) (fun _ => trivial) (fun o => slot o.2) .nil

theorem items_addToSpill (p : Nat) (t : Temporary) : CItems (p < 256 ∧ TOK t) iok (addToSpill p t) := by
  cases t with
  | reg x => exact .cons rfl (fun o => ⟨memOK_slot o.1, o.2⟩) (fun _ => trivial) (fun o => slot o.1) .nil
  | spill q =>
    exact .cons rfl (fun o => ⟨regOK_TEMP, memOK_slot o.2⟩) (fun _ => trivial) (fun o => slot o.2)
      (.cons rfl (fun o => ⟨memOK_slot o.1, regOK_TEMP⟩) (fun _ => trivial) (fun o => slot o.1) .nil)

theorem items_subToSpill (p : Nat) (t : Temporary) : CItems (p < 256 ∧ TOK t) iok (subToSpill p t) := by
  cases t with
  | reg x => exact .cons rfl (fun o => ⟨memOK_slot o.1, o.2⟩) (fun _ => trivial) (fun o => slot o.1) .nil
  | spill q =>
    exact .cons rfl (fun o => ⟨regOK_TEMP, memOK_slot o.2⟩) (fun _ => trivial) (fun o => slot o.2)
      (.cons rfl (fun o => ⟨memOK_slot o.1, regOK_TEMP⟩) (fun _ => trivial) (fun o => slot o.1) .nil)

theorem items_storeSlot (r : Reg) (p : Nat) : CItems (RegOK r ∧ p < 256) iok [Code.MOVS r STACK (stackOffset p)] :=
  .cons rfl (fun o => ⟨o.1, memOK_slot o.2⟩) (fun _ => trivial) (fun o => slot o.2) .nil

/-- `op_commutative`, for operations into a register and into a spill slot that have the form -/
theorem items_opCommutative {f : Reg → Temporary → List Code} {g : Nat → Temporary → List Code}
    (hf : ∀ r s, CItems (RegOK r ∧ TOK s) iok (f r s)) (hg : ∀ p s, CItems (p < 256 ∧ TOK s) iok (g p s))
    (t s1 s2 : Temporary) : CItems (TOK t ∧ TOK s1 ∧ TOK s2) iok (opCommutative f g t s1 s2) := by
  cases t with
  | reg x =>
    simp only [opCommutative]
    refine .ite ((hf x s2).mono (fun o => ⟨o.1, o.2.2⟩) id) (.ite ((hf x s1).mono (fun o => ⟨o.1, o.2.1⟩) id) ?_)
    exact .append ((items_moveToRegister x s1).mono (fun o => ⟨o.1, o.2.1⟩) id)
      ((hf x s2).mono (fun o => ⟨o.1, o.2.2⟩) id)
  | spill p =>
    simp only [opCommutative]
    refine .ite ((hg p s2).mono (fun o => ⟨o.1, o.2.2⟩) id) (.ite ((hg p s1).mono (fun o => ⟨o.1, o.2.1⟩) id) ?_)
    exact .append (.append ((items_moveToRegister TEMP s1).mono (fun o => ⟨regOK_TEMP, o.2.1⟩) id)
      ((hf TEMP s2).mono (fun o => ⟨regOK_TEMP, o.2.2⟩) id))
      ((items_storeSlot TEMP p).mono (fun o => ⟨regOK_TEMP, o.1⟩) id)

/-- `op_commutative` when a spilled target differs from both sources: the operation into a spill slot is not used -/
theorem items_opCommutative_reg {f : Reg → Temporary → List Code} {g : Nat → Temporary → List Code}
    (hf : ∀ r s, CItems (RegOK r ∧ TOK s) iok (f r s)) {t s1 s2 : Temporary}
    (hal : ∀ p, t = .spill p → t ≠ s1 ∧ t ≠ s2) :
    CItems (TOK t ∧ TOK s1 ∧ TOK s2) iok (opCommutative f g t s1 s2) := by
  cases t with
  | reg x =>
    simp only [opCommutative]
    refine .ite ((hf x s2).mono (fun o => ⟨o.1, o.2.2⟩) id) (.ite ((hf x s1).mono (fun o => ⟨o.1, o.2.1⟩) id) ?_)
    exact .append ((items_moveToRegister x s1).mono (fun o => ⟨o.1, o.2.1⟩) id)
      ((hf x s2).mono (fun o => ⟨o.1, o.2.2⟩) id)
  | spill p =>
    simp only [opCommutative, if_neg (hal p rfl).1, if_neg (hal p rfl).2]
    exact .append (.append ((items_moveToRegister TEMP s1).mono (fun o => ⟨regOK_TEMP, o.2.1⟩) id)
      ((hf TEMP s2).mono (fun o => ⟨regOK_TEMP, o.2.2⟩) id))
      ((items_storeSlot TEMP p).mono (fun o => ⟨regOK_TEMP, o.1⟩) id)

theorem items_add (t s1 s2 : Temporary) : CItems (TOK t ∧ TOK s1 ∧ TOK s2) iok (add t s1 s2) :=
  items_opCommutative items_addToRegister items_addToSpill t s1 s2

/-- `mul`, unless a spilled target is also a source (then `imul [mem], reg` is emitted) -/
theorem items_mul {t s1 s2 : Temporary} (hal : ∀ p, t = .spill p → t ≠ s1 ∧ t ≠ s2) :
    CItems (TOK t ∧ TOK s1 ∧ TOK s2) iok (mul t s1 s2) :=
  items_opCommutative_reg items_mulToRegister hal

theorem items_sub (t s1 s2 : Temporary) : CItems (TOK t ∧ TOK s1 ∧ TOK s2) iok (sub t s1 s2) := by
  have mv : ∀ r, RegOK r → CItems (TOK t ∧ TOK s1 ∧ TOK s2) iok (moveToRegister r s1) := fun r hr =>
    (items_moveToRegister r s1).mono (fun o => ⟨hr, o.2.1⟩) id
  have sb : ∀ r, RegOK r → CItems (TOK t ∧ TOK s1 ∧ TOK s2) iok (subToRegister r s2) := fun r hr =>
    (items_subToRegister r s2).mono (fun o => ⟨hr, o.2.2⟩) id
  cases t with
  | reg x =>
    simp only [sub]
    refine .ite ((items_subToRegister x s2).mono (fun o => ⟨o.1, o.2.2⟩) id) (.ite ?_ ?_)
    · exact .append (.append (mv TEMP regOK_TEMP) (sb TEMP regOK_TEMP))
        (.cons rfl (fun o => ⟨o.1, regOK_TEMP⟩) (fun _ => trivial) (fun _ => trivial) .nil)
    · exact .append ((items_moveToRegister x s1).mono (fun o => ⟨o.1, o.2.1⟩) id)
        ((items_subToRegister x s2).mono (fun o => ⟨o.1, o.2.2⟩) id)
  | spill p =>
    simp only [sub]
    refine .ite ((items_subToSpill p s2).mono (fun o => ⟨o.1, o.2.2⟩) id) ?_
    exact .append (.append (mv TEMP regOK_TEMP) (sb TEMP regOK_TEMP))
      ((items_storeSlot TEMP p).mono (fun o => ⟨regOK_TEMP, o.1⟩) id)

theorem items_divBy (d : Temporary) : CItems (TOK d) iok (divBy d) := by
  cases d with
  | reg x =>
    simp only [divBy]
    exact .ite (.cons rfl (fun _ => trivial) (fun _ => trivial) (fun _ => trivial)
        (.cons rfl (fun _ => regOK_TEMP) (fun _ => trivial) (fun _ => trivial) .nil))
      (.cons rfl (fun _ => trivial) (fun _ => trivial) (fun _ => trivial)
        (.cons rfl (fun o => o) (fun _ => trivial) (fun _ => trivial) .nil))
  | spill p =>
    exact .cons rfl (fun _ => trivial) (fun _ => trivial) (fun _ => trivial)
      (.cons rfl (fun o => memOK_slot o) (fun _ => trivial) (fun o => slot o) .nil)

theorem items_MOV {rok : Prop} {r r1 : Reg} (h : rok → RegOK r ∧ RegOK r1) : CItems rok iok [Code.MOV r r1] :=
  .cons rfl h (fun _ => trivial) (fun _ => trivial) .nil

theorem items_div (t s1 s2 : Temporary) : CItems (TOK t ∧ TOK s1 ∧ TOK s2) iok (div t s1 s2) := by
  unfold div
  refine .append (.append (.append (.append (.append (.append (.append ?_ ?_) ?_) ?_) ?_) ?_) ?_) ?_
  · exact items_MOV fun _ => ⟨regOK_TEMP, regOK_RETURN2⟩
  · exact (items_moveFromRegister t RETURN1).mono (fun o => ⟨o.1, regOK_RETURN1⟩) id
  · exact (items_moveToRegister RETURN1 s1).mono (fun o => ⟨regOK_RETURN1, o.2.1⟩) id
  · exact (items_divBy s2).mono (fun o => o.2.2) id
  · exact items_MOV fun _ => ⟨regOK_RETURN2, regOK_RETURN1⟩
  · exact (items_moveToRegister RETURN1 t).mono (fun o => ⟨regOK_RETURN1, o.1⟩) id
  · exact (items_moveFromRegister t RETURN2).mono (fun o => ⟨o.1, regOK_RETURN2⟩) id
  · exact items_MOV fun _ => ⟨regOK_RETURN2, regOK_TEMP⟩

theorem items_rem (t s1 s2 : Temporary) : CItems (TOK t ∧ TOK s1 ∧ TOK s2) iok (rem t s1 s2) := by
  unfold rem
  refine .append (.append (.append (.append (.append (.append ?_ ?_) ?_) ?_) ?_) ?_) ?_
  · exact items_MOV fun _ => ⟨regOK_TEMP, regOK_RETURN2⟩
  · exact (items_moveFromRegister t RETURN1).mono (fun o => ⟨o.1, regOK_RETURN1⟩) id
  · exact (items_moveToRegister RETURN1 s1).mono (fun o => ⟨regOK_RETURN1, o.2.1⟩) id
  · exact (items_divBy s2).mono (fun o => o.2.2) id
  · exact (items_moveToRegister RETURN1 t).mono (fun o => ⟨regOK_RETURN1, o.1⟩) id
  · exact (items_moveFromRegister t RETURN2).mono (fun o => ⟨o.1, regOK_RETURN2⟩) id
  · exact items_MOV fun _ => ⟨regOK_RETURN2, regOK_TEMP⟩

/-- every operation but a multiplication whose target may also be a source -/
theorem items_binop (o : BinOp) {t s1 s2 : Temporary} (h : o = .prod → ∀ p, t = .spill p → t ≠ s1 ∧ t ≠ s2) :
    CItems (TOK t ∧ TOK s1 ∧ TOK s2) iok (binop o t s1 s2) := by
  cases o with
  | sum => exact items_add t s1 s2
  | sub => exact items_sub t s1 s2
  | prod => exact items_mul (h rfl)
  | div => exact items_div t s1 s2
  | rem => exact items_rem t s1 s2

/-- EVERY operation: an item has the form, or it is the `imul [mem], reg` of a multiplication whose spilled target
    is also a source -/
theorem items_binop_or (o : BinOp) (t s1 s2 : Temporary) : ∀ c ∈ binop o t s1 s2,
    (Leaf (TOK t ∧ TOK s1 ∧ TOK s2) iok c ∧ (TOK t ∧ TOK s1 ∧ TOK s2 → Slots c)) ∨
      ∃ p r, c = Code.IMULMR STACK (stackOffset p) r ∧ (TOK t ∧ TOK s1 ∧ TOK s2 → p < 256) := by
  have spill : ∀ p s, (TOK (.spill p) ∧ TOK s1 ∧ TOK s2 → TOK s) → ∀ c ∈ mulToSpill p s,
      (Leaf (TOK (.spill p) ∧ TOK s1 ∧ TOK s2) iok c ∧ (TOK (.spill p) ∧ TOK s1 ∧ TOK s2 → Slots c)) ∨
        ∃ q r, c = Code.IMULMR STACK (stackOffset q) r ∧ (TOK (.spill p) ∧ TOK s1 ∧ TOK s2 → q < 256) := by
    intro p s hs c hc
    cases s with
    | reg y => exact Or.inr ⟨_, _, List.mem_singleton.1 hc, fun o => o.1⟩
    | spill q =>
      rcases List.mem_cons.1 hc with rfl | hc
      · exact Or.inl ⟨.instr rfl (fun o => ⟨regOK_TEMP, memOK_slot (hs o)⟩) (fun _ => trivial), fun o => slot (hs o)⟩
      · exact Or.inr ⟨_, _, List.mem_singleton.1 hc, fun o => o.1⟩
  intro c hc
  by_cases ho : o = .prod
  · subst ho
    cases t with
    | reg x => exact Or.inl (items_mul (fun p e => by cases e) c hc)
    | spill p =>
      by_cases e1 : Temporary.spill p = s1
      · have : binop .prod (.spill p) s1 s2 = mulToSpill p s2 := by
          show opCommutative mulToRegister mulToSpill (.spill p) s1 s2 = _
          simp only [opCommutative, if_pos e1]
        rw [this] at hc
        exact spill p s2 (fun o => o.2.2) c hc
      · by_cases e2 : Temporary.spill p = s2
        · have : binop .prod (.spill p) s1 s2 = mulToSpill p s1 := by
            show opCommutative mulToRegister mulToSpill (.spill p) s1 s2 = _
            simp only [opCommutative, if_neg e1, if_pos e2]
          rw [this] at hc
          exact spill p s1 (fun o => o.2.1) c hc
        · exact Or.inl (items_mul (fun q _ => ⟨e1, e2⟩) c hc)
  · exact Or.inl (items_binop o (fun e => absurd e ho) c hc)

theorem items_compare (a b : Temporary) : CItems (TOK a ∧ TOK b) iok (compare a b) := by
  cases a <;> cases b
  · exact .cons rfl (fun o => ⟨o.1, o.2⟩) (fun _ => trivial) (fun _ => trivial) .nil
  · exact .cons rfl (fun o => ⟨o.1, memOK_slot o.2⟩) (fun _ => trivial) (fun o => slot o.2) .nil
  · exact .cons rfl (fun o => ⟨memOK_slot o.1, o.2⟩) (fun _ => trivial) (fun o => slot o.1) .nil
  · exact .cons rfl (fun o => ⟨regOK_TEMP, memOK_slot o.1⟩) (fun _ => trivial) (fun o => slot o.1)
      (.cons rfl (fun o => ⟨regOK_TEMP, memOK_slot o.2⟩) (fun _ => trivial) (fun o => slot o.2) .nil)

theorem items_compareImmediate (t : Temporary) (i : Int) :
    CItems (TOK t) (fitsI32 i = true) (compareImmediate t i) := by
  cases t with
  | reg x => exact .cons rfl (fun o => o) (fun o => o) (fun _ => trivial) .nil
  | spill p => exact .cons rfl (fun o => memOK_slot o) (fun o => o) (fun o => slot o) .nil

theorem items_loadImmediate (t : Temporary) (i : Int) : CItems (TOK t) (fitsI64 i = true) (loadImmediate t i) := by
  cases t with
  | reg x => exact .cons rfl (fun o => o) (fun o => o) (fun _ => trivial) .nil
  | spill p =>
    simp only [loadImmediate]
    split
    · rename_i h
      exact .cons rfl (fun o => memOK_slot o) (fun _ => h) (fun o => slot o) .nil
    · exact .cons rfl (fun _ => regOK_TEMP) (fun o => o) (fun _ => trivial)
        (.cons rfl (fun o => ⟨regOK_TEMP, memOK_slot o⟩) (fun _ => trivial) (fun o => slot o) .nil)

theorem items_mov (t s : Temporary) : CItems (TOK t ∧ TOK s) iok (mov t s) := by
  cases s with
  | reg y => exact items_moveFromRegister t y
  | spill q =>
    cases t with
    | reg x => exact items_moveToRegister x (.spill q)
    | spill p =>
      exact .append ((items_moveToRegister TEMP (.spill q)).mono (fun o => ⟨regOK_TEMP, o.2⟩) id)
        ((items_moveFromRegister (.spill p) TEMP).mono (fun o => ⟨o.1, regOK_TEMP⟩) id)

/-! ## parallel_moves.rs -/

theorem spillTemp_lt : SPILL_TEMP < 256 := by decide

theorem items_storeTemporary (t : Temporary) (sp : Bool) : CItems (TOK t) iok (storeTemporary t sp) := by
  cases t with
  | reg x =>
    simp only [storeTemporary]
    exact .ite ((items_storeSlot x SPILL_TEMP).mono (fun o => ⟨o, spillTemp_lt⟩) id)
      (items_MOV fun o => ⟨regOK_TEMP, o⟩)
  | spill p =>
    simp only [storeTemporary]
    exact .append (.cons rfl (fun o => ⟨regOK_TEMP, memOK_slot o⟩) (fun _ => trivial) (fun o => slot o) .nil)
      (.ite ((items_storeSlot TEMP SPILL_TEMP).mono (fun _ => ⟨regOK_TEMP, spillTemp_lt⟩) id) .nil)

theorem items_restoreTemporary (t : Temporary) (sp : Bool) : CItems (TOK t) iok (restoreTemporary t sp) := by
  cases t with
  | reg x =>
    simp only [restoreTemporary]
    exact .ite (.cons rfl (fun o => ⟨o, memOK_slot spillTemp_lt⟩) (fun _ => trivial) (fun _ => slot spillTemp_lt) .nil)
      (items_MOV fun o => ⟨o, regOK_TEMP⟩)
  | spill p =>
    simp only [restoreTemporary]
    exact .append
      (.ite (.cons rfl (fun _ => ⟨regOK_TEMP, memOK_slot spillTemp_lt⟩) (fun _ => trivial)
        (fun _ => slot spillTemp_lt) .nil) .nil)
      ((items_storeSlot TEMP p).mono (fun o => ⟨regOK_TEMP, o⟩) id)

/-! ## print_i64: leaves around the pushes, the alignment of the stack pointer, the call and the pops.  No range is claimed (`rok`, `iok` false):
    the ranges of the saved registers are the subject of Scc/X86/ProofsWfAll.lean -/

/-- the items of `print_i64` outside `Leaf` -/
inductive PrintItem (nl : Bool) : Code → Prop
  | push (r : Reg) : PrintItem nl (.PUSH r)
  | pop (r : Reg) : PrintItem nl (.POP r)
  | subi (r : Reg) (i : Int) : PrintItem nl (.SUBI r i)
  | call : PrintItem nl (.CALL (if nl then "println_i64" else "print_i64"))

theorem leaf_form {c : Code} (h : memForm c = true) : Leaf False False c := .instr h False.elim False.elim

theorem forall_map {α : Type} {P : Code → Prop} {f : α → Code} (h : ∀ a, P (f a)) {l : List α} :
    ∀ c ∈ l.map f, P c := fun c hc => by
  obtain ⟨a, _, rfl⟩ := List.mem_map.1 hc
  exact h a

theorem forall_ite {P : Code → Prop} {p : Prop} [Decidable p] {c : Code} (h : P c) :
    ∀ x ∈ (if p then [c] else []), P x := by
  split
  · exact List.forall_mem_singleton.2 h
  · exact fun _ hx => by cases hx

theorem items_saveCallerSaveRegisters (nl : Bool) (first : Nat) (L : List Nat) :
    ∀ c ∈ saveCallerSaveRegisters first L, Leaf False False c ∨ PrintItem nl c :=
  List.forall_mem_append.2 ⟨List.forall_mem_append.2 ⟨forall_map fun _ => .inl (leaf_form rfl),
    forall_map fun _ => .inr (.push _)⟩, forall_ite (.inr (.subi _ _))⟩

theorem items_restoreCallerSaveRegisters (nl : Bool) (first : Nat) (L : List Nat) :
    ∀ c ∈ restoreCallerSaveRegisters first L, Leaf False False c ∨ PrintItem nl c :=
  List.forall_mem_append.2 ⟨List.forall_mem_append.2 ⟨forall_map fun _ => .inl (leaf_form rfl),
    forall_ite (.inl (leaf_form rfl))⟩, forall_map fun _ => .inr (.pop _)⟩

/-- every item of `print_i64` is a leaf, a push or pop of a saved register, or the call of the runtime's printing
    function -/
theorem items_printI64 (nl : Bool) (t : Temporary) (ctx : Ctx) :
    ∀ c ∈ printI64 nl t ctx, Leaf False False c ∨ PrintItem nl c := by
  have com : ∀ {cs : List Char}, '\n' ∉ cs → cs[1]? ≠ some 'c' →
      Leaf False False (.COMMENT (String.ofList cs)) ∨ PrintItem nl (.COMMENT (String.ofList cs)) :=
    fun h1 h2 => .inl (.com (memCom_ofList h1 h2))
  unfold printI64
  dsimp only
  refine List.forall_mem_append.2 ⟨List.forall_mem_append.2 ⟨List.forall_mem_append.2 ⟨List.forall_mem_append.2
    ⟨List.forall_mem_append.2 ⟨List.forall_mem_append.2 ⟨?_, List.forall_mem_singleton.2 (com (by decide) (by decide))⟩,
      items_saveCallerSaveRegisters nl _ _⟩, List.forall_mem_singleton.2 (com (by decide) (by decide))⟩, ?_⟩, ?_⟩,
    items_restoreCallerSaveRegisters nl _ _⟩
  · cases t with
    | reg _ => exact fun _ hc => by cases hc
    | spill p =>
      exact List.forall_mem_append.2 ⟨List.forall_mem_singleton.2 (com (by decide) (by decide)),
        List.forall_mem_singleton.2 (.inl (leaf_form rfl))⟩
  · cases t <;> exact List.forall_mem_singleton.2 (.inl (leaf_form rfl))
  · exact List.forall_mem_cons.2 ⟨.inr .call, List.forall_mem_singleton.2 (com (by decide) (by decide))⟩

end Scc.X86.Mem
