/-
  Scc.X86.LoaderX86Names — the x86-64 instance of `OpsNames` (LoaderNames.lean): every method of the
  x86-64 backend (Scc/X86/Backend.lean) returns only codes whose label operands pass the loader's symbol
  test and whose comments are free of line breaks (`nmB`), given that the labels it is handed do.
  Internal labels are `lab<n>` (`labName`); the comments of memory.rs have no line break by their form
  (`Mem.MemCom`, X86/MemBlk.lean), the others are literals.
  Consequence `routine_namesOK`: every item of the routine emitted for a program whose names are
  label-safe (`progNamesOK okcX`) passes `nmB`; with the operand ranges of ProofsWfProg.lean
  (`routine_rangesOK`) every item is `CodeOK`, hence the routine text LOADS (`routine_textLoads`).
-/
import Scc.Backend.LoaderNamesC
import Scc.X86.LoaderText
import Scc.X86.MemBlk
import Scc.X86.CodeBlk

set_option linter.unusedVariables false

namespace Scc.X86.Loader

open Scc.AxCut Scc.Backend

/-- characters of a symbol of the x86-64 loader that are not line breaks -/
def okcX (c : Char) : Bool := isSymChar c && c != '\n'

theorem okcSpecX : OkcSpec okcX where
  nl := by
    intro c h e; subst e; revert h; decide
  us := by decide
  digit := by
    intro c hc
    have h : ∀ d : Char, d.isDigit = true → d ≠ ' ' ∧ d ≠ ',' ∧ d ≠ '[' ∧ d ≠ ']' ∧ d ≠ ':' ∧ d ≠ ';' ∧ d ≠ '\n' := by
      intro d hd
      refine ⟨?_, ?_, ?_, ?_, ?_, ?_, ?_⟩ <;> (intro e; subst e; revert hd; decide)
    obtain ⟨h1, h2, h3, h4, h5, h6, h7⟩ := h c hc
    simp [okcX, isSymChar, h1, h2, h3, h4, h5, h6, h7]

/-- executable form of `symOKC l.toList` -/
def labOKB (l : String) : Bool :=
  !l.toList.isEmpty && l.toList.all okcX && (regOfName l).isNone && (parseInt l.toList).isNone

def comOKB (m : String) : Bool := m.toList.all (· != '\n')

theorem symOKC_of_labOKB {l : String} (h : labOKB l = true) : symOKC l.toList := by
  simp only [labOKB, Bool.and_eq_true, Bool.not_eq_true', List.all_eq_true, Option.isNone_iff_eq_none] at h
  obtain ⟨⟨⟨h1, h2⟩, h3⟩, h4⟩ := h
  refine ⟨?_, ?_, by rw [String.ofList_toList]; exact h3, h4⟩
  · intro e; rw [e] at h1; cases h1
  · intro c hc
    have := h2 c hc
    simp only [okcX, Bool.and_eq_true, bne_iff_ne, ne_eq] at this
    exact this

theorem noNL_of_comOKB {m : String} (h : comOKB m = true) : NoNL m := by
  simp only [comOKB, List.all_eq_true, bne_iff_ne, ne_eq] at h
  exact fun hm => h _ hm rfl

theorem comOKB_of_noNL {m : String} (h : NoNL m) : comOKB m = true := by
  simp only [comOKB, List.all_eq_true, bne_iff_ne, ne_eq]
  intro c hc e; subst e; exact h hc

/-- the strings of an item are text-safe -/
def nmB : Code → Bool
  | .JMPL l | .JMPLN l | .LEAL _ l | .JEL l | .JNEL l | .JLL l | .JLEL l | .JGL l | .JGEL l
  | .CALL l | .GLOBAL l | .LAB l | .EXTERN l => labOKB l
  | .COMMENT m => comOKB m
  | _ => true

abbrev NmOK (l : List Code) : Prop := l.all nmB = true

theorem nmOK_append {a b : List Code} : NmOK (a ++ b) ↔ NmOK a ∧ NmOK b := by
  simp [NmOK, List.all_append]

theorem nmOK_cons {c : Code} {l : List Code} : NmOK (c :: l) ↔ nmB c = true ∧ NmOK l := by
  simp [NmOK, List.all_cons]

theorem nmOK_nil : NmOK [] := rfl

theorem nm_com {m : String} (h : NoNL m) : nmB (.COMMENT m) = true := comOKB_of_noNL h

/-- a comment that is a string literal -/
local macro "cm_ok" : tactic => `(tactic| exact nm_com (by lit_ok))

/-- a closed list of items: a comment that is a string literal has no line break (`lit_ok`), every other
item evaluates -/
local syntax "nm_ok" : tactic
local macro_rules | `(tactic| nm_ok) => `(tactic| first
  | (refine nmOK_cons.2 ⟨?_, ?_⟩
     · first | (refine nm_com ?_; lit_ok) | rfl
     · nm_ok)
  | exact nmOK_nil)

theorem allP_iff {l : List Code} : AllP (fun c => nmB c = true) l ↔ NmOK l := by
  simp [AllP, NmOK, List.all_eq_true]

/-! ## labels of the generator pass the loader's test -/

theorem parseInt_chars {cs : List Char} {i : Int} (h : parseInt cs = some i) : ∀ c ∈ cs, immChar c = true := by
  unfold parseInt at h
  split at h
  · rename_i ds
    split at h
    · rename_i hd
      simp only [isDigitStr, Bool.and_eq_true, List.all_eq_true] at hd
      intro c hc
      simp only [List.mem_cons] at hc
      rcases hc with rfl | hc
      · rfl
      · simp [immChar, hd.2 c hc]
    · cases h
  · split at h
    · rename_i hd
      simp only [isDigitStr, Bool.and_eq_true, List.all_eq_true] at hd
      intro c hc
      simp [immChar, hd.2 c hc]
    · cases h

theorem labOKB_of_us {l : String} (h1 : StrOK okcX l) (h2 : '_' ∈ l.toList) : labOKB l = true := by
  simp only [labOKB, Bool.and_eq_true, Bool.not_eq_true', List.all_eq_true, Option.isNone_iff_eq_none]
  refine ⟨⟨⟨?_, h1⟩, ?_⟩, ?_⟩
  · cases hl : l.toList with
    | nil => rw [hl] at h2; simp at h2
    | cons _ _ => rfl
  · cases hr : regOfName l with
    | none => rfl
    | some r =>
      have hm := regOfName_some hr
      have : ∀ s ∈ regNames, '_' ∉ s.toList := by decide +kernel
      exact absurd h2 (this l hm)
  · cases hp : parseInt l.toList with
    | none => rfl
    | some i =>
      have := parseInt_chars hp '_' h2
      exact absurd this (by decide)

theorem labOKB_lab (n : Nat) : labOKB ("lab" ++ toString n) = true := by
  have hl : ("lab" ++ toString n).toList = 'l' :: 'a' :: 'b' :: Nat.toDigits 10 n := by
    rw [String.toList_append, Scc.Str.toList_toString_nat]; rfl
  simp only [labOKB, Bool.and_eq_true, Bool.not_eq_true', List.all_eq_true, Option.isNone_iff_eq_none, hl]
  refine ⟨⟨⟨rfl, ?_⟩, ?_⟩, ?_⟩
  · intro c hc
    simp only [List.mem_cons] at hc
    rcases hc with rfl | rfl | rfl | hc
    · decide
    · decide
    · decide
    · exact okcSpecX.digit c (Scc.Str.isDigit_toDigits n c hc)
  · have := regOfName_none_of_head (cs := ("lab" ++ toString n).toList) (by rw [hl]; simp)
    rw [String.ofList_toList] at this
    exact this
  · simp [parseInt, isDigitStr]

theorem labOKB_genLabel {l : String} (h : GenLabel okcX natRen l) : labOKB l = true := by
  rcases h with ⟨h1, h2⟩ | ⟨n, rfl⟩ | rfl
  · exact labOKB_of_us h1 h2
  · exact labOKB_lab n
  · decide

theorem labOKB_labName (n : Nat) : labOKB (labName n) = true := labOKB_lab n

/-! ## code.rs -/

/-- the strings of a `Leaf` are text-safe: only its comments have any -/
theorem _root_.Scc.X86.Mem.Leaf.nm {rok iok : Prop} {c : Code} (h : Mem.Leaf rok iok c) : nmB c = true := by
  cases h with
  | com hm => exact nm_com hm.1
  | instr hf _ _ => cases c <;> first | rfl | cases hf

theorem _root_.Scc.X86.Mem.Blk.nmOK {rok iok : Prop} {l : List Code} (h : Mem.Blk rok iok l) : NmOK l :=
  List.all_eq_true.2 (Scc.Backend.Blk.forall (fun _ hl => hl.nm) (fun _ n _ => labOKB_labName n)
    (fun n => labOKB_labName n) (fun n => labOKB_labName n) h)

/-- code of the form of code.rs (Scc/X86/CodeBlk.lean) has text-safe strings -/
theorem _root_.Scc.X86.Mem.CItems.nmOK {rok iok : Prop} {l : List Code} (h : Mem.CItems rok iok l) : NmOK l :=
  List.all_eq_true.2 fun c hc => (h c hc).1.nm

theorem nm_compare (a b : Temporary) : NmOK (compare a b) := (Mem.items_compare (iok := True) a b).nmOK

theorem nm_compareImmediate (t : Temporary) (i : Int) : NmOK (compareImmediate t i) :=
  (Mem.items_compareImmediate t i).nmOK

theorem nm_binop (o : BinOp) (t s1 s2 : Temporary) : NmOK (binop o t s1 s2) :=
  List.all_eq_true.2 fun c hc => by
    rcases Mem.items_binop_or (iok := True) o t s1 s2 c hc with h | ⟨_, _, rfl, _⟩
    · exact h.1.nm
    · rfl

theorem nm_mov (t s : Temporary) : NmOK (mov t s) := (Mem.items_mov (iok := True) t s).nmOK

theorem nm_jump (t : Temporary) : NmOK (jump t) := by
  unfold jump; split <;> rfl

theorem nm_condJump (s : IfSort) {l : String} (h : labOKB l = true) : nmB (condJump s l) = true := by
  cases s <;> exact h

theorem nm_jumpLabelIf (s : IfSort) (a b : Temporary) {l : String} (h : labOKB l = true) :
    NmOK (jumpLabelIf s a b l) := by
  unfold jumpLabelIf
  exact nmOK_append.2 ⟨nm_compare _ _, nmOK_cons.2 ⟨nm_condJump s h, nmOK_nil⟩⟩

theorem nm_jumpLabelIfZero (s : IfSort) (a : Temporary) {l : String} (h : labOKB l = true) :
    NmOK (jumpLabelIfZero s a l) := by
  unfold jumpLabelIfZero
  exact nmOK_append.2 ⟨nm_compareImmediate _ _, nmOK_cons.2 ⟨nm_condJump s h, nmOK_nil⟩⟩

theorem nm_loadImmediate (t : Temporary) (i : Int) : NmOK (loadImmediate t i) := (Mem.items_loadImmediate t i).nmOK

theorem nm_loadLabel (t : Temporary) {l : String} (h : labOKB l = true) : NmOK (loadLabel t l) := by
  unfold loadLabel
  split
  · exact nmOK_cons.2 ⟨h, nmOK_nil⟩
  · exact nmOK_cons.2 ⟨h, rfl⟩

theorem nm_addAndJump (t : Temporary) (i : Int) : NmOK (addAndJump t i) := by
  unfold addAndJump; split <;> rfl

theorem nm_storeTemporary (t : Temporary) (sp : Bool) : NmOK (storeTemporary t sp) :=
  (Mem.items_storeTemporary (iok := True) t sp).nmOK

theorem nm_restoreTemporary (t : Temporary) (sp : Bool) : NmOK (restoreTemporary t sp) :=
  (Mem.items_restoreTemporary (iok := True) t sp).nmOK

theorem nm_map_of {α : Type} (f : α → Code) (h : ∀ a, nmB (f a) = true) (l : List α) : NmOK (l.map f) := by
  simp only [NmOK, List.all_map, List.all_eq_true, Function.comp]
  exact fun a _ => h a

theorem nm_printI64 (nl : Bool) (t : Temporary) (ctx : Ctx) : NmOK (printI64 nl t ctx) :=
  List.all_eq_true.2 fun c hc => (Mem.items_printI64 nl t ctx c hc).elim (·.nm)
    (fun h => by cases h <;> first | rfl | (cases nl <;> decide))

/-! ## memory.rs -/

abbrev PostNm (m : GenM (List Code)) : Prop := Post m NmOK

theorem postNm_store (toStore ctx : Ctx) : PostNm (store toStore ctx) :=
  fun _ _ _ h => (Mem.blk_store toStore ctx h).nmOK

theorem postNm_load (toLoad ctx : Ctx) : PostNm (load toLoad ctx) :=
  fun _ _ _ h => (Mem.blk_load toLoad ctx h).nmOK

theorem postNm_eraseBlock (t : Temporary) : PostNm (eraseBlock t) :=
  fun _ _ _ h => (Mem.blk_eraseBlock t h).nmOK

theorem postNm_shareBlockN (t : Temporary) (n : Nat) : PostNm (shareBlockN t n) :=
  fun _ _ _ h => (Mem.blk_shareBlockN t n h).nmOK

theorem opsNames_x86 : OpsNames x86Backend (fun c => nmB c = true) (GenLabel okcX natRen) where
  comment := fun m hm => comOKB_of_noNL hm
  label := fun l hl => labOKB_genLabel hl
  jump := fun t => allP_iff.2 (nm_jump t)
  jumpLabel := fun l hl => allP_iff.2 (nmOK_cons.2 ⟨labOKB_genLabel hl, nmOK_nil⟩)
  jumpLabelFixed := fun l hl => allP_iff.2 (nmOK_cons.2 ⟨labOKB_genLabel hl, nmOK_nil⟩)
  jumpLabelIf := fun s a b l hl => allP_iff.2 (nm_jumpLabelIf s a b (labOKB_genLabel hl))
  jumpLabelIfZero := fun s a l hl => allP_iff.2 (nm_jumpLabelIfZero s a (labOKB_genLabel hl))
  loadImmediate := fun t n => allP_iff.2 (nm_loadImmediate t n)
  loadLabel := fun t l hl => allP_iff.2 (nm_loadLabel t (labOKB_genLabel hl))
  addAndJump := fun t k => allP_iff.2 (nm_addAndJump t k)
  binop := fun o t s1 s2 => allP_iff.2 (nm_binop o t s1 s2)
  mov := fun t s => allP_iff.2 (nm_mov t s)
  printI64 := fun nl t ctx => Post.pure (allP_iff.2 (nm_printI64 nl t ctx))
  eraseBlock := fun t => (postNm_eraseBlock t).mono fun _ => allP_iff.2
  shareBlockN := fun t n => (postNm_shareBlockN t n).mono fun _ => allP_iff.2
  store := fun a b => (postNm_store a b).mono fun _ => allP_iff.2
  load := fun a b => (postNm_load a b).mono fun _ => allP_iff.2
  storeTemporary := fun t sp => allP_iff.2 (nm_storeTemporary t sp)
  restoreTemporary := fun t sp => allP_iff.2 (nm_restoreTemporary t sp)

/-- the names of every item of the body emitted for a program with label-safe names are text-safe -/
theorem compile_namesOK {p : AxCut.Prog} {hooks : Bool} {c0 : Nat} {body : List Code} {nargs : Nat}
    (hp : progNamesOK okcX p = true) (h : compileX86 p hooks c0 = .ok (body, nargs)) : NmOK body := by
  unfold compileX86 at h
  split at h
  · cases h
  · rename_i r c' hr
    cases h
    exact allP_iff.1 (post_compileR_names okcSpecX (fun n => strOK_natToString okcSpecX n) opsNames_x86
      hooks p hp c0 _ c' hr)

theorem nm_moveArguments : ∀ (n : Nat) (codes : List Code), moveArguments n = .ok codes → NmOK codes
  | 0, codes, h => by simp only [moveArguments] at h; cases h; decide
  | 1, codes, h => by
    simp only [moveArguments] at h
    split at h
    · cases h; exact nmOK_cons.2 ⟨by cm_ok, rfl⟩
    · cases h
  | n + 2, codes, h => by
    simp only [moveArguments] at h
    split at h
    · cases h
    · split at h
      · rename_i rest hrest
        cases h
        exact nmOK_append.2 ⟨nmOK_cons.2 ⟨by cm_ok, rfl⟩, nm_moveArguments (n + 1) _ hrest⟩
      · cases h

theorem nm_setup {n : Nat} {codes : List Code} (h : setup n = .ok codes) : NmOK codes := by
  unfold setup at h
  split at h
  · cases h
  · rename_i moves hm
    cases h
    simp only [nmOK_append]
    exact ⟨⟨⟨by nm_ok, nm_map_of _ (fun _ => rfl) _⟩, by nm_ok⟩, nm_moveArguments _ _ hm⟩

theorem nm_cleanup : NmOK cleanup := by
  unfold cleanup
  simp only [nmOK_append]
  exact ⟨⟨by nm_ok, nm_map_of _ (fun _ => rfl) _⟩, rfl⟩

theorem routine_namesOK {p : AxCut.Prog} {hooks : Bool} {c0 : Nat} {body routine : List Code} {nargs : Nat}
    (hp : progNamesOK okcX p = true) (h : compileX86 p hooks c0 = .ok (body, nargs))
    (hr : intoRoutine body nargs = .ok routine) : NmOK routine := by
  have hb := compile_namesOK hp h
  unfold intoRoutine at hr
  split at hr
  · cases hr
  · rename_i su hsu
    cases hr
    simp only [nmOK_append]
    exact ⟨⟨⟨⟨⟨by nm_ok, by nm_ok⟩, nm_setup hsu⟩, by nm_ok⟩, hb⟩, nm_cleanup⟩

/-- registers in range and names text-safe: the item is `CodeOK` -/
theorem codeOK_of_range_names {c : Code} (hr : ∀ r ∈ codeRegs c, r < 16) (hn : nmB c = true) : CodeOK c := by
  refine ⟨hr, ?_, ?_, ?_, ?_⟩
  · intro l hl
    cases c <;> simp only [codeLabelRef] at hl <;> first | (cases hl; exact symOKC_of_labOKB hn) | cases hl
  · intro l hl
    cases c <;> simp only [codeLabelDef] at hl <;> first | (cases hl; exact symOKC_of_labOKB hn) | cases hl
  · intro f hf; subst hf; exact symOKC_of_labOKB hn
  · intro m hm; subst hm; exact noNL_of_comOKB hn

/-- **the routine the backend model emits for a program in range with label-safe names LOADS**: the
    machine's parser reads its printed text back, up to the text of comments — for every program, no
    evaluation -/
theorem routine_textLoads {p : AxCut.Prog} {hooks : Bool} {c0 : Nat} {body routine : List Code} {nargs : Nat}
    (hrange : ProgInRange p) (hp : progNamesOK okcX p = true)
    (h : compileX86 p hooks c0 = .ok (body, nargs)) (hr : intoRoutine body nargs = .ok routine) :
    ∃ items, parseText (printProg routine) = .ok items ∧
      (items.map (·.1)).map stripC = routine.map stripC := by
  have hn := routine_namesOK hp h hr
  have hrg := routine_rangesOK hrange h hr
  apply parseText_printProg
  intro c hc
  simp only [NmOK, List.all_eq_true] at hn
  exact codeOK_of_range_names (hrg c hc).1 (hn c hc)

end Scc.X86.Loader
