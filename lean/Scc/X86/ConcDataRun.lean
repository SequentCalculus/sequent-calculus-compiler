/-
  Scc.X86.ConcDataRun — C10 IN TERMS OF THE SOURCE-LEVEL DATA: the peak hypothesis of the footprint theorems
  (`PeakFrom`, ConcPeakRun.lean) follows from a bound `D` on the number of fields of the object values held by
  the variables of the positional machine (`valsFields st.env ≤ D` for every reachable state `st` — a
  statement about the AxCut program alone): `peakFrom_of_data` (no garbage when the deferred list is empty,
  Scc/Heap/RefineNoGarb.lean; objects of the abstract heap are nodes of the values, ConcData.lean).
  So a heap of `64·(D + A + 2)` bytes is enough for EVERY run (terminating or not) and the machine never writes
  above it: `data_programs_dsize_all` (every amount of machine fuel).
-/
import Scc.X86.ConcData
import Scc.X86.ConcAllFuel

namespace Scc.X86.Conc

open Scc.AxCut Scc.Backend Scc.Backend.Abs Scc.X86.Ref
open Scc.Props.C14Generic (LabelSafe)
open Scc.Props.C06Generic (outAfter WithinCapacity Reachable EnoughHeap CodeFits statesOf stopsWithin)
open Scc.Heap (HState InvS InvW Exhausted)
open Scc.Heap.Refine (HRef FrLe Room FrPk heapFields live_le_heapFields)

theorem peakFrom_of_data {F : Frame} {mon : MonCfg} {px : X86.Prog} {cs : List Code} {P : Program} {hooks : Bool}
    {prog : AxCut.Prog} {st : Pos.State} {X : State} {D C : Nat}
    (hD : ∀ st', Reachable prog st st' → valsFields st'.env ≤ D) :
    PeakFrom F mon px cs P hooks prog st X D C := by
  intro n X' st' _ cfg' hs' hr hn B hC rs lin live Fr I
  obtain ⟨Γ', ι, _, RX, X3h, _⟩ := B.rel
  have := live_le_valsFields (K.fieldsOK_trFs _) RX X3h.toK.1.href I
  have := hD st' hr
  omega

/-- a run that makes `n` transitions in a smaller heap is, for every fuel up to `n`, the same run in a larger
heap -/
theorem runLoop_larger_heap_stepN {m' m : MonCfg} (S : Sub m'.mach m.mach) (h' : m'.heap = false)
    (hm : m.heap = false) (p : Prog) : ∀ (f n : Nat) (s s' : State) (b : Nat), stepN m' p n s = .inl s' → f ≤ n →
      runLoop m p f s b = runLoop m' p f s b
  | 0, _, _, _, _, _, _ => rfl
  | f + 1, 0, _, _, _, _, h => absurd h (by omega)
  | f + 1, n + 1, s, s', b, hs, h => by
    simp only [stepN] at hs
    simp only [runLoop, monitor_off h', monitor_off hm]
    cases hst : step m' p s with
    | inr r => rw [hst] at hs; cases hs
    | inl s1 =>
      rw [hst] at hs
      rw [step_mono S hst]
      exact runLoop_larger_heap_stepN S h' hm p f n s1 s' _ hs (by omega)

/-- ANY RUN (heap monitor off): the machine's record of the highest heap address written stays inside the heap -/
theorem runLoop_mhw {m : MonCfg} (hm : m.heap = false) (p : Prog) : ∀ (f : Nat) (s : State) (b : Nat),
    MhwOK m.mach s → (runLoop m p f s b).maxHeapWritten ≤ m.mach.heapBytes
  | 0, s, b, hs => hs
  | f + 1, s, b, hs => by
    simp only [runLoop, monitor_off hm]
    cases hst : step m p s with
    | inl s1 => exact runLoop_mhw hm p f s1 _ (step_mhw hst hs)
    | inr r =>
      cases r <;> exact hs

theorem runItems_mhw (items : List (Code × Nat)) (args : List Word) (f : Nat) (m : MonCfg) (hm : m.heap = false) :
    (runItems items args f m).maxHeapWritten ≤ m.mach.heapBytes := by
  unfold runItems
  dsimp only
  cases (mkProg m.mach items).labelIdx["asm_main"]? with
  | none => exact Nat.zero_le _
  | some entry =>
    dsimp only
    split
    · exact Nat.zero_le _
    · exact runLoop_mhw hm _ f _ 0 (mhwOK_init m.mach args entry)

theorem peakHyp_of_data {p : AxCut.Prog} {hooks : Bool} {routine : List Code} {ops : List MockOp} {cfg : MonCfg}
    {items : List (Code × Nat)} {args : List Word} {d0 : Def} {D C : Nat}
    (hD : ∀ st, Reachable p ⟨d0.ctx, args.map .int, d0.body⟩ st → valsFields st.env ≤ D) :
    PeakHyp p hooks routine ops cfg items args d0 D C :=
  fun _ _ _ _ _ => peakFrom_of_data hD

/-- every prefix of every run (as `data_programs_prefix`, for any source of the peak hypothesis): the chain of
statement boundaries -/
theorem data_programs_prefix_gen (p : AxCut.Prog) (args : List Word) (hooks : Bool) (body routine : List Code)
    (nargs : Nat) (d0 : Def) (ops : List MockOp) (c' : Nat)
    (hsafe : LabelSafe p = true) (htp : LinTypedProg p) (hprog : ProgOK p)
    (hcompM : (compile mockSym hooks p).run 0 = .ok ((ops, nargs), c')) (hfit : CodeFits ops)
    (hcompX : compileX86 p hooks 0 = .ok (body, nargs)) (hrout : intoRoutine body nargs = .ok routine)
    (hnd : (labs routine).Nodup)
    (hd : p.defs.head? = some d0) (hentry : ∀ b ∈ d0.ctx, b.chi = .ext ∧ b.ty = .i64)
    (hlen : d0.ctx.length = args.length)
    (hcap : ∀ st, Reachable p ⟨d0.ctx, args.map .int, d0.body⟩ st → 2 * st.ctx.length ≤ 266)
    (fuel : Nat) (hfuel : fuel + 1 < 2 ^ 64)
    (cfg : MonCfg) (MO : MachOK cfg.mach)
    (hb8 : cfg.mach.heapBase % 8 = 0) (hb0 : 0 < cfg.mach.heapBase)
    (Pk A : Nat) (hA : ∀ d ∈ p.defs, LetLe A d.body) (hbytes : 64 * (Pk + A + 2) ≤ cfg.mach.heapBytes)
    (items : List (Code × Nat)) (hitems : (items.map (·.1)).map stripC = routine.map stripC)
    (hfitX : addrAt cfg.mach.codeBase routine routine.length < 2 ^ 64)
    (hPH : PeakHyp p hooks routine ops cfg items args d0 Pk (A * fuel + 1)) :
    ∃ n0 X0, stepN cfg (mkProg cfg.mach items) n0 (initState cfg.mach args 6) = .inl X0 ∧
      BChain cfg (mkProg cfg.mach items) (BoundaryOf p hooks routine ops cfg)
        (statesOf p fuel ⟨d0.ctx, args.map .int, d0.body⟩) X0 := by
  obtain ⟨_, _, F, n0, X0, hFc, h0, hch, _⟩ := data_programs_run3 p args hooks body routine nargs d0 ops c' hsafe htp hprog hcompM hfit hcompX hrout hnd hd
    hentry hlen hcap fuel hfuel cfg MO hb8 hb0 Pk A hA hbytes items hitems hfitX hPH
  exact ⟨n0, X0, h0, BChain.mono (fun st X ⟨cfgA, hs, R, _⟩ => ⟨F, cfgA, hs, hFc, R⟩) hch⟩

/-- a run that is out of fuel has made that many transitions -/
theorem runLoop_outOfFuel_stepN {m : MonCfg} (hm : m.heap = false) (p : Prog) : ∀ (f : Nat) (s : State) (b : Nat),
    (runLoop m p f s b).res = .outOfFuel → ∃ s', stepN m p f s = .inl s'
  | 0, s, _, _ => ⟨s, rfl⟩
  | f + 1, s, b, h => by
    simp only [runLoop, monitor_off hm] at h
    simp only [stepN]
    cases hst : step m p s with
    | inl s1 =>
      rw [hst] at h
      exact runLoop_outOfFuel_stepN hm p f s1 _ h
    | inr r =>
      rw [hst] at h
      simp only [finish] at h
      subst h
      -- `step` never returns `outOfFuel`
      exfalso
      unfold step at hst
      cases hc : p.code[s.pc]? with
      | none => rw [hc] at hst; cases hst
      | some code =>
        rw [hc] at hst; dsimp only at hst
        cases hx : execCode m.mach p.labelAddr code s with
        | error e => rw [hx] at hst; cases hst
        | ok r =>
          obtain ⟨s1, ctl⟩ := r
          rw [hx] at hst; dsimp only at hst
          cases ctl with
          | next => cases hst
          | jumpLabel l =>
            dsimp only at hst
            cases hl : p.labelIdx[l]? with
            | none => rw [hl] at hst; cases hst
            | some i => rw [hl] at hst; cases hst
          | jumpAddr a =>
            dsimp only at hst
            cases hl : p.addrIdx[a]? with
            | none => rw [hl] at hst; cases hst
            | some i => rw [hl] at hst; cases hst
          | callExt f' =>
            dsimp only at hst
            cases hl : callExt (if codeSize code = 0 then s1 else { s1 with steps := s1.steps + 1 }) f' with
            | error e => rw [hl] at hst; cases hst
            | ok s3 => rw [hl] at hst; cases hst
          | ret =>
            dsimp only at hst
            cases hl : retCheck m.mach (if codeSize code = 0 then s1 else { s1 with steps := s1.steps + 1 }) with
            | ok v => rw [hl] at hst; cases hst
            | error r =>
              rw [hl] at hst
              -- `retCheck` reports faults and violations only
              rcases retCheck_error hl with ⟨_, _, rfl⟩ | ⟨_, rfl⟩ <;> cases hst

/-- a run that ends with `done v` or is out of fuel in the heap cut down to `B` bytes is the same run in the
full heap -/
theorem runItems_eq_tight {cfg : MonCfg} (MO : MachOK cfg.mach) {B : Nat} (hB : B ≤ cfg.mach.heapBytes)
    (hheap : cfg.heap = false) (items : List (Code × Nat)) (args : List Word) (f : Nat)
    (h : (runItems items args f (withHeapBytes cfg B)).res = .outOfFuel ∨
      ∃ v, (runItems items args f (withHeapBytes cfg B)).res = .done v) :
    runItems items args f cfg = runItems items args f (withHeapBytes cfg B) := by
  have St := sub_withHeapBytes MO hB
  rcases h with h | ⟨v, h⟩
  · unfold runItems at h ⊢
    dsimp only at h ⊢
    have hmk : mkProg (withHeapBytes cfg B).mach items = mkProg cfg.mach items := rfl
    rw [hmk] at h ⊢
    cases hl : (mkProg cfg.mach items).labelIdx["asm_main"]? with
    | none => rfl
    | some entry =>
      rw [hl] at h
      dsimp only at h ⊢
      split
      · rfl
      · rename_i hn
        rw [if_neg hn] at h
        have hi : initState (withHeapBytes cfg B).mach args entry = initState cfg.mach args entry := rfl
        rw [hi] at h ⊢
        obtain ⟨s', hs'⟩ := runLoop_outOfFuel_stepN (m := withHeapBytes cfg B) hheap _ f _ 0 h
        exact runLoop_larger_heap_stepN St hheap hheap _ f f _ s' 0 hs' (Nat.le_refl _)
  · exact runItems_larger_heap St hheap hheap items args f v h

/-- EVERY AMOUNT OF MACHINE FUEL under a bound `D` on the fields of the object values of the positional
machine's environments: the machine on the items of the routine, in ANY heap of at least `64·(D + A + 2)` bytes,
ends in `outOfFuel` or in `done v` (the result of the positional machine), and never writes above
`64·(D + A + 2)` bytes of its heap -/
theorem data_programs_dsize_all (p : AxCut.Prog) (args : List Word) (hooks : Bool) (body routine : List Code)
    (nargs : Nat) (d0 : Def) (ops : List MockOp) (c' : Nat)
    (hsafe : LabelSafe p = true) (htp : LinTypedProg p) (hprog : ProgOK p)
    (hcompM : (compile mockSym hooks p).run 0 = .ok ((ops, nargs), c')) (hfit : CodeFits ops)
    (hcompX : compileX86 p hooks 0 = .ok (body, nargs)) (hrout : intoRoutine body nargs = .ok routine)
    (hnd : (labs routine).Nodup)
    (hd : p.defs.head? = some d0) (hentry : ∀ b ∈ d0.ctx, b.chi = .ext ∧ b.ty = .i64)
    (hlen : d0.ctx.length = args.length)
    (hcap : ∀ st, Reachable p ⟨d0.ctx, args.map .int, d0.body⟩ st → 2 * st.ctx.length ≤ 266)
    (hnostuck : ∀ fuel w, (Pos.run p args fuel).res ≠ .stuck w)
    (D : Nat) (hD : ∀ st, Reachable p ⟨d0.ctx, args.map .int, d0.body⟩ st → valsFields st.env ≤ D)
    (cfg : MonCfg) (MO : MachOK cfg.mach) (hheap : cfg.heap = false)
    (hb8 : cfg.mach.heapBase % 8 = 0) (hb0 : 0 < cfg.mach.heapBase)
    (A M : Nat) (hA : ∀ d ∈ p.defs, LetLe A d.body) (hM : ∀ d ∈ p.defs, stmtSize d.body ≤ M)
    (hbytes : 64 * (D + A + 2) ≤ cfg.mach.heapBytes)
    (items : List (Code × Nat)) (hitems : (items.map (·.1)).map stripC = routine.map stripC)
    (hfitX : addrAt cfg.mach.codeBase routine routine.length < 2 ^ 64)
    (fuel' : Nat) (hf : fuel' * (M + 1) + stmtSize d0.body + 1 < 2 ^ 64) :
    ((runItems items args fuel' cfg).res = .outOfFuel ∨
      ∃ v out, Pos.run p args (fuel' * (M + 1) + stmtSize d0.body) = ⟨out, .done v⟩ ∧
        (runItems items args fuel' cfg).res = .done v) ∧
    (runItems items args fuel' cfg).maxHeapWritten ≤ 64 * (D + A + 2) := by
  -- the run in the heap cut down to `64·(D + A + 2)` bytes
  have MOt := machOK_withHeapBytes MO hbytes
  have hmt := runItems_mhw items args fuel' (withHeapBytes cfg (64 * (D + A + 2))) hheap
  have htight := data_programs_all_fuel_gen p args hooks body routine nargs d0 ops c' hsafe htp hprog hcompM hfit
    hcompX hrout hnd hd hentry hlen hcap hnostuck (withHeapBytes cfg (64 * (D + A + 2))) MOt hheap hb8 hb0 D A M hA hM
    (Nat.le_refl _) items hitems hfitX fuel' hf (peakHyp_of_data hD)
  have e := runItems_eq_tight MO hbytes hheap items args fuel' (by
    rcases htight with h | ⟨v, _, _, h⟩
    · exact Or.inl h
    · exact Or.inr ⟨v, h⟩)
  rw [e]
  exact ⟨htight, hmt⟩

end Scc.X86.Conc
