/-
  Scc.X86.MemBlk — the FORM of the code of memory.rs (x86-64): single items `Leaf` — a `#…` comment that
  is one line and no `#ctx` hook (`Scc.Mem.MemCom`), or an instruction of one of the forms `memForm` (the
  moves, immediates and compares memory.rs uses and the arithmetic and compare forms of code.rs) whose
  operands are in range (registers rcx … r15, never rsp; memory operands a spill slot of the frame or a
  heap word with a 32-bit displacement; encodable immediates) — put together by concatenation and by the
  two label-drawing blocks (`Scc.Backend.Blk`).  The ranges of registers and memory operands are asked only
  under the flag `rok`, those of the immediates only under `iok` (what is known of the arguments a method is
  called with).  The code of `store` and of `load` is a `Blk` (`blk_store`, `blk_load`): the leaves are, and
  the walks over `store_fields` and `load_fields` are `Scc.Mem.StoreCode.Leaves.storeFieldsC` and
  `Scc.Mem.LoadCode.LoadLeaves.loadFieldsC`; so is the code of `erase_block` and `share_block_n`.  The later
  layers read what they need off `Leaf`.
-/
import Scc.X86.MemCode
import Scc.X86.LoaderLemmas
import Scc.Backend.Blk

namespace Scc.X86.Mem

open Scc.AxCut
open Scc.Backend (GenM TempNum Emits)

export Scc.Mem (MemCom memCom_ofList memCom_checkChild)

/-- the instruction forms memory.rs uses outside its blocks, and the arithmetic and compare forms of code.rs
(no label, no stack operation, no indirect jump, no `imul [mem], reg`) -/
def memForm : Code → Bool
  | .MOV _ _ | .MOVS _ _ _ | .MOVL _ _ _ | .MOVI _ _ | .MOVIM _ _ _ | .ADDI _ _ | .ADDIM _ _ _
  | .CMPI _ _ | .CMPIM _ _ _ => true
  | .ADD _ _ | .ADDRM _ _ _ | .ADDMR _ _ _ | .SUB _ _ | .SUBRM _ _ _ | .SUBMR _ _ _ | .IMUL _ _ | .IMULRM _ _ _
  | .CQO | .IDIV _ | .IDIVM _ _ | .CMP _ _ | .CMPRM _ _ _ | .CMPMR _ _ _ => true
  | _ => false

/-- a register operand: rcx … r15 -/
def RegOK (r : Reg) : Prop := 1 ≤ r ∧ r < 16

/-- a memory operand: a spill slot of the frame, or a heap word `[r + disp32]` -/
def MemOK (b : Reg) (i : Int) : Prop :=
  (b = 0 ∧ ∃ p, p < 256 ∧ i = stackOffset p) ∨ (RegOK b ∧ fitsI32 i = true)

def RegsOK : Code → Prop
  | .MOV r r1 | .ADD r r1 | .SUB r r1 | .IMUL r r1 | .CMP r r1 => RegOK r ∧ RegOK r1
  | .MOVS r b i | .MOVL r b i | .ADDRM r b i | .SUBRM r b i | .IMULRM r b i | .CMPRM r b i => RegOK r ∧ MemOK b i
  | .ADDMR b i r | .SUBMR b i r | .CMPMR b i r => MemOK b i ∧ RegOK r
  | .IDIV r => RegOK r
  | .IDIVM b i => MemOK b i
  | .MOVI r _ | .ADDI r _ | .CMPI r _ => RegOK r
  | .MOVIM b i _ | .ADDIM b i _ | .CMPIM b i _ => MemOK b i
  | _ => True

def ImmOK : Code → Prop
  | .MOVI _ v => fitsI64 v = true
  | .MOVIM _ _ v | .ADDIM _ _ v | .CMPIM _ _ v | .ADDI _ v | .CMPI _ v => fitsI32 v = true
  | _ => True

/-- a single item of memory.rs; the ranges of registers and memory operands are asked under `rok`, those of
the immediates under `iok` -/
inductive Leaf (rok iok : Prop) : Code → Prop
  | com {m : String} : MemCom m → Leaf rok iok (.COMMENT m)
  | instr {c : Code} : memForm c = true → (rok → RegsOK c) → (iok → ImmOK c) → Leaf rok iok c

theorem Leaf.mono {rok iok rok' iok' : Prop} (hr : rok' → rok) (hi : iok' → iok) {c : Code}
    (hl : Leaf rok iok c) : Leaf rok' iok' c := by
  cases hl with
  | com hm => exact .com hm
  | instr hf h1 h2 => exact .instr hf (fun o => h1 (hr o)) (fun o => h2 (hi o))

/-- the ranges of a temporary (registers rcx … r15, spill slots 0 … 255) -/
def TOK : Temporary → Prop
  | .reg r => 1 ≤ r ∧ r < 16
  | .spill p => p < 256

theorem tok_posTemp {n : Nat} (h : n < 267) : TOK (posTemp n) := by
  unfold posTemp
  split
  · exact ⟨by omega, by assumption⟩
  · show _ < 256; omega

/-- the jumps and labels of `skip_if_zero` and `if_zero_then_else` -/
def syn : Scc.Backend.BlkSyn Code := ⟨Unit, fun _ l => .JEL l, .JMPL, .LAB, labName⟩

abbrev Blk (rok iok : Prop) : List Code → Prop := Scc.Backend.Blk syn (Leaf rok iok) (fun _ => True)

namespace Blk
variable {rok iok : Prop}

/-! the rules of `Scc.Backend.Blk` under the names of this namespace, so that `.nil`, `.append`, `.cons` resolve
as the instruction forms below do -/

theorem nil : Blk rok iok [] := Scc.Backend.Blk.nil
theorem append {a b : List Code} (ha : Blk rok iok a) (hb : Blk rok iok b) : Blk rok iok (a ++ b) :=
  Scc.Backend.Blk.append ha hb
theorem cons {c : Code} {l : List Code} (h : Leaf rok iok c) (hl : Blk rok iok l) : Blk rok iok (c :: l) :=
  Scc.Backend.Blk.cons h hl

theorem mono {rok' iok' : Prop} (hr : rok' → rok) (hi : iok' → iok) {l : List Code} (hl : Blk rok iok l) :
    Blk rok' iok' l := Scc.Backend.Blk.mono (fun _ h => h.mono hr hi) (fun _ h => h) hl

theorem mov {r r1 : Reg} {l : List Code} (h : rok → RegOK r ∧ RegOK r1) (hl : Blk rok iok l) :
    Blk rok iok (.MOV r r1 :: l) := cons (.instr rfl h fun _ => trivial) hl
theorem movs {r b : Reg} {i : Int} {l : List Code} (h : rok → RegOK r ∧ MemOK b i) (hl : Blk rok iok l) :
    Blk rok iok (.MOVS r b i :: l) := cons (.instr rfl h fun _ => trivial) hl
theorem movl {r b : Reg} {i : Int} {l : List Code} (h : rok → RegOK r ∧ MemOK b i) (hl : Blk rok iok l) :
    Blk rok iok (.MOVL r b i :: l) := cons (.instr rfl h fun _ => trivial) hl
theorem movi {r : Reg} {v : Int} {l : List Code} (h : rok → RegOK r) (hv : iok → fitsI64 v = true)
    (hl : Blk rok iok l) : Blk rok iok (.MOVI r v :: l) := cons (.instr rfl h hv) hl
theorem movim {b : Reg} {i v : Int} {l : List Code} (h : rok → MemOK b i) (hv : iok → fitsI32 v = true)
    (hl : Blk rok iok l) : Blk rok iok (.MOVIM b i v :: l) := cons (.instr rfl h hv) hl
theorem addim {b : Reg} {i v : Int} {l : List Code} (h : rok → MemOK b i) (hv : iok → fitsI32 v = true)
    (hl : Blk rok iok l) : Blk rok iok (.ADDIM b i v :: l) := cons (.instr rfl h hv) hl
theorem addi {r : Reg} {v : Int} {l : List Code} (h : rok → RegOK r) (hv : iok → fitsI32 v = true)
    (hl : Blk rok iok l) : Blk rok iok (.ADDI r v :: l) := cons (.instr rfl h hv) hl

theorem consC {m : String} {l : List Code} (h : MemCom m) (hl : Blk rok iok l) : Blk rok iok (.COMMENT m :: l) :=
  cons (.com h) hl

end Blk

theorem regOK_TEMP : RegOK TEMP := ⟨by decide, by decide⟩
theorem regOK_HEAP : RegOK HEAP := ⟨by decide, by decide⟩
theorem regOK_FREE : RegOK FREE := ⟨by decide, by decide⟩

theorem memOK_slot {p : Nat} (h : p < 256) : MemOK STACK (stackOffset p) := Or.inl ⟨rfl, p, h, rfl⟩

theorem memOK_heap {b : Reg} (hb : RegOK b) {i : Int} (hi : fitsI32 i = true) : MemOK b i := Or.inr ⟨hb, hi⟩

theorem fitsI32_fieldOffset (num : TempNum) {off : Nat} (h : off ≤ 1000) : fitsI32 (fieldOffset num off) = true := by
  have e : fieldOffset num off = 8 * (2 + 2 * (off : Int) + (num.toNat : Int)) := by
    simp [fieldOffset, address, FIELD_SLOT_SIZE, consts]
  rw [e]
  unfold fitsI32
  simp only [Bool.and_eq_true, decide_eq_true_eq]
  cases num <;> simp only [TempNum.toNat] <;> omega

variable {ok iok : Prop}

theorem leaf_compareImmediate {t : Temporary} (ht : ok → TOK t) : ∃ c, compareImmediate t 0 = [c] ∧ Leaf ok iok c := by
  cases t with
  | reg r => exact ⟨_, rfl, .instr rfl (fun o => ht o) fun _ => (rfl : fitsI32 0 = true)⟩
  | spill p => exact ⟨_, rfl, .instr rfl (fun o => memOK_slot (ht o)) fun _ => (rfl : fitsI32 0 = true)⟩

theorem blk_skipIfZeroC {t : Temporary} (ht : ok → TOK t) {body : List Code} (hb : Blk ok iok body) (k : Nat) :
    Blk ok iok (skipIfZeroC t body k) := by
  obtain ⟨c, e, hl⟩ := leaf_compareImmediate ht
  unfold skipIfZeroC
  rw [e]
  exact Scc.Backend.Blk.skip (S := syn) (pre := [c]) (x := ()) (k + 1)
    (fun c' h => by rw [List.mem_singleton.1 h]; exact hl) trivial hb

theorem blk_ifZeroThenElseC {r : Reg} (hr : ok → RegOK r) {offset : Option Int}
    (ho : ∀ off, offset = some off → fitsI32 off = true) {tb eb : List Code} (ht : Blk ok iok tb) (he : Blk ok iok eb)
    (k : Nat) : Blk ok iok (ifZeroThenElseC r offset tb eb k) := by
  refine Scc.Backend.Blk.ite (S := syn) (pre := [cmpZero r offset]) (x := ()) (k + 1) (k + 2)
    (fun c h => ?_) trivial ht he
  rw [List.mem_singleton.1 h]
  cases offset with
  | none => exact .instr rfl (fun o => hr o) fun _ => (rfl : fitsI32 0 = true)
  | some off => exact .instr rfl (fun o => memOK_heap (hr o) (ho off rfl)) fun _ => (rfl : fitsI32 0 = true)

theorem blk_eraseValidObjectC {r : Reg} (hr : ok → RegOK r) (k : Nat) : Blk ok iok (eraseValidObjectC r k) :=
  blk_ifZeroThenElseC hr (fun _ h => by cases h; decide)
    (.consC (by mc) (.movs (fun o => ⟨regOK_FREE, memOK_heap (hr o) (by decide)⟩)
      (.mov (fun o => ⟨regOK_FREE, hr o⟩) .nil)))
    (.consC (by mc) (.addim (fun o => memOK_heap (hr o) (by decide)) (fun _ => by decide) .nil)) k

theorem blk_eraseBlockC (t : Temporary) (k : Nat) : Blk (TOK t) iok (eraseBlockC t k) := by
  cases t with
  | reg r =>
    exact blk_skipIfZeroC (t := .reg r) id (.consC (by mc) (blk_eraseValidObjectC (r := r) id k)) (k + 2)
  | spill p =>
    exact .movl (fun o => ⟨regOK_TEMP, memOK_slot o⟩)
      (blk_skipIfZeroC (t := .reg TEMP) (fun _ => regOK_TEMP)
        (.consC (by mc) (blk_eraseValidObjectC (fun _ => regOK_TEMP) k)) (k + 2))

theorem blk_shareBlockNC (t : Temporary) (n k : Nat) :
    Blk (TOK t) (fitsI32 (n : Int) = true) (shareBlockNC t n k) := by
  cases t with
  | reg r =>
    exact blk_skipIfZeroC (t := .reg r) id (.consC (by mc)
      (.addim (fun o => memOK_heap o (by decide)) id .nil)) k
  | spill p =>
    exact blk_skipIfZeroC (t := .spill p) id (.consC (by mc)
      (.movl (fun o => ⟨regOK_TEMP, memOK_slot o⟩)
        (.addim (fun _ => memOK_heap regOK_TEMP (by decide)) id .nil))) k

theorem blk_eraseFieldsC {r : Reg} (hr : RegOK r) : ∀ (n offset k : Nat), n + offset ≤ 1000 →
    Blk ok iok (eraseFieldsC r n offset k)
  | 0, _, _, _ => .nil
  | n + 1, offset, k, h => by
    unfold eraseFieldsC
    exact .append (.append (.consC (memCom_checkChild _)
      (.movl (fun _ => ⟨regOK_TEMP, memOK_heap hr (fitsI32_fieldOffset .fst (by omega))⟩) .nil))
      ((blk_eraseBlockC (.reg TEMP) k).mono (fun _ => regOK_TEMP) id)) (blk_eraseFieldsC hr n (offset + 1) (k + 3) (by omega))

theorem tok_shareReg {t : Temporary} (ht : TOK t) : TOK (.reg (shareReg t)) := by
  cases t with
  | reg r => exact ht
  | spill p => exact regOK_TEMP

theorem blk_acquireBlockC (t : Temporary) (k : Nat) : Blk (TOK t) iok (acquireBlockC t k) := by
  have hhead : Blk (TOK t) iok (acquireHead t) := by
    cases t with
    | reg r => exact .mov (fun o => ⟨o, regOK_HEAP⟩) .nil
    | spill p => exact .mov (fun _ => ⟨regOK_TEMP, regOK_HEAP⟩) (.movs (fun o => ⟨regOK_HEAP, memOK_slot o⟩) .nil)
  refine .append (.append hhead (.consC (by mc) (.consC (by mc)
    (.movl (fun _ => ⟨regOK_HEAP, memOK_heap regOK_HEAP (by decide)⟩) .nil)))) ?_
  refine blk_ifZeroThenElseC (fun _ => regOK_HEAP) (fun _ h => by cases h)
    (.append (.consC (by mc) (.mov (fun _ => ⟨regOK_HEAP, regOK_FREE⟩)
      (.movl (fun _ => ⟨regOK_FREE, memOK_heap regOK_FREE (by decide)⟩) .nil))) ?_)
    (.consC (by mc) (.movim (fun o => memOK_heap (tok_shareReg o) (by decide)) (fun _ => by decide) .nil)) (k + 11)
  exact blk_ifZeroThenElseC (fun _ => regOK_FREE) (fun _ h => by cases h)
    (.consC (by mc) (.mov (fun _ => ⟨regOK_FREE, regOK_HEAP⟩) (.addi (fun _ => regOK_FREE) (fun _ => by decide) .nil)))
    (.append (.consC (by mc) (.movim (fun _ => memOK_heap regOK_HEAP (by decide)) (fun _ => by decide) (.consC (by mc) .nil)))
      (blk_eraseFieldsC regOK_HEAP FIELDS_PER_BLOCK 0 k (by decide))) (k + 9)

theorem blk_storeFieldC {t : Temporary} (ht : ok → TOK t) {r : Reg} (hr : RegOK r) {i : Int} (hi : fitsI32 i = true) :
    Blk ok iok (storeFieldC t r i) := by
  cases t with
  | reg rt => exact .movs (fun o => ⟨ht o, memOK_heap hr hi⟩) .nil
  | spill p =>
    exact .movl (fun o => ⟨regOK_TEMP, memOK_slot (ht o)⟩) (.movs (fun _ => ⟨regOK_TEMP, memOK_heap hr hi⟩) .nil)

theorem blk_storeZero {r : Reg} (hr : RegOK r) {off : Nat} (ho : off ≤ 1000) : Blk ok iok (storeZero r off) :=
  .movim (fun _ => memOK_heap hr (fitsI32_fieldOffset .fst ho)) (fun _ => by decide) .nil

theorem blk_loadImmediate0 {t : Temporary} (ht : ok → TOK t) : Blk ok iok (loadImmediate t 0) := by
  cases t with
  | reg r => exact .movi (fun o => ht o) (fun _ => by decide) .nil
  | spill p => exact .movim (fun o => memOK_slot (ht o)) (fun _ => by decide) .nil

theorem regOK_of_okBlk {r : Reg} (h : memCode.okBlk r) : RegOK r := by
  have h1 : 2 ≤ (r : Nat) := h.1
  exact ⟨Nat.le_trans (Nat.le_succ 1) h1, h.2⟩

theorem leaves_blk : memCode.Leaves (Blk True True) where
  nil := .nil
  append := .append
  comment := fun s hs => by
    simp only [Scc.Mem.StoreCode.storeComments, List.mem_cons, List.not_mem_nil, or_false] at hs
    rcases hs with rfl | rfl | rfl | rfl | rfl | rfl <;> exact .consC (by mc) .nil
  stF := fun {m r} num {off} hm hr ho => blk_storeFieldC (fun _ => tok_posTemp hm) (regOK_of_okBlk hr) (fitsI32_fieldOffset num ho)
  stZ := fun hr ho => blk_storeZero (regOK_of_okBlk hr) ho
  acq := fun {m} k hm => (blk_acquireBlockC (posTemp m) k).mono (fun _ => tok_posTemp (Nat.lt_of_succ_lt hm)) id
  zero := fun hm => blk_loadImmediate0 fun _ => tok_posTemp hm

theorem blk_store (toStore rem : Ctx) {k k' : Nat} {code : List Code}
    (h : (store toStore rem).run k = .ok (code, k')) : Blk True True code :=
  (emits_store toStore rem).post (fun hf k => leaves_blk.storeFieldsC _ _ _ _ k hf) k code k' h

theorem blk_loadFieldC {t : Temporary} (ht : ok → TOK t) {r : Reg} (hr : RegOK r) {i : Int} (hi : fitsI32 i = true) :
    Blk ok iok (loadFieldC t r i) := by
  cases t with
  | reg rt => exact .movl (fun o => ⟨ht o, memOK_heap hr hi⟩) .nil
  | spill p =>
    exact .movl (fun _ => ⟨regOK_TEMP, memOK_heap hr hi⟩) (.movs (fun o => ⟨regOK_TEMP, memOK_slot (ht o)⟩) .nil)

theorem regOK_TT : RegOK TEMPORARY_TEMP := ⟨by decide, by decide⟩

theorem spillOf {m : Nat} (hm : m < 267) : m - 11 < 256 := by
  omega

theorem loadLeaves_blk : loadCode.LoadLeaves (Blk True True) where
  nil := .nil
  append := .append
  comment := fun s hs => by
    simp only [Scc.Mem.LoadCode.loadComments, List.mem_cons, List.not_mem_nil, or_false] at hs
    rcases hs with rfl | rfl | rfl | rfl | rfl <;> exact .consC (by mc) .nil
  ldF := fun {m r} num {off} hm hr ho =>
    blk_loadFieldC (fun _ => tok_posTemp hm) (regOK_of_okBlk hr) (fitsI32_fieldOffset num ho)
  shr := fun {m} k hm => (blk_shareBlockNC _ 1 k).mono (fun _ => tok_shareReg (tok_posTemp hm)) fun _ => by decide
  release := fun hr => .movs (fun _ => ⟨regOK_HEAP, memOK_heap (regOK_of_okBlk hr) (by decide)⟩)
    (.mov (fun _ => ⟨regOK_HEAP, regOK_of_okBlk hr⟩) .nil)
  evac := .movs (fun _ => ⟨regOK_TT, memOK_slot (by decide)⟩) .nil
  ldBlk := fun {m} hm _ => .movl (fun _ => ⟨regOK_TT, memOK_slot (spillOf hm)⟩) .nil
  restore := .movl (fun _ => ⟨regOK_TT, memOK_slot (by decide)⟩) .nil

theorem blk_top {m : Nat} {cT cE : List Code} (k : Nat) (hm : m < 267) (hT : Blk True True cT)
    (hE : Blk True True cE) : Blk True True (loadCode.top m cT cE k) := by
  have hmb : RegOK (shareReg (posTemp m)) := tok_shareReg (tok_posTemp hm)
  refine .append (.append (.consC (by mc) .nil) ?_) (.consC (by mc) (blk_ifZeroThenElseC (fun _ => hmb)
    (fun _ h => by cases h; decide) (.consC (by mc) hT)
    (.consC (by mc) (.addim (fun _ => memOK_heap hmb (by decide)) (fun _ => by decide) hE)) _))
  have := tok_posTemp hm
  generalize posTemp m = t at this
  cases t with
  | reg r => exact .nil
  | spill p => exact .movl (fun _ => ⟨regOK_TEMP, memOK_slot this⟩) .nil

theorem blk_load (toLoad existing : Ctx) {k k' : Nat} {code : List Code}
    (h : (load toLoad existing).run k = .ok (code, k')) : Blk True True code :=
  (emits_load toLoad existing).post (fun hc k => loadLeaves_blk.loadC blk_top toLoad existing.length k hc) k code k' h

theorem blk_eraseBlock (t : Temporary) {k k' : Nat} {code : List Code}
    (h : (eraseBlock t).run k = .ok (code, k')) : Blk (TOK t) True code := by
  rw [eraseBlock_run] at h
  cases h
  exact blk_eraseBlockC t k

theorem blk_shareBlockN (t : Temporary) (n : Nat) {k k' : Nat} {code : List Code}
    (h : (shareBlockN t n).run k = .ok (code, k')) : Blk (TOK t) (fitsI32 (n : Int) = true) code := by
  rw [shareBlockN_run] at h
  cases h
  exact blk_shareBlockNC t n k

end Scc.X86.Mem
