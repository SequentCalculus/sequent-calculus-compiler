/-
  Scc.X86.ProofsWfProg — C14 operand ranges for WHOLE PROGRAMS.

  Part 1 (`section Generic`, generic in the backend record): if every method of a backend `B` returns only codes that
  satisfy a predicate `P` when it is given temporaries satisfying `TOK` (and literals / tag numbers /
  share counts within stated bounds) — `OpsSat` — then every code emitted by the generic code
  generator satisfies `P`, for every program within the bounds (`StmtB`): the walk of
  Scc/Backend/ProofsCalls.lean with the facts `OpsSat.facts`, and `Emitted.lift`.
  Part 2: the x86-64 instance (`opsSat_x86`) with `P` = operand RANGES of an instruction
  (`codeRangeOK`: registers < 16, every 32-bit displacement / immediate field in range,
  `mov r64, imm64` within i64), and the theorems for the body (`compile_rangesOK`) and for the routine
  (`routine_rangesOK`, `routine_operandsOK`).
  Part 1 is used by all three backends; its full names are `Scc.X86.OpsSat`, `Scc.X86.StmtB`, `Scc.X86.ProgB`, …
  because the theorems about the AArch64 and RISC-V code are stated with them under these names.
-/
import Scc.X86.ProofsWfAll
import Scc.Backend.ProofsCalls

set_option linter.unusedVariables false

namespace Scc.X86

open Scc.AxCut
open Scc.Backend
open Scc.Backend.Calls

section Generic

variable {Code T : Type} (B : Backend Code T) (P : Code → Prop) (TOK : T → Prop)

/-- what the generic generator needs from the backend methods; generic in the backend record (all three backends
have an instance) -/
structure OpsSat (LitOK : Int → Prop) (maxTags maxSubst : Nat) : Prop where
  temp : TOK B.temp
  return1 : TOK B.return1
  vt : ∀ n ctx id, Post (B.variableTemporary n ctx id) TOK
  comment : ∀ m, P (B.comment m)
  label : ∀ l, P (B.label l)
  jump : ∀ t, TOK t → AllP P (B.jump t)
  jumpLabel : ∀ l, AllP P (B.jumpLabel l)
  jumpLabelFixed : ∀ l, AllP P (B.jumpLabelFixed l)
  jumpLabelIf : ∀ s a b l, TOK a → TOK b → AllP P (B.jumpLabelIf s a b l)
  jumpLabelIfZero : ∀ s a l, TOK a → AllP P (B.jumpLabelIfZero s a l)
  loadImmediate : ∀ t n, TOK t → LitOK n → AllP P (B.loadImmediate t n)
  tagLit : ∀ k, k < maxTags → LitOK (B.jumpLength k)
  loadLabel : ∀ t l, TOK t → AllP P (B.loadLabel t l)
  addAndJump : ∀ t k, TOK t → k < maxTags → AllP P (B.addAndJump t (B.jumpLength k))
  binop : ∀ o t s1 s2, TOK t → TOK s1 → TOK s2 → AllP P (B.binop o t s1 s2)
  mov : ∀ t s, TOK t → TOK s → AllP P (B.mov t s)
  printI64 : ∀ nl t ctx, TOK t → Post (B.printI64 nl t ctx) (AllP P)
  eraseBlock : ∀ t, TOK t → Post (B.eraseBlock t) (AllP P)
  shareBlockN : ∀ t n, TOK t → n < maxSubst → Post (B.shareBlockN t n) (AllP P)
  store : ∀ a b, Post (B.store a b) (AllP P)
  load : ∀ a b, Post (B.load a b) (AllP P)
  storeTemporary : ∀ t sp, TOK t → AllP P (B.storeTemporary t sp)
  restoreTemporary : ∀ t sp, TOK t → AllP P (B.restoreTemporary t sp)

variable {B P TOK} {LitOK : Int → Prop} {maxTags maxSubst : Nat}

mutual
  /-- the bounds a program must respect: literals satisfy `LitOK` (for the real backends: they are
      `i64` values, which the parser guarantees) and no substitution lists more than `maxSubst`
      pairs (a share count is smaller than the number of pairs) -/
  def StmtB (LitOK : Int → Prop) (maxSubst : Nat) : Stmt → Prop
    | .subst pairs next => pairs.length ≤ maxSubst ∧ StmtB LitOK maxSubst next
    | .call _ _ => True
    | .letS _ _ _ _ next _ => StmtB LitOK maxSubst next
    | .switch _ _ clauses _ => ClausesB LitOK maxSubst clauses
    | .create _ _ _ clauses next _ _ => ClausesB LitOK maxSubst clauses ∧ StmtB LitOK maxSubst next
    | .invoke _ _ _ _ => True
    | .lit _ n next _ => LitOK n ∧ StmtB LitOK maxSubst next
    | .op _ _ _ _ next _ => StmtB LitOK maxSubst next
    | .print _ _ next _ => StmtB LitOK maxSubst next
    | .ifc _ _ _ thenc elsec => StmtB LitOK maxSubst thenc ∧ StmtB LitOK maxSubst elsec
    | .exit _ => True
  def ClausesB (LitOK : Int → Prop) (maxSubst : Nat) : Clauses → Prop
    | .nil => True
    | .cons _ _ body rest => StmtB LitOK maxSubst body ∧ ClausesB LitOK maxSubst rest
end

def ProgB (LitOK : Int → Prop) (maxTags maxSubst : Nat) (p : AxCut.Prog) : Prop :=
  (∀ d ∈ p.types, d.xtors.length ≤ maxTags) ∧ (∀ d ∈ p.defs, StmtB LitOK maxSubst d.body)

/-- what `OpsSat` uses of the arguments -/
def OpsSat.facts (S : OpsSat B P TOK LitOK maxTags maxSubst) : Facts T :=
  { TOK := TOK, LitOK := LitOK, TagOK := (· < maxTags), CntOK := (· < maxSubst) }

theorem OpsSat.temps (S : OpsSat B P TOK LitOK maxTags maxSubst) : TempsOK B S.facts :=
  ⟨S.temp, S.return1, S.vt, fun _ _ => Post.true _⟩

theorem OpsSat.fixed (S : OpsSat B P TOK LitOK maxTags maxSubst) : Fixed S.facts := by
  constructor <;> trivial

theorem allP_codeTable (S : OpsSat B P TOK LitOK maxTags maxSubst) (base : String) :
    ∀ (cs : Clauses), AllP P (codeTable B cs base)
  | .nil => by simp only [codeTable]; exact AllP.nil
  | .cons xtor _ _ rest => by
    simp only [codeTable]
    exact AllP.append (S.jumpLabelFixed _) (allP_codeTable S base rest)

theorem OpsSat.call (S : OpsSat B P TOK LitOK maxTags maxSubst) :
    ∀ c, Good B S.facts c → Post (c.run B) (AllP P)
  | .comment m, _ => Post.pure (AllP.single (S.comment m))
  | .label l, _ => Post.pure (AllP.single (S.label l))
  | .table l cs, _ => Post.pure (AllP.cons (S.label l) (allP_codeTable S l cs))
  | .jump t, h => Post.pure (S.jump t h.2)
  | .jumpLabel l, _ => Post.pure (S.jumpLabel l)
  | .jumpLabelIf s a b l, h => Post.pure (S.jumpLabelIf s a b l h.1 h.2.1)
  | .jumpLabelIfZero s a l, h => Post.pure (S.jumpLabelIfZero s a l h.1)
  | .loadImmediate t n, h => by
    obtain ⟨ht, hl | ⟨_, k, hk, rfl⟩⟩ := h
    · exact Post.pure (S.loadImmediate t n ht hl)
    · exact Post.pure (S.loadImmediate t _ ht (S.tagLit k hk))
  | .loadLabel t l, h => Post.pure (S.loadLabel t l h.2.1)
  | .addAndJump t n, h => by
    obtain ⟨_, ht, k, hk, rfl⟩ := h
    exact Post.pure (S.addAndJump t k ht hk)
  | .binop o t s1 s2, h => Post.pure (S.binop o t s1 s2 h.1 h.2.1 h.2.2.1)
  | .mov t s, h => Post.pure (S.mov t s h.1 h.2)
  | .printI64 nl t ctx, h => S.printI64 nl t ctx h.1
  | .eraseBlock t, h => S.eraseBlock t h.2
  | .shareBlockN t n, h => S.shareBlockN t n h.2.1 h.2.2
  | .store a b, _ => S.store a b
  | .load a b, _ => S.load a b
  | .storeTemporary t sp, h => Post.pure (S.storeTemporary t sp h)
  | .restoreTemporary t sp, h => Post.pure (S.restoreTemporary t sp h)

theorem OpsSat.lift (S : OpsSat B P TOK LitOK maxTags maxSubst) {code : List Code}
    (h : Emitted B (Good B S.facts) code) : AllP P code :=
  h.lift AllP.nil AllP.append S.call

theorem allP_treeMoves (S : OpsSat B P TOK LitOK maxTags maxSubst) {temporary : T} (ht : TOK temporary)
    (sp : Bool) : ∀ (tr : Tree T), TreeOK TOK tr → AllP P (treeMoves B temporary sp tr) :=
  fun tr h => S.lift (emitted_treeMoves (F := S.facts) ht sp tr h)

mutual
theorem argsOK_of_stmtB (S : OpsSat B P TOK LitOK maxTags maxSubst) (hooks : Bool) (ren : Nat → String) :
    ∀ (s : Stmt) (Γ : Ctx), StmtB LitOK maxSubst s → ArgsOK S.facts hooks ren s Γ
  | .subst r next, Γ, h => by
    simp only [StmtB] at h
    simp only [ArgsOK]
    exact ⟨fun _ => trivial, trivial, fun _ _ _ => ⟨trivial, trivial, trivial⟩,
      fun k hk => Nat.lt_of_lt_of_le (Nat.lt_of_succ_le hk) h.1, argsOK_of_stmtB S hooks ren next _ h.2⟩
  | .call _ _, Γ, _ => ⟨fun _ => trivial, trivial, trivial⟩
  | .letS _ _ _ _ next _, Γ, h => by
    simp only [ArgsOK]
    exact ⟨fun _ => trivial, trivial, trivial, argsOK_of_stmtB S hooks ren next _ (by simpa only [StmtB] using h)⟩
  | .switch _ _ cls _, Γ, h => by
    simp only [ArgsOK]
    exact ⟨fun _ => trivial, trivial, trivial, fun n => ⟨trivial,
      clausesOK_of_clausesB S hooks ren cls _ _ (by simpa only [StmtB] using h)⟩⟩
  | .create _ _ none _ _ _ _, Γ, _ => by simp only [ArgsOK]
  | .create _ _ (some _) cls next _ _, Γ, h => by
    simp only [StmtB] at h
    simp only [ArgsOK]
    exact ⟨fun _ => trivial, trivial, trivial, argsOK_of_stmtB S hooks ren next _ h.2,
      fun n => ⟨trivial, methodsOK_of_clausesB S hooks ren cls _ _ h.1⟩⟩
  | .invoke _ _ _ _, Γ, _ => ⟨fun _ => trivial, trivial, trivial⟩
  | .lit _ n next _, Γ, h => by
    simp only [StmtB] at h
    simp only [ArgsOK]
    exact ⟨fun _ => trivial, trivial, h.1, argsOK_of_stmtB S hooks ren next _ h.2⟩
  | .op _ _ _ _ next _, Γ, h => by
    simp only [ArgsOK]
    exact ⟨fun _ => trivial, trivial, False.elim, argsOK_of_stmtB S hooks ren next _ (by simpa only [StmtB] using h)⟩
  | .print _ _ next _, Γ, h => by
    simp only [ArgsOK]
    exact ⟨fun _ => trivial, trivial, argsOK_of_stmtB S hooks ren next _ (by simpa only [StmtB] using h)⟩
  | .ifc _ _ _ t e, Γ, h => by
    simp only [StmtB] at h
    simp only [ArgsOK]
    exact ⟨fun _ => trivial, trivial, fun _ => ⟨trivial, trivial⟩, argsOK_of_stmtB S hooks ren e _ h.2,
      argsOK_of_stmtB S hooks ren t _ h.1⟩
  | .exit _, Γ, _ => ⟨fun _ => trivial, trivial, trivial⟩
theorem clausesOK_of_clausesB (S : OpsSat B P TOK LitOK maxTags maxSubst) (hooks : Bool) (ren : Nat → String) :
    ∀ (cs : Clauses) (Γ : Ctx) (base : String), ClausesB LitOK maxSubst cs → ClausesOK S.facts hooks ren cs Γ base
  | .nil, _, _, _ => by simp only [ClausesOK]
  | .cons _ _ body rest, Γ, base, h => by
    simp only [ClausesB] at h
    simp only [ClausesOK]
    exact ⟨trivial, argsOK_of_stmtB S hooks ren body _ h.1, clausesOK_of_clausesB S hooks ren rest Γ base h.2⟩
theorem methodsOK_of_clausesB (S : OpsSat B P TOK LitOK maxTags maxSubst) (hooks : Bool) (ren : Nat → String) :
    ∀ (cs : Clauses) (env : Ctx) (base : String), ClausesB LitOK maxSubst cs → MethodsOK S.facts hooks ren cs env base
  | .nil, _, _, _ => by simp only [MethodsOK]
  | .cons _ _ body rest, env, base, h => by
    simp only [ClausesB] at h
    simp only [MethodsOK]
    exact ⟨trivial, argsOK_of_stmtB S hooks ren body _ h.1, methodsOK_of_clausesB S hooks ren rest env base h.2⟩
end

theorem OpsSat.typesOK (S : OpsSat B P TOK LitOK maxTags maxSubst) {types : List TypeDecl}
    (htypes : ∀ d ∈ types, d.xtors.length ≤ maxTags) : TypesOK S.facts types :=
  fun d hd k hk => Nat.lt_of_lt_of_le hk (htypes d hd)

theorem post_codeClausesR (S : OpsSat B P TOK LitOK maxTags maxSubst) (hooks : Bool) (ren : Nat → String)
    (types : List TypeDecl) (htypes : ∀ d ∈ types, d.xtors.length ≤ maxTags) (context : Ctx) :
    ∀ (cs : Clauses) (baseLabel : String), ClausesB LitOK maxSubst cs →
      Post (codeClausesR B hooks ren types context cs baseLabel) (AllP P) :=
  fun cs baseLabel h => (emitted_codeClausesR S.temps S.fixed hooks ren (S.typesOK htypes) context cs baseLabel
    (clausesOK_of_clausesB S hooks ren cs _ _ h) trivial).mono fun _ => S.lift

theorem post_codeMethodsR (S : OpsSat B P TOK LitOK maxTags maxSubst) (hooks : Bool) (ren : Nat → String)
    (types : List TypeDecl) (htypes : ∀ d ∈ types, d.xtors.length ≤ maxTags) (env : Ctx) :
    ∀ (cs : Clauses) (baseLabel : String), ClausesB LitOK maxSubst cs →
      Post (codeMethodsR B hooks ren types env cs baseLabel) (AllP P) :=
  fun cs baseLabel h => (emitted_codeMethodsR S.temps S.fixed hooks ren (S.typesOK htypes) env cs baseLabel
    (methodsOK_of_clausesB S hooks ren cs _ _ h) trivial).mono fun _ => S.lift

/-- GENERIC LIFTING: every code emitted for a program within the bounds satisfies `P` -/
theorem post_compileR (S : OpsSat B P TOK LitOK maxTags maxSubst) (hooks : Bool) (ren : Nat → String)
    (p : AxCut.Prog) (hp : ProgB LitOK maxTags maxSubst p) :
    Post (compileR B hooks ren p) (fun r => AllP P r.1) :=
  (emitted_compileR S.temps S.fixed hooks ren p
    ⟨S.typesOK hp.1, fun d hd => ⟨trivial, argsOK_of_stmtB S hooks ren d.body d.ctx (hp.2 d hd)⟩⟩).mono
    fun _ => S.lift

end Generic

/-! ## Part 2: the x86-64 instance -/

/-- operand RANGES of one instruction: register numbers, 32-bit fields, the 64-bit immediate of
    `mov r64, imm64` (everything `codeOperandError` checks except the existence of `imul [mem], reg`) -/
def codeRangeOK (code : Code) : Prop :=
  (∀ r ∈ codeRegs code, r < 16) ∧ (∀ i ∈ codeImm32s code, fitsI32 i = true) ∧
  (∀ r i, code = .MOVI r i → fitsI64 i = true)

theorem codeRangeOK_of_operandOK {code : Code} (h : codeOperandError code = none) : codeRangeOK code := by
  unfold codeOperandError at h
  split at h
  · cases h
  · rename_i h1
    split at h
    · cases h
    · rename_i h2
      refine ⟨fun r hr => ?_, fun i hi => ?_, ?_⟩
      · have h1' := h1
        simp only [List.any_eq_true, not_exists, not_and, decide_eq_true_eq] at h1'
        exact Nat.lt_of_not_le (h1' r hr)
      · have := h2
        simp only [List.any_eq_true, not_exists, not_and, Bool.not_eq_true', Bool.not_eq_false] at this
        exact this i hi
      · rintro r i rfl
        simp only at h
        split at h
        · assumption
        · cases h

/-- conversely: in range and not `imul [mem], reg` = passes the operand check -/
theorem operandOK_of_codeRangeOK {code : Code} (h : codeRangeOK code)
    (hm : ∀ b i r, code ≠ .IMULMR b i r) : codeOperandError code = none :=
  codeOK_of h.1 h.2.1 (by
    cases code <;> simp_all
    · exact h.2.2 _ _ rfl)

theorem allP_of_operandsOK {l : List Code} (h : OperandsOK l) : AllP codeRangeOK l :=
  fun c hc => codeRangeOK_of_operandOK (h c hc)

/-- a code in range never raises the machine fault `imm-out-of-range` -/
theorem imm_in_range_of_codeRangeOK {code : Code} (h : codeRangeOK code) :
    (∀ i ∈ codeImm32s code, imm32 i = .ok (BitVec.ofInt 64 i)) ∧
    (∀ r i, code = .MOVI r i → fitsI64 i = true) :=
  ⟨fun i hi => by simp [imm32, h.2.1 i hi], h.2.2⟩

theorem rangeOK_IMULMR {p r : Nat} (hp : p < 256) (hr : r < 16) :
    codeRangeOK (.IMULMR STACK (stackOffset p) r) :=
  ⟨by simp [codeRegs, STACK_eq]; exact hr, by simp [codeImm32s]; exact fitsI32_stackOffset hp,
   by intro _ _ h; cases h⟩

theorem allP_mulToSpill {p : Nat} (hp : p < 256) {t : Temporary} (ht : OpndOK t) :
    AllP codeRangeOK (mulToSpill p t) := by
  cases t with
  | reg r => exact AllP.single (rangeOK_IMULMR hp ht.2)
  | spill q =>
    exact AllP.cons (codeRangeOK_of_operandOK (ok_MOVL_slot (by decide) ht))
      (AllP.single (rangeOK_IMULMR hp (by decide)))

/-- `mul` for EVERY placement and aliasing (an aliased spilled target emits `imul [mem], reg`, whose
    operands are in range although the form does not exist: `mul_alias_illegal`) -/
theorem allP_mul {t s1 s2 : Temporary} (ht : OpndOK t) (h1 : OpndOK s1) (h2 : OpndOK s2) :
    AllP codeRangeOK (mul t s1 s2) := by
  by_cases hal : ∀ p, t = .spill p → t ≠ s1 ∧ t ≠ s2
  · exact allP_of_operandsOK (operandsOK_mul ht h1 h2 hal)
  · cases t with
    | reg r => exact absurd (fun p hp => by cases hp) hal
    | spill p =>
      unfold mul opCommutative
      simp only
      split
      · exact allP_mulToSpill ht h2
      · split
        · exact allP_mulToSpill ht h1
        · rename_i n1 n2
          exact absurd (fun q hq => ⟨n1, n2⟩) hal

theorem allP_binop (o : BinOp) {t s1 s2 : Temporary} (ht : OpndOK t) (h1 : OpndOK s1) (h2 : OpndOK s2) :
    AllP codeRangeOK (binop o t s1 s2) := by
  cases o with
  | prod => exact allP_mul ht h1 h2
  | sum => exact allP_of_operandsOK (operandsOK_binop .sum ht h1 h2 (fun h => by cases h))
  | sub => exact allP_of_operandsOK (operandsOK_binop .sub ht h1 h2 (fun h => by cases h))
  | div => exact allP_of_operandsOK (operandsOK_binop .div ht h1 h2 (fun h => by cases h))
  | rem => exact allP_of_operandsOK (operandsOK_binop .rem ht h1 h2 (fun h => by cases h))

/-- the bounds under which the x86-64 backend's fields cannot overflow: at most 4·10^8 xtors per
    type (`jump_length(k) = 5 k` must fit 32 bits), fewer than 2^31 pairs per substitution (share
    counts are 32-bit immediates) -/
def maxTagsX86 : Nat := 400000000
def maxSubstX86 : Nat := 2147483647

theorem fitsI64_of_fitsI32 {i : Int} (h : fitsI32 i = true) : fitsI64 i = true := by
  simp only [fitsI32, fitsI64, Bool.and_eq_true, decide_eq_true_eq] at *
  omega

theorem opsSat_x86 :
    OpsSat x86Backend codeRangeOK OpndOK (fun n => fitsI64 n = true) maxTagsX86 maxSubstX86 where
  temp := opndOK_temp
  return1 := (⟨by decide, by decide⟩ : OpndOK (.reg RETURN1))
  vt := post_variableTemporary
  comment := fun _ => codeRangeOK_of_operandOK rfl
  label := fun _ => codeRangeOK_of_operandOK rfl
  jump := fun _ ht => allP_of_operandsOK (operandsOK_jump ht)
  jumpLabel := fun _ => AllP.single (codeRangeOK_of_operandOK rfl)
  jumpLabelFixed := fun _ => AllP.single (codeRangeOK_of_operandOK rfl)
  jumpLabelIf := fun s _ _ l ha hb => allP_of_operandsOK (operandsOK_jumpLabelIf s ha hb l)
  jumpLabelIfZero := fun s _ l ha => allP_of_operandsOK (operandsOK_jumpLabelIfZero s ha l)
  loadImmediate := fun _ _ ht hn => allP_of_operandsOK (operandsOK_loadImmediate ht hn)
  tagLit := fun k hk => fitsI64_of_fitsI32 (fitsI32_jumpLength (Nat.le_of_lt hk))
  loadLabel := fun _ l ht => allP_of_operandsOK (operandsOK_loadLabel ht l)
  addAndJump := fun _ k ht hk =>
    allP_of_operandsOK (operandsOK_addAndJump ht (fitsI32_jumpLength (Nat.le_of_lt hk)))
  binop := fun o _ _ _ ht h1 h2 => allP_binop o ht h1 h2
  mov := fun _ _ ht hs => allP_of_operandsOK (operandsOK_mov ht hs)
  printI64 := fun nl _ ctx ht => Post.pure (allP_of_operandsOK (operandsOK_printI64 nl ht ctx))
  eraseBlock := fun _ ht => (postOK_eraseBlock ht).mono fun _ => allP_of_operandsOK
  shareBlockN := fun _ n ht hn => (postOK_shareBlockN ht (by
    simp only [fitsI32, Bool.and_eq_true, decide_eq_true_eq]
    simp only [maxSubstX86] at hn
    omega)).mono fun _ => allP_of_operandsOK
  store := fun a b => (postOK_store a b).mono fun _ => allP_of_operandsOK
  load := fun a b => (postOK_load a b).mono fun _ => allP_of_operandsOK
  storeTemporary := fun _ sp ht => allP_of_operandsOK (operandsOK_storeTemporary ht sp)
  restoreTemporary := fun _ sp ht => allP_of_operandsOK (operandsOK_restoreTemporary ht sp)

/-- the hypothesis on programs: literals are `i64` values (always true for parsed programs), type
    declarations and substitutions below the (astronomic) bounds above -/
def ProgInRange (p : AxCut.Prog) : Prop := ProgB (fun n => fitsI64 n = true) maxTagsX86 maxSubstX86 p

/-- C14 operand ranges for WHOLE PROGRAMS: every instruction of the body the x86-64 code generator
    emits for a program in range has register numbers < 16, all 32-bit fields in range and 64-bit
    immediates within i64 -/
theorem compile_rangesOK {p : AxCut.Prog} {hooks : Bool} {c0 : Nat} {body : List Code} {nargs : Nat}
    (hp : ProgInRange p) (h : compileX86 p hooks c0 = .ok (body, nargs)) : AllP codeRangeOK body := by
  unfold compileX86 at h
  split at h
  · cases h
  · rename_i r c' hr
    cases h
    exact post_compileR opsSat_x86 hooks natRen p hp c0 _ c' hr

/-- … and of the whole routine (prologue, body, epilogue) -/
theorem routine_rangesOK {p : AxCut.Prog} {hooks : Bool} {c0 : Nat} {body routine : List Code} {nargs : Nat}
    (hp : ProgInRange p) (h : compileX86 p hooks c0 = .ok (body, nargs))
    (hr : intoRoutine body nargs = .ok routine) : AllP codeRangeOK routine := by
  have hb := compile_rangesOK hp h
  unfold intoRoutine at hr
  split at hr
  · cases hr
  · rename_i su hsu
    cases hr
    exact AllP.append (AllP.append (AllP.append (AllP.append (AllP.append
      (allP_of_operandsOK (operandsOK_comment _)) (allP_of_operandsOK operandsOK_preamble))
      (allP_of_operandsOK (operandsOK_setup hsu))) (allP_of_operandsOK (operandsOK_comment _))) hb)
      (allP_of_operandsOK operandsOK_cleanup)

/-- every emitted instruction passes the validator's operand check, except possibly an `imul [mem], reg` (emitted
only for a `mul` whose spilled target is also a source) -/
theorem routine_operandsOK {p : AxCut.Prog} {hooks : Bool} {c0 : Nat} {body routine : List Code}
    {nargs : Nat} (hp : ProgInRange p) (h : compileX86 p hooks c0 = .ok (body, nargs))
    (hr : intoRoutine body nargs = .ok routine) :
    ∀ code ∈ routine, codeOperandError code = none ∨ ∃ b i r, code = .IMULMR b i r := by
  intro code hc
  by_cases hm : ∃ b i r, code = .IMULMR b i r
  · exact Or.inr hm
  · exact Or.inl (operandOK_of_codeRangeOK (routine_rangesOK hp h hr code hc)
      (fun b i r e => hm ⟨b, i, r, e⟩))

end Scc.X86
