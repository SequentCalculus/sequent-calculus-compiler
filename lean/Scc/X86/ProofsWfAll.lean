/-
  Scc.X86.ProofsWfAll — C14 operand check (`codeOperandError = none`: registers < 16, 32-bit
  displacement / immediate fields in range, `mov r64, imm64` within i64, the form exists) for EVERY
  method of the x86-64 backend instance `x86Backend` (code.rs, memory.rs, parallel_moves.rs,
  utils.rs) and for the routine wrapper (into_routine.rs).  An item of the forms of X86/MemBlk.lean whose
  registers exist and whose immediates fit passes the check (`Mem.Leaf.operandOK`); the arithmetic / compare /
  mov / load_immediate methods and the four memory methods (`postOK_store`, `postOK_load`,
  `postOK_eraseBlock`, `postOK_shareBlockN`) are read off the statements that their code has these forms
  (`Mem.items_*`, X86/CodeBlk.lean; `Mem.blk_*`, X86/MemBlk.lean).  load_label, jump, add_and_jump,
  jump_label_if_*, print_i64 (caller-save dance), store_temporary / restore_temporary and setup / cleanup /
  preamble are checked instruction by instruction.  ProofsWf.lean has `OperandsOK` and the ranges of the
  constants; `Post` is that of Backend/ProofsPost.lean.
-/
import Scc.X86.ProofsWf
import Scc.X86.MemBlk
import Scc.X86.ProofsCC
import Scc.Backend.ProofsPost
import Scc.X86.CodeBlk

namespace Scc.X86

open Scc.AxCut
open Scc.Backend (GenM TempNum freshLabel)

theorem Post.liftE {α : Type} {e : Except String α} {Q : α → Prop} (h : ∀ a, e = .ok a → Q a) :
    Post (liftE e) Q := by
  cases e with
  | error m => exact Post.throw
  | ok a => exact Post.pure (h a rfl)

/-! ## temporaries handed out by utils.rs are valid operands -/

theorem temporaryFromPosition_ok {n : Nat} {t : Temporary} (h : temporaryFromPosition n = .ok t) :
    OpndOK t := by
  unfold temporaryFromPosition at h
  dsimp only at h
  have hR : RESERVED = 4 := rfl
  have hN : REGISTER_NUM = 16 := rfl
  have hS : RESERVED_SPILLS = 1 := rfl
  have hM : SPILL_NUM = 256 := rfl
  by_cases h1 : n + RESERVED < REGISTER_NUM
  · rw [if_pos h1] at h; cases h
    exact ⟨by omega, by omega⟩
  · rw [if_neg h1] at h
    by_cases h2 : n + RESERVED - REGISTER_NUM + RESERVED_SPILLS < SPILL_NUM
    · rw [if_pos h2] at h; cases h
      show n + RESERVED - REGISTER_NUM + RESERVED_SPILLS < 256
      omega
    · rw [if_neg h2] at h; cases h

theorem post_variableTemporary (n : TempNum) (ctx : Ctx) (id : Nat) :
    Post (variableTemporary n ctx id) OpndOK := by
  unfold variableTemporary
  split
  · exact Post.liftE fun _ h => temporaryFromPosition_ok h
  · exact Post.throw

theorem ok_gen {code : Code}
    (hm : match code with | .MOVI _ _ => False | .IMULMR _ _ _ => False | _ => True)
    (hr : ∀ r ∈ codeRegs code, r < 16) (hi : ∀ i ∈ codeImm32s code, fitsI32 i = true) :
    codeOperandError code = none :=
  codeOK_of hr hi (by cases code <;> simp_all)

theorem fitsI32_zero : fitsI32 0 = true := by decide
theorem fitsI32_address1 : fitsI32 (address 1) = true := by decide
theorem fitsI32_spillTemp : fitsI32 (stackOffset SPILL_TEMP) = true := fitsI32_stackOffset (by decide)

theorem ok_condJump (sort : IfSort) (l : String) : codeOperandError (condJump sort l) = none := by
  cases sort <;> rfl

/-- `mov [rsp + stack_offset p], r` -/
theorem ok_MOVS_slot {r p : Nat} (hr : r < 16) (hp : p < 256) :
    codeOperandError (.MOVS r STACK (stackOffset p)) = none :=
  ok_rm (code := .MOVS r STACK (stackOffset p)) rfl rfl trivial hr hp

/-- `mov r, [rsp + stack_offset p]` -/
theorem ok_MOVL_slot {r p : Nat} (hr : r < 16) (hp : p < 256) :
    codeOperandError (.MOVL r STACK (stackOffset p)) = none :=
  ok_rm (code := .MOVL r STACK (stackOffset p)) rfl rfl trivial hr hp

/-- `mov [b + i], r` / `mov r, [b + i]` with any base register -/
theorem ok_MOVS {r b : Nat} {i : Int} (hr : r < 16) (hb : b < 16) (hi : fitsI32 i = true) :
    codeOperandError (.MOVS r b i) = none :=
  ok_gen (code := .MOVS r b i) trivial (by simp [codeRegs]; exact ⟨hr, hb⟩) (by simp [codeImm32s]; exact hi)

theorem ok_MOVL {r b : Nat} {i : Int} (hr : r < 16) (hb : b < 16) (hi : fitsI32 i = true) :
    codeOperandError (.MOVL r b i) = none :=
  ok_gen (code := .MOVL r b i) trivial (by simp [codeRegs]; exact ⟨hr, hb⟩) (by simp [codeImm32s]; exact hi)

theorem ok_MOV {r r1 : Nat} (hr : r < 16) (hr1 : r1 < 16) : codeOperandError (.MOV r r1) = none :=
  ok_rr (code := .MOV r r1) rfl rfl trivial hr hr1

theorem ok_MOVIM {b : Nat} {i1 i2 : Int} (hb : b < 16) (h1 : fitsI32 i1 = true) (h2 : fitsI32 i2 = true) :
    codeOperandError (.MOVIM b i1 i2) = none :=
  ok_gen (code := .MOVIM b i1 i2) trivial (by simp [codeRegs]; exact hb) (by simp [codeImm32s]; exact ⟨h1, h2⟩)

theorem ok_ADDIM {b : Nat} {i1 i2 : Int} (hb : b < 16) (h1 : fitsI32 i1 = true) (h2 : fitsI32 i2 = true) :
    codeOperandError (.ADDIM b i1 i2) = none :=
  ok_gen (code := .ADDIM b i1 i2) trivial (by simp [codeRegs]; exact hb) (by simp [codeImm32s]; exact ⟨h1, h2⟩)

theorem ok_CMPIM {b : Nat} {i1 i2 : Int} (hb : b < 16) (h1 : fitsI32 i1 = true) (h2 : fitsI32 i2 = true) :
    codeOperandError (.CMPIM b i1 i2) = none :=
  ok_gen (code := .CMPIM b i1 i2) trivial (by simp [codeRegs]; exact hb) (by simp [codeImm32s]; exact ⟨h1, h2⟩)

theorem ok_CMPI {r : Nat} {i : Int} (hr : r < 16) (hi : fitsI32 i = true) :
    codeOperandError (.CMPI r i) = none :=
  ok_gen (code := .CMPI r i) trivial (by simp [codeRegs]; exact hr) (by simp [codeImm32s]; exact hi)

theorem ok_ADDI {r : Nat} {i : Int} (hr : r < 16) (hi : fitsI32 i = true) :
    codeOperandError (.ADDI r i) = none :=
  ok_gen (code := .ADDI r i) trivial (by simp [codeRegs]; exact hr) (by simp [codeImm32s]; exact hi)

theorem ok_SUBI {r : Nat} {i : Int} (hr : r < 16) (hi : fitsI32 i = true) :
    codeOperandError (.SUBI r i) = none :=
  ok_gen (code := .SUBI r i) trivial (by simp [codeRegs]; exact hr) (by simp [codeImm32s]; exact hi)

theorem ok_r1 {code : Code} {r : Nat} (hregs : codeRegs code = [r]) (himm : codeImm32s code = [])
    (hm : match code with | .MOVI _ _ => False | .IMULMR _ _ _ => False | _ => True) (hr : r < 16) :
    codeOperandError code = none :=
  codeOK_of (by rw [hregs]; simp; exact hr) (by rw [himm]; simp) (by cases code <;> simp_all)

/-! ## the operands of a `Leaf` are in range, so those of a `Blk` and of the code of code.rs are -/

theorem memOK_operands {b : Nat} {i : Int} (h : Mem.MemOK b i) : b < 16 ∧ fitsI32 i = true := by
  rcases h with ⟨hb, p, hp, hi⟩ | ⟨hb, hi⟩
  · rw [hb, hi]; exact ⟨Nat.zero_lt_succ _, fitsI32_stackOffset hp⟩
  · exact ⟨hb.2, hi⟩

theorem Mem.Leaf.operandOK {rok iok : Prop} {c : Code} (h : Mem.Leaf rok iok c) (o : rok) (oi : iok) :
    codeOperandError c = none := by
  cases h with
  | com _ => rfl
  | instr hf hr hi =>
    have hr := hr o
    have hi := hi oi
    cases c with
    | ADDI r i => exact ok_ADDI hr.2 hi
    | ADDIM b i v => obtain ⟨m1, m2⟩ := memOK_operands hr; exact ok_ADDIM m1 m2 hi
    | MOV r r1 => exact ok_MOV hr.1.2 hr.2.2
    | MOVS r b i => obtain ⟨m1, m2⟩ := memOK_operands hr.2; exact ok_MOVS hr.1.2 m1 m2
    | MOVL r b i => obtain ⟨m1, m2⟩ := memOK_operands hr.2; exact ok_MOVL hr.1.2 m1 m2
    | MOVI r v =>
      have hi : fitsI64 v = true := hi
      exact codeOK_of (by simp [codeRegs]; exact hr.2) (by simp [codeImm32s]) (by simp [hi])
    | MOVIM b i v => obtain ⟨m1, m2⟩ := memOK_operands hr; exact ok_MOVIM m1 m2 hi
    | CMPI r i => exact ok_CMPI hr.2 hi
    | CMPIM b i v => obtain ⟨m1, m2⟩ := memOK_operands hr; exact ok_CMPIM m1 m2 hi
    | ADD r r1 | SUB r r1 | IMUL r r1 | CMP r r1 => exact ok_rr rfl rfl trivial hr.1.2 hr.2.2
    | ADDRM r b i | SUBRM r b i | IMULRM r b i | CMPRM r b i =>
      obtain ⟨m1, m2⟩ := memOK_operands hr.2
      exact codeOK_of (by simp [codeRegs]; exact ⟨hr.1.2, m1⟩) (by simp [codeImm32s]; exact m2) (by simp)
    | ADDMR b i r | SUBMR b i r | CMPMR b i r =>
      obtain ⟨m1, m2⟩ := memOK_operands hr.1
      exact codeOK_of (by simp [codeRegs]; exact ⟨m1, hr.2.2⟩) (by simp [codeImm32s]; exact m2) (by simp)
    | CQO => rfl
    | IDIV r => exact codeOK_of (by simp [codeRegs]; exact hr.2) (by simp [codeImm32s]) (by simp)
    | IDIVM b i =>
      obtain ⟨m1, m2⟩ := memOK_operands hr
      exact codeOK_of (by simp [codeRegs]; exact m1) (by simp [codeImm32s]; exact m2) (by simp)
    | _ => cases hf

theorem Mem.Blk.operandsOK {rok iok : Prop} {l : List Code} (h : Mem.Blk rok iok l) (o : rok) (oi : iok) :
    OperandsOK l :=
  Scc.Backend.Blk.forall (fun _ hl => hl.operandOK o oi) (fun _ _ _ => rfl) (fun _ => rfl) (fun _ => rfl) h

theorem tok_of_opndOK {t : Temporary} (h : OpndOK t) : Mem.TOK t := by cases t <;> exact h

/-- code of the form of code.rs (Scc/X86/CodeBlk.lean) passes the operand check -/
theorem Mem.CItems.operandsOK {rok iok : Prop} {l : List Code} (h : Mem.CItems rok iok l) (o : rok) (oi : iok) :
    OperandsOK l := fun c hc => (h c hc).1.operandOK o oi

theorem operandsOK_moveToRegister {r : Nat} (hr : Mem.RegOK r) {t : Temporary} (ht : OpndOK t) :
    OperandsOK (moveToRegister r t) :=
  (Mem.items_moveToRegister (iok := True) r t).operandsOK ⟨hr, tok_of_opndOK ht⟩ trivial

/-- C14-T4 for `mov` -/
theorem operandsOK_mov {t s : Temporary} (ht : OpndOK t) (hs : OpndOK s) : OperandsOK (mov t s) :=
  (Mem.items_mov (iok := True) t s).operandsOK ⟨tok_of_opndOK ht, tok_of_opndOK hs⟩ trivial

/-- C14-T4 for `load_immediate`: EVERY `i64` literal, EVERY placement (repaired code; before /repo
    512f045 this needed `fitsI32 v ∨ t is a register`, defect D5) -/
theorem operandsOK_loadImmediate {t : Temporary} (ht : OpndOK t) {v : Int} (h64 : fitsI64 v = true) :
    OperandsOK (loadImmediate t v) :=
  (Mem.items_loadImmediate t v).operandsOK (tok_of_opndOK ht) h64

/-- C14-T4 for `add` (every placement and aliasing) -/
theorem operandsOK_add {t s1 s2 : Temporary} (ht : OpndOK t) (h1 : OpndOK s1) (h2 : OpndOK s2) :
    OperandsOK (add t s1 s2) :=
  (Mem.items_add (iok := True) t s1 s2).operandsOK ⟨tok_of_opndOK ht, tok_of_opndOK h1, tok_of_opndOK h2⟩ trivial

theorem operandsOK_sub {t s1 s2 : Temporary} (ht : OpndOK t) (h1 : OpndOK s1) (h2 : OpndOK s2) :
    OperandsOK (sub t s1 s2) :=
  (Mem.items_sub (iok := True) t s1 s2).operandsOK ⟨tok_of_opndOK ht, tok_of_opndOK h1, tok_of_opndOK h2⟩ trivial

/-- C14-T4 for `mul`, except the aliased spilled target (where `imul [mem], reg` is emitted) -/
theorem operandsOK_mul {t s1 s2 : Temporary} (ht : OpndOK t) (h1 : OpndOK s1) (h2 : OpndOK s2)
    (hal : ∀ p, t = .spill p → t ≠ s1 ∧ t ≠ s2) : OperandsOK (mul t s1 s2) :=
  (Mem.items_mul (iok := True) hal).operandsOK ⟨tok_of_opndOK ht, tok_of_opndOK h1, tok_of_opndOK h2⟩ trivial

theorem operandsOK_div {t s1 s2 : Temporary} (ht : OpndOK t) (h1 : OpndOK s1) (h2 : OpndOK s2) :
    OperandsOK (div t s1 s2) ∧ OperandsOK (rem t s1 s2) :=
  have o := (⟨tok_of_opndOK ht, tok_of_opndOK h1, tok_of_opndOK h2⟩ : Mem.TOK t ∧ Mem.TOK s1 ∧ Mem.TOK s2)
  ⟨(Mem.items_div (iok := True) t s1 s2).operandsOK o trivial, (Mem.items_rem (iok := True) t s1 s2).operandsOK o trivial⟩

theorem operandsOK_compare {fst snd : Temporary} (h1 : OpndOK fst) (h2 : OpndOK snd) :
    OperandsOK (compare fst snd) :=
  (Mem.items_compare (iok := True) fst snd).operandsOK ⟨tok_of_opndOK h1, tok_of_opndOK h2⟩ trivial

theorem operandsOK_nil : OperandsOK [] := fun _ h => by simp at h

theorem operandsOK_comment (m : String) : OperandsOK [Code.COMMENT m] := operandsOK_single rfl

/-! ## code.rs: the remaining `Instructions` methods -/

theorem operandsOK_loadLabel {t : Temporary} (ht : OpndOK t) (name : String) :
    OperandsOK (loadLabel t name) := by
  cases t with
  | reg r => exact operandsOK_single (ok_r1 (code := .LEAL r name) rfl rfl trivial ht.2)
  | spill p =>
    exact operandsOK_cons (ok_r1 (code := .LEAL TEMP name) rfl rfl trivial (by decide))
      (operandsOK_single (ok_MOVS_slot (by decide) ht))

theorem operandsOK_jump {t : Temporary} (ht : OpndOK t) : OperandsOK (jump t) := by
  cases t with
  | reg r => exact operandsOK_single (ok_r1 (code := .JMP r) rfl rfl trivial ht.2)
  | spill p =>
    exact operandsOK_cons (ok_MOVL_slot (by decide) ht)
      (operandsOK_single (ok_r1 (code := .JMP TEMP) rfl rfl trivial (by decide)))

theorem operandsOK_addAndJump {t : Temporary} (ht : OpndOK t) {imm : Int} (hi : fitsI32 imm = true) :
    OperandsOK (addAndJump t imm) := by
  cases t with
  | reg r =>
    exact operandsOK_cons (ok_ADDI ht.2 hi) (operandsOK_single (ok_r1 (code := .JMP r) rfl rfl trivial ht.2))
  | spill p =>
    exact operandsOK_cons (ok_MOVL_slot (by decide) ht) (operandsOK_cons (ok_ADDI (by decide) hi)
      (operandsOK_single (ok_r1 (code := .JMP TEMP) rfl rfl trivial (by decide))))

theorem operandsOK_compareImmediate {t : Temporary} (ht : OpndOK t) {i : Int} (hi : fitsI32 i = true) :
    OperandsOK (compareImmediate t i) :=
  (Mem.items_compareImmediate t i).operandsOK (tok_of_opndOK ht) hi

theorem operandsOK_jumpLabelIf (sort : IfSort) {a b : Temporary} (ha : OpndOK a) (hb : OpndOK b)
    (l : String) : OperandsOK (jumpLabelIf sort a b l) :=
  operandsOK_append (operandsOK_compare ha hb) (operandsOK_single (ok_condJump sort l))

theorem operandsOK_jumpLabelIfZero (sort : IfSort) {a : Temporary} (ha : OpndOK a) (l : String) :
    OperandsOK (jumpLabelIfZero sort a l) :=
  operandsOK_append (operandsOK_compareImmediate ha fitsI32_zero) (operandsOK_single (ok_condJump sort l))

/-- all five operators; `mul` needs a spilled target to differ from its sources (`mul_alias_illegal`) -/
theorem operandsOK_binop (o : BinOp) {t s1 s2 : Temporary} (ht : OpndOK t) (h1 : OpndOK s1) (h2 : OpndOK s2)
    (hal : o = .prod → ∀ p, t = .spill p → t ≠ s1 ∧ t ≠ s2) : OperandsOK (binop o t s1 s2) :=
  (Mem.items_binop (iok := True) o hal).operandsOK ⟨tok_of_opndOK ht, tok_of_opndOK h1, tok_of_opndOK h2⟩ trivial

/-! ## parallel_moves.rs -/

theorem operandsOK_storeTemporary {t : Temporary} (ht : OpndOK t) (sp : Bool) :
    OperandsOK (storeTemporary t sp) :=
  (Mem.items_storeTemporary (iok := True) t sp).operandsOK (tok_of_opndOK ht) trivial

theorem operandsOK_restoreTemporary {t : Temporary} (ht : OpndOK t) (sp : Bool) :
    OperandsOK (restoreTemporary t sp) :=
  (Mem.items_restoreTemporary (iok := True) t sp).operandsOK (tok_of_opndOK ht) trivial

/-! ## code.rs print_i64: the caller-save dance -/

theorem operandsOK_saveCallerSaveRegisters (first : Nat) (L : List Nat) (hL : ∀ r ∈ L, r < 16) :
    OperandsOK (saveCallerSaveRegisters first L) := by
  intro code hc
  simp only [saveCallerSaveRegisters, List.mem_append, List.mem_map] at hc
  rcases hc with (⟨⟨r, i⟩, hri, rfl⟩ | ⟨r, hr, rfl⟩) | hc
  · have h1 := List.mem_zipIdx hri
    simp only [Nat.zero_add, List.length_take, backupRegistersUsed, REGISTER_NUM, consts] at h1
    have hr : r < 16 := hL r (List.mem_of_mem_take (by rw [h1.2.2]; exact List.getElem_mem _))
    exact ok_MOV (by omega) hr
  · exact ok_r1 (code := .PUSH r) rfl rfl trivial (hL r (List.mem_of_mem_drop hr))
  · split at hc
    · simp only [List.mem_singleton] at hc; subst hc
      exact ok_SUBI (by decide) fitsI32_address1
    · simp at hc

theorem operandsOK_restoreCallerSaveRegisters (first : Nat) (L : List Nat) (hL : ∀ r ∈ L, r < 16) :
    OperandsOK (restoreCallerSaveRegisters first L) := by
  intro code hc
  simp only [restoreCallerSaveRegisters, List.mem_append, List.mem_map] at hc
  rcases hc with (⟨⟨r, i⟩, hri, rfl⟩ | hc) | ⟨r, hr, rfl⟩
  · have h1 := List.mem_zipIdx hri
    simp only [Nat.zero_add, List.length_take, backupRegistersUsed, REGISTER_NUM, consts] at h1
    have hr : r < 16 := hL r (List.mem_of_mem_take (by rw [h1.2.2]; exact List.getElem_mem _))
    exact ok_MOV hr (by omega)
  · split at hc
    · simp only [List.mem_singleton] at hc; subst hc
      exact ok_ADDI (by decide) fitsI32_address1
    · simp at hc
  · exact ok_r1 (code := .POP r) rfl rfl trivial
      (hL r (List.mem_of_mem_drop (List.mem_reverse.1 hr)))

theorem callerSaveRegs_lt (ctx : Ctx) : ∀ r ∈ (callerSaveRegistersInfo ctx).2, r < 16 := by
  intro r hr
  rw [csri_eq] at hr
  have := (regsToSave_bounds (ctx.take 4) 0).1 r hr
  have hl : (ctx.take 4).length ≤ 4 := by simp [List.length_take]; omega
  omega

/-- code.rs print_i64, every context and placement of the argument -/
theorem operandsOK_printI64 (nl : Bool) {t : Temporary} (ht : OpndOK t) (ctx : Ctx) :
    OperandsOK (printI64 nl t ctx) := by
  have hs := operandsOK_saveCallerSaveRegisters (callerSaveRegistersInfo ctx).1 _ (callerSaveRegs_lt ctx)
  have hr := operandsOK_restoreCallerSaveRegisters (callerSaveRegistersInfo ctx).1 _ (callerSaveRegs_lt ctx)
  have hcall : OperandsOK [Code.CALL (if nl then "println_i64" else "print_i64"),
      Code.COMMENT "#restore caller-save registers"] :=
    operandsOK_cons rfl (operandsOK_comment _)
  cases t with
  | reg r =>
    exact operandsOK_append (operandsOK_append (operandsOK_append (operandsOK_append (operandsOK_append
      (operandsOK_append operandsOK_nil (operandsOK_comment _)) hs) (operandsOK_comment _))
      (operandsOK_single (ok_MOV (by decide) ht.2))) hcall) hr
  | spill p =>
    exact operandsOK_append (operandsOK_append (operandsOK_append (operandsOK_append (operandsOK_append
      (operandsOK_append (operandsOK_append (operandsOK_comment _)
        (operandsOK_moveToRegister Mem.regOK_TEMP (t := .spill p) ht)) (operandsOK_comment _)) hs)
      (operandsOK_comment _)) (operandsOK_single (ok_MOV (by decide) (by decide)))) hcall) hr

/-! ## memory.rs -/

abbrev PostOK (m : GenM (List Code)) : Prop := Post m OperandsOK

theorem postOK_store (toStore ctx : Ctx) : PostOK (store toStore ctx) :=
  fun _ _ _ h => (Mem.blk_store toStore ctx h).operandsOK trivial trivial

theorem postOK_load (toLoad ctx : Ctx) : PostOK (load toLoad ctx) :=
  fun _ _ _ h => (Mem.blk_load toLoad ctx h).operandsOK trivial trivial

theorem postOK_eraseBlock {t : Temporary} (ht : OpndOK t) : PostOK (eraseBlock t) :=
  fun _ _ _ h => (Mem.blk_eraseBlock t h).operandsOK ht trivial

theorem postOK_shareBlockN {t : Temporary} (ht : OpndOK t) {n : Nat} (hn : fitsI32 (n : Int) = true) :
    PostOK (shareBlockN t n) :=
  fun _ _ _ h => (Mem.blk_shareBlockN t n h).operandsOK ht hn

/-! ## into_routine.rs -/

theorem mainParamRegs_lt {i t : Nat} (h : consts.mainParamRegs[i]? = some t) : t < 16 := by
  have hm := List.mem_of_getElem? h
  simp only [consts, List.mem_cons, List.not_mem_nil, or_false] at hm
  omega

theorem arg_lt {i r : Nat} (h : arg i = .ok r) : r < 16 := by
  unfold arg at h
  split at h
  · rename_i r' hr
    cases h
    have hm := List.mem_of_getElem? hr
    simp only [consts, List.mem_cons, List.not_mem_nil, or_false] at hm
    omega
  · cases h

theorem operandsOK_moveArguments : ∀ (n : Nat) (codes : List Code), moveArguments n = .ok codes →
    OperandsOK codes
  | 0, codes, h => by
    simp only [moveArguments, Except.ok.injEq] at h; subst h; exact operandsOK_comment _
  | 1, codes, h => by
    simp only [moveArguments] at h
    split at h
    · rename_i target src ht hs
      cases h
      exact operandsOK_cons rfl (operandsOK_single (ok_MOV (mainParamRegs_lt ht) (arg_lt hs)))
    · cases h
  | n + 2, codes, h => by
    simp only [moveArguments] at h
    split at h
    · cases h
    · split at h
      · rename_i target src rest ht hs hrest
        cases h
        exact operandsOK_append (operandsOK_cons rfl
          (operandsOK_single (ok_MOV (mainParamRegs_lt ht) (arg_lt hs))))
          (operandsOK_moveArguments (n + 1) rest hrest)
      · cases h

theorem operandsOK_setup {n : Nat} {codes : List Code} (h : setup n = .ok codes) : OperandsOK codes := by
  unfold setup at h
  split at h
  · cases h
  · rename_i moves hm
    cases h
    refine operandsOK_append (operandsOK_append (operandsOK_append
      (operandsOK_cons rfl (operandsOK_comment _)) ?_) ?_) (operandsOK_moveArguments n moves hm)
    · intro code hc
      simp only [List.mem_map] at hc
      obtain ⟨r, hr, rfl⟩ := hc
      refine ok_r1 (code := .PUSH r) rfl rfl trivial ?_
      simp only [consts, List.mem_cons, List.not_mem_nil, or_false] at hr
      omega
    · exact operandsOK_cons rfl (operandsOK_cons (ok_SUBI (by decide) (by decide))
        (operandsOK_cons rfl (operandsOK_cons (ok_MOV (by decide) (by decide))
        (operandsOK_cons rfl (operandsOK_cons (ok_MOV (by decide) (by decide))
        (operandsOK_single (ok_ADDI (by decide) (fitsI32_fieldOffset .fst (by decide)))))))))

theorem operandsOK_cleanup : OperandsOK cleanup := by
  unfold cleanup
  refine operandsOK_append (operandsOK_append (operandsOK_cons rfl (operandsOK_cons rfl
    (operandsOK_cons (ok_ADDI (by decide) (by decide)) (operandsOK_comment _)))) ?_) (operandsOK_single rfl)
  intro code hc
  simp only [List.mem_map, List.mem_reverse] at hc
  obtain ⟨r, hr, rfl⟩ := hc
  refine ok_r1 (code := .POP r) rfl rfl trivial ?_
  simp only [consts, List.mem_cons, List.not_mem_nil, or_false] at hr
  omega

theorem operandsOK_preamble : OperandsOK preamble := by
  intro code hc
  simp only [preamble, List.mem_cons, List.not_mem_nil, or_false] at hc
  rcases hc with rfl | rfl | rfl | rfl | rfl | rfl <;> rfl

/-- into_routine.rs: the wrapper adds only encodable instructions around the body -/
theorem operandsOK_intoRoutine {body routine : List Code} {n : Nat} (hb : OperandsOK body)
    (h : intoRoutine body n = .ok routine) : OperandsOK routine := by
  unfold intoRoutine at h
  split at h
  · cases h
  · rename_i su hsu
    cases h
    exact operandsOK_append (operandsOK_append (operandsOK_append (operandsOK_append (operandsOK_append
      (operandsOK_comment _) operandsOK_preamble) (operandsOK_setup hsu)) (operandsOK_comment _)) hb)
      operandsOK_cleanup

end Scc.X86
