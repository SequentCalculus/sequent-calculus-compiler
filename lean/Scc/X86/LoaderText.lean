/-
  Scc.X86.LoaderText — the loader `parseText` (Scc/X86/Machine.lean) inverts the routine printer
  `printProg` (Scc/X86/Instr.lean) on every list of text-safe items:

  * `codeLines c`: the lines a printed item occupies (a label: an empty line and `L:`; anything else:
    one line); `printCode_lines`, `splitOn_printProg`: the lines of the printed routine, through the
    legacy `String.splitOn` (Scc/StringLemmas.lean), are exactly the lines of its items;
  * `parseLines_codes`: reading these lines gives the items back (`numbered`: a comment without its trailing
    blanks, every item with its line number);
  * `parseText_printProg_eq`: THE ROUND TRIP for every routine whose items are `CodeOK`; `parseText_printProg`
    is what the users need of it (up to the text of comments).
-/
import Scc.X86.LoaderCode

namespace Scc.X86.Loader

open Scc.Str

set_option linter.unusedSimpArgs false

/-- comments carry no semantics: erase their text (= `Scc.X86.Ref.stripC`, `Scc.Props.C01_stripC`) -/
def stripC : Code → Code
  | .COMMENT _ => .COMMENT ""
  | c => c

def codeLines : Code → List String
  | .LAB l => ["", l ++ ":"]
  | c => [printCode c]

theorem codeLines_ne_nil (c : Code) : codeLines c ≠ [] := by
  cases c <;> simp [codeLines]

theorem codeLines_of_not_lab {c : Code} (h : ∀ l, c ≠ .LAB l) : codeLines c = [printCode c] := by
  cases c <;> first | rfl | exact absurd rfl (h _)

theorem printCode_lines (c : Code) : printCode c = "\n".intercalate (codeLines c) := by
  by_cases h : ∃ l, c = .LAB l
  · obtain ⟨l, rfl⟩ := h
    apply String.ext
    simp [codeLines, printCode, String.toList_intercalate, String.toList_append, List.intercalate,
      List.intersperse]
  · rw [codeLines_of_not_lab (fun l e => h ⟨l, e⟩)]
    apply String.ext
    simp [String.toList_intercalate, List.intercalate, List.intersperse]

theorem codeLines_nl_free {c : Code} (h : CodeOK c) : ∀ l ∈ codeLines c, '\n' ∉ l.toList := by
  intro l hl
  by_cases hlab : ∃ x, c = .LAB x
  · obtain ⟨x, rfl⟩ := hlab
    simp only [codeLines, List.mem_cons, List.not_mem_nil, or_false] at hl
    rcases hl with rfl | rfl
    · simp
    · exact (reads_LAB x h).2.2
  · rw [codeLines_of_not_lab (fun x e => hlab ⟨x, e⟩)] at hl
    simp only [List.mem_singleton] at hl
    subst hl
    by_cases hcom : ∃ m, c = .COMMENT m
    · obtain ⟨m, rfl⟩ := hcom
      exact (reads_COMMENT m h).2
    · exact (parseLine_printCode c h (fun x e => hlab ⟨x, e⟩) (fun m e => hcom ⟨m, e⟩)).2

/-- the lines of the printed routine are the lines of its items -/
theorem splitOn_printProg {cs : List Code} (hne : cs ≠ []) (h : ∀ c ∈ cs, CodeOK c) :
    (printProg cs).splitOn "\n" = cs.flatMap codeLines := by
  unfold printProg
  have e : cs.map printCode = cs.map (fun c => "\n".intercalate (codeLines c)) :=
    List.map_congr_left (fun c _ => printCode_lines c)
  rw [e, newline_eq]
  exact splitOn_intercalate_chunks '\n' codeLines cs hne (fun c _ => codeLines_ne_nil c)
    (fun c hc => codeLines_nl_free (h c hc))

/-- what an item is read back as: a comment loses its trailing blanks -/
def parsedCode : Code → Code
  | .COMMENT m => .COMMENT (String.ofList (rtrimC m.toList))
  | c => c

/-- the items as the loader returns them, with their line numbers: a label stands on the second of its two
    lines -/
def numbered : Nat → List Code → List (Code × Nat)
  | _, [] => []
  | n, .LAB l :: cs => (.LAB l, n + 1) :: numbered (n + 1 + 1) cs
  | n, c :: cs => (parsedCode c, n) :: numbered (n + 1) cs

theorem numbered_of_not_lab {c : Code} (h : ∀ l, c ≠ .LAB l) (n : Nat) (cs : List Code) :
    numbered n (c :: cs) = (parsedCode c, n) :: numbered (n + 1) cs := by
  cases c <;> first | rfl | exact absurd rfl (h _)

theorem parseLines_codes (cs : List Code) (h : ∀ c ∈ cs, CodeOK c) :
    ∀ (n : Nat) (acc : List (Code × Nat)),
      parseLines (cs.flatMap codeLines) n acc = .ok (acc.reverse ++ numbered n cs) := by
  induction cs with
  | nil => intro n acc; simp [parseLines, numbered]
  | cons c cs ih =>
    intro n acc
    have hc : CodeOK c := h c (by simp)
    have ih' := ih (fun x hx => h x (by simp [hx]))
    by_cases hlab : ∃ x, c = .LAB x
    · obtain ⟨x, rfl⟩ := hlab
      simp only [List.flatMap_cons, codeLines, List.cons_append, List.nil_append, parseLines, parseLine_empty,
        (reads_LAB x hc).2.1, ih', numbered]
      simp
    · have hl : codeLines c = [printCode c] := codeLines_of_not_lab (fun x e => hlab ⟨x, e⟩)
      have hp : parseLine (printCode c) = some (some (parsedCode c)) := by
        by_cases hcom : ∃ m, c = .COMMENT m
        · obtain ⟨m, rfl⟩ := hcom
          exact (reads_COMMENT m hc).1
        · have e : parsedCode c = c := by cases c <;> first | rfl | exact absurd ⟨_, rfl⟩ hcom
          rw [e]
          exact (parseLine_printCode c hc (fun x e => hlab ⟨x, e⟩) (fun m e => hcom ⟨m, e⟩)).1
      simp only [List.flatMap_cons, hl, List.cons_append, List.nil_append, parseLines, hp, ih',
        numbered_of_not_lab (fun x e => hlab ⟨x, e⟩)]
      simp

theorem printProg_nil_lines : (printProg []).splitOn "\n" = [""] := by
  unfold printProg
  rw [newline_eq]; exact splitOn_intercalate_nil '\n'

/-- THE ROUND TRIP: the loader reads the printed text of a list of text-safe items as these items, numbered
    by their lines -/
theorem parseText_printProg_eq (cs : List Code) (h : ∀ c ∈ cs, CodeOK c) :
    parseText (printProg cs) = .ok (numbered 1 cs) := by
  unfold parseText
  by_cases hne : cs = []
  · subst hne
    rw [printProg_nil_lines]
    simp [parseLines, parseLine_empty, numbered]
  · rw [splitOn_printProg hne h, parseLines_codes cs h 1 []]; rfl

theorem stripC_parsedCode (c : Code) : stripC (parsedCode c) = stripC c := by
  cases c <;> rfl

theorem numbered_codes : ∀ (n : Nat) (cs : List Code), (numbered n cs).map (·.1) = cs.map parsedCode
  | _, [] => rfl
  | n, c :: cs => by
    by_cases hlab : ∃ x, c = .LAB x
    · obtain ⟨x, rfl⟩ := hlab
      simp only [numbered, List.map_cons, numbered_codes _ cs]; rfl
    · simp only [numbered_of_not_lab (fun x e => hlab ⟨x, e⟩), List.map_cons, numbered_codes _ cs]

/-- the items that are read are the items that were printed, up to the text of comments -/
theorem parseText_printProg (cs : List Code) (h : ∀ c ∈ cs, CodeOK c) :
    ∃ items, parseText (printProg cs) = .ok items ∧ (items.map (·.1)).map stripC = cs.map stripC :=
  ⟨_, parseText_printProg_eq cs h, by
    rw [numbered_codes, List.map_map]
    exact List.map_congr_left fun c _ => stripC_parsedCode c⟩

/-- without comments the items are read back EXACTLY -/
theorem parseText_printProg_exact (cs : List Code) (h : ∀ c ∈ cs, CodeOK c) (hnc : ∀ m, .COMMENT m ∉ cs) :
    ∃ items, parseText (printProg cs) = .ok items ∧ items.map (·.1) = cs := by
  obtain ⟨items, h1, h2⟩ := parseText_printProg cs h
  refine ⟨items, h1, ?_⟩
  have hs : ∀ c ∈ cs, stripC c = c := by
    intro c hc
    cases c <;> first | rfl | exact absurd hc (hnc _)
  have hcs : cs.map stripC = cs := by
    rw [List.map_congr_left hs]; simp
  rw [hcs] at h2
  -- the parsed items contain no comments either: a comment would survive `stripC` as a comment
  have hinj : ∀ (a : List Code) (b : List Code), a.map stripC = b → (∀ m, .COMMENT m ∉ b) → a = b := by
    intro a
    induction a with
    | nil => intro b hb _; simpa using hb
    | cons x xs ih =>
      intro b hb hbn
      cases b with
      | nil => simp at hb
      | cons y ys =>
        simp only [List.map_cons, List.cons.injEq] at hb
        have hx : x = y := by
          cases x <;> first | exact hb.1 | (exfalso; apply hbn ""; rw [← hb.1]; simp [stripC])
        rw [hx, ih ys hb.2 (fun m hm => hbn m (by simp [hm]))]
  exact hinj _ _ h2 hnc

end Scc.X86.Loader
