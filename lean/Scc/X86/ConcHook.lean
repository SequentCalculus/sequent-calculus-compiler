/-
  Scc.X86.ConcHook — THE HEAP MONITOR AT A STATEMENT BOUNDARY (hooks on): the machine state at a statement
  boundary has its program counter at the `#ctx […]` comment of the statement (`post_first_hook`: with hooks, the
  code of every statement starts with `comment (ctxHookComment Γ)`), the monitor's parser reads the kinds of
  the context back from it (`parseCtx_hook`: printer/parser round trip, for variable names without blanks),
  and its check succeeds there (`heapCheck_ok`): `monitor_boundary`.
-/
import Scc.X86.ConcCheck
import Scc.X86.ConcC10
import Scc.X86.ProofsWfAll
import Scc.StringLemmasAscii

namespace Scc.X86.Conc

open Scc.AxCut Scc.Backend Scc.Backend.Abs Scc.X86.Ref Scc.Str
open Scc.Heap (HState InvS InvW)

/-- with hooks, the code of every statement starts with the `#ctx` comment of its context -/
theorem post_first_hook (ren : Nat → String) (types : List TypeDecl) : ∀ (s : Stmt) (Γ : Ctx),
    Post (codeStatementR x86Backend true ren types s Γ)
      (fun items => ∃ rest, items = Code.COMMENT (ctxHookComment Γ) :: rest)
  | .subst rearrange next, Γ => by
    simp only [codeStatementR]
    refine Post.bind (Post.true _) fun c1 _ => ?_
    refine Post.bind (Post.true _) fun c2 _ => ?_
    refine Post.bind (Post.true _) fun c3 _ => ?_
    exact Post.pure ⟨_, rfl⟩
  | .call label args, Γ => by
    simp only [codeStatementR]
    exact Post.pure ⟨_, rfl⟩
  | .letS var ty tag args next fv, Γ => by
    simp only [codeStatementR]
    refine Post.bind (Post.true _) fun decl _ => ?_
    refine Post.bind (Post.true _) fun pos _ => ?_
    refine Post.bind (Post.true _) fun sp _ => ?_
    obtain ⟨context1, arguments⟩ := sp
    dsimp only
    refine Post.bind (Post.true _) fun c1 _ => ?_
    refine Post.bind (Post.true _) fun t _ => ?_
    refine Post.bind (Post.true _) fun c3 _ => ?_
    exact Post.pure ⟨_, rfl⟩
  | .switch var ty clauses fv, Γ => by
    simp only [codeStatementR]
    refine Post.bind (Post.true _) fun num _ => ?_
    refine Post.bind (Post.true _) fun c1 _ => ?_
    refine Post.bind (Post.true _) fun c3 _ => ?_
    exact Post.pure ⟨_, rfl⟩
  | .create var ty env clauses next fv1 fv2, Γ => by
    cases env with
    | none => simp only [codeStatementR]; exact Post.throw
    | some envCtx =>
      simp only [codeStatementR]
      refine Post.bind (Post.true _) fun sp _ => ?_
      obtain ⟨context1, closureEnvironment⟩ := sp
      dsimp only
      refine Post.bind (Post.true _) fun c1 _ => ?_
      refine Post.bind (Post.true _) fun num _ => ?_
      refine Post.bind (Post.true _) fun t _ => ?_
      refine Post.bind (Post.true _) fun c3 _ => ?_
      refine Post.bind (Post.true _) fun c5 _ => ?_
      exact Post.pure ⟨_, rfl⟩
  | .invoke var tag ty args, Γ => by
    simp only [codeStatementR]
    refine Post.bind (Post.true _) fun t _ => ?_
    refine Post.bind (Post.true _) fun decl _ => ?_
    split
    · exact Post.pure ⟨_, rfl⟩
    · exact Post.bind (Post.true _) fun pos _ => Post.pure ⟨_, rfl⟩
  | .lit var n next fv, Γ => by
    simp only [codeStatementR]
    refine Post.bind (Post.true _) fun t _ => ?_
    refine Post.bind (Post.true _) fun c2 _ => ?_
    exact Post.pure ⟨_, rfl⟩
  | .op var fst o snd next fv, Γ => by
    simp only [codeStatementR]
    refine Post.bind (Post.true _) fun t _ => ?_
    refine Post.bind (Post.true _) fun s1 _ => ?_
    refine Post.bind (Post.true _) fun s2 _ => ?_
    refine Post.bind (Post.true _) fun c2 _ => ?_
    exact Post.pure ⟨_, rfl⟩
  | .print newline var next fv, Γ => by
    simp only [codeStatementR]
    refine Post.bind (Post.true _) fun t _ => ?_
    refine Post.bind (Post.true _) fun c1 _ => ?_
    refine Post.bind (Post.true _) fun c2 _ => ?_
    exact Post.pure ⟨_, rfl⟩
  | .ifc sort fst snd thenc elsec, Γ => by
    simp only [codeStatementR]
    refine Post.bind (Post.true _) fun num _ => ?_
    refine Post.bind (Post.true _) fun c1 _ => ?_
    refine Post.bind (Post.true _) fun c2 _ => ?_
    refine Post.bind (Post.true _) fun c3 _ => ?_
    exact Post.pure ⟨_, rfl⟩
  | .exit var, Γ => by
    simp only [codeStatementR]
    exact Post.bind (Post.true _) fun t _ => Post.pure ⟨_, rfl⟩

/-- splitting the blank-joined words gives the words back (words without blanks) -/
theorem splitList_intercalate : ∀ (ls : List (List Char)), ls ≠ [] → (∀ l ∈ ls, ' ' ∉ l) →
    splitList ' ' ([' '].intercalate ls) = ls
  | [], h, _ => absurd rfl h
  | [a], _, h => by
    rw [List.intercalate_singleton]
    exact splitList_of_not_mem ' ' a (h a (by simp))
  | a :: b :: t, _, h => by
    rw [List.intercalate_cons_cons]
    have : a ++ [' '] ++ [' '].intercalate (b :: t) = a ++ ' ' :: [' '].intercalate (b :: t) := by simp
    rw [this, splitList_append_sep ' ' a _ (h a (by simp)),
      splitList_intercalate (b :: t) (by simp) (fun l hl => h l (by simp [hl]))]

theorem chiStr_no_colon (c : Chi) : ':' ∉ (chiStr c).toList := by cases c <;> decide
theorem chiStr_no_space (c : Chi) : ' ' ∉ (chiStr c).toList := by cases c <;> decide

theorem chiStr_ne_ext (c : Chi) : (some (chiStr c) != some "ext") = (c != Chi.ext) := by cases c <;> decide

theorem hookWord_kind (name : String) (c : Chi) :
    ((name ++ ":" ++ chiStr c).splitOn ":").getLast? = some (chiStr c) := by
  rw [splitOn_colon]
  have e : (name ++ ":" ++ chiStr c).toList = name.toList ++ ':' :: (chiStr c).toList := by
    simp [String.toList_append]
  rw [e, splitList_append_sep', splitList_of_not_mem ':' _ (chiStr_no_colon c)]
  simp

/-- THE ROUND TRIP: the monitor's parser reads the kinds of the context back from the hook comment
(variable names without blanks) -/
theorem parseCtx_hook (Γ : Ctx) (h : ∀ b ∈ Γ, ' ' ∉ b.var.print.toList) :
    parseCtx (ctxHookComment Γ) = some (ctxKinds Γ) := by
  let W : List String := Γ.map fun b => b.var.print ++ ":" ++ chiStr b.chi
  have hmsg : (ctxHookComment Γ).toList = "#ctx [".toList ++ ((" ".intercalate W).toList ++ [']']) := by
    show ("#ctx [" ++ " ".intercalate W ++ "]").toList = _
    rw [String.toList_append, String.toList_append, List.append_assoc]
    rfl
  unfold parseCtx
  rw [hmsg, Scc.X86.Loader.dropPrefix?_append]
  simp only [List.reverse_append, List.reverse_cons, List.reverse_nil, List.nil_append, List.singleton_append,
    List.reverse_reverse]
  have hof : String.ofList (" ".intercalate W).toList = " ".intercalate W := String.ofList_toList
  rw [hof, splitOn_space, intercalate_space]
  have hwords : ((splitList ' ' ([' '].intercalate (W.map String.toList))).map String.ofList).filter
      (fun x => decide (x ≠ "")) = W := by
    cases hΓ : Γ with
    | nil =>
      have : W = [] := by simp [W, hΓ]
      rw [this]
      rfl
    | cons b0 t =>
      have hne : W.map String.toList ≠ [] := by simp [W, hΓ]
      rw [splitList_intercalate _ hne (by
        intro l hl
        obtain ⟨w, hw, rfl⟩ := List.mem_map.1 hl
        obtain ⟨b, hb, rfl⟩ := List.mem_map.1 hw
        rw [String.toList_append, String.toList_append]
        intro hm
        rcases List.mem_append.1 hm with hm | hm
        · rcases List.mem_append.1 hm with hm | hm
          · exact h b hb hm
          · exact absurd hm (by decide)
        · exact chiStr_no_space b.chi hm)]
      rw [List.map_map]
      have hid : (String.ofList ∘ String.toList) = id := by funext x; simp
      rw [hid, List.map_id]
      rw [List.filter_eq_self]
      intro w hw
      obtain ⟨b, hb, rfl⟩ := List.mem_map.1 hw
      simp only [decide_eq_true_eq]
      intro e
      have := congrArg String.toList e
      rw [String.toList_append, String.toList_append] at this
      have hm : ':' ∈ b.var.print.toList ++ ":".toList ++ (chiStr b.chi).toList := by
        simp
      rw [this] at hm
      simp at hm
  rw [hwords]
  refine congrArg some ?_
  simp only [W, List.map_map, ctxKinds]
  apply List.map_congr_left
  intro b hb
  simp only [Function.comp]
  rw [hookWord_kind, chiStr_ne_ext]

/-- THE MONITOR AT A STATEMENT BOUNDARY, hooks on, on the items of the routine: the item at the program
counter is the `#ctx` comment of the boundary's context `Γ'`; if the parser reads its kinds back (`hparse`, asked
for that comment at that place only), the monitor runs `heapCheck` with them and — inside its window — the check
succeeds -/
theorem monitor_x3 {F : Frame} {cfg : MonCfg} (hFc : F.c = cfg.mach) (hk : cfg.consts = consts)
    {routine : List Code} {items : List (Code × Nat)} (hitems : items.map (·.1) = routine)
    {P : Program} {prog : AxCut.Prog} {st : Pos.State} {cfgA : Config} {hs : HState} {X : State}
    {Γ' : Ctx} {ι : Nat → Nat} {κ : Nat → Nat → Word} (RX : Scc.Backend.Sim2.RelX P true prog ⟨Γ', st.env, st.stmt⟩ cfgA)
    (X3h : Ref.K.X3 F Γ' cfgA hs ι κ X) {k k' : Nat} {its : List Code}
    (hrun : (codeStatementR x86Backend true natRen prog.types st.stmt Γ').run k = .ok (its, k'))
    (hat : XAt routine X.pc its)
    (hparse : routine[X.pc]? = some (Code.COMMENT (ctxHookComment Γ')) →
      parseCtx (ctxHookComment Γ') = some (ctxKinds Γ')) :
    ∃ below inUse, HeapShapeAt cfg X below inUse ∧
      (cfg.heap = false → monitor cfg (mkProg cfg.mach items) X = .ok none) ∧
      (cfg.heap = true → 64 * below + 64 ≤ X.maxHeapWritten + 512 →
        monitor cfg (mkProg cfg.mach items) X = .ok (some below)) := by
  obtain ⟨rest, hfirst⟩ := post_first_hook natRen prog.types st.stmt Γ' k its k' hrun
  obtain ⟨cs1, cs2, hcs, hlen⟩ := hat
  have hget : routine[X.pc]? = some (Code.COMMENT (ctxHookComment Γ')) := by
    rw [hcs, hfirst, ← hlen]
    simp
  have hcode : (mkProg cfg.mach items).code[X.pc]? = some (Code.COMMENT (ctxHookComment Γ')) := by
    show (items.map (·.1)).toArray[X.pc]? = _
    rw [hitems, List.getElem?_toArray]
    exact hget
  obtain ⟨⟨roots, h, f, lin, lazy, live, Fr, hr, hh, hf, I⟩, _⟩ := ConcK.heapInvAt_of_x3 (m := cfg) hFc.symm hk RX X3h
  rw [hFc] at I
  refine ⟨(Fr - cfg.mach.heapBase) / 64, live.length, ⟨h, f, _, lin, lazy, live, Fr, hh, hf, I, rfl, rfl⟩, ?_, ?_⟩
  · intro hoff
    simp [monitor, hoff]
  · intro hon hw
    have hFb := I.frontier_block
    unfold Scc.Heap.IsBlock at hFb
    have hchk := heapCheck_ok hr hh hf I (by omega)
    unfold monitor
    simp only [hon, Bool.not_true, Bool.false_eq_true, if_false, hcode, hparse hget, hchk]

/-- the same for the data-only relation -/
theorem monitor_boundary {F : Frame} {cfg : MonCfg} (hFc : F.c = cfg.mach) (hk : cfg.consts = consts)
    {routine : List Code} {items : List (Code × Nat)} (hitems : items.map (·.1) = routine)
    {P : Program} {prog : AxCut.Prog} {st : Pos.State} {cfgA : Config} {hs : HState} {X : State}
    (R : Rel3 F routine P true prog st cfgA hs X)
    (hparse : ∀ Γ, Code.COMMENT (ctxHookComment Γ) ∈ routine → parseCtx (ctxHookComment Γ) = some (ctxKinds Γ)) :
    ∃ below inUse, HeapShapeAt cfg X below inUse ∧
      (cfg.heap = false → monitor cfg (mkProg cfg.mach items) X = .ok none) ∧
      (cfg.heap = true → 64 * below + 64 ≤ X.maxHeapWritten + 512 →
        monitor cfg (mkProg cfg.mach items) X = .ok (some below)) := by
  obtain ⟨Γ', ι, hkeys, RX, X3h, k, k', its, hrun, hat⟩ := R
  exact monitor_x3 hFc hk hitems RX X3h.toK.1 hrun hat fun h => hparse Γ' (List.mem_of_getElem? h)

end Scc.X86.Conc
