/-
  Scc.X86.ConcKEntry — before the run on the concrete x86-64 machine: the loader, the header of the routine
  (`K.init_sim3`), Theorem A at the entry, the first closure-aware three-way relation `K.Rel3` (`Entry`; `EntryM`: and
  none of the states of the header is at a `#ctx` comment).  The entry of the data-only runs (Scc/X86/ConcRun.lean)
  follows from it: at the entry all variables are integers and the heap is empty.
-/
import Scc.X86.RefClosHRun

namespace Scc.X86.ConcK

open Scc.AxCut Scc.Backend Scc.Backend.Abs Scc.X86.Ref
open Scc.Backend.Sim2
open Scc.Props.C14Generic (LabelSafe)
open Scc.Props.C06Generic (outAfter WithinCapacity Reachable EnoughHeap CodeFits statesOf stopsWithin
  reachable_mem_statesOf)
open Scc.Heap (HState InvS InvW)
open Scc.Heap.Refine (HRef FrLe Room FrPk)

/-- what the header of the routine establishes: the frame, the loaded routine, the first boundary.  `pre`: the
routine without its last part `cleanup`; `st0`, `h`: the state at the call of `asm_main` and the word the prologue
saved (`EntryFacts`); from the machine's initial state at item `6` — the label `asm_main`, behind the `asmsyntax=nasm`
comment and the first five items of `preamble` (`intoRoutine`) — the header takes `n0` transitions to the first boundary state `X0`; `a`: the
program counter of the abstract machine at the entry -/
structure Entry (p : AxCut.Prog) (args : List Word) (hooks : Bool) (routine : List Code) (d0 : Def)
    (ops : List MockOp) (cfg : MonCfg) (items : List (Code × Nat)) (F : Frame) (pre : List Code)
    (st0 : State) (h : Word) (n0 : Nat) (X0 : State) (a : Nat) : Prop where
  fc : F.c = cfg.mach
  frame : FrameOK F
  loaded : LoadedA F.c (mkProg cfg.mach items) routine
  split : routine = pre ++ cleanup
  clean : "cleanup" ∉ labs pre
  entry : EntryFacts F st0 h
  defs : K.XDefsAt routine hooks p
  main : (mkProg cfg.mach items).labelIdx["asm_main"]? = some 6
  steps : stepN cfg (mkProg cfg.mach items) n0 (initState cfg.mach args 6) = .inl X0
  rel : K.Rel3 F routine (Program.ofOps ops) hooks p ⟨d0.ctx, args.map .int, d0.body⟩ (initConfig a args)
    (Scc.Heap.init F.c.heapBase (F.c.heapBase + F.c.heapBytes)) X0
  next1 : (initConfig a args).next = 1
  typed : Pos.StateTyped p ⟨d0.ctx, args.map .int, d0.body⟩
  nargs : args.length ≤ 5

/-- `Entry` and `mid`: none of the states of the header is at a `#ctx` comment -/
structure EntryM (p : AxCut.Prog) (args : List Word) (hooks : Bool) (routine : List Code) (d0 : Def)
    (ops : List MockOp) (cfg : MonCfg) (items : List (Code × Nat)) (F : Frame) (pre : List Code)
    (st0 : State) (h : Word) (n0 : Nat) (X0 : State) (a : Nat) : Prop where
  fc : F.c = cfg.mach
  frame : FrameOK F
  loaded : LoadedA F.c (mkProg cfg.mach items) routine
  split : routine = pre ++ cleanup
  clean : "cleanup" ∉ labs pre
  entry : EntryFacts F st0 h
  defs : K.XDefsAt routine hooks p
  main : (mkProg cfg.mach items).labelIdx["asm_main"]? = some 6
  steps : stepN cfg (mkProg cfg.mach items) n0 (initState cfg.mach args 6) = .inl X0
  rel : K.Rel3 F routine (Program.ofOps ops) hooks p ⟨d0.ctx, args.map .int, d0.body⟩ (initConfig a args)
    (Scc.Heap.init F.c.heapBase (F.c.heapBase + F.c.heapBytes)) X0
  next1 : (initConfig a args).next = 1
  typed : Pos.StateTyped p ⟨d0.ctx, args.map .int, d0.body⟩
  nargs : args.length ≤ 5
  mid : MidS cfg (mkProg cfg.mach items) routine n0 (initState cfg.mach args 6)

theorem EntryM.toEntry {p : AxCut.Prog} {args : List Word} {hooks : Bool} {routine : List Code} {d0 : Def}
    {ops : List MockOp} {cfg : MonCfg} {items : List (Code × Nat)} {F : Frame} {pre : List Code} {st0 : State}
    {h : Word} {n0 : Nat} {X0 : State} {a : Nat}
    (En : EntryM p args hooks routine d0 ops cfg items F pre st0 h n0 X0 a) :
    Entry p args hooks routine d0 ops cfg items F pre st0 h n0 X0 a :=
  ⟨En.fc, En.frame, En.loaded, En.split, En.clean, En.entry, En.defs, En.main, En.steps, En.rel, En.next1, En.typed,
    En.nargs⟩

/-- THE ENTRY: loader, header of the routine, Theorem A at the entry, the first `K.Rel3`.  `hcompM` next to `hcompX`:
the relation speaks of the mock code of the same program; `hentry`: all parameters of the first definition are
`ext` integers (the arguments of `asm_main`); `hc0`: they fit the 266 temporaries of positions; `hb0`, `hbytes`: a
heap base that is no null pointer and room for the two blocks of the initial heap -/
theorem entry_setupM (p : AxCut.Prog) (args : List Word) (hooks : Bool) (body routine : List Code)
    (nargs : Nat) (d0 : Def) (ops : List MockOp) (c' : Nat)
    (hsafe : LabelSafe p = true) (htp : LinTypedProg p)
    (hcompM : (compile mockSym hooks p).run 0 = .ok ((ops, nargs), c'))
    (hcompX : compileX86 p hooks 0 = .ok (body, nargs)) (hrout : intoRoutine body nargs = .ok routine)
    (hnd : (labs routine).Nodup)
    (hd : p.defs.head? = some d0) (hentry : ∀ b ∈ d0.ctx, b.chi = .ext ∧ b.ty = .i64)
    (hlen : d0.ctx.length = args.length) (hc0 : 2 * d0.ctx.length ≤ 266)
    (cfg : MonCfg) (MO : MachOK cfg.mach)
    (hb0 : 0 < cfg.mach.heapBase) (hbytes : 128 ≤ cfg.mach.heapBytes)
    (items : List (Code × Nat)) (hitems : (items.map (·.1)).map stripC = routine.map stripC) :
    ∃ F pre st0 h n0 X0 a, EntryM p args hooks routine d0 ops cfg items F pre st0 h n0 X0 a := by
  have hmem : d0 ∈ p.defs := List.mem_of_mem_head? hd
  have hnodupD := Scc.Props.C14Generic.labels_unique hooks p 0 ops nargs c' hcompM hsafe
  obtain ⟨_, hnargs⟩ := Sim.mock_entry hcompM hd
  rw [hnargs, hlen] at hrout
  have hargs : args.length ≤ 5 := by
    obtain ⟨moves, hm, _⟩ := intoRoutine_shape hrout
    exact moveArguments_le _ _ hm
  -- the loader and the header
  have LA := loadedA_mkProg cfg.mach items routine hitems
  have L := LA.loaded
  obtain ⟨hdr, F, h, st0', k0, st2, hcs, hlabs, hidx, hFc, HF, E, hk0, hpc, R, HR, hmid0⟩ :=
    K.init_sim3 MO hargs hrout L
  -- Theorem A at the entry
  obtain ⟨a, hlab, RX, hn1⟩ := init_relX hooks p 0 ops nargs c' hcompM hnodupD d0 hmem
    (fun b hb => (hentry b hb).1) args hlen (Ref.withinCapacity_of_le hc0)
  have T : Pos.StateTyped p ⟨d0.ctx, args.map .int, d0.body⟩ :=
    ⟨htp d0 hmem, Pos.ints_typed d0.ctx args hlen hentry⟩
  -- the definitions
  have DX : K.XDefsAt routine hooks p := Ref.xdefsAt_of_compile hcompX hcs hnd
  obtain ⟨i, kx, kx', ditems, hi, hget, hdrun, hdat⟩ := DX d0 hmem
  -- the entry label is the first item of the body
  have hi0 : i = hdr.length := by
    unfold compileX86 at hcompX
    cases hx : (compile x86Backend hooks p).run 0 with
    | error e => rw [hx] at hcompX; cases hcompX
    | ok r =>
      obtain ⟨⟨body', nargs'⟩, c''⟩ := r
      rw [hx] at hcompX
      simp only [Except.ok.injEq, Prod.mk.injEq] at hcompX
      obtain ⟨rfl, rfl⟩ := hcompX
      unfold compile compileR at hx
      cases hdefs : p.defs with
      | nil => rw [hdefs] at hd; simp at hd
      | cons d ds =>
        rw [hdefs] at hd hx
        simp only [List.head?_cons, Option.some.injEq] at hd
        subst hd
        simp only [run_bind_ok, run_pure_ok, translateR] at hx
        obtain ⟨blocks, c1, ⟨is, c2, h1, rest, c3, h2, rfl, rfl⟩, e, rfl⟩ := hx
        injection e with e1 e2
        have hb : body' = Code.LAB (d.name.print ++ "_") :: (is ++ assemble x86Backend rest (ds.map (·.name))) := by
          rw [← e1]; rfl
        have hget' : routine[hdr.length]? = some (Code.LAB (d.name.print ++ "_")) := by
          rw [hcs, hb]; simp
        have := labIdx_of_nodup hnd hget'
        rw [hi] at this
        exact Option.some.inj this
  subst hi0
  have hsplit : routine = hdr ++ Code.LAB (d0.name.print ++ "_") :: routine.drop (hdr.length + 1) := by
    have hlt : hdr.length < routine.length := by
      rcases Nat.lt_or_ge hdr.length routine.length with h | h
      · exact h
      · rw [List.getElem?_eq_none h] at hget; cases hget
    have h1 : routine.drop hdr.length = routine[hdr.length] :: routine.drop (hdr.length + 1) :=
      List.drop_eq_getElem_cons hlt
    have h2 : routine[hdr.length] = Code.LAB (d0.name.print ++ "_") := by
      rw [List.getElem?_eq_getElem hlt] at hget; exact Option.some.inj hget
    have h3 : routine.take hdr.length = hdr := by
      rw [hcs]; simp [List.append_assoc]
    conv => lhs; rw [← List.take_append_drop hdr.length routine, h1, h2, h3]
  obtain ⟨k3, hk3⟩ := step_fall cfg L hsplit (s := st2) hpc
    (show execCode cfg.mach (mkProg cfg.mach items).labelAddr (Code.LAB (d0.name.print ++ "_")) _ = .ok (_, .next)
      from rfl)
  have hbytes' : 128 ≤ F.c.heapBytes := by rw [hFc]; omega
  have X3i : K.X3 F d0.ctx (initConfig a args)
      (Scc.Heap.init F.c.heapBase (F.c.heapBase + F.c.heapBytes)) id (fun _ _ => 0) (setPS st2 (hdr.length + 1) k3) :=
    K.X3R.setPS (K.x3_init R HR (fun b hb => (hentry b hb).1) hc0 (by rw [hFc]; exact hb0) hbytes' id (fun _ _ => 0)) _ _
  have R3 : K.Rel3 F routine (Program.ofOps ops) hooks p ⟨d0.ctx, args.map .int, d0.body⟩ (initConfig a args)
      (Scc.Heap.init F.c.heapBase (F.c.heapBase + F.c.heapBytes)) (setPS st2 (hdr.length + 1) k3) :=
    ⟨d0.ctx, id, fun _ _ => 0, rfl, RX, X3i, fun i h1 h2 w hw => by
      simp only [List.getElem_map]
      exact .int _ _ _ _, kx, kx', ditems, hdrun, hdat⟩
  have hclean : "cleanup" ∉ labs (hdr ++ body) := by
    rw [hcs, labs_append] at hnd
    have := (List.nodup_append.1 hnd).2.2
    intro hm
    exact this _ hm _ (by simp [labs, codeLabelDef, cleanup]) rfl
  have hlabI : (mkProg cfg.mach items).labelIdx["asm_main"]? = some 6 := by rw [L.labels]; exact hidx
  refine ⟨F, hdr ++ body, st0', h, k0 + 1, _, a, hFc, HF, by rw [hFc]; exact LA, hcs, hclean, E,
    Ref.xdefsAt_of_compile hcompX hcs hnd, hlabI, ?_, R3, hn1, T, hargs, ?_⟩
  · exact stepN_trans cfg _ hk0 ((stepN_one cfg _ _).trans hk3)
  · exact MidS.trans hmid0 hk0 (midS_one (not_ctxAt_of_split hsplit hpc (not_isCtx_of_noComment rfl)))

/-- `entry_setupM` without `mid` -/
theorem entry_setup (p : AxCut.Prog) (args : List Word) (hooks : Bool) (body routine : List Code)
    (nargs : Nat) (d0 : Def) (ops : List MockOp) (c' : Nat)
    (hsafe : LabelSafe p = true) (htp : LinTypedProg p)
    (hcompM : (compile mockSym hooks p).run 0 = .ok ((ops, nargs), c'))
    (hcompX : compileX86 p hooks 0 = .ok (body, nargs)) (hrout : intoRoutine body nargs = .ok routine)
    (hnd : (labs routine).Nodup)
    (hd : p.defs.head? = some d0) (hentry : ∀ b ∈ d0.ctx, b.chi = .ext ∧ b.ty = .i64)
    (hlen : d0.ctx.length = args.length) (hc0 : 2 * d0.ctx.length ≤ 266)
    (cfg : MonCfg) (MO : MachOK cfg.mach)
    (hb0 : 0 < cfg.mach.heapBase) (hbytes : 128 ≤ cfg.mach.heapBytes)
    (items : List (Code × Nat)) (hitems : (items.map (·.1)).map stripC = routine.map stripC) :
    ∃ F pre st0 h n0 X0 a, Entry p args hooks routine d0 ops cfg items F pre st0 h n0 X0 a := by
  obtain ⟨F, pre, st0, h, n0, X0, a, En⟩ := entry_setupM p args hooks body routine nargs d0 ops c' hsafe htp hcompM hcompX
    hrout hnd hd hentry hlen hc0 cfg MO hb0 hbytes items hitems
  exact ⟨F, pre, st0, h, n0, X0, a, En.toEntry⟩

end Scc.X86.ConcK
