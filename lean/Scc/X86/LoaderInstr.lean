/-
  Scc.X86.LoaderInstr — the loader's `parseLine` (Scc/X86/Machine.lean) on every shape of line the printer
  `printCode` (Scc/X86/Instr.lean) can produce: an indented line made of an ordinary mnemonic and 0 / 1 / 2
  operand texts (`OpTxt`) is read as `mkInstr` of the mnemonic and the operands (`parse_line0/1/2`); `jmp`,
  `global`, `extern` and the section directives, which the loader treats on their own; a comment line (read
  back with its text up to the trailing blanks); the two lines of a printed label (an empty one, skipped, and
  `L:`).  LoaderCode.lean applies these to `printCode c`.
  `parseBody` / `parseRest` restate the two inner stages of `parseLine` (definitionally equal,
  `parseLine_body`).
-/
import Scc.X86.LoaderLemmas

namespace Scc.X86.Loader

open Scc.Str

/-- `parseLine` after the mnemonic has been split off -/
def parseRest (mn rest : List Char) : Option (Option Code) :=
  let mns := String.ofList mn
  if mns = "global" then
    (if !rest.isEmpty && rest.all isSymChar then some (some (.GLOBAL (String.ofList rest))) else some none)
  else if mns = "extern" then
    (if !rest.isEmpty && rest.all isSymChar then some (some (.EXTERN (String.ofList rest))) else some none)
  else if mns = "jmp" then
    match dropPrefix? "near ".toList rest with
    | some l =>
      let l := trimC l
      if !l.isEmpty && l.all isSymChar && (regOfName (String.ofList l)).isNone
      then some (some (.JMPLN (String.ofList l))) else some none
    | none =>
      match parseOpnd rest with
      | some o => some (mkInstr mns [o])
      | none => some none
  else if rest.isEmpty then some (mkInstr mns [])
  else
    match (splitCommas rest).mapM parseOpnd with
    | some ops => some (mkInstr mns ops)
    | none => some none

/-- `parseLine` on a trimmed, non-empty line that is not a comment -/
def parseBody (t : List Char) : Option (Option Code) :=
  let ts := String.ofList t
  if ts = noexecstackText then some (some .NOEXECSTACK)
  else if ts = "section .text" then some (some .TEXT)
  else
  match t.reverse with
  | ':' :: revName =>
    let name := revName.reverse
    if !name.isEmpty && name.all isSymChar then some (some (.LAB (String.ofList name))) else some none
  | _ =>
    let (mn, rest) := match splitAt1 ' ' t with
      | some (a, b) => (a, trimC b)
      | none => (t, [])
    parseRest mn rest

theorem parseLine_body (line : String) {c : Char} {cs : List Char} (h : trimC line.toList = c :: cs)
    (hc : c ≠ ';') : parseLine line = parseBody (c :: cs) := by
  unfold parseLine
  simp only [h]
  split
  · rename_i heq; cases heq
  · rename_i heq; cases heq; exact absurd rfl hc
  · rfl

theorem parseLine_empty : parseLine "" = none := by decide

/-! ## directives never match a line with another mnemonic -/

theorem noexec_toList :
    noexecstackText.toList = "section".toList ++ ' ' :: ".note.GNU-stack noalloc noexec nowrite progbits".toList := by
  decide

theorem text_toList : "section .text".toList = "section".toList ++ ' ' :: ".text".toList := by decide

theorem not_directive_split {mn rest : List Char} (hsp : ' ' ∉ mn) (hmn : mn ≠ "section".toList) :
    String.ofList (mn ++ ' ' :: rest) ≠ noexecstackText ∧ String.ofList (mn ++ ' ' :: rest) ≠ "section .text" := by
  have key : ∀ x : List Char, mn ++ ' ' :: rest ≠ "section".toList ++ ' ' :: x := by
    intro x e
    have h1 := splitAt1_append (c := ' ') rest hsp
    have h2 := splitAt1_append (c := ' ') (a := "section".toList) x (by decide)
    rw [e, h2] at h1
    injection h1 with h1
    injection h1 with h1 _
    exact hmn h1.symm
  constructor
  · intro e; rw [ofList_eq_iff, noexec_toList] at e; exact key _ e
  · intro e; rw [ofList_eq_iff, text_toList] at e; exact key _ e

theorem not_directive_nosplit {t : List Char} (hsp : ' ' ∉ t) :
    String.ofList t ≠ noexecstackText ∧ String.ofList t ≠ "section .text" := by
  constructor
  · intro e; rw [ofList_eq_iff] at e; rw [e] at hsp; exact hsp (by decide)
  · intro e; rw [ofList_eq_iff] at e; rw [e] at hsp; exact hsp (by decide)

theorem parseBody_split {mn rest : List Char} (hsp : ' ' ∉ mn) (hmn : mn ≠ "section".toList)
    (hlast : (mn ++ ' ' :: rest).getLast? ≠ some ':') :
    parseBody (mn ++ ' ' :: rest) = parseRest mn (trimC rest) := by
  unfold parseBody
  have hd := not_directive_split (rest := rest) hsp hmn
  simp only [hd.1, hd.2, if_false]
  split
  · rename_i revName heq
    have : (mn ++ ' ' :: rest).getLast? = some ':' := by rw [← List.head?_reverse, heq]; rfl
    exact absurd this hlast
  · rw [splitAt1_append rest hsp]

theorem parseBody_nosplit {t : List Char} (hsp : ' ' ∉ t) (hlast : t.getLast? ≠ some ':') :
    parseBody t = parseRest t [] := by
  unfold parseBody
  have hd := not_directive_nosplit hsp
  simp only [hd.1, hd.2, if_false]
  split
  · rename_i revName heq
    have : t.getLast? = some ':' := by rw [← List.head?_reverse, heq]; rfl
    exact absurd this hlast
  · rw [splitAt1_none hsp]

/-- a mnemonic of an ordinary instruction (not a directive, not `jmp`) -/
def mnOK (mn : List Char) : Bool :=
  !mn.isEmpty && mn.all (fun c => c != ' ' && c != ';' && c != ':' && c != ',' && c != '\n') &&
  mn != "section".toList && mn != "global".toList && mn != "extern".toList && mn != "jmp".toList

structure MnFacts (mn : List Char) : Prop where
  ne : mn ≠ []
  chars : ∀ c ∈ mn, c ≠ ' ' ∧ c ≠ ';' ∧ c ≠ ':' ∧ c ≠ ',' ∧ c ≠ '\n'
  nsection : mn ≠ "section".toList
  nglobal : String.ofList mn ≠ "global"
  nextern : String.ofList mn ≠ "extern"
  njmp : String.ofList mn ≠ "jmp"

theorem mnFacts {mn : List Char} (h : mnOK mn = true) : MnFacts mn := by
  simp only [mnOK, Bool.and_eq_true, Bool.not_eq_true', List.all_eq_true, bne_iff_ne, ne_eq] at h
  obtain ⟨⟨⟨⟨⟨h1, h2⟩, h3⟩, h4⟩, h5⟩, h6⟩ := h
  refine ⟨?_, ?_, h3, ?_, ?_, ?_⟩
  · intro e; subst e; cases h1
  · intro c hc
    obtain ⟨⟨⟨⟨a, b⟩, c'⟩, d⟩, e⟩ := h2 c hc
    exact ⟨a, b, c', d, e⟩
  · intro e; exact h4 (ofList_eq_iff.1 e)
  · intro e; exact h5 (ofList_eq_iff.1 e)
  · intro e; exact h6 (ofList_eq_iff.1 e)

theorem MnFacts.head {mn : List Char} (M : MnFacts mn) : ∃ c cs, mn = c :: cs ∧ c ≠ ';' ∧ c ≠ ' ' := by
  cases mn with
  | nil => exact absurd rfl M.ne
  | cons c cs => exact ⟨c, cs, rfl, (M.chars c (by simp)).2.1, (M.chars c (by simp)).1⟩

theorem parseRest_nil {mn : List Char} (M : MnFacts mn) : parseRest mn [] = some (mkInstr (String.ofList mn) []) := by
  unfold parseRest
  simp only [M.nglobal, M.nextern, M.njmp, if_false, List.isEmpty_nil, if_true]

theorem parseRest_ops {mn rest : List Char} {ops : List Opnd} (M : MnFacts mn) (hne : rest ≠ [])
    (hops : (splitCommas rest).mapM parseOpnd = some ops) :
    parseRest mn rest = some (mkInstr (String.ofList mn) ops) := by
  unfold parseRest
  have : rest.isEmpty = false := by cases rest with | nil => exact absurd rfl hne | cons _ _ => rfl
  simp only [M.nglobal, M.nextern, M.njmp, if_false, this, Bool.false_eq_true, hops]

/-- the lines of the three shapes of ordinary instructions -/
def line0 (mn : List Char) : List Char := ' ' :: ' ' :: ' ' :: ' ' :: mn
def line1 (mn o1 : List Char) : List Char := ' ' :: ' ' :: ' ' :: ' ' :: (mn ++ ' ' :: o1)
def line2 (mn o1 o2 : List Char) : List Char := ' ' :: ' ' :: ' ' :: ' ' :: (mn ++ ' ' :: (o1 ++ ',' :: ' ' :: o2))

theorem getLast?_append_cons (a : List Char) (c : Char) (b : List Char) (hb : b ≠ []) :
    (a ++ c :: b).getLast? = b.getLast? := by
  rw [List.getLast?_append]
  cases b with
  | nil => exact absurd rfl hb
  | cons x xs =>
    rw [List.getLast?_cons_cons]
    cases h : (x :: xs).getLast? with
    | none => simp at h
    | some y => rfl

theorem parse_line0 {s : String} {mn : List Char} (hs : s.toList = line0 mn) (hm : mnOK mn = true) :
    parseLine s = some (mkInstr (String.ofList mn) []) ∧ '\n' ∉ s.toList := by
  have M := mnFacts hm
  obtain ⟨c, cs, e, hc, hc'⟩ := M.head
  have hlast : ∀ x, mn.getLast? = some x → x ≠ ' ' ∧ x ≠ ';' ∧ x ≠ ':' ∧ x ≠ ',' ∧ x ≠ '\n' :=
    fun x hx => M.chars x (List.mem_of_getLast? hx)
  have htr : Trimmed mn := ⟨by rw [e]; simpa using hc', fun h => (hlast _ h).1 rfl⟩
  constructor
  · have ht : trimC s.toList = c :: cs := by rw [hs, line0, trimC_indent htr, e]
    rw [parseLine_body s ht hc, ← e,
      parseBody_nosplit (fun h => (M.chars _ h).1 rfl) (fun h => (hlast _ h).2.2.1 rfl), parseRest_nil M]
  · rw [hs]; intro h
    simp only [line0, List.mem_cons] at h
    rcases h with h | h | h | h | h
    · revert h; decide
    · revert h; decide
    · revert h; decide
    · revert h; decide
    · exact (M.chars _ h).2.2.2.2 rfl

theorem parse_line1 {s : String} {mn o1 : List Char} {a : Opnd} (hs : s.toList = line1 mn o1)
    (hm : mnOK mn = true) (h1 : OpTxt o1 a) :
    parseLine s = some (mkInstr (String.ofList mn) [a]) ∧ '\n' ∉ s.toList := by
  have M := mnFacts hm
  obtain ⟨c, cs, e, hc, hc'⟩ := M.head
  have hl : (mn ++ ' ' :: o1).getLast? = o1.getLast? := getLast?_append_cons _ _ _ h1.ne
  have htr : Trimmed (mn ++ ' ' :: o1) :=
    ⟨by rw [e]; simpa using hc', by rw [hl]; exact h1.trimmed.2⟩
  constructor
  · have ht : trimC s.toList = c :: (cs ++ ' ' :: o1) := by rw [hs, line1, trimC_indent htr, e]; rfl
    have e' : c :: (cs ++ ' ' :: o1) = mn ++ ' ' :: o1 := by rw [e]; rfl
    rw [parseLine_body s ht hc, e',
      parseBody_split (fun h => (M.chars _ h).1 rfl) M.nsection (by rw [hl]; exact h1.lastc),
      trimC_of_trimmed h1.trimmed]
    apply parseRest_ops M h1.ne
    rw [splitCommas, splitOnChar_of_not_mem [] h1.nocomma]
    simp [h1.parse]
  · rw [hs]; intro h
    simp only [line1, List.mem_cons, List.mem_append] at h
    rcases h with h | h | h | h | h | h | h
    · revert h; decide
    · revert h; decide
    · revert h; decide
    · revert h; decide
    · exact (M.chars _ h).2.2.2.2 rfl
    · revert h; decide
    · exact h1.nonl h

theorem parse_line2 {s : String} {mn o1 o2 : List Char} {a b : Opnd} (hs : s.toList = line2 mn o1 o2)
    (hm : mnOK mn = true) (h1 : OpTxt o1 a) (h2 : OpTxt o2 b) :
    parseLine s = some (mkInstr (String.ofList mn) [a, b]) ∧ '\n' ∉ s.toList := by
  have M := mnFacts hm
  obtain ⟨c, cs, e, hc, hc'⟩ := M.head
  have hne : o1 ++ ',' :: ' ' :: o2 ≠ [] := by simp
  have hl : (mn ++ ' ' :: (o1 ++ ',' :: ' ' :: o2)).getLast? = o2.getLast? := by
    rw [getLast?_append_cons _ _ _ hne, getLast?_append_cons _ _ _ (by simp),
      show (' ' :: o2) = [] ++ ' ' :: o2 from rfl, getLast?_append_cons _ _ _ h2.ne]
  have htr : Trimmed (mn ++ ' ' :: (o1 ++ ',' :: ' ' :: o2)) :=
    ⟨by rw [e]; simpa using hc', by rw [hl]; exact h2.trimmed.2⟩
  have htr' : Trimmed (o1 ++ ',' :: ' ' :: o2) :=
    trimmed_append h1.trimmed.1 h1.ne (by
      rw [show (',' :: ' ' :: o2) = [','] ++ ' ' :: o2 from rfl, getLast?_append_cons _ _ _ h2.ne]
      exact h2.trimmed.2) (by simp)
  constructor
  · have ht : trimC s.toList = c :: (cs ++ ' ' :: (o1 ++ ',' :: ' ' :: o2)) := by
      rw [hs, line2, trimC_indent htr, e]; rfl
    have e' : c :: (cs ++ ' ' :: (o1 ++ ',' :: ' ' :: o2)) = mn ++ ' ' :: (o1 ++ ',' :: ' ' :: o2) := by
      rw [e]; rfl
    rw [parseLine_body s ht hc, e',
      parseBody_split (fun h => (M.chars _ h).1 rfl) M.nsection (by rw [hl]; exact h2.lastc),
      trimC_of_trimmed htr']
    apply parseRest_ops M hne
    rw [splitCommas, splitOnChar_append _ [] h1.nocomma, splitOnChar_of_not_mem [] (by
      intro h; simp only [List.mem_cons] at h
      rcases h with h | h
      · revert h; decide
      · exact h2.nocomma h)]
    have hp2 : parseOpnd (' ' :: o2) = some b := by
      have : parseOpnd (' ' :: o2) = parseOpnd o2 := by unfold parseOpnd; rw [trimC_space]
      rw [this, h2.parse]
    simp [h1.parse, hp2]
  · rw [hs]; intro h
    simp only [line2, List.mem_cons, List.mem_append] at h
    rcases h with h | h | h | h | h | h | h | h | h | h
    · revert h; decide
    · revert h; decide
    · revert h; decide
    · revert h; decide
    · exact (M.chars _ h).2.2.2.2 rfl
    · revert h; decide
    · exact h1.nonl h
    · revert h; decide
    · revert h; decide
    · exact h2.nonl h

/-! ## `jmp` -/

theorem jmp_split (rest : List Char) (hne : rest ≠ []) (hlast : rest.getLast? ≠ some ':') :
    parseBody ("jmp".toList ++ ' ' :: rest) = parseRest "jmp".toList (trimC rest) :=
  parseBody_split (by decide) (by decide) (by rw [getLast?_append_cons _ _ _ hne]; exact hlast)

theorem parseRest_jmp_opnd {rest : List Char} {o : Opnd} (hnear : dropPrefix? "near ".toList rest = none)
    (hp : parseOpnd rest = some o) : parseRest "jmp".toList rest = some (mkInstr "jmp" [o]) := by
  unfold parseRest
  have e : String.ofList "jmp".toList = "jmp" := by decide
  simp only [e, hnear, hp]
  rfl

theorem parse_jmp1 {s : String} {o1 : List Char} {a : Opnd} (hs : s.toList = line1 "jmp".toList o1)
    (h1 : OpTxt o1 a) (hnear : dropPrefix? "near ".toList o1 = none) :
    parseLine s = some (mkInstr "jmp" [a]) ∧ '\n' ∉ s.toList := by
  have hl : ("jmp".toList ++ ' ' :: o1).getLast? = o1.getLast? := getLast?_append_cons _ _ _ h1.ne
  have htr : Trimmed ("jmp".toList ++ ' ' :: o1) := ⟨by show ('j' :: _).head? ≠ _; simp, by rw [hl]; exact h1.trimmed.2⟩
  constructor
  · have ht : trimC s.toList = 'j' :: ("mp".toList ++ ' ' :: o1) := by rw [hs, line1, trimC_indent htr]; rfl
    rw [parseLine_body s ht (by decide)]
    show parseBody ("jmp".toList ++ ' ' :: o1) = _
    rw [jmp_split o1 h1.ne h1.lastc, trimC_of_trimmed h1.trimmed, parseRest_jmp_opnd hnear h1.parse]
  · rw [hs]; intro h
    simp only [line1, List.mem_cons, List.mem_append] at h
    rcases h with h | h | h | h | h | h | h
    · revert h; decide
    · revert h; decide
    · revert h; decide
    · revert h; decide
    · revert h; decide
    · revert h; decide
    · exact h1.nonl h

theorem parse_jmp_near {s : String} {l : List Char} (hs : s.toList = line1 "jmp".toList ("near ".toList ++ l))
    (hl : symOKC l) : parseLine s = some (some (.JMPLN (String.ofList l))) ∧ '\n' ∉ s.toList := by
  have hlt := symOKC_trimmed hl
  have hne : "near ".toList ++ l ≠ [] := by simp
  have hlast : ("near ".toList ++ l).getLast? = l.getLast? := by
    rw [show "near ".toList ++ l = "near".toList ++ ' ' :: l by simp, getLast?_append_cons _ _ _ hl.1]
  have htr1 : Trimmed ("near ".toList ++ l) := ⟨by simp, by rw [hlast]; exact hlt.2⟩
  have hl' : ("jmp".toList ++ ' ' :: ("near ".toList ++ l)).getLast? = l.getLast? := by
    rw [getLast?_append_cons _ _ _ hne, hlast]
  have htr : Trimmed ("jmp".toList ++ ' ' :: ("near ".toList ++ l)) := ⟨by show ('j' :: _).head? ≠ _; simp, by rw [hl']; exact hlt.2⟩
  have hcolon : l.getLast? ≠ some ':' :=
    fun e => symOKC_not_mem hl (c := ':') (by decide) (List.mem_of_getLast? e)
  constructor
  · have ht : trimC s.toList = 'j' :: ("mp".toList ++ ' ' :: ("near ".toList ++ l)) := by
      rw [hs, line1, trimC_indent htr]; rfl
    rw [parseLine_body s ht (by decide)]
    show parseBody ("jmp".toList ++ ' ' :: ("near ".toList ++ l)) = _
    rw [jmp_split _ hne (by rw [hlast]; exact hcolon), trimC_of_trimmed htr1]
    unfold parseRest
    have e : String.ofList "jmp".toList = "jmp" := by decide
    have e1 : ("jmp" = "global") = False := by decide
    have e2 : ("jmp" = "extern") = False := by decide
    simp only [e, e1, e2, if_false, if_true, dropPrefix?_append, trimC_of_trimmed hlt, symOKC_isEmpty hl,
      symOKC_all hl, hl.2.2.1, Option.isNone_none, Bool.not_false, Bool.and_self]
  · rw [hs]; intro h
    simp only [line1, List.mem_cons, List.mem_append] at h
    rcases h with h | h | h | h | h | h | h | h
    · revert h; decide
    · revert h; decide
    · revert h; decide
    · revert h; decide
    · revert h; decide
    · revert h; decide
    · revert h; decide
    · exact (hl.2.1 _ h).2 rfl

/-! ## directives with an operand: `global L`, `extern F` -/

theorem parse_global {s : String} {l : List Char} (hs : s.toList = "global".toList ++ ' ' :: l) (hl : symOKC l) :
    parseLine s = some (some (.GLOBAL (String.ofList l))) ∧ '\n' ∉ s.toList := by
  have hlt := symOKC_trimmed hl
  have hlast : ("global".toList ++ ' ' :: l).getLast? = l.getLast? := getLast?_append_cons _ _ _ hl.1
  have htr : Trimmed ("global".toList ++ ' ' :: l) := ⟨by show ('g' :: _).head? ≠ _; simp, by rw [hlast]; exact hlt.2⟩
  have hcolon : l.getLast? ≠ some ':' :=
    fun e => symOKC_not_mem hl (c := ':') (by decide) (List.mem_of_getLast? e)
  constructor
  · have ht : trimC s.toList = 'g' :: ("lobal".toList ++ ' ' :: l) := by rw [hs, trimC_of_trimmed htr]; rfl
    rw [parseLine_body s ht (by decide)]
    show parseBody ("global".toList ++ ' ' :: l) = _
    rw [parseBody_split (by decide) (by decide) (by rw [hlast]; exact hcolon), trimC_of_trimmed hlt]
    unfold parseRest
    have e : String.ofList "global".toList = "global" := by decide
    simp only [e, if_true, symOKC_isEmpty hl, symOKC_all hl, Bool.not_false, Bool.and_self]
  · rw [hs]; intro h
    simp only [List.mem_cons, List.mem_append] at h
    rcases h with h | h | h
    · revert h; decide
    · revert h; decide
    · exact (hl.2.1 _ h).2 rfl

theorem parse_extern {s : String} {l : List Char} (hs : s.toList = "extern".toList ++ ' ' :: l) (hl : symOKC l) :
    parseLine s = some (some (.EXTERN (String.ofList l))) ∧ '\n' ∉ s.toList := by
  have hlt := symOKC_trimmed hl
  have hlast : ("extern".toList ++ ' ' :: l).getLast? = l.getLast? := getLast?_append_cons _ _ _ hl.1
  have htr : Trimmed ("extern".toList ++ ' ' :: l) := ⟨by show ('e' :: _).head? ≠ _; simp, by rw [hlast]; exact hlt.2⟩
  have hcolon : l.getLast? ≠ some ':' :=
    fun e => symOKC_not_mem hl (c := ':') (by decide) (List.mem_of_getLast? e)
  constructor
  · have ht : trimC s.toList = 'e' :: ("xtern".toList ++ ' ' :: l) := by rw [hs, trimC_of_trimmed htr]; rfl
    rw [parseLine_body s ht (by decide)]
    show parseBody ("extern".toList ++ ' ' :: l) = _
    rw [parseBody_split (by decide) (by decide) (by rw [hlast]; exact hcolon), trimC_of_trimmed hlt]
    unfold parseRest
    have e : String.ofList "extern".toList = "extern" := by decide
    have e1 : ("extern" = "global") = False := by decide
    simp only [e, e1, if_false, if_true, symOKC_isEmpty hl, symOKC_all hl, Bool.not_false, Bool.and_self]
  · rw [hs]; intro h
    simp only [List.mem_cons, List.mem_append] at h
    rcases h with h | h | h
    · revert h; decide
    · revert h; decide
    · exact (hl.2.1 _ h).2 rfl

/-! ## labels and comments -/

/-- the second line of a printed label -/
theorem parse_label {s : String} {l : List Char} (hs : s.toList = l ++ [':']) (hl : symOKC l) :
    parseLine s = some (some (.LAB (String.ofList l))) ∧ '\n' ∉ s.toList := by
  have hlt := symOKC_trimmed hl
  have htr : Trimmed (l ++ [':']) := trimmed_append hlt.1 hl.1 (by decide) (by simp)
  obtain ⟨c, cs, e⟩ : ∃ c cs, l = c :: cs := by
    cases l with
    | nil => exact absurd rfl hl.1
    | cons c cs => exact ⟨c, cs, rfl⟩
  have hc : c ≠ ';' := fun h => symOKC_not_mem hl (c := ';') (by decide) (by rw [e, h]; simp)
  constructor
  · have ht : trimC s.toList = c :: (cs ++ [':']) := by rw [hs, trimC_of_trimmed htr, e]; rfl
    rw [parseLine_body s ht hc]
    have e' : c :: (cs ++ [':']) = l ++ [':'] := by rw [e]; rfl
    rw [e']
    unfold parseBody
    have hsp : ' ' ∉ l ++ [':'] := by
      intro h
      rcases List.mem_append.1 h with h | h
      · exact symOKC_not_mem hl (by decide) h
      · revert h; decide
    have hd := not_directive_nosplit hsp
    simp only [hd.1, hd.2, if_false, List.reverse_append, List.reverse_cons, List.reverse_nil, List.nil_append,
      List.singleton_append, List.reverse_reverse, symOKC_isEmpty hl, symOKC_all hl, Bool.not_false,
      Bool.and_self, if_true]
  · rw [hs]; intro h
    rcases List.mem_append.1 h with h | h
    · exact (hl.2.1 _ h).2 rfl
    · revert h; decide

/-- a comment line is read back as a comment, with the text up to its trailing blanks -/
theorem parse_comment {s : String} {m : List Char} (hs : s.toList = ' ' :: ' ' :: ' ' :: ' ' :: ';' :: ' ' :: m) :
    parseLine s = some (some (.COMMENT (String.ofList (rtrimC m)))) := by
  have ht : trimC s.toList = ';' :: (trimL (' ' :: m).reverse).reverse := by
    rw [hs, trimC_space, trimC_space, trimC_space, trimC_space, trimC_semicolon]
  unfold parseLine
  simp only [ht, comment_trim]
  by_cases h : rtrimC m = []
  · rw [if_pos h, h]
  · rw [if_neg h]; rfl

end Scc.X86.Loader
