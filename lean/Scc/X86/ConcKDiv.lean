/-
  Scc.X86.ConcKDiv — THE DIVISION FAULTS of the x86-64 SPEC machine: when the AxCut operator of an `op` statement is
  undefined (`Pos.evalOp` is `.error .divByZero` for a divisor 0, `.error .overflow` for MIN / −1; `div` and `rem`),
  the code of code.rs `div` / `rem` (the RETURN1 / RETURN2 / TEMP backup dance, `cqo`, `idiv`) runs — without fault —
  up to its `idiv`, and the `idiv` faults with `div-by-zero` resp. `div-overflow` (Scc/X86/Machine.lean `idivOp`):
  `op_fault`, for every placement of target and operands (`DivPlacement`: registers and spill slots, divisor in
  RETURN2 included).  The block is split into the prefix `divPre` (ending in `cqo`), the `idiv` (`divInstr`) and a
  rest; the prefix is run at the temporary level and transferred to the machine without a frame condition.
  `Pos.stuck_op` (a stuck step of the positional machine on `divByZero` / `overflow` is an `op` with undefined
  operator; about the positional machine only) stands in Scc/A64/ConcKDiv.lean, namespace `Scc.AxCut.Pos`: hence the
  import.
-/
import Scc.X86.ProofsTransfer
import Scc.A64.ConcKDiv

set_option linter.unusedSimpArgs false

namespace Scc.X86
open Scc.AxCut

/-- the fault texts of the two undefined cases -/
def divFault : Pos.Why → String
  | .overflow => "div-overflow"
  | _ => "div-by-zero"

theorem divFault_cases (w : Pos.Why) : divFault w = "div-by-zero" ∨ divFault w = "div-overflow" := by
  cases w <;> simp [divFault]

/-- an undefined `div` / `rem` of AxCut is a fault of `idiv` (rdx the sign extension of rax, as `cqo` leaves it) -/
theorem idivOp_fault {c : MachCfg} {s : State} {src : Loc} {o : BinOp} {a b : Word} {w : Pos.Why}
    (h4 : rd s 4 = .ok a) (h5 : rd s 5 = .ok (signExt a)) (hs : readLoc c s src = .ok b)
    (hev : Pos.evalOp o a b = .error w) :
    (o = .div ∨ o = .rem) ∧ idivOp c s src = .error (divFault w) := by
  have hmin : Pos.minInt = minInt64 := by decide
  have hm1 : (-1 : BitVec 64) = BitVec.ofInt 64 (-1) := by decide
  have hse : ¬ (signExt a ≠ (if a.slt 0 then BitVec.ofInt 64 (-1) else 0)) := by simp [signExt]
  cases o <;> simp only [Pos.evalOp] at hev
  case sum => cases hev
  case sub => cases hev
  case prod => cases hev
  all_goals
    refine ⟨by simp, ?_⟩
    unfold idivOp
    rw [h4, h5, hs]
    simp only
    rw [if_neg hse]
    split at hev
    · rename_i h1
      cases hev
      rw [if_pos h1]; rfl
    · rename_i h1
      split at hev
      · rename_i h2
        cases hev
        rw [if_neg h1]
        have h2' : (a = minInt64 && b = BitVec.ofInt 64 (-1)) = true := by
          rw [← hmin, ← hm1]; simp [h2.1, h2.2]
        rw [if_pos h2']; rfl
      · cases hev

/-- the `idiv` of code.rs `fn div` (the helper) -/
def divInstr : Temporary → Code
  | .reg r => if r = RETURN2 then .IDIV TEMP else .IDIV r
  | .spill p => .IDIVM STACK (stackOffset p)

/-- the temporary it divides by -/
def divOpnd (s2 : Temporary) : Temporary := if s2 = .reg 5 then .reg TEMP else s2

theorem divBy_eq (s2 : Temporary) : divBy s2 = [.CQO, divInstr s2] := by
  cases s2 with
  | reg r => by_cases e : r = RETURN2 <;> simp [divBy, divInstr, e]
  | spill p => rfl

theorem execCode_divInstr (c : MachCfg) (la : String → Option Nat) (s2 : Temporary) (s : State) :
    execCode c la (divInstr s2) s = seqNext (idivOp c s (opLoc (divOpnd s2))) := by
  cases s2 with
  | reg r =>
    by_cases e : r = RETURN2
    · subst e; rfl
    · have e' : ¬ (Temporary.reg r = Temporary.reg 5) := fun h => e (by injection h)
      simp only [divInstr, if_neg e, divOpnd, if_neg e']; rfl
  | spill p => rfl

theorem codeSize_divInstr (s2 : Temporary) : codeSize (divInstr s2) ≠ 0 := by
  cases s2 with
  | reg r => by_cases e : r = RETURN2 <;> simp [divInstr, e, codeSize]
  | spill p => simp [divInstr, codeSize]

/-- the code before the `idiv`: TEMP := RETURN2; t := RETURN1; RETURN1 := s1; cqo -/
def divPre (t s1 : Temporary) : List Code :=
  [Code.MOV TEMP RETURN2] ++ moveFromRegister t RETURN1 ++ moveToRegister RETURN1 s1 ++ [.CQO]

def divPost (o : BinOp) (t : Temporary) : List Code :=
  (match o with | .div => [Code.MOV RETURN2 RETURN1] | _ => []) ++
  moveToRegister RETURN1 t ++ moveFromRegister t RETURN2 ++ [.MOV RETURN2 TEMP]

theorem binop_split {o : BinOp} (ho : o = .div ∨ o = .rem) (t s1 s2 : Temporary) :
    binop o t s1 s2 = divPre t s1 ++ divInstr s2 :: divPost o t := by
  rcases ho with rfl | rfl
  · simp [binop, div, divPre, divPost, divBy_eq, List.append_assoc]
  · simp [binop, rem, divPre, divPost, divBy_eq, List.append_assoc]

section Level
variable {la : String → Option Nat}

/-- the state before the `idiv` (temporary level): rax holds the dividend, rdx its sign extension, and the
divisor is where `divInstr` reads it -/
theorem t_divPre {τ : TState} {t s1 s2 : Temporary} (P : DivPlacement t s1 s2)
    {x y : Word} (hx : τ.val s1 = some x) (hy : τ.val s2 = some y) :
    ∃ τ', texecList la (divPre t s1) τ = some τ' ∧ τ'.val (.reg 4) = some x ∧
      τ'.val (.reg 5) = some (signExt x) ∧ τ'.val (divOpnd s2) = some y := by
  have o1 : OpndOK (.reg 1) := ⟨by decide, by decide⟩
  have o4 : OpndOK (.reg 4) := ⟨by decide, by decide⟩
  have o5 : OpndOK (.reg 5) := ⟨by decide, by decide⟩
  have hs1T : s1 ≠ .reg 1 := P.hs1.ne_temp
  have hs2T : s2 ≠ .reg 1 := P.hs2.ne_temp
  have htT : t ≠ .reg 1 := P.ht.ne_temp
  unfold divPre
  simp only [RETURN1_eq, RETURN2_eq, TEMP_eq]
  have e1 : texecList la [Code.MOV 1 5] τ = some (τ.set (.reg 1) (τ.val (.reg 5))) := by
    simp only [texecList_cons, texec_MOV, tmove, regOpnd_of o1, regOpnd_of o5, texecList]
  rw [texecList_append, texecList_append, texecList_append, e1]
  dsimp only
  rw [t_moveFromRegister o4 P.ht.opnd]
  dsimp only
  rw [t_moveToRegister o4 P.hs1.opnd]
  dsimp only
  have v1 : ((τ.set (.reg 1) (τ.val (.reg 5))).set t ((τ.set (.reg 1) (τ.val (.reg 5))).val
      (.reg 4))).val s1 = some x := by
    simp [P.t_ne_s1.symm, hs1T, hx]
  have v4 : (τ.set (.reg 1) (τ.val (.reg 5))).val (.reg 4) = τ.val (.reg 4) := by simp
  rw [v1, v4]
  have hx4 : (((τ.set (.reg 1) (τ.val (.reg 5))).set t (τ.val (.reg 4))).set (.reg 4)
      (some x)).val (.reg 4) = some x := by simp
  simp only [texecList_cons, texec_CQO, hx4, texecList]
  refine ⟨_, rfl, by simp, by simp, ?_⟩
  unfold divOpnd
  by_cases e : s2 = .reg 5
  · subst e
    rw [if_pos rfl]
    simp [TEMP_eq, htT.symm, hy]
  · rw [if_neg e]
    simp [e, P.s2_ne_ret1, P.t_ne_s2.symm, hs2T, hy]

end Level

/-- TRANSFER without a frame condition: a temporary-level execution from the view of `st` is an execution of the
machine, and the temporaries of the final state are those of the temporary level -/
theorem transfer_raw {c : MachCfg} {st : State} {sp : Word} (B : Boundary c st sp) (la : String → Option Nat)
    {codes : List Code} {τ' : TState} (hx : texecList la codes (tview sp st) = some τ') :
    ∃ st', execStraight c la codes st = .ok st' ∧ Boundary c st' sp ∧
      ∀ u, OpndOK u → tempVal sp st' u = τ'.val u := by
  obtain ⟨a', ea, ra, oa⟩ := tsim_execList B.sp la (trel_tview B) hx
  obtain ⟨st', es, rs, ss⟩ := sim_execList la (st.rel_view B.size) ea
  have hreg : ∀ r, r < 16 → st'.regs[r]? = some (a'.reg r) := rs.regs
  refine ⟨st', es, ⟨rs.size, ?_, B.sp⟩, ?_⟩
  · rw [hreg 0 (by decide), ra.rsp]
  · intro u hu
    cases u with
    | reg r => simp [tempVal, hreg r hu.2, ra.regs r hu.1 hu.2]
    | spill p => simp only [tempVal]; rw [rs.mem, ra.slots p hu]

theorem opndOK_divOpnd {s2 : Temporary} (h : OpndOK s2) : OpndOK (divOpnd s2) := by
  unfold divOpnd
  split
  · exact opndOK_temp
  · exact h

/-- code.rs `div` / `rem` ON AN UNDEFINED OPERATOR RUN INTO THE FAULT OF THEIR `idiv`, for every placement of the
target and the operands in registers or spill slots: the block splits into a prefix that executes, the faulting
`idiv`, and a rest -/
theorem op_fault {c : MachCfg} {la : String → Option Nat} {st : State} {sp : Word} (B : Boundary c st sp)
    (o : BinOp) {t s1 s2 : Temporary} (P : DivPlacement t s1 s2) {x y : Word}
    (hx : tempVal sp st s1 = some x) (hy : tempVal sp st s2 = some y) {w : Pos.Why}
    (hev : Pos.evalOp o x y = .error w) :
    ∃ (pre : List Code) (code : Code) (post : List Code) (st0 : State),
      binop o t s1 s2 = pre ++ code :: post ∧ execStraight c la pre st = .ok st0 ∧
      execCode c la code st0 = .error (divFault w) ∧ (∃ s, code = divInstr s) := by
  obtain ⟨τ', hτ, h4, h5, hd⟩ := t_divPre (la := la) (τ := tview sp st) P hx hy
  obtain ⟨st0, hex, B0, hv⟩ := transfer_raw B la hτ
  have o4 : OpndOK (.reg 4) := ⟨by decide, by decide⟩
  have o5 : OpndOK (.reg 5) := ⟨by decide, by decide⟩
  have r4 : rd st0 4 = .ok x := tempVal_readLoc B0 o4 (by rw [hv _ o4]; exact h4)
  have r5 : rd st0 5 = .ok (signExt x) := tempVal_readLoc B0 o5 (by rw [hv _ o5]; exact h5)
  have rs : readLoc c st0 (opLoc (divOpnd s2)) = .ok y :=
    tempVal_readLoc B0 (opndOK_divOpnd P.hs2.opnd) (by rw [hv _ (opndOK_divOpnd P.hs2.opnd)]; exact hd)
  obtain ⟨ho, hf⟩ := idivOp_fault r4 r5 rs hev
  refine ⟨divPre t s1, divInstr s2, divPost o t, st0, binop_split ho t s1 s2, hex, ?_, ⟨s2, rfl⟩⟩
  rw [execCode_divInstr, hf]
  rfl

end Scc.X86
