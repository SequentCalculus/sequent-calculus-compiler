/-
  Scc.X86.WfItems — C14 for x86-64: the validator `wfItems` (Scc/X86/Machine.lean) characterised on the
  proof side.  `WfSpec codes` lists, as propositions about the item list, what `wfItems` tests with a hash
  map and `find?`:
    labels pairwise distinct; `extern` symbols are runtime symbols and not defined; every referenced label is
    defined or external; every item passes `codeOperandError`; `call` only of external symbols; `jmp near`
    only directly after a label or another `jmp near` (comments aside).
  `wfItems_of_spec`: `WfSpec (items.map (·.1)) → wfItems items = .ok ()` (line numbers are irrelevant), and
  `WfSpec` does not depend on the text of comments (`wfSpec_of_stripC`).
-/
import Scc.X86.Machine
import Scc.X86.RefStep
import Scc.ListLemmas

namespace Scc.X86.Wf

open Scc.X86.Ref

def extsOf (codes : List Code) : List String :=
  codes.filterMap fun c => match c with | .EXTERN f => some f | _ => none

/-- `tableCheck` without line numbers -/
def tableOK : List Code → Bool → Bool
  | [], _ => true
  | c :: rest, inTable =>
    match c with
    | .JMPLN _ => if inTable then tableOK rest true else false
    | .LAB _ => tableOK rest true
    | .COMMENT _ => tableOK rest inTable
    | _ => tableOK rest false

structure WfSpec (codes : List Code) : Prop where
  nodup : (labs codes).Nodup
  exts : ∀ f ∈ extsOf codes, f ∈ externals ∧ f ∉ labs codes
  refs : ∀ c ∈ codes, ∀ l, codeLabelRef c = some l → l ∈ labs codes ∨ l ∈ extsOf codes
  ops : ∀ c ∈ codes, codeOperandError c = none
  calls : ∀ c ∈ codes, ∀ f, c = .CALL f → f ∈ extsOf codes
  table : tableOK codes false = true

/-! ## the hash map of label definitions -/

abbrev defsOf (items : List (Code × Nat)) : List (String × Nat) :=
  items.filterMap (fun (c, n) => (codeLabelDef c).map (fun l => (l, n)))

abbrev countMap (defs : List (String × Nat)) (m0 : Std.HashMap String Nat) : Std.HashMap String Nat :=
  defs.foldl (fun m (l, _) => m.insert l (m.getD l 0 + 1)) m0

theorem countMap_getD (l : String) : ∀ (defs : List (String × Nat)) (m0 : Std.HashMap String Nat),
    (countMap defs m0).getD l 0 = m0.getD l 0 + (defs.map (·.1)).count l
  | [], m0 => by simp [countMap]
  | (l', n) :: rest, m0 => by
    show (countMap rest (m0.insert l' (m0.getD l' 0 + 1))).getD l 0 = _
    rw [countMap_getD l rest, Std.HashMap.getD_insert]
    simp only [List.map_cons, List.count_cons]
    by_cases e : l' = l
    · subst e; simp; omega
    · have : (l' == l) = false := by simpa using e
      simp [this]

theorem countMap_contains (l : String) : ∀ (defs : List (String × Nat)) (m0 : Std.HashMap String Nat),
    (countMap defs m0).contains l = (m0.contains l || (defs.map (·.1)).contains l)
  | [], m0 => by simp [countMap]
  | (l', n) :: rest, m0 => by
    show (countMap rest (m0.insert l' (m0.getD l' 0 + 1))).contains l = _
    rw [countMap_contains l rest, Std.HashMap.contains_insert]
    simp only [List.map_cons, List.contains_cons]
    by_cases e : l' = l
    · subst e; simp
    · have h1 : (l' == l) = false := by simpa using e
      have h2 : (l == l') = false := by simpa using fun h => e h.symm
      simp [h1, h2]

theorem defsOf_map_fst (items : List (Code × Nat)) : (defsOf items).map (·.1) = labs (items.map (·.1)) := by
  induction items with
  | nil => rfl
  | cons x xs ih =>
    obtain ⟨c, n⟩ := x
    simp only [defsOf, List.filterMap_cons, List.map_cons, labs] at ih ⊢
    cases h : codeLabelDef c with
    | none => simpa [h] using ih
    | some l => simpa [h] using ih

theorem tableCheck_of_tableOK : ∀ (items : List (Code × Nat)) (b : Bool),
    tableOK (items.map (·.1)) b = true → tableCheck items b = .ok ()
  | [], _, _ => rfl
  | (c, n) :: rest, b, h => by
    cases c <;> simp only [List.map_cons, tableOK, tableCheck] at h ⊢ <;>
      first
        | exact tableCheck_of_tableOK rest _ h
        | (split at h
           · rw [if_pos (by assumption)]; exact tableCheck_of_tableOK rest _ h
           · cases h)

theorem wfItems_of_spec (items : List (Code × Nat)) (h : WfSpec (items.map (·.1))) : wfItems items = .ok () := by
  have hcount : ∀ l, (countMap (defsOf items) ∅).getD l 0 = (labs (items.map (·.1))).count l := by
    intro l
    rw [countMap_getD, defsOf_map_fst]
    simp
  have hcont : ∀ l, (countMap (defsOf items) ∅).contains l = (labs (items.map (·.1))).contains l := by
    intro l
    rw [countMap_contains, defsOf_map_fst]
    simp
  -- 1. duplicates
  have h1 : (defsOf items).find? (fun (x : String × Nat) => decide ((countMap (defsOf items) ∅).getD x.1 0 ≠ 1)) = none := by
    apply find?_none_of
    intro x hx
    rw [hcount]
    have hm : x.1 ∈ labs (items.map (·.1)) := by
      rw [← defsOf_map_fst]; exact List.mem_map.2 ⟨x, hx, rfl⟩
    have : (labs (items.map (·.1))).count x.1 = 1 := by rw [h.nodup.count, if_pos hm]
    rw [this]; rfl
  -- 2. externs
  have h2 : (extsOf (items.map (·.1))).find?
      (fun f => !externals.contains f || (countMap (defsOf items) ∅).contains f) = none := by
    apply find?_none_of
    intro f hf
    obtain ⟨e1, e2⟩ := h.exts f hf
    rw [hcont]
    have : (labs (items.map (·.1))).contains f = false := by simpa using e2
    have h3 : externals.contains f = true := by simpa using e1
    rw [this, h3]; rfl
  -- 3. references
  have h3 : items.find? (fun (x : Code × Nat) => match codeLabelRef x.1 with
      | some l => !((countMap (defsOf items) ∅).contains l || (extsOf (items.map (·.1))).contains l)
      | none => false) = none := by
    apply find?_none_of
    intro x hx
    cases hr : codeLabelRef x.1 with
    | none => rfl
    | some l =>
      dsimp only
      rw [hcont]
      rcases h.refs x.1 (List.mem_map.2 ⟨x, hx, rfl⟩) l hr with hl | hl
      · have : (labs (items.map (·.1))).contains l = true := by simpa using hl
        rw [this]; rfl
      · have : (extsOf (items.map (·.1))).contains l = true := by simpa using hl
        rw [this, Bool.or_true]; rfl
  -- 4. operands
  have h4 : items.findSome? (fun (x : Code × Nat) => (codeOperandError x.1).map (fun e => s!"line {x.2}: {e}")) = none := by
    rw [List.findSome?_eq_none_iff]
    intro x hx
    rw [h.ops x.1 (List.mem_map.2 ⟨x, hx, rfl⟩)]
    rfl
  -- 5. calls
  have h5 : items.find? (fun (x : Code × Nat) => match x.1 with
      | .CALL f => !(extsOf (items.map (·.1))).contains f | _ => false) = none := by
    apply find?_none_of
    intro x hx
    obtain ⟨c, n⟩ := x
    cases c <;> try rfl
    rename_i f
    have := h.calls _ (List.mem_map.2 ⟨_, hx, rfl⟩) f rfl
    have : (extsOf (items.map (·.1))).contains f = true := by simpa using this
    show (!(extsOf (items.map (·.1))).contains f) = false
    rw [this]; rfl
  have h6 := tableCheck_of_tableOK items false h.table
  unfold wfItems
  dsimp only
  generalize hE : (List.filterMap _ items : List String) = E
  have hE' : E = extsOf (items.map (·.1)) := by
    rw [← hE]; unfold extsOf; rw [List.filterMap_map]; rfl
  subst hE'
  split
  · rename_i l n heq; exact absurd (h1.symm.trans heq) (by simp)
  · split
    · rename_i f heq; exact absurd (h2.symm.trans heq) (by simp)
    · split
      · rename_i c n heq; exact absurd (h3.symm.trans heq) (by simp)
      · split
        · rename_i e heq; exact absurd (h4.symm.trans heq) (by simp)
        · split
          · rename_i c n heq; exact absurd (h5.symm.trans heq) (by simp)
          · exact h6

/-- conversely, the validator rejects every item list that defines a label twice -/
theorem wfItems_nodup (items : List (Code × Nat)) (h : wfItems items = .ok ()) :
    (labs (items.map (·.1))).Nodup := by
  have hcount : ∀ l, (countMap (defsOf items) ∅).getD l 0 = (labs (items.map (·.1))).count l := by
    intro l
    rw [countMap_getD, defsOf_map_fst]
    simp
  unfold wfItems at h
  dsimp only at h
  split at h
  · cases h
  · rename_i hnone
    rw [List.nodup_iff_count]
    intro l
    by_cases hl : l ∈ labs (items.map (·.1))
    · rw [← defsOf_map_fst] at hl
      obtain ⟨x, hx, rfl⟩ := List.mem_map.1 hl
      have := List.find?_eq_none.1 hnone x hx
      have h1 : (countMap (defsOf items) ∅).getD x.1 0 = 1 := by simpa using this
      rw [hcount] at h1
      omega
    · have : (labs (items.map (·.1))).count l = 0 := List.count_eq_zero.2 hl
      omega

theorem labs_map_stripC (codes : List Code) : labs (codes.map stripC) = labs codes := by
  unfold labs
  rw [List.filterMap_map]
  congr 1
  funext c
  cases c <;> rfl

theorem extsOf_map_stripC (codes : List Code) : extsOf (codes.map stripC) = extsOf codes := by
  unfold extsOf
  rw [List.filterMap_map]
  congr 1
  funext c
  cases c <;> rfl

theorem tableOK_map_stripC : ∀ (codes : List Code) (b : Bool), tableOK (codes.map stripC) b = tableOK codes b
  | [], _ => rfl
  | c :: rest, b => by
    cases c <;> simp only [List.map_cons, stripC, tableOK, tableOK_map_stripC rest]

theorem codeLabelRef_stripC (c : Code) : codeLabelRef (stripC c) = codeLabelRef c := by cases c <;> rfl
theorem codeOperandError_stripC (c : Code) : codeOperandError (stripC c) = codeOperandError c := by
  cases c <;> rfl
theorem call_stripC {c : Code} {f : String} : stripC c = .CALL f ↔ c = .CALL f := by
  cases c <;> simp [stripC]

theorem wfSpec_stripC_iff (codes : List Code) : WfSpec (codes.map stripC) ↔ WfSpec codes := by
  constructor
  · intro h
    refine ⟨by rw [← labs_map_stripC]; exact h.nodup, ?_, ?_, ?_, ?_, by rw [← tableOK_map_stripC]; exact h.table⟩
    · intro f hf
      have := h.exts f (by rw [extsOf_map_stripC]; exact hf)
      rwa [labs_map_stripC] at this
    · intro c hc l hl
      have := h.refs (stripC c) (List.mem_map.2 ⟨c, hc, rfl⟩) l (by rw [codeLabelRef_stripC]; exact hl)
      rwa [labs_map_stripC, extsOf_map_stripC] at this
    · intro c hc
      have := h.ops (stripC c) (List.mem_map.2 ⟨c, hc, rfl⟩)
      rwa [codeOperandError_stripC] at this
    · intro c hc f hf
      have := h.calls (stripC c) (List.mem_map.2 ⟨c, hc, rfl⟩) f (call_stripC.2 hf)
      rwa [extsOf_map_stripC] at this
  · intro h
    refine ⟨by rw [labs_map_stripC]; exact h.nodup, ?_, ?_, ?_, ?_, by rw [tableOK_map_stripC]; exact h.table⟩
    · intro f hf
      rw [extsOf_map_stripC] at hf
      rw [labs_map_stripC]
      exact h.exts f hf
    · intro c' hc l hl
      obtain ⟨c, hc0, rfl⟩ := List.mem_map.1 hc
      rw [labs_map_stripC, extsOf_map_stripC]
      exact h.refs c hc0 l (by rw [← codeLabelRef_stripC]; exact hl)
    · intro c' hc
      obtain ⟨c, hc0, rfl⟩ := List.mem_map.1 hc
      rw [codeOperandError_stripC]
      exact h.ops c hc0
    · intro c' hc f hf
      obtain ⟨c, hc0, rfl⟩ := List.mem_map.1 hc
      rw [extsOf_map_stripC]
      exact h.calls c hc0 f (call_stripC.1 hf)

theorem wfSpec_of_stripC {codes codes' : List Code} (e : codes'.map stripC = codes.map stripC)
    (h : WfSpec codes) : WfSpec codes' :=
  (wfSpec_stripC_iff codes').1 (e ▸ (wfSpec_stripC_iff codes).2 h)

end Scc.X86.Wf
