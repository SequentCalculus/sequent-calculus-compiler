/-
  Scc.X86.ProofsWf — well-formedness lemmas (property C14) and the witness of an emitted
  instruction that does not exist on x86-64:
  * `table_stride`: in the machine's layout the k-th `jmp near` of a jump table lies
    `jump_length(k) = 5 k` bytes after the table label;
  * operand ranges of what the backend computes from its constants (field offsets, jump lengths; stack
    offsets are `fitsI32_stackOffset` of ProofsFrame.lean) fit the 32-bit fields, and the rules from which
    the per-method `codeOperandError = none` lemmas of ProofsWfAll.lean are put together (`OperandsOK`,
    `codeOK_of`, `ok_rr`, `ok_rm`);
  * `loadImmediate_spill_wide` (shape of the repaired D5 case), `imm_in_range_of_operandOK`
    (an instruction that passes the operand check never raises `imm-out-of-range`) and the remaining
    witness `mul_alias_illegal` (`imul [mem], reg`).
-/
import Scc.X86.ProofsTransfer

namespace Scc.X86

theorem jumpLength_eq (k : Nat) : jumpLength k = 5 * (k : Int) := by
  simp [jumpLength, consts]

theorem layoutFrom_jmplns (a0 : Nat) (ls : List String) (rest : List Code) (k : Nat) (hk : k < ls.length) :
    (layoutFrom a0 (ls.map Code.JMPLN ++ rest))[k]? = some (a0 + 5 * k) := by
  induction ls generalizing a0 k with
  | nil => simp at hk
  | cons l ls ih =>
    cases k with
    | zero => simp [layoutFrom]
    | succ k =>
      have hk' : k < ls.length := by simpa using hk
      simp only [List.map_cons, List.cons_append, layoutFrom, codeSize, List.getElem?_cons_succ]
      rw [ih (a0 + 5) k hk']
      congr 1; omega

/-- table_stride: the table label has the address of entry 0 and entry k is `5 k` bytes further, so
    `lea r, [rel T]; add r, jump_length(k); jmp r` lands on the k-th `jmp near`. -/
theorem table_stride (a0 : Nat) (T : String) (ls : List String) (rest : List Code) (k : Nat)
    (hk : k < ls.length) :
    (layoutFrom a0 (Code.LAB T :: (ls.map Code.JMPLN ++ rest)))[0]? = some a0 ∧
    (layoutFrom a0 (Code.LAB T :: (ls.map Code.JMPLN ++ rest)))[k + 1]? = some (a0 + 5 * k) ∧
    (Code.LAB T :: (ls.map Code.JMPLN ++ rest))[k + 1]? = some (Code.JMPLN ls[k]) := by
  refine ⟨by simp [layoutFrom], ?_, ?_⟩
  · simp only [layoutFrom, codeSize, List.getElem?_cons_succ, Nat.add_zero]
    exact layoutFrom_jmplns a0 ls rest k hk
  · simp only [List.getElem?_cons_succ]
    rw [List.getElem?_append_left (by simpa using hk)]
    simp [hk]

/-- the table emitted by utils.rs code_table consists of `jmp near` only (x86 instance) -/
theorem codeTable_jmplns (clauses : Scc.AxCut.Clauses) (base : String) :
    ∃ ls : List String, Scc.Backend.codeTable x86Backend clauses base = ls.map Code.JMPLN := by
  fun_induction Scc.Backend.codeTable x86Backend clauses base with
  | case1 => exact ⟨[], rfl⟩
  | case2 xtor ctx body rest ih =>
    obtain ⟨ls, h⟩ := ih
    refine ⟨Scc.Backend.clauseLabel base xtor :: ls, ?_⟩
    rw [h]
    rfl

theorem fieldOffset_eq (n : Scc.Backend.TempNum) (i : Nat) :
    fieldOffset n i = 8 * (2 + 2 * (i : Int) + (n.toNat : Int)) := by
  simp [fieldOffset, address, FIELD_SLOT_SIZE, consts]

theorem fitsI32_fieldOffset (n : Scc.Backend.TempNum) {i : Nat} (hi : i ≤ 1000) :
    fitsI32 (fieldOffset n i) = true := by
  rw [fieldOffset_eq]
  unfold fitsI32
  simp only [Bool.and_eq_true, decide_eq_true_eq]
  cases n <;> simp only [Scc.Backend.TempNum.toNat] <;> omega

theorem fitsI32_jumpLength {k : Nat} (hk : k ≤ 400000000) : fitsI32 (jumpLength k) = true := by
  rw [jumpLength_eq]; simp [fitsI32]; omega

/-- all codes of a list have encodable operands (registers < 16, 32-bit fields in range, forms exist) -/
def OperandsOK (cs : List Code) : Prop := ∀ code ∈ cs, codeOperandError code = none

theorem operandsOK_append {l1 l2 : List Code} (h1 : OperandsOK l1) (h2 : OperandsOK l2) :
    OperandsOK (l1 ++ l2) := by
  intro code hc
  rcases List.mem_append.1 hc with h | h
  · exact h1 code h
  · exact h2 code h

theorem codeOK_of {code : Code} (hr : ∀ r ∈ codeRegs code, r < 16) (hi : ∀ i ∈ codeImm32s code, fitsI32 i = true)
    (hm : match code with | .MOVI _ i => fitsI64 i = true | .IMULMR _ _ _ => False | _ => True) :
    codeOperandError code = none := by
  unfold codeOperandError
  have h1 : (codeRegs code).any (fun r => decide (16 ≤ r)) = false := by
    rw [List.any_eq_false]; intro r hr'; have := hr r hr'; simp; omega
  have h2 : (codeImm32s code).any (fun i => !fitsI32 i) = false := by
    rw [List.any_eq_false]; intro i hi'; simp [hi i hi']
  rw [h1, h2]
  cases code <;> simp_all

theorem validReg {t : Temporary} (h : OpndOK t) : ∀ r, t = .reg r → r < 16 := by
  intro r e; subst e; exact h.2

theorem operandsOK_single {code : Code} (h : codeOperandError code = none) : OperandsOK [code] := by
  intro c hc; simp only [List.mem_singleton] at hc; subst hc; exact h

theorem operandsOK_cons {code : Code} {rest : List Code} (h : codeOperandError code = none)
    (hr : OperandsOK rest) : OperandsOK (code :: rest) :=
  operandsOK_append (operandsOK_single h) hr

/-- a register-register / register-slot / slot-register instruction with valid operands -/
theorem ok_rr {code : Code} {r r1 : Nat} (hregs : codeRegs code = [r, r1]) (himm : codeImm32s code = [])
    (hm : match code with | .MOVI _ _ => False | .IMULMR _ _ _ => False | _ => True)
    (hr : r < 16) (hr1 : r1 < 16) : codeOperandError code = none :=
  codeOK_of (by rw [hregs]; simp; exact ⟨hr, hr1⟩) (by rw [himm]; simp) (by
    cases code <;> simp_all)

theorem ok_rm {code : Code} {r : Nat} {p : Nat} (hregs : codeRegs code = [r, 0])
    (himm : codeImm32s code = [stackOffset p])
    (hm : match code with | .MOVI _ _ => False | .IMULMR _ _ _ => False | _ => True)
    (hr : r < 16) (hp : p < 256) : codeOperandError code = none :=
  codeOK_of (by rw [hregs]; simp; exact hr) (by rw [himm]; simp; exact fitsI32_stackOffset hp) (by
    cases code <;> simp_all)

/-- D5 (see `t_loadImmediate`, ProofsArith.lean), shape: a literal outside i32 into a SPILL slot is emitted as
    `mov rcx, imm64; mov [rsp + off], rcx`, and both instructions pass the operand check. -/
theorem loadImmediate_spill_wide (p : Nat) {v : Int} (h32 : fitsI32 v = false) :
    loadImmediate (.spill p) v = [.MOVI TEMP v, .MOVS TEMP STACK (stackOffset p)] := by
  simp [loadImmediate, h32]

/-- what `codeOperandError = none` means for the machine: every 32-bit field of the instruction
    passes `imm32` (the ONLY source of the fault `imm-out-of-range` besides `mov r64, imm64`, whose
    guard `fitsI64` also holds), so an instruction that passes the operand check never raises it. -/
theorem imm_in_range_of_operandOK {code : Code} (h : codeOperandError code = none) :
    (∀ i ∈ codeImm32s code, imm32 i = .ok (BitVec.ofInt 64 i)) ∧
    (∀ r i, code = .MOVI r i → fitsI64 i = true) := by
  unfold codeOperandError at h
  split at h
  · cases h
  · split at h
    · cases h
    · rename_i h2
      refine ⟨fun i hi => ?_, ?_⟩
      · have : fitsI32 i = true := by
          have := h2
          simp only [List.any_eq_true, not_exists, not_and, Bool.not_eq_true', Bool.not_eq_false] at this
          exact this i hi
        simp [imm32, this]
      · rintro r i rfl
        simp only at h
        split at h
        · assumption
        · cases h

/-- `mul` with a spilled target that aliases its first source emits `imul [mem], reg`, which is not
    an x86-64 instruction: the machine faults. -/
theorem mul_alias_illegal (c : MachCfg) (la : String → Option Nat) (st : State) (p : Nat) (r : Nat) :
    ∃ e, execStraight c la (mul (.spill p) (.spill p) (.reg r)) st = .error e := by
  exact ⟨_, by simp [mul, opCommutative, mulToSpill, execStraight, execCode]; rfl⟩

end Scc.X86
