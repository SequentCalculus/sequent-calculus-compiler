/-
  Scc.X86.RefHeapRun — THE STEP OF THE RUN THEOREM for programs with data types on x86-64 (no closures): the
  three-way step (`step3P`: every statement form of `DataStmt` programs, from Theorem A's `TheoremA_full`
  with the machine carried along) and the definitions in the routine (`xdefsAt_of_compile`).  The run and the
  composition with the initial state: Scc/X86/ConcRun.lean.
  The step lemmas and their assembly for the nine statement forms other than `create` / `invoke` are the generic
  ones of Scc/Backend/ThreeWay*.lean (`ThreeWay.step3C`, Scc/Backend/ThreeWayRun.lean) at the x86-64 machine
  (`K.machineN`).
  `step3P` is `ThreeWay.step3C` between `X3.toK` and `K.X3.toData`, with the invariant `Same` carried over the step
  (`Same.step`, Scc/Backend/StepProv.lean); `K.step3M` (RefClosHRun.lean) is `ThreeWay.step3K`: `step3C` with the closure
  invariant `XC` carried over it (`XC.step`), plus `create` and `invoke`.
  `step3P` carries the bookkeeping of C10 that `FrLe` alone does not:
  * the allocation frontier moves ONLY when both free lists are exhausted afterwards (`FrPk`, from
    `storeObj_spec`: fresh memory is taken only when both lists are empty);
  * the room a step needs and the distance the frontier may move are those of the CURRENT statement
    (`stmtArity`: the number of fields of a `let`, 0 for every other statement); `step3` is the same with
    uniform bounds (room for 134 blocks, the frontier moves by at most 133);
  * a `call` makes the machine take at least one step.
-/
import Scc.X86.RefHeapOfClos
import Scc.X86.ThreeWayNav
import Scc.Backend.ThreeWayRun
import Scc.AxCut.PosHered
import Scc.AxCut.PosStep
import Scc.X86.RefCompose
import Scc.Props.C06Generic

namespace Scc.X86.Ref

open Scc.AxCut Scc.AxCut.Pos Scc.Backend Scc.Backend.Abs
open Scc.Backend.Sim2 Scc.Backend.Keys
open Scc.Props.C14Generic (LabelSafe)
open Scc.Props.C06Generic (outAfter WithinCapacity EnoughHeap CodeFits)
open Scc.Heap (HState InvS InvW)
open Scc.Heap.Refine (HRef FrLe Room FrPk)

mutual
  /-- statements of programs with data types but without closures: no `create`, no `invoke` -/
  def DataStmt : Stmt → Prop
    | .lit _ _ next _ => DataStmt next
    | .op _ _ _ _ next _ => DataStmt next
    | .print _ _ next _ => DataStmt next
    | .ifc _ _ _ t e => DataStmt t ∧ DataStmt e
    | .exit _ => True
    | .call _ _ => True
    | .subst _ next => DataStmt next
    | .letS _ _ _ _ next _ => DataStmt next
    | .switch _ _ clauses _ => DataClauses clauses
    | .create _ _ _ _ _ _ _ => False
    | .invoke _ _ _ _ => False
  def DataClauses : Clauses → Prop
    | .nil => True
    | .cons _ _ body rest => DataStmt body ∧ DataClauses rest
end

/-- what the run needs of the current statement: no closures, literals within i64 -/
def StmtOK (s : Stmt) : Prop := DataStmt s ∧ StmtB (fun n => fitsI64 n = true) maxSubstX86 s

/-- the same for the program: tables of at most `maxTagsX86` xtors, every definition `StmtOK` -/
def ProgOK (p : AxCut.Prog) : Prop :=
  (∀ d ∈ p.types, d.xtors.length ≤ maxTagsX86) ∧ ∀ d ∈ p.defs, StmtOK d.body

theorem dataClauses_nth : ∀ {cs : Clauses} {i : Nat} {c : Clause}, DataClauses cs → nthClause cs i = some c →
    DataStmt c.body
  | .nil, _, _, _, h => by simp [nthClause] at h
  | .cons x ctx body rest, 0, c, hd, h => by
    simp only [nthClause, Option.some.injEq] at h
    subst h
    exact hd.1
  | .cons x ctx body rest, i + 1, c, hd, h => by
    simp only [nthClause] at h
    exact dataClauses_nth hd.2 h

theorem clausesB_nth {L : Int → Prop} {M : Nat} : ∀ {cs : Clauses} {i : Nat} {c : Clause},
    ClausesB L M cs → nthClause cs i = some c → StmtB L M c.body
  | .nil, _, _, _, h => by simp [nthClause] at h
  | .cons x ctx body rest, 0, c, hd, h => by
    simp only [nthClause, Option.some.injEq] at h
    subst h
    exact hd.1
  | .cons x ctx body rest, i + 1, c, hd, h => by
    simp only [nthClause] at h
    exact clausesB_nth hd.2 h

/-- THE THREE-WAY RELATION at a statement boundary -/
def Rel3 (F : Frame) (cs : List Code) (P : Program) (hooks : Bool) (prog : AxCut.Prog) (st : Pos.State)
    (cfg : Config) (hs : HState) (X : State) : Prop :=
  ∃ (Γ' : Ctx) (ι : Nat → Nat), Γ'.keys = st.ctx.keys ∧ RelX P hooks prog ⟨Γ', st.env, st.stmt⟩ cfg ∧
    X3 F Γ' cfg hs ι X ∧
    ∃ k k' items, (codeStatementR x86Backend hooks natRen prog.types st.stmt Γ').run k = .ok (items, k') ∧
      XAt cs X.pc items

/-- the three-way simulation claim for one step of the positional machine -/
def StepSim3 (F : Frame) (mon : MonCfg) (px : X86.Prog) (cs : List Code) (P : Program) (hooks : Bool)
    (prog : AxCut.Prog) (st : Pos.State) (cfg : Config) (hs : HState) (X : State) : Prop :=
  match Pos.step prog st with
  | .next st' o =>
    WithinCapacity st'.ctx → 2 * st'.ctx.length ≤ 266 →
    ∃ cfg' hs' X' n, stepN mon px n X = .inl X' ∧ cfg'.out = outAfter o cfg.out ∧ cfg'.next ≤ cfg.next + 1 ∧
      FrLe hs hs' (64 * 133) ∧ Rel3 F cs P hooks prog st' cfg' hs' X' ∧ StmtOK st'.stmt
  | .done v => ∃ n XL, stepN mon px n X = .inl XL ∧ step mon px XL = .inr (.done v) ∧ XL.out = cfg.out
  | .stuck _ => True

/-- the number of fields a statement stores into a fresh object: the room it needs (in blocks, plus one) and
the distance the allocation frontier may move -/
def stmtArity : Stmt → Nat
  | .letS _ _ _ args _ _ => args.length
  | _ => 0

/-- the three-way simulation claim for one step of the positional machine, with the bookkeeping of C10: the
frontier moves by at most the fields of the current statement and only when both free lists are exhausted
afterwards; a `call` makes the machine take at least one step -/
def StepSim3P (F : Frame) (mon : MonCfg) (px : X86.Prog) (cs : List Code) (P : Program) (hooks : Bool)
    (prog : AxCut.Prog) (st : Pos.State) (cfg : Config) (hs : HState) (X : State) : Prop :=
  match Pos.step prog st with
  | .next st' o =>
    WithinCapacity st'.ctx → 2 * st'.ctx.length ≤ 266 →
    ∃ cfg' hs' X' n, stepN mon px n X = .inl X' ∧ (∀ l a, st.stmt = .call l a → 1 ≤ n) ∧
      cfg'.out = outAfter o cfg.out ∧ cfg'.next ≤ cfg.next + 1 ∧
      FrLe hs hs' (64 * stmtArity st.stmt) ∧ FrPk hs hs' ∧ Rel3 F cs P hooks prog st' cfg' hs' X' ∧ StmtOK st'.stmt
  | .done v => ∃ n XL, stepN mon px n X = .inl XL ∧ step mon px XL = .inr (.done v) ∧ XL.out = cfg.out
  | .stuck _ => True

open Scc.Backend.ThreeWay (HeadData)

theorem headData_of_data {s : Stmt} (h : DataStmt s) : HeadData s := by
  cases s <;> first | trivial | exact h

theorem allocArity_of_headData {s : Stmt} (h : HeadData s) : K.allocArity s = stmtArity s := by
  cases s <;> first | rfl | exact absurd h (by simp [HeadData])

theorem stmtArity_le_of_typed {T : List TypeDecl} {S : Sigs} {Γ : Ctx} {s : Stmt} (h : LinTyped T S Γ s) :
    stmtArity s ≤ Γ.length := by
  cases h with
  | letS _ hsplit hkeys =>
    rw [hsplit, List.length_append, keys_length hkeys]
    exact Nat.le_add_left _ _
  | _ => exact Nat.zero_le _

theorem StepSim3P.weaken {F : Frame} {mon : MonCfg} {px : X86.Prog} {cs : List Code} {P : Program} {hooks : Bool}
    {prog : AxCut.Prog} {st : Pos.State} {cfg : Config} {hs : HState} {X : State}
    (h : StepSim3P F mon px cs P hooks prog st cfg hs X) (ha : stmtArity st.stmt ≤ 133) :
    StepSim3 F mon px cs P hooks prog st cfg hs X := by
  unfold StepSim3P at h
  unfold StepSim3
  cases hst : Pos.step prog st with
  | next st' o =>
    simp only [hst] at h ⊢
    intro hc hc2
    obtain ⟨cfg', hs', X', n, hn, _, hout, hnx, hfr, _, R⟩ := h hc hc2
    exact ⟨cfg', hs', X', n, hn, hout, hnx, hfr.mono (by omega), R⟩
  | done v =>
    simp only [hst] at h ⊢
    exact h
  | stuck e => trivial

/-- the statement comments of `op` and `call` are no `#ctx` hooks when the name at their head does not start with `#` -/
theorem headOK {F : Frame} (HF : FrameOK F) (h8 : F.c.heapBase % 8 = 0) {mon : MonCfg} (hmon : mon.mach = F.c)
    {px : X86.Prog} {cs : List Code} (L : Loaded px cs) (hndL : (labs cs).Nodup) (s : Stmt) :
    ThreeWay.HeadOK (K.machine F HF h8 mon hmon px cs L hndL (K.HeadHF s)) s := by
  cases s with
  | op x a o b next fv =>
    exact fun hxh => by
      simp only [String.append_assoc]
      exact not_isCtx_name_first hxh (head_lit_append_ne_hash _ _ _ (by decide))
  | call l args => exact fun hlh => not_isCtx_name_first hlh (head_lit_ne_hash _ _ (by decide))
  | _ => trivial

/-- the offsets into the tables of a program with at most `maxTagsX86` xtors per type fit -/
theorem tag_fits {prog : AxCut.Prog} (htags : ∀ d ∈ prog.types, d.xtors.length ≤ maxTagsX86) :
    ∀ d ∈ prog.types, ∀ pos, pos < d.xtors.length →
      fitsI64 (jumpLength pos) = true ∧ fitsI32 (jumpLength pos) = true := by
  intro d hdm pos hpos
  have := htags d hdm
  unfold maxTagsX86 at this
  unfold fitsI64 fitsI32 jumpLength
  have e5 : (consts.jumpLengthFactor : Int) = 5 := rfl
  rw [e5]
  simp only [decide_eq_true_eq, Bool.and_eq_true]
  omega

section Run3

variable {F : Frame} (HF : FrameOK F) (h8 : F.c.heapBase % 8 = 0) {mon : MonCfg} (hmon : mon.mach = F.c)
  {px : X86.Prog} {cs pre : List Code} (LA : LoadedA F.c px cs) (hndL : (labs cs).Nodup)
  (hfitX : addrAt F.c.codeBase cs cs.length < 2 ^ 64) (hcs : cs = pre ++ cleanup)
  (hclean : "cleanup" ∉ labs pre) {st0 : State} {h : Word} (E : EntryFacts F st0 h)

theorem hered_stmtB (L : Int → Prop) (M : Nat) : K.Hered (StmtB L M) (ClausesB L M) where
  lit h := h.2
  op h := h
  print h := h
  ifc h := h
  subst h := h.2
  letS h := h
  switch h := h
  create h := h
  nth h hc := clausesB_nth h hc

theorem hered_data : K.Hered DataStmt DataClauses where
  lit h := h
  op h := h
  print h := h
  ifc h := h
  subst h := h
  letS h := h
  switch h := h
  create h := h.elim
  nth h hc := dataClauses_nth h hc

include HF h8 hmon LA hndL hfitX hcs hclean E in
/-- THE THREE-WAY STEP for the statements of programs with data types: `step3C` between `X3.toK` and
`K.X3.toData`, with the invariant `Same` carried over the step -/
theorem step3P (hooks : Bool) (prog : AxCut.Prog) (c : Nat) (code : List MockOp) (nargs c' : Nat)
    (hcomp : (compile mockSym hooks prog).run c = .ok ((code, nargs), c'))
    (hsafe : LabelSafe prog = true) (hfit : CodeFits code)
    (DX : XDefsAt cs hooks prog) (hprog : ProgOK prog)
    (st : Pos.State) (cfg : Config) (hs : HState) (X : State)
    (R : Rel3 F cs (Program.ofOps code) hooks prog st cfg hs X)
    (T : Pos.StateTyped prog st) (hheap : EnoughHeap cfg) (hok : StmtOK st.stmt)
    (hroom : Room hs (64 * stmtArity st.stmt + 64)) :
    StepSim3P F mon px cs (Program.ofOps code) hooks prog st cfg hs X := by
  obtain ⟨Γ', ι, hk, RX, X3d, kx, kx', items, hrunX, hatX⟩ := R
  obtain ⟨X3h, S⟩ := X3.toK X3d
  have hd := headData_of_data hok.1
  unfold StepSim3P
  cases hst : Pos.step prog st with
  | next st' o =>
    simp only
    intro hc hc2
    obtain ⟨cfg', hs', X', kp', Γ'', ι', κ', ⟨n, hn, _⟩, rfl, hj, hout, hnx, hfr, hpk, hk', R', X3', hcode, SP, hq'⟩ :=
      ThreeWay.step3C (K.machineN F HF h8 mon hmon px cs LA hndL hfitX (K.HeadHF st.stmt)) hooks prog c code nargs c'
        hcomp hsafe hfit (K.XDefsAt.toM (hmon := hmon) (L := LA.loaded) (hndL := hndL) DX)
        (hered_data.and (hered_stmtB _ _)) hprog.2 (fun h => h.2.1)
        (fun d hd pos hp => (tag_fits hprog.1 d hd pos hp).1) (show 267 ≤ 2 ^ 31 by decide) st cfg hs X X.pc hk RX
        (K.X3.toT HF h8 X3h) hrunX hatX rfl T hheap hd hok (headOK HF h8 hmon LA.loaded hndL st.stmt)
        (by rw [allocArity_of_headData hd]; exact hroom) hst hc (by show _ < 267; omega)
    have X3' := K.X3.ofT HF h8 X3'
    obtain ⟨n, hn, hcall⟩ : ∃ n, stepN mon px n X = .inl X' ∧ ∀ l a, st.stmt = .call l a → 1 ≤ n := by
      by_cases hjs : K.IsJump st.stmt
      · obtain ⟨m', hm', _, n1, _, hlt, _⟩ := hj hjs
        exact ⟨m', hm', fun _ _ _ => by omega⟩
      · exact ⟨n, hn, fun l a e => absurd (by rw [e]; trivial) hjs⟩
    exact ⟨cfg', hs', X', n, hn, hcall, hout, hnx, by rw [← allocArity_of_headData hd]; exact hfr, hpk,
      ⟨Γ'', ι', hk', R', X3'.toData (S.step SP (ids_of_href X3'.href)), hcode⟩, hq'⟩
  | done v =>
    simp only
    obtain ⟨a, hsa, hra⟩ := Pos.step_done_iff.1 hst
    rw [hsa] at RX hrunX
    obtain ⟨n, XL, h1, h2, h3, _⟩ := K.exit_x3 HF hmon LA.loaded hcs hclean E RX
      (by rw [readInt_keys hk]; exact hra) X3h hrunX hatX
    exact ⟨n, XL, h1, h2, h3⟩
  | stuck e => simp only

include HF h8 hmon LA hndL hfitX hcs hclean E in
/-- THE THREE-WAY STEP with the uniform bounds: room for 134 blocks, the frontier moves by at most 133 -/
theorem step3 (hooks : Bool) (prog : AxCut.Prog) (c : Nat) (code : List MockOp) (nargs c' : Nat)
    (hcomp : (compile mockSym hooks prog).run c = .ok ((code, nargs), c'))
    (hsafe : LabelSafe prog = true) (hfit : CodeFits code)
    (DX : XDefsAt cs hooks prog) (hprog : ProgOK prog)
    (st : Pos.State) (cfg : Config) (hs : HState) (X : State)
    (R : Rel3 F cs (Program.ofOps code) hooks prog st cfg hs X)
    (T : Pos.StateTyped prog st) (hheap : EnoughHeap cfg) (hok : StmtOK st.stmt)
    (hroom : Room hs (64 * 134)) :
    StepSim3 F mon px cs (Program.ofOps code) hooks prog st cfg hs X := by
  have ha : stmtArity st.stmt ≤ 133 := by
    obtain ⟨Γ', ι, hk, _, X3h, _⟩ := R
    have h1 := stmtArity_le_of_typed T.1
    have h2 := X3h.cap
    have h3 := keys_length hk
    omega
  exact (step3P HF h8 hmon LA hndL hfitX hcs hclean E hooks prog c code nargs c' hcomp hsafe hfit DX hprog st cfg
    hs X R T hheap hok (hroom.mono (by omega))).weaken ha

theorem withinCapacity_of_le {Γ : Ctx} (h : 2 * Γ.length ≤ 266) : WithinCapacity Γ := by
  unfold WithinCapacity
  show 2 * Γ.length + 2 < 1000001
  omega

end Run3

theorem xdefsAt_of_compile {hooks : Bool} {prog : AxCut.Prog} {c : Nat} {body : List Code} {nargs : Nat}
    (h : compileX86 prog hooks c = .ok (body, nargs)) {cs hdr post : List Code} (hcs : cs = hdr ++ body ++ post)
    (hnd : (labs cs).Nodup) : XDefsAt cs hooks prog := by
  intro d hd
  unfold compileX86 at h
  cases hx : (compile x86Backend hooks prog).run c with
  | error e => rw [hx] at h; cases h
  | ok r =>
    obtain ⟨⟨body', nargs'⟩, c'⟩ := r
    rw [hx] at h
    simp only [Except.ok.injEq, Prod.mk.injEq] at h
    obtain ⟨rfl, rfl⟩ := h
    unfold compile compileR at hx
    cases hdefs : prog.defs with
    | nil => rw [hdefs] at hd; simp at hd
    | cons d0 ds =>
      simp only [hdefs, run_bind_ok, run_pure_ok] at hx
      obtain ⟨blocks, k, h1, h2, rfl⟩ := hx
      cases h2
      rw [hdefs] at hd
      obtain ⟨pre, post', ck, ck', items, e, hr⟩ :=
        ThreeWay.assemble_split x86Backend hooks natRen prog.types _ c blocks _ h1 d hd
      have e : assemble x86Backend blocks (List.map (·.name) (d0 :: ds)) =
          pre ++ Code.LAB (d.name.print ++ "_") :: (items ++ post') := e
      have hcs' : cs = (hdr ++ pre) ++ Code.LAB (d.name.print ++ "_") :: (items ++ (post' ++ post)) := by
        rw [hcs, e]; simp [List.append_assoc]
      have hget : cs[(hdr ++ pre).length]? = some (Code.LAB (d.name.print ++ "_")) := by
        rw [hcs']; simp
      refine ⟨(hdr ++ pre).length, ck, ck', items, labIdx_of_nodup hnd hget, hget, hr,
        (hdr ++ pre) ++ [Code.LAB (d.name.print ++ "_")], post' ++ post, ?_, by simp; omega⟩
      rw [hcs']; simp [List.append_assoc]

end Scc.X86.Ref
