/-
  Scc.X86.ConcKStuck — RUNS OF THE POSITIONAL MACHINE THAT GET STUCK ON A DIVISION, on the x86-64 SPEC machine, all
  programs: the positional machine of a linearly typed program gets stuck only at an `op` whose operator is
  undefined (divisor 0, or MIN / −1: `Pos.step_safe`, `Pos.stuck_op`); the machine runs without fault through the
  backup dance of code.rs `div` / `rem` to the `idiv` of that `op`, and the `idiv` faults with `div-by-zero` resp.
  `div-overflow` (`divFault`, Scc/X86/ConcKDiv.lean) — the two faults property C13 permits.  First at a statement
  boundary (`K.step3_stuck`), then from a boundary of the run with the machine possibly ahead by labels and
  comments (`BdAt.stuck`), then on the run loop: EVERY AMOUNT OF MACHINE FUEL WITHOUT THE HYPOTHESIS THAT THE
  POSITIONAL MACHINE DOES NOT GET STUCK — the result is `outOfFuel`, `done v`, or `fault (divFault w) ln`
  (`programs_all_fuel_div`, `programs_dsize_div`).
-/
import Scc.X86.ConcKAllFuel
import Scc.X86.ConcKDiv

namespace Scc.X86.Ref

section Fault
variable (m : MonCfg) {p : Prog} {cs : List Code} (L : Loaded p cs)

include L in
/-- a block at the program counter: its prefix executes, its next item faults -/
theorem x_steps_fault {pre post : List Code} {code : Code} {s s0 : State} {e : String}
    (hat : XAt cs s.pc (pre ++ code :: post))
    (hx : execStraight m.mach p.labelAddr pre s = .ok s0)
    (he : execCode m.mach p.labelAddr code s0 = .error e) :
    ∃ XF ln, stepN m p pre.length s = .inl XF ∧ step m p XF = .inr (.fault e ln) := by
  obtain ⟨k, hk⟩ := x_steps_straight m L hat.left hx
  refine ⟨_, p.lineOf (s.pc + pre.length), hk, ?_⟩
  have hget : cs[s.pc + pre.length]? = some code := by
    obtain ⟨cs1, rest, hcs, hl⟩ := hat
    rw [hcs, ← hl]
    simp [List.append_assoc]
  have hc := L.code (s.pc + pre.length)
  rw [hget] at hc
  cases hp : p.code[s.pc + pre.length]? with
  | none => rw [hp] at hc; cases hc
  | some code' =>
    rw [hp] at hc
    simp only [Option.map_some, Option.some.injEq] at hc
    have hex : execCode m.mach p.labelAddr code' (setPS s0 (s.pc + pre.length) k) = .error e := by
      rw [← execCode_strip, hc, execCode_strip, execCode_setPS, he]
      rfl
    have hpc : (setPS s0 (s.pc + pre.length) k).pc = s.pc + pre.length := rfl
    unfold step
    rw [hpc, hp]
    simp only [hex]

include L in
/-- the machine ahead of the boundary by labels and comments reaches the faulting state -/
theorem tol_run_fault {X0 X XL : State} (T : Tol cs X0 X) {n : Nat} (h : stepN m p n X0 = .inl XL)
    {e : String} {ln : Nat} (hd : step m p XL = .inr (.fault e ln)) : ∃ k, stepN m p k X = .inl XL := by
  rcases tol_run m L T h with h1 | h1
  · exact h1
  · by_cases hlt : XL.pc < X.pc
    · have := noop_step m L (h1.noop XL.pc (Nat.le_refl _) hlt)
      rw [this] at hd
      cases hd
    · have e : X.pc = XL.pc := by have := h1.le; omega
      refine ⟨0, ?_⟩
      have := h1.eq
      rw [e] at this
      simp only [stepN]
      rw [this]
      rfl

end Fault

end Scc.X86.Ref

namespace Scc.X86.Ref.K

open Scc.AxCut Scc.AxCut.Pos Scc.Backend Scc.Backend.Abs Scc.Backend.Sim Scc.Backend.Sim2
open Scc.Backend.Keys
open Scc.Heap (HState InvS InvW)
open Scc.Heap.Refine (HRef)

section Stuck

variable {F : Frame} {mon : MonCfg} (hmon : mon.mach = F.c)
  {px : X86.Prog} {cs : List Code} (L : Loaded px cs)

include hmon L in
/-- THE MACHINE AT AN `op` WHOSE OPERATOR IS UNDEFINED: it runs to the `idiv`, which faults -/
theorem op_x3_stuck {P : Program} {hooks : Bool} {prog : AxCut.Prog} {Γ : Ctx} {ρ : List Value} {x a b : Ident}
    {o : BinOp} {next : Stmt} {fv : FV} {cfg : Config} {va vb : Word} {w : Pos.Why}
    (R : RelX P hooks prog ⟨Γ, ρ, .op x a o b next fv⟩ cfg)
    (hfresh : ∀ b' ∈ Γ, b'.var.id ≠ x.id)
    (ha : readInt Γ ρ a = .ok va) (hb : readInt Γ ρ b = .ok vb) (hv : Pos.evalOp o va vb = .error w)
    {hs : HState} {ι : Nat → Nat} {κ : Nat → Nat → Word} {st : State} (X : X3 F Γ cfg hs ι κ st)
    {kx kx' : Nat} {items : List Code}
    (hrunX : (codeStatementR x86Backend hooks natRen prog.types (.op x a o b next fv) Γ).run kx = .ok (items, kx'))
    (hatX : XAt cs st.pc items) :
    ∃ n XF ln, stepN mon px n st = .inl XF ∧ step mon px XF = .inr (.fault (divFault w) ln) := by
  obtain ⟨p1, hi1, hl1, hg1⟩ := R.readInt ha
  obtain ⟨p2, hi2, hl2, hg2⟩ := R.readInt hb
  simp only at hi1 hi2 hl1 hl2
  have hchi1 : Γ[p1].chi = .ext := by
    have := (R.vals p1 hl1 (by show _ < ρ.length; have hlen : ρ.length = Γ.length := R.len; omega)).2.2.1
    simp only at this
    obtain ⟨_, hpo, hval⟩ := readInt_ok ha
    rw [ctxPosition_eq_posOf] at hi1
    rw [hi1] at hpo
    cases hpo
    rw [List.getElem?_eq_getElem (by show _ < ρ.length; have hlen : ρ.length = Γ.length := R.len; omega)] at hval
    injection hval with hval
    rw [this, hval]; rfl
  have hchi2 : Γ[p2].chi = .ext := by
    have := (R.vals p2 hl2 (by show _ < ρ.length; have hlen : ρ.length = Γ.length := R.len; omega)).2.2.1
    simp only at this
    obtain ⟨_, hpo, hval⟩ := readInt_ok hb
    rw [ctxPosition_eq_posOf] at hi2
    rw [hi2] at hpo
    cases hpo
    rw [List.getElem?_eq_getElem (by show _ < ρ.length; have hlen : ρ.length = Γ.length := R.len; omega)] at hval
    injection hval with hval
    rw [this, hval]; rfl
  simp only [codeStatementR, run_bind_ok, run_pure_ok] at hrunX
  obtain ⟨tX, _, htX, s1X, _, hs1X, s2X, _, hs2X, c2X, k2X, h2X, rfl, rfl⟩ := hrunX
  obtain ⟨pX, hpX, hltX, rfl, rfl⟩ := (x86_vt_run_ok _ _ _ _ _ _).1 htX
  obtain ⟨q1, hq1, hlt1, rfl, rfl⟩ := (x86_vt_run_ok _ _ _ _ _ _).1 hs1X
  obtain ⟨q2, hq2, hlt2, rfl, rfl⟩ := (x86_vt_run_ok _ _ _ _ _ _).1 hs2X
  have hpX' : pX = Γ.length := by
    have := posOf_append_fresh Γ ⟨x, .ext, .i64⟩ hfresh
    rw [this] at hpX
    exact (Option.some.inj hpX).symm
  subst hpX'
  have eq1 : q1 = p1 := by
    rw [ctxPosition_eq_posOf] at hi1
    have := posOf_append_old [⟨x, .ext, .i64⟩] hi1
    rw [this] at hq1; exact (Option.some.inj hq1).symm
  have eq2 : q2 = p2 := by
    rw [ctxPosition_eq_posOf] at hi2
    have := posOf_append_old [⟨x, .ext, .i64⟩] hi2
    rw [this] at hq2; exact (Option.some.inj hq2).symm
  subst eq1 eq2
  simp only [TempNum.toNat] at hltX hlt1 hlt2
  generalize hc0 : hookCode x86Backend hooks Γ ++
    [x86Backend.comment (x.print ++ " <- " ++ a.print ++ " " ++ o.sym ++ " " ++ b.print ++ ";")] = c0 at hatX
  have hc0c : ∀ y ∈ c0, ∃ m', y = Code.COMMENT m' := by rw [← hc0]; exact hook_comments hooks Γ _
  have hxl : x86Backend.binop o (posTemp (2 * Γ.length + TempNum.snd.toNat))
      (posTemp (2 * q1 + TempNum.snd.toNat)) (posTemp (2 * q2 + TempNum.snd.toNat)) =
      binop o (posTemp (2 * Γ.length + 1)) (posTemp (2 * q1 + 1)) (posTemp (2 * q2 + 1)) := rfl
  rw [hxl] at hatX
  have hatA : XAt cs st.pc (c0 ++ (binop o (posTemp (2 * Γ.length + 1)) (posTemp (2 * q1 + 1))
      (posTemp (2 * q2 + 1)) ++ c2X)) := by
    simpa [List.append_assoc] using hatX
  obtain ⟨k0, hk0⟩ := x_steps_straight mon L hatA.left
    (execStraight_comments mon.mach px.labelAddr c0 st hc0c)
  have X0 : X3 F Γ cfg hs ι κ (setPS st (st.pc + c0.length) k0) := X3R.setPS X _ _
  have hw1 := X0.words q1 hl1 va hg1
  have hw2 := X0.words q2 hl2 vb hg2
  rw [hchi1] at hw1
  rw [hchi2] at hw2
  have D : DivPlacement (posTemp (2 * Γ.length + 1)) (posTemp (2 * q1 + 1)) (posTemp (2 * q2 + 1)) := by
    refine ⟨tempOK_posTemp hltX, tempOK_posTemp hlt1, tempOK_posTemp hlt2,
      fun e => by have := posTemp_inj.1 e; omega, fun e => by have := posTemp_inj.1 e; omega, ?_, ?_, ?_⟩
    · unfold posTemp; split
      · intro e; injection e with e; omega
      · intro e; cases e
    · unfold posTemp; split
      · intro e; injection e with e; omega
      · intro e; cases e
    · unfold posTemp; split
      · intro e; injection e with e; omega
      · intro e; cases e
  obtain ⟨pre, code, post, s0, hsplit, hx, hex, _⟩ :=
    op_fault (la := px.labelAddr) X0.bnd o D hw1 hw2 hv
  rw [← hmon] at hx hex
  have hatB : XAt cs (setPS st (st.pc + c0.length) k0).pc (pre ++ code :: (post ++ c2X)) := by
    have := hatA.right
    rw [hsplit] at this
    show XAt cs (st.pc + c0.length) _
    simpa [List.append_assoc] using this
  obtain ⟨XF, ln, hk1, hstep⟩ := x_steps_fault mon L hatB hx hex
  exact ⟨c0.length + pre.length, XF, ln, stepN_trans mon px hk0 hk1, hstep⟩

end Stuck

section Stuck3

variable {F : Frame} {mon : MonCfg} (hmon : mon.mach = F.c)
  {px : X86.Prog} {cs : List Code} (L : Loaded px cs)

include hmon L in
/-- THE STUCK STEP: a step of the positional machine (linearly typed program, typed state) that is stuck is a
division by zero or an overflow of an `op`; from the boundary the machine runs to the `idiv`, which faults -/
theorem step3_stuck (hooks : Bool) (prog : AxCut.Prog) (code : List MockOp) (htp : LinTypedProg prog)
    (st : Pos.State) (cfg : Config) (hs : HState) (X : State)
    (R : Rel3 F cs (Program.ofOps code) hooks prog st cfg hs X)
    (T : Pos.StateTyped prog st) {w : Pos.Why} (hst : Pos.step prog st = .stuck w) :
    ∃ n XF ln, stepN mon px n X = .inl XF ∧ step mon px XF = .inr (.fault (divFault w) ln) := by
  have hsafe := Pos.step_safe htp st T
  rw [hst] at hsafe
  obtain ⟨x, a, o, b, next, fv, va, vb, hstmt, hra, hrb, hv⟩ := Pos.stuck_op hst hsafe
  obtain ⟨Γ, ρ, s⟩ := st
  simp only at hstmt hra hrb
  subst hstmt
  obtain ⟨Γ', ι, κ, hk, RX, X3h, C, kx, kx', items, hrunX, hatX⟩ := R
  obtain ⟨hty, henv⟩ := T
  simp only at hk RX hty henv
  cases hty with
  | op hn ha hb hfr hnext =>
    exact op_x3_stuck hmon L RX (mem_ids_keys hk hfr) (by rw [readInt_keys hk]; exact hra)
      (by rw [readInt_keys hk]; exact hrb) hv X3h hrunX hatX

end Stuck3

end Scc.X86.Ref.K

namespace Scc.X86.ConcK

open Scc.AxCut Scc.Backend Scc.Backend.Abs Scc.X86.Ref
open Scc.Props.C14Generic (LabelSafe)
open Scc.Props.C06Generic (outAfter WithinCapacity Reachable EnoughHeap CodeFits statesOf stopsWithin)
open Scc.Heap (HState InvS InvW Exhausted)
open Scc.Heap.Refine (HRef FrLe Room FrPk)
open Scc.X86.Conc (BChain FrBound LiveLe LiveLe0 stmtSize clausesSize valsFields run_eq_runState runLoop_outOfFuel)

/-- THE LAST STEP OF A RUN THAT GETS STUCK (on a division): from the boundary the machine runs — without fault — to
the `idiv` of the `op` the positional machine is stuck at, and the `idiv` faults -/
theorem BdAt.stuck {F : Frame} {mon : MonCfg} (hmon : mon.mach = F.c) {px : X86.Prog} {cs : List Code}
    (L : Loaded px cs) {hooks : Bool} {prog : AxCut.Prog} {code : List MockOp} (htp : LinTypedProg prog)
    {st : Pos.State} {acc : List (Bool × Word)} {cfg : Config} {hs : HState} {X : State} {w : Pos.Why}
    (B : BdAt F cs (Program.ofOps code) hooks prog st acc cfg hs X) (hst : Pos.step prog st = .stuck w) :
    ∃ k XF ln, stepN mon px k X = .inl XF ∧ step mon px XF = .inr (.fault (divFault w) ln) := by
  obtain ⟨X0, B, _⟩ := B
  obtain ⟨n, XF, ln, h1, h2⟩ := K.step3_stuck hmon L hooks prog code htp st cfg hs X0 B.rel B.typed hst
  obtain ⟨k, hk⟩ := tol_run_fault mon L B.tol h1 h2
  exact ⟨k, XF, ln, hk, h2⟩

theorem runLoop_fault {m : MonCfg} (hm : m.heap = false) (p : Prog) (n : Nat) (s : State) (b : Nat)
    {e : String} {ln : Nat} (h : step m p s = .inr (.fault e ln)) :
    (runLoop m p (n + 1) s b).res = .fault e ln := by
  simp [runLoop, monitor_off hm, h, finish]

/-- A RUN THAT GETS STUCK ON A DIVISION, ON THE RUN LOOP (heap monitor off), for any source of the peak hypothesis:
there is an amount `N` of fuel such that with more fuel the machine ends in the division fault, and with at most `N`
it is out of fuel -/
theorem programs_stuck_gen (p : AxCut.Prog) (args : List Word) (hooks : Bool) (body routine : List Code)
    (nargs : Nat) (d0 : Def) (ops : List MockOp) (c' : Nat)
    (hsafe : LabelSafe p = true) (htp : LinTypedProg p) (hprog : K.ProgOK p)
    (hcompM : (compile mockSym hooks p).run 0 = .ok ((ops, nargs), c')) (hfit : CodeFits ops)
    (hcompX : compileX86 p hooks 0 = .ok (body, nargs)) (hrout : intoRoutine body nargs = .ok routine)
    (hnd : (labs routine).Nodup)
    (hd : p.defs.head? = some d0) (hentry : ∀ b ∈ d0.ctx, b.chi = .ext ∧ b.ty = .i64)
    (hlen : d0.ctx.length = args.length)
    (hcap : ∀ st, Reachable p ⟨d0.ctx, args.map .int, d0.body⟩ st → 2 * st.ctx.length ≤ 266)
    (fuel : Nat) (out : List (Bool × Word)) (w : Pos.Why) (hfuel : fuel + 1 < 2 ^ 64)
    (hrun : Pos.run p args fuel = ⟨out, .stuck w⟩)
    (cfg : MonCfg) (MO : MachOK cfg.mach) (hheap : cfg.heap = false)
    (hb8 : cfg.mach.heapBase % 8 = 0) (hb0 : 0 < cfg.mach.heapBase)
    (Pk A : Nat) (hA : ∀ d ∈ p.defs, K.AllocLe A d.body) (hbytes : 64 * (Pk + A + 2) ≤ cfg.mach.heapBytes)
    (items : List (Code × Nat)) (hitems : (items.map (·.1)).map stripC = routine.map stripC)
    (hfitX : addrAt cfg.mach.codeBase routine routine.length < 2 ^ 64)
    (hPH : PeakHyp p hooks routine ops cfg items args d0 Pk (A * fuel + 1)) :
    ∃ N, (∀ f, f ≤ N → (runItems items args f cfg).res = .outOfFuel) ∧
      ∀ f, N < f → ∃ ln, (runItems items args f cfg).res = .fault (divFault w) ln := by
  have hmem : d0 ∈ p.defs := List.mem_of_mem_head? hd
  have hrun' : Pos.runState p fuel ⟨d0.ctx, args.map .int, d0.body⟩ [] = ⟨out, .stuck w⟩ := by
    rw [← run_eq_runState hd hlen]; exact hrun
  have hc0 := hcap _ Reachable.refl
  simp only at hc0
  obtain ⟨F, pre, st0, h, n0, X0, a, En⟩ := entry_setup p args hooks body routine nargs d0 ops c' hsafe htp
    hcompM hcompX hrout hnd hd hentry hlen hc0 cfg MO hb0 (by omega) items hitems
  have hFc := En.fc
  obtain ⟨_, _, stL, _, k, XL, _, hk, _, ⟨_, _, _, IL, _⟩, hE⟩ := (Track.peakTrack (En.boundaries hb8 hnd hfitX hcompM
    hsafe htp hfit hprog) hA hbytes).run fuel 0 _ _ _ (En.peakRun hcap hprog hmem hA hb0 hbytes
      (hPH F n0 X0 hFc En.steps) hfuel (Nat.le_refl _))
  rw [hrun'] at hE
  obtain ⟨k', XF, ln, hk', g2⟩ := BdAt.stuck hFc.symm En.loaded.loaded htp IL.bd hE.stuck.2.1
  have g1 := stepN_trans cfg _ hk hk'
  have hargs : ¬ args.length > 5 := by have := En.nargs; omega
  have hrl : ∀ f, runItems items args f cfg =
      runLoop cfg (mkProg cfg.mach items) f (initState cfg.mach args 6) 0 := by
    intro f
    unfold runItems
    simp only [En.main]
    rw [if_neg hargs]
  have hN := stepN_trans cfg _ En.steps g1
  refine ⟨n0 + (k + k'), fun f hf => ?_, fun f hf => ?_⟩
  · rw [hrl]
    exact runLoop_outOfFuel hheap _ f (n0 + (k + k')) _ XF 0 hN hf
  · obtain ⟨g, rfl⟩ : ∃ g, f = n0 + (k + k') + (g + 1) := ⟨f - (n0 + (k + k')) - 1, by omega⟩
    rw [hrl, runLoop_stepN hheap _ (n0 + (k + k')) (g + 1) _ _ 0 hN]
    exact ⟨ln, runLoop_fault hheap _ g XF 0 g2⟩

/-- EVERY AMOUNT OF MACHINE FUEL (heap monitor off), all programs, WHATEVER THE POSITIONAL MACHINE DOES: the result of
the machine is `outOfFuel`, or `done v` with the result of the positional machine, or the division fault the
positional machine is stuck at -/
theorem programs_all_fuel_div (p : AxCut.Prog) (args : List Word) (hooks : Bool) (body routine : List Code)
    (nargs : Nat) (d0 : Def) (ops : List MockOp) (c' : Nat)
    (hsafe : LabelSafe p = true) (htp : LinTypedProg p) (hprog : K.ProgOK p)
    (hcompM : (compile mockSym hooks p).run 0 = .ok ((ops, nargs), c')) (hfit : CodeFits ops)
    (hcompX : compileX86 p hooks 0 = .ok (body, nargs)) (hrout : intoRoutine body nargs = .ok routine)
    (hnd : (labs routine).Nodup)
    (hd : p.defs.head? = some d0) (hentry : ∀ b ∈ d0.ctx, b.chi = .ext ∧ b.ty = .i64)
    (hlen : d0.ctx.length = args.length)
    (hcap : ∀ st, Reachable p ⟨d0.ctx, args.map .int, d0.body⟩ st → 2 * st.ctx.length ≤ 266)
    (cfg : MonCfg) (MO : MachOK cfg.mach) (hheap : cfg.heap = false)
    (hb8 : cfg.mach.heapBase % 8 = 0) (hb0 : 0 < cfg.mach.heapBase)
    (Pk A M : Nat) (hA : ∀ d ∈ p.defs, K.AllocLe A d.body) (hM : ∀ d ∈ p.defs, stmtSize d.body ≤ M)
    (hbytes : 64 * (Pk + A + 2) ≤ cfg.mach.heapBytes)
    (items : List (Code × Nat)) (hitems : (items.map (·.1)).map stripC = routine.map stripC)
    (hfitX : addrAt cfg.mach.codeBase routine routine.length < 2 ^ 64)
    (fuel' : Nat) (hf : fuel' * (M + 1) + stmtSize d0.body + 1 < 2 ^ 64)
    (hPH : PeakHyp p hooks routine ops cfg items args d0 Pk (A * (fuel' * (M + 1) + stmtSize d0.body) + 1)) :
    (runItems items args fuel' cfg).res = .outOfFuel ∨
      (∃ v out, Pos.run p args (fuel' * (M + 1) + stmtSize d0.body) = ⟨out, .done v⟩ ∧
        (runItems items args fuel' cfg).res = .done v) ∨
      ∃ w out ln, Pos.run p args (fuel' * (M + 1) + stmtSize d0.body) = ⟨out, .stuck w⟩ ∧
        (w = .divByZero ∨ w = .overflow) ∧ (runItems items args fuel' cfg).res = .fault (divFault w) ln := by
  have hrs := run_eq_runState hd hlen (fuel' * (M + 1) + stmtSize d0.body)
  have hmem : d0 ∈ p.defs := List.mem_of_mem_head? hd
  have T0 : Pos.StateTyped p ⟨d0.ctx, args.map .int, d0.body⟩ :=
    ⟨htp d0 hmem, Pos.ints_typed d0.ctx args hlen hentry⟩
  cases hres : Pos.run p args (fuel' * (M + 1) + stmtSize d0.body) with
  | mk out res =>
  cases res with
  | stuck w =>
    have hw : w = .divByZero ∨ w = .overflow := by
      have := Pos.runState_safe htp (fuel' * (M + 1) + stmtSize d0.body) _ [] T0
      rw [← hrs, hres] at this
      exact this
    obtain ⟨N, h1, h2⟩ := programs_stuck_gen p args hooks body routine nargs d0 ops c' hsafe htp hprog hcompM hfit
      hcompX hrout hnd hd hentry hlen hcap _ out w hf hres cfg MO hheap hb8 hb0 Pk A hA hbytes items hitems hfitX hPH
    by_cases hle : fuel' ≤ N
    · exact Or.inl (h1 fuel' hle)
    · obtain ⟨ln, hln⟩ := h2 fuel' (by omega)
      exact Or.inr (Or.inr ⟨w, out, ln, rfl, hw, hln⟩)
  | done v =>
    obtain ⟨f0, _, h2⟩ := programs_run_gen p args hooks body routine nargs d0 ops c' hsafe htp hprog
      hcompM hfit hcompX hrout hnd hd hentry hcap _ out v hf hres cfg MO hheap hb8 hb0 Pk A hA hbytes items
      hitems hfitX hPH
    rcases CC.runItems_res_of_done (items := items) (args := args) (cfg := cfg) (f0 := f0) (v := v) h2 fuel'
      with h | h
    · exact Or.inl h
    · exact Or.inr (Or.inl ⟨v, out, rfl, h⟩)
  | outOfFuel =>
    left
    rw [hrs] at hres
    obtain ⟨hmain, hargs, n, X, hn, hX⟩ := programs_progress_gen p args hooks body routine nargs d0 ops c' hsafe htp
      hprog hcompM hfit hcompX hrout hnd hd hentry hlen hcap _ hf cfg MO hb8 hb0 Pk A M hA hM hbytes items hitems
      hfitX hPH out hres fuel' (Nat.le_refl _)
    have hargs' : ¬ args.length > 5 := by omega
    unfold runItems
    simp only [hmain]
    rw [if_neg hargs']
    exact runLoop_outOfFuel hheap _ fuel' n _ X 0 hX hn

/-- … under a bound `D` on the fields of the object and closure values of the positional machine's environments -/
theorem programs_dsize_div (p : AxCut.Prog) (args : List Word) (hooks : Bool) (body routine : List Code)
    (nargs : Nat) (d0 : Def) (ops : List MockOp) (c' : Nat)
    (hsafe : LabelSafe p = true) (htp : LinTypedProg p) (hprog : K.ProgOK p)
    (hcompM : (compile mockSym hooks p).run 0 = .ok ((ops, nargs), c')) (hfit : CodeFits ops)
    (hcompX : compileX86 p hooks 0 = .ok (body, nargs)) (hrout : intoRoutine body nargs = .ok routine)
    (hnd : (labs routine).Nodup)
    (hd : p.defs.head? = some d0) (hentry : ∀ b ∈ d0.ctx, b.chi = .ext ∧ b.ty = .i64)
    (hlen : d0.ctx.length = args.length)
    (hcap : ∀ st, Reachable p ⟨d0.ctx, args.map .int, d0.body⟩ st → 2 * st.ctx.length ≤ 266)
    (D : Nat) (hD : ∀ st, Reachable p ⟨d0.ctx, args.map .int, d0.body⟩ st → valsFields st.env ≤ D)
    (cfg : MonCfg) (MO : MachOK cfg.mach) (hheap : cfg.heap = false)
    (hb8 : cfg.mach.heapBase % 8 = 0) (hb0 : 0 < cfg.mach.heapBase)
    (A M : Nat) (hA : ∀ d ∈ p.defs, K.AllocLe A d.body) (hM : ∀ d ∈ p.defs, stmtSize d.body ≤ M)
    (hbytes : 64 * (D + A + 2) ≤ cfg.mach.heapBytes)
    (items : List (Code × Nat)) (hitems : (items.map (·.1)).map stripC = routine.map stripC)
    (hfitX : addrAt cfg.mach.codeBase routine routine.length < 2 ^ 64)
    (fuel' : Nat) (hf : fuel' * (M + 1) + stmtSize d0.body + 1 < 2 ^ 64) :
    (runItems items args fuel' cfg).res = .outOfFuel ∨
      (∃ v out, Pos.run p args (fuel' * (M + 1) + stmtSize d0.body) = ⟨out, .done v⟩ ∧
        (runItems items args fuel' cfg).res = .done v) ∨
      ∃ w out ln, Pos.run p args (fuel' * (M + 1) + stmtSize d0.body) = ⟨out, .stuck w⟩ ∧
        (w = .divByZero ∨ w = .overflow) ∧ (runItems items args fuel' cfg).res = .fault (divFault w) ln :=
  programs_all_fuel_div p args hooks body routine nargs d0 ops c' hsafe htp hprog hcompM hfit hcompX hrout hnd hd
    hentry hlen hcap cfg MO hheap hb8 hb0 D A M hA hM hbytes items hitems hfitX fuel' hf (peakHyp_of_data hD)

end Scc.X86.ConcK
