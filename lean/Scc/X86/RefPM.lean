/-
  Scc.X86.RefPM — parametricity of the parallel-move generator (parallel_moves.rs, generic part
  Scc/Backend/Generic.lean) in the backend: for two backends `B1`, `B2` and a map `f` of temporaries
  that preserves the order and the equality test of temporaries (`TempMap`), every pure function of
  the generator commutes with `f`: sets and maps of temporaries, `spanning_tree`, `spanning_forest`
  (including the fuel = number of distinct temporaries), `visited_by`, `delete_targets`.
  The instance mock numbering ↦ `posTemp` (utils.rs temporary_from_position): `tempMap_posTemp`, RefParam.lean.
-/
import Scc.Backend.Generic
import Scc.Backend.Mock
import Scc.X86.MemProofsStore

namespace Scc.X86.Ref

open Scc.Backend

section Generic

variable {C1 C2 T1 T2 : Type} (B1 : Backend C1 T1) (B2 : Backend C2 T2) (f : T1 → T2)

/-- `f` preserves the derived `Ord` and `==` of the temporaries -/
structure TempMap : Prop where
  lt : ∀ a b, B2.tempLt (f a) (f b) = B1.tempLt a b
  eq : ∀ a b, B2.tempEq (f a) (f b) = B1.tempEq a b

mutual
  def mapT : Tree T1 → Tree T2
    | .backEdge => .backEdge
    | .node t kids => .node (f t) (mapTs kids)
  def mapTs : List (Tree T1) → List (Tree T2)
    | [] => []
    | k :: ks => mapT k :: mapTs ks
end

def mapR : Root T1 → Root T2
  | .startNode t kids => .startNode (f t) (mapTs f kids)

def mapPM (pm : List (T1 × List T1)) : List (T2 × List T2) := pm.map fun e => (f e.1, e.2.map f)

theorem mapTs_eq_map : ∀ (l : List (Tree T1)), mapTs f l = l.map (mapT f)
  | [] => rfl
  | k :: ks => by simp [mapTs, mapTs_eq_map ks]

variable {B1 B2 f} (M : TempMap B1 B2 f)
include M

theorem tempCmp_map (a b : T1) : tempCmp B2 (f a) (f b) = tempCmp B1 a b := by
  unfold tempCmp; rw [M.lt, M.eq]

theorem setInsert_map (t : T1) : ∀ (l : List T1), setInsert B2 (f t) (l.map f) = (setInsert B1 t l).map f
  | [] => rfl
  | t' :: rest => by
    simp only [List.map_cons, setInsert, tempCmp_map M]
    cases tempCmp B1 t t' with
    | lt => rfl
    | eq => rfl
    | gt => simp only [List.map_cons, setInsert_map t rest]

theorem setOfList_map (ts : List T1) : setOfList B2 (ts.map f) = (setOfList B1 ts).map f := by
  unfold setOfList
  suffices h : ∀ (l acc : List T1), List.foldl (fun s t => setInsert B2 t s) (acc.map f) (l.map f) =
      (List.foldl (fun s t => setInsert B1 t s) acc l).map f from h ts []
  intro l
  induction l with
  | nil => intro acc; rfl
  | cons a rest ih =>
    intro acc
    simp only [List.map_cons, List.foldl_cons, setInsert_map M]
    exact ih _

theorem mapInsert_map (k : T1) (v : List T1) : ∀ (acc : List (T1 × List T1)),
    mapInsert (tempCmp B2) (f k) (v.map f) (mapPM f acc) = mapPM f (mapInsert (tempCmp B1) k v acc)
  | [] => rfl
  | (k', v') :: rest => by
    simp only [mapPM, List.map_cons, mapInsert, tempCmp_map M]
    cases tempCmp B1 k k' with
    | lt => rfl
    | eq => rfl
    | gt =>
      simp only [List.map_cons]
      have := mapInsert_map k v rest
      simp only [mapPM] at this
      rw [this]

theorem mapLookup_map (pm : List (T1 × List T1)) (k : T1) :
    mapLookup B2 (mapPM f pm) (f k) = (mapLookup B1 pm k).map (List.map f) := by
  unfold mapLookup mapPM
  rw [List.find?_map]
  have : ((fun e : T2 × List T2 => B2.tempEq (f k) e.1) ∘ fun e : T1 × List T1 => (f e.1, e.2.map f)) =
      fun e => B1.tempEq k e.1 := by
    funext e; simp [Function.comp, M.eq]
  rw [this]
  cases List.find? (fun e => B1.tempEq k e.1) pm <;> rfl

theorem memT_map (t : T1) (l : List T1) : memT B2 (f t) (l.map f) = memT B1 t l := by
  unfold memT
  rw [List.any_map]
  congr 1
  funext x
  simp [Function.comp, M.eq]

theorem deleteTargets_map (del : List T1) (pm : List (T1 × List T1)) :
    deleteTargets B2 (del.map f) (mapPM f pm) = mapPM f (deleteTargets B1 del pm) := by
  unfold deleteTargets mapPM
  simp only [List.map_map]
  apply List.map_congr_left
  intro e _
  simp only [Function.comp, Prod.mk.injEq, true_and]
  rw [List.filter_map]
  congr 1
  apply List.filter_congr
  intro x _
  simp [Function.comp, memT_map M]

omit M in
theorem mapExcept_map {α β β' : Type} (g : β → β') (F1 : α → Except String β) (F2 : α → Except String β')
    : ∀ (l : List α), (∀ a ∈ l, F2 a = (F1 a).map g) → mapExcept F2 l = (mapExcept F1 l).map (List.map g)
  | [], _ => rfl
  | a :: as, h => by
    simp only [mapExcept]
    rw [h a (by simp)]
    cases F1 a with
    | error e => rfl
    | ok b =>
      simp only [Except.map]
      rw [mapExcept_map g F1 F2 as (fun x hx => h x (by simp [hx]))]
      cases mapExcept F1 as with
      | error e => rfl
      | ok bs => rfl

omit M in
theorem mapExcept_of_map {α α' β : Type} (h : α → α') (F : α' → Except String β) :
    ∀ (l : List α), mapExcept F (l.map h) = mapExcept (fun a => F (h a)) l
  | [] => rfl
  | a :: as => by
    simp only [List.map_cons, mapExcept, mapExcept_of_map h F as]

theorem spanningTree_map (pm : List (T1 × List T1)) (root : T1) : ∀ (fuel : Nat) (node : T1),
    spanningTree B2 (mapPM f pm) (f root) fuel (f node) =
      (spanningTree B1 pm root fuel node).map (mapT f)
  | 0, _ => rfl
  | fuel + 1, node => by
    simp only [spanningTree, M.eq, mapLookup_map M]
    cases B1.tempEq root node with
    | true => rfl
    | false =>
      simp only [Bool.false_eq_true, if_false]
      cases mapLookup B1 pm node with
      | none => rfl
      | some targets =>
        simp only [Option.map]
        rw [mapExcept_of_map, mapExcept_map (mapT f) (spanningTree B1 pm root fuel) _ targets
          (fun a _ => spanningTree_map pm root fuel a)]
        cases mapExcept (spanningTree B1 pm root fuel) targets with
        | error e => rfl
        | ok kids => simp [Except.map, mapT, mapTs_eq_map]

omit M in
mutual
  theorem nodes_map : ∀ (t : Tree T1), Tree.nodes (mapT f t) = (Tree.nodes t).map f
    | .backEdge => rfl
    | .node t kids => by simp [mapT, Tree.nodes, nodesList_map kids]
  theorem nodesList_map : ∀ (l : List (Tree T1)), Tree.nodesList (mapTs f l) = (Tree.nodesList l).map f
    | [] => rfl
    | k :: ks => by simp [mapTs, Tree.nodesList, nodes_map k, nodesList_map ks]
end

omit M in
mutual
  theorem refersBack_map : ∀ (t : Tree T1), Tree.refersBack (mapT f t) = Tree.refersBack t
    | .backEdge => rfl
    | .node t kids => by simp [mapT, Tree.refersBack, anyRefersBack_map kids]
  theorem anyRefersBack_map : ∀ (l : List (Tree T1)), Tree.anyRefersBack (mapTs f l) = Tree.anyRefersBack l
    | [] => rfl
    | k :: ks => by simp [mapTs, Tree.anyRefersBack, refersBack_map k, anyRefersBack_map ks]
end

omit M in
theorem visitedBy_map (r : Root T1) : Root.visitedBy (mapR f r) = (Root.visitedBy r).map f := by
  cases r with
  | startNode t kids =>
    simp only [mapR, Root.visitedBy, anyRefersBack_map, nodesList_map, List.map_append]
    split <;> rfl

omit M in
theorem noTargets_map (r : Root T1) : Root.noTargets (mapR f r) = Root.noTargets r := by
  cases r with
  | startNode t kids => cases kids <;> rfl

theorem spanningForestLoop_map (fuel : Nat) : ∀ (keys : List T1) (pm : List (T1 × List T1)),
    spanningForestLoop B2 fuel (keys.map f) (mapPM f pm) =
      (spanningForestLoop B1 fuel keys pm).map (List.map (mapR f))
  | [], _ => rfl
  | t :: keys, pm => by
    simp only [List.map_cons, spanningForestLoop, mapLookup_map M]
    cases mapLookup B1 pm t with
    | none => rfl
    | some targets0 =>
      simp only [Option.map]
      have hfilter : List.filter (fun x => !B2.tempEq x (f t)) (targets0.map f) =
          (List.filter (fun x => !B1.tempEq x t) targets0).map f := by
        rw [List.filter_map]
        congr 1
        apply List.filter_congr
        intro x _
        simp [Function.comp, M.eq]
      rw [hfilter, mapExcept_of_map, mapExcept_map (mapT f) (spanningTree B1 pm t fuel) _ _
        (fun a _ => spanningTree_map M pm t fuel a)]
      cases mapExcept (spanningTree B1 pm t fuel) (List.filter (fun x => !B1.tempEq x t) targets0) with
      | error e => rfl
      | ok kids =>
        simp only [Except.map]
        have hv : Root.visitedBy (Root.startNode (f t) (List.map (mapT f) kids)) =
            (Root.visitedBy (Root.startNode t kids)).map f := by
          have := visitedBy_map (f := f) (Root.startNode t kids)
          simpa [mapR, mapTs_eq_map] using this
        rw [hv, deleteTargets_map M, spanningForestLoop_map fuel keys]
        cases spanningForestLoop B1 fuel keys (deleteTargets B1 (Root.visitedBy (Root.startNode t kids)) pm) with
        | error e => rfl
        | ok roots => simp [Except.map, mapR, mapTs_eq_map]

theorem eraseDups_loop_map : ∀ (as bs : List T1),
    List.eraseDupsBy.loop (fun a b => B2.tempEq a b) (as.map f) (bs.map f) =
      (List.eraseDupsBy.loop (fun a b => B1.tempEq a b) as bs).map f
  | [], bs => by simp [List.eraseDupsBy.loop]
  | a :: as, bs => by
    simp only [List.map_cons, List.eraseDupsBy.loop]
    have : (bs.map f).any (fun b => B2.tempEq (f a) b) = bs.any (fun b => B1.tempEq a b) := by
      rw [List.any_map]
      congr 1
      funext x
      simp [Function.comp, M.eq]
    rw [this]
    cases bs.any (fun b => B1.tempEq a b) with
    | true => exact eraseDups_loop_map as bs
    | false =>
      have := eraseDups_loop_map as (a :: bs)
      simpa using this

theorem allNodes_length (pm : List (T1 × List T1)) :
    (allNodes B2 (mapPM f pm)).length = (allNodes B1 pm).length := by
  unfold allNodes
  have e : (mapPM f pm).map (·.1) ++ (mapPM f pm).flatMap (·.2) =
      (pm.map (·.1) ++ pm.flatMap (·.2)).map f := by
    simp [mapPM, List.map_append, List.map_flatMap, List.flatMap_map, Function.comp]
  rw [e]
  show (List.eraseDupsBy.loop (fun a b => B2.tempEq a b) _ (([] : List T1).map f)).length = _
  rw [eraseDups_loop_map M]
  simp
  rfl

theorem spanningForest_map (pm : List (T1 × List T1)) :
    spanningForest B2 (mapPM f pm) = (spanningForest B1 pm).map (List.map (mapR f)) := by
  unfold spanningForest
  rw [allNodes_length M]
  have : (mapPM f pm).map (·.1) = (pm.map (·.1)).map f := by simp [mapPM]
  rw [this]
  exact spanningForestLoop_map M _ _ _

end Generic

end Scc.X86.Ref
