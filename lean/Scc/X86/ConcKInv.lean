/-
  Scc.X86.ConcKInv — the heap invariant of C09 on the concrete x86-64 machine state (`ConcK.heapInvAt_of_x3`,
  Scc/X86/ConcInv.lean) at statement boundaries up to labels and comments (`Tol`): the machine state reached by the
  `jmp reg` of an `invoke` is the boundary state moved forward over items of size 0; everything the heap invariant
  reads is the same in both (`heapInvAt_tol`).
-/
import Scc.X86.ConcInv
import Scc.X86.RefClosHRun

namespace Scc.X86.ConcK

open Scc.X86.Ref
open Scc.Heap (HState InvS InvW)
open Scc.Heap.Refine (HRef imgW)
open Scc.X86.Conc (HeapInvAt memFn ctxKinds rootLocs readLoc_tempLoc zipIdx_filter_kinds count_roots)

theorem heapInvAt_setPS {m : MonCfg} {s : State} {kinds : List Bool} {limit : Nat} (pc k : Nat)
    (h : HeapInvAt m s kinds limit) : HeapInvAt m (setPS s pc k) kinds limit := by
  obtain ⟨roots, hh, f, lin, lazy, live, F, h1, h2, h3, h4⟩ := h
  refine ⟨roots, hh, f, lin, lazy, live, F, ?_, h2, h3, h4⟩
  have e : (fun l => readLoc m.mach (setPS s pc k) l) = fun l => readLoc m.mach s l := by
    funext l; exact Scc.X86.readLoc_setPS _ _ _ _ l
  rw [e]; exact h1

/-- the heap invariant does not see the tolerance: a state that is a boundary state moved forward over
labels and comments satisfies the same `HeapInvAt` -/
theorem heapInvAt_tol {m : MonCfg} {cs : List Code} {X0 X : State} {kinds : List Bool} {limit : Nat}
    (T : Tol cs X0 X) (h : HeapInvAt m X0 kinds limit) : HeapInvAt m X kinds limit := by
  rw [T.eq]; exact heapInvAt_setPS _ _ h

end Scc.X86.ConcK
