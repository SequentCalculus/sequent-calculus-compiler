/-
  Scc.X86.RefClosHLoad — `LoadProv`: what `switch` / `invoke` do to the positions and the heap, in the vocabulary of
  the x86-64 machine; the generic `ThreeWay.LoadProvS` (Scc/Backend/ThreeWaySwitch.lean) at the x86-64 target gives
  it (`LoadProv.ofS`).  It is the form in which Props/C06X86Full.lean states `invoke`.
-/
import Scc.X86.RefClosHStore
import Scc.X86.ThreeWayTarget
import Scc.Heap.RefineBound
import Scc.Backend.ProofsLoad
import Scc.Backend.ProofsSubstRoots

namespace Scc.X86.Ref.K

open Scc.AxCut Scc.Backend Scc.Backend.Abs
open Scc.Heap (HState InvS InvW)
open Scc.Heap.Refine (HRef imgW fieldImg kindB href_load_full loadAbs live_header_lt FrLe frLe_load href_head_lt href_root_mem chi_bne_iff kindB_eq)

/-- what `switch` / `invoke` do to the positions and the heap: the
first `n` positions are untouched, position `n` held a reference to the object `o`, whose fields are
unpacked into the positions `n, n+1, …` (no field: nothing happens) -/
structure LoadProv (F : Frame) (n : Nat) (Δ : Ctx) (cfg cfg' : Config) (κ : Nat → Nat → Word)
    (st st' : State) : Prop where
  keep : KeepPos F n cfg cfg' st st'
  obj : (Δ = [] ∧ cfg'.heap = cfg.heap) ∨
    ∃ r o, cfg.temps.get (2 * n) = some r ∧ r ≠ 0 ∧ cfg.heap.get r.toNat = some o ∧
      o.fields.map (·.chi) = Mock.kindsOf Δ ∧
      ∀ j (hj : j < o.fields.length),
        cfg'.temps.get (2 * (n + j) + 1) = some o.fields[j].val ∧
        cfg'.temps.get (2 * (n + j)) = (if o.fields[j].chi == .ext then none else some o.fields[j].ptr) ∧
        tempVal F.sp st' (posTemp (2 * (n + j) + 1)) = some (trF κ r.toNat j o.fields[j]).val

theorem LoadProv.ofS {F : Frame} {H : FrameOK F} {h8 : F.c.heapBase % 8 = 0} {la : String → Option Nat} {n : Nat}
    {Δ : Ctx} {cfg cfg' : Config} {κ : Nat → Nat → Word} {st st' : State}
    (h : ThreeWay.LoadProvS (target F H h8 la) n Δ cfg cfg' κ st st') : LoadProv F n Δ cfg cfg' κ st st' := by
  refine ⟨KeepPos.ofT h.keep, ?_⟩
  rcases h.obj with h0 | ⟨r, o, a1, a2, a3, a4, a5⟩
  · exact Or.inl h0
  · exact Or.inr ⟨r, o, a1, a2, a3, a4, fun j hj => ⟨(a5 j hj).1, (a5 j hj).2.1, by rw [trF_eq]; exact (a5 j hj).2.2⟩⟩

end Scc.X86.Ref.K
