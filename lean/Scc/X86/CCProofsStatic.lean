/-
  Scc.X86.CCProofsStatic — property C13 (calling convention), x86-64: STATIC, TEXT-LEVEL facts about
  the instruction list that the generic code generator (Scc/Backend/Generic.lean) instantiated with
  `x86Backend` emits for ANY program it compiles.

  * `plainCC code`  — the instruction is none of `push / pop / call / ret`, does not write `rsp`, and
    every `rsp`-relative memory operand addresses a slot of the spill area (`0 ≤ disp`, `disp + 8 ≤
    SPILL_SPACE = 2048`, 8-aligned);
    `plainInt code` — moreover it has no memory operand with another base register, is not an indirect
    jump / jump-table entry / `lea`, and does not jump to `asm_main`.
  * `CCShape plain body` — `body` is a sequence of plain instructions and of whole print blocks
    `printI64 nl t ctx` whose argument `t` is the `Snd` temporary of a variable of `ctx` (`PrintSrc`).
  * `compile_ccShape`     every compiled body is `CCShape plainCC` (no hypothesis on the program: the
    capacity check is the success of the compiler);
    `compile_ccShape_int` the body of an integer program (`IntProgC`) is `CCShape plainInt`.
  Proof: the generic lifting of Scc/Backend/ProofsShape.lean; that a method emits only plain instructions is
  read off its form (`Mem.items_*` of Scc/X86/CodeBlk.lean for code.rs, `Mem.blk_*` of Scc/X86/MemBlk.lean for
  memory.rs).
-/
import Scc.Backend.ProofsShape
import Scc.Backend.ProofsBlocks
import Scc.X86.ProofsWfProg
import Scc.X86.ProofsPrint
import Scc.X86.MemBlk
import Scc.X86.CodeBlk

namespace Scc.X86

open Scc.AxCut
open Scc.Backend (GenM TempNum freshLabel)
open Scc.Backend.Shape (OpsShape IntProgC IntStmtC AllExt LabOK labOK_def labOK_cleanup labOK_fresh)

def codeWrites : Code → List Nat
  | .ADD r _ | .ADDRM r _ _ | .ADDI r _ | .SUB r _ | .SUBRM r _ _ | .SUBI r _ | .IMUL r _
  | .IMULRM r _ _ => [r]
  | .IDIV _ | .IDIVM _ _ => [4, 5]
  | .CQO => [5]
  | .LEAL r _ | .MOV r _ | .MOVL r _ _ | .MOVI r _ => [r]
  | .PUSH _ => [0]
  | .POP r => [0, r]
  | _ => []

/-- the memory operands `[base + disp]` of an instruction (read or written) -/
def codeMems : Code → List (Nat × Int)
  | .ADDRM _ b i | .SUBRM _ b i | .IMULRM _ b i | .MOVS _ b i | .MOVL _ b i | .CMPRM _ b i => [(b, i)]
  | .ADDMR b i _ | .SUBMR b i _ | .IMULMR b i _ | .CMPMR b i _ | .IDIVM b i => [(b, i)]
  | .ADDIM b i _ | .MOVIM b i _ | .CMPIM b i _ => [(b, i)]
  | _ => []

/-- `disp` addresses a word of the spill area `[rsp, rsp + SPILL_SPACE)` -/
def slotOK (i : Int) : Bool := decide (0 ≤ i) && decide (i + 8 ≤ 2048) && decide (i % 8 = 0)

/-- the instructions that move `rsp` implicitly or leave the routine -/
def isStackOp : Code → Bool
  | .PUSH _ | .POP _ | .CALL _ | .RET => true
  | _ => false

/-- target of a direct jump (not jump-table entries) -/
def codeJumpRef : Code → Option String
  | .JMPL l | .JEL l | .JNEL l | .JLL l | .JLEL l | .JGL l | .JGEL l => some l
  | _ => none

/-- a PLAIN instruction: no push / pop / call / ret, `rsp` is not written, `rsp`-relative operands stay
    inside the spill area -/
def plainCC (c : Code) : Bool :=
  !isStackOp c && (codeWrites c).all (· != 0) && (codeMems c).all (fun bi => bi.1 != 0 || slotOK bi.2)

/-- indirect control / address-taking forms (only emitted for `switch` / `create` / `invoke`) -/
def isIndirect : Code → Bool
  | .JMP _ | .JMPLN _ | .LEAL _ _ => true
  | _ => false

/-- a plain instruction of an INTEGER program: all memory operands are spill slots, control is
    direct and never goes back to the routine entry -/
def plainInt (c : Code) : Bool :=
  plainCC c && (codeMems c).all (fun bi => bi.1 == 0) && !isIndirect c &&
    (match codeJumpRef c with
     | some l => l != "asm_main"
     | none => true)

theorem plainCC_of_plainInt {c : Code} (h : plainInt c = true) : plainCC c = true := by
  simp only [plainInt, Bool.and_eq_true] at h
  exact h.1.1.1

theorem slotOK_stackOffset {p : Nat} (hp : p < 256) : slotOK (stackOffset p) = true := by
  rw [stackOffset_eq]
  simp only [slotOK, Bool.and_eq_true, decide_eq_true_eq]
  omega

/-- the argument of a print block: the `Snd` temporary of a variable of the context -/
def PrintSrc (ctx : Ctx) (t : Temporary) : Prop :=
  ∃ pos, pos < ctx.length ∧ temporaryFromPosition (2 * pos + 1) = .ok t

/-- a sequence of plain instructions and whole print blocks -/
inductive CCShape (plain : Code → Bool) : List Code → Prop where
  | nil : CCShape plain []
  | plain {c : Code} {rest : List Code} : plain c = true → CCShape plain rest → CCShape plain (c :: rest)
  | print {nl : Bool} {t : Temporary} {ctx : Ctx} {rest : List Code} :
      PrintSrc ctx t → CCShape plain rest → CCShape plain (printI64 nl t ctx ++ rest)

def PrintBlk (b : List Code) : Prop := ∃ nl t ctx, PrintSrc ctx t ∧ b = printI64 nl t ctx

/-- `CCShape` is the generic shape (Scc/Backend/ProofsBlocks.lean) with the print blocks as blocks -/
theorem CCShape.toShape {plain : Code → Bool} {l : List Code} (h : CCShape plain l) :
    Scc.Backend.Blocks.Shape plain PrintBlk l := by
  induction h with
  | nil => exact .nil
  | plain hc _ ih => exact .plain hc ih
  | print hs _ ih => exact .block ⟨_, _, _, hs, rfl⟩ ih

theorem CCShape.ofShape {plain : Code → Bool} {l : List Code} (h : Scc.Backend.Blocks.Shape plain PrintBlk l) :
    CCShape plain l := by
  induction h with
  | nil => exact .nil
  | plain hc _ ih => exact .plain hc ih
  | block hb _ ih => obtain ⟨nl, t, ctx, hs, rfl⟩ := hb; exact .print hs ih

theorem CCShape.append {plain : Code → Bool} {a b : List Code} (ha : CCShape plain a) (hb : CCShape plain b) :
    CCShape plain (a ++ b) := .ofShape (ha.toShape.append hb.toShape)

theorem CCShape.ofAll {plain : Code → Bool} {l : List Code} (h : l.all plain = true) : CCShape plain l :=
  .ofShape (.ofAll h)

theorem CCShape.mono {p q : Code → Bool} (hpq : ∀ c, p c = true → q c = true) {l : List Code}
    (h : CCShape p l) : CCShape q l := .ofShape (h.toShape.mono hpq)

theorem CCShape.printBlock {plain : Code → Bool} {nl : Bool} {t : Temporary} {ctx : Ctx} (h : PrintSrc ctx t) :
    CCShape plain (printI64 nl t ctx) := by
  have := CCShape.print (plain := plain) (nl := nl) h CCShape.nil
  simpa using this

theorem ctxPosition_lt : ∀ (ctx : Ctx) (id k pos : Nat), ctxPosition ctx id k = some pos →
    k ≤ pos ∧ pos < k + ctx.length
  | [], _, _, _, h => by simp [ctxPosition] at h
  | b :: bs, id, k, pos, h => by
    simp only [ctxPosition] at h
    split at h
    · cases h; simp
    · have := ctxPosition_lt bs id (k + 1) pos h
      simp only [List.length_cons]; omega

theorem post_variableTemporary_src (ctx : Ctx) (id : Nat) :
    Post (variableTemporary .snd ctx id) (PrintSrc ctx) := by
  unfold variableTemporary
  split
  · rename_i pos hpos
    have := ctxPosition_lt ctx id 0 pos hpos
    exact Post.liftE fun t h => ⟨pos, by omega, by simpa [TempNum.toNat] using h⟩
  · exact Post.throw

theorem PrintSrc.tempOK {ctx : Ctx} {t : Temporary} (h : PrintSrc ctx t) :
    TempOK t ∧ ∀ r, t = .reg r → r < 2 * ctx.length + 4 := by
  obtain ⟨pos, hpos, ht⟩ := h
  unfold temporaryFromPosition at ht
  dsimp only at ht
  have hR : RESERVED = 4 := rfl
  have hN : REGISTER_NUM = 16 := rfl
  have hS : RESERVED_SPILLS = 1 := rfl
  have hM : SPILL_NUM = 256 := rfl
  by_cases h1 : 2 * pos + 1 + RESERVED < REGISTER_NUM
  · rw [if_pos h1] at ht; cases ht
    refine ⟨⟨by omega, by omega⟩, fun r hr => ?_⟩
    cases hr; omega
  · rw [if_neg h1] at ht
    by_cases h2 : 2 * pos + 1 + RESERVED - REGISTER_NUM + RESERVED_SPILLS < SPILL_NUM
    · rw [if_pos h2] at ht; cases ht
      exact ⟨⟨by omega, by omega⟩, fun r hr => by cases hr⟩
    · rw [if_neg h2] at ht; cases ht

section Methods

abbrev AllInt (l : List Code) : Prop := l.all plainInt = true

theorem allInt_append {a b : List Code} (ha : AllInt a) (hb : AllInt b) : AllInt (a ++ b) := by
  unfold AllInt at *; rw [List.all_append, ha, hb]; rfl

theorem labOK_ne {l : String} (h : l ≠ "asm_main") : (l != "asm_main") = true := by
  simpa using h

theorem allInt_single {c : Code} (h : plainInt c = true) : AllInt [c] := by
  simp [AllInt, h]

theorem allInt_condJump (sort : IfSort) {l : String} (hl : l ≠ "asm_main") : AllInt [condJump sort l] := by
  cases sort <;> simp [AllInt, condJump, plainInt, plainCC, isStackOp, codeWrites, codeMems, isIndirect,
    codeJumpRef, hl]

abbrev AllCC (l : List Code) : Prop := l.all plainCC = true

theorem allCC_append {a b : List Code} (ha : AllCC a) (hb : AllCC b) : AllCC (a ++ b) := by
  unfold AllCC at *; rw [List.all_append, ha, hb]; rfl

/-- `HEAP` and `FREE` written out, for `plc`; Scc/X86/MemProofsHeap.lean, which this file does not import, has
the same equations as `HEAP_eq`, `FREE_eq` -/
theorem HEAP_eq2 : HEAP = 2 := rfl
theorem FREE_eq2 : FREE = 3 := rfl

/-- `plc` closes `AllCC l` for a concrete instruction list `l`: it unfolds `AllCC`, `plainCC` and the functions
it is made of, rewrites the reserved registers and `stackOffset`, and leaves range conditions on operands to
`omega`; the `*` hands `simp` the bounds on registers and spill positions from the context. -/
macro "plc" : tactic =>
  `(tactic| (simp [AllCC, plainCC, isStackOp, codeWrites, codeMems,
      STACK_eq, TEMP_eq, RETURN1_eq, RETURN2_eq, HEAP_eq2, FREE_eq2, slotOK_stackOffset, OpndOK, *] <;> omega))

theorem plainCC_LAB (m : String) : plainCC (.LAB m) = true := rfl

theorem allCC_jump {t : Temporary} (ht : OpndOK t) : AllCC (jump t) := by
  cases t <;> simp only [OpndOK] at ht <;> simp only [jump] <;> plc

theorem allCC_loadLabel {t : Temporary} (ht : OpndOK t) (l : String) : AllCC (loadLabel t l) := by
  cases t <;> simp only [OpndOK] at ht <;> simp only [loadLabel] <;> plc

theorem allCC_addAndJump {t : Temporary} (ht : OpndOK t) (k : Int) : AllCC (addAndJump t k) := by
  cases t <;> simp only [OpndOK] at ht <;> simp only [addAndJump] <;> plc

abbrev PostCC (m : GenM (List Code)) : Prop := Post m AllCC

theorem memOK_plain {b : Nat} {i : Int} (h : Mem.MemOK b i) : (b != 0 || slotOK i) = true := by
  rcases h with ⟨hb, p, hp, hi⟩ | ⟨hb, _⟩
  · rw [hi, slotOK_stackOffset hp]; simp
  · have h1 : 1 ≤ b := hb.1
    have : b ≠ 0 := by omega
    simp [this]

theorem Mem.Leaf.plainCC {rok iok : Prop} {c : Code} (h : Mem.Leaf rok iok c) (o : rok) : plainCC c = true := by
  cases h with
  | com _ => rfl
  | instr hf ho _ =>
    have ho := ho o
    have hw : ∀ {r : Nat}, Mem.RegOK r → (r != 0) = true := fun {r} h => by
      have h1 : 1 ≤ r := h.1
      have : r ≠ 0 := by omega
      simp [this]
    cases c with
    | ADDI r i => simp [X86.plainCC, isStackOp, codeWrites, codeMems, hw ho]
    | ADDIM b i v => simpa [X86.plainCC, isStackOp, codeWrites, codeMems] using memOK_plain ho
    | MOV r r1 => simp [X86.plainCC, isStackOp, codeWrites, codeMems, hw ho.1]
    | MOVS r b i => simpa [X86.plainCC, isStackOp, codeWrites, codeMems] using memOK_plain ho.2
    | MOVL r b i => simpa [X86.plainCC, isStackOp, codeWrites, codeMems, hw ho.1] using memOK_plain ho.2
    | MOVI r v => simp [X86.plainCC, isStackOp, codeWrites, codeMems, hw ho]
    | MOVIM b i v => simpa [X86.plainCC, isStackOp, codeWrites, codeMems] using memOK_plain ho
    | CMPI r i => simp [X86.plainCC, isStackOp, codeWrites, codeMems]
    | CMPIM b i v => simpa [X86.plainCC, isStackOp, codeWrites, codeMems] using memOK_plain ho
    | ADD r r1 | SUB r r1 | IMUL r r1 => simp [X86.plainCC, isStackOp, codeWrites, codeMems, hw ho.1]
    | ADDRM r b i | SUBRM r b i | IMULRM r b i =>
      simpa [X86.plainCC, isStackOp, codeWrites, codeMems, hw ho.1] using memOK_plain ho.2
    | ADDMR b i r | SUBMR b i r | CMPMR b i r =>
      simpa [X86.plainCC, isStackOp, codeWrites, codeMems] using memOK_plain ho.1
    | CMP r r1 => simp [X86.plainCC, isStackOp, codeWrites, codeMems]
    | CMPRM r b i => simpa [X86.plainCC, isStackOp, codeWrites, codeMems] using memOK_plain ho.2
    | CQO | IDIV r => simp [X86.plainCC, isStackOp, codeWrites, codeMems]
    | IDIVM b i => simpa [X86.plainCC, isStackOp, codeWrites, codeMems] using memOK_plain ho
    | _ => cases hf

theorem Mem.Blk.allCC {rok iok : Prop} {l : List Code} (h : Mem.Blk rok iok l) (o : rok) : AllCC l :=
  List.all_eq_true.2 (Scc.Backend.Blk.forall (fun _ hl => hl.plainCC o) (fun _ _ _ => rfl) (fun _ => rfl)
    (fun _ => rfl) h)

theorem Mem.Leaf.plainInt {rok iok : Prop} {c : Code} (h : Mem.Leaf rok iok c) (o : rok) (hs : Mem.Slots c) :
    plainInt c = true := by
  have hcc := h.plainCC o
  cases h with
  | com _ => rfl
  | instr hf _ _ =>
    cases c <;> first
      | (cases hf; done)
      | (simp [X86.plainInt, hcc, codeMems, isIndirect, codeJumpRef]; done)
      | (simp only [Mem.Slots] at hs; obtain ⟨rfl, _⟩ := hs
         simp [X86.plainInt, hcc, codeMems, isIndirect, codeJumpRef] <;> rfl)

/-- code of the form of code.rs (Scc/X86/CodeBlk.lean) -/
theorem Mem.CItems.allInt {rok iok : Prop} {l : List Code} (h : Mem.CItems rok iok l) (o : rok) : AllInt l :=
  List.all_eq_true.2 fun c hc => (h c hc).1.plainInt o ((h c hc).2 o)

theorem allInt_compare {a b : Temporary} (ha : OpndOK a) (hb : OpndOK b) : AllInt (compare a b) :=
  (Mem.items_compare (iok := True) a b).allInt ⟨tok_of_opndOK ha, tok_of_opndOK hb⟩

theorem allInt_compareImmediate {a : Temporary} (ha : OpndOK a) (i : Int) : AllInt (compareImmediate a i) :=
  (Mem.items_compareImmediate a i).allInt (tok_of_opndOK ha)

theorem allInt_jumpLabelIf (sort : IfSort) {a b : Temporary} (ha : OpndOK a) (hb : OpndOK b) {l : String}
    (hl : l ≠ "asm_main") : AllInt (jumpLabelIf sort a b l) :=
  allInt_append (allInt_compare ha hb) (allInt_condJump sort hl)

theorem allInt_jumpLabelIfZero (sort : IfSort) {a : Temporary} (ha : OpndOK a) {l : String}
    (hl : l ≠ "asm_main") : AllInt (jumpLabelIfZero sort a l) :=
  allInt_append (allInt_compareImmediate ha 0) (allInt_condJump sort hl)

theorem allInt_loadImmediate {t : Temporary} (ht : OpndOK t) (n : Int) : AllInt (loadImmediate t n) :=
  (Mem.items_loadImmediate t n).allInt (tok_of_opndOK ht)

/-- all five operators; the `imul [mem], reg` of an aliased multiplication addresses a spill slot, too -/
theorem allInt_binop (o : BinOp) {t s1 s2 : Temporary} (ht : OpndOK t) (h1 : OpndOK s1) (h2 : OpndOK s2) :
    AllInt (binop o t s1 s2) :=
  List.all_eq_true.2 fun c hc => by
    have ok : Mem.TOK t ∧ Mem.TOK s1 ∧ Mem.TOK s2 := ⟨tok_of_opndOK ht, tok_of_opndOK h1, tok_of_opndOK h2⟩
    rcases Mem.items_binop_or (iok := True) o t s1 s2 c hc with h | ⟨p, r, rfl, hp⟩
    · exact h.1.plainInt ok (h.2 ok)
    · simp [X86.plainInt, X86.plainCC, isStackOp, codeWrites, codeMems, isIndirect, codeJumpRef, STACK_eq,
        slotOK_stackOffset (hp ok)]

theorem allInt_mov {t s : Temporary} (ht : OpndOK t) (hs : OpndOK s) : AllInt (mov t s) :=
  (Mem.items_mov (iok := True) t s).allInt ⟨tok_of_opndOK ht, tok_of_opndOK hs⟩

theorem allInt_storeTemporary {t : Temporary} (ht : OpndOK t) (sp : Bool) : AllInt (storeTemporary t sp) :=
  (Mem.items_storeTemporary (iok := True) t sp).allInt (tok_of_opndOK ht)

theorem allInt_restoreTemporary {t : Temporary} (ht : OpndOK t) (sp : Bool) : AllInt (restoreTemporary t sp) :=
  (Mem.items_restoreTemporary (iok := True) t sp).allInt (tok_of_opndOK ht)

theorem postCC_store (toStore ctx : Ctx) : PostCC (store toStore ctx) :=
  fun _ _ _ h => (Mem.blk_store toStore ctx h).allCC trivial

theorem postCC_load (toLoad ctx : Ctx) : PostCC (load toLoad ctx) :=
  fun _ _ _ h => (Mem.blk_load toLoad ctx h).allCC trivial

theorem postCC_eraseBlock {t : Temporary} (ht : OpndOK t) : PostCC (eraseBlock t) :=
  fun _ _ _ h => (Mem.blk_eraseBlock t h).allCC ht

theorem postCC_shareBlockN {t : Temporary} (ht : OpndOK t) (n : Nat) : PostCC (shareBlockN t n) :=
  fun _ _ _ h => (Mem.blk_shareBlockN t n h).allCC ht

end Methods

/-- ONE instance of the generic lifting for both notions of plain instruction.  `plain` is any notion that
`plainInt` implies and that `plainCC` implies as soon as the methods of non-integer programs are reached (`mem`):
`plainInt` itself with `mem := False` (integer programs), `plainCC` with `mem := True` (all programs).  Every
method an integer program reaches emits plain instructions of integer programs, except `print_i64`, which emits
one print block; the others emit `plainCC` instructions. -/
theorem opsShape_x86 {plain : Code → Bool} {mem : Prop} (hi : ∀ c, plainInt c = true → plain c = true)
    (hm : mem → ∀ c, plainCC c = true → plain c = true) :
    OpsShape x86Backend (CCShape plain) OpndOK PrintSrc LabOK mem :=
  have ofI : ∀ {l : List Code}, AllInt l → CCShape plain l := fun h => (CCShape.ofAll h).mono hi
  have ofC : mem → ∀ {l : List Code}, AllCC l → CCShape plain l := fun m _ h => (CCShape.ofAll h).mono (hm m)
  { nil := .nil
    append := CCShape.append
    temp := opndOK_temp
    return1 := (⟨by decide, by decide⟩ : OpndOK (.reg RETURN1))
    vt := post_variableTemporary
    vtSrc := post_variableTemporary_src
    labDef := labOK_def
    labCleanup := labOK_cleanup
    labFresh := labOK_fresh
    comment := fun _ => ofI rfl
    label := fun _ => ofI rfl
    jumpLabel := fun l hl => ofI (by
      show AllInt [Code.JMPL l]
      simp [AllInt, plainInt, plainCC, isStackOp, codeWrites, codeMems, isIndirect, codeJumpRef]
      exact hl)
    jumpLabelIf := fun s _ _ _ ha hb hl => ofI (allInt_jumpLabelIf s ha hb hl)
    jumpLabelIfZero := fun s _ _ ha hl => ofI (allInt_jumpLabelIfZero s ha hl)
    loadImmediate := fun _ n ht => ofI (allInt_loadImmediate ht n)
    binop := fun o _ _ _ ht h1 h2 => ofI (allInt_binop o ht h1 h2)
    mov := fun _ _ ht hs => ofI (allInt_mov ht hs)
    printI64 := fun nl _ ctx _ hs => Post.pure (CCShape.printBlock hs)
    storeTemporary := fun _ sp ht => ofI (allInt_storeTemporary ht sp)
    restoreTemporary := fun _ sp ht => ofI (allInt_restoreTemporary ht sp)
    jump := fun m _ ht => ofC m (allCC_jump ht)
    jumpLabelFixed := fun m l => ofC m (by show AllCC [Code.JMPLN l]; rfl)
    loadLabel := fun m _ l ht => ofC m (allCC_loadLabel ht l)
    addAndJump := fun m _ k ht => ofC m (allCC_addAndJump ht k)
    eraseBlock := fun m _ ht => (postCC_eraseBlock ht).mono fun _ => ofC m
    shareBlockN := fun m _ n ht => (postCC_shareBlockN ht n).mono fun _ => ofC m
    store := fun m a b => (postCC_store a b).mono fun _ => ofC m
    load := fun m a b => (postCC_load a b).mono fun _ => ofC m }

/-- the shape of a compiled body, for every notion of plain instruction that `opsShape_x86` serves -/
theorem compile_shape {plain : Code → Bool} {mem : Prop} (hi : ∀ c, plainInt c = true → plain c = true)
    (hm : mem → ∀ c, plainCC c = true → plain c = true) {p : AxCut.Prog} (hp : mem ∨ IntProgC p) {hooks : Bool}
    {c0 : Nat} {body : List Code} {nargs : Nat} (h : compileX86 p hooks c0 = .ok (body, nargs)) :
    CCShape plain body := by
  unfold compileX86 at h
  split at h
  · cases h
  · rename_i r c' hr
    cases h
    exact Scc.Backend.Shape.post_compileR (opsShape_x86 hi hm) hooks Scc.Backend.natRen p hp c0 _ c' hr

/-- C13, static part: the SHAPE of every compiled body: plain instructions and whole print blocks.  No
    hypothesis on the program: capacity = the compiler succeeds. -/
theorem compile_ccShape {p : AxCut.Prog} {hooks : Bool} {c0 : Nat} {body : List Code} {nargs : Nat}
    (h : compileX86 p hooks c0 = .ok (body, nargs)) : CCShape plainCC body :=
  compile_shape (fun _ => plainCC_of_plainInt) (fun _ _ => id) (Or.inl trivial) h

/-- the same for integer programs, with the stronger notion of plain instruction -/
theorem compile_ccShape_int {p : AxCut.Prog} (hp : IntProgC p) {hooks : Bool} {c0 : Nat} {body : List Code}
    {nargs : Nat} (h : compileX86 p hooks c0 = .ok (body, nargs)) : CCShape plainInt body :=
  compile_shape (fun _ => id) False.elim (Or.inr hp) h

end Scc.X86
