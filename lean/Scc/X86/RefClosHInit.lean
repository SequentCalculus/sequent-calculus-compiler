/-
  Scc.X86.RefClosHInit — the initial state WITH THE HEAP: `init_sim3` is `init_sim` (RefInit.lean) extended by
  the heap view after the prologue (`HeapRel` with nothing written, HEAP = heap base, FREE = heap base + 64:
  the initial state of the block-level heap model).  It also says that none of the states of the header is at
  a `#ctx` comment (`MidS`; `noCtx_moveArguments`).  Both read the one walk through the header,
  `header_exec` (RefInit.lean).  The three-way relation at this state: `x3_init` (RefClosHRun.lean).
-/
import Scc.X86.RefClosHCall
import Scc.X86.RefInit

namespace Scc.X86.Ref.K

open Scc.Backend Scc.Backend.Abs
open Scc.Heap (HState InvS InvW)
open Scc.Heap.Refine (HRef)

theorem plain_moveArguments : ∀ (n : Nat) {moves : List Code}, moveArguments n = .ok moves → Plain moves
  | 0, moves, h => by
    simp only [moveArguments, Except.ok.injEq] at h
    subst h; plain_items
  | 1, moves, h => by
    simp only [moveArguments] at h
    split at h
    · simp only [Except.ok.injEq] at h
      subst h; plain_items
    · cases h
  | n + 2, moves, h => by
    simp only [moveArguments] at h
    split at h
    · cases h
    · split at h
      · rename_i rest hrest
        simp only [Except.ok.injEq] at h
        subst h
        exact Plain.append (by plain_items) (plain_moveArguments (n + 1) hrest)
      · cases h

theorem noCtx_moveArguments (n : Nat) {moves : List Code} (h : moveArguments n = .ok moves) : NoCtx moves :=
  (plain_moveArguments n h).noCtx

/-- `init_sim` with the heap view -/
theorem init_sim3 {mon : MonCfg} (MO : MachOK mon.mach) {p : Prog}
    {routine body : List Code} {args : List Word} (hn : args.length ≤ 5)
    (hr : intoRoutine body args.length = .ok routine) (L : Loaded p routine) :
    ∃ (hdr : List Code) (F : Frame) (h : Word) (st0' : State) (k : Nat) (st2 : State),
      routine = hdr ++ body ++ cleanup ∧ labs hdr = ["asm_main"] ∧ labIdx routine "asm_main" = some 6 ∧
      F.c = mon.mach ∧ FrameOK F ∧ EntryFacts F st0' h ∧
      stepN mon p k (initState mon.mach args 6) = .inl st2 ∧ st2.pc = hdr.length ∧
      RepX86 F .normal (initConfig 0 args) st2 ∧
      HeapRel F.c st2 (Scc.Heap.init F.c.heapBase (F.c.heapBase + F.c.heapBytes)) ∧
      MidS mon p routine k (initState mon.mach args 6) := by
  obtain ⟨moves, ⟨c, m, s1⟩, k1, k2, st2, hm, hcs, hidx, hF, HF, E, hk1, hB, hk2, R, hmem, hheap, hfree⟩ :=
    header_exec MO hn hr L
  subst hF
  have hcs1 : routine = [Code.COMMENT "asmsyntax=nasm", .NOEXECSTACK, .TEXT, .EXTERN "print_i64",
      .EXTERN "println_i64", .GLOBAL "asm_main"] ++ Code.LAB "asm_main" ::
      ((prologue ++ moves ++ [Code.COMMENT "actual code"]) ++ (body ++ cleanup)) := by
    rw [hcs]; simp [header]
  have hcs2 : routine = ([Code.COMMENT "asmsyntax=nasm", .NOEXECSTACK, .TEXT, .EXTERN "print_i64",
      .EXTERN "println_i64", .GLOBAL "asm_main"] ++ [Code.LAB "asm_main"]) ++
      (prologue ++ moves ++ [Code.COMMENT "actual code"]) ++ (body ++ cleanup) := by
    rw [hcs1]; simp
  have hhb : mon.mach.heapBase + 64 < 2 ^ 64 := by
    have := MO.cfg.heapBelow; have := MO.room; have := MO.cfg.top; omega
  refine ⟨header moves, _, _, _, 1 + _, setPS st2 (header moves).length k2, hcs, labs_header hn hm, hidx, rfl, HF, E,
    by rw [stepN_add mon p 1 _ _ _ (by rw [stepN_one]; exact hk1)]; exact hk2, rfl, R.setPS _ _,
    ⟨rfl, rfl, ?_, ⟨_, hheap, ?_⟩, ⟨_, hfree, ?_⟩⟩, ?_⟩
  · -- the heap: nothing written
    intro a
    show Scc.Heap.Mem.empty.get a = (st2.heapMem.getD a 0).toNat
    rw [hmem]
    simp [Scc.Heap.Mem.empty, Scc.Heap.Mem.get]
  · show (BitVec.ofNat 64 mon.mach.heapBase).toNat = mon.mach.heapBase
    simp [BitVec.toNat_ofNat, Nat.mod_eq_of_lt (show mon.mach.heapBase < 2 ^ 64 by omega)]
  · show (BitVec.ofNat 64 mon.mach.heapBase + 64).toNat = mon.mach.heapBase + Scc.Heap.blockSize
    simp only [BitVec.toNat_add, BitVec.toNat_ofNat, Scc.Heap.blockSize]
    rw [Nat.mod_eq_of_lt (show mon.mach.heapBase < 2 ^ 64 by omega)]
    have : (64 : BitVec 64).toNat = 64 := rfl
    rw [this, Nat.mod_eq_of_lt hhb]
  · exact MidS.trans (midS_one (not_ctxAt_of_split hcs1 rfl (not_isCtx_of_noComment rfl)))
      ((stepN_one mon p _).trans hk1)
      (midS_straight mon L ⟨_, body ++ cleanup, hcs2, rfl⟩ hB
        (NoCtx.append (NoCtx.append (by unfold prologue; nc) (noCtx_moveArguments _ hm)) (by nc)))

end Scc.X86.Ref.K
