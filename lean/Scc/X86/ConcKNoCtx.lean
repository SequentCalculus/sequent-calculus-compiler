/-
  Scc.X86.ConcKNoCtx — NO `#ctx` COMMENT INSIDE THE CODE OF A STATEMENT (what the heap monitor along the run,
  Scc/X86/ConcKMRun.lean, needs of the program text): the only comments of the emitted routine that the heap
  monitor's parser accepts (`parseCtx msg ≠ none`, i.e. the text starts with `#ctx [`) are the `verif_hooks`
  comments at the START of the code of a statement.  Every other comment the generators emit is a literal that
  starts differently (`##store values`, `#load tag`, `else branch`, …), a literal followed by a number or a name
  (`#####check child 3 for erasure`, `#erase x`), or a statement comment (`let x: T = K(...)`, `lit n <- 5;`, …; the
  two that start with a NAME — `f(...)` of a call and `x <- a + b;` of an operation — need that the name does not
  start with `#`: `HashFree`).  The parser rejects a text whose first character is not `#` or whose second is not
  `c`; `Plain` (no comment that starts with `#c`) holds of the code of the methods of code.rs and, through
  `Mem.Blk`, of memory.rs, and `NoCtx` of every block the x86-64 backend methods return is its corollary, as is the
  check of the hooks of a whole routine from the program (Props/C09X86Mon.lean `C09_hooksOneVar_routine`).
  The declarations are in the namespace `Scc.X86.Ref`, next to `NoCtx` and `IsCtx` (Scc/X86/ConcKMid.lean).
-/
import Scc.AxCut.PosHered
import Scc.X86.ConcKMid
import Scc.X86.ProofsWfAll
import Scc.X86.MemBlk
import Scc.X86.CodeBlk

namespace Scc.X86.Ref

open Scc.AxCut Scc.Backend

theorem ctxPrefix_toList : "#ctx [".toList = ['#', 'c', 't', 'x', ' ', '['] := String.toList_ofList

theorem parseCtx_none_of_head {msg : String} (h : msg.toList.head? ≠ some '#') : parseCtx msg = none := by
  unfold parseCtx
  rw [ctxPrefix_toList]
  cases hm : msg.toList with
  | nil => simp [dropPrefix?]
  | cons c cs =>
    rw [hm] at h
    have : '#' ≠ c := by intro e; apply h; rw [← e]; rfl
    simp [dropPrefix?, this]

theorem parseCtx_none_of_second {msg : String} (h : msg.toList[1]? ≠ some 'c') : parseCtx msg = none := by
  unfold parseCtx
  rw [ctxPrefix_toList]
  cases hm : msg.toList with
  | nil => simp [dropPrefix?]
  | cons c cs =>
    cases cs with
    | nil => by_cases e : '#' = c <;> simp [dropPrefix?, e]
    | cons d ds =>
      rw [hm] at h
      have : 'c' ≠ d := by intro e; apply h; rw [← e]; rfl
      by_cases e : '#' = c <;> simp [dropPrefix?, e, this]

/-! A string literal IS `String.ofList` of its characters, so the literal comments of the generators are matched
against `String.ofList (c :: l)` and `String.toList_ofList` gives their characters: nothing evaluates a string. -/

theorem head_lit_ne_hash (c : Char) (l : List Char) (hc : c ≠ '#') :
    (String.ofList (c :: l)).toList.head? ≠ some '#' := by
  rw [String.toList_ofList]
  exact fun e => hc (Option.some.inj e)

theorem head_lit_append_ne_hash (c : Char) (l : List Char) (b : String) (hc : c ≠ '#') :
    (String.ofList (c :: l) ++ b).toList.head? ≠ some '#' := by
  rw [String.toList_append, String.toList_ofList]
  exact fun e => hc (Option.some.inj e)

theorem not_isCtx_lit_head (c : Char) (l : List Char) (b : String) (hc : c ≠ '#') :
    ¬ IsCtx (.COMMENT (String.ofList (c :: l) ++ b)) :=
  not_isCtx_comment (parseCtx_none_of_head (head_lit_append_ne_hash c l b hc))

theorem not_isCtx_lit (l : List Char) (h : l.head? ≠ some '#' ∨ l[1]? ≠ some 'c') :
    ¬ IsCtx (.COMMENT (String.ofList l)) := by
  rcases h with h | h
  · exact not_isCtx_comment (parseCtx_none_of_head (by rwa [String.toList_ofList]))
  · exact not_isCtx_comment (parseCtx_none_of_second (by rwa [String.toList_ofList]))

def noComment : Code → Bool
  | .COMMENT _ => false
  | _ => true

theorem not_isCtx_of_noComment {c : Code} (h : noComment c = true) : ¬ IsCtx c := by
  apply not_isCtx_of_ne
  intro m e
  subst e
  cases h

/-- closes `¬ IsCtx c` for one explicit item `c`: `not_isCtx_of_noComment rfl` if `c` is not a comment (`noComment c`
evaluates to `true`), else `not_isCtx_lit _ (by decide)` for a comment whose text is a literal list of characters:
`decide` reads off that the first character is not `#` or the second is not `c` -/
macro "nc_item" : tactic => `(tactic| first
  | exact not_isCtx_of_noComment rfl
  | exact not_isCtx_lit _ (by decide))

/-- closes `NoCtx l` for a list `l` written with explicit items, `::`, `++`, `if`/`match` and sublists whose `NoCtx`
is a hypothesis: it repeats, on every open goal, the first that applies of `assumption`, `nc_item` (a goal about one
item), `NoCtx.nil`, `NoCtx.append`, `NoCtx.cons` (one goal per part) and `split` (one goal per branch); goals it
cannot close are left -/
macro "nc" : tactic => `(tactic| repeat (first
  | assumption
  | nc_item
  | exact NoCtx.nil
  | apply NoCtx.append
  | apply NoCtx.cons
  | split))

/-! ## code.rs: instruction sequences

The methods of code.rs emit instructions and a few literal comments, none of which starts with `#c`: `Plain`.
Neither the heap monitor (`NoCtx`) nor a check of the hooks of a routine (`ConcK.hooksOneVar`) reacts to
such an item. -/

def PlainItem (c : Code) : Prop :=
  ∀ msg, c = .COMMENT msg → msg.toList.head? ≠ some '#' ∨ msg.toList[1]? ≠ some 'c'

structure Plain (l : List Code) : Prop where
  all : ∀ c ∈ l, PlainItem c

theorem PlainItem.not_isCtx {c : Code} (h : PlainItem c) : ¬ IsCtx c := by
  rintro ⟨msg, rfl, hm⟩
  exact hm ((h msg rfl).elim parseCtx_none_of_head parseCtx_none_of_second)

theorem Plain.noCtx {l : List Code} (h : Plain l) : NoCtx l := ⟨fun c hc => (h.all c hc).not_isCtx⟩

theorem Plain.nil : Plain [] := ⟨fun _ h => by cases h⟩

theorem Plain.append {a b : List Code} (ha : Plain a) (hb : Plain b) : Plain (a ++ b) :=
  ⟨fun c hc => (List.mem_append.1 hc).elim (ha.all c) (hb.all c)⟩

theorem Plain.cons {c : Code} {l : List Code} (hc : PlainItem c) (hl : Plain l) : Plain (c :: l) :=
  ⟨fun x hx => (List.mem_cons.1 hx).elim (fun e => e ▸ hc) (hl.all x)⟩

theorem plainItem_of_noComment {c : Code} (h : noComment c = true) : PlainItem c := by
  intro m e; subst e; cases h

theorem plainItem_lit (l : List Char) (h : l.head? ≠ some '#' ∨ l[1]? ≠ some 'c') :
    PlainItem (.COMMENT (String.ofList l)) := by
  intro m e
  injection e with e
  subst e
  rwa [String.toList_ofList]

/-- `nc_item` for `PlainItem c`: `plainItem_of_noComment rfl` for an item that is not a comment, else `plainItem_lit
_ (by decide)` for a comment whose text is a literal list of characters that does not start with `#c` -/
macro "pl_item" : tactic => `(tactic| first
  | exact plainItem_of_noComment rfl
  | exact plainItem_lit _ (by decide))

/-- `nc` for `Plain l`: repeats `assumption`, `pl_item`, `Plain.nil`, `Plain.append`, `Plain.cons`, `split` on a list
written with explicit items, `::`, `++`, conditionals and sublists known to be `Plain` -/
macro "plain_items" : tactic => `(tactic| repeat (first
  | assumption
  | pl_item
  | exact Plain.nil
  | apply Plain.append
  | apply Plain.cons
  | split))

theorem plain_of_all {l : List Code} (h : l.all noComment = true) : Plain l :=
  ⟨fun c hc => plainItem_of_noComment (List.all_eq_true.1 h c hc)⟩

/-- a `Leaf` is no `#ctx` hook: the second character of its comments is not a `c` -/
theorem _root_.Scc.X86.Mem.Leaf.plain {rok iok : Prop} {c : Code} (h : Mem.Leaf rok iok c) : PlainItem c := by
  cases h with
  | com hm => exact fun m e => by injection e with e; subst e; exact Or.inr hm.2
  | instr hf _ _ => exact fun m e => by subst e; cases hf

theorem _root_.Scc.X86.Mem.Blk.plain {rok iok : Prop} {l : List Code} (h : Mem.Blk rok iok l) : Plain l :=
  ⟨Scc.Backend.Blk.forall (fun _ hl => hl.plain) (fun _ _ _ => plainItem_of_noComment rfl)
    (fun _ => plainItem_of_noComment rfl) (fun _ => plainItem_of_noComment rfl) h⟩

theorem _root_.Scc.X86.Mem.Blk.noCtx {rok iok : Prop} {l : List Code} (h : Mem.Blk rok iok l) : NoCtx l :=
  h.plain.noCtx

theorem _root_.Scc.X86.Mem.CItems.plain {rok iok : Prop} {l : List Code} (h : Mem.CItems rok iok l) : Plain l :=
  ⟨fun c hc => (h c hc).1.plain⟩

theorem pl_binop (o : BinOp) (t s1 s2 : Temporary) : Plain (binop o t s1 s2) :=
  ⟨fun c hc => by
    rcases Mem.items_binop_or (iok := True) o t s1 s2 c hc with h | ⟨_, _, rfl, _⟩
    · exact h.1.plain
    · exact plainItem_of_noComment rfl⟩

theorem pl_mov (t s : Temporary) : Plain (mov t s) := (Mem.items_mov (iok := True) t s).plain

theorem pl_compare (a b : Temporary) : Plain (compare a b) := (Mem.items_compare (iok := True) a b).plain

theorem pl_compareImmediate (t : Temporary) (i : Int) : Plain (compareImmediate t i) :=
  (Mem.items_compareImmediate t i).plain

theorem plainItem_condJump (s : IfSort) (l : String) : PlainItem (condJump s l) := by
  cases s <;> exact plainItem_of_noComment rfl

theorem pl_jumpLabelIf (s : IfSort) (a b : Temporary) (l : String) : Plain (jumpLabelIf s a b l) :=
  (pl_compare a b).append (Plain.cons (plainItem_condJump s l) Plain.nil)

theorem pl_jumpLabelIfZero (s : IfSort) (a : Temporary) (l : String) : Plain (jumpLabelIfZero s a l) :=
  (pl_compareImmediate a 0).append (Plain.cons (plainItem_condJump s l) Plain.nil)

theorem pl_loadImmediate (t : Temporary) (n : Int) : Plain (loadImmediate t n) := (Mem.items_loadImmediate t n).plain

theorem pl_loadLabel (t : Temporary) (l : String) : Plain (loadLabel t l) := by
  cases t <;> exact plain_of_all rfl

theorem pl_jump (t : Temporary) : Plain (jump t) := by
  cases t <;> exact plain_of_all rfl

theorem pl_addAndJump (t : Temporary) (i : Int) : Plain (addAndJump t i) := by
  cases t <;> exact plain_of_all rfl

theorem pl_storeTemporary (t : Temporary) (b : Bool) : Plain (storeTemporary t b) :=
  (Mem.items_storeTemporary (iok := True) t b).plain

theorem pl_restoreTemporary (t : Temporary) (b : Bool) : Plain (restoreTemporary t b) :=
  (Mem.items_restoreTemporary (iok := True) t b).plain

theorem pl_map_noComment {α : Type} (f : α → Code) (h : ∀ a, noComment (f a) = true) (l : List α) :
    Plain (l.map f) := by
  apply plain_of_all
  rw [List.all_eq_true]
  intro c hc
  obtain ⟨a, _, rfl⟩ := List.mem_map.1 hc
  exact h a

theorem pl_printI64 (nl : Bool) (t : Temporary) (ctx : Ctx) : Plain (printI64 nl t ctx) :=
  ⟨fun c hc => (Mem.items_printI64 nl t ctx c hc).elim (·.plain)
    (fun h => by cases h <;> exact plainItem_of_noComment rfl)⟩

theorem noCtx_binop (o : BinOp) (t s1 s2 : Temporary) : NoCtx (binop o t s1 s2) := (pl_binop o t s1 s2).noCtx
theorem noCtx_mov (t s : Temporary) : NoCtx (mov t s) := (pl_mov t s).noCtx
theorem noCtx_compare (a b : Temporary) : NoCtx (compare a b) := (pl_compare a b).noCtx
theorem noCtx_compareImmediate (t : Temporary) (i : Int) : NoCtx (compareImmediate t i) :=
  (pl_compareImmediate t i).noCtx
theorem not_isCtx_condJump (s : IfSort) (l : String) : ¬ IsCtx (condJump s l) := (plainItem_condJump s l).not_isCtx
theorem noCtx_loadImmediate (t : Temporary) (n : Int) : NoCtx (loadImmediate t n) := (pl_loadImmediate t n).noCtx
theorem noCtx_loadLabel (t : Temporary) (l : String) : NoCtx (loadLabel t l) := (pl_loadLabel t l).noCtx
theorem noCtx_jump (t : Temporary) : NoCtx (jump t) := (pl_jump t).noCtx
theorem noCtx_addAndJump (t : Temporary) (i : Int) : NoCtx (addAndJump t i) := (pl_addAndJump t i).noCtx
theorem noCtx_storeTemporary (t : Temporary) (b : Bool) : NoCtx (storeTemporary t b) := (pl_storeTemporary t b).noCtx
theorem noCtx_restoreTemporary (t : Temporary) (b : Bool) : NoCtx (restoreTemporary t b) :=
  (pl_restoreTemporary t b).noCtx
theorem noCtx_printI64 (nl : Bool) (t : Temporary) (ctx : Ctx) : NoCtx (printI64 nl t ctx) :=
  (pl_printI64 nl t ctx).noCtx
theorem noCtx_jumpLabelIf (s : IfSort) (a b : Temporary) (l : String) : NoCtx (jumpLabelIf s a b l) :=
  (pl_jumpLabelIf s a b l).noCtx
theorem noCtx_jumpLabelIfZero (s : IfSort) (a : Temporary) (l : String) : NoCtx (jumpLabelIfZero s a l) :=
  (pl_jumpLabelIfZero s a l).noCtx

theorem noCtx_store {toStore ctx : Ctx} {k k' : Nat} {code : List Code}
    (h : (store toStore ctx).run k = .ok (code, k')) : NoCtx code :=
  (Mem.blk_store toStore ctx h).noCtx

theorem noCtx_load {toLoad ctx : Ctx} {k k' : Nat} {code : List Code}
    (h : (load toLoad ctx).run k = .ok (code, k')) : NoCtx code :=
  (Mem.blk_load toLoad ctx h).noCtx

theorem noCtx_eraseBlock {t : Temporary} {k k' : Nat} {code : List Code}
    (h : (eraseBlock t).run k = .ok (code, k')) : NoCtx code := (Mem.blk_eraseBlock t h).noCtx

theorem noCtx_shareBlockN {t : Temporary} {n k k' : Nat} {code : List Code}
    (h : (shareBlockN t n).run k = .ok (code, k')) : NoCtx code := (Mem.blk_shareBlockN t n h).noCtx

/-- the statement comment behind the hook: the leading comments of the code of a statement, without the first
item, contain no `#ctx` comment -/
theorem noCtx_tail_hook (hooks : Bool) (Γ : Ctx) {msg : String} (h : ¬ IsCtx (.COMMENT msg)) :
    NoCtx (hookCode x86Backend hooks Γ ++ [x86Backend.comment msg]).tail := by
  unfold hookCode
  cases hooks
  · simp only [Bool.false_eq_true, if_false, List.nil_append, List.tail_cons]
    exact NoCtx.nil
  · simp only [if_true, List.cons_append, List.nil_append, List.tail_cons]
    exact NoCtx.cons h NoCtx.nil

theorem head_print_ne_hash {i : Ident} (h : HashFree i) : i.print.toList.head? ≠ some '#' := by
  unfold Ident.print
  unfold HashFree at h
  split
  · exact h
  · rw [String.toList_append, String.toList_append]
    cases hn : i.name.toList with
    | nil => simp
    | cons c cs => rw [hn] at h; simpa using h

theorem not_isCtx_name_first {i : Ident} (h : HashFree i) {rest : String} (hr : rest.toList.head? ≠ some '#') :
    ¬ IsCtx (.COMMENT (i.print ++ rest)) := by
  apply not_isCtx_comment
  apply parseCtx_none_of_head
  rw [String.toList_append]
  cases hp : i.print.toList with
  | nil => simpa using hr
  | cons c cs =>
    have := head_print_ne_hash h
    rw [hp] at this
    simpa using this

end Scc.X86.Ref
