/-
  Scc.A64.LoaderCheck — the DECIDABLE text-safety predicate `codeTextOK` of the AArch64 loader round trip
  (Props/C14LoaderA64.lean), its soundness w.r.t. the proof-side `CodeOK` (LoaderCode.lean), and the
  facts needed to establish it without evaluation:

  * `labelOK`, `labelDefOK`, `commentTextOK`, `nmA` (the strings of an item), `codeTextOK = regsOK && nmA`;
  * `codeOK_of_codeTextOK`, `progOK_of_codeTextOK` (soundness);
  * `commentTextOK_plain`, `commentTextOK_hook` (completeness of the hook-witness finder `hookVarsL` on
    the hook texts `hookText vs` with blank-free names), `ctxHookComment_eq`.
  The definitions are executable and kernel-reducible: `decide` evaluates them.
-/
import Scc.A64.LoaderText
import Scc.Backend.Generic

namespace Scc.A64

open Scc.A64.Loader Scc.Str

def labelOK (l : String) : Bool := !l.toList.isEmpty && l.toList.all labelC

def labelDefOK (l : String) : Bool :=
  labelOK l && l.toList.head? != some '.' && !(['/', '/'].isPrefixOf l.toList)

def kindOfL (k : List Char) : Option Kind :=
  if k = kindC .prd then some .prd else if k = kindC .cns then some .cns
  else if k = kindC .ext then some .ext else none

/-- witness finder for the hook form (only used to FIND the context; the check below compares the
    comment with the printed form of what was found) -/
def hookVarL (w : List Char) : Option (String × Kind) :=
  match (splitList ':' w).reverse with
  | k :: rest@(_ :: _) => (kindOfL k).map fun kd => (String.ofList ([':'].intercalate rest.reverse), kd)
  | _ => none

def hookVarsL (m : List Char) : Option (List (String × Kind)) :=
  ((splitList ' ' ((m.drop 6).dropLast)).filter (fun w => !w.isEmpty)).mapM hookVarL

def commentTextOK (m : String) : Bool :=
  m.toList.all (· != '\n') &&
  (!("#ctx [".toList.isPrefixOf m.toList) ||
    match hookVarsL m.toList with
    | some vs => m == hookText vs && vs.all (fun v => !v.1.toList.contains ' ')
    | none => false)

/-- the strings of one item are text-safe -/
def nmA : Code → Bool
  | .B l | .BL l | .ADR _ l | .BEQ l | .BNE l | .BLT l | .BLE l | .BGT l | .BGE l | .GLOBAL l => labelOK l
  | .LAB l => labelDefOK l
  | .COMMENT m => commentTextOK m
  | _ => true

/-- text-safety of one item: registers exist, labels and comments are text-safe -/
def codeTextOK (c : Code) : Bool := regsOK c && nmA c

theorem labelOK_sound {l : String} (h : labelOK l = true) : LabelOK l.toList := by
  simp only [labelOK, Bool.and_eq_true, Bool.not_eq_true', List.all_eq_true] at h
  exact ⟨fun e => by rw [e] at h; simp at h, h.2⟩

theorem labelDefOK_sound {l : String} (h : labelDefOK l = true) : LabelDefOK l.toList := by
  simp only [labelDefOK, Bool.and_eq_true, Bool.not_eq_true', bne_iff_ne, ne_eq] at h
  refine ⟨labelOK_sound h.1.1, h.1.2, ?_⟩
  intro hp
  have := List.isPrefixOf_iff_prefix.2 hp
  rw [this] at h; exact absurd h.2 (by simp)

theorem commentTextOK_sound {m : String} (h : commentTextOK m = true) :
    '\n' ∉ m.toList ∧ (commentPLine? m).isSome = true := by
  simp only [commentTextOK, Bool.and_eq_true, List.all_eq_true, bne_iff_ne, ne_eq, Bool.or_eq_true,
    Bool.not_eq_true'] at h
  refine ⟨fun hm => h.1 _ hm rfl, ?_⟩
  rcases h.2 with hp | hh
  · rw [commentPLine?_plain]; rfl
    intro hpre
    have := List.isPrefixOf_iff_prefix.2 hpre
    rw [this] at hp; cases hp
  · split at hh
    · rename_i vs _
      simp only [Bool.and_eq_true, beq_iff_eq, List.all_eq_true, Bool.not_eq_true'] at hh
      rw [hh.1, commentPLine?_hook vs (fun v hv hm => by
        have := hh.2 v hv
        simp at this
        exact this hm)]
      rfl
    · cases hh

theorem nmA_sound {c : Code} (h : nmA c = true) : CodeOK c := by
  refine ⟨?_, ?_, ?_⟩
  · intro l hl
    cases c <;> simp only [codeLabelRefs, List.mem_singleton, List.not_mem_nil] at hl <;>
      first | (subst hl; exact labelOK_sound h) | exact hl.elim
  · intro l hl; subst hl; exact labelDefOK_sound h
  · intro m hm; subst hm; exact commentTextOK_sound h

theorem codeOK_of_codeTextOK {c : Code} (h : codeTextOK c = true) : regsOK c = true ∧ CodeOK c := by
  simp only [codeTextOK, Bool.and_eq_true] at h
  exact ⟨h.1, nmA_sound h.2⟩

theorem progOK_of_codeTextOK {cs : List Code} (h : ∀ c ∈ cs, codeTextOK c = true) : ProgOK cs :=
  fun c hc => codeOK_of_codeTextOK (h c hc)

def chiKind : Scc.AxCut.Chi → Kind
  | .prd => .prd | .cns => .cns | .ext => .ext

def ctxVars (ctx : Scc.AxCut.Ctx) : List (String × Kind) := ctx.map fun b => (b.var.print, chiKind b.chi)

theorem ctxHookComment_eq (ctx : Scc.AxCut.Ctx) : Scc.Backend.ctxHookComment ctx = hookText (ctxVars ctx) := by
  unfold Scc.Backend.ctxHookComment hookText ctxVars
  rw [List.map_map]
  congr 3
  apply List.map_congr_left
  intro b _
  cases hb : b.chi <;> simp [Function.comp, chiKind, hb, Scc.Backend.chiStr, kindStr, kindC] <;> rfl

/-! ## completeness of the comment check on the comments the backend emits -/

theorem commentTextOK_plain {m : String} (h1 : '\n' ∉ m.toList) (h2 : ¬ "#ctx [".toList <+: m.toList) :
    commentTextOK m = true := by
  simp only [commentTextOK, Bool.and_eq_true, List.all_eq_true, bne_iff_ne, ne_eq, Bool.or_eq_true,
    Bool.not_eq_true']
  refine ⟨fun c hc e => h1 (e ▸ hc), Or.inl ?_⟩
  cases hp : "#ctx [".toList.isPrefixOf m.toList with
  | false => rfl
  | true => exact absurd (List.isPrefixOf_iff_prefix.1 hp) h2

theorem kindOfL_kindC (k : Kind) : kindOfL (kindC k) = some k := by cases k <;> decide

theorem hookVarL_word (x : List Char) (k : Kind) :
    hookVarL (x ++ ':' :: kindC k) = some (String.ofList x, k) := by
  unfold hookVarL
  rw [splitList_append_sep', splitList_of_not_mem _ _ (kindC_no_colon k)]
  have hrev : (splitList ':' x ++ [kindC k]).reverse = kindC k :: (splitList ':' x).reverse := by simp
  rw [hrev]
  cases hq : (splitList ':' x).reverse with
  | nil => exact absurd (List.reverse_eq_nil_iff.1 hq) (splitList_ne_nil _ _)
  | cons q qs =>
    have hback : (q :: qs).reverse = splitList ':' x := by rw [← hq, List.reverse_reverse]
    simp only [kindOfL_kindC, Option.map_some]
    rw [hback, intercalate_splitList]

theorem hookText_inner (vs : List (String × Kind)) :
    ((hookText vs).toList.drop 6).dropLast = [' '].intercalate (vs.map hookWordC) := by
  rw [hookText_toList]
  have : ("#ctx [".toList ++ ([' '].intercalate (vs.map hookWordC) ++ [']'])).drop 6
      = [' '].intercalate (vs.map hookWordC) ++ [']'] := rfl
  rw [this, List.dropLast_concat]

theorem mapM_hookVarL (vs : List (String × Kind)) : (vs.map hookWordC).mapM hookVarL = some vs := by
  induction vs with
  | nil => rfl
  | cons v vs ih =>
    rw [List.map_cons, List.mapM_cons, hookWordC, hookVarL_word, ih, String.ofList_toList]
    rfl

theorem hookVarsL_hookText (vs : List (String × Kind)) (h : ∀ v ∈ vs, ' ' ∉ v.1.toList) :
    hookVarsL (hookText vs).toList = some vs := by
  unfold hookVarsL
  rw [hookText_inner]
  cases vs with
  | nil => rfl
  | cons v vs =>
    rw [List.map_cons, splitList_intercalate ' ' (hookWordC v) (vs.map hookWordC)]
    · rw [← List.map_cons]
      have hf : List.filter (fun w => !w.isEmpty) (List.map hookWordC (v :: vs)) = List.map hookWordC (v :: vs) := by
        apply List.filter_eq_self.2
        intro w hw
        obtain ⟨u, _, rfl⟩ := List.mem_map.1 hw
        simp [hookWordC]
      rw [hf, mapM_hookVarL]
    · intro x hx
      rw [← List.map_cons] at hx
      obtain ⟨w, hw, rfl⟩ := List.mem_map.1 hx
      intro hm
      simp only [hookWordC, List.mem_append, List.mem_cons] at hm
      rcases hm with hm | hm | hm
      · exact h w hw hm
      · exact absurd hm (by decide)
      · have hk : ∀ k, ' ' ∉ kindC k := by intro k; cases k <;> decide
        exact hk _ hm

/-- a hook text with blank-free, line-break-free names passes the comment check -/
theorem commentTextOK_hook (vs : List (String × Kind)) (h : ∀ v ∈ vs, ' ' ∉ v.1.toList)
    (hnl : '\n' ∉ (hookText vs).toList) : commentTextOK (hookText vs) = true := by
  simp only [commentTextOK, Bool.and_eq_true, List.all_eq_true, bne_iff_ne, ne_eq, Bool.or_eq_true,
    Bool.not_eq_true']
  refine ⟨fun c hc e => hnl (e ▸ hc), Or.inr ?_⟩
  rw [hookVarsL_hookText vs h]
  simp only [beq_self_eq_true, Bool.true_and, List.all_eq_true, Bool.not_eq_true']
  intro v hv
  have := h v hv
  simpa using this

end Scc.A64
