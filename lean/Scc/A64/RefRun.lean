/-
  Scc.A64.RefRun — Theorem B (AArch64) for whole runs: a terminating run `Abs.runFrom … = ⟨out, done v⟩`
  of the abstract backend machine from a represented configuration is reproduced by the AArch64 SPEC
  machine: finitely many iterations of the run loop lead to the final `RET` in a state whose exit check
  succeeds with the same result, and the traces agree.
-/
import Scc.A64.RefStep

namespace Scc.A64.Ref

open Scc.Backend Scc.Backend.Abs Scc.Backend.Sim Scc.A64.CC

section Run

variable {c : MemCfg} (H : CfgCC c) {hk : Code → Bool} {P : Prog}
  {ops : List MockOp} {cs hdr body : List Code}
  (Hp : Holds hk P cs) (hcs : cs = hdr ++ body ++ cleanup) (W : Seg .normal ops body .normal)
  (hnodup : (labelNames ops).Nodup) (hhdr : ∀ n ∈ labelNames ops, n ∉ labs hdr)
  (hclean : "cleanup" ∉ labs hdr ++ labelNames ops)

include H Hp hcs W hnodup hhdr hclean in
/-- THEOREM B for runs: a terminating run of the abstract machine from a represented configuration is
    reproduced by the AArch64 machine -/
theorem abs_run_sim : ∀ (n : Nat) (cfg : Config) (g : Mode) (σ : State) (out : List (Bool × Word)) (k : Nat)
    (outF : List (Bool × Word)) (v : Word), RepA64 c g cfg σ out → At ops cs cfg.pc k g →
    Abs.runFrom (Program.ofOps ops) n cfg = ⟨outF, .done v⟩ →
    ∃ kL σL outL, MSteps P c σ (pcOf hk cs k) out σL (pcOf hk cs kL) outL ∧
      P.items[pcOf hk cs kL]? = some (.instr .ret) ∧ exitCheck c σL = .done v ∧ outL.reverse = outF
  | 0, cfg, g, σ, out, k, outF, v, R, A, hr => by simp [Abs.runFrom] at hr
  | n + 1, cfg, g, σ, out, k, outF, v, R, A, hr => by
    simp only [Abs.runFrom] at hr
    cases hs : Abs.step (Program.ofOps ops) cfg with
    | halt r =>
      simp only [hs, Behaviour.mk.injEq] at hr
      obtain ⟨ho, hres⟩ := hr
      subst hres
      obtain ⟨kL, σL, hk', hret, hx, hout⟩ := sim_halt H Hp hcs W hnodup hclean hs R A
      exact ⟨kL, σL, out, hk', hret, hx, by rw [hout, ho]⟩
    | next cfg' =>
      simp only [hs] at hr
      obtain ⟨k', σ', out', g', hk1, R', A'⟩ := sim_step H Hp hcs W hnodup hhdr hs R A
      obtain ⟨kL, σL, outL, hk2, hret, hx, hout⟩ := abs_run_sim n cfg' g' σ' out' k' outF v R' A' hr
      exact ⟨kL, σL, outL, hk1.trans hk2, hret, hx, hout⟩

end Run

end Scc.A64.Ref
