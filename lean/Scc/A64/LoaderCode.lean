/-
  Scc.A64.LoaderCode — the loader reads every printed item of the AArch64 backend back, for EVERY constructor
  of `Scc.A64.Code`.  An instruction item is printed as the text `instrText i` of its machine instruction
  (`toInstr_text`), which `parseInstr` reads as `i` (`parseInstr_text`, LoaderInstr.lean): `reads_instr`.
  `LAB l` prints as an empty line and `l:`; `.text`, `.global l` are directives; `COMMENT msg` is read as
  `commentPLine? msg` (comment / hook).  `parse_codeLines` collects this per item; `roundTrips_of_ok`: the
  executable check `Code.roundTrips` of the test driver is true on every text-safe item.

  `CodeOK c`: referenced labels (`B BL ADR Bcc .global`) are non-empty and contain no white space and
  none of `, : [ ] !`; a defined label (`LAB`) moreover does not start with `.` or `//`; a comment has
  no line break and is not a malformed `#ctx [` hook.
-/
import Scc.A64.LoaderInstr

namespace Scc.A64.Loader

open Scc.Str

set_option linter.unusedSimpArgs false

/-- decidable form of `MnOK` for the closed mnemonics (it also rules out `:`, which `MnOK` does not ask) -/
def mnCheck (mn : List Char) : Bool :=
  !mn.isEmpty && mn.all (fun c => c != ' ' && !c.isWhitespace && c != '/' && c != '.' && c != ':')

theorem mnOK_of_check {mn : List Char} (h : mnCheck mn = true) : MnOK mn := by
  simp only [mnCheck, Bool.and_eq_true, Bool.not_eq_true', List.all_eq_true, bne_iff_ne, ne_eq] at h
  refine ⟨fun e => by rw [e] at h; simp at h, fun c hc => ?_⟩
  obtain ⟨⟨⟨⟨a, b⟩, c'⟩, d⟩, _⟩ := h.2 c hc
  exact ⟨a, b, c', d⟩

theorem nl_of_ws {l : List Char} (h : ∀ c ∈ l, c.isWhitespace = false) : '\n' ∉ l :=
  fun hm => absurd (h _ hm) (by decide)

theorem nl_regC (r : Reg) : '\n' ∉ regC r := fun hm => (regC_chars r _ hm).2.2.2.1 rfl
theorem nl_immC (i : Int) : '\n' ∉ immC i := fun hm => (immC_chars i _ hm).2.2.2 rfl
theorem nl_label {l : List Char} (h : LabelOK l) : '\n' ∉ l := fun hm => (labelC_facts (h.2 _ hm)).2.2.2.1 rfl

theorem nl_ops2 {a b : List Char} (ha : '\n' ∉ a) (hb : '\n' ∉ b) : '\n' ∉ ops2 a b := by
  simp [ops2, ha, hb]
theorem nl_ops3 {a b c : List Char} (ha : '\n' ∉ a) (hb : '\n' ∉ b) (hc : '\n' ∉ c) : '\n' ∉ ops3 a b c := by
  simp [ops3, ops2, ha, hb, hc]
theorem nl_ops4 {a b c d : List Char} (ha : '\n' ∉ a) (hb : '\n' ∉ b) (hc : '\n' ∉ c) (hd : '\n' ∉ d) :
    '\n' ∉ ops4 a b c d := by
  simp [ops4, ops3, ops2, ha, hb, hc, hd]
theorem nl_opsWide {a b c : List Char} (ha : '\n' ∉ a) (hb : '\n' ∉ b) (hc : '\n' ∉ c) : '\n' ∉ opsWide a b c := by
  simp [opsWide, ha, hb, hc]
theorem nl_opsMem {a b c : List Char} (ha : '\n' ∉ a) (hb : '\n' ∉ b) (hc : '\n' ∉ c) : '\n' ∉ opsMem a b c := by
  simp [opsMem, ha, hb, hc]
theorem nl_opsStp {a b c d : List Char} (ha : '\n' ∉ a) (hb : '\n' ∉ b) (hc : '\n' ∉ c) (hd : '\n' ∉ d) :
    '\n' ∉ opsStp a b c d := by
  simp [opsStp, ha, hb, hc, hd]
theorem nl_opsLdp {a b c d : List Char} (ha : '\n' ∉ a) (hb : '\n' ∉ b) (hc : '\n' ∉ c) (hd : '\n' ∉ d) :
    '\n' ∉ opsLdp a b c d := by
  simp [opsLdp, ha, hb, hc, hd]

theorem endOK_ops2 {a b : List Char} (hb : EndOK b) : EndOK (ops2 a b) :=
  endOK_append (endOK_cons (endOK_cons hb))
theorem endOK_ops3 {a b c : List Char} (hc : EndOK c) : EndOK (ops3 a b c) :=
  endOK_append (endOK_cons (endOK_cons (endOK_ops2 hc)))
theorem endOK_ops4 {a b c d : List Char} (hd : EndOK d) : EndOK (ops4 a b c d) :=
  endOK_append (endOK_cons (endOK_cons (endOK_ops3 hd)))
theorem endOK_opsWide {a b c : List Char} (hc : EndOK c) : EndOK (opsWide a b c) :=
  endOK_append (endOK_cons (endOK_cons (endOK_append (endOK_cons (endOK_cons (endOK_cons (endOK_cons
    (endOK_cons (endOK_cons hc)))))))))
theorem endOK_brk : EndOK [' ', ']'] := ⟨by simp, by decide⟩
theorem endOK_brkbang : EndOK [' ', ']', '!'] := ⟨by simp, by decide⟩
theorem endOK_opsMem {a b c : List Char} : EndOK (opsMem a b c) :=
  endOK_append (endOK_cons (endOK_cons (endOK_cons (endOK_cons (endOK_append (endOK_cons (endOK_cons
    (endOK_append endOK_brk))))))))
theorem endOK_opsStp {a b c d : List Char} : EndOK (opsStp a b c d) :=
  endOK_append (endOK_cons (endOK_cons (endOK_append (endOK_cons (endOK_cons (endOK_cons (endOK_cons
    (endOK_append (endOK_cons (endOK_cons (endOK_append endOK_brkbang)))))))))))
theorem endOK_opsLdp {a b c d : List Char} (hd : EndOK d) : EndOK (opsLdp a b c d) :=
  endOK_append (endOK_cons (endOK_cons (endOK_append (endOK_cons (endOK_cons (endOK_cons (endOK_cons
    (endOK_append (endOK_cons (endOK_cons (endOK_cons (endOK_cons hd))))))))))))

/-- the printed item is ONE line that the loader reads as the instruction `i` -/
def Reads (c : Code) (i : Instr) : Prop :=
  parseLine (printCode c) = some (.instr i) ∧ '\n' ∉ (printCode c).toList

theorem instr_line {c : Code} {mn ops : List Char} {i : Instr}
    (hs : (printCode c).toList = ' ' :: ' ' :: ' ' :: ' ' :: (mn ++ ' ' :: ops)) (hmn : MnOK mn)
    (hops : EndOK ops) (hnl : '\n' ∉ ops)
    (hi : parseInstr (String.ofList mn) (String.ofList ops) = some i) : Reads c i := by
  refine ⟨parseLine_instr hs hmn hops hi, ?_⟩
  rw [hs]
  have hmnl : '\n' ∉ mn := nl_of_ws (fun c hc => (hmn.2 c hc).2.1)
  simp [hmnl, hnl]

/-- the labels an item REFERS to (or declares global) -/
def codeLabelRefs : Code → List String
  | .B l | .BL l | .ADR _ l | .BEQ l | .BNE l | .BLT l | .BLE l | .BGT l | .BGE l | .GLOBAL l => [l]
  | _ => []

/-- text-safety of the strings of an item: the labels it refers to, the label it defines, its comment -/
structure CodeOK (c : Code) : Prop where
  refs : ∀ l ∈ codeLabelRefs c, LabelOK l.toList
  defs : ∀ l, c = .LAB l → LabelDefOK l.toList
  comment : ∀ m, c = .COMMENT m → '\n' ∉ m.toList ∧ (commentPLine? m).isSome = true

/-- the registers of the item exist: its label is one it refers to, and it is printed as the mnemonic and
    operand text of its instruction -/
theorem toInstr_text {c : Code} {i : Instr} (h : c.toInstr = some i) :
    (∀ l, instrLabel? i = some l → l ∈ codeLabelRefs c) ∧ (i ≠ .ret → (printCode c).toList =
      ' ' :: ' ' :: ' ' :: ' ' :: ((instrText i).1.toList ++ ' ' :: (instrText i).2)) := by
  cases c with
  | ADD x y z =>
    simp only [Code.toInstr, Option.bind_eq_bind, Option.pure_def, Option.bind_eq_some_iff, Option.some.injEq] at h
    obtain ⟨x', hx, y', hy, z', hz, rfl⟩ := h
    refine ⟨(fun _ e => nomatch e), fun _ => ?_⟩
    show ("    ADD " ++ x.print ++ ", " ++ y.print ++ ", " ++ z.print).toList = _
    rw [print_toReg hx, print_toReg hy, print_toReg hz]
    simp [instrText, ops2, ops3, ops4, opsWide, opsMem, opsStp, opsLdp, String.toList_append]
  | ADDI x y i =>
    simp only [Code.toInstr, Option.bind_eq_bind, Option.pure_def, Option.bind_eq_some_iff, Option.some.injEq] at h
    obtain ⟨x', hx, y', hy, rfl⟩ := h
    refine ⟨(fun _ e => nomatch e), fun _ => ?_⟩
    show ("    ADD " ++ x.print ++ ", " ++ y.print ++ ", " ++ immPrint i).toList = _
    rw [print_toReg hx, print_toReg hy, immPrint_eq i]
    simp [instrText, ops2, ops3, ops4, opsWide, opsMem, opsStp, opsLdp, String.toList_append]
  | SUB x y z =>
    simp only [Code.toInstr, Option.bind_eq_bind, Option.pure_def, Option.bind_eq_some_iff, Option.some.injEq] at h
    obtain ⟨x', hx, y', hy, z', hz, rfl⟩ := h
    refine ⟨(fun _ e => nomatch e), fun _ => ?_⟩
    show ("    SUB " ++ x.print ++ ", " ++ y.print ++ ", " ++ z.print).toList = _
    rw [print_toReg hx, print_toReg hy, print_toReg hz]
    simp [instrText, ops2, ops3, ops4, opsWide, opsMem, opsStp, opsLdp, String.toList_append]
  | SUBI x y i =>
    simp only [Code.toInstr, Option.bind_eq_bind, Option.pure_def, Option.bind_eq_some_iff, Option.some.injEq] at h
    obtain ⟨x', hx, y', hy, rfl⟩ := h
    refine ⟨(fun _ e => nomatch e), fun _ => ?_⟩
    show ("    SUB " ++ x.print ++ ", " ++ y.print ++ ", " ++ immPrint i).toList = _
    rw [print_toReg hx, print_toReg hy, immPrint_eq i]
    simp [instrText, ops2, ops3, ops4, opsWide, opsMem, opsStp, opsLdp, String.toList_append]
  | MUL x y z =>
    simp only [Code.toInstr, Option.bind_eq_bind, Option.pure_def, Option.bind_eq_some_iff, Option.some.injEq] at h
    obtain ⟨x', hx, y', hy, z', hz, rfl⟩ := h
    refine ⟨(fun _ e => nomatch e), fun _ => ?_⟩
    show ("    MUL " ++ x.print ++ ", " ++ y.print ++ ", " ++ z.print).toList = _
    rw [print_toReg hx, print_toReg hy, print_toReg hz]
    simp [instrText, ops2, ops3, ops4, opsWide, opsMem, opsStp, opsLdp, String.toList_append]
  | SDIV x y z =>
    simp only [Code.toInstr, Option.bind_eq_bind, Option.pure_def, Option.bind_eq_some_iff, Option.some.injEq] at h
    obtain ⟨x', hx, y', hy, z', hz, rfl⟩ := h
    refine ⟨(fun _ e => nomatch e), fun _ => ?_⟩
    show ("    SDIV " ++ x.print ++ ", " ++ y.print ++ ", " ++ z.print).toList = _
    rw [print_toReg hx, print_toReg hy, print_toReg hz]
    simp [instrText, ops2, ops3, ops4, opsWide, opsMem, opsStp, opsLdp, String.toList_append]
  | MSUB x y z v =>
    simp only [Code.toInstr, Option.bind_eq_bind, Option.pure_def, Option.bind_eq_some_iff, Option.some.injEq] at h
    obtain ⟨x', hx, y', hy, z', hz, v', hv, rfl⟩ := h
    refine ⟨(fun _ e => nomatch e), fun _ => ?_⟩
    show ("    MSUB " ++ x.print ++ ", " ++ y.print ++ ", " ++ z.print ++ ", " ++ v.print).toList = _
    rw [print_toReg hx, print_toReg hy, print_toReg hz, print_toReg hv]
    simp [instrText, ops2, ops3, ops4, opsWide, opsMem, opsStp, opsLdp, String.toList_append]
  | B l =>
    cases h
    refine ⟨fun _ e => by cases e; exact List.mem_singleton.2 rfl, fun _ => ?_⟩
    show ("    B " ++ l).toList = _
    simp [instrText, condMn, String.toList_append]
  | BR r =>
    simp only [Code.toInstr, Option.bind_eq_bind, Option.pure_def, Option.bind_eq_some_iff, Option.some.injEq] at h
    obtain ⟨r', hr, rfl⟩ := h
    refine ⟨(fun _ e => nomatch e), fun _ => ?_⟩
    show ("    BR " ++ r.print).toList = _
    rw [print_toReg hr]
    simp [instrText, ops2, ops3, ops4, opsWide, opsMem, opsStp, opsLdp, String.toList_append]
  | BL l =>
    cases h
    refine ⟨fun _ e => by cases e; exact List.mem_singleton.2 rfl, fun _ => ?_⟩
    show ("    BL " ++ l).toList = _
    simp [instrText, condMn, String.toList_append]
  | ADR r l =>
    simp only [Code.toInstr, Option.bind_eq_bind, Option.pure_def, Option.bind_eq_some_iff, Option.some.injEq] at h
    obtain ⟨r', hr, rfl⟩ := h
    refine ⟨fun _ e => by cases e; exact List.mem_singleton.2 rfl, fun _ => ?_⟩
    show ("    ADR " ++ r.print ++ ", " ++ l).toList = _
    rw [print_toReg hr]
    simp [instrText, ops2, ops3, ops4, opsWide, opsMem, opsStp, opsLdp, String.toList_append]
  | MOVR x y =>
    simp only [Code.toInstr, Option.bind_eq_bind, Option.pure_def, Option.bind_eq_some_iff, Option.some.injEq] at h
    obtain ⟨x', hx, y', hy, rfl⟩ := h
    refine ⟨(fun _ e => nomatch e), fun _ => ?_⟩
    show ("    MOV " ++ x.print ++ ", " ++ y.print).toList = _
    rw [print_toReg hx, print_toReg hy]
    simp [instrText, ops2, ops3, ops4, opsWide, opsMem, opsStp, opsLdp, String.toList_append]
  | MOVZ r i s =>
    simp only [Code.toInstr, Option.bind_eq_bind, Option.pure_def, Option.bind_eq_some_iff, Option.some.injEq] at h
    obtain ⟨r', hr, rfl⟩ := h
    refine ⟨(fun _ e => nomatch e), fun _ => ?_⟩
    show ("    MOVZ " ++ r.print ++ ", " ++ immPrint i ++ ", LSL " ++ immPrint s).toList = _
    rw [print_toReg hr, immPrint_eq i, immPrint_eq s]
    simp [instrText, ops2, ops3, ops4, opsWide, opsMem, opsStp, opsLdp, String.toList_append]
  | MOVN r i s =>
    simp only [Code.toInstr, Option.bind_eq_bind, Option.pure_def, Option.bind_eq_some_iff, Option.some.injEq] at h
    obtain ⟨r', hr, rfl⟩ := h
    refine ⟨(fun _ e => nomatch e), fun _ => ?_⟩
    show ("    MOVN " ++ r.print ++ ", " ++ immPrint i ++ ", LSL " ++ immPrint s).toList = _
    rw [print_toReg hr, immPrint_eq i, immPrint_eq s]
    simp [instrText, ops2, ops3, ops4, opsWide, opsMem, opsStp, opsLdp, String.toList_append]
  | MOVK r i s =>
    simp only [Code.toInstr, Option.bind_eq_bind, Option.pure_def, Option.bind_eq_some_iff, Option.some.injEq] at h
    obtain ⟨r', hr, rfl⟩ := h
    refine ⟨(fun _ e => nomatch e), fun _ => ?_⟩
    show ("    MOVK " ++ r.print ++ ", " ++ immPrint i ++ ", LSL " ++ immPrint s).toList = _
    rw [print_toReg hr, immPrint_eq i, immPrint_eq s]
    simp [instrText, ops2, ops3, ops4, opsWide, opsMem, opsStp, opsLdp, String.toList_append]
  | LDR r b i =>
    simp only [Code.toInstr, Option.bind_eq_bind, Option.pure_def, Option.bind_eq_some_iff, Option.some.injEq] at h
    obtain ⟨r', hr, b', hb, rfl⟩ := h
    refine ⟨(fun _ e => nomatch e), fun _ => ?_⟩
    show ("    LDR " ++ r.print ++ ", [ " ++ b.print ++ ", " ++ immPrint i ++ " ]").toList = _
    rw [print_toReg hr, print_toReg hb, immPrint_eq i]
    simp [instrText, ops2, ops3, ops4, opsWide, opsMem, opsStp, opsLdp, String.toList_append]
  | LDP_POST_INDEX r1 r2 b i =>
    simp only [Code.toInstr, Option.bind_eq_bind, Option.pure_def, Option.bind_eq_some_iff, Option.some.injEq] at h
    obtain ⟨r1', hr1, r2', hr2, b', hb, rfl⟩ := h
    refine ⟨(fun _ e => nomatch e), fun _ => ?_⟩
    show ("    LDP " ++ r1.print ++ ", " ++ r2.print ++ ", [ " ++ b.print ++ " ], " ++ immPrint i).toList = _
    rw [print_toReg hr1, print_toReg hr2, print_toReg hb, immPrint_eq i]
    simp [instrText, ops2, ops3, ops4, opsWide, opsMem, opsStp, opsLdp, String.toList_append]
  | STR r b i =>
    simp only [Code.toInstr, Option.bind_eq_bind, Option.pure_def, Option.bind_eq_some_iff, Option.some.injEq] at h
    obtain ⟨r', hr, b', hb, rfl⟩ := h
    refine ⟨(fun _ e => nomatch e), fun _ => ?_⟩
    show ("    STR " ++ r.print ++ ", [ " ++ b.print ++ ", " ++ immPrint i ++ " ]").toList = _
    rw [print_toReg hr, print_toReg hb, immPrint_eq i]
    simp [instrText, ops2, ops3, ops4, opsWide, opsMem, opsStp, opsLdp, String.toList_append]
  | STP_PRE_INDEX r1 r2 b i =>
    simp only [Code.toInstr, Option.bind_eq_bind, Option.pure_def, Option.bind_eq_some_iff, Option.some.injEq] at h
    obtain ⟨r1', hr1, r2', hr2, b', hb, rfl⟩ := h
    refine ⟨(fun _ e => nomatch e), fun _ => ?_⟩
    show ("    STP " ++ r1.print ++ ", " ++ r2.print ++ ", [ " ++ b.print ++ ", " ++ immPrint i ++ " ]!").toList = _
    rw [print_toReg hr1, print_toReg hr2, print_toReg hb, immPrint_eq i]
    simp [instrText, ops2, ops3, ops4, opsWide, opsMem, opsStp, opsLdp, String.toList_append]
  | CMPR x y =>
    simp only [Code.toInstr, Option.bind_eq_bind, Option.pure_def, Option.bind_eq_some_iff, Option.some.injEq] at h
    obtain ⟨x', hx, y', hy, rfl⟩ := h
    refine ⟨(fun _ e => nomatch e), fun _ => ?_⟩
    show ("    CMP " ++ x.print ++ ", " ++ y.print).toList = _
    rw [print_toReg hx, print_toReg hy]
    simp [instrText, ops2, ops3, ops4, opsWide, opsMem, opsStp, opsLdp, String.toList_append]
  | CMPI x i =>
    simp only [Code.toInstr, Option.bind_eq_bind, Option.pure_def, Option.bind_eq_some_iff, Option.some.injEq] at h
    obtain ⟨x', hx, rfl⟩ := h
    refine ⟨(fun _ e => nomatch e), fun _ => ?_⟩
    show ("    CMP " ++ x.print ++ ", " ++ immPrint i).toList = _
    rw [print_toReg hx, immPrint_eq i]
    simp [instrText, ops2, ops3, ops4, opsWide, opsMem, opsStp, opsLdp, String.toList_append]
  | BEQ l =>
    cases h
    refine ⟨fun _ e => by cases e; exact List.mem_singleton.2 rfl, fun _ => ?_⟩
    show ("    BEQ " ++ l).toList = _
    simp [instrText, condMn, String.toList_append]
  | BNE l =>
    cases h
    refine ⟨fun _ e => by cases e; exact List.mem_singleton.2 rfl, fun _ => ?_⟩
    show ("    BNE " ++ l).toList = _
    simp [instrText, condMn, String.toList_append]
  | BLT l =>
    cases h
    refine ⟨fun _ e => by cases e; exact List.mem_singleton.2 rfl, fun _ => ?_⟩
    show ("    BLT " ++ l).toList = _
    simp [instrText, condMn, String.toList_append]
  | BLE l =>
    cases h
    refine ⟨fun _ e => by cases e; exact List.mem_singleton.2 rfl, fun _ => ?_⟩
    show ("    BLE " ++ l).toList = _
    simp [instrText, condMn, String.toList_append]
  | BGT l =>
    cases h
    refine ⟨fun _ e => by cases e; exact List.mem_singleton.2 rfl, fun _ => ?_⟩
    show ("    BGT " ++ l).toList = _
    simp [instrText, condMn, String.toList_append]
  | BGE l =>
    cases h
    refine ⟨fun _ e => by cases e; exact List.mem_singleton.2 rfl, fun _ => ?_⟩
    show ("    BGE " ++ l).toList = _
    simp [instrText, condMn, String.toList_append]
  | RET => cases h; exact ⟨(fun _ e => nomatch e), fun hret => absurd rfl hret⟩
  | LAB _ | TEXT | GLOBAL _ | COMMENT _ => cases h

theorem instrText_mn (i : Instr) : MnOK (instrText i).1.toList := by
  cases i with
  | bcond c _ => cases c <;> exact mnOK_of_check (by simp only [instrText, condMn]; decide)
  | _ => exact mnOK_of_check (by simp only [instrText]; decide)

/-- the operand text ends in a character that is neither white space nor `:`, and has no line break -/
theorem instrText_ops : ∀ (i : Instr), (∀ l, instrLabel? i = some l → LabelOK l.toList) → i ≠ .ret →
    EndOK (instrText i).2 ∧ '\n' ∉ (instrText i).2
  | .add a b c, _, _ | .sub a b c, _, _ | .mul a b c, _, _ | .sdiv a b c, _, _ =>
    ⟨endOK_ops3 (endOK_regC c), nl_ops3 (nl_regC a) (nl_regC b) (nl_regC c)⟩
  | .addi a b i, _, _ | .subi a b i, _, _ => ⟨endOK_ops3 (endOK_immC i), nl_ops3 (nl_regC a) (nl_regC b) (nl_immC i)⟩
  | .msub a b c d, _, _ => ⟨endOK_ops4 (endOK_regC d), nl_ops4 (nl_regC a) (nl_regC b) (nl_regC c) (nl_regC d)⟩
  | .b l, h, _ | .bl l, h, _ | .bcond _ l, h, _ => ⟨endOK_label (h l rfl), nl_label (h l rfl)⟩
  | .br a, _, _ => ⟨endOK_regC a, nl_regC a⟩
  | .adr a l, h, _ => ⟨endOK_ops2 (endOK_label (h l rfl)), nl_ops2 (nl_regC a) (nl_label (h l rfl))⟩
  | .mov a b, _, _ | .cmp a b, _, _ => ⟨endOK_ops2 (endOK_regC b), nl_ops2 (nl_regC a) (nl_regC b)⟩
  | .movz a i s, _, _ | .movn a i s, _, _ | .movk a i s, _, _ =>
    ⟨endOK_opsWide (endOK_immC s), nl_opsWide (nl_regC a) (nl_immC i) (nl_immC s)⟩
  | .ldr t b i, _, _ | .str t b i, _, _ => ⟨endOK_opsMem, nl_opsMem (nl_regC t) (nl_regC b) (nl_immC i)⟩
  | .stpPre t1 t2 b i, _, _ => ⟨endOK_opsStp, nl_opsStp (nl_regC t1) (nl_regC t2) (nl_regC b) (nl_immC i)⟩
  | .ldpPost t1 t2 b i, _, _ =>
    ⟨endOK_opsLdp (endOK_immC i), nl_opsLdp (nl_regC t1) (nl_regC t2) (nl_regC b) (nl_immC i)⟩
  | .cmpi a i, _, _ => ⟨endOK_ops2 (endOK_immC i), nl_ops2 (nl_regC a) (nl_immC i)⟩
  | .ret, _, h => absurd rfl h

/-- every instruction item whose registers exist and whose labels are text-safe is read back as
    `Code.toInstr` says, and is printed on one line -/
theorem reads_instr (c : Code) (i : Instr) (h : c.toInstr = some i) (hok : CodeOK c) : Reads c i := by
  obtain ⟨hlab, htext⟩ := toInstr_text h
  have hl : ∀ l, instrLabel? i = some l → LabelOK l.toList := fun l e => hok.refs l (hlab l e)
  by_cases hr : i = .ret
  · subst hr
    cases c <;>
      simp only [Code.toInstr, Option.bind_eq_bind, Option.pure_def, Option.bind_eq_some_iff, Option.some.injEq,
        reduceCtorEq, exists_const, and_false, exists_false] at h
    refine ⟨parseLine_instr0 (mn := "RET".toList) rfl (mnOK_of_check (by decide)) (by decide) ?_, by decide⟩
    rw [String.ofList_toList]; exact parseInstr_text .ret hl
  · obtain ⟨he, hn⟩ := instrText_ops i hl hr
    refine instr_line (htext hr) (instrText_mn i) he hn ?_
    rw [String.ofList_toList]; exact parseInstr_text i hl

theorem parseLine_printCode (c : Code) (i : Instr) (h : c.toInstr = some i) (hok : CodeOK c) :
    parseLine (printCode c) = some (.instr i) := (reads_instr c i h hok).1

theorem reads_LAB (l : String) (h : CodeOK (.LAB l)) :
    printCode (.LAB l) = "\n" ++ (l ++ ":") ∧ parseLine (l ++ ":") = some (.label l) ∧
    parseLine (printCode (.LAB l)) = some (.label l) ∧ '\n' ∉ (l ++ ":").toList := by
  have hl := h.defs l rfl
  refine ⟨?_, ?_, ?_, ?_⟩
  · show "\n" ++ l ++ ":" = _
    apply String.ext; simp [String.toList_append]
  · have := parseLine_label (raw := l ++ ":") (l := l.toList) (by simp [String.toList_append]) hl
    rwa [String.ofList_toList] at this
  · have := parseLine_nl_label (raw := printCode (.LAB l)) (l := l.toList)
      (by show ("\n" ++ l ++ ":").toList = _; simp [String.toList_append]) hl
    rwa [String.ofList_toList] at this
  · have := nl_label hl.1
    simp [String.toList_append, this]

theorem reads_TEXT : parseLine (printCode .TEXT) = some .directive ∧ '\n' ∉ (printCode .TEXT).toList :=
  ⟨parseLine_text, by decide⟩

theorem reads_GLOBAL (l : String) (h : CodeOK (.GLOBAL l)) :
    parseLine (printCode (.GLOBAL l)) = some .directive ∧ '\n' ∉ (printCode (.GLOBAL l)).toList := by
  have hl : LabelOK l.toList := h.refs l (by simp [codeLabelRefs])
  have hs : (printCode (.GLOBAL l)).toList = ".global ".toList ++ l.toList := by
    show (".global " ++ l).toList = _; rw [String.toList_append]
  refine ⟨parseLine_global hs hl, ?_⟩
  rw [hs]
  have := nl_label hl
  intro hm
  rcases List.mem_append.1 hm with hm | hm
  · revert hm; decide
  · exact this hm

/-- a comment is read as `commentPLine?` says, for EVERY text -/
theorem reads_COMMENT_line (m : String) : parseLine (printCode (.COMMENT m)) = commentPLine? m :=
  parseLine_comment (by show ("    // " ++ m).toList = _; rw [String.toList_append]; rfl)

theorem nl_COMMENT (m : String) (h : '\n' ∉ m.toList) : '\n' ∉ (printCode (.COMMENT m)).toList := by
  show '\n' ∉ ("    // " ++ m).toList
  rw [String.toList_append]
  intro hm
  rcases List.mem_append.1 hm with hm | hm
  · revert hm; decide
  · exact h hm

/-- the lines a printed item occupies (a label: an empty line and `l:`; anything else: one line) -/
def codeLines : Code → List String
  | .LAB l => ["", l ++ ":"]
  | c => [printCode c]

/-- do the registers of an instruction item exist? -/
def regsOK : Code → Bool
  | .LAB _ | .TEXT | .GLOBAL _ | .COMMENT _ => true
  | c => c.toInstr.isSome

/-- what the loader reads the lines of an item as -/
def codePLines : Code → List PLine
  | .LAB l => [.blank, .label l]
  | .TEXT => [.directive]
  | .GLOBAL _ => [.directive]
  | .COMMENT m => [(commentPLine? m).getD .comment]
  | c => match c.toInstr with
    | some i => [.instr i]
    | none => []

theorem codeLines_ne_nil (c : Code) : codeLines c ≠ [] := by
  cases c <;> simp [codeLines]

theorem codeLines_of_not_lab {c : Code} (h : ∀ l, c ≠ .LAB l) : codeLines c = [printCode c] := by
  cases c <;> first | rfl | exact absurd rfl (h _)

theorem codePLines_instr {c : Code} {i : Instr} (h : c.toInstr = some i) : codePLines c = [.instr i] := by
  cases c <;> first | (simp [Code.toInstr] at h; done) | (simp only [codePLines, h])

theorem printCode_lines (c : Code) : printCode c = "\n".intercalate (codeLines c) := by
  by_cases h : ∃ l, c = .LAB l
  · obtain ⟨l, rfl⟩ := h
    show "\n" ++ l ++ ":" = "\n".intercalate ["", l ++ ":"]
    apply String.ext
    simp [String.toList_intercalate, String.toList_append, List.intercalate, List.intersperse]
  · rw [codeLines_of_not_lab (fun l e => h ⟨l, e⟩)]
    apply String.ext
    simp [String.toList_intercalate, List.intercalate, List.intersperse]

/-- THE PER-ITEM ROUND TRIP, all constructors: the lines of a text-safe item are single lines that the
    loader reads as `codePLines` -/
theorem parse_codeLines (c : Code) (hreg : regsOK c = true) (hok : CodeOK c) :
    (codeLines c).map parseLine = (codePLines c).map some ∧ ∀ l ∈ codeLines c, '\n' ∉ l.toList := by
  by_cases hlab : ∃ l, c = .LAB l
  · obtain ⟨l, rfl⟩ := hlab
    obtain ⟨_, h2, _, h4⟩ := reads_LAB l hok
    refine ⟨by simp [codeLines, codePLines, parseLine_empty, h2], ?_⟩
    intro x hx
    simp only [codeLines, List.mem_cons, List.not_mem_nil, or_false] at hx
    rcases hx with rfl | rfl
    · simp
    · exact h4
  · rw [codeLines_of_not_lab (fun l e => hlab ⟨l, e⟩)]
    cases hi : c.toInstr with
    | some i =>
      obtain ⟨h1, h2⟩ := reads_instr c i hi hok
      rw [codePLines_instr hi]
      exact ⟨by simp [h1], by simpa using h2⟩
    | none =>
      cases c with
      | LAB l => exact absurd ⟨l, rfl⟩ hlab
      | TEXT => exact ⟨by simp [codePLines, reads_TEXT.1], by simpa using reads_TEXT.2⟩
      | GLOBAL l =>
        obtain ⟨h1, h2⟩ := reads_GLOBAL l hok
        exact ⟨by simp [codePLines, h1], by simpa using h2⟩
      | COMMENT m =>
        obtain ⟨h1, h2⟩ := hok.comment m rfl
        refine ⟨?_, by simpa using nl_COMMENT m h1⟩
        cases hc : commentPLine? m with
        | none => rw [hc] at h2; cases h2
        | some p => simp [codePLines, reads_COMMENT_line, hc]
      | _ => simp [regsOK, hi] at hreg

/-! ## `Code.roundTrips` -/

theorem commentPLine?_cases (m : String) :
    commentPLine? m = none ∨ commentPLine? m = some .comment ∨ ∃ vs, commentPLine? m = some (.hook vs) := by
  unfold commentPLine?
  simp only []
  split
  · split
    · cases List.mapM parseHookVar (hookWords (rtrimList m.toList)) with
      | none => exact Or.inl rfl
      | some vs => exact Or.inr (Or.inr ⟨vs, rfl⟩)
    · exact Or.inl rfl
  · exact Or.inr (Or.inl rfl)

theorem reprStr_beq (i : Instr) : (reprStr i == reprStr i) = true := beq_self_eq_true _

/-- the executable per-instruction check of the test driver is TRUE on every text-safe item -/
theorem roundTrips_of_ok (c : Code) (hreg : regsOK c = true) (hok : CodeOK c) : c.roundTrips = true := by
  unfold Code.roundTrips
  rw [parseLine_trim]
  cases hi : c.toInstr with
  | some i =>
    have h1 := parseLine_printCode c i hi hok
    cases c <;> first | (simp [Code.toInstr] at hi; done) | (simp only [h1, hi, reprStr_beq])
  | none =>
    cases c with
    | LAB l => simp only [(reads_LAB l hok).2.2.1, beq_self_eq_true]
    | TEXT => simp only [reads_TEXT.1]
    | GLOBAL l => simp only [(reads_GLOBAL l hok).1]
    | COMMENT m =>
      obtain ⟨_, h2⟩ := hok.comment m rfl
      rw [reads_COMMENT_line]
      rcases commentPLine?_cases m with h | h | ⟨vs, h⟩
      · rw [h] at h2; cases h2
      · simp only [h]
      · simp only [h]
    | _ => simp [regsOK, hi] at hreg

end Scc.A64.Loader
