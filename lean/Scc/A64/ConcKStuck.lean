/-
  Scc.A64.ConcKStuck — RUNS OF THE POSITIONAL MACHINE THAT GET STUCK ON A DIVISION, on the AArch64 SPEC machine, all
  programs: the positional machine of a linearly typed program gets stuck only at an `op` whose operator is undefined
  (divisor 0, or MIN / −1: `Pos.step_safe`, `Pos.stuck_op`); the machine runs without fault to the `SDIV` of that
  `op`, and the `SDIV` faults with `div-by-zero` resp. `div-overflow` (`divFault`, Scc/A64/ConcKDiv.lean) — the two
  faults that property C13 permits.
  So for EVERY AMOUNT OF MACHINE FUEL, without the hypothesis that the positional machine does not get stuck, the
  result is `outOfFuel`, `done v`, or `fault (divFault w) ln` (`programs_all_fuel_div`, `programs_dsize_div`).
-/
import Scc.A64.ConcKAllFuel
import Scc.A64.ConcKDiv

namespace Scc.A64.Ref.K

open Scc.AxCut Scc.AxCut.Pos Scc.Backend Scc.Backend.Abs Scc.Backend.Sim Scc.A64.CC
open Scc.Backend.Sim2 Scc.Backend.Keys
open Scc.Props.C14Generic (LabelSafe)
open Scc.Props.C06Generic (outAfter WithinCapacity Reachable EnoughHeap CodeFits)
open Scc.Heap (HState InvS InvW)
open Scc.Heap.Refine (HRef FrLe Room FrPk loadAbs)

section Stuck

variable {c : MemCfg} (H : CfgCC c) {hkf : Code → Bool} {Pm : Prog} {cs : List Code} (Hp : Holds hkf Pm cs)

include H Hp in
/-- THE MACHINE AT AN `op` WHOSE OPERATOR IS UNDEFINED: it runs to the `SDIV`, which faults -/
theorem op_x3_stuck {P : Program} {hooks : Bool} {prog : AxCut.Prog} {Γ : Ctx} {ρ : List Value} {x a b : Ident}
    {o : BinOp} {next : Stmt} {fv : FV} {cfg : Config} {va vb : Word} {w : Pos.Why}
    (R : RelX P hooks prog ⟨Γ, ρ, .op x a o b next fv⟩ cfg)
    (hfresh : ∀ b' ∈ Γ, b'.var.id ≠ x.id)
    (ha : readInt Γ ρ a = .ok va) (hb : readInt Γ ρ b = .ok vb) (hv : Pos.evalOp o va vb = .error w)
    {hs : HState} {ι : Nat → Nat} {κ : Nat → Nat → Word} {σ : State} {out : List (Bool × Word)} {kp : Nat}
    (X : X3 c Γ cfg hs ι κ σ out)
    {kx kx' : Nat} {items : List Code}
    (hrunX : (codeStatementR a64Backend hooks natRen prog.types (.op x a o b next fv) Γ).run kx = .ok (items, kx'))
    (hatX : XAt cs kp items) :
    ∃ kF σF i, MSteps Pm c σ (pcOf hkf cs kp) out σF (pcOf hkf cs kF) out ∧
      Pm.items[pcOf hkf cs kF]? = some (.instr i) ∧ (∃ d n m, i = .sdiv d n m) ∧
      i.exec c σF = .error (divFault w) := by
  obtain ⟨i1, hi1, hl1, hg1, hchi1⟩ := relX_int_ext R ha
  obtain ⟨i2, hi2, hl2, hg2, hchi2⟩ := relX_int_ext R hb
  simp only [codeStatementR, run_bind_ok, run_pure_ok] at hrunX
  obtain ⟨tX, kxa, htX, s1X, kxb, hs1X, s2X, kxc, hs2X, c2X, k2X, h2X, rfl, rfl⟩ := hrunX
  obtain ⟨pX, hpX, hltX, rfl, rfl, _⟩ := vt_rel htX
  obtain ⟨q1, hq1, hlt1, rfl, rfl, _⟩ := vt_rel hs1X
  obtain ⟨q2, hq2, hlt2, rfl, rfl, _⟩ := vt_rel hs2X
  have hpX' : pX = Γ.length := by
    have := posOf_append_fresh Γ ⟨x, .ext, .i64⟩ hfresh
    rw [this] at hpX
    exact (Option.some.inj hpX).symm
  subst hpX'
  have eq1 : q1 = i1 := by
    have := posOf_append_old [⟨x, .ext, .i64⟩] hi1
    rw [this] at hq1; exact (Option.some.inj hq1).symm
  have eq2 : q2 = i2 := by
    have := posOf_append_old [⟨x, .ext, .i64⟩] hi2
    rw [this] at hq2; exact (Option.some.inj hq2).symm
  subst eq1 eq2
  simp only [TempNum.toNat] at hltX hlt1 hlt2
  generalize hc0 : hookCode a64Backend hooks Γ ++
    [a64Backend.comment (x.print ++ " <- " ++ a.print ++ " " ++ o.sym ++ " " ++ b.print ++ ";")] = c0 at hatX
  have hc0c : ∀ y ∈ c0, ∃ m', y = Code.COMMENT m' := by rw [← hc0]; exact hook_comments hooks Γ _
  have hxl : a64Backend.binop o (posTemp (2 * Γ.length + TempNum.snd.toNat))
      (posTemp (2 * q1 + TempNum.snd.toNat)) (posTemp (2 * q2 + TempNum.snd.toNat)) =
      op o (posTemp (2 * Γ.length + 1)) (posTemp (2 * q1 + 1)) (posTemp (2 * q2 + 1)) := rfl
  rw [hxl] at hatX
  have hw1 := X.words q1 hl1 va hg1
  have hw2 := X.words q2 hl2 vb hg2
  rw [hchi1] at hw1
  rw [hchi2] at hw2
  obtain ⟨pre, code, post, σ0, i, hsplit, hx, hti, hex, hsd⟩ :=
    op_fault c 144 σ (X.spOk H) o _ _ _ (isVar_posTemp hltX) (isVar_posTemp hlt1) (isVar_posTemp hlt2) va vb hw1 hw2 hv
  rw [hsplit] at hatX
  have hatA : XAt cs kp (c0 ++ (pre ++ (code :: (post ++ c2X)))) := by
    simpa [List.append_assoc] using hatX
  have hk0 := x_msteps_codes (c := c) Hp hatA.left (execCodes_comments c c0 σ hc0c) out
  have hk1 := x_msteps_codes (c := c) Hp hatA.right.left hx out
  have hget : cs[kp + c0.length + pre.length]? = some code := hatA.right.right.head
  obtain ⟨i', hti', hit⟩ := Hp.instr _ _ hget (isMeta_of_toInstr hti)
  rw [hti] at hti'
  cases hti'
  exact ⟨kp + c0.length + pre.length, σ0, i, hk0.trans hk1, hit, hsd, hex⟩

end Stuck

section Stuck3

variable {c : MemCfg} (H : CfgCC c) {hkf : Code → Bool} {Pm : Prog} {cs : List Code} (HB : HoldsB hkf Pm cs)

include H HB in
/-- THE STUCK STEP: a step of the positional machine (linearly typed program, typed state) that is stuck is a
division by zero or an overflow of an `op`; from the boundary the machine runs to the `SDIV`, which faults -/
theorem step3_stuck (hooks : Bool) (prog : AxCut.Prog) (code : List MockOp) (htp : LinTypedProg prog)
    (st : Pos.State) (cfg : Config) (hs : HState) (σ : State) (kp : Nat)
    (R : Rel3 c cs (Program.ofOps code) hooks prog st cfg hs σ kp)
    (T : Pos.StateTyped prog st) {w : Pos.Why} (hst : Pos.step prog st = .stuck w) :
    ∃ kF σF i, MSteps Pm c σ (pcOf hkf cs kp) cfg.out σF (pcOf hkf cs kF) cfg.out ∧
      Pm.items[pcOf hkf cs kF]? = some (.instr i) ∧ (∃ d n m, i = .sdiv d n m) ∧
      i.exec c σF = .error (divFault w) := by
  have Hp := HB.holdsA.holds
  have hsafe := Pos.step_safe htp st T
  rw [hst] at hsafe
  obtain ⟨x, a, o, b, next, fv, va, vb, hstmt, hra, hrb, hv⟩ := Pos.stuck_op hst hsafe
  obtain ⟨Γ, ρ, s⟩ := st
  simp only at hstmt hra hrb
  subst hstmt
  obtain ⟨Γ', ι, κ, hk, RX, X3h, C, kx, kx', items, hrunX, hatX⟩ := R
  obtain ⟨hty, henv⟩ := T
  simp only at hk RX hty henv
  cases hty with
  | op hn ha hb hfr hnext =>
    exact op_x3_stuck H Hp RX (mem_ids_keys hk hfr) (by rw [readInt_keys hk]; exact hra)
      (by rw [readInt_keys hk]; exact hrb) hv X3h hrunX hatX

end Stuck3

end Scc.A64.Ref.K

namespace Scc.A64.ConcK

open Scc.AxCut Scc.Backend Scc.Backend.Abs Scc.A64.Ref
open Scc.A64.CC
open Scc.Props.C14Generic (LabelSafe)
open Scc.Props.C06Generic (outAfter WithinCapacity Reachable EnoughHeap CodeFits statesOf stopsWithin)
open Scc.Heap (HState InvS InvW Exhausted)
open Scc.Heap.Refine (HRef FrLe Room FrPk)
open Scc.X86.Conc (FrBound LiveLe LiveLe0 stmtSize clausesSize valsFields run_eq_runState)
open Scc.X86.Ref.K (AllocLe AllocLeClauses ValAll allocArity allocArity_le hered_step hered_allocLe valAll_ints)

/-- THE LAST STEP OF A RUN THAT GETS STUCK (on a division): from the boundary the machine runs — without fault — to
the `SDIV` of the `op` the positional machine is stuck at, and the `SDIV` faults -/
theorem Bd.stuck {c : MemCfg} (H : CfgCC c) {hkf : Code → Bool} {Pm : Prog} {cs : List Code}
    (HB : K.HoldsB hkf Pm cs) {hooks : Bool} {prog : AxCut.Prog} {code : List MockOp} (htp : LinTypedProg prog)
    {st : Pos.State} {acc : List (Bool × Word)} {cfg : Config} {hs : HState} {X : MS} {w : Pos.Why}
    (B : Bd c hkf Pm cs (Program.ofOps code) hooks prog st acc cfg hs X) (hst : Pos.step prog st = .stuck w) :
    ∃ n XF i, StepsN Pm c n X XF ∧ Pm.items[XF.pc]? = some (.instr i) ∧ (∃ d n m, i = .sdiv d n m) ∧
      i.exec c XF.σ = .error (divFault w) := by
  obtain ⟨σ, pcR, out⟩ := X
  obtain ⟨kp, TL, R⟩ := B.pos
  have hout : out = acc := B.out
  subst hout
  obtain ⟨kF, σF, i, h1, h2, h3, h4⟩ := K.step3_stuck H HB hooks prog code htp st cfg hs σ kp R B.typed hst
  rw [B.cout] at h1
  obtain ⟨n, hn⟩ := stepsN_of_msteps (K.tol_run_instr h1 TL h2)
  exact ⟨n, ⟨σF, pcOf hkf cs kF, out⟩, i, hn, h2, h3, h4⟩

theorem runLoop_fault {P : Prog} {cfg : MonCfg} {σ : State} {pc : Nat} {i : Instr}
    (hi : P.items[pc]? = some (.instr i)) (hsd : ∃ d n m, i = .sdiv d n m) {e : String}
    (hx : i.exec cfg.mem σ = .error e) (out : List (Bool × Word)) (steps blocks fuel : Nat) :
    ∃ ln, (runLoop P cfg (fuel + 1) { σ := σ, pc := pc, out := out, steps := steps, blocks := blocks }).res =
      .fault e ln := by
  obtain ⟨d, n, m, rfl⟩ := hsd
  rw [runLoop_item hi]
  simp only [step, hx, finish, withLine]
  exact ⟨_, rfl⟩

section Gen

/-! The standing hypotheses of this section (`include`) are those of `section Gen` of ConcKAllFuel.lean: label-safe,
linearly typed, at most 1024 xtors per type, the MOCK compilation `hcompM` with `CodeFits`, the AArch64 compilation,
pairwise distinct labels of the routine, integer parameters of the first definition, contexts of at most 140 variables. -/
variable (p : AxCut.Prog) (args : List Word) (hooks : Bool) (body routine : List Code)
  (nargs : Nat) (d0 : Def) (ops : List MockOp) (c' : Nat)
  (hsafe : LabelSafe p = true) (htp : LinTypedProg p) (hprog : K.ProgOK p)
  (hcompM : (compile mockSym hooks p).run 0 = .ok ((ops, nargs), c')) (hfit : CodeFits ops)
  (hcompX : compileProg a64Backend p hooks 0 = .ok (body, nargs, routine))
  (hnd : (labs routine).Nodup)
  (hd : p.defs.head? = some d0) (hentry : ∀ b ∈ d0.ctx, b.chi = .ext ∧ b.ty = .i64)
  (hlen : d0.ctx.length = args.length)
  (hcap : ∀ st, Reachable p ⟨d0.ctx, args.map .int, d0.body⟩ st → 2 * st.ctx.length ≤ 280)

include hsafe htp hprog hcompM hfit hcompX hnd hd hentry hlen hcap in
/-- A RUN THAT GETS STUCK ON A DIVISION, ON THE RUN LOOP (heap monitor off), for any source of the peak hypothesis:
there is an amount `N` of fuel such that with more fuel the machine ends in the division fault, and with at most `N`
it is out of fuel -/
theorem programs_stuck_gen (fuel : Nat) (out : List (Bool × Word)) (w : Pos.Why) (hfuel : fuel + 1 < 2 ^ 64)
    (hrun : Pos.run p args fuel = ⟨out, .stuck w⟩)
    (cfg : MonCfg) (H : CfgCC cfg.mem) (hheap : cfg.heap = false)
    (hb8 : cfg.mem.heapBase % 8 = 0) (hb0 : 0 < cfg.mem.heapBase)
    (Pk A : Nat) (hA : ∀ d ∈ p.defs, AllocLe A d.body) (hbytes : 64 * (Pk + A + 2) ≤ cfg.mem.heapBytes)
    {hk : Code → Bool} {P : Prog} (HB : K.HoldsB hk P routine)
    (hfitX : cfg.mem.codeBase + 4 * ninstr routine < 2 ^ 64)
    (hPH : PeakHyp p hooks routine ops cfg.mem hk P args d0 Pk (A * fuel + 1)) :
    ∃ N, (∀ f, f ≤ N → (runProg P args f cfg).res = .outOfFuel) ∧
      ∀ f, N < f → ∃ ln, (runProg P args f cfg).res = .fault (divFault w) ln := by
  have hrun' : Pos.runState p fuel ⟨d0.ctx, args.map .int, d0.body⟩ [] = ⟨out, .stuck w⟩ := by
    rw [← run_eq_runState hd hlen]; exact hrun
  obtain ⟨hmain, hargs, _, n0, X0, hn0, HBd, I0⟩ := entry_peak p args hooks body routine nargs d0 ops c' hsafe htp hprog
    hcompM hfit hcompX hnd hd hentry hlen hcap fuel hfuel cfg.mem H hb8 hb0 Pk A hA hbytes HB hfitX hPH
  obtain ⟨_, _, stL, _, k, XL, _, hkX, _, ⟨_, _, _, IL, _⟩, hE⟩ := (Track.peakTrack HBd hA hbytes).run fuel 0 _ _ _ I0
  rw [hrun'] at hE
  obtain ⟨k', XF, i, hk', g2, g3, g4⟩ := IL.bd.stuck H HB htp hE.stuck.2.1
  have hN : StepsN P cfg.mem (n0 + (k + k')) (initMS cfg.mem hk routine args) XF := hn0.trans (hkX.trans hk')
  refine ⟨n0 + (k + k'), fun f hf => runProg_outOfFuel hheap hmain hargs hN hf, fun f hf => ?_⟩
  obtain ⟨s', hs'⟩ := runProg_stepsN hheap hmain hargs hN
  obtain ⟨g, rfl⟩ : ∃ g, f = n0 + (k + k') + (g + 1) := ⟨f - (n0 + (k + k')) - 1, by omega⟩
  rw [hs' (g + 1)]
  exact runLoop_fault (cfg := cfg) g2 g3 g4 XF.out s' 0 g

include hsafe htp hprog hcompM hfit hcompX hnd hd hentry hlen hcap in
/-- EVERY AMOUNT OF MACHINE FUEL (heap monitor off), all programs, WHATEVER THE POSITIONAL MACHINE DOES: the result of
the machine is `outOfFuel`, or `done v` with the result of the positional machine, or the division fault the
positional machine is stuck at -/
theorem programs_all_fuel_div
    (cfg : MonCfg) (H : CfgCC cfg.mem) (hheap : cfg.heap = false)
    (hb8 : cfg.mem.heapBase % 8 = 0) (hb0 : 0 < cfg.mem.heapBase)
    (Pk A M : Nat) (hA : ∀ d ∈ p.defs, AllocLe A d.body) (hM : ∀ d ∈ p.defs, stmtSize d.body ≤ M)
    (hbytes : 64 * (Pk + A + 2) ≤ cfg.mem.heapBytes)
    {hk : Code → Bool} {P : Prog} (HB : K.HoldsB hk P routine)
    (hfitX : cfg.mem.codeBase + 4 * ninstr routine < 2 ^ 64)
    (fuel' : Nat) (hf : fuel' * (M + 1) + stmtSize d0.body + 1 < 2 ^ 64)
    (hPH : PeakHyp p hooks routine ops cfg.mem hk P args d0 Pk (A * (fuel' * (M + 1) + stmtSize d0.body) + 1)) :
    (runProg P args fuel' cfg).res = .outOfFuel ∨
      (∃ v out, Pos.run p args (fuel' * (M + 1) + stmtSize d0.body) = ⟨out, .done v⟩ ∧
        (runProg P args fuel' cfg).res = .done v) ∨
      ∃ w out ln, Pos.run p args (fuel' * (M + 1) + stmtSize d0.body) = ⟨out, .stuck w⟩ ∧
        (w = .divByZero ∨ w = .overflow) ∧ (runProg P args fuel' cfg).res = .fault (divFault w) ln := by
  have hrs := run_eq_runState hd hlen (fuel' * (M + 1) + stmtSize d0.body)
  have hmem : d0 ∈ p.defs := by
    cases hdefs : p.defs with
    | nil => rw [hdefs] at hd; simp at hd
    | cons d ds => rw [hdefs] at hd; simp at hd; subst hd; simp
  have T0 : Pos.StateTyped p ⟨d0.ctx, args.map .int, d0.body⟩ :=
    ⟨htp d0 hmem, Pos.ints_typed d0.ctx args hlen hentry⟩
  cases hres : Pos.run p args (fuel' * (M + 1) + stmtSize d0.body) with
  | mk out res =>
  cases res with
  | stuck w =>
    have hw : w = .divByZero ∨ w = .overflow := by
      have := Pos.runState_safe htp (fuel' * (M + 1) + stmtSize d0.body) _ [] T0
      rw [← hrs, hres] at this
      exact this
    obtain ⟨N, h1, h2⟩ := programs_stuck_gen p args hooks body routine nargs d0 ops c' hsafe htp hprog hcompM hfit
      hcompX hnd hd hentry hlen hcap _ out w hf hres cfg H hheap hb8 hb0 Pk A hA hbytes HB hfitX hPH
    by_cases hle : fuel' ≤ N
    · exact Or.inl (h1 fuel' hle)
    · obtain ⟨ln, hln⟩ := h2 fuel' (by omega)
      exact Or.inr (Or.inr ⟨w, out, ln, rfl, hw, hln⟩)
  | done v =>
    obtain ⟨N, h1, h2⟩ := programs_done_gen p args hooks body routine nargs d0 ops c' hsafe htp hprog hcompM hfit
      hcompX hnd hd hentry hlen hcap _ out v hf hres cfg H hheap hb8 hb0 Pk A hA hbytes HB hfitX hPH
    by_cases hle : fuel' ≤ N
    · exact Or.inl (h1 fuel' hle)
    · exact Or.inr (Or.inl ⟨v, out, rfl, (h2 fuel' (by omega)).2⟩)
  | outOfFuel =>
    left
    rw [hrs] at hres
    obtain ⟨hmain, hargs, n, X, hn, hX⟩ := programs_progress_gen p args hooks body routine nargs d0 ops c' hsafe htp
      hprog hcompM hfit hcompX hnd hd hentry hlen hcap _ hf cfg.mem H hb8 hb0 Pk A M hA hM hbytes HB hfitX hPH out
      hres fuel' (Nat.le_refl _)
    exact runProg_outOfFuel hheap hmain hargs hX hn

include hsafe htp hprog hcompM hfit hcompX hnd hd hentry hlen hcap in
/-- … under a bound `D` on the fields of the object and closure values of the positional machine's environments -/
theorem programs_dsize_div
    (D : Nat) (hD : ∀ st, Reachable p ⟨d0.ctx, args.map .int, d0.body⟩ st → valsFields st.env ≤ D)
    (cfg : MonCfg) (H : CfgCC cfg.mem) (hheap : cfg.heap = false)
    (hb8 : cfg.mem.heapBase % 8 = 0) (hb0 : 0 < cfg.mem.heapBase)
    (A M : Nat) (hA : ∀ d ∈ p.defs, AllocLe A d.body) (hM : ∀ d ∈ p.defs, stmtSize d.body ≤ M)
    (hbytes : 64 * (D + A + 2) ≤ cfg.mem.heapBytes)
    {hk : Code → Bool} {P : Prog} (HB : K.HoldsB hk P routine)
    (hfitX : cfg.mem.codeBase + 4 * ninstr routine < 2 ^ 64)
    (fuel' : Nat) (hf : fuel' * (M + 1) + stmtSize d0.body + 1 < 2 ^ 64) :
    (runProg P args fuel' cfg).res = .outOfFuel ∨
      (∃ v out, Pos.run p args (fuel' * (M + 1) + stmtSize d0.body) = ⟨out, .done v⟩ ∧
        (runProg P args fuel' cfg).res = .done v) ∨
      ∃ w out ln, Pos.run p args (fuel' * (M + 1) + stmtSize d0.body) = ⟨out, .stuck w⟩ ∧
        (w = .divByZero ∨ w = .overflow) ∧ (runProg P args fuel' cfg).res = .fault (divFault w) ln :=
  programs_all_fuel_div p args hooks body routine nargs d0 ops c' hsafe htp hprog hcompM hfit hcompX hnd hd hentry hlen
    hcap cfg H hheap hb8 hb0 D A M hA hM hbytes HB hfitX fuel' hf (peakHyp_of_data hD)

end Gen

end Scc.A64.ConcK
