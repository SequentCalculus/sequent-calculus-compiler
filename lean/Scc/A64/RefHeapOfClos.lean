/-
  Scc.A64.RefHeapOfClos — the data-only three-way relation `Ref.X3R` (RefHeapDefs.lean) is the closure-aware
  relation `K.X3R` (RefClosHDefs.lean) plus one invariant, `Same`: the machine holds, for closure-kinded
  variables and fields too, the very word the abstract machine holds (`X3R.toK`, `K.X3R.toData`).  `Same` is kept by
  every step, from what the step lemmas of the three-way stack (Scc/Backend/ThreeWay*.lean) say about the positions
  and the heap (`KeepPos`, `SubstProv`, `LetProv`, `LoadProv`, the abstract steps) — as the closure invariant `XC`
  is (RefClosXC.lean); it needs of the machine only the words in the temporaries of positions (`K.tvOf`) and is
  defined and proved kept for every backend in Scc/Backend/StepProv.lean.
  So the data-only stack has no step lemmas of its own: its step (`Ref.step3`, RefHeapRun.lean: `Same.step`) and the
  statements of Props/C07A64Heap.lean are those of the three-way stack at the AArch64 machine (ThreeWayTarget.lean,
  ThreeWayNav.lean) for runs that may pass any hook (`Q` total, `NoHk.hkq_total`), between `toK` and `toData`.
  `XDefsAt`: the definitions in the routine.
-/
import Scc.A64.RefClosXC
import Scc.A64.ThreeWayNav
import Scc.A64.RefCompose
import Scc.Props.C06Generic

set_option linter.unusedVariables false

namespace Scc.A64.Ref

open Scc.AxCut Scc.Backend Scc.Backend.Abs Scc.Backend.Sim
open Scc.Heap (HState InvS InvW)
open Scc.Heap.Refine (HRef FrLe Room)
open Scc.Backend.Prov (SameF fieldWords sameF_fieldWords)

/-- the machine holds the abstract word also where the value is a closure (Scc/Backend/StepProv.lean) -/
abbrev Same (Γ : Ctx) (cfg : Config) (κ : Nat → Nat → Word) (σ : State) : Prop :=
  Scc.Backend.Prov.Same (K.tvOf σ) Γ cfg κ

theorem K.trW_eq (chi : Chi) (a : Word) : K.trW chi a = Ref.trW chi a := by cases chi <;> rfl

/-- where `κ` is the closure fields of the heap itself, the closure-aware translation is the data-only one -/
theorem trHeap_of_same {κ : Nat → Nat → Word} {h : Heap} (hnd : (h.map (·.1)).Nodup) (S : SameF κ h) :
    K.trHeap κ h = trHeap h := by
  rw [K.trHeap_eq]
  exact ThreeWay.trHeap_of_same _ κ hnd S

section
variable {c : MemCfg} {Γ : Ctx} {cfg : Config} {rs : List Nat} {hs : HState} {ι : Nat → Nat}
  {κ : Nat → Nat → Word} {σ : State} {out : List (Bool × Word)}

/-- the closure-aware relation and `Same` make the data-only relation -/
theorem K.X3R.toData (X : K.X3R c Γ cfg rs hs ι κ σ out) (S : Same Γ cfg κ σ) : Ref.X3R c Γ cfg rs hs ι σ out := by
  have hnd : (cfg.heap.map (·.1)).Nodup := by rw [← K.trHeap_ids κ]; exact X.href.abs.nodup
  refine ⟨X.core, X.cap, fun i hi a ha => ?_, X.ptrs, X.out, X.hrel, by rw [← trHeap_of_same hnd S.flds]; exact X.href⟩
  by_cases hc : Γ[i].chi = .cns
  · rw [show σ.tempVal (posTemp (2 * i + 1)) = some a from S.vars i hi a hc ha, hc]; rfl
  · rw [← K.trW_eq]; exact K.words_elim (X.words i hi a ha) hc

/-- the data-only relation is the closure-aware one for the closure fields of the heap itself -/
theorem X3R.toK (X : X3R c Γ cfg rs hs ι σ out) :
    K.X3R c Γ cfg rs hs ι (fieldWords cfg.heap) σ out ∧ Same Γ cfg (fieldWords cfg.heap) σ := by
  have hnd : (cfg.heap.map (·.1)).Nodup := by rw [← trHeap_ids]; exact X.href.abs.nodup
  have S := sameF_fieldWords cfg.heap
  refine ⟨⟨X.core, X.cap, fun i hi a ha => ?_, X.ptrs, X.out, X.hrel, by rw [trHeap_of_same hnd S]; exact X.href⟩,
    fun i hi a hc ha => ?_, S⟩
  · exact K.words_of (X.words i hi a ha) (fun _ => (K.trW_eq _ _).symm)
  · show σ.tempVal (posTemp (2 * i + 1)) = some a
    rw [X.words i hi a ha, hc]; rfl

theorem K.X3R.ids (X : K.X3R c Γ cfg rs hs ι κ σ out) : ∀ id o, cfg.heap.get id = some o → id < cfg.next :=
  fun id o hg => (X.href.abs.ids _ (K.mem_trHeap κ (heap_get_mem hg))).2.1

end

/-- every definition's AArch64 code is in the routine, behind its label -/
def XDefsAt (cs : List Code) (hooks : Bool) (prog : AxCut.Prog) : Prop :=
  ∀ d ∈ prog.defs, ∃ i k k' items,
    cs[i]? = some (Code.LAB (d.name.print ++ "_")) ∧
    (codeStatementR a64Backend hooks natRen prog.types d.body d.ctx).run k = .ok (items, k') ∧
    XAt cs (i + 1) items

end Scc.A64.Ref
