/-
  Scc.A64.LoaderText — the loader `parseText` (Scc/A64/Machine.lean) on the text of a whole routine
  printed by `printProg` (Scc/A64/Instr.lean):

  * `splitOn_printProg`: the lines of the printed routine (through the legacy `String.splitOn`,
    Scc/StringLemmas.lean) are exactly the lines of its items (`codeLines`);
  * `numberFrom n ps`: the lines `ps` numbered `n, n+1, …` — the `(Nat × PLine)` list that
    `layout` consumes (`wfCheck` and `run` take the text and parse it themselves);
  * `parseText_printProg`: THE ROUND TRIP — `parseText (printProg cs) = .ok (numberFrom 1 (progPLines cs))`
    for every routine whose items are text-safe (`CodeOK`) and whose registers exist (`regsOK`);
  * `run_printProg`: hence `run` on the printed text is `runProg` on the layout of the items' lines.
-/
import Scc.A64.LoaderCode

namespace Scc.A64.Loader

open Scc.Str

def numberFrom : Nat → List PLine → List (Nat × PLine)
  | _, [] => []
  | n, p :: ps => (n, p) :: numberFrom (n + 1) ps

theorem numberFrom_append (n : Nat) (a b : List PLine) :
    numberFrom n (a ++ b) = numberFrom n a ++ numberFrom (n + a.length) b := by
  induction a generalizing n with
  | nil => simp [numberFrom]
  | cons p ps ih => simp [numberFrom, ih, Nat.add_assoc, Nat.add_comm 1]

theorem map_snd_numberFrom (n : Nat) (ps : List PLine) : (numberFrom n ps).map (·.2) = ps := by
  induction ps generalizing n with
  | nil => rfl
  | cons p ps ih => simp [numberFrom, ih]

theorem map_fst_numberFrom (n : Nat) (ps : List PLine) :
    (numberFrom n ps).map (·.1) = List.range' n ps.length := by
  induction ps generalizing n with
  | nil => rfl
  | cons p ps ih => simp [numberFrom, ih, List.range'_succ]

theorem length_numberFrom (n : Nat) (ps : List PLine) : (numberFrom n ps).length = ps.length := by
  induction ps generalizing n with
  | nil => rfl
  | cons p ps ih => simp [numberFrom, ih]

theorem parseText_go (lines : List String) (ps : List PLine) (h : lines.map parseLine = ps.map some) :
    ∀ (n : Nat) (acc : List (Nat × PLine)),
      parseText.go lines n acc = .ok (acc.reverse ++ numberFrom n ps) := by
  induction lines generalizing ps with
  | nil =>
    intro n acc
    cases ps with
    | nil => simp [parseText.go, numberFrom]
    | cons _ _ => simp at h
  | cons l ls ih =>
    intro n acc
    cases ps with
    | nil => simp at h
    | cons p ps =>
      simp only [List.map_cons, List.cons.injEq] at h
      rw [parseText.go]
      simp only [h.1]
      rw [ih ps h.2 (n + 1) ((n, p) :: acc)]
      simp [numberFrom]

theorem splitOn_printProg {cs : List Code} (hne : cs ≠ [])
    (h : ∀ c ∈ cs, ∀ l ∈ codeLines c, '\n' ∉ l.toList) :
    (printProg cs).splitOn "\n" = cs.flatMap codeLines := by
  unfold printProg
  have e : cs.map printCode = cs.map (fun c => "\n".intercalate (codeLines c)) :=
    List.map_congr_left (fun c _ => printCode_lines c)
  rw [e, newline_eq]
  exact splitOn_intercalate_chunks '\n' codeLines cs hne (fun c _ => codeLines_ne_nil c) h

/-- what the loader reads the text of a routine as (an empty routine prints as one empty line) -/
def progPLines (cs : List Code) : List PLine :=
  if cs = [] then [.blank] else cs.flatMap codePLines

def ProgOK (cs : List Code) : Prop := ∀ c ∈ cs, regsOK c = true ∧ CodeOK c

theorem map_parseLine_flatMap (cs : List Code) (h : ProgOK cs) :
    (cs.flatMap codeLines).map parseLine = (cs.flatMap codePLines).map some := by
  induction cs with
  | nil => rfl
  | cons c cs ih =>
    have hc := h c (by simp)
    simp only [List.flatMap_cons, List.map_append]
    rw [(parse_codeLines c hc.1 hc.2).1, ih (fun x hx => h x (by simp [hx]))]

/-- THE ROUND TRIP: the loader reads the printed text of a text-safe routine as the lines of its
    items, numbered from 1 -/
theorem parseText_printProg (cs : List Code) (h : ProgOK cs) :
    parseText (printProg cs) = .ok (numberFrom 1 (progPLines cs)) := by
  unfold parseText progPLines
  by_cases hne : cs = []
  · subst hne
    have : (printProg []).splitOn "\n" = [""] := by
      unfold printProg; rw [newline_eq]; exact splitOn_intercalate_nil '\n'
    rw [this, parseText_go [""] [.blank] (by simp [parseLine_empty])]
    rfl
  · simp only [hne, if_false]
    rw [splitOn_printProg hne (fun c hc => (parse_codeLines c (h c hc).1 (h c hc).2).2),
      parseText_go _ _ (map_parseLine_flatMap cs h)]
    rfl

/-- the parsed lines, without their numbers, are the lines of the items in order -/
theorem parseText_printProg_lines (cs : List Code) (h : ProgOK cs) (hne : cs ≠ []) :
    ∃ ls, parseText (printProg cs) = .ok ls ∧ ls.map (·.2) = cs.flatMap codePLines ∧
      ls.map (·.1) = List.range' 1 ls.length := by
  refine ⟨_, parseText_printProg cs h, ?_, ?_⟩
  · rw [map_snd_numberFrom]; simp [progPLines, hne]
  · rw [map_fst_numberFrom, length_numberFrom]

/-- blank lines do not matter to the layout: the program the machine runs is the layout of the
    items' lines -/
theorem layout_progPLines_nil : layout (numberFrom 1 (progPLines [])) = layout [] := rfl

/-- the machine on the printed text = the machine on the layout of the items' lines (monitor `wf`
    off; with `wf` on, `run` first applies `wfCheck` to the text, which parses it again) -/
theorem run_printProg (cs : List Code) (h : ProgOK cs) (args : List Word) (fuel : Nat) (cfg : MonCfg)
    (hwf : cfg.wf = false) :
    run (printProg cs) args fuel cfg = runProg (layout (numberFrom 1 (progPLines cs))) args fuel cfg := by
  unfold run
  simp only [parseText_printProg cs h, hwf, Bool.false_eq_true, if_false]

end Scc.A64.Loader
