/-
  Scc.A64.ConcKC10 — C10 (heap footprint) on concrete AArch64 runs of ALL programs (data types and closures).
  `HeapShapeAt c σ below inUse`: the heap of the machine state is consistent (`InvW` for some roots) with `below`
  blocks below the allocation frontier, `inUse` of which are on neither free list.  `PeakAtMost … Pk C`: at no
  statement boundary (`BoundaryOf`: up to `#ctx` hooks) of the machine's run are more than `Pk` blocks in use; the runs
  under the footprint bound (`Track.peakTrack` of `Entry.boundaries`) take this hypothesis from any source
  (`PeakHyp`).  One source is the size of the source-level data (`peakHyp_of_data`): at a boundary whose deferred
  free list is empty the blocks in use are at most the fields of the objects of the abstract heap (no garbage,
  Scc/Heap/RefineNoGarb.lean), and these are at most the fields of the object and closure nodes of the values of
  the environment (`valsFields`, Scc/X86/ConcData.lean, backend-independent).  `heapMonitor_boundary`: the executable
  `heapMonitor` succeeds at a boundary configuration inside its window.
-/
import Scc.A64.ConcKPeakRun
import Scc.AxCut.PosProgress
import Scc.A64.ConcKMach
import Scc.X86.ConcData
import Scc.X86.ConcAllFuel

namespace Scc.A64.ConcK

open Scc.AxCut Scc.Backend Scc.Backend.Abs Scc.A64.Ref
open Scc.A64.CC
open Scc.Props.C14Generic (LabelSafe)
open Scc.Props.C06Generic (outAfter WithinCapacity Reachable EnoughHeap CodeFits statesOf stopsWithin)
open Scc.Heap (HState InvS InvW Exhausted)
open Scc.Heap.Refine (HRef FrLe Room FrPk heapFields live_le_heapFields)
open Scc.X86.Conc (FrBound LiveLe LiveLe0 stmtSize clausesSize valsFields heapFields_le_vals run_eq_runState frBound_init
  weight_ge)
open Scc.X86.Ref.K (AllocLe AllocLeClauses ValAll valAll_ints)

/-- the heap of the machine state `σ` is consistent, with `below` blocks below the allocation frontier,
`inUse` of which are in use (neither on the reusable nor on the deferred free list: reachable, or waiting
beneath a deferred block) -/
def HeapShapeAt (c : MemCfg) (σ : State) (below inUse : Nat) : Prop :=
  ∃ (h f : Word) (roots lin lazy live : List Nat) (F : Nat),
    σ.regs[archNumber consts.heap]? = some (some h) ∧ σ.regs[archNumber consts.free]? = some (some f) ∧
    InvW (memFn σ) c.heapBase (c.heapBase + c.heapBytes) h.toNat f.toNat roots [] lin lazy live F ∧
    (F - c.heapBase) / 64 = below ∧ live.length = inUse

theorem heapShapeAt_of_rel {c : MemCfg} {σ : State} {hs : HState} (HR : HeapRel c σ hs)
    {rs lin lazy live : List Nat} {F : Nat} (I : InvS hs rs [] lin lazy live F) :
    HeapShapeAt c σ ((F - hs.base) / 64) live.length := by
  obtain ⟨w, hw, ew⟩ := HR.heap
  obtain ⟨f, hf, ef⟩ := HR.free
  have hregh : σ.regs[archNumber consts.heap]? = some (some w) := by
    rw [HEAP_eq, Ref.tempVal_x0] at hw
    have e : archNumber consts.heap = 0 := by decide
    rw [e, Vector.getElem?_eq_getElem (by decide)]
    exact congrArg some hw
  have hregf : σ.regs[archNumber consts.free]? = some (some f) := by
    rw [FREE_eq, Ref.tempVal_x1] at hf
    have e : archNumber consts.free = 1 := by decide
    rw [e, Vector.getElem?_eq_getElem (by decide)]
    exact congrArg some hf
  refine ⟨w, f, rs, lin, lazy, live, F, hregh, hregf, ?_, by rw [HR.base], rfl⟩
  have hmem : memFn σ = hs.mem.get := by
    funext a; exact (HR.mem a).symm
  rw [hmem, ew, ef, ← HR.limit, ← HR.base]
  exact I

theorem HeapShapeAt.inUse_le {c : MemCfg} {σ : State} {below inUse : Nat} (h : HeapShapeAt c σ below inUse) :
    inUse ≤ below := by
  obtain ⟨_, _, _, lin, lazy, live, F, _, _, I, h1, h2⟩ := h
  have := I.card
  omega

/-- THE EXECUTABLE HEAP CHECK SUCCEEDS AT EVERY STATEMENT BOUNDARY (inside the monitor's window), all programs: at a
boundary configuration, `heapMonitor` called with a hook that lists variables of the kinds of the positional
state's context returns the number of blocks below the frontier -/
theorem heapMonitor_boundary {p : AxCut.Prog} {hooks : Bool} {routine : List Code} {ops : List MockOp}
    {c : MemCfg} (H : CfgCC c) {hk : Code → Bool} {P : Prog} {st : Pos.State} {X : MS}
    (B : BoundaryOf p hooks routine ops c hk P st X) :
    ∃ below inUse, HeapShapeAt c X.σ below inUse ∧
      ∀ vars, hookKinds vars = Scc.X86.Conc.ctxKinds st.ctx →
        64 * below + 64 ≤ (X.σ.maxHeap + 63) / 64 * 64 + 8 * 64 → heapMonitor c X.σ vars = .ok below := by
  obtain ⟨cfgA, hs, kp, T, _, Γ', ι, κ, hkeys, RX, X3h, _⟩ := B
  obtain ⟨lin, lazy, live, Fr, I⟩ := X3h.href.conc
  obtain ⟨rootsM, w, f, h1, h2, h3, h4⟩ := heapInv_parts H RX X3h I
  have hsh := heapShapeAt_of_rel X3h.hrel I
  refine ⟨_, _, hsh, fun vars hv hw => ?_⟩
  rw [← Scc.X86.Conc.ctxKinds_keys hkeys] at hv
  rw [← hv] at h1
  have hb := X3h.hrel.base
  have hFb := h4.frontier_block
  have hge : c.heapBase ≤ Fr := by
    unfold Scc.Heap.IsBlock at hFb; omega
  have h64 : (Fr - c.heapBase) % 64 = 0 := by
    unfold Scc.Heap.IsBlock at hFb; omega
  have := heapMonitor_ok (vars := vars) h1 h2 h3 h4 (by rw [hb] at hw; omega)
  rw [this, hb]
  rfl

/-- THE PEAK HYPOTHESIS, all programs: at no statement boundary of the machine's run (from `asm_main`) are more
than `Pk` blocks in use.  Only boundaries with at most `C` blocks below the frontier matter (`C` = the trivial
bound `A·fuel + 1`: a step of the run moves the frontier by at most `A` blocks; no other boundary occurs) -/
def PeakAtMost (p : AxCut.Prog) (hooks : Bool) (routine : List Code) (ops : List MockOp) (c : MemCfg)
    (hk : Code → Bool) (P : Prog) (args : List Word) (Pk C : Nat) : Prop :=
  ∀ n X st, StepsN P c n (initMS c hk routine args) X →
    BoundaryOf p hooks routine ops c hk P st X → ∀ below inUse, HeapShapeAt c X.σ below inUse → below ≤ C →
    inUse ≤ Pk

theorem peakAtMost_trivial (p : AxCut.Prog) (hooks : Bool) (routine : List Code) (ops : List MockOp)
    (c : MemCfg) (hk : Code → Bool) (P : Prog) (args : List Word) (C : Nat) :
    PeakAtMost p hooks routine ops c hk P args C C :=
  fun _ _ _ _ _ _ _ h hb => Nat.le_trans h.inUse_le hb

/-- the peak hypothesis at the entry, from any source: whatever first boundary the header establishes -/
def PeakHyp (p : AxCut.Prog) (hooks : Bool) (routine : List Code) (ops : List MockOp) (c : MemCfg)
    (hk : Code → Bool) (P : Prog) (args : List Word) (d0 : Def) (Pk C : Nat) : Prop :=
  ∀ (n0 : Nat) (X0 : MS), StepsN P c n0 (initMS c hk routine args) X0 →
    PeakFrom c hk P routine (Program.ofOps ops) hooks p ⟨d0.ctx, args.map .int, d0.body⟩ X0 Pk C

theorem peakHyp_of_peakAtMost {p : AxCut.Prog} {hooks : Bool} {routine : List Code} {ops : List MockOp}
    {c : MemCfg} {hk : Code → Bool} {P : Prog} {args : List Word} {d0 : Def} {Pk C : Nat}
    (hP : PeakAtMost p hooks routine ops c hk P args Pk C) :
    PeakHyp p hooks routine ops c hk P args d0 Pk C := by
  intro n0 X0 h0 n X' st' _ cfg' hs' _ hn B hC rs lin live Fr I
  obtain ⟨kp', T, R⟩ := B.pos
  obtain ⟨_, _, _, X3h⟩ := B.x3
  exact hP (n0 + n) X' st' (h0.trans hn) ⟨cfg', hs', kp', T, B.out.trans B.cout.symm, R⟩ _ _
    (heapShapeAt_of_rel X3h.hrel I) (hC _ _ _ _ _ I)

/-- THE PEAK HYPOTHESIS FROM THE SIZE OF THE SOURCE-LEVEL DATA, all programs -/
theorem peakFrom_of_data {c : MemCfg} {hkf : Code → Bool} {Pm : Prog} {cs : List Code} {P : Program} {hooks : Bool}
    {prog : AxCut.Prog} {st : Pos.State} {X : MS} {D C : Nat}
    (hD : ∀ st', Reachable prog st st' → valsFields st'.env ≤ D) :
    PeakFrom c hkf Pm cs P hooks prog st X D C := by
  intro n X' st' _ cfg' hs' hr hn B hC rs lin live Fr I
  obtain ⟨_, _, Γ', ι, κ, _, RX, X3h, _⟩ := B.pos
  have h2 := Scc.X86.Conc.live_le_valsFields (K.fieldsOK_trFs κ) RX X3h.href I
  have h3 := hD st' hr
  omega

theorem peakHyp_of_data {p : AxCut.Prog} {hooks : Bool} {routine : List Code} {ops : List MockOp} {c : MemCfg}
    {hk : Code → Bool} {P : Prog} {args : List Word} {d0 : Def} {D C : Nat}
    (hD : ∀ st, Reachable p ⟨d0.ctx, args.map .int, d0.body⟩ st → valsFields st.env ≤ D) :
    PeakHyp p hooks routine ops c hk P args d0 D C :=
  fun _ _ _ => peakFrom_of_data hD

def MS.mach (X : MS) (steps blocks : Nat) : Machine :=
  { σ := X.σ, pc := X.pc, out := X.out, steps := steps, blocks := blocks }

theorem runProg_eq_runLoop {P : Prog} {hk : Code → Bool} {routine : List Code} {args : List Word}
    (hmain : P.labels["asm_main"]? = some (pcOf hk routine 2)) (hargs : args.length ≤ 7) (f : Nat) (cfg : MonCfg) :
    runProg P args f cfg = runLoop P cfg f ((initMS cfg.mem hk routine args).mach 0 0) := by
  unfold runProg
  simp only [hmain]
  rw [if_neg (by omega)]
  rfl

theorem runProg_stepsN {P : Prog} {hk : Code → Bool} {routine : List Code} {args : List Word} {cfg : MonCfg}
    (hh : cfg.heap = false) (hmain : P.labels["asm_main"]? = some (pcOf hk routine 2)) (hargs : args.length ≤ 7)
    {n : Nat} {X : MS} (h : StepsN P cfg.mem n (initMS cfg.mem hk routine args) X) :
    ∃ steps', ∀ fuel, runProg P args (n + fuel) cfg = runLoop P cfg fuel (X.mach steps' 0) := by
  obtain ⟨s', hs'⟩ := K.runLoop_mstepsN hh h 0 0
  exact ⟨s', fun fuel => by rw [runProg_eq_runLoop hmain hargs]; exact hs' fuel⟩

/-- a machine that makes `n` iterations from `asm_main` without ending has not ended with less fuel -/
theorem runProg_outOfFuel {P : Prog} {hk : Code → Bool} {routine : List Code} {args : List Word} {cfg : MonCfg}
    (hh : cfg.heap = false) (hmain : P.labels["asm_main"]? = some (pcOf hk routine 2)) (hargs : args.length ≤ 7)
    {n : Nat} {X : MS} (h : StepsN P cfg.mem n (initMS cfg.mem hk routine args) X) {f : Nat} (hf : f ≤ n) :
    (runProg P args f cfg).res = .outOfFuel := by
  rw [runProg_eq_runLoop hmain hargs]
  exact K.runLoop_outOfFuel hh h f 0 0 hf

section Gen

/-! The standing hypotheses of this section (`include`) are those of `section Gen` of ConcKAllFuel.lean: label-safe,
linearly typed, at most 1024 xtors per type, the MOCK compilation `hcompM` with `CodeFits`, the AArch64 compilation,
pairwise distinct labels of the routine, integer parameters of the first definition, contexts of at most 140 variables. -/
variable (p : AxCut.Prog) (args : List Word) (hooks : Bool) (body routine : List Code)
  (nargs : Nat) (d0 : Def) (ops : List MockOp) (c' : Nat)
  (hsafe : LabelSafe p = true) (htp : LinTypedProg p) (hprog : K.ProgOK p)
  (hcompM : (compile mockSym hooks p).run 0 = .ok ((ops, nargs), c')) (hfit : CodeFits ops)
  (hcompX : compileProg a64Backend p hooks 0 = .ok (body, nargs, routine))
  (hnd : (labs routine).Nodup)
  (hd : p.defs.head? = some d0) (hentry : ∀ b ∈ d0.ctx, b.chi = .ext ∧ b.ty = .i64)
  (hlen : d0.ctx.length = args.length)
  (hcap : ∀ st, Reachable p ⟨d0.ctx, args.map .int, d0.body⟩ st → 2 * st.ctx.length ≤ 280)

include hsafe htp hprog hcompM hfit hcompX hnd hd hentry hlen hcap in
/-- behind the header: the boundaries of the run and the invariant of the runs under the footprint bound at the
first of them, for `fuel` steps -/
theorem entry_peak (fuel : Nat) (hfuel : fuel + 1 < 2 ^ 64) (c : MemCfg) (H : CfgCC c)
    (hb8 : c.heapBase % 8 = 0) (hb0 : 0 < c.heapBase)
    (Pk A : Nat) (hA : ∀ d ∈ p.defs, AllocLe A d.body) (hbytes : 64 * (Pk + A + 2) ≤ c.heapBytes)
    {hk : Code → Bool} {P : Prog} (HB : K.HoldsB hk P routine)
    (hfitX : c.codeBase + 4 * ninstr routine < 2 ^ 64)
    (hPH : PeakHyp p hooks routine ops c hk P args d0 Pk (A * fuel + 1)) :
    P.labels["asm_main"]? = some (pcOf hk routine 2) ∧ args.length ≤ 7 ∧ d0 ∈ p.defs ∧
    ∃ n0 X0, StepsN P c n0 (initMS c hk routine args) X0 ∧
      Track.Boundaries (StepsN P c) p (Bd c hk P routine (Program.ofOps ops) hooks p) (AtEnd c hk P routine) c.heapBase
        c.heapBytes ∧
      Track.PeakRun (StepsN P c) p (Bd c hk P routine (Program.ofOps ops) hooks p) A Pk (A * fuel + 1) fuel
        ⟨d0.ctx, args.map .int, d0.body⟩ [] X0 := by
  have hmem : d0 ∈ p.defs := List.mem_of_mem_head? hd
  have hc0 := hcap _ Reachable.refl
  simp only at hc0
  obtain ⟨pre, σ0, kp0, a, En, _⟩ := entry_setup p args hooks body routine nargs d0 ops c' hsafe htp
    hcompM hcompX hnd hd hentry hlen hc0 c H hb0 (by omega) HB (Q := fun _ => True) (Or.inr fun _ => trivial)
  obtain ⟨n0, hn0⟩ := stepsN_of_msteps En.steps
  exact ⟨En.main, En.nargs, hmem, n0, _, hn0, En.boundaries H hb8 HB hnd hfitX hcompM hsafe htp hfit hprog, _, _, 1,
    ⟨En.bd hcap, hA d0 hmem, valAll_ints _ args, frBound_init hb0 (by omega) (by omega),
      frBound_init hb0 (by omega) (Nat.le_refl _), hPH n0 _ hn0⟩, by rw [En.next1]; omega, by omega⟩

include hsafe htp hprog hcompM hfit hcompX hnd hd hentry hlen hcap in
/-- a terminating run from the machine's initial configuration (for any source of the peak hypothesis): the
machine reaches, in `n` iterations of its run loop, the final `RET` in a state that passes the exit check with the
result of the positional machine, having produced its trace; it passes through a boundary for every state -/
theorem programs_run_gen (fuel : Nat) (out : List (Bool × Word)) (v : Word) (hfuel : fuel + 1 < 2 ^ 64)
    (hrun : Pos.run p args fuel = ⟨out, .done v⟩)
    (c : MemCfg) (H : CfgCC c) (hb8 : c.heapBase % 8 = 0) (hb0 : 0 < c.heapBase)
    (Pk A : Nat) (hA : ∀ d ∈ p.defs, AllocLe A d.body) (hbytes : 64 * (Pk + A + 2) ≤ c.heapBytes)
    {hk : Code → Bool} {P : Prog} (HB : K.HoldsB hk P routine)
    (hfitX : c.codeBase + 4 * ninstr routine < 2 ^ 64)
    (hPH : PeakHyp p hooks routine ops c hk P args d0 Pk (A * fuel + 1)) :
    P.labels["asm_main"]? = some (pcOf hk routine 2) ∧ args.length ≤ 7 ∧
    ∃ n0 X0 n XL, StepsN P c n0 (initMS c hk routine args) X0 ∧
      BChain P c (ChainRel c hk P routine (Program.ofOps ops) hooks p Pk (A * fuel + 1))
        (statesOf p fuel ⟨d0.ctx, args.map .int, d0.body⟩) X0 ∧
      StepsN P c n X0 XL ∧ P.items[XL.pc]? = some (.instr .ret) ∧ exitCheck c XL.σ = .done v ∧
      XL.out.reverse = out := by
  have hrun' : Pos.runState p fuel ⟨d0.ctx, args.map .int, d0.body⟩ [] = ⟨out, .done v⟩ := by
    rw [← run_eq_runState hd hlen]; exact hrun
  obtain ⟨hmain, hargs, _, n0, X0, hn0, HBd, I0⟩ := entry_peak p args hooks body routine nargs d0 ops c' hsafe htp hprog
    hcompM hfit hcompX hnd hd hentry hlen hcap fuel hfuel c H hb8 hb0 Pk A hA hbytes HB hfitX hPH
  obtain ⟨n, XL, accL, hn, hout, _, g2, g3, g4⟩ := Track.peak_done HBd hA hbytes (n := fuel) (r := 0) I0 hrun'
  exact ⟨hmain, hargs, n0, X0, n, XL, hn0,
    bchain_of_chain (((Track.peakTrack HBd hA hbytes).run fuel 0 _ _ _ I0).1.mono chainRel_of_peakRun), hn, g2, g3,
    by rw [g4, hout]⟩

include hsafe htp hprog hcompM hfit hcompX hnd hd hentry hlen hcap in
/-- every prefix of every run (for any source of the peak hypothesis): the chain of statement boundaries -/
theorem programs_prefix_gen (fuel : Nat) (hfuel : fuel + 1 < 2 ^ 64)
    (c : MemCfg) (H : CfgCC c) (hb8 : c.heapBase % 8 = 0) (hb0 : 0 < c.heapBase)
    (Pk A : Nat) (hA : ∀ d ∈ p.defs, AllocLe A d.body) (hbytes : 64 * (Pk + A + 2) ≤ c.heapBytes)
    {hk : Code → Bool} {P : Prog} (HB : K.HoldsB hk P routine)
    (hfitX : c.codeBase + 4 * ninstr routine < 2 ^ 64)
    (hPH : PeakHyp p hooks routine ops c hk P args d0 Pk (A * fuel + 1)) :
    P.labels["asm_main"]? = some (pcOf hk routine 2) ∧ args.length ≤ 7 ∧
    ∃ n0 X0, StepsN P c n0 (initMS c hk routine args) X0 ∧
      BChain P c (ChainRel c hk P routine (Program.ofOps ops) hooks p Pk (A * fuel + 1))
        (statesOf p fuel ⟨d0.ctx, args.map .int, d0.body⟩) X0 := by
  obtain ⟨hmain, hargs, _, n0, X0, hn0, HBd, I0⟩ := entry_peak p args hooks body routine nargs d0 ops c' hsafe htp hprog
    hcompM hfit hcompX hnd hd hentry hlen hcap fuel hfuel c H hb8 hb0 Pk A hA hbytes HB hfitX hPH
  exact ⟨hmain, hargs, n0, X0, hn0,
    bchain_of_chain (((Track.peakTrack HBd hA hbytes).run fuel 0 _ _ _ I0).1.mono chainRel_of_peakRun)⟩

include hsafe htp hprog hcompM hfit hcompX hnd hd hentry hlen hcap in
/-- progress from the initial configuration (for any source of the peak hypothesis) -/
theorem programs_progress_gen (fuel : Nat) (hfuel : fuel + 1 < 2 ^ 64)
    (c : MemCfg) (H : CfgCC c) (hb8 : c.heapBase % 8 = 0) (hb0 : 0 < c.heapBase)
    (Pk A M : Nat) (hA : ∀ d ∈ p.defs, AllocLe A d.body) (hM : ∀ d ∈ p.defs, stmtSize d.body ≤ M)
    (hbytes : 64 * (Pk + A + 2) ≤ c.heapBytes)
    {hk : Code → Bool} {P : Prog} (HB : K.HoldsB hk P routine)
    (hfitX : c.codeBase + 4 * ninstr routine < 2 ^ 64)
    (hPH : PeakHyp p hooks routine ops c hk P args d0 Pk (A * fuel + 1))
    (out : List (Bool × Word))
    (hrun : Pos.runState p fuel ⟨d0.ctx, args.map .int, d0.body⟩ [] = ⟨out, .outOfFuel⟩)
    (N : Nat) (hN : N * (M + 1) + stmtSize d0.body ≤ fuel) :
    P.labels["asm_main"]? = some (pcOf hk routine 2) ∧ args.length ≤ 7 ∧
    ∃ n X, N ≤ n ∧ StepsN P c n (initMS c hk routine args) X := by
  obtain ⟨hmain, hargs, hmem, n0, X0, hn0, HBd, I0⟩ := entry_peak p args hooks body routine nargs d0 ops c' hsafe htp
    hprog hcompM hfit hcompX hnd hd hentry hlen hcap fuel hfuel c H hb8 hb0 Pk A hA hbytes HB hfitX hPH
  obtain ⟨_, _, _, _, n, X, _, hX, hw, _⟩ := (Track.peakTrack HBd hA hbytes).run fuel 0 _ _ _ I0
  have hN' := weight_ge hM fuel N _ [] (hM d0 hmem) (valAll_ints _ args) (by rw [hrun]) hN
  exact ⟨hmain, hargs, n0 + n, X, by omega, hn0.trans hX⟩

end Gen

/-- the chain of block-level facts as a chain of facts about the raw machine states: every configuration of the
chain is a statement boundary whose heap has at most `Pk + 1` blocks below the frontier -/
theorem bchain_shape {p : AxCut.Prog} {hooks : Bool} {routine : List Code} {ops : List MockOp} {c : MemCfg}
    {hk : Code → Bool} {P : Prog} {Pk C : Nat} :
    ∀ (sts : List Pos.State) (X : MS),
      BChain P c (ChainRel c hk P routine (Program.ofOps ops) hooks p Pk C) sts X →
      BChain P c (fun st X => BoundaryOf p hooks routine ops c hk P st X ∧
        ∃ below inUse, HeapShapeAt c X.σ below inUse ∧ below ≤ Pk + 1) sts X := by
  intro sts
  induction sts with
  | nil => intro X _; trivial
  | cons st rest ih =>
    intro X hc
    obtain ⟨⟨cfgA, hs, kp, T, ho, R, hfb, hcC⟩, hrest⟩ := hc
    have hB : BoundaryOf p hooks routine ops c hk P st X := ⟨cfgA, hs, kp, T, ho, R⟩
    have hX3 : ∃ Γ' ι κ, K.X3 c Γ' cfgA hs ι κ X.σ cfgA.out := by
      obtain ⟨Γ', ι, κ, _, _, X3h, _⟩ := R
      exact ⟨Γ', ι, κ, X3h⟩
    obtain ⟨Γ', ι, κ, X3h⟩ := hX3
    obtain ⟨lin, lazy, live, Fr, I⟩ := X3h.href.conc
    have hsh := heapShapeAt_of_rel X3h.hrel I
    refine ⟨⟨hB, _, _, hsh, hfb _ _ _ _ _ I⟩, ?_⟩
    rcases hrest with e | ⟨n', X', hn', hc'⟩
    · exact Or.inl e
    · exact Or.inr ⟨n', X', hn', ih X' hc'⟩

/-- … with the peak hypothesis on machine states: at most `Pk` blocks in use at every configuration of the chain -/
theorem bchain_shape_peak {p : AxCut.Prog} {hooks : Bool} {routine : List Code} {ops : List MockOp} {c : MemCfg}
    {hk : Code → Bool} {P : Prog} {args : List Word} {Pk C : Nat}
    (hP : PeakAtMost p hooks routine ops c hk P args Pk C) :
    ∀ (sts : List Pos.State) (X : MS) (k : Nat), StepsN P c k (initMS c hk routine args) X →
      BChain P c (ChainRel c hk P routine (Program.ofOps ops) hooks p Pk C) sts X →
      BChain P c (fun st X => BoundaryOf p hooks routine ops c hk P st X ∧
        ∃ below inUse, HeapShapeAt c X.σ below inUse ∧ below ≤ Pk + 1 ∧ inUse ≤ Pk) sts X := by
  intro sts
  induction sts with
  | nil => intro X k _ _; trivial
  | cons st rest ih =>
    intro X k hk' hc
    obtain ⟨⟨cfgA, hs, kp, T, ho, R, hfb, hcC⟩, hrest⟩ := hc
    have hB : BoundaryOf p hooks routine ops c hk P st X := ⟨cfgA, hs, kp, T, ho, R⟩
    have hX3 : ∃ Γ' ι κ, K.X3 c Γ' cfgA hs ι κ X.σ cfgA.out := by
      obtain ⟨Γ', ι, κ, _, _, X3h, _⟩ := R
      exact ⟨Γ', ι, κ, X3h⟩
    obtain ⟨Γ', ι, κ, X3h⟩ := hX3
    obtain ⟨lin, lazy, live, Fr, I⟩ := X3h.href.conc
    have hsh := heapShapeAt_of_rel X3h.hrel I
    refine ⟨⟨hB, _, _, hsh, hfb _ _ _ _ _ I, hP k X st hk' hB _ _ hsh (hcC _ _ _ _ _ I)⟩, ?_⟩
    rcases hrest with e | ⟨n', X', hn', hc'⟩
    · exact Or.inl e
    · exact Or.inr ⟨n', X', hn', ih X' (k + n') (hk'.trans hn') hc'⟩

end Scc.A64.ConcK
