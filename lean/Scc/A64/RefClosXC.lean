/-
  Scc.A64.RefClosXC — CLOSURES in the three-way relation (C07 on AArch64): THE CLOSURE INVARIANT `XC`
  (RefClosDefs.lean) is that of Scc/Backend/ClosWalk.lean for the AArch64 machine (`XC.toG`, `XC.ofG`): the machine
  word of a variable is what its word temporary holds (`tvOf`), and of the code behind a code pointer `XMethodsAt`
  is asked.  So the generic three-way step (`ThreeWay.step3K`, Scc/Backend/ThreeWayRun.lean) carries it.
-/
import Scc.A64.RefClosLemmas
import Scc.A64.RefClosHLoad
import Scc.A64.RefClosHLet
import Scc.A64.ThreeWayTarget
import Scc.A64.RefClosHCall

namespace Scc.A64.Ref.K

open Scc.AxCut Scc.AxCut.Pos Scc.Backend Scc.Backend.Abs

section
variable {P : Program} {c : MemCfg} {cs : List Code} {hooks : Bool} {types : List TypeDecl}

theorem XV.int_any {h : Heap} {κ : Nat → Nat → Word} (n : Word) (p : Option Word) (a w : Word) :
    XV P c cs hooks types h κ (.int n) p a w := .int n p a w

theorem XC.toG {Γ : Ctx} {ρ : List Value} {cfg : Config} {κ : Nat → Nat → Word} {σ : State}
    (C : XC P c cs hooks types Γ ρ cfg κ σ) :
    Prov.XC P hooks types (XMethodsAt c cs hooks types) (tvOf σ) Γ ρ cfg κ :=
  fun i h1 h2 w hw => XV.toG (C i h1 h2 w hw)

theorem XC.ofG {Γ : Ctx} {ρ : List Value} {cfg : Config} {κ : Nat → Nat → Word} {σ : State}
    (C : Prov.XC P hooks types (XMethodsAt c cs hooks types) (tvOf σ) Γ ρ cfg κ) :
    XC P c cs hooks types Γ ρ cfg κ σ :=
  fun i h1 h2 w hw => XV.ofG (C i h1 h2 w hw)

end

end Scc.A64.Ref.K
