/-
  Scc.A64.RefBridge — from instruction lists to the run loop of the AArch64 SPEC machine, for a laid-out
  program `P` that HOLDS the routine `cs` (`CC.Holds hk P cs`, CCProofsRun.lean; `CC.holds_layout` derives it
  for `layout ls` from the line-by-line correspondence `CC.Lines`).  `MSteps` are finitely many iterations of
  `runLoop` that do not end the run (an instruction with outcome `next` / `print`, a `#ctx` hook with the heap
  monitor off); inside `runLoop` they consume fuel and nothing else (`runLoop_msteps`).  A straight-line block
  (`execCodes`), a block with calls of the print runtime (`execCodesOut`) and a direct branch at a list position of
  the routine are such iterations.  The machine's program counter at list position `k` is `pcOf hk cs k`, the number
  of items before `k`.
-/
import Scc.A64.RefDefs
import Scc.A64.PrintLemmas

namespace Scc.A64.Ref

open Scc.A64.CC

/-- one iteration of `runLoop` that does not end the run (heap monitor off) -/
inductive MStep (P : Prog) (c : MemCfg) :
    State → Nat → List (Bool × Word) → State → Nat → List (Bool × Word) → Prop
  | hook {σ : State} {pc : Nat} {out : List (Bool × Word)} {vs : List (String × Kind)} :
      P.items[pc]? = some (.hook vs) → MStep P c σ pc out σ (pc + 1) out
  | next {σ σ' : State} {pc pc' : Nat} {out : List (Bool × Word)} {i : Instr} :
      P.items[pc]? = some (.instr i) → step P c i σ pc = .next σ' pc' → MStep P c σ pc out σ' pc' out
  | print {σ σ' : State} {pc pc' : Nat} {out : List (Bool × Word)} {i : Instr} {nl : Bool} {w : Word} :
      P.items[pc]? = some (.instr i) → step P c i σ pc = .print nl w σ' pc' →
      MStep P c σ pc out σ' pc' ((nl, w) :: out)

inductive MSteps (P : Prog) (c : MemCfg) :
    State → Nat → List (Bool × Word) → State → Nat → List (Bool × Word) → Prop
  | refl (σ : State) (pc : Nat) (out : List (Bool × Word)) : MSteps P c σ pc out σ pc out
  | step {σ σ1 σ2 : State} {pc pc1 pc2 : Nat} {out out1 out2 : List (Bool × Word)} :
      MStep P c σ pc out σ1 pc1 out1 → MSteps P c σ1 pc1 out1 σ2 pc2 out2 → MSteps P c σ pc out σ2 pc2 out2

theorem MSteps.trans {P : Prog} {c : MemCfg} {σ1 σ2 σ3 : State} {pc1 pc2 pc3 : Nat}
    {o1 o2 o3 : List (Bool × Word)} (h1 : MSteps P c σ1 pc1 o1 σ2 pc2 o2)
    (h2 : MSteps P c σ2 pc2 o2 σ3 pc3 o3) : MSteps P c σ1 pc1 o1 σ3 pc3 o3 := by
  induction h1 with
  | refl => exact h2
  | step hs _ ih => exact .step hs (ih h2)

theorem MSteps.one {P : Prog} {c : MemCfg} {σ1 σ2 : State} {pc1 pc2 : Nat} {o1 o2 : List (Bool × Word)}
    (h : MStep P c σ1 pc1 o1 σ2 pc2 o2) : MSteps P c σ1 pc1 o1 σ2 pc2 o2 := .step h (.refl _ _ _)

/-- `MSteps` inside `runLoop`: the iterations consume fuel -/
theorem runLoop_msteps {P : Prog} {cfg : MonCfg} (hh : cfg.heap = false) {σ σ' : State} {pc pc' : Nat}
    {out out' : List (Bool × Word)} (h : MSteps P cfg.mem σ pc out σ' pc' out') :
    ∀ (steps blocks : Nat), ∃ n steps', ∀ fuel,
      runLoop P cfg (n + fuel) { σ := σ, pc := pc, out := out, steps := steps, blocks := blocks } =
        runLoop P cfg fuel { σ := σ', pc := pc', out := out', steps := steps', blocks := blocks } := by
  induction h with
  | refl σ pc out => intro steps blocks; exact ⟨0, steps, fun fuel => by simp⟩
  | @step σ σ1 σ2 pc pc1 pc2 out out1 out2 hs _ ih =>
    intro steps blocks
    cases hs with
    | hook hi =>
      obtain ⟨n, s', hn⟩ := ih steps blocks
      refine ⟨n + 1, s', fun fuel => ?_⟩
      rw [show n + 1 + fuel = (n + fuel) + 1 by omega, runLoop_item hi]
      simp only [hh, Bool.false_eq_true, if_false]
      exact hn fuel
    | next hi hst =>
      obtain ⟨n, s', hn⟩ := ih (steps + 1) blocks
      refine ⟨n + 1, s', fun fuel => ?_⟩
      rw [show n + 1 + fuel = (n + fuel) + 1 by omega, runLoop_item hi]
      simp only [hst]
      exact hn fuel
    | print hi hst =>
      obtain ⟨n, s', hn⟩ := ih (steps + 1) blocks
      refine ⟨n + 1, s', fun fuel => ?_⟩
      rw [show n + 1 + fuel = (n + fuel) + 1 by omega, runLoop_item hi]
      simp only [hst]
      exact hn fuel

theorem runLoop_ret {P : Prog} {cfg : MonCfg} {σ : State} {pc : Nat} (hi : P.items[pc]? = some (.instr .ret))
    {v : Word} (hx : exitCheck cfg.mem σ = .done v) (out : List (Bool × Word)) (steps blocks fuel : Nat) :
    (runLoop P cfg (fuel + 1) { σ := σ, pc := pc, out := out, steps := steps, blocks := blocks }).out = out.reverse ∧
    (runLoop P cfg (fuel + 1) { σ := σ, pc := pc, out := out, steps := steps, blocks := blocks }).res = .done v := by
  rw [runLoop_item hi]
  simp only [step, hx, finish, withLine]
  exact ⟨trivial, trivial⟩

/-- the machine's program counter at list position `k` -/
def pcOf (hk : Code → Bool) (cs : List Code) (k : Nat) : Nat := icnt hk (cs.take k)

section Holds

variable {hk : Code → Bool} {P : Prog} {cs : List Code} (Hp : Holds hk P cs) {c : MemCfg}

theorem pcOf_succ {k : Nat} {code : Code} (h : cs[k]? = some code) :
    pcOf hk cs (k + 1) = pcOf hk cs k + (if isItem hk code then 1 else 0) := icnt_take_succ hk h

theorem pcOf_item {k : Nat} {code : Code} (h : cs[k]? = some code) (hi : isItem hk code = true) :
    pcOf hk cs (k + 1) = pcOf hk cs k + 1 := by rw [pcOf_succ h, hi]; rfl

theorem pcOf_noitem {k : Nat} {code : Code} (h : cs[k]? = some code) (hi : isItem hk code = false) :
    pcOf hk cs (k + 1) = pcOf hk cs k := by rw [pcOf_succ h, hi]; rfl

theorem isData_of_exec {i : Instr} {σ σ' : State} (h : i.exec c σ = .ok σ') : isData i = true := by
  cases hd : isData i with
  | true => rfl
  | false => rw [exec_nonData hd] at h; cases h

include Hp in
theorem msteps_code {k : Nat} {code : Code} (hc : cs[k]? = some code) {σ σ' : State}
    (hx : execCode c code σ = .ok σ') (out : List (Bool × Word)) :
    MSteps P c σ (pcOf hk cs k) out σ' (pcOf hk cs (k + 1)) out := by
  by_cases hm : code.isMeta = true
  · have hs : σ' = σ := by
      rw [execCode_meta hm] at hx; cases hx; rfl
    subst hs
    by_cases hh : hk code = true
    · obtain ⟨vs, hit⟩ := Hp.hook k code hc hh
      rw [pcOf_item hc (by simp [isItem, hh])]
      exact .one (.hook hit)
    · rw [pcOf_noitem hc (by simp [isItem, hm, hh])]
      exact .refl _ _ _
  · have hm' : code.isMeta = false := by simpa using hm
    obtain ⟨i, hti, hit⟩ := Hp.instr k code hc hm'
    rw [execCode_of_toInstr σ hti] at hx
    have hd := isData_of_exec hx
    rw [pcOf_item hc (by simp [isItem, hm'])]
    refine .one (.next hit ?_)
    rw [step_data (cfg := { mem := c }) hd]
    simp only [hx]

include Hp in
theorem msteps_codes : ∀ (blk : List Code) (k : Nat) (σ σ' : State) (out : List (Bool × Word)),
    (∀ j (h : j < blk.length), cs[k + j]? = some blk[j]) → execCodes c blk σ = .ok σ' →
    MSteps P c σ (pcOf hk cs k) out σ' (pcOf hk cs (k + blk.length)) out
  | [], k, σ, σ', out, _, hx => by
    simp only [execCodes, Except.ok.injEq] at hx
    subst hx
    exact .refl _ _ _
  | code :: rest, k, σ, σ', out, hb, hx => by
    simp only [execCodes] at hx
    cases h1 : execCode c code σ with
    | error e => simp [h1] at hx
    | ok σ1 =>
      simp only [h1] at hx
      have h0 := hb 0 (by simp)
      simp only [Nat.add_zero, List.getElem_cons_zero] at h0
      have hrest : ∀ j (h : j < rest.length), cs[k + 1 + j]? = some rest[j] := by
        intro j hj
        have := hb (j + 1) (by simpa using hj)
        rw [Nat.add_assoc, Nat.add_comm 1 j]
        simpa using this
      have := msteps_codes rest (k + 1) σ1 σ' out hrest hx
      rw [show k + 1 + rest.length = k + (code :: rest).length by simp; omega] at this
      exact (msteps_code Hp h0 h1 out).trans this

include Hp in
/-- a block with calls of the print runtime at list position `k`: the calls are appended to the trace -/
theorem msteps_codesOut : ∀ (blk : List Code) (k : Nat) (σ σ' : State) (out outs : List (Bool × Word)),
    (∀ j (h : j < blk.length), cs[k + j]? = some blk[j]) → execCodesOut c blk σ = .ok (σ', outs) →
    MSteps P c σ (pcOf hk cs k) out σ' (pcOf hk cs (k + blk.length)) (outs.reverse ++ out)
  | [], k, σ, σ', out, outs, _, hx => by
    simp only [execCodesOut, Except.ok.injEq, Prod.mk.injEq] at hx
    obtain ⟨rfl, rfl⟩ := hx
    exact .refl _ _ _
  | code :: rest, k, σ, σ', out, outs, hb, hx => by
    have h0 := hb 0 (by simp)
    simp only [Nat.add_zero, List.getElem_cons_zero] at h0
    have hrest : ∀ j (h : j < rest.length), cs[k + 1 + j]? = some rest[j] := by
      intro j hj
      have := hb (j + 1) (by simpa using hj)
      rw [Nat.add_assoc, Nat.add_comm 1 j]
      simpa using this
    have elen : k + 1 + rest.length = k + (code :: rest).length := by simp; omega
    by_cases hbl : code.isBL = true
    · cases code <;> simp [Code.isBL] at hbl
      rename_i l
      simp only [execCodesOut] at hx
      by_cases hext : isExternal l = true
      · rw [if_pos hext] at hx
        cases hcall : σ.callExternal with
        | error e => simp [hcall] at hx
        | ok r =>
          obtain ⟨w, σ1⟩ := r
          simp only [hcall] at hx
          cases hr : execCodesOut c rest σ1 with
          | error e => simp [hr] at hx
          | ok r2 =>
            obtain ⟨σ2, o2⟩ := r2
            simp only [hr, Except.ok.injEq, Prod.mk.injEq] at hx
            obtain ⟨rfl, rfl⟩ := hx
            obtain ⟨i, hti, hit⟩ := Hp.instr k _ h0 rfl
            simp only [Code.toInstr, Option.some.injEq] at hti
            subst hti
            have hst : step P c (.bl l) σ (pcOf hk cs k) = .print (l == "println_i64") w σ1 (pcOf hk cs k + 1) := by
              simp only [step, hext, if_true, hcall]
            have h1 := msteps_codesOut rest (k + 1) σ1 σ2 ((l == "println_i64", w) :: out) o2 hrest hr
            rw [elen, pcOf_item h0 (by simp [isItem, Code.isMeta])] at h1
            have h2 : MSteps P c σ (pcOf hk cs k) out σ1 (pcOf hk cs k + 1) ((l == "println_i64", w) :: out) :=
              .one (.print hit hst)
            have := h2.trans h1
            rw [List.reverse_cons, List.append_assoc]
            exact this
      · rw [if_neg hext] at hx; cases hx
    · have hbl' : code.isBL = false := by simpa using hbl
      rw [execCodesOut_cons_noBL hbl'] at hx
      cases h1 : execCode c code σ with
      | error e => simp [h1] at hx
      | ok σ1 =>
        simp only [h1] at hx
        have := msteps_codesOut rest (k + 1) σ1 σ' out outs hrest hx
        rw [elen] at this
        exact (msteps_code Hp h0 h1 out).trans this

theorem firstLab_append_of_not_mem (l : String) (pre rest : List Code) (h : Code.LAB l ∉ pre) (k : Nat) :
    firstLab l (pre ++ Code.LAB l :: rest) k = some (k + pre.length) := by
  induction pre generalizing k with
  | nil => simp [firstLab]
  | cons c pre ih =>
    have hc : c ≠ Code.LAB l := fun e => h (by simp [e])
    simp only [List.cons_append, firstLab, if_neg hc]
    rw [ih (fun hm => h (by simp [hm])) (k + 1)]
    simp only [List.length_cons]
    congr 1; omega

include Hp in
theorem label_pc {l : String} {pre rest : List Code} (hcs : cs = pre ++ Code.LAB l :: rest)
    (h : Code.LAB l ∉ pre) : P.labels[l]? = some (pcOf hk cs pre.length) := by
  rw [Hp.labels, hcs, firstLab_append_of_not_mem l pre rest h 0]
  simp [pcOf]

include Hp in
theorem mstep_jump {k : Nat} {l : String} (hc : cs[k]? = some (Code.B l)) {j : Nat} (hl : P.labels[l]? = some j)
    (σ : State) (out : List (Bool × Word)) : MSteps P c σ (pcOf hk cs k) out σ j out := by
  obtain ⟨i, hti, hit⟩ := Hp.instr k _ hc rfl
  simp only [Code.toInstr, Option.some.injEq] at hti
  subst hti
  exact .one (.next hit (by simp [step, Prog.gotoLabel, hl]))

include Hp in
theorem mstep_bcond {k : Nat} {code : Code} {cd : Cond} {l : String} (hc : cs[k]? = some code)
    (hti : code.toInstr = some (.bcond cd l)) {σ : State} {a b : Word} (hf : σ.flags = some (a, b))
    {j : Nat} (hl : cd.holds a b = true → P.labels[l]? = some j) (out : List (Bool × Word)) :
    MSteps P c σ (pcOf hk cs k) out σ (if cd.holds a b then j else pcOf hk cs (k + 1)) out := by
  have hm : code.isMeta = false := by
    cases code <;> first | rfl | (simp [Code.toInstr] at hti)
  obtain ⟨i, hti', hit⟩ := Hp.instr k _ hc hm
  rw [hti] at hti'
  cases hti'
  rw [pcOf_item hc (by simp [isItem, hm])]
  refine .one (.next hit ?_)
  simp only [step, hf]
  by_cases hh : cd.holds a b = true
  · simp [hh, Prog.gotoLabel, hl hh]
  · simp [hh]

end Holds

theorem block_get {cs cs1 blk rest : List Code} (hcs : cs = cs1 ++ blk ++ rest) :
    ∀ j (h : j < blk.length), cs[cs1.length + j]? = some blk[j] := by
  intro j hj
  rw [hcs, List.append_assoc, List.getElem?_append_right (by omega)]
  simp [List.getElem?_append_left hj]

theorem code_get {cs cs1 rest : List Code} {code : Code} (hcs : cs = cs1 ++ code :: rest) :
    cs[cs1.length]? = some code := by
  rw [hcs]; simp

end Scc.A64.Ref
