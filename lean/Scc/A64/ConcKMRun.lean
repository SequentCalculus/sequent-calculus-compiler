/-
  Scc.A64.ConcKMRun — THE RUNS WITH THE HEAP MONITOR on AArch64, ALL PROGRAMS: the runs under the footprint bound
  (Scc/A64/ConcKPeakRun.lean), with the machine's runs as PASSING counted runs `StepsNP pass` (`K.MStepsNP`,
  Scc/A64/ConcKMid.lean): every iteration of the run loop at a `#ctx` hook item satisfies `pass σ vs`.  By `K.step3M`
  (Scc/A64/RefClosHRun.lean) the only hook item a step of the simulation visits is the hook of the statement boundary it starts at, in the boundary
  state, and only when the machine is AT the boundary item (after the `BR` of an `invoke` it is behind the hook:
  `Tol`); there `pass` holds by the hypothesis `HookPassFrom` (for the heap monitor: from `heapMonitor_boundary`,
  given the kinds the hook lists and the window).  `AllHF` (the names that start the statement comments of `op` and
  `call` do not start with `#`) is kept along the run by `hered_step`.  `MonInv`, `MonRun`, `monTrack`: the invariant
  that `Track.run` (Scc/Backend/Track.lean) carries along passing runs; `MonRun.done`: to the final `RET`.
-/
import Scc.A64.RefClosHRun
import Scc.A64.ConcKPeakRun
import Scc.AxCut.PosProgress

namespace Scc.A64.ConcK

open Scc.AxCut Scc.Backend Scc.Backend.Abs Scc.A64.Ref
open Scc.A64.CC
open Scc.Props.C14Generic (LabelSafe)
open Scc.Props.C06Generic (outAfter WithinCapacity Reachable EnoughHeap CodeFits statesOf stopsWithin)
open Scc.Heap (HState InvS InvW Exhausted)
open Scc.Heap.Refine (HRef FrLe Room FrPk)
open Scc.X86.Conc (FrBound LiveLe LiveLe0 stmtSize clausesSize stmtSize_pos clausesSize_nth)
open Scc.X86.Ref.K (AllocLe AllocLeClauses ValAll allocArity allocArity_le hered_step hered_allocLe IsJump AllHF ClausesHF
  hered_allHF headHF_of_all)
open Scc.A64.NoHk (HK)

def StepsNP (pass : State → List (String × Kind) → Prop) (P : Prog) (c : MemCfg) (n : Nat) (X Y : MS) : Prop :=
  K.MStepsNP pass P c n X.σ X.pc X.out Y.σ Y.pc Y.out

theorem StepsNP.refl (pass : State → List (String × Kind) → Prop) (P : Prog) (c : MemCfg) (X : MS) :
    StepsNP pass P c 0 X X := K.MStepsNP.refl _ _ _

theorem StepsNP.trans {pass : State → List (String × Kind) → Prop} {P : Prog} {c : MemCfg} {n m : Nat} {X Y Z : MS}
    (h1 : StepsNP pass P c n X Y) (h2 : StepsNP pass P c m Y Z) : StepsNP pass P c (n + m) X Z :=
  K.MStepsNP.trans h1 h2

theorem StepsNP.forget {pass : State → List (String × Kind) → Prop} {P : Prog} {c : MemCfg} {n : Nat} {X Y : MS}
    (h : StepsNP pass P c n X Y) : StepsN P c n X Y := K.MStepsNP.forget h

/-- THE HOOK HYPOTHESIS from the configuration `X` on: at every statement boundary the machine reaches from `X`
EXACTLY (its program counter is the boundary item; with at most `B` blocks below the frontier), the hook at the
program counter (if the item is a hook) passes -/
def HookPassFrom (pass : State → List (String × Kind) → Prop) (c : MemCfg) (hkf : Code → Bool) (Pm : Prog)
    (cs : List Code) (P : Program) (hooks : Bool) (prog : AxCut.Prog) (st : Pos.State) (X : MS) (B : Nat) : Prop :=
  ∀ n X' st' cfg' hs' kp' vs, Reachable prog st st' → StepsN Pm c n X X' → X'.pc = pcOf hkf cs kp' →
    X'.out = cfg'.out → K.Rel3 c cs P hooks prog st' cfg' hs' X'.σ kp' → FrBound hs' B →
    Pm.items[X'.pc]? = some (.hook vs) → pass X'.σ vs

theorem HookPassFrom.step {pass : State → List (String × Kind) → Prop} {c : MemCfg} {hkf : Code → Bool} {Pm : Prog}
    {cs : List Code} {P : Program} {hooks : Bool}
    {prog : AxCut.Prog} {st st1 : Pos.State} {o : Option (Bool × Word)} {X X' : MS} {B n : Nat}
    (h : HookPassFrom pass c hkf Pm cs P hooks prog st X B) (hs : Pos.step prog st = .next st1 o)
    (hn : StepsN Pm c n X X') : HookPassFrom pass c hkf Pm cs P hooks prog st1 X' B :=
  fun n' X'' st' cfg' hs' kp' vs hr hn' e ho R hb hv =>
    h (n + n') X'' st' cfg' hs' kp' vs (Scc.Props.C06Generic.reachable_prepend hs hr) (hn.trans hn') e ho R hb hv

/-- what the runs with passing hooks keep at a statement boundary besides `PeakInv`: the names at the head of the
statement comments do not start with `#` (statement and closures of the environment), the hook hypothesis from
here on -/
structure MonInv (pass : State → List (String × Kind) → Prop) (c : MemCfg) (hkf : Code → Bool) (Pm : Prog)
    (cs : List Code) (P : Program) (hooks : Bool) (prog : AxCut.Prog) (A Pk C : Nat) (st : Pos.State)
    (acc : List (Bool × Word)) (cfg : Config) (hs : HState) (X : MS) (Cb : Nat) : Prop where
  peak : PeakInv c hkf Pm cs P hooks prog A Pk C st acc cfg hs X Cb
  hf : AllHF st.stmt
  hfv : ∀ w ∈ st.env, ValAll ClausesHF w
  hook : HookPassFrom pass c hkf Pm cs P hooks prog st X (Pk + 1)

/-- … with object numbers and the count `Cb` of blocks for `r` more steps -/
def MonRun (pass : State → List (String × Kind) → Prop) (c : MemCfg) (hkf : Code → Bool) (Pm : Prog)
    (cs : List Code) (P : Program) (hooks : Bool) (prog : AxCut.Prog) (A Pk C r : Nat) (st : Pos.State)
    (acc : List (Bool × Word)) (X : MS) : Prop :=
  ∃ cfg hs Cb, MonInv pass c hkf Pm cs P hooks prog A Pk C st acc cfg hs X Cb ∧ cfg.next + r < 2 ^ 64 ∧ Cb + A * r ≤ C

/-- the hook of the boundary passes, if the machine is AT the boundary item -/
theorem MonInv.pass0 {pass : State → List (String × Kind) → Prop} {c : MemCfg} {hkf : Code → Bool} {Pm : Prog}
    {cs : List Code} {P : Program} {hooks : Bool} {prog : AxCut.Prog} {A Pk C : Nat} {st : Pos.State}
    {acc : List (Bool × Word)} {cfg : Config} {hs : HState} {X : MS} {Cb : Nat}
    (I : MonInv pass c hkf Pm cs P hooks prog A Pk C st acc cfg hs X Cb) {kp : Nat}
    (R : K.Rel3 c cs P hooks prog st cfg hs X.σ kp) :
    X.pc = pcOf hkf cs kp → ∀ vs, Pm.items[pcOf hkf cs kp]? = some (.hook vs) → pass X.σ vs :=
  fun e vs hv => I.hook 0 X st cfg hs kp vs Reachable.refl (StepsN.refl _ _ _) e
    (I.peak.bd.out.trans I.peak.bd.cout.symm) R I.peak.fb (by rw [e]; exact hv)

section Run3M

variable {pass : State → List (String × Kind) → Prop}
  {c : MemCfg} (H : CfgCC c) (h8 : c.heapBase % 8 = 0) {hkf : Code → Bool} {Pm : Prog}
  {cs pre : List Code} (HB : K.HoldsB hkf Pm cs) (hnd : (labs cs).Nodup)
  (hfitX : c.codeBase + 4 * ninstr cs < 2 ^ 64) (hcs : cs = pre ++ cleanup)
  (hclean : "cleanup" ∉ labs pre)

include H h8 HB hnd hfitX hcs hclean in
/-- THE RUNS WITH PASSING HOOKS: by `K.step3M` the only hook item a step of the simulation visits is the hook of the
boundary it starts at, and only when the machine is at the boundary item, where `pass` holds by `HookPassFrom`; the
bookkeeping of the footprint is `PeakInv.step` -/
theorem monTrack (hooks : Bool) (prog : AxCut.Prog) (kc : Nat) (code : List MockOp) (nargs kc' : Nat)
    (hcomp : (compile mockSym hooks prog).run kc = .ok ((code, nargs), kc'))
    (hsafe : LabelSafe prog = true) (htp : LinTypedProg prog) (hfit : CodeFits code)
    (DX : K.XDefsAt cs hooks prog) (hprog : K.ProgOK prog) (Pk C A : Nat)
    (hA : ∀ d ∈ prog.defs, AllocLe A d.body)
    (hbytes : 64 * (Pk + A + 2) ≤ c.heapBytes) (hK : HK hkf) (hHF : ∀ d ∈ prog.defs, AllHF d.body) :
    Track.Track (StepsNP pass Pm c) prog (MonRun pass c hkf Pm cs (Program.ofOps code) hooks prog A Pk C)
      Scc.X86.Ref.K.jumpW where
  refl := StepsNP.refl pass Pm c
  trans := StepsNP.trans
  next := by
    rintro r st acc ⟨σ, pcR, out⟩ st' o ⟨cfg, hs, Cb, I, hnext, hC⟩ hst
    rw [Nat.mul_succ] at hC
    have HBd := boundaries H h8 HB hnd hfitX hcs hclean hooks prog kc code nargs kc' hcomp hsafe htp hfit DX hprog
    have B := I.peak.bd
    obtain ⟨kp, TL, R⟩ := B.pos
    have hout : out = acc := B.out
    subst hout
    have hacc := B.cout
    have hsim := K.step3M H h8 HB hnd hfitX hcs hclean hooks prog kc code nargs kc' hcomp hsafe hfit
      DX hprog st cfg hs σ kp R B.typed (by unfold EnoughHeap; omega) (I.peak.room HBd hbytes) hK (headHF_of_all I.hf)
    have hpass0 := I.pass0 R
    have hsafe' := Pos.step_safe htp st B.typed
    unfold K.StepSim3M at hsim
    simp only [hst] at hsim
    rw [hst] at hsafe'
    have hc' := B.cap st' (Reachable.step Reachable.refl hst)
    obtain ⟨cfg', hs', σ', kp', pcR', h1, T', hreal, h2, h3, hfr, hpk, R'⟩ := hsim (Ref.withinCapacity_of_le hc') hc'
    have hacc' : cfg'.out = outAfter o out := by rw [h2, hacc]
    rw [hacc, hacc'] at h1 hreal
    have hcap' : ∀ st'', Reachable prog st' st'' → 2 * st''.ctx.length ≤ 280 :=
      fun st'' hr => B.cap st'' (Scc.Props.C06Generic.reachable_prepend hst hr)
    obtain ⟨hhf', hvhf'⟩ := hered_step hered_allHF hHF hst I.hf I.hfv
    by_cases hJ : IsJump st.stmt
    · obtain ⟨k, hk1, hkM⟩ := K.tol_next_realP (pass := pass) TL (hreal hJ) hpass0
      have hkP : StepsNP pass Pm c k ⟨σ, pcR, out⟩ ⟨σ', pcR', outAfter o out⟩ := hkM
      exact ⟨k, ⟨σ', pcR', outAfter o out⟩, hkP, ⟨cfg', hs', Cb + A,
        ⟨I.peak.step HBd hA (by omega) hst (StepsNP.forget hkP) ⟨hsafe', hcap', rfl, hacc', kp', T', R'⟩ hfr hpk,
          hhf', hvhf', I.hook.step hst (StepsNP.forget hkP)⟩, by omega, by omega⟩,
        Scc.X86.Ref.K.jumpW_le fun _ => hk1⟩
    · obtain ⟨pcR'', k, hkM, T''⟩ := K.tol_nextP (pass := pass) TL h1 T' hpass0
      have hkP : StepsNP pass Pm c k ⟨σ, pcR, out⟩ ⟨σ', pcR'', outAfter o out⟩ := hkM
      exact ⟨k, ⟨σ', pcR'', outAfter o out⟩, hkP, ⟨cfg', hs', Cb + A,
        ⟨I.peak.step HBd hA (by omega) hst (StepsNP.forget hkP) ⟨hsafe', hcap', rfl, hacc', kp', T'', R'⟩ hfr hpk,
          hhf', hvhf', I.hook.step hst (StepsNP.forget hkP)⟩, by omega, by omega⟩,
        Scc.X86.Ref.K.jumpW_le fun h => absurd h hJ⟩

include H h8 HB hnd hfitX hcs hclean in
/-- the last step: a passing run to the final `RET` -/
theorem MonRun.done (hooks : Bool) (prog : AxCut.Prog) (kc : Nat) (code : List MockOp) (nargs kc' : Nat)
    (hcomp : (compile mockSym hooks prog).run kc = .ok ((code, nargs), kc'))
    (hsafe : LabelSafe prog = true) (htp : LinTypedProg prog) (hfit : CodeFits code)
    (DX : K.XDefsAt cs hooks prog) (hprog : K.ProgOK prog) {Pk C A : Nat}
    (hbytes : 64 * (Pk + A + 2) ≤ c.heapBytes) (hK : HK hkf)
    {r : Nat} {st : Pos.State} {acc : List (Bool × Word)} {X : MS} {v : Word}
    (h : MonRun pass c hkf Pm cs (Program.ofOps code) hooks prog A Pk C (r + 1) st acc X)
    (hst : Pos.step prog st = .done v) : ∃ k XL, StepsNP pass Pm c k X XL ∧ AtEnd c hkf Pm cs v acc XL := by
  obtain ⟨cfg, hs, Cb, I, hnext, _⟩ := h
  obtain ⟨σ, pcR, out⟩ := X
  have HBd := boundaries H h8 HB hnd hfitX hcs hclean hooks prog kc code nargs kc' hcomp hsafe htp hfit DX hprog
  have B := I.peak.bd
  obtain ⟨kp, TL, R⟩ := B.pos
  have hout : out = acc := B.out
  subst hout
  have hsim := K.step3M H h8 HB hnd hfitX hcs hclean hooks prog kc code nargs kc' hcomp hsafe hfit
    DX hprog st cfg hs σ kp R B.typed (by unfold EnoughHeap; omega) (I.peak.room HBd hbytes) hK (headHF_of_all I.hf)
  unfold K.StepSim3M at hsim
  simp only [hst] at hsim
  obtain ⟨kL, σL, h1, h2, h3⟩ := hsim
  rw [B.cout] at h1
  obtain ⟨n, hn⟩ := K.tol_run_instrP (pass := pass) TL h1 h2 (I.pass0 R)
  exact ⟨n, ⟨σL, pcOf hkf cs kL, out⟩, hn, ⟨kL, rfl⟩, h2, h3, rfl⟩

end Run3M

end Scc.A64.ConcK
