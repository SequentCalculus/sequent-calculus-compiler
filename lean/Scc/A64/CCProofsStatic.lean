/-
  Scc.A64.CCProofsStatic — property C13 (calling convention), AArch64: STATIC, TEXT-LEVEL facts about
  the instruction list that the generic code generator (Scc/Backend/Generic.lean) instantiated with
  `a64Backend` emits for ANY program it compiles.

  * `plainCC code`  — the instruction is none of `BL / RET / STP (pre-index) / LDP (post-index)`, does not
    write `SP`, and every `SP`-relative memory operand addresses a slot of the spill area (`0 ≤ off`,
    `off + 8 ≤ SPILL_SPACE = 2048`, 8-aligned);
    `plainInt code` — moreover it has no memory operand with another base register, is not `BR`/`ADR`,
    and does not branch to `asm_main`.
  * `CCShape plain body` — `body` is a sequence of plain instructions and of whole print blocks
    `printI64 nl t ctx` whose argument `t` is the `Snd` temporary of a variable of `ctx` (`PrintSrc`).
  * `compile_ccShape` / `compile_ccShape_int`: every compiled body (resp. the body of an integer program)
    has the shape.  Proof: the generic lifting of Scc/Backend/ProofsShape.lean; that a method emits only plain
    instructions is read off its form (`Mem.items_*` of Scc/A64/CodeBlk.lean for code.rs, `Mem.blk_*` of
    Scc/A64/MemBlk.lean for memory.rs).
-/
import Scc.Backend.ProofsShape
import Scc.Backend.ProofsBlocks
import Scc.A64.WfMemory
import Scc.A64.Total

namespace Scc.A64

open Scc.AxCut
open Scc.Backend (GenM TempNum freshLabel)
open Scc.Backend.Shape (OpsShape IntProgC IntStmtC AllExt LabOK labOK_def labOK_cleanup labOK_fresh)
open Scc.X86 (Post)

/-- the registers an instruction writes (`BL` writes the link register X30 = logical register 29) -/
def codeWrites : Code → List Register
  | .ADD x _ _ | .ADDI x _ _ | .SUB x _ _ | .SUBI x _ _ | .MUL x _ _ | .SDIV x _ _ | .MSUB x _ _ _ => [x]
  | .ADR r _ | .MOVR r _ | .MOVZ r _ _ | .MOVN r _ _ | .MOVK r _ _ | .LDR r _ _ => [r]
  | .LDP_POST_INDEX r1 r2 b _ => [r1, r2, b]
  | .STP_PRE_INDEX _ _ b _ => [b]
  | .BL _ => [.x 29]
  | _ => []

def codeMems : Code → List (Register × Int)
  | .LDR _ b i | .STR _ b i | .LDP_POST_INDEX _ _ b i | .STP_PRE_INDEX _ _ b i => [(b, i)]
  | _ => []

/-- `off` addresses a word of the spill area `[SP, SP + SPILL_SPACE)` -/
def slotOK (i : Int) : Bool := decide (0 ≤ i) && decide (i + 8 ≤ 2048) && decide (i % 8 = 0)

/-- calls, returns and the pair instructions with writeback (prologue / epilogue only) -/
def isStackOp : Code → Bool
  | .BL _ | .RET | .STP_PRE_INDEX _ _ _ _ | .LDP_POST_INDEX _ _ _ _ => true
  | _ => false

def codeJumpRef : Code → Option String
  | .B l | .BEQ l | .BNE l | .BLT l | .BLE l | .BGT l | .BGE l => some l
  | _ => none

/-- a PLAIN instruction: no call / return / writeback pair, `SP` is not written, `SP`-relative operands
    stay inside the spill area -/
def plainCC (c : Code) : Bool :=
  !isStackOp c && (codeWrites c).all (· != .sp) && (codeMems c).all (fun bi => bi.1 != .sp || slotOK bi.2)

/-- indirect control / address-taking forms (only emitted for `switch` / `create` / `invoke`) -/
def isIndirect : Code → Bool
  | .BR _ | .ADR _ _ => true
  | _ => false

/-- a plain instruction of an INTEGER program -/
def plainInt (c : Code) : Bool :=
  plainCC c && (codeMems c).all (fun bi => bi.1 == .sp) && !isIndirect c &&
    (match codeJumpRef c with
     | some l => l != "asm_main"
     | none => true)

theorem plainCC_of_plainInt {c : Code} (h : plainInt c = true) : plainCC c = true := by
  simp only [plainInt, Bool.and_eq_true] at h
  exact h.1.1.1

theorem slotOK_stackOffset {p : Nat} (hp : p < 256) : slotOK (stackOffset p) = true := by
  rw [stackOffset_eq]
  simp only [slotOK, Bool.and_eq_true, decide_eq_true_eq]
  omega

/-- the argument of a print block: the `Snd` temporary of a variable of the context -/
def PrintSrc (ctx : Ctx) (t : Temporary) : Prop :=
  ∃ pos c c', pos < ctx.length ∧ (temporaryFromPosition (2 * pos + 1)).run c = .ok (t, c')

/-- a sequence of plain instructions and whole print blocks -/
inductive CCShape (plain : Code → Bool) : List Code → Prop where
  | nil : CCShape plain []
  | plain {c : Code} {rest : List Code} : plain c = true → CCShape plain rest → CCShape plain (c :: rest)
  | print {nl : Bool} {t : Temporary} {ctx : Ctx} {rest : List Code} :
      PrintSrc ctx t → CCShape plain rest → CCShape plain (printI64 nl t ctx ++ rest)

def PrintBlk (b : List Code) : Prop := ∃ nl t ctx, PrintSrc ctx t ∧ b = printI64 nl t ctx

/-- `CCShape` is the generic shape (Scc/Backend/ProofsBlocks.lean) with the print blocks as blocks -/
theorem CCShape.toShape {plain : Code → Bool} {l : List Code} (h : CCShape plain l) :
    Scc.Backend.Blocks.Shape plain PrintBlk l := by
  induction h with
  | nil => exact .nil
  | plain hc _ ih => exact .plain hc ih
  | print hs _ ih => exact .block ⟨_, _, _, hs, rfl⟩ ih

theorem CCShape.ofShape {plain : Code → Bool} {l : List Code} (h : Scc.Backend.Blocks.Shape plain PrintBlk l) :
    CCShape plain l := by
  induction h with
  | nil => exact .nil
  | plain hc _ ih => exact .plain hc ih
  | block hb _ ih => obtain ⟨nl, t, ctx, hs, rfl⟩ := hb; exact .print hs ih

theorem CCShape.append {plain : Code → Bool} {a b : List Code} (ha : CCShape plain a) (hb : CCShape plain b) :
    CCShape plain (a ++ b) := .ofShape (ha.toShape.append hb.toShape)

theorem CCShape.ofAll {plain : Code → Bool} {l : List Code} (h : l.all plain = true) : CCShape plain l :=
  .ofShape (.ofAll h)

theorem CCShape.mono {p q : Code → Bool} (hpq : ∀ c, p c = true → q c = true) {l : List Code}
    (h : CCShape p l) : CCShape q l := .ofShape (h.toShape.mono hpq)

theorem CCShape.printBlock {plain : Code → Bool} {nl : Bool} {t : Temporary} {ctx : Ctx} (h : PrintSrc ctx t) :
    CCShape plain (printI64 nl t ctx) := by
  have := CCShape.print (plain := plain) (nl := nl) h CCShape.nil
  simpa using this

theorem post_temporaryFromPosition (n : Nat) : Post (temporaryFromPosition n) (fun t => t.ok = true) := by
  unfold temporaryFromPosition
  dsimp only
  split
  · rename_i h
    exact Post.pure (by simp [Temporary.ok, Register.ok]; simpa [REGISTER_NUM_eq] using h)
  · split
    · rename_i h
      exact Post.pure (by simpa [Temporary.ok] using h)
    · exact Post.throw

theorem post_variableTemporary (n : TempNum) (ctx : Ctx) (id : Nat) :
    Post (variableTemporary n ctx id) (fun t => t.ok = true) := by
  unfold variableTemporary
  split
  · exact post_temporaryFromPosition _
  · exact Post.throw

theorem post_variableTemporary_src (ctx : Ctx) (id : Nat) :
    Post (variableTemporary .snd ctx id) (PrintSrc ctx) := by
  unfold variableTemporary
  split
  · rename_i pos hpos
    have := Total.go_bounds id ctx 0 pos hpos
    intro c t c' h
    exact ⟨pos, c, c', by omega, by simpa [TempNum.toNat] using h⟩
  · exact Post.throw

section Methods

abbrev AllInt (l : List Code) : Prop := l.all plainInt = true

theorem allInt_append {a b : List Code} (ha : AllInt a) (hb : AllInt b) : AllInt (a ++ b) := by
  unfold AllInt at *; rw [List.all_append, ha, hb]; rfl

theorem allInt_nil : AllInt [] := rfl

/-- the reserved registers written out, for `simp` (`pl`, `plc`); Scc/A64/MemProofsHeap.lean, which this file
does not import, has the same equations as `TEMP_eq` … `TEMPORARY_TEMP_eq` -/
theorem ccTEMP_eq : TEMP = .x 2 := rfl
theorem ccTEMP2_eq : TEMP2 = .x 3 := rfl
theorem ccHEAP_eq : HEAP = .x 0 := rfl
theorem ccFREE_eq : FREE = .x 1 := rfl
theorem ccTT_eq : TEMPORARY_TEMP = .x 10 := rfl

/-- `pl` closes `AllInt l` for a concrete instruction list `l`: it unfolds `AllInt`, `plainInt`, `plainCC` and
the functions they are made of, rewrites the reserved registers and `stackOffset` (`slotOK_stackOffset`),
and evaluates; the `*` hands `simp` the bounds on registers and spill positions from the context (`r < 30`,
`p < 256`), which the range conditions on the operands need. -/
macro "pl" : tactic =>
  `(tactic| (simp [AllInt, plainInt, plainCC, isStackOp, codeWrites, codeMems, isIndirect, codeJumpRef,
      ccTEMP_eq, ccTEMP2_eq, slotOK_stackOffset, *]))

theorem ok_cases {t : Temporary} (h : t.ok = true) :
    (∃ r, t = .register (.x r) ∧ r < 30) ∨ (∃ p, t = .spill p ∧ p < 256) := by
  cases t with
  | register r =>
    cases r with
    | x n => left; exact ⟨n, rfl, by simpa [Temporary.ok, Register.ok] using h⟩
    | sp => simp [Temporary.ok, Register.ok] at h
    | xzr => simp [Temporary.ok, Register.ok] at h
  | spill p => right; exact ⟨p, rfl, by simpa [Temporary.ok, SPILL_NUM_eq] using h⟩

theorem allInt_LDR_slot (n : Nat) {p : Nat} (hp : p < 256) : AllInt [Code.LDR (.x n) .sp (stackOffset p)] := by pl
theorem allInt_STR_slot (r : Register) {p : Nat} (hp : p < 256) : AllInt [Code.STR r .sp (stackOffset p)] := by pl

theorem allInt_moveFromRegister {t : Temporary} {r : Register} (ht : t.ok = true) :
    AllInt (moveFromRegister t r) := by
  rcases ok_cases ht with ⟨n, rfl, hn⟩ | ⟨p, rfl, hp⟩
  · simp only [moveFromRegister]; pl
  · exact allInt_STR_slot r hp

theorem allInt_branchOf (sort : IfSort) {l : String} (hl : l ≠ "asm_main") : AllInt [branchOf sort l] := by
  cases sort <;> simp [AllInt, branchOf, plainInt, plainCC, isStackOp, codeWrites, codeMems, isIndirect,
    codeJumpRef, hl]

theorem Mem.Leaf.plainCC {rok iok : Prop} {c : Code} (h : Mem.Leaf rok iok c) (o : rok) : plainCC c = true := by
  cases h with
  | com _ => rfl
  | instr hf ho _ =>
    have ho := ho o
    have hw : ∀ {r : Register}, Mem.XOK r → (r != .sp) = true := fun {r} h => by
      obtain ⟨n, rfl, _⟩ := h.x; rfl
    have hm : ∀ {b : Register} {i : Int}, Mem.MemOK b i → (b != .sp || slotOK i) = true := fun {b i} h => by
      rcases h with ⟨hb, p, hp, hi⟩ | ⟨hb, _⟩
      · rw [hi, slotOK_stackOffset hp]; simp
      · simp [hw hb]
    cases c with
    | MOVR a b => simp [A64.plainCC, isStackOp, codeWrites, codeMems, hw ho.1]
    | LDR t b i => simpa [A64.plainCC, isStackOp, codeWrites, codeMems, hw ho.1] using hm ho.2
    | STR t b i => simpa [A64.plainCC, isStackOp, codeWrites, codeMems] using hm ho.2
    | ADDI a b i => simp [A64.plainCC, isStackOp, codeWrites, codeMems, hw ho.1]
    | SUBI a b i => simp [A64.plainCC, isStackOp, codeWrites, codeMems, hw ho.1]
    | CMPI a i => simp [A64.plainCC, isStackOp, codeWrites, codeMems]
    | MOVZ a i s | MOVK a i s | MOVN a i s => simp [A64.plainCC, isStackOp, codeWrites, codeMems, hw ho]
    | ADD t a b | SUB t a b | MUL t a b | SDIV t a b | MSUB t a b c =>
      simp [A64.plainCC, isStackOp, codeWrites, codeMems, hw ho.1]
    | CMPR a b => simp [A64.plainCC, isStackOp, codeWrites, codeMems]
    | _ => cases hf

theorem Mem.Leaf.plainInt {rok iok : Prop} {c : Code} (h : Mem.Leaf rok iok c) (o : rok) (hs : Mem.Slots c) :
    plainInt c = true := by
  have hcc := h.plainCC o
  cases h with
  | com _ => rfl
  | instr hf _ _ =>
    cases c <;> first
      | (cases hf; done)
      | (obtain ⟨rfl, _⟩ := hs; simpa [A64.plainInt, codeMems, isIndirect, codeJumpRef] using hcc)
      | simpa [A64.plainInt, codeMems, isIndirect, codeJumpRef] using hcc

theorem Mem.CItems.allInt {rok iok : Prop} {l : List Code} (h : Mem.CItems rok iok l) (o : rok) : AllInt l :=
  List.all_eq_true.2 fun c hc => (h c hc).1.plainInt o ((h c hc).2 o)

theorem allInt_op (o : BinOp) {t s1 s2 : Temporary} (ht : t.ok = true) (h1 : s1.ok = true) (h2 : s2.ok = true) :
    AllInt (op o t s1 s2) :=
  (Mem.items_op (iok := True) o t s1 s2).allInt ⟨Mem.tok_of_ok ht, Mem.tok_of_ok h1, Mem.tok_of_ok h2⟩

theorem allInt_mov {t s : Temporary} (ht : t.ok = true) (hs : s.ok = true) : AllInt (mov t s) :=
  (Mem.items_mov (iok := True) t s).allInt ⟨Mem.tok_of_ok ht, Mem.tok_of_ok hs⟩

theorem allInt_compare {a b : Temporary} (ha : a.ok = true) (hb : b.ok = true) : AllInt (compare a b) :=
  (Mem.items_compare (iok := True) a b).allInt ⟨Mem.tok_of_ok ha, Mem.tok_of_ok hb⟩

theorem allInt_compareImmediate {a : Temporary} (ha : a.ok = true) (i : Int) : AllInt (compareImmediate a i) :=
  (Mem.items_compareImmediate a i).allInt (Mem.tok_of_ok ha)

theorem allInt_loadImmediate {t : Temporary} (ht : t.ok = true) (i : Int) : AllInt (loadImmediate t i) :=
  (Mem.items_loadImmediate (iok := True) t i).allInt (Mem.tok_of_ok ht)

theorem allInt_storeTemporary {t : Temporary} (ht : t.ok = true) (sp : Bool) : AllInt (storeTemporary t sp) :=
  (Mem.items_storeTemporary (iok := True) t sp).allInt (Mem.tok_of_ok ht)

theorem allInt_restoreTemporary {t : Temporary} (ht : t.ok = true) (sp : Bool) :
    AllInt (restoreTemporary t sp) :=
  (Mem.items_restoreTemporary (iok := True) t sp).allInt (Mem.tok_of_ok ht)

abbrev AllCC (l : List Code) : Prop := l.all plainCC = true

/-- as `pl`, for `AllCC` / `plainCC`, with all five reserved registers written out -/
macro "plc" : tactic =>
  `(tactic| (simp [AllCC, plainCC, isStackOp, codeWrites, codeMems,
      ccTEMP_eq, ccTEMP2_eq, ccHEAP_eq, ccFREE_eq, ccTT_eq, slotOK_stackOffset, *]))

theorem plainCC_COMMENT (m : String) : plainCC (.COMMENT m) = true := rfl

theorem allCC_jump {t : Temporary} (ht : t.ok = true) : AllCC (jump t) := by
  rcases ok_cases ht with ⟨n, rfl, hn⟩ | ⟨p, rfl, hp⟩ <;> simp only [jump] <;> plc

theorem allCC_loadLabel {t : Temporary} (ht : t.ok = true) (l : String) : AllCC (loadLabel t l) := by
  rcases ok_cases ht with ⟨n, rfl, hn⟩ | ⟨p, rfl, hp⟩ <;> simp only [loadLabel] <;> plc

theorem allCC_addAndJump {t : Temporary} (ht : t.ok = true) (k : Int) : AllCC (addAndJump t k) := by
  rcases ok_cases ht with ⟨n, rfl, hn⟩ | ⟨p, rfl, hp⟩ <;> simp only [addAndJump] <;> plc

abbrev PostCC (m : GenM (List Code)) : Prop := Post m AllCC

theorem Mem.Blk.allCC {rok iok : Prop} {l : List Code} (h : Mem.Blk rok iok l) (o : rok) : AllCC l :=
  List.all_eq_true.2 (Scc.Backend.Blk.forall (fun _ hl => hl.plainCC o) (fun _ _ _ => rfl) (fun _ => rfl)
    (fun _ => rfl) h)

theorem postCC_store (toStore ctx : Ctx) : PostCC (store toStore ctx) :=
  fun _ _ _ h => (Mem.blk_store toStore ctx h).allCC trivial

theorem postCC_load (toLoad ctx : Ctx) : PostCC (load toLoad ctx) :=
  fun _ _ _ h => (Mem.blk_load toLoad ctx h).allCC trivial

theorem postCC_eraseBlock {t : Temporary} (ht : t.ok = true) : PostCC (eraseBlock t) :=
  fun _ _ _ h => (Mem.blk_eraseBlock t h).allCC (Mem.tok_of_ok ht)

theorem postCC_shareBlockN {t : Temporary} (ht : t.ok = true) (k : Nat) : PostCC (shareBlockN t k) :=
  fun _ _ _ h => (Mem.blk_shareBlockN t k h).allCC (Mem.tok_of_ok ht)

end Methods

/-- ONE instance of the generic lifting for both notions of plain instruction.  `plain` is any notion that
`plainInt` implies and that `plainCC` implies as soon as the methods of non-integer programs are reached (`mem`):
`plainInt` itself with `mem := False` (integer programs), `plainCC` with `mem := True` (all programs).  Every
method an integer program reaches emits plain instructions of integer programs, except `print_i64`, which emits
one print block; the others emit `plainCC` instructions. -/
theorem opsShape_a64 {plain : Code → Bool} {mem : Prop} (hi : ∀ c, plainInt c = true → plain c = true)
    (hm : mem → ∀ c, plainCC c = true → plain c = true) :
    OpsShape a64Backend (CCShape plain) (fun t => t.ok = true) PrintSrc LabOK mem :=
  have ofI : ∀ {l : List Code}, AllInt l → CCShape plain l := fun h => (CCShape.ofAll h).mono hi
  have ofC : mem → ∀ {l : List Code}, AllCC l → CCShape plain l := fun m _ h => (CCShape.ofAll h).mono (hm m)
  { nil := .nil
    append := CCShape.append
    temp := rfl
    return1 := rfl
    vt := post_variableTemporary
    vtSrc := post_variableTemporary_src
    labDef := labOK_def
    labCleanup := labOK_cleanup
    labFresh := labOK_fresh
    comment := fun _ => ofI rfl
    label := fun _ => ofI rfl
    jumpLabel := fun l hl => ofI (by
      show AllInt [Code.B l]
      simp [AllInt, plainInt, plainCC, isStackOp, codeWrites, codeMems, isIndirect, codeJumpRef]
      exact hl)
    jumpLabelIf := fun s _ _ _ ha hb hl => ofI (allInt_append (allInt_compare ha hb) (allInt_branchOf s hl))
    jumpLabelIfZero := fun s _ _ ha hl => ofI (allInt_append (allInt_compareImmediate ha 0) (allInt_branchOf s hl))
    loadImmediate := fun _ n ht => ofI (allInt_loadImmediate ht n)
    binop := fun o _ _ _ ht h1 h2 => ofI (allInt_op o ht h1 h2)
    mov := fun _ _ ht hs => ofI (allInt_mov ht hs)
    printI64 := fun nl _ ctx _ hs => Post.pure (CCShape.printBlock hs)
    storeTemporary := fun _ sp ht => ofI (allInt_storeTemporary ht sp)
    restoreTemporary := fun _ sp ht => ofI (allInt_restoreTemporary ht sp)
    jump := fun m _ ht => ofC m (allCC_jump ht)
    jumpLabelFixed := fun m l => ofC m (by show AllCC [Code.B l]; rfl)
    loadLabel := fun m _ l ht => ofC m (allCC_loadLabel ht l)
    addAndJump := fun m _ k ht => ofC m (allCC_addAndJump ht k)
    eraseBlock := fun m _ ht => (postCC_eraseBlock ht).mono fun _ => ofC m
    shareBlockN := fun m _ n ht => (postCC_shareBlockN ht n).mono fun _ => ofC m
    store := fun m a b => (postCC_store a b).mono fun _ => ofC m
    load := fun m a b => (postCC_load a b).mono fun _ => ofC m }

/-- the shape of a compiled body, for every notion of plain instruction that `opsShape_a64` serves -/
theorem compile_shape {plain : Code → Bool} {mem : Prop} (hi : ∀ c, plainInt c = true → plain c = true)
    (hm : mem → ∀ c, plainCC c = true → plain c = true) {p : AxCut.Prog} (hp : mem ∨ IntProgC p) {hooks : Bool}
    {c0 : Nat} {body routine : List Code} {nargs : Nat}
    (h : compileProg a64Backend p hooks c0 = .ok (body, nargs, routine)) :
    CCShape plain body ∧ intoRoutine body nargs = .ok routine := by
  unfold compileProg at h
  split at h
  · cases h
  · rename_i body' nargs' c' hr
    split at h
    · cases h
    · rename_i routine' hrt
      cases h
      exact ⟨Scc.Backend.Shape.post_compileR (opsShape_a64 hi hm) hooks Scc.Backend.natRen p hp c0 _ c' hr, hrt⟩

/-- C13, static part: the SHAPE of every compiled body: plain instructions and whole print blocks.  No
    hypothesis on the program: capacity = the compiler succeeds. -/
theorem compile_ccShape {p : AxCut.Prog} {hooks : Bool} {c0 : Nat} {body routine : List Code} {nargs : Nat}
    (h : compileProg a64Backend p hooks c0 = .ok (body, nargs, routine)) :
    CCShape plainCC body ∧ intoRoutine body nargs = .ok routine :=
  compile_shape (fun _ => plainCC_of_plainInt) (fun _ _ => id) (Or.inl trivial) h

/-- the same for integer programs, with the stronger notion of plain instruction -/
theorem compile_ccShape_int {p : AxCut.Prog} (hp : IntProgC p) {hooks : Bool} {c0 : Nat}
    {body routine : List Code} {nargs : Nat}
    (h : compileProg a64Backend p hooks c0 = .ok (body, nargs, routine)) :
    CCShape plainInt body ∧ intoRoutine body nargs = .ok routine :=
  compile_shape (fun _ => id) False.elim (Or.inr hp) h

end Scc.A64
