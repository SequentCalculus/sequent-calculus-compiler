/-
  Scc.A64.MemProofsBridge — THE BRIDGE between the block semantics `execFwd` (MemProofsFwd.lean), on
  which the memory contracts are stated, and the machine of Machine.lean: if the laid-out program
  contains the instructions of a block at consecutive item indices and every label the block defines
  resolves to its position in the block (labels are unique in the text: C14), then whenever `execFwd`
  runs the block to its end, iterating the machine's `step` does the same and arrives just behind the
  block (`Steps`), and `runLoop` consumes exactly that many steps of fuel (`runLoop_steps`).
-/
import Scc.A64.MemProofsFwd

namespace Scc.A64

/-- does the code occupy an item of the laid-out program (an instruction)? labels, comments and
directives do not -/
def Code.isItem (cd : Code) : Bool := cd.toInstr.isSome

/-- index (relative to the block start) of the item that code position `j` of the block is laid out at -/
def itemIdx (codes : List Code) (j : Nat) : Nat := ((codes.take j).filter Code.isItem).length

theorem itemIdx_zero (codes : List Code) : itemIdx codes 0 = 0 := by simp [itemIdx]

theorem itemIdx_succ (codes : List Code) {j : Nat} (h : j < codes.length) :
    itemIdx codes (j + 1) = itemIdx codes j + (if codes[j].isItem then 1 else 0) := by
  unfold itemIdx
  rw [List.take_succ_eq_append_getElem h, List.filter_append, List.length_append]
  by_cases hi : codes[j].isItem = true <;> simp [hi]

/-- the program text contains the block `codes` at item index `pc0` (no hook comments inside), and
every label the block defines resolves to its position in the block -/
structure BlockAt (p : Prog) (pc0 : Nat) (codes : List Code) : Prop where
  items : ∀ j (h : j < codes.length) i, codes[j].toInstr = some i →
    p.items[pc0 + itemIdx codes j]? = some (.instr i)
  labels : ∀ j l, codes[j]? = some (.LAB l) → p.labels[l]? = some (pc0 + itemIdx codes j)

/-- finitely many machine steps (no print, no stop) from `(σ, pc)` to `(σ', pc')` -/
inductive Steps (p : Prog) (c : MemCfg) : State → Nat → State → Nat → Prop
  | refl (σ : State) (pc : Nat) : Steps p c σ pc σ pc
  | step {σ σ1 σ2 : State} {pc pc1 pc2 : Nat} {i : Instr} :
      p.items[pc]? = some (.instr i) → step p c i σ pc = .next σ1 pc1 → Steps p c σ1 pc1 σ2 pc2 →
      Steps p c σ pc σ2 pc2

theorem Steps.trans {p : Prog} {c : MemCfg} {σ1 σ2 σ3 : State} {pc1 pc2 pc3 : Nat}
    (h1 : Steps p c σ1 pc1 σ2 pc2) (h2 : Steps p c σ2 pc2 σ3 pc3) : Steps p c σ1 pc1 σ3 pc3 := by
  induction h1 with
  | refl => exact h2
  | step hi hs _ ih => exact .step hi hs (ih h2)

/-- a fall-through outcome of `execCodeC` on an instruction is a step of the machine to the next item -/
theorem execCodeC_next_step (p : Prog) (c : MemCfg) {code : Code} {i : Instr} {σ σ' : State} (pc : Nat)
    (hi : code.toInstr = some i) (hx : execCodeC c code σ = .ok (σ', .next)) :
    step p c i σ pc = .next σ' (pc + 1) := by
  unfold execCodeC at hx
  rw [hi] at hx
  cases i <;> simp only [] at hx
  case b l => cases hx
  case bcond cd l =>
    cases hf : σ.flags with
    | none => simp [hf] at hx
    | some ab =>
      obtain ⟨a, b⟩ := ab
      simp only [hf] at hx
      by_cases hh : cd.holds a b
      · simp [hh] at hx
      · simp only [hh, Bool.false_eq_true, if_false, Except.ok.injEq, Prod.mk.injEq, and_true] at hx
        subst hx
        simp [step, hf, hh]
  all_goals
    rw [execCode_of_toInstr σ hi] at hx
    first
      | (simp only [Instr.exec] at hx; cases hx; done)
      | (simp only [step]
         split at hx
         · rename_i σ1 h1
           simp only [Except.ok.injEq, Prod.mk.injEq, and_true] at hx
           subst hx
           rw [h1]
         · cases hx)

/-- a jump outcome of `execCodeC` is a step of the machine to the item the label resolves to -/
theorem execCodeC_jump_step (p : Prog) (c : MemCfg) {code : Code} {i : Instr} {σ σ' : State} {l : String}
    {pc j : Nat} (hi : code.toInstr = some i) (hx : execCodeC c code σ = .ok (σ', .jump l))
    (hl : p.labels[l]? = some j) : step p c i σ pc = .next σ' j := by
  unfold execCodeC at hx
  rw [hi] at hx
  cases i <;> simp only [] at hx
  case b l' =>
    simp only [Except.ok.injEq, Prod.mk.injEq, Ctl.jump.injEq] at hx
    obtain ⟨rfl, rfl⟩ := hx
    simp [step, Prog.gotoLabel, hl]
  case bcond cd l' =>
    cases hf : σ.flags with
    | none => simp [hf] at hx
    | some ab =>
      obtain ⟨a, b⟩ := ab
      simp only [hf] at hx
      by_cases hh : cd.holds a b
      · simp only [hh, if_true, Except.ok.injEq, Prod.mk.injEq, Ctl.jump.injEq] at hx
        obtain ⟨rfl, rfl⟩ := hx
        simp [step, hf, hh, Prog.gotoLabel, hl]
      · simp [hh] at hx
  all_goals
    split at hx
    · simp at hx
    · cases hx

/-- a code that is no instruction does nothing (or is an error) -/
theorem execCodeC_nonitem {c : MemCfg} {code : Code} {σ σ' : State} {ctl : Ctl}
    (hi : code.toInstr = none) (hx : execCodeC c code σ = .ok (σ', ctl)) : σ' = σ ∧ ctl = .next := by
  unfold execCodeC at hx
  rw [hi] at hx
  simp only [] at hx
  unfold execCode at hx
  cases code <;> simp only [hi, Except.ok.injEq, Prod.mk.injEq] at hx <;>
    first | exact ⟨hx.1.symm, hx.2.symm⟩ | cases hx

theorem skipTo_spec {l : String} : ∀ {cs rest : List Code}, skipTo l cs = some rest →
    ∃ j, cs[j]? = some (.LAB l) ∧ rest = cs.drop (j + 1)
  | [], _, h => by simp [skipTo] at h
  | cd :: cs, rest, h => by
    have key : skipTo l cs = some rest → ∃ j, (cd :: cs)[j]? = some (.LAB l) ∧ rest = (cd :: cs).drop (j + 1) := by
      intro h'
      obtain ⟨j, h1, h2⟩ := skipTo_spec h'
      exact ⟨j + 1, by simpa using h1, by simpa using h2⟩
    cases cd <;> simp only [skipTo] at h
    case LAB l' =>
      split at h
      · rename_i e
        injection h with h
        exact ⟨0, by simp [e], by simp [h]⟩
      · exact key h
    all_goals exact key h

theorem steps_fwd (p : Prog) (c : MemCfg) (pc0 : Nat) (codes : List Code) (hb : BlockAt p pc0 codes) :
    ∀ (n off : Nat) (σ σ' : State), codes.length - off ≤ n → off ≤ codes.length →
      execFwd c (codes.drop off) σ = .ok (σ', .next) →
      Steps p c σ (pc0 + itemIdx codes off) σ' (pc0 + itemIdx codes codes.length) := by
  intro n
  induction n with
  | zero =>
    intro off σ σ' hn hoff hx
    have : off = codes.length := by omega
    subst this
    rw [List.drop_length, execFwd_nil] at hx
    simp only [Except.ok.injEq, Prod.mk.injEq, and_true] at hx
    subst hx
    exact .refl _ _
  | succ n ih =>
    intro off σ σ' hn hoff hx
    by_cases hlt : off < codes.length
    · have hdrop : codes.drop off = codes[off] :: codes.drop (off + 1) := by
        rw [List.drop_eq_getElem_cons hlt]
      rw [hdrop, execFwd_cons] at hx
      cases hex : execCodeC c codes[off] σ with
      | error e => simp [hex, contFwd] at hx
      | ok r =>
        obtain ⟨σ1, ctl⟩ := r
        rw [hex] at hx
        cases hti : codes[off].toInstr with
        | none =>
          obtain ⟨rfl, rfl⟩ := execCodeC_nonitem hti hex
          simp only [contFwd] at hx
          have hidx : itemIdx codes (off + 1) = itemIdx codes off := by
            rw [itemIdx_succ codes hlt]; simp [Code.isItem, hti]
          rw [← hidx]
          exact ih (off + 1) _ _ (by omega) (by omega) hx
        | some i =>
          have hitem := hb.items off hlt i hti
          have hidx : itemIdx codes (off + 1) = itemIdx codes off + 1 := by
            rw [itemIdx_succ codes hlt]; simp [Code.isItem, hti]
          cases ctl with
          | next =>
            simp only [contFwd] at hx
            have hs := execCodeC_next_step p c (pc0 + itemIdx codes off) hti hex
            refine .step hitem hs ?_
            rw [Nat.add_assoc, ← hidx]
            exact ih (off + 1) _ _ (by omega) (by omega) hx
          | jump l =>
            simp only [contFwd] at hx
            cases hsk : skipTo l (codes.drop (off + 1)) with
            | none => simp [hsk] at hx
            | some rest =>
              simp only [hsk] at hx
              obtain ⟨j, hj, hrest⟩ := skipTo_spec hsk
              have hj' : codes[off + 1 + j]? = some (.LAB l) := by
                rw [List.getElem?_drop] at hj; exact hj
              obtain ⟨hjlt, hjeq⟩ := List.getElem?_eq_some_iff.1 hj'
              have hl := hb.labels _ _ hj'
              have hs := execCodeC_jump_step p c (pc := pc0 + itemIdx codes off) hti hex hl
              refine .step hitem hs ?_
              have hidx2 : itemIdx codes (off + 1 + j + 1) = itemIdx codes (off + 1 + j) := by
                rw [itemIdx_succ codes hjlt]; simp [Code.isItem, hjeq, Code.toInstr]
              rw [← hidx2]
              have hd : codes.drop (off + 1 + j + 1) = rest := by
                rw [hrest, List.drop_drop, Nat.add_assoc]
              refine ih (off + 1 + j + 1) _ _ (by omega) (by omega) ?_
              rw [hd]; exact hx
    · have : off = codes.length := by omega
      subst this
      rw [List.drop_length, execFwd_nil] at hx
      simp only [Except.ok.injEq, Prod.mk.injEq, and_true] at hx
      subst hx
      exact .refl _ _

/-- a block that `execFwd` runs to its end is run by the machine from its first item to just behind it -/
theorem steps_of_execFwd {p : Prog} {c : MemCfg} {pc0 : Nat} {codes : List Code} (hb : BlockAt p pc0 codes)
    {σ σ' : State} (hx : execFwd c codes σ = .ok (σ', .next)) :
    Steps p c σ pc0 σ' (pc0 + itemIdx codes codes.length) := by
  have := steps_fwd p c pc0 codes hb codes.length 0 σ σ' (by omega) (by omega) (by simpa using hx)
  rwa [itemIdx_zero, Nat.add_zero] at this

/-- `Steps` inside `runLoop`: the steps consume fuel and are counted, nothing is printed, the monitors
do not run (no hook is passed) -/
theorem runLoop_steps {p : Prog} {cfg : MonCfg} {σ σ' : State} {pc pc' : Nat}
    (h : Steps p cfg.mem σ pc σ' pc') :
    ∀ (out : List (Bool × Word)) (steps blocks : Nat), ∃ n, ∀ fuel,
      runLoop p cfg (n + fuel) { σ := σ, pc := pc, out := out, steps := steps, blocks := blocks } =
        runLoop p cfg fuel { σ := σ', pc := pc', out := out, steps := steps + n, blocks := blocks } := by
  induction h with
  | refl σ pc => intro out steps blocks; exact ⟨0, fun fuel => by simp⟩
  | @step σ σ1 σ2 pc pc1 pc2 i hi hs _ ih =>
    intro out steps blocks
    obtain ⟨n, hn⟩ := ih out (steps + 1) blocks
    refine ⟨n + 1, fun fuel => ?_⟩
    obtain ⟨hlt, heq⟩ := (Array.getElem?_eq_some_iff).1 hi
    rw [show n + 1 + fuel = (n + fuel) + 1 by omega, runLoop]
    simp only [hlt, dite_true, heq, hs]
    rw [hn fuel]
    congr 2
    omega

end Scc.A64
