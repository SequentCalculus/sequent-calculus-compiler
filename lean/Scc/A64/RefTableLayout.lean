/-
  Scc.A64.RefTableLayout — the layout fact used by the jump-table theorems (JumpLemmas.lean), on ARBITRARY
  parsed lines: a label (not defined before) followed by `n ≥ 1` instruction lines yields `TableAt` in the
  laid-out program, whatever precedes and follows (`table_layout`, by a fold invariant of `layout`).  `C14_table_layout_statement`
  (a `def : Prop`, Props/C14A64.lean) is this fact: `C07_table_layout_statement`, Props/C07A64Heap.lean.
-/
import Scc.A64.JumpLemmas
import Scc.A64.CCProofsLayout

set_option linter.unusedSimpArgs false

namespace Scc.A64.Ref

open Scc.A64.CC

theorem layout_offs' (ls : List (Nat × PLine)) : (layout ls).offs = (ls.foldl layStep {}).offs := rfl
theorem layout_entries' (ls : List (Nat × PLine)) : (layout ls).entries = (ls.foldl layStep {}).entries := rfl

theorem layStep_size {acc : LayoutAcc} (h : acc.offs.size = acc.items.size) (x : Nat × PLine) :
    (layStep acc x).offs.size = (layStep acc x).items.size := by
  obtain ⟨ln, pl⟩ := x
  cases pl <;> simp [layStep, h]

theorem fold_size : ∀ (ls : List (Nat × PLine)) {acc : LayoutAcc}, acc.offs.size = acc.items.size →
    (ls.foldl layStep acc).offs.size = (ls.foldl layStep acc).items.size
  | [], _, h => h
  | x :: ls, _, h => by rw [List.foldl_cons]; exact fold_size ls (layStep_size h x)

theorem fold_off_le : ∀ (ls : List (Nat × PLine)) (acc : LayoutAcc),
    (ls.foldl layStep acc).off ≤ acc.off + 4 * ls.length
  | [], _ => by simp
  | (ln, pl) :: ls, acc => by
    rw [List.foldl_cons]
    have := fold_off_le ls (layStep acc (ln, pl))
    have h1 : (layStep acc (ln, pl)).off ≤ acc.off + 4 := by cases pl <;> simp [layStep]
    simp only [List.length_cons]
    omega

theorem fold_nolabel (l : String) : ∀ (ls : List (Nat × PLine)) (acc : LayoutAcc),
    acc.labels[l]? = none → (∀ q ∈ ls, q.2 ≠ .label l) → (ls.foldl layStep acc).labels[l]? = none
  | [], _, h, _ => h
  | (ln, pl) :: ls, acc, h, hq => by
    rw [List.foldl_cons]
    apply fold_nolabel l ls _ _ (fun q hm => hq q (by simp [hm]))
    have hne : pl ≠ .label l := hq (ln, pl) (by simp)
    cases pl <;> try (simpa [layStep] using h)
    case label l' =>
      have hll : ¬ l' = l := fun e => hne (by rw [e])
      simp only [layStep]
      split
      · exact h
      · rw [Std.HashMap.getElem?_insert]
        have : (l' == l) = false := by simpa using hll
        simp [this, h]

/-- the established table: preserved by every further line -/
structure Tab (l : String) (j o n : Nat) (acc : LayoutAcc) : Prop where
  size : acc.offs.size = acc.items.size
  label : acc.labels[l]? = some j
  inRange : j < acc.items.size
  offs : acc.offs[j]? = some o
  entries : ∀ k, k < n → acc.entries[o + 4 * k]? = some (j + k)
  off : o + 4 * n ≤ acc.off

theorem Tab.step {l : String} {j o n : Nat} {acc : LayoutAcc} (T : Tab l j o n acc) (x : Nat × PLine) :
    Tab l j o n (layStep acc x) := by
  obtain ⟨ln, pl⟩ := x
  have hsz := T.size
  have hin := T.inRange
  cases pl with
  | blank => exact T
  | comment => exact T
  | directive => exact T
  | label l' =>
    refine ⟨T.size, ?_, T.inRange, T.offs, T.entries, T.off⟩
    simp only [layStep]
    split
    · exact T.label
    · next hc =>
      rw [Std.HashMap.getElem?_insert]
      have : (l' == l) = false := by
        cases hb : (l' == l) with
        | false => rfl
        | true =>
          exfalso
          have e : l' = l := by simpa using hb
          apply hc
          rw [e, Std.HashMap.contains_eq_isSome_getElem?, T.label]
          rfl
      simp [this, T.label]
  | hook vs =>
    refine ⟨layStep_size T.size _, T.label, by simp [layStep]; omega, ?_, T.entries, T.off⟩
    simp only [layStep]
    rw [Array.getElem?_push]
    have : ¬ j = acc.offs.size := by omega
    simp [this, T.offs]
  | instr i =>
    refine ⟨layStep_size T.size _, T.label, by simp [layStep]; omega, ?_, ?_, by
      have := T.off; simp only [layStep]; omega⟩
    · simp only [layStep]
      rw [Array.getElem?_push]
      have : ¬ j = acc.offs.size := by omega
      simp [this, T.offs]
    · intro k hk
      simp only [layStep]
      rw [Std.HashMap.getElem?_insert]
      have hoff := T.off
      have : (acc.off == o + 4 * k) = false := by simp; omega
      simp [this, T.entries k hk]

theorem Tab.fold {l : String} {j o n : Nat} : ∀ (ls : List (Nat × PLine)) {acc : LayoutAcc},
    Tab l j o n acc → Tab l j o n (ls.foldl layStep acc)
  | [], _, T => T
  | x :: ls, _, T => by rw [List.foldl_cons]; exact Tab.fold ls (T.step x)

/-- the table under construction: after the label and `m` of its instructions -/
structure TabP (l : String) (j o m : Nat) (acc : LayoutAcc) : Prop where
  size : acc.offs.size = acc.items.size
  isize : acc.items.size = j + m
  label : acc.labels[l]? = some j
  off : acc.off = o + 4 * m
  entry : acc.entry = if m = 0 then some j else none
  offs : 0 < m → acc.offs[j]? = some o
  entries : ∀ k, k < m → acc.entries[o + 4 * k]? = some (j + k)

theorem TabP.instr {l : String} {j o m : Nat} {acc : LayoutAcc} (T : TabP l j o m acc) (ln : Nat) (i : Instr) :
    TabP l j o (m + 1) (layStep acc (ln, .instr i)) := by
  have hsz := T.size
  have his := T.isize
  have hoff := T.off
  refine ⟨layStep_size T.size _, by simp [layStep]; omega, T.label, by simp only [layStep]; omega, by simp [layStep],
    ?_, ?_⟩
  · intro _
    simp only [layStep]
    rw [Array.getElem?_push]
    by_cases hm : m = 0
    · subst hm
      have : j = acc.offs.size := by omega
      simp [this]
      omega
    · have : ¬ j = acc.offs.size := by omega
      simp [this, T.offs (by omega)]
  · intro k hk
    simp only [layStep]
    rw [Std.HashMap.getElem?_insert]
    by_cases hkm : k = m
    · subst hkm
      have : (acc.off == o + 4 * k) = true := by simp; omega
      simp only [this, if_true]
      rw [T.entry]
      by_cases h0 : k = 0
      · subst h0; simp
      · simp [h0]; omega
    · have : (acc.off == o + 4 * k) = false := by simp; omega
      simp [this, T.entries k (by omega)]

theorem TabP.fold {l : String} {j o : Nat} : ∀ (es : List (Nat × Instr)) {m : Nat} {acc : LayoutAcc},
    TabP l j o m acc → TabP l j o (m + es.length) ((es.map fun e => (e.1, PLine.instr e.2)).foldl layStep acc)
  | [], _, _, T => by simpa using T
  | e :: es, m, _, T => by
    rw [List.map_cons, List.foldl_cons]
    have := TabP.fold es (T.instr e.1 e.2)
    rw [List.length_cons, show m + (es.length + 1) = m + 1 + es.length by omega]
    exact this

/-- THE LAYOUT FACT: a fresh label followed by `n ≥ 1` instruction lines is a jump table -/
theorem table_layout (pre post : List (Nat × PLine)) (ln : Nat) (l : String) (entries : List (Nat × Instr))
    (c : MemCfg) (hpre : ∀ q ∈ pre, q.2 ≠ .label l) (hne : entries ≠ [])
    (hfit : c.codeBase + 4 * (pre.length + entries.length + post.length) < 2 ^ 64) :
    ∃ j, TableAt (layout (pre ++ [(ln, .label l)] ++ entries.map (fun e => (e.1, .instr e.2)) ++ post)) c l j
      entries.length := by
  have hsz0 : (pre.foldl layStep {}).offs.size = (pre.foldl layStep {}).items.size := fold_size pre rfl
  have hnl : (pre.foldl layStep {}).labels[l]? = none := fold_nolabel l pre {} (by simp) hpre
  have hoff0 := fold_off_le pre {}
  generalize hacc0 : pre.foldl layStep {} = acc0 at hsz0 hnl hoff0
  have T0 : TabP l acc0.items.size acc0.off 0 (layStep acc0 (ln, .label l)) := by
    refine ⟨hsz0, rfl, ?_, rfl, rfl, fun h => absurd h (by omega), fun k hk => absurd hk (by omega)⟩
    simp only [layStep]
    have : acc0.labels.contains l = false := by
      rw [Std.HashMap.contains_eq_isSome_getElem?, hnl]; rfl
    simp [this]
  have T1 := TabP.fold entries T0
  have hn : 0 < entries.length := List.length_pos_iff.mpr hne
  rw [Nat.zero_add] at T1
  have T2 : Tab l acc0.items.size acc0.off entries.length
      ((entries.map fun e => (e.1, PLine.instr e.2)).foldl layStep (layStep acc0 (ln, .label l))) :=
    ⟨T1.size, T1.label, by rw [T1.isize]; omega, T1.offs hn, T1.entries, by rw [T1.off]; omega⟩
  have T3 := Tab.fold post T2
  have hfold : (pre ++ [(ln, PLine.label l)] ++ entries.map (fun e => (e.1, PLine.instr e.2)) ++ post).foldl
      layStep {} = post.foldl layStep ((entries.map fun e => (e.1, PLine.instr e.2)).foldl layStep
        (layStep acc0 (ln, .label l))) := by
    rw [List.foldl_append, List.foldl_append, List.foldl_append, hacc0]
    rfl
  have hgetD : (layout (pre ++ [(ln, PLine.label l)] ++ entries.map (fun e => (e.1, PLine.instr e.2)) ++
      post)).offs.getD acc0.items.size 0 = acc0.off := by
    rw [layout_offs', hfold]
    have := T3.offs
    simp [Array.getD_eq_getD_getElem?, this]
  refine ⟨acc0.items.size, ?_, ?_, ?_, ?_⟩
  · rw [layout_labels', hfold]; exact T3.label
  · rw [layout_items', hfold]; exact T3.inRange
  · intro k hk
    rw [hgetD, layout_entries', hfold]
    exact T3.entries k hk
  · rw [hgetD]
    simp only [LayoutAcc.off] at hoff0
    have : ({} : LayoutAcc).off = 0 := rfl
    omega

end Scc.A64.Ref

