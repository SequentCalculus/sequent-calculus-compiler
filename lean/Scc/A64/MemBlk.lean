/-
  Scc.A64.MemBlk — the FORM of the code of memory.rs (AArch64): single items `Leaf` — a `#…` comment that
  is one line and no `#ctx` hook (`Scc.Mem.MemCom`), or an instruction of one of the forms `memForm` (`mov`,
  `ldr`, `str`, `add`/`sub`/`cmp` immediate, `movz` of memory.rs and the three-register arithmetic, `msub`,
  `cmp` of registers, `movk`, `movn` of code.rs) with operands in range (general registers X0 … X29, `XZR`
  only as the source of a store; memory operands a spill slot `[SP, stack_offset p]` or a heap word
  `[Xb, off]` with an encodable offset; 12-bit immediates, 16-bit ones with a shift for the move-wide forms)
  — put together by concatenation and by the two label-drawing blocks (`Scc.Backend.Blk`).
  The ranges of registers and memory operands are asked only under the flag `rok`, those of the immediates
  only under `iok` (what is known of the arguments a method is called with).  The code of `store` and of
  `load` is a `Blk` (`blk_store`, `blk_load`): the leaves are, and the walks over `store_fields` and
  `load_fields` are `Scc.Mem.StoreCode.Leaves.storeFieldsC` and `Scc.Mem.LoadCode.LoadLeaves.loadFieldsC`; so
  is the code of `erase_block` and `share_block_n`.  The later layers read what they need off `Leaf`.
-/
import Scc.A64.MemCode
import Scc.A64.Machine
import Scc.Backend.Blk

namespace Scc.A64.Mem

open Scc.AxCut
open Scc.Backend (GenM TempNum Emits)
open Scc.Mem (labName)

export Scc.Mem (MemCom memCom_ofList memCom_checkChild)

/-- the instruction forms memory.rs uses outside its blocks (and for the comparison of a block), and the
arithmetic, compare and move-wide forms of code.rs (no label, no branch, no call, no pair instruction) -/
def memForm : Code → Bool
  | .MOVR _ _ | .LDR _ _ _ | .STR _ _ _ | .ADDI _ _ _ | .SUBI _ _ _ | .CMPI _ _ | .MOVZ _ _ _ => true
  | .ADD _ _ _ | .SUB _ _ _ | .MUL _ _ _ | .SDIV _ _ _ | .MSUB _ _ _ _ | .CMPR _ _ | .MOVK _ _ _ | .MOVN _ _ _ => true
  | _ => false

/-- a general register X0 … X29 -/
def XOK : Register → Prop
  | .x r => r < 30
  | _ => False

/-- the source of a store: a general register or `XZR` -/
def SrcOK : Register → Prop
  | .x r => r < 30
  | .xzr => True
  | .sp => False

/-- a memory operand: a spill slot `[SP, stack_offset p]`, or a heap word `[Xb, off]` -/
def MemOK (b : Register) (i : Int) : Prop :=
  (b = .sp ∧ ∃ p, p < 256 ∧ i = stackOffset p) ∨ (XOK b ∧ okOff i = true)

def RegsOK : Code → Prop
  | .MOVR a b => XOK a ∧ XOK b
  | .LDR t b i => XOK t ∧ MemOK b i
  | .STR t b i => SrcOK t ∧ MemOK b i
  | .ADDI a b _ | .SUBI a b _ => XOK a ∧ XOK b
  | .CMPI a _ => XOK a
  | .MOVZ a _ _ | .MOVK a _ _ | .MOVN a _ _ => XOK a
  | .ADD t a b | .SUB t a b | .MUL t a b | .SDIV t a b => XOK t ∧ XOK a ∧ XOK b
  | .MSUB t a b c => XOK t ∧ XOK a ∧ XOK b ∧ XOK c
  | .CMPR a b => XOK a ∧ XOK b
  | _ => True

def ImmOK : Code → Prop
  | .ADDI _ _ i | .SUBI _ _ i | .CMPI _ i => okImm12 i = true
  | .MOVZ _ i s | .MOVK _ i s | .MOVN _ i s => okImm16 i = true ∧ okShift s = true
  | _ => True

/-- a single item of memory.rs; the ranges of registers and memory operands are asked under `rok`, those of
the immediates under `iok` -/
inductive Leaf (rok iok : Prop) : Code → Prop
  | com {m : String} : MemCom m → Leaf rok iok (.COMMENT m)
  | instr {c : Code} : memForm c = true → (rok → RegsOK c) → (iok → ImmOK c) → Leaf rok iok c

theorem Leaf.mono {rok iok rok' iok' : Prop} (hr : rok' → rok) (hi : iok' → iok) {c : Code}
    (hl : Leaf rok iok c) : Leaf rok' iok' c := by
  cases hl with
  | com hm => exact .com hm
  | instr hf h1 h2 => exact .instr hf (fun o => h1 (hr o)) (fun o => h2 (hi o))

/-- the ranges of a temporary (registers X0 … X29, spill slots 0 … 255) -/
def TOK : Temporary → Prop
  | .register r => XOK r
  | .spill p => p < 256

theorem tok_posTemp {n : Nat} (h : n < 281) : TOK (posTemp n) := by
  unfold posTemp
  split
  · show _ < 30; assumption
  · show _ < 256; omega

/-- the jumps and labels of `skip_if_zero` and `if_zero_then_else` -/
def syn : Scc.Backend.BlkSyn Code := ⟨Unit, fun _ l => .BEQ l, .B, .LAB, labName⟩

abbrev Blk (rok iok : Prop) : List Code → Prop := Scc.Backend.Blk syn (Leaf rok iok) (fun _ => True)

namespace Blk
variable {rok iok : Prop}

/-! the rules of `Scc.Backend.Blk` under the names of this namespace, so that `.nil`, `.append`, `.cons` resolve
as the instruction forms below do -/

theorem nil : Blk rok iok [] := Scc.Backend.Blk.nil
theorem append {a b : List Code} (ha : Blk rok iok a) (hb : Blk rok iok b) : Blk rok iok (a ++ b) :=
  Scc.Backend.Blk.append ha hb
theorem cons {c : Code} {l : List Code} (h : Leaf rok iok c) (hl : Blk rok iok l) : Blk rok iok (c :: l) :=
  Scc.Backend.Blk.cons h hl

theorem mono {rok' iok' : Prop} (hr : rok' → rok) (hi : iok' → iok) {l : List Code} (hl : Blk rok iok l) :
    Blk rok' iok' l := Scc.Backend.Blk.mono (fun _ h => h.mono hr hi) (fun _ h => h) hl

theorem movr {a b : Register} {l : List Code} (h : rok → XOK a ∧ XOK b) (hl : Blk rok iok l) :
    Blk rok iok (.MOVR a b :: l) := cons (.instr rfl h fun _ => trivial) hl
theorem ldr {t b : Register} {i : Int} {l : List Code} (h : rok → XOK t ∧ MemOK b i) (hl : Blk rok iok l) :
    Blk rok iok (.LDR t b i :: l) := cons (.instr rfl h fun _ => trivial) hl
theorem str {t b : Register} {i : Int} {l : List Code} (h : rok → SrcOK t ∧ MemOK b i) (hl : Blk rok iok l) :
    Blk rok iok (.STR t b i :: l) := cons (.instr rfl h fun _ => trivial) hl
theorem addi {a b : Register} {i : Int} {l : List Code} (h : rok → XOK a ∧ XOK b) (hi : iok → okImm12 i = true)
    (hl : Blk rok iok l) : Blk rok iok (.ADDI a b i :: l) := cons (.instr rfl h hi) hl
theorem subi {a b : Register} {i : Int} {l : List Code} (h : rok → XOK a ∧ XOK b) (hi : iok → okImm12 i = true)
    (hl : Blk rok iok l) : Blk rok iok (.SUBI a b i :: l) := cons (.instr rfl h hi) hl
theorem movz {a : Register} {i s : Int} {l : List Code} (h : rok → XOK a)
    (hi : iok → okImm16 i = true ∧ okShift s = true) (hl : Blk rok iok l) : Blk rok iok (.MOVZ a i s :: l) :=
  cons (.instr rfl h hi) hl

theorem consC {m : String} {l : List Code} (h : MemCom m) (hl : Blk rok iok l) : Blk rok iok (.COMMENT m :: l) :=
  cons (.com h) hl

end Blk

theorem xok_TEMP : XOK TEMP := show _ < 30 by decide
theorem xok_TEMP2 : XOK TEMP2 := show _ < 30 by decide
theorem xok_HEAP : XOK HEAP := show _ < 30 by decide
theorem xok_FREE : XOK FREE := show _ < 30 by decide

theorem srcOK_xzr : SrcOK .xzr := trivial

theorem SrcOK.of_xok {r : Register} (h : XOK r) : SrcOK r := by cases r <;> first | exact h | cases h

theorem memOK_slot {p : Nat} (h : p < 256) : MemOK .sp (stackOffset p) := Or.inl ⟨rfl, p, h, rfl⟩

theorem memOK_heap {b : Register} (hb : XOK b) {i : Int} (hi : okOff i = true) : MemOK b i := Or.inr ⟨hb, hi⟩

theorem okOff_fieldOffset (num : Nat) {off : Nat} (hn : num ≤ 1) (h : off ≤ 1000) : okOff (fieldOffset num off) = true := by
  have e : fieldOffset num off = 8 * (2 + 2 * (off : Int) + (num : Int)) := rfl
  rw [e]
  simp only [okOff, Bool.and_eq_true, decide_eq_true_eq]
  omega

variable {rok iok : Prop}

theorem blk_skipIfZeroC {r : Register} (hr : rok → XOK r) {body : List Code} (hb : Blk rok iok body) (k : Nat) :
    Blk rok iok (skipIfZeroC r body k) :=
  Scc.Backend.Blk.skip (S := syn) (pre := [.CMPI r 0]) (x := ()) (k + 1)
    (fun c h => by rw [List.mem_singleton.1 h]; exact .instr rfl hr fun _ => show okImm12 0 = true by decide) trivial hb

theorem blk_ifZeroThenElseC {r : Register} (hr : rok → XOK r) {tb eb : List Code} (ht : Blk rok iok tb)
    (he : Blk rok iok eb) (k : Nat) : Blk rok iok (ifZeroThenElseC r tb eb k) :=
  Scc.Backend.Blk.ite (S := syn) (pre := [.CMPI r 0]) (x := ()) (k + 1) (k + 2)
    (fun c h => by rw [List.mem_singleton.1 h]; exact .instr rfl hr fun _ => show okImm12 0 = true by decide) trivial ht he

theorem blk_eraseValidObjectC {r : Register} (hr : rok → XOK r) (k : Nat) : Blk rok iok (eraseValidObjectC r k) :=
  blk_ifZeroThenElseC (fun _ => xok_TEMP2)
    (.consC (by mc) (.str (fun o => ⟨.of_xok xok_FREE, memOK_heap (hr o) (by decide)⟩)
      (.movr (fun o => ⟨xok_FREE, hr o⟩) .nil)))
    (.consC (by mc) (.subi (fun _ => ⟨xok_TEMP2, xok_TEMP2⟩) (fun _ => by decide)
      (.str (fun o => ⟨.of_xok xok_TEMP2, memOK_heap (hr o) (by decide)⟩) .nil))) k

theorem blk_eraseBlockC (t : Temporary) (k : Nat) : Blk (TOK t) iok (eraseBlockC t k) := by
  cases t with
  | register r =>
    exact blk_skipIfZeroC (r := r) id (.consC (by mc)
      (.ldr (fun o => ⟨xok_TEMP2, memOK_heap o (by decide)⟩) (blk_eraseValidObjectC (r := r) id k))) (k + 2)
  | spill p =>
    exact .ldr (fun o => ⟨xok_TEMP, memOK_slot o⟩)
      (blk_skipIfZeroC (fun _ => xok_TEMP) (.consC (by mc)
        (.ldr (fun _ => ⟨xok_TEMP2, memOK_heap xok_TEMP (by decide)⟩)
          (blk_eraseValidObjectC (fun _ => xok_TEMP) k))) (k + 2))

theorem blk_shareBlockNC (t : Temporary) (n k : Nat) :
    Blk (TOK t) (okImm12 (n : Int) = true) (shareBlockNC t n k) := by
  cases t with
  | register r =>
    exact blk_skipIfZeroC (r := r) id (.consC (by mc)
      (.ldr (fun o => ⟨xok_TEMP2, memOK_heap o (by decide)⟩)
        (.addi (fun _ => ⟨xok_TEMP2, xok_TEMP2⟩) id
          (.str (fun o => ⟨.of_xok xok_TEMP2, memOK_heap o (by decide)⟩) .nil)))) k
  | spill p =>
    exact .ldr (fun o => ⟨xok_TEMP, memOK_slot o⟩)
      (blk_skipIfZeroC (fun _ => xok_TEMP) (.consC (by mc)
        (.ldr (fun _ => ⟨xok_TEMP2, memOK_heap xok_TEMP (by decide)⟩)
          (.addi (fun _ => ⟨xok_TEMP2, xok_TEMP2⟩) id
            (.str (fun _ => ⟨.of_xok xok_TEMP2, memOK_heap xok_TEMP (by decide)⟩) .nil)))) k)

theorem blk_eraseFieldsC {r : Register} (hr : XOK r) : ∀ (n offset k : Nat), n + offset ≤ 1000 →
    Blk rok iok (eraseFieldsC r n offset k)
  | 0, _, _, _ => .nil
  | n + 1, offset, k, h => by
    unfold eraseFieldsC
    exact .append (.append (.consC (memCom_checkChild _)
      (.ldr (fun _ => ⟨xok_TEMP, memOK_heap hr (okOff_fieldOffset 0 (Nat.zero_le _) (by omega))⟩) .nil))
      ((blk_eraseBlockC (.register TEMP) k).mono (fun _ => xok_TEMP) id))
      (blk_eraseFieldsC hr n (offset + 1) (k + 3) (by omega))

theorem tok_shareReg {t : Temporary} (ht : TOK t) : TOK (.register (shareReg t)) := by
  cases t with
  | register r => exact ht
  | spill p => exact xok_TEMP

theorem blk_acquireBlockC (t : Temporary) (k : Nat) : Blk (TOK t) iok (acquireBlockC t k) := by
  have hhead : Blk (TOK t) iok (acquireHead t) := by
    cases t with
    | register r => exact .movr (fun o => ⟨o, xok_HEAP⟩) .nil
    | spill p =>
      exact .movr (fun _ => ⟨xok_TEMP, xok_HEAP⟩) (.str (fun o => ⟨.of_xok xok_HEAP, memOK_slot o⟩) .nil)
  refine .append (.append hhead (.consC (by mc) (.consC (by mc)
    (.ldr (fun _ => ⟨xok_HEAP, memOK_heap xok_HEAP (by decide)⟩) .nil)))) ?_
  refine blk_ifZeroThenElseC (fun _ => xok_HEAP)
    (.append (.consC (by mc) (.movr (fun _ => ⟨xok_HEAP, xok_FREE⟩)
      (.ldr (fun _ => ⟨xok_FREE, memOK_heap xok_FREE (by decide)⟩) .nil))) ?_)
    (.consC (by mc) (.str (fun o => ⟨srcOK_xzr, memOK_heap (tok_shareReg o) (by decide)⟩) .nil)) (k + 11)
  exact blk_ifZeroThenElseC (fun _ => xok_FREE)
    (.consC (by mc) (.addi (fun _ => ⟨xok_FREE, xok_HEAP⟩) (fun _ => by decide) .nil))
    (.append (.consC (by mc) (.str (fun _ => ⟨srcOK_xzr, memOK_heap xok_HEAP (by decide)⟩) (.consC (by mc) .nil)))
      (blk_eraseFieldsC xok_HEAP FIELDS_PER_BLOCK 0 k (by decide))) (k + 9)

theorem blk_storeFieldC {t : Temporary} (ht : rok → TOK t) {r : Register} (hr : XOK r) {i : Int}
    (hi : okOff i = true) : Blk rok iok (storeFieldC t r i) := by
  cases t with
  | register rt => exact .str (fun o => ⟨.of_xok (ht o), memOK_heap hr hi⟩) .nil
  | spill p =>
    exact .ldr (fun o => ⟨xok_TEMP, memOK_slot (ht o)⟩) (.str (fun _ => ⟨.of_xok xok_TEMP, memOK_heap hr hi⟩) .nil)

theorem blk_loadImmediate0 {t : Temporary} (ht : rok → TOK t) : Blk rok iok (loadImmediate t 0) := by
  cases t with
  | register r => exact .movz (fun o => ht o) (fun _ => ⟨by decide, by decide⟩) .nil
  | spill p =>
    exact .movz (fun _ => xok_TEMP) (fun _ => ⟨by decide, by decide⟩)
      (.str (fun o => ⟨.of_xok xok_TEMP, memOK_slot (ht o)⟩) .nil)

theorem leaves_blk : memCode.Leaves (Blk True True) where
  nil := .nil
  append := .append
  comment := fun s hs => by
    simp only [Scc.Mem.StoreCode.storeComments, List.mem_cons, List.not_mem_nil, or_false] at hs
    rcases hs with rfl | rfl | rfl | rfl | rfl | rfl <;> exact .consC (by mc) .nil
  stF := fun {m r} num {off} hm hr ho =>
    blk_storeFieldC (fun _ => tok_posTemp hm) (r := .x r) hr.1 (okOff_fieldOffset _ (by cases num <;> decide) ho)
  stZ := fun {r off} hr ho =>
    .str (fun _ => ⟨srcOK_xzr, memOK_heap (b := .x r) hr.1 (okOff_fieldOffset 0 (Nat.zero_le _) ho)⟩) .nil
  acq := fun {m} k hm => (blk_acquireBlockC (posTemp m) k).mono (fun _ => tok_posTemp (Nat.lt_of_succ_lt hm)) id
  zero := fun hm => blk_loadImmediate0 fun _ => tok_posTemp hm

theorem blk_store (toStore rem : Ctx) {k k' : Nat} {code : List Code}
    (h : (store toStore rem).run k = .ok (code, k')) : Blk True True code :=
  (emits_store toStore rem).post (fun hf k => leaves_blk.storeFieldsC _ _ _ _ k hf) k code k' h

theorem blk_loadFieldC {t : Temporary} (ht : rok → TOK t) {r : Register} (hr : XOK r) {i : Int}
    (hi : okOff i = true) : Blk rok iok (loadFieldC t r i) := by
  cases t with
  | register rt => exact .ldr (fun o => ⟨ht o, memOK_heap hr hi⟩) .nil
  | spill p =>
    exact .ldr (fun _ => ⟨xok_TEMP, memOK_heap hr hi⟩) (.str (fun o => ⟨.of_xok xok_TEMP, memOK_slot (ht o)⟩) .nil)

theorem xok_TT : XOK TEMPORARY_TEMP := show _ < 30 by decide

theorem loadLeaves_blk : loadCode.LoadLeaves (Blk True True) where
  nil := .nil
  append := .append
  comment := fun s hs => by
    simp only [Scc.Mem.LoadCode.loadComments, List.mem_cons, List.not_mem_nil, or_false] at hs
    rcases hs with rfl | rfl | rfl | rfl | rfl <;> exact .consC (by mc) .nil
  ldF := fun {m r} num {off} hm hr ho =>
    blk_loadFieldC (fun _ => tok_posTemp hm) (r := .x r) hr.1 (okOff_fieldOffset _ (by cases num <;> decide) ho)
  shr := fun {m} k hm => (blk_shareBlockNC _ 1 k).mono (fun _ => tok_shareReg (tok_posTemp hm)) fun _ => by decide
  release := fun {r} hr => .str (fun _ => ⟨.of_xok xok_HEAP, memOK_heap (b := .x r) hr.1 (by decide)⟩)
    (.movr (fun _ => ⟨xok_HEAP, hr.1⟩) .nil)
  evac := .str (fun _ => ⟨.of_xok xok_TT, memOK_slot (by decide)⟩) .nil
  ldBlk := fun {m} hm hs => .ldr (fun _ => ⟨xok_TT, memOK_slot (by
    have hm : m < 281 := hm
    omega)⟩) .nil
  restore := .ldr (fun _ => ⟨xok_TT, memOK_slot (by decide)⟩) .nil

theorem blk_top {m : Nat} {cT cE : List Code} (k : Nat) (hm : m < 281) (hT : Blk True True cT)
    (hE : Blk True True cE) : Blk True True (loadCode.top m cT cE k) := by
  have hmb : XOK (shareReg (posTemp m)) := tok_shareReg (tok_posTemp hm)
  refine .append ?_ (.consC (by mc) (blk_ifZeroThenElseC (fun _ => xok_TEMP2) (.consC (by mc) hT)
    (.consC (by mc) (.subi (fun _ => ⟨xok_TEMP2, xok_TEMP2⟩) (fun _ => by decide)
      (.str (fun _ => ⟨.of_xok xok_TEMP2, memOK_heap hmb (by decide)⟩) hE))) _))
  have := tok_posTemp hm
  generalize posTemp m = t at this
  cases t with
  | register r => exact .consC (by mc) (.ldr (fun _ => ⟨xok_TEMP2, memOK_heap this (by decide)⟩) .nil)
  | spill p =>
    exact .consC (by mc) (.ldr (fun _ => ⟨xok_TEMP, memOK_slot this⟩)
      (.ldr (fun _ => ⟨xok_TEMP2, memOK_heap xok_TEMP (by decide)⟩) .nil))

theorem blk_load (toLoad existing : Ctx) {k k' : Nat} {code : List Code}
    (h : (load toLoad existing).run k = .ok (code, k')) : Blk True True code :=
  (emits_load toLoad existing).post (fun hc k => loadLeaves_blk.loadC blk_top toLoad existing.length k hc) k code k' h

theorem blk_eraseBlock (t : Temporary) {k k' : Nat} {code : List Code}
    (h : (eraseBlock t).run k = .ok (code, k')) : Blk (TOK t) True code := by
  rw [eraseBlock_run] at h
  cases h
  exact blk_eraseBlockC t k

theorem blk_shareBlockN (t : Temporary) (n : Nat) {k k' : Nat} {code : List Code}
    (h : (shareBlockN t n).run k = .ok (code, k')) : Blk (TOK t) (okImm12 (n : Int) = true) code := by
  rw [shareBlockN_run] at h
  cases h
  exact blk_shareBlockNC t n k

end Scc.A64.Mem
