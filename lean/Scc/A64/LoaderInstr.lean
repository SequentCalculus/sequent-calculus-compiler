/-
  Scc.A64.LoaderInstr — what `parseLine` (Scc/A64/Machine.lean) does on each kind of line, stated on
  the character list of the line (`parseLine` only looks at the trimmed line: `parseLine_trim`): an indented
  `MN operands` line is read by `parseInstr MN operands`; labels and directives; a `// msg` line is read as
  `commentPLine? msg` for EVERY `msg` (`.comment`, `.hook vars`, or a parse error for a malformed `#ctx [` hook).
  `instrText i` is the mnemonic and operand text of a machine instruction as the printer writes them;
  `parseInstr_text`: `parseInstr` reads it as `i` (one token pattern per mnemonic).
-/
import Scc.A64.LoaderLemmas

namespace Scc.A64.Loader

open Scc.Str

set_option linter.unusedSimpArgs false

/-! ## `startsWith` (`sw_*`) and `endsWith` (`ew_*`) of `String.ofList` -/

theorem sw_false {L : List Char} {pat : String} (h : ¬ pat.toList <+: L) :
    (String.ofList L).startsWith pat = false := by
  rw [startsWith_eq_decide, String.toList_ofList]; simpa using h

theorem sw_true {L : List Char} {pat : String} (h : pat.toList <+: L) :
    (String.ofList L).startsWith pat = true := by
  rw [startsWith_eq_decide, String.toList_ofList]; simpa using h

theorem ew_colon {L : List Char} : (String.ofList L).endsWith ":" = decide (L.getLast? = some ':') := by
  rw [Bool.eq_iff_iff, colon_eq, endsWith_singleton_iff, String.toList_ofList]; simp

theorem ew_rbr {L : List Char} : (String.ofList L).endsWith "]" = decide (L.getLast? = some ']') := by
  have : "]" = String.singleton ']' := rfl
  rw [Bool.eq_iff_iff, this, endsWith_singleton_iff, String.toList_ofList]; simp

theorem not_prefix_of_head {p l : List Char} {x : Char} (hp : p.head? = some x) (hl : l.head? ≠ some x) :
    ¬ p <+: l := by
  rintro ⟨t, rfl⟩
  cases p with
  | nil => simp at hp
  | cons y ys => simp at hp hl; exact hl hp

/-- the end of a trimmed instruction line: no white space, no colon -/
def EndOK (l : List Char) : Prop := l ≠ [] ∧ ∀ c, l.getLast? = some c → c.isWhitespace = false ∧ c ≠ ':'

theorem endOK_append {a b : List Char} (hb : EndOK b) : EndOK (a ++ b) :=
  ⟨by simp [hb.1], by rw [getLast?_append_ne_nil hb.1]; exact hb.2⟩

theorem endOK_cons {x : Char} {b : List Char} (hb : EndOK b) : EndOK (x :: b) := endOK_append (a := [x]) hb

theorem endOK_of_chars {l : List Char} (hne : l ≠ []) (h : ∀ c ∈ l, c.isWhitespace = false ∧ c ≠ ':') : EndOK l :=
  ⟨hne, fun c hc => h c (List.mem_of_getLast? hc)⟩

theorem endOK_regC (r : Reg) : EndOK (regC r) :=
  endOK_of_chars (regC_ne_nil r) (fun c hc => ⟨(regC_chars r c hc).2.1, (regC_chars r c hc).2.2.1⟩)

theorem endOK_immC (i : Int) : EndOK (immC i) :=
  endOK_of_chars (immC_ne_nil i) (fun c hc => ⟨(immC_chars i c hc).2.1, (immC_chars i c hc).2.2.1⟩)

theorem endOK_label {l : List Char} (h : LabelOK l) : EndOK l :=
  endOK_of_chars h.1 (fun c hc => ⟨(labelC_facts (h.2 c hc)).2.1, (labelC_facts (h.2 c hc)).2.2.1⟩)

/-! ## `parseLine` looks at the trimmed line only -/

theorem parseLine_trim (s : String) : parseLine s.trimAscii.toString = parseLine s := by
  unfold parseLine
  rw [trimAscii_idem]

theorem parseLine_blank {raw : String} (h : trimList raw.toList = []) : parseLine raw = some .blank := by
  have ht : raw.trimAscii.toString = "" := by rw [trimAscii_eq, h]
  have he : ("" : String).isEmpty = true := rfl
  unfold parseLine
  simp only [ht, he, if_true]

theorem parseLine_empty : parseLine "" = some .blank := parseLine_blank rfl

def MnOK (mn : List Char) : Prop :=
  mn ≠ [] ∧ ∀ c ∈ mn, c ≠ ' ' ∧ c.isWhitespace = false ∧ c ≠ '/' ∧ c ≠ '.'

theorem mn_head {mn : List Char} (h : MnOK mn) (rest : List Char) :
    ∃ x xs, mn ++ rest = x :: xs ∧ x.isWhitespace = false ∧ x ≠ '/' ∧ x ≠ '.' := by
  cases hm : mn with
  | nil => exact absurd hm h.1
  | cons x xs =>
    have := h.2 x (by rw [hm]; simp)
    exact ⟨x, xs ++ rest, rfl, this.2.1, this.2.2.1, this.2.2.2⟩

/-- what `parseLine` does once the trimmed line is known to be `MN operands` -/
theorem parseLine_instr_core {raw : String} {mn ops : List Char}
    (ht : raw.trimAscii.toString = String.ofList (mn ++ ' ' :: ops)) (hmn : MnOK mn) (hops : EndOK ops)
    {i : Instr} (hi : parseInstr (String.ofList mn) (String.ofList ops) = some i) :
    parseLine raw = some (.instr i) := by
  obtain ⟨x, xs, hx, hxw, hxs, hxd⟩ := mn_head hmn (' ' :: ops)
  have h1 : (String.ofList (mn ++ ' ' :: ops)).isEmpty = false := by
    rw [isEmpty_ofList, hx]; rfl
  have h2 : (String.ofList (mn ++ ' ' :: ops)).startsWith "//" = false :=
    sw_false (not_prefix_of_head (x := '/') rfl (by rw [hx]; simpa using hxs))
  have h3 : (String.ofList (mn ++ ' ' :: ops)).startsWith "." = false :=
    sw_false (not_prefix_of_head (x := '.') rfl (by rw [hx]; simpa using hxd))
  have h4 : (String.ofList (mn ++ ' ' :: ops)).endsWith ":" = false := by
    have e : mn ++ ' ' :: ops = (mn ++ [' ']) ++ ops := by simp
    rw [ew_colon, e, getLast?_append_ne_nil hops.1, decide_eq_false_iff_not]
    exact fun e => (hops.2 _ e).2 rfl
  have h5 : (String.ofList (mn ++ ' ' :: ops)).splitOn " "
      = String.ofList mn :: (splitList ' ' ops).map String.ofList := by
    rw [splitOn_space, String.toList_ofList,
      splitList_append_sep ' ' mn ops (fun hm => (hmn.2 _ hm).1 rfl)]; rfl
  unfold parseLine
  simp only [ht, h1, h2, h3, h4, h5, Bool.false_eq_true, if_false, intercalate_space_splitList, hi]

theorem trimmed_line {mn ops : List Char} (hmn : MnOK mn) (hops : EndOK ops) : Trimmed (mn ++ ' ' :: ops) := by
  obtain ⟨x, xs, hx, hxw, _, _⟩ := mn_head hmn (' ' :: ops)
  constructor
  · intro c hc; rw [hx] at hc; simp at hc; subst hc; exact hxw
  · intro c hc
    have e : mn ++ ' ' :: ops = (mn ++ [' ']) ++ ops := by simp
    rw [e, getLast?_append_ne_nil hops.1] at hc
    exact (hops.2 c hc).1

/-- an indented line `    MN operands` is read by `parseInstr MN operands` -/
theorem parseLine_instr {raw : String} {mn ops : List Char}
    (hs : raw.toList = ' ' :: ' ' :: ' ' :: ' ' :: (mn ++ ' ' :: ops)) (hmn : MnOK mn) (hops : EndOK ops)
    {i : Instr} (hi : parseInstr (String.ofList mn) (String.ofList ops) = some i) :
    parseLine raw = some (.instr i) :=
  parseLine_instr_core (by rw [trimAscii_eq, hs, trimList_indent (trimmed_line hmn hops)]) hmn hops hi

/-- the same line without indentation -/
theorem parseLine_instr' {raw : String} {mn ops : List Char}
    (hs : raw.toList = mn ++ ' ' :: ops) (hmn : MnOK mn) (hops : EndOK ops)
    {i : Instr} (hi : parseInstr (String.ofList mn) (String.ofList ops) = some i) :
    parseLine raw = some (.instr i) :=
  parseLine_instr_core (by rw [trimAscii_eq, hs, trimList_of_trimmed (trimmed_line hmn hops)]) hmn hops hi

/-- an indented line with a mnemonic only (`RET`) -/
theorem parseLine_instr0 {raw : String} {mn : List Char}
    (hs : raw.toList = ' ' :: ' ' :: ' ' :: ' ' :: mn) (hmn : MnOK mn)
    (hlast : mn.getLast? ≠ some ':')
    {i : Instr} (hi : parseInstr (String.ofList mn) "" = some i) :
    parseLine raw = some (.instr i) := by
  obtain ⟨x, xs, hx, hxw, hxs, hxd⟩ := mn_head hmn []
  rw [List.append_nil] at hx
  have htr : Trimmed mn :=
    ⟨fun c hc => (hmn.2 c (List.mem_of_mem_head? hc)).2.1, fun c hc => (hmn.2 c (List.mem_of_getLast? hc)).2.1⟩
  have ht : raw.trimAscii.toString = String.ofList mn := by rw [trimAscii_eq, hs, trimList_indent htr]
  have h1 : (String.ofList mn).isEmpty = false := by rw [isEmpty_ofList, hx]; rfl
  have h2 : (String.ofList mn).startsWith "//" = false :=
    sw_false (not_prefix_of_head (x := '/') rfl (by rw [hx]; simpa using hxs))
  have h3 : (String.ofList mn).startsWith "." = false :=
    sw_false (not_prefix_of_head (x := '.') rfl (by rw [hx]; simpa using hxd))
  have h4 : (String.ofList mn).endsWith ":" = false := by
    rw [ew_colon, decide_eq_false_iff_not]; exact hlast
  have h5 : (String.ofList mn).splitOn " " = [String.ofList mn] := by
    rw [splitOn_space, String.toList_ofList, splitList_of_not_mem ' ' mn (fun hm => (hmn.2 _ hm).1 rfl)]; rfl
  have h6 : " ".intercalate ([] : List String) = "" := rfl
  unfold parseLine
  simp only [ht, h1, h2, h3, h4, h5, h6, Bool.false_eq_true, if_false, hi]

/-- a label that can be DEFINED: text-safe, does not look like a directive or a comment -/
def LabelDefOK (l : List Char) : Prop := LabelOK l ∧ l.head? ≠ some '.' ∧ ¬ ['/', '/'] <+: l

theorem parseLine_label_core {raw : String} {l : List Char}
    (ht : raw.trimAscii.toString = String.ofList (l ++ [':'])) (hl : LabelDefOK l) :
    parseLine raw = some (.label (String.ofList l)) := by
  obtain ⟨⟨hne, hch⟩, hdot, hsl⟩ := hl
  have h1 : (String.ofList (l ++ [':'])).isEmpty = false := by
    rw [isEmpty_ofList]; cases l <;> rfl
  have h2 : (String.ofList (l ++ [':'])).startsWith "//" = false := by
    apply sw_false
    intro hp
    apply hsl
    have e : "//".toList = ['/', '/'] := rfl
    rw [e] at hp
    cases l with
    | nil => exact absurd rfl hne
    | cons a t =>
      cases t with
      | nil =>
        obtain ⟨r, hr⟩ := hp
        simp at hr
      | cons b t =>
        obtain ⟨r, hr⟩ := hp
        simp at hr
        exact ⟨t, by rw [← hr.1, ← hr.2.1]; rfl⟩
  have h3 : (String.ofList (l ++ [':'])).startsWith "." = false := by
    apply sw_false
    apply not_prefix_of_head (x := '.') rfl
    cases l with
    | nil => exact absurd rfl hne
    | cons a t => simpa using hdot
  have h4 : (String.ofList (l ++ [':'])).endsWith ":" = true := by
    rw [ew_colon]; simp
  have h5 : ((String.ofList (l ++ [':'])).dropEnd 1).toString = String.ofList l := by
    apply String.ext
    rw [toList_dropEnd, String.toList_ofList, take_length_sub_one_append, String.toList_ofList]
  unfold parseLine
  simp only [ht, h1, h2, h3, h4, h5, Bool.false_eq_true, if_false, if_true,
    validLabel_of_labelOK ⟨hne, hch⟩]

theorem parseLine_label {raw : String} {l : List Char} (hs : raw.toList = l ++ [':']) (hl : LabelDefOK l) :
    parseLine raw = some (.label (String.ofList l)) := by
  apply parseLine_label_core _ hl
  rw [trimAscii_eq, hs, trimList_of_trimmed]
  have htr := trimmed_label hl.1
  constructor
  · intro c hc
    cases l with
    | nil => exact absurd rfl hl.1.1
    | cons a t => exact htr.1 c (by simpa using hc)
  · intro c hc; simp at hc; subst hc; decide

/-- the two-line text `\nl:` that `printCode (.LAB l)` produces, given to `parseLine` as ONE string
    (as `Code.roundTrips` does): the line break is trimmed away -/
theorem parseLine_nl_label {raw : String} {l : List Char} (hs : raw.toList = '\n' :: (l ++ [':']))
    (hl : LabelDefOK l) : parseLine raw = some (.label (String.ofList l)) := by
  apply parseLine_label_core _ hl
  have hw := trimList_ws_append (w := ['\n']) (l := l ++ [':']) (by decide)
  simp only [List.cons_append, List.nil_append] at hw
  rw [trimAscii_eq, hs, hw, trimList_of_trimmed]
  have htr := trimmed_label hl.1
  constructor
  · intro c hc
    cases l with
    | nil => exact absurd rfl hl.1.1
    | cons a t => exact htr.1 c (by simpa using hc)
  · intro c hc; simp at hc; subst hc; decide

theorem parseLine_text : parseLine ".text" = some .directive := by
  have ht : (".text" : String).trimAscii.toString = String.ofList ".text".toList := by
    rw [trimAscii_eq, trimList_of_trimmed (by constructor <;> decide)]
  have h1 : (String.ofList ".text".toList).isEmpty = false := by rw [isEmpty_ofList]; rfl
  have h2 : (String.ofList ".text".toList).startsWith "//" = false := sw_false (by decide)
  have h3 : (String.ofList ".text".toList).startsWith "." = true := sw_true (by decide)
  have h5 : (String.ofList ".text".toList).splitOn " " = [".text"] := by
    rw [splitOn_space, String.toList_ofList]; decide
  unfold parseLine
  simp only [ht, h1, h2, h3, h5, Bool.false_eq_true, if_false, if_true]
  rfl

theorem parseLine_global {raw : String} {l : List Char} (hs : raw.toList = ".global ".toList ++ l) (hl : LabelOK l) :
    parseLine raw = some .directive := by
  have hsp : ' ' ∉ l := fun hm => (labelC_facts (hl.2 _ hm)).2.2.2.2.1 rfl
  have e : ".global ".toList ++ l = ".global".toList ++ ' ' :: l := by
    have : ".global ".toList = ".global".toList ++ [' '] := by decide
    rw [this]; simp
  have htr : Trimmed (".global".toList ++ ' ' :: l) := by
    constructor
    · intro c hc
      have : c = '.' := by
        have : (".global".toList ++ ' ' :: l).head? = some '.' := rfl
        rw [this] at hc; injection hc with hc; exact hc.symm
      subst this; decide
    · intro c hc
      have e2 : ".global".toList ++ ' ' :: l = (".global".toList ++ [' ']) ++ l := by simp
      rw [e2, getLast?_append_ne_nil hl.1] at hc
      exact ((endOK_label hl).2 c hc).1
  have ht : raw.trimAscii.toString = String.ofList (".global".toList ++ ' ' :: l) := by
    rw [trimAscii_eq, hs, e, trimList_of_trimmed htr]
  have h1 : (String.ofList (".global".toList ++ ' ' :: l)).isEmpty = false := by rw [isEmpty_ofList]; rfl
  have h2 : (String.ofList (".global".toList ++ ' ' :: l)).startsWith "//" = false :=
    sw_false (not_prefix_of_head (x := '/') rfl (by
      have : (".global".toList ++ ' ' :: l).head? = some '.' := rfl
      rw [this]; decide))
  have h3 : (String.ofList (".global".toList ++ ' ' :: l)).startsWith "." = true :=
    sw_true ⟨"global".toList ++ ' ' :: l, rfl⟩
  have h5 : (String.ofList (".global".toList ++ ' ' :: l)).splitOn " " = [".global", String.ofList l] := by
    rw [splitOn_space, String.toList_ofList, splitList_append_sep ' ' _ l (by decide),
      splitList_of_not_mem ' ' l hsp]; rfl
  have hne : String.ofList l ≠ "" := by
    intro e; have := ofList_eq_iff.1 e; exact hl.1 this
  have hf : List.filter (fun x => decide (x ≠ "")) [".global", String.ofList l] = [".global", String.ofList l] := by
    simp [hne]
  unfold parseLine
  simp only [ht, h1, h2, h3, h5, hf, Bool.false_eq_true, if_false, if_true, validLabel_of_labelOK hl]

/-! ## comments and `#ctx` hooks -/

/-- the words of the context inside `#ctx [ … ]` (`m` = the comment text, right-trimmed) -/
def hookWords (m : List Char) : List String :=
  ((splitList ' ' ((m.drop 6).dropLast)).map String.ofList).filter (· ≠ "")

/-- what the loader reads a comment `// msg` as — for EVERY `msg`: a plain comment, a hook, or a parse
    error (`none`) when the text starts with `#ctx [` but is not a well-formed hook -/
def commentPLine? (msg : String) : Option PLine :=
  let m := rtrimList msg.toList
  if "#ctx [".toList <+: m then
    if m.getLast? = some ']' then
      match (hookWords m).mapM parseHookVar with
      | some vs => some (.hook vs)
      | none => none
    else none
  else some .comment

theorem rtrim_comment (msg : List Char) :
    rtrimList ('/' :: '/' :: ' ' :: msg)
      = if rtrimList msg = [] then ['/', '/'] else '/' :: '/' :: ' ' :: rtrimList msg := by
  have := dropEndWhileList_append (p := Char.isWhitespace) ['/', '/', ' '] msg
  simp only [List.cons_append, List.nil_append] at this
  unfold rtrimList
  rw [this]
  have e : dropEndWhileList Char.isWhitespace ['/', '/', ' '] = ['/', '/'] := by decide
  rw [e]

theorem parseLine_comment_core {raw : String} {msg : String}
    (ht : raw.trimAscii.toString = String.ofList (rtrimList ('/' :: '/' :: ' ' :: msg.toList))) :
    parseLine raw = commentPLine? msg := by
  rw [rtrim_comment] at ht
  unfold commentPLine?
  simp only []
  generalize hm : rtrimList msg.toList = m at ht
  by_cases hnil : m = []
  · subst hnil
    simp only [if_true] at ht
    have h1 : (String.ofList ['/', '/']).isEmpty = false := by rw [isEmpty_ofList]; rfl
    have h2 : (String.ofList ['/', '/']).startsWith "//" = true := sw_true (by decide)
    have h3 : (String.ofList ['/', '/']).startsWith "// #ctx [" = false := sw_false (by decide)
    have h4 : ¬ "#ctx [".toList <+: ([] : List Char) := by decide
    unfold parseLine
    simp only [ht, h1, h2, h3, h4, Bool.false_eq_true, if_false, if_true]
  · simp only [hnil, if_false] at ht
    have h1 : (String.ofList ('/' :: '/' :: ' ' :: m)).isEmpty = false := by rw [isEmpty_ofList]; rfl
    have h2 : (String.ofList ('/' :: '/' :: ' ' :: m)).startsWith "//" = true := sw_true ⟨' ' :: m, rfl⟩
    have h3 : (String.ofList ('/' :: '/' :: ' ' :: m)).startsWith "// #ctx [" = decide ("#ctx [".toList <+: m) := by
      rw [startsWith_eq_decide]
      have etl : (String.ofList ('/' :: '/' :: ' ' :: m)).toList = '/' :: '/' :: ' ' :: m := String.toList_ofList
      rw [etl]
      have key : ("// #ctx [".toList <+: '/' :: '/' :: ' ' :: m) ↔ ("#ctx [".toList <+: m) := by
        have e1 : "// #ctx [".toList = ['/', '/', ' '] ++ "#ctx [".toList := by decide
        have e2 : '/' :: '/' :: ' ' :: m = ['/', '/', ' '] ++ m := rfl
        rw [e1, e2]
        exact List.prefix_append_right_inj _
      exact decide_eq_decide.2 key
    have h4 : (String.ofList ('/' :: '/' :: ' ' :: m)).endsWith "]" = decide (m.getLast? = some ']') := by
      have e2 : '/' :: '/' :: ' ' :: m = ['/', '/', ' '] ++ m := rfl
      rw [ew_rbr, e2, getLast?_append_ne_nil hnil]
    have h5 : (((String.ofList ('/' :: '/' :: ' ' :: m)).drop 9).dropEnd 1).toString
        = String.ofList ((m.drop 6).dropLast) := by
      apply String.ext
      rw [toList_drop_dropEnd, String.toList_ofList, String.toList_ofList, List.dropLast_eq_take]
      rfl
    unfold parseLine
    simp only [ht, h1, h2, h3, h4, h5, Bool.false_eq_true, if_false, if_true, splitOn_space,
      String.toList_ofList, decide_eq_true_eq]
    rfl

/-- the comment line `    // msg`, for EVERY `msg` -/
theorem parseLine_comment {raw msg : String} (hs : raw.toList = ' ' :: ' ' :: ' ' :: ' ' :: '/' :: '/' :: ' ' :: msg.toList) :
    parseLine raw = commentPLine? msg := by
  apply parseLine_comment_core
  have hw := trimList_ws_append (w := [' ', ' ', ' ', ' ']) (l := '/' :: '/' :: ' ' :: msg.toList) (by decide)
  simp only [List.cons_append, List.nil_append] at hw
  rw [trimAscii_eq, hs, hw, trimList_of_head (by intro c hc; simp at hc; subst hc; decide)]

/-- the same line without indentation -/
theorem parseLine_comment' {raw msg : String} (hs : raw.toList = '/' :: '/' :: ' ' :: msg.toList) :
    parseLine raw = commentPLine? msg := by
  apply parseLine_comment_core
  rw [trimAscii_eq, hs, trimList_of_head (by intro c hc; simp at hc; subst hc; decide)]

theorem commentPLine?_plain {msg : String} (h : ¬ "#ctx [".toList <+: msg.toList) :
    commentPLine? msg = some .comment := by
  unfold commentPLine?
  have : ¬ "#ctx [".toList <+: rtrimList msg.toList := by
    intro hp
    obtain ⟨w, hw, _⟩ := dropEndWhileList_split (p := Char.isWhitespace) msg.toList
    apply h
    rw [hw]
    exact List.IsPrefix.trans hp (List.prefix_append _ _)
  simp only [this, if_false]

def kindStr (k : Kind) : String := String.ofList (kindC k)

/-- the hook comment of a context (`Scc.Backend.ctxHookComment` on names and kinds) -/
def hookText (vs : List (String × Kind)) : String :=
  "#ctx [" ++ " ".intercalate (vs.map fun v => v.1 ++ ":" ++ kindStr v.2) ++ "]"

def hookWordC (v : String × Kind) : List Char := v.1.toList ++ ':' :: kindC v.2

theorem hookText_toList (vs : List (String × Kind)) :
    (hookText vs).toList = "#ctx [".toList ++ ([' '].intercalate (vs.map hookWordC) ++ [']']) := by
  unfold hookText
  rw [String.toList_append, String.toList_append, intercalate_space, List.map_map]
  have : (String.toList ∘ fun v : String × Kind => v.1 ++ ":" ++ kindStr v.2) = hookWordC := by
    funext v
    simp [hookWordC, kindStr, String.toList_append]
  rw [this, List.append_assoc]; rfl

theorem mapM_parseHookVar (vs : List (String × Kind)) :
    (vs.map fun v => String.ofList (hookWordC v)).mapM parseHookVar = some vs := by
  induction vs with
  | nil => rfl
  | cons v vs ih =>
    rw [List.map_cons, List.mapM_cons, hookWordC, parseHookVar_print, ih, String.ofList_toList]
    rfl

/-- the hook comment of a context whose variable names contain no blank is read back as that context -/
theorem commentPLine?_hook (vs : List (String × Kind)) (h : ∀ v ∈ vs, ' ' ∉ v.1.toList) :
    commentPLine? (hookText vs) = some (.hook vs) := by
  unfold commentPLine?
  have hm : rtrimList (hookText vs).toList = (hookText vs).toList := by
    apply rtrimList_of_last
    intro c hc
    rw [hookText_toList, ← List.append_assoc, getLast?_append_ne_nil (by simp)] at hc
    simp at hc; subst hc; decide
  simp only [hm]
  have hp : "#ctx [".toList <+: (hookText vs).toList := by rw [hookText_toList]; exact List.prefix_append _ _
  have hl : (hookText vs).toList.getLast? = some ']' := by
    rw [hookText_toList, ← List.append_assoc, getLast?_append_ne_nil (by simp)]; rfl
  simp only [hp, hl, if_true]
  have hinner : ((hookText vs).toList.drop 6).dropLast = [' '].intercalate (vs.map hookWordC) := by
    rw [hookText_toList]
    have : ("#ctx [".toList ++ ([' '].intercalate (vs.map hookWordC) ++ [']'])).drop 6
        = [' '].intercalate (vs.map hookWordC) ++ [']'] := rfl
    rw [this, List.dropLast_concat]
  have hwords : hookWords (hookText vs).toList = vs.map fun v => String.ofList (hookWordC v) := by
    unfold hookWords
    rw [hinner]
    cases vs with
    | nil => rfl
    | cons v vs =>
      rw [List.map_cons, splitList_intercalate ' ' (hookWordC v) (vs.map hookWordC)]
      · rw [← List.map_cons, List.map_map]
        show List.filter _ (List.map (fun v => String.ofList (hookWordC v)) (v :: vs)) = _
        apply List.filter_eq_self.2
        intro s hs
        obtain ⟨w, _, rfl⟩ := List.mem_map.1 hs
        simp only [Function.comp, decide_eq_true_eq]
        intro e
        have := ofList_eq_iff.1 e
        simp [hookWordC] at this
      · intro x hx
        rw [← List.map_cons] at hx
        obtain ⟨w, hw, rfl⟩ := List.mem_map.1 hx
        intro hm
        simp only [hookWordC, List.mem_append, List.mem_cons] at hm
        rcases hm with hm | hm | hm
        · exact h w hw hm
        · exact absurd hm (by decide)
        · have hk : ∀ k, ' ' ∉ kindC k := by intro k; cases k <;> decide
          exact hk _ hm
  rw [hwords, mapM_parseHookVar]

/-! ## the text of a machine instruction, and `parseInstr` on it -/

theorem trim_label {l : List Char} (h : LabelOK l) : (String.ofList l).trimAscii.toString = String.ofList l := by
  rw [trimAscii_eq, String.toList_ofList, trimList_of_trimmed (trimmed_label h)]

/-- what the branches of `parseInstr` with a label operand compute on a text-safe label -/
theorem labelOperand_read {l : String} (hl : LabelOK l.toList) (f : String → Instr) :
    (if validLabel (String.ofList l.toList).trimAscii.toString = true
      then some (f (String.ofList l.toList).trimAscii.toString) else none) = some (f l) := by
  rw [trim_label hl, validLabel_of_labelOK hl, if_pos rfl, String.ofList_toList]

def condMn : Cond → String
  | .eq => "BEQ" | .ne => "BNE" | .lt => "BLT" | .le => "BLE" | .gt => "BGT" | .ge => "BGE"

/-- mnemonic and operand text of a machine instruction, as the printer writes them -/
def instrText : Instr → String × List Char
  | .add a b c => ("ADD", ops3 (regC a) (regC b) (regC c))
  | .addi a b i => ("ADD", ops3 (regC a) (regC b) (immC i))
  | .sub a b c => ("SUB", ops3 (regC a) (regC b) (regC c))
  | .subi a b i => ("SUB", ops3 (regC a) (regC b) (immC i))
  | .mul a b c => ("MUL", ops3 (regC a) (regC b) (regC c))
  | .sdiv a b c => ("SDIV", ops3 (regC a) (regC b) (regC c))
  | .msub a b c d => ("MSUB", ops4 (regC a) (regC b) (regC c) (regC d))
  | .br a => ("BR", regC a)
  | .mov a b => ("MOV", ops2 (regC a) (regC b))
  | .movz a i s => ("MOVZ", opsWide (regC a) (immC i) (immC s))
  | .movn a i s => ("MOVN", opsWide (regC a) (immC i) (immC s))
  | .movk a i s => ("MOVK", opsWide (regC a) (immC i) (immC s))
  | .ldr t b i => ("LDR", opsMem (regC t) (regC b) (immC i))
  | .str t b i => ("STR", opsMem (regC t) (regC b) (immC i))
  | .stpPre t1 t2 b i => ("STP", opsStp (regC t1) (regC t2) (regC b) (immC i))
  | .ldpPost t1 t2 b i => ("LDP", opsLdp (regC t1) (regC t2) (regC b) (immC i))
  | .cmp a b => ("CMP", ops2 (regC a) (regC b))
  | .cmpi a i => ("CMP", ops2 (regC a) (immC i))
  | .b l => ("B", l.toList)
  | .bl l => ("BL", l.toList)
  | .bcond c l => (condMn c, l.toList)
  | .adr a l => ("ADR", ops2 (regC a) l.toList)
  | .ret => ("RET", [])

def instrLabel? : Instr → Option String
  | .b l | .bl l | .bcond _ l | .adr _ l => some l
  | _ => none

/-- `parseInstr` reads the text of an instruction whose label is text-safe as the instruction: one token
    pattern per mnemonic (Scc/A64/Machine.lean), the tokens by `tokens1 … tokensLdp` -/
theorem parseInstr_text : ∀ (i : Instr), (∀ l, instrLabel? i = some l → LabelOK l.toList) →
    parseInstr (instrText i).1 (String.ofList (instrText i).2) = some i
  | .add a b c, _ => by
    show parseInstr "ADD" (String.ofList (ops3 (regC a) (regC b) (regC c))) = _
    unfold parseInstr
    simp only [tokens3 (tok_regC a) (tok_regC b) (tok_regC c), parseReg_regC]; rfl
  | .addi a b i, _ => by
    show parseInstr "ADD" (String.ofList (ops3 (regC a) (regC b) (immC i))) = _
    unfold parseInstr
    simp only [tokens3 (tok_regC a) (tok_regC b) (tok_immC i), parseReg_regC, parseReg_immC, parseImm_immC]; rfl
  | .sub a b c, _ => by
    show parseInstr "SUB" (String.ofList (ops3 (regC a) (regC b) (regC c))) = _
    unfold parseInstr
    simp only [tokens3 (tok_regC a) (tok_regC b) (tok_regC c), parseReg_regC]; rfl
  | .subi a b i, _ => by
    show parseInstr "SUB" (String.ofList (ops3 (regC a) (regC b) (immC i))) = _
    unfold parseInstr
    simp only [tokens3 (tok_regC a) (tok_regC b) (tok_immC i), parseReg_regC, parseReg_immC, parseImm_immC]; rfl
  | .mul a b c, _ => by
    show parseInstr "MUL" (String.ofList (ops3 (regC a) (regC b) (regC c))) = _
    unfold parseInstr
    simp only [tokens3 (tok_regC a) (tok_regC b) (tok_regC c), parseReg_regC]; rfl
  | .sdiv a b c, _ => by
    show parseInstr "SDIV" (String.ofList (ops3 (regC a) (regC b) (regC c))) = _
    unfold parseInstr
    simp only [tokens3 (tok_regC a) (tok_regC b) (tok_regC c), parseReg_regC]; rfl
  | .msub a b c d, _ => by
    show parseInstr "MSUB" (String.ofList (ops4 (regC a) (regC b) (regC c) (regC d))) = _
    unfold parseInstr
    simp only [tokens4 (tok_regC a) (tok_regC b) (tok_regC c) (tok_regC d), parseReg_regC]; rfl
  | .br a, _ => by
    show parseInstr "BR" (String.ofList (regC a)) = _
    unfold parseInstr
    simp only [tokens1 (tok_regC a), parseReg_regC]; rfl
  | .mov a b, _ => by
    show parseInstr "MOV" (String.ofList (ops2 (regC a) (regC b))) = _
    unfold parseInstr
    simp only [tokens2 (tok_regC a) (tok_regC b), parseReg_regC]; rfl
  | .movz a i s, _ => by
    show parseInstr "MOVZ" (String.ofList (opsWide (regC a) (immC i) (immC s))) = _
    unfold parseInstr
    simp only [tokensWide (tok_regC a) (tok_immC i) (tok_immC s), parseReg_regC, parseImm_immC]; rfl
  | .movn a i s, _ => by
    show parseInstr "MOVN" (String.ofList (opsWide (regC a) (immC i) (immC s))) = _
    unfold parseInstr
    simp only [tokensWide (tok_regC a) (tok_immC i) (tok_immC s), parseReg_regC, parseImm_immC]; rfl
  | .movk a i s, _ => by
    show parseInstr "MOVK" (String.ofList (opsWide (regC a) (immC i) (immC s))) = _
    unfold parseInstr
    simp only [tokensWide (tok_regC a) (tok_immC i) (tok_immC s), parseReg_regC, parseImm_immC]; rfl
  | .ldr t b i, _ => by
    show parseInstr "LDR" (String.ofList (opsMem (regC t) (regC b) (immC i))) = _
    unfold parseInstr
    simp only [tokensMem (tok_regC t) (tok_regC b) (tok_immC i), parseReg_regC, parseImm_immC]; rfl
  | .str t b i, _ => by
    show parseInstr "STR" (String.ofList (opsMem (regC t) (regC b) (immC i))) = _
    unfold parseInstr
    simp only [tokensMem (tok_regC t) (tok_regC b) (tok_immC i), parseReg_regC, parseImm_immC]; rfl
  | .stpPre t1 t2 b i, _ => by
    show parseInstr "STP" (String.ofList (opsStp (regC t1) (regC t2) (regC b) (immC i))) = _
    unfold parseInstr
    simp only [tokensStp (tok_regC t1) (tok_regC t2) (tok_regC b) (tok_immC i), parseReg_regC, parseImm_immC]; rfl
  | .ldpPost t1 t2 b i, _ => by
    show parseInstr "LDP" (String.ofList (opsLdp (regC t1) (regC t2) (regC b) (immC i))) = _
    unfold parseInstr
    simp only [tokensLdp (tok_regC t1) (tok_regC t2) (tok_regC b) (tok_immC i), parseReg_regC, parseImm_immC]; rfl
  | .cmp a b, _ => by
    show parseInstr "CMP" (String.ofList (ops2 (regC a) (regC b))) = _
    unfold parseInstr
    simp only [tokens2 (tok_regC a) (tok_regC b), parseReg_regC]; rfl
  | .cmpi a i, _ => by
    show parseInstr "CMP" (String.ofList (ops2 (regC a) (immC i))) = _
    unfold parseInstr
    simp only [tokens2 (tok_regC a) (tok_immC i), parseReg_regC, parseReg_immC, parseImm_immC]; rfl
  | .b l, h => by
    show parseInstr "B" (String.ofList l.toList) = _
    unfold parseInstr
    exact labelOperand_read (h l rfl) _
  | .bl l, h => by
    show parseInstr "BL" (String.ofList l.toList) = _
    unfold parseInstr
    exact labelOperand_read (h l rfl) _
  | .bcond .eq l, h => by
    show parseInstr "BEQ" (String.ofList l.toList) = _
    unfold parseInstr
    exact labelOperand_read (h l rfl) _
  | .bcond .ne l, h => by
    show parseInstr "BNE" (String.ofList l.toList) = _
    unfold parseInstr
    exact labelOperand_read (h l rfl) _
  | .bcond .lt l, h => by
    show parseInstr "BLT" (String.ofList l.toList) = _
    unfold parseInstr
    exact labelOperand_read (h l rfl) _
  | .bcond .le l, h => by
    show parseInstr "BLE" (String.ofList l.toList) = _
    unfold parseInstr
    exact labelOperand_read (h l rfl) _
  | .bcond .gt l, h => by
    show parseInstr "BGT" (String.ofList l.toList) = _
    unfold parseInstr
    exact labelOperand_read (h l rfl) _
  | .bcond .ge l, h => by
    show parseInstr "BGE" (String.ofList l.toList) = _
    unfold parseInstr
    exact labelOperand_read (h l rfl) _
  | .adr a l, h => by
    have hl := h l rfl
    show parseInstr "ADR" (String.ofList (ops2 (regC a) l.toList)) = _
    unfold parseInstr
    simp only [tokens2 (tok_regC a) (tok_label hl), parseReg_regC, validLabel_of_labelOK hl, if_true]
    rw [String.ofList_toList]; rfl
  | .ret, _ => by
    show parseInstr "RET" "" = _
    unfold parseInstr
    simp only [tokenize_nil]; rfl

end Scc.A64.Loader
