/-
  Scc.A64.RefHeapX3 — what the proofs about both three-way relations (`Ref.K.X3R`, and through it `Ref.X3R`)
  use and that speaks of neither: the temporaries of positions are no reserved registers; what the per-method
  frames (`Frame`, `Frame0`, `FrameT`) preserve of `HeapRel` and `Core`; the heap region lies below 2^64.
-/
import Scc.A64.RefHeapTr
import Scc.A64.RefHeapBridge
import Scc.A64.MemProofsLoadTop
import Scc.Props.C09Refine
import Scc.Backend.ProofsRep2
import Scc.Heap.RefineHRef
import Scc.Backend.ProofsRoots
import Scc.Backend.ProofsAbsJump
import Scc.Heap.RefineBound

namespace Scc.A64.Ref

open Scc.AxCut Scc.Backend.Abs Scc.A64.CC
open Scc.Heap (HState InvS InvW)
open Scc.Heap.Refine (HRef imgW fieldImg kindB)

theorem posTemp_ne_x {t r : Nat} (ht : t < 281) (hr : r < 4) : posTemp t ≠ .register (.x r) := by
  unfold posTemp
  split
  · intro e; injection e with e; injection e with e; omega
  · intro e; cases e

theorem posTemp_ne_spill0' (t : Nat) : posTemp t ≠ .spill 0 := by
  unfold posTemp
  split
  · intro e; cases e
  · intro e; injection e with e; omega

theorem opndOK_posTemp {t : Nat} (h : t < 281) : OpndOK (posTemp t) := isVar_opndOK (isVar_posTemp h)

theorem X3R.setPc {c : MemCfg} {Γ : Ctx} {cfg : Config} {rs : List Nat} {hs : HState} {ι : Nat → Nat}
    {σ : State} {out : List (Bool × Word)} (X : X3R c Γ cfg rs hs ι σ out) (pc : Nat) :
    X3R c Γ { cfg with pc := pc } rs hs ι σ out :=
  ⟨X.core, X.cap, X.words, X.ptrs, X.out, X.hrel, X.href⟩

theorem tempVal_x0 (σ : State) : σ.tempVal (.register (.x 0)) = σ.reg 0 := tempVal_reg xreg_0

theorem xreg_1 : xreg 1 = some (1 : Fin 31) := by decide

theorem tempVal_x1 (σ : State) : σ.tempVal (.register (.x 1)) = σ.reg 1 := tempVal_reg xreg_1

/-- the heap view survives whatever keeps the heap memory, X0 (HEAP) and X1 (FREE) -/
theorem heapRel_of_keep {c : MemCfg} {σ σ' : State} {hs : HState} (R : HeapRel c σ hs)
    (hh : σ'.heap = σ.heap) (h0 : σ'.reg 0 = σ.reg 0) (h1 : σ'.reg 1 = σ.reg 1) : HeapRel c σ' hs := by
  refine ⟨R.base, R.limit, fun a => by rw [hh]; exact R.mem a, ?_, ?_⟩
  · obtain ⟨w, hw, e⟩ := R.heap
    refine ⟨w, ?_, e⟩
    rw [HEAP_eq, tempVal_x0] at hw ⊢
    rw [h0]; exact hw
  · obtain ⟨w, hw, e⟩ := R.free
    refine ⟨w, ?_, e⟩
    rw [FREE_eq, tempVal_x1] at hw ⊢
    rw [h1]; exact hw

theorem heapRel_frame {c : MemCfg} {σ σ' : State} {hs : HState} (R : HeapRel c σ hs) {t : Temporary}
    (ht : t.isVar) (F : Frame σ σ' t) : HeapRel c σ' hs :=
  heapRel_of_keep R F.heap (F.low ht 0 (by decide)) (F.low ht 1 (by decide))

theorem heapRel_frame0 {c : MemCfg} {σ σ' : State} {hs : HState} (R : HeapRel c σ hs)
    (F : Frame0 σ σ') : HeapRel c σ' hs :=
  heapRel_of_keep R F.heap (F.regs 0 (by decide) (by decide)) (F.regs 1 (by decide) (by decide))

theorem limit_lt {c : MemCfg} {room : Nat} {σ : State} {hs : HState} (B : SpOk c σ.sp room)
    (R : HeapRel c σ hs) : hs.limit < 2 ^ 64 := by
  have h2 := R.limit
  have h3 := B.disjoint
  have h4 := B.top
  have h5 := B.high
  have h6 := B.low
  omega

/-- `Core` survives a memory operation (`FrameT`: SP and the stack outside the spill area are kept) -/
theorem core_frameT {c : MemCfg} (H : CfgCC c) {σ σ' : State} (C : Core c σ) {ch : Temporary → Prop}
    (F : FrameT σ σ' ch) : Core c σ' := by
  have hr := H.room; have ht := H.ok.top
  have hS := C.spNat H
  have hsp := spOkS_of_core H C
  refine ⟨by rw [F.sp]; exact C.sp, ?_⟩
  have hout : ∀ a, c.stackTop - 96 ≤ a → σ'.slot a = σ.slot a := by
    intro a ha
    apply F.outside
    intro p hp e
    have := slotAddr_eq hsp (p := p) (by rw [SPILL_NUM_eq]; exact hp)
    rw [e, this, hS] at ha
    omega
  intro k hk
  rw [hout _ (by omega), hout _ (by omega)]
  exact C.saved k hk

/-- a memory operation that changes only reserved registers keeps the temporaries of positions -/
theorem frameT_posTemp {σ σ' : State} {ch : Temporary → Prop} (FT : FrameT σ σ' ch)
    (hch : ∀ u, ch u → ∃ r, r < 4 ∧ u = .register (.x r)) {t : Nat} (ht : t < 281) :
    σ'.tempVal (posTemp t) = σ.tempVal (posTemp t) := by
  apply FT.temps _ (opndOK_posTemp ht)
  intro hc
  obtain ⟨r, hr, e⟩ := hch _ hc
  exact posTemp_ne_x ht hr e

end Scc.A64.Ref
