/-
  Scc.A64.RefDefs — SPEC definitions for "Theorem B" (C07, AArch64): the REFINEMENT from the abstract
  backend machine `Scc.Backend.Abs` (AbstractMachine.lean: executes the `MockOp`s that the generic code
  generator emits with the mock backend) to the AArch64 SPEC machine (Scc/A64/Machine.lean) executing the
  instructions that the SAME generator emits with `a64Backend`.

  * `OpRel g op blk g'` — the AArch64 instruction list `blk` is the rendering of the abstract instruction
    `op` (temporary `t` of the mock numbering ↦ `posTemp t` = utils.rs temporary_from_position: logical
    registers X4..X29, i.e. the machine's X4–X17, X19–X30, then spill slots 1..255; RET1 ↦ X0), together
    with the static side conditions under which the backend method is correct.  `g`, `g'` : `Mode` is the
    scratch discipline of parallel_moves.rs before / after the instruction: between a `save` and the
    matching `restore` (`Mode.pm`) the abstract scratch cell lives in TEMP = X2 (the AArch64 `mov` goes
    through TEMP2 = X3 for a spill-to-spill move, so TEMP is never disturbed).
  * `Seg g ops cs g'` — the code list `cs` is the concatenation of the renderings of `ops`.
  * `At ops cs a k g` — abstract address `a` of `Program.ofOps ops` corresponds to list position `k` of
    the routine `cs` (the machine's program counter is then the number of ITEMS before position `k`: labels,
    directives and plain comments occupy no item of the laid-out program, `#ctx` hook comments do).
  * `RepA64` — the representation relation: temporary `t` of the abstract machine ↔ register / spill slot
    `posTemp t`; RET1 ↔ X0; scratch ↔ TEMP; equal traces; SP at the statement-boundary value with the
    callee-save area holding the entry values of X19–X30 (`CC.Core`, what the epilogue needs).
    INTEGER FRAGMENT: only the WORD parts of the positions (odd temporaries) are tracked, and the abstract
    heap is not represented (that is the relation `X3R` of Scc/A64/RefHeapDefs.lean, RefClosHDefs.lean).
-/
import Scc.A64.MemProofsStore
import Scc.A64.CCProofsRun
import Scc.Backend.SimDefs

namespace Scc.A64.Ref

open Scc.AxCut Scc.Backend Scc.Backend.Abs Scc.Backend.Sim

/-- scratch discipline of parallel_moves.rs -/
inductive Mode where
  | normal
  /-- between `save` and `restore`: TEMP holds the saved value -/
  | pm
  /-- between `mov RET1 t` and `jumplabel cleanup`: X0 holds the result -/
  | exit
  deriving DecidableEq, Repr

/-- the word-part temporary of a position within the capacity of utils.rs temporary_from_position -/
def PosW (t : Nat) : Prop := t % 2 = 1 ∧ t < 281

instance (t : Nat) : Decidable (PosW t) := by unfold PosW; infer_instance

/-- `blk` renders `op`; `g ⟶ g'` is the scratch mode before / after -/
def OpRel (g : Mode) (op : MockOp) (blk : List Code) (g' : Mode) : Prop :=
  match op with
  | .comment m => blk = [.COMMENT m] ∧ g' = g
  | .label n => blk = [.LAB n] ∧ g = .normal ∧ g' = .normal
  | .jumpLabel n => blk = [.B n] ∧ g' = .normal ∧ (g = .normal ∨ (g = .exit ∧ n = "cleanup"))
  | .jif c a b n => blk = jumpLabelIf c (posTemp a) (posTemp b) n ∧ PosW a ∧ PosW b ∧
      g = .normal ∧ g' = .normal
  | .jifz c a n => blk = jumpLabelIfZero c (posTemp a) n ∧ PosW a ∧ g = .normal ∧ g' = .normal
  | .li t imm => blk = loadImmediate (posTemp t) imm ∧ PosW t ∧ g = .normal ∧ g' = .normal
  | .binop o t a b => blk = Scc.A64.op o (posTemp t) (posTemp a) (posTemp b) ∧ PosW t ∧ PosW a ∧ PosW b ∧
      g = .normal ∧ g' = .normal
  | .mov t s =>
      (t = Mock.T_RET1 ∧ PosW s ∧ blk = mov (.register RETURN1) (posTemp s) ∧ g = .normal ∧ g' = .exit) ∨
      (PosW t ∧ PosW s ∧ blk = mov (posTemp t) (posTemp s) ∧ g' = g)
  | .print nl s kinds => ∃ ctx : Ctx, blk = printI64 nl (posTemp s) ctx ∧ kinds = Mock.kindsOf ctx ∧
      PosW s ∧ s < 2 * ctx.length ∧ g = .normal ∧ g' = .normal
  | .save t _ => ∃ b, blk = storeTemporary (posTemp t) b ∧ PosW t ∧ (g = .normal ∨ g = .pm) ∧ g' = .pm
  | .restore t _ => ∃ b, blk = restoreTemporary (posTemp t) b ∧ PosW t ∧ g = .pm ∧ g' = .normal
  | _ => False

/-- `cs` is the concatenation of the renderings of `ops` -/
inductive Seg : Mode → List MockOp → List Code → Mode → Prop where
  | nil (g : Mode) : Seg g [] [] g
  | cons {g g1 g' : Mode} {op : MockOp} {blk : List Code} {ops : List MockOp} {cs : List Code} :
      OpRel g op blk g1 → Seg g1 ops cs g' → Seg g (op :: ops) (blk ++ cs) g'

theorem Seg.append {g g1 g' : Mode} {o1 o2 : List MockOp} {c1 c2 : List Code}
    (h1 : Seg g o1 c1 g1) (h2 : Seg g1 o2 c2 g') : Seg g (o1 ++ o2) (c1 ++ c2) g' := by
  induction h1 with
  | nil g => simpa using h2
  | cons hop _ ih =>
    rw [List.cons_append, List.append_assoc]
    exact Seg.cons hop (ih h2)

theorem Seg.single {g g' : Mode} {op : MockOp} {blk : List Code} (h : OpRel g op blk g') :
    Seg g [op] blk g' := by
  have := Seg.cons h (Seg.nil g')
  simpa using this

theorem Seg.split {g g' : Mode} : ∀ {o1 o2 : List MockOp} {cs : List Code}, Seg g (o1 ++ o2) cs g' →
    ∃ c1 c2 gm, cs = c1 ++ c2 ∧ Seg g o1 c1 gm ∧ Seg gm o2 c2 g'
  | [], o2, cs, h => ⟨[], cs, g, rfl, Seg.nil g, h⟩
  | op :: o1, o2, cs, h => by
    cases h with
    | cons hop hrest =>
      obtain ⟨c1, c2, gm, e, s1, s2⟩ := Seg.split hrest
      exact ⟨_ ++ c1, c2, gm, by rw [e, List.append_assoc], Seg.cons hop s1, s2⟩

/-- abstract address `a` ↔ list position `k`: the suffixes from there are related -/
def At (ops : List MockOp) (cs : List Code) (a k : Nat) (g : Mode) : Prop :=
  ∃ ops1 ops2 cs1 cs2 tail, ops = ops1 ++ ops2 ∧ cs = cs1 ++ cs2 ++ tail ∧ instrCount ops1 = a ∧
    cs1.length = k ∧ Seg g ops2 cs2 .normal

/-- THE REPRESENTATION RELATION (integer fragment); `out` is the trace of the machine (most recent first) -/
structure RepA64 (c : MemCfg) (g : Mode) (cfg : Config) (σ : State) (out : List (Bool × Word)) : Prop where
  /-- SP at its boundary value, the callee-save area holds the entry values of X19–X30 -/
  core : CC.Core c σ
  /-- word parts of the positions -/
  temps : ∀ t v, PosW t → cfg.temps.get t = some v → σ.tempVal (posTemp t) = some v
  /-- RET1 is X0 (defined only between `mov RET1 t` and `jumplabel cleanup`) -/
  ret : ∀ v, cfg.temps.get Mock.T_RET1 = some v → g = .exit ∧ σ.reg 0 = some v
  /-- the scratch cell of parallel moves -/
  scratch : g = .pm → ∀ w, cfg.scratch = some w → σ.reg xT = some w
  out : out = cfg.out

end Scc.A64.Ref
