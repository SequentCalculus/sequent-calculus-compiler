/-
  Scc.A64.MemCode — WHAT memory.rs of the AArch64 backend emits.  The methods without a capacity check
  (`skip_if_zero`, `if_zero_then_else`, `erase_block`, `share_block_n`, `acquire_block`) return the pure
  code `…C` from every label counter; `store` and `load` succeed only when their temporaries exist and
  then return the backend-independent code `Scc.Mem.StoreCode.storeFieldsC` of the leaves `memCode` and
  `Scc.Mem.LoadCode.loadC` of the leaves `loadCode`.
-/
import Scc.A64.Backend
import Scc.Mem.LoadCode
import Scc.Backend.ProofsGen

namespace Scc.A64

open Scc.AxCut
open Scc.Backend (GenM TempNum freshLabel Gen Emits)

/-- utils.rs temporary_from_position, total -/
def posTemp (n : Nat) : Temporary := if n + 4 < 30 then .register (.x (n + 4)) else .spill (n - 25)

theorem temporaryFromPosition_eq {n : Nat} (h : n < 281) : temporaryFromPosition n = pure (posTemp n) := by
  unfold temporaryFromPosition posTemp
  have hR : RESERVED = 4 := rfl
  have hN : REGISTER_NUM = 30 := rfl
  have hS : RESERVED_SPILLS = 1 := rfl
  have hP : SPILL_NUM = 256 := rfl
  simp only [hR, hN, hS, hP]
  by_cases h1 : n + 4 < 30
  · simp [h1]
  · have : n + 4 - 30 + 1 < 256 := by omega
    have e : n + 4 - 30 + 1 = n - 25 := by omega
    rw [if_neg h1, if_neg h1, if_pos this, e]

theorem posTemp_inj {m n : Nat} : posTemp m = posTemp n ↔ m = n := by
  unfold posTemp
  constructor
  · intro h
    by_cases h1 : m + 4 < 30 <;> by_cases h2 : n + 4 < 30 <;> simp only [h1, h2, if_true, if_false] at h
    · have : m + 4 = n + 4 := by simpa using h
      omega
    · cases h
    · cases h
    · have : m - 25 = n - 25 := by simpa using h
      omega
  · rintro rfl; rfl

/-- the capacity check of the backend is the success of `temporary_from_position` -/
theorem gen_temporaryFromPosition (n : Nat) :
    Gen (temporaryFromPosition n) (n < 281) (fun k => (posTemp n, k)) := by
  by_cases h : n < 281
  · rw [temporaryFromPosition_eq h]
    exact (Gen.pure _).congr ⟨fun _ => h, fun _ => trivial⟩
  · refine Gen.congr ?_ (c := False) ⟨False.elim, fun h' => h h'⟩
    unfold temporaryFromPosition
    have hR : RESERVED = 4 := rfl
    have hN : REGISTER_NUM = 30 := rfl
    have hS : RESERVED_SPILLS = 1 := rfl
    have hP : SPILL_NUM = 256 := rfl
    simp only [hR, hN, hS, hP]
    rw [if_neg (by omega), if_neg (by omega)]
    exact Gen.throw

theorem gen_freshTemporary (num : TempNum) (ctx : Ctx) :
    Gen (freshTemporary num ctx) (2 * ctx.length + num.toNat < 281)
      (fun k => (posTemp (2 * ctx.length + num.toNat), k)) := gen_temporaryFromPosition _

theorem posTemp_reg {m : Nat} (h : m + 4 < 30) : posTemp m = .register (.x (m + 4)) := by
  unfold posTemp; rw [if_pos h]

theorem posTemp_spill {m : Nat} (h : ¬ m + 4 < 30) : posTemp m = .spill (m - 25) := by
  unfold posTemp; rw [if_neg h]

/-- memory.rs BlockPosition ↦ the model's -/
def posMap : BlockPosition → Scc.Heap.BlockPosition
  | .last => .last
  | .other => .other

theorem restLength_eq (n : Nat) (pos : BlockPosition) :
    (if n ≤ FIELDS_PER_BLOCK - pos.toNat then 0 else n - (FIELDS_PER_BLOCK - pos.toNat)) =
      Scc.Heap.restLength n (posMap pos) := by
  cases pos <;> rfl

/-- memory.rs LoadMode ↦ the model's -/
def modeMap : LoadMode → Scc.Heap.LoadMode
  | .release => .release
  | .share => .share

end Scc.A64

namespace Scc.A64.Mem

open Scc.AxCut
open Scc.Backend (GenM TempNum freshLabel Gen Emits)
open Scc.Mem (labName)

/-- memory.rs skip_if_zero from the label counter `k` (draws `k + 1`) -/
def skipIfZeroC (cond : Register) (toSkip : List Code) (k : Nat) : List Code :=
  [.CMPI cond 0, .BEQ (labName (k + 1))] ++ toSkip ++ [.LAB (labName (k + 1))]

/-- memory.rs if_zero_then_else from the label counter `k` (draws `k + 1`, `k + 2`) -/
def ifZeroThenElseC (cond : Register) (tb eb : List Code) (k : Nat) : List Code :=
  [.CMPI cond 0, .BEQ (labName (k + 1))] ++ eb ++ [.B (labName (k + 2)), .LAB (labName (k + 1))] ++ tb ++
    [.LAB (labName (k + 2))]

theorem ifZeroThenElse_run (cond : Register) (tb eb : List Code) (k : Nat) :
    (ifZeroThenElse cond tb eb).run k = .ok (ifZeroThenElseC cond tb eb k, k + 2) := rfl

/-- memory.rs erase_valid_object for the block in `r`, whose reference count `erase_block` has loaded into TEMP2,
from the label counter `k` (draws `k + 1`, `k + 2`): count 0 — the block goes onto the lazy free list, otherwise
the count is decremented -/
def eraseValidObjectC (r : Register) (k : Nat) : List Code :=
  ifZeroThenElseC TEMP2
    [.COMMENT "######... or add block to lazy free list", .STR FREE r NEXT_ELEMENT_OFFSET, .MOVR FREE r]
    [.COMMENT "######either decrement refcount ...", .SUBI TEMP2 TEMP2 1, .STR TEMP2 r REFERENCE_COUNT_OFFSET] k

/-- memory.rs erase_block from the label counter `k` (draws three labels) -/
def eraseBlockC : Temporary → Nat → List Code
  | .register r, k =>
    skipIfZeroC r ([.COMMENT "######check refcount", .LDR TEMP2 r REFERENCE_COUNT_OFFSET] ++ eraseValidObjectC r k)
      (k + 2)
  | .spill p, k => .LDR TEMP .sp (stackOffset p) ::
    skipIfZeroC TEMP ([.COMMENT "######check refcount", .LDR TEMP2 TEMP REFERENCE_COUNT_OFFSET] ++
      eraseValidObjectC TEMP k) (k + 2)

theorem eraseBlock_run (t : Temporary) (k : Nat) : (eraseBlock t).run k = .ok (eraseBlockC t k, k + 3) := by
  cases t <;> rfl

/-- memory.rs share_block_n from the label counter `k` (draws one label) -/
def shareBlockNC : Temporary → Nat → Nat → List Code
  | .register r, n, k => skipIfZeroC r [.COMMENT "####increment refcount", .LDR TEMP2 r REFERENCE_COUNT_OFFSET,
      .ADDI TEMP2 TEMP2 (n : Int), .STR TEMP2 r REFERENCE_COUNT_OFFSET] k
  | .spill p, n, k => .LDR TEMP .sp (stackOffset p) ::
    skipIfZeroC TEMP [.COMMENT "####increment refcount", .LDR TEMP2 TEMP REFERENCE_COUNT_OFFSET,
      .ADDI TEMP2 TEMP2 (n : Int), .STR TEMP2 TEMP REFERENCE_COUNT_OFFSET] k

theorem shareBlockN_run (t : Temporary) (n k : Nat) : (shareBlockN t n).run k = .ok (shareBlockNC t n k, k + 1) := by
  cases t <;> rfl

/-- acquire_block::erase_fields from the label counter `k` (three labels per field) -/
def eraseFieldsC (r : Register) : Nat → Nat → Nat → List Code
  | 0, _, _ => []
  | n + 1, offset, k =>
    [.COMMENT ("#####check child " ++ toString (offset + 1) ++ " for erasure"),
      .LDR TEMP r (fieldOffset 0 offset)] ++ eraseBlockC (.register TEMP) k ++ eraseFieldsC r n (offset + 1) (k + 3)

/-- the move of HEAP into the target of `acquire_block` -/
def acquireHead : Temporary → List Code
  | .register r => [.MOVR r HEAP]
  | .spill p => [.MOVR TEMP HEAP, .STR HEAP .sp (stackOffset p)]

/-- the register through which memory.rs reaches the block the temporary `t` points to: `t` itself, or TEMP for a
spill slot (the target of `acquire_block`, a pointer just loaded by `load_field`); the contracts of `share_block_n` and
`erase_block` (MemProofsHeap.lean) are stated over it -/
def shareReg : Temporary → Register
  | .register r => r
  | .spill _ => TEMP

/-- memory.rs acquire_block from the label counter `k` (draws 13 labels) -/
def acquireBlockC (t : Temporary) (k : Nat) : List Code :=
  acquireHead t ++ [.COMMENT "##get next free block into heap register",
      .COMMENT "###(1) check linear free list for next block", .LDR HEAP HEAP NEXT_ELEMENT_OFFSET] ++
    ifZeroThenElseC HEAP
      ([.COMMENT "###(2) check non-linear lazy free list for next block", .MOVR HEAP FREE,
          .LDR FREE FREE NEXT_ELEMENT_OFFSET] ++
        ifZeroThenElseC FREE
          [.COMMENT "###(3) fall back to bump allocation", .ADDI FREE HEAP (fieldOffset 0 FIELDS_PER_BLOCK)]
          ([.COMMENT "####mark linear free list empty", .STR .xzr HEAP NEXT_ELEMENT_OFFSET,
            .COMMENT "####erase children of next block"] ++ eraseFieldsC HEAP FIELDS_PER_BLOCK 0 k) (k + 9))
      [.COMMENT "####initialize refcount of just acquired block", .STR .xzr (shareReg t) REFERENCE_COUNT_OFFSET]
      (k + 11)

theorem acquireBlock_run (t : Temporary) (k : Nat) :
    (acquireBlock t).run k = .ok (acquireBlockC t k, k + 13) := by
  cases t <;> rfl

/-- memory.rs store_field for the temporary `t` (through TEMP for a spilled one) -/
def storeFieldC : Temporary → Register → Int → List Code
  | .register r, blk, fo => [.STR r blk fo]
  | .spill p, blk, fo => [.LDR TEMP .sp (stackOffset p), .STR TEMP blk fo]

/-- the leaves of `store`; block registers are given by their number -/
@[reducible] def memCode : Scc.Mem.StoreCode Code Temporary where
  ρ := Nat
  lab := .LAB
  comment := .COMMENT
  pos := posTemp
  cap := 281
  okBlk := fun r => r < 30 ∧ r ≠ 2 ∧ r ≠ 3
  offOk := fun off => off ≤ 1000
  offOk_mono := fun h1 h2 => Nat.le_trans h1 h2
  offOk_block := by decide
  heapR := 0
  heapR_ok := ⟨by omega, by omega, by omega⟩
  stF := fun t r num off => storeFieldC t (.x r) (fieldOffset num.toNat off)
  stZ := fun r off => storeZero (.x r) off
  acqLabs := 13
  acq := fun m k => acquireBlockC (posTemp m) k
  zero := fun m => loadImmediate (posTemp m) 0

theorem gen_storeField (num : TempNum) (ctx : Ctx) (blk : Register) (off : Nat) :
    Gen (storeField num ctx blk off) (2 * ctx.length + num.toNat < 281)
      (fun k => (storeFieldC (posTemp (2 * ctx.length + num.toNat)) blk (fieldOffset num.toNat off), k)) := by
  unfold storeField
  refine (Gen.bindc (gen_freshTemporary num ctx) (c2 := True) ?_).congr ⟨fun h => h.1, fun h => ⟨h, trivial⟩⟩
  cases posTemp (2 * ctx.length + num.toNat) <;> exact Gen.pure _

theorem gen_storeValue (b : Binding) (ctx : Ctx) (blk : Nat) (off : Nat) :
    Gen (storeValue b ctx (.x blk) off) (2 * ctx.length + 1 < 281)
      (fun k => (memCode.storeValueC b ctx.length blk off, k)) := by
  unfold storeValue Scc.Mem.StoreCode.storeValueC
  by_cases hχ : (b.chi == .ext) = true
  · simp only [hχ, if_true]
    refine (Gen.bindc (gen_storeField .snd ctx _ off) (c2 := True) ?_).congr (by simp [TempNum.toNat])
    exact Gen.pure _
  · simp only [hχ, Bool.false_eq_true, if_false]
    refine (Gen.bindc (gen_storeField .snd ctx _ off) (Gen.bindc (gen_storeField .fst ctx _ off)
      (c2 := True) ?_)).congr ?_
    · exact Gen.pure _
    · simp only [TempNum.toNat]
      exact ⟨fun h => h.1, fun h => ⟨h, by omega, trivial⟩⟩

theorem gen_storeValuesLoop (rem : Ctx) (blk : Nat) : ∀ (bsRev : List Binding) (ff : Nat),
    Gen (storeValuesLoop rem (.x blk) bsRev ff)
      (bsRev.length ≤ ff ∧ (bsRev = [] ∨ 2 * (rem.length + bsRev.length) ≤ 281))
      (fun k => (memCode.storeLoopC rem.length blk bsRev ff, k))
  | [], _ => (Gen.pure _).congr (by simp)
  | b :: rest, ff => by
    unfold storeValuesLoop
    have hlen : (rem ++ rest.reverse).length = rem.length + rest.length := by simp
    by_cases h0 : ff = 0
    · subst h0
      simp only [if_true]
      exact Gen.throw.congr (by simp)
    · simp only [h0, if_false]
      refine (Gen.bindc (gen_storeValue b _ blk _) (Gen.bind (gen_storeValuesLoop rem blk rest (ff - 1))
        (fun r => Gen.pure _) (F := fun k => (memCode.storeLoopC rem.length blk (b :: rest) ff, k))
        fun _ => ?_)).congr ?_
      · simp [Scc.Mem.StoreCode.storeLoopC]
      · rw [hlen]
        simp only [List.length_cons, reduceCtorEq, false_or, and_true]
        constructor
        · rintro ⟨h2, h3, h4⟩; omega
        · rintro ⟨h1, h2⟩
          refine ⟨by omega, by omega, ?_⟩
          by_cases hr : rest = []
          · exact Or.inl hr
          · exact Or.inr (by omega)

theorem gen_storeValues (toStore rem : Ctx) (blk ff : Nat) :
    Gen (storeValues toStore rem (.x blk) ff)
      (toStore.length ≤ ff ∧ (toStore = [] ∨ 2 * (rem.length + toStore.length) ≤ 281))
      (fun k => (memCode.storeValuesC toStore rem.length blk ff, k)) := by
  unfold storeValues
  exact (Gen.bind (gen_storeValuesLoop rem blk toStore.reverse ff) (fun r => Gen.pure _) fun _ => rfl).congr
    (by simp)

/-- with fuel beyond the number of fields, `store_fields` succeeds exactly when its temporaries exist, and
returns the backend-independent code -/
theorem gen_storeFields : ∀ (fuel : Nat) (toStore rem : Ctx) (pos : BlockPosition), toStore.length < fuel →
    Gen (storeFields fuel toStore rem pos) (memCode.FitsS toStore rem.length (posMap pos))
      (memCode.storeFieldsC fuel toStore rem.length (posMap pos))
  | 0, _, _, _, h => absurd h (Nat.not_lt_zero _)
  | fuel + 1, toStore, rem, pos, hn => by
    unfold storeFields
    unfold Scc.Mem.StoreCode.FitsS
    simp only [Scc.Mem.StoreCode.storeFieldsC]
    by_cases hne : toStore = []
    · subst hne
      simp only [List.isEmpty_nil, if_true]
      cases pos with
      | last =>
        simp only [beq_self_eq_true, if_true, posMap]
        refine (Gen.bindc (gen_freshTemporary .fst rem) (c2 := True) ?_).congr ?_
        · exact Gen.pure _
        · simp only [TempNum.toNat, List.length_nil, reduceCtorEq, and_false, false_or, and_true, Nat.add_zero,
            false_imp_iff]
          show _ ↔ 2 * (rem.length + 0) ≤ 281 ∧ 2 * rem.length < 281
          omega
      | other => exact (Gen.pure _).congr (by simp [posMap])
    · have hie : toStore.isEmpty = false := List.isEmpty_eq_false_iff.mpr hne
      have hpos : 0 < toStore.length := List.length_pos_iff.mpr hne
      simp only [hie, Bool.false_eq_true, if_false, if_neg hne, false_and, false_or]
      rw [restLength_eq toStore.length pos]
      have hrlt : Scc.Heap.restLength toStore.length (posMap pos) < toStore.length :=
        Scc.Heap.restLength_lt _ _ hpos
      have hfit : toStore.length - Scc.Heap.restLength toStore.length (posMap pos) ≤ FIELDS_PER_BLOCK - pos.toNat := by
        rw [← restLength_eq]; split <;> omega
      generalize Scc.Heap.restLength toStore.length (posMap pos) = rl at hrlt hfit ⊢
      have hlt : (rem ++ toStore.take rl).length = rem.length + rl := by
        simp [List.length_take]; omega
      have hlt2 : (toStore.take rl).length = rl := by simp [List.length_take]; omega
      have hdne : toStore.drop rl ≠ [] := fun e => by
        have := congrArg List.length e; simp only [List.length_drop, List.length_nil] at this; omega
      have h3 := gen_storeValues (toStore.drop rl) (rem ++ toStore.take rl) 0 (FIELDS_PER_BLOCK - pos.toNat)
      rw [hlt, ← show HEAP = Register.x 0 from rfl] at h3
      have h5 := gen_storeFields fuel (toStore.take rl) rem .other (by rw [hlt2]; omega)
      have tail : ∀ c1 : List Code, Gen (do
            let c3 ← storeValues (toStore.drop rl) (rem ++ toStore.take rl) HEAP (FIELDS_PER_BLOCK - pos.toNat)
            let t ← freshTemporary .fst (rem ++ toStore.take rl)
            let c4 ← acquireBlock t
            let c5 ← storeFields fuel (toStore.take rl) rem .other
            pure (c1 ++ (if (pos == .last) = true then [Code.COMMENT "#allocate memory"] else []) ++ c3 ++
              [.COMMENT "##acquire free block from heap register"] ++ c4 ++ c5))
          (2 * (rem.length + toStore.length) ≤ 281)
          (fun k =>
            let r := memCode.storeFieldsC fuel (toStore.take rl) rem.length .other (k + 13)
            (c1 ++ (if (pos == .last) = true then [Code.COMMENT "#allocate memory"] else []) ++
              memCode.storeValuesC (toStore.drop rl) (rem.length + rl) 0 (FIELDS_PER_BLOCK - pos.toNat) ++
              [.COMMENT "##acquire free block from heap register"] ++
              acquireBlockC (posTemp (2 * (rem.length + rl))) k ++ r.1, r.2)) := by
        intro c1
        have hin : ∀ pre : List Code, Gen (do
              let c4 ← acquireBlock (posTemp (2 * (rem.length + rl)))
              let c5 ← storeFields fuel (toStore.take rl) rem .other
              pure (pre ++ c4 ++ c5))
            (True ∧ memCode.FitsS (toStore.take rl) rem.length .other ∧ True)
            (fun k =>
              let r := memCode.storeFieldsC fuel (toStore.take rl) rem.length .other (k + 13)
              (pre ++ acquireBlockC (posTemp (2 * (rem.length + rl))) k ++ r.1, r.2)) := fun pre =>
          Gen.bind (Gen.of_run (acquireBlock_run _)) (fun c4 => Gen.bind h5 (fun c5 => Gen.pure _) fun _ => rfl)
            fun _ => rfl
        have hf := gen_freshTemporary .fst (rem ++ toStore.take rl)
        simp only [TempNum.toNat, Nat.add_zero, hlt] at hf
        refine (Gen.bindc h3 (Gen.bindc hf (hin _))).congr ?_
        simp only [List.length_drop, hdne, false_or, true_and, and_true, hlt2,
          Scc.Mem.StoreCode.FitsS, reduceCtorEq, true_imp_iff]
        constructor
        · rintro ⟨⟨_, h⟩, _⟩; omega
        · intro h
          refine ⟨⟨hfit, by omega⟩, by omega, ?_⟩
          by_cases hr : toStore.take rl = []
          · exact Or.inl hr
          · exact Or.inr ⟨by omega, by omega, by omega⟩
      cases pos with
      | last =>
        have := tail []
        have e1 : (BlockPosition.last == BlockPosition.other) = false := rfl
        simp only [storeLink, e1, Bool.false_eq_true, if_false, beq_self_eq_true, if_true, posMap, reduceCtorEq,
          false_imp_iff, and_true] at this ⊢
        refine (Gen.bindc (Gen.pure _) this).congr ?_
        simp only [hne, false_and, false_or, true_and]
        omega
      | other =>
        have hsf := gen_storeField .fst (rem ++ toStore) HEAP (FIELDS_PER_BLOCK - 1)
        simp only [TempNum.toNat, Nat.add_zero, List.length_append] at hsf
        have := tail (Code.COMMENT "##store link to previous block" ::
            storeFieldC (posTemp (2 * (rem.length + toStore.length))) HEAP (fieldOffset 0 (FIELDS_PER_BLOCK - 1)))
        have e1 : (BlockPosition.other == BlockPosition.last) = false := rfl
        simp only [storeLink, e1, Bool.false_eq_true, if_false, beq_self_eq_true, if_true, posMap, reduceCtorEq,
          true_imp_iff] at this ⊢
        refine (Gen.bindc (a := Code.COMMENT "##store link to previous block" ::
            storeFieldC (posTemp (2 * (rem.length + toStore.length))) HEAP (fieldOffset 0 (FIELDS_PER_BLOCK - 1)))
          (c1 := 2 * (rem.length + toStore.length) < 281 ∧ True) (Gen.bindc hsf (Gen.pure _)) this).congr ?_
        simp only [hne, false_and, false_or, true_and, and_true]
        omega

/-- `store` succeeds exactly when its temporaries exist, and returns the code of `memCode` -/
theorem gen_store (toStore rem : Ctx) :
    Gen (store toStore rem) (memCode.FitsS toStore rem.length .last)
      (memCode.storeFieldsC (toStore.length + 1) toStore rem.length .last) :=
  gen_storeFields _ toStore rem .last (Nat.lt_succ_self _)

theorem emits_store (toStore rem : Ctx) :
    Emits (store toStore rem) (memCode.FitsS toStore rem.length .last)
      (memCode.storeFieldsC (toStore.length + 1) toStore rem.length .last) :=
  (gen_store toStore rem).emits

theorem store_run (toStore rem : Ctx) (k : Nat) (hcap : 2 * (rem.length + toStore.length) ≤ 281) :
    (store toStore rem).run k = .ok (memCode.storeFieldsC (toStore.length + 1) toStore rem.length .last k) :=
  (gen_store toStore rem).run (Or.inr ⟨hcap, by show 2 * rem.length < 281; omega, fun e => by cases e⟩) k

/-- memory.rs load_field for the temporary `t` (through TEMP for a spilled one) -/
def loadFieldC : Temporary → Register → Int → List Code
  | .register r, blk, fo => [.LDR r blk fo]
  | .spill p, blk, fo => [.LDR TEMP blk fo, .STR TEMP .sp (stackOffset p)]

/-- load::load_register around its two branches, from the label counter `k`: the test of the reference count
(in TEMP2) of the object in the register `mb` -/
def loadTopC (mb : Register) (cT cE : List Code) (k : Nat) : List Code :=
  .COMMENT "##check refcount" ::
    ifZeroThenElseC TEMP2
      (.COMMENT "##... or release blocks onto linear free list when loading" :: cT)
      ([.COMMENT "##either decrement refcount and share children...", .SUBI TEMP2 TEMP2 1,
        .STR TEMP2 mb REFERENCE_COUNT_OFFSET] ++ cE) k

/-- the move of a spilled object pointer into TEMP, and the load of the reference count -/
def loadHead : Temporary → List Code
  | .register r => [.COMMENT "#load from memory", .LDR TEMP2 r REFERENCE_COUNT_OFFSET]
  | .spill p => [.COMMENT "#load from memory", .LDR TEMP .sp (stackOffset p), .LDR TEMP2 TEMP REFERENCE_COUNT_OFFSET]

/-- the leaves of `load_fields`: a spilled block pointer goes through TEMPORARY_TEMP (X10), which is saved in
the spill slot SPILL_TEMP -/
@[reducible] def loadCode : Scc.Mem.LoadCode Code Temporary where
  toStoreCode := memCode
  ldF := fun t r num off => loadFieldC t (.x r) (fieldOffset num.toNat off)
  shrLabs := 1
  shr := fun m k => shareBlockNC (.register (shareReg (posTemp m))) 1 k
  release := fun r => releaseBlock (.x r)
  isSpill := fun m => !decide (m + 4 < 30)
  regOf := fun m => m + 4
  regOf_ok := fun {m} _ h => by
    simp only [Bool.not_eq_false', decide_eq_true_eq] at h
    show m + 4 < 30 ∧ m + 4 ≠ 2 ∧ m + 4 ≠ 3
    omega
  ttR := 10
  ttR_ok := by decide
  evac := [.STR TEMPORARY_TEMP .sp (stackOffset SPILL_TEMP)]
  ldBlk := fun m => [.LDR TEMPORARY_TEMP .sp (stackOffset (m - 25))]
  restore := [.LDR TEMPORARY_TEMP .sp (stackOffset SPILL_TEMP)]
  topLabs := 2
  top := fun m cT cE k => loadHead (posTemp m) ++ loadTopC (shareReg (posTemp m)) cT cE k

theorem gen_loadField (num : TempNum) (ctx : Ctx) (blk : Register) (off : Nat) :
    Gen (loadField num ctx blk off) (2 * ctx.length + num.toNat < 281)
      (fun k => (loadFieldC (posTemp (2 * ctx.length + num.toNat)) blk (fieldOffset num.toNat off), k)) := by
  unfold loadField
  refine (Gen.bindc (gen_freshTemporary num ctx) (c2 := True) ?_).congr ⟨fun h => h.1, fun h => ⟨h, trivial⟩⟩
  cases posTemp (2 * ctx.length + num.toNat) <;> exact Gen.pure _

theorem gen_loadValue (b : Binding) (ctx : Ctx) (blk off : Nat) (mode : LoadMode) :
    Gen (loadValue b ctx (.x blk) off mode) (2 * ctx.length + 1 < 281)
      (fun k => loadCode.loadValueC b ctx.length blk off (modeMap mode) k) := by
  unfold loadValue Scc.Mem.LoadCode.loadValueC
  by_cases hχ : (b.chi != .ext) = true
  · simp only [hχ, if_true]
    have hf := gen_freshTemporary .fst ctx
    simp only [TempNum.toNat, Nat.add_zero] at hf
    cases mode with
    | share =>
      simp only [modeMap, if_true, beq_self_eq_true]
      refine (Gen.bindc (gen_loadField .snd ctx _ off) (Gen.bindc (gen_loadField .fst ctx _ off)
        (Gen.bindc hf (c2 := True) ?_))).congr ?_
      · simp only [TempNum.toNat, Nat.add_zero]
        generalize posTemp (2 * ctx.length) = t
        cases t <;> simp only [pure_bind] <;>
          exact (Gen.bind (Gen.of_run (shareBlockN_run _ 1)) (fun c3 => Gen.pure _) fun _ => rfl).congr (by simp)
      · simp only [TempNum.toNat]
        exact ⟨fun h => h.1, fun h => ⟨h, by omega, by omega, trivial⟩⟩
    | release =>
      have e1 : (LoadMode.release == LoadMode.share) = false := rfl
      simp only [modeMap, reduceCtorEq, if_false, e1, Bool.false_eq_true]
      refine (Gen.bindc (gen_loadField .snd ctx _ off) (Gen.bindc (gen_loadField .fst ctx _ off)
        (Gen.bindc hf (c2 := True) ?_))).congr ?_
      · simp only [TempNum.toNat, Nat.add_zero]
        generalize posTemp (2 * ctx.length) = t
        cases t <;> simp only [pure_bind] <;> exact Gen.pure _
      · simp only [TempNum.toNat]
        exact ⟨fun h => h.1, fun h => ⟨h, by omega, by omega, trivial⟩⟩
  · simp only [hχ, Bool.false_eq_true, if_false]
    refine (Gen.bindc (gen_loadField .snd ctx _ off) (c2 := True) ?_).congr (by simp [TempNum.toNat])
    exact Gen.pure _

theorem gen_loadValuesLoop (existing : Ctx) (blk : Nat) (mode : LoadMode) : ∀ (bsRev : List Binding) (ff : Nat),
    Gen (loadValuesLoop existing (.x blk) mode bsRev ff)
      (bsRev.length ≤ ff ∧ (bsRev = [] ∨ 2 * (existing.length + bsRev.length) ≤ 281))
      (fun k => loadCode.loadLoopC existing.length blk (modeMap mode) bsRev ff k)
  | [], _ => (Gen.pure _).congr (by simp)
  | b :: rest, ff => by
    unfold loadValuesLoop
    have hlen : (existing ++ rest.reverse).length = existing.length + rest.length := by simp
    by_cases h0 : ff = 0
    · subst h0
      simp only [if_true]
      exact Gen.throw.congr (by simp)
    · simp only [h0, if_false]
      have hv := gen_loadValue b (existing ++ rest.reverse) blk (ff - 1) mode
      rw [hlen] at hv
      refine (Gen.bind hv (fun c => Gen.bind (gen_loadValuesLoop existing blk mode rest (ff - 1))
        (fun cs => Gen.pure _) fun _ => rfl) fun _ => ?_).congr ?_
      · simp [Scc.Mem.LoadCode.loadLoopC]
      · simp only [List.length_cons, reduceCtorEq, false_or, and_true]
        constructor
        · rintro ⟨h2, h3, h4⟩; omega
        · rintro ⟨h1, h2⟩
          refine ⟨by omega, by omega, ?_⟩
          by_cases hr : rest = []
          · exact Or.inl hr
          · exact Or.inr (by omega)

theorem gen_loadValues (toLoad existing : Ctx) (blk ff : Nat) (mode : LoadMode) :
    Gen (loadValues toLoad existing (.x blk) ff mode)
      (toLoad.length ≤ ff ∧ (toLoad = [] ∨ 2 * (existing.length + toLoad.length) ≤ 281))
      (fun k => loadCode.loadValuesC toLoad existing.length blk ff (modeMap mode) k) := by
  unfold loadValues
  exact (Gen.bind (gen_loadValuesLoop existing blk mode toLoad.reverse ff) (fun r => Gen.pure _) fun _ => rfl).congr
    (by simp)

theorem gen_loadLink (pos : BlockPosition) (ctxAll : Ctx) (blk : Nat) :
    Gen (loadLink pos ctxAll (.x blk)) (pos = .other → 2 * ctxAll.length < 281)
      (fun k => (if posMap pos = .other then [Code.COMMENT "###load link to next block"] ++
        loadCode.ldF (posTemp (2 * ctxAll.length)) blk .fst (Scc.Heap.fieldsPerBlock - 1) else [], k)) := by
  unfold loadLink
  cases pos with
  | last => exact (Gen.pure _).congr (by simp)
  | other =>
    simp only [beq_self_eq_true, if_true, posMap]
    have hl := gen_loadField .fst ctxAll (.x blk) (FIELDS_PER_BLOCK - 1)
    simp only [TempNum.toNat, Nat.add_zero] at hl
    exact (Gen.bind hl (fun c => Gen.pure _) fun _ => rfl).congr ⟨fun h _ => h.1, fun h => ⟨h trivial, trivial⟩⟩

/-- a successful run of `load_fields` returns the backend-independent code, and the temporaries fit -/
theorem emits_loadFields : ∀ (fuel : Nat) (toLoad existing : Ctx) (pos : BlockPosition) (mode : LoadMode) (rf : Bool),
    Emits (loadFields fuel toLoad existing pos mode rf)
      (toLoad = [] ∨ 2 * (existing.length + toLoad.length) ≤ 281)
      (fun k => loadCode.loadFieldsC fuel toLoad existing.length (posMap pos) (modeMap mode) rf k)
  | 0, _, _, _, _, _ => Emits.throw
  | fuel + 1, toLoad, existing, pos, mode, rf => by
    unfold loadFields
    by_cases hne : toLoad = []
    · subst hne
      simp only [List.isEmpty_nil, if_true]
      exact (Gen.pure _).emits.mono fun _ => by simp
    · have hie : toLoad.isEmpty = false := List.isEmpty_eq_false_iff.mpr hne
      have hpos : 0 < toLoad.length := List.length_pos_iff.mpr hne
      simp only [hie, Bool.false_eq_true, if_false]
      rw [restLength_eq toLoad.length pos]
      have hrlt : Scc.Heap.restLength toLoad.length (posMap pos) < toLoad.length :=
        Scc.Heap.restLength_lt _ _ hpos
      have hfit : toLoad.length - Scc.Heap.restLength toLoad.length (posMap pos) ≤ FIELDS_PER_BLOCK - pos.toNat := by
        rw [← restLength_eq]; split <;> omega
      have hC : loadCode.loadFieldsC (fuel + 1) toLoad existing.length (posMap pos) (modeMap mode) rf =
          fun k =>
            let rl := Scc.Heap.restLength toLoad.length (posMap pos)
            let r0 := loadCode.loadFieldsC fuel (toLoad.take rl) existing.length .other (modeMap mode) rf k
            if loadCode.isSpill (2 * (existing.length + rl)) then
              let rb := loadCode.loadBlockC loadCode.ttR (toLoad.drop rl)
                (existing.length + toLoad.length) (existing.length + rl) (posMap pos) (modeMap mode) r0.2
              ((r0.1.1 ++ (if r0.1.2 then [] else
                    [Code.COMMENT "###evacuate additional scratch register for memory block"] ++ loadCode.evac) ++
                  loadCode.ldBlk (2 * (existing.length + rl)) ++ rb.1 ++
                  (if posMap pos = .last then [Code.COMMENT "###restore evacuated register"] ++ loadCode.restore
                    else []), true), rb.2)
            else
              let rb := loadCode.loadBlockC (loadCode.regOf (2 * (existing.length + rl)))
                (toLoad.drop rl) (existing.length + toLoad.length) (existing.length + rl) (posMap pos)
                (modeMap mode) r0.2
              ((r0.1.1 ++ rb.1, r0.1.2), rb.2) := by
        funext k
        simp only [Scc.Mem.LoadCode.loadFieldsC, if_neg hne]
      rw [hC]
      generalize Scc.Heap.restLength toLoad.length (posMap pos) = rl at hrlt hfit ⊢
      have hlt : (existing ++ toLoad.take rl).length = existing.length + rl := by simp [List.length_take]; omega
      have hla : (existing ++ toLoad).length = existing.length + toLoad.length := by simp
      have hf := (gen_freshTemporary .fst (existing ++ toLoad.take rl)).emits
      simp only [TempNum.toNat, Nat.add_zero, hlt] at hf
      refine (Emits.bind (emits_loadFields fuel (toLoad.take rl) existing .other mode rf)
        (h := fun r0 k1 =>
          if loadCode.isSpill (2 * (existing.length + rl)) then
            let rb := loadCode.loadBlockC loadCode.ttR (toLoad.drop rl)
              (existing.length + toLoad.length) (existing.length + rl) (posMap pos) (modeMap mode) k1
            ((r0.1 ++ (if r0.2 then [] else
                  [Code.COMMENT "###evacuate additional scratch register for memory block"] ++ loadCode.evac) ++
                loadCode.ldBlk (2 * (existing.length + rl)) ++ rb.1 ++
                (if posMap pos = .last then [Code.COMMENT "###restore evacuated register"] ++ loadCode.restore
                  else []), true), rb.2)
          else
            let rb := loadCode.loadBlockC (loadCode.regOf (2 * (existing.length + rl))) (toLoad.drop rl)
              (existing.length + toLoad.length) (existing.length + rl) (posMap pos) (modeMap mode) k1
            ((r0.1 ++ rb.1, r0.2), rb.2))
        (c2 := 2 * (existing.length + toLoad.length) ≤ 281) (fun r0 => ?_) fun k => rfl).mono fun h => Or.inr h.2
      obtain ⟨c0, rf1⟩ := r0
      refine (Emits.bindc hf ?_).mono (c := 2 * (existing.length + rl) < 281 ∧
        2 * (existing.length + toLoad.length) ≤ 281) fun h => h.2
      have hl := fun mbr => (gen_loadLink pos (existing ++ toLoad) mbr).emits
      have hv := fun mbr => (gen_loadValues (toLoad.drop rl) (existing ++ toLoad.take rl) mbr
        (FIELDS_PER_BLOCK - pos.toNat) mode).emits
      simp only [hla, hlt] at hl hv
      have hcap : ∀ {P : Prop}, (P ∧ (toLoad.drop rl = [] ∨
          2 * (existing.length + rl + (toLoad.drop rl).length) ≤ 281)) →
          2 * (existing.length + toLoad.length) ≤ 281 := fun h => by
        rcases h.2 with h1 | h1
        · have := congrArg List.length h1; simp only [List.length_drop, List.length_nil] at this; omega
        · simp only [List.length_drop] at h1; omega
      by_cases hsp : 2 * (existing.length + rl) + 4 < 30
      · rw [posTemp_reg hsp]
        simp only [hsp, decide_true, Bool.not_true, Bool.false_eq_true, if_false]
        refine (Emits.bindc (hl _) (Emits.bind (hv _) (fun c => (Gen.pure _).emits) fun _ => ?_)).mono
          fun h => hcap h.2.1
        cases mode <;> cases pos <;> simp [Scc.Mem.LoadCode.loadBlockC, modeMap, posMap, List.append_assoc] <;>
          (repeat' apply And.intro) <;> rfl
      · rw [posTemp_spill hsp]
        simp only [hsp, decide_false, Bool.not_false, if_true]
        refine (Emits.bindc (hl _) (Emits.bind (hv _) (fun c => (Gen.pure _).emits) fun _ => ?_)).mono
          fun h => hcap h.2.1
        cases rf1 <;> cases mode <;> cases pos <;>
          simp [Scc.Mem.LoadCode.loadBlockC, modeMap, posMap, List.append_assoc] <;>
          (repeat' apply And.intro) <;> rfl

theorem emits_loadRegister (mb : Register) (toLoad existing : Ctx) :
    Emits (loadRegister mb toLoad existing) (toLoad = [] ∨ 2 * (existing.length + toLoad.length) ≤ 281)
      (fun k =>
        let rT := loadCode.loadFieldsC (toLoad.length + 1) toLoad existing.length .last .release false k
        let rE := loadCode.loadFieldsC (toLoad.length + 1) toLoad existing.length .last .share false rT.2
        (loadTopC mb rT.1.1 rE.1.1 rE.2, rE.2 + 2)) := by
  unfold loadRegister
  refine Emits.mono (c := (toLoad = [] ∨ 2 * (existing.length + toLoad.length) ≤ 281) ∧ True) ?_ fun h => h.1
  refine Emits.bind (emits_loadFields (toLoad.length + 1) toLoad existing .last .release false)
    (h := fun rT k1 =>
      let rE := loadCode.loadFieldsC (toLoad.length + 1) toLoad existing.length .last .share false k1
      (loadTopC mb rT.1 rE.1.1 rE.2, rE.2 + 2))
    (fun rT => ?_) fun _ => rfl
  obtain ⟨cT, bT⟩ := rT
  refine Emits.mono (c := (toLoad = [] ∨ 2 * (existing.length + toLoad.length) ≤ 281) ∧ True) ?_ fun _ => trivial
  refine Emits.bind (emits_loadFields (toLoad.length + 1) toLoad existing .last .share false)
    (h := fun rE k2 => (loadTopC mb cT rE.1 k2, k2 + 2)) (fun rE => ?_) fun _ => rfl
  obtain ⟨cE, bE⟩ := rE
  refine Emits.mono (c := True ∧ True) ?_ fun _ => trivial
  exact Emits.bind (Gen.of_run (ifZeroThenElse_run TEMP2 _ _)).emits (fun c => (Gen.pure _).emits) fun _ => rfl

theorem emits_load (toLoad existing : Ctx) :
    Emits (load toLoad existing) (toLoad = [] ∨ 2 * (existing.length + toLoad.length) ≤ 281)
      (loadCode.loadC toLoad existing.length) := by
  unfold load Scc.Mem.LoadCode.loadC
  by_cases hne : toLoad = []
  · subst hne
    simp only [List.isEmpty_nil, if_true]
    exact (Gen.pure _).emits.mono fun _ => by simp
  · have hie : toLoad.isEmpty = false := List.isEmpty_eq_false_iff.mpr hne
    simp only [hie, Bool.false_eq_true, if_false, if_neg hne]
    have hf := (gen_freshTemporary .fst existing).emits
    simp only [TempNum.toNat, Nat.add_zero] at hf
    refine (Emits.bindc hf ?_).mono fun h => h.2
    generalize posTemp (2 * existing.length) = t
    cases t <;>
      exact (Emits.bind (emits_loadRegister _ toLoad existing) (fun c => (Gen.pure _).emits) fun _ => rfl).mono
        fun h => h.1

end Scc.A64.Mem
