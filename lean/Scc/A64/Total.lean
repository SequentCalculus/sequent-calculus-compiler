/-
  Scc.A64.Total — the AArch64 backend satisfies `TotalBackend` (Scc/Backend/TotalDefs.lean), the
  hypothesis of the code-generator totality theorem (property C12, link `codegen_total`).

  Proved here (for BOTH values of `old`, i.e. for the code as it is and for the code before the repairs):
  * `a64_totalG old : TotalBackend (a64BackendG old) capA64 (fun _ => True)`, `a64_total`:
    from every value of the label counter, every monadic method of the backend returns a result or
    fails with "Out of temporaries" — no other error string of the model (the `free_fields - 1`
    underflows of store_values / load_values, the fuel errors of `storeFields` / `loadFields`,
    "Variable … not found in context" for a variable that occurs in the context) is reachable;
    `PartialEq` on temporaries is equality; `variable_temporary` is injective in (number, variable)
    and independent of the label counter.
  * `intoRoutine_resOk`, `intoRoutine_ok`, `compileProg_resOk`: into_routine.rs fails only with
    "too many arguments for main", and not at all for at most 7 arguments.
  * `fitsA64 n` ("every position below 2 * n has a temporary"), `fitsA64_iff : fitsA64 n ↔ 2 * n ≤ 281`, `fitsA64_of_le`
    (281 = (REGISTER_NUM - RESERVED) + (SPILL_NUM - RESERVED_SPILLS) = 26 + 255), tight: `not_fitsA64_141`;
  * `a64_total_fitsG old : TotalBackend (a64BackendG old) (fun _ => False) fitsA64`, `a64_total_fits`:
    when the number of variables fits there is NO error at all.

  All memory lemmas are proved once, parametrised by the permitted errors `cap` and a bound `N` such that
  `Fit cap N` ("`temporary_from_position q` is total-or-`cap` for every q < N"); the two theorems are
  the instances (capA64, any N) and (no error, N = 2 * n under `fitsA64 n`).
-/
import Scc.Backend.TotalDefs
import Scc.A64.Backend

set_option linter.unusedVariables false

namespace Scc.A64.Total

open Scc.AxCut Scc.Backend Scc.Backend.Total

/-- the only error of the AArch64 backend methods: utils.rs `temporary_from_position` -/
def capA64 (e : String) : Prop := e = "Out of temporaries"

/-! ## utils.rs: temporary_from_position -/

theorem tfp_eq (q : Nat) : temporaryFromPosition q =
    if q + 4 < 30 then pure (.register (.x (q + 4)))
    else if q + 4 - 30 + 1 < 256 then pure (.spill (q + 4 - 30 + 1))
    else throw "Out of temporaries" := rfl

theorem tfp_run (q c : Nat) : (temporaryFromPosition q).run c =
    if q + 4 < 30 then .ok (.register (.x (q + 4)), c)
    else if q + 4 - 30 + 1 < 256 then .ok (.spill (q + 4 - 30 + 1), c)
    else .error "Out of temporaries" := by
  rw [tfp_eq]
  split
  · rfl
  · split <;> rfl

theorem tfp_cap (q : Nat) : Tot capA64 (temporaryFromPosition q) := by
  intro c
  rw [tfp_run]
  by_cases h1 : q + 4 < 30
  · rw [if_pos h1]; trivial
  · rw [if_neg h1]
    by_cases h2 : q + 4 - 30 + 1 < 256
    · rw [if_pos h2]; trivial
    · rw [if_neg h2]; exact rfl

/-- `temporary_from_position` succeeds below 281 = 26 registers + 255 spill slots … -/
theorem tfp_ok {q : Nat} (h : q < 281) : ∃ t, ∀ c, (temporaryFromPosition q).run c = .ok (t, c) := by
  by_cases h1 : q + 4 < 30
  · exact ⟨.register (.x (q + 4)), fun c => by rw [tfp_run, if_pos h1]⟩
  · have h2 : q + 4 - 30 + 1 < 256 := by omega
    exact ⟨.spill (q + 4 - 30 + 1), fun c => by rw [tfp_run, if_neg h1, if_pos h2]⟩

/-- … and fails from 281 on -/
theorem tfp_fail {q : Nat} (h : 281 ≤ q) (c : Nat) :
    (temporaryFromPosition q).run c = .error "Out of temporaries" := by
  have h1 : ¬ q + 4 < 30 := by omega
  have h2 : ¬ q + 4 - 30 + 1 < 256 := by omega
  rw [tfp_run, if_neg h1, if_neg h2]

/-- where it succeeds, `temporary_from_position` is injective (and ignores the counter) -/
theorem tfp_inj {q q' c c' k k' : Nat} {t : Temporary}
    (h : (temporaryFromPosition q).run c = .ok (t, k))
    (h' : (temporaryFromPosition q').run c' = .ok (t, k')) : q = q' := by
  rw [tfp_run] at h h'
  split at h
  · split at h'
    · cases h; injection h' with h'; injection h' with h'; injection h' with h'; injection h' with h'
      omega
    · split at h'
      · cases h; injection h' with h'; injection h' with h'; cases h'
      · cases h'
  · split at h
    · split at h'
      · cases h; injection h' with h'; injection h' with h'; cases h'
      · split at h'
        · cases h; injection h' with h'; injection h' with h'; injection h' with h'
          omega
        · cases h'
    · cases h

theorem tfp_det {q c c' k k' : Nat} {t t' : Temporary}
    (h : (temporaryFromPosition q).run c = .ok (t, k))
    (h' : (temporaryFromPosition q).run c' = .ok (t', k')) : t = t' := by
  rw [tfp_run] at h h'
  by_cases h1 : q + 4 < 30
  · rw [if_pos h1] at h h'; cases h; cases h'; rfl
  · rw [if_neg h1] at h h'
    by_cases h2 : q + 4 - 30 + 1 < 256
    · rw [if_pos h2] at h h'; cases h; cases h'; rfl
    · rw [if_neg h2] at h; cases h

/-! ## utils.rs: get_position -/

theorem go_bounds (id : Nat) : ∀ (Γ : Ctx) (i p : Nat), getPosition.go id Γ i = some p →
    i ≤ p ∧ p < i + Γ.length
  | [], i, p, h => by simp [getPosition.go] at h
  | b :: bs, i, p, h => by
    unfold getPosition.go at h
    split at h
    · cases h; simp
    · have := go_bounds id bs (i + 1) p h
      simp only [List.length_cons]
      omega

/-- two variables found at the same (first) position are equal -/
theorem go_inj (id id' : Nat) : ∀ (Γ : Ctx) (i p : Nat), getPosition.go id Γ i = some p →
    getPosition.go id' Γ i = some p → id = id'
  | [], i, p, h, _ => by simp [getPosition.go] at h
  | b :: bs, i, p, h, h' => by
    unfold getPosition.go at h h'
    split at h
    · rename_i hb
      split at h'
      · rename_i hb'
        have e1 : b.var.id = id := by simpa using hb
        have e2 : b.var.id = id' := by simpa using hb'
        rw [← e1, ← e2]
      · cases h
        have := go_bounds id' bs (i + 1) i h'
        omega
    · split at h'
      · cases h'
        have := go_bounds id bs (i + 1) i h
        omega
      · exact go_inj id id' bs (i + 1) p h h'

theorem go_total (id : Nat) : ∀ (Γ : Ctx) (i : Nat), (∃ b ∈ Γ, b.var.id = id) →
    ∃ p, getPosition.go id Γ i = some p
  | [], i, h => by obtain ⟨b, hb, _⟩ := h; cases hb
  | b :: bs, i, h => by
    unfold getPosition.go
    split
    · exact ⟨i, rfl⟩
    · rename_i hb
      obtain ⟨b', hb', he⟩ := h
      rcases List.mem_cons.mp hb' with rfl | hm
      · exact absurd (by simpa using he) hb
      · exact go_total id bs (i + 1) ⟨b', hm, he⟩

theorem getPosition_lt {Γ : Ctx} {id p : Nat} (h : getPosition Γ id = some p) : p < Γ.length := by
  have := go_bounds id Γ 0 p h
  omega

/-! ## utils.rs: variable_temporary -/

theorem vt_run_ok {n : TempNum} {Γ : Ctx} {id c k : Nat} {t : Temporary}
    (h : (variableTemporary n Γ id).run c = .ok (t, k)) :
    ∃ p, getPosition Γ id = some p ∧ (temporaryFromPosition (2 * p + n.toNat)).run c = .ok (t, k) := by
  unfold variableTemporary at h
  cases hp : getPosition Γ id with
  | none => rw [hp] at h; cases h
  | some p => rw [hp] at h; exact ⟨p, rfl, h⟩

theorem vt_inj_aux {n n' : TempNum} {Γ : Ctx} {id id' c k c' k' : Nat} {t : Temporary}
    (h : (variableTemporary n Γ id).run c = .ok (t, k))
    (h' : (variableTemporary n' Γ id').run c' = .ok (t, k')) : n = n' ∧ id = id' := by
  obtain ⟨p, hp, ht⟩ := vt_run_ok h
  obtain ⟨p', hp', ht'⟩ := vt_run_ok h'
  have hq := tfp_inj ht ht'
  have hpp : p = p' ∧ n = n' := by
    cases n <;> cases n' <;> simp only [TempNum.toNat] at hq <;> first | (constructor; omega; rfl) | omega
  obtain ⟨rfl, rfl⟩ := hpp
  exact ⟨rfl, go_inj id id' Γ 0 p hp hp'⟩

theorem vt_det_aux {n : TempNum} {Γ : Ctx} {id c k c' k' : Nat} {t t' : Temporary}
    (h : (variableTemporary n Γ id).run c = .ok (t, k))
    (h' : (variableTemporary n Γ id).run c' = .ok (t', k')) : t = t' := by
  obtain ⟨p, hp, ht⟩ := vt_run_ok h
  obtain ⟨p', hp', ht'⟩ := vt_run_ok h'
  rw [hp] at hp'; cases hp'
  exact tfp_det ht ht'

/-! ## memory.rs, parametrised by the permitted errors and the range of positions that have a temporary -/

def Fit (cap : String → Prop) (N : Nat) : Prop := ∀ q, q < N → Tot cap (temporaryFromPosition q)

theorem Fit.all (N : Nat) : Fit capA64 N := fun q _ => tfp_cap q

section
variable {cap : String → Prop}

theorem vt_tot {N : Nat} (hN : Fit cap N) (n : TempNum) (Γ : Ctx) (id : Nat)
    (hmem : ∃ b ∈ Γ, b.var.id = id) (hlen : 2 * Γ.length ≤ N) : Tot cap (variableTemporary n Γ id) := by
  obtain ⟨p, hp⟩ := go_total id Γ 0 hmem
  have hp : getPosition Γ id = some p := hp
  have hlt := getPosition_lt hp
  unfold variableTemporary
  rw [hp]
  refine hN _ ?_
  cases n <;> simp only [TempNum.toNat] <;> omega

theorem freshTemporary_tot {N : Nat} (hN : Fit cap N) (n : TempNum) (Γ : Ctx)
    (h : 2 * Γ.length + n.toNat < N) : Tot cap (freshTemporary n Γ) := hN _ h

theorem skipIfZero_tot (r : Register) (cs : List Code) : Tot cap (skipIfZero r cs) := by
  unfold skipIfZero
  exact Tot.bind Tot.freshLabel fun _ => Tot.pure _

theorem ifZeroThenElse_tot (r : Register) (a b : List Code) : Tot cap (ifZeroThenElse r a b) := by
  unfold ifZeroThenElse
  exact Tot.bind Tot.freshLabel fun _ => Tot.bind Tot.freshLabel fun _ => Tot.pure _

theorem eraseValidObject_tot (r : Register) : Tot cap (eraseValidObject r) := by
  unfold eraseValidObject
  exact ifZeroThenElse_tot _ _ _

theorem eraseBlock_tot (t : Temporary) : Tot cap (A64.eraseBlock t) := by
  unfold A64.eraseBlock
  cases t with
  | register r =>
    exact Tot.bind (eraseValidObject_tot _) fun _ => skipIfZero_tot _ _
  | spill p =>
    exact Tot.bind (eraseValidObject_tot _) fun _ => Tot.bind (skipIfZero_tot _ _) fun _ => Tot.pure _

theorem shareBlockN_tot (t : Temporary) (n : Nat) : Tot cap (A64.shareBlockN t n) := by
  unfold A64.shareBlockN
  cases t with
  | register r => exact skipIfZero_tot _ _
  | spill p => exact Tot.bind (skipIfZero_tot _ _) fun _ => Tot.pure _

theorem eraseFields_tot (r : Register) : ∀ (k o : Nat), Tot cap (eraseFields r k o)
  | 0, _ => Tot.pure _
  | k + 1, o => by
    unfold eraseFields
    exact Tot.bind (eraseBlock_tot _) fun _ => Tot.bind (eraseFields_tot r k (o + 1)) fun _ => Tot.pure _

theorem acquireBlock_tot (t : Temporary) : Tot cap (acquireBlock t) := by
  unfold acquireBlock
  exact Tot.bind (eraseFields_tot _ _ _) fun _ => Tot.bind (ifZeroThenElse_tot _ _ _) fun _ =>
    Tot.bind (ifZeroThenElse_tot _ _ _) fun _ => Tot.pure _

theorem storeField_tot {N : Nat} (hN : Fit cap N) (n : TempNum) (Γ : Ctx) (mb : Register) (o : Nat)
    (h : 2 * Γ.length + n.toNat < N) : Tot cap (storeField n Γ mb o) := by
  unfold storeField
  refine Tot.bind (freshTemporary_tot hN n Γ h) fun t => ?_
  cases t <;> exact Tot.pure _

theorem loadField_tot {N : Nat} (hN : Fit cap N) (n : TempNum) (Γ : Ctx) (mb : Register) (o : Nat)
    (h : 2 * Γ.length + n.toNat < N) : Tot cap (loadField n Γ mb o) := by
  unfold loadField
  refine Tot.bind (freshTemporary_tot hN n Γ h) fun t => ?_
  cases t <;> exact Tot.pure _

theorem storeValue_tot {N : Nat} (hN : Fit cap N) (b : Binding) (Γ : Ctx) (mb : Register) (o : Nat)
    (h : 2 * Γ.length + 1 < N) : Tot cap (storeValue b Γ mb o) := by
  unfold storeValue
  refine Tot.bind (storeField_tot hN .snd Γ mb o h) fun c1 => ?_
  refine TotP.ite (fun _ => Tot.pure _) fun _ => ?_
  refine Tot.bind (storeField_tot hN .fst Γ mb o (by simp only [TempNum.toNat]; omega)) fun c2 => ?_
  exact Tot.pure _

theorem loadValue_tot {N : Nat} (hN : Fit cap N) (b : Binding) (Γ : Ctx) (mb : Register) (o : Nat)
    (m : LoadMode) (h : 2 * Γ.length + 1 < N) : Tot cap (loadValue b Γ mb o m) := by
  unfold loadValue
  have h0 : 2 * Γ.length + TempNum.fst.toNat < N := by simp only [TempNum.toNat]; omega
  refine Tot.bind (loadField_tot hN .snd Γ mb o h) fun c1 => ?_
  refine TotP.ite (fun _ => ?_) fun _ => Tot.pure _
  refine Tot.bind (loadField_tot hN .fst Γ mb o h0) fun c2 => ?_
  refine Tot.bind (freshTemporary_tot hN .fst Γ h0) fun t => ?_
  cases t <;> dsimp only <;> refine Tot.bind (Tot.pure _) fun r => ?_ <;>
    refine TotP.ite (fun _ => ?_) (fun _ => Tot.pure _) <;>
    exact Tot.bind (shareBlockN_tot _ _) fun _ => Tot.pure _

/-- store_values: `free_fields - 1` does not underflow when `free_fields` is at least the number of
values, and all positions requested are below `2 * (|remaining| + |to_store|)` -/
theorem storeValuesLoop_tot {N : Nat} (hN : Fit cap N) (rem : Ctx) (mb : Register) :
    ∀ (rev : List Binding) (ff : Nat), rev.length ≤ ff → 2 * (rem.length + rev.length) ≤ N →
      Tot cap (storeValuesLoop rem mb rev ff)
  | [], ff, _, _ => Tot.pure _
  | b :: rev, ff, hff, hlen => by
    unfold storeValuesLoop
    simp only [List.length_cons] at hff hlen
    have hne : ¬ ff = 0 := by omega
    dsimp only
    rw [if_neg hne]
    refine Tot.bind (storeValue_tot hN _ _ _ _ (by simp only [List.length_append, List.length_reverse]; omega))
      fun c => ?_
    refine Tot.bind (storeValuesLoop_tot hN rem mb rev (ff - 1) (by omega) (by omega)) fun p => ?_
    exact Tot.pure _

theorem storeValues_tot {N : Nat} (hN : Fit cap N) (toStore rem : Ctx) (mb : Register) (ff : Nat)
    (hff : toStore.length ≤ ff) (hlen : 2 * (rem.length + toStore.length) ≤ N) :
    Tot cap (storeValues toStore rem mb ff) := by
  unfold storeValues
  refine Tot.bind (storeValuesLoop_tot hN rem mb _ ff (by simpa using hff) (by simpa using hlen)) fun p => ?_
  exact Tot.pure _

theorem loadValuesLoop_tot {N : Nat} (hN : Fit cap N) (ex : Ctx) (mb : Register) (m : LoadMode) :
    ∀ (rev : List Binding) (ff : Nat), rev.length ≤ ff → 2 * (ex.length + rev.length) ≤ N →
      Tot cap (loadValuesLoop ex mb m rev ff)
  | [], ff, _, _ => Tot.pure _
  | b :: rev, ff, hff, hlen => by
    unfold loadValuesLoop
    simp only [List.length_cons] at hff hlen
    have hne : ¬ ff = 0 := by omega
    dsimp only
    rw [if_neg hne]
    refine Tot.bind (loadValue_tot hN _ _ _ _ _ (by simp only [List.length_append, List.length_reverse]; omega))
      fun c => ?_
    refine Tot.bind (loadValuesLoop_tot hN ex mb m rev (ff - 1) (by omega) (by omega)) fun p => ?_
    exact Tot.pure _

theorem loadValues_tot {N : Nat} (hN : Fit cap N) (toLoad ex : Ctx) (mb : Register) (ff : Nat) (m : LoadMode)
    (hff : toLoad.length ≤ ff) (hlen : 2 * (ex.length + toLoad.length) ≤ N) :
    Tot cap (loadValues toLoad ex mb ff m) := by
  unfold loadValues
  refine Tot.bind (loadValuesLoop_tot hN ex mb m _ ff (by simpa using hff) (by simpa using hlen)) fun p => ?_
  exact Tot.pure _

theorem storeLink_tot {N : Nat} (hN : Fit cap N) (pos : BlockPosition) (Γ : Ctx) (h : 2 * Γ.length < N) :
    Tot cap (storeLink pos Γ) := by
  unfold storeLink
  refine TotP.ite (fun _ => ?_) fun _ => Tot.pure _
  exact Tot.bind (storeField_tot hN .fst Γ _ _ (by simp only [TempNum.toNat]; omega)) fun _ => Tot.pure _

theorem loadLink_tot {N : Nat} (hN : Fit cap N) (pos : BlockPosition) (Γ : Ctx) (mb : Register)
    (h : pos = .other → 2 * Γ.length < N) : Tot cap (loadLink pos Γ mb) := by
  unfold loadLink
  refine TotP.ite (fun hp => ?_) fun _ => Tot.pure _
  have hp' : pos = .other := by simpa using hp
  exact Tot.bind (loadField_tot hN .fst Γ _ _ (by simp only [TempNum.toNat]; have := h hp'; omega)) fun _ => Tot.pure _

theorem cap_eq (pos : BlockPosition) : FIELDS_PER_BLOCK - pos.toNat = 3 - pos.toNat := rfl

theorem pos_le_one (pos : BlockPosition) : pos.toNat ≤ 1 := by cases pos <;> simp [BlockPosition.toNat]

theorem storeFields_tot {N : Nat} (hN : Fit cap N) : ∀ (fuel : Nat) (toStore rem : Ctx) (pos : BlockPosition),
    toStore.length < fuel → 2 * (rem.length + toStore.length) < N → Tot cap (storeFields fuel toStore rem pos)
  | 0, _, _, _, hf, _ => by omega
  | fuel + 1, toStore, rem, pos, hf, hlen => by
    unfold storeFields
    refine TotP.ite (fun he => ?_) fun he => ?_
    · refine TotP.ite (fun _ => ?_) fun _ => Tot.pure _
      refine Tot.bind (freshTemporary_tot hN .fst rem (by simp only [TempNum.toNat]; omega)) fun _ => Tot.pure _
    · dsimp only
      have hne : 0 < toStore.length := by
        cases toStore with
        | nil => simp at he
        | cons _ _ => simp
      have hp := pos_le_one pos
      generalize hrl : (if toStore.length ≤ FIELDS_PER_BLOCK - pos.toNat then 0
        else toStore.length - (FIELDS_PER_BLOCK - pos.toNat)) = rl
      have hrl1 : rl < toStore.length ∧ toStore.length - rl ≤ FIELDS_PER_BLOCK - pos.toNat := by
        rw [cap_eq] at hrl ⊢
        subst hrl
        split <;> omega
      have htake : (toStore.take rl).length = rl := by rw [List.length_take]; omega
      refine Tot.bind (storeLink_tot hN pos _ (by simp only [List.length_append]; omega)) fun c1 => ?_
      refine Tot.bind (storeValues_tot hN _ _ _ _ (by rw [List.length_drop]; exact hrl1.2)
        (by simp only [List.length_append, List.length_drop, htake]; omega)) fun c3 => ?_
      refine Tot.bind (freshTemporary_tot hN .fst _
        (by simp only [List.length_append, htake, TempNum.toNat]; omega)) fun t => ?_
      refine Tot.bind (acquireBlock_tot t) fun c4 => ?_
      refine Tot.bind (storeFields_tot hN fuel _ rem .other (by rw [htake]; omega) (by rw [htake]; omega))
        fun c5 => ?_
      exact Tot.pure _

/-- load_fields: the link of a block that is not the last one is loaded into position `2 * (|existing| + |to_load|)`,
hence one more variable for `BlockPosition::Other` (`pos.toNat = 1`) -/
theorem loadFields_tot {N : Nat} (hN : Fit cap N) : ∀ (fuel : Nat) (toLoad ex : Ctx) (pos : BlockPosition)
    (m : LoadMode) (rf : Bool),
    toLoad.length < fuel → 2 * (ex.length + toLoad.length) + pos.toNat ≤ N →
      Tot cap (loadFields fuel toLoad ex pos m rf)
  | 0, _, _, _, _, _, hf, _ => by omega
  | fuel + 1, toLoad, ex, pos, m, rf, hf, hlen => by
    unfold loadFields
    refine TotP.ite (fun he => Tot.pure _) fun he => ?_
    dsimp only
    have hne : 0 < toLoad.length := by
      cases toLoad with
      | nil => simp at he
      | cons _ _ => simp
    have hp := pos_le_one pos
    generalize hrl : (if toLoad.length ≤ FIELDS_PER_BLOCK - pos.toNat then 0
      else toLoad.length - (FIELDS_PER_BLOCK - pos.toNat)) = rl
    have hrl1 : rl < toLoad.length ∧ toLoad.length - rl ≤ FIELDS_PER_BLOCK - pos.toNat := by
      rw [cap_eq] at hrl ⊢
      subst hrl
      split <;> omega
    have htake : (toLoad.take rl).length = rl := by rw [List.length_take]; omega
    have hlink : pos = .other → 2 * (ex ++ toLoad).length < N := by
      intro h; subst h
      simp only [List.length_append, BlockPosition.toNat] at hlen ⊢
      omega
    have hvals : ∀ mb, Tot cap (loadValues (List.drop rl toLoad) (ex ++ List.take rl toLoad) mb
        (FIELDS_PER_BLOCK - pos.toNat) m) := fun mb =>
      loadValues_tot hN _ _ _ _ _ (by rw [List.length_drop]; exact hrl1.2)
        (by simp only [List.length_append, List.length_drop, htake]; omega)
    refine Tot.bind (loadFields_tot hN fuel _ ex .other m rf (by rw [htake]; omega)
      (by rw [htake]; simp only [BlockPosition.toNat]; omega)) fun x => ?_
    refine Tot.bind (freshTemporary_tot hN .fst _
      (by simp only [List.length_append, htake, TempNum.toNat]; omega)) fun t => ?_
    cases t with
    | register r =>
      dsimp only
      exact Tot.bind (loadLink_tot hN pos _ _ hlink) fun c2 => Tot.bind (hvals _) fun c3 => Tot.pure _
    | spill q =>
      dsimp only
      exact Tot.bind (loadLink_tot hN pos _ _ hlink) fun c2 => Tot.bind (hvals _) fun c3 => Tot.pure _

theorem store_tot {N : Nat} (hN : Fit cap N) (a b : Ctx) (h : 2 * (a.length + b.length + 1) ≤ N) :
    Tot cap (A64.store a b) := by
  unfold A64.store
  exact storeFields_tot hN _ a b .last (by omega) (by omega)

theorem loadRegister_tot {N : Nat} (hN : Fit cap N) (mb : Register) (a b : Ctx)
    (h : 2 * (a.length + b.length) ≤ N) : Tot cap (loadRegister mb a b) := by
  unfold loadRegister
  have hf : ∀ m, Tot cap (loadFields (a.length + 1) a b .last m false) := fun m =>
    loadFields_tot hN _ a b .last m false (by omega) (by simp only [BlockPosition.toNat]; omega)
  refine Tot.bind (hf _) fun x => ?_
  refine Tot.bind (hf _) fun y => ?_
  exact Tot.bind (ifZeroThenElse_tot _ _ _) fun _ => Tot.pure _

theorem load_tot {N : Nat} (hN : Fit cap N) (a b : Ctx) (h : 2 * (a.length + b.length) ≤ N) :
    Tot cap (A64.load a b) := by
  unfold A64.load
  refine TotP.ite (fun _ => Tot.pure _) fun he => ?_
  have hne : 0 < a.length := by
    cases a with
    | nil => simp at he
    | cons _ _ => simp
  refine Tot.bind (freshTemporary_tot hN .fst b (by simp only [TempNum.toNat]; omega)) fun t => ?_
  cases t with
  | register r => exact Tot.bind (loadRegister_tot hN _ a b h) fun _ => Tot.pure _
  | spill q => exact Tot.bind (loadRegister_tot hN _ a b h) fun _ => Tot.pure _

/-- all fields of `TotalBackend` from `Fit` -/
theorem total_of_fit (old : Bool) (fits : Nat → Prop) (hmono : ∀ {m n : Nat}, m ≤ n → fits n → fits m)
    (hfit : ∀ n, fits n → Fit cap (2 * n)) : TotalBackend (a64BackendG old) cap fits where
  fits_mono := hmono
  tempEq_iff := fun a b => by
    show (a == b) = true ↔ a = b
    exact beq_iff_eq
  vt_total := fun n Γ id hmem hf => vt_tot (hfit _ hf) n Γ id hmem (Nat.le_refl _)
  vt_inj := fun ⟨_, _, h⟩ ⟨_, _, h'⟩ => vt_inj_aux h h'
  vt_det := fun ⟨_, _, h⟩ ⟨_, _, h'⟩ => vt_det_aux h h'
  printI64 := fun nl t Γ _ => Tot.pure _
  eraseBlock := fun t => eraseBlock_tot t
  shareBlockN := fun t n => shareBlockN_tot t n
  store := fun a b hf => store_tot (hfit _ hf) a b (Nat.le_refl _)
  load := fun a b hf => load_tot (hfit _ hf) a b (Nat.le_refl _)

end

/-! ## PART 1: total, or "Out of temporaries" -/

/-- Every monadic method of the AArch64 backend returns a result or fails with "Out of temporaries". -/
theorem a64_totalG (old : Bool) : TotalBackend (a64BackendG old) capA64 (fun _ => True) :=
  total_of_fit old (fun _ => True) (fun _ _ => trivial) (fun n _ => Fit.all _)

theorem a64_total : TotalBackend a64Backend capA64 (fun _ => True) := a64_totalG false

/-! ## into_routine.rs -/

theorem moveArguments_spec : ∀ k : Nat,
    ResOk (fun e => e = "too many arguments for main") (moveArguments k) ∧
      (k ≤ 7 → ∃ r, moveArguments k = .ok r)
  | 0 => ⟨trivial, fun _ => ⟨_, rfl⟩⟩
  | 1 => ⟨trivial, fun _ => ⟨_, rfl⟩⟩
  | k + 2 => by
    have ih := moveArguments_spec (k + 1)
    unfold moveArguments
    by_cases h : k + 2 ≤ 7
    · rw [if_pos h]
      obtain ⟨r, hr⟩ := ih.2 (by omega)
      rw [hr]
      exact ⟨trivial, fun _ => ⟨_, rfl⟩⟩
    · rw [if_neg h]
      exact ⟨rfl, fun h' => absurd h' h⟩

/-- into_routine.rs fails only with "too many arguments for main" … -/
theorem intoRoutine_resOk (body : List Code) (nargs : Nat) :
    ResOk (fun e => e = "too many arguments for main") (intoRoutine body nargs) := by
  have h := (moveArguments_spec nargs).1
  unfold intoRoutine setup
  cases hm : moveArguments nargs with
  | error e => rw [hm] at h; exact h
  | ok r => trivial

/-- … and not for at most 7 arguments -/
theorem intoRoutine_ok (body : List Code) {nargs : Nat} (h : nargs ≤ 7) :
    ∃ r, intoRoutine body nargs = .ok r := by
  obtain ⟨r, hr⟩ := (moveArguments_spec nargs).2 h
  unfold intoRoutine setup
  rw [hr]
  exact ⟨_, rfl⟩

theorem compileProg_resOk (B : Scc.Backend.Backend Code Temporary) (p : AxCut.Prog) (hooks : Bool) (c : Nat) :
    ResOk capA64 ((Scc.Backend.compile B hooks p).run c) →
      ResOk (fun e => capA64 e ∨ e = "too many arguments for main") (compileProg B p hooks c) := by
  intro h
  unfold compileProg
  cases hr : (Scc.Backend.compile B hooks p).run c with
  | error e => rw [hr] at h; exact Or.inl h
  | ok x =>
    obtain ⟨⟨body, nargs⟩, k⟩ := x
    dsimp only
    have h2 := intoRoutine_resOk body nargs
    cases hi : intoRoutine body nargs with
    | error e => rw [hi] at h2; exact Or.inr h2
    | ok r => trivial

example : ∃ r, intoRoutine [.RET] 3 = .ok r := intoRoutine_ok _ (by decide)

/-! ## PART 2: no error at all when the number of variables fits -/

/-- a context of `n` variables fits: every position below `2 * n` has a temporary -/
def fitsA64 (n : Nat) : Prop := ∀ q, q < 2 * n → ∃ t c, (temporaryFromPosition q).run c = .ok (t, c)

/-- `temporary_from_position q` succeeds exactly below
281 = (REGISTER_NUM - RESERVED) + (SPILL_NUM - RESERVED_SPILLS) = 26 registers + 255 spill slots -/
theorem tfp_ok_iff (q : Nat) : (∃ t c, (temporaryFromPosition q).run c = .ok (t, c)) ↔ q < 281 := by
  constructor
  · rintro ⟨t, c, h⟩
    by_cases hq : q < 281
    · exact hq
    · rw [tfp_fail (by omega)] at h; cases h
  · intro h
    obtain ⟨t, ht⟩ := tfp_ok h
    exact ⟨t, 0, ht 0⟩

example : 281 = (REGISTER_NUM - RESERVED) + (SPILL_NUM - RESERVED_SPILLS) := rfl

/-- the exact capacity: 281 positions, i.e. at most 140 variables -/
theorem fitsA64_iff (n : Nat) : fitsA64 n ↔ 2 * n ≤ 281 := by
  constructor
  · intro h
    by_cases hn : 2 * n ≤ 281
    · exact hn
    · have := (tfp_ok_iff 281).mp (h 281 (by omega))
      omega
  · intro h q hq
    exact (tfp_ok_iff q).mpr (by omega)

theorem fitsA64_of_le {n : Nat} (h : 2 * n ≤ 281) : fitsA64 n := (fitsA64_iff n).mpr h

/-- the bound is tight: 140 variables fit, 141 do not (position 281 has no temporary) -/
theorem fitsA64_140 : fitsA64 140 := fitsA64_of_le (by decide)

theorem not_fitsA64_141 : ¬ fitsA64 141 := fun h => by
  have := (fitsA64_iff 141).mp h
  omega

theorem not_fitsA64_of_gt {n : Nat} (h : 281 < 2 * n) : ¬ fitsA64 n := fun hf => by
  have := (fitsA64_iff n).mp hf
  omega

example : fitsA64 5 := fitsA64_of_le (by decide)

theorem fitsA64_mono {m n : Nat} (h : m ≤ n) (hf : fitsA64 n) : fitsA64 m :=
  fun q hq => hf q (by omega)

theorem Fit.of_fits {n : Nat} (h : fitsA64 n) : Fit (fun _ => False) (2 * n) := by
  intro q hq c
  obtain ⟨t, ht⟩ := tfp_ok ((tfp_ok_iff q).mp (h q hq))
  rw [ht c]
  trivial

/-- Under the static capacity check (`fitsA64` of the number of variables involved: `|Γ|` for
`variable_temporary`, `|a| + |b| + 1` for `store a b`, `|a| + |b|` for `load a b`) NO method of the
AArch64 backend fails. -/
theorem a64_total_fitsG (old : Bool) : TotalBackend (a64BackendG old) (fun _ => False) fitsA64 :=
  total_of_fit old fitsA64 fitsA64_mono (fun n h => Fit.of_fits h)

theorem a64_total_fits : TotalBackend a64Backend (fun _ => False) fitsA64 := a64_total_fitsG false

/-- the capacity error is real: a context of 141 variables has no fresh temporary (position 282) -/
example (c : Nat) : ∃ e, (freshTemporary .fst (List.replicate 141 default)).run c = .error e :=
  ⟨_, tfp_fail (by simp [TempNum.toNat]) c⟩

#print axioms a64_totalG
#print axioms a64_total
#print axioms intoRoutine_resOk
#print axioms intoRoutine_ok
#print axioms compileProg_resOk
#print axioms fitsA64_iff
#print axioms not_fitsA64_141
#print axioms a64_total_fitsG
#print axioms a64_total_fits

end Scc.A64.Total
