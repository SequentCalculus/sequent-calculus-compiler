/-
  Scc.A64.RefHeapAddr — code OFFSETS and indirect-jump ENTRIES of the machine's loader (`layout`,
  Machine.lean) on the lines of a routine (`CC.Lines`): needed for the COMPUTED jump of `switch`
  (`ADR TEMP, table; ADD TEMP, TEMP, tag; BR TEMP` lands on the `tag/4`-th `B` of the table: every
  instruction has size 4).
  * `HoldsA hk P cs`: `CC.Holds` together with the offset of every instruction item (4 × the number of
    instructions before it) and the entry of every instruction that directly follows a label or another
    instruction (its own item index).
  * `holdsA_layout`: `layout ls` holds the routine in this sense (`fold_addr`: the fold of `layout`).
  * `tableAt_of_holdsA`: the layout fact `TableAt` (JumpLemmas.lean; `C14_table_layout_statement` of
    Props/C14A64.lean for the tables of compiled routines) for a label followed by `n` instructions.
-/
import Scc.A64.RefHeapBridge
import Scc.A64.JumpLemmas
import Scc.A64.CCProofsLayout
import Scc.A64.RefTableLayout

set_option linter.unusedSimpArgs false

namespace Scc.A64.Ref

open Scc.A64.CC

/-- number of instructions of a code list -/
def ninstr (l : List Code) : Nat := (l.filter (fun c => !c.isMeta)).length

theorem ninstr_nil : ninstr [] = 0 := rfl

theorem ninstr_cons (c : Code) (l : List Code) : ninstr (c :: l) = (if c.isMeta then 0 else 1) + ninstr l := by
  unfold ninstr
  rw [List.filter_cons]
  cases c.isMeta <;> simp
  omega

theorem ninstr_take_succ {l : List Code} {k : Nat} {c : Code} (h : l[k]? = some c) :
    ninstr (l.take (k + 1)) = ninstr (l.take k) + (if c.isMeta then 0 else 1) := by
  obtain ⟨hlt, rfl⟩ := List.getElem?_eq_some_iff.1 h
  unfold ninstr
  rw [List.take_succ_eq_append_getElem hlt, List.filter_append, List.length_append]
  cases hm : l[k].isMeta <;> simp [hm]

theorem ninstr_take_le (l : List Code) (k : Nat) : ninstr (l.take k) ≤ ninstr l := by
  unfold ninstr
  have : List.Sublist (l.take k) l := List.take_sublist k l
  exact (this.filter _).length_le

theorem cleanup_mem_labs : "cleanup" ∈ labs cleanup := by simp [labs, labOf, cleanup]

section Fold
variable {hkv : String → Option (List (String × Kind))}

/-- the line of a code: an instruction line for an instruction; for a code without instruction a label line, a
directive, a plain comment, or a hook (a comment that `hkv` reads as one) -/
theorem lineOf_cases {c : Code} {pl : PLine} (hl : lineOf hkv c = some pl) :
    (c.isMeta = false ∧ ∃ i, pl = .instr i) ∨
    (c.isMeta = true ∧ ((∃ l, c = .LAB l ∧ pl = .label l) ∨ (pl = .directive ∧ hkOf hkv c = false) ∨
      (pl = .comment ∧ hkOf hkv c = false) ∨ (∃ vs, pl = .hook vs ∧ hkOf hkv c = true))) := by
  cases c <;> simp only [lineOf, Option.some.injEq, Option.map_eq_some_iff] at hl
  case LAB l => subst hl; exact Or.inr ⟨rfl, Or.inl ⟨l, rfl, rfl⟩⟩
  case TEXT => subst hl; exact Or.inr ⟨rfl, Or.inr (Or.inl ⟨rfl, rfl⟩)⟩
  case GLOBAL l => subst hl; exact Or.inr ⟨rfl, Or.inr (Or.inl ⟨rfl, rfl⟩)⟩
  case COMMENT m =>
    subst hl
    cases hm : hkv m with
    | none => exact Or.inr ⟨rfl, Or.inr (Or.inr (Or.inl ⟨by simp [hm], by simp [hkOf, hm]⟩))⟩
    | some vs => exact Or.inr ⟨rfl, Or.inr (Or.inr (Or.inr ⟨vs, by simp [hm], by simp [hkOf, hm]⟩))⟩
  all_goals
    obtain ⟨i, _, rfl⟩ := hl
    exact Or.inl ⟨rfl, i, rfl⟩

/-- one offset per item (used by nothing; `fold_addr` carries the equation itself) -/
structure AccOK (acc : LayoutAcc) : Prop where
  size : acc.offs.size = acc.items.size

/-- THE FOLD OF `layout` over the lines of a code list: offsets and entries -/
theorem fold_addr {ls : List (Nat × PLine)} {R : List Code} (h : Lines hkv ls R) :
    ∀ acc : LayoutAcc, acc.offs.size = acc.items.size →
      let acc' := ls.foldl layStep acc
      acc'.offs.size = acc'.items.size ∧
      acc'.off = acc.off + 4 * ninstr R ∧
      (∀ o, o < acc.off → acc'.entries[o]? = acc.entries[o]?) ∧
      (∀ j, j < acc.items.size → acc'.offs[j]? = acc.offs[j]?) ∧
      -- offsets of the items of `R`
      (∀ k code, R[k]? = some code → isItem (hkOf hkv) code = true →
        acc'.offs[acc.items.size + icnt (hkOf hkv) (R.take k)]? = some (acc.off + 4 * ninstr (R.take k))) ∧
      -- the first code, if it is an instruction entered at its own index
      (∀ code R0, R = code :: R0 → code.isMeta = false → acc.entry.getD acc.items.size = acc.items.size →
        acc'.entries[acc.off]? = some acc.items.size) ∧
      -- an instruction that directly follows a label or an instruction
      (∀ k c1 c2, R[k]? = some c1 → R[k + 1]? = some c2 → c2.isMeta = false →
        ((∃ l, c1 = .LAB l) ∨ c1.isMeta = false) →
        acc'.entries[acc.off + 4 * ninstr (R.take (k + 1))]? =
          some (acc.items.size + icnt (hkOf hkv) (R.take (k + 1)))) := by
  induction h with
  | nil =>
    intro acc hsz
    refine ⟨hsz, by simp [ninstr], fun _ _ => rfl, fun _ _ => rfl, ?_, ?_, ?_⟩
    · intro k code hk; simp at hk
    · intro code R0 e; cases e
    · intro k c1 c2 hk; simp at hk
  | blank ln _ ih =>
    intro acc hsz
    rw [List.foldl_cons]
    exact ih acc hsz
  | @code ln c pl ls R hl hlines ih =>
    intro acc hsz
    rw [List.foldl_cons]
    have hall := lines_hasLine hlines
    rcases lineOf_cases hl with ⟨hm, i, rfl⟩ | ⟨hm, hcase⟩
    · -- an instruction
      have hitem : isItem (hkOf hkv) c = true := by simp [isItem, hm]
      have hsz1 : (layStep acc (ln, .instr i)).offs.size = (layStep acc (ln, .instr i)).items.size := by
        simp [layStep, hsz]
      have hoff1 : (layStep acc (ln, .instr i)).off = acc.off + 4 := rfl
      have hisz1 : (layStep acc (ln, .instr i)).items.size = acc.items.size + 1 := by simp [layStep]
      have hent1 : (layStep acc (ln, .instr i)).entry = none := rfl
      obtain ⟨i1, i2, i3, i4, i5, i6, i7⟩ := ih (layStep acc (ln, .instr i)) hsz1
      have hni : ∀ l : List Code, ninstr (c :: l) = 1 + ninstr l := by
        intro l; rw [ninstr_cons, hm]; rfl
      have hic : ∀ l : List Code, icnt (hkOf hkv) (c :: l) = 1 + icnt (hkOf hkv) l := by
        intro l; unfold icnt; rw [List.filter_cons, hitem]; simp; omega
      have hkey : (layStep acc (ln, .instr i)).entries[acc.off]? = some (acc.entry.getD acc.items.size) := by
        simp [layStep]
      have hoffs0 : (layStep acc (ln, .instr i)).offs[acc.items.size]? = some acc.off := by
        simp [layStep, ← hsz]
      refine ⟨i1, by rw [i2, hoff1, hni]; omega, ?_, ?_, ?_, ?_, ?_⟩
      · intro o ho
        rw [i3 o (by rw [hoff1]; omega)]
        simp only [layStep]
        rw [Std.HashMap.getElem?_insert]
        have : (acc.off == o) = false := by simp; omega
        simp [this]
      · intro j hj
        rw [i4 j (by rw [hisz1]; omega)]
        simp only [layStep]
        rw [Array.getElem?_push]
        have : ¬ j = acc.offs.size := by omega
        simp [this]
      · intro k code hk hi
        cases k with
        | zero =>
          simp only [List.take_zero, icnt, List.filter_nil, List.length_nil, Nat.add_zero, ninstr, Nat.mul_zero]
          rw [i4 _ (by rw [hisz1]; omega)]
          exact hoffs0
        | succ k =>
          have := i5 k code (by simpa using hk) hi
          rw [List.take_succ_cons, hni, hic]
          rw [hisz1, hoff1] at this
          rw [show acc.items.size + (1 + icnt (hkOf hkv) (List.take k R)) =
              acc.items.size + 1 + icnt (hkOf hkv) (List.take k R) by omega,
            show acc.off + 4 * (1 + ninstr (List.take k R)) = acc.off + 4 + 4 * ninstr (List.take k R) by omega]
          exact this
      · intro code R0 e hcm hentry
        rw [i3 _ (by rw [hoff1]; omega), hkey, hentry]
      · intro k c1 c2 hk1 hk2 hc2 hpre
        rw [List.take_succ_cons, hni, hic]
        cases k with
        | zero =>
          -- `c2` is the first code of the rest, `c1 = c` an instruction: entry = own index
          simp only [List.getElem?_cons_zero, Option.some.injEq] at hk1
          subst hk1
          obtain ⟨R0, hR⟩ : ∃ R0, R = c2 :: R0 := by
            cases R with
            | nil => simp at hk2
            | cons x R0 => simp at hk2; exact ⟨R0, by rw [hk2]⟩
          have := i6 c2 R0 hR hc2 (by rw [hent1]; rfl)
          simp only [List.take_zero, ninstr, List.filter_nil, List.length_nil, icnt, Nat.mul_zero, Nat.add_zero]
          rw [hoff1, hisz1] at this
          rw [show acc.off + 4 * 1 = acc.off + 4 by omega]
          exact this
        | succ k =>
          have := i7 k c1 c2 (by simpa using hk1) (by simpa using hk2) hc2 hpre
          rw [hoff1, hisz1] at this
          rw [show acc.items.size + (1 + icnt (hkOf hkv) (List.take (k + 1) R)) =
              acc.items.size + 1 + icnt (hkOf hkv) (List.take (k + 1) R) by omega,
            show acc.off + 4 * (1 + ninstr (List.take (k + 1) R)) =
              acc.off + 4 + 4 * ninstr (List.take (k + 1) R) by omega]
          exact this
    · -- a label, a directive, a plain comment or a hook: no instruction
      have hni : ∀ l : List Code, ninstr (c :: l) = ninstr l := by
        intro l; rw [ninstr_cons, hm]; simp
      have key : ∃ d : Nat, (layStep acc (ln, pl)).offs.size = (layStep acc (ln, pl)).items.size ∧
          (layStep acc (ln, pl)).off = acc.off ∧ (layStep acc (ln, pl)).entries = acc.entries ∧
          (layStep acc (ln, pl)).items.size = acc.items.size + d ∧
          (∀ l : List Code, icnt (hkOf hkv) (c :: l) = d + icnt (hkOf hkv) l) ∧
          (∀ j, j < acc.items.size → (layStep acc (ln, pl)).offs[j]? = acc.offs[j]?) ∧
          (d = 1 → (layStep acc (ln, pl)).offs[acc.items.size]? = some acc.off) ∧
          (isItem (hkOf hkv) c = true → d = 1) ∧
          ((∃ l, c = .LAB l) → (layStep acc (ln, pl)).entry = some acc.items.size ∧ d = 0) := by
        rcases hcase with ⟨l, rfl, rfl⟩ | ⟨rfl, hnh⟩ | ⟨rfl, hnh⟩ | ⟨vs, rfl, hh⟩
        · refine ⟨0, hsz, rfl, rfl, rfl, ?_, fun _ _ => rfl, by omega, ?_, fun _ => ⟨rfl, rfl⟩⟩
          · intro l'; unfold icnt; rw [List.filter_cons]; simp [isItem, Code.isMeta, hkOf]
          · intro hi; simp [isItem, Code.isMeta, hkOf] at hi
        · have hnl : ¬ ∃ l, c = .LAB l := by
            rintro ⟨l, rfl⟩; simp [lineOf] at hl
          refine ⟨0, hsz, rfl, rfl, rfl, ?_, fun _ _ => rfl, by omega, ?_, fun h => absurd h hnl⟩
          · intro l'; unfold icnt; rw [List.filter_cons]; simp [isItem, hm, hnh]
          · intro hi; simp [isItem, hm, hnh] at hi
        · have hnl : ¬ ∃ l, c = .LAB l := by
            rintro ⟨l, rfl⟩; simp [lineOf] at hl
          refine ⟨0, hsz, rfl, rfl, rfl, ?_, fun _ _ => rfl, by omega, ?_, fun h => absurd h hnl⟩
          · intro l'; unfold icnt; rw [List.filter_cons]; simp [isItem, hm, hnh]
          · intro hi; simp [isItem, hm, hnh] at hi
        · have hnl : ¬ ∃ l, c = .LAB l := by
            rintro ⟨l, rfl⟩; simp [hkOf] at hh
          refine ⟨1, by simp [layStep, hsz], rfl, rfl, by simp [layStep], ?_, ?_, ?_, fun _ => rfl,
            fun h => absurd h hnl⟩
          · intro l'; unfold icnt; rw [List.filter_cons]; simp [isItem, hh]; omega
          · intro j hj
            simp only [layStep]
            rw [Array.getElem?_push]
            have : ¬ j = acc.offs.size := by omega
            simp [this]
          · intro _
            simp [layStep, ← hsz]
      obtain ⟨d, hsz1, hoff1, hent1, hisz1, hic, hoffs1, hoffsd, hitemd, hlab1⟩ := key
      obtain ⟨i1, i2, i3, i4, i5, i6, i7⟩ := ih (layStep acc (ln, pl)) hsz1
      refine ⟨i1, by rw [i2, hoff1, hni], ?_, ?_, ?_, ?_, ?_⟩
      · intro o ho
        rw [i3 o (by rw [hoff1]; exact ho), hent1]
      · intro j hj
        rw [i4 j (by rw [hisz1]; omega)]
        exact hoffs1 j hj
      · intro k code hk hi
        cases k with
        | zero =>
          simp only [List.getElem?_cons_zero, Option.some.injEq] at hk
          subst hk
          have hd := hitemd hi
          simp only [List.take_zero, icnt, List.filter_nil, List.length_nil, Nat.add_zero, ninstr, Nat.mul_zero]
          rw [i4 _ (by rw [hisz1]; omega)]
          exact hoffsd hd
        | succ k =>
          have := i5 k code (by simpa using hk) hi
          rw [List.take_succ_cons, hni, hic]
          rw [hisz1, hoff1] at this
          rw [show acc.items.size + (d + icnt (hkOf hkv) (List.take k R)) =
              acc.items.size + d + icnt (hkOf hkv) (List.take k R) by omega]
          exact this
      · intro code R0 e hcm
        injection e with e1 _
        rw [← e1, hm] at hcm
        cases hcm
      · intro k c1 c2 hk1 hk2 hc2 hpre
        rw [List.take_succ_cons, hni, hic]
        cases k with
        | zero =>
          simp only [List.getElem?_cons_zero, Option.some.injEq] at hk1
          subst hk1
          -- `c1 = c` is not an instruction, so it is a label
          have hlabc : ∃ l, c = .LAB l := by
            rcases hpre with h | h
            · exact h
            · rw [hm] at h; cases h
          obtain ⟨hentry, hd0⟩ := hlab1 hlabc
          obtain ⟨R0, hR⟩ : ∃ R0, R = c2 :: R0 := by
            cases R with
            | nil => simp at hk2
            | cons x R0 => simp at hk2; exact ⟨R0, by rw [hk2]⟩
          have := i6 c2 R0 hR hc2 (by rw [hentry, hisz1, hd0]; rfl)
          simp only [List.take_zero, ninstr, List.filter_nil, List.length_nil, icnt, Nat.mul_zero, Nat.add_zero]
          rw [hoff1, hisz1, hd0] at this
          rw [hd0]
          exact this
        | succ k =>
          have := i7 k c1 c2 (by simpa using hk1) (by simpa using hk2) hc2 hpre
          rw [hoff1, hisz1] at this
          rw [show acc.items.size + (d + icnt (hkOf hkv) (List.take (k + 1) R)) =
              acc.items.size + d + icnt (hkOf hkv) (List.take (k + 1) R) by omega]
          exact this

end Fold

/-- `P` holds the routine `cs` (CCProofsRun.lean) with its code offsets and indirect-jump entries -/
structure HoldsA (hk : Code → Bool) (P : Prog) (cs : List Code) : Prop where
  holds : Holds hk P cs
  /-- the offset of an instruction: 4 × the number of instructions before it -/
  offs : ∀ k code, cs[k]? = some code → code.isMeta = false →
    P.offs[pcOf hk cs k]? = some (4 * ninstr (cs.take k))
  /-- an instruction that directly follows a label or an instruction is entered at its own index -/
  entries : ∀ k c1 c2, cs[k]? = some c1 → cs[k + 1]? = some c2 → c2.isMeta = false →
    ((∃ l, c1 = .LAB l) ∨ c1.isMeta = false) →
    P.entries[4 * ninstr (cs.take (k + 1))]? = some (pcOf hk cs (k + 1))

theorem holdsA_layout {hkv : String → Option (List (String × Kind))} {ls : List (Nat × PLine)}
    {cs : List Code} (h : Lines hkv ls cs) : HoldsA (hkOf hkv) (layout ls) cs := by
  obtain ⟨_, _, _, _, i5, _, i7⟩ := fold_addr h {} rfl
  refine ⟨holds_layout h, ?_, ?_⟩
  · intro k code hk hm
    have := i5 k code hk (by simp [isItem, hm])
    rw [layout_offs']
    simpa [pcOf] using this
  · intro k c1 c2 h1 h2 hc2 hpre
    have := i7 k c1 c2 h1 h2 hc2 hpre
    rw [layout_entries']
    simpa [pcOf] using this

/-- item indices along a table: a label followed by `n` instructions -/
theorem table_pc {hk : Code → Bool} {P : Prog} {cs : List Code} (Hp : Holds hk P cs) {kt n : Nat} {lbl : String}
    (hlab : cs[kt]? = some (.LAB lbl))
    (htab : ∀ j, j < n → ∃ code, cs[kt + 1 + j]? = some code ∧ code.isMeta = false) :
    ∀ j, j ≤ n → pcOf hk cs (kt + 1 + j) = pcOf hk cs kt + j := by
  have hlabitem : isItem hk (Code.LAB lbl) = false := by
    cases hh : hk (Code.LAB lbl) with
    | false => simp [isItem, Code.isMeta, hh]
    | true => obtain ⟨m, e⟩ := Hp.hkComment _ hh; cases e
  have hpc1 : pcOf hk cs (kt + 1) = pcOf hk cs kt := pcOf_noitem hlab hlabitem
  intro j
  induction j with
  | zero => intro _; rw [Nat.add_zero, hpc1]; rfl
  | succ j ih =>
    intro hj
    obtain ⟨code, hc, hm⟩ := htab j (by omega)
    rw [← Nat.add_assoc, pcOf_item hc (by simp [isItem, hm]), ih (by omega)]; omega

/-- a label followed by `n` instructions is a jump table of the laid-out program -/
theorem tableAt_of_holdsA {hk : Code → Bool} {P : Prog} {cs : List Code} (HA : HoldsA hk P cs)
    (hnd : (labs cs).Nodup) (c : MemCfg) {kt n : Nat} {lbl : String} (hn : 0 < n)
    (hlab : cs[kt]? = some (.LAB lbl))
    (htab : ∀ j, j < n → ∃ code, cs[kt + 1 + j]? = some code ∧ code.isMeta = false)
    (hfit : c.codeBase + 4 * ninstr cs < 2 ^ 64) :
    TableAt P c lbl (pcOf hk cs kt) n := by
  have Hp := HA.holds
  have hkc : ∀ code, hk code = true → code.isMeta = true := by
    intro code h; obtain ⟨m, rfl⟩ := Hp.hkComment code h; rfl
  have hlabitem : isItem hk (Code.LAB lbl) = false := by
    cases hh : hk (Code.LAB lbl) with
    | false => simp [isItem, Code.isMeta, hh]
    | true => obtain ⟨m, e⟩ := Hp.hkComment _ hh; cases e
  have hpc1 : pcOf hk cs (kt + 1) = pcOf hk cs kt := pcOf_noitem hlab hlabitem
  have hni1 : ninstr (cs.take (kt + 1)) = ninstr (cs.take kt) := by
    rw [ninstr_take_succ hlab]; simp [Code.isMeta]
  have hidx : ∀ j, j ≤ n → pcOf hk cs (kt + 1 + j) = pcOf hk cs kt + j ∧
      ninstr (cs.take (kt + 1 + j)) = ninstr (cs.take kt) + j := by
    intro j
    induction j with
    | zero => intro _; exact ⟨by rw [Nat.add_zero, hpc1]; rfl, by rw [Nat.add_zero, hni1]; rfl⟩
    | succ j ih =>
      intro hj
      obtain ⟨code, hc, hm⟩ := htab j (by omega)
      obtain ⟨ih1, ih2⟩ := ih (by omega)
      constructor
      · rw [← Nat.add_assoc, pcOf_item hc (by simp [isItem, hm]), ih1]; omega
      · rw [← Nat.add_assoc, ninstr_take_succ hc, ih2, hm]; simp; omega
  obtain ⟨code0, hc0, hm0⟩ := htab 0 hn
  have hoffs0 := HA.offs (kt + 1) code0 (by simpa using hc0) hm0
  rw [hpc1, hni1] at hoffs0
  have hgetD : P.offs.getD (pcOf hk cs kt) 0 = 4 * ninstr (cs.take kt) := by
    rw [Array.getD_eq_getD_getElem?, hoffs0]; rfl
  refine ⟨label_of_nodup Hp hnd hlab, ?_, ?_, ?_⟩
  · obtain ⟨i, _, hit⟩ := Hp.instr (kt + 1) code0 (by simpa using hc0) hm0
    rw [show icnt hk (cs.take (kt + 1)) = pcOf hk cs (kt + 1) from rfl, hpc1] at hit
    exact (Array.getElem?_eq_some_iff.1 hit).1
  · intro k hk'
    rw [hgetD]
    obtain ⟨code, hc, hm⟩ := htab k hk'
    obtain ⟨e1, e2⟩ := hidx k (by omega)
    cases k with
    | zero =>
      have := HA.entries kt _ code hlab (by simpa using hc) hm (Or.inl ⟨lbl, rfl⟩)
      rw [hni1, hpc1] at this
      simpa using this
    | succ k =>
      obtain ⟨code', hc', hm'⟩ := htab k (by omega)
      have := HA.entries (kt + 1 + k) code' code hc' (by rw [show kt + 1 + k + 1 = kt + 1 + (k + 1) by omega]; exact hc)
        hm (Or.inr hm')
      rw [show kt + 1 + k + 1 = kt + 1 + (k + 1) by omega, e1, e2] at this
      rw [← this]
      congr 1; omega
  · rw [hgetD]
    have hle := ninstr_take_le cs (kt + 1 + n)
    rw [(hidx n (Nat.le_refl _)).2] at hle
    omega

end Scc.A64.Ref
