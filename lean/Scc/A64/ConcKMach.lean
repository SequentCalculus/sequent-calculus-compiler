/-
  Scc.A64.ConcKMach — two generic facts about the AArch64 SPEC machine (Scc/A64/Machine.lean), for ANY program
  (the AArch64 analogue of Scc/X86/ConcMach.lean):
  * `maxHeap ≤ heapBytes` (`MhwOK`) is an invariant of the run loop (a store outside the heap region faults): the
    highest heap address ever written lies inside the heap region; `runLoop_mhw`;
  * MONOTONICITY IN THE HEAP SIZE: an iteration of the run loop that does not end the run in a configuration with
    a SMALLER heap region (same base, same stack, same code base; heap below the stack: `Sub c' c`) is the same
    iteration in the larger configuration; hence a run that ends with `done v` or is out of fuel in the smaller heap
    is, state by state, the run in the larger heap, with the same `maxHeapWritten` (`runLoop_larger_heap`).
-/
import Scc.A64.ConcKDefs

namespace Scc.A64.ConcK

open Scc.A64.CC Scc.A64.Ref

/-- `c'` is `c` with a smaller heap region -/
structure Sub (c' c : MemCfg) : Prop where
  code : c'.codeBase = c.codeBase
  base : c'.heapBase = c.heapBase
  bytes : c'.heapBytes ≤ c.heapBytes
  low : c'.stackLow = c.stackLow
  top : c'.stackTop = c.stackTop
  below : c.heapBase + c.heapBytes ≤ c.stackLow

def MhwOK (c : MemCfg) (σ : State) : Prop := σ.maxHeap ≤ c.heapBytes

section Mhw
variable {c : MemCfg} {σ σ' : State}

theorem wrZ_mhw {r : Reg} {w : Word} (h : σ.wrZ r w = .ok σ') : σ'.maxHeap = σ.maxHeap := by
  cases r with
  | x n => cases h; rfl
  | xzr => cases h; rfl
  | sp => cases h

theorem putZ_mhw {r : Reg} {w : Option Word} (h : σ.putZ r w = .ok σ') : σ'.maxHeap = σ.maxHeap := by
  cases r with
  | x n => cases h; rfl
  | xzr => cases h; rfl
  | sp => cases h

theorem wrS_mhw {r : Reg} {w : Word} (h : σ.wrS r w = .ok σ') : σ'.maxHeap = σ.maxHeap := by
  cases r with
  | x n => cases h; rfl
  | sp => cases h; rfl
  | xzr => cases h

theorem store_mhw {a : Nat} {w : Option Word} (h : σ.store c a w = .ok σ') (hs : MhwOK c σ) : MhwOK c σ' := by
  unfold State.store at h
  split at h
  · cases h
  · split at h
    · rename_i hin
      split at h
      · cases h
        unfold MhwOK at *
        unfold inHeap at hin
        simp only [Bool.and_eq_true, decide_eq_true_eq] at hin
        show max σ.maxHeap _ ≤ _
        omega
      · cases h
    · split at h
      · split at h
        · cases h; exact hs
        · cases h; exact hs
      · cases h

theorem MhwOK.of_eq (hs : MhwOK c σ) (e : σ'.maxHeap = σ.maxHeap) : MhwOK c σ' := by
  unfold MhwOK at *; omega

theorem exec_mhw {i : Instr} (h : i.exec c σ = .ok σ') (hs : MhwOK c σ) : MhwOK c σ' := by
  by_cases hd : isData i = true
  case neg => rw [exec_nonData (by simpa using hd)] at h; exact absurd h (by intro e; injection e)
  cases i <;> (try (cases hd; done)) <;> simp only [Instr.exec] at h
  case add d n m =>
    obtain ⟨a, _, h⟩ := bind_ok_inv h
    obtain ⟨b, _, h⟩ := bind_ok_inv h
    exact hs.of_eq (wrZ_mhw h)
  case sub d n m =>
    obtain ⟨a, _, h⟩ := bind_ok_inv h
    obtain ⟨b, _, h⟩ := bind_ok_inv h
    exact hs.of_eq (wrZ_mhw h)
  case mul d n m =>
    obtain ⟨a, _, h⟩ := bind_ok_inv h
    obtain ⟨b, _, h⟩ := bind_ok_inv h
    exact hs.of_eq (wrZ_mhw h)
  case sdiv d n m =>
    obtain ⟨a, _, h⟩ := bind_ok_inv h
    obtain ⟨b, _, h⟩ := bind_ok_inv h
    obtain ⟨q, _, h⟩ := bind_ok_inv h
    exact hs.of_eq (wrZ_mhw h)
  case msub d n m a =>
    obtain ⟨vn, _, h⟩ := bind_ok_inv h
    obtain ⟨vm, _, h⟩ := bind_ok_inv h
    obtain ⟨va, _, h⟩ := bind_ok_inv h
    exact hs.of_eq (wrZ_mhw h)
  case addi d n i =>
    split at h
    · obtain ⟨a, _, h⟩ := bind_ok_inv h
      exact hs.of_eq (wrS_mhw h)
    · cases h
  case subi d n i =>
    split at h
    · obtain ⟨a, _, h⟩ := bind_ok_inv h
      exact hs.of_eq (wrS_mhw h)
    · cases h
  case mov d s =>
    split at h
    · obtain ⟨a, _, h⟩ := bind_ok_inv h
      exact hs.of_eq (wrS_mhw h)
    · obtain ⟨a, _, h⟩ := bind_ok_inv h
      exact hs.of_eq (wrS_mhw h)
    · obtain ⟨a, _, h⟩ := bind_ok_inv h
      exact hs.of_eq (putZ_mhw h)
  case movz d i sh =>
    split at h
    · exact hs.of_eq (wrZ_mhw h)
    · cases h
  case movn d i sh =>
    split at h
    · exact hs.of_eq (wrZ_mhw h)
    · cases h
  case movk d i sh =>
    split at h
    · obtain ⟨a, _, h⟩ := bind_ok_inv h
      exact hs.of_eq (wrZ_mhw h)
    · cases h
  case ldr t n i =>
    split at h
    · obtain ⟨b, _, h⟩ := bind_ok_inv h
      obtain ⟨w, _, h⟩ := bind_ok_inv h
      exact hs.of_eq (putZ_mhw h)
    · cases h
  case str t n i =>
    split at h
    · obtain ⟨b, _, h⟩ := bind_ok_inv h
      obtain ⟨w, _, h⟩ := bind_ok_inv h
      exact store_mhw h hs
    · cases h
  case stpPre t1 t2 n i =>
    split at h
    · cases h
    · split at h
      · cases h
      · obtain ⟨b, _, h⟩ := bind_ok_inv h
        obtain ⟨w1, _, h⟩ := bind_ok_inv h
        obtain ⟨w2, _, h⟩ := bind_ok_inv h
        obtain ⟨σ1, h1, h⟩ := bind_ok_inv h
        obtain ⟨σ2, h2, h⟩ := bind_ok_inv h
        exact (store_mhw h2 (store_mhw h1 hs)).of_eq (wrS_mhw h)
  case ldpPost t1 t2 n i =>
    split at h
    · cases h
    · split at h
      · cases h
      · obtain ⟨b, _, h⟩ := bind_ok_inv h
        obtain ⟨w1, _, h⟩ := bind_ok_inv h
        obtain ⟨w2, _, h⟩ := bind_ok_inv h
        obtain ⟨σ1, h1, h⟩ := bind_ok_inv h
        obtain ⟨σ2, h2, h⟩ := bind_ok_inv h
        exact ((hs.of_eq (putZ_mhw h1)).of_eq (putZ_mhw h2)).of_eq (wrS_mhw h)
  case cmp n m =>
    obtain ⟨a, _, h⟩ := bind_ok_inv h
    obtain ⟨b, _, h⟩ := bind_ok_inv h
    cases h
    exact hs
  case cmpi n i =>
    split at h
    · obtain ⟨a, _, h⟩ := bind_ok_inv h
      cases h
      exact hs
    · cases h

theorem gotoLabel_cases (P : Prog) (σ : State) (l : String) :
    (∃ e, P.gotoLabel σ l = .stop (.fault e 0)) ∨ (∃ j, P.gotoLabel σ l = .next σ j) := by
  unfold Prog.gotoLabel
  cases P.labels[l]? with
  | none => exact Or.inl ⟨_, rfl⟩
  | some j => exact Or.inr ⟨j, rfl⟩

theorem gotoLabel_next {P : Prog} {l : String} {pc' : Nat} (h : P.gotoLabel σ l = .next σ' pc') : σ' = σ := by
  unfold Prog.gotoLabel at h
  split at h
  · cases h
  · cases h; rfl

theorem gotoLabel_not_print {P : Prog} {l : String} {nl : Bool} {w : Word} {pc' : Nat}
    (h : P.gotoLabel σ l = .print nl w σ' pc') : False := by
  unfold Prog.gotoLabel at h
  split at h <;> cases h

theorem clobberCall_maxHeap (σ : State) : σ.clobberCall.maxHeap = σ.maxHeap := by simp [State.clobberCall]

theorem callExternal_mhw {w : Word} (h : σ.callExternal = .ok (w, σ')) : σ'.maxHeap = σ.maxHeap := by
  unfold State.callExternal at h
  split at h
  · cases h
  · split at h
    · cases h
    · injection h with h
      injection h with _ h2
      rw [← h2]; exact clobberCall_maxHeap σ

theorem step_mhw {P : Prog} {i : Instr} {pc : Nat} (hs : MhwOK c σ) :
    (∀ pc', step P c i σ pc = .next σ' pc' → MhwOK c σ') ∧
    (∀ nl w pc', step P c i σ pc = .print nl w σ' pc' → MhwOK c σ') := by
  by_cases hd : isData i = true
  · rw [step_data (cfg := { mem := c }) hd]
    cases hx : i.exec c σ with
    | error e => exact ⟨fun _ h => (by cases h), fun _ _ _ h => (by cases h)⟩
    | ok σ1 =>
      refine ⟨fun _ h => ?_, fun _ _ _ h => (by cases h)⟩
      cases h
      exact exec_mhw hx hs
  · cases i <;> (try (exact absurd rfl hd))
    case b l =>
      refine ⟨fun _ h => ?_, fun _ _ _ h => (gotoLabel_not_print h).elim⟩
      rw [gotoLabel_next h]; exact hs
    case br r =>
      have key : ∀ o, step P c (.br r) σ pc = o → (∀ pc', o = .next σ' pc' → σ' = σ) ∧
          (∀ nl w pc', o ≠ .print nl w σ' pc') := by
        intro o ho
        cases r with
        | x n =>
          simp only [step] at ho
          cases hr : σ.rdX n with
          | error e => rw [hr] at ho; subst ho; exact ⟨fun _ h => (by cases h), fun _ _ _ h => (by cases h)⟩
          | ok a =>
            rw [hr] at ho
            simp only at ho
            split at ho
            · subst ho; exact ⟨fun _ h => (by cases h), fun _ _ _ h => (by cases h)⟩
            · split at ho
              · subst ho; exact ⟨fun _ h => (by cases h; rfl), fun _ _ _ h => (by cases h)⟩
              · subst ho; exact ⟨fun _ h => (by cases h), fun _ _ _ h => (by cases h)⟩
        | sp => subst ho; exact ⟨fun _ h => (by cases h), fun _ _ _ h => (by cases h)⟩
        | xzr => subst ho; exact ⟨fun _ h => (by cases h), fun _ _ _ h => (by cases h)⟩
      obtain ⟨k1, k2⟩ := key _ rfl
      exact ⟨fun pc' h => by rw [k1 pc' h]; exact hs, fun nl w pc' h => absurd h (k2 nl w pc')⟩
    case bl l =>
      by_cases hx : isExternal l = true
      · have e : step P c (.bl l) σ pc = match σ.callExternal with
            | .error e => .stop (.fault e 0)
            | .ok (w, σ') => .print (l == "println_i64") w σ' (pc + 1) := by
          simp only [step, hx, if_true]
          rfl
        rw [e]
        cases hc : σ.callExternal with
        | error e => exact ⟨fun _ h => (by cases h), fun _ _ _ h => (by cases h)⟩
        | ok r =>
          obtain ⟨w1, σ1⟩ := r
          refine ⟨fun _ h => (by cases h), fun _ _ _ h => ?_⟩
          cases h
          exact hs.of_eq (callExternal_mhw hc)
      · have e : step P c (.bl l) σ pc = match P.gotoLabel σ l with
            | .next σ' j => .next (σ'.wrX 30 (BitVec.ofNat 64 (c.codeBase + P.offs.getD pc 0 + 4))) j
            | o => o := by
          simp only [step, hx, Bool.false_eq_true, if_false]
          rfl
        rw [e]
        rcases gotoLabel_cases P σ l with ⟨e1, hg⟩ | ⟨j, hg⟩
        · rw [hg]; exact ⟨fun _ h => (by cases h), fun _ _ _ h => (by cases h)⟩
        · rw [hg]
          refine ⟨fun _ h => ?_, fun _ _ _ h => (by cases h)⟩
          cases h
          exact hs.of_eq rfl
    case adr d l =>
      have e : step P c (.adr d l) σ pc = match P.labelAddr c l with
          | .error e => .stop (.fault e 0)
          | .ok a => match σ.wrZ d a with
            | .error e => .stop (.fault e 0)
            | .ok σ' => .next σ' (pc + 1) := rfl
      rw [e]
      cases P.labelAddr c l with
      | error e1 => exact ⟨fun _ h => (by cases h), fun _ _ _ h => (by cases h)⟩
      | ok a =>
        simp only
        cases hw : σ.wrZ d a with
        | error e1 => exact ⟨fun _ h => (by cases h), fun _ _ _ h => (by cases h)⟩
        | ok σ1 =>
          refine ⟨fun _ h => ?_, fun _ _ _ h => (by cases h)⟩
          cases h
          exact hs.of_eq (wrZ_mhw hw)
    case bcond cd l =>
      have e : step P c (.bcond cd l) σ pc = match σ.flags with
          | none => .stop (.fault "read-undefined flags" 0)
          | some (a, b) => if cd.holds a b then P.gotoLabel σ l else .next σ (pc + 1) := rfl
      rw [e]
      cases σ.flags with
      | none => exact ⟨fun _ h => (by cases h), fun _ _ _ h => (by cases h)⟩
      | some ab =>
        obtain ⟨a, b⟩ := ab
        simp only
        split
        · refine ⟨fun _ h => ?_, fun _ _ _ h => (gotoLabel_not_print h).elim⟩
          rw [gotoLabel_next h]; exact hs
        · refine ⟨fun _ h => ?_, fun _ _ _ h => (by cases h)⟩
          cases h; exact hs
    case ret =>
      exact ⟨fun _ h => (by cases h), fun _ _ _ h => (by cases h)⟩

theorem mstep_mhw {P : Prog} {pc pc' : Nat} {out out' : List (Bool × Word)}
    (h : MStep P c σ pc out σ' pc' out') (hs : MhwOK c σ) : MhwOK c σ' := by
  cases h with
  | hook _ => exact hs
  | next _ hst => exact (step_mhw hs).1 _ hst
  | print _ hst => exact (step_mhw hs).2 _ _ _ hst

theorem mstepsN_mhw {P : Prog} {n : Nat} {pc pc' : Nat} {out out' : List (Bool × Word)}
    (h : K.MStepsN P c n σ pc out σ' pc' out') (hs : MhwOK c σ) : MhwOK c σ' := by
  induction h with
  | refl => exact hs
  | step h1 _ ih => exact ih (mstep_mhw h1 hs)

end Mhw

theorem mhwOK_entry (c : MemCfg) (args : List Word) : MhwOK c (entryState c args) := Nat.zero_le _

/-- ANY RUN (heap monitor off): the machine's record of the highest heap address written stays inside the heap -/
theorem runLoop_mhw {P : Prog} {cfg : MonCfg} (hh : cfg.heap = false) : ∀ (f : Nat) (m : Machine),
    MhwOK cfg.mem m.σ → (runLoop P cfg f m).maxHeapWritten ≤ cfg.mem.heapBytes
  | 0, m, hs => hs
  | f + 1, m, hs => by
    cases hit : P.items[m.pc]? with
    | none =>
      have hlt : ¬ m.pc < P.items.size := by
        intro hlt; simp [hlt] at hit
      rw [runLoop]
      simp only [hlt, dite_false]
      exact hs
    | some it =>
      rw [runLoop_item hit]
      cases it with
      | hook vs =>
        simp only [hh, Bool.false_eq_true, if_false]
        exact runLoop_mhw hh f _ hs
      | instr i =>
        simp only
        cases hst : step P cfg.mem i m.σ m.pc with
        | next σ1 pc1 => exact runLoop_mhw hh f _ ((step_mhw hs).1 _ hst)
        | print nl w σ1 pc1 => exact runLoop_mhw hh f _ ((step_mhw hs).2 _ _ _ hst)
        | stop r => exact hs

theorem runProg_mhw (P : Prog) (args : List Word) (f : Nat) (cfg : MonCfg) (hh : cfg.heap = false) :
    (runProg P args f cfg).maxHeapWritten ≤ cfg.mem.heapBytes := by
  unfold runProg
  split
  · exact Nat.zero_le _
  · split
    · exact Nat.zero_le _
    · exact runLoop_mhw hh f _ (mhwOK_entry cfg.mem args)

section Mono

variable {c' c : MemCfg} (S : Sub c' c) {σ σ' : State}
include S

theorem inHeap_mono {n : Nat} (h : inHeap c' n = true) : inHeap c n = true := by
  unfold inHeap at *
  simp only [Bool.and_eq_true, decide_eq_true_eq] at *
  have := S.base; have := S.bytes
  omega

theorem inStack_eq (n : Nat) : inStack c' n = inStack c n := by
  unfold inStack
  rw [S.low, S.top]

theorem not_inHeap_of_inStack {n : Nat} (h : inStack c n = true) : inHeap c n = false := by
  unfold inStack at h
  unfold inHeap
  simp only [Bool.and_eq_true, decide_eq_true_eq] at h
  rw [Bool.and_eq_false_iff]; right
  rw [decide_eq_false_iff_not]
  have := S.below
  omega

theorem load_mono {a : Nat} {v : Option Word} (h : σ.load c' a = .ok v) : σ.load c a = .ok v := by
  unfold State.load at *
  by_cases hal : a % 8 ≠ 0
  · rw [if_pos hal] at h; cases h
  · rw [if_neg hal] at h ⊢
    by_cases hh : inHeap c' a = true
    · rw [if_pos hh] at h
      rw [if_pos (inHeap_mono S hh)]
      exact h
    · rw [if_neg hh] at h
      by_cases hst : inStack c' a = true
      · rw [if_pos hst] at h
        rw [inStack_eq S] at hst
        have := not_inHeap_of_inStack S hst
        rw [this, hst]
        simpa using h
      · rw [if_neg hst] at h; cases h

theorem store_mono {a : Nat} {w : Option Word} (h : σ.store c' a w = .ok σ') : σ.store c a w = .ok σ' := by
  unfold State.store at *
  by_cases hal : a % 8 ≠ 0
  · rw [if_pos hal] at h; cases h
  · rw [if_neg hal] at h ⊢
    by_cases hh : inHeap c' a = true
    · rw [if_pos hh] at h
      rw [if_pos (inHeap_mono S hh), ← S.base]
      exact h
    · rw [if_neg hh] at h
      by_cases hst : inStack c' a = true
      · rw [if_pos hst] at h
        rw [inStack_eq S] at hst
        have := not_inHeap_of_inStack S hst
        rw [this, hst]
        simpa using h
      · rw [if_neg hst] at h; cases h

theorem exec_mono {i : Instr} (h : i.exec c' σ = .ok σ') : i.exec c σ = .ok σ' := by
  cases i <;> simp only [Instr.exec] at h ⊢
  case ldr t n i =>
    by_cases hk : okOff i = true
    · rw [if_pos hk] at h ⊢
      obtain ⟨b, hb, h⟩ := bind_ok_inv h
      obtain ⟨w, hw, h⟩ := bind_ok_inv h
      rw [hb, Except_bind_ok, load_mono S hw, Except_bind_ok]
      exact h
    · rw [if_neg hk] at h; cases h
  case str t n i =>
    by_cases hk : okOff i = true
    · rw [if_pos hk] at h ⊢
      obtain ⟨b, hb, h⟩ := bind_ok_inv h
      obtain ⟨w, hw, h⟩ := bind_ok_inv h
      rw [hb, Except_bind_ok, hw, Except_bind_ok]
      exact store_mono S h
    · rw [if_neg hk] at h; cases h
  case stpPre t1 t2 n i =>
    by_cases hk : (!okPairOff i) = true
    · rw [if_pos hk] at h; cases h
    · rw [if_neg hk] at h ⊢
      by_cases hk2 : (n == t1 || n == t2) = true
      · rw [if_pos hk2] at h; cases h
      · rw [if_neg hk2] at h ⊢
        obtain ⟨b, hb, h⟩ := bind_ok_inv h
        obtain ⟨w1, hw1, h⟩ := bind_ok_inv h
        obtain ⟨w2, hw2, h⟩ := bind_ok_inv h
        obtain ⟨σ1, h1, h⟩ := bind_ok_inv h
        obtain ⟨σ2, h2, h⟩ := bind_ok_inv h
        rw [hb, Except_bind_ok, hw1, Except_bind_ok, hw2, Except_bind_ok, store_mono S h1, Except_bind_ok,
          store_mono S h2, Except_bind_ok]
        exact h
  case ldpPost t1 t2 n i =>
    by_cases hk : (!okPairOff i) = true
    · rw [if_pos hk] at h; cases h
    · rw [if_neg hk] at h ⊢
      by_cases hk2 : (n == t1 || n == t2 || (t1 == t2 && t1 != .xzr)) = true
      · rw [if_pos hk2] at h; cases h
      · rw [if_neg hk2] at h ⊢
        obtain ⟨b, hb, h⟩ := bind_ok_inv h
        obtain ⟨w1, hw1, h⟩ := bind_ok_inv h
        obtain ⟨w2, hw2, h⟩ := bind_ok_inv h
        rw [hb, Except_bind_ok, load_mono S hw1, Except_bind_ok, load_mono S hw2, Except_bind_ok]
        exact h
  -- the other instructions do not read the memory configuration
  all_goals exact h

theorem exitCheck_eq : exitCheck c' σ = exitCheck c σ := by
  unfold exitCheck
  rw [S.top]

theorem labelAddr_eq (P : Prog) (l : String) : P.labelAddr c' l = P.labelAddr c l := by
  unfold Prog.labelAddr
  rw [S.code]

theorem step_mono {P : Prog} {i : Instr} {pc : Nat} (h : ∀ r, step P c' i σ pc ≠ .stop r) :
    step P c i σ pc = step P c' i σ pc := by
  by_cases hd : isData i = true
  · rw [step_data (cfg := { mem := c' }) hd] at h
    rw [step_data (cfg := { mem := c' }) hd, step_data (cfg := { mem := c }) hd]
    cases hx : i.exec c' σ with
    | error e => rw [hx] at h; exact absurd rfl (h _)
    | ok σ1 =>
      show (match i.exec c σ with | .error e => StepOut.stop (.fault e 0) | .ok σ' => .next σ' (pc + 1)) = _
      rw [exec_mono S hx]
  · cases i <;> (try (exact absurd rfl hd))
    case b l => rfl
    case bcond cd l => rfl
    case ret => exact absurd rfl (h _)
    case br r => simp only [step, S.code]
    case bl l => simp only [step, S.code]
    case adr d l => simp only [step, labelAddr_eq S]

theorem step_ret_eq {P : Prog} {pc : Nat} : step P c .ret σ pc = step P c' .ret σ pc := by
  simp only [step, exitCheck_eq S]

end Mono

/-- what ends a run at an instruction: a fault, or the exit check of `RET` -/
theorem step_stop_cases {P : Prog} {c : MemCfg} {i : Instr} {σ : State} {pc : Nat} {r : Res}
    (h : step P c i σ pc = .stop r) : (∃ e ln, r = .fault e ln) ∨ (i = .ret ∧ r = exitCheck c σ) := by
  by_cases hd : isData i = true
  · rw [step_data (cfg := { mem := c }) hd] at h
    cases hx : i.exec c σ with
    | error e => rw [hx] at h; cases h; exact Or.inl ⟨_, _, rfl⟩
    | ok σ1 => rw [hx] at h; cases h
  · cases i <;> (try (exact absurd rfl hd))
    case b l =>
      have e : step P c (.b l) σ pc = P.gotoLabel σ l := rfl
      rw [e] at h
      rcases gotoLabel_cases P σ l with ⟨e1, hg⟩ | ⟨j, hg⟩
      · rw [hg] at h; cases h; exact Or.inl ⟨_, _, rfl⟩
      · rw [hg] at h; cases h
    case br r0 =>
      cases r0 with
      | x n =>
        simp only [step] at h
        cases hr : σ.rdX n with
        | error e => rw [hr] at h; cases h; exact Or.inl ⟨_, _, rfl⟩
        | ok a =>
          rw [hr] at h
          simp only at h
          split at h
          · cases h; exact Or.inl ⟨_, _, rfl⟩
          · split at h
            · cases h
            · cases h; exact Or.inl ⟨_, _, rfl⟩
      | sp => cases h; exact Or.inl ⟨_, _, rfl⟩
      | xzr => cases h; exact Or.inl ⟨_, _, rfl⟩
    case bl l =>
      by_cases hx : isExternal l = true
      · have e : step P c (.bl l) σ pc = match σ.callExternal with
            | .error e => .stop (.fault e 0)
            | .ok (w, σ') => .print (l == "println_i64") w σ' (pc + 1) := by
          simp only [step, hx, if_true]
          rfl
        rw [e] at h
        cases hc : σ.callExternal with
        | error e1 => rw [hc] at h; cases h; exact Or.inl ⟨_, _, rfl⟩
        | ok r1 => obtain ⟨w1, σ1⟩ := r1; rw [hc] at h; cases h
      · have e : step P c (.bl l) σ pc = match P.gotoLabel σ l with
            | .next σ' j => .next (σ'.wrX 30 (BitVec.ofNat 64 (c.codeBase + P.offs.getD pc 0 + 4))) j
            | o => o := by
          simp only [step, hx, Bool.false_eq_true, if_false]
          rfl
        rw [e] at h
        rcases gotoLabel_cases P σ l with ⟨e1, hg⟩ | ⟨j, hg⟩
        · rw [hg] at h; cases h; exact Or.inl ⟨_, _, rfl⟩
        · rw [hg] at h; cases h
    case adr d l =>
      have e : step P c (.adr d l) σ pc = match P.labelAddr c l with
          | .error e => .stop (.fault e 0)
          | .ok a => match σ.wrZ d a with
            | .error e => .stop (.fault e 0)
            | .ok σ' => .next σ' (pc + 1) := rfl
      rw [e] at h
      cases hl : P.labelAddr c l with
      | error e1 => rw [hl] at h; cases h; exact Or.inl ⟨_, _, rfl⟩
      | ok a =>
        rw [hl] at h
        simp only at h
        cases hw : σ.wrZ d a with
        | error e1 => rw [hw] at h; cases h; exact Or.inl ⟨_, _, rfl⟩
        | ok σ1 => rw [hw] at h; cases h
    case bcond cd l =>
      have e : step P c (.bcond cd l) σ pc = match σ.flags with
          | none => .stop (.fault "read-undefined flags" 0)
          | some (a, b) => if cd.holds a b then P.gotoLabel σ l else .next σ (pc + 1) := rfl
      rw [e] at h
      cases hf : σ.flags with
      | none => rw [hf] at h; cases h; exact Or.inl ⟨_, _, rfl⟩
      | some ab =>
        obtain ⟨a, b⟩ := ab
        rw [hf] at h
        simp only at h
        split at h
        · rcases gotoLabel_cases P σ l with ⟨e1, hg⟩ | ⟨j, hg⟩
          · rw [hg] at h; cases h; exact Or.inl ⟨_, _, rfl⟩
          · rw [hg] at h; cases h
        · cases h
    case ret =>
      have e : step P c .ret σ pc = .stop (exitCheck c σ) := rfl
      rw [e] at h
      cases h
      exact Or.inr ⟨rfl, rfl⟩

/-- a run (heap monitor off) that ends with `done v` or is out of fuel in the smaller heap is the same run, with
the same trace, result and highest written heap address, in the larger heap -/
theorem runLoop_larger_heap {P : Prog} {m' m : MonCfg} (S : Sub m'.mem m.mem) (h' : m'.heap = false)
    (hm : m.heap = false) : ∀ (f : Nat) (M : Machine),
      ((runLoop P m' f M).res = .outOfFuel ∨ ∃ v, (runLoop P m' f M).res = .done v) →
      runLoop P m f M = runLoop P m' f M
  | 0, M, _ => rfl
  | f + 1, M, h => by
    cases hit : P.items[M.pc]? with
    | none =>
      have hlt : ¬ M.pc < P.items.size := by
        intro hlt; simp [hlt] at hit
      rw [runLoop] at h
      simp only [hlt, dite_false, finish_res] at h
      rcases h with h | ⟨v, h⟩ <;> cases h
    | some it =>
      rw [runLoop_item hit] at h ⊢
      rw [runLoop_item hit]
      cases it with
      | hook vs =>
        simp only [h', hm, Bool.false_eq_true, if_false] at h ⊢
        exact runLoop_larger_heap S h' hm f _ h
      | instr i =>
        simp only at h ⊢
        cases hst : step P m'.mem i M.σ M.pc with
        | next σ1 pc1 =>
          rw [hst] at h
          rw [step_mono S (by rw [hst]; intro r e; cases e), hst]
          exact runLoop_larger_heap S h' hm f _ h
        | print nl w σ1 pc1 =>
          rw [hst] at h
          rw [step_mono S (by rw [hst]; intro r e; cases e), hst]
          exact runLoop_larger_heap S h' hm f _ h
        | stop r =>
          rw [hst] at h
          simp only [finish_res] at h
          rcases step_stop_cases hst with ⟨e, ln, rfl⟩ | ⟨rfl, _⟩
          · rcases h with h | ⟨v, h⟩ <;> cases h
          · rw [step_ret_eq S, hst]

theorem runProg_larger_heap {P : Prog} {m' m : MonCfg} (S : Sub m'.mem m.mem) (h' : m'.heap = false)
    (hm : m.heap = false) (args : List Word) (f : Nat)
    (h : (runProg P args f m').res = .outOfFuel ∨ ∃ v, (runProg P args f m').res = .done v) :
    runProg P args f m = runProg P args f m' := by
  unfold runProg at *
  cases hl : P.labels["asm_main"]? with
  | none => rfl
  | some j =>
    rw [hl] at h
    simp only at h ⊢
    split
    · rfl
    · rename_i hn
      rw [if_neg hn] at h
      have e : entryState m'.mem args = entryState m.mem args := by
        unfold entryState
        rw [S.base, S.top]
      rw [e] at h
      rw [e]
      exact runLoop_larger_heap S h' hm f _ h

def withHeapBytes (cfg : MonCfg) (bytes : Nat) : MonCfg := { cfg with mem := { cfg.mem with heapBytes := bytes } }

theorem sub_withHeapBytes {cfg : MonCfg} (H : CfgCC cfg.mem) {bytes : Nat} (h : bytes ≤ cfg.mem.heapBytes) :
    Sub (withHeapBytes cfg bytes).mem cfg.mem :=
  ⟨rfl, rfl, h, rfl, rfl, H.ok.disjoint⟩

theorem cfgCC_withHeapBytes {cfg : MonCfg} (H : CfgCC cfg.mem) {bytes : Nat} (h : bytes ≤ cfg.mem.heapBytes) :
    CfgCC (withHeapBytes cfg bytes).mem :=
  ⟨⟨by have := H.ok.disjoint; show cfg.mem.heapBase + bytes ≤ cfg.mem.stackLow; omega, H.ok.top⟩, H.top16, H.room⟩

end Scc.A64.ConcK
