/-
  Scc.A64.OpLemmas — the arithmetic instructions emitted by code.rs `op` / `rem`
  compute the AxCut operators (`Scc.AxCut.Pos.evalOp`) for every placement of target and operands in
  registers or spill slots.  `rem` is `a − (a / b)·b` (SDIV + MSUB), proved over `Int`.
-/
import Scc.A64.Lemmas
import Scc.AxCut.SemPos

set_option linter.unusedSimpArgs false

namespace Scc.A64
open Scc.AxCut

theorem sdivW_of_evalOp_div {a b r : Word} (h : Pos.evalOp .div a b = .ok r) : sdivW a b = .ok r := by
  unfold Pos.evalOp at h
  unfold sdivW
  simp only at h
  split at h
  · cases h
  · split at h
    · cases h
    · rename_i h1 h2
      have h2' : ¬ (a = minInt ∧ b = BitVec.ofInt 64 (-1)) := by
        intro ⟨ha, hb⟩; apply h2; exact ⟨by rw [ha]; rfl, by rw [hb]; rfl⟩
      simp only [h1, h2', if_false]
      cases h; rfl

theorem sdivW_of_evalOp_rem {a b r : Word} (h : Pos.evalOp .rem a b = .ok r) :
    sdivW a b = .ok (a.sdiv b) ∧ r = a.srem b := by
  unfold Pos.evalOp at h
  unfold sdivW
  simp only at h
  split at h
  · cases h
  · split at h
    · cases h
    · rename_i h1 h2
      have h2' : ¬ (a = minInt ∧ b = BitVec.ofInt 64 (-1)) := by
        intro ⟨ha, hb⟩; apply h2; exact ⟨by rw [ha]; rfl, by rw [hb]; rfl⟩
      simp only [h1, h2', if_false]
      cases h
      simp

theorem xreg_val {r : Nat} {n : Fin 31} (h : xreg r = some n) : n.val = archNumber r := by
  unfold xreg at h
  split at h
  · cases h; rfl
  · cases h

theorem archNumber_inj {r r' : Nat} (h : archNumber r = archNumber r') : r = r' := by
  unfold archNumber at h
  split at h <;> split at h <;> omega

theorem xreg_ne {r r' : Nat} {n n' : Fin 31} (h : xreg r = some n) (h' : xreg r' = some n') (hne : r ≠ r') :
    n ≠ n' := by
  intro e
  apply hne
  apply archNumber_inj
  rw [← xreg_val h, ← xreg_val h', e]

/-- what `opR` guarantees, at the level of machine registers -/
structure OpRPost (σ σ' : State) (nt : Fin 31) (r : Word) : Prop where
  res : σ'.reg nt = some r
  sp : σ'.sp = σ.sp
  heap : σ'.heap = σ.heap
  regs : ∀ m : Fin 31, m ≠ nt → m ≠ xT2 → σ'.reg m = σ.reg m
  slots : ∀ q, RESERVED_SPILLS ≤ q → q < SPILL_NUM → σ'.slot (σ.slotAddr q) = σ.slot (σ.slotAddr q)

/-- code.rs `op` on registers (`opR`) computes the AxCut operator.  The three register conditions are those of
`rem` (`remR`: `sdiv` into TEMP2 or into the target, then `msub`): the first operand and the target are never
TEMP2, and the second operand is TEMP2 only when the first is TEMP — both operands came from spill slots, the one
situation in which `op` passes TEMP2. -/
theorem opR_correct (c : MemCfg) (room : Nat) (σ : State) (hsp : SpOk c σ.sp room)
    (o : BinOp) (rt r1 r2 : Nat) (nt n1 n2 : Fin 31)
    (ht : xreg rt = some nt) (h1 : xreg r1 = some n1) (h2 : xreg r2 = some n2)
    (hr2 : r2 = consts.temp2 → r1 = consts.temp) (hr1 : r1 ≠ consts.temp2) (hrt : rt ≠ consts.temp2)
    (a b r : Word) (ha : σ.reg n1 = some a) (hb : σ.reg n2 = some b) (hev : Pos.evalOp o a b = .ok r) :
    ∃ σ', execCodes c (opR o (.x rt) (.x r1) (.x r2)) σ = .ok σ' ∧ OpRPost σ σ' nt r := by
  cases o with
  | sum =>
    refine ⟨σ.setReg nt (some (a + b)), ?_, ?_⟩
    · simp [opR, execCodes, execCode_ADD ht h1 h2, exec_add_x, ha, hb]
    · cases hev
      constructor <;> simp
      intro m hm _; simp [Ne.symm hm]
  | sub =>
    refine ⟨σ.setReg nt (some (a - b)), ?_, ?_⟩
    · simp [opR, execCodes, execCode_SUB ht h1 h2, exec_sub_x, ha, hb]
    · cases hev
      constructor <;> simp
      intro m hm _; simp [Ne.symm hm]
  | prod =>
    refine ⟨σ.setReg nt (some (a * b)), ?_, ?_⟩
    · simp [opR, execCodes, execCode_MUL ht h1 h2, exec_mul_x, ha, hb]
    · cases hev
      constructor <;> simp
      intro m hm _; simp [Ne.symm hm]
  | div =>
    refine ⟨σ.setReg nt (some r), ?_, ?_⟩
    · simp [opR, execCodes, execCode_SDIV ht h1 h2, exec_sdiv_x, ha, hb, sdivW_of_evalOp_div hev]
    · constructor <;> simp
      intro m hm _; simp [Ne.symm hm]
  | rem =>
    obtain ⟨hq, hr⟩ := sdivW_of_evalOp_rem hev
    have hsp' : SpOkS c room σ := hsp
    subst hr
    have hT2 : xreg 3 = some xT2 := xreg_TEMP2
    have hT : xreg 2 = some xT := xreg_TEMP
    have hTT : xreg 10 = some xTT := xreg_TEMPORARY_TEMP
    have hn1 : n1 ≠ xT2 := xreg_ne h1 hT2 hr1
    have hnt : nt ≠ xT2 := xreg_ne ht hT2 hrt
    by_cases e2 : r2 = consts.temp2
    · -- both operands came from spill slots: source_1 = TEMP, source_2 = TEMP2
      have e1 := hr2 e2
      subst e2 e1
      have en2 : n2 = xT2 := by rw [hT2] at h2; cases h2; rfl
      have en1 : n1 = xT := by rw [hT] at h1; cases h1; rfl
      subst en2 en1
      by_cases et : rt = consts.temp
      · -- target is TEMP as well: the scratch dance with TEMPORARY_TEMP
        subst et
        have ent : nt = xT := by rw [hT] at ht; cases ht; rfl
        subst ent
        have hp0 : SPILL_TEMP < SPILL_NUM := by decide
        have hx1 : xTT ≠ xT := by decide
        have hx2 : xTT ≠ xT2 := by decide
        have hx3 : xT ≠ xT2 := by decide
        have hs0 : ∀ q, RESERVED_SPILLS ≤ q → q < SPILL_NUM → σ.slotAddr SPILL_TEMP ≠ σ.slotAddr q := by
          intro q hq1 hq2 e
          have := (slotAddr_inj hsp hp0 hq2).mp e
          rw [RESERVED_SPILLS_eq] at hq1
          have : SPILL_TEMP = 0 := rfl
          omega
        cases hx : σ.reg xTT with
        | none =>
          refine ⟨((((σ.clrSlot (σ.slotAddr SPILL_TEMP)).setReg xTT (some b)).setReg xT2 (some (a.sdiv b))).setReg xT
            (some (a - a.sdiv b * b))).setReg xTT none, ?_, ?_⟩
          · simp [opR, remR, TEMP2, TEMP, TEMPORARY_TEMP, execCodes, execCode_COMMENT,
              execCode_STR_sp hTT, execCode_LDR_sp hTT, execCode_MOVR hTT hT2, execCode_SDIV hT2 hT hTT,
              execCode_MSUB hT hT2 hTT hT, exec_str_slot c room, exec_ldr_slot c room, hsp', hp0,
              exec_mov_x, exec_sdiv_x, exec_msub_x, ha, hb, hq, hx, hx1, hx2, hx3, Ne.symm hx1, Ne.symm hx2, Ne.symm hx3]
          · rw [sub_sdiv_mul_eq_srem]
            refine ⟨by simp [hx1], by simp, by simp, ?_, ?_⟩
            · intro m hm hm2
              by_cases hm3 : m = xTT
              · subst hm3; simp [hx]
              · simp [Ne.symm hm, Ne.symm hm2, Ne.symm hm3]
            · intro q hq1 hq2
              simp [hs0 q hq1 hq2]
        | some w =>
          refine ⟨((((σ.setSlot (σ.slotAddr SPILL_TEMP) w).setReg xTT (some b)).setReg xT2 (some (a.sdiv b))).setReg xT
            (some (a - a.sdiv b * b))).setReg xTT (some w), ?_, ?_⟩
          · simp [opR, remR, TEMP2, TEMP, TEMPORARY_TEMP, execCodes, execCode_COMMENT,
              execCode_STR_sp hTT, execCode_LDR_sp hTT, execCode_MOVR hTT hT2, execCode_SDIV hT2 hT hTT,
              execCode_MSUB hT hT2 hTT hT, exec_str_slot c room, exec_ldr_slot c room, hsp', hp0,
              exec_mov_x, exec_sdiv_x, exec_msub_x, ha, hb, hq, hx, hx1, hx2, hx3, Ne.symm hx1, Ne.symm hx2, Ne.symm hx3]
          · rw [sub_sdiv_mul_eq_srem]
            refine ⟨by simp [hx1], by simp, by simp, ?_, ?_⟩
            · intro m hm hm2
              by_cases hm3 : m = xTT
              · subst hm3; simp [hx]
              · simp [Ne.symm hm, Ne.symm hm2, Ne.symm hm3]
            · intro q hq1 hq2
              simp [hs0 q hq1 hq2]
      · have hntT : nt ≠ xT := xreg_ne ht hT et
        refine ⟨(σ.setReg nt (some (a.sdiv b))).setReg nt (some (a - a.sdiv b * b)), ?_, ?_⟩
        · have et' : ¬ (rt = 2) := et
          simp [opR, remR, TEMP2, TEMP, et', execCodes, execCode_SDIV ht hT hT2, execCode_MSUB ht ht hT2 hT,
            exec_sdiv_x, exec_msub_x, ha, hb, hq, Ne.symm hntT, Ne.symm hnt, hntT, hnt]
        · rw [sub_sdiv_mul_eq_srem]
          constructor <;> simp
          intro m hm _; simp [Ne.symm hm]
    · have hn2 : n2 ≠ xT2 := xreg_ne h2 hT2 e2
      refine ⟨(σ.setReg xT2 (some (a.sdiv b))).setReg nt (some (a - a.sdiv b * b)), ?_, ?_⟩
      · have e2' : ¬ (r2 = 3) := e2
        simp [opR, remR, e2', TEMP2, execCodes, execCode_SDIV hT2 h1 h2, execCode_MSUB ht hT2 h2 h1,
          exec_sdiv_x, exec_msub_x, ha, hb, hq, Ne.symm hn1, Ne.symm hn2, hn1, hn2]
      · rw [sub_sdiv_mul_eq_srem]
        exact ⟨by simp, by simp, by simp, by intro m hm hm2; simp [Ne.symm hm, Ne.symm hm2], by intros; simp⟩

/-- registers in which `op` presents the operands to `opR`, with the loads that put them there -/
def operandRegs : Temporary → Temporary → List Code × Nat × Nat
  | .register (.x r1), .register (.x r2) => ([], r1, r2)
  | .register (.x r1), .spill p2 => ([.LDR TEMP .sp (stackOffset p2)], r1, consts.temp)
  | .spill p1, .register (.x r2) => ([.LDR TEMP .sp (stackOffset p1)], consts.temp, r2)
  | .spill p1, .spill p2 =>
    ([.LDR TEMP .sp (stackOffset p1), .LDR TEMP2 .sp (stackOffset p2)], consts.temp, consts.temp2)
  | _, _ => ([], 0, 0)

theorem scratch_var (r : Nat) (h : RESERVED ≤ r) :
    (if Register.x r = TEMP then TEMP2 else TEMP) = TEMP := by
  have : ¬ (Register.x r = TEMP) := by
    rw [RESERVED_eq] at h
    simp [TEMP]; omega
  simp [this]

theorem op_decompose (o : BinOp) (t s1 s2 : Temporary) (h1 : s1.isVar) (h2 : s2.isVar) :
    op o t s1 s2 =
      match t with
      | .register tr => (operandRegs s1 s2).1 ++ opR o tr (.x (operandRegs s1 s2).2.1) (.x (operandRegs s1 s2).2.2)
      | .spill pt => (operandRegs s1 s2).1 ++ opR o TEMP (.x (operandRegs s1 s2).2.1) (.x (operandRegs s1 s2).2.2)
          ++ [.STR TEMP .sp (stackOffset pt)] := by
  cases t <;> cases s1 <;> cases s2 <;> rename_i x y z <;>
    first
    | (cases y <;> cases z <;> simp_all [op, operandRegs, Temporary.isVar, scratch_var] <;> rfl)
    | (cases y <;> simp_all [op, operandRegs, Temporary.isVar, scratch_var] <;> rfl)
    | (cases z <;> simp_all [op, operandRegs, Temporary.isVar, scratch_var] <;> rfl)
    | (simp_all [op, operandRegs, Temporary.isVar, scratch_var] <;> rfl)

theorem tempVal_reg {σ : State} {r : Nat} {n : Fin 31} (h : xreg r = some n) :
    σ.tempVal (.register (.x r)) = σ.reg n := by
  simp [State.tempVal, h, State.reg]

theorem tempVal_spill (σ : State) (p : Nat) : σ.tempVal (.spill p) = σ.slot (σ.slotAddr p) := rfl

theorem isVar_reg {r : Nat} (h : (Temporary.register (.x r)).isVar) : RESERVED ≤ r ∧ r < REGISTER_NUM := by
  simpa [Temporary.isVar] using h

theorem isVar_spill {p : Nat} (h : (Temporary.spill p).isVar) : RESERVED_SPILLS ≤ p ∧ p < SPILL_NUM := by
  simpa [Temporary.isVar] using h

/-- the operand loads of `op` put the operand values into the registers handed to `opR` and change
nothing but the scratch registers -/
theorem operands_loaded (c : MemCfg) (room : Nat) (σ : State) (hsp : SpOk c σ.sp room)
    (s1 s2 : Temporary) (h1 : s1.isVar) (h2 : s2.isVar) (a b : Word)
    (hv1 : σ.tempVal s1 = some a) (hv2 : σ.tempVal s2 = some b) :
    ∃ (σ0 : State) (n1 n2 : Fin 31),
      execCodes c (operandRegs s1 s2).1 σ = .ok σ0 ∧
      xreg (operandRegs s1 s2).2.1 = some n1 ∧ xreg (operandRegs s1 s2).2.2 = some n2 ∧
      σ0.reg n1 = some a ∧ σ0.reg n2 = some b ∧ σ0.sp = σ.sp ∧ σ0.heap = σ.heap ∧
      (∀ m : Fin 31, m ≠ xT → m ≠ xT2 → σ0.reg m = σ.reg m) ∧ (∀ addr, σ0.slot addr = σ.slot addr) ∧
      ((operandRegs s1 s2).2.2 = consts.temp2 → (operandRegs s1 s2).2.1 = consts.temp) ∧
      (operandRegs s1 s2).2.1 ≠ consts.temp2 := by
  have hsp' : SpOkS c room σ := hsp
  have hT2 : xreg 3 = some xT2 := xreg_TEMP2
  have hT : xreg 2 = some xT := xreg_TEMP
  have hx3 : xT ≠ xT2 := by decide
  cases s1 with
  | register reg1 =>
    cases reg1 with
    | x r1 =>
      obtain ⟨hr1a, hr1b⟩ := isVar_reg h1
      obtain ⟨n1, hn1, hn1v⟩ := xreg_var hr1a hr1b
      rw [tempVal_reg hn1] at hv1
      have hn1T : n1 ≠ xT := by intro e; rw [e] at hn1v; revert hn1v; decide
      have hn1T2 : n1 ≠ xT2 := by intro e; rw [e] at hn1v; revert hn1v; decide
      rw [RESERVED_eq] at hr1a
      cases s2 with
      | register reg2 =>
        cases reg2 with
        | x r2 =>
          obtain ⟨hr2a, hr2b⟩ := isVar_reg h2
          obtain ⟨n2, hn2, hn2v⟩ := xreg_var hr2a hr2b
          rw [tempVal_reg hn2] at hv2
          rw [RESERVED_eq] at hr2a
          refine ⟨σ, n1, n2, by simp [operandRegs], hn1, hn2, hv1, hv2, rfl, rfl, by intros; rfl, by intros; rfl, ?_, ?_⟩
          · simp [operandRegs]; omega
          · simp [operandRegs]; omega
        | sp => simp [Temporary.isVar] at h2
        | xzr => simp [Temporary.isVar] at h2
      | spill p2 =>
        obtain ⟨_, hp2⟩ := isVar_spill h2
        rw [tempVal_spill] at hv2
        refine ⟨σ.setReg xT (some b), n1, xT, ?_, hn1, hT, ?_, by simp, rfl, rfl, ?_, by intros; rfl, ?_, ?_⟩
        · simp [operandRegs, TEMP, execCodes, execCode_LDR_sp hT, exec_ldr_slot c room, hsp', hp2, hv2]
        · simp [Ne.symm hn1T, hv1]
        · intro m hm _; simp [Ne.symm hm]
        · simp [operandRegs]
        · simp [operandRegs]; omega
    | sp => simp [Temporary.isVar] at h1
    | xzr => simp [Temporary.isVar] at h1
  | spill p1 =>
    obtain ⟨_, hp1⟩ := isVar_spill h1
    rw [tempVal_spill] at hv1
    cases s2 with
    | register reg2 =>
      cases reg2 with
      | x r2 =>
        obtain ⟨hr2a, hr2b⟩ := isVar_reg h2
        obtain ⟨n2, hn2, hn2v⟩ := xreg_var hr2a hr2b
        rw [tempVal_reg hn2] at hv2
        have hn2T : n2 ≠ xT := by intro e; rw [e] at hn2v; revert hn2v; decide
        rw [RESERVED_eq] at hr2a
        refine ⟨σ.setReg xT (some a), xT, n2, ?_, hT, hn2, by simp, ?_, rfl, rfl, ?_, by intros; rfl, ?_, ?_⟩
        · simp [operandRegs, TEMP, execCodes, execCode_LDR_sp hT, exec_ldr_slot c room, hsp', hp1, hv1]
        · simp [Ne.symm hn2T, hv2]
        · intro m hm _; simp [Ne.symm hm]
        · simp [operandRegs]
        · simp [operandRegs]
      | sp => simp [Temporary.isVar] at h2
      | xzr => simp [Temporary.isVar] at h2
    | spill p2 =>
      obtain ⟨_, hp2⟩ := isVar_spill h2
      rw [tempVal_spill] at hv2
      refine ⟨(σ.setReg xT (some a)).setReg xT2 (some b), xT, xT2, ?_, hT, hT2, ?_, by simp, rfl, rfl, ?_,
        by intros; rfl, ?_, ?_⟩
      · simp [operandRegs, TEMP, TEMP2, execCodes, execCode_LDR_sp hT, execCode_LDR_sp hT2,
          exec_ldr_slot c room, hsp', hp1, hp2, hv1, hv2]
      · simp [hx3, Ne.symm hx3]
      · intro m hm hm2; simp [Ne.symm hm, Ne.symm hm2]
      · simp [operandRegs]
      · simp [operandRegs]

/-- machine register that a temporary is (if it is a register that exists) -/
def Temporary.archReg : Temporary → Option (Fin 31)
  | .register (.x r) => xreg r
  | _ => none

/-- What a statement that defines temporary `t` leaves untouched: SP, the heap, every machine
register except the two scratch registers TEMP (X2), TEMP2 (X3) and `t` itself (in particular HEAP
= X0, FREE = X1 and all registers of variables), and every non-reserved spill slot except `t`. -/
structure Frame (σ σ' : State) (t : Temporary) : Prop where
  sp : σ'.sp = σ.sp
  heap : σ'.heap = σ.heap
  regs : ∀ m : Fin 31, m ≠ xT → m ≠ xT2 → t.archReg ≠ some m → σ'.reg m = σ.reg m
  slots : ∀ q, RESERVED_SPILLS ≤ q → q < SPILL_NUM → t ≠ .spill q →
    σ'.slot (σ.slotAddr q) = σ.slot (σ.slotAddr q)

/-- code.rs `op` (add / sub / mul / div / rem) is correct for EVERY placement of the target and the
two operands in registers or spill slots and all operand values for which the AxCut operator is
defined. -/
theorem op_correct (c : MemCfg) (room : Nat) (σ : State) (hsp : SpOk c σ.sp room)
    (o : BinOp) (t s1 s2 : Temporary) (ht : t.isVar) (h1 : s1.isVar) (h2 : s2.isVar)
    (a b r : Word) (hv1 : σ.tempVal s1 = some a) (hv2 : σ.tempVal s2 = some b)
    (hev : Pos.evalOp o a b = .ok r) :
    ∃ σ', execCodes c (op o t s1 s2) σ = .ok σ' ∧ σ'.tempVal t = some r ∧ Frame σ σ' t := by
  obtain ⟨σ0, n1, n2, he0, hx1, hx2, ha, hb, hsp0, hheap0, hregs0, hslots0, hc1, hc2⟩ :=
    operands_loaded c room σ hsp s1 s2 h1 h2 a b hv1 hv2
  have hsp0' : SpOk c σ0.sp room := by rw [hsp0]; exact hsp
  have hT : xreg 2 = some xT := xreg_TEMP
  rw [op_decompose o t s1 s2 h1 h2]
  cases t with
  | register tr =>
    cases tr with
    | x rt =>
      obtain ⟨hrta, hrtb⟩ := isVar_reg ht
      obtain ⟨nt, hnt, hntv⟩ := xreg_var hrta hrtb
      rw [RESERVED_eq] at hrta
      have hrt3 : rt ≠ consts.temp2 := by simp; omega
      obtain ⟨σ1, he1, hpost⟩ := opR_correct c room σ0 hsp0' o rt _ _ nt n1 n2 hnt hx1 hx2 hc1 hc2 hrt3 a b r ha hb hev
      refine ⟨σ1, ?_, ?_, ?_⟩
      · simp only []
        rw [execCodes_append c _ _ _ _ he0, he1]
      · rw [tempVal_reg hnt]; exact hpost.res
      · refine ⟨by rw [hpost.sp, hsp0], by rw [hpost.heap, hheap0], ?_, ?_⟩
        · intro m hm1 hm2 hm3
          have : m ≠ nt := by intro e; apply hm3; simp [Temporary.archReg, hnt, e]
          rw [hpost.regs m this hm2, hregs0 m hm1 hm2]
        · intro q hq1 hq2 _
          have := hpost.slots q hq1 hq2
          rw [State.slotAddr, hsp0] at this
          rw [State.slotAddr, this, hslots0]
    | sp => simp [Temporary.isVar] at ht
    | xzr => simp [Temporary.isVar] at ht
  | spill pt =>
    obtain ⟨hpt1, hpt2⟩ := isVar_spill ht
    have h23 : (2 : Nat) ≠ consts.temp2 := by decide
    obtain ⟨σ1, he1, hpost⟩ := opR_correct c room σ0 hsp0' o 2 _ _ xT n1 n2 hT hx1 hx2 hc1 hc2 h23 a b r ha hb hev
    have hsp1 : SpOkS c room σ1 := by show SpOk c σ1.sp room; rw [hpost.sp]; exact hsp0'
    have haddr : σ1.slotAddr pt = σ.slotAddr pt := by simp [State.slotAddr, hpost.sp, hsp0]
    refine ⟨σ1.setSlot (σ1.slotAddr pt) r, ?_, ?_, ?_⟩
    · simp only []
      rw [List.append_assoc, execCodes_append c _ _ _ _ he0]
      have : (TEMP : Register) = .x 2 := rfl
      rw [this, execCodes_append c _ _ _ _ he1]
      simp [execCodes, execCode_STR_sp hT, exec_str_slot c room, hsp1, hpt2, hpost.res]
    · rw [tempVal_spill]; simp [haddr]
    · refine ⟨by simp [hpost.sp, hsp0], by simp [hpost.heap, hheap0], ?_, ?_⟩
      · intro m hm1 hm2 _
        simp [hpost.regs m hm1 hm2, hregs0 m hm1 hm2]
      · intro q hq1 hq2 hq3
        have hne : σ.slotAddr pt ≠ σ.slotAddr q := by
          intro e; apply hq3; rw [(slotAddr_inj hsp hpt2 hq2).mp e]
        have := hpost.slots q hq1 hq2
        rw [State.slotAddr, hsp0] at this
        simp [haddr, hne]
        rw [State.slotAddr, this, hslots0]

end Scc.A64
