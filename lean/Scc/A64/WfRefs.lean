/-
  Scc.A64.WfRefs — C14 for AArch64: the AArch64 instance of the generic label theorem of
  Scc/Backend/ProofsRefs.lean.
  `refOps_a64`: which labels the codes returned by every method of `a64Backend` refer to (`B`, `B.cond`, `ADR`;
  `BL` goes to a runtime symbol: `blB`); memory methods refer only to the local labels `lab<n>` they define
  themselves: `MW` holds of every `Mem.Blk` (Scc/A64/MemBlk.lean).
  `body_refs`: every label referenced by the body of a compiled program is defined in the body or is `cleanup`,
  and every `BL` goes to `print_i64` / `println_i64`.
-/
import Scc.Backend.ProofsRefs
import Scc.Backend.BlkClosed
import Scc.A64.CodeBlk
import Scc.A64.Backend
import Scc.A64.RefStep

namespace Scc.A64.Wf

open Scc.AxCut Scc.Backend
open Scc.Backend.Refs
open Scc.X86 (Post) -- the generic `Post` of Backend/ProofsPost.lean

def dfn : Code → Option String
  | .LAB l => some l
  | _ => none

/-- the label an item refers to that must be DEFINED in the text (`BL` and `.global` aside) -/
def iref : Code → Option String
  | .B l | .ADR _ l | .BEQ l | .BNE l | .BLT l | .BLE l | .BGT l | .BGE l => some l
  | _ => none

def V : View Code := ⟨dfn, iref⟩

/-- `BL` only of the two runtime symbols -/
def blB : Code → Bool
  | .BL l => isExternal l
  | _ => true

/-- plain items: no label defined, no label referenced, `BL` of a runtime symbol -/
def plB (c : Code) : Bool := blB c && (dfn c).isNone && (iref c).isNone

abbrev PL (l : List Code) : Prop := l.all plB = true

theorem pl_append {a b : List Code} : PL (a ++ b) ↔ PL a ∧ PL b := by simp [PL, List.all_append]
theorem pl_cons {c : Code} {l : List Code} : PL (c :: l) ↔ plB c = true ∧ PL l := by simp [PL, List.all_cons]

theorem PL.noRefs {l : List Code} (h : PL l) : NoRefs V l := noRefs_of_plain (sh := blB) h

/-- `BL` only of runtime symbols: a per-item predicate, lifted by `PieceOps` -/
def QB (l : List Code) : Prop := l.all blB = true

theorem PL.qb {l : List Code} (h : PL l) : QB l := all_of_plain (V := V) h

/-- a `Leaf` is a plain item: it defines and refers to no label -/
theorem _root_.Scc.A64.Mem.Leaf.pl {rok iok : Prop} {c : Code} (h : Mem.Leaf rok iok c) : plB c = true := by
  cases h with
  | com _ => rfl
  | instr hf _ _ => cases c <;> first | rfl | cases hf

theorem _root_.Scc.A64.Mem.CItems.pl {rok iok : Prop} {l : List Code} (h : Mem.CItems rok iok l) : PL l :=
  List.all_eq_true.2 fun c hc => (h c hc).1.pl

/-! ## code.rs: read off the form of the code; the jumps apart -/

theorem pl_op (o : BinOp) (t s1 s2 : Temporary) : PL (op o t s1 s2) := (Mem.items_op (iok := True) o t s1 s2).pl
theorem pl_compare (a b : Temporary) : PL (compare a b) := (Mem.items_compare (iok := True) a b).pl
theorem pl_compareImmediate (t : Temporary) (i : Int) : PL (compareImmediate t i) :=
  (Mem.items_compareImmediate t i).pl
theorem pl_loadImmediate (t : Temporary) (i : Int) : PL (loadImmediate t i) :=
  (Mem.items_loadImmediate (iok := True) t i).pl
theorem pl_mov (t s : Temporary) : PL (mov t s) := (Mem.items_mov (iok := True) t s).pl
theorem pl_storeTemporary (t : Temporary) (sp : Bool) : PL (storeTemporary t sp) :=
  (Mem.items_storeTemporary (iok := True) t sp).pl
theorem pl_restoreTemporary (t : Temporary) (sp : Bool) : PL (restoreTemporary t sp) :=
  (Mem.items_restoreTemporary (iok := True) t sp).pl

theorem pl_jump (t : Temporary) : PL (jump t) := by cases t <;> rfl
theorem pl_addAndJump (t : Temporary) (i : Int) : PL (addAndJump t i) := by cases t <;> rfl

theorem iref_branchOf (s : IfSort) (l : String) : iref (branchOf s l) = some l := by cases s <;> rfl
theorem blB_branchOf (s : IfSort) (l : String) : blB (branchOf s l) = true := by cases s <;> rfl

theorem pl_printI64G (old nl : Bool) (t : Temporary) (ctx : Ctx) : PL (printI64G old nl t ctx) :=
  List.all_eq_true.2 fun c hc => (Mem.items_printI64G old nl t ctx c hc).elim (·.pl) (by rintro rfl; cases nl <;> rfl)

/-! ## references of the label-taking methods -/

theorem refsTo_of_pl_single {a : List Code} {c : Code} {l : String} (ha : PL a) (hc : iref c = some l) :
    RefsTo V l (a ++ [c]) := refsTo_plain_single (sh := blB) ha hc

theorem refsTo_jumpLabelIf (s : IfSort) (a b : Temporary) (l : String) : RefsTo V l (jumpLabelIf s a b l) :=
  refsTo_of_pl_single (pl_compare a b) (iref_branchOf s l)

theorem refsTo_jumpLabelIfZero (s : IfSort) (a : Temporary) (l : String) :
    RefsTo V l (jumpLabelIfZero s a l) :=
  refsTo_of_pl_single (pl_compareImmediate a 0) (iref_branchOf s l)

theorem refsTo_loadLabel (t : Temporary) (l : String) : RefsTo V l (loadLabel t l) := by
  intro r hr
  cases t <;> simpa [loadLabel, View.refs, V, iref] using hr

/-! ## memory.rs: `BL` targets and closedness -/

/-- every `BL` goes to a runtime symbol (`QB`) and every referenced label is defined in the list -/
def MW (l : List Code) : Prop := l.all blB = true ∧ Closed V l

theorem MW.append {a b : List Code} (ha : MW a) (hb : MW b) : MW (a ++ b) :=
  ⟨by rw [List.all_append, ha.1, hb.1]; rfl, ha.2.append hb.2⟩

abbrev PostMW (m : GenM (List Code)) : Prop := Post m MW

/-- code of memory.rs has the shape and refers only to labels it defines -/
theorem _root_.Scc.A64.Mem.Blk.mw {rok iok : Prop} {l : List Code} (h : Mem.Blk rok iok l) : MW l :=
  Scc.Backend.Blk.plain_closed V (sh := blB) (sh' := blB) (fun _ hl => hl.pl) (fun _ hc => (plainB_iff.1 hc).1)
    (fun _ _ => ⟨rfl, rfl⟩) (fun _ => ⟨rfl, rfl⟩) (fun _ => ⟨rfl, rfl, rfl⟩) h

theorem postMW_store (toStore ctx : Ctx) : PostMW (store toStore ctx) :=
  fun _ _ _ h => (Mem.blk_store toStore ctx h).mw

theorem postMW_load (toLoad ctx : Ctx) : PostMW (load toLoad ctx) :=
  fun _ _ _ h => (Mem.blk_load toLoad ctx h).mw

theorem postMW_eraseBlock (t : Temporary) : PostMW (eraseBlock t) :=
  fun _ _ _ h => (Mem.blk_eraseBlock t h).mw

theorem postMW_shareBlockN (t : Temporary) (n : Nat) : PostMW (shareBlockN t n) :=
  fun _ _ _ h => (Mem.blk_shareBlockN t n h).mw

theorem refOps_a64 : RefOps a64Backend V where
  comment := fun _ => ⟨rfl, rfl⟩
  label := fun _ => ⟨rfl, rfl⟩
  jump := fun t => (pl_jump t).noRefs
  jumpLabel := fun l => refsTo_single (c := Code.B l) rfl
  jumpLabelFixed := fun l => refsTo_single (c := Code.B l) rfl
  jumpLabelIf := refsTo_jumpLabelIf
  jumpLabelIfZero := refsTo_jumpLabelIfZero
  loadImmediate := fun t n => (pl_loadImmediate t n).noRefs
  loadLabel := refsTo_loadLabel
  addAndJump := fun t n => (pl_addAndJump t n).noRefs
  binop := fun o t a b => (pl_op o t a b).noRefs
  mov := fun t s => (pl_mov t s).noRefs
  printI64 := fun nl t ctx => Post.pure (pl_printI64G false nl t ctx).noRefs.closed
  eraseBlock := fun t => (postMW_eraseBlock t).mono fun _ h => h.2
  shareBlockN := fun t n => (postMW_shareBlockN t n).mono fun _ h => h.2
  store := fun a b => (postMW_store a b).mono fun _ h => h.2
  load := fun a b => (postMW_load a b).mono fun _ h => h.2
  storeTemporary := fun t sp => (pl_storeTemporary t sp).noRefs
  restoreTemporary := fun t sp => (pl_restoreTemporary t sp).noRefs

theorem qb_append {a b : List Code} (ha : QB a) (hb : QB b) : QB (a ++ b) := by
  unfold QB at *; rw [List.all_append, ha, hb]; rfl

theorem qb_codeTable (base : String) : ∀ (cs : Clauses), QB (codeTable a64Backend cs base)
  | .nil => rfl
  | .cons x _ _ rest => by
    simp only [codeTable]
    exact qb_append (show QB [Code.B _] from rfl) (qb_codeTable base rest)

theorem pieceOps_a64 : PieceOps a64Backend QB where
  nil := rfl
  append := qb_append
  comment := fun _ => rfl
  label := fun _ => rfl
  table := fun l cs base => qb_append (a := [Code.LAB l]) rfl (qb_codeTable base cs)
  jump := fun t => (pl_jump t).qb
  jumpLabel := fun _ => rfl
  jumpLabelIf := fun s a b l => qb_append (pl_compare a b).qb (by
    show QB [branchOf s l]
    simp only [QB, List.all_cons, List.all_nil, blB_branchOf]; rfl)
  jumpLabelIfZero := fun s a l => qb_append (pl_compareImmediate a 0).qb (by
    show QB [branchOf s l]
    simp only [QB, List.all_cons, List.all_nil, blB_branchOf]; rfl)
  loadImmediate := fun t n => (pl_loadImmediate t n).qb
  loadLabel := fun t l => by
    show QB (loadLabel t l)
    cases t <;> rfl
  addAndJump := fun t n => (pl_addAndJump t n).qb
  binop := fun o _ _ _ _ t s1 s2 _ _ _ _ _ => (pl_op o t s1 s2).qb
  binopTemp := fun t => (pl_op .sum (.register TEMP) (.register TEMP) t).qb
  mov := fun t s => (pl_mov t s).qb
  printI64 := fun nl t ctx => Post.pure (pl_printI64G false nl t ctx).qb
  eraseBlock := fun t => (postMW_eraseBlock t).mono fun _ h => h.1
  shareBlockN := fun t n => (postMW_shareBlockN t n).mono fun _ h => h.1
  store := fun a b => (postMW_store a b).mono fun _ h => h.1
  load := fun a b => (postMW_load a b).mono fun _ h => h.1
  storeTemporary := fun t sp => (pl_storeTemporary t sp).qb
  restoreTemporary := fun t sp => (pl_restoreTemporary t sp).qb

/-- the body of a linearly typed program: every referenced label is defined in the body or is `cleanup`; every
    `BL` goes to a runtime symbol -/
theorem body_refs {p : AxCut.Prog} {hooks : Bool} {k : Nat} {body : List Code} {nargs k' : Nat}
    (htp : LinTypedProg p)
    (h : (compile a64Backend hooks p).run k = .ok ((body, nargs), k')) :
    (∀ l ∈ V.refs body, l ∈ V.labs body ∨ l = "cleanup") ∧ body.all blB = true := by
  have h1 := refs_defined refOps_a64 hooks natRen p (callsDefined_of_linTyped htp) k _ k' h
  have h2 := piece_compileR pieceOps_a64 hooks natRen p (opFresh_of_linTypedProg htp) k _ k' h
  exact ⟨h1, h2⟩

end Scc.A64.Wf
