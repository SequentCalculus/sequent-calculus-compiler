/-
  Scc.A64.ConcKMon — THE HEAP MONITOR NEVER REPORTS on AArch64, all programs, every amount of machine fuel (the
  AArch64 analogue of Scc/X86/ConcKMon.lean), under two hypotheses about the run (x86-64 has `HooksParse` and `WindowOK`, Scc/X86/ConcKMon.lean):
  * `HooksKinds`: at a statement boundary the hook at the program counter lists variables of the kinds of the
    context of the positional state (the relation `K.Rel3` tracks `Ctx.keys` only, not names, so that the text of
    the hook of the generator's context is not determined);
  * `WindowOK B`: the allocation frontier lies in the window the monitor inspects (8 blocks above the highest heap
    word written); `windowOK_small`: true while at most 7 blocks lie below the frontier.
  The two give the hook hypothesis `HookPassFrom` of Scc/A64/ConcKMRun.lean (`hookPassFrom_of`); the run loop WITH the
  heap monitor follows a passing run (`runLoop_passN`).  On AArch64 `C14A_namesTextSafe` excludes `#` from every
  name, which gives `AllHF` (`allHF_of_names`); the header of the routine visits no hook (`entry_setup` with no hook
  position allowed).  Results: `programs_monitor_gen`, `programs_monitor_size`.
-/
import Scc.A64.ConcKMRun
import Scc.A64.ConcKAllFuel

set_option linter.unusedVariables false
set_option linter.unusedSimpArgs false

namespace Scc.A64.ConcK

open Scc.AxCut Scc.Backend Scc.Backend.Abs Scc.A64.Ref
open Scc.A64.CC
open Scc.Props.C14Generic (LabelSafe)
open Scc.Props.C06Generic (outAfter WithinCapacity Reachable EnoughHeap CodeFits statesOf stopsWithin)
open Scc.Heap (HState InvS InvW Exhausted)
open Scc.Heap.Refine (HRef FrLe Room FrPk)
open Scc.X86.Conc (FrBound LiveLe LiveLe0 stmtSize clausesSize valsFields run_eq_runState ctxKinds frBound_init weight_ge)
open Scc.X86.Ref.K (AllocLe AllocLeClauses ValAll valAll_ints AllHF ClausesHF)
open Scc.X86.Ref (HashFree)
open Scc.A64.NoHk (HK)

/-- what the run loop needs at a hook item: with the heap monitor on, the monitor returns `.ok` -/
def MonPass (cfg : MonCfg) (σ : State) (vs : List (String × Kind)) : Prop :=
  cfg.heap = true → ∃ b, heapMonitor cfg.mem σ vs = .ok b

/-- along a passing run the iterations consume fuel (and the monitor updates `blocks`), nothing else -/
theorem runLoop_passN {P : Prog} {cfg : MonCfg} {n : Nat} {σ σ' : State} {pc pc' : Nat}
    {out out' : List (Bool × Word)} (h : K.MStepsNP (MonPass cfg) P cfg.mem n σ pc out σ' pc' out') :
    ∀ (steps blocks : Nat), ∃ steps' blocks', ∀ fuel,
      runLoop P cfg (n + fuel) { σ := σ, pc := pc, out := out, steps := steps, blocks := blocks } =
        runLoop P cfg fuel { σ := σ', pc := pc', out := out', steps := steps', blocks := blocks' } := by
  induction h with
  | refl σ pc out => intro steps blocks; exact ⟨steps, blocks, fun fuel => by simp⟩
  | @step n σ σ1 σ2 pc pc1 pc2 out out1 out2 hs hp _ ih =>
    intro steps blocks
    cases hs with
    | hook hi =>
      by_cases hh : cfg.heap = true
      · obtain ⟨b, hb⟩ := hp _ hi hh
        obtain ⟨s', b', hn⟩ := ih steps (max blocks b)
        refine ⟨s', b', fun fuel => ?_⟩
        rw [show n + 1 + fuel = (n + fuel) + 1 by omega, runLoop_item hi]
        simp only [hh, if_true, hb]
        exact hn fuel
      · obtain ⟨s', b', hn⟩ := ih steps blocks
        refine ⟨s', b', fun fuel => ?_⟩
        rw [show n + 1 + fuel = (n + fuel) + 1 by omega, runLoop_item hi]
        simp only [hh, if_false]
        exact hn fuel
    | next hi hst =>
      obtain ⟨s', b', hn⟩ := ih (steps + 1) blocks
      refine ⟨s', b', fun fuel => ?_⟩
      rw [show n + 1 + fuel = (n + fuel) + 1 by omega, runLoop_item hi]
      simp only [hst]
      exact hn fuel
    | print hi hst =>
      obtain ⟨s', b', hn⟩ := ih (steps + 1) blocks
      refine ⟨s', b', fun fuel => ?_⟩
      rw [show n + 1 + fuel = (n + fuel) + 1 by omega, runLoop_item hi]
      simp only [hst]
      exact hn fuel

/-- a machine that makes `n` passing iterations without ending has not ended with less fuel -/
theorem runLoop_pass_outOfFuel {P : Prog} {cfg : MonCfg} {n : Nat} {σ σ' : State} {pc pc' : Nat}
    {out out' : List (Bool × Word)} (h : K.MStepsNP (MonPass cfg) P cfg.mem n σ pc out σ' pc' out') :
    ∀ (f steps blocks : Nat), f ≤ n →
      (runLoop P cfg f { σ := σ, pc := pc, out := out, steps := steps, blocks := blocks }).res = .outOfFuel := by
  induction h with
  | refl σ pc out =>
    intro f steps blocks hf
    have : f = 0 := by omega
    subst this
    rfl
  | @step n σ σ1 σ2 pc pc1 pc2 out out1 out2 hs hp _ ih =>
    intro f steps blocks hf
    cases f with
    | zero => rfl
    | succ f =>
      cases hs with
      | hook hi =>
        rw [runLoop_item hi]
        by_cases hh : cfg.heap = true
        · obtain ⟨b, hb⟩ := hp _ hi hh
          simp only [hh, if_true, hb]
          exact ih f steps _ (by omega)
        · simp only [hh, if_false]
          exact ih f steps blocks (by omega)
      | next hi hst =>
        rw [runLoop_item hi]
        simp only [hst]
        exact ih f (steps + 1) blocks (by omega)
      | print hi hst =>
        rw [runLoop_item hi]
        simp only [hst]
        exact ih f (steps + 1) blocks (by omega)

theorem hashFree_of_identOK {i : Ident} (h : Scc.X86.Loader.identOK Scc.A64.Loader.okcA i = true) : HashFree i := by
  unfold HashFree
  simp only [Scc.X86.Loader.identOK, List.all_eq_true] at h
  cases hl : i.name.toList with
  | nil => simp
  | cons x xs =>
    have hx := h x (by rw [hl]; simp)
    have := (Scc.A64.Loader.okcA_facts hx).2.2.2
    simp only [List.head?_cons, ne_eq, Option.some.injEq]
    exact this

mutual
  /-- ON AArch64 THE NAME CHECK OF THE LOADER THEOREM (`C14A_namesTextSafe`: no `#` in any name) GIVES `AllHF` -/
  theorem allHF_of_names : ∀ s : Stmt, Scc.X86.Loader.stmtNamesOK Scc.A64.Loader.okcA s = true → AllHF s
    | .subst _ next, h => by
      simp only [Scc.X86.Loader.stmtNamesOK, Bool.and_eq_true] at h
      simp only [AllHF]; exact allHF_of_names next h.2
    | .call l _, h => by
      simp only [Scc.X86.Loader.stmtNamesOK] at h
      simp only [AllHF]; exact hashFree_of_identOK h
    | .letS _ _ _ _ next _, h => by
      simp only [Scc.X86.Loader.stmtNamesOK, Bool.and_eq_true] at h
      simp only [AllHF]; exact allHF_of_names next h.2
    | .switch _ _ clauses _, h => by
      simp only [Scc.X86.Loader.stmtNamesOK, Bool.and_eq_true] at h
      simp only [AllHF]; exact clausesHF_of_names clauses h.2
    | .create _ _ _ clauses next _ _, h => by
      simp only [Scc.X86.Loader.stmtNamesOK, Bool.and_eq_true] at h
      simp only [AllHF]; exact ⟨clausesHF_of_names clauses h.1.2, allHF_of_names next h.2⟩
    | .invoke _ _ _ _, _ => by simp only [AllHF]
    | .lit _ _ next _, h => by
      simp only [Scc.X86.Loader.stmtNamesOK, Bool.and_eq_true] at h
      simp only [AllHF]; exact allHF_of_names next h.2
    | .op x _ _ _ next _, h => by
      simp only [Scc.X86.Loader.stmtNamesOK, Bool.and_eq_true] at h
      simp only [AllHF]; exact ⟨hashFree_of_identOK h.1.1.1, allHF_of_names next h.2⟩
    | .print _ _ next _, h => by
      simp only [Scc.X86.Loader.stmtNamesOK, Bool.and_eq_true] at h
      simp only [AllHF]; exact allHF_of_names next h.2
    | .ifc _ _ _ t e, h => by
      simp only [Scc.X86.Loader.stmtNamesOK, Bool.and_eq_true] at h
      simp only [AllHF]; exact ⟨allHF_of_names t h.1.2, allHF_of_names e h.2⟩
    | .exit _, _ => by simp only [AllHF]
  theorem clausesHF_of_names : ∀ cl : Clauses, Scc.X86.Loader.clausesNamesOK Scc.A64.Loader.okcA cl = true →
      ClausesHF cl
    | .nil, _ => by simp only [ClausesHF]
    | .cons _ _ body rest, h => by
      simp only [Scc.X86.Loader.clausesNamesOK, Bool.and_eq_true] at h
      simp only [ClausesHF]; exact ⟨allHF_of_names body h.1.2, clausesHF_of_names rest h.2⟩
end

theorem allHF_of_progNames {p : AxCut.Prog} (h : Scc.X86.Loader.progNamesOK Scc.A64.Loader.okcA p = true) :
    ∀ d ∈ p.defs, AllHF d.body := by
  intro d hd
  simp only [Scc.X86.Loader.progNamesOK, List.all_eq_true] at h
  have := h d hd
  simp only [Scc.X86.Loader.defNamesOK, Bool.and_eq_true] at this
  exact allHF_of_names _ this.2

/-- `heapMonitor_boundary` (Scc/A64/ConcKC10.lean) on the parts of a boundary, with the number of blocks below the
frontier bounded by `FrBound` -/
theorem heapMonitor_rel {p : AxCut.Prog} {hooks : Bool} {routine : List Code} {ops : List MockOp}
    {c : MemCfg} (H : CfgCC c) {st : Pos.State} {cfgA : Config} {hs : HState} {σ : State} {kp : Nat}
    (R : K.Rel3 c routine (Program.ofOps ops) hooks p st cfgA hs σ kp) {B : Nat} (hfb : FrBound hs B) :
    ∃ below inUse, HeapShapeAt c σ below inUse ∧ below ≤ B ∧
      ∀ vars, hookKinds vars = ctxKinds st.ctx →
        64 * below + 64 ≤ (σ.maxHeap + 63) / 64 * 64 + 8 * 64 → heapMonitor c σ vars = .ok below := by
  obtain ⟨Γ', ι, κ, hkeys, RX, X3h, _⟩ := R
  obtain ⟨lin, lazy, live, Fr, I⟩ := X3h.href.conc
  obtain ⟨rootsM, w, f, h1, h2, h3, h4⟩ := heapInv_parts H RX X3h I
  have hsh := heapShapeAt_of_rel X3h.hrel I
  refine ⟨_, _, hsh, hfb _ _ _ _ _ I, fun vars hv hw => ?_⟩
  rw [← Scc.X86.Conc.ctxKinds_keys hkeys] at hv
  rw [← hv] at h1
  have hb := X3h.hrel.base
  have hFb := h4.frontier_block
  have hge : c.heapBase ≤ Fr := by
    unfold Scc.Heap.IsBlock at hFb; omega
  have h64 : (Fr - c.heapBase) % 64 = 0 := by
    unfold Scc.Heap.IsBlock at hFb; omega
  have := heapMonitor_ok (vars := vars) h1 h2 h3 h4 (by rw [hb] at hw; omega)
  rw [this, hb]
  rfl

/-- a configuration AT a statement boundary: its program counter IS the item of the position `kp` at which
`K.Rel3` holds (`BoundaryOf` allows the machine to be ahead by `#ctx` hooks) -/
def BoundaryAt (p : AxCut.Prog) (hooks : Bool) (routine : List Code) (ops : List MockOp) (c : MemCfg)
    (hk : Code → Bool) (P : Prog) (st : Pos.State) (X : MS) : Prop :=
  ∃ (cfgA : Config) (hs : HState) (kp : Nat), X.pc = pcOf hk routine kp ∧ X.out = cfgA.out ∧
    K.Rel3 c routine (Program.ofOps ops) hooks p st cfgA hs X.σ kp

theorem BoundaryAt.boundaryOf {p : AxCut.Prog} {hooks : Bool} {routine : List Code} {ops : List MockOp} {c : MemCfg}
    {hk : Code → Bool} {P : Prog} {st : Pos.State} {X : MS} (h : BoundaryAt p hooks routine ops c hk P st X) :
    BoundaryOf p hooks routine ops c hk P st X := by
  obtain ⟨cfgA, hs, kp, e, ho, R⟩ := h
  exact ⟨cfgA, hs, kp, by rw [e]; exact K.Tol.refl _ _, ho, R⟩

/-- THE HOOKS LIST THE RIGHT KINDS: at every configuration of the machine's run (from `asm_main`) that is AT a
statement boundary and at a hook item, the hook lists variables of the kinds of the positional state's context -/
def HooksKinds (p : AxCut.Prog) (hooks : Bool) (routine : List Code) (ops : List MockOp) (c : MemCfg)
    (hk : Code → Bool) (P : Prog) (args : List Word) : Prop :=
  ∀ n X st vs, StepsN P c n (initMS c hk routine args) X → BoundaryAt p hooks routine ops c hk P st X →
    P.items[X.pc]? = some (.hook vs) → hookKinds vs = ctxKinds st.ctx

/-- THE WINDOW: at every configuration of the machine's run that is AT a statement boundary with at most `B` blocks
below the allocation frontier, the frontier block lies in the window the monitor inspects -/
def WindowOK (p : AxCut.Prog) (hooks : Bool) (routine : List Code) (ops : List MockOp) (c : MemCfg)
    (hk : Code → Bool) (P : Prog) (args : List Word) (B : Nat) : Prop :=
  ∀ n X st below inUse, StepsN P c n (initMS c hk routine args) X → BoundaryAt p hooks routine ops c hk P st X →
    HeapShapeAt c X.σ below inUse → below ≤ B → 64 * below + 64 ≤ (X.σ.maxHeap + 63) / 64 * 64 + 8 * 64

theorem windowOK_small (p : AxCut.Prog) (hooks : Bool) (routine : List Code) (ops : List MockOp) (c : MemCfg)
    (hk : Code → Bool) (P : Prog) (args : List Word) {B : Nat} (hB : B ≤ 7) :
    WindowOK p hooks routine ops c hk P args B := by
  intro n X st below inUse _ _ _ hb
  omega

theorem hookPassFrom_of {p : AxCut.Prog} {hooks : Bool} {routine : List Code} {ops : List MockOp} {cfg : MonCfg}
    (H : CfgCC cfg.mem) {hk : Code → Bool} {P : Prog} {args : List Word} {B : Nat}
    (hKinds : HooksKinds p hooks routine ops cfg.mem hk P args)
    (hWin : WindowOK p hooks routine ops cfg.mem hk P args B)
    {n0 : Nat} {X0 : MS} (h0 : StepsN P cfg.mem n0 (initMS cfg.mem hk routine args) X0) (st : Pos.State) :
    HookPassFrom (MonPass cfg) cfg.mem hk P routine (Program.ofOps ops) hooks p st X0 B := by
  intro n X' st' cfg' hs' kp' vs _ hn e ho R hfb hv _
  have hB : BoundaryAt p hooks routine ops cfg.mem hk P st' X' := ⟨cfg', hs', kp', e, ho, R⟩
  obtain ⟨below, inUse, hsh, hle, hmon⟩ := heapMonitor_rel H R hfb
  exact ⟨below, hmon vs (hKinds (n0 + n) X' st' vs (h0.trans hn) hB hv)
    (hWin (n0 + n) X' st' below inUse (h0.trans hn) hB hsh hle)⟩

section Gen

/-! The standing hypotheses of this section (`include`) are those of `section Gen` of ConcKAllFuel.lean: label-safe,
linearly typed, at most 1024 xtors per type, the MOCK compilation `hcompM` with `CodeFits`, the AArch64 compilation,
pairwise distinct labels of the routine, integer parameters of the first definition, contexts of at most 140 variables. -/
variable (p : AxCut.Prog) (args : List Word) (hooks : Bool) (body routine : List Code)
  (nargs : Nat) (d0 : Def) (ops : List MockOp) (c' : Nat)
  (hsafe : LabelSafe p = true) (htp : LinTypedProg p) (hprog : K.ProgOK p)
  (hcompM : (compile mockSym hooks p).run 0 = .ok ((ops, nargs), c')) (hfit : CodeFits ops)
  (hcompX : compileProg a64Backend p hooks 0 = .ok (body, nargs, routine))
  (hnd : (labs routine).Nodup)
  (hd : p.defs.head? = some d0) (hentry : ∀ b ∈ d0.ctx, b.chi = .ext ∧ b.ty = .i64)
  (hlen : d0.ctx.length = args.length)
  (hcap : ∀ st, Reachable p ⟨d0.ctx, args.map .int, d0.body⟩ st → 2 * st.ctx.length ≤ 280)

include hsafe htp hprog hcompM hfit hcompX hnd hd hentry hlen hcap in
/-- EVERY AMOUNT OF MACHINE FUEL, THE HEAP MONITOR ON OR OFF, all programs, for any source of the peak hypothesis:
the result of the machine on a program that holds the routine is `outOfFuel`, or `done v` with `v` the result of
the positional machine — in particular never a report of the heap monitor — under the two hypotheses about the run -/
theorem programs_monitor_gen (hnostuck : ∀ fuel w, (Pos.run p args fuel).res ≠ .stuck w)
    (cfg : MonCfg) (H : CfgCC cfg.mem)
    (hb8 : cfg.mem.heapBase % 8 = 0) (hb0 : 0 < cfg.mem.heapBase)
    (Pk A M : Nat) (hA : ∀ d ∈ p.defs, AllocLe A d.body) (hM : ∀ d ∈ p.defs, stmtSize d.body ≤ M)
    (hbytes : 64 * (Pk + A + 2) ≤ cfg.mem.heapBytes)
    {hk : Code → Bool} {P : Prog} (HB : K.HoldsB hk P routine) (hK : HK hk)
    (hHF : ∀ d ∈ p.defs, AllHF d.body)
    (hfitX : cfg.mem.codeBase + 4 * ninstr routine < 2 ^ 64)
    (fuel' : Nat) (hf : fuel' * (M + 1) + stmtSize d0.body + 1 < 2 ^ 64)
    (hPH : PeakHyp p hooks routine ops cfg.mem hk P args d0 Pk (A * (fuel' * (M + 1) + stmtSize d0.body) + 1))
    (hKinds : HooksKinds p hooks routine ops cfg.mem hk P args)
    (hWin : WindowOK p hooks routine ops cfg.mem hk P args (Pk + 1)) :
    (runProg P args fuel' cfg).res = .outOfFuel ∨
      ∃ v out, Pos.run p args (fuel' * (M + 1) + stmtSize d0.body) = ⟨out, .done v⟩ ∧
        (runProg P args fuel' cfg).res = .done v := by
  have hmem : d0 ∈ p.defs := by
    cases hdefs : p.defs with
    | nil => rw [hdefs] at hd; simp at hd
    | cons d ds => rw [hdefs] at hd; simp at hd; subst hd; simp
  have hc0 := hcap _ Reachable.refl
  simp only at hc0
  obtain ⟨pre, σ0, kp0, a, En, hI⟩ := entry_setup p args hooks body routine nargs d0 ops c' hsafe htp
    hcompM hcompX hnd hd hentry hlen hc0 cfg.mem H hb0 (by omega) HB (Q := fun _ => False) (Or.inl hK)
  obtain ⟨n0, hn0P⟩ := K.MStepsK.countP (pass := MonPass cfg) hI
  have hn0 : StepsN P cfg.mem n0 (initMS cfg.mem hk routine args) ⟨σ0, pcOf hk routine kp0, []⟩ := hn0P.forget
  have T := monTrack (pass := MonPass cfg) H hb8 HB hnd hfitX En.split En.clean hooks p 0 ops nargs c' hcompM hsafe htp
    hfit En.defs hprog Pk (A * (fuel' * (M + 1) + stmtSize d0.body) + 1) A hA hbytes hK hHF
  have I0 : MonRun (MonPass cfg) cfg.mem hk P routine (Program.ofOps ops) hooks p A Pk _
      (fuel' * (M + 1) + stmtSize d0.body) ⟨d0.ctx, args.map .int, d0.body⟩ [] ⟨σ0, pcOf hk routine kp0, []⟩ :=
    ⟨_, _, 1, ⟨⟨En.bd hcap, hA d0 hmem, valAll_ints _ args, frBound_init hb0 (by omega) (by omega),
      frBound_init hb0 (by omega) (Nat.le_refl _), hPH n0 _ hn0⟩, hHF d0 hmem, valAll_ints _ args,
      hookPassFrom_of H hKinds hWin hn0 ⟨d0.ctx, args.map .int, d0.body⟩⟩, by rw [En.next1]; omega, by omega⟩
  have hmain := En.main
  have hargs := En.nargs
  have hrs := run_eq_runState hd hlen (fuel' * (M + 1) + stmtSize d0.body)
  cases hres : Pos.run p args (fuel' * (M + 1) + stmtSize d0.body) with
  | mk out res =>
  cases res with
  | stuck w => exact absurd (by rw [hres]) (hnostuck (fuel' * (M + 1) + stmtSize d0.body) w)
  | done v =>
    rw [hrs] at hres
    obtain ⟨n, XL, accL, g1, _, _, g2, g3, _⟩ := T.run_done (r := 0) (MonRun.done H hb8 HB hnd hfitX En.split En.clean
      hooks p 0 ops nargs c' hcompM hsafe htp hfit En.defs hprog hbytes hK) I0 hres
    have hN := hn0P.trans g1
    by_cases hle : fuel' ≤ n0 + n
    · left
      rw [runProg_eq_runLoop hmain hargs]
      exact runLoop_pass_outOfFuel hN fuel' 0 0 hle
    · right
      refine ⟨v, out, rfl, ?_⟩
      obtain ⟨s', b', hs'⟩ := runLoop_passN hN 0 0
      obtain ⟨g, rfl⟩ : ∃ g, fuel' = n0 + n + (g + 1) := ⟨fuel' - (n0 + n) - 1, by omega⟩
      rw [runProg_eq_runLoop hmain hargs]
      have := hs' (g + 1)
      simp only [MS.mach, initMS] at this ⊢
      rw [this]
      exact (runLoop_ret (cfg := cfg) g2 g3 XL.out s' b' g).2
  | outOfFuel =>
    left
    rw [hrs] at hres
    obtain ⟨_, _, _, _, n, X, _, hX, hw, _⟩ := T.run (fuel' * (M + 1) + stmtSize d0.body) 0 _ _ _ I0
    have hn : fuel' ≤ n := Nat.le_trans (weight_ge hM (fuel' * (M + 1) + stmtSize d0.body) fuel'
      ⟨d0.ctx, args.map .int, d0.body⟩ [] (hM d0 hmem) (valAll_ints _ args) (by rw [hres]) (Nat.le_refl _)) hw
    have hN := hn0P.trans hX
    rw [runProg_eq_runLoop hmain hargs]
    exact runLoop_pass_outOfFuel hN fuel' 0 0 (by omega)

include hsafe htp hprog hcompM hfit hcompX hnd hd hentry hlen hcap in
/-- … under a bound `D` on the fields of the object and closure values of the positional machine's environments -/
theorem programs_monitor_size (hnostuck : ∀ fuel w, (Pos.run p args fuel).res ≠ .stuck w)
    (D : Nat) (hD : ∀ st, Reachable p ⟨d0.ctx, args.map .int, d0.body⟩ st → valsFields st.env ≤ D)
    (cfg : MonCfg) (H : CfgCC cfg.mem)
    (hb8 : cfg.mem.heapBase % 8 = 0) (hb0 : 0 < cfg.mem.heapBase)
    (A M : Nat) (hA : ∀ d ∈ p.defs, AllocLe A d.body) (hM : ∀ d ∈ p.defs, stmtSize d.body ≤ M)
    (hbytes : 64 * (D + A + 2) ≤ cfg.mem.heapBytes)
    {hk : Code → Bool} {P : Prog} (HB : K.HoldsB hk P routine) (hK : HK hk)
    (hHF : ∀ d ∈ p.defs, AllHF d.body)
    (hfitX : cfg.mem.codeBase + 4 * ninstr routine < 2 ^ 64)
    (fuel' : Nat) (hf : fuel' * (M + 1) + stmtSize d0.body + 1 < 2 ^ 64)
    (hKinds : HooksKinds p hooks routine ops cfg.mem hk P args)
    (hWin : WindowOK p hooks routine ops cfg.mem hk P args (D + 1)) :
    (runProg P args fuel' cfg).res = .outOfFuel ∨
      ∃ v out, Pos.run p args (fuel' * (M + 1) + stmtSize d0.body) = ⟨out, .done v⟩ ∧
        (runProg P args fuel' cfg).res = .done v :=
  programs_monitor_gen p args hooks body routine nargs d0 ops c' hsafe htp hprog hcompM hfit hcompX hnd hd hentry hlen
    hcap hnostuck cfg H hb8 hb0 D A M hA hM hbytes HB hK hHF hfitX fuel' hf (peakHyp_of_data hD) hKinds hWin

end Gen

end Scc.A64.ConcK
