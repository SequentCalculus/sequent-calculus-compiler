/-
  Scc.A64.ConcKPeakRun — THE FOOTPRINT BOUND OF C10 ON THE AArch64 RUNS OF ALL PROGRAMS: if at no statement boundary of
  the run more than `Pk` blocks are in use (`PeakFrom`), the allocation frontier never rises above `Pk + 1` blocks, so
  a heap of `64·(Pk + A + 2)` bytes is enough for a run of ANY length (`A`: `AllocLe A`).  The invariant and its
  step are those of `Scc/Backend/TrackHeap.lean` (`PeakInv`, `PeakInv.step`, `peakTrack`) for the boundaries
  `ConcK.boundaries`; this file names the instance and the relation of its chains (`ChainRel`).
-/
import Scc.A64.ConcKRun

namespace Scc.A64.ConcK

open Scc.AxCut Scc.Backend Scc.Backend.Abs Scc.A64.Ref
open Scc.Props.C14Generic (LabelSafe)
open Scc.Props.C06Generic (outAfter WithinCapacity Reachable EnoughHeap CodeFits statesOf stopsWithin)
open Scc.Heap (HState InvS InvW Exhausted)
open Scc.Heap.Refine (HRef FrLe Room FrPk)
open Scc.X86.Conc (FrBound LiveLe LiveLe0)
open Scc.X86.Ref.K (AllocLe AllocLeClauses ValAll allocArity allocArity_le hered_step hered_allocLe)

/-- THE PEAK HYPOTHESIS (`Scc/Backend/TrackHeap.lean`) at the boundaries of the AArch64 run: at every statement
boundary the machine reaches from `X` (up to `#ctx` hooks, `Tol`; with at most `C` blocks below the frontier), at
most `Pk` blocks are in use -/
abbrev PeakFrom (c : MemCfg) (hkf : Code → Bool) (Pm : Prog) (cs : List Code) (P : Program) (hooks : Bool)
    (prog : AxCut.Prog) : Pos.State → MS → Nat → Nat → Prop :=
  Track.PeakFrom (StepsN Pm c) prog (Bd c hkf Pm cs P hooks prog)

/-- … and what the runs under the footprint bound keep at a boundary -/
abbrev PeakInv (c : MemCfg) (hkf : Code → Bool) (Pm : Prog) (cs : List Code) (P : Program) (hooks : Bool)
    (prog : AxCut.Prog) :
    Nat → Nat → Nat → Pos.State → List (Bool × Word) → Config → HState → MS → Nat → Prop :=
  Track.PeakInv (StepsN Pm c) prog (Bd c hkf Pm cs P hooks prog)

/-- the relation of the chains under the footprint bound: the configuration is a boundary up to `Tol`, with the
two bounds on the frontier -/
def ChainRel (c : MemCfg) (hkf : Code → Bool) (Pm : Prog) (cs : List Code) (P : Program) (hooks : Bool)
    (prog : AxCut.Prog) (Pk C : Nat) (st : Pos.State) (X : MS) : Prop :=
  ∃ cfg hs kp, K.Tol Pm (pcOf hkf cs kp) X.pc ∧ X.out = cfg.out ∧ K.Rel3 c cs P hooks prog st cfg hs X.σ kp ∧
    FrBound hs (Pk + 1) ∧ FrBound hs C

theorem chainRel_of_peakRun {c : MemCfg} {hkf : Code → Bool} {Pm : Prog} {cs : List Code} {P : Program} {hooks : Bool}
    {prog : AxCut.Prog} {A Pk C : Nat} (st : Pos.State) (X : MS)
    (h : ∃ r acc, Track.PeakRun (StepsN Pm c) prog (Bd c hkf Pm cs P hooks prog) A Pk C r st acc X) :
    ChainRel c hkf Pm cs P hooks prog Pk C st X := by
  obtain ⟨_, _, cfg, hs, Cb, I, _, hC⟩ := h
  obtain ⟨kp, T, R⟩ := I.bd.pos
  exact ⟨cfg, hs, kp, T, I.bd.out.trans I.bd.cout.symm, R, I.fb,
    fun rs lin lazy live F J => by have := I.cb rs lin lazy live F J; omega⟩

end Scc.A64.ConcK
