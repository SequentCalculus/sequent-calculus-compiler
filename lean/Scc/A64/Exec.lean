/-
  Scc.A64.Exec — SPEC glue between the backend model and the machine model: straight-line execution
  of a list of backend instructions (`Code`, Instr.lean) on the machine state of Machine.lean, with
  the external print calls, and the reading of a backend temporary in a machine state.
  This is what the per-method theorems (Props/C07A64, C13A64) talk about.  Core imports only.
-/
import Scc.A64.Instr

namespace Scc.A64

/-- One backend instruction, executed as the machine instruction its text parses to.  Labels,
directives and comments are no-ops (fall-through); branching instructions are not straight-line
code (`Instr.exec` returns an error for them); `BL` is handled by `execCodesOut`. -/
def execCode (c : MemCfg) (code : Code) (σ : State) : Except Fault State :=
  match code with
  | .LAB _ | .TEXT | .GLOBAL _ | .COMMENT _ => .ok σ
  | code =>
    match code.toInstr with
    | none => .error "no such register"
    | some i => i.exec c σ

def execCodes (c : MemCfg) : List Code → State → Except Fault State
  | [], σ => .ok σ
  | code :: rest, σ =>
    match execCode c code σ with
    | .ok σ' => execCodes c rest σ'
    | .error e => .error e

/-- Straight-line execution including `BL print_i64` / `BL println_i64` (`State.callExternal`):
returns the final state and the print calls made, in order. -/
def execCodesOut (c : MemCfg) : List Code → State → Except Fault (State × List (Bool × Word))
  | [], σ => .ok (σ, [])
  | .BL l :: rest, σ =>
    if isExternal l then
      match σ.callExternal with
      | .error e => .error e
      | .ok (w, σ') =>
        match execCodesOut c rest σ' with
        | .ok (σ'', out) => .ok (σ'', (l == "println_i64", w) :: out)
        | .error e => .error e
    else .error "internal call"
  | code :: rest, σ =>
    match execCode c code σ with
    | .ok σ' => execCodesOut c rest σ'
    | .error e => .error e

/-- The machine register of a logical register number (`none` if it does not exist). -/
def xreg (r : Nat) : Option (Fin 31) :=
  if h : archNumber r < 31 then some ⟨archNumber r, h⟩ else none

/-- Byte address of spill slot `p` for the current stack pointer. -/
def State.slotAddr (σ : State) (p : Nat) : Nat := (σ.sp + imm (stackOffset p)).toNat

/-- Content of a backend temporary in a machine state: `none` = undefined (or no such register). -/
def State.tempVal (σ : State) : Temporary → Option Word
  | .register (.x r) =>
    match xreg r with
    | some n => σ.regs[n]
    | none => none
  | .register .sp => some σ.sp
  | .register .xzr => some 0
  | .spill p => σ.stack[σ.slotAddr p]?


/-- Where compiled code keeps SP between the prologue and the epilogue: 16-byte aligned, the spill
area `[SP, SP + SPILL_SPACE)` inside the stack region, at least `room` bytes of stack below SP;
and the memory layout is sane (heap below the stack, no address wraps). -/
structure SpOk (c : MemCfg) (sp : Word) (room : Nat) : Prop where
  aligned : sp.toNat % 16 = 0
  low : c.stackLow + room ≤ sp.toNat
  high : sp.toNat + SPILL_SPACE ≤ c.stackTop
  disjoint : c.heapBase + c.heapBytes ≤ c.stackLow
  top : c.stackTop < 2 ^ 64

/-- A temporary that can hold (half of) a variable: a non-reserved register or spill slot. -/
def Temporary.isVar : Temporary → Bool
  | .register (.x r) => decide (RESERVED ≤ r) && decide (r < REGISTER_NUM)
  | .register _ => false
  | .spill p => decide (RESERVED_SPILLS ≤ p) && decide (p < SPILL_NUM)

end Scc.A64
