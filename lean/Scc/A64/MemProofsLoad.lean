/-
  Scc.A64.MemProofsLoad — the leaves of `load` (memory.rs of axcut2aarch64) on the view: load_field,
  share_block of the pointer just loaded, release_block, and the moves that bring a spilled block pointer
  into TEMPORARY_TEMP (X10, saved in the spill slot SPILL_TEMP meanwhile), against `Scc.Heap.rd` /
  `shareBlock` / `releaseBlock`, for every placement of the loaded variables.  `loadSpec` packs them as the
  leaf contracts of the backend-independent `Scc.Mem.LoadSpec.loadFields_does` (Mem/Load.lean).
-/
import Scc.A64.MemProofsStoreFields
import Scc.Mem.Load

namespace Scc.A64

open Scc.AxCut
open Scc.Backend (GenM TempNum freshLabel)
open Scc.Heap (HOk rd_eq_ok wr_eq_ok)

section Prim
variable {c : MemCfg} {μ : MState} {h h' : Scc.Heap.HState}

/-- `t := [mbr + off]` (through TEMP for a spilled `t`) is the model's `rd` -/
theorem m_loadFieldCode (C : HeapCfgOK c) (H : HRelM c μ h) {t : Temporary} (ht : t.isVar)
    {mbr : Nat} (hb : mbr < 30) {b : Word} (hvb : μ.val (.register (.x mbr)) = some b)
    {off : Nat} (ho : off ≤ 32760) (ho8 : off % 8 = 0) {v : Nat}
    (hrd : Scc.Heap.rd h (b.toNat + off) = .ok v) :
    ∃ μ' w, mFwd c (Mem.loadFieldC t (.x mbr) (off : Int)) μ = some (μ', .next) ∧ w.toNat = v ∧
      μ'.val t = some w ∧ μ'.val (.register (Mem.shareReg t)) = some w ∧ μ'.heap = μ.heap ∧ μ'.flags = μ.flags ∧
      (∀ u, u ≠ t → u ≠ .register (.x 2) → μ'.val u = μ.val u) := by
  obtain ⟨hok, hv⟩ := rd_eq_ok.1 hrd
  have ha := haddr_ok C H ho ho8 hok
  have hm : maddr c μ (.x mbr) (off : Int) = some (b.toNat + off) := by rw [maddr_eq hb hvb, ha]
  cases t with
  | register reg =>
    cases reg with
    | x r =>
      obtain ⟨_, h2⟩ := isVar_reg ht
      refine ⟨μ.setT (.register (.x r)) (some (μ.heap (b.toNat + off))), μ.heap (b.toNat + off), ?_,
        by rw [hv, H.mem], by simp, by simp [Mem.shareReg], rfl, rfl, fun u hu _ => by simp [hu]⟩
      exact mFwd_step c (mexecC_LDRh c h2 hm) (mFwd_nil c _)
    | sp => simp [Temporary.isVar] at ht
    | xzr => simp [Temporary.isVar] at ht
  | spill p =>
    obtain ⟨_, h2⟩ := isVar_spill ht
    refine ⟨(μ.setT (.register (.x 2)) (some (μ.heap (b.toNat + off)))).setT (.spill p)
        (some (μ.heap (b.toNat + off))), μ.heap (b.toNat + off), ?_, by rw [hv, H.mem], by simp,
      by simp [Mem.shareReg, TEMP_eq], rfl, rfl, fun u hu hT => by simp [hu, hT]⟩
    have e2 := mexecC_STRs c (μ := μ.setT (.register (.x 2)) (some (μ.heap (b.toNat + off))))
      (by decide : 2 < 30) h2
    have hv2 : (μ.setT (.register (.x 2)) (some (μ.heap (b.toNat + off)))).val (.register (.x 2)) =
        some (μ.heap (b.toNat + off)) := by simp
    rw [hv2] at e2
    exact mFwd_step c (mexecC_LDRh c (by decide) hm) (mFwd_step c e2 (mFwd_nil c _))

/-- the pointer just loaded into `t` is shared in the register through which `t` is reached: `share_block` for it
is `shareCode` of that register -/
theorem shareBlockNC_shareReg (t : Temporary) (n k : Nat) :
    Mem.shareBlockNC (.register (Mem.shareReg t)) n k = shareCode (Mem.shareReg t) n (labName (k + 1)) := by
  cases t <;> rfl

theorem labsIn_shareCode (r : Register) (n k : Nat) : LabsIn (shareCode r n (labName (k + 1))) k (k + 1) := by
  intro l hl
  simp only [shareCode, List.mem_cons, List.mem_append, reduceCtorEq, false_or, or_false,
    Code.LAB.injEq, List.not_mem_nil] at hl
  exact ⟨k + 1, hl, by omega, by omega⟩

/-- `share_block` on the view, pointer in ANY register but TEMP2: one more reference -/
theorem m_share1 (C : HeapCfgOK c) (H : HRelM c μ h) {r : Nat} (hr : r < 30) (hr3 : r ≠ 3) {p : Word}
    (hv : μ.val (.register (.x r)) = some p) (hop : Scc.Heap.shareBlock h p.toNat 1 = .ok h')
    (hno : p ≠ 0 → h.mem.get p.toNat + 1 < 2 ^ 64) (l : String) :
    ∃ μ', mFwd c (shareCode (.x r) 1 l) μ = some (μ', .next) ∧ HRelM c μ' h' ∧
      (∀ u, u ≠ .register (.x 3) → μ'.val u = μ.val u) := by
  exact m_share C H hr hr3 hv (by decide) hop hno l

end Prim

/-- the model's kind of a variable: `true` = it has a pointer part (not `ext`) -/
def kindOf (b : Binding) : Bool := b.chi != .ext

theorem kindOf_eq : kindOf = Scc.Mem.kindOf := rfl

theorem posTemp_odd_ne {n mbr : Nat} (hme : mbr % 2 = 0) : posTemp (2 * n + 1) ≠ .register (.x mbr) := by
  unfold posTemp
  split
  · intro e
    have : 2 * n + 1 + 4 = mbr := by simpa using e
    omega
  · intro e; cases e

/-- the flag after a level: at the last (outermost) block the register has been restored (the same function as
`Scc.Mem.outFlag`, over which the contract of `load_fields` is stated) -/
def outFlag (rf' : Bool) : BlockPosition → Bool
  | .last => false
  | .other => rf'

theorem outFlag_imp {rf' : Bool} {pos : BlockPosition} (h : outFlag rf' pos = true) : rf' = true := by
  cases pos <;> simp [outFlag] at h; exact h

section Leaves
variable {c : MemCfg}

/-- `release_block` on the view: the block in register `X(mbr)` becomes the head of the linear free list -/
theorem m_release (C : HeapCfgOK c) {μ : MState} {s1 s2 : Scc.Heap.HState} (H : HRelM c μ s1) {mbr : Nat}
    (hm2 : mbr < 30) {wb : Word} (hvb : μ.val (.register (.x mbr)) = some wb)
    (hrel : Scc.Heap.releaseBlock s1 wb.toNat = .ok s2) :
    ∃ μ1, mFwd c (releaseBlock (.x mbr)) μ = some (μ1, .next) ∧ HRelM c μ1 s2 ∧
      (∀ u, u ≠ .register (.x 0) → μ1.val u = μ.val u) := by
  simp only [Scc.Heap.releaseBlock] at hrel
  cases hw : Scc.Heap.wr s1 wb.toNat s1.heap with
  | error e => simp [hw] at hrel
  | ok sx =>
    simp only [hw, Except.ok.injEq] at hrel
    subst hrel
    obtain ⟨hok, rfl⟩ := wr_eq_ok.1 hw
    obtain ⟨wH, hH, eH⟩ := H.heap
    have ha : haddr c wb 0 = some wb.toNat := haddr_ok0 C H hok
    have hm : maddr c μ (.x mbr) NEXT_ELEMENT_OFFSET = some wb.toNat := by
      rw [next_zero, maddr_eq hm2 hvb, ha]
    have hsv : srcVal μ HEAP = some wH := by simp [srcVal, HEAP_eq, hH]
    refine ⟨(μ.setH wb.toNat wH).setT (.register (.x 0)) (some wb), ?_, ?_, ?_⟩
    · have e3 := mexecC_MOVR c (μ := μ.setH wb.toNat wH) (by decide : 0 < 30) hm2
      rw [MState.setH_val, hvb] at e3
      exact mFwd_step c (mexecC_STRh c hsv hm) (mFwd_step c e3 (mFwd_nil c _))
    · obtain ⟨wf, hwf, ewf⟩ := H.free
      have := H.setH wb.toNat wH
      rw [eH] at this
      exact ⟨this.base, this.limit, this.mem, ⟨wb, by simp, rfl⟩, ⟨wf, by simp [hwf], ewf⟩⟩
    · intro u hu; simp [hu]

theorem top_eq (m : Nat) (cT cE : List Code) (k : Nat) :
    Mem.loadCode.top m cT cE k =
      ([.COMMENT "#load from memory"] ++ loadPtr (posTemp m) ++
        [.LDR TEMP2 (Mem.shareReg (posTemp m)) REFERENCE_COUNT_OFFSET] ++
        [.COMMENT "##check refcount", .CMPI TEMP2 0]) ++
      ([.BEQ (labName (k + 1))] ++
        ([.COMMENT "##either decrement refcount and share children...", .SUBI TEMP2 TEMP2 1,
          .STR TEMP2 (Mem.shareReg (posTemp m)) REFERENCE_COUNT_OFFSET] ++ cE) ++
        [.B (labName (k + 2)), .LAB (labName (k + 1))] ++
        (.COMMENT "##... or release blocks onto linear free list when loading" :: cT) ++
        [.LAB (labName (k + 2))]) := by
  show Mem.loadHead (posTemp m) ++ Mem.loadTopC (Mem.shareReg (posTemp m)) cT cE k = _
  cases posTemp m <;> rfl

/-- the head of `load`: the object pointer in a register `X(j)`, the count in TEMP2 and compared with 0 -/
theorem m_loadTop_head (C : HeapCfgOK c) {μ : MState} {h : Scc.Heap.HState} (H : HRelM c μ h) {m : Nat}
    (hm : m < 281) {pw : Word} (hp : μ.val (posTemp m) = some pw) (hok : HOk h pw.toNat) :
    ∃ j, Mem.shareReg (posTemp m) = .x j ∧ j < 30 ∧ j ≠ 3 ∧ ∃ μ1 : MState,
      mFwd c ([.COMMENT "#load from memory"] ++ loadPtr (posTemp m) ++
        [.LDR TEMP2 (Mem.shareReg (posTemp m)) REFERENCE_COUNT_OFFSET] ++
        [.COMMENT "##check refcount", .CMPI TEMP2 0]) μ =
        some (μ1.setF (some (μ.heap pw.toNat, 0)), .next) ∧
      μ1.val (.register (.x j)) = some pw ∧ μ1.val (.register (.x 3)) = some (μ.heap pw.toNat) ∧
      μ1.heap = μ.heap ∧ (∀ u, u ≠ .register (.x 2) → u ≠ .register (.x 3) → μ1.val u = μ.val u) := by
  have htm := isVar_posTemp hm
  have ha : haddr c pw 0 = some pw.toNat := haddr_ok0 C H hok
  have hi0 : okImm12 0 = true := by decide
  obtain ⟨j, hj, j30, j2, j3, _, μ0, x0, v0, hh0, F0⟩ := m_loadPtr (c := c) (μ := μ) htm
  have v0' : μ0.val (.register (.x j)) = some pw := v0.trans hp
  have hm0 : maddr c μ0 (.x j) REFERENCE_COUNT_OFFSET = some pw.toNat := by
    rw [refcount_zero, maddr_eq j30 v0', ha]
  have j3' : ¬ Temporary.register (.x j) = .register (.x 3) := reg_ne j3
  refine ⟨j, hj, j30, j3, μ0.setT (.register (.x 3)) (some (μ.heap pw.toNat)), ?_, by simp [j3', v0'], by simp, hh0,
    fun u h2 h3 => by simp only [MState.setT_val, if_neg h3]; exact F0 u h2⟩
  rw [hj]
  refine mFwd_seq c (mFwd_seq c (mFwd_seq c (mFwd_comment c _ μ) x0)
    (mFwd_step c (mexecC_LDRh c (by decide : 3 < 30) hm0) (mFwd_nil c _))) ?_
  rw [hh0]
  simp [mFwd_cons, mFwd_nil, mcont, mexecC, mexec, TEMP2_eq, regOpnd, hi0, imm_zero]

/-- the contracts of the leaves of `load_fields`: `load_field` goes through TEMP for a spilled target, and the
pointer it leaves there is shared (through TEMP2); block pointers are in even registers from X4 on -/
def loadSpec (C : HeapCfgOK c) : Scc.Mem.LoadSpec (memView c) Mem.loadCode where
  toStoreSpec := memSpec C
  ttPos := 6
  slotT := .spill 0
  isTT := fun u => decide (u = .register (.x 10))
  isTT_iff := fun {u} => by
    show decide (u = .register (.x 10)) = true ↔ u = .register (.x 10)
    simp
  blkR := fun r => 4 ≤ r ∧ r < 30 ∧ r % 2 = 0
  blkR_ok := fun {r : Nat} (h : 4 ≤ r ∧ r < 30 ∧ r % 2 = 0) =>
    (⟨h.2.1, by omega, by omega⟩ : r < 30 ∧ r ≠ 2 ∧ r ≠ 3)
  blkR_odd := fun h _ => posTemp_odd_ne h.2.2
  blkR_ne_heap := fun {r : Nat} (h : 4 ≤ r ∧ r < 30 ∧ r % 2 = 0) => reg_ne (show r ≠ 0 by omega)
  blkR_regOf := fun {m} _ h => by
    have h : (!decide (2 * m + 4 < 30)) = false := h
    simp only [Bool.not_eq_false', decide_eq_true_eq] at h
    show 4 ≤ 2 * m + 4 ∧ 2 * m + 4 < 30 ∧ (2 * m + 4) % 2 = 0
    omega
  pos_regOf := fun {m} _ h => by
    have h : (!decide (m + 4 < 30)) = false := h
    simp only [Bool.not_eq_false', decide_eq_true_eq] at h
    exact posTemp_reg h
  pos_inj := fun _ _ e => posTemp_inj.1 e
  isSpill_mono := fun {m m'} hle h => by
    have h : (!decide (m + 4 < 30)) = true := h
    show (!decide (m' + 4 < 30)) = true
    simp only [Bool.not_eq_true', decide_eq_false_iff_not] at h ⊢
    omega
  spill := fun {m0} hm0 hs0 => by
    exact {
      tt_blk := (⟨by omega, by omega, rfl⟩ : 4 ≤ 10 ∧ 10 < 30 ∧ 10 % 2 = 0)
      tt_pos := rfl
      tt_lt := fun {m} h => by
        have h : (!decide (m + 4 < 30)) = true := h
        simp only [Bool.not_eq_true', decide_eq_false_iff_not] at h
        show 6 < m
        omega
      pos_ne_slot := fun {m} _ => by
        show posTemp m ≠ .spill 0
        unfold posTemp
        split
        · intro e; cases e
        · intro e; injection e with e; omega
      slot_keep := fun e => by rcases e with e | e <;> cases e
      slot_ne_heap := fun e => by cases e
      evac_does := fun {μ s} H =>
        ⟨_, mFwd_step c (mexecC_STRs c (μ := μ) (by decide : 10 < 30) (by decide : 0 < 256)) (mFwd_nil c _),
          H.setT (by simp) (by simp) _, fun u hu => by
          have hu : u ≠ .spill 0 := hu
          show (μ.setT (.spill 0) (μ.val (.register (.x 10)))).val u = μ.val u
          simp [hu], by
          show (μ.setT (.spill 0) (μ.val (.register (.x 10)))).val (.spill 0) = μ.val (.register (.x 10))
          simp⟩
      ldBlk_does := fun {μ s m} H hm hs => by
        have hs : (!decide (m + 4 < 30)) = true := hs
        simp only [Bool.not_eq_true', decide_eq_false_iff_not] at hs
        have hm : m < 281 := hm
        refine ⟨_, mFwd_step c (mexecC_LDRs c (μ := μ) (by decide : 10 < 30) (p := m - 25) (by omega))
          (mFwd_nil c _), H.setT (by simp) (by simp) _,
          fun u hu => by
            have hu : u ≠ .register (.x 10) := hu
            show (μ.setT (.register (.x 10)) (μ.val (.spill (m - 25)))).val u = μ.val u
            simp [hu], ?_⟩
        show (μ.setT (.register (.x 10)) (μ.val (.spill (m - 25)))).val (.register (.x 10)) = μ.val (posTemp m)
        rw [posTemp_spill hs]; simp
      restore_does := fun {μ s} H =>
        ⟨_, mFwd_step c (mexecC_LDRs c (μ := μ) (by decide : 10 < 30) (by decide : 0 < 256)) (mFwd_nil c _),
          H.setT (by simp) (by simp) _,
          fun u hu => by
            have hu : u ≠ .register (.x 10) := hu
            show (μ.setT (.register (.x 10)) (μ.val (.spill 0))).val u = μ.val u
            simp [hu], by
          show (μ.setT (.register (.x 10)) (μ.val (.spill 0))).val (.register (.x 10)) = μ.val (.spill 0)
          simp⟩ }
  ldF_does := fun {μ s m r b num off v} H hm hr hvb ho hrd => by
    obtain ⟨b1, b2⟩ := heapFieldOffset_bounds num.toNat off (by cases num <;> decide) ho
    obtain ⟨n0, n1, n2, n3⟩ := posTemp_ne_low hm
    obtain ⟨μ', w, x, ew, v1, -, hp, -, F⟩ := m_loadFieldCode C H (isVar_posTemp hm) hr.1 hvb b1 b2 hrd
    rw [← fieldOffset_nat] at x
    refine ⟨μ', ?_, H.of_frame hp (F _ (Ne.symm n0) (reg_ne (by decide))) (F _ (Ne.symm n1) (reg_ne (by decide))),
      fun u hu => F u hu.2 (fun e => hu.1 (Or.inl e)), w, v1, ew⟩
    exact x
  ldS_does := fun {μ s s' m r b off pv} k H hm hr hvb ho hrd hsh hno => by
    obtain ⟨b1, b2⟩ := heapFieldOffset_bounds 0 off (by decide) ho
    obtain ⟨n0, n1, n2, n3⟩ := posTemp_ne_low hm
    obtain ⟨μ2, p, x2, ep, v2, v2j, hp2, -, F2⟩ := m_loadFieldCode C H (isVar_posTemp hm) hr.1 hvb b1 b2 hrd
    have H2 : HRelM c μ2 s := H.of_frame hp2 (F2 _ (Ne.symm n0) (reg_ne (by decide)))
      (F2 _ (Ne.symm n1) (reg_ne (by decide)))
    obtain ⟨j, hj, j30, -, j3⟩ := shareReg_spec (isVar_posTemp hm)
    rw [hj] at v2j
    rw [← ep] at hsh
    have hno' : p ≠ 0 → s.mem.get p.toNat + 1 < 2 ^ 64 := fun hp0 =>
      Scc.Heap.shareBlock_lt hsh hno (fun e => hp0 (BitVec.eq_of_toNat_eq (by simpa using e)))
    obtain ⟨μ3, x3, H3, F3⟩ := m_share1 C H2 j30 j3 v2j hsh hno' (labName (k + 1))
    have x2' : mFwd c (Mem.loadFieldC (posTemp m) (.x r) (fieldOffset 0 off)) μ = some (μ2, .next) := by
      rw [fieldOffset_nat]; exact x2
    refine ⟨μ3, ?_, H3, fun u hu => ?_, p, ?_, ep⟩
    · show mFwd c (Mem.loadFieldC (posTemp m) (.x r) (fieldOffset 0 off) ++
        Mem.shareBlockNC (.register (Mem.shareReg (posTemp m))) 1 k) μ = some (μ3, .next)
      rw [shareBlockNC_shareReg, hj]
      exact mFwd_seq c x2' x3
    · show μ3.val u = μ.val u
      rw [F3 u (fun e => hu.1 (Or.inr e))]; exact F2 u hu.2 (fun e => hu.1 (Or.inl e))
    · show μ3.val (posTemp m) = some p
      rw [F3 _ n3]; exact v2
  release_does := fun {μ s s' r b} H (hr : 4 ≤ r ∧ r < 30 ∧ r % 2 = 0) hvb hrel => by
    obtain ⟨μ1, x1, H1, F1⟩ := m_release C H hr.2.1 hvb hrel
    exact ⟨μ1, x1, H1, fun u hu => F1 u hu.2, trivial⟩
  top_then := fun {μ s m pw cT cE k0 k P} H hm hp hrd hlE hT => by
    have hlE : LabsIn cE k0 k := labsIn_iff.2 hlE
    obtain ⟨hok, hcnt⟩ := rd_eq_ok.1 hrd
    obtain ⟨j, hj, j30, j3, μ1, e1, v1, v3, hh1, F1⟩ := m_loadTop_head C H hm hp hok
    have hx0 : μ.heap pw.toNat = 0#64 := BitVec.eq_of_toNat_eq (by rw [← H.mem, ← hcnt]; rfl)
    have H1 : HRelM c (μ1.setF (some (μ.heap pw.toNat, 0))) s :=
      (H.of_frame hh1 (F1 _ (by simp) (by simp)) (F1 _ (by simp) (by simp))).setF _
    obtain ⟨μ', x, p⟩ := hT _ H1 (fun u hu => by
      show (μ1.setF (some (μ.heap pw.toNat, 0))).val u = μ.val u
      simp only [MState.setF_val]; exact F1 u (fun e => hu (Or.inl e)) (fun e => hu (Or.inr e)))
    refine ⟨μ', ?_, p⟩
    show mFwd c (Mem.loadCode.top m cT cE k) μ = some (μ', .next)
    rw [top_eq, mFwd_pre c e1]
    rw [hx0] at x ⊢
    refine mFwd_ite_then c _ _ _ _ _ _ (a := 0#64) rfl ?_
      (mFwd_seq c (a := [.COMMENT "##... or release blocks onto linear free list when loading"])
        (mFwd_comment c _ _) x)
    rw [skipTo_append]
    simp only [skipTo]
    exact hlE.skipTo_none (Or.inr (by omega))
  top_else := fun {μ s s0 m pw cT cE k0 k cnt P} H hm hp hrd hz hwr hlT hE => by
    have hlT : LabsIn cT k0 k := labsIn_iff.2 hlT
    obtain ⟨hok, hcnt⟩ := rd_eq_ok.1 hrd
    obtain ⟨j, hj, j30, j3, μ1, e1, v1, v3, hh1, F1⟩ := m_loadTop_head C H hm hp hok
    have ha : haddr c pw 0 = some pw.toNat := haddr_ok0 C H hok
    have hi1 : okImm12 1 = true := by decide
    have j3' : ¬ Temporary.register (.x j) = .register (.x 3) := reg_ne j3
    have hx0 : ¬ μ.heap pw.toNat = 0#64 := fun e => hz (by rw [hcnt, H.mem, e]; rfl)
    obtain ⟨_, rfl⟩ := wr_eq_ok.1 hwr
    have hw : (μ.heap pw.toNat - imm 1).toNat = cnt - 1 := by
      rw [toNat_sub_one _ hx0, hcnt, H.mem]
    have H1 : HRelM c (μ1.setF (some (μ.heap pw.toNat, 0))) s :=
      (H.of_frame hh1 (F1 _ (by simp) (by simp)) (F1 _ (by simp) (by simp))).setF _
    let μ2 : MState := ((μ1.setF (some (μ.heap pw.toNat, 0))).setT (.register (.x 3))
      (some (μ.heap pw.toNat - imm 1))).setH pw.toNat (μ.heap pw.toNat - imm 1)
    have H2 : HRelM c μ2 { s with mem := s.mem.set pw.toNat (cnt - 1) } := by
      have := (H1.setT (t := .register (.x 3)) (by simp) (by simp)
        (some (μ.heap pw.toNat - imm 1))).setH pw.toNat (μ.heap pw.toNat - imm 1)
      rw [hw] at this
      exact this
    have x2 : mFwd c [.COMMENT "##either decrement refcount and share children...",
        .SUBI TEMP2 TEMP2 1, .STR TEMP2 (Mem.shareReg (posTemp m)) REFERENCE_COUNT_OFFSET]
        (μ1.setF (some (μ.heap pw.toNat, 0))) = some (μ2, .next) := by
      rw [hj]
      simp [mFwd_cons, mFwd_nil, mcont, mexecC, mexec, TEMP2_eq, regOpnd, hi1, refcount_zero, maddr, j30, j3',
        v1, v3, ha, srcVal, μ2]
    have hfr2 : ∀ u, u ≠ .register (.x 2) → u ≠ .register (.x 3) → μ2.val u = μ.val u := fun u hT hT2 => by
      simp only [μ2, MState.setF_val, MState.setH_val, MState.setT_val, if_neg hT2]
      exact F1 u hT hT2
    clear_value μ2
    obtain ⟨μ', x, p⟩ := hE μ2 H2 (fun u hu => hfr2 u (fun e => hu (Or.inl e)) (fun e => hu (Or.inr e)))
    refine ⟨μ', ?_, p⟩
    show mFwd c (Mem.loadCode.top m cT cE k) μ = some (μ', .next)
    rw [top_eq, mFwd_pre c e1]
    refine mFwd_ite_else c _ _ _ _ _ _ (a := μ.heap pw.toNat) (b := 0) rfl hx0
      (fun e => by have := labName_inj.mp e; omega) ?_ (mFwd_seq c x2 x)
    simp only [skipTo]
    exact hlT.skipTo_none (Or.inr (by omega))

end Leaves

end Scc.A64
