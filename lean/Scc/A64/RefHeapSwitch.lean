/-
  Scc.A64.RefHeapSwitch — the entries of the AArch64 jump table are instructions (`x_codeTable_instr`: they count
  for the program counter; where an entry and the code of a clause stand: `ThreeWay.codeTable_nth`,
  `codeClauses_nth`, Scc/Backend/ThreeWayInt.lean), and `setReg` on TEMP / TEMP2 as a frame.
-/
import Scc.A64.RefHeapInt
import Scc.A64.RefHeapAddr

namespace Scc.A64.Ref

open Scc.AxCut Scc.Backend Scc.A64.CC

theorem x_codeTable_instr (base : String) : ∀ (clauses : Clauses),
    ∀ code ∈ codeTable a64Backend clauses base, code.isMeta = false
  | .nil => by intro code h; simp [codeTable] at h
  | .cons x ctx body r => by
    intro code h
    have h' : code ∈ Code.B (clauseLabel base x) :: codeTable a64Backend r base := h
    simp only [List.mem_cons] at h'
    rcases h' with rfl | h'
    · rfl
    · exact x_codeTable_instr base r code h'

theorem core_setReg {c : MemCfg} {σ : State} (C : Core c σ) (n : Fin 31) (v : Option Word) :
    Core c (σ.setReg n v) := ⟨C.sp, C.saved⟩

theorem frame0_setReg {σ σ' : State} (F : Frame0 σ σ') {n : Fin 31} (hn : n = xT ∨ n = xT2) (v : Option Word) :
    Frame0 σ (σ'.setReg n v) := by
  refine ⟨F.sp, F.heap, ?_, fun a => F.slots a⟩
  intro m h1 h2
  rw [setReg_reg, if_neg (by rcases hn with rfl | rfl <;> first | exact Ne.symm h1 | exact Ne.symm h2)]
  exact F.regs m h1 h2

end Scc.A64.Ref
