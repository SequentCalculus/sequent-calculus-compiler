/-
  Scc.A64.RefClosHX3 — basic facts about the relation `X3R` (RefClosHDefs.lean): it does not look at the
  abstract program counter; `KeepPos` and the words the machine holds in the temporaries of positions (`tvOf`), as
  Scc/Backend/StepProv.lean reads them.
  In the namespace `Scc.A64.Ref.K`: the relation `X3R` (RefClosHDefs.lean) carries the per-instance code-pointer
  map `κ` and asks of a closure-kinded variable only that its machine word is defined.  The data-only relation
  `Scc.A64.Ref.X3R` is this one plus an invariant (RefHeapOfClos.lean).
-/
import Scc.A64.RefClosHTr
import Scc.A64.RefHeapBridge
import Scc.A64.MemProofsLoadTop
import Scc.Props.C09Refine
import Scc.Backend.ProofsRep2
import Scc.A64.RefHeapX3
import Scc.Backend.StepProv
import Scc.Backend.ThreeWay

namespace Scc.A64.Ref.K

open Scc.AxCut Scc.Backend.Abs Scc.A64.CC
open Scc.Heap (HState InvS InvW)
open Scc.Heap.Refine (HRef imgW fieldImg kindB)

theorem X3R.setPc {c : MemCfg} {Γ : Ctx} {cfg : Config} {rs : List Nat} {hs : HState} {ι : Nat → Nat} {κ : Nat → Nat → Word}
    {σ : State} {out : List (Bool × Word)} (X : X3R c Γ cfg rs hs ι κ σ out) (pc : Nat) :
    X3R c Γ { cfg with pc := pc } rs hs ι κ σ out :=
  ⟨X.core, X.cap, X.words, X.ptrs, X.out, X.hrel, X.href⟩

theorem X3R.spOk {c : MemCfg} (H : CfgCC c) {Γ : Ctx} {cfg : Config} {rs : List Nat} {hs : HState}
    {ι : Nat → Nat} {κ : Nat → Nat → Word} {σ : State} {out : List (Bool × Word)} (X : X3R c Γ cfg rs hs ι κ σ out) :
    SpOk c σ.sp 144 := spOkS_of_core H X.core

/-- the first `n` positions are untouched: their abstract temporaries, and the machine's temporaries that
hold their word parts -/
structure KeepPos (n : Nat) (cfg cfg' : Config) (σ σ' : State) : Prop where
  temps : ∀ t, t < 2 * n → cfg'.temps.get t = cfg.temps.get t
  mach : ∀ i, i < n → σ'.tempVal (posTemp (2 * i + 1)) = σ.tempVal (posTemp (2 * i + 1))

/-- the word the machine holds in the temporary of the abstract temporary `t` (what Scc/Backend/StepProv.lean
sees of the machine) -/
def tvOf (σ : State) : Nat → Option Word := fun t => σ.tempVal (posTemp t)

theorem KeepPos.ofT {n : Nat} {cfg cfg' : Config} {σ σ' : State}
    (h : Scc.Backend.Prov.KeepPos (tvOf σ) (tvOf σ') n cfg cfg') : KeepPos n cfg cfg' σ σ' := ⟨h.temps, h.mach⟩

theorem mach_keep_frame {σ σ' : State} {t0 : Nat} (F : Frame σ σ' (posTemp t0)) {t : Nat} (ht : t < 281)
    (hne : t ≠ t0) : σ'.tempVal (posTemp t) = σ.tempVal (posTemp t) :=
  F.temp (isVar_posTemp ht) (fun e => hne (posTemp_inj.1 e))

end Scc.A64.Ref.K
