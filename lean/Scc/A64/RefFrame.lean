/-
  Scc.A64.RefFrame — FOOTPRINT lemmas for Theorem B (AArch64):
  * `core_execCodes`: straight-line code made of plain instructions of integer programs (`CC.plainInt`:
    no call / return / writeback pair, SP not written, memory operands SP-relative inside the spill area)
    keeps the boundary invariant `CC.Core` (SP, callee-save area);
  * `execCode_regs` / `execCodes_regs`: a machine register that no instruction of the list writes
    (`codeWrites`) keeps its content;
  * what the per-method frames `Frame` / `Frame0` (OpLemmas / MoveLemmas) mean for temporaries.
-/
import Scc.A64.RefBridge
import Scc.A64.MoveLemmas

namespace Scc.A64.Ref

open Scc.A64.CC

theorem jumpRef_exec_error {c : MemCfg} {code : Code} {l : String} (hj : codeJumpRef code = some l)
    (σ : State) : ∃ e, execCode c code σ = .error e := by
  cases code <;> simp only [codeJumpRef, Option.some.injEq] at hj <;> try (cases hj; done)
  all_goals exact ⟨_, rfl⟩

theorem core_execCode {c : MemCfg} (H : CfgCC c) {σ σ' : State} {code : Code} (C : Core c σ)
    (hp : plainInt code = true) (hx : execCode c code σ = .ok σ') : Core c σ' := by
  cases hj : codeJumpRef code with
  | some l =>
    obtain ⟨e, he⟩ := jumpRef_exec_error (c := c) hj σ
    rw [he] at hx; cases hx
  | none =>
    have := plain_exec H C hp hj
    rw [hx] at this
    exact this

theorem core_execCodes {c : MemCfg} (H : CfgCC c) : ∀ (l : List Code) {σ σ' : State}, Core c σ →
    AllInt l → execCodes c l σ = .ok σ' → Core c σ'
  | [], σ, σ', C, _, hx => by
    simp only [execCodes, Except.ok.injEq] at hx; subst hx; exact C
  | code :: rest, σ, σ', C, hall, hx => by
    simp only [AllInt, List.all_cons, Bool.and_eq_true] at hall
    simp only [execCodes] at hx
    cases h1 : execCode c code σ with
    | error e => simp [h1] at hx
    | ok σ1 =>
      simp only [h1] at hx
      exact core_execCodes H rest (core_execCode H C hall.1 h1) hall.2 hx

/-- does the backend instruction write the machine register `m`? -/
def writesX (code : Code) (m : Fin 31) : Prop := ∃ r ∈ codeWrites code, r.toReg = some (.x m)

theorem wrZ_reg {σ σ' : State} {r : Reg} {w : Word} (h : σ.wrZ r w = .ok σ') (m : Fin 31) (hm : r ≠ .x m) :
    σ'.reg m = σ.reg m := by
  cases r with
  | x n =>
    cases h
    have : n ≠ m := fun e => hm (by rw [e])
    rw [wrX_eq_setReg, setReg_reg, if_neg this]
  | xzr => cases h; rfl
  | sp => cases h

theorem putZ_reg {σ σ' : State} {r : Reg} {w : Option Word} (h : σ.putZ r w = .ok σ') (m : Fin 31)
    (hm : r ≠ .x m) : σ'.reg m = σ.reg m := by
  cases r with
  | x n =>
    cases h
    have : n ≠ m := fun e => hm (by rw [e])
    show (σ.setReg n w).reg m = _
    rw [setReg_reg, if_neg this]
  | xzr => cases h; rfl
  | sp => cases h

theorem wrS_reg {σ σ' : State} {r : Reg} {w : Word} (h : σ.wrS r w = .ok σ') (m : Fin 31) (hm : r ≠ .x m) :
    σ'.reg m = σ.reg m := by
  cases r with
  | x n =>
    cases h
    have : n ≠ m := fun e => hm (by rw [e])
    rw [wrX_eq_setReg, setReg_reg, if_neg this]
  | sp => cases h; rfl
  | xzr => cases h

theorem store_reg {c : MemCfg} {σ σ' : State} {a : Nat} {w : Option Word} (h : σ.store c a w = .ok σ')
    (m : Fin 31) : σ'.reg m = σ.reg m := by
  unfold State.store at h
  split at h
  · cases h
  · split at h
    · cases w <;> simp only [] at h <;> cases h; rfl
    · split at h
      · cases w <;> simp only [] at h <;> cases h <;> rfl
      · cases h

/-- the destination registers of a machine instruction -/
def Instr.dst : Instr → List Reg
  | .add d _ _ | .sub d _ _ | .mul d _ _ | .sdiv d _ _ | .msub d _ _ _ | .addi d _ _ | .subi d _ _
  | .mov d _ | .movz d _ _ | .movn d _ _ | .movk d _ _ | .ldr d _ _ => [d]
  | .ldpPost t1 t2 n _ => [t1, t2, n]
  | .stpPre _ _ n _ => [n]
  | _ => []

theorem exec_regs {c : MemCfg} {σ σ' : State} {i : Instr} (h : i.exec c σ = .ok σ') (m : Fin 31)
    (hm : Reg.x m ∉ Instr.dst i) : σ'.reg m = σ.reg m := by
  cases i <;> simp only [Instr.dst, List.mem_cons, List.not_mem_nil, or_false, not_or] at hm <;>
    simp only [Instr.exec] at h
  case add d n k =>
    obtain ⟨a, _, h⟩ := bind_ok_inv h; obtain ⟨b, _, h⟩ := bind_ok_inv h
    exact wrZ_reg h m (Ne.symm hm)
  case sub d n k =>
    obtain ⟨a, _, h⟩ := bind_ok_inv h; obtain ⟨b, _, h⟩ := bind_ok_inv h
    exact wrZ_reg h m (Ne.symm hm)
  case mul d n k =>
    obtain ⟨a, _, h⟩ := bind_ok_inv h; obtain ⟨b, _, h⟩ := bind_ok_inv h
    exact wrZ_reg h m (Ne.symm hm)
  case sdiv d n k =>
    obtain ⟨a, _, h⟩ := bind_ok_inv h; obtain ⟨b, _, h⟩ := bind_ok_inv h; obtain ⟨q, _, h⟩ := bind_ok_inv h
    exact wrZ_reg h m (Ne.symm hm)
  case msub d n k a =>
    obtain ⟨x, _, h⟩ := bind_ok_inv h; obtain ⟨y, _, h⟩ := bind_ok_inv h; obtain ⟨z, _, h⟩ := bind_ok_inv h
    exact wrZ_reg h m (Ne.symm hm)
  case addi d n imm =>
    split at h
    · obtain ⟨a, _, h⟩ := bind_ok_inv h
      exact wrS_reg h m (Ne.symm hm)
    · cases h
  case subi d n imm =>
    split at h
    · obtain ⟨a, _, h⟩ := bind_ok_inv h
      exact wrS_reg h m (Ne.symm hm)
    · cases h
  case mov d s =>
    split at h
    · obtain ⟨a, _, h⟩ := bind_ok_inv h
      exact wrS_reg h m (Ne.symm hm)
    · obtain ⟨a, _, h⟩ := bind_ok_inv h
      exact wrS_reg h m (Ne.symm hm)
    · obtain ⟨a, _, h⟩ := bind_ok_inv h
      exact putZ_reg h m (Ne.symm hm)
  case movz d imm sh =>
    split at h
    · exact wrZ_reg h m (Ne.symm hm)
    · cases h
  case movn d imm sh =>
    split at h
    · exact wrZ_reg h m (Ne.symm hm)
    · cases h
  case movk d imm sh =>
    split at h
    · obtain ⟨a, _, h⟩ := bind_ok_inv h
      exact wrZ_reg h m (Ne.symm hm)
    · cases h
  case ldr t n imm =>
    split at h
    · obtain ⟨a, _, h⟩ := bind_ok_inv h; obtain ⟨w, _, h⟩ := bind_ok_inv h
      exact putZ_reg h m (Ne.symm hm)
    · cases h
  case str t n imm =>
    split at h
    · obtain ⟨a, _, h⟩ := bind_ok_inv h; obtain ⟨w, _, h⟩ := bind_ok_inv h
      exact store_reg h m
    · cases h
  case stpPre t1 t2 n imm =>
    split at h
    · cases h
    · split at h
      · cases h
      · obtain ⟨b, _, h⟩ := bind_ok_inv h; obtain ⟨w1, _, h⟩ := bind_ok_inv h
        obtain ⟨w2, _, h⟩ := bind_ok_inv h; obtain ⟨σ1, h1, h⟩ := bind_ok_inv h
        obtain ⟨σ2, h2, h⟩ := bind_ok_inv h
        rw [wrS_reg h m (Ne.symm hm), store_reg h2 m, store_reg h1 m]
  case ldpPost t1 t2 n imm =>
    split at h
    · cases h
    · split at h
      · cases h
      · obtain ⟨b, _, h⟩ := bind_ok_inv h; obtain ⟨w1, _, h⟩ := bind_ok_inv h
        obtain ⟨w2, _, h⟩ := bind_ok_inv h; obtain ⟨σ1, h1, h⟩ := bind_ok_inv h
        obtain ⟨σ2, h2, h⟩ := bind_ok_inv h
        rw [wrS_reg h m (Ne.symm hm.2.2), putZ_reg h2 m (Ne.symm hm.2.1), putZ_reg h1 m (Ne.symm hm.1)]
  case cmp n k =>
    obtain ⟨a, _, h⟩ := bind_ok_inv h; obtain ⟨b, _, h⟩ := bind_ok_inv h
    cases h; rfl
  case cmpi n imm =>
    split at h
    · obtain ⟨a, _, h⟩ := bind_ok_inv h
      cases h; rfl
    · cases h
  all_goals cases h

theorem dst_of_toInstr {code : Code} {i : Instr} (ht : code.toInstr = some i) :
    ∀ r ∈ Instr.dst i, ∃ x ∈ codeWrites code, x.toReg = some r := by
  cases code <;> simp only [Code.toInstr, bind, Option.bind] at ht
  all_goals first
    | (cases ht; done)
    | skip
  case ADD x y z =>
    obtain ⟨a, ha, ht⟩ := Option.bind_eq_some_iff.1 ht; obtain ⟨b, _, ht⟩ := Option.bind_eq_some_iff.1 ht; obtain ⟨d, _, ht⟩ := Option.bind_eq_some_iff.1 ht
    cases ht; intro r hr; simp only [Instr.dst, List.mem_singleton] at hr; subst hr
    exact ⟨x, by simp [codeWrites], ha⟩
  case SUB x y z =>
    obtain ⟨a, ha, ht⟩ := Option.bind_eq_some_iff.1 ht; obtain ⟨b, _, ht⟩ := Option.bind_eq_some_iff.1 ht; obtain ⟨d, _, ht⟩ := Option.bind_eq_some_iff.1 ht
    cases ht; intro r hr; simp only [Instr.dst, List.mem_singleton] at hr; subst hr
    exact ⟨x, by simp [codeWrites], ha⟩
  case MUL x y z =>
    obtain ⟨a, ha, ht⟩ := Option.bind_eq_some_iff.1 ht; obtain ⟨b, _, ht⟩ := Option.bind_eq_some_iff.1 ht; obtain ⟨d, _, ht⟩ := Option.bind_eq_some_iff.1 ht
    cases ht; intro r hr; simp only [Instr.dst, List.mem_singleton] at hr; subst hr
    exact ⟨x, by simp [codeWrites], ha⟩
  case SDIV x y z =>
    obtain ⟨a, ha, ht⟩ := Option.bind_eq_some_iff.1 ht; obtain ⟨b, _, ht⟩ := Option.bind_eq_some_iff.1 ht; obtain ⟨d, _, ht⟩ := Option.bind_eq_some_iff.1 ht
    cases ht; intro r hr; simp only [Instr.dst, List.mem_singleton] at hr; subst hr
    exact ⟨x, by simp [codeWrites], ha⟩
  case MSUB x y z v =>
    obtain ⟨a, ha, ht⟩ := Option.bind_eq_some_iff.1 ht; obtain ⟨b, _, ht⟩ := Option.bind_eq_some_iff.1 ht; obtain ⟨d, _, ht⟩ := Option.bind_eq_some_iff.1 ht
    obtain ⟨e, _, ht⟩ := Option.bind_eq_some_iff.1 ht
    cases ht; intro r hr; simp only [Instr.dst, List.mem_singleton] at hr; subst hr
    exact ⟨x, by simp [codeWrites], ha⟩
  case ADDI x y imm =>
    obtain ⟨a, ha, ht⟩ := Option.bind_eq_some_iff.1 ht; obtain ⟨b, _, ht⟩ := Option.bind_eq_some_iff.1 ht
    cases ht; intro r hr; simp only [Instr.dst, List.mem_singleton] at hr; subst hr
    exact ⟨x, by simp [codeWrites], ha⟩
  case SUBI x y imm =>
    obtain ⟨a, ha, ht⟩ := Option.bind_eq_some_iff.1 ht; obtain ⟨b, _, ht⟩ := Option.bind_eq_some_iff.1 ht
    cases ht; intro r hr; simp only [Instr.dst, List.mem_singleton] at hr; subst hr
    exact ⟨x, by simp [codeWrites], ha⟩
  case MOVR x y =>
    obtain ⟨a, ha, ht⟩ := Option.bind_eq_some_iff.1 ht; obtain ⟨b, _, ht⟩ := Option.bind_eq_some_iff.1 ht
    cases ht; intro r hr; simp only [Instr.dst, List.mem_singleton] at hr; subst hr
    exact ⟨x, by simp [codeWrites], ha⟩
  case MOVZ x imm s =>
    obtain ⟨a, ha, ht⟩ := Option.bind_eq_some_iff.1 ht
    cases ht; intro r hr; simp only [Instr.dst, List.mem_singleton] at hr; subst hr
    exact ⟨x, by simp [codeWrites], ha⟩
  case MOVN x imm s =>
    obtain ⟨a, ha, ht⟩ := Option.bind_eq_some_iff.1 ht
    cases ht; intro r hr; simp only [Instr.dst, List.mem_singleton] at hr; subst hr
    exact ⟨x, by simp [codeWrites], ha⟩
  case MOVK x imm s =>
    obtain ⟨a, ha, ht⟩ := Option.bind_eq_some_iff.1 ht
    cases ht; intro r hr; simp only [Instr.dst, List.mem_singleton] at hr; subst hr
    exact ⟨x, by simp [codeWrites], ha⟩
  case LDR x b imm =>
    obtain ⟨a, ha, ht⟩ := Option.bind_eq_some_iff.1 ht; obtain ⟨d, _, ht⟩ := Option.bind_eq_some_iff.1 ht
    cases ht; intro r hr; simp only [Instr.dst, List.mem_singleton] at hr; subst hr
    exact ⟨x, by simp [codeWrites], ha⟩
  case STR x b imm =>
    obtain ⟨a, ha, ht⟩ := Option.bind_eq_some_iff.1 ht; obtain ⟨d, _, ht⟩ := Option.bind_eq_some_iff.1 ht
    cases ht; intro r hr; simp [Instr.dst] at hr
  case CMPR x y =>
    obtain ⟨a, ha, ht⟩ := Option.bind_eq_some_iff.1 ht; obtain ⟨b, _, ht⟩ := Option.bind_eq_some_iff.1 ht
    cases ht; intro r hr; simp [Instr.dst] at hr
  case CMPI x imm =>
    obtain ⟨a, ha, ht⟩ := Option.bind_eq_some_iff.1 ht
    cases ht; intro r hr; simp [Instr.dst] at hr
  case BR x =>
    obtain ⟨a, ha, ht⟩ := Option.bind_eq_some_iff.1 ht
    cases ht; intro r hr; simp [Instr.dst] at hr
  case ADR x l =>
    obtain ⟨a, ha, ht⟩ := Option.bind_eq_some_iff.1 ht
    cases ht; intro r hr; simp [Instr.dst] at hr
  case LDP_POST_INDEX r1 r2 b imm =>
    obtain ⟨a, ha, ht⟩ := Option.bind_eq_some_iff.1 ht; obtain ⟨d, hd, ht⟩ := Option.bind_eq_some_iff.1 ht; obtain ⟨e, he, ht⟩ := Option.bind_eq_some_iff.1 ht
    cases ht; intro r hr
    simp only [Instr.dst, List.mem_cons, List.not_mem_nil, or_false] at hr
    rcases hr with rfl | rfl | rfl
    · exact ⟨r1, by simp [codeWrites], ha⟩
    · exact ⟨r2, by simp [codeWrites], hd⟩
    · exact ⟨b, by simp [codeWrites], he⟩
  case STP_PRE_INDEX r1 r2 b imm =>
    obtain ⟨a, ha, ht⟩ := Option.bind_eq_some_iff.1 ht; obtain ⟨d, hd, ht⟩ := Option.bind_eq_some_iff.1 ht; obtain ⟨e, he, ht⟩ := Option.bind_eq_some_iff.1 ht
    cases ht; intro r hr
    simp only [Instr.dst, List.mem_singleton] at hr; subst hr
    exact ⟨b, by simp [codeWrites], he⟩
  all_goals (cases ht; intro r hr; simp [Instr.dst] at hr)

theorem execCode_regs {c : MemCfg} {σ σ' : State} {code : Code} (hx : execCode c code σ = .ok σ') (m : Fin 31)
    (hm : ¬ writesX code m) : σ'.reg m = σ.reg m := by
  by_cases hmeta : code.isMeta = true
  · rw [execCode_meta hmeta] at hx; cases hx; rfl
  · have hm' : code.isMeta = false := by simpa using hmeta
    cases ht : code.toInstr with
    | none => rw [execCode_noInstr hm' ht] at hx; cases hx
    | some i =>
      rw [execCode_of_toInstr σ ht] at hx
      apply exec_regs hx m
      intro hmem
      obtain ⟨x, hx1, hx2⟩ := dst_of_toInstr ht _ hmem
      exact hm ⟨x, hx1, hx2⟩

theorem execCodes_regs {c : MemCfg} : ∀ (l : List Code) {σ σ' : State}, execCodes c l σ = .ok σ' →
    ∀ m : Fin 31, (∀ code ∈ l, ¬ writesX code m) → σ'.reg m = σ.reg m
  | [], σ, σ', hx, m, _ => by simp only [execCodes, Except.ok.injEq] at hx; subst hx; rfl
  | code :: rest, σ, σ', hx, m, hm => by
    simp only [execCodes] at hx
    cases h1 : execCode c code σ with
    | error e => simp [h1] at hx
    | ok σ1 =>
      simp only [h1] at hx
      rw [execCodes_regs rest hx m (fun x hx' => hm x (by simp [hx'])),
        execCode_regs h1 m (hm code (by simp))]

theorem tempVal_var_reg {σ : State} {r : Nat} (h : (Temporary.register (.x r)).isVar) :
    ∃ n : Fin 31, xreg r = some n ∧ 4 ≤ n.val ∧ σ.tempVal (.register (.x r)) = σ.reg n := by
  obtain ⟨h1, h2⟩ := isVar_reg h
  obtain ⟨n, hn, h4⟩ := xreg_var h1 h2
  exact ⟨n, hn, h4, tempVal_reg hn⟩

theorem _root_.Scc.A64.Frame.temp {σ σ' : State} {t u : Temporary} (F : Frame σ σ' t) (hu : u.isVar)
    (hne : u ≠ t) : σ'.tempVal u = σ.tempVal u := by
  cases u with
  | register reg =>
    cases reg with
    | x r =>
      obtain ⟨n, hn, h4, _⟩ := tempVal_var_reg (σ := σ) hu
      rw [tempVal_reg hn, tempVal_reg hn]
      apply F.regs n
      · intro e; rw [e] at h4; exact absurd h4 (by decide)
      · intro e; rw [e] at h4; exact absurd h4 (by decide)
      · intro e
        cases t with
        | register treg =>
          cases treg with
          | x rt =>
            simp only [Temporary.archReg] at e
            exact hne (by rw [xreg_inj hn e])
          | sp => simp [Temporary.archReg] at e
          | xzr => simp [Temporary.archReg] at e
        | spill p => simp [Temporary.archReg] at e
    | sp => simp [Temporary.isVar] at hu
    | xzr => simp [Temporary.isVar] at hu
  | spill q =>
    obtain ⟨h1, h2⟩ := isVar_spill hu
    rw [tempVal_spill, tempVal_spill]
    have : σ'.slotAddr q = σ.slotAddr q := by simp [State.slotAddr, F.sp]
    rw [this]
    exact F.slots q h1 h2 (fun e => hne e.symm)

/-- X0 and X1 (HEAP / RETURN1, FREE / RETURN2) are outside every frame of a variable temporary -/
theorem _root_.Scc.A64.Frame.low {σ σ' : State} {t : Temporary} (F : Frame σ σ' t) (ht : t.isVar) (m : Fin 31)
    (hm : m.val < 2) : σ'.reg m = σ.reg m := by
  apply F.regs m
  · intro e; rw [e] at hm; exact absurd hm (by decide)
  · intro e; rw [e] at hm; exact absurd hm (by decide)
  · intro e
    cases t with
    | register treg =>
      cases treg with
      | x rt =>
        obtain ⟨n, hn, h4, _⟩ := tempVal_var_reg (σ := σ) ht
        simp only [Temporary.archReg] at e
        rw [hn] at e; cases e; omega
      | sp => simp [Temporary.archReg] at e
      | xzr => simp [Temporary.archReg] at e
    | spill p => simp [Temporary.archReg] at e

theorem _root_.Scc.A64.Frame0.temp {σ σ' : State} (F : Frame0 σ σ') {u : Temporary} (hu : u.isVar) :
    σ'.tempVal u = σ.tempVal u := by
  cases u with
  | register reg =>
    cases reg with
    | x r =>
      obtain ⟨n, hn, h4, _⟩ := tempVal_var_reg (σ := σ) hu
      rw [tempVal_reg hn, tempVal_reg hn]
      apply F.regs n
      · intro e; rw [e] at h4; exact absurd h4 (by decide)
      · intro e; rw [e] at h4; exact absurd h4 (by decide)
    | sp => simp [Temporary.isVar] at hu
    | xzr => simp [Temporary.isVar] at hu
  | spill q =>
    rw [tempVal_spill, tempVal_spill]
    have : σ'.slotAddr q = σ.slotAddr q := by simp [State.slotAddr, F.sp]
    rw [this]
    exact F.slots _

end Scc.A64.Ref
