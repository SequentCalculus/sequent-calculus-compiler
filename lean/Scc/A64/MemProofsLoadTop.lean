/-
  Scc.A64.MemProofsLoadTop — the contract of `load` (memory.rs of axcut2aarch64: Memory::load with
  load_register) against `Scc.Heap.loadObj`: unique branch (count 0: the blocks go back onto the linear
  free list, the children move into the environment) and shared branch (count > 0: decrement, every
  pointer child is shared), for objects of ANY number of fields and EVERY placement; on the view, then
  on the machine.
-/
import Scc.A64.MemProofsLoad
import Scc.A64.Total

namespace Scc.A64

open Scc.AxCut
open Scc.Backend (GenM TempNum freshLabel)

theorem loadCode_counts : Mem.loadCode.LoadCounts (fun a b code => a ≤ b ∧ Scc.Mem.LabsIn Code.LAB code a b) :=
  Mem.loadCode.loadCounts_labsIn (fun _ _ h => by cases h)
    (fun t r num off l => by cases t <;> simp [Mem.loadFieldC])
    (fun m k => by
      show Scc.Mem.LabsIn Code.LAB (Mem.shareBlockNC (.register (Mem.shareReg (posTemp m))) 1 k) k (k + 1)
      rw [shareBlockNC_shareReg]; exact labsIn_iff.1 (labsIn_shareCode _ 1 k))
    (fun r l => by simp [releaseBlock]) (fun l => by simp) (fun m l => by simp) (fun l => by simp)

/-- the labels of the test of the reference count come after those of the two branches -/
theorem counts_top (m : Nat) {a b c : Nat} {x y : List Code} (hT : a ≤ b ∧ Scc.Mem.LabsIn Code.LAB x a b)
    (hE : b ≤ c ∧ Scc.Mem.LabsIn Code.LAB y b c) :
    a ≤ c + 2 ∧ Scc.Mem.LabsIn Code.LAB (Mem.loadCode.top m x y c) a (c + 2) := by
  refine ⟨by omega, labsIn_iff.1 ?_⟩
  have hT2 := labsIn_iff.2 hT.2
  have hE2 := labsIn_iff.2 hE.2
  rw [top_eq]
  refine LabsIn.append (LabsIn.of_noLab _ _ (fun l => by cases posTemp m <;> simp [loadPtr])) ?_
  refine LabsIn.append (LabsIn.append (LabsIn.append (LabsIn.append (LabsIn.of_noLab _ _ (by simp)) ?_) ?_) ?_) ?_
  · exact (LabsIn.of_noLab _ _ (by simp)).append (hE2.mono hT.1 (by omega))
  · exact ((LabsIn.nil _ _).cons_lab (n := c + 1) (by omega) (by omega)).cons_other (by simp)
  · exact (hT2.mono (Nat.le_refl _) (by omega)).cons_other (by simp)
  · exact (LabsIn.nil _ _).cons_lab (by omega) (by omega)

section Load
variable {c : MemCfg}

/-- CONTRACT of `load` on the view: unique branch (count 0) and shared branch (count > 0), ANY number
of fields, every placement -/
theorem m_load (C : HeapCfgOK c) {μ : MState} {h h' : Scc.Heap.HState} (H : HRelM c μ h)
    {toLoad existing : Ctx} (hcap : 2 * (existing.length + toLoad.length) ≤ 280) {pw : Word}
    (hp : μ.val (posTemp (2 * existing.length)) = some pw) {vals : List Scc.Heap.Field}
    (hop : Scc.Heap.loadObj h pw.toNat (toLoad.map kindOf) = .ok (h', vals))
    (hno : h.mem.get pw.toNat ≠ 0 → ∀ a, h'.mem.get a < 2 ^ 64) (k : Nat) :
    ∃ code k', (load toLoad existing).run k = .ok (code, k') ∧ k ≤ k' ∧ LabsIn code k k' ∧
      ∃ μ', mFwd c code μ = some (μ', .next) ∧ HRelM c μ' h' ∧ EnvFields μ' existing.length toLoad vals ∧
        (∀ u, u ≠ .register (.x 0) → u ≠ .register (.x 2) → u ≠ .register (.x 3) → u ≠ .spill 0 →
          (∀ m, 2 * existing.length ≤ m → m < 2 * (existing.length + toLoad.length) → u ≠ posTemp m) →
          μ'.val u = μ.val u) := by
  have hrun : (load toLoad existing).run k = .ok (Mem.loadCode.loadC toLoad existing.length k) := by
    have ht := Total.load_tot (Total.Fit.of_fits (Total.fitsA64_of_le
      (n := toLoad.length + existing.length) (by omega))) toLoad existing (Nat.le_refl _) k
    cases hr : (load toLoad existing).run k with
    | error e => rw [hr] at ht; exact ht.elim
    | ok r => rw [(Mem.emits_load toLoad existing k r hr).2]
  have hl := loadCode_counts.loadC counts_top toLoad existing.length k
  obtain ⟨μ', x, H', E', F'⟩ := (loadSpec C).load_does loadCode_counts H
    (show 2 * (existing.length + toLoad.length) ≤ 281 by omega) hp (kindOf_eq ▸ hop) hno k
  exact ⟨_, _, hrun, hl.1, labsIn_iff.2 hl.2, μ', x, H', (envFields_iff C).2 E',
    fun u hH hT hT2 hS hu => F' u (fun e => e.elim hT hT2) hH hS hu⟩

end Load

/-- CONTRACT of `load` (memory.rs Memory::load) on the machine, for ANY number of fields and EVERY
placement: the object whose pointer is in the first temporary of position `|existing|` is unpacked
into the variables `toLoad` (positions `|existing| …`) exactly as `Scc.Heap.loadObj` does on the
abstract heap — unique branch (count 0): the blocks of the chain go back onto the linear free list,
the children move; shared branch (count > 0): the count is decremented and every pointer child gets
one more reference.  From every state (SP in place) representing a heap on which the model succeeds,
the code runs to its end; the final state has the same SP, represents the model's result heap, and
the variables hold the loaded fields (`EnvFields`).
Changed: HEAP, TEMP, TEMP2, the flags, the heap, the spill slot SPILL_TEMP, the temporaries of the
loaded positions; preserved: FREE, every variable of `existing` (TEMPORARY_TEMP = X10 included:
evacuated and restored), the stack outside the spill area.
`hno` (shared branch only): the incremented counts of the model (unbounded naturals) fit in 64 bits. -/
theorem load_contract {c : MemCfg} {room : Nat} {σ : State} (h8 : c.heapBase % 8 = 0)
    (B : SpOk c σ.sp room) {h h' : Scc.Heap.HState} (R : HeapRel c σ h)
    {toLoad existing : Ctx} (hcap : 2 * (existing.length + toLoad.length) ≤ 280) {pw : Word}
    (hp : σ.tempVal (posTemp (2 * existing.length)) = some pw) {vals : List Scc.Heap.Field}
    (hop : Scc.Heap.loadObj h pw.toNat (toLoad.map kindOf) = .ok (h', vals))
    (hno : h.mem.get pw.toNat ≠ 0 → ∀ a, h'.mem.get a < 2 ^ 64) (k : Nat) :
    ∃ code k', (load toLoad existing).run k = .ok (code, k') ∧ k ≤ k' ∧ LabsIn code k k' ∧
      ∃ σ', execFwd c code σ = .ok (σ', .next) ∧ SpOk c σ'.sp room ∧ HeapRel c σ' h' ∧
        EnvFields (mview σ') existing.length toLoad vals ∧
        FrameT σ σ' (fun u => u = .register HEAP ∨ u = .register TEMP ∨ u = .register TEMP2 ∨
          u = .spill SPILL_TEMP ∨
          ∃ m, 2 * existing.length ≤ m ∧ m < 2 * (existing.length + toLoad.length) ∧ u = posTemp m) := by
  obtain ⟨code, k', hrun, hk, hl, μ', hx, H', E', hfr⟩ :=
    m_load (heapCfgOK_of_spOk h8 B) (heapRel_mview R) hcap (μ := mview σ) hp hop hno k
  obtain ⟨σ', e, B', M', F⟩ := m_to_machine B hx
    (changed := fun u => u = .register HEAP ∨ u = .register TEMP ∨ u = .register TEMP2 ∨
      u = .spill SPILL_TEMP ∨
      ∃ m, 2 * existing.length ≤ m ∧ m < 2 * (existing.length + toLoad.length) ∧ u = posTemp m)
    (fun u hu => hfr u (fun e => hu (Or.inl e)) (fun e => hu (Or.inr (Or.inl e)))
      (fun e => hu (Or.inr (Or.inr (Or.inl e)))) (fun e => hu (Or.inr (Or.inr (Or.inr (Or.inl e)))))
      (fun m h1 h2 e => hu (Or.inr (Or.inr (Or.inr (Or.inr ⟨m, h1, h2, e⟩))))))
  refine ⟨code, k', hrun, hk, hl, σ', e, B', heapRel_of_mrep M' H', ?_, F⟩
  exact envFields_slots.2 ((envFields_slots.1 E').congr
    (fun m _ h2 => M'.vals _ (isVar_opndOK (isVar_posTemp (by omega)))))

end Scc.A64
