/-
  Scc.A64.RefHeapBridge — positions in a routine that a laid-out program HOLDS (`CC.Holds`) and whose labels are
  pairwise distinct: `label_of_nodup` (the position of a label); `XAt cs k items`: the routine holds `items` from list
  position `k` on; `x_msteps_codes`: straight-line codes at such a position as a run of the machine; codes without
  an instruction (`execCodeC_meta`) and comments (`execCodes_comments`, `execCodes_noops`) do nothing.  The bridge
  from block executions with forward local labels (`execFwd`: the code of the memory operations) to runs that
  keep track of the hook items passed is `msteps_fwdK` (ConcKMid.lean).
-/
import Scc.A64.RefStep
import Scc.A64.MemProofsBridge
import Scc.NatLemmas

namespace Scc.A64.Ref

open Scc.A64.CC

theorem split_at {α : Type} {cs : List α} {i : Nat} {a : α} (h : cs[i]? = some a) :
    cs = cs.take i ++ a :: cs.drop (i + 1) ∧ (cs.take i).length = i := by
  obtain ⟨hlt, heq⟩ := List.getElem?_eq_some_iff.1 h
  have h1 : cs.drop i = cs[i] :: cs.drop (i + 1) := List.drop_eq_getElem_cons hlt
  refine ⟨?_, by simp [Nat.min_eq_left (Nat.le_of_lt hlt)]⟩
  conv => lhs; rw [← List.take_append_drop i cs, h1, heq]

theorem label_of_nodup {hk : Code → Bool} {P : Prog} {cs : List Code} (Hp : Holds hk P cs)
    (hnd : (labs cs).Nodup) {i : Nat} {l : String} (hi : cs[i]? = some (.LAB l)) :
    P.labels[l]? = some (pcOf hk cs i) := by
  obtain ⟨hsplit, hlen⟩ := split_at hi
  have hnot : Code.LAB l ∉ cs.take i := by
    apply lab_not_mem_of_labs
    rw [hsplit, labs_append] at hnd
    have := (List.nodup_append.1 hnd).2.2
    intro hm
    exact this l hm l (by simp [labs, labOf]) rfl
  have := label_pc Hp hsplit hnot
  rw [hlen] at this
  exact this

theorem execCodeC_meta {c : MemCfg} {code : Code} (hm : code.toInstr = none) {σ σ1 : State} {ctl : Ctl}
    (hx : execCodeC c code σ = .ok (σ1, ctl)) : execCode c code σ = .ok σ ∧ σ1 = σ ∧ ctl = .next := by
  obtain ⟨h1, h2⟩ := execCodeC_nonitem hm hx
  refine ⟨?_, h1, h2⟩
  unfold execCodeC at hx
  rw [hm] at hx
  simp only [] at hx
  cases he : execCode c code σ with
  | error e => rw [he] at hx; cases hx
  | ok σ' =>
    rw [he] at hx
    simp only [Except.ok.injEq, Prod.mk.injEq] at hx
    rw [hx.1, h1]

theorem isMeta_of_toInstr {code : Code} {i : Instr} (h : code.toInstr = some i) : code.isMeta = false := by
  cases code <;> first | rfl | (simp [Code.toInstr] at h)

/-- the routine `cs` holds `items` from list position `k` on -/
def XAt (cs : List Code) (k : Nat) (items : List Code) : Prop :=
  ∃ cs1 rest, cs = cs1 ++ items ++ rest ∧ cs1.length = k

theorem XAt.left {cs : List Code} {k : Nat} {a b : List Code} (h : XAt cs k (a ++ b)) : XAt cs k a := by
  obtain ⟨cs1, rest, e, hl⟩ := h
  exact ⟨cs1, b ++ rest, by rw [e]; simp, hl⟩

theorem XAt.right {cs : List Code} {k : Nat} {a b : List Code} (h : XAt cs k (a ++ b)) :
    XAt cs (k + a.length) b := by
  obtain ⟨cs1, rest, e, hl⟩ := h
  exact ⟨cs1 ++ a, rest, by rw [e]; simp, by simp [hl]⟩

theorem XAt.tail {cs : List Code} {k : Nat} {a : Code} {b : List Code} (h : XAt cs k (a :: b)) :
    XAt cs (k + 1) b := XAt.right (a := [a]) h

theorem XAt.get {cs : List Code} {k : Nat} {blk : List Code} (h : XAt cs k blk) :
    ∀ j (hj : j < blk.length), cs[k + j]? = some blk[j] := by
  obtain ⟨cs1, rest, e, hl⟩ := h
  subst hl
  exact block_get e

theorem XAt.head {cs : List Code} {k : Nat} {a : Code} {b : List Code} (h : XAt cs k (a :: b)) :
    cs[k]? = some a := by
  have := h.get 0 (by simp)
  simpa using this

section Steps

variable {hk : Code → Bool} {P : Prog} {cs : List Code} (Hp : Holds hk P cs) {c : MemCfg}

include Hp in
theorem x_msteps_codes {blk : List Code} {k : Nat} {σ σ' : State} (hat : XAt cs k blk)
    (hx : execCodes c blk σ = .ok σ') (out : List (Bool × Word)) :
    MSteps P c σ (pcOf hk cs k) out σ' (pcOf hk cs (k + blk.length)) out :=
  msteps_codes Hp blk k σ σ' out hat.get hx

end Steps

theorem execCodes_comments (c : MemCfg) : ∀ (l : List Code) (σ : State),
    (∀ x ∈ l, ∃ m, x = Code.COMMENT m) → execCodes c l σ = .ok σ
  | [], _, _ => rfl
  | x :: l, σ, h => by
    obtain ⟨m, rfl⟩ := h x (by simp)
    rw [execCodes_cons c _ _ _ _ (execCode_COMMENT c m σ)]
    exact execCodes_comments c l σ (fun y hy => h y (by simp [hy]))

theorem execCodes_noops (c : MemCfg) : ∀ (l : List Code) (σ : State),
    (∀ x ∈ l, (∃ m, x = Code.COMMENT m) ∨ ∃ n, x = Code.LAB n) → execCodes c l σ = .ok σ
  | [], _, _ => rfl
  | x :: l, σ, h => by
    have ih := execCodes_noops c l σ (fun y hy => h y (by simp [hy]))
    rcases h x (by simp) with ⟨m, rfl⟩ | ⟨n, rfl⟩
    · rw [execCodes_cons c _ _ _ _ (execCode_COMMENT c m σ)]; exact ih
    · rw [execCodes_cons c _ _ _ _ (show execCode c (.LAB n) σ = .ok σ from rfl)]; exact ih

end Scc.A64.Ref
