/-
  Scc.A64.MemProofsStore — what the contract of `store` (MemProofsStoreFields.lean) uses below the recursion
  over the blocks (memory.rs of axcut2aarch64): that the temporaries of context positions (`posTemp` of
  MemCode.lean: logical registers X4..X29, then spill slots 1..255) are variables, `store_field` and
  `store_zero` on the view against the model's `wr` (`m_storeFieldCode`, `m_storeZero`), "mark no
  allocation" (`m_loadImmediate0`), and the environment `FieldAt`, `EnvFields`: the variable at context
  position `i` lives in the temporaries `posTemp (2 i)` (pointer part, only for non-`ext` variables) and
  `posTemp (2 i + 1)` (word part); `envFields_slots` says that this is `Scc.Mem.EnvFields`.
-/
import Scc.A64.MemProofsAcquire
import Scc.A64.MemCode

set_option linter.unusedSimpArgs false

namespace Scc.A64

open Scc.AxCut
open Scc.Backend (GenM TempNum freshLabel)
open Scc.Heap (HOk rd_eq_ok wr_eq_ok)

theorem isVar_posTemp {n : Nat} (h : n < 281) : (posTemp n).isVar := by
  unfold posTemp
  by_cases h1 : n + 4 < 30
  · rw [if_pos h1]
    simp only [Temporary.isVar, RESERVED_eq, REGISTER_NUM_eq, Bool.and_eq_true, decide_eq_true_eq]
    omega
  · rw [if_neg h1]
    simp only [Temporary.isVar, RESERVED_SPILLS_eq, SPILL_NUM_eq, Bool.and_eq_true, decide_eq_true_eq]
    omega

theorem posTemp_ne_low {n : Nat} (h : n < 281) :
    posTemp n ≠ .register (.x 0) ∧ posTemp n ≠ .register (.x 1) ∧ posTemp n ≠ .register (.x 2) ∧
      posTemp n ≠ .register (.x 3) :=
  isVar_ne (isVar_posTemp h)

/-- memory.rs store_field for the temporary `t`: both placements at once -/
theorem storeFieldC_eq (t : Temporary) (blk : Register) (fo : Int) :
    Mem.storeFieldC t blk fo = loadPtr t ++ [.STR (Mem.shareReg t) blk fo] := by
  cases t <;> rfl

theorem noLab_storeFieldCode (t : Temporary) (blk : Register) (fo : Int) : NoLab (Mem.storeFieldC t blk fo) := by
  intro l; cases t <;> simp [Mem.storeFieldC]

section Prim
variable {c : MemCfg} {μ : MState} {h h' : Scc.Heap.HState}

/-- `[blk + off] := t` (through TEMP for a spilled `t`) is the model's `wr` -/
theorem m_storeFieldCode (C : HeapCfgOK c) (H : HRelM c μ h) {t : Temporary} (ht : t.isVar) {v : Word}
    (hv : μ.val t = some v) {blk : Nat} (hb : blk < 30) (hb2 : blk ≠ 2) {b : Word}
    (hvb : μ.val (.register (.x blk)) = some b) {off : Nat} (ho : off ≤ 32760) (ho8 : off % 8 = 0)
    (hwr : Scc.Heap.wr h (b.toNat + off) v.toNat = .ok h') :
    ∃ μ', mFwd c (Mem.storeFieldC t (.x blk) (off : Int)) μ = some (μ', .next) ∧ HRelM c μ' h' ∧
      (∀ u, u ≠ .register (.x 2) → μ'.val u = μ.val u) := by
  obtain ⟨hok, rfl⟩ := wr_eq_ok.1 hwr
  have ha := haddr_ok C H ho ho8 hok
  obtain ⟨r, hpr, hr, hr2, hr3, hnl, μ1, x1, v1, hp1, F1⟩ := m_loadPtr (c := c) (μ := μ) ht
  have hvb1 : μ1.val (.register (.x blk)) = some b := by rw [F1 _ (reg_ne hb2)]; exact hvb
  have hm : maddr c μ1 (.x blk) (off : Int) = some (b.toNat + off) := by
    rw [maddr_eq hb hvb1, ha]
  have hs : srcVal μ1 (.x r) = some v := by simp [srcVal, hr, v1, hv]
  have H1 : HRelM c μ1 h := by
    obtain ⟨wh, hwh, ewh⟩ := H.heap
    obtain ⟨wf, hwf, ewf⟩ := H.free
    exact ⟨H.base, H.limit, fun a => by rw [hp1]; exact H.mem a,
      ⟨wh, by rw [F1 _ (by simp)]; exact hwh, ewh⟩, ⟨wf, by rw [F1 _ (by simp)]; exact hwf, ewf⟩⟩
  refine ⟨μ1.setH (b.toNat + off) v, ?_, H1.setH _ _, fun u hu => by rw [MState.setH_val, F1 u hu]⟩
  rw [storeFieldC_eq, hpr]
  exact mFwd_seq c x1 (mFwd_step c (mexecC_STRh c hs hm) (mFwd_nil c _))

/-- `store_zero`: `[blk + fst off] := 0` -/
theorem m_storeZero (C : HeapCfgOK c) (H : HRelM c μ h) {blk : Nat} (hb : blk < 30)
    {b : Word} (hvb : μ.val (.register (.x blk)) = some b) {off : Nat} (ho : off ≤ 1000)
    (hwr : Scc.Heap.wr h (b.toNat + Scc.Heap.fstOff off) 0 = .ok h') :
    ∃ μ', mFwd c (storeZero (.x blk) off) μ = some (μ', .next) ∧ HRelM c μ' h' ∧ μ'.val = μ.val := by
  obtain ⟨hok, rfl⟩ := wr_eq_ok.1 hwr
  obtain ⟨ho1, ho2⟩ := heapFieldOffset_bounds 0 off (by omega) ho
  have ha := haddr_ok C H (off := Scc.Heap.fstOff off) ho1 ho2 hok
  have hm : maddr c μ (.x blk) (fieldOffset 0 off) = some (b.toNat + Scc.Heap.fstOff off) := by
    rw [maddr_eq hb hvb, fieldOffset_fst, ha]
  refine ⟨μ.setH (b.toNat + Scc.Heap.fstOff off) 0#64, ?_, H.setH _ _, rfl⟩
  unfold storeZero
  exact mFwd_step c (mexecC_STRh c (v := 0#64) rfl hm) (mFwd_nil c _)

end Prim

/-- the variable `b` at context position `n` holds the model field `f`: an `ext` variable an integer
(word part), any other variable a pointer part and a word part -/
def FieldAt (μ : MState) (n : Nat) (b : Binding) (f : Scc.Heap.Field) : Prop :=
  if (b.chi == .ext) = true then ∃ w : Word, f = .int w.toNat ∧ μ.val (posTemp (2 * n + 1)) = some w
  else ∃ p w : Word, f = .ptr p.toNat w.toNat ∧ μ.val (posTemp (2 * n)) = some p ∧
    μ.val (posTemp (2 * n + 1)) = some w

/-- the variables `Γ` at positions `n, n+1, …` hold the fields `fs` -/
def EnvFields (μ : MState) : Nat → Ctx → List Scc.Heap.Field → Prop
  | _, [], [] => True
  | n, b :: bs, f :: fs => FieldAt μ n b f ∧ EnvFields μ (n + 1) bs fs
  | _, _, _ => False

theorem envFields_slots {μ : MState} : ∀ {n : Nat} {Γ : Ctx} {fs : List Scc.Heap.Field},
    EnvFields μ n Γ fs ↔ Scc.Mem.EnvFields (fun m => μ.val (posTemp m)) n Γ fs
  | _, [], [] => Iff.rfl
  | _, [], _ :: _ => Iff.rfl
  | _, _ :: _, [] => Iff.rfl
  | _, _ :: _, _ :: _ => and_congr Iff.rfl envFields_slots

theorem EnvFields.append {μ : MState} : ∀ {n : Nat} {Γ1 Γ2 : Ctx} {f1 f2 : List Scc.Heap.Field},
    EnvFields μ n Γ1 f1 → EnvFields μ (n + Γ1.length) Γ2 f2 → EnvFields μ n (Γ1 ++ Γ2) (f1 ++ f2) :=
  fun h1 h2 => envFields_slots.2 ((envFields_slots.1 h1).append (envFields_slots.1 h2))

theorem noLab_storeZero (blk : Register) (off : Nat) : NoLab (storeZero blk off) := by
  intro l; simp [storeZero]

section Fields
variable {c : MemCfg}

theorem loadImmediate_zero (t : Temporary) :
    loadImmediate t 0 = match t with
      | .register r => [.MOVZ r 0 0]
      | .spill p => [.MOVZ TEMP 0 0, .STR TEMP .sp (stackOffset p)] := by
  cases t <;> rfl

theorem mexecC_MOVZ0 {rd : Nat} (hd : rd < 30) {μ : MState} :
    mexecC c (.MOVZ (.x rd) 0 0) μ = some (μ.setT (.register (.x rd)) (some 0#64), .next) := by
  have : (okImm16 0 && okShift 0) = true := by decide
  have h0 : imm 0 <<< (0 : Int).toNat = 0#64 := by decide
  simp [mexecC, mexec, regOpnd, hd, this, h0, imm_zero]

/-- "mark no allocation": the target becomes 0; only the target and TEMP change -/
theorem m_loadImmediate0 {μ : MState} {t : Temporary} (ht : t.isVar) :
    ∃ μ', mFwd c (loadImmediate t 0) μ = some (μ', .next) ∧ μ'.val t = some 0#64 ∧ μ'.heap = μ.heap ∧
      (∀ u, u ≠ t → u ≠ .register (.x 2) → μ'.val u = μ.val u) := by
  rw [loadImmediate_zero]
  cases t with
  | register reg =>
    cases reg with
    | x r =>
      obtain ⟨_, h2⟩ := isVar_reg ht
      exact ⟨μ.setT (.register (.x r)) (some 0#64), mFwd_step c (mexecC_MOVZ0 h2) (mFwd_nil c _), by simp, rfl,
        fun u hu _ => by simp [hu]⟩
    | sp => simp [Temporary.isVar] at ht
    | xzr => simp [Temporary.isVar] at ht
  | spill p =>
    obtain ⟨_, h2⟩ := isVar_spill ht
    refine ⟨(μ.setT (.register (.x 2)) (some 0#64)).setT (.spill p) (some 0#64), ?_, by simp, rfl,
      fun u hu hT => by simp [hu, hT]⟩
    have e2 := mexecC_STRs c (μ := μ.setT (.register (.x 2)) (some 0#64)) (by decide : 2 < 30) h2
    have hv0 : (μ.setT (.register (.x 2)) (some 0#64)).val (.register (.x 2)) = some 0#64 := by simp
    rw [hv0] at e2
    exact mFwd_step c (mexecC_MOVZ0 (by decide)) (mFwd_step c e2 (mFwd_nil c _))

theorem noLab_loadImmediate0 (t : Temporary) : NoLab (loadImmediate t 0) := by
  rw [loadImmediate_zero]
  intro l; cases t <;> simp

end Fields

end Scc.A64
