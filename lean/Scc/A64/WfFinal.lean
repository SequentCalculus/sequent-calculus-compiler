/-
  Scc.A64.WfFinal — C14 for AArch64: the routine of every `LabelSafe`, linearly typed program within the bounds
  satisfies the hypotheses `Wf.CodesOK` of `Wf.wfLines_ok` (Scc/A64/WfCheck.lean): `codesOK_routine`.
-/
import Scc.A64.WfCheck
import Scc.A64.RefSideLabels
import Scc.A64.LoaderRoutine

set_option linter.unusedSimpArgs false

namespace Scc.A64.Wf

open Scc.AxCut Scc.Backend Scc.A64.Ref
open Scc.Backend.Refs
open Scc.Props.C14Generic (LabelSafe progXtorNames)

theorem isExternal_iff {l : String} : isExternal l = true ↔ l = "print_i64" ∨ l = "println_i64" := by
  simp [isExternal]

theorem pl_moveArguments : ∀ (n : Nat) (codes : List Code), moveArguments n = .ok codes → PL codes
  | 0, codes, h => by simp only [moveArguments] at h; cases h; decide
  | 1, codes, h => by simp only [moveArguments] at h; cases h; decide
  | n + 2, codes, h => by
    simp only [moveArguments] at h
    split at h
    · split at h
      · rename_i rest hrest
        cases h
        exact pl_append.2 ⟨pl_cons.2 ⟨by decide, rfl⟩, pl_moveArguments (n + 1) _ hrest⟩
      · cases h
    · cases h

theorem pl_setup {n : Nat} {codes : List Code} (h : setup n = .ok codes) : PL codes := by
  unfold setup at h
  split at h
  · cases h
  · rename_i moves hm
    cases h
    simp only [pl_append]
    exact ⟨⟨by decide, pl_moveArguments _ _ hm⟩, by decide⟩

/-- **the routine of every `LabelSafe`, linearly typed program within the bounds satisfies `CodesOK`** (given that
    it has fewer than 2^18 items) -/
theorem codesOK_routine {p : AxCut.Prog} {hooks : Bool} {k : Nat} {body routine : List Code} {nargs : Nat}
    (hsafe : LabelSafe p = true) (htp : LinTypedProg p) (hrange : Loader.ProgInRangeA64 p)
    (h : compileProg a64Backend p hooks k = .ok (body, nargs, routine)) (hlen : routine.length < 262144) :
    CodesOK routine := by
  obtain ⟨k', hc, hr⟩ := compileProg_ok h
  obtain ⟨ls, e, hne⟩ := (Lab.body_labels hsafe (g_body hc hsafe)).1
  obtain ⟨su, hsu, hrt⟩ := routine_anatomy hr
  have hlabs : labs routine = "asm_main" :: (ls.map R ++ ["cleanup"]) := by
    rw [hrt, Ref.labs_append, Ref.labs_append, labs_routineHead_eq hsu, labs_cleanup, e]
    rfl
  obtain ⟨hrefs, hbl⟩ := body_refs htp hc
  simp only [List.all_eq_true] at hbl
  have hmem : ∀ c ∈ routine, c ∈ preamble ∨ c ∈ su ∨ c = Code.COMMENT "actual code" ∨ c ∈ body ∨ c ∈ cleanup := by
    intro c hc'
    rw [hrt] at hc'
    simpa [routineHead, List.mem_append, or_assoc] using hc'
  have hplsu := pl_setup hsu
  simp only [PL, List.all_eq_true] at hplsu
  refine ⟨labels_unique_a64 hsafe h, ?_, by rw [hlabs]; simp, ?_, ?_, ?_, hlen⟩
  · -- no label is a runtime symbol
    intro l hl
    rw [hlabs] at hl
    cases hx' : isExternal l with
    | false => rfl
    | true =>
      exfalso
      have hs := isExternal_iff.1 hx'
      simp only [List.mem_cons, List.mem_append, List.mem_map, List.mem_singleton, List.not_mem_nil, or_false] at hl
      rcases hl with rfl | ⟨t, ht, rfl⟩ | rfl
      · rcases hs with hs | hs <;> revert hs <;> decide
      · exact Lab.R_ne_ext (hne t ht) hs rfl
      · rcases hs with hs | hs <;> revert hs <;> decide
  · -- operand classes and ranges
    have := (Loader.routine_wf hrange h).2
    simp only [allWf, List.all_eq_true] at this
    exact this
  · -- target labels: `BL` goes to a runtime symbol (shape of every item), every other target is a reference
    -- of the label view, and the wrapped routine is closed
    have hcl : Closed V routine := by
      rw [hrt, List.append_assoc]
      refine closed_wrap (cl := "cleanup") ?_ (show NoRefs V cleanup from rfl) hrefs (by decide)
      have hpre : NoRefs V preamble := rfl
      exact (hpre.append (PL.noRefs (pl_setup hsu))).append (noRefs_single (V := V) rfl)
    have hblAll : ∀ c ∈ routine, blB c = true := by
      intro c hc'
      rcases hmem c hc' with hc' | hc' | rfl | hc' | hc'
      · exact List.all_eq_true.1 (show preamble.all blB = true by decide) c hc'
      · exact (plainB_iff.1 (show plainB V blB c = true from hplsu c hc')).1
      · rfl
      · exact hbl c hc'
      · exact List.all_eq_true.1 (show cleanup.all blB = true by decide) c hc'
    intro c hc' l hl
    by_cases hb : c = Code.BL l
    · subst hb
      exact Or.inr ⟨rfl, hblAll _ hc'⟩
    · have hi : iref c = some l := by
        cases c <;> first | exact hl | (cases hl; done) | (cases hl; exact absurd rfl hb)
      exact Or.inl (hcl l (List.mem_filterMap.2 ⟨c, hc', hi⟩))
  · -- the routine ends with `RET`
    refine ⟨routineHead su ++ body ++ cleanup.dropLast, Code.RET, .ret, ?_, rfl⟩
    rw [hrt]
    have : cleanup = cleanup.dropLast ++ [Code.RET] := by decide
    conv => lhs; rw [this]
    simp [List.append_assoc]

end Scc.A64.Wf
