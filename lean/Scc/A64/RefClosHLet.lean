/-
  Scc.A64.RefClosHLet — `LetProv`: what `let` / `create` do to the positions and the heap, in the vocabulary of
  the AArch64 machine (the three-way simulation of `let` and `create` themselves: Scc/Backend/ThreeWayLet.lean at
  the machine of ThreeWayTarget.lean); it is `Scc.Backend.Prov.LetProv` at `tvOf`.  `trW_prd_tag`: the word of a tag.
-/
import Scc.A64.RefClosHStore
import Scc.A64.RefHeapBridge
import Scc.A64.RefParam
import Scc.A64.RefHeapInt

namespace Scc.A64.Ref.K

open Scc.AxCut Scc.Backend Scc.Backend.Abs
open Scc.Heap (HState InvS InvW)
open Scc.Heap.Refine (HRef imgW fieldImg kindB FrLe Room)
open Scc.Heap.Refine (storeObj_nil)

theorem trW_prd_tag (pos : Nat) :
    BitVec.ofInt 64 (jumpLength pos) = trW .prd (BitVec.ofInt 64 (pos : Int)) := by
  show BitVec.ofInt 64 ((4 : Int) * (pos : Int)) = BitVec.ofInt 64 pos * 4#64
  rw [BitVec.ofInt_mul, BitVec.mul_comm]
  rfl

/-- what `let` / `create` do to the positions and the heap (for the closure invariant `XC`, RefClos*.lean, and
for `Same`, RefHeapOfClos.lean): the first `N` positions are untouched; the remaining ones are stored into a new
object (none: no object) -/
structure LetProv (Γ : Ctx) (N : Nat) (cfg cfg' : Config) (κ κ' : Nat → Nat → Word)
    (σ σ' : State) : Prop where
  keep : KeepPos N cfg cfg' σ σ'
  obj : ∃ fields, readFields cfg.temps (Mock.kindsOf (Γ.drop N)) N = some fields ∧
    ((Γ.drop N = [] ∧ cfg'.heap = cfg.heap ∧ κ' = κ ∧ cfg'.temps.get (2 * N) = some 0) ∨
     (Γ.drop N ≠ [] ∧ cfg'.heap = (cfg.next, ⟨0, fields⟩) :: cfg.heap ∧ κ' = storeK σ κ cfg.next N ∧
      cfg'.temps.get (2 * N) = some (BitVec.ofNat 64 cfg.next)))

theorem LetProv.ofT {Γ : Ctx} {N : Nat} {cfg cfg' : Config} {κ κ' : Nat → Nat → Word} {σ σ' : State}
    (h : Scc.Backend.Prov.LetProv (tvOf σ) (tvOf σ') Γ N cfg cfg' κ κ') :
    LetProv Γ N cfg cfg' κ κ' σ σ' := ⟨KeepPos.ofT h.keep, h.obj⟩

end Scc.A64.Ref.K
