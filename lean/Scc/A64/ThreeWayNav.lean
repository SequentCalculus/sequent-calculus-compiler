/-
  Scc.A64.ThreeWayNav — the navigation of `switch` on the AArch64 machine, from the statement to the `load` of the
  selected clause (`machineN`, a `MachineN`): `ADR TEMP, table; [LDR TEMP2, tag;] ADD TEMP, TEMP, tag; BR TEMP;
  B clause`, or the fall through the labels of a single clause.  The computed jump lands on the `tag/4`-th `B` of
  the table, which branches to the clause (`table_dispatch`, shared with `invoke`: `TableAt` from the layout of
  the routine, `tableAt_of_holdsA`, RefHeapAddr.lean).  And the navigation of `invoke` to the `load` of the selected
  method (`machineI`, a `MachineI`): `BR reg` to the byte address the closure holds, with more than one method
  `ADD reg, reg, #4·pos; BR reg` into the table of `B method`; with one method the machine may be ahead of the
  boundary position by `#ctx` hooks (`Tol`, RefClosAddr.lean; `RunA`).  `headOK`: the statement comments of `op` and
  `call` are no hooks (`HeadOK` of Scc/Backend/ThreeWayRun.lean).
-/
import Scc.A64.ThreeWayTarget
import Scc.Backend.ThreeWayRun
import Scc.Backend.ThreeWayInvoke
import Scc.A64.RefClosHLet
import Scc.A64.RefHeapAddr
import Scc.A64.RefHeapSwitch
import Scc.A64.RefClosAddr
import Scc.A64.RefClosDefs

set_option linter.unusedSimpArgs false

namespace Scc.A64.Ref.K

open Scc.AxCut Scc.AxCut.Pos Scc.Backend Scc.Backend.Sim Scc.Backend.Sim2 Scc.A64.CC
open Scc.Heap (HState InvS InvW)
open Scc.Heap.Refine (HRef FrLe Room loadAbs)

theorem tag_word (pos : Nat) : trW .prd (BitVec.ofNat 64 pos) = imm (jumpLength pos) := by
  have := trW_prd_tag pos
  rw [BitVec.ofInt_natCast] at this
  exact this.symm

open Scc.A64.NoHk (HKQ hkcQ_mm hkcQ_name_first noHkQ_of_nhOK noHkQ_of_postNh NhOK)
open Scc.Backend.NamesC (MM mm_append mm_ofList)

section Nav

variable {c : MemCfg} (H : CfgCC c) {hkf : Code → Bool} {Pm : Prog} {Q : Nat → Prop}
  {cs : List Code} (HA : HoldsA hkf Pm cs) (hnd : (labs cs).Nodup)
  (hfitX : c.codeBase + 4 * ninstr cs < 2 ^ 64)

include HA hnd hfitX in
/-- A JUMP TABLE IN THE ROUTINE: behind the label `lbl` (list position `A.length`) stand the `B`s of `table`; entry
`pos` branches to the label `tgt`, which stands `pre.length` codes behind the table.  The laid-out program has the
table (`TableAt`: what `ADR` and `BR` need), and a `BR d` with `d` = address of the table + `4·pos` runs to the code
behind `tgt` -/
theorem table_dispatch {A table pre rest : List Code} {lbl tgt : String} {pos : Nat}
    (hcs : cs = A ++ (Code.LAB lbl :: table) ++ (pre ++ Code.LAB tgt :: rest))
    (htab : table[pos]? = some (.B tgt)) (htins : ∀ code ∈ table, code.isMeta = false) :
    TableAt Pm c lbl (pcOf hkf cs A.length) table.length ∧ cs[A.length]? = some (Code.LAB lbl) ∧
    ∀ {kbr : Nat} {cb : Code} {d : Fin 31}, cs[kbr]? = some cb → cb.toInstr = some (.br (.x d)) →
      ∀ (σ : State) (out : List (Bool × Word)),
      σ.reg d = some (labelWord Pm c (pcOf hkf cs A.length) + imm (jumpLength pos)) →
      MStepsK Q Pm c σ (pcOf hkf cs kbr) out σ (pcOf hkf cs (A.length + 1 + table.length + pre.length + 1)) out ∧
      MStepsKR Q Pm c σ (pcOf hkf cs kbr) out σ (pcOf hkf cs (A.length + 1 + table.length + pre.length + 1)) out ∧
      XAt cs (A.length + 1 + table.length + pre.length + 1) rest := by
  have Hp := HA.holds
  have hposT : pos < table.length := (List.getElem?_eq_some_iff.mp htab).1
  have hiL : cs[A.length]? = some (Code.LAB lbl) := by
    rw [hcs, List.append_assoc]; exact getElem?_mid _ _ _
  have htabcs : ∀ j, j < table.length → ∃ code, cs[A.length + 1 + j]? = some code ∧ code.isMeta = false := by
    intro j hj
    refine ⟨table[j], ?_, htins _ (List.getElem_mem hj)⟩
    rw [hcs, List.append_assoc, List.getElem?_append_right (by omega)]
    rw [show A.length + 1 + j - A.length = j + 1 by omega]
    simp only [List.cons_append, List.getElem?_cons_succ]
    rw [List.getElem?_append_left hj, List.getElem?_eq_getElem hj]
  have TA := tableAt_of_holdsA HA hnd c (n := table.length) (by omega) hiL htabcs hfitX
  have htpc := table_pc Hp hiL htabcs pos (by omega)
  refine ⟨TA, hiL, ?_⟩
  intro kbr cb d hBR htoI σ out hreg
  -- `BR` lands on the table entry
  obtain ⟨iB, htiB, hitB⟩ := Hp.instr _ _ hBR (isMeta_of_toInstr htoI)
  rw [htoI] at htiB
  obtain rfl := Option.some.inj htiB
  have hsB := step_br TA pos hposT d σ (pcOf hkf cs kbr) hreg
  rw [← htpc] at hsB
  -- the table entry branches to the label
  have hcsTe : cs[A.length + 1 + pos]? = some (.B tgt) := by
    rw [hcs, List.append_assoc, List.getElem?_append_right (by omega)]
    rw [show A.length + 1 + pos - A.length = pos + 1 by omega]
    simp only [List.cons_append, List.getElem?_cons_succ]
    rw [List.getElem?_append_left hposT]
    exact htab
  have hiC : cs[A.length + 1 + table.length + pre.length]? = some (Code.LAB tgt) := by
    have e : cs = (A ++ (Code.LAB lbl :: table) ++ pre) ++ Code.LAB tgt :: rest := by
      rw [hcs]; simp [List.append_assoc]
    have hlen : (A ++ (Code.LAB lbl :: table) ++ pre).length = A.length + 1 + table.length + pre.length := by
      simp; omega
    rw [← hlen]
    conv => lhs; rw [e]
    exact getElem?_mid _ _ _
  have hmD := mstep_jumpK (c := c) (Q := Q) Hp hcsTe (label_of_nodup Hp hnd hiC) σ out
  have hmE := msteps_codeQ (c := c) (Q := Q) Hp hiC (σ := σ) (σ' := σ) rfl out
    (Or.inl (hk_false_of_not_comment Hp (fun m e => by cases e)))
  refine ⟨(MStepsK.one_instr hitB (.next hitB hsB)).trans (hmD.trans hmE),
    (MStepsKR.one_next hitB hsB).post (hmD.trans hmE), A ++ (Code.LAB lbl :: table) ++ pre ++ [Code.LAB tgt], [], ?_, ?_⟩
  · rw [hcs]; simp [List.append_assoc]
  · simp; omega

include H HA hnd hfitX in
/-- the machine from the `switch` to the `load` of the selected clause -/
theorem switch_nav_a64 {hooks : Bool} {types : List TypeDecl} {Γ' : Ctx} {b : Binding} {σ : State}
    {out : List (Bool × Word)} {kp : Nat}
    {x : Ident} {ty : Ty} {clauses : Clauses} {fv : FV} {pos : Nat} {cl : Clause}
    (C : Core c σ)
    (hb : b.var.id = x.id) (hfresh : ∀ b' ∈ Γ', b'.var.id ≠ x.id)
    (hclause : nthClause clauses pos = some cl)
    (hxw0 : σ.tempVal (posTemp (2 * Γ'.length + 1)) = some (BitVec.ofNat 64 pos * 4#64))
    {k k' : Nat} {items : List Code}
    (hrun : (codeStatementR a64Backend hooks natRen types (.switch x ty clauses fv) (Γ' ++ [b])).run k =
      .ok (items, k'))
    (hat : XAt cs kp items) (hQ : HKQ hkf Q) :
    ∃ σ4 kp4 kl kl' lcode kb' body, MStepsHK Q Pm c σ (pcOf hkf cs kp) out σ4 (pcOf hkf cs kp4) out ∧
      Core c σ4 ∧ Frame0 σ σ4 ∧
      (load cl.ctx Γ').run kl = .ok (lcode, kl') ∧
      (codeStatementR a64Backend hooks natRen types cl.body (Γ' ++ cl.ctx)).run kl' = .ok (body, kb') ∧
      XAt cs kp4 (lcode ++ body) := by
  have Hp := HA.holds
  simp only [codeStatementR, run_bind_ok, run_pure_ok, freshLabelStr_run_ok] at hrun
  obtain ⟨num, k1, ⟨rfl, rfl⟩, c1, k2, h1, c3, k3, h3, rfl, rfl⟩ := hrun
  have hdl : (Γ' ++ [b]).dropLast = Γ' := by simp
  rw [hdl] at h3
  obtain ⟨pre, post, kl, kl', lcode, kb', body,
      (hc3 : _ = pre ++ Code.LAB (clauseLabel _ cl.xtor) :: (lcode ++ (body ++ post))),
      (hload : (load cl.ctx Γ').run kl = .ok (lcode, kl')), hbody⟩ :=
    ThreeWay.codeClauses_nth a64Backend hooks natRen types Γ' clauses _ pos cl _ _ _ h3 hclause
  have hposlt := nthClause_lt clauses pos cl hclause
  generalize hc0 : hookCode a64Backend hooks (Γ' ++ [b]) ++
      [a64Backend.comment ("switch " ++ x.print ++ " \\{ ... \\};")] = c0 at hat
  have hc0c : ∀ y ∈ c0, ∃ m', y = Code.COMMENT m' := by rw [← hc0]; exact hook_comments hooks _ _
  generalize hlbl : mangleTy ty ++ "_" ++ natRen (k + 1) = lbl at *
  have hxl : a64Backend.label lbl = Code.LAB lbl := rfl
  rw [hxl] at hat
  by_cases hle : clauses.length ≤ 1
  · -- a single clause: comments and labels only
    have hpos0 : pos = 0 := by omega
    subst hpos0
    simp only [hle, if_true, run_pure_ok] at h1
    obtain ⟨rfl, rfl⟩ := h1
    have hgt : ¬ (clauses.length > 1) := by omega
    simp only [hgt, if_false] at hat
    obtain ⟨post0, kl0', lcode0, kb0', body0,
        (hc30 : _ = Code.LAB (clauseLabel lbl cl.xtor) :: (lcode0 ++ (body0 ++ post0))),
        (hload0 : (load cl.ctx Γ').run _ = .ok (lcode0, kl0')), hbody0⟩ :=
      ThreeWay.codeClauses_head a64Backend hooks natRen types Γ' clauses lbl cl _ _ _ h3 hclause
    rw [hc30] at hat
    have hxc : a64Backend.comment "#there is only one clause, so we can just fall through" =
        Code.COMMENT "#there is only one clause, so we can just fall through" := rfl
    rw [hxc] at hat
    have hatN : XAt cs kp ((c0 ++ [Code.COMMENT "#there is only one clause, so we can just fall through",
        Code.LAB lbl, Code.LAB (clauseLabel lbl cl.xtor)]) ++ ((lcode0 ++ body0) ++ post0)) := by
      simpa [List.append_assoc] using hat
    have hk0 := x_msteps_c0H_app (c := c) Hp hatN.left hc0 (hkcQ_mm Hp hQ (by mm_tac)) (σ := σ) (σ' := σ)
      (execCodes_noops c _ σ (by
        intro y hy
        simp only [List.mem_cons, List.not_mem_nil, or_false] at hy
        rcases hy with rfl | rfl | rfl
        · exact Or.inl ⟨_, rfl⟩
        · exact Or.inr ⟨_, rfl⟩
        · exact Or.inr ⟨_, rfl⟩))
      (NoHkQ.cons (hkcQ_mm Hp hQ (mm_ofList (by decide))) (NoHkQ.cons (Or.inl (hk_false_of_not_comment Hp (fun m e => by cases e)))
        (NoHkQ.cons (Or.inl (hk_false_of_not_comment Hp (fun m e => by cases e))) NoHkQ.nil))) out
    exact ⟨σ, _, _, _, lcode0, _, body0, hk0, C, frame0_refl σ, hload0, hbody0, hatN.right.left⟩
  · -- a jump table
    have hgt : clauses.length > 1 := by omega
    simp only [hle, if_false, run_bind_ok, run_pure_ok] at h1
    obtain ⟨tt, k4, htt, rfl, rfl⟩ := h1
    obtain ⟨p, hp, hlt, rfl, rfl, _⟩ := vt_rel htt
    have hp' : p = Γ'.length := by
      have := posOf_append_fresh Γ' b (fun b' hb' => by rw [hb]; exact hfresh b' hb')
      rw [hb] at this
      rw [this] at hp
      exact (Option.some.inj hp).symm
    subst hp'
    simp only [TempNum.toNat] at hlt
    simp only [hgt, if_true] at hat
    have hBe : a64Backend.loadLabel a64Backend.temp lbl ++
        a64Backend.binop BinOp.sum a64Backend.temp a64Backend.temp (posTemp (2 * Γ'.length + TempNum.snd.toNat)) ++
        a64Backend.jump a64Backend.temp =
        (Code.ADR TEMP lbl :: op .sum (.register TEMP) (.register TEMP) (posTemp (2 * Γ'.length + 1))) ++
          [Code.BR TEMP] := rfl
    rw [hBe] at hat
    generalize hT : codeTable a64Backend clauses lbl = table at hat
    have htab : table[pos]? = some (.B (clauseLabel lbl cl.xtor)) := by
      rw [← hT]; exact ThreeWay.codeTable_nth a64Backend (j := Code.B) (fun _ => rfl) lbl clauses pos cl hclause
    have htlen : table.length = clauses.length := by rw [← hT]; exact ThreeWay.codeTable_length a64Backend (j := Code.B) (fun _ => rfl) lbl clauses
    have htins : ∀ code ∈ table, code.isMeta = false := by rw [← hT]; exact x_codeTable_instr lbl clauses
    obtain ⟨cs1, rest0, hcs, hpc⟩ := hat
    generalize hsfx : pre ++ Code.LAB (clauseLabel lbl cl.xtor) :: (lcode ++ (body ++ post)) ++ rest0 = sfx
    generalize hBc : op .sum (.register TEMP) (.register TEMP) (posTemp (2 * Γ'.length + 1)) = Bc at hcs
    have hcsT : cs = (cs1 ++ c0 ++ (Code.ADR TEMP lbl :: Bc) ++ [Code.BR TEMP]) ++ (Code.LAB lbl :: table) ++ sfx := by
      rw [hcs, hc3, ← hsfx]; simp [List.append_assoc]
    have hk0 := x_msteps_c0H (c := c) Hp (c0 := c0) (k := kp)
      ⟨cs1, (Code.ADR TEMP lbl :: Bc) ++ [Code.BR TEMP] ++ (Code.LAB lbl :: table) ++ sfx,
        by rw [hcsT]; simp [List.append_assoc], hpc⟩
      hc0 (hkcQ_mm Hp hQ (by mm_tac)) σ out
    let kt := (cs1 ++ c0 ++ (Code.ADR TEMP lbl :: Bc) ++ [Code.BR TEMP]).length
    have hkt : kt = (cs1 ++ c0 ++ (Code.ADR TEMP lbl :: Bc) ++ [Code.BR TEMP]).length := rfl
    obtain ⟨TA, hiL, hdisp⟩ := table_dispatch HA hnd hfitX (Q := Q)
      (A := cs1 ++ c0 ++ (Code.ADR TEMP lbl :: Bc) ++ [Code.BR TEMP]) (lbl := lbl) (table := table) (pre := pre)
      (tgt := clauseLabel lbl cl.xtor)
      (rest := lcode ++ (body ++ post) ++ rest0) (by rw [hcsT, ← hsfx]; simp [List.append_assoc]) htab htins
    have hkA : kp + c0.length = (cs1 ++ c0).length := by simp [hpc]
    have hgetADR : cs[kp + c0.length]? = some (Code.ADR TEMP lbl) := by
      rw [hkA, hcsT]
      have : (cs1 ++ c0 ++ (Code.ADR TEMP lbl :: Bc) ++ [Code.BR TEMP]) ++ (Code.LAB lbl :: table) ++ sfx =
          (cs1 ++ c0) ++ Code.ADR TEMP lbl :: (Bc ++ [Code.BR TEMP] ++ (Code.LAB lbl :: table) ++ sfx) := by
        simp [List.append_assoc]
      rw [this]
      exact getElem?_mid _ _ _
    obtain ⟨iA, htiA, hitA⟩ := Hp.instr _ _ hgetADR rfl
    have eA : iA = .adr (.x xT) lbl := by
      have : (Code.ADR TEMP lbl).toInstr = some (.adr (.x xT) lbl) := rfl
      rw [this] at htiA; exact (Option.some.inj htiA).symm
    subst eA
    have hsA := step_adr TA xT σ (pcOf hkf cs (kp + c0.length))
    have hmA : MStepsK Q Pm c σ (pcOf hkf cs (kp + c0.length)) out
        (σ.setReg xT (some (labelWord Pm c (pcOf hkf cs kt)))) (pcOf hkf cs (kp + c0.length + 1)) out := by
      rw [pcOf_item hgetADR (by simp [isItem, Code.isMeta])]
      exact .one_instr hitA (.next hitA hsA)
    have hxw : σ.tempVal (posTemp (2 * Γ'.length + 1)) = some (imm (jumpLength pos)) := by
      rw [← tag_word]; exact hxw0
    have hBcAt : XAt cs (kp + c0.length + 1) (Bc ++ [Code.BR TEMP]) := by
      refine ⟨cs1 ++ c0 ++ [Code.ADR TEMP lbl], (Code.LAB lbl :: table) ++ sfx, ?_, by simp [hpc]; omega⟩
      rw [hcsT]; simp [List.append_assoc]
    have hvar := isVar_posTemp hlt
    have hBrun : ∃ σ3, MStepsK Q Pm c (σ.setReg xT (some (labelWord Pm c (pcOf hkf cs kt))))
          (pcOf hkf cs (kp + c0.length + 1)) out σ3 (pcOf hkf cs (kp + c0.length + 1 + Bc.length)) out ∧
        σ3.reg xT = some (labelWord Pm c (pcOf hkf cs kt) + imm (jumpLength pos)) ∧ Frame0 σ σ3 ∧ Core c σ3 := by
      have F1 : Frame0 σ (σ.setReg xT (some (labelWord Pm c (pcOf hkf cs kt)))) :=
        frame0_setReg (frame0_refl σ) (Or.inl rfl) _
      have C1 : Core c (σ.setReg xT (some (labelWord Pm c (pcOf hkf cs kt)))) := core_setReg C _ _
      cases hpt : posTemp (2 * Γ'.length + 1) with
      | register reg =>
        rw [hpt] at hvar hxw hBc
        cases reg with
        | x r =>
          obtain ⟨nt, hnt, h4, _⟩ := tempVal_var_reg (σ := σ) hvar
          rw [tempVal_reg hnt] at hxw
          have hne : nt ≠ xT := by intro e; rw [e] at h4; exact absurd h4 (by decide)
          have hBcE : Bc = [Code.ADD TEMP TEMP (.x r)] := by rw [← hBc]; rfl
          subst hBcE
          have hx : execCodes c [Code.ADD TEMP TEMP (.x r)]
              (σ.setReg xT (some (labelWord Pm c (pcOf hkf cs kt)))) =
              .ok ((σ.setReg xT (some (labelWord Pm c (pcOf hkf cs kt)))).setReg xT
                (some (labelWord Pm c (pcOf hkf cs kt) + imm (jumpLength pos)))) := by
            simp [execCodes, TEMP, execCode_ADD xreg_TEMP xreg_TEMP hnt, exec_add_x, hne, Ne.symm hne, hxw]
          exact ⟨_, x_msteps_codesQ Hp hBcAt.left hx out
            (Or.inl fun y hy => hk_false_of_not_comment Hp (fun m e => by subst e; simp at hy)), by simp, frame0_setReg F1 (Or.inl rfl) _,
            core_setReg C1 _ _⟩
        | sp => simp [Temporary.isVar] at hvar
        | xzr => simp [Temporary.isVar] at hvar
      | spill q =>
        rw [hpt] at hvar hxw hBc
        obtain ⟨_, hq⟩ := isVar_spill hvar
        rw [tempVal_spill] at hxw
        have hBcE : Bc = [Code.LDR TEMP2 .sp (stackOffset q), Code.ADD TEMP TEMP TEMP2] := by rw [← hBc]; rfl
        subst hBcE
        have hsp1 : SpOkS c 144 (σ.setReg xT (some (labelWord Pm c (pcOf hkf cs kt)))) := spOkS_of_core H C1
        have hxne : xT ≠ xT2 := by decide
        have hx : execCodes c [Code.LDR TEMP2 .sp (stackOffset q), Code.ADD TEMP TEMP TEMP2]
            (σ.setReg xT (some (labelWord Pm c (pcOf hkf cs kt)))) =
            .ok (((σ.setReg xT (some (labelWord Pm c (pcOf hkf cs kt)))).setReg xT2
              (some (imm (jumpLength pos)))).setReg xT
              (some (labelWord Pm c (pcOf hkf cs kt) + imm (jumpLength pos)))) := by
          simp [execCodes, TEMP, TEMP2, execCode_LDR_sp xreg_TEMP2, exec_ldr_slot c 144, hsp1, hq,
            execCode_ADD xreg_TEMP xreg_TEMP xreg_TEMP2, exec_add_x, hxne, Ne.symm hxne, hxw]
        exact ⟨_, x_msteps_codesQ Hp hBcAt.left hx out
            (Or.inl fun y hy => hk_false_of_not_comment Hp (fun m e => by subst e; simp at hy)), by simp,
          frame0_setReg (frame0_setReg F1 (Or.inr rfl) _) (Or.inl rfl) _,
          core_setReg (core_setReg C1 _ _) _ _⟩
    obtain ⟨σ3, hmB, hreg3, F3, C3⟩ := hBrun
    -- `BR TEMP` through the table to the clause
    obtain ⟨hmC, _, hatC⟩ := hdisp (d := xT) hBcAt.right.head rfl σ3 out hreg3
    refine ⟨σ3, _, kl, kl', lcode, kb', body, hk0.trans (hmA.trans (hmB.trans hmC)), C3, F3, hload, hbody, ?_⟩
    rw [show lcode ++ (body ++ post) ++ rest0 = (lcode ++ body) ++ (post ++ rest0) by simp [List.append_assoc]] at hatC
    exact hatC.left

end Nav

theorem jump_eq (t : Temporary) : jump t = loadPtr t ++ [.BR (Mem.shareReg t)] := by
  cases t <;> rfl

theorem addAndJump_eq (t : Temporary) (i : Int) :
    addAndJump t i = loadPtr t ++ [.ADDI (Mem.shareReg t) (Mem.shareReg t) i, .BR (Mem.shareReg t)] := by
  cases t <;> rfl

/-- the pointer of a position into the jump register: nothing but TEMP changes -/
theorem loadPtr_pos {c : MemCfg} (H : CfgCC c) {σ : State} (C : Core c σ) {t : Nat} (ht : t < 281) {w : Word}
    (hw : σ.tempVal (posTemp t) = some w) :
    ∃ σb r d, Mem.shareReg (posTemp t) = .x r ∧ xreg r = some d ∧
      execCodes c (loadPtr (posTemp t)) σ = .ok σb ∧ σb.reg d = some w ∧ Frame0 σ σb ∧ Core c σb ∧
      (posTemp t = .register (.x r) ∨ d = xT) := by
  have hvar := isVar_posTemp ht
  cases hpt : posTemp t with
  | register reg =>
    rw [hpt] at hvar hw
    cases reg with
    | x r =>
      obtain ⟨nt, hnt, _, _⟩ := tempVal_var_reg (σ := σ) hvar
      rw [tempVal_reg hnt] at hw
      exact ⟨σ, r, nt, rfl, hnt, rfl, hw, frame0_refl σ, C, Or.inl rfl⟩
    | sp => simp [Temporary.isVar] at hvar
    | xzr => simp [Temporary.isVar] at hvar
  | spill q =>
    rw [hpt] at hvar hw
    obtain ⟨_, hq⟩ := isVar_spill hvar
    rw [tempVal_spill] at hw
    have hsp := spOkS_of_core H C
    have hT : xreg 2 = some xT := xreg_TEMP
    have hx : execCodes c [Code.LDR TEMP .sp (stackOffset q)] σ = .ok (σ.setReg xT (some w)) := by
      have : (TEMP : Register) = .x 2 := rfl
      rw [this]
      simp [execCodes, execCode_LDR_sp hT, exec_ldr_slot c 144, hsp, hq, hw]
    exact ⟨σ.setReg xT (some w), 2, xT, rfl, hT, hx, by simp,
      frame0_setReg (frame0_refl σ) (Or.inl rfl) _, core_setReg C _ _, Or.inr rfl⟩

section NavI

variable {c : MemCfg} (H : CfgCC c) {hkf : Code → Bool} {Pm : Prog} {Q : Nat → Prop}
  {cs pre : List Code} (HB : HoldsB hkf Pm cs) (hnd : (labs cs).Nodup)
  (hfitX : c.codeBase + 4 * ninstr cs < 2 ^ 64) (hcsC : cs = pre ++ cleanup)

include H HB hnd hfitX hcsC in
/-- the machine from the `invoke` to the `load` of the selected method; with one method the machine may be
ahead of the boundary position `kp4` by `#ctx` hooks (`Tol`) -/
theorem invoke_nav_a64 {hooks : Bool} {types : List TypeDecl} {Γa : Ctx} {b : Binding}
    {σ : State} {out : List (Bool × Word)} {kp : Nat}
    {x tag : Ident} {ty : Ty} {args : Ctx}
    {clauses : Clauses} {d : TypeDecl} {pos : Nat} {cl : Clause} {envCtx' : Ctx} {w : Word}
    (C : Core c σ)
    (hb : b.var.id = x.id) (hfresh : ∀ b' ∈ Γa, b'.var.id ≠ x.id)
    (hd : lookupTypeDecl types ty = some d) (hx : xtorPosition d tag = some pos)
    (hclause : nthClause clauses pos = some cl) (hlc : clauses.length = d.xtors.length)
    (hw : σ.tempVal (posTemp (2 * Γa.length + 1)) = some w)
    (hXM : XMethodsAt c cs hooks types w envCtx' clauses)
    (hpos12 : pos < 1024)
    {k k' : Nat} {items : List Code}
    (hrun : (codeStatementR a64Backend hooks natRen types (.invoke x tag ty args) (Γa ++ [b])).run k =
      .ok (items, k'))
    (hat : XAt cs kp items) (hQ : HKQ hkf Q) :
    ∃ σ4 kp4 pcR kl kl' lcode kb' body, MStepsHK Q Pm c σ (pcOf hkf cs kp) out σ4 pcR out ∧
      Tol Pm (pcOf hkf cs kp4) pcR ∧ Core c σ4 ∧
      (∀ t, t < 281 → t ≠ 2 * Γa.length + 1 → σ4.tempVal (posTemp t) = σ.tempVal (posTemp t)) ∧
      (σ4.tempVal (posTemp (2 * Γa.length + 1))).isSome ∧ (∀ hs, HeapRel c σ hs → HeapRel c σ4 hs) ∧
      (load envCtx' cl.ctx).run kl = .ok (lcode, kl') ∧
      (codeStatementR a64Backend hooks natRen types cl.body (cl.ctx ++ envCtx')).run kl' = .ok (body, kb') ∧
      XAt cs kp4 (lcode ++ body) ∧
      MStepsHKR Q Pm c σ (pcOf hkf cs kp) out σ4 pcR out := by
  have HA := HB.holdsA
  have Hp := HA.holds
  have hn1 : Γa.length < (Γa ++ [b]).length := by simp
  have hgb : (Γa ++ [b])[Γa.length] = b := by simp
  obtain ⟨base, km, km', mcode, idx, hmrun, hatM, hwe⟩ := hXM
  have hposlt := nthClause_lt clauses pos cl hclause
  simp only [codeStatementR, run_bind_ok, lookupTypeDeclM_run_ok] at hrun
  obtain ⟨tt, k1, htt, decl, k2, ⟨hd', rfl⟩, hrun⟩ := hrun
  rw [hd] at hd'; cases hd'
  obtain ⟨p, hp, hlt, rfl, rfl, _⟩ := vt_rel htt
  have hp' : p = Γa.length := by
    have := posOf_append_fresh Γa b (fun b' hb' => by rw [hb]; exact hfresh b' hb')
    rw [hb] at this
    rw [this] at hp
    exact (Option.some.inj hp).symm
  subst hp'
  simp only [TempNum.toNat] at hlt
  have hvar := isVar_posTemp hlt
  obtain ⟨csM, restM, hcsM, hlenM⟩ := hatM
  subst hlenM
  obtain ⟨σb, r, dreg, hpr, hdr, hxb, hregb, Fb, Cb, hcase⟩ := loadPtr_pos H C hlt hw
  by_cases hle : d.xtors.length ≤ 1
  · -- a single method: `BR` to the address of the label
    have hpos0 : pos = 0 := by omega
    subst hpos0
    simp only [hle, if_true, run_pure_ok] at hrun
    obtain ⟨rfl, rfl⟩ := hrun
    have hgt : ¬ (clauses.length > 1) := by omega
    simp only [hgt, if_false, List.nil_append] at hcsM
    obtain ⟨post0, kl', lcode, kb', body, (hc0 : _ = Code.LAB (clauseLabel base cl.xtor) :: (lcode ++ (body ++ post0))),
        (hload : (load envCtx' cl.ctx).run _ = .ok (lcode, kl')), hbody⟩ :=
      ThreeWay.codeMethods_head a64Backend hooks natRen types envCtx' clauses base cl _ _ _ hmrun hclause
    rw [hc0] at hcsM
    have hje : a64Backend.jump (posTemp (2 * Γa.length + TempNum.snd.toNat)) =
        loadPtr (posTemp (2 * Γa.length + 1)) ++ [Code.BR (Mem.shareReg (posTemp (2 * Γa.length + 1)))] :=
      jump_eq _
    rw [hje] at hat
    generalize hc0' : hookCode a64Backend hooks (Γa ++ [b]) ++ [a64Backend.comment (invokePrint x tag args)] ++
      [a64Backend.comment "#there is only one clause, so we can jump there directly"] = c0 at hat
    have hc0c : ∀ y ∈ c0, ∃ m', y = Code.COMMENT m' := by
      rw [← hc0']
      intro y hy
      rcases List.mem_append.1 hy with hy | hy
      · exact hook_comments hooks _ _ y hy
      · simp only [List.mem_singleton] at hy; exact ⟨_, hy⟩
    have hatA : XAt cs kp (c0 ++ (loadPtr (posTemp (2 * Γa.length + 1)) ++
        [Code.BR (Mem.shareReg (posTemp (2 * Γa.length + 1)))])) := by
      simpa [List.append_assoc] using hat
    have hk0 : MStepsHK Q Pm c σ (pcOf hkf cs kp) out σ (pcOf hkf cs (kp + c0.length)) out := by
      have hl := hatA.left
      subst hc0'
      exact x_msteps_c0H_app (c := c) Hp hl
        (rfl : hookCode a64Backend hooks (Γa ++ [b]) ++ [a64Backend.comment (invokePrint x tag args)] = _)
        (hkcQ_mm Hp hQ (by unfold invokePrint; mm_tac)) (σ := σ) (σ' := σ) rfl
        (NoHkQ.cons (hkcQ_mm Hp hQ (mm_ofList (by decide))) NoHkQ.nil) out
    have hkb := x_msteps_codesQ (c := c) (Q := Q) Hp hatA.right.left hxb out
      (show NoHkQ hkf Q (loadPtr (posTemp (2 * Γa.length + 1)) ++
          [Code.BR (Mem.shareReg (posTemp (2 * Γa.length + 1)))]) from by
        rw [← jump_eq]; exact noHkQ_of_nhOK Hp hQ (NoHk.nh_jump _)).left
    have hgetBR : cs[kp + c0.length + (loadPtr (posTemp (2 * Γa.length + 1))).length]? =
        some (Code.BR (Mem.shareReg (posTemp (2 * Γa.length + 1)))) := hatA.right.right.head
    obtain ⟨iB, htiB, hitB⟩ := Hp.instr _ _ hgetBR rfl
    have eB : iB = .br (.x dreg) := by
      have : (Code.BR (Mem.shareReg (posTemp (2 * Γa.length + 1)))).toInstr = some (.br (.x dreg)) := by
        rw [hpr]; simp [Code.toInstr, toReg_x, hdr]
      rw [this] at htiB; exact (Option.some.inj htiB).symm
    subst eB
    -- the method label, the clause label, then metas and an instruction
    have hcsM' : cs = csM ++ Code.LAB base :: (Code.LAB (clauseLabel base cl.xtor) ::
        ((lcode ++ body) ++ (post0 ++ restM))) := by
      rw [hcsM]; simp [List.append_assoc]
    obtain ⟨Bm, c2m, R0m, hsplit, hBm, hc2m⟩ := split_first_instr
      (Code.LAB (clauseLabel base cl.xtor) :: ((lcode ++ body) ++ (post0 ++ restM)))
      (instr_behind (pre := pre) (by rw [← hcsC]; exact hcsM'))
    obtain ⟨e, hstepB, hTol⟩ := step_br_label (c := c) HB (by rw [hcsM', hsplit]) hBm hc2m hfitX dreg σb
      (pcOf hkf cs (kp + c0.length + (loadPtr (posTemp (2 * Γa.length + 1))).length))
      (by rw [hregb, hwe])
    have hmC : MStepsK Q Pm c σb (pcOf hkf cs (kp + c0.length + (loadPtr (posTemp (2 * Γa.length + 1))).length)) out
        σb e out := .one_instr hitB (.next hitB hstepB)
    -- the two labels are no items
    have hg0 : cs[csM.length]? = some (Code.LAB base) := by
      rw [hcsM']; exact getElem?_mid _ _ _
    have hg1 : cs[csM.length + 1]? = some (Code.LAB (clauseLabel base cl.xtor)) := by
      have e' : cs = (csM ++ [Code.LAB base]) ++ Code.LAB (clauseLabel base cl.xtor) ::
          ((lcode ++ body) ++ (post0 ++ restM)) := by rw [hcsM']; simp
      have : csM.length + 1 = (csM ++ [Code.LAB base]).length := by simp
      rw [this]; conv => lhs; rw [e']
      exact getElem?_mid _ _ _
    have hlabitem : ∀ l, isItem hkf (Code.LAB l) = false := by
      intro l
      cases hh : hkf (Code.LAB l) with
      | false => simp [isItem, Code.isMeta, hh]
      | true => obtain ⟨m, e⟩ := Hp.hkComment _ hh; cases e
    have hpc2 : pcOf hkf cs (csM.length + 2) = pcOf hkf cs csM.length := by
      rw [show csM.length + 2 = csM.length + 1 + 1 by omega, pcOf_noitem hg1 (hlabitem _),
        pcOf_noitem hg0 (hlabitem _)]
    refine ⟨σb, csM.length + 2, e, km, kl', lcode, kb', body, hk0.trans (hkb.trans hmC), by rw [hpc2]; exact hTol,
      Cb, fun t ht _ => Fb.temp (isVar_posTemp ht), by rw [Fb.temp (isVar_posTemp hlt), hw]; rfl,
      fun _ R => heapRel_frame0 R Fb, hload, hbody, ?_, (MStepsKR.one_next hitB hstepB).pre (hk0.trans hkb)⟩
    refine ⟨csM ++ [Code.LAB base, Code.LAB (clauseLabel base cl.xtor)], post0 ++ restM, ?_, by simp⟩
    rw [hcsM']; simp [List.append_assoc]
  · -- through the method table
    have hgt : clauses.length > 1 := by omega
    simp only [hle, if_false, run_bind_ok, run_pure_ok, xtorPositionM_run_ok] at hrun
    obtain ⟨pos', k3, ⟨hx', rfl⟩, rfl, rfl⟩ := hrun
    rw [hx] at hx'; cases hx'
    simp only [hgt, if_true] at hcsM
    obtain ⟨prem, post, kl, kl', lcode, kb', body,
        (hc3 : _ = prem ++ Code.LAB (clauseLabel base cl.xtor) :: (lcode ++ (body ++ post))),
        (hload : (load envCtx' cl.ctx).run kl = .ok (lcode, kl')), hbody⟩ :=
      ThreeWay.codeMethods_nth a64Backend hooks natRen types envCtx' clauses base pos cl _ _ _ hmrun hclause
    generalize hT : codeTable a64Backend clauses base = table at hcsM
    have htab : table[pos]? = some (.B (clauseLabel base cl.xtor)) := by
      rw [← hT]; exact ThreeWay.codeTable_nth a64Backend (j := Code.B) (fun _ => rfl) base clauses pos cl hclause
    have htlen : table.length = clauses.length := by rw [← hT]; exact ThreeWay.codeTable_length a64Backend (j := Code.B) (fun _ => rfl) base clauses
    have htins : ∀ code ∈ table, code.isMeta = false := by rw [← hT]; exact x_codeTable_instr base clauses
    generalize hsfx : prem ++ Code.LAB (clauseLabel base cl.xtor) :: (lcode ++ (body ++ post)) ++ restM = sfx
    have hcsT : cs = csM ++ (Code.LAB base :: table) ++ sfx := by
      rw [hcsM, hc3, ← hsfx]; simp [List.append_assoc]
    have hposT : pos < table.length := by omega
    have hje : a64Backend.addAndJump (posTemp (2 * Γa.length + TempNum.snd.toNat)) (a64Backend.jumpLength pos) =
        loadPtr (posTemp (2 * Γa.length + 1)) ++
          [Code.ADDI (Mem.shareReg (posTemp (2 * Γa.length + 1))) (Mem.shareReg (posTemp (2 * Γa.length + 1))) (jumpLength pos),
           Code.BR (Mem.shareReg (posTemp (2 * Γa.length + 1)))] := addAndJump_eq _ _
    rw [hje] at hat
    generalize hc0' : hookCode a64Backend hooks (Γa ++ [b]) ++ [a64Backend.comment (invokePrint x tag args)] = c0
      at hat
    have hc0c : ∀ y ∈ c0, ∃ m', y = Code.COMMENT m' := by rw [← hc0']; exact hook_comments hooks _ _
    have hatA : XAt cs kp (c0 ++ (loadPtr (posTemp (2 * Γa.length + 1)) ++
        ([Code.ADDI (Mem.shareReg (posTemp (2 * Γa.length + 1))) (Mem.shareReg (posTemp (2 * Γa.length + 1))) (jumpLength pos)] ++
         [Code.BR (Mem.shareReg (posTemp (2 * Γa.length + 1)))]))) := by
      simpa [List.append_assoc] using hat
    have hk0 := x_msteps_c0H (c := c) Hp hatA.left hc0' (hkcQ_mm Hp hQ (by unfold invokePrint; mm_tac)) σ out
    have hkb := x_msteps_codesQ (c := c) (Q := Q) Hp hatA.right.left hxb out
      (show NoHkQ hkf Q (loadPtr (posTemp (2 * Γa.length + 1)) ++
          [Code.ADDI (Mem.shareReg (posTemp (2 * Γa.length + 1))) (Mem.shareReg (posTemp (2 * Γa.length + 1))) (jumpLength pos),
           Code.BR (Mem.shareReg (posTemp (2 * Γa.length + 1)))]) from by
        rw [← addAndJump_eq]; exact noHkQ_of_nhOK Hp hQ (NoHk.nh_addAndJump _ _)).left
    have hi12 : okImm12 (jumpLength pos) = true := by
      rw [jumpLength_eq]; unfold okImm12
      have h1 : (0 : Int) ≤ 4 * (pos : Int) := by omega
      have h2 : 4 * (pos : Int) < 4096 := by omega
      simp [h1, h2]
    have hxc : execCodes c [Code.ADDI (Mem.shareReg (posTemp (2 * Γa.length + 1)))
        (Mem.shareReg (posTemp (2 * Γa.length + 1))) (jumpLength pos)] σb =
        .ok (σb.setReg dreg (some (w + imm (jumpLength pos)))) := by
      rw [hpr]
      have hti : (Code.ADDI (.x r) (.x r) (jumpLength pos)).toInstr =
          some (.addi (.x dreg) (.x dreg) (jumpLength pos)) := by simp [Code.toInstr, toReg_x, hdr]
      simp [execCodes, execCode_of_toInstr _ hti, exec_addi_x c σb dreg dreg _ hi12, hregb]
    have hkc := x_msteps_codesQ (c := c) (Q := Q) Hp hatA.right.right.left hxc out
      (Or.inl fun y hy => hk_false_of_not_comment Hp (fun m e => by subst e; simp at hy))
    have hkeep : ∀ t, t < 281 → t ≠ 2 * Γa.length + 1 →
        (σb.setReg dreg (some (w + imm (jumpLength pos)))).tempVal (posTemp t) = σ.tempVal (posTemp t) := by
      intro t ht hne
      rw [← Fb.temp (isVar_posTemp ht)]
      have hv := isVar_posTemp ht
      cases hpt : posTemp t with
      | register reg =>
        rw [hpt] at hv
        cases reg with
        | x r' =>
          obtain ⟨nt', hnt', h4, _⟩ := tempVal_var_reg (σ := σb) hv
          rw [tempVal_reg hnt', tempVal_reg hnt', setReg_reg, if_neg]
          intro e
          rcases hcase with hc1 | hc1
          · -- the jump register is the register of the closure's word temporary
            have : posTemp t = posTemp (2 * Γa.length + 1) := by
              rw [hpt, hc1]
              have : r' = r := by
                have h1 := hnt'; rw [← e] at h1
                exact xreg_inj h1 hdr
              rw [this]
            exact hne (posTemp_inj.1 this)
          · rw [hc1] at e; rw [← e] at h4; exact absurd h4 (by decide)
        | sp => simp [Temporary.isVar] at hv
        | xzr => simp [Temporary.isVar] at hv
      | spill q => rw [tempVal_spill, tempVal_spill]; rfl
    have hdefc : ((σb.setReg dreg (some (w + imm (jumpLength pos)))).tempVal (posTemp (2 * Γa.length + 1))).isSome := by
      rcases hcase with hc1 | hc1
      · rw [hc1, tempVal_reg hdr]; simp
      · -- a spill slot: untouched
        have hb0 : (σb.tempVal (posTemp (2 * Γa.length + 1))) = some w := by
          rw [Fb.temp hvar]; exact hw
        cases hpt : posTemp (2 * Γa.length + 1) with
        | register reg =>
          exfalso
          rw [hpt] at hpr hvar
          cases reg with
          | x r' =>
            obtain ⟨nt', hnt', h4, _⟩ := tempVal_var_reg (σ := σb) hvar
            simp only [Mem.shareReg] at hpr
            injection hpr with hpr
            subst hpr
            rw [hnt'] at hdr
            injection hdr with hdr
            rw [hdr, hc1] at h4
            exact absurd h4 (by decide)
          | sp => simp [Temporary.isVar] at hvar
          | xzr => simp [Temporary.isVar] at hvar
        | spill q =>
          rw [hpt] at hb0
          rw [tempVal_spill] at hb0 ⊢
          simp only [setReg_slot, setReg_slotAddr]
          rw [hb0]; rfl
    have Cc : Core c (σb.setReg dreg (some (w + imm (jumpLength pos)))) := core_setReg Cb _ _
    have HRc : ∀ hs, HeapRel c σ hs → HeapRel c (σb.setReg dreg (some (w + imm (jumpLength pos)))) hs := by
      intro hs R
      refine heapRel_of_keep (heapRel_frame0 R Fb) rfl ?_ ?_
      · rw [setReg_reg, if_neg]
        intro e
        rcases hcase with hc1 | hc1
        · rw [hc1] at hvar
          obtain ⟨nt', hnt', h4, _⟩ := tempVal_var_reg (σ := σb) hvar
          rw [hnt'] at hdr; injection hdr with hdr
          rw [hdr, e] at h4; exact absurd h4 (by decide)
        · rw [hc1] at e; exact absurd e (by decide)
      · rw [setReg_reg, if_neg]
        intro e
        rcases hcase with hc1 | hc1
        · rw [hc1] at hvar
          obtain ⟨nt', hnt', h4, _⟩ := tempVal_var_reg (σ := σb) hvar
          rw [hnt'] at hdr; injection hdr with hdr
          rw [hdr, e] at h4; exact absurd h4 (by decide)
        · rw [hc1] at e; exact absurd e (by decide)
    obtain ⟨TA, hiL, hdisp⟩ := table_dispatch HA hnd hfitX (Q := Q) (A := csM) (lbl := base) (table := table)
      (pre := prem) (tgt := clauseLabel base cl.xtor) (rest := lcode ++ (body ++ post) ++ restM)
      (by rw [hcsT, ← hsfx]; simp [List.append_assoc]) htab htins
    -- the address the closure holds is the address of the table label
    have hlen0 : 0 < table.length := by omega
    obtain ⟨t0, ht0⟩ : ∃ t0, table[0]? = some t0 := ⟨table[0]'hlen0, List.getElem?_eq_getElem hlen0⟩
    have hlw : labelWord Pm c (pcOf hkf cs csM.length) = addrOf c cs csM.length := by
      have hcs0 : cs = csM ++ Code.LAB base :: ([] ++ t0 :: (table.drop 1 ++ sfx)) := by
        rw [hcsT]
        have : table = t0 :: table.drop 1 := by
          cases table with
          | nil => simp at ht0
          | cons y ys => simp at ht0; subst ht0; rfl
        conv => lhs; rw [this]
        simp [List.append_assoc]
      exact (label_addr (c := c) HB hnd hcs0 (htins t0 (List.mem_of_getElem? ht0))).2.2
    -- `BR` lands on the table entry
    have hgetBR : cs[kp + c0.length + (loadPtr (posTemp (2 * Γa.length + 1))).length + 1]? =
        some (Code.BR (Mem.shareReg (posTemp (2 * Γa.length + 1)))) := by
      have := hatA.right.right.right.head
      simpa using this
    have htoI : (Code.BR (Mem.shareReg (posTemp (2 * Γa.length + 1)))).toInstr = some (.br (.x dreg)) := by
      rw [hpr]; simp [Code.toInstr, toReg_x, hdr]
    obtain ⟨hmC, hmCR, hatC⟩ := hdisp hgetBR htoI (σb.setReg dreg (some (w + imm (jumpLength pos)))) out
      (by rw [hlw, ← hwe]; simp)
    have hkc' : MStepsK Q Pm c σb (pcOf hkf cs (kp + c0.length + (loadPtr (posTemp (2 * Γa.length + 1))).length)) out
        (σb.setReg dreg (some (w + imm (jumpLength pos))))
        (pcOf hkf cs (kp + c0.length + (loadPtr (posTemp (2 * Γa.length + 1))).length + 1)) out := by
      simpa using hkc
    refine ⟨_, _, _, kl, kl', lcode, kb', body,
      hk0.trans (hkb.trans (hkc'.trans hmC)), Tol.refl _ _, Cc, hkeep, hdefc, HRc, hload, hbody, ?_,
      hmCR.pre (hk0.trans (hkb.trans hkc'))⟩
    rw [show lcode ++ (body ++ post) ++ restM = (lcode ++ body) ++ (post ++ restM) by simp [List.append_assoc]] at hatC
    exact hatC.left

end NavI

section
variable (c : MemCfg) (H : CfgCC c) (h8 : c.heapBase % 8 = 0) (hkf : Code → Bool) (Pm : Prog) (Q : Nat → Prop)
  (cs : List Code) (HA : HoldsA hkf Pm cs) (hQ : HKQ hkf Q) (hnd : (labs cs).Nodup)
  (hfitX : c.codeBase + 4 * ninstr cs < 2 ^ 64) (adr : Nat → Word) (hadr : AdrOK c hkf Pm cs adr)

/-- the machine with addresses and the navigation of `switch`: the tables of the routine are laid out (`HoldsA`) and
the routine ends below 2^64 (`hfitX`) -/
def machineN : ThreeWay.MachineN a64Backend where
  toMachineA := machineA c H h8 hkf Pm Q cs HA.holds hQ hnd adr hadr
  switch_nav := by
    intro hooks types Γ' b x ty clauses fv pos cl k k' kp items s hrun hat _ B hb hfresh hclause hxw
    obtain ⟨σ4, kp4, kl, kl', lcode, kb', body, hm, C4, F4, hload, hbody, hat4⟩ :=
      switch_nav_a64 H HA hnd hfitX (Q := Q) (out := s.2) B hb hfresh hclause hxw hrun hat hQ
    exact ⟨(σ4, s.2), kp4, kl, kl', lcode, kb', body, hm, trivial, C4,
      keep_of (H := H) (h8 := h8) (s := s) (fun u hu _ => F4.temp (isVar_posTemp hu)) (fun _ R => heapRel_frame0 R F4),
      hload, hbody, hat4⟩

end

section
variable (c : MemCfg) (H : CfgCC c) (h8 : c.heapBase % 8 = 0) (hkf : Code → Bool) (Pm : Prog) (Q : Nat → Prop)
  (cs : List Code) (HB : HoldsB hkf Pm cs) (hQ : HKQ hkf Q) (hnd : (labs cs).Nodup)
  (hfitX : c.codeBase + 4 * ninstr cs < 2 ^ 64) (pre : List Code) (hcsC : cs = pre ++ cleanup)

/-- … with the jump through a code pointer (byte addresses, `addrOf`); a run that ends ahead: the machine is at the
item `pcR`, ahead of the item of the position named by `#ctx` hooks (`Tol`: `BR reg` enters at the last label
before the first instruction) -/
def machineI : ThreeWay.MachineI a64Backend where
  toMachineN := machineN c H h8 hkf Pm Q cs HB.holdsA hQ hnd hfitX (addrOf c cs) (adrOK_addrOf HB hnd hcsC)
  tagOK pos := pos < 1024
  RunA k s k' s' := ∃ pcR, MStepsHKR Q Pm c s.1 (pcOf hkf cs k) s.2 s'.1 pcR s'.2 ∧ Tol Pm (pcOf hkf cs k') pcR
  runA_trans := by
    rintro a b d s ⟨σ', o'⟩ ⟨σ'', o''⟩ ⟨pcR, h, T⟩ h2
    rcases tol_runK h2 T with hm | ⟨e1, e2, T'⟩
    · exact ⟨_, h.post hm, Tol.refl _ _⟩
    · replace e1 : σ'' = σ' := e1
      replace e2 : o'' = o' := e2
      subst e1 e2
      exact ⟨pcR, h, T'⟩
  invoke_nav := by
    intro hooks types Γa b x tag ty args clauses d pos cl envCtx' w k k' kp items s hrun hat _ B hcap hb hfresh hd
      hx hclause hlc hw hXM htag
    obtain ⟨σ4, kp4, pcR, kl, kl', lcode, kb', body, _, T4, C4, hmk4, hdef4, hrel4, hload, hbody, hat4, hnR⟩ :=
      invoke_nav_a64 H HB hnd hfitX hcsC (Q := Q) (out := s.2) B hb hfresh hd hx hclause hlc hw hXM htag hrun
        hat hQ
    exact ⟨(σ4, s.2), kp4, kl, kl', lcode, kb', body, ⟨pcR, hnR, T4⟩, trivial, C4,
      keep_of (H := H) (h8 := h8) (s := s) (fun u hu hne => hmk4 u hu hne) hrel4, hdef4, hload, hbody, hat4⟩

end

/-- the statement comments of `op` and `call` are no hooks, if the name at their head does not start with `#`
(`Scc.X86.Ref.K.HeadHF`: backend-independent, Scc/AxCut/PosHered.lean) -/
theorem headOK {c : MemCfg} {H : CfgCC c} {h8 : c.heapBase % 8 = 0} {hkf : Code → Bool} {Pm : Prog} {Q : Nat → Prop}
    {cs : List Code} (Hp : Holds hkf Pm cs) (hQ : HKQ hkf Q) (hnd : (labs cs).Nodup) {s : Stmt}
    (hhf : Scc.X86.Ref.K.HeadHF s ∨ ∀ pc, Q pc) : ThreeWay.HeadOK (machine c H h8 hkf Pm Q cs Hp hQ hnd) s := by
  cases s with
  | op x a o b next fv =>
    show hkf (.COMMENT _) = false ∨ ∀ pc, Q pc
    simp only [String.append_assoc]
    exact hkcQ_name_first Hp hQ hhf (mm_append (mm_ofList (by decide)))
  | call l args => exact hkcQ_name_first Hp hQ hhf (mm_ofList (by decide))
  | _ => trivial

end Scc.A64.Ref.K
