/-
  Scc.A64.LoaderLines — bridge from the loader round trip (LoaderText.lean) to the relation
  `Scc.A64.CC.Lines hkv ls routine` of CCProofsLayout.lean ("the parsed lines are the routine,
  instruction by instruction, up to blank lines"), which the C13 run theorems (`cc_safe_run`,
  `holds_layout`) take as their hypothesis about the text:

  * `hookVarsOf m`: the hook a comment text is read as (`none`: a plain comment) — the parameter `hkv`;
  * `lines_progPLines`: `Lines hookVarsOf (numberFrom n (progPLines cs)) cs` for every text-safe routine;
  * `parseText_lines`: `∃ ls, parseText (printProg cs) = .ok ls ∧ Lines hookVarsOf ls cs`.
-/
import Scc.A64.LoaderText
import Scc.A64.CCProofsLayout

namespace Scc.A64.Loader

open Scc.A64.CC

/-- the context a comment text is read as a hook of (`none`: not a hook) -/
def hookVarsOf (m : String) : Option (List (String × Kind)) :=
  match commentPLine? m with
  | some (.hook vs) => some vs
  | _ => none

theorem lineOf_codePLines (c : Code) (hreg : regsOK c = true) :
    (∃ l, c = .LAB l ∧ codePLines c = [.blank, .label l] ∧ lineOf hookVarsOf c = some (.label l)) ∨
    (∃ pl, codePLines c = [pl] ∧ lineOf hookVarsOf c = some pl) := by
  cases hi : c.toInstr with
  | some i =>
    right
    refine ⟨.instr i, codePLines_instr hi, ?_⟩
    cases c <;> first | (simp [Code.toInstr] at hi; done) | (simp only [lineOf, hi]; rfl)
  | none =>
    cases c with
    | LAB l => exact Or.inl ⟨l, rfl, rfl, rfl⟩
    | TEXT => exact Or.inr ⟨.directive, rfl, rfl⟩
    | GLOBAL l => exact Or.inr ⟨.directive, rfl, rfl⟩
    | COMMENT m =>
      right
      refine ⟨(commentPLine? m).getD .comment, rfl, ?_⟩
      simp only [lineOf, hookVarsOf]
      rcases commentPLine?_cases m with h | h | ⟨vs, h⟩ <;> simp [h]
    | _ => simp [regsOK, hi] at hreg

theorem lines_flatMap (cs : List Code) (h : ∀ c ∈ cs, regsOK c = true) (n : Nat) :
    Lines hookVarsOf (numberFrom n (cs.flatMap codePLines)) cs := by
  induction cs generalizing n with
  | nil => exact .nil
  | cons c cs ih =>
    have ih' := ih (fun x hx => h x (by simp [hx]))
    rw [List.flatMap_cons]
    rcases lineOf_codePLines c (h c (by simp)) with ⟨l, rfl, h1, h2⟩ | ⟨pl, h1, h2⟩
    · rw [h1]
      exact .blank n (.code (n + 1) h2 (ih' (n + 1 + 1)))
    · rw [h1]
      exact .code n h2 (ih' (n + 1))

/-- the lines the loader reads the text of a routine as ARE the routine in the sense of `Lines` -/
theorem lines_progPLines (cs : List Code) (h : ∀ c ∈ cs, regsOK c = true) (n : Nat) :
    Lines hookVarsOf (numberFrom n (progPLines cs)) cs := by
  unfold progPLines
  by_cases hne : cs = []
  · subst hne; exact .blank n .nil
  · simp only [hne, if_false]; exact lines_flatMap cs h n

/-- the hypothesis of the text-level run theorems (`CC.cc_safe_run`): the printed text of a text-safe
    routine parses, to lines that are the routine -/
theorem parseText_lines (cs : List Code) (h : ProgOK cs) :
    ∃ ls, parseText (printProg cs) = .ok ls ∧ Lines hookVarsOf ls cs :=
  ⟨_, parseText_printProg cs h, lines_progPLines cs (fun c hc => (h c hc).1) 1⟩

end Scc.A64.Loader
