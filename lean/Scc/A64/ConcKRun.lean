/-
  Scc.A64.ConcKRun — the STATEMENT BOUNDARIES of the AArch64 run of ANY program (data types and closures),
  made explicit.  The AArch64 analogue of Scc/X86/ConcRun.lean + ConcKRun.lean, over the closure-aware three-way
  relation `Scc.A64.Ref.K.Rel3` (Scc/A64/RefClosHRun.lean).

  The `BR` of an `invoke` of a single-method closure enters the program at the last label before the first
  instruction behind the method label, so the machine is not AT the statement-boundary item but ahead of it by
  `#ctx` hooks (`Tol`, Scc/A64/RefClosAddr.lean; registers, stack, heap, trace are those of the boundary).  A
  statement boundary of the run is therefore a configuration `X` with `Tol P (pcOf hk cs kp) X.pc` for a position `kp`
  at which `K.Rel3` holds of `X.σ` (`Bd`, `tol_next`).  The boundaries are an instance of Scc/Backend/TrackHeap.lean
  (`boundaries`: `K.step3P` read at boundaries), so along a run of the positional machine the machine passes through a
  boundary for EVERY state of the run, in order (`Track.run`); `K.programs_holds` is the run theorem (result and
  output of `runProg`).
-/
import Scc.A64.ConcKInv
import Scc.A64.RefClosHRun
import Scc.Backend.TrackHeap

namespace Scc.A64.ConcK

open Scc.AxCut Scc.Backend Scc.Backend.Abs Scc.A64.Ref
open Scc.A64.CC
open Scc.Backend.Keys
open Scc.Props.C14Generic (LabelSafe)
open Scc.Props.C06Generic (outAfter WithinCapacity Reachable EnoughHeap CodeFits statesOf stopsWithin
  reachable_mem_statesOf)
open Scc.Heap (HState InvS InvW)
open Scc.Heap.Refine (HRef FrLe Room)
open Scc.X86.Conc (ctxKinds ctxKinds_keys)

/-- a configuration of the machine's run loop: state, program counter (item index), trace (most recent first) -/
structure MS where
  σ : State
  pc : Nat
  out : List (Bool × Word)

def StepsN (P : Prog) (c : MemCfg) (n : Nat) (X Y : MS) : Prop :=
  K.MStepsN P c n X.σ X.pc X.out Y.σ Y.pc Y.out

theorem StepsN.refl (P : Prog) (c : MemCfg) (X : MS) : StepsN P c 0 X X := K.MStepsN.refl _ _ _

theorem StepsN.trans {P : Prog} {c : MemCfg} {n m : Nat} {X Y Z : MS} (h1 : StepsN P c n X Y)
    (h2 : StepsN P c m Y Z) : StepsN P c (n + m) X Z := K.MStepsN.trans h1 h2

theorem stepsN_of_msteps {P : Prog} {c : MemCfg} {σ σ' : State} {pc pc' : Nat} {out out' : List (Bool × Word)}
    (h : MSteps P c σ pc out σ' pc' out') : ∃ n, StepsN P c n ⟨σ, pc, out⟩ ⟨σ', pc', out'⟩ :=
  K.msteps_count h

/-- from `X` the machine passes through a chain of configurations, one for each positional state of the list,
each in relation `Q` to it -/
def BChain (P : Prog) (c : MemCfg) (Q : Pos.State → MS → Prop) : List Pos.State → MS → Prop
  | [], _ => True
  | st :: rest, X => Q st X ∧ (rest = [] ∨ ∃ n X', StepsN P c n X X' ∧ BChain P c Q rest X')

theorem BChain.mem {P : Prog} {c : MemCfg} {Q : Pos.State → MS → Prop} :
    ∀ {sts : List Pos.State} {X : MS}, BChain P c Q sts X → ∀ st ∈ sts, ∃ n X', StepsN P c n X X' ∧ Q st X'
  | [], _, _, st, h => by simp at h
  | s0 :: rest, X, hc, st, h => by
    rcases List.mem_cons.1 h with rfl | h
    · exact ⟨0, X, StepsN.refl _ _ _, hc.1⟩
    · rcases hc.2 with e | ⟨n, X', hn, hc'⟩
      · subst e; simp at h
      · obtain ⟨n', X'', hn', hq⟩ := BChain.mem hc' st h
        exact ⟨n + n', X'', hn.trans hn', hq⟩

theorem BChain.mono {P : Prog} {c : MemCfg} {Q Q' : Pos.State → MS → Prop} (hq : ∀ st X, Q st X → Q' st X) :
    ∀ {sts : List Pos.State} {X : MS}, BChain P c Q sts X → BChain P c Q' sts X
  | [], _, _ => trivial
  | s0 :: rest, X, hc => by
    refine ⟨hq _ _ hc.1, ?_⟩
    rcases hc.2 with e | ⟨n, X', hn, hc'⟩
    · exact Or.inl e
    · exact Or.inr ⟨n, X', hn, BChain.mono hq hc'⟩

theorem BChain.prepend {P : Prog} {c : MemCfg} {Q : Pos.State → MS → Prop} {n : Nat} {X0 X : MS}
    (h0 : StepsN P c n X0 X) :
    ∀ {sts : List Pos.State}, BChain P c Q sts X → ∀ st ∈ sts, ∃ n' X', StepsN P c n' X0 X' ∧ Q st X' := by
  intro sts hc st hm
  obtain ⟨n', X', h1, h2⟩ := hc.mem st hm
  exact ⟨n + n', X', h0.trans h1, h2⟩

/-- the simulation runs from the boundary item `pc0` to the item `pc1` (the next boundary `pc'` up to `Tol`),
the machine is at `pcR` (`pc0` up to `Tol`): the machine reaches an item that is `pc'` up to `Tol` -/
theorem tol_next {P : Prog} {c : MemCfg} {σ σ' : State} {pc0 pcR pc1 pc' : Nat} {out out' : List (Bool × Word)}
    (T : K.Tol P pc0 pcR) (h : MSteps P c σ pc0 out σ' pc1 out') (T' : K.Tol P pc' pc1) :
    ∃ pcR', MSteps P c σ pcR out σ' pcR' out' ∧ K.Tol P pc' pcR' := by
  rcases K.tol_run h T with hk | ⟨e1, e2, T2⟩
  · exact ⟨pc1, hk, T'⟩
  · subst e1; subst e2
    exact ⟨pcR, .refl _ _ _, T'.trans T2⟩

/-- … through an instruction, if the simulated run goes through one -/
theorem tol_next_real {P : Prog} {c : MemCfg} {σ σ' : State} {pc0 pcR pc1 : Nat} {out out' : List (Bool × Word)}
    (T : K.Tol P pc0 pcR) (h : K.MStepsR P c σ pc0 out σ' pc1 out') :
    ∃ n, 1 ≤ n ∧ StepsN P c n ⟨σ, pcR, out⟩ ⟨σ', pc1, out'⟩ :=
  K.mstepsR_count (K.tol_runR h T)

theorem bchain_of_chain {P : Prog} {c : MemCfg} {Q : Pos.State → MS → Prop} :
    ∀ {sts : List Pos.State} {X : MS}, Track.Chain (StepsN P c) Q sts X → BChain P c Q sts X
  | [], _, _ => trivial
  | _ :: _, _, hc => ⟨hc.1, hc.2.imp id fun ⟨n, X', hn, hc'⟩ => ⟨n, X', hn, bchain_of_chain hc'⟩⟩

/-- a statement boundary of the run, with the output so far: a typed state of the positional machine, all of whose
successors fit the temporaries, in relation `K.Rel3` at a position `kp` of the routine to the state of the
configuration `X`, whose program counter is the item of `kp` or ahead of it by `#ctx` hooks (`Tol`) -/
structure Bd (c : MemCfg) (hkf : Code → Bool) (Pm : Prog) (cs : List Code) (P : Program) (hooks : Bool)
    (prog : AxCut.Prog) (st : Pos.State) (acc : List (Bool × Word)) (cfg : Config) (hs : HState) (X : MS) :
    Prop where
  typed : Pos.StateTyped prog st
  cap : ∀ st', Reachable prog st st' → 2 * st'.ctx.length ≤ 280
  out : X.out = acc
  cout : cfg.out = acc
  pos : ∃ kp, K.Tol Pm (pcOf hkf cs kp) X.pc ∧ K.Rel3 c cs P hooks prog st cfg hs X.σ kp

theorem Bd.x3 {c : MemCfg} {hkf : Code → Bool} {Pm : Prog} {cs : List Code} {P : Program} {hooks : Bool}
    {prog : AxCut.Prog} {st : Pos.State} {acc : List (Bool × Word)} {cfg : Config} {hs : HState} {X : MS}
    (B : Bd c hkf Pm cs P hooks prog st acc cfg hs X) : ∃ Γ' ι κ, K.X3 c Γ' cfg hs ι κ X.σ cfg.out := by
  obtain ⟨_, _, Γ', ι, κ, _, _, X3h, _⟩ := B.pos
  exact ⟨Γ', ι, κ, X3h⟩

theorem Bd.alloc_le {c : MemCfg} {hkf : Code → Bool} {Pm : Prog} {cs : List Code} {P : Program} {hooks : Bool}
    {prog : AxCut.Prog} {st : Pos.State} {acc : List (Bool × Word)} {cfg : Config} {hs : HState} {X : MS}
    (B : Bd c hkf Pm cs P hooks prog st acc cfg hs X) : Scc.X86.Ref.K.allocArity st.stmt ≤ 140 := by
  obtain ⟨_, _, Γ', _, _, hk, _, X3h, _⟩ := B.pos
  have := Scc.X86.Ref.K.allocArity_le_length B.typed.1
  have := keys_length hk
  have := X3h.cap
  omega

/-- the machine is at the final `RET` with result `v` and output `acc` -/
def AtEnd (c : MemCfg) (hkf : Code → Bool) (Pm : Prog) (cs : List Code) (v : Word) (acc : List (Bool × Word))
    (XL : MS) : Prop :=
  (∃ kL, XL.pc = pcOf hkf cs kL) ∧ Pm.items[XL.pc]? = some (.instr .ret) ∧ exitCheck c XL.σ = .done v ∧ XL.out = acc

section Run3

variable {c : MemCfg} (H : CfgCC c) (h8 : c.heapBase % 8 = 0) {hkf : Code → Bool} {Pm : Prog}
  {cs pre : List Code} (HB : K.HoldsB hkf Pm cs) (hnd : (labs cs).Nodup)
  (hfitX : c.codeBase + 4 * ninstr cs < 2 ^ 64) (hcs : cs = pre ++ cleanup)
  (hclean : "cleanup" ∉ labs pre)

include H h8 HB hnd hfitX hcs hclean in
/-- THE STATEMENT BOUNDARIES OF THE RUN (`Scc/Backend/TrackHeap.lean`): `K.step3P` read at boundaries, the machine
possibly ahead of the boundary item (`tol_next`) -/
theorem boundaries (hooks : Bool) (prog : AxCut.Prog) (kc : Nat) (code : List MockOp) (nargs kc' : Nat)
    (hcomp : (compile mockSym hooks prog).run kc = .ok ((code, nargs), kc'))
    (hsafe : LabelSafe prog = true) (htp : LinTypedProg prog) (hfit : CodeFits code)
    (DX : K.XDefsAt cs hooks prog) (hprog : K.ProgOK prog) :
    Track.Boundaries (StepsN Pm c) prog (Bd c hkf Pm cs (Program.ofOps code) hooks prog) (AtEnd c hkf Pm cs)
      c.heapBase c.heapBytes where
  refl := StepsN.refl Pm c
  trans := StepsN.trans
  witness B := by
    obtain ⟨_, _, _, X3h⟩ := B.x3
    obtain ⟨lin, lazy, live, Fr, I⟩ := X3h.href.conc
    exact ⟨_, lin, lazy, live, Fr, I⟩
  hbase B := by obtain ⟨_, _, _, X3h⟩ := B.x3; exact X3h.hrel.base
  hlimit B := by obtain ⟨_, _, _, X3h⟩ := B.x3; exact X3h.hrel.limit
  next := by
    rintro st acc cfg hs ⟨σ, pcR, out⟩ st' o B hheap hroom hst
    obtain ⟨kp, TL, R⟩ := B.pos
    have hout : out = acc := B.out
    subst hout
    have hacc := B.cout
    have hsim := K.step3P H h8 HB hnd hfitX hcs hclean hooks prog kc code nargs kc' hcomp hsafe hfit
      DX hprog st cfg hs σ kp R B.typed hheap hroom
    have hsafe' := Pos.step_safe htp st B.typed
    unfold K.StepSim3P at hsim
    simp only [hst] at hsim
    rw [hst] at hsafe'
    have hc' := B.cap st' (Reachable.step Reachable.refl hst)
    obtain ⟨cfg', hs', σ', kp', pcR', h1, T', hreal, h2, h3, hfr, hpk, R'⟩ := hsim (Ref.withinCapacity_of_le hc') hc'
    have hacc' : cfg'.out = outAfter o out := by rw [h2, hacc]
    rw [hacc, hacc'] at h1 hreal
    have hcap' : ∀ st'', Reachable prog st' st'' → 2 * st''.ctx.length ≤ 280 :=
      fun st'' hr => B.cap st'' (Scc.Props.C06Generic.reachable_prepend hst hr)
    by_cases hJ : Scc.X86.Ref.K.IsJump st.stmt
    · obtain ⟨n, hn1, hn⟩ := tol_next_real TL (hreal hJ)
      exact ⟨cfg', hs', n, ⟨σ', pcR', outAfter o out⟩, hn, ⟨hsafe', hcap', rfl, hacc', kp', T', R'⟩, h3, hfr, hpk,
        fun _ => hn1⟩
    · obtain ⟨pcR'', hk, T''⟩ := tol_next TL h1 T'
      obtain ⟨n, hn⟩ := stepsN_of_msteps hk
      exact ⟨cfg', hs', n, ⟨σ', pcR'', outAfter o out⟩, hn, ⟨hsafe', hcap', rfl, hacc', kp', T'', R'⟩, h3, hfr, hpk,
        fun h => absurd h hJ⟩
  done := by
    rintro st acc cfg hs ⟨σ, pcR, out⟩ v B hheap hroom hst
    obtain ⟨kp, TL, R⟩ := B.pos
    have hout : out = acc := B.out
    subst hout
    have hsim := K.step3P H h8 HB hnd hfitX hcs hclean hooks prog kc code nargs kc' hcomp hsafe hfit
      DX hprog st cfg hs σ kp R B.typed hheap hroom
    unfold K.StepSim3P at hsim
    simp only [hst] at hsim
    obtain ⟨kL, σL, h1, h2, h3⟩ := hsim
    rw [B.cout] at h1
    obtain ⟨n, hn⟩ := stepsN_of_msteps (K.tol_run_instr h1 TL h2)
    exact ⟨n, ⟨σL, pcOf hkf cs kL, out⟩, hn, ⟨kL, rfl⟩, h2, h3, rfl⟩

end Run3

/-- a configuration at a STATEMENT BOUNDARY of the run of the routine (any program): its state is related by the
closure-aware three-way relation `K.Rel3` to a state of the positional machine at a position `kp` of the routine,
and its program counter is the item of `kp` or ahead of it by `#ctx` hooks (`Tol`: the machine after the `BR` of
an `invoke`) -/
def BoundaryOf (p : AxCut.Prog) (hooks : Bool) (routine : List Code) (ops : List MockOp) (c : MemCfg)
    (hk : Code → Bool) (P : Prog) (st : Pos.State) (X : MS) : Prop :=
  ∃ (cfgA : Config) (hs : HState) (kp : Nat), K.Tol P (pcOf hk routine kp) X.pc ∧ X.out = cfgA.out ∧
    K.Rel3 c routine (Program.ofOps ops) hooks p st cfgA hs X.σ kp

/-- THE HEAP INVARIANT AT EVERY STATEMENT BOUNDARY, all programs -/
theorem heapInvAt_of_boundary {p : AxCut.Prog} {hooks : Bool} {routine : List Code} {ops : List MockOp}
    {c : MemCfg} (H : CfgCC c) {hk : Code → Bool} {P : Prog} {st : Pos.State} {X : MS}
    (B : BoundaryOf p hooks routine ops c hk P st X) :
    HeapInvAt c X.σ (ctxKinds st.ctx) (c.heapBase + c.heapBytes) := by
  obtain ⟨cfgA, hs, kp, T, _, Γ', ι, κ, hkeys, RX, X3h, _⟩ := B
  have := (heapInvAt_of_x3 H RX X3h).1
  rw [ctxKinds_keys hkeys] at this
  exact this

section EntryRun

variable {p : AxCut.Prog} {args : List Word} {hooks : Bool} {routine : List Code} {d0 : Def} {ops : List MockOp}
  {c : MemCfg} {hk : Code → Bool} {P : Prog} {pre : List Code} {σ0 : State} {kp0 a : Nat}
  (En : Entry p args hooks routine d0 ops c hk P pre σ0 kp0 a)

include En in
theorem Entry.boundaries (H : CfgCC c) (hb8 : c.heapBase % 8 = 0) (HB : K.HoldsB hk P routine)
    (hnd : (labs routine).Nodup) (hfitX : c.codeBase + 4 * ninstr routine < 2 ^ 64) {nargs c' : Nat}
    (hcompM : (compile mockSym hooks p).run 0 = .ok ((ops, nargs), c')) (hsafe : LabelSafe p = true)
    (htp : LinTypedProg p) (hfit : CodeFits ops) (hprog : K.ProgOK p) :
    Track.Boundaries (StepsN P c) p (Bd c hk P routine (Program.ofOps ops) hooks p) (AtEnd c hk P routine) c.heapBase
      c.heapBytes :=
  ConcK.boundaries H hb8 HB hnd hfitX En.split En.clean hooks p 0 ops nargs c' hcompM hsafe htp hfit En.defs hprog

include En in
theorem Entry.bd (hcap : ∀ st, Reachable p ⟨d0.ctx, args.map .int, d0.body⟩ st → 2 * st.ctx.length ≤ 280) :
    Bd c hk P routine (Program.ofOps ops) hooks p ⟨d0.ctx, args.map .int, d0.body⟩ [] (initConfig a args)
      (Scc.Heap.init c.heapBase (c.heapBase + c.heapBytes)) ⟨σ0, pcOf hk routine kp0, []⟩ :=
  ⟨En.typed, hcap, rfl, rfl, kp0, K.Tol.refl _ _, En.rel⟩

end EntryRun

def initMS (c : MemCfg) (hk : Code → Bool) (routine : List Code) (args : List Word) : MS :=
  ⟨entryState c args, pcOf hk routine 2, []⟩

/-- the whole run from the machine's initial configuration: the machine passes through a boundary
configuration for EVERY state of the terminating run of the positional machine, in order -/
theorem programs_chain (p : AxCut.Prog) (args : List Word) (hooks : Bool) (body routine : List Code)
    (nargs : Nat) (d0 : Def) (ops : List MockOp) (c' : Nat)
    (hsafe : LabelSafe p = true) (htp : LinTypedProg p) (hprog : K.ProgOK p)
    (hcompM : (compile mockSym hooks p).run 0 = .ok ((ops, nargs), c')) (hfit : CodeFits ops)
    (hcompX : compileProg a64Backend p hooks 0 = .ok (body, nargs, routine))
    (hnd : (labs routine).Nodup)
    (hd : p.defs.head? = some d0) (hentry : ∀ b ∈ d0.ctx, b.chi = .ext ∧ b.ty = .i64)
    (hcap : ∀ st, Reachable p ⟨d0.ctx, args.map .int, d0.body⟩ st → 2 * st.ctx.length ≤ 280)
    (fuel : Nat) (out : List (Bool × Word)) (v : Word) (hfuel : fuel + 1 < 2 ^ 64)
    (hrun : Pos.run p args fuel = ⟨out, .done v⟩)
    (c : MemCfg) (H : CfgCC c)
    (hb8 : c.heapBase % 8 = 0) (hb0 : 0 < c.heapBase)
    (hbytes : 128 + 64 * 141 * fuel ≤ c.heapBytes)
    {hk : Code → Bool} {P : Prog} (HB : K.HoldsB hk P routine)
    (hfitX : c.codeBase + 4 * ninstr routine < 2 ^ 64) :
    P.labels["asm_main"]? = some (pcOf hk routine 2) ∧ args.length ≤ 7 ∧
    ∃ n0 X0, StepsN P c n0 (initMS c hk routine args) X0 ∧
      BChain P c (BoundaryOf p hooks routine ops c hk P) (statesOf p fuel ⟨d0.ctx, args.map .int, d0.body⟩) X0 ∧
      stopsWithin p fuel ⟨d0.ctx, args.map .int, d0.body⟩ = true := by
  obtain ⟨_, hlen, hrun'⟩ := Scc.Props.C06Generic.run_entry hd hrun ⟨_, rfl⟩
  have hc0 := hcap _ Reachable.refl
  simp only at hc0
  obtain ⟨pre, σ0, kp0, a, En, _⟩ := entry_setup p args hooks body routine nargs d0 ops c' hsafe htp
    hcompM hcompX hnd hd hentry hlen hc0 c H hb0 (by omega) HB (Q := fun _ => True) (Or.inr fun _ => trivial)
  have hch := ((Track.roomTrack (En.boundaries H hb8 HB hnd hfitX hcompM hsafe htp hfit hprog) (cap := 140)
    fun B => B.alloc_le).run fuel 0 _ [] _ ⟨_, _, En.bd hcap, by rw [En.next1]; omega,
      Scc.Heap.Refine.room_init hb0 (by omega) (by omega)⟩).1
  obtain ⟨n0, hn0⟩ := stepsN_of_msteps En.steps
  exact ⟨En.main, En.nargs, n0, _, hn0, bchain_of_chain (hch.mono fun st X ⟨_, _, cfgA, hs, B, _⟩ => by
    obtain ⟨kp, T, R⟩ := B.pos
    exact ⟨cfgA, hs, kp, T, B.out.trans B.cout.symm, R⟩), Track.stopsWithin_of_done p fuel _ _ _ _ hrun'⟩

end Scc.A64.ConcK

namespace Scc.A64.Ref.K

open Scc.AxCut Scc.Backend Scc.A64.CC
open Scc.Props.C14Generic (LabelSafe)
open Scc.Props.C06Generic (Reachable CodeFits)

/-- END TO END for ALL programs (data types and closures), on a laid-out program that HOLDS the emitted
routine (with the facts on item offsets and entries, `HoldsB`): a terminating run of the AxCut
positional machine is reproduced — same trace, same result — by the AArch64 SPEC machine started at
`asm_main`. -/
theorem programs_holds (p : AxCut.Prog) (args : List Word) (hooks : Bool) (body routine : List Code)
    (nargs : Nat) (d0 : Def) (ops : List MockOp) (c' : Nat)
    (hsafe : LabelSafe p = true) (htp : LinTypedProg p) (hprog : ProgOK p)
    (hcompM : (compile mockSym hooks p).run 0 = .ok ((ops, nargs), c')) (hfit : CodeFits ops)
    (hcompX : compileProg a64Backend p hooks 0 = .ok (body, nargs, routine))
    (hnd : (labs routine).Nodup)
    (hd : p.defs.head? = some d0) (hentry : ∀ b ∈ d0.ctx, b.chi = .ext ∧ b.ty = .i64)
    (hcap : ∀ st, Reachable p ⟨d0.ctx, args.map .int, d0.body⟩ st → 2 * st.ctx.length ≤ 280)
    (fuel : Nat) (out : List (Bool × Word)) (v : Word) (hfuel : fuel + 1 < 2 ^ 64)
    (hrun : Pos.run p args fuel = ⟨out, .done v⟩)
    (cfg : MonCfg) (H : CfgCC cfg.mem) (hheap : cfg.heap = false)
    (hb8 : cfg.mem.heapBase % 8 = 0) (hb0 : 0 < cfg.mem.heapBase)
    (hbytes : 128 + 64 * 141 * fuel ≤ cfg.mem.heapBytes)
    {hk : Code → Bool} {P : Prog} (HB : HoldsB hk P routine)
    (hfitX : cfg.mem.codeBase + 4 * ninstr routine < 2 ^ 64) :
    ∃ fuel', (runProg P args fuel' cfg).out = out ∧ (runProg P args fuel' cfg).res = .done v := by
  obtain ⟨_, hlen, hrun'⟩ := Scc.Props.C06Generic.run_entry hd hrun ⟨_, rfl⟩
  obtain ⟨pre, σ0, kp0, a, En, _⟩ := ConcK.entry_setup p args hooks body routine nargs d0 ops c' hsafe htp hcompM
    hcompX hnd hd hentry hlen (hcap _ Reachable.refl) cfg.mem H hb0 (by omega) HB (Q := fun _ => True)
    (Or.inr fun _ => trivial)
  obtain ⟨n, XL, accL, g1, hout, ⟨kL, hpc⟩, g2, g3, g4⟩ := Track.room_done
    (En.boundaries H hb8 HB hnd hfitX hcompM hsafe htp hfit hprog) (cap := 140) (fun B => B.alloc_le) (n := fuel) (r := 0)
    ⟨_, _, En.bd hcap, by rw [En.next1]; omega, Scc.Heap.Refine.room_init hb0 (by omega) (by omega)⟩ hrun'
  rw [hpc] at g2
  have g1' := K.MStepsN.msteps g1
  simp only [hpc] at g1'
  exact runProg_of_msteps hheap En.main En.nargs (En.steps.trans g1') g2 g3 (by rw [g4, hout])

end Scc.A64.Ref.K
