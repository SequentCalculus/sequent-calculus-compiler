/-
  Scc.A64.WfCheck — C14 for AArch64: the validator `wfCheck` (Scc/A64/Machine.lean) on the parsed lines of a
  routine, characterised on the proof side.

  `wfLines ls` is `wfCheck` after the parser.  For lines `ls` that ARE a code list `R` (`CC.Lines hkv ls R`,
  Scc/A64/CCProofsLayout.lean), `wfLines_ok`: `wfLines ls = .ok ()` provided
    * the labels of `R` are pairwise distinct and none is a runtime symbol; `asm_main` is defined;
    * every item passes the per-instruction check `Code.wf`;
    * every label referenced by `B` / `B.cond` / `ADR` is defined in `R`, every `BL` goes to a runtime symbol;
    * `R` ends with an instruction (so every label is followed by an instruction);
    * `R` has fewer than 2^18 items (every branch / `ADR` is within ±1 MiB).
  The proof follows the validator: the duplicate scan (a fold with a hash map), the entry label, and the loop
  over the laid-out items (`layout`: items, label table, byte offsets — fold invariants).
-/
import Scc.A64.CCProofsLayout
import Scc.A64.RefTableLayout
import Scc.A64.WfRefs
import Scc.Props.C14A64

namespace Scc.A64.Wf

open Scc.A64.CC Scc.A64.Ref

def dupStep : Std.HashMap String Nat × Option String → Nat × PLine → Std.HashMap String Nat × Option String :=
  fun (seen, err) (ln, pl) =>
    match pl with
    | .label l =>
      if seen.contains l then (seen, err.or (some s!"WF-ERROR line {ln}: label {l} defined twice"))
      else if isExternal l then (seen, err.or (some s!"WF-ERROR line {ln}: label {l} clashes with a runtime symbol"))
      else (seen.insert l ln, err)
    | _ => (seen, err)

/-- `wfCheck` after the parser -/
def wfLines (ls : List (Nat × PLine)) : Except String Unit :=
  match (ls.foldl dupStep ((∅ : Std.HashMap String Nat), (none : Option String))).2 with
  | some e => .error e
  | none =>
    if !(layout ls).labels.contains "asm_main" then .error "WF-ERROR line 0: entry label asm_main not defined"
    else wfCheck.go (layout ls) 0 ((layout ls).items.size + 1)

theorem wfCheck_eq (text : String) : wfCheck text =
    match parseText text with
    | .error e => .error e
    | .ok ls => wfLines ls := by
  unfold wfCheck
  cases parseText text with
  | error e => rfl
  | ok ls => rfl

/-! ## the duplicate scan -/

def lineLabels (ls : List (Nat × PLine)) : List String :=
  ls.filterMap fun x => match x.2 with | .label l => some l | _ => none

theorem dup_none : ∀ (ls : List (Nat × PLine)) (seen : Std.HashMap String Nat),
    (lineLabels ls).Nodup → (∀ l ∈ lineLabels ls, seen.contains l = false ∧ isExternal l = false) →
    (ls.foldl dupStep (seen, none)).2 = none
  | [], _, _, _ => rfl
  | (ln, pl) :: rest, seen, hnd, hs => by
    rw [List.foldl_cons]
    cases pl with
    | label l =>
      have hl : lineLabels ((ln, PLine.label l) :: rest) = l :: lineLabels rest := rfl
      rw [hl] at hnd hs
      obtain ⟨h1, h2⟩ := hs l (by simp)
      have e : dupStep (seen, none) (ln, PLine.label l) = (seen.insert l ln, none) := by
        simp only [dupStep, h1, h2, Bool.false_eq_true, if_false]
      rw [e]
      simp only [List.nodup_cons] at hnd
      refine dup_none rest _ hnd.2 ?_
      intro l' hl'
      have := hs l' (by simp [hl'])
      refine ⟨?_, this.2⟩
      rw [Std.HashMap.contains_insert, this.1]
      have : (l == l') = false := by
        have hne : l ≠ l' := fun e => hnd.1 (e ▸ hl')
        simpa using hne
      simp [this]
    | blank => exact dup_none rest seen hnd hs
    | comment => exact dup_none rest seen hnd hs
    | directive => exact dup_none rest seen hnd hs
    | hook vs => exact dup_none rest seen hnd hs
    | instr i => exact dup_none rest seen hnd hs

theorem or_some_ne_none {α : Type} (o : Option α) (a : α) : o.or (some a) ≠ none := by
  cases o <;> simp

/-- conversely: the scan reports every duplicate -/
theorem dup_nodup : ∀ (ls : List (Nat × PLine)) (seen : Std.HashMap String Nat) (err : Option String),
    (ls.foldl dupStep (seen, err)).2 = none →
    err = none ∧ (lineLabels ls).Nodup ∧ ∀ l ∈ lineLabels ls, seen.contains l = false
  | [], _, err, h => ⟨h, List.nodup_nil, fun _ hl => by cases hl⟩
  | (ln, pl) :: rest, seen, err, h => by
    rw [List.foldl_cons] at h
    cases pl with
    | label l =>
      have hl : lineLabels ((ln, PLine.label l) :: rest) = l :: lineLabels rest := rfl
      rw [hl]
      by_cases h1 : seen.contains l = true
      · have e : dupStep (seen, err) (ln, PLine.label l) =
            (seen, err.or (some s!"WF-ERROR line {ln}: label {l} defined twice")) := by
          simp only [dupStep, h1, if_true]
        rw [e] at h
        exact absurd (dup_nodup rest _ _ h).1 (or_some_ne_none _ _)
      · by_cases h2 : isExternal l = true
        · have e : dupStep (seen, err) (ln, PLine.label l) =
              (seen, err.or (some s!"WF-ERROR line {ln}: label {l} clashes with a runtime symbol")) := by
            simp only [dupStep, h1, h2, if_true, if_false, Bool.false_eq_true]
          rw [e] at h
          exact absurd (dup_nodup rest _ _ h).1 (or_some_ne_none _ _)
        · have e : dupStep (seen, err) (ln, PLine.label l) = (seen.insert l ln, err) := by
            simp only [dupStep, h1, h2, if_false, Bool.false_eq_true]
          rw [e] at h
          obtain ⟨g1, g2, g3⟩ := dup_nodup rest _ _ h
          have key : ∀ l' ∈ lineLabels rest, l ≠ l' ∧ seen.contains l' = false := by
            intro l' hl'
            have := g3 l' hl'
            rw [Std.HashMap.contains_insert, Bool.or_eq_false_iff] at this
            exact ⟨by simpa using this.1, this.2⟩
          refine ⟨g1, List.nodup_cons.2 ⟨fun hm => (key l hm).1 rfl, g2⟩, ?_⟩
          intro l' hl'
          rcases List.mem_cons.1 hl' with rfl | hl'
          · simpa using h1
          · exact (key l' hl').2
    | blank => exact dup_nodup rest seen err h
    | comment => exact dup_nodup rest seen err h
    | directive => exact dup_nodup rest seen err h
    | hook vs => exact dup_nodup rest seen err h
    | instr i => exact dup_nodup rest seen err h

/-- the validator rejects every line list that defines a label twice -/
theorem wfLines_nodup {ls : List (Nat × PLine)} (h : wfLines ls = .ok ()) : (lineLabels ls).Nodup := by
  unfold wfLines at h
  split at h
  · cases h
  · rename_i hn
    exact (dup_nodup ls ∅ none hn).2.1

section
variable {hkv : String → Option (List (String × Kind))}

theorem lineOf_label_iff {c : Code} {pl : PLine} (h : lineOf hkv c = some pl) :
    (match pl with | .label l => some l | _ => none) = (match c with | .LAB l => some l | _ => none) := by
  cases pl with
  | label l => have := lineOf_label h; subst this; rfl
  | _ =>
    cases c <;> first | rfl | skip
    simp [lineOf] at h

theorem lineLabels_eq {ls : List (Nat × PLine)} {R : List Code} (h : Lines hkv ls R) :
    lineLabels ls = labs R := by
  induction h with
  | nil => rfl
  | blank ln _ ih => exact ih
  | @code ln c pl ls R hl _ ih =>
    unfold lineLabels labs at ih ⊢
    rw [List.filterMap_cons, List.filterMap_cons, ih]
    have := lineOf_label_iff hl
    dsimp only at this ⊢
    rw [this]
    cases c <;> rfl

end

/-! ## the loop over the items -/

def dist (a b : Nat) : Nat := if a ≤ b then b - a else a - b

/-- what the loop tests of item `k` -/
def ItemOK (p : Prog) (k : Nat) : Prop :=
  ∀ i, p.items[k]? = some (.instr i) →
    i.wfError = none ∧
    ∀ l extOk reach, i.target = some (l, extOk, reach) →
      match p.labels[l]? with
      | none => (extOk && isExternal l) = true
      | some j => j < p.items.size ∧ dist (p.offs.getD k 0) (p.offs.getD j 0) < reach

theorem go_ok (p : Prog) (h : ∀ k, ItemOK p k) : ∀ (fuel k : Nat), wfCheck.go p k fuel = .ok ()
  | 0, _ => rfl
  | fuel + 1, k => by
    unfold wfCheck.go
    by_cases hk : k < p.items.size
    · rw [dif_pos hk]
      dsimp only
      cases hi : p.items[k] with
      | hook vs => exact go_ok p h fuel (k + 1)
      | instr i =>
        dsimp only
        have hk' : p.items[k]? = some (.instr i) := by rw [Array.getElem?_eq_getElem hk, hi]
        obtain ⟨hw, ht⟩ := h k i hk'
        rw [hw]
        dsimp only
        cases htg : i.target with
        | none => exact go_ok p h fuel (k + 1)
        | some t =>
          obtain ⟨l, extOk, reach⟩ := t
          dsimp only
          have := ht l extOk reach htg
          cases hl : p.labels[l]? with
          | none =>
            rw [hl] at this
            dsimp only at this ⊢
            rw [if_pos this]
            exact go_ok p h fuel (k + 1)
          | some j =>
            rw [hl] at this
            dsimp only at this ⊢
            rw [if_neg (by omega)]
            have hd : ¬ ((if p.offs.getD k 0 ≤ p.offs.getD j 0 then p.offs.getD j 0 - p.offs.getD k 0
                else p.offs.getD k 0 - p.offs.getD j 0) ≥ reach) := by
              have := this.2
              unfold dist at this
              omega
            rw [if_neg hd]
            exact go_ok p h fuel (k + 1)
    · rw [dif_neg hk]

/-! ## the byte offsets of `layout` -/

/-- every recorded offset is at most the current offset, which is at most 4 per item -/
def OffInv (acc : LayoutAcc) : Prop := acc.off ≤ 4 * acc.items.size ∧ ∀ x ∈ acc.offs.toList, x ≤ acc.off

theorem layStep_offInv {acc : LayoutAcc} (h : OffInv acc) (x : Nat × PLine) : OffInv (layStep acc x) := by
  obtain ⟨ln, pl⟩ := x
  obtain ⟨h1, h2⟩ := h
  cases pl with
  | hook vs =>
    refine ⟨by simp [layStep]; omega, ?_⟩
    intro y hy
    simp only [layStep, Array.toList_push, List.mem_append, List.mem_singleton] at hy ⊢
    rcases hy with hy | rfl
    · exact h2 y hy
    · exact Nat.le_refl _
  | instr i =>
    refine ⟨by simp [layStep]; omega, ?_⟩
    intro y hy
    simp only [layStep, Array.toList_push, List.mem_append, List.mem_singleton] at hy ⊢
    rcases hy with hy | rfl
    · have := h2 y hy; omega
    · omega
  | blank => exact ⟨h1, h2⟩
  | comment => exact ⟨h1, h2⟩
  | directive => exact ⟨h1, h2⟩
  | label l => exact ⟨h1, h2⟩

theorem fold_offInv : ∀ (ls : List (Nat × PLine)) {acc : LayoutAcc}, OffInv acc → OffInv (ls.foldl layStep acc)
  | [], _, h => h
  | x :: ls, _, h => by rw [List.foldl_cons]; exact fold_offInv ls (layStep_offInv h x)

theorem layStep_items_mono (acc : LayoutAcc) (x : Nat × PLine) : acc.items.size ≤ (layStep acc x).items.size := by
  obtain ⟨ln, pl⟩ := x
  cases pl <;> simp [layStep]

theorem fold_items_mono : ∀ (ls : List (Nat × PLine)) (acc : LayoutAcc),
    acc.items.size ≤ (ls.foldl layStep acc).items.size
  | [], _ => Nat.le_refl _
  | x :: ls, acc => by
    rw [List.foldl_cons]
    exact Nat.le_trans (layStep_items_mono acc x) (fold_items_mono ls _)

theorem layout_offs_le (ls : List (Nat × PLine)) (k : Nat) :
    (layout ls).offs.getD k 0 ≤ 4 * (layout ls).items.size := by
  have hinv : OffInv (ls.foldl layStep {}) := fold_offInv ls ⟨by simp, by intro x hx; simp at hx⟩
  rw [layout_offs', layout_items']
  by_cases hk : k < (ls.foldl layStep {}).offs.size
  · have hm : (ls.foldl layStep {}).offs.getD k 0 ∈ (ls.foldl layStep {}).offs.toList := by
      rw [Array.getD_eq_getD_getElem?, Array.getElem?_eq_getElem hk]
      simp
    have := hinv.2 _ hm
    have := hinv.1
    omega
  · rw [Array.getD_eq_getD_getElem?, Array.getElem?_eq_none (by omega)]
    simp

theorem dist_lt {a b n r : Nat} (ha : a ≤ 4 * n) (hb : b ≤ 4 * n) (hn : 4 * n < r) : dist a b < r := by
  unfold dist; split <;> omega

/-! ## the items and labels of `layout` on the lines of a code list -/

section
variable {hkv : String → Option (List (String × Kind))}

theorem layout_items_lines {ls : List (Nat × PLine)} {R : List Code} (h : Lines hkv ls R) :
    (layout ls).items.toList = R.filterMap (itemOfCode hkv) := by
  have := (fold_lines h {}).1
  rw [layout_items']
  simpa using this

theorem layout_labels_lines {ls : List (Nat × PLine)} {R : List Code} (h : Lines hkv ls R) (l : String) :
    (layout ls).labels[l]? = (firstLab l R 0).map fun k => ((R.take k).filterMap (itemOfCode hkv)).length := by
  have := (fold_lines h {}).2 l
  rw [layout_labels', this]
  simp

theorem mem_labs {l : String} {R : List Code} : l ∈ labs R ↔ Code.LAB l ∈ R := by
  unfold labs
  rw [List.mem_filterMap]
  constructor
  · rintro ⟨c, hc, h⟩
    cases c <;> simp only [labOf, Option.some.injEq, reduceCtorEq] at h
    subst h; exact hc
  · intro h; exact ⟨_, h, rfl⟩

theorem firstLab_isSome' {l : String} : ∀ {R : List Code} (k : Nat), Code.LAB l ∈ R → ∃ i, firstLab l R k = some i
  | [], _, h => by cases h
  | c :: R, k, h => by
    simp only [firstLab]
    by_cases hc : c = Code.LAB l
    · exact ⟨k, by rw [if_pos hc]⟩
    · rw [if_neg hc]
      apply firstLab_isSome' (k + 1)
      rcases List.mem_cons.1 h with h | h
      · exact absurd h.symm hc
      · exact h

theorem firstLab_isSome {l : String} {R : List Code} (k : Nat) (h : l ∈ labs R) : ∃ i, firstLab l R k = some i :=
  firstLab_isSome' k (mem_labs.1 h)

theorem firstLab_none' {l : String} : ∀ {R : List Code} (k : Nat), Code.LAB l ∉ R → firstLab l R k = none
  | [], _, _ => rfl
  | c :: R, k, h => by
    simp only [firstLab]
    have hc : c ≠ Code.LAB l := fun e => h (by rw [e]; simp)
    rw [if_neg hc]
    exact firstLab_none' (k + 1) (fun hm => h (List.mem_cons_of_mem _ hm))

theorem firstLab_none {l : String} {R : List Code} (k : Nat) (h : l ∉ labs R) : firstLab l R k = none :=
  firstLab_none' k (fun hm => h (mem_labs.2 hm))

theorem toInstr_of_itemOfCode {c : Code} {i : Instr} (h : itemOfCode hkv c = some (.instr i)) :
    c.toInstr = some i := by
  unfold itemOfCode at h
  cases hl : lineOf hkv c with
  | none => rw [hl] at h; cases h
  | some pl =>
    rw [hl] at h
    have hpl : pl = .instr i := by
      cases pl <;> simp only [Option.bind_some, itemOfLine, Option.some.injEq, reduceCtorEq, Item.instr.injEq] at h
      rw [h]
    subst hpl
    cases c <;> simp only [lineOf, Option.some.injEq, reduceCtorEq, Option.map_eq_some_iff, PLine.instr.injEq] at hl <;>
      first
        | (obtain ⟨j, hj, rfl⟩ := hl; exact hj)
        | (split at hl <;> cases hl)

theorem item_instr_of {R : List Code} {k : Nat} {i : Instr}
    (h : (R.filterMap (itemOfCode hkv))[k]? = some (.instr i)) : ∃ c ∈ R, c.toInstr = some i := by
  have hm : Item.instr i ∈ R.filterMap (itemOfCode hkv) := List.mem_of_getElem? h
  obtain ⟨c, hc, hci⟩ := List.mem_filterMap.1 hm
  exact ⟨c, hc, toInstr_of_itemOfCode hci⟩

end

def targetLabel : Code → Option String
  | .B l | .BL l | .ADR _ l | .BEQ l | .BNE l | .BLT l | .BLE l | .BGT l | .BGE l => some l
  | _ => none

theorem target_cases {i : Instr} {l : String} {extOk : Bool} {reach : Nat} (ht : i.target = some (l, extOk, reach)) :
    (i = .b l ∧ extOk = false ∧ reach = 0x8000000) ∨ (i = .bl l ∧ extOk = true ∧ reach = 0x8000000) ∨
    (∃ cnd, i = .bcond cnd l ∧ extOk = false ∧ reach = 0x100000) ∨
    (∃ d, i = .adr d l ∧ extOk = false ∧ reach = 0x100000) := by
  cases i <;> simp only [Instr.target, Option.some.injEq, Prod.mk.injEq, reduceCtorEq] at ht
  all_goals
    obtain ⟨rfl, rfl, rfl⟩ := ht
    first
      | exact Or.inl ⟨rfl, rfl, rfl⟩
      | exact Or.inr (Or.inl ⟨rfl, rfl, rfl⟩)
      | exact Or.inr (Or.inr (Or.inl ⟨_, rfl, rfl, rfl⟩))
      | exact Or.inr (Or.inr (Or.inr ⟨_, rfl, rfl, rfl⟩))


theorem toInstr_bl {c : Code} {l : String} (h : c.toInstr = some (.bl l)) : c = .BL l := by
  cases c <;> simp [Code.toInstr, Option.bind_eq_some_iff] at h
  subst h; rfl

theorem toInstr_bcond {c : Code} {l : String} {cnd : Cond} (h : c.toInstr = some (.bcond cnd l)) :
    targetLabel c = some l ∧ ∀ l', c ≠ .BL l' := by
  rcases Scc.A64.toInstr_bcond h with rfl | rfl | rfl | rfl | rfl | rfl <;> exact ⟨rfl, fun _ h => by cases h⟩

theorem toInstr_adr {c : Code} {l : String} {d : Reg} (h : c.toInstr = some (.adr d l)) :
    targetLabel c = some l ∧ ∀ l', c ≠ .BL l' := by
  cases c <;> simp [Code.toInstr, Option.bind_eq_some_iff] at h
  obtain ⟨_, _, _, rfl⟩ := h; exact ⟨rfl, fun _ h => by cases h⟩

theorem target_of_toInstr {c : Code} {i : Instr} (h : c.toInstr = some i) {l : String} {extOk : Bool} {reach : Nat}
    (ht : i.target = some (l, extOk, reach)) :
    targetLabel c = some l ∧ (c = .BL l → extOk = true) ∧ 0x100000 ≤ reach := by
  rcases target_cases ht with ⟨rfl, rfl, rfl⟩ | ⟨rfl, rfl, rfl⟩ | ⟨cnd, rfl, rfl, rfl⟩ | ⟨d, rfl, rfl, rfl⟩
  · have := toInstr_b h; subst this
    exact ⟨rfl, (fun e => by cases e), by decide⟩
  · have := toInstr_bl h; subst this
    exact ⟨rfl, ⟨fun _ => rfl, by decide⟩⟩
  · obtain ⟨h1, h2⟩ := toInstr_bcond h
    exact ⟨h1, ⟨fun e => absurd e (h2 l), by decide⟩⟩
  · obtain ⟨h1, h2⟩ := toInstr_adr h
    exact ⟨h1, ⟨fun e => absurd e (h2 l), by decide⟩⟩

structure CodesOK (R : List Code) : Prop where
  nodup : (labs R).Nodup
  notExt : ∀ l ∈ labs R, isExternal l = false
  entry : "asm_main" ∈ labs R
  wf : ∀ c ∈ R, c.wf = true
  refs : ∀ c ∈ R, ∀ l, targetLabel c = some l → l ∈ labs R ∨ (c = .BL l ∧ isExternal l = true)
  last : ∃ R' c i, R = R' ++ [c] ∧ c.toInstr = some i
  size : R.length < 262144

section
variable {hkv : String → Option (List (String × Kind))}

theorem filterMap_length_le {α β : Type} (f : α → Option β) (l : List α) : (l.filterMap f).length ≤ l.length :=
  List.length_filterMap_le f l

/-- **the validator accepts the lines of a code list that satisfies `CodesOK`** -/
theorem wfLines_ok {ls : List (Nat × PLine)} {R : List Code} (hL : Lines hkv ls R) (H : CodesOK R) :
    wfLines ls = .ok () := by
  have hitems := layout_items_lines hL
  have hsize : (layout ls).items.size = (R.filterMap (itemOfCode hkv)).length := by
    rw [← Array.length_toList, hitems]
  have hsz : 4 * (layout ls).items.size < 0x100000 := by
    have := filterMap_length_le (itemOfCode hkv) R
    have := H.size
    omega
  -- labels resolve to items
  have hlab : ∀ l ∈ labs R, ∃ j, (layout ls).labels[l]? = some j ∧ j < (layout ls).items.size := by
    intro l hl
    obtain ⟨k, hk⟩ := firstLab_isSome 0 hl
    refine ⟨((R.take k).filterMap (itemOfCode hkv)).length, by rw [layout_labels_lines hL, hk]; rfl, ?_⟩
    obtain ⟨R', c, i, hR, hci⟩ := H.last
    have hkl := (firstLab_some hk)
    have hklt : k < R.length := by
      have := hkl.2
      simp only [Nat.sub_zero] at this
      exact (List.getElem?_eq_some_iff.1 this).1
    rw [hsize]
    have hsplit : R.filterMap (itemOfCode hkv) =
        (R.take k).filterMap (itemOfCode hkv) ++ (R.drop k).filterMap (itemOfCode hkv) := by
      rw [← List.filterMap_append, List.take_append_drop]
    rw [hsplit, List.length_append]
    have hpos : 0 < ((R.drop k).filterMap (itemOfCode hkv)).length := by
      have hmem : c ∈ R.drop k := by
        rw [hR, List.drop_append_of_le_length (by rw [hR] at hklt; simp at hklt; omega)]
        simp
      have hit : itemOfCode hkv c = some (.instr i) := by
        cases c <;> first
          | (simp only [Code.toInstr, reduceCtorEq] at hci; done)
          | simp only [itemOfCode, lineOf, hci, Option.map_some, Option.bind_some, itemOfLine]
      exact List.length_pos_of_mem (List.mem_filterMap.2 ⟨c, hmem, hit⟩)
    omega
  have hnolab : ∀ l, l ∉ labs R → (layout ls).labels[l]? = none := by
    intro l hl
    rw [layout_labels_lines hL, firstLab_none 0 hl]; rfl
  unfold wfLines
  -- the duplicate scan
  have hdup := dup_none ls ∅ (by rw [lineLabels_eq hL]; exact H.nodup) (by
    intro l hl
    rw [lineLabels_eq hL] at hl
    exact ⟨by simp, H.notExt l hl⟩)
  rw [hdup]
  dsimp only
  -- the entry label
  obtain ⟨j0, hj0, _⟩ := hlab "asm_main" H.entry
  have hcont : (layout ls).labels.contains "asm_main" = true := by
    rw [Std.HashMap.contains_eq_isSome_getElem?, hj0]; rfl
  rw [hcont]
  simp only [Bool.not_true, Bool.false_eq_true, if_false]
  -- the loop
  apply go_ok
  intro k i hk
  have hk' : (R.filterMap (itemOfCode hkv))[k]? = some (.instr i) := by
    rw [← hitems, Array.getElem?_toList]; exact hk
  obtain ⟨c, hc, hci⟩ := item_instr_of hk'
  refine ⟨(C14_wf_is_monitor_check c i hci).1 (H.wf c hc), ?_⟩
  intro l extOk reach ht
  obtain ⟨htl, hext, hreach⟩ := target_of_toInstr hci ht
  rcases H.refs c hc l htl with hl | ⟨hbl, hex⟩
  · obtain ⟨j, hj, hjlt⟩ := hlab l hl
    rw [hj]
    exact ⟨hjlt, dist_lt (layout_offs_le ls k) (layout_offs_le ls j) (by omega)⟩
  · by_cases hl : l ∈ labs R
    · exact absurd hex (by rw [H.notExt l hl]; simp)
    · rw [hnolab l hl]
      show (extOk && isExternal l) = true
      rw [hext hbl, hex]; rfl

end

end Scc.A64.Wf
