/-
  Scc.A64.ConcKDefs — runs of the AArch64 SPEC machine (`MSteps`, Scc/A64/RefBridge.lean) that execute AT LEAST
  ONE INSTRUCTION (`MStepsR`), and COUNTED runs (`MStepsN`): the bookkeeping of the progress argument of the
  concrete-run theorems (Scc/A64/ConcK*.lean, Props/C09A64All.lean, C10A64All.lean, C13A64All.lean).
  On AArch64 the machine may be ahead of a statement boundary by `#ctx` hooks (`Tol`, Scc/A64/RefClosAddr.lean:
  the `BR` of an `invoke` of a single-method closure enters at the last label before the first instruction), and
  an iteration of the run loop at a hook does nothing but advance the program counter; so "the machine makes a
  transition" has to be witnessed by an INSTRUCTION (`MStepsR`; `tol_runR`: such a run from the boundary is one from
  the machine's position).  `runLoop_mstepsN`, `runLoop_outOfFuel`: counted runs inside `runLoop` (heap monitor off).
-/
import Scc.A64.RefClosAddr

namespace Scc.A64.Ref.K

open Scc.A64.CC

/-- a run that executes at least one INSTRUCTION (not only `#ctx` hooks) -/
def MStepsR (P : Prog) (c : MemCfg) (σ : State) (pc : Nat) (out : List (Bool × Word)) (σ' : State) (pc' : Nat)
    (out' : List (Bool × Word)) : Prop :=
  ∃ σa pca outa σb pcb outb i, MSteps P c σ pc out σa pca outa ∧ P.items[pca]? = some (.instr i) ∧
    MStep P c σa pca outa σb pcb outb ∧ MSteps P c σb pcb outb σ' pc' out'

section R
variable {P : Prog} {c : MemCfg} {σ1 σ2 σ3 : State} {pc1 pc2 pc3 : Nat} {o1 o2 o3 : List (Bool × Word)}

theorem MStepsR.msteps (h : MStepsR P c σ1 pc1 o1 σ2 pc2 o2) : MSteps P c σ1 pc1 o1 σ2 pc2 o2 := by
  obtain ⟨σa, pca, outa, σb, pcb, outb, i, h1, _, h2, h3⟩ := h
  exact h1.trans (.step h2 h3)

end R

/-- a run through an instruction from the boundary, the machine ahead by hooks: the machine makes the run
through the instruction as well -/
theorem tol_runR {P : Prog} {c : MemCfg} {σ σ1 : State} {pc0 pc1 pcR : Nat} {out out1 : List (Bool × Word)}
    (h : MStepsR P c σ pc0 out σ1 pc1 out1) (T : Tol P pc0 pcR) : MStepsR P c σ pcR out σ1 pc1 out1 := by
  obtain ⟨σa, pca, outa, σb, pcb, outb, i, g1, gi, g2, g3⟩ := h
  exact ⟨σa, pca, outa, σb, pcb, outb, i, tol_run_instr g1 T gi, gi, g2, g3⟩

inductive MStepsN (P : Prog) (c : MemCfg) :
    Nat → State → Nat → List (Bool × Word) → State → Nat → List (Bool × Word) → Prop
  | refl (σ : State) (pc : Nat) (out : List (Bool × Word)) : MStepsN P c 0 σ pc out σ pc out
  | step {n : Nat} {σ σ1 σ2 : State} {pc pc1 pc2 : Nat} {out out1 out2 : List (Bool × Word)} :
      MStep P c σ pc out σ1 pc1 out1 → MStepsN P c n σ1 pc1 out1 σ2 pc2 out2 →
      MStepsN P c (n + 1) σ pc out σ2 pc2 out2

section N
variable {P : Prog} {c : MemCfg} {σ1 σ2 σ3 : State} {pc1 pc2 pc3 : Nat} {o1 o2 o3 : List (Bool × Word)}

theorem MStepsN.trans {n m : Nat} (h1 : MStepsN P c n σ1 pc1 o1 σ2 pc2 o2)
    (h2 : MStepsN P c m σ2 pc2 o2 σ3 pc3 o3) : MStepsN P c (n + m) σ1 pc1 o1 σ3 pc3 o3 := by
  induction h1 with
  | refl => rw [Nat.zero_add]; exact h2
  | @step n σ σa σb pc pca pcb out outa outb hs _ ih =>
    rw [show n + 1 + m = (n + m) + 1 by omega]
    exact .step hs (ih h2)

theorem MStepsN.msteps {n : Nat} (h : MStepsN P c n σ1 pc1 o1 σ2 pc2 o2) : MSteps P c σ1 pc1 o1 σ2 pc2 o2 := by
  induction h with
  | refl => exact .refl _ _ _
  | step hs _ ih => exact .step hs ih

theorem msteps_count (h : MSteps P c σ1 pc1 o1 σ2 pc2 o2) : ∃ n, MStepsN P c n σ1 pc1 o1 σ2 pc2 o2 := by
  induction h with
  | refl => exact ⟨0, .refl _ _ _⟩
  | step hs _ ih =>
    obtain ⟨n, hn⟩ := ih
    exact ⟨n + 1, .step hs hn⟩

theorem mstepsR_count (h : MStepsR P c σ1 pc1 o1 σ2 pc2 o2) :
    ∃ n, 1 ≤ n ∧ MStepsN P c n σ1 pc1 o1 σ2 pc2 o2 := by
  obtain ⟨σa, pca, outa, σb, pcb, outb, i, g1, _, g2, g3⟩ := h
  obtain ⟨n1, h1⟩ := msteps_count g1
  obtain ⟨n3, h3⟩ := msteps_count g3
  exact ⟨n1 + (n3 + 1), by omega, h1.trans (.step g2 h3)⟩

end N

/-- counted runs inside `runLoop`: the iterations consume fuel, nothing else -/
theorem runLoop_mstepsN {P : Prog} {cfg : MonCfg} (hh : cfg.heap = false) {n : Nat} {σ σ' : State} {pc pc' : Nat}
    {out out' : List (Bool × Word)} (h : MStepsN P cfg.mem n σ pc out σ' pc' out') :
    ∀ (steps blocks : Nat), ∃ steps', ∀ fuel,
      runLoop P cfg (n + fuel) { σ := σ, pc := pc, out := out, steps := steps, blocks := blocks } =
        runLoop P cfg fuel { σ := σ', pc := pc', out := out', steps := steps', blocks := blocks } := by
  induction h with
  | refl σ pc out => intro steps blocks; exact ⟨steps, fun fuel => by simp⟩
  | @step n σ σ1 σ2 pc pc1 pc2 out out1 out2 hs _ ih =>
    intro steps blocks
    cases hs with
    | hook hi =>
      obtain ⟨s', hn⟩ := ih steps blocks
      refine ⟨s', fun fuel => ?_⟩
      rw [show n + 1 + fuel = (n + fuel) + 1 by omega, runLoop_item hi]
      simp only [hh, Bool.false_eq_true, if_false]
      exact hn fuel
    | next hi hst =>
      obtain ⟨s', hn⟩ := ih (steps + 1) blocks
      refine ⟨s', fun fuel => ?_⟩
      rw [show n + 1 + fuel = (n + fuel) + 1 by omega, runLoop_item hi]
      simp only [hst]
      exact hn fuel
    | print hi hst =>
      obtain ⟨s', hn⟩ := ih (steps + 1) blocks
      refine ⟨s', fun fuel => ?_⟩
      rw [show n + 1 + fuel = (n + fuel) + 1 by omega, runLoop_item hi]
      simp only [hst]
      exact hn fuel

/-- a machine that makes `n` iterations without ending has not ended with less fuel -/
theorem runLoop_outOfFuel {P : Prog} {cfg : MonCfg} (hh : cfg.heap = false) {n : Nat} {σ σ' : State} {pc pc' : Nat}
    {out out' : List (Bool × Word)} (h : MStepsN P cfg.mem n σ pc out σ' pc' out') :
    ∀ (f steps blocks : Nat), f ≤ n →
      (runLoop P cfg f { σ := σ, pc := pc, out := out, steps := steps, blocks := blocks }).res = .outOfFuel := by
  induction h with
  | refl σ pc out =>
    intro f steps blocks hf
    have : f = 0 := by omega
    subst this
    rfl
  | @step n σ σ1 σ2 pc pc1 pc2 out out1 out2 hs _ ih =>
    intro f steps blocks hf
    cases f with
    | zero => rfl
    | succ f =>
      cases hs with
      | hook hi =>
        rw [runLoop_item hi]
        simp only [hh, Bool.false_eq_true, if_false]
        exact ih f steps blocks (by omega)
      | next hi hst =>
        rw [runLoop_item hi]
        simp only [hst]
        exact ih f (steps + 1) blocks (by omega)
      | print hi hst =>
        rw [runLoop_item hi]
        simp only [hst]
        exact ih f (steps + 1) blocks (by omega)

end Scc.A64.Ref.K
