/-
  Scc.A64.RefStep — Theorem B (AArch64), heap-free instructions, on the run loop.  The vocabulary that the later
  files of the AArch64 stacks use: `labs` (the labels a code list defines) and `NoL` (it defines none) with the
  `noL_*` facts of the methods, `Seg.labs` (a rendered block defines the labels of the mock code), `RepA64.setPc`,
  `label_at` (a label of the mock program at a split of its code).  Then the two results:
  `sim_step`: one step `Abs.step P cfg = .next cfg'` of the abstract backend machine on the laid-out mock
  code `ops` is simulated by finitely many iterations (`MSteps`) of the AArch64 SPEC machine on a program
  that holds the routine `cs = hdr ++ body ++ post` whose `body` renders `ops` (`Seg`), re-establishing
  `RepA64` and the correspondence of the program counters (`At`);
  `sim_halt`: the halting step (`jumplabel cleanup` with the result in RET1) is simulated by the branch to
  `cleanup` and the epilogue, arriving at `RET` in a state whose exit check succeeds with the same result
  (`exitCheck_done`).
-/
import Scc.A64.RefSim
import Scc.Backend.ProofsMockEntry

namespace Scc.A64.Ref

open Scc.AxCut Scc.Backend Scc.Backend.Abs Scc.Backend.Sim Scc.A64.CC

def labOf : Code → Option String
  | .LAB l => some l
  | _ => none

def labs (cs : List Code) : List String := cs.filterMap labOf

theorem labs_append (a b : List Code) : labs (a ++ b) = labs a ++ labs b := by
  simp [labs, List.filterMap_append]

theorem labs_nil_of {cs : List Code} (h : ∀ c ∈ cs, labOf c = none) : labs cs = [] := by
  unfold labs
  rw [List.filterMap_eq_nil_iff]
  exact h

theorem lab_not_mem_of_labs {l : String} {cs : List Code} (h : l ∉ labs cs) : Code.LAB l ∉ cs := by
  intro hm
  apply h
  unfold labs
  rw [List.mem_filterMap]
  exact ⟨_, hm, rfl⟩

def NoL (cs : List Code) : Prop := ∀ c ∈ cs, labOf c = none

theorem noL_append {a b : List Code} (ha : NoL a) (hb : NoL b) : NoL (a ++ b) := by
  intro c hc
  rcases List.mem_append.1 hc with h | h
  · exact ha c h
  · exact hb c h

theorem noL_cons {c : Code} {l : List Code} (hc : labOf c = none) (hl : NoL l) : NoL (c :: l) := by
  intro x hx
  simp only [List.mem_cons] at hx
  rcases hx with rfl | hx
  · exact hc
  · exact hl x hx

theorem noL_nil : NoL [] := by intro c hc; simp at hc

theorem noL_single {c : Code} (hc : labOf c = none) : NoL [c] := noL_cons hc noL_nil

theorem noL_of_cc {l : List Code} (h : CC.NoLab l) : NoL l := by
  intro c hc
  have := h c hc
  cases c <;> first | rfl | (simp [isLab] at this)

theorem _root_.Scc.A64.Mem.Leaf.noL {rok iok : Prop} {c : Code} (h : Mem.Leaf rok iok c) : labOf c = none := by
  cases h with
  | com _ => rfl
  | instr hf _ _ => cases c <;> first | rfl | cases hf

theorem _root_.Scc.A64.Mem.CItems.noL {rok iok : Prop} {l : List Code} (h : Mem.CItems rok iok l) : NoL l :=
  fun c hc => (h c hc).1.noL

/-! code.rs and the two moves: read off the form of the code (Scc/A64/CodeBlk.lean) -/

theorem noL_mov (t s : Temporary) : NoL (mov t s) := (Mem.items_mov (iok := True) t s).noL
theorem noL_storeTemporary (t : Temporary) (b : Bool) : NoL (storeTemporary t b) :=
  (Mem.items_storeTemporary (iok := True) t b).noL
theorem noL_restoreTemporary (t : Temporary) (b : Bool) : NoL (restoreTemporary t b) :=
  (Mem.items_restoreTemporary (iok := True) t b).noL
theorem noL_loadImmediate (t : Temporary) (i : Int) : NoL (loadImmediate t i) :=
  (Mem.items_loadImmediate (iok := True) t i).noL
theorem noL_compare (a b : Temporary) : NoL (compare a b) := (Mem.items_compare (iok := True) a b).noL
theorem noL_compareImmediate (a : Temporary) (i : Int) : NoL (compareImmediate a i) :=
  (Mem.items_compareImmediate a i).noL
theorem noL_op (o : BinOp) (t s1 s2 : Temporary) : NoL (op o t s1 s2) := (Mem.items_op (iok := True) o t s1 s2).noL

theorem labOf_branchOf (s : IfSort) (l : String) : labOf (branchOf s l) = none := by
  cases s <;> rfl

theorem OpRel.labs {g g' : Mode} {op : MockOp} {blk : List Code} (h : OpRel g op blk g') :
    labs blk = labelNames [op] := by
  cases op <;> simp only [OpRel] at h
  case comment m => rw [h.1]; rfl
  case label n => rw [h.1]; rfl
  case jumpLabel n => rw [h.1]; rfl
  case jif c a b n =>
    rw [h.1]
    exact labs_nil_of (noL_append (noL_compare _ _) (noL_single (labOf_branchOf _ _)))
  case jifz c a n =>
    rw [h.1]
    exact labs_nil_of (noL_append (noL_compareImmediate _ _) (noL_single (labOf_branchOf _ _)))
  case li t imm => rw [h.1]; exact labs_nil_of (noL_loadImmediate _ _)
  case binop o t a b => rw [h.1]; exact labs_nil_of (noL_op _ _ _ _)
  case mov t s =>
    rcases h with h | h
    · rw [h.2.2.1]; exact labs_nil_of (noL_mov _ _)
    · rw [h.2.2.1]; exact labs_nil_of (noL_mov _ _)
  case print nl s kinds =>
    obtain ⟨ctx, h1, _⟩ := h
    rw [h1]; exact labs_nil_of (noL_of_cc (noLab_printI64 _ _ _))
  case save t sp =>
    obtain ⟨b, h1, _⟩ := h
    rw [h1]; exact labs_nil_of (noL_storeTemporary _ _)
  case restore t sp =>
    obtain ⟨b, h1, _⟩ := h
    rw [h1]; exact labs_nil_of (noL_restoreTemporary _ _)

theorem Seg.labs {g g' : Mode} {ops : List MockOp} {cs : List Code} (h : Seg g ops cs g') :
    labs cs = labelNames ops := by
  induction h with
  | nil g => rfl
  | @cons g g1 g' op blk ops cs hop _ ih =>
    rw [labs_append, hop.labs, ih, show op :: ops = [op] ++ ops from rfl, labelNames_append]

theorem RepA64.setPc {c : MemCfg} {g : Mode} {cfg : Config} {σ : State} {out : List (Bool × Word)}
    (R : RepA64 c g cfg σ out) (pc : Nat) : RepA64 c g { cfg with pc := pc } σ out :=
  ⟨R.core, R.temps, R.ret, R.scratch, R.out⟩

section World

variable {c : MemCfg} (H : CfgCC c) {hk : Code → Bool} {P : Prog}
  {ops : List MockOp} {cs hdr body post : List Code}
  (Hp : Holds hk P cs) (hcs : cs = hdr ++ body ++ post) (W : Seg .normal ops body .normal)
  (hnodup : (labelNames ops).Nodup) (hhdr : ∀ n ∈ labelNames ops, n ∉ labs hdr)

include Hp hcs W hnodup hhdr in
/-- a label of the abstract program resolves, on the AArch64 side, to the corresponding position -/
theorem label_at {name : String} {a : Nat} (hl : (Program.ofOps ops).labelAddr name = some a) :
    ∃ k, P.labels[name]? = some (pcOf hk cs k) ∧ At ops cs a k .normal := by
  have hmem := mem_labelNames_of_labelAddr hl
  obtain ⟨o1, o2, ho, hn1⟩ := labelNames_split hmem
  have hca := codeAt_ofOps ops (by rw [← labelNames_eq_dfns]; exact hnodup) o1 _ ho
  simp only [CodeAt] at hca
  have ha : a = instrCount o1 := by
    have := hca.1; rw [hl] at this; injection this
  rw [ho] at W
  obtain ⟨c1, c2, gm, hb, S1, S2⟩ := Seg.split W
  cases S2 with
  | @cons _ g1 _ _ blk _ c2' hop S2' =>
    simp only [OpRel] at hop
    obtain ⟨rfl, rfl, rfl⟩ := hop
    have hcs' : cs = (hdr ++ c1) ++ Code.LAB name :: (c2' ++ post) := by
      rw [hcs, hb]; simp
    have hidx : P.labels[name]? = some (pcOf hk cs (hdr ++ c1).length) := by
      apply label_pc Hp hcs'
      apply lab_not_mem_of_labs
      rw [labs_append, S1.labs, List.mem_append]
      rintro (h | h)
      · exact hhdr name hmem h
      · exact hn1 h
    refine ⟨_, hidx, o1, _, hdr ++ c1, [Code.LAB name] ++ c2', post, ho, ?_, ha.symm, rfl, ?_⟩
    · rw [hcs, hb]; simp
    · exact Seg.cons (by simp [OpRel]) S2'

/-- the correspondence after an instruction that falls through -/
theorem At.advance {ops1 ops2 : List MockOp} {op : MockOp} {cs1 blk cs2 tail : List Code} {g1 : Mode}
    (ho : ops = ops1 ++ op :: ops2) (hc : cs = cs1 ++ (blk ++ cs2) ++ tail)
    (hop : instrCount [op] = 1) (S : Seg g1 ops2 cs2 .normal) :
    At ops cs (instrCount ops1 + 1) (cs1.length + blk.length) g1 :=
  ⟨ops1 ++ [op], ops2, cs1 ++ blk, cs2, tail, by rw [ho]; simp, by rw [hc]; simp,
    by rw [Subst.instrCount_append, hop], by simp, S⟩

include H Hp hcs W hnodup hhdr in
/-- THEOREM B, one step: the AArch64 machine simulates a step of the abstract backend machine -/
theorem sim_step_aux {cfg cfg' : Config} (hs : Abs.step (Program.ofOps ops) cfg = .next cfg') :
    ∀ (ops2 ops1 : List MockOp) (cs1 cs2 tail : List Code) (g : Mode) (σ : State) (out : List (Bool × Word)),
      ops = ops1 ++ ops2 → cs = cs1 ++ cs2 ++ tail → instrCount ops1 = cfg.pc →
      Seg g ops2 cs2 .normal → RepA64 c g cfg σ out →
      ∃ k' σ' out' g', MSteps P c σ (pcOf hk cs cs1.length) out σ' (pcOf hk cs k') out' ∧
        RepA64 c g' cfg' σ' out' ∧ At ops cs cfg'.pc k' g'
  | [] => fun ops1 cs1 cs2 tail g σ out ho hc ha S R => by
    exfalso
    have : (Program.ofOps ops).code[cfg.pc]? = none := by
      rw [Array.getElem?_eq_none_iff, ofOps_size, ← ha, ho]; simp
    simp [Abs.step, this, stuck] at hs
  | op :: ops2 => fun ops1 cs1 cs2 tail g σ out ho hc ha S R => by
    cases S with
    | @cons _ g1 _ _ blk _ cs2' hop S' =>
    have hc' : cs = cs1 ++ blk ++ (cs2' ++ tail) := by rw [hc]; simp
    have hcA : cs = cs1 ++ (blk ++ cs2') ++ tail := hc
    -- an instruction that falls through: straight block, abstract pc + 1
    have fin : ∀ (s' : State) (cfgN : Config), instrCount [op] = 1 →
        execCodes c blk σ = .ok s' → RepA64 c g1 cfgN s' out →
        cfg' = { cfgN with pc := cfg.pc + 1 } →
        ∃ k' σ' out' g', MSteps P c σ (pcOf hk cs cs1.length) out σ' (pcOf hk cs k') out' ∧
          RepA64 c g' cfg' σ' out' ∧ At ops cs cfg'.pc k' g' := by
      intro s' cfgN hop1 hx R' hcfg
      refine ⟨cs1.length + blk.length, s', out, g1, msteps_codes Hp blk _ _ _ _ (block_get hc') hx, ?_, ?_⟩
      · rw [hcfg]; exact R'.setPc _
      · rw [hcfg]
        show At ops cs (cfg.pc + 1) _ _
        rw [← ha]
        exact At.advance ho hcA hop1 S'
    -- a jump to label `n`
    have jmp : ∀ (n : String), jumpTo (Program.ofOps ops) cfg n = .next cfg' →
        ∃ k', P.labels[n]? = some (pcOf hk cs k') ∧ At ops cs cfg'.pc k' .normal ∧
          cfg' = { cfg with pc := cfg'.pc, temps := clobberTemp cfg.temps } := by
      intro n hj
      unfold jumpTo at hj
      cases hl : (Program.ofOps ops).labelAddr n with
      | none => simp [hl, stuck] at hj
      | some a' =>
        simp only [hl] at hj
        injection hj with hj
        obtain ⟨k', hidx, A'⟩ := label_at Hp hcs W hnodup hhdr hl
        refine ⟨k', hidx, ?_, ?_⟩
        · rw [← hj]; exact A'
        · rw [← hj]
    -- compare; conditional branch
    have br : ∀ (s1 : State) (pre : List Code) (srt : IfSort) (n : String) (va vb : Word),
        execCodes c pre σ = .ok s1 →
        RepA64 c .normal { cfg with pc := cfg.pc, temps := clobberTemp cfg.temps } s1 out →
        s1.flags = some (va, vb) →
        blk = pre ++ [branchOf srt n] → g1 = .normal → instrCount [op] = 1 →
        (if Abs.evalCond srt va vb = true then jumpTo (Program.ofOps ops) cfg n
          else .next { cfg with pc := cfg.pc + 1, temps := clobberTemp cfg.temps }) = .next cfg' →
        ∃ k' σ' out' g', MSteps P c σ (pcOf hk cs cs1.length) out σ' (pcOf hk cs k') out' ∧
          RepA64 c g' cfg' σ' out' ∧ At ops cs cfg'.pc k' g' := by
      intro s1 pre srt n va vb hx R1 hf hblk hg1 hop1 hs'
      have hcP : cs = cs1 ++ pre ++ (branchOf srt n :: (cs2' ++ tail)) := by rw [hc', hblk]; simp
      have h0 := msteps_codes Hp pre _ _ _ out (block_get hcP) hx
      obtain ⟨cd, hti, hcd⟩ := branchOf_cond srt n va vb
      have hcJ : cs = (cs1 ++ pre) ++ branchOf srt n :: (cs2' ++ tail) := by rw [hcP]
      have hget : cs[cs1.length + pre.length]? = some (branchOf srt n) := by
        have := code_get hcJ; rwa [List.length_append] at this
      by_cases hb : Abs.evalCond srt va vb = true
      · rw [if_pos hb] at hs'
        obtain ⟨k', hidx, A', hcfg⟩ := jmp n hs'
        have h1 := mstep_bcond (c := c) Hp hget hti hf (j := pcOf hk cs k') (fun _ => hidx) out
        rw [hcd, if_pos hb] at h1
        refine ⟨k', s1, out, .normal, h0.trans h1, ?_, A'⟩
        rw [hcfg]
        exact R1.setPc _
      · rw [if_neg hb] at hs'
        injection hs' with hs'
        have h1 := mstep_bcond (c := c) Hp hget hti hf (j := 0) (fun h => absurd (hcd ▸ h) hb) out
        rw [hcd, if_neg hb] at h1
        refine ⟨cs1.length + pre.length + 1, s1, out, .normal, h0.trans h1, ?_, ?_⟩
        · rw [← hs']; exact R1.setPc _
        · rw [← hs']
          show At ops cs (cfg.pc + 1) _ _
          rw [← ha]
          have := At.advance (cs := cs) (blk := blk) ho hcA hop1 S'
          rw [hg1, hblk] at this
          simpa [Nat.add_assoc] using this
    cases op <;> simp only [OpRel] at hop
    case comment m =>
      obtain ⟨rfl, rfl⟩ := hop
      have hcF : cs = cs1 ++ Code.COMMENT m :: (cs2' ++ tail) := by rw [hc]; simp
      have h1 := msteps_code (c := c) Hp (code_get hcF) (σ := σ) (σ' := σ) rfl out
      obtain ⟨k', σ', out', g', hk', R', A'⟩ := sim_step_aux hs ops2 (ops1 ++ [.comment m]) (cs1 ++ [.COMMENT m])
        cs2' tail g1 σ out (by rw [ho]; simp) (by rw [hc]; simp)
        (by rw [Subst.instrCount_append]; simpa [instrCount] using ha) S' R
      refine ⟨k', σ', out', g', ?_, R', A'⟩
      rw [List.length_append] at hk'
      exact h1.trans hk'
    case label n =>
      obtain ⟨rfl, rfl, rfl⟩ := hop
      have hcF : cs = cs1 ++ Code.LAB n :: (cs2' ++ tail) := by rw [hc]; simp
      have h1 := msteps_code (c := c) Hp (code_get hcF) (σ := σ) (σ' := σ) rfl out
      obtain ⟨k', σ', out', g', hk', R', A'⟩ := sim_step_aux hs ops2 (ops1 ++ [.label n]) (cs1 ++ [.LAB n])
        cs2' tail .normal σ out (by rw [ho]; simp) (by rw [hc]; simp)
        (by rw [Subst.instrCount_append]; simpa [instrCount] using ha) S' R
      refine ⟨k', σ', out', g', ?_, R', A'⟩
      rw [List.length_append] at hk'
      exact h1.trans hk'
    case li t imm =>
      obtain ⟨rfl, ht, rfl, rfl⟩ := hop
      have hf := fetch_of_split hnodup ho (by simp) (by simp)
      rw [ha] at hf
      rw [step_li _ cfg t imm hf (posW_ne_temp ht)] at hs
      injection hs with hs
      obtain ⟨s', hx, R'⟩ := rep_li H R ht imm
      exact fin s' _ rfl hx R' hs.symm
    case binop o t a b =>
      obtain ⟨rfl, ht, hpa, hpb, rfl, rfl⟩ := hop
      have hf := fetch_of_split hnodup ho (by simp) (by simp)
      rw [ha] at hf
      simp only [Abs.step, hf] at hs
      obtain ⟨va, hva, hs⟩ := getT_next hs
      obtain ⟨vb, hvb, hs⟩ := getT_next hs
      cases hev : Abs.evalBinOp o va vb with
      | error e => simp [hev, stuck] at hs
      | ok v =>
        have hstep := step_binop _ cfg o t a b va vb v hf (posW_ne_temp ht) hva hvb hev
        simp only [Abs.step, hf, getT, hva, hvb] at hstep
        rw [hstep] at hs
        injection hs with hs
        obtain ⟨s', hx, R'⟩ := rep_binop H R ht hpa hpb hva hvb hev
        exact fin s' _ rfl hx R' hs.symm
    case jumpLabel n =>
      obtain ⟨rfl, rfl, hg⟩ := hop
      have hf := fetch_of_split hnodup ho (by simp) (by simp)
      rw [ha] at hf
      simp only [Abs.step, hf] at hs
      by_cases hn : (n == "cleanup") = true
      · rw [if_pos hn] at hs
        unfold getT at hs
        cases hv : cfg.temps.get T_RET1 <;> simp [hv, stuck] at hs
      · rw [if_neg hn] at hs
        have hg' : g = .normal := by
          rcases hg with h | ⟨_, h⟩
          · exact h
          · subst h; simp at hn
        subst hg'
        obtain ⟨k', hidx, A', hcfg⟩ := jmp n hs
        have hcJ : cs = cs1 ++ Code.B n :: (cs2' ++ tail) := by rw [hc]; simp
        refine ⟨k', σ, out, .normal, mstep_jump Hp (code_get hcJ) hidx σ out, ?_, A'⟩
        rw [hcfg]
        exact (R.keep (pc' := cfg.pc) R.core (frame0_refl σ)).setPc _
    case jif srt a b n =>
      obtain ⟨rfl, hpa, hpb, rfl, rfl⟩ := hop
      have hf := fetch_of_split hnodup ho (by simp) (by simp)
      rw [ha] at hf
      simp only [Abs.step, hf] at hs
      obtain ⟨va, hva, hs⟩ := getT_next hs
      obtain ⟨vb, hvb, hs⟩ := getT_next hs
      obtain ⟨s1, hx, R1, hfl⟩ := rep_jif H R hpa hpb hva hvb cfg.pc
      exact br s1 _ srt n va vb hx R1 hfl rfl rfl rfl hs
    case jifz srt a n =>
      obtain ⟨rfl, hpa, rfl, rfl⟩ := hop
      have hf := fetch_of_split hnodup ho (by simp) (by simp)
      rw [ha] at hf
      simp only [Abs.step, hf] at hs
      obtain ⟨va, hva, hs⟩ := getT_next hs
      obtain ⟨s1, hx, R1, hfl⟩ := rep_jifz H R hpa hva cfg.pc
      exact br s1 _ srt n va 0 hx R1 hfl rfl rfl rfl hs
    case mov t s' =>
      have hf := fetch_of_split hnodup ho (by simp) (by simp)
      rw [ha] at hf
      rcases hop with ⟨rfl, hps, rfl, rfl, rfl⟩ | ⟨hpt, hps, rfl, rfl⟩
      · rw [step_mov' _ cfg _ s' hf (by decide)] at hs
        injection hs with hs
        obtain ⟨s1, hx, R'⟩ := rep_movRet H R hps cfg.pc
        exact fin s1 _ rfl hx R' hs.symm
      · rw [step_mov' _ cfg t s' hf (posW_ne_temp hpt)] at hs
        injection hs with hs
        obtain ⟨s1, hx, R'⟩ := rep_mov H R hpt hps cfg.pc
        exact fin s1 _ rfl hx R' hs.symm
    case save t sp =>
      obtain ⟨b, rfl, hpt, hg, rfl⟩ := hop
      have hf := fetch_of_split hnodup ho (by simp) (by simp)
      rw [ha] at hf
      rw [step_save' _ cfg t sp hf] at hs
      injection hs with hs
      obtain ⟨s1, hx, R'⟩ := rep_save H R hpt b hg cfg.pc
      exact fin s1 _ rfl hx R' hs.symm
    case restore t sp =>
      obtain ⟨b, rfl, hpt, rfl, rfl⟩ := hop
      have hf := fetch_of_split hnodup ho (by simp) (by simp)
      rw [ha] at hf
      rw [step_restore' _ cfg t sp hf (posW_ne_temp hpt)] at hs
      injection hs with hs
      obtain ⟨s1, hx, R'⟩ := rep_restore H R hpt b cfg.pc
      exact fin s1 _ rfl hx R' hs.symm
    case print nl s' kinds =>
      obtain ⟨ctx, rfl, rfl, hps, hlive, rfl, rfl⟩ := hop
      have hf := fetch_of_split hnodup ho (by simp) (by simp)
      rw [ha] at hf
      simp only [Abs.step, hf] at hs
      obtain ⟨v, hv, hs⟩ := getT_next hs
      injection hs with hs
      obtain ⟨s1, hx, R'⟩ := rep_print H R (nl := nl) hps ctx hlive hv cfg.pc
      have h1 := msteps_codesOut Hp _ _ _ _ out _ (block_get hc') hx
      refine ⟨_, s1, _, .normal, h1, ?_, ?_⟩
      · rw [← hs]
        have hl : (Mock.kindsOf ctx).length = ctx.length := by simp [Mock.kindsOf]
        rw [hl]
        exact R'.setPc _
      · rw [← hs]
        show At ops cs (cfg.pc + 1) _ _
        rw [← ha]
        exact At.advance ho hcA rfl S'
    all_goals exact absurd hop (by simp)

include H Hp hcs W hnodup hhdr in
/-- THEOREM B for one step of the abstract backend machine -/
theorem sim_step {cfg cfg' : Config} {g : Mode} {σ : State} {out : List (Bool × Word)} {k : Nat}
    (hs : Abs.step (Program.ofOps ops) cfg = .next cfg') (R : RepA64 c g cfg σ out)
    (A : At ops cs cfg.pc k g) :
    ∃ k' σ' out' g', MSteps P c σ (pcOf hk cs k) out σ' (pcOf hk cs k') out' ∧
      RepA64 c g' cfg' σ' out' ∧ At ops cs cfg'.pc k' g' := by
  obtain ⟨ops1, ops2, cs1, cs2, tail, ho, hc, ha, hi, S⟩ := A
  subst hi
  exact sim_step_aux H Hp hcs W hnodup hhdr hs ops2 ops1 cs1 cs2 tail g σ out ho hc ha S R

end World

theorem exitCheck_done (c : MemCfg) {σ : State} (R : RetReady c σ) {v : Word} (h0 : σ.reg 0 = some v) :
    exitCheck c σ = .done v := by
  rcases exitCheck_safe c R with ⟨v', hv'⟩ | hf
  · have h30 : σ.regs[(30 : Fin 31)] = some (sentinel 30) := R.regs 30 (by decide)
    have h0' : σ.regs[(0 : Fin 31)] = some v := h0
    rw [hv']
    unfold exitCheck at hv'
    simp only [h30, R.sp, ne_eq, not_true_eq_false, if_false] at hv'
    split at hv'
    · cases hv'
    · simp only [h0'] at hv'
      exact hv'.symm
  · have h30 : σ.regs[(30 : Fin 31)] = some (sentinel 30) := R.regs 30 (by decide)
    have h0' : σ.regs[(0 : Fin 31)] = some v := h0
    unfold exitCheck at hf
    simp only [h30, R.sp, ne_eq, not_true_eq_false, if_false] at hf
    split at hf
    · cases hf
    · simp only [h0'] at hf
      cases hf

section Halt

variable {c : MemCfg} (H : CfgCC c) {hk : Code → Bool} {P : Prog}
  {ops : List MockOp} {cs hdr body : List Code}
  (Hp : Holds hk P cs) (hcs : cs = hdr ++ body ++ cleanup) (W : Seg .normal ops body .normal)
  (hnodup : (labelNames ops).Nodup) (hclean : "cleanup" ∉ labs hdr ++ labelNames ops)

include H Hp hcs W hnodup hclean in
/-- THEOREM B, the halting step: branch to `cleanup`, epilogue; at `RET` the exit check succeeds -/
theorem sim_halt_aux {cfg : Config} {v : Word}
    (hs : Abs.step (Program.ofOps ops) cfg = .halt (.done v)) :
    ∀ (ops2 ops1 : List MockOp) (cs1 cs2 tail : List Code) (g : Mode) (σ : State) (out : List (Bool × Word)),
      ops = ops1 ++ ops2 → cs = cs1 ++ cs2 ++ tail → instrCount ops1 = cfg.pc →
      Seg g ops2 cs2 .normal → RepA64 c g cfg σ out →
      ∃ kL σL, MSteps P c σ (pcOf hk cs cs1.length) out σL (pcOf hk cs kL) out ∧
        P.items[pcOf hk cs kL]? = some (.instr .ret) ∧ exitCheck c σL = .done v ∧ out = cfg.out
  | [] => fun ops1 cs1 cs2 tail g σ out ho hc ha S R => by
    exfalso
    have : (Program.ofOps ops).code[cfg.pc]? = none := by
      rw [Array.getElem?_eq_none_iff, ofOps_size, ← ha, ho]; simp
    simp [Abs.step, this, stuck] at hs
  | op :: ops2 => fun ops1 cs1 cs2 tail g σ out ho hc ha S R => by
    cases S with
    | @cons _ g1 _ _ blk _ cs2' hop S' =>
    by_cases hcm : ∃ m, op = .comment m
    · obtain ⟨m, rfl⟩ := hcm
      simp only [OpRel] at hop
      obtain ⟨rfl, rfl⟩ := hop
      have hcF : cs = cs1 ++ Code.COMMENT m :: (cs2' ++ tail) := by rw [hc]; simp
      have h1 := msteps_code (c := c) Hp (code_get hcF) (σ := σ) (σ' := σ) rfl out
      obtain ⟨kL, σL, hk', hL⟩ := sim_halt_aux hs ops2 (ops1 ++ [.comment m]) (cs1 ++ [.COMMENT m])
        cs2' tail g1 σ out (by rw [ho]; simp) (by rw [hc]; simp)
        (by rw [Subst.instrCount_append]; simpa [instrCount] using ha) S' R
      rw [List.length_append] at hk'
      exact ⟨kL, σL, h1.trans hk', hL⟩
    by_cases hlb : ∃ n, op = .label n
    · obtain ⟨n, rfl⟩ := hlb
      simp only [OpRel] at hop
      obtain ⟨rfl, rfl, rfl⟩ := hop
      have hcF : cs = cs1 ++ Code.LAB n :: (cs2' ++ tail) := by rw [hc]; simp
      have h1 := msteps_code (c := c) Hp (code_get hcF) (σ := σ) (σ' := σ) rfl out
      obtain ⟨kL, σL, hk', hL⟩ := sim_halt_aux hs ops2 (ops1 ++ [.label n]) (cs1 ++ [.LAB n])
        cs2' tail .normal σ out (by rw [ho]; simp) (by rw [hc]; simp)
        (by rw [Subst.instrCount_append]; simpa [instrCount] using ha) S' R
      rw [List.length_append] at hk'
      exact ⟨kL, σL, h1.trans hk', hL⟩
    -- a real instruction: it is `jumplabel cleanup`
    have hf := fetch_of_split hnodup ho (fun m e => hcm ⟨m, e⟩) (fun n e => hlb ⟨n, e⟩)
    rw [ha] at hf
    obtain ⟨rfl, hv⟩ := step_done_inv hf hs
    simp only [OpRel] at hop
    obtain ⟨rfl, _, _⟩ := hop
    obtain ⟨hg, hx0⟩ := R.ret v hv
    have hcs' : cs = (hdr ++ body) ++ Code.LAB "cleanup" :: (cleanupBody ++ [Code.RET]) := by
      rw [hcs]; rfl
    have hidx : P.labels["cleanup"]? = some (pcOf hk cs (hdr ++ body).length) := by
      apply label_pc Hp hcs'
      apply lab_not_mem_of_labs
      rw [labs_append, W.labs]
      exact hclean
    have hcJ : cs = cs1 ++ Code.B "cleanup" :: (cs2' ++ tail) := by rw [hc]; simp
    have h1 := mstep_jump (c := c) Hp (code_get hcJ) hidx σ out
    have hr := H.room; have htop := H.ok.top; have h16 := H.top16
    obtain ⟨σ3, he3, hp3⟩ := cleanup_correct H.ok σ c.stackTop (R.core.spNat H) h16 (by omega) (Nat.le_refl _)
    obtain ⟨σ3', he3', RR⟩ := cleanup_ready H R.core
    rw [he3] at he3'
    cases he3'
    have hcE : cs = (hdr ++ body) ++ cleanup.dropLast ++ [Code.RET] := by
      rw [hcs, List.append_assoc (hdr ++ body)]; rfl
    have h2 := msteps_codes Hp cleanup.dropLast _ _ _ out (block_get hcE) he3
    have hcR : cs = ((hdr ++ body) ++ cleanup.dropLast) ++ Code.RET :: [] := hcE
    have hget := code_get hcR
    obtain ⟨i, hti, hit⟩ := Hp.instr _ _ hget rfl
    simp only [Code.toInstr, Option.some.injEq] at hti
    subst hti
    refine ⟨_, σ3, h1.trans h2, ?_, ?_, R.out⟩
    · rw [List.length_append] at hit
      exact hit
    · apply exitCheck_done c RR
      rw [hp3.low 0 (by decide)]
      exact hx0

include H Hp hcs W hnodup hclean in
theorem sim_halt {cfg : Config} {v : Word} {g : Mode} {σ : State} {out : List (Bool × Word)} {k : Nat}
    (hs : Abs.step (Program.ofOps ops) cfg = .halt (.done v)) (R : RepA64 c g cfg σ out)
    (A : At ops cs cfg.pc k g) :
    ∃ kL σL, MSteps P c σ (pcOf hk cs k) out σL (pcOf hk cs kL) out ∧
      P.items[pcOf hk cs kL]? = some (.instr .ret) ∧ exitCheck c σL = .done v ∧ out = cfg.out := by
  obtain ⟨ops1, ops2, cs1, cs2, tail, ho, hc, ha, hi, S⟩ := A
  subst hi
  exact sim_halt_aux H Hp hcs W hnodup hclean hs ops2 ops1 cs1 cs2 tail g σ out ho hc ha S R

end Halt

end Scc.A64.Ref
