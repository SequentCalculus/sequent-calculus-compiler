/-
  Scc.A64.RefClosDefs — CLOSURES in the three-way relation of Theorem B on AArch64 (C07): SPEC definitions.
  The AArch64 analogue of Scc/X86/RefClosDefs.lean.

  The word part of a closure is a CODE ADDRESS: the address of its method table in the mock code on the
  abstract machine, the BYTE ADDRESS of its method table in the routine on AArch64 (`codeBase + 4 ·` the
  number of instructions before the label: every instruction has size 4).  The two code generators draw
  different label numbers, so the relation between the two addresses is kept PER INSTANCE of a closure value
  (RefClosHDefs.lean: `κ` for the fields of heap objects, the machine state for the variables of the
  context), and what an instance has to satisfy is tied to the VALUE of the positional machine:

  * `XMethodsAt c cs hooks types w envCtx clauses`: the AArch64 code of the methods of `clauses` (table, if
    any, and method bodies, generated for the environment `envCtx` from SOME label counter) stands in the
    routine `cs` behind a label whose byte address is `w` — the AArch64 analogue of `Sim.MethodsAt`;
  * `XV … v ptr a w`: a walk over the value `v` along its representation in the abstract heap (as
    `Sim2.RepV`): for every closure inside `v` whose abstract word is `a` and whose machine word is `w`, the
    mock methods are at `a` and the AArch64 methods at `w`, FOR THE SAME environment context (on AArch64
    there is no bound on the literals of the methods to carry along: MOVZ/MOVK materialise every i64);
  * `XC`: the walk for every variable of the context (the machine word: what the temporary holds).
-/
import Scc.A64.RefHeapBridge
import Scc.A64.RefHeapAddr
import Scc.A64.RefClosHDefs

namespace Scc.A64.Ref.K

open Scc.AxCut Scc.AxCut.Pos Scc.Backend Scc.Backend.Abs Scc.Backend.Sim Scc.A64

/-- the byte address of list position `idx` of the routine: 4 × the number of instructions before it -/
def addrOf (c : MemCfg) (cs : List Code) (idx : Nat) : Word :=
  BitVec.ofNat 64 (c.codeBase + 4 * ninstr (cs.take idx))

/-- the AArch64 code of the methods of a closure stands in the routine behind a label with byte address `w` -/
def XMethodsAt (c : MemCfg) (cs : List Code) (hooks : Bool) (types : List TypeDecl) (w : Word)
    (envCtx : Ctx) (clauses : Clauses) : Prop :=
  ∃ (base : String) (k k' : Nat) (code : List Code) (idx : Nat),
    (codeMethodsR a64Backend hooks natRen types envCtx clauses base).run k = .ok (code, k') ∧
    XAt cs idx (Code.LAB base ::
      ((if clauses.length > 1 then codeTable a64Backend clauses base else []) ++ code)) ∧
    w = addrOf c cs idx

section
variable (P : Program) (c : MemCfg) (cs : List Code) (hooks : Bool) (types : List TypeDecl)

mutual
  /-- `XV … h κ v ptr a w`: the closures inside the value `v` (represented by pointer part `ptr` and abstract
      word `a` in the abstract heap `h`, by the word `w` on the machine) have their methods on both sides -/
  inductive XV (h : Heap) (κ : Nat → Nat → Word) : Value → Option Word → Word → Word → Prop where
    | int (n : Word) (p : Option Word) (a w : Word) : XV h κ (.int n) p a w
    | obj (tag : Nat) (fields : List Value) (r a w : Word) :
      XB h κ fields r → XV h κ (.obj tag fields) (some r) a w
    | clo (envCtx envCtx' : Ctx) (env : List Value) (clauses : Clauses) (r : Word) (a : Nat) (w : Word) :
      envCtx'.keys = envCtx.keys → XB h κ env r →
      MethodsAt P hooks types a envCtx' clauses → XMethodsAt c cs hooks types w envCtx' clauses →
      XV h κ (.clo envCtx env clauses) (some r) (BitVec.ofNat 64 a) w
  inductive XB (h : Heap) (κ : Nat → Nat → Word) : List Value → Word → Prop where
    | empty : XB h κ [] 0
    | block (v : Value) (vs : List Value) (r : Word) (o : Obj) :
      r ≠ 0 → h.get r.toNat = some o → XF h κ (v :: vs) o.fields r.toNat 0 → XB h κ (v :: vs) r
  /-- field `j`, `j+1`, … of the object `id` -/
  inductive XF (h : Heap) (κ : Nat → Nat → Word) : List Value → List Field → Nat → Nat → Prop where
    | nil (id j : Nat) : XF h κ [] [] id j
    | cons (v : Value) (vs : List Value) (f : Field) (fs : List Field) (id j : Nat) :
      XV h κ v (if f.chi == .ext then none else some f.ptr) f.val (κ id j) →
      XF h κ vs fs id (j + 1) → XF h κ (v :: vs) (f :: fs) id j
end

/-- THE CLOSURE INVARIANT at a statement boundary: the walk for every variable of the context; the machine
word of a variable is what its second temporary holds -/
def XC (Γ : Ctx) (ρ : List Value) (cfg : Config) (κ : Nat → Nat → Word) (σ : State) : Prop :=
  ∀ i (h1 : i < Γ.length) (h2 : i < ρ.length) (w : Word),
    σ.tempVal (posTemp (2 * i + 1)) = some w →
    XV P c cs hooks types cfg.heap κ ρ[i]
      (if Γ[i].chi == .ext then none else cfg.temps.get (2 * i))
      ((cfg.temps.get (2 * i + 1)).getD 0) w

end

end Scc.A64.Ref.K
