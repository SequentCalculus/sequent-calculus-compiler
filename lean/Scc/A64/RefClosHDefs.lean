/-
  Scc.A64.RefClosHDefs — SPEC definitions for Theorem B on AArch64 WITH THE HEAP (C07, data types and closures): the
  three-way relation
        AxCut positional machine  ⟷  abstract backend machine  ⟷  AArch64 machine
  at STATEMENT BOUNDARIES.  The left half is Theorem A's relation `Sim2.RelX` (C06Generic), the right
  half is `X3` below; it is typed by the context `Γ` of the positional machine, because the word part of
  a value is represented differently on the two machines:
    * an integer (`ext`): the same word;
    * the tag of an object (`prd`): the abstract machine holds the xtor position `n` (the mock backend's
      `jump_length n = n`), the AArch64 machine `jump_length n = 4·n` (the byte offset of the n-th `B`
      of the table: every instruction has size 4);
  and the pointer part is an object id on the abstract machine and the address `ι id` of the head block
  on the AArch64 machine.  The abstract heap (ids ↦ (count, fields), exact counts, immediate erase) is
  represented by the machine memory through the two layers
        `Abs.Heap` —[`HRef`, Scc/Heap/Refine*.lean: C09R_heap_refinement]→ `Scc.Heap.HState`
                   —[`HeapRel`, Scc/A64/MemProofsHeap.lean: the memory contracts]→ machine memory,
  applied to the abstract heap with TRANSLATED word parts (`trHeap`).
  Closures (`cns`): the word part is a code address (mock code index / byte address of the routine); the
  relation is per instance (`κ`, `trWs`), see `trW`.
  The closure-aware counterpart of Scc/A64/RefHeapDefs.lean (data types only, namespace `Scc.A64.Ref`), in
  the namespace `Scc.A64.Ref.K`, as Scc/X86/RefClosHDefs.lean is for x86-64: the relation `X3R` also carries
  the per-instance code-pointer map `κ`, and asks of a closure-kinded variable only that its machine word
  is defined.
-/
import Scc.A64.RefDefs
import Scc.A64.MemProofsHeap
import Scc.Heap.RefineDefs
import Scc.Backend.SimDefs2

namespace Scc.A64.Ref.K

open Scc.AxCut Scc.Backend Scc.Backend.Abs Scc.Backend.Sim Scc.A64
open Scc.Heap (HState)
open Scc.Heap.Refine (HRef)

/-- the AArch64 representation of the word part of a value of kind `chi` (a data type or an integer) whose
representation on the abstract machine is `a`.  For closures (`cns`) the word part is a CODE ADDRESS: an
index into the mock code on the abstract machine, a byte address of the routine on AArch64; it is not a
function of the abstract word here (`trW` is the identity on it and never used for `cns`): the relation
keeps, PER INSTANCE of a closure, the word the machine holds (`κ` for heap fields, the machine state for
the variables of the context). -/
def trW (chi : Chi) (a : Word) : Word :=
  match chi with
  | .prd => a * 4#64
  | _ => a

/-- the word the machine holds for a variable of kind `chi` whose abstract word is `a`, given what the
machine's temporary currently holds (`cur`): for a closure whatever it holds (it only has to be defined) -/
def trWs (cur : Option Word) (chi : Chi) (a : Word) : Word :=
  match chi with
  | .cns => cur.getD 0
  | c => trW c a

/-- translation of field `j` of the object `id`: `κ id j` is the machine's word of a closure field -/
def trF (κ : Nat → Nat → Word) (id j : Nat) (f : Abs.Field) : Abs.Field :=
  { f with val := match f.chi with
                  | .cns => κ id j
                  | c => trW c f.val }

/-- translation of the fields of the object `id` from field number `j` on -/
def trFs (κ : Nat → Nat → Word) (id : Nat) : Nat → List Abs.Field → List Abs.Field
  | _, [] => []
  | j, f :: fs => trF κ id j f :: trFs κ id (j + 1) fs

def trO (κ : Nat → Nat → Word) (id : Nat) (o : Obj) : Obj := { o with fields := trFs κ id 0 o.fields }

/-- the abstract heap with the word parts as the AArch64 machine holds them -/
def trHeap (κ : Nat → Nat → Word) (h : Heap) : Heap := h.map fun e => (e.1, trO κ e.1 e.2)

/-- the AArch64 representation of a reference: null ↦ null, `id ↦ ι id` -/
def imgWord (ι : Nat → Nat) (r : Word) : Word := if r = 0 then 0 else BitVec.ofNat 64 (ι r.toNat)

/-- THE RIGHT HALF OF THE THREE-WAY RELATION, at a statement boundary with context `Γ`: position `i` of
the abstract machine (temporaries `2i`, `2i+1`) is held by `posTemp (2i)`, `posTemp (2i+1)` (utils.rs
temporary_from_position); the machine memory represents the block-level heap `hs`, which represents the
(translated) abstract heap under the address map `ι`; `out` is the machine's trace (most recent first) -/
structure X3R (c : MemCfg) (Γ : Ctx) (cfg : Config) (rs : List Nat) (hs : HState) (ι : Nat → Nat)
    (κ : Nat → Nat → Word) (σ : State) (out : List (Bool × Word)) : Prop where
  /-- SP at its boundary value, the callee-save area holds the entry values of X19–X30 -/
  core : CC.Core c σ
  /-- the capacity of utils.rs temporary_from_position -/
  cap : 2 * Γ.length ≤ 280
  /-- word parts (for a closure: the temporary is defined) -/
  words : ∀ i (hi : i < Γ.length) a, cfg.temps.get (2 * i + 1) = some a →
    σ.tempVal (posTemp (2 * i + 1)) = some (trWs (σ.tempVal (posTemp (2 * i + 1))) Γ[i].chi a)
  /-- pointer parts -/
  ptrs : ∀ i (hi : i < Γ.length), Γ[i].chi ≠ .ext → ∀ r, cfg.temps.get (2 * i) = some r →
    σ.tempVal (posTemp (2 * i)) = some (imgWord ι r)
  out : out = cfg.out
  hrel : HeapRel c σ hs
  /-- `rs`: the non-null references held (at a statement boundary: by the variables of `Γ`) -/
  href : HRef (trHeap κ cfg.heap) rs cfg.next hs ι

/-- at a statement boundary the roots are the references held by the variables of the context -/
def X3 (c : MemCfg) (Γ : Ctx) (cfg : Config) (hs : HState) (ι : Nat → Nat) (κ : Nat → Nat → Word)
    (σ : State) (out : List (Bool × Word)) : Prop :=
  X3R c Γ cfg (roots Γ cfg.temps) hs ι κ σ out

end Scc.A64.Ref.K
