/-
  Scc.A64.CCProofsRun — property C13, AArch64, DYNAMIC part: THE CALLING-CONVENTION MONITOR NEVER FIRES on
  the routine of an integer program — for all arguments, all fuel, every run: the result of the SPEC
  machine is never `cc-violation` (X19…X30 or SP not restored at `RET`), never the fault
  `misaligned-call` (SP not 16-aligned at a call of the print runtime), never `misaligned-sp` (SP not
  16-aligned at an SP-based access).

  The machine (Machine.lean) runs a LAID-OUT program: items are instructions and `#ctx` hooks; labels,
  directives and plain comments occupy no item.  `Holds hk P routine` says that the program `P` holds the
  backend instruction list `routine`, where `hk` tells which comments became hook items:
    the non-meta code at list position `k` is the instruction item number `icnt (routine.take k)`, a
    hooked comment is a hook item, a label resolves to the item count before its first definition.
  (`holds_layout`, CCProofsLayout.lean, derives it for `layout ls` from a line-by-line correspondence.)

  Proof: the invariant `InvAt k σ` (the text from list position `k` on starts with a straight-line
  segment whose `Future` is the boundary invariant `Core`, resp. `RetReady` at the final `RET`), moved
  across non-item codes (`invAt_meta`) and preserved by every machine step at an item (`step_safe`).
-/
import Scc.A64.CCProofsSeg

namespace Scc.A64.CC

open Scc.AxCut
open Scc.Backend.Blocks (drop_append_ge drop_eq_append_get drop_add_of_append drop_at_middle)

/-- index of the first definition of label `l` in `cs`, counting from `k` -/
def firstLab (l : String) : List Code → Nat → Option Nat
  | [], _ => none
  | c :: cs, k => if c = Code.LAB l then some k else firstLab l cs (k + 1)

theorem firstLab_some {l : String} : ∀ {cs : List Code} {k i : Nat}, firstLab l cs k = some i →
    k ≤ i ∧ cs[i - k]? = some (Code.LAB l)
  | [], _, _, h => by simp [firstLab] at h
  | c :: cs, k, i, h => by
    simp only [firstLab] at h
    split at h
    · rename_i hc
      cases h
      simp [hc]
    · obtain ⟨h1, h2⟩ := firstLab_some h
      refine ⟨by omega, ?_⟩
      have : i - k = (i - (k + 1)) + 1 := by omega
      rw [this, List.getElem?_cons_succ]
      exact h2

section Layout
variable (hk : Code → Bool)

/-- a code that occupies an item: an instruction, or a comment that is laid out as a hook -/
def isItem (c : Code) : Bool := !c.isMeta || hk c

def icnt (l : List Code) : Nat := (l.filter (isItem hk)).length

theorem icnt_take_succ {routine : List Code} {k : Nat} {c : Code} (h : routine[k]? = some c) :
    icnt hk (routine.take (k + 1)) = icnt hk (routine.take k) + (if isItem hk c then 1 else 0) := by
  obtain ⟨hlt, rfl⟩ := List.getElem?_eq_some_iff.1 h
  unfold icnt
  rw [List.take_succ_eq_append_getElem hlt, List.filter_append, List.length_append]
  by_cases hi : isItem hk routine[k] = true <;> simp [hi]

structure Holds (P : Prog) (routine : List Code) : Prop where
  hkComment : ∀ c, hk c = true → ∃ msg, c = Code.COMMENT msg
  instr : ∀ k c, routine[k]? = some c → c.isMeta = false →
    ∃ i, c.toInstr = some i ∧ P.items[icnt hk (routine.take k)]? = some (.instr i)
  hook : ∀ k c, routine[k]? = some c → hk c = true →
    ∃ vs, P.items[icnt hk (routine.take k)]? = some (.hook vs)
  labels : ∀ l, P.labels[l]? = (firstLab l routine 0).map fun k => icnt hk (routine.take k)

end Layout

def isLab : Code → Bool
  | .LAB _ => true
  | _ => false

def NoLab (l : List Code) : Prop := ∀ c ∈ l, isLab c = false

theorem noLab_printI64 (nl : Bool) (t : Temporary) (ctx : Ctx) : NoLab (printI64 nl t ctx) := fun c hc => by
  rcases Mem.items_printI64G false nl t ctx c hc with h | rfl
  · cases h with
    | com _ => rfl
    | instr hf _ _ => cases c <;> first | rfl | cases hf
  · rfl

/-- the text from position `i` on is a body shape followed by `cleanup` -/
def BodyAt (routine : List Code) (i : Nat) : Prop :=
  ∃ rest, CCShape plainInt rest ∧ routine.drop i = rest ++ cleanup

theorem ccShape_drop_label {plain : Code → Bool} {body : List Code} (h : CCShape plain body) :
    ∀ (j : Nat) (l : String), body[j]? = some (Code.LAB l) → CCShape plain (body.drop j) := fun j l hj =>
  .ofShape (h.toShape.drop_at (fun _ ⟨nl, t, ctx, _, e⟩ hm => by
    have := noLab_printI64 nl t ctx _ (e ▸ hm); cases this) j hj)

theorem isLab_of_isArgMove {c : Code} (h : isArgMove c = true) : isLab c = false := by
  cases c <;> simp [isArgMove] at h <;> rfl

theorem head_labels {n : Nat} {su : List Code} (hsu : setup n = .ok su) :
    ∀ c ∈ routineHead su, ∀ l, c = Code.LAB l → l = "asm_main" := by
  obtain ⟨moves, hm, rfl⟩ := setup_eq hsu
  have hmv := moveArguments_shape n moves hm
  intro c hc l hl
  subst hl
  simp only [routineHead, preamble, setupPushes, setupTail, List.mem_append, List.mem_cons,
    List.not_mem_nil, or_false, Code.LAB.injEq] at hc
  rcases hc with ((h | h | h) | ((h | h) | h)) | h
  · cases h
  · cases h
  · exact h
  · rcases h with h | h | h | h | h | h | h | h | h | h <;> cases h
  · have := isLab_of_isArgMove (hmv _ h); cases this
  · rcases h with h | h | h <;> cases h
  · cases h

theorem tail_labels (j : Nat) (l : String) (h : cleanup[j]? = some (Code.LAB l)) : j = 0 := by
  cases j with
  | zero => rfl
  | succ j =>
    have e : cleanup = Code.LAB "cleanup" :: cleanup.tail := rfl
    rw [e, List.getElem?_cons_succ] at h
    have hm := List.mem_of_getElem? h
    simp [cleanup] at hm

/-- EVERY LABEL OF THE ROUTINE OTHER THAN `asm_main` IS AT A BOUNDARY POSITION -/
theorem bodyAt_label {body routine su : List Code} {n : Nat} (hb : CCShape plainInt body)
    (hsu : setup n = .ok su) (hr : routine = routineHead su ++ body ++ cleanup) {i : Nat} {l : String}
    (hi : routine[i]? = some (Code.LAB l)) (hl : l ≠ "asm_main") : BodyAt routine i := by
  subst hr
  exact drop_at_middle (S := CCShape plainInt) (fun hm' => hl (head_labels hsu _ hm' l rfl))
    (fun j => ccShape_drop_label hb j l) .nil (fun j => tail_labels j l) hi

/-- results that are not reports of the calling-convention monitor -/
def CCSafe : Res → Prop
  | .ccViolation _ => False
  | .fault why _ => why ≠ "misaligned-call" ∧ why ≠ "misaligned-sp"
  | _ => True

theorem ccSafe_fault {e : String} (h : OKErr e) (ln : Nat) : CCSafe (.fault e ln) := ⟨h.1, h.2.1⟩

theorem ccSafe_withLine {r : Res} (ln : Nat) (h : CCSafe r) : CCSafe (withLine ln r) := by
  cases r <;> exact h

/-- where the current segment leads: to a boundary inside the body, or to the final return (the two cases of `PostT`) -/
inductive Tgt where
  | body
  | ret

/-- what holds at the end of the current segment, at list position `i` -/
def PostT (c : MemCfg) (routine : List Code) (tgt : Tgt) (i : Nat) (σ : State) : Prop :=
  match tgt with
  | .body => Core c σ ∧ BodyAt routine i
  | .ret => RetReady c σ ∧ routine.drop i = [Code.RET]

/-- the text from list position `k` on starts with a segment `todo` whose future is the boundary
    invariant (or the exit condition) at the position behind it -/
def InvAt (c : MemCfg) (routine : List Code) (k : Nat) (σ : State) : Prop :=
  ∃ todo tgt, (∀ j (h : j < todo.length), routine[k + j]? = some todo[j]) ∧
    Future c (PostT c routine tgt (k + todo.length)) todo σ

theorem drop_head {l : List Code} {i : Nat} {c : Code} {rest : List Code} (h : l.drop i = c :: rest) :
    l[i]? = some c ∧ l.drop (i + 1) = rest := by
  constructor
  · have := drop_eq_append_get (a := [c]) (b := rest) (by simpa using h) 0 (by simp)
    simpa using this
  · exact drop_add_of_append (a := [c]) (b := rest) (by simpa using h)

def cleanupBody : List Code :=
  [ .COMMENT "free space for register spills", .ADDI .sp .sp (SPILL_SPACE : Int), .COMMENT "restore registers",
    .LDP_POST_INDEX (.x 28) (.x 29) .sp 16, .LDP_POST_INDEX (.x 26) (.x 27) .sp 16,
    .LDP_POST_INDEX (.x 24) (.x 25) .sp 16, .LDP_POST_INDEX (.x 22) (.x 23) .sp 16,
    .LDP_POST_INDEX (.x 20) (.x 21) .sp 16, .LDP_POST_INDEX (.x 18) (.x 19) .sp 16 ]

theorem cleanup_dropLast_eq : cleanup.dropLast = Code.LAB "cleanup" :: cleanupBody := rfl

section NF
variable {c : MemCfg} {routine : List Code}

/-- NORMAL FORMS of the invariant: inside a non-empty segment; at a plain instruction; at the final `RET` -/
inductive NF (c : MemCfg) (routine : List Code) (k : Nat) (σ : State) : Prop where
  | seg (code : Code) (rest : List Code) (tgt : Tgt) :
      (∀ j (h : j < (code :: rest).length), routine[k + j]? = some (code :: rest)[j]) →
      Future c (PostT c routine tgt (k + (code :: rest).length)) (code :: rest) σ → NF c routine k σ
  | plain (code : Code) (rest' : List Code) : Core c σ → plainInt code = true →
      routine.drop k = code :: (rest' ++ cleanup) → CCShape plainInt rest' → NF c routine k σ
  | ret : RetReady c σ → routine.drop k = [Code.RET] → NF c routine k σ

theorem invAt_nf (H : CfgCC c) {k : Nat} {σ : State} (I : InvAt c routine k σ) : NF c routine k σ := by
  obtain ⟨todo, tgt, hcode, hF⟩ := I
  cases todo with
  | cons code rest => exact .seg code rest tgt hcode hF
  | nil =>
    have hF' : PostT c routine tgt k σ := by simpa [Future, execCodesOut] using hF
    cases tgt with
    | ret => exact .ret hF'.1 hF'.2
    | body =>
      obtain ⟨C, rest, hshape, hd⟩ := hF'
      cases hshape with
      | nil =>
        have hd' : routine.drop k = (Code.LAB "cleanup" :: cleanupBody) ++ [Code.RET] := by
          rw [hd]; rfl
        refine .seg (Code.LAB "cleanup") cleanupBody .ret (drop_eq_append_get hd') ?_
        have hf := cleanup_future H C
        rw [cleanup_dropLast_eq] at hf
        exact hf.mono fun σ' hs' => ⟨hs', drop_add_of_append hd'⟩
      | @plain code rest' hc hrest' => exact .plain code rest' C hc (by simpa using hd) hrest'
      | @print nl t ctx rest' hs hrest' =>
        rw [List.append_assoc] at hd
        have hne : printI64 nl t ctx ≠ [] := by rw [printI64_split]; simp
        obtain ⟨code, blk, hblk⟩ := List.exists_cons_of_ne_nil hne
        refine .seg code blk .body ?_ ?_
        · rw [← hblk]; exact drop_eq_append_get hd
        · rw [← hblk]
          exact (block_future H hs nl C).mono fun σ' hs' => ⟨hs', rest', hrest', drop_add_of_append hd⟩

theorem NF.head {k : Nat} {σ : State} (h : NF c routine k σ) : ∃ code, routine[k]? = some code := by
  cases h with
  | seg code rest tgt hcode _ =>
    have h0 := hcode 0 (by simp)
    simp only [Nat.add_zero, List.getElem_cons_zero] at h0
    exact ⟨code, h0⟩
  | plain code rest' _ _ hd _ => exact ⟨code, (drop_head hd).1⟩
  | ret _ hd => exact ⟨Code.RET, (drop_head hd).1⟩

/-- a code without semantics (label, directive, comment) is skipped -/
theorem invAt_meta (H : CfgCC c) {k : Nat} {σ : State} (I : InvAt c routine k σ) {code : Code}
    (hc : routine[k]? = some code) (hm : code.isMeta = true) : InvAt c routine (k + 1) σ := by
  have hnb : code.isBL = false := by cases code <;> first | rfl | simp [Code.isMeta] at hm
  cases invAt_nf H I with
  | seg code' rest tgt hcode hF =>
    have h0 := hcode 0 (by simp)
    simp only [Nat.add_zero, List.getElem_cons_zero] at h0
    rw [hc] at h0; cases h0
    rw [Future.cons_noBL hnb, execCode_meta hm] at hF
    refine ⟨rest, tgt, ?_, ?_⟩
    · intro j hj
      have := hcode (j + 1) (by simpa using hj)
      rw [Nat.add_assoc, Nat.add_comm 1 j]
      simpa using this
    · have e : k + 1 + rest.length = k + (code :: rest).length := by simp; omega
      rw [e]; exact hF
  | plain code' rest' C hp hd hshape =>
    obtain ⟨h1, h2⟩ := drop_head hd
    exact ⟨[], .body, fun j hj => by simp at hj, Future.nil ⟨C, rest', hshape, h2⟩⟩
  | ret R hd =>
    obtain ⟨h1, _⟩ := drop_head hd
    rw [hc] at h1; cases h1
    simp [Code.isMeta] at hm

end NF

section Run
variable {hk : Code → Bool} {P : Prog} {cfg : MonCfg} {routine body su : List Code} {nargs : Nat}

theorem runLoop_item {fuel : Nat} {m : Machine} {it : Item} (h : P.items[m.pc]? = some it) :
    runLoop P cfg (fuel + 1) m =
      match it with
      | .hook vars =>
        if cfg.heap then
          match heapMonitor cfg.mem m.σ vars with
          | .error e => finish m (.invFail e (P.lines.getD m.pc 0))
          | .ok b => runLoop P cfg fuel { m with pc := m.pc + 1, blocks := max m.blocks b }
        else runLoop P cfg fuel { m with pc := m.pc + 1 }
      | .instr i =>
        match step P cfg.mem i m.σ m.pc with
        | .next σ pc => runLoop P cfg fuel { m with σ := σ, pc := pc, steps := m.steps + 1 }
        | .print nl w σ pc =>
          runLoop P cfg fuel { m with σ := σ, pc := pc, steps := m.steps + 1, out := (nl, w) :: m.out }
        | .stop r => finish { m with steps := m.steps + 1 } (withLine (P.lines.getD m.pc 0) r) := by
  obtain ⟨hlt, hget⟩ := Array.getElem?_eq_some_iff.1 h
  rw [runLoop]
  simp only [hlt, dite_true, hget]
  cases it <;> rfl

theorem step_data {i : Instr} (hd : isData i = true) (σ : State) (pc : Nat) :
    step P cfg.mem i σ pc =
      match i.exec cfg.mem σ with
      | .error e => .stop (.fault e 0)
      | .ok σ' => .next σ' (pc + 1) := by
  cases i <;> first | rfl | simp [isData] at hd

theorem finish_res (m : Machine) (r : Res) : (finish m r).res = r := rfl

/-- the machine invariant: the program counter is the item count of a list position at which `InvAt`
    holds -/
def Inv (hk : Code → Bool) (c : MemCfg) (routine : List Code) (m : Machine) : Prop :=
  ∃ k, m.pc = icnt hk (routine.take k) ∧ InvAt c routine k m.σ

/-- move forward to the next item -/
theorem normalize (H : CfgCC cfg.mem) (Hp : Holds hk P routine) : ∀ (n k : Nat) (σ : State),
    routine.length - k ≤ n → InvAt cfg.mem routine k σ →
    ∃ k' code, icnt hk (routine.take k') = icnt hk (routine.take k) ∧ InvAt cfg.mem routine k' σ ∧
      routine[k']? = some code ∧ isItem hk code = true
  | 0, k, σ, hn, I => by
    obtain ⟨code, hc⟩ := (invAt_nf H I).head
    have := (List.getElem?_eq_some_iff.1 hc).1
    omega
  | n + 1, k, σ, hn, I => by
    obtain ⟨code, hc⟩ := (invAt_nf H I).head
    by_cases hi : isItem hk code = true
    · exact ⟨k, code, rfl, I, hc, hi⟩
    · have hi' : isItem hk code = false := by simpa using hi
      have hm : code.isMeta = true := by
        simp only [isItem, Bool.or_eq_false_iff, Bool.not_eq_false'] at hi'
        exact hi'.1
      have hlt := (List.getElem?_eq_some_iff.1 hc).1
      obtain ⟨k', code', h1, h2, h3, h4⟩ := normalize H Hp n (k + 1) σ (by omega) (invAt_meta H I hc hm)
      refine ⟨k', code', ?_, h2, h3, h4⟩
      rw [h1, icnt_take_succ hk hc, hi']
      simp

theorem future_BL {c : MemCfg} {Q : State → Prop} {l : String} {rest : List Code} {σ : State}
    (h : Future c Q (Code.BL l :: rest) σ) :
    isExternal l = true ∧
      match σ.callExternal with
      | .error e => OKErr e
      | .ok (_, σ') => Future c Q rest σ' := by
  unfold Future at h
  simp only [execCodesOut] at h
  by_cases hx : isExternal l = true
  · refine ⟨hx, ?_⟩
    rw [if_pos hx] at h
    cases hcall : σ.callExternal with
    | error e => simp only [hcall] at h ⊢; exact h
    | ok r =>
      obtain ⟨w, σ'⟩ := r
      simp only [hcall] at h ⊢
      unfold Future
      cases hr : execCodesOut c rest σ' with
      | error e => simp only [hr] at h ⊢; exact h
      | ok r2 => obtain ⟨σ'', out⟩ := r2; simp only [hr] at h ⊢; exact h
  · rw [if_neg hx] at h
    exact absurd rfl h.2.2.2

theorem exec_nonData {c : MemCfg} {i : Instr} (h : isData i = false) (σ : State) :
    i.exec c σ = .error "branching instruction" := by
  cases i <;> first | rfl | simp [isData] at h

theorem icnt_item {routine : List Code} {k : Nat} {code : Code} (hc : routine[k]? = some code)
    (hi : isItem hk code = true) : icnt hk (routine.take (k + 1)) = icnt hk (routine.take k) + 1 := by
  rw [icnt_take_succ hk hc, hi]; rfl

/-- the invariant as a predicate on state and program counter -/
def InvSP (hk : Code → Bool) (c : MemCfg) (routine : List Code) (σ : State) (pc : Nat) : Prop :=
  ∃ k, pc = icnt hk (routine.take k) ∧ InvAt c routine k σ

/-- a good outcome of one instruction: the invariant again, or a stop that is not a report of the
    calling-convention monitor -/
def GoodOut (hk : Code → Bool) (c : MemCfg) (routine : List Code) : StepOut → Prop
  | .next σ pc => InvSP hk c routine σ pc
  | .print _ _ σ pc => InvSP hk c routine σ pc
  | .stop r => CCSafe r

theorem jumpRef_toInstr {code : Code} {l : String} {i : Instr} (hj : codeJumpRef code = some l)
    (ht : code.toInstr = some i) : i = .b l ∨ ∃ cd, i = .bcond cd l := by
  cases code <;> simp only [codeJumpRef, Option.some.injEq] at hj <;> try (cases hj; done)
  all_goals (subst hj; simp only [Code.toInstr, Option.some.injEq] at ht; subst ht)
  · exact Or.inl rfl
  all_goals exact Or.inr ⟨_, rfl⟩

/-- ONE INSTRUCTION at an item position has a good outcome -/
theorem step_good (H : CfgCC cfg.mem) (Hp : Holds hk P routine) (hb : CCShape plainInt body)
    (hsu : setup nargs = .ok su) (hr : routine = routineHead su ++ body ++ cleanup)
    (σ : State) (k : Nat) (I : InvAt cfg.mem routine k σ)
    {code : Code} (hc : routine[k]? = some code) (hm' : code.isMeta = false) {i : Instr}
    (hti : code.toInstr = some i) :
    GoodOut hk cfg.mem routine (step P cfg.mem i σ (icnt hk (routine.take k))) := by
  have hi : isItem hk code = true := by simp [isItem, hm']
  have hnext := icnt_item (hk := hk) hc hi
  cases invAt_nf H I with
  | seg code' rest tgt hcode hF =>
    have h0 := hcode 0 (by simp)
    simp only [Nat.add_zero, List.getElem_cons_zero] at h0
    rw [hc] at h0; cases h0
    have hcode' : ∀ j (h : j < rest.length), routine[k + 1 + j]? = some rest[j] := by
      intro j hj
      have := hcode (j + 1) (by simpa using hj)
      rw [Nat.add_assoc, Nat.add_comm 1 j]
      simpa using this
    have epos : k + 1 + rest.length = k + (code :: rest).length := by simp; omega
    by_cases hbl : code.isBL = true
    · -- the call of a print block
      cases code <;> simp [Code.isBL] at hbl
      rename_i l
      simp only [Code.toInstr, Option.some.injEq] at hti
      subst hti
      obtain ⟨hext, hcall⟩ := future_BL hF
      simp only [step, hext, if_true]
      cases hx : σ.callExternal with
      | error e =>
        simp only [hx] at hcall ⊢
        exact ccSafe_fault hcall 0
      | ok r =>
        obtain ⟨w, σ'⟩ := r
        simp only [hx] at hcall ⊢
        exact ⟨k + 1, hnext.symm, rest, tgt, hcode', by rw [epos]; exact hcall⟩
    · have hbl' : code.isBL = false := by simpa using hbl
      rw [Future.cons_noBL hbl', execCode_of_toInstr σ hti] at hF
      by_cases hd : isData i = true
      · rw [step_data hd]
        cases hx : i.exec cfg.mem σ with
        | error e =>
          simp only [hx] at hF ⊢
          exact ccSafe_fault hF 0
        | ok σ' =>
          simp only [hx] at hF ⊢
          exact ⟨k + 1, hnext.symm, rest, tgt, hcode', by rw [epos]; exact hF⟩
      · rw [exec_nonData (by simpa using hd)] at hF
        exact absurd rfl hF.2.2.1
  | plain code' rest' C hp hd hshape =>
    obtain ⟨h1, h2⟩ := drop_head hd
    rw [hc] at h1; cases h1
    have hbody : BodyAt routine (k + 1) := ⟨rest', hshape, h2⟩
    have Inext : ∀ σ', Core cfg.mem σ' → InvSP hk cfg.mem routine σ' (icnt hk (routine.take k) + 1) :=
      fun σ' C' => ⟨k + 1, hnext.symm, [], .body, fun j hj => by simp at hj, Future.nil ⟨C', hbody⟩⟩
    obtain ⟨hcc, _, hind, hlab⟩ := plainInt_spec hp
    cases hj : codeJumpRef code with
    | none =>
      obtain ⟨hd', _, _, _⟩ := plain_toInstr hcc hind hj hti
      have hpe := plain_exec H C hp hj
      rw [execCode_of_toInstr σ hti] at hpe
      rw [step_data hd']
      cases hx : i.exec cfg.mem σ with
      | error e =>
        simp only [hx] at hpe ⊢
        exact ccSafe_fault hpe.okErr 0
      | ok σ' =>
        simp only [hx] at hpe ⊢
        exact Inext σ' hpe
    | some l =>
      have hl := hlab l hj
      -- the target of a direct branch
      have hgoto : GoodOut hk cfg.mem routine (P.gotoLabel σ l) := by
        unfold Prog.gotoLabel
        rw [Hp.labels]
        cases hfl : firstLab l routine 0 with
        | none => exact ccSafe_fault (merr_undefLabel l).okErr 0
        | some k' =>
          obtain ⟨_, hk'⟩ := firstLab_some hfl
          simp only [Nat.sub_zero] at hk'
          exact ⟨k', rfl, [], .body, fun j hj => by simp at hj,
            Future.nil ⟨C, bodyAt_label hb hsu hr hk' hl⟩⟩
      rcases jumpRef_toInstr hj hti with rfl | ⟨cd, rfl⟩
      · exact hgoto
      · simp only [step]
        cases hfl : σ.flags with
        | none => exact ccSafe_fault merr_undefFlags.okErr 0
        | some ab =>
          obtain ⟨a, b⟩ := ab
          dsimp only
          split
          · exact hgoto
          · exact Inext σ C
  | ret R hd =>
    obtain ⟨h1, _⟩ := drop_head hd
    rw [hc] at h1; cases h1
    simp only [Code.toInstr, Option.some.injEq] at hti
    subst hti
    simp only [step]
    rcases exitCheck_safe cfg.mem R with ⟨v, hv⟩ | hv
    · rw [hv]; trivial
    · rw [hv]; exact ccSafe_fault (merr_undefX 0).okErr 0

/-- ONE ITERATION OF THE RUN LOOP at an item keeps the invariant or ends the run with a result that is
    not a report of the calling-convention monitor -/
theorem step_safe (H : CfgCC cfg.mem) (Hp : Holds hk P routine) (hb : CCShape plainInt body)
    (hsu : setup nargs = .ok su) (hr : routine = routineHead su ++ body ++ cleanup) (fuel : Nat)
    (IH : ∀ m', Inv hk cfg.mem routine m' → CCSafe (runLoop P cfg fuel m').res)
    (m : Machine) (k : Nat) (hpc : m.pc = icnt hk (routine.take k)) (I : InvAt cfg.mem routine k m.σ)
    {code : Code} (hc : routine[k]? = some code) (hi : isItem hk code = true) :
    CCSafe (runLoop P cfg (fuel + 1) m).res := by
  have hnext := icnt_item (hk := hk) hc hi
  by_cases hm : code.isMeta = true
  · -- a hook
    have hh : hk code = true := by simpa [isItem, hm] using hi
    obtain ⟨vs, hit⟩ := Hp.hook k code hc hh
    rw [← hpc] at hit
    rw [runLoop_item hit]
    have I' := invAt_meta H I hc hm
    dsimp only
    split
    · cases hmon : heapMonitor cfg.mem m.σ vs with
      | error e => trivial
      | ok b => exact IH _ ⟨k + 1, by simp only [hnext, hpc], I'⟩
    · exact IH _ ⟨k + 1, by simp only [hnext, hpc], I'⟩
  · -- an instruction
    have hm' : code.isMeta = false := by simpa using hm
    obtain ⟨i, hti, hit⟩ := Hp.instr k code hc hm'
    rw [← hpc] at hit
    rw [runLoop_item hit]
    dsimp only
    have hg := step_good H Hp hb hsu hr m.σ k I hc hm' hti
    rw [← hpc] at hg
    cases hs : step P cfg.mem i m.σ m.pc with
    | next σ pc =>
      rw [hs] at hg
      obtain ⟨k', h1, h2⟩ := hg
      exact IH _ ⟨k', h1, h2⟩
    | print nl w σ pc =>
      rw [hs] at hg
      obtain ⟨k', h1, h2⟩ := hg
      exact IH _ ⟨k', h1, h2⟩
    | stop r =>
      rw [hs] at hg
      rw [finish_res]
      exact ccSafe_withLine _ hg

theorem runLoop_safe (H : CfgCC cfg.mem) (Hp : Holds hk P routine) (hb : CCShape plainInt body)
    (hsu : setup nargs = .ok su) (hr : routine = routineHead su ++ body ++ cleanup) :
    ∀ (fuel : Nat) (m : Machine), Inv hk cfg.mem routine m → CCSafe (runLoop P cfg fuel m).res
  | 0, m, _ => trivial
  | fuel + 1, m, I => by
    obtain ⟨k, hpc, Ik⟩ := I
    obtain ⟨k', code, hcnt, Ik', hc, hi⟩ := normalize H Hp (routine.length - k) k m.σ (Nat.le_refl _) Ik
    exact step_safe H Hp hb hsu hr fuel (runLoop_safe H Hp hb hsu hr fuel) m k' (by rw [hpc, hcnt]) Ik' hc hi

theorem entry_label (su rest : List Code) :
    firstLab "asm_main" (routineHead su ++ rest) 0 = some 2 := by
  simp [routineHead, preamble, firstLab]

theorem routine_drop_entry (su rest : List Code) :
    (routineHead su ++ rest).drop 2 = (Code.LAB "asm_main" :: (su ++ [Code.COMMENT "actual code"])) ++ rest := by
  simp [routineHead, preamble]

/-- C13, the dynamic half, INTEGER PROGRAMS: on a program that holds the routine, the calling-convention monitor
    never fires — all arguments, all fuel, every setting of the monitor flags, on a memory configuration satisfying
    `CfgCC` (CCProofsSeg.lean: 16-aligned stack top, room for the frame) -/
theorem cc_safe_prog {p : AxCut.Prog} (hp : Scc.Backend.Shape.IntProgC p) {hooks : Bool} {c0 : Nat}
    {routine : List Code} (hc : compileProg a64Backend p hooks c0 = .ok (body, nargs, routine))
    (H : CfgCC cfg.mem) (Hp : Holds hk P routine) (args : List Word) (fuel : Nat) :
    CCSafe (runProg P args fuel cfg).res := by
  obtain ⟨hb, hrt⟩ := compile_ccShape_int hp hc
  obtain ⟨su, hsu, hr⟩ := routine_anatomy hrt
  unfold runProg
  have hnotHook : ∀ c, (∀ msg, c ≠ Code.COMMENT msg) → c.isMeta = true → isItem hk c = false := by
    intro c hne hm
    cases h : hk c with
    | false => simp [isItem, hm, h]
    | true => obtain ⟨msg, rfl⟩ := Hp.hkComment c h; exact absurd rfl (hne msg)
  have hT := hnotHook Code.TEXT (fun _ h => by cases h) rfl
  have hG := hnotHook (Code.GLOBAL "asm_main") (fun _ h => by cases h) rfl
  have htake : routine.take 2 = [Code.TEXT, Code.GLOBAL "asm_main"] := by
    rw [hr]; simp [routineHead, preamble]
  have hcnt : icnt hk (routine.take 2) = 0 := by
    rw [htake]; simp [icnt, hT, hG]
  have hentry : P.labels["asm_main"]? = some 0 := by
    rw [Hp.labels, hr, List.append_assoc, entry_label, Option.map_some, ← List.append_assoc, ← hr, hcnt]
  rw [hentry]
  dsimp only
  split
  · exact ⟨by decide, by decide⟩
  · apply runLoop_safe H Hp hb hsu hr
    have hdrop : routine.drop 2 =
        (Code.LAB "asm_main" :: (su ++ [Code.COMMENT "actual code"])) ++ (body ++ cleanup) := by
      rw [hr, List.append_assoc]; exact routine_drop_entry su _
    refine ⟨2, hcnt.symm, Code.LAB "asm_main" :: (su ++ [Code.COMMENT "actual code"]), .body,
      drop_eq_append_get hdrop, ?_⟩
    exact (setup_future H (entry_entryState cfg.mem args) hsu).mono
      fun σ' hs' => ⟨hs', body, hb, drop_add_of_append hdrop⟩

end Run

end Scc.A64.CC
