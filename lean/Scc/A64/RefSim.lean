/-
  Scc.A64.RefSim — Theorem B (AArch64), heap-free instructions: every step of the abstract backend
  machine on an instruction `op` is simulated by the AArch64 SPEC machine on the rendering of `op`
  (`OpRel`), re-establishing the representation relation `RepA64` (RefDefs.lean).
  Here: the state-level lemmas, one per abstract instruction (`execCodes` /
  `execCodesOut` of the rendering from a represented state), lifted from the per-method contracts
  `op_correct` (OpLemmas.lean), `mov_correct`, `loadImmediate_correct`, `compare_correct`, … (MoveLemmas.lean) and
  `print_register`, `print_spill` (PrintLemmas.lean).
-/
import Scc.A64.RefFrame
import Scc.Backend.ProofsSim
import Scc.Backend.ProofsAbsStep
import Scc.Backend.ProofsPM

namespace Scc.A64.Ref

open Scc.AxCut Scc.Backend Scc.Backend.Abs Scc.Backend.Sim Scc.A64.CC Scc.Backend.PM

theorem isVar_posW {t : Nat} (h : PosW t) : (posTemp t).isVar := isVar_posTemp h.2

theorem ok_of_isVar {t : Temporary} (h : t.isVar) : t.ok = true := by
  cases t with
  | register reg =>
    cases reg with
    | x r =>
      obtain ⟨_, h2⟩ := isVar_reg h
      rw [REGISTER_NUM_eq] at h2
      simp [Temporary.ok, Register.ok, h2]
    | sp => simp [Temporary.isVar] at h
    | xzr => simp [Temporary.isVar] at h
  | spill p =>
    obtain ⟨_, h2⟩ := isVar_spill h
    simp [Temporary.ok, h2]

theorem ok_posW {t : Nat} (h : PosW t) : (posTemp t).ok = true := ok_of_isVar (isVar_posW h)

theorem posW_ne_temp {t : Nat} (h : PosW t) : t ≠ Mock.T_TEMP := by
  have := h.2; unfold Mock.T_TEMP; omega

theorem posW_ne_ret1 {t : Nat} (h : PosW t) : t ≠ Mock.T_RET1 := by
  have := h.2; unfold Mock.T_RET1; omega

/-- strong frame: everything but the target (in particular TEMP, TEMP2) -/
structure FrameS (σ σ' : State) (t : Temporary) : Prop where
  sp : σ'.sp = σ.sp
  heap : σ'.heap = σ.heap
  regs : ∀ m : Fin 31, t.archReg ≠ some m → σ'.reg m = σ.reg m
  slots : ∀ a, (∀ q, t = .spill q → a ≠ σ.slotAddr q) → σ'.slot a = σ.slot a

theorem FrameS.temp {c : MemCfg} {room : Nat} {σ σ' : State} {t u : Temporary} (B : SpOk c σ.sp room)
    (F : FrameS σ σ' t) (hu : u.ok = true) (ht : t.ok = true) (hne : u ≠ t) : σ'.tempVal u = σ.tempVal u := by
  rcases ok_cases hu with ⟨r, rfl, hr⟩ | ⟨q, rfl, hq⟩
  · obtain ⟨n, hn⟩ := xreg_lt30 hr
    rw [tempVal_reg hn, tempVal_reg hn]
    apply F.regs n
    intro e
    rcases ok_cases ht with ⟨rt, rfl, _⟩ | ⟨p, rfl, _⟩
    · simp only [Temporary.archReg] at e
      exact hne (by rw [xreg_inj hn e])
    · simp [Temporary.archReg] at e
  · rw [tempVal_spill, tempVal_spill]
    have : σ'.slotAddr q = σ.slotAddr q := by simp [State.slotAddr, F.sp]
    rw [this]
    apply F.slots
    intro p hp e
    subst hp
    rcases ok_cases ht with ⟨rt, h, _⟩ | ⟨p', h, hp'⟩
    · cases h
    · injection h with h; subst h
      exact hne (by rw [(slotAddr_inj B (by rw [SPILL_NUM_eq]; exact hq) (by rw [SPILL_NUM_eq]; exact hp')).1 e])

/-- `move_to_register`: the register receives the content of the temporary (defined or not) -/
theorem moveToRegister_exec {c : MemCfg} {room : Nat} {σ : State} (B : SpOk c σ.sp room) {r0 : Nat}
    {n0 : Fin 31} (h0 : xreg r0 = some n0) {t : Temporary} (ht : t.ok = true) :
    execCodes c (moveToRegister (.x r0) t) σ = .ok (σ.setReg n0 (σ.tempVal t)) := by
  have hsp' : SpOkS c room σ := B
  rcases ok_cases ht with ⟨r, rfl, hr⟩ | ⟨p, rfl, hp⟩
  · obtain ⟨n, hn⟩ := xreg_lt30 hr
    rw [tempVal_reg hn]
    simp [moveToRegister, execCodes, execCode_MOVR h0 hn, exec_mov_x]
  · rw [tempVal_spill]
    have hp' : p < SPILL_NUM := by rw [SPILL_NUM_eq]; exact hp
    simp [moveToRegister, execCodes, execCode_LDR_sp h0, exec_ldr_slot c room, hsp', hp']

/-- `move_from_register`: the temporary receives the content of the register (defined or not) -/
theorem moveFromRegister_exec {c : MemCfg} {room : Nat} {σ : State} (B : SpOk c σ.sp room) {r0 : Nat}
    {n0 : Fin 31} (h0 : xreg r0 = some n0) {t : Temporary} (ht : t.ok = true) :
    ∃ σ', execCodes c (moveFromRegister t (.x r0)) σ = .ok σ' ∧ σ'.tempVal t = σ.reg n0 ∧ FrameS σ σ' t := by
  have hsp' : SpOkS c room σ := B
  rcases ok_cases ht with ⟨r, rfl, hr⟩ | ⟨p, rfl, hp⟩
  · obtain ⟨n, hn⟩ := xreg_lt30 hr
    refine ⟨σ.setReg n (σ.reg n0), ?_, ?_, ⟨rfl, rfl, ?_, fun _ _ => rfl⟩⟩
    · simp [moveFromRegister, execCodes, execCode_MOVR hn h0, exec_mov_x]
    · rw [tempVal_reg hn]; simp
    · intro m hm
      have : n ≠ m := by intro e; apply hm; simp [Temporary.archReg, hn, e]
      simp [this]
  · have hp' : p < SPILL_NUM := by rw [SPILL_NUM_eq]; exact hp
    cases hx : σ.reg n0 with
    | none =>
      refine ⟨σ.clrSlot (σ.slotAddr p), ?_, ?_, ⟨rfl, rfl, fun _ _ => rfl, ?_⟩⟩
      · simp [moveFromRegister, execCodes, execCode_STR_sp h0, exec_str_slot c room, hsp', hp', hx]
      · rw [tempVal_spill]; simp
      · intro a ha
        have := ha p rfl
        simp [Ne.symm this]
    | some w =>
      refine ⟨σ.setSlot (σ.slotAddr p) w, ?_, ?_, ⟨rfl, rfl, fun _ _ => rfl, ?_⟩⟩
      · simp [moveFromRegister, execCodes, execCode_STR_sp h0, exec_str_slot c room, hsp', hp', hx]
      · rw [tempVal_spill]; simp
      · intro a ha
        have := ha p rfl
        simp [Ne.symm this]

theorem xreg_0 : xreg 0 = some (0 : Fin 31) := by decide

theorem posTemp_archReg_ge {t : Nat} (h : t < 281) {m : Fin 31} (e : (posTemp t).archReg = some m) : 4 ≤ m.val := by
  have hv := isVar_posTemp h
  cases hp : posTemp t with
  | register reg =>
    rw [hp] at hv e
    cases reg with
    | x r =>
      obtain ⟨n, hn, h4⟩ := xreg_var (isVar_reg hv).1 (isVar_reg hv).2
      simp only [Temporary.archReg] at e
      rw [hn] at e; cases e; exact h4
    | sp => simp [Temporary.isVar] at hv
    | xzr => simp [Temporary.isVar] at hv
  | spill p => rw [hp] at e; simp [Temporary.archReg] at e

section Ops

variable {c : MemCfg} (H : CfgCC c) {cfg : Config} {σ : State} {out : List (Bool × Word)}
include H

theorem RepA64.spOk {g : Mode} (R : RepA64 c g cfg σ out) : SpOk c σ.sp 144 := spOkS_of_core H R.core

omit H in
/-- the generic re-establishment after an instruction that writes one position temporary -/
theorem RepA64.write (R : RepA64 c .normal cfg σ out) {σ' : State} {t : Nat} (ht : PosW t)
    {v : Word} (C' : Core c σ') (hv : σ'.tempVal (posTemp t) = some v)
    (F : Frame σ σ' (posTemp t)) {pc' : Nat} :
    RepA64 c .normal { cfg with pc := pc', temps := (clobberTemp cfg.temps).set t v } σ' out := by
  refine ⟨C', ?_, ?_, ?_, R.out⟩
  · intro t' v' ht' hg
    by_cases e : t' = t
    · subst e
      rw [get_set_same] at hg
      cases hg; exact hv
    · simp only at hg
      rw [get_set_other _ _ e, get_clobberTemp _ (posW_ne_temp ht')] at hg
      rw [F.temp (isVar_posW ht') (fun e' => e (posTemp_inj.1 e'))]
      exact R.temps t' v' ht' hg
  · intro v' hg
    simp only at hg
    rw [get_set_other _ _ (posW_ne_ret1 ht).symm, get_clobberTemp _ (by decide)] at hg
    exact absurd (R.ret v' hg).1 (by simp)
  · intro hb; cases hb

omit H in
theorem loadImmediate_toInt (t : Temporary) (imm : Int) :
    loadImmediate t (BitVec.ofInt 64 imm).toInt = loadImmediate t imm := by
  unfold loadImmediate loadImmediateRegister immBits
  rw [BitVec.ofInt_toInt]

theorem rep_li (R : RepA64 c .normal cfg σ out) {t : Nat} (ht : PosW t) (imm : Int) :
    ∃ σ', execCodes c (loadImmediate (posTemp t) imm) σ = .ok σ' ∧
      RepA64 c .normal
        { cfg with pc := cfg.pc + 1, temps := (clobberTemp cfg.temps).set t (BitVec.ofInt 64 imm) } σ' out := by
  obtain ⟨σ', e, hv, F⟩ := loadImmediate_correct c 144 σ (R.spOk H) (posTemp t) (isVar_posW ht)
    (BitVec.ofInt 64 imm)
  rw [loadImmediate_toInt] at e
  exact ⟨σ', e, R.write ht (core_execCodes H _ R.core (allInt_loadImmediate (ok_posW ht) imm) e) hv F⟩

theorem rep_binop (R : RepA64 c .normal cfg σ out) {o : BinOp} {t a b : Nat} (ht : PosW t) (ha : PosW a)
    (hb : PosW b) {va vb v : Word}
    (hva : cfg.temps.get a = some va) (hvb : cfg.temps.get b = some vb)
    (hev : Abs.evalBinOp o va vb = .ok v) :
    ∃ σ', execCodes c (op o (posTemp t) (posTemp a) (posTemp b)) σ = .ok σ' ∧
      RepA64 c .normal { cfg with pc := cfg.pc + 1, temps := (clobberTemp cfg.temps).set t v } σ' out := by
  obtain ⟨σ', e, hv, F⟩ := op_correct c 144 σ (R.spOk H) o (posTemp t) (posTemp a) (posTemp b)
    (isVar_posW ht) (isVar_posW ha) (isVar_posW hb) va vb v (R.temps a va ha hva) (R.temps b vb hb hvb)
    (evalOp_of_evalBinOp hev)
  exact ⟨σ', e, R.write ht
    (core_execCodes H _ R.core (allInt_op o (ok_posW ht) (ok_posW ha) (ok_posW hb)) e) hv F⟩

omit H in
/-- after an instruction that changes nothing but TEMP, TEMP2 and the flags -/
theorem RepA64.keep (R : RepA64 c .normal cfg σ out) {σ' : State} (C' : Core c σ')
    (F : Frame0 σ σ') {pc' : Nat} :
    RepA64 c .normal { cfg with pc := pc', temps := clobberTemp cfg.temps } σ' out := by
  refine ⟨C', ?_, ?_, ?_, R.out⟩
  · intro t' v' ht' hg
    simp only at hg
    rw [get_clobberTemp _ (posW_ne_temp ht')] at hg
    rw [F.temp (isVar_posW ht')]
    exact R.temps t' v' ht' hg
  · intro v' hg
    simp only at hg
    rw [get_clobberTemp _ (by decide)] at hg
    exact absurd (R.ret v' hg).1 (by simp)
  · intro hb; cases hb

omit H in
theorem frame0_refl (σ : State) : Frame0 σ σ := ⟨rfl, rfl, fun _ _ _ => rfl, fun _ => rfl⟩

/-- `jif`: the comparison leaves the operand values in the flags -/
theorem rep_jif (R : RepA64 c .normal cfg σ out) {a b : Nat} (ha : PosW a) (hb : PosW b)
    {va vb : Word} (hva : cfg.temps.get a = some va) (hvb : cfg.temps.get b = some vb) (pc' : Nat) :
    ∃ σ', execCodes c (compare (posTemp a) (posTemp b)) σ = .ok σ' ∧
      RepA64 c .normal { cfg with pc := pc', temps := clobberTemp cfg.temps } σ' out ∧
      σ'.flags = some (va, vb) := by
  obtain ⟨σ', e, hf, F⟩ := compare_correct c 144 σ (R.spOk H) (posTemp a) (posTemp b) (isVar_posW ha)
    (isVar_posW hb) va vb (R.temps a va ha hva) (R.temps b vb hb hvb)
  exact ⟨σ', e, R.keep (core_execCodes H _ R.core (allInt_compare (ok_posW ha) (ok_posW hb)) e) F, hf⟩

theorem rep_jifz (R : RepA64 c .normal cfg σ out) {a : Nat} (ha : PosW a)
    {va : Word} (hva : cfg.temps.get a = some va) (pc' : Nat) :
    ∃ σ', execCodes c (compareImmediate (posTemp a) 0) σ = .ok σ' ∧
      RepA64 c .normal { cfg with pc := pc', temps := clobberTemp cfg.temps } σ' out ∧
      σ'.flags = some (va, 0) := by
  obtain ⟨σ', e, hf, F⟩ := compareImmediate_correct c 144 σ (R.spOk H) (posTemp a) (isVar_posW ha) va
    (R.temps a va ha hva)
  exact ⟨σ', e, R.keep (core_execCodes H _ R.core (allInt_compareImmediate (ok_posW ha) 0) e) F, hf⟩

omit H in
theorem branchOf_cond (sort : IfSort) (l : String) (a b : Word) :
    ∃ cd, (branchOf sort l).toInstr = some (.bcond cd l) ∧ cd.holds a b = Abs.evalCond sort a b := by
  obtain ⟨cd, h1, h2⟩ := branchOf_correct sort l a b
  exact ⟨cd, h1, by rw [h2, evalCond_eq_evalCmp]⟩

omit H in
theorem mov_ret_eq (s : Temporary) : mov (.register RETURN1) s = moveToRegister (.x 0) s := by
  cases s <;> rfl

/-- `mov RET1 s` (exit.rs): X0 := the result -/
theorem rep_movRet (R : RepA64 c .normal cfg σ out) {s : Nat} (hs : PosW s) (pc' : Nat) :
    ∃ σ', execCodes c (mov (.register RETURN1) (posTemp s)) σ = .ok σ' ∧
      RepA64 c .exit
        { cfg with pc := pc', temps := (clobberTemp cfg.temps).put Mock.T_RET1 (cfg.temps.get s) } σ' out := by
  have e := moveToRegister_exec (R.spOk H) xreg_0 (ok_posW hs)
  rw [← mov_ret_eq] at e
  refine ⟨_, e, core_execCodes H _ R.core (allInt_mov rfl (ok_posW hs)) e, ?_, ?_, ?_, R.out⟩
  · intro t' v' ht' hg
    simp only at hg
    rw [get_put_other _ _ (posW_ne_ret1 ht'), get_clobberTemp _ (posW_ne_temp ht')] at hg
    have := R.temps t' v' ht' hg
    rw [← this]
    obtain ⟨r, hr⟩ : ∃ r, r < 30 ∧ True := ⟨0, by decide, trivial⟩
    cases hp : posTemp t' with
    | register reg =>
      have hv := isVar_posW ht'
      rw [hp] at hv
      cases reg with
      | x r' =>
        obtain ⟨n, hn, h4, _⟩ := tempVal_var_reg (σ := σ) hv
        rw [tempVal_reg hn, tempVal_reg hn, setReg_reg, if_neg]
        intro e0; rw [← e0] at h4; exact absurd h4 (by decide)
      | sp => simp [Temporary.isVar] at hv
      | xzr => simp [Temporary.isVar] at hv
    | spill q => rfl
  · intro v' hg
    simp only at hg
    rw [get_put_same] at hg
    refine ⟨rfl, ?_⟩
    rw [setReg_reg, if_pos rfl]
    exact R.temps s v' hs hg
  · intro hb; cases hb

omit H in
theorem mov_not_writes_xT {t s : Temporary} (ht : t.isVar) (hs : s.isVar) :
    ∀ code ∈ mov t s, ¬ writesX code xT := by
  have key : ∀ r, (Temporary.register (.x r)).isVar → (Register.x r).toReg ≠ some (.x xT) := by
    intro r hr e
    obtain ⟨n, hn, h4⟩ := xreg_var (isVar_reg hr).1 (isVar_reg hr).2
    rw [toReg_x, hn] at e
    simp only [Option.map_some, Option.some.injEq, Reg.x.injEq] at e
    rw [e] at h4; exact absurd h4 (by decide)
  have h3 : (Register.x 3).toReg ≠ some (.x xT) := by decide
  intro code hc ⟨r, hr, e⟩
  cases s with
  | register sreg =>
    cases sreg with
    | x rs =>
      cases t with
      | register treg =>
        cases treg with
        | x rt =>
          simp only [mov, moveFromRegister, List.mem_singleton] at hc
          subst hc
          simp only [codeWrites, List.mem_singleton] at hr
          subst hr
          exact key rt ht e
        | sp => simp [Temporary.isVar] at ht
        | xzr => simp [Temporary.isVar] at ht
      | spill pt =>
        simp only [mov, moveFromRegister, List.mem_singleton] at hc
        subst hc
        simp [codeWrites] at hr
    | sp => simp [Temporary.isVar] at hs
    | xzr => simp [Temporary.isVar] at hs
  | spill ps =>
    cases t with
    | register treg =>
      cases treg with
      | x rt =>
        simp only [mov, moveToRegister, List.mem_singleton] at hc
        subst hc
        simp only [codeWrites, List.mem_singleton] at hr
        subst hr
        exact key rt ht e
      | sp => simp [Temporary.isVar] at ht
      | xzr => simp [Temporary.isVar] at ht
    | spill pt =>
      simp only [mov, moveToRegister, moveFromRegister, List.cons_append, List.nil_append, List.mem_cons,
        List.not_mem_nil, or_false] at hc
      rcases hc with rfl | rfl
      · simp only [codeWrites, List.mem_singleton] at hr
        subst hr
        exact h3 e
      · simp [codeWrites] at hr

/-- `mov t s` of parallel moves, in every mode -/
theorem rep_mov {g : Mode} (R : RepA64 c g cfg σ out) {t s : Nat} (ht : PosW t) (hs : PosW s) (pc' : Nat) :
    ∃ σ', execCodes c (mov (posTemp t) (posTemp s)) σ = .ok σ' ∧
      RepA64 c g { cfg with pc := pc', temps := (clobberTemp cfg.temps).put t (cfg.temps.get s) } σ' out := by
  obtain ⟨σ', e, hv, F⟩ := mov_correct c 144 σ (R.spOk H) (posTemp t) (posTemp s) (isVar_posW ht) (isVar_posW hs)
  refine ⟨σ', e, core_execCodes H _ R.core (allInt_mov (ok_posW ht) (ok_posW hs)) e, ?_, ?_, ?_, R.out⟩
  · intro t' v' ht' hg
    by_cases e' : t' = t
    · subst e'
      simp only at hg
      rw [get_put_same] at hg
      rw [hv]; exact R.temps s v' hs hg
    · simp only at hg
      rw [get_put_other _ _ e', get_clobberTemp _ (posW_ne_temp ht')] at hg
      rw [F.temp (isVar_posW ht') (fun e'' => e' (posTemp_inj.1 e''))]
      exact R.temps t' v' ht' hg
  · intro v' hg
    simp only at hg
    rw [get_put_other _ _ (posW_ne_ret1 ht).symm, get_clobberTemp _ (by decide)] at hg
    obtain ⟨h1, h2⟩ := R.ret v' hg
    exact ⟨h1, by rw [F.low (isVar_posW ht) 0 (by decide)]; exact h2⟩
  · intro hb w hw
    rw [execCodes_regs _ e xT (mov_not_writes_xT (isVar_posW ht) (isVar_posW hs))]
    exact R.scratch hb w hw

omit H in
theorem storeTemporary_eq (t : Temporary) (b : Bool) : storeTemporary t b = moveToRegister TEMP t := by
  cases t <;> rfl

omit H in
theorem restoreTemporary_eq (t : Temporary) (b : Bool) : restoreTemporary t b = moveFromRegister t TEMP := by
  cases t <;> rfl

omit H in
theorem posTemp_reg_ne {t : Nat} (h : t < 281) {m : Fin 31} (hm : m.val < 4) {r : Nat}
    (hp : posTemp t = .register (.x r)) {n : Fin 31} (hn : xreg r = some n) : m ≠ n := by
  intro e
  have := posTemp_archReg_ge h (m := n) (by rw [hp]; exact hn)
  rw [← e] at this; omega

/-- `save t`: TEMP := t -/
theorem rep_save {g : Mode} (R : RepA64 c g cfg σ out) {t : Nat} (ht : PosW t) (b : Bool)
    (hg : g = .normal ∨ g = .pm) (pc' : Nat) :
    ∃ σ', execCodes c (storeTemporary (posTemp t) b) σ = .ok σ' ∧
      RepA64 c .pm
        { cfg with pc := pc', temps := clobberTemp cfg.temps, scratch := cfg.temps.get t } σ' out := by
  have e := moveToRegister_exec (R.spOk H) xreg_TEMP (ok_posW ht)
  have e' : execCodes c (storeTemporary (posTemp t) b) σ = .ok (σ.setReg xT (σ.tempVal (posTemp t))) := by
    rw [storeTemporary_eq]; exact e
  refine ⟨_, e', core_execCodes H _ R.core (allInt_storeTemporary (ok_posW ht) b) e', ?_, ?_, ?_, R.out⟩
  · intro t' v' ht' hg'
    simp only at hg'
    rw [get_clobberTemp _ (posW_ne_temp ht')] at hg'
    rw [← R.temps t' v' ht' hg']
    cases hp : posTemp t' with
    | register reg =>
      have hv := isVar_posW ht'
      rw [hp] at hv
      cases reg with
      | x r' =>
        obtain ⟨n, hn, h4, _⟩ := tempVal_var_reg (σ := σ) hv
        rw [tempVal_reg hn, tempVal_reg hn, setReg_reg, if_neg]
        intro e0; rw [← e0] at h4; exact absurd h4 (by decide)
      | sp => simp [Temporary.isVar] at hv
      | xzr => simp [Temporary.isVar] at hv
    | spill q => rfl
  · intro v' hg'
    simp only at hg'
    rw [get_clobberTemp _ (by decide)] at hg'
    have := (R.ret v' hg').1
    rcases hg with h | h <;> rw [h] at this <;> cases this
  · intro _ w hw
    simp only at hw
    rw [setReg_reg, if_pos rfl]
    exact R.temps t w ht hw

/-- `restore t`: t := TEMP -/
theorem rep_restore (R : RepA64 c .pm cfg σ out) {t : Nat} (ht : PosW t) (b : Bool) (pc' : Nat) :
    ∃ σ', execCodes c (restoreTemporary (posTemp t) b) σ = .ok σ' ∧
      RepA64 c .normal { cfg with pc := pc', temps := (clobberTemp cfg.temps).put t cfg.scratch } σ' out := by
  obtain ⟨σ', e, hv, F⟩ := moveFromRegister_exec (R.spOk H) xreg_TEMP (ok_posW ht)
  have e' : execCodes c (restoreTemporary (posTemp t) b) σ = .ok σ' := by rw [restoreTemporary_eq]; exact e
  have hall : AllInt (restoreTemporary (posTemp t) b) := by
    rw [restoreTemporary_eq]; exact allInt_moveFromRegister (ok_posW ht)
  refine ⟨σ', e', core_execCodes H _ R.core hall e', ?_, ?_, ?_, R.out⟩
  · intro t' v' ht' hg
    by_cases e'' : t' = t
    · subst e''
      simp only at hg
      rw [get_put_same] at hg
      rw [hv]; exact R.scratch rfl v' hg
    · simp only at hg
      rw [get_put_other _ _ e'', get_clobberTemp _ (posW_ne_temp ht')] at hg
      rw [F.temp (R.spOk H) (ok_posW ht') (ok_posW ht) (fun e3 => e'' (posTemp_inj.1 e3))]
      exact R.temps t' v' ht' hg
  · intro v' hg
    simp only at hg
    rw [get_put_other _ _ (posW_ne_ret1 ht).symm, get_clobberTemp _ (by decide)] at hg
    exact absurd (R.ret v' hg).1 (by simp)
  · intro hb; cases hb

/-- `print`: the caller-save dance around the external call keeps every live word part -/
theorem rep_print (R : RepA64 c .normal cfg σ out) {nl : Bool} {s : Nat} (hs : PosW s) (ctx : Ctx)
    (hlive : s < 2 * ctx.length) {v : Word} (hv : cfg.temps.get s = some v) (pc' : Nat) :
    ∃ σ', execCodesOut c (printI64 nl (posTemp s) ctx) σ = .ok (σ', [(nl, v)]) ∧
      RepA64 c .normal { cfg with pc := pc', temps := keepPositions cfg.temps ctx.length,
                                  out := (nl, v) :: cfg.out } σ' ((nl, v) :: out) := by
  have hr := H.room; have ht := H.ok.top; have h16 := H.top16
  have hS : σ.sp.toNat = c.stackTop - 96 - 2048 := R.core.spNat H
  have hal : (c.stackTop - 96 - 2048) % 16 = 0 := by omega
  have hval := R.temps s v hs hv
  have key : ∃ σ', execCodesOut c (printI64 nl (posTemp s) ctx) σ = .ok (σ', [(nl, v)]) ∧
      σ'.sp = σ.sp ∧ (∀ a, c.stackTop - 96 - 2048 ≤ a → σ'.slot a = σ.slot a) ∧
      (∀ r, r < 30 → LiveReg ctx r → σ'.lreg r = σ.lreg r) := by
    cases hp : posTemp s with
    | register reg =>
      have hvar := isVar_posW hs
      rw [hp] at hvar hval
      cases reg with
      | x r =>
        obtain ⟨h1, h2⟩ := isVar_reg hvar
        rw [REGISTER_NUM_eq] at h2
        have hr2 : r < 2 * ctx.length + 4 := by
          unfold posTemp at hp
          split at hp
          · injection hp with hp; injection hp with hp; omega
          · cases hp
        have hw' : σ.lreg r = some v := by
          rw [tempVal_reg (xreg_ar h2)] at hval; exact hval
        obtain ⟨σ', he, hsp, _, habove, hlv⟩ := print_register H.ok false ctx (by intro h; cases h) nl r h2 hr2 σ
          _ v hS hal (by omega) (by omega) hw'
        exact ⟨σ', he, hsp, habove, hlv⟩
      | sp => simp [Temporary.isVar] at hvar
      | xzr => simp [Temporary.isVar] at hvar
    | spill p =>
      have hvar := isVar_posW hs
      rw [hp] at hvar hval
      obtain ⟨_, h2⟩ := isVar_spill hvar
      obtain ⟨σ', he, hsp, _, habove, hlv⟩ := print_spill H.ok false ctx (by intro h; cases h) nl p h2 σ
        _ v hS hal (by omega) (by rw [SPILL_SPACE_eq]; omega) hval
      exact ⟨σ', he, hsp, habove, hlv⟩
  obtain ⟨σ', he, hsp, habove, hlv⟩ := key
  refine ⟨σ', he, ⟨by rw [hsp]; exact R.core.sp, ?_⟩, ?_, ?_, ?_, by rw [R.out]⟩
  · intro k hk
    rw [habove _ (by omega), habove _ (by omega)]
    exact R.core.saved k hk
  · intro t' v' ht' hg
    simp only at hg
    rw [get_keepPositions] at hg
    split at hg
    · rename_i hlt
      have hold := R.temps t' v' ht' hg
      rw [← hold]
      obtain ⟨i, hi⟩ : ∃ i, t' = 2 * i + 1 := ⟨t' / 2, by have := ht'.1; omega⟩
      subst hi
      have hi : i < ctx.length := by omega
      unfold posTemp
      by_cases hreg : 2 * i + 1 + 4 < 30
      · rw [if_pos hreg]
        have h30 : 2 * i + 1 + 4 < 30 := hreg
        rw [tempVal_reg (xreg_ar h30), tempVal_reg (xreg_ar h30)]
        exact hlv _ h30 (Or.inr (Or.inr ⟨i, ctx[i], by simp [hi], Or.inl (by omega)⟩))
      · rw [if_neg hreg, tempVal_spill, tempVal_spill]
        have ea : σ'.slotAddr (2 * i + 1 - 25) = σ.slotAddr (2 * i + 1 - 25) := by
          simp [State.slotAddr, hsp]
        rw [ea]
        apply habove
        have := slotAddr_eq (R.spOk H) (p := 2 * i + 1 - 25) (by rw [SPILL_NUM_eq]; have := ht'.2; omega)
        rw [this, hS]; omega
    · cases hg
  · intro v' hg
    simp only at hg
    rw [get_keepPositions] at hg
    split at hg
    · exact absurd (R.ret v' hg).1 (by simp)
    · cases hg
  · intro hb; cases hb

end Ops

end Scc.A64.Ref
