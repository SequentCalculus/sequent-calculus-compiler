/-
  Scc.A64.RefHeapRun — the step and the run for programs with data types on AArch64 (no closures), for the data-only
  relation `Ref.X3` (RefHeapDefs.lean).  `step3`: every statement form of `DataStmt` programs is the generic assembly
  `ThreeWay.step3C` (Scc/Backend/ThreeWayRun.lean) at the AArch64 machine between `X3R.toK` and `K.X3R.toData`, with
  the invariant `Same` carried over the step (`Prov.Same.step`, Scc/Backend/StepProv.lean); `exit` is `K.exit_x3`.
  `run3`: the induction on the fuel over `step3`, with the frontier of the heap tracked.  The composition with the
  initial state is `C07_data_programs` (Props/C07A64Heap.lean).  `runProg_of_msteps`: the far end of a run theorem —
  a run to a passing `RET` as a run of the machine's loop; Scc/A64/ConcKRun.lean uses it too.  `compile_a64_entry`: where the code of the entry definition stands in
  the emitted body.  `ProgOK`, `Rel3`, `StepSim3`, `step3` here (and `XDefsAt`, RefHeapOfClos.lean) are the data-only
  namesakes of those of `Scc.A64.Ref.K` (RefClosHRun.lean, RefClosHCall.lean).
-/
import Scc.A64.RefHeapOfClos
import Scc.Backend.ThreeWayRun
import Scc.AxCut.PosStep
import Scc.A64.RefCompose
import Scc.Props.C06Generic

namespace Scc.A64.Ref

open Scc.AxCut Scc.AxCut.Pos Scc.Backend Scc.Backend.Abs Scc.A64.CC
open Scc.Backend.Sim2 Scc.Backend.Keys
open Scc.Props.C14Generic (LabelSafe)
open Scc.Props.C06Generic (outAfter WithinCapacity Reachable EnoughHeap CodeFits)
open Scc.Heap (HState InvS InvW)
open Scc.Heap.Refine (HRef FrLe Room)
open Scc.A64.NoHk (hkq_total)

mutual
  /-- statements of programs with data types but without closures: no `create`, no `invoke` -/
  def DataStmt : Stmt → Prop
    | .lit _ _ next _ => DataStmt next
    | .op _ _ _ _ next _ => DataStmt next
    | .print _ _ next _ => DataStmt next
    | .ifc _ _ _ t e => DataStmt t ∧ DataStmt e
    | .exit _ => True
    | .call _ _ => True
    | .subst _ next => DataStmt next
    | .letS _ _ _ _ next _ => DataStmt next
    | .switch _ _ clauses _ => DataClauses clauses
    | .create _ _ _ _ _ _ _ => False
    | .invoke _ _ _ _ => False
  def DataClauses : Clauses → Prop
    | .nil => True
    | .cons _ _ body rest => DataStmt body ∧ DataClauses rest
end

/-- programs with data types: no closures (on AArch64 nothing else is needed: literals of any size are
materialised by MOVZ/MOVK, the tag of an object is `4 * position`, capacities are hypotheses on the run).  `Ref.K.ProgOK` (RefClosHRun.lean)
is another condition: the bound on the xtors of a type that `invoke` needs. -/
def ProgOK (p : AxCut.Prog) : Prop := ∀ d ∈ p.defs, DataStmt d.body

theorem dataClauses_nth : ∀ {cs : Clauses} {i : Nat} {c : Clause}, DataClauses cs → nthClause cs i = some c →
    DataStmt c.body
  | .nil, _, _, _, h => by simp [nthClause] at h
  | .cons x ctx body rest, 0, c, hd, h => by
    simp only [nthClause, Option.some.injEq] at h
    subst h
    exact hd.1
  | .cons x ctx body rest, i + 1, c, hd, h => by
    simp only [nthClause] at h
    exact dataClauses_nth hd.2 h

/-- THE THREE-WAY RELATION at a statement boundary (`kp`: the position of the machine in the routine) -/
def Rel3 (c : MemCfg) (cs : List Code) (P : Program) (hooks : Bool) (prog : AxCut.Prog) (st : Pos.State)
    (cfg : Config) (hs : HState) (σ : State) (kp : Nat) : Prop :=
  ∃ (Γ' : Ctx) (ι : Nat → Nat), Γ'.keys = st.ctx.keys ∧ RelX P hooks prog ⟨Γ', st.env, st.stmt⟩ cfg ∧
    X3 c Γ' cfg hs ι σ cfg.out ∧
    ∃ k k' items, (codeStatementR a64Backend hooks natRen prog.types st.stmt Γ').run k = .ok (items, k') ∧
      XAt cs kp items

/-- the three-way simulation claim for one step of the positional machine -/
def StepSim3 (c : MemCfg) (hkf : Code → Bool) (Pm : Prog) (cs : List Code) (P : Program) (hooks : Bool)
    (prog : AxCut.Prog) (st : Pos.State) (cfg : Config) (hs : HState) (σ : State) (kp : Nat) : Prop :=
  match Pos.step prog st with
  | .next st' o =>
    WithinCapacity st'.ctx → 2 * st'.ctx.length ≤ 280 →
    ∃ cfg' hs' σ' kp', MSteps Pm c σ (pcOf hkf cs kp) cfg.out σ' (pcOf hkf cs kp') cfg'.out ∧
      cfg'.out = outAfter o cfg.out ∧ cfg'.next ≤ cfg.next + 1 ∧
      FrLe hs hs' (64 * 140) ∧ Rel3 c cs P hooks prog st' cfg' hs' σ' kp' ∧ DataStmt st'.stmt
  | .done v => ∃ kL σL, MSteps Pm c σ (pcOf hkf cs kp) cfg.out σL (pcOf hkf cs kL) cfg.out ∧
      Pm.items[pcOf hkf cs kL]? = some (.instr .ret) ∧ exitCheck c σL = .done v
  | .stuck _ => True

-- backend-independent, defined in Scc/AxCut/PosHered.lean
open Scc.X86.Ref.K (allocArity Hered)

theorem hered_data : Hered DataStmt DataClauses where
  lit h := h
  op h := h
  print h := h
  ifc h := h
  subst h := h
  letS h := h
  switch h := h
  create h := h.elim
  nth h hc := dataClauses_nth h hc

theorem dataHead_of_dataStmt : ∀ {s : Stmt}, DataStmt s → ThreeWay.HeadData s
  | .create _ _ _ _ _ _ _, h => h
  | .invoke _ _ _ _, h => h
  | .lit _ _ _ _, _ | .op _ _ _ _ _ _, _ | .print _ _ _ _, _ | .ifc _ _ _ _ _, _ | .exit _, _ | .call _ _, _
  | .subst _ _, _ | .letS _ _ _ _ _ _, _ | .switch _ _ _ _, _ => trivial

section Run3

variable {c : MemCfg} (H : CfgCC c) (h8 : c.heapBase % 8 = 0) {hkf : Code → Bool} {Pm : Prog}
  {cs pre : List Code} (HA : HoldsA hkf Pm cs) (hnd : (labs cs).Nodup)
  (hfitX : c.codeBase + 4 * ninstr cs < 2 ^ 64) (hcs : cs = pre ++ cleanup)
  (hclean : "cleanup" ∉ labs pre)

include H h8 HA hnd hfitX hcs hclean in
/-- THE THREE-WAY STEP: Theorem A's `TheoremA_full` with the AArch64 machine carried along, for the
statements of programs with data types -/
theorem step3 (hooks : Bool) (prog : AxCut.Prog) (kc : Nat) (code : List MockOp) (nargs kc' : Nat)
    (hcomp : (compile mockSym hooks prog).run kc = .ok ((code, nargs), kc'))
    (hsafe : LabelSafe prog = true) (hfit : CodeFits code)
    (DX : XDefsAt cs hooks prog) (hprog : ProgOK prog)
    (st : Pos.State) (cfg : Config) (hs : HState) (σ : State) (kp : Nat)
    (R : Rel3 c cs (Program.ofOps code) hooks prog st cfg hs σ kp)
    (T : Pos.StateTyped prog st) (hheap : EnoughHeap cfg) (hok : DataStmt st.stmt)
    (hroom : Room hs (64 * 141)) :
    StepSim3 c hkf Pm cs (Program.ofOps code) hooks prog st cfg hs σ kp := by
  obtain ⟨Γ', ι, hk, RX, X3h, kx, kx', items, hrunX, hatX⟩ := R
  obtain ⟨XK, S⟩ := X3R.toK X3h
  have ha : allocArity st.stmt ≤ 140 := by
    have := Scc.X86.Ref.K.allocArity_le_length T.1
    have := keys_length hk
    have := X3h.cap
    omega
  have Hp := HA.holds
  unfold StepSim3
  split
  · -- a step: the generic assembly at the AArch64 machine for runs that may pass any hook; `Same` is carried over
    rename_i st' o hst
    intro hc hc2
    obtain ⟨cfg', hs', ⟨σ', out'⟩, kp', Γ'', ι', κ', hm, _, _, ho, hn, hfr, _, hk', RX', X', hcode', SP, hq'⟩ :=
      ThreeWay.step3C
        (K.machineN c H h8 hkf Pm (fun _ => True) cs HA (hkq_total hkf) hnd hfitX _ (K.adrOK_labelWord Hp hnd hcs))
        hooks prog kc code nargs kc' hcomp hsafe hfit
        (K.XDefsAt.toM (H := H) (h8 := h8) (Hp := Hp) (hQ := hkq_total hkf) (hnd := hnd) DX) hered_data hprog
        (fun _ => trivial) (fun _ _ _ _ => trivial) (show 281 ≤ 4096 by decide) st cfg hs (σ, cfg.out) kp hk RX
        (K.X3.toT H h8 XK) hrunX hatX trivial T hheap (dataHead_of_dataStmt hok) hok
        (K.headOK Hp (hkq_total hkf) hnd (Or.inr fun _ => trivial)) (hroom.mono (by omega)) hst hc (by show _ < 281; omega)
    obtain rfl : out' = cfg'.out := X'.out
    replace X' := K.X3.ofT H h8 X'
    have SP' : Scc.Backend.Prov.StepProv (Program.ofOps code) (K.tvOf σ) (K.tvOf σ') cfg cfg' _ Γ' st.env Γ''
        st'.env κ' := SP
    exact ⟨cfg', hs', σ', kp', hm.msteps, ho, hn, FrLe.mono hfr (by omega),
      ⟨Γ'', ι', hk', RX', K.X3R.toData X' (S.step SP' X'.ids), hcode'⟩, hq'⟩
  · -- `exit`
    rename_i v hst
    obtain ⟨a, hsa, hra⟩ := Pos.step_done_iff.1 hst
    rw [hsa] at RX hrunX
    obtain ⟨kL, σL, e1, e2, e3, _⟩ := K.exit_x3 H Hp hcs hclean RX (by rw [readInt_keys hk]; exact hra) XK
      hrunX hatX (hkq_total hkf)
    exact ⟨kL, σL, e1.msteps, e2, e3⟩
  · trivial

theorem withinCapacity_of_le {Γ : Ctx} (h : 2 * Γ.length ≤ 280) : WithinCapacity Γ := by
  unfold WithinCapacity
  show 2 * Γ.length + 2 < 1000001
  omega

include H h8 HA hnd hfitX hcs hclean in
/-- THE THREE-WAY RUN: a terminating run of the positional machine from a represented state is reproduced
by the AArch64 machine -/
theorem run3 (hooks : Bool) (prog : AxCut.Prog) (kc : Nat) (code : List MockOp) (nargs kc' : Nat)
    (hcomp : (compile mockSym hooks prog).run kc = .ok ((code, nargs), kc'))
    (hsafe : LabelSafe prog = true) (htp : LinTypedProg prog) (hfit : CodeFits code)
    (DX : XDefsAt cs hooks prog) (hprog : ProgOK prog) :
    ∀ (fuel : Nat) (st : Pos.State) (acc : List (Bool × Word)) (cfg : Config) (hs : HState) (σ : State)
      (kp : Nat) (out : List (Bool × Word)) (v : Word),
      Pos.StateTyped prog st → (∀ st', Reachable prog st st' → 2 * st'.ctx.length ≤ 280) →
      Rel3 c cs (Program.ofOps code) hooks prog st cfg hs σ kp → DataStmt st.stmt →
      cfg.out = acc → cfg.next + fuel < 2 ^ 64 → Room hs (64 * 141 * fuel) →
      Pos.runState prog fuel st acc = ⟨out, .done v⟩ →
      ∃ kL σL outL, MSteps Pm c σ (pcOf hkf cs kp) acc σL (pcOf hkf cs kL) outL ∧
        Pm.items[pcOf hkf cs kL]? = some (.instr .ret) ∧ exitCheck c σL = .done v ∧ outL.reverse = out
  | 0, st, acc, cfg, hs, σ, kp, out, v, _, _, _, _, _, _, _, h => by simp [Pos.runState] at h
  | fuel + 1, st, acc, cfg, hs, σ, kp, out, v, T, hcap, R, hok, hacc, hnext, hroom, h => by
    have hsim := step3 H h8 HA hnd hfitX hcs hclean hooks prog kc code nargs kc' hcomp hsafe hfit
      DX hprog st cfg hs σ kp R T (by unfold EnoughHeap; omega) hok (hroom.mono (by omega))
    have hsafe' := Pos.step_safe htp st T
    have hw : ∃ rs lin lazy live F, InvS hs rs [] lin lazy live F := by
      obtain ⟨Γ', ι, _, _, X3h, _⟩ := R
      obtain ⟨lin, lazy, live, Fr, I⟩ := X3h.href.conc
      exact ⟨_, lin, lazy, live, Fr, I⟩
    unfold StepSim3 at hsim
    simp only [Pos.runState] at h
    cases hst : Pos.step prog st with
    | stuck w => simp [hst] at h
    | done v' =>
      simp only [hst] at h hsim
      obtain ⟨kL, σL, h1, h2, h3⟩ := hsim
      simp only [Pos.Behaviour.mk.injEq, Pos.Result.done.injEq] at h
      obtain ⟨rfl, rfl⟩ := h
      rw [hacc] at h1
      exact ⟨kL, σL, acc, h1, h2, h3, rfl⟩
    | next st' o =>
      simp only [hst] at h hsim
      rw [hst] at hsafe'
      have hc' := hcap st' (Reachable.step Reachable.refl hst)
      obtain ⟨cfg', hs', σ', kp', h1, h2, h3, hfr, R', hok'⟩ := hsim (withinCapacity_of_le hc') hc'
      have hacc' : cfg'.out = outAfter o acc := by rw [h2, hacc]
      have h' : Pos.runState prog fuel st' (outAfter o acc) = ⟨out, .done v⟩ := by
        cases o <;> exact h
      have hroom' : Room hs' (64 * 141 * fuel) :=
        (hroom.step hfr (by omega) hw).mono (by omega)
      obtain ⟨kL, σL, outL, g1, g2, g3, g4⟩ := run3 hooks prog kc code nargs kc' hcomp hsafe htp hfit DX hprog
        fuel st' (outAfter o acc) cfg' hs' σ' kp' out v hsafe'
        (fun st'' hr => hcap st'' (Scc.Props.C06Generic.reachable_prepend hst hr)) R' hok' hacc' (by omega)
        hroom' h'
      rw [hacc, hacc'] at h1
      exact ⟨kL, σL, outL, h1.trans g1, g2, g3, g4⟩

end Run3

/-- the entry definition's code is the first block of the body, behind its label -/
theorem compile_a64_entry {hooks : Bool} {p : AxCut.Prog} {c : Nat} {body : List Code} {nargs c' : Nat}
    {d0 : Def} (hx : (compile a64Backend hooks p).run c = .ok ((body, nargs), c'))
    (hd : p.defs.head? = some d0) :
    ∃ is rest k k', body = Code.LAB (d0.name.print ++ "_") :: (is ++ rest) ∧
      (codeStatementR a64Backend hooks natRen p.types d0.body d0.ctx).run k = .ok (is, k') ∧
      nargs = d0.ctx.length := by
  unfold compile compileR at hx
  cases hdefs : p.defs with
  | nil => rw [hdefs] at hd; simp at hd
  | cons d ds =>
    rw [hdefs] at hd hx
    simp only [List.head?_cons, Option.some.injEq] at hd
    subst hd
    simp only [run_bind_ok, run_pure_ok, translateR] at hx
    obtain ⟨blocks, c1, ⟨is, c2, h1, rest, c3, h2, rfl, rfl⟩, e, rfl⟩ := hx
    injection e with e1 e2
    refine ⟨is, assemble a64Backend rest (ds.map (·.name)), c, c2, ?_, h1, e2.symm⟩
    rw [← e1]
    rfl

/-- a run of the machine from the entry of `asm_main` to a `RET` that passes the exit check, as a run of the
machine's loop (heap monitor off) -/
theorem runProg_of_msteps {cfg : MonCfg} (hheap : cfg.heap = false) {hk : Code → Bool} {P : Prog} {routine : List Code}
    {args : List Word} (hmain : P.labels["asm_main"]? = some (pcOf hk routine 2)) (hargs : args.length ≤ 7)
    {kL : Nat} {σL : State} {outL out : List (Bool × Word)} {v : Word}
    (g1 : MSteps P cfg.mem (entryState cfg.mem args) (pcOf hk routine 2) [] σL (pcOf hk routine kL) outL)
    (g2 : P.items[pcOf hk routine kL]? = some (.instr .ret)) (g3 : exitCheck cfg.mem σL = .done v)
    (g4 : outL.reverse = out) :
    ∃ fuel', (runProg P args fuel' cfg).out = out ∧ (runProg P args fuel' cfg).res = .done v := by
  obtain ⟨n, steps', hn⟩ := runLoop_msteps hheap g1 0 0
  refine ⟨n + 1, ?_⟩
  have hrl : runProg P args (n + 1) cfg =
      runLoop P cfg (n + 1) { σ := entryState cfg.mem args, pc := pcOf hk routine 2, out := [], steps := 0,
                              blocks := 0 } := by
    unfold runProg
    simp only [hmain]
    rw [if_neg (by omega)]
  rw [hrl, hn 1]
  obtain ⟨h1, h2⟩ := runLoop_ret (cfg := cfg) g2 g3 outL steps' 0 0
  exact ⟨by rw [h1]; exact g4, h2⟩

end Scc.A64.Ref
