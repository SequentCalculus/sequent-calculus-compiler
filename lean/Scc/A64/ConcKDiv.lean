/-
  Scc.A64.ConcKDiv — THE DIVISION FAULTS of the AArch64 SPEC machine: when the AxCut operator of an `op` statement is
  undefined (`Pos.evalOp` is `.error .divByZero` for a divisor 0, `.error .overflow` for MIN / −1; `div` and `rem`),
  the code of code.rs `op` runs up to its `SDIV`, and the `SDIV` faults with `div-by-zero` resp. `div-overflow`
  (Scc/A64/Machine.lean `sdivW`).
  `FaultsWith`: the block splits into a prefix that executes, the faulting `SDIV`, and a rest (`op_fault`).
  `Pos.stuck_op`: a step of the positional machine that is stuck on `divByZero` / `overflow` is an `op` whose
  operands are read and whose operator is undefined (the other ways of getting stuck report `shape`, `unbound`,
  `sort`, `lookup`).
-/
import Scc.A64.OpLemmas
import Scc.AxCut.PosSafe

set_option linter.unusedSimpArgs false

namespace Scc.A64
open Scc.AxCut

def divFault : Pos.Why → String
  | .overflow => "div-overflow"
  | _ => "div-by-zero"

theorem divFault_cases (w : Pos.Why) : divFault w = "div-by-zero" ∨ divFault w = "div-overflow" := by
  cases w <;> simp [divFault]

theorem sdivW_of_evalOp_error {o : BinOp} {a b : Word} {w : Pos.Why} (h : Pos.evalOp o a b = .error w) :
    (o = .div ∨ o = .rem) ∧ sdivW a b = .error (divFault w) := by
  cases o <;> simp only [Pos.evalOp] at h
  case sum => cases h
  case sub => cases h
  case prod => cases h
  all_goals
    refine ⟨by simp, ?_⟩
    unfold sdivW
    split at h
    · rename_i h1
      cases h
      simp [h1, divFault]
    · split at h
      · rename_i h1 h2
        cases h
        have h2' : a = minInt ∧ b = BitVec.ofInt 64 (-1) := ⟨by rw [h2.1]; rfl, by rw [h2.2]; rfl⟩
        simp [h1, h2', divFault]
      · cases h

/-- A BLOCK THAT RUNS INTO A FAULT: a prefix executes, then a data instruction faults with `e` -/
def FaultsWith (c : MemCfg) (blk : List Code) (σ : State) (e : String) : Prop :=
  ∃ (pre : List Code) (code : Code) (post : List Code) (σ0 : State) (i : Instr),
    blk = pre ++ code :: post ∧ execCodes c pre σ = .ok σ0 ∧ code.toInstr = some i ∧ i.exec c σ0 = .error e ∧
    ∃ d n m, i = .sdiv d n m

theorem FaultsWith.prepend {c : MemCfg} {blk : List Code} {σ σ0 : State} {e : String} {a : List Code}
    (ha : execCodes c a σ = .ok σ0) (h : FaultsWith c blk σ0 e) (rest : List Code) :
    FaultsWith c (a ++ blk ++ rest) σ e := by
  obtain ⟨pre, code, post, σ1, i, hb, hx, hti, hex, hsd⟩ := h
  refine ⟨a ++ pre, code, post ++ rest, σ1, i, by rw [hb]; simp [List.append_assoc], ?_, hti, hex, hsd⟩
  rw [execCodes_append c _ _ _ _ ha]
  exact hx

theorem opR_fault (c : MemCfg) (room : Nat) (σ : State) (hsp : SpOk c σ.sp room)
    (o : BinOp) (rt r1 r2 : Nat) (nt n1 n2 : Fin 31)
    (ht : xreg rt = some nt) (h1 : xreg r1 = some n1) (h2 : xreg r2 = some n2)
    (hr2 : r2 = consts.temp2 → r1 = consts.temp)
    (a b : Word) (ha : σ.reg n1 = some a) (hb : σ.reg n2 = some b) {w : Pos.Why}
    (hev : Pos.evalOp o a b = .error w) :
    FaultsWith c (opR o (.x rt) (.x r1) (.x r2)) σ (divFault w) := by
  obtain ⟨ho, hq⟩ := sdivW_of_evalOp_error hev
  have hT2 : xreg 3 = some xT2 := xreg_TEMP2
  have hT : xreg 2 = some xT := xreg_TEMP
  have hTT : xreg 10 = some xTT := xreg_TEMPORARY_TEMP
  rcases ho with rfl | rfl
  · -- div: the single SDIV
    refine ⟨[], .SDIV (.x rt) (.x r1) (.x r2), [], σ, .sdiv (.x nt) (.x n1) (.x n2), rfl, rfl,
      by simp [Code.toInstr, toReg_x, ht, h1, h2], ?_, ⟨_, _, _, rfl⟩⟩
    rw [exec_sdiv_x]
    simp [ha, hb, hq]
  · -- rem
    by_cases e2 : r2 = consts.temp2
    · have e1 := hr2 e2
      subst e2 e1
      have en2 : n2 = xT2 := by rw [hT2] at h2; cases h2; rfl
      have en1 : n1 = xT := by rw [hT] at h1; cases h1; rfl
      subst en2 en1
      by_cases et : rt = consts.temp
      · -- the scratch dance: comment, STR, MOVR, then SDIV
        subst et
        have hsp' : SpOkS c room σ := hsp
        have hp0 : SPILL_TEMP < SPILL_NUM := by decide
        have hx1 : xTT ≠ xT := by decide
        have hx2 : xTT ≠ xT2 := by decide
        have hx3 : xT ≠ xT2 := by decide
        have hsplit : opR .rem (.x consts.temp) (.x consts.temp) (.x consts.temp2) =
            [ .COMMENT "#evacuate one register as additional scratch register",
              .STR TEMPORARY_TEMP .sp (stackOffset SPILL_TEMP),
              .MOVR TEMPORARY_TEMP TEMP2 ] ++
            .SDIV TEMP2 TEMP TEMPORARY_TEMP ::
            [ .MSUB TEMP TEMP2 TEMPORARY_TEMP TEMP,
              .COMMENT "#restore evacuated register",
              .LDR TEMPORARY_TEMP .sp (stackOffset SPILL_TEMP) ] := by
          simp [opR, remR, TEMP2, TEMP]
        cases hx : σ.reg xTT with
        | none =>
          refine ⟨_, _, _, (σ.clrSlot (σ.slotAddr SPILL_TEMP)).setReg xTT (some b),
            .sdiv (.x xT2) (.x xT) (.x xTT), hsplit, ?_, by
              simp [Code.toInstr, toReg_x, TEMP2, TEMP, TEMPORARY_TEMP, hT2, hT, hTT], ?_, ⟨_, _, _, rfl⟩⟩
          · simp [TEMP2, TEMP, TEMPORARY_TEMP, execCodes, execCode_COMMENT,
              execCode_STR_sp hTT, execCode_MOVR hTT hT2, exec_str_slot c room, hsp', hp0,
              exec_mov_x, hb, hx]
          · rw [exec_sdiv_x]
            simp [ha, hb, hq, hx1, Ne.symm hx1]
        | some v =>
          refine ⟨_, _, _, (σ.setSlot (σ.slotAddr SPILL_TEMP) v).setReg xTT (some b),
            .sdiv (.x xT2) (.x xT) (.x xTT), hsplit, ?_, by
              simp [Code.toInstr, toReg_x, TEMP2, TEMP, TEMPORARY_TEMP, hT2, hT, hTT], ?_, ⟨_, _, _, rfl⟩⟩
          · simp [TEMP2, TEMP, TEMPORARY_TEMP, execCodes, execCode_COMMENT,
              execCode_STR_sp hTT, execCode_MOVR hTT hT2, exec_str_slot c room, hsp', hp0,
              exec_mov_x, hb, hx]
          · rw [exec_sdiv_x]
            simp [ha, hb, hq, hx1, Ne.symm hx1]
      · have et' : ¬ (rt = 2) := et
        refine ⟨[], .SDIV (.x rt) TEMP TEMP2, [.MSUB (.x rt) (.x rt) TEMP2 TEMP], σ,
          .sdiv (.x nt) (.x xT) (.x xT2), by simp [opR, remR, TEMP2, TEMP, et'], rfl,
          by simp [Code.toInstr, toReg_x, TEMP2, TEMP, ht, hT, hT2], ?_, ⟨_, _, _, rfl⟩⟩
        rw [exec_sdiv_x]
        simp [ha, hb, hq]
    · have e2' : ¬ (r2 = 3) := e2
      refine ⟨[], .SDIV TEMP2 (.x r1) (.x r2), [.MSUB (.x rt) TEMP2 (.x r2) (.x r1)], σ,
        .sdiv (.x xT2) (.x n1) (.x n2), by simp [opR, remR, TEMP2, e2'], rfl,
        by simp [Code.toInstr, toReg_x, TEMP2, hT2, h1, h2], ?_, ⟨_, _, _, rfl⟩⟩
      rw [exec_sdiv_x]
      simp [ha, hb, hq]

/-- code.rs `op` ON AN UNDEFINED OPERATOR RUNS INTO THE FAULT OF ITS `SDIV`, for every placement of the target and
the operands in registers or spill slots -/
theorem op_fault (c : MemCfg) (room : Nat) (σ : State) (hsp : SpOk c σ.sp room)
    (o : BinOp) (t s1 s2 : Temporary) (ht : t.isVar) (h1 : s1.isVar) (h2 : s2.isVar)
    (a b : Word) (hv1 : σ.tempVal s1 = some a) (hv2 : σ.tempVal s2 = some b) {w : Pos.Why}
    (hev : Pos.evalOp o a b = .error w) :
    FaultsWith c (op o t s1 s2) σ (divFault w) := by
  obtain ⟨σ0, n1, n2, he0, hx1, hx2, ha, hb, hsp0, hheap0, hregs0, hslots0, hc1, hc2⟩ :=
    operands_loaded c room σ hsp s1 s2 h1 h2 a b hv1 hv2
  have hsp0' : SpOk c σ0.sp room := by rw [hsp0]; exact hsp
  have hT : xreg 2 = some xT := xreg_TEMP
  rw [op_decompose o t s1 s2 h1 h2]
  cases t with
  | register tr =>
    cases tr with
    | x rt =>
      obtain ⟨hrta, hrtb⟩ := isVar_reg ht
      obtain ⟨nt, hnt, hntv⟩ := xreg_var hrta hrtb
      have hf := opR_fault c room σ0 hsp0' o rt _ _ nt n1 n2 hnt hx1 hx2 hc1 a b ha hb hev
      have := FaultsWith.prepend he0 hf []
      simpa using this
    | sp => simp [Temporary.isVar] at ht
    | xzr => simp [Temporary.isVar] at ht
  | spill pt =>
    have hf := opR_fault c room σ0 hsp0' o 2 _ _ xT n1 n2 hT hx1 hx2 hc1 a b ha hb hev
    exact FaultsWith.prepend he0 hf [.STR TEMP .sp (stackOffset pt)]

end Scc.A64

namespace Scc.AxCut.Pos

theorem readVar_error {Γ : Ctx} {ρ : List Value} {x : Ident} {e : Why} (h : readVar Γ ρ x = .error e) :
    e ≠ .divByZero ∧ e ≠ .overflow := by
  unfold readVar at h
  split at h
  · cases h; exact (by constructor <;> (intro h'; cases h'))
  · split at h
    · cases h; exact (by constructor <;> (intro h'; cases h'))
    · cases h

theorem readInt_error {Γ : Ctx} {ρ : List Value} {x : Ident} {e : Why} (h : readInt Γ ρ x = .error e) :
    e ≠ .divByZero ∧ e ≠ .overflow := by
  unfold readInt at h
  split at h
  · rename_i e' he
    cases h
    exact readVar_error he
  · cases h
  · cases h; exact (by constructor <;> (intro h'; cases h'))

theorem tagPosition_error {types : List TypeDecl} {ty : Ty} {tag : Ident} {e : Why}
    (h : tagPosition types ty tag = .error e) : e ≠ .divByZero ∧ e ≠ .overflow := by
  unfold tagPosition at h
  split at h
  · cases h; exact (by constructor <;> (intro h'; cases h'))
  · split at h
    · cases h; exact (by constructor <;> (intro h'; cases h'))
    · cases h

theorem build_error {Γ : Ctx} {ρ : List Value} : ∀ (pairs : List (Binding × Ident)) {e : Why},
    step.build Γ ρ pairs = .error e → e ≠ .divByZero ∧ e ≠ .overflow
  | [], e, h => by simp [step.build] at h
  | p :: ps, e, h => by
    simp only [step.build] at h
    split at h
    · rename_i e' he
      cases h
      exact readVar_error he
    · split at h
      · rename_i e' he
        cases h
        exact build_error ps he
      · cases h

/-- A STEP THAT IS STUCK ON AN ARITHMETIC FAULT IS AN `op` whose operands are read and whose operator is undefined -/
theorem stuck_op {P : Prog} {st : State} {w : Why} (h : step P st = .stuck w)
    (hw : w = .divByZero ∨ w = .overflow) :
    ∃ x a o b next fv va vb, st.stmt = .op x a o b next fv ∧ readInt st.ctx st.env a = .ok va ∧
      readInt st.ctx st.env b = .ok vb ∧ evalOp o va vb = .error w := by
  have hne : ∀ {e : Why}, (e ≠ .divByZero ∧ e ≠ .overflow) → e = w → False := by
    intro e he ew
    subst ew
    rcases hw with h1 | h1
    · exact he.1 h1
    · exact he.2 h1
  obtain ⟨Γ, ρ, s⟩ := st
  cases s with
  | lit x n next fv => simp [step] at h
  | op x a o b next fv =>
    simp only [step] at h
    cases ha : readInt Γ ρ a with
    | error e =>
      rw [ha] at h
      simp only [StepResult.stuck.injEq] at h
      exact (hne (readInt_error ha) h).elim
    | ok va =>
      rw [ha] at h
      simp only at h
      cases hb : readInt Γ ρ b with
      | error e =>
        rw [hb] at h
        simp only [StepResult.stuck.injEq] at h
        exact (hne (readInt_error hb) h).elim
      | ok vb =>
        rw [hb] at h
        simp only at h
        cases hv : evalOp o va vb with
        | error e =>
          rw [hv] at h
          simp only [StepResult.stuck.injEq] at h
          subst h
          exact ⟨x, a, o, b, next, fv, va, vb, rfl, ha, hb, hv⟩
        | ok v => rw [hv] at h; cases h
  | print nl a next fv =>
    simp only [step] at h
    cases ha : readInt Γ ρ a with
    | error e =>
      rw [ha] at h
      simp only [StepResult.stuck.injEq] at h
      exact (hne (readInt_error ha) h).elim
    | ok va => rw [ha] at h; cases h
  | ifc s a b t e =>
    simp only [step] at h
    cases ha : readInt Γ ρ a with
    | error e' =>
      rw [ha] at h
      simp only [StepResult.stuck.injEq] at h
      exact (hne (readInt_error ha) h).elim
    | ok va =>
      rw [ha] at h
      simp only at h
      cases b with
      | none => cases h
      | some b' =>
        simp only at h
        cases hb : readInt Γ ρ b' with
        | error e' =>
          rw [hb] at h
          simp only [StepResult.stuck.injEq] at h
          exact (hne (readInt_error hb) h).elim
        | ok vb => rw [hb] at h; cases h
  | exit a =>
    simp only [step] at h
    cases ha : readInt Γ ρ a with
    | error e =>
      rw [ha] at h
      simp only [StepResult.stuck.injEq] at h
      exact (hne (readInt_error ha) h).elim
    | ok va => rw [ha] at h; cases h
  | letS x ty tag args next fv =>
    simp only [step] at h
    split at h
    · simp only [StepResult.stuck.injEq] at h
      exact (hne (by constructor <;> (intro h'; cases h')) h).elim
    · cases ht : tagPosition P.types ty tag with
      | error e =>
        rw [ht] at h
        simp only [StepResult.stuck.injEq] at h
        exact (hne (tagPosition_error ht) h).elim
      | ok pos => rw [ht] at h; cases h
  | switch x ty clauses fv =>
    simp only [step] at h
    split at h
    · split at h
      · simp only [StepResult.stuck.injEq] at h
        exact (hne (by constructor <;> (intro h'; cases h')) h).elim
      · split at h
        · split at h
          · simp only [StepResult.stuck.injEq] at h
            exact (hne (by constructor <;> (intro h'; cases h')) h).elim
          · split at h
            · simp only [StepResult.stuck.injEq] at h
              exact (hne (by constructor <;> (intro h'; cases h')) h).elim
            · cases h
        · simp only [StepResult.stuck.injEq] at h
          exact (hne (by constructor <;> (intro h'; cases h')) h).elim
    · simp only [StepResult.stuck.injEq] at h
      exact (hne (by constructor <;> (intro h'; cases h')) h).elim
  | create x ty env clauses next f1 f2 =>
    simp only [step] at h
    split at h
    · simp only [StepResult.stuck.injEq] at h
      exact (hne (by constructor <;> (intro h'; cases h')) h).elim
    · split at h
      · simp only [StepResult.stuck.injEq] at h
        exact (hne (by constructor <;> (intro h'; cases h')) h).elim
      · cases h
  | invoke x tag ty args =>
    simp only [step] at h
    split at h
    · split at h
      · simp only [StepResult.stuck.injEq] at h
        exact (hne (by constructor <;> (intro h'; cases h')) h).elim
      · split at h
        · cases ht : tagPosition P.types ty tag with
          | error e =>
            rw [ht] at h
            simp only [StepResult.stuck.injEq] at h
            exact (hne (tagPosition_error ht) h).elim
          | ok pos =>
            rw [ht] at h
            simp only at h
            split at h
            · simp only [StepResult.stuck.injEq] at h
              exact (hne (by constructor <;> (intro h'; cases h')) h).elim
            · split at h
              · simp only [StepResult.stuck.injEq] at h
                exact (hne (by constructor <;> (intro h'; cases h')) h).elim
              · cases h
        · simp only [StepResult.stuck.injEq] at h
          exact (hne (by constructor <;> (intro h'; cases h')) h).elim
    · simp only [StepResult.stuck.injEq] at h
      exact (hne (by constructor <;> (intro h'; cases h')) h).elim
  | call l args =>
    simp only [step] at h
    split at h
    · simp only [StepResult.stuck.injEq] at h
      exact (hne (by constructor <;> (intro h'; cases h')) h).elim
    · split at h
      · simp only [StepResult.stuck.injEq] at h
        exact (hne (by constructor <;> (intro h'; cases h')) h).elim
      · cases h
  | subst pairs next =>
    simp only [step] at h
    cases hb : step.build Γ ρ pairs with
    | error e =>
      rw [hb] at h
      simp only [StepResult.stuck.injEq] at h
      exact (hne (build_error pairs hb) h).elim
    | ok vs => rw [hb] at h; cases h

end Scc.AxCut.Pos
