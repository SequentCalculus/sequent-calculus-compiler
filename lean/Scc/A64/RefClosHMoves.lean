/-
  Scc.A64.RefClosHMoves — PARALLEL MOVES of ALL temporaries of positions (pointer parts and word parts),
  the move block of `subst` on contexts with object variables.  The integer fragment (RefDefs/RefSim/
  RefParam) tracks word parts only (`PosW`: odd temporaries); the moves here have the domain
  `PosT t := t < 281` (the capacity of utils.rs temporary_from_position) and a relation `MRel` that looks at
  nothing but the temporaries and the scratch cell — moves are agnostic of what the words mean — and records
  what the block leaves alone (`MKeep`: heap, HEAP, FREE; `Core`: SP and the callee-save area).
  The AArch64 code renders a list of `comment`/`mov`/`save`/`restore` (`MOpRel`, `MSeg`); a rendered block is
  executed by both machines in lockstep (`mseg_follow`); the AArch64 code of `code_exchange` renders the mock code
  (`mseg_codeExchange`: the instance of Scc/Backend/ProofsRender.lean for all temporaries of positions and all
  bindings).
  In the namespace `Scc.A64.Ref.K`; `PosT`, `MOpRel`, `MSeg`, `MKeep`, `MRel` are also defined, with the same bodies, in
  `Scc.A64.Ref` (Scc/A64/RefHeapMoves.lean): inside this namespace the names mean the ones defined here.  From
  `mseg_follow` on, the machine's run is an `MStepsK Q` run (Scc/A64/ConcKMid.lean: the `#ctx` hook items it visits
  lie at indices in `Q`) for a block that is `NoHkQ hk Q`.
-/
import Scc.A64.ConcKNoHk
import Scc.A64.RefHeapBridge
import Scc.A64.RefParam
import Scc.A64.RefClosHX3

namespace Scc.A64.Ref.K

open Scc.AxCut Scc.Backend Scc.Backend.Abs Scc.Backend.Sim Scc.A64.CC Scc.Backend.PM
-- backend-independent: Scc/Backend/ProofsCalls.lean, Scc/X86/RefPM.lean (the forests of parallel moves under a map of temporaries)
open Scc.X86 (TreeOK TreesOK RootOK PmOK ConnsOK)
open Scc.X86.Ref (TempMap mapT mapTs mapR mapPM)

/-- a temporary of a position within the capacity of utils.rs temporary_from_position -/
def PosT (t : Nat) : Prop := t < 281

theorem posT_ne_temp {t : Nat} (h : PosT t) : t ≠ Mock.T_TEMP := by
  unfold PosT at h; unfold Mock.T_TEMP; omega

/-- `blk` renders the move instruction `op` -/
def MOpRel (g : Mode) (op : MockOp) (blk : List Code) (g' : Mode) : Prop :=
  match op with
  | .comment m => blk = [.COMMENT m] ∧ g' = g
  | .mov t s => PosT t ∧ PosT s ∧ blk = mov (posTemp t) (posTemp s) ∧ g' = g
  | .save t _ => ∃ b, blk = storeTemporary (posTemp t) b ∧ PosT t ∧ (g = .normal ∨ g = .pm) ∧ g' = .pm
  | .restore t _ => ∃ b, blk = restoreTemporary (posTemp t) b ∧ PosT t ∧ g = .pm ∧ g' = .normal
  | _ => False

inductive MSeg : Mode → List MockOp → List Code → Mode → Prop where
  | nil (g : Mode) : MSeg g [] [] g
  | cons {g g1 g' : Mode} {op : MockOp} {blk : List Code} {ops : List MockOp} {cs : List Code} :
      MOpRel g op blk g1 → MSeg g1 ops cs g' → MSeg g (op :: ops) (blk ++ cs) g'

theorem MSeg.append {g g1 g' : Mode} {o1 o2 : List MockOp} {c1 c2 : List Code}
    (h1 : MSeg g o1 c1 g1) (h2 : MSeg g1 o2 c2 g') : MSeg g (o1 ++ o2) (c1 ++ c2) g' := by
  induction h1 with
  | nil g => simpa using h2
  | cons hop _ ih =>
    rw [List.cons_append, List.append_assoc]
    exact MSeg.cons hop (ih h2)

theorem MSeg.single {g g' : Mode} {op : MockOp} {blk : List Code} (h : MOpRel g op blk g') :
    MSeg g [op] blk g' := by
  have := MSeg.cons h (MSeg.nil g')
  simpa using this

/-- what a block of moves leaves alone -/
structure MKeep (σ0 σ : State) : Prop where
  heap : σ.heap = σ0.heap
  x0 : σ.reg 0 = σ0.reg 0
  x1 : σ.reg 1 = σ0.reg 1

theorem MKeep.refl (σ : State) : MKeep σ σ := ⟨rfl, rfl, rfl⟩

theorem MKeep.step {σ0 σ σ' : State} (K : MKeep σ0 σ) {t : Temporary} (ht : t.isVar) (F : Frame σ σ' t) :
    MKeep σ0 σ' :=
  ⟨by rw [F.heap]; exact K.heap, by rw [F.low ht 0 (by decide)]; exact K.x0,
   by rw [F.low ht 1 (by decide)]; exact K.x1⟩

/-- the relation of the move block: a (shadow) configuration of the abstract machine and the machine agree
on every temporary of a position and on the scratch cell -/
structure MRel (c : MemCfg) (g : Mode) (σ0 : State) (cfg : Config) (σ : State) : Prop where
  core : Core c σ
  temps : ∀ t v, PosT t → cfg.temps.get t = some v → σ.tempVal (posTemp t) = some v
  scratch : g = .pm → ∀ w, cfg.scratch = some w → σ.reg xT = some w
  keep : MKeep σ0 σ

section Ops

variable {c : MemCfg} (H : CfgCC c) {σ0 : State} {cfg : Config} {σ : State}
include H

theorem MRel.spOk {g : Mode} (R : MRel c g σ0 cfg σ) : SpOk c σ.sp 144 := spOkS_of_core H R.core

/-- `mov t s` of parallel moves, in every mode -/
theorem mrep_mov {g : Mode} (R : MRel c g σ0 cfg σ) {t s : Nat} (ht : PosT t) (hs : PosT s) (pc' : Nat) :
    ∃ σ', execCodes c (mov (posTemp t) (posTemp s)) σ = .ok σ' ∧
      MRel c g σ0 { cfg with pc := pc', temps := (clobberTemp cfg.temps).put t (cfg.temps.get s) } σ' := by
  have hvt := isVar_posTemp ht
  have hvs := isVar_posTemp hs
  obtain ⟨σ', e, hv, F⟩ := mov_correct c 144 σ (R.spOk H) (posTemp t) (posTemp s) hvt hvs
  refine ⟨σ', e, core_execCodes H _ R.core (allInt_mov (ok_of_isVar hvt) (ok_of_isVar hvs)) e, ?_, ?_,
    R.keep.step hvt F⟩
  · intro t' v' ht' hg
    by_cases e' : t' = t
    · subst e'
      simp only at hg
      rw [get_put_same] at hg
      rw [hv]; exact R.temps s v' hs hg
    · simp only at hg
      rw [get_put_other _ _ e', get_clobberTemp _ (posT_ne_temp ht')] at hg
      rw [F.temp (isVar_posTemp ht') (fun e'' => e' (posTemp_inj.1 e''))]
      exact R.temps t' v' ht' hg
  · intro hb w hw
    rw [execCodes_regs _ e xT (mov_not_writes_xT hvt hvs)]
    exact R.scratch hb w hw

omit H in
theorem setReg_xT_posTemp (σ : State) (v : Option Word) {t : Nat} (ht : PosT t) :
    (σ.setReg xT v).tempVal (posTemp t) = σ.tempVal (posTemp t) := by
  have hv := isVar_posTemp ht
  cases hp : posTemp t with
  | register reg =>
    rw [hp] at hv
    cases reg with
    | x r' =>
      obtain ⟨n, hn, h4, _⟩ := tempVal_var_reg (σ := σ) hv
      rw [tempVal_reg hn, tempVal_reg hn, setReg_reg, if_neg]
      intro e0; rw [← e0] at h4; exact absurd h4 (by decide)
    | sp => simp [Temporary.isVar] at hv
    | xzr => simp [Temporary.isVar] at hv
  | spill q => rfl

/-- `save t`: TEMP := t -/
theorem mrep_save {g : Mode} (R : MRel c g σ0 cfg σ) {t : Nat} (ht : PosT t) (b : Bool) (pc' : Nat) :
    ∃ σ', execCodes c (storeTemporary (posTemp t) b) σ = .ok σ' ∧
      MRel c .pm σ0
        { cfg with pc := pc', temps := clobberTemp cfg.temps, scratch := cfg.temps.get t } σ' := by
  have hvt := isVar_posTemp ht
  have e := moveToRegister_exec (R.spOk H) xreg_TEMP (ok_of_isVar hvt)
  have e' : execCodes c (storeTemporary (posTemp t) b) σ = .ok (σ.setReg xT (σ.tempVal (posTemp t))) := by
    rw [storeTemporary_eq]; exact e
  refine ⟨_, e', core_execCodes H _ R.core (allInt_storeTemporary (ok_of_isVar hvt) b) e', ?_, ?_, ?_⟩
  · intro t' v' ht' hg'
    simp only at hg'
    rw [get_clobberTemp _ (posT_ne_temp ht')] at hg'
    rw [setReg_xT_posTemp _ _ ht']
    exact R.temps t' v' ht' hg'
  · intro _ w hw
    simp only at hw
    rw [setReg_reg, if_pos rfl]
    exact R.temps t w ht hw
  · exact ⟨R.keep.heap, by rw [setReg_reg, if_neg (by decide)]; exact R.keep.x0,
      by rw [setReg_reg, if_neg (by decide)]; exact R.keep.x1⟩

/-- `restore t`: t := TEMP -/
theorem mrep_restore (R : MRel c .pm σ0 cfg σ) {t : Nat} (ht : PosT t) (b : Bool) (pc' : Nat) :
    ∃ σ', execCodes c (restoreTemporary (posTemp t) b) σ = .ok σ' ∧
      MRel c .normal σ0 { cfg with pc := pc', temps := (clobberTemp cfg.temps).put t cfg.scratch } σ' := by
  have hvt := isVar_posTemp ht
  have hokt := ok_of_isVar hvt
  obtain ⟨σ', e, hv, F⟩ := moveFromRegister_exec (R.spOk H) xreg_TEMP hokt
  have e' : execCodes c (restoreTemporary (posTemp t) b) σ = .ok σ' := by rw [restoreTemporary_eq]; exact e
  have hall : AllInt (restoreTemporary (posTemp t) b) := by
    rw [restoreTemporary_eq]; exact allInt_moveFromRegister hokt
  have hlow : ∀ m : Fin 31, m.val < 4 → σ'.reg m = σ.reg m := by
    intro m hm
    apply F.regs
    intro e0
    have := posTemp_archReg_ge ht e0
    omega
  refine ⟨σ', e', core_execCodes H _ R.core hall e', ?_, (fun hb => by cases hb), ?_⟩
  · intro t' v' ht' hg
    by_cases e'' : t' = t
    · subst e''
      simp only at hg
      rw [get_put_same] at hg
      rw [hv]; exact R.scratch rfl v' hg
    · simp only at hg
      rw [get_put_other _ _ e'', get_clobberTemp _ (posT_ne_temp ht')] at hg
      rw [F.temp (R.spOk H) (ok_of_isVar (isVar_posTemp ht')) hokt (fun e3 => e'' (posTemp_inj.1 e3))]
      exact R.temps t' v' ht' hg
  · exact ⟨by rw [F.heap]; exact R.keep.heap, by rw [hlow 0 (by decide)]; exact R.keep.x0,
      by rw [hlow 1 (by decide)]; exact R.keep.x1⟩

end Ops

open Scc.A64.NoHk (HKQ hkcQ_mm hkcQ_name_first noHkQ_of_nhOK noHkQ_of_postNh NhOK)
open Scc.Backend.NamesC (MM mm_append mm_ofList)

section Follow

variable {c : MemCfg} (H : CfgCC c) {hk : Code → Bool} {Pm : Prog} {Q : Nat → Prop} {cs : List Code}
  (Hp : Holds hk Pm cs) {P : Program} {σ0 : State}

include H Hp in
/-- the abstract machine (on ANY configuration: moves copy possibly undefined temporaries) and the
AArch64 machine execute a rendered block of moves in lockstep -/
theorem mseg_follow {g g' : Mode} {ops : List MockOp} {items : List Code} (S : MSeg g ops items g')
    (out : List (Bool × Word)) :
    ∀ (cfg : Config) (σ : State) (k : Nat), CodeAt P cfg.pc ops → XAt cs k items → MRel c g σ0 cfg σ → NoHkQ hk Q items →
    ∃ cfg' σ', stepsTo P (instrCount ops) cfg cfg' ∧
      MStepsK Q Pm c σ (pcOf hk cs k) out σ' (pcOf hk cs (k + items.length)) out ∧
      MRel c g' σ0 cfg' σ' ∧ cfg'.pc = cfg.pc + instrCount ops := by
  induction S with
  | nil g =>
    intro cfg σ k _ _ R _
    exact ⟨cfg, σ, rfl, by simpa using MStepsK.refl (Q := Q) (P := Pm) (c := c) σ _ out, R, by simp [instrCount]⟩
  | @cons g g1 g' op blk ops cs' hop S ih =>
    intro cfg σ k hat hatX R hn
    have one : ∃ cfg1 σ1, stepsTo P (instrCount [op]) cfg cfg1 ∧
        MStepsK Q Pm c σ (pcOf hk cs k) out σ1 (pcOf hk cs (k + blk.length)) out ∧
        MRel c g1 σ0 cfg1 σ1 ∧ cfg1.pc = cfg.pc + instrCount [op] ∧ CodeAt P cfg1.pc ops := by
      cases op <;> simp only [MOpRel] at hop
      case comment m =>
        obtain ⟨rfl, rfl⟩ := hop
        simp only [CodeAt] at hat
        have h0 := x_msteps_codesQ (c := c) (Q := Q) Hp (blk := [Code.COMMENT m]) hatX.left (σ := σ) rfl out hn.left
        exact ⟨cfg, σ, rfl, h0, R, by simp [instrCount], hat⟩
      case mov t s =>
        obtain ⟨ht, hs, rfl, rfl⟩ := hop
        simp only [CodeAt] at hat
        obtain ⟨hc, hat'⟩ := hat
        obtain ⟨σ1, hx, R1⟩ := mrep_mov H R ht hs (cfg.pc + 1)
        exact ⟨_, σ1, stepsTo_one P _ _ (step_mov' P cfg t s hc (posT_ne_temp ht)),
          x_msteps_codesQ Hp hatX.left hx out hn.left, R1, rfl, hat'⟩
      case save t sp =>
        obtain ⟨b, rfl, ht, hg, rfl⟩ := hop
        simp only [CodeAt] at hat
        obtain ⟨hc, hat'⟩ := hat
        obtain ⟨σ1, hx, R1⟩ := mrep_save H R ht b (cfg.pc + 1)
        exact ⟨_, σ1, stepsTo_one P _ _ (step_save' P cfg t sp hc), x_msteps_codesQ Hp hatX.left hx out hn.left, R1,
          rfl, hat'⟩
      case restore t sp =>
        obtain ⟨b, rfl, ht, rfl, rfl⟩ := hop
        simp only [CodeAt] at hat
        obtain ⟨hc, hat'⟩ := hat
        obtain ⟨σ1, hx, R1⟩ := mrep_restore H R ht b (cfg.pc + 1)
        exact ⟨_, σ1, stepsTo_one P _ _ (step_restore' P cfg t sp hc (posT_ne_temp ht)),
          x_msteps_codesQ Hp hatX.left hx out hn.left, R1, rfl, hat'⟩
    obtain ⟨cfg1, σ1, hs1, hn1, R1, hpcA, hat1⟩ := one
    obtain ⟨cfg2, σ2, hs2, hn2, R2, hpcB⟩ := ih cfg1 σ1 (k + blk.length) hat1 hatX.right R1 hn.right
    have hic : instrCount (op :: ops) = instrCount [op] + instrCount ops := by
      rw [show op :: ops = [op] ++ ops from rfl, Subst.instrCount_append]
    refine ⟨cfg2, σ2, ?_, ?_, R2, ?_⟩
    · rw [hic]
      exact stepsTo_trans P _ _ _ _ _ hs1 hs2
    · rw [List.length_append, ← Nat.add_assoc]
      exact hn1.trans hn2
    · rw [hpcB, hpcA, hic]; omega

end Follow

theorem mseg_of_segG {g g' : Mode} {ops : List MockOp} {cs : List Code} (h : Render.SegG MOpRel g ops cs g') :
    MSeg g ops cs g' := by
  induction h with
  | nil g => exact MSeg.nil g
  | cons hop _ ih => exact MSeg.cons hop ih

theorem mMoveOps :
    Render.MoveOps a64Backend posTemp PosT MOpRel .normal (fun _ => Mode.pm) (fun _ _ _ => True) where
  tm := tempMap_posTemp
  save {_ _ b} hp hg := ⟨b, rfl, hp, hg, rfl⟩
  restore {_ b} ht := ⟨b, rfl, ht, rfl, rfl⟩
  mov ht hs _ := ⟨ht, hs, rfl, rfl⟩
  comment := ⟨rfl, rfl⟩
  edges t kids := Render.EdgesTs.of_forall (fun _ _ _ _ => trivial) t kids

theorem mVarTemps : Render.VarTemps a64Backend posTemp PosT (fun _ => True) where
  vt h := by
    obtain ⟨pos, hp, hlt, rfl, rfl, hm⟩ := vt_rel h
    exact ⟨pos, hp, rfl, rfl, fun _ => hlt, hm⟩

theorem mseg_treeMoves (b : Bool) (parent : Nat) (hp : PosT parent) : ∀ (tr : Tree Nat) (g : Mode),
    (g = .normal ∨ g = .pm) → TreeOK PosT tr →
    MSeg g (treeMoves mockSym parent false tr) (treeMoves a64Backend (posTemp parent) b (mapT posTemp tr))
      (afterTree (Tree.refersBack tr) g) := fun tr g hg hw =>
  mseg_of_segG (Render.seg_treeMoves mMoveOps b parent hp tr g hg hw
    (Render.EdgesT.of_forall (fun _ _ _ _ => trivial) _ _))

theorem mseg_codeExchange (tm : List (Binding × List Nat)) (Γ newΓ : Ctx)
    {c : Nat} {code : List Code} {c' : Nat}
    (h : (codeExchange a64Backend tm Γ newΓ).run c = .ok (code, c')) :
    ∃ ops, (codeExchange mockSym tm Γ newΓ).run c = .ok (ops, c') ∧ MSeg .normal ops code .normal := by
  obtain ⟨ops, hops, S⟩ := Render.seg_codeExchange mMoveOps mVarTemps trivial tm Γ newΓ (fun _ _ _ => trivial) h
  exact ⟨ops, hops, mseg_of_segG S⟩

end Scc.A64.Ref.K
