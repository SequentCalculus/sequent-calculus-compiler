/-
  Scc.A64.ConcKHook — with hooks, the AArch64 code of every statement starts with the `#ctx` comment of its context
  (`post_first_hook`; the proof of Scc/X86/ConcHook.lean for `a64Backend`), and what the layout of the lines of a
  routine holds at a hook comment: the hook item with the variables the loader read (`layout_hook_vs`).
-/
import Scc.A64.ConcKMon
import Scc.X86.ConcHook

namespace Scc.A64.ConcK

open Scc.AxCut Scc.Backend Scc.A64.Ref Scc.A64.CC
open Scc.X86 (Post)

theorem post_first_hook (ren : Nat → String) (types : List TypeDecl) : ∀ (s : Stmt) (Γ : Ctx),
    Post (codeStatementR a64Backend true ren types s Γ)
      (fun items => ∃ rest, items = Code.COMMENT (ctxHookComment Γ) :: rest)
  | .subst rearrange next, Γ => by
    simp only [codeStatementR]
    refine Post.bind (Post.true _) fun c1 _ => ?_
    refine Post.bind (Post.true _) fun c2 _ => ?_
    refine Post.bind (Post.true _) fun c3 _ => ?_
    exact Post.pure ⟨_, rfl⟩
  | .call label args, Γ => by
    simp only [codeStatementR]
    exact Post.pure ⟨_, rfl⟩
  | .letS var ty tag args next fv, Γ => by
    simp only [codeStatementR]
    refine Post.bind (Post.true _) fun decl _ => ?_
    refine Post.bind (Post.true _) fun pos _ => ?_
    refine Post.bind (Post.true _) fun sp _ => ?_
    obtain ⟨context1, arguments⟩ := sp
    dsimp only
    refine Post.bind (Post.true _) fun c1 _ => ?_
    refine Post.bind (Post.true _) fun t _ => ?_
    refine Post.bind (Post.true _) fun c3 _ => ?_
    exact Post.pure ⟨_, rfl⟩
  | .switch var ty clauses fv, Γ => by
    simp only [codeStatementR]
    refine Post.bind (Post.true _) fun num _ => ?_
    refine Post.bind (Post.true _) fun c1 _ => ?_
    refine Post.bind (Post.true _) fun c3 _ => ?_
    exact Post.pure ⟨_, rfl⟩
  | .create var ty env clauses next fv1 fv2, Γ => by
    cases env with
    | none => simp only [codeStatementR]; exact Post.throw
    | some envCtx =>
      simp only [codeStatementR]
      refine Post.bind (Post.true _) fun sp _ => ?_
      obtain ⟨context1, closureEnvironment⟩ := sp
      dsimp only
      refine Post.bind (Post.true _) fun c1 _ => ?_
      refine Post.bind (Post.true _) fun num _ => ?_
      refine Post.bind (Post.true _) fun t _ => ?_
      refine Post.bind (Post.true _) fun c3 _ => ?_
      refine Post.bind (Post.true _) fun c5 _ => ?_
      exact Post.pure ⟨_, rfl⟩
  | .invoke var tag ty args, Γ => by
    simp only [codeStatementR]
    refine Post.bind (Post.true _) fun t _ => ?_
    refine Post.bind (Post.true _) fun decl _ => ?_
    split
    · exact Post.pure ⟨_, rfl⟩
    · exact Post.bind (Post.true _) fun pos _ => Post.pure ⟨_, rfl⟩
  | .lit var n next fv, Γ => by
    simp only [codeStatementR]
    refine Post.bind (Post.true _) fun t _ => ?_
    refine Post.bind (Post.true _) fun c2 _ => ?_
    exact Post.pure ⟨_, rfl⟩
  | .op var fst o snd next fv, Γ => by
    simp only [codeStatementR]
    refine Post.bind (Post.true _) fun t _ => ?_
    refine Post.bind (Post.true _) fun s1 _ => ?_
    refine Post.bind (Post.true _) fun s2 _ => ?_
    refine Post.bind (Post.true _) fun c2 _ => ?_
    exact Post.pure ⟨_, rfl⟩
  | .print newline var next fv, Γ => by
    simp only [codeStatementR]
    refine Post.bind (Post.true _) fun t _ => ?_
    refine Post.bind (Post.true _) fun c1 _ => ?_
    refine Post.bind (Post.true _) fun c2 _ => ?_
    exact Post.pure ⟨_, rfl⟩
  | .ifc sort fst snd thenc elsec, Γ => by
    simp only [codeStatementR]
    refine Post.bind (Post.true _) fun num _ => ?_
    refine Post.bind (Post.true _) fun c1 _ => ?_
    refine Post.bind (Post.true _) fun c2 _ => ?_
    refine Post.bind (Post.true _) fun c3 _ => ?_
    exact Post.pure ⟨_, rfl⟩
  | .exit var, Γ => by
    simp only [codeStatementR]
    exact Post.bind (Post.true _) fun t _ => Post.pure ⟨_, rfl⟩

/-- the layout of the lines of a routine holds, at the position of a comment the loader reads as a hook of `vs`,
the hook item of `vs` -/
theorem layout_hook_vs {hkv : String → Option (List (String × Kind))} {ls : List (Nat × PLine)}
    {routine : List Code} (h : Lines hkv ls routine) {k : Nat} {m : String} {vs : List (String × Kind)}
    (hc : routine[k]? = some (Code.COMMENT m)) (hv : hkv m = some vs) :
    (layout ls).items[pcOf (hkOf hkv) routine k]? = some (.hook vs) := by
  obtain ⟨f1, f2⟩ := fold_lines h {}
  have hall := lines_hasLine h
  have hcnt : ∀ k, icnt (hkOf hkv) (routine.take k) = ((routine.take k).filterMap (itemOfCode hkv)).length :=
    fun k => icnt_eq fun c hc => hall c (List.mem_of_mem_take hc)
  have hitems : ∀ j : Nat, (layout ls).items[j]? = (routine.filterMap (itemOfCode hkv))[j]? := by
    intro j
    rw [layout_items', ← Array.getElem?_toList, f1]
    simp
  unfold pcOf
  rw [hitems, hcnt]
  exact filterMap_take_get _ routine k _ _ hc (by simp [itemOfCode, lineOf, hv, itemOfLine])

end Scc.A64.ConcK
