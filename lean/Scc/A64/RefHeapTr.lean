/-
  Scc.A64.RefHeapTr — the translation `trHeap` of the word parts of an abstract heap (RefHeapDefs.lean) replaces
  fields by fields of the same kinds and pointer parts: it is `mapFields` (Scc/Heap/RefineTr.lean) for `trF` on
  the fields of every object (`fieldsOK_trF`).
-/
import Scc.A64.RefHeapDefs
import Scc.Heap.RefineTr

set_option linter.unusedVariables false

namespace Scc.A64.Ref

open Scc.Backend Scc.Backend.Abs Scc.Backend.Sim
open Scc.Heap.Refine

theorem trO_fields (o : Obj) : (trO o).fields = o.fields.map trF := rfl

theorem trF_chi (f : Abs.Field) : (trF f).chi = f.chi := rfl
theorem trF_ptr (f : Abs.Field) : (trF f).ptr = f.ptr := rfl

theorem kindB_trF (f : Abs.Field) : kindB (trF f) = kindB f := rfl

theorem trO_children (o : Obj) : (trO o).children = o.children := by
  unfold Obj.children
  rw [trO_fields, List.filterMap_map]
  rfl

theorem trO_with_count (o : Obj) (c : Nat) : trO { o with count := c } = { trO o with count := c } := rfl

theorem trHeap_nil : trHeap [] = [] := rfl

theorem fieldsOK_trF : FieldsOK (fun _ fs => fs.map trF) :=
  ⟨fun _ fs => List.length_map _, fun _ o => trO_children o⟩

theorem trHeap_ids (h : Heap) : (trHeap h).map (·.1) = h.map (·.1) := mapFields_ids (g := fun _ fs => fs.map trF) h

theorem mem_trHeap {h : Heap} {e : Nat × Obj} (he : e ∈ h) : (e.1, trO e.2) ∈ trHeap h := mem_mapFields (g := fun _ fs => fs.map trF) he

theorem heapOK_trHeap {h : Heap} {rs : List Nat} {next : Nat} (H : HeapOK h rs next) :
    HeapOK (trHeap h) rs next := heapOK_mapFields fieldsOK_trF H

end Scc.A64.Ref
