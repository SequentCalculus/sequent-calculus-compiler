/-
  Scc.A64.LoaderA64Names — the AArch64 instance of `OpsNamesC` (Scc/Backend/LoaderNamesC.lean): every
  method of the AArch64 backend (Scc/A64/Backend.lean: config.rs, code.rs, memory.rs, parallel_moves.rs)
  returns only codes whose strings pass the loader's text-safety check `nmA` (Scc/A64/LoaderCheck.lean),
  given that the labels it is handed are `GenLabel`s and the comments are `CommentOK`, over the character
  class `okcA` of names (no white space, none of `, : [ ] !`, not `.` `/` `#`).
  Internal labels are `lab<n>`; the comments of memory.rs are no hooks by their form (`MemCom`,
  Scc/Mem/Code.lean), the others are literals (none starts with `#ctx [`).
  `routine_namesOK`: every item of the routine emitted for a program whose names are `okcA`-strings
  (`progNamesOK okcA`) passes `nmA`.
-/
import Scc.Backend.LoaderNamesC
import Scc.A64.LoaderCheck
import Scc.A64.Backend
import Scc.A64.CodeBlk

set_option linter.unusedVariables false

namespace Scc.A64.Loader

open Scc.AxCut Scc.Backend Scc.Backend.NamesC
open Scc.X86 (AllP Post)
open Scc.X86.Loader (NoNL StrOK OkcSpec GenLabel CtxVars identOK progNamesOK noNL_append
  strOK_print)

/-- characters of a name that is safe in AArch64 labels and hook comments -/
def okcA (c : Char) : Bool := labelC c && c != '.' && c != '/' && c != '#'

theorem okcA_facts {c : Char} (h : okcA c = true) : labelC c = true ∧ c ≠ '.' ∧ c ≠ '/' ∧ c ≠ '#' := by
  simp only [okcA, Bool.and_eq_true, bne_iff_ne, ne_eq] at h
  exact ⟨h.1.1.1, h.1.1.2, h.1.2, h.2⟩

theorem okcA_digit {c : Char} (h : c.isDigit = true) : okcA c = true := by
  have hr : 48 ≤ c.val ∧ c.val ≤ 57 := by simpa [Char.isDigit] using h
  have key : ∀ d : Char, (d.val < 48 ∨ 57 < d.val) → c ≠ d := by
    intro d hd e; subst e
    rcases hd with hd | hd
    · exact absurd hr.1 (by simpa using hd)
    · exact absurd hr.2 (by simpa using hd)
  have hf := isDigit_facts h
  simp only [okcA, labelC, Bool.and_eq_true, bne_iff_ne, ne_eq, Bool.not_eq_true']
  exact ⟨⟨⟨⟨⟨⟨⟨⟨hf.2.1, key _ (by decide)⟩, key _ (by decide)⟩, key _ (by decide)⟩, key _ (by decide)⟩,
    key _ (by decide)⟩, key _ (by decide)⟩, key _ (by decide)⟩, key _ (by decide)⟩

theorem okcSpecA : OkcSpec okcA where
  nl := by intro c h e; subst e; revert h; decide
  us := by decide
  digit := fun c hc => okcA_digit hc

theorem okcA_hash : okcA '#' = false := by decide

theorem strOK_natRen (n : Nat) : StrOK okcA (natRen n) := Scc.X86.Loader.strOK_natToString okcSpecA n

theorem labelDefOK_of_strOK {l : String} (h : StrOK okcA l) (hne : l.toList ≠ []) : labelDefOK l = true := by
  simp only [labelDefOK, labelOK, Bool.and_eq_true, Bool.not_eq_true', List.all_eq_true, bne_iff_ne, ne_eq]
  refine ⟨⟨⟨?_, fun c hc => (okcA_facts (h c hc)).1⟩, ?_⟩, ?_⟩
  · cases hl : l.toList with
    | nil => exact absurd hl hne
    | cons _ _ => rfl
  · intro e
    exact (okcA_facts (h '.' (List.mem_of_mem_head? e))).2.1 rfl
  · cases hp : ['/', '/'].isPrefixOf l.toList with
    | false => rfl
    | true =>
      obtain ⟨t, ht⟩ := List.isPrefixOf_iff_prefix.1 hp
      exact absurd rfl (okcA_facts (h '/' (by rw [← ht]; simp))).2.2.1

theorem labelOK_of_labelDefOK {l : String} (h : labelDefOK l = true) : labelOK l = true := by
  simp only [labelDefOK, Bool.and_eq_true] at h; exact h.1.1

theorem strOK_lab (n : Nat) : StrOK okcA ("lab" ++ toString n) := by
  intro c hc
  rw [String.toList_append, Scc.Str.toList_toString_nat] at hc
  rcases List.mem_append.1 hc with hc | hc
  · have : ∀ c ∈ "lab".toList, okcA c = true := by decide +kernel
    exact this c hc
  · exact okcA_digit (Scc.Str.isDigit_toDigits n c hc)

theorem labelDefOK_lab (n : Nat) : labelDefOK ("lab" ++ toString n) = true :=
  labelDefOK_of_strOK (strOK_lab n) (by rw [String.toList_append]; simp)

theorem labelOK_lab (n : Nat) : labelOK ("lab" ++ toString n) = true := labelOK_of_labelDefOK (labelDefOK_lab n)

theorem labelDefOK_genLabel {l : String} (h : GenLabel okcA natRen l) : labelDefOK l = true := by
  rcases h with ⟨h1, h2⟩ | ⟨n, rfl⟩ | rfl
  · exact labelDefOK_of_strOK h1 (fun e => by rw [e] at h2; simp at h2)
  · exact labelDefOK_lab n
  · decide

theorem labelOK_genLabel {l : String} (h : GenLabel okcA natRen l) : labelOK l = true :=
  labelOK_of_labelDefOK (labelDefOK_genLabel h)

theorem commentTextOK_of_commentOK {m : String} (h : CommentOK okcA m) : commentTextOK m = true := by
  obtain ⟨h1, h2 | ⟨ctx, hc, rfl⟩⟩ := h
  · exact commentTextOK_plain h1 h2
  · rw [ctxHookComment_eq] at h1 ⊢
    apply commentTextOK_hook _ _ h1
    intro v hv
    obtain ⟨b, hb, rfl⟩ := List.mem_map.1 hv
    intro hm
    have := (okcA_facts (strOK_print okcSpecA (hc b hb) _ hm)).1
    revert this; decide

theorem nm_commentLit {m : String} (h1 : NoNL m) (h2 : MM m) : nmA (.COMMENT m) = true :=
  commentTextOK_plain h1 (mm_not_prefix h2)

/-- a comment that is a string literal: `lit_ok` proves `NoNL` and `MM` of the literal by its two rules
(X86/LoaderNames.lean, Backend/LoaderNamesC.lean), each a `decide` on the characters -/
local macro "cm_ok" : tactic => `(tactic| exact nm_commentLit (by lit_ok) (by lit_ok))

abbrev NmOK (l : List Code) : Prop := l.all nmA = true

theorem nmOK_append {a b : List Code} : NmOK (a ++ b) ↔ NmOK a ∧ NmOK b := by
  simp [NmOK, List.all_append]

theorem nmOK_cons {c : Code} {l : List Code} : NmOK (c :: l) ↔ nmA c = true ∧ NmOK l := by
  simp [NmOK, List.all_cons]

theorem nmOK_nil : NmOK [] := rfl

theorem allP_iff {l : List Code} : AllP (fun c => nmA c = true) l ↔ NmOK l := by
  simp [AllP, NmOK, List.all_eq_true]

/-- the strings of a `Leaf` are text-safe: only its comments have any, and they are no hooks -/
theorem _root_.Scc.A64.Mem.Leaf.nm {rok iok : Prop} {c : Code} (h : Mem.Leaf rok iok c) : nmA c = true := by
  cases h with
  | @com m hm =>
    exact commentTextOK_plain hm.1 fun hp => by
      obtain ⟨t, ht⟩ := hp
      have : m.toList[1]? = some 'c' := by rw [← ht]; rfl
      exact hm.2 this
  | instr hf _ _ => cases c <;> first | rfl | cases hf

theorem _root_.Scc.A64.Mem.CItems.nmOK {rok iok : Prop} {l : List Code} (h : Mem.CItems rok iok l) : NmOK l :=
  List.all_eq_true.2 fun c hc => (h c hc).1.nm

/-! ## code.rs: read off the form of the code; the methods with a label argument apart -/

theorem nm_op (o : BinOp) (t s1 s2 : Temporary) : NmOK (op o t s1 s2) := (Mem.items_op (iok := True) o t s1 s2).nmOK
theorem nm_compare (a b : Temporary) : NmOK (compare a b) := (Mem.items_compare (iok := True) a b).nmOK
theorem nm_compareImmediate (t : Temporary) (i : Int) : NmOK (compareImmediate t i) :=
  (Mem.items_compareImmediate t i).nmOK
theorem nm_loadImmediate (t : Temporary) (i : Int) : NmOK (loadImmediate t i) :=
  (Mem.items_loadImmediate (iok := True) t i).nmOK
theorem nm_mov (t s : Temporary) : NmOK (mov t s) := (Mem.items_mov (iok := True) t s).nmOK
theorem nm_storeTemporary (t : Temporary) (sp : Bool) : NmOK (storeTemporary t sp) :=
  (Mem.items_storeTemporary (iok := True) t sp).nmOK
theorem nm_restoreTemporary (t : Temporary) (sp : Bool) : NmOK (restoreTemporary t sp) :=
  (Mem.items_restoreTemporary (iok := True) t sp).nmOK

theorem nm_jump (t : Temporary) : NmOK (jump t) := by cases t <;> rfl
theorem nm_addAndJump (t : Temporary) (i : Int) : NmOK (addAndJump t i) := by cases t <;> rfl

theorem nm_branchOf (s : IfSort) {l : String} (h : labelOK l = true) : nmA (branchOf s l) = true := by
  cases s <;> exact h

theorem nm_jumpLabelIf (s : IfSort) (a b : Temporary) {l : String} (h : labelOK l = true) :
    NmOK (jumpLabelIf s a b l) :=
  nmOK_append.2 ⟨nm_compare _ _, nmOK_cons.2 ⟨nm_branchOf s h, nmOK_nil⟩⟩

theorem nm_jumpLabelIfZero (s : IfSort) (a : Temporary) {l : String} (h : labelOK l = true) :
    NmOK (jumpLabelIfZero s a l) :=
  nmOK_append.2 ⟨nm_compareImmediate _ _, nmOK_cons.2 ⟨nm_branchOf s h, nmOK_nil⟩⟩

theorem nm_loadLabel (t : Temporary) {l : String} (h : labelOK l = true) : NmOK (loadLabel t l) := by
  cases t
  · exact nmOK_cons.2 ⟨h, nmOK_nil⟩
  · exact nmOK_cons.2 ⟨h, rfl⟩

theorem nm_printI64G (old nl : Bool) (t : Temporary) (ctx : Ctx) : NmOK (printI64G old nl t ctx) :=
  List.all_eq_true.2 fun c hc => (Mem.items_printI64G old nl t ctx c hc).elim (·.nm) (by rintro rfl; cases nl <;> decide)

/-! ## memory.rs -/

abbrev PostNm (m : GenM (List Code)) : Prop := Post m NmOK

theorem nm_LAB_lab (n : Nat) : nmA (.LAB ("lab" ++ toString n)) = true := labelDefOK_lab n
theorem nm_BEQ_lab (n : Nat) : nmA (.BEQ ("lab" ++ toString n)) = true := labelOK_lab n
theorem nm_B_lab (n : Nat) : nmA (.B ("lab" ++ toString n)) = true := labelOK_lab n

theorem _root_.Scc.A64.Mem.Blk.nmOK {rok iok : Prop} {l : List Code} (h : Mem.Blk rok iok l) : NmOK l :=
  List.all_eq_true.2 (Scc.Backend.Blk.forall (S := Mem.syn) (P := fun c => nmA c = true) (fun _ hl => hl.nm)
    (fun _ n _ => nm_BEQ_lab n) (fun n => nm_B_lab n) (fun n => nm_LAB_lab n) h)

theorem postNm_store (toStore ctx : Ctx) : PostNm (store toStore ctx) :=
  fun _ _ _ h => (Mem.blk_store toStore ctx h).nmOK

theorem postNm_load (toLoad ctx : Ctx) : PostNm (load toLoad ctx) :=
  fun _ _ _ h => (Mem.blk_load toLoad ctx h).nmOK

theorem postNm_eraseBlock (t : Temporary) : PostNm (eraseBlock t) :=
  fun _ _ _ h => (Mem.blk_eraseBlock t h).nmOK

theorem postNm_shareBlockN (t : Temporary) (n : Nat) : PostNm (shareBlockN t n) :=
  fun _ _ _ h => (Mem.blk_shareBlockN t n h).nmOK

theorem opsNamesC_a64 :
    OpsNamesC a64Backend (fun c => nmA c = true) (CommentOK okcA) (GenLabel okcA natRen) where
  comment := fun m hm => commentTextOK_of_commentOK hm
  label := fun l hl => labelDefOK_genLabel hl
  jump := fun t => allP_iff.2 (nm_jump t)
  jumpLabel := fun l hl => allP_iff.2 (nmOK_cons.2 ⟨labelOK_genLabel hl, nmOK_nil⟩)
  jumpLabelFixed := fun l hl => allP_iff.2 (nmOK_cons.2 ⟨labelOK_genLabel hl, nmOK_nil⟩)
  jumpLabelIf := fun s a b l hl => allP_iff.2 (nm_jumpLabelIf s a b (labelOK_genLabel hl))
  jumpLabelIfZero := fun s a l hl => allP_iff.2 (nm_jumpLabelIfZero s a (labelOK_genLabel hl))
  loadImmediate := fun t n => allP_iff.2 (nm_loadImmediate t n)
  loadLabel := fun t l hl => allP_iff.2 (nm_loadLabel t (labelOK_genLabel hl))
  addAndJump := fun t k => allP_iff.2 (nm_addAndJump t k)
  binop := fun o t s1 s2 => allP_iff.2 (nm_op o t s1 s2)
  mov := fun t s => allP_iff.2 (nm_mov t s)
  printI64 := fun nl t ctx => Post.pure (allP_iff.2 (nm_printI64G false nl t ctx))
  eraseBlock := fun t => (postNm_eraseBlock t).mono fun _ => allP_iff.2
  shareBlockN := fun t n => (postNm_shareBlockN t n).mono fun _ => allP_iff.2
  store := fun a b => (postNm_store a b).mono fun _ => allP_iff.2
  load := fun a b => (postNm_load a b).mono fun _ => allP_iff.2
  storeTemporary := fun t sp => allP_iff.2 (nm_storeTemporary t sp)
  restoreTemporary := fun t sp => allP_iff.2 (nm_restoreTemporary t sp)

theorem nm_moveArguments : ∀ (n : Nat) (codes : List Code), moveArguments n = .ok codes → NmOK codes
  | 0, codes, h => by simp only [moveArguments] at h; cases h; decide
  | 1, codes, h => by simp only [moveArguments] at h; cases h; decide
  | n + 2, codes, h => by
    simp only [moveArguments] at h
    split at h
    · split at h
      · rename_i rest hrest
        cases h
        exact nmOK_append.2 ⟨nmOK_cons.2 ⟨by cm_ok, rfl⟩, nm_moveArguments (n + 1) _ hrest⟩
      · cases h
    · cases h

theorem nm_setup {n : Nat} {codes : List Code} (h : setup n = .ok codes) : NmOK codes := by
  unfold setup at h
  split at h
  · cases h
  · rename_i moves hm
    cases h
    simp only [nmOK_append]
    exact ⟨⟨by decide +kernel, nm_moveArguments _ _ hm⟩, by decide +kernel⟩

theorem nm_cleanup : NmOK cleanup := by decide +kernel
theorem nm_preamble : NmOK preamble := by decide +kernel

/-- the strings of every item of the routine emitted for a program with text-safe names are text-safe -/
theorem routine_namesOK {p : AxCut.Prog} {hooks : Bool} {c0 : Nat} {body routine : List Code} {nargs : Nat}
    (hp : progNamesOK okcA p = true) (h : compileProg a64Backend p hooks c0 = .ok (body, nargs, routine)) :
    NmOK body ∧ NmOK routine := by
  unfold compileProg at h
  split at h
  · cases h
  · rename_i b n c' hr
    have hb : NmOK b := allP_iff.1 (post_compileR_namesC okcSpecA okcA_hash strOK_natRen opsNamesC_a64
      hooks p hp c0 _ c' hr)
    split at h
    · cases h
    · rename_i rt hrt
      cases h
      refine ⟨hb, ?_⟩
      unfold intoRoutine at hrt
      split at hrt
      · cases hrt
      · rename_i su hsu
        cases hrt
        simp only [nmOK_append]
        exact ⟨⟨⟨⟨nm_preamble, nm_setup hsu⟩, by decide +kernel⟩, hb⟩, nm_cleanup⟩

end Scc.A64.Loader
