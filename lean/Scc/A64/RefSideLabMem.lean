/-
  Scc.A64.RefSideLabMem — SIDE HYPOTHESES of the AArch64 run theorems (C07): the labels DEFINED by
  the code of the memory methods of the AArch64 backend (memory.rs: erase_block, share_block_n, store, load).
  Every label definition of that code comes from `skip_if_zero` / `if_zero_then_else`, which define the
  labels `lab<n>` of the numbers they draw: for EVERY run of a memory method from the counter value `k` to
  `k'`, the labels defined by the code are `lab<n>` for pairwise distinct numbers `k < n ≤ k'` (`LFC`).
  The AArch64 analogue of Scc/X86/RefSideLabMem.lean.
-/
import Scc.A64.RefStep
import Scc.A64.MemProofsLoadTop
import Scc.A64.MemProofsStoreFields
import Scc.Backend.ProofsLabelsGen

namespace Scc.A64.Ref

open Scc.AxCut Scc.Backend

/-- `L` lists the local labels `lab<n>` of pairwise distinct numbers in `(lo, hi]` -/
def LF (lo hi : Nat) (L : List String) : Prop :=
  ∃ ns : List Nat, L = ns.map labName ∧ ns.Nodup ∧ ∀ n ∈ ns, lo < n ∧ n ≤ hi

theorem LF.mono {lo hi lo' hi' : Nat} {L : List String} (h : LF lo hi L) (h1 : lo' ≤ lo) (h2 : hi ≤ hi') :
    LF lo' hi' L := Lab.LF.mono h h1 h2

theorem LF.append {a b c : Nat} {L1 L2 : List String} (h1 : LF a b L1) (h2 : LF b c L2) (hab : a ≤ b)
    (hbc : b ≤ c) : LF a c (L1 ++ L2) := Lab.LF.append h1 h2 hab hbc

theorem LF.single (k : Nat) : LF k (k + 1) [labName (k + 1)] := Lab.LF.single k

abbrev NL (code : List Code) : Prop := NoL code

theorem NL.labs {code : List Code} (h : NL code) : labs code = [] := labs_nil_of h

theorem NL.append {a b : List Code} (ha : NL a) (hb : NL b) : NL (a ++ b) := noL_append ha hb

theorem NL.nil : NL [] := noL_nil

theorem labs_cons_lab (l : String) (r : List Code) : labs (.LAB l :: r) = l :: labs r := rfl

theorem labs_cons_other {c : Code} (h : labOf c = none) (r : List Code) : labs (c :: r) = labs r := by
  unfold labs
  rw [List.filterMap_cons, h]

/-- the labels defined by `code`, generated from counter `k` to `k'` -/
def LFC (k k' : Nat) (code : List Code) : Prop := k ≤ k' ∧ LF k k' (labs code)

theorem LFC.of_nl {code : List Code} (h : NL code) (k : Nat) : LFC k k code :=
  ⟨Nat.le_refl _, by rw [h.labs]; exact Lab.LF.nil _ _⟩

theorem LFC.append {a b c : Nat} {c1 c2 : List Code} (h1 : LFC a b c1) (h2 : LFC b c c2) :
    LFC a c (c1 ++ c2) :=
  ⟨by have := h1.1; have := h2.1; omega, by rw [labs_append]; exact h1.2.append h2.2 h1.1 h2.1⟩

theorem LFC.nl_left {a b : Nat} {c1 c2 : List Code} (h1 : NL c1) (h2 : LFC a b c2) : LFC a b (c1 ++ c2) :=
  ⟨h2.1, by rw [labs_append, h1.labs]; exact h2.2⟩

theorem LFC.cons_other {a b : Nat} {c : Code} {c2 : List Code} (h : labOf c = none) (h2 : LFC a b c2) :
    LFC a b (c :: c2) :=
  ⟨h2.1, by rw [labs_cons_other h]; exact h2.2⟩

theorem labs_skipIfZero (cond : Register) (body : List Code) (k : Nat) :
    labs ([.CMPI cond 0, .BEQ (labName (k + 1))] ++ body ++ [.LAB (labName (k + 1))]) =
      labs body ++ [labName (k + 1)] := by
  simp only [labs_append]
  rfl

theorem lfc_skipIfZero {cond : Register} {body : List Code} {a k : Nat} (hb : LFC a k body)
    {code : List Code} {k' : Nat} (h : (skipIfZero cond body).run k = .ok (code, k')) : LFC a k' code := by
  rw [skipIfZero_run] at h
  injection h with h
  injection h with h1 h2
  subst h1 h2
  refine ⟨by have := hb.1; omega, ?_⟩
  rw [labs_skipIfZero]
  exact hb.2.append (LF.single k) hb.1 (by omega)

theorem labs_ifZeroThenElse (cond : Register) (tb eb : List Code) (k : Nat) :
    labs ([.CMPI cond 0, .BEQ (labName (k + 1))] ++ eb ++ [.B (labName (k + 2)), .LAB (labName (k + 1))] ++ tb ++
      [.LAB (labName (k + 2))]) = labs eb ++ labName (k + 1) :: (labs tb ++ [labName (k + 2)]) := by
  simp only [labs_append]
  have e1 : labs [Code.CMPI cond 0, Code.BEQ (labName (k + 1))] = [] := rfl
  rw [e1]
  simp only [List.nil_append, List.append_assoc]
  rfl

/-- `if_zero_then_else`: the branches were generated before, from `a` to `b` and from `b` to `k` (in any
order) -/
theorem lfc_ifZeroThenElse {r : Register} {tb eb : List Code} {a k : Nat}
    (hb : LF a k (labs eb ++ labs tb)) (hak : a ≤ k)
    {code : List Code} {k' : Nat} (h : (ifZeroThenElse r tb eb).run k = .ok (code, k')) : LFC a k' code := by
  rw [ifZeroThenElse_run] at h
  injection h with h
  injection h with h1 h2
  subst h1 h2
  refine ⟨by omega, ?_⟩
  rw [labs_ifZeroThenElse]
  exact Lab.LF.ifZeroThenElse hb hak

theorem nl_loadPtr (t : Temporary) : NL (loadPtr t) := by
  cases t
  · exact noL_nil
  · exact noL_single rfl

theorem labs_eraseCode (r : Register) (l1 l2 l3 : String) : labs (eraseCode r l1 l2 l3) = [l1, l2, l3] := rfl

theorem lfc_eraseBlock {t : Temporary} {k : Nat} {code : List Code} {k' : Nat}
    (h : (eraseBlock t).run k = .ok (code, k')) : LFC k k' code := by
  rw [eraseBlock_run] at h
  injection h with h
  injection h with h1 h2
  subst h1 h2
  refine ⟨by omega, ?_⟩
  rw [labs_append, (nl_loadPtr t).labs, labs_eraseCode]
  exact Lab.LF.offsets k 3 [1, 2, 3] (by decide) (by decide)

theorem labs_shareCode (r : Register) (n : Nat) (l : String) : labs (shareCode r n l) = [l] := rfl

theorem lfc_shareBlockN {t : Temporary} {n k : Nat} {code : List Code} {k' : Nat}
    (h : (shareBlockN t n).run k = .ok (code, k')) : LFC k k' code := by
  rw [shareBlockN_run] at h
  injection h with h
  injection h with h1 h2
  subst h1 h2
  refine ⟨by omega, ?_⟩
  rw [labs_append, (nl_loadPtr t).labs, labs_shareCode]
  exact LF.single k

theorem labs_eraseFieldCode (blk : Register) (i k : Nat) :
    labs (eraseFieldCode blk i k) = [labName (k + 1), labName (k + 2), labName (k + 3)] := rfl

/-- an `if_zero_then_else` one of whose branches defines no label -/
theorem lfc_ite_then {r : Register} {tb eb : List Code} {a k : Nat} (ht : NL tb) (he : LFC a k eb) :
    LFC a (k + 2) (Mem.ifZeroThenElseC r tb eb k) :=
  lfc_ifZeroThenElse (by rw [ht.labs, List.append_nil]; exact he.2) he.1 (Mem.ifZeroThenElse_run _ _ _ _)

theorem lfc_ite_else {r : Register} {tb eb : List Code} {a k : Nat} (he : NL eb) (ht : LFC a k tb) :
    LFC a (k + 2) (Mem.ifZeroThenElseC r tb eb k) :=
  lfc_ifZeroThenElse (by rw [he.labs]; exact ht.2) ht.1 (Mem.ifZeroThenElse_run _ _ _ _)

/-- `erase_fields`: every child draws the three labels of its `erase_block` -/
theorem lfc_eraseFieldsC (r : Register) : ∀ (n off k : Nat), LFC k (k + 3 * n) (Mem.eraseFieldsC r n off k)
  | 0, _, k => LFC.of_nl NL.nil k
  | n + 1, off, k => by
    rw [show k + 3 * (n + 1) = k + 3 + 3 * n by omega]
    exact LFC.append (LFC.nl_left (by simp [NL, NoL, labOf]) (lfc_eraseBlock (Mem.eraseBlock_run _ k)))
      (lfc_eraseFieldsC r n (off + 1) (k + 3))

/-- `acquire_block`: the nine labels of the three children, then two for each of its two tests -/
theorem lfc_acquireBlock {t : Temporary} {k : Nat} {code : List Code} {k' : Nat}
    (h : (acquireBlock t).run k = .ok (code, k')) : LFC k k' code := by
  rw [Mem.acquireBlock_run] at h
  injection h with h
  injection h with h1 h2
  subst h1 h2
  exact LFC.nl_left (by cases t <;> simp [Mem.acquireHead, NL, NoL, labOf])
    (lfc_ite_else (by simp [NL, NoL, labOf]) (LFC.nl_left (by simp [NL, NoL, labOf])
      (lfc_ite_then (by simp [NL, NoL, labOf]) (LFC.nl_left (by simp [NL, NoL, labOf])
        (lfc_eraseFieldsC HEAP FIELDS_PER_BLOCK 0 k)))))

theorem tfp_k {p k : Nat} {t : Temporary} {k' : Nat}
    (h : (temporaryFromPosition p).run k = .ok (t, k')) : k' = k := by
  unfold temporaryFromPosition at h
  simp only at h
  split at h
  · simp only [run_pure_ok] at h; exact h.2.symm
  · split at h
    · simp only [run_pure_ok] at h; exact h.2.symm
    · exact ((run_throw_ok _ _ _ _).1 h).elim

theorem a64_vt_k {n : TempNum} {Γ : Ctx} {id k : Nat} {t : Temporary} {k' : Nat}
    (h : (variableTemporary n Γ id).run k = .ok (t, k')) : k' = k := by
  unfold variableTemporary at h
  cases hp : getPosition Γ id with
  | none => rw [hp] at h; exact ((run_throw_ok _ _ _ _).1 h).elim
  | some p => rw [hp] at h; exact tfp_k h

theorem nl_storeZero (r : Register) (off : Nat) : NL (storeZero r off) := noL_single rfl

theorem nl_loadImmediate (t : Temporary) (i : Int) : NL (loadImmediate t i) := noL_loadImmediate t i

/-- the labels of the code of `store` are those `acquire_block` draws -/
theorem memCode_lfc : Mem.memCode.Counts LFC where
  nil := fun k => LFC.of_nl NL.nil k
  append := LFC.append
  comment := fun s k => LFC.of_nl (fun c hc => by rw [List.mem_singleton.1 hc]; rfl) k
  stF := fun t r num off k => LFC.of_nl (by
    cases t with
    | register _ => exact noL_single rfl
    | spill _ => exact noL_cons rfl (noL_single rfl)) k
  stZ := fun r off k => LFC.of_nl (nl_storeZero _ off) k
  acq := fun m k => lfc_acquireBlock (Mem.acquireBlock_run (posTemp m) k)
  zero := fun m k => LFC.of_nl (nl_loadImmediate _ _) k

theorem lfc_store {ts rem : Ctx} {k : Nat} {code : List Code} {k' : Nat}
    (h : (store ts rem).run k = .ok (code, k')) : LFC k k' code := by
  obtain ⟨-, e⟩ := Mem.emits_store ts rem k _ h
  have := memCode_lfc.storeFieldsC (ts.length + 1) ts rem.length .last k
  rw [← e] at this
  exact this

/-- the labels of the code of `load_fields` are those `share_block` draws -/
theorem loadCode_lfc : Mem.loadCode.LoadCounts LFC where
  nil := fun k => LFC.of_nl NL.nil k
  append := LFC.append
  comment := fun s k => LFC.of_nl (fun c hc => by rw [List.mem_singleton.1 hc]; rfl) k
  ldF := fun t r num off k => LFC.of_nl (by
    cases t with
    | register _ => exact noL_single rfl
    | spill _ => exact noL_cons rfl (noL_single rfl)) k
  shr := fun m k => lfc_shareBlockN (t := .register (Mem.shareReg (posTemp m))) (n := 1) (Mem.shareBlockN_run _ 1 k)
  release := fun r k => LFC.of_nl (noL_cons rfl (noL_single rfl)) k
  evac := fun k => LFC.of_nl (noL_single rfl) k
  ldBlk := fun m k => LFC.of_nl (noL_single rfl) k
  restore := fun k => LFC.of_nl (noL_single rfl) k

/-- the labels of the test of the reference count come after those of the two branches -/
theorem lfc_top (m : Nat) {a b c : Nat} {x y : List Code} (hT : LFC a b x) (hE : LFC b c y) :
    LFC a (c + 2) (Mem.loadCode.top m x y c) := by
  have hnl : NL (Mem.loadHead (posTemp m)) := by
    cases posTemp m
    · exact noL_cons rfl (noL_single rfl)
    · exact noL_cons rfl (noL_cons rfl (noL_single rfl))
  refine LFC.nl_left hnl (LFC.cons_other rfl ?_)
  refine lfc_ifZeroThenElse (a := a) ?_ (Nat.le_trans hT.1 hE.1) (Mem.ifZeroThenElse_run _ _ _ _)
  have e1 : ∀ l : List Code, labs ([Code.COMMENT "##either decrement refcount and share children...",
      Code.SUBI TEMP2 TEMP2 1, Code.STR TEMP2 (Mem.shareReg (posTemp m)) REFERENCE_COUNT_OFFSET] ++ l) =
      labs l := fun _ => rfl
  have e2 : ∀ l : List Code,
      labs (Code.COMMENT "##... or release blocks onto linear free list when loading" :: l) = labs l := fun _ => rfl
  rw [e1, e2]
  exact Lab.LF.append' hT.2 hE.2 hT.1 hE.1

theorem lfc_load {tl ex : Ctx} {k : Nat} {code : List Code} {k' : Nat}
    (h : (load tl ex).run k = .ok (code, k')) : LFC k k' code := by
  obtain ⟨-, e⟩ := Mem.emits_load tl ex k _ h
  have := loadCode_lfc.loadC lfc_top tl ex.length k
  rw [← e] at this
  exact this

end Scc.A64.Ref
