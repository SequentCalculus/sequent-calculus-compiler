/-
  Scc.A64.RefSideLabels — SIDE HYPOTHESES of the AArch64 run theorems (C07): THE LABELS OF THE
  EMITTED ROUTINE ARE PAIRWISE DISTINCT for every `LabelSafe` program (`labels_unique_a64`) — the AArch64
  analogue of `C14Generic.labels_unique` (which is about the mock code) and of Scc/X86/RefSideLabels.lean.
  The walk over the generic generator is that of Scc/Backend/ProofsLabelsGen.lean; this file says which
  AArch64 methods define no label and which (the memory methods, RefSideLabMem.lean) local labels `lab<n>`
  drawn from the counter (`labOps_a64`), and adds the two labels of the routine wrapper, `asm_main` and `cleanup`.
-/
import Scc.A64.RefSideLabMem
import Scc.A64.RefCompose

namespace Scc.A64.Ref

open Scc.AxCut Scc.Backend

abbrev R : Lbl → String := Lbl.render natRen

theorem labName_eq (n : Nat) : labName n = R (.lab n) := rfl

/-- the labels defined by `items` are the renderings of pairwise distinct structured labels, each either
one of the special labels `S` or a generated label with a number in `(a, b]`; the xtor names of clause
labels are in `X` -/
def G (S : List Lbl) (X : List String) (a b : Nat) (items : List Code) : Prop :=
  a ≤ b ∧ ∃ ls : List Lbl, labs items = ls.map R ∧ ls.Nodup ∧ (∀ l ∈ ls, l ∈ S ∨ InRange a b l) ∧
    ∀ l ∈ ls, ∀ x, l.xtor? = some x → x ∈ X

/-- the special labels are not generated labels with a number above `a` -/
def Below (a : Nat) (S : List Lbl) : Prop := ∀ l ∈ S, ∀ n, l.num = some n → n ≤ a

theorem G_iff {S : List Lbl} {X : List String} {a b : Nat} {items : List Code} :
    G S X a b items ↔ Lab.G S X a b (labs items) := Iff.rfl

theorem G.monoS {S S' : List Lbl} {X : List String} {a b : Nat} {items : List Code} (h : G S X a b items)
    (hS : ∀ l ∈ S, l ∈ S') : G S' X a b items := Lab.G.monoS h hS

theorem G.widen {S : List Lbl} {X : List String} {a b a' b' : Nat} {items : List Code} (h : G S X a b items)
    (h1 : a' ≤ a) (h2 : b ≤ b') : G S X a' b' items := Lab.G.widen h h1 h2

theorem G.append {S1 S2 : List Lbl} {X : List String} {a b c : Nat} {c1 c2 : List Code}
    (h1 : G S1 X a b c1) (h2 : G S2 X b c c2) (hd : ∀ l ∈ S1, ∀ l' ∈ S2, l ≠ l')
    (hb1 : Below a S1) (hb2 : Below a S2) : G (S1 ++ S2) X a c (c1 ++ c2) :=
  Lab.G.append_or (G_iff.1 h1) (G_iff.1 h2) hd hb1 hb2 (Or.inl (labs_append c1 c2))

/-- the same when the second piece stands BEFORE the first in the code -/
theorem G.append' {S1 S2 : List Lbl} {X : List String} {a b c : Nat} {c1 c2 : List Code}
    (h1 : G S1 X a b c1) (h2 : G S2 X b c c2) (hd : ∀ l ∈ S1, ∀ l' ∈ S2, l ≠ l')
    (hb1 : Below a S1) (hb2 : Below a S2) : G (S1 ++ S2) X a c (c2 ++ c1) :=
  Lab.G.append_or (G_iff.1 h1) (G_iff.1 h2) hd hb1 hb2 (Or.inr (labs_append c2 c1))

theorem nl_comment (m : String) : NL [a64Backend.comment m] := noL_single rfl

theorem nl_loadLabel (t : Temporary) (l : String) : NL (loadLabel t l) := by
  cases t
  · exact noL_single rfl
  · exact noL_cons rfl (noL_single rfl)

theorem nl_jump (t : Temporary) : NL (jump t) := by
  cases t
  · exact noL_single rfl
  · exact noL_cons rfl (noL_single rfl)

theorem nl_addAndJump (t : Temporary) (i : Int) : NL (addAndJump t i) := by
  cases t
  · exact noL_cons rfl (noL_single rfl)
  · exact noL_cons rfl (noL_cons rfl (noL_single rfl))

theorem nl_jumpLabelIf (s : IfSort) (a b : Temporary) (l : String) : NL (jumpLabelIf s a b l) :=
  NL.append (noL_compare a b) (noL_single (labOf_branchOf s l))

theorem nl_jumpLabelIfZero (s : IfSort) (a : Temporary) (l : String) : NL (jumpLabelIfZero s a l) :=
  NL.append (noL_compareImmediate a 0) (noL_single (labOf_branchOf s l))

theorem vt_k' {n : TempNum} {Γ : Ctx} {id k : Nat} {t : Temporary} {k' : Nat}
    (h : (variableTemporary n Γ id).run k = .ok (t, k')) : k' = k := a64_vt_k h

/-- which methods of the AArch64 backend define no label, which local labels drawn from the counter -/
theorem labOps_a64 : Lab.LabOps a64Backend labOf where
  comment := fun _ => rfl
  label := fun _ => rfl
  jump := fun t => (nl_jump t).labs
  jumpLabel := fun _ => rfl
  jumpLabelFixed := fun _ => rfl
  jumpLabelIf := fun s a b l => (nl_jumpLabelIf s a b l).labs
  jumpLabelIfZero := fun s a l => (nl_jumpLabelIfZero s a l).labs
  loadImmediate := fun t n => (nl_loadImmediate t n).labs
  loadLabel := fun t l => (nl_loadLabel t l).labs
  addAndJump := fun t n => (nl_addAndJump t n).labs
  binop := fun o t a b => labs_nil_of (noL_op o t a b)
  mov := fun t s => labs_nil_of (noL_mov t s)
  storeTemporary := fun t sp => labs_nil_of (noL_storeTemporary t sp)
  restoreTemporary := fun t sp => labs_nil_of (noL_restoreTemporary t sp)
  variableTemporary := fun _ _ _ _ _ _ h => a64_vt_k h
  printI64 := fun nl t Γ k code k' h => by
    obtain ⟨rfl, rfl⟩ := (run_pure_ok _ _ _ _).1 h
    exact LFC.of_nl (noL_of_cc (CC.noLab_printI64 nl t Γ)) _
  eraseBlock := fun _ _ _ _ h => lfc_eraseBlock h
  shareBlockN := fun _ _ _ _ _ h => lfc_shareBlockN h
  store := fun _ _ _ _ _ h => lfc_store h
  load := fun _ _ _ _ _ h => lfc_load h

def clauseLbls (m : String) (n : Nat) (cs : Clauses) : List Lbl := (xtorNames cs).map (Lbl.clause m n)

section
variable (hooks : Bool) (types : List TypeDecl)

theorem g_methods (m : String) (n : Nat) : ∀ (cs : Clauses) (env : Ctx) (k : Nat) (items : List Code) (k' : Nat),
    (codeMethodsR a64Backend hooks natRen types env cs (m ++ "_" ++ natRen n)).run k = .ok (items, k') →
    (xtorNames cs).Nodup → clausesXtorsDistinct cs = true → n ≤ k →
    G (clauseLbls m n cs) (xtorNames cs ++ clausesXtorNames cs) k k' items :=
  Lab.g_methods labOps_a64 hooks types m n

end

open Scc.Props.C14Generic (LabelSafe progXtorNames)

/-- the body: the labels of the definitions and generated labels -/
theorem g_body {hooks : Bool} {p : AxCut.Prog} {k : Nat} {body : List Code} {nargs k' : Nat}
    (hr : (compile a64Backend hooks p).run k = .ok ((body, nargs), k')) (hsafe : LabelSafe p = true) :
    G (Lab.defnLbls p.defs) (progXtorNames p) k k' body :=
  Lab.g_compile labOps_a64 hr hsafe

theorem labs_cleanup : labs cleanup = ["cleanup"] := by decide

theorem nl_moveArguments : ∀ (n : Nat) (moves : List Code), moveArguments n = .ok moves → NL moves
  | 0, moves, h => by
    simp only [moveArguments, Except.ok.injEq] at h
    subst h
    exact noL_single rfl
  | 1, moves, h => by
    simp only [moveArguments, Except.ok.injEq] at h
    subst h
    exact noL_cons rfl (noL_single rfl)
  | k + 2, moves, h => by
    simp only [moveArguments] at h
    split at h
    · cases hm : moveArguments (k + 1) with
      | error e => rw [hm] at h; cases h
      | ok rest =>
        rw [hm] at h
        simp only [Except.ok.injEq] at h
        subst h
        exact NL.append (noL_cons rfl (noL_single rfl)) (nl_moveArguments (k + 1) rest hm)
    · cases h

theorem labs_routineHead_eq {n : Nat} {su : List Code} (h : setup n = .ok su) :
    labs (routineHead su) = ["asm_main"] := by
  obtain ⟨moves, hm, rfl⟩ := setup_eq h
  have nm := nl_moveArguments n moves hm
  unfold routineHead
  simp only [labs_append, nm.labs]
  rfl

/-- SIDE HYPOTHESIS: THE LABELS OF THE EMITTED ROUTINE ARE PAIRWISE DISTINCT, for every `LabelSafe`
program, both hook settings, every start value of the label counter -/
theorem labels_unique_a64 {hooks : Bool} {p : AxCut.Prog} {k : Nat} {body routine : List Code} {nargs : Nat}
    (hsafe : LabelSafe p = true) (h : compileProg a64Backend p hooks k = .ok (body, nargs, routine)) :
    (labs routine).Nodup := by
  obtain ⟨k', hc, hr⟩ := compileProg_ok h
  obtain ⟨su, hsu, hrt⟩ := routine_anatomy hr
  rw [hrt, labs_append, labs_append, labs_routineHead_eq hsu, labs_cleanup]
  exact (Lab.body_labels hsafe (g_body hc hsafe)).2

end Scc.A64.Ref
