/-
  Scc.A64.ConcKInv — the heap invariant of C09 ON THE CONCRETE AArch64 MACHINE STATE, derived from the
  closure-aware three-way relation `Scc.A64.Ref.K.X3` (Scc/A64/RefClosHDefs.lean) at a statement boundary.  The
  AArch64 analogue of Scc/X86/ConcInv.lean + ConcKInv.lean.

  `HeapInvAt c σ kinds limit` is the predicate of the executable heap monitor (`heapMonitor` of
  Scc/A64/Machine.lean) with the decision procedure `Scc.Heap.invCheckFn` replaced by what it decides, the
  invariant `Scc.Heap.InvW` (Scc/Heap/Inv.lean), on the raw machine components:
    * memory    = the machine's heap words (unwritten words read 0), as naturals;
    * heap/free = the contents of the registers HEAP (X0) and FREE (X1);
    * roots     = the contents of the FIRST temporaries (utils.rs temporary_from_position: logical registers
                  4..29, then spill slots) of the non-`ext` variables of the context, read exactly as the
                  monitor reads them (`rootOf`; in particular they are DEFINED) — `heapMonitor_roots`;
    * region    = `[heapBase, limit)`.
  `heapInvAt_of_x3`: a machine state in the right half `X3` of the three-way relation (with the left half
  `RelX`, which makes the pointer temporaries of non-`ext` variables defined) satisfies `HeapInvAt` with
  `limit = heapBase + heapBytes`.  A closure is a heap object like a constructor object: its pointer part is a
  root, its word part (a code address) is not looked at by the heap invariant.
  The predicate does not mention the program counter: the machine ahead of the boundary by `#ctx` hooks (`Tol`)
  is in the SAME state `σ`.
  `ctxKinds`, `zipIdx_filter_kinds`, `count_roots` are those of Scc/X86/ConcInv.lean (they do not
  mention a machine).
-/
import Scc.A64.RefClosHRun
import Scc.X86.ConcCheck

namespace Scc.A64.ConcK

open Scc.AxCut Scc.Backend.Abs Scc.Backend.Sim Scc.A64.Ref Scc.A64.CC
open Scc.Backend.Sim2
open Scc.Heap (HState InvS InvW)
open Scc.Heap.Refine (HRef imgW)
open Scc.X86.Conc (ctxKinds zipIdx_filter_kinds count_roots invW_window)

/-- the machine's heap memory as the invariant sees it (`heapMonitor`: `fun a => (σ.heap.getD a 0).toNat`) -/
def memFn (σ : State) : Nat → Nat := fun a => (σ.heap.getD a 0).toNat

/-- the context positions whose first temporary the monitor reads: the variables that are not `ext` -/
def rootIdx (kinds : List Bool) : List Nat := (kinds.zipIdx.filter (·.1)).map (·.2)

/-- THE MONITOR'S PREDICATE on a machine state (with `invCheckFn` replaced by `InvW`): the roots, HEAP and FREE
are readable (defined), and the invariant holds for the raw machine memory in `[heapBase, limit)` -/
def HeapInvAt (c : MemCfg) (σ : State) (kinds : List Bool) (limit : Nat) : Prop :=
  ∃ (roots : List Nat) (h f : Word) (lin lazy live : List Nat) (F : Nat),
    (rootIdx kinds).mapM (rootOf c σ) = .ok roots ∧
    σ.regs[archNumber consts.heap]? = some (some h) ∧ σ.regs[archNumber consts.free]? = some (some f) ∧
    InvW (memFn σ) c.heapBase limit h.toNat f.toNat roots [] lin lazy live F

/-- the kinds a `#ctx […]` hook lists: `true` = not `ext` -/
def hookKinds (vars : List (String × Kind)) : List Bool := vars.map (fun v => !(v.2 == Kind.ext))

theorem heapMonitor_roots_go (c : MemCfg) (σ : State) : ∀ (vars : List (String × Kind)) (i : Nat) (acc : List Nat),
    heapMonitor.roots c σ vars i acc =
      (((((hookKinds vars).zipIdx i).filter (·.1)).map (·.2)).mapM (rootOf c σ)).map (fun rs => acc.reverse ++ rs)
  | [], i, acc => by simp [heapMonitor.roots, hookKinds, Except.map]
  | (nm, k) :: vs, i, acc => by
    rw [heapMonitor.roots]
    by_cases hk : (k == Kind.ext) = true
    · rw [if_pos hk, heapMonitor_roots_go c σ vs (i + 1) acc]
      simp [hookKinds, List.zipIdx_cons, hk]
    · rw [if_neg hk]
      have hk' : (k == Kind.ext) = false := by simpa using hk
      simp only [hookKinds, List.map_cons, hk', Bool.not_false, List.zipIdx_cons, List.filter_cons, if_true,
        List.mapM_cons]
      cases hr : rootOf c σ i with
      | error e => rfl
      | ok r =>
        simp only
        rw [heapMonitor_roots_go c σ vs (i + 1) (r :: acc)]
        show Except.map _ _ = Except.map _ (do let ys ← _; pure (r :: ys))
        simp only [hookKinds]
        cases List.mapM (rootOf c σ) (List.map (fun x => x.2)
            (List.filter (fun x => x.1) ((List.map (fun v => !(v.2 == Kind.ext)) vs).zipIdx (i + 1)))) with
        | error e => rfl
        | ok ys => simp [Except.map, bind, Except.bind, pure, Except.pure]

theorem heapMonitor_roots (c : MemCfg) (σ : State) (vars : List (String × Kind)) :
    heapMonitor.roots c σ vars 0 [] = (rootIdx (hookKinds vars)).mapM (rootOf c σ) := by
  rw [heapMonitor_roots_go]
  unfold rootIdx
  cases List.mapM (rootOf c σ) (List.map (fun x => x.2) (List.filter (fun x => x.1) ((hookKinds vars).zipIdx 0))) with
  | error e => rfl
  | ok ys => simp [Except.map]

theorem rootOf_posTemp {c : MemCfg} (H : CfgCC c) {σ : State} (C : Core c σ) {i : Nat} (hi : 2 * i < 281)
    {w : Word} (h : σ.tempVal (posTemp (2 * i)) = some w) : rootOf c σ i = .ok w.toNat := by
  have hsp := spOkS_of_core H C
  unfold rootOf
  unfold posTemp at h
  have hR : RESERVED = 4 := rfl
  have hN : REGISTER_NUM = 30 := rfl
  have hS : RESERVED_SPILLS = 1 := rfl
  simp only [hR, hN, hS]
  by_cases hr : 2 * i + 4 < 30
  · rw [if_pos hr] at h
    rw [if_pos hr]
    obtain ⟨n, hn, _⟩ := xreg_var (r := 2 * i + 4) (by rw [RESERVED_eq]; omega) (by rw [REGISTER_NUM_eq]; exact hr)
    rw [tempVal_reg hn] at h
    have hv := xreg_val hn
    have hlt : archNumber (2 * i + 4) < 31 := by rw [← hv]; exact n.isLt
    rw [dif_pos hlt]
    have e : σ.regs[archNumber (2 * i + 4)]'hlt = σ.reg n := by
      unfold State.reg
      congr 1
      exact hv.symm
    rw [e, h]
  · rw [if_neg hr] at h
    rw [if_neg hr]
    have hp : 2 * i - 25 < SPILL_NUM := by rw [SPILL_NUM_eq]; omega
    have e : 2 * i + 4 - 30 + 1 = 2 * i - 25 := by omega
    rw [e]
    rw [tempVal_spill] at h
    have hl := load_slot hsp hp
    unfold State.slotAddr at hl h
    rw [hl, h]

/-- the components of the monitor's predicate at a statement boundary, for a given witness of the block-level
invariant -/
theorem heapInv_parts {c : MemCfg} (H : CfgCC c)
    {P : Program} {hooks : Bool} {prog : AxCut.Prog} {Γ : Ctx} {ρ : List Pos.Value} {s : Stmt} {cfg : Config}
    {hs : HState} {ι : Nat → Nat} {κ : Nat → Nat → Word} {σ : State} {out : List (Bool × Word)}
    (R : RelX P hooks prog ⟨Γ, ρ, s⟩ cfg) (X : K.X3 c Γ cfg hs ι κ σ out)
    {lin lazy live : List Nat} {Fr : Nat} (I : InvS hs ((roots Γ cfg.temps).map ι) [] lin lazy live Fr) :
    ∃ (rootsM : List Nat) (w f : Word), (rootIdx (ctxKinds Γ)).mapM (rootOf c σ) = .ok rootsM ∧
      σ.regs[archNumber consts.heap]? = some (some w) ∧ σ.regs[archNumber consts.free]? = some (some f) ∧
      InvW (memFn σ) c.heapBase (c.heapBase + c.heapBytes) w.toNat f.toNat rootsM [] lin lazy live Fr := by
  obtain ⟨w, hw, ew⟩ := X.hrel.heap
  obtain ⟨f, hf, ef⟩ := X.hrel.free
  -- the pointer parts on the abstract machine
  let val : Nat → Word := fun i => K.imgWord ι ((cfg.temps.get (2 * i)).getD 0)
  have hlen : ρ.length = Γ.length := R.len
  have hdef : ∀ i (hi : i < Γ.length), Γ[i].chi ≠ .ext → ∃ r, cfg.temps.get (2 * i) = some r ∧
      σ.tempVal (posTemp (2 * i)) = some (val i) ∧ (val i).toNat = imgW ι r := by
    intro i hi hc
    have hv := (R.vals i hi (by rw [hlen]; exact hi)).2.2.2 ((chi_bne_ext _).mpr hc)
    cases hg : cfg.temps.get (2 * i) with
    | none => rw [hg] at hv; cases hv
    | some r =>
      refine ⟨r, rfl, ?_, ?_⟩
      · have := X.ptrs i hi hc r hg
        simpa [val, hg] using this
      · simp only [val, hg, Option.getD_some]
        exact Scc.Backend.ThreeWay.imgWord_toNat (fun h0 => (K.X3R.ref_lt H X hi hc hg h0).1)
  -- what the monitor reads
  have hread : (rootIdx (ctxKinds Γ)).mapM (rootOf c σ) =
      .ok (((ctxKinds Γ).zipIdx.filter (·.1)).map (fun (ki : Bool × Nat) => (val ki.2).toNat)) := by
    unfold rootIdx
    have := mapM_ok (fun (ki : Bool × Nat) => rootOf c σ ki.2)
      (fun (ki : Bool × Nat) => (val ki.2).toNat) ((ctxKinds Γ).zipIdx.filter (·.1)) (by
        intro ki hki
        rw [List.mem_filter] at hki
        obtain ⟨hmem, hk1⟩ := hki
        obtain ⟨hidx, hlt, hget⟩ := List.mem_zipIdx hmem
        simp only [Nat.zero_add, Nat.sub_zero] at hlt hget
        have hlt' : ki.2 < Γ.length := by simpa [ctxKinds] using hlt
        have hc : Γ[ki.2].chi ≠ .ext := by
          have : (ctxKinds Γ)[ki.2] = true := by rw [← hget]; exact hk1
          apply (chi_bne_ext _).mp
          simpa [ctxKinds] using this
        obtain ⟨r, _, hv, _⟩ := hdef ki.2 hlt' hc
        exact rootOf_posTemp H X.core (by have := X.cap; omega) hv)
    rw [List.mapM_map]
    simpa only [Function.comp_def] using this
  have hregh : σ.regs[archNumber consts.heap]? = some (some w) := by
    rw [HEAP_eq, Ref.tempVal_x0] at hw
    have e : archNumber consts.heap = 0 := by decide
    rw [e, Vector.getElem?_eq_getElem (by decide)]
    exact congrArg some hw
  have hregf : σ.regs[archNumber consts.free]? = some (some f) := by
    rw [FREE_eq, Ref.tempVal_x1] at hf
    have e : archNumber consts.free = 1 := by decide
    rw [e, Vector.getElem?_eq_getElem (by decide)]
    exact congrArg some hf
  refine ⟨_, w, f, hread, hregh, hregf, ?_⟩
  have hmem : memFn σ = hs.mem.get := by
    funext a; exact (X.hrel.mem a).symm
  rw [hmem, ew, ef, ← X.hrel.limit, ← X.hrel.base]
  refine InvW.roots_congr I (fun b hb => ?_)
  have e1 := zipIdx_filter_kinds Γ 0 (fun i => (val i).toNat)
  rw [e1]
  have := count_roots cfg.temps ι (fun i => (val i).toNat) b hb Γ 0 (by
    intro j hj hc
    obtain ⟨r, hr, _, hv⟩ := hdef j hj hc
    exact ⟨r, by rw [Nat.zero_add]; exact hr, by rw [Nat.zero_add]; exact hv⟩)
  rw [this]
  rfl

/-- THE HEAP INVARIANT ON THE CONCRETE MACHINE STATE at a statement boundary (closure-aware relation) -/
theorem heapInvAt_of_x3 {c : MemCfg} (H : CfgCC c)
    {P : Program} {hooks : Bool} {prog : AxCut.Prog} {Γ : Ctx} {ρ : List Pos.Value} {s : Stmt} {cfg : Config}
    {hs : HState} {ι : Nat → Nat} {κ : Nat → Nat → Word} {σ : State} {out : List (Bool × Word)}
    (R : RelX P hooks prog ⟨Γ, ρ, s⟩ cfg) (X : K.X3 c Γ cfg hs ι κ σ out) :
    HeapInvAt c σ (ctxKinds Γ) (c.heapBase + c.heapBytes) ∧ hs.limit = c.heapBase + c.heapBytes := by
  obtain ⟨lin, lazy, live, Fr, I⟩ := X.href.conc
  obtain ⟨rootsM, w, f, h1, h2, h3, h4⟩ := heapInv_parts H R X I
  exact ⟨⟨rootsM, w, f, lin, lazy, live, Fr, h1, h2, h3, h4⟩, X.hrel.limit⟩

/-- THE MONITOR'S CHECK SUCCEEDS where its predicate holds (for the roots of the variables the hook lists) and the
frontier lies inside the monitor's window (the monitor inspects the heap up to 8 blocks above the highest word
ever written, rounded up to a block); it reports the number of blocks below the frontier.  From the COMPLETENESS of
`invCheckFn` (Scc/Heap/ProofsCheckComplete.lean). -/
theorem heapMonitor_ok {c : MemCfg} {σ : State} {vars : List (String × Kind)} {roots : List Nat} {h f : Word}
    {lin lazy live : List Nat} {F : Nat}
    (hr : (rootIdx (hookKinds vars)).mapM (rootOf c σ) = .ok roots)
    (hh : σ.regs[archNumber consts.heap]? = some (some h)) (hf : σ.regs[archNumber consts.free]? = some (some f))
    (I : InvW (memFn σ) c.heapBase (c.heapBase + c.heapBytes) h.toNat f.toNat roots [] lin lazy live F)
    (hw : F + 64 ≤ c.heapBase + ((σ.maxHeap + 63) / 64 * 64 + 8 * 64)) :
    heapMonitor c σ vars = .ok ((F - c.heapBase) / Scc.Heap.blockSize) := by
  have hFr := I.frontier_room
  have I' := invW_window (limit' := c.heapBase + min c.heapBytes ((σ.maxHeap + 63) / 64 * 64 + 8 * 64))
    I (by have := Nat.min_le_left c.heapBytes ((σ.maxHeap + 63) / 64 * 64 + 8 * 64); omega)
    (by rw [Nat.min_def]; split <;> omega)
  obtain ⟨live', hc, _⟩ := Scc.Heap.invCheckFn_complete I'
  unfold heapMonitor
  rw [heapMonitor_roots, hr]
  simp only [hh, hf]
  have hc' : Scc.Heap.invCheckFn (fun a => (σ.heap.getD a 0).toNat) c.heapBase
      (c.heapBase + min c.heapBytes ((σ.maxHeap + 63) / 64 * 64 + 8 * 64)) h.toNat f.toNat roots [] =
      .ok (lin, lazy, live', F) := hc
  rw [hc']

end Scc.A64.ConcK
