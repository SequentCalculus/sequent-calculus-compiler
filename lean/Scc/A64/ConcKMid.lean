/-
  Scc.A64.ConcKMid — runs of the AArch64 SPEC machine WITH THE POSITIONS OF THE `#ctx` HOOKS THEY VISIT (for the
  heap monitor; the AArch64 analogue of Scc/X86/ConcKMid.lean).  On AArch64 a hook is an ITEM of the laid-out
  program; the run loop calls `heapMonitor` exactly when the program counter is at a hook item.
  `MStepsK Q`: `MSteps` (Scc/A64/RefBridge.lean) in which every iteration at a hook item happens at an item index
  satisfying `Q` (`MStepsI`: none at all); the builders of RefBridge.lean / RefHeapBridge.lean for it ask of a block
  that its hook comments, if any, lie at positions in `Q` (`HkIn`; `NoHk`: none; `NoHkQ`: none, or `Q` is total).
  `MStepsHK Q`: a run whose FIRST step may be the `#ctx` hook of the statement boundary it starts at, visited in the
  state the run starts in — the block `hookCode ++ [statement comment]` every statement starts with has its only
  hook at its first position (`hkIn_hook_comment`, `x_msteps_c0H`); `MStepsH`: no other hook step.  A machine that is
  ahead of the boundary by hooks (`Tol`) visits none (`tol_runK`, `tol_runI`, `tol_runH`).  `…R`: through at least one
  instruction (for the progress argument).  `MStepsNP pass`: counted runs in which every hook step satisfies
  `pass σ vs`; a run of the simulation from a boundary is a passing run provided the hook of the boundary passes when
  the machine is at it (`tol_nextP`).
-/
import Scc.A64.ConcKDefs
import Scc.A64.RefHeapBridge

namespace Scc.A64.Ref.K

open Scc.AxCut Scc.Backend Scc.A64.CC

/-- `MSteps` in which every iteration at a `#ctx` hook item happens at an item index satisfying `Q` -/
inductive MStepsK (Q : Nat → Prop) (P : Prog) (c : MemCfg) :
    State → Nat → List (Bool × Word) → State → Nat → List (Bool × Word) → Prop
  | refl (σ : State) (pc : Nat) (out : List (Bool × Word)) : MStepsK Q P c σ pc out σ pc out
  | step {σ σ1 σ2 : State} {pc pc1 pc2 : Nat} {out out1 out2 : List (Bool × Word)} :
      MStep P c σ pc out σ1 pc1 out1 → (∀ vs, P.items[pc]? = some (.hook vs) → Q pc) →
      MStepsK Q P c σ1 pc1 out1 σ2 pc2 out2 → MStepsK Q P c σ pc out σ2 pc2 out2

/-- a run that visits no hook item -/
abbrev MStepsI (P : Prog) (c : MemCfg) := MStepsK (fun _ => False) P c

section K
variable {Q Q' : Nat → Prop} {P : Prog} {c : MemCfg} {σ1 σ2 σ3 : State} {pc1 pc2 pc3 : Nat}
  {o1 o2 o3 : List (Bool × Word)}

theorem MStepsK.trans (h1 : MStepsK Q P c σ1 pc1 o1 σ2 pc2 o2) (h2 : MStepsK Q P c σ2 pc2 o2 σ3 pc3 o3) :
    MStepsK Q P c σ1 pc1 o1 σ3 pc3 o3 := by
  induction h1 with
  | refl => exact h2
  | step hs hq _ ih => exact .step hs hq (ih h2)

theorem MStepsK.one (h : MStep P c σ1 pc1 o1 σ2 pc2 o2) (hq : ∀ vs, P.items[pc1]? = some (.hook vs) → Q pc1) :
    MStepsK Q P c σ1 pc1 o1 σ2 pc2 o2 := .step h hq (.refl _ _ _)

theorem MStepsK.msteps (h : MStepsK Q P c σ1 pc1 o1 σ2 pc2 o2) : MSteps P c σ1 pc1 o1 σ2 pc2 o2 := by
  induction h with
  | refl => exact .refl _ _ _
  | step hs _ _ ih => exact .step hs ih

theorem MStepsK.mono (hqq : ∀ pc, Q pc → Q' pc) (h : MStepsK Q P c σ1 pc1 o1 σ2 pc2 o2) :
    MStepsK Q' P c σ1 pc1 o1 σ2 pc2 o2 := by
  induction h with
  | refl => exact .refl _ _ _
  | step hs hq _ ih => exact .step hs (fun vs hv => hqq _ (hq vs hv)) ih

theorem MStepsK.ofI (h : MStepsI P c σ1 pc1 o1 σ2 pc2 o2) : MStepsK Q P c σ1 pc1 o1 σ2 pc2 o2 :=
  h.mono (fun _ hf => hf.elim)

theorem MStepsK.one_instr {i : Instr} (hi : P.items[pc1]? = some (.instr i))
    (h : MStep P c σ1 pc1 o1 σ2 pc2 o2) : MStepsK Q P c σ1 pc1 o1 σ2 pc2 o2 :=
  .one h (fun vs hv => by rw [hi] at hv; cases hv)

end K

/-- the hook comments of the block at list position `k` lie at item indices in `Q` -/
def HkIn (hk : Code → Bool) (cs : List Code) (Q : Nat → Prop) (k : Nat) (blk : List Code) : Prop :=
  ∀ j (h : j < blk.length), hk blk[j] = true → Q (pcOf hk cs (k + j))

def NoHk (hk : Code → Bool) (blk : List Code) : Prop := ∀ y ∈ blk, hk y = false

theorem NoHk.hkIn {hk : Code → Bool} {cs : List Code} {Q : Nat → Prop} {k : Nat} {blk : List Code}
    (h : NoHk hk blk) : HkIn hk cs Q k blk :=
  fun j hj hh => by rw [h _ (List.getElem_mem hj)] at hh; cases hh

theorem NoHk.append {hk : Code → Bool} {a b : List Code} (ha : NoHk hk a) (hb : NoHk hk b) : NoHk hk (a ++ b) :=
  fun y hy => (List.mem_append.1 hy).elim (ha y) (hb y)

theorem NoHk.cons {hk : Code → Bool} {a : Code} {b : List Code} (ha : hk a = false) (hb : NoHk hk b) :
    NoHk hk (a :: b) :=
  fun y hy => by
    rcases List.mem_cons.1 hy with rfl | hy
    · exact ha
    · exact hb y hy

theorem NoHk.nil {hk : Code → Bool} : NoHk hk [] := fun _ h => by cases h

theorem NoHk.left {hk : Code → Bool} {a b : List Code} (h : NoHk hk (a ++ b)) : NoHk hk a :=
  fun y hy => h y (List.mem_append_left _ hy)

theorem NoHk.right {hk : Code → Bool} {a b : List Code} (h : NoHk hk (a ++ b)) : NoHk hk b :=
  fun y hy => h y (List.mem_append_right _ hy)

theorem NoHk.tail {hk : Code → Bool} {a : Code} {b : List Code} (h : NoHk hk (a :: b)) : NoHk hk b :=
  fun y hy => h y (List.mem_cons_of_mem _ hy)

theorem HkIn.tail {hk : Code → Bool} {cs : List Code} {Q : Nat → Prop} {k : Nat} {a : Code} {b : List Code}
    (h : HkIn hk cs Q k (a :: b)) : HkIn hk cs Q (k + 1) b := by
  intro j hj hh
  have := h (j + 1) (by simpa using hj) (by simpa using hh)
  rw [show k + (j + 1) = k + 1 + j by omega] at this
  exact this

theorem hk_false_of_not_comment {hk : Code → Bool} {P : Prog} {cs : List Code} (Hp : Holds hk P cs) {y : Code}
    (h : ∀ m, y ≠ .COMMENT m) : hk y = false := by
  cases hh : hk y with
  | false => rfl
  | true => obtain ⟨m, e⟩ := Hp.hkComment _ hh; exact absurd e (h m)

/-- the block every statement starts with, `hookCode ++ [statement comment]`: its only hook (if any) is its first
code, at the position of the statement boundary -/
theorem hkIn_hook_comment {hk : Code → Bool} {cs : List Code} {kp : Nat} (hooks : Bool) (Γ : Ctx) {m : String}
    {rest : List Code} (hm : hk (.COMMENT m) = false) (hr : NoHk hk rest) :
    HkIn hk cs (fun pc => pc = pcOf hk cs kp) kp
      (hookCode a64Backend hooks Γ ++ (a64Backend.comment m :: rest)) := by
  intro j hj hh
  cases j with
  | zero => rfl
  | succ j =>
    exfalso
    have hnh : NoHk hk (a64Backend.comment m :: rest) := NoHk.cons hm hr
    cases hooks with
    | false =>
      simp only [hookCode, Bool.false_eq_true, if_false, List.nil_append] at hh hj
      rw [hnh _ (List.getElem_mem hj)] at hh; cases hh
    | true =>
      simp only [hookCode, if_true, List.cons_append, List.nil_append, List.getElem_cons_succ] at hh
      have hj' : j < (a64Backend.comment m :: rest).length := by
        simp only [hookCode, if_true, List.cons_append, List.nil_append, List.length_cons] at hj ⊢
        omega
      rw [hnh _ (List.getElem_mem hj')] at hh; cases hh

section Holds

variable {hk : Code → Bool} {P : Prog} {cs : List Code} (Hp : Holds hk P cs) {c : MemCfg} {Q : Nat → Prop}

include Hp in
theorem msteps_codeK {k : Nat} {code : Code} (hc : cs[k]? = some code) {σ σ' : State}
    (hx : execCode c code σ = .ok σ') (out : List (Bool × Word)) (hq : hk code = true → Q (pcOf hk cs k)) :
    MStepsK Q P c σ (pcOf hk cs k) out σ' (pcOf hk cs (k + 1)) out := by
  by_cases hm : code.isMeta = true
  · have hs : σ' = σ := by
      rw [execCode_meta hm] at hx; cases hx; rfl
    subst hs
    by_cases hh : hk code = true
    · obtain ⟨vs, hit⟩ := Hp.hook k code hc hh
      rw [pcOf_item hc (by simp [isItem, hh])]
      exact .one (.hook hit) (fun _ _ => hq hh)
    · rw [pcOf_noitem hc (by simp [isItem, hm, hh])]
      exact .refl _ _ _
  · have hm' : code.isMeta = false := by simpa using hm
    obtain ⟨i, hti, hit⟩ := Hp.instr k code hc hm'
    rw [execCode_of_toInstr σ hti] at hx
    have hd := isData_of_exec hx
    rw [pcOf_item hc (by simp [isItem, hm'])]
    refine .one_instr hit (.next hit ?_)
    rw [step_data (cfg := { mem := c }) hd]
    simp only [hx]

include Hp in
theorem msteps_codesK : ∀ (blk : List Code) (k : Nat) (σ σ' : State) (out : List (Bool × Word)),
    (∀ j (h : j < blk.length), cs[k + j]? = some blk[j]) → execCodes c blk σ = .ok σ' → HkIn hk cs Q k blk →
    MStepsK Q P c σ (pcOf hk cs k) out σ' (pcOf hk cs (k + blk.length)) out
  | [], k, σ, σ', out, _, hx, _ => by
    simp only [execCodes, Except.ok.injEq] at hx
    subst hx
    exact .refl _ _ _
  | code :: rest, k, σ, σ', out, hb, hx, hq => by
    simp only [execCodes] at hx
    cases h1 : execCode c code σ with
    | error e => simp [h1] at hx
    | ok σ1 =>
      simp only [h1] at hx
      have h0 := hb 0 (by simp)
      simp only [Nat.add_zero, List.getElem_cons_zero] at h0
      have hrest : ∀ j (h : j < rest.length), cs[k + 1 + j]? = some rest[j] := by
        intro j hj
        have := hb (j + 1) (by simpa using hj)
        rw [Nat.add_assoc, Nat.add_comm 1 j]
        simpa using this
      have := msteps_codesK rest (k + 1) σ1 σ' out hrest hx hq.tail
      rw [show k + 1 + rest.length = k + (code :: rest).length by simp; omega] at this
      exact (msteps_codeK Hp h0 h1 out (fun hh => by simpa using hq 0 (by simp) hh)).trans this

include Hp in
/-- a block with calls of the print runtime at list position `k` -/
theorem msteps_codesOutK : ∀ (blk : List Code) (k : Nat) (σ σ' : State) (out outs : List (Bool × Word)),
    (∀ j (h : j < blk.length), cs[k + j]? = some blk[j]) → execCodesOut c blk σ = .ok (σ', outs) →
    HkIn hk cs Q k blk →
    MStepsK Q P c σ (pcOf hk cs k) out σ' (pcOf hk cs (k + blk.length)) (outs.reverse ++ out)
  | [], k, σ, σ', out, outs, _, hx, _ => by
    simp only [execCodesOut, Except.ok.injEq, Prod.mk.injEq] at hx
    obtain ⟨rfl, rfl⟩ := hx
    exact .refl _ _ _
  | code :: rest, k, σ, σ', out, outs, hb, hx, hq => by
    have h0 := hb 0 (by simp)
    simp only [Nat.add_zero, List.getElem_cons_zero] at h0
    have hrest : ∀ j (h : j < rest.length), cs[k + 1 + j]? = some rest[j] := by
      intro j hj
      have := hb (j + 1) (by simpa using hj)
      rw [Nat.add_assoc, Nat.add_comm 1 j]
      simpa using this
    have elen : k + 1 + rest.length = k + (code :: rest).length := by simp; omega
    by_cases hbl : code.isBL = true
    · cases code <;> simp [Code.isBL] at hbl
      rename_i l
      simp only [execCodesOut] at hx
      by_cases hext : isExternal l = true
      · rw [if_pos hext] at hx
        cases hcall : σ.callExternal with
        | error e => simp [hcall] at hx
        | ok r =>
          obtain ⟨w, σ1⟩ := r
          simp only [hcall] at hx
          cases hr : execCodesOut c rest σ1 with
          | error e => simp [hr] at hx
          | ok r2 =>
            obtain ⟨σ2, o2⟩ := r2
            simp only [hr, Except.ok.injEq, Prod.mk.injEq] at hx
            obtain ⟨rfl, rfl⟩ := hx
            obtain ⟨i, hti, hit⟩ := Hp.instr k _ h0 rfl
            simp only [Code.toInstr, Option.some.injEq] at hti
            subst hti
            have hst : step P c (.bl l) σ (pcOf hk cs k) = .print (l == "println_i64") w σ1 (pcOf hk cs k + 1) := by
              simp only [step, hext, if_true, hcall]
            have h1 := msteps_codesOutK rest (k + 1) σ1 σ2 ((l == "println_i64", w) :: out) o2 hrest hr hq.tail
            rw [elen, pcOf_item h0 (by simp [isItem, Code.isMeta])] at h1
            have h2 : MStepsK Q P c σ (pcOf hk cs k) out σ1 (pcOf hk cs k + 1) ((l == "println_i64", w) :: out) :=
              .one_instr hit (.print hit hst)
            have := h2.trans h1
            rw [List.reverse_cons, List.append_assoc]
            exact this
      · rw [if_neg hext] at hx; cases hx
    · have hbl' : code.isBL = false := by simpa using hbl
      rw [execCodesOut_cons_noBL hbl'] at hx
      cases h1 : execCode c code σ with
      | error e => simp [h1] at hx
      | ok σ1 =>
        simp only [h1] at hx
        have := msteps_codesOutK rest (k + 1) σ1 σ' out outs hrest hx hq.tail
        rw [elen] at this
        exact (msteps_codeK Hp h0 h1 out (fun hh => by simpa using hq 0 (by simp) hh)).trans this

include Hp in
theorem mstep_jumpK {k : Nat} {l : String} (hc : cs[k]? = some (Code.B l)) {j : Nat} (hl : P.labels[l]? = some j)
    (σ : State) (out : List (Bool × Word)) : MStepsK Q P c σ (pcOf hk cs k) out σ j out := by
  obtain ⟨i, hti, hit⟩ := Hp.instr k _ hc rfl
  simp only [Code.toInstr, Option.some.injEq] at hti
  subst hti
  exact .one_instr hit (.next hit (by simp [step, Prog.gotoLabel, hl]))

include Hp in
theorem mstep_bcondK {k : Nat} {code : Code} {cd : Cond} {l : String} (hc : cs[k]? = some code)
    (hti : code.toInstr = some (.bcond cd l)) {σ : State} {a b : Word} (hf : σ.flags = some (a, b))
    {j : Nat} (hl : cd.holds a b = true → P.labels[l]? = some j) (out : List (Bool × Word)) :
    MStepsK Q P c σ (pcOf hk cs k) out σ (if cd.holds a b then j else pcOf hk cs (k + 1)) out := by
  have hm : code.isMeta = false := by
    cases code <;> first | rfl | (simp [Code.toInstr] at hti)
  obtain ⟨i, hti', hit⟩ := Hp.instr k _ hc hm
  rw [hti] at hti'
  cases hti'
  rw [pcOf_item hc (by simp [isItem, hm])]
  refine .one_instr hit (.next hit ?_)
  simp only [step, hf]
  by_cases hh : cd.holds a b = true
  · simp [hh, Prog.gotoLabel, hl hh]
  · simp [hh]

include Hp in
/-- THE BRIDGE for blocks with forward local labels -/
theorem msteps_fwdK (hnd : (labs cs).Nodup) (blk : List Code) (k : Nat)
    (hblk : ∀ j (h : j < blk.length), cs[k + j]? = some blk[j]) (out : List (Bool × Word))
    (hq : HkIn hk cs Q k blk) :
    ∀ (n off : Nat) (σ σ' : State), blk.length - off ≤ n → off ≤ blk.length →
      execFwd c (blk.drop off) σ = .ok (σ', .next) →
      MStepsK Q P c σ (pcOf hk cs (k + off)) out σ' (pcOf hk cs (k + blk.length)) out := by
  intro n
  induction n with
  | zero =>
    intro off σ σ' hn hoff hx
    have : off = blk.length := by omega
    subst this
    rw [List.drop_length, execFwd_nil] at hx
    simp only [Except.ok.injEq, Prod.mk.injEq, and_true] at hx
    subst hx
    exact .refl _ _ _
  | succ n ih =>
    intro off σ σ' hn hoff hx
    by_cases hlt : off < blk.length
    · have hdrop : blk.drop off = blk[off] :: blk.drop (off + 1) := List.drop_eq_getElem_cons hlt
      have hget := hblk off hlt
      rw [hdrop, execFwd_cons] at hx
      cases hex : execCodeC c blk[off] σ with
      | error e => simp [hex, contFwd] at hx
      | ok r =>
        obtain ⟨σ1, ctl⟩ := r
        rw [hex] at hx
        cases hti : blk[off].toInstr with
        | none =>
          obtain ⟨he, rfl, rfl⟩ := execCodeC_meta hti hex
          simp only [contFwd] at hx
          have h1 := msteps_codeK (c := c) (Q := Q) Hp hget he out (hq off hlt)
          have h2 := ih (off + 1) _ _ (by omega) (by omega) hx
          rw [← Nat.add_assoc] at h2
          exact h1.trans h2
        | some i =>
          have hm := isMeta_of_toInstr hti
          obtain ⟨i', hti', hit⟩ := Hp.instr _ _ hget hm
          rw [hti] at hti'
          cases hti'
          cases ctl with
          | next =>
            simp only [contFwd] at hx
            have hs := execCodeC_next_step P c (pcOf hk cs (k + off)) hti hex
            have h1 : MStepsK Q P c σ (pcOf hk cs (k + off)) out σ1 (pcOf hk cs (k + off + 1)) out := by
              rw [pcOf_item hget (by simp [isItem, hm])]
              exact .one_instr hit (.next hit hs)
            have h2 := ih (off + 1) _ _ (by omega) (by omega) hx
            rw [← Nat.add_assoc] at h2
            exact h1.trans h2
          | jump l =>
            simp only [contFwd] at hx
            cases hsk : skipTo l (blk.drop (off + 1)) with
            | none => simp [hsk] at hx
            | some rest =>
              simp only [hsk] at hx
              obtain ⟨j, hj, hrest⟩ := skipTo_spec hsk
              have hj' : blk[off + 1 + j]? = some (.LAB l) := by
                rw [List.getElem?_drop] at hj; exact hj
              obtain ⟨hjlt, hjeq⟩ := List.getElem?_eq_some_iff.1 hj'
              have hcsj : cs[k + (off + 1 + j)]? = some (.LAB l) := by
                rw [hblk _ hjlt, hjeq]
              have hl := label_of_nodup Hp hnd hcsj
              have hs := execCodeC_jump_step P c (pc := pcOf hk cs (k + off)) hti hex hl
              have h1 : MStepsK Q P c σ (pcOf hk cs (k + off)) out σ1 (pcOf hk cs (k + (off + 1 + j))) out :=
                .one_instr hit (.next hit hs)
              have h15 : MStepsK Q P c σ1 (pcOf hk cs (k + (off + 1 + j))) out σ1
                  (pcOf hk cs (k + (off + 1 + j) + 1)) out :=
                msteps_codeK (c := c) Hp hcsj rfl out
                  (fun hh => by rw [hk_false_of_not_comment Hp (fun m e => by cases e)] at hh; cases hh)
              have hd : blk.drop (off + 1 + j + 1) = rest := by
                rw [hrest, List.drop_drop, Nat.add_assoc]
              have h2 := ih (off + 1 + j + 1) _ _ (by omega) (by omega) (by rw [hd]; exact hx)
              rw [show k + (off + 1 + j + 1) = k + (off + 1 + j) + 1 by omega] at h2
              exact h1.trans (h15.trans h2)
    · have : off = blk.length := by omega
      subst this
      rw [List.drop_length, execFwd_nil] at hx
      simp only [Except.ok.injEq, Prod.mk.injEq, and_true] at hx
      subst hx
      exact .refl _ _ _

include Hp in
theorem x_msteps_codesK {blk : List Code} {k : Nat} {σ σ' : State} (hat : XAt cs k blk)
    (hx : execCodes c blk σ = .ok σ') (out : List (Bool × Word)) (hq : HkIn hk cs Q k blk) :
    MStepsK Q P c σ (pcOf hk cs k) out σ' (pcOf hk cs (k + blk.length)) out :=
  msteps_codesK Hp blk k σ σ' out hat.get hx hq

include Hp in
theorem x_msteps_codesOutK {blk : List Code} {k : Nat} {σ σ' : State} {outs : List (Bool × Word)}
    (hat : XAt cs k blk) (hx : execCodesOut c blk σ = .ok (σ', outs)) (out : List (Bool × Word))
    (hq : HkIn hk cs Q k blk) :
    MStepsK Q P c σ (pcOf hk cs k) out σ' (pcOf hk cs (k + blk.length)) (outs.reverse ++ out) :=
  msteps_codesOutK Hp blk k σ σ' out outs hat.get hx hq

include Hp in
theorem x_msteps_fwdK (hnd : (labs cs).Nodup) {blk : List Code} {k : Nat} {σ σ' : State} (hat : XAt cs k blk)
    (hx : execFwd c blk σ = .ok (σ', .next)) (out : List (Bool × Word)) (hq : HkIn hk cs Q k blk) :
    MStepsK Q P c σ (pcOf hk cs k) out σ' (pcOf hk cs (k + blk.length)) out := by
  have := msteps_fwdK Hp hnd blk k hat.get out hq blk.length 0 σ σ' (by omega) (by omega) (by simpa using hx)
  simpa using this

end Holds

def NoHkQ (hk : Code → Bool) (Q : Nat → Prop) (blk : List Code) : Prop := NoHk hk blk ∨ ∀ pc, Q pc

section Q

variable {hk : Code → Bool} {P : Prog} {cs : List Code} (Hp : Holds hk P cs) {c : MemCfg} {Q : Nat → Prop}

theorem NoHkQ.hkIn {k : Nat} {blk : List Code} (h : NoHkQ hk Q blk) : HkIn hk cs Q k blk :=
  h.elim NoHk.hkIn fun hq _ _ _ => hq _

theorem NoHkQ.nil : NoHkQ hk Q [] := Or.inl NoHk.nil

theorem NoHkQ.cons {a : Code} {b : List Code} (ha : hk a = false ∨ ∀ pc, Q pc) (hb : NoHkQ hk Q b) :
    NoHkQ hk Q (a :: b) :=
  ha.elim (fun ha => hb.elim (fun hb => Or.inl (NoHk.cons ha hb)) Or.inr) Or.inr

theorem NoHkQ.append {a b : List Code} (ha : NoHkQ hk Q a) (hb : NoHkQ hk Q b) : NoHkQ hk Q (a ++ b) :=
  ha.elim (fun ha => hb.elim (fun hb => Or.inl (ha.append hb)) Or.inr) Or.inr

theorem NoHkQ.left {a b : List Code} (h : NoHkQ hk Q (a ++ b)) : NoHkQ hk Q a := h.imp_left NoHk.left

theorem NoHkQ.right {a b : List Code} (h : NoHkQ hk Q (a ++ b)) : NoHkQ hk Q b := h.imp_left NoHk.right

theorem NoHkQ.subset {a b : List Code} (h : NoHkQ hk Q b) (hs : ∀ y ∈ a, y ∈ b) : NoHkQ hk Q a :=
  h.elim (fun h => Or.inl fun y hy => h y (hs y hy)) Or.inr

include Hp in
theorem x_msteps_codesQ {blk : List Code} {k : Nat} {σ σ' : State} (hat : XAt cs k blk)
    (hx : execCodes c blk σ = .ok σ') (out : List (Bool × Word)) (hn : NoHkQ hk Q blk) :
    MStepsK Q P c σ (pcOf hk cs k) out σ' (pcOf hk cs (k + blk.length)) out :=
  x_msteps_codesK Hp hat hx out hn.hkIn

include Hp in
theorem x_msteps_codesOutQ {blk : List Code} {k : Nat} {σ σ' : State} {outs : List (Bool × Word)}
    (hat : XAt cs k blk) (hx : execCodesOut c blk σ = .ok (σ', outs)) (out : List (Bool × Word))
    (hn : NoHkQ hk Q blk) :
    MStepsK Q P c σ (pcOf hk cs k) out σ' (pcOf hk cs (k + blk.length)) (outs.reverse ++ out) :=
  x_msteps_codesOutK Hp hat hx out hn.hkIn

include Hp in
theorem x_msteps_fwdQ (hnd : (labs cs).Nodup) {blk : List Code} {k : Nat} {σ σ' : State} (hat : XAt cs k blk)
    (hx : execFwd c blk σ = .ok (σ', .next)) (out : List (Bool × Word)) (hn : NoHkQ hk Q blk) :
    MStepsK Q P c σ (pcOf hk cs k) out σ' (pcOf hk cs (k + blk.length)) out :=
  x_msteps_fwdK Hp hnd hat hx out hn.hkIn

include Hp in
theorem msteps_codesQ (blk : List Code) (k : Nat) (σ σ' : State) (out : List (Bool × Word))
    (hb : ∀ j (h : j < blk.length), cs[k + j]? = some blk[j]) (hx : execCodes c blk σ = .ok σ')
    (hn : NoHkQ hk Q blk) :
    MStepsK Q P c σ (pcOf hk cs k) out σ' (pcOf hk cs (k + blk.length)) out :=
  msteps_codesK Hp blk k σ σ' out hb hx hn.hkIn

include Hp in
theorem msteps_codeQ {k : Nat} {code : Code} (hc : cs[k]? = some code) {σ σ' : State}
    (hx : execCode c code σ = .ok σ') (out : List (Bool × Word)) (hn : hk code = false ∨ ∀ pc, Q pc) :
    MStepsK Q P c σ (pcOf hk cs k) out σ' (pcOf hk cs (k + 1)) out :=
  msteps_codeK Hp hc hx out (fun hh => hn.elim (fun hn => by rw [hn] at hh; cases hh) (fun hq => hq _))

end Q

/-- a run whose FIRST step may be the `#ctx` hook of the statement boundary it starts at, visited in the state the
run starts in, and whose other hook steps happen at item indices in `Q` -/
inductive MStepsHK (Q : Nat → Prop) (P : Prog) (c : MemCfg) :
    State → Nat → List (Bool × Word) → State → Nat → List (Bool × Word) → Prop
  | here {σ σ' : State} {pc pc' : Nat} {out out' : List (Bool × Word)} :
      MStepsK Q P c σ pc out σ' pc' out' → MStepsHK Q P c σ pc out σ' pc' out'
  | hook {σ σ' : State} {pc pc' : Nat} {out out' : List (Bool × Word)} {vs : List (String × Kind)} :
      P.items[pc]? = some (.hook vs) → MStepsK Q P c σ (pc + 1) out σ' pc' out' →
      MStepsHK Q P c σ pc out σ' pc' out'

/-- a run whose only hook step (if any) is its FIRST step: the `#ctx` hook of the statement boundary it starts
at, visited in the state the run starts in -/
inductive MStepsH (P : Prog) (c : MemCfg) :
    State → Nat → List (Bool × Word) → State → Nat → List (Bool × Word) → Prop
  | here {σ σ' : State} {pc pc' : Nat} {out out' : List (Bool × Word)} :
      MStepsI P c σ pc out σ' pc' out' → MStepsH P c σ pc out σ' pc' out'
  | hook {σ σ' : State} {pc pc' : Nat} {out out' : List (Bool × Word)} {vs : List (String × Kind)} :
      P.items[pc]? = some (.hook vs) → MStepsI P c σ (pc + 1) out σ' pc' out' →
      MStepsH P c σ pc out σ' pc' out'

section H
variable {Q : Nat → Prop} {P : Prog} {c : MemCfg} {σ1 σ2 σ3 : State} {pc1 pc2 pc3 : Nat}
  {o1 o2 o3 : List (Bool × Word)}

theorem MStepsHK.trans (h1 : MStepsHK Q P c σ1 pc1 o1 σ2 pc2 o2) (h2 : MStepsK Q P c σ2 pc2 o2 σ3 pc3 o3) :
    MStepsHK Q P c σ1 pc1 o1 σ3 pc3 o3 := by
  cases h1 with
  | here h => exact .here (h.trans h2)
  | hook hi h => exact .hook hi (h.trans h2)

theorem MStepsHK.msteps (h : MStepsHK Q P c σ1 pc1 o1 σ2 pc2 o2) : MSteps P c σ1 pc1 o1 σ2 pc2 o2 := by
  cases h with
  | here h => exact h.msteps
  | hook hi h => exact .step (.hook hi) h.msteps

theorem MStepsHK.toH (h : MStepsHK (fun _ => False) P c σ1 pc1 o1 σ2 pc2 o2) :
    MStepsH P c σ1 pc1 o1 σ2 pc2 o2 := by
  cases h with
  | here h => exact .here h
  | hook hi h => exact .hook hi h

theorem MStepsH.msteps (h : MStepsH P c σ1 pc1 o1 σ2 pc2 o2) : MSteps P c σ1 pc1 o1 σ2 pc2 o2 := by
  cases h with
  | here h => exact h.msteps
  | hook hi h => exact .step (.hook hi) h.msteps

/-- a run from the boundary, the machine ahead by hooks: the run from the machine's position, or nothing
happened -/
theorem tol_runK {pcR : Nat} (h : MStepsK Q P c σ1 pc1 o1 σ2 pc2 o2) (T : Tol P pc1 pcR) :
    MStepsK Q P c σ1 pcR o1 σ2 pc2 o2 ∨ (σ2 = σ1 ∧ o2 = o1 ∧ Tol P pc2 pcR) := by
  induction h with
  | refl σ pc out => exact Or.inr ⟨rfl, rfl, T⟩
  | @step σ σa σb pc pca pcb out outa outb hs hq hrest ih =>
    by_cases he : pc = pcR
    · subst he
      exact Or.inl (.step hs hq hrest)
    · have hlt : pc < pcR := by have := T.1; omega
      obtain ⟨vs, hv⟩ := T.2 pc (Nat.le_refl _) hlt
      cases hs with
      | hook hi => exact ih ⟨by omega, fun i h1 h2 => T.2 i (by omega) h2⟩
      | next hi _ => rw [hv] at hi; cases hi
      | print hi _ => rw [hv] at hi; cases hi

theorem MStepsI.at_hook {vs : List (String × Kind)} (hi : P.items[pc1]? = some (.hook vs))
    (h : MStepsI P c σ1 pc1 o1 σ2 pc2 o2) : σ2 = σ1 ∧ pc2 = pc1 ∧ o2 = o1 := by
  cases h with
  | refl => exact ⟨rfl, rfl, rfl⟩
  | step hs hq _ => exact (hq vs hi).elim

/-- a hook-free run from the boundary, the machine ahead by hooks: the run from the machine's position, or
nothing happened -/
theorem tol_runI {pcR : Nat} (h : MStepsI P c σ1 pc1 o1 σ2 pc2 o2) (T : Tol P pc1 pcR) :
    MStepsI P c σ1 pcR o1 σ2 pc2 o2 ∨ (σ2 = σ1 ∧ o2 = o1 ∧ pc2 = pc1 ∧ pc1 < pcR) := by
  by_cases he : pc1 = pcR
  · subst he; exact Or.inl h
  · have hlt : pc1 < pcR := by have := T.1; omega
    obtain ⟨vs, hv⟩ := T.2 pc1 (Nat.le_refl _) hlt
    obtain ⟨e1, e2, e3⟩ := h.at_hook hv
    exact Or.inr ⟨e1, e3, e2, hlt⟩

/-- a run from the boundary, the machine ahead by at least one hook: the machine's run visits no hook -/
theorem tol_runH {pcR : Nat} (h : MStepsH P c σ1 pc1 o1 σ2 pc2 o2) (T : Tol P pc1 pcR) (hlt : pc1 < pcR) :
    MStepsI P c σ1 pcR o1 σ2 pc2 o2 ∨ (σ2 = σ1 ∧ o2 = o1 ∧ Tol P pc2 pcR) := by
  cases h with
  | here h =>
    rcases tol_runI h T with h | ⟨e1, e2, e3, _⟩
    · exact Or.inl h
    · exact Or.inr ⟨e1, e2, by rw [e3]; exact T⟩
  | hook hi h =>
    have T1 : Tol P (pc1 + 1) pcR := ⟨by omega, fun i h1 h2 => T.2 i (by omega) h2⟩
    rcases tol_runI h T1 with h | ⟨e1, e2, e3, _⟩
    · exact Or.inl h
    · exact Or.inr ⟨e1, e2, by rw [e3]; exact T1⟩

end H

section C0

variable {hk : Code → Bool} {P : Prog} {cs : List Code} (Hp : Holds hk P cs) {c : MemCfg} {Q : Nat → Prop}

include Hp in
/-- THE FIRST BLOCK OF EVERY STATEMENT, `hookCode ++ [statement comment]`: at most the hook step, in the state the
statement starts in -/
theorem x_msteps_c0H {k : Nat} {c0 : List Code} {hooks : Bool} {Γ : Ctx} {m : String} (hat : XAt cs k c0)
    (hc0 : hookCode a64Backend hooks Γ ++ [a64Backend.comment m] = c0)
    (hm : hk (.COMMENT m) = false ∨ ∀ pc, Q pc) (σ : State) (out : List (Bool × Word)) :
    MStepsHK Q P c σ (pcOf hk cs k) out σ (pcOf hk cs (k + c0.length)) out := by
  subst hc0
  have hcm : a64Backend.comment m = Code.COMMENT m := rfl
  rcases hm with hm | hq
  · cases hooks with
    | false =>
      simp only [hookCode, Bool.false_eq_true, if_false, List.nil_append, List.length_singleton] at hat ⊢
      have h0 := hat.get 0 (by simp)
      simp only [Nat.add_zero, List.getElem_cons_zero, hcm] at h0
      rw [pcOf_noitem h0 (by simp [isItem, hm, Code.isMeta])]
      exact .here (.refl _ _ _)
    | true =>
      simp only [hookCode, if_true, List.cons_append, List.nil_append, List.length_cons, List.length_nil] at hat ⊢
      have h0 := hat.get 0 (by simp)
      have h1 := hat.get 1 (by simp)
      simp only [Nat.add_zero, List.getElem_cons_zero, List.getElem_cons_succ, hcm] at h0 h1
      have e2 : pcOf hk cs (k + (0 + 1 + 1)) = pcOf hk cs (k + 1) := by
        rw [show k + (0 + 1 + 1) = k + 1 + 1 by omega]
        exact pcOf_noitem h1 (by simp [isItem, hm, Code.isMeta])
      rw [e2]
      by_cases hh : hk (a64Backend.comment (ctxHookComment Γ)) = true
      · obtain ⟨vs, hit⟩ := Hp.hook k _ h0 hh
        rw [pcOf_item h0 (by simp [isItem, hh])]
        exact .hook hit (.refl _ _ _)
      · have hcm' : a64Backend.comment (ctxHookComment Γ) = Code.COMMENT (ctxHookComment Γ) := rfl
        rw [hcm'] at hh h0
        rw [pcOf_noitem h0 (by
          have : hk (Code.COMMENT (ctxHookComment Γ)) = false := by simpa using hh
          simp [isItem, this, Code.isMeta])]
        exact .here (.refl _ _ _)
  · refine .here (x_msteps_codesK Hp hat (execCodes_comments c _ σ fun y hy => ?_) out fun _ _ _ => hq _)
    unfold hookCode at hy
    cases hooks <;> simp at hy
    · exact ⟨_, hy⟩
    · rcases hy with rfl | rfl <;> exact ⟨_, rfl⟩

include Hp in
theorem x_msteps_c0H_app {k : Nat} {c0 rest : List Code} {hooks : Bool} {Γ : Ctx} {m : String}
    (hat : XAt cs k (c0 ++ rest))
    (hc0 : hookCode a64Backend hooks Γ ++ [a64Backend.comment m] = c0)
    (hm : hk (.COMMENT m) = false ∨ ∀ pc, Q pc)
    {σ σ' : State} (hx : execCodes c rest σ = .ok σ') (hr : NoHkQ hk Q rest) (out : List (Bool × Word)) :
    MStepsHK Q P c σ (pcOf hk cs k) out σ' (pcOf hk cs (k + (c0 ++ rest).length)) out := by
  have h1 := x_msteps_c0H (c := c) Hp hat.left hc0 hm σ out
  have h2 := x_msteps_codesQ (c := c) Hp hat.right hx out hr
  rw [List.length_append, ← Nat.add_assoc]
  exact h1.trans h2

end C0

/-- a run with hooks in `Q` that executes at least one instruction -/
def MStepsKR (Q : Nat → Prop) (P : Prog) (c : MemCfg) (σ : State) (pc : Nat) (out : List (Bool × Word))
    (σ' : State) (pc' : Nat) (out' : List (Bool × Word)) : Prop :=
  ∃ σa pca outa σb pcb outb i, MStepsK Q P c σ pc out σa pca outa ∧ P.items[pca]? = some (.instr i) ∧
    MStep P c σa pca outa σb pcb outb ∧ MStepsK Q P c σb pcb outb σ' pc' out'

/-- a run that starts at a statement boundary (`MStepsHK`) and executes at least one instruction -/
def MStepsHKR (Q : Nat → Prop) (P : Prog) (c : MemCfg) (σ : State) (pc : Nat) (out : List (Bool × Word))
    (σ' : State) (pc' : Nat) (out' : List (Bool × Word)) : Prop :=
  ∃ σa pca outa σb pcb outb i, MStepsHK Q P c σ pc out σa pca outa ∧ P.items[pca]? = some (.instr i) ∧
    MStep P c σa pca outa σb pcb outb ∧ MStepsK Q P c σb pcb outb σ' pc' out'

def MStepsHR (P : Prog) (c : MemCfg) (σ : State) (pc : Nat) (out : List (Bool × Word)) (σ' : State) (pc' : Nat)
    (out' : List (Bool × Word)) : Prop :=
  ∃ σa pca outa σb pcb outb i, MStepsH P c σ pc out σa pca outa ∧ P.items[pca]? = some (.instr i) ∧
    MStep P c σa pca outa σb pcb outb ∧ MStepsI P c σb pcb outb σ' pc' out'

section HR
variable {Q : Nat → Prop} {P : Prog} {c : MemCfg} {σ1 σ2 σ3 : State} {pc1 pc2 pc3 : Nat}
  {o1 o2 o3 : List (Bool × Word)}

theorem MStepsKR.pre (h2 : MStepsKR Q P c σ2 pc2 o2 σ3 pc3 o3) (h1 : MStepsHK Q P c σ1 pc1 o1 σ2 pc2 o2) :
    MStepsHKR Q P c σ1 pc1 o1 σ3 pc3 o3 := by
  obtain ⟨σa, pca, outa, σb, pcb, outb, i, g1, gi, g2, g3⟩ := h2
  exact ⟨σa, pca, outa, σb, pcb, outb, i, h1.trans g1, gi, g2, g3⟩

theorem MStepsKR.post (h1 : MStepsKR Q P c σ1 pc1 o1 σ2 pc2 o2) (h2 : MStepsK Q P c σ2 pc2 o2 σ3 pc3 o3) :
    MStepsKR Q P c σ1 pc1 o1 σ3 pc3 o3 := by
  obtain ⟨σa, pca, outa, σb, pcb, outb, i, g1, gi, g2, g3⟩ := h1
  exact ⟨σa, pca, outa, σb, pcb, outb, i, g1, gi, g2, g3.trans h2⟩

theorem MStepsHKR.post (h1 : MStepsHKR Q P c σ1 pc1 o1 σ2 pc2 o2) (h2 : MStepsK Q P c σ2 pc2 o2 σ3 pc3 o3) :
    MStepsHKR Q P c σ1 pc1 o1 σ3 pc3 o3 := by
  obtain ⟨σa, pca, outa, σb, pcb, outb, i, g1, gi, g2, g3⟩ := h1
  exact ⟨σa, pca, outa, σb, pcb, outb, i, g1, gi, g2, g3.trans h2⟩

theorem MStepsKR.one_next {i : Instr} (hi : P.items[pc1]? = some (.instr i))
    (hs : step P c i σ1 pc1 = .next σ2 pc2) : MStepsKR Q P c σ1 pc1 o1 σ2 pc2 o1 :=
  ⟨σ1, pc1, o1, σ2, pc2, o1, i, .refl _ _ _, hi, .next hi hs, .refl _ _ _⟩

theorem MStepsHKR.mstepsR (h : MStepsHKR Q P c σ1 pc1 o1 σ2 pc2 o2) : MStepsR P c σ1 pc1 o1 σ2 pc2 o2 := by
  obtain ⟨σa, pca, outa, σb, pcb, outb, i, g1, gi, g2, g3⟩ := h
  exact ⟨σa, pca, outa, σb, pcb, outb, i, g1.msteps, gi, g2, g3.msteps⟩

theorem MStepsHKR.toHR (h : MStepsHKR (fun _ => False) P c σ1 pc1 o1 σ2 pc2 o2) :
    MStepsHR P c σ1 pc1 o1 σ2 pc2 o2 := by
  obtain ⟨σa, pca, outa, σb, pcb, outb, i, g1, gi, g2, g3⟩ := h
  exact ⟨σa, pca, outa, σb, pcb, outb, i, g1.toH, gi, g2, g3⟩

theorem MStepsHR.mstepsH (h : MStepsHR P c σ1 pc1 o1 σ2 pc2 o2) : MStepsH P c σ1 pc1 o1 σ2 pc2 o2 := by
  obtain ⟨σa, pca, outa, σb, pcb, outb, i, g1, gi, g2, g3⟩ := h
  cases g1 with
  | here g1 => exact .here (g1.trans (.step g2 (fun vs hv => by rw [gi] at hv; cases hv) g3))
  | hook hi g1 => exact .hook hi (g1.trans (.step g2 (fun vs hv => by rw [gi] at hv; cases hv) g3))

theorem MStepsHR.mstepsR (h : MStepsHR P c σ1 pc1 o1 σ2 pc2 o2) : MStepsR P c σ1 pc1 o1 σ2 pc2 o2 := by
  obtain ⟨σa, pca, outa, σb, pcb, outb, i, g1, gi, g2, g3⟩ := h
  exact ⟨σa, pca, outa, σb, pcb, outb, i, g1.msteps, gi, g2, g3.msteps⟩

end HR

theorem mstepKR_jump {hk : Code → Bool} {P : Prog} {cs : List Code} (Hp : Holds hk P cs) {c : MemCfg}
    {Q : Nat → Prop} {k : Nat} {l : String} (hc : cs[k]? = some (Code.B l)) {j : Nat}
    (hl : P.labels[l]? = some j) (σ : State) (out : List (Bool × Word)) :
    MStepsKR Q P c σ (pcOf hk cs k) out σ j out := by
  obtain ⟨i, hti, hit⟩ := Hp.instr k _ hc rfl
  simp only [Code.toInstr, Option.some.injEq] at hti
  subst hti
  exact MStepsKR.one_next hit (by simp [step, Prog.gotoLabel, hl])

/-- a run of exactly `n` iterations of the run loop in which every iteration at a hook item `#ctx vs`, in state
`σ`, satisfies `pass σ vs` (for the heap monitor: `heapMonitor c σ vs` returns `.ok`) -/
inductive MStepsNP (pass : State → List (String × Kind) → Prop) (P : Prog) (c : MemCfg) :
    Nat → State → Nat → List (Bool × Word) → State → Nat → List (Bool × Word) → Prop
  | refl (σ : State) (pc : Nat) (out : List (Bool × Word)) : MStepsNP pass P c 0 σ pc out σ pc out
  | step {n : Nat} {σ σ1 σ2 : State} {pc pc1 pc2 : Nat} {out out1 out2 : List (Bool × Word)} :
      MStep P c σ pc out σ1 pc1 out1 → (∀ vs, P.items[pc]? = some (.hook vs) → pass σ vs) →
      MStepsNP pass P c n σ1 pc1 out1 σ2 pc2 out2 → MStepsNP pass P c (n + 1) σ pc out σ2 pc2 out2

section NP
variable {pass : State → List (String × Kind) → Prop} {P : Prog} {c : MemCfg} {σ1 σ2 σ3 : State} {pc1 pc2 pc3 : Nat}
  {o1 o2 o3 : List (Bool × Word)}

theorem MStepsNP.trans {n m : Nat} (h1 : MStepsNP pass P c n σ1 pc1 o1 σ2 pc2 o2)
    (h2 : MStepsNP pass P c m σ2 pc2 o2 σ3 pc3 o3) : MStepsNP pass P c (n + m) σ1 pc1 o1 σ3 pc3 o3 := by
  induction h1 with
  | refl => rw [Nat.zero_add]; exact h2
  | @step n σ σa σb pc pca pcb out outa outb hs hp _ ih =>
    rw [show n + 1 + m = (n + m) + 1 by omega]
    exact .step hs hp (ih h2)

theorem MStepsNP.forget {n : Nat} (h : MStepsNP pass P c n σ1 pc1 o1 σ2 pc2 o2) :
    MStepsN P c n σ1 pc1 o1 σ2 pc2 o2 := by
  induction h with
  | refl => exact .refl _ _ _
  | step hs _ _ ih => exact .step hs ih

theorem MStepsK.countP (h : MStepsI P c σ1 pc1 o1 σ2 pc2 o2) : ∃ n, MStepsNP pass P c n σ1 pc1 o1 σ2 pc2 o2 := by
  induction h with
  | refl => exact ⟨0, .refl _ _ _⟩
  | step hs hq _ ih =>
    obtain ⟨n, hn⟩ := ih
    exact ⟨n + 1, .step hs (fun vs hv => (hq vs hv).elim) hn⟩

/-- a run from a statement boundary passes if its hook passes in the state it starts in -/
theorem MStepsH.countP (h : MStepsH P c σ1 pc1 o1 σ2 pc2 o2)
    (hp : ∀ vs, P.items[pc1]? = some (.hook vs) → pass σ1 vs) :
    ∃ n, MStepsNP pass P c n σ1 pc1 o1 σ2 pc2 o2 := by
  cases h with
  | here h => exact MStepsK.countP h
  | hook hi h =>
    obtain ⟨n, hn⟩ := MStepsK.countP (pass := pass) h
    exact ⟨n + 1, .step (.hook hi) hp hn⟩

theorem MStepsKR.countP (h : MStepsKR (fun _ => False) P c σ1 pc1 o1 σ2 pc2 o2) :
    ∃ n, 1 ≤ n ∧ MStepsNP pass P c n σ1 pc1 o1 σ2 pc2 o2 := by
  obtain ⟨σa, pca, outa, σb, pcb, outb, i, g1, gi, g2, g3⟩ := h
  obtain ⟨n1, h1⟩ := MStepsK.countP (pass := pass) g1
  obtain ⟨n3, h3⟩ := MStepsK.countP (pass := pass) g3
  exact ⟨n1 + (n3 + 1), by omega, h1.trans (.step g2 (fun vs hv => by rw [gi] at hv; cases hv) h3)⟩

theorem MStepsHR.countP (h : MStepsHR P c σ1 pc1 o1 σ2 pc2 o2)
    (hp : ∀ vs, P.items[pc1]? = some (.hook vs) → pass σ1 vs) :
    ∃ n, 1 ≤ n ∧ MStepsNP pass P c n σ1 pc1 o1 σ2 pc2 o2 := by
  obtain ⟨σa, pca, outa, σb, pcb, outb, i, g1, gi, g2, g3⟩ := h
  obtain ⟨n1, h1⟩ := g1.countP (pass := pass) hp
  obtain ⟨n3, h3⟩ := MStepsK.countP (pass := pass) g3
  exact ⟨n1 + (n3 + 1), by omega, h1.trans (.step g2 (fun vs hv => by rw [gi] at hv; cases hv) h3)⟩

/-- THE MACHINE AHEAD OF THE BOUNDARY BY HOOKS (`tol_next` of Scc/A64/ConcKRun.lean for passing runs): the
simulation runs from the boundary item `pc0` to the item `pc1` (the next boundary `pc'` up to `Tol`), the machine
is at `pcR`; if the machine is AT the boundary item, its hook (if any) passes -/
theorem tol_nextP {pcR pc' : Nat} (T : Tol P pc1 pcR) (h : MStepsH P c σ1 pc1 o1 σ2 pc2 o2) (T' : Tol P pc' pc2)
    (hp : pcR = pc1 → ∀ vs, P.items[pc1]? = some (.hook vs) → pass σ1 vs) :
    ∃ pcR' n, MStepsNP pass P c n σ1 pcR o1 σ2 pcR' o2 ∧ Tol P pc' pcR' := by
  by_cases he : pcR = pc1
  · subst he
    obtain ⟨n, hn⟩ := h.countP (pass := pass) (hp rfl)
    exact ⟨pc2, n, hn, T'⟩
  · have hlt : pc1 < pcR := by have := T.1; omega
    rcases tol_runH h T hlt with hI | ⟨e1, e2, T2⟩
    · obtain ⟨n, hn⟩ := MStepsK.countP (pass := pass) hI
      exact ⟨pc2, n, hn, T'⟩
    · subst e1; subst e2
      exact ⟨pcR, 0, .refl _ _ _, T'.trans T2⟩

/-- … to the final `RET` -/
theorem tol_run_instrP {pcR : Nat} (T : Tol P pc1 pcR) (h : MStepsH P c σ1 pc1 o1 σ2 pc2 o2) {i : Instr}
    (hi : P.items[pc2]? = some (.instr i))
    (hp : pcR = pc1 → ∀ vs, P.items[pc1]? = some (.hook vs) → pass σ1 vs) :
    ∃ n, MStepsNP pass P c n σ1 pcR o1 σ2 pc2 o2 := by
  obtain ⟨pcR', n, hn, T2⟩ := tol_nextP (pass := pass) T h (Tol.refl P pc2) hp
  have : pcR' = pc2 := by
    by_cases hlt : pc2 < pcR'
    · obtain ⟨vs, hv⟩ := T2.2 pc2 (Nat.le_refl _) hlt
      rw [hv] at hi; cases hi
    · have := T2.1; omega
  subst this
  exact ⟨n, hn⟩

/-- … through an instruction -/
theorem tol_next_realP {pcR : Nat} (T : Tol P pc1 pcR) (h : MStepsHR P c σ1 pc1 o1 σ2 pc2 o2)
    (hp : pcR = pc1 → ∀ vs, P.items[pc1]? = some (.hook vs) → pass σ1 vs) :
    ∃ n, 1 ≤ n ∧ MStepsNP pass P c n σ1 pcR o1 σ2 pc2 o2 := by
  by_cases he : pcR = pc1
  · subst he
    exact h.countP (hp rfl)
  · have hlt : pc1 < pcR := by have := T.1; omega
    obtain ⟨σa, pca, outa, σb, pcb, outb, i, g1, gi, g2, g3⟩ := h
    have hI : MStepsI P c σ1 pcR o1 σa pca outa := by
      rcases tol_runH g1 T hlt with hI | ⟨e1, e2, T2⟩
      · exact hI
      · subst e1; subst e2
        have : pca = pcR := by
          by_cases hl : pca < pcR
          · obtain ⟨vs, hv⟩ := T2.2 pca (Nat.le_refl _) hl
            rw [hv] at gi; cases gi
          · have := T2.1; omega
        subst this
        exact .refl _ _ _
    exact MStepsKR.countP ⟨σa, pca, outa, σb, pcb, outb, i, hI, gi, g2, g3⟩

end NP

end Scc.A64.Ref.K
