/-
  Scc.A64.RefClosHTr — the translation `trHeap` of the word parts of an abstract heap (RefClosHDefs.lean) replaces
  fields by fields of the same kinds and pointer parts: it is `mapFields` (Scc/Heap/RefineTr.lean) for `trFs κ` on
  the fields of every object (`fieldsOK_trFs`); `words_of`, `words_elim`: the word of a variable.
  Closure-aware counterpart of Scc/A64/RefHeapTr.lean, in the namespace `Scc.A64.Ref.K`: the
  three-way relation additionally carries the per-instance code-pointer map `κ` (the machine word of
  the closure in field `j` of object `id`).
-/
import Scc.A64.RefClosHDefs
import Scc.Heap.RefineTr

namespace Scc.A64.Ref.K

open Scc.AxCut Scc.Backend Scc.Backend.Abs Scc.Backend.Sim
open Scc.Heap.Refine

section
variable (κ : Nat → Nat → Word)

theorem trO_fields (id : Nat) (o : Obj) : (trO κ id o).fields = trFs κ id 0 o.fields := rfl

theorem trF_chi (id j : Nat) (f : Abs.Field) : (trF κ id j f).chi = f.chi := rfl
theorem trF_ptr (id j : Nat) (f : Abs.Field) : (trF κ id j f).ptr = f.ptr := rfl

theorem trFs_length (id : Nat) : ∀ (j : Nat) (fs : List Abs.Field), (trFs κ id j fs).length = fs.length
  | _, [] => rfl
  | j, f :: fs => by simp [trFs, trFs_length id (j + 1) fs]

theorem trFs_filterMap {α : Type} (g : Abs.Field → Option α) (hg : ∀ id j f, g (trF κ id j f) = g f)
    (id : Nat) : ∀ (j : Nat) (fs : List Abs.Field), (trFs κ id j fs).filterMap g = fs.filterMap g
  | _, [] => rfl
  | j, f :: fs => by
    simp only [trFs, List.filterMap_cons, hg, trFs_filterMap g hg id (j + 1) fs]

theorem trO_children (id : Nat) (o : Obj) : (trO κ id o).children = o.children := by
  unfold Obj.children
  rw [trO_fields]
  exact trFs_filterMap κ _ (fun _ _ _ => rfl) id 0 o.fields

theorem trO_with_count (id : Nat) (o : Obj) (c : Nat) :
    trO κ id { o with count := c } = { trO κ id o with count := c } := rfl

theorem trHeap_nil : trHeap κ [] = [] := rfl

theorem fieldsOK_trFs : FieldsOK (fun id fs => trFs κ id 0 fs) :=
  ⟨fun id fs => trFs_length κ id 0 fs, fun id o => trO_children κ id o⟩

theorem trHeap_ids (h : Heap) : (trHeap κ h).map (·.1) = h.map (·.1) := mapFields_ids (g := fun id fs => trFs κ id 0 fs) h

theorem mem_trHeap {h : Heap} {e : Nat × Obj} (he : e ∈ h) : (e.1, trO κ e.1 e.2) ∈ trHeap κ h :=
  mem_mapFields (g := fun id fs => trFs κ id 0 fs) he

theorem heapOK_trHeap {h : Heap} {rs : List Nat} {next : Nat} (H : HeapOK h rs next) :
    HeapOK (trHeap κ h) rs next := heapOK_mapFields (fieldsOK_trFs κ) H

end

theorem words_of {x : Option Word} {v : Word} {chi : Chi} {a : Word} (hx : x = some v)
    (hv : chi ≠ .cns → v = trW chi a) : x = some (trWs x chi a) := by
  subst hx
  cases chi with
  | cns => rfl
  | prd => rw [hv (by decide)]; rfl
  | ext => rw [hv (by decide)]; rfl

theorem words_elim {x : Option Word} {chi : Chi} {a : Word} (h : x = some (trWs x chi a)) (hc : chi ≠ .cns) :
    x = some (trW chi a) := by
  cases chi with
  | cns => exact absurd rfl hc
  | prd => exact h
  | ext => exact h

end Scc.A64.Ref.K
