/-
  Scc.A64.RefClosHRun — THE RUN THEOREM on AArch64 for ALL programs (data types and closures): the
  three-way step (`step3K`: all eleven statement forms, from Theorem A's `TheoremA_full` with the machine
  carried along; the closure invariant `XC` of RefClosDefs.lean is part of the relation) and the initial
  state (`entry_setup`); the run theorem `programs_holds` (on any laid-out program that holds the emitted routine
  with the addresses of its labels, `HoldsB`) is in Scc/A64/ConcKRun.lean.
  `step3K` is the generic assembly `ThreeWay.step3K` (Scc/Backend/ThreeWayRun.lean: the nine statement forms
  without closures with the closure invariant carried over the step, `create`, `invoke`) at the AArch64 machine
  (`machineI`, ThreeWayNav.lean), in the vocabulary of the AArch64 runs, and `exit` (`exit_x3`, RefClosHCall.lean).
  The step is proved once, for a run `MStepsHK Q` (Scc/A64/ConcKMid.lean) that visits the hook of the boundary it
  starts at first, if at all, and other hooks only at item indices in `Q`, under `HKQ hkf Q` (Scc/A64/ConcKNoHk.lean):
  with `Q` empty (`step3M`: the layout's hooks are the `#ctx [` comments, `HeadHF`) for the heap monitor, with `Q`
  total (`step3P`, `step3`: any layout) for everything else.
  In the namespace `Scc.A64.Ref.K`, as Scc/X86/RefClosHRun.lean is for x86-64; Scc/A64/RefHeapRun.lean has the run
  theorem for the data-only relation (namespace `Scc.A64.Ref`).
-/
import Scc.A64.RefClosHInit
import Scc.A64.ThreeWayNav
import Scc.Backend.ThreeWayInvoke
import Scc.Backend.ThreeWayRun
import Scc.AxCut.PosStep
import Scc.A64.RefHeapRun

namespace Scc.A64.Ref.K

open Scc.AxCut Scc.Backend Scc.Backend.Abs Scc.Backend.Sim Scc.A64.CC
open Scc.Backend.Sim2 Scc.Backend.Keys
open Scc.Props.C14Generic (LabelSafe)
open Scc.Props.C06Generic (outAfter WithinCapacity Reachable EnoughHeap CodeFits)
open Scc.Heap (HState InvS InvW)
open Scc.Heap.Refine (HRef FrLe Room FrPk)
-- backend-independent, defined in Scc/AxCut/PosHered.lean
open Scc.X86.Ref.K (allocArity envLen IsJump HeadHF)
open Scc.A64.NoHk (HK HKQ)
open Scc.Heap.Refine (href_init')

/-- what the run needs of the program: jump tables of at most 1024 entries (`maxTagsA64`) (the immediate of
`ADD reg, reg, #4·tag` is a 12-bit immediate; Props/C14LoaderA64Names.lean `C14A_inRangeB`).  On AArch64
nothing else is needed: literals of any size are materialised by MOVZ/MOVK, capacities are hypotheses on
the run.  The bound is used for `invoke` only (`machineI.tagOK`, ThreeWayNav.lean); `Ref.ProgOK` (RefHeapRun.lean) is
another condition: no closures. -/
def ProgOK (p : AxCut.Prog) : Prop := ∀ d ∈ p.types, d.xtors.length ≤ 1024

/-- THE THREE-WAY RELATION at a statement boundary (`kp`: the position in the routine), with the closure
invariant `XC` -/
def Rel3 (c : MemCfg) (cs : List Code) (P : Program) (hooks : Bool) (prog : AxCut.Prog) (st : Pos.State)
    (cfg : Config) (hs : HState) (σ : State) (kp : Nat) : Prop :=
  ∃ (Γ' : Ctx) (ι : Nat → Nat) (κ : Nat → Nat → Word), Γ'.keys = st.ctx.keys ∧ RelX P hooks prog ⟨Γ', st.env, st.stmt⟩ cfg ∧
    X3 c Γ' cfg hs ι κ σ cfg.out ∧ XC P c cs hooks prog.types Γ' st.env cfg κ σ ∧
    ∃ k k' items, (codeStatementR a64Backend hooks natRen prog.types st.stmt Γ').run k = .ok (items, k') ∧
      XAt cs kp items

/-- the three-way simulation claim for one step of the positional machine.  The relation holds again at the
position `kp'`; the machine itself is at item `pcR`, which is the item of `kp'` or ahead of it by `#ctx` hooks
(`Tol`: after the `BR` of an `invoke` of a single-method closure) -/
def StepSim3 (c : MemCfg) (hkf : Code → Bool) (Pm : Prog) (cs : List Code) (P : Program) (hooks : Bool)
    (prog : AxCut.Prog) (st : Pos.State) (cfg : Config) (hs : HState) (σ : State) (kp : Nat) : Prop :=
  match Pos.step prog st with
  | .next st' o =>
    WithinCapacity st'.ctx → 2 * st'.ctx.length ≤ 280 →
    ∃ cfg' hs' σ' kp' pcR, MSteps Pm c σ (pcOf hkf cs kp) cfg.out σ' pcR cfg'.out ∧
      Tol Pm (pcOf hkf cs kp') pcR ∧
      cfg'.out = outAfter o cfg.out ∧ cfg'.next ≤ cfg.next + 1 ∧
      FrLe hs hs' (64 * 140) ∧ Rel3 c cs P hooks prog st' cfg' hs' σ' kp'
  | .done v => ∃ kL σL, MSteps Pm c σ (pcOf hkf cs kp) cfg.out σL (pcOf hkf cs kL) cfg.out ∧
      Pm.items[pcOf hkf cs kL]? = some (.instr .ret) ∧ exitCheck c σL = .done v
  | .stuck _ => True

/-- `StepSim3` with the bookkeeping of the run: the machine visits the hook of the boundary it starts at first, if
at all, and its other hook steps happen at item indices in `Q` (`MStepsHK Q`); a jump executes an instruction; the
frontier moves by the allocated object only (`FrLe`, `FrPk`) -/
def StepSim3K (Q : Nat → Prop) (c : MemCfg) (hkf : Code → Bool) (Pm : Prog) (cs : List Code) (P : Program)
    (hooks : Bool) (prog : AxCut.Prog) (st : Pos.State) (cfg : Config) (hs : HState) (σ : State) (kp : Nat) : Prop :=
  match Pos.step prog st with
  | .next st' o =>
    WithinCapacity st'.ctx → 2 * st'.ctx.length ≤ 280 →
    ∃ cfg' hs' σ' kp' pcR, MStepsHK Q Pm c σ (pcOf hkf cs kp) cfg.out σ' pcR cfg'.out ∧
      Tol Pm (pcOf hkf cs kp') pcR ∧
      (IsJump st.stmt → MStepsHKR Q Pm c σ (pcOf hkf cs kp) cfg.out σ' pcR cfg'.out) ∧
      cfg'.out = outAfter o cfg.out ∧ cfg'.next ≤ cfg.next + 1 ∧
      FrLe hs hs' (64 * allocArity st.stmt) ∧ FrPk hs hs' ∧ Rel3 c cs P hooks prog st' cfg' hs' σ' kp'
  | .done v => ∃ kL σL, MStepsHK Q Pm c σ (pcOf hkf cs kp) cfg.out σL (pcOf hkf cs kL) cfg.out ∧
      Pm.items[pcOf hkf cs kL]? = some (.instr .ret) ∧ exitCheck c σL = .done v
  | .stuck _ => True

/-- … the run of the machine visits no hook item except the hook of the boundary it starts at -/
def StepSim3M (c : MemCfg) (hkf : Code → Bool) (Pm : Prog) (cs : List Code) (P : Program) (hooks : Bool)
    (prog : AxCut.Prog) (st : Pos.State) (cfg : Config) (hs : HState) (σ : State) (kp : Nat) : Prop :=
  match Pos.step prog st with
  | .next st' o =>
    WithinCapacity st'.ctx → 2 * st'.ctx.length ≤ 280 →
    ∃ cfg' hs' σ' kp' pcR, MStepsH Pm c σ (pcOf hkf cs kp) cfg.out σ' pcR cfg'.out ∧
      Tol Pm (pcOf hkf cs kp') pcR ∧
      (IsJump st.stmt → MStepsHR Pm c σ (pcOf hkf cs kp) cfg.out σ' pcR cfg'.out) ∧
      cfg'.out = outAfter o cfg.out ∧ cfg'.next ≤ cfg.next + 1 ∧
      FrLe hs hs' (64 * allocArity st.stmt) ∧ FrPk hs hs' ∧ Rel3 c cs P hooks prog st' cfg' hs' σ' kp'
  | .done v => ∃ kL σL, MStepsH Pm c σ (pcOf hkf cs kp) cfg.out σL (pcOf hkf cs kL) cfg.out ∧
      Pm.items[pcOf hkf cs kL]? = some (.instr .ret) ∧ exitCheck c σL = .done v
  | .stuck _ => True

/-- … with the bookkeeping only: the frontier moves by at most the fields of the allocated object and only when
both free lists are exhausted afterwards (`FrPk`); a jump executes at least one instruction (`MStepsR`) -/
def StepSim3P (c : MemCfg) (hkf : Code → Bool) (Pm : Prog) (cs : List Code) (P : Program) (hooks : Bool)
    (prog : AxCut.Prog) (st : Pos.State) (cfg : Config) (hs : HState) (σ : State) (kp : Nat) : Prop :=
  match Pos.step prog st with
  | .next st' o =>
    WithinCapacity st'.ctx → 2 * st'.ctx.length ≤ 280 →
    ∃ cfg' hs' σ' kp' pcR, MSteps Pm c σ (pcOf hkf cs kp) cfg.out σ' pcR cfg'.out ∧
      Tol Pm (pcOf hkf cs kp') pcR ∧
      (IsJump st.stmt → MStepsR Pm c σ (pcOf hkf cs kp) cfg.out σ' pcR cfg'.out) ∧
      cfg'.out = outAfter o cfg.out ∧ cfg'.next ≤ cfg.next + 1 ∧
      FrLe hs hs' (64 * allocArity st.stmt) ∧ FrPk hs hs' ∧ Rel3 c cs P hooks prog st' cfg' hs' σ' kp'
  | .done v => ∃ kL σL, MSteps Pm c σ (pcOf hkf cs kp) cfg.out σL (pcOf hkf cs kL) cfg.out ∧
      Pm.items[pcOf hkf cs kL]? = some (.instr .ret) ∧ exitCheck c σL = .done v
  | .stuck _ => True

theorem StepSim3K.toM {c : MemCfg} {hkf : Code → Bool} {Pm : Prog} {cs : List Code} {P : Program} {hooks : Bool}
    {prog : AxCut.Prog} {st : Pos.State} {cfg : Config} {hs : HState} {σ : State} {kp : Nat}
    (h : StepSim3K (fun _ => False) c hkf Pm cs P hooks prog st cfg hs σ kp) :
    StepSim3M c hkf Pm cs P hooks prog st cfg hs σ kp := by
  unfold StepSim3K at h
  unfold StepSim3M
  split
  · rename_i st' o hst
    rw [hst] at h
    intro hc hc2
    obtain ⟨cfg', hs', σ', kp', pcR, hm, rest⟩ := h hc hc2
    exact ⟨cfg', hs', σ', kp', pcR, hm.toH, rest.1, fun hj => (rest.2.1 hj).toHR, rest.2.2⟩
  · rename_i v hst
    rw [hst] at h
    obtain ⟨kL, σL, hm, rest⟩ := h
    exact ⟨kL, σL, hm.toH, rest⟩
  · trivial

theorem StepSim3K.toP {Q : Nat → Prop} {c : MemCfg} {hkf : Code → Bool} {Pm : Prog} {cs : List Code} {P : Program}
    {hooks : Bool} {prog : AxCut.Prog} {st : Pos.State} {cfg : Config} {hs : HState} {σ : State} {kp : Nat}
    (h : StepSim3K Q c hkf Pm cs P hooks prog st cfg hs σ kp) :
    StepSim3P c hkf Pm cs P hooks prog st cfg hs σ kp := by
  unfold StepSim3K at h
  unfold StepSim3P
  split
  · rename_i st' o hst
    rw [hst] at h
    intro hc hc2
    obtain ⟨cfg', hs', σ', kp', pcR, hm, rest⟩ := h hc hc2
    exact ⟨cfg', hs', σ', kp', pcR, hm.msteps, rest.1, fun hj => (rest.2.1 hj).mstepsR, rest.2.2⟩
  · rename_i v hst
    rw [hst] at h
    obtain ⟨kL, σL, hm, rest⟩ := h
    exact ⟨kL, σL, hm.msteps, rest⟩
  · trivial

theorem StepSim3P.toBase {c : MemCfg} {hkf : Code → Bool} {Pm : Prog} {cs : List Code} {P : Program} {hooks : Bool}
    {prog : AxCut.Prog} {st : Pos.State} {cfg : Config} {hs : HState} {σ : State} {kp : Nat}
    (h : StepSim3P c hkf Pm cs P hooks prog st cfg hs σ kp) (ha : allocArity st.stmt ≤ 140) :
    StepSim3 c hkf Pm cs P hooks prog st cfg hs σ kp := by
  unfold StepSim3P at h
  unfold StepSim3
  split
  · rename_i st' o hst
    rw [hst] at h
    intro hc hc2
    obtain ⟨cfg', hs', σ', kp', pcR, hm, hT, _, ho, hn, hfr, _, R'⟩ := h hc hc2
    exact ⟨cfg', hs', σ', kp', pcR, hm, hT, ho, hn, FrLe.mono hfr (by omega), R'⟩
  · rename_i v hst
    rw [hst] at h
    exact h
  · trivial

section Run3

variable {c : MemCfg} (H : CfgCC c) (h8 : c.heapBase % 8 = 0) {hkf : Code → Bool} {Pm : Prog} {Q : Nat → Prop}
  {cs pre : List Code} (HB : HoldsB hkf Pm cs) (hnd : (labs cs).Nodup)
  (hfitX : c.codeBase + 4 * ninstr cs < 2 ^ 64) (hcs : cs = pre ++ cleanup)
  (hclean : "cleanup" ∉ labs pre)

include H h8 HB hnd hfitX hcs hclean in
/-- THE THREE-WAY STEP: Theorem A's `TheoremA_full` with the AArch64 machine carried along, for ALL ELEVEN
statement forms -/
theorem step3K (hooks : Bool) (prog : AxCut.Prog) (kc : Nat) (code : List MockOp) (nargs kc' : Nat)
    (hcomp : (compile mockSym hooks prog).run kc = .ok ((code, nargs), kc'))
    (hsafe : LabelSafe prog = true) (hfit : CodeFits code)
    (DX : XDefsAt cs hooks prog) (hprog : ProgOK prog)
    (st : Pos.State) (cfg : Config) (hs : HState) (σ : State) (kp : Nat)
    (R : Rel3 c cs (Program.ofOps code) hooks prog st cfg hs σ kp)
    (T : Pos.StateTyped prog st) (hheap : EnoughHeap cfg)
    (hroom : Room hs (64 * allocArity st.stmt + 64)) (hQ : HKQ hkf Q)
    (hhf : HeadHF st.stmt ∨ ∀ pc, Q pc) :
    StepSim3K Q c hkf Pm cs (Program.ofOps code) hooks prog st cfg hs σ kp := by
  have HA := HB.holdsA
  have Hp := HA.holds
  obtain ⟨Γ', ι, κ, hk, RX, X3h, C, kx, kx', items, hrunX, hatX⟩ := R
  unfold StepSim3K
  split
  · -- a step: the generic assembly at the AArch64 machine
    rename_i st' o hst
    intro hc hc2
    obtain ⟨cfg', hs', ⟨σ', out'⟩, kp', Γ'', ι', κ', hrun, _, ho, hn, hfr, hpk, hk', RX', X', C', hcode', _⟩ :=
      ThreeWay.step3K (machineI c H h8 hkf Pm Q cs HB hQ hnd hfitX pre hcs) (Qs := fun _ => True)
        (Qc := fun _ => True) (XMethodsAt c cs hooks prog.types) hooks prog kc code nargs kc' hcomp hsafe hfit
        (XDefsAt.toM (H := H) (h8 := h8) (Hp := Hp) (hQ := hQ) (hnd := hnd) DX)
        (by constructor <;> intros <;> trivial) (fun _ _ => trivial) (fun _ => trivial) (fun _ _ _ _ => trivial)
        (fun d hd pos hpos => by have := hprog d hd; show pos < 1024; omega) (show 281 ≤ 4096 by decide)
        (fun h => ⟨h, trivial⟩) (fun h _ => h) st cfg hs (σ, cfg.out) kp hk RX (X3.toT H h8 X3h) C.toG hrunX hatX trivial T
        hheap trivial (headOK Hp hQ hnd hhf) hroom hst hc (by show _ < 281; omega)
    obtain rfl : out' = cfg'.out := X'.out
    rcases hrun with ⟨hm, hj⟩ | ⟨pcR, hmR, T'⟩
    · exact ⟨cfg', hs', σ', kp', _, hm, Tol.refl _ _, hj, ho, hn, hfr, hpk, Γ'', ι', κ', hk', RX', X3.ofT H h8 X',
        XC.ofG C', hcode'⟩
    · exact ⟨cfg', hs', σ', kp', pcR, hmR.mstepsHK, T', fun _ => hmR, ho, hn, hfr, hpk, Γ'', ι', κ', hk', RX',
        X3.ofT H h8 X', XC.ofG C', hcode'⟩
  · -- `exit`
    rename_i v hst
    obtain ⟨a, hsa, hra⟩ := Pos.step_done_iff.1 hst
    rw [hsa] at RX hrunX
    obtain ⟨kL, σL, e1, e2, e3, _⟩ := exit_x3 H Hp hcs hclean RX (by rw [readInt_keys hk]; exact hra) X3h
      hrunX hatX hQ
    exact ⟨kL, σL, e1, e2, e3⟩
  · trivial

include H h8 HB hnd hfitX hcs hclean in
/-- … the run of the machine visits no hook item except the hook of the boundary it starts at: `HK hkf` (what the
layout treats as a hook starts with `#ctx [`), `HeadHF st.stmt` (the names that start the statement comments of `op`
and `call` do not start with `#`) -/
theorem step3M (hooks : Bool) (prog : AxCut.Prog) (kc : Nat) (code : List MockOp) (nargs kc' : Nat)
    (hcomp : (compile mockSym hooks prog).run kc = .ok ((code, nargs), kc'))
    (hsafe : LabelSafe prog = true) (hfit : CodeFits code)
    (DX : XDefsAt cs hooks prog) (hprog : ProgOK prog)
    (st : Pos.State) (cfg : Config) (hs : HState) (σ : State) (kp : Nat)
    (R : Rel3 c cs (Program.ofOps code) hooks prog st cfg hs σ kp)
    (T : Pos.StateTyped prog st) (hheap : EnoughHeap cfg)
    (hroom : Room hs (64 * allocArity st.stmt + 64)) (hK : HK hkf) (hhf : HeadHF st.stmt) :
    StepSim3M c hkf Pm cs (Program.ofOps code) hooks prog st cfg hs σ kp :=
  (step3K H h8 HB hnd hfitX hcs hclean hooks prog kc code nargs kc' hcomp hsafe hfit DX hprog st cfg hs σ kp R T
    hheap hroom (Q := fun _ => False) (Or.inl hK) (Or.inl hhf)).toM

include H h8 HB hnd hfitX hcs hclean in
/-- … any layout, any names -/
theorem step3P (hooks : Bool) (prog : AxCut.Prog) (kc : Nat) (code : List MockOp) (nargs kc' : Nat)
    (hcomp : (compile mockSym hooks prog).run kc = .ok ((code, nargs), kc'))
    (hsafe : LabelSafe prog = true) (hfit : CodeFits code)
    (DX : XDefsAt cs hooks prog) (hprog : ProgOK prog)
    (st : Pos.State) (cfg : Config) (hs : HState) (σ : State) (kp : Nat)
    (R : Rel3 c cs (Program.ofOps code) hooks prog st cfg hs σ kp)
    (T : Pos.StateTyped prog st) (hheap : EnoughHeap cfg)
    (hroom : Room hs (64 * allocArity st.stmt + 64)) :
    StepSim3P c hkf Pm cs (Program.ofOps code) hooks prog st cfg hs σ kp :=
  (step3K H h8 HB hnd hfitX hcs hclean hooks prog kc code nargs kc' hcomp hsafe hfit DX hprog st cfg hs σ kp R T
    hheap hroom (Q := fun _ => True) (Or.inr fun _ => trivial) (Or.inr fun _ => trivial)).toP

include H h8 HB hnd hfitX hcs hclean in
/-- … with the uniform bound of 141 blocks on the room and of 140 on the move of the frontier -/
theorem step3 (hooks : Bool) (prog : AxCut.Prog) (kc : Nat) (code : List MockOp) (nargs kc' : Nat)
    (hcomp : (compile mockSym hooks prog).run kc = .ok ((code, nargs), kc'))
    (hsafe : LabelSafe prog = true) (hfit : CodeFits code)
    (DX : XDefsAt cs hooks prog) (hprog : ProgOK prog)
    (st : Pos.State) (cfg : Config) (hs : HState) (σ : State) (kp : Nat)
    (R : Rel3 c cs (Program.ofOps code) hooks prog st cfg hs σ kp)
    (T : Pos.StateTyped prog st) (hheap : EnoughHeap cfg)
    (hroom : Room hs (64 * 141)) :
    StepSim3 c hkf Pm cs (Program.ofOps code) hooks prog st cfg hs σ kp := by
  have ha : allocArity st.stmt ≤ 140 := by
    obtain ⟨Γ', _, _, hk, _, X3h, _⟩ := R
    have := Scc.X86.Ref.K.allocArity_le_length T.1
    have := keys_length hk
    have := X3h.cap
    omega
  exact (step3P H h8 HB hnd hfitX hcs hclean hooks prog kc code nargs kc' hcomp hsafe hfit DX hprog st cfg hs σ kp
    R T hheap (hroom.mono (by omega))).toBase ha

end Run3

theorem xdefsAt_of_compile {hooks : Bool} {prog : AxCut.Prog} {c : Nat} {body : List Code} {nargs c' : Nat}
    (hx : (compile a64Backend hooks prog).run c = .ok ((body, nargs), c')) {cs hdr post : List Code}
    (hcs : cs = hdr ++ body ++ post) : XDefsAt cs hooks prog := by
  intro d hd
  unfold compile compileR at hx
  cases hdefs : prog.defs with
  | nil => rw [hdefs] at hd; simp at hd
  | cons d0 ds =>
    simp only [hdefs, run_bind_ok, run_pure_ok] at hx
    obtain ⟨blocks, k, h1, h2, rfl⟩ := hx
    cases h2
    rw [hdefs] at hd
    obtain ⟨pre, post', ck, ck', items, e, hr⟩ :=
      ThreeWay.assemble_split a64Backend hooks natRen prog.types _ c blocks _ h1 d hd
    have e : assemble a64Backend blocks (List.map (·.name) (d0 :: ds)) =
        pre ++ Code.LAB (d.name.print ++ "_") :: (items ++ post') := e
    have hcs' : cs = (hdr ++ pre) ++ Code.LAB (d.name.print ++ "_") :: (items ++ (post' ++ post)) := by
      rw [hcs, e]; simp [List.append_assoc]
    have hget : cs[(hdr ++ pre).length]? = some (Code.LAB (d.name.print ++ "_")) := by
      rw [hcs']; simp
    refine ⟨(hdr ++ pre).length, ck, ck', items, hget, hr,
      (hdr ++ pre) ++ [Code.LAB (d.name.print ++ "_")], post' ++ post, ?_, by simp; omega⟩
    rw [hcs']; simp [List.append_assoc]

/-- the right half of the relation at the entry: integer parameters, empty heap -/
theorem x3_init {c : MemCfg} {args : List Word} {σ : State} {Γ : Ctx} {a : Nat}
    (R : RepA64 c .normal (initConfig 0 args) σ [])
    (HR : HeapRel c σ (Scc.Heap.init c.heapBase (c.heapBase + c.heapBytes)))
    (hext : ∀ b ∈ Γ, b.chi = .ext) (hcap : 2 * Γ.length ≤ 280)
    (hb : 0 < c.heapBase) (hl : 128 ≤ c.heapBytes) (ι : Nat → Nat) (κ : Nat → Nat → Word) :
    X3 c Γ (initConfig a args) (Scc.Heap.init c.heapBase (c.heapBase + c.heapBytes)) ι κ σ [] := by
  have hroots : roots Γ (initConfig a args).temps = [] := roots_go_all_ext _ Γ 0 hext
  unfold X3
  rw [hroots]
  refine ⟨R.core, hcap, ?_, ?_, rfl, HR, href_init' ι hb (by omega)⟩
  · intro i hi w hw
    have hc : Γ[i].chi = .ext := hext _ (List.getElem_mem hi)
    rw [hc]
    exact words_of (R.temps (2 * i + 1) w ⟨by omega, by omega⟩ hw) (fun _ => rfl)
  · intro i hi hc
    exact absurd (hext _ (List.getElem_mem hi)) hc

/-! ## the entry

`Entry` and `entry_setup` have the full names `Scc.A64.ConcK.…` under which the run files (Scc/A64/ConcK*.lean)
speak of them; they stand here, in the namespace of the relation, whose `init_sim3` and `x3_init` the proof uses. -/

/-- what the header of the routine establishes: the routine, the definitions, the first boundary — the machine
state `σ0` at the position `kp0` of the code of the entry definition `d0`, in the relation with the initial
configuration of the abstract machine at the address `a` of `d0` in the mock code -/
structure _root_.Scc.A64.ConcK.Entry (p : AxCut.Prog) (args : List Word) (hooks : Bool) (routine : List Code) (d0 : Def)
    (ops : List MockOp) (c : MemCfg) (hk : Code → Bool) (P : Prog) (pre : List Code) (σ0 : State) (kp0 : Nat)
    (a : Nat) : Prop where
  split : routine = pre ++ cleanup
  clean : "cleanup" ∉ labs pre
  defs : XDefsAt routine hooks p
  main : P.labels["asm_main"]? = some (pcOf hk routine 2)
  steps : MSteps P c (entryState c args) (pcOf hk routine 2) [] σ0 (pcOf hk routine kp0) []
  rel : Rel3 c routine (Program.ofOps ops) hooks p ⟨d0.ctx, args.map .int, d0.body⟩ (initConfig a args)
    (Scc.Heap.init c.heapBase (c.heapBase + c.heapBytes)) σ0 kp0
  next1 : (initConfig a args).next = 1
  typed : Pos.StateTyped p ⟨d0.ctx, args.map .int, d0.body⟩
  nargs : args.length ≤ 7

/-- loader facts, the header of the routine (`init_sim3`), Theorem A at the entry: the first boundary -/
theorem _root_.Scc.A64.ConcK.entry_setup (p : AxCut.Prog) (args : List Word) (hooks : Bool) (body routine : List Code)
    (nargs : Nat) (d0 : Def) (ops : List MockOp) (c' : Nat)
    (hsafe : LabelSafe p = true) (htp : LinTypedProg p)
    (hcompM : (compile mockSym hooks p).run 0 = .ok ((ops, nargs), c'))
    (hcompX : compileProg a64Backend p hooks 0 = .ok (body, nargs, routine))
    (hnd : (labs routine).Nodup)
    (hd : p.defs.head? = some d0) (hentry : ∀ b ∈ d0.ctx, b.chi = .ext ∧ b.ty = .i64)
    (hlen : d0.ctx.length = args.length) (hc0 : 2 * d0.ctx.length ≤ 280)
    (c : MemCfg) (H : CfgCC c) (hb0 : 0 < c.heapBase) (hbytes : 128 ≤ c.heapBytes)
    {hk : Code → Bool} {P : Prog} (HB : HoldsB hk P routine) {Q : Nat → Prop} (hQ : HKQ hk Q) :
    ∃ pre σ0 kp0 a, ConcK.Entry p args hooks routine d0 ops c hk P pre σ0 kp0 a ∧
      MStepsK Q P c (entryState c args) (pcOf hk routine 2) [] σ0 (pcOf hk routine kp0) [] := by
  obtain ⟨c1, hcompA, hrout⟩ := compileProg_ok hcompX
  have HA := HB.holdsA
  have Hp := HA.holds
  have hmem : d0 ∈ p.defs := by
    cases hdefs : p.defs with
    | nil => rw [hdefs] at hd; simp at hd
    | cons d ds => rw [hdefs] at hd; simp at hd; subst hd; simp
  have hnodupD := Scc.Props.C14Generic.labels_unique hooks p 0 ops nargs c' hcompM hsafe
  obtain ⟨_, hnargs⟩ := compile_mock_entry hcompM hd
  rw [hnargs, hlen] at hrout
  have hargs : args.length ≤ 7 := by
    obtain ⟨su, hsu, _⟩ := routine_anatomy hrout
    obtain ⟨moves, hm, _⟩ := setup_eq hsu
    exact CC.moveArguments_le _ _ hm
  obtain ⟨hdr, σ2, hcs, hlabs, hlab, hk0, R, HR⟩ := init_sim3 (c := c) H hrout Hp hQ
  obtain ⟨a, hlabA, RX, hn1⟩ := init_relX hooks p 0 ops nargs c' hcompM hnodupD d0 hmem
    (fun b hb => (hentry b hb).1) args hlen (withinCapacity_of_le hc0)
  have T : Pos.StateTyped p ⟨d0.ctx, args.map .int, d0.body⟩ :=
    ⟨htp d0 hmem, Pos.ints_typed d0.ctx args hlen hentry⟩
  -- the entry definition: its label is the first code of the body
  obtain ⟨is, rest, kx, kx', hbody, hdrun, _⟩ := Ref.compile_a64_entry hcompA hd
  have hget : routine[hdr.length]? = some (Code.LAB (d0.name.print ++ "_")) := by
    rw [hcs, hbody]; simp
  have hdat : XAt routine (hdr.length + 1) is :=
    ⟨hdr ++ [Code.LAB (d0.name.print ++ "_")], rest ++ cleanup, by rw [hcs, hbody]; simp, by simp⟩
  have hlabitem : isItem hk (Code.LAB (d0.name.print ++ "_")) = false := by
    cases hh : hk (Code.LAB (d0.name.print ++ "_")) with
    | false => simp [isItem, Code.isMeta, hh]
    | true => obtain ⟨m, e⟩ := Hp.hkComment _ hh; cases e
  have hpc1 : pcOf hk routine (hdr.length + 1) = pcOf hk routine hdr.length := pcOf_noitem hget hlabitem
  have X3i : X3 c d0.ctx (initConfig a args)
      (Scc.Heap.init c.heapBase (c.heapBase + c.heapBytes)) id (fun _ _ => 0) σ2 [] :=
    x3_init R HR (fun b hb => (hentry b hb).1) hc0 hb0 hbytes id (fun _ _ => 0)
  have R3 : Rel3 c routine (Program.ofOps ops) hooks p ⟨d0.ctx, args.map .int, d0.body⟩ (initConfig a args)
      (Scc.Heap.init c.heapBase (c.heapBase + c.heapBytes)) σ2 (hdr.length + 1) :=
    ⟨d0.ctx, id, fun _ _ => 0, rfl, RX, X3i, fun i h1 h2 w hw => by
      simp only [List.getElem_map]
      exact .int _ _ _ _, kx, kx', is, hdrun, hdat⟩
  have hclean : "cleanup" ∉ labs (hdr ++ body) := by
    rw [hcs, labs_append] at hnd
    have := (List.nodup_append.1 hnd).2.2
    intro hm
    exact this _ hm _ cleanup_mem_labs rfl
  rw [← hpc1] at hk0
  exact ⟨hdr ++ body, σ2, hdr.length + 1, a, ⟨hcs, hclean, xdefsAt_of_compile hcompA hcs, hlab, hk0.msteps, R3, hn1,
    T, hargs⟩, hk0⟩

end Scc.A64.Ref.K
