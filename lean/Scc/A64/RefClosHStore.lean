/-
  Scc.A64.RefClosHStore — `storeK` (the words of the stored closure fields, in the vocabulary of the AArch64 machine),
  `kindB_trF`, and `X3R.ref_lt`: the references held by the variables of a related context are heap addresses.  The abstract
  `store` against `Memory::store` itself is `Scc.Backend.ThreeWay.store_x3` (Backend/ThreeWayLet.lean) at the
  AArch64 target (ThreeWayTarget.lean).
-/
import Scc.A64.ConcKNoHk
import Scc.A64.RefClosHX3
import Scc.Backend.ProofsHeap2
import Scc.Heap.RefineFrontier
import Scc.A64.RefHeapX3

namespace Scc.A64.Ref.K

open Scc.AxCut Scc.Backend Scc.Backend.Abs Scc.A64.CC
open Scc.Heap (HState)
open Scc.Heap.Refine (kindB href_root_mem href_head_lt)

theorem kindB_trF (κ : Nat → Nat → Word) (id j : Nat) (f : Abs.Field) : kindB (trF κ id j f) = kindB f := rfl

theorem X3R.ref_lt {c : MemCfg} (H : CfgCC c) {Γ : Ctx} {cfg : Config} {hs : HState} {ι : Nat → Nat} {κ : Nat → Nat → Word}
    {σ : State} {out : List (Bool × Word)}
    (X : X3 c Γ cfg hs ι κ σ out) {i : Nat} (hi : i < Γ.length) (hc : Γ[i].chi ≠ .ext) {r : Word}
    (hr : cfg.temps.get (2 * i) = some r) (h0 : r ≠ 0) :
    ι r.toNat < 2 ^ 64 ∧ r.toNat < cfg.next := by
  have hm := Scc.Backend.Sim2.mem_roots hi hc hr h0
  obtain ⟨o, ho⟩ := href_root_mem X.href hm
  have h1 := href_head_lt X.href ho
  have h2 := limit_lt (X.spOk H) X.hrel
  have h7 := (X.href.abs.ids _ ho).2.1
  simp only at h1 h7
  constructor
  · omega
  · exact h7

/-- the words of the stored closure fields: what the machine holds at the stored positions -/
def storeK (σ : State) (κ : Nat → Nat → Word) (id n : Nat) : Nat → Nat → Word :=
  fun i j => if i = id then (σ.tempVal (posTemp (2 * (n + j) + 1))).getD 0 else κ i j

end Scc.A64.Ref.K
