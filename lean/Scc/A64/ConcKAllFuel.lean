/-
  Scc.A64.ConcKAllFuel — EVERY AMOUNT OF MACHINE FUEL on AArch64, runs that do not terminate included, ALL
  PROGRAMS (data types and closures): the runs of ConcKC10.lean composed with the run loop `runProg`.  If the
  positional machine never gets stuck, the machine ends, for every fuel, in `outOfFuel` or in `done v` with the
  result of the positional machine (`programs_all_fuel_gen`, for any source of the peak hypothesis;
  `programs_dsize_all`: under a bound `D` on the fields of the values of the environments, in ANY heap of at least
  `64·(D + A + 2)` bytes, and nothing is written above that).  A run with the heap monitor ON ends as the run with
  the monitor OFF, or in a report of the HEAP monitor (`runProg_monitor_indep`): so for EVERY monitor configuration
  the result is never a report of the calling-convention monitor (`ccSafe_of_monOff`).
-/
import Scc.A64.ConcKC10

namespace Scc.A64.ConcK

open Scc.AxCut Scc.Backend Scc.A64.Ref
open Scc.A64.CC
open Scc.Props.C14Generic (LabelSafe)
open Scc.Props.C06Generic (outAfter WithinCapacity Reachable EnoughHeap CodeFits statesOf stopsWithin)
open Scc.Heap (HState InvS InvW Exhausted)
open Scc.Heap.Refine (HRef FrLe Room FrPk)
open Scc.X86.Conc (FrBound LiveLe LiveLe0 stmtSize clausesSize valsFields run_eq_runState)
open Scc.X86.Ref.K (AllocLe AllocLeClauses ValAll)

def monOff (m : MonCfg) : MonCfg := { m with heap := false }

/-- a run with the heap monitor ON ends as the run with the monitor OFF, or in a report of the HEAP monitor -/
theorem runLoop_monitor_indep (P : Prog) (m : MonCfg) : ∀ (f : Nat) (M M' : Machine), M.σ = M'.σ → M.pc = M'.pc →
    (runLoop P m f M).res = (runLoop P (monOff m) f M').res ∨ ∃ e ln, (runLoop P m f M).res = .invFail e ln
  | 0, _, _, _, _ => Or.inl rfl
  | f + 1, M, M', hσ, hpc => by
    cases hit : P.items[M.pc]? with
    | none =>
      have hlt : ¬ M.pc < P.items.size := by
        intro hlt; simp [hlt] at hit
      have hlt' : ¬ M'.pc < P.items.size := by rw [← hpc]; exact hlt
      left
      rw [runLoop, runLoop]
      simp only [hlt, hlt', dite_false, finish_res]
    | some it =>
      have hit' : P.items[M'.pc]? = some it := by rw [← hpc]; exact hit
      rw [runLoop_item hit, runLoop_item hit']
      cases it with
      | hook vs =>
        have hoff : (monOff m).heap = false := rfl
        simp only [hoff, Bool.false_eq_true, if_false]
        by_cases hh : m.heap = true
        · simp only [hh, if_true]
          cases heapMonitor m.mem M.σ vs with
          | error e => exact Or.inr ⟨e, _, rfl⟩
          | ok b => exact runLoop_monitor_indep P m f _ _ hσ (by simp only [hpc])
        · simp only [hh, Bool.false_eq_true, if_false]
          exact runLoop_monitor_indep P m f _ _ hσ (by simp only [hpc])
      | instr i =>
        have hmem : (monOff m).mem = m.mem := rfl
        simp only [hmem, ← hσ, ← hpc]
        cases step P m.mem i M.σ M.pc with
        | next σ1 pc1 => exact runLoop_monitor_indep P m f _ _ rfl rfl
        | print nl w σ1 pc1 => exact runLoop_monitor_indep P m f _ _ rfl rfl
        | stop r => exact Or.inl rfl

theorem runProg_monitor_indep (P : Prog) (args : List Word) (f : Nat) (m : MonCfg) :
    (runProg P args f m).res = (runProg P args f (monOff m)).res ∨
      ∃ e ln, (runProg P args f m).res = .invFail e ln := by
  unfold runProg
  cases P.labels["asm_main"]? with
  | none => exact Or.inl rfl
  | some j =>
    simp only
    split
    · exact Or.inl rfl
    · exact runLoop_monitor_indep P m f _ _ rfl rfl

/-- an outcome `outOfFuel` / `done v` of the run with the heap monitor off gives, for any setting of the heap
monitor, an outcome that is not a report of the calling-convention monitor -/
theorem ccSafe_of_monOff {P : Prog} {args : List Word} {f : Nat} {m : MonCfg}
    (h : (runProg P args f (monOff m)).res = .outOfFuel ∨ ∃ v, (runProg P args f (monOff m)).res = .done v) :
    (runProg P args f m).res = .outOfFuel ∨ (∃ v, (runProg P args f m).res = .done v) ∨
      ∃ what ln, m.heap = true ∧ (runProg P args f m).res = .invFail what ln := by
  cases hh : m.heap with
  | false =>
    have e : monOff m = m := by
      cases m; simp only [monOff] at *; rw [hh]
    rw [e] at h
    rcases h with h | h
    · exact Or.inl h
    · exact Or.inr (Or.inl h)
  | true =>
    rcases runProg_monitor_indep P args f m with h1 | ⟨e, ln, h1⟩
    · rw [h1]
      rcases h with h | h
      · exact Or.inl h
      · exact Or.inr (Or.inl h)
    · exact Or.inr (Or.inr ⟨e, ln, rfl, h1⟩)

theorem ccSafe_of_outcome {r : Res} {heap : Bool}
    (h : r = .outOfFuel ∨ (∃ v, r = .done v) ∨ ∃ what ln, heap = true ∧ r = .invFail what ln) : CCSafe r := by
  rcases h with h | ⟨v, h⟩ | ⟨e, ln, _, h⟩ <;> rw [h] <;> trivial

/-- a run that ends with `done v` for some fuel is out of fuel or ends with `done v` for every fuel -/
theorem runLoop_res_of_done {P : Prog} {cfg : MonCfg} {v : Word} : ∀ (f0 : Nat) (M : Machine),
    (runLoop P cfg f0 M).res = .done v →
    ∀ f, (runLoop P cfg f M).res = .outOfFuel ∨ (runLoop P cfg f M).res = .done v
  | 0, M, h, _ => by cases h
  | f0 + 1, M, h, 0 => Or.inl rfl
  | f0 + 1, M, h, f + 1 => by
    cases hit : P.items[M.pc]? with
    | none =>
      have hlt : ¬ M.pc < P.items.size := by
        intro hlt; simp [hlt] at hit
      rw [runLoop] at h ⊢
      simp only [hlt, dite_false, finish_res] at h ⊢
      exact Or.inr h
    | some it =>
      rw [runLoop_item hit] at h ⊢
      cases it with
      | hook vs =>
        simp only at h ⊢
        split at h
        · rename_i hh
          rw [if_pos hh]
          cases hm : heapMonitor cfg.mem M.σ vs with
          | error e => rw [hm] at h; cases h
          | ok b =>
            rw [hm] at h
            exact runLoop_res_of_done f0 _ h f
        · rename_i hh
          rw [if_neg hh]
          exact runLoop_res_of_done f0 _ h f
      | instr i =>
        simp only at h ⊢
        cases hst : step P cfg.mem i M.σ M.pc with
        | next σ1 pc1 => rw [hst] at h; exact runLoop_res_of_done f0 _ h f
        | print nl w σ1 pc1 => rw [hst] at h; exact runLoop_res_of_done f0 _ h f
        | stop r => rw [hst] at h; exact Or.inr h

theorem runProg_res_of_done {P : Prog} {args : List Word} {cfg : MonCfg} {f0 : Nat} {v : Word}
    (h : (runProg P args f0 cfg).res = .done v) (f : Nat) :
    (runProg P args f cfg).res = .outOfFuel ∨ (runProg P args f cfg).res = .done v := by
  unfold runProg at h ⊢
  cases hl : P.labels["asm_main"]? with
  | none => rw [hl] at h; cases h
  | some j =>
    rw [hl] at h
    simp only at h ⊢
    split at h
    · cases h
    · rename_i hn
      rw [if_neg hn]
      exact runLoop_res_of_done f0 _ h f

section Gen

/-! Standing hypotheses of every theorem of this section (`include`): the program is label-safe and linearly typed,
its types have at most 1024 xtors (`K.ProgOK`); the MOCK generator compiles it to `ops` (`hcompM`: the code of the
abstract machine of Theorem A), which fits the address space (`hfit`); the AArch64 generator compiles it to `routine`,
whose labels are pairwise distinct (`hnd`); the first definition `d0` has integer parameters, as many as there are
arguments; every reachable context has at most 140 variables (`hcap`). -/
variable (p : AxCut.Prog) (args : List Word) (hooks : Bool) (body routine : List Code)
  (nargs : Nat) (d0 : Def) (ops : List MockOp) (c' : Nat)
  (hsafe : LabelSafe p = true) (htp : LinTypedProg p) (hprog : K.ProgOK p)
  (hcompM : (compile mockSym hooks p).run 0 = .ok ((ops, nargs), c')) (hfit : CodeFits ops)
  (hcompX : compileProg a64Backend p hooks 0 = .ok (body, nargs, routine))
  (hnd : (labs routine).Nodup)
  (hd : p.defs.head? = some d0) (hentry : ∀ b ∈ d0.ctx, b.chi = .ext ∧ b.ty = .i64)
  (hlen : d0.ctx.length = args.length)
  (hcap : ∀ st, Reachable p ⟨d0.ctx, args.map .int, d0.body⟩ st → 2 * st.ctx.length ≤ 280)

include hsafe htp hprog hcompM hfit hcompX hnd hd hentry hlen hcap in
/-- A TERMINATING RUN ON THE RUN LOOP (heap monitor off), for any source of the peak hypothesis: there is an
amount `N` of fuel such that with more fuel the machine returns the result of the positional machine with its
trace, and with at most `N` it is out of fuel -/
theorem programs_done_gen (fuel : Nat) (out : List (Bool × Word)) (v : Word) (hfuel : fuel + 1 < 2 ^ 64)
    (hrun : Pos.run p args fuel = ⟨out, .done v⟩)
    (cfg : MonCfg) (H : CfgCC cfg.mem) (hheap : cfg.heap = false)
    (hb8 : cfg.mem.heapBase % 8 = 0) (hb0 : 0 < cfg.mem.heapBase)
    (Pk A : Nat) (hA : ∀ d ∈ p.defs, AllocLe A d.body) (hbytes : 64 * (Pk + A + 2) ≤ cfg.mem.heapBytes)
    {hk : Code → Bool} {P : Prog} (HB : K.HoldsB hk P routine)
    (hfitX : cfg.mem.codeBase + 4 * ninstr routine < 2 ^ 64)
    (hPH : PeakHyp p hooks routine ops cfg.mem hk P args d0 Pk (A * fuel + 1)) :
    ∃ N, (∀ f, f ≤ N → (runProg P args f cfg).res = .outOfFuel) ∧
      ∀ f, N < f → (runProg P args f cfg).out = out ∧ (runProg P args f cfg).res = .done v := by
  obtain ⟨hmain, hargs, n0, X0, n, XL, h0, _, h1, hret, hx, hout⟩ := programs_run_gen p args hooks body routine nargs
    d0 ops c' hsafe htp hprog hcompM hfit hcompX hnd hd hentry hlen hcap fuel out v hfuel hrun cfg.mem H hb8 hb0 Pk A
    hA hbytes HB hfitX hPH
  have hN := h0.trans h1
  refine ⟨n0 + n, fun f hf => runProg_outOfFuel hheap hmain hargs hN hf, fun f hf => ?_⟩
  obtain ⟨s', hs'⟩ := runProg_stepsN hheap hmain hargs hN
  obtain ⟨g, rfl⟩ : ∃ g, f = n0 + n + (g + 1) := ⟨f - (n0 + n) - 1, by omega⟩
  rw [hs' (g + 1)]
  obtain ⟨e1, e2⟩ := runLoop_ret (cfg := cfg) hret hx XL.out s' 0 g
  exact ⟨by rw [← hout]; exact e1, e2⟩

include hsafe htp hprog hcompM hfit hcompX hnd hd hentry hlen hcap in
/-- EVERY AMOUNT OF MACHINE FUEL (heap monitor off), all programs, for any source of the peak hypothesis: the
result of the machine on a program that holds the routine is `outOfFuel`, or `done v` with `v` the result of the
positional machine — provided the positional machine never gets stuck (no division by zero / overflow) -/
theorem programs_all_fuel_gen (hnostuck : ∀ fuel w, (Pos.run p args fuel).res ≠ .stuck w)
    (cfg : MonCfg) (H : CfgCC cfg.mem) (hheap : cfg.heap = false)
    (hb8 : cfg.mem.heapBase % 8 = 0) (hb0 : 0 < cfg.mem.heapBase)
    (Pk A M : Nat) (hA : ∀ d ∈ p.defs, AllocLe A d.body) (hM : ∀ d ∈ p.defs, stmtSize d.body ≤ M)
    (hbytes : 64 * (Pk + A + 2) ≤ cfg.mem.heapBytes)
    {hk : Code → Bool} {P : Prog} (HB : K.HoldsB hk P routine)
    (hfitX : cfg.mem.codeBase + 4 * ninstr routine < 2 ^ 64)
    (fuel' : Nat) (hf : fuel' * (M + 1) + stmtSize d0.body + 1 < 2 ^ 64)
    (hPH : PeakHyp p hooks routine ops cfg.mem hk P args d0 Pk (A * (fuel' * (M + 1) + stmtSize d0.body) + 1)) :
    (runProg P args fuel' cfg).res = .outOfFuel ∨
      ∃ v out, Pos.run p args (fuel' * (M + 1) + stmtSize d0.body) = ⟨out, .done v⟩ ∧
        (runProg P args fuel' cfg).res = .done v := by
  have hrs := run_eq_runState hd hlen (fuel' * (M + 1) + stmtSize d0.body)
  cases hres : Pos.run p args (fuel' * (M + 1) + stmtSize d0.body) with
  | mk out res =>
  cases res with
  | stuck w => exact absurd (by rw [hres]) (hnostuck (fuel' * (M + 1) + stmtSize d0.body) w)
  | done v =>
    obtain ⟨N, h1, h2⟩ := programs_done_gen p args hooks body routine nargs d0 ops c' hsafe htp hprog hcompM hfit
      hcompX hnd hd hentry hlen hcap _ out v hf hres cfg H hheap hb8 hb0 Pk A hA hbytes HB hfitX hPH
    by_cases hle : fuel' ≤ N
    · exact Or.inl (h1 fuel' hle)
    · exact Or.inr ⟨v, out, rfl, (h2 fuel' (by omega)).2⟩
  | outOfFuel =>
    left
    rw [hrs] at hres
    obtain ⟨hmain, hargs, n, X, hn, hX⟩ := programs_progress_gen p args hooks body routine nargs d0 ops c' hsafe htp
      hprog hcompM hfit hcompX hnd hd hentry hlen hcap _ hf cfg.mem H hb8 hb0 Pk A M hA hM hbytes HB hfitX hPH out
      hres fuel' (Nat.le_refl _)
    exact runProg_outOfFuel hheap hmain hargs hX hn

include hsafe htp hprog hcompM hfit hcompX hnd hd hentry hlen hcap in
/-- EVERY AMOUNT OF MACHINE FUEL under a bound `D` on the fields of the object and closure values of the
positional machine's environments, all programs: the machine on a program that holds the routine, in ANY heap
of at least `64·(D + A + 2)` bytes, ends in `outOfFuel` or in `done v` (the result of the positional machine), and
never writes above `64·(D + A + 2)` bytes of its heap -/
theorem programs_dsize_all (hnostuck : ∀ fuel w, (Pos.run p args fuel).res ≠ .stuck w)
    (D : Nat) (hD : ∀ st, Reachable p ⟨d0.ctx, args.map .int, d0.body⟩ st → valsFields st.env ≤ D)
    (cfg : MonCfg) (H : CfgCC cfg.mem) (hheap : cfg.heap = false)
    (hb8 : cfg.mem.heapBase % 8 = 0) (hb0 : 0 < cfg.mem.heapBase)
    (A M : Nat) (hA : ∀ d ∈ p.defs, AllocLe A d.body) (hM : ∀ d ∈ p.defs, stmtSize d.body ≤ M)
    (hbytes : 64 * (D + A + 2) ≤ cfg.mem.heapBytes)
    {hk : Code → Bool} {P : Prog} (HB : K.HoldsB hk P routine)
    (hfitX : cfg.mem.codeBase + 4 * ninstr routine < 2 ^ 64)
    (fuel' : Nat) (hf : fuel' * (M + 1) + stmtSize d0.body + 1 < 2 ^ 64) :
    ((runProg P args fuel' cfg).res = .outOfFuel ∨
      ∃ v out, Pos.run p args (fuel' * (M + 1) + stmtSize d0.body) = ⟨out, .done v⟩ ∧
        (runProg P args fuel' cfg).res = .done v) ∧
    (runProg P args fuel' cfg).maxHeapWritten ≤ 64 * (D + A + 2) := by
  -- the run in the heap cut down to `64·(D + A + 2)` bytes
  have Ht := cfgCC_withHeapBytes H hbytes
  have hmt := runProg_mhw P args fuel' (withHeapBytes cfg (64 * (D + A + 2))) hheap
  have htight := programs_all_fuel_gen p args hooks body routine nargs d0 ops c' hsafe htp hprog hcompM hfit hcompX
    hnd hd hentry hlen hcap hnostuck (withHeapBytes cfg (64 * (D + A + 2))) Ht hheap hb8 hb0 D A M hA hM
    (Nat.le_refl _) HB hfitX fuel' hf (peakHyp_of_data hD)
  have e := runProg_larger_heap (P := P) (sub_withHeapBytes H hbytes) hheap hheap args fuel' (by
    rcases htight with h | ⟨v, _, _, h⟩
    · exact Or.inl h
    · exact Or.inr ⟨v, h⟩)
  rw [e]
  exact ⟨htight, hmt⟩

end Gen

end Scc.A64.ConcK
