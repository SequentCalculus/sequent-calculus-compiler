/-
  Scc.A64.CCProofsSites — property C13, AArch64, static facts about the emitted text: what the shape
  `CCShape plainCC body` of Scc/A64/CCProofsStatic.lean says about CALL SITES and about the whole routine.

  (i)   `ccShape_call_site`: every `BL` of the body is the call of a print block: it is preceded by
        `blockBefore t ctx` (argument staging; save sequence; argument move) and followed by
        `blockAfter ctx` (restore sequence) for ONE context `ctx`; `save_restore_mirror`: restore = save
        undone (the same backup moves reversed in direction, loads of the stored slots in reverse order,
        `ADD SP` of the amount of the `SUB SP`); `mem_callerSave_iff`: the saved registers are EXACTLY the
        caller-saved registers X0…X17 and the link register X30 (logical 29) that hold something live:
        HEAP, FREE and the temporaries of the context;
  (ii)  `spDelta` / `spSum`: static displacement of `SP`; `All16`: every instruction moves SP by a
        multiple of 16.  `routine_all16`: every SP-writing instruction of the routine moves SP by a
        multiple of 16 (so SP is 16-aligned at every SP-based access, given the AAPCS64 entry condition);
        hence (`All16.spSum`) so does every stretch of the routine, in particular the one from the entry to
        a call site (`routine_call_aligned`); `routine_balanced`: the displacement at the final `RET` is 0;
  (iii) `routine_anatomy`: routine = head ++ body ++ cleanup; `setup_cleanup_pairing`: setup stores the
        pairs X19/X20 … X29/X30 (logical 18…29) with pre-index −16 and cleanup loads the same pairs in
        reverse order with post-index +16; `ccShape_spill_refs`: every SP-relative operand of a plain
        instruction lies in the spill area reserved by `SUB SP, SP, 2048`;
  (iv)  `ccShape_nonplain_in_block`: an instruction of the body that writes SP (or is BL / RET / STP / LDP)
        lies inside a print block.
  (i) and (iv) are the two readings — by lists and by positions — of ONE induction over the shape,
  `Shape.split_at` of Scc/Backend/ProofsBlocks.lean (an instruction that is not plain lies in a block), at the
  print blocks; the splitting of a list at its only call is `split_unique` / `split_middle` there.
-/
import Scc.A64.CCProofsStatic

set_option linter.unusedSimpArgs false

namespace Scc.A64

open Scc.AxCut

def spDelta : Code → Int
  | .ADDI x y i => if x = .sp ∧ y = .sp then i else 0
  | .SUBI x y i => if x = .sp ∧ y = .sp then -i else 0
  | .STP_PRE_INDEX _ _ b i => if b = .sp then i else 0
  | .LDP_POST_INDEX _ _ b i => if b = .sp then i else 0
  | _ => 0

def spSum (l : List Code) : Int := (l.map spDelta).sum

@[simp] theorem spSum_nil : spSum [] = 0 := rfl
@[simp] theorem spSum_cons (c : Code) (l : List Code) : spSum (c :: l) = spDelta c + spSum l := by
  simp [spSum]
@[simp] theorem spSum_append (a b : List Code) : spSum (a ++ b) = spSum a + spSum b := by
  simp [spSum]

def All16 (l : List Code) : Prop := ∀ c ∈ l, spDelta c % 16 = 0

theorem all16_append {a b : List Code} (ha : All16 a) (hb : All16 b) : All16 (a ++ b) :=
  fun c hc => (List.mem_append.1 hc).elim (ha c) (hb c)

theorem spDelta_plain {c : Code} (h : plainCC c = true) : spDelta c = 0 := by
  cases c <;> simp [plainCC, isStackOp, codeWrites, codeMems] at h <;> simp [spDelta, *]

theorem spSum_allCC {l : List Code} (h : AllCC l) : spSum l = 0 := by
  induction l with
  | nil => rfl
  | cons c rest ih =>
    simp only [AllCC, List.all_cons, Bool.and_eq_true] at h
    rw [spSum_cons, spDelta_plain h.1, ih h.2]; rfl

theorem all16_allCC {l : List Code} (h : AllCC l) : All16 l := by
  intro c hc
  rw [spDelta_plain (List.all_eq_true.1 h c hc)]; rfl

theorem spSum_moveCodes (pairs : List (Nat × Nat)) : spSum (moveCodes pairs) = 0 := by
  induction pairs with
  | nil => rfl
  | cons p rest ih => simp only [moveCodes, List.map_cons, spSum_cons] at ih ⊢; rw [ih]; rfl

theorem spSum_strCodes (items : List (Nat × Int)) : spSum (strCodes items) = 0 := by
  induction items with
  | nil => rfl
  | cons p rest ih => simp only [strCodes, List.map_cons, spSum_cons] at ih ⊢; rw [ih]; rfl

theorem spSum_ldrCodes (items : List (Nat × Int)) : spSum (ldrCodes items) = 0 := by
  induction items with
  | nil => rfl
  | cons p rest ih => simp only [ldrCodes, List.map_cons, spSum_cons] at ih ⊢; rw [ih]; rfl

theorem all16_moveCodes (pairs : List (Nat × Nat)) : All16 (moveCodes pairs) := by
  intro c hc; simp only [moveCodes, List.mem_map] at hc; obtain ⟨_, _, rfl⟩ := hc; rfl
theorem all16_strCodes (items : List (Nat × Int)) : All16 (strCodes items) := by
  intro c hc; simp only [strCodes, List.mem_map] at hc; obtain ⟨_, _, rfl⟩ := hc; rfl
theorem all16_ldrCodes (items : List (Nat × Int)) : All16 (ldrCodes items) := by
  intro c hc; simp only [ldrCodes, List.mem_map] at hc; obtain ⟨_, _, rfl⟩ := hc; rfl

theorem pushed_mod16 (fb : Nat) (regs : List Nat) : address (pushedCount fb regs) % 16 = 0 := by
  obtain ⟨_, _, h⟩ := roundEven_props (regs.length - backupUsed fb regs)
  have : pushedCount fb regs = roundEven (regs.length - backupUsed fb regs) := rfl
  rw [address_eq, this]; omega

theorem spSum_save (fb : Nat) (regs : List Nat) :
    spSum (saveCallerSaveRegisters fb regs) =
      if regs.length - backupUsed fb regs > 0 then -address (pushedCount fb regs) else 0 := by
  rw [save_decompose]
  split <;> simp [spSum_moveCodes, spSum_strCodes, spDelta]

theorem spSum_restore (fb : Nat) (regs : List Nat) :
    spSum (restoreCallerSaveRegisters fb regs) =
      if regs.length - backupUsed fb regs > 0 then address (pushedCount fb regs) else 0 := by
  rw [restore_decompose]
  split <;> simp [spSum_moveCodes, spSum_ldrCodes, spDelta]

theorem all16_save (fb : Nat) (regs : List Nat) : All16 (saveCallerSaveRegisters fb regs) := by
  rw [save_decompose]
  refine all16_append (all16_moveCodes _) ?_
  split
  · refine all16_append ?_ (all16_strCodes _)
    intro c hc
    simp only [List.mem_singleton] at hc; subst hc
    have := pushed_mod16 fb regs
    simp only [spDelta, and_self, if_true]; omega
  · intro c hc; simp at hc

theorem all16_restore (fb : Nat) (regs : List Nat) : All16 (restoreCallerSaveRegisters fb regs) := by
  rw [restore_decompose]
  refine all16_append (all16_moveCodes _) ?_
  split
  · refine all16_append (all16_ldrCodes _) ?_
    intro c hc
    simp only [List.mem_singleton] at hc; subst hc
    have := pushed_mod16 fb regs
    simp only [spDelta, and_self, if_true]; exact this
  · intro c hc; simp at hc

/-- staging of a spilled argument in TEMP -/
def printPre (t : Temporary) : List Code :=
  match t with
  | .spill _ => .COMMENT "#move argument to TEMP before adapting the stack pointer" :: moveToRegister TEMP t
  | .register _ => []

/-- the move of the argument into X0 -/
def printArgMove (t : Temporary) : Code :=
  match t with
  | .register r => .MOVR (.x 0) r
  | .spill _ => .MOVR (.x 0) TEMP

def blockBefore (t : Temporary) (ctx : Ctx) : List Code :=
  printPre t ++ [Code.COMMENT "#save caller-save registers"] ++
    saveCallerSaveRegisters (callerSaveRegistersInfo ctx).1 (callerSaveRegistersInfo ctx).2 ++
    [Code.COMMENT "#move argument into place", printArgMove t]

def blockAfter (ctx : Ctx) : List Code :=
  Code.COMMENT "#restore caller-save registers" ::
    restoreCallerSaveRegisters (callerSaveRegistersInfo ctx).1 (callerSaveRegistersInfo ctx).2

def printFn (nl : Bool) : String := if nl then "println_i64" else "print_i64"

theorem printI64_split (nl : Bool) (t : Temporary) (ctx : Ctx) :
    printI64 nl t ctx = blockBefore t ctx ++ Code.BL (printFn nl) :: blockAfter ctx := by
  cases t <;> simp [printI64, printI64G, blockBefore, blockAfter, printFn, printPre, printArgMove,
    callerSaveRegistersInfo]

def NoCall (l : List Code) : Prop := ∀ c ∈ l, c.isBL = false

theorem noCall_append {a b : List Code} (ha : NoCall a) (hb : NoCall b) : NoCall (a ++ b) :=
  fun c hc => (List.mem_append.1 hc).elim (ha c) (hb c)

theorem noCall_moveCodes (pairs : List (Nat × Nat)) : NoCall (moveCodes pairs) := by
  intro c hc; simp only [moveCodes, List.mem_map] at hc; obtain ⟨_, _, rfl⟩ := hc; rfl
theorem noCall_strCodes (items : List (Nat × Int)) : NoCall (strCodes items) := by
  intro c hc; simp only [strCodes, List.mem_map] at hc; obtain ⟨_, _, rfl⟩ := hc; rfl
theorem noCall_ldrCodes (items : List (Nat × Int)) : NoCall (ldrCodes items) := by
  intro c hc; simp only [ldrCodes, List.mem_map] at hc; obtain ⟨_, _, rfl⟩ := hc; rfl

theorem noCall_save (fb : Nat) (regs : List Nat) : NoCall (saveCallerSaveRegisters fb regs) := by
  rw [save_decompose]
  refine noCall_append (noCall_moveCodes _) ?_
  split
  · exact noCall_append (by intro c hc; simp at hc; subst hc; rfl) (noCall_strCodes _)
  · intro c hc; simp at hc

theorem noCall_restore (fb : Nat) (regs : List Nat) : NoCall (restoreCallerSaveRegisters fb regs) := by
  rw [restore_decompose]
  refine noCall_append (noCall_moveCodes _) ?_
  split
  · exact noCall_append (noCall_ldrCodes _) (by intro c hc; simp at hc; subst hc; rfl)
  · intro c hc; simp at hc

theorem noCall_blockBefore (t : Temporary) (ctx : Ctx) : NoCall (blockBefore t ctx) := by
  unfold blockBefore
  refine noCall_append (noCall_append (noCall_append ?_ ?_) (noCall_save _ _)) ?_
  · cases t <;> simp [NoCall, printPre, moveToRegister, Code.isBL]
  · simp [NoCall, Code.isBL]
  · cases t <;> simp [NoCall, Code.isBL, printArgMove]

theorem noCall_blockAfter (ctx : Ctx) : NoCall (blockAfter ctx) := by
  intro c hc
  simp only [blockAfter, List.mem_cons] at hc
  rcases hc with rfl | hc
  · rfl
  · exact noCall_restore _ _ c hc

theorem spSum_printPre (t : Temporary) : spSum (printPre t) = 0 := by
  cases t <;> simp [printPre, moveToRegister, spDelta]

theorem all16_printPre (t : Temporary) : All16 (printPre t) := by
  intro c hc
  cases t <;> simp [printPre, moveToRegister] at hc
  rcases hc with rfl | rfl <;> rfl

theorem spDelta_printArgMove (t : Temporary) : spDelta (printArgMove t) = 0 := by
  cases t <;> rfl

theorem spSum_printI64 (nl : Bool) (t : Temporary) (ctx : Ctx) : spSum (printI64 nl t ctx) = 0 := by
  rw [printI64_split]
  simp only [blockBefore, blockAfter, spSum_append, spSum_printPre, spSum_save, spSum_restore, spSum_cons,
    spSum_nil, spDelta_printArgMove]
  split <;> simp [spDelta] <;> omega

theorem all16_printI64 (nl : Bool) (t : Temporary) (ctx : Ctx) : All16 (printI64 nl t ctx) := by
  rw [printI64_split]
  unfold blockBefore blockAfter
  refine all16_append (all16_append (all16_append (all16_append (all16_printPre t) ?_) (all16_save _ _)) ?_) ?_
  · intro c hc; simp at hc; subst hc; rfl
  · intro c hc
    simp only [List.mem_cons, List.not_mem_nil, or_false] at hc
    rcases hc with rfl | rfl
    · rfl
    · rw [spDelta_printArgMove]; rfl
  · intro c hc
    simp only [List.mem_cons] at hc
    rcases hc with rfl | rfl | hc
    · rfl
    · rfl
    · exact all16_restore _ _ c hc

theorem spSum_ccShape {body : List Code} (h : CCShape plainCC body) : spSum body = 0 := by
  induction h with
  | nil => rfl
  | plain hc _ ih => rw [spSum_cons, spDelta_plain hc, ih]; rfl
  | print _ _ ih => rw [spSum_append, spSum_printI64, ih]; rfl

theorem all16_ccShape {body : List Code} (h : CCShape plainCC body) : All16 body := by
  induction h with
  | nil => intro c hc; simp at hc
  | plain hc _ ih =>
    intro c hm
    simp only [List.mem_cons] at hm
    rcases hm with rfl | hm
    · rw [spDelta_plain hc]; rfl
    · exact ih c hm
  | print _ _ ih => exact all16_append (all16_printI64 _ _ _) ih

theorem plainCC_noCall {c : Code} (h : plainCC c = true) : c.isBL = false := by
  cases c <;> first | rfl | simp [plainCC, isStackOp] at h

/-- (i) EVERY CALL SITE of a body is the call of a print block -/
theorem ccShape_call_site {body : List Code} (h : CCShape plainCC body) :
    ∀ {pre post : List Code} {f : String}, body = pre ++ Code.BL f :: post →
    ∃ pre' nl t ctx post', PrintSrc ctx t ∧ CCShape plainCC pre' ∧ CCShape plainCC post' ∧
      f = printFn nl ∧ pre = pre' ++ blockBefore t ctx ∧ post = blockAfter ctx ++ post' := by
  intro pre post f e
  obtain ⟨pre', m1, m2, post', ⟨nl, t, ctx, hs, hb⟩, h1, h2, hp, hq⟩ :=
    h.toShape.split_at (x := Code.BL f) (by rfl) e
  rw [printI64_split] at hb
  obtain ⟨r1, r2, r3⟩ := Scc.Backend.Blocks.split_unique (p := Code.isBL) (noCall_blockBefore t ctx) rfl hb.symm
    (noCall_blockAfter ctx)
  simp only [Code.BL.injEq] at r2
  exact ⟨pre', nl, t, ctx, post', hs, .ofShape h1, .ofShape h2, r2.symm, by rw [hp, r1], by rw [hq, r3]⟩

theorem plainCC_spec {c : Code} (h : plainCC c = true) :
    isStackOp c = false ∧ Register.sp ∉ codeWrites c ∧ ∀ bi ∈ codeMems c, bi.1 = .sp → slotOK bi.2 = true := by
  simp only [plainCC, Bool.and_eq_true, Bool.not_eq_true', List.all_eq_true, bne_iff_ne, ne_eq,
    Bool.or_eq_true] at h
  refine ⟨h.1.1, fun h0 => h.1.2 _ h0 rfl, fun bi hbi h0 => ?_⟩
  rcases h.2 bi hbi with h1 | h1
  · exact absurd h0 h1
  · exact h1

/-- (iv) an instruction of the body that is NOT plain lies inside a print block -/
theorem ccShape_nonplain_in_block {plain : Code → Bool} {body : List Code} (h : CCShape plain body) :
    ∀ (k : Nat) (c : Code), body[k]? = some c → plain c = false →
      ∃ j nl t ctx, PrintSrc ctx t ∧ j ≤ k ∧ k < j + (printI64 nl t ctx).length ∧
        (body.drop j).take (printI64 nl t ctx).length = printI64 nl t ctx := by
  intro k c hk hp
  obtain ⟨j, _, ⟨nl, t, ctx, hs, rfl⟩, h1, h2, h3⟩ := h.toShape.nonplain_in_block hk hp
  exact ⟨j, nl, t, ctx, hs, h1, h2, h3⟩

theorem go_mem_inv : ∀ (ctx : Ctx) (off r : Nat), r ∈ callerSaveRegistersInfoG.go ctx off →
    ∃ i b, ctx[i]? = some b ∧ (r = 5 + 2 * (off + i) ∨ (r = 4 + 2 * (off + i) ∧ b.chi ≠ .ext))
  | [], _, _, h => by simp [callerSaveRegistersInfoG.go] at h
  | b0 :: rest, off, r, h => by
    simp only [callerSaveRegistersInfoG.go, CSF_eq, List.mem_append] at h
    rcases h with h | h
    · refine ⟨0, b0, rfl, ?_⟩
      split at h
      · simp at h; left; omega
      · rename_i hne
        simp at h
        rcases h with h | h
        · right; exact ⟨by omega, fun e => hne (by rw [e]; decide)⟩
        · left; omega
    · obtain ⟨i, b, hb, hr⟩ := go_mem_inv rest (off + 1) r h
      refine ⟨i + 1, b, by simpa using hb, ?_⟩
      rcases hr with hr | hr
      · left; omega
      · right; exact ⟨by omega, hr.2⟩

/-- (i) EXACTNESS: `registers_to_save` = the caller-saved registers (logical 0…17 = X0…X17, and
    logical 29 = X30, the link register) that hold something live: HEAP (X0), FREE (X1) and the
    temporaries of the variables of the context -/
theorem mem_callerSave_iff (ctx : Ctx) (r : Nat) :
    r ∈ (callerSaveRegistersInfo ctx).2 ↔ ((r ≤ 17 ∨ r = 29) ∧ LiveReg ctx r) := by
  unfold callerSaveRegistersInfo
  rw [info_eq]
  dsimp only
  obtain ⟨g1, _, g3⟩ := go_spec (ctx.take 7) 0
  have htl : (ctx.take 7).length ≤ 7 := by simp; omega
  constructor
  · intro h
    simp only [List.mem_append, List.mem_cons, List.not_mem_nil, or_false] at h
    rcases h with (h | h) | h
    · rcases h with rfl | rfl
      · exact ⟨Or.inl (by omega), Or.inl rfl⟩
      · exact ⟨Or.inl (by omega), Or.inr (Or.inl rfl)⟩
    · -- the link register
      unfold lrList at h
      simp only [Bool.false_eq_true, if_false] at h
      split at h
      · rename_i hlen
        simp only [List.mem_singleton] at h
        subst h
        have hlen' : 13 ≤ ctx.length := by
          have : 2 * ctx.length + 4 ≥ 30 := by simpa using hlen
          omega
        refine ⟨Or.inr rfl, Or.inr (Or.inr ⟨12, ctx[12]'(by omega), by simp, Or.inl rfl⟩)⟩
      · simp at h
    · obtain ⟨i, b, hb, hr⟩ := go_mem_inv _ 0 r h
      have hi : i < (ctx.take 7).length := by
        rcases Nat.lt_or_ge i (ctx.take 7).length with h' | h'
        · exact h'
        · simp [List.getElem?_eq_none h'] at hb
      have hi7 : i < 7 := by omega
      have hb' : ctx[i]? = some b := by rw [List.getElem?_take_of_lt hi7] at hb; exact hb
      have hbound := g1 r h
      refine ⟨Or.inl (by omega), Or.inr (Or.inr ⟨i, b, hb', ?_⟩)⟩
      rcases hr with hr | hr
      · left; omega
      · right; exact ⟨by omega, hr.2⟩
  · rintro ⟨hcls, hlive⟩
    simp only [List.mem_append, List.mem_cons, List.not_mem_nil, or_false]
    rcases hlive with rfl | rfl | ⟨i, b, hb, hr⟩
    · exact Or.inl (Or.inl (Or.inl rfl))
    · exact Or.inl (Or.inl (Or.inr rfl))
    · have hi : i < ctx.length := by
        rcases Nat.lt_or_ge i ctx.length with h' | h'
        · exact h'
        · simp [List.getElem?_eq_none h'] at hb
      rcases hcls with h17 | h29
      · have hi7 : i < 7 := by rcases hr with hr | hr <;> omega
        have hb' : (ctx.take 7)[i]? = some b := by rw [List.getElem?_take_of_lt hi7]; exact hb
        obtain ⟨m1, m2⟩ := g3 i b hb'
        right
        rcases hr with hr | hr
        · have e : 5 + 2 * (0 + i) = r := by omega
          rw [← e]; exact m1
        · have e : 4 + 2 * (0 + i) = r := by omega
          rw [← e]; exact m2 hr.2
      · left; right
        have hlen : 13 ≤ ctx.length := by rcases hr with hr | hr <;> omega
        unfold lrList
        simp only [Bool.false_eq_true, if_false]
        rw [if_pos (by simpa using (by omega : 2 * ctx.length + 4 ≥ 30))]
        simp [h29]

/-- (i) MIRROR: the restore sequence undoes the save sequence -/
theorem save_restore_mirror (fb : Nat) (regs : List Nat) :
    saveCallerSaveRegisters fb regs =
      moveCodes (saveMoves fb regs) ++
        (if regs.length - backupUsed fb regs > 0 then
          [.SUBI .sp .sp (address (pushedCount fb regs))] ++ strCodes (pushItems fb regs) else []) ∧
    restoreCallerSaveRegisters fb regs =
      moveCodes ((saveMoves fb regs).map fun p => (p.2, p.1)) ++
        (if regs.length - backupUsed fb regs > 0 then
          ldrCodes (pushItems fb regs).reverse ++ [.ADDI .sp .sp (address (pushedCount fb regs))] else []) ∧
    (saveMoves fb regs).map (·.2) ++ (pushItems fb regs).map (·.1) = regs :=
  ⟨save_decompose fb regs, restore_decompose fb regs, by
    rw [saveMoves_snd, pushItems_fst, List.take_append_drop]⟩

/-- the backup registers are free (above every live register) callee-saved registers X19…X29
    (logical 18…28) -/
theorem backupRegs_free (ctx : Ctx) : ∀ p ∈ saveMoves (callerSaveRegistersInfo ctx).1 (callerSaveRegistersInfo ctx).2,
    18 ≤ p.1 ∧ p.1 ≤ 28 ∧ 2 * ctx.length + 4 ≤ p.1 := by
  intro p hp
  obtain ⟨h1, h2, _⟩ := mem_saveMoves hp
  have hu := backupUsed_le' (callerSaveRegistersInfo ctx).1 (callerSaveRegistersInfo ctx).2
  have hfb : (callerSaveRegistersInfo ctx).1 = max (2 * ctx.length + 4) 18 := rfl
  rw [hfb] at h1 h2 hu
  omega

/-- everything `into_aarch64_routine` puts before the body -/
def routineHead (su : List Code) : List Code := preamble ++ su ++ [Code.COMMENT "actual code"]

theorem routine_anatomy {body routine : List Code} {n : Nat} (h : intoRoutine body n = .ok routine) :
    ∃ su, setup n = .ok su ∧ routine = routineHead su ++ body ++ cleanup := by
  unfold intoRoutine at h
  split at h
  · cases h
  · rename_i su hsu
    cases h
    exact ⟨su, hsu, by simp [routineHead]⟩

/-- the fixed part of `setup` before the argument moves.  The registers are in the backend's numbering, which
    skips X18: 18…29 are the machine's X19…X30, the `savedPairs` of Scc/A64/Prologue.lean -/
def setupPushes : List Code :=
  [ .COMMENT "setup", .COMMENT "save registers",
    .STP_PRE_INDEX (.x 18) (.x 19) .sp (-16), .STP_PRE_INDEX (.x 20) (.x 21) .sp (-16),
    .STP_PRE_INDEX (.x 22) (.x 23) .sp (-16), .STP_PRE_INDEX (.x 24) (.x 25) .sp (-16),
    .STP_PRE_INDEX (.x 26) (.x 27) .sp (-16), .STP_PRE_INDEX (.x 28) (.x 29) .sp (-16),
    .COMMENT "reserve space for register spills", .SUBI .sp .sp 2048 ]

/-- the fixed part of `setup` after the argument moves -/
def setupTail : List Code :=
  [ .COMMENT "initialize free pointer", .MOVR FREE HEAP, .ADDI FREE FREE (fieldOffset 0 FIELDS_PER_BLOCK) ]

/-- the text of `setup n`; `setup_instrs` (Scc/A64/Prologue.lean) is the same decomposition on the machine's
    instructions, for `n ≤ 7` -/
theorem setup_eq {n : Nat} {su : List Code} (h : setup n = .ok su) :
    ∃ moves, moveArguments n = .ok moves ∧ su = setupPushes ++ moves ++ setupTail := by
  unfold setup at h
  split at h
  · cases h
  · rename_i moves hm
    cases h
    exact ⟨moves, hm, by simp [setupPushes, setupTail, SPILL_SPACE]⟩

/-- (iii) PAIRING: setup stores X19/X20 … X29/X30 (logical 18/19 … 28/29: every callee-saved register
    of AAPCS64 including the frame and link registers) with pre-index −16; cleanup loads the same pairs
    in reverse order with post-index +16, after releasing the spill area that setup reserved -/
theorem setup_cleanup_pairing :
    setupPushes = [Code.COMMENT "setup", Code.COMMENT "save registers"] ++
      ([(18, 19), (20, 21), (22, 23), (24, 25), (26, 27), (28, 29)].map fun (p : Nat × Nat) =>
        Code.STP_PRE_INDEX (.x p.1) (.x p.2) .sp (-16)) ++
      [Code.COMMENT "reserve space for register spills", Code.SUBI .sp .sp 2048] ∧
    cleanup = [Code.LAB "cleanup", Code.COMMENT "free space for register spills", Code.ADDI .sp .sp 2048,
        Code.COMMENT "restore registers"] ++
      ([(18, 19), (20, 21), (22, 23), (24, 25), (26, 27), (28, 29)].reverse.map fun (p : Nat × Nat) =>
        Code.LDP_POST_INDEX (.x p.1) (.x p.2) .sp 16) ++ [Code.RET] :=
  ⟨rfl, rfl⟩

/-- `move_arguments` emits comments and register moves -/
def isArgMove : Code → Bool
  | .COMMENT _ => true
  | .MOVR (.x _) (.x _) => true
  | _ => false

theorem moveArguments_shape : ∀ (n : Nat) (codes : List Code), moveArguments n = .ok codes →
    ∀ c ∈ codes, isArgMove c = true
  | 0, codes, h => by
    simp only [moveArguments, Except.ok.injEq] at h; subst h; simp [isArgMove]
  | 1, codes, h => by
    simp only [moveArguments, Except.ok.injEq] at h; subst h; simp [isArgMove]
  | k + 2, codes, h => by
    simp only [moveArguments] at h
    split at h
    · split at h
      · rename_i rest hrest
        cases h
        intro c hc
        simp only [List.cons_append, List.nil_append, List.mem_cons] at hc
        rcases hc with rfl | rfl | hc
        · rfl
        · rfl
        · exact moveArguments_shape (k + 1) rest hrest c hc
      · cases h
    · cases h

theorem plainInt_of_isArgMove {c : Code} (h : isArgMove c = true) :
    plainInt c = true ∧ codeJumpRef c = none := by
  cases c <;> simp [isArgMove] at h <;> try exact ⟨rfl, rfl⟩
  rename_i x y
  cases x <;> cases y <;> simp [isArgMove] at h
  exact ⟨rfl, rfl⟩

theorem allCC_of_argMoves {moves : List Code} (h : ∀ c ∈ moves, isArgMove c = true) : AllCC moves :=
  List.all_eq_true.2 fun c hc => plainCC_of_plainInt (plainInt_of_isArgMove (h c hc)).1

theorem spSum_setup {n : Nat} {su : List Code} (h : setup n = .ok su) : spSum su = -2144 := by
  obtain ⟨moves, hm, rfl⟩ := setup_eq h
  rw [spSum_append, spSum_append, spSum_allCC (allCC_of_argMoves (moveArguments_shape n moves hm))]
  rfl

theorem all16_setup {n : Nat} {su : List Code} (h : setup n = .ok su) : All16 su := by
  obtain ⟨moves, hm, rfl⟩ := setup_eq h
  refine all16_append (all16_append ?_ (all16_allCC (allCC_of_argMoves (moveArguments_shape n moves hm)))) ?_
  · intro c hc
    simp only [setupPushes, List.mem_cons, List.not_mem_nil, or_false] at hc
    rcases hc with rfl | rfl | rfl | rfl | rfl | rfl | rfl | rfl | rfl | rfl <;> rfl
  · intro c hc
    simp only [setupTail, List.mem_cons, List.not_mem_nil, or_false] at hc
    rcases hc with rfl | rfl | rfl <;> rfl

theorem spSum_cleanup : spSum cleanup.dropLast = 2144 := rfl

theorem all16_cleanup : All16 cleanup := by
  intro c hc
  simp only [cleanup, List.mem_cons, List.not_mem_nil, or_false] at hc
  rcases hc with rfl | rfl | rfl | rfl | rfl | rfl | rfl | rfl | rfl | rfl | rfl <;> rfl

theorem noCall_of_allCC {l : List Code} (h : AllCC l) : NoCall l :=
  fun c hc => plainCC_noCall (List.all_eq_true.1 h c hc)

theorem noCall_setup {n : Nat} {su : List Code} (h : setup n = .ok su) : NoCall su := by
  obtain ⟨moves, hm, rfl⟩ := setup_eq h
  refine noCall_append (noCall_append ?_ (noCall_of_allCC (allCC_of_argMoves (moveArguments_shape n moves hm)))) ?_
  · intro c hc
    simp only [setupPushes, List.mem_cons, List.not_mem_nil, or_false] at hc
    rcases hc with rfl | rfl | rfl | rfl | rfl | rfl | rfl | rfl | rfl | rfl <;> rfl
  · intro c hc
    simp only [setupTail, List.mem_cons, List.not_mem_nil, or_false] at hc
    rcases hc with rfl | rfl | rfl <;> rfl

theorem spSum_routineHead {n : Nat} {su : List Code} (h : setup n = .ok su) : spSum (routineHead su) = -2144 := by
  simp only [routineHead, spSum_append, spSum_setup h]
  rfl

/-- (ii) EVERY SP-WRITING INSTRUCTION OF THE ROUTINE moves SP by a multiple of 16 -/
theorem routine_all16 {body routine : List Code} {n : Nat} (hb : CCShape plainCC body)
    (h : intoRoutine body n = .ok routine) : All16 routine := by
  obtain ⟨su, hsu, hr⟩ := routine_anatomy h
  rw [hr]
  refine all16_append (all16_append ?_ (all16_ccShape hb)) all16_cleanup
  unfold routineHead
  refine all16_append (all16_append ?_ (all16_setup hsu)) ?_
  · intro c hc
    simp only [preamble, List.mem_cons, List.not_mem_nil, or_false] at hc
    rcases hc with rfl | rfl | rfl <;> rfl
  · intro c hc; simp at hc; subst hc; rfl

theorem All16.spSum {l : List Code} (h : All16 l) : spSum l % 16 = 0 := by
  induction l with
  | nil => rfl
  | cons c rest ih =>
    have h1 := h c (by simp)
    have h2 := ih fun x hx => h x (by simp [hx])
    rw [spSum_cons]; omega

/-- (ii) ALIGNMENT AT EVERY CALL SITE OF THE ROUTINE: the static displacement of SP between the routine
    entry and the call is a multiple of 16 — as between any two positions of the routine -/
theorem routine_call_aligned {body routine : List Code} {n : Nat} (hb : CCShape plainCC body)
    (h : intoRoutine body n = .ok routine) {pre post : List Code} {f : String}
    (e : routine = pre ++ Code.BL f :: post) : spSum pre % 16 = 0 :=
  All16.spSum fun c hc => routine_all16 hb h c (by rw [e]; simp [hc])

/-- (ii)/(iii) BALANCE: at the final `RET` the static displacement is 0 -/
theorem routine_balanced {body routine : List Code} {n : Nat} (hb : CCShape plainCC body)
    (h : intoRoutine body n = .ok routine) : spSum routine.dropLast = 0 ∧ routine.getLast? = some Code.RET := by
  obtain ⟨su, hsu, hr⟩ := routine_anatomy h
  have hc : cleanup = cleanup.dropLast ++ [Code.RET] := rfl
  have e : routine = (routineHead su ++ body ++ cleanup.dropLast) ++ [Code.RET] := by
    rw [hr, hc]; simp
  rw [e, List.dropLast_concat, List.getLast?_concat]
  refine ⟨?_, rfl⟩
  rw [spSum_append, spSum_append, spSum_routineHead hsu, spSum_ccShape hb, spSum_cleanup]
  rfl

def spillRefsOK (c : Code) : Bool := (codeMems c).all (fun bi => bi.1 != .sp || slotOK bi.2)

theorem spillRefsOK_of_plainCC {c : Code} (h : plainCC c = true) : spillRefsOK c = true := by
  simp only [plainCC, Bool.and_eq_true] at h
  exact h.2

/-- (iii) SPILL AREA: setup reserves `SPILL_SPACE = 2048` bytes; every SP-relative operand of a PLAIN
    instruction of the body addresses an 8-aligned word `[SP, d]` with `0 ≤ d`, `d + 8 ≤ 2048` (inside a
    print block, SP-relative operands address the words the block itself allocated below the boundary
    SP — `pushItems` — and the staging of a spilled argument comes BEFORE the `SUB SP`) -/
theorem ccShape_spill_refs {body : List Code} (h : CCShape plainCC body) (k : Nat) (c : Code)
    (hk : body[k]? = some c) :
    spillRefsOK c = true ∨ ∃ j nl t ctx, PrintSrc ctx t ∧ j ≤ k ∧ k < j + (printI64 nl t ctx).length ∧
      (body.drop j).take (printI64 nl t ctx).length = printI64 nl t ctx := by
  cases hp : plainCC c with
  | true => exact Or.inl (spillRefsOK_of_plainCC hp)
  | false => exact Or.inr (ccShape_nonplain_in_block h k c hk hp)

end Scc.A64
