/-
  Scc.A64.Lemmas — symbolic-execution lemmas for the machine of Machine.lean on the
  instructions of the backend model (Instr.lean / Backend.lean), used by Props/C07A64, C13A64.
-/
import Scc.A64.Exec
import Scc.A64.Backend

namespace Scc.A64

theorem toReg_x (r : Nat) : (Register.x r).toReg = (xreg r).map Reg.x := by
  unfold Register.toReg xreg
  split <;> simp_all

@[simp] theorem toReg_sp : Register.sp.toReg = some Reg.sp := rfl
@[simp] theorem toReg_xzr : Register.xzr.toReg = some Reg.xzr := rfl

@[simp] theorem Except_bind_ok {ε α β : Type} (a : α) (f : α → Except ε β) :
    (Except.ok a >>= f) = f a := rfl

@[simp] theorem Except_bind_error {ε α β : Type} (e : ε) (f : α → Except ε β) :
    ((Except.error e : Except ε α) >>= f) = Except.error e := rfl

@[simp] theorem Except_pure {ε α : Type} (a : α) : (pure a : Except ε α) = Except.ok a := rfl

@[simp] theorem wrX_regs (σ : State) (n : Fin 31) (w : Word) :
    (σ.wrX n w).regs = σ.regs.set n (some w) := rfl
@[simp] theorem wrX_sp (σ : State) (n : Fin 31) (w : Word) : (σ.wrX n w).sp = σ.sp := rfl
@[simp] theorem wrX_flags (σ : State) (n : Fin 31) (w : Word) : (σ.wrX n w).flags = σ.flags := rfl
@[simp] theorem wrX_heap (σ : State) (n : Fin 31) (w : Word) : (σ.wrX n w).heap = σ.heap := rfl
@[simp] theorem wrX_stack (σ : State) (n : Fin 31) (w : Word) : (σ.wrX n w).stack = σ.stack := rfl
@[simp] theorem wrX_maxHeap (σ : State) (n : Fin 31) (w : Word) : (σ.wrX n w).maxHeap = σ.maxHeap := rfl

theorem wrX_wrX (σ : State) (n : Fin 31) (a b : Word) : (σ.wrX n a).wrX n b = σ.wrX n b := by
  simp [State.wrX]

theorem wrX_same (σ : State) (n : Fin 31) (a : Word) (h : σ.regs[n] = some a) : σ.wrX n a = σ := by
  cases σ
  simp only [State.wrX, State.mk.injEq, and_true]
  simp only at h
  rw [← h]
  simp

theorem rdX_of (σ : State) (n : Fin 31) (a : Word) (h : σ.regs[n] = some a) : σ.rdX n = .ok a := by
  simp [State.rdX, h]

@[simp] theorem regs_set_get (v : Vector (Option Word) 31) (n : Fin 31) (a : Option Word) :
    (v.set n a)[n] = a := by simp

theorem regs_set_get_ne (v : Vector (Option Word) 31) (n m : Fin 31) (a : Option Word) (h : n ≠ m) :
    (v.set n a)[m] = v[m] := by
  have : n.val ≠ m.val := fun e => h (Fin.ext e)
  simp [this]

theorem execCodes_cons (c : MemCfg) (code : Code) (rest : List Code) (σ σ' : State)
    (h : execCode c code σ = .ok σ') : execCodes c (code :: rest) σ = execCodes c rest σ' := by
  simp [execCodes, h]

theorem execCodes_append (c : MemCfg) (l1 l2 : List Code) (σ σ' : State)
    (h : execCodes c l1 σ = .ok σ') : execCodes c (l1 ++ l2) σ = execCodes c l2 σ' := by
  induction l1 generalizing σ with
  | nil => simp [execCodes] at h; subst h; rfl
  | cons a l ih =>
    simp only [execCodes, List.cons_append] at h ⊢
    cases ha : execCode c a σ with
    | error e => simp [ha] at h
    | ok σ1 => simp only [ha] at h ⊢; exact ih σ1 h

@[simp] theorem execCodes_nil (c : MemCfg) (σ : State) : execCodes c [] σ = .ok σ := rfl

theorem execCode_COMMENT (c : MemCfg) (m : String) (σ : State) : execCode c (.COMMENT m) σ = .ok σ := rfl

theorem exec_MOVZ {c : MemCfg} {r : Nat} {n : Fin 31} (hr : xreg r = some n) (i s : Int)
    (hi : okImm16 i = true) (hs : okShift s = true) (σ : State) :
    execCode c (.MOVZ (.x r) i s) σ = .ok (σ.wrX n ((imm i) <<< s.toNat)) := by
  simp [execCode, Code.toInstr, toReg_x, hr, Instr.exec, hi, hs, State.wrZ]

theorem exec_MOVN {c : MemCfg} {r : Nat} {n : Fin 31} (hr : xreg r = some n) (i s : Int)
    (hi : okImm16 i = true) (hs : okShift s = true) (σ : State) :
    execCode c (.MOVN (.x r) i s) σ = .ok (σ.wrX n (~~~ ((imm i) <<< s.toNat))) := by
  simp [execCode, Code.toInstr, toReg_x, hr, Instr.exec, hi, hs, State.wrZ]

theorem exec_MOVK {c : MemCfg} {r : Nat} {n : Fin 31} (hr : xreg r = some n) (i s : Int)
    (hi : okImm16 i = true) (hs : okShift s = true) (σ : State) (old : Word) (ho : σ.regs[n] = some old) :
    execCode c (.MOVK (.x r) i s) σ = .ok (σ.wrX n (movkW old i s)) := by
  simp [execCode, Code.toInstr, toReg_x, hr, Instr.exec, hi, hs, State.wrZ, State.rdZ, rdX_of σ n old ho]



theorem SPILL_NUM_eq : SPILL_NUM = 256 := rfl
theorem SPILL_SPACE_eq : SPILL_SPACE = 2048 := rfl
theorem RESERVED_eq : RESERVED = 4 := rfl
theorem REGISTER_NUM_eq : REGISTER_NUM = 30 := rfl
theorem RESERVED_SPILLS_eq : RESERVED_SPILLS = 1 := rfl

theorem stackOffset_eq (p : Nat) : stackOffset p = 2048 - 8 * ((p : Int) + 1) := by
  unfold stackOffset; rw [SPILL_SPACE_eq]; rfl

theorem stackOffset_nonneg {p : Nat} (hp : p < SPILL_NUM) : 0 ≤ stackOffset p := by
  rw [SPILL_NUM_eq] at hp; rw [stackOffset_eq]; omega

theorem okOff_stackOffset {p : Nat} (hp : p < SPILL_NUM) : okOff (stackOffset p) = true := by
  rw [SPILL_NUM_eq] at hp; rw [stackOffset_eq]; simp [okOff]; omega

theorem imm_toNat_of_nonneg {i : Int} (h0 : 0 ≤ i) (h1 : i < 18446744073709551616) : (imm i).toNat = i.toNat := by
  obtain ⟨n, rfl⟩ := Int.eq_ofNat_of_zero_le h0
  simp [imm, BitVec.ofInt_natCast]
  omega

theorem slotAddr_eq {c : MemCfg} {σ : State} {room : Nat} (h : SpOk c σ.sp room) {p : Nat} (hp : p < SPILL_NUM) :
    σ.slotAddr p = σ.sp.toNat + (2048 - 8 * (p + 1)) := by
  unfold State.slotAddr
  have h1 := h.high
  have h2 := h.top
  rw [SPILL_SPACE_eq] at h1
  rw [SPILL_NUM_eq] at hp
  have hi : (imm (stackOffset p)).toNat = 2048 - 8 * (p + 1) := by
    rw [imm_toNat_of_nonneg (stackOffset_nonneg (by rw [SPILL_NUM_eq]; exact hp))]
    · rw [stackOffset_eq]; omega
    · rw [stackOffset_eq]; omega
  rw [BitVec.toNat_add, hi]
  have : (2:Nat)^64 = 18446744073709551616 := by decide
  omega

def State.setReg (σ : State) (n : Fin 31) (v : Option Word) : State := { σ with regs := σ.regs.set n v }
def State.setSlot (σ : State) (a : Nat) (w : Word) : State := { σ with stack := σ.stack.insert a w }
def State.clrSlot (σ : State) (a : Nat) : State := { σ with stack := σ.stack.erase a }
def State.setFlags (σ : State) (f : Option (Word × Word)) : State := { σ with flags := f }
def State.reg (σ : State) (n : Fin 31) : Option Word := σ.regs[n]
def State.slot (σ : State) (a : Nat) : Option Word := σ.stack[a]?

theorem wrX_eq_setReg (σ : State) (n : Fin 31) (w : Word) : σ.wrX n w = σ.setReg n (some w) := rfl

@[simp] theorem setReg_reg (σ : State) (n m : Fin 31) (v : Option Word) :
    (σ.setReg n v).reg m = if n = m then v else σ.reg m := by
  unfold State.setReg State.reg
  by_cases h : n = m
  · subst h; simp
  · simp [h, regs_set_get_ne _ _ _ _ h]

@[simp] theorem setReg_slot (σ : State) (n : Fin 31) (v : Option Word) (a : Nat) :
    (σ.setReg n v).slot a = σ.slot a := rfl
@[simp] theorem setReg_sp (σ : State) (n : Fin 31) (v : Option Word) : (σ.setReg n v).sp = σ.sp := rfl
@[simp] theorem setReg_heap (σ : State) (n : Fin 31) (v : Option Word) : (σ.setReg n v).heap = σ.heap := rfl
@[simp] theorem setReg_flags (σ : State) (n : Fin 31) (v : Option Word) : (σ.setReg n v).flags = σ.flags := rfl
@[simp] theorem setReg_maxHeap (σ : State) (n : Fin 31) (v : Option Word) : (σ.setReg n v).maxHeap = σ.maxHeap := rfl
@[simp] theorem setReg_slotAddr (σ : State) (n : Fin 31) (v : Option Word) (p : Nat) :
    (σ.setReg n v).slotAddr p = σ.slotAddr p := rfl

@[simp] theorem setSlot_reg (σ : State) (a : Nat) (w : Word) (m : Fin 31) : (σ.setSlot a w).reg m = σ.reg m := rfl
@[simp] theorem setSlot_slot (σ : State) (a b : Nat) (w : Word) :
    (σ.setSlot a w).slot b = if a = b then some w else σ.slot b := by
  unfold State.setSlot State.slot
  simp [Std.HashMap.getElem?_insert]
@[simp] theorem setSlot_sp (σ : State) (a : Nat) (w : Word) : (σ.setSlot a w).sp = σ.sp := rfl
@[simp] theorem setSlot_heap (σ : State) (a : Nat) (w : Word) : (σ.setSlot a w).heap = σ.heap := rfl
@[simp] theorem setSlot_flags (σ : State) (a : Nat) (w : Word) : (σ.setSlot a w).flags = σ.flags := rfl
@[simp] theorem setSlot_slotAddr (σ : State) (a : Nat) (w : Word) (p : Nat) :
    (σ.setSlot a w).slotAddr p = σ.slotAddr p := rfl

@[simp] theorem clrSlot_reg (σ : State) (a : Nat) (m : Fin 31) : (σ.clrSlot a).reg m = σ.reg m := rfl
@[simp] theorem clrSlot_slot (σ : State) (a b : Nat) :
    (σ.clrSlot a).slot b = if a = b then none else σ.slot b := by
  unfold State.clrSlot State.slot
  simp [Std.HashMap.getElem?_erase]
@[simp] theorem clrSlot_sp (σ : State) (a : Nat) : (σ.clrSlot a).sp = σ.sp := rfl
@[simp] theorem clrSlot_heap (σ : State) (a : Nat) : (σ.clrSlot a).heap = σ.heap := rfl
@[simp] theorem clrSlot_flags (σ : State) (a : Nat) : (σ.clrSlot a).flags = σ.flags := rfl
@[simp] theorem clrSlot_slotAddr (σ : State) (a : Nat) (p : Nat) : (σ.clrSlot a).slotAddr p = σ.slotAddr p := rfl

@[simp] theorem setFlags_reg (σ : State) (f : Option (Word × Word)) (m : Fin 31) : (σ.setFlags f).reg m = σ.reg m := rfl
@[simp] theorem setFlags_slot (σ : State) (f : Option (Word × Word)) (a : Nat) : (σ.setFlags f).slot a = σ.slot a := rfl
@[simp] theorem setFlags_sp (σ : State) (f : Option (Word × Word)) : (σ.setFlags f).sp = σ.sp := rfl
@[simp] theorem setFlags_heap (σ : State) (f : Option (Word × Word)) : (σ.setFlags f).heap = σ.heap := rfl
@[simp] theorem setFlags_flags (σ : State) (f : Option (Word × Word)) : (σ.setFlags f).flags = f := rfl
@[simp] theorem setFlags_slotAddr (σ : State) (f : Option (Word × Word)) (p : Nat) : (σ.setFlags f).slotAddr p = σ.slotAddr p := rfl

theorem load_slot {c : MemCfg} {σ : State} {room : Nat} (h : SpOk c σ.sp room) {p : Nat} (hp : p < SPILL_NUM) :
    σ.load c (σ.slotAddr p) = .ok (σ.slot (σ.slotAddr p)) := by
  have ha := slotAddr_eq h hp
  have h1 := h.high; have h2 := h.low; have h3 := h.disjoint; have h4 := h.aligned
  rw [SPILL_SPACE_eq] at h1; rw [SPILL_NUM_eq] at hp
  unfold State.load State.slot
  have e1 : σ.slotAddr p % 8 = 0 := by omega
  have e2 : inHeap c (σ.slotAddr p) = false := by simp [inHeap]; omega
  have e3 : inStack c (σ.slotAddr p) = true := by simp [inStack]; omega
  simp [e1, e2, e3]

theorem store_slot {c : MemCfg} {σ : State} {room : Nat} (h : SpOk c σ.sp room) {p : Nat} (hp : p < SPILL_NUM) (w : Word) :
    σ.store c (σ.slotAddr p) (some w) = .ok (σ.setSlot (σ.slotAddr p) w) := by
  have ha := slotAddr_eq h hp
  have h1 := h.high; have h2 := h.low; have h3 := h.disjoint; have h4 := h.aligned
  rw [SPILL_SPACE_eq] at h1; rw [SPILL_NUM_eq] at hp
  unfold State.store State.setSlot
  have e1 : σ.slotAddr p % 8 = 0 := by omega
  have e2 : inHeap c (σ.slotAddr p) = false := by simp [inHeap]; omega
  have e3 : inStack c (σ.slotAddr p) = true := by simp [inStack]; omega
  simp [e1, e2, e3]

theorem store_slot_none {c : MemCfg} {σ : State} {room : Nat} (h : SpOk c σ.sp room) {p : Nat} (hp : p < SPILL_NUM) :
    σ.store c (σ.slotAddr p) none = .ok (σ.clrSlot (σ.slotAddr p)) := by
  have ha := slotAddr_eq h hp
  have h1 := h.high; have h2 := h.low; have h3 := h.disjoint; have h4 := h.aligned
  rw [SPILL_SPACE_eq] at h1; rw [SPILL_NUM_eq] at hp
  unfold State.store State.clrSlot
  have e1 : σ.slotAddr p % 8 = 0 := by omega
  have e2 : inHeap c (σ.slotAddr p) = false := by simp [inHeap]; omega
  have e3 : inStack c (σ.slotAddr p) = true := by simp [inStack]; omega
  simp [e1, e2, e3]

theorem slotAddr_inj {c : MemCfg} {σ : State} {room : Nat} (h : SpOk c σ.sp room) {p q : Nat}
    (hp : p < SPILL_NUM) (hq : q < SPILL_NUM) : σ.slotAddr p = σ.slotAddr q ↔ p = q := by
  rw [slotAddr_eq h hp, slotAddr_eq h hq]
  rw [SPILL_NUM_eq] at hp hq
  omega


/-! ## the instruction semantics in terms of the observations (for symbolic execution by `simp`) -/

theorem rdX_reg (σ : State) (n : Fin 31) :
    σ.rdX n = match σ.reg n with | some w => .ok w | none => .error s!"read-undefined X{n.val}" := rfl

theorem exec_add_x (c : MemCfg) (σ : State) (d n m : Fin 31) :
    Instr.exec c (.add (.x d) (.x n) (.x m)) σ =
      match σ.reg n, σ.reg m with
      | some a, some b => .ok (σ.setReg d (some (a + b)))
      | none, _ => .error s!"read-undefined X{n.val}"
      | some _, none => .error s!"read-undefined X{m.val}" := by
  simp only [Instr.exec, State.rdZ, rdX_reg, State.wrZ, wrX_eq_setReg]
  cases σ.reg n <;> cases σ.reg m <;> rfl

theorem exec_sub_x (c : MemCfg) (σ : State) (d n m : Fin 31) :
    Instr.exec c (.sub (.x d) (.x n) (.x m)) σ =
      match σ.reg n, σ.reg m with
      | some a, some b => .ok (σ.setReg d (some (a - b)))
      | none, _ => .error s!"read-undefined X{n.val}"
      | some _, none => .error s!"read-undefined X{m.val}" := by
  simp only [Instr.exec, State.rdZ, rdX_reg, State.wrZ, wrX_eq_setReg]
  cases σ.reg n <;> cases σ.reg m <;> rfl

theorem exec_mul_x (c : MemCfg) (σ : State) (d n m : Fin 31) :
    Instr.exec c (.mul (.x d) (.x n) (.x m)) σ =
      match σ.reg n, σ.reg m with
      | some a, some b => .ok (σ.setReg d (some (a * b)))
      | none, _ => .error s!"read-undefined X{n.val}"
      | some _, none => .error s!"read-undefined X{m.val}" := by
  simp only [Instr.exec, State.rdZ, rdX_reg, State.wrZ, wrX_eq_setReg]
  cases σ.reg n <;> cases σ.reg m <;> rfl

theorem exec_sdiv_x (c : MemCfg) (σ : State) (d n m : Fin 31) :
    Instr.exec c (.sdiv (.x d) (.x n) (.x m)) σ =
      match σ.reg n, σ.reg m with
      | some a, some b =>
        match sdivW a b with
        | .ok q => .ok (σ.setReg d (some q))
        | .error e => .error e
      | none, _ => .error s!"read-undefined X{n.val}"
      | some _, none => .error s!"read-undefined X{m.val}" := by
  simp only [Instr.exec, State.rdZ, rdX_reg, State.wrZ, wrX_eq_setReg]
  cases σ.reg n <;> cases σ.reg m <;> try rfl
  rename_i a b
  simp only [Except_bind_ok]
  cases sdivW a b <;> rfl

theorem exec_msub_x (c : MemCfg) (σ : State) (d n m a : Fin 31) :
    Instr.exec c (.msub (.x d) (.x n) (.x m) (.x a)) σ =
      match σ.reg n, σ.reg m, σ.reg a with
      | some vn, some vm, some va => .ok (σ.setReg d (some (va - vn * vm)))
      | none, _, _ => .error s!"read-undefined X{n.val}"
      | some _, none, _ => .error s!"read-undefined X{m.val}"
      | some _, some _, none => .error s!"read-undefined X{a.val}" := by
  simp only [Instr.exec, State.rdZ, rdX_reg, State.wrZ, wrX_eq_setReg]
  cases σ.reg n <;> cases σ.reg m <;> cases σ.reg a <;> rfl

theorem exec_addi_x (c : MemCfg) (σ : State) (d n : Fin 31) (i : Int) (hi : okImm12 i = true) :
    Instr.exec c (.addi (.x d) (.x n) i) σ =
      match σ.reg n with
      | some a => .ok (σ.setReg d (some (a + imm i)))
      | none => .error s!"read-undefined X{n.val}" := by
  simp only [Instr.exec, hi, State.rdS, rdX_reg, if_true, State.wrS, wrX_eq_setReg]
  cases σ.reg n <;> rfl

theorem exec_subi_x (c : MemCfg) (σ : State) (d n : Fin 31) (i : Int) (hi : okImm12 i = true) :
    Instr.exec c (.subi (.x d) (.x n) i) σ =
      match σ.reg n with
      | some a => .ok (σ.setReg d (some (a - imm i)))
      | none => .error s!"read-undefined X{n.val}" := by
  simp only [Instr.exec, hi, State.rdS, rdX_reg, if_true, State.wrS, wrX_eq_setReg]
  cases σ.reg n <;> rfl

theorem exec_mov_x (c : MemCfg) (σ : State) (d s : Fin 31) :
    Instr.exec c (.mov (.x d) (.x s)) σ = .ok (σ.setReg d (σ.reg s)) := rfl

theorem exec_cmp_x (c : MemCfg) (σ : State) (n m : Fin 31) :
    Instr.exec c (.cmp (.x n) (.x m)) σ =
      match σ.reg n, σ.reg m with
      | some a, some b => .ok (σ.setFlags (some (a, b)))
      | none, _ => .error s!"read-undefined X{n.val}"
      | some _, none => .error s!"read-undefined X{m.val}" := by
  simp only [Instr.exec, State.rdZ, rdX_reg]
  cases σ.reg n <;> cases σ.reg m <;> rfl

theorem exec_cmpi_x (c : MemCfg) (σ : State) (n : Fin 31) (i : Int) (hi : okImm12 i = true) :
    Instr.exec c (.cmpi (.x n) i) σ =
      match σ.reg n with
      | some a => .ok (σ.setFlags (some (a, imm i)))
      | none => .error s!"read-undefined X{n.val}" := by
  simp only [Instr.exec, hi, State.rdS, rdX_reg, if_true]
  cases σ.reg n <;> rfl

/-- `SpOk` as a predicate on states (this form lets `simp` discharge it across state updates) -/
def SpOkS (c : MemCfg) (room : Nat) (σ : State) : Prop := SpOk c σ.sp room
@[simp] theorem SpOkS_setReg (c : MemCfg) (room : Nat) (σ : State) (n : Fin 31) (v : Option Word) :
    SpOkS c room (σ.setReg n v) ↔ SpOkS c room σ := Iff.rfl
@[simp] theorem SpOkS_setSlot (c : MemCfg) (room : Nat) (σ : State) (a : Nat) (w : Word) :
    SpOkS c room (σ.setSlot a w) ↔ SpOkS c room σ := Iff.rfl
@[simp] theorem SpOkS_clrSlot (c : MemCfg) (room : Nat) (σ : State) (a : Nat) :
    SpOkS c room (σ.clrSlot a) ↔ SpOkS c room σ := Iff.rfl
@[simp] theorem SpOkS_setFlags (c : MemCfg) (room : Nat) (σ : State) (f : Option (Word × Word)) :
    SpOkS c room (σ.setFlags f) ↔ SpOkS c room σ := Iff.rfl

theorem base_sp {c : MemCfg} {σ : State} {room : Nat} (h : SpOk c σ.sp room) : σ.base .sp = .ok σ.sp := by
  simp [State.base, h.aligned]

theorem exec_ldr_slot (c : MemCfg) (room : Nat) (σ : State) (t : Fin 31) (p : Nat)
    (h : SpOkS c room σ) (hp : p < SPILL_NUM) :
    Instr.exec c (.ldr (.x t) .sp (stackOffset p)) σ = .ok (σ.setReg t (σ.slot (σ.slotAddr p))) := by
  have hl := load_slot h hp
  unfold State.slotAddr at hl
  simp only [Instr.exec, okOff_stackOffset hp, base_sp h, if_true, Except_bind_ok, hl, State.putZ]
  rfl

theorem exec_str_slot (c : MemCfg) (room : Nat) (σ : State) (t : Fin 31) (p : Nat)
    (h : SpOkS c room σ) (hp : p < SPILL_NUM) :
    Instr.exec c (.str (.x t) .sp (stackOffset p)) σ =
      match σ.reg t with
      | some w => .ok (σ.setSlot (σ.slotAddr p) w)
      | none => .ok (σ.clrSlot (σ.slotAddr p)) := by
  have h1 := store_slot h hp
  have h2 := store_slot_none h hp
  unfold State.slotAddr at h1 h2
  simp only [Instr.exec, okOff_stackOffset hp, base_sp h, if_true, Except_bind_ok, State.getZ]
  unfold State.reg
  cases hr : σ.regs[t] with
  | none => simp only [h2]; rfl
  | some w => simp only [h1]; rfl

theorem xreg_var {r : Nat} (h1 : RESERVED ≤ r) (h2 : r < REGISTER_NUM) :
    ∃ n : Fin 31, xreg r = some n ∧ 4 ≤ n.val := by
  rw [RESERVED_eq] at h1; rw [REGISTER_NUM_eq] at h2
  unfold xreg archNumber
  split
  · have : r < 31 := by omega
    simp [this]; exact h1
  · have : r + 1 < 31 := by omega
    simp [this]; omega

/-- TEMP = X2, TEMP2 = X3, TEMPORARY_TEMP = X10 as machine registers -/
def xT : Fin 31 := 2
def xT2 : Fin 31 := 3
def xTT : Fin 31 := 10
theorem xreg_TEMP : xreg consts.temp = some xT := by decide
theorem xreg_TEMP2 : xreg consts.temp2 = some xT2 := by decide
theorem xreg_TEMPORARY_TEMP : xreg consts.temporaryTemp = some xTT := by decide



theorem execCode_of_toInstr {c : MemCfg} {code : Code} {i : Instr} (σ : State)
    (h : code.toInstr = some i) : execCode c code σ = i.exec c σ := by
  unfold execCode
  cases code <;> simp_all [Code.toInstr]

section
variable {c : MemCfg} {rd r1 r2 r3 : Nat} {nd n1 n2 n3 : Fin 31}

theorem execCode_ADD (hd : xreg rd = some nd) (h1 : xreg r1 = some n1) (h2 : xreg r2 = some n2) (σ : State) :
    execCode c (.ADD (.x rd) (.x r1) (.x r2)) σ = Instr.exec c (.add (.x nd) (.x n1) (.x n2)) σ :=
  execCode_of_toInstr σ (by simp [Code.toInstr, toReg_x, hd, h1, h2])
theorem execCode_SUB (hd : xreg rd = some nd) (h1 : xreg r1 = some n1) (h2 : xreg r2 = some n2) (σ : State) :
    execCode c (.SUB (.x rd) (.x r1) (.x r2)) σ = Instr.exec c (.sub (.x nd) (.x n1) (.x n2)) σ :=
  execCode_of_toInstr σ (by simp [Code.toInstr, toReg_x, hd, h1, h2])
theorem execCode_MUL (hd : xreg rd = some nd) (h1 : xreg r1 = some n1) (h2 : xreg r2 = some n2) (σ : State) :
    execCode c (.MUL (.x rd) (.x r1) (.x r2)) σ = Instr.exec c (.mul (.x nd) (.x n1) (.x n2)) σ :=
  execCode_of_toInstr σ (by simp [Code.toInstr, toReg_x, hd, h1, h2])
theorem execCode_SDIV (hd : xreg rd = some nd) (h1 : xreg r1 = some n1) (h2 : xreg r2 = some n2) (σ : State) :
    execCode c (.SDIV (.x rd) (.x r1) (.x r2)) σ = Instr.exec c (.sdiv (.x nd) (.x n1) (.x n2)) σ :=
  execCode_of_toInstr σ (by simp [Code.toInstr, toReg_x, hd, h1, h2])
theorem execCode_MSUB (hd : xreg rd = some nd) (h1 : xreg r1 = some n1) (h2 : xreg r2 = some n2)
    (h3 : xreg r3 = some n3) (σ : State) :
    execCode c (.MSUB (.x rd) (.x r1) (.x r2) (.x r3)) σ = Instr.exec c (.msub (.x nd) (.x n1) (.x n2) (.x n3)) σ :=
  execCode_of_toInstr σ (by simp [Code.toInstr, toReg_x, hd, h1, h2, h3])
theorem execCode_MOVR (hd : xreg rd = some nd) (h1 : xreg r1 = some n1) (σ : State) :
    execCode c (.MOVR (.x rd) (.x r1)) σ = Instr.exec c (.mov (.x nd) (.x n1)) σ :=
  execCode_of_toInstr σ (by simp [Code.toInstr, toReg_x, hd, h1])
theorem execCode_CMPR (h1 : xreg r1 = some n1) (h2 : xreg r2 = some n2) (σ : State) :
    execCode c (.CMPR (.x r1) (.x r2)) σ = Instr.exec c (.cmp (.x n1) (.x n2)) σ :=
  execCode_of_toInstr σ (by simp [Code.toInstr, toReg_x, h1, h2])
theorem execCode_CMPI (h1 : xreg r1 = some n1) (i : Int) (σ : State) :
    execCode c (.CMPI (.x r1) i) σ = Instr.exec c (.cmpi (.x n1) i) σ :=
  execCode_of_toInstr σ (by simp [Code.toInstr, toReg_x, h1])
theorem execCode_LDR_sp (hd : xreg rd = some nd) (i : Int) (σ : State) :
    execCode c (.LDR (.x rd) .sp i) σ = Instr.exec c (.ldr (.x nd) .sp i) σ :=
  execCode_of_toInstr σ (by simp [Code.toInstr, toReg_x, hd])
theorem execCode_STR_sp (hd : xreg rd = some nd) (i : Int) (σ : State) :
    execCode c (.STR (.x rd) .sp i) σ = Instr.exec c (.str (.x nd) .sp i) σ :=
  execCode_of_toInstr σ (by simp [Code.toInstr, toReg_x, hd])
end

/-- `a − (a / b) · b = a % b` in wrap-around arithmetic with truncating division (MSUB after SDIV);
proved over `Int` (`tdiv`/`tmod`), no SAT. -/
theorem sub_sdiv_mul_eq_srem (a b : BitVec 64) : a - a.sdiv b * b = a.srem b := by
  apply BitVec.eq_of_toInt_eq
  rw [BitVec.toInt_sub, BitVec.toInt_mul, BitVec.toInt_sdiv]
  rw [Int.bmod_mul_bmod, Int.sub_bmod_bmod]
  have : a.toInt - a.toInt.tdiv b.toInt * b.toInt = a.toInt.tmod b.toInt := by
    rw [Int.tmod_def]; rw [Int.mul_comm]
  rw [this, ← BitVec.toInt_srem]
  exact BitVec.toInt_bmod_cancel _

end Scc.A64
