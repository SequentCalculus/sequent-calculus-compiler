/-
  Scc.A64.WfMemory — proof file for C14: the instructions emitted by memory.rs (`erase_block`,
  `share_block_n`, `store`, `load`) have encodable operands, for EVERY context: a `Mem.Leaf` with operands
  in range is well-formed, and the code of the methods is a `Mem.Blk` (Scc/A64/MemBlk.lean).  The functions
  live in the generator monad `GenM` (fresh labels, panics); `GenAll P m` = every successful run of `m`
  yields a result satisfying `P`.  The methods of code.rs without a label argument, the
  comparison of `jump_label_if_*` (its last item is `wf_branchOf`) and the two moves of parallel_moves.rs are read
  off their form (`Mem.CItems`, Scc/A64/CodeBlk.lean) the same way.
-/
import Scc.A64.WfLemmas
import Scc.A64.CodeBlk
import Scc.Backend.ProofsPost

namespace Scc.A64
open Scc.AxCut
open Scc.Backend (GenM freshLabel TempNum)
open Scc.X86 (Post) -- the generic `Post` of Backend/ProofsPost.lean

/-- `Scc.X86.Post` (Backend/ProofsPost.lean) with the arguments in the other order -/
def GenAll {α : Type} (P : α → Prop) (m : GenM α) : Prop :=
  ∀ s a s', m.run s = .ok (a, s') → P a

theorem GenAll_pure {α : Type} {P : α → Prop} {a : α} (h : P a) : GenAll P (pure a : GenM α) := Post.pure h

theorem GenAll_throw {α : Type} {P : α → Prop} (e : String) : GenAll P (throw e : GenM α) := Post.throw

abbrev GenWf (m : GenM (List Code)) : Prop := GenAll (fun cs => allWf cs = true) m

theorem freshTemporary_ok (number : TempNum) (ctx : Ctx) : GenAll (fun t => t.ok = true) (freshTemporary number ctx) := by
  unfold freshTemporary temporaryFromPosition
  simp only []
  split
  · exact GenAll_pure (by simpa [Temporary.ok, Register.ok, REGISTER_NUM_eq] using ‹_›)
  · split
    · exact GenAll_pure (by simpa [Temporary.ok] using ‹_›)
    · exact GenAll_throw _

/-! ## memory.rs: a `Leaf` with operands in range is well-formed, so a `Blk` is -/

theorem Mem.XOK.x {a : Register} (h : Mem.XOK a) : ∃ r, a = .x r ∧ r < 30 := by
  cases a with
  | x r => exact ⟨r, rfl, h⟩
  | sp => cases h
  | xzr => cases h

theorem Mem.Leaf.wf {rok iok : Prop} {c : Code} (h : Mem.Leaf rok iok c) (o : rok) (oi : iok) : c.wf = true := by
  cases h with
  | com _ => rfl
  | instr hf ho him =>
    have ho := ho o
    have him := him oi
    have hmem : ∀ {t b : Register} {i : Int}, Mem.MemOK b i →
        (∀ r, r < 30 → t = .x r → (Code.LDR t b i).wf = true ∧ (Code.STR t b i).wf = true) ∧
          (t = .xzr → (∃ r, b = .x r) → (Code.STR t b i).wf = true) := by
      intro t b i hb
      rcases hb with ⟨hsp, p, hp, hi⟩ | ⟨hx, hi⟩
      · rw [hsp, hi]
        exact ⟨fun r hr e => by subst e; exact wf_LDR_sp hr _ (okOff_stackOffset (by rw [SPILL_NUM_eq]; exact hp)),
          fun _ ⟨_, e⟩ => by cases e⟩
      · obtain ⟨rb, rfl, hrb⟩ := hx.x
        exact ⟨fun r hr e => by subst e; exact ⟨(wf_LDR_x hr hrb _ hi).1, (wf_LDR_x hr hrb _ hi).2.1⟩,
          fun e _ => by subst e; exact (wf_LDR_x hrb hrb _ hi).2.2⟩
    cases c with
    | MOVR a b =>
      obtain ⟨ra, rfl, ha⟩ := ho.1.x; obtain ⟨rb, rfl, hb⟩ := ho.2.x
      exact wf_MOVR ha hb
    | LDR t b i =>
      obtain ⟨rt, rfl, ht⟩ := ho.1.x
      exact ((hmem ho.2).1 rt ht rfl).1
    | STR t b i =>
      cases t with
      | x rt => exact ((hmem ho.2).1 rt ho.1 rfl).2
      | sp => cases ho.1
      | xzr =>
        rcases ho.2 with ⟨hsp, p, hp, hi⟩ | ⟨hx, hi⟩
        · rw [hsp, hi]
          simp [Code.wf, Code.toInstr, Instr.wfError, isXorZ, isXorSP,
            okOff_stackOffset (show p < SPILL_NUM by rw [SPILL_NUM_eq]; exact hp)]
        · obtain ⟨rb, rfl, hrb⟩ := hx.x
          exact (wf_LDR_x hrb hrb _ hi).2.2
    | ADDI a b i =>
      obtain ⟨ra, rfl, ha⟩ := ho.1.x; obtain ⟨rb, rfl, hb⟩ := ho.2.x
      exact (wf_ADDI ha hb _ him).1
    | SUBI a b i =>
      obtain ⟨ra, rfl, ha⟩ := ho.1.x; obtain ⟨rb, rfl, hb⟩ := ho.2.x
      exact (wf_ADDI ha hb _ him).2
    | CMPI a i =>
      obtain ⟨ra, rfl, ha⟩ := ho.x
      exact wf_CMPI ha _ him
    | MOVZ a i s =>
      obtain ⟨ra, rfl, ha⟩ := ho.x
      exact (wf_MOVW ha _ _ him.1 him.2).1
    | MOVN a i s =>
      obtain ⟨ra, rfl, ha⟩ := ho.x
      exact (wf_MOVW ha _ _ him.1 him.2).2.1
    | MOVK a i s =>
      obtain ⟨ra, rfl, ha⟩ := ho.x
      exact (wf_MOVW ha _ _ him.1 him.2).2.2
    | ADD t a b =>
      obtain ⟨rt, rfl, ht⟩ := ho.1.x; obtain ⟨ra, rfl, ha⟩ := ho.2.1.x; obtain ⟨rb, rfl, hb⟩ := ho.2.2.x
      exact (wf_reg3 ht ha hb).1
    | SUB t a b =>
      obtain ⟨rt, rfl, ht⟩ := ho.1.x; obtain ⟨ra, rfl, ha⟩ := ho.2.1.x; obtain ⟨rb, rfl, hb⟩ := ho.2.2.x
      exact (wf_reg3 ht ha hb).2.1
    | MUL t a b =>
      obtain ⟨rt, rfl, ht⟩ := ho.1.x; obtain ⟨ra, rfl, ha⟩ := ho.2.1.x; obtain ⟨rb, rfl, hb⟩ := ho.2.2.x
      exact (wf_reg3 ht ha hb).2.2.1
    | SDIV t a b =>
      obtain ⟨rt, rfl, ht⟩ := ho.1.x; obtain ⟨ra, rfl, ha⟩ := ho.2.1.x; obtain ⟨rb, rfl, hb⟩ := ho.2.2.x
      exact (wf_reg3 ht ha hb).2.2.2
    | MSUB t a b c =>
      obtain ⟨rt, rfl, ht⟩ := ho.1.x; obtain ⟨ra, rfl, ha⟩ := ho.2.1.x; obtain ⟨rb, rfl, hb⟩ := ho.2.2.1.x
      obtain ⟨rc, rfl, hc⟩ := ho.2.2.2.x
      exact wf_MSUB ht ha hb hc
    | CMPR a b =>
      obtain ⟨ra, rfl, ha⟩ := ho.1.x; obtain ⟨rb, rfl, hb⟩ := ho.2.x
      exact wf_CMPR ha hb
    | _ => cases hf

theorem Mem.Blk.allWf {rok iok : Prop} {l : List Code} (h : Mem.Blk rok iok l) (o : rok) (oi : iok) :
    allWf l = true :=
  List.all_eq_true.2 (Scc.Backend.Blk.forall (fun _ hl => hl.wf o oi) (fun _ _ _ => rfl) (fun _ => rfl)
    (fun _ => rfl) h)

theorem Mem.tok_of_ok {t : Temporary} (h : t.ok = true) : Mem.TOK t := by
  cases t with
  | register r => obtain ⟨n, rfl, hn⟩ := ok_reg h; exact hn
  | spill p => have := ok_spill h; rw [SPILL_NUM_eq] at this; exact this

/-- code of the form of code.rs, under the ranges it is called with -/
theorem Mem.CItems.allWf {rok iok : Prop} {l : List Code} (h : Mem.CItems rok iok l) (o : rok) (oi : iok) :
    allWf l = true :=
  List.all_eq_true.2 fun c hc => (h c hc).1.wf o oi

/-! ## code.rs and the two moves of parallel_moves.rs: read off their form -/

/-- `load_immediate`: every literal, every target -/
theorem wf_loadImmediate (t : Temporary) (ht : t.ok) (immediate : Int) :
    allWf (loadImmediate t immediate) = true :=
  (Mem.items_loadImmediate t immediate).allWf (Mem.tok_of_ok ht) trivial

/-- `add / sub / mul / div / rem`: every placement -/
theorem wf_op (o : BinOp) (t s1 s2 : Temporary) (ht : t.ok) (h1 : s1.ok) (h2 : s2.ok) :
    allWf (op o t s1 s2) = true :=
  (Mem.items_op o t s1 s2).allWf ⟨Mem.tok_of_ok ht, Mem.tok_of_ok h1, Mem.tok_of_ok h2⟩ trivial

/-- `jump_label_if_*` (both the two-operand and the zero forms) -/
theorem wf_jumpLabelIf (sort : IfSort) (s1 s2 : Temporary) (h1 : s1.ok) (h2 : s2.ok) (l : String) :
    allWf (jumpLabelIf sort s1 s2 l) = true ∧ allWf (jumpLabelIfZero sort s1 l) = true := by
  constructor
  · rw [jumpLabelIf, allWf_append, (Mem.items_compare s1 s2).allWf ⟨Mem.tok_of_ok h1, Mem.tok_of_ok h2⟩ trivial]
    simp [allWf, wf_branchOf]
  · rw [jumpLabelIfZero, allWf_append, (Mem.items_compareImmediate s1 0).allWf (Mem.tok_of_ok h1) (by decide)]
    simp [allWf, wf_branchOf]

theorem wf_mov (t s : Temporary) (ht : t.ok) (hs : s.ok) : allWf (mov t s) = true :=
  (Mem.items_mov t s).allWf ⟨Mem.tok_of_ok ht, Mem.tok_of_ok hs⟩ trivial

theorem wf_storeRestoreTemporary (t : Temporary) (h : t.ok) (b : Bool) :
    allWf (storeTemporary t b) = true ∧ allWf (restoreTemporary t b) = true :=
  ⟨(Mem.items_storeTemporary t b).allWf (Mem.tok_of_ok h) trivial,
   (Mem.items_restoreTemporary t b).allWf (Mem.tok_of_ok h) trivial⟩

/-- memory.rs `store`: every context -/
theorem wf_store (toStore remaining : Ctx) : GenWf (store toStore remaining) :=
  fun _ _ _ h => (Mem.blk_store toStore remaining h).allWf trivial trivial

/-- memory.rs `load`: every context -/
theorem wf_load (toLoad existing : Ctx) : GenWf (load toLoad existing) :=
  fun _ _ _ h => (Mem.blk_load toLoad existing h).allWf trivial trivial

theorem wf_eraseBlock (t : Temporary) (ht : t.ok) : GenWf (eraseBlock t) :=
  fun _ _ _ h => (Mem.blk_eraseBlock t h).allWf (Mem.tok_of_ok ht) trivial

theorem wf_shareBlockN (t : Temporary) (ht : t.ok) (n : Nat) (hn : n < 4096) : GenWf (shareBlockN t n) :=
  fun _ _ _ h => (Mem.blk_shareBlockN t n h).allWf (Mem.tok_of_ok ht) (by
    simp only [okImm12, Bool.and_eq_true, decide_eq_true_eq]; omega)

end Scc.A64
