/-
  Scc.A64.RefSide — SIDE HYPOTHESES of the AArch64 run theorems (C07): what follows from decidable
  per-program checks and from the sanity of the machine configuration (the AArch64 analogue of
  Scc/X86/RefSide.lean).
  * `cap280_of_check`: every context of a run has at most 140 variables, from the static bound
    `2 * progCap p ≤ 280` (Scc/AxCut/PosCapacity.lean, Props/C06Capacity.lean);
  * `codeFits_of_size`: the mock code fits the address space, from the size bound of the generic generator
    (Scc/Backend/SizeMock.lean: at most `10·(1 + M)` instructions per node);
  * `fuel_lt_of_heap`: a run that has `64·141` bytes of heap per step inside a sane configuration is
    shorter than 2^64 steps.
-/
import Scc.Backend.TotalMock
import Scc.A64.RefHeapRun
import Scc.Props.C06Capacity
import Scc.Backend.SizeMock
import Scc.Pipeline.SizeCompose
import Scc.Backend.SideConds

namespace Scc.A64.Ref

open Scc.AxCut Scc.AxCut.Pos Scc.Backend
open Scc.Props.C06Generic (Reachable CodeFits reach_ctx_le)

/-- the static capacity check of the AArch64 backend: at most 140 variables in any context (utils.rs
temporary_from_position: 281 temporaries) -/
def capCheck (p : AxCut.Prog) : Bool := decide (2 * progCap p ≤ 280)

theorem cap280_of_check {p : AxCut.Prog} (h : capCheck p = true) {d0 : Def} (hd : d0 ∈ p.defs)
    (args : List Word) :
    ∀ st, Reachable p ⟨d0.ctx, args.map .int, d0.body⟩ st → 2 * st.ctx.length ≤ 280 :=
  cap_of_progCap (of_decide_eq_true h) hd args

/-- the static size check: `10·(1 + longest context)·nodes < 2^64` -/
def sizeCheck (p : AxCut.Prog) : Bool :=
  decide (10 * (1 + SizeLin.defsCap p.defs) * SizeLin.defsNodes p.defs < 2 ^ 64)

theorem codeFits_of_size {p : AxCut.Prog} (htp : LinTypedProg p) (h : sizeCheck p = true) {hooks : Bool}
    {c : Nat} {ops : List MockOp} {nargs c' : Nat}
    (hcomp : (compile mockSym hooks p).run c = .ok ((ops, nargs), c')) : CodeFits ops :=
  codeFits_of_nodes htp (of_decide_eq_true h) hcomp

theorem fuel_lt_of_heap {c : MemCfg} (H : CC.CfgCC c) {fuel : Nat}
    (h : 128 + 64 * 141 * fuel ≤ c.heapBytes) : fuel + 1 < 2 ^ 64 := by
  have h1 := H.ok.disjoint
  have h2 := H.ok.top
  have h3 := H.room
  omega

theorem fits_of_ninstr {c : MemCfg} {cs : List Code} (hc : c.codeBase ≤ 2 ^ 62) (h : ninstr cs ≤ 2 ^ 60) :
    c.codeBase + 4 * ninstr cs < 2 ^ 64 := by
  omega

/-- … in particular a routine of fewer than 2^18 items (the bound of the validator) -/
theorem fits_of_length {c : MemCfg} {cs : List Code} (hc : c.codeBase ≤ 2 ^ 62) (h : cs.length < 262144) :
    c.codeBase + 4 * ninstr cs < 2 ^ 64 :=
  fits_of_ninstr hc (Nat.le_trans (List.length_filter_le _ _) (by omega))

end Scc.A64.Ref
