/-
  Scc.A64.CCProofsFrame — property C13, AArch64: what ONE data-processing / load / store instruction can do on
  the SPEC machine (Scc/A64/Machine.lean), whatever the values involved.  `exec_spec` is one case analysis of
  `Instr.exec` over the data forms (`isData`); `InstrSpec` says what comes out: with `SP` 16-aligned every failure
  is one of the machine's own messages (`MErr`; none of them is a fault of the calling-convention monitor,
  "branching instruction" — the answer of `Instr.exec` on the other forms — or "internal call" of `execCodesOut`:
  `OKErr`), and a form other than the pair forms keeps `SP` unless it is one that writes it and changes at most
  the stack word a `STR` addresses.  The state-changing primitives are treated once each in the same form (`Act`;
  the alignment premise is needed only for the error of an `SP`-based access).  `exec_err` and `exec_frame` are
  the two readings the later files use.  `plain_toInstr`: the machine instruction of a plain backend instruction
  that is neither indirect nor a direct branch is such a data instruction, does not write `SP`, is no pair form,
  and a `STR` comes from a backend `STR r, [b, off]` with the base register translated (that the slot lies in the
  spill area is `plainCC_spec`, used where the lemma is applied: `plain_exec`, CCProofsSeg.lean).
-/
import Scc.A64.CCProofsSites

namespace Scc.A64.CC

theorem bind_ok_inv {ε α β : Type} {x : Except ε α} {f : α → Except ε β} {b : β}
    (h : (x >>= f) = .ok b) : ∃ a, x = .ok a ∧ f a = .ok b := by
  cases x with
  | error e => cases h
  | ok a => exact ⟨a, rfl, h⟩

/-- the prefixes of the messages of `Instr.exec` on a data instruction that carry an operand or an address -/
def errPrefixes : List String :=
  ["read-undefined ", "bad-operand ", "unaligned ", "oob ", "unencodable ", "unpredictable ",
   "undefined-label ", "label-at-end ", "jump-to-non-instruction "]

def errFixed : List String := ["div-by-zero", "div-overflow", "no such register"]

inductive MErr : String → Prop where
  | pre (p x : String) : p ∈ errPrefixes → MErr (p ++ x)
  | fixed (e : String) : e ∈ errFixed → MErr e

/-- `e` is none of the four messages that cut a run short for the calling convention: the two faults of the
    monitor, "branching instruction" (`Instr.exec` on a form that is no data instruction) and "internal call"
    (`execCodesOut` on a `BL` that is no call of the runtime) -/
def OKErr (e : String) : Prop :=
  e ≠ "misaligned-call" ∧ e ≠ "misaligned-sp" ∧ e ≠ "branching instruction" ∧ e ≠ "internal call"

def monitorErrs : List String := ["misaligned-call", "misaligned-sp", "branching instruction", "internal call"]

theorem okErr_of {e : String} (h : ∀ t ∈ monitorErrs, e ≠ t) : OKErr e :=
  ⟨h _ (by simp [monitorErrs]), h _ (by simp [monitorErrs]), h _ (by simp [monitorErrs]),
    h _ (by simp [monitorErrs])⟩

theorem errPrefixes_monitorErrs :
    ∀ p ∈ errPrefixes, ∀ t ∈ monitorErrs, p.toList.isPrefixOf t.toList = false := by decide +kernel

theorem errFixed_monitorErrs : ∀ e ∈ errFixed, ∀ t ∈ monitorErrs, e ≠ t := by decide +kernel

theorem MErr.okErr {e : String} (h : MErr e) : OKErr e := by
  cases h with
  | pre p x hp => exact okErr_of fun t ht => Str.append_ne_prefix (errPrefixes_monitorErrs p hp t ht)
  | fixed e he => exact okErr_of (errFixed_monitorErrs e he)

theorem merr_of_prefix (p rest e : String) (hp : p ∈ errPrefixes) (h : e = p ++ rest) : MErr e :=
  h ▸ MErr.pre p rest hp

theorem merr_undefX (n : Nat) : MErr s!"read-undefined X{n}" :=
  merr_of_prefix "read-undefined " ("X" ++ toString n) _ (by simp [errPrefixes]) (by
    show "read-undefined X" ++ toString n = _
    rw [show ("read-undefined X" : String) = "read-undefined " ++ "X" from by decide +kernel, String.append_assoc])
theorem merr_badSP : MErr "bad-operand SP" := MErr.pre "bad-operand " "SP" (by simp [errPrefixes])
theorem merr_badXZR : MErr "bad-operand XZR" := MErr.pre "bad-operand " "XZR" (by simp [errPrefixes])
theorem merr_unaligned (n : Nat) : MErr s!"unaligned {n}" := MErr.pre "unaligned " (toString n) (by simp [errPrefixes])
theorem merr_oob (n : Nat) : MErr s!"oob {n}" := MErr.pre "oob " (toString n) (by simp [errPrefixes])
theorem merr_storeUndef (n : Nat) : MErr s!"read-undefined value stored to heap[{n}]" :=
  merr_of_prefix "read-undefined " ("value stored to heap[" ++ toString n ++ "]") _ (by simp [errPrefixes]) (by
    show "read-undefined value stored to heap[" ++ toString n ++ "]" = _
    rw [show ("read-undefined value stored to heap[" : String) = "read-undefined " ++ "value stored to heap[" from
      by decide]
    simp only [String.append_assoc])
theorem merr_of_isPrefix {p e : String} (hp : p ∈ errPrefixes) (h : p.toList.isPrefixOf e.toList = true) :
    MErr e := by
  obtain ⟨t, ht⟩ := List.isPrefixOf_iff_prefix.1 h
  have : e = p ++ String.ofList t := by
    apply String.toList_inj.1
    rw [String.toList_append, String.toList_ofList, ht]
  rw [this]
  exact MErr.pre p _ hp
/-- an `unencodable …` message given as a literal (read as `String.ofList` of its characters) -/
theorem merr_unencodable {e : String} {cs : List Char} (he : e = String.ofList cs)
    (h : "unencodable ".toList.isPrefixOf cs = true) : MErr e :=
  merr_of_isPrefix (p := "unencodable ") (by simp [errPrefixes]) (by
    rw [he, show (String.ofList cs).toList = cs from String.toList_ofList]; exact h)
theorem merr_undefLabel (l : String) : MErr s!"undefined-label {l}" :=
  MErr.pre "undefined-label " l (by simp [errPrefixes])
theorem merr_undefFlags : MErr "read-undefined flags" := MErr.pre "read-undefined " "flags" (by simp [errPrefixes])

section Prims
variable {c : MemCfg} {σ σ' : State} {e : String}

theorem rdX_err {n : Fin 31} (h : σ.rdX n = .error e) : MErr e := by
  unfold State.rdX at h
  split at h
  · cases h
  · cases h; exact merr_undefX n.val

theorem rdZ_err {r : Reg} {e : String} (h : σ.rdZ r = .error e) : MErr e := by
  cases r with
  | x n => exact rdX_err h
  | xzr => cases h
  | sp => cases h; exact merr_badSP

theorem getZ_err {r : Reg} (h : σ.getZ r = .error e) : MErr e := by
  cases r with
  | x n => cases h
  | xzr => cases h
  | sp => cases h; exact merr_badSP

theorem rdS_err {r : Reg} (h : σ.rdS r = .error e) : MErr e := by
  cases r with
  | x n => exact rdX_err h
  | sp => cases h
  | xzr => cases h; exact merr_badXZR

theorem base_err {r : Reg} (hal : σ.sp.toNat % 16 = 0) (h : σ.base r = .error e) : MErr e := by
  cases r with
  | x n => exact rdX_err h
  | sp => simp [State.base, hal] at h
  | xzr => cases h; exact merr_badXZR

theorem load_err {a : Nat} {e : String} (h : σ.load c a = .error e) : MErr e := by
  unfold State.load at h
  split at h
  · cases h; exact merr_unaligned a
  · split at h
    · cases h
    · split at h
      · cases h
      · cases h; exact merr_oob a

theorem sdivW_err {a b : Word} (h : sdivW a b = .error e) : MErr e := by
  unfold sdivW at h
  split at h
  · cases h; exact .fixed _ (by simp [errFixed])
  · split at h
    · cases h; exact .fixed _ (by simp [errFixed])
    · cases h

/-! ### what a state-changing primitive does

`Act P w A σ r`: the action `r` from `σ` fails, under `P` with one of the machine's messages, or keeps `SP`
(unless `w`) and every stack word whose address does not satisfy `A`.  (`P` will be "`SP` is 16-aligned": only
the error of an `SP`-based access needs it.) -/

/-- `σ'` has the `SP` of `σ` unless `w`, and the stack words of `σ` at all addresses that do not satisfy `A` -/
structure Fr (w : Bool) (A : Nat → Prop) (σ σ' : State) : Prop where
  sp : w = false → σ'.sp = σ.sp
  stack : ∀ a, ¬ A a → σ'.stack[a]? = σ.stack[a]?

def NoAddr : Nat → Prop := fun _ => False

theorem Fr.refl (w : Bool) (A : Nat → Prop) (σ : State) : Fr w A σ σ := ⟨fun _ => rfl, fun _ _ => rfl⟩

def Act (P : Prop) (w : Bool) (A : Nat → Prop) (σ : State) : Except Fault State → Prop
  | .error e => P → MErr e
  | .ok σ' => Fr w A σ σ'

theorem Act.ok {P : Prop} {w : Bool} {A : Nat → Prop} (h : Fr w A σ σ') : Act P w A σ (.ok σ') := h
theorem Act.err {P : Prop} {w : Bool} {A : Nat → Prop} (h : MErr e) : Act P w A σ (.error e) := fun _ => h

theorem Act.mono {P : Prop} {w : Bool} {A A' : Nat → Prop} {r : Except Fault State} (h : Act P false A σ r)
    (hA : ∀ a, A a → A' a) : Act P w A' σ r := by
  cases r with
  | error e => exact h
  | ok τ => exact ⟨fun _ => h.sp rfl, fun a ha => h.stack a (fun h' => ha (hA a h'))⟩

/-- a read first: only its errors matter -/
theorem Act.bind' {P : Prop} {α : Type} {w : Bool} {A : Nat → Prop} {x : Except Fault α} {f : α → Except Fault State}
    (hx : ∀ e, x = .error e → P → MErr e) (hf : ∀ a, x = .ok a → Act P w A σ (f a)) : Act P w A σ (x >>= f) := by
  cases x with
  | error e => exact hx e rfl
  | ok a => exact hf a rfl

theorem Act.bind {P : Prop} {α : Type} {w : Bool} {A : Nat → Prop} {x : Except Fault α} {f : α → Except Fault State}
    (hx : ∀ e, x = .error e → P → MErr e) (hf : ∀ a, Act P w A σ (f a)) : Act P w A σ (x >>= f) :=
  .bind' hx fun a _ => hf a

/-- of a chain of actions only the errors -/
def Errs (P : Prop) {α : Type} (x : Except Fault α) : Prop := ∀ e, x = .error e → P → MErr e

theorem Errs.bind {P : Prop} {α β : Type} {x : Except Fault α} {f : α → Except Fault β} (hx : Errs P x) (hf : ∀ a, Errs P (f a)) :
    Errs P (x >>= f) := by
  cases x with
  | error e => exact fun e' (he : Except.error e = Except.error e') => hx e' (by cases he; rfl)
  | ok a => exact hf a

theorem Act.errs {P : Prop} {w : Bool} {A : Nat → Prop} {r : Except Fault State} (h : Act P w A σ r) : Errs P r :=
  fun e he => by subst he; exact h

theorem wrZ_act {P : Prop} (r : Reg) (w : Word) : Act P false NoAddr σ (σ.wrZ r w) := by
  cases r with
  | x n => exact .ok ⟨fun _ => rfl, fun _ _ => rfl⟩
  | xzr => exact .ok (Fr.refl _ _ _)
  | sp => exact .err merr_badSP

theorem putZ_act {P : Prop} (r : Reg) (w : Option Word) : Act P false NoAddr σ (σ.putZ r w) := by
  cases r with
  | x n => exact .ok ⟨fun _ => rfl, fun _ _ => rfl⟩
  | xzr => exact .ok (Fr.refl _ _ _)
  | sp => exact .err merr_badSP

theorem wrS_act {P : Prop} (r : Reg) (w : Word) : Act P (decide (r = .sp)) NoAddr σ (σ.wrS r w) := by
  cases r with
  | x n => exact .ok ⟨fun _ => rfl, fun _ _ => rfl⟩
  | sp => exact .ok ⟨fun h => by simp at h, fun _ _ => rfl⟩
  | xzr => exact .err merr_badXZR

theorem store_act {P : Prop} (a : Nat) (w : Option Word) : Act P false (· = a) σ (σ.store c a w) := by
  unfold State.store
  split
  · exact .err (merr_unaligned a)
  · split
    · split
      · exact .ok ⟨fun _ => rfl, fun _ _ => rfl⟩
      · exact .err (merr_storeUndef a)
    · split
      · split
        · refine .ok ⟨fun _ => rfl, fun b hb => ?_⟩
          simp only [Std.HashMap.getElem?_insert]
          have : ¬ a = b := fun e => hb e.symm
          simp [this]
        · refine .ok ⟨fun _ => rfl, fun b hb => ?_⟩
          simp only [Std.HashMap.getElem?_erase]
          have : ¬ a = b := fun e => hb e.symm
          simp [this]
      · exact .err (merr_oob a)

end Prims

/-- the forms that `Instr.exec` handles (everything but the control transfers) -/
def isData : Instr → Bool
  | .b _ | .br _ | .bl _ | .adr _ _ | .bcond _ _ | .ret => false
  | _ => true

def isPair : Instr → Bool
  | .stpPre _ _ _ _ | .ldpPost _ _ _ _ => true
  | _ => false

/-- the forms that can write `SP` (pair forms apart) -/
def spWrite : Instr → Bool
  | .addi d _ _ | .subi d _ _ | .mov d _ => decide (d = .sp)
  | _ => false

section Exec
variable {c : MemCfg} {σ σ' : State} {e : String}

/-- the stack words a data instruction may write: the word a `STR` addresses -/
def StrAddr (σ : State) (i : Instr) : Nat → Prop :=
  fun a => ∃ t n off b, i = .str t n off ∧ σ.base n = .ok b ∧ a = (b + imm off).toNat

def Al (σ : State) : Prop := σ.sp.toNat % 16 = 0

/-- what one data instruction does: with `SP` 16-aligned its failures are messages of the machine; a form other
    than the pair forms keeps `SP` unless it is one of the forms that write it, and changes at most the stack word
    that a `STR` addresses -/
def InstrSpec (σ : State) (i : Instr) (r : Except Fault State) : Prop :=
  Errs (Al σ) r ∧ (isPair i = false → Act (Al σ) (spWrite i) (StrAddr σ i) σ r)

theorem InstrSpec.ofAct {i : Instr} {r : Except Fault State} (h : Act (Al σ) false NoAddr σ r) : InstrSpec σ i r :=
  ⟨h.errs, fun _ => h.mono (fun _ h => h.elim)⟩

theorem InstrSpec.ofActS {i : Instr} {d : Reg} {r : Except Fault State} (h : Act (Al σ) (decide (d = .sp)) NoAddr σ r)
    (hw : spWrite i = decide (d = .sp)) : InstrSpec σ i r := by
  refine ⟨h.errs, fun _ => ?_⟩
  cases r with
  | error e => exact h
  | ok τ => exact ⟨fun hs => h.sp (by rw [← hw]; exact hs), fun a _ => h.stack a (fun h' => h'.elim)⟩

theorem InstrSpec.err {i : Instr} (h : MErr e) : InstrSpec σ i (.error e) :=
  ⟨fun _ he _ => by cases he; exact h, fun _ _ => h⟩

theorem exec_spec (i : Instr) (hd : isData i = true) : InstrSpec σ i (i.exec c σ) := by
  have rdZ : ∀ r, Errs (Al σ) (σ.rdZ r) := fun _ _ h _ => rdZ_err h
  have rdS : ∀ r, Errs (Al σ) (σ.rdS r) := fun _ _ h _ => rdS_err h
  have getZ : ∀ r, Errs (Al σ) (σ.getZ r) := fun _ _ h _ => getZ_err h
  have base : ∀ r, Errs (Al σ) (σ.base r) := fun _ _ h hal => base_err hal h
  have sdiv : ∀ a b, Errs (Al σ) (sdivW a b) := fun _ _ _ h _ => sdivW_err h
  have load : ∀ a, Errs (Al σ) (σ.load c a) := fun _ _ h _ => load_err h
  cases i <;> simp only [isData] at hd <;> simp only [Instr.exec] <;>
    (try (exact absurd hd (by decide +kernel)))
  case add d n m => exact .ofAct (.bind (rdZ n) fun a => .bind (rdZ m) fun b => wrZ_act d _)
  case sub d n m => exact .ofAct (.bind (rdZ n) fun a => .bind (rdZ m) fun b => wrZ_act d _)
  case mul d n m => exact .ofAct (.bind (rdZ n) fun a => .bind (rdZ m) fun b => wrZ_act d _)
  case sdiv d n m =>
    exact .ofAct (.bind (rdZ n) fun a => .bind (rdZ m) fun b => .bind (sdiv a b) fun q => wrZ_act d _)
  case msub d n m a =>
    exact .ofAct (.bind (rdZ n) fun vn => .bind (rdZ m) fun vm => .bind (rdZ a) fun va => wrZ_act d _)
  case addi d n i =>
    split
    · exact .ofActS (.bind (rdS n) fun a => wrS_act d _) rfl
    · exact .err (merr_unencodable rfl (by decide))
  case subi d n i =>
    split
    · exact .ofActS (.bind (rdS n) fun a => wrS_act d _) rfl
    · exact .err (merr_unencodable rfl (by decide))
  case mov d s =>
    split
    · refine .ofActS (.bind (rdS _) fun a => wrS_act _ _) ?_; rfl
    · refine .ofActS (.bind (rdS _) fun a => wrS_act _ _) ?_; rfl
    · exact .ofAct (.bind (getZ _) fun a => putZ_act _ _)
  case movz d i sh =>
    split
    · exact .ofAct (wrZ_act d _)
    · exact .err (merr_unencodable rfl (by decide))
  case movn d i sh =>
    split
    · exact .ofAct (wrZ_act d _)
    · exact .err (merr_unencodable rfl (by decide))
  case movk d i sh =>
    split
    · exact .ofAct (.bind (rdZ d) fun a => wrZ_act d _)
    · exact .err (merr_unencodable rfl (by decide))
  case ldr t n i =>
    split
    · exact .ofAct (.bind (base n) fun b => .bind (load _) fun w => putZ_act t _)
    · exact .err (merr_unencodable rfl (by decide))
  case str t n i =>
    split
    · refine ⟨Errs.bind (base n) fun b => Errs.bind (getZ t) fun w => (store_act _ _).errs, fun _ => ?_⟩
      exact .bind' (base n) fun b hb => .bind (getZ t) fun w =>
        (store_act _ w).mono (fun a ha => ⟨t, n, i, b, rfl, hb, ha⟩)
    · exact .err (merr_unencodable rfl (by decide))
  case stpPre t1 t2 n i =>
    refine ⟨?_, fun h => by simp [isPair] at h⟩
    split
    · exact fun _ he _ => by cases he; exact merr_unencodable rfl (by decide)
    · split
      · exact fun _ he _ => by
          cases he; exact merr_of_isPrefix (p := "unpredictable ") (by simp [errPrefixes]) (by decide +kernel)
      · exact Errs.bind (base n) fun b => Errs.bind (getZ t1) fun w1 => Errs.bind (getZ t2) fun w2 =>
          Errs.bind (store_act _ _).errs fun σ1 => Errs.bind (store_act _ _).errs fun σ2 => (wrS_act _ _).errs
  case ldpPost t1 t2 n i =>
    refine ⟨?_, fun h => by simp [isPair] at h⟩
    split
    · exact fun _ he _ => by cases he; exact merr_unencodable rfl (by decide)
    · split
      · exact fun _ he _ => by
          cases he; exact merr_of_isPrefix (p := "unpredictable ") (by simp [errPrefixes]) (by decide +kernel)
      · exact Errs.bind (base n) fun b => Errs.bind (load _) fun w1 => Errs.bind (load _) fun w2 =>
          Errs.bind (putZ_act _ _).errs fun σ1 => Errs.bind (putZ_act _ _).errs fun σ2 => (wrS_act _ _).errs
  case cmp n m => exact .ofAct (.bind (rdZ n) fun a => .bind (rdZ m) fun b => .ok ⟨fun _ => rfl, fun _ _ => rfl⟩)
  case cmpi n i =>
    split
    · exact .ofAct (.bind (rdS n) fun a => .ok ⟨fun _ => rfl, fun _ _ => rfl⟩)
    · exact .err (merr_unencodable rfl (by decide))

theorem exec_err {i : Instr} (hd : isData i = true) (hal : σ.sp.toNat % 16 = 0)
    (h : i.exec c σ = .error e) : MErr e := (exec_spec i hd).1 e h hal

/-- FRAME of a data instruction other than the pair forms: `SP` is kept unless the form writes it;
    only a `STR` changes the stack, and only at the word it addresses -/
theorem exec_frame {i : Instr} (hd : isData i = true) (hp : isPair i = false)
    (h : i.exec c σ = .ok σ') :
    (spWrite i = false → σ'.sp = σ.sp) ∧
    (∀ a, (∀ t n off b, i = .str t n off → σ.base n = .ok b → a ≠ (b + imm off).toNat) →
      σ'.stack[a]? = σ.stack[a]?) := by
  have := (exec_spec (c := c) (σ := σ) i hd).2 hp
  rw [h] at this
  exact ⟨this.sp, fun a ha => this.stack a (fun ⟨t, n, off, b, e1, e2, e3⟩ => ha t n off b e1 e2 e3)⟩

end Exec

theorem toReg_sp_iff {r : Register} {n : Reg} (h : r.toReg = some n) : n = .sp ↔ r = .sp := by
  cases r with
  | x k =>
    simp only [Register.toReg] at h
    split at h
    · cases h; simp
    · cases h
  | sp => cases h; simp
  | xzr => cases h; simp

theorem obind_elim {α β : Type} {x : Option α} {f : α → Option β} {b : β} {P : Prop} (h : x.bind f = some b)
    (k : ∀ a, x = some a → f a = some b → P) : P := by
  obtain ⟨a, h1, h2⟩ := Option.bind_eq_some_iff.1 h
  exact k a h1 h2

/-- the machine instruction of a PLAIN backend instruction that is not a direct branch: a data
    instruction, no pair form, does not write `SP`; if it is a `STR`, the backend instruction is
    `STR r, [b, off]` with `b ↦ n` -/
theorem plain_toInstr {code : Code} {i : Instr} (hp : plainCC code = true) (hind : isIndirect code = false)
    (hj : codeJumpRef code = none) (ht : code.toInstr = some i) :
    isData i = true ∧ isPair i = false ∧ spWrite i = false ∧
    (∀ t n off, i = .str t n off → ∃ r b, code = .STR r b off ∧ b.toReg = some n) := by
  obtain ⟨hso, hw, _⟩ := plainCC_spec hp
  cases code <;> simp only [isStackOp] at hso <;> simp only [isIndirect] at hind <;>
    simp only [codeJumpRef] at hj <;> simp only [Code.toInstr, bind, Option.bind] at ht
  all_goals first
    | (cases hj; done)
    | (cases hind; done)
    | (cases hso; done)
    | (cases ht; done)
    | skip
  case STR r0 b0 imm =>
    obtain ⟨a, _, ht⟩ := Option.bind_eq_some_iff.1 ht; obtain ⟨d, hd, ht⟩ := Option.bind_eq_some_iff.1 ht
    cases ht
    refine ⟨rfl, rfl, rfl, fun t n off h => ?_⟩
    cases h
    exact ⟨_, _, rfl, hd⟩
  -- the forms that neither write `SP` nor store
  all_goals try (
    repeat (refine obind_elim ht fun _ _ ht => ?_)
    cases ht; exact ⟨rfl, rfl, rfl, fun _ _ _ h => by cases h⟩)
  -- `ADD` / `SUB` immediate and the register move: the destination is not `SP`
  case' ADDI x y imm =>
    obtain ⟨a, ha, ht⟩ := Option.bind_eq_some_iff.1 ht; obtain ⟨b, _, ht⟩ := Option.bind_eq_some_iff.1 ht
  case' SUBI x y imm =>
    obtain ⟨a, ha, ht⟩ := Option.bind_eq_some_iff.1 ht; obtain ⟨b, _, ht⟩ := Option.bind_eq_some_iff.1 ht
  case' MOVR x y =>
    obtain ⟨a, ha, ht⟩ := Option.bind_eq_some_iff.1 ht; obtain ⟨b, _, ht⟩ := Option.bind_eq_some_iff.1 ht
  all_goals
    cases ht
    have : a ≠ .sp := fun e => hw (by rw [(toReg_sp_iff ha).1 e]; simp [codeWrites])
    exact ⟨rfl, rfl, by simp [spWrite, this], fun _ _ _ h => by cases h⟩

end Scc.A64.CC
