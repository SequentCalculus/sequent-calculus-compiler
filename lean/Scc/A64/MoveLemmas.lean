/-
  Scc.A64.MoveLemmas — code.rs `compare`, `compare_immediate`, `mov`, `load_immediate`
  (both placements of the target), and the defect witness for `op` with target = first operand = TEMP and a spilled
  second operand (what switch.rs asks for).
-/
import Scc.A64.OpLemmas
import Scc.A64.LoadImm

namespace Scc.A64
open Scc.AxCut

/-- frame of an instruction sequence that defines no temporary: everything but TEMP, TEMP2 -/
structure Frame0 (σ σ' : State) : Prop where
  sp : σ'.sp = σ.sp
  heap : σ'.heap = σ.heap
  regs : ∀ m : Fin 31, m ≠ xT → m ≠ xT2 → σ'.reg m = σ.reg m
  slots : ∀ addr, σ'.slot addr = σ.slot addr

theorem compare_decompose (s1 s2 : Temporary) (h1 : s1.isVar) (h2 : s2.isVar) :
    compare s1 s2 = (operandRegs s1 s2).1 ++ [.CMPR (.x (operandRegs s1 s2).2.1) (.x (operandRegs s1 s2).2.2)] := by
  cases s1 <;> cases s2 <;> rename_i y z <;>
    first
    | (cases y <;> cases z <;> simp_all [compare, operandRegs, Temporary.isVar, TEMP, TEMP2])
    | (cases y <;> simp_all [compare, operandRegs, Temporary.isVar, TEMP, TEMP2])
    | (cases z <;> simp_all [compare, operandRegs, Temporary.isVar, TEMP, TEMP2])
    | simp_all [compare, operandRegs, Temporary.isVar, TEMP, TEMP2]

/-- code.rs `compare`: for every placement the flags hold the two operand values, in order. -/
theorem compare_correct (c : MemCfg) (room : Nat) (σ : State) (hsp : SpOk c σ.sp room)
    (s1 s2 : Temporary) (h1 : s1.isVar) (h2 : s2.isVar) (a b : Word)
    (hv1 : σ.tempVal s1 = some a) (hv2 : σ.tempVal s2 = some b) :
    ∃ σ', execCodes c (compare s1 s2) σ = .ok σ' ∧ σ'.flags = some (a, b) ∧ Frame0 σ σ' := by
  obtain ⟨σ0, n1, n2, he0, hx1, hx2, ha, hb, hsp0, hheap0, hregs0, hslots0, _, _⟩ :=
    operands_loaded c room σ hsp s1 s2 h1 h2 a b hv1 hv2
  have hdec := compare_decompose s1 s2 h1 h2
  refine ⟨σ0.setFlags (some (a, b)), ?_, by simp, ?_⟩
  · rw [hdec, execCodes_append c _ _ _ _ he0]
    simp [execCodes, execCode_CMPR hx1 hx2, exec_cmp_x, ha, hb]
  · exact ⟨by simp [hsp0], by simp [hheap0], by intro m h1 h2; simp [hregs0 m h1 h2], by intro q; simp [hslots0]⟩

/-- code.rs `compare_immediate` with 0 -/
theorem compareImmediate_correct (c : MemCfg) (room : Nat) (σ : State) (hsp : SpOk c σ.sp room)
    (s : Temporary) (h : s.isVar) (a : Word) (hv : σ.tempVal s = some a) :
    ∃ σ', execCodes c (compareImmediate s 0) σ = .ok σ' ∧ σ'.flags = some (a, 0) ∧ Frame0 σ σ' := by
  have hsp' : SpOkS c room σ := hsp
  have hT : xreg 2 = some xT := xreg_TEMP
  have hi : okImm12 0 = true := by decide
  cases s with
  | register reg =>
    cases reg with
    | x r =>
      obtain ⟨hra, hrb⟩ := isVar_reg h
      obtain ⟨n, hn, _⟩ := xreg_var hra hrb
      rw [tempVal_reg hn] at hv
      refine ⟨σ.setFlags (some (a, 0)), ?_, by simp, ⟨rfl, rfl, by intros; rfl, by intros; rfl⟩⟩
      simp [compareImmediate, execCodes, execCode_CMPI hn, exec_cmpi_x c _ _ _ hi, hv, imm]
    | sp => simp [Temporary.isVar] at h
    | xzr => simp [Temporary.isVar] at h
  | spill p =>
    obtain ⟨_, hp⟩ := isVar_spill h
    rw [tempVal_spill] at hv
    refine ⟨(σ.setReg xT (some a)).setFlags (some (a, 0)), ?_, by simp, ⟨rfl, rfl, ?_, by intros; rfl⟩⟩
    · simp [compareImmediate, TEMP, execCodes, execCode_LDR_sp hT, execCode_CMPI hT, exec_ldr_slot c room, hsp', hp,
        exec_cmpi_x c _ _ _ hi, hv, imm]
    · intro m hm _; simp [Ne.symm hm]

/-- the conditional branch emitted for an AxCut comparison tests exactly that comparison -/
theorem branchOf_correct (sort : IfSort) (l : String) (a b : Word) :
    ∃ cd, (branchOf sort l).toInstr = some (.bcond cd l) ∧ cd.holds a b = Pos.evalCmp sort a b := by
  cases sort
  · exact ⟨.eq, rfl, rfl⟩
  · exact ⟨.ne, rfl, rfl⟩
  · exact ⟨.lt, rfl, rfl⟩
  · exact ⟨.le, rfl, rfl⟩
  · exact ⟨.gt, rfl, rfl⟩
  · exact ⟨.ge, rfl, rfl⟩

/-- code.rs `mov`: the target receives the content of the source (defined or not) for every
placement; only TEMP2 is used as scratch. -/
theorem mov_correct (c : MemCfg) (room : Nat) (σ : State) (hsp : SpOk c σ.sp room)
    (t s : Temporary) (ht : t.isVar) (hs : s.isVar) :
    ∃ σ', execCodes c (mov t s) σ = .ok σ' ∧ σ'.tempVal t = σ.tempVal s ∧ Frame σ σ' t := by
  have hsp' : SpOkS c room σ := hsp
  have hT2 : xreg 3 = some xT2 := xreg_TEMP2
  cases s with
  | register sreg =>
    cases sreg with
    | x rs =>
      obtain ⟨hra, hrb⟩ := isVar_reg hs
      obtain ⟨ns, hns, _⟩ := xreg_var hra hrb
      rw [tempVal_reg hns]
      cases t with
      | register treg =>
        cases treg with
        | x rt =>
          obtain ⟨hta, htb⟩ := isVar_reg ht
          obtain ⟨nt, hnt, _⟩ := xreg_var hta htb
          refine ⟨σ.setReg nt (σ.reg ns), ?_, ?_, ⟨rfl, rfl, ?_, by intros; rfl⟩⟩
          · simp [mov, moveFromRegister, execCodes, execCode_MOVR hnt hns, exec_mov_x]
          · rw [tempVal_reg hnt]; simp
          · intro m _ _ hm
            have : nt ≠ m := by intro e; apply hm; simp [Temporary.archReg, hnt, e]
            simp [this]
        | sp => simp [Temporary.isVar] at ht
        | xzr => simp [Temporary.isVar] at ht
      | spill pt =>
        obtain ⟨_, hpt⟩ := isVar_spill ht
        cases hx : σ.reg ns with
        | none =>
          refine ⟨σ.clrSlot (σ.slotAddr pt), ?_, ?_, ⟨rfl, rfl, by intros; rfl, ?_⟩⟩
          · simp [mov, moveFromRegister, execCodes, execCode_STR_sp hns, exec_str_slot c room, hsp', hpt, hx]
          · rw [tempVal_spill]; simp
          · intro q _ hq hne
            have : σ.slotAddr pt ≠ σ.slotAddr q := by
              intro e; apply hne; rw [(slotAddr_inj hsp hpt hq).mp e]
            simp [this]
        | some w =>
          refine ⟨σ.setSlot (σ.slotAddr pt) w, ?_, ?_, ⟨rfl, rfl, by intros; rfl, ?_⟩⟩
          · simp [mov, moveFromRegister, execCodes, execCode_STR_sp hns, exec_str_slot c room, hsp', hpt, hx]
          · rw [tempVal_spill]; simp
          · intro q _ hq hne
            have : σ.slotAddr pt ≠ σ.slotAddr q := by
              intro e; apply hne; rw [(slotAddr_inj hsp hpt hq).mp e]
            simp [this]
    | sp => simp [Temporary.isVar] at hs
    | xzr => simp [Temporary.isVar] at hs
  | spill ps =>
    obtain ⟨_, hps⟩ := isVar_spill hs
    rw [tempVal_spill]
    cases t with
    | register treg =>
      cases treg with
      | x rt =>
        obtain ⟨hta, htb⟩ := isVar_reg ht
        obtain ⟨nt, hnt, _⟩ := xreg_var hta htb
        refine ⟨σ.setReg nt (σ.slot (σ.slotAddr ps)), ?_, ?_, ⟨rfl, rfl, ?_, by intros; rfl⟩⟩
        · simp [mov, moveToRegister, execCodes, execCode_LDR_sp hnt, exec_ldr_slot c room, hsp', hps]
        · rw [tempVal_reg hnt]; simp
        · intro m _ _ hm
          have : nt ≠ m := by intro e; apply hm; simp [Temporary.archReg, hnt, e]
          simp [this]
      | sp => simp [Temporary.isVar] at ht
      | xzr => simp [Temporary.isVar] at ht
    | spill pt =>
      obtain ⟨_, hpt⟩ := isVar_spill ht
      cases hx : σ.slot (σ.slotAddr ps) with
      | none =>
        refine ⟨(σ.setReg xT2 none).clrSlot (σ.slotAddr pt), ?_, ?_, ⟨rfl, rfl, ?_, ?_⟩⟩
        · simp [mov, moveToRegister, moveFromRegister, TEMP2, execCodes, execCode_LDR_sp hT2, execCode_STR_sp hT2,
            exec_ldr_slot c room, exec_str_slot c room, hsp', hps, hpt, hx]
        · rw [tempVal_spill]; simp
        · intro m _ hm _; simp [Ne.symm hm]
        · intro q _ hq hne
          have : σ.slotAddr pt ≠ σ.slotAddr q := by
            intro e; apply hne; rw [(slotAddr_inj hsp hpt hq).mp e]
          simp [this]
      | some w =>
        refine ⟨(σ.setReg xT2 (some w)).setSlot (σ.slotAddr pt) w, ?_, ?_, ⟨rfl, rfl, ?_, ?_⟩⟩
        · simp [mov, moveToRegister, moveFromRegister, TEMP2, execCodes, execCode_LDR_sp hT2, execCode_STR_sp hT2,
            exec_ldr_slot c room, exec_str_slot c room, hsp', hps, hpt, hx]
        · rw [tempVal_spill]; simp
        · intro m _ hm _; simp [Ne.symm hm]
        · intro q _ hq hne
          have : σ.slotAddr pt ≠ σ.slotAddr q := by
            intro e; apply hne; rw [(slotAddr_inj hsp hpt hq).mp e]
          simp [this]

/-- code.rs `load_immediate`: for EVERY 64-bit literal and both placements of the target, the
target afterwards holds the literal; only TEMP is used as scratch. -/
theorem loadImmediate_correct (c : MemCfg) (room : Nat) (σ : State) (hsp : SpOk c σ.sp room)
    (t : Temporary) (ht : t.isVar) (v : BitVec 64) :
    ∃ σ', execCodes c (loadImmediate t v.toInt) σ = .ok σ' ∧ σ'.tempVal t = some v ∧ Frame σ σ' t := by
  have hT : xreg 2 = some xT := xreg_TEMP
  cases t with
  | register treg =>
    cases treg with
    | x rt =>
      obtain ⟨hta, htb⟩ := isVar_reg ht
      obtain ⟨nt, hnt, _⟩ := xreg_var hta htb
      refine ⟨σ.wrX nt v, ?_, ?_, ⟨rfl, rfl, ?_, by intros; rfl⟩⟩
      · simp [loadImmediate, loadImmediateRegister_correct c rt nt hnt v σ]
      · rw [tempVal_reg hnt, wrX_eq_setReg]; simp
      · intro m _ _ hm
        have : nt ≠ m := by intro e; apply hm; simp [Temporary.archReg, hnt, e]
        rw [wrX_eq_setReg]; simp [this]
    | sp => simp [Temporary.isVar] at ht
    | xzr => simp [Temporary.isVar] at ht
  | spill pt =>
    obtain ⟨_, hpt⟩ := isVar_spill ht
    have hsp1 : SpOkS c room (σ.setReg xT (some v)) := hsp
    refine ⟨(σ.setReg xT (some v)).setSlot (σ.slotAddr pt) v, ?_, ?_, ⟨rfl, rfl, ?_, ?_⟩⟩
    · have h1 := loadImmediateRegister_correct c 2 xT hT v σ
      simp only [loadImmediate]
      have : (TEMP : Register) = .x 2 := rfl
      rw [this, execCodes_append c _ _ _ _ h1, wrX_eq_setReg]
      simp [execCodes, execCode_STR_sp hT, exec_str_slot c room, hsp1, hpt]
    · rw [tempVal_spill]; simp
    · intro m hm _ _; simp [Ne.symm hm]
    · intro q _ hq hne
      have : σ.slotAddr pt ≠ σ.slotAddr q := by
        intro e; apply hne; rw [(slotAddr_inj hsp hpt hq).mp e]
      simp [this]

/-- switch.rs emits `add(temp, temp, tag)`: with the tag in a REGISTER this adds the tag to the table
address in TEMP. -/
theorem switch_add_register (c : MemCfg) (σ : State) (r : Nat) (hr : (Temporary.register (.x r)).isVar)
    (n : Fin 31) (hn : xreg r = some n) (a b : Word) (ha : σ.reg xT = some a) (hb : σ.reg n = some b) :
    execCodes c (op .sum (.register TEMP) (.register TEMP) (.register (.x r))) σ =
      .ok (σ.setReg xT (some (a + b))) := by
  have hT : xreg 2 = some xT := xreg_TEMP
  simp [op, opR, TEMP, execCodes, execCode_ADD hT hT hn, exec_add_x, ha, hb]

/-- switch.rs `add(temp, temp, tag)` with the tag in a SPILL slot (the placement that was wrong before
repo commit 8e009b7): the tag is loaded into TEMP2 and added to the table address in TEMP. -/
theorem switch_add_spill (c : MemCfg) (room : Nat) (σ : State) (hsp : SpOk c σ.sp room)
    (p : Nat) (hp : (Temporary.spill p).isVar) (a b : Word)
    (ha : σ.reg xT = some a) (hb : σ.tempVal (.spill p) = some b) :
    execCodes c (op .sum (.register TEMP) (.register TEMP) (.spill p)) σ =
      .ok ((σ.setReg xT2 (some b)).setReg xT (some (a + b))) := by
  have hT : xreg 2 = some xT := xreg_TEMP
  have hT2 : xreg 3 = some xT2 := xreg_TEMP2
  have hsp' : SpOkS c room σ := hsp
  have hx : xT2 ≠ xT := by decide
  obtain ⟨_, hp'⟩ := isVar_spill hp
  rw [tempVal_spill] at hb
  simp [op, opR, TEMP, TEMP2, execCodes, execCode_LDR_sp hT2, execCode_ADD hT hT hT2, exec_ldr_slot c room, hsp', hp',
    exec_add_x, hb, ha, hx]

/-- DEFECT WITNESS for the code BEFORE repo commit 8e009b7 (`opOld`; case (Register(source_1),
Spill(source_2)) with source_1 = TEMP): the emitted code first loads the tag into TEMP — destroying
the table address — and then computes `tag + tag`. -/
theorem switch_add_spill_witness (c : MemCfg) (room : Nat) (σ : State) (hsp : SpOk c σ.sp room)
    (p : Nat) (hp : (Temporary.spill p).isVar) (a b : Word)
    (_ha : σ.reg xT = some a) (hb : σ.tempVal (.spill p) = some b) :
    execCodes c (opOld .sum (.register TEMP) (.register TEMP) (.spill p)) σ =
      .ok ((σ.setReg xT (some b)).setReg xT (some (b + b))) := by
  have hT : xreg 2 = some xT := xreg_TEMP
  have hsp' : SpOkS c room σ := hsp
  obtain ⟨_, hp'⟩ := isVar_spill hp
  rw [tempVal_spill] at hb
  simp [opOld, opR, TEMP, execCodes, execCode_LDR_sp hT, execCode_ADD hT hT hT, exec_ldr_slot c room, hsp', hp',
    exec_add_x, hb]

end Scc.A64
