/-
  Scc.A64.MemProofsFwd — block semantics with FORWARD local labels for the AArch64
  backend model, the semantics on which the memory contracts of memory.rs are stated.

  `execCodeC` = one backend instruction with its control outcome (fall through / jump to a label):
  `B l` and the conditional branches `BEQ … BGE` exactly as the machine's `step` executes them
  (Machine.lean), everything else through `execCode` (Exec.lean).  `execFwd` runs a block: a jump to a
  label defined further down in the same block continues there; a jump to any other label leaves the
  block.  All jumps emitted by memory.rs are forward jumps to fresh labels (`labName_inj`), which is
  what the machine's `runLoop` does with them when labels are unique in the text (C14).
  Also: the shapes of the two combinators `skip_if_zero` / `if_zero_then_else`.
-/
import Scc.A64.MoveLemmas
import Scc.Backend.ProofsGen
import Scc.Mem.Code
import Std.Data.String.ToNat

namespace Scc.A64

open Scc.Backend (GenM freshLabel TempNum)

inductive Ctl where
  | next
  | jump (l : String)
  deriving DecidableEq, Repr

/-- one backend instruction with its control outcome: `B`, `B.cond` as in the machine's `step`,
everything else falls through (`execCode`) -/
def execCodeC (c : MemCfg) (code : Code) (σ : State) : Except Fault (State × Ctl) :=
  match code.toInstr with
  | some (.b l) => .ok (σ, .jump l)
  | some (.bcond cd l) =>
    match σ.flags with
    | none => .error "read-undefined flags"
    | some (a, b) => .ok (σ, if cd.holds a b then .jump l else .next)
  | _ =>
    match execCode c code σ with
    | .ok σ' => .ok (σ', .next)
    | .error e => .error e

/-- `execCodeC` agrees with the machine's `step` on `B` / `B.cond` (the target is looked up in the
program there) and on every non-branching instruction -/
theorem execCodeC_step_exec (p : Prog) (c : MemCfg) (code : Code) (i : Instr) (σ σ' : State) (pc : Nat)
    (hi : code.toInstr = some i) (hx : execCodeC c code σ = .ok (σ', .next))
    (hb : ∀ l, i ≠ .bl l) (hbr : ∀ r, i ≠ .br r) (hadr : ∀ d l, i ≠ .adr d l) (hret : i ≠ .ret) :
    step p c i σ pc = .next σ' (pc + 1) := by
  unfold execCodeC at hx
  rw [hi] at hx
  cases i <;> simp only [] at hx
  case b l => cases hx
  case bcond cd l =>
    cases hf : σ.flags with
    | none => simp [hf] at hx
    | some ab =>
      obtain ⟨a, b⟩ := ab
      simp only [hf] at hx
      by_cases hh : cd.holds a b
      · simp [hh] at hx
      · simp only [hh, Bool.false_eq_true, if_false, Except.ok.injEq, Prod.mk.injEq, and_true] at hx
        subst hx
        simp [step, hf, hh]
  case bl l => exact absurd rfl (hb l)
  case br r => exact absurd rfl (hbr r)
  case adr d l => exact absurd rfl (hadr d l)
  case ret => exact absurd rfl hret
  all_goals
    rw [execCode_of_toInstr σ hi] at hx
    simp only [step]
    split at hx
    · rename_i σ1 h1
      simp only [Except.ok.injEq, Prod.mk.injEq, and_true] at hx
      subst hx
      rw [h1]
    · cases hx

/-- the code after the first definition of label `l` -/
def skipTo (l : String) : List Code → Option (List Code)
  | [] => none
  | c :: cs =>
    match c with
    | .LAB l' => if l' = l then some cs else skipTo l cs
    | _ => skipTo l cs

theorem skipTo_length {l : String} : ∀ {cs r : List Code}, skipTo l cs = some r → r.length < cs.length
  | [], _, h => by simp [skipTo] at h
  | c :: cs, r, h => by
    cases c <;> simp only [skipTo] at h
    case LAB l' =>
      split at h
      · injection h with h; subst h; simp
      · have := skipTo_length h; simp; omega
    all_goals (have := skipTo_length h; simp; omega)

/-- execution of a block: fall-through instructions in sequence; a jump to a label defined further
down in the block continues there; a jump to a foreign label ends the block with that control -/
def execFwd (c : MemCfg) (code : List Code) (σ : State) : Except Fault (State × Ctl) :=
  match code with
  | [] => .ok (σ, .next)
  | cd :: cs =>
    match execCodeC c cd σ with
    | .error e => .error e
    | .ok (σ1, .next) => execFwd c cs σ1
    | .ok (σ1, .jump l) =>
      match _h : skipTo l cs with
      | some rest => execFwd c rest σ1
      | none => .ok (σ1, .jump l)
termination_by code.length
decreasing_by
  · simp
  · have := skipTo_length _h; simp; omega

theorem skipTo_append (l : String) (b : List Code) : ∀ (a : List Code),
    skipTo l (a ++ b) = match skipTo l a with
      | some r => some (r ++ b)
      | none => skipTo l b
  | [] => by simp [skipTo]
  | c :: cs => by
    cases c <;> simp only [List.cons_append, skipTo, skipTo_append l b cs]
    case LAB l' => split <;> simp

section Fwd
variable (c : MemCfg)

/-- how the continuation of a block is entered -/
def contFwd (b : List Code) : Except Fault (State × Ctl) → Except Fault (State × Ctl)
  | .error e => .error e
  | .ok (σ', .next) => execFwd c b σ'
  | .ok (σ', .jump l) =>
    match skipTo l b with
    | some rest => execFwd c rest σ'
    | none => .ok (σ', .jump l)

theorem execFwd_nil (σ : State) : execFwd c [] σ = .ok (σ, .next) := by
  rw [execFwd]

theorem execFwd_cons (cd : Code) (cs : List Code) (σ : State) :
    execFwd c (cd :: cs) σ = contFwd c cs (execCodeC c cd σ) := by
  rw [execFwd]
  cases h : execCodeC c cd σ with
  | error e => simp [contFwd]
  | ok r =>
    obtain ⟨σ1, n⟩ := r
    cases n with
    | next => simp [contFwd]
    | jump l =>
      simp only [contFwd]
      split <;> rename_i h2 <;> simp [h2]

theorem execFwd_append (b : List Code) : ∀ (n : Nat) (a : List Code) (σ : State), a.length ≤ n →
    execFwd c (a ++ b) σ = contFwd c b (execFwd c a σ) := by
  intro n
  induction n with
  | zero =>
    intro a σ h
    have : a = [] := List.eq_nil_of_length_eq_zero (Nat.le_zero.mp h)
    subst this
    simp [execFwd_nil, contFwd]
  | succ n ih =>
    intro a σ h
    cases a with
    | nil => simp [execFwd_nil, contFwd]
    | cons cd cs =>
      have hcs : cs.length ≤ n := by simpa using h
      rw [List.cons_append, execFwd_cons, execFwd_cons]
      cases hex : execCodeC c cd σ with
      | error e => simp [contFwd]
      | ok r =>
        obtain ⟨σ1, nx⟩ := r
        cases nx with
        | next => simp only [contFwd]; exact ih cs σ1 hcs
        | jump l =>
          simp only [contFwd, skipTo_append]
          cases hsk : skipTo l cs with
          | none => simp
          | some r =>
            have := skipTo_length hsk
            simp only
            exact ih r σ1 (by omega)

theorem execFwd_seq {a b : List Code} {σ σ1 : State} {r : Except Fault (State × Ctl)}
    (ha : execFwd c a σ = .ok (σ1, .next)) (hb : execFwd c b σ1 = r) : execFwd c (a ++ b) σ = r := by
  rw [execFwd_append c b a.length a σ (Nat.le_refl _), ha]
  simpa only [contFwd] using hb

/-- straight-line code (`execCodes`: no branch instruction) is a block that falls through -/
theorem execFwd_of_execCodes : ∀ (codes : List Code) (σ σ' : State),
    (∀ cd ∈ codes, ∀ l, cd.toInstr ≠ some (.b l)) → (∀ cd ∈ codes, ∀ cc l, cd.toInstr ≠ some (.bcond cc l)) →
    execCodes c codes σ = .ok σ' → execFwd c codes σ = .ok (σ', .next)
  | [], σ, σ', _, _, h => by
    simp only [execCodes, Except.ok.injEq] at h; subst h; exact execFwd_nil c σ
  | cd :: cs, σ, σ', h1, h2, h => by
    simp only [execCodes] at h
    rw [execFwd_cons]
    cases hx : execCode c cd σ with
    | error e => simp [hx] at h
    | ok σ1 =>
      simp only [hx] at h
      have : execCodeC c cd σ = .ok (σ1, .next) := by
        unfold execCodeC
        have a1 := h1 cd (by simp)
        have a2 := h2 cd (by simp)
        split
        · rename_i l e; exact absurd e (a1 l)
        · rename_i cc l e; exact absurd e (a2 cc l)
        · rw [hx]
      rw [this]
      simp only [contFwd]
      exact execFwd_of_execCodes cs σ1 σ' (fun x hx => h1 x (by simp [hx])) (fun x hx => h2 x (by simp [hx])) h

end Fwd

/-- the name of fresh label number `n` (memory.rs: `format!("lab{}", fresh_label())`) -/
def labName (n : Nat) : String := "lab" ++ toString n

theorem labName_inj {m n : Nat} : labName m = labName n ↔ m = n := Scc.Backend.lab_toString_inj

theorem skipIfZero_run (condition : Register) (toSkip : List Code) (k : Nat) :
    (skipIfZero condition toSkip).run k =
      .ok ([.CMPI condition 0, .BEQ (labName (k + 1))] ++ toSkip ++ [.LAB (labName (k + 1))], k + 1) := rfl

theorem ifZeroThenElse_run (condition : Register) (thenBranch elseBranch : List Code) (k : Nat) :
    (ifZeroThenElse condition thenBranch elseBranch).run k =
      .ok ([.CMPI condition 0, .BEQ (labName (k + 1))] ++ elseBranch ++
        [.B (labName (k + 2)), .LAB (labName (k + 1))] ++ thenBranch ++ [.LAB (labName (k + 2))], k + 2) := rfl

def LabsIn (code : List Code) (lo hi : Nat) : Prop :=
  ∀ l, Code.LAB l ∈ code → ∃ n, l = labName n ∧ lo < n ∧ n ≤ hi

/-- no label is defined in the code (`Scc.Mem.NoLab` at `Code.LAB`: `noLab_iff`; `Scc.A64.CC.NoLab` of
CCProofsRun.lean says the same through `isLab`) -/
def NoLab (code : List Code) : Prop := ∀ l, Code.LAB l ∉ code

theorem labsIn_iff {code : List Code} {lo hi : Nat} : LabsIn code lo hi ↔ Scc.Mem.LabsIn Code.LAB code lo hi :=
  Iff.rfl

theorem noLab_iff {code : List Code} : NoLab code ↔ Scc.Mem.NoLab Code.LAB code := Iff.rfl

theorem skipTo_none_of_not_mem {l : String} : ∀ {code : List Code}, Code.LAB l ∉ code → skipTo l code = none
  | [], _ => rfl
  | cd :: cs, h => by
    have h1 : cd ≠ Code.LAB l := fun e => h (by simp [e])
    have h2 : Code.LAB l ∉ cs := fun e => h (by simp [e])
    cases cd <;> simp only [skipTo] <;> try exact skipTo_none_of_not_mem h2
    case LAB l' =>
      have : l' ≠ l := fun e => h1 (by rw [e])
      rw [if_neg this]
      exact skipTo_none_of_not_mem h2

theorem LabsIn.skipTo_none {code : List Code} {lo hi n : Nat} (L : LabsIn code lo hi)
    (hn : n ≤ lo ∨ hi < n) : skipTo (labName n) code = none := by
  apply skipTo_none_of_not_mem
  intro hm
  obtain ⟨m, e, h1, h2⟩ := L _ hm
  have := labName_inj.1 e
  omega

theorem LabsIn.nil (lo hi : Nat) : LabsIn [] lo hi := labsIn_iff.2 (Scc.Mem.NoLab.nil.labsIn lo hi)

theorem LabsIn.append {a b : List Code} {lo hi : Nat} (ha : LabsIn a lo hi) (hb : LabsIn b lo hi) :
    LabsIn (a ++ b) lo hi := labsIn_iff.2 ((labsIn_iff.1 ha).append (labsIn_iff.1 hb))

theorem LabsIn.mono {a : List Code} {lo hi lo' hi' : Nat} (ha : LabsIn a lo hi) (h1 : lo' ≤ lo)
    (h2 : hi ≤ hi') : LabsIn a lo' hi' := labsIn_iff.2 ((labsIn_iff.1 ha).mono h1 h2)

theorem NoLab.append {a b : List Code} (ha : NoLab a) (hb : NoLab b) : NoLab (a ++ b) :=
  noLab_iff.2 ((noLab_iff.1 ha).append (noLab_iff.1 hb))

theorem NoLab.labsIn {a : List Code} (h : NoLab a) (lo hi : Nat) : LabsIn a lo hi :=
  labsIn_iff.2 ((noLab_iff.1 h).labsIn lo hi)

theorem LabsIn.of_noLab {a : List Code} (lo hi : Nat) (h : ∀ l, Code.LAB l ∉ a) : LabsIn a lo hi :=
  NoLab.labsIn h lo hi

theorem LabsIn.cons_lab {a : List Code} {lo hi n : Nat} (ha : LabsIn a lo hi) (h1 : lo < n) (h2 : n ≤ hi) :
    LabsIn (.LAB (labName n) :: a) lo hi := labsIn_iff.2 ((labsIn_iff.1 ha).cons_lab Code.LAB.inj h1 h2)

theorem LabsIn.cons_other {a : List Code} {lo hi : Nat} {cd : Code} (ha : LabsIn a lo hi)
    (h : ∀ l, cd ≠ .LAB l) : LabsIn (cd :: a) lo hi := labsIn_iff.2 ((labsIn_iff.1 ha).cons_other h)

theorem noLab_nil : NoLab [] := noLab_iff.2 Scc.Mem.NoLab.nil

end Scc.A64
