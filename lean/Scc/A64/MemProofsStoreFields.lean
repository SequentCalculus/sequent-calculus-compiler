/-
  Scc.A64.MemProofsStoreFields — the contract of `store` (memory.rs Memory::store) for the AArch64 backend:
  the contracts of the leaves `store_field`, `store_zero`, `acquire_block`, "mark no allocation" as a
  `Scc.Mem.StoreSpec` over the view machine `memView` (`memSpec`), and `store_contract` on the machine from
  the backend-independent `Scc.Mem.StoreSpec.storeFields_does`.
-/
import Scc.A64.MemProofsStore
import Scc.Mem.Store

namespace Scc.A64

open Scc.AxCut
open Scc.Backend (GenM TempNum freshLabel)

/-- the contracts of the leaves of `store`: the scratch registers are TEMP (X2) and TEMP2 (X3),
`acquire_block` changes its target -/
def memSpec {c : MemCfg} (C : HeapCfgOK c) : Scc.Mem.StoreSpec (memView c) Mem.memCode where
  reg := fun r => .register (.x r)
  scratch := fun u => u = .register (.x 2) ∨ u = .register (.x 3)
  freeT := .register (.x 1)
  clob := fun m u => u = posTemp m
  runs_comment := mFwd_comment c
  reg_keep := fun hr e => e.elim (fun e => hr.2.1 (by simpa using e)) (fun e => hr.2.2 (by simpa using e))
  pos_keep := fun h e => e.elim (posTemp_ne_low h).2.2.1 (posTemp_ne_low h).2.2.2
  pos_ne_heap := fun h => (posTemp_ne_low h).1
  pos_ne_free := fun h => (posTemp_ne_low h).2.1
  clob_self := fun _ => rfl
  clob_pos := fun h _ e => by have := posTemp_inj.1 e; omega
  rel_heap := fun H => H.heap
  stF_does := fun {μ s s' m v r b num off} H hm hv hr hvb ho hwr => by
    obtain ⟨b1, b2⟩ := heapFieldOffset_bounds num.toNat off (by cases num <;> decide) ho
    obtain ⟨μ', x, H', F⟩ := m_storeFieldCode C H (isVar_posTemp hm) hv hr.1 hr.2.1 hvb b1 b2 hwr
    rw [← fieldOffset_nat] at x
    exact ⟨μ', x, H', fun u hu => F u (fun e => hu (Or.inl e)), trivial⟩
  stZ_does := fun {μ s s' r b off} H hr hvb ho hwr => by
    obtain ⟨μ', x, H', F⟩ := m_storeZero C H hr.1 hvb ho hwr
    exact ⟨μ', x, H', fun u _ => congrFun F u, trivial⟩
  acq_does := fun {μ s s' m new} k H hm hop => by
    obtain ⟨code, hr, -, μ', x, H', hw, F⟩ := m_acquire C H (isVar_posTemp (n := m) (Nat.lt_of_succ_lt hm)) hop k
    rw [Mem.acquireBlock_run] at hr
    cases hr
    exact ⟨μ', x, H', fun u hu => F u hu.2.2.2 hu.2.1 hu.2.2.1 (fun e => hu.1 (Or.inl e)) (fun e => hu.1 (Or.inr e)), hw⟩
  zero_does := fun {μ s m} H hm => by
    obtain ⟨n0, n1, -, -⟩ := posTemp_ne_low hm
    obtain ⟨μ', x, hv, hh, F⟩ := m_loadImmediate0 (c := c) (μ := μ) (isVar_posTemp hm)
    obtain ⟨wh, hwh, ewh⟩ := H.heap
    obtain ⟨wf, hwf, ewf⟩ := H.free
    refine ⟨μ', x, ⟨H.base, H.limit, fun a => by rw [hh]; exact H.mem a,
      ⟨wh, by rw [F _ (Ne.symm n0) (reg_ne (by decide))]; exact hwh, ewh⟩,
      ⟨wf, by rw [F _ (Ne.symm n1) (reg_ne (by decide))]; exact hwf, ewf⟩⟩,
      fun u hu => F u hu.2 (fun e => hu.1 (Or.inl e)), hv⟩

theorem envFields_iff {c : MemCfg} (C : HeapCfgOK c) {μ : MState} {n : Nat} {Γ : Ctx} {fs : List Scc.Heap.Field} :
    EnvFields μ n Γ fs ↔ Scc.Mem.EnvFields ((memSpec C).slot μ) n Γ fs := envFields_slots

theorem memCode_counts : Mem.memCode.Counts (fun a b code => a ≤ b ∧ Scc.Mem.LabsIn Code.LAB code a b) :=
  Scc.Mem.StoreCode.counts_labsIn (fun _ _ h => by cases h)
    (fun t r num off => noLab_iff.1 (noLab_storeFieldCode t (.x r) (fieldOffset num.toNat off)))
    (fun _ _ => noLab_iff.1 (noLab_storeZero _ _))
    (fun m k => labsIn_iff.1 (labsIn_acquireBlockC (posTemp m) k))
    (fun _ => noLab_iff.1 (noLab_loadImmediate0 _))

/-- CONTRACT of `store` (memory.rs Memory::store) on the AArch64 machine, for ANY number of fields and
EVERY placement: the variables `toStore` (context positions `|rem| …`, holding the model fields `fs`) are
stored as one object — one block for up to `FIELDS_PER_BLOCK` fields, otherwise a chain of linked blocks,
each block taken by `acquire_block` — exactly as `Scc.Heap.storeObj` does on the abstract heap; the first
temporary of position `|rem|` ends up holding the object pointer.  Changed besides HEAP, FREE, TEMP, TEMP2,
the flags and the heap: only first temporaries of positions from `|rem|` on (the `acquire_block` targets).
The proof is the backend-independent `Scc.Mem.StoreSpec.storeFields_does` at the leaves `memSpec`. -/
theorem store_contract {c : MemCfg} {room : Nat} {σ : State} (h8 : c.heapBase % 8 = 0)
    (B : SpOk c σ.sp room) {h h' : Scc.Heap.HState} (R : HeapRel c σ h)
    {toStore rem : Ctx} {fs : List Scc.Heap.Field} (hcap : 2 * (rem.length + toStore.length) ≤ 280)
    (hE : EnvFields (mview σ) rem.length toStore fs) {ptr : Nat}
    (hop : Scc.Heap.storeObj h fs = .ok (h', ptr)) (k : Nat) :
    ∃ code k', (store toStore rem).run k = .ok (code, k') ∧ k ≤ k' ∧ LabsIn code k k' ∧
      ∃ σ', execFwd c code σ = .ok (σ', .next) ∧ SpOk c σ'.sp room ∧ HeapRel c σ' h' ∧
        (∃ w, σ'.tempVal (posTemp (2 * rem.length)) = some w ∧ w.toNat = ptr) ∧
        FrameT σ σ' (fun u => u = .register HEAP ∨ u = .register FREE ∨ u = .register TEMP ∨
          u = .register TEMP2 ∨ ∃ j, u = posTemp (2 * (rem.length + j))) := by
  have C := heapCfgOK_of_spOk h8 B
  obtain ⟨hk, hl⟩ := memCode_counts.storeFieldsC (toStore.length + 1) toStore rem.length .last k
  obtain ⟨μ', hx, H', hfr, w, hw, ew⟩ := (memSpec C).storeFields_does
    (toStore.length + 1) toStore rem.length .last fs 0 (mview σ) h h' ptr k (Nat.lt_succ_self _)
    (heapRel_mview R) ((envFields_iff C).1 hE) (by show _ ≤ 281; omega) (by show 2 * rem.length < 281; omega)
    (fun e => by cases e) hop
  obtain ⟨σ', e, B', M', F⟩ := m_to_machine B hx
    (changed := fun u => u = .register HEAP ∨ u = .register FREE ∨ u = .register TEMP ∨
      u = .register TEMP2 ∨ ∃ j, u = posTemp (2 * (rem.length + j)))
    (fun u hu => hfr u ⟨fun e => e.elim (fun e => hu (Or.inr (Or.inr (Or.inl e))))
        (fun e => hu (Or.inr (Or.inr (Or.inr (Or.inl e))))),
      fun e => hu (Or.inl e), fun e => hu (Or.inr (Or.inl e)),
      fun j _ e => hu (Or.inr (Or.inr (Or.inr (Or.inr ⟨j, e⟩))))⟩)
  have hok : OpndOK (posTemp (2 * rem.length)) := isVar_opndOK (isVar_posTemp (by omega))
  exact ⟨_, _, Mem.store_run toStore rem k (by omega), hk, labsIn_iff.2 hl, σ', e, B', heapRel_of_mrep M' H',
    ⟨w, by rw [M'.vals _ hok]; exact hw, ew⟩, F⟩

end Scc.A64
