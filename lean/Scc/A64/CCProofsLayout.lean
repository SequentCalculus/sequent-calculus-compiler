/-
  Scc.A64.CCProofsLayout — property C13, AArch64: the LOADER of the machine (`layout`, Machine.lean) on
  the lines of a routine.  `Lines hkv ls routine`: the parsed lines `ls` are the routine instruction by
  instruction — an instruction parses to the machine instruction `Code.toInstr`, a label to a label line,
  `.text` / `.global` to directives, a comment to a plain comment or (as the parser decides, `hkv`) to a
  `#ctx` hook — with blank lines anywhere (the printer puts one before every label).
  `holds_layout`: then `layout ls` holds the routine in the sense of `Holds` (CCProofsRun.lean): item
  indices are item counts, labels resolve to the item count before their first definition.
  `cc_safe_layout`, `cc_safe_run`: the dynamic theorem for `runProg (layout ls)` and for `run text`.
-/
import Scc.A64.CCProofsRun

set_option linter.unusedSimpArgs false

namespace Scc.A64.CC

/-- the step function of `layout` (Machine.lean); the same function as `Scc.A64.layoutStep` of
    Scc/A64/MemProofsLayout.lean, which has its own fold lemmas -/
def layStep (acc : LayoutAcc) (x : Nat × PLine) : LayoutAcc :=
  match x with
  | (ln, p) =>
    match p with
    | .blank | .comment | .directive => acc
    | .label l =>
      { acc with
        labels := if acc.labels.contains l then acc.labels else acc.labels.insert l acc.items.size,
        entry := some acc.items.size }
    | .hook vs =>
      { acc with
        items := acc.items.push (.hook vs), lines := acc.lines.push ln, offs := acc.offs.push acc.off,
        entry := match acc.entry with | some e => some e | none => some acc.items.size }
    | .instr i =>
      { acc with
        items := acc.items.push (.instr i), lines := acc.lines.push ln, offs := acc.offs.push acc.off,
        entries := acc.entries.insert acc.off (acc.entry.getD acc.items.size),
        off := acc.off + 4, entry := none }

theorem layout_items' (ls : List (Nat × PLine)) : (layout ls).items = (ls.foldl layStep {}).items := rfl
theorem layout_labels' (ls : List (Nat × PLine)) : (layout ls).labels = (ls.foldl layStep {}).labels := rfl

/-- the item a line is laid out as -/
def itemOfLine : PLine → Option Item
  | .hook vs => some (.hook vs)
  | .instr i => some (.instr i)
  | _ => none

theorem layStep_items (acc : LayoutAcc) (ln : Nat) (pl : PLine) :
    (layStep acc (ln, pl)).items.toList = acc.items.toList ++ (itemOfLine pl).toList := by
  cases pl <;> simp [layStep, itemOfLine]

/-- the label table entry of `l` after laying out the line `pl` -/
def labUpd (acc : LayoutAcc) (l : String) : PLine → Option Nat
  | .label l' => if l' = l then (acc.labels[l]?).or (some acc.items.size) else acc.labels[l]?
  | _ => acc.labels[l]?

theorem layStep_labels (acc : LayoutAcc) (ln : Nat) (pl : PLine) (l : String) :
    (layStep acc (ln, pl)).labels[l]? = labUpd acc l pl := by
  cases pl <;> try rfl
  rename_i l'
  simp only [layStep, labUpd]
  by_cases hc : acc.labels.contains l' = true
  · rw [if_pos hc]
    by_cases hl : l' = l
    · subst hl
      rw [if_pos rfl]
      have : ∃ i, acc.labels[l']? = some i := by
        rw [Std.HashMap.contains_eq_isSome_getElem?] at hc
        exact Option.isSome_iff_exists.1 hc
      obtain ⟨i, hi⟩ := this
      simp [hi]
    · rw [if_neg hl]
  · rw [if_neg hc]
    by_cases hl : l' = l
    · subst hl
      rw [if_pos rfl]
      have hnone : acc.labels[l']? = none := by
        rw [Std.HashMap.contains_eq_isSome_getElem?] at hc
        simpa using hc
      simp [hnone]
    · rw [if_neg hl, Std.HashMap.getElem?_insert]
      simp [hl]

theorem labUpd_other (acc : LayoutAcc) (l : String) {pl : PLine} (h : ∀ l', pl = .label l' → l' ≠ l) :
    labUpd acc l pl = acc.labels[l]? := by
  cases pl <;> try rfl
  rename_i l'
  simp [labUpd, h l' rfl]

/-! ## the lines of a routine -/

section
variable (hkv : String → Option (List (String × Kind)))

/-- the line a backend instruction is parsed to (`none`: a register that does not exist) -/
def lineOf : Code → Option PLine
  | .LAB l => some (.label l)
  | .TEXT => some .directive
  | .GLOBAL _ => some .directive
  | .COMMENT m => some (match hkv m with | some vs => .hook vs | none => .comment)
  | c => c.toInstr.map PLine.instr

/-- the comments that become hook items -/
def hkOf : Code → Bool
  | .COMMENT m => (hkv m).isSome
  | _ => false

/-- the item a backend instruction is laid out as -/
def itemOfCode (c : Code) : Option Item := (lineOf hkv c).bind itemOfLine

/-- the parsed lines are the routine, instruction by instruction, up to blank lines -/
inductive Lines : List (Nat × PLine) → List Code → Prop where
  | nil : Lines [] []
  | blank (ln : Nat) {ls : List (Nat × PLine)} {R : List Code} : Lines ls R → Lines ((ln, .blank) :: ls) R
  | code (ln : Nat) {c : Code} {pl : PLine} {ls : List (Nat × PLine)} {R : List Code} :
      lineOf hkv c = some pl → Lines ls R → Lines ((ln, pl) :: ls) (c :: R)

variable {hkv}

theorem firstLab_shift (l : String) : ∀ (R : List Code) (k : Nat),
    firstLab l R (k + 1) = (firstLab l R k).map (· + 1)
  | [], _ => rfl
  | c :: R, k => by
    simp only [firstLab]
    split
    · rfl
    · exact firstLab_shift l R (k + 1)

theorem lineOf_label {c : Code} {l : String} (h : lineOf hkv c = some (.label l)) : c = .LAB l := by
  cases c <;> simp only [lineOf, Option.some.injEq, Option.map_eq_some_iff] at h
  case LAB l' => cases h; rfl
  case COMMENT m => split at h <;> cases h
  all_goals first
    | (cases h; done)
    | (obtain ⟨i, _, h⟩ := h; cases h)

theorem lineOf_notBlank {c : Code} (h : lineOf hkv c = some .blank) : False := by
  cases c <;> simp only [lineOf, Option.some.injEq, Option.map_eq_some_iff] at h
  case COMMENT m => split at h <;> cases h
  all_goals first
    | (cases h; done)
    | (obtain ⟨i, _, h⟩ := h; cases h)

/-- THE FOLD OF `layout` over the lines of a code list -/
theorem fold_lines {ls : List (Nat × PLine)} {R : List Code} (h : Lines hkv ls R) :
    ∀ acc : LayoutAcc,
      (ls.foldl layStep acc).items.toList = acc.items.toList ++ R.filterMap (itemOfCode hkv) ∧
      ∀ l, (ls.foldl layStep acc).labels[l]? =
        (acc.labels[l]?).or ((firstLab l R 0).map fun k =>
          acc.items.size + ((R.take k).filterMap (itemOfCode hkv)).length) := by
  induction h with
  | nil => intro acc; simp [firstLab]
  | blank ln _ ih =>
    intro acc
    rw [List.foldl_cons]
    exact ih acc
  | @code ln c pl ls R hl _ ih =>
    intro acc
    rw [List.foldl_cons]
    obtain ⟨ih1, ih2⟩ := ih (layStep acc (ln, pl))
    have hitem : itemOfCode hkv c = itemOfLine pl := by simp [itemOfCode, hl]
    have hsize : (layStep acc (ln, pl)).items.size = acc.items.size + (itemOfLine pl).toList.length := by
      have := congrArg List.length (layStep_items acc ln pl)
      simpa using this
    refine ⟨?_, ?_⟩
    · rw [ih1, layStep_items, List.filterMap_cons, hitem]
      cases itemOfLine pl <;> simp
    · intro l
      rw [ih2 l, layStep_labels, hsize]
      simp only [firstLab]
      by_cases hc : c = Code.LAB l
      · subst hc
        simp only [lineOf, Option.some.injEq] at hl
        subst hl
        simp only [if_true, labUpd]
        cases acc.labels[l]? <;> simp
      · rw [if_neg hc, firstLab_shift]
        have hother : ∀ l', pl = .label l' → l' ≠ l := by
          intro l' hpl e
          rw [hpl] at hl
          have hcl : c = Code.LAB l' := lineOf_label hl
          exact hc (by rw [hcl, e])
        rw [labUpd_other acc l hother]
        congr 1
        rw [Option.map_map]
        congr 1
        funext k
        simp only [Function.comp, List.take_succ_cons, List.filterMap_cons, hitem]
        cases itemOfLine pl <;> simp <;> omega

theorem filterMap_take_get {α β : Type} (f : α → Option β) : ∀ (xs : List α) (j : Nat) (a : α) (b : β),
    xs[j]? = some a → f a = some b → (xs.filterMap f)[((xs.take j).filterMap f).length]? = some b
  | [], _, _, _, h, _ => by simp at h
  | x :: xs, 0, a, b, h, hb => by
    simp only [List.getElem?_cons_zero, Option.some.injEq] at h; subst h
    simp [List.filterMap_cons, hb]
  | x :: xs, j + 1, a, b, h, hb => by
    have ih := filterMap_take_get f xs j a b (by simpa using h) hb
    rw [List.take_succ_cons, List.filterMap_cons, List.filterMap_cons]
    cases f x with
    | none => simpa using ih
    | some y => simpa using ih

theorem lines_hasLine {ls : List (Nat × PLine)} {R : List Code} (h : Lines hkv ls R) :
    ∀ c ∈ R, ∃ pl, lineOf hkv c = some pl := by
  induction h with
  | nil => intro c hc; simp at hc
  | blank _ _ ih => exact ih
  | code ln hl _ ih =>
    intro c hc
    simp only [List.mem_cons] at hc
    rcases hc with rfl | hc
    · exact ⟨_, hl⟩
    · exact ih c hc

theorem itemOfCode_isSome {c : Code} {pl : PLine} (hl : lineOf hkv c = some pl) :
    (itemOfCode hkv c).isSome = isItem (hkOf hkv) c := by
  cases c <;> simp only [lineOf, Option.some.injEq, Option.map_eq_some_iff] at hl
  case LAB l => subst hl; rfl
  case TEXT => subst hl; rfl
  case GLOBAL l => subst hl; rfl
  case COMMENT m =>
    subst hl
    simp only [itemOfCode, lineOf, Option.bind_some, isItem, hkOf, Code.isMeta, Bool.not_true, Bool.false_or]
    cases hkv m <;> rfl
  all_goals
    obtain ⟨i, hi, rfl⟩ := hl
    simp [itemOfCode, lineOf, hi, itemOfLine, isItem, Code.isMeta]

theorem icnt_eq {R : List Code} (hR : ∀ c ∈ R, ∃ pl, lineOf hkv c = some pl) :
    icnt (hkOf hkv) R = (R.filterMap (itemOfCode hkv)).length := by
  induction R with
  | nil => rfl
  | cons c R ih =>
    obtain ⟨pl, hl⟩ := hR c (by simp)
    have h1 := itemOfCode_isSome hl
    have ih' := ih (fun c' hc' => hR c' (by simp [hc']))
    unfold icnt at ih' ⊢
    rw [List.filter_cons, List.filterMap_cons]
    cases hi : itemOfCode hkv c with
    | none =>
      rw [hi] at h1
      have : isItem (hkOf hkv) c = false := by simpa using h1.symm
      simp [this, ih']
    | some it =>
      rw [hi] at h1
      have : isItem (hkOf hkv) c = true := by simpa using h1.symm
      simp [this, ih']

/-- THE LOADER: `layout` of the lines of a routine holds the routine -/
theorem holds_layout {ls : List (Nat × PLine)} {routine : List Code} (h : Lines hkv ls routine) :
    Holds (hkOf hkv) (layout ls) routine := by
  obtain ⟨f1, f2⟩ := fold_lines h {}
  have hall := lines_hasLine h
  have hcnt : ∀ k, icnt (hkOf hkv) (routine.take k) = ((routine.take k).filterMap (itemOfCode hkv)).length :=
    fun k => icnt_eq fun c hc => hall c (List.mem_of_mem_take hc)
  have hitems : ∀ j : Nat, (layout ls).items[j]? = (routine.filterMap (itemOfCode hkv))[j]? := by
    intro j
    rw [layout_items', ← Array.getElem?_toList, f1]
    simp
  refine ⟨?_, ?_, ?_, ?_⟩
  · intro c hc
    cases c <;> simp [hkOf] at hc
    exact ⟨_, rfl⟩
  · intro k c hc hm
    obtain ⟨pl, hl⟩ := hall c (List.mem_of_getElem? hc)
    have hpl : ∃ i, c.toInstr = some i ∧ pl = .instr i := by
      cases c <;> simp only [lineOf, Option.some.injEq, Option.map_eq_some_iff] at hl <;>
        first
          | (simp [Code.isMeta] at hm; done)
          | (obtain ⟨i, hi, rfl⟩ := hl; exact ⟨i, hi, rfl⟩)
    obtain ⟨i, hti, rfl⟩ := hpl
    refine ⟨i, hti, ?_⟩
    rw [hitems, hcnt]
    exact filterMap_take_get _ routine k c _ hc (by simp [itemOfCode, hl, itemOfLine])
  · intro k c hc hh
    cases c <;> simp [hkOf] at hh
    rename_i m
    obtain ⟨vs, hvs⟩ := Option.isSome_iff_exists.1 hh
    refine ⟨vs, ?_⟩
    rw [hitems, hcnt]
    exact filterMap_take_get _ routine k _ _ hc (by simp [itemOfCode, lineOf, hvs, itemOfLine])
  · intro l
    rw [layout_labels', f2 l]
    simp only [Std.HashMap.getElem?_empty, Option.none_or]
    congr 1
    funext k
    simp [hcnt]

end

/-! ## the dynamic theorem on laid-out lines and on the text -/

/-- `cc_safe_prog` (C13, the dynamic half, integer programs) on the program laid out from the lines of the routine -/
theorem cc_safe_layout {p : AxCut.Prog} (hp : Scc.Backend.Shape.IntProgC p) {hooks : Bool} {c0 : Nat}
    {body routine : List Code} {nargs : Nat}
    (hc : compileProg a64Backend p hooks c0 = .ok (body, nargs, routine)) (cfg : MonCfg) (H : CfgCC cfg.mem)
    (hkv : String → Option (List (String × Kind))) (ls : List (Nat × PLine)) (hl : Lines hkv ls routine)
    (args : List Word) (fuel : Nat) :
    CCSafe (runProg (layout ls) args fuel cfg).res :=
  cc_safe_prog hp hc H (holds_layout hl) args fuel

/-- the same on the machine's entry point `run`, for any text that parses to the lines of the routine
    (monitor `wf` off: with it, a text that is not well-formed is reported as a fault at line 0) -/
theorem cc_safe_run {p : AxCut.Prog} (hp : Scc.Backend.Shape.IntProgC p) {hooks : Bool} {c0 : Nat}
    {body routine : List Code} {nargs : Nat}
    (hc : compileProg a64Backend p hooks c0 = .ok (body, nargs, routine)) (cfg : MonCfg) (H : CfgCC cfg.mem)
    (hwf : cfg.wf = false) (hkv : String → Option (List (String × Kind))) {text : String}
    {ls : List (Nat × PLine)} (hparse : parseText text = .ok ls) (hl : Lines hkv ls routine)
    (args : List Word) (fuel : Nat) :
    CCSafe (run text args fuel cfg).res := by
  unfold run
  simp only [hparse, hwf, Bool.false_eq_true, if_false]
  exact cc_safe_layout hp hc cfg H hkv ls hl args fuel

end Scc.A64.CC
