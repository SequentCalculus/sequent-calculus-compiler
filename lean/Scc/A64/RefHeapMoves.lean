/-
  Scc.A64.RefHeapMoves — NOT IN USE: no file but the root Scc.lean imports this one.  The vocabulary of the move block
  of `subst` that is in use is the one of the same names and bodies in `Scc.A64.Ref.K` (RefClosHMoves.lean).  Here, in
  the namespace `Scc.A64.Ref`: the domain `PosT t := t < 281` (the capacity of utils.rs temporary_from_position),
  `MOpRel`/`MSeg` (the AArch64 code renders a list of `comment`/`mov`/`save`/`restore`), the relation `MRel` that looks at
  nothing but the temporaries and the scratch cell, with what the block leaves alone (`MKeep`), and `mseg_treeMoves`:
  the AArch64 moves of a tree render the mock moves.
-/
import Scc.A64.RefHeapBridge
import Scc.A64.RefParam
import Scc.A64.RefHeapX3

namespace Scc.A64.Ref

open Scc.Backend Scc.Backend.Abs Scc.A64.CC
-- backend-independent: Scc/Backend/ProofsCalls.lean, Scc/X86/RefPM.lean (the forests of parallel moves under a map of temporaries)
open Scc.X86 (TreeOK TreesOK RootOK PmOK ConnsOK)
open Scc.X86.Ref (TempMap mapT mapTs mapR mapPM)

/-- a temporary of a position within the capacity of utils.rs temporary_from_position -/
def PosT (t : Nat) : Prop := t < 281

/-- `blk` renders the move instruction `op` -/
def MOpRel (g : Mode) (op : MockOp) (blk : List Code) (g' : Mode) : Prop :=
  match op with
  | .comment m => blk = [.COMMENT m] ∧ g' = g
  | .mov t s => PosT t ∧ PosT s ∧ blk = mov (posTemp t) (posTemp s) ∧ g' = g
  | .save t _ => ∃ b, blk = storeTemporary (posTemp t) b ∧ PosT t ∧ (g = .normal ∨ g = .pm) ∧ g' = .pm
  | .restore t _ => ∃ b, blk = restoreTemporary (posTemp t) b ∧ PosT t ∧ g = .pm ∧ g' = .normal
  | _ => False

inductive MSeg : Mode → List MockOp → List Code → Mode → Prop where
  | nil (g : Mode) : MSeg g [] [] g
  | cons {g g1 g' : Mode} {op : MockOp} {blk : List Code} {ops : List MockOp} {cs : List Code} :
      MOpRel g op blk g1 → MSeg g1 ops cs g' → MSeg g (op :: ops) (blk ++ cs) g'

theorem MSeg.append {g g1 g' : Mode} {o1 o2 : List MockOp} {c1 c2 : List Code}
    (h1 : MSeg g o1 c1 g1) (h2 : MSeg g1 o2 c2 g') : MSeg g (o1 ++ o2) (c1 ++ c2) g' := by
  induction h1 with
  | nil g => simpa using h2
  | cons hop _ ih =>
    rw [List.cons_append, List.append_assoc]
    exact MSeg.cons hop (ih h2)

theorem MSeg.single {g g' : Mode} {op : MockOp} {blk : List Code} (h : MOpRel g op blk g') :
    MSeg g [op] blk g' := by
  have := MSeg.cons h (MSeg.nil g')
  simpa using this

/-- what a block of moves leaves alone -/
structure MKeep (σ0 σ : State) : Prop where
  heap : σ.heap = σ0.heap
  x0 : σ.reg 0 = σ0.reg 0
  x1 : σ.reg 1 = σ0.reg 1

/-- the relation of the move block: a (shadow) configuration of the abstract machine and the machine agree
on every temporary of a position and on the scratch cell -/
structure MRel (c : MemCfg) (g : Mode) (σ0 : State) (cfg : Config) (σ : State) : Prop where
  core : Core c σ
  temps : ∀ t v, PosT t → cfg.temps.get t = some v → σ.tempVal (posTemp t) = some v
  scratch : g = .pm → ∀ w, cfg.scratch = some w → σ.reg xT = some w
  keep : MKeep σ0 σ

theorem mseg_of_segG {g g' : Mode} {ops : List MockOp} {cs : List Code} (h : Render.SegG MOpRel g ops cs g') :
    MSeg g ops cs g' := by
  induction h with
  | nil g => exact MSeg.nil g
  | cons hop _ ih => exact MSeg.cons hop ih

theorem mMoveOps :
    Render.MoveOps a64Backend posTemp PosT MOpRel .normal (fun _ => Mode.pm) (fun _ _ _ => True) where
  tm := tempMap_posTemp
  save {_ _ b} hp hg := ⟨b, rfl, hp, hg, rfl⟩
  restore {_ b} ht := ⟨b, rfl, ht, rfl, rfl⟩
  mov ht hs _ := ⟨ht, hs, rfl, rfl⟩
  comment := ⟨rfl, rfl⟩
  edges t kids := Render.EdgesTs.of_forall (fun _ _ _ _ => trivial) t kids

theorem mseg_treeMoves (b : Bool) (parent : Nat) (hp : PosT parent) : ∀ (tr : Tree Nat) (g : Mode),
    (g = .normal ∨ g = .pm) → TreeOK PosT tr →
    MSeg g (treeMoves mockSym parent false tr) (treeMoves a64Backend (posTemp parent) b (mapT posTemp tr))
      (afterTree (Tree.refersBack tr) g) := fun tr g hg hw =>
  mseg_of_segG (Render.seg_treeMoves mMoveOps b parent hp tr g hg hw
    (Render.EdgesT.of_forall (fun _ _ _ _ => trivial) _ _))

end Scc.A64.Ref
