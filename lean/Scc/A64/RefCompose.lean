/-
  Scc.A64.RefCompose — composition of Theorem A (C06Generic: AxCut positional machine ⟶ abstract backend
  machine on the mock code) with Theorem B (RefRun / RefInit / RefParam: abstract backend machine ⟶
  AArch64 SPEC machine on a laid-out program that holds the routine) for INTEGER programs:
  `int_programs_holds`.
-/
import Scc.A64.RefInit
import Scc.Props.C06Generic
import Scc.Backend.ProofsMockEntry

namespace Scc.A64.Ref

open Scc.AxCut Scc.Backend Scc.Backend.Abs Scc.Backend.Sim Scc.A64.CC
open Scc.Props.C06Generic
open Scc.Props.C14Generic (LabelSafe)

/-- the entry label of the mock code is its first item, at address 0 -/
theorem compile_mock_entry {hooks : Bool} {p : AxCut.Prog} {c : Nat} {code : List MockOp} {nargs c' : Nat}
    {d0 : Def} (hcomp : (compile mockSym hooks p).run c = .ok ((code, nargs), c'))
    (hd : p.defs.head? = some d0) :
    (∃ rest, code = .label (d0.name.print ++ "_") :: rest) ∧ nargs = d0.ctx.length :=
  mock_entry hcomp hd

theorem compileProg_ok {B : Backend Code Temporary} {p : AxCut.Prog} {hooks : Bool} {c0 : Nat}
    {body routine : List Code} {nargs : Nat} (h : compileProg B p hooks c0 = .ok (body, nargs, routine)) :
    ∃ c1, (compile B hooks p).run c0 = .ok ((body, nargs), c1) ∧ intoRoutine body nargs = .ok routine := by
  unfold compileProg at h
  cases hx : (compile B hooks p).run c0 with
  | error e => rw [hx] at h; cases h
  | ok r =>
    obtain ⟨⟨body', nargs'⟩, c1⟩ := r
    rw [hx] at h
    simp only at h
    cases hr : intoRoutine body' nargs' with
    | error e => rw [hr] at h; cases h
    | ok routine' =>
      rw [hr] at h
      simp only [Except.ok.injEq, Prod.mk.injEq] at h
      obtain ⟨rfl, rfl, rfl⟩ := h
      exact ⟨c1, rfl, hr⟩

/-- THEOREM A ∘ THEOREM B for integer programs, on a laid-out program that HOLDS the routine: a
    terminating run of the AxCut positional machine is reproduced — same trace, same result — by the
    AArch64 SPEC machine started at `asm_main`. -/
theorem int_programs_holds (p : AxCut.Prog) (args : List Word) (hooks : Bool) (body routine : List Code)
    (nargs : Nat) (d0 : Def)
    (hsafe : LabelSafe p = true) (htp : LinTypedProg p) (hip : IntProg p)
    (hcompX : compileProg a64Backend p hooks 0 = .ok (body, nargs, routine))
    (hd : p.defs.head? = some d0)
    (hcap : ∀ st, Reachable p ⟨d0.ctx, args.map .int, d0.body⟩ st → WithinCapacity st.ctx)
    (fuel : Nat) (out : List (Bool × Word)) (v : Word) (hrun : Pos.run p args fuel = ⟨out, .done v⟩)
    (cfg : MonCfg) (H : CfgCC cfg.mem) (hheap : cfg.heap = false)
    {hk : Code → Bool} {P : Prog} (Hp : Holds hk P routine) :
    ∃ fuel', (runProg P args fuel' cfg).out = out ∧ (runProg P args fuel' cfg).res = .done v := by
  obtain ⟨c1, hcompA, hrout⟩ := compileProg_ok hcompX
  obtain ⟨ops, hcompM, W⟩ := seg_compile hooks p htp hip hcompA
  obtain ⟨⟨rest, hops⟩, hnargs⟩ := compile_mock_entry hcompM hd
  obtain ⟨fuelA, hA⟩ := TheoremA_run_int hooks p 0 ops nargs c1 d0 args fuel out v hcompM hsafe htp hip hd
    hcap hrun
  have hnodupD := Scc.Props.C14Generic.labels_unique hooks p 0 ops nargs c1 hcompM hsafe
  have hnodup : (labelNames ops).Nodup := by rw [labelNames_eq_dfns]; exact hnodupD
  obtain ⟨hasm, hcln⟩ := mock_labels_ne hcompM
  -- the abstract run starts at address 0
  have hdup : duplicateLabel (Program.ofOps ops).labels = none := by
    apply duplicateLabel_none
    show ((Abs.layout ops 0).2.map (·.1)).Nodup
    rw [layout_snd_names]
    exact hnodup
  have hentry : (Program.ofOps ops).labelAddr (d0.name.print ++ "_") = some 0 := by
    rw [hops]; exact mock_entry_addr _ _
  unfold Abs.run at hA
  simp only [hdup, hentry] at hA
  -- the arguments match the parameters
  have hlen : nargs = args.length := by
    rw [hnargs]
    unfold Pos.run at hrun
    cases hdefs : p.defs with
    | nil => rw [hdefs] at hd; simp at hd
    | cons d ds =>
      rw [hdefs] at hd hrun
      simp only [List.head?_cons, Option.some.injEq] at hd
      subst hd
      simp only at hrun
      by_cases hl : d.ctx.length ≠ args.length
      · simp [hl] at hrun
      · omega
  rw [hlen] at hrout
  have hargs : args.length ≤ 7 := by
    obtain ⟨su, hsu, _⟩ := routine_anatomy hrout
    obtain ⟨moves, hm, _⟩ := setup_eq hsu
    exact CC.moveArguments_le _ _ hm
  obtain ⟨hdr, σ2, hcs, hlabs, hlab, hk0, R⟩ := init_sim (c := cfg.mem) H hrout Hp
  have hhdr : ∀ n ∈ labelNames ops, n ∉ labs hdr := by
    intro n hn hm
    rw [hlabs n hm] at hn
    exact hasm hn
  have hclean : "cleanup" ∉ labs hdr ++ labelNames ops := by
    rw [List.mem_append]
    rintro (h | h)
    · have := hlabs _ h; exact absurd this (by decide)
    · exact hcln h
  obtain ⟨kL, σL, outL, hkB, hret, hx, hout⟩ := abs_run_sim H Hp hcs W hnodup hhdr hclean
    fuelA (initConfig 0 args) .normal σ2 [] hdr.length out v R
    ⟨[], ops, hdr, body, cleanup, rfl, hcs, rfl, rfl, W⟩ hA
  obtain ⟨n, steps', hn⟩ := runLoop_msteps hheap (hk0.trans hkB) 0 0
  refine ⟨n + 1, ?_⟩
  have hrl : runProg P args (n + 1) cfg =
      runLoop P cfg (n + 1) { σ := entryState cfg.mem args, pc := pcOf hk routine 2, out := [], steps := 0,
                              blocks := 0 } := by
    unfold runProg
    simp only [hlab]
    rw [if_neg (by omega)]
  rw [hrl, hn 1]
  obtain ⟨h1, h2⟩ := runLoop_ret (cfg := cfg) hret hx outL steps' 0 0
  exact ⟨by rw [h1]; exact hout, h2⟩

end Scc.A64.Ref
