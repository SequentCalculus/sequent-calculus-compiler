/-
  Scc.A64.RefParam — the code generated with the AArch64 backend RENDERS the code generated with the mock
  backend: for an integer statement `s` (lit op print ifc exit call subst on `ext` contexts) that is
  linearly typed, whenever the generic generator instantiated with `a64Backend` succeeds (no "Out of
  temporaries"), the generator instantiated with `mockSym` succeeds from the same label counter, ends with
  the same counter, and the two code lists are related by `Seg` (RefDefs.lean): instruction by
  instruction, `t ↦ posTemp t`, with the side conditions of the per-instruction simulation (`OpRel`).
  Parallel moves: the spanning forests correspond under `posTemp` (the backend-parametric part of
  Scc/X86/RefPM.lean); the saved value of a cycle always lives in TEMP (`storeTemporary` ignores the
  spill flag, `mov` uses TEMP2 for a spill-to-spill move).
  The walk over the generator is that of Scc/Backend/ProofsRender.lean; this file holds what it asks of the backend:
  `tempMap_posTemp`, `vt_rel`/`varTemps`, `moveOps`, `stmtOps` (the clauses of `OpRel`), and `seg_of_segG`.
-/
import Scc.X86.RefPM
import Scc.Backend.ProofsRender
import Scc.X86.ProofsWfProg
import Scc.A64.RefDefs
import Scc.Props.C06Generic

namespace Scc.A64.Ref

open Scc.AxCut Scc.Backend Scc.Backend.Sim
open Scc.Props.C06Generic (IntStmt IntCtx IntProg)
-- backend-independent: Scc/Backend/ProofsCalls.lean, Scc/X86/RefPM.lean (the forests of parallel moves under a map of temporaries)
open Scc.X86 (TreeOK TreesOK RootOK PmOK ConnsOK)
open Scc.X86.Ref (TempMap mapT mapTs mapR mapPM)

theorem tempLt_posTemp (a b : Nat) : tempLt (posTemp a) (posTemp b) = decide (a < b) := by
  unfold posTemp
  by_cases h1 : a + 4 < 30 <;> by_cases h2 : b + 4 < 30 <;>
    simp only [h1, h2, if_true, if_false, tempLt, Temporary.rank, Register.rank]
  · simp
  · simp; omega
  · simp; omega
  · simp; omega

theorem tempMap_posTemp : TempMap mockSym a64Backend posTemp where
  lt := fun a b => by
    show tempLt (posTemp a) (posTemp b) = decide (a < b)
    exact tempLt_posTemp a b
  eq := fun a b => by
    show (posTemp a == posTemp b) = (a == b)
    by_cases h : a = b
    · subst h; simp
    · have : posTemp a ≠ posTemp b := fun e => h (posTemp_inj.1 e)
      rw [beq_eq_false_iff_ne.mpr this, beq_eq_false_iff_ne.mpr h]

/-- mode after the moves of a tree -/
def afterTree (back : Bool) (g : Mode) : Mode := if back then .pm else g

theorem seg_of_segG {g g' : Mode} {ops : List MockOp} {cs : List Code} (h : Render.SegG OpRel g ops cs g') :
    Seg g ops cs g' := by
  induction h with
  | nil g => exact Seg.nil g
  | cons hop _ ih => exact Seg.cons hop ih

/-- parallel_moves.rs on AArch64: `store_temporary`, `restore_temporary`, `mov`, `comment` render `save`, `restore`,
`mov`, `comment` (the saved value is always in a register: no side condition on moves) -/
theorem moveOps : Render.MoveOps a64Backend posTemp PosW OpRel .normal (fun _ => Mode.pm) (fun _ _ _ => True) where
  tm := tempMap_posTemp
  save {_ _ b} hp hg := ⟨b, rfl, hp, hg, rfl⟩
  restore {_ b} ht := ⟨b, rfl, ht, rfl, rfl⟩
  mov ht hs _ := Or.inr ⟨ht, hs, rfl, rfl⟩
  comment := ⟨rfl, rfl⟩
  edges t kids := Render.EdgesTs.of_forall (fun _ _ _ _ => trivial) t kids

theorem seg_treeMoves (b : Bool) (parent : Nat) (hp : PosW parent) : ∀ (tr : Tree Nat) (g : Mode),
    (g = .normal ∨ g = .pm) → TreeOK PosW tr →
    Seg g (treeMoves mockSym parent false tr) (treeMoves a64Backend (posTemp parent) b (mapT posTemp tr))
      (afterTree (Tree.refersBack tr) g) := fun tr g hg hw =>
  seg_of_segG (Render.seg_treeMoves moveOps b parent hp tr g hg hw
    (Render.EdgesT.of_forall (fun _ _ _ _ => trivial) _ _))

theorem getPosition_go (id : Nat) : ∀ (Γ : Ctx) (k : Nat),
    getPosition.go id Γ k = (Γ.findIdx? (fun b => b.var.id == id)).map (· + k)
  | [], k => rfl
  | b :: bs, k => by
    simp only [getPosition.go, List.findIdx?_cons]
    by_cases h : (b.var.id == id) = true
    · simp [h]
    · simp only [h, if_false, Bool.false_eq_true]
      rw [getPosition_go id bs (k + 1)]
      cases List.findIdx? (fun b => b.var.id == id) bs <;> simp [Nat.add_assoc, Nat.add_comm 1]

theorem getPosition_eq_posOf (Γ : Ctx) (id : Nat) : getPosition Γ id = Pos.posOf Γ id := by
  unfold Pos.posOf getPosition
  rw [getPosition_go]
  cases List.findIdx? (fun b => b.var.id == id) Γ <;> simp

theorem tfp_ok {n c c' : Nat} {t : Temporary} (h : (temporaryFromPosition n).run c = .ok (t, c')) :
    n < 281 ∧ t = posTemp n ∧ c' = c := by
  by_cases hn : n < 281
  · rw [temporaryFromPosition_eq hn] at h
    simp only [run_pure_ok] at h
    exact ⟨hn, h.1.symm, h.2.symm⟩
  · exfalso
    unfold temporaryFromPosition at h
    simp only [RESERVED_eq, REGISTER_NUM_eq, RESERVED_SPILLS_eq, SPILL_NUM_eq] at h
    rw [if_neg (by omega), if_neg (by omega)] at h
    exact (run_throw_ok _ _ _ _).1 h

/-- the mock run that corresponds to a successful AArch64 run of `variable_temporary` -/
theorem vt_rel {num : TempNum} {ctx : Ctx} {id : Nat} {c : Nat} {t : Temporary} {c' : Nat}
    (h : (a64Backend.variableTemporary num ctx id).run c = .ok (t, c')) :
    ∃ pos, Pos.posOf ctx id = some pos ∧ 2 * pos + num.toNat < 281 ∧ t = posTemp (2 * pos + num.toNat) ∧
      c' = c ∧ (mockSym.variableTemporary num ctx id).run c = .ok (2 * pos + num.toNat, c) := by
  have h' : (variableTemporary num ctx id).run c = .ok (t, c') := h
  unfold variableTemporary at h'
  rw [getPosition_eq_posOf] at h'
  cases hp : Pos.posOf ctx id with
  | none => rw [hp] at h'; exact ((run_throw_ok _ _ _ _).1 h').elim
  | some pos =>
    rw [hp] at h'
    obtain ⟨hlt, rfl, rfl⟩ := tfp_ok h'
    refine ⟨pos, rfl, hlt, rfl, rfl, ?_⟩
    rw [mockSym_variableTemporary, vt_run_ok]
    exact ⟨pos, by rw [ctxPosition_eq_posOf]; exact hp, rfl, rfl⟩

theorem posW_snd {pos : Nat} (h : 2 * pos + TempNum.snd.toNat < 281) : PosW (2 * pos + TempNum.snd.toNat) := by
  simp only [TempNum.toNat] at h ⊢
  exact ⟨by omega, h⟩

/-- the AArch64 `variable_temporary` under `posTemp`; the word part (`.snd`) of a position is a `PosW` -/
theorem varTemps : Render.VarTemps a64Backend posTemp PosW (· = .snd) where
  vt h := by
    obtain ⟨pos, hp, hlt, rfl, rfl, hm⟩ := vt_rel h
    exact ⟨pos, hp, rfl, rfl, fun e => by subst e; exact posW_snd hlt, hm⟩

/-- the AArch64 methods render the mock instructions of integer statements -/
theorem stmtOps : Render.StmtOps a64Backend posTemp PosW OpRel .normal .exit (fun _ => True) where
  comment := ⟨rfl, rfl⟩
  label := ⟨rfl, rfl, rfl⟩
  jumpLabel := ⟨rfl, rfl, Or.inl rfl⟩
  jumpCleanup := ⟨rfl, rfl, Or.inr ⟨rfl, rfl⟩⟩
  movRet hs := Or.inl ⟨rfl, hs, rfl, rfl, rfl⟩
  li ht _ := ⟨rfl, ht, rfl, rfl⟩
  binop ht ha hb _ _ := ⟨rfl, ht, ha, hb, rfl, rfl⟩
  jifz ha := ⟨rfl, ha, rfl, rfl⟩
  jif ha hb := ⟨rfl, ha, hb, rfl, rfl⟩
  print {nl s Γ c code c'} hs hlt hpr := by
    have : (a64Backend.printI64 nl (posTemp s) Γ).run c = .ok (printI64 nl (posTemp s) Γ, c) := rfl
    rw [this] at hpr
    injection hpr with e; injection e with e1 e2
    subst e1 e2
    exact ⟨rfl, Γ, rfl, rfl, hs, hlt, rfl, rfl⟩

/-- THE RENDERING THEOREM: whenever the AArch64 code generator succeeds on a linearly typed integer program, the
mock code generator succeeds from the same counter, and the AArch64 body is the rendering (`Seg`) of the mock code -/
theorem seg_compile (hooks : Bool) (p : AxCut.Prog) (htp : LinTypedProg p) (hip : IntProg p)
    {c : Nat} {body : List Code} {nargs c1 : Nat}
    (h : (compile a64Backend hooks p).run c = .ok ((body, nargs), c1)) :
    ∃ ops, (compile mockSym hooks p).run c = .ok ((ops, nargs), c1) ∧ Seg .normal ops body .normal := by
  obtain ⟨ops, hm, S⟩ := Render.seg_compile (L := fun _ => True) moveOps varTemps stmtOps
    ⟨fun _ => ⟨trivial, trivial⟩, fun _ => trivial, fun _ => trivial, fun _ => ⟨trivial, trivial⟩, fun _ => trivial⟩
    hooks p htp hip (fun _ _ => trivial) h
  exact ⟨ops, hm, seg_of_segG S⟩

end Scc.A64.Ref
