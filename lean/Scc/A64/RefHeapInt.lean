/-
  Scc.A64.RefHeapInt — what the AArch64 machine of the three-way stack (ThreeWayTarget.lean) and `exit`
  (RefClosHCall.lean) use and that speaks of neither relation: the hook code of a boundary consists of comments;
  `load_immediate` and `print_i64` on the temporary of a position, as frames; a variable that holds an integer is
  of kind `ext`.
-/
import Scc.A64.RefHeapX3
import Scc.A64.RefParam
import Scc.Backend.ProofsSim2

namespace Scc.A64.Ref

open Scc.AxCut Scc.AxCut.Pos Scc.Backend Scc.Backend.Abs Scc.Backend.Sim Scc.Backend.Sim2 Scc.A64.CC
open Scc.Heap (HState InvS InvW)
open Scc.Heap.Refine (HRef)

theorem hook_comments (hooks : Bool) (Γ : Ctx) (m : String) :
    ∀ y ∈ hookCode a64Backend hooks Γ ++ [a64Backend.comment m], ∃ m', y = Code.COMMENT m' := by
  intro y hy
  unfold hookCode at hy
  cases hooks <;> simp at hy
  · exact ⟨_, hy⟩
  · rcases hy with rfl | rfl <;> exact ⟨_, rfl⟩

theorem li_pos {c : MemCfg} (H : CfgCC c) {σ : State} (C : Core c σ) {t : Nat} (ht : t < 281) (imm : Int) :
    ∃ σ', execCodes c (loadImmediate (posTemp t) imm) σ = .ok σ' ∧ Core c σ' ∧
      σ'.tempVal (posTemp t) = some (BitVec.ofInt 64 imm) ∧ Frame σ σ' (posTemp t) := by
  obtain ⟨σ', e, hv, F⟩ := loadImmediate_correct c 144 σ (spOkS_of_core H C) (posTemp t) (isVar_posTemp ht)
    (BitVec.ofInt 64 imm)
  rw [loadImmediate_toInt] at e
  exact ⟨σ', e, core_execCodes H _ C (allInt_loadImmediate (ok_of_isVar (isVar_posTemp ht)) imm) e, hv, F⟩

theorem relX_int_ext {P : Program} {hooks : Bool} {prog : AxCut.Prog} {Γ : Ctx} {ρ : List Value} {s : Stmt}
    {cfg : Config} (R : RelX P hooks prog ⟨Γ, ρ, s⟩ cfg) {y : Ident} {w : Word} (hy : readInt Γ ρ y = .ok w) :
    ∃ i, Pos.posOf Γ y.id = some i ∧ ∃ hi : i < Γ.length, cfg.temps.get (2 * i + 1) = some w ∧
      Γ[i].chi = .ext := by
  obtain ⟨i, hi, hl, hg⟩ := R.readInt hy
  simp only at hi hl
  rw [ctxPosition_eq_posOf] at hi
  refine ⟨i, hi, hl, hg, ?_⟩
  have := (R.vals i hl (by show _ < ρ.length; have hlen : ρ.length = Γ.length := R.len; omega)).2.2.1
  simp only at this
  obtain ⟨_, hpo, hval⟩ := readInt_ok hy
  rw [hi] at hpo
  cases hpo
  rw [List.getElem?_eq_getElem (by show _ < ρ.length; have hlen : ρ.length = Γ.length := R.len; omega)] at hval
  injection hval with hval
  rw [this, hval]; rfl

/-- `print_i64` on the machine: the call is made, SP, the heap, every stack word at or above SP and every
live register survive -/
theorem print_exec {c : MemCfg} (H : CfgCC c) {σ : State} (C : Core c σ) {nl : Bool} {s : Nat} (hs : s < 281)
    (hodd : s % 2 = 1) (ctx : Ctx) (hlive : s < 2 * ctx.length) {v : Word}
    (hval : σ.tempVal (posTemp s) = some v) :
    ∃ σ', execCodesOut c (printI64 nl (posTemp s) ctx) σ = .ok (σ', [(nl, v)]) ∧
      σ'.sp = σ.sp ∧ σ'.heap = σ.heap ∧ (∀ a, c.stackTop - 96 - 2048 ≤ a → σ'.slot a = σ.slot a) ∧
      (∀ r, r < 30 → LiveReg ctx r → σ'.lreg r = σ.lreg r) := by
  have hr := H.room; have ht := H.ok.top; have h16 := H.top16
  have hS : σ.sp.toNat = c.stackTop - 96 - 2048 := C.spNat H
  have hal : (c.stackTop - 96 - 2048) % 16 = 0 := by omega
  have hvar := isVar_posTemp hs
  cases hp : posTemp s with
  | register reg =>
    rw [hp] at hvar hval
    cases reg with
    | x r =>
      obtain ⟨h1, h2⟩ := isVar_reg hvar
      rw [REGISTER_NUM_eq] at h2
      have hr2 : r < 2 * ctx.length + 4 := by
        unfold posTemp at hp
        split at hp
        · injection hp with hp; injection hp with hp; omega
        · cases hp
      have hw' : σ.lreg r = some v := by
        rw [tempVal_reg (xreg_ar h2)] at hval; exact hval
      obtain ⟨σ', he, hsp, hheap, habove, hlv⟩ := print_register H.ok false ctx (by intro h; cases h) nl r h2 hr2 σ
        _ v hS hal (by omega) (by omega) hw'
      exact ⟨σ', he, hsp, hheap, habove, hlv⟩
    | sp => simp [Temporary.isVar] at hvar
    | xzr => simp [Temporary.isVar] at hvar
  | spill p =>
    rw [hp] at hvar hval
    obtain ⟨_, h2⟩ := isVar_spill hvar
    obtain ⟨σ', he, hsp, hheap, habove, hlv⟩ := print_spill H.ok false ctx (by intro h; cases h) nl p h2 σ
      _ v hS hal (by omega) (by rw [SPILL_SPACE_eq]; omega) hval
    exact ⟨σ', he, hsp, hheap, habove, hlv⟩

end Scc.A64.Ref
