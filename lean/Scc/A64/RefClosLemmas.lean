/-
  Scc.A64.RefClosLemmas — CLOSURES in the three-way relation (C07 on AArch64): the walk `XV` / `XB` / `XF`
  (RefClosDefs.lean) is the walk of Scc/Backend/ClosWalk.lean for `XMethodsAt c cs hooks types` (what is asked of the
  AArch64 code behind a code pointer): `XV.toG`, `XV.ofG` and their companions.  The facts about the walk are proved
  there; `XB.sub`, `XB.kept`, `XB.congrK` (and the `XF` ones) state three of them for the AArch64 walk: it survives the
  changes of the heap that the abstract machine makes and looks at `κ` only on the objects it reaches.
  `OldFields` has the same body as `Scc.Backend.Prov.OldFields` (Scc/Backend/StepProv.lean), which the proofs use.
-/
import Scc.A64.RefClosDefs
import Scc.Backend.ProofsRep2
import Scc.Backend.ProofsLoad
import Scc.A64.RefSim
import Scc.Backend.ClosWalk

namespace Scc.A64.Ref.K

open Scc.AxCut Scc.AxCut.Pos Scc.Backend.Abs Scc.Backend.Sim2
open Scc.Backend (Prov.XV Prov.XB Prov.XF)

/-- an object of `h'` with an id below `n` is an object of `h` with the same fields -/
def OldFields (n : Nat) (h h' : Heap) : Prop :=
  ∀ id o', id < n → h'.get id = some o' → ∃ o, h.get id = some o ∧ o.fields = o'.fields

section Walk
variable {P : Program} {c : MemCfg} {cs : List Code} {hooks : Bool} {types : List TypeDecl}

mutual
theorem XV.toG {h : Heap} {κ : Nat → Nat → Word} : ∀ {v : Value} {p : Option Word} {a w : Word},
    XV P c cs hooks types h κ v p a w → Prov.XV P hooks types (XMethodsAt c cs hooks types) h κ v p a w
  | _, _, _, _, .int n p a w => .int n p a w
  | _, _, _, _, .obj tag fields r a w hb => .obj tag fields r a w (XB.toG hb)
  | _, _, _, _, .clo envCtx envCtx' env clauses r a w hk hb hm hx =>
    .clo envCtx envCtx' env clauses r a w hk (XB.toG hb) hm hx
theorem XB.toG {h : Heap} {κ : Nat → Nat → Word} : ∀ {vs : List Value} {r : Word},
    XB P c cs hooks types h κ vs r → Prov.XB P hooks types (XMethodsAt c cs hooks types) h κ vs r
  | _, _, .empty => .empty
  | _, _, .block v vs r o hr0 hg hf => .block v vs r o hr0 hg (XF.toG hf)
theorem XF.toG {h : Heap} {κ : Nat → Nat → Word} : ∀ {vs : List Value} {fs : List Field} {id j : Nat},
    XF P c cs hooks types h κ vs fs id j → Prov.XF P hooks types (XMethodsAt c cs hooks types) h κ vs fs id j
  | _, _, _, _, .nil id j => .nil id j
  | _, _, _, _, .cons v vs f fs id j hv hr => .cons v vs f fs id j (XV.toG hv) (XF.toG hr)
end

mutual
theorem XV.ofG {h : Heap} {κ : Nat → Nat → Word} : ∀ {v : Value} {p : Option Word} {a w : Word},
    Prov.XV P hooks types (XMethodsAt c cs hooks types) h κ v p a w → XV P c cs hooks types h κ v p a w
  | _, _, _, _, .int n p a w => .int n p a w
  | _, _, _, _, .obj tag fields r a w hb => .obj tag fields r a w (XB.ofG hb)
  | _, _, _, _, .clo envCtx envCtx' env clauses r a w hk hb hm hx =>
    .clo envCtx envCtx' env clauses r a w hk (XB.ofG hb) hm hx
theorem XB.ofG {h : Heap} {κ : Nat → Nat → Word} : ∀ {vs : List Value} {r : Word},
    Prov.XB P hooks types (XMethodsAt c cs hooks types) h κ vs r → XB P c cs hooks types h κ vs r
  | _, _, .empty => .empty
  | _, _, .block v vs r o hr0 hg hf => .block v vs r o hr0 hg (XF.ofG hf)
theorem XF.ofG {h : Heap} {κ : Nat → Nat → Word} : ∀ {vs : List Value} {fs : List Field} {id j : Nat},
    Prov.XF P hooks types (XMethodsAt c cs hooks types) h κ vs fs id j → XF P c cs hooks types h κ vs fs id j
  | _, _, _, _, .nil id j => .nil id j
  | _, _, _, _, .cons v vs f fs id j hv hr => .cons v vs f fs id j (XV.ofG hv) (XF.ofG hr)
end

/-- the walk survives a change of the heap that keeps the fields of the old objects, for every value that is
still represented in the new heap -/
theorem XB.sub {n : Nat} {h h' : Heap} {κ : Nat → Nat → Word} (hold : OldFields n h h')
    (hids : ∀ id o, h.get id = some o → id < n) : ∀ {vs : List Value} {r : Word},
    XB P c cs hooks types h κ vs r → RepB P hooks types h' vs r → XB P c cs hooks types h' κ vs r :=
  fun hv hr => XB.ofG (Prov.XB.sub hold hids (XB.toG hv) hr)
theorem XF.sub {n : Nat} {h h' : Heap} {κ : Nat → Nat → Word} (hold : OldFields n h h')
    (hids : ∀ id o, h.get id = some o → id < n) : ∀ {vs : List Value} {fs : List Field} {id j : Nat},
    XF P c cs hooks types h κ vs fs id j → RepF P hooks types h' vs fs → XF P c cs hooks types h' κ vs fs id j :=
  fun hv hr => XF.ofG (Prov.XF.sub hold hids (XF.toG hv) hr)

theorem XB.kept {h h' : Heap} {κ : Nat → Nat → Word} (hk : AllFieldsKept h h') :
    ∀ {vs : List Value} {r : Word}, XB P c cs hooks types h κ vs r → XB P c cs hooks types h' κ vs r :=
  fun hv => XB.ofG (Prov.XB.kept hk (XB.toG hv))
theorem XF.kept {h h' : Heap} {κ : Nat → Nat → Word} (hk : AllFieldsKept h h') :
    ∀ {vs : List Value} {fs : List Field} {id j : Nat},
    XF P c cs hooks types h κ vs fs id j → XF P c cs hooks types h' κ vs fs id j :=
  fun hv => XF.ofG (Prov.XF.kept hk (XF.toG hv))

theorem XB.congrK {h : Heap} {κ κ' : Nat → Nat → Word} (hκ : ∀ id o, h.get id = some o → ∀ j, κ' id j = κ id j) :
    ∀ {vs : List Value} {r : Word}, XB P c cs hooks types h κ vs r → XB P c cs hooks types h κ' vs r :=
  fun hv => XB.ofG (Prov.XB.congrK hκ (XB.toG hv))
theorem XF.congrK {h : Heap} {κ κ' : Nat → Nat → Word} (hκ : ∀ id o, h.get id = some o → ∀ j, κ' id j = κ id j) :
    ∀ {vs : List Value} {fs : List Field} {id j : Nat},
    XF P c cs hooks types h κ vs fs id j → (∀ j, κ' id j = κ id j) → XF P c cs hooks types h κ' vs fs id j :=
  fun hv hid => XF.ofG (Prov.XF.congrK hκ (XF.toG hv) hid)

end Walk

end Scc.A64.Ref.K
