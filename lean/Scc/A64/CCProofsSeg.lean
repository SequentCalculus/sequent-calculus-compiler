/-
  Scc.A64.CCProofsSeg — property C13, AArch64, DYNAMIC part, the segments of a routine on the SPEC machine
  (Scc/A64/Machine.lean), WITHOUT any hypothesis on the values the program computes:

  * `Core c σ`     — the calling-convention invariant at statement boundaries: `SP` at the bottom of the
                     spill area (16-aligned), the entry values of X19…X30 (sentinels) in the 96-byte save
                     area above it;
  * `RetReady c σ` — what the exit check at `RET` needs: `SP` at its entry value, X19…X30 at their entry
                     values;
  * `Future Q l σ` — running the straight-line segment `l` (with external calls, `execCodesOut`) from `σ`
                     either ends in a state satisfying `Q` or stops with an error that is NOT a fault of the
                     calling-convention monitor (`OKErr`: not `misaligned-call`, not `misaligned-sp`, and neither "branching instruction" nor
                     "internal call", the two stops of the evaluators on a control transfer).
  Proved: `straight_future` (plain instructions of integer programs keep `Core`), `setup_future` (entry
  state ⟶ `Core`), `block_future` (a print block keeps `Core`: the call and every SP-based access of the
  block happen with `SP ≡ 0 (mod 16)` WHATEVER the registers hold), `cleanup_future` (`Core` ⟶
  `RetReady`), `exitCheck_safe`.
-/
import Scc.A64.CCProofsFrame

set_option linter.unusedSimpArgs false

namespace Scc.A64.CC

open Scc.AxCut

/-- the memory layout is sane, the stack top is 16-aligned (AAPCS64: `SP ≡ 0 (mod 16)` at entry) and the
    stack region has room for the frame: save area (96), spill area (2048), stores of a print block (144) -/
structure CfgCC (c : MemCfg) : Prop where
  ok : MemOk c
  top16 : c.stackTop % 16 = 0
  room : c.stackLow + 2288 ≤ c.stackTop

theorem cfgCC_default : CfgCC defaultMem := ⟨⟨by decide, by decide⟩, by decide, by decide⟩

/-- the calling-convention invariant at statement boundaries -/
structure Core (c : MemCfg) (σ : State) : Prop where
  sp : σ.sp = BitVec.ofNat 64 (c.stackTop - 96 - 2048)
  saved : ∀ k (hk : k < 6),
    σ.slot (c.stackTop - 16 * (k + 1)) = some (sentinel (savedPairs[k]'hk).1.val) ∧
    σ.slot (c.stackTop - 16 * (k + 1) + 8) = some (sentinel (savedPairs[k]'hk).2.val)

/-- the state in which `RET` passes the exit check (up to the definedness of the result) -/
structure RetReady (c : MemCfg) (σ : State) : Prop where
  sp : σ.sp = BitVec.ofNat 64 c.stackTop
  regs : ∀ m : Fin 31, 19 ≤ m.val → σ.reg m = some (sentinel m.val)

/-- the AAPCS64 entry state of `asm_main` -/
structure Entry (c : MemCfg) (σ : State) : Prop where
  sp : σ.sp = BitVec.ofNat 64 c.stackTop
  x0 : ∃ h, σ.reg 0 = some h
  regs : ∀ m : Fin 31, 19 ≤ m.val → σ.reg m = some (sentinel m.val)

theorem entry_entryState (c : MemCfg) (args : List Word) : Entry c (entryState c args) := by
  refine ⟨rfl, ⟨BitVec.ofNat 64 c.heapBase, ?_⟩, ?_⟩
  · simp [entryState, State.reg, Vector.getElem_ofFn]
  · intro m hm
    simp only [entryState, State.reg, Vector.getElem_ofFn]
    have h1 : m ≠ 0 := by intro e; rw [e] at hm; simp at hm
    have h2 : ¬ m.val ≤ 7 := by omega
    simp [h1, h2, hm]

theorem Core.spNat (H : CfgCC c) {σ : State} (C : Core c σ) : σ.sp.toNat = c.stackTop - 96 - 2048 := by
  have := H.ok.top
  rw [C.sp, BitVec.toNat_ofNat]
  have h64 : (2:Nat)^64 = 18446744073709551616 := by decide
  omega

theorem Core.aligned (H : CfgCC c) {σ : State} (C : Core c σ) : σ.sp.toNat % 16 = 0 := by
  have := H.top16
  have := H.room
  rw [C.spNat H]; omega

section Seq
variable {c : MemCfg}

theorem execCodesOut_cons_noBL {code : Code} (h : code.isBL = false) (rest : List Code) (σ : State) :
    execCodesOut c (code :: rest) σ =
      match execCode c code σ with
      | .ok σ' => execCodesOut c rest σ'
      | .error e => .error e := by
  cases code <;> first | rfl | simp [Code.isBL] at h

/-- running the segment `l` from `σ` ends in `Q` or stops with an error that is `OKErr` (none of the four
    messages listed there) -/
def Future (c : MemCfg) (Q : State → Prop) (l : List Code) (σ : State) : Prop :=
  match execCodesOut c l σ with
  | .ok (σ', _) => Q σ'
  | .error e => OKErr e

theorem Future.nil {Q : State → Prop} {σ : State} (h : Q σ) : Future c Q [] σ := h

theorem Future.mono {Q Q' : State → Prop} {l : List Code} {σ : State} (h : Future c Q l σ)
    (hq : ∀ σ', Q σ' → Q' σ') : Future c Q' l σ := by
  unfold Future at h ⊢
  cases h1 : execCodesOut c l σ with
  | error e => simp only [h1] at h ⊢; exact h
  | ok r => obtain ⟨σ1, o⟩ := r; simp only [h1] at h ⊢; exact hq _ h

theorem Future.ofCodes {Q : State → Prop} {l1 l2 : List Code} {σ σ1 : State}
    (hn : ∀ code ∈ l1, code.isBL = false) (hx : execCodes c l1 σ = .ok σ1) (h : Future c Q l2 σ1) :
    Future c Q (l1 ++ l2) σ := by
  unfold Future at h ⊢
  rw [execCodesOut_pure c l1 l2 σ σ1 hn hx]
  exact h

theorem Future.ofCodes_nil {Q : State → Prop} {l : List Code} {σ σ1 : State}
    (hn : ∀ code ∈ l, code.isBL = false) (hx : execCodes c l σ = .ok σ1) (h : Q σ1) : Future c Q l σ := by
  have := Future.ofCodes (l2 := []) hn hx (Future.nil h)
  rwa [List.append_nil] at this

theorem Future.cons_noBL {Q : State → Prop} {code : Code} {rest : List Code} {σ : State}
    (h : code.isBL = false) :
    Future c Q (code :: rest) σ ↔
      (match execCode c code σ with
       | .ok σ' => Future c Q rest σ'
       | .error e => OKErr e) := by
  unfold Future
  rw [execCodesOut_cons_noBL h]
  cases execCode c code σ <;> rfl

end Seq

/- from here on `Future` is used through the lemmas above: unfolding it by `whnf` on a concrete segment would
run the machine -/
attribute [irreducible] Future

section Plain
variable {c : MemCfg}

theorem plainInt_spec {code : Code} (h : plainInt code = true) :
    plainCC code = true ∧ (∀ bi ∈ codeMems code, bi.1 = .sp) ∧ isIndirect code = false ∧
      (∀ l, codeJumpRef code = some l → l ≠ "asm_main") := by
  simp only [plainInt, Bool.and_eq_true, List.all_eq_true, beq_iff_eq, Bool.not_eq_true'] at h
  refine ⟨h.1.1.1, h.1.1.2, h.1.2, ?_⟩
  intro l hl
  have := h.2
  rw [hl] at this
  simpa using this

def straightInt (code : Code) : Bool := plainInt code && (codeJumpRef code).isNone

theorem execCode_meta {code : Code} (h : code.isMeta = true) (σ : State) : execCode c code σ = .ok σ := by
  cases code <;> first | rfl | simp [Code.isMeta] at h

theorem execCode_noInstr {code : Code} (hm : code.isMeta = false) (ht : code.toInstr = none) (σ : State) :
    execCode c code σ = .error "no such register" := by
  cases code <;> first | (simp [Code.isMeta] at hm; done) | (simp only [execCode, ht])

/-- ONE plain instruction of an integer program that is not a branch: an error that is not a
    calling-convention fault, or `Core` again -/
theorem plain_exec (H : CfgCC c) {σ : State} {code : Code} (C : Core c σ) (hp : plainInt code = true)
    (hj : codeJumpRef code = none) :
    match execCode c code σ with
    | .ok σ' => Core c σ'
    | .error e => MErr e := by
  obtain ⟨hcc, hb, hind, _⟩ := plainInt_spec hp
  obtain ⟨_, _, hslot⟩ := plainCC_spec hcc
  by_cases hm : code.isMeta = true
  · rw [execCode_meta hm]; exact C
  · have hm' : code.isMeta = false := by simpa using hm
    cases ht : code.toInstr with
    | none => rw [execCode_noInstr hm' ht]; exact .fixed _ (by simp [errFixed])
    | some i =>
      rw [execCode_of_toInstr σ ht]
      obtain ⟨hd, hpair, hsw, hstr⟩ := plain_toInstr hcc hind hj ht
      cases hx : i.exec c σ with
      | error e => exact exec_err hd (C.aligned H) hx
      | ok σ' =>
        obtain ⟨f1, f2⟩ := exec_frame hd hpair hx
        have hsp : σ'.sp = σ.sp := f1 hsw
        refine ⟨by rw [hsp]; exact C.sp, ?_⟩
        have hkeep : ∀ a, c.stackTop - 96 ≤ a → σ'.slot a = σ.slot a := by
          intro a ha
          apply f2
          intro t n off b hi hbase
          obtain ⟨r, bb, hcode, hbn⟩ := hstr t n off hi
          have hbsp : bb = .sp := hb (bb, off) (by rw [hcode]; simp [codeMems])
          subst hbsp
          have hn : n = .sp := by cases hbn; rfl
          subst hn
          have hso := hslot (.sp, off) (by rw [hcode]; simp [codeMems]) rfl
          simp only [slotOK, Bool.and_eq_true, decide_eq_true_eq] at hso
          have hbv : b = σ.sp := by
            simp only [State.base, C.aligned H, if_true, Except.ok.injEq] at hbase
            exact hbase.symm
          have ht := H.ok.top
          have hr := H.room
          rw [hbv, toNat_add_imm σ.sp off (by rw [C.spNat H]; omega) (by rw [C.spNat H]; omega), C.spNat H]
          omega
        intro k hk
        have hr := H.room
        rw [hkeep _ (by omega), hkeep _ (by omega)]
        exact C.saved k hk

theorem straight_future (H : CfgCC c) : ∀ (l : List Code), (∀ code ∈ l, straightInt code = true) →
    ∀ σ, Core c σ → Future c (Core c) l σ
  | [], _, σ, C => Future.nil C
  | code :: rest, hl, σ, C => by
    have hs := hl code (by simp)
    simp only [straightInt, Bool.and_eq_true, Option.isNone_iff_eq_none] at hs
    have hnb : code.isBL = false := by
      have := (plainCC_spec (plainInt_spec hs.1).1).1
      cases code <;> first | rfl | simp [isStackOp] at this
    rw [Future.cons_noBL hnb]
    have := plain_exec H C hs.1 hs.2
    cases hx : execCode c code σ with
    | error e => simp only [hx] at this ⊢; exact this.okErr
    | ok σ' =>
      simp only [hx] at this ⊢
      exact straight_future H rest (fun c' hc' => hl c' (by simp [hc'])) σ' this

end Plain

section Segs
variable {c : MemCfg}

theorem noBL_of_allCC {l : List Code} (h : AllCC l) : ∀ code ∈ l, code.isBL = false :=
  fun code hc => plainCC_noCall (List.all_eq_true.1 h code hc)

theorem moveArguments_le : ∀ (n : Nat) (codes : List Code), moveArguments n = .ok codes → n ≤ 7
  | 0, _, _ => by omega
  | 1, _, _ => by omega
  | k + 2, codes, h => by
    simp only [moveArguments] at h
    split at h
    · assumption
    · cases h

theorem savedPairs_ge : ∀ k (hk : k < 6), 19 ≤ (savedPairs[k]'hk).1.val ∧ 19 ≤ (savedPairs[k]'hk).2.val := by
  decide

theorem setup_core (H : CfgCC c) {σ : State} (E : Entry c σ) {n : Nat} {su : List Code} (hsu : setup n = .ok su) :
    ∃ σ1, execCodes c su σ = .ok σ1 ∧ Core c σ1 := by
  have ht := H.ok.top
  have hr := H.room
  have h16 := H.top16
  obtain ⟨moves, hmv, _⟩ := setup_eq hsu
  have hn := moveArguments_le n moves hmv
  obtain ⟨h, h0⟩ := E.x0
  have hS : σ.sp.toNat = c.stackTop := by
    rw [E.sp, BitVec.toNat_ofNat]
    have h64 : (2:Nat)^64 = 18446744073709551616 := by decide
    omega
  obtain ⟨codes, σ1, hc, he, hp⟩ := setup_correct H.ok n hn σ c.stackTop hS h16 (by omega) (Nat.le_refl _) h h0
  rw [hsu] at hc
  cases hc
  refine ⟨σ1, he, hp.sp, ?_⟩
  intro k hk
  obtain ⟨s1, s2⟩ := hp.saved k hk
  have hpair := savedPairs_ge k hk
  rw [s1, s2, E.regs _ hpair.1, E.regs _ hpair.2]
  exact ⟨rfl, rfl⟩

/-- the routine header from `asm_main:` to the first instruction of the body -/
theorem setup_future (H : CfgCC c) {σ : State} (E : Entry c σ) {n : Nat} {su : List Code}
    (hsu : setup n = .ok su) :
    Future c (Core c) (Code.LAB "asm_main" :: (su ++ [Code.COMMENT "actual code"])) σ := by
  obtain ⟨σ1, e1, C1⟩ := setup_core H E hsu
  rw [Future.cons_noBL rfl]
  show Future c (Core c) (su ++ [Code.COMMENT "actual code"]) σ
  refine Future.ofCodes (noCall_setup hsu) e1 ?_
  rw [Future.cons_noBL rfl]
  exact Future.nil C1

theorem cleanup_ready (H : CfgCC c) {σ : State} (C : Core c σ) :
    ∃ σ3, execCodes c cleanup.dropLast σ = .ok σ3 ∧ RetReady c σ3 := by
  have ht := H.ok.top
  have hr := H.room
  have h16 := H.top16
  obtain ⟨σ3, he3, hp3⟩ := cleanup_correct H.ok σ c.stackTop (C.spNat H) h16 (by omega) (Nat.le_refl _)
  refine ⟨σ3, he3, hp3.sp, ?_⟩
  intro m hm19
  have hmlt := m.isLt
  have hk : (m.val - 19) / 2 < 6 := by omega
  have hrr := hp3.restored ((m.val - 19) / 2) hk
  have hs := C.saved ((m.val - 19) / 2) hk
  have hpair : (savedPairs[(m.val - 19) / 2]'hk).1.val = 19 + 2 * ((m.val - 19) / 2) ∧
      (savedPairs[(m.val - 19) / 2]'hk).2.val = 20 + 2 * ((m.val - 19) / 2) := by
    have : (m.val - 19) / 2 = 0 ∨ (m.val - 19) / 2 = 1 ∨ (m.val - 19) / 2 = 2 ∨ (m.val - 19) / 2 = 3 ∨
        (m.val - 19) / 2 = 4 ∨ (m.val - 19) / 2 = 5 := by omega
    rcases this with e | e | e | e | e | e <;> simp only [e] <;> exact ⟨rfl, rfl⟩
  by_cases hpar : (m.val - 19) % 2 = 0
  · have hm1 : m = (savedPairs[(m.val - 19) / 2]'hk).1 := by apply Fin.ext; rw [hpair.1]; omega
    have e1 : σ3.reg m = σ3.reg (savedPairs[(m.val - 19) / 2]'hk).1 := congrArg σ3.reg hm1
    have e2 : (savedPairs[(m.val - 19) / 2]'hk).1.val = m.val := (congrArg Fin.val hm1).symm
    rw [e1, hrr.1, hs.1, e2]
  · have hm2 : m = (savedPairs[(m.val - 19) / 2]'hk).2 := by apply Fin.ext; rw [hpair.2]; omega
    have e1 : σ3.reg m = σ3.reg (savedPairs[(m.val - 19) / 2]'hk).2 := congrArg σ3.reg hm2
    have e2 : (savedPairs[(m.val - 19) / 2]'hk).2.val = m.val := (congrArg Fin.val hm2).symm
    rw [e1, hrr.2, hs.2, e2]

theorem noBL_cleanup_dropLast : ∀ code ∈ cleanup.dropLast, code.isBL = false := by decide

theorem cleanup_future (H : CfgCC c) {σ : State} (C : Core c σ) :
    Future c (RetReady c) cleanup.dropLast σ := by
  have h := cleanup_ready H C
  exact h.elim fun σ3 h3 => Future.ofCodes_nil noBL_cleanup_dropLast h3.1 h3.2

/-- the exit check from `RetReady`: `done`, or the result register is undefined — never a
    calling-convention violation -/
theorem exitCheck_safe (c : MemCfg) {σ : State} (R : RetReady c σ) :
    (∃ v, exitCheck c σ = .done v) ∨ exitCheck c σ = .fault "read-undefined X0" 0 := by
  have h30 : σ.regs[(30 : Fin 31)] = some (sentinel 30) := R.regs 30 (by decide)
  have hall : ∀ k, k < 11 → σ.regs[19 + k]? = some (some (sentinel (19 + k))) := by
    intro k hk
    have hlt : 19 + k < 31 := by omega
    have := R.regs ⟨19 + k, hlt⟩ (by simp)
    rw [Vector.getElem?_eq_getElem hlt]
    exact congrArg some this
  have hfind : (List.range 11).find? (fun k => σ.regs[19 + k]? != some (some (sentinel (19 + k)))) = none := by
    rw [List.find?_eq_none]
    intro k hk
    simp only [List.mem_range] at hk
    simp [hall k hk]
  cases h0 : σ.regs[(0 : Fin 31)] with
  | none => right; simp [exitCheck, h30, R.sp, hfind, h0]
  | some v => left; exact ⟨v, by simp [exitCheck, h30, R.sp, hfind, h0]⟩

theorem spOkS_of_core (H : CfgCC c) {σ : State} (C : Core c σ) : SpOkS c 144 σ := by
  have ht := H.ok.top
  have hr := H.room
  have h16 := H.top16
  have hS := C.spNat H
  exact ⟨by rw [hS]; omega, by rw [hS]; omega, by rw [hS, SPILL_SPACE_eq]; omega, H.ok.disjoint, H.ok.top⟩

theorem save_facts (ctx : Ctx) :
    let fb := (callerSaveRegistersInfo ctx).1
    let regs := (callerSaveRegistersInfo ctx).2
    (∀ r ∈ regs, r < 30) ∧ regs.Nodup ∧ regs.length ≤ 17 ∧ pushedCount fb regs ≤ 18 ∧
    pushedCount fb regs % 2 = 0 ∧
    (∀ p ∈ saveMoves fb regs, p.1 < 30 ∧ p.2 < 30) ∧
    (∀ p ∈ saveMoves fb regs, ∀ q ∈ saveMoves fb regs, p.1 ≠ q.2) := by
  intro fb regs
  have hip := info_props false ctx
  have hfb : 18 ≤ fb := by
    have := hip.fb_eq
    show 18 ≤ (callerSaveRegistersInfoG false ctx).1
    rw [this]; omega
  have hr30 : ∀ r ∈ regs, r < 30 := fun r hr => by have := hip.cls r hr; omega
  have hu2 := backupUsed_le' fb regs
  obtain ⟨_, _, hre3⟩ := roundEven_props (regs.length - backupUsed fb regs)
  have hm1_tgt : ∀ p ∈ saveMoves fb regs, 18 ≤ p.1 ∧ p.1 ≤ 28 := by
    intro p hp
    obtain ⟨h1, h2, h3⟩ := mem_saveMoves hp
    omega
  refine ⟨hr30, hip.nodup, hip.len, pushedCount_le fb regs hip.len, hre3, ?_, ?_⟩
  · intro p hp
    obtain ⟨h1, h2, h3⟩ := mem_saveMoves hp
    exact ⟨by have := hm1_tgt p hp; omega, hr30 _ (List.mem_of_mem_take h3)⟩
  · intro p hp q hq
    have := hm1_tgt p hp
    obtain ⟨_, _, h3⟩ := mem_saveMoves hq
    have := hip.cls _ (List.mem_of_mem_take h3)
    omega

/-- the part of a print block before the call runs for ANY register contents; afterwards `SP` is the
    boundary `SP` minus an EVEN number of words and the stack from the boundary `SP` upwards is unchanged -/
theorem before_exec (H : CfgCC c) {ctx : Ctx} {t : Temporary} (hs : PrintSrc ctx t) {σ : State} (C : Core c σ) :
    ∃ σ4, execCodes c (blockBefore t ctx) σ = .ok σ4 ∧
      σ4.sp.toNat = (c.stackTop - 96 - 2048) -
        8 * pushedCount (callerSaveRegistersInfo ctx).1 (callerSaveRegistersInfo ctx).2 ∧
      (∀ a, c.stackTop - 96 - 2048 ≤ a → σ4.slot a = σ.slot a) := by
  obtain ⟨hr30, hnd, hlen, hpc, _, hm_lt, hm_disj⟩ := save_facts ctx
  generalize hfb : (callerSaveRegistersInfo ctx).1 = fb at *
  generalize hregs : (callerSaveRegistersInfo ctx).2 = regs at *
  have ht := H.ok.top
  have hr := H.room
  have h16 := H.top16
  have hS := C.spNat H
  have hok : t.ok = true := by
    obtain ⟨pos, c0, c1, _, hrun⟩ := hs
    exact post_temporaryFromPosition _ c0 t c1 hrun
  -- step 0: staging of a spilled argument
  have h0 : ∃ σ0, execCodes c (printPre t) σ = .ok σ0 ∧ σ0.sp = σ.sp ∧ (∀ a, σ0.slot a = σ.slot a) := by
    rcases ok_cases hok with ⟨n, rfl, hn⟩ | ⟨p, rfl, hp⟩
    · exact ⟨σ, rfl, rfl, fun _ => rfl⟩
    · have hspok := spOkS_of_core H C
      refine ⟨σ.setReg xT (σ.slot (σ.slotAddr p)), ?_, rfl, fun _ => rfl⟩
      simp only [printPre, moveToRegister, execCodes, execCode_COMMENT, TEMP,
        execCode_LDR_sp xreg_TEMP, exec_ldr_slot c 144 σ xT p hspok (by rw [SPILL_NUM_eq]; exact hp)]
  obtain ⟨σ0, e0, hsp0, hsl0⟩ := h0
  -- step 1: the moves into the backup registers
  obtain ⟨σ1, e1, hsp1, _, hsl1, _, _⟩ :=
    exec_moveCodes c (saveMoves fb regs) σ0 hm_lt hm_disj (saveMoves_fst_nodup fb regs)
  have hS1 : σ1.sp.toNat = c.stackTop - 96 - 2048 := by rw [hsp1, hsp0]; exact hS
  -- steps 2–3: the stores
  obtain ⟨σ3, e3, hS3, _, _, _, habove3⟩ :=
    push_phase H.ok fb regs σ1 _ hS1 (by omega) (by omega) (by omega) hr30 (by omega)
  -- step 4: the argument
  have h4 : ∃ σ4, execCodes c [Code.COMMENT "#move argument into place", printArgMove t] σ3 = .ok σ4 ∧
      σ4.sp = σ3.sp ∧ (∀ a, σ4.slot a = σ3.slot a) := by
    have hx0 : xreg 0 = some (0 : Fin 31) := by decide
    rcases ok_cases hok with ⟨n, rfl, hn⟩ | ⟨p, rfl, hp⟩
    · refine ⟨σ3.setReg 0 (σ3.reg (ar n)), ?_, rfl, fun _ => rfl⟩
      simp only [printArgMove, execCodes, execCode_COMMENT, execCode_MOVR hx0 (xreg_ar hn), exec_mov_x]
    · refine ⟨σ3.setReg 0 (σ3.reg xT), ?_, rfl, fun _ => rfl⟩
      simp only [printArgMove, execCodes, execCode_COMMENT, TEMP, execCode_MOVR hx0 xreg_TEMP, exec_mov_x]
  obtain ⟨σ4, e4, hsp4, hsl4⟩ := h4
  refine ⟨σ4, ?_, by rw [hsp4]; exact hS3, ?_⟩
  · unfold blockBefore
    rw [hfb, hregs, save_decompose]
    rw [List.append_assoc, List.append_assoc, execCodes_append c _ _ _ _ e0]
    rw [show ([Code.COMMENT "#save caller-save registers"] ++
        ((moveCodes (saveMoves fb regs) ++
          if regs.length - backupUsed fb regs > 0 then
            [Code.SUBI .sp .sp (address (pushedCount fb regs))] ++ strCodes (pushItems fb regs) else []) ++
        [Code.COMMENT "#move argument into place", printArgMove t])) =
        Code.COMMENT "#save caller-save registers" :: (moveCodes (saveMoves fb regs) ++
          ((if regs.length - backupUsed fb regs > 0 then
            [Code.SUBI .sp .sp (address (pushedCount fb regs))] ++ strCodes (pushItems fb regs) else []) ++
          [Code.COMMENT "#move argument into place", printArgMove t])) from by simp]
    rw [execCodes_cons c _ _ _ _ (execCode_COMMENT c _ σ0), execCodes_append c _ _ _ _ e1,
      execCodes_append c _ _ _ _ e3]
    exact e4
  · intro a ha
    rw [hsl4, habove3 a ha, hsl1, hsl0]

/-- the part of a print block after the call, from ANY state whose `SP` is where the save sequence
    left it: it runs and puts `SP` back; the stack is not written -/
theorem after_exec (H : CfgCC c) (ctx : Ctx) {σ5 : State}
    (hS5 : σ5.sp.toNat = (c.stackTop - 96 - 2048) -
      8 * pushedCount (callerSaveRegistersInfo ctx).1 (callerSaveRegistersInfo ctx).2) :
    ∃ σ8, execCodes c (blockAfter ctx) σ5 = .ok σ8 ∧ σ8.sp.toNat = c.stackTop - 96 - 2048 ∧
      (∀ a, σ8.slot a = σ5.slot a) := by
  obtain ⟨hr30, hnd, hlen, hpc, _, hm_lt, hm_disj⟩ := save_facts ctx
  generalize hfb : (callerSaveRegistersInfo ctx).1 = fb at *
  generalize hregs : (callerSaveRegistersInfo ctx).2 = regs at *
  have ht := H.ok.top
  have hr := H.room
  have h16 := H.top16
  have hm2_lt : ∀ p ∈ (saveMoves fb regs).map (fun p => (p.2, p.1)), p.1 < 30 ∧ p.2 < 30 := by
    intro p hp
    simp only [List.mem_map] at hp
    obtain ⟨q, hq, rfl⟩ := hp
    exact ⟨(hm_lt q hq).2, (hm_lt q hq).1⟩
  have hm2_disj : ∀ p ∈ (saveMoves fb regs).map (fun p => (p.2, p.1)),
      ∀ q ∈ (saveMoves fb regs).map (fun p => (p.2, p.1)), p.1 ≠ q.2 := by
    intro p hp q hq
    simp only [List.mem_map] at hp hq
    obtain ⟨p', hp', rfl⟩ := hp
    obtain ⟨q', hq', rfl⟩ := hq
    exact fun e => hm_disj q' hq' p' hp' e.symm
  have hm2_nd : (((saveMoves fb regs).map (fun p => (p.2, p.1))).map (·.1)).Nodup := by
    rw [List.map_map]
    have : ((fun x : Nat × Nat => x.1) ∘ fun p : Nat × Nat => (p.2, p.1)) = (·.2) := rfl
    rw [this, saveMoves_snd]
    exact hnd.sublist (List.take_sublist _ _)
  obtain ⟨σ6, e6, hsp6, _, hsl6, _, _⟩ :=
    exec_moveCodes c ((saveMoves fb regs).map (fun p => (p.2, p.1))) σ5 hm2_lt hm2_disj hm2_nd
  have hS6 : σ6.sp.toNat = (c.stackTop - 96 - 2048) - 8 * pushedCount fb regs := by rw [hsp6]; exact hS5
  obtain ⟨σ8, e8, hS8, _, hsl8, _, _⟩ :=
    pop_phase H.ok fb regs σ6 _ hS6 (by omega) (by omega) (by omega) hr30 hnd (by omega)
  refine ⟨σ8, ?_, hS8, fun a => by rw [hsl8, hsl6]⟩
  unfold blockAfter
  rw [hfb, hregs, restore_decompose, execCodes_cons c _ _ _ _ (execCode_COMMENT c _ σ5),
    execCodes_append c _ _ _ _ e6]
  exact e8

theorem noBL_blockBefore (t : Temporary) (ctx : Ctx) : ∀ code ∈ blockBefore t ctx, code.isBL = false :=
  noCall_blockBefore t ctx

/-- A PRINT BLOCK KEEPS THE INVARIANT, whatever the registers hold: the save sequence always runs, the
    call is made with `SP ≡ 0 (mod 16)` (the only error it can raise is an undefined argument), every
    SP-based access of the block is made with `SP ≡ 0 (mod 16)`, and the restore sequence puts `SP` back;
    the save area is never touched -/
theorem block_future (H : CfgCC c) {ctx : Ctx} {t : Temporary} (hs : PrintSrc ctx t) (nl : Bool)
    {σ : State} (C : Core c σ) : Future c (Core c) (printI64 nl t ctx) σ := by
  have ht := H.ok.top
  have hr := H.room
  have h16 := H.top16
  obtain ⟨_, _, _, hpc, hpar, _, _⟩ := save_facts ctx
  obtain ⟨σ4, e4, hS4, hab4⟩ := before_exec H hs C
  rw [printI64_split]
  refine Future.ofCodes (noBL_blockBefore t ctx) e4 ?_
  unfold Future
  have hext : isExternal (printFn nl) = true := by cases nl <;> decide
  simp only [execCodesOut, hext, if_true]
  have hal4 : σ4.sp.toNat % 16 = 0 := by rw [hS4]; omega
  cases h0 : σ4.reg 0 with
  | none =>
    have : σ4.callExternal = .error s!"read-undefined X{(0 : Fin 31).val}" := by
      have hrd : σ4.rdX 0 = .error s!"read-undefined X{(0 : Fin 31).val}" := by rw [rdX_reg]; simp [h0]
      simp [State.callExternal, hal4, hrd]
    rw [this]
    exact (merr_undefX 0).okErr
  | some w =>
    rw [callExternal_ok σ4 w hal4 h0]
    dsimp only
    have hS5 : σ4.clobberCall.sp.toNat = (c.stackTop - 96 - 2048) -
        8 * pushedCount (callerSaveRegistersInfo ctx).1 (callerSaveRegistersInfo ctx).2 := by
      rw [clobberCall_sp]; exact hS4
    obtain ⟨σ8, e8, hS8, hsl8⟩ := after_exec H ctx hS5
    have hrest := execCodesOut_pure c (blockAfter ctx) [] σ4.clobberCall σ8 (noCall_blockAfter ctx) e8
    rw [List.append_nil] at hrest
    rw [hrest]
    simp only [execCodesOut]
    refine ⟨?_, ?_⟩
    · apply BitVec.eq_of_toNat_eq
      rw [hS8, BitVec.toNat_ofNat]
      have h64 : (2:Nat)^64 = 18446744073709551616 := by decide
      omega
    · have hkeep : ∀ a, c.stackTop - 96 ≤ a → σ8.slot a = σ.slot a := by
        intro a ha
        rw [hsl8, clobberCall_slot]
        have : σ4.sp.toNat ≤ a := by rw [hS4]; omega
        rw [if_pos this, hab4 a (by omega)]
      intro k hk
      rw [hkeep _ (by omega), hkeep _ (by omega)]
      exact C.saved k hk

end Segs

end Scc.A64.CC
