/-
  Scc.A64.MemProofsHeap — the view (MemProofsView.lean) against the heap model Scc/Heap/Model.lean:
  `HeapRel` / `HRelM` (a machine / view state represents an abstract heap), the primitive accesses
  (`rd`/`wr` of the model = heap loads / stores of the view), the register through which memory.rs reaches
  the block of a temporary (`Mem.shareReg`, `loadPtr`), and the contracts of `share_block_n` and `erase_block`
  (memory.rs of axcut2aarch64) against `Scc.Heap.shareBlock` / `eraseBlock` — first on the view (`m_share`,
  `m_erase`), then on the machine (`shareBlockN_contract`, `eraseBlock_contract`).
  Heap-model words are unbounded naturals: the contract of `share_block_n` assumes that the
  incremented count stays below 2^64 (the model does not wrap).
-/
import Scc.A64.MemProofsView
import Scc.A64.MemCode
import Scc.Heap.Access
import Scc.Backend.ProofsGen

set_option linter.unusedSimpArgs false

namespace Scc.A64

export Scc.Heap (heap_storeFields_nil heap_storeFields_cons relStep heap_loadFields_nil heap_loadFields_cons)

open Scc.Backend (GenM TempNum freshLabel)
open Scc.Heap (HOk rd_eq_ok wr_eq_ok)

theorem TEMP_eq : TEMP = .x 2 := rfl
theorem TEMP2_eq : TEMP2 = .x 3 := rfl
theorem HEAP_eq : HEAP = .x 0 := rfl
theorem FREE_eq : FREE = .x 1 := rfl
theorem TEMPORARY_TEMP_eq : TEMPORARY_TEMP = .x 10 := rfl
theorem SPILL_TEMP_eq : SPILL_TEMP = 0 := rfl
theorem refcount_zero : REFERENCE_COUNT_OFFSET = 0 := by decide
theorem next_zero : NEXT_ELEMENT_OFFSET = 0 := by decide

/-- machine state `σ` represents the abstract heap `h`: same region, same words (as naturals),
HEAP (X0) and FREE (X1) hold the two list heads -/
structure HeapRel (c : MemCfg) (σ : State) (h : Scc.Heap.HState) : Prop where
  base : h.base = c.heapBase
  limit : h.limit = c.heapBase + c.heapBytes
  mem : ∀ a, h.mem.get a = (σ.heap.getD a 0).toNat
  heap : ∃ w, σ.tempVal (.register HEAP) = some w ∧ w.toNat = h.heap
  free : ∃ w, σ.tempVal (.register FREE) = some w ∧ w.toNat = h.free

/-- view state `μ` represents the abstract heap `h` -/
structure HRelM (c : MemCfg) (μ : MState) (h : Scc.Heap.HState) : Prop where
  base : h.base = c.heapBase
  limit : h.limit = c.heapBase + c.heapBytes
  mem : ∀ a, h.mem.get a = (μ.heap a).toNat
  heap : ∃ w, μ.val (.register (.x 0)) = some w ∧ w.toNat = h.heap
  free : ∃ w, μ.val (.register (.x 1)) = some w ∧ w.toNat = h.free

theorem heapRel_mview {c : MemCfg} {σ : State} {h : Scc.Heap.HState} (R : HeapRel c σ h) :
    HRelM c (mview σ) h :=
  ⟨R.base, R.limit, R.mem, R.heap, R.free⟩

theorem heapRel_of_mrep {c : MemCfg} {room : Nat} {σ : State} {μ : MState} {h : Scc.Heap.HState}
    (M : MRep c room σ μ) (H : HRelM c μ h) : HeapRel c σ h := by
  obtain ⟨wh, hwh, ewh⟩ := H.heap
  obtain ⟨wf, hwf, ewf⟩ := H.free
  refine ⟨H.base, H.limit, fun a => by rw [M.heap]; exact H.mem a,
    ⟨wh, by rw [HEAP_eq, M.vals (.register (.x 0)) (show (0 : Nat) < 30 by decide)]; exact hwh, ewh⟩,
    ⟨wf, by rw [FREE_eq, M.vals (.register (.x 1)) (show (1 : Nat) < 30 by decide)]; exact hwf, ewf⟩⟩

/-- the heap region is 8-aligned and heap addresses never wrap (not even the frontier one block
beyond the last word) -/
structure HeapCfgOK (c : MemCfg) : Prop where
  base8 : c.heapBase % 8 = 0
  top : c.heapBase + c.heapBytes + 64 ≤ 2 ^ 64

theorem heapCfgOK_of_spOk {c : MemCfg} {sp : Word} {room : Nat} (h8 : c.heapBase % 8 = 0)
    (B : SpOk c sp room) : HeapCfgOK c := by
  refine ⟨h8, ?_⟩
  have h1 := B.disjoint
  have h2 := B.top
  have h3 := B.low
  have h4 := B.high
  rw [SPILL_SPACE_eq] at h4
  omega

section Prim
variable {c : MemCfg} {μ : MState} {h : Scc.Heap.HState}

theorem toNat_add_imm_nat (x : Word) (off : Nat) (h : x.toNat + off < 2 ^ 64) :
    (x + imm (off : Int)).toNat = x.toNat + off := by
  rw [imm, BitVec.ofInt_natCast, BitVec.toNat_add, BitVec.toNat_ofNat]
  omega

theorem haddr_ok (C : HeapCfgOK c) (H : HRelM c μ h) {x : Word} {off : Nat} (ho : off ≤ 32760)
    (ho8 : off % 8 = 0) (hok : HOk h (x.toNat + off)) : haddr c x (off : Int) = some (x.toNat + off) := by
  obtain ⟨h1, h2, h3⟩ := hok
  rw [H.base] at h1 h3
  rw [H.limit] at h2
  have hb := C.base8
  have ht := C.top
  have hfit : okOff (off : Int) = true := by
    simp only [okOff, Bool.and_eq_true, decide_eq_true_eq]; omega
  have hsum : (x + imm (off : Int)).toNat = x.toNat + off := toNat_add_imm_nat x off (by omega)
  unfold haddr
  rw [hsum, if_pos]
  refine ⟨hfit, by omega, ?_⟩
  simp only [inHeap, Bool.and_eq_true, decide_eq_true_eq]
  omega

theorem haddr_ok0 (C : HeapCfgOK c) (H : HRelM c μ h) {x : Word} (hok : HOk h x.toNat) :
    haddr c x 0 = some x.toNat := by
  have := haddr_ok C H (x := x) (off := 0) (by decide) (by decide) (by simpa using hok)
  simpa using this

theorem HRelM.setH (H : HRelM c μ h) (a : Nat) (w : Word) :
    HRelM c (μ.setH a w) { h with mem := h.mem.set a w.toNat } := by
  refine ⟨H.base, H.limit, fun b => ?_, H.heap, H.free⟩
  simp only [Scc.Heap.Mem.get_set, MState.setH_heap]
  by_cases e : a = b
  · subst e; simp
  · have : ¬ b = a := fun h => e h.symm
    simp [e, this, H.mem b]

theorem HRelM.setF (H : HRelM c μ h) (f : Option (Word × Word)) : HRelM c (μ.setF f) h :=
  ⟨H.base, H.limit, H.mem, H.heap, H.free⟩

theorem HRelM.setT (H : HRelM c μ h) {t : Temporary} (h1 : t ≠ .register (.x 0)) (h2 : t ≠ .register (.x 1))
    (v : Option Word) : HRelM c (μ.setT t v) h := by
  obtain ⟨wh, hwh, ewh⟩ := H.heap
  obtain ⟨wf, hwf, ewf⟩ := H.free
  exact ⟨H.base, H.limit, H.mem, ⟨wh, by simp [Ne.symm h1, hwh], ewh⟩, ⟨wf, by simp [Ne.symm h2, hwf], ewf⟩⟩

theorem maddr_eq {r : Nat} (hr : r < 30) {x : Word} (hv : μ.val (.register (.x r)) = some x) (i : Int) :
    maddr c μ (.x r) i = haddr c x i := by
  simp [maddr, hr, hv]

theorem toNat_sub_one (w : Word) (h : w ≠ 0) : (w - imm 1).toNat = w.toNat - 1 := by
  have h0 : w.toNat ≠ 0 := fun e => h (BitVec.eq_of_toNat_eq (by simpa using e))
  have hlt : w.toNat < 2 ^ 64 := w.isLt
  have : (imm 1).toNat = 1 := by decide
  rw [BitVec.toNat_sub, this]
  omega

theorem imm_zero : imm 0 = 0#64 := by decide

theorem reg_ne {r s : Nat} (h : r ≠ s) : ¬ Temporary.register (.x r) = .register (.x s) :=
  fun e => h (by simpa using e)

end Prim

/-- the instruction that brings a spilled pointer into TEMP -/
def loadPtr : Temporary → List Code
  | .register _ => []
  | .spill p => [.LDR TEMP .sp (stackOffset p)]

/-- memory.rs share_block_n for the pointer in register `r` -/
def shareCode (r : Register) (n : Nat) (l : String) : List Code :=
  [.CMPI r 0, .BEQ l] ++
    [.COMMENT "####increment refcount", .LDR TEMP2 r REFERENCE_COUNT_OFFSET, .ADDI TEMP2 TEMP2 (n : Int),
     .STR TEMP2 r REFERENCE_COUNT_OFFSET] ++ [.LAB l]

/-- memory.rs share_block_n: shape of the code, both placements at once (`Mem.shareBlockN_run` gives the same
run with the code as the function `Mem.shareBlockNC`; here it is spelt with `shareCode` of a register) -/
theorem shareBlockN_run (t : Temporary) (n k : Nat) :
    (shareBlockN t n).run k = .ok (loadPtr t ++ shareCode (Mem.shareReg t) n (labName (k + 1)), k + 1) := by
  cases t <;> rfl

/-- erase_valid_object for the pointer in register `r` (labels `l1` = then, `l2` = end) -/
def eraseInner (r : Register) (l1 l2 : String) : List Code :=
  [.CMPI TEMP2 0, .BEQ l1] ++
    [.COMMENT "######either decrement refcount ...", .SUBI TEMP2 TEMP2 1, .STR TEMP2 r REFERENCE_COUNT_OFFSET] ++
    [.B l2, .LAB l1] ++
    [.COMMENT "######... or add block to lazy free list", .STR FREE r NEXT_ELEMENT_OFFSET, .MOVR FREE r] ++
    [.LAB l2]

/-- erase_block for the pointer in register `r` -/
def eraseCode (r : Register) (l1 l2 l3 : String) : List Code :=
  [.CMPI r 0, .BEQ l3] ++
    ([.COMMENT "######check refcount", .LDR TEMP2 r REFERENCE_COUNT_OFFSET] ++ eraseInner r l1 l2) ++ [.LAB l3]

/-- memory.rs erase_block: shape of the code, both placements at once (`Mem.eraseBlock_run` gives the same run
with the code as the function `Mem.eraseBlockC`; here it is spelt with `eraseCode` of a register) -/
theorem eraseBlock_run (t : Temporary) (k : Nat) :
    (eraseBlock t).run k =
      .ok (loadPtr t ++ eraseCode (Mem.shareReg t) (labName (k + 1)) (labName (k + 2)) (labName (k + 3)), k + 3) := by
  cases t <;> rfl

theorem labsIn_eraseCode (r : Register) (k : Nat) :
    LabsIn (eraseCode r (labName (k + 1)) (labName (k + 2)) (labName (k + 3))) k (k + 3) := by
  intro l h
  simp only [eraseCode, eraseInner, List.mem_cons, List.mem_append, reduceCtorEq, false_or, or_false,
    Code.LAB.injEq, List.not_mem_nil] at h
  rcases h with (h | h) | h
  · exact ⟨k + 1, h, by omega, by omega⟩
  · exact ⟨k + 2, h, by omega, by omega⟩
  · exact ⟨k + 3, h, by omega, by omega⟩

section ShareErase
variable {c : MemCfg} {μ : MState} {h h' : Scc.Heap.HState}

/-- the run of the non-null case of `share_block_n` (immediate as an `Int`) -/
theorem m_share_run {r : Nat} (hr : r < 30) (hr3 : r ≠ 3) {p : Word}
    (hv : μ.val (.register (.x r)) = some p) (hpz : ¬ p = 0#64) (ha : haddr c p 0 = some p.toNat)
    {i : Int} (hin : okImm12 i = true) (l : String) :
    mFwd c ([.CMPI (.x r) 0, .BEQ l] ++
      [.COMMENT "####increment refcount", .LDR TEMP2 (.x r) REFERENCE_COUNT_OFFSET, .ADDI TEMP2 TEMP2 i,
       .STR TEMP2 (.x r) REFERENCE_COUNT_OFFSET] ++ [.LAB l]) μ =
      some ((((μ.setF (some (p, imm 0))).setT (.register (.x 3)) (some (μ.heap p.toNat))).setT
          (.register (.x 3)) (some (μ.heap p.toNat + imm i))).setH p.toNat (μ.heap p.toNat + imm i), .next) := by
  have hro : regOpnd (.x r) = some (.register (.x r)) := regOpnd_of hr
  have hi0 : okImm12 0 = true := by decide
  have hr3' : ¬ Temporary.register (.x r) = .register (.x 3) := reg_ne hr3
  simp [mFwd_cons, mFwd_nil, mcont, mexecC, mexec, hro, hv, skipTo, hi0, imm_zero, hpz,
    TEMP2_eq, regOpnd, refcount_zero, maddr, hr, ha, hr3', hin, srcVal]

/-- CONTRACT of `share_block_n` on the view, pointer in ANY register `X(r)` other than TEMP2: the code
runs to its end, the result represents `Scc.Heap.shareBlock`, only TEMP2, the flags and the header
word change -/
theorem m_share (C : HeapCfgOK c) (H : HRelM c μ h) {r : Nat} (hr : r < 30) (hr3 : r ≠ 3) {p : Word}
    (hv : μ.val (.register (.x r)) = some p) {n : Nat} (hn : n < 4096)
    (hop : Scc.Heap.shareBlock h p.toNat n = .ok h') (hno : p ≠ 0 → h.mem.get p.toNat + n < 2 ^ 64) (l : String) :
    ∃ μ', mFwd c (shareCode (.x r) n l) μ = some (μ', .next) ∧ HRelM c μ' h' ∧
      (∀ u, u ≠ .register (.x 3) → μ'.val u = μ.val u) := by
  have hro : regOpnd (.x r) = some (.register (.x r)) := regOpnd_of hr
  have hi0 : okImm12 0 = true := by decide
  by_cases hp : p = 0
  · subst hp
    have : h' = h := by
      simp [Scc.Heap.shareBlock] at hop
      exact hop.symm
    subst this
    refine ⟨μ.setF (some (0, imm 0)), ?_, H.setF _, fun _ _ => rfl⟩
    simp [shareCode, mFwd_cons, mFwd_nil, mcont, mexecC, mexec, hro, hv, skipTo, hi0, imm_zero]
  · have hp' : p.toNat ≠ 0 := fun e => hp (BitVec.eq_of_toNat_eq (by simpa using e))
    have hpz : ¬ p = 0#64 := hp
    unfold Scc.Heap.shareBlock at hop
    rw [if_neg hp'] at hop
    cases hrd : Scc.Heap.rd h p.toNat with
    | error f => simp [hrd] at hop
    | ok cnt =>
      simp only [hrd] at hop
      obtain ⟨hok, hcnt⟩ := rd_eq_ok.1 hrd
      obtain ⟨_, rfl⟩ := wr_eq_ok.1 hop
      have ha : haddr c p 0 = some p.toNat := haddr_ok0 C H hok
      have hin : okImm12 (n : Int) = true := by
        simp only [okImm12, Bool.and_eq_true, decide_eq_true_eq]; omega
      have hr3' : ¬ Temporary.register (.x r) = .register (.x 3) := reg_ne hr3
      have hw : (μ.heap p.toNat + imm (n : Int)).toNat = cnt + n := by
        rw [toNat_add_imm_nat _ _ (by rw [← H.mem]; exact hno hp), hcnt, H.mem]
      refine ⟨(((μ.setF (some (p, imm 0))).setT (.register (.x 3)) (some (μ.heap p.toNat))).setT
          (.register (.x 3)) (some (μ.heap p.toNat + imm (n : Int)))).setH p.toNat
          (μ.heap p.toNat + imm (n : Int)), ?_, ?_, ?_⟩
      · exact m_share_run hr hr3 hv hpz ha hin l
      · have := (((H.setF (some (p, imm 0))).setT (t := .register (.x 3)) (by simp) (by simp)
          (some (μ.heap p.toNat))).setT (t := .register (.x 3)) (by simp) (by simp)
          (some (μ.heap p.toNat + imm (n : Int)))).setH p.toNat (μ.heap p.toNat + imm (n : Int))
        rw [hw] at this
        exact this
      · intro u hu
        simp [hu]

theorem m_erase_null {r : Nat} (hr : r < 30) (hv : μ.val (.register (.x r)) = some 0)
    (l1 l2 l3 : String) (h13 : l1 ≠ l3) (h23 : l2 ≠ l3) :
    mFwd c (eraseCode (.x r) l1 l2 l3) μ = some (μ.setF (some (0, 0)), .next) := by
  have hro : regOpnd (.x r) = some (.register (.x r)) := regOpnd_of hr
  have hi0 : okImm12 0 = true := by decide
  simp [eraseCode, eraseInner, mFwd_cons, mFwd_nil, mcont, mexecC, mexec, hro, hv, skipTo, h13, h23,
    hi0, imm_zero]

/-- CONTRACT of `erase_block` on the view, pointer in ANY register `X(r)` other than TEMP2 and FREE (also TEMP):
the code runs to its end, the result represents `Scc.Heap.eraseBlock`, only TEMP2, FREE, the flags
and the header word change -/
theorem m_erase (C : HeapCfgOK c) (H : HRelM c μ h) {r : Nat} (hr : r < 30) (hr3 : r ≠ 3) (hr1 : r ≠ 1) {p : Word}
    (hv : μ.val (.register (.x r)) = some p) (hop : Scc.Heap.eraseBlock h p.toNat = .ok h')
    (l1 l2 l3 : String) (h12 : l1 ≠ l2) (h13 : l1 ≠ l3) (h23 : l2 ≠ l3) :
    ∃ μ', mFwd c (eraseCode (.x r) l1 l2 l3) μ = some (μ', .next) ∧ HRelM c μ' h' ∧
      (∀ u, u ≠ .register (.x 1) → u ≠ .register (.x 3) → μ'.val u = μ.val u) := by
  by_cases hp : p = 0
  · subst hp
    have : h' = h := by
      simp [Scc.Heap.eraseBlock] at hop
      exact hop.symm
    subst this
    exact ⟨_, m_erase_null hr hv l1 l2 l3 h13 h23, H.setF _, fun _ _ _ => rfl⟩
  · have hp' : p.toNat ≠ 0 := fun e => hp (BitVec.eq_of_toNat_eq (by simpa using e))
    have hro : regOpnd (.x r) = some (.register (.x r)) := regOpnd_of hr
    have hpz : ¬ p = 0#64 := hp
    have hi0 : okImm12 0 = true := by decide
    have hi1 : okImm12 1 = true := by decide
    have hr3' : ¬ Temporary.register (.x r) = .register (.x 3) := reg_ne hr3
    unfold Scc.Heap.eraseBlock at hop
    rw [if_neg hp'] at hop
    cases hrd : Scc.Heap.rd h p.toNat with
    | error f => simp [hrd] at hop
    | ok cnt =>
      simp only [hrd] at hop
      obtain ⟨hok, hcnt⟩ := rd_eq_ok.1 hrd
      have ha : haddr c p 0 = some p.toNat := haddr_ok0 C H hok
      obtain ⟨wf, hwf, ewf⟩ := H.free
      by_cases hc0 : cnt = 0
      · subst hc0
        have hw0 : μ.heap p.toNat = 0#64 := BitVec.eq_of_toNat_eq (by rw [← H.mem, ← hcnt]; rfl)
        simp only [if_true] at hop
        cases hwr : Scc.Heap.wr h p.toNat h.free with
        | error e => simp [hwr] at hop
        | ok hh =>
          simp only [hwr, Except.ok.injEq] at hop
          obtain ⟨_, rfl⟩ := wr_eq_ok.1 hwr
          subst hop
          have hr1' : ¬ Temporary.register (.x r) = .register (.x 1) := reg_ne hr1
          refine ⟨(((μ.setF (some (p, 0))).setT (.register (.x 3)) (some 0#64)).setF (some (0, 0))).setH
            p.toNat wf |>.setT (.register (.x 1)) (some p), ?_, ?_, ?_⟩
          · simp [eraseCode, eraseInner, mFwd_cons, mFwd_nil, mcont, mexecC, mexec, hro, hv, skipTo, h12, h13,
              h23, hi0, hi1, imm_zero, hpz, TEMP2_eq, FREE_eq, regOpnd, refcount_zero, next_zero, maddr, hr, ha,
              hw0, hr3', hr1', srcVal, hwf]
          · obtain ⟨wh, hwh, ewh⟩ := H.heap
            have := (H.setF (some (0, 0))).setH p.toNat wf
            rw [ewf] at this
            exact ⟨this.base, this.limit, this.mem, ⟨wh, by simp [hwh], ewh⟩, ⟨p, by simp, rfl⟩⟩
          · intro u hu hu3
            simp [hu, hu3]
      · have hw0 : ¬ μ.heap p.toNat = 0#64 := fun e => hc0 (by rw [hcnt, H.mem, e]; rfl)
        rw [if_neg hc0] at hop
        obtain ⟨_, rfl⟩ := wr_eq_ok.1 hop
        have hw : (μ.heap p.toNat - imm 1).toNat = cnt - 1 := by
          rw [toNat_sub_one _ hw0, hcnt, H.mem]
        refine ⟨((((μ.setF (some (p, 0))).setT (.register (.x 3)) (some (μ.heap p.toNat))).setF
            (some (μ.heap p.toNat, 0))).setT (.register (.x 3)) (some (μ.heap p.toNat - imm 1))).setH p.toNat
            (μ.heap p.toNat - imm 1), ?_, ?_, ?_⟩
        · simp [eraseCode, eraseInner, mFwd_cons, mFwd_nil, mcont, mexecC, mexec, hro, hv, skipTo, h12, h13,
            h23, hi0, hi1, imm_zero, hpz, TEMP2_eq, FREE_eq, regOpnd, refcount_zero, next_zero, maddr, hr, ha,
            hw0, hr3', srcVal]
        · have := ((((H.setF (some (p, 0))).setT (t := .register (.x 3)) (by simp) (by simp)
            (some (μ.heap p.toNat))).setF (some (μ.heap p.toNat, 0))).setT (t := .register (.x 3)) (by simp)
            (by simp) (some (μ.heap p.toNat - imm 1))).setH p.toNat (μ.heap p.toNat - imm 1)
          rw [hw] at this
          exact this
        · intro u _ hu3
          simp [hu3]

end ShareErase

/-! ## single steps with explicit hypotheses (no `simp` through `Nat → Int` casts) -/

section Steps
variable (c : MemCfg) {μ : MState}

theorem mFwd_step {cd : Code} {cs : List Code} {μ μ1 : MState} {r : Option (MState × Ctl)}
    (h1 : mexecC c cd μ = some (μ1, .next)) (h2 : mFwd c cs μ1 = r) : mFwd c (cd :: cs) μ = r := by
  rw [mFwd_cons, h1]
  simpa only [mcont] using h2

theorem mexecC_LDRh {rd rb : Nat} (hd : rd < 30) {i : Int} {a : Nat} (ha : maddr c μ (.x rb) i = some a) :
    mexecC c (.LDR (.x rd) (.x rb) i) μ = some (μ.setT (.register (.x rd)) (some (μ.heap a)), .next) := by
  simp [mexecC, mexec, regOpnd, hd, ha]

theorem mexecC_STRh {r : Register} {rb : Nat} {i : Int} {a : Nat} {v : Word} (hv : srcVal μ r = some v)
    (ha : maddr c μ (.x rb) i = some a) :
    mexecC c (.STR r (.x rb) i) μ = some (μ.setH a v, .next) := by
  simp [mexecC, mexec, hv, ha]

theorem mexecC_LDRs {rd p : Nat} (hd : rd < 30) (hp : p < 256) :
    mexecC c (.LDR (.x rd) .sp (stackOffset p)) μ =
      some (μ.setT (.register (.x rd)) (μ.val (.spill p)), .next) := by
  simp [mexecC, mexec, regOpnd, hd, spillOpnd_stackOffset hp]

theorem mexecC_STRs {rs p : Nat} (hs : rs < 30) (hp : p < 256) :
    mexecC c (.STR (.x rs) .sp (stackOffset p)) μ =
      some (μ.setT (.spill p) (μ.val (.register (.x rs))), .next) := by
  simp [mexecC, mexec, regOpnd, hs, spillOpnd_stackOffset hp]

theorem mexecC_MOVR {rd rs : Nat} (hd : rd < 30) (hs : rs < 30) :
    mexecC c (.MOVR (.x rd) (.x rs)) μ =
      some (μ.setT (.register (.x rd)) (μ.val (.register (.x rs))), .next) := by
  simp [mexecC, mexec, regOpnd, hd, hs]

end Steps

theorem isVar_opndOK {t : Temporary} (ht : t.isVar) : OpndOK t := by
  cases t with
  | register reg =>
    cases reg with
    | x r => exact (isVar_reg ht).2
    | sp => simp [Temporary.isVar] at ht
    | xzr => simp [Temporary.isVar] at ht
  | spill p => exact (isVar_spill ht).2

/-- a variable temporary is none of the reserved registers HEAP, FREE, TEMP, TEMP2 -/
theorem isVar_ne {t : Temporary} (ht : t.isVar) :
    t ≠ .register (.x 0) ∧ t ≠ .register (.x 1) ∧ t ≠ .register (.x 2) ∧ t ≠ .register (.x 3) := by
  cases t with
  | register reg =>
    cases reg with
    | x r =>
      have := (isVar_reg ht).1
      rw [RESERVED_eq] at this
      refine ⟨?_, ?_, ?_, ?_⟩ <;> (apply reg_ne; omega)
    | sp => simp [Temporary.isVar] at ht
    | xzr => simp [Temporary.isVar] at ht
  | spill p => simp

section LoadPtr
variable {c : MemCfg} {μ : MState} {h : Scc.Heap.HState}

/-- bringing the pointer of `t` into the register memory.rs works with -/
theorem m_loadPtr {t : Temporary} (ht : t.isVar) :
    ∃ r, Mem.shareReg t = .x r ∧ r < 30 ∧ 2 ≤ r ∧ r ≠ 3 ∧ NoLab (loadPtr t) ∧
      ∃ μ1, mFwd c (loadPtr t) μ = some (μ1, .next) ∧ μ1.val (.register (.x r)) = μ.val t ∧
        μ1.heap = μ.heap ∧ (∀ u, u ≠ .register (.x 2) → μ1.val u = μ.val u) := by
  cases t with
  | register reg =>
    cases reg with
    | x r =>
      obtain ⟨h1, h2⟩ := isVar_reg ht
      rw [RESERVED_eq] at h1
      exact ⟨r, rfl, h2, by omega, by omega, noLab_nil, μ, mFwd_nil c μ, rfl, rfl, fun _ _ => rfl⟩
    | sp => simp [Temporary.isVar] at ht
    | xzr => simp [Temporary.isVar] at ht
  | spill p =>
    obtain ⟨_, h2⟩ := isVar_spill ht
    refine ⟨2, rfl, by decide, by decide, by decide, fun l => by simp [loadPtr],
      μ.setT (.register (.x 2)) (μ.val (.spill p)), ?_, by simp, rfl, fun u hu => by simp [hu]⟩
    exact mFwd_step c (mexecC_LDRs c (by decide) h2) (mFwd_nil c _)

end LoadPtr

/-- CONTRACT of `share_block_n` (memory.rs) on the machine: whenever the heap model shares the block
`p` (`n` more references), the emitted code — pointer in a register or in a spill slot — runs to its
end from every state (SP in place) that represents the heap, and the final state represents the
model's result; only TEMP, TEMP2, the flags and that one heap word change; SP is unchanged. -/
theorem shareBlockN_contract {c : MemCfg} {room : Nat} {σ : State} (h8 : c.heapBase % 8 = 0)
    (B : SpOk c σ.sp room) {h h' : Scc.Heap.HState} (R : HeapRel c σ h) {t : Temporary} (ht : t.isVar)
    {p : Word} (hv : σ.tempVal t = some p) {n : Nat} (hn : n < 4096)
    (hop : Scc.Heap.shareBlock h p.toNat n = .ok h') (hno : p ≠ 0 → h.mem.get p.toNat + n < 2 ^ 64) (k : Nat) :
    ∃ code, (shareBlockN t n).run k = .ok (code, k + 1) ∧ LabsIn code k (k + 1) ∧
      ∃ σ', execFwd c code σ = .ok (σ', .next) ∧ SpOk c σ'.sp room ∧ HeapRel c σ' h' ∧
        FrameT σ σ' (fun u => u = .register TEMP ∨ u = .register TEMP2) := by
  have C := heapCfgOK_of_spOk h8 B
  have H := heapRel_mview R
  obtain ⟨r, hpr, hr, hr2, hr3, hnl, μ1, x1, v1, hp1, F1⟩ := m_loadPtr (c := c) (μ := mview σ) ht
  have H1 : HRelM c μ1 h := by
    obtain ⟨wh, hwh, ewh⟩ := H.heap
    obtain ⟨wf, hwf, ewf⟩ := H.free
    exact ⟨H.base, H.limit, fun a => by rw [hp1]; exact H.mem a,
      ⟨wh, by rw [F1 _ (by simp)]; exact hwh, ewh⟩, ⟨wf, by rw [F1 _ (by simp)]; exact hwf, ewf⟩⟩
  obtain ⟨μ2, x2, H2, F2⟩ := m_share C H1 hr hr3 (v1.trans hv) hn hop hno (labName (k + 1))
  refine ⟨_, shareBlockN_run t n k, ?_, ?_⟩
  · refine (hnl.labsIn _ _).append ?_
    intro l hl
    simp only [shareCode, List.mem_cons, List.mem_append, reduceCtorEq, false_or, or_false,
      Code.LAB.injEq, List.not_mem_nil] at hl
    exact ⟨k + 1, hl, by omega, by omega⟩
  · rw [hpr]
    obtain ⟨σ', e, B', M', F⟩ := m_to_machine B (mFwd_seq c x1 x2)
      (changed := fun u => u = .register TEMP ∨ u = .register TEMP2)
      (fun u hu => by
        rw [F2 u (fun e => hu (Or.inr e)), F1 u (fun e => hu (Or.inl e))])
    exact ⟨σ', e, B', heapRel_of_mrep M' H2, F⟩

/-- CONTRACT of `erase_block` (memory.rs) on the machine: whenever the heap model erases one reference
to `p` (null: nothing; count 0: the block goes onto the lazy free list and FREE := p; otherwise the
count is decremented), the emitted code — pointer in a register or in a spill slot — runs to its end
from every state that represents the heap, and the final state represents the model's result; only
TEMP, TEMP2, FREE, the flags and the header word of `p` change; SP is unchanged. -/
theorem eraseBlock_contract {c : MemCfg} {room : Nat} {σ : State} (h8 : c.heapBase % 8 = 0)
    (B : SpOk c σ.sp room) {h h' : Scc.Heap.HState} (R : HeapRel c σ h) {t : Temporary} (ht : t.isVar)
    {p : Word} (hv : σ.tempVal t = some p) (hop : Scc.Heap.eraseBlock h p.toNat = .ok h') (k : Nat) :
    ∃ code, (eraseBlock t).run k = .ok (code, k + 3) ∧ LabsIn code k (k + 3) ∧
      ∃ σ', execFwd c code σ = .ok (σ', .next) ∧ SpOk c σ'.sp room ∧ HeapRel c σ' h' ∧
        FrameT σ σ' (fun u => u = .register TEMP ∨ u = .register TEMP2 ∨ u = .register FREE) := by
  have C := heapCfgOK_of_spOk h8 B
  have H := heapRel_mview R
  have l12 : labName (k + 1) ≠ labName (k + 2) := fun e => by have := labName_inj.mp e; omega
  have l13 : labName (k + 1) ≠ labName (k + 3) := fun e => by have := labName_inj.mp e; omega
  have l23 : labName (k + 2) ≠ labName (k + 3) := fun e => by have := labName_inj.mp e; omega
  obtain ⟨r, hpr, hr, hr2, hr3, hnl, μ1, x1, v1, hp1, F1⟩ := m_loadPtr (c := c) (μ := mview σ) ht
  have H1 : HRelM c μ1 h := by
    obtain ⟨wh, hwh, ewh⟩ := H.heap
    obtain ⟨wf, hwf, ewf⟩ := H.free
    exact ⟨H.base, H.limit, fun a => by rw [hp1]; exact H.mem a,
      ⟨wh, by rw [F1 _ (by simp)]; exact hwh, ewh⟩, ⟨wf, by rw [F1 _ (by simp)]; exact hwf, ewf⟩⟩
  obtain ⟨μ2, x2, H2, F2⟩ := m_erase C H1 hr hr3 (by omega) (v1.trans hv) hop _ _ _ l12 l13 l23
  refine ⟨_, eraseBlock_run t k, (hnl.labsIn _ _).append (labsIn_eraseCode _ k), ?_⟩
  rw [hpr]
  obtain ⟨σ', e, B', M', F⟩ := m_to_machine B (mFwd_seq c x1 x2)
    (changed := fun u => u = .register TEMP ∨ u = .register TEMP2 ∨ u = .register FREE)
    (fun u hu => by
      rw [F2 u (fun e => hu (Or.inr (Or.inr e))) (fun e => hu (Or.inr (Or.inl e))),
        F1 u (fun e => hu (Or.inl e))])
  exact ⟨σ', e, B', heapRel_of_mrep M' H2, F⟩

end Scc.A64
