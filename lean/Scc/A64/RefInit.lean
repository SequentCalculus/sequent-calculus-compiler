/-
  Scc.A64.RefInit — Theorem B (AArch64): THE INITIAL STATE.  From the machine's entry state
  (`entryState`: AAPCS64 entry of `asm_main` with up to seven integer arguments in X1–X7, X0 = heap) the
  routine header (`preamble`, `setup` = prologue + `move_arguments` + free-pointer initialisation, the
  comment "actual code") leads to a state that represents the initial configuration of the abstract
  machine: argument `i` in `posTemp (2 i + 1)` = X(2 i + 5), SP at the boundary value, the callee-save
  area holding the entry values (sentinels) of X19–X30.  The walk through the header is done once, on states
  (`header_exec`, which also gives the heap view after the prologue); `init_sim` here and `K.init_sim3`
  (RefClosHInit.lean) read it as a run of the machine in their vocabulary of runs (`header_at`: where the header stands).
-/
import Scc.A64.RefRun
import Scc.A64.RefParam

set_option linter.unusedSimpArgs false

namespace Scc.A64.Ref

open Scc.Backend Scc.Backend.Abs Scc.A64.CC

theorem entryState_arg (c : MemCfg) (args : List Word) (i : Nat) (hi : i < args.length) (h7 : i < 7) :
    (entryState c args).reg ⟨i + 1, by omega⟩ = some args[i] := by
  simp only [entryState, State.reg, Vector.getElem_ofFn]
  have h1 : ¬ (i + 1 = 0) := by omega
  have h2 : i + 1 ≤ 7 := by omega
  simp [h1, h2, hi]

theorem labs_routineHead {n : Nat} {su : List Code} (hsu : setup n = .ok su) :
    ∀ l ∈ labs (routineHead su), l = "asm_main" := by
  intro l hl
  unfold labs at hl
  rw [List.mem_filterMap] at hl
  obtain ⟨code, hc, hlab⟩ := hl
  cases code <;> simp only [labOf] at hlab <;> try (cases hlab; done)
  injection hlab with hlab
  subst hlab
  exact head_labels hsu _ hc _ rfl

section Init

variable {c : MemCfg} (H : CfgCC c) {hk : Code → Bool} {P : Prog}

include H in
/-- THE HEADER, on states: the routine is `routineHead su ++ body ++ cleanup`, and the header behind the two
directives (the label `asm_main`, `setup`, the comment "actual code") runs from the machine's entry state to a state
that represents the initial configuration of the abstract machine and the initial block heap (nothing written,
HEAP = X0 = heap base, FREE = X1 = heap base + 64) -/
theorem header_exec {routine body : List Code} {args : List Word}
    (hr : intoRoutine body args.length = .ok routine) :
    ∃ (su : List Code) (σ1 : State), setup args.length = .ok su ∧ routine = routineHead su ++ body ++ cleanup ∧
      execCodes c (Code.LAB "asm_main" :: (su ++ [Code.COMMENT "actual code"])) (entryState c args) = .ok σ1 ∧
      RepA64 c .normal (initConfig 0 args) σ1 [] ∧
      HeapRel c σ1 (Scc.Heap.init c.heapBase (c.heapBase + c.heapBytes)) := by
  obtain ⟨su, hsu, hrt⟩ := routine_anatomy hr
  obtain ⟨moves, hmv, _⟩ := setup_eq hsu
  have hn : args.length ≤ 7 := CC.moveArguments_le _ _ hmv
  have ht := H.ok.top; have hroom := H.room; have h16 := H.top16
  have h64 : (2:Nat)^64 = 18446744073709551616 := by decide
  have E := entry_entryState c args
  have h0 : (entryState c args).reg 0 = some (BitVec.ofNat 64 c.heapBase) := by
    simp [entryState, State.reg, Vector.getElem_ofFn]
  have hdj := H.ok.disjoint
  have hS : (entryState c args).sp.toNat = c.stackTop := by
    rw [E.sp, BitVec.toNat_ofNat]; omega
  obtain ⟨codes, σ1, hc, he, hp⟩ := setup_correct H.ok args.length hn (entryState c args) c.stackTop hS h16
    (by omega) (Nat.le_refl _) _ h0
  rw [hsu] at hc
  cases hc
  obtain ⟨σ1', he', C1⟩ := setup_core H E hsu
  rw [he] at he'
  cases he'
  have hx : execCodes c (Code.LAB "asm_main" :: (su ++ [Code.COMMENT "actual code"])) (entryState c args) =
      .ok σ1 := by
    rw [execCodes_cons c _ _ _ _ (show execCode c (.LAB "asm_main") (entryState c args) = .ok _ from rfl),
      execCodes_append c _ _ _ _ he]
    rfl
  refine ⟨su, σ1, hsu, hrt, hx, ⟨C1, ?_, ?_, ?_, rfl⟩, ?_⟩
  · intro t v htw hg
    obtain ⟨i, hi, rfl, rfl⟩ := initTemps_get_inv args 0 t v hg
    have hi7 : i < 7 := by omega
    have hpt : posTemp (2 * (0 + i) + 1) = .register (.x (2 * i + 5)) := by
      have e1 : 2 * (0 + i) + 1 = 2 * i + 1 := by omega
      rw [e1]
      unfold posTemp
      rw [if_pos (by omega)]
    rw [hpt]
    have hlt : 2 * i + 5 < 30 := by omega
    rw [tempVal_reg (xreg_ar hlt)]
    have hj : (ar (2 * i + 5)).val = 2 * (i + 1) + 3 := by
      rw [ar_val hlt, archNumber_le (by omega)]; omega
    rw [hp.args ⟨i + 1, by omega⟩ (ar (2 * i + 5)) (by simp) (by simp; omega) hj]
    exact entryState_arg c args i hi hi7
  · intro v hg
    obtain ⟨i, hi, ht', _⟩ := initTemps_get_inv args 0 _ v hg
    unfold Mock.T_RET1 at ht'
    omega
  · intro hb; cases hb
  · refine ⟨rfl, rfl, ?_, ?_, ?_⟩
    · intro a
      rw [hp.heap]
      show Scc.Heap.Mem.empty.get a = (((entryState c args).heap).getD a 0).toNat
      simp [Scc.Heap.Mem.empty, Scc.Heap.Mem.get, entryState]
    · refine ⟨BitVec.ofNat 64 c.heapBase, ?_, ?_⟩
      · rw [HEAP_eq, tempVal_reg xreg_0]; exact hp.x0
      · show (BitVec.ofNat 64 c.heapBase).toNat = c.heapBase
        rw [BitVec.toNat_ofNat]; omega
    · refine ⟨BitVec.ofNat 64 c.heapBase + 64, ?_, ?_⟩
      · rw [FREE_eq, tempVal_reg (show xreg 1 = some (1 : Fin 31) by decide)]; exact hp.x1
      · show (BitVec.ofNat 64 c.heapBase + 64).toNat = c.heapBase + Scc.Heap.blockSize
        have : (64 : BitVec 64).toNat = 64 := rfl
        rw [BitVec.toNat_add, BitVec.toNat_ofNat, this, Scc.Heap.blockSize]
        omega

/-- where the header stands in a laid-out program that holds the routine: `asm_main` resolves to the item of list
position 2, the header occupies the positions from there to the end of `routineHead su` -/
theorem header_at {routine body su : List Code} (Hp : Holds hk P routine)
    (hrt : routine = routineHead su ++ body ++ cleanup) :
    P.labels["asm_main"]? = some (pcOf hk routine 2) ∧
    (∀ j (h : j < (Code.LAB "asm_main" :: (su ++ [Code.COMMENT "actual code"])).length),
      routine[2 + j]? = some (Code.LAB "asm_main" :: (su ++ [Code.COMMENT "actual code"]))[j]) ∧
    2 + (Code.LAB "asm_main" :: (su ++ [Code.COMMENT "actual code"])).length = (routineHead su).length := by
  have hlab : P.labels["asm_main"]? = some (pcOf hk routine 2) := by
    have hcs' : routine = [Code.TEXT, Code.GLOBAL "asm_main"] ++
        Code.LAB "asm_main" :: (su ++ [Code.COMMENT "actual code"] ++ (body ++ cleanup)) := by
      rw [hrt]; simp [routineHead, preamble]
    have := label_pc Hp hcs' (by simp)
    simpa using this
  have hblk : routine = [Code.TEXT, Code.GLOBAL "asm_main"] ++
      (Code.LAB "asm_main" :: (su ++ [Code.COMMENT "actual code"])) ++ (body ++ cleanup) := by
    rw [hrt]; simp [routineHead, preamble]
  refine ⟨hlab, block_get hblk, ?_⟩
  simp [routineHead, preamble]; omega

include H in
/-- THE ENTRY: the routine header from the machine's entry state, as a run of the machine -/
theorem init_sim {routine body : List Code} {args : List Word}
    (hr : intoRoutine body args.length = .ok routine) (Hp : Holds hk P routine) :
    ∃ (hdr : List Code) (σ2 : State),
      routine = hdr ++ body ++ cleanup ∧ (∀ l ∈ labs hdr, l = "asm_main") ∧
      P.labels["asm_main"]? = some (pcOf hk routine 2) ∧
      MSteps P c (entryState c args) (pcOf hk routine 2) [] σ2 (pcOf hk routine hdr.length) [] ∧
      RepA64 c .normal (initConfig 0 args) σ2 [] := by
  obtain ⟨su, σ1, hsu, hrt, hx, R, _⟩ := header_exec H hr
  obtain ⟨hlab, hget, hlen⟩ := header_at Hp hrt
  have hm := msteps_codes (c := c) Hp _ 2 _ _ [] hget hx
  rw [hlen] at hm
  exact ⟨routineHead su, σ1, hrt, labs_routineHead hsu, hlab, hm, R⟩

end Init

end Scc.A64.Ref
