/-
  Scc.A64.RefClosHCall — `exit`, three-way (result into X0, branch to `cleanup`, epilogue, `RET` with a successful
  exit check) under the relation `X3`, and the definitions in the routine for `call`.
  * `XDefsAt cs hooks prog`: the AArch64 code of every definition is in the routine behind its label
    (`XDefsAt.toM`: as the generic `call` of Scc/Backend/ThreeWayInt.lean asks it).
  The statements that do not touch the heap (`lit`, `op`, `print`, `ifc`, `call`) are those of
  Scc/Backend/ThreeWayInt.lean at the AArch64 machine (ThreeWayTarget.lean).
  In the namespace `Scc.A64.Ref.K`: the relation `X3R` (RefClosHDefs.lean) carries the per-instance code-pointer
  map `κ` and asks of a closure-kinded variable only that its machine word is defined.
  The machine's runs are `MStepsHK Q` runs (Scc/A64/ConcKMid.lean: the `#ctx` hook items a run visits are that
  of the boundary it starts at, and items at indices in `Q`), built under `HKQ hkf Q` (Scc/A64/ConcKNoHk.lean).
-/
import Scc.A64.RefClosHLet
import Scc.Backend.ProofsSim2
import Scc.A64.RefHeapInt
import Scc.A64.ThreeWayTarget

namespace Scc.A64.Ref.K

open Scc.AxCut Scc.AxCut.Pos Scc.Backend Scc.Backend.Abs Scc.Backend.Sim2 Scc.A64.CC
open Scc.Heap (HState InvS InvW)
open Scc.Heap.Refine (HRef)

/-- every definition's AArch64 code is in the routine, behind its label -/
def XDefsAt (cs : List Code) (hooks : Bool) (prog : AxCut.Prog) : Prop :=
  ∀ d ∈ prog.defs, ∃ i k k' items,
    cs[i]? = some (Code.LAB (d.name.print ++ "_")) ∧
    (codeStatementR a64Backend hooks natRen prog.types d.body d.ctx).run k = .ok (items, k') ∧
    XAt cs (i + 1) items

open Scc.A64.NoHk (HKQ hkcQ_mm noHkQ_of_nhOK NhOK)
open Scc.Backend.NamesC (MM mm_append mm_ofList)

theorem xat_of_get {cs : List Code} {i : Nat} {a : Code} (h : cs[i]? = some a) : XAt cs i [a] :=
  ⟨cs.take i, cs.drop (i + 1), by simpa using (split_at h).1, (split_at h).2⟩

/-- the definitions in the routine, for the generic `call` (Scc/Backend/ThreeWayInt.lean) -/
theorem XDefsAt.toM {c : MemCfg} {H : CfgCC c} {h8 : c.heapBase % 8 = 0} {hkf : Code → Bool} {Pm : Prog}
    {Q : Nat → Prop} {cs : List Code} {Hp : Holds hkf Pm cs} {hQ : HKQ hkf Q} {hnd : (labs cs).Nodup} {hooks : Bool}
    {prog : AxCut.Prog} (DX : XDefsAt cs hooks prog) :
    ThreeWay.XDefsAt (machine c H h8 hkf Pm Q cs Hp hQ hnd) hooks prog :=
  fun d hd => by
    obtain ⟨i, k, k', items, hlab, hrun, hat⟩ := DX d hd
    exact ⟨i, k, k', items, xat_of_get hlab, hrun, hat⟩

section Exit3

variable {c : MemCfg} (H : CfgCC c) {hkf : Code → Bool} {Pm : Prog} {Q : Nat → Prop}
  {cs pre : List Code} (Hp : Holds hkf Pm cs) (hcs : cs = pre ++ cleanup)
  (hclean : "cleanup" ∉ labs pre)

include H Hp hcs hclean in
/-- the branch to `cleanup`, the epilogue, and the exit check at `RET` -/
theorem epilogue_run {σ : State} (C : Core c σ) {v : Word} (h0 : σ.reg 0 = some v) {k : Nat}
    (hB : cs[k]? = some (Code.B "cleanup")) (out : List (Bool × Word)) (hQ : HKQ hkf Q) :
    ∃ kL σL, MStepsK Q Pm c σ (pcOf hkf cs k) out σL (pcOf hkf cs kL) out ∧
      Pm.items[pcOf hkf cs kL]? = some (.instr .ret) ∧ exitCheck c σL = .done v := by
  have hcs' : cs = pre ++ Code.LAB "cleanup" :: (cleanupBody ++ [Code.RET]) := by
    rw [hcs]; rfl
  have hidx : Pm.labels["cleanup"]? = some (pcOf hkf cs pre.length) :=
    label_pc Hp hcs' (lab_not_mem_of_labs hclean)
  have h1 := mstep_jumpK (c := c) (Q := Q) Hp hB hidx σ out
  have hr := H.room; have htop := H.ok.top; have h16 := H.top16
  obtain ⟨σ3, he3, hp3⟩ := cleanup_correct H.ok σ c.stackTop (C.spNat H) h16 (by omega) (Nat.le_refl _)
  obtain ⟨σ3', he3', RR⟩ := cleanup_ready H C
  rw [he3] at he3'
  cases he3'
  have hcE : cs = pre ++ cleanup.dropLast ++ [Code.RET] := by
    rw [hcs, List.append_assoc]; rfl
  have h2 := msteps_codesQ Hp cleanup.dropLast _ _ _ out (block_get hcE) he3
    ((noHkQ_of_nhOK Hp hQ NoHk.nh_cleanup).subset fun y hy => (List.dropLast_sublist _).subset hy)
  have hcR : cs = (pre ++ cleanup.dropLast) ++ Code.RET :: [] := hcE
  have hget := code_get hcR
  obtain ⟨i, hti, hit⟩ := Hp.instr _ _ hget rfl
  simp only [Code.toInstr, Option.some.injEq] at hti
  subst hti
  refine ⟨_, σ3, h1.trans h2, ?_, ?_⟩
  · rw [List.length_append] at hit
    exact hit
  · apply exitCheck_done c RR
    rw [hp3.low 0 (by decide)]
    exact h0

include H Hp hcs hclean in
/-- THREE-WAY SIMULATION OF `exit`: the result goes to X0, the branch to `cleanup` and the epilogue lead to
`RET`, whose exit check succeeds with the result -/
theorem exit_x3 {P : Program} {hooks : Bool} {prog : AxCut.Prog} {Γ : Ctx} {ρ : List Value} {a : Ident}
    {cfg : Config} {v : Word}
    (R : RelX P hooks prog ⟨Γ, ρ, .exit a⟩ cfg) (ha : readInt Γ ρ a = .ok v)
    {hs : HState} {ι : Nat → Nat} {κ : Nat → Nat → Word} {σ : State} {out : List (Bool × Word)} {kp : Nat}
    (X : X3 c Γ cfg hs ι κ σ out)
    {kx kx' : Nat} {items : List Code}
    (hrunX : (codeStatementR a64Backend hooks natRen prog.types (.exit a) Γ).run kx = .ok (items, kx'))
    (hatX : XAt cs kp items) (hQ : HKQ hkf Q) :
    ∃ kL σL, MStepsHK Q Pm c σ (pcOf hkf cs kp) out σL (pcOf hkf cs kL) out ∧
      Pm.items[pcOf hkf cs kL]? = some (.instr .ret) ∧ exitCheck c σL = .done v ∧ out = cfg.out := by
  obtain ⟨i, hi, hl, hg, hchi⟩ := relX_int_ext R ha
  simp only [codeStatementR, run_bind_ok, run_pure_ok] at hrunX
  obtain ⟨tX, _, htX, rfl, rfl⟩ := hrunX
  obtain ⟨pX, hpX, hltX, rfl, rfl, _⟩ := vt_rel htX
  rw [hi] at hpX
  injection hpX with hpX
  subst hpX
  simp only [TempNum.toNat] at hltX
  generalize hc0 : hookCode a64Backend hooks Γ ++ [a64Backend.comment ("exit " ++ a.print)] = c0 at hatX
  have hc0c : ∀ y ∈ c0, ∃ m', y = Code.COMMENT m' := by rw [← hc0]; exact hook_comments hooks Γ _
  replace hatX : XAt cs kp (c0 ++ (mov (.register RETURN1) (posTemp (2 * i + 1)) ++ [Code.B "cleanup"])) := by
    have : a64Backend.mov a64Backend.return1 (posTemp (2 * i + TempNum.snd.toNat)) ++
        a64Backend.jumpLabel "cleanup" = mov (.register RETURN1) (posTemp (2 * i + 1)) ++ [Code.B "cleanup"] := rfl
    rw [← this]
    simpa [List.append_assoc] using hatX
  have hk0 := x_msteps_c0H (c := c) Hp hatX.left hc0 (hkcQ_mm Hp hQ (by mm_tac)) σ out
  have hw := X.words i hl v hg
  rw [hchi] at hw
  have hok := ok_of_isVar (isVar_posTemp hltX)
  have e1 := moveToRegister_exec (X.spOk H) xreg_0 hok
  rw [← mov_ret_eq] at e1
  have C1 := core_execCodes H _ X.core (allInt_mov rfl hok) e1
  have hk1 := x_msteps_codesQ Hp hatX.right.left e1 out (noHkQ_of_nhOK Hp hQ (NoHk.nh_mov _ _))
  have hx0 : (σ.setReg 0 (σ.tempVal (posTemp (2 * i + 1)))).reg 0 = some v := by
    rw [setReg_reg, if_pos rfl]; exact hw
  obtain ⟨kL, σL, hk2, hret, hx⟩ := epilogue_run H Hp hcs hclean C1 hx0 hatX.right.right.head out hQ
  exact ⟨kL, σL, hk0.trans (hk1.trans hk2), hret, hx, X.out⟩

end Exit3

end Scc.A64.Ref.K
