/-
  Scc.A64.LoaderLemmas — lemmas about the pieces of the AArch64 loader (Scc/A64/Machine.lean:
  `tokenize`, `parseReg`, `parseImm`, `validLabel`, `parseKind`, `parseHookVar`) on the OPERAND texts
  that the printer (Scc/A64/Instr.lean `printCode`) produces:

  * `Tok w`: a non-empty text without blanks and without the punctuation `, [ ] !` is ONE token
    (`go_tok_*`: how `tokenize.go` walks over tokens, blanks and punctuation);
  * `regC r` / `Str.immC i`: the printed register / immediate; `parseReg_regC`, `parseImm_immC` (every
    `Int`), `parseReg_immC` (an immediate is not a register name);
  * `LabelOK l`: a text-safe label; `validLabel_of_labelOK`;
  * `parseHookVar_print`: `x:prd` is read back for EVERY variable name `x` (colons included).
-/
import Scc.A64.Instr
import Scc.StringLemmasAscii

namespace Scc.A64.Loader

open Scc.Str

theorem ofList_beq_false {cs : List Char} {s : String} (h : cs ≠ s.toList) : (String.ofList cs == s) = false := by
  rw [beq_eq_false_iff_ne]; exact fun e => h (ofList_eq_iff.1 e)

theorem ofList_ne_of_head {cs : List Char} {s : String} (h : cs.head? ≠ s.toList.head?) :
    String.ofList cs ≠ s := fun e => h (by rw [ofList_eq_iff.1 e])

/-- characters that `tokenize` keeps inside a token -/
def plainC (c : Char) : Bool := c != ' ' && c != ',' && c != '[' && c != ']' && c != '!'

/-- a non-empty text that `tokenize` reads as one token -/
def Tok (w : List Char) : Prop := w ≠ [] ∧ ∀ c ∈ w, plainC c = true

theorem plainC_ne {c : Char} (h : plainC c = true) : c ≠ ' ' ∧ c ≠ ',' ∧ c ≠ '[' ∧ c ≠ ']' ∧ c ≠ '!' := by
  simp only [plainC, Bool.and_eq_true, bne_iff_ne, ne_eq] at h
  obtain ⟨⟨⟨⟨a, b⟩, c⟩, d⟩, e⟩ := h
  exact ⟨a, b, c, d, e⟩

theorem go_plain (w cs cur : List Char) (acc : List String) (hw : ∀ c ∈ w, plainC c = true) :
    tokenize.go (w ++ cs) cur acc = tokenize.go cs (w.reverse ++ cur) acc := by
  induction w generalizing cur with
  | nil => rfl
  | cons x xs ih =>
    obtain ⟨h1, h2, h3, h4, h5⟩ := plainC_ne (hw x (by simp))
    have e1 : (x == ' ') = false := by simpa using h1
    have e2 : (x == ',') = false := by simpa using h2
    have e3 : (x == '[') = false := by simpa using h3
    have e4 : (x == ']') = false := by simpa using h4
    have e5 : (x == '!') = false := by simpa using h5
    rw [List.cons_append, tokenize.go]
    simp only [e1, e2, e3, e4, e5, if_false, Bool.or_self, Bool.false_eq_true]
    rw [ih _ (fun c hc => hw c (by simp [hc]))]
    simp

theorem go_nil (acc : List String) : tokenize.go [] [] acc = acc.reverse := by
  simp [tokenize.go]

theorem go_blank (cs : List Char) (acc : List String) : tokenize.go (' ' :: cs) [] acc = tokenize.go cs [] acc := by
  rw [tokenize.go]; simp

theorem go_comma (cs : List Char) (acc : List String) :
    tokenize.go (',' :: cs) [] acc = tokenize.go cs [] ("," :: acc) := by
  rw [tokenize.go]; simp

theorem go_lbr (cs : List Char) (acc : List String) :
    tokenize.go ('[' :: cs) [] acc = tokenize.go cs [] ("[" :: acc) := by
  rw [tokenize.go]; simp

theorem go_rbr (cs : List Char) (acc : List String) :
    tokenize.go (']' :: cs) [] acc = tokenize.go cs [] ("]" :: acc) := by
  rw [tokenize.go]; simp

theorem go_bang (cs : List Char) (acc : List String) :
    tokenize.go ('!' :: cs) [] acc = tokenize.go cs [] ("!" :: acc) := by
  rw [tokenize.go]; simp

theorem go_tok_end {w : List Char} (hw : Tok w) (acc : List String) :
    tokenize.go w [] acc = (String.ofList w :: acc).reverse := by
  have := go_plain w [] [] acc hw.2
  simp only [List.append_nil] at this
  rw [this, tokenize.go]
  have hne : w.reverse.isEmpty = false := by
    cases h : w with
    | nil => exact absurd h hw.1
    | cons _ _ => simp
  simp [hne]

theorem go_tok_blank {w : List Char} (hw : Tok w) (cs : List Char) (acc : List String) :
    tokenize.go (w ++ ' ' :: cs) [] acc = tokenize.go cs [] (String.ofList w :: acc) := by
  rw [go_plain w _ [] acc hw.2, tokenize.go]
  have hne : w.reverse.isEmpty = false := by
    cases h : w with
    | nil => exact absurd h hw.1
    | cons _ _ => simp
  simp [hne]

theorem go_tok_comma {w : List Char} (hw : Tok w) (cs : List Char) (acc : List String) :
    tokenize.go (w ++ ',' :: cs) [] acc = tokenize.go cs [] ("," :: String.ofList w :: acc) := by
  rw [go_plain w _ [] acc hw.2, tokenize.go]
  have hne : w.reverse.isEmpty = false := by
    cases h : w with
    | nil => exact absurd h hw.1
    | cons _ _ => simp
  simp [hne]

theorem tokenize_ofList (l : List Char) : tokenize (String.ofList l) = tokenize.go l [] [] := by
  unfold tokenize; rw [String.toList_ofList]

theorem tokenize_nil : tokenize "" = [] := by
  have := tokenize_ofList []
  rw [String.ofList_nil] at this
  rw [this, go_nil]; rfl

/-! ## the operand shapes of `printCode` and their tokens -/

theorem tokens1 {a : List Char} (ha : Tok a) : tokenize (String.ofList a) = [String.ofList a] := by
  rw [tokenize_ofList, go_tok_end ha]; rfl

/-- `a, b` -/
def ops2 (a b : List Char) : List Char := a ++ ',' :: ' ' :: b

theorem tokens2 {a b : List Char} (ha : Tok a) (hb : Tok b) :
    tokenize (String.ofList (ops2 a b)) = [String.ofList a, ",", String.ofList b] := by
  rw [tokenize_ofList, ops2, go_tok_comma ha, go_blank, go_tok_end hb]; rfl

/-- `a, b, c` -/
def ops3 (a b c : List Char) : List Char := a ++ ',' :: ' ' :: ops2 b c

theorem tokens3 {a b c : List Char} (ha : Tok a) (hb : Tok b) (hc : Tok c) :
    tokenize (String.ofList (ops3 a b c)) = [String.ofList a, ",", String.ofList b, ",", String.ofList c] := by
  rw [tokenize_ofList, ops3, ops2, go_tok_comma ha, go_blank, go_tok_comma hb, go_blank, go_tok_end hc]; rfl

/-- `a, b, c, d` -/
def ops4 (a b c d : List Char) : List Char := a ++ ',' :: ' ' :: ops3 b c d

theorem tokens4 {a b c d : List Char} (ha : Tok a) (hb : Tok b) (hc : Tok c) (hd : Tok d) :
    tokenize (String.ofList (ops4 a b c d))
      = [String.ofList a, ",", String.ofList b, ",", String.ofList c, ",", String.ofList d] := by
  rw [tokenize_ofList, ops4, ops3, ops2, go_tok_comma ha, go_blank, go_tok_comma hb, go_blank,
    go_tok_comma hc, go_blank, go_tok_end hd]; rfl

/-- `a, i, LSL s` -/
def opsWide (a i s : List Char) : List Char := a ++ ',' :: ' ' :: (i ++ ',' :: ' ' :: 'L' :: 'S' :: 'L' :: ' ' :: s)

theorem tok_LSL : Tok ['L', 'S', 'L'] := ⟨by simp, by decide⟩

theorem tokensWide {a i s : List Char} (ha : Tok a) (hi : Tok i) (hs : Tok s) :
    tokenize (String.ofList (opsWide a i s))
      = [String.ofList a, ",", String.ofList i, ",", "LSL", String.ofList s] := by
  have e : (',' :: ' ' :: 'L' :: 'S' :: 'L' :: ' ' :: s) = ',' :: ' ' :: (['L', 'S', 'L'] ++ ' ' :: s) := rfl
  rw [tokenize_ofList, opsWide, go_tok_comma ha, go_blank, e, go_tok_comma hi, go_blank,
    go_tok_blank tok_LSL, go_tok_end hs]; rfl

/-- `t, [ b, i ]` -/
def opsMem (t b i : List Char) : List Char := t ++ ',' :: ' ' :: '[' :: ' ' :: (b ++ ',' :: ' ' :: (i ++ [' ', ']']))

theorem tokensMem {t b i : List Char} (ht : Tok t) (hb : Tok b) (hi : Tok i) :
    tokenize (String.ofList (opsMem t b i))
      = [String.ofList t, ",", "[", String.ofList b, ",", String.ofList i, "]"] := by
  rw [tokenize_ofList, opsMem, go_tok_comma ht, go_blank, go_lbr, go_blank, go_tok_comma hb, go_blank,
    go_tok_blank hi, go_rbr, go_nil]; rfl

/-- `t1, t2, [ b, i ]!` -/
def opsStp (t1 t2 b i : List Char) : List Char :=
  t1 ++ ',' :: ' ' :: (t2 ++ ',' :: ' ' :: '[' :: ' ' :: (b ++ ',' :: ' ' :: (i ++ [' ', ']', '!'])))

theorem tokensStp {t1 t2 b i : List Char} (h1 : Tok t1) (h2 : Tok t2) (hb : Tok b) (hi : Tok i) :
    tokenize (String.ofList (opsStp t1 t2 b i))
      = [String.ofList t1, ",", String.ofList t2, ",", "[", String.ofList b, ",", String.ofList i, "]", "!"] := by
  rw [tokenize_ofList, opsStp, go_tok_comma h1, go_blank, go_tok_comma h2, go_blank, go_lbr, go_blank,
    go_tok_comma hb, go_blank, go_tok_blank hi, go_rbr, go_bang, go_nil]; rfl

/-- `t1, t2, [ b ], i` -/
def opsLdp (t1 t2 b i : List Char) : List Char :=
  t1 ++ ',' :: ' ' :: (t2 ++ ',' :: ' ' :: '[' :: ' ' :: (b ++ ' ' :: ']' :: ',' :: ' ' :: i))

theorem tokensLdp {t1 t2 b i : List Char} (h1 : Tok t1) (h2 : Tok t2) (hb : Tok b) (hi : Tok i) :
    tokenize (String.ofList (opsLdp t1 t2 b i))
      = [String.ofList t1, ",", String.ofList t2, ",", "[", String.ofList b, "]", ",", String.ofList i] := by
  rw [tokenize_ofList, opsLdp, go_tok_comma h1, go_blank, go_tok_comma h2, go_blank, go_lbr, go_blank,
    go_tok_blank hb, go_rbr, go_comma, go_blank, go_tok_end hi]; rfl

theorem isDigit_facts {c : Char} (h : c.isDigit = true) :
    plainC c = true ∧ c.isWhitespace = false ∧ c ≠ ':' ∧ c ≠ '\n' ∧ c ≠ 'X' ∧ c ≠ 'S' ∧ c ≠ 'Z' ∧ c ≠ '-' ∧
      c ≠ '/' ∧ c ≠ '.' := by
  have hr : 48 ≤ c.val ∧ c.val ≤ 57 := by simpa [Char.isDigit] using h
  have key : ∀ d : Char, (d.val < 48 ∨ 57 < d.val) → c ≠ d := by
    intro d hd e; subst e
    rcases hd with hd | hd
    · exact absurd hr.1 (by simpa using hd)
    · exact absurd hr.2 (by simpa using hd)
  refine ⟨?_, ?_, key _ (by decide), key _ (by decide), key _ (by decide), key _ (by decide),
    key _ (by decide), key _ (by decide), key _ (by decide), key _ (by decide)⟩
  · simp only [plainC, Bool.and_eq_true, bne_iff_ne]
    exact ⟨⟨⟨⟨key _ (by decide), key _ (by decide)⟩, key _ (by decide)⟩, key _ (by decide)⟩, key _ (by decide)⟩
  · simp only [Char.isWhitespace, Bool.or_eq_false_iff, decide_eq_false_iff_not]
    exact ⟨⟨⟨key _ (by decide), key _ (by decide)⟩, key _ (by decide)⟩, key _ (by decide)⟩

def regC : Reg → List Char
  | .x n => 'X' :: Nat.toDigits 10 n.val
  | .sp => ['S', 'P']
  | .xzr => ['X', 'Z', 'R']

theorem print_toReg {x : Register} {r : Reg} (h : x.toReg = some r) : x.print = String.ofList (regC r) := by
  cases x with
  | x k =>
    simp only [Register.toReg] at h
    split at h
    · cases h
      simp only [Register.print, regC, archNumber]
      split
      · rw [toString_nat]; apply String.ext; simp [String.toList_append]
      · rw [toString_nat]; apply String.ext; simp [String.toList_append]
    · cases h
  | sp => cases h; rfl
  | xzr => cases h; rfl

theorem regC_chars (r : Reg) : ∀ c ∈ regC r,
    plainC c = true ∧ c.isWhitespace = false ∧ c ≠ ':' ∧ c ≠ '\n' ∧ c ≠ '/' ∧ c ≠ '.' := by
  intro c hc
  cases r with
  | x n =>
    simp only [regC, List.mem_cons] at hc
    rcases hc with rfl | hc
    · decide
    · have := isDigit_facts (isDigit_toDigits _ c hc)
      exact ⟨this.1, this.2.1, this.2.2.1, this.2.2.2.1, this.2.2.2.2.2.2.2.2.1, this.2.2.2.2.2.2.2.2.2⟩
  | sp => revert c; decide
  | xzr => revert c; decide

theorem regC_ne_nil (r : Reg) : regC r ≠ [] := by cases r <;> simp [regC]

theorem tok_regC (r : Reg) : Tok (regC r) := ⟨regC_ne_nil r, fun c hc => (regC_chars r c hc).1⟩

theorem parseReg_regC (r : Reg) : parseReg (String.ofList (regC r)) = some r := by
  cases r with
  | sp => rfl
  | xzr => rfl
  | x n =>
    obtain ⟨d, ds, hd, hdig⟩ := toDigits_head n.val
    have hf := isDigit_facts hdig
    unfold parseReg
    have h1 : (String.ofList ('X' :: Nat.toDigits 10 n.val) == "SP") = false :=
      ofList_beq_false (by intro e; cases e)
    have h2 : (String.ofList ('X' :: Nat.toDigits 10 n.val) == "XZR") = false :=
      ofList_beq_false (by
        rw [hd]; intro e
        have : d = 'Z' := by injection e with _ e; injection e
        exact hf.2.2.2.2.2.2.1 this)
    simp only [regC, h1, h2, Bool.false_eq_true, if_false, String.toList_ofList, toNat?_toDigits]
    have hlt : n.val < 31 := n.isLt
    simp only [hlt, dite_true, toString_nat, beq_self_eq_true, if_true]

theorem immPrint_eq (i : Int) : immPrint i = String.ofList (immC i) := toString_int i

theorem immC_chars (i : Int) : ∀ c ∈ immC i,
    plainC c = true ∧ c.isWhitespace = false ∧ c ≠ ':' ∧ c ≠ '\n' := by
  intro c hc
  rcases immC_mem i c hc with h | rfl
  · have := isDigit_facts h
    exact ⟨this.1, this.2.1, this.2.2.1, this.2.2.2.1⟩
  · decide

theorem tok_immC (i : Int) : Tok (immC i) := ⟨immC_ne_nil i, fun c hc => (immC_chars i c hc).1⟩

theorem parseImm_immC (i : Int) : parseImm (String.ofList (immC i)) = some i := by
  unfold parseImm
  rw [String.toList_ofList]
  cases i with
  | ofNat n =>
    obtain ⟨d, ds, hd, hdig⟩ := toDigits_head n
    have hm : d ≠ '-' := (isDigit_facts hdig).2.2.2.2.2.2.2.1
    simp only [immC, hd]
    split
    · rename_i heq; injection heq with h _; exact absurd h hm
    · rw [← hd, toNat?_toDigits]
      simp only [toString_nat, beq_self_eq_true, if_true]; rfl
  | negSucc n =>
    simp only [immC, toNat?_toDigits, toString_nat, beq_self_eq_true, if_true]
    rw [Int.negSucc_eq]; rfl

theorem parseReg_immC (i : Int) : parseReg (String.ofList (immC i)) = none := by
  have hhead : ∃ d ds, immC i = d :: ds ∧ d ≠ 'S' ∧ d ≠ 'X' := by
    cases i with
    | ofNat n =>
      obtain ⟨d, ds, hd, hdig⟩ := toDigits_head n
      have hf := isDigit_facts hdig
      exact ⟨d, ds, hd, hf.2.2.2.2.2.1, hf.2.2.2.2.1⟩
    | negSucc n => exact ⟨'-', _, rfl, by decide, by decide⟩
  obtain ⟨d, ds, hd, hS, hX⟩ := hhead
  unfold parseReg
  have h1 : (String.ofList (immC i) == "SP") = false :=
    ofList_beq_false (by rw [hd]; intro e; injection e with e _; exact hS e)
  have h2 : (String.ofList (immC i) == "XZR") = false :=
    ofList_beq_false (by rw [hd]; intro e; injection e with e _; exact hX e)
  simp only [h1, h2, Bool.false_eq_true, if_false, String.toList_ofList]
  rw [hd]
  split
  · rename_i heq; injection heq with h _; exact absurd h hX
  · rfl

/-- characters of a text-safe label: no white space, none of `, : [ ] !` -/
def labelC (c : Char) : Bool := !c.isWhitespace && c != ',' && c != ':' && c != '[' && c != ']' && c != '!'

def LabelOK (l : List Char) : Prop := l ≠ [] ∧ ∀ c ∈ l, labelC c = true

theorem labelC_facts {c : Char} (h : labelC c = true) :
    plainC c = true ∧ c.isWhitespace = false ∧ c ≠ ':' ∧ c ≠ '\n' ∧ c ≠ ' ' ∧ c ≠ ',' ∧ c ≠ '\t' := by
  simp only [labelC, Bool.and_eq_true, bne_iff_ne, ne_eq, Bool.not_eq_true'] at h
  obtain ⟨⟨⟨⟨⟨a, b⟩, c'⟩, d⟩, e⟩, f⟩ := h
  have hsp : c ≠ ' ' := by intro e'; subst e'; revert a; decide
  have hnl : c ≠ '\n' := by intro e'; subst e'; revert a; decide
  have htab : c ≠ '\t' := by intro e'; subst e'; revert a; decide
  refine ⟨?_, a, c', hnl, hsp, b, htab⟩
  simp only [plainC, Bool.and_eq_true, bne_iff_ne]
  exact ⟨⟨⟨⟨hsp, b⟩, d⟩, e⟩, f⟩

theorem tok_label {l : List Char} (h : LabelOK l) : Tok l :=
  ⟨h.1, fun c hc => (labelC_facts (h.2 c hc)).1⟩

theorem validLabel_of_labelOK {l : List Char} (h : LabelOK l) : validLabel (String.ofList l) = true := by
  unfold validLabel
  rw [isEmpty_ofList, String.toList_ofList]
  have hne : l.isEmpty = false := by
    cases hl : l with
    | nil => exact absurd hl h.1
    | cons _ _ => rfl
  simp only [hne, Bool.not_false, Bool.true_and, List.all_eq_true, Bool.and_eq_true, bne_iff_ne]
  intro c hc
  have := labelC_facts (h.2 c hc)
  exact ⟨⟨⟨this.2.2.2.2.1, this.2.2.2.2.2.1⟩, this.2.2.1⟩, this.2.2.2.2.2.2⟩

theorem trimmed_of_chars {l : List Char} (h : ∀ c ∈ l, c.isWhitespace = false) : Trimmed l :=
  ⟨fun c hc => h c (List.mem_of_mem_head? hc), fun c hc => h c (List.mem_of_getLast? hc)⟩

theorem trimmed_label {l : List Char} (h : LabelOK l) : Trimmed l :=
  trimmed_of_chars (fun c hc => (labelC_facts (h.2 c hc)).2.1)

def kindC : Kind → List Char
  | .prd => ['p', 'r', 'd']
  | .cns => ['c', 'n', 's']
  | .ext => ['e', 'x', 't']

theorem parseKind_kindC (k : Kind) : parseKind (String.ofList (kindC k)) = some k := by
  cases k <;> rfl

theorem kindC_no_colon (k : Kind) : ':' ∉ kindC k := by cases k <;> decide

/-- `x:kind` is read back as `(x, kind)` for EVERY name `x` (the split is at the last colon) -/
theorem parseHookVar_print (x : List Char) (k : Kind) :
    parseHookVar (String.ofList (x ++ ':' :: kindC k)) = some (String.ofList x, k) := by
  unfold parseHookVar
  rw [splitOn_colon, String.toList_ofList, splitList_append_sep', splitList_of_not_mem _ _ (kindC_no_colon k)]
  obtain ⟨p, ps, hp⟩ : ∃ p ps, splitList ':' x = p :: ps := by
    cases h : splitList ':' x with
    | nil => exact absurd h (splitList_ne_nil _ _)
    | cons p ps => exact ⟨p, ps, rfl⟩
  have hrev : (List.map String.ofList (splitList ':' x ++ [kindC k])).reverse
      = String.ofList (kindC k) :: (List.map String.ofList (splitList ':' x)).reverse := by simp
  rw [hrev]
  have hne : ∃ q qs, (List.map String.ofList (splitList ':' x)).reverse = q :: qs := by
    cases h : (List.map String.ofList (splitList ':' x)).reverse with
    | nil => rw [hp] at h; simp at h
    | cons q qs => exact ⟨q, qs, rfl⟩
  obtain ⟨q, qs, hq⟩ := hne
  have hback : (q :: qs).reverse = List.map String.ofList (splitList ':' x) := by
    rw [← hq, List.reverse_reverse]
  rw [hq]
  simp only [parseKind_kindC]
  rw [hback, intercalate_colon_splitList]

end Scc.A64.Loader
