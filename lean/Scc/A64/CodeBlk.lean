/-
  Scc.A64.CodeBlk — the FORM of the code of code.rs and of the two moves of parallel_moves.rs (AArch64): every
  item is a `Mem.Leaf` (Scc/A64/MemBlk.lean: a literal comment that is no hook, or one of the arithmetic, move,
  move-wide, load / store and compare forms, registers X0 … X29, encodable immediates) whose memory operands are
  spill slots of the frame (`Slots`).  ONE lemma per method says so (`items_op`, `items_mov`, …), under the ranges
  of the temporaries it is called with (`Mem.TOK`); what the later layers need of a method is read off `Leaf`
  once per instruction form.  Outside this form: the branches and `adr` (label arguments).  `print_i64` is
  leaves (no range claimed) around the call (`items_printI64G`).
-/
import Scc.A64.MemBlk
import Scc.A64.LoadImm

namespace Scc.A64.Mem

open Scc.AxCut

/-- every memory operand of the item is a spill slot of the frame -/
def Slots : Code → Prop
  | .LDR _ b i | .STR _ b i => b = .sp ∧ ∃ p, p < 256 ∧ i = stackOffset p
  | _ => True

/-- code of code.rs: leaves whose memory operands are spill slots -/
def CItems (rok iok : Prop) (l : List Code) : Prop := ∀ c ∈ l, Leaf rok iok c ∧ (rok → Slots c)

/-- `Slots` of a load or store at the spill position `p` -/
theorem slots_stackOffset {p : Nat} (h : p < 256) :
    Register.sp = Register.sp ∧ ∃ q, q < 256 ∧ stackOffset p = stackOffset q := ⟨rfl, p, h, rfl⟩

theorem spillTemp_lt : SPILL_TEMP < 256 := by decide

namespace CItems
variable {rok iok : Prop}

theorem nil : CItems rok iok [] := fun _ h => by cases h

theorem append {a b : List Code} (ha : CItems rok iok a) (hb : CItems rok iok b) : CItems rok iok (a ++ b) :=
  fun c hc => (List.mem_append.1 hc).elim (ha c) (hb c)

theorem cons {c : Code} {l : List Code} (hf : memForm c = true) (hr : rok → RegsOK c) (hi : iok → ImmOK c)
    (hs : rok → Slots c) (hl : CItems rok iok l) : CItems rok iok (c :: l) := by
  intro x hx
  rcases List.mem_cons.1 hx with rfl | hx
  · exact ⟨.instr hf hr hi, hs⟩
  · exact hl x hx

theorem consC {m : String} {l : List Code} (hm : MemCom m) (hl : CItems rok iok l) :
    CItems rok iok (.COMMENT m :: l) := by
  intro x hx
  rcases List.mem_cons.1 hx with rfl | hx
  · exact ⟨.com hm, fun _ => trivial⟩
  · exact hl x hx

theorem mono {rok' iok' : Prop} (hr : rok' → rok) (hi : iok' → iok) {l : List Code} (h : CItems rok iok l) :
    CItems rok' iok' l := fun c hc => ⟨(h c hc).1.mono hr hi, fun o => (h c hc).2 (hr o)⟩

theorem ite {p : Prop} [Decidable p] {a b : List Code} (ha : CItems rok iok a) (hb : CItems rok iok b) :
    CItems rok iok (if p then a else b) := by split <;> assumption

end CItems

variable {iok : Prop}

theorem items_LDR {rok : Prop} {r : Register} {p : Nat} {l : List Code} (h : rok → XOK r ∧ p < 256)
    (hl : CItems rok iok l) : CItems rok iok (.LDR r .sp (stackOffset p) :: l) :=
  .cons rfl (fun o => ⟨(h o).1, memOK_slot (h o).2⟩) (fun _ => trivial) (fun o => slots_stackOffset (h o).2) hl

theorem items_STR {rok : Prop} {r : Register} {p : Nat} {l : List Code} (h : rok → XOK r ∧ p < 256)
    (hl : CItems rok iok l) : CItems rok iok (.STR r .sp (stackOffset p) :: l) :=
  .cons rfl (fun o => ⟨.of_xok (h o).1, memOK_slot (h o).2⟩) (fun _ => trivial) (fun o => slots_stackOffset (h o).2) hl

/-! ## code.rs -/

theorem items_moveFromRegister (t : Temporary) (r : Register) : CItems (TOK t ∧ XOK r) iok (moveFromRegister t r) := by
  cases t with
  | register x => exact .cons rfl (fun o => ⟨o.1, o.2⟩) (fun _ => trivial) (fun _ => trivial) .nil
  | spill p => exact items_STR (fun o => ⟨o.2, o.1⟩) .nil

theorem items_moveToRegister (r : Register) (t : Temporary) : CItems (XOK r ∧ TOK t) iok (moveToRegister r t) := by
  cases t with
  | register x => exact .cons rfl (fun o => ⟨o.1, o.2⟩) (fun _ => trivial) (fun _ => trivial) .nil
  | spill p => exact items_LDR (fun o => ⟨o.1, o.2⟩) .nil

/-- an instruction without memory operand whose immediates are in range unconditionally (the register-only
arithmetic, compare and move forms) -/
theorem items_r3 {rok : Prop} {c : Code} {l : List Code} (hf : memForm c = true) (h : rok → RegsOK c)
    (hi : ImmOK c) (hs : Slots c) (hl : CItems rok iok l) : CItems rok iok (c :: l) :=
  .cons hf h (fun _ => hi) (fun _ => hs) hl

theorem items_remR (t a b : Register) : CItems (XOK t ∧ XOK a ∧ XOK b) iok (remR t a b) := by
  unfold remR
  refine .ite (.ite ?_ ?_) ?_
  · refine .consC (memCom_ofList (by decide) (by decide)) (items_STR (fun _ => ⟨xok_TT, spillTemp_lt⟩) ?_)
    refine items_r3 rfl (fun o => ⟨xok_TT, o.2.2⟩) trivial trivial (items_r3 rfl (fun o => ⟨xok_TEMP2, o.2.1, xok_TT⟩) trivial trivial
      (items_r3 rfl (fun o => ⟨o.1, xok_TEMP2, xok_TT, o.2.1⟩) trivial trivial ?_))
    exact .consC (memCom_ofList (by decide) (by decide)) (items_LDR (fun _ => ⟨xok_TT, spillTemp_lt⟩) .nil)
  · exact items_r3 rfl (fun o => ⟨o.1, o.2.1, o.2.2⟩) trivial trivial
      (items_r3 rfl (fun o => ⟨o.1, o.1, o.2.2, o.2.1⟩) trivial trivial .nil)
  · exact items_r3 rfl (fun o => ⟨xok_TEMP2, o.2.1, o.2.2⟩) trivial trivial
      (items_r3 rfl (fun o => ⟨o.1, xok_TEMP2, o.2.2, o.2.1⟩) trivial trivial .nil)

theorem items_opR (o : BinOp) (t a b : Register) : CItems (XOK t ∧ XOK a ∧ XOK b) iok (opR o t a b) := by
  cases o with
  | rem => exact items_remR t a b
  | _ => exact items_r3 rfl (fun o => o) trivial trivial .nil

theorem xok_scratch (r : Register) : XOK (if r = TEMP then TEMP2 else TEMP) := by
  split
  · exact xok_TEMP2
  · exact xok_TEMP

theorem items_op (o : BinOp) (t s1 s2 : Temporary) : CItems (TOK t ∧ TOK s1 ∧ TOK s2) iok (op o t s1 s2) := by
  -- the operands in registers, then the operation into `tr`
  have body : ∀ tr, (TOK t ∧ TOK s1 ∧ TOK s2 → XOK tr) → CItems (TOK t ∧ TOK s1 ∧ TOK s2) iok
      (match s1, s2 with
       | .register r1, .register r2 => opR o tr r1 r2
       | .register r1, .spill p2 =>
         .LDR (if r1 = TEMP then TEMP2 else TEMP) .sp (stackOffset p2) :: opR o tr r1 (if r1 = TEMP then TEMP2 else TEMP)
       | .spill p1, .register r2 =>
         .LDR (if r2 = TEMP then TEMP2 else TEMP) .sp (stackOffset p1) :: opR o tr (if r2 = TEMP then TEMP2 else TEMP) r2
       | .spill p1, .spill p2 =>
         .LDR TEMP .sp (stackOffset p1) :: .LDR TEMP2 .sp (stackOffset p2) :: opR o tr TEMP TEMP2) := by
    intro tr htr
    cases s1 <;> cases s2
    · exact (items_opR o tr _ _).mono (fun ok => ⟨htr ok, ok.2.1, ok.2.2⟩) id
    · exact items_LDR (fun ok => ⟨xok_scratch _, ok.2.2⟩)
        ((items_opR o tr _ _).mono (fun ok => ⟨htr ok, ok.2.1, xok_scratch _⟩) id)
    · exact items_LDR (fun ok => ⟨xok_scratch _, ok.2.1⟩)
        ((items_opR o tr _ _).mono (fun ok => ⟨htr ok, xok_scratch _, ok.2.2⟩) id)
    · exact items_LDR (fun ok => ⟨xok_TEMP, ok.2.1⟩) (items_LDR (fun ok => ⟨xok_TEMP2, ok.2.2⟩)
        ((items_opR o tr _ _).mono (fun ok => ⟨htr ok, xok_TEMP, xok_TEMP2⟩) id))
  cases t with
  | register tr =>
    have := body tr (fun ok => ok.1)
    cases s1 <;> cases s2 <;> exact this
  | spill p =>
    have := body TEMP (fun _ => xok_TEMP)
    simp only [op]
    exact .append (by cases s1 <;> cases s2 <;> exact this) (items_STR (fun ok => ⟨xok_TEMP, ok.1⟩) .nil)

theorem items_compare (a b : Temporary) : CItems (TOK a ∧ TOK b) iok (compare a b) := by
  cases a <;> cases b
  · exact items_r3 rfl (fun o => ⟨o.1, o.2⟩) trivial trivial .nil
  · exact items_LDR (fun o => ⟨xok_TEMP, o.2⟩) (items_r3 rfl (fun o => ⟨o.1, xok_TEMP⟩) trivial trivial .nil)
  · exact items_LDR (fun o => ⟨xok_TEMP, o.1⟩) (items_r3 rfl (fun o => ⟨xok_TEMP, o.2⟩) trivial trivial .nil)
  · exact items_LDR (fun o => ⟨xok_TEMP, o.1⟩) (items_LDR (fun o => ⟨xok_TEMP2, o.2⟩)
      (items_r3 rfl (fun _ => ⟨xok_TEMP, xok_TEMP2⟩) trivial trivial .nil))

theorem items_compareImmediate (t : Temporary) (i : Int) :
    CItems (TOK t) (okImm12 i = true) (compareImmediate t i) := by
  cases t with
  | register x => exact .cons rfl (fun o => o) (fun o => o) (fun _ => trivial) .nil
  | spill p =>
    exact items_LDR (fun o => ⟨xok_TEMP, o⟩) (.cons rfl (fun _ => xok_TEMP) (fun o => o) (fun _ => trivial) .nil)

theorem items_loadImmediateLoop (r : Register) (w : BitVec 64) (inv : Bool) (ign : BitVec 16) :
    ∀ (is : List Nat) (d : Bool), (∀ i ∈ is, i < 4) → CItems (XOK r) iok (loadImmediateLoop r w inv ign is d)
  | [], _, _ => .nil
  | i :: is, d, h => by
    have hs := okShift_idx (h i (List.mem_cons_self ..))
    have rest := fun d' => items_loadImmediateLoop r w inv ign is d' fun j hj => h j (List.mem_cons_of_mem _ hj)
    simp only [loadImmediateLoop]
    refine .ite (.ite ?_ (.ite ?_ ?_)) (rest d)
    all_goals exact .cons rfl (fun o => o) (fun _ => ⟨okImm16_toNat _, hs⟩) (fun _ => trivial) (rest true)

theorem items_loadImmediateRegister (r : Register) (i : Int) : CItems (XOK r) iok (loadImmediateRegister r i) := by
  unfold loadImmediateRegister
  dsimp only
  refine .ite ?_ (.ite ?_ (items_loadImmediateLoop r _ _ _ _ _ (by decide)))
  all_goals exact .cons rfl (fun o => o) (fun _ => ⟨by decide, by decide⟩) (fun _ => trivial) .nil

theorem items_loadImmediate (t : Temporary) (i : Int) : CItems (TOK t) iok (loadImmediate t i) := by
  cases t with
  | register x => exact .append (items_loadImmediateRegister x i) .nil
  | spill p =>
    exact .append ((items_loadImmediateRegister TEMP i).mono (fun _ => xok_TEMP) id)
      (items_STR (fun o => ⟨xok_TEMP, o⟩) .nil)

theorem items_mov (t s : Temporary) : CItems (TOK t ∧ TOK s) iok (mov t s) := by
  cases s with
  | register y => exact items_moveFromRegister t y
  | spill q =>
    cases t with
    | register x => exact items_moveToRegister x (.spill q)
    | spill p =>
      exact .append ((items_moveToRegister TEMP2 (.spill q)).mono (fun o => ⟨xok_TEMP2, o.2⟩) id)
        ((items_moveFromRegister (.spill p) TEMP2).mono (fun o => ⟨o.1, xok_TEMP2⟩) id)

/-! ## parallel_moves.rs -/

theorem items_storeTemporary (t : Temporary) (sp : Bool) : CItems (TOK t) iok (storeTemporary t sp) := by
  cases t with
  | register x => exact .cons rfl (fun o => ⟨xok_TEMP, o⟩) (fun _ => trivial) (fun _ => trivial) .nil
  | spill p => exact items_LDR (fun o => ⟨xok_TEMP, o⟩) .nil

theorem items_restoreTemporary (t : Temporary) (sp : Bool) : CItems (TOK t) iok (restoreTemporary t sp) := by
  cases t with
  | register x => exact .cons rfl (fun o => ⟨o, xok_TEMP⟩) (fun _ => trivial) (fun _ => trivial) .nil
  | spill p => exact items_STR (fun o => ⟨xok_TEMP, o⟩) .nil

/-! ## print_i64: leaves around the call.  No range is claimed (`rok`, `iok` false): the operand ranges of the
    saved registers and of the stack adjustment are the subject of Scc/A64/WfLemmas.lean -/

theorem leaf_form {c : Code} (h : memForm c = true) : Leaf False False c := .instr h False.elim False.elim

theorem leaf_map {α : Type} {f : α → Code} (h : ∀ a, memForm (f a) = true) {l : List α} :
    ∀ c ∈ l.map f, Leaf False False c := fun c hc => by
  obtain ⟨a, _, rfl⟩ := List.mem_map.1 hc
  exact leaf_form (h a)

theorem leaf_saveCallerSaveRegisters (first : Nat) (L : List Nat) :
    ∀ c ∈ saveCallerSaveRegisters first L, Leaf False False c := by
  unfold saveCallerSaveRegisters
  dsimp only
  split
  · intro c hc
    rcases List.mem_append.1 hc with hc | hc
    · rcases List.mem_append.1 hc with hc | hc
      · exact leaf_map (fun _ => rfl) c hc
      · cases List.mem_singleton.1 hc; exact leaf_form rfl
    · exact leaf_map (fun _ => rfl) c hc
  · exact leaf_map fun _ => rfl

theorem leaf_restoreCallerSaveRegisters (first : Nat) (L : List Nat) :
    ∀ c ∈ restoreCallerSaveRegisters first L, Leaf False False c := by
  unfold restoreCallerSaveRegisters
  dsimp only
  split
  · intro c hc
    rcases List.mem_append.1 hc with hc | hc
    · rcases List.mem_append.1 hc with hc | hc
      · exact leaf_map (fun _ => rfl) c hc
      · exact leaf_map (fun _ => rfl) c hc
    · cases List.mem_singleton.1 hc; exact leaf_form rfl
  · exact leaf_map fun _ => rfl

/-- every item of `print_i64` is a leaf or the call of the runtime's printing function -/
theorem items_printI64G (lrStrict nl : Bool) (t : Temporary) (ctx : Ctx) :
    ∀ c ∈ printI64G lrStrict nl t ctx, Leaf False False c ∨ c = .BL (if nl then "println_i64" else "print_i64") := by
  have com : ∀ {cs : List Char}, '\n' ∉ cs → cs[1]? ≠ some 'c' → Leaf False False (.COMMENT (String.ofList cs)) :=
    fun h1 h2 => .com (memCom_ofList h1 h2)
  have one : ∀ {x : Code}, Leaf False False x → ∀ c ∈ [x], Leaf False False c ∨
      c = .BL (if nl then "println_i64" else "print_i64") := fun h c hc => by
    cases List.mem_singleton.1 hc; exact .inl h
  unfold printI64G
  dsimp only
  refine List.forall_mem_append.2 ⟨List.forall_mem_append.2 ⟨List.forall_mem_append.2 ⟨List.forall_mem_append.2
    ⟨List.forall_mem_append.2 ⟨List.forall_mem_append.2 ⟨?_, one (com (by decide) (by decide))⟩,
      fun c hc => .inl (leaf_saveCallerSaveRegisters _ _ c hc)⟩, one (com (by decide) (by decide))⟩, ?_⟩, ?_⟩,
    fun c hc => .inl (leaf_restoreCallerSaveRegisters _ _ c hc)⟩
  · cases t with
    | register _ => exact fun _ hc => by cases hc
    | spill p =>
      exact List.forall_mem_cons.2 ⟨.inl (com (by decide) (by decide)), one (leaf_form rfl)⟩
  · cases t <;> exact one (leaf_form rfl)
  · exact List.forall_mem_cons.2 ⟨.inr rfl, one (com (by decide) (by decide))⟩

end Scc.A64.Mem
