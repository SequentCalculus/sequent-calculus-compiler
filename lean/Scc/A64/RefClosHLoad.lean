/-
  Scc.A64.RefClosHLoad — `LoadProv`: what `switch` / `invoke` do to the positions and the heap, in the vocabulary of
  the AArch64 machine: it is the generic `ThreeWay.LoadProvS` (Scc/Backend/ThreeWaySwitch.lean) at the AArch64 target
  (`LoadProv.ofS`).
-/
import Scc.A64.RefClosHStore
import Scc.A64.ThreeWayTarget
import Scc.Heap.RefineBound
import Scc.Backend.ProofsLoad
import Scc.Backend.ProofsSubstRoots

namespace Scc.A64.Ref.K

open Scc.AxCut Scc.Backend Scc.Backend.Abs Scc.A64.CC
open Scc.Heap (HState InvS InvW)
open Scc.Heap.Refine (HRef loadAbs FrLe)

/-- what `switch` / `invoke` do to the positions and the heap (for the closure invariant `XC`, RefClos*.lean, and
for `Same`, RefHeapOfClos.lean): the first `n` positions are untouched, position `n` held a reference to the
object `o`, whose fields are unpacked into the positions `n, n+1, …` (no field: nothing happens) -/
structure LoadProv (n : Nat) (Δ : Ctx) (cfg cfg' : Config) (κ : Nat → Nat → Word)
    (σ σ' : State) : Prop where
  keep : KeepPos n cfg cfg' σ σ'
  obj : (Δ = [] ∧ cfg'.heap = cfg.heap) ∨
    ∃ r o, cfg.temps.get (2 * n) = some r ∧ r ≠ 0 ∧ cfg.heap.get r.toNat = some o ∧
      o.fields.map (·.chi) = Mock.kindsOf Δ ∧
      ∀ j (hj : j < o.fields.length),
        cfg'.temps.get (2 * (n + j) + 1) = some o.fields[j].val ∧
        cfg'.temps.get (2 * (n + j)) = (if o.fields[j].chi == .ext then none else some o.fields[j].ptr) ∧
        σ'.tempVal (posTemp (2 * (n + j) + 1)) = some (trF κ r.toNat j o.fields[j]).val

theorem LoadProv.ofS {c : MemCfg} {H : CfgCC c} {h8 : c.heapBase % 8 = 0} {n : Nat} {Δ : Ctx} {cfg cfg' : Config}
    {κ : Nat → Nat → Word} {σ σ' : State} {out out' : List (Bool × Word)}
    (h : ThreeWay.LoadProvS (target c H h8) n Δ cfg cfg' κ (σ, out) (σ', out')) : LoadProv n Δ cfg cfg' κ σ σ' := by
  refine ⟨KeepPos.ofT h.keep, ?_⟩
  rcases h.obj with h0 | ⟨r, o, a1, a2, a3, a4, a5⟩
  · exact Or.inl h0
  · exact Or.inr ⟨r, o, a1, a2, a3, a4, fun j hj => ⟨(a5 j hj).1, (a5 j hj).2.1, by rw [trF_eq]; exact (a5 j hj).2.2⟩⟩

end Scc.A64.Ref.K
