/-
  Scc.A64.LoaderRoutine — EVERY ROUTINE THE AArch64 BACKEND MODEL EMITS IS TEXT-SAFE:

  * registers: `opsSat_a64` — the AArch64 instance of the generic whole-program lifting `OpsSat` /
    `post_compileR` of Scc/X86/ProofsWfProg.lean, with `P := Code.wf` (operand classes and ranges of the
    monitor `wf`; in particular every register exists), from the per-method theorem `C14_methods_wf`
    (Props/C14A64.lean); `routine_wf`: every item of the routine of a program within the bounds
    (`ProgInRangeA64`: ≤ 1024 xtors per type, ≤ 4096 pairs per substitution) is `Code.wf`;
  * names: `routine_namesOK` (LoaderA64Names.lean);
  * `routine_codeTextOK`: hence every item passes `codeTextOK`, and `routine_loads`: the loader reads the
    printed routine back (`parseText (printProg routine) = .ok (numberFrom 1 (progPLines routine))`).
-/
import Scc.A64.LoaderA64Names
import Scc.Props.C14A64

namespace Scc.A64.Loader

open Scc.Backend
open Scc.X86 (AllP Post OpsSat ProgB post_compileR)
open Scc.X86.Loader (progNamesOK)

theorem post_of_genAll {α : Type} {m : GenM α} {Q : α → Prop} (h : GenAll Q m) : Post m Q :=
  fun c a c' hr => h c a c' hr

theorem allP_of_allWf {l : List Code} (h : allWf l = true) : AllP (fun c => c.wf = true) l := by
  simp only [allWf, List.all_eq_true] at h
  exact h

theorem post_of_genWf {m : GenM (List Code)} (h : GenWf m) : Post m (AllP (fun c => c.wf = true)) :=
  (post_of_genAll h).mono fun _ => allP_of_allWf

/-- the bounds of the instruction forms: `ADD` (immediate) of the jump-table offset (`4·k < 4096`) and of
    the share count -/
def maxTagsA64 : Nat := 1024
def maxSubstA64 : Nat := 4096

theorem opsSat_a64 :
    OpsSat a64Backend (fun c => c.wf = true) (fun t => t.ok = true) (fun _ => True) maxTagsA64 maxSubstA64 where
  temp := by decide
  return1 := by decide
  vt := fun n ctx id => post_of_genAll ((C14_methods_wf.temporaries n ctx).2 id)
  comment := fun m => (C14_methods_wf.comment m "").1
  label := fun l => (C14_methods_wf.comment "" l).2
  jump := fun t ht => allP_of_allWf (C14_methods_wf.jump t ht)
  jumpLabel := fun l => allP_of_allWf (C14_methods_wf.jumpLabel l).1
  jumpLabelFixed := fun l => allP_of_allWf (C14_methods_wf.jumpLabel l).2
  jumpLabelIf := fun s a b l ha hb => allP_of_allWf (C14_methods_wf.jumpLabelIf s a b l ha hb).1
  jumpLabelIfZero := fun s a l ha => allP_of_allWf (C14_methods_wf.jumpLabelIf s a a l ha ha).2
  loadImmediate := fun t n ht _ => allP_of_allWf (C14_methods_wf.loadImmediate t n ht)
  tagLit := fun _ _ => trivial
  loadLabel := fun t l ht => allP_of_allWf (C14_methods_wf.loadLabel t l ht)
  addAndJump := fun t k ht hk => allP_of_allWf (C14_methods_wf.addAndJump t k ht (by
    simp only [maxTagsA64] at hk; omega))
  binop := fun o t s1 s2 ht h1 h2 => allP_of_allWf (C14_methods_wf.binop o t s1 s2 ht h1 h2)
  mov := fun t s ht hs => allP_of_allWf (C14_methods_wf.mov t s ht hs)
  printI64 := fun nl t ctx ht => post_of_genWf (C14_methods_wf.printI64 nl t ctx ht)
  eraseBlock := fun t ht => post_of_genWf (C14_methods_wf.eraseBlock t ht)
  shareBlockN := fun t n ht hn => post_of_genWf (C14_methods_wf.shareBlockN t n ht hn)
  store := fun a b => post_of_genWf (C14_methods_wf.store a b)
  load := fun a b => post_of_genWf (C14_methods_wf.load a b)
  storeTemporary := fun t sp ht => allP_of_allWf (C14_methods_wf.storeRestore t sp ht).1
  restoreTemporary := fun t sp ht => allP_of_allWf (C14_methods_wf.storeRestore t sp ht).2

/-- the hypothesis on programs: at most 1024 xtors per type, at most 4096 pairs per substitution -/
def ProgInRangeA64 (p : AxCut.Prog) : Prop := ProgB (fun _ => True) maxTagsA64 maxSubstA64 p

theorem wf_regsOK {c : Code} (h : c.wf = true) : regsOK c = true := by
  unfold Code.wf at h
  cases hi : c.toInstr with
  | some i => cases c <;> first | rfl | (simp only [regsOK, hi]; rfl)
  | none =>
    rw [hi] at h
    cases c <;> first | rfl | (simp [Code.isMeta] at h)

/-- C14 operand classes and ranges for WHOLE PROGRAMS (AArch64): every item of the body and of the
    routine emitted for a program within the bounds passes the per-instruction check of the monitor `wf` -/
theorem routine_wf {p : AxCut.Prog} {hooks : Bool} {c0 : Nat} {body routine : List Code} {nargs : Nat}
    (hp : ProgInRangeA64 p) (h : compileProg a64Backend p hooks c0 = .ok (body, nargs, routine)) :
    allWf body = true ∧ allWf routine = true := by
  unfold compileProg at h
  split at h
  · cases h
  · rename_i b n c' hr
    have hb : AllP (fun c => c.wf = true) b := post_compileR opsSat_a64 hooks natRen p hp c0 _ c' hr
    have hb' : allWf b = true := by simp only [allWf, List.all_eq_true]; exact hb
    split at h
    · cases h
    · rename_i rt hrt
      cases h
      refine ⟨hb', ?_⟩
      unfold intoRoutine at hrt
      split at hrt
      · cases hrt
      · rename_i su hsu
        cases hrt
        have hn : nargs ≤ 7 := by
          by_cases hle : nargs ≤ 7
          · exact hle
          · exfalso
            have : ∀ k, 7 < k → ∀ cs, moveArguments k ≠ .ok cs := by
              intro k hk cs
              match k, hk with
              | k + 2, hk =>
                simp only [moveArguments]
                rw [if_neg (by omega)]
                intro e; cases e
            unfold setup at hsu
            split at hsu
            · cases hsu
            · rename_i mv hmv
              exact this nargs (by omega) mv hmv
        obtain ⟨cs, hcs, hwf⟩ := C14_methods_wf.routine.1 nargs hn
        rw [hsu] at hcs
        cases hcs
        simp only [allWf_append, Bool.and_eq_true]
        exact ⟨⟨⟨⟨C14_methods_wf.routine.2.2, hwf⟩, rfl⟩, hb'⟩, C14_methods_wf.routine.2.1⟩

/-! ## every routine is text-safe -/

/-- every item of the routine emitted for a program within the bounds whose names are text-safe passes
    `codeTextOK` -/
theorem routine_codeTextOK {p : AxCut.Prog} {hooks : Bool} {c0 : Nat} {body routine : List Code} {nargs : Nat}
    (hrange : ProgInRangeA64 p) (hnames : progNamesOK okcA p = true)
    (h : compileProg a64Backend p hooks c0 = .ok (body, nargs, routine)) :
    (∀ c ∈ body, codeTextOK c = true) ∧ (∀ c ∈ routine, codeTextOK c = true) := by
  obtain ⟨hw1, hw2⟩ := routine_wf hrange h
  obtain ⟨hn1, hn2⟩ := routine_namesOK hnames h
  simp only [allWf, List.all_eq_true] at hw1 hw2
  simp only [NmOK, List.all_eq_true] at hn1 hn2
  constructor
  · intro c hc
    simp only [codeTextOK, Bool.and_eq_true]
    exact ⟨wf_regsOK (hw1 c hc), hn1 c hc⟩
  · intro c hc
    simp only [codeTextOK, Bool.and_eq_true]
    exact ⟨wf_regsOK (hw2 c hc), hn2 c hc⟩

/-- **the routine the backend model emits for a program within the bounds with text-safe names LOADS**:
    the machine's parser reads its printed text as the lines of its items — no evaluation -/
theorem routine_loads {p : AxCut.Prog} {hooks : Bool} {c0 : Nat} {body routine : List Code} {nargs : Nat}
    (hrange : ProgInRangeA64 p) (hnames : progNamesOK okcA p = true)
    (h : compileProg a64Backend p hooks c0 = .ok (body, nargs, routine)) :
    parseText (printProg routine) = .ok (numberFrom 1 (progPLines routine)) :=
  parseText_printProg routine (progOK_of_codeTextOK (routine_codeTextOK hrange hnames h).2)

end Scc.A64.Loader
