/-
  Scc.A64.MemProofsLayout — `BlockAt` (MemProofsBridge.lean) from the machine's `layout`: if the parsed
  text is `pre ++ blk ++ post`, where the lines `blk` are what the block `codes` parses to (`plineOf`:
  instructions, labels, plain comments, directives — no `#ctx` hook comment inside), no label of the
  block is defined in `pre` and the labels of the block are pairwise different (C14: labels are unique
  in the text), then the laid-out program contains the block at the item index where `pre` ends.
-/
import Scc.A64.MemProofsBridge

set_option linter.unusedSimpArgs false

namespace Scc.A64

/-- the step function of `layout` (Machine.lean); `CC.layStep` of CCProofsLayout.lean is the same function, with
the fold lemmas the calling-convention and table-layout files use -/
def layoutStep (acc : LayoutAcc) (x : Nat × PLine) : LayoutAcc :=
  match x with
  | (ln, p) =>
    match p with
    | .blank | .comment | .directive => acc
    | .label l =>
      { acc with
        labels := if acc.labels.contains l then acc.labels else acc.labels.insert l acc.items.size,
        entry := some acc.items.size }
    | .hook vs =>
      { acc with
        items := acc.items.push (.hook vs), lines := acc.lines.push ln, offs := acc.offs.push acc.off,
        entry := match acc.entry with | some e => some e | none => some acc.items.size }
    | .instr i =>
      { acc with
        items := acc.items.push (.instr i), lines := acc.lines.push ln, offs := acc.offs.push acc.off,
        entries := acc.entries.insert acc.off (acc.entry.getD acc.items.size),
        off := acc.off + 4, entry := none }

theorem layout_items (ls : List (Nat × PLine)) : (layout ls).items = (ls.foldl layoutStep {}).items := rfl
theorem layout_labels (ls : List (Nat × PLine)) : (layout ls).labels = (ls.foldl layoutStep {}).labels := rfl

def itemOf (x : Nat × PLine) : Option Item :=
  match x.2 with
  | .hook vs => some (.hook vs)
  | .instr i => some (.instr i)
  | _ => none

theorem layoutStep_items (acc : LayoutAcc) (x : Nat × PLine) :
    (layoutStep acc x).items.toList = acc.items.toList ++ (itemOf x).toList := by
  obtain ⟨ln, p⟩ := x
  cases p <;> simp [layoutStep, itemOf]

theorem foldl_items (ls : List (Nat × PLine)) : ∀ acc : LayoutAcc,
    (ls.foldl layoutStep acc).items.toList = acc.items.toList ++ ls.filterMap itemOf := by
  induction ls with
  | nil => intro acc; simp
  | cons x xs ih =>
    intro acc
    rw [List.foldl_cons, ih, layoutStep_items, List.filterMap_cons]
    cases itemOf x <;> simp

theorem foldl_items_size (ls : List (Nat × PLine)) (acc : LayoutAcc) :
    (ls.foldl layoutStep acc).items.size = acc.items.size + (ls.filterMap itemOf).length := by
  have := congrArg List.length (foldl_items ls acc)
  simpa using this

/-- a label that is already defined keeps its item -/
theorem foldl_labels_keep (l : String) (ls : List (Nat × PLine)) : ∀ acc : LayoutAcc,
    acc.labels.contains l = true → (ls.foldl layoutStep acc).labels[l]? = acc.labels[l]? := by
  induction ls with
  | nil => intro acc _; rfl
  | cons x xs ih =>
    intro acc h
    rw [List.foldl_cons]
    obtain ⟨ln, p⟩ := x
    have key : (layoutStep acc (ln, p)).labels.contains l = true ∧
        (layoutStep acc (ln, p)).labels[l]? = acc.labels[l]? := by
      cases p with
      | label l' =>
        simp only [layoutStep]
        by_cases hc : acc.labels.contains l' = true
        · simp [hc, h]
        · have hne : ¬ l' = l := fun e => hc (e ▸ h)
          simp [hc, h, Std.HashMap.contains_insert, Std.HashMap.getElem?_insert, hne]
      | _ => simp [layoutStep, h]
    rw [ih _ key.1, key.2]

/-- the first definition of a label determines its item -/
theorem foldl_labels_first (l : String) (ln : Nat) (l2 : List (Nat × PLine)) :
    ∀ (l1 : List (Nat × PLine)) (acc : LayoutAcc), acc.labels.contains l = false →
      (∀ x ∈ l1, x.2 ≠ .label l) →
      ((l1 ++ (ln, .label l) :: l2).foldl layoutStep acc).labels[l]? =
        some (acc.items.size + (l1.filterMap itemOf).length) := by
  intro l1
  induction l1 with
  | nil =>
    intro acc h _
    rw [List.nil_append, List.foldl_cons]
    have hc : (layoutStep acc (ln, .label l)).labels.contains l = true := by
      simp [layoutStep, h, Std.HashMap.contains_insert]
    rw [foldl_labels_keep l l2 _ hc]
    simp [layoutStep, h, Std.HashMap.getElem?_insert]
  | cons x xs ih =>
    intro acc h hx
    rw [List.cons_append, List.foldl_cons]
    obtain ⟨ln', p⟩ := x
    have hne : p ≠ .label l := hx (ln', p) (by simp)
    have key : (layoutStep acc (ln', p)).labels.contains l = false := by
      cases p with
      | label l' =>
        have hll : ¬ l' = l := fun e => hne (by rw [e])
        simp only [layoutStep]
        by_cases hc : acc.labels.contains l' = true
        · simp [hc, h]
        · simp [hc, h, Std.HashMap.contains_insert, hll]
      | _ => simp [layoutStep, h]
    rw [ih _ key (fun y hy => hx y (by simp [hy]))]
    have hsz : (layoutStep acc (ln', p)).items.size = acc.items.size + (itemOf (ln', p)).toList.length := by
      have := congrArg List.length (layoutStep_items acc (ln', p))
      simpa using this
    rw [hsz, List.filterMap_cons]
    cases hi : itemOf (ln', p) <;> simp [hi] <;> omega

/-- the parsed line of a backend instruction (`none`: a register that does not exist); comments are
plain comments (a `#ctx` hook comment is not part of a memory block) -/
def plineOf (c : Code) : Option PLine :=
  match c with
  | .LAB l => some (.label l)
  | .TEXT => some .directive
  | .GLOBAL _ => some .directive
  | .COMMENT _ => some .comment
  | c => c.toInstr.map PLine.instr

theorem plineOf_item {c : Code} {ln : Nat} {pl : PLine} (h : plineOf c = some pl) :
    (itemOf (ln, pl)).isSome = c.isItem ∧ (∀ i, c.toInstr = some i → pl = .instr i) ∧
      (∀ l, pl = .label l → c = .LAB l) := by
  cases c <;> simp only [plineOf, Option.some.injEq, Option.map_eq_some_iff] at h <;>
    first
      | (subst h; simp [itemOf, Code.isItem, Code.toInstr])
      | (obtain ⟨i, hi, rfl⟩ := h
         refine ⟨by simp [itemOf, Code.isItem, hi], fun i' hi' => by rw [hi] at hi'; injection hi' with e; rw [e],
           fun l hl => by cases hl⟩)

theorem filterMap_take_getElem? {α β : Type} (f : α → Option β) : ∀ (xs : List α) (j : Nat) (h : j < xs.length)
    (b : β), f xs[j] = some b → (xs.filterMap f)[((xs.take j).filterMap f).length]? = some b
  | x :: xs, 0, _, b, hb => by simp at hb; simp [List.filterMap_cons, hb]
  | x :: xs, j + 1, h, b, hb => by
    have h' : j < xs.length := by simpa using h
    have ih := filterMap_take_getElem? f xs j h' b (by simpa using hb)
    rw [List.take_succ_cons, List.filterMap_cons, List.filterMap_cons]
    cases f x with
    | none => simpa using ih
    | some y => simpa using ih

theorem layout_blockAt (pre post blk : List (Nat × PLine)) (codes : List Code)
    (hblk : blk.map (fun x => some x.2) = codes.map plineOf)
    (hfresh : ∀ l, Code.LAB l ∈ codes → ∀ x ∈ pre, x.2 ≠ .label l)
    (hnodup : ∀ (j1 j2 : Nat) (l : String), codes[j1]? = some (Code.LAB l) → codes[j2]? = some (Code.LAB l) → j1 = j2) :
    BlockAt (layout (pre ++ blk ++ post)) (pre.filterMap itemOf).length codes := by
  have hlen : blk.length = codes.length := by
    have := congrArg List.length hblk
    simpa using this
  have hpl : ∀ j (h : j < codes.length), plineOf codes[j] = some (blk[j]'(by omega)).2 := by
    intro j h
    have h1 : (blk.map (fun x => some x.2))[j]? = (codes.map plineOf)[j]? := by rw [hblk]
    simp only [List.getElem?_map] at h1
    rw [List.getElem?_eq_getElem h, List.getElem?_eq_getElem (by omega : j < blk.length)] at h1
    simpa using h1.symm
  have hidx : ∀ j, j ≤ codes.length → itemIdx codes j = ((blk.take j).filterMap itemOf).length := by
    intro j
    induction j with
    | zero => intro _; simp [itemIdx]
    | succ j ih =>
      intro hj
      have hjc : j < codes.length := by omega
      have hjb : j < blk.length := by omega
      rw [itemIdx_succ codes hjc, ih (by omega), List.take_succ_eq_append_getElem hjb, List.filterMap_append,
        List.length_append]
      have := (plineOf_item (ln := blk[j].1) (hpl j hjc)).1
      have hb : (blk[j].1, blk[j].2) = blk[j] := rfl
      rw [hb] at this
      cases hi : itemOf blk[j] with
      | none => rw [hi] at this; simp [List.filterMap_cons, hi, ← this]
      | some it => rw [hi] at this; simp [List.filterMap_cons, hi, ← this]
  constructor
  · intro j hj i hi
    have hjb : j < blk.length := by omega
    have hpi := (plineOf_item (ln := blk[j].1) (hpl j hj)).2.1 i hi
    have hit : itemOf blk[j] = some (.instr i) := by
      have hb : blk[j] = (blk[j].1, blk[j].2) := rfl
      rw [hb, hpi]; rfl
    rw [layout_items, ← Array.getElem?_toList, foldl_items]
    simp only [List.filterMap_append, List.append_assoc]
    show ([] ++ (pre.filterMap itemOf ++ (blk.filterMap itemOf ++ post.filterMap itemOf)))[
      (pre.filterMap itemOf).length + itemIdx codes j]? = _
    rw [List.nil_append, List.getElem?_append_right (by omega), Nat.add_sub_cancel_left, hidx j (by omega)]
    have hlt : ((blk.take j).filterMap itemOf).length < (blk.filterMap itemOf).length := by
      have := filterMap_take_getElem? itemOf blk j hjb _ hit
      exact (List.getElem?_eq_some_iff.1 this).1
    rw [List.getElem?_append_left hlt]
    exact filterMap_take_getElem? itemOf blk j hjb _ hit
  · intro j l hjl
    obtain ⟨hj, hjeq⟩ := List.getElem?_eq_some_iff.1 hjl
    have hjb : j < blk.length := by omega
    have hp := hpl j hj
    rw [hjeq] at hp
    simp only [plineOf, Option.some.injEq] at hp
    have hsplit : pre ++ blk ++ post = (pre ++ blk.take j) ++ (blk[j].1, PLine.label l) :: (blk.drop (j + 1) ++ post) := by
      have hb : blk[j] = (blk[j].1, PLine.label l) := by rw [hp]
      have h1 : blk.take j ++ blk[j] :: blk.drop (j + 1) = blk := by
        rw [← List.drop_eq_getElem_cons hjb, List.take_append_drop]
      rw [← hb]
      have h2 : (pre ++ blk.take j) ++ blk[j] :: (blk.drop (j + 1) ++ post) =
          pre ++ (blk.take j ++ blk[j] :: blk.drop (j + 1)) ++ post := by
        simp only [List.append_assoc, List.cons_append]
      rw [h2, h1]
    rw [layout_labels, hsplit]
    rw [foldl_labels_first l _ _ _ {} (by simp) ?_]
    · rw [List.filterMap_append, List.length_append, hidx j (by omega)]
      simp
    · intro x hx
      rcases List.mem_append.1 hx with hx | hx
      · exact hfresh l (by rw [← hjeq]; exact List.getElem_mem hj) x hx
      · intro hxl
        obtain ⟨j', hj', hxe⟩ := List.getElem_of_mem hx
        have hj'lt : j' < j := by
          have := hj'; simp only [List.length_take] at this; omega
        have hj'c : j' < codes.length := by omega
        have hxb : x = blk[j']'(by omega) := by rw [← hxe, List.getElem_take]
        have hp' := hpl j' hj'c
        rw [← hxb, hxl] at hp'
        have := (plineOf_item (ln := 0) hp').2.2 l rfl
        have hjj := hnodup j' j l (by rw [List.getElem?_eq_getElem hj'c, this]) hjl
        omega

end Scc.A64
