/-
  Scc.A64.MemProofsAcquire — `acquire_block` (memory.rs of axcut2aarch64) against `Scc.Heap.acquire`:
  (1) next block of the linear free list, (2) head of the lazy free list with deferred erasure of its three
  children, (3) bump of the frontier — target in a register or in a spill slot.  The three cases are proved
  once in `Scc.Mem.AcqSpec.acquire_does`; this file gives what that takes: the view machine as a
  `Scc.Mem.View` (`memView`, which the contracts of `store` and `load` use too), the leaves of the code
  (`acqCode`, `acqC_eq`), their labels (`acqLabs`) and their contracts on the view (`acqSpec`; the erasure of
  one child is `m_eraseField`).  From these `m_acquire` on the view and `acquireBlock_contract` on the machine.
-/
import Scc.A64.MemProofsHeap
import Scc.A64.MemCode
import Scc.Mem.Acquire

set_option linter.unusedSimpArgs false

namespace Scc.A64

open Scc.Backend (GenM TempNum freshLabel)
open Scc.Heap (HOk rd_eq_ok wr_eq_ok)

theorem fieldOffset_nat (n i : Nat) : fieldOffset n i = ((Scc.Heap.fieldOffset n i : Nat) : Int) := by
  unfold fieldOffset address Scc.Heap.fieldOffset
  simp only [consts]
  omega

theorem fieldOffset_fst (i : Nat) : fieldOffset 0 i = ((Scc.Heap.fstOff i : Nat) : Int) :=
  fieldOffset_nat 0 i

/-- the offsets of the model's fields are multiples of 8 within the range of the offset field of `ldr`/`str` -/
theorem heapFieldOffset_bounds (n i : Nat) (hn : n ≤ 1) (hi : i ≤ 1000) :
    Scc.Heap.fieldOffset n i ≤ 32760 ∧ Scc.Heap.fieldOffset n i % 8 = 0 := by
  unfold Scc.Heap.fieldOffset
  omega

/-- the code that erases child `i` of the block in register `blk` (labels `k+1 … k+3`) -/
def eraseFieldCode (blk : Register) (i k : Nat) : List Code :=
  [.COMMENT ("#####check child " ++ toString (i + 1) ++ " for erasure"),
   .LDR TEMP blk (fieldOffset 0 i)] ++
    eraseCode TEMP (labName (k + 1)) (labName (k + 2)) (labName (k + 3))

theorem labsIn_eraseFieldCode (blk : Register) (i k : Nat) : LabsIn (eraseFieldCode blk i k) k (k + 3) :=
  (labsIn_eraseCode TEMP k).cons_other (by simp) |>.cons_other (by simp)

section EraseFields
variable {c : MemCfg} {μ : MState} {h h' : Scc.Heap.HState}

/-- one child: `TEMP := [blk + fst i]; erase TEMP` -/
theorem m_eraseField (C : HeapCfgOK c) (H : HRelM c μ h) {blk : Nat} (hb : blk < 30)
    {b : Word} (hv : μ.val (.register (.x blk)) = some b) {i : Nat} (hi : i < 3) {c0 : Nat}
    (hrd : Scc.Heap.rd h (b.toNat + Scc.Heap.fstOff i) = .ok c0)
    (hop : Scc.Heap.eraseBlock h c0 = .ok h') (k : Nat) :
    ∃ μ', mFwd c (eraseFieldCode (.x blk) i k) μ = some (μ', .next) ∧ HRelM c μ' h' ∧
      (∀ u, u ≠ .register (.x 1) → u ≠ .register (.x 2) → u ≠ .register (.x 3) → μ'.val u = μ.val u) := by
  obtain ⟨hok, hc0⟩ := rd_eq_ok.1 hrd
  obtain ⟨ho1, ho2⟩ := heapFieldOffset_bounds 0 i (by omega) (by omega)
  have ha := haddr_ok C H (off := Scc.Heap.fstOff i) ho1 ho2 hok
  have hm : maddr c μ (.x blk) (fieldOffset 0 i) = some (b.toNat + Scc.Heap.fstOff i) := by
    rw [maddr_eq hb hv, fieldOffset_fst, ha]
  let μ1 := μ.setT (.register (.x 2)) (some (μ.heap (b.toNat + Scc.Heap.fstOff i)))
  have e1 : mFwd c [.COMMENT ("#####check child " ++ toString (i + 1) ++ " for erasure"),
      .LDR TEMP (.x blk) (fieldOffset 0 i)] μ = some (μ1, .next) :=
    mFwd_step c (mexecC_COMMENT c _ μ) (mFwd_step c (mexecC_LDRh c (by decide) hm) (mFwd_nil c _))
  have H1 : HRelM c μ1 h := H.setT (by simp) (by simp) _
  have hv1 : μ1.val (.register (.x 2)) = some (μ.heap (b.toNat + Scc.Heap.fstOff i)) := by simp [μ1]
  have hop1 : Scc.Heap.eraseBlock h (μ.heap (b.toNat + Scc.Heap.fstOff i)).toNat = .ok h' := by
    rw [← H.mem, ← hc0]; exact hop
  have l12 : labName (k + 1) ≠ labName (k + 2) := fun e => by have := labName_inj.mp e; omega
  have l13 : labName (k + 1) ≠ labName (k + 3) := fun e => by have := labName_inj.mp e; omega
  have l23 : labName (k + 2) ≠ labName (k + 3) := fun e => by have := labName_inj.mp e; omega
  obtain ⟨μ', e2, H2, F2⟩ := m_erase C H1 (r := 2) (by decide) (by decide) (by decide) hv1 hop1 _ _ _ l12 l13 l23
  refine ⟨μ', mFwd_seq c e1 e2, H2, fun u hF hT hT2 => ?_⟩
  rw [F2 u hF hT2]
  simp [μ1, hT]

end EraseFields

theorem shareReg_spec {t : Temporary} (ht : t.isVar) : ∃ r, Mem.shareReg t = .x r ∧ r < 30 ∧ 2 ≤ r ∧ r ≠ 3 := by
  cases t with
  | register reg =>
    cases reg with
    | x r =>
      obtain ⟨h1, h2⟩ := isVar_reg ht
      rw [RESERVED_eq] at h1
      exact ⟨r, rfl, h2, by omega, by omega⟩
    | sp => simp [Temporary.isVar] at ht
    | xzr => simp [Temporary.isVar] at ht
  | spill p => exact ⟨2, rfl, by decide, by decide, by decide⟩

section Acquire
variable {c : MemCfg} {μ : MState} {h h' : Scc.Heap.HState}

theorem m_acquireHead {t : Temporary} (ht : t.isVar) {wH : Word} (hH : μ.val (.register (.x 0)) = some wH) :
    ∃ r, Mem.shareReg t = .x r ∧ r < 30 ∧ 2 ≤ r ∧ r ≠ 3 ∧
    ∃ μ1, mFwd c (Mem.acquireHead t) μ = some (μ1, .next) ∧ μ1.val t = some wH ∧
      μ1.val (.register (.x r)) = some wH ∧ μ1.heap = μ.heap ∧ μ1.flags = μ.flags ∧
      (∀ u, u ≠ t → u ≠ .register (.x 2) → μ1.val u = μ.val u) := by
  cases t with
  | register reg =>
    cases reg with
    | x r =>
      obtain ⟨h1, h2⟩ := isVar_reg ht
      rw [RESERVED_eq] at h1
      refine ⟨r, rfl, h2, by omega, by omega, μ.setT (.register (.x r)) (some wH), ?_, by simp, by simp,
        rfl, rfl, fun u hu _ => by simp [hu]⟩
      have := mFwd_step c (mexecC_MOVR c (μ := μ) h2 (by decide : 0 < 30)) (mFwd_nil c _)
      rw [hH] at this
      exact this
    | sp => simp [Temporary.isVar] at ht
    | xzr => simp [Temporary.isVar] at ht
  | spill p =>
    obtain ⟨_, h2⟩ := isVar_spill ht
    refine ⟨2, rfl, by decide, by decide, by decide,
      (μ.setT (.register (.x 2)) (some wH)).setT (.spill p) (some wH), ?_, by simp, by simp, rfl, rfl,
      fun u hu hT => by simp [hu, hT]⟩
    have e1 := mexecC_MOVR c (μ := μ) (by decide : 2 < 30) (by decide : 0 < 30)
    rw [hH] at e1
    have e2 := mexecC_STRs c (μ := μ.setT (.register (.x 2)) (some wH)) (by decide : 0 < 30) h2
    have hv0 : (μ.setT (.register (.x 2)) (some wH)).val (.register (.x 0)) = some wH := by simp [hH]
    rw [hv0] at e2
    exact mFwd_step c e1 (mFwd_step c e2 (mFwd_nil c _))

theorem toNat_add_64 (w : Word) (hw : w.toNat + 64 < 2 ^ 64) : (w + imm 64).toNat = w.toNat + 64 := by
  have := toNat_add_imm_nat w 64 hw
  simpa using this

theorem fieldOffset_block : fieldOffset 0 FIELDS_PER_BLOCK = 64 := by decide

theorem HRelM.of_frame {μ' : MState} (H : HRelM c μ h) (hh : μ'.heap = μ.heap)
    (h1 : μ'.val (.register (.x 0)) = μ.val (.register (.x 0)))
    (h2 : μ'.val (.register (.x 1)) = μ.val (.register (.x 1))) : HRelM c μ' h := by
  obtain ⟨wh, hwh, ewh⟩ := H.heap
  obtain ⟨wf, hwf, ewf⟩ := H.free
  exact ⟨H.base, H.limit, fun a => by rw [hh]; exact H.mem a, ⟨wh, by rw [h1]; exact hwh, ewh⟩,
    ⟨wf, by rw [h2]; exact hwf, ewf⟩⟩

/-- HEAP (`false`) or FREE (`true`) holds the model's register -/
theorem HRelM.sel (H : HRelM c μ h) (b : Bool) :
    ∃ w, μ.val (.register (.x (if b then 1 else 0))) = some w ∧ w.toNat = (if b then h.free else h.heap) := by
  cases b with
  | false => exact H.heap
  | true => exact H.free

@[reducible] def acqCode : Scc.Mem.AcqCode Code Temporary where
  lab := .LAB
  comment := .COMMENT
  head := Mem.acquireHead
  ldNextH := [.LDR HEAP HEAP NEXT_ELEMENT_OFFSET]
  ite := fun b tb eb k => Mem.ifZeroThenElseC (.x (if b then 1 else 0)) tb eb k
  initRc := fun t => [.STR .xzr (Mem.shareReg t) REFERENCE_COUNT_OFFSET]
  takeLazy := [.MOVR HEAP FREE, .LDR FREE FREE NEXT_ELEMENT_OFFSET]
  bump := [.ADDI FREE HEAP (fieldOffset 0 FIELDS_PER_BLOCK)]
  markEmpty := [.STR .xzr HEAP NEXT_ELEMENT_OFFSET]
  eraseField := fun _ i k => eraseFieldCode HEAP i k

theorem acqC_eq (t : Temporary) (k : Nat) : Mem.acquireBlockC t k = acqCode.acqC t k := by
  cases t <;> rfl

/-- `if_zero_then_else` on a register holding 0: the then-branch runs, with the flags of the comparison -/
theorem m_iteReg_then {r : Nat} (hr : r < 30) {μ' : MState} (hv : μ.val (.register (.x r)) = some 0)
    {tb eb : List Code} {k : Nat} (hfresh : skipTo (labName (k + 1)) eb = none)
    (hthen : mFwd c tb (μ.setF (some (0, 0))) = some (μ', .next)) :
    mFwd c (Mem.ifZeroThenElseC (.x r) tb eb k) μ = some (μ', .next) := by
  have e1 : mFwd c [Code.CMPI (.x r) 0] μ = some (μ.setF (some (0, 0)), .next) := by
    simp [mFwd_cons, mFwd_nil, mcont, mexecC, mexec, regOpnd, hr, hv, show okImm12 0 = true by decide, imm_zero]
  show mFwd c ([Code.CMPI (.x r) 0, .BEQ (labName (k + 1))] ++ eb ++ [.B (labName (k + 2)), .LAB (labName (k + 1))] ++
    tb ++ [.LAB (labName (k + 2))]) μ = _
  rw [show [Code.CMPI (.x r) 0, .BEQ (labName (k + 1))] ++ eb ++ [.B (labName (k + 2)), .LAB (labName (k + 1))] ++
      tb ++ [.LAB (labName (k + 2))] = [Code.CMPI (.x r) 0] ++ ([.BEQ (labName (k + 1))] ++ eb ++
      [.B (labName (k + 2)), .LAB (labName (k + 1))] ++ tb ++ [.LAB (labName (k + 2))]) by simp,
    mFwd_pre c e1]
  exact mFwd_ite_then c _ _ _ _ _ _ (a := 0#64) rfl hfresh hthen

theorem m_iteReg_else {r : Nat} (hr : r < 30) {μ' : MState} {w : Word}
    (hv : μ.val (.register (.x r)) = some w) (hw : w ≠ 0) {tb eb : List Code} {k : Nat}
    (hfresh : skipTo (labName (k + 2)) tb = none)
    (helse : mFwd c eb (μ.setF (some (w, 0))) = some (μ', .next)) :
    mFwd c (Mem.ifZeroThenElseC (.x r) tb eb k) μ = some (μ', .next) := by
  have e1 : mFwd c [Code.CMPI (.x r) 0] μ = some (μ.setF (some (w, 0)), .next) := by
    simp [mFwd_cons, mFwd_nil, mcont, mexecC, mexec, regOpnd, hr, hv, show okImm12 0 = true by decide, imm_zero]
  show mFwd c ([Code.CMPI (.x r) 0, .BEQ (labName (k + 1))] ++ eb ++ [.B (labName (k + 2)), .LAB (labName (k + 1))] ++
    tb ++ [.LAB (labName (k + 2))]) μ = _
  rw [show [Code.CMPI (.x r) 0, .BEQ (labName (k + 1))] ++ eb ++ [.B (labName (k + 2)), .LAB (labName (k + 1))] ++
      tb ++ [.LAB (labName (k + 2))] = [Code.CMPI (.x r) 0] ++ ([.BEQ (labName (k + 1))] ++ eb ++
      [.B (labName (k + 2)), .LAB (labName (k + 1))] ++ tb ++ [.LAB (labName (k + 2))]) by simp,
    mFwd_pre c e1]
  exact mFwd_ite_else c _ _ _ _ _ _ (a := w) (b := 0) rfl hw
    (fun e => by have := labName_inj.mp e; omega) hfresh helse

theorem labsIn_ifZeroThenElseC (r : Register) {tb eb : List Code} {lo hi k : Nat} (ht : LabsIn tb lo hi)
    (he : LabsIn eb lo hi) (h1 : lo ≤ k) (h2 : k + 2 ≤ hi) : LabsIn (Mem.ifZeroThenElseC r tb eb k) lo hi := by
  refine LabsIn.append (LabsIn.append (LabsIn.append (LabsIn.append (LabsIn.of_noLab _ _ (by simp)) he) ?_) ht) ?_
  · exact ((LabsIn.nil _ _).cons_lab (n := k + 1) (by omega) (by omega)).cons_other (by simp)
  · exact (LabsIn.nil _ _).cons_lab (by omega) (by omega)

theorem acqLabs : Scc.Mem.AcqLabs acqCode where
  comment_ne_lab := fun _ _ h => by cases h
  noLab_head := fun t l => by cases t <;> simp [Mem.acquireHead]
  noLab_ldNextH := fun l => by simp
  noLab_initRc := fun t l => by simp
  noLab_takeLazy := fun l => by simp
  noLab_bump := fun l => by simp
  noLab_markEmpty := fun l => by simp
  labs_eraseField := fun _ i k => labsIn_iff.1 (labsIn_eraseFieldCode HEAP i k)
  labs_ite := fun b _ _ _ _ _ ht he h1 h2 =>
    labsIn_iff.1 (labsIn_ifZeroThenElseC _ (labsIn_iff.2 ht) (labsIn_iff.2 he) h1 h2)

theorem labsIn_acquireBlockC (t : Temporary) (k : Nat) : LabsIn (Mem.acquireBlockC t k) k (k + 13) := by
  rw [acqC_eq]; exact labsIn_iff.2 (acqLabs.labs_acqC t k)

@[reducible] def memView (c : MemCfg) : Scc.Mem.View where
  κ := Code
  σ := MState
  τ := Temporary
  val := fun μ t => μ.val t
  Runs := fun code μ μ' => mFwd c code μ = some (μ', .next)
  Rel := HRelM c
  runs_nil := mFwd_nil c
  runs_seq := mFwd_seq c

/-- the contracts of the leaves of `acquire_block`: the target is reached through TEMP when it is spilled -/
def acqSpec (C : HeapCfgOK c) : Scc.Mem.AcqSpec (memView c) acqCode where
  toAcqLabs := acqLabs
  heapT := .register (.x 0)
  freeT := .register (.x 1)
  tgt := fun t => t
  ptr := fun t => .register (Mem.shareReg t)
  okT := fun t => t.isVar
  scratch := fun u => u = .register (.x 2) ∨ u = .register (.x 3)
  clobE := fun _ _ => False
  tgt_keep := fun ht => ⟨fun e => e.elim (isVar_ne ht).2.2.1 (isVar_ne ht).2.2.2, not_false⟩
  tgt_ne_heap := fun ht => (isVar_ne ht).1
  tgt_ne_free := fun ht => (isVar_ne ht).2.1
  ptr_ne_heap := fun ht e => by
    obtain ⟨j, hj, _, j2, _⟩ := shareReg_spec ht
    rw [hj] at e
    exact reg_ne (show j ≠ 0 by omega) e
  runs_comment := mFwd_comment c
  rel_heap := fun H => H.heap
  head_does := fun {μ s t} H ht => by
    obtain ⟨wH, hH, eH⟩ := H.heap
    obtain ⟨t0, t1, t2, t3⟩ := isVar_ne ht
    obtain ⟨j, hj, j30, j2, j3, μ1, x1, v1t, v1j, hp1, -, F1⟩ := m_acquireHead (c := c) ht hH
    refine ⟨μ1, x1, H.of_frame hp1 (F1 _ (Ne.symm t0) (by simp)) (F1 _ (Ne.symm t1) (by simp)),
      fun u hu => F1 u hu.2 (fun e => hu.1 (Or.inl e)), v1t.trans hH.symm, ?_⟩
    show μ1.val (.register (Mem.shareReg t)) = μ.val (.register (.x 0))
    rw [hj]; exact v1j.trans hH.symm
  ldNextH_does := fun {μ s h0} H hrd => by
    obtain ⟨wH, hH, eH⟩ := H.heap
    obtain ⟨wF, hF, eF⟩ := H.free
    obtain ⟨hok, hh0⟩ := rd_eq_ok.1 hrd
    rw [← eH] at hok hh0
    have aH : haddr c wH 0 = some wH.toNat := haddr_ok0 C H hok
    refine ⟨μ.setT (.register (.x 0)) (some (μ.heap wH.toNat)), ?_, ⟨H.base, H.limit, H.mem,
      ⟨μ.heap wH.toNat, by simp, by rw [hh0, H.mem]⟩, ⟨wF, by simp [hF], eF⟩⟩,
      fun u hu => by
        have hu : u ≠ .register (.x 0) := hu
        show (μ.setT (.register (.x 0)) (some (μ.heap wH.toNat))).val u = μ.val u
        simp [hu], trivial⟩
    show mFwd c [.LDR HEAP HEAP NEXT_ELEMENT_OFFSET] μ = _
    simp [mFwd_cons, mFwd_nil, mcont, mexecC, mexec, HEAP_eq, regOpnd, next_zero, maddr, hH, aH]
  ite_then := fun {μ s b tb eb k0 k P} H hz hl hT => by
    have hl : LabsIn eb k0 k := labsIn_iff.2 hl
    obtain ⟨w, hw, ew⟩ := H.sel b
    have hw0 : w = 0#64 := BitVec.eq_of_toNat_eq (by rw [ew, hz]; rfl)
    subst hw0
    obtain ⟨μ', x, p⟩ := hT _ (H.setF (some (0, 0))) (fun u => rfl)
    exact ⟨μ', m_iteReg_then (by cases b <;> decide) hw (hl.skipTo_none (Or.inr (by omega))) x, p⟩
  ite_else := fun {μ s b tb eb k0 k P} H hz hl hE => by
    have hl : LabsIn tb k0 k := labsIn_iff.2 hl
    obtain ⟨w, hw, ew⟩ := H.sel b
    have hw0 : w ≠ 0#64 := fun e => hz (by rw [← ew, e]; rfl)
    obtain ⟨μ', x, p⟩ := hE _ (H.setF (some (w, 0))) (fun u => rfl)
    exact ⟨μ', m_iteReg_else (by cases b <;> decide) hw hw0 (hl.skipTo_none (Or.inr (by omega))) x, p⟩
  initRc_does := fun {μ s s' t w} H ht hv hwr => by
    obtain ⟨j, hj, j30, j2, j3⟩ := shareReg_spec ht
    obtain ⟨hok, rfl⟩ := wr_eq_ok.1 hwr
    have ha : haddr c w 0 = some w.toNat := haddr_ok0 C H hok
    have hv : μ.val (.register (Mem.shareReg t)) = some w := hv
    rw [hj] at hv
    refine ⟨μ.setH w.toNat 0#64, ?_, by simpa using H.setH w.toNat 0#64, fun u _ => rfl, trivial⟩
    show mFwd c [.STR .xzr (Mem.shareReg t) REFERENCE_COUNT_OFFSET] μ = _
    rw [hj]
    simp [mFwd_cons, mFwd_nil, mcont, mexecC, mexec, refcount_zero, maddr, j30, hv, ha, srcVal]
  takeLazy_does := fun {μ s f'} H hrf => by
    obtain ⟨wF, hF, eF⟩ := H.free
    obtain ⟨hokF, hf'⟩ := rd_eq_ok.1 hrf
    rw [← eF] at hokF hf'
    have aF : haddr c wF 0 = some wF.toNat := haddr_ok0 C H hokF
    refine ⟨(μ.setT (.register (.x 0)) (some wF)).setT (.register (.x 1)) (some (μ.heap wF.toNat)), ?_,
      ⟨H.base, H.limit, H.mem, ⟨wF, by simp, eF⟩, ⟨μ.heap wF.toNat, by simp, by rw [hf', H.mem]⟩⟩,
      fun u hu => by
        have h0 : u ≠ .register (.x 0) := hu.1
        have h1 : u ≠ .register (.x 1) := hu.2
        show ((μ.setT (.register (.x 0)) (some wF)).setT (.register (.x 1)) (some (μ.heap wF.toNat))).val u = μ.val u
        simp [h0, h1], trivial⟩
    show mFwd c [.MOVR HEAP FREE, .LDR FREE FREE NEXT_ELEMENT_OFFSET] μ = _
    simp [mFwd_cons, mFwd_nil, mcont, mexecC, mexec, HEAP_eq, FREE_eq, regOpnd, next_zero, maddr, hF, aF]
  bump_does := fun {μ s} H hok => by
    obtain ⟨wH, hH, eH⟩ := H.heap
    rw [← eH] at hok
    have hno : wH.toNat + 64 < 2 ^ 64 := by
      have h2 := hok.2.1
      have := C.top
      rw [H.limit] at h2
      omega
    refine ⟨μ.setT (.register (.x 1)) (some (wH + imm 64)), ?_, ⟨H.base, H.limit, H.mem,
      ⟨wH, by simp [hH], eH⟩, ⟨wH + imm 64, by simp, by rw [toNat_add_64 _ hno, eH]; rfl⟩⟩,
      fun u hu => by
        have h1 : u ≠ .register (.x 1) := hu
        show (μ.setT (.register (.x 1)) (some (wH + imm 64))).val u = μ.val u
        simp [h1], trivial⟩
    show mFwd c [.ADDI FREE HEAP (fieldOffset 0 FIELDS_PER_BLOCK)] μ = _
    simp [mFwd_cons, mFwd_nil, mcont, mexecC, mexec, HEAP_eq, FREE_eq, regOpnd, show okImm12 64 = true by decide,
      fieldOffset_block, hH]
  markEmpty_does := fun {μ s s'} H hwr => by
    obtain ⟨wH, hH, eH⟩ := H.heap
    rw [← eH] at hwr
    obtain ⟨hok, rfl⟩ := wr_eq_ok.1 hwr
    have aH : haddr c wH 0 = some wH.toNat := haddr_ok0 C H hok
    refine ⟨μ.setH wH.toNat 0#64, ?_, by simpa using H.setH wH.toNat 0#64, fun u _ => rfl, trivial⟩
    show mFwd c [.STR .xzr HEAP NEXT_ELEMENT_OFFSET] μ = _
    simp [mFwd_cons, mFwd_nil, mcont, mexecC, mexec, HEAP_eq, next_zero, maddr, hH, aH, srcVal]
  eraseField_does := fun {μ s s' t i c0} k H _ hi hrd hop => by
    obtain ⟨wH, hH, eH⟩ := H.heap
    rw [← eH] at hrd
    obtain ⟨μ', x, H', F⟩ := m_eraseField C H (blk := 0) (by decide) hH hi hrd hop k
    exact ⟨μ', x, H', fun u hu => F u hu.2.1 (fun e => hu.1 (Or.inl e)) (fun e => hu.1 (Or.inr e)), trivial⟩

/-- CONTRACT of `acquire_block` on the view: whenever the heap model acquires a block, the emitted
code — target in a register or in a spill slot — runs to its end, the result represents the model's
result, the target holds the acquired block; only the target, TEMP, TEMP2, HEAP, FREE, the flags and the
heap change.  The three cases of the model are the backend-independent `Scc.Mem.AcqSpec.acquire_does` at the
leaves `acqSpec`. -/
theorem m_acquire (C : HeapCfgOK c) (H : HRelM c μ h) {t : Temporary} (ht : t.isVar) {new : Nat}
    (hop : Scc.Heap.acquire h = .ok (h', new)) (k : Nat) :
    ∃ code, (acquireBlock t).run k = .ok (code, k + 13) ∧ LabsIn code k (k + 13) ∧
      ∃ μ', mFwd c code μ = some (μ', .next) ∧ HRelM c μ' h' ∧
        (∃ w, μ'.val t = some w ∧ w.toNat = new) ∧
        (∀ u, u ≠ t → u ≠ .register (.x 0) → u ≠ .register (.x 1) → u ≠ .register (.x 2) →
          u ≠ .register (.x 3) → μ'.val u = μ.val u) := by
  obtain ⟨μ', x, H', F', w, hw, ew⟩ := (acqSpec C).acquire_does H ht hop k
  refine ⟨_, Mem.acquireBlock_run t k, labsIn_acquireBlockC t k, μ', ?_, H', ⟨w, hw, ew⟩,
    fun u hu h0 h1 h2 h3 => F' u ⟨fun e => e.elim h2 h3, h0, h1, hu, not_false⟩⟩
  rw [acqC_eq]; exact x

end Acquire

/-- CONTRACT of `acquire_block` (memory.rs) on the machine: from every state (SP in place) that
represents an abstract heap on which `Scc.Heap.acquire` succeeds — (1) next block of the linear free
list, (2) head of the lazy free list with deferred erasure of its three children, (3) bump of the
frontier — the emitted code (target in a register or in a spill slot) runs to its end; the final state
has the same SP, represents the model's result heap, and holds the acquired block in the target.
Only the target, TEMP, TEMP2, HEAP, FREE, the flags and the heap change. -/
theorem acquireBlock_contract {c : MemCfg} {room : Nat} {σ : State} (h8 : c.heapBase % 8 = 0)
    (B : SpOk c σ.sp room) {h h' : Scc.Heap.HState} (R : HeapRel c σ h) {t : Temporary} (ht : t.isVar)
    {new : Nat} (hop : Scc.Heap.acquire h = .ok (h', new)) (k : Nat) :
    ∃ code, (acquireBlock t).run k = .ok (code, k + 13) ∧ LabsIn code k (k + 13) ∧
      ∃ σ', execFwd c code σ = .ok (σ', .next) ∧ SpOk c σ'.sp room ∧ HeapRel c σ' h' ∧
        (∃ w, σ'.tempVal t = some w ∧ w.toNat = new) ∧
        FrameT σ σ' (fun u => u = t ∨ u = .register HEAP ∨ u = .register FREE ∨ u = .register TEMP ∨
          u = .register TEMP2) := by
  obtain ⟨code, hrun, hl, μ', hx, H', ⟨w, hw, ew⟩, hfr⟩ :=
    m_acquire (heapCfgOK_of_spOk h8 B) (heapRel_mview R) ht hop k
  obtain ⟨σ', e, B', M', F⟩ := m_to_machine B hx
    (changed := fun u => u = t ∨ u = .register HEAP ∨ u = .register FREE ∨ u = .register TEMP ∨
      u = .register TEMP2)
    (fun u hu => hfr u (fun e => hu (Or.inl e)) (fun e => hu (Or.inr (Or.inl e)))
      (fun e => hu (Or.inr (Or.inr (Or.inl e)))) (fun e => hu (Or.inr (Or.inr (Or.inr (Or.inl e)))))
      (fun e => hu (Or.inr (Or.inr (Or.inr (Or.inr e))))))
  exact ⟨code, hrun, hl, σ', e, B', heapRel_of_mrep M' H',
    ⟨w, by rw [M'.vals t (isVar_opndOK ht)]; exact hw, ew⟩, F⟩

end Scc.A64
