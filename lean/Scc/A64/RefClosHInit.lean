/-
  Scc.A64.RefClosHInit — the initial state WITH THE HEAP: the header of the routine (`header_exec`, `header_at`,
  RefInit.lean) as a run of the machine, with the heap view after the prologue (nothing written, HEAP = X0 = heap
  base, FREE = X1 = heap base + 64: the initial state of the block-level heap model).
  The run through the header is an `MStepsK Q` run (Scc/A64/ConcKMid.lean: the `#ctx` hook items it visits lie at
  indices in `Q`), built under `HKQ hk Q` (Scc/A64/ConcKNoHk.lean).
-/
import Scc.A64.RefClosHCall
import Scc.A64.RefInit

namespace Scc.A64.Ref.K

open Scc.Backend.Abs Scc.A64.CC
open Scc.A64.NoHk (HKQ hkcQ_mm noHkQ_of_nhOK)
open Scc.Backend.NamesC (mm_ofList)

section Init

variable {c : MemCfg} (H : CfgCC c) {hk : Code → Bool} {P : Prog} {Q : Nat → Prop}

include H in
/-- THE ENTRY: the routine header from the machine's entry state, as an `MStepsK Q` run, with the heap view -/
theorem init_sim3 {routine body : List Code} {args : List Word}
    (hr : intoRoutine body args.length = .ok routine) (Hp : Holds hk P routine) (hQ : HKQ hk Q) :
    ∃ (hdr : List Code) (σ2 : State),
      routine = hdr ++ body ++ cleanup ∧ (∀ l ∈ labs hdr, l = "asm_main") ∧
      P.labels["asm_main"]? = some (pcOf hk routine 2) ∧
      MStepsK Q P c (entryState c args) (pcOf hk routine 2) [] σ2 (pcOf hk routine hdr.length) [] ∧
      RepA64 c .normal (initConfig 0 args) σ2 [] ∧
      HeapRel c σ2 (Scc.Heap.init c.heapBase (c.heapBase + c.heapBytes)) := by
  obtain ⟨su, σ1, hsu, hrt, hx, R, HR⟩ := header_exec H hr
  obtain ⟨hlab, hget, hlen⟩ := header_at Hp hrt
  have hm := msteps_codesQ (c := c) (Q := Q) Hp _ 2 _ _ [] hget hx
    (NoHkQ.cons (Or.inl (hk_false_of_not_comment Hp (fun m e => by cases e)))
      ((noHkQ_of_nhOK Hp hQ (NoHk.nh_setup hsu)).append (NoHkQ.cons (hkcQ_mm Hp hQ (mm_ofList (by decide))) NoHkQ.nil)))
  rw [hlen] at hm
  exact ⟨routineHead su, σ1, hrt, labs_routineHead hsu, hlab, hm, R, HR⟩

end Init

end Scc.A64.Ref.K

