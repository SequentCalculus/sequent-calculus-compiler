/-
  Scc.A64.JumpLemmas — jump tables.  With the layout of Machine.lean (every instruction
  4 bytes) the k-th entry `B l_k` of a table at label L is at `address(L) + jump_length(k)`, and the
  code emitted for `switch` (load_label; add; jump) and for `invoke` (add_and_jump) reaches it.
-/
import Scc.A64.MoveLemmas

set_option linter.unusedSimpArgs false

namespace Scc.A64

/-- A jump table of `n` entries at label `l` in a laid-out program: the label points at item `j`,
the items `j … j+n−1` are at consecutive 4-byte offsets and an indirect jump to the offset of entry
`k` enters at item `j + k`. (`layout` establishes this for a label followed by `n` instructions
with no hook comment in between: `table_layout`, A64/RefTableLayout.lean, restated as
`C07_table_layout_statement` in Props/C07A64Heap.lean.) -/
structure TableAt (p : Prog) (c : MemCfg) (l : String) (j n : Nat) : Prop where
  label : p.labels[l]? = some j
  inRange : j < p.items.size
  entries : ∀ k, k < n → p.entries[p.offs.getD j 0 + 4 * k]? = some (j + k)
  nowrap : c.codeBase + p.offs.getD j 0 + 4 * n < 2 ^ 64

def labelWord (p : Prog) (c : MemCfg) (j : Nat) : Word := BitVec.ofNat 64 (c.codeBase + p.offs.getD j 0)

theorem step_adr {p : Prog} {c : MemCfg} {l : String} {j n : Nat} (h : TableAt p c l j n)
    (d : Fin 31) (σ : State) (pc : Nat) :
    step p c (.adr (.x d) l) σ pc = .next (σ.setReg d (some (labelWord p c j))) (pc + 1) := by
  simp [step, Prog.labelAddr, h.label, h.inRange, State.wrZ, wrX_eq_setReg, labelWord]

theorem jumpLength_eq (k : Nat) : jumpLength k = 4 * (k : Int) := rfl

theorem labelWord_add {p : Prog} {c : MemCfg} {l : String} {j n : Nat} (h : TableAt p c l j n)
    (k : Nat) (hk : k < n) :
    (labelWord p c j + imm (jumpLength k)).toNat = c.codeBase + (p.offs.getD j 0 + 4 * k) := by
  have hw := h.nowrap
  have h64 : (2:Nat)^64 = 18446744073709551616 := by decide
  have hi : (imm (jumpLength k)).toNat = 4 * k := by
    rw [jumpLength_eq, imm_toNat_of_nonneg (by omega) (by omega)]; omega
  rw [BitVec.toNat_add, hi, labelWord, BitVec.toNat_ofNat]
  omega

theorem step_br {p : Prog} {c : MemCfg} {l : String} {j n : Nat} (h : TableAt p c l j n)
    (k : Nat) (hk : k < n) (d : Fin 31) (σ : State) (pc : Nat)
    (hd : σ.reg d = some (labelWord p c j + imm (jumpLength k))) :
    step p c (.br (.x d)) σ pc = .next σ (j + k) := by
  have ha := labelWord_add h k hk
  have he := h.entries k hk
  have hlt : ¬ (c.codeBase + (p.offs.getD j 0 + 4 * k) < c.codeBase) := by omega
  have hsub : c.codeBase + (p.offs.getD j 0 + 4 * k) - c.codeBase = p.offs.getD j 0 + 4 * k := by omega
  simp only [step, rdX_reg, hd, ha, hlt, if_false, hsub, he]

theorem step_addi (p : Prog) (c : MemCfg) (d n : Reg) (i : Int) (σ : State) (pc : Nat) :
    step p c (.addi d n i) σ pc =
      match (Instr.addi d n i).exec c σ with
      | .error e => .stop (.fault e 0)
      | .ok σ' => .next σ' (pc + 1) := rfl

theorem step_add (p : Prog) (c : MemCfg) (d n m : Reg) (σ : State) (pc : Nat) :
    step p c (.add d n m) σ pc =
      match (Instr.add d n m).exec c σ with
      | .error e => .stop (.fault e 0)
      | .ok σ' => .next σ' (pc + 1) := rfl

/-- code.rs `add_and_jump` (statement `invoke`): with the table address in a register the code
enters the `k`-th table entry, for every `k` within the table and an immediate in range. -/
theorem addAndJump_register {p : Prog} {c : MemCfg} {l : String} {j n : Nat} (h : TableAt p c l j n)
    (k : Nat) (hk : k < n) (hk12 : k < 1024) (r : Nat) (d : Fin 31) (hr : xreg r = some d)
    (σ : State) (pc : Nat) (hd : σ.reg d = some (labelWord p c j)) :
    ∃ i1 i2 σ1, (addAndJump (.register (.x r)) (jumpLength k)).map Code.toInstr = [some i1, some i2] ∧
      step p c i1 σ pc = .next σ1 (pc + 1) ∧ step p c i2 σ1 (pc + 1) = .next σ1 (j + k) ∧
      σ1 = σ.setReg d (some (labelWord p c j + imm (jumpLength k))) := by
  have hi : okImm12 (jumpLength k) = true := by
    rw [jumpLength_eq]; unfold okImm12
    have h1 : (0 : Int) ≤ 4 * (k : Int) := by omega
    have h2 : 4 * (k : Int) < 4096 := by omega
    simp [h1, h2]
  refine ⟨.addi (.x d) (.x d) (jumpLength k), .br (.x d), _, ?_, ?_, ?_, rfl⟩
  · simp [addAndJump, Code.toInstr, toReg_x, hr]
  · rw [step_addi, exec_addi_x c σ d d _ hi]
    simp [hd]
  · exact step_br h k hk d _ _ (by simp)

/-- switch.rs (`load_label(temp, L); add(temp, temp, tag); jump(temp)`) with the tag in a register:
the code enters the `k`-th entry of the table at `L` when the tag is `jump_length(k)`. -/
theorem switch_jump_register {p : Prog} {c : MemCfg} {l : String} {j n : Nat} (h : TableAt p c l j n)
    (k : Nat) (hk : k < n) (nt : Fin 31) (hnt : nt ≠ xT) (σ : State) (pc : Nat)
    (htag : σ.reg nt = some (imm (jumpLength k))) :
    ∃ σ1 σ2, step p c (.adr (.x xT) l) σ pc = .next σ1 (pc + 1) ∧
      step p c (.add (.x xT) (.x xT) (.x nt)) σ1 (pc + 1) = .next σ2 (pc + 2) ∧
      step p c (.br (.x xT)) σ2 (pc + 2) = .next σ2 (j + k) := by
  refine ⟨_, (σ.setReg xT (some (labelWord p c j))).setReg xT (some (labelWord p c j + imm (jumpLength k))),
    step_adr h xT σ pc, ?_, ?_⟩
  · rw [step_add, exec_add_x]
    simp [hnt, Ne.symm hnt, htag]
  · exact step_br h k hk xT _ _ (by simp)

theorem step_ldr (p : Prog) (c : MemCfg) (t n : Reg) (i : Int) (σ : State) (pc : Nat) :
    step p c (.ldr t n i) σ pc =
      match (Instr.ldr t n i).exec c σ with
      | .error e => .stop (.fault e 0)
      | .ok σ' => .next σ' (pc + 1) := rfl

/-- switch.rs with the tag in a SPILL slot (repaired code: the tag goes through TEMP2): the code
enters the `k`-th entry of the table. -/
theorem switch_jump_spill {p : Prog} {c : MemCfg} {l : String} {j n : Nat} (h : TableAt p c l j n)
    (k : Nat) (hk : k < n) (room : Nat) (σ : State) (hsp : SpOk c σ.sp room) (pc : Nat)
    (q : Nat) (hq : (Temporary.spill q).isVar) (htag : σ.tempVal (.spill q) = some (imm (jumpLength k))) :
    ∃ σ1 σ2 σ3, step p c (.adr (.x xT) l) σ pc = .next σ1 (pc + 1) ∧
      step p c (.ldr (.x xT2) .sp (stackOffset q)) σ1 (pc + 1) = .next σ2 (pc + 2) ∧
      step p c (.add (.x xT) (.x xT) (.x xT2)) σ2 (pc + 2) = .next σ3 (pc + 3) ∧
      step p c (.br (.x xT)) σ3 (pc + 3) = .next σ3 (j + k) := by
  obtain ⟨_, hq'⟩ := isVar_spill hq
  rw [tempVal_spill] at htag
  have hx : xT ≠ xT2 := by decide
  have hsp1 : SpOkS c room (σ.setReg xT (some (labelWord p c j))) := hsp
  refine ⟨_, (σ.setReg xT (some (labelWord p c j))).setReg xT2 (some (imm (jumpLength k))),
    ((σ.setReg xT (some (labelWord p c j))).setReg xT2 (some (imm (jumpLength k)))).setReg xT
      (some (labelWord p c j + imm (jumpLength k))), step_adr h xT σ pc, ?_, ?_, ?_⟩
  · rw [step_ldr, exec_ldr_slot c room _ _ _ hsp1 hq']
    simp [htag]
  · rw [step_add, exec_add_x]
    simp [hx, Ne.symm hx]
  · exact step_br h k hk xT _ _ (by simp)

end Scc.A64
