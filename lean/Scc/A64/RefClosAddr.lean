/-
  Scc.A64.RefClosAddr — CODE ADDRESSES of labels for CLOSURES on AArch64 (C07): what `ADR reg, label` puts
  into the register and where `BR reg` to that address enters the laid-out program.
  * `fold_entry_label`: the fold of the machine's loader `layout` (Machine.lean) on the lines of a routine:
    a label followed by labels / comments / hooks and then an instruction.  The indirect-jump entry of the
    instruction's offset is the item index of the LAST label before the instruction (hooks that follow that
    label are executed, hooks before it are skipped): an index between the item index of the first label and
    the item index of the instruction.
  * `HoldsB hk P cs`: `HoldsA` (RefHeapAddr.lean) together with the offsets of ALL items (hooks included) and
    that fact about entries; `holdsB_layout`: `layout ls` holds the routine in this sense.
  * `Tol P pc0 pcR`: the machine is at item `pcR`, the statement boundary at item `pc0`, only `#ctx` hooks in
    between (after the `BR` of an `invoke` of a single-method closure); `tol_run` brings a run from the
    boundary and the machine together again.
  * `label_addr`, `step_br_label`: `ADR` loads `addrOf c cs idx` (RefClosDefs.lean) for the label at list position
    `idx`; `BR` to that address enters within `Tol` of the position behind the labels.
-/
import Scc.A64.RefHeapAddr
import Scc.A64.RefClosDefs

set_option linter.unusedVariables false

namespace Scc.A64.Ref.K

open Scc.A64.CC

section Fold
variable {hkv : String → Option (List (String × Kind))}

theorem icnt_cons (hk : Code → Bool) (c : Code) (l : List Code) :
    icnt hk (c :: l) = (if isItem hk c then 1 else 0) + icnt hk l := by
  unfold icnt
  rw [List.filter_cons]
  cases isItem hk c <;> simp
  omega

theorem icnt_nil (hk : Code → Bool) : icnt hk [] = 0 := rfl

theorem icnt_append (hk : Code → Bool) (a b : List Code) : icnt hk (a ++ b) = icnt hk a + icnt hk b := by
  unfold icnt
  rw [List.filter_append, List.length_append]

theorem ninstr_append (a b : List Code) : ninstr (a ++ b) = ninstr a + ninstr b := by
  unfold ninstr
  rw [List.filter_append, List.length_append]

theorem layStep_sizes {c : Code} {pl : PLine} (hl : lineOf hkv c = some pl) (acc : LayoutAcc) (ln : Nat)
    (hsz : acc.offs.size = acc.items.size) :
    (layStep acc (ln, pl)).offs.size = (layStep acc (ln, pl)).items.size ∧
    (layStep acc (ln, pl)).off = acc.off + 4 * (if c.isMeta then 0 else 1) ∧
    (layStep acc (ln, pl)).items.size = acc.items.size + (if isItem (hkOf hkv) c then 1 else 0) := by
  rcases lineOf_cases hl with ⟨hm, i, rfl⟩ | ⟨hm, hcase⟩
  · refine ⟨by simp [layStep, hsz], by simp [layStep, hm], by simp [layStep, isItem, hm]⟩
  · rcases hcase with ⟨l, rfl, rfl⟩ | ⟨rfl, hnh⟩ | ⟨rfl, hnh⟩ | ⟨vs, rfl, hh⟩
    · exact ⟨hsz, by simp [layStep, Code.isMeta], by simp [layStep, isItem, Code.isMeta, hkOf]⟩
    · exact ⟨hsz, by simp [layStep, hm], by simp [layStep, isItem, hm, hnh]⟩
    · exact ⟨hsz, by simp [layStep, hm], by simp [layStep, isItem, hm, hnh]⟩
    · exact ⟨by simp [layStep, hsz], by simp [layStep, hm], by simp [layStep, isItem, hh]⟩

/-- the layout step of a META code: the entries are untouched; a label resets the pending entry to the
current item index, everything else keeps a pending entry -/
theorem layStep_meta {c : Code} {pl : PLine} (hl : lineOf hkv c = some pl) (hm : c.isMeta = true)
    (acc : LayoutAcc) (ln : Nat) {e : Nat} (he : acc.entry = some e) (hle : e ≤ acc.items.size) :
    (layStep acc (ln, pl)).entries = acc.entries ∧
    ∃ e1, (layStep acc (ln, pl)).entry = some e1 ∧ e ≤ e1 ∧ e1 ≤ acc.items.size := by
  rcases lineOf_cases hl with ⟨hm', _⟩ | ⟨_, hcase⟩
  · rw [hm] at hm'; cases hm'
  · rcases hcase with ⟨l, rfl, rfl⟩ | ⟨rfl, _⟩ | ⟨rfl, _⟩ | ⟨vs, rfl, hh⟩
    · exact ⟨rfl, acc.items.size, rfl, hle, Nat.le_refl _⟩
    · exact ⟨rfl, e, he, Nat.le_refl _, hle⟩
    · exact ⟨rfl, e, he, Nat.le_refl _, hle⟩
    · refine ⟨rfl, e, ?_, Nat.le_refl _, hle⟩
      simp [layStep, he]

/-- metas, then an instruction, with a pending entry `e`: the entry of the instruction's offset lies between
`e` and the item index of the instruction -/
theorem fold_entry_metas {ls : List (Nat × PLine)} {R : List Code} (h : Lines hkv ls R) :
    ∀ acc : LayoutAcc, acc.offs.size = acc.items.size →
      ∀ (B : List Code) (c2 : Code) (R0 : List Code) (e : Nat), R = B ++ c2 :: R0 →
        (∀ b ∈ B, b.isMeta = true) → c2.isMeta = false → acc.entry = some e → e ≤ acc.items.size →
        ∃ e', (ls.foldl layStep acc).entries[acc.off]? = some e' ∧ e ≤ e' ∧
          e' ≤ acc.items.size + icnt (hkOf hkv) B := by
  induction h with
  | nil =>
    intro acc _ B c2 R0 e hR
    cases B <;> cases hR
  | blank ln _ ih =>
    intro acc hsz
    rw [List.foldl_cons]
    exact ih acc hsz
  | @code ln c pl ls R hl hlines ih =>
    intro acc hsz B c2 R0 e hR hB hc2 he hle
    rw [List.foldl_cons]
    obtain ⟨hsz1, hoff1, hisz1⟩ := layStep_sizes hl acc ln hsz
    cases B with
    | nil =>
      simp only [List.nil_append, List.cons.injEq] at hR
      obtain ⟨rfl, rfl⟩ := hR
      rcases lineOf_cases hl with ⟨_, i, rfl⟩ | ⟨hm, _⟩
      · have hkey : (layStep acc (ln, .instr i)).entries[acc.off]? = some e := by
          simp [layStep, he]
        obtain ⟨_, _, i3, _⟩ := fold_addr hlines (layStep acc (ln, .instr i)) hsz1
        rw [hc2] at hoff1
        refine ⟨e, ?_, Nat.le_refl _, by simp [icnt]; exact hle⟩
        rw [i3 acc.off (by rw [hoff1]; simp), hkey]
      · rw [hc2] at hm; cases hm
    | cons b B' =>
      simp only [List.cons_append, List.cons.injEq] at hR
      obtain ⟨rfl, rfl⟩ := hR
      have hbm := hB c (by simp)
      obtain ⟨hent, e1, he1, h1, h2⟩ := layStep_meta hl hbm acc ln he hle
      rw [hbm] at hoff1
      simp only [if_true, Nat.mul_zero, Nat.add_zero] at hoff1
      obtain ⟨e', g1, g2, g3⟩ := ih (layStep acc (ln, pl)) hsz1 B' c2 R0 e1 rfl
        (fun b hb => hB b (by simp [hb])) hc2 he1 (by rw [hisz1]; omega)
      rw [hoff1] at g1
      refine ⟨e', g1, by omega, ?_⟩
      rw [icnt_cons]
      rw [hisz1] at g3
      omega

/-- THE ENTRY BEHIND A LABEL: a label, then labels / comments / hooks, then an instruction -/
theorem fold_entry_label {ls : List (Nat × PLine)} {R : List Code} (h : Lines hkv ls R) :
    ∀ acc : LayoutAcc, acc.offs.size = acc.items.size →
      ∀ (A : List Code) (l : String) (B : List Code) (c2 : Code) (R0 : List Code),
        R = A ++ Code.LAB l :: (B ++ c2 :: R0) → (∀ b ∈ B, b.isMeta = true) → c2.isMeta = false →
        ∃ e', (ls.foldl layStep acc).entries[acc.off + 4 * ninstr A]? = some e' ∧
          acc.items.size + icnt (hkOf hkv) A ≤ e' ∧
          e' ≤ acc.items.size + icnt (hkOf hkv) (A ++ Code.LAB l :: B) := by
  induction h with
  | nil =>
    intro acc _ A l B c2 R0 hR
    cases A <;> cases hR
  | blank ln _ ih =>
    intro acc hsz
    rw [List.foldl_cons]
    exact ih acc hsz
  | @code ln c pl ls R hl hlines ih =>
    intro acc hsz A l B c2 R0 hR hB hc2
    rw [List.foldl_cons]
    obtain ⟨hsz1, hoff1, hisz1⟩ := layStep_sizes hl acc ln hsz
    cases A with
    | nil =>
      simp only [List.nil_append, List.cons.injEq] at hR
      obtain ⟨rfl, rfl⟩ := hR
      have hpl : pl = .label l := by
        simp only [lineOf, Option.some.injEq] at hl
        exact hl.symm
      subst hpl
      have hent : (layStep acc (ln, .label l)).entry = some acc.items.size := rfl
      have hoff : (layStep acc (ln, .label l)).off = acc.off := rfl
      have hisz : (layStep acc (ln, .label l)).items.size = acc.items.size := rfl
      obtain ⟨e', g1, g2, g3⟩ := fold_entry_metas hlines (layStep acc (ln, .label l)) hsz1 B c2 R0 _ rfl hB hc2
        hent (by rw [hisz]; exact Nat.le_refl _)
      rw [hoff] at g1
      rw [hisz] at g3
      refine ⟨e', by simpa [ninstr] using g1, by simpa [icnt] using g2, ?_⟩
      rw [List.nil_append, icnt_cons]
      simp only [isItem, Code.isMeta, hkOf, Bool.not_true, Bool.or_false, Bool.false_eq_true, if_false, Nat.zero_add]
      exact g3
    | cons a A' =>
      simp only [List.cons_append, List.cons.injEq] at hR
      obtain ⟨rfl, rfl⟩ := hR
      obtain ⟨e', g1, g2, g3⟩ := ih (layStep acc (ln, pl)) hsz1 A' l B c2 R0 rfl hB hc2
      refine ⟨e', ?_, ?_, ?_⟩
      · rw [hoff1] at g1
        rw [ninstr_cons]
        have : acc.off + 4 * ((if c.isMeta = true then 0 else 1) + ninstr A') =
            acc.off + 4 * (if c.isMeta = true then 0 else 1) + 4 * ninstr A' := by omega
        rw [this]
        exact g1
      · rw [hisz1] at g2
        rw [icnt_cons]
        omega
      · rw [hisz1] at g3
        rw [List.cons_append, icnt_cons]
        omega

end Fold

/-- `HoldsA` with the offsets of all items and the entries behind labels -/
structure HoldsB (hk : Code → Bool) (P : Prog) (cs : List Code) : Prop where
  holdsA : HoldsA hk P cs
  /-- the offset of an item (instruction or hook): 4 × the number of instructions before it -/
  offsI : ∀ k code, cs[k]? = some code → isItem hk code = true →
    P.offs[pcOf hk cs k]? = some (4 * ninstr (cs.take k))
  /-- the entry of the offset of a label that is followed by labels / comments / hooks and an instruction -/
  entriesL : ∀ (A : List Code) (l : String) (B : List Code) (c2 : Code) (R0 : List Code),
    cs = A ++ Code.LAB l :: (B ++ c2 :: R0) → (∀ b ∈ B, b.isMeta = true) → c2.isMeta = false →
    ∃ e, P.entries[4 * ninstr A]? = some e ∧ icnt hk A ≤ e ∧ e ≤ icnt hk (A ++ Code.LAB l :: B)

theorem holdsB_layout {hkv : String → Option (List (String × Kind))} {ls : List (Nat × PLine)}
    {cs : List Code} (h : Lines hkv ls cs) : HoldsB (hkOf hkv) (layout ls) cs := by
  refine ⟨holdsA_layout h, ?_, ?_⟩
  · intro k code hk hi
    obtain ⟨_, _, _, _, i5, _, _⟩ := fold_addr h {} rfl
    have := i5 k code hk hi
    rw [layout_offs']
    simpa [pcOf] using this
  · intro A l B c2 R0 hcs hB hc2
    obtain ⟨e, g1, g2, g3⟩ := fold_entry_label h {} rfl A l B c2 R0 hcs hB hc2
    refine ⟨e, ?_, by simpa using g2, by simpa using g3⟩
    rw [layout_entries']
    simpa using g1

/-- the machine is at item `pcR`, the statement boundary at item `pc0`: only `#ctx` hooks in between -/
def Tol (P : Prog) (pc0 pcR : Nat) : Prop :=
  pc0 ≤ pcR ∧ ∀ i, pc0 ≤ i → i < pcR → ∃ vs, P.items[i]? = some (.hook vs)

theorem Tol.refl (P : Prog) (pc : Nat) : Tol P pc pc := ⟨Nat.le_refl _, fun i h1 h2 => by omega⟩

theorem Tol.trans {P : Prog} {a b c : Nat} (h1 : Tol P a b) (h2 : Tol P b c) : Tol P a c := by
  refine ⟨Nat.le_trans h1.1 h2.1, fun i hi1 hi2 => ?_⟩
  by_cases h : i < b
  · exact h1.2 i hi1 h
  · exact h2.2 i (by omega) hi2

theorem Tol.msteps {P : Prog} {c : MemCfg} {pc0 pcR : Nat} (T : Tol P pc0 pcR) (σ : State)
    (out : List (Bool × Word)) : MSteps P c σ pc0 out σ pcR out := by
  obtain ⟨hle, hh⟩ := T
  have key : ∀ d pc0, pc0 + d = pcR → (∀ i, pc0 ≤ i → i < pcR → ∃ vs, P.items[i]? = some (.hook vs)) →
      MSteps P c σ pc0 out σ pcR out := by
    intro d
    induction d with
    | zero => intro pc0 e _; have : pc0 = pcR := by omega
              subst this; exact .refl _ _ _
    | succ d ih =>
      intro pc0 e hh
      obtain ⟨vs, hv⟩ := hh pc0 (Nat.le_refl _) (by omega)
      exact .step (.hook hv) (ih (pc0 + 1) (by omega) (fun i h1 h2 => hh i (by omega) h2))
  exact key (pcR - pc0) pc0 (by omega) hh

/-- a run from the boundary, the machine ahead by hooks: either the machine reaches the end of the run, or
the run ended among the hooks (nothing happened) -/
theorem tol_run {P : Prog} {c : MemCfg} {σ σ1 : State} {pc0 pc1 pcR : Nat} {out out1 : List (Bool × Word)}
    (h : MSteps P c σ pc0 out σ1 pc1 out1) (T : Tol P pc0 pcR) :
    MSteps P c σ pcR out σ1 pc1 out1 ∨ (σ1 = σ ∧ out1 = out ∧ Tol P pc1 pcR) := by
  induction h with
  | refl σ pc out => exact Or.inr ⟨rfl, rfl, T⟩
  | @step σ σa σb pc pca pcb out outa outb hs hrest ih =>
    by_cases he : pc = pcR
    · subst he
      exact Or.inl (.step hs hrest)
    · have hlt : pc < pcR := by have := T.1; omega
      obtain ⟨vs, hv⟩ := T.2 pc (Nat.le_refl _) hlt
      cases hs with
      | hook hi =>
        exact ih ⟨by omega, fun i h1 h2 => T.2 i (by omega) h2⟩
      | next hi _ => rw [hv] at hi; cases hi
      | print hi _ => rw [hv] at hi; cases hi

/-- the same for a run that ends at an instruction (the final `RET`) -/
theorem tol_run_instr {P : Prog} {c : MemCfg} {σ σ1 : State} {pc0 pc1 pcR : Nat} {out out1 : List (Bool × Word)}
    (h : MSteps P c σ pc0 out σ1 pc1 out1) (T : Tol P pc0 pcR) {i : Instr}
    (hi : P.items[pc1]? = some (.instr i)) : MSteps P c σ pcR out σ1 pc1 out1 := by
  rcases tol_run h T with h1 | ⟨rfl, rfl, T1⟩
  · exact h1
  · have : pc1 = pcR := by
      by_cases hlt : pc1 < pcR
      · obtain ⟨vs, hv⟩ := T1.2 pc1 (Nat.le_refl _) hlt
        rw [hv] at hi; cases hi
      · have := T1.1; omega
    subst this
    exact .refl _ _ _

section Pos
variable {hk : Code → Bool} {P : Prog} {cs : List Code}

theorem pcOf_append_left (A R : List Code) : pcOf hk (A ++ R) A.length = icnt hk A := by
  unfold pcOf; rw [List.take_left']; rfl

theorem ninstr_take_left (A R : List Code) : ninstr ((A ++ R).take A.length) = ninstr A := by
  rw [List.take_left']; rfl

theorem ninstr_of_noitems : ∀ (B : List Code), (∀ b ∈ B, isItem hk b = false) → ninstr B = 0 ∧ icnt hk B = 0
  | [], _ => ⟨rfl, rfl⟩
  | b :: B, h => by
    obtain ⟨i1, i2⟩ := ninstr_of_noitems B (fun x hx => h x (by simp [hx]))
    have hb := h b (by simp)
    have hm : b.isMeta = true := by
      simp only [isItem, Bool.or_eq_false_iff, Bool.not_eq_false'] at hb
      exact hb.1
    rw [ninstr_cons, icnt_cons, hm, hb, i1, i2]
    simp

/-- the first item of metas followed by an instruction -/
theorem first_item : ∀ (B : List Code) (c2 : Code), c2.isMeta = false →
    ∃ B1 x B2, B ++ [c2] = B1 ++ x :: B2 ∧ (∀ b ∈ B1, isItem hk b = false) ∧ isItem hk x = true ∧
      B1.length ≤ B.length
  | [], c2, h2 => ⟨[], c2, [], rfl, fun _ h => absurd h List.not_mem_nil, by simp [isItem, h2], Nat.le_refl _⟩
  | b :: B, c2, h2 => by
    by_cases hb : isItem hk b = true
    · exact ⟨[], b, B ++ [c2], rfl, fun _ h => absurd h List.not_mem_nil, hb, by simp⟩
    · obtain ⟨B1, x, B2, e, h1, hx, hl⟩ := first_item B c2 h2
      refine ⟨b :: B1, x, B2, by simp [e], ?_, hx, by simp; omega⟩
      intro y hy
      rcases List.mem_cons.1 hy with rfl | hy
      · simpa using hb
      · exact h1 y hy

end Pos

section Adr

variable {hk : Code → Bool} {P : Prog} {cs : List Code} (HB : HoldsB hk P cs) (hnd : (labs cs).Nodup)
  {c : MemCfg}

omit HB in
/-- behind a label that is followed by labels / comments / hooks and an instruction stands a first item, with the
item index and the instruction count of the label -/
theorem item_behind_label (Hp : Holds hk P cs) {A : List Code} {l : String} {B : List Code} {c2 : Code}
    {R0 : List Code} (hcs : cs = A ++ Code.LAB l :: (B ++ c2 :: R0)) (hc2 : c2.isMeta = false) :
    ∃ k x, cs[k]? = some x ∧ isItem hk x = true ∧ pcOf hk cs k = pcOf hk cs A.length ∧
      ninstr (cs.take k) = ninstr (cs.take A.length) := by
  obtain ⟨B1, x, B2, e, h1, hx, hl⟩ := first_item (hk := hk) B c2 hc2
  have hcs' : cs = (A ++ Code.LAB l :: B1) ++ x :: (B2 ++ R0) := by
    rw [hcs]
    have : B ++ c2 :: R0 = (B ++ [c2]) ++ R0 := by simp
    rw [this, e]; simp [List.append_assoc]
  have hgx : cs[(A ++ Code.LAB l :: B1).length]? = some x := by
    conv => lhs; rw [hcs']
    exact getElem?_mid _ _ _
  have hlab0 : isItem hk (Code.LAB l) = false := by
    cases hh : hk (Code.LAB l) with
    | false => simp [isItem, Code.isMeta, hh]
    | true => obtain ⟨m, e⟩ := Hp.hkComment _ hh; cases e
  obtain ⟨n1, n2⟩ := ninstr_of_noitems (hk := hk) (Code.LAB l :: B1) (by
    intro y hy
    rcases List.mem_cons.1 hy with rfl | hy
    · exact hlab0
    · exact h1 y hy)
  refine ⟨_, x, hgx, hx, ?_, ?_⟩
  · conv => lhs; rw [hcs']
    rw [pcOf_append_left, icnt_append, n2, Nat.add_zero]
    conv => rhs; rw [hcs]
    rw [pcOf_append_left]
  · conv => lhs; rw [hcs']
    rw [ninstr_take_left, ninstr_append, n1, Nat.add_zero]
    conv => rhs; rw [hcs]
    rw [ninstr_take_left]

omit HB in
theorem label_item (Hp : Holds hk P cs) (hnd : (labs cs).Nodup) {A : List Code} {l : String} {B : List Code}
    {c2 : Code} {R0 : List Code} (hcs : cs = A ++ Code.LAB l :: (B ++ c2 :: R0)) (hc2 : c2.isMeta = false) :
    P.labels[l]? = some (pcOf hk cs A.length) ∧ pcOf hk cs A.length < P.items.size := by
  have hiL : cs[A.length]? = some (Code.LAB l) := by rw [hcs]; exact getElem?_mid _ _ _
  obtain ⟨k, x, hgx, hx, hpcm, _⟩ := item_behind_label Hp hcs hc2
  refine ⟨label_of_nodup Hp hnd hiL, ?_⟩
  rw [← hpcm]
  by_cases hm : x.isMeta = true
  · have hh : hk x = true := by
      simp only [isItem, hm, Bool.not_true, Bool.false_or] at hx; exact hx
    obtain ⟨vs, hit⟩ := Hp.hook _ x hgx hh
    exact (Array.getElem?_eq_some_iff.1 hit).1
  · obtain ⟨i, _, hit⟩ := Hp.instr _ x hgx (by simpa using hm)
    exact (Array.getElem?_eq_some_iff.1 hit).1

include HB hnd in
/-- THE ADDRESS OF A LABEL that is followed by labels / comments / hooks and an instruction: the label
resolves, to an item of the program, and `ADR` computes the byte address `addrOf` -/
theorem label_addr {A : List Code} {l : String} {B : List Code} {c2 : Code} {R0 : List Code}
    (hcs : cs = A ++ Code.LAB l :: (B ++ c2 :: R0)) (hc2 : c2.isMeta = false) :
    P.labels[l]? = some (pcOf hk cs A.length) ∧ pcOf hk cs A.length < P.items.size ∧
      labelWord P c (pcOf hk cs A.length) = addrOf c cs A.length := by
  obtain ⟨hlab, hsize⟩ := label_item HB.holdsA.holds hnd hcs hc2
  obtain ⟨k, x, hgx, hx, hpcm, hnim⟩ := item_behind_label HB.holdsA.holds hcs hc2
  have hoffs := HB.offsI _ x hgx hx
  rw [hpcm, hnim] at hoffs
  refine ⟨hlab, hsize, ?_⟩
  unfold labelWord addrOf
  rw [Array.getD_eq_getD_getElem?, hoffs]
  rfl

theorem step_adr' {l : String} {j : Nat} (hl : P.labels[l]? = some j) (hj : j < P.items.size)
    (d : Fin 31) (σ : State) (pc : Nat) :
    step P c (.adr (.x d) l) σ pc = .next (σ.setReg d (some (labelWord P c j))) (pc + 1) := by
  simp [step, Prog.labelAddr, hl, hj, State.wrZ, wrX_eq_setReg, labelWord]

include HB in
/-- `BR` to the address of such a label enters the program within `Tol` of the position `kb` behind the
label, if only non-items stand between the label and `kb` -/
theorem step_br_label {A : List Code} {l : String} {B : List Code} {c2 : Code} {R0 : List Code}
    (hcs : cs = A ++ Code.LAB l :: (B ++ c2 :: R0)) (hB : ∀ b ∈ B, b.isMeta = true) (hc2 : c2.isMeta = false)
    (hfit : c.codeBase + 4 * ninstr cs < 2 ^ 64)
    (d : Fin 31) (σ : State) (pc : Nat) (hd : σ.reg d = some (addrOf c cs A.length)) :
    ∃ e, step P c (.br (.x d)) σ pc = .next σ e ∧ Tol P (pcOf hk cs A.length) e := by
  have Hp := HB.holdsA.holds
  obtain ⟨e, he, h1, h2⟩ := HB.entriesL A l B c2 R0 hcs hB hc2
  have hA : ninstr (cs.take A.length) = ninstr A := by rw [hcs]; exact ninstr_take_left _ _
  have hle : ninstr A ≤ ninstr cs := by rw [← hA]; exact ninstr_take_le cs _
  have hn : (addrOf c cs A.length).toNat = c.codeBase + 4 * ninstr A := by
    unfold addrOf
    rw [hA, BitVec.toNat_ofNat, Nat.mod_eq_of_lt (by omega)]
  have hlt : ¬ (c.codeBase + 4 * ninstr A < c.codeBase) := by omega
  have hsub : c.codeBase + 4 * ninstr A - c.codeBase = 4 * ninstr A := by omega
  refine ⟨e, by simp only [step, rdX_reg, hd, hn, hlt, if_false, hsub, he], ?_⟩
  have hpc : pcOf hk cs A.length = icnt hk A := by rw [hcs]; exact pcOf_append_left _ _
  rw [hpc]
  refine ⟨h1, fun i hi1 hi2 => ?_⟩
  -- item `i` is one of the items of `B`: a hook
  have hlab0 : isItem hk (Code.LAB l) = false := by
    cases hh : hk (Code.LAB l) with
    | false => simp [isItem, Code.isMeta, hh]
    | true => obtain ⟨m, e⟩ := Hp.hkComment _ hh; cases e
  have key : ∀ (B' : List Code) (pre : List Code), cs = pre ++ B' ++ (c2 :: R0) → (∀ b ∈ B', b.isMeta = true) →
      icnt hk pre ≤ i → i < icnt hk (pre ++ B') → ∃ vs, P.items[i]? = some (.hook vs) := by
    intro B'
    induction B' with
    | nil => intro pre _ _ h1 h2; simp at h2; omega
    | cons b B' ih =>
      intro pre hcs2 hm hp1 hp2
      by_cases hib : isItem hk b = true
      · by_cases hie : i = icnt hk pre
        · have hgb : cs[pre.length]? = some b := by
            rw [hcs2, List.append_assoc]; exact getElem?_mid _ _ _
          have hh : hk b = true := by
            have := hm b (by simp)
            simp only [isItem, this, Bool.not_true, Bool.false_or] at hib; exact hib
          obtain ⟨vs, hit⟩ := Hp.hook _ b hgb hh
          have : icnt hk (cs.take pre.length) = icnt hk pre := by
            rw [hcs2, List.append_assoc, List.take_left']; rfl
          rw [this] at hit
          exact ⟨vs, by rw [hie]; exact hit⟩
        · refine ih (pre ++ [b]) (by rw [hcs2]; simp) (fun y hy => hm y (by simp [hy])) ?_ ?_
          · rw [icnt_append, icnt_cons, hib, icnt_nil]; simp only [if_true]; omega
          · have : pre ++ [b] ++ B' = pre ++ b :: B' := by simp
            rw [this]; exact hp2
      · refine ih (pre ++ [b]) (by rw [hcs2]; simp) (fun y hy => hm y (by simp [hy])) ?_ ?_
        · rw [icnt_append, icnt_cons]
          have : isItem hk b = false := by simpa using hib
          rw [this, icnt_nil]; simpa using hp1
        · have : pre ++ [b] ++ B' = pre ++ b :: B' := by simp
          rw [this]; exact hp2
  refine key B (A ++ [Code.LAB l]) (by rw [hcs]; simp) hB ?_ ?_
  · rw [icnt_append, icnt_cons, hlab0, icnt_nil]; simpa using hi1
  · have : A ++ [Code.LAB l] ++ B = A ++ Code.LAB l :: B := by simp
    rw [this]; omega

end Adr

end Scc.A64.Ref.K
