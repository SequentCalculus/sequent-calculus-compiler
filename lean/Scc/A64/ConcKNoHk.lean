/-
  Scc.A64.ConcKNoHk — NO `#ctx` HOOK INSIDE THE BLOCKS OF THE GENERATED CODE (AArch64): every method of the AArch64
  backend (Scc/A64/Backend.lean: code.rs, memory.rs, parallel_moves.rs, into_routine.rs) returns only codes that are
  not comments starting with `#ctx [` (`nhA`) — the comments inside the blocks are literals (`#load tag`,
  `##store values`, …) or `#####check child <k> for erasure`.  The methods are read off their forms
  (Scc/A64/CodeBlk.lean, MemBlk.lean); the generators of substitutions (`codeExchange`, `codeWeakeningContraction`)
  by the walk of Scc/Backend/ProofsCalls.lean with the comment predicate `MM` (`postM_*`, Scc/Backend/LoaderNamesC.lean,
  for any backend whose methods satisfy `OpsNamesC … MM`; `opsNh_a64` is the AArch64 instance).
  * `hkc_mm`, `mm_name_first`, `mm_tac`: the statement comments (`lit …`, `x <- …`, `f(...)`, …) are no hooks.
  * `HK hk`: what the loader recognises as a hook starts with `#ctx [`; `noHk_of_nhOK`: a block of `nhA` codes
    contains no hook comment (`Ref.K.NoHk`, Scc/A64/ConcKMid.lean).  `HKQ hk Q`: `HK hk`, or `Q` is total — the
    hypothesis under which the AArch64 machine of the three-way stack (Scc/A64/ThreeWayTarget.lean) builds runs
    with hooks in `Q` (`noHkQ_of_nhOK`, `hkcQ_mm`).
-/
import Scc.A64.LoaderA64Names
import Scc.A64.LoaderLines
import Scc.A64.ConcKMid
import Scc.X86.ConcKNoCtx

set_option linter.unusedVariables false

namespace Scc.A64.NoHk

open Scc.AxCut Scc.Backend Scc.Backend.NamesC
open Scc.X86 (AllP Post)
open Scc.X86.Loader (NoNL StrOK OkcSpec GenLabel CtxVars identOK progNamesOK noNL_append
  strOK_print)

/-- a code that is not a comment starting with `#ctx [` -/
def nhA : Code → Bool
  | .COMMENT m => !("#ctx [".toList.isPrefixOf m.toList)
  | _ => true

theorem nhA_comment_of_mm {m : String} (h : MM m) : nhA (.COMMENT m) = true := by
  have := mm_not_prefix h
  simp only [nhA, Bool.not_eq_true']
  cases hp : "#ctx [".toList.isPrefixOf m.toList with
  | false => rfl
  | true => exact absurd (List.isPrefixOf_iff_prefix.1 hp) this

/-- a string literal (`String.ofList` of its characters, by unification) that differs from `#ctx [` -/
theorem nhA_lit (l : List Char) (h : Scc.X86.Loader.mismatch ctxP l = true) :
    nhA (.COMMENT (String.ofList l)) = true := nhA_comment_of_mm (mm_ofList h)

abbrev NhOK (l : List Code) : Prop := l.all nhA = true

theorem nhOK_append {a b : List Code} : NhOK (a ++ b) ↔ NhOK a ∧ NhOK b := by
  simp [NhOK, List.all_append]

theorem nhOK_cons {c : Code} {l : List Code} : NhOK (c :: l) ↔ nhA c = true ∧ NhOK l := by
  simp [NhOK, List.all_cons]

theorem nhOK_nil : NhOK [] := rfl

theorem allP_iff {l : List Code} : AllP (fun c => nhA c = true) l ↔ NhOK l := by
  simp [AllP, NhOK, List.all_eq_true]

/-- a `Leaf` is no `#ctx` hook: the second character of its comments is not a `c` -/
theorem _root_.Scc.A64.Mem.Leaf.nh {rok iok : Prop} {c : Code} (h : Mem.Leaf rok iok c) : nhA c = true := by
  cases h with
  | @com m hm =>
    simp only [nhA, Bool.not_eq_true']
    cases hp : "#ctx [".toList.isPrefixOf m.toList with
    | false => rfl
    | true =>
      obtain ⟨t, ht⟩ := List.isPrefixOf_iff_prefix.1 hp
      have : m.toList[1]? = some 'c' := by rw [← ht]; rfl
      exact absurd this hm.2
  | instr hf _ _ => cases c <;> first | rfl | cases hf

theorem _root_.Scc.A64.Mem.CItems.nhOK {rok iok : Prop} {l : List Code} (h : Mem.CItems rok iok l) : NhOK l :=
  List.all_eq_true.2 fun c hc => (h c hc).1.nh

theorem nh_op (o : BinOp) (t s1 s2 : Temporary) : NhOK (op o t s1 s2) := (Mem.items_op (iok := True) o t s1 s2).nhOK
theorem nh_compare (a b : Temporary) : NhOK (compare a b) := (Mem.items_compare (iok := True) a b).nhOK
theorem nh_compareImmediate (t : Temporary) (i : Int) : NhOK (compareImmediate t i) :=
  (Mem.items_compareImmediate t i).nhOK
theorem nh_loadImmediate (t : Temporary) (i : Int) : NhOK (loadImmediate t i) :=
  (Mem.items_loadImmediate (iok := True) t i).nhOK
theorem nh_mov (t s : Temporary) : NhOK (mov t s) := (Mem.items_mov (iok := True) t s).nhOK
theorem nh_storeTemporary (t : Temporary) (sp : Bool) : NhOK (storeTemporary t sp) :=
  (Mem.items_storeTemporary (iok := True) t sp).nhOK
theorem nh_restoreTemporary (t : Temporary) (sp : Bool) : NhOK (restoreTemporary t sp) :=
  (Mem.items_restoreTemporary (iok := True) t sp).nhOK

theorem nh_jump (t : Temporary) : NhOK (jump t) := by cases t <;> rfl
theorem nh_addAndJump (t : Temporary) (i : Int) : NhOK (addAndJump t i) := by cases t <;> rfl

theorem nh_branchOf (s : IfSort) (l : String) : nhA (branchOf s l) = true := by
  cases s <;> rfl

/-- the three methods with a label argument; `h` is not used (a label is no comment) -/
theorem nh_jumpLabelIf (s : IfSort) (a b : Temporary) {l : String} (h : labelOK l = true) :
    NhOK (jumpLabelIf s a b l) :=
  nhOK_append.2 ⟨nh_compare _ _, nhOK_cons.2 ⟨nh_branchOf s l, nhOK_nil⟩⟩

theorem nh_jumpLabelIfZero (s : IfSort) (a : Temporary) {l : String} (h : labelOK l = true) :
    NhOK (jumpLabelIfZero s a l) :=
  nhOK_append.2 ⟨nh_compareImmediate _ _, nhOK_cons.2 ⟨nh_branchOf s l, nhOK_nil⟩⟩

theorem nh_loadLabel (t : Temporary) {l : String} (h : labelOK l = true) : NhOK (loadLabel t l) := by
  cases t
  · exact nhOK_cons.2 ⟨rfl, nhOK_nil⟩
  · exact nhOK_cons.2 ⟨rfl, rfl⟩

theorem nh_printI64G (old nl : Bool) (t : Temporary) (ctx : Ctx) : NhOK (printI64G old nl t ctx) :=
  List.all_eq_true.2 fun c hc => (Mem.items_printI64G old nl t ctx c hc).elim (·.nh) (by rintro rfl; rfl)

abbrev PostNh (m : GenM (List Code)) : Prop := Post m NhOK

theorem _root_.Scc.A64.Mem.Blk.nhOK {rok iok : Prop} {l : List Code} (h : Mem.Blk rok iok l) : NhOK l :=
  List.all_eq_true.2 (Scc.Backend.Blk.forall (S := Mem.syn) (P := fun c => nhA c = true) (fun _ hl => hl.nh)
    (fun _ _ _ => rfl) (fun _ => rfl) (fun _ => rfl) h)

theorem postNh_store (toStore ctx : Ctx) : PostNh (store toStore ctx) :=
  fun _ _ _ h => (Mem.blk_store toStore ctx h).nhOK

theorem postNh_load (toLoad ctx : Ctx) : PostNh (load toLoad ctx) :=
  fun _ _ _ h => (Mem.blk_load toLoad ctx h).nhOK

theorem postNh_eraseBlock (t : Temporary) : PostNh (eraseBlock t) :=
  fun _ _ _ h => (Mem.blk_eraseBlock t h).nhOK

theorem postNh_shareBlockN (t : Temporary) (n : Nat) : PostNh (shareBlockN t n) :=
  fun _ _ _ h => (Mem.blk_shareBlockN t n h).nhOK

theorem nh_moveArguments : ∀ (n : Nat) (codes : List Code), moveArguments n = .ok codes → NhOK codes
  | 0, codes, h => by simp only [moveArguments] at h; cases h; decide
  | 1, codes, h => by simp only [moveArguments] at h; cases h; decide
  | n + 2, codes, h => by
    simp only [moveArguments] at h
    split at h
    · split at h
      · rename_i rest hrest
        cases h
        exact nhOK_append.2 ⟨nhOK_cons.2 ⟨nhA_lit _ (by decide), rfl⟩, nh_moveArguments (n + 1) _ hrest⟩
      · cases h
    · cases h

theorem nh_setup {n : Nat} {codes : List Code} (h : setup n = .ok codes) : NhOK codes := by
  unfold setup at h
  split at h
  · cases h
  · rename_i moves hm
    cases h
    simp only [nhOK_append]
    exact ⟨⟨by decide, nh_moveArguments _ _ hm⟩, by decide⟩

theorem nh_cleanup : NhOK cleanup := by decide
theorem nh_preamble : NhOK preamble := by decide

section GenericM

variable {Code T : Type} {B : Backend Code T} {P : Code → Prop} {LOK : String → Prop}

theorem allPM_treeMoves (S : OpsNamesC B P MM LOK) (t : T) (sp : Bool) : ∀ (tr : Tree T), AllP P (treeMoves B t sp tr) :=
  allPG_treeMoves S t sp

end GenericM

/-- the AArch64 backend methods emit no `#ctx [` comment (labels: vacuous here) -/
theorem opsNh_a64 : OpsNamesC a64Backend (fun c => nhA c = true) MM (fun _ => False) where
  comment := fun m hm => nhA_comment_of_mm hm
  label := fun l hl => hl.elim
  jump := fun t => allP_iff.2 (nh_jump t)
  jumpLabel := fun l hl => hl.elim
  jumpLabelFixed := fun l hl => hl.elim
  jumpLabelIf := fun s a b l hl => hl.elim
  jumpLabelIfZero := fun s a l hl => hl.elim
  loadImmediate := fun t n => allP_iff.2 (nh_loadImmediate t n)
  loadLabel := fun t l hl => hl.elim
  addAndJump := fun t k => allP_iff.2 (nh_addAndJump t k)
  binop := fun o t s1 s2 => allP_iff.2 (nh_op o t s1 s2)
  mov := fun t s => allP_iff.2 (nh_mov t s)
  printI64 := fun nl t ctx => Post.pure (allP_iff.2 (nh_printI64G false nl t ctx))
  eraseBlock := fun t => (postNh_eraseBlock t).mono fun _ => allP_iff.2
  shareBlockN := fun t n => (postNh_shareBlockN t n).mono fun _ => allP_iff.2
  store := fun a b => (postNh_store a b).mono fun _ => allP_iff.2
  load := fun a b => (postNh_load a b).mono fun _ => allP_iff.2
  storeTemporary := fun t sp => allP_iff.2 (nh_storeTemporary t sp)
  restoreTemporary := fun t sp => allP_iff.2 (nh_restoreTemporary t sp)

theorem postNh_codeExchange (tm : List (Binding × List Nat)) (context newContext : Ctx) :
    PostNh (codeExchange a64Backend tm context newContext) :=
  (postM_codeExchange opsNh_a64 tm context newContext).mono fun _ h => allP_iff.1 h

theorem postNh_codeWeakeningContraction (context : Ctx) (tm : List (Binding × List Nat)) :
    PostNh (codeWeakeningContraction a64Backend tm context) :=
  (postM_codeWeakeningContraction opsNh_a64 context tm).mono fun _ h => allP_iff.1 h

open Scc.A64.Ref Scc.A64.CC Scc.A64.Loader

/-- what the loader recognises as a hook comment starts with `#ctx [` -/
def HK (hk : Code → Bool) : Prop := ∀ m, hk (.COMMENT m) = true → "#ctx [".toList <+: m.toList

theorem hk_false_of_nhA {hk : Code → Bool} {P : Prog} {cs : List Code} (Hp : Holds hk P cs) (hK : HK hk) {y : Code}
    (h : nhA y = true) : hk y = false := by
  cases hh : hk y with
  | false => rfl
  | true =>
    obtain ⟨m, rfl⟩ := Hp.hkComment _ hh
    have hp := hK m hh
    simp only [nhA, Bool.not_eq_true'] at h
    rw [List.isPrefixOf_iff_prefix.2 hp] at h
    cases h

theorem noHk_of_nhOK {hk : Code → Bool} {P : Prog} {cs : List Code} (Hp : Holds hk P cs) (hK : HK hk)
    {blk : List Code} (h : NhOK blk) : K.NoHk hk blk := by
  intro y hy
  have := (List.all_eq_true.1 h) y hy
  exact hk_false_of_nhA Hp hK this

/-- the hooks of the layout are `#ctx [` comments (then a run through generated blocks visits none), or no item
index is excluded from the hook steps of the run (then there is nothing to show) -/
def HKQ (hk : Code → Bool) (Q : Nat → Prop) : Prop := HK hk ∨ ∀ pc, Q pc

theorem hkq_total (hk : Code → Bool) : HKQ hk (fun _ => True) := Or.inr fun _ => trivial

theorem noHkQ_of_nhOK {hk : Code → Bool} {P : Prog} {cs : List Code} (Hp : Holds hk P cs) {Q : Nat → Prop}
    (hQ : HKQ hk Q) {blk : List Code} (h : NhOK blk) : K.NoHkQ hk Q blk :=
  hQ.elim (fun hK => Or.inl (noHk_of_nhOK Hp hK h)) Or.inr

theorem noHkQ_of_postNh {hk : Code → Bool} {P : Prog} {cs : List Code} (Hp : Holds hk P cs) {Q : Nat → Prop}
    (hQ : HKQ hk Q) {m : GenM (List Code)} (h : PostNh m) {k k' : Nat} {code : List Code}
    (hr : m.run k = .ok (code, k')) : K.NoHkQ hk Q code :=
  noHkQ_of_nhOK Hp hQ (h k code k' hr)

/-- the loader's hooks (`hookVarsOf`: a comment that `commentPLine?` reads as a hook) start with `#ctx [` -/
theorem hK_hookVarsOf : HK (hkOf hookVarsOf) := by
  intro m h
  simp only [hkOf] at h
  unfold hookVarsOf at h
  unfold commentPLine? at h
  simp only [] at h
  by_cases hp : "#ctx [".toList <+: Scc.Str.rtrimList m.toList
  · obtain ⟨b, hb⟩ := Scc.Str.dropEndWhileList_prefix (p := Char.isWhitespace) m.toList
    obtain ⟨t, ht⟩ := hp
    refine ⟨t ++ b, ?_⟩
    rw [hb]
    unfold Scc.Str.rtrimList at ht
    rw [← ht, List.append_assoc]
  · rw [if_neg hp] at h
    cases h

theorem hkc_mm {hk : Code → Bool} {P : Prog} {cs : List Code} (Hp : Holds hk P cs) (hK : HK hk) {m : String}
    (h : MM m) : hk (.COMMENT m) = false :=
  hk_false_of_nhA Hp hK (nhA_comment_of_mm h)

theorem hkcQ_mm {hk : Code → Bool} {P : Prog} {cs : List Code} (Hp : Holds hk P cs) {Q : Nat → Prop}
    (hQ : HKQ hk Q) {m : String} (h : MM m) : hk (.COMMENT m) = false ∨ ∀ pc, Q pc :=
  hQ.elim (fun hK => Or.inl (hkc_mm Hp hK h)) Or.inr

/-- a text that starts with a name not starting with `#` -/
theorem mm_name_first {i : Ident} (h : Scc.X86.Ref.HashFree i) {b : String} (hb : MM b) : MM (i.print ++ b) := by
  show Scc.X86.Loader.mismatch ctxP (i.print ++ b).toList = true
  rw [String.toList_append]
  have hp := Scc.X86.Ref.head_print_ne_hash h
  cases hl : i.print.toList with
  | nil => exact hb
  | cons x xs =>
    rw [hl] at hp
    have : '#' ≠ x := by intro e; subst e; simp at hp
    show Scc.X86.Loader.mismatch ('#' :: _) (x :: _) = true
    simp only [Scc.X86.Loader.mismatch, this, if_false]

/-- the statement comments that start with a name (`op`, `call`) -/
theorem hkcQ_name_first {hk : Code → Bool} {P : Prog} {cs : List Code} (Hp : Holds hk P cs) {Q : Nat → Prop}
    (hQ : HKQ hk Q) {i : Ident} (h : Scc.X86.Ref.HashFree i ∨ ∀ pc, Q pc) {b : String} (hb : MM b) :
    hk (.COMMENT (i.print ++ b)) = false ∨ ∀ pc, Q pc :=
  h.elim (fun h => hkcQ_mm Hp hQ (mm_name_first h hb)) Or.inr

/-- `MM` of a text built with `++` from a literal head: the appends are nested to the right first, so that the
literal is found by matching (unifying a literal with `_ ++ _` evaluates it) -/
syntax "mm_tac" : tactic
macro_rules
  | `(tactic| mm_tac) =>
    `(tactic| (try simp only [String.append_assoc]); exact mm_append (mm_ofList (by decide)))

example (x : Ident) (n : Int) : MM ("lit " ++ x.print ++ " <- " ++ toString n ++ ";") := by mm_tac

end Scc.A64.NoHk
