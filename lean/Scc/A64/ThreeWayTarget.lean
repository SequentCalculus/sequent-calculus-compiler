/-
  Scc.A64.ThreeWayTarget — the AArch64 machine as a `Machine a64Backend` (Scc/Backend/ThreeWayStep.lean): the
  per-method contracts (Scc/A64/MoveLemmas.lean, OpLemmas.lean, MemProofsHeap.lean, RefHeapInt.lean) and the
  lifting of blocks to runs of the loaded routine (RefHeapBridge.lean, ConcKMid.lean) as the fields of the
  interface (`target`, `machine`), and `Scc.A64.Ref.K.X3R` as the generic relation at this instance (`x3r_iff`,
  `X3.toT`, `X3.ofT`).  A state of the instance is a machine state with the trace; a run of the instance is an
  `MStepsK Q` / `MStepsHK Q` run between the items of two list positions (`pcOf`), built under `HKQ hkf Q`
  (Scc/A64/ConcKNoHk.lean).  `machineA`: the machine with addresses, for any assignment `adr` of words to the
  positions of labels that `ADR` realises (`AdrOK`; `adrOK_addrOf`: the byte addresses `addrOf` of RefClosDefs.lean,
  where the program holds the routine with the offsets of all items; `adrOK_labelWord`: the words themselves) —
  `ADR` needs an item behind the label, which a routine that ends with the cleanup has (`label_split`).
-/
import Scc.Backend.ThreeWaySwitch
import Scc.A64.RefClosHMoves
import Scc.A64.RefHeapInt
import Scc.A64.RefHeapSwitch
import Scc.A64.RefClosAddr

namespace Scc.A64.Ref.K

open Scc.AxCut Scc.Backend Scc.Backend.Abs Scc.A64.CC
open Scc.Heap (HState InvS InvW)
open Scc.Heap.Refine (HRef imgW FrLe)
open Scc.Backend.NamesC (MM)
open Scc.A64.NoHk (HKQ hkcQ_mm noHkQ_of_nhOK noHkQ_of_postNh NhOK)

theorem trWs_eq (cur : Option Word) (chi : Chi) (a : Word) : trWs cur chi a = ThreeWay.trWs 4#64 cur chi a := by
  cases chi <;> rfl

theorem trF_eq (κ : Nat → Nat → Word) (id j : Nat) (f : Abs.Field) : trF κ id j f = ThreeWay.trF 4#64 κ id j f := by
  unfold trF ThreeWay.trF
  cases f.chi <;> rfl

theorem trFs_eq (κ : Nat → Nat → Word) (id : Nat) : ∀ (j : Nat) (fs : List Abs.Field),
    trFs κ id j fs = ThreeWay.trFs 4#64 κ id j fs
  | _, [] => rfl
  | j, f :: fs => by simp only [trFs, ThreeWay.trFs, trF_eq, trFs_eq κ id (j + 1) fs]

theorem trHeap_eq (κ : Nat → Nat → Word) (h : Heap) : trHeap κ h = ThreeWay.trHeap 4#64 κ h := by
  unfold trHeap ThreeWay.trHeap Scc.Heap.Refine.mapFields
  apply List.map_congr_left
  intro e _
  simp only [trO, Scc.Heap.Refine.mapObj, trFs_eq]

section
variable (c : MemCfg) (H : CfgCC c) (h8 : c.heapBase % 8 = 0)

/-- the AArch64 machine as a `Target`: a state is a machine state with the trace; the temporaries of the 281 positions
(`posTemp`: X4 … X29, then spill slots); `Bnd`: SP and the callee-save area as the prologue left them (`Core`); a
block runs by `execFwd` and leaves the trace alone; the memory methods by their contracts -/
def target : ThreeWay.Target a64Backend where
  S := State × List (Bool × Word)
  ntemps := 281
  ntemps_le := by decide
  posT := posTemp
  tv s t := s.1.tempVal (posTemp t)
  OutOK s o := s.2 = o
  Bnd s := Core c s.1
  HRel s hs := HeapRel c s.1 hs
  stride := 4#64
  jumpLength_stride := fun pos => by
    show BitVec.ofInt 64 ((4 : Int) * (pos : Int)) = BitVec.ofInt 64 pos * 4#64
    rw [BitVec.ofInt_mul, BitVec.mul_comm]
    rfl
  shareMax := 4096
  shareMax_le := by decide
  Exec code s s' := execFwd c code s.1 = .ok (s'.1, .next) ∧ s'.2 = s.2
  limit_lt := fun B R => limit_lt (spOkS_of_core H B) R
  erase := by
    intro s hs hs' t p B R ht hv hop kk
    obtain ⟨code, hrun, _, σ', hx, B', HR', FT⟩ :=
      eraseBlock_contract h8 (spOkS_of_core H B) R (isVar_posTemp ht) hv hop kk
    refine ⟨code, hrun, (σ', s.2), ⟨hx, rfl⟩, core_frameT H B FT, HR', fun u hu => frameT_posTemp FT ?_ hu,
      fun _ h => h⟩
    intro u hu
    rcases hu with rfl | rfl | rfl
    · exact ⟨2, by decide, rfl⟩
    · exact ⟨3, by decide, rfl⟩
    · exact ⟨1, by decide, rfl⟩
  share := by
    intro s hs hs' t p n B R ht hv hn hop hno kk
    obtain ⟨code, hrun, _, σ', hx, B', HR', FT⟩ :=
      shareBlockN_contract h8 (spOkS_of_core H B) R (isVar_posTemp ht) hv hn hop hno kk
    refine ⟨code, hrun, (σ', s.2), ⟨hx, rfl⟩, core_frameT H B FT, HR', fun u hu => frameT_posTemp FT ?_ hu,
      fun _ h => h⟩
    intro u hu
    rcases hu with rfl | rfl
    · exact ⟨2, by decide, rfl⟩
    · exact ⟨3, by decide, rfl⟩
  LabsIn := Scc.A64.LabsIn
  store := by
    intro s hs hs' toStore rem fs ptr B R hcap _ hE hop kk
    replace hcap : 2 * (rem.length + toStore.length) ≤ 281 := hcap
    obtain ⟨code, kk', hrun, hle, hlabs, σ', hx, B', HR', hw, FT⟩ :=
      store_contract h8 (spOkS_of_core H B) R (toStore := toStore) (rem := rem) (by omega)
        ((envFields_iff (heapCfgOK_of_spOk h8 (spOkS_of_core H B))).2 hE) hop kk
    refine ⟨code, kk', hrun, hle, hlabs, (σ', s.2), ⟨hx, rfl⟩, core_frameT H B FT, HR', hw, fun t ht => ?_,
      fun _ h => h⟩
    have ht' : t < 281 := by omega
    apply FT.temps _ (opndOK_posTemp ht')
    intro hc
    rcases hc with e | e | e | e | ⟨j, e⟩
    · exact posTemp_ne_x ht' (r := 0) (by decide) e
    · exact posTemp_ne_x ht' (r := 1) (by decide) e
    · exact posTemp_ne_x ht' (r := 2) (by decide) e
    · exact posTemp_ne_x ht' (r := 3) (by decide) e
    · have := posTemp_inj.1 e; omega
  mem_lt := fun {s hs} R a => by rw [R.mem a]; exact (s.1.heap.getD a 0).isLt
  load := by
    intro s hs hs' toLoad existing pw vals B R hcap hp hop hno kk
    replace hcap : 2 * (existing.length + toLoad.length) ≤ 281 := hcap
    obtain ⟨code, kk', hrun, hle, hlabs, σ', hx, B', HR', hE, FT⟩ :=
      load_contract h8 (spOkS_of_core H B) R (toLoad := toLoad) (existing := existing) (by omega) hp hop hno kk
    refine ⟨code, kk', hrun, hle, hlabs, (σ', s.2), ⟨hx, rfl⟩, core_frameT H B FT, HR',
      (envFields_iff (heapCfgOK_of_spOk h8 B')).1 hE, fun t ht => ?_, fun _ h => h⟩
    have ht' : t < 281 := by omega
    apply FT.temps _ (opndOK_posTemp ht')
    intro hc
    rcases hc with e | e | e | e | ⟨m, h1, _, e⟩
    · exact posTemp_ne_x ht' (r := 0) (by decide) e
    · exact posTemp_ne_x ht' (r := 2) (by decide) e
    · exact posTemp_ne_x ht' (r := 3) (by decide) e
    · exact posTemp_ne_spill0' t e
    · have := posTemp_inj.1 e; omega

variable {c H h8}
variable {Γ : Ctx} {cfg : Config} {rs : List Nat} {hs : HState} {ι : Nat → Nat} {κ : Nat → Nat → Word} {σ : State}
  {out : List (Bool × Word)}

theorem x3r_iff : X3R c Γ cfg rs hs ι κ σ out ↔ ThreeWay.X3R (target c H h8) Γ cfg rs hs ι κ (σ, out) := by
  constructor
  · intro X
    exact ⟨X.core, by have := X.cap; show _ ≤ 281; omega,
      fun i hi a ha => by have := X.words i hi a ha; rw [trWs_eq] at this; exact this, X.ptrs, X.out, X.hrel,
      by have := X.href; rw [trHeap_eq] at this; exact this⟩
  · intro X
    exact ⟨X.bnd, by have : _ ≤ 281 := X.cap; omega,
      fun i hi a ha => by rw [trWs_eq]; exact X.words i hi a ha, X.ptrs, X.out, X.hrel,
      by rw [trHeap_eq]; exact X.href⟩

theorem x3_iff {hsX : HState} : X3 c Γ cfg hsX ι κ σ out ↔ ThreeWay.X3 (target c H h8) Γ cfg hsX ι κ (σ, out) :=
  x3r_iff

/-- the AArch64 relation is the generic one at every machine over this target (`machine`, `machineA`, `machineN`,
`machineI`) -/
theorem X3.toT (H : CfgCC c) (h8 : c.heapBase % 8 = 0) {hsX : HState} (X : X3 c Γ cfg hsX ι κ σ out) :
    ThreeWay.X3 (target c H h8) Γ cfg hsX ι κ (σ, out) :=
  x3r_iff.1 X

theorem X3.ofT (H : CfgCC c) (h8 : c.heapBase % 8 = 0) {hsX : HState}
    (X : ThreeWay.X3 (target c H h8) Γ cfg hsX ι κ (σ, out)) : X3 c Γ cfg hsX ι κ σ out :=
  x3r_iff.2 X

end

section
variable (c : MemCfg) (H : CfgCC c) (h8 : c.heapBase % 8 = 0) (hkf : Code → Bool) (Pm : Prog) (Q : Nat → Prop)
  (cs : List Code) (Hp : Holds hkf Pm cs) (hQ : HKQ hkf Q) (hnd : (labs cs).Nodup)

theorem MStepsHKR.mstepsHK {Q : Nat → Prop} {P : Prog} {c : MemCfg} {σ1 σ2 : State} {pc1 pc2 : Nat}
    {o1 o2 : List (Bool × Word)} (h : MStepsHKR Q P c σ1 pc1 o1 σ2 pc2 o2) : MStepsHK Q P c σ1 pc1 o1 σ2 pc2 o2 := by
  obtain ⟨σa, pca, outa, σb, pcb, outb, i, g1, gi, g2, g3⟩ := h
  exact g1.trans (.step g2 (fun vs hv => by rw [gi] at hv; cases hv) g3)

/-- a state with the same trace that keeps the temporaries of all positions and the heap view -/
theorem keep_of {c : MemCfg} {H : CfgCC c} {h8 : c.heapBase % 8 = 0} {s : State × List (Bool × Word)} {σ' : State}
    {ch : Nat → Prop} (htv : ∀ u, u < 281 → ¬ ch u → σ'.tempVal (posTemp u) = s.1.tempVal (posTemp u))
    (hrel : ∀ hs, HeapRel c s.1 hs → HeapRel c σ' hs) : ThreeWay.Keep (target c H h8) s (σ', s.2) ch :=
  ⟨htv, fun _ h => h, hrel⟩

include Hp hQ hnd in
/-- a comparison that leaves `(a, b)` in the flags, then the conditional branch: to the label, or on -/
theorem run_bcond {k k' : Nat} {σ σ1 : State} {out : List (Bool × Word)} {srt : IfSort} {l : String}
    {cmp : List Code} {a b : Word} (hat : XAt cs k (cmp ++ [branchOf srt l])) (hlab : XAt cs k' [Code.LAB l])
    (e1 : execCodes c cmp σ = .ok σ1) (hfl : σ1.flags = some (a, b)) (hn : NhOK cmp) :
    MStepsK Q Pm c σ (pcOf hkf cs k) out σ1
      (pcOf hkf cs (if Pos.evalCmp srt a b then k' else k + (cmp ++ [branchOf srt l]).length)) out := by
  have hk1 := x_msteps_codesQ Hp hat.left e1 out (noHkQ_of_nhOK Hp hQ hn)
  have hget : cs[k + cmp.length]? = some (branchOf srt l) := hat.right.head
  obtain ⟨cd, hti, hcd⟩ := branchOf_correct srt l a b
  have hidx : Pm.labels[l]? = some (pcOf hkf cs k') := label_of_nodup Hp hnd hlab.head
  have hk2 := mstep_bcondK (c := c) (Q := Q) Hp hget hti hfl (fun _ => hidx) out
  rw [hcd] at hk2
  by_cases hcnd : Pos.evalCmp srt a b = true
  · rw [if_pos hcnd] at hk2 ⊢
    exact hk1.trans hk2
  · rw [if_neg hcnd] at hk2 ⊢
    rw [List.length_append, List.length_singleton, ← Nat.add_assoc]
    exact hk1.trans hk2

/-- the AArch64 machine with the routine `cs` that the laid-out program `Pm` holds (`Hp`): the machine is at the
item of a list position (`pcOf`; `pcAt` asks nothing, the state carries no program counter); a run is an `MStepsK Q`
run, from a statement boundary an `MStepsHK Q` run (the hook of the boundary first, if at all), `…R`: through an
instruction; `NoHook`, `CommentOK`: no hook of the heap monitor, or `Q` is total (`hQ`) -/
def machine : ThreeWay.Machine a64Backend where
  toTarget := target c H h8
  cs := cs
  pcAt _ _ := True
  RunS k s k' s' := MStepsK Q Pm c s.1 (pcOf hkf cs k) s.2 s'.1 (pcOf hkf cs k') s'.2
  RunH k s k' s' := MStepsHK Q Pm c s.1 (pcOf hkf cs k) s.2 s'.1 (pcOf hkf cs k') s'.2
  runS_refl := fun _ s => MStepsK.refl _ _ _
  runS_trans := fun h1 h2 => h1.trans h2
  runH_trans := fun h1 h2 => h1.trans h2
  RunSR k s k' s' := MStepsKR Q Pm c s.1 (pcOf hkf cs k) s.2 s'.1 (pcOf hkf cs k') s'.2
  RunHR k s k' s' := MStepsHKR Q Pm c s.1 (pcOf hkf cs k) s.2 s'.1 (pcOf hkf cs k') s'.2
  runH_transR := fun h1 h2 => h2.pre h1
  runHR_trans := fun h1 h2 => h1.post h2
  runHR_runH := fun h => h.mstepsHK
  NoHook := NoHkQ hkf Q
  CommentOK m := hkf (.COMMENT m) = false ∨ ∀ pc, Q pc
  commentOK_of_mm := fun h => hkcQ_mm Hp hQ h
  vt := fun h => by
    obtain ⟨pos, h1, h2, h3, h4, _⟩ := vt_rel h
    exact ⟨pos, h1, h2, h3, h4⟩
  lift := by
    intro k blk s s' hat _ hx hn B'
    refine ⟨s', ?_, trivial, B', ⟨fun _ _ _ => rfl, fun _ h => h, fun _ R => R⟩⟩
    have := x_msteps_fwdQ (c := c) Hp hnd hat hx.1 s.2 hn
    rw [hx.2]
    exact this
  noHook_erase := fun h => noHkQ_of_postNh Hp hQ (NoHk.postNh_eraseBlock _) h
  noHook_share := fun h => noHkQ_of_postNh Hp hQ (NoHk.postNh_shareBlockN _ _) h
  noHook_store := fun h => noHkQ_of_postNh Hp hQ (NoHk.postNh_store _ _) h
  noHook_load := fun h => noHkQ_of_postNh Hp hQ (NoHk.postNh_load _ _) h
  load_nil := fun _ _ => rfl
  run_comment := by
    intro k s m hat _ hcm B
    exact ⟨s, x_msteps_codesQ Hp (c := c) (σ := s.1) (σ' := s.1) hat
      (execCodes_comments c _ s.1 (fun y hy => ⟨m, List.mem_singleton.1 hy⟩)) s.2 (NoHkQ.cons hcm NoHkQ.nil),
      trivial, B, ⟨fun _ _ _ => rfl, fun _ h => h, fun _ R => R⟩⟩
  run_c0 := by
    intro k s hooks Γ m hat _ hcm B
    exact ⟨s, x_msteps_c0H (c := c) Hp hat rfl hcm s.1 s.2, trivial, B,
      ⟨fun _ _ _ => rfl, fun _ h => h, fun _ R => R⟩, fun _ => rfl⟩
  LabelOK _ := True
  labelOK_fresh _ := trivial
  labelOK_def _ := trivial
  labelOK_table _ _ := trivial
  run_label := by
    intro k s l hat _ _ B
    exact ⟨s, x_msteps_codesQ Hp (c := c) (blk := [Code.LAB l]) (σ := s.1) (σ' := s.1) hat rfl s.2
      (NoHkQ.cons (Or.inl (hk_false_of_not_comment Hp (fun m e => by cases e))) NoHkQ.nil),
      trivial, B, ⟨fun _ _ _ => rfl, fun _ h => h, fun _ R => R⟩⟩
  immOK _ := True
  loadImm := by
    intro k s t n hat _ B ht _
    obtain ⟨σ2, hx2, C2, hv2, F2⟩ := li_pos H B ht n
    exact ⟨(σ2, s.2), x_msteps_codesQ Hp hat hx2 s.2 (noHkQ_of_nhOK Hp hQ (NoHk.nh_loadImmediate _ _)), trivial,
      C2, hv2, keep_of (fun u hu hne => mach_keep_frame F2 hu hne) (fun _ R => heapRel_frame R (isVar_posTemp ht) F2)⟩
  binop := by
    intro k s o pt p1 p2 a b r hat _ B ht h1 h2 hw1 hw2 hv
    replace ht : 2 * pt + 1 < 281 := ht
    have v0 := isVar_posTemp ht
    have v1 : (posTemp (2 * p1 + 1)).isVar := isVar_posTemp (by omega)
    have v2 : (posTemp (2 * p2 + 1)).isVar := isVar_posTemp (by omega)
    obtain ⟨σ2, hx2, hv2, F2⟩ := op_correct c 144 s.1 (spOkS_of_core H B) o _ _ _ v0 v1 v2 a b r hw1 hw2 hv
    have C2 := core_execCodes H _ B (allInt_op o (ok_of_isVar v0) (ok_of_isVar v1) (ok_of_isVar v2)) hx2
    have hat' : XAt cs k (op o (posTemp (2 * pt + 1)) (posTemp (2 * p1 + 1)) (posTemp (2 * p2 + 1))) := hat
    exact ⟨(σ2, s.2), x_msteps_codesQ Hp hat' hx2 s.2 (noHkQ_of_nhOK Hp hQ (NoHk.nh_op _ _ _ _)), trivial, C2, hv2,
      keep_of (fun u hu hne => mach_keep_frame F2 hu hne) (fun _ R => heapRel_frame R v0 F2)⟩
  print := by
    intro k s nl p Γ kx kx' code v hrun hat _ B hp hcap hw
    have hc1 : code = printI64 nl (posTemp (2 * p + 1)) Γ ∧ kx' = kx := by
      have : (a64Backend.printI64 nl (posTemp (2 * p + 1)) Γ).run kx =
          .ok (printI64 nl (posTemp (2 * p + 1)) Γ, kx) := rfl
      replace hrun : (a64Backend.printI64 nl (posTemp (2 * p + 1)) Γ).run kx = .ok (code, kx') := hrun
      rw [this] at hrun
      have := Prod.mk.inj (Except.ok.inj hrun)
      exact ⟨this.1.symm, this.2.symm⟩
    obtain ⟨rfl, rfl⟩ := hc1
    refine ⟨rfl, ?_⟩
    replace hcap : 2 * Γ.length ≤ 281 := hcap
    obtain ⟨σ2, ex, hsp, hheap, habove, hlv⟩ :=
      print_exec H B (nl := nl) (s := 2 * p + 1) (by omega) (by omega) Γ (by omega) hw
    have hk2 := x_msteps_codesOutQ Hp hat ex s.2 (noHkQ_of_nhOK Hp hQ (NoHk.nh_printI64G _ _ _ _))
    have hS : s.1.sp.toNat = c.stackTop - 96 - 2048 := B.spNat H
    have hr := H.room
    -- every temporary of a position of the context survives the call
    have hslot : ∀ q, q < 256 → σ2.tempVal (.spill q) = s.1.tempVal (.spill q) := by
      intro q hq
      rw [tempVal_spill, tempVal_spill]
      have ea : σ2.slotAddr q = s.1.slotAddr q := by simp [State.slotAddr, hsp]
      rw [ea]
      apply habove
      have := slotAddr_eq (spOkS_of_core H B) (p := q) (by rw [SPILL_NUM_eq]; exact hq)
      rw [this, hS]; omega
    refine ⟨(σ2, (nl, v) :: s.2), hk2, trivial, ⟨by rw [hsp]; exact B.sp, ?_⟩, ?_, ?_,
      fun o ho => by subst ho; rfl,
      fun hs R => heapRel_of_keep R hheap (hlv 0 (by decide) (Or.inl rfl)) (hlv 1 (by decide) (Or.inr (Or.inl rfl)))⟩
    · intro j hj
      rw [habove _ (by omega), habove _ (by omega)]
      exact B.saved j hj
    · intro j hj
      show σ2.tempVal (posTemp (2 * j + 1)) = s.1.tempVal (posTemp (2 * j + 1))
      unfold posTemp
      by_cases hr : 2 * j + 1 + 4 < 30
      · rw [if_pos hr, tempVal_reg (xreg_ar hr), tempVal_reg (xreg_ar hr)]
        exact hlv _ hr (Or.inr (Or.inr ⟨j, Γ[j], by simp [hj], Or.inl (by omega)⟩))
      · rw [if_neg hr]
        exact hslot _ (by omega)
    · intro j hj hc
      show σ2.tempVal (posTemp (2 * j)) = s.1.tempVal (posTemp (2 * j))
      unfold posTemp
      by_cases hr : 2 * j + 4 < 30
      · rw [if_pos hr, tempVal_reg (xreg_ar hr), tempVal_reg (xreg_ar hr)]
        exact hlv _ hr (Or.inr (Or.inr ⟨j, Γ[j], by simp [hj], Or.inr ⟨rfl, hc⟩⟩))
      · rw [if_neg hr]
        exact hslot _ (by omega)
  jumpIf := by
    intro k k' s srt s1 s2 l a b hat hlab _ B h1 h2 hw1 hw2
    have v1 := isVar_posTemp h1
    have v2 := isVar_posTemp h2
    obtain ⟨σ1, e1, hf, F1⟩ := compare_correct c 144 s.1 (spOkS_of_core H B) _ _ v1 v2 a b hw1 hw2
    have C1 := core_execCodes H _ B (allInt_compare (ok_of_isVar v1) (ok_of_isVar v2)) e1
    exact ⟨(σ1, s.2), run_bcond c hkf Pm Q cs Hp hQ hnd hat hlab e1 hf (NoHk.nh_compare _ _), trivial, C1,
      keep_of (fun u hu _ => F1.temp (isVar_posTemp hu)) (fun _ R => heapRel_frame0 R F1)⟩
  jumpLabel := by
    intro k k' s l hat hlab _ B
    have hat' : XAt cs k [Code.B l] := hat
    have hlab' : XAt cs k' [Code.LAB l] := hlab
    exact ⟨s, mstepKR_jump Hp hat'.head (label_of_nodup Hp hnd hlab'.head) s.1 s.2, trivial, B,
      ⟨fun _ _ _ => rfl, fun _ h => h, fun _ R => R⟩⟩
  jumpIfZero := by
    intro k k' s srt s1 l a hat hlab _ B h1 hw1
    have v1 := isVar_posTemp h1
    obtain ⟨σ1, e1, hf, F1⟩ := compareImmediate_correct c 144 s.1 (spOkS_of_core H B) _ v1 a hw1
    have C1 := core_execCodes H _ B (allInt_compareImmediate (ok_of_isVar v1) 0) e1
    exact ⟨(σ1, s.2), run_bcond c hkf Pm Q cs Hp hQ hnd hat hlab e1 hf (NoHk.nh_compareImmediate _ _), trivial, C1,
      keep_of (fun u hu _ => F1.temp (isVar_posTemp hu)) (fun _ R => heapRel_frame0 R F1)⟩
  exchange := by
    intro P tm Γ newΓ kc kc' code k s cfg h hat _ B _ htv
    obtain ⟨ops, hops, SS⟩ := mseg_codeExchange tm Γ newΓ h
    refine ⟨ops, hops, fun hcode => ?_⟩
    obtain ⟨cfg', σ', hs, hm, R', _⟩ := mseg_follow H Hp (P := P) (σ0 := s.1) SS s.2 cfg s.1 k hcode hat
      ⟨B, fun t v ht hg => htv t v ht hg, (fun hb => by cases hb), MKeep.refl _⟩
      (noHkQ_of_postNh Hp hQ (NoHk.postNh_codeExchange _ _ _) h)
    exact ⟨cfg', (σ', s.2), hs, hm, trivial, R'.core, R'.temps, fun _ h => h,
      fun hs R => heapRel_of_keep R R'.keep.heap R'.keep.x0 R'.keep.x1⟩

end

theorem split_first_instr : ∀ (R : List Code), (∃ x ∈ R, x.isMeta = false) →
    ∃ B c2 R0, R = B ++ c2 :: R0 ∧ (∀ b ∈ B, b.isMeta = true) ∧ c2.isMeta = false
  | [], h => by obtain ⟨x, hx, _⟩ := h; cases hx
  | y :: R, h => by
    by_cases hy : y.isMeta = true
    · obtain ⟨B, c2, R0, e, hB, hc2⟩ := split_first_instr R (by
        obtain ⟨x, hx, hm⟩ := h
        rcases List.mem_cons.1 hx with rfl | hx
        · rw [hy] at hm; cases hm
        · exact ⟨x, hx, hm⟩)
      refine ⟨y :: B, c2, R0, by rw [e]; rfl, ?_, hc2⟩
      intro b hb
      rcases List.mem_cons.1 hb with rfl | hb
      · exact hy
      · exact hB b hb
    · exact ⟨[], y, R, rfl, fun _ hb => absurd hb List.not_mem_nil, by simpa using hy⟩

/-- the routine ends with the `RET` of the cleanup: behind every label there is an instruction -/
theorem instr_behind {pre A : List Code} {l : String} {R : List Code}
    (h : pre ++ cleanup = A ++ Code.LAB l :: R) : ∃ x ∈ R, x.isMeta = false := by
  have h1 : (pre ++ cleanup).getLast? = some Code.RET := by
    rw [List.getLast?_append]; rfl
  rw [h, List.getLast?_append] at h1
  cases R with
  | nil => simp at h1
  | cons y R' =>
    have h2 : (Code.LAB l :: y :: R').getLast? = (y :: R').getLast? := by simp
    rw [h2] at h1
    have h3 : (y :: R').getLast? = some Code.RET := by
      cases hg : (y :: R').getLast? with
      | none => simp at hg
      | some z => rw [hg] at h1; simpa using h1
    exact ⟨Code.RET, List.mem_of_getLast? h3, rfl⟩

section
variable {c : MemCfg} (H : CfgCC c) {hkf : Code → Bool} {Pm : Prog} {Q : Nat → Prop}
  {cs : List Code} (Hp : Holds hkf Pm cs)

include H Hp in
/-- `load_label` into the word part of a position: `ADR` (and a store into the spill slot) -/
theorem loadLabel_pos {σ : State} (C : Core c σ) {t : Nat} (ht : t < 281) {lbl : String} {j : Nat}
    (hl : Pm.labels[lbl]? = some j) (hj : j < Pm.items.size) {k : Nat}
    (hat : XAt cs k (loadLabel (posTemp t) lbl)) (out : List (Bool × Word)) :
    ∃ σ', MStepsK Q Pm c σ (pcOf hkf cs k) out σ' (pcOf hkf cs (k + (loadLabel (posTemp t) lbl).length)) out ∧
      Core c σ' ∧ σ'.tempVal (posTemp t) = some (labelWord Pm c j) ∧ Frame σ σ' (posTemp t) := by
  have hvar := isVar_posTemp ht
  cases hpt : posTemp t with
  | register reg =>
    rw [hpt] at hvar hat
    cases reg with
    | x r =>
      obtain ⟨nt, hnt, _, _⟩ := tempVal_var_reg (σ := σ) hvar
      have hc : cs[k]? = some (Code.ADR (.x r) lbl) := hat.head
      obtain ⟨i, hti, hit⟩ := Hp.instr k _ hc rfl
      have ei : i = .adr (.x nt) lbl := by
        have : (Code.ADR (.x r) lbl).toInstr = some (.adr (.x nt) lbl) := by
          simp [Code.toInstr, toReg_x, hnt]
        rw [this] at hti; exact (Option.some.inj hti).symm
      subst ei
      refine ⟨σ.setReg nt (some (labelWord Pm c j)), ?_, core_setReg C _ _, ?_, ⟨rfl, rfl, ?_, by intros; rfl⟩⟩
      · show MStepsK Q Pm c σ (pcOf hkf cs k) out _ (pcOf hkf cs (k + 1)) out
        rw [pcOf_item hc (by simp [isItem, Code.isMeta])]
        exact .one_instr hit (.next hit (step_adr' hl hj nt σ _))
      · rw [tempVal_reg hnt]; simp
      · intro m _ _ hm
        have : nt ≠ m := by intro e; apply hm; simp [Temporary.archReg, hnt, e]
        simp [this]
    | sp => simp [Temporary.isVar] at hvar
    | xzr => simp [Temporary.isVar] at hvar
  | spill pt =>
    rw [hpt] at hvar hat
    obtain ⟨_, hq⟩ := isVar_spill hvar
    have hT : xreg 2 = some xT := xreg_TEMP
    have hc : cs[k]? = some (Code.ADR TEMP lbl) := hat.head
    obtain ⟨i, hti, hit⟩ := Hp.instr k _ hc rfl
    have ei : i = .adr (.x xT) lbl := by
      have : (Code.ADR TEMP lbl).toInstr = some (.adr (.x xT) lbl) := rfl
      rw [this] at hti; exact (Option.some.inj hti).symm
    subst ei
    have hsp := spOkS_of_core H C
    have hsp1 : SpOkS c 144 (σ.setReg xT (some (labelWord Pm c j))) := hsp
    have hx : execCodes c [Code.STR TEMP .sp (stackOffset pt)] (σ.setReg xT (some (labelWord Pm c j))) =
        .ok ((σ.setReg xT (some (labelWord Pm c j))).setSlot (σ.slotAddr pt) (labelWord Pm c j)) := by
      have : (TEMP : Register) = .x 2 := rfl
      rw [this]
      simp [execCodes, execCode_STR_sp hT, exec_str_slot c 144, hsp1, hq]
    have hat2 : XAt cs (k + 1) [Code.STR TEMP .sp (stackOffset pt)] := hat.tail
    have hm1 : MStepsK Q Pm c σ (pcOf hkf cs k) out (σ.setReg xT (some (labelWord Pm c j)))
        (pcOf hkf cs (k + 1)) out := by
      rw [pcOf_item hc (by simp [isItem, Code.isMeta])]
      exact .one_instr hit (.next hit (step_adr' hl hj xT σ _))
    have hm2 := x_msteps_codesQ (c := c) (Q := Q) Hp hat2 hx out
      (NoHkQ.cons (Or.inl (hk_false_of_not_comment Hp (fun m e => by cases e))) NoHkQ.nil)
    refine ⟨_, hm1.trans hm2, ?_, ?_, ⟨rfl, rfl, ?_, ?_⟩⟩
    · exact core_execCodes H _ (core_setReg C _ _) (allInt_STR_slot _ hq) hx
    · rw [tempVal_spill]; simp
    · intro m hm _ _; simp [Ne.symm hm]
    · intro q _ hq' hne
      have : σ.slotAddr pt ≠ σ.slotAddr q := by
        intro e; apply hne; rw [(slotAddr_inj hsp hq hq').mp e]
      simp [this]

end

/-- `adr` assigns to the position of every label of the routine the word that `ADR` loads for the label -/
def AdrOK (c : MemCfg) (hkf : Code → Bool) (Pm : Prog) (cs : List Code) (adr : Nat → Word) : Prop :=
  ∀ idx l, cs[idx]? = some (Code.LAB l) → Pm.labels[l]? = some (pcOf hkf cs idx) ∧
    pcOf hkf cs idx < Pm.items.size ∧ labelWord Pm c (pcOf hkf cs idx) = adr idx

/-- a label of a routine that ends with the cleanup, split at the first instruction behind it -/
theorem label_split {cs pre : List Code} (hcsC : cs = pre ++ cleanup) {idx : Nat} {l : String}
    (h : cs[idx]? = some (Code.LAB l)) :
    ∃ A B c2 R0, cs = A ++ Code.LAB l :: (B ++ c2 :: R0) ∧ A.length = idx ∧ (∀ b ∈ B, b.isMeta = true) ∧
      c2.isMeta = false := by
  obtain ⟨hsplit, hlen⟩ := split_at h
  obtain ⟨Bm, c2m, R0m, hR, hBm, hc2m⟩ := split_first_instr (cs.drop (idx + 1))
    (instr_behind (pre := pre) (by rw [← hcsC]; exact hsplit))
  exact ⟨cs.take idx, Bm, c2m, R0m, by rw [← hR]; exact hsplit, hlen, hBm, hc2m⟩

/-- the byte addresses of the routine (`addrOf`, RefClosDefs.lean), where the program holds the routine with the
offsets of all its items -/
theorem adrOK_addrOf {c : MemCfg} {hkf : Code → Bool} {Pm : Prog} {cs pre : List Code} (HB : HoldsB hkf Pm cs)
    (hnd : (labs cs).Nodup) (hcsC : cs = pre ++ cleanup) : AdrOK c hkf Pm cs (addrOf c cs) := by
  intro idx l h
  obtain ⟨A, B, c2, R0, hcs, rfl, hB, hc2⟩ := label_split hcsC h
  exact label_addr HB hnd hcs hc2

/-- the words `ADR` loads, whatever they are -/
theorem adrOK_labelWord {c : MemCfg} {hkf : Code → Bool} {Pm : Prog} {cs pre : List Code} (Hp : Holds hkf Pm cs)
    (hnd : (labs cs).Nodup) (hcsC : cs = pre ++ cleanup) :
    AdrOK c hkf Pm cs (fun idx => labelWord Pm c (pcOf hkf cs idx)) := by
  intro idx l h
  obtain ⟨A, B, c2, R0, hcs, rfl, hB, hc2⟩ := label_split hcsC h
  obtain ⟨h1, h2⟩ := label_item Hp hnd hcs hc2
  exact ⟨h1, h2, rfl⟩

section
variable (c : MemCfg) (H : CfgCC c) (h8 : c.heapBase % 8 = 0) (hkf : Code → Bool) (Pm : Prog) (Q : Nat → Prop)
  (cs : List Code) (Hp : Holds hkf Pm cs) (hQ : HKQ hkf Q) (hnd : (labs cs).Nodup) (adr : Nat → Word)
  (hadr : AdrOK c hkf Pm cs adr)

/-- the machine with addresses of the positions of its routine: `ADR` loads the address of the position of the
label -/
def machineA : ThreeWay.MachineA a64Backend where
  toMachine := machine c H h8 hkf Pm Q cs Hp hQ hnd
  addrOf := adr
  loadLabel := by
    intro k idx s t l hat hlab _ B ht
    replace hat : XAt cs k (loadLabel (posTemp t) l) := hat
    replace ht : t < 281 := ht
    replace hlab : XAt cs idx [Code.LAB l] := hlab
    replace B : Core c s.1 := B
    obtain ⟨hlabX, hidxlt, hlw⟩ := hadr idx l hlab.head
    obtain ⟨σ2, hk2, C2, hv2, F2⟩ := loadLabel_pos H Hp (Q := Q) B ht hlabX hidxlt hat s.2
    rw [hlw] at hv2
    exact ⟨(σ2, s.2), hk2, trivial, C2, hv2,
      keep_of (H := H) (h8 := h8) (s := s) (fun u hu hne => mach_keep_frame F2 hu hne)
        (fun _ R => heapRel_frame R (isVar_posTemp ht) F2)⟩

end

end Scc.A64.Ref.K
