/-
  Scc.A64.StackLemmas — the SP-based instructions (STP pre-index, LDP post-index,
  ADD/SUB SP, LDR/STR with an SP-relative offset) in terms of natural-number stack addresses.
-/
import Scc.A64.Lemmas

namespace Scc.A64

/-- sanity of the memory layout: the heap lies below the stack and no address wraps -/
structure MemOk (c : MemCfg) : Prop where
  disjoint : c.heapBase + c.heapBytes ≤ c.stackLow
  top : c.stackTop < 2 ^ 64

theorem toNat_add_imm (w : Word) (i : Int) (h0 : 0 ≤ (w.toNat : Int) + i)
    (h1 : (w.toNat : Int) + i < 18446744073709551616) :
    (w + imm i).toNat = ((w.toNat : Int) + i).toNat := by
  have h64 : (2:Nat)^64 = 18446744073709551616 := by decide
  have hw := w.isLt
  rw [BitVec.toNat_add, imm, BitVec.toNat_ofInt]
  simp only [h64] at *
  omega

theorem add_imm_eq_ofNat (w : Word) (i : Int) (h0 : 0 ≤ (w.toNat : Int) + i)
    (h1 : (w.toNat : Int) + i < 18446744073709551616) :
    w + imm i = BitVec.ofNat 64 ((w.toNat : Int) + i).toNat := by
  apply BitVec.eq_of_toNat_eq
  rw [toNat_add_imm w i h0 h1, BitVec.toNat_ofNat]
  have h64 : (2:Nat)^64 = 18446744073709551616 := by decide
  omega

theorem sub_imm_eq_ofNat (w : Word) (i : Int) (hi : 0 ≤ i) (h0 : i ≤ (w.toNat : Int)) :
    w - imm i = BitVec.ofNat 64 ((w.toNat : Int) - i).toNat := by
  have h64 : (2:Nat)^64 = 18446744073709551616 := by decide
  have hw := w.isLt
  apply BitVec.eq_of_toNat_eq
  rw [BitVec.toNat_sub, imm, BitVec.toNat_ofInt, BitVec.toNat_ofNat]
  simp only [h64] at *
  omega

/-- store of an optional value into a stack word (`none` = make it undefined) -/
def State.putSlot (σ : State) (a : Nat) (v : Option Word) : State :=
  match v with
  | some w => σ.setSlot a w
  | none => σ.clrSlot a

def State.setSp (σ : State) (w : Word) : State := { σ with sp := w }

@[simp] theorem putSlot_reg (σ : State) (a : Nat) (v : Option Word) (m : Fin 31) : (σ.putSlot a v).reg m = σ.reg m := by
  cases v <;> rfl
@[simp] theorem putSlot_slot (σ : State) (a b : Nat) (v : Option Word) :
    (σ.putSlot a v).slot b = if a = b then v else σ.slot b := by
  cases v <;> simp [State.putSlot]
@[simp] theorem putSlot_sp (σ : State) (a : Nat) (v : Option Word) : (σ.putSlot a v).sp = σ.sp := by cases v <;> rfl
@[simp] theorem putSlot_heap (σ : State) (a : Nat) (v : Option Word) : (σ.putSlot a v).heap = σ.heap := by cases v <;> rfl
@[simp] theorem putSlot_flags (σ : State) (a : Nat) (v : Option Word) : (σ.putSlot a v).flags = σ.flags := by cases v <;> rfl

@[simp] theorem setSp_reg (σ : State) (w : Word) (m : Fin 31) : (σ.setSp w).reg m = σ.reg m := rfl
@[simp] theorem setSp_slot (σ : State) (w : Word) (a : Nat) : (σ.setSp w).slot a = σ.slot a := rfl
@[simp] theorem setSp_sp (σ : State) (w : Word) : (σ.setSp w).sp = w := rfl
@[simp] theorem setSp_heap (σ : State) (w : Word) : (σ.setSp w).heap = σ.heap := rfl
@[simp] theorem setSp_flags (σ : State) (w : Word) : (σ.setSp w).flags = σ.flags := rfl

theorem load_stack {c : MemCfg} (hm : MemOk c) (σ : State) (a : Nat) (h8 : a % 8 = 0)
    (hlo : c.stackLow ≤ a) (hhi : a + 8 ≤ c.stackTop) : σ.load c a = .ok (σ.slot a) := by
  have := hm.disjoint
  unfold State.load State.slot
  have e2 : inHeap c a = false := by simp [inHeap]; omega
  have e3 : inStack c a = true := by simp [inStack]; omega
  simp [h8, e2, e3]

theorem store_stack {c : MemCfg} (hm : MemOk c) (σ : State) (a : Nat) (v : Option Word) (h8 : a % 8 = 0)
    (hlo : c.stackLow ≤ a) (hhi : a + 8 ≤ c.stackTop) : σ.store c a v = .ok (σ.putSlot a v) := by
  have := hm.disjoint
  unfold State.store
  have e2 : inHeap c a = false := by simp [inHeap]; omega
  have e3 : inStack c a = true := by simp [inStack]; omega
  cases v <;> simp [h8, e2, e3, State.putSlot, State.setSlot, State.clrSlot]

theorem getZ_x (σ : State) (n : Fin 31) : σ.getZ (.x n) = .ok (σ.reg n) := rfl
theorem putZ_x (σ : State) (n : Fin 31) (v : Option Word) : σ.putZ (.x n) v = .ok (σ.setReg n v) := rfl

/-- `STP Xa, Xb, [SP, -16]!` -/
theorem exec_stp_sp {c : MemCfg} (hm : MemOk c) (σ : State) (a b : Fin 31) (S : Nat) (hS : σ.sp.toNat = S)
    (hal : S % 16 = 0) (hlo : c.stackLow + 16 ≤ S) (hhi : S ≤ c.stackTop) :
    Instr.exec c (.stpPre (.x a) (.x b) .sp (-16)) σ =
      .ok (((σ.putSlot (S - 16) (σ.reg a)).putSlot (S - 8) (σ.reg b)).setSp (BitVec.ofNat 64 (S - 16))) := by
  have ht := hm.top
  have h64 : (2:Nat)^64 = 18446744073709551616 := by decide
  have hbase : σ.base .sp = .ok σ.sp := by simp [State.base, hS, hal]
  have hadd : σ.sp + imm (-16) = BitVec.ofNat 64 (S - 16) := by
    rw [add_imm_eq_ofNat σ.sp (-16) (by omega) (by omega)]; congr 1; omega
  have hn1 : (BitVec.ofNat 64 (S - 16)).toNat = S - 16 := by rw [BitVec.toNat_ofNat]; omega
  have hn2 : (BitVec.ofNat 64 (S - 16) + 8).toNat = S - 8 := by
    rw [BitVec.toNat_add, hn1]; simp; omega
  have hok : okPairOff (-16) = true := by decide
  simp only [Instr.exec, hok, Bool.not_true, Bool.false_eq_true, if_false]
  have hne : ((Reg.sp == Reg.x a) || (Reg.sp == Reg.x b)) = false := by simp
  simp only [hne, Bool.false_eq_true, if_false, hbase]
  rw [Except_bind_ok, getZ_x, Except_bind_ok, getZ_x, Except_bind_ok, hadd, hn1,
    store_stack hm σ (S - 16) _ (by omega) (by omega) (by omega), Except_bind_ok, hn2,
    store_stack hm _ (S - 8) _ (by omega) (by omega) (by omega), Except_bind_ok]
  rfl

/-- `LDP Xa, Xb, [SP], 16` -/
theorem exec_ldp_sp {c : MemCfg} (hm : MemOk c) (σ : State) (a b : Fin 31) (hab : a ≠ b) (S : Nat)
    (hS : σ.sp.toNat = S) (hal : S % 16 = 0) (hlo : c.stackLow ≤ S) (hhi : S + 16 ≤ c.stackTop) :
    Instr.exec c (.ldpPost (.x a) (.x b) .sp 16) σ =
      .ok (((σ.setReg a (σ.slot S)).setReg b (σ.slot (S + 8))).setSp (BitVec.ofNat 64 (S + 16))) := by
  have ht := hm.top
  have h64 : (2:Nat)^64 = 18446744073709551616 := by decide
  have hbase : σ.base .sp = .ok σ.sp := by simp [State.base, hS, hal]
  have hadd : σ.sp + imm 16 = BitVec.ofNat 64 (S + 16) := by
    rw [add_imm_eq_ofNat σ.sp 16 (by omega) (by omega)]; congr 1; omega
  have hn2 : (σ.sp + 8).toNat = S + 8 := by
    rw [BitVec.toNat_add, hS]; simp; omega
  have hok : okPairOff 16 = true := by decide
  have hne : ((Reg.sp == Reg.x a) || (Reg.sp == Reg.x b) || ((Reg.x a == Reg.x b) && (Reg.x a != Reg.xzr))) = false := by
    have : (Reg.x a == Reg.x b) = false := by
      simp only [beq_eq_false_iff_ne, ne_eq, Reg.x.injEq]; exact hab
    simp [this]
  simp only [Instr.exec, hok, Bool.not_true, Bool.false_eq_true, if_false, hne, hbase, Except_bind_ok, hS, hn2, hadd]
  rw [load_stack hm σ S (by omega) (by omega) (by omega)]
  simp only [Except_bind_ok]
  rw [load_stack hm σ (S + 8) (by omega) (by omega) (by omega)]
  rfl

/-- `SUB SP, SP, i` -/
theorem exec_subi_sp (c : MemCfg) (σ : State) (i : Int) (hi : okImm12 i = true) (S : Nat) (hS : σ.sp.toNat = S)
    (hle : i ≤ (S : Int)) :
    Instr.exec c (.subi .sp .sp i) σ = .ok (σ.setSp (BitVec.ofNat 64 ((S : Int) - i).toNat)) := by
  have h0 : 0 ≤ i := by simp [okImm12] at hi; omega
  simp only [Instr.exec, hi, if_true, State.rdS, Except_bind_ok, State.wrS]
  rw [sub_imm_eq_ofNat σ.sp i h0 (by omega), hS]
  rfl

/-- `ADD SP, SP, i` -/
theorem exec_addi_sp (c : MemCfg) (σ : State) (i : Int) (hi : okImm12 i = true) (S : Nat) (hS : σ.sp.toNat = S)
    (hlt : (S : Int) + i < 18446744073709551616) :
    Instr.exec c (.addi .sp .sp i) σ = .ok (σ.setSp (BitVec.ofNat 64 ((S : Int) + i).toNat)) := by
  have h0 : 0 ≤ i := by simp [okImm12] at hi; omega
  simp only [Instr.exec, hi, if_true, State.rdS, Except_bind_ok, State.wrS]
  rw [add_imm_eq_ofNat σ.sp i (by omega) (by omega), hS]
  rfl

/-- `LDR Xt, [SP, i]` -/
theorem exec_ldr_sp {c : MemCfg} (hm : MemOk c) (σ : State) (t : Fin 31) (i : Int) (hi : okOff i = true)
    (S : Nat) (hS : σ.sp.toNat = S) (hal : S % 16 = 0) (hlo : c.stackLow ≤ S)
    (hhi : (S : Int) + i + 8 ≤ c.stackTop) :
    Instr.exec c (.ldr (.x t) .sp i) σ = .ok (σ.setReg t (σ.slot ((S : Int) + i).toNat)) := by
  have ht := hm.top
  have h64 : (2:Nat)^64 = 18446744073709551616 := by decide
  have hi' : (0 ≤ i ∧ i ≤ 32760) ∧ i % 8 = 0 := by simpa [okOff] using hi
  have hbase : σ.base .sp = .ok σ.sp := by simp [State.base, hS, hal]
  have hadd : (σ.sp + imm i).toNat = ((S : Int) + i).toNat := by
    rw [toNat_add_imm σ.sp i (by omega) (by omega), hS]
  simp only [Instr.exec, hi, if_true, hbase, Except_bind_ok, hadd]
  rw [load_stack hm σ _ (by omega) (by omega) (by omega)]
  rfl

/-- `STR Xt, [SP, i]` -/
theorem exec_str_sp {c : MemCfg} (hm : MemOk c) (σ : State) (t : Fin 31) (i : Int) (hi : okOff i = true)
    (S : Nat) (hS : σ.sp.toNat = S) (hal : S % 16 = 0) (hlo : c.stackLow ≤ S)
    (hhi : (S : Int) + i + 8 ≤ c.stackTop) :
    Instr.exec c (.str (.x t) .sp i) σ = .ok (σ.putSlot ((S : Int) + i).toNat (σ.reg t)) := by
  have ht := hm.top
  have h64 : (2:Nat)^64 = 18446744073709551616 := by decide
  have hi' : (0 ≤ i ∧ i ≤ 32760) ∧ i % 8 = 0 := by simpa [okOff] using hi
  have hbase : σ.base .sp = .ok σ.sp := by simp [State.base, hS, hal]
  have hadd : (σ.sp + imm i).toNat = ((S : Int) + i).toNat := by
    rw [toNat_add_imm σ.sp i (by omega) (by omega), hS]
  simp only [Instr.exec, hi, if_true, hbase, Except_bind_ok, hadd, getZ_x]
  rw [store_stack hm σ _ _ (by omega) (by omega) (by omega)]

end Scc.A64
