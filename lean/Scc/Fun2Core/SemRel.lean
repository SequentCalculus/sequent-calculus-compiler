/-
  Scc.Fun2Core.SemRel — the simulation relation of the semantic part of C02 between states of the Fun
  CEK machine and states of the Core ς-machine running the translation.

  * `fv`            free (co)variables / labels of a Fun term (one namespace, as in the machine),
  * `Compiled`      `s = ⟦t⟧_c` for some compile state whose lifted definitions are in the program,
  * `VRel n v V`    Fun value ~ Core value,      `KRel n k cv`   Fun stack ~ Core consumer value,
    `EnvRel n xs env ρ`  the environments agree (up to `VRel`) on the names `xs`,
    `CRel n k c ρ`   the consumer TERM `c` denotes in `ρ` a consumer value related to the stack `k`;
    `n` bounds the indices of the machine-fresh names `ς_i` that occur in closures.
  Every closure clause of `KRel` is closed under replacing the closure environment by one that
  agrees with it on the typed free variables of the closure body ("ideal environment" `ρ0`): all
  weakening lemmas are then immediate.
  * `KRelD n k cv`  the same for stacks that expect a CODATA value (top frame `dtorScrut` / `dtorApply`):
                    `cv` is a destructor value `d(Vs; cv')` (the Core machine has evaluated the pure
                    arguments; the Fun machine evaluates them when the scrutinee returns), or a closure
                    `μ~x.share_k(…)` / `μ~x.⟨x | c⟩` that forwards its argument to such a consumer;
    `KAny`          a consumer value of either kind; `CRel.mkD`, `CRel.dtor`: consumer TERMS of a codata
                    type (a covariable, a lifted continuation; the destructor `d(⟦args⟧; c)` itself, none of
                    whose arguments has been evaluated yet by either machine).
  * `SRel`          the relation on machine states (Fun `eval` states only; the other Fun states are
                    crossed inside a chunk, see Scc.Fun2Core.SemBase).  The typing of the Fun state
                    (`STM`, Scc/Fun2Core/SemCodTyping.lean) is carried next to it (`RT`, SemSim12.lean).
-/
import Scc.Fun2Core.SemPure
import Scc.Fun2Core.Fresh
import Scc.Fun2Core.FreeVars

namespace Scc.Fun2Core.Sem

mutual
  def fv : Fun.Term → List String
    | .var x _ _ => [x]
    | .lit _ => []
    | .op a _ b => fv a ++ fv b
    | .ifc _ a b t e _ => fv a ++ fv b ++ fv t ++ fv e
    | .ifz _ a t e _ => fv a ++ fv t ++ fv e
    | .print _ a n _ => fv a ++ fv n
    | .letIn x _ b i _ => fv b ++ (fv i).filter (· ≠ x)
    | .call _ as _ => fvArgs as
    | .ctor _ as _ => fvArgs as
    | .dtor s _ _ as _ => fv s ++ fvArgs as
    | .case s _ cs _ => fv s ++ fvClauses cs
    | .new cs _ => fvClauses cs
    | .label a t _ => (fv t).filter (· ≠ a)
    | .goto a t _ => a :: fv t
    | .exit t _ => fv t
    | .paren t => fv t
  def fvArgs : Fun.Terms → List String
    | .nil => []
    | .cons t r => fv t ++ fvArgs r
  def fvClauses : Fun.Clauses → List String
    | .nil => []
    | .cons _ _ names _ body rest => (fv body).filter (fun x => !names.contains x) ++ fvClauses rest
end

abbrev CVal := Core.CVal
abbrev CEnv := Core.CEnv

def AgreeOn (bs : List Core.Binding) (ρ ρ' : CEnv) : Prop :=
  ∀ b ∈ bs, Core.Env.lookup ρ' b.var = Core.Env.lookup ρ b.var

theorem AgreeOn.refl (bs ρ) : AgreeOn bs ρ ρ := fun _ _ => rfl

theorem AgreeOn.trans {bs ρ1 ρ2 ρ3} (h1 : AgreeOn bs ρ1 ρ2) (h2 : AgreeOn bs ρ2 ρ3) :
    AgreeOn bs ρ1 ρ3 := fun b hb => (h2 b hb).trans (h1 b hb)

theorem AgreeOn.mono {bs bs' ρ ρ'} (h : AgreeOn bs ρ ρ') (hs : ∀ b ∈ bs', b ∈ bs) :
    AgreeOn bs' ρ ρ' := fun b hb => h b (hs b hb)

def BoundOn (bs : List Core.Binding) (ρ : CEnv) : Prop :=
  ∀ b ∈ bs, ∃ V, Core.Env.lookup ρ b.var = .ok V

theorem BoundOn.mono {bs bs' ρ} (h : BoundOn bs ρ) (hs : ∀ b ∈ bs', b ∈ bs) : BoundOn bs' ρ :=
  fun b hb => h b (hs b hb)

/-- the name of the machine-fresh variables of the Core ς-machine -/
def sig : String := "ς"

theorem sigmaName_name (k : Nat) : (Core.sigmaName k).name = sig := rfl
theorem sigmaName_id (k : Nat) : (Core.sigmaName k).id = k := rfl

def StOK (q : Core.Prog) (st : CompileState) : Prop :=
  (∀ d ∈ st.liftedStatements, d ∈ q.defs) ∧ st.codataTypes = q.codataTypes

/-- names of a consumer: machine-fresh (index below `n`) or generated/user names known to the state -/
def ConsNames (c : Core.Term) (st : CompileState) (n : Nat) : Prop :=
  ∀ b ∈ occTerm c, (b.var.name = sig ∧ b.var.id < n) ∨
    (b.var.name ≠ sig ∧ b.var.name ∈ st.usedVars)

structure TermNames (t : Fun.Term) (st : CompileState) : Prop where
  fv : ∀ x ∈ fv t, x ∈ st.usedVars
  bd : ∀ x ∈ binderNames t, x ∈ st.usedVars
  nosig : sig ∉ st.usedVars

/-- `s = ⟦t⟧_c` -/
def Compiled (q : Core.Prog) (n : Nat) (t : Fun.Term) (c : Core.Term) (s : Core.Stmt) : Prop :=
  ∃ st st', compileWithCont t c st = .ok (s, st') ∧ StOK q st' ∧ TermNames t st ∧ ConsNames c st n

/-- `P = compile t` (a producer in operand / argument position) -/
def CompiledP (q : Core.Prog) (t : Fun.Term) (ty : Core.Ty) (P : Core.Term) : Prop :=
  ∃ st st', compile t ty st = .ok (P, st') ∧ StOK q st' ∧ TermNames t st

structure ClausesNames (cs : Fun.Clauses) (st : CompileState) : Prop where
  fv : ∀ x ∈ fvClauses cs, x ∈ st.usedVars
  bd : ∀ x ∈ binderNamesClauses cs, x ∈ st.usedVars
  nosig : sig ∉ st.usedVars

structure ArgsNames (args : Fun.Terms) (st : CompileState) : Prop where
  fv : ∀ x ∈ fvArgs args, x ∈ st.usedVars
  bd : ∀ x ∈ binderNamesArgs args, x ∈ st.usedVars
  nosig : sig ∉ st.usedVars

/-- `cs' = ` the clauses of a `case` translated with the consumer `c` -/
def CompiledCl (q : Core.Prog) (n : Nat) (cs : Fun.Clauses) (c : Core.Term) (cs' : Core.Clauses) : Prop :=
  ∃ st st', compileClauses cs c st = .ok (cs', st') ∧ StOK q st' ∧ ClausesNames cs st ∧ ConsNames c st n

/-- `cs' = ` the clauses of a `new` -/
def CompiledCo (q : Core.Prog) (cs : Fun.Clauses) (cs' : Core.Clauses) : Prop :=
  ∃ st st', compileCoclauses cs st = .ok (cs', st') ∧ StOK q st' ∧ ClausesNames cs st

/-- a consumer whose cut is not split by the ς-machine -/
def Inert : Core.Term → Prop
  | .xtor .. => False
  | .mu .prd .. => False
  | _ => True

/-! ## the relations

`G` is what the relations demand of every Fun term that is still to be run: the term of the state, the
terms waiting in stack frames, the clause bodies stored in closures.  The relations only pass it along;
the simulation instantiates it with `GP p`, the fragment predicate `good p` of Scc/Fun2Core/SemSim0.lean. -/

variable (G : Fun.Term → Prop) (p : Fun.CheckedProgram) (q : Core.Prog)

mutual
  inductive VRel : Nat → Fun.Value → CVal → Prop
    | int (n : Nat) (a : BitVec 64) : VRel n (.int a) (.int a)
    | con {n : Nat} {K : String} {vs : List Fun.Value} {Vs : List CVal} :
        VRelL n vs Vs → VRel n (.con K vs) (.con ⟨K, 0⟩ Vs)
    | cont {n : Nat} {k : Fun.Stack} {cv : CVal} : KAny n k cv → VRel n (.cont k) cv
    /-- the closure of `new { … }` -/
    | obj {n : Nat} {cs : Fun.Clauses} {envc : Fun.Env} {ρ0 ρ : CEnv} {cs' : Core.Clauses} :
        (∀ K cl, Fun.findClause K cs = some cl →
          G cl.body ∧ cl.names.Nodup ∧ cl.ctx.map (·.var) = cl.names) →
        CompiledCo q cs cs' → EnvRel n (fvClauses cs) envc ρ0 →
        BoundOn (tfvClauses cs' []) ρ0 → AgreeOn (tfvClauses cs' []) ρ0 ρ →
        VRel n (.obj cs envc) (.cocase ρ cs')
  inductive VRelL : Nat → List Fun.Value → List CVal → Prop
    | nil (n : Nat) : VRelL n [] []
    | cons {n : Nat} {v V vs Vs} : VRel n v V → VRelL n vs Vs → VRelL n (v :: vs) (V :: Vs)
  inductive EnvRel : Nat → List String → Fun.Env → CEnv → Prop
    | mk {n : Nat} {xs : List String} {env : Fun.Env} {ρ : CEnv}
        (f : String → Fun.Value) (g : String → CVal) :
        (∀ y, y ∈ xs → Fun.lookup y env = some (f y)) →
        (∀ y, y ∈ xs → Core.Env.lookup ρ ⟨y, 0⟩ = .ok (g y)) →
        (∀ y, y ∈ xs → VRel n (f y) (g y)) → EnvRel n xs env ρ
  inductive CRel : Nat → Fun.Stack → Core.Term → CEnv → Prop
    | mk {n : Nat} {k : Fun.Stack} {c : Core.Term} {ρ : CEnv} {cv : CVal} :
        Core.cnsVal ρ c = .ok cv → KRel n k cv → Inert c → BoundOn (tfvTerm c []) ρ →
        Core.isCodata q.codataTypes (coreGetType c) = false → CRel n k c ρ
    /-- a consumer of a codata type that has a value: a covariable (bound to a destructor value) or
    a continuation lifted by `share` -/
    | mkD {n : Nat} {k : Fun.Stack} {c : Core.Term} {ρ : CEnv} {cv : CVal} :
        Core.cnsVal ρ c = .ok cv → KRelD n k cv → Inert c → BoundOn (tfvTerm c []) ρ →
        Core.isCodata q.codataTypes (coreGetType c) = true → CRel n k c ρ
    /-- the destructor `d(args; c')` as a consumer TERM: its arguments (pure terms) are not yet
    evaluated, neither by the Fun machine (frame `dtorScrut`) nor by the Core machine.  `gc` is the
    clause filter of `pureFO` (SemPure.lean): the `new`s among the arguments have clauses accepted by
    it, and the next premise makes that the closure condition of `VRel.obj` -/
    | dtor {n : Nat} {d : String} {args : Fun.Terms} {env : Fun.Env} {k : Fun.Stack} {ρ0 ρ : CEnv}
        {c' : Core.Term} {as' : Core.Args} {ty : Core.Ty} {st st' : CompileState}
        {gc : Fun.Clauses → Bool} {vs : List Fun.Value} :
        compileSubst args st = .ok (as', st') → StOK q st' → ArgsNames args st →
        pureFOs p gc args = true →
        (∀ cs, gc cs = true → ∀ K cl, Fun.findClause K cs = some cl →
          G cl.body ∧ cl.names.Nodup ∧ cl.ctx.map (·.var) = cl.names) →
        pureArgs p args env = some vs →
        EnvRel n (fvArgs args) env ρ0 → CRel n k c' ρ0 →
        (∀ b ∈ tfvTerm c' [], b.var.name = sig → b.var.id < n) →
        BoundOn (tfvTerm (.xtor .cns ⟨d, 0⟩ (argsSnoc as' .cns c') ty) []) ρ0 →
        AgreeOn (tfvTerm (.xtor .cns ⟨d, 0⟩ (argsSnoc as' .cns c') ty) []) ρ0 ρ →
        Core.isCodata q.codataTypes ty = true →
        CRel n (.dtorScrut d args env :: k) (.xtor .cns ⟨d, 0⟩ (argsSnoc as' .cns c') ty) ρ
  inductive KAny : Nat → Fun.Stack → CVal → Prop
    | nc {n : Nat} {k : Fun.Stack} {cv : CVal} : KRel n k cv → KAny n k cv
    | cd {n : Nat} {k : Fun.Stack} {cv : CVal} : KRelD n k cv → KAny n k cv
  /-- stacks that expect a CODATA value (top frame: a destructor) ~ destructor values, and the
  `μ~`-closures that forward their argument to such a consumer (continuations lifted by `share`) -/
  inductive KRelD : Nat → Fun.Stack → CVal → Prop
    /-- `□.d(vs)`: arguments evaluated on both sides -/
    | dtorA {n : Nat} {d : String} {vs : List Fun.Value} {Vs : List CVal} {k : Fun.Stack}
        {cv : CVal} :
        VRelL n vs Vs → KAny n k cv →
        KRelD n (.dtorApply d vs :: k) (.dtor ⟨d, 0⟩ (Vs ++ [cv]))
    /-- `□.d(args)`: the Core machine has evaluated the (pure) arguments, the Fun machine will
    evaluate them when the scrutinee returns -/
    | dtorS {n : Nat} {d : String} {args : Fun.Terms} {env : Fun.Env} {vs : List Fun.Value}
        {Vs : List CVal} {k : Fun.Stack} {cv : CVal} :
        Fun.pureTerms args = true → pureArgs p args env = some vs → VRelL n vs Vs → KAny n k cv →
        KRelD n (.dtorScrut d args env :: k) (.dtor ⟨d, 0⟩ (Vs ++ [cv]))
    /-- a continuation lifted by `share` -/
    | shared {n : Nat} {k : Fun.Stack} {ρ0 ρ : CEnv} {x : Core.Ident} {d : Core.Def} {ty : Core.Ty} :
        d ∈ q.defs → d.ctx = tfvStmt d.body [] →
        KRelD n k (.mutilde ρ0 x d.body) →
        BoundOn ((tfvStmt (.call d.name (bindingsToArgs d.ctx) ty) []).filter (·.var ≠ x)) ρ0 →
        AgreeOn ((tfvStmt (.call d.name (bindingsToArgs d.ctx) ty) []).filter (·.var ≠ x)) ρ0 ρ →
        KRelD n k (.mutilde ρ x (.call d.name (bindingsToArgs d.ctx) ty))
    /-- `μ~x.⟨x | c⟩` at a codata type -/
    | eta {n : Nat} {k : Fun.Stack} {ρ0 ρ : CEnv} {x : Core.Ident} {ty ty' : Core.Ty}
        {c : Core.Term} :
        CRel n k c ρ0 → (∀ b ∈ tfvTerm c [], b.var ≠ x) →
        Core.isCodata q.codataTypes ty = true →
        Core.isCodata q.codataTypes (coreGetType c) = true →
        (∀ b ∈ tfvTerm c [], b.var.name = sig → b.var.id < n) → (x.name = sig → x.id < n) →
        BoundOn ((tfvStmt (.cut ty (.var .prd x ty') c) []).filter (·.var ≠ x)) ρ0 →
        AgreeOn ((tfvStmt (.cut ty (.var .prd x ty') c) []).filter (·.var ≠ x)) ρ0 ρ →
        KRelD n k (.mutilde ρ x (.cut ty (.var .prd x ty') c))
  inductive KRel : Nat → Fun.Stack → CVal → Prop
    /-- the top-level continuation of `main`: `μ~x. exit x` -/
    | main {n : Nat} {ρ : CEnv} {x : Core.Ident} {ty ty' : Core.Ty} :
        KRel n [] (.mutilde ρ x (.exit (.var .prd x ty) ty'))
    /-- `exit □` -/
    | exitF {n : Nat} {ρ : CEnv} {x : Core.Ident} {ty ty' : Core.Ty} :
        KRel n [.exitF] (.mutilde ρ x (.exit (.var .prd x ty) ty'))
    /-- `let x = □; body` -/
    | letF {n : Nat} {x : String} {body : Fun.Term} {env : Fun.Env} {k : Fun.Stack}
        {ρ0 ρ : CEnv} {c : Core.Term} {s : Core.Stmt} :
        G body → Compiled q n body c s →
        EnvRel n ((fv body).filter (· ≠ x)) env ρ0 → CRel n k c ρ0 →
        (∀ b ∈ tfvTerm c [], b.var ≠ ⟨x, 0⟩) →
        BoundOn ((tfvStmt s []).filter (·.var ≠ ⟨x, 0⟩)) ρ0 →
        AgreeOn ((tfvStmt s []).filter (·.var ≠ ⟨x, 0⟩)) ρ0 ρ →
        KRel n (.letF x body env :: k) (.mutilde ρ ⟨x, 0⟩ s)
    /-- `if □ ~ b {t} else {e}` -/
    | ifL {n : Nat} {srt : Fun.IfSort} {b t e : Fun.Term} {env : Fun.Env} {k : Fun.Stack}
        {ρ0 ρ : CEnv} {c : Core.Term} {i : Nat} {ty : Core.Ty} {B : Core.Term} {T E : Core.Stmt} :
        G b → G t → G e → i < n → getType b = some .i64 →
        CompiledP q b .i64 B → Compiled q i t c T → Compiled q i e c E →
        EnvRel n (fv b ++ fv t ++ fv e) env ρ0 → CRel n k c ρ0 →
        BoundOn ((tfvStmt (.ifc (compileSort srt) (.var .prd (Core.sigmaName i) ty) B T E) []).filter
          (·.var ≠ Core.sigmaName i)) ρ0 →
        AgreeOn ((tfvStmt (.ifc (compileSort srt) (.var .prd (Core.sigmaName i) ty) B T E) []).filter
          (·.var ≠ Core.sigmaName i)) ρ0 ρ →
        KRel n (.ifL srt b t e env :: k)
          (.mutilde ρ (Core.sigmaName i)
            (.ifc (compileSort srt) (.var .prd (Core.sigmaName i) ty) B T E))
    /-- `if a ~ □ {t} else {e}` -/
    | ifR {n : Nat} {srt : Fun.IfSort} {a : BitVec 64} {t e : Fun.Term} {env : Fun.Env}
        {k : Fun.Stack} {ρ0 ρ : CEnv} {c : Core.Term} {i : Nat} {z : Core.Ident} {ty ty' : Core.Ty}
        {T E : Core.Stmt} :
        G t → G e → i < n → z ≠ Core.sigmaName i →
        Core.Env.lookup ρ z = .ok (.int a) →
        Compiled q i t c T → Compiled q i e c E →
        EnvRel n (fv t ++ fv e) env ρ0 → CRel n k c ρ0 →
        BoundOn ((tfvStmt T [] ++ tfvStmt E []).filter (·.var ≠ Core.sigmaName i)) ρ0 →
        AgreeOn ((tfvStmt T [] ++ tfvStmt E []).filter (·.var ≠ Core.sigmaName i)) ρ0 ρ →
        KRel n (.ifR srt a t e env :: k)
          (.mutilde ρ (Core.sigmaName i)
            (.ifc (compileSort srt) (.var .prd z ty) (.var .prd (Core.sigmaName i) ty') T E))
    /-- `if □ ~ 0 {t} else {e}` -/
    | ifZ {n : Nat} {srt : Fun.IfSort} {t e : Fun.Term} {env : Fun.Env} {k : Fun.Stack}
        {ρ0 ρ : CEnv} {c : Core.Term} {i : Nat} {ty : Core.Ty} {T E : Core.Stmt} :
        G t → G e → i < n →
        Compiled q i t c T → Compiled q i e c E →
        EnvRel n (fv t ++ fv e) env ρ0 → CRel n k c ρ0 →
        BoundOn ((tfvStmt (.ifz (compileSort srt) (.var .prd (Core.sigmaName i) ty) T E) []).filter
          (·.var ≠ Core.sigmaName i)) ρ0 →
        AgreeOn ((tfvStmt (.ifz (compileSort srt) (.var .prd (Core.sigmaName i) ty) T E) []).filter
          (·.var ≠ Core.sigmaName i)) ρ0 ρ →
        KRel n (.ifZ srt t e env :: k)
          (.mutilde ρ (Core.sigmaName i)
            (.ifz (compileSort srt) (.var .prd (Core.sigmaName i) ty) T E))
    /-- `print(□); next` -/
    | print {n : Nat} {nl : Bool} {next : Fun.Term} {env : Fun.Env} {k : Fun.Stack}
        {ρ0 ρ : CEnv} {c : Core.Term} {i : Nat} {ty : Core.Ty} {N : Core.Stmt} :
        G next → i < n → Compiled q i next c N →
        EnvRel n (fv next) env ρ0 → CRel n k c ρ0 →
        BoundOn ((tfvStmt (.print nl (.var .prd (Core.sigmaName i) ty) N) []).filter
          (·.var ≠ Core.sigmaName i)) ρ0 →
        AgreeOn ((tfvStmt (.print nl (.var .prd (Core.sigmaName i) ty) N) []).filter
          (·.var ≠ Core.sigmaName i)) ρ0 ρ →
        KRel n (.print nl next env :: k)
          (.mutilde ρ (Core.sigmaName i) (.print nl (.var .prd (Core.sigmaName i) ty) N))
    /-- `□.case { clauses }` -/
    | caseF {n : Nat} {cs : Fun.Clauses} {env : Fun.Env} {k : Fun.Stack} {ρ0 ρ : CEnv}
        {c : Core.Term} {cs' : Core.Clauses} :
        (∀ K cl, Fun.findClause K cs = some cl →
          G cl.body ∧ cl.names.Nodup ∧ cl.ctx.map (·.var) = cl.names) →
        CompiledCl q n cs c cs' →
        EnvRel n (fvClauses cs) env ρ0 → CRel n k c ρ0 →
        (∀ b ∈ tfvTerm c [], b.var.id = 0 → b.var.name ∉ clausesNames cs) →
        BoundOn (tfvClauses cs' []) ρ0 →
        AgreeOn (tfvClauses cs' []) ρ0 ρ →
        KRel n (.caseF cs env :: k) (.case ρ cs')
    /-- a continuation lifted by `share`: `μ~x. share_f_k(fv…)` where `share_f_k(fv…) := body` -/
    | shared {n : Nat} {k : Fun.Stack} {ρ0 ρ : CEnv} {x : Core.Ident} {d : Core.Def} {ty : Core.Ty} :
        d ∈ q.defs → d.ctx = tfvStmt d.body [] →
        KRel n k (.mutilde ρ0 x d.body) →
        BoundOn ((tfvStmt (.call d.name (bindingsToArgs d.ctx) ty) []).filter (·.var ≠ x)) ρ0 →
        AgreeOn ((tfvStmt (.call d.name (bindingsToArgs d.ctx) ty) []).filter (·.var ≠ x)) ρ0 ρ →
        KRel n k (.mutilde ρ x (.call d.name (bindingsToArgs d.ctx) ty))
    /-- `μ~x.⟨x | c⟩` -/
    | eta {n : Nat} {k : Fun.Stack} {ρ0 ρ : CEnv} {x : Core.Ident} {ty ty' : Core.Ty}
        {c : Core.Term} :
        CRel n k c ρ0 → (∀ b ∈ tfvTerm c [], b.var ≠ x) →
        Core.isCodata q.codataTypes ty = false →
        Core.isCodata q.codataTypes (coreGetType c) = false →
        BoundOn ((tfvStmt (.cut ty (.var .prd x ty') c) []).filter (·.var ≠ x)) ρ0 →
        AgreeOn ((tfvStmt (.cut ty (.var .prd x ty') c) []).filter (·.var ≠ x)) ρ0 ρ →
        KRel n k (.mutilde ρ x (.cut ty (.var .prd x ty') c))
end

/-- the Fun machine is about to evaluate `t`; the Core machine is about to run `⟦t⟧_c` -/
inductive SRel : Fun.State → Core.State → Prop
  | eval {t : Fun.Term} {env : Fun.Env} {k : Fun.Stack} {S : Core.State} {ρ0 : CEnv}
      {c : Core.Term} :
      G t → Compiled q S.fresh t c S.stmt →
      EnvRel G p q S.fresh (fv t) env ρ0 → CRel G p q S.fresh k c ρ0 →
      BoundOn (tfvStmt S.stmt []) ρ0 →
      AgreeOn (tfvStmt S.stmt []) ρ0 S.env →
      SRel (.eval t env k) S

end Scc.Fun2Core.Sem
