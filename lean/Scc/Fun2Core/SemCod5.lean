/-
  Scc.Fun2Core.SemCod5 — codata values in evaluation position: a variable of a codata type and a
  `new`.  The Fun machine returns the closure to the stack (top frame: a destructor); the Core
  machine forces the consumer (`force_cr`) and sends the destructor to the closure (`ret_cd`).
-/
import Scc.Fun2Core.SemSim6

namespace Scc.Fun2Core.Sem
open Scc.Fun2Core.Typed

variable {q : Core.Prog} {p : Fun.CheckedProgram}

/-- a variable of a codata type in evaluation position -/
theorem eval_var_cd (X : Ctx p q) {x : String} {vty : Option Fun.Ty} {chi : Option Fun.Chi}
    {env : Fun.Env} {k : Fun.Stack} {c : Core.Term} {s : Core.Stmt} {ρ0 ρ : CEnv} {out : Out} {n : Nat}
    (hc : Compiled q n (.var x vty chi) c s)
    (he : EnvRel (GP p) p q n (fv (.var x vty chi)) env ρ0) (hr : CRel (GP p) p q n k c ρ0)
    (hag : AgreeOn (tfvStmt s []) ρ0 ρ)
    (hT : STM p (.eval (.var x vty chi) env k)) (hkk : kkind k = true) :
    Chunk p q (R p q) true true μ (.eval (.var x vty chi) env k) ⟨s, ρ, out, n⟩ := by
  obtain ⟨st, st', hcwc, hst, htn, hcn⟩ := hc
  rw [cwc_var] at hcwc
  cases vty with
  | none => simp at hcwc
  | some t0 =>
    simp only [Except.ok.injEq, Prod.mk.injEq] at hcwc
    obtain ⟨rfl, rfl⟩ := hcwc
    have hcd : Core.isCodata q.codataTypes (compileTy t0) = true := by
      rw [X.kind_of hT (τ := t0) rfl, hkk]
    have hck : Core.isCodata q.codataTypes (coreGetType c) = true := by rw [← hr.kk]; exact hkk
    obtain ⟨v, V, h1, h2, h3⟩ := he.get (y := x) (by simp [fv])
    have hl : Core.Env.lookup ρ ⟨x, 0⟩ = .ok V := by
      rw [hag ⟨⟨x, 0⟩, .prd, compileTy t0⟩ (mem_tfv_cut.2 (.inl (mem_tfv_var.2 rfl)))]
      exact h2
    have hxs : (⟨x, 0⟩ : Core.Ident).name = sig → (⟨x, 0⟩ : Core.Ident).id < n := fun e =>
      absurd e (htn.fv_ne_sig x (by simp [fv]))
    have hstep : Fun.step p (.eval (.var x (some t0) chi) env k) = .next (.ret v k) none := by
      simp [Fun.step, Fun.evalStep, h1]
    have f1 : FSteps p (.eval (.var x (some t0) chi) env k) (.ret v k) [] 1 := .one hstep
    obtain ⟨i, S1, ρ', pv, d, Vs, hcs, ho, hm1, hext, hpv, hs, hk⟩ :=
      force_cr X hr hck (cty := compileTy t0) (P := .var .prd ⟨x, 0⟩ (compileTy t0)) (ρ := ρ) (out := out)
        (m := n) hcd trivial (Nat.le_refl n) (hag.mono fun y hy => mem_tfv_cut.2 (.inr hy))
        (prdOK_var hl hxs)
    have hpvV : pv = V := by
      simp only [Core.prdVal] at hpv
      rw [hext.lookup _ hxs, hl] at hpv
      exact (Except.ok.inj hpv).symm
    subst hpvV
    have hT' : STM p (.ret v k) := stepM_preserves X.progM hT hstep
    exact Chunk.prefix f1 hcs ho (fun _ => Nat.le_refl 1) (fun h => .inr h)
      (ret_cd X hk (h3.mono hm1) (Nat.le_refl _) hs hT').weaken

/-- `new { … }` in evaluation position -/
theorem eval_new (X : Ctx p q) {cs : Fun.Clauses} {nty : Option Fun.Ty}
    {env : Fun.Env} {k : Fun.Stack} {c : Core.Term} {s : Core.Stmt} {ρ0 ρ : CEnv} {out : Out} {n : Nat}
    (hg : good p (.new cs nty) = true) (hc : Compiled q n (.new cs nty) c s)
    (he : EnvRel (GP p) p q n (fv (.new cs nty)) env ρ0) (hr : CRel (GP p) p q n k c ρ0)
    (hbd : BoundOn (tfvStmt s []) ρ0) (hag : AgreeOn (tfvStmt s []) ρ0 ρ)
    (hT : STM p (.eval (.new cs nty) env k)) :
    Chunk p q (R p q) true true μ (.eval (.new cs nty) env k) ⟨s, ρ, out, n⟩ := by
  simp only [good, Bool.and_eq_true] at hg
  obtain ⟨st, st', hcwc, hst, htn, hcn⟩ := hc
  rw [cwc_new] at hcwc
  cases nty with
  | none => simp at hcwc
  | some t0 =>
    simp only at hcwc
    obtain ⟨P, st1, hcP, hcwc⟩ := bind_term hcwc
    cases hcwc
    rw [c_new] at hcP
    obtain ⟨cs', st2, hcc, hcP⟩ := bind_clauses hcP
    cases hcP
    -- the type is a codata type
    have hkk : kkind k = true := by
      cases hT with
      | eval Γ τ he' ht hk =>
        have hk' := KTM.kind X.progM hk
        simp only [TypedM] at ht
        obtain ⟨_, _, d, hd, _⟩ := ht
        rw [← hk', isCodataTy_of_codataDecl hd]
    have hcd : Core.isCodata q.codataTypes (compileTy t0) = true := by
      rw [X.kind_of hT (τ := t0) rfl, hkk]
    have hck : Core.isCodata q.codataTypes (coreGetType c) = true := by rw [← hr.kk]; exact hkk
    have hstep : Fun.step p (.eval (.new cs (some t0)) env k) = .next (.ret (.obj cs env) k) none :=
      rfl
    have f1 : FSteps p (.eval (.new cs (some t0)) env k) (.ret (.obj cs env) k) [] 1 := .one hstep
    obtain ⟨i, S1, ρ', pv, d, Vs, hcs, ho, hm1, hext, hpv, hs, hk⟩ :=
      force_cr X hr hck (cty := compileTy t0) (P := .xcase .prd (compileTy t0) cs') (ρ := ρ)
        (out := out) (m := n) hcd trivial (Nat.le_refl n)
        (hag.mono fun y hy => mem_tfv_cut.2 (.inr hy)) (prdOK_xcase _ _ _ _ _)
    simp only [Core.prdVal, Except.ok.injEq] at hpv
    subst hpv
    have hbdP : BoundOn (tfvClauses cs' []) ρ0 := hbd.mono fun y hy =>
      mem_tfv_cut.2 (.inl (mem_tfv_xcase.2 hy))
    have hagP : AgreeOn (tfvClauses cs' []) ρ0 ρ := hag.mono fun y hy =>
      mem_tfv_cut.2 (.inl (mem_tfv_xcase.2 hy))
    obtain ⟨ρ0', he2, hbd2, hag2⟩ := ideal_sigExt he hbdP hagP hext htn.fv_ne_sig
    have hv : VRel (GP p) p q n (.obj cs env) (.cocase ρ' cs') :=
      .obj (goodClauses_find p cs hg.1)
        ⟨st, _, hcc, hst, ⟨by simpa [fv] using htn.fv, by simpa [binderNames] using htn.bd,
          htn.nosig⟩⟩
        (by simpa [fv] using he2) hbd2 hag2
    have hT' : STM p (.ret (.obj cs env) k) := stepM_preserves X.progM hT hstep
    exact Chunk.prefix f1 hcs ho (fun _ => Nat.le_refl 1) (fun h => .inr h)
      (ret_cd X hk (hv.mono hm1) (Nat.le_refl _) hs hT').weaken

end Scc.Fun2Core.Sem
