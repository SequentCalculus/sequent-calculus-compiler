/-
  Scc.Fun2Core.SemCodGood — the well-formedness predicate `good` of the simulation
  (Scc/Fun2Core/SemSim0.lean) holds of every term that is typed (`TypedM`: what the checker
  guarantees of its output), sequenced (`Fun.seqTerm`: property C02's side condition) and does not
  call `main`.  So `good` is no restriction: on accepted sequenced programs it is a theorem.
-/
import Scc.Fun2Core.SemSim0
import Scc.Fun2Core.SemCodTypingLemmas
import Scc.Fun2Core.TypedAux
import Scc.Fun.MainCall

namespace Scc.Fun2Core.Sem
open Scc.Fun2Core.Typed

variable {p : Fun.CheckedProgram}

theorem annO_getType {t : Fun.Term} {Γ : Fun.Ctx} {τ : Fun.Ty} (h : TypedM p t Γ τ) :
    annO t.getType = true := by
  rw [getTypeM_of_typed p t Γ τ h]; rfl

theorem i64T_of_typed {t : Fun.Term} {Γ : Fun.Ctx} (h : TypedM p t Γ .i64) : i64T t = true :=
  i64T_iff.2 (getType_of_typed p t Γ .i64 h)

/-- a pure term of a codata type is a variable or a `new` -/
theorem pureS_of_typed (hP : ProgM p) : ∀ (t : Fun.Term) (Γ : Fun.Ctx) (τ : Fun.Ty),
    TypedM p t Γ τ → Fun.pureTerm t = true → Fun.isCodataTy p τ = true → pureS t = true
  | .var .. => fun _ _ _ _ _ => rfl
  | .new .. => fun _ _ _ _ _ => rfl
  | .paren t => fun Γ τ h hp hc => by
    simp only [TypedM] at h
    simp only [Fun.pureTerm] at hp
    simp only [pureS]
    exact pureS_of_typed hP t Γ τ h hp hc
  | .lit _ => fun _ _ h _ hc => by
    simp only [TypedM] at h; subst h; simp [Fun.isCodataTy] at hc
  | .op .. => fun _ _ h _ hc => by
    simp only [TypedM] at h; rw [h.1] at hc; simp [Fun.isCodataTy] at hc
  | .ctor .. => fun _ _ h _ hc => by
    simp only [TypedM] at h
    obtain ⟨_, _, d, c, hd, _⟩ := h
    rw [isCodataTy_of_dataDecl hP hd] at hc; cases hc
  | .ifc .. => fun _ _ _ hp _ => by simp [Fun.pureTerm] at hp
  | .ifz .. => fun _ _ _ hp _ => by simp [Fun.pureTerm] at hp
  | .print .. => fun _ _ _ hp _ => by simp [Fun.pureTerm] at hp
  | .letIn .. => fun _ _ _ hp _ => by simp [Fun.pureTerm] at hp
  | .call .. => fun _ _ _ hp _ => by simp [Fun.pureTerm] at hp
  | .dtor .. => fun _ _ _ hp _ => by simp [Fun.pureTerm] at hp
  | .case .. => fun _ _ _ hp _ => by simp [Fun.pureTerm] at hp
  | .label .. => fun _ _ _ hp _ => by simp [Fun.pureTerm] at hp
  | .goto .. => fun _ _ _ hp _ => by simp [Fun.pureTerm] at hp
  | .exit .. => fun _ _ _ hp _ => by simp [Fun.pureTerm] at hp

mutual
  theorem good_of_typed (hP : ProgM p) : ∀ (t : Fun.Term) (Γ : Fun.Ctx) (τ : Fun.Ty),
      TypedM p t Γ τ → Fun.seqTerm p t = true → t.callsMain = false → good p t = true
    | .var x ty chi => fun _ _ h _ _ => by
      simp only [TypedM] at h
      simp [good, h.2.1, annO]
    | .lit _ => fun _ _ _ _ _ => rfl
    | .op a o b => fun Γ τ h hs hm => by
      simp only [TypedM] at h
      simp only [Fun.seqTerm, Bool.and_eq_true] at hs
      simp only [Fun.Term.callsMain, Bool.or_eq_false_iff] at hm
      simp only [good, Bool.and_eq_true]
      exact ⟨goodP_of_typed hP a Γ .i64 h.2.1 hs.1.1.1 hs.1.2 hm.1,
        goodP_of_typed hP b Γ .i64 h.2.2 hs.1.1.2 hs.2 hm.2⟩
    | .ifc _ a b t e an => fun Γ τ h hs hm => by
      simp only [TypedM] at h
      obtain ⟨_, han, ha, hb, ht, he⟩ := h
      simp only [Fun.seqTerm, Bool.and_eq_true] at hs
      simp only [Fun.Term.callsMain, Bool.or_eq_false_iff] at hm
      simp only [good, Bool.and_eq_true]
      exact ⟨⟨⟨⟨⟨⟨good_of_typed hP a Γ _ ha hs.1.1.1 hm.1.1.1, good_of_typed hP b Γ _ hb hs.1.1.2 hm.1.1.2⟩,
        good_of_typed hP t Γ _ ht hs.1.2 hm.1.2⟩, good_of_typed hP e Γ _ he hs.2 hm.2⟩,
        by rw [han]; rfl⟩, i64T_of_typed ha⟩, i64T_of_typed hb⟩
    | .ifz _ a t e an => fun Γ τ h hs hm => by
      simp only [TypedM] at h
      obtain ⟨_, han, ha, ht, he⟩ := h
      simp only [Fun.seqTerm, Bool.and_eq_true] at hs
      simp only [Fun.Term.callsMain, Bool.or_eq_false_iff] at hm
      simp only [good, Bool.and_eq_true]
      exact ⟨⟨⟨⟨good_of_typed hP a Γ _ ha hs.1.1 hm.1.1, good_of_typed hP t Γ _ ht hs.1.2 hm.1.2⟩,
        good_of_typed hP e Γ _ he hs.2 hm.2⟩, by rw [han]; rfl⟩, i64T_of_typed ha⟩
    | .print _ a n an => fun Γ τ h hs hm => by
      simp only [TypedM] at h
      obtain ⟨_, han, ha, hn⟩ := h
      simp only [Fun.seqTerm, Bool.and_eq_true] at hs
      simp only [Fun.Term.callsMain, Bool.or_eq_false_iff] at hm
      simp only [good, Bool.and_eq_true]
      exact ⟨⟨⟨good_of_typed hP a Γ _ ha hs.1 hm.1, good_of_typed hP n Γ _ hn hs.2 hm.2⟩,
        by rw [han]; rfl⟩, i64T_of_typed ha⟩
    | .letIn x σ b i an => fun Γ τ h hs hm => by
      simp only [TypedM] at h
      obtain ⟨_, han, hb, hi⟩ := h
      simp only [Fun.seqTerm, Bool.and_eq_true, Bool.or_eq_true, Bool.not_eq_true'] at hs
      simp only [Fun.Term.callsMain, Bool.or_eq_false_iff] at hm
      simp only [good, Bool.and_eq_true]
      refine ⟨⟨by rw [han]; rfl, good_of_typed hP i _ _ hi hs.2 hm.2⟩, ?_⟩
      by_cases hcd : Fun.isCodataTy p σ = true
      · rw [if_pos hcd]
        simp only [Bool.and_eq_true]
        rcases hs.1.1 with h' | h'
        · rw [hcd] at h'; cases h'
        · exact ⟨goodP_of_typed hP b Γ σ hb h' hs.1.2 hm.1, pureS_of_typed hP b Γ σ hb h' hcd⟩
      · rw [if_neg hcd]
        exact good_of_typed hP b Γ σ hb hs.1.2 hm.1
    | .call f as an => fun Γ τ h hs hm => by
      simp only [TypedM] at h
      obtain ⟨_, han, d, _, _, _, hargs⟩ := h
      simp only [Fun.seqTerm, Bool.and_eq_true] at hs
      simp only [Fun.Term.callsMain, Bool.or_eq_false_iff] at hm
      simp only [good, Bool.and_eq_true, bne_iff_ne, ne_eq]
      exact ⟨⟨by simpa using hm.1, goodPs_of_typed hP as Γ d.ctx hargs hs.1 hs.2 hm.2⟩,
        by rw [han]; rfl⟩
    | .ctor _ as an => fun Γ τ h hs hm => by
      simp only [TypedM] at h
      obtain ⟨_, han, d, c, _, _, hargs⟩ := h
      simp only [Fun.seqTerm, Bool.and_eq_true] at hs
      simp only [Fun.Term.callsMain] at hm
      simp only [good, Bool.and_eq_true]
      exact ⟨goodPs_of_typed hP as Γ c.args hargs hs.1 hs.2 hm, by rw [han]; rfl⟩
    | .dtor s _ _ as an => fun Γ τ h hs hm => by
      simp only [TypedM] at h
      obtain ⟨_, han, σ, d, sg, hsc, _, _, _, hargs⟩ := h
      simp only [Fun.seqTerm, Bool.and_eq_true] at hs
      simp only [Fun.Term.callsMain, Bool.or_eq_false_iff] at hm
      simp only [good, Bool.and_eq_true]
      exact ⟨⟨⟨good_of_typed hP s Γ σ hsc hs.1.1 hm.1, annO_getType hsc⟩,
        goodPs_of_typed hP as Γ sg.args hargs hs.1.2 hs.2 hm.2⟩, by rw [han]; rfl⟩
    | .case s _ cs an => fun Γ τ h hs hm => by
      simp only [TypedM] at h
      obtain ⟨_, han, σ, d, hsc, _, hcl, _⟩ := h
      simp only [Fun.seqTerm, Bool.and_eq_true] at hs
      simp only [Fun.Term.callsMain, Bool.or_eq_false_iff] at hm
      simp only [good, Bool.and_eq_true]
      exact ⟨⟨⟨good_of_typed hP s Γ σ hsc hs.1 hm.1, annO_getType hsc⟩,
        goodCl_of_typed hP cs Γ d.ctors τ hcl hs.2 hm.2⟩, by rw [han]; rfl⟩
    | .new cs an => fun Γ τ h hs hm => by
      simp only [TypedM] at h
      obtain ⟨_, han, d, _, hcl, _⟩ := h
      simp only [Fun.seqTerm] at hs
      simp only [Fun.Term.callsMain] at hm
      simp only [good, Bool.and_eq_true]
      exact ⟨goodCo_of_typed hP cs Γ d.dtors hcl hs hm, by rw [han]; rfl⟩
    | .label a t an => fun Γ τ h hs hm => by
      simp only [TypedM] at h
      obtain ⟨_, han, ht⟩ := h
      simp only [Fun.seqTerm] at hs
      simp only [Fun.Term.callsMain] at hm
      simp only [good, Bool.and_eq_true]
      exact ⟨good_of_typed hP t _ τ ht hs hm, by rw [han]; rfl⟩
    | .goto a t an => fun Γ τ h hs hm => by
      simp only [TypedM] at h
      obtain ⟨_, han, b, _, _, ht⟩ := h
      simp only [Fun.seqTerm] at hs
      simp only [Fun.Term.callsMain] at hm
      simp only [good, Bool.and_eq_true]
      exact ⟨⟨good_of_typed hP t Γ b.ty ht hs hm, annO_getType ht⟩, by rw [han]; rfl⟩
    | .exit t an => fun Γ τ h hs hm => by
      simp only [TypedM] at h
      obtain ⟨_, han, ht⟩ := h
      simp only [Fun.seqTerm] at hs
      simp only [Fun.Term.callsMain] at hm
      simp only [good, Bool.and_eq_true]
      exact ⟨⟨good_of_typed hP t Γ .i64 ht hs hm, by rw [han]; rfl⟩, i64T_of_typed ht⟩
    | .paren t => fun Γ τ h hs hm => by
      simp only [TypedM] at h
      simp only [Fun.seqTerm] at hs
      simp only [Fun.Term.callsMain] at hm
      simp only [good]
      exact good_of_typed hP t Γ τ h hs hm
  theorem goodP_of_typed (hP : ProgM p) : ∀ (t : Fun.Term) (Γ : Fun.Ctx) (τ : Fun.Ty),
      TypedM p t Γ τ → Fun.pureTerm t = true → Fun.seqTerm p t = true → t.callsMain = false →
      goodP p t = true
    | .var .. => fun _ _ _ _ _ _ => rfl
    | .lit _ => fun _ _ _ _ _ _ => rfl
    | .op a o b => fun Γ τ h hp hs hm => by
      simp only [TypedM] at h
      simp only [Fun.pureTerm, Bool.and_eq_true] at hp
      simp only [Fun.seqTerm, Bool.and_eq_true] at hs
      simp only [Fun.Term.callsMain, Bool.or_eq_false_iff] at hm
      simp only [goodP, Bool.and_eq_true]
      exact ⟨⟨hp.1.1, goodP_of_typed hP a Γ .i64 h.2.1 hp.1.2 hs.1.2 hm.1⟩,
        goodP_of_typed hP b Γ .i64 h.2.2 hp.2 hs.2 hm.2⟩
    | .ctor _ as an => fun Γ τ h hp hs hm => by
      simp only [TypedM] at h
      obtain ⟨_, _, d, c, _, _, hargs⟩ := h
      simp only [Fun.pureTerm] at hp
      simp only [Fun.seqTerm, Bool.and_eq_true] at hs
      simp only [Fun.Term.callsMain] at hm
      simp only [goodP]
      exact goodPs_of_typed hP as Γ c.args hargs hp hs.2 hm
    | .new cs an => fun Γ τ h _ hs hm => by
      simp only [TypedM] at h
      obtain ⟨_, _, d, _, hcl, _⟩ := h
      simp only [Fun.seqTerm] at hs
      simp only [Fun.Term.callsMain] at hm
      simp only [goodP]
      exact goodCo_of_typed hP cs Γ d.dtors hcl hs hm
    | .paren t => fun Γ τ h hp hs hm => by
      simp only [TypedM] at h
      simp only [Fun.pureTerm] at hp
      simp only [Fun.seqTerm] at hs
      simp only [Fun.Term.callsMain] at hm
      simp only [goodP]
      exact goodP_of_typed hP t Γ τ h hp hs hm
    | .ifc .. => fun _ _ _ hp _ _ => by simp [Fun.pureTerm] at hp
    | .ifz .. => fun _ _ _ hp _ _ => by simp [Fun.pureTerm] at hp
    | .print .. => fun _ _ _ hp _ _ => by simp [Fun.pureTerm] at hp
    | .letIn .. => fun _ _ _ hp _ _ => by simp [Fun.pureTerm] at hp
    | .call .. => fun _ _ _ hp _ _ => by simp [Fun.pureTerm] at hp
    | .dtor .. => fun _ _ _ hp _ _ => by simp [Fun.pureTerm] at hp
    | .case .. => fun _ _ _ hp _ _ => by simp [Fun.pureTerm] at hp
    | .label .. => fun _ _ _ hp _ _ => by simp [Fun.pureTerm] at hp
    | .goto .. => fun _ _ _ hp _ _ => by simp [Fun.pureTerm] at hp
    | .exit .. => fun _ _ _ hp _ _ => by simp [Fun.pureTerm] at hp
  theorem goodPs_of_typed (hP : ProgM p) : ∀ (as : Fun.Terms) (Γ : Fun.Ctx) (bs : Fun.Ctx),
      ArgsM p as Γ bs → Fun.pureTerms as = true → Fun.seqTerms p as = true → as.callsMain = false →
      goodPs p as = true
    | .nil => fun _ _ _ _ _ _ => rfl
    | .cons t r => fun Γ bs h hp hs hm => by
      simp only [ArgsM] at h
      obtain ⟨b, bs', rfl, hr, ht⟩ := h
      simp only [Fun.pureTerms, Bool.and_eq_true] at hp
      simp only [Fun.seqTerms, Bool.and_eq_true] at hs
      simp only [Fun.Terms.callsMain, Bool.or_eq_false_iff] at hm
      simp only [goodPs, Bool.and_eq_true]
      refine ⟨⟨?_, ?_⟩, goodPs_of_typed hP r Γ bs' hr hp.2 hs.2 hm.2⟩
      · rcases ht with ⟨_, ht⟩ | ⟨_, x, b', rfl, _⟩
        · exact goodP_of_typed hP t Γ b.ty ht hp.1 hs.1 hm.1
        · rfl
      · rcases ht with ⟨_, ht⟩ | ⟨_, x, b', rfl, _⟩
        · rw [getTypeM_of_typed p t Γ b.ty ht]
          simp only [Bool.or_eq_true, Bool.not_eq_true']
          by_cases hcd : Fun.isCodataTy p b.ty = true
          · exact .inr (pureS_of_typed hP t Γ b.ty ht hp.1 hcd)
          · exact .inl (by simpa using hcd)
        · simp [Fun.Term.getType, pureS]
  theorem goodCl_of_typed (hP : ProgM p) : ∀ (cs : Fun.Clauses) (Γ : Fun.Ctx) (sigs : List Fun.CtorSig)
      (τ : Fun.Ty), ClausesM p cs Γ sigs τ → Fun.seqClauses p cs = true → cs.callsMain = false →
      goodClauses p cs = true
    | .nil => fun _ _ _ _ _ _ => rfl
    | .cons _ x ns ctx body rest => fun Γ sigs τ h hs hm => by
      simp only [ClausesM] at h
      obtain ⟨⟨c, _, hnd, hlen, hctx, hb⟩, hr⟩ := h
      simp only [Fun.seqClauses, Bool.and_eq_true] at hs
      simp only [Fun.Clauses.callsMain, Bool.or_eq_false_iff] at hm
      simp only [goodClauses, Bool.and_eq_true, decide_eq_true_eq]
      exact ⟨⟨⟨⟨good_of_typed hP body _ τ hb hs.1 hm.1, annO_getType hb⟩, hnd⟩,
        by rw [hctx]; exact Fun.Safety.bindNames_vars hlen⟩,
        goodCl_of_typed hP rest Γ sigs τ hr hs.2 hm.2⟩
  theorem goodCo_of_typed (hP : ProgM p) : ∀ (cs : Fun.Clauses) (Γ : Fun.Ctx) (sigs : List Fun.DtorSig),
      CoclausesM p cs Γ sigs → Fun.seqClauses p cs = true → cs.callsMain = false →
      goodClauses p cs = true
    | .nil => fun _ _ _ _ _ => rfl
    | .cons _ x ns ctx body rest => fun Γ sigs h hs hm => by
      simp only [CoclausesM] at h
      obtain ⟨⟨c, _, hnd, hlen, hctx, hb⟩, hr⟩ := h
      simp only [Fun.seqClauses, Bool.and_eq_true] at hs
      simp only [Fun.Clauses.callsMain, Bool.or_eq_false_iff] at hm
      simp only [goodClauses, Bool.and_eq_true, decide_eq_true_eq]
      exact ⟨⟨⟨⟨good_of_typed hP body _ c.contTy hb hs.1 hm.1, annO_getType hb⟩, hnd⟩,
        by rw [hctx]; exact Fun.Safety.bindNames_vars hlen⟩,
        goodCo_of_typed hP rest Γ sigs hr hs.2 hm.2⟩
end

end Scc.Fun2Core.Sem
