/-
  Scc.Fun2Core.Compiles — the successful runs of the translation as a derivation system: one rule
  per equation of the model (`Scc.Fun2Core.Lemmas`), with the binds already inverted, and the proof
  that every successful run of the model functions has a derivation (`compiles_term` …; the converse
  is not proved, nothing uses it).  A property of the output of the translation is then proved by
  `induction` over the derivation, with only its own content per rule: state relations (Frame),
  arity (Arity), sizes (SizeProofs), occurrences (SemOcc), typing (TypedTerm).  Rules that several
  forms share are stated once, for a generic term: `cwc_cut`, `c_default`, `guard_pass`,
  `guard_wrap`.
-/
import Scc.Fun2Core.Lemmas

namespace Scc.Fun2Core

/-- the forms that use the default body of `Compile::compile` -/
def usesDefault : Fun.Term → Bool
  | .ifc .. | .ifz .. | .print .. | .letIn .. | .call .. | .dtor .. | .case .. | .goto ..
  | .exit .. => true
  | _ => false

/-- the forms whose `compile_with_cont` is `Cut(self.compile(ty), ty, cont)`, with that `ty`
(for variables and literals the Rust method spells the producer out) -/
def cutTy : Fun.Term → Option Core.Ty
  | .lit .. | .op .. => some .i64
  | .var _ (some t) _ | .ctor _ _ (some t) | .new _ (some t) | .label _ _ (some t) =>
    some (compileTy t)
  | _ => none

theorem cutTy_getType {t : Fun.Term} {ty : Core.Ty} (h : cutTy t = some ty) :
    ∃ τ, getType t = some τ ∧ ty = compileTy τ := by
  cases t with
  | lit | op => cases h; exact ⟨.i64, rfl, rfl⟩
  | var _ an | ctor _ _ an | new _ an | label _ _ an =>
    cases an with
    | none => cases h
    | some τ => cases h; exact ⟨τ, rfl, rfl⟩
  | _ => cases h

/-- the binders watched by the capture guard of `let` / `case` -/
def guardBinders : Fun.Term → List String
  | .letIn x .. => [x]
  | .case _ _ cs _ => clausesNames cs
  | _ => []

/-- a call of a function of the model together with a candidate for its two results: the arguments,
then the output and the final state.  `Compiles` below says which of these tuples are runs:
`Compiles (cwc t c st s st')` is derivable whenever `compileWithCont t c st = .ok (s, st')`,
`Compiles (comp t ty st p st')` whenever `compile t ty st = .ok (p, st')`, and likewise `subst`,
`clauses`, `coclauses` for `compileSubst`, `compileClauses`, `compileCoclauses`; `core t c st s st'`
is for `letCore … c st = .ok (s, st')` / `caseCore … c st = .ok (s, st')` (the body of
`compile_with_cont` of the `let` / `case` `t` behind the capture guard) and `guard t n c st s st'`
for `guardedLvl … n c st = .ok (s, st')` (the guard of `t` with `n` re-entries left). -/
inductive Run where
  | cwc (t : Fun.Term) (c : Core.Term) (st : CompileState) (s : Core.Stmt) (st' : CompileState)
  | comp (t : Fun.Term) (ty : Core.Ty) (st : CompileState) (p : Core.Term) (st' : CompileState)
  | subst (as : Fun.Terms) (st : CompileState) (as' : Core.Args) (st' : CompileState)
  | clauses (cs : Fun.Clauses) (c : Core.Term) (st : CompileState) (cs' : Core.Clauses)
      (st' : CompileState)
  | coclauses (cs : Fun.Clauses) (st : CompileState) (cs' : Core.Clauses) (st' : CompileState)
  | core (t : Fun.Term) (c : Core.Term) (st : CompileState) (s : Core.Stmt) (st' : CompileState)
  | guard (t : Fun.Term) (n : Nat) (c : Core.Term) (st : CompileState) (s : Core.Stmt)
      (st' : CompileState)

/-- the states a run goes from and to -/
def Run.st : Run → CompileState
  | .cwc _ _ st _ _ | .comp _ _ st _ _ | .subst _ st _ _ | .clauses _ _ st _ _
  | .coclauses _ st _ _ | .core _ _ st _ _ | .guard _ _ _ st _ _ => st
def Run.st' : Run → CompileState
  | .cwc _ _ _ _ st' | .comp _ _ _ _ st' | .subst _ _ _ st' | .clauses _ _ _ _ st'
  | .coclauses _ _ _ st' | .core _ _ _ _ st' | .guard _ _ _ _ _ st' => st'

open Run in
/-- the runs of the translation: every successful call of a model function is derivable
(`compiles_term`, `compiles_subst`, `compiles_clauses`, `compiles_coclauses`).  Each rule has the
name of the equation of `Scc.Fun2Core.Lemmas` it inverts (`Compiles.cwc_ifc` for `cwc_ifc`); its
premises are the calls the equation makes, in order, each with the state the previous one left.
The fuel `3` of `cwc_letIn` and `(clausesNames cs).length + 2` of `cwc_case` are `binders.length + 2`
of `guarded` for the binders `guardBinders t`. -/
inductive Compiles : Run → Prop
  | cwc_cut {t ty c st p st'} : cutTy t = some ty → Compiles (comp t ty st p st') →
    Compiles (cwc t c st (.cut ty p c) st')
  | cwc_ifc {srt a b t e ty c st fst st1 snd st2 thenc st3 elsec st4} :
    Compiles (comp a .i64 (shareUnless (isLeaf c) c st).2 fst st1) →
    Compiles (comp b .i64 st1 snd st2) →
    Compiles (cwc t (shareUnless (isLeaf c) c st).1 st2 thenc st3) →
    Compiles (cwc e (shareUnless (isLeaf c) c st).1 st3 elsec st4) →
    Compiles (cwc (.ifc srt a b t e ty) c st (.ifc (compileSort srt) fst snd thenc elsec) st4)
  | cwc_ifz {srt a t e ty c st fst st1 thenc st2 elsec st3} :
    Compiles (comp a .i64 (shareUnless (isLeaf c) c st).2 fst st1) →
    Compiles (cwc t (shareUnless (isLeaf c) c st).1 st1 thenc st2) →
    Compiles (cwc e (shareUnless (isLeaf c) c st).1 st2 elsec st3) →
    Compiles (cwc (.ifz srt a t e ty) c st (.ifz (compileSort srt) fst thenc elsec) st3)
  | cwc_print {nl a n ty c st arg st1 next st2} :
    Compiles (comp a .i64 st arg st1) → Compiles (cwc n c st1 next st2) →
    Compiles (cwc (.print nl a n ty) c st (.print nl arg next) st2)
  | cwc_call {name args t c st args' st1} : Compiles (subst args st args' st1) →
    Compiles (cwc (.call name args (some t)) c st
      (.call ⟨name, 0⟩ (argsSnoc args' .cns c) (compileTy t)) st1)
  | cwc_dtor {scr id tyArgs args ty c st args' st1 t s st2} :
    Compiles (subst args st args' st1) → getType scr = some t →
    Compiles (cwc scr (.xtor .cns ⟨id, 0⟩ (argsSnoc args' .cns c) (compileTy t)) st1 s st2) →
    Compiles (cwc (.dtor scr id tyArgs args ty) c st s st2)
  | cwc_goto {target t ty c st gty s st'} : getType t = some gty →
    Compiles (cwc t (.var .cns ⟨target, 0⟩ (compileTy gty)) st s st') →
    Compiles (cwc (.goto target t ty) c st s st')
  | cwc_exit {arg t c st a st1} : Compiles (comp arg .i64 st a st1) →
    Compiles (cwc (.exit arg (some t)) c st (.exit a (compileTy t)) st1)
  | cwc_paren {inner c st s st'} : Compiles (cwc inner c st s st') →
    Compiles (cwc (.paren inner) c st s st')
  | cwc_letIn {x varTy bound body ty c st s st'} :
    Compiles (guard (.letIn x varTy bound body ty) 3 c st s st') →
    Compiles (cwc (.letIn x varTy bound body ty) c st s st')
  | cwc_case {scr tyArgs cs ty c st s st'} :
    Compiles (guard (.case scr tyArgs cs ty) ((clausesNames cs).length + 2) c st s st') →
    Compiles (cwc (.case scr tyArgs cs ty) c st s st')
  | guard_pass {t n c st s st'} : bindersOccurFree (guardBinders t) c = false →
    Compiles (core t c st s st') → Compiles (guard t (n + 1) c st s st')
  | guard_wrap {t n c st τ s st'} : bindersOccurFree (guardBinders t) c = true →
    getType t = some τ →
    Compiles (guard t n (.var .cns ⟨(freshCovar st).1, 0⟩ (compileTy τ)) (freshCovar st).2 s st') →
    Compiles (guard t (n + 1) c st
      (.cut (compileTy τ) (.mu .prd ⟨(freshCovar st).1, 0⟩ (compileTy τ) s) c) st')
  | core_let_data {x varTy bound body ty c st inStmt st1 s st2} :
    Compiles (cwc body c st inStmt st1) → isCodata (compileTy varTy) st1.codataTypes = false →
    Compiles (cwc bound (.mu .cns ⟨x, 0⟩ (compileTy varTy) inStmt) st1 s st2) →
    Compiles (core (.letIn x varTy bound body ty) c st s st2)
  | core_let_codata {x varTy bound body ty c st inStmt st1 p st2} :
    Compiles (cwc body c st inStmt st1) → isCodata (compileTy varTy) st1.codataTypes = true →
    Compiles (comp bound (compileTy varTy) st1 p st2) →
    Compiles (core (.letIn x varTy bound body ty) c st
      (.cut (compileTy varTy) p (.mu .cns ⟨x, 0⟩ (compileTy varTy) inStmt)) st2)
  | core_case {scr tyArgs cs ty c st cs' st1 t s st2} :
    Compiles (clauses cs (shareUnless (decide (clausesLen cs ≤ 1) || isLeaf c) c st).1
      (shareUnless (decide (clausesLen cs ≤ 1) || isLeaf c) c st).2 cs' st1) →
    getType scr = some t → Compiles (cwc scr (.xcase .cns (compileTy t) cs') st1 s st2) →
    Compiles (core (.case scr tyArgs cs ty) c st s st2)
  | c_var {x t chi ty st} : Compiles (comp (.var x (some t) chi) ty st (.var .prd ⟨x, 0⟩ (compileTy t)) st)
  | c_lit {n ty st} : Compiles (comp (.lit n) ty st (.lit n) st)
  | c_op {a o b ty st fst st1 snd st2} :
    Compiles (comp a .i64 st fst st1) → Compiles (comp b .i64 st1 snd st2) →
    Compiles (comp (.op a o b) ty st (.op fst (compileOp o) snd) st2)
  | c_ctor {id args t ty st args' st1} : Compiles (subst args st args' st1) →
    Compiles (comp (.ctor id args (some t)) ty st (.xtor .prd ⟨id, 0⟩ args' (compileTy t)) st1)
  | c_new {cs t ty st cs' st1} : Compiles (coclauses cs st cs' st1) →
    Compiles (comp (.new cs (some t)) ty st (.xcase .prd (compileTy t) cs') st1)
  | c_label {a t lty ty st s st1} :
    Compiles (cwc t (.var .cns ⟨a, 0⟩ (compileTy lty)) st s st1) →
    Compiles (comp (.label a t (some lty)) ty st (.mu .prd ⟨a, 0⟩ (compileTy lty) s) st1)
  | c_paren {inner ty st p st'} : Compiles (comp inner ty st p st') →
    Compiles (comp (.paren inner) ty st p st')
  | c_default {t ty st s st'} : usesDefault t = true →
    Compiles (cwc t (.var .cns ⟨(freshCovar st).1, 0⟩ ty) (freshCovar st).2 s st') →
    Compiles (comp t ty st (.mu .prd ⟨(freshCovar st).1, 0⟩ ty s) st')
  | subst_nil {st} : Compiles (subst .nil st .nil st)
  | subst_covar {term rest st x t r st1} : covarArg term = some (x, some t) →
    Compiles (subst rest st r st1) →
    Compiles (subst (.cons term rest) st (.cons .cns (.var .cns ⟨x, 0⟩ (compileTy t)) r) st1)
  | subst_cons {term rest st t p st1 r st2} : covarArg term = none → getType term = some t →
    Compiles (comp term (compileTy t) st p st1) → Compiles (subst rest st1 r st2) →
    Compiles (subst (.cons term rest) st (.cons .prd p r) st2)
  | clauses_nil {c st} : Compiles (clauses .nil c st .nil st)
  | clauses_cons {pol xtor names ctx body rest c st b st1 r st2} :
    Compiles (cwc body c st b st1) → Compiles (clauses rest c st1 r st2) →
    Compiles (clauses (.cons pol xtor names ctx body rest) c st
      (.cons ⟨xtor, 0⟩ (compileContext ctx) b r) st2)
  | coclauses_nil {st} : Compiles (coclauses .nil st .nil st)
  | coclauses_cons {pol xtor names ctx body rest st t b st1 r st2} : getType body = some t →
    Compiles (cwc body (.var .cns ⟨(freshCovar st).1, 0⟩ (compileTy t)) (freshCovar st).2 b st1) →
    Compiles (coclauses rest st1 r st2) →
    Compiles (coclauses (.cons pol xtor names ctx body rest) st
      (.cons ⟨xtor, 0⟩ (compileContext ctx ++ [⟨⟨(freshCovar st).1, 0⟩, .cns, compileTy t⟩]) b r) st2)

theorem Compiles.of_default {t : Fun.Term} (hu : usesDefault t = true)
    (h : ∀ c st s st', compileWithCont t c st = .ok (s, st') → Compiles (.cwc t c st s st'))
    (hd : ∀ ty st, compile t ty st = defaultCompile (compileWithCont t) ty st) {ty st p st'}
    (hc : compile t ty st = .ok (p, st')) : Compiles (.comp t ty st p st') := by
  rw [hd, defaultCompile_eq] at hc
  obtain ⟨s, st1, hx, hc⟩ := bind_stmt hc
  cases hc
  exact .c_default hu (h _ _ _ _ hx)

/-- a successful run of the capture guard of `t` at level `lvl` is a `.guard t lvl` derivation, if
every successful run of the body behind the guard is a `.core t` derivation.  For `t` a `let` /
`case`, `guardBinders t` and `getType t` reduce to the binders and the annotation that `cwc_letIn` /
`cwc_case` pass to `guarded`: the callers rely on that unfolding -/
theorem Compiles.of_guardedLvl {t : Fun.Term} {site : String} {coreF : CwcFn}
    (hcore : ∀ c st s st', coreF c st = .ok (s, st') → Compiles (.core t c st s st')) :
    ∀ lvl c st s st', guardedLvl (guardBinders t) (getType t) site coreF lvl c st = .ok (s, st') →
      Compiles (.guard t lvl c st s st')
  | 0 => fun c st s st' h => by cases h
  | lvl + 1 => fun c st s st' h => by
    rw [guardedLvl_succ] at h
    split at h
    · rename_i hb
      obtain ⟨τ, hτ, h⟩ := bind_ty h
      rw [defaultCompile_eq] at h
      obtain ⟨p, st1, h, h'⟩ := bind_term h
      obtain ⟨s1, st2, hx, h⟩ := bind_stmt h
      cases h
      cases h'
      exact .guard_wrap hb hτ (of_guardedLvl (site := site) hcore lvl _ _ _ _ hx)
    · rename_i hb
      exact .guard_pass (by simpa using hb) (hcore _ _ _ _ h)

mutual
theorem compiles_term : ∀ t : Fun.Term,
    (∀ c st s st', compileWithCont t c st = .ok (s, st') → Compiles (.cwc t c st s st')) ∧
    (∀ ty st p st', compile t ty st = .ok (p, st') → Compiles (.comp t ty st p st'))
  | .var x ty chi => by
    refine ⟨fun c st s st' h => ?_, fun cty st p st' h => ?_⟩
    · rw [cwc_var] at h
      obtain ⟨t, rfl, h⟩ := bind_ty h
      cases h
      exact .cwc_cut rfl .c_var
    · rw [c_var] at h
      obtain ⟨t, rfl, h⟩ := bind_ty h
      cases h
      exact .c_var
  | .lit n => ⟨fun c st s st' h => by cases h; exact .cwc_cut rfl .c_lit,
      fun cty st p st' h => by cases h; exact .c_lit⟩
  | .op a o b => by
    have ha := (compiles_term a).2
    have hb := (compiles_term b).2
    have hcomp : ∀ ty st p st', compile (.op a o b) ty st = .ok (p, st') →
        Compiles (.comp (.op a o b) ty st p st') := by
      intro cty st p st' h
      rw [c_op] at h
      obtain ⟨fst, st1, hx, h⟩ := bind_term h
      obtain ⟨snd, st2, hy, h⟩ := bind_term h
      cases h
      exact .c_op (ha _ _ _ _ hx) (hb _ _ _ _ hy)
    refine ⟨fun c st s st' h => ?_, hcomp⟩
    rw [cwc_op] at h
    obtain ⟨p, st1, hx, h⟩ := bind_term h
    cases h
    exact .cwc_cut rfl (hcomp _ _ _ _ hx)
  | .ifc srt a b t e ty => by
    have ha := (compiles_term a).2
    have hb := (compiles_term b).2
    have ht := (compiles_term t).1
    have he := (compiles_term e).1
    have hcwc : ∀ c st s st', compileWithCont (.ifc srt a b t e ty) c st = .ok (s, st') →
        Compiles (.cwc (.ifc srt a b t e ty) c st s st') := by
      intro c st s st' h
      rw [cwc_ifc] at h
      obtain ⟨fst, st1, hx, h⟩ := bind_term h
      obtain ⟨snd, st2, hy, h⟩ := bind_term h
      obtain ⟨thenc, st3, hz, h⟩ := bind_stmt h
      obtain ⟨elsec, st4, hw, h⟩ := bind_stmt h
      cases h
      exact .cwc_ifc (ha _ _ _ _ hx) (hb _ _ _ _ hy) (ht _ _ _ _ hz) (he _ _ _ _ hw)
    exact ⟨hcwc, fun _ _ _ _ => .of_default rfl hcwc (c_ifc srt a b t e ty)⟩
  | .ifz srt a t e ty => by
    have ha := (compiles_term a).2
    have ht := (compiles_term t).1
    have he := (compiles_term e).1
    have hcwc : ∀ c st s st', compileWithCont (.ifz srt a t e ty) c st = .ok (s, st') →
        Compiles (.cwc (.ifz srt a t e ty) c st s st') := by
      intro c st s st' h
      rw [cwc_ifz] at h
      obtain ⟨fst, st1, hx, h⟩ := bind_term h
      obtain ⟨thenc, st3, hz, h⟩ := bind_stmt h
      obtain ⟨elsec, st4, hw, h⟩ := bind_stmt h
      cases h
      exact .cwc_ifz (ha _ _ _ _ hx) (ht _ _ _ _ hz) (he _ _ _ _ hw)
    exact ⟨hcwc, fun _ _ _ _ => .of_default rfl hcwc (c_ifz srt a t e ty)⟩
  | .print nl a n ty => by
    have ha := (compiles_term a).2
    have hn := (compiles_term n).1
    have hcwc : ∀ c st s st', compileWithCont (.print nl a n ty) c st = .ok (s, st') →
        Compiles (.cwc (.print nl a n ty) c st s st') := by
      intro c st s st' h
      rw [cwc_print] at h
      obtain ⟨arg, st1, hx, h⟩ := bind_term h
      obtain ⟨next, st2, hy, h⟩ := bind_stmt h
      cases h
      exact .cwc_print (ha _ _ _ _ hx) (hn _ _ _ _ hy)
    exact ⟨hcwc, fun _ _ _ _ => .of_default rfl hcwc (c_print nl a n ty)⟩
  | .letIn x varTy bound body ty => by
    have hbc := (compiles_term bound).1
    have hbp := (compiles_term bound).2
    have hi := (compiles_term body).1
    have hcwc : ∀ c st s st', compileWithCont (.letIn x varTy bound body ty) c st = .ok (s, st') →
        Compiles (.cwc (.letIn x varTy bound body ty) c st s st') := by
      intro c st s st' h
      rw [cwc_letIn] at h
      refine .cwc_letIn (.of_guardedLvl (t := .letIn x varTy bound body ty) ?_ _ _ _ _ _ h)
      intro c st s st' h
      obtain ⟨inStmt, st1, hx, h⟩ := bind_stmt h
      split at h
      · rename_i hcd
        obtain ⟨p, st2, hy, h⟩ := bind_term h
        cases h
        exact .core_let_codata (hi _ _ _ _ hx) hcd (hbp _ _ _ _ hy)
      · rename_i hcd
        exact .core_let_data (hi _ _ _ _ hx) (by simpa using hcd) (hbc _ _ _ _ h)
    exact ⟨hcwc, fun _ _ _ _ => .of_default rfl hcwc (c_letIn x varTy bound body ty)⟩
  | .call name args retTy => by
    have hs := compiles_subst args
    have hcwc : ∀ c st s st', compileWithCont (.call name args retTy) c st = .ok (s, st') →
        Compiles (.cwc (.call name args retTy) c st s st') := by
      intro c st s st' h
      rw [cwc_call] at h
      obtain ⟨args', st1, hx, h⟩ := bind_args h
      obtain ⟨t, rfl, h⟩ := bind_ty h
      cases h
      exact .cwc_call (hs _ _ _ hx)
    exact ⟨hcwc, fun _ _ _ _ => .of_default rfl hcwc (c_call name args retTy)⟩
  | .ctor id args ty => by
    have hs := compiles_subst args
    have hcomp : ∀ cty st p st', compile (.ctor id args ty) cty st = .ok (p, st') →
        Compiles (.comp (.ctor id args ty) cty st p st') := by
      intro cty st p st' h
      rw [c_ctor] at h
      obtain ⟨args', st1, hx, h⟩ := bind_args h
      obtain ⟨t, rfl, h⟩ := bind_ty h
      cases h
      exact .c_ctor (hs _ _ _ hx)
    refine ⟨fun c st s st' h => ?_, hcomp⟩
    rw [cwc_ctor] at h
    obtain ⟨t, rfl, h⟩ := bind_ty h
    obtain ⟨p, st1, hx, h⟩ := bind_term h
    cases h
    exact .cwc_cut rfl (hcomp _ _ _ _ hx)
  | .dtor scrutinee id tyArgs args ty => by
    have hs := compiles_subst args
    have hsc := (compiles_term scrutinee).1
    have hcwc : ∀ c st s st', compileWithCont (.dtor scrutinee id tyArgs args ty) c st = .ok (s, st') →
        Compiles (.cwc (.dtor scrutinee id tyArgs args ty) c st s st') := by
      intro c st s st' h
      rw [cwc_dtor] at h
      obtain ⟨args', st1, hx, h⟩ := bind_args h
      obtain ⟨t, ht, h⟩ := bind_ty h
      exact .cwc_dtor (hs _ _ _ hx) ht (hsc _ _ _ _ h)
    exact ⟨hcwc, fun _ _ _ _ => .of_default rfl hcwc (c_dtor scrutinee id tyArgs args ty)⟩
  | .case scrutinee tyArgs clauses ty => by
    have hcl := compiles_clauses clauses
    have hsc := (compiles_term scrutinee).1
    have hcwc : ∀ c st s st', compileWithCont (.case scrutinee tyArgs clauses ty) c st = .ok (s, st') →
        Compiles (.cwc (.case scrutinee tyArgs clauses ty) c st s st') := by
      intro c st s st' h
      rw [cwc_case] at h
      refine .cwc_case (.of_guardedLvl (t := .case scrutinee tyArgs clauses ty) ?_ _ _ _ _ _ h)
      intro c st s st' h
      obtain ⟨cs, st1, hx, h⟩ := bind_clauses h
      obtain ⟨t, ht, h⟩ := bind_ty h
      exact .core_case (hcl _ _ _ _ hx) ht (hsc _ _ _ _ h)
    exact ⟨hcwc, fun _ _ _ _ => .of_default rfl hcwc (c_case scrutinee tyArgs clauses ty)⟩
  | .new clauses ty => by
    have hs := compiles_coclauses clauses
    have hcomp : ∀ cty st p st', compile (.new clauses ty) cty st = .ok (p, st') →
        Compiles (.comp (.new clauses ty) cty st p st') := by
      intro cty st p st' h
      rw [c_new] at h
      obtain ⟨cs, st1, hx, h⟩ := bind_clauses h
      obtain ⟨t, rfl, h⟩ := bind_ty h
      cases h
      exact .c_new (hs _ _ _ hx)
    refine ⟨fun c st s st' h => ?_, hcomp⟩
    rw [cwc_new] at h
    obtain ⟨t, rfl, h⟩ := bind_ty h
    obtain ⟨p, st1, hx, h⟩ := bind_term h
    cases h
    exact .cwc_cut rfl (hcomp _ _ _ _ hx)
  | .goto target t ty => by
    have ht := (compiles_term t).1
    have hcwc : ∀ c st s st', compileWithCont (.goto target t ty) c st = .ok (s, st') →
        Compiles (.cwc (.goto target t ty) c st s st') := by
      intro c st s st' h
      rw [cwc_goto] at h
      obtain ⟨gty, hg, h⟩ := bind_ty h
      exact .cwc_goto hg (ht _ _ _ _ h)
    exact ⟨hcwc, fun _ _ _ _ => .of_default rfl hcwc (c_goto target t ty)⟩
  | .label a t ty => by
    have ht := (compiles_term t).1
    have hcomp : ∀ cty st p st', compile (.label a t ty) cty st = .ok (p, st') →
        Compiles (.comp (.label a t ty) cty st p st') := by
      intro cty st p st' h
      rw [c_label] at h
      obtain ⟨lty, rfl, h⟩ := bind_ty h
      obtain ⟨s, st1, hx, h⟩ := bind_stmt h
      cases h
      exact .c_label (ht _ _ _ _ hx)
    refine ⟨fun c st s st' h => ?_, hcomp⟩
    rw [cwc_label] at h
    obtain ⟨t, rfl, h⟩ := bind_ty h
    obtain ⟨p, st1, hx, h⟩ := bind_term h
    cases h
    exact .cwc_cut rfl (hcomp _ _ _ _ hx)
  | .exit arg ty => by
    have ha := (compiles_term arg).2
    have hcwc : ∀ c st s st', compileWithCont (.exit arg ty) c st = .ok (s, st') →
        Compiles (.cwc (.exit arg ty) c st s st') := by
      intro c st s st' h
      rw [cwc_exit] at h
      obtain ⟨a, st1, hx, h⟩ := bind_term h
      obtain ⟨t, rfl, h⟩ := bind_ty h
      cases h
      exact .cwc_exit (ha _ _ _ _ hx)
    exact ⟨hcwc, fun _ _ _ _ => .of_default rfl hcwc (c_exit arg ty)⟩
  | .paren inner =>
    ⟨fun _ _ _ _ h => .cwc_paren ((compiles_term inner).1 _ _ _ _ h),
      fun _ _ _ _ h => .c_paren ((compiles_term inner).2 _ _ _ _ h)⟩
theorem compiles_subst : ∀ (args : Fun.Terms) (st as st'),
    compileSubst args st = .ok (as, st') → Compiles (.subst args st as st')
  | .nil => fun st as st' h => by cases h; exact .subst_nil
  | .cons term rest => by
    have ht := (compiles_term term).2
    have hr := compiles_subst rest
    intro st as st' h
    rw [subst_cons] at h
    split at h
    · rename_i x ty hc
      obtain ⟨t, rfl, h⟩ := bind_ty h
      obtain ⟨r, st1, hx, h⟩ := bind_args h
      cases h
      exact .subst_covar hc (hr _ _ _ hx)
    · rename_i hc
      obtain ⟨t, hg, h⟩ := bind_ty h
      obtain ⟨p, st1, hx, h⟩ := bind_term h
      obtain ⟨r, st2, hy, h⟩ := bind_args h
      cases h
      exact .subst_cons hc hg (ht _ _ _ _ hx) (hr _ _ _ hy)
theorem compiles_clauses : ∀ (cs : Fun.Clauses) (cont st cs' st'),
    compileClauses cs cont st = .ok (cs', st') → Compiles (.clauses cs cont st cs' st')
  | .nil => fun cont st cs' st' h => by cases h; exact .clauses_nil
  | .cons pol xtor names ctx body rest => by
    have hb := (compiles_term body).1
    have hr := compiles_clauses rest
    intro cont st cs' st' h
    rw [clauses_cons] at h
    obtain ⟨b, st1, hx, h⟩ := bind_stmt h
    obtain ⟨r, st2, hy, h⟩ := bind_clauses h
    cases h
    exact .clauses_cons (hb _ _ _ _ hx) (hr _ _ _ _ hy)
theorem compiles_coclauses : ∀ (cs : Fun.Clauses) (st cs' st'),
    compileCoclauses cs st = .ok (cs', st') → Compiles (.coclauses cs st cs' st')
  | .nil => fun st cs' st' h => by cases h; exact .coclauses_nil
  | .cons pol xtor names ctx body rest => by
    have hb := (compiles_term body).1
    have hr := compiles_coclauses rest
    intro st cs' st' h
    rw [coclauses_cons] at h
    obtain ⟨t, hg, h⟩ := bind_ty h
    obtain ⟨b, st1, hx, h⟩ := bind_stmt h
    obtain ⟨r, st2, hy, h⟩ := bind_clauses h
    cases h
    exact .coclauses_cons hg (hb _ _ _ _ hx) (hr _ _ _ hy)
end

end Scc.Fun2Core
