/-
  Scc.Fun2Core.SemSim13 — simulation of a destructor call `s.d(args)`, for ANY scrutinee `s` (a
  variable, a `new`, a call, another destructor call, `if`, `case`, `let`, …): the Fun machine pushes
  the frame `dtorScrut d args env` and evaluates `s`; the Core machine is about to run
  `⟦s⟧_{d(⟦args⟧; c)}`, no step.  The destructor as a consumer TERM is related to the new stack by
  `CRel.dtor`; its (pure) arguments have values by type safety (`pureArgsM_typed`), which is what the
  Core machine needs when it evaluates them BEFORE the scrutinee is run (`force_cr`).
-/
import Scc.Fun2Core.SemSim11

namespace Scc.Fun2Core.Sem
open Scc.Fun2Core.Typed

variable {q : Core.Prog} {p : Fun.CheckedProgram}

/-- names of the destructor built by the translation -/
theorem consNames_dtor {args : Fun.Terms} {c : Core.Term} {st : CompileState} {as' : Core.Args}
    {st' : CompileState} {n : Nat} (h : compileSubst args st = .ok (as', st'))
    (htn : ArgsNames args st) (hcn : ConsNames c st n) (d : Core.Ident) (ty : Core.Ty) :
    ConsNames (.xtor .cns d (argsSnoc as' .cns c) ty) st' n := by
  have hfs : FS st st' := (rel_subst fs_stepRel args) st as' st' h
  intro b hb
  simp only [occTerm, occArgs_snoc, List.mem_append] at hb
  rcases hb with hb | hb
  · rcases occ_subst args h htn.fv htn.bd b hb with h1 | h1
    · simp at h1
    · exact .inr ⟨fun e => hfs.2 htn.nosig (e ▸ h1), h1⟩
  · exact (hcn.mono_st hfs.sub) b hb

/-- `s.d(args)` -/
theorem eval_dtor (X : Ctx p q) {sc : Fun.Term} {d : String} {ta : Fun.Tys} {as : Fun.Terms}
    {rty : Option Fun.Ty} {env : Fun.Env} {k : Fun.Stack} {c : Core.Term} {s : Core.Stmt}
    {ρ0 ρ : CEnv} {out : Out} {n : Nat} (hg : good p (.dtor sc d ta as rty) = true)
    (hc : Compiled q n (.dtor sc d ta as rty) c s)
    (he : EnvRel (GP p) p q n (fv (.dtor sc d ta as rty)) env ρ0) (hr : CRel (GP p) p q n k c ρ0)
    (hbd : BoundOn (tfvStmt s []) ρ0) (hag : AgreeOn (tfvStmt s []) ρ0 ρ)
    (hT : STM p (.eval (.dtor sc d ta as rty) env k)) :
    Chunk p q (R p q) true true (funSize (.dtor sc d ta as rty))
      (.eval (.dtor sc d ta as rty) env k) ⟨s, ρ, out, n⟩ := by
  simp only [good, Bool.and_eq_true] at hg
  obtain ⟨⟨⟨hgs, _⟩, hgas⟩, _⟩ := hg
  have hpf := goodPs_pureFOs p as hgas
  obtain ⟨st, st', hcwc, hst, htn, hcn⟩ := hc
  rw [cwc_dtor] at hcwc
  obtain ⟨as', st1, hcs, hcwc⟩ := bind_args hcwc
  obtain ⟨τs, hty, hcwc⟩ := bind_ty hcwc
  -- typing: the scrutinee has a codata type, the arguments have values
  obtain ⟨hcd, vs, hvs⟩ : Core.isCodata q.codataTypes (compileTy τs) = true ∧
      ∃ vs, pureArgs p as env = some vs := by
    cases hT with
    | eval Γ τ0 he0 ht hk =>
      simp only [TypedM] at ht
      obtain ⟨_, _, σ, dd, sg, hsc, hd, _, _, hargs⟩ := ht
      have h1 := getType_of_typed p _ _ _ hsc
      rw [hty] at h1; cases h1
      obtain ⟨vs, h2, _⟩ := pureArgsM_typed X.progM he0 as sg.args
        (pureFOs_pure (goodClauses p) as hpf) hargs
      exact ⟨by rw [X.cod τs]; exact isCodataTy_of_codataDecl hd, vs, h2⟩
  have fas : FS st st1 := (rel_subst fs_stepRel as) st as' st1 hcs
  have fsc := fs_cwc hcwc
  have hst1 := hst.of_fresh fsc.1
  have tnas : ArgsNames as st :=
    ⟨fun y hy => htn.fv y (by simp [fv, hy]), fun y hy => htn.bd y (by simp [binderNames, hy]),
      htn.nosig⟩
  have tnsc : TermNames sc st1 := htn.of_sub (fun y hy => by simp [fv, hy])
    (fun y hy => by simp [binderNames, hy]) fas
  -- pad the ideal environment so that the free variables of the destructor are bound
  obtain ⟨ρp, hep, hrp, hbdp, hagp, hbdK⟩ :=
    ideal_pad (tfvTerm (.xtor .cns ⟨d, 0⟩ (argsSnoc as' .cns c) (compileTy τs)) []) he hr hbd hag
  have hrd : CRel (GP p) p q n (.dtorScrut d as env :: k)
      (.xtor .cns ⟨d, 0⟩ (argsSnoc as' .cns c) (compileTy τs)) ρp :=
    CRel.dtor (ρ0 := ρp) hcs hst1 tnas hpf (goodClauses_find p) hvs
      (hep.sub fun y hy => by simp [fv, hy]) hrp (hcn.sig_lt (Nat.le_refl n)) hbdK (.refl _ _) hcd
  have f1 : Fun.step p (.eval (.dtor sc d ta as rty) env k) =
      .next (.eval sc env (.dtorScrut d as env :: k)) none := rfl
  refine Chunk.step (e := none) f1 (by intro h; cases h) (.refl _)
    (fun _ => .inr (by simp only [msize, funSize]; omega)) (by simp) ?_
  exact SRel.eval (ρ0 := ρp) hgs
    ⟨st1, st', hcwc, hst, tnsc, consNames_dtor hcs tnas hcn _ _⟩
    (hep.sub fun y hy => by simp [fv, hy]) hrd hbdp hagp

end Scc.Fun2Core.Sem
