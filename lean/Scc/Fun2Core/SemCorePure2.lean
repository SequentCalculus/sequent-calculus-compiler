/-
  Scc.Fun2Core.SemCorePure2 — `core_pure` / `core_args`: the Core ς-machine evaluates the translation
  of a pure Fun term (variables, literals, `+ - *`, constructors, `new`, parentheses) / of a pure
  argument list to the Core value(s) related to its Fun value(s).  Environments: an ideal Core
  environment related to the Fun environment, and the actual one agreeing with it on the free
  variables of the translated producer.
-/
import Scc.Fun2Core.SemCorePure
import Scc.Fun2Core.SemNames

namespace Scc.Fun2Core.Sem

variable {G : Fun.Term → Prop} {q : Core.Prog} {p : Fun.CheckedProgram}

theorem covarArg_none_isCov {t : Fun.Term} (h : covarArg t = none) : isCov t = none := by
  cases t with
  | var x ty chi =>
    cases chi with
    | none => rfl
    | some c => cases c with
      | prd => rfl
      | cns => simp [covarArg] at h
  | _ => rfl

theorem covarArg_some {t : Fun.Term} {x : String} {ty : Option Fun.Ty}
    (h : covarArg t = some (x, ty)) : t = .var x ty (some .cns) := by
  cases t with
  | var y ty' chi =>
    cases chi with
    | none => simp [covarArg] at h
    | some c => cases c with
      | prd => simp [covarArg] at h
      | cns =>
        simp only [covarArg, Option.some.injEq, Prod.mk.injEq] at h
        rw [h.1, h.2]
  | _ => simp [covarArg] at h

theorem PEval.imp {A ρ n} {Φ Ψ : CVal → Prop} (h : PEval q A ρ n Φ) (hi : ∀ V, Φ V → Ψ V) :
    PEval q A ρ n Ψ := by
  intro c cty out hc
  obtain ⟨i, ρ', n', A', V, a1, a2, a3, a4, a5, a6⟩ := h c cty out hc
  exact ⟨i, ρ', n', A', V, a1, a2, a3, a4, a5, hi V a6⟩

theorem VRel.int_inv {m : Nat} {x : BitVec 64} {V : CVal} (h : VRel G p q m (.int x) V) : V = .int x := by
  cases h; rfl

theorem EnvRel.sigExt {m n : Nat} {xs : List String} {env : Fun.Env} {ρ ρ' : CEnv}
    (h : EnvRel G p q m xs env ρ) (he : SigExt n ρ ρ') (hs : ∀ y ∈ xs, y ≠ sig) :
    EnvRel G p q m xs env ρ' :=
  h.agree fun y hy => he.lookup ⟨y, 0⟩ (fun e => absurd e (hs y hy))

theorem suspend_pure : ∀ (t : Fun.Term) (env : Fun.Env), pureS t = true →
    exceptToOption (Fun.suspend t env) = pureVal p t env
  | .var x ty chi => fun env _ => by
    simp only [Fun.suspend, pureVal]
    cases Fun.lookup x env <;> rfl
  | .new cs ty => fun env _ => rfl
  | .paren t => fun env h => by
    simp only [Fun.suspend, pureVal]
    exact suspend_pure t env (by simpa [pureS] using h)
  | .lit _ => fun _ h => by simp [pureS] at h
  | .op .. => fun _ h => by simp [pureS] at h
  | .ifc .. => fun _ h => by simp [pureS] at h
  | .ifz .. => fun _ h => by simp [pureS] at h
  | .print .. => fun _ h => by simp [pureS] at h
  | .letIn .. => fun _ h => by simp [pureS] at h
  | .call .. => fun _ h => by simp [pureS] at h
  | .ctor .. => fun _ h => by simp [pureS] at h
  | .dtor .. => fun _ h => by simp [pureS] at h
  | .case .. => fun _ h => by simp [pureS] at h
  | .label .. => fun _ h => by simp [pureS] at h
  | .goto .. => fun _ h => by simp [pureS] at h
  | .exit .. => fun _ h => by simp [pureS] at h

/-- the ideal environment of an extension of the actual environment by machine-fresh names -/
theorem ideal_sigExt {m n : Nat} {xs : List String} {env : Fun.Env} {ρ0 ρ ρ' : CEnv}
    {bs : List Core.Binding} (he : EnvRel G p q m xs env ρ0) (hbd : BoundOn bs ρ0)
    (hag : AgreeOn bs ρ0 ρ) (hext : SigExt n ρ ρ') (hs : ∀ y ∈ xs, y ≠ sig) :
    ∃ ρ0', EnvRel G p q m xs env ρ0' ∧ BoundOn bs ρ0' ∧ AgreeOn bs ρ0' ρ' := by
  obtain ⟨ρ0', hext0, hag'⟩ := hext.agree (ρ0 := ρ0)
  exact ⟨ρ0', he.sigExt hext0 hs, hbd.sigExt hext0, hag' _ hag⟩

section
variable (gc : Fun.Clauses → Bool)
  (hgc : ∀ cs, gc cs = true → ∀ K cl, Fun.findClause K cs = some cl →
    G cl.body ∧ cl.names.Nodup ∧ cl.ctx.map (·.var) = cl.names)
include hgc

mutual
  /-- the translation of a pure term denotes a value related to the term's value -/
  theorem core_pure :
      ∀ (t : Fun.Term), pureFO p gc t = true → ∀ (env : Fun.Env) (v : Fun.Value) (ty : Core.Ty)
        (st : CompileState) (P : Core.Term) (st' : CompileState) (m : Nat) (ρ0 ρ : CEnv) (n : Nat),
        compile t ty st = .ok (P, st') → StOK q st' → TermNames t st → pureVal p t env = some v →
        EnvRel G p q m (fv t) env ρ0 → BoundOn (tfvTerm P []) ρ0 → AgreeOn (tfvTerm P []) ρ0 ρ →
        PVal q P ρ n (VRel G p q m v)
    | .var x vty chi => fun _ env v ty st P st' m ρ0 ρ n hc _ htn hv he _ hag => by
      rw [c_var] at hc
      cases vty with
      | none => simp at hc
      | some τ =>
        simp only [Except.ok.injEq, Prod.mk.injEq] at hc
        obtain ⟨rfl, _⟩ := hc
        refine ⟨fun pc z ty' e => ?_, fun hnv => by simp [Core.Term.isVar] at hnv⟩
        simp only [Core.Term.var.injEq] at e
        obtain ⟨rfl, rfl, _⟩ := e
        obtain ⟨v', V', h1, h2, h3⟩ := he.get (y := x) (by simp [fv])
        simp only [pureVal] at hv
        rw [hv] at h1
        cases h1
        refine ⟨rfl, htn.fv_ne_sig x (by simp [fv]), V', ?_, h3⟩
        rw [hag ⟨⟨x, 0⟩, .prd, compileTy τ⟩ (mem_tfv_var.2 rfl)]
        exact h2
    | .lit k => fun _ env v ty st P st' m ρ0 ρ n hc _ _ hv _ _ _ => by
      rw [c_lit] at hc
      simp only [Except.ok.injEq, Prod.mk.injEq] at hc
      obtain ⟨rfl, _⟩ := hc
      simp only [pureVal, Option.some.injEq] at hv
      subst hv
      have hev : ∀ n0, PEval q (.lit k) ρ n0 (VRel G p q m (.int (BitVec.ofInt 64 k))) := by
        intro n0 c cty out hc
        exact ⟨0, ρ, n0, .lit k, .int (BitVec.ofInt 64 k), .refl _, Nat.le_refl _, .refl _ _, rfl, rfl,
          .int _ _⟩
      exact ⟨fun pc z ty' e => (by cases e), fun _ => ⟨hev n, hev (n + 1)⟩⟩
    | .op a o b => fun hpf env v ty st P st' m ρ0 ρ n hc hst htn hv he hbd hag => by
      simp only [pureFO, Bool.and_eq_true] at hpf
      rw [c_op] at hc
      obtain ⟨A, st1, hca, hc⟩ := bind_term hc
      obtain ⟨B, st2, hcb, hc⟩ := bind_term hc
      cases hc
      simp only [pureVal] at hv
      cases ha : pureVal p a env with
      | none => simp [ha] at hv
      | some va =>
        cases hb : pureVal p b env with
        | none => rw [ha, hb] at hv; cases va <;> simp at hv
        | some vb =>
          rw [ha, hb] at hv
          cases va with
          | int x =>
            cases vb with
            | int y =>
              simp only at hv
              cases har : Fun.arith o x y with
              | error w => simp [har, exceptToOption, Except.map] at hv
              | ok r =>
                simp only [har, exceptToOption, Except.map, Option.some.injEq] at hv
                subst hv
                have fa := fs_compile hca
                have fb := fs_compile hcb
                have hst1 := hst.of_fresh fb.1
                have tna : TermNames a st := htn.of_sub (fun y hy => by simp [fv, hy])
                  (fun y hy => by simp [binderNames, hy]) (fs_stepRel.refl st)
                have tnb : TermNames b st1 := htn.of_sub (fun y hy => by simp [fv, hy])
                  (fun y hy => by simp [binderNames, hy]) fa
                have hea : EnvRel G p q m (fv a) env ρ0 := he.sub fun y hy => by simp [fv, hy]
                have heb : EnvRel G p q m (fv b) env ρ0 := he.sub fun y hy => by simp [fv, hy]
                have hbdA : BoundOn (tfvTerm A []) ρ0 := hbd.mono fun y hy => mem_tfv_op.2 (.inl hy)
                have hbdB : BoundOn (tfvTerm B []) ρ0 := hbd.mono fun y hy => mem_tfv_op.2 (.inr hy)
                have hagA : AgreeOn (tfvTerm A []) ρ0 ρ := hag.mono fun y hy => mem_tfv_op.2 (.inl hy)
                have hagB : AgreeOn (tfvTerm B []) ρ0 ρ := hag.mono fun y hy => mem_tfv_op.2 (.inr hy)
                have hA : ∀ n0, PVal q A ρ n0 (IsInt x) := fun n0 =>
                  (core_pure a hpf.1.2 env _ _ st A st1 m ρ0 ρ n0 hca hst1 tna ha hea hbdA hagA).imp
                    fun V h => h.int_inv
                have hB : ∀ n0 ρ' n', SigExt n0 ρ ρ' → n0 ≤ n' → PVal q B ρ' n' (IsInt y) :=
                  fun n0 ρ' n' hext _ => by
                    obtain ⟨ρ0', he', hbd', hag'⟩ := ideal_sigExt heb hbdB hagB hext tnb.fv_ne_sig
                    exact (core_pure b hpf.2 env _ _ st1 B st' m ρ0' ρ' n' hcb hst tnb hb
                      he' hbd' hag').imp fun V h => h.int_inv
                have hev : ∀ n0, PEval q (.op A (compileOp o) B) ρ n0 (VRel G p q m (.int r)) :=
                  fun n0 => (peval_op (hA n0) (hB n0) har).imp fun V h => by
                    rw [show V = .int r from h]; exact .int _ _
                exact ⟨fun pc z ty' e => (by cases e), fun _ => ⟨hev n, hev (n + 1)⟩⟩
            | _ => simp at hv
          | _ => simp at hv
    | .ctor K args cty0 => fun hpf env v ty st P st' m ρ0 ρ n hc hst htn hv he hbd hag => by
      simp only [pureFO] at hpf
      rw [c_ctor] at hc
      obtain ⟨as', st1, hca, hc⟩ := bind_args hc
      cases cty0 with
      | none => cases hc
      | some τ =>
        cases hc
        simp only [pureVal, Option.map_eq_some_iff] at hv
        obtain ⟨vs, hvs, rfl⟩ := hv
        have hev : ∀ n0, PEval q (.xtor .prd ⟨K, 0⟩ as' (compileTy τ)) ρ n0
            (VRel G p q m (.con K vs)) := by
          intro n0 c cty out hc
          obtain ⟨i, ρ', n', as'', Vs, h1, h2, h3, h4, _, h6, h7⟩ :=
            core_args args hpf (fun as => .cut cty (.xtor .prd ⟨K, 0⟩ as (compileTy τ)) c)
              (argCtx_xtor _ _ _ _) .nil env vs st as' st' m ρ0 ρ n0 out .nil [] hca hst
              ⟨by simpa [fv] using htn.fv, by simpa [binderNames] using htn.bd, htn.nosig⟩ hvs
              (by simpa [fv] using he)
              (hbd.mono fun y hy => mem_tfv_xtor.2 hy)
              (hag.mono fun y hy => mem_tfv_xtor.2 hy)
              rfl trivial rfl
          simp only [appArgs, appArgs_nil, List.nil_append] at h1 h6
          refine ⟨i, ρ', n', .xtor .prd ⟨K, 0⟩ as'' (compileTy τ), .con ⟨K, 0⟩ Vs, h1, h2, h3, h4, ?_,
            .con h7⟩
          simp [Core.prdVal, h6]
        exact ⟨fun pc z ty' e => (by cases e), fun _ => ⟨hev n, hev (n + 1)⟩⟩
    | .new cs cty0 => fun hpf env v ty st P st' m ρ0 ρ n hc hst htn hv he hbd hag => by
      simp only [pureFO] at hpf
      rw [c_new] at hc
      obtain ⟨cs', st1, hcc, hc⟩ := bind_clauses hc
      cases cty0 with
      | none => cases hc
      | some τ =>
        cases hc
        simp only [pureVal, Option.some.injEq] at hv
        subst hv
        have hvr : VRel G p q m (.obj cs env) (.cocase ρ cs') :=
          .obj (hgc cs hpf)
            ⟨st, st', hcc, hst, ⟨by simpa [fv] using htn.fv, by simpa [binderNames] using htn.bd,
              htn.nosig⟩⟩
            (by simpa [fv] using he) (by simpa [tfvTerm] using hbd) (by simpa [tfvTerm] using hag)
        have hev : ∀ n0, PEval q (.xcase .prd (compileTy τ) cs') ρ n0 (VRel G p q m (.obj cs env)) := by
          intro n0 c cty out hc
          exact ⟨0, ρ, n0, _, .cocase ρ cs', .refl _, Nat.le_refl _, .refl _ _, rfl, rfl, hvr⟩
        exact ⟨fun pc z ty' e => (by cases e), fun _ => ⟨hev n, hev (n + 1)⟩⟩
    | .paren t => fun hpf env v ty st P st' m ρ0 ρ n hc hst htn hv he hbd hag => by
      simp only [pureFO] at hpf
      rw [c_paren] at hc
      simp only [pureVal] at hv
      exact core_pure t hpf env v ty st P st' m ρ0 ρ n hc hst
        ⟨by simpa [fv] using htn.fv, by simpa [binderNames] using htn.bd, htn.nosig⟩ hv
        (by simpa [fv] using he) hbd hag
    | .ifc .. => fun hpf _ _ _ _ _ _ _ _ _ _ _ _ _ _ _ _ _ => by simp [pureFO] at hpf
    | .ifz .. => fun hpf _ _ _ _ _ _ _ _ _ _ _ _ _ _ _ _ _ => by simp [pureFO] at hpf
    | .print .. => fun hpf _ _ _ _ _ _ _ _ _ _ _ _ _ _ _ _ _ => by simp [pureFO] at hpf
    | .letIn .. => fun hpf _ _ _ _ _ _ _ _ _ _ _ _ _ _ _ _ _ => by simp [pureFO] at hpf
    | .call .. => fun hpf _ _ _ _ _ _ _ _ _ _ _ _ _ _ _ _ _ => by simp [pureFO] at hpf
    | .dtor .. => fun hpf _ _ _ _ _ _ _ _ _ _ _ _ _ _ _ _ _ => by simp [pureFO] at hpf
    | .case .. => fun hpf _ _ _ _ _ _ _ _ _ _ _ _ _ _ _ _ _ => by simp [pureFO] at hpf
    | .label .. => fun hpf _ _ _ _ _ _ _ _ _ _ _ _ _ _ _ _ _ => by simp [pureFO] at hpf
    | .goto .. => fun hpf _ _ _ _ _ _ _ _ _ _ _ _ _ _ _ _ _ => by simp [pureFO] at hpf
    | .exit .. => fun hpf _ _ _ _ _ _ _ _ _ _ _ _ _ _ _ _ _ => by simp [pureFO] at hpf
  /-- the translated arguments are evaluated left to right and replaced by variables -/
  theorem core_args :
      ∀ (args : Fun.Terms), pureFOs p gc args = true → ∀ (Sc : Core.Args → Core.Stmt), ArgCtx Sc →
        ∀ (tail : Core.Args) (env : Fun.Env) (vs : List Fun.Value) (st : CompileState)
        (as' : Core.Args) (st' : CompileState) (m : Nat) (ρ0 ρ : CEnv) (n : Nat) (out : Out)
        (pre : Core.Args) (Vpre : List CVal),
        compileSubst args st = .ok (as', st') → StOK q st' → ArgsNames args st →
        pureArgs p args env = some vs →
        EnvRel G p q m (fvArgs args) env ρ0 → BoundOn (tfvArgs as' []) ρ0 → AgreeOn (tfvArgs as' []) ρ0 ρ →
        argsAllVar pre = true → argsSigBelow n pre → Core.argVals ρ pre = .ok Vpre →
        ∃ i ρ' n' as'' Vs, CSteps q ⟨Sc (appArgs pre (appArgs as' tail)), ρ, out, n⟩
            ⟨Sc (appArgs (appArgs pre as'') tail), ρ', out, n'⟩ i ∧ n ≤ n' ∧ SigExt n ρ ρ' ∧
          argsAllVar as'' = true ∧ argsSigBelow n' (appArgs pre as'') ∧
          Core.argVals ρ' (appArgs pre as'') = .ok (Vpre ++ Vs) ∧ VRelL G p q m vs Vs
    | .nil => fun _ Sc _ tail env vs st as' st' m ρ0 ρ n out pre Vpre hc _ _ hv _ _ _ hpre hsb
        hpv => by
      rw [subst_nil] at hc
      simp only [Except.ok.injEq, Prod.mk.injEq] at hc
      obtain ⟨rfl, _⟩ := hc
      simp only [pureArgs, Option.some.injEq] at hv
      subst hv
      refine ⟨0, ρ, n, .nil, [], ?_, Nat.le_refl _, .refl _ _, rfl, ?_, ?_, .nil _⟩
      · simp only [appArgs, appArgs_nil]; exact .refl _
      · simpa [appArgs_nil] using hsb
      · simpa [appArgs_nil] using hpv
    | .cons t rest => fun hpf Sc hSc tail env vs st as' st' m ρ0 ρ n out pre Vpre hc hst htn hv he
        hbd hag hpre hsb hpv => by
      simp only [pureFOs, Bool.and_eq_true] at hpf
      obtain ⟨⟨hpt, hshape⟩, hpr⟩ := hpf
      rw [subst_cons] at hc
      rw [pureArgs_cons] at hv
      cases hav : argVal p t env with
      | none => simp [hav] at hv
      | some v1 =>
        cases hvr : pureArgs p rest env with
        | none => simp [hav, hvr] at hv
        | some vr =>
          simp only [hav, hvr, Option.some.injEq] at hv
          subst hv
          have her : EnvRel G p q m (fvArgs rest) env ρ0 := he.sub fun y hy => by simp [fvArgs, hy]
          cases hcv : covarArg t with
          | some xt =>
            obtain ⟨x, oty⟩ := xt
            have ht := covarArg_some hcv
            subst ht
            rw [hcv] at hc
            cases oty with
            | none => simp at hc
            | some τ =>
              simp only at hc
              obtain ⟨r', st1, hcr, hc⟩ := bind_args hc
              cases hc
              unfold argVal argValWith at hav
              simp only [isCov] at hav
              obtain ⟨v', V', h1, h2, h3⟩ := he.get (y := x) (by simp [fvArgs, fv])
              have hv1 : v1 = v' := by
                rw [h1] at hav
                cases v' <;> simp at hav
                rw [← hav]
              subst hv1
              have hx : x ≠ sig := fun e => htn.nosig (e ▸ htn.fv x (by simp [fvArgs, fv]))
              have h2' : Core.Env.lookup ρ ⟨x, 0⟩ = .ok V' := by
                rw [hag ⟨⟨x, 0⟩, .cns, compileTy τ⟩ (mem_tfv_args_cons.2 (.inl (mem_tfv_var.2 rfl)))]
                exact h2
              obtain ⟨i, ρ', n', as'', Vs, g1, g2, g3, g4, g5, g6, g7⟩ :=
                core_args rest hpr Sc hSc tail env vr st r' _ m ρ0 ρ n out
                  (appArgs pre (.cons .cns (.var .cns ⟨x, 0⟩ (compileTy τ)) .nil)) (Vpre ++ [V'])
                  hcr hst ⟨fun y hy => htn.fv y (by simp [fvArgs, hy]),
                    fun y hy => htn.bd y (by simp [binderNamesArgs, hy]), htn.nosig⟩ hvr her
                  (hbd.mono fun y hy => mem_tfv_args_cons.2 (.inr hy))
                  (hag.mono fun y hy => mem_tfv_args_cons.2 (.inr hy))
                  (by simp [argsAllVar_app, hpre, argsAllVar, Core.Term.isVar])
                  (argsSigBelow_app _ _ hsb ⟨fun e => absurd e hx, trivial⟩)
                  (argVals_app_single pre Vpre hpv h2')
              refine ⟨i, ρ', n', .cons .cns (.var .cns ⟨x, 0⟩ (compileTy τ)) as'', V' :: Vs, ?_, g2, g3,
                ?_, ?_, ?_, .cons h3 g7⟩
              · simpa [appArgs, appArgs_assoc] using g1
              · simp [argsAllVar, Core.Term.isVar, g4]
              · simpa [appArgs, appArgs_assoc] using g5
              · simpa [appArgs, appArgs_assoc] using g6
          | none =>
            rw [hcv] at hc
            simp only at hc
            rw [getType_eq] at hc
            cases hty : t.getType with
            | none => simp [hty] at hc
            | some τ =>
              rw [hty] at hc hshape
              simp only at hc hshape
              obtain ⟨P, st1, hct, hc⟩ := bind_term hc
              obtain ⟨r', st2, hcr, hc⟩ := bind_args hc
              cases hc
              -- the Fun value is the pure value of `t` (also when it is suspended)
              have hpv1 : pureVal p t env = some v1 := by
                unfold argVal argValWith at hav
                simp only [covarArg_none_isCov hcv, hty] at hav
                by_cases hcd : Fun.isCodataTy p τ = true
                · rw [if_pos hcd] at hav
                  have hps : pureS t = true := by simpa [hcd] using hshape
                  rw [← suspend_pure (p := p) t env hps]
                  exact hav
                · rw [if_neg hcd] at hav
                  exact hav
              have ft := fs_compile hct
              have fr : FS st1 st' := (rel_subst fs_stepRel rest) st1 r' st' hcr
              have hst1 := hst.of_fresh fr.1
              have tnt : TermNames t st :=
                ⟨fun y hy => htn.fv y (by simp [fvArgs, hy]),
                  fun y hy => htn.bd y (by simp [binderNamesArgs, hy]), htn.nosig⟩
              have tnr : ArgsNames rest st1 :=
                ⟨fun y hy => ft.sub y (htn.fv y (by simp [fvArgs, hy])),
                  fun y hy => ft.sub y (htn.bd y (by simp [binderNamesArgs, hy])), ft.2 htn.nosig⟩
              have het : EnvRel G p q m (fv t) env ρ0 := he.sub fun y hy => by simp [fvArgs, hy]
              have hP := core_pure t hpt env v1 _ st P st1 m ρ0 ρ n hct hst1 tnt hpv1 het
                (hbd.mono fun y hy => mem_tfv_args_cons.2 (.inl hy))
                (hag.mono fun y hy => mem_tfv_args_cons.2 (.inl hy))
              obtain ⟨i1, ρ1, n1, z, zty, V1, s1, hn1, e1, l1, r1, b1⟩ :=
                core_operand' hP
                  (fun h => Sc (appArgs pre (.cons .prd h (appArgs r' tail)))) out
                  (fun hnv => hSc _ _ _ _ (by
                    rw [args_split_app _ _ hpre, args_split_cons_nonvar hnv]))
              have hpv1' : Core.argVals ρ1 pre = .ok Vpre := by
                rw [argVals_sigExt e1 pre hsb]; exact hpv
              obtain ⟨ρ01, he1, hbd1, hag1⟩ := ideal_sigExt her
                (hbd.mono fun y hy => mem_tfv_args_cons.2 (.inr hy))
                (hag.mono fun y hy => mem_tfv_args_cons.2 (.inr hy)) e1
                (fun y hy e => tnr.nosig (e ▸ tnr.fv y hy))
              obtain ⟨i, ρ', n', as'', Vs, g1, g2, g3, g4, g5, g6, g7⟩ :=
                core_args rest hpr Sc hSc tail env vr st1 r' st' m ρ01 ρ1 n1 out
                  (appArgs pre (.cons .prd (.var .prd z zty) .nil)) (Vpre ++ [V1])
                  hcr hst tnr hvr he1 hbd1 hag1
                  (by simp [argsAllVar_app, hpre, argsAllVar, Core.Term.isVar])
                  (argsSigBelow_app _ _ (argsSigBelow_mono hn1 pre hsb) ⟨b1, trivial⟩)
                  (argVals_app_single pre Vpre hpv1' l1)
              refine ⟨i1 + i, ρ', n', .cons .prd (.var .prd z zty) as'', V1 :: Vs, ?_, by omega,
                e1.trans g3 hn1, ?_, ?_, ?_, .cons r1 g7⟩
              · refine CSteps.trans (by simpa [appArgs] using s1) ?_
                simpa [appArgs, appArgs_assoc] using g1
              · simp [argsAllVar, Core.Term.isVar, g4]
              · simpa [appArgs, appArgs_assoc] using g5
              · simpa [appArgs, appArgs_assoc] using g6
end

end

end Scc.Fun2Core.Sem
