/-
  Scc.Fun2Core.SemClauses — the translated clause list of a `case`: the clause selected by the Fun
  machine (`findClause`) is translated to the clause selected by the Core machine (`Clauses.find`);
  typed free variables of clause lists.
-/
import Scc.Fun2Core.SemSim0

namespace Scc.Fun2Core.Sem

theorem mem_foldl_bsetRemove_of {y : Core.Binding} : ∀ (ctx l : List Core.Binding),
    y ∈ l → (∀ b ∈ ctx, b ≠ y) → y ∈ ctx.foldl (fun acc b => bsetRemove b acc) l
  | [] => fun l h _ => h
  | b :: bs => fun l h hne => by
    simp only [List.foldl_cons]
    exact mem_foldl_bsetRemove_of bs _
      (mem_bsetRemove_of_ne (fun e => hne b (by simp) e.symm) h)
      (fun b' hb' => hne b' (by simp [hb']))

theorem mem_tfvClauses_head {x : Core.Ident} {ctx : Core.Ctx} {body : Core.Stmt}
    {rest : Core.Clauses} {y : Core.Binding} (h : y ∈ tfvStmt body []) (hne : ∀ b ∈ ctx, b ≠ y) :
    y ∈ tfvClauses (.cons x ctx body rest) [] := by
  simp only [tfvClauses]
  exact (mem_tfvClauses_iff rest _ y).2
    (.inl ((mem_bsetExtend_iff _).2 (.inr (mem_foldl_bsetRemove_of ctx _ h hne))))

theorem mem_tfvClauses_tail {x : Core.Ident} {ctx : Core.Ctx} {body : Core.Stmt}
    {rest : Core.Clauses} {y : Core.Binding} (h : y ∈ tfvClauses rest []) :
    y ∈ tfvClauses (.cons x ctx body rest) [] := by
  simp only [tfvClauses]
  exact (mem_tfvClauses_iff rest _ y).2 (.inr h)

/-- the clause for `K` of a translated clause list -/
theorem clauses_find {Rr : CompileState → CompileState → Prop} (hR : StepRel Rr) (K : String) :
    ∀ (cs : Fun.Clauses) (c : Core.Term) (st : CompileState)
    (cs' : Core.Clauses) (st' : CompileState) (cl : Fun.Clause),
    compileClauses cs c st = .ok (cs', st') → Fun.findClause K cs = some cl →
    ∃ b' st1 st2, Core.Clauses.find cs' ⟨K, 0⟩ = some (compileContext cl.ctx, b') ∧
      compileWithCont cl.body c st1 = .ok (b', st2) ∧ Rr st st1 ∧ Rr st2 st' ∧
      (∀ y ∈ tfvStmt b' [], (∀ bb ∈ compileContext cl.ctx, bb ≠ y) → y ∈ tfvClauses cs' [])
  | .nil => fun _ _ _ _ _ _ hf => by simp [Fun.findClause] at hf
  | .cons pol xtor names ctx body rest => fun c st cs' st' cl hc hf => by
    rw [clauses_cons] at hc
    obtain ⟨b, st1, hb, hc⟩ := bind_stmt hc
    obtain ⟨r, st2, hr, hc⟩ := bind_clauses hc
    cases hc
    have hfb : Rr st st1 := (rel_term hR body).1 c st b st1 hb
    have hfr : Rr st1 st' := (rel_clauses hR rest) c st1 r st' hr
    simp only [Fun.findClause] at hf
    by_cases hk : (K == xtor) = true
    · simp only [hk, if_true, Option.some.injEq] at hf
      subst hf
      have hk' : K = xtor := by simpa using hk
      subst hk'
      refine ⟨b, st, st1, by simp [Core.Clauses.find], hb, hR.refl _, hfr, ?_⟩
      intro y hy hne
      exact mem_tfvClauses_head hy hne
    · simp only [hk] at hf
      obtain ⟨b', s1, s2, h1, h2, h3, h4, h5⟩ := clauses_find hR K rest c st1 r st' cl hr hf
      have hne : ¬ (⟨xtor, 0⟩ : Core.Ident) = ⟨K, 0⟩ := by
        intro e
        have : xtor = K := by cases e; rfl
        exact hk (by simp [this])
      refine ⟨b', s1, s2, by simp [Core.Clauses.find, hne, h1], h2, hR.trans hfb h3, h4, ?_⟩
      intro y hy hne'
      exact mem_tfvClauses_tail (h5 y hy hne')

/-- the clause for the destructor `K` of a translated `new` -/
theorem coclauses_find {Rr : CompileState → CompileState → Prop} (hR : StepRel Rr) (K : String) :
    ∀ (cs : Fun.Clauses) (st : CompileState)
    (cs' : Core.Clauses) (st' : CompileState) (cl : Fun.Clause),
    compileCoclauses cs st = .ok (cs', st') → Fun.findClause K cs = some cl →
    ∃ b' st1 st2 τ0, Fun.Term.getType cl.body = some τ0 ∧
      Core.Clauses.find cs' ⟨K, 0⟩ =
        some (compileContext cl.ctx ++ [⟨⟨(freshCovar st1).1, 0⟩, .cns, compileTy τ0⟩], b') ∧
      compileWithCont cl.body (.var .cns ⟨(freshCovar st1).1, 0⟩ (compileTy τ0)) (freshCovar st1).2 =
        .ok (b', st2) ∧ Rr st st1 ∧ Rr st2 st' ∧
      (∀ y ∈ tfvStmt b' [],
        (∀ bb ∈ compileContext cl.ctx ++ [⟨⟨(freshCovar st1).1, 0⟩, .cns, compileTy τ0⟩], bb ≠ y) →
        y ∈ tfvClauses cs' [])
  | .nil => fun _ _ _ _ _ hf => by simp [Fun.findClause] at hf
  | .cons pol xtor names ctx body rest => fun st cs' st' cl hc hf => by
    rw [coclauses_cons] at hc
    obtain ⟨τ0, hty, hc⟩ := bind_ty hc
    obtain ⟨b, st1, hb, hc⟩ := bind_stmt hc
    obtain ⟨r, st2, hr, hc⟩ := bind_clauses hc
    cases hc
    have hfb : Rr st st1 := hR.trans (hR.freshCovar st) ((rel_term hR body).1 _ _ b st1 hb)
    have hfr : Rr st1 st' := (rel_coclauses hR rest) st1 r st' hr
    simp only [Fun.findClause] at hf
    by_cases hk : (K == xtor) = true
    · simp only [hk, if_true, Option.some.injEq] at hf
      subst hf
      have hk' : K = xtor := by simpa using hk
      subst hk'
      refine ⟨b, st, st1, τ0, by rw [← getType_eq]; exact hty, by simp [Core.Clauses.find], hb,
        hR.refl _, hfr, ?_⟩
      intro y hy hne
      exact mem_tfvClauses_head hy hne
    · simp only [hk] at hf
      obtain ⟨b', s1, s2, τ1, h0, h1, h2, h3, h4, h5⟩ :=
        coclauses_find hR K rest st1 r st' cl hr hf
      have hne : ¬ (⟨xtor, 0⟩ : Core.Ident) = ⟨K, 0⟩ := by
        intro e
        have : xtor = K := by cases e; rfl
        exact hk (by simp [this])
      refine ⟨b', s1, s2, τ1, h0, by simp [Core.Clauses.find, hne, h1], h2, hR.trans hfb h3, h4, ?_⟩
      intro y hy hne'
      exact mem_tfvClauses_tail (h5 y hy hne')

/-- names of the clauses of a `case`, for the clause found -/
theorem findClause_mem : ∀ (cs : Fun.Clauses) (K : String) (cl : Fun.Clause),
    Fun.findClause K cs = some cl →
    (∀ x ∈ (fv cl.body).filter (fun x => !cl.names.contains x), x ∈ fvClauses cs) ∧
    (∀ x ∈ binderNames cl.body, x ∈ binderNamesClauses cs) ∧
    (∀ x ∈ cl.names, x ∈ binderNamesClauses cs) ∧ (∀ x ∈ cl.names, x ∈ clausesNames cs)
  | .nil => fun _ _ hf => by simp [Fun.findClause] at hf
  | .cons pol xtor names ctx body rest => fun K cl hf => by
    simp only [Fun.findClause] at hf
    by_cases hk : (K == xtor) = true
    · simp only [hk, if_true, Option.some.injEq] at hf
      subst hf
      refine ⟨fun x hx => ?_, fun x hx => ?_, fun x hx => ?_, fun x hx => ?_⟩
      · simp only [fvClauses, List.mem_append]; exact .inl hx
      · simp only [binderNamesClauses, List.mem_append]; exact .inl (.inr hx)
      · simp only [binderNamesClauses, List.mem_append]; exact .inl (.inl hx)
      · simp only [clausesNames, List.mem_append]; exact .inl hx
    · simp only [hk] at hf
      obtain ⟨h1, h2, h3, h4⟩ := findClause_mem rest K cl hf
      refine ⟨fun x hx => ?_, fun x hx => ?_, fun x hx => ?_, fun x hx => ?_⟩
      · simp only [fvClauses, List.mem_append]; exact .inr (h1 x hx)
      · simp only [binderNamesClauses, List.mem_append]; exact .inr (h2 x hx)
      · simp only [binderNamesClauses, List.mem_append]; exact .inr (h3 x hx)
      · simp only [clausesNames, List.mem_append]; exact .inr (h4 x hx)

end Scc.Fun2Core.Sem
