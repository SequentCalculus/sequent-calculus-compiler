/-
  Scc.Fun2Core.SemNames — facts about the names generated by the translation (`fresh_var`,
  `fresh_covar`), the state relation `FS` (freshness and `ς ∉ usedVars`) that holds between the
  input and output compile state of every translation function, and the name condition
  `TermNames` along sub-translations.
-/
import Scc.Fun2Core.SemRel
import Scc.Fun2Core.Fresh
import Scc.Fun2Core.Frame

namespace Scc.Fun2Core.Sem

theorem freshNameLoop_form (used : List String) (base : String) :
    ∀ (fuel n : Nat), ∃ k : Nat, freshNameLoop used base fuel n = base ++ toString k
  | 0 => fun n => ⟨n, rfl⟩
  | fuel + 1 => fun n => by
    unfold freshNameLoop
    simp only
    split
    · exact freshNameLoop_form used base fuel (n + 1)
    · exact ⟨n, rfl⟩

theorem freshName_ne_sig (used : List String) {base : String} (hb : base = "x" ∨ base = "a") :
    (freshName used base).1 ≠ sig := by
  obtain ⟨k, hk⟩ := freshNameLoop_form used base (used.length + 1) 0
  simp only [freshName, hk]
  intro h
  have h1 := congrArg String.toList h
  rcases hb with rfl | rfl <;> simp [sig] at h1

theorem freshCovar_ne_sig (st : CompileState) : (freshCovar st).1 ≠ sig :=
  freshName_ne_sig st.usedVars (.inr rfl)

theorem freshVar_ne_sig (st : CompileState) : (freshVar st).1 ≠ sig :=
  freshName_ne_sig st.usedVars (.inl rfl)

theorem freshCovar_used (st : CompileState) :
    (freshCovar st).2.usedVars = (freshCovar st).1 :: st.usedVars := rfl

theorem freshVar_used (st : CompileState) :
    (freshVar st).2.usedVars = (freshVar st).1 :: st.usedVars := rfl

theorem used_sub_of_fresh {st st' : CompileState} (h : Fresh st st') :
    ∀ x ∈ st.usedVars, x ∈ st'.usedVars := by
  obtain ⟨g, e, _, _⟩ := h.vars
  intro x hx
  rw [e]
  exact List.mem_append.2 (.inr hx)

theorem TermNames.mono {t : Fun.Term} {st st' : CompileState} (h : TermNames t st)
    (hs : ∀ x ∈ st.usedVars, x ∈ st'.usedVars) (hn : sig ∉ st'.usedVars) : TermNames t st' :=
  ⟨fun x hx => hs x (h.fv x hx), fun x hx => hs x (h.bd x hx), hn⟩

theorem TermNames.fv_ne_sig {t : Fun.Term} {st : CompileState} (h : TermNames t st) :
    ∀ y ∈ Sem.fv t, y ≠ sig := fun y hy e => h.nosig (e ▸ h.fv y hy)

def NoSigRel (st st' : CompileState) : Prop := sig ∉ st.usedVars → sig ∉ st'.usedVars

theorem noSig_stepRel : StepRel NoSigRel where
  refl := fun _ h => h
  trans := fun h1 h2 h => h2 (h1 h)
  freshVar := fun st h => by
    rw [freshVar_used]
    simp only [List.mem_cons, not_or]
    exact ⟨fun e => freshVar_ne_sig st e.symm, h⟩
  freshCovar := fun st h => by
    rw [freshCovar_used]
    simp only [List.mem_cons, not_or]
    exact ⟨fun e => freshCovar_ne_sig st e.symm, h⟩
  share := fun c st h => by
    unfold share
    split
    · exact h
    · show sig ∉ (freshVar st).2.usedVars
      rw [freshVar_used]
      simp only [List.mem_cons, not_or]
      exact ⟨fun e => freshVar_ne_sig st e.symm, h⟩

theorem cwc_noSig {t : Fun.Term} {c st s st'} (h : compileWithCont t c st = .ok (s, st'))
    (hn : sig ∉ st.usedVars) : sig ∉ st'.usedVars :=
  (rel_term noSig_stepRel t).1 c st s st' h hn

theorem compile_noSig {t : Fun.Term} {ty st P st'} (h : compile t ty st = .ok (P, st'))
    (hn : sig ∉ st.usedVars) : sig ∉ st'.usedVars :=
  (rel_term noSig_stepRel t).2 ty st P st' h hn

theorem StOK.of_fresh {q : Core.Prog} {st st' : CompileState} (h : StOK q st') (hf : Fresh st st') :
    StOK q st := by
  obtain ⟨gl, new, _, _, _, e, _⟩ := hf.labels
  refine ⟨fun d hd => h.1 d ?_, by rw [← hf.codata]; exact h.2⟩
  rw [e]
  exact List.mem_append.2 (.inr hd)

/-- the state relation used by the simulation: freshness and `ς ∉ usedVars` -/
def FS (a b : CompileState) : Prop := Fresh a b ∧ NoSigRel a b

theorem fs_stepRel : StepRel FS where
  refl := fun st => ⟨.refl st, noSig_stepRel.refl st⟩
  trans := fun h1 h2 => ⟨h1.1.trans h2.1, noSig_stepRel.trans h1.2 h2.2⟩
  freshVar := fun st => ⟨fresh_freshVar st, noSig_stepRel.freshVar st⟩
  freshCovar := fun st => ⟨fresh_freshCovar st, noSig_stepRel.freshCovar st⟩
  share := fun c st => ⟨fresh_share c st, noSig_stepRel.share c st⟩

theorem FS.sub {a b : CompileState} (h : FS a b) : ∀ x ∈ a.usedVars, x ∈ b.usedVars :=
  used_sub_of_fresh h.1

theorem fs_cwc {t : Fun.Term} {c st s st'} (h : compileWithCont t c st = .ok (s, st')) : FS st st' :=
  (rel_term fs_stepRel t).1 c st s st' h

theorem fs_compile {t : Fun.Term} {ty st P st'} (h : compile t ty st = .ok (P, st')) : FS st st' :=
  (rel_term fs_stepRel t).2 ty st P st' h

theorem TermNames.of_sub {t t' : Fun.Term} {st st' : CompileState} (h : TermNames t st)
    (hfv : ∀ x ∈ Sem.fv t', x ∈ Sem.fv t) (hbd : ∀ x ∈ binderNames t', x ∈ binderNames t)
    (hfs : FS st st') : TermNames t' st' :=
  ⟨fun x hx => hfs.sub x (h.fv x (hfv x hx)), fun x hx => hfs.sub x (h.bd x (hbd x hx)),
    hfs.2 h.nosig⟩

end Scc.Fun2Core.Sem
