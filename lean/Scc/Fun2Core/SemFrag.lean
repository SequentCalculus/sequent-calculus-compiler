/-
  Scc.Fun2Core.SemFrag — a decidable fragment `fragOk` that implies the hypothesis `progOk` of the simulation
  (`progOk_of_fragOk`; the simulation itself, SemMain.lean, covers every `progOk` program: Props/C02SemFull.lean),
  in terms of the checks' predicates (`Fun.Sequenced`, `Fun.noMainCall`) and a predicate `fragT` on annotated terms:
    * every term in evaluation position (definition / clause bodies, branches, bound terms of
      integer/data `let`s, scrutinees of `case`, operands) has an integer or data type;
    * codata values are created by `new`, bound by codata-typed `let`s to variables or `new`s, and
      passed as arguments; the scrutinee of a destructor call is a variable or a `new`;
    * clause binders are pairwise distinct and are the names of the typed clause context.
  `fragOk` also contains `good p d.body` for every definition outright (it holds of every accepted
  program, Props/C02SemFull.lean), and `progOk_of_fragOk` uses that conjunct: `fragT`, `fragP`, `fragCs`
  only narrow the fragment, nothing is derived from them here.
-/
import Scc.Fun2Core.SemMain
import Scc.Fun.MainCall

namespace Scc.Fun2Core.Sem

mutual
  /-- terms in evaluation position -/
  def fragT (p : Fun.CheckedProgram) : Fun.Term → Bool
    | .var _ ty _ => ncdO p ty
    | .lit _ => true
    | .op a _ b => fragP p a && fragP p b
    | .ifc _ a b t e ty => fragT p a && fragT p b && fragT p t && fragT p e && ncdO p ty
    | .ifz _ a t e ty => fragT p a && fragT p t && fragT p e && ncdO p ty
    | .print _ a n ty => fragT p a && fragT p n && ncdO p ty
    | .letIn _ vt b i ty =>
      ncdO p ty && fragT p i && (if Fun.isCodataTy p vt then fragP p b && pureS b else fragT p b)
    | .call _ as ty => fragPs p as && ncdO p ty
    | .ctor _ as ty => fragPs p as && ncdO p ty
    | .dtor s _ _ as ty => pureS s && fragP p s && cdO p s.getType && fragPs p as && ncdO p ty
    | .case s _ cs ty => fragT p s && ncdO p s.getType && fragCs p cs && ncdO p ty
    | .label _ t ty => fragT p t && ncdO p ty
    | .goto _ t ty => fragT p t && ncdO p t.getType && ncdO p ty
    | .exit t ty => fragT p t && ncdO p ty
    | .paren t => fragT p t
    | .new .. => false
  /-- terms in operand / argument / by-name position (purity itself is part of `Sequenced`) -/
  def fragP (p : Fun.CheckedProgram) : Fun.Term → Bool
    | .var .. => true
    | .lit _ => true
    | .op a _ b => fragP p a && fragP p b
    | .ctor _ as _ => fragPs p as
    | .new cs _ => fragCs p cs
    | .paren t => fragP p t
    | _ => false
  def fragPs (p : Fun.CheckedProgram) : Fun.Terms → Bool
    | .nil => true
    | .cons t r =>
      fragP p t &&
      (match t.getType with
        | some ty => !Fun.isCodataTy p ty || pureS t
        | none => true) && fragPs p r
  def fragCs (p : Fun.CheckedProgram) : Fun.Clauses → Bool
    | .nil => true
    | .cons _ _ names ctx b r =>
      fragT p b && ncdO p b.getType && decide names.Nodup && decide (ctx.map (·.var) = names) &&
      fragCs p r
end

/-- conditions on one definition: in the fragment, parameters pairwise distinct, closed, no
parameter or binder named `ς` -/
def defFrag (p : Fun.CheckedProgram) (d : Fun.Def) : Bool :=
  fragT p d.body && decide (d.ctx.map (·.var)).Nodup &&
  (fv d.body).all (fun x => (d.ctx.map (·.var)).contains x) &&
  !(d.ctx.map (·.var)).contains sig && !(binderNames d.body).contains sig

/-- the fragment of C02 (semantic part) covered by `C02_sem_forward_frag`: sequenced, no call of
`main`, every definition satisfies `defFrag`, definition names pairwise distinct, parameters of
`main` are producers; and (conditions that hold of every accepted program with a valid `main`, see
Props/C02SemFull.lean) every body satisfies the well-formedness predicate `good` of the simulation
and `main` has integer parameters and an integer result -/
def fragOk (p : Fun.CheckedProgram) : Bool :=
  Fun.Sequenced p && Fun.noMainCall p && p.defs.all (defFrag p) &&
  decide (p.defs.map (·.name)).Nodup &&
  p.defs.all (fun d => d.name != "main" || d.ctx.all (fun b => b.chi == .prd)) &&
  p.defs.all (fun d => good p d.body) &&
  p.defs.all (fun d => d.name != "main" || (d.ctx.all (fun b => isI64T b.ty) && isI64T d.retTy))

theorem progOk_of_fragOk {p : Fun.CheckedProgram} (h : fragOk p = true) : progOk p = true := by
  simp only [fragOk, Bool.and_eq_true, Fun.Sequenced, Fun.noMainCall, List.all_eq_true,
    Bool.not_eq_true'] at h
  obtain ⟨⟨⟨⟨⟨⟨hseq, hnm⟩, hdf⟩, hnd⟩, hmp⟩, hgood⟩, hmt⟩ := h
  simp only [progOk, Bool.and_eq_true, List.all_eq_true]
  refine ⟨⟨⟨fun d hd => ?_, hnd⟩, hmp⟩, hmt⟩
  have h1 := hdf d hd
  simp only [defFrag, Bool.and_eq_true] at h1
  obtain ⟨⟨⟨⟨h1, h2⟩, h3⟩, h4⟩, h5⟩ := h1
  simp only [defOk, Bool.and_eq_true]
  exact ⟨⟨⟨⟨hgood d hd, h2⟩, h3⟩, h4⟩, h5⟩

end Scc.Fun2Core.Sem
