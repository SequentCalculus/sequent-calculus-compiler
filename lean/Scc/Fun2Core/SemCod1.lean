/-
  Scc.Fun2Core.SemCod1 — the Core ς-machine on cuts at CODATA types (consumer first): machine steps,
  and the notion `Forced`: from a cut `⟨P | c⟩` at a codata type, whose consumer `c` is related to a
  stack `k` of the Fun machine (top frame: a destructor), the Core machine arrives — after evaluating
  the (pure) arguments of the destructor and following the continuations lifted by `share` — at a
  state whose next step sends a destructor VALUE related to `k` to the value of `P`.
-/
import Scc.Fun2Core.SemSim5
import Scc.Fun2Core.SemCodTypingStep

namespace Scc.Fun2Core.Sem
open Scc.Fun2Core.Typed

variable {q : Core.Prog} {p : Fun.CheckedProgram}

theorem STM.eval_kind (hP : ProgM p) {t : Fun.Term} {env : Fun.Env} {k : Fun.Stack}
    (hT : STM p (.eval t env k)) : ∃ τ, getType t = some τ ∧ Fun.isCodataTy p τ = kkind k := by
  cases hT with
  | eval Γ τ he ht hk => exact ⟨τ, getType_of_typed p t Γ τ ht, KTM.kind hP hk⟩

theorem Ctx.kind_of (X : Ctx p q) {t : Fun.Term} {env : Fun.Env} {k : Fun.Stack}
    (hT : STM p (.eval t env k)) {τ : Fun.Ty} (h : getType t = some τ) :
    Core.isCodata q.codataTypes (compileTy τ) = kkind k := by
  obtain ⟨τ2, h1, h2⟩ := STM.eval_kind X.progM hT
  rw [h] at h1; cases h1
  rw [X.cod τ, h2]

/-- variables, `cocase`, `μ`: never split by the ς-machine, always have a value -/
def CdPrd : Core.Term → Prop
  | .var .. => True
  | .xcase .. => True
  | .mu .. => True
  | _ => False

theorem cdPrd_split {cty : Core.Ty} {P c : Core.Term} (hP : CdPrd P) (hc : Inert c) :
    (Core.Stmt.cut cty P c).split = none := by
  cases P with
  | var _ _ _ => cases c <;> first | exact False.elim hc | rfl
  | xcase _ _ _ => cases c <;> first | exact False.elim hc | rfl
  | mu _ _ _ _ => cases c <;> first | exact False.elim hc | rfl
  | lit _ => exact False.elim hP
  | op _ _ _ => exact False.elim hP
  | xtor _ _ _ _ => exact False.elim hP

/-- a cut at a codata type with an inert consumer: consumer first -/
theorem step_cut_cd (hcd : Core.isCodata q.codataTypes cty = true) {P c : Core.Term} {ρ : CEnv}
    {out : Out} {n : Nat} (hP : CdPrd P) (hc : Inert c) :
    Core.step q ⟨.cut cty P c, ρ, out, n⟩ = Core.stepCut true ⟨.cut cty P c, ρ, out, n⟩ P c := by
  have hs : Core.sigmaStep (Core.sigmaName n) (.cut cty P c) = none := by
    simp only [Core.sigmaStep, cdPrd_split hP hc]
  simp only [Core.step, hs, hcd]

/-- … whose consumer denotes a destructor value: the destructor is sent to the value of `P` -/
theorem step_cut_cd_dtor (hcd : Core.isCodata q.codataTypes cty = true) {P c : Core.Term} {ρ : CEnv}
    {out : Out} {n : Nat} {d : Core.Ident} {vs : List CVal} {pv : CVal} (hP : CdPrd P) (hc : Inert c)
    (hcv : Core.cnsVal ρ c = .ok (.dtor d vs)) (hpv : Core.prdVal ρ P = .ok pv) :
    Core.step q ⟨.cut cty P c, ρ, out, n⟩ =
      Core.State.invoke ⟨.cut cty P c, ρ, out, n⟩ pv d vs := by
  rw [step_cut_cd hcd hP hc]
  simp only [Core.stepCut, if_true, hcv, hpv]

/-- … whose consumer denotes a `μ~`-closure: its variable is bound to the value of `P` (a `μ` is
suspended as a thunk) -/
theorem step_cut_cd_mu (hcd : Core.isCodata q.codataTypes cty = true) {P c : Core.Term} {ρ ρ' : CEnv}
    {out : Out} {n : Nat} {x : Core.Ident} {s : Core.Stmt} {pv : CVal} (hP : CdPrd P) (hc : Inert c)
    (hcv : Core.cnsVal ρ c = .ok (.mutilde ρ' x s)) (hpv : Core.prdVal ρ P = .ok pv) :
    Core.step q ⟨.cut cty P c, ρ, out, n⟩ = .next ⟨s, (x, pv) :: ρ', out, n⟩ := by
  rw [step_cut_cd hcd hP hc]
  simp only [Core.stepCut, if_true, hcv, hpv, Core.State.goto]

/-- a destructor all of whose arguments are variables -/
theorem step_cut_cd_xtor (hcd : Core.isCodata q.codataTypes cty = true) {P : Core.Term} {ty : Core.Ty}
    {d : Core.Ident} {as : Core.Args} {ρ : CEnv} {out : Out} {n : Nat} {vs : List CVal} {pv : CVal}
    (hP : CdPrd P) (hall : argsAllVar as = true) (hav : Core.argVals ρ as = .ok vs)
    (hpv : Core.prdVal ρ P = .ok pv) :
    Core.step q ⟨.cut cty P (.xtor .cns d as ty), ρ, out, n⟩ =
      Core.State.invoke ⟨.cut cty P (.xtor .cns d as ty), ρ, out, n⟩ pv d vs := by
  have hs : Core.sigmaStep (Core.sigmaName n) (.cut cty P (.xtor .cns d as ty)) = none := by
    cases P with
    | var _ _ _ => simp [Core.sigmaStep, Core.Stmt.split, args_split_allVar as hall]
    | xcase _ _ _ => simp [Core.sigmaStep, Core.Stmt.split, args_split_allVar as hall]
    | mu _ _ _ _ => simp [Core.sigmaStep, Core.Stmt.split, args_split_allVar as hall]
    | lit _ => exact False.elim hP
    | op _ _ _ => exact False.elim hP
    | xtor _ _ _ _ => exact False.elim hP
  simp only [Core.step, hs, hcd, Core.stepCut, if_true, Core.cnsVal, hav, hpv]

theorem argCtx_cd (cty ty : Core.Ty) (d : Core.Ident) (P : Core.Term) (hP : CdPrd P) :
    ArgCtx (fun as => .cut cty P (.xtor .cns d as ty)) := by
  intro as pc u A h
  cases P with
  | var _ _ _ => simp [Core.Stmt.split, h]
  | xcase _ _ _ => simp [Core.Stmt.split, h]
  | mu _ _ _ _ => simp [Core.Stmt.split, h]
  | lit _ => exact False.elim hP
  | op _ _ _ => exact False.elim hP
  | xtor _ _ _ _ => exact False.elim hP

theorem invoke_thunk (S : Core.State) (ρ' : CEnv) (a : Core.Ident) (s : Core.Stmt) (d : Core.Ident)
    (vs : List CVal) :
    S.invoke (.thunk ρ' a s) d vs = .next { S with stmt := s, env := (a, .dtor d vs) :: ρ' } := rfl

/-- from the cut `⟨P | c⟩` (at a codata type, machine counter `m`) the Core machine reaches, without
output, a state `S1` whose next step sends the destructor value `d(Vs)`, related to the stack `k`, to
the value `pv` of `P` (taken in an extension `ρ'` of the environment by machine-fresh names) -/
def Forced (p : Fun.CheckedProgram) (q : Core.Prog) (k : Fun.Stack) (cty : Core.Ty)
    (P c : Core.Term) (ρ : CEnv) (out : Out) (m : Nat) : Prop :=
  ∃ i S1 ρ' pv d Vs, CSteps q ⟨.cut cty P c, ρ, out, m⟩ S1 i ∧ S1.out = out ∧ m ≤ S1.fresh ∧
    SigExt m ρ ρ' ∧ Core.prdVal ρ' P = .ok pv ∧ Core.step q S1 = S1.invoke pv ⟨d, 0⟩ Vs ∧
    KRelD (GP p) p q S1.fresh k (.dtor ⟨d, 0⟩ Vs)

/-- the same from the body of a forwarding closure -/
def ForcedK (p : Fun.CheckedProgram) (q : Core.Prog) (k : Fun.Stack) (S : Core.Stmt) (pv : CVal)
    (ρ : CEnv) (out : Out) (m : Nat) : Prop :=
  ∃ i S1 d Vs, CSteps q ⟨S, ρ, out, m⟩ S1 i ∧ S1.out = out ∧ m ≤ S1.fresh ∧
    Core.step q S1 = S1.invoke pv ⟨d, 0⟩ Vs ∧ KRelD (GP p) p q S1.fresh k (.dtor ⟨d, 0⟩ Vs)

def PrdOK (P : Core.Term) (ρ : CEnv) (m : Nat) : Prop :=
  ∀ ρ', SigExt m ρ ρ' → ∃ pv, Core.prdVal ρ' P = .ok pv

theorem prdOK_mu (pc : Core.PC) (a : Core.Ident) (ty : Core.Ty) (s : Core.Stmt) (ρ : CEnv) (m : Nat) :
    PrdOK (.mu pc a ty s) ρ m := fun ρ' _ => ⟨_, rfl⟩

theorem prdOK_xcase (pc : Core.PC) (ty : Core.Ty) (cs : Core.Clauses) (ρ : CEnv) (m : Nat) :
    PrdOK (.xcase pc ty cs) ρ m := fun ρ' _ => ⟨_, rfl⟩

theorem prdOK_var {pc : Core.PC} {x : Core.Ident} {ty : Core.Ty} {ρ : CEnv} {m : Nat} {V : CVal}
    (hl : Core.Env.lookup ρ x = .ok V) (hx : x.name = sig → x.id < m) :
    PrdOK (.var pc x ty) ρ m := fun ρ' he => ⟨V, by simp only [Core.prdVal]; rw [he.lookup x hx]; exact hl⟩

theorem PrdOK.mono {P : Core.Term} {ρ ρ1 : CEnv} {m m1 : Nat} (h : PrdOK P ρ m) (he : SigExt m ρ ρ1)
    (hm : m ≤ m1) : PrdOK P ρ1 m1 := fun ρ' he' => h ρ' (he.trans he' hm)

end Scc.Fun2Core.Sem
