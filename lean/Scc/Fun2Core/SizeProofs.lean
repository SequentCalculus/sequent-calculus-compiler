/-
  Scc.Fun2Core.SizeProofs — the size bound of the Fun → Core translation (C19-T1), conditional on the
  arity of the lifted definitions: if every definition lifted by `share` has at most `v` parameters,
  the output of a run plus the definitions it lifts has size at most `|source| * W v` plus the size
  of the consumer, with the per-node budget `W v = 3 * (v + 4)` (a shared consumer is replaced by a
  call with at most `v` arguments).  `Grows v n extra out st st'` is this statement for a budget of
  `n` nodes; `Sz v` says it of every kind of run (`sz`, by induction over the runs), and
  `compileProg_size` sums it over the definitions.  `Scc.Fun2Core.Arity` bounds `v`.
-/
import Scc.Fun2Core.Size
import Scc.Fun2Core.Compiles

namespace Scc.Fun2Core

/-- per-source-node budget `a * (v + b)` with `a = 3`, `b = 4` -/
def W (v : Nat) : Nat := 3 * (v + 4)

/-- "the state went from `st` to `st'` by lifting the definitions `new` (in front), and if every
newly lifted definition has at most `v` parameters then `out + size new ≤ n * W v + extra`" -/
def Grows (v n extra out : Nat) (st st' : CompileState) : Prop :=
  ∃ new, st'.liftedStatements = new ++ st.liftedStatements ∧
    ((∀ d ∈ new, d.ctx.length ≤ v) → out + defsSize new ≤ n * W v + extra)

theorem defsSize_append (a b : List Core.Def) : defsSize (a ++ b) = defsSize a + defsSize b := by
  induction a with
  | nil => simp [defsSize]
  | cons d ds ih => simp [defsSize, ih]; omega

theorem argsSize_snoc : ∀ (a : Core.Args) (pc : Core.PC) (t : Core.Term),
    argsSize (argsSnoc a pc t) = argsSize a + termSize t
  | .nil, pc, t => by simp [argsSnoc, argsSize]
  | .cons p x r, pc, t => by simp [argsSnoc, argsSize, argsSize_snoc r pc t]; omega

theorem argsSize_bindingsToArgs (bs : List Core.Binding) : argsSize (bindingsToArgs bs) = bs.length := by
  induction bs with
  | nil => rfl
  | cons b bs ih => simp [bindingsToArgs, argsSize, termSize, ih]; omega

theorem isLeaf_size {c : Core.Term} (h : isLeaf c = true) : termSize c ≤ 3 := by
  unfold isLeaf at h
  split at h <;> simp_all [termSize, stmtSize]

@[simp] theorem freshCovar_lifted (st : CompileState) :
    (freshCovar st).2.liftedStatements = st.liftedStatements := rfl
@[simp] theorem freshVar_lifted (st : CompileState) :
    (freshVar st).2.liftedStatements = st.liftedStatements := rfl

/-- what `share` does to sizes: one definition `d` is lifted; the returned consumer has size
`arity d + 2`; `d` has size at most `size cont + arity d + 3` -/
theorem share_size (c : Core.Term) (st : CompileState) :
    ∃ d, (share c st).2.liftedStatements = d :: st.liftedStatements ∧
      termSize (share c st).1 = d.ctx.length + 2 ∧
      defSize d ≤ termSize c + d.ctx.length + 3 := by
  unfold share
  split
  · refine ⟨_, rfl, ?_, ?_⟩
    · simp [termSize, stmtSize, argsSize_bindingsToArgs]; omega
    · simp [defSize, termSize]; omega
  · refine ⟨_, rfl, ?_, ?_⟩
    · simp [termSize, stmtSize, argsSize_bindingsToArgs]; omega
    · simp [defSize, termSize, stmtSize]; omega

theorem Grows.refl (v n extra out : Nat) (st : CompileState) (h : out ≤ n * W v + extra) :
    Grows v n extra out st st := ⟨[], by simp, fun _ => by simp [defsSize]; exact h⟩

theorem Grows.weaken {v n extra out n' extra' out' : Nat} {st st' : CompileState}
    (h : Grows v n extra out st st')
    (hw : ∀ D, out + D ≤ n * W v + extra → out' + D ≤ n' * W v + extra') :
    Grows v n' extra' out' st st' := by
  obtain ⟨new, h1, h2⟩ := h
  exact ⟨new, h1, fun ha => hw _ (h2 ha)⟩

theorem Grows.trans {v n1 e1 o1 n2 e2 o2 : Nat} {st st1 st2 : CompileState}
    (h1 : Grows v n1 e1 o1 st st1) (h2 : Grows v n2 e2 o2 st1 st2) :
    Grows v (n1 + n2) (e1 + e2) (o1 + o2) st st2 := by
  obtain ⟨new1, a1, b1⟩ := h1
  obtain ⟨new2, a2, b2⟩ := h2
  refine ⟨new2 ++ new1, by simp [a2, a1], fun ha => ?_⟩
  have c1 := b1 (fun d hd => ha d (by simp [hd]))
  have c2 := b2 (fun d hd => ha d (by simp [hd]))
  simp only [defsSize_append, Nat.add_mul]
  omega

theorem W_ge (v : Nat) : 3 * v + 12 ≤ W v := by unfold W; omega

theorem mul_W (n v : Nat) : n * W v = 3 * n * (v + 4) := by
  unfold W; rw [Nat.mul_comm 3 n, Nat.mul_assoc]

/-- what the shared consumer costs: nothing if the consumer is kept, else one lifted definition and a
consumer of size `arity + 2` -/
theorem shareUnless_grows (v : Nat) {b : Bool} {c : Core.Term} {st : CompileState}
    {r : Core.Term × CompileState} (hr : shareUnless b c st = r) :
    ∃ new, r.2.liftedStatements = new ++ st.liftedStatements ∧
      ((∀ d ∈ new, d.ctx.length ≤ v) →
        (b = true ∧ r.1 = c ∧ defsSize new = 0) ∨
        (b = false ∧ termSize r.1 ≤ v + 2 ∧ defsSize new ≤ termSize c + v + 3)) := by
  subst hr
  cases b
  · obtain ⟨d, h1, h2, h3⟩ := share_size c st
    refine ⟨[d], by simp [shareUnless, h1], fun ha => .inr ⟨rfl, ?_, ?_⟩⟩
    · have := ha d (by simp)
      simp only [shareUnless, Bool.false_eq_true, if_false, h2]; omega
    · have := ha d (by simp)
      simp only [defsSize]; omega
  · exact ⟨[], by simp [shareUnless], fun _ => .inl ⟨rfl, by simp [shareUnless], rfl⟩⟩

theorem funSize_pos (t : Fun.Term) : 1 ≤ funSize t := by
  cases t <;> simp [funSize] <;> omega

theorem Grows.of_lifted_eq {v n e o : Nat} {st0 st st' : CompileState}
    (h : st0.liftedStatements = st.liftedStatements) (g : Grows v n e o st0 st') :
    Grows v n e o st st' := by
  unfold Grows at *; rw [← h]; exact g

/-- what the body behind the capture guard leaves for the guard: slack on the consumer side … -/
def coreK (v : Nat) : Fun.Term → Nat
  | .case .. => v + 4
  | _ => 2
/-- … and on the output side (the binder names of the clauses are paid for by the clauses) -/
def coreX (v : Nat) : Fun.Term → Nat
  | .case _ _ cs _ => (clausesNames cs).length * W v
  | _ => 0

/-- `compile_with_cont`: output statement (+ 2 of slack) + newly lifted ≤ `|t| * W + |cont|`.
The forms that override `compile` (`cutTy`) are charged `funSize t - 1` nodes plus 1: the rest of
the last node's budget, `W v - 1`, pays for the cut that `compile_with_cont` puts around them.
Likewise the body behind the capture guard is charged `funSize t - 1` nodes and leaves the last
node's budget to the guard; every level of re-entry costs 3 more nodes. -/
def Sz (v : Nat) : Run → Prop
  | .cwc t c st s st' => Grows v (funSize t) (termSize c) (stmtSize s + 2) st st'
  | .comp t _ st p st' => ∀ m, funSize t = m + (cutTy t).isSome.toNat →
      Grows v m (cutTy t).isSome.toNat (termSize p) st st'
  | .subst as st as' st' => Grows v (funSizeArgs as) 0 (argsSize as') st st'
  | .clauses cs c st cs' st' =>
    Grows v (funSizeClauses cs) (clausesLen cs * termSize c)
      (clausesSize cs' + clausesLen cs * W v + (clausesNames cs).length * W v) st st'
  | .coclauses cs st cs' st' => Grows v (funSizeClauses cs) 0 (clausesSize cs') st st'
  | .core t c st s st' => ∀ m, funSize t = m + 1 →
      Grows v m (termSize c + coreK v t) (stmtSize s + 2 + coreX v t) st st'
  | .guard t n c st s st' => ∀ m, funSize t = m + 1 →
      Grows v m (termSize c + coreK v t + 3 * n) (stmtSize s + 2 + coreX v t) st st'

/-- for every form, `compile` stays within the full budget of its term -/
theorem Sz.of_comp {v t ty st p st'} (h : Sz v (.comp t ty st p st')) :
    Grows v (funSize t) 0 (termSize p) st st' := by
  have hW := W_ge v
  cases hb : (cutTy t).isSome
  · simpa [hb] using h (funSize t) (by simp [hb])
  · obtain ⟨m, hm⟩ : ∃ m, funSize t = m + 1 := ⟨funSize t - 1, by have := funSize_pos t; omega⟩
    have g : Grows v m 1 (termSize p) st st' := by simpa [hb] using h m (by simp [hb, hm])
    refine g.weaken fun D hD => ?_
    simp only [hm, Nat.add_mul, Nat.one_mul] at *
    omega

theorem sz (v : Nat) {r : Run} (h : Compiles r) : Sz v r := by
  have hW := W_ge v
  induction h with
  | @cwc_cut t ty c st p st' hty _ ih =>
    obtain ⟨m, hm⟩ : ∃ m, funSize t = m + 1 := ⟨funSize t - 1, by have := funSize_pos t; omega⟩
    have g : Grows v m 1 (termSize p) st st' := by simpa [hty] using ih m (by simp [hty, hm])
    refine g.weaken fun D hD => ?_
    simp only [stmtSize, hm, Nat.add_mul, Nat.one_mul] at *
    omega
  | cwc_ifc _ _ _ _ iha ihb iht ihe =>
    generalize hr : shareUnless _ _ _ = r at *
    obtain ⟨new0, hn0, hb0⟩ := shareUnless_grows v hr
    obtain ⟨n1, e1, b1⟩ := Sz.of_comp iha
    obtain ⟨n2, e2, b2⟩ := Sz.of_comp ihb
    obtain ⟨n3, e3, b3⟩ := iht
    obtain ⟨n4, e4, b4⟩ := ihe
    refine ⟨n4 ++ (n3 ++ (n2 ++ (n1 ++ new0))), by simp [e4, e3, e2, e1, hn0], fun hA => ?_⟩
    have c0 := hb0 (fun d hd => hA d (by simp [hd]))
    have c1 := b1 (fun d hd => hA d (by simp [hd]))
    have c2 := b2 (fun d hd => hA d (by simp [hd]))
    have c3 := b3 (fun d hd => hA d (by simp [hd]))
    have c4 := b4 (fun d hd => hA d (by simp [hd]))
    simp only [defsSize_append, stmtSize, funSize, Nat.add_mul, Nat.one_mul] at *
    rcases c0 with ⟨hl, h1, h2⟩ | ⟨hl, h1, h2⟩
    · have := isLeaf_size hl
      subst h1
      omega
    · omega
  | cwc_ifz _ _ _ iha iht ihe =>
    generalize hr : shareUnless _ _ _ = r at *
    obtain ⟨new0, hn0, hb0⟩ := shareUnless_grows v hr
    obtain ⟨n1, e1, b1⟩ := Sz.of_comp iha
    obtain ⟨n3, e3, b3⟩ := iht
    obtain ⟨n4, e4, b4⟩ := ihe
    refine ⟨n4 ++ (n3 ++ (n1 ++ new0)), by simp [e4, e3, e1, hn0], fun hA => ?_⟩
    have c0 := hb0 (fun d hd => hA d (by simp [hd]))
    have c1 := b1 (fun d hd => hA d (by simp [hd]))
    have c3 := b3 (fun d hd => hA d (by simp [hd]))
    have c4 := b4 (fun d hd => hA d (by simp [hd]))
    simp only [defsSize_append, stmtSize, funSize, Nat.add_mul, Nat.one_mul] at *
    rcases c0 with ⟨hl, h1, h2⟩ | ⟨hl, h1, h2⟩
    · have := isLeaf_size hl
      subst h1
      omega
    · omega
  | cwc_print _ _ iha ihn =>
    refine ((Sz.of_comp iha).trans ihn).weaken fun D hD => ?_
    simp only [stmtSize, funSize, Nat.add_mul, Nat.one_mul] at *
    omega
  | cwc_call _ ih =>
    refine Grows.weaken ih fun D hD => ?_
    simp only [stmtSize, argsSize_snoc, funSize, Nat.add_mul, Nat.one_mul] at *
    omega
  | cwc_dtor _ _ _ ihs ihsc =>
    refine (Grows.trans ihs ihsc).weaken fun D hD => ?_
    simp only [termSize, argsSize_snoc, funSize, Nat.add_mul, Nat.one_mul] at *
    omega
  | cwc_goto _ _ ih =>
    refine Grows.weaken ih fun D hD => ?_
    simp only [termSize, funSize, Nat.add_mul, Nat.one_mul] at *
    omega
  | cwc_exit _ ih =>
    refine (Sz.of_comp ih).weaken fun D hD => ?_
    simp only [stmtSize, funSize, Nat.add_mul, Nat.one_mul] at *
    omega
  | cwc_paren _ ih =>
    refine Grows.weaken ih fun D hD => ?_
    simp only [funSize, Nat.add_mul, Nat.one_mul] at *
    omega
  | @cwc_letIn _ _ bound body _ _ _ _ _ _ ih =>
    refine (ih (funSize bound + funSize body) (by simp only [funSize]; omega)).weaken fun D hD => ?_
    simp only [funSize, coreK, coreX, Nat.add_mul, Nat.one_mul] at *
    omega
  | @cwc_case scr _ cs _ _ _ _ _ _ ih =>
    have hb : (clausesNames cs).length * 3 ≤ (clausesNames cs).length * W v :=
      Nat.mul_le_mul_left _ (by omega)
    refine (ih (funSize scr + funSizeClauses cs) (by simp only [funSize]; omega)).weaken
      fun D hD => ?_
    simp only [funSize, coreK, coreX, Nat.add_mul, Nat.one_mul, Nat.mul_add] at *
    omega
  | guard_pass _ _ ih =>
    intro m hm
    exact (ih m hm).weaken fun D hD => by omega
  | @guard_wrap _ _ _ st _ _ _ _ _ _ ih =>
    intro m hm
    refine (Grows.of_lifted_eq (freshCovar_lifted st) (ih m hm)).weaken fun D hD => ?_
    simp only [stmtSize, termSize] at *
    omega
  | @core_let_data _ _ bound body _ _ _ _ _ _ _ _ _ _ ihi ihb =>
    intro m hm
    obtain rfl : m = funSize bound + funSize body := by simp only [funSize] at hm; omega
    refine (Grows.trans ihi ihb).weaken fun D hD => ?_
    simp only [coreK, coreX, termSize, Nat.add_mul] at *
    omega
  | @core_let_codata _ _ bound body _ _ _ _ _ _ _ _ _ _ ihi ihb =>
    intro m hm
    obtain rfl : m = funSize bound + funSize body := by simp only [funSize] at hm; omega
    refine (Grows.trans ihi (Sz.of_comp ihb)).weaken fun D hD => ?_
    simp only [coreK, coreX, stmtSize, termSize, Nat.add_mul] at *
    omega
  | @core_case scr _ cs _ c st _ _ _ _ _ _ _ _ ihc ihs =>
    intro m hm
    generalize hr : shareUnless _ _ _ = r at *
    obtain ⟨new0, hn0, hb0⟩ := shareUnless_grows v hr
    obtain ⟨n1, e1, b1⟩ := ihc
    obtain ⟨n2, e2, b2⟩ := ihs
    refine ⟨n2 ++ (n1 ++ new0), by simp [e2, e1, hn0], fun hA => ?_⟩
    have c0 := hb0 (fun d hd => hA d (by simp [hd]))
    have c1 := b1 (fun d hd => hA d (by simp [hd]))
    have c2 := b2 (fun d hd => hA d (by simp [hd]))
    obtain rfl : m = funSize scr + funSizeClauses cs := by simp only [funSize] at hm; omega
    simp only [defsSize_append, termSize, coreK, coreX, Nat.add_mul] at *
    rcases c0 with ⟨hl, h5, c03⟩ | ⟨hl, h5, c03⟩
    · rw [h5] at c1
      simp only [Bool.or_eq_true, decide_eq_true_eq] at hl
      rcases hl with hk | hk
      · have : clausesLen cs = 0 ∨ clausesLen cs = 1 := by omega
        rcases this with h0 | h0 <;> simp only [h0, Nat.zero_mul, Nat.one_mul] at * <;> omega
      · have h6 := isLeaf_size hk
        have : clausesLen cs * termSize c ≤ clausesLen cs * W v :=
          Nat.mul_le_mul_left _ (by omega)
        omega
    · have : clausesLen cs * termSize r.1 ≤ clausesLen cs * W v :=
        Nat.mul_le_mul_left _ (by omega)
      omega
  | c_var | c_lit =>
    intro m hm
    obtain rfl : m = 0 := by simpa [cutTy, funSize] using hm.symm
    exact Grows.refl _ _ _ _ _ (by simp [termSize, cutTy])
  | @c_op a _ b _ _ _ _ _ _ _ _ iha ihb =>
    intro m hm
    obtain rfl : m = funSize a + funSize b := by
      simp only [cutTy, Option.isSome, Bool.toNat_true, funSize] at hm; omega
    refine ((Sz.of_comp iha).trans (Sz.of_comp ihb)).weaken fun D hD => ?_
    simp only [termSize, cutTy, Option.isSome, Bool.toNat_true] at *
    omega
  | @c_ctor _ args _ _ _ _ _ _ ih =>
    intro m hm
    obtain rfl : m = funSizeArgs args := by
      simp only [cutTy, Option.isSome, Bool.toNat_true, funSize] at hm; omega
    refine Grows.weaken ih fun D hD => ?_
    simp only [termSize, cutTy, Option.isSome, Bool.toNat_true] at *
    omega
  | @c_new cs _ _ _ _ _ _ ih =>
    intro m hm
    obtain rfl : m = funSizeClauses cs := by
      simp only [cutTy, Option.isSome, Bool.toNat_true, funSize] at hm; omega
    refine Grows.weaken ih fun D hD => ?_
    simp only [termSize, cutTy, Option.isSome, Bool.toNat_true] at *
    omega
  | @c_label _ t _ _ _ _ _ _ ih =>
    intro m hm
    obtain rfl : m = funSize t := by
      simp only [cutTy, Option.isSome, Bool.toNat_true, funSize] at hm; omega
    refine Grows.weaken ih fun D hD => ?_
    simp only [termSize, cutTy, Option.isSome, Bool.toNat_true] at *
    omega
  | @c_paren inner _ _ _ _ _ ih =>
    intro m hm
    obtain rfl : m = 1 + funSize inner := by
      simp only [cutTy, Option.isSome, Bool.toNat_false, funSize] at hm; omega
    refine (Sz.of_comp ih).weaken fun D hD => ?_
    simp only [cutTy, Option.isSome, Bool.toNat_false, Nat.add_mul, Nat.one_mul] at *
    omega
  | @c_default t _ st _ _ hu _ ih =>
    intro m hm
    have hc : cutTy t = none := by cases t <;> first | rfl | cases hu
    obtain rfl : m = funSize t := by simpa [hc] using hm.symm
    refine (Grows.of_lifted_eq (freshCovar_lifted st) ih).weaken fun D hD => ?_
    simp only [termSize, hc, Option.isSome, Bool.toNat_false] at *
    omega
  | subst_nil => exact Grows.refl _ _ _ _ _ (by simp [argsSize])
  | @subst_covar term _ _ _ _ _ _ _ _ ih =>
    have hpos : 1 ≤ funSize term * W v :=
      Nat.le_trans (by omega) (Nat.mul_le_mul (funSize_pos term) (Nat.le_refl _))
    refine Grows.weaken ih fun D hD => ?_
    simp only [argsSize, termSize, funSizeArgs, Nat.add_mul] at *
    omega
  | subst_cons _ _ _ _ iht ihr =>
    refine ((Sz.of_comp iht).trans ihr).weaken fun D hD => ?_
    simp only [argsSize, funSizeArgs, Nat.add_mul] at *
    omega
  | clauses_nil => exact Grows.refl _ _ _ _ _ (by simp [clausesSize, clausesLen, clausesNames])
  | @clauses_cons _ _ _ ctx _ _ _ _ _ _ _ _ _ _ ihb ihr =>
    have hctx : ctx.length ≤ ctx.length * W v := Nat.le_mul_of_pos_right _ (by omega)
    refine (Grows.trans ihb ihr).weaken fun D hD => ?_
    simp only [clausesSize, clausesLen, clausesNames, funSizeClauses, compileContext,
      List.length_map, List.length_append, Nat.add_mul, Nat.one_mul] at *
    omega
  | coclauses_nil => exact Grows.refl _ _ _ _ _ (by simp [clausesSize])
  | @coclauses_cons _ _ _ ctx _ _ st _ _ _ _ _ _ _ _ ihb ihr =>
    have hctx : ctx.length ≤ ctx.length * W v := Nat.le_mul_of_pos_right _ (by omega)
    refine ((Grows.of_lifted_eq (freshCovar_lifted st) ihb).trans ihr).weaken fun D hD => ?_
    simp only [clausesSize, termSize, funSizeClauses, compileContext, List.length_map,
      List.length_append, List.length_cons, List.length_nil, Nat.add_mul, Nat.one_mul] at *
    omega

def SizeSubst (v : Nat) (args : Fun.Terms) : Prop :=
  ∀ st as st', compileSubst args st = .ok (as, st') →
    Grows v (funSizeArgs args) 0 (argsSize as) st st'
def SizeClauses (v : Nat) (cs : Fun.Clauses) : Prop :=
  ∀ cont st cs' st', compileClauses cs cont st = .ok (cs', st') →
    Grows v (funSizeClauses cs) (clausesLen cs * termSize cont)
      (clausesSize cs' + clausesLen cs * W v + (clausesNames cs).length * W v) st st'
def SizeCoclauses (v : Nat) (cs : Fun.Clauses) : Prop :=
  ∀ st cs' st', compileCoclauses cs st = .ok (cs', st') →
    Grows v (funSizeClauses cs) 0 (clausesSize cs') st st'

theorem size_subst (v : Nat) : ∀ args : Fun.Terms, SizeSubst v args :=
  fun args _ _ _ h => sz v (compiles_subst args _ _ _ h)
theorem size_clauses (v : Nat) : ∀ cs : Fun.Clauses, SizeClauses v cs :=
  fun cs _ _ _ _ h => sz v (compiles_clauses cs _ _ _ _ h)
theorem size_coclauses (v : Nat) : ∀ cs : Fun.Clauses, SizeCoclauses v cs :=
  fun cs _ _ _ h => sz v (compiles_coclauses cs _ _ _ h)

theorem compileWithCont_size (v : Nat) {t : Fun.Term} {c st s st'}
    (h : compileWithCont t c st = .ok (s, st')) :
    Grows v (funSize t) (termSize c) (stmtSize s + 2) st st' :=
  sz v ((compiles_term t).1 c st s st' h)

theorem compileOne_size (v : Nat) {d cts l r}
    (h : (if d.name == "main" then compileMain d cts l else compileDef d cts l) = .ok r)
    (hA : ∀ d' ∈ r.1, d'.ctx.length ≤ v) : defsSize r.1 ≤ funDefSize d * W v := by
  have hW := W_ge v
  have hctx : d.ctx.length ≤ d.ctx.length * W v := Nat.le_mul_of_pos_right _ (by omega)
  obtain ⟨τ, c, st0, ctx, body, st', -, hc, hx, rfl⟩ := compileOne_ok h
  obtain ⟨new, e, b⟩ := compileWithCont_size v hx
  rcases hc with ⟨rfl, rfl, rfl⟩ | ⟨rfl, rfl, rfl⟩ <;>
  · simp only [freshCovar_lifted, freshVar_lifted, initState, List.append_nil] at e
    have hb := b (fun d' hd' => hA d' (by simp [e, hd']))
    simp only [defsSize, defSize, e, funDefSize, termSize, stmtSize, compileContext,
      List.length_append, List.length_map, List.length_cons, List.length_nil, Nat.add_mul,
      Nat.one_mul] at *
    omega

theorem defsSize_perm {a b : List Core.Def} (h : a.Perm b) : defsSize a = defsSize b := by
  induction h with
  | nil => rfl
  | cons _ _ ih => simp only [defsSize, ih]
  | swap => simp only [defsSize]; omega
  | trans _ _ ih1 ih2 => exact ih1.trans ih2

theorem compileDefs_size (v : Nat) (cts : List Core.TypeDecl) :
    ∀ (rest : List Fun.Def) (l : List String) (acc out : List Core.Def),
      compileDefs cts rest l acc = .ok out → (∀ d ∈ out, d.ctx.length ≤ v) →
      defsSize out ≤ defsSize acc + funDefsSize rest * W v
  | [], l, acc, out, h, _ => by cases h; simp [funDefsSize]
  | d :: rest, l, acc, out, h, hA => by
    obtain ⟨ds, l', acc', h1, hp, h2⟩ := compileDefs_cons_ok h
    have hsub := compileDefs_acc_subset h2
    have h3 := compileOne_size v h1 fun d' hd' =>
      hA d' (hsub d' (hp.mem_iff.2 (List.mem_append_right _ hd')))
    have h4 := compileDefs_size v cts rest _ _ out h2 hA
    simp only [defsSize_perm hp, defsSize_append, funDefsSize, Nat.add_mul] at *
    omega

/-- program level: if every definition of the output has at most `v` parameters then
`|S2| ≤ |S1| * 3 * (v + 4)` -/
theorem compileProg_size (v : Nat) {p : Fun.CheckedProgram} {q : Core.Prog}
    (h : compileProg p = .ok q) (hA : ∀ d ∈ q.defs, d.ctx.length ≤ v) :
    progSize q ≤ funProgSize p * W v := by
  unfold compileProg at h
  simp only at h
  split at h
  · simp at h
  · rename_i defs hd
    simp only [Except.ok.injEq] at h
    subst h
    have := compileDefs_size v _ _ _ _ _ hd hA
    simpa [progSize, funProgSize, defsSize] using this

end Scc.Fun2Core
