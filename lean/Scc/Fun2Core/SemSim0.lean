/-
  Scc.Fun2Core.SemSim0 — the fragment predicate `good` and helper lemmas shared by the simulation
  proofs.  The files of the simulation are not numbered in import order: SemSim0–5, SemCod1–4, SemSim6,
  SemShare, SemCod5, SemSim7–11, SemSim13, SemSim12 (`eval_chunk`), then SemProg, SemMain, SemFrag.
-/
import Scc.Fun2Core.SemDirect

namespace Scc.Fun2Core.Sem

def ncdO (p : Fun.CheckedProgram) : Option Fun.Ty → Bool
  | some τ => !Fun.isCodataTy p τ
  | none => false

def cdO (p : Fun.CheckedProgram) : Option Fun.Ty → Bool
  | some τ => Fun.isCodataTy p τ
  | none => false

def annO : Option Fun.Ty → Bool
  | some _ => true
  | none => false

theorem annO_some {ty : Option Fun.Ty} (h : annO ty = true) : ∃ τ, ty = some τ := by
  cases ty with
  | none => cases h
  | some τ => exact ⟨τ, rfl⟩

/-- the annotated type of the term is `i64` (operands of `if`, `print`, `exit`) -/
def i64T (t : Fun.Term) : Bool :=
  match getType t with
  | some .i64 => true
  | _ => false

theorem i64T_iff {t : Fun.Term} : i64T t = true ↔ getType t = some .i64 := by
  unfold i64T
  split
  · rename_i h; simp [h]
  · rename_i h
    constructor
    · intro e; cases e
    · intro e; exact absurd e (h)

mutual
  /-- the terms covered by the simulation proof (in evaluation position), as far as this is not a
  matter of typing (the typing of the machine states is carried separately, `STM` of
  Scc/Fun2Core/SemCodTyping.lean): annotations are present; operands of operators and arguments of
  calls / constructors / destructors are pure (`goodP`); a codata-typed `let` binds a variable or a
  `new`; no call of `main`; clause binders are pairwise distinct and are the names of the typed
  clause context; the operands of `if`, `print`, `exit` are annotated `i64` -/
  def good (p : Fun.CheckedProgram) : Fun.Term → Bool
    | .var _ ty _ => annO ty
    | .lit _ => true
    | .op a _ b => goodP p a && goodP p b
    | .ifc _ a b t e ty =>
      good p a && good p b && good p t && good p e && annO ty && i64T a && i64T b
    | .ifz _ a t e ty => good p a && good p t && good p e && annO ty && i64T a
    | .print _ a n ty => good p a && good p n && annO ty && i64T a
    | .letIn _ vt b i ty =>
      annO ty && good p i && (if Fun.isCodataTy p vt then goodP p b && pureS b else good p b)
    | .call f as ty => f != "main" && goodPs p as && annO ty
    | .ctor _ as ty => goodPs p as && annO ty
    | .dtor s _ _ as ty => good p s && annO s.getType && goodPs p as && annO ty
    | .case s _ cs ty => good p s && annO s.getType && goodClauses p cs && annO ty
    | .label _ t ty => good p t && annO ty
    | .goto _ t ty => good p t && annO t.getType && annO ty
    | .exit t ty => good p t && annO ty && i64T t
    | .paren t => good p t
    | .new cs ty => goodClauses p cs && annO ty
  /-- pure terms (operands, arguments, by-name bindings) -/
  def goodP (p : Fun.CheckedProgram) : Fun.Term → Bool
    | .var .. => true
    | .lit _ => true
    | .op a o b => o != .div && o != .rem && goodP p a && goodP p b
    | .ctor _ as _ => goodPs p as
    | .new cs _ => goodClauses p cs
    | .paren t => goodP p t
    | _ => false
  def goodPs (p : Fun.CheckedProgram) : Fun.Terms → Bool
    | .nil => true
    | .cons t r =>
      goodP p t &&
      (match t.getType with
        | some ty => !Fun.isCodataTy p ty || pureS t
        | none => true) && goodPs p r
  /-- clauses of a `case` or of a `new` -/
  def goodClauses (p : Fun.CheckedProgram) : Fun.Clauses → Bool
    | .nil => true
    | .cons _ _ names ctx b r =>
      good p b && annO b.getType && decide names.Nodup && decide (ctx.map (·.var) = names) &&
      goodClauses p r
end

abbrev GP (p : Fun.CheckedProgram) : Fun.Term → Prop := fun t => good p t = true

mutual
  theorem goodP_pureFO (p : Fun.CheckedProgram) : ∀ t : Fun.Term, goodP p t = true →
      pureFO p (goodClauses p) t = true
    | .var .. => fun _ => rfl
    | .lit _ => fun _ => rfl
    | .op a o b => fun h => by
      simp only [goodP, Bool.and_eq_true] at h
      simp only [pureFO, Bool.and_eq_true]
      exact ⟨⟨h.1.1, goodP_pureFO p a h.1.2⟩, goodP_pureFO p b h.2⟩
    | .ctor _ as _ => fun h => by
      simp only [goodP] at h
      simp only [pureFO]
      exact goodPs_pureFOs p as h
    | .new cs _ => fun h => by simpa [goodP, pureFO] using h
    | .paren t => fun h => by
      simp only [goodP] at h
      simp only [pureFO]
      exact goodP_pureFO p t h
    | .ifc .. => fun h => by simp [goodP] at h
    | .ifz .. => fun h => by simp [goodP] at h
    | .print .. => fun h => by simp [goodP] at h
    | .letIn .. => fun h => by simp [goodP] at h
    | .call .. => fun h => by simp [goodP] at h
    | .dtor .. => fun h => by simp [goodP] at h
    | .case .. => fun h => by simp [goodP] at h
    | .label .. => fun h => by simp [goodP] at h
    | .goto .. => fun h => by simp [goodP] at h
    | .exit .. => fun h => by simp [goodP] at h
  theorem goodPs_pureFOs (p : Fun.CheckedProgram) : ∀ as : Fun.Terms, goodPs p as = true →
      pureFOs p (goodClauses p) as = true
    | .nil => fun _ => rfl
    | .cons t r => fun h => by
      simp only [goodPs, Bool.and_eq_true] at h
      simp only [pureFOs, Bool.and_eq_true]
      exact ⟨⟨goodP_pureFO p t h.1.1, h.1.2⟩, goodPs_pureFOs p r h.2⟩
end

/-- the clauses accepted by `goodClauses` have good bodies, distinct binders, and agree with their
typed contexts -/
theorem goodClauses_find (p : Fun.CheckedProgram) : ∀ (cs : Fun.Clauses), goodClauses p cs = true →
    ∀ K cl, Fun.findClause K cs = some cl →
      GP p cl.body ∧ cl.names.Nodup ∧ cl.ctx.map (·.var) = cl.names
  | .nil => fun _ _ _ hf => by simp [Fun.findClause] at hf
  | .cons pol xtor names ctx body rest => fun hg K cl hf => by
    simp only [goodClauses, Bool.and_eq_true, decide_eq_true_eq] at hg
    simp only [Fun.findClause] at hf
    by_cases hk : (K == xtor) = true
    · simp only [hk, if_true, Option.some.injEq] at hf
      subst hf
      exact ⟨hg.1.1.1.1, hg.1.1.2, hg.1.2⟩
    · simp only [hk] at hf
      exact goodClauses_find p rest hg.2 K cl hf

theorem BoundOn.cons {bs : List Core.Binding} {x : Core.Ident} {V : CVal} {ρ : CEnv}
    (h : BoundOn (bs.filter (·.var ≠ x)) ρ) : BoundOn bs ((x, V) :: ρ) := by
  intro b hb
  by_cases hx : x = b.var
  · exact ⟨V, by simp [lookup_cons, hx]⟩
  · rw [lookup_cons_ne hx]
    exact h b (List.mem_filter.2 ⟨hb, by simpa using fun e => hx e.symm⟩)

theorem BoundOn.cons' {bs : List Core.Binding} {x : Core.Ident} {V : CVal} {ρ : CEnv}
    (h : BoundOn bs ρ) : BoundOn bs ((x, V) :: ρ) :=
  BoundOn.cons (h.mono fun _ hb => (List.mem_filter.1 hb).1)

theorem bad_not_finished {w : Fun.Why} (h : Bad w) : ¬ Finished (.stuck w) := by
  cases w <;> simp_all [Bad, Finished]

end Scc.Fun2Core.Sem
