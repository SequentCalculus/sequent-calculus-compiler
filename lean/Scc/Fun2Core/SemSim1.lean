/-
  Scc.Fun2Core.SemSim1 — the operand lemma of the simulation: a term of the fragment in operand
  position of a Core statement (`S[compile b]`, leftmost non-variable position) against the Fun
  machine evaluating `b` under the frame `F` that corresponds to `S`.
-/
import Scc.Fun2Core.SemSim0

namespace Scc.Fun2Core.Sem

variable {q : Core.Prog} {p : Fun.CheckedProgram}

abbrev R (p : Fun.CheckedProgram) (q : Core.Prog) : Fun.State → Core.State → Prop := SRel (GP p) p q

/-- the Core program declares the translated codata types of the source program -/
def CodOK (p : Fun.CheckedProgram) (q : Core.Prog) : Prop :=
  ∀ τ : Fun.Ty, Core.isCodata q.codataTypes (compileTy τ) = Fun.isCodataTy p τ

theorem isCodata_i64 (q : Core.Prog) : Core.isCodata q.codataTypes .i64 = false := rfl

theorem CodOK.ncd {p : Fun.CheckedProgram} {q : Core.Prog} (h : CodOK p q) {ty : Option Fun.Ty}
    (hn : ncdO p ty = true) : ∃ τ, ty = some τ ∧ Core.isCodata q.codataTypes (compileTy τ) = false := by
  cases ty with
  | none => simp [ncdO] at hn
  | some τ => exact ⟨τ, rfl, by rw [h τ]; simpa [ncdO] using hn⟩

section
variable (hcod : CodOK p q)
  {env : Fun.Env} {K : Fun.Stack} {ρ0 ρ : CEnv} {n : Nat} {out : Out} {cp : Bool} {μ : Nat} (Sx : Core.Term → Core.Stmt)
  (hsp : ∀ A, A.isVar = false → (Sx A).split = some (.prd, A, Sx))
  (hK : ∀ τ, KRel (GP p) p q (n + 1) K
    (.mutilde ρ (Core.sigmaName n) (Sx (.var .prd (Core.sigmaName n) τ))))
  (hF : ∀ ρ' n' z τ v V, n ≤ n' → SigExt n ρ ρ' → Core.Env.lookup ρ' z = .ok V →
    VRel (GP p) p q n v V → (z.name = sig → z.id < n') →
    Chunk p q (R p q) true cp μ (.ret v K) ⟨Sx (.var .prd z τ), ρ', out, n'⟩)
include hsp

/-- a direct producer in operand position -/
theorem operand_direct {b : Fun.Term} (hd : pureD p (goodClauses p) b = true) {ty0 : Core.Ty}
    {st : CompileState}
    {B : Core.Term} {st' : CompileState} (hcB : compile b ty0 st = .ok (B, st'))
    (hst : StOK q st') (htn : TermNames b st) (he : EnvRel (GP p) p q n (fv b) env ρ0)
    (hbd : BoundOn (tfvTerm B []) ρ0) (hag : AgreeOn (tfvTerm B []) ρ0 ρ)
    (hncB : Core.isCodata q.codataTypes B.ty = false)
    (hF : ∀ ρ' n' z τ v V, n ≤ n' → SigExt n ρ ρ' → Core.Env.lookup ρ' z = .ok V →
      VRel (GP p) p q n v V → (z.name = sig → z.id < n') →
      Chunk p q (R p q) true cp μ (.ret v K) ⟨Sx (.var .prd z τ), ρ', out, n'⟩) :
    Chunk p q (R p q) false cp μ (.eval b env K) ⟨Sx B, ρ, out, n⟩ := by
  rcases direct_sim (p := p) (goodClauses p) (goodClauses_find p) b hd env K ty0 st B st' n ρ0 ρ n
      hcB hst htn he hbd hag with
    ⟨v, j, hj, fj, hv⟩ | ⟨j, s1, w, fj, h1, h2⟩ | ⟨j, s1, w, r', fj, h1, h2, h3, _, h5⟩
  · obtain ⟨i, ρ', n', z, τ, V, hc, hn, hext, hl, hvr, hb⟩ :=
      core_operand' hv Sx out (hsp B)
    exact Chunk.prefix fj hc rfl (fun _ => hj) (fun h => .inr h) (hF ρ' n' z τ v V hn hext hl hvr hb).weaken
  · exact .inl ⟨j, s1, .stuck w, fj, by rw [h1]; rfl, fun hf => absurd hf (bad_not_finished h2)⟩
  · refine .inl ⟨j, s1, .stuck w, fj, by rw [h1]; rfl, fun _ => ?_⟩
    have s1' := Core.FocusSim.step_of_split_some (p1 := q) (st1 := ⟨Sx B, ρ, out, n⟩) (hsp B h3)
    simp only [Core.sigmaCut] at s1'
    obtain ⟨i, S1, hc, ho, hs⟩ := h5 _ B.ty out (mu_inert (Core.sigmaName n) B.ty _) hncB
    exact ⟨1 + i, S1, r', (CSteps.one s1').trans hc, ho, hs, h2⟩

/-- a term translated by the default body of `compile` (`μa.⟦b⟧_a`) in operand position -/
theorem operand_default {b : Fun.Term} (hg : good p b = true) {ty0 : Core.Ty} {st : CompileState}
    {B : Core.Term} {st' : CompileState} (hcB : compile b ty0 st = .ok (B, st'))
    (hdef : compile b ty0 st = defaultCompile (compileWithCont b) ty0 st)
    (hnc0 : Core.isCodata q.codataTypes ty0 = false)
    (hst : StOK q st') (htn : TermNames b st) (he : EnvRel (GP p) p q n (fv b) env ρ0)
    (hbd : BoundOn (tfvTerm B []) ρ0) (hag : AgreeOn (tfvTerm B []) ρ0 ρ)
    (hK : ∀ τ, KRel (GP p) p q (n + 1) K
      (.mutilde ρ (Core.sigmaName n) (Sx (.var .prd (Core.sigmaName n) τ)))) :
    Chunk p q (R p q) false cp μ (.eval b env K) ⟨Sx B, ρ, out, n⟩ := by
  rw [hdef, defaultCompile_eq] at hcB
  obtain ⟨s, st1, hx, hcB⟩ := bind_stmt hcB
  cases hcB
  -- the two Core steps
  have s1 := Core.FocusSim.step_of_split_some (p1 := q) (st1 := ⟨Sx (.mu .prd ⟨(freshCovar st).1, 0⟩ ty0 s), ρ, out, n⟩)
    (hsp _ rfl)
  simp only [Core.sigmaCut, Core.Term.ty] at s1
  have s2 := step_cut_mu (q := q) (cty := ty0) (ty := ty0) hnc0 (a := ⟨(freshCovar st).1, 0⟩) (s := s)
    (ρ := ρ) (out := out) (n := n + 1)
    (mu_inert (Core.sigmaName n) ty0 (Sx (.var .prd (Core.sigmaName n) ty0))) rfl .prd
  have ha_fresh := freshCovar_not_mem st
  have ha_sig := freshCovar_ne_sig st
  refine Chunk.here ((CSteps.one s1).trans (.one s2)) (fun _ => .inl (by decide)) rfl ?_
  refine SRel.eval (c := .var .cns ⟨(freshCovar st).1, 0⟩ ty0)
    (ρ0 := (⟨(freshCovar st).1, 0⟩,
      .mutilde ρ (Core.sigmaName n) (Sx (.var .prd (Core.sigmaName n) ty0))) :: ρ0) hg ?_ ?_ ?_ ?_ ?_
  · refine ⟨(freshCovar st).2, _, hx, hst, ?_, ?_⟩
    · refine htn.mono (fun x hx => ?_) ?_
      · rw [freshCovar_used]; exact List.mem_cons_of_mem _ hx
      · rw [freshCovar_used]
        simp only [List.mem_cons, not_or]
        exact ⟨fun e => ha_sig e.symm, htn.nosig⟩
    · intro b hb
      simp only [occTerm, List.mem_singleton] at hb
      subst hb
      exact .inr ⟨ha_sig, by rw [freshCovar_used]; exact List.mem_cons_self⟩
  · refine (he.mono (Nat.le_succ n)).agree fun y hy => lookup_cons_ne ?_ _ _
    intro e
    have : (freshCovar st).1 = y := by cases e; rfl
    exact ha_fresh (this ▸ htn.fv y hy)
  · exact .mk (cv := .mutilde ρ (Core.sigmaName n) (Sx (.var .prd (Core.sigmaName n) ty0)))
      (by simp [Core.cnsVal, lookup_cons]) (hK ty0) trivial
      (fun b hb => by rw [mem_tfv_var] at hb; subst hb; exact ⟨_, lookup_cons_self _ _ _⟩) hnc0
  · exact BoundOn.cons (hbd.mono filter_sub_tfv_mu)
  · exact AgreeOn.cons (hag.mono filter_sub_tfv_mu)

/-- a `label` in operand position -/
theorem operand_label {a : String} {t : Fun.Term} {lty : Option Fun.Ty}
    (hg : good p (.label a t lty) = true) (hlty : lty = some .i64) {ty0 : Core.Ty} {st : CompileState}
    {B : Core.Term} {st' : CompileState} (hcB : compile (.label a t lty) ty0 st = .ok (B, st'))
    (hst : StOK q st') (htn : TermNames (.label a t lty) st)
    (he : EnvRel (GP p) p q n (fv (.label a t lty)) env ρ0)
    (hbd : BoundOn (tfvTerm B []) ρ0) (hag : AgreeOn (tfvTerm B []) ρ0 ρ)
    (hK : ∀ τ, KRel (GP p) p q (n + 1) K
      (.mutilde ρ (Core.sigmaName n) (Sx (.var .prd (Core.sigmaName n) τ)))) :
    Chunk p q (R p q) false cp μ (.eval (.label a t lty) env K) ⟨Sx B, ρ, out, n⟩ := by
  rw [c_label] at hcB
  simp only [good, Bool.and_eq_true] at hg
  obtain ⟨hgt, _⟩ := hg
  subst hlty
  have hnc : Core.isCodata q.codataTypes (compileTy .i64) = false := rfl
  generalize hτ : Fun.Ty.i64 = τ at hcB hnc htn he ⊢
  have hlty : True := trivial
  cases hlty with
  | intro =>
    simp only at hcB
    obtain ⟨s, st1, hx, hcB⟩ := bind_stmt hcB
    cases hcB
    have s1 := Core.FocusSim.step_of_split_some (p1 := q) (st1 := ⟨Sx (.mu .prd ⟨a, 0⟩ (compileTy τ) s), ρ, out, n⟩)
      (hsp _ rfl)
    simp only [Core.sigmaCut, Core.Term.ty] at s1
    have s2 := step_cut_mu (q := q) (cty := compileTy τ) (ty := compileTy τ) hnc (a := ⟨a, 0⟩) (s := s)
      (ρ := ρ) (out := out) (n := n + 1)
      (mu_inert (Core.sigmaName n) (compileTy τ) (Sx (.var .prd (Core.sigmaName n) (compileTy τ))))
      rfl .prd
    have ha_used : a ∈ st.usedVars := htn.bd a (by simp [binderNames])
    have ha_sig : a ≠ sig := fun e => htn.nosig (e ▸ ha_used)
    have f1 : FSteps p (.eval (.label a t (some τ)) env K) (.eval t ((a, .cont K) :: env) K) [] 1 :=
      .one rfl
    refine .inr ⟨1, _, _, [], 2, _, f1, .inl ⟨rfl, rfl⟩, (fun h => by cases h), (fun _ => .inl (by decide)),
      (CSteps.one s1).trans (.one s2), by simp, ?_⟩
    refine SRel.eval (c := .var .cns ⟨a, 0⟩ (compileTy τ))
      (ρ0 := (⟨a, 0⟩, .mutilde ρ (Core.sigmaName n)
        (Sx (.var .prd (Core.sigmaName n) (compileTy τ)))) :: ρ0)
      hgt ?_ ?_ ?_ ?_ ?_
    · refine ⟨st, _, hx, hst, ⟨fun x hx => ?_, fun x hx => ?_, htn.nosig⟩, ?_⟩
      · by_cases hxa : x = a
        · exact hxa ▸ ha_used
        · exact htn.fv x (by simp [fv, hx, hxa])
      · exact htn.bd x (by simp [binderNames, hx])
      · intro b hb
        simp only [occTerm, List.mem_singleton] at hb
        subst hb
        exact .inr ⟨ha_sig, ha_used⟩
    · exact EnvRel.bind (by simpa [fv] using he.mono (Nat.le_succ n)) (.cont (.nc (hK (compileTy τ))))
    · exact .mk (cv := .mutilde ρ (Core.sigmaName n)
        (Sx (.var .prd (Core.sigmaName n) (compileTy τ))))
        (by simp [Core.cnsVal, lookup_cons]) (hK _) trivial
        (fun b hb => by rw [mem_tfv_var] at hb; subst hb; exact ⟨_, lookup_cons_self _ _ _⟩) hnc
    · exact BoundOn.cons (hbd.mono filter_sub_tfv_mu)
    · exact AgreeOn.cons (hag.mono filter_sub_tfv_mu)

end

end Scc.Fun2Core.Sem
