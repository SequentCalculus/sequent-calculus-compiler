/-
  Scc.Fun2Core.HygieneProofs — C02 `no capture` for the translation with its capture guard: the hygiene predicate
  of Scc.Fun2Core.Hygiene is `true` for every term whose clause binder names are the names of its typed
  clause contexts (`namesAgree`), every consumer (`ConsOK`) and every state.  `namesAgree` is a
  hypothesis throughout: the type checker fills the clause context in from the clause names, and the
  typing `ClausesM` of Scc/Fun2Core/TypedSrc.lean says so (`ctx = bindNames names _`), but no theorem
  derives `namesAgree` from it.
-/
import Scc.Fun2Core.Hygiene
import Scc.Fun2Core.FreeVars
import Scc.Fun2Core.Lemmas

namespace Scc.Fun2Core

/-- `c` is a consumer: not a `μ` with producer flag (the flag of every consumer the translation
builds is `cns`; Rust: `Term<Cns>`) -/
def ConsOK (c : Core.Term) : Prop := ∀ v ty s, c ≠ .mu .prd v ty s

theorem consOK_var (pc v ty) : ConsOK (.var pc v ty) := fun _ _ _ h => by cases h
theorem consOK_mu (v ty s) : ConsOK (.mu .cns v ty s) := fun _ _ _ h => by cases h
theorem consOK_xtor (pc n a ty) : ConsOK (.xtor pc n a ty) := fun _ _ _ h => by cases h
theorem consOK_xcase (pc ty cs) : ConsOK (.xcase pc ty cs) := fun _ _ _ h => by cases h

theorem consOK_share (c : Core.Term) (st : CompileState) : ConsOK (share c st).1 := by
  unfold share; exact consOK_mu _ _ _

mutual
  /-- in every clause the binder names of the parser (`context_names`, which the guard of
  terms/case.rs inspects) are the names of the typed clause context (which `compile_clause` emits) -/
  def namesAgree : Fun.Term → Bool
    | .var _ _ _ => true
    | .lit _ => true
    | .op a _ b => namesAgree a && namesAgree b
    | .ifc _ a b t e _ => namesAgree a && namesAgree b && namesAgree t && namesAgree e
    | .ifz _ a t e _ => namesAgree a && namesAgree t && namesAgree e
    | .print _ a n _ => namesAgree a && namesAgree n
    | .letIn _ _ b i _ => namesAgree b && namesAgree i
    | .call _ args _ => namesAgreeArgs args
    | .ctor _ args _ => namesAgreeArgs args
    | .dtor s _ _ args _ => namesAgree s && namesAgreeArgs args
    | .case s _ cs _ => namesAgree s && namesAgreeClauses cs
    | .new cs _ => namesAgreeClauses cs
    | .goto _ t _ => namesAgree t
    | .label _ t _ => namesAgree t
    | .exit t _ => namesAgree t
    | .paren t => namesAgree t
  def namesAgreeArgs : Fun.Terms → Bool
    | .nil => true
    | .cons t r => namesAgree t && namesAgreeArgs r
  def namesAgreeClauses : Fun.Clauses → Bool
    | .nil => true
    | .cons _ _ names ctx body rest =>
      (names == ctx.map (·.var)) && namesAgree body && namesAgreeClauses rest
end

theorem bindersOccurFree_false {binders : List String} {cont : Core.Term} :
    bindersOccurFree binders cont = false ↔ ∀ x ∈ binders, x ∉ fvNames cont := by
  unfold bindersOccurFree fvNames
  simp only [List.any_eq_false, List.contains_eq_mem, decide_eq_true_eq, List.mem_map, not_exists,
    not_and]
  constructor
  · intro h x hx b hb e
    exact h b hb (e ▸ hx)
  · intro h b hb hx
    exact h _ hx b hb rfl

theorem noCapture_true {binders : List String} {cont : Core.Term} :
    noCapture binders cont = true ↔ ∀ x ∈ binders, x ∉ fvNames cont := by
  unfold noCapture
  simp [List.all_eq_true]

theorem fvNames_share_subset (c : Core.Term) (st : CompileState) (hc : ConsOK c) :
    ∀ x ∈ fvNames (share c st).1, x ∈ fvNames c := by
  intro x hx
  unfold fvNames at *
  obtain ⟨b, hb, rfl⟩ := List.mem_map.1 hx
  exact List.mem_map.2 ⟨b, tfv_share_subset c st hc b hb, rfl⟩

theorem hygGuardedLvl_true {binders : List String} {ty : Option Fun.Ty} {core : HygCwc}
    (hcore : ∀ c st, ConsOK c → bindersOccurFree binders c = false → core c st = true) :
    ∀ lvl c st, ConsOK c → hygGuardedLvl binders ty core lvl c st = true
  | 0 => fun _ _ _ => rfl
  | lvl + 1 => fun c st hc => by
    unfold hygGuardedLvl
    split
    · cases ty with
      | none => rfl
      | some t =>
        simp only [hygDefault]
        exact hygGuardedLvl_true hcore lvl _ _ (consOK_var _ _ _)
    · rename_i h
      exact hcore c st hc (by simpa using h)

/-- the two halves of the induction `hyg_term`: the hygiene check along `compileWithCont t` succeeds
for every consumer and state, the one along `compile t` for every type and state -/
abbrev HygCwcOK (t : Fun.Term) : Prop := ∀ c st, ConsOK c → (hygBoth t).1 c st = true
abbrev HygCompOK (t : Fun.Term) : Prop := ∀ ty st, (hygBoth t).2 ty st = true

theorem hygComp_default {h : HygCwc} (hh : ∀ c st, ConsOK c → h c st = true) :
    ∀ ty st, hygDefault h ty st = true := fun _ _ => hh _ _ (consOK_var _ _ _)

/-- closes goals `(match x with | .error _ => true | .ok .. => true) = true` and conjunctions of
them after the induction hypotheses have been rewritten -/
macro "hyg_close" : tactic => `(tactic| (repeat (first | rfl | split)))

mutual
theorem hyg_term : ∀ t : Fun.Term, namesAgree t = true → HygCwcOK t ∧ HygCompOK t
  | .var _ _ _ => fun _ => ⟨fun _ _ _ => rfl, fun _ _ => rfl⟩
  | .lit _ => fun _ => ⟨fun _ _ _ => rfl, fun _ _ => rfl⟩
  | .op a o b => fun hn => by
    simp only [namesAgree, Bool.and_eq_true] at hn
    have ha := (hyg_term a hn.1).2
    have hb := (hyg_term b hn.2).2
    have key : ∀ st, ((hygBoth a).2 .i64 st &&
        (match compile a .i64 st with
          | .error _ => true
          | .ok (_, st1) => (hygBoth b).2 .i64 st1)) = true := by
      intro st
      simp only [ha, hb, Bool.true_and]
      hyg_close
    exact ⟨fun _ st _ => key st, fun _ st => key st⟩
  | .ifc srt a b t e ty => fun hn => by
    simp only [namesAgree, Bool.and_eq_true] at hn
    have ha := (hyg_term a hn.1.1.1).2
    have hb := (hyg_term b hn.1.1.2).2
    have ht := (hyg_term t hn.1.2).1
    have he := (hyg_term e hn.2).1
    have hcwc : HygCwcOK (.ifc srt a b t e ty) := by
      intro c st hc
      simp only [hygBoth]
      have hr : ConsOK (if isLeaf c then (c, st) else share c st).1 := by
        split
        · exact hc
        · exact consOK_share _ _
      generalize (if isLeaf c then (c, st) else share c st) = r at hr
      simp only [ha, hb, ht _ _ hr, he _ _ hr, Bool.true_and]
      hyg_close
    exact ⟨hcwc, hygComp_default hcwc⟩
  | .ifz srt a t e ty => fun hn => by
    simp only [namesAgree, Bool.and_eq_true] at hn
    have ha := (hyg_term a hn.1.1).2
    have ht := (hyg_term t hn.1.2).1
    have he := (hyg_term e hn.2).1
    have hcwc : HygCwcOK (.ifz srt a t e ty) := by
      intro c st hc
      simp only [hygBoth]
      have hr : ConsOK (if isLeaf c then (c, st) else share c st).1 := by
        split
        · exact hc
        · exact consOK_share _ _
      generalize (if isLeaf c then (c, st) else share c st) = r at hr
      simp only [ha, ht _ _ hr, he _ _ hr, Bool.true_and]
      hyg_close
    exact ⟨hcwc, hygComp_default hcwc⟩
  | .print nl a n ty => fun hn => by
    simp only [namesAgree, Bool.and_eq_true] at hn
    have ha := (hyg_term a hn.1).2
    have hnx := (hyg_term n hn.2).1
    have hcwc : HygCwcOK (.print nl a n ty) := by
      intro c st hc
      simp only [hygBoth, ha, hnx _ _ hc, Bool.true_and]
      hyg_close
    exact ⟨hcwc, hygComp_default hcwc⟩
  | .letIn x varTy bound body ty => fun hn => by
    simp only [namesAgree, Bool.and_eq_true] at hn
    have hbc := (hyg_term bound hn.1).1
    have hbp := (hyg_term bound hn.1).2
    have hi := (hyg_term body hn.2).1
    have hcwc : HygCwcOK (.letIn x varTy bound body ty) := by
      intro c st hc
      simp only [hygBoth, hygGuarded]
      refine hygGuardedLvl_true ?_ _ _ _ hc
      intro c st hc hfree
      have hno : noCapture [x] c = true := noCapture_true.2 (bindersOccurFree_false.1 hfree)
      simp only [hno, hi _ _ hc, hbp, Bool.true_and]
      split
      · rfl
      · split
        · rfl
        · exact hbc _ _ (consOK_mu _ _ _)
    exact ⟨hcwc, hygComp_default hcwc⟩
  | .call name args retTy => fun hn => by
    simp only [namesAgree] at hn
    have hs := hyg_subst args hn
    have hcwc : HygCwcOK (.call name args retTy) := fun c st _ => by
      simp only [hygBoth, hs]
    exact ⟨hcwc, hygComp_default hcwc⟩
  | .ctor id args ty => fun hn => by
    simp only [namesAgree] at hn
    have hs := hyg_subst args hn
    exact ⟨fun c st _ => by simp only [hygBoth, hs], fun _ st => by simp only [hygBoth, hs]⟩
  | .dtor scrutinee id tyArgs args ty => fun hn => by
    simp only [namesAgree, Bool.and_eq_true] at hn
    have hsc := (hyg_term scrutinee hn.1).1
    have hs := hyg_subst args hn.2
    have hcwc : HygCwcOK (.dtor scrutinee id tyArgs args ty) := by
      intro c st hc
      simp only [hygBoth, hs, Bool.true_and]
      split
      · rfl
      · split
        · rfl
        · exact hsc _ _ (consOK_xtor _ _ _ _)
    exact ⟨hcwc, hygComp_default hcwc⟩
  | .case scrutinee tyArgs clauses ty => fun hn => by
    simp only [namesAgree, Bool.and_eq_true] at hn
    have hsc := (hyg_term scrutinee hn.1).1
    have hcl := hyg_clauses clauses hn.2
    have hcwc : HygCwcOK (.case scrutinee tyArgs clauses ty) := by
      intro c st hc
      simp only [hygBoth, hygGuarded]
      refine hygGuardedLvl_true ?_ _ _ _ hc
      intro c st hc hfree
      have hfv := bindersOccurFree_false.1 hfree
      have hr : ConsOK (if (decide (clausesLen clauses ≤ 1) || isLeaf c) = true then (c, st)
          else share c st).1 ∧
          ∀ x ∈ clausesNames clauses, x ∉ fvNames (if (decide (clausesLen clauses ≤ 1) || isLeaf c) = true
            then (c, st) else share c st).1 := by
        split
        · exact ⟨hc, hfv⟩
        · exact ⟨consOK_share _ _, fun x hx h => hfv x hx (fvNames_share_subset c st hc x h)⟩
      generalize (if (decide (clausesLen clauses ≤ 1) || isLeaf c) = true then (c, st)
        else share c st) = r at hr
      simp only [hcl _ _ hr.1 hr.2, Bool.true_and]
      split
      · rfl
      · split
        · rfl
        · exact hsc _ _ (consOK_xcase _ _ _)
    exact ⟨hcwc, hygComp_default hcwc⟩
  | .new clauses ty => fun hn => by
    simp only [namesAgree] at hn
    have hs := hyg_coclauses clauses hn
    exact ⟨fun c st _ => by simp only [hygBoth, hs], fun _ st => by simp only [hygBoth, hs]⟩
  | .goto target t ty => fun hn => by
    simp only [namesAgree] at hn
    have ht := (hyg_term t hn).1
    have hcwc : HygCwcOK (.goto target t ty) := by
      intro c st hc
      simp only [hygBoth]
      split
      · rfl
      · exact ht _ _ (consOK_var _ _ _)
    exact ⟨hcwc, hygComp_default hcwc⟩
  | .label a t ty => fun hn => by
    simp only [namesAgree] at hn
    have ht := (hyg_term t hn).1
    refine ⟨fun c st _ => ?_, fun cty st => ?_⟩
    · simp only [hygBoth]
      split
      · rfl
      · exact ht _ _ (consOK_var _ _ _)
    · simp only [hygBoth]
      split
      · rfl
      · exact ht _ _ (consOK_var _ _ _)
  | .exit arg ty => fun hn => by
    simp only [namesAgree] at hn
    have ha := (hyg_term arg hn).2
    have hcwc : HygCwcOK (.exit arg ty) := fun c st _ => by simp only [hygBoth, ha]
    exact ⟨hcwc, hygComp_default hcwc⟩
  | .paren inner => fun hn => by
    simp only [namesAgree] at hn
    have hi := hyg_term inner hn
    exact ⟨fun c st hc => hi.1 c st hc, fun ty st => hi.2 ty st⟩
theorem hyg_subst : ∀ args : Fun.Terms, namesAgreeArgs args = true → ∀ st, hygSubst args st = true
  | .nil => fun _ => fun _ => rfl
  | .cons term rest => fun hn => by
    simp only [namesAgreeArgs, Bool.and_eq_true] at hn
    have ht := (hyg_term term hn.1).2
    have hr := hyg_subst rest hn.2
    intro st
    unfold hygSubst
    split
    · exact hr _
    · split
      · rfl
      · simp only [ht, hr, Bool.true_and]
        hyg_close
theorem hyg_clauses : ∀ cs : Fun.Clauses, namesAgreeClauses cs = true →
    ∀ cont st, ConsOK cont → (∀ x ∈ clausesNames cs, x ∉ fvNames cont) →
      hygClauses cs cont st = true
  | .nil => fun _ => fun _ _ _ _ => rfl
  | .cons pol xtor names ctx body rest => fun hn => by
    simp only [namesAgreeClauses, Bool.and_eq_true, beq_iff_eq] at hn
    have hb := (hyg_term body hn.1.2).1
    have hr := hyg_clauses rest hn.2
    intro cont st hc hfv
    have hno : noCapture (ctx.map (·.var)) cont = true := by
      rw [noCapture_true, ← hn.1.1]
      exact fun x hx => hfv x (by simp [clausesNames, hx])
    have hrest : ∀ st1, hygClauses rest cont st1 = true :=
      fun st1 => hr cont st1 hc (fun x hx => hfv x (by simp [clausesNames, hx]))
    unfold hygClauses
    simp only [hno, hb _ _ hc, hrest, Bool.true_and]
    hyg_close
theorem hyg_coclauses : ∀ cs : Fun.Clauses, namesAgreeClauses cs = true →
    ∀ st, hygCoclauses cs st = true
  | .nil => fun _ => fun _ => rfl
  | .cons pol xtor names ctx body rest => fun hn => by
    simp only [namesAgreeClauses, Bool.and_eq_true] at hn
    have hb := (hyg_term body hn.1.2).1
    have hr := hyg_coclauses rest hn.2
    intro st
    unfold hygCoclauses
    split
    · rfl
    · simp only [hb _ _ (consOK_var _ _ _), hr, Bool.true_and]
      hyg_close
end

/-- C02 no capture, term level: for every term whose clause names agree with its typed clause
contexts, every consumer and every state, nowhere in
`compileWithCont t c st` is a consumer placed under a binder whose name occurs free in it. -/
theorem hygienic_cwc (t : Fun.Term) (hn : namesAgree t = true) (c : Core.Term)
    (st : CompileState) (hc : ConsOK c) : (hygBoth t).1 c st = true :=
  (hyg_term t hn).1 c st hc

/-- `namesAgree` for the body of every definition -/
def namesAgreeProg (p : Fun.CheckedProgram) : Bool := p.defs.all fun d => namesAgree d.body

theorem hygDefs_true (cts : List Core.TypeDecl) :
    ∀ (defs : List Fun.Def) (l : List String), (defs.all fun d => namesAgree d.body) = true →
      hygDefs cts defs l = true
  | [] => fun _ _ => rfl
  | d :: rest => fun l h => by
    simp only [List.all_cons, Bool.and_eq_true] at h
    unfold hygDefs
    have h1 : ∀ b : Bool, (hygDef b d cts l).1 = true := by
      intro b
      unfold hygDef
      simp only
      split
      · rfl
      · cases b
        · simp only [Bool.false_eq_true, if_false]
          split <;> exact hygienic_cwc d.body h.1 _ _ (consOK_var _ _ _)
        · simp only [if_true]
          split <;> exact hygienic_cwc d.body h.1 _ _ (consOK_mu _ _ _)
    simp only [h1, Bool.true_and]
    exact hygDefs_true cts rest _ h.2

theorem hygienic_prog (p : Fun.CheckedProgram) (h : namesAgreeProg p = true) :
    Hygienic p = true := by
  unfold Hygienic
  exact hygDefs_true _ _ _ h

end Scc.Fun2Core
