/-
  Scc.Fun2Core.SemRelLemmas — structural lemmas about the relations of Scc.Fun2Core.SemRel:
  monotonicity in the bound of machine-fresh names, closure of closures under agreement of
  environments, environment lookups.
-/
import Scc.Fun2Core.SemRel
import Scc.Fun2Core.SemTfv
import Scc.Fun2Core.SemCodTyping

namespace Scc.Fun2Core.Sem

variable {G : Fun.Term → Prop} {q : Core.Prog} {p : Fun.CheckedProgram}

theorem lookup_cons (x y : Core.Ident) (V : CVal) (ρ : CEnv) :
    Core.Env.lookup ((y, V) :: ρ) x = if y = x then .ok V else Core.Env.lookup ρ x := rfl

theorem lookup_cons_self (x : Core.Ident) (V : CVal) (ρ : CEnv) :
    Core.Env.lookup ((x, V) :: ρ) x = .ok V := by simp [lookup_cons]

theorem lookup_cons_ne {x y : Core.Ident} (h : y ≠ x) (V : CVal) (ρ : CEnv) :
    Core.Env.lookup ((y, V) :: ρ) x = Core.Env.lookup ρ x := by simp [lookup_cons, h]

theorem AgreeOn.cons {bs : List Core.Binding} {x : Core.Ident} {V : CVal} {ρ0 ρ : CEnv}
    (h : AgreeOn (bs.filter (·.var ≠ x)) ρ0 ρ) : AgreeOn bs ((x, V) :: ρ0) ((x, V) :: ρ) := by
  intro b hb
  by_cases hx : x = b.var
  · simp [lookup_cons, hx]
  · rw [lookup_cons_ne hx, lookup_cons_ne hx]
    exact h b (List.mem_filter.2 ⟨hb, by simpa using fun h => hx h.symm⟩)

theorem AgreeOn.cons_right {bs : List Core.Binding} {x : Core.Ident} {V : CVal} {ρ0 ρ : CEnv}
    (h : AgreeOn bs ρ0 ρ) (hx : ∀ b ∈ bs, b.var ≠ x) : AgreeOn bs ρ0 ((x, V) :: ρ) := by
  intro b hb
  rw [lookup_cons_ne (fun e => hx b hb e.symm)]
  exact h b hb

theorem AgreeOn.filter {bs : List Core.Binding} {P : Core.Binding → Bool} {ρ0 ρ : CEnv}
    (h : AgreeOn bs ρ0 ρ) : AgreeOn (bs.filter P) ρ0 ρ :=
  h.mono fun _ hb => (List.mem_filter.1 hb).1

theorem ConsNames.mono {c st n m} (hnm : n ≤ m) (h : ConsNames c st n) : ConsNames c st m := by
  intro b hb
  rcases h b hb with ⟨h1, h2⟩ | h
  · exact .inl ⟨h1, by omega⟩
  · exact .inr h

theorem Compiled.mono {n m t c s} (hnm : n ≤ m) (h : Compiled q n t c s) : Compiled q m t c s := by
  obtain ⟨st, st', h1, h2, h3, h4⟩ := h
  exact ⟨st, st', h1, h2, h3, h4.mono hnm⟩

theorem CompiledCl.mono {n m cs c cs'} (hnm : n ≤ m) (h : CompiledCl q n cs c cs') :
    CompiledCl q m cs c cs' := by
  obtain ⟨st, st', h1, h2, h3, h4⟩ := h
  exact ⟨st, st', h1, h2, h3, h4.mono hnm⟩

mutual
  theorem VRel.mono {n m : Nat} (h : n ≤ m) : ∀ {v : Fun.Value} {V : CVal},
      VRel G p q n v V → VRel G p q m v V
    | _, _, .int _ a => .int _ a
    | _, _, .con hl => .con (VRelL.mono h hl)
    | _, _, .cont hk => .cont (KAny.mono h hk)
    | _, _, .obj g c e bd a => .obj g c (EnvRel.mono h e) bd a
  theorem VRelL.mono {n m : Nat} (h : n ≤ m) : ∀ {vs : List Fun.Value} {Vs : List CVal},
      VRelL G p q n vs Vs → VRelL G p q m vs Vs
    | _, _, .nil _ => .nil _
    | _, _, .cons h1 h2 => .cons (VRel.mono h h1) (VRelL.mono h h2)
  theorem EnvRel.mono {n m : Nat} (h : n ≤ m) : ∀ {xs : List String} {env : Fun.Env} {ρ : CEnv},
      EnvRel G p q n xs env ρ → EnvRel G p q m xs env ρ
    | _, _, _, .mk f g h1 h2 h3 => .mk f g h1 h2 (fun y hy => VRel.mono h (h3 y hy))
  theorem CRel.mono {n m : Nat} (h : n ≤ m) : ∀ {k : Fun.Stack} {c : Core.Term} {ρ : CEnv},
      CRel G p q n k c ρ → CRel G p q m k c ρ
    | _, _, _, .mk h1 h2 h3 h4 h5 => .mk h1 (KRel.mono h h2) h3 h4 h5
    | _, _, _, .mkD h1 h2 h3 h4 h5 => .mkD h1 (KRelD.mono h h2) h3 h4 h5
    | _, _, _, .dtor c1 c2 c3 c4 c5 c6 e r hs bd a hty =>
      .dtor c1 c2 c3 c4 c5 c6 (EnvRel.mono h e) (CRel.mono h r)
        (fun b hb e' => Nat.lt_of_lt_of_le (hs b hb e') h) bd a hty
  theorem KAny.mono {n m : Nat} (h : n ≤ m) : ∀ {k : Fun.Stack} {cv : CVal},
      KAny G p q n k cv → KAny G p q m k cv
    | _, _, .nc hk => .nc (KRel.mono h hk)
    | _, _, .cd hk => .cd (KRelD.mono h hk)
  theorem KRelD.mono {n m : Nat} (h : n ≤ m) : ∀ {k : Fun.Stack} {cv : CVal},
      KRelD G p q n k cv → KRelD G p q m k cv
    | _, _, .dtorA hl hk => .dtorA (VRelL.mono h hl) (KAny.mono h hk)
    | _, _, .dtorS hpt hp hl hk => .dtorS hpt hp (VRelL.mono h hl) (KAny.mono h hk)
    | _, _, .shared hd hc hk bd a => .shared hd hc (KRelD.mono h hk) bd a
    | _, _, .eta r hy h1 h2 hs hx bd a =>
      .eta (CRel.mono h r) hy h1 h2 (fun b hb e' => Nat.lt_of_lt_of_le (hs b hb e') h)
        (fun e' => Nat.lt_of_lt_of_le (hx e') h) bd a
  theorem KRel.mono {n m : Nat} (h : n ≤ m) : ∀ {k : Fun.Stack} {cv : CVal},
      KRel G p q n k cv → KRel G p q m k cv
    | _, _, .main => .main
    | _, _, .exitF => .exitF
    | _, _, .letF g c e r hy bd a =>
      .letF g (c.mono h) (EnvRel.mono h e) (CRel.mono h r) hy bd a
    | _, _, .ifL g1 g2 g3 hi hb cb ct ce e r bd a =>
      .ifL g1 g2 g3 (by omega) hb cb ct ce (EnvRel.mono h e) (CRel.mono h r) bd a
    | _, _, .ifR g2 g3 hi hz hl ct ce e r bd a =>
      .ifR g2 g3 (by omega) hz hl ct ce (EnvRel.mono h e) (CRel.mono h r) bd a
    | _, _, .ifZ g2 g3 hi ct ce e r bd a =>
      .ifZ g2 g3 (by omega) ct ce (EnvRel.mono h e) (CRel.mono h r) bd a
    | _, _, .print g hi cn e r bd a =>
      .print g (by omega) cn (EnvRel.mono h e) (CRel.mono h r) bd a
    | _, _, .caseF g cc e r hy bd a =>
      .caseF g (cc.mono h) (EnvRel.mono h e) (CRel.mono h r) hy bd a
    | _, _, .shared hd hc hk bd a => .shared hd hc (KRel.mono h hk) bd a
    | _, _, .eta r hy hn hck bd a => .eta (CRel.mono h r) hy hn hck bd a
end

mutual
  theorem KRel.kk {n : Nat} : ∀ {k : Fun.Stack} {cv : CVal}, KRel G p q n k cv → kkind k = false
    | _, _, .main => rfl
    | _, _, .exitF => rfl
    | _, _, .letF .. => rfl
    | _, _, .ifL .. => rfl
    | _, _, .ifR .. => rfl
    | _, _, .ifZ .. => rfl
    | _, _, .print .. => rfl
    | _, _, .caseF .. => rfl
    | _, _, .shared _ _ hk _ _ => KRel.kk hk
    | _, _, .eta r _ _ hck _ _ => (CRel.kk r).trans hck
  theorem KRelD.kk {n : Nat} : ∀ {k : Fun.Stack} {cv : CVal}, KRelD G p q n k cv → kkind k = true
    | _, _, .dtorA .. => rfl
    | _, _, .dtorS .. => rfl
    | _, _, .shared _ _ hk _ _ => KRelD.kk hk
    | _, _, .eta r _ _ hck _ _ _ _ => (CRel.kk r).trans hck
  /-- the stack expects a codata value iff the type of the consumer is a codata type -/
  theorem CRel.kk {n : Nat} : ∀ {k : Fun.Stack} {c : Core.Term} {ρ : CEnv}, CRel G p q n k c ρ →
      kkind k = Core.isCodata q.codataTypes (coreGetType c)
    | _, _, _, .mk _ hk _ _ hty => (KRel.kk hk).trans hty.symm
    | _, _, _, .mkD _ hk _ _ hty => (KRelD.kk hk).trans hty.symm
    | _, _, _, .dtor _ _ _ _ _ _ _ _ _ _ _ hty => by simpa [kkind, coreGetType] using hty.symm
end

/-- a `μ~`-closure may be moved to an environment that agrees on its free variables -/
theorem KRel.agree_mu {n : Nat} {k : Fun.Stack} {ρ ρ' : CEnv} {x : Core.Ident} {s : Core.Stmt}
    (h : KRel G p q n k (.mutilde ρ x s))
    (ha : AgreeOn ((tfvStmt s []).filter (·.var ≠ x)) ρ ρ') : KRel G p q n k (.mutilde ρ' x s) := by
  cases h with
  | main => exact .main
  | exitF => exact .exitF
  | letF g c e r hy bd a => exact .letF g c e r hy bd (a.trans ha)
  | ifL g1 g2 g3 hi hb cb ct ce e r bd a => exact .ifL g1 g2 g3 hi hb cb ct ce e r bd (a.trans ha)
  | ifR g2 g3 hi hz hl ct ce e r bd a =>
    refine .ifR g2 g3 hi hz ?_ ct ce e r bd (a.trans (ha.mono fun y hy => ?_))
    · rw [ha _ (List.mem_filter.2 ⟨mem_tfv_ifc.2 (.inl (mem_tfv_var.2 rfl)), by simpa using hz⟩)]
      exact hl
    · obtain ⟨h1, h2⟩ := List.mem_filter.1 hy
      refine List.mem_filter.2 ⟨?_, h2⟩
      rcases List.mem_append.1 h1 with h | h
      · exact mem_tfv_ifc.2 (.inr (.inr (.inl h)))
      · exact mem_tfv_ifc.2 (.inr (.inr (.inr h)))
  | ifZ g2 g3 hi ct ce e r bd a => exact .ifZ g2 g3 hi ct ce e r bd (a.trans ha)
  | print g hi cn e r bd a => exact .print g hi cn e r bd (a.trans ha)
  | shared hd hc hk bd a => exact .shared hd hc hk bd (a.trans ha)
  | eta r hy hn hck bd a => exact .eta r hy hn hck bd (a.trans ha)

theorem KRelD.agree_mu {n : Nat} {k : Fun.Stack} {ρ ρ' : CEnv} {x : Core.Ident} {s : Core.Stmt}
    (h : KRelD G p q n k (.mutilde ρ x s))
    (ha : AgreeOn ((tfvStmt s []).filter (·.var ≠ x)) ρ ρ') : KRelD G p q n k (.mutilde ρ' x s) := by
  cases h with
  | shared hd hc hk bd a => exact .shared hd hc hk bd (a.trans ha)
  | eta r hy h1 h2 hs hx bd a => exact .eta r hy h1 h2 hs hx bd (a.trans ha)

theorem KRel.agree_case {n : Nat} {k : Fun.Stack} {ρ ρ' : CEnv} {cs' : Core.Clauses}
    (h : KRel G p q n k (.case ρ cs'))
    (ha : AgreeOn (tfvClauses cs' []) ρ ρ') : KRel G p q n k (.case ρ' cs') := by
  cases h with
  | caseF g cc e r hy bd a => exact .caseF g cc e r hy bd (a.trans ha)

theorem BoundOn.agree {bs : List Core.Binding} {ρ ρ' : CEnv} (h : BoundOn bs ρ)
    (ha : AgreeOn bs ρ ρ') : BoundOn bs ρ' := fun b hb => by
  rw [ha b hb]; exact h b hb

/-- the value of an inert consumer in an environment that agrees on its free variables: the same
value for a variable, the same closure over the other environment for `μ~` and `case` -/
theorem cnsVal_agree {c : Core.Term} {ρ ρ' : CEnv} {cv : CVal} (hv : Core.cnsVal ρ c = .ok cv)
    (hi : Inert c) (ha : AgreeOn (tfvTerm c []) ρ ρ') :
    Core.cnsVal ρ' c = .ok cv ∨
    (∃ x s, cv = .mutilde ρ x s ∧ Core.cnsVal ρ' c = .ok (.mutilde ρ' x s) ∧
      AgreeOn ((tfvStmt s []).filter (·.var ≠ x)) ρ ρ') ∨
    (∃ cs, cv = .case ρ cs ∧ Core.cnsVal ρ' c = .ok (.case ρ' cs) ∧
      AgreeOn (tfvClauses cs []) ρ ρ') := by
  cases c with
  | var pc v ty =>
    simp only [Core.cnsVal] at hv ⊢
    rw [ha ⟨v, pc, ty⟩ (by simp [tfvTerm, bsetInsert])]
    exact .inl hv
  | mu pc x ty s =>
    simp only [Core.cnsVal, Except.ok.injEq] at hv
    exact .inr (.inl ⟨x, s, hv.symm, rfl, ha.mono filter_sub_tfv_mu⟩)
  | xcase pc ty cs =>
    simp only [Core.cnsVal, Except.ok.injEq] at hv
    exact .inr (.inr ⟨cs, hv.symm, rfl, by simpa [tfvTerm] using ha⟩)
  | xtor pc nm as ty => exact absurd hi (by simp [Inert])
  | lit m => simp [Core.cnsVal] at hv
  | op a o b => simp [Core.cnsVal] at hv

theorem CRel.agree {n : Nat} {k : Fun.Stack} {c : Core.Term} {ρ ρ' : CEnv}
    (h : CRel G p q n k c ρ) (ha : AgreeOn (tfvTerm c []) ρ ρ') : CRel G p q n k c ρ' := by
  cases h with
  | mk hv hk hi hb hty =>
    rcases cnsVal_agree hv hi ha with h | ⟨x, s, rfl, h, hs⟩ | ⟨cs, rfl, h, hs⟩
    · exact .mk h hk hi (hb.agree ha) hty
    · exact .mk h (hk.agree_mu hs) hi (hb.agree ha) hty
    · exact .mk h (hk.agree_case hs) hi (hb.agree ha) hty
  | mkD hv hk hi hb hty =>
    rcases cnsVal_agree hv hi ha with h | ⟨x, s, rfl, h, hs⟩ | ⟨cs, rfl, h, hs⟩
    · exact .mkD h hk hi (hb.agree ha) hty
    · exact .mkD h (hk.agree_mu hs) hi (hb.agree ha) hty
    · cases hk
  | dtor c1 c2 c3 c4 c5 c6 e r hs bd a hty => exact .dtor c1 c2 c3 c4 c5 c6 e r hs bd (a.trans ha) hty

theorem EnvRel.sub {n xs ys env ρ} (h : EnvRel G p q n xs env ρ) (hs : ∀ y ∈ ys, y ∈ xs) :
    EnvRel G p q n ys env ρ := by
  cases h with
  | mk f g h1 h2 h3 =>
    exact .mk f g (fun y hy => h1 y (hs y hy)) (fun y hy => h2 y (hs y hy)) (fun y hy => h3 y (hs y hy))

theorem EnvRel.get {n xs env ρ} (h : EnvRel G p q n xs env ρ) {y : String} (hy : y ∈ xs) :
    ∃ v V, Fun.lookup y env = some v ∧ Core.Env.lookup ρ ⟨y, 0⟩ = .ok V ∧ VRel G p q n v V := by
  cases h with
  | mk f g h1 h2 h3 => exact ⟨f y, g y, h1 y hy, h2 y hy, h3 y hy⟩

theorem EnvRel.of_get {n xs env ρ}
    (h : ∀ y ∈ xs, ∃ v V, Fun.lookup y env = some v ∧ Core.Env.lookup ρ ⟨y, 0⟩ = .ok V ∧ VRel G p q n v V) :
    EnvRel G p q n xs env ρ := by
  classical
  refine .mk (fun y => if hy : y ∈ xs then (h y hy).choose else .int 0)
    (fun y => if hy : y ∈ xs then (h y hy).choose_spec.choose else .int 0) ?_ ?_ ?_
  · intro y hy
    simp only [hy, dite_true]
    exact (h y hy).choose_spec.choose_spec.1
  · intro y hy
    simp only [hy, dite_true]
    exact (h y hy).choose_spec.choose_spec.2.1
  · intro y hy
    simp only [hy, dite_true]
    exact (h y hy).choose_spec.choose_spec.2.2

theorem EnvRel.agree {n xs env ρ ρ'} (h : EnvRel G p q n xs env ρ)
    (ha : ∀ y ∈ xs, Core.Env.lookup ρ' ⟨y, 0⟩ = Core.Env.lookup ρ ⟨y, 0⟩) :
    EnvRel G p q n xs env ρ' := by
  refine .of_get fun y hy => ?_
  obtain ⟨v, V, h1, h2, h3⟩ := h.get hy
  exact ⟨v, V, h1, by rw [ha y hy, h2], h3⟩

theorem EnvRel.bind {n xs env ρ x v V} (h : EnvRel G p q n (xs.filter (· ≠ x)) env ρ)
    (hv : VRel G p q n v V) : EnvRel G p q n xs ((x, v) :: env) ((⟨x, 0⟩, V) :: ρ) := by
  refine .of_get fun y hy => ?_
  by_cases hx : y = x
  · subst hx
    exact ⟨v, V, by simp [Fun.lookup], lookup_cons_self _ _ _, hv⟩
  · obtain ⟨v', V', h1, h2, h3⟩ := h.get (List.mem_filter.2 ⟨hy, by simpa using hx⟩)
    refine ⟨v', V', ?_, ?_, h3⟩
    · simp [Fun.lookup, hx, h1]
    · rw [lookup_cons_ne (by intro e; exact hx (by cases e; rfl))]
      exact h2

end Scc.Fun2Core.Sem
