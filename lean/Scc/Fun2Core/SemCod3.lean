/-
  Scc.Fun2Core.SemCod3 — `force_cr` / `force_k'`: every consumer of a codata type that is related to a
  stack of the Fun machine can be forced (`Forced`, Scc/Fun2Core/SemCod1.lean): by mutual recursion on
  the derivations of the relations `CRel` (consumer terms: a covariable bound to a destructor value, a
  continuation lifted by `share`, a destructor `d(args; c')` whose pure arguments the Core machine
  now evaluates and whose continuation argument `c'` it focuses — recursively forcing it if it is of
  a codata type) and `KRelD` (the closures `μ~x.share_k(…)`, `μ~x.⟨x | c⟩`).
-/
import Scc.Fun2Core.SemCod2

namespace Scc.Fun2Core.Sem

variable {q : Core.Prog} {p : Fun.CheckedProgram}

theorem argsSnoc_eq : ∀ (as : Core.Args) (pc : Core.PC) (t : Core.Term),
    argsSnoc as pc t = appArgs as (.cons pc t .nil)
  | .nil => fun _ _ => rfl
  | .cons p a r => fun pc t => by simp [argsSnoc, appArgs, argsSnoc_eq r pc t]

theorem mem_tfvArgs_app {y : Core.Binding} : ∀ (a b : Core.Args),
    y ∈ tfvArgs (appArgs a b) [] ↔ y ∈ tfvArgs a [] ∨ y ∈ tfvArgs b []
  | .nil => fun b => by simp [appArgs, tfvArgs]
  | .cons pc t r => fun b => by
    simp only [appArgs]
    rw [mem_tfv_args_cons, mem_tfv_args_cons, mem_tfvArgs_app r b, or_assoc]

theorem bind_snoc : ∀ (ctx : Core.Ctx) (Vs : List CVal) (ρ : CEnv) (b : Core.Binding) (V : CVal),
    ctx.length = Vs.length →
    Core.Env.bind ρ (ctx ++ [b]) (Vs ++ [V]) = Core.Env.bind ((b.var, V) :: ρ) ctx Vs
  | [], [], ρ, b, V, _ => by simp [Core.Env.bind]
  | [], _ :: _, _, _, _, h => by simp at h
  | _ :: _, [], _, _, _, h => by simp at h
  | c :: ctx, W :: Vs, ρ, b, V, h => by
    simp only [List.cons_append, Core.Env.bind]
    rw [bind_snoc ctx Vs ρ b V (by simpa using h)]

theorem KRelD.shape {n : Nat} {k : Fun.Stack} {cv : CVal} (h : KRelD (GP p) p q n k cv) :
    (∃ d Vs, cv = .dtor ⟨d, 0⟩ Vs) ∨ (∃ ρc y s, cv = .mutilde ρc y s) := by
  cases h with
  | dtorA _ _ => exact .inl ⟨_, _, rfl⟩
  | dtorS _ _ _ _ => exact .inl ⟨_, _, rfl⟩
  | shared _ _ _ _ _ => exact .inr ⟨_, _, _, rfl⟩
  | eta _ _ _ _ _ _ _ _ => exact .inr ⟨_, _, _, rfl⟩

/-- the induction hypothesis for a consumer term -/
structure ForceCrIH (p : Fun.CheckedProgram) (q : Core.Prog) (n : Nat) (k : Fun.Stack) (c : Core.Term)
    (ρ0 : CEnv) : Prop where
  run : Core.isCodata q.codataTypes (coreGetType c) = true →
    ∀ {cty : Core.Ty} {P : Core.Term} {ρ : CEnv} {out : Out} {m : Nat},
      Core.isCodata q.codataTypes cty = true → CdPrd P → n ≤ m →
      AgreeOn (tfvTerm c []) ρ0 ρ → PrdOK P ρ m → Forced p q k cty P c ρ out m

/-- the induction hypothesis for a forwarding closure -/
structure ForceKIH (p : Fun.CheckedProgram) (q : Core.Prog) (n : Nat) (k : Fun.Stack) (cv : CVal) :
    Prop where
  run : ∀ {ρx : CEnv} {x : Core.Ident} {S : Core.Stmt}, cv = .mutilde ρx x S →
    ∀ {pv : CVal} {ρ1 : CEnv} {out : Out} {m : Nat}, n ≤ m →
      AgreeOn (tfvStmt S []) ((x, pv) :: ρx) ρ1 → ForcedK p q k S pv ρ1 out m

/-- a consumer with a value: a covariable or a lifted continuation -/
theorem force_mkD {n : Nat} {k : Fun.Stack} {c : Core.Term} {ρ0 : CEnv} {cv : CVal}
    (hcv : Core.cnsVal ρ0 c = .ok cv) (hk : KRelD (GP p) p q n k cv) (hi : Inert c)
    (IH : ForceKIH p q n k cv)
    {cty : Core.Ty} {P : Core.Term} {ρ : CEnv} {out : Out} {m : Nat}
    (hcd : Core.isCodata q.codataTypes cty = true) (hP : CdPrd P) (hnm : n ≤ m)
    (hag : AgreeOn (tfvTerm c []) ρ0 ρ) (hok : PrdOK P ρ m) : Forced p q k cty P c ρ out m := by
  obtain ⟨pv, hpv⟩ := hok ρ (.refl _ _)
  cases c with
  | xtor pc nm as ty => exact False.elim hi
  | lit _ => simp [Core.cnsVal] at hcv
  | op _ _ _ => simp [Core.cnsVal] at hcv
  | xcase pc ty cs =>
    simp only [Core.cnsVal, Except.ok.injEq] at hcv
    subst hcv
    rcases hk.shape with ⟨_, _, e⟩ | ⟨_, _, _, e⟩ <;> cases e
  | var pc a ty =>
    simp only [Core.cnsVal] at hcv
    have hl : Core.cnsVal ρ (.var pc a ty) = .ok cv := by
      simp only [Core.cnsVal]
      rw [hag ⟨a, pc, ty⟩ (mem_tfv_var.2 rfl)]; exact hcv
    rcases hk.shape with ⟨d, Vs, rfl⟩ | ⟨ρx, x, S, rfl⟩
    · exact ⟨0, _, ρ, pv, d, Vs, .refl _, rfl, Nat.le_refl _, .refl _ _, hpv,
        step_cut_cd_dtor hcd hP trivial hl hpv, hk.mono hnm⟩
    · have s1 := step_cut_cd_mu (q := q) hcd (out := out) (n := m) hP (c := .var pc a ty) trivial hl hpv
      obtain ⟨i, S1, d, Vs, hc, ho, hm1, hs, hk1⟩ :=
        IH.run rfl (pv := pv) (ρ1 := (x, pv) :: ρx) (out := out) hnm (.refl _ _)
      exact ⟨1 + i, S1, ρ, pv, d, Vs, (CSteps.one s1).trans hc, ho, hm1, .refl _ _, hpv, hs, hk1⟩
  | mu pc x ty S =>
    have hpc : pc = .cns := by
      cases pc
      · exact False.elim hi
      · rfl
    subst hpc
    simp only [Core.cnsVal, Except.ok.injEq] at hcv
    subst hcv
    have s1 := step_cut_cd_mu (q := q) hcd (out := out) (n := m) hP (c := .mu .cns x ty S) trivial
      (ρ' := ρ) (x := x) (s := S) rfl hpv
    obtain ⟨i, S1, d, Vs, hc, ho, hm1, hs, hk1⟩ :=
      IH.run rfl (pv := pv) (ρ1 := (x, pv) :: ρ) (out := out) hnm
        (AgreeOn.cons (hag.mono filter_sub_tfv_mu))
    exact ⟨1 + i, S1, ρ, pv, d, Vs, (CSteps.one s1).trans hc, ho, hm1, .refl _ _, hpv, hs, hk1⟩

/-- a destructor `d(args; c')` as a consumer term -/
theorem force_dtor {n : Nat} {d : String} {args : Fun.Terms} {env : Fun.Env} {k' : Fun.Stack}
    {ρ0i ρc : CEnv} {c' : Core.Term} {as' : Core.Args} {ty : Core.Ty} {st st' : CompileState}
    {gc : Fun.Clauses → Bool} {vs : List Fun.Value}
    (c1 : compileSubst args st = .ok (as', st')) (c2 : StOK q st') (c3 : ArgsNames args st)
    (c4 : pureFOs p gc args = true)
    (c5 : ∀ cs, gc cs = true → ∀ K cl, Fun.findClause K cs = some cl →
      GP p cl.body ∧ cl.names.Nodup ∧ cl.ctx.map (·.var) = cl.names)
    (c6 : pureArgs p args env = some vs)
    (e : EnvRel (GP p) p q n (fvArgs args) env ρ0i) (r : CRel (GP p) p q n k' c' ρ0i)
    (hs : ∀ b ∈ tfvTerm c' [], b.var.name = sig → b.var.id < n)
    (bd : BoundOn (tfvTerm (.xtor .cns ⟨d, 0⟩ (argsSnoc as' .cns c') ty) []) ρ0i)
    (a : AgreeOn (tfvTerm (.xtor .cns ⟨d, 0⟩ (argsSnoc as' .cns c') ty) []) ρ0i ρc)
    (IH : ForceCrIH p q n k' c' ρ0i)
    {cty : Core.Ty} {P : Core.Term} {ρ : CEnv} {out : Out} {m : Nat}
    (hcd : Core.isCodata q.codataTypes cty = true) (hP : CdPrd P) (hnm : n ≤ m)
    (hag : AgreeOn (tfvTerm (.xtor .cns ⟨d, 0⟩ (argsSnoc as' .cns c') ty) []) ρc ρ)
    (hok : PrdOK P ρ m) :
    Forced p q (.dtorScrut d args env :: k') cty P (.xtor .cns ⟨d, 0⟩ (argsSnoc as' .cns c') ty)
      ρ out m := by
  rw [argsSnoc_eq] at bd a hag ⊢
  have hagA := a.trans hag
  have hsubA : ∀ y ∈ tfvArgs as' [],
      y ∈ tfvTerm (.xtor .cns ⟨d, 0⟩ (appArgs as' (.cons .cns c' .nil)) ty) [] := fun y hy =>
    mem_tfv_xtor.2 ((mem_tfvArgs_app _ _).2 (.inl hy))
  have hsubC : ∀ y ∈ tfvTerm c' [],
      y ∈ tfvTerm (.xtor .cns ⟨d, 0⟩ (appArgs as' (.cons .cns c' .nil)) ty) [] := fun y hy =>
    mem_tfv_xtor.2 ((mem_tfvArgs_app _ _).2 (.inr (mem_tfv_args_cons.2 (.inl hy))))
  -- the arguments
  obtain ⟨i1, ρ1, n1, as'', Vs, hc1, hn1, hext1, hall, hsb, hav, hvl⟩ :=
    core_args (G := GP p) (q := q) (p := p) gc c5 args c4
      (fun a => .cut cty P (.xtor .cns ⟨d, 0⟩ a ty)) (argCtx_cd _ _ _ _ hP) (.cons .cns c' .nil) env vs
      st as' st' n ρ0i ρ m out .nil [] c1 c2 c3 c6 e (bd.mono hsubA) (hagA.mono hsubA) rfl trivial rfl
  simp only [appArgs, List.nil_append] at hc1 hsb hav
  -- the continuation argument
  have hsig' : ∀ b ∈ tfvTerm c' [], b.var.name = sig → b.var.id < n1 := fun b hb e' => by
    have := hs b hb e'; omega
  have hag' : AgreeOn (tfvTerm c' []) ρ0i ρ1 := by
    intro b hb
    rw [hext1.lookup b.var (fun e' => by have := hs b hb e'; omega)]
    exact hagA b (hsubC b hb)
  obtain ⟨i2, ρ2, n2, pc, z, tz, cv', hc2, hn2, hext2, hl, _, hka⟩ :=
    focus_cons r (by omega : n ≤ n1) hsig' hag'
      (fun h => .cut cty P (.xtor .cns ⟨d, 0⟩ (appArgs as'' (.cons .cns h .nil)) ty))
      (fun hv => argCtx_cd cty ty ⟨d, 0⟩ P hP (appArgs as'' (.cons .cns c' .nil)) .cns c'
        (fun h => appArgs as'' (.cons .cns h .nil)) (by
          rw [args_split_app _ _ hall, args_split_cons_nonvar hv]))
      out
      (fun hcd' _ a' s' => IH.run hcd' (cty := c'.ty) (P := .mu .prd a' c'.ty s') (ρ := ρ1)
        (out := out) (m := n1 + 1) (by rw [← coreGetType_eq_ty]; exact hcd') trivial (by omega) hag'
        (prdOK_mu _ _ _ _ _ _))
  have hav2 : Core.argVals ρ2 (appArgs as'' (.cons .cns (.var pc z tz) .nil)) = .ok (Vs ++ [cv']) := by
    refine argVals_app_single as'' Vs ?_ hl
    rw [argVals_sigExt hext2 as'' hsb]; exact hav
  have hall2 : argsAllVar (appArgs as'' (.cons .cns (.var pc z tz) .nil)) = true := by
    simp [argsAllVar_app, hall, argsAllVar, Core.Term.isVar]
  have hext12 : SigExt m ρ ρ2 := hext1.trans hext2 hn1
  obtain ⟨pv, hpv⟩ := hok ρ2 hext12
  have s3 := step_cut_cd_xtor (q := q) hcd (ty := ty) (d := ⟨d, 0⟩) (out := out) (n := n2) hP hall2
    hav2 hpv
  exact ⟨i1 + i2, _, ρ2, pv, d, Vs ++ [cv'], hc1.trans hc2, rfl, by simp only; omega, hext12, hpv, s3,
    .dtorS (pureFOs_pure gc args c4) c6 (hvl.mono (by simp only; omega)) hka⟩

/-- the closure of a continuation lifted by `share` -/
theorem forcek_shared (X : Ctx p q) {n : Nat} {k : Fun.Stack} {ρ0 ρx : CEnv} {x0 : Core.Ident}
    {d : Core.Def} {ty : Core.Ty} (hd : d ∈ q.defs) (hc : d.ctx = tfvStmt d.body [])
    (bd : BoundOn ((tfvStmt (.call d.name (bindingsToArgs d.ctx) ty) []).filter (·.var ≠ x0)) ρ0)
    (a : AgreeOn ((tfvStmt (.call d.name (bindingsToArgs d.ctx) ty) []).filter (·.var ≠ x0)) ρ0 ρx)
    (IH : ForceKIH p q n k (.mutilde ρ0 x0 d.body))
    {pv : CVal} {ρ1 : CEnv} {out : Out} {m : Nat} (hnm : n ≤ m)
    (ha : AgreeOn (tfvStmt (.call d.name (bindingsToArgs d.ctx) ty) []) ((x0, pv) :: ρx) ρ1) :
    ForcedK p q k (.call d.name (bindingsToArgs d.ctx) ty) pv ρ1 out m := by
  obtain ⟨ρn, hs, hagn⟩ := shared_step X hd hc bd a ha out m
  obtain ⟨i, S1, d', Vs, hcs, ho, hm1, hst, hk1⟩ := IH.run rfl (pv := pv) (out := out) hnm hagn
  exact ⟨1 + i, S1, d', Vs, (CSteps.one hs).trans hcs, ho, hm1, hst, hk1⟩

/-- the closure `μ~x.⟨x | c⟩` -/
theorem forcek_eta {n : Nat} {k : Fun.Stack} {ρ0 ρx : CEnv} {x0 : Core.Ident} {ty ty' : Core.Ty}
    {c : Core.Term} (hy : ∀ b ∈ tfvTerm c [], b.var ≠ x0)
    (hcd : Core.isCodata q.codataTypes ty = true)
    (hck : Core.isCodata q.codataTypes (coreGetType c) = true)
    (hx : x0.name = sig → x0.id < n)
    (a : AgreeOn ((tfvStmt (.cut ty (.var .prd x0 ty') c) []).filter (·.var ≠ x0)) ρ0 ρx)
    (IH : ForceCrIH p q n k c ρ0)
    {pv : CVal} {ρ1 : CEnv} {out : Out} {m : Nat} (hnm : n ≤ m)
    (ha : AgreeOn (tfvStmt (.cut ty (.var .prd x0 ty') c) []) ((x0, pv) :: ρx) ρ1) :
    ForcedK p q k (.cut ty (.var .prd x0 ty') c) pv ρ1 out m := by
  have hag1 := (AgreeOn.cons (V := pv) a).trans ha
  have hlx : Core.Env.lookup ρ1 x0 = .ok pv := by
    rw [ha _ (mem_tfv_cut.2 (.inl (mem_tfv_var.2 rfl)))]
    exact lookup_cons_self _ _ _
  have hx' : x0.name = sig → x0.id < m := fun e' => by have := hx e'; omega
  obtain ⟨i, S1, ρ', pv', d, Vs, hcs, ho, hm1, hext, hpv, hst, hk1⟩ :=
    IH.run hck (cty := ty) (P := .var .prd x0 ty') (ρ := ρ1) (out := out) (m := m) hcd trivial
      hnm (by
        intro b hb
        rw [hag1 b (mem_tfv_cut.2 (.inr hb)), lookup_cons_ne (fun e' => hy b hb e'.symm)])
      (prdOK_var hlx hx')
  have : pv' = pv := by
    simp only [Core.prdVal] at hpv
    rw [hext.lookup x0 hx', hlx] at hpv
    exact (Except.ok.inj hpv).symm
  subst this
  exact ⟨i, S1, d, Vs, hcs, ho, hm1, hst, hk1⟩

mutual
/-- forcing a consumer TERM of a codata type -/
theorem force_cr' (X : Ctx p q) {n : Nat} : ∀ {k : Fun.Stack} {c : Core.Term} {ρ0 : CEnv},
    CRel (GP p) p q n k c ρ0 → ForceCrIH p q n k c ρ0
  | _, _, _, .mk _ _ _ _ hty => ⟨by
    intro hck
    rw [hty] at hck; cases hck⟩
  | _, _, _, .mkD hcv hk hi _ _ => ⟨by
    intro _ cty P ρ out m hcd hP hnm hag hok
    exact force_mkD hcv hk hi (force_k' X hk) hcd hP hnm hag hok⟩
  | _, _, _, .dtor c1 c2 c3 c4 c5 c6 e r hs bd a _ => ⟨by
    intro _ cty P ρ out m hcd hP hnm hag hok
    exact force_dtor c1 c2 c3 c4 c5 c6 e r hs bd a (force_cr' X r) hcd hP hnm hag hok⟩
/-- forcing the body of a forwarding closure -/
theorem force_k' (X : Ctx p q) {n : Nat} : ∀ {k : Fun.Stack} {cv : CVal}, KRelD (GP p) p q n k cv →
    ForceKIH p q n k cv
  | _, _, .dtorA _ _ => ⟨by
    intro _ _ _ e
    cases e⟩
  | _, _, .dtorS _ _ _ _ => ⟨by
    intro _ _ _ e
    cases e⟩
  | _, _, .shared hd hc hk bd a => ⟨by
    intro _ _ _ e pv ρ1 out m hnm ha
    cases e
    exact forcek_shared X hd hc bd a (force_k' X hk) hnm ha⟩
  | _, _, .eta r hy hcd hck _ hx _ a => ⟨by
    intro _ _ _ e pv ρ1 out m hnm ha
    cases e
    exact forcek_eta hy hcd hck hx a (force_cr' X r) hnm ha⟩
end

theorem force_cr (X : Ctx p q) {n : Nat} {k : Fun.Stack} {c : Core.Term} {ρ0 : CEnv}
    (hr : CRel (GP p) p q n k c ρ0) (hck : Core.isCodata q.codataTypes (coreGetType c) = true)
    {cty : Core.Ty} {P : Core.Term} {ρ : CEnv} {out : Out} {m : Nat}
    (hcd : Core.isCodata q.codataTypes cty = true) (hP : CdPrd P) (hnm : n ≤ m)
    (hag : AgreeOn (tfvTerm c []) ρ0 ρ) (hok : PrdOK P ρ m) : Forced p q k cty P c ρ out m :=
  (force_cr' X hr).run hck hcd hP hnm hag hok

end Scc.Fun2Core.Sem
