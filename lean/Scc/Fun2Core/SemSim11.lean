/-
  Scc.Fun2Core.SemSim11 — simulation of a call of a top-level definition.
-/
import Scc.Fun2Core.SemSim10

namespace Scc.Fun2Core.Sem

variable {q : Core.Prog} {p : Fun.CheckedProgram}

theorem argVals_length {ρ : CEnv} : ∀ (as : Core.Args) (Vs : List CVal),
    Core.argVals ρ as = .ok Vs → argsAllVar as = true → True
  | _ => fun _ _ _ => trivial

theorem step_call_fun (p : Fun.CheckedProgram) (f : String) (vs : List Fun.Value) (env : Fun.Env)
    (k : Fun.Stack) :
    Fun.step p (.args (.call f) vs .nil env k) =
      (match Fun.findDef p f with
        | none => .stuck (.unknownDef f)
        | some d =>
          match Fun.bindAll (d.ctx.map (·.var)) vs [] with
          | none => .stuck (.arity f)
          | some env' => .next (.eval d.body env' k) none) := rfl

/-- `f(args)` -/
theorem eval_call (X : Ctx p q) {f : String} {as : Fun.Terms}
    {rty : Option Fun.Ty} {env : Fun.Env} {k : Fun.Stack} {c : Core.Term} {s : Core.Stmt}
    {ρ0 ρ : CEnv} {out : Out} {n : Nat} (hg : good p (.call f as rty) = true)
    (hc : Compiled q n (.call f as rty) c s)
    (he : EnvRel (GP p) p q n (fv (.call f as rty)) env ρ0) (hr : CRel (GP p) p q n k c ρ0)
    (hbd : BoundOn (tfvStmt s []) ρ0) (hag : AgreeOn (tfvStmt s []) ρ0 ρ)
    (hT : STM p (.eval (.call f as rty) env k)) :
    Chunk p q (R p q) true true μ (.eval (.call f as rty) env k) ⟨s, ρ, out, n⟩ := by
  simp only [good, Bool.and_eq_true, bne_iff_ne, ne_eq] at hg
  obtain ⟨⟨hfm, hgps⟩, _⟩ := hg
  have hpf := goodPs_pureFOs p as hgps
  obtain ⟨st, st', hcwc, hst, htn, hcn⟩ := hc
  rw [cwc_call] at hcwc
  obtain ⟨as', st1, hcs, hcwc⟩ := bind_args hcwc
  cases rty with
  | none => cases hcwc
  | some τ =>
    cases hcwc
    rw [argsSnoc_eq] at hag hbd ⊢
    have f0 : FSteps p (.eval (.call f as (some τ)) env k) (.args (.call f) [] as env k) [] 1 :=
      .one rfl
    cases hvs : pureArgs p as env with
    | none =>
      obtain ⟨j, s1, w, fj, h1, h2⟩ :=
        fun_pureArgs_none p as env (.call f) [] k (pureFOs_pure (goodClauses p) as hpf) hvs
      have := f0.trans fj
      simp only [List.append_nil] at this
      exact .inl ⟨_, s1, .stuck w, this, by rw [h1]; rfl, fun hf => absurd hf (bad_not_finished h2)⟩
    | some vs =>
      obtain ⟨j, fj⟩ := fun_pureArgs p as env vs (.call f) [] k (pureFOs_pure (goodClauses p) as hpf) hvs
      have f1 := f0.trans fj
      simp only [List.append_nil, List.nil_append] at f1
      have hstep := step_call_fun p f vs env k
      cases hfd : Fun.findDef p f with
      | none =>
        rw [hfd] at hstep
        exact .inl ⟨_, _, .stuck (.unknownDef f), f1, by rw [hstep]; rfl, fun h => h.elim⟩
      | some d =>
        rw [hfd] at hstep
        simp only at hstep
        cases hba : Fun.bindAll (d.ctx.map (·.var)) vs [] with
        | none =>
          rw [hba] at hstep
          exact .inl ⟨_, _, .stuck (.arity f), f1, by rw [hstep]; rfl, fun h => h.elim⟩
        | some env' =>
          rw [hba] at hstep
          -- the Core machine: arguments
          have hagas : AgreeOn (tfvArgs as' []) ρ0 ρ := hag.mono fun y hy =>
            mem_tfv_call.2 ((mem_tfvArgs_app _ _).2 (.inl hy))
          have hagc : AgreeOn (tfvTerm c []) ρ0 ρ := hag.mono fun y hy =>
            mem_tfv_call.2 ((mem_tfvArgs_app _ _).2 (.inr (mem_tfv_args_cons.2 (.inl hy))))
          have hbdas : BoundOn (tfvArgs as' []) ρ0 := hbd.mono fun y hy =>
            mem_tfv_call.2 ((mem_tfvArgs_app _ _).2 (.inl hy))
          obtain ⟨i1, ρ1, n1, as'', Vs, hc1, hn1, hext1, hall, hsb, hav, hvl⟩ :=
            core_args (G := GP p) (q := q) (p := p) (goodClauses p) (goodClauses_find p) as hpf
              (fun a => .call ⟨f, 0⟩ a (compileTy τ)) (argCtx_call _ _) (.cons .cns c .nil) env vs st
              as' st' n ρ0 ρ n out .nil [] hcs hst
              ⟨by simpa [fv] using htn.fv, by simpa [binderNames] using htn.bd, htn.nosig⟩ hvs
              (he.sub fun y hy => by simpa [fv] using hy) hbdas hagas rfl trivial rfl
          simp only [appArgs, List.nil_append] at hc1 hsb hav
          -- the consumer
          have hsigc : ∀ b ∈ tfvTerm c [], b.var.name = sig → b.var.id < n1 := fun b hb e => by
            have := hcn.sig_lt (Nat.le_refl n) b hb e; omega
          have hagc1 : AgreeOn (tfvTerm c []) ρ0 ρ1 := by
            intro b hb
            rw [hext1.lookup b.var (hcn.sig_lt (Nat.le_refl n) b hb)]
            exact hagc b hb
          obtain ⟨i2, ρ2, n2, pc, z, tz, cv, hc2, hn2, hext2, hlz, _, hk⟩ :=
            focus_cons (hr.mono hn1) (Nat.le_refl n1) hsigc hagc1
              (fun h => .call ⟨f, 0⟩ (appArgs as'' (.cons .cns h .nil)) (compileTy τ))
              (fun hv => argCtx_call _ _ _ _ _ _ (by
                rw [args_split_app _ _ hall, args_split_cons_nonvar hv]))
              out
              (fun hcd' _ a' s' => force_cr X (hr.mono hn1) hcd' (cty := c.ty)
                (P := .mu .prd a' c.ty s') (ρ := ρ1) (out := out) (m := n1 + 1)
                (by rw [← coreGetType_eq_ty]; exact hcd') trivial (by omega) hagc1
                (prdOK_mu _ _ _ _ _ _))
          have hav2 : Core.argVals ρ2 (appArgs as'' (.cons .cns (.var pc z tz) .nil)) =
              .ok (Vs ++ [cv]) := by
            refine argVals_app_single as'' Vs ?_ hlz
            rw [argVals_sigExt hext2 as'' hsb]; exact hav
          have htriv : True := trivial
          cases htriv with
          | intro =>
            -- the definition
            obtain ⟨D, a, τa, τ', hD, hname, hctx, hcomp, hτ', hgood, hanot, hnodup, hclosed⟩ :=
              X.defs f d hfd hfm
            have hlen : (compileContext d.ctx).length = Vs.length := by
              rw [compileContext_length, ← hvl.length]
              have := bindAll_length _ _ _ _ hba
              simpa using this
            obtain ⟨ρnew, hbind, henv⟩ := EnvRel.bindAll (G := GP p) (q := q) (n := n2)
              (xs := fv d.body) (env := []) (env' := env') (ρ0 := [(⟨a, 0⟩, cv)]) (ctx := d.ctx)
              (.of_get fun y hy => by
                obtain ⟨h1, h2⟩ := List.mem_filter.1 hy
                have := hclosed y h1
                have h2' : y ∉ List.map (fun x => x.var) d.ctx := by simpa using h2
                exact absurd this h2')
              (hvl.mono (Nat.le_trans hn1 hn2)) hnodup hba
            have hbind' : Core.Env.bind [] D.ctx (Vs ++ [cv]) = .ok ρnew := by
              rw [hctx, bind_snoc _ _ _ _ _ hlen]
              exact hbind
            have hall2 : argsAllVar (appArgs as'' (.cons .cns (.var pc z tz) .nil)) = true := by
              simp [argsAllVar_app, hall, argsAllVar, Core.Term.isVar]
            have hfind : q.defs.find? (fun d => d.name = ⟨f, 0⟩) = some D := by
              rw [← hname]; exact find_of_mem_nodup hD X.nodup
            have s3 := step_call_vars (q := q) (f := ⟨f, 0⟩) (ty := compileTy τ) (out := out) (n := n2)
              hall2 hfind hav2 hbind'
            have hanot' : ∀ bb ∈ compileContext d.ctx, bb.var ≠ (⟨a, 0⟩ : Core.Ident) := by
              intro bb hbb e
              simp only [compileContext, List.mem_map] at hbb
              obtain ⟨fb, hfb, rfl⟩ := hbb
              have : fb.var = a := by
                have := congrArg Core.Ident.name e
                simpa using this
              exact hanot (this ▸ List.mem_map.2 ⟨fb, hfb, rfl⟩)
            have hla : Core.Env.lookup ρnew ⟨a, 0⟩ = .ok cv := by
              rw [bind_lookup_not_mem hbind hanot']
              exact lookup_cons_self _ _ _
            refine .inr ⟨_, _, .eval d.body env' k, [], i1 + i2 + 1, _, f1, .inr ⟨none, hstep, rfl⟩,
              (fun _ => .inr (.inl (by intro h; cases h))), (fun _ => .inl (by omega)), (hc1.trans hc2).trans (.one s3), by simp, ?_⟩
            refine SRel.eval (c := .var .cns ⟨a, 0⟩ τ') (ρ0 := ρnew) hgood (hcomp.mono (Nat.zero_le _))
              henv ?_ ?_ (.refl _ _)
            · obtain ⟨τb, hgtb, rfl⟩ := hτ'
              have hT' : STM p (.eval d.body env' k) :=
                stepM_preserves X.progM (FStepsM_preserves X.progM f1 hT) hstep
              exact crel_var hk hla (X.kind_of hT' hgtb)
            · refine bind_bound hbind fun y hy hne => ?_
              obtain ⟨b', hb', e⟩ := X.closed D hD y hy
              rw [hctx] at hb'
              rcases List.mem_append.1 hb' with h | h
              · exact absurd e (hne b' h)
              · simp only [List.mem_singleton] at h
                subst h
                exact ⟨cv, by rw [← e]; exact lookup_cons_self _ _ _⟩

end Scc.Fun2Core.Sem
