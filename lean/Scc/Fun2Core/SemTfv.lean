/-
  Scc.Fun2Core.SemTfv — membership in the typed free variables (`typed_free_vars`, model functions
  `tfvTerm`/`tfvStmt`/…) of compound Core statements in terms of their parts.  Used by the semantic
  part of C02 to transport environment agreement to sub-statements.
-/
import Scc.Fun2Core.FreeVars

namespace Scc.Fun2Core.Sem

theorem mem_tfv_cut {ty : Core.Ty} {p c : Core.Term} {y : Core.Binding} :
    y ∈ tfvStmt (.cut ty p c) [] ↔ y ∈ tfvTerm p [] ∨ y ∈ tfvTerm c [] := by
  simp only [tfvStmt]
  rw [mem_tfvTerm_iff c]

theorem mem_tfv_ifc {srt : Core.IfSort} {a b : Core.Term} {t e : Core.Stmt} {y : Core.Binding} :
    y ∈ tfvStmt (.ifc srt a b t e) [] ↔
      y ∈ tfvTerm a [] ∨ y ∈ tfvTerm b [] ∨ y ∈ tfvStmt t [] ∨ y ∈ tfvStmt e [] := by
  simp only [tfvStmt]
  rw [mem_tfvStmt_iff e, mem_tfvStmt_iff t, mem_tfvTerm_iff b]
  simp only [or_assoc]

theorem mem_tfv_ifz {srt : Core.IfSort} {a : Core.Term} {t e : Core.Stmt} {y : Core.Binding} :
    y ∈ tfvStmt (.ifz srt a t e) [] ↔ y ∈ tfvTerm a [] ∨ y ∈ tfvStmt t [] ∨ y ∈ tfvStmt e [] := by
  simp only [tfvStmt]
  rw [mem_tfvStmt_iff e, mem_tfvStmt_iff t]
  simp only [or_assoc]

theorem mem_tfv_print {nl : Bool} {a : Core.Term} {n : Core.Stmt} {y : Core.Binding} :
    y ∈ tfvStmt (.print nl a n) [] ↔ y ∈ tfvTerm a [] ∨ y ∈ tfvStmt n [] := by
  simp only [tfvStmt]
  rw [mem_tfvStmt_iff n]

theorem mem_tfv_call {f : Core.Ident} {as : Core.Args} {ty : Core.Ty} {y : Core.Binding} :
    y ∈ tfvStmt (.call f as ty) [] ↔ y ∈ tfvArgs as [] := by
  simp only [tfvStmt]

theorem mem_tfv_exit {a : Core.Term} {ty : Core.Ty} {y : Core.Binding} :
    y ∈ tfvStmt (.exit a ty) [] ↔ y ∈ tfvTerm a [] := by
  simp only [tfvStmt]

theorem mem_tfv_var {pc : Core.PC} {v : Core.Ident} {ty : Core.Ty} {y : Core.Binding} :
    y ∈ tfvTerm (.var pc v ty) [] ↔ y = ⟨v, pc, ty⟩ := by
  simp [tfvTerm, bsetInsert]

theorem mem_tfv_op {a b : Core.Term} {o : Core.BinOp} {y : Core.Binding} :
    y ∈ tfvTerm (.op a o b) [] ↔ y ∈ tfvTerm a [] ∨ y ∈ tfvTerm b [] := by
  simp only [tfvTerm]
  rw [mem_tfvTerm_iff b]

theorem mem_tfv_xtor {pc : Core.PC} {k : Core.Ident} {as : Core.Args} {ty : Core.Ty}
    {y : Core.Binding} : y ∈ tfvTerm (.xtor pc k as ty) [] ↔ y ∈ tfvArgs as [] := by
  simp only [tfvTerm]

theorem mem_tfv_xcase {pc : Core.PC} {cs : Core.Clauses} {ty : Core.Ty}
    {y : Core.Binding} : y ∈ tfvTerm (.xcase pc ty cs) [] ↔ y ∈ tfvClauses cs [] := by
  simp only [tfvTerm]

theorem mem_tfv_args_cons {pc : Core.PC} {t : Core.Term} {r : Core.Args} {y : Core.Binding} :
    y ∈ tfvArgs (.cons pc t r) [] ↔ y ∈ tfvTerm t [] ∨ y ∈ tfvArgs r [] := by
  simp only [tfvArgs]
  rw [mem_tfvArgs_iff r]

/-- the free variables of the body of a `μ`, except the bound one, are free in the `μ` -/
theorem mem_tfv_mu_of {pc : Core.PC} {v : Core.Ident} {ty : Core.Ty} {s : Core.Stmt}
    {y : Core.Binding} (h : y ∈ tfvStmt s []) (hne : y.var ≠ v) :
    y ∈ tfvTerm (.mu pc v ty s) [] := by
  simp only [tfvTerm]
  refine (mem_bsetExtend_iff _).2 (.inr (mem_bsetRemove_of_ne ?_ h))
  intro e
  exact hne (by rw [e])

/-- the same, for the filtered list in which the simulation states it -/
theorem filter_sub_tfv_mu {pc : Core.PC} {v : Core.Ident} {ty : Core.Ty} {s : Core.Stmt} :
    ∀ y ∈ (tfvStmt s []).filter (·.var ≠ v), y ∈ tfvTerm (.mu pc v ty s) [] := fun y hy => by
  obtain ⟨h1, h2⟩ := List.mem_filter.1 hy
  exact mem_tfv_mu_of h1 (by simpa using h2)

theorem mem_tfv_mu {pc : Core.PC} {v : Core.Ident} {ty : Core.Ty} {s : Core.Stmt}
    {y : Core.Binding} (h : y ∈ tfvTerm (.mu pc v ty s) []) : y ∈ tfvStmt s [] := by
  simp only [tfvTerm] at h
  rcases (mem_bsetExtend_iff _).1 h with h | h
  · simp at h
  · exact mem_bsetRemove h

end Scc.Fun2Core.Sem
