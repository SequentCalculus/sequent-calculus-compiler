/-
  Scc.Fun2Core.SemSim9 — simulation of `let`, `label`, `goto` and parentheses.
-/
import Scc.Fun2Core.SemSim8

namespace Scc.Fun2Core.Sem

variable {q : Core.Prog} {p : Fun.CheckedProgram}

theorem f2c_isCodata_eq (ty : Core.Ty) (cts : List Core.TypeDecl) :
    Fun2Core.isCodata ty cts = Core.isCodata cts ty := by
  cases ty <;> rfl

theorem step_let_nc (p : Fun.CheckedProgram) (x vt bound body lty env k)
    (h : Fun.isCodataTy p vt = false) :
    Fun.step p (.eval (.letIn x vt bound body lty) env k) =
      .next (.eval bound env (.letF x body env :: k)) none := by
  simp [step_eval, Fun.evalStep, h]

theorem step_let_cd (p : Fun.CheckedProgram) (x vt bound body lty env k)
    (h : Fun.isCodataTy p vt = true) :
    Fun.step p (.eval (.letIn x vt bound body lty) env k) =
      (match Fun.suspend bound env with
        | .ok v => .next (.eval body ((x, v) :: env) k) none
        | .error w => .stuck w) := by
  simp only [step_eval, Fun.evalStep, h, if_true]
  cases Fun.suspend bound env <;> rfl

/-- `let x = bound; body` -/
theorem eval_let (X : Ctx p q) {x : String} {vt : Fun.Ty} {bound body : Fun.Term}
    {lty : Option Fun.Ty} {env : Fun.Env} {k : Fun.Stack} {c : Core.Term} {s : Core.Stmt}
    {ρ0 ρ : CEnv} {out : Out} {n : Nat} (hg : good p (.letIn x vt bound body lty) = true)
    (hc : Compiled q n (.letIn x vt bound body lty) c s)
    (he : EnvRel (GP p) p q n (fv (.letIn x vt bound body lty)) env ρ0) (hr : CRel (GP p) p q n k c ρ0)
    (hbd : BoundOn (tfvStmt s []) ρ0) (hag : AgreeOn (tfvStmt s []) ρ0 ρ)
    (hT : STM p (.eval (.letIn x vt bound body lty) env k)) :
    Chunk p q (R p q) true true (funSize (.letIn x vt bound body lty)) (.eval (.letIn x vt bound body lty) env k) ⟨s, ρ, out, n⟩ := by
  simp only [good, Bool.and_eq_true] at hg
  obtain ⟨⟨hnct, hgi⟩, hgb⟩ := hg
  obtain ⟨t0, hlty⟩ := annO_some hnct
  have hkind := X.kind_of hT (τ := t0) (by rw [getType, hlty])
  obtain ⟨st, st', hcwc, hst, htn, hcn⟩ := hc
  rw [cwc_letIn] at hcwc
  have hxu : ∀ y ∈ [x], y ∈ st.usedVars := fun y hy =>
    htn.bd y (by simp only [List.mem_singleton] at hy; subst hy; simp [binderNames])
  -- common part of the two cases: the translation of the body
  have hbody : ∀ (n : Nat) c' st1 s' , letCore x vt bound body c' st1 = .ok (s', st') → FS st st1 →
      ConsNames c' st1 n →
      ∃ inStmt st2, compileWithCont body c' st1 = .ok (inStmt, st2) ∧ FS st2 st' ∧
        Compiled q n body c' inStmt ∧ TermNames bound st2 ∧ StOK q st2 ∧
        (if Fun.isCodataTy p vt = true then
          ∃ P, compile bound (compileTy vt) st2 = .ok (P, st') ∧
            s' = .cut (compileTy vt) P (.mu .cns ⟨x, 0⟩ (compileTy vt) inStmt)
        else compileWithCont bound (.mu .cns ⟨x, 0⟩ (compileTy vt) inStmt) st2 = .ok (s', st')) ∧
        ConsNames (.mu .cns ⟨x, 0⟩ (compileTy vt) inStmt) st2 n := by
    intro n c' st1 s' hcore hfs hcn'
    unfold letCore at hcore
    obtain ⟨inStmt, st2, hcb, hcore⟩ := bind_stmt hcore
    have f2' : FS st2 st' := by
      by_cases hcd : Fun2Core.isCodata (compileTy vt) st2.codataTypes = true
      · rw [if_pos hcd] at hcore
        obtain ⟨P, st3, hcc, hcore⟩ := bind_term hcore
        simp only [Except.ok.injEq, Prod.mk.injEq] at hcore
        obtain ⟨_, rfl⟩ := hcore
        exact fs_compile hcc
      · rw [if_neg hcd] at hcore
        exact fs_cwc hcore
    have hcod2 : Fun2Core.isCodata (compileTy vt) st2.codataTypes = Fun.isCodataTy p vt := by
      rw [f2c_isCodata_eq, ← f2'.1.codata, hst.2, X.cod vt]
    rw [hcod2] at hcore
    have f12 := fs_cwc hcb
    have hst2 := hst.of_fresh f2'.1
    have f02 : FS st st2 := fs_stepRel.trans hfs f12
    have tnbody : TermNames body st1 :=
      ⟨fun y hy => by
          by_cases hyx : y = x
          · exact hfs.sub y (htn.bd y (by simp [binderNames, hyx]))
          · exact hfs.sub y (htn.fv y (by simp [fv, hy, hyx])),
        fun y hy => hfs.sub y (htn.bd y (by simp [binderNames, hy])), hfs.2 htn.nosig⟩
    have tnbound : TermNames bound st2 := htn.of_sub (fun y hy => by simp [fv, hy])
      (fun y hy => by simp [binderNames, hy]) f02
    refine ⟨inStmt, st2, hcb, f2', ⟨st1, st2, hcb, hst2, tnbody, hcn'⟩, tnbound, hst2, ?_,
      consNames_mu hcb tnbody hcn' _ _⟩
    by_cases hcd : Fun.isCodataTy p vt = true
    · rw [if_pos hcd] at hcore ⊢
      obtain ⟨P, st3, hcc, hcore⟩ := bind_term hcore
      cases hcore
      exact ⟨P, hcc, rfl⟩
    · rw [if_neg hcd] at hcore ⊢
      exact hcore
  by_cases hcd : Fun.isCodataTy p vt = true
  · -- by name: the bound term is a variable or a `new`
    rw [if_pos hcd] at hgb
    simp only [Bool.and_eq_true] at hgb
    obtain ⟨hgpb, hpsb⟩ := hgb
    refine guard_sim X (fv (.letIn x vt bound body lty)) hcwc hlty hkind htn.nosig hxu htn.fv hcn he hr hbd hag ?_
    intro n c' st1 s' ρ0' ρ' _ hcore hfs hcn' hyg he' hr' hbd' hag'
    obtain ⟨inStmt, st2, hcb, f2', hcbody, tnbound, hst2, hshape, hcnmu⟩ := hbody n c' st1 s' hcore hfs hcn'
    rw [if_pos hcd] at hshape
    obtain ⟨P, hcP, rfl⟩ := hshape
    have hstep := step_let_cd p x vt bound body lty env k hcd
    have hebound : EnvRel (GP p) p q n (fv bound) env ρ0' := he'.sub fun y hy => by simp [fv, hy]
    have hbdP : BoundOn (tfvTerm P []) ρ0' := hbd'.mono fun y hy => mem_tfv_cut.2 (.inl hy)
    have hagP : AgreeOn (tfvTerm P []) ρ0' ρ' := hag'.mono fun y hy => mem_tfv_cut.2 (.inl hy)
    cases hpv : pureVal p bound env with
    | none =>
      have hs' : exceptToOption (Fun.suspend bound env) = none := by
        rw [suspend_pure (p := p) bound env hpsb]; exact hpv
      cases hsu : Fun.suspend bound env with
      | ok v => simp [hsu, exceptToOption] at hs'
      | error w =>
        rw [hsu] at hstep
        exact Chunk.stuck hstep (bad_not_finished (suspend_error_bad bound env w hsu))
    | some v =>
      have hs' : exceptToOption (Fun.suspend bound env) = some v := by
        rw [suspend_pure (p := p) bound env hpsb]; exact hpv
      have hsu : Fun.suspend bound env = .ok v := by
        cases hsu : Fun.suspend bound env with
        | ok v' => simp only [hsu, exceptToOption, Option.some.injEq] at hs'; rw [hs']
        | error w => simp [hsu, exceptToOption] at hs'
      rw [hsu] at hstep
      have hPV := core_pure (p := p) (goodClauses p) (goodClauses_find p) bound
        (goodP_pureFO p bound hgpb) env v _ st2 P st' n ρ0' ρ' n hcP hst tnbound hpv hebound hbdP hagP
      -- the Core machine evaluates the producer and binds `x`
      have hreach : ∃ i ρ2 n2 V, CSteps q
          ⟨.cut (compileTy vt) P (.mu .cns ⟨x, 0⟩ (compileTy vt) inStmt), ρ', out, n⟩
          ⟨inStmt, (⟨x, 0⟩, V) :: ρ2, out, n2⟩ i ∧ n ≤ n2 ∧ SigExt n ρ' ρ2 ∧ VRel (GP p) p q n v V := by
        cases hPv : P.isVar with
        | true =>
          cases P with
          | var pc z ty =>
            obtain ⟨_, _, V, hl, hvr⟩ := hPV.var pc z ty rfl
            have hs := step_cut_bind (q := q) (cty := compileTy vt) (ty := compileTy vt) (x := ⟨x, 0⟩)
              (s := inStmt) (A := .var pc z ty) (ρ := ρ') (out := out) (n := n) rfl
              (by simpa [Core.prdVal] using hl)
            exact ⟨1, ρ', n, V, .one hs, Nat.le_refl _, .refl _ _, hvr⟩
          | _ => simp [Core.Term.isVar] at hPv
        | false =>
          obtain ⟨i, ρ2, n2, P', V, hcs, hn2, hext, hfoc, hval, hvr⟩ :=
            (hPV.nonvar hPv).1 (.mu .cns ⟨x, 0⟩ (compileTy vt) inStmt) (compileTy vt) out trivial
          have hs := step_cut_bind (q := q) (cty := compileTy vt) (ty := compileTy vt) (x := ⟨x, 0⟩)
            (s := inStmt) (A := P') (ρ := ρ2) (out := out) (n := n2) hfoc hval
          exact ⟨i + 1, ρ2, n2, V, hcs.trans (.one hs), hn2, hext, hvr⟩
      obtain ⟨i, ρ2, n2, V, hcs, hn2, hext, hvr⟩ := hreach
      obtain ⟨ρ02, hext0, hag2⟩ := hext.agree (ρ0 := ρ0')
      obtain ⟨stb, stb', h1, h2, h3, h4⟩ := hcbody
      refine Chunk.step (e := none) hstep (by intro h; cases h) hcs
        (fun _ => .inr (by simp only [msize, funSize]; omega)) (by simp) ?_
      refine SRel.eval (ρ0 := (⟨x, 0⟩, V) :: ρ02) (c := c') hgi ⟨stb, stb', h1, h2, h3, h4.mono hn2⟩ ?_ ?_ ?_ ?_
      · refine EnvRel.bind ?_ (hvr.mono hn2)
        refine ((he'.sub fun y hy => ?_).mono hn2).sigExt hext0 fun y hy =>
          htn.fv_ne_sig y (by
            obtain ⟨h1', h2'⟩ := List.mem_filter.1 hy
            simp only [fv, List.mem_append]
            exact .inr (List.mem_filter.2 ⟨h1', h2'⟩))
        obtain ⟨h1', h2'⟩ := List.mem_filter.1 hy
        simp only [fv, List.mem_append]
        exact .inr (List.mem_filter.2 ⟨h1', h2'⟩)
      · refine (((hr'.mono hn2).sigExt hext0 (h4.sig_lt (Nat.le_refl n)))).agree
          (AgreeOn.cons_right (.refl _ _) fun b hb e => hyg b hb (by rw [e]; simp))
      · refine BoundOn.cons ((hbd'.sigExt hext0).mono fun y hy => ?_)
        obtain ⟨h1', h2'⟩ := List.mem_filter.1 hy
        exact mem_tfv_cut.2 (.inr (mem_tfv_mu_of h1' (by simpa using h2')))
      · refine AgreeOn.cons ((hag2 _ hag').mono fun y hy => ?_)
        obtain ⟨h1', h2'⟩ := List.mem_filter.1 hy
        exact mem_tfv_cut.2 (.inr (mem_tfv_mu_of h1' (by simpa using h2')))
  · -- by value
    rw [if_neg hcd] at hgb
    have hcd' : Fun.isCodataTy p vt = false := by simpa using hcd
    have f1 : FSteps p (.eval (.letIn x vt bound body lty) env k)
        (.eval bound env (.letF x body env :: k)) [] 1 := .one (step_let_nc p x vt bound body lty env k hcd')
    refine Chunk.prefix f1 (.refl _) rfl (fun _ => Nat.le_refl _) (fun h => .inr h) ?_
    refine guard_sim X (fv (.letIn x vt bound body lty)) hcwc hlty hkind htn.nosig hxu htn.fv hcn he hr hbd hag ?_
    intro n c' st1 s' ρ0' ρ' _ hcore hfs hcn' hyg he' hr' hbd' hag'
    obtain ⟨inStmt, st2, hcb, f2', hcbody, tnbound, hst2, hshape, hcnmu⟩ := hbody n c' st1 s' hcore hfs hcn'
    rw [if_neg hcd] at hshape
    have hncv : Core.isCodata q.codataTypes (compileTy vt) = false := by rw [X.cod vt]; exact hcd'
    -- pad the ideal environment so that the free variables of the continuation are bound
    obtain ⟨ρp, hep, hrp, hbdp, hagp, hbdK⟩ :=
      ideal_pad (tfvTerm (.mu .cns ⟨x, 0⟩ (compileTy vt) inStmt) []) he' hr' hbd' hag'
    have hK : KRel (GP p) p q n (.letF x body env :: k) (.mutilde ρp ⟨x, 0⟩ inStmt) := by
      refine KRel.letF (ρ0 := ρp) hgi hcbody (hep.sub fun y hy => ?_) hrp ?_ ?_ (.refl _ _)
      · obtain ⟨h1, h2⟩ := List.mem_filter.1 hy
        simp only [fv, List.mem_append]
        exact .inr (List.mem_filter.2 ⟨h1, h2⟩)
      · intro b hb e
        exact hyg b hb (by rw [e]; simp)
      · intro b hb
        obtain ⟨h1, h2⟩ := List.mem_filter.1 hb
        exact hbdK b (mem_tfv_mu_of h1 (by simpa using h2))
    refine Chunk.here (.refl _) (fun _ => .inr (by simp only [msize, funSize]; omega)) rfl ?_
    exact SRel.eval (ρ0 := ρp) hgb
      ⟨st2, st', hshape, hst, tnbound, hcnmu⟩
      (hep.sub fun y hy => by simp [fv, hy])
      (.mk (cv := .mutilde ρp ⟨x, 0⟩ inStmt) rfl hK trivial hbdK hncv) hbdp hagp

/-- `label a { t }` -/
theorem eval_label (X : Ctx p q) {a : String} {t : Fun.Term}
    {lty : Option Fun.Ty} {env : Fun.Env} {k : Fun.Stack} {c : Core.Term} {s : Core.Stmt}
    {ρ0 ρ : CEnv} {out : Out} {n : Nat} (hg : good p (.label a t lty) = true)
    (hc : Compiled q n (.label a t lty) c s)
    (he : EnvRel (GP p) p q n (fv (.label a t lty)) env ρ0) (hr : CRel (GP p) p q n k c ρ0)
    (hbd : BoundOn (tfvStmt s []) ρ0) (hag : AgreeOn (tfvStmt s []) ρ0 ρ)
    (hT : STM p (.eval (.label a t lty) env k)) :
    Chunk p q (R p q) true true μ (.eval (.label a t lty) env k) ⟨s, ρ, out, n⟩ := by
  simp only [good, Bool.and_eq_true] at hg
  obtain ⟨hg, hncd⟩ := hg
  obtain ⟨st, st', hcwc, hst, htn, hcn⟩ := hc
  rw [cwc_label] at hcwc
  obtain ⟨τ, rfl⟩ := annO_some hncd
  have hkind := X.kind_of hT (τ := τ) rfl
  simp only [c_label] at hcwc
  obtain ⟨P, st1, hP, hcwc⟩ := bind_term hcwc
  obtain ⟨s1, _, hx, hP⟩ := bind_stmt hP
  cases hP
  cases hcwc
  have hagc : AgreeOn (tfvTerm c []) ρ0 ρ := hag.mono fun y hy => mem_tfv_cut.2 (.inr hy)
  obtain ⟨i, n', ρ', cv, hcs, hi1, hn', hext, hk⟩ :=
    bind_cont X hr hagc hkind ⟨a, 0⟩ (compileTy τ) s1 out
  obtain ⟨ρ01, hext0, hagx⟩ := hext.agree (ρ0 := ρ0)
  have ha_used : a ∈ st.usedVars := htn.bd a (by simp [binderNames])
  have ha_sig : a ≠ sig := fun e => htn.nosig (e ▸ ha_used)
  have f1 : Fun.step p (.eval (.label a t (some τ)) env k) =
      .next (.eval t ((a, .cont k) :: env) k) none := rfl
  have hbd1 : BoundOn ((tfvStmt s1 []).filter (·.var ≠ ⟨a, 0⟩)) ρ0 := hbd.mono fun y hy => mem_tfv_cut.2 (.inl (filter_sub_tfv_mu y hy))
  have hag1 : AgreeOn ((tfvStmt s1 []).filter (·.var ≠ ⟨a, 0⟩)) ρ0 ρ := hag.mono fun y hy => mem_tfv_cut.2 (.inl (filter_sub_tfv_mu y hy))
  refine Chunk.step (e := none) f1 (by intro h; cases h) hcs (fun _ => .inl hi1) (by simp) ?_
  refine SRel.eval (c := .var .cns ⟨a, 0⟩ (compileTy τ)) (ρ0 := (⟨a, 0⟩, cv) :: ρ01) hg ?_ ?_ ?_ ?_ ?_
  · refine ⟨st, _, hx, hst, ⟨fun y hy => ?_, fun y hy => ?_, htn.nosig⟩, ?_⟩
    · by_cases hya : y = a
      · exact hya ▸ ha_used
      · exact htn.fv y (by simp [fv, hy, hya])
    · exact htn.bd y (by simp [binderNames, hy])
    · intro b hb
      simp only [occTerm, List.mem_singleton] at hb
      subst hb
      exact .inr ⟨ha_sig, ha_used⟩
  · refine EnvRel.bind ?_ (.cont hk)
    refine ((he.mono hn').sigExt hext0 fun y hy => htn.fv_ne_sig y ?_).sub fun y hy => by
      simpa [fv] using hy
    exact hy
  · exact crel_var hk (lookup_cons_self _ _ _) hkind
  · exact BoundOn.cons (hbd1.sigExt hext0)
  · exact AgreeOn.cons (hagx _ hag1)

theorem step_goto (p : Fun.CheckedProgram) (a u ty env k) :
    Fun.step p (.eval (.goto a u ty) env k) =
      (match Fun.lookup a env with
        | some (.cont k') => .next (.eval u env k') none
        | some _ => .stuck (.notCont a)
        | none => .stuck (.unbound a)) := rfl

/-- `goto a (u)` -/
theorem eval_goto (X : Ctx p q) {a : String} {u : Fun.Term}
    {gty : Option Fun.Ty} {env : Fun.Env} {k : Fun.Stack} {c : Core.Term} {s : Core.Stmt}
    {ρ0 ρ : CEnv} {out : Out} {n : Nat} (hg : good p (.goto a u gty) = true)
    (hc : Compiled q n (.goto a u gty) c s)
    (he : EnvRel (GP p) p q n (fv (.goto a u gty)) env ρ0)
    (hbd : BoundOn (tfvStmt s []) ρ0) (hag : AgreeOn (tfvStmt s []) ρ0 ρ)
    (hT : STM p (.eval (.goto a u gty) env k)) :
    Chunk p q (R p q) true true (funSize (.goto a u gty)) (.eval (.goto a u gty) env k) ⟨s, ρ, out, n⟩ := by
  simp only [good, Bool.and_eq_true] at hg
  obtain ⟨⟨hg, hncd⟩, _⟩ := hg
  obtain ⟨st, st', hcwc, hst, htn, hcn⟩ := hc
  rw [cwc_goto] at hcwc
  obtain ⟨τ, hty'⟩ := annO_some hncd
  have hty : getType u = some τ := by rw [getType_eq]; exact hty'
  have htriv : True := trivial
  cases htriv with
  | intro =>
    simp only [hty] at hcwc
    obtain ⟨v, V, h1, h2, h3⟩ := he.get (y := a) (by simp [fv])
    have hstep := step_goto p a u gty env k
    rw [h1] at hstep
    have ha_used : a ∈ st.usedVars := htn.fv a (by simp [fv])
    have ha_sig : a ≠ sig := fun e => htn.nosig (e ▸ ha_used)
    cases h3 with
    | int _ => exact Chunk.stuck (w := .notCont a) hstep id
    | con _ => exact Chunk.stuck (w := .notCont a) hstep id
    | obj _ _ _ _ _ => exact Chunk.stuck (w := .notCont a) hstep id
    | @cont k' _ hk =>
      simp only at hstep
      refine Chunk.step (e := none) hstep (by intro h; cases h) (.refl _)
        (fun _ => .inr (by simp only [msize, funSize]; omega)) (by simp) ?_
      refine SRel.eval (c := .var .cns ⟨a, 0⟩ (compileTy τ)) (ρ0 := ρ0) hg ?_
        (he.sub fun y hy => by simp [fv, hy]) ?_ hbd hag
      · refine ⟨st, st', hcwc, hst, htn.of_sub (fun y hy => by simp [fv, hy])
          (fun y hy => by simp [binderNames, hy]) (fs_stepRel.refl st), ?_⟩
        intro b hb
        simp only [occTerm, List.mem_singleton] at hb
        subst hb
        exact .inr ⟨ha_sig, ha_used⟩
      · have hT' := stepM_preserves X.progM hT hstep
        exact crel_var hk h2 (X.kind_of hT' hty)

theorem eval_paren {t : Fun.Term} {env : Fun.Env} {k : Fun.Stack} {c : Core.Term} {s : Core.Stmt}
    {ρ0 ρ : CEnv} {out : Out} {n : Nat} (hg : good p (.paren t) = true)
    (hc : Compiled q n (.paren t) c s)
    (he : EnvRel (GP p) p q n (fv (.paren t)) env ρ0) (hr : CRel (GP p) p q n k c ρ0)
    (hbd : BoundOn (tfvStmt s []) ρ0) (hag : AgreeOn (tfvStmt s []) ρ0 ρ) :
    Chunk p q (R p q) true true (funSize (.paren t)) (.eval (.paren t) env k) ⟨s, ρ, out, n⟩ := by
  obtain ⟨st, st', hcwc, hst, htn, hcn⟩ := hc
  have f1 : Fun.step p (.eval (.paren t) env k) = .next (.eval t env k) none := rfl
  refine Chunk.step (e := none) f1 (by intro h; cases h) (.refl _)
    (fun _ => .inr (by simp only [msize, funSize]; omega)) (by simp) ?_
  exact SRel.eval (ρ0 := ρ0) (by simpa [good] using hg)
    ⟨st, st', by rwa [cwc_paren] at hcwc, hst,
      ⟨by simpa [fv] using htn.fv, by simpa [binderNames] using htn.bd, htn.nosig⟩, hcn⟩
    (by simpa [fv] using he) hr hbd hag

end Scc.Fun2Core.Sem
