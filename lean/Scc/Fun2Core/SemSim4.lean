/-
  Scc.Fun2Core.SemSim4 — the program-level context of the simulation (`Ctx`) and returning a value
  to a `case` continuation (`ret_case`).
-/
import Scc.Fun2Core.SemSim3
import Scc.Fun2Core.SemClauses
import Scc.Fun2Core.SemBind
import Scc.Fun2Core.SemCodTypingStep

namespace Scc.Fun2Core.Sem

variable {q : Core.Prog} {p : Fun.CheckedProgram}

/-- what the simulation needs to know about the source program and its translation -/
structure Ctx (p : Fun.CheckedProgram) (q : Core.Prog) : Prop where
  cod : CodOK p q
  /-- the checked program is typed (monomorphic, annotated typing: what the checker guarantees) -/
  progM : Typed.ProgM p
  nodup : (q.defs.map (·.name)).Nodup
  /-- the body of a translated definition mentions only its parameters -/
  closed : ∀ D ∈ q.defs, ∀ b ∈ tfvStmt D.body [], ∃ b' ∈ D.ctx, b'.var = b.var
  /-- every definition other than `main` is translated with a fresh continuation parameter -/
  defs : ∀ f d, Fun.findDef p f = some d → f ≠ "main" →
    ∃ D a τ τ', D ∈ q.defs ∧ D.name = ⟨f, 0⟩ ∧
      D.ctx = compileContext d.ctx ++ [⟨⟨a, 0⟩, .cns, τ⟩] ∧
      Compiled q 0 d.body (.var .cns ⟨a, 0⟩ τ') D.body ∧
      (∃ τb, getType d.body = some τb ∧ τ' = compileTy τb) ∧ good p d.body = true ∧
      a ∉ d.ctx.map (·.var) ∧ (d.ctx.map (·.var)).Nodup ∧ (∀ x ∈ fv d.body, x ∈ d.ctx.map (·.var))

theorem find_of_mem_nodup {D : Core.Def} {defs : List Core.Def} (h : D ∈ defs)
    (hn : (defs.map (·.name)).Nodup) : defs.find? (fun d => d.name = D.name) = some D :=
  find?_of_nodup_key (·.name) (fun _ => decide_eq_true_iff) hn h

theorem ConsNames.mono_st {c : Core.Term} {st st' : CompileState} {n : Nat} (h : ConsNames c st n)
    (hs : ∀ x ∈ st.usedVars, x ∈ st'.usedVars) : ConsNames c st' n := by
  intro b hb
  rcases h b hb with h | ⟨h1, h2⟩
  · exact .inl h
  · exact .inr ⟨h1, hs _ h2⟩

theorem step_ret_case (p : Fun.CheckedProgram) (K : String) (vs : List Fun.Value) (cs : Fun.Clauses)
    (env : Fun.Env) (k : Fun.Stack) :
    Fun.step p (.ret (.con K vs) (.caseF cs env :: k)) =
      (match Fun.findClause K cs with
        | none => .stuck (.noClause K)
        | some cl =>
          match Fun.bindAll cl.names vs env with
          | none => .stuck (.arity K)
          | some env' => .next (.eval cl.body env' k) none) := rfl

/-- a constructor value meets a `case` continuation -/
theorem ret_case {n : Nat} {k : Fun.Stack} {ρ ρ1 : CEnv} {cs' : Core.Clauses}
    (h : KRel (GP p) p q n k (.case ρ cs')) {v : Fun.Value} {V : CVal} {S : Core.State}
    (hv : VRel (GP p) p q n v V) (hn : n ≤ S.fresh) (ha : AgreeOn (tfvClauses cs' []) ρ ρ1)
    (hs : Core.step q S = S.pass V (.case ρ1 cs')) :
    Chunk p q (R p q) true true μ (.ret v k) S := by
  cases h with
  | @caseF cs env k' ρ0 _ c _ hgood hcc he hr hy hbd hag =>
    cases hv with
    | @con K vs Vs hl =>
      have hstep := step_ret_case p K vs cs env k'
      cases hf : Fun.findClause K cs with
      | none =>
        rw [hf] at hstep
        exact Chunk.stuck (w := .noClause K) hstep id
      | some cl =>
        rw [hf] at hstep
        simp only at hstep
        cases hbA : Fun.bindAll cl.names vs env with
        | none =>
          rw [hbA] at hstep
          exact Chunk.stuck (w := .arity K) hstep id
        | some env' =>
          rw [hbA] at hstep
          obtain ⟨hg, hnd, hnames⟩ := hgood K cl hf
          obtain ⟨st, st', hcomp, hstok, hcn, hcons⟩ := hcc
          obtain ⟨b', st1, st2, hfind, hcb, hfs1, hfs2, htfv⟩ :=
            clauses_find fs_stepRel K cs c st cs' st' cl hcomp hf
          obtain ⟨hm1, hm2, hm3, hm4⟩ := findClause_mem cs K cl hf
          -- bind on the ideal environment
          have hbA' : Fun.bindAll (cl.ctx.map (·.var)) vs env = some env' := by rw [hnames]; exact hbA
          obtain ⟨ρ0', hbind0, he'⟩ := EnvRel.bindAll (G := GP p) (q := q) (xs := fv cl.body)
            (he.sub fun x hx => hm1 x (by rw [← hnames]; exact hx)) hl (by rw [hnames]; exact hnd) hbA'
          -- bind on the actual environment
          obtain ⟨ρ1', hbind1⟩ := bind_ok_of_length (compileContext cl.ctx) Vs ρ1
            (bind_length _ _ _ _ hbind0)
          have hcore : Core.step q S = .next { S with stmt := b', env := ρ1' } := by
            rw [hs]
            simp only [Core.State.pass, Core.State.select, hfind, hbind1, Core.State.goto]
          -- the binders are not free in the consumer
          have hctxvar : ∀ bb ∈ compileContext cl.ctx, ∃ x ∈ cl.names, bb.var = ⟨x, 0⟩ := by
            intro bb hbb
            simp only [compileContext, List.mem_map] at hbb
            obtain ⟨fb, hfb, rfl⟩ := hbb
            exact ⟨fb.var, by rw [← hnames]; exact List.mem_map.2 ⟨fb, hfb, rfl⟩, rfl⟩
          have hcfree : ∀ b ∈ tfvTerm c [], ∀ bb ∈ compileContext cl.ctx, bb.var ≠ b.var := by
            intro b hb bb hbb e
            obtain ⟨x, hx, e'⟩ := hctxvar bb hbb
            rw [e'] at e
            exact hy b hb (by rw [← e]) (by rw [← e]; exact hm4 x hx)
          have hsub1 : ∀ x ∈ st.usedVars, x ∈ st1.usedVars := used_sub_of_fresh hfs1.1
          refine Chunk.step (e := none) hstep (by intro h; cases h) (.one hcore)
            (fun _ => .inl (Nat.le_refl 1)) (by simp) ?_
          refine SRel.eval (ρ0 := ρ0') (c := c) hg ?_ (he'.mono hn) ?_ ?_ ?_
          · refine ⟨st1, st2, hcb, hstok.of_fresh hfs2.1, ⟨fun x hx => ?_, fun x hx => ?_, hfs1.2 hcn.nosig⟩,
              (hcons.mono hn).mono_st hsub1⟩
            · by_cases hxn : x ∈ cl.names
              · exact hsub1 x (hcn.bd x (hm3 x hxn))
              · exact hsub1 x (hcn.fv x (hm1 x (List.mem_filter.2 ⟨hx, by simpa using hxn⟩)))
            · exact hsub1 x (hcn.bd x (hm2 x hx))
          · refine (hr.mono hn).agree fun b hb => ?_
            exact bind_lookup_not_mem hbind0 (hcfree b hb)
          · refine bind_bound hbind0 fun y hy' hne => ?_
            exact hbd y (htfv y hy' fun bb hbb e => hne bb hbb (by rw [e]))
          · refine bind_agree hbind0 hbind1 fun y hy' hne => ?_
            have hmem := htfv y hy' fun bb hbb e => hne bb hbb (by rw [e])
            exact (hag.trans ha) y hmem
    | _ => exact Chunk.stuck (w := .notData) rfl id

end Scc.Fun2Core.Sem
