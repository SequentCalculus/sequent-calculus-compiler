/-
  Scc.Fun2Core.SemBind — binding a list of names to values on both machines: `Scc.Fun.bindAll`
  (later names shadow earlier ones) and `Scc.Core.Env.bind` (earlier binders shadow later ones) give
  related environments when the names are pairwise distinct.
-/
import Scc.Fun2Core.SemRelLemmas
import Scc.Fun2Core.SemTfv

namespace Scc.Fun2Core.Sem

variable {G : Fun.Term → Prop} {q : Core.Prog} {p : Fun.CheckedProgram}

/-- first value bound to `y` in the parallel lists -/
def zipL (y : String) : List String → List Fun.Value → Option Fun.Value
  | x :: xs, v :: vs => if y = x then some v else zipL y xs vs
  | _, _ => none

theorem zipL_none_of_not_mem {y : String} : ∀ (xs : List String) (vs : List Fun.Value),
    y ∉ xs → zipL y xs vs = none
  | [], _, _ => by simp [zipL]
  | x :: xs, [], _ => by simp [zipL]
  | x :: xs, v :: vs, h => by
    simp only [List.mem_cons, not_or] at h
    simp [zipL, h.1, zipL_none_of_not_mem xs vs h.2]

theorem fun_lookup_cons (y x : String) (v : Fun.Value) (env : Fun.Env) :
    Fun.lookup y ((x, v) :: env) = if y = x then some v else Fun.lookup y env := by
  simp only [Fun.lookup]
  by_cases h : y = x <;> simp [h]

theorem bindAll_lookup : ∀ (names : List String) (vs : List Fun.Value) (env env' : Fun.Env),
    Fun.bindAll names vs env = some env' → names.Nodup → ∀ y,
      Fun.lookup y env' = (match zipL y names vs with
        | some v => some v
        | none => Fun.lookup y env)
  | [], [], env, env', h, _, y => by
    simp only [Fun.bindAll, Option.some.injEq] at h
    subst h
    simp [zipL]
  | [], _ :: _, _, _, h, _, _ => by simp [Fun.bindAll] at h
  | _ :: _, [], _, _, h, _, _ => by simp [Fun.bindAll] at h
  | x :: xs, v :: vs, env, env', h, hn, y => by
    simp only [Fun.bindAll] at h
    simp only [List.nodup_cons] at hn
    rw [bindAll_lookup xs vs _ env' h hn.2 y]
    by_cases hy : y = x
    · subst hy
      simp [zipL, zipL_none_of_not_mem xs vs hn.1, fun_lookup_cons]
    · simp only [zipL, hy, if_false]
      cases zipL y xs vs with
      | some w => rfl
      | none => simp [fun_lookup_cons, hy]

theorem bindAll_length : ∀ (names : List String) (vs : List Fun.Value) (env env' : Fun.Env),
    Fun.bindAll names vs env = some env' → names.length = vs.length
  | [], [], _, _, _ => rfl
  | [], _ :: _, _, _, h => by simp [Fun.bindAll] at h
  | _ :: _, [], _, _, h => by simp [Fun.bindAll] at h
  | x :: xs, v :: vs, env, env', h => by
    simp only [Fun.bindAll] at h
    simp [bindAll_length xs vs _ env' h]

def zipC (z : Core.Ident) : Core.Ctx → List CVal → Option CVal
  | b :: bs, V :: Vs => if b.var = z then some V else zipC z bs Vs
  | _, _ => none

theorem bind_lookup : ∀ (ctx : Core.Ctx) (Vs : List CVal) (ρ ρ' : CEnv),
    Core.Env.bind ρ ctx Vs = .ok ρ' → ∀ z,
      Core.Env.lookup ρ' z = (match zipC z ctx Vs with
        | some V => .ok V
        | none => Core.Env.lookup ρ z)
  | [], [], ρ, ρ', h, z => by
    simp only [Core.Env.bind, Except.ok.injEq] at h
    subst h
    simp [zipC]
  | [], _ :: _, _, _, h, _ => by simp [Core.Env.bind] at h
  | _ :: _, [], _, _, h, _ => by simp [Core.Env.bind] at h
  | b :: bs, V :: Vs, ρ, ρ', h, z => by
    simp only [Core.Env.bind] at h
    cases hr : Core.Env.bind ρ bs Vs with
    | error e => simp [hr] at h
    | ok ρ1 =>
      simp only [hr, Except.ok.injEq] at h
      subst h
      rw [lookup_cons]
      by_cases hz : b.var = z
      · simp [zipC, hz]
      · simp only [hz, if_false, zipC]
        exact bind_lookup bs Vs ρ ρ1 hr z

theorem bind_ok_of_length : ∀ (ctx : Core.Ctx) (Vs : List CVal) (ρ : CEnv),
    ctx.length = Vs.length → ∃ ρ', Core.Env.bind ρ ctx Vs = .ok ρ'
  | [], [], ρ, _ => ⟨ρ, rfl⟩
  | [], _ :: _, _, h => by simp at h
  | _ :: _, [], _, h => by simp at h
  | b :: bs, V :: Vs, ρ, h => by
    obtain ⟨ρ1, h1⟩ := bind_ok_of_length bs Vs ρ (by simpa using h)
    exact ⟨(b.var, V) :: ρ1, by simp [Core.Env.bind, h1]⟩

theorem VRelL.length {n : Nat} : ∀ {vs : List Fun.Value} {Vs : List CVal},
    VRelL G p q n vs Vs → vs.length = Vs.length
  | _, _, .nil _ => rfl
  | _, _, .cons _ h => by simp [VRelL.length h]

/-- corresponding positions of the parallel lists hold related values -/
theorem zip_rel {n : Nat} (y : String) : ∀ (ctx : Fun.Ctx) (vs : List Fun.Value) (Vs : List CVal),
    VRelL G p q n vs Vs → ctx.length = vs.length →
    (zipL y (ctx.map (·.var)) vs = none ∧ zipC ⟨y, 0⟩ (compileContext ctx) Vs = none) ∨
    ∃ v V, zipL y (ctx.map (·.var)) vs = some v ∧ zipC ⟨y, 0⟩ (compileContext ctx) Vs = some V ∧
      VRel G p q n v V
  | [], [], _, .nil _, _ => .inl ⟨rfl, rfl⟩
  | [], _ :: _, _, _, h => by simp at h
  | _ :: _, [], _, _, h => by simp at h
  | b :: bs, v :: vs, _, .cons (V := V) (Vs := Vs) hv hr, h => by
    by_cases hy : y = b.var
    · exact .inr ⟨v, V, by simp [zipL, hy], by simp [zipC, compileContext, hy], hv⟩
    · have hy' : ¬ (⟨b.var, 0⟩ : Core.Ident) = ⟨y, 0⟩ := by
        intro e; cases e; exact hy rfl
      rcases zip_rel y bs vs Vs hr (by simpa using h) with ⟨h1, h2⟩ | ⟨v', V', h1, h2, h3⟩
      · left
        constructor
        · simp only [List.map_cons, zipL, hy, if_false]; exact h1
        · simp only [compileContext, List.map_cons, zipC, hy', if_false]
          exact h2
      · right
        refine ⟨v', V', ?_, ?_, h3⟩
        · simp only [List.map_cons, zipL, hy, if_false]; exact h1
        · simp only [compileContext, List.map_cons, zipC, hy', if_false]
          exact h2

theorem compileContext_length (ctx : Fun.Ctx) : (compileContext ctx).length = ctx.length := by
  simp [compileContext]

/-- binding the parameters of a clause / definition on both sides -/
theorem EnvRel.bindAll {n : Nat} {xs : List String} {env env' : Fun.Env} {ρ0 : CEnv}
    {ctx : Fun.Ctx} {vs : List Fun.Value} {Vs : List CVal}
    (he : EnvRel G p q n (xs.filter (fun x => !(ctx.map (·.var)).contains x)) env ρ0)
    (hv : VRelL G p q n vs Vs) (hn : (ctx.map (·.var)).Nodup)
    (hb : Fun.bindAll (ctx.map (·.var)) vs env = some env') :
    ∃ ρ0', Core.Env.bind ρ0 (compileContext ctx) Vs = .ok ρ0' ∧ EnvRel G p q n xs env' ρ0' := by
  have hlen := bindAll_length _ _ _ _ hb
  simp only [List.length_map] at hlen
  obtain ⟨ρ0', hρ⟩ := bind_ok_of_length (compileContext ctx) Vs ρ0
    (by rw [compileContext_length, hlen, hv.length])
  refine ⟨ρ0', hρ, .of_get fun y hy => ?_⟩
  rw [bindAll_lookup _ _ _ _ hb hn y, bind_lookup _ _ _ _ hρ ⟨y, 0⟩]
  rcases zip_rel (G := G) (q := q) y ctx vs Vs hv hlen with ⟨h1, h2⟩ | ⟨v, V, h1, h2, h3⟩
  · rw [h1, h2]
    have hnot : y ∉ ctx.map (·.var) := by
      intro hmem
      -- a bound name has a value in the zipped lists
      have : ∀ (bs : Fun.Ctx) (ws : List Fun.Value), bs.length = ws.length → y ∈ bs.map (·.var) →
          zipL y (bs.map (·.var)) ws ≠ none := by
        intro bs
        induction bs with
        | nil => intro ws _ h; simp at h
        | cons b bs ih =>
          intro ws hl h
          cases ws with
          | nil => simp at hl
          | cons w ws =>
            by_cases hyb : y = b.var
            · simp [zipL, hyb]
            · simp only [List.map_cons, zipL, hyb, if_false]
              exact ih ws (by simpa using hl) (by simpa [hyb] using h)
      exact this ctx vs hlen hmem h1
    exact he.get (List.mem_filter.2 ⟨hy, by simpa using hnot⟩)
  · rw [h1, h2]
    exact ⟨v, V, rfl, rfl, h3⟩

theorem zipC_none_of_not_mem {z : Core.Ident} : ∀ (ctx : Core.Ctx) (Vs : List CVal),
    (∀ b ∈ ctx, b.var ≠ z) → zipC z ctx Vs = none
  | [], _, _ => by simp [zipC]
  | b :: bs, [], _ => by simp [zipC]
  | b :: bs, V :: Vs, h => by
    have h1 : b.var ≠ z := h b (by simp)
    simp only [zipC, h1, if_false]
    exact zipC_none_of_not_mem bs Vs (fun b' hb' => h b' (by simp [hb']))

theorem zipC_some_of_mem {z : Core.Ident} : ∀ (ctx : Core.Ctx) (Vs : List CVal),
    ctx.length = Vs.length → (∃ b ∈ ctx, b.var = z) → ∃ V, zipC z ctx Vs = some V
  | [], _, _, h => by simp at h
  | b :: bs, [], hl, _ => by simp at hl
  | b :: bs, V :: Vs, hl, h => by
    by_cases hb : b.var = z
    · exact ⟨V, by simp [zipC, hb]⟩
    · simp only [zipC, hb, if_false]
      refine zipC_some_of_mem bs Vs (by simpa using hl) ?_
      obtain ⟨b', hb', e⟩ := h
      rcases List.mem_cons.1 hb' with rfl | h'
      · exact absurd e hb
      · exact ⟨b', h', e⟩

theorem bind_length : ∀ (ctx : Core.Ctx) (Vs : List CVal) (ρ ρ' : CEnv),
    Core.Env.bind ρ ctx Vs = .ok ρ' → ctx.length = Vs.length
  | [], [], _, _, _ => rfl
  | [], _ :: _, _, _, h => by simp [Core.Env.bind] at h
  | _ :: _, [], _, _, h => by simp [Core.Env.bind] at h
  | b :: bs, V :: Vs, ρ, ρ', h => by
    simp only [Core.Env.bind] at h
    cases hr : Core.Env.bind ρ bs Vs with
    | error e => simp [hr] at h
    | ok ρ1 => simp [bind_length bs Vs ρ ρ1 hr]

/-- binding the same values on two environments that agree away from the binders -/
theorem bind_agree {ctx : Core.Ctx} {Vs : List CVal} {ρa ρb ρa' ρb' : CEnv} {bs : List Core.Binding}
    (ha : Core.Env.bind ρa ctx Vs = .ok ρa') (hb : Core.Env.bind ρb ctx Vs = .ok ρb')
    (h : ∀ y ∈ bs, (∀ bb ∈ ctx, bb.var ≠ y.var) → Core.Env.lookup ρb y.var = Core.Env.lookup ρa y.var) :
    AgreeOn bs ρa' ρb' := by
  intro y hy
  rw [bind_lookup _ _ _ _ ha, bind_lookup _ _ _ _ hb]
  cases hz : zipC y.var ctx Vs with
  | some V => rfl
  | none =>
    refine h y hy fun bb hbb e => ?_
    obtain ⟨V, hV⟩ := zipC_some_of_mem ctx Vs (bind_length _ _ _ _ ha) ⟨bb, hbb, e⟩
    rw [hz] at hV
    cases hV

theorem bind_bound {ctx : Core.Ctx} {Vs : List CVal} {ρa ρa' : CEnv} {bs : List Core.Binding}
    (ha : Core.Env.bind ρa ctx Vs = .ok ρa')
    (h : ∀ y ∈ bs, (∀ bb ∈ ctx, bb.var ≠ y.var) → ∃ V, Core.Env.lookup ρa y.var = .ok V) :
    BoundOn bs ρa' := by
  intro y hy
  rw [bind_lookup _ _ _ _ ha]
  cases hz : zipC y.var ctx Vs with
  | some V => exact ⟨V, rfl⟩
  | none =>
    refine h y hy fun bb hbb e => ?_
    obtain ⟨V, hV⟩ := zipC_some_of_mem ctx Vs (bind_length _ _ _ _ ha) ⟨bb, hbb, e⟩
    rw [hz] at hV
    cases hV

theorem bind_lookup_not_mem {ctx : Core.Ctx} {Vs : List CVal} {ρa ρa' : CEnv} {z : Core.Ident}
    (ha : Core.Env.bind ρa ctx Vs = .ok ρa') (h : ∀ bb ∈ ctx, bb.var ≠ z) :
    Core.Env.lookup ρa' z = Core.Env.lookup ρa z := by
  rw [bind_lookup _ _ _ _ ha, zipC_none_of_not_mem ctx Vs h]

end Scc.Fun2Core.Sem
