/-
  Scc.Fun2Core.SemCodTyping — typing of the states of the Fun CEK machine (`Scc.Fun.step`) against the
  MONOMORPHIC annotated typing `TypedM` of checked programs (Scc/Fun2Core/TypedSrc.lean; established
  for the checker's output by `checkProgram_progM`, Scc/Fun2Core/TypedCheck.lean).

  Why a second state typing besides `Scc.Fun.Safety.ST` (which types states against the SOURCE
  program, templates + substitution): the semantic part of C02 for codata needs to know that the
  machine's by-name test `isCodataTy p' τ` (= "the printed type names an instance declaration in
  `p'.codataTypes`", which is also what the Core machine's `isCodata` tests on the translation) is
  TRUE at the type of every destructor scrutinee and agrees with the shape of the stack: a term of
  type τ is evaluated on a stack whose top frame is a destructor frame iff `isCodataTy p' τ`
  (`KTM.kind`).  In the monomorphic judgement "τ is a codata type" IS `codataDecl P τ = some _`,
  i.e. `isCodataTy`; in the polymorphic one it is "an instance of a declared template", and the
  completeness of the instance declarations is exactly what `TypedM` adds.

  Judgements (P the CHECKED program):
    VTM v τ, BTM v b, VTsM vs bs, EnvTM ρ Γ, HTM h bs τ, FTM f σ τ, KTM k τ, STM s
  as in Scc/Fun/SafetyTyping.lean, with `TypedM` / `ArgsM` / `ClausesM` in place of `ATyped` / … and
  two extra side conditions that the machine guarantees and the polymorphic judgement does not
  record: a `letF` frame and an `arg` frame expect a value of a type that is NOT codata
  (`isCodataTy P σ = false`: the machine suspends codata-typed bound terms and arguments instead of
  pushing these frames).
-/
import Scc.Fun.Sem
import Scc.Fun2Core.TypedSrc

namespace Scc.Fun2Core.Sem
open Scc Scc.Fun2Core.Typed
open Scc.Fun.Typing (lookupCtx bindNames clauseXtors)

/-- the top frame of the stack is a destructor frame: the stack expects a codata value -/
def kkind : Fun.Stack → Bool
  | .dtorScrut .. :: _ => true
  | .dtorApply .. :: _ => true
  | _ => false

mutual
  /-- `VTM P v τ`: the value `v` has the (monomorphic) type τ -/
  inductive VTM (P : Fun.CheckedProgram) : Fun.Value → Fun.Ty → Prop
    | int {n} : VTM P (.int n) .i64
    | con {K vs τ} (d : Fun.Data) (c : Fun.CtorSig) : dataDecl P τ = some d →
        d.ctors.find? (fun c => c.name = K) = some c → VTsM P vs c.args → VTM P (.con K vs) τ
    | obj {cs ρ τ} (Γ : Fun.Ctx) (an : Option Fun.Ty) : EnvTM P ρ Γ → TypedM P (.new cs an) Γ τ →
        VTM P (.obj cs ρ) τ
    | thunk {t ρ τ} (Γ : Fun.Ctx) : Fun.isCodataTy P τ = true → EnvTM P ρ Γ → TypedM P t Γ τ →
        VTM P (.thunk t ρ) τ
  /-- a value for a binding: a typed value for a producer, a typed continuation for a consumer -/
  inductive BTM (P : Fun.CheckedProgram) : Fun.Value → Fun.Binding → Prop
    | prd {v b} : b.chi = .prd → VTM P v b.ty → BTM P v b
    | cns {k b} : b.chi = .cns → KTM P k b.ty → BTM P (.cont k) b
  inductive VTsM (P : Fun.CheckedProgram) : List Fun.Value → Fun.Ctx → Prop
    | nil : VTsM P [] []
    | cons {v vs b bs} : BTM P v b → VTsM P vs bs → VTsM P (v :: vs) (b :: bs)
  /-- environments grow at the head, contexts at the end -/
  inductive EnvTM (P : Fun.CheckedProgram) : Fun.Env → Fun.Ctx → Prop
    | nil : EnvTM P [] []
    | cons {ρ Γ v} (b : Fun.Binding) : EnvTM P ρ Γ → BTM P v b →
        EnvTM P ((b.var, v) :: ρ) (Γ ++ [b])
  /-- `HTM P h bs τ`: with arguments for the parameters `bs` the head `h` yields a τ -/
  inductive HTM (P : Fun.CheckedProgram) : Fun.ArgHead → Fun.Ctx → Fun.Ty → Prop
    | call {f bs τ} (d : Fun.Def) : d ∈ P.defs → f = d.name → bs = d.ctx → τ = d.retTy →
        HTM P (.call f) bs τ
    | ctor {K bs τ} (d : Fun.Data) (c : Fun.CtorSig) : dataDecl P τ = some d →
        d.ctors.find? (fun c => c.name = K) = some c → bs = c.args → HTM P (.ctor K) bs τ
    | dtor {v nm bs τ σ} (d : Fun.Codata) (sg : Fun.DtorSig) : codataDecl P σ = some d →
        d.dtors.find? (fun c => c.name = nm) = some sg → VTM P v σ → bs = sg.args →
        τ = sg.contTy → HTM P (.dtor v nm) bs τ
  /-- `FTM P f σ τ`: the frame `f` takes a σ and passes a τ on -/
  inductive FTM (P : Fun.CheckedProgram) : Fun.Frame → Fun.Ty → Fun.Ty → Prop
    | opL {o snd ρ} (Γ : Fun.Ctx) : EnvTM P ρ Γ → TypedM P snd Γ .i64 →
        FTM P (.opL o snd ρ) .i64 .i64
    | opR {o a} : FTM P (.opR o a) .i64 .i64
    | ifL {s snd t e ρ τ} (Γ : Fun.Ctx) : EnvTM P ρ Γ → TypedM P snd Γ .i64 → TypedM P t Γ τ →
        TypedM P e Γ τ → FTM P (.ifL s snd t e ρ) .i64 τ
    | ifR {s a t e ρ τ} (Γ : Fun.Ctx) : EnvTM P ρ Γ → TypedM P t Γ τ → TypedM P e Γ τ →
        FTM P (.ifR s a t e ρ) .i64 τ
    | ifZ {s t e ρ τ} (Γ : Fun.Ctx) : EnvTM P ρ Γ → TypedM P t Γ τ → TypedM P e Γ τ →
        FTM P (.ifZ s t e ρ) .i64 τ
    | print {nl next ρ τ} (Γ : Fun.Ctx) : EnvTM P ρ Γ → TypedM P next Γ τ →
        FTM P (.print nl next ρ) .i64 τ
    | letF {x body ρ σ τ} (Γ : Fun.Ctx) : Fun.isCodataTy P σ = false → EnvTM P ρ Γ →
        TypedM P body (Γ ++ [⟨x, .prd, σ⟩]) τ → FTM P (.letF x body ρ) σ τ
    | arg {h done todo ρ σ τ} (Γ : Fun.Ctx) (bsDone : Fun.Ctx) (b : Fun.Binding) (bsTodo : Fun.Ctx) :
        HTM P h (bsDone ++ b :: bsTodo) τ → VTsM P done bsDone → b.chi = .prd → b.ty = σ →
        Fun.isCodataTy P σ = false → EnvTM P ρ Γ → ArgsM P todo Γ bsTodo →
        FTM P (.arg h done todo ρ) σ τ
    | caseF {cs ρ σ τ} (Γ : Fun.Ctx) (d : Fun.Data) : dataDecl P σ = some d → EnvTM P ρ Γ →
        ClausesM P cs Γ d.ctors τ → FTM P (.caseF cs ρ) σ τ
    | dtorScrut {nm args ρ σ τ} (Γ : Fun.Ctx) (d : Fun.Codata) (sg : Fun.DtorSig) :
        codataDecl P σ = some d → d.dtors.find? (fun c => c.name = nm) = some sg →
        τ = sg.contTy → EnvTM P ρ Γ → ArgsM P args Γ sg.args → FTM P (.dtorScrut nm args ρ) σ τ
    | dtorApply {nm vs σ τ} (d : Fun.Codata) (sg : Fun.DtorSig) : codataDecl P σ = some d →
        d.dtors.find? (fun c => c.name = nm) = some sg → τ = sg.contTy → VTsM P vs sg.args →
        FTM P (.dtorApply nm vs) σ τ
  /-- `KTM P k τ`: the stack `k` takes a τ; the program's answer is an integer -/
  inductive KTM (P : Fun.CheckedProgram) : Fun.Stack → Fun.Ty → Prop
    | nil : KTM P [] .i64
    | exit {k} : KTM P (.exitF :: k) .i64
    | cons {f k σ τ} : FTM P f σ τ → KTM P k τ → KTM P (f :: k) σ
end

/-- well-typed machine states (monomorphic) -/
inductive STM (P : Fun.CheckedProgram) : Fun.State → Prop
  | eval {t ρ k} (Γ : Fun.Ctx) (τ : Fun.Ty) : EnvTM P ρ Γ → TypedM P t Γ τ → KTM P k τ →
      STM P (.eval t ρ k)
  | ret {v k} (τ : Fun.Ty) : VTM P v τ → KTM P k τ → STM P (.ret v k)
  | args {h done todo ρ k} (Γ : Fun.Ctx) (bsDone bsTodo : Fun.Ctx) (τ : Fun.Ty) :
      HTM P h (bsDone ++ bsTodo) τ → VTsM P done bsDone → EnvTM P ρ Γ → ArgsM P todo Γ bsTodo →
      KTM P k τ → STM P (.args h done todo ρ k)

end Scc.Fun2Core.Sem
