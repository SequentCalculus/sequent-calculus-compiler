/-
  Scc.Fun2Core.SemDirect — "direct" producers: terms whose translation `compile t` is the producer
  itself (variables, literals, operators with pure operands — the operator may be `/` or `%` —,
  constructors of pure terms, `new`, parentheses).  Outcome of evaluating such a term on both machines.
-/
import Scc.Fun2Core.SemCorePure2

namespace Scc.Fun2Core.Sem

variable {G : Fun.Term → Prop} {q : Core.Prog} {p : Fun.CheckedProgram}

def pureD (p : Fun.CheckedProgram) (gc : Fun.Clauses → Bool) : Fun.Term → Bool
  | .var .. => true
  | .lit _ => true
  | .op a _ b => pureFO p gc a && pureFO p gc b
  | .ctor _ as _ => pureFOs p gc as
  | .new cs _ => gc cs
  | .paren t => pureD p gc t
  | _ => false

mutual
  theorem pureFO_pure (gc : Fun.Clauses → Bool) : ∀ t : Fun.Term, pureFO p gc t = true →
      Fun.pureTerm t = true
    | .var .. => fun _ => rfl
    | .lit _ => fun _ => rfl
    | .op a o b => fun h => by
      simp only [pureFO, Bool.and_eq_true] at h
      simp only [Fun.pureTerm, Bool.and_eq_true]
      exact ⟨⟨h.1.1, pureFO_pure gc a h.1.2⟩, pureFO_pure gc b h.2⟩
    | .ctor _ as _ => fun h => by
      simp only [pureFO] at h
      simp only [Fun.pureTerm]
      exact pureFOs_pure gc as h
    | .new .. => fun _ => rfl
    | .paren t => fun h => by
      simp only [pureFO] at h
      simp only [Fun.pureTerm]
      exact pureFO_pure gc t h
    | .ifc .. => fun h => by simp [pureFO] at h
    | .ifz .. => fun h => by simp [pureFO] at h
    | .print .. => fun h => by simp [pureFO] at h
    | .letIn .. => fun h => by simp [pureFO] at h
    | .call .. => fun h => by simp [pureFO] at h
    | .dtor .. => fun h => by simp [pureFO] at h
    | .case .. => fun h => by simp [pureFO] at h
    | .label .. => fun h => by simp [pureFO] at h
    | .goto .. => fun h => by simp [pureFO] at h
    | .exit .. => fun h => by simp [pureFO] at h
  theorem pureFOs_pure (gc : Fun.Clauses → Bool) : ∀ as : Fun.Terms, pureFOs p gc as = true →
      Fun.pureTerms as = true
    | .nil => fun _ => rfl
    | .cons t r => fun h => by
      simp only [pureFOs, Bool.and_eq_true] at h
      simp only [Fun.pureTerms, Bool.and_eq_true]
      exact ⟨pureFO_pure gc t h.1.1, pureFOs_pure gc r h.2⟩
end

/-- the Core machine stops with `r'` while evaluating `A` (under any inert consumer) -/
def PFault (q : Core.Prog) (A : Core.Term) (ρ : CEnv) (n : Nat) (r' : Core.Res) : Prop :=
  ∀ (c : Core.Term) (cty : Core.Ty) (out : Out), Inert c → Core.isCodata q.codataTypes cty = false →
    ∃ i S1, CSteps q ⟨.cut cty A c, ρ, out, n⟩ S1 i ∧ S1.out = out ∧ Core.step q S1 = .final r'

theorem arith_error_cases {o : Fun.BinOp} {x y : BitVec 64} {w : Fun.Why}
    (h : Fun.arith o x y = .error w) : w = .divByZero ∨ w = .overflow := by
  cases o with
  | div =>
    simp only [Fun.arith] at h
    split at h
    · cases h; exact .inl rfl
    · split at h
      · cases h; exact .inr rfl
      · cases h
  | rem =>
    simp only [Fun.arith] at h
    split at h
    · cases h; exact .inl rfl
    · split at h
      · cases h; exact .inr rfl
      · cases h
  | sum => cases h
  | sub => cases h
  | prod => cases h

/-- a focused cut whose producer cannot be evaluated stops the machine -/
theorem step_cut_fault {q : Core.Prog} {cty : Core.Ty} {A c : Core.Term}
    (hnc : Core.isCodata q.codataTypes cty = false)
    {ρ : CEnv} {out : Out} {n : Nat} {e : Core.Why}
    (hA : isFocusedVal A = true) (hc : Inert c) (hV : Core.prdVal ρ A = .error e) :
    Core.step q ⟨.cut cty A c, ρ, out, n⟩ = .final (.stuck e) := by
  have hs : Core.sigmaStep (Core.sigmaName n) (.cut cty A c) = none := by
    simp only [Core.sigmaStep, split_cut_focused hA hc]
  simp only [Core.step, hs, hnc, Core.stepCut]
  cases A with
  | mu pc v ty s => simp [isFocusedVal] at hA
  | _ => simp only [hV, Bool.false_eq_true, if_false, Core.stuck]

theorem pfault_op {A B : Core.Term} {o : Fun.BinOp} {ρ : CEnv}
    {n : Nat} {x y : BitVec 64} {w : Fun.Why}
    (hA : PVal q A ρ n (IsInt x))
    (hB : ∀ ρ' n', SigExt n ρ ρ' → n ≤ n' → PVal q B ρ' n' (IsInt y))
    (har : Fun.arith o x y = .error w) :
    ∃ r', ResMatch (.stuck w) r' ∧ PFault q (.op A (compileOp o) B) ρ n r' := by
  have hw := arith_error_cases har
  refine ⟨.stuck (match w with | .divByZero => .divByZero | _ => .overflow), ?_, ?_⟩
  · rcases hw with rfl | rfl
    · exact .div
    · exact .ovf
  · intro c cty out hc hnc
    obtain ⟨i, ρ', n', z1, t1, z2, t2, hs, hn, he, l1, l2⟩ :=
      core_op_operands hA hB c cty out hc
    refine ⟨i, _, hs, rfl, ?_⟩
    rw [step_cut_fault hnc (by rfl) hc]
    simp only [Core.prdVal, lookupInt_of_lookup l1, lookupInt_of_lookup l2, arith_compile, har]
    rcases hw with rfl | rfl <;> rfl

section
variable (gc : Fun.Clauses → Bool)
  (hgc : ∀ cs, gc cs = true → ∀ K cl, Fun.findClause K cs = some cl →
    G cl.body ∧ cl.names.Nodup ∧ cl.ctx.map (·.var) = cl.names)
include hgc

/-- a direct producer: both machines compute related values, or the Fun machine gets stuck for a
reason that is not an arithmetic fault, or both stop with the same arithmetic fault -/
theorem direct_sim :
    ∀ (b : Fun.Term), pureD p gc b = true → ∀ (env : Fun.Env) (K : Fun.Stack) (ty : Core.Ty)
      (st : CompileState) (B : Core.Term) (st' : CompileState) (m : Nat) (ρ0 ρ : CEnv) (n : Nat),
      compile b ty st = .ok (B, st') → StOK q st' → TermNames b st →
      EnvRel G p q m (fv b) env ρ0 → BoundOn (tfvTerm B []) ρ0 → AgreeOn (tfvTerm B []) ρ0 ρ →
      (∃ v j, 1 ≤ j ∧ FSteps p (.eval b env K) (.ret v K) [] j ∧ PVal q B ρ n (VRel G p q m v)) ∨
      (∃ j s1 w, FSteps p (.eval b env K) s1 [] j ∧ Fun.step p s1 = .stuck w ∧ Bad w) ∨
      (∃ j s1 w r', FSteps p (.eval b env K) s1 [] j ∧ Fun.step p s1 = .stuck w ∧
        ResMatch (.stuck w) r' ∧ B.isVar = false ∧ PFault q B ρ n r' ∧ PFault q B ρ (n + 1) r')
  | .paren t => fun hd env K ty st B st' m ρ0 ρ n hc hst htn he hbd hag => by
    simp only [pureD] at hd
    rw [c_paren] at hc
    have s0 : FSteps p (.eval (.paren t) env K) (.eval t env K) [] 1 := .one rfl
    rcases direct_sim t hd env K ty st B st' m ρ0 ρ n hc hst
        ⟨by simpa [fv] using htn.fv, by simpa [binderNames] using htn.bd, htn.nosig⟩
        (by simpa [fv] using he) hbd hag with ⟨v, j, hj, fj, hv⟩ | ⟨j, s1, w, fj, h1, h2⟩ |
        ⟨j, s1, w, r', fj, h1, h2, h3⟩
    · have := s0.trans fj
      simp only [List.append_nil] at this
      exact .inl ⟨v, _, by omega, this, hv⟩
    · have := s0.trans fj
      simp only [List.append_nil] at this
      exact .inr (.inl ⟨_, s1, w, this, h1, h2⟩)
    · have := s0.trans fj
      simp only [List.append_nil] at this
      exact .inr (.inr ⟨_, s1, w, r', this, h1, h2, h3⟩)
  | .op a o b => fun hd env K ty st P st' m ρ0 ρ n hc hst htn he hbd hag => by
    simp only [pureD, Bool.and_eq_true] at hd
    rw [c_op] at hc
    obtain ⟨A, st1, hca, hc⟩ := bind_term hc
    obtain ⟨B, st2, hcb, hc⟩ := bind_term hc
    cases hc
    rcases fun_op_top p a b o env K (pureFO_pure gc a hd.1) (pureFO_pure gc b hd.2) with
      ⟨x, y, j, ha, hb, hj, fj⟩ | ⟨_, hbad⟩
    · have fa := fs_compile hca
      have fb := fs_compile hcb
      have hst1 := hst.of_fresh fb.1
      have tna : TermNames a st := htn.of_sub (fun y hy => by simp [fv, hy])
        (fun y hy => by simp [binderNames, hy]) (fs_stepRel.refl st)
      have tnb : TermNames b st1 := htn.of_sub (fun y hy => by simp [fv, hy])
        (fun y hy => by simp [binderNames, hy]) fa
      have hea : EnvRel G p q m (fv a) env ρ0 := he.sub fun y hy => by simp [fv, hy]
      have heb : EnvRel G p q m (fv b) env ρ0 := he.sub fun y hy => by simp [fv, hy]
      have hbdA : BoundOn (tfvTerm A []) ρ0 := hbd.mono fun y hy => mem_tfv_op.2 (.inl hy)
      have hbdB : BoundOn (tfvTerm B []) ρ0 := hbd.mono fun y hy => mem_tfv_op.2 (.inr hy)
      have hagA : AgreeOn (tfvTerm A []) ρ0 ρ := hag.mono fun y hy => mem_tfv_op.2 (.inl hy)
      have hagB : AgreeOn (tfvTerm B []) ρ0 ρ := hag.mono fun y hy => mem_tfv_op.2 (.inr hy)
      have hA : ∀ n0, PVal q A ρ n0 (IsInt x) := fun n0 =>
        (core_pure gc hgc a hd.1 env _ _ st A st1 m ρ0 ρ n0 hca hst1 tna ha hea hbdA hagA).imp
          fun V h => h.int_inv
      have hB : ∀ n0 ρ' n', SigExt n0 ρ ρ' → n0 ≤ n' → PVal q B ρ' n' (IsInt y) :=
        fun n0 ρ' n' hext _ => by
          obtain ⟨ρ0', he', hbd', hag'⟩ := ideal_sigExt heb hbdB hagB hext tnb.fv_ne_sig
          exact (core_pure gc hgc b hd.2 env _ _ st1 B st' m ρ0' ρ' n' hcb hst tnb hb
            he' hbd' hag').imp fun V h => h.int_inv
      cases har : Fun.arith o x y with
      | ok r =>
        have s1 : FSteps p (.ret (.int y) (.opR o x :: K)) (.ret (.int r) K) [] 1 :=
          .one (by rw [step_opR, har])
        have := fj.trans s1
        simp only [List.append_nil] at this
        have hev : ∀ n0, PEval q (.op A (compileOp o) B) ρ n0 (VRel G p q m (.int r)) :=
          fun n0 => (peval_op (hA n0) (hB n0) har).imp fun V h => by
            rw [show V = .int r from h]; exact .int _ _
        exact .inl ⟨.int r, _, by omega, this,
          ⟨fun pc z ty' e => (by cases e), fun _ => ⟨hev n, hev (n + 1)⟩⟩⟩
      | error w =>
        obtain ⟨r', hr, hf⟩ := pfault_op (hA n) (hB n) har
        obtain ⟨r'', hr', hf'⟩ := pfault_op (hA (n + 1)) (hB (n + 1)) har
        have hrr : r'' = r' := by cases hr <;> cases hr' <;> rfl
        subst hrr
        exact .inr (.inr ⟨_, _, w, r'', fj, by rw [step_opR, har], hr, rfl, hf, hf'⟩)
    · exact .inr (.inl hbad)
  | .var x vty chi => fun _ env K ty st B st' m ρ0 ρ n hc hst htn he hbd hag => by
    cases hv : pureVal p (.var x vty chi) env with
    | some v =>
      obtain ⟨j, hj, fj⟩ := fun_pure p _ env v K rfl hv
      exact .inl ⟨v, j, hj, fj, core_pure gc hgc _ rfl env v ty st B st' m ρ0 ρ n hc hst htn hv he hbd hag⟩
    | none => exact .inr (.inl (fun_pure_none p _ env K rfl hv))
  | .lit k => fun _ env K ty st B st' m ρ0 ρ n hc hst htn he hbd hag => by
    cases hv : pureVal p (.lit k) env with
    | some v =>
      obtain ⟨j, hj, fj⟩ := fun_pure p _ env v K rfl hv
      exact .inl ⟨v, j, hj, fj, core_pure gc hgc _ rfl env v ty st B st' m ρ0 ρ n hc hst htn hv he hbd hag⟩
    | none => exact .inr (.inl (fun_pure_none p _ env K rfl hv))
  | .ctor c as cty => fun hd env K ty st B st' m ρ0 ρ n hc hst htn he hbd hag => by
    have hfo : pureFO p gc (.ctor c as cty) = true := by simpa [pureFO, pureD] using hd
    cases hv : pureVal p (.ctor c as cty) env with
    | some v =>
      obtain ⟨j, hj, fj⟩ := fun_pure p _ env v K (pureFO_pure gc _ hfo) hv
      exact .inl ⟨v, j, hj, fj, core_pure gc hgc _ hfo env v ty st B st' m ρ0 ρ n hc hst htn hv he hbd hag⟩
    | none => exact .inr (.inl (fun_pure_none p _ env K (pureFO_pure gc _ hfo) hv))
  | .new cs cty => fun hd env K ty st B st' m ρ0 ρ n hc hst htn he hbd hag => by
    have hfo : pureFO p gc (.new cs cty) = true := by simpa [pureFO, pureD] using hd
    cases hv : pureVal p (.new cs cty) env with
    | some v =>
      obtain ⟨j, hj, fj⟩ := fun_pure p _ env v K rfl hv
      exact .inl ⟨v, j, hj, fj, core_pure gc hgc _ hfo env v ty st B st' m ρ0 ρ n hc hst htn hv he hbd hag⟩
    | none => exact .inr (.inl (fun_pure_none p _ env K rfl hv))
  | .ifc .. => fun h _ _ _ _ _ _ _ _ _ _ _ _ _ _ _ _ => by simp [pureD] at h
  | .ifz .. => fun h _ _ _ _ _ _ _ _ _ _ _ _ _ _ _ _ => by simp [pureD] at h
  | .print .. => fun h _ _ _ _ _ _ _ _ _ _ _ _ _ _ _ _ => by simp [pureD] at h
  | .letIn .. => fun h _ _ _ _ _ _ _ _ _ _ _ _ _ _ _ _ => by simp [pureD] at h
  | .call .. => fun h _ _ _ _ _ _ _ _ _ _ _ _ _ _ _ _ => by simp [pureD] at h
  | .dtor .. => fun h _ _ _ _ _ _ _ _ _ _ _ _ _ _ _ _ => by simp [pureD] at h
  | .case .. => fun h _ _ _ _ _ _ _ _ _ _ _ _ _ _ _ _ => by simp [pureD] at h
  | .label .. => fun h _ _ _ _ _ _ _ _ _ _ _ _ _ _ _ _ => by simp [pureD] at h
  | .goto .. => fun h _ _ _ _ _ _ _ _ _ _ _ _ _ _ _ _ => by simp [pureD] at h
  | .exit .. => fun h _ _ _ _ _ _ _ _ _ _ _ _ _ _ _ _ => by simp [pureD] at h

end

end Scc.Fun2Core.Sem
