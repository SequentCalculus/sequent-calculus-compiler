/-
  Scc.Fun2Core.SemSim3 — continuation lemmas of the frames `if` (second operand / first operand),
  `ifz`, `print`, `exit`: the Fun machine returns a value to the frame, the Core machine is at the
  corresponding statement whose operand is a variable bound to the related value.
-/
import Scc.Fun2Core.SemSim2

namespace Scc.Fun2Core.Sem

variable {q : Core.Prog} {p : Fun.CheckedProgram}

theorem step_ret_cons' (p : Fun.CheckedProgram) (v f k) :
    Fun.step p (.ret v (f :: k)) = Fun.retFrame v f k := rfl

/-- `if a ~ □ {t} else {e}` -/
theorem cont_ifR {srt : Fun.IfSort} {a : BitVec 64} {t e : Fun.Term} {env : Fun.Env}
    {k : Fun.Stack} {c : Core.Term} {i n : Nat} {T E : Core.Stmt} {ρ0 ρ : CEnv} {out : Out}
    {z1 z2 : Core.Ident} {τ1 τ2 : Core.Ty} {v : Fun.Value} {V : CVal}
    (hgt : good p t = true) (hge : good p e = true)
    (hct : Compiled q i t c T) (hce : Compiled q i e c E) (hin : i ≤ n)
    (he : EnvRel (GP p) p q n (fv t ++ fv e) env ρ0) (hr : CRel (GP p) p q n k c ρ0)
    (hbT : BoundOn (tfvStmt T []) ρ0) (hbE : BoundOn (tfvStmt E []) ρ0)
    (haT : AgreeOn (tfvStmt T []) ρ0 ρ) (haE : AgreeOn (tfvStmt E []) ρ0 ρ)
    (hl1 : Core.Env.lookup ρ z1 = .ok (.int a)) (hl2 : Core.Env.lookup ρ z2 = .ok V)
    (hv : VRel (GP p) p q n v V) :
    Chunk p q (R p q) true true μ (.ret v (.ifR srt a t e env :: k))
      ⟨.ifc (compileSort srt) (.var .prd z1 τ1) (.var .prd z2 τ2) T E, ρ, out, n⟩ := by
  cases hv with
  | int b =>
    have hs := step_ifc_vars (q := q) (srt := compileSort srt) (t1 := τ1) (t2 := τ2) (T := T) (E := E)
      (out := out) (n := n) hl1 hl2 .prd .prd
    rw [compare_compile] at hs
    refine Chunk.step (e := none) rfl (by intro h; cases h) (.one hs)
      (fun _ => .inl (Nat.le_refl 1)) (by simp) ?_
    by_cases hcmp : Fun.compare srt a b = true
    · simp only [hcmp, if_true]
      exact SRel.eval (ρ0 := ρ0) hgt (hct.mono hin) (he.sub fun y hy => by simp [hy]) hr hbT haT
    · simp only [Bool.not_eq_true] at hcmp
      simp only [hcmp, Bool.false_eq_true, if_false]
      exact SRel.eval (ρ0 := ρ0) hge (hce.mono hin) (he.sub fun y hy => by simp [hy]) hr hbE haE
  | _ => exact Chunk.stuck (w := .notInt "if") rfl id

/-- `if □ ~ 0 {t} else {e}` -/
theorem cont_ifZ {srt : Fun.IfSort} {t e : Fun.Term} {env : Fun.Env}
    {k : Fun.Stack} {c : Core.Term} {i n : Nat} {T E : Core.Stmt} {ρ0 ρ : CEnv} {out : Out}
    {z1 : Core.Ident} {τ1 : Core.Ty} {v : Fun.Value} {V : CVal}
    (hgt : good p t = true) (hge : good p e = true)
    (hct : Compiled q i t c T) (hce : Compiled q i e c E) (hin : i ≤ n)
    (he : EnvRel (GP p) p q n (fv t ++ fv e) env ρ0) (hr : CRel (GP p) p q n k c ρ0)
    (hbT : BoundOn (tfvStmt T []) ρ0) (hbE : BoundOn (tfvStmt E []) ρ0)
    (haT : AgreeOn (tfvStmt T []) ρ0 ρ) (haE : AgreeOn (tfvStmt E []) ρ0 ρ)
    (hl1 : Core.Env.lookup ρ z1 = .ok V) (hv : VRel (GP p) p q n v V) :
    Chunk p q (R p q) true true μ (.ret v (.ifZ srt t e env :: k))
      ⟨.ifz (compileSort srt) (.var .prd z1 τ1) T E, ρ, out, n⟩ := by
  cases hv with
  | int a =>
    have hs := step_ifz_var (q := q) (srt := compileSort srt) (t1 := τ1) (T := T) (E := E)
      (out := out) (n := n) hl1 .prd
    rw [compare_compile] at hs
    refine Chunk.step (e := none) rfl (by intro h; cases h) (.one hs)
      (fun _ => .inl (Nat.le_refl 1)) (by simp) ?_
    by_cases hcmp : Fun.compare srt a 0 = true
    · simp only [hcmp, if_true]
      exact SRel.eval (ρ0 := ρ0) hgt (hct.mono hin) (he.sub fun y hy => by simp [hy]) hr hbT haT
    · simp only [Bool.not_eq_true] at hcmp
      simp only [hcmp, Bool.false_eq_true, if_false]
      exact SRel.eval (ρ0 := ρ0) hge (hce.mono hin) (he.sub fun y hy => by simp [hy]) hr hbE haE
  | _ => exact Chunk.stuck (w := .notInt "if") rfl id

/-- `print(□); next` -/
theorem cont_print {nl : Bool} {next : Fun.Term} {env : Fun.Env}
    {k : Fun.Stack} {c : Core.Term} {i n : Nat} {N : Core.Stmt} {ρ0 ρ : CEnv} {out : Out}
    {z1 : Core.Ident} {τ1 : Core.Ty} {v : Fun.Value} {V : CVal}
    (hg : good p next = true) (hcn : Compiled q i next c N) (hin : i ≤ n)
    (he : EnvRel (GP p) p q n (fv next) env ρ0) (hr : CRel (GP p) p q n k c ρ0)
    (hb : BoundOn (tfvStmt N []) ρ0) (ha : AgreeOn (tfvStmt N []) ρ0 ρ)
    (hl1 : Core.Env.lookup ρ z1 = .ok V) (hv : VRel (GP p) p q n v V) :
    Chunk p q (R p q) true true μ (.ret v (.print nl next env :: k))
      ⟨.print nl (.var .prd z1 τ1) N, ρ, out, n⟩ := by
  cases hv with
  | int a =>
    have hs := step_print_var (q := q) (nl := nl) (t1 := τ1) (N := N) (out := out) (n := n) hl1 .prd
    exact Chunk.step (e := some (nl, a)) rfl (by intro h; cases h) (.one hs)
      (fun _ => .inl (Nat.le_refl 1)) rfl
      (SRel.eval (ρ0 := ρ0) hg (hcn.mono hin) he hr hb ha)
  | _ => exact Chunk.stuck (w := .notInt "print") rfl id

/-- `exit □` -/
theorem cont_exit {n : Nat} {ρ : CEnv} {out : Out} {ty : Core.Ty}
    {z1 : Core.Ident} {τ1 : Core.Ty} {v : Fun.Value} {V : CVal}
    (hl1 : Core.Env.lookup ρ z1 = .ok V) (hv : VRel (GP p) p q n v V) :
    Chunk p q (R p q) true true μ (.ret v [.exitF]) ⟨.exit (.var .prd z1 τ1) ty, ρ, out, n⟩ := by
  cases hv with
  | int a =>
    have hs := step_exit_var (q := q) (t1 := τ1) (ty := ty) (out := out) (n := n) hl1 .prd
    exact .inl ⟨0, _, .done a, .refl _, rfl, fun _ => ⟨0, _, .done a, .refl _, rfl, hs, .done a⟩⟩
  | _ => exact Chunk.stuck (w := .notInt "exit") rfl id

/-- the top-level continuation of `main` -/
theorem cont_main {n : Nat} {ρ : CEnv} {out : Out} {ty : Core.Ty}
    {z1 : Core.Ident} {τ1 : Core.Ty} {v : Fun.Value} {V : CVal}
    (hl1 : Core.Env.lookup ρ z1 = .ok V) (hv : VRel (GP p) p q n v V) :
    Chunk p q (R p q) true true μ (.ret v []) ⟨.exit (.var .prd z1 τ1) ty, ρ, out, n⟩ := by
  cases hv with
  | int a =>
    have hs := step_exit_var (q := q) (t1 := τ1) (ty := ty) (out := out) (n := n) hl1 .prd
    exact .inl ⟨0, _, .done a, .refl _, rfl, fun _ => ⟨0, _, .done a, .refl _, rfl, hs, .done a⟩⟩
  | _ => exact Chunk.stuck (w := .notInt "main") rfl id

theorem Compiled.fv_ne_sig {i : Nat} {t : Fun.Term} {c : Core.Term} {T : Core.Stmt}
    (h : Compiled q i t c T) : ∀ y ∈ fv t, y ≠ sig := by
  obtain ⟨st, st', _, _, h3, _⟩ := h
  exact h3.fv_ne_sig

theorem Compiled.sig_lt' {i m : Nat} {t : Fun.Term} {c : Core.Term} {T : Core.Stmt}
    (h : Compiled q i t c T) (him : i ≤ m) : ∀ b ∈ tfvTerm c [], b.var.name = sig → b.var.id < m := by
  obtain ⟨st, st', _, _, _, h4⟩ := h
  exact h4.sig_lt him

/-- `if □ ~ b {t} else {e}` -/
theorem cont_ifL (hcod : CodOK p q)
    {srt : Fun.IfSort} {b t e : Fun.Term} {env : Fun.Env}
    {k : Fun.Stack} {c : Core.Term} {i n : Nat} {B : Core.Term} {T E : Core.Stmt} {ρ0 ρ : CEnv}
    {out : Out} {z1 : Core.Ident} {τ1 : Core.Ty} {v : Fun.Value} {V : CVal}
    (hgb : good p b = true) (hgt : good p t = true) (hge : good p e = true)
    (hbt : getType b = some .i64)
    {stb stb' : CompileState} (hcb : compile b .i64 stb = .ok (B, stb')) (hstb : StOK q stb')
    (htnb : TermNames b stb)
    (hct : Compiled q i t c T) (hce : Compiled q i e c E) (hin : i ≤ n)
    (he : EnvRel (GP p) p q n (fv b ++ fv t ++ fv e) env ρ0) (hr : CRel (GP p) p q n k c ρ0)
    (hbB : BoundOn (tfvTerm B []) ρ0) (hbT : BoundOn (tfvStmt T []) ρ0)
    (hbE : BoundOn (tfvStmt E []) ρ0)
    (haB : AgreeOn (tfvTerm B []) ρ0 ρ) (haT : AgreeOn (tfvStmt T []) ρ0 ρ)
    (haE : AgreeOn (tfvStmt E []) ρ0 ρ)
    (hl1 : Core.Env.lookup ρ z1 = .ok V) (hz1 : z1.name = sig → z1.id < n)
    (hv : VRel (GP p) p q n v V) :
    Chunk p q (R p q) true true μ (.ret v (.ifL srt b t e env :: k))
      ⟨.ifc (compileSort srt) (.var .prd z1 τ1) B T E, ρ, out, n⟩ := by
  cases hv with
  | int a =>
    have f1 : FSteps p (.ret (.int a) (.ifL srt b t e env :: k))
        (.eval b env (.ifR srt a t e env :: k)) [] 1 := .one rfl
    refine Chunk.prefix f1 (.refl _) rfl (fun _ => Nat.le_refl _) (fun h => .inr h) ?_
    have hzne : z1 ≠ Core.sigmaName n := by
      intro e
      have := hz1 (by rw [e]; rfl)
      rw [e] at this
      simp [sigmaName_id] at this
    have hete : EnvRel (GP p) p q n (fv t ++ fv e) env ρ0 := he.sub fun y hy => by
      simp only [List.mem_append] at hy ⊢; rcases hy with h | h <;> simp [h]
    refine operand_sim hcod b hgb hbt (fun h => .ifc (compileSort srt) (.var .prd z1 τ1) h T E)
      (fun A hA => split_ifc2 rfl hA) hcb hstb htnb (he.sub fun y hy => by simp [hy]) hbB haB ?_ ?_
    · intro τ
      refine KRel.ifR (i := n) (ρ0 := ρ0) hgt hge (Nat.lt_succ_self n) hzne hl1 (hct.mono hin)
        (hce.mono hin) (hete.mono (Nat.le_succ n)) (hr.mono (Nat.le_succ n)) ?_ ?_
      · intro y hy
        rcases List.mem_append.1 (List.mem_filter.1 hy).1 with h | h
        · exact hbT y h
        · exact hbE y h
      · intro y hy
        rcases List.mem_append.1 (List.mem_filter.1 hy).1 with h | h
        · exact haT y h
        · exact haE y h
    · intro ρ' n' z τ v2 V2 hn hext hl hvr hb
      obtain ⟨ρ0', hext0, hag'⟩ := hext.agree (ρ0 := ρ0)
      have hfs : ∀ y ∈ fv t ++ fv e, y ≠ sig := by
        intro y hy
        rcases List.mem_append.1 hy with h | h
        · exact hct.fv_ne_sig y h
        · exact hce.fv_ne_sig y h
      refine cont_ifR (ρ0 := ρ0') hgt hge hct hce (by omega)
        ((hete.mono hn).sigExt hext0 hfs)
        ((hr.mono hn).sigExt hext0 (hct.sig_lt' hin))
        (hbT.sigExt hext0) (hbE.sigExt hext0) (hag' _ haT) (hag' _ haE)
        ?_ hl (hvr.mono hn)
      rw [hext.lookup z1 hz1]
      exact hl1
  | _ => exact Chunk.stuck (w := .notInt "if") rfl id

end Scc.Fun2Core.Sem
