/-
  Scc.Fun2Core.Hygiene — the decidable hygiene predicate of C02, computed along the translation of
  `Scc.Fun2Core.Model`: `Hygienic p = true` iff at no point of the translation of `p` a continuation
  is placed under a binder whose name occurs free in it.  The translation puts a continuation under
  a binder in exactly two places:
    * terms/let.rs: `μ~x.⟦in_term⟧_cont`            (binder `x` over `cont`),
    * terms/clause.rs `compile_clause`: `K(x̄) ⇒ ⟦body⟧_cont` (binders `x̄` over `cont`, where `cont`
      is the consumer of the `case`, or the `μ~v.share_…(fv)` that replaces it);
  everywhere else the consumer under a fresh/own binder is a fresh covariable, the label itself, or
  the recursion descends into a subterm with a NEW consumer (which is then checked there).  The
  checks are made on the consumer ACTUALLY placed (after `share`), with the binders ACTUALLY emitted
  (the typed clause context).
  Since the repair ce30c7b both places are behind the guard `binders_occur_free`, and the predicate
  is `true` for every program whose clause binder names are those of its typed clause contexts
  (`namesAgree`, Scc.Fun2Core.HygieneProofs; `C02_no_capture`).
  Executable, core imports only, structurally recursive (same two-closure layout as `compileBoth`;
  intermediate states and statements are those of the real model functions).
-/
import Scc.Fun2Core.Model

namespace Scc.Fun2Core
open Scc

/-- names of the typed free variables of a consumer (`typed_free_vars`, ids are all 0 in S2) -/
def fvNames (c : Core.Term) : List String := (tfvTerm c []).map (·.var.name)

/-- no name of `binders` occurs free in `cont` -/
def noCapture (binders : List String) (cont : Core.Term) : Bool :=
  binders.all fun x => !(fvNames cont).contains x

abbrev HygCwc : Type := Core.Term → CompileState → Bool
abbrev HygComp : Type := Core.Ty → CompileState → Bool

/-- mirrors `defaultCompile` -/
def hygDefault (h : HygCwc) : HygComp := fun ty st =>
  let nc := freshCovar st
  h (.var .cns ⟨nc.1, 0⟩ ty) nc.2

/-- mirrors `guardedLvl`: on the guarded path the consumer stays outside (`⟨μa.⟦t⟧_a | cont⟩`) -/
def hygGuardedLvl (binders : List String) (ty : Option Fun.Ty) (core : HygCwc) : Nat → HygCwc
  | 0 => fun _ _ => true
  | n + 1 => fun cont st =>
    if bindersOccurFree binders cont then
      match ty with
      | none => true
      | some t => hygDefault (hygGuardedLvl binders ty core n) (compileTy t) st
    else core cont st

def hygGuarded (binders : List String) (ty : Option Fun.Ty) (core : HygCwc) : HygCwc :=
  hygGuardedLvl binders ty core (binders.length + 2)

mutual
  /-- hygiene of `compile_with_cont` / `compile` of a term, from a given state -/
  def hygBoth : Fun.Term → HygCwc × HygComp
    | .var _ _ _ => (fun _ _ => true, fun _ _ => true)
    | .lit _ => (fun _ _ => true, fun _ _ => true)
    | .op a _ b =>
      let h : CompileState → Bool := fun st =>
        (hygBoth a).2 .i64 st &&
        (match compile a .i64 st with
          | .error _ => true
          | .ok (_, st1) => (hygBoth b).2 .i64 st1)
      (fun _ st => h st, fun _ st => h st)
    | .ifc _ a b t e _ =>
      let h : HygCwc := fun cont st =>
        let r := if isLeaf cont then (cont, st) else share cont st
        (hygBoth a).2 .i64 r.2 &&
        (match compile a .i64 r.2 with
          | .error _ => true
          | .ok (_, st1) =>
            (hygBoth b).2 .i64 st1 &&
            (match compile b .i64 st1 with
              | .error _ => true
              | .ok (_, st2) =>
                (hygBoth t).1 r.1 st2 &&
                (match compileWithCont t r.1 st2 with
                  | .error _ => true
                  | .ok (_, st3) => (hygBoth e).1 r.1 st3)))
      (h, hygDefault h)
    | .ifz _ a t e _ =>
      let h : HygCwc := fun cont st =>
        let r := if isLeaf cont then (cont, st) else share cont st
        (hygBoth a).2 .i64 r.2 &&
        (match compile a .i64 r.2 with
          | .error _ => true
          | .ok (_, st1) =>
            (hygBoth t).1 r.1 st1 &&
            (match compileWithCont t r.1 st1 with
              | .error _ => true
              | .ok (_, st2) => (hygBoth e).1 r.1 st2))
      (h, hygDefault h)
    | .print _ a n _ =>
      let h : HygCwc := fun cont st =>
        (hygBoth a).2 .i64 st &&
        (match compile a .i64 st with
          | .error _ => true
          | .ok (_, st1) => (hygBoth n).1 cont st1)
      (h, hygDefault h)
    -- terms/let.rs: `cont` goes under the binder `x` (after the guard)
    | .letIn x varTy bound body lty =>
      let core : HygCwc := fun cont st =>
        noCapture [x] cont && (hygBoth body).1 cont st &&
        (match compileWithCont body cont st with
          | .error _ => true
          | .ok (inStmt, st1) =>
            let ty := compileTy varTy
            if isCodata ty st1.codataTypes then (hygBoth bound).2 ty st1
            else (hygBoth bound).1 (.mu .cns ⟨x, 0⟩ ty inStmt) st1)
      let h : HygCwc := hygGuarded [x] lty core
      (h, hygDefault h)
    | .call _ args _ =>
      let h : HygCwc := fun _ st => hygSubst args st
      (h, hygDefault h)
    | .ctor _ args _ => (fun _ st => hygSubst args st, fun _ st => hygSubst args st)
    | .dtor scrutinee id _ args _ =>
      let h : HygCwc := fun cont st =>
        hygSubst args st &&
        (match compileSubst args st with
          | .error _ => true
          | .ok (args', st1) =>
            match getType scrutinee with
            | none => true
            | some t =>
              (hygBoth scrutinee).1
                (.xtor .cns ⟨id, 0⟩ (argsSnoc args' .cns cont) (compileTy t)) st1)
      (h, hygDefault h)
    | .case scrutinee _ clauses cty =>
      let core : HygCwc := fun cont st =>
        let r := if clausesLen clauses ≤ 1 || isLeaf cont then (cont, st) else share cont st
        hygClauses clauses r.1 r.2 &&
        (match compileClauses clauses r.1 r.2 with
          | .error _ => true
          | .ok (cs, st1) =>
            match getType scrutinee with
            | none => true
            | some t => (hygBoth scrutinee).1 (.xcase .cns (compileTy t) cs) st1)
      let h : HygCwc := hygGuarded (clausesNames clauses) cty core
      (h, hygDefault h)
    | .new clauses _ => (fun _ st => hygCoclauses clauses st, fun _ st => hygCoclauses clauses st)
    | .goto target t _ =>
      let h : HygCwc := fun _ st =>
        match getType t with
        | none => true
        | some gty => (hygBoth t).1 (.var .cns ⟨target, 0⟩ (compileTy gty)) st
      (h, hygDefault h)
    | .label a t ty =>
      let h : CompileState → Bool := fun st =>
        match ty with
        | none => true
        | some lty => (hygBoth t).1 (.var .cns ⟨a, 0⟩ (compileTy lty)) st
      (fun _ st => h st, fun _ st => h st)
    | .exit arg _ =>
      let h : HygCwc := fun _ st => (hygBoth arg).2 .i64 st
      (h, hygDefault h)
    | .paren inner => (fun c st => (hygBoth inner).1 c st, fun ty st => (hygBoth inner).2 ty st)
  def hygSubst : Fun.Terms → CompileState → Bool
    | .nil, _ => true
    | .cons term rest, st =>
      match covarArg term with
      | some _ => hygSubst rest st
      | none =>
        match getType term with
        | none => true
        | some t =>
          (hygBoth term).2 (compileTy t) st &&
          (match compile term (compileTy t) st with
            | .error _ => true
            | .ok (_, st1) => hygSubst rest st1)
  -- terms/clause.rs compile_clause: `cont` goes under the clause binders
  def hygClauses : Fun.Clauses → Core.Term → CompileState → Bool
    | .nil, _, _ => true
    | .cons _ _ _ ctx body rest, cont, st =>
      noCapture (ctx.map (·.var)) cont && (hygBoth body).1 cont st &&
      (match compileWithCont body cont st with
        | .error _ => true
        | .ok (_, st1) => hygClauses rest cont st1)
  def hygCoclauses : Fun.Clauses → CompileState → Bool
    | .nil, _ => true
    | .cons _ _ _ _ body rest, st =>
      match getType body with
      | none => true
      | some t =>
        let nc := freshCovar st
        (hygBoth body).1 (.var .cns ⟨nc.1, 0⟩ (compileTy t)) nc.2 &&
        (match compileWithCont body (.var .cns ⟨nc.1, 0⟩ (compileTy t)) nc.2 with
          | .error _ => true
          | .ok (_, st1) => hygCoclauses rest st1)
end

/-- hygiene of the translation of one definition (def.rs: compile_def / compile_main); also returns
the `used_labels` after it -/
def hygDef (isMain : Bool) (d : Fun.Def) (codataTypes : List Core.TypeDecl)
    (usedLabels : List String) : Bool × List String :=
  let usedVars := usedBinders d.body (ctxVars d.ctx)
  let st : CompileState := ⟨usedVars, codataTypes, usedLabels, d.name, []⟩
  match getType d.body with
  | none => (true, usedLabels)
  | some t =>
    let ty := compileTy t
    let r : Core.Term × CompileState :=
      if isMain then
        let nv := freshVar st
        (.mu .cns ⟨nv.1, 0⟩ ty (.exit (.var .prd ⟨nv.1, 0⟩ ty) ty), nv.2)
      else
        let nc := freshCovar st
        (.var .cns ⟨nc.1, 0⟩ ty, nc.2)
    let ok := (hygBoth d.body).1 r.1 r.2
    match compileWithCont d.body r.1 r.2 with
    | .error _ => (ok, usedLabels)
    | .ok (_, st') => (ok, st'.usedLabels)

def hygDefs (codataTypes : List Core.TypeDecl) : List Fun.Def → List String → Bool
  | [], _ => true
  | d :: rest, usedLabels =>
    let r := hygDef (d.name == "main") d codataTypes usedLabels
    r.1 && hygDefs codataTypes rest r.2

/-- C02: the decidable hygiene predicate — no continuation is placed under a binder whose name
occurs free in it, anywhere in the translation of `p` -/
def Hygienic (p : Fun.CheckedProgram) : Bool :=
  let codataTypes : List Core.TypeDecl :=
    p.codataTypes.map fun d => ⟨⟨d.name, 0⟩, d.dtors.map compileDtor⟩
  let usedLabels := p.defs.foldl (fun acc d => setInsert d.name acc) []
  hygDefs codataTypes p.defs usedLabels

/-- line driver: `HYG true|false` for an S1 dump -/
def hygLine (dumpS1 : String) : String :=
  match Sexp.parse dumpS1 with
  | none => "ERR sexp"
  | some sx =>
    match Fun.readChecked (dumpS1.length + 10) sx with
    | none => "ERR read"
    | some p => "HYG " ++ toString (Hygienic p)

end Scc.Fun2Core
