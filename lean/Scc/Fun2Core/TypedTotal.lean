/-
  Scc.Fun2Core.TypedTotal — C12, link fun2core: THE TRANSLATION OF A TYPED TERM DOES NOT FAIL.
  The model's `Except.error` outcomes are the Rust `expect("Types should be annotated before
  translation")` sites and the (unreachable) exhaustion of the capture guard's re-entry.  For an
  annotated, typed term (`TypedM`) whose binders are in the used-names set (always, in a run started by
  `compile_def` / `compile_main`) none of them is reached: `compile_with_cont` and `compile` return `ok`.
-/
import Scc.Fun2Core.TypedTerm

namespace Scc.Fun2Core.Typed
open Scc.Core
open Scc.Fun.Typing (lookupCtx bindNames clauseXtors)

def UIn (l : List String) (st : CompileState) : Prop := ∀ x ∈ l, x ∈ st.usedVars

theorem UIn.mono {l : List String} {st st' : CompileState} (h : UIn l st) (hf : Fresh st st') :
    UIn l st' := fun x hx => hf.vars.subset (h x hx)

theorem UIn.sub {l l' : List String} {st : CompileState} (h : UIn l st) (hs : ∀ x ∈ l', x ∈ l) :
    UIn l' st := fun x hx => h x (hs x hx)

section
variable (p : Fun.CheckedProgram)

def OkCwc (t : Fun.Term) : Prop :=
  ∀ (Γ : Fun.Ctx) (τ : Fun.Ty) (c : Term) (st : CompileState), TypedM p t Γ τ →
    UIn (binderNames t) st → ∃ r, compileWithCont t c st = .ok r
def OkComp (t : Fun.Term) : Prop :=
  ∀ (Γ : Fun.Ctx) (τ : Fun.Ty) (ty : Ty) (st : CompileState), TypedM p t Γ τ →
    UIn (binderNames t) st → ∃ r, compile t ty st = .ok r
def OkSubst (args : Fun.Terms) : Prop :=
  ∀ (Γ : Fun.Ctx) (bs : Fun.Ctx) (st : CompileState), ArgsM p args Γ bs →
    UIn (binderNamesArgs args) st → ∃ r, compileSubst args st = .ok r
def OkClauses (cs : Fun.Clauses) : Prop :=
  ∀ (Γ : Fun.Ctx) (sigs : List Fun.CtorSig) (τ : Fun.Ty) (c : Term) (st : CompileState),
    ClausesM p cs Γ sigs τ → UIn (binderNamesClauses cs) st → ∃ r, compileClauses cs c st = .ok r
def OkCoclauses (cs : Fun.Clauses) : Prop :=
  ∀ (Γ : Fun.Ctx) (sigs : List Fun.DtorSig) (st : CompileState),
    CoclausesM p cs Γ sigs → UIn (binderNamesClauses cs) st → ∃ r, compileCoclauses cs st = .ok r

end

variable {p : Fun.CheckedProgram}

theorem okComp_default {t : Fun.Term} (h : OkCwc p t)
    (hd : ∀ ty st, compile t ty st = defaultCompile (compileWithCont t) ty st) : OkComp p t := by
  intro Γ τ ty st ht hb
  rw [hd, defaultCompile_eq]
  obtain ⟨⟨s, st1⟩, hx⟩ := h Γ τ (.var .cns ⟨(freshCovar st).1, 0⟩ ty) (freshCovar st).2 ht
    (hb.mono (fresh_freshCovar st))
  rw [hx]
  exact ⟨_, rfl⟩

theorem okCwc_of_comp {t : Fun.Term} (hc : OkComp p t)
    (hcwc : ∀ Γ τ, TypedM p t Γ τ → ∀ c st, compileWithCont t c st =
      (match compile t (compileTy τ) st with
        | .error e => .error e
        | .ok (q, st1) => .ok (.cut (compileTy τ) q c, st1))) : OkCwc p t := by
  intro Γ τ c st ht hb
  rw [hcwc Γ τ ht]
  obtain ⟨⟨q, st1⟩, hx⟩ := hc Γ τ (compileTy τ) st ht hb
  rw [hx]
  exact ⟨_, rfl⟩

theorem okGuarded {binders L : List String} {an : Option Fun.Ty} {site : String} {core : CwcFn}
    {τ : Fun.Ty} (han : an = some τ) (hsub : ∀ x ∈ binders, x ∈ L)
    (hcore : ∀ (c : Term) (st : CompileState), UIn L st → ∃ r, core c st = .ok r)
    (c : Term) (st : CompileState) (hb : UIn L st) : ∃ r, guarded binders an site core c st = .ok r := by
  rw [guarded_eq_of_binders_used binders an site core c st (fun x hx => hb x (hsub x hx))]
  split
  · subst han
    simp only
    obtain ⟨⟨s, st1⟩, hx⟩ := hcore (.var .cns ⟨(freshCovar st).1, 0⟩ (compileTy τ)) (freshCovar st).2
      (hb.mono (fresh_freshCovar st))
    rw [hx]
    exact ⟨_, rfl⟩
  · exact hcore c st hb

mutual
/-- both translations of a typed term whose binders are in the used-names set return `ok`; with
`ok_subst`, `ok_clauses`, `ok_coclauses` for argument lists and clause lists -/
theorem ok_term : ∀ t : Fun.Term, OkCwc p t ∧ OkComp p t
  | .var x ty chi => by
    have hcomp : OkComp p (.var x ty chi) := by
      intro Γ τ cty st ht hb
      simp only [TypedM] at ht
      obtain ⟨-, rfl, -⟩ := ht
      exact ⟨_, c_var x (some τ) chi cty st⟩
    refine ⟨okCwc_of_comp hcomp ?_, hcomp⟩
    intro Γ τ ht c st
    simp only [TypedM] at ht
    obtain ⟨-, rfl, -⟩ := ht
    rfl
  | .lit n => ⟨fun _ _ _ _ _ _ => ⟨_, rfl⟩, fun _ _ _ _ _ _ => ⟨_, rfl⟩⟩
  | .op a o b => by
    have ha := (ok_term a).2
    have hb' := (ok_term b).2
    have hcomp : OkComp p (.op a o b) := by
      intro Γ τ cty st ht hb
      simp only [TypedM] at ht
      obtain ⟨-, tya, tyb⟩ := ht
      rw [c_op]
      obtain ⟨⟨fst, st1⟩, hx⟩ := ha Γ .i64 .i64 st tya (hb.sub (by bsub))
      obtain ⟨⟨snd, st2⟩, hy⟩ := hb' Γ .i64 .i64 st1 tyb ((hb.sub (by bsub)).mono (compile_fresh hx))
      simp only [hx, hy]
      exact ⟨_, rfl⟩
    refine ⟨okCwc_of_comp hcomp ?_, hcomp⟩
    intro Γ τ ht c st
    simp only [TypedM] at ht
    obtain ⟨rfl, -⟩ := ht
    exact cwc_op a o b c st
  | .ifc srt a b t e an => by
    have ha := (ok_term a).2
    have hb' := (ok_term b).2
    have ht' := (ok_term t).1
    have he := (ok_term e).1
    have hcwc : OkCwc p (.ifc srt a b t e an) := by
      intro Γ τ c st hty hb
      simp only [TypedM] at hty
      obtain ⟨-, -, tya, tyb, tyt, tye⟩ := hty
      rw [cwc_ifc]
      have hfr := shareUnless_fresh (isLeaf c) c st
      generalize shareUnless (isLeaf c) c st = r at hfr
      have b0 := hb.mono hfr
      obtain ⟨⟨fst, st1⟩, hx⟩ := ha Γ .i64 .i64 r.2 tya (b0.sub (by bsub))
      have b1 := b0.mono (compile_fresh hx)
      obtain ⟨⟨snd, st2⟩, hy⟩ := hb' Γ .i64 .i64 st1 tyb (b1.sub (by bsub))
      have b2 := b1.mono (compile_fresh hy)
      obtain ⟨⟨thenc, st3⟩, hz⟩ := ht' Γ τ r.1 st2 tyt (b2.sub (by bsub))
      have b3 := b2.mono (compileWithCont_fresh hz)
      obtain ⟨⟨elsec, st4⟩, hw⟩ := he Γ τ r.1 st3 tye (b3.sub (by bsub))
      simp only [hx, hy, hz, hw]
      exact ⟨_, rfl⟩
    exact ⟨hcwc, okComp_default hcwc (c_ifc srt a b t e an)⟩
  | .ifz srt a t e an => by
    have ha := (ok_term a).2
    have ht' := (ok_term t).1
    have he := (ok_term e).1
    have hcwc : OkCwc p (.ifz srt a t e an) := by
      intro Γ τ c st hty hb
      simp only [TypedM] at hty
      obtain ⟨-, -, tya, tyt, tye⟩ := hty
      rw [cwc_ifz]
      have hfr := shareUnless_fresh (isLeaf c) c st
      generalize shareUnless (isLeaf c) c st = r at hfr
      have b0 := hb.mono hfr
      obtain ⟨⟨fst, st1⟩, hx⟩ := ha Γ .i64 .i64 r.2 tya (b0.sub (by bsub))
      have b1 := b0.mono (compile_fresh hx)
      obtain ⟨⟨thenc, st3⟩, hz⟩ := ht' Γ τ r.1 st1 tyt (b1.sub (by bsub))
      have b3 := b1.mono (compileWithCont_fresh hz)
      obtain ⟨⟨elsec, st4⟩, hw⟩ := he Γ τ r.1 st3 tye (b3.sub (by bsub))
      simp only [hx, hz, hw]
      exact ⟨_, rfl⟩
    exact ⟨hcwc, okComp_default hcwc (c_ifz srt a t e an)⟩
  | .print nl a n an => by
    have ha := (ok_term a).2
    have hn := (ok_term n).1
    have hcwc : OkCwc p (.print nl a n an) := by
      intro Γ τ c st hty hb
      simp only [TypedM] at hty
      obtain ⟨-, -, tya, tyn⟩ := hty
      rw [cwc_print]
      obtain ⟨⟨arg, st1⟩, hx⟩ := ha Γ .i64 .i64 st tya (hb.sub (by bsub))
      obtain ⟨⟨next, st2⟩, hy⟩ := hn Γ τ c st1 tyn ((hb.sub (by bsub)).mono (compile_fresh hx))
      simp only [hx, hy]
      exact ⟨_, rfl⟩
    exact ⟨hcwc, okComp_default hcwc (c_print nl a n an)⟩
  | .letIn x σ bound body an => by
    have hbc := (ok_term bound).1
    have hbp := (ok_term bound).2
    have hi := (ok_term body).1
    have hcwc : OkCwc p (.letIn x σ bound body an) := by
      intro Γ τ c st hty hb
      simp only [TypedM] at hty
      obtain ⟨-, han, tyb, tyi⟩ := hty
      rw [cwc_letIn]
      refine okGuarded (L := binderNames (.letIn x σ bound body an)) han
        (by intro y hy; simp only [List.mem_singleton] at hy; simp [binderNames, hy]) ?_ c st hb
      intro c st hb
      unfold letCore
      obtain ⟨⟨inStmt, st1⟩, hx⟩ := hi _ τ c st tyi (hb.sub (by bsub))
      have b1 := hb.mono (compileWithCont_fresh hx)
      simp only [hx]
      split
      · obtain ⟨⟨q, st2⟩, hy⟩ := hbp Γ σ (compileTy σ) st1 tyb (b1.sub (by bsub))
        simp only [hy]
        exact ⟨_, rfl⟩
      · exact hbc Γ σ _ st1 tyb (b1.sub (by bsub))
    exact ⟨hcwc, okComp_default hcwc (c_letIn x σ bound body an)⟩
  | .call f args an => by
    have hs := ok_subst args
    have hcwc : OkCwc p (.call f args an) := by
      intro Γ τ c st hty hb
      simp only [TypedM] at hty
      obtain ⟨-, rfl, d, hd, rfl, rfl, targs⟩ := hty
      rw [cwc_call]
      obtain ⟨⟨args', st1⟩, hx⟩ := hs Γ d.ctx st targs (hb.sub (by bsub))
      simp only [hx]
      exact ⟨_, rfl⟩
    exact ⟨hcwc, okComp_default hcwc (c_call f args an)⟩
  | .ctor k args an => by
    have hs := ok_subst args
    have hcomp : OkComp p (.ctor k args an) := by
      intro Γ τ cty st hty hb
      simp only [TypedM] at hty
      obtain ⟨-, rfl, d, cc, hd, hcc, targs⟩ := hty
      rw [c_ctor]
      obtain ⟨⟨args', st1⟩, hx⟩ := hs Γ cc.args st targs (hb.sub (by bsub))
      simp only [hx]
      exact ⟨_, rfl⟩
    refine ⟨okCwc_of_comp hcomp ?_, hcomp⟩
    intro Γ τ ht c st
    simp only [TypedM] at ht
    obtain ⟨-, rfl, -⟩ := ht
    exact cwc_ctor k args (some τ) c st
  | .dtor scrut k ta args an => by
    have hs := ok_subst args
    have hsc := (ok_term scrut).1
    have hcwc : OkCwc p (.dtor scrut k ta args an) := by
      intro Γ τ c st hty hb
      simp only [TypedM] at hty
      obtain ⟨-, -, σ, d, sg, tys, hd, hsg, rfl, targs⟩ := hty
      rw [cwc_dtor]
      obtain ⟨⟨args', st1⟩, hx⟩ := hs Γ sg.args st targs (hb.sub (by bsub))
      simp only [hx, getType_of_typed p scrut Γ σ tys]
      exact hsc Γ σ _ st1 tys ((hb.sub (by bsub)).mono ((rel_subst fresh_stepRel args) _ _ _ hx))
    exact ⟨hcwc, okComp_default hcwc (c_dtor scrut k ta args an)⟩
  | .case scrut ta cs an => by
    have hcl := ok_clauses cs
    have hsc := (ok_term scrut).1
    have hcwc : OkCwc p (.case scrut ta cs an) := by
      intro Γ τ c st hty hb
      simp only [TypedM] at hty
      obtain ⟨-, han, σ, d, tys, hd, tcs, hcov⟩ := hty
      rw [cwc_case]
      refine okGuarded (L := binderNames (.case scrut ta cs an)) han
        (by intro y hy; simp [binderNames, clausesNames_sub cs y hy]) ?_ c st hb
      intro c st hb
      unfold caseCore
      have hfr := shareUnless_fresh (decide (clausesLen cs ≤ 1) || isLeaf c) c st
      generalize shareUnless (decide (clausesLen cs ≤ 1) || isLeaf c) c st = r at hfr
      have b0 := hb.mono hfr
      obtain ⟨⟨cs', st1⟩, hx⟩ := hcl Γ d.ctors τ r.1 r.2 tcs (b0.sub (by bsub))
      simp only [hx, getType_of_typed p scrut Γ σ tys]
      exact hsc Γ σ _ st1 tys ((b0.sub (by bsub)).mono ((rel_clauses fresh_stepRel cs) _ _ _ _ hx))
    exact ⟨hcwc, okComp_default hcwc (c_case scrut ta cs an)⟩
  | .new cs an => by
    have hs := ok_coclauses cs
    have hcomp : OkComp p (.new cs an) := by
      intro Γ τ cty st hty hb
      simp only [TypedM] at hty
      obtain ⟨-, rfl, d, hd, tcs, hcov⟩ := hty
      rw [c_new]
      obtain ⟨⟨cs', st1⟩, hx⟩ := hs Γ d.dtors st tcs (hb.sub (by bsub))
      simp only [hx]
      exact ⟨_, rfl⟩
    refine ⟨okCwc_of_comp hcomp ?_, hcomp⟩
    intro Γ τ ht c st
    simp only [TypedM] at ht
    obtain ⟨-, rfl, -⟩ := ht
    exact cwc_new cs (some τ) c st
  | .goto a t an => by
    have ht' := (ok_term t).1
    have hcwc : OkCwc p (.goto a t an) := by
      intro Γ τ c st hty hb
      simp only [TypedM] at hty
      obtain ⟨-, -, b, hl, hchi, tyt⟩ := hty
      rw [cwc_goto]
      simp only [getType_of_typed p t Γ b.ty tyt]
      exact ht' Γ b.ty _ st tyt (hb.sub (by bsub))
    exact ⟨hcwc, okComp_default hcwc (c_goto a t an)⟩
  | .label a t an => by
    have ht' := (ok_term t).1
    have hcomp : OkComp p (.label a t an) := by
      intro Γ τ cty st hty hb
      simp only [TypedM] at hty
      obtain ⟨-, rfl, tyt⟩ := hty
      rw [c_label]
      simp only
      obtain ⟨⟨s, st1⟩, hx⟩ := ht' _ τ (.var .cns ⟨a, 0⟩ (compileTy τ)) st tyt (hb.sub (by bsub))
      simp only [hx]
      exact ⟨_, rfl⟩
    refine ⟨okCwc_of_comp hcomp ?_, hcomp⟩
    intro Γ τ ht c st
    simp only [TypedM] at ht
    obtain ⟨-, rfl, -⟩ := ht
    exact cwc_label a t (some τ) c st
  | .exit arg an => by
    have ha := (ok_term arg).2
    have hcwc : OkCwc p (.exit arg an) := by
      intro Γ τ c st hty hb
      simp only [TypedM] at hty
      obtain ⟨-, rfl, tya⟩ := hty
      rw [cwc_exit]
      obtain ⟨⟨a, st1⟩, hx⟩ := ha Γ .i64 .i64 st tya (hb.sub (by bsub))
      simp only [hx]
      exact ⟨_, rfl⟩
    exact ⟨hcwc, okComp_default hcwc (c_exit arg an)⟩
  | .paren inner => by
    have hi := ok_term inner
    refine ⟨fun Γ τ c st hty hb => ?_, fun Γ τ ty st hty hb => ?_⟩
    · simp only [TypedM] at hty
      rw [cwc_paren]
      exact hi.1 Γ τ c st hty (hb.sub (by bsub))
    · simp only [TypedM] at hty
      rw [c_paren]
      exact hi.2 Γ τ ty st hty (hb.sub (by bsub))
theorem ok_subst : ∀ args : Fun.Terms, OkSubst p args
  | .nil => fun _ _ _ _ _ => ⟨_, rfl⟩
  | .cons t rest => by
    have ht' := (ok_term t).2
    have hr := ok_subst rest
    intro Γ bs st hty hb
    simp only [ArgsM] at hty
    obtain ⟨b, bs', rfl, trest, hcase⟩ := hty
    rw [subst_cons]
    rcases hcase with ⟨hchi, tyt⟩ | ⟨hchi, x, b', rfl, hl, hchi', hty'⟩
    · simp only [covarArg_of_typed p tyt, getType_of_typed p t Γ b.ty tyt]
      obtain ⟨⟨q, st1⟩, hx⟩ := ht' Γ b.ty (compileTy b.ty) st tyt (hb.sub (by bsub))
      obtain ⟨⟨r, st2⟩, hy⟩ := hr Γ bs' st1 trest ((hb.sub (by bsub)).mono (compile_fresh hx))
      simp only [hx, hy]
      exact ⟨_, rfl⟩
    · simp only [covarArg]
      obtain ⟨⟨r, st2⟩, hy⟩ := hr Γ bs' st trest (hb.sub (by bsub))
      simp only [hy]
      exact ⟨_, rfl⟩
theorem ok_clauses : ∀ cs : Fun.Clauses, OkClauses p cs
  | .nil => fun _ _ _ _ _ _ _ => ⟨_, rfl⟩
  | .cons pol x ns ctx body rest => by
    have hb' := (ok_term body).1
    have hr := ok_clauses rest
    intro Γ sigs τ c st hty hb
    simp only [ClausesM] at hty
    obtain ⟨⟨cc, hcc, hnd, hlen, rfl, tyb⟩, trest⟩ := hty
    rw [clauses_cons]
    obtain ⟨⟨b, st1⟩, hx⟩ := hb' _ τ c st tyb (hb.sub (by bsub))
    obtain ⟨⟨r, st2⟩, hy⟩ := hr Γ sigs τ c st1 trest
      ((hb.sub (by bsub)).mono (compileWithCont_fresh hx))
    simp only [hx, hy]
    exact ⟨_, rfl⟩
theorem ok_coclauses : ∀ cs : Fun.Clauses, OkCoclauses p cs
  | .nil => fun _ _ _ _ _ => ⟨_, rfl⟩
  | .cons pol x ns ctx body rest => by
    have hb' := (ok_term body).1
    have hr := ok_coclauses rest
    intro Γ sigs st hty hb
    simp only [CoclausesM] at hty
    obtain ⟨⟨cc, hcc, hnd, hlen, rfl, tyb⟩, trest⟩ := hty
    rw [coclauses_cons]
    simp only [getType_of_typed p body _ _ tyb]
    have f0 := fresh_freshCovar st
    obtain ⟨⟨b, st1⟩, hx⟩ := hb' _ cc.contTy (.var .cns ⟨(freshCovar st).1, 0⟩ (compileTy cc.contTy))
      (freshCovar st).2 tyb ((hb.sub (by bsub)).mono f0)
    obtain ⟨⟨r, st2⟩, hy⟩ := hr Γ sigs st1 trest
      (((hb.sub (by bsub)).mono f0).mono (compileWithCont_fresh hx))
    simp only [hx, hy]
    exact ⟨_, rfl⟩
end

end Scc.Fun2Core.Typed
