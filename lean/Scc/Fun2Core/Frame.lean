/-
  Scc.Fun2Core.Frame — a generic "state relation" induction over the translation: every reflexive,
  transitive relation on `CompileState` that holds for the primitive state updates `fresh_covar`
  and `share` holds between the input and output state of every run (`Compiles.rel`), hence of
  `compile_with_cont` / `compile` / `compile_subst` / `compile_clause`s / `compile_coclause`s
  (`rel_term` …).  Instances: the freshness invariant `Fresh` (C02, and the state threading of the
  typing proofs), `ς ∉ usedVars` and their conjunction `FS` (simulation).
-/
import Scc.Fun2Core.Compiles

namespace Scc.Fun2Core

/-- a relation on compile states preserved by the primitive updates.  The induction over the runs
uses `freshCovar` and `share` only (`share` answers for its own `fresh_var`); `freshVar` is for
`compile_main`, which takes a fresh variable before it translates the body. -/
structure StepRel (R : CompileState → CompileState → Prop) : Prop where
  refl : ∀ st, R st st
  trans : ∀ {a b c}, R a b → R b c → R a c
  freshVar : ∀ st, R st (freshVar st).2
  freshCovar : ∀ st, R st (freshCovar st).2
  share : ∀ c st, R st (share c st).2

variable {R : CompileState → CompileState → Prop}

theorem stepRel_shareUnless (hR : StepRel R) (b : Bool) (c : Core.Term) (st : CompileState) :
    R st (shareUnless b c st).2 := by
  cases b
  · exact hR.share c st
  · exact hR.refl st

theorem Compiles.rel (hR : StepRel R) {r : Run} (h : Compiles r) : R r.st r.st' := by
  induction h with
  | c_var | c_lit | subst_nil | clauses_nil | coclauses_nil => exact hR.refl _
  | cwc_cut _ _ ih | cwc_call _ ih | cwc_goto _ _ ih | cwc_exit _ ih | cwc_paren _ ih
  | cwc_letIn _ ih | cwc_case _ ih | guard_pass _ _ ih | c_ctor _ ih | c_new _ ih | c_label _ ih
  | c_paren _ ih | subst_covar _ _ ih => exact ih
  | cwc_ifc _ _ _ _ iha ihb iht ihe =>
    exact hR.trans (stepRel_shareUnless hR _ _ _) (hR.trans iha (hR.trans ihb (hR.trans iht ihe)))
  | cwc_ifz _ _ _ iha iht ihe =>
    exact hR.trans (stepRel_shareUnless hR _ _ _) (hR.trans iha (hR.trans iht ihe))
  | core_case _ _ _ ihc ihs => exact hR.trans (stepRel_shareUnless hR _ _ _) (hR.trans ihc ihs)
  | cwc_print _ _ ih1 ih2 | cwc_dtor _ _ _ ih1 ih2 | core_let_data _ _ _ ih1 ih2
  | core_let_codata _ _ _ ih1 ih2 | c_op _ _ ih1 ih2 | subst_cons _ _ _ _ ih1 ih2
  | clauses_cons _ _ ih1 ih2 => exact hR.trans ih1 ih2
  | guard_wrap _ _ _ ih | c_default _ _ ih => exact hR.trans (hR.freshCovar _) ih
  | coclauses_cons _ _ _ ih1 ih2 => exact hR.trans (hR.freshCovar _) (hR.trans ih1 ih2)

theorem rel_term (hR : StepRel R) (t : Fun.Term) :
    (∀ c st s st', compileWithCont t c st = .ok (s, st') → R st st') ∧
    (∀ ty st p st', compile t ty st = .ok (p, st') → R st st') :=
  ⟨fun _ _ _ _ h => ((compiles_term t).1 _ _ _ _ h).rel hR,
    fun _ _ _ _ h => ((compiles_term t).2 _ _ _ _ h).rel hR⟩
theorem rel_subst (hR : StepRel R) (args : Fun.Terms) :
    ∀ st as st', compileSubst args st = .ok (as, st') → R st st' :=
  fun _ _ _ h => (compiles_subst args _ _ _ h).rel hR
theorem rel_clauses (hR : StepRel R) (cs : Fun.Clauses) :
    ∀ cont st cs' st', compileClauses cs cont st = .ok (cs', st') → R st st' :=
  fun _ _ _ _ h => (compiles_clauses cs _ _ _ _ h).rel hR
theorem rel_coclauses (hR : StepRel R) (cs : Fun.Clauses) :
    ∀ st cs' st', compileCoclauses cs st = .ok (cs', st') → R st st' :=
  fun _ _ _ h => (compiles_coclauses cs _ _ _ h).rel hR

end Scc.Fun2Core
