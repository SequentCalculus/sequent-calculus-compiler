/-
  Scc.Fun2Core.SemCodTypingLemmas — lemmas for the monomorphic state typing `STM`
  (Scc/Fun2Core/SemCodTyping.lean): the machine's by-name test `isCodataTy` IS "the type has a codata
  instance declaration" (`isCodataTy_eq`), the kind of a typed stack (`KTM.kind`), environments and
  contexts, binding of parameters, canonical forms of values, clause lookup (`clauseM_select`,
  `VTM.obj_clause`), definition lookup.  Parallel to Scc/Fun/SafetyLemmas.lean, which has them for
  the polymorphic judgement `ST`.
-/
import Scc.Fun2Core.SemCodTyping
import Scc.Fun2Core.SemPure
import Scc.Fun.SafetyLemmas

namespace Scc.Fun2Core.Sem
open Scc.Fun2Core.Typed
open Scc.Fun.Typing (lookupCtx bindNames clauseXtors)
open Scc.Fun.Safety (lookupCtx_append_single lookup_cons bindNames_cons bindNames_self)

mutual
  theorem tyName_printTy : ∀ (τ : Fun.Ty) (fuel : Nat), Fun.tyDepth τ ≤ fuel →
      Fun.tyName fuel τ = printTy τ
    | .i64 => fun fuel h => by
      cases fuel with
      | zero => simp [Fun.tyDepth] at h
      | succ f => rfl
    | .decl n .nil => fun fuel h => by
      cases fuel with
      | zero => simp [Fun.tyDepth] at h
      | succ f => simp [Fun.tyName, Fun.Tys.toList, printTy]
    | .decl n (.cons t r) => fun fuel h => by
      cases fuel with
      | zero => simp [Fun.tyDepth] at h
      | succ f =>
        have h' : Fun.tyDepth.go (.cons t r) ≤ f := by simp [Fun.tyDepth] at h; omega
        simp only [Fun.tyName, Fun.Tys.toList, printTy]
        rw [← tysName_printTy (.cons t r) f h' (by simp)]
        simp [Fun.Tys.toList]
  theorem tysName_printTy : ∀ (ts : Fun.Tys) (fuel : Nat), Fun.tyDepth.go ts ≤ fuel → ts ≠ .nil →
      ", ".intercalate (ts.toList.map (Fun.tyName fuel)) = printTys ts
    | .nil => fun _ _ h => absurd rfl h
    | .cons t .nil => fun fuel h _ => by
      have ht : Fun.tyDepth t ≤ fuel := by
        simp only [Fun.tyDepth.go] at h
        exact Nat.le_trans (Nat.le_max_left _ _) h
      simp [Fun.Tys.toList, printTys, tyName_printTy t fuel ht]
    | .cons t (.cons u r) => fun fuel h _ => by
      have ht : Fun.tyDepth t ≤ fuel := by
        simp only [Fun.tyDepth.go] at h
        exact Nat.le_trans (Nat.le_max_left _ _) h
      have hr : Fun.tyDepth.go (.cons u r) ≤ fuel := by
        simp only [Fun.tyDepth.go] at h ⊢
        exact Nat.le_trans (Nat.le_max_right _ _) h
      have ih := tysName_printTy (.cons u r) fuel hr (by simp)
      simp only [Fun.Tys.toList, List.map_cons, String.intercalate_cons_cons, printTys] at ih ⊢
      rw [tyName_printTy t fuel ht, ← ih]
end

theorem isCodataTy_eq (P : Fun.CheckedProgram) (τ : Fun.Ty) :
    Fun.isCodataTy P τ = (codataDecl P τ).isSome := by
  cases τ with
  | i64 => rfl
  | decl n a =>
    simp only [Fun.isCodataTy, codataDecl]
    rw [tyName_printTy (.decl n a) _ (Nat.le_succ _)]
    generalize printTy (.decl n a) = s
    induction P.codataTypes with
    | nil => rfl
    | cons d r ih =>
      simp only [List.any_cons, List.find?_cons, ih]
      by_cases h : d.name = s <;> simp [h]

theorem isCodataTy_of_codataDecl {P : Fun.CheckedProgram} {τ : Fun.Ty} {d : Fun.Codata}
    (h : codataDecl P τ = some d) : Fun.isCodataTy P τ = true := by
  rw [isCodataTy_eq, h]; rfl

theorem dataDecl_mem {P : Fun.CheckedProgram} {τ : Fun.Ty} {d : Fun.Data}
    (h : dataDecl P τ = some d) : d ∈ P.dataTypes ∧ d.name = printTy τ := by
  cases τ with
  | i64 => simp [dataDecl] at h
  | decl n a =>
    simp only [dataDecl] at h
    exact ⟨List.mem_of_find?_eq_some h, by simpa using List.find?_some h⟩

theorem codataDecl_mem {P : Fun.CheckedProgram} {τ : Fun.Ty} {d : Fun.Codata}
    (h : codataDecl P τ = some d) : d ∈ P.codataTypes ∧ d.name = printTy τ := by
  cases τ with
  | i64 => simp [codataDecl] at h
  | decl n a =>
    simp only [codataDecl] at h
    exact ⟨List.mem_of_find?_eq_some h, by simpa using List.find?_some h⟩

theorem isCodataTy_of_dataDecl {P : Fun.CheckedProgram} (hP : ProgM P) {τ : Fun.Ty} {d : Fun.Data}
    (h : dataDecl P τ = some d) : Fun.isCodataTy P τ = false := by
  rw [isCodataTy_eq]
  cases hc : codataDecl P τ with
  | none => rfl
  | some c =>
    obtain ⟨h1, h2⟩ := dataDecl_mem h
    obtain ⟨h3, h4⟩ := codataDecl_mem hc
    exact absurd (h2.trans h4.symm) (hP.disjoint d h1 c h3)

theorem codataDecl_of_dataDecl {P : Fun.CheckedProgram} (hP : ProgM P) {τ : Fun.Ty} {d : Fun.Data}
    (h : dataDecl P τ = some d) : codataDecl P τ = none := by
  have := isCodataTy_of_dataDecl hP h
  rw [isCodataTy_eq] at this
  cases hc : codataDecl P τ with
  | none => rfl
  | some c => rw [hc] at this; cases this

theorem KTM.kind {P : Fun.CheckedProgram} (hP : ProgM P) {k : Fun.Stack} {τ : Fun.Ty}
    (h : KTM P k τ) : Fun.isCodataTy P τ = kkind k := by
  cases h with
  | nil => rfl
  | exit => rfl
  | cons hf hk =>
    cases hf with
    | opL => rfl
    | opR => rfl
    | ifL => rfl
    | ifR => rfl
    | ifZ => rfl
    | print => rfl
    | letF Γ hn _ _ => simpa [kkind] using hn
    | arg Γ bsDone b bsTodo _ _ _ _ hn _ _ => simpa [kkind] using hn
    | caseF Γ d hd _ _ => simpa [kkind] using isCodataTy_of_dataDecl hP hd
    | dtorScrut Γ d sg hd _ _ _ _ => simpa [kkind] using isCodataTy_of_codataDecl hd
    | dtorApply d sg hd _ _ _ => simpa [kkind] using isCodataTy_of_codataDecl hd

theorem EnvTM.lookup {P : Fun.CheckedProgram} {x : String} {b : Fun.Binding} :
    ∀ (ρ : Fun.Env) (Γ : Fun.Ctx), EnvTM P ρ Γ → lookupCtx Γ x = some b →
    ∃ v, Fun.lookup x ρ = some v ∧ BTM P v b
  | [] => fun _ h hl => by
    cases h
    simp [lookupCtx] at hl
  | (y, v) :: ρ => fun _ h hl => by
    cases h with
    | cons b0 he hb =>
      rw [lookupCtx_append_single] at hl
      rw [lookup_cons]
      by_cases hx : b0.var = x
      · simp only [hx, if_true, Option.some.injEq] at hl ⊢
        subst hl
        exact ⟨v, rfl, hb⟩
      · simp only [hx, if_false] at hl ⊢
        exact EnvTM.lookup ρ _ he hl

theorem BTM.rename {P : Fun.CheckedProgram} {v : Fun.Value} {b b' : Fun.Binding} (h : BTM P v b)
    (hc : b'.chi = b.chi) (ht : b'.ty = b.ty) : BTM P v b' := by
  cases h with
  | prd h1 h2 => exact .prd (hc.trans h1) (ht ▸ h2)
  | cns h1 h2 => exact .cns (hc.trans h1) (ht ▸ h2)

theorem BTM.prd_inv {P : Fun.CheckedProgram} {v : Fun.Value} {b : Fun.Binding} (h : BTM P v b)
    (hc : b.chi = .prd) : VTM P v b.ty := by
  cases h with
  | prd _ h2 => exact h2
  | cns h1 _ => rw [hc] at h1; cases h1

theorem BTM.cns_inv {P : Fun.CheckedProgram} {v : Fun.Value} {b : Fun.Binding} (h : BTM P v b)
    (hc : b.chi = .cns) : ∃ k, v = .cont k ∧ KTM P k b.ty := by
  cases h with
  | prd h1 _ => rw [hc] at h1; cases h1
  | cns _ h2 => exact ⟨_, rfl, h2⟩

theorem VTsM.length {P : Fun.CheckedProgram} : ∀ (vs : List Fun.Value) (bs : Fun.Ctx),
    VTsM P vs bs → vs.length = bs.length
  | [] => fun _ h => by cases h; rfl
  | v :: vs => fun _ h => by
    cases h with
    | cons _ hr => simp [VTsM.length vs _ hr]

theorem VTsM.snoc {P : Fun.CheckedProgram} {v : Fun.Value} {b : Fun.Binding} (hb : BTM P v b) :
    ∀ (vs : List Fun.Value) (bs : Fun.Ctx), VTsM P vs bs → VTsM P (vs ++ [v]) (bs ++ [b])
  | [] => fun _ h => by cases h; exact .cons hb .nil
  | w :: vs => fun _ h => by
    cases h with
    | cons hw hr => exact .cons hw (VTsM.snoc hb vs _ hr)

/-- binding parameters to typed values succeeds and gives a typed environment -/
theorem bindAll_typedM {P : Fun.CheckedProgram} : ∀ (names : List String) (vs : List Fun.Value)
    (bs : Fun.Ctx) (ρ : Fun.Env) (Γ : Fun.Ctx), VTsM P vs bs → names.length = bs.length →
    EnvTM P ρ Γ → ∃ ρ', Fun.bindAll names vs ρ = some ρ' ∧ EnvTM P ρ' (Γ ++ bindNames names bs)
  | [] => fun vs bs ρ Γ hv hl he => by
    cases bs with
    | nil =>
      cases hv
      exact ⟨ρ, rfl, by simpa [bindNames] using he⟩
    | cons b bs => simp at hl
  | n :: ns => fun vs bs ρ Γ hv hl he => by
    cases bs with
    | nil => simp at hl
    | cons b bs =>
      cases hv with
      | cons hb hr =>
        rename_i v vs'
        have he' : EnvTM P ((n, v) :: ρ) (Γ ++ [{ b with var := n }]) :=
          EnvTM.cons { b with var := n } he (hb.rename rfl rfl)
        obtain ⟨ρ', h1, h2⟩ := bindAll_typedM ns vs' bs _ _ hr (by simpa using hl) he'
        refine ⟨ρ', by simpa [Fun.bindAll] using h1, ?_⟩
        rw [bindNames_cons]
        simpa using h2

theorem VTM.int_inv {P : Fun.CheckedProgram} {v : Fun.Value} (h : VTM P v .i64) :
    ∃ n, v = .int n := by
  generalize hτ : Fun.Ty.i64 = τ at h
  cases h with
  | int => exact ⟨_, rfl⟩
  | con d c hd _ _ => subst hτ; simp [dataDecl] at hd
  | obj Γ an _ h2 =>
    subst hτ
    simp only [TypedM] at h2
    obtain ⟨_, _, d, hd, _⟩ := h2
    simp [codataDecl] at hd
  | thunk Γ hc _ _ => subst hτ; simp [Fun.isCodataTy] at hc

theorem VTM.data_inv {P : Fun.CheckedProgram} (hP : ProgM P) {v : Fun.Value} {τ : Fun.Ty}
    {d : Fun.Data} (hd : dataDecl P τ = some d) (h : VTM P v τ) :
    ∃ K vs c, v = .con K vs ∧ d.ctors.find? (fun c => c.name = K) = some c ∧ VTsM P vs c.args := by
  cases h with
  | int => simp [dataDecl] at hd
  | con d' c hd' hc hvs =>
    rw [hd] at hd'; cases hd'
    exact ⟨_, _, c, rfl, hc, hvs⟩
  | obj Γ an _ h2 =>
    simp only [TypedM] at h2
    obtain ⟨_, _, d', hd', _⟩ := h2
    rw [codataDecl_of_dataDecl hP hd] at hd'; cases hd'
  | thunk Γ hc _ _ => rw [isCodataTy_of_dataDecl hP hd] at hc; cases hc

theorem VTM.codata_inv {P : Fun.CheckedProgram} (hP : ProgM P) {v : Fun.Value} {τ : Fun.Ty}
    {d : Fun.Codata} (hd : codataDecl P τ = some d) (h : VTM P v τ) :
    (∃ cs ρ Γ an, v = .obj cs ρ ∧ EnvTM P ρ Γ ∧ TypedM P (.new cs an) Γ τ) ∨
    (∃ t ρ Γ, v = .thunk t ρ ∧ EnvTM P ρ Γ ∧ TypedM P t Γ τ) := by
  cases h with
  | int => simp [codataDecl] at hd
  | con d' c hd' hc hvs =>
    rw [codataDecl_of_dataDecl hP hd'] at hd; cases hd
  | obj Γ an h1 h2 => exact .inl ⟨_, _, Γ, an, rfl, h1, h2⟩
  | thunk Γ _ h3 h4 => exact .inr ⟨_, _, Γ, rfl, h3, h4⟩

theorem ClausesM_find {P : Fun.CheckedProgram} {Γ : Fun.Ctx} {sigs : List Fun.CtorSig} {τ : Fun.Ty}
    {x : String} {cl : Fun.Clause} : ∀ (cs : Fun.Clauses), ClausesM P cs Γ sigs τ →
    Fun.findClause x cs = some cl →
    ∃ c, sigs.find? (fun c => c.name = x) = some c ∧ cl.names.Nodup ∧
      cl.names.length = c.args.length ∧ cl.ctx = bindNames cl.names c.args ∧
      TypedM P cl.body (Γ ++ bindNames cl.names c.args) τ
  | .nil => fun _ h => by simp [Fun.findClause] at h
  | .cons pol y ns ctx b r => fun hc h => by
    simp only [ClausesM] at hc
    obtain ⟨⟨c, h1, h2, h3, h4, h5⟩, hr⟩ := hc
    simp only [Fun.findClause] at h
    by_cases hxy : (x == y) = true
    · simp only [hxy, if_true, Option.some.injEq] at h
      subst h
      have : x = y := by simpa using hxy
      subst this
      exact ⟨c, h1, h2, h3, h4, h4 ▸ h5⟩
    · simp only [hxy, Bool.false_eq_true, if_false] at h
      exact ClausesM_find r hr h

theorem CoclausesM_find {P : Fun.CheckedProgram} {Γ : Fun.Ctx} {sigs : List Fun.DtorSig}
    {x : String} {cl : Fun.Clause} : ∀ (cs : Fun.Clauses), CoclausesM P cs Γ sigs →
    Fun.findClause x cs = some cl →
    ∃ c, sigs.find? (fun c => c.name = x) = some c ∧ cl.names.Nodup ∧
      cl.names.length = c.args.length ∧ cl.ctx = bindNames cl.names c.args ∧
      TypedM P cl.body (Γ ++ bindNames cl.names c.args) c.contTy
  | .nil => fun _ h => by simp [Fun.findClause] at h
  | .cons pol y ns ctx b r => fun hc h => by
    simp only [CoclausesM] at hc
    obtain ⟨⟨c, h1, h2, h3, h4, h5⟩, hr⟩ := hc
    simp only [Fun.findClause] at h
    by_cases hxy : (x == y) = true
    · simp only [hxy, if_true, Option.some.injEq] at h
      subst h
      have : x = y := by simpa using hxy
      subst this
      exact ⟨c, h1, h2, h3, h4, h4 ▸ h5⟩
    · simp only [hxy, Bool.false_eq_true, if_false] at h
      exact CoclausesM_find r hr h

/-- the selected clause of a typed `case` for the constructor `K` with signature `c`: binding its
names to values for the constructor's parameters succeeds and types the body -/
theorem clauseM_select {P : Fun.CheckedProgram} {Γ : Fun.Ctx} {ρ : Fun.Env} {cs : Fun.Clauses}
    {sigs : List Fun.CtorSig} {τ : Fun.Ty} {K : String} {c : Fun.CtorSig} {cl : Fun.Clause}
    (he : EnvTM P ρ Γ) (hcl : ClausesM P cs Γ sigs τ)
    (hc : sigs.find? (fun c => c.name = K) = some c) (hf : Fun.findClause K cs = some cl) :
    cl.names.length = c.args.length ∧ cl.ctx = bindNames cl.names c.args ∧
    TypedM P cl.body (Γ ++ bindNames cl.names c.args) τ ∧
    ∀ vs, VTsM P vs c.args → ∃ ρ', Fun.bindAll cl.names vs ρ = some ρ' ∧
      EnvTM P ρ' (Γ ++ bindNames cl.names c.args) := by
  obtain ⟨c', h1, _, h3, h4, h5⟩ := ClausesM_find cs hcl hf
  rw [hc] at h1; cases h1
  exact ⟨h3, h4, h5, fun vs hvs => bindAll_typedM cl.names vs c.args ρ Γ hvs h3 he⟩

/-- the clause of a typed closure for the destructor `nm` with signature `sg` -/
theorem VTM.obj_clause {P : Fun.CheckedProgram} {cs : Fun.Clauses} {ρ : Fun.Env} {σ : Fun.Ty}
    {d : Fun.Codata} {nm : String} {sg : Fun.DtorSig} {cl : Fun.Clause}
    (hv : VTM P (.obj cs ρ) σ) (hd : codataDecl P σ = some d)
    (hs : d.dtors.find? (fun c => c.name = nm) = some sg)
    (hf : Fun.findClause nm cs = some cl) :
    ∃ Γ, EnvTM P ρ Γ ∧ CoclausesM P cs Γ d.dtors ∧ clauseXtors cs = d.dtors.map (·.name) ∧
      cl.names.length = sg.args.length ∧ cl.ctx = bindNames cl.names sg.args ∧
      TypedM P cl.body (Γ ++ bindNames cl.names sg.args) sg.contTy ∧
      ∀ vs, VTsM P vs sg.args → ∃ ρ', Fun.bindAll cl.names vs ρ = some ρ' ∧
        EnvTM P ρ' (Γ ++ bindNames cl.names sg.args) := by
  cases hv with
  | obj Γ an he hnew =>
    simp only [TypedM] at hnew
    obtain ⟨_, _, d', hd', hcl, hx⟩ := hnew
    rw [hd] at hd'; cases hd'
    obtain ⟨c', h1, _, h3, h4, h5⟩ := CoclausesM_find cs hcl hf
    rw [hs] at h1; cases h1
    exact ⟨Γ, he, hcl, hx, h3, h4, h5, fun vs hvs => bindAll_typedM cl.names vs sg.args ρ Γ hvs h3 he⟩

theorem findClause_of_xtors {cs : Fun.Clauses} {names : List String} {x : String}
    (h : clauseXtors cs = names) (hx : x ∈ names) : ∃ cl, Fun.findClause x cs = some cl :=
  Fun.Safety.findClause_of_mem cs x (h ▸ hx)

theorem findDef_of_mem {P : Fun.CheckedProgram} (hP : ProgM P) {d : Fun.Def} (hd : d ∈ P.defs) :
    Fun.findDef P d.name = some d :=
  find?_of_nodup_key (fun d : Fun.Def => d.name) (fun _ => beq_iff_eq) hP.defNames hd

theorem findDef_mem {P : Fun.CheckedProgram} {f : String} {d : Fun.Def}
    (h : Fun.findDef P f = some d) : d ∈ P.defs ∧ d.name = f := by
  unfold Fun.findDef at h
  exact ⟨List.mem_of_find?_eq_some h, by simpa using List.find?_some h⟩

theorem getTypeM_of_typed (P : Fun.CheckedProgram) (t : Fun.Term) (Γ : Fun.Ctx) (τ : Fun.Ty)
    (h : TypedM P t Γ τ) : t.getType = some τ :=
  getType_eq t ▸ getType_of_typed P t Γ τ h

/-- a typed term is not a covariable argument (`argsStep` takes the producer branch) -/
theorem isCov_of_typed {P : Fun.CheckedProgram} {t : Fun.Term} {Γ : Fun.Ctx} {τ : Fun.Ty}
    (h : TypedM P t Γ τ) : isCov t = none := by
  cases t with
  | var x ty chi =>
    simp only [TypedM] at h
    obtain ⟨_, _, rfl, _⟩ := h
    rfl
  | _ => rfl

theorem EnvTM.var {P : Fun.CheckedProgram} {ρ : Fun.Env} {Γ : Fun.Ctx} (he : EnvTM P ρ Γ)
    {x : String} {ty : Option Fun.Ty} {chi : Option Fun.Chi} {τ : Fun.Ty}
    (ht : TypedM P (.var x ty chi) Γ τ) : ∃ v, Fun.lookup x ρ = some v ∧ VTM P v τ := by
  simp only [TypedM] at ht
  obtain ⟨_, _, _, b, hl, hc, hty⟩ := ht
  obtain ⟨v, hv, hb⟩ := he.lookup _ _ hl
  exact ⟨v, hv, hty ▸ hb.prd_inv hc⟩

/-- a codata-typed term in binding / argument position gives a typed value -/
theorem suspend_typedM {P : Fun.CheckedProgram} {ρ : Fun.Env} {Γ : Fun.Ctx} {τ : Fun.Ty}
    (he : EnvTM P ρ Γ) (hτ : Fun.isCodataTy P τ = true) :
    ∀ (t : Fun.Term), TypedM P t Γ τ → ∃ v, Fun.suspend t ρ = .ok v ∧ VTM P v τ
  | .paren t => fun ht => by
    simp only [TypedM] at ht
    obtain ⟨v, h1, h2⟩ := suspend_typedM he hτ t ht
    exact ⟨v, by simpa [Fun.suspend] using h1, h2⟩
  | .var x ty chi => fun ht => by
    obtain ⟨v, hv, hvt⟩ := he.var ht
    exact ⟨v, by simp [Fun.suspend, hv], hvt⟩
  | .new cs an => fun ht => ⟨_, rfl, .obj Γ an he ht⟩
  | .lit n => fun ht => ⟨_, rfl, .thunk Γ hτ he ht⟩
  | .op a o b => fun ht => ⟨_, rfl, .thunk Γ hτ he ht⟩
  | .ifc s a b t e an => fun ht => ⟨_, rfl, .thunk Γ hτ he ht⟩
  | .ifz s a t e an => fun ht => ⟨_, rfl, .thunk Γ hτ he ht⟩
  | .print nl a n an => fun ht => ⟨_, rfl, .thunk Γ hτ he ht⟩
  | .letIn x σ b i an => fun ht => ⟨_, rfl, .thunk Γ hτ he ht⟩
  | .call f as an => fun ht => ⟨_, rfl, .thunk Γ hτ he ht⟩
  | .ctor k as an => fun ht => ⟨_, rfl, .thunk Γ hτ he ht⟩
  | .dtor s k ta as an => fun ht => ⟨_, rfl, .thunk Γ hτ he ht⟩
  | .case s ta cs an => fun ht => ⟨_, rfl, .thunk Γ hτ he ht⟩
  | .label a b an => fun ht => ⟨_, rfl, .thunk Γ hτ he ht⟩
  | .goto a b an => fun ht => ⟨_, rfl, .thunk Γ hτ he ht⟩
  | .exit a an => fun ht => ⟨_, rfl, .thunk Γ hτ he ht⟩

end Scc.Fun2Core.Sem
