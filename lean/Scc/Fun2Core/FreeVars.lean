/-
  Scc.Fun2Core.FreeVars — facts about the ordered-set model of `BTreeSet<ContextBinding>` and
  `typed_free_vars`: the derived order is a strict linear order, `insert` keeps the list strictly
  sorted (hence duplicate-free), and the typed free variables of a statement are among its
  variable occurrences (`tfvStmt_nil`; the arity bound of lifted definitions in C19 rests on it).
  Then membership exactly: `insert` / `remove` / `extend` are the set operations on members, and
  `typed_free_vars` with an accumulator is the union of the accumulator with the typed free variables
  of the phrase (`mem_tfvTerm_iff` …), so that membership in the typed free variables of a compound
  phrase unfolds clause by clause; the consumer that `share` returns has no more typed free variables
  than the one shared (`tfv_share_subset`).  The simulation (Scc/Fun2Core/Sem*.lean), the typing of
  the translation (TypedTerm) and the no-capture proof (HygieneProofs) use these.
-/
import Scc.Fun2Core.Model

namespace Scc.Fun2Core

theorem cmpIdent_eq {a b : Core.Ident} (h : cmpIdent a b = .eq) : a = b := by
  unfold cmpIdent at h
  split at h
  · simp at h
  · split at h
    · simp at h
    · rename_i h1 h2
      have hn : a.name = b.name := String.le_antisymm (String.not_lt.1 h2) (String.not_lt.1 h1)
      have hi : a.id = b.id := by
        rcases Nat.lt_trichotomy a.id b.id with h | h | h
        · simp [compare, compareOfLessAndEq, h] at *
        · exact h
        · have : ¬ a.id < b.id := by omega
          have : a.id ≠ b.id := by omega
          simp [compare, compareOfLessAndEq, *] at *
      cases a; cases b; simp_all

theorem cmpIdent_lt_iff {a b : Core.Ident} :
    cmpIdent a b = .lt ↔ a.name < b.name ∨ (a.name = b.name ∧ a.id < b.id) := by
  unfold cmpIdent
  split
  · rename_i h; simp [h]
  · rename_i h1
    split
    · rename_i h2
      simp only [reduceCtorEq, false_iff, not_or, not_and]
      exact ⟨h1, fun e => by rw [e] at h2; exact absurd h2 (String.lt_irrefl _)⟩
    · rename_i h2
      have hn : a.name = b.name := String.le_antisymm (String.not_lt.1 h2) (String.not_lt.1 h1)
      rw [Nat.compare_eq_lt]
      simp [hn]

theorem cmpIdent_gt_iff {a b : Core.Ident} : cmpIdent a b = .gt ↔ cmpIdent b a = .lt := by
  rw [cmpIdent_lt_iff]
  unfold cmpIdent
  split
  · rename_i h
    simp only [reduceCtorEq, false_iff, not_or, not_and]
    exact ⟨String.lt_asymm h, fun e => by rw [e] at h; exact absurd h (String.lt_irrefl _)⟩
  · rename_i h1
    split
    · rename_i h2; simp [h2]
    · rename_i h2
      have hn : a.name = b.name := String.le_antisymm (String.not_lt.1 h2) (String.not_lt.1 h1)
      rw [Nat.compare_eq_gt]
      simp [hn]

theorem cmpIdent_lt_trans {a b c : Core.Ident} (h1 : cmpIdent a b = .lt) (h2 : cmpIdent b c = .lt) :
    cmpIdent a c = .lt := by
  rw [cmpIdent_lt_iff] at *
  rcases h1 with h1 | ⟨e1, h1⟩ <;> rcases h2 with h2 | ⟨e2, h2⟩
  · exact .inl (String.lt_trans h1 h2)
  · exact .inl (e2 ▸ h1)
  · exact .inl (e1 ▸ h2)
  · exact .inr ⟨e1.trans e2, Nat.lt_trans h1 h2⟩

theorem cmpIdent_lt_irrefl (a : Core.Ident) : cmpIdent a a ≠ .lt := by
  rw [Ne, cmpIdent_lt_iff]
  simp

theorem cmpPC_eq {a b : Core.PC} (h : cmpPC a b = .eq) : a = b := by
  cases a <;> cases b <;> simp_all [cmpPC]
theorem cmpPC_gt_iff {a b : Core.PC} : cmpPC a b = .gt ↔ cmpPC b a = .lt := by
  cases a <;> cases b <;> simp [cmpPC]
theorem cmpPC_lt_trans {a b c : Core.PC} (h1 : cmpPC a b = .lt) (h2 : cmpPC b c = .lt) :
    cmpPC a c = .lt := by
  cases a <;> cases b <;> cases c <;> simp_all [cmpPC]
theorem cmpPC_lt_irrefl (a : Core.PC) : cmpPC a a ≠ .lt := by cases a <;> simp [cmpPC]

theorem cmpTy_eq {a b : Core.Ty} (h : cmpTy a b = .eq) : a = b := by
  cases a <;> cases b <;> simp_all [cmpTy]
  exact cmpIdent_eq h
theorem cmpTy_gt_iff {a b : Core.Ty} : cmpTy a b = .gt ↔ cmpTy b a = .lt := by
  cases a <;> cases b <;> simp [cmpTy]
  exact cmpIdent_gt_iff
theorem cmpTy_lt_trans {a b c : Core.Ty} (h1 : cmpTy a b = .lt) (h2 : cmpTy b c = .lt) :
    cmpTy a c = .lt := by
  cases a <;> cases b <;> cases c <;> simp_all [cmpTy]
  exact cmpIdent_lt_trans h1 h2
theorem cmpTy_lt_irrefl (a : Core.Ty) : cmpTy a a ≠ .lt := by
  cases a <;> simp [cmpTy]
  exact cmpIdent_lt_irrefl _

/-- `a < b` in the derived order of `ContextBinding` -/
def bLt (a b : Core.Binding) : Prop := cmpBinding a b = .lt

theorem cmpBinding_lt_iff {a b : Core.Binding} :
    cmpBinding a b = .lt ↔
      cmpIdent a.var b.var = .lt ∨ (a.var = b.var ∧ (cmpPC a.chi b.chi = .lt ∨
        (a.chi = b.chi ∧ cmpTy a.ty b.ty = .lt))) := by
  unfold cmpBinding
  split
  · rename_i h; simp [h]
  · rename_i h
    have : a.var ≠ b.var := fun e => by
      rw [cmpIdent_gt_iff, e] at h; exact cmpIdent_lt_irrefl _ h
    simp [h, this]
  · rename_i h
    have e := cmpIdent_eq h
    simp only [e, true_and]
    split
    · rename_i h2; simp [h2]
    · rename_i h2
      have : a.chi ≠ b.chi := fun e => by
        rw [cmpPC_gt_iff, e] at h2; exact cmpPC_lt_irrefl _ h2
      simp [h2, this, cmpIdent_lt_irrefl]
    · rename_i h2
      have e2 := cmpPC_eq h2
      simp [e2, cmpIdent_lt_irrefl, cmpPC_lt_irrefl]

theorem cmpBinding_eq {a b : Core.Binding} (h : cmpBinding a b = .eq) : a = b := by
  unfold cmpBinding at h
  split at h
  · simp at h
  · simp at h
  · rename_i h1
    split at h
    · simp at h
    · simp at h
    · rename_i h2
      have := cmpIdent_eq h1; have := cmpPC_eq h2; have := cmpTy_eq h
      cases a; cases b; simp_all

theorem cmpBinding_gt {a b : Core.Binding} (h : cmpBinding a b = .gt) : bLt b a := by
  unfold bLt
  rw [cmpBinding_lt_iff]
  unfold cmpBinding at h
  split at h
  · simp at h
  · rename_i h1; exact .inl (cmpIdent_gt_iff.1 h1)
  · rename_i h1
    have e1 := cmpIdent_eq h1
    split at h
    · simp at h
    · rename_i h2; exact .inr ⟨e1.symm, .inl (cmpPC_gt_iff.1 h2)⟩
    · rename_i h2
      exact .inr ⟨e1.symm, .inr ⟨(cmpPC_eq h2).symm, cmpTy_gt_iff.1 h⟩⟩

theorem bLt_trans {a b c : Core.Binding} (h1 : bLt a b) (h2 : bLt b c) : bLt a c := by
  unfold bLt at *
  rw [cmpBinding_lt_iff] at *
  rcases h1 with h1 | ⟨e1, h1⟩ <;> rcases h2 with h2 | ⟨e2, h2⟩
  · exact .inl (cmpIdent_lt_trans h1 h2)
  · exact .inl (e2 ▸ h1)
  · exact .inl (e1 ▸ h2)
  · refine .inr ⟨e1.trans e2, ?_⟩
    rcases h1 with h1 | ⟨f1, h1⟩ <;> rcases h2 with h2 | ⟨f2, h2⟩
    · exact .inl (cmpPC_lt_trans h1 h2)
    · exact .inl (f2 ▸ h1)
    · exact .inl (f1 ▸ h2)
    · exact .inr ⟨f1.trans f2, cmpTy_lt_trans h1 h2⟩

theorem bLt_irrefl (a : Core.Binding) : ¬ bLt a a := by
  unfold bLt
  rw [cmpBinding_lt_iff]
  simp [cmpIdent_lt_irrefl, cmpPC_lt_irrefl, cmpTy_lt_irrefl]

/-- strictly sorted = the invariant of a `BTreeSet` -/
def BSorted (l : List Core.Binding) : Prop := l.Pairwise bLt

theorem BSorted.nodup {l : List Core.Binding} (h : BSorted l) : l.Nodup :=
  List.Pairwise.imp (fun {a b} hab e => by subst e; exact bLt_irrefl _ hab) h

theorem mem_bsetInsert_iff {y b : Core.Binding} :
    ∀ {l : List Core.Binding}, y ∈ bsetInsert b l ↔ y = b ∨ y ∈ l
  | [] => by simp [bsetInsert]
  | x :: xs => by
    unfold bsetInsert
    split
    · simp
    · rename_i h
      have := cmpBinding_eq h
      subst this
      simp
    · simp only [List.mem_cons, mem_bsetInsert_iff (l := xs)]
      constructor
      · rintro (h | h | h) <;> simp [h]
      · rintro (h | h | h) <;> simp [h]

theorem bsetInsert_sorted {b : Core.Binding} :
    ∀ {l : List Core.Binding}, BSorted l → BSorted (bsetInsert b l)
  | [] => fun _ => by simp [bsetInsert, BSorted]
  | x :: xs => fun h => by
    unfold bsetInsert
    have hx := List.pairwise_cons.1 h
    split
    · rename_i hlt
      refine List.pairwise_cons.2 ⟨?_, h⟩
      intro y hy
      rcases List.mem_cons.1 hy with rfl | hy
      · exact hlt
      · exact bLt_trans hlt (hx.1 y hy)
    · exact h
    · rename_i hgt
      refine List.pairwise_cons.2 ⟨?_, bsetInsert_sorted hx.2⟩
      intro y hy
      rcases mem_bsetInsert_iff.1 hy with rfl | hy
      · exact cmpBinding_gt hgt
      · exact hx.1 y hy

theorem mem_bsetRemove {y b : Core.Binding} :
    ∀ {l : List Core.Binding}, y ∈ bsetRemove b l → y ∈ l
  | [] => fun h => by simp [bsetRemove] at h
  | x :: xs => fun h => by
    unfold bsetRemove at h
    split at h
    · exact List.mem_cons_of_mem _ h
    · rcases List.mem_cons.1 h with h | h
      · simp [h]
      · exact List.mem_cons_of_mem _ (mem_bsetRemove h)

theorem mem_foldl_bsetRemove {y : Core.Binding} (ctx : List Core.Binding) :
    ∀ {l : List Core.Binding}, y ∈ ctx.foldl (fun acc b => bsetRemove b acc) l → y ∈ l := by
  induction ctx with
  | nil => exact fun h => h
  | cons b bs ih => exact fun h => mem_bsetRemove (ih h)

theorem mem_bsetExtend_iff {y : Core.Binding} (add : List Core.Binding) :
    ∀ {vars : List Core.Binding}, y ∈ bsetExtend vars add ↔ y ∈ vars ∨ y ∈ add := by
  unfold bsetExtend
  induction add with
  | nil => simp
  | cons b bs ih =>
    intro vars
    simp only [List.foldl_cons, ih, mem_bsetInsert_iff, List.mem_cons]
    constructor
    · rintro ((h | h) | h) <;> simp [h]
    · rintro (h | h | h) <;> simp [h]

theorem bsetExtend_sorted (add : List Core.Binding) :
    ∀ {vars : List Core.Binding}, BSorted vars → BSorted (bsetExtend vars add) := by
  unfold bsetExtend
  induction add with
  | nil => exact fun h => h
  | cons b bs ih => exact fun h => ih (bsetInsert_sorted h)

mutual
  /-- all (co)variable occurrences of a Core term, as typed bindings (binders ignored) -/
  def occTerm : Core.Term → List Core.Binding
    | .var pc v ty => [⟨v, pc, ty⟩]
    | .lit _ => []
    | .op a _ b => occTerm a ++ occTerm b
    | .mu _ _ _ s => occStmt s
    | .xtor _ _ args _ => occArgs args
    | .xcase _ _ cs => occClauses cs
  def occArgs : Core.Args → List Core.Binding
    | .nil => []
    | .cons _ t r => occTerm t ++ occArgs r
  def occClauses : Core.Clauses → List Core.Binding
    | .nil => []
    | .cons _ _ body rest => occStmt body ++ occClauses rest
  def occStmt : Core.Stmt → List Core.Binding
    | .cut _ p c => occTerm p ++ occTerm c
    | .ifc _ a b t e => occTerm a ++ occTerm b ++ occStmt t ++ occStmt e
    | .ifz _ a t e => occTerm a ++ occStmt t ++ occStmt e
    | .print _ a n => occTerm a ++ occStmt n
    | .call _ args _ => occArgs args
    | .exit a _ => occTerm a
end

mutual
theorem tfvTerm_spec : ∀ (t : Core.Term) (vars : List Core.Binding),
    (BSorted vars → BSorted (tfvTerm t vars)) ∧
    (∀ y ∈ tfvTerm t vars, y ∈ vars ∨ y ∈ occTerm t)
  | .var pc v ty => fun vars => by
    refine ⟨fun h => bsetInsert_sorted h, fun y hy => ?_⟩
    rcases mem_bsetInsert_iff.1 (by simpa [tfvTerm] using hy) with h | h
    · exact .inr (by simp [occTerm, h])
    · exact .inl h
  | .lit _ => fun vars => ⟨fun h => h, fun y hy => .inl hy⟩
  | .op a _ b => fun vars => by
    have ha := tfvTerm_spec a vars
    have hb := tfvTerm_spec b (tfvTerm a vars)
    refine ⟨fun h => hb.1 (ha.1 h), fun y hy => ?_⟩
    rcases hb.2 y hy with h | h
    · rcases ha.2 y h with h | h
      · exact .inl h
      · exact .inr (by simp [occTerm, h])
    · exact .inr (by simp [occTerm, h])
  | .mu pc v ty s => fun vars => by
    have hs := tfvStmt_spec s []
    refine ⟨fun h => bsetExtend_sorted _ h, fun y hy => ?_⟩
    rcases (mem_bsetExtend_iff _).1 (by simpa [tfvTerm] using hy) with h | h
    · exact .inl h
    · rcases hs.2 y (mem_bsetRemove h) with h | h
      · simp at h
      · exact .inr (by simpa [occTerm] using h)
  | .xtor _ _ args _ => fun vars => by
    have := tfvArgs_spec args vars
    exact ⟨this.1, fun y hy => by simpa [occTerm] using this.2 y hy⟩
  | .xcase _ _ cs => fun vars => by
    have := tfvClauses_spec cs vars
    exact ⟨this.1, fun y hy => by simpa [occTerm] using this.2 y hy⟩
theorem tfvArgs_spec : ∀ (a : Core.Args) (vars : List Core.Binding),
    (BSorted vars → BSorted (tfvArgs a vars)) ∧
    (∀ y ∈ tfvArgs a vars, y ∈ vars ∨ y ∈ occArgs a)
  | .nil => fun vars => ⟨fun h => h, fun y hy => .inl hy⟩
  | .cons _ t r => fun vars => by
    have ht := tfvTerm_spec t vars
    have hr := tfvArgs_spec r (tfvTerm t vars)
    refine ⟨fun h => hr.1 (ht.1 h), fun y hy => ?_⟩
    rcases hr.2 y hy with h | h
    · rcases ht.2 y h with h | h
      · exact .inl h
      · exact .inr (by simp [occArgs, h])
    · exact .inr (by simp [occArgs, h])
theorem tfvClauses_spec : ∀ (c : Core.Clauses) (vars : List Core.Binding),
    (BSorted vars → BSorted (tfvClauses c vars)) ∧
    (∀ y ∈ tfvClauses c vars, y ∈ vars ∨ y ∈ occClauses c)
  | .nil => fun vars => ⟨fun h => h, fun y hy => .inl hy⟩
  | .cons _ ctx body rest => fun vars => by
    have hb := tfvStmt_spec body []
    have hr := tfvClauses_spec rest
      (bsetExtend vars (ctx.foldl (fun acc b => bsetRemove b acc) (tfvStmt body [])))
    refine ⟨fun h => hr.1 (bsetExtend_sorted _ h), fun y hy => ?_⟩
    rcases hr.2 y hy with h | h
    · rcases (mem_bsetExtend_iff _).1 h with h | h
      · exact .inl h
      · rcases hb.2 y (mem_foldl_bsetRemove ctx h) with h | h
        · simp at h
        · exact .inr (by simp [occClauses, h])
    · exact .inr (by simp [occClauses, h])
theorem tfvStmt_spec : ∀ (s : Core.Stmt) (vars : List Core.Binding),
    (BSorted vars → BSorted (tfvStmt s vars)) ∧
    (∀ y ∈ tfvStmt s vars, y ∈ vars ∨ y ∈ occStmt s)
  | .cut _ p c => fun vars => by
    have hp := tfvTerm_spec p vars
    have hc := tfvTerm_spec c (tfvTerm p vars)
    refine ⟨fun h => hc.1 (hp.1 h), fun y hy => ?_⟩
    rcases hc.2 y hy with h | h
    · rcases hp.2 y h with h | h
      · exact .inl h
      · exact .inr (by simp [occStmt, h])
    · exact .inr (by simp [occStmt, h])
  | .ifc _ a b t e => fun vars => by
    have ha := tfvTerm_spec a vars
    have hb := tfvTerm_spec b (tfvTerm a vars)
    have ht := tfvStmt_spec t (tfvTerm b (tfvTerm a vars))
    have he := tfvStmt_spec e (tfvStmt t (tfvTerm b (tfvTerm a vars)))
    refine ⟨fun h => he.1 (ht.1 (hb.1 (ha.1 h))), fun y hy => ?_⟩
    rcases he.2 y hy with h | h
    · rcases ht.2 y h with h | h
      · rcases hb.2 y h with h | h
        · rcases ha.2 y h with h | h
          · exact .inl h
          · exact .inr (by simp [occStmt, h])
        · exact .inr (by simp [occStmt, h])
      · exact .inr (by simp [occStmt, h])
    · exact .inr (by simp [occStmt, h])
  | .ifz _ a t e => fun vars => by
    have ha := tfvTerm_spec a vars
    have ht := tfvStmt_spec t (tfvTerm a vars)
    have he := tfvStmt_spec e (tfvStmt t (tfvTerm a vars))
    refine ⟨fun h => he.1 (ht.1 (ha.1 h)), fun y hy => ?_⟩
    rcases he.2 y hy with h | h
    · rcases ht.2 y h with h | h
      · rcases ha.2 y h with h | h
        · exact .inl h
        · exact .inr (by simp [occStmt, h])
      · exact .inr (by simp [occStmt, h])
    · exact .inr (by simp [occStmt, h])
  | .print _ a n => fun vars => by
    have ha := tfvTerm_spec a vars
    have hn := tfvStmt_spec n (tfvTerm a vars)
    refine ⟨fun h => hn.1 (ha.1 h), fun y hy => ?_⟩
    rcases hn.2 y hy with h | h
    · rcases ha.2 y h with h | h
      · exact .inl h
      · exact .inr (by simp [occStmt, h])
    · exact .inr (by simp [occStmt, h])
  | .call _ args _ => fun vars => by
    have := tfvArgs_spec args vars
    exact ⟨this.1, fun y hy => by simpa [occStmt] using this.2 y hy⟩
  | .exit a _ => fun vars => by
    have := tfvTerm_spec a vars
    exact ⟨this.1, fun y hy => by simpa [occStmt] using this.2 y hy⟩
end

/-- the typed free variables of a statement: duplicate-free, among its variable occurrences -/
theorem tfvStmt_nil (s : Core.Stmt) :
    (tfvStmt s []).Nodup ∧ ∀ y ∈ tfvStmt s [], y ∈ occStmt s := by
  have := tfvStmt_spec s []
  refine ⟨(this.1 List.Pairwise.nil).nodup, fun y hy => ?_⟩
  rcases this.2 y hy with h | h
  · simp at h
  · exact h

theorem cmpBinding_refl (b : Core.Binding) : cmpBinding b b = .eq := by
  cases h : cmpBinding b b with
  | eq => rfl
  | lt => exact absurd h (bLt_irrefl b)
  | gt => exact absurd (cmpBinding_gt h) (bLt_irrefl b)

theorem mem_bsetRemove_of_ne {y b : Core.Binding} (hne : y ≠ b) :
    ∀ {l : List Core.Binding}, y ∈ l → y ∈ bsetRemove b l
  | [] => fun h => by simp at h
  | x :: xs => fun h => by
    unfold bsetRemove
    split
    · rename_i he
      have := cmpBinding_eq he
      subst this
      rcases List.mem_cons.1 h with h | h
      · exact absurd h hne
      · exact h
    · rcases List.mem_cons.1 h with h | h
      · simp [h]
      · exact List.mem_cons_of_mem _ (mem_bsetRemove_of_ne hne h)

theorem ne_of_mem_bsetRemove {y b : Core.Binding} :
    ∀ {l : List Core.Binding}, BSorted l → y ∈ bsetRemove b l → y ≠ b
  | [] => fun _ h => by simp [bsetRemove] at h
  | x :: xs => fun hs h => by
    have hx := List.pairwise_cons.1 hs
    unfold bsetRemove at h
    split at h
    · rename_i he
      have := cmpBinding_eq he
      subst this
      intro e
      subst e
      exact bLt_irrefl _ (hx.1 _ h)
    · rename_i hne
      rcases List.mem_cons.1 h with h | h
      · subst h
        intro e
        subst e
        exact hne (cmpBinding_refl _)
      · exact ne_of_mem_bsetRemove hx.2 h

mutual
/-- `typed_free_vars` with an accumulator adds the typed free variables of the phrase to the
accumulator: `typed_free_vars(x, acc) = acc ∪ typed_free_vars(x, ∅)` as sets -/
theorem mem_tfvTerm_iff : ∀ (t : Core.Term) (acc : List Core.Binding) (y : Core.Binding),
    y ∈ tfvTerm t acc ↔ y ∈ acc ∨ y ∈ tfvTerm t []
  | .var pc v ty => fun acc y => by
    simp only [tfvTerm, mem_bsetInsert_iff, List.not_mem_nil, or_false]; exact or_comm
  | .lit _ => fun acc y => by simp [tfvTerm]
  | .op a _ b => fun acc y => by
    simp only [tfvTerm]
    rw [mem_tfvTerm_iff b, mem_tfvTerm_iff a, mem_tfvTerm_iff b (tfvTerm a [])]
    simp only [or_assoc]
  | .mu pc v ty s => fun acc y => by
    simp only [tfvTerm, mem_bsetExtend_iff, List.not_mem_nil, false_or]
  | .xtor _ _ args _ => fun acc y => by simp only [tfvTerm]; exact mem_tfvArgs_iff args acc y
  | .xcase _ _ cs => fun acc y => by simp only [tfvTerm]; exact mem_tfvClauses_iff cs acc y
theorem mem_tfvArgs_iff : ∀ (a : Core.Args) (acc : List Core.Binding) (y : Core.Binding),
    y ∈ tfvArgs a acc ↔ y ∈ acc ∨ y ∈ tfvArgs a []
  | .nil => fun acc y => by simp [tfvArgs]
  | .cons _ t r => fun acc y => by
    simp only [tfvArgs]
    rw [mem_tfvArgs_iff r, mem_tfvTerm_iff t, mem_tfvArgs_iff r (tfvTerm t [])]
    simp only [or_assoc]
theorem mem_tfvClauses_iff : ∀ (c : Core.Clauses) (acc : List Core.Binding) (y : Core.Binding),
    y ∈ tfvClauses c acc ↔ y ∈ acc ∨ y ∈ tfvClauses c []
  | .nil => fun acc y => by simp [tfvClauses]
  | .cons _ ctx body rest => fun acc y => by
    simp only [tfvClauses]
    rw [mem_tfvClauses_iff rest, mem_bsetExtend_iff, mem_tfvClauses_iff rest (bsetExtend [] _),
      mem_bsetExtend_iff]
    simp only [List.not_mem_nil, false_or, or_assoc]
theorem mem_tfvStmt_iff : ∀ (s : Core.Stmt) (acc : List Core.Binding) (y : Core.Binding),
    y ∈ tfvStmt s acc ↔ y ∈ acc ∨ y ∈ tfvStmt s []
  | .cut _ p c => fun acc y => by
    simp only [tfvStmt]
    rw [mem_tfvTerm_iff c, mem_tfvTerm_iff p, mem_tfvTerm_iff c (tfvTerm p [])]
    simp only [or_assoc]
  | .ifc _ a b t e => fun acc y => by
    simp only [tfvStmt]
    rw [mem_tfvStmt_iff e, mem_tfvStmt_iff t, mem_tfvTerm_iff b, mem_tfvTerm_iff a,
      mem_tfvStmt_iff e (tfvStmt t _), mem_tfvStmt_iff t (tfvTerm b _),
      mem_tfvTerm_iff b (tfvTerm a [])]
    simp only [or_assoc]
  | .ifz _ a t e => fun acc y => by
    simp only [tfvStmt]
    rw [mem_tfvStmt_iff e, mem_tfvStmt_iff t, mem_tfvTerm_iff a,
      mem_tfvStmt_iff e (tfvStmt t _), mem_tfvStmt_iff t (tfvTerm a _)]
    simp only [or_assoc]
  | .print _ a n => fun acc y => by
    simp only [tfvStmt]
    rw [mem_tfvStmt_iff n, mem_tfvTerm_iff a, mem_tfvStmt_iff n (tfvTerm a [])]
    simp only [or_assoc]
  | .call _ args _ => fun acc y => by simp only [tfvStmt]; exact mem_tfvArgs_iff args acc y
  | .exit a _ => fun acc y => by simp only [tfvStmt]; exact mem_tfvTerm_iff a acc y
end

theorem mem_tfvArgs_bindingsToArgs {y : Core.Binding} :
    ∀ (bs acc : List Core.Binding), y ∈ tfvArgs (bindingsToArgs bs) acc ↔ y ∈ acc ∨ y ∈ bs
  | [] => fun acc => by simp [bindingsToArgs, tfvArgs]
  | b :: bs => fun acc => by
    cases b
    simp only [bindingsToArgs, tfvArgs, tfvTerm, mem_tfvArgs_bindingsToArgs bs, mem_bsetInsert_iff,
      List.mem_cons]
    constructor
    · rintro ((h | h) | h) <;> simp [h]
    · rintro (h | h | h) <;> simp [h]

/-- the consumer returned by `share` has no more typed free variables than the shared consumer
(for a consumer, i.e. not a `μ` with producer flag) -/
theorem tfv_share_subset (c : Core.Term) (st : CompileState)
    (hc : ∀ v ty s, c ≠ .mu .prd v ty s) :
    ∀ y ∈ tfvTerm (share c st).1 [], y ∈ tfvTerm c [] := by
  intro y hy
  unfold share at hy
  split at hy
  · rename_i pc v ty s
    have hpc : pc = .cns := by
      cases pc
      · exact absurd rfl (hc v ty s)
      · rfl
    subst hpc
    simp only [tfvTerm, tfvStmt] at hy ⊢
    rcases (mem_bsetExtend_iff _).1 hy with h | h
    · simp at h
    · have hsorted : BSorted (tfvArgs (bindingsToArgs (tfvStmt s [])) []) :=
        (tfvArgs_spec _ []).1 List.Pairwise.nil
      have hne := ne_of_mem_bsetRemove hsorted h
      have hm := (mem_tfvArgs_bindingsToArgs _ _).1 (mem_bsetRemove h)
      simp only [List.not_mem_nil, false_or] at hm
      exact (mem_bsetExtend_iff _).2 (.inr (mem_bsetRemove_of_ne hne hm))
  · simp only [tfvTerm, tfvStmt] at hy
    rcases (mem_bsetExtend_iff _).1 hy with h | h
    · simp at h
    · have hsorted : BSorted (tfvArgs (bindingsToArgs (tfvTerm c
          (bsetInsert ⟨⟨(freshVar st).1, 0⟩, .prd, coreGetType c⟩ []))) []) :=
        (tfvArgs_spec _ []).1 List.Pairwise.nil
      have hne := ne_of_mem_bsetRemove hsorted h
      have hm := (mem_tfvArgs_bindingsToArgs _ _).1 (mem_bsetRemove h)
      simp only [List.not_mem_nil, false_or] at hm
      rcases (mem_tfvTerm_iff c _ y).1 hm with h1 | h1
      · simp only [bsetInsert, List.mem_singleton] at h1
        exact absurd h1 hne
      · exact h1

end Scc.Fun2Core
