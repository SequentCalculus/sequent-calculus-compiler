/-
  Scc.Fun2Core.SemOcc — a purely syntactic fact about the Fun → Core translation: every variable
  occurrence of the output of a run is an occurrence of the consumer, or its NAME is in the
  used-names set of the final compile state (it is a free name or a binder of the source phrase —
  both in the used-names set by hypothesis — or a name generated by `fresh_var` / `fresh_covar`).
  One induction over the runs (`Scc.Fun2Core.Compiles`).
-/
import Scc.Fun2Core.Arity
import Scc.Fun2Core.SemSim0

namespace Scc.Fun2Core.Sem

def OccK (U : List String) (occC out : List Core.Binding) : Prop :=
  ∀ b ∈ out, b ∈ occC ∨ b.var.name ∈ U

theorem occ_share (c : Core.Term) (st : CompileState) :
    OccK (share c st).2.usedVars (occTerm c) (occTerm (share c st).1) := by
  unfold share
  split
  · intro b hb
    simp only [occTerm, occStmt, occArgs_bindingsToArgs] at hb
    exact .inl (by simpa [occTerm] using (tfvStmt_nil _).2 b hb)
  · intro b hb
    simp only [occTerm, occStmt, occArgs_bindingsToArgs] at hb
    have := (tfvStmt_nil _).2 b hb
    simp only [occStmt, occTerm, List.mem_append, List.mem_singleton] at this
    rcases this with rfl | h
    · exact .inr (by simp [freshVar_used])
    · exact .inl h

theorem occ_shareUnless {b : Bool} {c : Core.Term} {st : CompileState}
    {r : Core.Term × CompileState} (hr : shareUnless b c st = r) :
    OccK r.2.usedVars (occTerm c) (occTerm r.1) ∧ ∀ x ∈ st.usedVars, x ∈ r.2.usedVars := by
  subst hr
  cases b
  · exact ⟨by simpa [shareUnless] using occ_share c st,
      by simpa [shareUnless] using used_sub_of_fresh (fresh_share c st)⟩
  · exact ⟨fun b hb => .inl (by simpa [shareUnless] using hb), by simp [shareUnless]⟩

theorem covarArg_fv {t : Fun.Term} {x : String} {ty : Option Fun.Ty}
    (h : covarArg t = some (x, ty)) : x ∈ fv t := by
  unfold covarArg at h
  split at h
  · simp only [Option.some.injEq, Prod.mk.injEq] at h
    obtain ⟨rfl, rfl⟩ := h
    simp [fv]
  · simp at h

theorem mem_fv_clause {names : List String} {body : Fun.Term} {x : String} (hx : x ∈ fv body) :
    x ∈ names ∨ x ∈ (fv body).filter (fun x => !names.contains x) := by
  by_cases hn : x ∈ names
  · exact .inl hn
  · exact .inr (by simp [hx, hn])

/-- free names and binders of the source phrase of a run -/
def _root_.Scc.Fun2Core.Run.names : Run → List String
  | .cwc t _ _ _ _ | .comp t _ _ _ _ | .core t _ _ _ _ | .guard t _ _ _ _ _ => fv t ++ binderNames t
  | .subst as _ _ _ => fvArgs as ++ binderNamesArgs as
  | .clauses cs _ _ _ _ | .coclauses cs _ _ _ => fvClauses cs ++ binderNamesClauses cs

/-- variable occurrences of the consumer of a run -/
def _root_.Scc.Fun2Core.Run.occC : Run → List Core.Binding
  | .cwc _ c _ _ _ | .clauses _ c _ _ _ | .core _ c _ _ _ | .guard _ _ c _ _ _ => occTerm c
  | _ => []

/-- variable occurrences of the output of a run -/
def _root_.Scc.Fun2Core.Run.out : Run → List Core.Binding
  | .cwc _ _ _ s _ | .core _ _ _ s _ | .guard _ _ _ _ s _ => occStmt s
  | .comp _ _ _ p _ => occTerm p
  | .subst _ _ as' _ => occArgs as'
  | .clauses _ _ _ cs' _ | .coclauses _ _ cs' _ => occClauses cs'

theorem _root_.Scc.Fun2Core.Compiles.used_sub {r : Run} (h : Compiles r) : ∀ x ∈ r.st.usedVars, x ∈ r.st'.usedVars :=
  used_sub_of_fresh h.fresh

/-- closes an `OccK` goal, or the side condition `∀ x ∈ names of a subphrase, x ∈ usedVars` of an
induction hypothesis, from what is in the context: the hypothesis `hN` on the names of the phrase,
the `OccK` facts `ok_i` of the premises, and the inclusions `s_i : usedVars ⊆ usedVars` between the
states of the run, which the cases state for this purpose (`have s1 := h1.used_sub`) -/
macro "occ_ok" : tactic => `(tactic| (
  (try simp only [OccK, occStmt, occTerm, occArgs, occClauses, occArgs_snoc, fv, fvArgs,
    binderNames, binderNamesArgs, freshCovar_used, freshVar_used, List.mem_append, List.mem_cons,
    List.mem_singleton, List.mem_filter, List.not_mem_nil, or_false, false_or, ne_eq,
    decide_eq_true_eq, decide_not, Bool.not_eq_true', decide_eq_false_iff_not] at *)
  all_goals grind))

/-- unfolds the projections `names`, `st`, `st'`, `occC`, `out` of `Run` everywhere -/
macro "occ_run" : tactic => `(tactic| (
  simp only [Run.names, Run.st, Run.st', Run.occC, Run.out] at *))

theorem occ {r : Run} (h : Compiles r) :
    (∀ x ∈ r.names, x ∈ r.st.usedVars) → OccK r.st'.usedVars r.occC r.out := by
  induction h with
  | c_var | c_lit | subst_nil | clauses_nil | coclauses_nil =>
    occ_run; intro hN; occ_ok
  | cwc_cut _ _ ih | cwc_call _ ih | cwc_exit _ ih | cwc_paren _ ih | cwc_letIn _ ih
  | cwc_case _ ih | guard_pass _ _ ih | c_ctor _ ih | c_new _ ih | c_paren _ ih =>
    occ_run; intro hN; have ok := ih hN; occ_ok
  | cwc_goto _ h1 ih | c_label h1 ih | guard_wrap _ _ h1 ih | c_default _ h1 ih =>
    have s1 := h1.used_sub
    occ_run; intro hN; have ok := ih (by occ_ok); occ_ok
  | cwc_ifc ha hb ht he iha ihb iht ihe =>
    have sa := ha.used_sub; have sb := hb.used_sub; have s3 := ht.used_sub; have se := he.used_sub
    generalize hr : shareUnless _ _ _ = r at *
    obtain ⟨ok0, s0⟩ := occ_shareUnless hr
    occ_run; intro hN
    have ok1 := iha (by occ_ok); have ok2 := ihb (by occ_ok)
    have ok3 := iht (by occ_ok); have ok4 := ihe (by occ_ok)
    occ_ok
  | cwc_ifz ha ht he iha iht ihe =>
    have sa := ha.used_sub; have s3 := ht.used_sub; have se := he.used_sub
    generalize hr : shareUnless _ _ _ = r at *
    obtain ⟨ok0, s0⟩ := occ_shareUnless hr
    occ_run; intro hN
    have ok1 := iha (by occ_ok); have ok3 := iht (by occ_ok); have ok4 := ihe (by occ_ok)
    occ_ok
  | cwc_print h1 h2 ih1 ih2 | c_op h1 h2 ih1 ih2 | cwc_dtor h1 _ h2 ih1 ih2
  | core_let_data h1 _ h2 ih1 ih2 | core_let_codata h1 _ h2 ih1 ih2
  | subst_cons _ _ h1 h2 ih1 ih2 =>
    have s1 := h1.used_sub; have s2 := h2.used_sub
    occ_run; intro hN
    have ok1 := ih1 (by occ_ok); have ok2 := ih2 (by occ_ok)
    occ_ok
  | core_case h1 _ h2 ih1 ih2 =>
    have s1 := h1.used_sub; have s2 := h2.used_sub
    generalize hr : shareUnless _ _ _ = r at *
    obtain ⟨ok0, s0⟩ := occ_shareUnless hr
    occ_run; intro hN
    have ok1 := ih1 (by occ_ok); have ok2 := ih2 (by occ_ok)
    occ_ok
  | subst_covar hc h1 ih =>
    have := covarArg_fv hc
    have s1 := h1.used_sub
    occ_run; intro hN
    have ok := ih (by occ_ok)
    occ_ok
  | @clauses_cons _ _ names _ body _ _ _ _ _ _ _ h1 h2 ih1 ih2
  | @coclauses_cons _ _ names _ body _ _ _ _ _ _ _ _ h1 h2 ih1 ih2 =>
    have s1 := h1.used_sub; have s2 := h2.used_sub
    have hm := @mem_fv_clause names body
    occ_run; simp only [fvClauses, binderNamesClauses] at *; intro hN
    have ok1 := ih1 (by occ_ok); have ok2 := ih2 (by occ_ok)
    occ_ok

theorem occ_of_names {r : Run} (h : Compiles r) {fvs bds : List String} (hr : r.names = fvs ++ bds)
    (hfv : ∀ x ∈ fvs, x ∈ r.st.usedVars) (hbd : ∀ x ∈ bds, x ∈ r.st.usedVars) :
    OccK r.st'.usedVars r.occC r.out :=
  occ h fun x hx => (List.mem_append.1 (hr ▸ hx)).elim (hfv x) (hbd x)

def OCoclauses (cs : Fun.Clauses) : Prop :=
  ∀ st cs' st', compileCoclauses cs st = .ok (cs', st') →
    (∀ x ∈ fvClauses cs, x ∈ st.usedVars) → (∀ x ∈ binderNamesClauses cs, x ∈ st.usedVars) →
    OccK st'.usedVars [] (occClauses cs')

theorem occ_coclauses : ∀ cs : Fun.Clauses, OCoclauses cs :=
  fun cs _ _ _ h => occ_of_names (compiles_coclauses cs _ _ _ h) rfl

theorem occ_cwc (t : Fun.Term) {c : Core.Term} {st : CompileState} {s : Core.Stmt} {st' : CompileState}
    (h : compileWithCont t c st = .ok (s, st'))
    (hfv : ∀ x ∈ fv t, x ∈ st.usedVars) (hbd : ∀ x ∈ binderNames t, x ∈ st.usedVars) :
    OccK st'.usedVars (occTerm c) (occStmt s) :=
  occ_of_names ((compiles_term t).1 c st s st' h) rfl hfv hbd

theorem occ_compile (t : Fun.Term) {ty : Core.Ty} {st : CompileState} {P : Core.Term} {st' : CompileState}
    (h : compile t ty st = .ok (P, st'))
    (hfv : ∀ x ∈ fv t, x ∈ st.usedVars) (hbd : ∀ x ∈ binderNames t, x ∈ st.usedVars) :
    OccK st'.usedVars [] (occTerm P) :=
  occ_of_names ((compiles_term t).2 ty st P st' h) rfl hfv hbd

theorem occ_subst (args : Fun.Terms) {st : CompileState} {as : Core.Args} {st' : CompileState}
    (h : compileSubst args st = .ok (as, st'))
    (hfv : ∀ x ∈ fvArgs args, x ∈ st.usedVars) (hbd : ∀ x ∈ binderNamesArgs args, x ∈ st.usedVars) :
    OccK st'.usedVars [] (occArgs as) :=
  occ_of_names (compiles_subst args st as st' h) rfl hfv hbd

theorem occ_clauses (cs : Fun.Clauses) {cont : Core.Term} {st : CompileState} {cs' : Core.Clauses} {st' : CompileState}
    (h : compileClauses cs cont st = .ok (cs', st'))
    (hfv : ∀ x ∈ fvClauses cs, x ∈ st.usedVars) (hbd : ∀ x ∈ binderNamesClauses cs, x ∈ st.usedVars) :
    OccK st'.usedVars (occTerm cont) (occClauses cs') :=
  occ_of_names (compiles_clauses cs cont st cs' st' h) rfl hfv hbd

end Scc.Fun2Core.Sem
