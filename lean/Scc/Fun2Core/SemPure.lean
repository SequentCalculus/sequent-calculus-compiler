/-
  Scc.Fun2Core.SemPure — the Fun machine on PURE terms (`Scc.Fun.pureTerm`: variables, literals,
  `+ - *`, constructors, `new`, parentheses): a big-step value function `pureVal` and the lemma that
  the CEK machine `Scc.Fun.step` computes it in finitely many silent steps.  Used by the semantic
  part of C02: in the fragment `Sequenced` all operands and arguments are pure.
-/
import Scc.Fun2Core.SemBase

namespace Scc.Fun2Core.Sem
open Scc.Fun

theorem getType_eq : ∀ t : Fun.Term, Fun2Core.getType t = t.getType
  | .var .. => rfl
  | .lit _ => rfl
  | .op .. => rfl
  | .ifc .. => rfl
  | .ifz .. => rfl
  | .print .. => rfl
  | .letIn .. => rfl
  | .call .. => rfl
  | .ctor .. => rfl
  | .dtor .. => rfl
  | .case .. => rfl
  | .new .. => rfl
  | .label .. => rfl
  | .goto .. => rfl
  | .exit .. => rfl
  | .paren t => by simp only [Fun2Core.getType, Fun.Term.getType]; exact getType_eq t

def exceptToOption {ε α : Type} : Except ε α → Option α
  | .ok a => some a
  | .error _ => none

/-- a covariable argument `x :cns` (first arm of `Scc.Fun.argsStep`) -/
def isCov : Term → Option String
  | .var x _ (some .cns) => some x
  | _ => none

/-- one argument, given the value `pv` of the term as a pure term -/
def argValWith (p : CheckedProgram) (t : Term) (env : Env) (pv : Option Value) : Option Value :=
  match isCov t with
  | some x =>
    match lookup x env with
    | some (.cont c) => some (.cont c)
    | _ => none
  | none =>
    match t.getType with
    | none => none
    | some ty => if isCodataTy p ty then exceptToOption (suspend t env) else pv

mutual
  /-- the value of a pure term (`none`: the machine gets stuck) -/
  def pureVal (p : CheckedProgram) : Term → Env → Option Value
    | .var x _ _, env => lookup x env
    | .lit n, _ => some (.int (BitVec.ofInt 64 n))
    | .op a o b, env =>
      match pureVal p a env, pureVal p b env with
      | some (.int x), some (.int y) => exceptToOption ((arith o x y).map Value.int)
      | _, _ => none
    | .ctor c as _, env => (pureArgs p as env).map (Value.con c)
    | .new cs _, env => some (.obj cs env)
    | .paren t, env => pureVal p t env
    | _, _ => none
  /-- the values of an argument list, as `Scc.Fun.argsStep` computes them -/
  def pureArgs (p : CheckedProgram) : Terms → Env → Option (List Value)
    | .nil, _ => some []
    | .cons t r, env =>
      match argValWith p t env (pureVal p t env), pureArgs p r env with
      | some v, some vs => some (v :: vs)
      | _, _ => none
end

/-- one argument: covariables pass their continuation, codata-typed arguments are suspended -/
def argVal (p : CheckedProgram) (t : Term) (env : Env) : Option Value :=
  argValWith p t env (pureVal p t env)

theorem pureArgs_cons (p t r env) :
    pureArgs p (.cons t r) env =
      (match argVal p t env, pureArgs p r env with
        | some v, some vs => some (v :: vs)
        | _, _ => none) := by
  rw [pureArgs]; rfl

theorem step_eval (p t env k) : Fun.step p (.eval t env k) = evalStep p t env k := rfl
theorem step_args (p h d todo env k) : Fun.step p (.args h d todo env k) = argsStep p h d todo env k := rfl
theorem step_ret_cons (p v f k) : Fun.step p (.ret v (f :: k)) = retFrame v f k := rfl

theorem argsStep_cons (p : CheckedProgram) (t : Term) (r : Terms) (h : ArgHead) (done : List Value)
    (env : Env) (k : Stack) :
    argsStep p h done (.cons t r) env k =
      (match isCov t with
        | some x =>
          match lookup x env with
          | some (.cont c) => .next (.args h (done ++ [.cont c]) r env k) none
          | some _ => .stuck (.notCont x)
          | none => .stuck (.unbound x)
        | none =>
          match t.getType with
          | none => .stuck .untyped
          | some ty =>
            if isCodataTy p ty then
              match suspend t env with
              | .ok v => .next (.args h (done ++ [v]) r env k) none
              | .error w => .stuck w
            else .next (.eval t env (.arg h done r env :: k)) none) := by
  cases t with
  | var x ty chi =>
    cases chi with
    | none => rfl
    | some c => cases c <;> rfl
  | _ => rfl

/-- one argument, given that the machine evaluates the term if it is pure -/
theorem fun_arg (p : CheckedProgram) (t : Term) (r : Terms) (env : Env) (v : Value)
    (h : ArgHead) (done : List Value) (k : Stack)
    (hav : argVal p t env = some v)
    (ih : ∀ (k : Stack) (v : Value), pureVal p t env = some v →
      ∃ j, 1 ≤ j ∧ FSteps p (.eval t env k) (.ret v k) [] j) :
    ∃ j, FSteps p (.args h done (.cons t r) env k) (.args h (done ++ [v]) r env k) [] j := by
  unfold argVal argValWith at hav
  have hstep := argsStep_cons p t r h done env k
  cases hcv : isCov t with
  | some x =>
    rw [hcv] at hav hstep
    simp only at hav hstep
    cases hl : lookup x env with
    | none => simp [hl] at hav
    | some w =>
      cases w with
      | cont c =>
        simp only [hl, Option.some.injEq] at hav
        subst hav
        exact ⟨1, .one (by rw [step_args, hstep, hl])⟩
      | _ => simp [hl] at hav
  | none =>
    rw [hcv] at hav hstep
    simp only at hav hstep
    cases hty : t.getType with
    | none => simp [hty] at hav
    | some ty =>
      rw [hty] at hav hstep
      simp only at hav hstep
      by_cases hcd : isCodataTy p ty = true
      · rw [if_pos hcd] at hav hstep
        cases hs : suspend t env with
        | error w => simp [hs, exceptToOption] at hav
        | ok v' =>
          simp only [hs, exceptToOption, Option.some.injEq] at hav
          subst hav
          exact ⟨1, .one (by rw [step_args, hstep, hs])⟩
      · rw [if_neg hcd] at hav hstep
        obtain ⟨j, _, fj⟩ := ih (.arg h done r env :: k) v hav
        have s0 : FSteps p (.args h done (.cons t r) env k) (.eval t env (.arg h done r env :: k)) [] 1 :=
          .one (by rw [step_args, hstep])
        have s2 : FSteps p (.ret v (.arg h done r env :: k)) (.args h (done ++ [v]) r env k) [] 1 :=
          .one rfl
        have := (s0.trans fj).trans s2
        simp only [List.append_nil] at this
        exact ⟨_, this⟩

mutual
  /-- a pure term with a value is evaluated to it in finitely many (≥ 1) silent steps -/
  theorem fun_pure (p : CheckedProgram) : ∀ (t : Term) (env : Env) (v : Value) (k : Stack),
      pureTerm t = true → pureVal p t env = some v →
      ∃ j, 1 ≤ j ∧ FSteps p (.eval t env k) (.ret v k) [] j
    | .var x ty chi => fun env v k _ hv => by
      refine ⟨1, Nat.le_refl _, .one ?_⟩
      simp only [pureVal] at hv
      simp [step_eval, evalStep, hv]
    | .lit n => fun env v k _ hv => by
      simp only [pureVal, Option.some.injEq] at hv
      subst hv
      exact ⟨1, Nat.le_refl _, .one rfl⟩
    | .op a o b => fun env v k hp hv => by
      simp only [pureTerm, Bool.and_eq_true] at hp
      simp only [pureVal] at hv
      cases ha : pureVal p a env with
      | none => simp [ha] at hv
      | some va =>
        cases hb : pureVal p b env with
        | none => rw [ha, hb] at hv; cases va <;> simp at hv
        | some vb =>
          rw [ha, hb] at hv
          cases va with
          | int x =>
            cases vb with
            | int y =>
              simp only at hv
              cases har : arith o x y with
              | error w => simp [har, exceptToOption, Except.map] at hv
              | ok r =>
                simp only [har, exceptToOption, Except.map, Option.some.injEq] at hv
                subst hv
                obtain ⟨ja, _, fa⟩ := fun_pure p a env (.int x) (.opL o b env :: k) hp.1.2 ha
                obtain ⟨jb, _, fb⟩ := fun_pure p b env (.int y) (.opR o x :: k) hp.2 hb
                have s0 : FSteps p (.eval (.op a o b) env k) (.eval a env (.opL o b env :: k)) [] 1 :=
                  .one rfl
                have s1 : FSteps p (.ret (.int x) (.opL o b env :: k)) (.eval b env (.opR o x :: k)) [] 1 :=
                  .one rfl
                have s2 : FSteps p (.ret (.int y) (.opR o x :: k)) (.ret (.int r) k) [] 1 := by
                  refine .one ?_
                  simp [step_ret_cons, retFrame, har]
                have := (((s0.trans fa).trans s1).trans fb).trans s2
                simp only [List.append_nil] at this
                exact ⟨_, by omega, this⟩
            | _ => simp at hv
          | _ => simp at hv
    | .ctor c as ty => fun env v k hp hv => by
      simp only [pureTerm] at hp
      simp only [pureVal, Option.map_eq_some_iff] at hv
      obtain ⟨vs, hvs, rfl⟩ := hv
      obtain ⟨j, fj⟩ := fun_pureArgs p as env vs (.ctor c) [] k hp hvs
      have s0 : FSteps p (.eval (.ctor c as ty) env k) (.args (.ctor c) [] as env k) [] 1 := .one rfl
      have s1 : FSteps p (.args (.ctor c) ([] ++ vs) .nil env k) (.ret (.con c vs) k) [] 1 := by
        refine .one ?_
        simp [step_args, argsStep, applyHead]
      have := (s0.trans fj).trans s1
      simp only [List.append_nil] at this
      exact ⟨_, by omega, this⟩
    | .new cs ty => fun env v k _ hv => by
      simp only [pureVal, Option.some.injEq] at hv
      subst hv
      exact ⟨1, Nat.le_refl _, .one rfl⟩
    | .paren t => fun env v k hp hv => by
      simp only [pureTerm] at hp
      simp only [pureVal] at hv
      obtain ⟨j, _, fj⟩ := fun_pure p t env v k hp hv
      have s0 : FSteps p (.eval (.paren t) env k) (.eval t env k) [] 1 := .one rfl
      have := s0.trans fj
      simp only [List.append_nil] at this
      exact ⟨_, by omega, this⟩
    | .ifc .. => fun _ _ _ hp _ => by simp [pureTerm] at hp
    | .ifz .. => fun _ _ _ hp _ => by simp [pureTerm] at hp
    | .print .. => fun _ _ _ hp _ => by simp [pureTerm] at hp
    | .letIn .. => fun _ _ _ hp _ => by simp [pureTerm] at hp
    | .call .. => fun _ _ _ hp _ => by simp [pureTerm] at hp
    | .dtor .. => fun _ _ _ hp _ => by simp [pureTerm] at hp
    | .case .. => fun _ _ _ hp _ => by simp [pureTerm] at hp
    | .label .. => fun _ _ _ hp _ => by simp [pureTerm] at hp
    | .goto .. => fun _ _ _ hp _ => by simp [pureTerm] at hp
    | .exit .. => fun _ _ _ hp _ => by simp [pureTerm] at hp
  /-- pure arguments are evaluated left to right in finitely many silent steps -/
  theorem fun_pureArgs (p : CheckedProgram) : ∀ (todo : Terms) (env : Env) (vs : List Value)
      (h : ArgHead) (done : List Value) (k : Stack),
      pureTerms todo = true → pureArgs p todo env = some vs →
      ∃ j, FSteps p (.args h done todo env k) (.args h (done ++ vs) .nil env k) [] j
    | .nil => fun env vs h done k _ hv => by
      simp only [pureArgs, Option.some.injEq] at hv
      subst hv
      exact ⟨0, by simpa using FSteps.refl _⟩
    | .cons t r => fun env vs h done k hp hv => by
      simp only [pureTerms, Bool.and_eq_true] at hp
      rw [pureArgs_cons] at hv
      cases hav : argVal p t env with
      | none => simp [hav] at hv
      | some v =>
        cases hr : pureArgs p r env with
        | none => simp [hav, hr] at hv
        | some vr =>
          simp only [hav, hr, Option.some.injEq] at hv
          subst hv
          obtain ⟨jr, fr⟩ := fun_pureArgs p r env vr h (done ++ [v]) k hp.2 hr
          have hfirst := fun_arg p t r env v h done k hav
            (fun k v hv => fun_pure p t env v k hp.1 hv)
          obtain ⟨j1, f1⟩ := hfirst
          have := f1.trans fr
          simp only [List.append_nil, List.append_assoc, List.singleton_append] at this
          exact ⟨_, this⟩
end

/-! ## pure terms without a value: the machine gets stuck, and not with an arithmetic fault -/

def Bad (w : Why) : Prop := w ≠ .divByZero ∧ w ≠ .overflow

theorem suspend_error_bad : ∀ (t : Term) (env : Env) (w : Why), suspend t env = .error w → Bad w
  | .paren t => fun env w h => by
    simp only [suspend] at h
    exact suspend_error_bad t env w h
  | .var x _ _ => fun env w h => by
    simp only [suspend] at h
    split at h
    · cases h
    · cases h; exact ⟨by simp, by simp⟩
  | .new .. => fun _ _ h => by simp [suspend] at h
  | .lit _ => fun _ _ h => by simp [suspend] at h
  | .op .. => fun _ _ h => by simp [suspend] at h
  | .ifc .. => fun _ _ h => by simp [suspend] at h
  | .ifz .. => fun _ _ h => by simp [suspend] at h
  | .print .. => fun _ _ h => by simp [suspend] at h
  | .letIn .. => fun _ _ h => by simp [suspend] at h
  | .call .. => fun _ _ h => by simp [suspend] at h
  | .ctor .. => fun _ _ h => by simp [suspend] at h
  | .dtor .. => fun _ _ h => by simp [suspend] at h
  | .case .. => fun _ _ h => by simp [suspend] at h
  | .label .. => fun _ _ h => by simp [suspend] at h
  | .goto .. => fun _ _ h => by simp [suspend] at h
  | .exit .. => fun _ _ h => by simp [suspend] at h

theorem arith_ok_of_pure {o : BinOp} (h1 : (o != .div) = true) (h2 : (o != .rem) = true)
    (x y : Word) : ∃ r, arith o x y = .ok r := by
  cases o with
  | div => exact absurd h1 (by decide)
  | rem => exact absurd h2 (by decide)
  | sum => exact ⟨_, rfl⟩
  | sub => exact ⟨_, rfl⟩
  | prod => exact ⟨_, rfl⟩

theorem fun_arg_none (p : CheckedProgram) (t : Term) (r : Terms) (env : Env)
    (h : ArgHead) (done : List Value) (k : Stack)
    (hav : argVal p t env = none)
    (ih : ∀ (k : Stack), pureVal p t env = none →
      ∃ j s1 w, FSteps p (.eval t env k) s1 [] j ∧ Fun.step p s1 = .stuck w ∧ Bad w) :
    ∃ j s1 w, FSteps p (.args h done (.cons t r) env k) s1 [] j ∧ Fun.step p s1 = .stuck w ∧ Bad w := by
  unfold argVal argValWith at hav
  have hstep := argsStep_cons p t r h done env k
  cases hcv : isCov t with
  | some x =>
    rw [hcv] at hav hstep
    simp only at hav hstep
    cases hl : lookup x env with
    | none =>
      exact ⟨0, _, .unbound x, .refl _, by rw [step_args, hstep, hl], by simp, by simp⟩
    | some w =>
      cases w with
      | cont c => simp [hl] at hav
      | int a => exact ⟨0, _, .notCont x, .refl _, by rw [step_args, hstep, hl], by simp, by simp⟩
      | con a b => exact ⟨0, _, .notCont x, .refl _, by rw [step_args, hstep, hl], by simp, by simp⟩
      | obj a b => exact ⟨0, _, .notCont x, .refl _, by rw [step_args, hstep, hl], by simp, by simp⟩
      | thunk a b => exact ⟨0, _, .notCont x, .refl _, by rw [step_args, hstep, hl], by simp, by simp⟩
  | none =>
    rw [hcv] at hav hstep
    simp only at hav hstep
    cases hty : t.getType with
    | none =>
      rw [hty] at hstep
      exact ⟨0, _, .untyped, .refl _, by rw [step_args, hstep], by simp, by simp⟩
    | some ty =>
      rw [hty] at hav hstep
      simp only at hav hstep
      by_cases hcd : isCodataTy p ty = true
      · rw [if_pos hcd] at hav hstep
        cases hs : suspend t env with
        | ok v' => simp [hs, exceptToOption] at hav
        | error w =>
          exact ⟨0, _, w, .refl _, by rw [step_args, hstep, hs], suspend_error_bad t env w hs⟩
      · rw [if_neg hcd] at hav hstep
        obtain ⟨j, s1, w, fj, hs, hb⟩ := ih (.arg h done r env :: k) hav
        have s0 : FSteps p (.args h done (.cons t r) env k) (.eval t env (.arg h done r env :: k)) [] 1 :=
          .one (by rw [step_args, hstep])
        have := s0.trans fj
        simp only [List.append_nil] at this
        exact ⟨_, s1, w, this, hs, hb⟩

mutual
  theorem fun_pure_none (p : CheckedProgram) : ∀ (t : Term) (env : Env) (k : Stack),
      pureTerm t = true → pureVal p t env = none →
      ∃ j s1 w, FSteps p (.eval t env k) s1 [] j ∧ Fun.step p s1 = .stuck w ∧ Bad w
    | .var x ty chi => fun env k _ hv => by
      simp only [pureVal] at hv
      exact ⟨0, _, .unbound x, .refl _, by simp [step_eval, evalStep, hv], by simp, by simp⟩
    | .lit n => fun env k _ hv => by simp [pureVal] at hv
    | .op a o b => fun env k hp hv => by
      simp only [pureTerm, Bool.and_eq_true] at hp
      simp only [pureVal] at hv
      have s0 : FSteps p (.eval (.op a o b) env k) (.eval a env (.opL o b env :: k)) [] 1 := .one rfl
      cases ha : pureVal p a env with
      | none =>
        obtain ⟨j, s1, w, fj, hs, hb⟩ := fun_pure_none p a env (.opL o b env :: k) hp.1.2 ha
        have := s0.trans fj
        simp only [List.append_nil] at this
        exact ⟨_, s1, w, this, hs, hb⟩
      | some va =>
        obtain ⟨ja, _, fa⟩ := fun_pure p a env va (.opL o b env :: k) hp.1.2 ha
        have sa := s0.trans fa
        simp only [List.append_nil] at sa
        have hbadL : (∀ x, va ≠ .int x) →
            ∃ j s1 w, FSteps p (.eval (.op a o b) env k) s1 [] j ∧ Fun.step p s1 = .stuck w ∧ Bad w := by
          intro hne
          refine ⟨_, _, .notInt "operand", sa, ?_, by simp, by simp⟩
          cases va with
          | int x => exact absurd rfl (hne x)
          | _ => rfl
        cases va with
        | int x =>
          have s1 : FSteps p (.ret (.int x) (.opL o b env :: k)) (.eval b env (.opR o x :: k)) [] 1 :=
            .one rfl
          have sa1 := sa.trans s1
          simp only [List.append_nil] at sa1
          cases hb : pureVal p b env with
          | none =>
            obtain ⟨j, s1', w, fj, hs, hbad⟩ := fun_pure_none p b env (.opR o x :: k) hp.2 hb
            have := sa1.trans fj
            simp only [List.append_nil] at this
            exact ⟨_, s1', w, this, hs, hbad⟩
          | some vb =>
            obtain ⟨jb, _, fb⟩ := fun_pure p b env vb (.opR o x :: k) hp.2 hb
            have sb := sa1.trans fb
            simp only [List.append_nil] at sb
            cases vb with
            | int y =>
              obtain ⟨r, hr⟩ := arith_ok_of_pure hp.1.1.1 hp.1.1.2 x y
              simp [ha, hb, hr, exceptToOption, Except.map] at hv
            | con c d => exact ⟨_, _, .notInt "operand", sb, rfl, by simp, by simp⟩
            | obj c d => exact ⟨_, _, .notInt "operand", sb, rfl, by simp, by simp⟩
            | thunk c d => exact ⟨_, _, .notInt "operand", sb, rfl, by simp, by simp⟩
            | cont c => exact ⟨_, _, .notInt "operand", sb, rfl, by simp, by simp⟩
        | con c d => exact hbadL (by simp)
        | obj c d => exact hbadL (by simp)
        | thunk c d => exact hbadL (by simp)
        | cont c => exact hbadL (by simp)
    | .ctor c as ty => fun env k hp hv => by
      simp only [pureTerm] at hp
      simp only [pureVal, Option.map_eq_none_iff] at hv
      obtain ⟨j, s1, w, fj, hs, hb⟩ := fun_pureArgs_none p as env (.ctor c) [] k hp hv
      have s0 : FSteps p (.eval (.ctor c as ty) env k) (.args (.ctor c) [] as env k) [] 1 := .one rfl
      have := s0.trans fj
      simp only [List.append_nil] at this
      exact ⟨_, s1, w, this, hs, hb⟩
    | .new cs ty => fun env k _ hv => by simp [pureVal] at hv
    | .paren t => fun env k hp hv => by
      simp only [pureTerm] at hp
      simp only [pureVal] at hv
      obtain ⟨j, s1, w, fj, hs, hb⟩ := fun_pure_none p t env k hp hv
      have s0 : FSteps p (.eval (.paren t) env k) (.eval t env k) [] 1 := .one rfl
      have := s0.trans fj
      simp only [List.append_nil] at this
      exact ⟨_, s1, w, this, hs, hb⟩
    | .ifc .. => fun _ _ hp _ => by simp [pureTerm] at hp
    | .ifz .. => fun _ _ hp _ => by simp [pureTerm] at hp
    | .print .. => fun _ _ hp _ => by simp [pureTerm] at hp
    | .letIn .. => fun _ _ hp _ => by simp [pureTerm] at hp
    | .call .. => fun _ _ hp _ => by simp [pureTerm] at hp
    | .dtor .. => fun _ _ hp _ => by simp [pureTerm] at hp
    | .case .. => fun _ _ hp _ => by simp [pureTerm] at hp
    | .label .. => fun _ _ hp _ => by simp [pureTerm] at hp
    | .goto .. => fun _ _ hp _ => by simp [pureTerm] at hp
    | .exit .. => fun _ _ hp _ => by simp [pureTerm] at hp
  theorem fun_pureArgs_none (p : CheckedProgram) : ∀ (todo : Terms) (env : Env)
      (h : ArgHead) (done : List Value) (k : Stack),
      pureTerms todo = true → pureArgs p todo env = none →
      ∃ j s1 w, FSteps p (.args h done todo env k) s1 [] j ∧ Fun.step p s1 = .stuck w ∧ Bad w
    | .nil => fun env h done k _ hv => by simp [pureArgs] at hv
    | .cons t r => fun env h done k hp hv => by
      simp only [pureTerms, Bool.and_eq_true] at hp
      rw [pureArgs_cons] at hv
      cases hav : argVal p t env with
      | none =>
        exact fun_arg_none p t r env h done k hav (fun k hv => fun_pure_none p t env k hp.1 hv)
      | some v =>
        obtain ⟨j1, f1⟩ := fun_arg p t r env v h done k hav
          (fun k v hv => fun_pure p t env v k hp.1 hv)
        cases hr : pureArgs p r env with
        | some vr => simp [hav, hr] at hv
        | none =>
          obtain ⟨j, s1, w, fj, hs, hb⟩ := fun_pureArgs_none p r env h (done ++ [v]) k hp.2 hr
          have := f1.trans fj
          simp only [List.append_nil] at this
          exact ⟨_, s1, w, this, hs, hb⟩
end

/-- outcome of evaluating `a o b` with pure operands: the machine reaches the point where the
operator is applied to two integers, or gets stuck before (not with an arithmetic fault) -/
theorem fun_op_top (p : CheckedProgram) (a b : Term) (o : BinOp) (env : Env) (k : Stack)
    (hpa : pureTerm a = true) (hpb : pureTerm b = true) :
    (∃ x y j, pureVal p a env = some (.int x) ∧ pureVal p b env = some (.int y) ∧ 1 ≤ j ∧
      FSteps p (.eval (.op a o b) env k) (.ret (.int y) (.opR o x :: k)) [] j) ∨
    ((∀ x y, ¬ (pureVal p a env = some (.int x) ∧ pureVal p b env = some (.int y))) ∧
      ∃ j s1 w, FSteps p (.eval (.op a o b) env k) s1 [] j ∧ Fun.step p s1 = .stuck w ∧ Bad w) := by
  have s0 : FSteps p (.eval (.op a o b) env k) (.eval a env (.opL o b env :: k)) [] 1 := .one rfl
  cases ha : pureVal p a env with
  | none =>
    right
    refine ⟨fun x y h => by simp at h, ?_⟩
    obtain ⟨j, s1, w, fj, hs, hb⟩ := fun_pure_none p a env (.opL o b env :: k) hpa ha
    have := s0.trans fj
    simp only [List.append_nil] at this
    exact ⟨_, s1, w, this, hs, hb⟩
  | some va =>
    obtain ⟨ja, _, fa⟩ := fun_pure p a env va (.opL o b env :: k) hpa ha
    have sa := s0.trans fa
    simp only [List.append_nil] at sa
    have hbadL : (∀ x, va ≠ .int x) →
        ((∀ x y, ¬ (some va = some (.int x) ∧ pureVal p b env = some (.int y))) ∧
        ∃ j s1 w, FSteps p (.eval (.op a o b) env k) s1 [] j ∧ Fun.step p s1 = .stuck w ∧ Bad w) := by
      intro hne
      refine ⟨fun x y h => hne x (by simpa using h.1), _, _, .notInt "operand", sa, ?_, by simp, by simp⟩
      cases va with
      | int x => exact absurd rfl (hne x)
      | _ => rfl
    cases va with
    | int x =>
      have s1 : FSteps p (.ret (.int x) (.opL o b env :: k)) (.eval b env (.opR o x :: k)) [] 1 :=
        .one rfl
      have sa1 := sa.trans s1
      simp only [List.append_nil] at sa1
      cases hb : pureVal p b env with
      | none =>
        right
        refine ⟨fun x y h => by simp at h, ?_⟩
        obtain ⟨j, s1', w, fj, hs, hbad⟩ := fun_pure_none p b env (.opR o x :: k) hpb hb
        have := sa1.trans fj
        simp only [List.append_nil] at this
        exact ⟨_, s1', w, this, hs, hbad⟩
      | some vb =>
        obtain ⟨jb, _, fb⟩ := fun_pure p b env vb (.opR o x :: k) hpb hb
        have sb := sa1.trans fb
        simp only [List.append_nil] at sb
        cases vb with
        | int y => exact .inl ⟨x, y, _, rfl, rfl, by omega, sb⟩
        | con c d => exact .inr ⟨fun x y h => by simp at h, _, _, .notInt "operand", sb, rfl, by simp, by simp⟩
        | obj c d => exact .inr ⟨fun x y h => by simp at h, _, _, .notInt "operand", sb, rfl, by simp, by simp⟩
        | thunk c d => exact .inr ⟨fun x y h => by simp at h, _, _, .notInt "operand", sb, rfl, by simp, by simp⟩
        | cont c => exact .inr ⟨fun x y h => by simp at h, _, _, .notInt "operand", sb, rfl, by simp, by simp⟩
    | con c d => exact .inr (hbadL (by simp))
    | obj c d => exact .inr (hbadL (by simp))
    | thunk c d => exact .inr (hbadL (by simp))
    | cont c => exact .inr (hbadL (by simp))

theorem step_opR (p : CheckedProgram) (o : BinOp) (x y : Word) (k : Stack) :
    Fun.step p (.ret (.int y) (.opR o x :: k)) =
      (match arith o x y with
        | .ok r => .next (.ret (.int r) k) none
        | .error w => .stuck w) := rfl

/-- terms whose suspension (by-name argument / binding) is their value: variables and `new` -/
def pureS : Term → Bool
  | .var .. => true
  | .new .. => true
  | .paren t => pureS t
  | _ => false

mutual
  /-- pure terms: variables, literals, `+ - *`, constructors, `new` (clauses accepted by `gc`),
  parentheses; an argument of codata type is a variable or a `new` -/
  def pureFO (p : CheckedProgram) (gc : Clauses → Bool) : Term → Bool
    | .var .. => true
    | .lit _ => true
    | .op a o b => o != .div && o != .rem && pureFO p gc a && pureFO p gc b
    | .ctor _ as _ => pureFOs p gc as
    | .new cs _ => gc cs
    | .paren t => pureFO p gc t
    | _ => false
  def pureFOs (p : CheckedProgram) (gc : Clauses → Bool) : Terms → Bool
    | .nil => true
    | .cons t r =>
      pureFO p gc t &&
      (match t.getType with
        | some ty => !isCodataTy p ty || pureS t
        | none => true) && pureFOs p gc r
end

end Scc.Fun2Core.Sem
