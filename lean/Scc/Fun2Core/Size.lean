/-
  Scc.Fun2Core.Size — node-count size functions on Fun terms and Core terms/statements/definitions:
  the measures of the size bound of the Fun → Core translation (C19-T1), which is proved in
  `Scc.Fun2Core.SizeProofs`.
-/
import Scc.Fun2Core.Lemmas

namespace Scc.Fun2Core
open Scc

/-! ## sizes -/

mutual
  /-- node count of a Fun term (a clause counts 1 + its binder names + its typed binders) -/
  def funSize : Fun.Term → Nat
    | .var _ _ _ => 1
    | .lit _ => 1
    | .op a _ b => 1 + funSize a + funSize b
    | .ifc _ a b t e _ => 1 + funSize a + funSize b + funSize t + funSize e
    | .ifz _ a t e _ => 1 + funSize a + funSize t + funSize e
    | .print _ a n _ => 1 + funSize a + funSize n
    | .letIn _ _ b i _ => 1 + funSize b + funSize i
    | .call _ args _ => 1 + funSizeArgs args
    | .ctor _ args _ => 1 + funSizeArgs args
    | .dtor s _ _ args _ => 1 + funSize s + funSizeArgs args
    | .case s _ cs _ => 1 + funSize s + funSizeClauses cs
    | .new cs _ => 1 + funSizeClauses cs
    | .label _ t _ => 1 + funSize t
    | .goto _ t _ => 1 + funSize t
    | .exit t _ => 1 + funSize t
    | .paren t => 1 + funSize t
  def funSizeArgs : Fun.Terms → Nat
    | .nil => 0
    | .cons t r => funSize t + funSizeArgs r
  def funSizeClauses : Fun.Clauses → Nat
    | .nil => 0
    | .cons _ _ names ctx body rest =>
      1 + names.length + ctx.length + funSize body + funSizeClauses rest
end

mutual
  /-- node count of a Core term -/
  def termSize : Core.Term → Nat
    | .var _ _ _ => 1
    | .lit _ => 1
    | .op a _ b => 1 + termSize a + termSize b
    | .mu _ _ _ s => 1 + stmtSize s
    | .xtor _ _ args _ => 1 + argsSize args
    | .xcase _ _ cs => 1 + clausesSize cs
  def argsSize : Core.Args → Nat
    | .nil => 0
    | .cons _ t r => termSize t + argsSize r
  def clausesSize : Core.Clauses → Nat
    | .nil => 0
    | .cons _ ctx body rest => 1 + ctx.length + stmtSize body + clausesSize rest
  /-- node count of a Core statement -/
  def stmtSize : Core.Stmt → Nat
    | .cut _ p c => 1 + termSize p + termSize c
    | .ifc _ a b t e => 1 + termSize a + termSize b + stmtSize t + stmtSize e
    | .ifz _ a t e => 1 + termSize a + stmtSize t + stmtSize e
    | .print _ a n => 1 + termSize a + stmtSize n
    | .call _ args _ => 1 + argsSize args
    | .exit a _ => 1 + termSize a
end

/-- size of a top-level definition: 1 + parameters + body -/
def defSize (d : Core.Def) : Nat := 1 + d.ctx.length + stmtSize d.body

def defsSize : List Core.Def → Nat
  | [] => 0
  | d :: ds => defSize d + defsSize ds

/-- size of a Core program = sum of its definitions -/
def progSize (p : Core.Prog) : Nat := defsSize p.defs

/-- size of one source definition: 1 + parameters + body -/
def funDefSize (d : Fun.Def) : Nat := 1 + d.ctx.length + funSize d.body

def funDefsSize : List Fun.Def → Nat
  | [] => 0
  | d :: ds => funDefSize d + funDefsSize ds

/-- size of a checked Fun program = sum of its definitions -/
def funProgSize (p : Fun.CheckedProgram) : Nat := funDefsSize p.defs

end Scc.Fun2Core
