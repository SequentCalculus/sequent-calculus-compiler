/-
  Scc.Fun2Core.Lemmas — the model functions as equations: one equation of `compileWithCont` /
  `compile` per constructor (= the Rust method bodies of terms/*.rs; by unfolding `compileBoth`), of
  `compileSubst` / `compileClauses` / `compileCoclauses` per list form, of `guardedLvl` per level, with
  names for what recurs in them (`shareUnless`: the shared consumer of `IfC` / `Case`; `letCore`,
  `caseCore`: the bodies behind the capture guard; `initState`: the state a definition starts from);
  the inversion of the binds that occur in these equations (`bind_term` …); and what `compile_def`,
  `compile_main` and one round of the loop of `compile_prog` run (`compileDef_inv` …).  At the end a
  fact about lists that the lookups by name need (`find?_of_nodup_key`).
-/
import Scc.Fun2Core.Model

namespace Scc.Fun2Core

/-- the consumer of the branches of `IfC` / `Case`, and the state after lifting it -/
def shareUnless (b : Bool) (c : Core.Term) (st : CompileState) : Core.Term × CompileState :=
  if b then (c, st) else share c st

theorem cwc_var (x ty chi cont st) :
    compileWithCont (.var x ty chi) cont st =
      (match ty with
        | none => .error (noTy "variable.rs: XVar::compile_with_cont")
        | some t => .ok (.cut (compileTy t) (.var .prd ⟨x, 0⟩ (compileTy t)) cont, st)) := rfl

theorem cwc_lit (n cont st) :
    compileWithCont (.lit n) cont st = .ok (.cut .i64 (.lit n) cont, st) := rfl

theorem cwc_op (a o b cont st) :
    compileWithCont (.op a o b) cont st =
      (match compile (.op a o b) .i64 st with
        | .error e => .error e
        | .ok (newOp, st') => .ok (.cut .i64 newOp cont, st')) := rfl

theorem cwc_ifc (srt a b t e ty cont st) :
    compileWithCont (.ifc srt a b t e ty) cont st =
      (match compile a .i64 (shareUnless (isLeaf cont) cont st).2 with
        | .error e => .error e
        | .ok (fst, st1) =>
          match compile b .i64 st1 with
          | .error e => .error e
          | .ok (snd, st2) =>
            match compileWithCont t (shareUnless (isLeaf cont) cont st).1 st2 with
            | .error e => .error e
            | .ok (thenc, st3) =>
              match compileWithCont e (shareUnless (isLeaf cont) cont st).1 st3 with
              | .error e => .error e
              | .ok (elsec, st4) => .ok (.ifc (compileSort srt) fst snd thenc elsec, st4)) := rfl

theorem cwc_ifz (srt a t e ty cont st) :
    compileWithCont (.ifz srt a t e ty) cont st =
      (match compile a .i64 (shareUnless (isLeaf cont) cont st).2 with
        | .error e => .error e
        | .ok (fst, st1) =>
          match compileWithCont t (shareUnless (isLeaf cont) cont st).1 st1 with
          | .error e => .error e
          | .ok (thenc, st2) =>
            match compileWithCont e (shareUnless (isLeaf cont) cont st).1 st2 with
            | .error e => .error e
            | .ok (elsec, st3) => .ok (.ifz (compileSort srt) fst thenc elsec, st3)) := rfl

theorem cwc_print (nl a n ty cont st) :
    compileWithCont (.print nl a n ty) cont st =
      (match compile a .i64 st with
        | .error e => .error e
        | .ok (arg, st1) =>
          match compileWithCont n cont st1 with
          | .error e => .error e
          | .ok (next, st2) => .ok (.print nl arg next, st2)) := rfl

/-- terms/let.rs: the body of `compile_with_cont` after the capture guard -/
def letCore (x : String) (varTy : Fun.Ty) (bound body : Fun.Term) : CwcFn := fun cont st =>
  match compileWithCont body cont st with
  | .error e => .error e
  | .ok (inStmt, st1) =>
    if isCodata (compileTy varTy) st1.codataTypes then
      match compile bound (compileTy varTy) st1 with
      | .error e => .error e
      | .ok (p, st2) =>
        .ok (.cut (compileTy varTy) p (.mu .cns ⟨x, 0⟩ (compileTy varTy) inStmt), st2)
    else
      compileWithCont bound (.mu .cns ⟨x, 0⟩ (compileTy varTy) inStmt) st1

/-- both translations of a `let` at once: unfolding `compileBoth` once is much cheaper than through
either projection -/
theorem compileBoth_letIn (x varTy bound body ty) :
    compileBoth (.letIn x varTy bound body ty) =
      (guarded [x] ty "let.rs: Let::compile_with_cont" (letCore x varTy bound body),
        defaultCompile (guarded [x] ty "let.rs: Let::compile_with_cont"
          (letCore x varTy bound body))) := rfl

theorem cwc_letIn (x varTy bound body ty) :
    compileWithCont (.letIn x varTy bound body ty) =
      guarded [x] ty "let.rs: Let::compile_with_cont" (letCore x varTy bound body) :=
  congrArg Prod.fst (compileBoth_letIn x varTy bound body ty)

theorem cwc_call (name args retTy cont st) :
    compileWithCont (.call name args retTy) cont st =
      (match compileSubst args st with
        | .error e => .error e
        | .ok (args', st1) =>
          match retTy with
          | none => .error (noTy "call.rs: Call::compile_with_cont")
          | some t => .ok (.call ⟨name, 0⟩ (argsSnoc args' .cns cont) (compileTy t), st1)) := rfl

theorem cwc_ctor (id args ty cont st) :
    compileWithCont (.ctor id args ty) cont st =
      (match ty with
        | none => .error (noTy "constructor.rs: Constructor::compile_with_cont")
        | some t =>
          match compile (.ctor id args ty) (compileTy t) st with
          | .error e => .error e
          | .ok (p, st1) => .ok (.cut (compileTy t) p cont, st1)) := rfl

theorem cwc_dtor (scrutinee id tyArgs args ty cont st) :
    compileWithCont (.dtor scrutinee id tyArgs args ty) cont st =
      (match compileSubst args st with
        | .error e => .error e
        | .ok (args', st1) =>
          match getType scrutinee with
          | none => .error (noTy "destructor.rs: Destructor::compile_with_cont")
          | some t =>
            compileWithCont scrutinee
              (.xtor .cns ⟨id, 0⟩ (argsSnoc args' .cns cont) (compileTy t)) st1) := rfl

/-- terms/case.rs: the body of `compile_with_cont` after the capture guard -/
def caseCore (scrutinee : Fun.Term) (clauses : Fun.Clauses) : CwcFn := fun cont st =>
  match compileClauses clauses
      (shareUnless (decide (clausesLen clauses ≤ 1) || isLeaf cont) cont st).1
      (shareUnless (decide (clausesLen clauses ≤ 1) || isLeaf cont) cont st).2 with
  | .error e => .error e
  | .ok (cs, st1) =>
    match getType scrutinee with
    | none => .error (noTy "case.rs: Case::compile_with_cont")
    | some t => compileWithCont scrutinee (.xcase .cns (compileTy t) cs) st1

theorem compileBoth_case (scrutinee tyArgs clauses ty) :
    compileBoth (.case scrutinee tyArgs clauses ty) =
      (guarded (clausesNames clauses) ty "case.rs: Case::compile_with_cont (guard)"
          (caseCore scrutinee clauses),
        defaultCompile (guarded (clausesNames clauses) ty "case.rs: Case::compile_with_cont (guard)"
          (caseCore scrutinee clauses))) := rfl

theorem cwc_case (scrutinee tyArgs clauses ty) :
    compileWithCont (.case scrutinee tyArgs clauses ty) =
      guarded (clausesNames clauses) ty "case.rs: Case::compile_with_cont (guard)"
        (caseCore scrutinee clauses) :=
  congrArg Prod.fst (compileBoth_case scrutinee tyArgs clauses ty)

theorem cwc_new (clauses ty cont st) :
    compileWithCont (.new clauses ty) cont st =
      (match ty with
        | none => .error (noTy "new.rs: New::compile_with_cont")
        | some t =>
          match compile (.new clauses ty) (compileTy t) st with
          | .error e => .error e
          | .ok (p, st1) => .ok (.cut (compileTy t) p cont, st1)) := rfl

theorem cwc_goto (target t ty cont st) :
    compileWithCont (.goto target t ty) cont st =
      (match getType t with
        | none => .error (noTy "goto.rs: Goto::compile_with_cont")
        | some gty => compileWithCont t (.var .cns ⟨target, 0⟩ (compileTy gty)) st) := rfl

theorem cwc_label (a t ty cont st) :
    compileWithCont (.label a t ty) cont st =
      (match ty with
        | none => .error (noTy "label.rs: Label::compile_with_cont")
        | some lty =>
          match compile (.label a t ty) (compileTy lty) st with
          | .error e => .error e
          | .ok (p, st1) => .ok (.cut (compileTy lty) p cont, st1)) := rfl

theorem cwc_exit (arg ty cont st) :
    compileWithCont (.exit arg ty) cont st =
      (match compile arg .i64 st with
        | .error e => .error e
        | .ok (a, st1) =>
          match ty with
          | none => .error (noTy "exit.rs: Exit::compile_with_cont")
          | some t => .ok (.exit a (compileTy t), st1)) := rfl

theorem cwc_paren (inner cont st) :
    compileWithCont (.paren inner) cont st = compileWithCont inner cont st := rfl

theorem c_var (x ty chi cty st) :
    compile (.var x ty chi) cty st =
      (match ty with
        | none => .error (noTy "variable.rs: XVar::compile")
        | some t => .ok (.var .prd ⟨x, 0⟩ (compileTy t), st)) := rfl

theorem c_lit (n cty st) : compile (.lit n) cty st = .ok (.lit n, st) := rfl

theorem c_op (a o b cty st) :
    compile (.op a o b) cty st =
      (match compile a .i64 st with
        | .error e => .error e
        | .ok (fst, st1) =>
          match compile b .i64 st1 with
          | .error e => .error e
          | .ok (snd, st2) => .ok (.op fst (compileOp o) snd, st2)) := rfl

theorem c_ctor (id args ty cty st) :
    compile (.ctor id args ty) cty st =
      (match compileSubst args st with
        | .error e => .error e
        | .ok (args', st1) =>
          match ty with
          | none => .error (noTy "constructor.rs: Constructor::compile")
          | some t => .ok (.xtor .prd ⟨id, 0⟩ args' (compileTy t), st1)) := rfl

theorem c_new (clauses ty cty st) :
    compile (.new clauses ty) cty st =
      (match compileCoclauses clauses st with
        | .error e => .error e
        | .ok (cs, st1) =>
          match ty with
          | none => .error (noTy "new.rs: New::compile")
          | some t => .ok (.xcase .prd (compileTy t) cs, st1)) := rfl

theorem c_label (a t ty cty st) :
    compile (.label a t ty) cty st =
      (match ty with
        | none => .error (noTy "label.rs: Label::compile")
        | some lty =>
          match compileWithCont t (.var .cns ⟨a, 0⟩ (compileTy lty)) st with
          | .error e => .error e
          | .ok (s, st1) => .ok (.mu .prd ⟨a, 0⟩ (compileTy lty) s, st1)) := rfl

theorem c_paren (inner cty st) : compile (.paren inner) cty st = compile inner cty st := rfl

theorem c_ifc (srt a b t e ty cty st) :
    compile (.ifc srt a b t e ty) cty st =
      defaultCompile (compileWithCont (.ifc srt a b t e ty)) cty st := rfl
theorem c_ifz (srt a t e ty cty st) :
    compile (.ifz srt a t e ty) cty st =
      defaultCompile (compileWithCont (.ifz srt a t e ty)) cty st := rfl
theorem c_print (nl a n ty cty st) :
    compile (.print nl a n ty) cty st =
      defaultCompile (compileWithCont (.print nl a n ty)) cty st := rfl
theorem c_letIn (x vt b i ty cty st) :
    compile (.letIn x vt b i ty) cty st =
      defaultCompile (compileWithCont (.letIn x vt b i ty)) cty st := by
  show (compileBoth _).2 cty st = defaultCompile (compileBoth _).1 cty st
  rw [compileBoth_letIn]
theorem c_call (f args ty cty st) :
    compile (.call f args ty) cty st =
      defaultCompile (compileWithCont (.call f args ty)) cty st := rfl
theorem c_dtor (s d ta args ty cty st) :
    compile (.dtor s d ta args ty) cty st =
      defaultCompile (compileWithCont (.dtor s d ta args ty)) cty st := rfl
theorem c_case (s ta cs ty cty st) :
    compile (.case s ta cs ty) cty st =
      defaultCompile (compileWithCont (.case s ta cs ty)) cty st := by
  show (compileBoth _).2 cty st = defaultCompile (compileBoth _).1 cty st
  rw [compileBoth_case]
theorem c_goto (a t ty cty st) :
    compile (.goto a t ty) cty st =
      defaultCompile (compileWithCont (.goto a t ty)) cty st := rfl
theorem c_exit (t ty cty st) :
    compile (.exit t ty) cty st =
      defaultCompile (compileWithCont (.exit t ty)) cty st := rfl

theorem guardedLvl_zero (binders ty site core cont st) :
    guardedLvl binders ty site core 0 cont st =
      .error (site ++ ": guard recursion exhausted (unreachable)") := rfl

theorem guardedLvl_succ (binders ty site core n cont st) :
    guardedLvl binders ty site core (n + 1) cont st =
      (if bindersOccurFree binders cont then
        match ty with
        | none => .error (noTy site)
        | some t =>
          match defaultCompile (guardedLvl binders ty site core n) (compileTy t) st with
          | .error e => .error e
          | .ok (p, st1) => .ok (.cut (compileTy t) p cont, st1)
      else core cont st) := rfl

theorem defaultCompile_eq (cwc : CwcFn) (ty st) :
    defaultCompile cwc ty st =
      (match cwc (.var .cns ⟨(freshCovar st).1, 0⟩ ty) (freshCovar st).2 with
        | .error e => .error e
        | .ok (s, st') => .ok (.mu .prd ⟨(freshCovar st).1, 0⟩ ty s, st')) := rfl

theorem subst_nil (st) : compileSubst .nil st = .ok (.nil, st) := rfl

theorem subst_cons (term rest st) :
    compileSubst (.cons term rest) st =
      (match covarArg term with
        | some (x, ty) =>
          match ty with
          | none => .error (noTy "arguments.rs: compile_subst (covariable)")
          | some t =>
            match compileSubst rest st with
            | .error e => .error e
            | .ok (r, st1) => .ok (.cons .cns (.var .cns ⟨x, 0⟩ (compileTy t)) r, st1)
        | none =>
          match getType term with
          | none => .error (noTy "arguments.rs: compile_subst")
          | some t =>
            match compile term (compileTy t) st with
            | .error e => .error e
            | .ok (p, st1) =>
              match compileSubst rest st1 with
              | .error e => .error e
              | .ok (r, st2) => .ok (.cons .prd p r, st2)) := by
  rw [compileSubst]; rfl

theorem clauses_nil (cont st) : compileClauses .nil cont st = .ok (.nil, st) := rfl

theorem clauses_cons (pol xtor names ctx body rest cont st) :
    compileClauses (.cons pol xtor names ctx body rest) cont st =
      (match compileWithCont body cont st with
        | .error e => .error e
        | .ok (b, st1) =>
          match compileClauses rest cont st1 with
          | .error e => .error e
          | .ok (r, st2) => .ok (.cons ⟨xtor, 0⟩ (compileContext ctx) b r, st2)) := by
  rw [compileClauses]; rfl

theorem coclauses_nil (st) : compileCoclauses .nil st = .ok (.nil, st) := rfl

theorem coclauses_cons (pol xtor names ctx body rest st) :
    compileCoclauses (.cons pol xtor names ctx body rest) st =
      (match getType body with
        | none => .error (noTy "clause.rs: compile_coclause")
        | some t =>
          match compileWithCont body (.var .cns ⟨(freshCovar st).1, 0⟩ (compileTy t))
              (freshCovar st).2 with
          | .error e => .error e
          | .ok (b, st1) =>
            match compileCoclauses rest st1 with
            | .error e => .error e
            | .ok (r, st2) =>
              .ok (.cons ⟨xtor, 0⟩
                (compileContext ctx ++ [⟨⟨(freshCovar st).1, 0⟩, .cns, compileTy t⟩]) b r, st2)) := by
  rw [compileCoclauses]; rfl

/-! ## inverting the binds of the equations

`match x with | .error e => .error e | .ok (a, st) => f a st` succeeds only if `x` does; one lemma
per result type of `x` (the equations above use one matcher per type), and one for the
`match ty with | none => .error _ | some t => f t` on type annotations. -/

theorem bind_term {β : Type} {x : Res Core.Term} {f : Core.Term → CompileState → Except String β} {r : β}
    (h : (match (motive := _ → Except String β) x with
      | .error e => .error e
      | .ok (a, st) => f a st) = .ok r) : ∃ a st, x = .ok (a, st) ∧ f a st = .ok r := by
  cases x with
  | error e => cases h
  | ok p => exact ⟨p.1, p.2, rfl, h⟩

theorem bind_stmt {β : Type} {x : Res Core.Stmt} {f : Core.Stmt → CompileState → Except String β} {r : β}
    (h : (match (motive := _ → Except String β) x with
      | .error e => .error e
      | .ok (a, st) => f a st) = .ok r) : ∃ a st, x = .ok (a, st) ∧ f a st = .ok r := by
  cases x with
  | error e => cases h
  | ok p => exact ⟨p.1, p.2, rfl, h⟩

theorem bind_args {β : Type} {x : Res Core.Args} {f : Core.Args → CompileState → Except String β} {r : β}
    (h : (match (motive := _ → Except String β) x with
      | .error e => .error e
      | .ok (a, st) => f a st) = .ok r) : ∃ a st, x = .ok (a, st) ∧ f a st = .ok r := by
  cases x with
  | error e => cases h
  | ok p => exact ⟨p.1, p.2, rfl, h⟩

theorem bind_clauses {β : Type} {x : Res Core.Clauses} {f : Core.Clauses → CompileState → Except String β} {r : β}
    (h : (match (motive := _ → Except String β) x with
      | .error e => .error e
      | .ok (a, st) => f a st) = .ok r) : ∃ a st, x = .ok (a, st) ∧ f a st = .ok r := by
  cases x with
  | error e => cases h
  | ok p => exact ⟨p.1, p.2, rfl, h⟩

theorem bind_ty {β : Type} {ty : Option Fun.Ty} {msg : String} {f : Fun.Ty → Except String β} {r : β}
    (h : (match (motive := _ → Except String β) ty with
      | none => .error msg
      | some t => f t) = .ok r) : ∃ t, ty = some t ∧ f t = .ok r := by
  cases ty with
  | none => cases h
  | some t => exact ⟨t, rfl, h⟩

/-- one round of the loop of `compile_prog`: `compile_main` or `compile_def` on the head, then the loop
on the rest with an accumulator that is, up to order, the old one with the translated definitions
(in front for `main`, behind otherwise: the lemma forgets which) -/
theorem compileDefs_cons_ok {cts : List Core.TypeDecl} {d : Fun.Def} {rest : List Fun.Def}
    {ul : List String} {acc out : List Core.Def}
    (h : compileDefs cts (d :: rest) ul acc = .ok out) :
    ∃ ds ul' acc',
      (if d.name == "main" then compileMain d cts ul else compileDef d cts ul) = .ok (ds, ul') ∧
      acc'.Perm (acc ++ ds) ∧ compileDefs cts rest ul' acc' = .ok out := by
  unfold compileDefs at h
  split at h
  · rename_i hmain
    rw [if_pos hmain]
    cases hm : compileMain d cts ul with
    | error e => simp [hm] at h
    | ok r => exact ⟨r.1, r.2, _, rfl, List.perm_append_comm, by simpa [hm] using h⟩
  · rename_i hmain
    rw [if_neg hmain]
    cases hm : compileDef d cts ul with
    | error e => simp [hm] at h
    | ok r => exact ⟨r.1, r.2, _, rfl, .refl _, by simpa [hm] using h⟩

/-- the state `compile_def` / `compile_main` start from -/
def initState (d : Fun.Def) (cts : List Core.TypeDecl) (l : List String) : CompileState :=
  ⟨usedBinders d.body (ctxVars d.ctx), cts, l, d.name, []⟩

/-- `compile_def`: `compile_with_cont` of the body from the initial state after a fresh covariable
`a`, with the consumer `a`, which becomes the last parameter -/
theorem compileDef_inv {d : Fun.Def} {cts : List Core.TypeDecl} {l : List String}
    {r : List Core.Def × List String} (h : compileDef d cts l = .ok r) :
    ∃ τ body st', getType d.body = some τ ∧
      compileWithCont d.body (.var .cns ⟨(freshCovar (initState d cts l)).1, 0⟩ (compileTy τ))
        (freshCovar (initState d cts l)).2 = .ok (body, st') ∧
      r = (⟨⟨d.name, 0⟩, compileContext d.ctx ++
          [⟨⟨(freshCovar (initState d cts l)).1, 0⟩, .cns, compileTy d.retTy⟩], body⟩ ::
        st'.liftedStatements, st'.usedLabels) := by
  obtain ⟨τ, hτ, h⟩ := bind_ty (ty := getType d.body) h
  obtain ⟨body, st', hx, h⟩ := bind_stmt h
  cases h
  exact ⟨τ, body, st', hτ, hx, rfl⟩

/-- `compile_main`: the same from the initial state after a fresh variable `x`, with the consumer
`μ~x.exit x` -/
theorem compileMain_inv {d : Fun.Def} {cts : List Core.TypeDecl} {l : List String}
    {r : List Core.Def × List String} (h : compileMain d cts l = .ok r) :
    ∃ τ body st', getType d.body = some τ ∧
      compileWithCont d.body (.mu .cns ⟨(freshVar (initState d cts l)).1, 0⟩ (compileTy τ)
          (.exit (.var .prd ⟨(freshVar (initState d cts l)).1, 0⟩ (compileTy τ)) (compileTy τ)))
        (freshVar (initState d cts l)).2 = .ok (body, st') ∧
      r = (⟨⟨d.name, 0⟩, compileContext d.ctx, body⟩ :: st'.liftedStatements, st'.usedLabels) := by
  obtain ⟨τ, hτ, h⟩ := bind_ty (ty := getType d.body) h
  obtain ⟨body, st', hx, h⟩ := bind_stmt h
  cases h
  exact ⟨τ, body, st', hτ, hx, rfl⟩

/-- one round of the loop of `compile_prog`, whichever of the two it is -/
theorem compileOne_ok {d : Fun.Def} {cts : List Core.TypeDecl} {l : List String}
    {r : List Core.Def × List String}
    (h : (if d.name == "main" then compileMain d cts l else compileDef d cts l) = .ok r) :
    ∃ τ c st0 ctx body st', getType d.body = some τ ∧
      ((c = .var .cns ⟨(freshCovar (initState d cts l)).1, 0⟩ (compileTy τ) ∧
          st0 = (freshCovar (initState d cts l)).2 ∧
          ctx = compileContext d.ctx ++
            [⟨⟨(freshCovar (initState d cts l)).1, 0⟩, .cns, compileTy d.retTy⟩]) ∨
        (c = .mu .cns ⟨(freshVar (initState d cts l)).1, 0⟩ (compileTy τ)
              (.exit (.var .prd ⟨(freshVar (initState d cts l)).1, 0⟩ (compileTy τ)) (compileTy τ)) ∧
          st0 = (freshVar (initState d cts l)).2 ∧ ctx = compileContext d.ctx)) ∧
      compileWithCont d.body c st0 = .ok (body, st') ∧
      r = (⟨⟨d.name, 0⟩, ctx, body⟩ :: st'.liftedStatements, st'.usedLabels) := by
  split at h
  · obtain ⟨τ, body, st', hτ, hx, rfl⟩ := compileMain_inv h
    exact ⟨τ, _, _, _, body, st', hτ, .inr ⟨rfl, rfl, rfl⟩, hx, rfl⟩
  · obtain ⟨τ, body, st', hτ, hx, rfl⟩ := compileDef_inv h
    exact ⟨τ, _, _, _, body, st', hτ, .inl ⟨rfl, rfl, rfl⟩, hx, rfl⟩

theorem compileDefs_acc_subset {cts : List Core.TypeDecl} : ∀ {rest : List Fun.Def} {l : List String}
    {acc out : List Core.Def}, compileDefs cts rest l acc = .ok out → ∀ d ∈ acc, d ∈ out
  | [], _, _, _, h => by cases h; exact fun _ hd => hd
  | _ :: _, _, _, _, h => by
    obtain ⟨ds, l', acc', -, hp, h⟩ := compileDefs_cons_ok h
    exact fun D hD => compileDefs_acc_subset h D (hp.mem_iff.2 (List.mem_append_left _ hD))

/-- in a list with pairwise distinct keys, looking up the key of a member finds that member -/
theorem find?_of_nodup_key {α κ : Type} (key : α → κ) {P : α → Bool} {a : α}
    (hP : ∀ x, P x = true ↔ key x = key a) : ∀ {l : List α}, (l.map key).Nodup → a ∈ l →
    l.find? P = some a
  | [], _, h => by simp at h
  | x :: r, hn, h => by
    simp only [List.map_cons, List.nodup_cons] at hn
    rw [List.find?_cons]
    rcases List.mem_cons.1 h with rfl | h
    · rw [(hP a).2 rfl]
    · have : P x = false := by
        rw [Bool.eq_false_iff]
        exact fun e => hn.1 ((hP x).1 e ▸ List.mem_map.2 ⟨a, h, rfl⟩)
      rw [this]
      exact find?_of_nodup_key key hP hn.2 h

end Scc.Fun2Core
