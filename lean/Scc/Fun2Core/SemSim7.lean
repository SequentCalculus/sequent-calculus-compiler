/-
  Scc.Fun2Core.SemSim7 — simulation of the statements with operands: `if a ~ b`, `if a ~ 0`,
  `print`, `exit`.
-/
import Scc.Fun2Core.SemShare

namespace Scc.Fun2Core.Sem

variable {q : Core.Prog} {p : Fun.CheckedProgram}

/-- `if a ~ b {t} else {e}` -/
theorem eval_ifc (X : Ctx p q) {srt : Fun.IfSort} {a b t1 e1 : Fun.Term} {ty : Option Fun.Ty}
    {env : Fun.Env} {k : Fun.Stack} {c : Core.Term} {s : Core.Stmt} {ρ0 ρ : CEnv} {out : Out}
    {n : Nat} (hg : good p (.ifc srt a b t1 e1 ty) = true)
    (hc : Compiled q n (.ifc srt a b t1 e1 ty) c s)
    (he : EnvRel (GP p) p q n (fv (.ifc srt a b t1 e1 ty)) env ρ0) (hr : CRel (GP p) p q n k c ρ0)
    (hbd : BoundOn (tfvStmt s []) ρ0) (hag : AgreeOn (tfvStmt s []) ρ0 ρ) :
    Chunk p q (R p q) true true μ (.eval (.ifc srt a b t1 e1 ty) env k) ⟨s, ρ, out, n⟩ := by
  simp only [good, Bool.and_eq_true] at hg
  obtain ⟨⟨⟨⟨⟨⟨hga, hgb⟩, hgt⟩, hge⟩, _⟩, hia⟩, hib⟩ := hg
  replace hia := i64T_iff.1 hia
  replace hib := i64T_iff.1 hib
  obtain ⟨st, st', hcwc, hst, htn, hcn⟩ := hc
  rw [cwc_ifc] at hcwc
  have hfr : FS st (shareUnless (isLeaf c) c st).2 := stepRel_shareUnless fs_stepRel _ c st
  generalize hrdef : shareUnless (isLeaf c) c st = r at hcwc hfr
  obtain ⟨A, st1, hca, hcwc⟩ := bind_term hcwc
  obtain ⟨B, st2, hcb, hcwc⟩ := bind_term hcwc
  obtain ⟨T, st3, hct, hcwc⟩ := bind_stmt hcwc
  obtain ⟨E, st4, hce, hcwc⟩ := bind_stmt hcwc
  cases hcwc
  have fa := fs_compile hca
  have fb := fs_compile hcb
  have ft := fs_cwc hct
  have fe := fs_cwc hce
  have hst3 := hst.of_fresh fe.1
  have hst2 := hst3.of_fresh ft.1
  have hst1 := hst2.of_fresh fb.1
  have hstr := hst1.of_fresh fa.1
  have f01 : FS st st1 := fs_stepRel.trans hfr fa
  have f02 : FS st st2 := fs_stepRel.trans f01 fb
  have f03 : FS st st3 := fs_stepRel.trans f02 ft
  have tna : TermNames a r.2 := htn.of_sub (fun x hx => by simp [fv, hx])
    (fun x hx => by simp [binderNames, hx]) hfr
  have tnb : TermNames b st1 := htn.of_sub (fun x hx => by simp [fv, hx])
    (fun x hx => by simp [binderNames, hx]) f01
  have tnt : TermNames t1 st2 := htn.of_sub (fun x hx => by simp [fv, hx])
    (fun x hx => by simp [binderNames, hx]) f02
  have tne : TermNames e1 st3 := htn.of_sub (fun x hx => by simp [fv, hx])
    (fun x hx => by simp [binderNames, hx]) f03
  obtain ⟨hr', hcn'⟩ : CRel (GP p) p q n k r.1 ρ0 ∧ ConsNames r.1 r.2 n := by
    rw [← hrdef]
    exact shareUnless_rel (isLeaf c) hr hcn (by rw [hrdef]; exact hstr.1)
  have f12 : FS r.2 st2 := fs_stepRel.trans fa fb
  have hct' : Compiled q n t1 r.1 T := ⟨st2, st3, hct, hst3, tnt, hcn'.mono_st f12.sub⟩
  have hce' : Compiled q n e1 r.1 E :=
    ⟨st3, _, hce, hst, tne, hcn'.mono_st (fs_stepRel.trans f12 ft).sub⟩
  have hea : EnvRel (GP p) p q n (fv a) env ρ0 := he.sub fun y hy => by simp [fv, hy]
  have hebte : EnvRel (GP p) p q n (fv b ++ fv t1 ++ fv e1) env ρ0 := he.sub fun y hy => by
    simp only [fv, List.mem_append] at hy ⊢
    rcases hy with (h | h) | h <;> simp [h]
  have f1 : FSteps p (.eval (.ifc srt a b t1 e1 ty) env k)
      (.eval a env (.ifL srt b t1 e1 env :: k)) [] 1 := .one rfl
  refine Chunk.prefix f1 (.refl _) rfl (fun _ => Nat.le_refl _) (fun h => .inr h) ?_
  refine operand_sim X.cod a hga hia (fun h => .ifc (compileSort srt) h B T E)
    (fun A hA => split_ifc1 hA) hca hst1 tna hea
    (hbd.mono fun y hy => mem_tfv_ifc.2 (.inl hy))
    (hag.mono fun y hy => mem_tfv_ifc.2 (.inl hy)) ?_ ?_
  · intro τ
    refine KRel.ifL (i := n) (ρ0 := ρ0) hgb hgt hge (Nat.lt_succ_self n) hib ⟨st1, st2, hcb, hst2, tnb⟩
      hct' hce' (hebte.mono (Nat.le_succ n)) (hr'.mono (Nat.le_succ n)) ?_ ?_
    · refine hbd.mono fun y hy => ?_
      obtain ⟨h1, h2⟩ := List.mem_filter.1 hy
      rcases mem_tfv_ifc.1 h1 with h | h | h | h
      · rw [mem_tfv_var] at h; subst h; simp at h2
      · exact mem_tfv_ifc.2 (.inr (.inl h))
      · exact mem_tfv_ifc.2 (.inr (.inr (.inl h)))
      · exact mem_tfv_ifc.2 (.inr (.inr (.inr h)))
    · refine hag.mono fun y hy => ?_
      obtain ⟨h1, h2⟩ := List.mem_filter.1 hy
      rcases mem_tfv_ifc.1 h1 with h | h | h | h
      · rw [mem_tfv_var] at h; subst h; simp at h2
      · exact mem_tfv_ifc.2 (.inr (.inl h))
      · exact mem_tfv_ifc.2 (.inr (.inr (.inl h)))
      · exact mem_tfv_ifc.2 (.inr (.inr (.inr h)))
  · intro ρ' n' z τ v V hn hext hl hvr hb
    obtain ⟨ρ0', hext0, hag'⟩ := hext.agree (ρ0 := ρ0)
    have hfs : ∀ y ∈ fv b ++ fv t1 ++ fv e1, y ≠ sig := fun y hy =>
      htn.fv_ne_sig y (by
        simp only [fv, List.mem_append] at hy ⊢
        rcases hy with (h | h) | h <;> simp [h])
    exact cont_ifL X.cod (ρ0 := ρ0') hgb hgt hge hib hcb hst2 tnb hct' hce' hn
      ((hebte.mono hn).sigExt hext0 hfs)
      ((hr'.mono hn).sigExt hext0 (hcn'.sig_lt (Nat.le_refl n)))
      ((hbd.mono fun y hy => mem_tfv_ifc.2 (.inr (.inl hy))).sigExt hext0)
      ((hbd.mono fun y hy => mem_tfv_ifc.2 (.inr (.inr (.inl hy)))).sigExt hext0)
      ((hbd.mono fun y hy => mem_tfv_ifc.2 (.inr (.inr (.inr hy)))).sigExt hext0)
      (hag' _ (hag.mono fun y hy => mem_tfv_ifc.2 (.inr (.inl hy))))
      (hag' _ (hag.mono fun y hy => mem_tfv_ifc.2 (.inr (.inr (.inl hy)))))
      (hag' _ (hag.mono fun y hy => mem_tfv_ifc.2 (.inr (.inr (.inr hy)))))
      hl hb (hvr.mono hn)

/-- `if a ~ 0 {t} else {e}` -/
theorem eval_ifz (X : Ctx p q) {srt : Fun.IfSort} {a t1 e1 : Fun.Term} {ty : Option Fun.Ty}
    {env : Fun.Env} {k : Fun.Stack} {c : Core.Term} {s : Core.Stmt} {ρ0 ρ : CEnv} {out : Out}
    {n : Nat} (hg : good p (.ifz srt a t1 e1 ty) = true)
    (hc : Compiled q n (.ifz srt a t1 e1 ty) c s)
    (he : EnvRel (GP p) p q n (fv (.ifz srt a t1 e1 ty)) env ρ0) (hr : CRel (GP p) p q n k c ρ0)
    (hbd : BoundOn (tfvStmt s []) ρ0) (hag : AgreeOn (tfvStmt s []) ρ0 ρ) :
    Chunk p q (R p q) true true μ (.eval (.ifz srt a t1 e1 ty) env k) ⟨s, ρ, out, n⟩ := by
  simp only [good, Bool.and_eq_true] at hg
  obtain ⟨⟨⟨⟨hga, hgt⟩, hge⟩, _⟩, hia⟩ := hg
  replace hia := i64T_iff.1 hia
  obtain ⟨st, st', hcwc, hst, htn, hcn⟩ := hc
  rw [cwc_ifz] at hcwc
  have hfr : FS st (shareUnless (isLeaf c) c st).2 := stepRel_shareUnless fs_stepRel _ c st
  generalize hrdef : shareUnless (isLeaf c) c st = r at hcwc hfr
  obtain ⟨A, st1, hca, hcwc⟩ := bind_term hcwc
  obtain ⟨T, st2, hct, hcwc⟩ := bind_stmt hcwc
  obtain ⟨E, st3, hce, hcwc⟩ := bind_stmt hcwc
  cases hcwc
  have fa := fs_compile hca
  have ft := fs_cwc hct
  have fe := fs_cwc hce
  have hst2 := hst.of_fresh fe.1
  have hst1 := hst2.of_fresh ft.1
  have hstr := hst1.of_fresh fa.1
  have f01 : FS st st1 := fs_stepRel.trans hfr fa
  have f02 : FS st st2 := fs_stepRel.trans f01 ft
  have tna : TermNames a r.2 := htn.of_sub (fun x hx => by simp [fv, hx])
    (fun x hx => by simp [binderNames, hx]) hfr
  have tnt : TermNames t1 st1 := htn.of_sub (fun x hx => by simp [fv, hx])
    (fun x hx => by simp [binderNames, hx]) f01
  have tne : TermNames e1 st2 := htn.of_sub (fun x hx => by simp [fv, hx])
    (fun x hx => by simp [binderNames, hx]) f02
  obtain ⟨hr', hcn'⟩ : CRel (GP p) p q n k r.1 ρ0 ∧ ConsNames r.1 r.2 n := by
    rw [← hrdef]
    exact shareUnless_rel (isLeaf c) hr hcn (by rw [hrdef]; exact hstr.1)
  have hct' : Compiled q n t1 r.1 T := ⟨st1, st2, hct, hst2, tnt, hcn'.mono_st fa.sub⟩
  have hce' : Compiled q n e1 r.1 E :=
    ⟨st2, _, hce, hst, tne, hcn'.mono_st (fs_stepRel.trans fa ft).sub⟩
  have hea : EnvRel (GP p) p q n (fv a) env ρ0 := he.sub fun y hy => by simp [fv, hy]
  have hete : EnvRel (GP p) p q n (fv t1 ++ fv e1) env ρ0 := he.sub fun y hy => by
    simp only [fv, List.mem_append] at hy ⊢
    rcases hy with h | h <;> simp [h]
  have f1 : FSteps p (.eval (.ifz srt a t1 e1 ty) env k)
      (.eval a env (.ifZ srt t1 e1 env :: k)) [] 1 := .one rfl
  refine Chunk.prefix f1 (.refl _) rfl (fun _ => Nat.le_refl _) (fun h => .inr h) ?_
  refine operand_sim X.cod a hga hia (fun h => .ifz (compileSort srt) h T E)
    (fun A hA => split_ifz hA) hca hst1 tna hea
    (hbd.mono fun y hy => mem_tfv_ifz.2 (.inl hy))
    (hag.mono fun y hy => mem_tfv_ifz.2 (.inl hy)) ?_ ?_
  · intro τ
    refine KRel.ifZ (i := n) (ρ0 := ρ0) hgt hge (Nat.lt_succ_self n)
      hct' hce' (hete.mono (Nat.le_succ n)) (hr'.mono (Nat.le_succ n)) ?_ ?_
    · refine hbd.mono fun y hy => ?_
      obtain ⟨h1, h2⟩ := List.mem_filter.1 hy
      rcases mem_tfv_ifz.1 h1 with h | h | h
      · rw [mem_tfv_var] at h; subst h; simp at h2
      · exact mem_tfv_ifz.2 (.inr (.inl h))
      · exact mem_tfv_ifz.2 (.inr (.inr h))
    · refine hag.mono fun y hy => ?_
      obtain ⟨h1, h2⟩ := List.mem_filter.1 hy
      rcases mem_tfv_ifz.1 h1 with h | h | h
      · rw [mem_tfv_var] at h; subst h; simp at h2
      · exact mem_tfv_ifz.2 (.inr (.inl h))
      · exact mem_tfv_ifz.2 (.inr (.inr h))
  · intro ρ' n' z τ v V hn hext hl hvr hb
    obtain ⟨ρ0', hext0, hag'⟩ := hext.agree (ρ0 := ρ0)
    have hfs : ∀ y ∈ fv t1 ++ fv e1, y ≠ sig := fun y hy =>
      htn.fv_ne_sig y (by
        simp only [fv, List.mem_append] at hy ⊢
        rcases hy with h | h <;> simp [h])
    exact cont_ifZ (ρ0 := ρ0') hgt hge hct' hce' hn
      ((hete.mono hn).sigExt hext0 hfs)
      ((hr'.mono hn).sigExt hext0 (hcn'.sig_lt (Nat.le_refl n)))
      ((hbd.mono fun y hy => mem_tfv_ifz.2 (.inr (.inl hy))).sigExt hext0)
      ((hbd.mono fun y hy => mem_tfv_ifz.2 (.inr (.inr hy))).sigExt hext0)
      (hag' _ (hag.mono fun y hy => mem_tfv_ifz.2 (.inr (.inl hy))))
      (hag' _ (hag.mono fun y hy => mem_tfv_ifz.2 (.inr (.inr hy))))
      hl (hvr.mono hn)

/-- `print(a); next` -/
theorem eval_print (X : Ctx p q) {nl : Bool} {a next : Fun.Term} {ty : Option Fun.Ty}
    {env : Fun.Env} {k : Fun.Stack} {c : Core.Term} {s : Core.Stmt} {ρ0 ρ : CEnv} {out : Out}
    {n : Nat} (hg : good p (.print nl a next ty) = true)
    (hc : Compiled q n (.print nl a next ty) c s)
    (he : EnvRel (GP p) p q n (fv (.print nl a next ty)) env ρ0) (hr : CRel (GP p) p q n k c ρ0)
    (hbd : BoundOn (tfvStmt s []) ρ0) (hag : AgreeOn (tfvStmt s []) ρ0 ρ) :
    Chunk p q (R p q) true true μ (.eval (.print nl a next ty) env k) ⟨s, ρ, out, n⟩ := by
  simp only [good, Bool.and_eq_true] at hg
  obtain ⟨⟨⟨hga, hgn⟩, _⟩, hia⟩ := hg
  replace hia := i64T_iff.1 hia
  obtain ⟨st, st', hcwc, hst, htn, hcn⟩ := hc
  rw [cwc_print] at hcwc
  obtain ⟨A, st1, hca, hcwc⟩ := bind_term hcwc
  obtain ⟨N, st2, hcx, hcwc⟩ := bind_stmt hcwc
  cases hcwc
  have fa := fs_compile hca
  have fn := fs_cwc hcx
  have hst1 := hst.of_fresh fn.1
  have tna : TermNames a st := htn.of_sub (fun x hx => by simp [fv, hx])
    (fun x hx => by simp [binderNames, hx]) (fs_stepRel.refl st)
  have tnn : TermNames next st1 := htn.of_sub (fun x hx => by simp [fv, hx])
    (fun x hx => by simp [binderNames, hx]) fa
  have hcn' : Compiled q n next c N := ⟨st1, _, hcx, hst, tnn, hcn.mono_st fa.sub⟩
  have hea : EnvRel (GP p) p q n (fv a) env ρ0 := he.sub fun y hy => by simp [fv, hy]
  have hen : EnvRel (GP p) p q n (fv next) env ρ0 := he.sub fun y hy => by simp [fv, hy]
  have f1 : FSteps p (.eval (.print nl a next ty) env k)
      (.eval a env (.print nl next env :: k)) [] 1 := .one rfl
  refine Chunk.prefix f1 (.refl _) rfl (fun _ => Nat.le_refl _) (fun h => .inr h) ?_
  refine operand_sim X.cod a hga hia (fun h => .print nl h N)
    (fun A hA => split_print hA) hca hst1 tna hea
    (hbd.mono fun y hy => mem_tfv_print.2 (.inl hy))
    (hag.mono fun y hy => mem_tfv_print.2 (.inl hy)) ?_ ?_
  · intro τ
    refine KRel.print (i := n) (ρ0 := ρ0) hgn (Nat.lt_succ_self n) hcn'
      (hen.mono (Nat.le_succ n)) (hr.mono (Nat.le_succ n)) ?_ ?_
    · refine hbd.mono fun y hy => ?_
      obtain ⟨h1, h2⟩ := List.mem_filter.1 hy
      rcases mem_tfv_print.1 h1 with h | h
      · rw [mem_tfv_var] at h; subst h; simp at h2
      · exact mem_tfv_print.2 (.inr h)
    · refine hag.mono fun y hy => ?_
      obtain ⟨h1, h2⟩ := List.mem_filter.1 hy
      rcases mem_tfv_print.1 h1 with h | h
      · rw [mem_tfv_var] at h; subst h; simp at h2
      · exact mem_tfv_print.2 (.inr h)
  · intro ρ' n' z τ v V hn hext hl hvr hb
    obtain ⟨ρ0', hext0, hag'⟩ := hext.agree (ρ0 := ρ0)
    exact cont_print (ρ0 := ρ0') hgn hcn' hn
      ((hen.mono hn).sigExt hext0 tnn.fv_ne_sig)
      ((hr.mono hn).sigExt hext0 (hcn.sig_lt (Nat.le_refl n)))
      ((hbd.mono fun y hy => mem_tfv_print.2 (.inr hy)).sigExt hext0)
      (hag' _ (hag.mono fun y hy => mem_tfv_print.2 (.inr hy)))
      hl (hvr.mono hn)

/-- `exit u` -/
theorem eval_exit (X : Ctx p q) {u : Fun.Term} {ty : Option Fun.Ty}
    {env : Fun.Env} {k : Fun.Stack} {c : Core.Term} {s : Core.Stmt} {ρ0 ρ : CEnv} {out : Out}
    {n : Nat} (hg : good p (.exit u ty) = true)
    (hc : Compiled q n (.exit u ty) c s)
    (he : EnvRel (GP p) p q n (fv (.exit u ty)) env ρ0)
    (hbd : BoundOn (tfvStmt s []) ρ0) (hag : AgreeOn (tfvStmt s []) ρ0 ρ) :
    Chunk p q (R p q) true true μ (.eval (.exit u ty) env k) ⟨s, ρ, out, n⟩ := by
  simp only [good, Bool.and_eq_true] at hg
  have hiu := i64T_iff.1 hg.2
  replace hg := hg.1.1
  obtain ⟨st, st', hcwc, hst, htn, hcn⟩ := hc
  rw [cwc_exit] at hcwc
  obtain ⟨U, st1, hca, hcwc⟩ := bind_term hcwc
  obtain ⟨τ0, rfl, hcwc⟩ := bind_ty hcwc
  cases hcwc
  have tnu : TermNames u st := htn.of_sub (fun x hx => by simp [fv, hx])
    (fun x hx => by simp [binderNames, hx]) (fs_stepRel.refl st)
  have f1 : FSteps p (.eval (.exit u (some τ0)) env k) (.eval u env [.exitF]) [] 1 := .one rfl
  refine Chunk.prefix f1 (.refl _) rfl (fun _ => Nat.le_refl _) (fun h => .inr h) ?_
  refine operand_sim X.cod u hg hiu (fun h => .exit h (compileTy τ0))
    (fun A hA => split_exit hA) hca hst tnu (by simpa [fv] using he)
    (hbd.mono fun y hy => mem_tfv_exit.2 hy)
    (hag.mono fun y hy => mem_tfv_exit.2 hy) ?_ ?_
  · intro τ
    exact KRel.exitF
  · intro ρ' n' z τ v V hn hext hl hvr hb
    exact cont_exit hl (hvr.mono hn)

end Scc.Fun2Core.Sem
