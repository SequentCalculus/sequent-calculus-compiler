/-
  Scc.Fun2Core.TypedCheck — C12, link fun2core: THE OUTPUT OF THE FUN TYPE CHECKER IS TYPED
  IN THE MONOMORPHIC, ANNOTATED SENSE `TypedM` (Scc/Fun2Core/TypedSrc.lean), which is what fun2core reads.
  `C15_sound` says the SOURCE program is `WT` and the output is the source up to annotations; it does not
  say that the annotations are the types of the derivation, nor that the instance declarations
  `dataTypes` / `codataTypes` of the output contain every instance the terms use.  Both are shown here,
  by a second induction over the checker model `Scc.Fun.Check.checkTerm` with the same invariant (`Inv`,
  `Ext`) and inversion lemmas as the soundness proof of C15:
    * `checkTerm_typedM`    a successful `checkTerm t st Γ τ = ok (t', st')` yields `TypedM P t' Γ τ` for
                            every checked program `P` that presents (`View`) a table extending `st'`
                            (precondition: the expected type is instantiated, `InstIn st τ` — true at
                            every call site of the checker; it yields `TyIn` at every node; the clause
                            loop yields the clauses in declaration order)
    * `checkProgram_progM`  `checkProgram p = ok p'`  ⇒  `ProgM p'`, for programs whose type, constructor and
                            destructor names are identifiers (`programNamesOk p`, as in `C15_sound`)
    * `printTy_eq`          the two printers of types (fun2core's and the checker's) agree
-/
import Scc.Fun.CheckSound6
import Scc.Fun2Core.TypedSrc

namespace Scc.Fun2Core.Typed
open Scc.Fun Scc.Fun.Check Scc.Fun.Typing

def tailForm : Tys → List Char
  | .nil => []
  | .cons t r => printTyC t ++ printTysTailC r

mutual
  theorem printTy_toList : ∀ τ : Fun.Ty, (Fun2Core.printTy τ).toList = printTyC τ
    | .i64 => by decide
    | .decl n .nil => by simp [Fun2Core.printTy, printTyC, printTyArgsC]
    | .decl n (.cons t r) => by
      have := printTys_toList (.cons t r)
      simp only [tailForm] at this
      simp only [Fun2Core.printTy, printTyC, printTyArgsC, String.toList_append]
      rw [List.append_assoc, List.append_assoc]
      have h1 : "[".toList = ['['] := by decide
      have h2 : "]".toList = [']'] := by decide
      rw [h1, h2, this]
      simp
  theorem printTys_toList : ∀ ts : Fun.Tys,
      (match ts with
        | .nil => True
        | .cons t r => (Fun2Core.printTys (.cons t r)).toList ++ [']'] = tailForm (.cons t r))
    | .nil => trivial
    | .cons t .nil => by
      simp [Fun2Core.printTys, tailForm, printTysTailC, printTy_toList t]
    | .cons t (.cons u r) => by
      have := printTys_toList (.cons u r)
      simp only [tailForm] at this ⊢
      simp only [Fun2Core.printTys, String.toList_append, printTy_toList t, printTysTailC]
      have h1 : ", ".toList = [',', ' '] := by decide
      rw [h1, List.append_assoc, List.append_assoc, this]
      simp
end

theorem printTy_eq (τ : Fun.Ty) : Fun2Core.printTy τ = Check.printTy τ := by
  apply String.toList_inj.1
  rw [printTy_toList, Check.printTy, String.toList_ofList]

theorem printTy_decl (n : String) (a : Fun.Tys) : Fun2Core.printTy (.decl n a) = instName n a := by
  rw [printTy_eq]
  apply String.toList_inj.1
  simp [Check.printTy, instName, printTyArgs, printTyC, String.toList_append]

/-- `P` has, for every instance of the table `stf`, a declaration named by the instance whose xtors
are the instantiated template signatures, and a definition for every definition of the source -/
structure View (p : Program) (stf : SymbolTable) (P : CheckedProgram) : Prop where
  data : ∀ d ∈ datas p, ∀ ta xs, (instName d.name ta, (Polarity.data, ta, xs)) ∈ stf.types →
    ∃ D, P.dataTypes.find? (fun D => D.name = instName d.name ta) = some D ∧
      D.ctors = d.ctors.map fun c => ⟨c.name, substCtx (instMap d.typeParams ta) c.args⟩
  codata : ∀ d ∈ codatas p, ∀ ta xs, (instName d.name ta, (Polarity.codata, ta, xs)) ∈ stf.types →
    ∃ D, P.codataTypes.find? (fun D => D.name = instName d.name ta) = some D ∧
      D.dtors = d.dtors.map fun s => ⟨s.name, substCtx (instMap d.typeParams ta) s.args,
        substTy (instMap d.typeParams ta) s.contTy⟩
  defs : ∀ d ∈ Typing.defs p, ∃ d' ∈ P.defs, d'.name = d.name ∧ d'.ctx = d.ctx ∧ d'.retTy = d.retTy

theorem dataDecl_of_view {p : Program} {stf : SymbolTable} {P : CheckedProgram} (v : View p stf P)
    {d : Data} (hd : d ∈ datas p) {ta : Tys} {xs : List String}
    (h : (instName d.name ta, (Polarity.data, ta, xs)) ∈ stf.types) :
    ∃ D, dataDecl P (.decl d.name ta) = some D ∧
      D.ctors = d.ctors.map fun c => ⟨c.name, substCtx (instMap d.typeParams ta) c.args⟩ := by
  obtain ⟨D, h1, h2⟩ := v.data d hd ta xs h
  refine ⟨D, ?_, h2⟩
  simp only [dataDecl, printTy_decl]
  exact h1

theorem codataDecl_of_view {p : Program} {stf : SymbolTable} {P : CheckedProgram} (v : View p stf P)
    {d : Codata} (hd : d ∈ codatas p) {ta : Tys} {xs : List String}
    (h : (instName d.name ta, (Polarity.codata, ta, xs)) ∈ stf.types) :
    ∃ D, codataDecl P (.decl d.name ta) = some D ∧
      D.dtors = d.dtors.map fun s => ⟨s.name, substCtx (instMap d.typeParams ta) s.args,
        substTy (instMap d.typeParams ta) s.contTy⟩ := by
  obtain ⟨D, h1, h2⟩ := v.codata d hd ta xs h
  refine ⟨D, ?_, h2⟩
  simp only [codataDecl, printTy_decl]
  exact h1

theorem find_ctor_inst {cs : List CtorSig} (g : CtorSig → Ctx) (hn : (cs.map (·.name)).Nodup)
    {c : CtorSig} (hc : c ∈ cs) :
    (cs.map fun c => (⟨c.name, g c⟩ : CtorSig)).find? (fun c' => c'.name = c.name) =
      some ⟨c.name, g c⟩ :=
  find?_of_nodup_key (a := (⟨c.name, g c⟩ : CtorSig)) (fun c => c.name)
    (fun _ => decide_eq_true_iff) (by simpa [Function.comp_def] using hn) (List.mem_map.2 ⟨c, hc, rfl⟩)

theorem find_dtor_inst {cs : List DtorSig} (g : DtorSig → Ctx) (g' : DtorSig → Ty)
    (hn : (cs.map (·.name)).Nodup) {c : DtorSig} (hc : c ∈ cs) :
    (cs.map fun c => (⟨c.name, g c, g' c⟩ : DtorSig)).find? (fun c' => c'.name = c.name) =
      some ⟨c.name, g c, g' c⟩ :=
  find?_of_nodup_key (a := (⟨c.name, g c, g' c⟩ : DtorSig)) (fun c => c.name)
    (fun _ => decide_eq_true_iff) (by simpa [Function.comp_def] using hn) (List.mem_map.2 ⟨c, hc, rfl⟩)

/-- the checked term is typed w.r.t. every program presenting a table that extends the output table -/
def SoundA (p : Program) (k : Checker) : Prop :=
  ∀ st Γ τ t' st', Inv p st → ctxNamesOk Γ = true → tyNamesOk τ = true → InstIn st τ →
    k st Γ τ = .ok (t', st') →
    ∀ stf P, Inv p stf → Ext st' stf → View p stf P → TypedM P t' Γ τ

theorem tyIn_of_instIn {p : Program} {stf : SymbolTable} {P : CheckedProgram} (v : View p stf P)
    (inv : Inv p stf) {τ : Ty} (h : InstIn stf τ) : TyIn P τ := by
  cases τ with
  | i64 => exact .inl rfl
  | decl n a =>
    obtain ⟨pol, xs, hm⟩ := h
    obtain ⟨_, _, g3⟩ := inv.types _ _ _ _ hm
    rcases g3 with ⟨rfl, d, hd, hk, _⟩ | ⟨rfl, d, hd, hk, _⟩
    · have hn : n = d.name := instName_left_inj hk
      subst hn
      obtain ⟨D, hD, _⟩ := dataDecl_of_view v hd hm
      exact .inr (.inl (by rw [hD]; rfl))
    · have hn : n = d.name := instName_left_inj hk
      subst hn
      obtain ⟨D, hD, _⟩ := codataDecl_of_view v hd hm
      exact .inr (.inr (by rw [hD]; rfl))

/-- what is known about an output clause of the clause loop -/
def ClauseA (p : Program) (sigOf : SymbolTable → String → Option (Ctx × Ty)) (tyArgs : Tys) (Γ : Ctx)
    (st st' : SymbolTable) (o : Clause) : Prop :=
  ∃ st1 sig bodyTy, Inv p st1 ∧ Ext st st1 ∧ Ext st1 st' ∧
    sigOf st1 (instName o.xtor tyArgs) = some (sig, bodyTy) ∧ o.names.Nodup ∧
    o.names.length = sig.length ∧ o.ctx = bindNames o.names sig ∧
    ∀ stf P, Inv p stf → Ext st' stf → View p stf P → TypedM P o.body (Γ ++ o.ctx) bodyTy

/-- the clause loop of `case` (`checkRet = false`) and of `new` (`checkRet = true`): the output clauses
are those of `xtors`, in that order, each with what `ClauseA` says of it.  For `case` every clause
body is checked against the one expected type `τ0`, which must be instantiated on entry; for `new`
against the destructor's return type, whose instance the loop itself enters into the table
(`checkTy`).  `SoundK` of the clause checkers gives the invariant and extension of the table (the
soundness proof of C15), `SoundA` the typing `TypedM` of the checked body. -/
theorem clauseLoop_typedM {p : Program} (ok : DeclsOk p) (hp : programNamesOk p = true)
    {sigOf : SymbolTable → String → Option (Ctx × Ty)} {missing : String} {checkRet : Bool}
    {tyArgs : Tys} {Γ : Ctx} (hΓ : ctxNamesOk Γ = true)
    (hsig : ∀ st n sig bodyTy, Inv p st → sigOf st n = some (sig, bodyTy) →
      ctxNamesOk sig = true ∧ tyNamesOk bodyTy = true)
    (τ0 : Ty) (hbt : checkRet = false → ∀ st n sig bodyTy, sigOf st n = some (sig, bodyTy) → bodyTy = τ0) :
    ∀ (xtors : List String) (ks : List ClauseK) (acc : List Clause) (st : SymbolTable)
      (out : List Clause) (left : List ClauseK) (st' : SymbolTable),
    (∀ k ∈ ks, SoundK p (ClauseQ p k.src) k.body) → (∀ k ∈ ks, SoundA p k.body) → Inv p st →
    (checkRet = false → InstIn st τ0) →
    clauseLoop sigOf missing checkRet tyArgs Γ xtors ks acc st = .ok (out, left, st') →
    Inv p st' ∧ Ext st st' ∧ ∃ new : List Clause, out = acc.reverse ++ new ∧
      new.map (·.xtor) = xtors ∧ ∀ o ∈ new, ClauseA p sigOf tyArgs Γ st st' o
  | [] => fun ks acc st out left st' _ _ inv _ h => by
    obtain ⟨rfl, rfl, rfl⟩ := clauseLoop_nil_ok h
    exact ⟨inv, Ext.refl _, [], by simp, rfl, by simp⟩
  | x :: rest => fun ks acc st out left st' hks hksA inv hτ0 h => by
    obtain ⟨pos, k, sig, bodyTy, st0, ctxClause, body', st1, hpos, hk, hs, hret, hnd, hadd, hbody,
      hrest⟩ := clauseLoop_cons_ok h
    have hkmem : k ∈ ks := List.mem_of_getElem? hk
    obtain ⟨hlen, rfl⟩ := addTypes_bindNames hadd
    obtain ⟨gsig, gty⟩ := hsig st _ sig bodyTy inv hs
    have hst0 : Inv p st0 ∧ Ext st st0 ∧ InstIn st0 bodyTy := by
      cases hcr : checkRet with
      | false =>
        rw [hcr] at hret
        simp only [Bool.false_eq_true, if_false] at hret
        cases hret
        have := hbt hcr st _ sig bodyTy hs
        subst this
        exact ⟨inv, Ext.refl _, hτ0 hcr⟩
      | true =>
        rw [hcr] at hret
        simp only [if_true] at hret
        obtain ⟨i0, e0, _, hi0⟩ := checkTy_sound ok hp bodyTy st st0 inv gty hret
        exact ⟨i0, e0, hi0⟩
    obtain ⟨inv0, ext0, hin0⟩ := hst0
    have hΓ' := ctxNamesOk_append hΓ (bindNames_namesOk (names := k.src.names) gsig)
    obtain ⟨inv1, ext1, _⟩ := hks k hkmem st0 _ _ _ _ inv0 hΓ' gty hbody
    have hA := hksA k hkmem st0 _ _ _ _ inv0 hΓ' gty hin0 hbody
    obtain ⟨inv2, ext2, new, hout, hx, hnew⟩ :=
      clauseLoop_typedM ok hp hΓ hsig τ0 hbt rest _ _ st1 out left st'
        (fun k' hk' => hks k' (mem_of_mem_swapRemove hk'))
        (fun k' hk' => hksA k' (mem_of_mem_swapRemove hk')) inv1
        (fun hcr => (hτ0 hcr).ext (ext0.trans ext1)) hrest
    have hkx : k.src.xtor = x := by
      obtain ⟨hlt, hpx, _⟩ := List.findIdx?_eq_some_iff_getElem.mp hpos
      obtain ⟨_, hk'⟩ := List.getElem?_eq_some_iff.mp hk
      rw [hk'] at hpx
      simpa using hpx
    refine ⟨inv2, (ext0.trans ext1).trans ext2,
      ⟨k.src.pol, k.src.xtor, k.src.names, bindNames k.src.names sig, body'⟩ :: new, ?_, ?_, ?_⟩
    · rw [hout]; simp
    · simp [hkx, hx]
    · intro o ho
      rcases List.mem_cons.mp ho with rfl | ho
      · refine ⟨st, sig, bodyTy, inv, Ext.refl _, (ext0.trans ext1).trans ext2, ?_,
          (namesNoDups_ok _ _ hnd).1, hlen, rfl, ?_⟩
        · simp only; rw [hkx]; exact hs
        · intro stf P invf extf v
          exact hA stf P invf (ext2.trans extf) v
      · obtain ⟨st1', sig', bodyTy', i1, e1, e2, g1, g2, g3, g4, g5⟩ := hnew o ho
        exact ⟨st1', sig', bodyTy', i1, (ext0.trans ext1).trans e1, e2, g1, g2, g3, g4, g5⟩

theorem clausesM_ofList {P : CheckedProgram} {Γ : Ctx} {sigs : List CtorSig} {τ : Ty} :
    ∀ (l : List Clause), (∀ o ∈ l, ∃ c, sigs.find? (fun c => c.name = o.xtor) = some c ∧ o.names.Nodup ∧
      o.names.length = c.args.length ∧ o.ctx = bindNames o.names c.args ∧
      TypedM P o.body (Γ ++ o.ctx) τ) → ClausesM P (Clauses.ofList l) Γ sigs τ
  | [] => fun _ => by simp [Clauses.ofList, ClausesM]
  | o :: r => fun h => by
    simp only [Clauses.ofList, ClausesM]
    exact ⟨h o (by simp), clausesM_ofList r (fun o' ho' => h o' (by simp [ho']))⟩

theorem coclausesM_ofList {P : CheckedProgram} {Γ : Ctx} {sigs : List DtorSig} :
    ∀ (l : List Clause), (∀ o ∈ l, ∃ c, sigs.find? (fun c => c.name = o.xtor) = some c ∧ o.names.Nodup ∧
      o.names.length = c.args.length ∧ o.ctx = bindNames o.names c.args ∧
      TypedM P o.body (Γ ++ o.ctx) c.contTy) → CoclausesM P (Clauses.ofList l) Γ sigs
  | [] => fun _ => by simp [Clauses.ofList, CoclausesM]
  | o :: r => fun h => by
    simp only [Clauses.ofList, CoclausesM]
    exact ⟨h o (by simp), coclausesM_ofList r (fun o' ho' => h o' (by simp [ho']))⟩

theorem clauseXtors_ofList (l : List Clause) : clauseXtors (Clauses.ofList l) = l.map (·.xtor) := by
  simp [clauseXtors, toList_ofList_clauses]

mutual
  theorem checkTerm_typedM {p : Program} (ok : DeclsOk p) (hp : programNamesOk p = true) :
      ∀ (t : Term), termNamesOk t = true → SoundA p (checkTerm t)
    | .var x ty chi => fun hn => by
      intro st Γ τ t' st' inv hΓ hτ hin h stf P invf extf v
      obtain ⟨hchi, found, st1, hl, ha, he, rfl⟩ := checkTerm_var_ok h
      obtain ⟨b, hb1, hb2, hb3, hb4⟩ := lookupVar_ok hl
      obtain ⟨inv1, ext1, hann⟩ := checkAnnot_sound ok hp inv
        (by intro t ht; subst ht; simpa [termNamesOk] using hn) ha
      obtain ⟨inv2, ext2, heq, wf, _⟩ := checkEquality_sound ok hp inv1 hτ he
      subst heq
      simp only [TypedM]
      exact ⟨tyIn_of_instIn v invf (hin.ext ((ext1.trans ext2).trans extf)), trivial, trivial, b, hb1, hb2,
        hb3⟩
    | .lit n => fun _ => by
      intro st Γ τ t' st' inv hΓ hτ hin h stf P invf extf v
      obtain ⟨he, rfl⟩ := checkTerm_lit_ok h
      obtain ⟨inv1, ext1, heq, _, _⟩ := checkEquality_sound ok hp inv hτ he
      simp only [TypedM]
      exact heq
    | .op a o b => fun hn => by
      intro st Γ τ t' st' inv hΓ hτ hin h stf P invf extf v
      simp only [termNamesOk, Bool.and_eq_true] at hn
      obtain ⟨st1, a', st2, b', he, ha, hb, rfl⟩ := checkTerm_op_ok h
      obtain ⟨inv1, ext1, heq, _, _⟩ := checkEquality_sound ok hp inv tyNamesOk_i64 he
      subst heq
      obtain ⟨inv2, ext2, _⟩ := checkTerm_sound ok hp a hn.1 st1 Γ .i64 a' st2 inv1 hΓ hτ ha
      obtain ⟨inv3, ext3, _⟩ := checkTerm_sound ok hp b hn.2 st2 Γ .i64 b' st' inv2 hΓ hτ hb
      simp only [TypedM]
      exact ⟨trivial, checkTerm_typedM ok hp a hn.1 st1 Γ .i64 a' st2 inv1 hΓ hτ trivial ha stf P invf
          (ext3.trans extf) v,
        checkTerm_typedM ok hp b hn.2 st2 Γ .i64 b' st' inv2 hΓ hτ trivial hb stf P invf extf v⟩
    | .ifc s a b t e an => fun hn => by
      intro st Γ τ t' st' inv hΓ hτ hin h stf P invf extf v
      simp only [termNamesOk, Bool.and_eq_true] at hn
      obtain ⟨a', st1, b', st2, th', st3, e', ha, hb, ht, he, rfl⟩ := checkTerm_ifc_ok h
      obtain ⟨inv1, ext1, _⟩ :=
        checkTerm_sound ok hp a hn.1.1.1 st Γ .i64 a' st1 inv hΓ tyNamesOk_i64 ha
      obtain ⟨inv2, ext2, _⟩ :=
        checkTerm_sound ok hp b hn.1.1.2 st1 Γ .i64 b' st2 inv1 hΓ tyNamesOk_i64 hb
      obtain ⟨inv3, ext3, _⟩ := checkTerm_sound ok hp t hn.1.2 st2 Γ τ th' st3 inv2 hΓ hτ ht
      obtain ⟨inv4, ext4, _⟩ := checkTerm_sound ok hp e hn.2 st3 Γ τ e' st' inv3 hΓ hτ he
      simp only [TypedM]
      exact ⟨tyIn_of_instIn v invf (hin.ext ((((ext1.trans ext2).trans ext3).trans ext4).trans extf)),
        trivial,
        checkTerm_typedM ok hp a hn.1.1.1 st Γ .i64 a' st1 inv hΓ tyNamesOk_i64 trivial ha stf P invf
          (((ext2.trans ext3).trans ext4).trans extf) v,
        checkTerm_typedM ok hp b hn.1.1.2 st1 Γ .i64 b' st2 inv1 hΓ tyNamesOk_i64 trivial hb stf P invf
          ((ext3.trans ext4).trans extf) v,
        checkTerm_typedM ok hp t hn.1.2 st2 Γ τ th' st3 inv2 hΓ hτ (hin.ext (ext1.trans ext2)) ht stf P
          invf (ext4.trans extf) v,
        checkTerm_typedM ok hp e hn.2 st3 Γ τ e' st' inv3 hΓ hτ (hin.ext ((ext1.trans ext2).trans ext3))
          he stf P invf extf v⟩
    | .ifz s a t e an => fun hn => by
      intro st Γ τ t' st' inv hΓ hτ hin h stf P invf extf v
      simp only [termNamesOk, Bool.and_eq_true] at hn
      obtain ⟨a', st1, th', st3, e', ha, ht, he, rfl⟩ := checkTerm_ifz_ok h
      obtain ⟨inv1, ext1, _⟩ :=
        checkTerm_sound ok hp a hn.1.1 st Γ .i64 a' st1 inv hΓ tyNamesOk_i64 ha
      obtain ⟨inv3, ext3, _⟩ := checkTerm_sound ok hp t hn.1.2 st1 Γ τ th' st3 inv1 hΓ hτ ht
      obtain ⟨inv4, ext4, _⟩ := checkTerm_sound ok hp e hn.2 st3 Γ τ e' st' inv3 hΓ hτ he
      simp only [TypedM]
      exact ⟨tyIn_of_instIn v invf (hin.ext (((ext1.trans ext3).trans ext4).trans extf)), trivial,
        checkTerm_typedM ok hp a hn.1.1 st Γ .i64 a' st1 inv hΓ tyNamesOk_i64 trivial ha stf P invf
          ((ext3.trans ext4).trans extf) v,
        checkTerm_typedM ok hp t hn.1.2 st1 Γ τ th' st3 inv1 hΓ hτ (hin.ext ext1) ht stf P invf
          (ext4.trans extf) v,
        checkTerm_typedM ok hp e hn.2 st3 Γ τ e' st' inv3 hΓ hτ (hin.ext (ext1.trans ext3)) he stf P invf
          extf v⟩
    | .print nl a n an => fun hn => by
      intro st Γ τ t' st' inv hΓ hτ hin h stf P invf extf v
      simp only [termNamesOk, Bool.and_eq_true] at hn
      obtain ⟨a', st1, n', ha, hnx, rfl⟩ := checkTerm_print_ok h
      obtain ⟨inv1, ext1, _⟩ :=
        checkTerm_sound ok hp a hn.1 st Γ .i64 a' st1 inv hΓ tyNamesOk_i64 ha
      obtain ⟨inv2, ext2, _⟩ := checkTerm_sound ok hp n hn.2 st1 Γ τ n' st' inv1 hΓ hτ hnx
      simp only [TypedM]
      exact ⟨tyIn_of_instIn v invf (hin.ext ((ext1.trans ext2).trans extf)), trivial,
        checkTerm_typedM ok hp a hn.1 st Γ .i64 a' st1 inv hΓ tyNamesOk_i64 trivial ha stf P invf
          (ext2.trans extf) v,
        checkTerm_typedM ok hp n hn.2 st1 Γ τ n' st' inv1 hΓ hτ (hin.ext ext1) hnx stf P invf extf v⟩
    | .letIn x σ bound body an => fun hn => by
      intro st Γ τ t' st' inv hΓ hτ hin h stf P invf extf v
      simp only [termNamesOk, Bool.and_eq_true] at hn
      obtain ⟨st1, bound', st2, body', hσ, hb, hi, rfl⟩ := checkTerm_letIn_ok h
      obtain ⟨inv1, ext1, wfσ, hinσ⟩ := checkTy_sound ok hp σ st st1 inv hn.1.1 hσ
      obtain ⟨inv2, ext2, _⟩ :=
        checkTerm_sound ok hp bound hn.1.2 st1 Γ σ bound' st2 inv1 hΓ hn.1.1 hb
      have hΓ' := ctxNamesOk_append hΓ (ctxNamesOk_single (x := x) (chi := .prd) hn.1.1)
      obtain ⟨inv3, ext3, _⟩ := checkTerm_sound ok hp body hn.2 st2 _ τ body' st' inv2 hΓ' hτ hi
      simp only [TypedM]
      exact ⟨tyIn_of_instIn v invf (hin.ext (((ext1.trans ext2).trans ext3).trans extf)), trivial,
        checkTerm_typedM ok hp bound hn.1.2 st1 Γ σ bound' st2 inv1 hΓ hn.1.1 hinσ hb stf P invf
          (ext3.trans extf) v,
        checkTerm_typedM ok hp body hn.2 st2 _ τ body' st' inv2 hΓ' hτ (hin.ext (ext1.trans ext2)) hi
          stf P invf extf v⟩
    | .call f args an => fun hn => by
      intro st Γ τ t' st' inv hΓ hτ hin h stf P invf extf v
      simp only [termNamesOk] at hn
      obtain ⟨types, retTy, st1, args', hget, he, hlen, ha, rfl⟩ := checkTerm_call_ok h
      obtain ⟨d, hd, rfl, rfl, rfl⟩ := inv.defs _ _ _ hget
      obtain ⟨inv1, ext1, heq, wf, _⟩ := checkEquality_sound ok hp inv hτ he
      subst heq
      obtain ⟨d', hd', e1, e2, e3⟩ := v.defs d hd
      obtain ⟨inv2, ext2, _⟩ := checkArgs_sound ok hp args d.ctx st1 Γ args' st' hn inv1 hΓ
        (def_namesOk hp hd).1 (length_eq_of_not_bne hlen) ha
      simp only [TypedM]
      refine ⟨tyIn_of_instIn v invf (hin.ext ((ext1.trans ext2).trans extf)), trivial, d', hd', e1, e3, ?_⟩
      rw [e2]
      exact checkArgs_typedM ok hp args d.ctx st1 Γ args' st' hn inv1 hΓ
        (def_namesOk hp hd).1 (length_eq_of_not_bne hlen) ha stf P invf extf v
    | .ctor id args an => fun hn => by
      intro st Γ τ t' st' inv hΓ hτ hin h stf P invf extf v
      simp only [termNamesOk, Bool.and_eq_true] at hn
      obtain ⟨name, tyArgs, types, ty, xs, args', st1, rfl, hget, hlk, hlen, ha, he, rfl⟩ :=
        checkTerm_ctor_ok h
      obtain ⟨key, ta, xs', x, hm, hx, hxe, hr⟩ := lookupTyForXtor_ok _ _ _ hlk
      cases hr
      obtain ⟨g1, g2, g3⟩ := inv.types _ _ _ _ hm
      rcases g3 with ⟨_, d, hd, rfl, rfl, hlen', hcs⟩ | ⟨hpol, _⟩
      · obtain ⟨c, hc, rfl⟩ := List.mem_map.mp hx
        rw [removeAll_instName _ (data_namesOk hp hd).1] at he
        obtain ⟨inv1, ext1, _⟩ := checkArgs_sound ok hp args types st Γ args' st1 hn.2 inv hΓ
          (inv.ctorsOk _ _ hget) (length_eq_of_not_bne hlen) ha
        obtain ⟨inv2, ext2, heq, wf, _⟩ := checkEquality_sound ok hp inv1 hτ he
        obtain ⟨hname, hta⟩ := Ty.decl.inj heq
        subst hname; subst hta
        have hcid : c.name = id := instName_left_inj hxe
        subst hcid
        have htypes : types = substCtx (instMap d.typeParams tyArgs) c.args := by
          have := hcs c hc
          rw [hget] at this
          exact (Option.some.inj this)
        subst htypes
        obtain ⟨D, hD, hctors⟩ := dataDecl_of_view v hd
          (extf.types _ (ext2.types _ (ext1.types _ hm)))
        have hnd : (d.ctors.map (·.name)).Nodup :=
          flatMap_nodup_inner (f := fun d : Data => d.ctors.map (·.name)) ok.ctorNamesNodup hd
        simp only [TypedM]
        refine ⟨tyIn_of_instIn v invf (hin.ext ((ext1.trans ext2).trans extf)), trivial, D,
          ⟨c.name, substCtx (instMap d.typeParams tyArgs) c.args⟩, hD, ?_, ?_⟩
        · rw [hctors]
          exact find_ctor_inst _ hnd hc
        · exact checkArgs_typedM ok hp args _ st Γ args' st1 hn.2 inv hΓ
            (inv.ctorsOk _ _ hget) (length_eq_of_not_bne hlen) ha stf P invf (ext2.trans extf) v
      · cases hpol
    | .dtor scrut id tyArgs args an => fun hn => by
      intro st Γ τ t' st' inv hΓ hτ hin h stf P invf extf v
      simp only [termNamesOk, Bool.and_eq_true] at hn
      obtain ⟨ty, xs, st1, scrut', st2, types, retTy, args', st3, hres, hs, hget, hlen, ha, he, rfl⟩ :=
        checkTerm_dtor_ok h
      obtain ⟨inv1, ext1, d, hd, s, hsd, rfl, rfl, rfl, wfty, hentry⟩ :=
        resolveXtorTy_codata_sound ok hp inv hn.1.1.1 hn.1.1.2 hres
      have hgood : tyNamesOk (.decl d.name tyArgs) = true := by
        simp [tyNamesOk, (codata_namesOk hp hd).1, hn.1.1.2]
      obtain ⟨inv2, ext2, _⟩ :=
        checkTerm_sound ok hp scrut hn.1.2 st1 Γ _ scrut' st2 inv1 hΓ hgood hs
      obtain ⟨_, _, g3⟩ := inv2.types _ _ _ _ (ext2.types _ hentry)
      rcases g3 with ⟨hpol, _⟩ | ⟨_, d', hd', hk, _, _, hcs⟩
      · cases hpol
      · have hdd : d = d' := codata_unique ok hd hd' (instName_left_inj hk)
        subst hdd
        have hv := hcs s hsd
        rw [hget] at hv
        cases hv
        obtain ⟨inv3, ext3, _⟩ := checkArgs_sound ok hp args _ st2 Γ args' st3 hn.2 inv2 hΓ
          (inv2.dtorsOk _ _ _ hget).1 (length_eq_of_not_bne hlen) ha
        obtain ⟨inv4, ext4, heq, wf, _⟩ := checkEquality_sound ok hp inv3 hτ he
        subst heq
        obtain ⟨D, hD, hdtors⟩ := codataDecl_of_view v hd
          (extf.types _ (ext4.types _ (ext3.types _ (ext2.types _ hentry))))
        have hnd : (d.dtors.map (·.name)).Nodup :=
          flatMap_nodup_inner (f := fun d : Codata => d.dtors.map (·.name)) ok.dtorNamesNodup hd
        simp only [TypedM]
        refine ⟨tyIn_of_instIn v invf (hin.ext ((((ext1.trans ext2).trans ext3).trans ext4).trans extf)),
          trivial, .decl d.name tyArgs, D, ⟨s.name, substCtx (instMap d.typeParams tyArgs) s.args,
          substTy (instMap d.typeParams tyArgs) s.contTy⟩, ?_, hD, ?_, rfl, ?_⟩
        · exact checkTerm_typedM ok hp scrut hn.1.2 st1 Γ _ scrut' st2 inv1 hΓ hgood ⟨_, _, hentry⟩ hs
            stf P invf ((ext3.trans ext4).trans extf) v
        · rw [hdtors]
          exact find_dtor_inst _ _ hnd hsd
        · exact checkArgs_typedM ok hp args _ st2 Γ args' st3 hn.2 inv2 hΓ
            (inv2.dtorsOk _ _ _ hget).1 (length_eq_of_not_bne hlen) ha stf P invf (ext4.trans extf) v
    | .case scrut tyArgs cs an => fun hn => by
      intro st Γ τ t' st' inv hΓ hτ hin h stf P invf extf v
      simp only [termNamesOk, Bool.and_eq_true] at hn
      obtain ⟨hsrc, hks⟩ := clauseCheckers_sound ok hp cs hn.2
      have hksA := clauseCheckers_typedM ok hp cs hn.2
      obtain ⟨pol0, xtor0, ns0, c0, b0, r0, ty, expectedCtors, st1, scrut', st2, newClauses, hcs, hres,
        hs, hl, rfl⟩ := checkTerm_case_ok h
      have hx0 : nameOk xtor0 = true := by
        have := hn.2; rw [hcs] at this
        simp only [clausesNamesOk, Bool.and_eq_true] at this
        exact this.1.1
      obtain ⟨inv1, ext1, d, hd, s, hsd, _, rfl, rfl, wfty, hentry⟩ :=
        resolveXtorTy_data_sound ok hp inv hx0 hn.1.1 hres
      have hgood : tyNamesOk (.decl d.name tyArgs) = true := by
        simp [tyNamesOk, (data_namesOk hp hd).1, hn.1.1]
      obtain ⟨inv2, ext2, _⟩ :=
        checkTerm_sound ok hp scrut hn.1.2 st1 Γ _ scrut' st2 inv1 hΓ hgood hs
      have hentry2 := ext2.types _ hentry
      obtain ⟨inv3, ext3, new, hout, hx, hnew⟩ := clauseLoop_typedM ok hp hΓ
        (by
          intro st n sig bodyTy inv' hs'
          cases hg : st.ctors.get? n with
          | none => simp [hg] at hs'
          | some sig0 =>
            simp only [hg, Option.map_some, Option.some.injEq, Prod.mk.injEq] at hs'
            obtain ⟨rfl, rfl⟩ := hs'
            exact ⟨inv'.ctorsOk _ _ hg, hτ⟩)
        τ (by
          intro _ st n sig bodyTy hs'
          cases hg : st.ctors.get? n with
          | none => simp [hg] at hs'
          | some sig0 =>
            simp only [hg, Option.map_some, Option.some.injEq, Prod.mk.injEq] at hs'
            exact hs'.2.symm)
        _ _ _ _ _ _ _ hks hksA inv2 (fun _ => hin.ext (ext1.trans ext2)) hl
      simp only [List.reverse_nil, List.nil_append] at hout
      subst hout
      obtain ⟨D, hD, hctors⟩ := dataDecl_of_view v hd (extf.types _ (ext3.types _ hentry2))
      have hnd : (d.ctors.map (·.name)).Nodup :=
        flatMap_nodup_inner (f := fun d : Data => d.ctors.map (·.name)) ok.ctorNamesNodup hd
      simp only [TypedM]
      refine ⟨tyIn_of_instIn v invf (hin.ext (((ext1.trans ext2).trans ext3).trans extf)), trivial,
        .decl d.name tyArgs, D, ?_, hD, ?_, ?_⟩
      · exact checkTerm_typedM ok hp scrut hn.1.2 st1 Γ _ scrut' st2 inv1 hΓ hgood ⟨_, _, hentry⟩ hs
          stf P invf (ext3.trans extf) v
      · apply clausesM_ofList
        intro o ho
        obtain ⟨st1', sig, bodyTy, i1, e1, e2, g1, g2, g3, g4, g5⟩ := hnew o ho
        have hox : o.xtor ∈ d.ctors.map (·.name) := by
          rw [← hx]; exact List.mem_map.mpr ⟨o, ho, rfl⟩
        obtain ⟨c, hc, hcn⟩ := List.mem_map.mp hox
        obtain ⟨_, _, q3⟩ := i1.types _ _ _ _ (e1.types _ hentry2)
        rcases q3 with ⟨_, d', hd', hk, _, _, hcs'⟩ | ⟨hpol, _⟩
        · have hdd : d = d' := data_unique ok hd hd' (instName_left_inj hk)
          subst hdd
          simp only at g1
          rw [← hcn, hcs' c hc] at g1
          simp only [Option.map_some, Option.some.injEq, Prod.mk.injEq] at g1
          obtain ⟨rfl, rfl⟩ := g1
          refine ⟨⟨c.name, substCtx (instMap d.typeParams tyArgs) c.args⟩, ?_, g2, g3, g4,
            g5 stf P invf extf v⟩
          rw [hctors, ← hcn]
          exact find_ctor_inst _ hnd hc
        · cases hpol
      · rw [clauseXtors_ofList, hx, hctors, List.map_map]
        rfl
    | .new cs an => fun hn => by
      intro st Γ τ t' st' inv hΓ hτ hin h stf P invf extf v
      simp only [termNamesOk] at hn
      obtain ⟨hsrc, hks⟩ := clauseCheckers_sound ok hp cs hn
      have hksA := clauseCheckers_typedM ok hp cs hn
      obtain ⟨name, tyArgs, ta, expectedDtors, newClauses, rfl, hget, hl, rfl⟩ := checkTerm_new_ok h
      have hm := AList.mem_of_get? hget
      simp only [tyNamesOk, Bool.and_eq_true] at hτ
      obtain ⟨g1, g2, g3⟩ := inv.types _ _ _ _ hm
      rcases g3 with ⟨hpol, _⟩ | ⟨_, d, hd, hk, rfl, hlen, _⟩
      · cases hpol
      · obtain ⟨hname, hta⟩ := instName_inj hτ.1 (codata_namesOk hp hd).1 hτ.2 g1 hk
        subst hname; subst hta
        obtain ⟨inv3, ext3, new, hout, hx, hnew⟩ := clauseLoop_typedM ok hp hΓ
          (by
            intro st n sig bodyTy inv' hs'
            exact inv'.dtorsOk _ _ _ hs')
          .i64 (by intro hcr; cases hcr)
          _ _ _ _ _ _ _ hks hksA inv (by intro hcr; cases hcr) hl
        simp only [List.reverse_nil, List.nil_append] at hout
        subst hout
        obtain ⟨D, hD, hdtors⟩ := codataDecl_of_view v hd (extf.types _ (ext3.types _ hm))
        have hnd : (d.dtors.map (·.name)).Nodup :=
          flatMap_nodup_inner (f := fun d : Codata => d.dtors.map (·.name)) ok.dtorNamesNodup hd
        simp only [TypedM]
        refine ⟨tyIn_of_instIn v invf (hin.ext (ext3.trans extf)), trivial, D, hD, ?_, ?_⟩
        · apply coclausesM_ofList
          intro o ho
          obtain ⟨st1', sig, bodyTy, i1, e1, e2, q1, q2, q3, q4, q5⟩ := hnew o ho
          have hox : o.xtor ∈ d.dtors.map (·.name) := by
            rw [← hx]; exact List.mem_map.mpr ⟨o, ho, rfl⟩
          obtain ⟨c, hc, hcn⟩ := List.mem_map.mp hox
          obtain ⟨_, _, r3⟩ := i1.types _ _ _ _ (e1.types _ hm)
          rcases r3 with ⟨hpol, _⟩ | ⟨_, d', hd', hk', _, _, hcs'⟩
          · cases hpol
          · have hdd : d = d' := codata_unique ok hd hd' (instName_left_inj hk')
            subst hdd
            simp only at q1
            rw [← hcn, hcs' c hc] at q1
            simp only [Option.some.injEq, Prod.mk.injEq] at q1
            obtain ⟨rfl, rfl⟩ := q1
            refine ⟨⟨c.name, substCtx (instMap d.typeParams tyArgs) c.args,
              substTy (instMap d.typeParams tyArgs) c.contTy⟩, ?_, q2, q3, q4, q5 stf P invf extf v⟩
            rw [hdtors, ← hcn]
            exact find_dtor_inst _ _ hnd hc
        · rw [clauseXtors_ofList, hx, hdtors, List.map_map]
          rfl
    | .label a body an => fun hn => by
      intro st Γ τ t' st' inv hΓ hτ hin h stf P invf extf v
      simp only [termNamesOk] at hn
      obtain ⟨body', hb, rfl⟩ := checkTerm_label_ok h
      obtain ⟨inv1, ext1, _⟩ := checkTerm_sound ok hp body hn st _ τ body' st' inv
        (ctxNamesOk_append hΓ (ctxNamesOk_single (x := a) (chi := .cns) hτ)) hτ hb
      simp only [TypedM]
      exact ⟨tyIn_of_instIn v invf (hin.ext (ext1.trans extf)), trivial,
        checkTerm_typedM ok hp body hn st _ τ body' st' inv
        (ctxNamesOk_append hΓ (ctxNamesOk_single hτ)) hτ hin hb stf P invf extf v⟩
    | .goto a arg an => fun hn => by
      intro st Γ τ t' st' inv hΓ hτ hin h stf P invf extf v
      simp only [termNamesOk] at hn
      obtain ⟨contTy, st0, arg', hl, hc, ha, rfl⟩ := checkTerm_goto_ok h
      obtain ⟨b, hb1, hb2, hb3, hb4⟩ := lookupCovar_ok hl
      subst hb3
      obtain ⟨inv0, ext0, wfb, hinb⟩ := checkTy_sound ok hp b.ty st st0 inv (ctxNamesOk_mem hΓ hb4) hc
      obtain ⟨inv1, ext1, _⟩ := checkTerm_sound ok hp arg hn st0 Γ _ arg' st' inv0 hΓ
        (ctxNamesOk_mem hΓ hb4) ha
      simp only [TypedM]
      exact ⟨tyIn_of_instIn v invf (hin.ext ((ext0.trans ext1).trans extf)), trivial, b, hb1, hb2,
        checkTerm_typedM ok hp arg hn st0 Γ _ arg' st' inv0 hΓ
        (ctxNamesOk_mem hΓ hb4) hinb ha stf P invf extf v⟩
    | .exit arg an => fun hn => by
      intro st Γ τ t' st' inv hΓ hτ hin h stf P invf extf v
      simp only [termNamesOk] at hn
      obtain ⟨arg', ha, rfl⟩ := checkTerm_exit_ok h
      obtain ⟨inv1, ext1, _⟩ :=
        checkTerm_sound ok hp arg hn st Γ .i64 arg' st' inv hΓ tyNamesOk_i64 ha
      simp only [TypedM]
      exact ⟨tyIn_of_instIn v invf (hin.ext (ext1.trans extf)), trivial,
        checkTerm_typedM ok hp arg hn st Γ .i64 arg' st' inv hΓ tyNamesOk_i64 trivial ha stf P invf
        extf v⟩
    | .paren inner => fun hn => by
      intro st Γ τ t' st' inv hΓ hτ hin h stf P invf extf v
      simp only [termNamesOk] at hn
      obtain ⟨inner', ha, rfl⟩ := checkTerm_paren_ok h
      simp only [TypedM]
      exact checkTerm_typedM ok hp inner hn st Γ τ inner' st' inv hΓ hτ hin ha stf P invf extf v
  theorem checkArgs_typedM {p : Program} (ok : DeclsOk p) (hp : programNamesOk p = true) :
      ∀ (ts : Terms) (bs : List Binding) (st : SymbolTable) (Γ : Ctx) (ts' : Terms)
        (st' : SymbolTable), argsNamesOk ts = true → Inv p st → ctxNamesOk Γ = true →
        ctxNamesOk bs = true → bs.length = termsLength ts → checkArgs ts bs st Γ = .ok (ts', st') →
        ∀ stf P, Inv p stf → Ext st' stf → View p stf P → ArgsM P ts' Γ bs
    | .nil => fun bs st Γ ts' st' _ inv _ _ hlen h => by
      intro stf P invf extf v
      obtain ⟨rfl, rfl⟩ := checkArgs_nil_ok h
      have : bs = [] := by
        simpa [termsLength, Terms.toList] using hlen
      subst this
      simp [ArgsM]
    | .cons t ts => fun bs st Γ ts' st' hn inv hΓ hbs hlen h => by
      cases bs with
      | nil => simp [termsLength, Terms.toList] at hlen
      | cons b bs =>
        intro stf P invf extf v
        simp only [argsNamesOk, Bool.and_eq_true] at hn
        have hbty : tyNamesOk b.ty = true := ctxNamesOk_mem hbs (by simp)
        have hbs' : ctxNamesOk bs = true := by
          simp only [ctxNamesOk, List.all_cons, Bool.and_eq_true] at hbs
          exact hbs.2
        have hlen' : bs.length = termsLength ts := by
          simp only [termsLength, Terms.toList, List.length_cons] at hlen ⊢
          omega
        cases hb : b.chi with
        | prd =>
          obtain ⟨st1, t', st2, rest', hty, ht, hr, rfl⟩ := checkArgs_cons_prd_ok hb h
          obtain ⟨inv1, ext1, wf, hinb⟩ := checkTy_sound ok hp b.ty st st1 inv hbty hty
          obtain ⟨inv2, ext2, _⟩ := checkTerm_sound ok hp t hn.1 st1 Γ b.ty t' st2 inv1 hΓ hbty ht
          obtain ⟨inv3, ext3, _⟩ :=
            checkArgs_sound ok hp ts bs st2 Γ rest' st' hn.2 inv2 hΓ hbs' hlen' hr
          simp only [ArgsM]
          refine ⟨b, bs, rfl, ?_, .inl ⟨hb, ?_⟩⟩
          · exact checkArgs_typedM ok hp ts bs st2 Γ rest' st' hn.2 inv2 hΓ hbs' hlen' hr stf P invf extf v
          · exact checkTerm_typedM ok hp t hn.1 st1 Γ b.ty t' st2 inv1 hΓ hbty hinb ht stf P invf
              (ext3.trans extf) v
        | cns =>
          obtain ⟨x, ty, chi, t', st2, rest', rfl, hc, hr, rfl⟩ := checkArgs_cons_cns_ok hb h
          obtain ⟨hchi, found, st1, hl, ha, he, rfl⟩ := checkCovarArg_ok hc
          obtain ⟨b', hb1, hb2, hb3, hb4⟩ := lookupCovar_ok hl
          obtain ⟨inv1, ext1, hann⟩ := checkAnnot_sound ok hp inv
            (by intro t ht; subst ht; simpa [termNamesOk] using hn.1) ha
          obtain ⟨inv2, ext2, heq, wf, _⟩ := checkEquality_sound ok hp inv1 hbty he
          simp only [ArgsM]
          refine ⟨b, bs, rfl, ?_, .inr ⟨hb, x, b', ?_, hb1, hb2, hb3.trans heq.symm⟩⟩
          · exact checkArgs_typedM ok hp ts bs st2 Γ rest' st' hn.2 inv2 hΓ hbs' hlen' hr stf P invf extf v
          · rw [heq]
  theorem clauseCheckers_typedM {p : Program} (ok : DeclsOk p) (hp : programNamesOk p = true) :
      ∀ (cs : Clauses), clausesNamesOk cs = true → ∀ k ∈ clauseCheckers cs, SoundA p k.body
    | .nil => fun _ => by simp [clauseCheckers]
    | .cons pol x ns c b r => fun hn => by
      simp only [clausesNamesOk, Bool.and_eq_true] at hn
      have ih := clauseCheckers_typedM ok hp r hn.2
      intro k hk
      simp only [clauseCheckers, List.mem_cons] at hk
      rcases hk with rfl | hk
      · exact checkTerm_typedM ok hp b hn.1.2
      · exact ih k hk
end

theorem checkDef_typedM {p : Program} (ok : DeclsOk p) (hp : programNamesOk p = true)
    {f f' : Def} {st st' : SymbolTable} (hf : f ∈ Typing.defs p) (inv : Inv p st)
    (h : checkDef f st = .ok (f', st')) :
    (f'.ctx.map (·.var)).Nodup ∧
    ∀ stf P, Inv p stf → Ext st' stf → View p stf P → TypedM P f'.body f'.ctx f'.retTy := by
  obtain ⟨g1, g2, g3⟩ := def_namesOk hp hf
  simp only [checkDef] at h
  split at h
  · cases h
  · rename_i h1
    split at h
    · cases h
    · rename_i st1 h2
      split at h
      · cases h
      · rename_i st2 h3
        split at h
        · cases h
        · rename_i body' st3 h4
          cases h
          obtain ⟨inv1, ext1, wfc⟩ := ctxCheck_sound ok hp f.ctx st st1 inv g1 h2
          obtain ⟨inv2, ext2, wfr, hinr⟩ := checkTy_sound ok hp f.retTy st1 st2 inv1 g2 h3
          refine ⟨(ctxNoDups_ok _ _ h1).1, ?_⟩
          intro stf P invf extf v
          exact checkTerm_typedM ok hp f.body g3 st2 f.ctx f.retTy body' st' inv2 g1 g2 hinr h4 stf P
            invf extf v

theorem checkDefs_typedM {p : Program} (ok : DeclsOk p) (hp : programNamesOk p = true) :
    ∀ (fs fs' : List Def) (st st' : SymbolTable), (∀ f ∈ fs, f ∈ Typing.defs p) → Inv p st →
    checkDefs fs st = .ok (fs', st') →
    ∀ stf P, Inv p stf → Ext st' stf → View p stf P →
      ∀ d' ∈ fs', (d'.ctx.map (·.var)).Nodup ∧ TypedM P d'.body d'.ctx d'.retTy
  | [] => fun fs' st st' _ inv h => by
    simp only [checkDefs] at h; cases h
    intro stf P _ _ _ d' hd'
    simp at hd'
  | f :: r => fun fs' st st' hsub inv h => by
    simp only [checkDefs] at h
    split at h
    · cases h
    · rename_i f1 st1 h1
      split at h
      · cases h
      · rename_i r1 st2 h2
        cases h
        obtain ⟨inv1, ext1, _⟩ := checkDef_sound ok hp (hsub f (by simp)) inv h1
        obtain ⟨inv2, ext2, _⟩ := checkDefs_sound ok hp r r1 st1 st'
          (fun x hx => hsub x (by simp [hx])) inv1 h2
        obtain ⟨hnd, hty⟩ := checkDef_typedM ok hp (hsub f (by simp)) inv h1
        have ih := checkDefs_typedM ok hp r r1 st1 st' (fun x hx => hsub x (by simp [hx])) inv1 h2
        intro stf P invf extf v d' hd'
        rcases List.mem_cons.mp hd' with rfl | hd'
        · exact ⟨hnd, hty stf P invf (ext2.trans extf) v⟩
        · exact ih stf P invf extf v d' hd'

theorem defsErase_names : ∀ {fs' fs : List Def}, DefsErase fs' fs →
    fs'.map (·.name) = fs.map (·.name) ∧
    ∀ d ∈ fs, ∃ d' ∈ fs', d'.name = d.name ∧ d'.ctx = d.ctx ∧ d'.retTy = d.retTy
  | _, _, .nil => by simp
  | _, _, .cons e1 e2 e3 _ hr => by
    obtain ⟨ih1, ih2⟩ := defsErase_names hr
    refine ⟨by simp [e1, ih1], ?_⟩
    intro d hd
    rcases List.mem_cons.mp hd with rfl | hd
    · exact ⟨_, by simp, e1, e2, e3⟩
    · obtain ⟨d', hd', q⟩ := ih2 d hd
      exact ⟨d', by simp [hd'], q⟩

theorem collectTypes_complete {st : SymbolTable} :
    ∀ (types : AList (Polarity × Tys × List String)) (ds : List Data) (cs : List Codata),
    collectTypes st types = .ok (ds, cs) →
    (∀ key ta xs, (key, (Polarity.data, ta, xs)) ∈ types → ∃ D ∈ ds, D.name = key) ∧
    (∀ key ta xs, (key, (Polarity.codata, ta, xs)) ∈ types → ∃ D ∈ cs, D.name = key)
  | [] => fun ds cs h => by
    simp only [collectTypes] at h; cases h; simp
  | (name, (.data, ta, xs)) :: r => fun ds cs h => by
    simp only [collectTypes] at h
    split at h
    · cases h
    · rename_i ctors h1
      split at h
      · cases h
      · rename_i ds' cs' h2
        cases h
        obtain ⟨g1, g2⟩ := collectTypes_complete r ds' cs h2
        refine ⟨?_, ?_⟩
        · intro key ta' xs' hm
          rcases List.mem_cons.mp hm with heq | hm
          · cases heq
            exact ⟨_, List.mem_cons_self .., rfl⟩
          · obtain ⟨D, hD, e⟩ := g1 key ta' xs' hm
            exact ⟨D, by simp [hD], e⟩
        · intro key ta' xs' hm
          rcases List.mem_cons.mp hm with heq | hm
          · cases heq
          · exact g2 key ta' xs' hm
  | (name, (.codata, ta, xs)) :: r => fun ds cs h => by
    simp only [collectTypes] at h
    split at h
    · cases h
    · rename_i dtors h1
      split at h
      · cases h
      · rename_i ds' cs' h2
        cases h
        obtain ⟨g1, g2⟩ := collectTypes_complete r ds cs' h2
        refine ⟨?_, ?_⟩
        · intro key ta' xs' hm
          rcases List.mem_cons.mp hm with heq | hm
          · cases heq
          · exact g1 key ta' xs' hm
        · intro key ta' xs' hm
          rcases List.mem_cons.mp hm with heq | hm
          · cases heq
            exact ⟨_, List.mem_cons_self .., rfl⟩
          · obtain ⟨D, hD, e⟩ := g2 key ta' xs' hm
            exact ⟨D, by simp [hD], e⟩

theorem find?_some_of_exists {α : Type} {l : List α} {q : α → Bool} (h : ∃ a ∈ l, q a = true) :
    ∃ a, l.find? q = some a ∧ a ∈ l ∧ q a = true := by
  cases hf : l.find? q with
  | none =>
    obtain ⟨a, ha, hq⟩ := h
    rw [List.find?_eq_none] at hf
    exact absurd hq (by simpa using hf a ha)
  | some a => exact ⟨a, rfl, List.mem_of_find?_eq_some hf, List.find?_some hf⟩

/-- the checked program presents the final symbol table -/
theorem view_final {p : Program} (ok : DeclsOk p) (hp : programNamesOk p = true) {st1 : SymbolTable}
    (inv1 : Inv p st1) {ds : List Data} {cs : List Codata}
    (hcollect : collectTypes st1 st1.types = .ok (ds, cs)) {fs' : List Def}
    (hers : DefsErase fs' (Typing.defs p)) :
    View p st1 ⟨sortBy (·.name) ds, sortBy (·.name) cs, fs'⟩ := by
  obtain ⟨c1, c2⟩ := collectTypes_ok _ _ _ hcollect
  obtain ⟨k1, k2⟩ := collectTypes_complete _ _ _ hcollect
  refine ⟨?_, ?_, (defsErase_names hers).2⟩
  · intro d hd ta xs hm
    obtain ⟨D0, hD0, hn0⟩ := k1 _ ta xs hm
    obtain ⟨D, hf, hDm, hDn⟩ := find?_some_of_exists
      (l := sortBy (·.name) ds) (q := fun D => D.name = instName d.name ta)
      ⟨D0, (mem_sortBy _ _ _).2 hD0, by simpa using hn0⟩
    refine ⟨D, hf, ?_⟩
    have hDn' : D.name = instName d.name ta := by simpa using hDn
    obtain ⟨ta', xs', hm', _, q2⟩ := c1 D ((mem_sortBy _ _ _).1 hDm)
    obtain ⟨g1, _, _⟩ := inv1.types _ _ _ _ hm
    obtain ⟨g1', _, g3'⟩ := inv1.types _ _ _ _ hm'
    rcases g3' with ⟨_, d', hd', hk, rfl, _, hcs⟩ | ⟨hpol, _⟩
    · rw [hDn'] at hk
      obtain ⟨hname, hta⟩ := instName_inj (data_namesOk hp hd).1 (data_namesOk hp hd').1 g1 g1' hk
      have hdd : d = d' := data_unique ok hd hd' hname
      subst hdd; subst hta
      exact collectCtors_ok d.ctors D.ctors hcs q2
    · cases hpol
  · intro d hd ta xs hm
    obtain ⟨D0, hD0, hn0⟩ := k2 _ ta xs hm
    obtain ⟨D, hf, hDm, hDn⟩ := find?_some_of_exists
      (l := sortBy (·.name) cs) (q := fun D => D.name = instName d.name ta)
      ⟨D0, (mem_sortBy _ _ _).2 hD0, by simpa using hn0⟩
    refine ⟨D, hf, ?_⟩
    have hDn' : D.name = instName d.name ta := by simpa using hDn
    obtain ⟨ta', xs', hm', _, q2⟩ := c2 D ((mem_sortBy _ _ _).1 hDm)
    obtain ⟨g1, _, _⟩ := inv1.types _ _ _ _ hm
    obtain ⟨g1', _, g3'⟩ := inv1.types _ _ _ _ hm'
    rcases g3' with ⟨hpol, _⟩ | ⟨_, d', hd', hk, rfl, _, hcs⟩
    · cases hpol
    · rw [hDn'] at hk
      obtain ⟨hname, hta⟩ := instName_inj (codata_namesOk hp hd).1 (codata_namesOk hp hd').1 g1 g1' hk
      have hdd : d = d' := codata_unique ok hd hd' hname
      subst hdd; subst hta
      exact collectDtors_ok d.dtors D.dtors hcs q2

/-- **the checker's output is typed in the monomorphic, annotated sense** -/
theorem checkProgramR_progM {p : Program} {p' : CheckedProgram} (hp : programNamesOk p = true)
    (h : checkProgramR p = .ok p') : ProgM p' := by
  simp only [checkProgramR] at h
  split at h
  · cases h
  · rename_i st0 hb
    simp only [buildSymbolTable] at hb
    split at hb
    · cases hb
    · rename_i st0' hbuild
      split at hb
      · cases hb
      · rename_i hparams
        cases hb
        have b : Built st0 p.decls := by
          simpa using buildDecls_ok p.decls [] {} st0 built_empty hbuild
        simp only [checkWithTable] at h
        split at h
        · cases h
        · rename_i fs hdecls
          split at h
          · cases h
          · rename_i fs' st1 hdefs
            split at h
            · cases h
            · rename_i ds cs hcollect
              cases h
              obtain ⟨ok, rfl⟩ := declsOk_of_checks b hparams hdecls
              obtain ⟨inv1, _, doks, ers, anns⟩ := checkDefs_sound ok hp (Typing.defs p) fs' st0 st1
                (fun f hf => hf) (built_inv b) hdefs
              have v := view_final ok hp inv1 hcollect ers
              have hty := checkDefs_typedM ok hp (Typing.defs p) fs' st0 st1 (fun f hf => hf)
                (built_inv b) hdefs st1 _ inv1 (Ext.refl _) v
              obtain ⟨c1, c2⟩ := collectTypes_ok _ _ _ hcollect
              refine ⟨?_, ?_, ?_, ?_, ?_⟩
              · simp only
                rw [(defsErase_names ers).1]
                exact ok.defNamesNodup
              · intro d hd
                exact ⟨(hty d hd).1, (hty d hd).2⟩
              · intro D hD C hC hname
                simp only [mem_sortBy] at hD hC
                obtain ⟨ta, xs, hm, _, _⟩ := c1 D hD
                obtain ⟨ta', xs', hm', _, _⟩ := c2 C hC
                obtain ⟨g1, _, g3⟩ := inv1.types _ _ _ _ hm
                obtain ⟨g1', _, g3'⟩ := inv1.types _ _ _ _ hm'
                rcases g3 with ⟨_, d, hd, hk, _⟩ | ⟨hpol, _⟩
                · rcases g3' with ⟨hpol, _⟩ | ⟨_, c, hc, hk', _⟩
                  · cases hpol
                  · rw [hname, hk'] at hk
                    obtain ⟨hn, _⟩ := instName_inj (codata_namesOk hp hc).1 (data_namesOk hp hd).1
                      g1' g1 hk
                    exact data_codata_disjoint ok hd hc hn.symm
                · cases hpol
              · intro D hD
                simp only [mem_sortBy] at hD
                obtain ⟨ta, xs, hm, _, q2⟩ := c1 D hD
                obtain ⟨_, _, g3⟩ := inv1.types _ _ _ _ hm
                rcases g3 with ⟨_, d, hd, hk, rfl, _, hcs⟩ | ⟨hpol, _⟩
                · rw [collectCtors_ok d.ctors D.ctors hcs q2, List.map_map]
                  exact flatMap_nodup_inner (f := fun d : Data => d.ctors.map (·.name))
                    ok.ctorNamesNodup hd
                · cases hpol
              · intro D hD
                simp only [mem_sortBy] at hD
                obtain ⟨ta, xs, hm, _, q2⟩ := c2 D hD
                obtain ⟨_, _, g3⟩ := inv1.types _ _ _ _ hm
                rcases g3 with ⟨hpol, _⟩ | ⟨_, d, hd, hk, rfl, _, hcs⟩
                · cases hpol
                · rw [collectDtors_ok d.dtors D.dtors hcs q2, List.map_map]
                  exact flatMap_nodup_inner (f := fun d : Codata => d.dtors.map (·.name))
                    ok.dtorNamesNodup hd

theorem checkProgram_progM {p : Program} {p' : CheckedProgram} (hp : programNamesOk p = true)
    (h : checkProgram p = .ok p') : ProgM p' :=
  checkProgramR_progM hp (checkProgram_ok_iff.mp h)

end Scc.Fun2Core.Typed
