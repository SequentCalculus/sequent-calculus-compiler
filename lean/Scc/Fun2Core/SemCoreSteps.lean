/-
  Scc.Fun2Core.SemCoreSteps — the focused steps of the Core ς-machine on statements whose operands
  are variables (comparison, print, exit, call), and the splits of these statements.
-/
import Scc.Fun2Core.SemCorePure

namespace Scc.Fun2Core.Sem

variable {q : Core.Prog}

theorem step_ifc_vars {srt : Core.IfSort} {z1 z2 : Core.Ident} {t1 t2 : Core.Ty} {T E : Core.Stmt}
    {ρ : CEnv} {out : Out} {n : Nat} {a b : BitVec 64}
    (h1 : Core.Env.lookup ρ z1 = .ok (.int a)) (h2 : Core.Env.lookup ρ z2 = .ok (.int b)) (pc1 pc2) :
    Core.step q ⟨.ifc srt (.var pc1 z1 t1) (.var pc2 z2 t2) T E, ρ, out, n⟩ =
      .next ⟨if Core.compare srt a b then T else E, ρ, out, n⟩ := by
  simp [Core.step, Core.sigmaStep, Core.Stmt.split, Core.Term.isVar, lookupInt_of_lookup h1,
    lookupInt_of_lookup h2, Core.State.goto]

theorem step_ifz_var {srt : Core.IfSort} {z1 : Core.Ident} {t1 : Core.Ty} {T E : Core.Stmt}
    {ρ : CEnv} {out : Out} {n : Nat} {a : BitVec 64}
    (h1 : Core.Env.lookup ρ z1 = .ok (.int a)) (pc1) :
    Core.step q ⟨.ifz srt (.var pc1 z1 t1) T E, ρ, out, n⟩ =
      .next ⟨if Core.compare srt a 0 then T else E, ρ, out, n⟩ := by
  simp [Core.step, Core.sigmaStep, Core.Stmt.split, Core.Term.isVar, lookupInt_of_lookup h1,
    Core.State.goto]

theorem step_print_var {nl : Bool} {z1 : Core.Ident} {t1 : Core.Ty} {N : Core.Stmt}
    {ρ : CEnv} {out : Out} {n : Nat} {a : BitVec 64}
    (h1 : Core.Env.lookup ρ z1 = .ok (.int a)) (pc1) :
    Core.step q ⟨.print nl (.var pc1 z1 t1) N, ρ, out, n⟩ = .next ⟨N, ρ, out ++ [(nl, a)], n⟩ := by
  simp [Core.step, Core.sigmaStep, Core.Stmt.split, Core.Term.isVar, lookupInt_of_lookup h1]

theorem step_exit_var {z1 : Core.Ident} {t1 ty : Core.Ty}
    {ρ : CEnv} {out : Out} {n : Nat} {a : BitVec 64}
    (h1 : Core.Env.lookup ρ z1 = .ok (.int a)) (pc1) :
    Core.step q ⟨.exit (.var pc1 z1 t1) ty, ρ, out, n⟩ = .final (.done a) := by
  simp [Core.step, Core.sigmaStep, Core.Stmt.split, Core.Term.isVar, lookupInt_of_lookup h1]

theorem step_call_vars {f : Core.Ident} {as : Core.Args} {ty : Core.Ty} {ρ ρ' : CEnv} {out : Out}
    {n : Nat} {d : Core.Def} {vs : List CVal} (hall : argsAllVar as = true)
    (hd : q.defs.find? (fun d => d.name = f) = some d) (hv : Core.argVals ρ as = .ok vs)
    (hb : Core.Env.bind [] d.ctx vs = .ok ρ') :
    Core.step q ⟨.call f as ty, ρ, out, n⟩ = .next ⟨d.body, ρ', out, n⟩ := by
  simp [Core.step, Core.sigmaStep, Core.Stmt.split, args_split_allVar as hall, hd, hv, hb,
    Core.State.goto]

theorem split_ifc1 {srt : Core.IfSort} {A B : Core.Term} {T E : Core.Stmt} (hA : A.isVar = false) :
    (Core.Stmt.ifc srt A B T E).split = some (.prd, A, fun h => .ifc srt h B T E) := by
  simp [Core.Stmt.split, hA]

theorem split_ifc2 {srt : Core.IfSort} {A B : Core.Term} {T E : Core.Stmt} (hA : A.isVar = true)
    (hB : B.isVar = false) :
    (Core.Stmt.ifc srt A B T E).split = some (.prd, B, fun h => .ifc srt A h T E) := by
  simp [Core.Stmt.split, hA, hB]

theorem split_ifz {srt : Core.IfSort} {A : Core.Term} {T E : Core.Stmt} (hA : A.isVar = false) :
    (Core.Stmt.ifz srt A T E).split = some (.prd, A, fun h => .ifz srt h T E) := by
  simp [Core.Stmt.split, hA]

theorem split_print {nl : Bool} {A : Core.Term} {N : Core.Stmt} (hA : A.isVar = false) :
    (Core.Stmt.print nl A N).split = some (.prd, A, fun h => .print nl h N) := by
  simp [Core.Stmt.split, hA]

theorem split_exit {A : Core.Term} {ty : Core.Ty} (hA : A.isVar = false) :
    (Core.Stmt.exit A ty).split = some (.prd, A, fun h => .exit h ty) := by
  simp [Core.Stmt.split, hA]

end Scc.Fun2Core.Sem
