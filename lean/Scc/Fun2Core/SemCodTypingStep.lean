/-
  Scc.Fun2Core.SemCodTypingStep — PRESERVATION for the monomorphic state typing `STM`
  (Scc/Fun2Core/SemCodTyping.lean) of the Fun CEK machine on a checked program (`ProgM`): one step
  (`stepM_preserves`), finite runs (`FStepsM_preserves`), the initial state (`initStateM_typed`), and
  the values of pure terms / argument lists (`pureValM_typed`, `pureArgsM_typed`).
  Parallel to Scc/Fun/SafetyStep.lean, SafetyRun.lean, SafetyPure.lean (the polymorphic judgement `ST`);
  here declarations are looked up by `find?` (no substitution) and only preservation is proved.
-/
import Scc.Fun2Core.SemCodTypingLemmas

namespace Scc.Fun2Core.Sem
open Scc.Fun2Core.Typed
open Scc.Fun.Typing (lookupCtx bindNames clauseXtors)
open Scc.Fun.Safety (bindNames_self)

/-- the outcome of a step from a well-typed state, as far as preservation is concerned -/
def NextM (P : Fun.CheckedProgram) : Fun.StepResult → Prop
  | .next s' _ => STM P s'
  | _ => True

theorem NextM.next {P : Fun.CheckedProgram} {s' : Fun.State} {o : Option (Bool × Fun.Word)}
    (h : STM P s') : NextM P (.next s' o) := h

theorem evalStepM {P : Fun.CheckedProgram} {ρ : Fun.Env} {k : Fun.Stack} {Γ : Fun.Ctx} {τ : Fun.Ty}
    (he : EnvTM P ρ Γ) (hk : KTM P k τ) :
    ∀ (t : Fun.Term), TypedM P t Γ τ → NextM P (Fun.evalStep P t ρ k)
  | .var x ty chi => fun ht => by
    obtain ⟨v, hv, hvt⟩ := he.var ht
    simp only [Fun.evalStep, hv]
    exact .next (.ret τ hvt hk)
  | .lit n => fun ht => by
    simp only [TypedM] at ht
    subst ht
    exact .next (.ret .i64 .int hk)
  | .op a o b => fun ht => by
    simp only [TypedM] at ht
    obtain ⟨rfl, ha, hb⟩ := ht
    exact .next (.eval Γ .i64 he ha (.cons (.opL Γ he hb) hk))
  | .ifc s a b t e an => fun ht => by
    simp only [TypedM] at ht
    obtain ⟨_, _, ha, hb, h1, h2⟩ := ht
    exact .next (.eval Γ .i64 he ha (.cons (.ifL Γ he hb h1 h2) hk))
  | .ifz s a t e an => fun ht => by
    simp only [TypedM] at ht
    obtain ⟨_, _, ha, h1, h2⟩ := ht
    exact .next (.eval Γ .i64 he ha (.cons (.ifZ Γ he h1 h2) hk))
  | .print nl a n an => fun ht => by
    simp only [TypedM] at ht
    obtain ⟨_, _, ha, hn⟩ := ht
    exact .next (.eval Γ .i64 he ha (.cons (.print Γ he hn) hk))
  | .letIn x σ bound body an => fun ht => by
    simp only [TypedM] at ht
    obtain ⟨_, _, hb, hi⟩ := ht
    simp only [Fun.evalStep]
    by_cases hcd : Fun.isCodataTy P σ = true
    · obtain ⟨v, hv, hvt⟩ := suspend_typedM he hcd bound hb
      simp only [hcd, if_true, hv]
      exact .next (.eval _ τ (.cons ⟨x, .prd, σ⟩ he (.prd rfl hvt)) hi hk)
    · simp only [hcd, Bool.false_eq_true, if_false]
      exact .next (.eval Γ σ he hb (.cons (.letF Γ (by simpa using hcd) he hi) hk))
  | .call f as an => fun ht => by
    simp only [TypedM] at ht
    obtain ⟨_, _, d, hd, hf, hr, has⟩ := ht
    exact .next (.args Γ [] d.ctx τ (.call d hd hf.symm rfl hr.symm) .nil he has hk)
  | .ctor c as an => fun ht => by
    simp only [TypedM] at ht
    obtain ⟨_, _, d, c', hd, hc, has⟩ := ht
    exact .next (.args Γ [] c'.args τ (.ctor d c' hd hc rfl) .nil he has hk)
  | .dtor s nm ta as an => fun ht => by
    simp only [TypedM] at ht
    obtain ⟨_, _, σ, d, sg, hsc, hd, hs, hc, has⟩ := ht
    exact .next (.eval Γ σ he hsc (.cons (.dtorScrut Γ d sg hd hs hc.symm he has) hk))
  | .case s ta cs an => fun ht => by
    simp only [TypedM] at ht
    obtain ⟨_, _, σ, d, hsc, hd, hcl, _⟩ := ht
    exact .next (.eval Γ σ he hsc (.cons (.caseF Γ d hd he hcl) hk))
  | .new cs an => fun ht => .next (.ret τ (.obj Γ an he ht) hk)
  | .label a body an => fun ht => by
    simp only [TypedM] at ht
    obtain ⟨_, _, hb⟩ := ht
    exact .next (.eval _ τ (.cons ⟨a, .cns, τ⟩ he (.cns rfl hk)) hb hk)
  | .goto a u an => fun ht => by
    simp only [TypedM] at ht
    obtain ⟨_, _, b, hl, hc, ha⟩ := ht
    obtain ⟨v, hv, hb⟩ := he.lookup _ _ hl
    obtain ⟨k', rfl, hk'⟩ := hb.cns_inv hc
    simp only [Fun.evalStep, hv]
    exact .next (.eval Γ b.ty he ha hk')
  | .exit u an => fun ht => by
    simp only [TypedM] at ht
    obtain ⟨_, _, ha⟩ := ht
    exact .next (.eval Γ .i64 he ha .exit)
  | .paren u => fun ht => by
    simp only [TypedM] at ht
    exact .next (.eval Γ τ he ht hk)

theorem retFrameM {P : Fun.CheckedProgram} (hP : ProgM P) {v : Fun.Value} {f : Fun.Frame}
    {k : Fun.Stack} {σ τ : Fun.Ty} (hv : VTM P v σ) (hf : FTM P f σ τ) (hk : KTM P k τ) :
    NextM P (Fun.retFrame v f k) := by
  cases hf with
  | opL Γ he hs =>
    obtain ⟨n, rfl⟩ := hv.int_inv
    exact .next (.eval Γ .i64 he hs (.cons .opR hk))
  | opR =>
    obtain ⟨n, rfl⟩ := hv.int_inv
    rename_i o a
    simp only [Fun.retFrame]
    cases har : Fun.arith o a n with
    | ok r => exact .next (.ret .i64 .int hk)
    | error w => trivial
  | ifL Γ he hs h1 h2 =>
    obtain ⟨n, rfl⟩ := hv.int_inv
    exact .next (.eval Γ .i64 he hs (.cons (.ifR Γ he h1 h2) hk))
  | ifR Γ he h1 h2 =>
    obtain ⟨n, rfl⟩ := hv.int_inv
    simp only [Fun.retFrame]
    split
    · exact .next (.eval Γ τ he h1 hk)
    · exact .next (.eval Γ τ he h2 hk)
  | ifZ Γ he h1 h2 =>
    obtain ⟨n, rfl⟩ := hv.int_inv
    simp only [Fun.retFrame]
    split
    · exact .next (.eval Γ τ he h1 hk)
    · exact .next (.eval Γ τ he h2 hk)
  | print Γ he hn =>
    obtain ⟨n, rfl⟩ := hv.int_inv
    exact .next (.eval Γ τ he hn hk)
  | letF Γ _ he hb =>
    exact .next (.eval _ τ (.cons ⟨_, .prd, σ⟩ he (.prd rfl hv)) hb hk)
  | arg Γ bsDone b bsTodo hh hdone hc hty _ he has =>
    exact .next (.args Γ (bsDone ++ [b]) bsTodo τ (by simpa using hh)
      (hdone.snoc (.prd hc (hty ▸ hv)) _ _) he has hk)
  | caseF Γ d hd he hcl =>
    obtain ⟨K, vs, c, rfl, hc, hvs⟩ := hv.data_inv hP hd
    simp only [Fun.retFrame]
    cases hfc : Fun.findClause K _ with
    | none => trivial
    | some cl =>
      obtain ⟨_, _, hb, hbind⟩ := clauseM_select he hcl hc hfc
      obtain ⟨ρ', h1, h2⟩ := hbind vs hvs
      simp only [h1]
      exact .next (.eval _ τ h2 hb hk)
  | dtorScrut Γ d sg hd hs hτ he has =>
    exact .next (.args Γ [] sg.args τ (.dtor d sg hd hs hv rfl hτ) .nil he has hk)
  | dtorApply d sg hd hs hτ hvs =>
    rcases hv.codata_inv hP hd with ⟨cs, ρ, Γ, an, rfl, he, hnew⟩ | ⟨t, ρ, Γ, rfl, he, ht⟩
    · simp only [Fun.retFrame]
      cases hfc : Fun.findClause _ cs with
      | none => trivial
      | some cl =>
        obtain ⟨Γ', _, _, _, _, _, hb, hbind⟩ := hv.obj_clause hd hs hfc
        obtain ⟨ρ', h1, h2⟩ := hbind _ hvs
        simp only [h1]
        exact .next (.eval _ τ h2 (hτ ▸ hb) hk)
    · exact .next (.eval Γ _ he ht (.cons (.dtorApply d sg hd hs hτ hvs) hk))

theorem applyHeadM {P : Fun.CheckedProgram} (hP : ProgM P) {h : Fun.ArgHead}
    {done : List Fun.Value} {k : Fun.Stack} {bs : Fun.Ctx} {τ : Fun.Ty} (hh : HTM P h bs τ)
    (hdone : VTsM P done bs) (hk : KTM P k τ) : NextM P (Fun.applyHead P h done k) := by
  cases hh with
  | call d hd hf hbs hτ =>
    subst hf; subst hbs; subst hτ
    obtain ⟨ρ', h1, h2⟩ := bindAll_typedM (d.ctx.map (·.var)) done d.ctx [] [] hdone (by simp) .nil
    rw [bindNames_self] at h2
    simp only [Fun.applyHead, findDef_of_mem hP hd, h1]
    exact .next (.eval _ d.retTy h2 (hP.defs d hd).body hk)
  | ctor d c hd hc hbs =>
    subst hbs
    exact .next (.ret τ (.con d c hd hc hdone) hk)
  | dtor d sg hd hs hv hbs hτ =>
    subst hbs
    exact .next (.ret _ hv (.cons (.dtorApply d sg hd hs hτ hdone) hk))

theorem argsStepM {P : Fun.CheckedProgram} (hP : ProgM P) {h : Fun.ArgHead}
    {done : List Fun.Value} {ρ : Fun.Env} {k : Fun.Stack} {Γ bsDone : Fun.Ctx} {τ : Fun.Ty}
    (hdone : VTsM P done bsDone) (he : EnvTM P ρ Γ) (hk : KTM P k τ) :
    ∀ (todo : Fun.Terms) (bsTodo : Fun.Ctx), HTM P h (bsDone ++ bsTodo) τ →
    ArgsM P todo Γ bsTodo → NextM P (Fun.argsStep P h done todo ρ k)
  | .nil => fun bsTodo hh has => by
    simp only [ArgsM] at has
    subst has
    simp only [Fun.argsStep]
    exact applyHeadM hP (by simpa using hh) hdone hk
  | .cons t r => fun bsTodo hh has => by
    simp only [ArgsM] at has
    obtain ⟨b, bs, rfl, hr, hb⟩ := has
    rcases hb with ⟨hc, ht⟩ | ⟨hc, x, b', rfl, hl, hc', hty⟩
    · rw [argsStep_cons, isCov_of_typed ht, getTypeM_of_typed P t Γ b.ty ht]
      simp only
      by_cases hcd : Fun.isCodataTy P b.ty = true
      · obtain ⟨v, hv, hvt⟩ := suspend_typedM he hcd t ht
        simp only [hcd, if_true, hv]
        exact .next (.args Γ (bsDone ++ [b]) bs τ (by simpa using hh)
          (hdone.snoc (.prd hc hvt) _ _) he hr hk)
      · simp only [hcd, Bool.false_eq_true, if_false]
        exact .next (.eval Γ b.ty he ht
          (.cons (.arg Γ bsDone b bs hh hdone hc rfl (by simpa using hcd) he hr) hk))
    · obtain ⟨v, hv, hb⟩ := he.lookup _ _ hl
      obtain ⟨c, rfl, hkc⟩ := hb.cns_inv hc'
      simp only [Fun.argsStep, hv]
      exact .next (.args Γ (bsDone ++ [b]) bs τ (by simpa using hh)
        (hdone.snoc (.cns hc (hty ▸ hkc)) _ _) he hr hk)

theorem stepM_next {P : Fun.CheckedProgram} (hP : ProgM P) {s : Fun.State} (hs : STM P s) :
    NextM P (Fun.step P s) := by
  cases hs with
  | eval Γ τ he ht hk => exact evalStepM he hk _ ht
  | args Γ bsDone bsTodo τ hh hdone he has hk => exact argsStepM hP hdone he hk _ _ hh has
  | @ret v k τ hv hk =>
    cases hk with
    | nil =>
      obtain ⟨n, rfl⟩ := hv.int_inv
      trivial
    | exit =>
      obtain ⟨n, rfl⟩ := hv.int_inv
      trivial
    | cons hf hk' => exact retFrameM hP hv hf hk'

theorem stepM_preserves {P : Fun.CheckedProgram} (hP : ProgM P) {s s' : Fun.State}
    {o : Option (Bool × Fun.Word)} (hs : STM P s) (h : Fun.step P s = .next s' o) : STM P s' := by
  have := stepM_next hP hs
  rw [h] at this
  exact this

theorem FStepsM_preserves {P : Fun.CheckedProgram} (hP : ProgM P) {s s' : Fun.State} {o : Out}
    {j : Nat} (h : FSteps P s s' o j) (hs : STM P s) : STM P s' := by
  induction h with
  | refl s => exact hs
  | silent h1 _ ih => exact ih (stepM_preserves hP hs h1)
  | emit h1 _ ih => exact ih (stepM_preserves hP hs h1)

theorem vtsM_ints {P : Fun.CheckedProgram} : ∀ (args : List Fun.Word) (bs : Fun.Ctx),
    (∀ b ∈ bs, b.chi = .prd ∧ b.ty = .i64) → args.length = bs.length →
    VTsM P (args.map .int) bs
  | [], [], _, _ => .nil
  | [], _ :: _, _, h => by simp at h
  | _ :: _, [], _, h => by simp at h
  | a :: as, b :: bs, hb, h => by
    obtain ⟨h1, h2⟩ := hb b (by simp)
    refine .cons (.prd h1 (h2 ▸ .int)) (vtsM_ints as bs (fun x hx => hb x (by simp [hx])) ?_)
    simpa using h

/-- the initial state is well-typed: `main` takes integer producers and returns an integer, one
argument per parameter -/
theorem initStateM_typed {P : Fun.CheckedProgram} (hP : ProgM P) {dm : Fun.Def}
    (hfind : Fun.findDef P "main" = some dm) (hsig : ∀ b ∈ dm.ctx, b.chi = .prd ∧ b.ty = .i64)
    (hret : dm.retTy = .i64) (args : List Fun.Word) (hlen : args.length = dm.ctx.length) :
    ∃ s, Fun.initState P args = .ok s ∧ STM P s := by
  obtain ⟨hmem, _⟩ := findDef_mem hfind
  obtain ⟨ρ, h1, h2⟩ := bindAll_typedM (P := P) (dm.ctx.map (·.var)) (args.map .int) dm.ctx [] []
    (vtsM_ints args dm.ctx hsig hlen) (by simp) .nil
  rw [bindNames_self] at h2
  refine ⟨.eval dm.body ρ [], by simp [Fun.initState, hfind, h1], ?_⟩
  refine .eval dm.ctx dm.retTy h2 (hP.defs dm hmem).body ?_
  rw [hret]
  exact .nil

mutual
  /-- a pure, typed term has a value of its type -/
  theorem pureValM_typed {P : Fun.CheckedProgram} (hP : ProgM P) {ρ : Fun.Env} {Γ : Fun.Ctx}
      (he : EnvTM P ρ Γ) : ∀ (t : Fun.Term) (τ : Fun.Ty), Fun.pureTerm t = true →
      TypedM P t Γ τ → ∃ v, pureVal P t ρ = some v ∧ VTM P v τ
    | .var x ty chi => fun τ _ ht => by
      obtain ⟨v, hv, hvt⟩ := he.var ht
      exact ⟨v, by simpa [pureVal] using hv, hvt⟩
    | .lit n => fun τ _ ht => by
      simp only [TypedM] at ht
      subst ht
      exact ⟨_, rfl, .int⟩
    | .op a o b => fun τ hp ht => by
      simp only [Fun.pureTerm, Bool.and_eq_true] at hp
      simp only [TypedM] at ht
      obtain ⟨rfl, ha, hb⟩ := ht
      obtain ⟨va, h1, hva⟩ := pureValM_typed hP he a .i64 hp.1.2 ha
      obtain ⟨vb, h2, hvb⟩ := pureValM_typed hP he b .i64 hp.2 hb
      obtain ⟨x, rfl⟩ := hva.int_inv
      obtain ⟨y, rfl⟩ := hvb.int_inv
      obtain ⟨r, hr⟩ := arith_ok_of_pure hp.1.1.1 hp.1.1.2 x y
      exact ⟨.int r, by simp [pureVal, h1, h2, hr, exceptToOption, Except.map], .int⟩
    | .ctor c as an => fun τ hp ht => by
      simp only [Fun.pureTerm] at hp
      simp only [TypedM] at ht
      obtain ⟨_, _, d, c', hd, hc, has⟩ := ht
      obtain ⟨vs, h1, hvs⟩ := pureArgsM_typed hP he as _ hp has
      exact ⟨.con c vs, by simp [pureVal, h1], .con d c' hd hc hvs⟩
    | .new cs an => fun τ _ ht => ⟨_, rfl, .obj Γ an he ht⟩
    | .paren t => fun τ hp ht => by
      simp only [Fun.pureTerm] at hp
      simp only [TypedM] at ht
      obtain ⟨v, h1, hv⟩ := pureValM_typed hP he t τ hp ht
      exact ⟨v, by simpa [pureVal] using h1, hv⟩
    | .ifc .. => fun _ hp _ => by simp [Fun.pureTerm] at hp
    | .ifz .. => fun _ hp _ => by simp [Fun.pureTerm] at hp
    | .print .. => fun _ hp _ => by simp [Fun.pureTerm] at hp
    | .letIn .. => fun _ hp _ => by simp [Fun.pureTerm] at hp
    | .call .. => fun _ hp _ => by simp [Fun.pureTerm] at hp
    | .dtor .. => fun _ hp _ => by simp [Fun.pureTerm] at hp
    | .case .. => fun _ hp _ => by simp [Fun.pureTerm] at hp
    | .label .. => fun _ hp _ => by simp [Fun.pureTerm] at hp
    | .goto .. => fun _ hp _ => by simp [Fun.pureTerm] at hp
    | .exit .. => fun _ hp _ => by simp [Fun.pureTerm] at hp
  /-- a pure, typed argument list has values for the parameters -/
  theorem pureArgsM_typed {P : Fun.CheckedProgram} (hP : ProgM P) {ρ : Fun.Env} {Γ : Fun.Ctx}
      (he : EnvTM P ρ Γ) : ∀ (ts : Fun.Terms) (bs : Fun.Ctx), Fun.pureTerms ts = true →
      ArgsM P ts Γ bs → ∃ vs, pureArgs P ts ρ = some vs ∧ VTsM P vs bs
    | .nil => fun bs _ has => by
      simp only [ArgsM] at has
      subst has
      exact ⟨[], rfl, .nil⟩
    | .cons t r => fun bs hp has => by
      simp only [Fun.pureTerms, Bool.and_eq_true] at hp
      rw [pureArgs_cons]
      simp only [ArgsM] at has
      obtain ⟨b, bs', rfl, hr, hb⟩ := has
      obtain ⟨vr, h2, hvr⟩ := pureArgsM_typed hP he r bs' hp.2 hr
      rcases hb with ⟨hc, ht⟩ | ⟨hc, x, b', rfl, hl, hc', hty⟩
      · have hav : ∃ v, argVal P t ρ = some v ∧ VTM P v b.ty := by
          simp only [argVal, argValWith, isCov_of_typed ht, getTypeM_of_typed P t Γ b.ty ht]
          by_cases hcd : Fun.isCodataTy P b.ty = true
          · obtain ⟨v, hv, hvt⟩ := suspend_typedM he hcd t ht
            exact ⟨v, by simp [hcd, hv, exceptToOption], hvt⟩
          · obtain ⟨v, hv, hvt⟩ := pureValM_typed hP he t b.ty hp.1 ht
            exact ⟨v, by simp [hcd, hv], hvt⟩
        obtain ⟨v, h1, hv⟩ := hav
        exact ⟨v :: vr, by simp [h1, h2], .cons (.prd hc hv) hvr⟩
      · obtain ⟨v, hv, hb⟩ := he.lookup _ _ hl
        obtain ⟨c, rfl, hkc⟩ := hb.cns_inv hc'
        exact ⟨.cont c :: vr, by simp [argVal, argValWith, isCov, hv, h2],
          .cons (.cns hc (hty ▸ hkc)) hvr⟩
end

/-- the machine evaluates a pure, typed term to a value of its type, silently, in ≥ 1 steps -/
theorem pure_evalM {P : Fun.CheckedProgram} (hP : ProgM P) {ρ : Fun.Env} {Γ : Fun.Ctx}
    (he : EnvTM P ρ Γ) {t : Fun.Term} {τ : Fun.Ty} (hp : Fun.pureTerm t = true)
    (ht : TypedM P t Γ τ) (k : Fun.Stack) :
    ∃ v j, 1 ≤ j ∧ FSteps P (.eval t ρ k) (.ret v k) [] j ∧ VTM P v τ := by
  obtain ⟨v, h1, hv⟩ := pureValM_typed hP he t τ hp ht
  obtain ⟨j, hj, fj⟩ := fun_pure P t ρ v k hp h1
  exact ⟨v, j, hj, fj, hv⟩

/-- the machine evaluates a pure, typed argument list to values for the parameters -/
theorem pure_argsM {P : Fun.CheckedProgram} (hP : ProgM P) {ρ : Fun.Env} {Γ : Fun.Ctx}
    (he : EnvTM P ρ Γ) {ts : Fun.Terms} {bs : Fun.Ctx} (hp : Fun.pureTerms ts = true)
    (has : ArgsM P ts Γ bs) (h : Fun.ArgHead) (done : List Fun.Value) (k : Fun.Stack) :
    ∃ vs j, FSteps P (.args h done ts ρ k) (.args h (done ++ vs) .nil ρ k) [] j ∧
      VTsM P vs bs := by
  obtain ⟨vs, h1, hvs⟩ := pureArgsM_typed hP he ts bs hp has
  obtain ⟨j, fj⟩ := fun_pureArgs P ts ρ vs h done k hp h1
  exact ⟨vs, j, fj, hvs⟩

end Scc.Fun2Core.Sem
