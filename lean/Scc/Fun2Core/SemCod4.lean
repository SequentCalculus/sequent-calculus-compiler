/-
  Scc.Fun2Core.SemCod4 — `ret_cd`: the Fun machine returns a codata value to a stack whose top frame
  is a destructor frame; the Core machine is about to send the related destructor value to the
  related producer value (`State.invoke`).  Both enter the body of the clause of the closure (the
  Fun machine first evaluates the pure arguments of a `dtorScrut` frame: the Core machine has done
  that before).  The kind of the continuation of the destructor (codata or not) agrees with the type
  of the clause body by the monomorphic typing of the machine state (`STM`, `KTM.kind`).
-/
import Scc.Fun2Core.SemCod3

namespace Scc.Fun2Core.Sem

variable {q : Core.Prog} {p : Fun.CheckedProgram}

theorem step_dtorApply_obj (p : Fun.CheckedProgram) (d : String) (vs : List Fun.Value)
    (cs : Fun.Clauses) (envc : Fun.Env) (k : Fun.Stack) :
    Fun.step p (.ret (.obj cs envc) (.dtorApply d vs :: k)) =
      (match Fun.findClause d cs with
        | none => .stuck (.noClause d)
        | some cl =>
          match Fun.bindAll cl.names vs envc with
          | none => .stuck (.arity d)
          | some env' => .next (.eval cl.body env' k) none) := rfl

/-- a consumer variable bound to a consumer value of the kind of its type -/
theorem crel_var {n : Nat} {k : Fun.Stack} {cv : CVal} {ρ : CEnv} {a : Core.Ident}
    {ty : Core.Ty} (hk : KAny (GP p) p q n k cv) (hl : Core.Env.lookup ρ a = .ok cv)
    (hkind : Core.isCodata q.codataTypes ty = kkind k) :
    CRel (GP p) p q n k (.var .cns a ty) ρ := by
  have hb : BoundOn (tfvTerm (.var .cns a ty) []) ρ := fun b hb => by
    rw [mem_tfv_var] at hb; subst hb; exact ⟨_, hl⟩
  cases hk with
  | nc hk =>
    exact .mk (by simpa [Core.cnsVal] using hl) hk trivial hb
      (by simp only [coreGetType]; rw [hkind, hk.kk])
  | cd hk =>
    exact .mkD (by simpa [Core.cnsVal] using hl) hk trivial hb
      (by simp only [coreGetType]; rw [hkind, hk.kk])

/-- the cut `⟨μa.s | c⟩` binds the covariable `a` to a consumer value related to the stack: at a
type that is not codata to the value of `c` (one step), at a codata type the `μ` is suspended, the
consumer is forced, and the thunk is entered with `a` bound to the destructor value -/
theorem bind_cont (X : Ctx p q) {n : Nat} {k : Fun.Stack} {c : Core.Term} {ρ0 ρ : CEnv}
    (hr : CRel (GP p) p q n k c ρ0) (hag : AgreeOn (tfvTerm c []) ρ0 ρ) {cty : Core.Ty}
    (hkind : Core.isCodata q.codataTypes cty = kkind k) (a : Core.Ident) (ty : Core.Ty)
    (s1 : Core.Stmt) (out : Out) :
    ∃ i n' ρ' cv, CSteps q ⟨.cut cty (.mu .prd a ty s1) c, ρ, out, n⟩ ⟨s1, (a, cv) :: ρ', out, n'⟩ i ∧
      1 ≤ i ∧ n ≤ n' ∧ SigExt n ρ ρ' ∧ KAny (GP p) p q n' k cv := by
  cases hkk : kkind k with
  | false =>
    rw [hkk] at hkind
    have hck : Core.isCodata q.codataTypes (coreGetType c) = false := by rw [← hr.kk]; exact hkk
    have hrρ := hr.agree hag
    cases hrρ with
    | @mk _ _ _ cv hcv hk hi hb' _ =>
      have hs := step_cut_mu (q := q) (cty := cty) (ty := ty) hkind
        (a := a) (s := s1) (ρ := ρ) (out := out) (n := n) hi hcv .prd
      exact ⟨1, n, ρ, cv, .one hs, Nat.le_refl _, Nat.le_refl _, .refl _ _, .nc hk⟩
    | mkD _ _ _ _ hty' => rw [hty'] at hck; cases hck
    | dtor _ _ _ _ _ _ _ _ _ _ _ hty' => simp only [coreGetType] at hck; rw [hty'] at hck; cases hck
  | true =>
    rw [hkk] at hkind
    have hck : Core.isCodata q.codataTypes (coreGetType c) = true := by rw [← hr.kk]; exact hkk
    obtain ⟨i, S1, ρ1, pv, d, Vs, hcs, ho, hm1, hext, hpv, hs, hk⟩ :=
      force_cr X hr hck (cty := cty) (P := .mu .prd a ty s1) (ρ := ρ) (out := out) (m := n)
        hkind trivial (Nat.le_refl n) hag (prdOK_mu _ _ _ _ _ _)
    simp only [Core.prdVal, Except.ok.injEq] at hpv
    subst hpv
    rw [invoke_thunk] at hs
    have hlast : CSteps q S1 ⟨s1, (a, .dtor ⟨d, 0⟩ Vs) :: ρ1, out, S1.fresh⟩ 1 := by
      refine .one ?_
      rw [hs, ho]
    exact ⟨i + 1, S1.fresh, ρ1, _, hcs.trans hlast, by omega, hm1, hext, .cd hk⟩

/-- the closure meets `□.d(vs)` -/
theorem ret_cd_apply (X : Ctx p q) {n : Nat} {k' : Fun.Stack} {d : String} {vs : List Fun.Value}
    {Vs : List CVal} {cv : CVal} (hvl : VRelL (GP p) p q n vs Vs) (hka : KAny (GP p) p q n k' cv)
    {v : Fun.Value} {pv : CVal} {S : Core.State}
    (hv : VRel (GP p) p q n v pv) (hn : n ≤ S.fresh)
    (hs : Core.step q S = S.invoke pv ⟨d, 0⟩ (Vs ++ [cv]))
    (hT : STM p (.ret v (.dtorApply d vs :: k'))) :
    Chunk p q (R p q) true true μ (.ret v (.dtorApply d vs :: k')) S := by
  cases hv with
  | int a => exact Chunk.stuck (w := .notCodata) rfl id
  | con _ => exact Chunk.stuck (w := .notCodata) rfl id
  | cont _ => exact Chunk.stuck (w := .notCodata) rfl id
  | @obj cs envc ρ0c ρc cs'c hgood hcc hec hbdc hagc' =>
    have hstep := step_dtorApply_obj p d vs cs envc k'
    cases hf : Fun.findClause d cs with
    | none =>
      rw [hf] at hstep
      exact Chunk.stuck (w := .noClause d) hstep id
    | some cl =>
      rw [hf] at hstep
      simp only at hstep
      cases hbA : Fun.bindAll cl.names vs envc with
      | none =>
        rw [hbA] at hstep
        exact Chunk.stuck (w := .arity d) hstep id
      | some env' =>
        rw [hbA] at hstep
        obtain ⟨hgb, hnd, hnames⟩ := hgood d cl hf
        obtain ⟨stc, stc', hcomp, hstokc, hcnc⟩ := hcc
        obtain ⟨b', sa, sb, τb, hgtb, hfind, hcb, hfs1, hfs2, htfv⟩ :=
          coclauses_find fs_stepRel d cs stc cs'c stc' cl hcomp hf
        obtain ⟨hm1, hm2, hm3, hm4⟩ := findClause_mem cs d cl hf
        -- typing: the body of the clause has the type the rest of the stack expects
        have hkind : Fun.isCodataTy p τb = kkind k' := by
          cases hT with
          | ret σ hvt hkt =>
            cases hkt with
            | cons hft hkt' =>
              cases hft with
              | dtorApply D sg hD hsg hτ hvs =>
                obtain ⟨Γ, _, _, _, _, _, hbody, _⟩ := hvt.obj_clause hD hsg hf
                have h1 := getTypeM_of_typed p _ _ _ hbody
                rw [hgtb] at h1
                cases h1
                subst hτ
                exact KTM.kind X.progM hkt'
        have ha_fresh := freshCovar_not_mem sa
        have ha_sig := freshCovar_ne_sig sa
        have hsub1 : ∀ x ∈ stc.usedVars, x ∈ sa.usedVars := hfs1.sub
        -- binders and the covariable
        have hctxvar : ∀ bb ∈ compileContext cl.ctx, ∃ x ∈ cl.names, bb.var = ⟨x, 0⟩ := by
          intro bb hbb
          simp only [compileContext, List.mem_map] at hbb
          obtain ⟨fb, hfb, rfl⟩ := hbb
          exact ⟨fb.var, by rw [← hnames]; exact List.mem_map.2 ⟨fb, hfb, rfl⟩, rfl⟩
        have hanot : ∀ bb ∈ compileContext cl.ctx,
            bb.var ≠ (⟨(freshCovar sa).1, 0⟩ : Core.Ident) := by
          intro bb hbb e
          obtain ⟨x, hx, e'⟩ := hctxvar bb hbb
          rw [e'] at e
          have : x = (freshCovar sa).1 := by
            have := congrArg Core.Ident.name e
            simpa using this
          exact ha_fresh (this ▸ hsub1 x (hcnc.bd x (hm3 x hx)))
        -- bind on the ideal environment of the closure
        have hbA' : Fun.bindAll (cl.ctx.map (·.var)) vs envc = some env' := by
          rw [hnames]; exact hbA
        have hec' : EnvRel (GP p) p q S.fresh
            ((fv cl.body).filter (fun x => !(cl.ctx.map (·.var)).contains x)) envc
            ((⟨(freshCovar sa).1, 0⟩, cv) :: ρ0c) := by
          refine ((hec.mono hn).sub fun x hx =>
            hm1 x (by rw [← hnames]; exact hx)).agree fun y hy => lookup_cons_ne ?_ _ _
          intro e
          have : (freshCovar sa).1 = y := by cases e; rfl
          exact ha_fresh (this ▸ hsub1 y (hcnc.fv y (hm1 y (by rw [← hnames]; exact hy))))
        obtain ⟨ρ0n, hbind0, he'⟩ := EnvRel.bindAll (G := GP p) (q := q) (xs := fv cl.body)
          hec' (hvl.mono hn) (by rw [hnames]; exact hnd) hbA'
        have hlen : (compileContext cl.ctx).length = Vs.length := bind_length _ _ _ _ hbind0
        obtain ⟨ρn, hbind1⟩ := bind_ok_of_length (compileContext cl.ctx) Vs
          ((⟨(freshCovar sa).1, 0⟩, cv) :: ρc) hlen
        have hbind1' : Core.Env.bind ρc (compileContext cl.ctx ++
            [⟨⟨(freshCovar sa).1, 0⟩, .cns, compileTy τb⟩]) (Vs ++ [cv]) = .ok ρn := by
          rw [bind_snoc _ _ _ _ _ hlen]; exact hbind1
        have hcore : Core.step q S = .next { S with stmt := b', env := ρn } := by
          rw [hs]
          simp only [Core.State.invoke, Core.State.select, hfind, hbind1', Core.State.goto]
        have hla : Core.Env.lookup ρ0n ⟨(freshCovar sa).1, 0⟩ = .ok cv := by
          rw [bind_lookup_not_mem hbind0 hanot]
          exact lookup_cons_self _ _ _
        refine Chunk.step (e := none) hstep (by intro h; cases h) (.one hcore)
          (fun _ => .inl (Nat.le_refl 1)) (by simp) ?_
        refine SRel.eval (c := .var .cns ⟨(freshCovar sa).1, 0⟩ (compileTy τb)) (ρ0 := ρ0n)
          hgb ?_ he' ?_ ?_ ?_
        · refine ⟨(freshCovar sa).2, sb, hcb, hstokc.of_fresh hfs2.1, ?_, ?_⟩
          · refine ⟨fun x hx => ?_, fun x hx => ?_, ?_⟩
            · rw [freshCovar_used]
              refine List.mem_cons_of_mem _ (hsub1 x ?_)
              by_cases hxn : x ∈ cl.names
              · exact hcnc.bd x (hm3 x hxn)
              · exact hcnc.fv x (hm1 x (List.mem_filter.2 ⟨hx, by simpa using hxn⟩))
            · rw [freshCovar_used]
              exact List.mem_cons_of_mem _ (hsub1 x (hcnc.bd x (hm2 x hx)))
            · rw [freshCovar_used]
              simp only [List.mem_cons, not_or]
              exact ⟨fun e => ha_sig e.symm, hfs1.2 hcnc.nosig⟩
          · intro b hb
            simp only [occTerm, List.mem_singleton] at hb
            subst hb
            exact .inr ⟨ha_sig, by rw [freshCovar_used]; exact List.mem_cons_self⟩
        · exact crel_var (hka.mono hn) hla (by rw [X.cod τb]; exact hkind)
        · refine bind_bound hbind0 fun y hy hne => ?_
          by_cases hya : y.var = ⟨(freshCovar sa).1, 0⟩
          · exact ⟨cv, by rw [hya]; exact lookup_cons_self _ _ _⟩
          · rw [lookup_cons_ne (fun e => hya e.symm)]
            refine hbdc y (htfv y hy fun bb hbb e => ?_)
            rcases List.mem_append.1 hbb with h | h
            · exact hne bb h (by rw [e])
            · simp only [List.mem_singleton] at h
              subst h
              exact hya (by rw [← e])
        · refine bind_agree hbind0 hbind1 fun y hy hne => ?_
          by_cases hya : y.var = ⟨(freshCovar sa).1, 0⟩
          · rw [hya, lookup_cons_self, lookup_cons_self]
          · rw [lookup_cons_ne (fun e => hya e.symm), lookup_cons_ne (fun e => hya e.symm)]
            refine hagc' y (htfv y hy fun bb hbb e => ?_)
            rcases List.mem_append.1 hbb with h | h
            · exact hne bb h (by rw [e])
            · simp only [List.mem_singleton] at h
              subst h
              exact hya (by rw [← e])

/-- **returning a codata value**: the Fun machine returns `v` to a stack `k` that expects a codata
value; the next step of the Core machine sends the destructor value related to `k` to the value
related to `v` -/
theorem ret_cd (X : Ctx p q) {n : Nat} {k : Fun.Stack} {d : String} {Vs : List CVal}
    (hk : KRelD (GP p) p q n k (.dtor ⟨d, 0⟩ Vs)) {v : Fun.Value} {pv : CVal} {S : Core.State}
    (hv : VRel (GP p) p q n v pv) (hn : n ≤ S.fresh)
    (hs : Core.step q S = S.invoke pv ⟨d, 0⟩ Vs) (hT : STM p (.ret v k)) :
    Chunk p q (R p q) true true μ (.ret v k) S := by
  generalize hcv : Core.Val.dtor (S := Core.Stmt) (C := Core.Clauses) ⟨d, 0⟩ Vs = cv at hk
  cases hk with
  | dtorA hvl hka =>
    cases hcv
    exact ret_cd_apply X hvl hka hv hn hs hT
  | @dtorS d' args env vs Vs' k' cv' hpt hpa hvl hka =>
    cases hcv
    have f1 : FSteps p (.ret v (.dtorScrut d args env :: k')) (.args (.dtor v d) [] args env k') [] 1 :=
      .one rfl
    obtain ⟨j2, fj2⟩ := fun_pureArgs p args env vs (.dtor v d) [] k' hpt hpa
    have f2' : FSteps p (.args (.dtor v d) ([] ++ vs) .nil env k') (.ret v (.dtorApply d vs :: k')) [] 1 :=
      .one rfl
    have f12 := (f1.trans fj2).trans f2'
    simp only [List.append_nil, List.nil_append] at f12
    refine Chunk.prefix f12 (.refl _) rfl (fun _ => by omega) (fun h => .inr h) ?_
    exact (ret_cd_apply X hvl hka hv hn hs (FStepsM_preserves X.progM f12 hT)).weaken
  | shared _ _ _ _ _ => cases hcv
  | eta _ _ _ _ _ _ _ _ => cases hcv

end Scc.Fun2Core.Sem
