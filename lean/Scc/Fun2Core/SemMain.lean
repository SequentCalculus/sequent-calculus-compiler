/-
  Scc.Fun2Core.SemMain — the semantic part of C02 at program level.  `sem_forward`: every finished run of the
  Fun machine is matched by a run of the Core ς-machine on the translation with the same trace and result, and every
  Fun trace is a prefix of a Core trace.  `sem_backward`: the converse, for Fun runs that only get stuck on arithmetic faults.
-/
import Scc.Fun2Core.SemProg
import Scc.Fun2Core.SemBack

namespace Scc.Fun2Core.Sem

/-- on a context of producers only, the entry environment binds the arguments positionally -/
theorem entryEnv_eq_bind : ∀ (ctx : Core.Ctx) (args : List (BitVec 64)),
    (∀ b ∈ ctx, b.chi = .prd) →
    (Core.entryEnv ctx args : Except Core.Why CEnv) = Core.Env.bind [] ctx (args.map .int)
  | [], [], _ => rfl
  | [], _ :: _, _ => rfl
  | b :: bs, [], h => by
    have hb : b.chi = .prd := h b (by simp)
    simp [Core.entryEnv, hb, Core.Env.bind]
  | b :: bs, a :: as, h => by
    have hb : b.chi = .prd := h b (by simp)
    simp only [Core.entryEnv, hb, List.map_cons, Core.Env.bind]
    rw [entryEnv_eq_bind bs as (fun b' hb' => h b' (by simp [hb']))]

theorem vrelL_ints {G : Fun.Term → Prop} {q : Core.Prog} (n : Nat) : ∀ (args : List (BitVec 64)),
    VRelL G p q n (args.map .int) (args.map .int)
  | [] => .nil _
  | a :: as => .cons (.int _ a) (vrelL_ints n as)

theorem tfv_main_cont (x : Core.Ident) (τ : Core.Ty) :
    tfvTerm (.mu .cns x τ (.exit (.var .prd x τ) τ)) [] = [] := by
  simp [tfvTerm, tfvStmt, bsetInsert, bsetRemove, bsetExtend, cmpBinding_refl]

/-- where the Core machine starts: the definition it finds under the name `main` is the
translation `D` of the `main` of the source, compiled with the consumer `μ~x.exit x`, and the entry
environment binds the parameters of `D` to the arguments -/
theorem main_def_of_compileProg {p : Fun.CheckedProgram} {q : Core.Prog}
    (hc : compileProg p = .ok q) (hp : progOk p = true) (X : Ctx p q) {d : Fun.Def}
    (hf : Fun.findDef p "main" = some d) :
    ∃ D x0 τ, D ∈ q.defs ∧ q.defs.find? (fun d => d.name.name = Core.mainName) = some D ∧
      D.ctx = compileContext d.ctx ∧
      Compiled q 0 d.body (.mu .cns ⟨x0, 0⟩ τ (.exit (.var .prd ⟨x0, 0⟩ τ) τ)) D.body ∧
      (∃ τb, getType d.body = some τb ∧ τ = compileTy τb) ∧
      ∀ args : List (BitVec 64), (Core.entryEnv D.ctx args : Except Core.Why CEnv) =
        Core.Env.bind [] (compileContext d.ctx) (args.map .int) := by
  obtain ⟨hdefsok, hnd, hmainprd⟩ := progOk_facts hp
  obtain ⟨hqc, hdefs⟩ := compileProg_defs hc
  obtain ⟨hdm, hname⟩ := findDef_mem hf
  obtain ⟨ul0, r, hr, hrm⟩ := (compileDefs_mem q.codataTypes p.defs _ [] q.defs hdefs).2 d hdm
  have hnm : (d.name == "main") = true := by simp [hname]
  simp only [hnm, if_true] at hr
  obtain ⟨D, x0, τ, hD, hDn, hDc, hcomp, hτ⟩ := compileMain_facts hr (hdefsok d hdm) rfl hrm
  have hid0 := compileDefs_id0 q.codataTypes p.defs _ [] q.defs hdefs (by simp)
  refine ⟨D, x0, τ, hD, ?_, hDc, hcomp, hτ, fun args => ?_⟩
  · refine find_unique hD (by simp [hDn, hname, Core.mainName]) fun D' hD' hP => ?_
    refine (eq_of_name_eq X.nodup hD hD' ?_).symm
    have h1 : D'.name.name = "main" := by
      have := of_decide_eq_true hP
      simpa [Core.mainName] using this
    have h2 := hid0 D' hD'
    rw [hDn, hname]
    cases hn' : D'.name with
    | mk nm id => rw [hn'] at h1 h2; simp at h1 h2; rw [h1, h2]
  · rw [hDc]
    refine entryEnv_eq_bind _ _ fun b hb' => ?_
    simp only [compileContext, List.mem_map] at hb'
    obtain ⟨fb, hfb, rfl⟩ := hb'
    simp [compileChi, hmainprd d hdm hname fb hfb]

/-- the two runs start in related states (or the Fun run is stuck at once: no `main`, wrong number
of arguments) -/
theorem sem_init {p : Fun.CheckedProgram} {q : Core.Prog} (hc : compileProg p = .ok q)
    (hp : progOk p = true) (hq : coreClosed q = true) (hpm : Typed.ProgM p)
    (args : List (BitVec 64)) :
    (∀ n, (Fun.run p args n).out = [] ∧ ¬ Finished (Fun.run p args n).res ∧
      (Fun.run p args n).res ≠ .outOfFuel) ∨
    ∃ s S, (∀ n, Fun.run p args n = Fun.runFrom p n s []) ∧
      (∀ m, Core.run q args m = Core.stepN q m S) ∧ S.out = [] ∧ RT p q s S := by
  have X := ctx_of_compileProg hc hp hq hpm
  obtain ⟨hdefsok, hnd, hmainprd⟩ := progOk_facts hp
  obtain ⟨hqc, hdefs⟩ := compileProg_defs hc
  unfold Fun.run Fun.initState
  cases hf : Fun.findDef p "main" with
  | none => exact .inl fun n => ⟨rfl, fun h => h.elim, fun h => by cases h⟩
  | some d =>
    simp only
    cases hb : Fun.bindAll (d.ctx.map (·.var)) (args.map .int) [] with
    | none => exact .inl fun n => ⟨rfl, fun h => h.elim, fun h => by cases h⟩
    | some env =>
      simp only
      obtain ⟨hdm, hname⟩ := findDef_mem hf
      obtain ⟨D, x0, τ, hD, hfind, hDc, hcomp, hτ, hentry0⟩ := main_def_of_compileProg hc hp X hf
      obtain ⟨hgood, hnodup, hclosed, _, _⟩ := defOk_facts (hdefsok d hdm)
      -- the entry environment of the translated `main`, `D`
      obtain ⟨ρ, hbind, henv⟩ := EnvRel.bindAll (G := GP p) (q := q) (n := 0) (xs := fv d.body)
        (env := []) (env' := env) (ρ0 := []) (ctx := d.ctx) (vs := args.map .int) (Vs := args.map .int)
        (.of_get fun y hy => by
          obtain ⟨h1, h2⟩ := List.mem_filter.1 hy
          have h2' : y ∉ List.map (fun x => x.var) d.ctx := by simpa using h2
          exact absurd (hclosed y h1) h2')
        (vrelL_ints 0 args) hnodup hb
      have hentry : (Core.entryEnv D.ctx args : Except Core.Why CEnv) = .ok ρ :=
        (hentry0 args).trans hbind
      unfold Core.run
      simp only [hfind, hentry]
      -- the initial states are related
      have hbd : BoundOn (tfvStmt D.body []) ρ := by
        refine bind_bound hbind fun y hy hne => ?_
        obtain ⟨b', hb', e⟩ := X.closed D hD y hy
        rw [hDc] at hb'
        exact absurd e (hne b' hb')
      -- the initial state is typed
      have hT : STM p (.eval d.body env []) := by
        obtain ⟨htys, hret⟩ := progOk_mainTys hp d hdm hname
        have hsig : ∀ b ∈ d.ctx, b.chi = .prd ∧ b.ty = .i64 := fun b hb =>
          ⟨hmainprd d hdm hname b hb, htys b hb⟩
        have hlen : args.length = d.ctx.length := by
          have := bindAll_length _ _ _ _ hb
          simpa using this.symm
        obtain ⟨s0, hs0, hT0⟩ := initStateM_typed hpm hf hsig hret args hlen
        simp only [Fun.initState, hf, hb, Except.ok.injEq] at hs0
        subst hs0
        exact hT0
      have hτ' : Core.isCodata q.codataTypes τ = false := by
        obtain ⟨τb, h1, rfl⟩ := hτ
        exact X.kind_of hT h1
      have hR : R p q (.eval d.body env []) ⟨D.body, ρ, [], 0⟩ :=
        SRel.eval (ρ0 := ρ) hgood hcomp henv
          (.mk (cv := .mutilde ρ ⟨x0, 0⟩ (.exit (.var .prd ⟨x0, 0⟩ τ) τ)) rfl .main trivial
            (by rw [tfv_main_cont]; intro b hb; simp at hb) hτ')
          hbd (.refl _ _)
      exact .inr ⟨_, _, fun n => rfl, fun m => rfl, rfl, hR, hT⟩

/-- the forward half (`chunkSim_forward`) for the two runs from their initial states, with results
matched by `ResMatch` (`Fun.Result` against `Core.Res`; Props restate it on observations) -/
theorem sem_forward {p : Fun.CheckedProgram} {q : Core.Prog} (hc : compileProg p = .ok q)
    (hp : progOk p = true) (hq : coreClosed q = true) (hpm : Typed.ProgM p)
    (args : List (BitVec 64)) :
    (∀ n, Finished (Fun.run p args n).res →
      ∃ m r', Core.run q args m = ⟨(Fun.run p args n).out, r'⟩ ∧ ResMatch (Fun.run p args n).res r') ∧
    (∀ n, ∃ m, (Fun.run p args n).out <+: (Core.run q args m).out) := by
  rcases sem_init hc hp hq hpm args with h | ⟨s, S, h1, h2, h3, hR⟩
  · exact ⟨fun n hf => absurd hf (h n).2.1, fun n => ⟨0, by rw [(h n).1]; exact List.nil_prefix⟩⟩
  · have X := ctx_of_compileProg hc hp hq hpm
    have hfw := fun n => chunkSim_forward (eval_sim X) n s S [] hR (by rw [h3]; rfl)
    refine ⟨fun n => ?_, fun n => ?_⟩
    · rw [h1 n]
      intro hf
      obtain ⟨m, r', hm, hr⟩ := (hfw n).1 hf
      exact ⟨m, r', by rw [h2 m]; exact hm, hr⟩
    · rw [h1 n]
      obtain ⟨m, hm⟩ := (hfw n).2
      exact ⟨m, by rw [h2 m]; exact hm⟩

/-- the Fun run never gets stuck for a reason other than an arithmetic fault -/
def FunSafe (p : Fun.CheckedProgram) (args : List (BitVec 64)) : Prop :=
  ∀ n, (Fun.run p args n).res = .outOfFuel ∨ Finished (Fun.run p args n).res

/-- the backward half, for runs of the Fun machine that do not get stuck for a reason other than an
arithmetic fault -/
theorem sem_backward {p : Fun.CheckedProgram} {q : Core.Prog} (hc : compileProg p = .ok q)
    (hp : progOk p = true) (hq : coreClosed q = true) (hpm : Typed.ProgM p)
    (args : List (BitVec 64)) (hsafe : FunSafe p args) :
    (∀ m, (Core.run q args m).res ≠ .outOfFuel →
      ∃ n r, Fun.run p args n = ⟨(Core.run q args m).out, r⟩ ∧ ResMatch r (Core.run q args m).res) ∧
    (∀ m, ∃ n, (Core.run q args m).out <+: (Fun.run p args n).out) := by
  rcases sem_init hc hp hq hpm args with h | ⟨s, S, h1, h2, h3, hR⟩
  · rcases hsafe 0 with h0 | h0
    · exact absurd h0 (h 0).2.2
    · exact absurd h0 (h 0).2.1
  · have X := ctx_of_compileProg hc hp hq hpm
    have hs : Safe p s [] := fun n => by rw [← h1 n]; exact hsafe n
    have hbw := fun m => chunkSim_backward (eval_sim X) m _ s S [] rfl hR (by rw [h3]; rfl) hs
    refine ⟨fun m => ?_, fun m => ?_⟩
    · rw [h2 m]
      intro hf
      obtain ⟨n, r, hn, hr⟩ := (hbw m).1 hf
      exact ⟨n, r, by rw [h1 n]; exact hn, hr⟩
    · rw [h2 m]
      obtain ⟨n, hn⟩ := (hbw m).2
      exact ⟨n, by rw [h1 n]; exact hn⟩

end Scc.Fun2Core.Sem
