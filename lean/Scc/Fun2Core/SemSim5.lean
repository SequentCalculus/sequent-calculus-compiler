/-
  Scc.Fun2Core.SemSim5 — returning a value to a `μ~` continuation (`ret_mu`, by recursion on the
  derivation of the continuation relation: lifted continuations nest) and passing the value of a
  focused producer to the consumer of a cut (`pass_chunk`).
-/
import Scc.Fun2Core.SemSim4

namespace Scc.Fun2Core.Sem

variable {q : Core.Prog} {p : Fun.CheckedProgram}

theorem Chunk.prefixCore {Rr : Fun.State → Core.State → Prop} {b c : Bool} {μ : Nat} {s : Fun.State}
    {S S0 : Core.State} {i0 : Nat} (hc : CSteps q S S0 i0) (hout : S0.out = S.out)
    (h : Chunk p q Rr b c μ s S0) : Chunk p q Rr b c μ s S :=
  .prefixBoth (.refl _) hc hout .inr (fun h => .inr ⟨h, Nat.le_refl _⟩) h

/-- after at least one Core step, any chunk is a chunk in which the Core machine advances -/
theorem Chunk.prefixCorePos {Rr : Fun.State → Core.State → Prop} {b c : Bool} {μ0 μ : Nat}
    {s : Fun.State} {S S0 : Core.State} {i0 : Nat} (hc : CSteps q S S0 i0) (hpos : 1 ≤ i0)
    (hout : S0.out = S.out) (h : Chunk p q Rr b c μ0 s S0) : Chunk p q Rr b true μ s S :=
  .prefixBoth (.refl _) hc hout .inr (fun _ => .inl hpos) h

theorem argsAllVar_bindingsToArgs : ∀ (bs : List Core.Binding), argsAllVar (bindingsToArgs bs) = true
  | [] => rfl
  | b :: bs => by simp [bindingsToArgs, argsAllVar, Core.Term.isVar, argsAllVar_bindingsToArgs bs]

/-- the call of a lifted definition with its own parameter list as arguments: the new environment
binds exactly the parameters, to their current values -/
theorem shared_call_env {ρ : CEnv} : ∀ (bs : List Core.Binding), BoundOn bs ρ →
    ∃ vals ρn, Core.argVals ρ (bindingsToArgs bs) = .ok vals ∧ Core.Env.bind [] bs vals = .ok ρn ∧
      ∀ b ∈ bs, Core.Env.lookup ρn b.var = Core.Env.lookup ρ b.var
  | [] => fun _ => ⟨[], [], rfl, rfl, by simp⟩
  | b :: bs => fun h => by
    obtain ⟨V, hV⟩ := h b (by simp)
    obtain ⟨vals, ρn, h1, h2, h3⟩ := shared_call_env bs (h.mono fun _ hb => by simp [hb])
    refine ⟨V :: vals, (b.var, V) :: ρn, by simp [bindingsToArgs, Core.argVals, hV, h1],
      by simp [Core.Env.bind, h2], fun b' hb' => ?_⟩
    rw [lookup_cons]
    by_cases hx : b.var = b'.var
    · simp [hx, ← hV]
    · simp only [hx, if_false]
      rcases List.mem_cons.1 hb' with rfl | hb''
      · exact absurd rfl hx
      · exact h3 b' hb''

/-- the closure of a continuation lifted by `share`, `μ~x.d(fv…)`, given a value: the call enters
the body of `d` in an environment that agrees with the closure's, extended by the value -/
theorem shared_step (X : Ctx p q) {ρ0 ρx ρ1 : CEnv} {x0 : Core.Ident} {d : Core.Def} {ty : Core.Ty}
    (hd : d ∈ q.defs) (hc : d.ctx = tfvStmt d.body [])
    (bd : BoundOn ((tfvStmt (.call d.name (bindingsToArgs d.ctx) ty) []).filter (·.var ≠ x0)) ρ0)
    (a : AgreeOn ((tfvStmt (.call d.name (bindingsToArgs d.ctx) ty) []).filter (·.var ≠ x0)) ρ0 ρx)
    {pv : CVal}
    (ha : AgreeOn (tfvStmt (.call d.name (bindingsToArgs d.ctx) ty) []) ((x0, pv) :: ρx) ρ1)
    (out : Out) (m : Nat) :
    ∃ ρn, Core.step q ⟨.call d.name (bindingsToArgs d.ctx) ty, ρ1, out, m⟩ =
        .next ⟨d.body, ρn, out, m⟩ ∧ AgreeOn (tfvStmt d.body []) ((x0, pv) :: ρ0) ρn := by
  have hag1 := (AgreeOn.cons (V := pv) a).trans ha
  have hmem : ∀ b ∈ d.ctx, b ∈ tfvStmt (.call d.name (bindingsToArgs d.ctx) ty) [] := fun b hb =>
    mem_tfv_call.2 ((mem_tfvArgs_bindingsToArgs _ _).2 (.inr hb))
  have hb1 : BoundOn d.ctx ρ1 := by
    intro b hb
    rw [hag1 b (hmem b hb)]
    exact BoundOn.cons bd b (hmem b hb)
  obtain ⟨vals, ρn, h1, h2, h3⟩ := shared_call_env d.ctx hb1
  refine ⟨ρn, step_call_vars (argsAllVar_bindingsToArgs d.ctx) (find_of_mem_nodup hd X.nodup) h1 h2,
    fun b hb => ?_⟩
  have hb' : b ∈ d.ctx := by rw [hc]; exact hb
  rw [h3 b hb', hag1 b (hmem b hb')]

theorem KRel.shape {n : Nat} {k : Fun.Stack} {cv : CVal} (h : KRel (GP p) p q n k cv) :
    (∃ ρc y s, cv = .mutilde ρc y s) ∨ (∃ ρc cs, cv = .case ρc cs) := by
  cases h <;> first | exact .inl ⟨_, _, _, rfl⟩ | exact .inr ⟨_, _, rfl⟩

/-- passing the value of a focused producer to the consumer of the cut, given how the related
consumer value continues -/
theorem pass_core {cty : Core.Ty} (hnc : Core.isCodata q.codataTypes cty = false) {A c : Core.Term} {ρ0 ρ : CEnv}
    {out : Out} {n : Nat} {k : Fun.Stack} {v : Fun.Value} {V cv0 : CVal}
    (hA : isFocusedVal A = true) (hV : Core.prdVal ρ A = .ok V)
    (hcv : Core.cnsVal ρ0 c = .ok cv0) (hi : Inert c) (hag : AgreeOn (tfvTerm c []) ρ0 ρ)
    (hshape : (∃ ρc y s, cv0 = .mutilde ρc y s) ∨ (∃ ρc cs, cv0 = .case ρc cs))
    (IHmu : ∀ ρc y s', cv0 = .mutilde ρc y s' → ∀ ρ1, AgreeOn (tfvStmt s' []) ((y, V) :: ρc) ρ1 →
      Chunk p q (R p q) true false 0 (.ret v k) ⟨s', ρ1, out, n⟩)
    (IHcase : ∀ ρc cs', cv0 = .case ρc cs' → ∀ ρ1 (S : Core.State), S.fresh = n →
      AgreeOn (tfvClauses cs' []) ρc ρ1 → Core.step q S = S.pass V (.case ρ1 cs') →
      Chunk p q (R p q) true true μ (.ret v k) S) :
    Chunk p q (R p q) true true μ (.ret v k) ⟨.cut cty A c, ρ, out, n⟩ := by
  rcases cnsVal_agree hcv hi hag with h | ⟨y, s', rfl, h, hs'⟩ | ⟨cs, rfl, h, hs'⟩
  · have hs := step_cut_pass (q := q) (cty := cty) hnc (out := out) (n := n) hA hi hV h
    rcases hshape with ⟨ρc, y, s', rfl⟩ | ⟨ρc, cs', rfl⟩
    · simp only [Core.State.pass, Core.State.goto] at hs
      exact Chunk.prefixCorePos (.one hs) (Nat.le_refl 1) rfl (IHmu ρc y s' rfl _ (.refl _ _))
    · exact IHcase ρc cs' rfl ρc _ rfl (.refl _ _) hs
  · have hs := step_cut_pass (q := q) (cty := cty) hnc (out := out) (n := n) hA hi hV h
    simp only [Core.State.pass, Core.State.goto] at hs
    exact Chunk.prefixCorePos (.one hs) (Nat.le_refl 1) rfl (IHmu ρ0 y s' rfl _ (AgreeOn.cons hs'))
  · exact IHcase ρ0 cs rfl ρ _ rfl hs'
      (step_cut_pass (q := q) (cty := cty) hnc (out := out) (n := n) hA hi hV h)

theorem sigmaName_ne_id0 (i : Nat) {y : String} (hy : y ≠ sig) : Core.sigmaName i ≠ ⟨y, 0⟩ := by
  intro e
  have : sig = y := by
    have := congrArg Core.Ident.name e
    simpa [sigmaName_name] using this
  exact hy this.symm

theorem lookup_sig_cons {i : Nat} {V : CVal} {ρ : CEnv} {y : String} (hy : y ≠ sig) :
    Core.Env.lookup ((Core.sigmaName i, V) :: ρ) ⟨y, 0⟩ = Core.Env.lookup ρ ⟨y, 0⟩ :=
  lookup_cons_ne (sigmaName_ne_id0 i hy) _ _

/-- the ideal environment of a frame waiting for an operand, extended by the operand's value -/
theorem EnvRel.cons_sigma {n n' i : Nat} {xs : List String} {env : Fun.Env} {ρ0 : CEnv} {V : CVal}
    (he : EnvRel (GP p) p q n xs env ρ0) (hn : n ≤ n') (hfs : ∀ y ∈ xs, y ≠ sig) :
    EnvRel (GP p) p q n' xs env ((Core.sigmaName i, V) :: ρ0) :=
  (he.mono hn).agree fun y hy => lookup_sig_cons (hfs y hy)

theorem CRel.cons_sigma {n n' i : Nat} {k : Fun.Stack} {c : Core.Term} {ρ0 : CEnv} {V : CVal}
    {t : Fun.Term} {T : Core.Stmt} (hr : CRel (GP p) p q n k c ρ0) (hn : n ≤ n')
    (ct : Compiled q i t c T) : CRel (GP p) p q n' k c ((Core.sigmaName i, V) :: ρ0) := by
  refine (hr.mono hn).agree (AgreeOn.cons_right (.refl _ _) fun b hb e => ?_)
  have := ct.sig_lt' (Nat.le_refl i) b hb (by rw [e]; rfl)
  rw [e] at this
  simp [sigmaName_id] at this

theorem fv_ne_sig_append {i : Nat} {t e : Fun.Term} {c : Core.Term} {T E : Core.Stmt}
    (ct : Compiled q i t c T) (ce : Compiled q i e c E) : ∀ y ∈ fv t ++ fv e, y ≠ sig := fun y hy =>
  (List.mem_append.1 hy).elim (ct.fv_ne_sig y) (ce.fv_ne_sig y)

/-- the Fun machine returns `v` to the stack `k`, the Core machine runs the body of the related
`μ~`-closure `cv` with its variable bound to the related value (in any environment that agrees with
the closure environment on the free variables of the body) -/
def RetMu (p : Fun.CheckedProgram) (q : Core.Prog) (n : Nat) (k : Fun.Stack) (cv : CVal) : Prop :=
  ∀ (ρ : CEnv) (x : Core.Ident) (s : Core.Stmt), cv = .mutilde ρ x s →
    ∀ {v : Fun.Value} {V : CVal} {ρ1 : CEnv} {out : Out} {n' : Nat}, VRel (GP p) p q n v V → n ≤ n' →
      AgreeOn (tfvStmt s []) ((x, V) :: ρ) ρ1 →
      Chunk p q (R p q) true false 0 (.ret v k) ⟨s, ρ1, out, n'⟩

/-- the value of a focused producer is passed to the consumer `c` of the cut -/
def PassCr (p : Fun.CheckedProgram) (q : Core.Prog) (n : Nat) (k : Fun.Stack) (c : Core.Term)
    (ρ0 : CEnv) : Prop :=
  Core.isCodata q.codataTypes (coreGetType c) = false →
    ∀ {cty : Core.Ty}, Core.isCodata q.codataTypes cty = false →
    ∀ {A : Core.Term} {ρ : CEnv} {out : Out} {n' : Nat}
    {v : Fun.Value} {V : CVal}, isFocusedVal A = true → Core.prdVal ρ A = .ok V →
    VRel (GP p) p q n v V → n ≤ n' → AgreeOn (tfvTerm c []) ρ0 ρ →
    ∀ {μ : Nat}, Chunk p q (R p q) true true μ (.ret v k) ⟨.cut cty A c, ρ, out, n'⟩

mutual
theorem ret_mu (X : Ctx p q) {n : Nat} : ∀ {k : Fun.Stack} {cv : CVal}, KRel (GP p) p q n k cv →
    RetMu p q n k cv
  | _, _, .main => by
    intro ρ x s e v V ρ1 out n' hv hn ha
    cases e
    apply Chunk.weakenC (c := true) (μ := 0)
    refine cont_main ?_ (hv.mono hn)
    rw [ha _ (mem_tfv_exit.2 (mem_tfv_var.2 rfl))]
    exact lookup_cons_self _ _ _
  | _, _, .exitF => by
    intro ρ x s e v V ρ1 out n' hv hn ha
    cases e
    apply Chunk.weakenC (c := true) (μ := 0)
    refine cont_exit ?_ (hv.mono hn)
    rw [ha _ (mem_tfv_exit.2 (mem_tfv_var.2 rfl))]
    exact lookup_cons_self _ _ _
  | _, _, .letF (x := x0) (body := body) (env := env) (k := k) (ρ0 := ρ0) g hc he hr hy bd a => by
    intro ρ x s e v V ρ1 out n' hv hn ha
    cases e
    have f1 : Fun.step p (.ret v (.letF x0 body env :: k)) =
        .next (.eval body ((x0, v) :: env) k) none := rfl
    refine Chunk.step (e := none) f1 (by intro h; cases h) (.refl _)
      (fun h => by cases h) (by simp) ?_
    exact SRel.eval (ρ0 := (⟨x0, 0⟩, V) :: ρ0) g (hc.mono hn)
      (EnvRel.bind (he.mono hn) (hv.mono hn))
      ((hr.mono hn).agree (AgreeOn.cons_right (.refl _ _) hy)) (BoundOn.cons bd)
      ((AgreeOn.cons a).trans ha)
  | _, _, .ifL (srt := srt) (b := b) (t := t) (e := e') (env := env) (k := k) (ρ0 := ρ0) (i := i)
      (ty := ty) (B := B) (T := T) (E := E) g1 g2 g3 hi hbt cb ct ce he hr bd a => by
    intro ρ x s e v V ρ1 out n' hv hn ha
    cases e
    obtain ⟨stb, stb', hcb, hstb, htnb⟩ := cb
    have hfs : ∀ y ∈ fv b ++ fv t ++ fv e', y ≠ sig := by
      intro y hy
      simp only [List.mem_append] at hy
      rcases hy with (h | h) | h
      · exact htnb.fv_ne_sig y h
      · exact ct.fv_ne_sig y h
      · exact ce.fv_ne_sig y h
    have hag1 := (AgreeOn.cons (V := V) a).trans ha
    have hbd1 := BoundOn.cons (V := V) bd
    apply Chunk.weakenC (c := true) (μ := 0)
    refine cont_ifL X.cod (ρ0 := (Core.sigmaName i, V) :: ρ0) g1 g2 g3 hbt hcb hstb htnb ct ce
      (by omega) ?_ ?_
      (hbd1.mono fun y hy => mem_tfv_ifc.2 (.inr (.inl hy)))
      (hbd1.mono fun y hy => mem_tfv_ifc.2 (.inr (.inr (.inl hy))))
      (hbd1.mono fun y hy => mem_tfv_ifc.2 (.inr (.inr (.inr hy))))
      (hag1.mono fun y hy => mem_tfv_ifc.2 (.inr (.inl hy)))
      (hag1.mono fun y hy => mem_tfv_ifc.2 (.inr (.inr (.inl hy))))
      (hag1.mono fun y hy => mem_tfv_ifc.2 (.inr (.inr (.inr hy))))
      ?_ (fun _ => by simp only [sigmaName_id]; omega) (hv.mono hn)
    · exact he.cons_sigma hn hfs
    · exact hr.cons_sigma hn ct
    · rw [ha _ (mem_tfv_ifc.2 (.inl (mem_tfv_var.2 rfl)))]
      exact lookup_cons_self _ _ _
  | _, _, .ifR (srt := srt) (a := a0) (t := t) (e := e') (env := env) (k := k) (ρ0 := ρ0) (i := i)
      (z := z) (ty := ty) (ty' := ty') (T := T) (E := E) g2 g3 hi hz hl ct ce he hr bd a => by
    intro ρ x s e v V ρ1 out n' hv hn ha
    cases e
    have hfs := fv_ne_sig_append ct ce
    have hag0 := AgreeOn.cons (V := V) a
    have hbd1 : BoundOn (tfvStmt T [] ++ tfvStmt E []) ((Core.sigmaName i, V) :: ρ0) :=
      BoundOn.cons bd
    have hsub : ∀ y ∈ tfvStmt T [] ++ tfvStmt E [], y ∈ tfvStmt (.ifc (compileSort srt)
        (.var .prd z ty) (.var .prd (Core.sigmaName i) ty') T E) [] := by
      intro y hy
      rcases List.mem_append.1 hy with h | h
      · exact mem_tfv_ifc.2 (.inr (.inr (.inl h)))
      · exact mem_tfv_ifc.2 (.inr (.inr (.inr h)))
    have hag1 : AgreeOn (tfvStmt T [] ++ tfvStmt E []) ((Core.sigmaName i, V) :: ρ0) ρ1 :=
      hag0.trans (ha.mono hsub)
    apply Chunk.weakenC (c := true) (μ := 0)
    refine cont_ifR (ρ0 := (Core.sigmaName i, V) :: ρ0) g2 g3 ct ce (by omega) ?_ ?_
      (hbd1.mono fun y hy => List.mem_append.2 (.inl hy))
      (hbd1.mono fun y hy => List.mem_append.2 (.inr hy))
      (hag1.mono fun y hy => List.mem_append.2 (.inl hy))
      (hag1.mono fun y hy => List.mem_append.2 (.inr hy)) ?_ ?_ (hv.mono hn)
    · exact he.cons_sigma hn hfs
    · exact hr.cons_sigma hn ct
    · rw [ha _ (mem_tfv_ifc.2 (.inl (mem_tfv_var.2 rfl))), lookup_cons_ne (fun e => hz e.symm)]
      exact hl
    · rw [ha _ (mem_tfv_ifc.2 (.inr (.inl (mem_tfv_var.2 rfl))))]
      exact lookup_cons_self _ _ _
  | _, _, .ifZ (srt := srt) (t := t) (e := e') (env := env) (k := k) (ρ0 := ρ0) (i := i)
      (ty := ty) (T := T) (E := E) g2 g3 hi ct ce he hr bd a => by
    intro ρ x s e v V ρ1 out n' hv hn ha
    cases e
    have hfs := fv_ne_sig_append ct ce
    have hag1 := (AgreeOn.cons (V := V) a).trans ha
    have hbd1 := BoundOn.cons (V := V) bd
    apply Chunk.weakenC (c := true) (μ := 0)
    refine cont_ifZ (ρ0 := (Core.sigmaName i, V) :: ρ0) g2 g3 ct ce (by omega) ?_ ?_
      (hbd1.mono fun y hy => mem_tfv_ifz.2 (.inr (.inl hy)))
      (hbd1.mono fun y hy => mem_tfv_ifz.2 (.inr (.inr hy)))
      (hag1.mono fun y hy => mem_tfv_ifz.2 (.inr (.inl hy)))
      (hag1.mono fun y hy => mem_tfv_ifz.2 (.inr (.inr hy))) ?_ (hv.mono hn)
    · exact he.cons_sigma hn hfs
    · exact hr.cons_sigma hn ct
    · rw [ha _ (mem_tfv_ifz.2 (.inl (mem_tfv_var.2 rfl)))]
      exact lookup_cons_self _ _ _
  | _, _, .print (nl := nl) (next := next) (env := env) (k := k) (ρ0 := ρ0) (i := i)
      (ty := ty) (N := N) g hi cn he hr bd a => by
    intro ρ x s e v V ρ1 out n' hv hn ha
    cases e
    have hag1 := (AgreeOn.cons (V := V) a).trans ha
    have hbd1 := BoundOn.cons (V := V) bd
    apply Chunk.weakenC (c := true) (μ := 0)
    refine cont_print (ρ0 := (Core.sigmaName i, V) :: ρ0) g cn (by omega) ?_ ?_
      (hbd1.mono fun y hy => mem_tfv_print.2 (.inr hy))
      (hag1.mono fun y hy => mem_tfv_print.2 (.inr hy)) ?_ (hv.mono hn)
    · exact he.cons_sigma hn cn.fv_ne_sig
    · exact hr.cons_sigma hn cn
    · rw [ha _ (mem_tfv_print.2 (.inl (mem_tfv_var.2 rfl)))]
      exact lookup_cons_self _ _ _
  | _, _, .caseF .. => fun _ _ _ e => nomatch e
  | _, _, .shared (ρ0 := ρ0) (x := x0) (d := d) (ty := ty) hd hc hk bd a => by
    intro ρ x s e v V ρ1 out n' hv hn ha
    cases e
    obtain ⟨ρn, hs, hagn⟩ := shared_step X hd hc bd a ha out n'
    exact Chunk.prefixCore (.one hs) rfl (ret_mu X hk _ _ _ rfl hv hn hagn)
  | _, _, .eta (ρ0 := ρ0) (x := x0) (ty := ty) (ty' := ty') (c := c) hr hy hnc hck bd a => by
    intro ρ x s e v V ρ1 out n' hv hn ha
    cases e
    have hag1 := (AgreeOn.cons (V := V) a).trans ha
    apply Chunk.weakenC (c := true) (μ := 0)
    refine pass_cr X hr hck hnc (A := .var .prd x0 ty') rfl ?_ hv hn ?_
    · simp only [Core.prdVal]
      rw [ha _ (mem_tfv_cut.2 (.inl (mem_tfv_var.2 rfl)))]
      exact lookup_cons_self _ _ _
    · intro b hb
      rw [hag1 b (mem_tfv_cut.2 (.inr hb)), lookup_cons_ne (fun e => hy b hb e.symm)]
theorem pass_cr (X : Ctx p q) {n : Nat} : ∀ {k : Fun.Stack} {c : Core.Term} {ρ0 : CEnv},
    CRel (GP p) p q n k c ρ0 → PassCr p q n k c ρ0
  | _, _, _, .mk hcv hk hi _ _ => by
    intro _ cty hnc A ρ out n' v V hA hV hv hn hag μ
    exact pass_core hnc hA hV hcv hi hag hk.shape
      (fun _ _ _ e _ ha' => ret_mu X hk _ _ _ e hv hn ha')
      (fun _ _ e _ S hS ha' hs' => ret_case (e ▸ hk) hv (hS ▸ hn) ha' hs')
  | _, _, _, .mkD _ _ _ _ hty => fun hck => by
    rw [hty] at hck; cases hck
  | _, _, _, .dtor _ _ _ _ _ _ _ _ _ _ _ hty => fun hck => by
    simp only [coreGetType] at hck; rw [hty] at hck; cases hck
end

theorem pass_chunk (X : Ctx p q) {cty : Core.Ty} (hnc : Core.isCodata q.codataTypes cty = false)
    {A c : Core.Term} {ρ0 ρ : CEnv}
    {out : Out} {n : Nat} {k : Fun.Stack} {v : Fun.Value} {V : CVal}
    (hA : isFocusedVal A = true) (hV : Core.prdVal ρ A = .ok V) (hv : VRel (GP p) p q n v V)
    (hr : CRel (GP p) p q n k c ρ0) (hck : Core.isCodata q.codataTypes (coreGetType c) = false)
    (hag : AgreeOn (tfvTerm c []) ρ0 ρ) :
    Chunk p q (R p q) true true μ (.ret v k) ⟨.cut cty A c, ρ, out, n⟩ :=
  pass_cr X hr hck hnc hA hV hv (Nat.le_refl n) hag

end Scc.Fun2Core.Sem
