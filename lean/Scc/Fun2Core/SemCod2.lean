/-
  Scc.Fun2Core.SemCod2 — `focus_cons`: the ς-machine replaces a consumer ARGUMENT (the continuation
  argument of a call or of a destructor) by a variable bound to its value.  At a type that is not
  codata the `μ`-abstraction of the rest of the statement is bound to the value of the consumer at
  once; at a codata type the abstraction is suspended as a thunk and the consumer is forced
  (`Forced`, an induction hypothesis here), after which the thunk is entered with the covariable
  bound to a destructor value.
-/
import Scc.Fun2Core.SemCod1

namespace Scc.Fun2Core.Sem

variable {q : Core.Prog} {p : Fun.CheckedProgram}

theorem coreGetType_eq_ty (c : Core.Term) : coreGetType c = c.ty := by
  cases c <;> rfl

/-- the statement `Sx c` has the consumer `c` in its leftmost non-variable position; the machine
reaches `Sx a` with `a` bound to a consumer value related to the stack `k` -/
theorem focus_cons {n : Nat} {k : Fun.Stack} {c : Core.Term} {ρ0 ρ : CEnv}
    (hr : CRel (GP p) p q n k c ρ0) {m : Nat} (hnm : n ≤ m)
    (hsig : ∀ b ∈ tfvTerm c [], b.var.name = sig → b.var.id < m)
    (hag : AgreeOn (tfvTerm c []) ρ0 ρ)
    (Sx : Core.Term → Core.Stmt) (hsp : c.isVar = false → (Sx c).split = some (.cns, c, Sx))
    (out : Out)
    (IH : Core.isCodata q.codataTypes (coreGetType c) = true → c.isVar = false →
      ∀ a s, Forced p q k c.ty (.mu .prd a c.ty s) c ρ out (m + 1)) :
    ∃ i ρ' m' pc z tz cv, CSteps q ⟨Sx c, ρ, out, m⟩ ⟨Sx (.var pc z tz), ρ', out, m'⟩ i ∧ m ≤ m' ∧
      SigExt m ρ ρ' ∧ Core.Env.lookup ρ' z = .ok cv ∧ (z.name = sig → z.id < m') ∧
      KAny (GP p) p q m' k cv := by
  cases hv : c.isVar with
  | true =>
    cases c with
    | var pc z tz =>
      have hr' := hr.agree hag
      refine ⟨0, ρ, m, pc, z, tz, ?_⟩
      cases hr' with
      | mk hcv hk _ _ _ =>
        exact ⟨_, .refl _, Nat.le_refl _, .refl _ _, by simpa [Core.cnsVal] using hcv,
          hsig _ (mem_tfv_var.2 rfl), .nc (hk.mono hnm)⟩
      | mkD hcv hk _ _ _ =>
        exact ⟨_, .refl _, Nat.le_refl _, .refl _ _, by simpa [Core.cnsVal] using hcv,
          hsig _ (mem_tfv_var.2 rfl), .cd (hk.mono hnm)⟩
    | _ => simp [Core.Term.isVar] at hv
  | false =>
    have s1 := Core.FocusSim.step_of_split_some (p1 := q) (st1 := ⟨Sx c, ρ, out, m⟩) (hsp hv)
    simp only [Core.sigmaCut] at s1
    cases hcd : Core.isCodata q.codataTypes (coreGetType c) with
    | false =>
      have hr' := hr.agree hag
      cases hr' with
      | mk hcv hk hi _ _ =>
        have s2 := step_cut_mu (q := q) (cty := c.ty) (ty := c.ty)
          (by rw [← coreGetType_eq_ty]; exact hcd) (a := Core.sigmaName m)
          (s := Sx (.var .cns (Core.sigmaName m) c.ty)) (ρ := ρ) (out := out) (n := m + 1) hi hcv .prd
        exact ⟨2, (Core.sigmaName m, _) :: ρ, m + 1, .cns, Core.sigmaName m, c.ty, _,
          (CSteps.one s1).trans (.one s2), Nat.le_succ _, (SigExt.refl m ρ).cons (Nat.le_refl m),
          lookup_cons_self _ _ _, fun _ => by simp [sigmaName_id], .nc (hk.mono (by omega))⟩
      | mkD _ _ _ _ hty => rw [hty] at hcd; cases hcd
      | dtor _ _ _ _ _ _ _ _ _ _ _ hty => simp only [coreGetType] at hcd; rw [hty] at hcd; cases hcd
    | true =>
      obtain ⟨i, S1, ρ1, pv, d, Vs, hc, ho, hm1, hext, hpv, hs, hk⟩ :=
        IH hcd hv (Core.sigmaName m) (Sx (.var .cns (Core.sigmaName m) c.ty))
      simp only [Core.prdVal, Except.ok.injEq] at hpv
      subst hpv
      rw [invoke_thunk] at hs
      refine ⟨1 + i + 1, (Core.sigmaName m, .dtor ⟨d, 0⟩ Vs) :: ρ1, S1.fresh, .cns, Core.sigmaName m,
        c.ty, _, ?_, by omega, (hext.mono (Nat.le_succ m)).cons (Nat.le_refl m),
        lookup_cons_self _ _ _, fun _ => by simp only [sigmaName_id]; omega, .cd hk⟩
      have hlast : CSteps q S1 ⟨Sx (.var .cns (Core.sigmaName m) c.ty),
          (Core.sigmaName m, .dtor ⟨d, 0⟩ Vs) :: ρ1, out, S1.fresh⟩ 1 := by
        refine .one ?_
        rw [hs, ho]
      exact ((CSteps.one s1).trans hc).trans hlast

end Scc.Fun2Core.Sem
