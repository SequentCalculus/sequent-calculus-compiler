/-
  Scc.Fun2Core.TypedTerm — C12, link fun2core: the translation of terms preserves typing.

  Fix a checked program `p`, a Core program `P` that has the translated type declarations and maps the
  user definitions to their translated signatures (`Env p P`), and a predicate `G` on names that the
  generated names satisfy (`FreshGood G`).  For a run `compile_with_cont t c st = ok (s, st')` of an
  annotated term `TypedM p t Γ τ` that does not call `main`, in a Core context `Δ` related to `Γ`
  (`CtxRel`) whose names (`NamesIn G Δ st`) and the binders of `t` (`BIn G (binderNames t) st`) are
  good and in the used-names set, with a consumer `c` that checks at `compileTy τ` in `Δ`: if `P` maps
  the labels generated up to `st'` to the lifted definitions (`SigLifted P st'`) and the definitions
  lifted before the run are typed (`LiftedOk P G st`), then `s` passes the executable Core checker in
  `Δ` and the definitions lifted up to `st'` are typed (`LiftedOk P G st'`).  Likewise `compile t`
  yields a producer of type `compileTy τ`, and the argument and clause lists check against the
  translated signatures.  One induction over the runs (`typed_run`); `TCwc` … `TCoclauses` state the
  result for the model functions.
  Besides `check`, the bundles `TOK` / `SOK` / `AOK` / `COK` carry "all identifiers have id 0 and a good
  name" and `strict` (cut / μ types declared, clauses in declaration order: Scc/Core/TypedStrict.lean).
-/
import Scc.Fun2Core.TypedAux

namespace Scc.Fun2Core.Typed
open Scc.Core
open Scc.Fun.Typing (lookupCtx bindNames clauseXtors)

/-- closes `∀ y ∈ binderNames t', y ∈ binderNames t` (or the `Args` / `Clauses` variant) for a direct
subphrase `t'` of the constructor form `t`, by unfolding `binderNames` on `t`: the argument of
`BIn.sub` / `UIn.sub` -/
macro "bsub" : tactic => `(tactic| (
  intro y hy
  simp [binderNames, binderNamesArgs, binderNamesClauses, hy]))

theorem freshCovar_mem (st : CompileState) : (freshCovar st).1 ∈ (freshCovar st).2.usedVars := by
  simp [freshCovar, freshName]

theorem shareUnless_fresh (b : Bool) (c : Term) (st : CompileState) :
    Fresh st (shareUnless b c st).2 := stepRel_shareUnless fresh_stepRel b c st

/-- `share` (or not, for a leaf) keeps the consumer typed; the lifted definition is typed -/
theorem shareUnless_typed {P : Prog} {G : String → Prop} {Δ : Ctx} {c : Term} {ty : Ty}
    {st : CompileState} (b : Bool) (hg : FreshGood G) (hc : TOK P G Δ .cns ty c)
    (hty : tyDeclared P ty = true) (hnm : NamesIn G Δ st) :
    SigLifted P (shareUnless b c st).2 → LiftedOk P G st →
    TOK P G Δ .cns ty (shareUnless b c st).1 ∧ LiftedOk P G (shareUnless b c st).2 := by
  cases b
  · simp only [shareUnless, Bool.false_eq_true, if_false]
    intro hsig hok
    obtain ⟨h1, D, e, hD⟩ := share_check hc.1 (fun b hb => (hnm b hb).1) hsig
    obtain ⟨i1, i2⟩ := share_ids (st := st) hc.2.1 (hg.freshVar st)
    obtain ⟨j1, j2⟩ := share_strict (st := st) hc.2.2 (by rw [coreGetType_of_check hc.1]; exact hty)
    refine ⟨⟨h1, i1, j1⟩, ?_⟩
    intro D' hD'
    rw [e] at hD'
    rcases List.mem_cons.1 hD' with rfl | hD'
    · exact ⟨hD, (i2 _ e).1, (i2 _ e).2, j2 _ e⟩
    · exact hok D' hD'
  · simp only [shareUnless, if_true]
    exact fun _ hok => ⟨hc, hok⟩

theorem not_mu_prd_of_check {P : Prog} {Δ : Ctx} {c : Term} {ty : Ty}
    (hc : c.check P Δ .cns ty = true) : ∀ v ty' s, c ≠ .mu .prd v ty' s := by
  intro v ty' s e
  subst e
  have := (check_mu_iff.1 hc).1
  cases this

theorem shareUnless_tfv {P : Prog} {Δ : Ctx} {c : Term} {ty : Ty} {st : CompileState} (b : Bool)
    (hc : c.check P Δ .cns ty = true) :
    ∀ y ∈ tfvTerm (shareUnless b c st).1 [], y ∈ tfvTerm c [] := by
  cases b
  · simp only [shareUnless, Bool.false_eq_true, if_false]
    exact tfv_share_subset c st (not_mu_prd_of_check hc)
  · simp only [shareUnless, if_true]
    exact fun y hy => hy

theorem _root_.Scc.Core.Clauses.has_of_mem_tags :
    ∀ (cl : Clauses) {k : Ident}, k ∈ cl.tags → cl.has k = true
  | .nil, _, h => by simp [Clauses.tags] at h
  | .cons x _ _ r, k, h => by
    simp only [Clauses.tags, List.mem_cons] at h
    simp only [Clauses.has, Bool.or_eq_true]
    rcases h with rfl | h
    · exact .inl (beq_iff_eq.2 rfl)
    · exact .inr (r.has_of_mem_tags h)

/-- the translated clauses have the tags of the source clauses, in order -/
def TagsOK : Run → Prop
  | .clauses cs _ _ cs' _ | .coclauses cs _ cs' _ =>
    cs'.tags = (clauseXtors cs).map fun k => (⟨k, 0⟩ : Ident)
  | _ => True

theorem _root_.Scc.Fun2Core.Compiles.tags {r : Run} (h : Compiles r) : TagsOK r := by
  induction h with
  | clauses_nil | coclauses_nil => simp [TagsOK, Clauses.tags, clauseXtors, Fun.Clauses.toList]
  | clauses_cons _ _ _ ih | coclauses_cons _ _ _ _ ih =>
    simp only [TagsOK, clauseXtors] at ih ⊢
    simp [Clauses.tags, Fun.Clauses.toList, ih]
  | _ => trivial

theorem covers_of_has {α : Type} (cl : Clauses) (f : α → XtorSig) (nm : α → String)
    (hf : ∀ a, (f a).name = ⟨nm a, 0⟩) : ∀ (l : List α),
    (∀ a ∈ l, cl.has ⟨nm a, 0⟩ = true) → cl.covers (l.map f) = true
  | [] => fun _ => by cases cl <;> simp [Clauses.covers]
  | a :: r => fun h => by
    have h1 : cl.has (f a).name = true := by rw [hf]; exact h a (by simp)
    have h2 := covers_of_has cl f nm hf r (fun b hb => h b (by simp [hb]))
    cases cl <;> simp [Clauses.covers, h1, h2]

section
variable (p : Fun.CheckedProgram) (P : Prog) (G : String → Prop)

/-- what `typed_term` says of `compileWithCont t`; `TComp`, `TSubst`, `TClauses`, `TCoclauses` are the
same for `compile t`, `compileSubst`, `compileClauses`, `compileCoclauses` (`typed_term`,
`typed_subst`, `typed_clauses`, `typed_coclauses`) -/
def TCwc (t : Fun.Term) : Prop :=
  ∀ (Γ : Fun.Ctx) (τ : Fun.Ty) (Δ : Ctx) (c : Term) (st : CompileState) (s : Stmt)
    (st' : CompileState), TypedM p t Γ τ → t.callsMain = false → CtxRel Γ Δ → NamesIn G Δ st →
    BIn G (binderNames t) st → TOK P G Δ .cns (compileTy τ) c →
    compileWithCont t c st = .ok (s, st') → SigLifted P st' → LiftedOk P G st →
    SOK P G Δ s ∧ LiftedOk P G st'

def TComp (t : Fun.Term) : Prop :=
  ∀ (Γ : Fun.Ctx) (τ : Fun.Ty) (Δ : Ctx) (st : CompileState) (q : Term)
    (st' : CompileState), TypedM p t Γ τ → t.callsMain = false → CtxRel Γ Δ → NamesIn G Δ st →
    BIn G (binderNames t) st →
    compile t (compileTy τ) st = .ok (q, st') → SigLifted P st' → LiftedOk P G st →
    TOK P G Δ .prd (compileTy τ) q ∧ LiftedOk P G st'

def TSubst (args : Fun.Terms) : Prop :=
  ∀ (Γ : Fun.Ctx) (bs : Fun.Ctx) (Δ : Ctx) (st : CompileState) (as : Args)
    (st' : CompileState), ArgsM p args Γ bs → args.callsMain = false → CtxRel Γ Δ →
    NamesIn G Δ st → BIn G (binderNamesArgs args) st →
    compileSubst args st = .ok (as, st') → SigLifted P st' → LiftedOk P G st →
    AOK P G Δ (compileContext bs) as ∧ LiftedOk P G st'

def TClauses (cs : Fun.Clauses) : Prop :=
  ∀ (Γ : Fun.Ctx) (sigs : List Fun.CtorSig) (τ : Fun.Ty) (Δ : Ctx) (c : Term) (st : CompileState)
    (cs' : Clauses) (st' : CompileState), ClausesM p cs Γ sigs τ → cs.callsMain = false →
    CtxRel Γ Δ → NamesIn G Δ st → BIn G (binderNamesClauses cs) st →
    TOK P G Δ .cns (compileTy τ) c → (∀ b ∈ tfvTerm c [], b.var.name ∉ clausesNames cs) →
    compileClauses cs c st = .ok (cs', st') → SigLifted P st' → LiftedOk P G st →
    COK P G Δ (sigs.map compileCtor) cs' ∧ LiftedOk P G st'

def TCoclauses (cs : Fun.Clauses) : Prop :=
  ∀ (Γ : Fun.Ctx) (sigs : List Fun.DtorSig) (Δ : Ctx) (st : CompileState)
    (cs' : Clauses) (st' : CompileState), CoclausesM p cs Γ sigs → cs.callsMain = false →
    CtxRel Γ Δ → NamesIn G Δ st → BIn G (binderNamesClauses cs) st →
    compileCoclauses cs st = .ok (cs', st') → SigLifted P st' → LiftedOk P G st →
    COK P G Δ (sigs.map compileDtor) cs' ∧ LiftedOk P G st'

/-- the predicate of the induction over the runs: for each kind of run the statement above without
its equation; the body behind the capture guard may assume that the guard let the consumer pass -/
def TRun : Run → Prop
  | .cwc t c st s st' | .guard t _ c st s st' =>
    ∀ (Γ : Fun.Ctx) (τ : Fun.Ty) (Δ : Ctx), TypedM p t Γ τ → t.callsMain = false → CtxRel Γ Δ →
      NamesIn G Δ st → BIn G (binderNames t) st → TOK P G Δ .cns (compileTy τ) c →
      SigLifted P st' → LiftedOk P G st → SOK P G Δ s ∧ LiftedOk P G st'
  | .core t c st s st' =>
    ∀ (Γ : Fun.Ctx) (τ : Fun.Ty) (Δ : Ctx), TypedM p t Γ τ → t.callsMain = false → CtxRel Γ Δ →
      NamesIn G Δ st → BIn G (binderNames t) st → TOK P G Δ .cns (compileTy τ) c →
      bindersOccurFree (guardBinders t) c = false →
      SigLifted P st' → LiftedOk P G st → SOK P G Δ s ∧ LiftedOk P G st'
  | .comp t ty st q st' =>
    ∀ (Γ : Fun.Ctx) (τ : Fun.Ty) (Δ : Ctx), TypedM p t Γ τ → t.callsMain = false → CtxRel Γ Δ →
      NamesIn G Δ st → BIn G (binderNames t) st → ty = compileTy τ →
      SigLifted P st' → LiftedOk P G st → TOK P G Δ .prd (compileTy τ) q ∧ LiftedOk P G st'
  | .subst args st as st' =>
    ∀ (Γ : Fun.Ctx) (bs : Fun.Ctx) (Δ : Ctx), ArgsM p args Γ bs → args.callsMain = false →
      CtxRel Γ Δ → NamesIn G Δ st → BIn G (binderNamesArgs args) st →
      SigLifted P st' → LiftedOk P G st → AOK P G Δ (compileContext bs) as ∧ LiftedOk P G st'
  | .clauses cs c st cs' st' =>
    ∀ (Γ : Fun.Ctx) (sigs : List Fun.CtorSig) (τ : Fun.Ty) (Δ : Ctx), ClausesM p cs Γ sigs τ →
      cs.callsMain = false → CtxRel Γ Δ → NamesIn G Δ st → BIn G (binderNamesClauses cs) st →
      TOK P G Δ .cns (compileTy τ) c → (∀ b ∈ tfvTerm c [], b.var.name ∉ clausesNames cs) →
      SigLifted P st' → LiftedOk P G st → COK P G Δ (sigs.map compileCtor) cs' ∧ LiftedOk P G st'
  | .coclauses cs st cs' st' =>
    ∀ (Γ : Fun.Ctx) (sigs : List Fun.DtorSig) (Δ : Ctx), CoclausesM p cs Γ sigs →
      cs.callsMain = false → CtxRel Γ Δ → NamesIn G Δ st → BIn G (binderNamesClauses cs) st →
      SigLifted P st' → LiftedOk P G st → COK P G Δ (sigs.map compileDtor) cs' ∧ LiftedOk P G st'

end

variable {p : Fun.CheckedProgram} {P : Prog} {G : String → Prop}

/-- a fresh covariable of type `ty` in front of the context: what `compile`'s default body, the
capture guard and `compile_coclause` give to `compile_with_cont` -/
theorem push_covar (hg : FreshGood G) {Γ : Fun.Ctx} {Δ : Ctx} {st : CompileState} {bs : List String}
    (ty : Ty) (hrel : CtxRel Γ Δ) (hnm : NamesIn G Δ st) (hb : BIn G bs st) :
    CtxRel Γ (⟨⟨(freshCovar st).1, 0⟩, .cns, ty⟩ :: Δ) ∧
      NamesIn G (⟨⟨(freshCovar st).1, 0⟩, .cns, ty⟩ :: Δ) (freshCovar st).2 ∧
      BIn G bs (freshCovar st).2 :=
  ⟨hrel.cons_fresh _ (hnm.fresh (freshCovar_not_mem st)),
    (hnm.mono (fresh_freshCovar st)).cons (freshCovar_mem st) (hg.freshCovar st),
    hb.mono (fresh_freshCovar st)⟩

section
variable (env : Env p P) (hg : FreshGood G)
include env hg

theorem typed_run {r : Run} (h : Compiles r) : TRun p P G r := by
  induction h with
  | @cwc_cut t ty c st q st' hty _ ih =>
    intro Γ τ Δ ht hm hrel hnm hb hc hsig hok
    obtain ⟨τ', hτ', rfl⟩ := cutTy_getType hty
    obtain rfl : τ' = τ := Option.some.inj (hτ'.symm.trans (getType_of_typed p t Γ τ ht))
    obtain ⟨h1, h2⟩ := ih Γ τ' Δ ht hm hrel hnm hb rfl hsig hok
    exact ⟨SOK.cut (tyDeclared_of_typed env ht) h1 hc, h2⟩
  | @cwc_ifc srt a b t e an c st fst st1 snd st2 thenc st3 elsec st4 ha hb' ht' he' iha ihb iht ihe =>
    intro Γ τ Δ hty hm hrel hnm hb hc hsig hok
    simp only [TypedM] at hty
    obtain ⟨hti, -, tya, tyb, tyt, tye⟩ := hty
    simp only [Fun.Term.callsMain, Bool.or_eq_false_iff] at hm
    have hsh := shareUnless_typed (st := st) (isLeaf c) hg hc (tyDeclared_of_tyIn env hti) hnm
    have hfr := shareUnless_fresh (isLeaf c) c st
    generalize shareUnless (isLeaf c) c st = r at *
    have f1 : Fresh r.2 st1 := ha.fresh
    have f2 : Fresh st1 st2 := hb'.fresh
    have f3 : Fresh st2 st3 := ht'.fresh
    have f4 : Fresh st3 st4 := he'.fresh
    have s3 := hsig.of_fresh f4
    have s2 := s3.of_fresh f3
    have s1 := s2.of_fresh f2
    obtain ⟨hr1, ok0⟩ := hsh (s1.of_fresh f1) hok
    have n0 := hnm.mono hfr
    have n1 := n0.mono f1
    have n2 := n1.mono f2
    have n3 := n2.mono f3
    have b0 := hb.mono hfr
    have b1 := b0.mono f1
    have b2 := b1.mono f2
    have b3 := b2.mono f3
    obtain ⟨ca, ok1⟩ := iha Γ .i64 Δ tya hm.1.1.1 hrel n0 (b0.sub (by bsub)) rfl s1 ok0
    obtain ⟨cb, ok2⟩ := ihb Γ .i64 Δ tyb hm.1.1.2 hrel n1 (b1.sub (by bsub)) rfl s2 ok1
    obtain ⟨ct, ok3⟩ := iht Γ τ Δ tyt hm.1.2 hrel n2 (b2.sub (by bsub)) hr1 s3 ok2
    obtain ⟨ce, ok4⟩ := ihe Γ τ Δ tye hm.2 hrel n3 (b3.sub (by bsub)) hr1 hsig ok3
    exact ⟨SOK.ifc ca cb ct ce, ok4⟩
  | @cwc_ifz srt a t e an c st fst st1 thenc st3 elsec st4 ha ht' he' iha iht ihe =>
    intro Γ τ Δ hty hm hrel hnm hb hc hsig hok
    simp only [TypedM] at hty
    obtain ⟨hti, -, tya, tyt, tye⟩ := hty
    simp only [Fun.Term.callsMain, Bool.or_eq_false_iff] at hm
    have hsh := shareUnless_typed (st := st) (isLeaf c) hg hc (tyDeclared_of_tyIn env hti) hnm
    have hfr := shareUnless_fresh (isLeaf c) c st
    generalize shareUnless (isLeaf c) c st = r at *
    have f1 : Fresh r.2 st1 := ha.fresh
    have f3 : Fresh st1 st3 := ht'.fresh
    have f4 : Fresh st3 st4 := he'.fresh
    have s3 := hsig.of_fresh f4
    have s1 := s3.of_fresh f3
    obtain ⟨hr1, ok0⟩ := hsh (s1.of_fresh f1) hok
    have n0 := hnm.mono hfr
    have n1 := n0.mono f1
    have n3 := n1.mono f3
    have b0 := hb.mono hfr
    have b1 := b0.mono f1
    have b3 := b1.mono f3
    obtain ⟨ca, ok1⟩ := iha Γ .i64 Δ tya hm.1.1 hrel n0 (b0.sub (by bsub)) rfl s1 ok0
    obtain ⟨ct, ok3⟩ := iht Γ τ Δ tyt hm.1.2 hrel n1 (b1.sub (by bsub)) hr1 s3 ok1
    obtain ⟨ce, ok4⟩ := ihe Γ τ Δ tye hm.2 hrel n3 (b3.sub (by bsub)) hr1 hsig ok3
    exact ⟨SOK.ifz ca ct ce, ok4⟩
  | @cwc_print nl a n an c st arg st1 next st2 ha hn iha ihn =>
    intro Γ τ Δ hty hm hrel hnm hb hc hsig hok
    simp only [TypedM] at hty
    obtain ⟨-, -, tya, tyn⟩ := hty
    simp only [Fun.Term.callsMain, Bool.or_eq_false_iff] at hm
    have f1 : Fresh st st1 := ha.fresh
    have f2 : Fresh st1 st2 := hn.fresh
    obtain ⟨ca, ok1⟩ := iha Γ .i64 Δ tya hm.1 hrel hnm (hb.sub (by bsub)) rfl (hsig.of_fresh f2) hok
    obtain ⟨cn, ok2⟩ := ihn Γ τ Δ tyn hm.2 hrel (hnm.mono f1) ((hb.sub (by bsub)).mono f1) hc
      hsig ok1
    exact ⟨SOK.print ca cn, ok2⟩
  | @cwc_call f args t c st args' st1 _ ih =>
    intro Γ τ Δ hty hm hrel hnm hb hc hsig hok
    simp only [TypedM] at hty
    obtain ⟨-, hτ, d, hd, rfl, rfl, targs⟩ := hty
    cases hτ
    simp only [Fun.Term.callsMain, Bool.or_eq_false_iff, beq_eq_false_iff_ne] at hm
    obtain ⟨ca, ok1⟩ := ih Γ d.ctx Δ targs hm.2 hrel hnm (hb.sub (by bsub)) hsig hok
    obtain ⟨D, a, hD, hctx⟩ := env.user d hd hm.1
    refine ⟨SOK.call hD ?_, ok1⟩
    rw [hctx]
    exact ca.snoc rfl hc
  | @cwc_dtor scrut k ta args an c st args' st1 σ' s st2 hs hσ hsc ihs ihsc =>
    intro Γ τ Δ hty hm hrel hnm hb hc hsig hok
    simp only [TypedM] at hty
    obtain ⟨-, -, σ, d, sg, tys, hd, hsg, rfl, targs⟩ := hty
    obtain rfl : σ' = σ := Option.some.inj (hσ.symm.trans (getType_of_typed p scrut Γ σ tys))
    simp only [Fun.Term.callsMain, Bool.or_eq_false_iff] at hm
    have f1 : Fresh st st1 := hs.fresh
    have f2 : Fresh st1 st2 := hsc.fresh
    obtain ⟨ca, ok1⟩ := ihs Γ sg.args Δ targs hm.2 hrel hnm (hb.sub (by bsub)) (hsig.of_fresh f2) hok
    obtain ⟨T, hT, hfd⟩ := findDecl_codata env hd
    have hnc : TOK P G Δ .cns (compileTy σ')
        (Term.xtor .cns ⟨k, 0⟩ (argsSnoc args' .cns c) (compileTy σ')) := by
      rw [hT]
      exact TOK.xtor (sig := compileDtor sg) hfd (findSig_dtor hsg) (ca.snoc rfl hc)
    exact ihsc Γ σ' Δ tys hm.1 hrel (hnm.mono f1) ((hb.sub (by bsub)).mono f1) hnc hsig ok1
  | @cwc_goto a t an c st gty s st' hgt _ ih =>
    intro Γ τ Δ hty hm hrel hnm hb hc hsig hok
    simp only [TypedM] at hty
    obtain ⟨-, -, b, hl, hchi, tyt⟩ := hty
    obtain rfl : gty = b.ty := Option.some.inj (hgt.symm.trans (getType_of_typed p t Γ b.ty tyt))
    simp only [Fun.Term.callsMain] at hm
    have hlk := hrel.lookup hl
    refine ih Γ b.ty Δ tyt hm hrel hnm (hb.sub (by bsub)) (TOK.var ?_ (hnm.good hlk)) hsig hok
    simpa [hchi, compileChi] using hlk
  | @cwc_exit arg t c st a st1 _ ih =>
    intro Γ τ Δ hty hm hrel hnm hb hc hsig hok
    simp only [TypedM] at hty
    obtain ⟨-, hτ, tya⟩ := hty
    cases hτ
    simp only [Fun.Term.callsMain] at hm
    obtain ⟨ca, ok1⟩ := ih Γ .i64 Δ tya hm hrel hnm (hb.sub (by bsub)) rfl hsig hok
    exact ⟨SOK.exit ca, ok1⟩
  | cwc_paren _ ih =>
    intro Γ τ Δ hty hm hrel hnm hb hc hsig hok
    simp only [TypedM] at hty
    simp only [Fun.Term.callsMain] at hm
    exact ih Γ τ Δ hty hm hrel hnm (hb.sub (by bsub)) hc hsig hok
  | cwc_letIn _ ih | cwc_case _ ih => exact ih
  | guard_pass hnf _ ih =>
    intro Γ τ Δ ht hm hrel hnm hb hc hsig hok
    exact ih Γ τ Δ ht hm hrel hnm hb hc hnf hsig hok
  | @guard_wrap t n c st τ' s st' _ hτ' _ ih =>
    intro Γ τ Δ ht hm hrel hnm hb hc hsig hok
    obtain rfl : τ' = τ := Option.some.inj (hτ'.symm.trans (getType_of_typed p t Γ τ ht))
    have hτd := tyDeclared_of_typed env ht
    have hga := hg.freshCovar st
    obtain ⟨hrel', hnm', hb'⟩ := push_covar hg (compileTy τ') hrel hnm hb
    obtain ⟨h1, h2⟩ := ih Γ τ' _ ht hm hrel' hnm' hb' (TOK.var_head hga) hsig hok
    exact ⟨SOK.cut hτd (TOK.mu hga hτd h1) hc, h2⟩
  | @core_let_data x σ bound body an c st inStmt st1 s st2 hi _ hbd ihi ihb =>
    intro Γ τ Δ hty hm hrel hnm hb hc hnf hsig hok
    simp only [TypedM] at hty
    obtain ⟨hti, han, tyb, tyi⟩ := hty
    simp only [Fun.Term.callsMain, Bool.or_eq_false_iff] at hm
    have f1 : Fresh st st1 := hi.fresh
    have f2 : Fresh st1 st2 := hbd.fresh
    have hxb : x ∈ binderNames (.letIn x σ bound body an) := by simp [binderNames]
    have hgx : GoodId G ⟨x, 0⟩ := hb.good hxb
    obtain ⟨ci, ok1⟩ := ihi _ τ _ tyi hm.2 (hrel.snoc _) (hnm.cons (hb x hxb).1 hgx)
      (hb.sub (by bsub))
      (hc.weaken_cons _ (fun b0 hb0 e =>
        bindersOccurFree_false hnf b0 hb0 (by rw [e]; simp [compileBinding, guardBinders])))
      (hsig.of_fresh f2) hok
    exact ihb Γ σ Δ tyb hm.1 hrel (hnm.mono f1) ((hb.sub (by bsub)).mono f1)
      (TOK.mu hgx (tyDeclared_of_typed env tyb) ci) hsig ok1
  | @core_let_codata x σ bound body an c st inStmt st1 q st2 hi _ hbd ihi ihb =>
    intro Γ τ Δ hty hm hrel hnm hb hc hnf hsig hok
    simp only [TypedM] at hty
    obtain ⟨hti, han, tyb, tyi⟩ := hty
    simp only [Fun.Term.callsMain, Bool.or_eq_false_iff] at hm
    have f1 : Fresh st st1 := hi.fresh
    have f2 : Fresh st1 st2 := hbd.fresh
    have hxb : x ∈ binderNames (.letIn x σ bound body an) := by simp [binderNames]
    have hgx : GoodId G ⟨x, 0⟩ := hb.good hxb
    obtain ⟨ci, ok1⟩ := ihi _ τ _ tyi hm.2 (hrel.snoc _) (hnm.cons (hb x hxb).1 hgx)
      (hb.sub (by bsub))
      (hc.weaken_cons _ (fun b0 hb0 e =>
        bindersOccurFree_false hnf b0 hb0 (by rw [e]; simp [compileBinding, guardBinders])))
      (hsig.of_fresh f2) hok
    obtain ⟨cq, ok2⟩ := ihb Γ σ Δ tyb hm.1 hrel (hnm.mono f1) ((hb.sub (by bsub)).mono f1) rfl
      hsig ok1
    exact ⟨SOK.cut (tyDeclared_of_typed env tyb) cq (TOK.mu hgx (tyDeclared_of_typed env tyb) ci),
      ok2⟩
  | @core_case scrut ta cs an c st cs' st1 σ' s st2 hcl hσ hsc ihcl ihsc =>
    intro Γ τ Δ hty hm hrel hnm hb hc hnf hsig hok
    simp only [TypedM] at hty
    obtain ⟨hti, han, σ, d, tys, hd, tcs, hcov⟩ := hty
    obtain rfl : σ' = σ := Option.some.inj (hσ.symm.trans (getType_of_typed p scrut Γ σ tys))
    simp only [Fun.Term.callsMain, Bool.or_eq_false_iff] at hm
    have hτd := tyDeclared_of_tyIn env hti
    have hsh := shareUnless_typed (st := st) (decide (clausesLen cs ≤ 1) || isLeaf c) hg hc hτd hnm
    have hfr := shareUnless_fresh (decide (clausesLen cs ≤ 1) || isLeaf c) c st
    have htf := shareUnless_tfv (st := st) (decide (clausesLen cs ≤ 1) || isLeaf c) hc.1
    generalize shareUnless (decide (clausesLen cs ≤ 1) || isLeaf c) c st = r at *
    have htags : cs'.tags = _ := hcl.tags
    have f1 : Fresh r.2 st1 := hcl.fresh
    have f2 : Fresh st1 st2 := hsc.fresh
    have s1 := hsig.of_fresh f2
    obtain ⟨hr1, ok0⟩ := hsh (s1.of_fresh f1) hok
    have b0 := hb.mono hfr
    obtain ⟨cc, ok1⟩ := ihcl Γ d.ctors τ Δ tcs hm.2 hrel (hnm.mono hfr) (b0.sub (by bsub)) hr1
      (fun b hb' => bindersOccurFree_false hnf b (htf b hb')) s1 ok0
    obtain ⟨T, hT, hfd⟩ := findDecl_data env hd
    have hnc : TOK P G Δ .cns (compileTy σ') (Term.xcase .cns (compileTy σ') cs') := by
      rw [hT]
      refine TOK.xcase hfd cc (covers_of_has cs' compileCtor (·.name) (fun _ => rfl) d.ctors
        (fun a ha => cs'.has_of_mem_tags (by
          rw [htags, hcov]; exact List.mem_map.2 ⟨_, List.mem_map.2 ⟨a, ha, rfl⟩, rfl⟩))) ?_
      rw [htags, hcov]
      simp [List.map_map, compileCtor]
    exact ihsc Γ σ' Δ tys hm.1 hrel ((hnm.mono hfr).mono f1) ((b0.sub (by bsub)).mono f1) hnc
      hsig ok1
  | @c_var x t chi ty st =>
    intro Γ τ Δ ht hm hrel hnm hb hty hsig hok
    simp only [TypedM] at ht
    obtain ⟨-, hτ, -, b, hl, hchi, rfl⟩ := ht
    cases hτ
    have hlk := hrel.lookup hl
    refine ⟨TOK.var ?_ (hnm.good hlk), hok⟩
    simpa [hchi, compileChi] using hlk
  | c_lit =>
    intro Γ τ Δ ht hm hrel hnm hb hty hsig hok
    simp only [TypedM] at ht
    subst ht
    exact ⟨TOK.lit _, hok⟩
  | @c_op a o b ty st fst st1 snd st2 ha hb' iha ihb =>
    intro Γ τ Δ ht hm hrel hnm hb hty hsig hok
    simp only [TypedM] at ht
    obtain ⟨rfl, tya, tyb⟩ := ht
    simp only [Fun.Term.callsMain, Bool.or_eq_false_iff] at hm
    have f1 : Fresh st st1 := ha.fresh
    have f2 : Fresh st1 st2 := hb'.fresh
    obtain ⟨ca, ok1⟩ := iha Γ .i64 Δ tya hm.1 hrel hnm (hb.sub (by bsub)) rfl (hsig.of_fresh f2) hok
    obtain ⟨cb, ok2⟩ := ihb Γ .i64 Δ tyb hm.2 hrel (hnm.mono f1) ((hb.sub (by bsub)).mono f1) rfl
      hsig ok1
    exact ⟨TOK.op ca cb, ok2⟩
  | @c_ctor k args t ty st args' st1 _ ih =>
    intro Γ τ Δ hty hm hrel hnm hb _ hsig hok
    simp only [TypedM] at hty
    obtain ⟨-, hτ, d, cc, hd, hcc, targs⟩ := hty
    cases hτ
    simp only [Fun.Term.callsMain] at hm
    obtain ⟨ca, ok1⟩ := ih Γ cc.args Δ targs hm hrel hnm (hb.sub (by bsub)) hsig hok
    obtain ⟨T, hT, hfd⟩ := findDecl_data env hd
    rw [hT]
    exact ⟨TOK.xtor (sig := compileCtor cc) hfd (findSig_ctor hcc) ca, ok1⟩
  | @c_new cs t ty st cs' st1 hcl ih =>
    intro Γ τ Δ hty hm hrel hnm hb _ hsig hok
    simp only [TypedM] at hty
    obtain ⟨-, hτ, d, hd, tcs, hcov⟩ := hty
    cases hτ
    simp only [Fun.Term.callsMain] at hm
    have htags : cs'.tags = _ := hcl.tags
    obtain ⟨cc, ok1⟩ := ih Γ d.dtors Δ tcs hm hrel hnm (hb.sub (by bsub)) hsig hok
    obtain ⟨T, hT, hfd⟩ := findDecl_codata env hd
    rw [hT]
    refine ⟨TOK.xcase hfd cc (covers_of_has cs' compileDtor (·.name) (fun _ => rfl) d.dtors
      (fun a ha => cs'.has_of_mem_tags (by
        rw [htags, hcov]; exact List.mem_map.2 ⟨_, List.mem_map.2 ⟨a, ha, rfl⟩, rfl⟩))) ?_,
      ok1⟩
    rw [htags, hcov]
    simp [List.map_map, compileDtor]
  | @c_label a t lty ty st s st1 _ ih =>
    intro Γ τ Δ hty hm hrel hnm hb _ hsig hok
    simp only [TypedM] at hty
    obtain ⟨hti, hτ, tyt⟩ := hty
    cases hτ
    simp only [Fun.Term.callsMain] at hm
    have hab : a ∈ binderNames (.label a t (some lty)) := by simp [binderNames]
    have hga : GoodId G ⟨a, 0⟩ := hb.good hab
    obtain ⟨cs, ok1⟩ := ih (Γ ++ [⟨a, .cns, lty⟩]) lty (compileBinding ⟨a, .cns, lty⟩ :: Δ)
      tyt hm (hrel.snoc _) (hnm.cons (hb a hab).1 hga) (hb.sub (by bsub))
      (TOK.var_head hga) hsig hok
    exact ⟨TOK.mu hga (tyDeclared_of_tyIn env hti) cs, ok1⟩
  | c_paren _ ih =>
    intro Γ τ Δ hty hm hrel hnm hb hty' hsig hok
    simp only [TypedM] at hty
    simp only [Fun.Term.callsMain] at hm
    exact ih Γ τ Δ hty hm hrel hnm (hb.sub (by bsub)) hty' hsig hok
  | @c_default t ty st s st' _ _ ih =>
    intro Γ τ Δ ht hm hrel hnm hb hty hsig hok
    subst hty
    have hga := hg.freshCovar st
    obtain ⟨hrel', hnm', hb'⟩ := push_covar hg (compileTy τ) hrel hnm hb
    obtain ⟨h1, h2⟩ := ih Γ τ _ ht hm hrel' hnm' hb' (TOK.var_head hga) hsig hok
    exact ⟨TOK.mu hga (tyDeclared_of_typed env ht) h1, h2⟩
  | subst_nil =>
    intro Γ bs Δ hty hm hrel hnm hb hsig hok
    simp only [ArgsM] at hty
    subst hty
    exact ⟨AOK.nil, hok⟩
  | @subst_covar term rest st x t r st1 hcv _ ih =>
    intro Γ bs Δ hty hm hrel hnm hb hsig hok
    simp only [ArgsM] at hty
    obtain ⟨b, bs', rfl, trest, hcase⟩ := hty
    simp only [Fun.Terms.callsMain, Bool.or_eq_false_iff] at hm
    rcases hcase with ⟨hchi, tyt⟩ | ⟨hchi, x', b', rfl, hl, hchi', hty'⟩
    · rw [covarArg_of_typed p tyt] at hcv
      cases hcv
    · simp only [covarArg, Option.some.injEq, Prod.mk.injEq] at hcv
      obtain ⟨rfl, rfl⟩ := hcv
      obtain ⟨cr, ok2⟩ := ih Γ bs' Δ trest hm.2 hrel hnm (hb.sub (by bsub)) hsig hok
      refine ⟨?_, ok2⟩
      have hlk := hrel.lookup hl
      refine AOK.cons (b := compileBinding b) (by simp [compileBinding, hchi, compileChi])
        (TOK.var ?_ (hnm.good hlk)) cr
      simpa [compileBinding, hchi, hchi', hty', compileChi] using hlk
  | @subst_cons term rest st t q st1 r st2 hcv hgt ht hr iht ihr =>
    intro Γ bs Δ hty hm hrel hnm hb hsig hok
    simp only [ArgsM] at hty
    obtain ⟨b, bs', rfl, trest, hcase⟩ := hty
    simp only [Fun.Terms.callsMain, Bool.or_eq_false_iff] at hm
    rcases hcase with ⟨hchi, tyt⟩ | ⟨hchi, x', b', rfl, hl, hchi', hty'⟩
    · obtain rfl : t = b.ty := Option.some.inj (hgt.symm.trans (getType_of_typed p term Γ b.ty tyt))
      have f1 : Fresh st st1 := ht.fresh
      have f2 : Fresh st1 st2 := hr.fresh
      obtain ⟨cq, ok1⟩ := iht Γ b.ty Δ tyt hm.1 hrel hnm (hb.sub (by bsub)) rfl
        (hsig.of_fresh f2) hok
      obtain ⟨cr, ok2⟩ := ihr Γ bs' Δ trest hm.2 hrel (hnm.mono f1) ((hb.sub (by bsub)).mono f1)
        hsig ok1
      exact ⟨AOK.cons (b := compileBinding b) (by simp [compileBinding, hchi, compileChi]) cq cr,
        ok2⟩
    · simp [covarArg] at hcv
  | clauses_nil =>
    intro Γ sigs τ Δ hty hm hrel hnm hb hc hfv hsig hok
    exact ⟨COK.nil, hok⟩
  | @clauses_cons pol x ns ctx body rest c st b st1 r st2 hbd hr ihb ihr =>
    intro Γ sigs τ Δ hty hm hrel hnm hb hc hfv hsig hok
    simp only [ClausesM] at hty
    obtain ⟨⟨cc, hcc, hnd, hlen, rfl, tyb⟩, trest⟩ := hty
    simp only [Fun.Clauses.callsMain, Bool.or_eq_false_iff] at hm
    have f1 : Fresh st st1 := hbd.fresh
    have f2 : Fresh st1 st2 := hr.fresh
    have hvars := Fun.Safety.bindNames_vars hlen
    have hrel1 : CtxRel (Γ ++ bindNames ns cc.args)
        (compileContext (bindNames ns cc.args) ++ Δ) :=
      hrel.append _ (by rw [hvars]; exact hnd)
    have hnames : ∀ a ∈ compileContext (bindNames ns cc.args), a.var.id = 0 ∧ a.var.name ∈ ns := by
      intro a ha
      obtain ⟨b0, hb0, rfl⟩ := mem_compileContext ha
      rw [← hvars]
      exact ⟨rfl, List.mem_map.2 ⟨b0, hb0, rfl⟩⟩
    have hbns : BIn G ns st := hb.sub (by bsub)
    have hgood : ∀ a ∈ compileContext (bindNames ns cc.args),
        a.var.name ∈ st.usedVars ∧ GoodId G a.var :=
      fun a ha => ⟨(hbns _ (hnames a ha).2).1, (hnames a ha).1, (hbns _ (hnames a ha).2).2⟩
    have hnm1 : NamesIn G (compileContext (bindNames ns cc.args) ++ Δ) st := hnm.append hgood
    have hc1 : TOK P G (compileContext (bindNames ns cc.args) ++ Δ) .cns (compileTy τ) c :=
      hc.weaken_append _ (fun b0 hb0 a ha e =>
        hfv b0 hb0 (by rw [← e]; simp [clausesNames, (hnames a ha).2]))
    obtain ⟨cb, ok1⟩ := ihb _ τ _ tyb hm.1 hrel1 hnm1 (hb.sub (by bsub)) hc1 (hsig.of_fresh f2) hok
    obtain ⟨cr, ok2⟩ := ihr Γ sigs τ Δ trest hm.2 hrel (hnm.mono f1) ((hb.sub (by bsub)).mono f1) hc
      (fun b0 hb0 hm' => hfv b0 hb0 (by simp [clausesNames, hm'])) hsig ok1
    exact ⟨COK.cons (findSig_ctor hcc) (ctxMatches_bindNames ns cc.args hlen)
      (fun a ha => (hgood a ha).2) cb cr, ok2⟩
  | coclauses_nil =>
    intro Γ sigs Δ hty hm hrel hnm hb hsig hok
    exact ⟨COK.nil, hok⟩
  | @coclauses_cons pol x ns ctx body rest st t b st1 r st2 hgt hbd hr ihb ihr =>
    intro Γ sigs Δ hty hm hrel hnm hb hsig hok
    simp only [CoclausesM] at hty
    obtain ⟨⟨cc, hcc, hnd, hlen, rfl, tyb⟩, trest⟩ := hty
    obtain rfl : t = cc.contTy := Option.some.inj (hgt.symm.trans (getType_of_typed p body _ _ tyb))
    simp only [Fun.Clauses.callsMain, Bool.or_eq_false_iff] at hm
    have f0 := fresh_freshCovar st
    have f1 : Fresh (freshCovar st).2 st1 := hbd.fresh
    have f2 : Fresh st1 st2 := hr.fresh
    have hga := hg.freshCovar st
    have hvars := Fun.Safety.bindNames_vars hlen
    have hnames : ∀ a ∈ compileContext (bindNames ns cc.args), a.var.id = 0 ∧ a.var.name ∈ ns := by
      intro a ha
      obtain ⟨b0, hb0, rfl⟩ := mem_compileContext ha
      rw [← hvars]
      exact ⟨rfl, List.mem_map.2 ⟨b0, hb0, rfl⟩⟩
    have hbns : BIn G ns st := hb.sub (by bsub)
    have hgood : ∀ a ∈ compileContext (bindNames ns cc.args),
        a.var.name ∈ (freshCovar st).2.usedVars ∧ GoodId G a.var :=
      fun a ha => ⟨f0.vars.subset (hbns _ (hnames a ha).2).1, (hnames a ha).1,
        (hbns _ (hnames a ha).2).2⟩
    obtain ⟨hrel0, hnm0, hb0⟩ := push_covar hg (compileTy cc.contTy) hrel hnm hb
    have hrel1 := hrel0.append (bindNames ns cc.args) (by rw [hvars]; exact hnd)
    have hnm1 := hnm0.append hgood
    have hca : TOK P G (compileContext (bindNames ns cc.args) ++
          ⟨⟨(freshCovar st).1, 0⟩, .cns, compileTy cc.contTy⟩ :: Δ) .cns
        (compileTy cc.contTy) (Term.var .cns ⟨(freshCovar st).1, 0⟩ (compileTy cc.contTy)) := by
      refine TOK.var ?_ hga
      rw [lookupBinding_append, lookupBinding_none_of]
      · exact lookupBinding_cons_self _ Δ
      · intro a ha e
        have h1 := (hbns _ (hnames a ha).2).1
        rw [e] at h1
        exact freshCovar_not_mem st h1
    obtain ⟨cb, ok1⟩ := ihb _ cc.contTy _ tyb hm.1 hrel1 hnm1 (hb0.sub (by bsub)) hca
      (hsig.of_fresh f2) hok
    obtain ⟨cr, ok2⟩ := ihr Γ sigs Δ trest hm.2 hrel ((hnm.mono f0).mono f1)
      (((hb.sub (by bsub)).mono f0).mono f1) hsig ok1
    refine ⟨COK.cons (findSig_dtor hcc) ?_ ?_ ?_ cr, ok2⟩
    · exact ctxMatches_append _ _ _ _ (ctxMatches_bindNames ns cc.args hlen) rfl rfl
    · intro a ha
      rcases List.mem_append.1 ha with ha | ha
      · exact (hgood a ha).2
      · simp only [List.mem_singleton] at ha
        subst ha
        exact hga
    · rw [List.append_assoc]
      exact cb

theorem typed_term (t : Fun.Term) : TCwc p P G t ∧ TComp p P G t :=
  ⟨fun Γ τ Δ _ _ _ _ hty hm hrel hnm hb hc h hsig hok =>
      typed_run env hg ((compiles_term t).1 _ _ _ _ h) Γ τ Δ hty hm hrel hnm hb hc hsig hok,
    fun Γ τ Δ _ _ _ hty hm hrel hnm hb h hsig hok =>
      typed_run env hg ((compiles_term t).2 _ _ _ _ h) Γ τ Δ hty hm hrel hnm hb rfl hsig hok⟩

theorem typed_subst : ∀ args : Fun.Terms, TSubst p P G args :=
  fun args Γ bs Δ _ _ _ hty hm hrel hnm hb h hsig hok =>
    typed_run env hg (compiles_subst args _ _ _ h) Γ bs Δ hty hm hrel hnm hb hsig hok

theorem typed_clauses : ∀ cs : Fun.Clauses, TClauses p P G cs :=
  fun cs Γ sigs τ Δ _ _ _ _ hty hm hrel hnm hb hc hfv h hsig hok =>
    typed_run env hg (compiles_clauses cs _ _ _ _ h) Γ sigs τ Δ hty hm hrel hnm hb hc hfv hsig hok

theorem typed_coclauses : ∀ cs : Fun.Clauses, TCoclauses p P G cs :=
  fun cs Γ sigs Δ _ _ _ hty hm hrel hnm hb h hsig hok =>
    typed_run env hg (compiles_coclauses cs _ _ _ h) Γ sigs Δ hty hm hrel hnm hb hsig hok

end

end Scc.Fun2Core.Typed
