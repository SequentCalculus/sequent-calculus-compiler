/-
  Scc.Fun2Core.SemBack — the backward half of the abstract chunk simulation (SemBase): if the Fun
  machine never gets stuck for a reason other than an arithmetic fault (`Safe`), every finished run
  of the Core machine is matched by a run of the Fun machine, and every Core trace is a prefix of a
  Fun trace.  Uses that in every chunk the Core machine advances or the Fun machine arrives at the
  evaluation of a smaller term (`cpos` of `ContAlt`), that the Core machine is deterministic (it is
  a function) and that its output only grows.
  Proof file; nothing here is executable model code.
-/
import Scc.Fun2Core.SemBase

namespace Scc.Fun2Core.Sem

theorem step_out_mono {q : Core.Prog} {S S' : Core.State} (h : Core.step q S = .next S') :
    S.out <+: S'.out := by
  unfold Core.step at h
  simp only [Core.stepCut, Core.State.pass, Core.State.invoke, Core.State.goto, Core.State.select,
    Core.stuck] at h
  repeat' (split at h)
  all_goals first
    | (cases h; exact List.prefix_refl _)
    | (cases h; exact List.prefix_append _ _)
    | cases h

theorem CSteps.out_mono {q S S' i} (h : CSteps q S S' i) : S.out <+: S'.out := by
  induction h with
  | refl S => exact List.prefix_refl _
  | step hs _ ih => exact (step_out_mono hs).trans ih

/-- with at most as much fuel as steps, the Core run is out of fuel at an intermediate state -/
theorem stepN_mid {q S S' i} (h : CSteps q S S' i) : ∀ m, m ≤ i →
    ∃ S'' : Core.State, Core.stepN q m S = ⟨S''.out, .outOfFuel⟩ ∧ S.out <+: S''.out ∧ S''.out <+: S'.out := by
  induction h with
  | refl S =>
    intro m hm
    have : m = 0 := by omega
    subst this
    exact ⟨S, rfl, List.prefix_refl _, List.prefix_refl _⟩
  | @step S S1 S' i hs hrest ih =>
    intro m hm
    cases m with
    | zero => exact ⟨S, rfl, List.prefix_refl _, (step_out_mono hs).trans hrest.out_mono⟩
    | succ m =>
      obtain ⟨S'', h1, h2, h3⟩ := ih m (by omega)
      exact ⟨S'', by rw [Core.stepN, hs]; exact h1, (step_out_mono hs).trans h2, h3⟩

/-- the Fun machine never gets stuck for a reason other than an arithmetic fault -/
def Safe (p : Fun.CheckedProgram) (s : Fun.State) (acc : Out) : Prop :=
  ∀ n, (Fun.runFrom p n s acc).res = .outOfFuel ∨ Finished (Fun.runFrom p n s acc).res

theorem Safe.steps {p s s' o j acc} (h : Safe p s acc) (hf : FSteps p s s' o j) :
    Safe p s' (o.reverse ++ acc) := by
  intro n
  have := h (j + n)
  rwa [runFrom_FSteps hf] at this

theorem finalOf_ne {sr : Fun.StepResult} {r : Fun.Result} (h : finalOf sr = some r) :
    r ≠ .outOfFuel := by
  cases sr <;> simp [finalOf] at h <;> subst h <;> intro e <;> cases e

theorem Last.fsteps {p s s1 s' o j} (hf : FSteps p s s1 [] j) (hl : Last p s1 s' o) :
    ∃ jt, FSteps p s s' o jt := by
  rcases hl with ⟨h1, h2⟩ | ⟨e, he, ho'⟩
  · subst h1; subst h2
    exact ⟨j, hf⟩
  · have h1 : FSteps p s1 s' o 1 := by
      subst ho'
      cases e with
      | none => exact .one he
      | some e => exact .oneEmit he
    have := hf.trans h1
    simp only [List.nil_append] at this
    exact ⟨j + 1, this⟩

/-- the backward half: from related states, if the Fun run is `Safe`, every finished Core run is
matched by a Fun run with the same trace and a matching result, and every Core trace is a prefix of
a Fun trace.  `μ = msize s` is the measure of the inner induction: a chunk without a Core step
leads to a smaller term (`cpos`). -/
theorem chunkSim_backward {p q R} (hsim : ChunkSim p q R) :
    ∀ (m μ : Nat) (s : Fun.State) (S : Core.State) (acc : Out), msize s = μ → R s S →
      S.out = acc.reverse → Safe p s acc →
      ((Core.stepN q m S).res ≠ .outOfFuel →
        ∃ n r, Fun.runFrom p n s acc = ⟨(Core.stepN q m S).out, r⟩ ∧
          ResMatch r (Core.stepN q m S).res) ∧
      (∃ n, (Core.stepN q m S).out <+: (Fun.runFrom p n s acc).out) := by
  intro m
  induction m using Nat.strongRecOn with
  | _ m ihm =>
    intro μ
    induction μ using Nat.strongRecOn with
    | _ μ ihμ =>
      intro s S acc hμ hR hout hsafe
      rcases hsim s S hR with ⟨j, s1, r, hf, hfin, hcore⟩ |
        ⟨j, s1, s', o, i, S', hf, hlast, _, hcpos, hc, ho, hR'⟩
      · have hrun : Fun.runFrom p (j + (0 + 1)) s acc = ⟨acc.reverse, r⟩ := by
          rw [runFrom_FSteps hf, runFrom_final hfin]; simp
        have hfi : Finished r := by
          have := hsafe (j + (0 + 1))
          rw [hrun] at this
          rcases this with h | h
          · exact absurd h (finalOf_ne hfin)
          · exact h
        obtain ⟨i, S1, r', hc, ho, hs, hm⟩ := hcore hfi
        by_cases hmi : m ≤ i
        · obtain ⟨S'', h1, h2, h3⟩ := stepN_mid hc m hmi
          rw [ho] at h3
          have he : S''.out = acc.reverse := by rw [← hout]; exact h3.eq_of_length_le h2.length_le
          rw [h1]
          refine ⟨fun h => absurd rfl h, 0, ?_⟩
          simp [Fun.runFrom, he]
        · obtain ⟨k, rfl⟩ : ∃ k, m = i + (k + 1) := ⟨m - i - 1, by omega⟩
          rw [stepN_CSteps hc, stepN_final hs, ho, hout]
          exact ⟨fun _ => ⟨_, r, hrun, hm⟩, j + (0 + 1), by rw [hrun]; exact List.prefix_refl _⟩
      · obtain ⟨jt, hft⟩ := hlast.fsteps hf
        have hsafe' := hsafe.steps hft
        have hout' : S'.out = (o.reverse ++ acc).reverse := by simp [ho, hout]
        by_cases hmi : m ≤ i
        · obtain ⟨S'', h1, _, h3⟩ := stepN_mid hc m hmi
          rw [h1]
          refine ⟨fun h => absurd rfl h, jt + 0, ?_⟩
          rw [runFrom_FSteps hft]
          simp only [Fun.runFrom]
          rw [← hout']
          exact h3
        · obtain ⟨m', rfl⟩ : ∃ m', m = i + m' := ⟨m - i, by omega⟩
          rw [stepN_CSteps hc]
          have key : ((Core.stepN q m' S').res ≠ .outOfFuel →
              ∃ n r, Fun.runFrom p n s' (o.reverse ++ acc) = ⟨(Core.stepN q m' S').out, r⟩ ∧
                ResMatch r (Core.stepN q m' S').res) ∧
              (∃ n, (Core.stepN q m' S').out <+: (Fun.runFrom p n s' (o.reverse ++ acc)).out) := by
            by_cases hi : 1 ≤ i
            · exact ihm m' (by omega) (msize s') s' S' _ rfl hR' hout' hsafe'
            · have hi0 : i = 0 := by omega
              subst hi0
              have hlt : msize s' < μ := by
                rcases hcpos rfl with h | h
                · exact absurd h hi
                · rw [← hμ]; exact h
              have := ihμ (msize s') hlt s' S' _ rfl hR' hout' hsafe'
              simpa using this
          obtain ⟨k1, k2⟩ := key
          constructor
          · intro hne
            obtain ⟨n, r, hn, hr⟩ := k1 hne
            exact ⟨jt + n, r, by rw [runFrom_FSteps hft]; exact hn, hr⟩
          · obtain ⟨n, hn⟩ := k2
            exact ⟨jt + n, by rw [runFrom_FSteps hft]; exact hn⟩

end Scc.Fun2Core.Sem
