/-
  Scc.Fun2Core.SemCorePure — what the Core ς-machine does with the pieces of a translated pure term:
  `+ - *` on both machines (`arith_compile`), a producer with a value in operand position (`PVal`,
  `core_operand'`), an operator applied to two such producers (`peval_op`), and the statement contexts
  and name conditions of argument lists (`appArgs`, `ArgCtx`, `argsSigBelow`).  The result for the
  translation of a pure term / argument list is `core_pure` / `core_args` of SemCorePure2.lean.
-/
import Scc.Fun2Core.SemCore
import Scc.Fun2Core.Lemmas

namespace Scc.Fun2Core.Sem

variable {G : Fun.Term → Prop} {q : Core.Prog} {p : Fun.CheckedProgram}

theorem arith_compile (o : Fun.BinOp) (x y : BitVec 64) :
    Core.arith (compileOp o) x y =
      (match Fun.arith o x y with
        | .ok r => .ok r
        | .error .divByZero => .error .divByZero
        | .error .overflow => .error .overflow
        | .error _ => .error .shape) := by
  cases o <;> simp only [compileOp, Core.arith, Fun.arith, beq_iff_eq, Bool.and_eq_true]
  -- `/` and `%`: the same two tests on both sides
  all_goals
    split
    · rfl
    · split
      next h => rw [if_pos (show x = BitVec.intMin 64 ∧ y = -1 from h)]
      next h => rw [if_neg (show ¬(x = BitVec.intMin 64 ∧ y = -1) from h)]

theorem compare_compile (s : Fun.IfSort) (x y : BitVec 64) :
    Core.compare (compileSort s) x y = Fun.compare s x y := by
  cases s <;> rfl

theorem split_cut_op1 {cty : Core.Ty} {A B c : Core.Term} {o : Core.BinOp} (hA : A.isVar = false)
    (hc : Inert c) :
    (Core.Stmt.cut cty (.op A o B) c).split = some (.prd, A, fun h => .cut cty (.op h o B) c) := by
  cases c with
  | xtor _ _ _ _ => exact False.elim hc
  | _ => simp [Core.Stmt.split, hA]

theorem split_cut_op2 {cty : Core.Ty} {A B c : Core.Term} {o : Core.BinOp} (hA : A.isVar = true)
    (hB : B.isVar = false) (hc : Inert c) :
    (Core.Stmt.cut cty (.op A o B) c).split = some (.prd, B, fun h => .cut cty (.op A o h) c) := by
  cases c with
  | xtor _ _ _ _ => exact False.elim hc
  | _ => simp [Core.Stmt.split, hA, hB]

theorem lookupInt_of_lookup {ρ : CEnv} {z : Core.Ident} {a : BitVec 64}
    (h : Core.Env.lookup ρ z = .ok (.int a)) : Core.Env.lookupInt ρ z = .ok a := by
  simp [Core.Env.lookupInt, h]

/-- `A` denotes in `ρ` a value satisfying `Φ`: a variable is bound to one, any other producer is
evaluated to one by the machine (counter `n`, and `n + 1` after the ς-step that lifts it) -/
structure PVal (q : Core.Prog) (A : Core.Term) (ρ : CEnv) (n : Nat) (Φ : CVal → Prop) : Prop where
  var : ∀ pc z ty, A = .var pc z ty → pc = .prd ∧ z.name ≠ sig ∧
    ∃ V, Core.Env.lookup ρ z = .ok V ∧ Φ V
  nonvar : A.isVar = false → PEval q A ρ n Φ ∧ PEval q A ρ (n + 1) Φ

/-- `core_operand` for a producer with a value -/
theorem core_operand' {A : Core.Term} {ρ : CEnv} {n : Nat}
    {Φ : CVal → Prop} (hA : PVal q A ρ n Φ) (Sx : Core.Term → Core.Stmt) (out : Out)
    (hsp : A.isVar = false → (Sx A).split = some (.prd, A, Sx)) :
    ∃ i ρ' n' z ty V, CSteps q ⟨Sx A, ρ, out, n⟩ ⟨Sx (.var .prd z ty), ρ', out, n'⟩ i ∧ n ≤ n' ∧
      SigExt n ρ ρ' ∧ Core.Env.lookup ρ' z = .ok V ∧ Φ V ∧ (z.name = sig → z.id < n') :=
  core_operand Sx out
    (fun pc z ty e => by
      obtain ⟨h1, h2, h3⟩ := hA.var pc z ty e
      exact ⟨h1, fun e' => absurd e' h2, h3⟩)
    (fun hnv => ⟨(hA.nonvar hnv).2, hsp hnv⟩)

/-- `Φ` for an integer -/
def IsInt (x : BitVec 64) (V : CVal) : Prop := V = .int x

/-- both operands of an operator are evaluated, left to right -/
theorem core_op_operands {A B : Core.Term} {o : Core.BinOp} {ρ : CEnv}
    {n : Nat} {x y : BitVec 64}
    (hA : PVal q A ρ n (IsInt x))
    (hB : ∀ ρ' n', SigExt n ρ ρ' → n ≤ n' → PVal q B ρ' n' (IsInt y))
    (c : Core.Term) (cty : Core.Ty) (out : Out) (hc : Inert c) :
    ∃ i ρ' n' z1 t1 z2 t2, CSteps q ⟨.cut cty (.op A o B) c, ρ, out, n⟩
        ⟨.cut cty (.op (.var .prd z1 t1) o (.var .prd z2 t2)) c, ρ', out, n'⟩ i ∧ n ≤ n' ∧
      SigExt n ρ ρ' ∧ Core.Env.lookup ρ' z1 = .ok (.int x) ∧ Core.Env.lookup ρ' z2 = .ok (.int y) := by
  obtain ⟨i1, ρ1, n1, z1, t1, V1, s1, hn1, e1, l1, rfl, b1⟩ :=
    core_operand' hA (fun h => .cut cty (.op h o B) c) out (fun hnv => split_cut_op1 hnv hc)
  obtain ⟨i2, ρ2, n2, z2, t2, V2, s2, hn2, e2, l2, rfl, b2⟩ :=
    core_operand' (hB ρ1 n1 e1 hn1) (fun h => .cut cty (.op (.var .prd z1 t1) o h) c) out
      (fun hnv => split_cut_op2 rfl hnv hc)
  refine ⟨i1 + i2, ρ2, n2, z1, t1, z2, t2, s1.trans s2, by omega, e1.trans e2 hn1, ?_, l2⟩
  rw [e2.lookup z1 b1]
  exact l1

/-- the value of an operator applied to producers with integer values -/
theorem peval_op {A B : Core.Term} {o : Fun.BinOp} {ρ : CEnv}
    {n : Nat} {x y r : BitVec 64}
    (hA : PVal q A ρ n (IsInt x))
    (hB : ∀ ρ' n', SigExt n ρ ρ' → n ≤ n' → PVal q B ρ' n' (IsInt y))
    (har : Fun.arith o x y = .ok r) :
    PEval q (.op A (compileOp o) B) ρ n (IsInt r) := by
  intro c cty out hc
  obtain ⟨i, ρ', n', z1, t1, z2, t2, hs, hn, he, l1, l2⟩ :=
    core_op_operands hA hB c cty out hc
  refine ⟨i, ρ', n', _, .int r, hs, hn, he, rfl, ?_, rfl⟩
  simp [Core.prdVal, lookupInt_of_lookup l1, lookupInt_of_lookup l2, arith_compile, har]

theorem PVal.imp {A ρ n} {Φ Ψ : CVal → Prop} (h : PVal q A ρ n Φ) (hi : ∀ V, Φ V → Ψ V) :
    PVal q A ρ n Ψ := by
  refine ⟨fun pc z ty e => ?_, fun hnv => ?_⟩
  · obtain ⟨h1, h2, V, h3, h4⟩ := h.var pc z ty e
    exact ⟨h1, h2, V, h3, hi V h4⟩
  · obtain ⟨g1, g2⟩ := h.nonvar hnv
    constructor
    · intro c cty out hc
      obtain ⟨i, ρ', n', A', V, a1, a2, a3, a4, a5, a6⟩ := g1 c cty out hc
      exact ⟨i, ρ', n', A', V, a1, a2, a3, a4, a5, hi V a6⟩
    · intro c cty out hc
      obtain ⟨i, ρ', n', A', V, a1, a2, a3, a4, a5, a6⟩ := g2 c cty out hc
      exact ⟨i, ρ', n', A', V, a1, a2, a3, a4, a5, hi V a6⟩

def appArgs : Core.Args → Core.Args → Core.Args
  | .nil => fun bs => bs
  | .cons pc t r => fun bs => .cons pc t (appArgs r bs)

theorem appArgs_nil : ∀ (as : Core.Args), appArgs as .nil = as
  | .nil => rfl
  | .cons pc t r => by simp [appArgs, appArgs_nil r]

theorem appArgs_assoc : ∀ (a b c : Core.Args), appArgs (appArgs a b) c = appArgs a (appArgs b c)
  | .nil => fun _ _ => rfl
  | .cons pc t r => fun b c => by simp [appArgs, appArgs_assoc r b c]

theorem argsAllVar_app : ∀ (a b : Core.Args),
    argsAllVar (appArgs a b) = (argsAllVar a && argsAllVar b)
  | .nil => fun b => by simp [appArgs, argsAllVar]
  | .cons pc t r => fun b => by simp [appArgs, argsAllVar, argsAllVar_app r b, Bool.and_assoc]

theorem args_split_app : ∀ (pre as : Core.Args), argsAllVar pre = true →
    (appArgs pre as).split =
      (match as.split with
        | some (pc, u, A) => some (pc, u, fun h => appArgs pre (A h))
        | none => none)
  | .nil, as, _ => by
    simp only [appArgs]
    cases as.split with
    | none => rfl
    | some x => obtain ⟨pc, u, A⟩ := x; rfl
  | .cons pc t r, as, h => by
    simp only [argsAllVar, Bool.and_eq_true] at h
    simp only [appArgs, Core.Args.split, h.1, if_true, args_split_app r as h.2]
    cases as.split with
    | none => rfl
    | some x => obtain ⟨pc', u, A⟩ := x; rfl

theorem args_split_cons_nonvar {pc : Core.PC} {t : Core.Term} {r : Core.Args}
    (h : t.isVar = false) : (Core.Args.cons pc t r).split = some (pc, t, fun h => .cons pc h r) := by
  simp [Core.Args.split, h]

/-- statement contexts whose ς-step is determined by the argument list -/
def ArgCtx (Sc : Core.Args → Core.Stmt) : Prop :=
  ∀ as pc u A, as.split = some (pc, u, A) → (Sc as).split = some (pc, u, fun h => Sc (A h))

theorem argCtx_xtor (cty ty : Core.Ty) (k : Core.Ident) (c : Core.Term) :
    ArgCtx (fun as => .cut cty (.xtor .prd k as ty) c) := by
  intro as pc u A h
  simp [Core.Stmt.split, h]

theorem argCtx_call (f : Core.Ident) (ty : Core.Ty) : ArgCtx (fun as => .call f as ty) := by
  intro as pc u A h
  simp [Core.Stmt.split, h]

/-- every variable of an all-variable argument list that is machine-fresh has index below `n` -/
def argsSigBelow (n : Nat) : Core.Args → Prop
  | .nil => True
  | .cons _ (.var _ z _) r => (z.name = sig → z.id < n) ∧ argsSigBelow n r
  | .cons _ _ r => argsSigBelow n r

theorem argVals_sigExt {n : Nat} {ρ ρ' : CEnv} (he : SigExt n ρ ρ') :
    ∀ (as : Core.Args), argsSigBelow n as → Core.argVals ρ' as = Core.argVals ρ as
  | .nil => fun _ => rfl
  | .cons pc t r => fun h => by
    cases t with
    | var pc' z ty =>
      simp only [argsSigBelow] at h
      simp only [Core.argVals, he.lookup z h.1, argVals_sigExt he r h.2]
    | _ => rfl

theorem argsSigBelow_mono {n m : Nat} (hnm : n ≤ m) : ∀ (as : Core.Args), argsSigBelow n as →
    argsSigBelow m as
  | .nil => fun _ => trivial
  | .cons pc t r => fun h => by
    cases t with
    | var pc' z ty =>
      simp only [argsSigBelow] at h ⊢
      exact ⟨fun e => by have := h.1 e; omega, argsSigBelow_mono hnm r h.2⟩
    | _ =>
      simp only [argsSigBelow] at h ⊢
      exact argsSigBelow_mono hnm r h

theorem argsSigBelow_app {n : Nat} : ∀ (a b : Core.Args), argsSigBelow n a → argsSigBelow n b →
    argsSigBelow n (appArgs a b)
  | .nil => fun b _ hb => hb
  | .cons pc t r => fun b ha hb => by
    cases t with
    | var pc' z ty =>
      simp only [argsSigBelow, appArgs] at ha ⊢
      exact ⟨ha.1, argsSigBelow_app r b ha.2 hb⟩
    | _ =>
      simp only [argsSigBelow, appArgs] at ha ⊢
      exact argsSigBelow_app r b ha hb

theorem argVals_app_single {ρ : CEnv} {pc pc' : Core.PC} {z : Core.Ident} {ty : Core.Ty} {V : CVal} :
    ∀ (pre : Core.Args) (Vs : List CVal), Core.argVals ρ pre = .ok Vs →
      Core.Env.lookup ρ z = .ok V →
      Core.argVals ρ (appArgs pre (.cons pc (.var pc' z ty) .nil)) = .ok (Vs ++ [V])
  | .nil => fun Vs h hz => by
    simp only [Core.argVals, Except.ok.injEq] at h
    subst h
    simp [appArgs, Core.argVals, hz]
  | .cons pc1 t r => fun Vs h hz => by
    cases t with
    | var pc2 z2 ty2 =>
      simp only [Core.argVals] at h
      cases h1 : Core.Env.lookup ρ z2 with
      | error e => simp [h1] at h
      | ok v =>
        cases h2 : Core.argVals ρ r with
        | error e => simp [h1, h2] at h
        | ok vs =>
          simp only [h1, h2, Except.ok.injEq] at h
          subst h
          simp [appArgs, Core.argVals, h1, argVals_app_single r vs h2 hz]
    | _ => simp [Core.argVals] at h

end Scc.Fun2Core.Sem
