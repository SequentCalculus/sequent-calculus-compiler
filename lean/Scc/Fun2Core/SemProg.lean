/-
  Scc.Fun2Core.SemProg — program level of the semantic part of C02: the context `Ctx` of the
  simulation is established from `compileProg p = .ok q`, two decidable conditions (`progOk p`,
  `coreClosed q`) and the typing of the source program, `Typed.ProgM p` (`ctx_of_compileProg`).
  The initial states and the two halves of the statement: Scc/Fun2Core/SemMain.lean.
-/
import Scc.Fun2Core.SemSim12

namespace Scc.Fun2Core.Sem

def defOk (p : Fun.CheckedProgram) (d : Fun.Def) : Bool :=
  good p d.body && decide (d.ctx.map (·.var)).Nodup &&
  (fv d.body).all (fun x => (d.ctx.map (·.var)).contains x) &&
  !(d.ctx.map (·.var)).contains sig && !(binderNames d.body).contains sig

def isI64T : Fun.Ty → Bool
  | .i64 => true
  | _ => false

/-- conditions on the source program: every definition is in the fragment (`good`), closed, with
pairwise distinct parameters, no name `ς`; definition names are pairwise distinct; the parameters of
`main` are producers of type `i64`, its result is an `i64` -/
def progOk (p : Fun.CheckedProgram) : Bool :=
  p.defs.all (defOk p) && decide (p.defs.map (·.name)).Nodup &&
  p.defs.all (fun d => d.name != "main" || d.ctx.all (fun b => b.chi == .prd)) &&
  p.defs.all (fun d => d.name != "main" || (d.ctx.all (fun b => isI64T b.ty) && isI64T d.retTy))

/-- condition on the translation: the body of every definition mentions only its parameters -/
def coreClosed (q : Core.Prog) : Bool :=
  q.defs.all fun D => (tfvStmt D.body []).all fun b => D.ctx.any fun b' => decide (b'.var = b.var)

theorem compileDefs_mem (cts : List Core.TypeDecl) : ∀ (defs : List Fun.Def) (ul : List String)
    (acc res : List Core.Def), compileDefs cts defs ul acc = .ok res →
    (∀ D ∈ acc, D ∈ res) ∧ ∀ d ∈ defs, ∃ ul0 r,
      (if d.name == "main" then compileMain d cts ul0 else compileDef d cts ul0) = .ok r ∧
      ∀ D ∈ r.1, D ∈ res
  | [] => fun ul acc res h => by
    cases h
    exact ⟨fun D hD => hD, fun d hd => by simp at hd⟩
  | d :: rest => fun ul acc res h => by
    obtain ⟨ds, ul', acc', hc, hp, hrest⟩ := compileDefs_cons_ok h
    obtain ⟨h1, h2⟩ := compileDefs_mem cts rest ul' acc' res hrest
    refine ⟨fun D hD => h1 D (hp.mem_iff.2 (List.mem_append_left _ hD)), fun d' hd' => ?_⟩
    rcases List.mem_cons.1 hd' with rfl | hd'
    · exact ⟨ul, (ds, ul'), hc, fun D hD => h1 D (hp.mem_iff.2 (List.mem_append_right _ hD))⟩
    · exact h2 d' hd'

theorem defOk_facts {p : Fun.CheckedProgram} {d : Fun.Def} (h : defOk p d = true) :
    good p d.body = true ∧ (d.ctx.map (·.var)).Nodup ∧ (∀ x ∈ fv d.body, x ∈ d.ctx.map (·.var)) ∧
    sig ∉ d.ctx.map (·.var) ∧ sig ∉ binderNames d.body := by
  simp only [defOk, Bool.and_eq_true, decide_eq_true_eq, List.all_eq_true, Bool.not_eq_true',
    List.contains_eq_mem, decide_eq_false_iff_not] at h
  obtain ⟨⟨⟨⟨h1, h2⟩, h3⟩, h4⟩, h5⟩ := h
  exact ⟨h1, h2, fun x hx => by simpa using h3 x hx, by simpa using h4, by simpa using h5⟩

theorem initNames {p : Fun.CheckedProgram} {d : Fun.Def} (h : defOk p d = true)
    (cts : List Core.TypeDecl) (ul : List String) : TermNames d.body (initState d cts ul) := by
  obtain ⟨_, _, hcl, hs1, hs2⟩ := defOk_facts h
  refine ⟨fun x hx => ?_, fun x hx => (mem_usedBinders _ _).2 (.inl hx), ?_⟩
  · refine (mem_usedBinders _ _).2 (.inr ((mem_ctxVars _).2 ?_))
    obtain ⟨b, hb, e⟩ := List.mem_map.1 (hcl x hx)
    exact ⟨b, hb, e⟩
  · intro hmem
    rcases (mem_usedBinders _ _).1 hmem with h' | h'
    · exact hs2 h'
    · obtain ⟨b, hb, e⟩ := (mem_ctxVars _).1 h'
      exact hs1 (List.mem_map.2 ⟨b, hb, e⟩)

theorem params_used {d : Fun.Def} (cts : List Core.TypeDecl) (ul : List String) :
    ∀ x ∈ d.ctx.map (·.var), x ∈ (initState d cts ul).usedVars := by
  intro x hx
  obtain ⟨b, hb, e⟩ := List.mem_map.1 hx
  exact (mem_usedBinders _ _).2 (.inr ((mem_ctxVars _).2 ⟨b, hb, e⟩))

/-- the body of a definition, translated from the initial state after one fresh name, is
`Compiled` if what it lifts is in the program and the consumer is named by that state -/
theorem compiled_body {p : Fun.CheckedProgram} {q : Core.Prog} {d : Fun.Def}
    {cts : List Core.TypeDecl} {ul : List String} {c : Core.Term} {st0 st' : CompileState}
    {body : Core.Stmt} (hd : defOk p d = true) (hcts : cts = q.codataTypes)
    (hfs : FS (initState d cts ul) st0) (hx : compileWithCont d.body c st0 = .ok (body, st'))
    (hmem : ∀ D ∈ st'.liftedStatements, D ∈ q.defs) (hcn : ConsNames c st0 0) :
    Compiled q 0 d.body c body := by
  refine ⟨st0, st', hx, ⟨hmem, ?_⟩, (initNames hd cts ul).of_sub (fun _ h => h) (fun _ h => h) hfs,
    hcn⟩
  rw [(compileWithCont_fresh hx).codata, hfs.1.codata]
  exact hcts

theorem compileDef_facts {p : Fun.CheckedProgram} {q : Core.Prog} {d : Fun.Def}
    {cts : List Core.TypeDecl} {ul : List String}
    {r : List Core.Def × List String} (h : compileDef d cts ul = .ok r) (hd : defOk p d = true)
    (hcts : cts = q.codataTypes) (hmem : ∀ D ∈ r.1, D ∈ q.defs) :
    ∃ D a τ τ', D ∈ q.defs ∧ D.name = ⟨d.name, 0⟩ ∧
      D.ctx = compileContext d.ctx ++ [⟨⟨a, 0⟩, .cns, τ⟩] ∧
      Compiled q 0 d.body (.var .cns ⟨a, 0⟩ τ') D.body ∧
      (∃ τb, getType d.body = some τb ∧ τ' = compileTy τb) ∧ a ∉ d.ctx.map (·.var) := by
  obtain ⟨t, body, st', hty, hx, rfl⟩ := compileDef_inv h
  refine ⟨⟨⟨d.name, 0⟩, compileContext d.ctx ++
      [⟨⟨(freshCovar (initState d cts ul)).1, 0⟩, .cns, compileTy d.retTy⟩], body⟩,
    (freshCovar (initState d cts ul)).1, compileTy d.retTy, compileTy t, hmem _ (by simp),
    rfl, rfl, ?_, ⟨t, hty, rfl⟩, fun hm => freshCovar_not_mem _ (params_used cts ul _ hm)⟩
  refine compiled_body hd hcts (fs_stepRel.freshCovar _) hx (fun D hD => hmem D (by simp [hD])) ?_
  intro b hb
  simp only [occTerm, List.mem_singleton] at hb
  subst hb
  exact .inr ⟨freshCovar_ne_sig _, by rw [freshCovar_used]; exact List.mem_cons_self⟩

theorem compileMain_facts {p : Fun.CheckedProgram} {q : Core.Prog} {d : Fun.Def}
    {cts : List Core.TypeDecl} {ul : List String}
    {r : List Core.Def × List String} (h : compileMain d cts ul = .ok r) (hd : defOk p d = true)
    (hcts : cts = q.codataTypes) (hmem : ∀ D ∈ r.1, D ∈ q.defs) :
    ∃ D x0 τ, D ∈ q.defs ∧ D.name = ⟨d.name, 0⟩ ∧ D.ctx = compileContext d.ctx ∧
      Compiled q 0 d.body (.mu .cns ⟨x0, 0⟩ τ (.exit (.var .prd ⟨x0, 0⟩ τ) τ)) D.body ∧
      (∃ τb, getType d.body = some τb ∧ τ = compileTy τb) := by
  obtain ⟨t, body, st', hty, hx, rfl⟩ := compileMain_inv h
  refine ⟨⟨⟨d.name, 0⟩, compileContext d.ctx, body⟩, (freshVar (initState d cts ul)).1, compileTy t,
    hmem _ (by simp), rfl, rfl, ?_, ⟨t, hty, rfl⟩⟩
  refine compiled_body hd hcts (fs_stepRel.freshVar _) hx (fun D hD => hmem D (by simp [hD])) ?_
  intro b hb
  simp only [occTerm, occStmt, List.mem_singleton] at hb
  subst hb
  exact .inr ⟨freshVar_ne_sig _, by rw [freshVar_used]; exact List.mem_cons_self⟩

theorem compileDefs_id0 (cts : List Core.TypeDecl) : ∀ (defs : List Fun.Def) (ul : List String)
    (acc res : List Core.Def), compileDefs cts defs ul acc = .ok res →
    (∀ D ∈ acc, D.name.id = 0) → ∀ D ∈ res, D.name.id = 0
  | [] => fun ul acc res h ha => by
    cases h
    exact ha
  | d :: rest => fun ul acc res h ha => by
    obtain ⟨ds, ul', acc', hc, hp, hrest⟩ := compileDefs_cons_ok h
    refine compileDefs_id0 cts rest ul' acc' res hrest fun D hD => ?_
    rcases List.mem_append.1 (hp.mem_iff.1 hD) with h' | h'
    · exact ha D h'
    · obtain ⟨gl, _, _, _, hm⟩ := compileOne_names hc
      have : D.name ∈ ds.map (·.name) := List.mem_map.2 ⟨D, h', rfl⟩
      rw [hm] at this
      rcases List.mem_cons.1 this with e | e
      · rw [e]; rfl
      · obtain ⟨x, _, e'⟩ := List.mem_map.1 e
        rw [← e']; rfl

theorem eq_of_name_eq {defs : List Core.Def} (hn : (defs.map (·.name)).Nodup) {D D' : Core.Def}
    (hD : D ∈ defs) (hD' : D' ∈ defs) (e : D.name = D'.name) : D = D' := by
  induction defs with
  | nil => simp at hD
  | cons a l ih =>
    simp only [List.map_cons, List.nodup_cons] at hn
    rcases List.mem_cons.1 hD with rfl | h1 <;> rcases List.mem_cons.1 hD' with rfl | h2
    · rfl
    · exact absurd (List.mem_map.2 ⟨D', h2, e.symm⟩) hn.1
    · exact absurd (List.mem_map.2 ⟨D, h1, e⟩) hn.1
    · exact ih hn.2 h1 h2

theorem find_unique {α : Type} {P : α → Bool} : ∀ {l : List α} {a : α}, a ∈ l → P a = true →
    (∀ b ∈ l, P b = true → b = a) → l.find? P = some a
  | [], _, h, _, _ => by simp at h
  | x :: l, a, h, hp, hu => by
    by_cases hx : P x = true
    · have := hu x (by simp) hx
      subst this
      simp [hx]
    · have hxa : x ≠ a := fun e => hx (e ▸ hp)
      simp only [List.find?_cons, hx]
      rcases List.mem_cons.1 h with rfl | h'
      · exact absurd rfl hxa
      · exact find_unique h' hp (fun b hb => hu b (by simp [hb]))

theorem progOk_facts {p : Fun.CheckedProgram} (h : progOk p = true) :
    (∀ d ∈ p.defs, defOk p d = true) ∧ (p.defs.map (·.name)).Nodup ∧
    (∀ d ∈ p.defs, d.name = "main" → ∀ b ∈ d.ctx, b.chi = .prd) := by
  simp only [progOk, Bool.and_eq_true, List.all_eq_true, decide_eq_true_eq,
    Bool.or_eq_true, bne_iff_ne, ne_eq] at h
  obtain ⟨⟨⟨h2, h3⟩, h4⟩, _⟩ := h
  refine ⟨h2, h3, fun d hd hm b hb => ?_⟩
  rcases h4 d hd with h' | h'
  · exact absurd hm h'
  · have := h' b hb
    cases hb' : b.chi with
    | prd => rfl
    | cns => rw [hb'] at this; exact absurd this (by decide)

theorem isI64T_iff {τ : Fun.Ty} : isI64T τ = true ↔ τ = .i64 := by
  cases τ <;> simp [isI64T]

theorem progOk_mainTys {p : Fun.CheckedProgram} (h : progOk p = true) :
    ∀ d ∈ p.defs, d.name = "main" → (∀ b ∈ d.ctx, b.ty = .i64) ∧ d.retTy = .i64 := by
  simp only [progOk, Bool.and_eq_true, List.all_eq_true, decide_eq_true_eq,
    Bool.or_eq_true, bne_iff_ne, ne_eq] at h
  obtain ⟨_, h5⟩ := h
  intro d hd hm
  rcases h5 d hd with h' | h'
  · exact absurd hm h'
  · exact ⟨fun b hb => isI64T_iff.1 (h'.1 b hb), isI64T_iff.1 h'.2⟩

theorem compileProg_defs {p : Fun.CheckedProgram} {q : Core.Prog} (h : compileProg p = .ok q) :
    q.codataTypes = p.codataTypes.map (fun d => ⟨⟨d.name, 0⟩, d.dtors.map compileDtor⟩) ∧
    compileDefs q.codataTypes p.defs (p.defs.foldl (fun acc d => setInsert d.name acc) []) [] = .ok q.defs := by
  unfold compileProg at h
  simp only at h
  split at h
  · simp at h
  · rename_i defs hd
    simp only [Except.ok.injEq] at h
    subst h
    exact ⟨rfl, hd⟩

theorem ident_beq0 (a b : String) : ((⟨a, 0⟩ : Core.Ident) == ⟨b, 0⟩) = (a == b) := by
  show (a == b && (0:Nat) == 0) = (a == b)
  simp

/-- `tysName_printTy` (Scc/Fun2Core/SemCodTypingLemmas.lean) under a second name -/
theorem tysName_eq : ∀ (ts : Fun.Tys) (fuel : Nat), Fun.tyDepth.go ts ≤ fuel → ts ≠ .nil →
      ", ".intercalate (ts.toList.map (Fun.tyName fuel)) = printTys ts :=
  tysName_printTy

theorem codOK_of_compileProg {p : Fun.CheckedProgram} {q : Core.Prog} (hc : compileProg p = .ok q) :
    CodOK p q := by
  obtain ⟨hqc, _⟩ := compileProg_defs hc
  intro τ
  cases τ with
  | i64 => rfl
  | decl n a =>
    simp only [compileTy, Core.isCodata, Fun.isCodataTy, hqc, List.any_map]
    rw [tyName_printTy (.decl n a) _ (Nat.le_succ _)]
    congr 1
    funext d
    simp [ident_beq0]

theorem ctx_of_compileProg {p : Fun.CheckedProgram} {q : Core.Prog} (hc : compileProg p = .ok q)
    (hp : progOk p = true) (hq : coreClosed q = true) (hpm : Typed.ProgM p) : Ctx p q := by
  obtain ⟨hdefsok, hnd, _⟩ := progOk_facts hp
  obtain ⟨hqc, hdefs⟩ := compileProg_defs hc
  have hcod := codOK_of_compileProg hc
  have hmem := compileDefs_mem q.codataTypes p.defs _ [] q.defs hdefs
  refine ⟨hcod, hpm, ?_, ?_, ?_⟩
  · refine compileDefs_nodup _ _ _ _ _ hdefs ?_ (by simp) (fun d hd' => mem_usedLabels_init _ d hd')
    simp only [List.map_nil, List.nil_append]
    have : p.defs.map (fun d => ident0 d.name) = (p.defs.map (·.name)).map ident0 := by simp
    rw [this]
    exact List.Pairwise.map _ (fun a b hab h => hab (ident0_inj h)) hnd
  · intro D hD b hb
    simp only [coreClosed, List.all_eq_true, List.any_eq_true, decide_eq_true_eq] at hq
    exact hq D hD b hb
  · intro f d hf hfm
    obtain ⟨hdm, hname⟩ := findDef_mem hf
    obtain ⟨ul0, r, hr, hrm⟩ := hmem.2 d hdm
    have hnm : (d.name == "main") = false := by simp [hname, hfm]
    simp only [hnm, Bool.false_eq_true, if_false] at hr
    obtain ⟨D, a, τ, τ', h1, h2, h3, h4, h4', h5⟩ := compileDef_facts hr (hdefsok d hdm) rfl hrm
    obtain ⟨g1, g2, g3, _, _⟩ := defOk_facts (hdefsok d hdm)
    exact ⟨D, a, τ, τ', h1, by rw [h2, hname], h3, h4, h4', g1, h5, g2, g3⟩

end Scc.Fun2Core.Sem
