/-
  Scc.Fun2Core.TypedProg — C12, link fun2core: definitions and whole programs.
  For a checked program `p` that is well-typed in the monomorphic, annotated sense (`ProgM p`,
  Scc/Fun2Core/TypedSrc.lean), in which no definition calls `main` and every `main` returns `i64`:
    * `compileProg p` succeeds (`compileProg_ok`),
    * the result passes the executable Core type checker (`compileProg_wellTyped`),
    * all its identifiers have id 0 and names that are parameters / binders of `p` or generated
      (last conjunct of `compileProg_typed`: stated for any predicate `G` on names that holds for those),
    * its data and codata type names are disjoint (`compileProg_disjoint`); it is `strictOk` (`compileProg_strictOk`).
-/
import Scc.Fun2Core.TypedTotal

namespace Scc.Fun2Core.Typed
open Scc.Core
open Scc.Fun.Typing (lookupCtx bindNames clauseXtors)

variable {p : Fun.CheckedProgram} {P : Prog} {G : String → Prop}

/-- what is shown about every definition of the output -/
def GoodDef (P : Prog) (G : String → Prop) (D : Def) : Prop :=
  D.body.check P D.ctx = true ∧ allIdsStmt (GoodId G) D.body ∧ (∀ b ∈ D.ctx, GoodId G b.var) ∧
    D.body.strict P = true

def DefNamesGood (G : String → Prop) (d : Fun.Def) : Prop :=
  (∀ b ∈ d.ctx, G b.var) ∧ ∀ x ∈ binderNames d.body, G x

theorem ctxRel_nil (a : Binding) : CtxRel [] [a] := by
  intro x b hb
  simp [lookupCtx] at hb

theorem param_used (d : Fun.Def) (cts : List TypeDecl) (l : List String) {b : Fun.Binding}
    (hb : b ∈ d.ctx) : b.var ∈ (initState d cts l).usedVars :=
  (mem_usedBinders _ _).2 (.inr ((mem_ctxVars _).2 ⟨b, hb, rfl⟩))

theorem binder_used (d : Fun.Def) (cts : List TypeDecl) (l : List String) {x : String}
    (hx : x ∈ binderNames d.body) : x ∈ (initState d cts l).usedVars :=
  (mem_usedBinders _ _).2 (.inl hx)

theorem freshVar_mem (st : CompileState) : (freshVar st).1 ∈ (freshVar st).2.usedVars := by
  simp [freshVar, freshName]

/-- `Fun2Core.freshVar_not_mem` (Scc/Fun2Core/Fresh.lean) under the name of this namespace -/
theorem freshVar_not_mem (st : CompileState) : (freshVar st).1 ∉ st.usedVars :=
  Fun2Core.freshVar_not_mem st

theorem compileDef_eq (d : Fun.Def) (cts : List TypeDecl) (l : List String) :
    compileDef d cts l =
      (match getType d.body with
        | none => .error (noTy "def.rs: compile_def")
        | some t =>
          match compileWithCont d.body (.var .cns ⟨(freshCovar (initState d cts l)).1, 0⟩
              (compileTy t)) (freshCovar (initState d cts l)).2 with
          | .error e => .error e
          | .ok (body, st') => .ok (⟨⟨d.name, 0⟩, compileContext d.ctx ++
              [⟨⟨(freshCovar (initState d cts l)).1, 0⟩, .cns, compileTy d.retTy⟩], body⟩ ::
                st'.liftedStatements, st'.usedLabels)) := rfl

theorem compileMain_eq (d : Fun.Def) (cts : List TypeDecl) (l : List String) :
    compileMain d cts l =
      (match getType d.body with
        | none => .error (noTy "def.rs: compile_main")
        | some t =>
          match compileWithCont d.body (.mu .cns ⟨(freshVar (initState d cts l)).1, 0⟩
              (compileTy t) (.exit (.var .prd ⟨(freshVar (initState d cts l)).1, 0⟩ (compileTy t))
                (compileTy t))) (freshVar (initState d cts l)).2 with
          | .error e => .error e
          | .ok (body, st') => .ok (⟨⟨d.name, 0⟩, compileContext d.ctx, body⟩ ::
                st'.liftedStatements, st'.usedLabels)) := rfl

section
variable (env : Env p P) (hg : FreshGood G)
include env hg

/-- the body of a definition, translated with a typed consumer in a context related to the
parameters from a state without lifted definitions: the definition and what is lifted out of it are
typed -/
theorem defBody_typed {d : Fun.Def} {Δ : Ctx} {c : Term} {st st' : CompileState} {body : Stmt}
    (hdef : DefM p d) (hm : d.body.callsMain = false) (hrel : CtxRel d.ctx Δ) (hnm : NamesIn G Δ st)
    (hbin : BIn G (binderNames d.body) st) (hc : TOK P G Δ .cns (compileTy d.retTy) c)
    (hx : compileWithCont d.body c st = .ok (body, st')) (h0 : st.liftedStatements = [])
    (hsig : ∀ D ∈ (⟨⟨d.name, 0⟩, Δ, body⟩ : Def) :: st'.liftedStatements,
      P.defs.find? (fun d => d.name = D.name) = some D) :
    ∀ D ∈ (⟨⟨d.name, 0⟩, Δ, body⟩ : Def) :: st'.liftedStatements, GoodDef P G D := by
  have hsl : SigLifted P st' := fun D hD => hsig D (by simp [hD])
  have hok0 : LiftedOk P G st := by
    intro D hD
    rw [h0] at hD
    simp at hD
  obtain ⟨hs, hlo⟩ := (typed_term env hg d.body).1 d.ctx d.retTy _ _ _ body st' hdef.body hm hrel hnm
    hbin hc hx hsl hok0
  intro D hD
  rcases List.mem_cons.1 hD with rfl | hD
  · exact ⟨hs.1, hs.2.1, fun b hb => (hnm b hb).2, hs.2.2⟩
  · exact hlo D hD

/-- def.rs `compile_def`: the translated definition and the definitions lifted out of it are typed -/
theorem compileDef_typed {d : Fun.Def} {cts : List TypeDecl} {l : List String}
    {r : List Def × List String} (hdef : DefM p d) (hm : d.body.callsMain = false)
    (hgn : DefNamesGood G d) (h : compileDef d cts l = .ok r)
    (hsig : ∀ D ∈ r.1, P.defs.find? (fun d => d.name = D.name) = some D) :
    ∀ D ∈ r.1, GoodDef P G D := by
  rw [compileDef_eq] at h
  simp only [getType_of_typed p d.body d.ctx d.retTy hdef.body] at h
  generalize hst0 : initState d cts l = st0 at h
  obtain ⟨body, st', hx, h⟩ := bind_stmt h
  simp only [Except.ok.injEq] at h
  subst h
  simp only at hsig ⊢
  have f0 := fresh_freshCovar st0
  have hga := hg.freshCovar st0
  have hpu : ∀ b ∈ d.ctx, b.var ∈ st0.usedVars := fun b hb => hst0 ▸ param_used d cts l hb
  have hbu : ∀ x ∈ binderNames d.body, x ∈ st0.usedVars := fun x hx => hst0 ▸ binder_used d cts l hx
  have hrel : CtxRel d.ctx (compileContext d.ctx ++
      [⟨⟨(freshCovar st0).1, 0⟩, .cns, compileTy d.retTy⟩]) := by
    have := (ctxRel_nil ⟨⟨(freshCovar st0).1, 0⟩, .cns, compileTy d.retTy⟩).append d.ctx hdef.params
    simpa using this
  have hgood : ∀ a ∈ compileContext d.ctx, a.var.name ∈ (freshCovar st0).2.usedVars ∧ GoodId G a.var := by
    intro a ha
    obtain ⟨b0, hb0, rfl⟩ := mem_compileContext ha
    exact ⟨f0.vars.subset (hpu b0 hb0), rfl, hgn.1 b0 hb0⟩
  have hnm0 : NamesIn G [⟨⟨(freshCovar st0).1, 0⟩, .cns, compileTy d.retTy⟩] (freshCovar st0).2 := by
    intro b hb
    simp only [List.mem_singleton] at hb
    subst hb
    exact ⟨freshCovar_mem st0, hga⟩
  have hnm := hnm0.append hgood
  have hbin : BIn G (binderNames d.body) (freshCovar st0).2 :=
    fun x hx => ⟨f0.vars.subset (hbu x hx), hgn.2 x hx⟩
  have hc : TOK P G (compileContext d.ctx ++ [⟨⟨(freshCovar st0).1, 0⟩, .cns, compileTy d.retTy⟩]) .cns
      (compileTy d.retTy) (.var .cns ⟨(freshCovar st0).1, 0⟩ (compileTy d.retTy)) := by
    refine TOK.var ?_ hga
    rw [lookupBinding_append, lookupBinding_none_of]
    · exact lookupBinding_cons_self _ []
    · intro a ha e
      obtain ⟨b0, hb0, rfl⟩ := mem_compileContext ha
      have h1 := hpu b0 hb0
      have : b0.var = (freshCovar st0).1 := by simpa [compileBinding] using congrArg Ident.name e
      rw [this] at h1
      exact freshCovar_not_mem st0 h1
  exact defBody_typed env hg hdef hm hrel hnm hbin hc hx (by rw [← hst0]; rfl) hsig

/-- def.rs `compile_main` (the body is translated with the consumer `μ~x. exit x`) -/
theorem compileMain_typed {d : Fun.Def} {cts : List TypeDecl} {l : List String}
    {r : List Def × List String} (hdef : DefM p d) (hm : d.body.callsMain = false)
    (hret : d.retTy = .i64) (hgn : DefNamesGood G d) (h : compileMain d cts l = .ok r)
    (hsig : ∀ D ∈ r.1, P.defs.find? (fun d => d.name = D.name) = some D) :
    ∀ D ∈ r.1, GoodDef P G D := by
  rw [compileMain_eq] at h
  simp only [getType_of_typed p d.body d.ctx d.retTy hdef.body] at h
  generalize hst0 : initState d cts l = st0 at h
  obtain ⟨body, st', hx, h⟩ := bind_stmt h
  simp only [Except.ok.injEq] at h
  subst h
  simp only at hsig ⊢
  have f0 := fresh_freshVar st0
  have hgx := hg.freshVar st0
  have hpu : ∀ b ∈ d.ctx, b.var ∈ st0.usedVars := fun b hb => hst0 ▸ param_used d cts l hb
  have hbu : ∀ x ∈ binderNames d.body, x ∈ st0.usedVars := fun x hx => hst0 ▸ binder_used d cts l hx
  have hrel : CtxRel d.ctx (compileContext d.ctx) := by
    intro x b hb
    have hn := hdef.params
    rw [lookupBinding_compileContext]
    have : lookupCtx ([] ++ d.ctx) x = some b := by simpa using hb
    rw [lookupCtx_append _ _ _ hn] at this
    cases hf : d.ctx.find? (fun b => b.var = x) with
    | some b' => simp only [hf] at this; cases this; rfl
    | none => simp [hf, lookupCtx] at this
  have hnm : NamesIn G (compileContext d.ctx) (freshVar st0).2 := by
    intro a ha
    obtain ⟨b0, hb0, rfl⟩ := mem_compileContext ha
    exact ⟨f0.vars.subset (hpu b0 hb0), rfl, hgn.1 b0 hb0⟩
  have hbin : BIn G (binderNames d.body) (freshVar st0).2 :=
    fun x hx => ⟨f0.vars.subset (hbu x hx), hgn.2 x hx⟩
  have hc : TOK P G (compileContext d.ctx) .cns (compileTy d.retTy)
      (.mu .cns ⟨(freshVar st0).1, 0⟩ (compileTy d.retTy)
        (.exit (.var .prd ⟨(freshVar st0).1, 0⟩ (compileTy d.retTy)) (compileTy d.retTy))) := by
    refine TOK.mu hgx (tyDeclared_of_typed env hdef.body) (SOK.exit ?_)
    rw [hret]
    exact TOK.var_head hgx
  exact defBody_typed env hg hdef hm hrel hnm hbin hc hx (by rw [← hst0]; rfl) hsig

end

theorem compileDef_ok {d : Fun.Def} (cts : List TypeDecl) (l : List String) (hdef : DefM p d) :
    ∃ r, compileDef d cts l = .ok r := by
  rw [compileDef_eq]
  simp only [getType_of_typed p d.body d.ctx d.retTy hdef.body]
  obtain ⟨⟨body, st'⟩, hx⟩ := (ok_term d.body).1 d.ctx d.retTy
    (.var .cns ⟨(freshCovar (initState d cts l)).1, 0⟩ (compileTy d.retTy))
    (freshCovar (initState d cts l)).2 hdef.body
    (fun x hx => (fresh_freshCovar _).vars.subset (binder_used d cts l hx))
  simp only [hx]
  exact ⟨_, rfl⟩

theorem compileMain_ok {d : Fun.Def} (cts : List TypeDecl) (l : List String) (hdef : DefM p d) :
    ∃ r, compileMain d cts l = .ok r := by
  rw [compileMain_eq]
  simp only [getType_of_typed p d.body d.ctx d.retTy hdef.body]
  obtain ⟨⟨body, st'⟩, hx⟩ := (ok_term d.body).1 d.ctx d.retTy
    (.mu .cns ⟨(freshVar (initState d cts l)).1, 0⟩
      (compileTy d.retTy) (.exit (.var .prd ⟨(freshVar (initState d cts l)).1, 0⟩ (compileTy d.retTy))
        (compileTy d.retTy)))
    (freshVar (initState d cts l)).2 hdef.body
    (fun x hx => (fresh_freshVar _).vars.subset (binder_used d cts l hx))
  simp only [hx]
  exact ⟨_, rfl⟩

/-- the first definition returned by `compile_def` is the translated definition, with the
continuation parameter appended -/
theorem compileDef_head {d : Fun.Def} {cts : List TypeDecl} {l : List String}
    {r : List Def × List String} (h : compileDef d cts l = .ok r) :
    ∃ D rest a, r.1 = D :: rest ∧ D.name = ⟨d.name, 0⟩ ∧
      D.ctx = compileContext d.ctx ++ [⟨a, .cns, compileTy d.retTy⟩] := by
  obtain ⟨τ, body, st', -, -, rfl⟩ := compileDef_inv h
  exact ⟨_, _, _, rfl, rfl, rfl⟩

theorem compileDefs_ok (cts : List TypeDecl) : ∀ (ds : List Fun.Def) (l : List String)
    (acc : List Def), (∀ d ∈ ds, DefM p d) → ∃ out, compileDefs cts ds l acc = .ok out
  | [] => fun l acc _ => ⟨acc, rfl⟩
  | d :: rest => fun l acc hd => by
    unfold compileDefs
    split
    · obtain ⟨r, hr⟩ := compileMain_ok cts l (hd d (by simp))
      simp only [hr]
      exact compileDefs_ok cts rest _ _ (fun d' hd' => hd d' (by simp [hd']))
    · obtain ⟨r, hr⟩ := compileDef_ok cts l (hd d (by simp))
      simp only [hr]
      exact compileDefs_ok cts rest _ _ (fun d' hd' => hd d' (by simp [hd']))

/-- every user definition other than `main` has a translated definition with its signature -/
theorem compileDefs_user (cts : List TypeDecl) : ∀ (ds : List Fun.Def) (l : List String)
    (acc out : List Def), compileDefs cts ds l acc = .ok out →
    ∀ d ∈ ds, d.name ≠ "main" → ∃ D ∈ out, D.name = ⟨d.name, 0⟩ ∧
      ∃ a, D.ctx = compileContext d.ctx ++ [⟨a, .cns, compileTy d.retTy⟩]
  | [] => fun _ _ _ _ d hd _ => by simp at hd
  | d0 :: rest => fun l acc out h d hd hne => by
    obtain ⟨ds, l', acc', hm, hp, hrest⟩ := compileDefs_cons_ok h
    rcases List.mem_cons.1 hd with rfl | hd
    · rw [if_neg (by simpa using hne)] at hm
      obtain ⟨D, rest', a, rfl, e2, e3⟩ := compileDef_head hm
      refine ⟨D, ?_, e2, a, e3⟩
      exact compileDefs_acc_subset hrest D
        (hp.mem_iff.2 (List.mem_append_right _ List.mem_cons_self))
    · exact compileDefs_user cts rest _ _ out hrest d hd hne

section
variable (env : Env p P) (hg : FreshGood G)
include env hg

theorem compileDefs_typed (cts : List TypeDecl) : ∀ (ds : List Fun.Def) (l : List String)
    (acc out : List Def), compileDefs cts ds l acc = .ok out →
    (∀ d ∈ ds, DefM p d ∧ d.body.callsMain = false ∧ (d.name = "main" → d.retTy = .i64) ∧
      DefNamesGood G d) →
    (∀ D ∈ out, P.defs.find? (fun d => d.name = D.name) = some D) →
    (∀ D ∈ acc, GoodDef P G D) → ∀ D ∈ out, GoodDef P G D
  | [] => fun l acc out h _ _ hacc => by
    cases h
    exact hacc
  | d :: rest => fun l acc out h hds hsig hacc => by
    obtain ⟨hdef, hm, hret, hgn⟩ := hds d (by simp)
    obtain ⟨ds, l', acc', hmn, hp, hrest⟩ := compileDefs_cons_ok h
    have hsub : ∀ D ∈ ds, P.defs.find? (fun d => d.name = D.name) = some D := fun D hD =>
      hsig D (compileDefs_acc_subset hrest D (hp.mem_iff.2 (List.mem_append_right _ hD)))
    have hr : ∀ D ∈ ds, GoodDef P G D := by
      split at hmn
      · rename_i hmain
        exact compileMain_typed env hg hdef hm (hret (by simpa using hmain)) hgn hmn hsub
      · exact compileDef_typed env hg hdef hm hgn hmn hsub
    refine compileDefs_typed cts rest _ _ out hrest (fun d' hd' => hds d' (by simp [hd'])) hsig ?_
    intro D hD
    rcases List.mem_append.1 (hp.mem_iff.1 hD) with hD | hD
    · exact hacc D hD
    · exact hr D hD

end

theorem find?_of_nodup {l : List Def} (hn : (l.map (·.name)).Nodup) {D : Def} (hD : D ∈ l) :
    l.find? (fun d => d.name = D.name) = some D :=
  find?_of_nodup_key (·.name) (fun _ => decide_eq_true_iff) hn hD

/-- the hypotheses on the checked program under which the translation is shown type-preserving -/
structure ProgHyp (p : Fun.CheckedProgram) (G : String → Prop) : Prop where
  typed : ProgM p
  noMainCall : ∀ d ∈ p.defs, d.body.callsMain = false
  mainRet : ∀ d ∈ p.defs, d.name = "main" → d.retTy = .i64
  names : ∀ d ∈ p.defs, DefNamesGood G d

/-- program.rs `compile_prog` succeeds on a typed program -/
theorem compileProg_ok (hp : ProgM p) : ∃ q, compileProg p = .ok q := by
  unfold compileProg
  simp only
  obtain ⟨out, ho⟩ := compileDefs_ok (p := p)
    (p.codataTypes.map fun d => ⟨⟨d.name, 0⟩, d.dtors.map compileDtor⟩) p.defs
    (p.defs.foldl (fun acc d => setInsert d.name acc) []) [] hp.defs
  rw [ho]
  exact ⟨_, rfl⟩

/-- **fun2core preserves typing** (program level): every definition of the output checks, and all its
identifiers are good -/
theorem compileProg_typed (hg : FreshGood G) (hp : ProgHyp p G) {q : Prog}
    (h : compileProg p = .ok q) :
    q.dataTypes = dataTypesOf p ∧ q.codataTypes = codataTypesOf p ∧ q.maxId = 0 ∧
    ∀ D ∈ q.defs, GoodDef q G D := by
  unfold compileProg at h
  simp only at h
  split at h
  · simp at h
  · rename_i out ho
    simp only [Except.ok.injEq] at h
    subst h
    refine ⟨rfl, rfl, rfl, ?_⟩
    have hnd : (out.map (·.name)).Nodup := by
      refine compileDefs_nodup _ _ _ _ _ ho ?_ (by simp) (fun d hd' => mem_usedLabels_init _ d hd')
      simp only [List.map_nil, List.nil_append]
      have : p.defs.map (fun d => ident0 d.name) = (p.defs.map (·.name)).map ident0 := by simp
      rw [this]
      exact List.Pairwise.map _ (fun a b hab h => hab (ident0_inj h)) hp.typed.defNames
    have env : Env p ⟨out, dataTypesOf p, codataTypesOf p, 0⟩ := by
      refine ⟨rfl, rfl, ?_⟩
      intro d hd hne
      obtain ⟨D, hD, e1, a, e2⟩ := compileDefs_user _ _ _ _ _ ho d hd hne
      refine ⟨D, a, ?_, e2⟩
      have := find?_of_nodup hnd hD
      rw [e1] at this
      exact this
    exact compileDefs_typed env hg _ _ _ _ _ ho
      (fun d hd => ⟨hp.typed.defs d hd, hp.noMainCall d hd, hp.mainRet d hd, hp.names d hd⟩)
      (fun D hD => find?_of_nodup hnd hD) (by simp)

theorem compileProg_wellTyped (hg : FreshGood G) (hp : ProgHyp p G) {q : Prog}
    (h : compileProg p = .ok q) : q.wellTyped = true := by
  obtain ⟨_, _, _, hd⟩ := compileProg_typed hg hp h
  simp only [Prog.wellTyped, List.all_eq_true]
  exact fun D hD => (hd D hD).1

theorem compileProg_disjoint (hp : ProgM p) {q : Prog} (h : compileProg p = .ok q) :
    ∀ d ∈ q.dataTypes, ∀ c ∈ q.codataTypes, d.name ≠ c.name := by
  unfold compileProg at h
  simp only at h
  split at h
  · simp at h
  · simp only [Except.ok.injEq] at h
    subst h
    intro d hd c hc
    simp only [List.mem_map] at hd hc
    obtain ⟨d0, hd0, rfl⟩ := hd
    obtain ⟨c0, hc0, rfl⟩ := hc
    intro e
    exact hp.disjoint d0 hd0 c0 hc0 (by simpa using congrArg Ident.name e)

/-- the output satisfies the side condition `Prog.strictOk` of the middle passes
(Scc/Core/TypedStrict.lean): no type called `_Cont` (if the source has none), the xtor names of every
declaration pairwise distinct, every body `strict` (cut / μ types declared, clauses in declaration
order) -/
theorem compileProg_strictOk (hg : FreshGood G) (hp : ProgHyp p G)
    (hc1 : ∀ d ∈ p.dataTypes, d.name ≠ "_Cont") (hc2 : ∀ d ∈ p.codataTypes, d.name ≠ "_Cont")
    {q : Prog} (h : compileProg p = .ok q) : q.strictOk = true := by
  obtain ⟨e1, e2, _, hd⟩ := compileProg_typed hg hp h
  simp only [Prog.strictOk, Bool.and_eq_true, Bool.not_eq_true', List.any_eq_false, List.all_eq_true,
    e1, e2, dataTypesOf, codataTypesOf, List.mem_map, forall_exists_index, and_imp,
    forall_apply_eq_imp_iff₂]
  refine ⟨⟨⟨⟨?_, ?_⟩, ?_⟩, ?_⟩, fun D hD => (hd D hD).2.2.2⟩
  · intro d hd' hb
    have := beq_iff_eq.1 hb
    exact hc1 d hd' (by simpa using congrArg Ident.name this)
  · intro d hd' hb
    have := beq_iff_eq.1 hb
    exact hc2 d hd' (by simpa using congrArg Ident.name this)
  · intro d hd'
    simp only [TypeDecl.xtorsDistinct, decide_eq_true_eq, List.map_map]
    have := hp.typed.ctorsNodup d hd'
    have e : (fun c : XtorSig => c.name) ∘ compileCtor = ident0 ∘ fun c : Fun.CtorSig => c.name := by
      funext c; rfl
    rw [e, ← List.map_map]
    exact List.Pairwise.map _ (fun a b hab h => hab (ident0_inj h)) this
  · intro d hd'
    simp only [TypeDecl.xtorsDistinct, decide_eq_true_eq, List.map_map]
    have := hp.typed.dtorsNodup d hd'
    have e : (fun c : XtorSig => c.name) ∘ compileDtor = ident0 ∘ fun c : Fun.DtorSig => c.name := by
      funext c; rfl
    rw [e, ← List.map_map]
    exact List.Pairwise.map _ (fun a b hab h => hab (ident0_inj h)) this

end Scc.Fun2Core.Typed
