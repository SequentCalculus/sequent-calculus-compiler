/-
  Scc.Fun2Core.SemSim8 — the simulation through the capture guard of `let` / `case` (`guarded`):
  `guard_sim`, and the environment and name lemmas it needs.
-/
import Scc.Fun2Core.SemSim7
import Scc.Fun2Core.SemOcc
import Scc.Fun2Core.HygieneProofs

namespace Scc.Fun2Core.Sem

variable {q : Core.Prog} {p : Fun.CheckedProgram}

theorem lookup_append_ok {ρ ρe : CEnv} {z : Core.Ident} {V : CVal}
    (h : Core.Env.lookup ρ z = .ok V) : Core.Env.lookup (ρ ++ ρe) z = .ok V := by
  induction ρ with
  | nil => simp [Core.Env.lookup] at h
  | cons e r ih =>
    obtain ⟨y, W⟩ := e
    simp only [List.cons_append, lookup_cons] at h ⊢
    split
    · rename_i hy; simpa [hy] using h
    · rename_i hy; simp only [hy, if_false] at h; exact ih h

theorem lookup_append_pad (ρ : CEnv) (bs : List Core.Binding) {b : Core.Binding} (hb : b ∈ bs) :
    ∃ V, Core.Env.lookup (ρ ++ bs.map (fun b => (b.var, Core.Val.int 0))) b.var = .ok V := by
  induction ρ with
  | nil =>
    induction bs with
    | nil => simp at hb
    | cons b' bs ih =>
      simp only [List.nil_append, List.map_cons, lookup_cons]
      split
      · exact ⟨_, rfl⟩
      · rcases List.mem_cons.1 hb with rfl | h
        · rename_i hne; exact absurd rfl hne
        · simpa using ih h
  | cons e r ih =>
    obtain ⟨y, W⟩ := e
    simp only [List.cons_append, lookup_cons]
    split
    · exact ⟨W, rfl⟩
    · exact ih

/-- the ideal environment can be padded so that any given variables are bound -/
theorem ideal_pad (bs : List Core.Binding) {n : Nat} {xs : List String} {env : Fun.Env}
    {ρ0 ρ : CEnv} {k : Fun.Stack} {c : Core.Term} {sb : List Core.Binding}
    (he : EnvRel (GP p) p q n xs env ρ0) (hr : CRel (GP p) p q n k c ρ0) (hbd : BoundOn sb ρ0)
    (hag : AgreeOn sb ρ0 ρ) :
    ∃ ρ0p, EnvRel (GP p) p q n xs env ρ0p ∧ CRel (GP p) p q n k c ρ0p ∧ BoundOn sb ρ0p ∧ AgreeOn sb ρ0p ρ ∧
      BoundOn bs ρ0p := by
  refine ⟨ρ0 ++ bs.map (fun b => (b.var, Core.Val.int 0)), ?_, ?_, ?_, ?_, ?_⟩
  · refine .of_get fun y hy => ?_
    obtain ⟨v, V, h1, h2, h3⟩ := he.get hy
    exact ⟨v, V, h1, lookup_append_ok h2, h3⟩
  · refine hr.agree fun b hb => ?_
    obtain ⟨V, hV⟩ := hr.bound b hb
    rw [lookup_append_ok hV, hV]
  · intro b hb
    obtain ⟨V, hV⟩ := hbd b hb
    exact ⟨V, lookup_append_ok hV⟩
  · intro b hb
    obtain ⟨V, hV⟩ := hbd b hb
    rw [hag b hb, lookup_append_ok hV, hV]
  · intro b hb
    exact lookup_append_pad ρ0 bs hb

theorem consNames_mu {t : Fun.Term} {c : Core.Term} {st : CompileState} {s : Core.Stmt}
    {st' : CompileState} {n : Nat} (h : compileWithCont t c st = .ok (s, st'))
    (htn : TermNames t st) (hcn : ConsNames c st n) (x : Core.Ident) (ty : Core.Ty) :
    ConsNames (.mu .cns x ty s) st' n := by
  intro b hb
  simp only [occTerm] at hb
  rcases occ_cwc t h htn.fv htn.bd b hb with h1 | h1
  · exact (hcn.mono_st (fs_cwc h).sub) b h1
  · exact .inr ⟨fun e => cwc_noSig h htn.nosig (e ▸ h1), h1⟩

theorem consNames_xcase {cs : Fun.Clauses} {c : Core.Term} {st : CompileState} {cs' : Core.Clauses}
    {st' : CompileState} {n : Nat} (h : compileClauses cs c st = .ok (cs', st'))
    (htn : ClausesNames cs st) (hcn : ConsNames c st n) (ty : Core.Ty) :
    ConsNames (.xcase .cns ty cs') st' n := by
  have hfs : FS st st' := (rel_clauses fs_stepRel cs) c st cs' st' h
  intro b hb
  simp only [occTerm] at hb
  rcases occ_clauses cs h htn.fv htn.bd b hb with h1 | h1
  · exact (hcn.mono_st hfs.sub) b h1
  · exact .inr ⟨fun e => hfs.2 htn.nosig (e ▸ h1), h1⟩

/-- simulation through the capture guard of `let` / `case`: on the guarded path the Core machine
first binds the fresh covariable to the value of the consumer (at a codata type: it forces the
consumer and binds the covariable to the destructor value) -/
theorem guard_sim (X : Ctx p q) {binders : List String} {ty : Option Fun.Ty} {site : String}
    {core : CwcFn} {c : Core.Term} {st : CompileState} {s : Core.Stmt} {st' : CompileState}
    {n : Nat} {k : Fun.Stack} {env : Fun.Env} {ρ0 ρ : CEnv} {out : Out} {sf : Fun.State} {b : Bool}
    (xs : List String) {t0 : Fun.Ty}
    (hcomp : guarded binders ty site core c st = .ok (s, st')) (hty : ty = some t0)
    (hkind : Core.isCodata q.codataTypes (compileTy t0) = kkind k) (hnosig : sig ∉ st.usedVars)
    (hbu : ∀ x ∈ binders, x ∈ st.usedVars) (hxs : ∀ x ∈ xs, x ∈ st.usedVars)
    (hcn : ConsNames c st n) (he : EnvRel (GP p) p q n xs env ρ0) (hr : CRel (GP p) p q n k c ρ0)
    (hbd : BoundOn (tfvStmt s []) ρ0) (hag : AgreeOn (tfvStmt s []) ρ0 ρ)
    (Hcore : ∀ n' c' st1 s' ρ0' ρ', n ≤ n' → core c' st1 = .ok (s', st') → FS st st1 →
      ConsNames c' st1 n' → (∀ b ∈ tfvTerm c' [], b.var.name ∉ binders) →
      EnvRel (GP p) p q n' xs env ρ0' → CRel (GP p) p q n' k c' ρ0' → BoundOn (tfvStmt s' []) ρ0' →
      AgreeOn (tfvStmt s' []) ρ0' ρ' → Chunk p q (R p q) b cp μ sf ⟨s', ρ', out, n'⟩) :
    Chunk p q (R p q) b cp μ sf ⟨s, ρ, out, n⟩ := by
  rw [guarded_eq_of_binders_used binders ty site core c st hbu] at hcomp
  by_cases hbo : bindersOccurFree binders c = true
  · rw [if_pos hbo] at hcomp
    subst hty
    simp only at hcomp
    obtain ⟨s1, st1, hx, hcomp⟩ := bind_stmt hcomp
    cases hcomp
    have hagc : AgreeOn (tfvTerm c []) ρ0 ρ := hag.mono fun y hy => mem_tfv_cut.2 (.inr hy)
    have ha_fresh := freshCovar_not_mem st
    have ha_sig := freshCovar_ne_sig st
    have hbd1 : BoundOn ((tfvStmt s1 []).filter (·.var ≠ ⟨(freshCovar st).1, 0⟩)) ρ0 :=
      hbd.mono fun y hy => mem_tfv_cut.2 (.inl (filter_sub_tfv_mu y hy))
    have hag1 : AgreeOn ((tfvStmt s1 []).filter (·.var ≠ ⟨(freshCovar st).1, 0⟩)) ρ0 ρ :=
      hag.mono fun y hy => mem_tfv_cut.2 (.inl (filter_sub_tfv_mu y hy))
    have hcn1 : ∀ m, ConsNames (.var .cns ⟨(freshCovar st).1, 0⟩ (compileTy t0)) (freshCovar st).2 m := by
      intro m b hb
      simp only [occTerm, List.mem_singleton] at hb
      subst hb
      exact .inr ⟨ha_sig, by rw [freshCovar_used]; exact List.mem_cons_self⟩
    have hnb : ∀ b ∈ tfvTerm (.var .cns ⟨(freshCovar st).1, 0⟩ (compileTy t0)) [],
        b.var.name ∉ binders := by
      intro b hb hmem
      rw [mem_tfv_var] at hb
      subst hb
      exact ha_fresh (hbu _ hmem)
    have hxne : ∀ y ∈ xs, (⟨(freshCovar st).1, 0⟩ : Core.Ident) ≠ ⟨y, 0⟩ := by
      intro y hy e
      have : (freshCovar st).1 = y := by cases e; rfl
      exact ha_fresh (this ▸ hxs y hy)
    obtain ⟨i, n', ρ', cv, hcs, hi1, hn', hext, hk⟩ :=
      bind_cont X hr hagc hkind ⟨(freshCovar st).1, 0⟩ (compileTy t0) s1 out
    obtain ⟨ρ01, hext0, hagx⟩ := hext.agree (ρ0 := ρ0)
    refine Chunk.prefixCore hcs rfl
      (Hcore n' _ _ _ ((⟨(freshCovar st).1, 0⟩, cv) :: ρ01) _ hn' hx (fs_stepRel.freshCovar st)
        (hcn1 _) hnb ?_ (crel_var hk (lookup_cons_self _ _ _) hkind)
        (BoundOn.cons (hbd1.sigExt hext0)) (AgreeOn.cons (hagx _ hag1)))
    exact ((he.mono hn').sigExt hext0 fun y hy e => hnosig (e ▸ hxs y hy)).agree
      fun y hy => lookup_cons_ne (hxne y hy) _ _
  · rw [if_neg hbo] at hcomp
    have hbo' : bindersOccurFree binders c = false := by simpa using hbo
    refine Hcore n c st s ρ0 ρ (Nat.le_refl n) hcomp (fs_stepRel.refl st) hcn ?_ he hr hbd hag
    intro b hb hmem
    exact (bindersOccurFree_false.1 hbo') _ hmem (List.mem_map.2 ⟨b, hb, rfl⟩)

end Scc.Fun2Core.Sem
