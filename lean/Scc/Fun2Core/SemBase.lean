/-
  Scc.Fun2Core.SemBase — generic facts about the two fuel-indexed machines used by the semantic part
  of C02 (Fun CEK machine `Scc.Fun.runFrom`, Core ς-machine `Scc.Core.stepN`): finite step sequences,
  composition with the fuel-indexed runs, and the abstract "chunk simulation" theorem: a relation
  between Fun states and Core states such that from related states either the Fun machine stops
  after finitely many silent steps (and the Core machine stops with the same result if the result is
  one the properties speak about), or both machines advance to related states emitting the same
  output, yields the forward half of `ObsSame`.  (The backward half, SemBack.lean, uses the `cpos`
  component of a chunk: the Core machine advances or the Fun machine arrives at a smaller term.)
-/
import Scc.Fun.Sem
import Scc.Core.Sem
import Scc.Fun2Core.Size

namespace Scc.Fun2Core.Sem

abbrev Out := List (Bool × BitVec 64)

/-- `j` steps of the Fun machine from `s` to `s'`, emitting `o` -/
inductive FSteps (p : Fun.CheckedProgram) : Fun.State → Fun.State → Out → Nat → Prop
  | refl (s) : FSteps p s s [] 0
  | silent {s s1 s' o j} : Fun.step p s = .next s1 none → FSteps p s1 s' o j →
      FSteps p s s' o (j + 1)
  | emit {s s1 s' e o j} : Fun.step p s = .next s1 (some e) → FSteps p s1 s' o j →
      FSteps p s s' (e :: o) (j + 1)

theorem FSteps.one {p s s'} (h : Fun.step p s = .next s' none) : FSteps p s s' [] 1 :=
  .silent h (.refl _)

theorem FSteps.oneEmit {p s s' e} (h : Fun.step p s = .next s' (some e)) : FSteps p s s' [e] 1 :=
  .emit h (.refl _)

theorem FSteps.trans {p s1 s2 s3 o1 o2 j1 j2} (h1 : FSteps p s1 s2 o1 j1)
    (h2 : FSteps p s2 s3 o2 j2) : FSteps p s1 s3 (o1 ++ o2) (j1 + j2) := by
  induction h1 with
  | refl s => simpa using h2
  | silent hs _ ih =>
    have := FSteps.silent hs (ih h2)
    rw [show ∀ a b : Nat, a + 1 + b = a + b + 1 by omega]
    exact this
  | emit hs _ ih =>
    have := FSteps.emit hs (ih h2)
    rw [show ∀ a b : Nat, a + 1 + b = a + b + 1 by omega]
    exact this

theorem runFrom_FSteps {p s s' o j} (h : FSteps p s s' o j) (n : Nat) (acc : Out) :
    Fun.runFrom p (j + n) s acc = Fun.runFrom p n s' (o.reverse ++ acc) := by
  induction h generalizing acc with
  | refl s => simp
  | @silent s s1 s' o j hs _ ih =>
    rw [show j + 1 + n = (j + n) + 1 by omega, Fun.runFrom, hs]
    exact ih acc
  | @emit s s1 s' e o j hs _ ih =>
    rw [show j + 1 + n = (j + n) + 1 by omega, Fun.runFrom, hs]
    simp only
    rw [ih]
    simp

theorem runFrom_short {p s s' j} (h : FSteps p s s' [] j) (n : Nat) (hn : n ≤ j) (acc : Out) :
    Fun.runFrom p n s acc = ⟨acc.reverse, .outOfFuel⟩ := by
  generalize ho : ([] : Out) = o at h
  induction h generalizing n acc with
  | refl s =>
    have : n = 0 := by omega
    subst this; rfl
  | silent hs _ ih =>
    cases n with
    | zero => rfl
    | succ n =>
      rw [Fun.runFrom, hs]
      exact ih n (by omega) acc ho
  | emit hs _ ih => cases ho

theorem runFrom_zero (p s acc) : Fun.runFrom p 0 s acc = ⟨acc.reverse, .outOfFuel⟩ := rfl

inductive CSteps (q : Core.Prog) : Core.State → Core.State → Nat → Prop
  | refl (S) : CSteps q S S 0
  | step {S S1 S' i} : Core.step q S = .next S1 → CSteps q S1 S' i → CSteps q S S' (i + 1)

theorem CSteps.one {q S S'} (h : Core.step q S = .next S') : CSteps q S S' 1 := .step h (.refl _)

theorem CSteps.trans {q S1 S2 S3 i1 i2} (h1 : CSteps q S1 S2 i1) (h2 : CSteps q S2 S3 i2) :
    CSteps q S1 S3 (i1 + i2) := by
  induction h1 with
  | refl S => simpa using h2
  | step hs _ ih =>
    rw [show ∀ a b : Nat, a + 1 + b = a + b + 1 by omega]
    exact .step hs (ih h2)

theorem stepN_CSteps {q S S' i} (h : CSteps q S S' i) (n : Nat) :
    Core.stepN q (i + n) S = Core.stepN q n S' := by
  induction h with
  | refl S => simp
  | @step S S1 S' i hs _ ih =>
    rw [show i + 1 + n = (i + n) + 1 by omega, Core.stepN, hs]
    exact ih

/-- the outcomes the properties speak about, and their Core counterparts -/
inductive ResMatch : Fun.Result → Core.Res → Prop
  | done (v) : ResMatch (.done v) (.done v)
  | div : ResMatch (.stuck .divByZero) (.stuck .divByZero)
  | ovf : ResMatch (.stuck .overflow) (.stuck .overflow)

def finalOf : Fun.StepResult → Option Fun.Result
  | .next _ _ => none
  | .done v => some (.done v)
  | .stuck w => some (.stuck w)

def Finished : Fun.Result → Prop
  | .done _ => True
  | .stuck .divByZero => True
  | .stuck .overflow => True
  | _ => False

theorem runFrom_final {p s r} (h : finalOf (Fun.step p s) = some r) (n : Nat) (acc : Out) :
    Fun.runFrom p (n + 1) s acc = ⟨acc.reverse, r⟩ := by
  rw [Fun.runFrom]
  cases hs : Fun.step p s with
  | next s' o => rw [hs] at h; cases h
  | done v => rw [hs] at h; cases h; rfl
  | stuck w => rw [hs] at h; cases h; rfl

theorem stepN_final {q S r} (h : Core.step q S = .final r) (n : Nat) :
    Core.stepN q (n + 1) S = ⟨S.out, r⟩ := by
  rw [Core.stepN, h]

/-- the last step of a chunk: none, or one step that may print -/
def Last (p : Fun.CheckedProgram) (s1 s' : Fun.State) (o : Out) : Prop :=
  (s' = s1 ∧ o = []) ∨ ∃ e, Fun.step p s1 = .next s' e ∧ o = e.toList

/-- the Fun machine stops after `j` silent steps with the result `r`, and if `r` is a result or an
arithmetic fault the Core machine stops with the same after finitely many silent steps -/
def FinalAlt (p : Fun.CheckedProgram) (q : Core.Prog) (s : Fun.State) (S : Core.State) : Prop :=
  ∃ j s1 r, FSteps p s s1 [] j ∧ finalOf (Fun.step p s1) = some r ∧
    (Finished r → ∃ i S1 r', CSteps q S S1 i ∧ S1.out = S.out ∧ Core.step q S1 = .final r' ∧
      ResMatch r r')

/-- the size of the term under evaluation (0 for the other states): the measure that decreases in
the chunks without a Core step -/
def msize : Fun.State → Nat
  | .eval t _ _ => funSize t
  | _ => 0

/-- both machines advance to related states: the Fun machine by `j` silent steps and possibly one
more step (which may print), the Core machine by any number of steps, emitting the same.
`strict`: the Fun machine really advances; `cpos`: the Core machine really advances, or the Fun
machine arrives at the evaluation of a term smaller than `μ` -/
def ContAlt (p : Fun.CheckedProgram) (q : Core.Prog) (R : Fun.State → Core.State → Prop)
    (strict cpos : Bool) (μ : Nat) (s : Fun.State) (S : Core.State) : Prop :=
  ∃ j s1 s' o i S', FSteps p s s1 [] j ∧ Last p s1 s' o ∧ (strict = true → 1 ≤ j ∨ s' ≠ s1 ∨ o ≠ []) ∧
    (cpos = true → 1 ≤ i ∨ msize s' < μ) ∧
    CSteps q S S' i ∧ S'.out = S.out ++ o ∧ R s' S'

def Chunk (p : Fun.CheckedProgram) (q : Core.Prog) (R : Fun.State → Core.State → Prop)
    (strict cpos : Bool) (μ : Nat) (s : Fun.State) (S : Core.State) : Prop :=
  FinalAlt p q s S ∨ ContAlt p q R strict cpos μ s S

def ChunkSim (p : Fun.CheckedProgram) (q : Core.Prog) (R : Fun.State → Core.State → Prop) : Prop :=
  ∀ s S, R s S → Chunk p q R true true (msize s) s S

theorem Chunk.stuck {p q R b c μ s S} {w : Fun.Why} (hf : Fun.step p s = .stuck w)
    (hw : ¬ Finished (.stuck w)) : Chunk p q R b c μ s S :=
  .inl ⟨0, s, .stuck w, .refl _, by rw [hf]; rfl, fun h => absurd h hw⟩

/-- one step of the Fun machine, which may print, against `i` steps of the Core machine -/
theorem Chunk.step {p q R b c μ s s' S S' i} {e : Option (Bool × BitVec 64)}
    (hf : Fun.step p s = .next s' e) (hne : s' ≠ s) (hc : CSteps q S S' i)
    (hpos : c = true → 1 ≤ i ∨ msize s' < μ) (hout : S'.out = S.out ++ e.toList) (hR : R s' S') :
    Chunk p q R b c μ s S :=
  .inr ⟨0, s, s', e.toList, i, S', .refl _, .inr ⟨e, hf, rfl⟩, fun _ => .inr (.inl hne), hpos, hc,
    hout, hR⟩

/-- no step of the Fun machine, `i` silent steps of the Core machine -/
theorem Chunk.here {p q R c μ s S S' i} (hc : CSteps q S S' i)
    (hpos : c = true → 1 ≤ i ∨ msize s < μ) (hout : S'.out = S.out) (hR : R s S') :
    Chunk p q R false c μ s S :=
  .inr ⟨0, s, s, [], i, S', .refl _, .inl ⟨rfl, rfl⟩, (fun h => by cases h), hpos, hc,
    (by simp [hout]), hR⟩

/-- a chunk after a silent prefix (on either side) is a chunk: strict if the prefix has a Fun step
or the chunk is strict, with a Core step if the prefix has one or the chunk has (the measure may
grow) -/
theorem Chunk.prefixBoth {p q R b b0 c c0 μ μ0 s S s0 S0 j0 i0} (hf : FSteps p s s0 [] j0)
    (hc : CSteps q S S0 i0) (hout : S0.out = S.out) (hj : b = true → 1 ≤ j0 ∨ b0 = true)
    (hi : c = true → 1 ≤ i0 ∨ (c0 = true ∧ μ0 ≤ μ)) (h : Chunk p q R b0 c0 μ0 s0 S0) :
    Chunk p q R b c μ s S := by
  rcases h with ⟨j, s1, r, h1, h2, h3⟩ | ⟨j, s1, s', o, i, S', h1, h2, h0, h3, h4, h5, h6⟩
  · refine .inl ⟨j0 + j, s1, r, by simpa using hf.trans h1, h2, fun hfin => ?_⟩
    obtain ⟨i, S1, r', g1, g2, g3, g4⟩ := h3 hfin
    exact ⟨i0 + i, S1, r', hc.trans g1, by rw [g2, hout], g3, g4⟩
  · refine .inr ⟨j0 + j, s1, s', o, i0 + i, S', by simpa using hf.trans h1, h2, fun hb => ?_,
      fun hcc => ?_, hc.trans h4, by rw [h5, hout], h6⟩
    · rcases hj hb with h | h
      · exact .inl (by omega)
      · exact (h0 h).imp_left (by omega)
    · rcases hi hcc with h | ⟨h, hμ⟩
      · exact .inl (by omega)
      · exact (h3 h).imp (by omega) (by omega)

theorem Chunk.weaken {p q R c μ s S} (h : Chunk p q R true c μ s S) : Chunk p q R false c μ s S :=
  .prefixBoth (.refl _) (.refl _) rfl (fun h => by cases h) (fun h => .inr ⟨h, Nat.le_refl _⟩) h

theorem Chunk.weakenC {p q R b c μ μ' s S} (h : Chunk p q R b c μ s S) : Chunk p q R b false μ' s S :=
  .prefixBoth (.refl _) (.refl _) rfl .inr (fun h => by cases h) h

/-- a chunk after a silent prefix (on both sides) is a chunk; strict if the prefix is not empty -/
theorem Chunk.prefix {p q R b c c0 μ s S s0 S0 j0 i0} (hf : FSteps p s s0 [] j0) (hc : CSteps q S S0 i0)
    (hout : S0.out = S.out) (hj : b = true → 1 ≤ j0) (hi : c = true → 1 ≤ i0 ∨ c0 = true)
    (h : Chunk p q R false c0 μ s0 S0) :
    Chunk p q R b c μ s S :=
  .prefixBoth hf hc hout (fun hb => .inl (hj hb))
    (fun hcc => (hi hcc).imp_right fun e => ⟨e, Nat.le_refl _⟩) h

theorem stepN_out_zero (q S) : (Core.stepN q 0 S).out = S.out := rfl

theorem step_of_last_ne {p s1 s' o} (h : Last p s1 s' o) (hne : s' ≠ s1 ∨ o ≠ []) :
    ∃ e, Fun.step p s1 = .next s' e ∧ o = e.toList := by
  rcases h with ⟨h1, h2⟩ | h
  · rcases hne with h | h
    · exact absurd h1 h
    · exact absurd h2 h
  · exact h

/-- the forward half: every finished Fun run is matched, and every Fun trace is a prefix of a Core
trace -/
theorem chunkSim_forward {p q R} (hsim : ChunkSim p q R) :
    ∀ (n : Nat) (s : Fun.State) (S : Core.State) (acc : Out), R s S → S.out = acc.reverse →
      (Finished (Fun.runFrom p n s acc).res →
        ∃ m r', Core.stepN q m S = ⟨(Fun.runFrom p n s acc).out, r'⟩ ∧
          ResMatch (Fun.runFrom p n s acc).res r') ∧
      (∃ m, (Fun.runFrom p n s acc).out <+: (Core.stepN q m S).out) := by
  intro n
  induction n using Nat.strongRecOn with
  | _ n ih =>
    intro s S acc hR hout
    rcases hsim s S hR with ⟨j, s1, r, hf, hfin, hcore⟩ |
      ⟨j, s1, s', o, i, S', hf, hlast, hstrict, hcpos, hc, ho, hR'⟩
    · by_cases hn : n ≤ j
      · rw [runFrom_short hf n hn acc]
        exact ⟨fun h => h.elim, 0, by simp [stepN_out_zero, hout]⟩
      · obtain ⟨k, rfl⟩ : ∃ k, n = j + (k + 1) := ⟨n - j - 1, by omega⟩
        rw [runFrom_FSteps hf, runFrom_final hfin]
        simp only [List.reverse_nil, List.nil_append]
        constructor
        · intro hfi
          obtain ⟨i, S1, r', hc, ho, hs, hm⟩ := hcore hfi
          refine ⟨i + (0 + 1), r', ?_, hm⟩
          rw [stepN_CSteps hc, stepN_final hs, ho, hout]
        · exact ⟨0, by simp [stepN_out_zero, hout]⟩
    · by_cases hn : n ≤ j
      · by_cases hnj : n = j ∧ s' = s1 ∧ o = []
        · -- the chunk is exactly the `j` silent steps, and `1 ≤ j`
          obtain ⟨rfl, rfl, rfl⟩ := hnj
          have hj : 1 ≤ n := by
            rcases hstrict rfl with h | h | h
            · exact h
            · exact absurd rfl h
            · exact absurd rfl h
          have := runFrom_FSteps hf 0 acc
          simp only [Nat.add_zero, List.reverse_nil, List.nil_append] at this
          rw [this]
          simp only [List.append_nil] at ho
          have hout' : S'.out = acc.reverse := by rw [ho, hout]
          obtain ⟨h1, h2⟩ := ih 0 (by omega) s' S' acc hR' hout'
          constructor
          · intro hfi
            obtain ⟨m, r', hm, hr⟩ := h1 hfi
            exact ⟨i + m, r', by rw [stepN_CSteps hc, hm], hr⟩
          · obtain ⟨m, hm⟩ := h2
            exact ⟨i + m, by rw [stepN_CSteps hc]; exact hm⟩
        · rw [runFrom_short hf n hn acc]
          exact ⟨fun h => h.elim, 0, by simp [stepN_out_zero, hout]⟩
      · -- enough fuel for the whole chunk
        have htot : ∃ jt, FSteps p s s' o jt ∧ jt ≤ n ∧ 1 ≤ jt := by
          rcases hlast with ⟨h1, h2⟩ | ⟨e, he, ho'⟩
          · subst h1; subst h2
            have hj : 1 ≤ j := by
              rcases hstrict rfl with h | h | h
              · exact h
              · exact absurd rfl h
              · exact absurd rfl h
            exact ⟨j, hf, by omega, hj⟩
          · have h1 : FSteps p s1 s' o 1 := by
              subst ho'
              cases e with
              | none => exact .one he
              | some e => exact .oneEmit he
            have := hf.trans h1
            simp only [List.nil_append] at this
            exact ⟨j + 1, this, by omega, by omega⟩
        obtain ⟨jt, hft, hle, hpos⟩ := htot
        obtain ⟨k, rfl⟩ : ∃ k, n = jt + k := ⟨n - jt, by omega⟩
        rw [runFrom_FSteps hft]
        have hout' : S'.out = (o.reverse ++ acc).reverse := by simp [ho, hout]
        by_cases hk : k < jt + k
        · obtain ⟨h1, h2⟩ := ih k hk s' S' _ hR' hout'
          constructor
          · intro hfi
            obtain ⟨m, r', hm, hr⟩ := h1 hfi
            exact ⟨i + m, r', by rw [stepN_CSteps hc, hm], hr⟩
          · obtain ⟨m, hm⟩ := h2
            exact ⟨i + m, by rw [stepN_CSteps hc]; exact hm⟩
        · omega

end Scc.Fun2Core.Sem
