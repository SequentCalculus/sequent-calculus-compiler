/-
  Scc.Fun2Core.TypedCore — C12, link fun2core: facts about the executable Core type checker
  `Scc.Core.Term.check` / `Stmt.check` (Scc/Core/Typing.lean) that the typing-preservation proof of the
  translation Fun → Core needs:
    * (the inversion / introduction lemmas per constructor, `check_var_iff`, `check_mu_iff`, …, are in
      Scc/Core/TypingInv.lean)
    * `term_agree` …  : a checked term looks up each of its typed free variables (`typed_free_vars`,
                        model `tfvTerm`) in the context, and finds exactly that binding;
    * `term_congr` …  : checking depends on the context only through the typed free variables
                        (weakening, strengthening, exchange in one statement);
    * `share_check`   : the consumer returned by `share` (compile.rs) checks at the same type, and the
                        definition it lifts checks in its own context (= its typed free variables), provided
                        the program's definition table maps the generated label to the lifted definition;
    * `share_ids`, `share_strict` : `share` keeps "all identifiers satisfy Q" and `Term.strict`
                        (Scc/Core/TypedStrict.lean: cut / μ types declared, clauses in declaration order).
-/
import Scc.Core.TypingInv
import Scc.Core.TypedStrict
import Scc.Fun2Core.SemTfv
import Scc.Fun2Core.Fresh

namespace Scc.Fun2Core.Typed
open Scc.Core Scc.Fun2Core.Sem

def Agree (Γ : Ctx) (s : List Binding) : Prop := ∀ b ∈ s, lookupBinding Γ b.var = some b

/-- in a list whose elements are all determined by their names, `lookupBinding` finds each element -/
theorem agree_self {l : List Binding} {Γ : Ctx} (h : Agree Γ l) : Agree l l := by
  intro b hb
  cases hl : lookupBinding l b.var with
  | none => exact absurd rfl (lookupBinding_none hl b hb)
  | some b' =>
    have h1 := h b hb
    have h2 := h b' (lookupBinding_mem hl)
    rw [lookupBinding_var hl] at h2
    rw [h1] at h2
    exact h2.symm ▸ rfl

theorem bsetRemove_sublist (b : Binding) : ∀ l : List Binding, (bsetRemove b l).Sublist l
  | [] => by simp [bsetRemove]
  | x :: xs => by
    unfold bsetRemove
    split
    · exact List.sublist_cons_self _ _
    · exact (bsetRemove_sublist b xs).cons_cons _

theorem bsetRemove_sorted {b : Binding} {l : List Binding} (h : BSorted l) : BSorted (bsetRemove b l) :=
  List.Pairwise.sublist (bsetRemove_sublist b l) h

theorem not_mem_of_mem_foldl_remove {y : Binding} : ∀ (ctx : List Binding) {l : List Binding},
    BSorted l → y ∈ ctx.foldl (fun acc b => bsetRemove b acc) l → y ∉ ctx
  | [], _, _, _ => by simp
  | b :: bs, l, hs, h => by
    simp only [List.foldl_cons] at h
    have h1 := not_mem_of_mem_foldl_remove bs (bsetRemove_sorted hs) h
    have h2 := ne_of_mem_bsetRemove hs (mem_foldl_bsetRemove bs h)
    simp only [List.mem_cons, not_or]
    exact ⟨h2, h1⟩

theorem mem_foldl_remove_of_not_mem {y : Binding} : ∀ (ctx : List Binding) {l : List Binding},
    y ∈ l → y ∉ ctx → y ∈ ctx.foldl (fun acc b => bsetRemove b acc) l
  | [], _, h, _ => h
  | b :: bs, l, h, hn => by
    simp only [List.mem_cons, not_or] at hn
    simp only [List.foldl_cons]
    exact mem_foldl_remove_of_not_mem bs (mem_bsetRemove_of_ne hn.1 h) hn.2

theorem tfvStmt_sorted (s : Stmt) : BSorted (tfvStmt s []) := (tfvStmt_spec s []).1 List.Pairwise.nil

theorem mem_tfv_clauses_cons {x : Ident} {ctx : Ctx} {b : Stmt} {r : Clauses} {y : Binding} :
    y ∈ tfvClauses (.cons x ctx b r) [] ↔
      (y ∈ tfvStmt b [] ∧ y ∉ ctx) ∨ y ∈ tfvClauses r [] := by
  simp only [tfvClauses]
  rw [mem_tfvClauses_iff]
  constructor
  · rintro (h | h)
    · rcases (mem_bsetExtend_iff _).1 h with h | h
      · simp at h
      · exact .inl ⟨mem_foldl_bsetRemove _ h, not_mem_of_mem_foldl_remove _ (tfvStmt_sorted b) h⟩
    · exact .inr h
  · rintro (⟨h1, h2⟩ | h)
    · exact .inl ((mem_bsetExtend_iff _).2 (.inr (mem_foldl_remove_of_not_mem _ h1 h2)))
    · exact .inr h

theorem mem_tfv_mu_iff {pc : PC} {v : Ident} {ty : Ty} {s : Stmt} {y : Binding} :
    y ∈ tfvTerm (.mu pc v ty s) [] ↔ y ∈ tfvStmt s [] ∧ y ≠ ⟨v, pc.flip, ty⟩ := by
  simp only [tfvTerm]
  constructor
  · intro h
    rcases (mem_bsetExtend_iff _).1 h with h | h
    · simp at h
    · exact ⟨mem_bsetRemove h, ne_of_mem_bsetRemove (tfvStmt_sorted s) h⟩
  · rintro ⟨h1, h2⟩
    exact (mem_bsetExtend_iff _).2 (.inr (mem_bsetRemove_of_ne h2 h1))

mutual
  theorem term_agree {P : Prog} : ∀ (t : Term) (Γ : Ctx) (pc : PC) (ty : Ty),
      t.check P Γ pc ty = true → Agree Γ (tfvTerm t [])
    | .var pc' v ty' => fun Γ pc ty h => by
      obtain ⟨rfl, rfl, hl⟩ := check_var_iff.1 h
      intro b hb
      rw [mem_tfv_var] at hb
      subst hb
      exact hl
    | .lit _ => fun _ _ _ _ => by intro b hb; simp [tfvTerm] at hb
    | .op a _ b => fun Γ pc ty h => by
      simp only [Term.check, Bool.and_eq_true] at h
      intro y hy
      rcases mem_tfv_op.1 hy with hy | hy
      · exact term_agree a Γ .prd .i64 h.1.2 y hy
      · exact term_agree b Γ .prd .i64 h.2 y hy
    | .mu pc' v ty' s => fun Γ pc ty h => by
      obtain ⟨rfl, rfl, hs⟩ := check_mu_iff.1 h
      have ih := stmt_agree s _ hs
      intro y hy
      obtain ⟨h1, h2⟩ := mem_tfv_mu_iff.1 hy
      have := ih y h1
      by_cases hv : y.var = v
      · rw [hv] at this
        simp only [lookupBinding, if_true, Option.some.injEq] at this
        exact absurd this.symm h2
      · rwa [lookupBinding_cons_ne (fun e => hv e.symm)] at this
    | .xtor pc' name as ty' => fun Γ pc ty h => by
      obtain ⟨_, _, T, d, sig, _, _, _, ha⟩ := check_xtor_iff.1 h
      intro y hy
      exact args_agree as Γ sig.args ha y (mem_tfv_xtor.1 hy)
    | .xcase pc' ty' cl => fun Γ pc ty h => by
      obtain ⟨_, _, T, d, _, _, hc, _⟩ := check_xcase_iff.1 h
      intro y hy
      exact clauses_agree cl Γ d.xtors hc y (mem_tfv_xcase.1 hy)
  theorem args_agree {P : Prog} : ∀ (as : Args) (Γ : Ctx) (ctx : Ctx),
      as.check P Γ ctx = true → Agree Γ (tfvArgs as [])
    | .nil => fun _ _ _ => by intro b hb; simp [tfvArgs] at hb
    | .cons pc t r => fun Γ ctx h => by
      cases ctx with
      | nil => simp [Args.check] at h
      | cons b bs =>
        simp only [Args.check, Bool.and_eq_true] at h
        intro y hy
        rcases mem_tfv_args_cons.1 hy with hy | hy
        · exact term_agree t Γ pc b.ty h.1.2 y hy
        · exact args_agree r Γ bs h.2 y hy
  theorem clauses_agree {P : Prog} : ∀ (cl : Clauses) (Γ : Ctx) (sigs : List XtorSig),
      cl.check P Γ sigs = true → Agree Γ (tfvClauses cl [])
    | .nil => fun _ _ _ => by intro b hb; simp [tfvClauses] at hb
    | .cons x ctx b r => fun Γ sigs h => by
      simp only [Clauses.check, Bool.and_eq_true] at h
      intro y hy
      rcases mem_tfv_clauses_cons.1 hy with ⟨h1, h2⟩ | hy
      · have := stmt_agree b _ h.1.2 y h1
        rw [lookupBinding_append] at this
        cases hl : lookupBinding ctx y.var with
        | none => simp only [hl] at this; exact this
        | some b' =>
          simp only [hl, Option.some.injEq] at this
          subst this
          exact absurd (lookupBinding_mem hl) h2
      · exact clauses_agree r Γ sigs h.2 y hy
  theorem stmt_agree {P : Prog} : ∀ (s : Stmt) (Γ : Ctx), s.check P Γ = true → Agree Γ (tfvStmt s [])
    | .cut ty p c => fun Γ h => by
      simp only [Stmt.check, Bool.and_eq_true] at h
      intro y hy
      rcases mem_tfv_cut.1 hy with hy | hy
      · exact term_agree p Γ .prd ty h.1 y hy
      · exact term_agree c Γ .cns ty h.2 y hy
    | .ifc _ a b t e => fun Γ h => by
      simp only [Stmt.check, Bool.and_eq_true] at h
      intro y hy
      rcases mem_tfv_ifc.1 hy with hy | hy | hy | hy
      · exact term_agree a Γ .prd .i64 h.1.1.1 y hy
      · exact term_agree b Γ .prd .i64 h.1.1.2 y hy
      · exact stmt_agree t Γ h.1.2 y hy
      · exact stmt_agree e Γ h.2 y hy
    | .ifz _ a t e => fun Γ h => by
      simp only [Stmt.check, Bool.and_eq_true] at h
      intro y hy
      rcases mem_tfv_ifz.1 hy with hy | hy | hy
      · exact term_agree a Γ .prd .i64 h.1.1 y hy
      · exact stmt_agree t Γ h.1.2 y hy
      · exact stmt_agree e Γ h.2 y hy
    | .print _ a n => fun Γ h => by
      simp only [Stmt.check, Bool.and_eq_true] at h
      intro y hy
      rcases mem_tfv_print.1 hy with hy | hy
      · exact term_agree a Γ .prd .i64 h.1 y hy
      · exact stmt_agree n Γ h.2 y hy
    | .call f as _ => fun Γ h => by
      obtain ⟨d, _, ha⟩ := check_call_iff.1 h
      intro y hy
      exact args_agree as Γ d.ctx ha y (mem_tfv_call.1 hy)
    | .exit a _ => fun Γ h => by
      simp only [Stmt.check] at h
      intro y hy
      exact term_agree a Γ .prd .i64 h y (mem_tfv_exit.1 hy)
end

mutual
  theorem term_congr {P : Prog} : ∀ (t : Term) (Γ Γ' : Ctx) (pc : PC) (ty : Ty),
      t.check P Γ pc ty = true → Agree Γ' (tfvTerm t []) → t.check P Γ' pc ty = true
    | .var pc' v ty' => fun Γ Γ' pc ty h ha => by
      obtain ⟨rfl, rfl, _⟩ := check_var_iff.1 h
      exact check_var_iff.2 ⟨rfl, rfl, ha _ (mem_tfv_var.2 rfl)⟩
    | .lit _ => fun _ _ _ _ h _ => by simpa [Term.check] using h
    | .op a _ b => fun Γ Γ' pc ty h ha => by
      simp only [Term.check, Bool.and_eq_true] at h ⊢
      exact ⟨⟨h.1.1, term_congr a Γ Γ' .prd .i64 h.1.2 (fun y hy => ha y (mem_tfv_op.2 (.inl hy)))⟩,
        term_congr b Γ Γ' .prd .i64 h.2 (fun y hy => ha y (mem_tfv_op.2 (.inr hy)))⟩
    | .mu pc' v ty' s => fun Γ Γ' pc ty h ha => by
      obtain ⟨rfl, rfl, hs⟩ := check_mu_iff.1 h
      refine check_mu_iff.2 ⟨rfl, rfl, stmt_congr s _ _ hs ?_⟩
      intro y hy
      by_cases hv : y.var = v
      · have := stmt_agree s _ hs y hy
        rw [hv] at this ⊢
        simpa [lookupBinding] using this
      · rw [lookupBinding_cons_ne (fun e => hv e.symm)]
        refine ha y (mem_tfv_mu_iff.2 ⟨hy, ?_⟩)
        intro e
        exact hv (by rw [e])
    | .xtor pc' name as ty' => fun Γ Γ' pc ty h ha => by
      obtain ⟨e1, e2, T, d, sig, e3, hd, hs, hc⟩ := check_xtor_iff.1 h
      exact check_xtor_iff.2 ⟨e1, e2, T, d, sig, e3, hd, hs,
        args_congr as Γ Γ' sig.args hc (fun y hy => ha y (mem_tfv_xtor.2 hy))⟩
    | .xcase pc' ty' cl => fun Γ Γ' pc ty h ha => by
      obtain ⟨e1, e2, T, d, e3, hd, hc, hv⟩ := check_xcase_iff.1 h
      exact check_xcase_iff.2 ⟨e1, e2, T, d, e3, hd,
        clauses_congr cl Γ Γ' d.xtors hc (fun y hy => ha y (mem_tfv_xcase.2 hy)), hv⟩
  theorem args_congr {P : Prog} : ∀ (as : Args) (Γ Γ' : Ctx) (ctx : Ctx),
      as.check P Γ ctx = true → Agree Γ' (tfvArgs as []) → as.check P Γ' ctx = true
    | .nil => fun _ _ ctx h _ => by
      cases ctx with
      | nil => simp [Args.check]
      | cons b bs => simp [Args.check] at h
    | .cons pc t r => fun Γ Γ' ctx h ha => by
      cases ctx with
      | nil => simp [Args.check] at h
      | cons b bs =>
        simp only [Args.check, Bool.and_eq_true] at h ⊢
        exact ⟨⟨h.1.1, term_congr t Γ Γ' pc b.ty h.1.2
          (fun y hy => ha y (mem_tfv_args_cons.2 (.inl hy)))⟩,
          args_congr r Γ Γ' bs h.2 (fun y hy => ha y (mem_tfv_args_cons.2 (.inr hy)))⟩
  theorem clauses_congr {P : Prog} : ∀ (cl : Clauses) (Γ Γ' : Ctx) (sigs : List XtorSig),
      cl.check P Γ sigs = true → Agree Γ' (tfvClauses cl []) → cl.check P Γ' sigs = true
    | .nil => fun _ _ _ _ _ => by simp [Clauses.check]
    | .cons x ctx b r => fun Γ Γ' sigs h ha => by
      simp only [Clauses.check, Bool.and_eq_true] at h ⊢
      refine ⟨⟨h.1.1, stmt_congr b _ _ h.1.2 ?_⟩,
        clauses_congr r Γ Γ' sigs h.2 (fun y hy => ha y (mem_tfv_clauses_cons.2 (.inr hy)))⟩
      intro y hy
      have hag := stmt_agree b _ h.1.2 y hy
      rw [lookupBinding_append] at hag ⊢
      cases hl : lookupBinding ctx y.var with
      | some b' => simpa [hl] using hag
      | none =>
        simp only
        refine ha y (mem_tfv_clauses_cons.2 (.inl ⟨hy, fun hm => ?_⟩))
        exact lookupBinding_none hl y hm rfl
  theorem stmt_congr {P : Prog} : ∀ (s : Stmt) (Γ Γ' : Ctx),
      s.check P Γ = true → Agree Γ' (tfvStmt s []) → s.check P Γ' = true
    | .cut ty p c => fun Γ Γ' h ha => by
      simp only [Stmt.check, Bool.and_eq_true] at h ⊢
      exact ⟨term_congr p Γ Γ' .prd ty h.1 (fun y hy => ha y (mem_tfv_cut.2 (.inl hy))),
        term_congr c Γ Γ' .cns ty h.2 (fun y hy => ha y (mem_tfv_cut.2 (.inr hy)))⟩
    | .ifc _ a b t e => fun Γ Γ' h ha => by
      simp only [Stmt.check, Bool.and_eq_true] at h ⊢
      exact ⟨⟨⟨term_congr a Γ Γ' .prd .i64 h.1.1.1 (fun y hy => ha y (mem_tfv_ifc.2 (.inl hy))),
        term_congr b Γ Γ' .prd .i64 h.1.1.2 (fun y hy => ha y (mem_tfv_ifc.2 (.inr (.inl hy))))⟩,
        stmt_congr t Γ Γ' h.1.2 (fun y hy => ha y (mem_tfv_ifc.2 (.inr (.inr (.inl hy)))))⟩,
        stmt_congr e Γ Γ' h.2 (fun y hy => ha y (mem_tfv_ifc.2 (.inr (.inr (.inr hy)))))⟩
    | .ifz _ a t e => fun Γ Γ' h ha => by
      simp only [Stmt.check, Bool.and_eq_true] at h ⊢
      exact ⟨⟨term_congr a Γ Γ' .prd .i64 h.1.1 (fun y hy => ha y (mem_tfv_ifz.2 (.inl hy))),
        stmt_congr t Γ Γ' h.1.2 (fun y hy => ha y (mem_tfv_ifz.2 (.inr (.inl hy))))⟩,
        stmt_congr e Γ Γ' h.2 (fun y hy => ha y (mem_tfv_ifz.2 (.inr (.inr hy))))⟩
    | .print _ a n => fun Γ Γ' h ha => by
      simp only [Stmt.check, Bool.and_eq_true] at h ⊢
      exact ⟨term_congr a Γ Γ' .prd .i64 h.1 (fun y hy => ha y (mem_tfv_print.2 (.inl hy))),
        stmt_congr n Γ Γ' h.2 (fun y hy => ha y (mem_tfv_print.2 (.inr hy)))⟩
    | .call f as ty => fun Γ Γ' h ha => by
      obtain ⟨d, hd, hc⟩ := check_call_iff.1 h
      exact check_call_iff.2 ⟨d, hd, args_congr as Γ Γ' d.ctx hc (fun y hy => ha y (mem_tfv_call.2 hy))⟩
    | .exit a _ => fun Γ Γ' h ha => by
      simp only [Stmt.check] at h ⊢
      exact term_congr a Γ Γ' .prd .i64 h (fun y hy => ha y (mem_tfv_exit.2 hy))
end

theorem term_weaken_cons {P : Prog} {t : Term} {Γ : Ctx} {pc : PC} {ty : Ty} (a : Binding)
    (h : t.check P Γ pc ty = true) (hn : ∀ b ∈ tfvTerm t [], b.var ≠ a.var) :
    t.check P (a :: Γ) pc ty = true := by
  refine term_congr t Γ _ pc ty h (fun b hb => ?_)
  rw [lookupBinding_cons_ne (fun e => hn b hb e.symm)]
  exact term_agree t Γ pc ty h b hb

theorem term_weaken_append {P : Prog} {t : Term} {Γ : Ctx} {pc : PC} {ty : Ty} (ctx : Ctx)
    (h : t.check P Γ pc ty = true) (hn : ∀ b ∈ tfvTerm t [], ∀ a ∈ ctx, a.var ≠ b.var) :
    t.check P (ctx ++ Γ) pc ty = true := by
  refine term_congr t Γ _ pc ty h (fun b hb => ?_)
  rw [lookupBinding_append, lookupBinding_none_of (hn b hb)]
  exact term_agree t Γ pc ty h b hb

theorem args_snoc_check {P : Prog} {Γ : Ctx} : ∀ (as : Args) (ctx : Ctx) (pc : PC) (t : Term) (b : Binding),
    as.check P Γ ctx = true → pc = b.chi → t.check P Γ pc b.ty = true →
    (argsSnoc as pc t).check P Γ (ctx ++ [b]) = true
  | .nil => fun ctx pc t b h hpc ht => by
    cases ctx with
    | nil =>
      subst hpc
      simp [argsSnoc, Args.check, ht]
    | cons c cs => simp [Args.check] at h
  | .cons p a r => fun ctx pc t b h hpc ht => by
    cases ctx with
    | nil => simp [Args.check] at h
    | cons c cs =>
      simp only [Args.check, Bool.and_eq_true] at h
      simp only [argsSnoc, List.cons_append, Args.check, Bool.and_eq_true]
      exact ⟨h.1, args_snoc_check r cs pc t b h.2 hpc ht⟩

theorem bindingsToArgs_check {P : Prog} {Γ : Ctx} : ∀ (bs : List Binding), Agree Γ bs →
    (bindingsToArgs bs).check P Γ bs = true
  | [] => fun _ => by simp [bindingsToArgs, Args.check]
  | b :: bs => fun h => by
    simp only [bindingsToArgs, Args.check, Bool.and_eq_true]
    refine ⟨⟨beq_iff_eq.2 rfl, ?_⟩, bindingsToArgs_check bs (fun y hy => h y (by simp [hy]))⟩
    refine check_var_iff.2 ⟨rfl, rfl, ?_⟩
    have := h b (by simp)
    obtain ⟨bv, bc, bt⟩ := b
    exact this

theorem coreGetType_of_check {P : Prog} {Γ : Ctx} {c : Term} {ty : Ty}
    (h : c.check P Γ .cns ty = true) : coreGetType c = ty := by
  cases c with
  | var pc v ty' => exact (check_var_iff.1 h).2.1
  | lit n =>
    simp only [Term.check, Bool.and_eq_true] at h
    exact absurd h.1 (by decide)
  | op a o b =>
    simp only [Term.check, Bool.and_eq_true] at h
    exact absurd h.1.1.1 (by decide)
  | mu pc v ty' s => exact (check_mu_iff.1 h).2.1
  | xtor pc n as ty' => exact (check_xtor_iff.1 h).2.1
  | xcase pc ty' cl => exact (check_xcase_iff.1 h).2.1

/-- **share preserves typing**: if the consumer `c` checks at `ty` in `Δ`, every name of `Δ` is in the
used-names set, and the program's definition table maps the label generated by `share` to the lifted
definition, then the returned consumer checks at `ty` in `Δ` and the lifted definition checks in its
own context. -/
theorem share_check {P : Prog} {Δ : Ctx} {c : Term} {ty : Ty} {st : CompileState}
    (hc : c.check P Δ .cns ty = true) (hΔ : ∀ b ∈ Δ, b.var.name ∈ st.usedVars)
    (hsig : ∀ D ∈ (share c st).2.liftedStatements, P.defs.find? (fun d => d.name = D.name) = some D) :
    (share c st).1.check P Δ .cns ty = true ∧
    ∃ D, (share c st).2.liftedStatements = D :: st.liftedStatements ∧ D.body.check P D.ctx = true := by
  unfold share at hsig ⊢
  split at hsig
  · -- μ~v.s : the body is lifted
    rename_i pc v ty' s
    obtain ⟨rfl, rfl, hs⟩ := check_mu_iff.1 hc
    simp only at hsig ⊢
    have hag := stmt_agree s _ hs
    have hbody : s.check P (tfvStmt s []) = true := stmt_congr s _ _ hs (agree_self hag)
    refine ⟨?_, _, rfl, hbody⟩
    refine check_mu_iff.2 ⟨rfl, rfl, check_call_iff.2 ⟨_, hsig _ (List.mem_cons_self ..), ?_⟩⟩
    exact bindingsToArgs_check _ hag
  · -- any other consumer: `⟨x | c⟩` with a fresh `x` is lifted
    rename_i hnm
    simp only at hsig ⊢
    have hty := coreGetType_of_check hc
    rw [hty] at hsig ⊢
    have hx : ∀ b ∈ Δ, b.var ≠ ⟨(freshVar st).1, 0⟩ := by
      intro b hb e
      have := hΔ b hb
      rw [e] at this
      exact freshName_not_mem _ _ this
    have hc' : c.check P (⟨⟨(freshVar st).1, 0⟩, .prd, ty⟩ :: Δ) .cns ty = true := by
      refine term_weaken_cons _ hc (fun b hb e => ?_)
      have hm := lookupBinding_mem (term_agree c Δ .cns ty hc b hb)
      exact hx b hm e
    have hcut : (Stmt.cut ty (.var .prd ⟨(freshVar st).1, 0⟩ ty) c).check P
        (⟨⟨(freshVar st).1, 0⟩, .prd, ty⟩ :: Δ) = true := by
      simp only [Stmt.check, Bool.and_eq_true]
      exact ⟨check_var_iff.2 ⟨rfl, rfl, by simp [lookupBinding]⟩, hc'⟩
    have hag := stmt_agree _ _ hcut
    have hbody := stmt_congr _ _ _ hcut (agree_self hag)
    refine ⟨?_, _, rfl, hbody⟩
    refine check_mu_iff.2 ⟨rfl, rfl, check_call_iff.2 ⟨_, hsig _ (List.mem_cons_self ..), ?_⟩⟩
    exact bindingsToArgs_check _ hag

mutual
  /-- every identifier of the term — variable occurrences, `μ` binders, clause binders — satisfies `Q` -/
  def allIdsTerm (Q : Ident → Prop) : Term → Prop
    | .var _ v _ => Q v
    | .lit _ => True
    | .op a _ b => allIdsTerm Q a ∧ allIdsTerm Q b
    | .mu _ v _ s => Q v ∧ allIdsStmt Q s
    | .xtor _ _ as _ => allIdsArgs Q as
    | .xcase _ _ cl => allIdsClauses Q cl
  def allIdsArgs (Q : Ident → Prop) : Args → Prop
    | .nil => True
    | .cons _ t r => allIdsTerm Q t ∧ allIdsArgs Q r
  def allIdsClauses (Q : Ident → Prop) : Clauses → Prop
    | .nil => True
    | .cons _ ctx b r => (∀ x ∈ ctx, Q x.var) ∧ allIdsStmt Q b ∧ allIdsClauses Q r
  def allIdsStmt (Q : Ident → Prop) : Stmt → Prop
    | .cut _ p c => allIdsTerm Q p ∧ allIdsTerm Q c
    | .ifc _ a b t e => allIdsTerm Q a ∧ allIdsTerm Q b ∧ allIdsStmt Q t ∧ allIdsStmt Q e
    | .ifz _ a t e => allIdsTerm Q a ∧ allIdsStmt Q t ∧ allIdsStmt Q e
    | .print _ a n => allIdsTerm Q a ∧ allIdsStmt Q n
    | .call _ as _ => allIdsArgs Q as
    | .exit a _ => allIdsTerm Q a
end

mutual
  theorem occ_of_allIdsTerm {Q : Ident → Prop} : ∀ (t : Term), allIdsTerm Q t → ∀ b ∈ occTerm t, Q b.var
    | .var _ v _ => fun h b hb => by
      simp only [occTerm, List.mem_singleton] at hb; subst hb; exact h
    | .lit _ => fun _ b hb => by simp [occTerm] at hb
    | .op x _ y => fun h b hb => by
      simp only [allIdsTerm] at h
      simp only [occTerm, List.mem_append] at hb
      rcases hb with hb | hb
      · exact occ_of_allIdsTerm x h.1 b hb
      · exact occ_of_allIdsTerm y h.2 b hb
    | .mu _ _ _ s => fun h b hb => by
      simp only [allIdsTerm] at h
      exact occ_of_allIdsStmt s h.2 b (by simpa [occTerm] using hb)
    | .xtor _ _ as _ => fun h b hb => by
      simp only [allIdsTerm] at h
      exact occ_of_allIdsArgs as h b (by simpa [occTerm] using hb)
    | .xcase _ _ cl => fun h b hb => by
      simp only [allIdsTerm] at h
      exact occ_of_allIdsClauses cl h b (by simpa [occTerm] using hb)
  theorem occ_of_allIdsArgs {Q : Ident → Prop} : ∀ (as : Args), allIdsArgs Q as → ∀ b ∈ occArgs as, Q b.var
    | .nil => fun _ b hb => by simp [occArgs] at hb
    | .cons _ t r => fun h b hb => by
      simp only [allIdsArgs] at h
      simp only [occArgs, List.mem_append] at hb
      rcases hb with hb | hb
      · exact occ_of_allIdsTerm t h.1 b hb
      · exact occ_of_allIdsArgs r h.2 b hb
  theorem occ_of_allIdsClauses {Q : Ident → Prop} : ∀ (cl : Clauses), allIdsClauses Q cl →
      ∀ b ∈ occClauses cl, Q b.var
    | .nil => fun _ b hb => by simp [occClauses] at hb
    | .cons _ _ s r => fun h b hb => by
      simp only [allIdsClauses] at h
      simp only [occClauses, List.mem_append] at hb
      rcases hb with hb | hb
      · exact occ_of_allIdsStmt s h.2.1 b hb
      · exact occ_of_allIdsClauses r h.2.2 b hb
  theorem occ_of_allIdsStmt {Q : Ident → Prop} : ∀ (s : Stmt), allIdsStmt Q s → ∀ b ∈ occStmt s, Q b.var
    | .cut _ p c => fun h b hb => by
      simp only [allIdsStmt] at h
      simp only [occStmt, List.mem_append] at hb
      rcases hb with hb | hb
      · exact occ_of_allIdsTerm p h.1 b hb
      · exact occ_of_allIdsTerm c h.2 b hb
    | .ifc _ x y t e => fun h b hb => by
      simp only [allIdsStmt] at h
      simp only [occStmt, List.mem_append] at hb
      rcases hb with ((hb | hb) | hb) | hb
      · exact occ_of_allIdsTerm x h.1 b hb
      · exact occ_of_allIdsTerm y h.2.1 b hb
      · exact occ_of_allIdsStmt t h.2.2.1 b hb
      · exact occ_of_allIdsStmt e h.2.2.2 b hb
    | .ifz _ x t e => fun h b hb => by
      simp only [allIdsStmt] at h
      simp only [occStmt, List.mem_append] at hb
      rcases hb with (hb | hb) | hb
      · exact occ_of_allIdsTerm x h.1 b hb
      · exact occ_of_allIdsStmt t h.2.1 b hb
      · exact occ_of_allIdsStmt e h.2.2 b hb
    | .print _ x n => fun h b hb => by
      simp only [allIdsStmt] at h
      simp only [occStmt, List.mem_append] at hb
      rcases hb with hb | hb
      · exact occ_of_allIdsTerm x h.1 b hb
      · exact occ_of_allIdsStmt n h.2 b hb
    | .call _ as _ => fun h b hb => by
      simp only [allIdsStmt] at h
      exact occ_of_allIdsArgs as h b (by simpa [occStmt] using hb)
    | .exit x _ => fun h b hb => by
      simp only [allIdsStmt] at h
      exact occ_of_allIdsTerm x h b (by simpa [occStmt] using hb)
end

theorem tfv_of_allIdsStmt {Q : Ident → Prop} {s : Stmt} (h : allIdsStmt Q s) :
    ∀ b ∈ tfvStmt s [], Q b.var :=
  fun b hb => occ_of_allIdsStmt s h b ((tfvStmt_nil s).2 b hb)

theorem allIds_bindingsToArgs {Q : Ident → Prop} : ∀ (bs : List Binding), (∀ b ∈ bs, Q b.var) →
    allIdsArgs Q (bindingsToArgs bs)
  | [] => fun _ => trivial
  | b :: bs => fun h => by
    simp only [bindingsToArgs, allIdsArgs, allIdsTerm]
    exact ⟨h b (by simp), allIds_bindingsToArgs bs (fun y hy => h y (by simp [hy]))⟩

theorem allIds_argsSnoc {Q : Ident → Prop} : ∀ (as : Args) (pc : PC) (t : Term),
    allIdsArgs Q as → allIdsTerm Q t → allIdsArgs Q (argsSnoc as pc t)
  | .nil => fun _ _ _ ht => by simp only [argsSnoc, allIdsArgs]; exact ⟨ht, trivial⟩
  | .cons p a r => fun pc t h ht => by
    simp only [allIdsArgs] at h
    simp only [argsSnoc, allIdsArgs]
    exact ⟨h.1, allIds_argsSnoc r pc t h.2 ht⟩

/-- `share` keeps the identifier predicate: the returned consumer, the body of the lifted definition
and its parameters (= typed free variables of the body) -/
theorem share_ids {Q : Ident → Prop} {c : Term} {st : CompileState} (hc : allIdsTerm Q c)
    (hx : Q ⟨(freshVar st).1, 0⟩) :
    allIdsTerm Q (share c st).1 ∧
    ∀ D, (share c st).2.liftedStatements = D :: st.liftedStatements →
      allIdsStmt Q D.body ∧ ∀ b ∈ D.ctx, Q b.var := by
  unfold share
  split
  · rename_i pc v ty s
    simp only [allIdsTerm] at hc
    have htf := tfv_of_allIdsStmt hc.2
    refine ⟨?_, ?_⟩
    · simp only [allIdsTerm, allIdsStmt]
      exact ⟨hc.1, allIds_bindingsToArgs _ htf⟩
    · intro D hD
      injection hD with h1 _
      subst h1
      exact ⟨hc.2, htf⟩
  · have hb : allIdsStmt Q (.cut (coreGetType c) (.var .prd ⟨(freshVar st).1, 0⟩ (coreGetType c)) c) := by
      simp only [allIdsStmt, allIdsTerm]
      exact ⟨hx, hc⟩
    have htf := tfv_of_allIdsStmt hb
    refine ⟨?_, ?_⟩
    · simp only [allIdsTerm, allIdsStmt]
      exact ⟨hx, allIds_bindingsToArgs _ htf⟩
    · intro D hD
      injection hD with h1 _
      subst h1
      exact ⟨hb, htf⟩

theorem strict_bindingsToArgs (P : Prog) : ∀ (bs : List Binding), (bindingsToArgs bs).strict P = true
  | [] => by simp [bindingsToArgs, Args.strict]
  | b :: bs => by simp [bindingsToArgs, Args.strict, Term.strict, strict_bindingsToArgs P bs]

theorem strict_argsSnoc {P : Prog} : ∀ (as : Args) (pc : PC) (t : Term),
    as.strict P = true → t.strict P = true → (argsSnoc as pc t).strict P = true
  | .nil => fun _ _ _ ht => by simp [argsSnoc, Args.strict, ht]
  | .cons p a r => fun pc t h ht => by
    simp only [Args.strict, Bool.and_eq_true] at h
    simp only [argsSnoc, Args.strict, Bool.and_eq_true]
    exact ⟨h.1, strict_argsSnoc r pc t h.2 ht⟩

theorem share_strict {P : Prog} {c : Term} {st : CompileState} (hc : c.strict P = true)
    (hty : tyDeclared P (coreGetType c) = true) :
    (share c st).1.strict P = true ∧
    ∀ D, (share c st).2.liftedStatements = D :: st.liftedStatements → D.body.strict P = true := by
  unfold share
  split
  · rename_i pc v ty s
    simp only [Term.strict, Bool.and_eq_true] at hc
    refine ⟨?_, ?_⟩
    · simp only [Term.strict, Stmt.strict, Bool.and_eq_true]
      exact ⟨hc.1, strict_bindingsToArgs P _⟩
    · intro D hD
      injection hD with h1 _
      subst h1
      exact hc.2
  · refine ⟨?_, ?_⟩
    · simp only [Term.strict, Stmt.strict, Bool.and_eq_true]
      exact ⟨hty, strict_bindingsToArgs P _⟩
    · intro D hD
      injection hD with h1 _
      subst h1
      simp only [Stmt.strict, Term.strict, Bool.and_eq_true, and_true]
      exact ⟨hty, hc⟩

end Scc.Fun2Core.Typed
