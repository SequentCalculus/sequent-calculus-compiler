/-
  Scc.Fun2Core.Fresh — post-condition of `fresh_name` (fun/src/syntax/names.rs) on the list model,
  and the freshness invariant of the translation (`Fresh`): the used-variable set and the used-label
  set only grow, by pairwise distinct names that were not in the set before; the definitions lifted by
  `share` are named exactly by the labels generated.
  What follows from it for whole definitions and programs: the state a definition starts from has
  its parameters and all binders of its body in the used-names set (`mem_usedBinders`); `compile_def` /
  `compile_main` return the definition followed by lifted definitions with new, pairwise distinct
  names (`compileOne_names`), so the definition names of the translated program are pairwise distinct
  (`compileDefs_nodup`); and since a fresh covariable is then never a binder, the capture guard is one
  `if` and never runs out of fuel (`guarded_eq_of_binders_used`).
-/
import Scc.Fun2Core.Frame
import Std.Data.String.ToNat

namespace Scc.Fun2Core

/-! ## fresh_name -/

theorem candidate_inj (base : String) {n m : Nat}
    (h : base ++ toString n = base ++ toString m) : n = m :=
  Nat.repr_injective ((String.append_right_inj base).1 h)

/-- if the loop returns a used name then all `fuel + 1` candidates from `n` on are used -/
theorem freshNameLoop_bad (used : List String) (base : String) :
    ∀ fuel n, freshNameLoop used base fuel n ∈ used →
      ∀ i, i ≤ fuel → base ++ toString (n + i) ∈ used
  | 0 => fun n h i hi => by
    have : i = 0 := by omega
    subst this
    simpa [freshNameLoop] using h
  | fuel + 1 => fun n h i hi => by
    unfold freshNameLoop at h
    by_cases hc : used.contains (base ++ toString n) = true
    · simp only [hc, if_true] at h
      cases i with
      | zero => simpa using hc
      | succ j =>
        have := freshNameLoop_bad used base fuel (n + 1) h j (by omega)
        have e : n + 1 + j = n + (j + 1) := by omega
        rwa [e] at this
    · simp only [hc] at h
      simp at hc
      simp at h
      exact absurd h hc

/-- names.rs `fresh_name`: the returned name is not in `used` (pigeonhole on |used| + 2
pairwise distinct candidates) -/
theorem freshName_not_mem (used : List String) (base : String) :
    (freshName used base).1 ∉ used := by
  intro h
  have hall := freshNameLoop_bad used base (used.length + 1) 0 h
  let cands := (List.range (used.length + 2)).map fun i => base ++ toString i
  have hnd : cands.Nodup := by
    refine List.Pairwise.map _ ?_ List.nodup_range
    intro a b hab h
    exact hab (candidate_inj base h)
  have hsub : cands ⊆ used := by
    intro x hx
    simp only [cands, List.mem_map, List.mem_range] at hx
    obtain ⟨i, hi, rfl⟩ := hx
    have := hall i (by omega)
    simpa using this
  have := List.Nodup.length_le_of_subset hnd hsub
  simp [cands] at this
  omega

theorem freshName_snd (used : List String) (base : String) :
    (freshName used base).2 = (freshName used base).1 :: used := rfl

theorem freshCovar_not_mem (st : CompileState) : (freshCovar st).1 ∉ st.usedVars :=
  freshName_not_mem _ _

theorem freshVar_not_mem (st : CompileState) : (freshVar st).1 ∉ st.usedVars :=
  freshName_not_mem _ _

def Ext (l l' : List String) : Prop :=
  ∃ g, l' = g ++ l ∧ g.Nodup ∧ ∀ x ∈ g, x ∉ l

theorem Ext.refl (l : List String) : Ext l l := ⟨[], by simp⟩

theorem Ext.trans {a b c : List String} (h1 : Ext a b) (h2 : Ext b c) : Ext a c := by
  obtain ⟨g1, rfl, n1, d1⟩ := h1
  obtain ⟨g2, rfl, n2, d2⟩ := h2
  refine ⟨g2 ++ g1, by simp, ?_, ?_⟩
  · rw [List.nodup_append]
    refine ⟨n2, n1, ?_⟩
    intro x hx y hy hxy
    subst hxy
    exact d2 x hx (by simp [hy])
  · intro x hx
    rcases List.mem_append.1 hx with h | h
    · exact fun hl => d2 x h (by simp [hl])
    · exact d1 x h

theorem Ext.fresh (l : List String) (base : String) : Ext l (freshName l base).2 :=
  ⟨[(freshName l base).1], by simp [freshName_snd], by simp, by
    intro x hx; simp at hx; subst hx; exact freshName_not_mem l base⟩

theorem Ext.subset {l l' : List String} (h : Ext l l') : l ⊆ l' := by
  obtain ⟨g, rfl, -, -⟩ := h
  intro x hx; simp [hx]

theorem Ext.nodup {l l' : List String} (h : Ext l l') (hl : l.Nodup) : l'.Nodup := by
  obtain ⟨g, rfl, n, d⟩ := h
  rw [List.nodup_append]
  exact ⟨n, hl, fun x hx y hy hxy => d x hx (hxy ▸ hy)⟩

/-- identifier with id 0 (`Identifier::new`) -/
def ident0 (n : String) : Core.Ident := ⟨n, 0⟩

/-- relation between the state before and after a piece of the translation -/
structure Fresh (st st' : CompileState) : Prop where
  codata : st'.codataTypes = st.codataTypes
  label : st'.currentLabel = st.currentLabel
  /-- generated (co)variable names are new and pairwise distinct -/
  vars : Ext st.usedVars st'.usedVars
  /-- generated labels are new and pairwise distinct, and name exactly the lifted definitions -/
  labels : ∃ gl new, st'.usedLabels = gl ++ st.usedLabels ∧ gl.Nodup ∧ (∀ x ∈ gl, x ∉ st.usedLabels) ∧
    st'.liftedStatements = new ++ st.liftedStatements ∧
    new.map (·.name) = gl.map ident0

theorem Fresh.refl (st : CompileState) : Fresh st st :=
  ⟨rfl, rfl, Ext.refl _, [], [], by simp⟩

theorem Fresh.trans {a b c : CompileState} (h1 : Fresh a b) (h2 : Fresh b c) : Fresh a c := by
  obtain ⟨c1, l1, v1, gl1, new1, e1, n1, d1, f1, m1⟩ := h1
  obtain ⟨c2, l2, v2, gl2, new2, e2, n2, d2, f2, m2⟩ := h2
  refine ⟨c2.trans c1, l2.trans l1, v1.trans v2, gl2 ++ gl1, new2 ++ new1, by simp [e2, e1], ?_, ?_,
    by simp [f2, f1], by simp [m2, m1]⟩
  · rw [List.nodup_append]
    refine ⟨n2, n1, ?_⟩
    intro x hx y hy hxy
    subst hxy
    exact d2 x hx (by simp [e1, hy])
  · intro x hx
    rcases List.mem_append.1 hx with h | h
    · exact fun hl => d2 x h (by simp [e1, hl])
    · exact d1 x h

theorem fresh_freshVar (st : CompileState) : Fresh st (freshVar st).2 :=
  ⟨rfl, rfl, Ext.fresh _ _, [], [], by simp [freshVar]⟩

theorem fresh_freshCovar (st : CompileState) : Fresh st (freshCovar st).2 :=
  ⟨rfl, rfl, Ext.fresh _ _, [], [], by simp [freshCovar]⟩

theorem fresh_share (c : Core.Term) (st : CompileState) : Fresh st (share c st).2 := by
  unfold share
  split
  · refine ⟨rfl, rfl, Ext.refl _, [_], [_], rfl, by simp, ?_, rfl, rfl⟩
    intro x hx; simp at hx; subst hx; exact freshName_not_mem _ _
  · refine ⟨rfl, rfl, Ext.fresh _ _, [_], [_], rfl, by simp, ?_, rfl, rfl⟩
    intro x hx; simp at hx; subst hx; exact freshName_not_mem _ _

theorem fresh_stepRel : StepRel Fresh :=
  ⟨Fresh.refl, Fresh.trans, fresh_freshVar, fresh_freshCovar, fresh_share⟩

theorem Compiles.fresh {r : Run} (h : Compiles r) : Fresh r.st r.st' := h.rel fresh_stepRel

theorem compileWithCont_fresh {t : Fun.Term} {c st s st'}
    (h : compileWithCont t c st = .ok (s, st')) : Fresh st st' :=
  (rel_term fresh_stepRel t).1 c st s st' h

theorem compile_fresh {t : Fun.Term} {ty st p st'}
    (h : compile t ty st = .ok (p, st')) : Fresh st st' :=
  (rel_term fresh_stepRel t).2 ty st p st' h

theorem mem_setInsert {x y : String} {s : List String} : x ∈ setInsert y s ↔ x = y ∨ x ∈ s := by
  unfold setInsert
  split
  · rename_i h
    have : y ∈ s := by simpa using h
    constructor
    · exact fun h => .inr h
    · rintro (rfl | h) <;> assumption
  · simp

theorem mem_foldl_setInsert {x : String} (l : List String) (s : List String) :
    x ∈ l.foldl (fun acc n => setInsert n acc) s ↔ x ∈ l ∨ x ∈ s := by
  induction l generalizing s with
  | nil => simp
  | cons a l ih => simp [ih, mem_setInsert] <;> grind

/-- the labels `compile_prog` starts from contain the names of all definitions -/
theorem mem_usedLabels_init (defs : List Fun.Def) (d : Fun.Def) (hd : d ∈ defs) :
    d.name ∈ defs.foldl (fun acc d => setInsert d.name acc) [] := by
  have := (mem_foldl_setInsert (defs.map (·.name)) []).2 (.inl (List.mem_map.2 ⟨d, hd, rfl⟩))
  rwa [List.foldl_map] at this

theorem mem_ctxVars {x : String} (ctx : Fun.Ctx) : x ∈ ctxVars ctx ↔ ∃ b ∈ ctx, b.var = x := by
  unfold ctxVars
  suffices h : ∀ s, x ∈ ctx.foldl (fun acc b => setInsert b.var acc) s ↔ (∃ b ∈ ctx, b.var = x) ∨ x ∈ s by
    simpa using h []
  induction ctx with
  | nil => simp
  | cons a l ih =>
    intro s
    simp only [List.foldl_cons, ih, mem_setInsert, List.mem_cons, exists_eq_or_imp]
    constructor
    · rintro (h | rfl | h) <;> simp_all
    · rintro ((rfl | h) | h) <;> simp_all

mutual
  /-- the binders of a term: `let` variables, labels, clause binders (what `used_binders` collects) -/
  def binderNames : Fun.Term → List String
    | .var _ _ _ => []
    | .lit _ => []
    | .op a _ b => binderNames a ++ binderNames b
    | .ifc _ a b t e _ => binderNames a ++ binderNames b ++ binderNames t ++ binderNames e
    | .ifz _ a t e _ => binderNames a ++ binderNames t ++ binderNames e
    | .print _ a n _ => binderNames a ++ binderNames n
    | .letIn x _ b i _ => x :: (binderNames b ++ binderNames i)
    | .call _ args _ => binderNamesArgs args
    | .ctor _ args _ => binderNamesArgs args
    | .dtor s _ _ args _ => binderNames s ++ binderNamesArgs args
    | .case s _ cs _ => binderNames s ++ binderNamesClauses cs
    | .new cs _ => binderNamesClauses cs
    | .goto _ t _ => binderNames t
    | .label a t _ => a :: binderNames t
    | .exit t _ => binderNames t
    | .paren t => binderNames t
  def binderNamesArgs : Fun.Terms → List String
    | .nil => []
    | .cons t r => binderNames t ++ binderNamesArgs r
  def binderNamesClauses : Fun.Clauses → List String
    | .nil => []
    | .cons _ _ names _ body rest => names ++ binderNames body ++ binderNamesClauses rest
end

mutual
theorem mem_usedBinders {x : String} : ∀ (t : Fun.Term) (u : List String),
    x ∈ usedBinders t u ↔ x ∈ binderNames t ∨ x ∈ u
  | .var _ _ _ => fun u => by simp [usedBinders, binderNames]
  | .lit _ => fun u => by simp [usedBinders, binderNames]
  | .op a _ b => fun u => by
    simp [usedBinders, binderNames, mem_usedBinders a, mem_usedBinders b] <;> grind
  | .ifc _ a b t e _ => fun u => by
    simp [usedBinders, binderNames, mem_usedBinders a, mem_usedBinders b, mem_usedBinders t,
      mem_usedBinders e] <;> grind
  | .ifz _ a t e _ => fun u => by
    simp [usedBinders, binderNames, mem_usedBinders a, mem_usedBinders t, mem_usedBinders e] <;> grind
  | .print _ a n _ => fun u => by
    simp [usedBinders, binderNames, mem_usedBinders a, mem_usedBinders n] <;> grind
  | .letIn y _ b i _ => fun u => by
    simp [usedBinders, binderNames, mem_usedBinders b, mem_usedBinders i, mem_setInsert] <;> grind
  | .call _ args _ => fun u => by simp [usedBinders, binderNames, mem_usedBindersArgs args]
  | .ctor _ args _ => fun u => by simp [usedBinders, binderNames, mem_usedBindersArgs args]
  | .dtor s _ _ args _ => fun u => by
    simp [usedBinders, binderNames, mem_usedBinders s, mem_usedBindersArgs args] <;> grind
  | .case s _ cs _ => fun u => by
    simp [usedBinders, binderNames, mem_usedBinders s, mem_usedBindersClauses cs] <;> grind
  | .new cs _ => fun u => by simp [usedBinders, binderNames, mem_usedBindersClauses cs]
  | .goto _ t _ => fun u => by simp [usedBinders, binderNames, mem_usedBinders t]
  | .label a t _ => fun u => by
    simp [usedBinders, binderNames, mem_usedBinders t, mem_setInsert] <;> grind
  | .exit t _ => fun u => by simp [usedBinders, binderNames, mem_usedBinders t]
  | .paren t => fun u => by simp [usedBinders, binderNames, mem_usedBinders t]
theorem mem_usedBindersArgs {x : String} : ∀ (a : Fun.Terms) (u : List String),
    x ∈ usedBindersArgs a u ↔ x ∈ binderNamesArgs a ∨ x ∈ u
  | .nil => fun u => by simp [usedBindersArgs, binderNamesArgs]
  | .cons t r => fun u => by
    simp [usedBindersArgs, binderNamesArgs, mem_usedBinders t, mem_usedBindersArgs r] <;> grind
theorem mem_usedBindersClauses {x : String} : ∀ (c : Fun.Clauses) (u : List String),
    x ∈ usedBindersClauses c u ↔ x ∈ binderNamesClauses c ∨ x ∈ u
  | .nil => fun u => by simp [usedBindersClauses, binderNamesClauses]
  | .cons _ _ names _ body rest => fun u => by
    simp [usedBindersClauses, binderNamesClauses, mem_usedBinders body,
      mem_usedBindersClauses rest, mem_foldl_setInsert] <;> grind
end

theorem clausesNames_sub : ∀ (cs : Fun.Clauses), ∀ x ∈ clausesNames cs, x ∈ binderNamesClauses cs
  | .nil => fun x h => by simp [clausesNames] at h
  | .cons _ _ ns _ body rest => fun x h => by
    simp only [clausesNames, List.mem_append] at h
    simp only [binderNamesClauses, List.mem_append]
    rcases h with h | h
    · exact .inl (.inl h)
    · exact .inr (clausesNames_sub rest x h)

/-- post-condition of `compile_def` / `compile_main` on labels and definition names -/
def DefNamesOK (d : Fun.Def) (l : List String) (r : List Core.Def × List String) : Prop :=
  ∃ gl, r.2 = gl ++ l ∧ gl.Nodup ∧ (∀ x ∈ gl, x ∉ l) ∧
    r.1.map (·.name) = ident0 d.name :: gl.map ident0

theorem fresh_init_labels {st st' : CompileState} (h : Fresh st st') (h0 : st.liftedStatements = []) :
    ∃ gl, st'.usedLabels = gl ++ st.usedLabels ∧ gl.Nodup ∧ (∀ x ∈ gl, x ∉ st.usedLabels) ∧
      st'.liftedStatements.map (·.name) = gl.map ident0 := by
  obtain ⟨gl, new, e, n, d, f, m⟩ := h.labels
  refine ⟨gl, e, n, d, ?_⟩
  rw [f, h0]; simpa using m

theorem compileOne_names {d cts l r}
    (h : (if d.name == "main" then compileMain d cts l else compileDef d cts l) = .ok r) :
    DefNamesOK d l r := by
  obtain ⟨τ, c, st0, ctx, body, st', -, hc, hx, rfl⟩ := compileOne_ok h
  have hf : Fresh (initState d cts l) st' := by
    rcases hc with ⟨-, rfl, -⟩ | ⟨-, rfl, -⟩
    · exact (fresh_freshCovar _).trans (compileWithCont_fresh hx)
    · exact (fresh_freshVar _).trans (compileWithCont_fresh hx)
  obtain ⟨gl, e, n, dj, m⟩ := fresh_init_labels hf rfl
  exact ⟨gl, e, n, dj, by simp [m, ident0]⟩

theorem ident0_inj {a b : String} (h : ident0 a = ident0 b) : a = b := by
  simpa [ident0] using h

theorem perm_aux {α : Type} (A G R : List α) (d : α) :
    ((A ++ d :: G) ++ R).Perm (G ++ (A ++ d :: R)) := by
  simp only [List.append_assoc, List.cons_append]
  refine (List.Perm.append_left A (List.perm_middle (l₁ := G)).symm).trans ?_
  rw [← List.append_assoc, ← List.append_assoc]
  exact List.Perm.append_right _ List.perm_append_comm

/-- the loop of `compile_prog`: if the names of the definitions translated so far and of those
still to be translated are pairwise distinct and all in `used_labels`, then the names of the
result are pairwise distinct -/
theorem compileDefs_nodup (cts : List Core.TypeDecl) :
    ∀ (rest : List Fun.Def) (l : List String) (acc out : List Core.Def),
      compileDefs cts rest l acc = .ok out →
      (acc.map (·.name) ++ rest.map (fun d => ident0 d.name)).Nodup →
      (∀ i ∈ acc.map (·.name), ∃ n ∈ l, i = ident0 n) →
      (∀ d ∈ rest, d.name ∈ l) →
      (out.map (·.name)).Nodup
  | [] => fun l acc out h hn _ _ => by
    cases h
    simpa using hn
  | d :: rest => fun l acc out h hn ha hr => by
    obtain ⟨ds, l', acc', hc, hp, hrest⟩ := compileDefs_cons_ok h
    obtain ⟨gl, e, n, dj, m⟩ := compileOne_names hc
    simp only at e m
    have hperm : (acc'.map (·.name)).Perm (acc.map (·.name) ++ ds.map (·.name)) := by
      simpa using hp.map (·.name)
    refine compileDefs_nodup cts rest l' acc' out hrest ?_ ?_ ?_
    · have hp : (acc'.map (·.name) ++ rest.map (fun d => ident0 d.name)).Perm
          (gl.map ident0 ++ (acc.map (·.name) ++ (ident0 d.name :: rest.map (fun d => ident0 d.name)))) := by
        refine (List.Perm.append_right _ hperm).trans ?_
        rw [m]
        exact perm_aux _ _ _ _
      rw [hp.nodup_iff, List.nodup_append]
      refine ⟨?_, by simpa using hn, ?_⟩
      · exact List.Pairwise.map _ (fun a b hab h => hab (ident0_inj h)) n
      · intro x hx y hy hxy
        subst hxy
        obtain ⟨g, hg, rfl⟩ := List.mem_map.1 hx
        rcases List.mem_append.1 hy with h1 | h1
        · obtain ⟨n', hn', e'⟩ := ha _ h1
          exact dj g hg (ident0_inj e' ▸ hn')
        · rcases List.mem_cons.1 h1 with h2 | h2
          · exact dj g hg (ident0_inj h2 ▸ hr d (by simp))
          · obtain ⟨d', hd', e'⟩ := List.mem_map.1 h2
            exact dj g hg (ident0_inj e' ▸ hr d' (by simp [hd']))
    · intro i hi
      have := (hperm.mem_iff).1 hi
      rcases List.mem_append.1 this with h1 | h1
      · obtain ⟨n', hn', e'⟩ := ha _ h1
        exact ⟨n', by simp [e, hn'], e'⟩
      · rw [m] at h1
        rcases List.mem_cons.1 h1 with h2 | h2
        · exact ⟨d.name, by simp [e, hr d (by simp)], h2⟩
        · obtain ⟨g, hg, rfl⟩ := List.mem_map.1 h2
          exact ⟨g, by simp [e, hg], rfl⟩
    · intro d' hd'
      simp [e, hr d' (by simp [hd'])]

theorem bindersOccurFree_var (binders : List String) (a : String) (ty : Core.Ty) :
    bindersOccurFree binders (.var .cns ⟨a, 0⟩ ty) = binders.contains a := by
  simp [bindersOccurFree, tfvTerm, bsetInsert]

/-- In every real run the binders of a `let` / `case` are in the used-names set
(`C02_used_set_covers_def`, and the set only grows).  Then the fresh covariable of the guard's
`self.compile` is not a binder, the re-entered `compile_with_cont` takes the unguarded path, and
the guard is exactly
`if binders_occur_free(binders, c) { ⟨μa.core(a) | c⟩ } else { core(c) }`;
in particular the fuel of `guardedLvl` is never exhausted. -/
theorem guarded_eq_of_binders_used (binders : List String) (ty : Option Fun.Ty) (site : String)
    (core : CwcFn) (c : Core.Term) (st : CompileState) (hb : ∀ x ∈ binders, x ∈ st.usedVars) :
    guarded binders ty site core c st =
      (if bindersOccurFree binders c then
        match ty with
        | none => .error (noTy site)
        | some t =>
          match core (.var .cns ⟨(freshCovar st).1, 0⟩ (compileTy t)) (freshCovar st).2 with
          | .error e => .error e
          | .ok (s, st1) =>
            .ok (.cut (compileTy t) (.mu .prd ⟨(freshCovar st).1, 0⟩ (compileTy t) s) c, st1)
      else core c st) := by
  have hfresh : binders.contains (freshCovar st).1 = false := by
    have : (freshCovar st).1 ∉ binders := fun h => freshName_not_mem _ _ (hb _ h)
    simpa using this
  unfold guarded
  rw [guardedLvl_succ]
  split
  · cases ty with
    | none => rfl
    | some t =>
      simp only [defaultCompile_eq, guardedLvl_succ, bindersOccurFree_var, hfresh]
      simp only [Bool.false_eq_true, if_false]
      cases core (.var .cns ⟨(freshCovar st).1, 0⟩ (compileTy t)) (freshCovar st).2 with
      | error e => rfl
      | ok r => rfl
  · rfl

end Scc.Fun2Core
