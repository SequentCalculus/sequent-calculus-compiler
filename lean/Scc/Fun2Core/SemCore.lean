/-
  Scc.Fun2Core.SemCore — lemmas about the Core ς-machine (`Scc.Core.step`) used by the semantic part
  of C02: the ς-step, the focused steps, extension of environments by machine-fresh names, and the
  generic "operand" lemma: a non-variable producer in the leftmost operand position of a statement
  is lifted, evaluated and bound to a machine-fresh variable.
-/
import Scc.Fun2Core.SemRelLemmas
import Scc.Core.ProofsFocusSimD

namespace Scc.Fun2Core.Sem

def SigExt (m : Nat) (ρ ρ' : CEnv) : Prop :=
  ∃ ext : CEnv, ρ' = ext ++ ρ ∧ ∀ e ∈ ext, e.1.name = sig ∧ m ≤ e.1.id

theorem lookup_append_of_not_mem (ext ρ : CEnv) (x : Core.Ident) (h : ∀ e ∈ ext, e.1 ≠ x) :
    Core.Env.lookup (ext ++ ρ) x = Core.Env.lookup ρ x := by
  induction ext with
  | nil => rfl
  | cons e r ih =>
    obtain ⟨y, V⟩ := e
    have hy : y ≠ x := h (y, V) (by simp)
    simp only [List.cons_append]
    rw [lookup_cons_ne hy]
    exact ih (fun e he => h e (by simp [he]))

theorem SigExt.lookup {m ρ ρ'} (h : SigExt m ρ ρ') (x : Core.Ident) (hx : x.name = sig → x.id < m) :
    Core.Env.lookup ρ' x = Core.Env.lookup ρ x := by
  obtain ⟨ext, rfl, he⟩ := h
  refine lookup_append_of_not_mem ext ρ x fun e hm heq => ?_
  obtain ⟨h1, h2⟩ := he e hm
  rw [heq] at h1 h2
  have := hx h1
  omega

theorem SigExt.refl (m ρ) : SigExt m ρ ρ := ⟨[], rfl, by simp⟩

theorem SigExt.mono {m m' ρ ρ'} (h : SigExt m' ρ ρ') (hm : m ≤ m') : SigExt m ρ ρ' := by
  obtain ⟨ext, e, he⟩ := h
  exact ⟨ext, e, fun x hx => ⟨(he x hx).1, by have := (he x hx).2; omega⟩⟩

theorem SigExt.trans {m m' ρ1 ρ2 ρ3} (h1 : SigExt m ρ1 ρ2) (h2 : SigExt m' ρ2 ρ3) (hm : m ≤ m') :
    SigExt m ρ1 ρ3 := by
  obtain ⟨e1, rfl, he1⟩ := h1
  obtain ⟨e2, rfl, he2⟩ := h2.mono hm
  refine ⟨e2 ++ e1, by simp, fun x hx => ?_⟩
  rcases List.mem_append.1 hx with h | h
  · exact he2 x h
  · exact he1 x h

theorem SigExt.cons {m m' ρ ρ' V} (h : SigExt m ρ ρ') (hm : m ≤ m') :
    SigExt m ρ ((Core.sigmaName m', V) :: ρ') := by
  obtain ⟨ext, rfl, he⟩ := h
  refine ⟨(Core.sigmaName m', V) :: ext, rfl, fun x hx => ?_⟩
  rcases List.mem_cons.1 hx with rfl | hx
  · exact ⟨rfl, hm⟩
  · exact he x hx

/-- the same extension applied to another environment -/
theorem SigExt.agree {m ρ ρ' ρ0} (h : SigExt m ρ ρ') :
    ∃ ρ0', SigExt m ρ0 ρ0' ∧ ∀ bs, AgreeOn bs ρ0 ρ → AgreeOn bs ρ0' ρ' := by
  obtain ⟨ext, rfl, he⟩ := h
  refine ⟨ext ++ ρ0, ⟨ext, rfl, he⟩, fun bs ha b hb => ?_⟩
  induction ext with
  | nil => exact ha b hb
  | cons e r ih =>
    obtain ⟨y, V⟩ := e
    simp only [List.cons_append, lookup_cons]
    split
    · rfl
    · exact ih (fun x hx => he x (by simp [hx]))

theorem BoundOn.sigExt {bs : List Core.Binding} {m : Nat} {ρ ρ' : CEnv} (h : BoundOn bs ρ)
    (he : SigExt m ρ ρ') : BoundOn bs ρ' := by
  obtain ⟨ext, rfl, hx⟩ := he
  clear hx
  intro b hb
  obtain ⟨V, hV⟩ := h b hb
  induction ext with
  | nil => exact ⟨V, hV⟩
  | cons e r ih =>
    obtain ⟨y, W⟩ := e
    simp only [List.cons_append, lookup_cons]
    split
    · exact ⟨W, rfl⟩
    · exact ih

def argsAllVar : Core.Args → Bool
  | .nil => true
  | .cons _ t r => t.isVar && argsAllVar r

/-- a producer that the machine evaluates in one step (no `μ`, all arguments variables) -/
def isFocusedVal : Core.Term → Bool
  | .var .. => true
  | .lit _ => true
  | .op a _ b => a.isVar && b.isVar
  | .xtor _ _ as _ => argsAllVar as
  | .xcase .. => true
  | .mu .. => false

theorem args_split_allVar : ∀ (as : Core.Args), argsAllVar as = true → as.split = none
  | .nil => fun _ => rfl
  | .cons pc t r => fun h => by
    simp only [argsAllVar, Bool.and_eq_true] at h
    simp only [Core.Args.split, h.1, if_true, args_split_allVar r h.2]

theorem split_cut_focused {cty : Core.Ty} {A c : Core.Term} (hA : isFocusedVal A = true)
    (hc : Inert c) : (Core.Stmt.cut cty A c).split = none := by
  cases A with
  | op a o b =>
    simp only [isFocusedVal, Bool.and_eq_true] at hA
    cases c with
    | xtor _ _ _ _ => exact False.elim hc
    | _ => simp [Core.Stmt.split, hA.1, hA.2]
  | xtor pc k as ty =>
    simp only [isFocusedVal] at hA
    cases c with
    | xtor _ _ _ _ => exact False.elim hc
    | _ => simp [Core.Stmt.split, args_split_allVar as hA]
  | mu pc v ty s => simp [isFocusedVal] at hA
  | _ =>
    cases c with
    | xtor _ _ _ _ => exact False.elim hc
    | _ => rfl

/-- a focused cut at a type that is not codata passes the producer value to the consumer value -/
theorem step_cut_pass {q : Core.Prog} {cty : Core.Ty} {A c : Core.Term}
    (hnc : Core.isCodata q.codataTypes cty = false)
    {ρ : CEnv} {out : Out} {n : Nat} {V cv : CVal}
    (hA : isFocusedVal A = true) (hc : Inert c)
    (hV : Core.prdVal ρ A = .ok V) (hcv : Core.cnsVal ρ c = .ok cv) :
    Core.step q ⟨.cut cty A c, ρ, out, n⟩ =
      Core.State.pass ⟨.cut cty A c, ρ, out, n⟩ V cv := by
  have hs : Core.sigmaStep (Core.sigmaName n) (.cut cty A c) = none := by
    simp only [Core.sigmaStep, split_cut_focused hA hc]
  simp only [Core.step, hs, hnc, Core.stepCut]
  cases A with
  | mu pc v ty s => simp [isFocusedVal] at hA
  | _ => simp only [hV, hcv, Bool.false_eq_true, if_false]

/-- a focused cut whose consumer is a `μ~`: the variable is bound to the value of the producer,
whatever the type of the cut (producer first and consumer first coincide) -/
theorem step_cut_bind {q : Core.Prog} {cty ty : Core.Ty} {A : Core.Term} {x : Core.Ident}
    {s : Core.Stmt} {ρ : CEnv} {out : Out} {n : Nat} {V : CVal}
    (hA : isFocusedVal A = true) (hV : Core.prdVal ρ A = .ok V) :
    Core.step q ⟨.cut cty A (.mu .cns x ty s), ρ, out, n⟩ = .next ⟨s, (x, V) :: ρ, out, n⟩ := by
  have hs : Core.sigmaStep (Core.sigmaName n) (.cut cty A (.mu .cns x ty s)) = none := by
    simp only [Core.sigmaStep, split_cut_focused hA (c := .mu .cns x ty s) trivial]
  simp only [Core.step, hs, Core.stepCut]
  cases hcd : Core.isCodata q.codataTypes cty with
  | true =>
    simp only [if_true, Core.cnsVal, hV, Core.State.goto]
  | false =>
    cases A with
    | mu pc v ty s => simp [isFocusedVal] at hA
    | _ => simp only [hV, Core.cnsVal, Bool.false_eq_true, if_false, Core.State.pass, Core.State.goto]

/-- a cut whose producer is a `μ`, at a type that is not codata: bind the covariable -/
theorem step_cut_mu {q : Core.Prog} {cty ty : Core.Ty} (hnc : Core.isCodata q.codataTypes cty = false)
    {a : Core.Ident}
    {s : Core.Stmt} {c : Core.Term} {ρ : CEnv} {out : Out} {n : Nat} {cv : CVal}
    (hc : Inert c) (hcv : Core.cnsVal ρ c = .ok cv) (pc : Core.PC) :
    Core.step q ⟨.cut cty (.mu pc a ty s) c, ρ, out, n⟩ = .next ⟨s, (a, cv) :: ρ, out, n⟩ := by
  have hs : Core.sigmaStep (Core.sigmaName n) (.cut cty (.mu pc a ty s) c) = none := by
    cases c with
    | xtor _ _ _ _ => exact False.elim hc
    | _ => rfl
  simp only [Core.step, hs, hnc, Core.stepCut, hcv, Bool.false_eq_true, if_false,
    Core.State.goto]

/-- the producer `A` is evaluated by the machine started with environment `ρ` and counter `n` to a
value satisfying `Φ`, whatever the (inert) consumer, the type of the cut and the output so far -/
def PEval (q : Core.Prog) (A : Core.Term) (ρ : CEnv) (n : Nat) (Φ : CVal → Prop) : Prop :=
  ∀ (c : Core.Term) (cty : Core.Ty) (out : Out), Inert c →
    ∃ i ρ' n' A' V, CSteps q ⟨.cut cty A c, ρ, out, n⟩ ⟨.cut cty A' c, ρ', out, n'⟩ i ∧ n ≤ n' ∧
      SigExt n ρ ρ' ∧ isFocusedVal A' = true ∧ Core.prdVal ρ' A' = .ok V ∧ Φ V

theorem mu_inert (x ty s) : Inert (.mu .cns x ty s) := trivial

/-- an operand in leftmost non-variable position: if it is a variable nothing happens, otherwise it
is lifted (ς), evaluated, and bound to the machine-fresh variable that replaces it -/
theorem core_operand {q : Core.Prog} {A : Core.Term} {ρ : CEnv} {n : Nat}
    {Φ : CVal → Prop} (Sx : Core.Term → Core.Stmt) (out : Out)
    (hvar : ∀ pc z ty, A = .var pc z ty → pc = .prd ∧ (z.name = sig → z.id < n) ∧
      ∃ V, Core.Env.lookup ρ z = .ok V ∧ Φ V)
    (hnv : A.isVar = false → PEval q A ρ (n + 1) Φ ∧ (Sx A).split = some (.prd, A, Sx)) :
    ∃ i ρ' n' z ty V, CSteps q ⟨Sx A, ρ, out, n⟩ ⟨Sx (.var .prd z ty), ρ', out, n'⟩ i ∧ n ≤ n' ∧
      SigExt n ρ ρ' ∧ Core.Env.lookup ρ' z = .ok V ∧ Φ V ∧ (z.name = sig → z.id < n') := by
  cases hA : A.isVar with
  | true =>
    cases A with
    | var pc z ty =>
      obtain ⟨rfl, h3, V, h2, hΦ⟩ := hvar pc z ty rfl
      exact ⟨0, ρ, n, z, ty, V, .refl _, Nat.le_refl _, .refl _ _, h2, hΦ, h3⟩
    | _ => simp [Core.Term.isVar] at hA
  | false =>
    obtain ⟨hev, hsp⟩ := hnv hA
    have s1 := Core.FocusSim.step_of_split_some (p1 := q) (st1 := ⟨Sx A, ρ, out, n⟩) hsp
    simp only [Core.sigmaCut] at s1
    obtain ⟨i, ρ1, n1, A', V, hc, hn1, hext, hfoc, hval, hΦ⟩ :=
      hev (.mu .cns (Core.sigmaName n) A.ty (Sx (.var .prd (Core.sigmaName n) A.ty))) A.ty out
        (mu_inert _ _ _)
    have s2 := step_cut_bind (q := q) (cty := A.ty) (ty := A.ty) (x := Core.sigmaName n)
      (s := Sx (.var .prd (Core.sigmaName n) A.ty)) (out := out) (n := n1) hfoc hval
    refine ⟨1 + i + 1, (Core.sigmaName n, V) :: ρ1, n1, Core.sigmaName n, A.ty, V,
      ((CSteps.one s1).trans hc).trans (.one s2), by omega, ?_, lookup_cons_self _ _ _, hΦ, ?_⟩
    · exact (hext.mono (Nat.le_succ n)).cons (Nat.le_refl n)
    · intro _
      simp only [sigmaName_id]
      omega

end Scc.Fun2Core.Sem
