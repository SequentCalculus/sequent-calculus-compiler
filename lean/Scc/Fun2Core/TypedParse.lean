/-
  Scc.Fun2Core.TypedParse — C12, source level: what lexer + parser accept satisfies the
  side conditions under which the links of C12 about fun2core are theorems.  From
  `Scc.Fun.Print.parseChars_good` (C16-T3: the parser's output is in the image of the grammar and all
  its names are identifiers of the right case):
    * `programNamesOk_of_parse`  names contain no `[`, `]`, `,`, blank and are not `i64`  (`programNamesOk`)
    * `binders_lower_of_parse`   every parameter / binder of the CHECKED program is a lower-case identifier
                                 (through `DefsErase`: the checker keeps binders), hence not `ς`
    * `instances_upper_of_parse` every instance declaration of the checked program is named by an
                                 upper-case identifier followed by the printed type arguments, hence not `_Cont`
-/
import Scc.Fun.ParseInRange
import Scc.Fun.CheckSound6
import Scc.Fun2Core.Fresh

namespace Scc.Fun2Core.Typed
open Scc.Fun Scc.Fun.Lex Scc.Fun.Print Scc.Fun.Check
open Scc.Fun.Typing (Erases ArgsErase ClausesErase DefsErase)

theorem idC_ok {c : Char} (h : isIdC c = true) : (!(isDelim c || c == ' ')) = true := by
  have h1 : c ≠ '[' := by rintro rfl; revert h; decide
  have h2 : c ≠ ']' := by rintro rfl; revert h; decide
  have h3 : c ≠ ',' := by rintro rfl; revert h; decide
  have h4 : c ≠ ' ' := by rintro rfl; revert h; decide
  simp [isDelim, h1, h2, h3, h4]

theorem upperC_idC {c : Char} (h : isUpperC c = true) : isIdC c = true := by simp [isIdC, h]
theorem lowerC_idC {c : Char} (h : isLowerC c = true) : isIdC c = true := by simp [isIdC, h]

theorem nameOk_of_upper {n : String} (h : upperName n.toList = true) : nameOk n = true := by
  unfold nameOk
  cases hn : n.toList with
  | nil => rw [hn] at h; simp [upperName] at h
  | cons c r =>
    rw [hn] at h
    simp only [upperName, Bool.and_eq_true, List.all_eq_true] at h
    simp only [List.all_cons, Bool.and_eq_true, List.all_eq_true, bne_iff_ne, ne_eq]
    refine ⟨⟨idC_ok (upperC_idC h.1), fun x hx => idC_ok (h.2 x hx)⟩, ?_⟩
    intro e
    injection e with e1 _
    subst e1
    exact absurd h.1 (by decide)

theorem nameOk_of_lower {n : String} (h : lowerName n.toList = true) : nameOk n = true := by
  unfold nameOk
  cases hn : n.toList with
  | nil => rw [hn] at h; simp [lowerName] at h
  | cons c r =>
    rw [hn] at h
    simp only [lowerName, Bool.and_eq_true, List.all_eq_true] at h
    simp only [List.all_cons, Bool.and_eq_true, List.all_eq_true, bne_iff_ne, ne_eq]
    refine ⟨⟨idC_ok (lowerC_idC h.1.1), fun x hx => idC_ok (h.1.2 x hx)⟩, ?_⟩
    intro e
    rw [e] at h
    exact absurd h.2 (by decide)

mutual
  theorem tyNamesOk_of_wf : ∀ (t : Ty), WfTy t → tyNamesOk t = true
    | .i64 => fun _ => rfl
    | .decl n as => fun h => by
      simp only [Print.WfTy] at h
      simp only [tyNamesOk, Bool.and_eq_true]
      exact ⟨nameOk_of_upper h.1, tysNamesOk_of_wf as h.2⟩
  theorem tysNamesOk_of_wf : ∀ (ts : Tys), WfTys ts → tysNamesOk ts = true
    | .nil => fun _ => rfl
    | .cons t r => fun h => by
      simp only [Print.WfTys] at h
      simp only [tysNamesOk, Bool.and_eq_true]
      exact ⟨tyNamesOk_of_wf t h.1, tysNamesOk_of_wf r h.2⟩
end

theorem ctxNamesOk_of_wf {c : Ctx} (h : ∀ b ∈ c, WfBinding b) : ctxNamesOk c = true := by
  simp only [ctxNamesOk, List.all_eq_true]
  exact fun b hb => tyNamesOk_of_wf b.ty (h b hb).2

mutual
  theorem termNamesOk_of : ∀ (t : Term), NamesOk t → InRange t → termNamesOk t = true
    | .var _ ty _ => fun _ hr => by
      simp only [InRange] at hr
      simp [termNamesOk, hr.1]
    | .lit _ => fun _ _ => rfl
    | .op a _ b => fun hn hr => by
      simp only [NamesOk] at hn
      simp only [InRange] at hr
      simp [termNamesOk, termNamesOk_of a hn.1 hr.1, termNamesOk_of b hn.2 hr.2.1]
    | .ifc _ a b t e _ => fun hn hr => by
      simp only [NamesOk] at hn
      simp only [InRange] at hr
      simp [termNamesOk, termNamesOk_of a hn.1 hr.1, termNamesOk_of b hn.2.1 hr.2.1,
        termNamesOk_of t hn.2.2.1 hr.2.2.1, termNamesOk_of e hn.2.2.2 hr.2.2.2.1]
    | .ifz _ a t e _ => fun hn hr => by
      simp only [NamesOk] at hn
      simp only [InRange] at hr
      simp [termNamesOk, termNamesOk_of a hn.1 hr.1, termNamesOk_of t hn.2.1 hr.2.1,
        termNamesOk_of e hn.2.2 hr.2.2.1]
    | .print _ a n _ => fun hn hr => by
      simp only [NamesOk] at hn
      simp only [InRange] at hr
      simp [termNamesOk, termNamesOk_of a hn.1 hr.1, termNamesOk_of n hn.2 hr.2.1]
    | .letIn _ σ b i _ => fun hn hr => by
      simp only [NamesOk] at hn
      simp only [InRange] at hr
      simp [termNamesOk, tyNamesOk_of_wf σ hn.2.1, termNamesOk_of b hn.2.2.1 hr.1,
        termNamesOk_of i hn.2.2.2 hr.2.1]
    | .call _ as _ => fun hn hr => by
      simp only [NamesOk] at hn
      simp only [InRange] at hr
      simp [termNamesOk, argsNamesOk_of as hn.2 hr.1]
    | .ctor k as _ => fun hn hr => by
      simp only [NamesOk] at hn
      simp only [InRange] at hr
      simp [termNamesOk, nameOk_of_upper hn.1, argsNamesOk_of as hn.2 hr.1]
    | .dtor s d tas as _ => fun hn hr => by
      simp only [NamesOk] at hn
      simp only [InRange] at hr
      simp [termNamesOk, nameOk_of_lower hn.2.1, tysNamesOk_of_wf tas hn.2.2.1,
        termNamesOk_of s hn.1 hr.1, argsNamesOk_of as hn.2.2.2 hr.2.2.1]
    | .case s tas cs _ => fun hn hr => by
      simp only [NamesOk] at hn
      simp only [InRange] at hr
      simp [termNamesOk, tysNamesOk_of_wf tas hn.2.1, termNamesOk_of s hn.1 hr.1,
        clausesNamesOk_of .data cs hn.2.2 hr.2.2.1]
    | .new cs _ => fun hn hr => by
      simp only [NamesOk] at hn
      simp only [InRange] at hr
      simp [termNamesOk, clausesNamesOk_of .codata cs hn hr.1]
    | .label _ t _ => fun hn hr => by
      simp only [NamesOk] at hn
      simp only [InRange] at hr
      simp [termNamesOk, termNamesOk_of t hn.2 hr.1]
    | .goto _ t _ => fun hn hr => by
      simp only [NamesOk] at hn
      simp only [InRange] at hr
      simp [termNamesOk, termNamesOk_of t hn.2 hr.1]
    | .exit t _ => fun hn hr => by
      simp only [NamesOk] at hn
      simp only [InRange] at hr
      simp [termNamesOk, termNamesOk_of t hn hr.1]
    | .paren t => fun hn hr => by
      simp only [NamesOk] at hn
      simp only [InRange] at hr
      simp [termNamesOk, termNamesOk_of t hn hr]
  theorem argsNamesOk_of : ∀ (as : Terms), NamesOks as → InRanges as → argsNamesOk as = true
    | .nil => fun _ _ => rfl
    | .cons t r => fun hn hr => by
      simp only [NamesOks] at hn
      simp only [InRanges] at hr
      simp [argsNamesOk, termNamesOk_of t hn.1 hr.1, argsNamesOk_of r hn.2 hr.2]
  theorem clausesNamesOk_of (pol : Polarity) : ∀ (cs : Clauses), NamesOkCs cs → InRangeCs pol cs →
      clausesNamesOk cs = true
    | .nil => fun _ _ => rfl
    | .cons p x ns c b r => fun hn hr => by
      simp only [NamesOkCs] at hn
      simp only [InRangeCs] at hr
      have hx : nameOk x = true := by
        have := hn.1
        unfold xtorName at this
        cases p
        · exact nameOk_of_upper this
        · exact nameOk_of_lower this
      simp [clausesNamesOk, hx, termNamesOk_of b hn.2.2.1 hr.2.2.1,
        clausesNamesOk_of pol r hn.2.2.2 hr.2.2.2]
end

theorem programNamesOk_of_good {p : Program} (hr : InRangeProg p) (hn : NamesOkProg p) :
    programNamesOk p = true := by
  simp only [programNamesOk, List.all_eq_true]
  intro d hd
  have h1 := hn d hd
  have h2 := hr d hd
  cases d with
  | data d =>
    simp only [NamesOkDecl] at h1
    simp only [declNamesOk, Bool.and_eq_true, List.all_eq_true]
    exact ⟨nameOk_of_upper h1.1, fun c hc =>
      ⟨nameOk_of_upper (h1.2.2 c hc).1, ctxNamesOk_of_wf (h1.2.2 c hc).2⟩⟩
  | codata d =>
    simp only [NamesOkDecl] at h1
    simp only [declNamesOk, Bool.and_eq_true, List.all_eq_true]
    exact ⟨nameOk_of_upper h1.1, fun c hc =>
      ⟨⟨nameOk_of_lower (h1.2.2 c hc).1, ctxNamesOk_of_wf (h1.2.2 c hc).2.1⟩,
        tyNamesOk_of_wf _ (h1.2.2 c hc).2.2⟩⟩
  | defn d =>
    simp only [NamesOkDecl] at h1
    simp only [InRangeDecl] at h2
    simp only [declNamesOk, Bool.and_eq_true]
    exact ⟨⟨ctxNamesOk_of_wf h1.2.1, tyNamesOk_of_wf _ h1.2.2.1⟩, termNamesOk_of d.body h1.2.2.2 h2⟩

/-- **what the parser accepts has identifier names** -/
theorem programNamesOk_of_parse {mode : Parse.LiteralMode} {src : String} {p : Program}
    (h : Parse.parse mode src = .ok p) : programNamesOk p = true := by
  obtain ⟨hr, hn⟩ := parseChars_good (cs := src.toList) h
  exact programNamesOk_of_good hr hn

mutual
  theorem binders_lower : ∀ (t : Term), NamesOk t → ∀ x ∈ binderNames t, lowerName x.toList = true
    | .var _ _ _ => fun _ x hx => by simp [binderNames] at hx
    | .lit _ => fun _ x hx => by simp [binderNames] at hx
    | .op a _ b => fun hn x hx => by
      simp only [NamesOk] at hn
      simp only [binderNames, List.mem_append] at hx
      rcases hx with hx | hx
      · exact binders_lower a hn.1 x hx
      · exact binders_lower b hn.2 x hx
    | .ifc _ a b t e _ => fun hn x hx => by
      simp only [NamesOk] at hn
      simp only [binderNames, List.mem_append] at hx
      rcases hx with ((hx | hx) | hx) | hx
      · exact binders_lower a hn.1 x hx
      · exact binders_lower b hn.2.1 x hx
      · exact binders_lower t hn.2.2.1 x hx
      · exact binders_lower e hn.2.2.2 x hx
    | .ifz _ a t e _ => fun hn x hx => by
      simp only [NamesOk] at hn
      simp only [binderNames, List.mem_append] at hx
      rcases hx with (hx | hx) | hx
      · exact binders_lower a hn.1 x hx
      · exact binders_lower t hn.2.1 x hx
      · exact binders_lower e hn.2.2 x hx
    | .print _ a n _ => fun hn x hx => by
      simp only [NamesOk] at hn
      simp only [binderNames, List.mem_append] at hx
      rcases hx with hx | hx
      · exact binders_lower a hn.1 x hx
      · exact binders_lower n hn.2 x hx
    | .letIn y _ b i _ => fun hn x hx => by
      simp only [NamesOk] at hn
      simp only [binderNames, List.mem_cons, List.mem_append] at hx
      rcases hx with rfl | hx | hx
      · exact hn.1
      · exact binders_lower b hn.2.2.1 x hx
      · exact binders_lower i hn.2.2.2 x hx
    | .call _ as _ => fun hn x hx => by
      simp only [NamesOk] at hn
      exact bindersArgs_lower as hn.2 x (by simpa [binderNames] using hx)
    | .ctor _ as _ => fun hn x hx => by
      simp only [NamesOk] at hn
      exact bindersArgs_lower as hn.2 x (by simpa [binderNames] using hx)
    | .dtor s _ _ as _ => fun hn x hx => by
      simp only [NamesOk] at hn
      simp only [binderNames, List.mem_append] at hx
      rcases hx with hx | hx
      · exact binders_lower s hn.1 x hx
      · exact bindersArgs_lower as hn.2.2.2 x hx
    | .case s _ cs _ => fun hn x hx => by
      simp only [NamesOk] at hn
      simp only [binderNames, List.mem_append] at hx
      rcases hx with hx | hx
      · exact binders_lower s hn.1 x hx
      · exact bindersClauses_lower cs hn.2.2 x hx
    | .new cs _ => fun hn x hx => by
      simp only [NamesOk] at hn
      exact bindersClauses_lower cs hn x (by simpa [binderNames] using hx)
    | .label a t _ => fun hn x hx => by
      simp only [NamesOk] at hn
      simp only [binderNames, List.mem_cons] at hx
      rcases hx with rfl | hx
      · exact hn.1
      · exact binders_lower t hn.2 x hx
    | .goto _ t _ => fun hn x hx => by
      simp only [NamesOk] at hn
      exact binders_lower t hn.2 x (by simpa [binderNames] using hx)
    | .exit t _ => fun hn x hx => by
      simp only [NamesOk] at hn
      exact binders_lower t hn x (by simpa [binderNames] using hx)
    | .paren t => fun hn x hx => by
      simp only [NamesOk] at hn
      exact binders_lower t hn x (by simpa [binderNames] using hx)
  theorem bindersArgs_lower : ∀ (as : Terms), NamesOks as →
      ∀ x ∈ binderNamesArgs as, lowerName x.toList = true
    | .nil => fun _ x hx => by simp [binderNamesArgs] at hx
    | .cons t r => fun hn x hx => by
      simp only [NamesOks] at hn
      simp only [binderNamesArgs, List.mem_append] at hx
      rcases hx with hx | hx
      · exact binders_lower t hn.1 x hx
      · exact bindersArgs_lower r hn.2 x hx
  theorem bindersClauses_lower : ∀ (cs : Clauses), NamesOkCs cs →
      ∀ x ∈ binderNamesClauses cs, lowerName x.toList = true
    | .nil => fun _ x hx => by simp [binderNamesClauses] at hx
    | .cons _ _ ns _ b r => fun hn x hx => by
      simp only [NamesOkCs] at hn
      simp only [binderNamesClauses, List.mem_append] at hx
      rcases hx with (hx | hx) | hx
      · exact hn.2.1 x hx
      · exact binders_lower b hn.2.2.1 x hx
      · exact bindersClauses_lower r hn.2.2.2 x hx
end

def clauseListBinders (l : List Clause) : List String :=
  l.flatMap fun c => c.names ++ binderNames c.body

theorem binderNamesClauses_eq : ∀ (cs : Clauses),
    ∀ x, x ∈ binderNamesClauses cs ↔ x ∈ clauseListBinders cs.toList
  | .nil => fun x => by simp [binderNamesClauses, clauseListBinders, Clauses.toList]
  | .cons p k ns c b r => fun x => by
    have ih := binderNamesClauses_eq r x
    simp only [binderNamesClauses, clauseListBinders, Clauses.toList, List.flatMap_cons,
      List.mem_append] at ih ⊢
    rw [ih]

mutual
  theorem erases_binders : ∀ {t' t : Term}, Erases t' t → ∀ x ∈ binderNames t', x ∈ binderNames t
    | _, _, .var => fun x hx => by simp [binderNames] at hx
    | _, _, .lit => fun x hx => hx
    | _, _, .op ha hb => fun x hx => by
      simp only [binderNames, List.mem_append] at hx ⊢
      exact hx.imp (erases_binders ha x) (erases_binders hb x)
    | _, _, .ifc ha hb ht he => fun x hx => by
      simp only [binderNames, List.mem_append] at hx ⊢
      exact hx.imp (fun h => h.imp (fun h => h.imp (erases_binders ha x) (erases_binders hb x))
        (erases_binders ht x)) (erases_binders he x)
    | _, _, .ifz ha ht he => fun x hx => by
      simp only [binderNames, List.mem_append] at hx ⊢
      exact hx.imp (fun h => h.imp (erases_binders ha x) (erases_binders ht x)) (erases_binders he x)
    | _, _, .print ha hn => fun x hx => by
      simp only [binderNames, List.mem_append] at hx ⊢
      exact hx.imp (erases_binders ha x) (erases_binders hn x)
    | _, _, .letIn hb hi => fun x hx => by
      simp only [binderNames, List.mem_cons, List.mem_append] at hx ⊢
      exact hx.imp id (fun h => h.imp (erases_binders hb x) (erases_binders hi x))
    | _, _, .call ha => fun x hx => by
      simp only [binderNames] at hx ⊢
      exact argsErase_binders ha x hx
    | _, _, .ctor ha => fun x hx => by
      simp only [binderNames] at hx ⊢
      exact argsErase_binders ha x hx
    | _, _, .dtor hs ha => fun x hx => by
      simp only [binderNames, List.mem_append] at hx ⊢
      exact hx.imp (erases_binders hs x) (argsErase_binders ha x)
    | _, _, .case hs hc => fun x hx => by
      simp only [binderNames, List.mem_append] at hx ⊢
      exact hx.imp (erases_binders hs x) (clausesErase_binders hc x)
    | _, _, .new hc => fun x hx => by
      simp only [binderNames] at hx ⊢
      exact clausesErase_binders hc x hx
    | _, _, .label ht => fun x hx => by
      simp only [binderNames, List.mem_cons] at hx ⊢
      exact hx.imp id (erases_binders ht x)
    | _, _, .goto ht => fun x hx => by
      simp only [binderNames] at hx ⊢
      exact erases_binders ht x hx
    | _, _, .exit ht => fun x hx => by
      simp only [binderNames] at hx ⊢
      exact erases_binders ht x hx
    | _, _, .paren ht => fun x hx => by
      simp only [binderNames] at hx ⊢
      exact erases_binders ht x hx
  theorem argsErase_binders : ∀ {as' as : Terms}, ArgsErase as' as →
      ∀ x ∈ binderNamesArgs as', x ∈ binderNamesArgs as
    | _, _, .nil => fun x hx => hx
    | _, _, .cons ht hr => fun x hx => by
      simp only [binderNamesArgs, List.mem_append] at hx ⊢
      exact hx.imp (erases_binders ht x) (argsErase_binders hr x)
  theorem clausesErase_binders : ∀ {cs' cs : Clauses}, ClausesErase cs' cs →
      ∀ x ∈ binderNamesClauses cs', x ∈ binderNamesClauses cs
    | _, _, .nil => fun x hx => hx
    | _, cs, .cons (pol := pol) (x := k) (ns := ns) (c := c) (b := b) pre post hsplit hb hr => fun x hx => by
      rw [binderNamesClauses_eq cs x, hsplit]
      simp only [binderNamesClauses, List.mem_append] at hx
      simp only [clauseListBinders, List.flatMap_append, List.flatMap_cons, List.mem_append]
      rcases hx with (hx | hx) | hx
      · exact .inr (.inl (.inl hx))
      · exact .inr (.inl (.inr (erases_binders hb x hx)))
      · have := clausesErase_binders hr x hx
        rw [binderNamesClauses_eq, toList_ofList_clauses] at this
        simp only [clauseListBinders, List.flatMap_append, List.mem_append] at this
        rcases this with h | h
        · exact .inl h
        · exact .inr (.inr h)
end

theorem lower_ne_sigma {x : String} (h : lowerName x.toList = true) : x ≠ "ς" := by
  rintro rfl
  revert h
  decide

theorem upper_append_ne_cont {n s : String} (h : upperName n.toList = true) : n ++ s ≠ "_Cont" := by
  intro e
  have e' := congrArg String.toList e
  rw [String.toList_append] at e'
  cases hn : n.toList with
  | nil => rw [hn] at h; simp [upperName] at h
  | cons c r =>
    rw [hn] at h e'
    simp only [upperName, Bool.and_eq_true] at h
    have : "_Cont".toList = ['_', 'C', 'o', 'n', 't'] := by decide
    rw [this] at e'
    injection e' with e1 _
    subst e1
    exact absurd h.1 (by decide)

/-- the parameters and binders of the checked program of a parsed source are lower-case identifiers -/
theorem binders_lower_of_parse {mode : Parse.LiteralMode} {src : String} {p : Program}
    {p' : CheckedProgram} (h : Parse.parse mode src = .ok p) (hc : checkProgram p = .ok p') :
    ∀ d ∈ p'.defs, (∀ b ∈ d.ctx, lowerName b.var.toList = true) ∧
      ∀ x ∈ binderNames d.body, lowerName x.toList = true := by
  obtain ⟨hr, hn⟩ := parseChars_good (cs := src.toList) h
  obtain ⟨_, hers, _, _⟩ := checkProgramR_sound (programNamesOk_of_good hr hn) (checkProgram_ok_iff.mp hc)
  have key : ∀ {fs' fs : List Def}, DefsErase fs' fs → (∀ f ∈ fs, Decl.defn f ∈ p.decls) →
      ∀ d ∈ fs', (∀ b ∈ d.ctx, lowerName b.var.toList = true) ∧
        ∀ x ∈ binderNames d.body, lowerName x.toList = true := by
    intro fs' fs he
    induction he with
    | nil => intro _ d hd; simp at hd
    | @cons d' d0 r' r e1 e2 e3 e4 _ ih =>
      intro hsub d hd
      rcases List.mem_cons.1 hd with rfl | hd
      · have h0 := hn _ (hsub d0 (by simp))
        simp only [NamesOkDecl] at h0
        refine ⟨?_, fun x hx => binders_lower d0.body h0.2.2.2 x (erases_binders e4 x hx)⟩
        intro b hb
        rw [e2] at hb
        exact (h0.2.1 b hb).1
      · exact ih (fun f hf => hsub f (by simp [hf])) d hd
  exact key hers (fun f hf => mem_defs.1 hf)

/-- the instance declarations of the checked program of a parsed source are named by an upper-case
identifier followed by the printed type arguments -/
theorem instances_upper_of_parse {mode : Parse.LiteralMode} {src : String} {p : Program}
    {p' : CheckedProgram} (h : Parse.parse mode src = .ok p) (hc : checkProgram p = .ok p') :
    (∀ d ∈ p'.dataTypes, d.name ≠ "_Cont") ∧ (∀ d ∈ p'.codataTypes, d.name ≠ "_Cont") := by
  obtain ⟨hr, hn⟩ := parseChars_good (cs := src.toList) h
  obtain ⟨_, _, hinst, _⟩ := checkProgramR_sound (programNamesOk_of_good hr hn) (checkProgram_ok_iff.mp hc)
  refine ⟨?_, ?_⟩
  · intro d' hd'
    obtain ⟨d, hd, ta, _, _, hname, _⟩ := hinst.1 d' hd'
    have h0 := hn _ (mem_datas.1 hd)
    simp only [NamesOkDecl] at h0
    rw [hname]
    exact upper_append_ne_cont h0.1
  · intro d' hd'
    obtain ⟨d, hd, ta, _, _, hname, _⟩ := hinst.2 d' hd'
    have h0 := hn _ (mem_codatas.1 hd)
    simp only [NamesOkDecl] at h0
    rw [hname]
    exact upper_append_ne_cont h0.1

end Scc.Fun2Core.Typed
