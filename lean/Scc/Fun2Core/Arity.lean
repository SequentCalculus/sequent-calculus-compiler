/-
  Scc.Fun2Core.Arity — the number of parameters of a definition lifted by `share` is bounded by the
  number of distinct typed (co)variables mentioned by the enclosing definition: at most
  `2 * |body|` (each source node contributes at most two new typed names: its own occurrence /
  fresh covariable, and the fresh variable of a `share`).  With Scc.Fun2Core.SizeProofs this makes
  the size bound of C19 unconditional (quadratic in the size of the source).
-/
import Scc.Fun2Core.FreeVars
import Scc.Fun2Core.SizeProofs

namespace Scc.Fun2Core

/-- `out` (variable occurrences of the output) and the parameters of the newly lifted definitions
are among `U` and the occurrences `occC` of the continuation; lifted parameter lists are
duplicate-free -/
def ArOK (U occC out : List Core.Binding) (new : List Core.Def) : Prop :=
  (∀ b ∈ out, b ∈ U ∨ b ∈ occC) ∧ (∀ d ∈ new, d.ctx.Nodup ∧ ∀ b ∈ d.ctx, b ∈ U ∨ b ∈ occC)

theorem ArOK.union {U occC out1 out2 new1 new2} (h1 : ArOK U occC out1 new1)
    (h2 : ArOK U occC out2 new2) : ArOK U occC (out1 ++ out2) (new2 ++ new1) := by
  refine ⟨fun b hb => ?_, fun d hd => ?_⟩
  · rcases List.mem_append.1 hb with h | h
    · exact h1.1 b h
    · exact h2.1 b h
  · rcases List.mem_append.1 hd with h | h
    · exact h2.2 d h
    · exact h1.2 d h

theorem occArgs_bindingsToArgs (bs : List Core.Binding) : occArgs (bindingsToArgs bs) = bs := by
  induction bs with
  | nil => rfl
  | cons b bs ih => cases b; simp [bindingsToArgs, occArgs, occTerm, ih]

theorem occArgs_snoc : ∀ (a : Core.Args) (pc : Core.PC) (t : Core.Term),
    occArgs (argsSnoc a pc t) = occArgs a ++ occTerm t
  | .nil, pc, t => by simp [argsSnoc, occArgs]
  | .cons p x r, pc, t => by simp [argsSnoc, occArgs, occArgs_snoc r pc t]

/-- `share`: at most one new typed name (the abstracted variable) -/
theorem share_arity (c : Core.Term) (st : CompileState) :
    ∃ U0 d, U0.length ≤ 1 ∧ (share c st).2.liftedStatements = d :: st.liftedStatements ∧
      ArOK U0 (occTerm c) (occTerm (share c st).1) [d] := by
  unfold share
  split
  · rename_i pc v ty s
    refine ⟨[], _, by simp, rfl, ?_, ?_⟩
    · intro b hb
      simp only [occTerm, occStmt, occArgs_bindingsToArgs] at hb
      exact .inr (by simpa [occTerm] using (tfvStmt_nil _).2 b hb)
    · intro d hd
      simp only [List.mem_singleton] at hd
      subst hd
      exact ⟨(tfvStmt_nil _).1, fun b hb => .inr (by simpa [occTerm] using (tfvStmt_nil _).2 b hb)⟩
  · refine ⟨[⟨⟨(freshVar st).1, 0⟩, .prd, coreGetType c⟩], _, by simp, rfl, ?_, ?_⟩
    · intro b hb
      simp only [occTerm, occStmt, occArgs_bindingsToArgs] at hb
      have := (tfvStmt_nil _).2 b hb
      simpa [occStmt, occTerm] using this
    · intro d hd
      simp only [List.mem_singleton] at hd
      subst hd
      refine ⟨(tfvStmt_nil _).1, fun b hb => ?_⟩
      have := (tfvStmt_nil _).2 b hb
      simpa [occStmt, occTerm] using this

theorem shareUnless_arity {b : Bool} {c : Core.Term} {st : CompileState}
    {r : Core.Term × CompileState} (hr : shareUnless b c st = r) :
    ∃ U0 new0, U0.length ≤ 1 ∧ r.2.liftedStatements = new0 ++ st.liftedStatements ∧
      ArOK U0 (occTerm c) (occTerm r.1) new0 := by
  subst hr
  cases b
  · obtain ⟨U0, d, h1, h2, h3⟩ := share_arity c st
    exact ⟨U0, [d], h1, by simpa [shareUnless] using h2, by simpa [shareUnless] using h3⟩
  · exact ⟨[], [], by simp, by simp [shareUnless],
      fun b hb => .inr (by simpa [shareUnless] using hb), by simp⟩

/-- a run from `st` to `st'` with output occurrences `out` mentions at most `budget - slack` typed
names `U` besides the occurrences `occC` of its consumer, and lifts the definitions `new` -/
def ArRun (slack budget : Nat) (occC out : List Core.Binding) (st st' : CompileState) : Prop :=
  ∃ U new, U.length + slack ≤ budget ∧ st'.liftedStatements = new ++ st.liftedStatements ∧
    ArOK U occC out new

theorem ArRun.intro {slack budget occC out st st'} (U : List Core.Binding) (new : List Core.Def)
    (h1 : U.length + slack ≤ budget) (h2 : st'.liftedStatements = new ++ st.liftedStatements)
    (h3 : ArOK U occC out new) : ArRun slack budget occC out st st' := ⟨U, new, h1, h2, h3⟩

/-- `Ar r`: besides the occurrences of its consumer, the output of the run `r` and the parameter lists
of the definitions it lifts mention at most `2 * |source phrase| - slack` typed names (`ArRun`).
The slack: the forms that override `compile` (`cutTy`) leave `compile_with_cont` one name for the
cut; the capture guard may wrap once per binder and once more, and each wrap costs a fresh
covariable. -/
def Ar : Run → Prop
  | .cwc t c st s st' => ArRun 1 (2 * funSize t) (occTerm c) (occStmt s) st st'
  | .comp t _ st p st' => ArRun (cutTy t).isSome.toNat (2 * funSize t) [] (occTerm p) st st'
  | .subst as st as' st' => ArRun 0 (2 * funSizeArgs as) [] (occArgs as') st st'
  | .clauses cs c st cs' st' =>
    ArRun (2 * (clausesNames cs).length + 3 * clausesLen cs) (2 * funSizeClauses cs) (occTerm c)
      (occClauses cs') st st'
  | .coclauses cs st cs' st' => ArRun 0 (2 * funSizeClauses cs) [] (occClauses cs') st st'
  | .core t c st s st' =>
    ArRun ((guardBinders t).length + 2) (2 * funSize t) (occTerm c) (occStmt s) st st'
  | .guard t n c st s st' =>
    ArRun ((guardBinders t).length + 3) (2 * funSize t + n) (occTerm c) (occStmt s) st st'

/-- closes an `ArOK U occC out new` goal whose `U`, `out`, `new` are built by `++` / `::` from those of
the hypotheses `ok_i : ArOK U_i occC_i out_i new_i` in the context (the premises of the rule and
the shared consumer): membership in appended lists, after unfolding `occ*` on the output -/
macro "ar_ok" : tactic => `(tactic| (
  unfold ArOK at *
  simp only [occStmt, occTerm, occArgs, occClauses, occArgs_snoc, List.mem_append,
    List.mem_cons, List.mem_singleton, List.not_mem_nil, or_false, false_or] at *
  grind))

theorem ar {r : Run} (h : Compiles r) : Ar r := by
  induction h with
  | cwc_cut hty _ ih =>
    obtain ⟨U, new, hl, e, ok⟩ := ih
    exact .intro U new (by simpa [hty] using hl) e (by ar_ok)
  | cwc_ifc _ _ _ _ iha ihb iht ihe =>
    generalize hr : shareUnless _ _ _ = r at *
    obtain ⟨U0, new0, hl0, hn0, ok0⟩ := shareUnless_arity hr
    obtain ⟨U1, n1, l1, e1, ok1⟩ := iha
    obtain ⟨U2, n2, l2, e2, ok2⟩ := ihb
    obtain ⟨U3, n3, l3, e3, ok3⟩ := iht
    obtain ⟨U4, n4, l4, e4, ok4⟩ := ihe
    refine .intro (U4 ++ (U3 ++ (U2 ++ (U1 ++ U0)))) (n4 ++ (n3 ++ (n2 ++ (n1 ++ new0)))) ?_
      (by simp [e4, e3, e2, e1, hn0]) (by ar_ok)
    simp only [List.length_append, funSize]; omega
  | cwc_ifz _ _ _ iha iht ihe =>
    generalize hr : shareUnless _ _ _ = r at *
    obtain ⟨U0, new0, hl0, hn0, ok0⟩ := shareUnless_arity hr
    obtain ⟨U1, n1, l1, e1, ok1⟩ := iha
    obtain ⟨U3, n3, l3, e3, ok3⟩ := iht
    obtain ⟨U4, n4, l4, e4, ok4⟩ := ihe
    refine .intro (U4 ++ (U3 ++ (U1 ++ U0))) (n4 ++ (n3 ++ (n1 ++ new0))) ?_
      (by simp [e4, e3, e1, hn0]) (by ar_ok)
    simp only [List.length_append, funSize]; omega
  | cwc_print _ _ iha ihn =>
    obtain ⟨U1, n1, l1, e1, ok1⟩ := iha
    obtain ⟨U2, n2, l2, e2, ok2⟩ := ihn
    refine .intro (U2 ++ U1) (n2 ++ n1) ?_ (by simp [e2, e1]) (by ar_ok)
    simp only [List.length_append, funSize]; omega
  | cwc_call _ ih =>
    obtain ⟨U1, n1, l1, e1, ok1⟩ := ih
    exact .intro U1 n1 (by simp only [funSize]; omega) e1 (by ar_ok)
  | cwc_dtor _ _ _ ihs ihsc =>
    obtain ⟨U1, n1, l1, e1, ok1⟩ := ihs
    obtain ⟨U2, n2, l2, e2, ok2⟩ := ihsc
    refine .intro (U2 ++ U1) (n2 ++ n1) ?_ (by simp [e2, e1]) (by ar_ok)
    simp only [List.length_append, funSize]; omega
  | @cwc_goto target _ _ _ _ gty _ _ _ _ ih =>
    obtain ⟨U1, n1, l1, e1, ok1⟩ := ih
    refine .intro (⟨⟨target, 0⟩, .cns, compileTy gty⟩ :: U1) n1 ?_ e1 (by ar_ok)
    simp only [List.length_cons, funSize]; omega
  | cwc_exit _ ih =>
    obtain ⟨U1, n1, l1, e1, ok1⟩ := ih
    exact .intro U1 n1 (by simp only [funSize]; omega) e1 (by ar_ok)
  | cwc_paren _ ih =>
    obtain ⟨U1, n1, l1, e1, ok1⟩ := ih
    exact .intro U1 n1 (by simp only [funSize]; omega) e1 ok1
  | cwc_letIn _ ih =>
    obtain ⟨U, new, hl, e, ok⟩ := ih
    exact .intro U new (by simp only [guardBinders, List.length_singleton] at hl; omega) e ok
  | cwc_case _ ih =>
    obtain ⟨U, new, hl, e, ok⟩ := ih
    exact .intro U new (by simp only [guardBinders] at hl; omega) e ok
  | guard_pass _ _ ih =>
    obtain ⟨U, new, hl, e, ok⟩ := ih
    exact .intro U new (by omega) e ok
  | @guard_wrap _ _ _ st τ _ _ _ _ _ ih =>
    obtain ⟨U, new, hl, e, ok⟩ := ih
    refine .intro (⟨⟨(freshCovar st).1, 0⟩, .cns, compileTy τ⟩ :: U) new
      (by simp only [List.length_cons]; omega) (by simpa using e) (by ar_ok)
  | @core_let_data _ _ bound body _ _ _ _ _ _ _ _ _ _ ihi ihb =>
    obtain ⟨U1, n1, l1, e1, ok1⟩ := ihi
    obtain ⟨U2, n2, l2, e2, ok2⟩ := ihb
    refine .intro (U2 ++ U1) (n2 ++ n1) ?_ (by simp [e2, e1]) (by ar_ok)
    simp only [List.length_append, funSize, guardBinders, List.length_singleton]; omega
  | @core_let_codata _ _ bound body _ _ _ _ _ _ _ _ _ _ ihi ihb =>
    obtain ⟨U1, n1, l1, e1, ok1⟩ := ihi
    obtain ⟨U2, n2, l2, e2, ok2⟩ := ihb
    refine .intro (U2 ++ U1) (n2 ++ n1) ?_ (by simp [e2, e1]) (by ar_ok)
    simp only [List.length_append, funSize, guardBinders, List.length_singleton]; omega
  | core_case _ _ _ ihc ihs =>
    generalize hr : shareUnless _ _ _ = r at *
    obtain ⟨U0, new0, hl0, hn0, ok0⟩ := shareUnless_arity hr
    obtain ⟨U1, n1, l1, e1, ok1⟩ := ihc
    obtain ⟨U2, n2, l2, e2, ok2⟩ := ihs
    refine .intro (U2 ++ (U1 ++ U0)) (n2 ++ (n1 ++ new0)) ?_ (by simp [e2, e1, hn0]) (by ar_ok)
    simp only [List.length_append, funSize, guardBinders]; omega
  | @c_var x t =>
    exact .intro [⟨⟨x, 0⟩, .prd, compileTy t⟩] [] (by simp [funSize, cutTy]) (by simp) (by ar_ok)
  | c_lit => exact .intro [] [] (by simp [funSize, cutTy]) (by simp) (by ar_ok)
  | c_op _ _ iha ihb =>
    obtain ⟨U1, n1, l1, e1, ok1⟩ := iha
    obtain ⟨U2, n2, l2, e2, ok2⟩ := ihb
    refine .intro (U2 ++ U1) (n2 ++ n1) ?_ (by simp [e2, e1]) (by ar_ok)
    simp only [List.length_append, funSize, cutTy, Option.isSome, Bool.toNat_true]; omega
  | c_ctor _ ih =>
    obtain ⟨U1, n1, l1, e1, ok1⟩ := ih
    exact .intro U1 n1 (by simp only [funSize, cutTy, Option.isSome, Bool.toNat_true]; omega) e1
      (by ar_ok)
  | c_new _ ih =>
    obtain ⟨U1, n1, l1, e1, ok1⟩ := ih
    exact .intro U1 n1 (by simp only [funSize, cutTy, Option.isSome, Bool.toNat_true]; omega) e1
      (by ar_ok)
  | @c_label a _ lty _ _ _ _ _ ih =>
    obtain ⟨U1, n1, l1, e1, ok1⟩ := ih
    refine .intro (⟨⟨a, 0⟩, .cns, compileTy lty⟩ :: U1) n1 ?_ e1 (by ar_ok)
    simp only [List.length_cons, funSize, cutTy, Option.isSome, Bool.toNat_true]; omega
  | c_paren _ ih =>
    obtain ⟨U1, n1, l1, e1, ok1⟩ := ih
    exact .intro U1 n1 (by simp only [funSize, cutTy, Option.isSome, Bool.toNat_false]; omega) e1 ok1
  | @c_default t ty st _ _ hu _ ih =>
    obtain ⟨U, new, hl, e, ok⟩ := ih
    refine .intro (⟨⟨(freshCovar st).1, 0⟩, .cns, ty⟩ :: U) new ?_ (by simpa using e) (by ar_ok)
    have : cutTy t = none := by cases t <;> first | rfl | cases hu
    simp only [List.length_cons, this, Option.isSome, Bool.toNat_false]; omega
  | subst_nil => exact .intro [] [] (by simp) (by simp) (by ar_ok)
  | @subst_covar term _ _ x t _ _ _ _ ih =>
    obtain ⟨U1, n1, l1, e1, ok1⟩ := ih
    have hpos := funSize_pos term
    refine .intro (⟨⟨x, 0⟩, .cns, compileTy t⟩ :: U1) n1 ?_ e1 (by ar_ok)
    simp only [List.length_cons, funSizeArgs]; omega
  | subst_cons _ _ _ _ iht ihr =>
    obtain ⟨U1, n1, l1, e1, ok1⟩ := iht
    obtain ⟨U2, n2, l2, e2, ok2⟩ := ihr
    refine .intro (U2 ++ U1) (n2 ++ n1) ?_ (by simp [e2, e1]) (by ar_ok)
    simp only [List.length_append, funSizeArgs]; omega
  | clauses_nil =>
    exact .intro [] [] (by simp [clausesNames, clausesLen, funSizeClauses]) (by simp) (by ar_ok)
  | clauses_cons _ _ ihb ihr =>
    obtain ⟨U1, n1, l1, e1, ok1⟩ := ihb
    obtain ⟨U2, n2, l2, e2, ok2⟩ := ihr
    refine .intro (U2 ++ U1) (n2 ++ n1) ?_ (by simp [e2, e1]) (by ar_ok)
    simp only [List.length_append, funSizeClauses, clausesNames, clausesLen]; omega
  | coclauses_nil => exact .intro [] [] (by simp) (by simp) (by ar_ok)
  | @coclauses_cons _ _ _ _ _ _ st t _ _ _ _ _ _ _ ihb ihr =>
    obtain ⟨U1, n1, l1, e1, ok1⟩ := ihb
    obtain ⟨U2, n2, l2, e2, ok2⟩ := ihr
    refine .intro (U2 ++ (⟨⟨(freshCovar st).1, 0⟩, .cns, compileTy t⟩ :: U1)) (n2 ++ n1) ?_
      (by simp [e2, e1]) (by ar_ok)
    simp only [List.length_append, List.length_cons, funSizeClauses]; omega

def ArSubst (args : Fun.Terms) : Prop :=
  ∀ st as st', compileSubst args st = .ok (as, st') →
    ∃ U new, U.length ≤ 2 * funSizeArgs args ∧ st'.liftedStatements = new ++ st.liftedStatements ∧
      ArOK U [] (occArgs as) new
def ArClauses (cs : Fun.Clauses) : Prop :=
  ∀ cont st cs' st', compileClauses cs cont st = .ok (cs', st') →
    ∃ U new, U.length + 2 * (clausesNames cs).length + 3 * clausesLen cs ≤ 2 * funSizeClauses cs ∧
      st'.liftedStatements = new ++ st.liftedStatements ∧
      ArOK U (occTerm cont) (occClauses cs') new
def ArCoclauses (cs : Fun.Clauses) : Prop :=
  ∀ st cs' st', compileCoclauses cs st = .ok (cs', st') →
    ∃ U new, U.length ≤ 2 * funSizeClauses cs ∧ st'.liftedStatements = new ++ st.liftedStatements ∧
      ArOK U [] (occClauses cs') new

theorem ar_subst : ∀ args : Fun.Terms, ArSubst args :=
  fun args _ _ _ h => ar (compiles_subst args _ _ _ h)
theorem ar_clauses : ∀ cs : Fun.Clauses, ArClauses cs := fun cs _ _ _ _ h => by
  obtain ⟨U, new, hl, r⟩ := ar (compiles_clauses cs _ _ _ _ h)
  exact ⟨U, new, by omega, r⟩
theorem ar_coclauses : ∀ cs : Fun.Clauses, ArCoclauses cs :=
  fun cs _ _ _ h => ar (compiles_coclauses cs _ _ _ h)

theorem ar_cwc {t : Fun.Term} {c st s st'} (h : compileWithCont t c st = .ok (s, st')) :
    ∃ U new, U.length + 1 ≤ 2 * funSize t ∧ st'.liftedStatements = new ++ st.liftedStatements ∧
      ArOK U (occTerm c) (occStmt s) new := ar ((compiles_term t).1 _ _ _ _ h)

theorem length_le_of_arOK {U occC : List Core.Binding} {ctx : List Core.Binding}
    (hn : ctx.Nodup) (hs : ∀ b ∈ ctx, b ∈ U ∨ b ∈ occC) : ctx.length ≤ U.length + occC.length := by
  have : ctx ⊆ U ++ occC := fun b hb => List.mem_append.2 (hs b hb)
  simpa using List.Nodup.length_le_of_subset hn this

theorem compileOne_arity {d cts l r}
    (h : (if d.name == "main" then compileMain d cts l else compileDef d cts l) = .ok r) :
    ∀ d' ∈ r.1, d'.ctx.length ≤ 2 * funDefSize d := by
  obtain ⟨τ, c, st0, ctx, body, st', -, hc, hx, rfl⟩ := compileOne_ok h
  obtain ⟨U, new, hl, e, ok⟩ := ar_cwc hx
  intro d' hd'
  rcases hc with ⟨rfl, rfl, rfl⟩ | ⟨rfl, rfl, rfl⟩ <;>
  · simp only [freshCovar_lifted, freshVar_lifted, initState, List.append_nil] at e
    rcases List.mem_cons.1 hd' with rfl | hd'
    · simp [compileContext, funDefSize]; omega
    · rw [e] at hd'
      have := length_le_of_arOK (ok.2 d' hd').1 (ok.2 d' hd').2
      simp only [occTerm, occStmt, List.length_singleton, funDefSize] at *
      omega

theorem compileDefs_arity (cts : List Core.TypeDecl) :
    ∀ (rest : List Fun.Def) (l : List String) (acc out : List Core.Def),
      compileDefs cts rest l acc = .ok out →
      ∀ d ∈ out, d ∈ acc ∨ d.ctx.length ≤ 2 * funDefsSize rest
  | [], l, acc, out, h => by cases h; exact fun d hd => .inl hd
  | d :: rest, l, acc, out, h => by
    obtain ⟨ds, l', acc', h1, hp, h2⟩ := compileDefs_cons_ok h
    intro d' hd'
    rcases compileDefs_arity cts rest _ _ out h2 d' hd' with h3 | h3
    · rcases List.mem_append.1 (hp.mem_iff.1 h3) with h4 | h4
      · exact .inl h4
      · have := compileOne_arity h1 d' h4
        exact .inr (by simp only [funDefsSize]; omega)
    · exact .inr (by simp only [funDefsSize]; omega)

/-- every definition of the translated program (user or lifted) has at most `2 * |S1|` parameters -/
theorem compileProg_arity {p : Fun.CheckedProgram} {q : Core.Prog} (h : compileProg p = .ok q) :
    ∀ d ∈ q.defs, d.ctx.length ≤ 2 * funProgSize p := by
  unfold compileProg at h
  simp only at h
  split at h
  · simp at h
  · rename_i defs hd
    simp only [Except.ok.injEq] at h
    subst h
    intro d hd'
    rcases compileDefs_arity _ _ _ _ _ hd d hd' with h1 | h1
    · simp at h1
    · exact h1

/-- unconditional size bound: `|S2| ≤ 3 * n * (2 * n + 4)` with `n = |S1|` -/
theorem compileProg_size_uncond {p : Fun.CheckedProgram} {q : Core.Prog}
    (h : compileProg p = .ok q) :
    progSize q ≤ funProgSize p * W (2 * funProgSize p) :=
  compileProg_size _ h (compileProg_arity h)

end Scc.Fun2Core
