/-
  Scc.Backend.Blk — the shape of the code that the memory methods of a backend emit (memory.rs of the
  three backends): single items (`Leaf`) put together by concatenation and by the two blocks that draw
  fresh labels, `skip_if_zero` and `if_zero_then_else`.  A backend says how it writes the jumps and
  labels of the two blocks (`BlkSyn`) and proves that the code of its memory methods is a `Blk`.  What
  holds of every item follows here (`Blk.forall`), and in `Scc.Backend.BlkClosed` that the code refers
  only to labels it defines itself, for all backends.
-/

namespace Scc.Backend

/-- how a backend writes the two label-drawing blocks -/
structure BlkSyn (Code : Type) where
  /-- what the conditional jump tests (RV64: the register; x86-64, AArch64: the flags, nothing) -/
  Cnd : Type
  jz : Cnd → String → Code
  jmp : String → Code
  lab : String → Code
  /-- `lab<n>` -/
  name : Nat → String

variable {Code : Type}

/-- code of the memory methods; `pre` is the comparison before the conditional jump (empty on RV64) -/
inductive Blk (S : BlkSyn Code) (Leaf : Code → Prop) (CndOK : S.Cnd → Prop) : List Code → Prop
  | nil : Blk S Leaf CndOK []
  | one {c : Code} : Leaf c → Blk S Leaf CndOK [c]
  | append {a b : List Code} : Blk S Leaf CndOK a → Blk S Leaf CndOK b → Blk S Leaf CndOK (a ++ b)
  /-- `skip_if_zero` -/
  | skip {pre body : List Code} {x : S.Cnd} (n : Nat) : (∀ c ∈ pre, Leaf c) → CndOK x →
      Blk S Leaf CndOK body →
      Blk S Leaf CndOK (pre ++ [S.jz x (S.name n)] ++ body ++ [S.lab (S.name n)])
  /-- `if_zero_then_else` -/
  | ite {pre tb eb : List Code} {x : S.Cnd} (n1 n2 : Nat) : (∀ c ∈ pre, Leaf c) → CndOK x →
      Blk S Leaf CndOK tb → Blk S Leaf CndOK eb →
      Blk S Leaf CndOK (pre ++ [S.jz x (S.name n1)] ++ eb ++ [S.jmp (S.name n2), S.lab (S.name n1)] ++ tb ++
        [S.lab (S.name n2)])

namespace Blk

variable {S : BlkSyn Code} {Leaf : Code → Prop} {CndOK : S.Cnd → Prop}

theorem cons {c : Code} {l : List Code} (h : Leaf c) (hl : Blk S Leaf CndOK l) : Blk S Leaf CndOK (c :: l) :=
  .append (.one h) hl

theorem mono {Leaf' : Code → Prop} {CndOK' : S.Cnd → Prop} (h : ∀ c, Leaf c → Leaf' c)
    (hc : ∀ x, CndOK x → CndOK' x) {l : List Code} (hl : Blk S Leaf CndOK l) : Blk S Leaf' CndOK' l := by
  induction hl with
  | nil => exact .nil
  | one hl => exact .one (h _ hl)
  | append _ _ ha hb => exact .append ha hb
  | skip n hp hx _ hb => exact .skip n (fun c hm => h c (hp c hm)) (hc _ hx) hb
  | ite n1 n2 hp hx _ _ ht he => exact .ite n1 n2 (fun c hm => h c (hp c hm)) (hc _ hx) ht he

theorem «forall» {P : Code → Prop} (hleaf : ∀ c, Leaf c → P c)
    (hjz : ∀ x n, CndOK x → P (S.jz x (S.name n))) (hjmp : ∀ n, P (S.jmp (S.name n)))
    (hlab : ∀ n, P (S.lab (S.name n))) {l : List Code} (h : Blk S Leaf CndOK l) : ∀ c ∈ l, P c := by
  induction h with
  | nil => intro c hc; cases hc
  | one h => intro c hc; rw [List.mem_singleton.1 hc]; exact hleaf _ h
  | append _ _ ha hb => intro c hc; exact (List.mem_append.1 hc).elim (ha c) (hb c)
  | skip n hp hx _ hb =>
    intro c hc
    simp only [List.mem_append, List.mem_singleton] at hc
    rcases hc with ((hc | rfl) | hc) | rfl
    · exact hleaf c (hp c hc)
    · exact hjz _ n hx
    · exact hb c hc
    · exact hlab n
  | ite n1 n2 hp hx _ _ ht he =>
    intro c hc
    simp only [List.mem_append, List.mem_cons, List.not_mem_nil, or_false] at hc
    rcases hc with ((((hc | rfl) | hc) | rfl | rfl) | hc) | rfl
    · exact hleaf c (hp c hc)
    · exact hjz _ n1 hx
    · exact he c hc
    · exact hjmp n2
    · exact hlab n1
    · exact ht c hc
    · exact hlab n2

end Blk

end Scc.Backend
