/-
  Scc.Backend.ProofsSubst — what Theorem A for `subst` needs below the machine: the sorted map built by
  inserting the entries of a substitution (`insertAll_spec`; the facts about single insertions are
  those of ProofsBTree.lean at the mock backend), the transposed map (`transpose_spec`,
  `transpose_perm`), the position of a variable (`posIn`), and the new environment the positional
  machine builds (`build_spec`).
-/
import Scc.Backend.ProofsPM
import Scc.Backend.ProofsBTree

namespace Scc.Backend.Subst

open Scc.AxCut Scc.AxCut.Pos Scc.Backend.Sim Scc.Backend.PM Scc.Backend.BTree

abbrev cmpN := tempCmp mockSym

def insertAll (entries : List (Nat × List Nat)) (acc : List (Nat × List Nat)) : List (Nat × List Nat) :=
  entries.foldl (fun acc e => mapInsert cmpN e.1 (setOfList mockSym e.2) acc) acc

theorem insertAll_spec : ∀ (entries acc : List (Nat × List Nat)), KeysAsc mockSym acc →
    (entries.map (·.1)).Nodup → (∀ e ∈ entries, e.1 ∉ acc.map (·.1)) →
    KeysAsc mockSym (insertAll entries acc) ∧
    ∀ e, e ∈ insertAll entries acc ↔ e ∈ acc ∨ ∃ e0 ∈ entries, e = (e0.1, setOfList mockSym e0.2)
  | [], acc, h, _, _ => by simp [insertAll, h]
  | e1 :: rest, acc, h, hnd, hdis => by
    simp only [List.map_cons, List.nodup_cons] at hnd
    obtain ⟨h1, h2a, _, _⟩ := mapInsert_spec mock_order e1.1 (setOfList mockSym e1.2) acc h
    have h2 : ∀ e, e ∈ mapInsert cmpN e1.1 (setOfList mockSym e1.2) acc ↔
        e = (e1.1, setOfList mockSym e1.2) ∨ (e ∈ acc ∧ e.1 ≠ e1.1) :=
      fun e => ⟨h2a e, mem_mapInsert_of mock_order _ _ _ e⟩
    have hdis' : ∀ e ∈ rest, e.1 ∉ (mapInsert cmpN e1.1 (setOfList mockSym e1.2) acc).map (·.1) := by
      intro e he hmem
      obtain ⟨x, hx, hx1⟩ := List.mem_map.mp hmem
      rcases (h2 x).mp hx with rfl | ⟨hx', _⟩
      · exact hnd.1 (List.mem_map.mpr ⟨e, he, hx1.symm⟩)
      · exact hdis e (by simp [he]) (List.mem_map.mpr ⟨x, hx', hx1⟩)
    obtain ⟨h3, h4⟩ := insertAll_spec rest _ h1 hnd.2 hdis'
    simp only [insertAll, List.foldl_cons] at h3 h4 ⊢
    refine ⟨h3, ?_⟩
    intro e
    rw [h4 e, h2 e]
    simp only [List.mem_cons]
    constructor
    · rintro ((h5 | ⟨h5, _⟩) | ⟨e0, he0, h5⟩)
      · exact Or.inr ⟨e1, Or.inl rfl, h5⟩
      · exact Or.inl h5
      · exact Or.inr ⟨e0, Or.inr he0, h5⟩
    · rintro (h5 | ⟨e0, he0 | he0, h5⟩)
      · refine Or.inl (Or.inr ⟨h5, ?_⟩)
        intro hk
        exact hdis e1 (by simp) (List.mem_map.mpr ⟨e, h5, hk⟩)
      · subst he0; exact Or.inl (Or.inl h5)
      · exact Or.inr ⟨e0, he0, h5⟩

theorem mapInsert_fresh {K V : Type} (cmp : K → K → Ordering) (k : K) (v : V) :
    ∀ (l : List (K × V)), (∀ e ∈ l, cmp k e.1 ≠ .eq) →
    ∀ e, e ∈ mapInsert cmp k v l ↔ e = (k, v) ∨ e ∈ l
  | [], _, e => by simp [mapInsert]
  | (k', v') :: rest, h, e => by
    simp only [mapInsert]
    cases hc : cmp k k' with
    | lt => simp
    | eq => exact absurd hc (h (k', v') (by simp))
    | gt =>
      simp only [List.mem_cons]
      rw [mapInsert_fresh cmp k v rest (fun e he => h e (by simp [he])) e]
      constructor
      · rintro (h1 | h1 | h1)
        · exact Or.inr (Or.inl h1)
        · exact Or.inl h1
        · exact Or.inr (Or.inr h1)
      · rintro (h1 | h1 | h1)
        · exact Or.inr (Or.inl h1)
        · exact Or.inl h1
        · exact Or.inr (Or.inr h1)

/-- the targets `transpose` records for a binding -/
def targetsOf (rearrange : List (Binding × Ident)) (b : Binding) : List Nat :=
  (rearrange.filter fun (_, old) => b.var.id == old.id).map fun (new, _) => new.var.id

theorem transpose_spec (rearrange : List (Binding × Ident)) (Γ : Ctx) (hnd : (Γ.map (·.var.id)).Nodup) :
    ∀ e, e ∈ transpose rearrange Γ ↔ ∃ b ∈ Γ, e = (b, targetsOf rearrange b) := by
  unfold transpose
  have key : ∀ (Δ : Ctx) (acc : List (Binding × List Nat)),
      (Δ.map (·.var.id)).Nodup → (∀ b ∈ Δ, ∀ e ∈ acc, b.var.id ≠ e.1.var.id) →
      ∀ e, e ∈ Δ.foldl (fun tm b => mapInsert bindingCmp b (targetsOf rearrange b) tm) acc ↔
        e ∈ acc ∨ ∃ b ∈ Δ, e = (b, targetsOf rearrange b) := by
    intro Δ
    induction Δ with
    | nil => intro acc _ _ e; simp
    | cons b rest ih =>
      intro acc hnd hdis e
      simp only [List.map_cons, List.nodup_cons] at hnd
      simp only [List.foldl_cons]
      have hfresh : ∀ e ∈ acc, bindingCmp b e.1 ≠ .eq := by
        intro e he hc
        exact hdis b (by simp) e he (bindingCmp_eq_id hc)
      rw [ih _ hnd.2 ?_ e]
      · rw [mapInsert_fresh bindingCmp b _ acc hfresh e]
        simp only [List.mem_cons]
        constructor
        · rintro ((h1 | h1) | ⟨b', hb', h1⟩)
          · exact Or.inr ⟨b, Or.inl rfl, h1⟩
          · exact Or.inl h1
          · exact Or.inr ⟨b', Or.inr hb', h1⟩
        · rintro (h1 | ⟨b', rfl | hb', h1⟩)
          · exact Or.inl (Or.inr h1)
          · exact Or.inl (Or.inl h1)
          · exact Or.inr ⟨b', hb', h1⟩
      · intro b' hb' e' he'
        rcases (mapInsert_fresh bindingCmp b _ acc hfresh e').mp he' with rfl | he'
        · intro hc
          exact hnd.1 (List.mem_map.mpr ⟨b', hb', hc⟩)
        · exact hdis b' (by simp [hb']) e' he'
  intro e
  have := key Γ [] hnd (by simp) e
  simp only [List.not_mem_nil, false_or] at this
  exact this

/-- position of an id (0 if absent; only used where it is present) -/
def posIn (Γ : Ctx) (id : Nat) : Nat := (Mock.ctxPosition Γ id).getD 0

theorem mapMGen_vt (num : TempNum) (newΓ : Ctx) : ∀ (ids : List Nat) (c : Nat) (ts : List Nat) (c' : Nat),
    (mapMGen (fun id => mockSym.variableTemporary num newΓ id) ids).run c = .ok (ts, c') →
    ts = ids.map (fun id => 2 * posIn newΓ id + num.toNat) ∧ c = c' ∧
      ∀ id ∈ ids, (Mock.ctxPosition newΓ id).isSome
  | [], c, ts, c', h => by
    simp only [mapMGen, run_pure_ok] at h
    obtain ⟨rfl, rfl⟩ := h
    simp
  | id :: rest, c, ts, c', h => by
    simp only [mapMGen, run_bind_ok, run_pure_ok, mockSym_variableTemporary, vt_run_ok] at h
    obtain ⟨t, c1, ⟨pos, hpos, rfl, rfl⟩, bs, c2, h2, rfl, rfl⟩ := h
    obtain ⟨e1, e2, e3⟩ := mapMGen_vt num newΓ rest _ _ _ h2
    subst e1 e2
    refine ⟨?_, rfl, ?_⟩
    · simp [posIn, hpos]
    · intro id' hid'
      simp only [List.mem_cons] at hid'
      rcases hid' with rfl | hid'
      · simp [hpos]
      · exact e3 id' hid'

theorem mapMGen_vt_snd (newΓ : Ctx) : ∀ (ids : List Nat) (c : Nat) (ts : List Nat) (c' : Nat),
    (mapMGen (fun id => mockSym.variableTemporary .snd newΓ id) ids).run c = .ok (ts, c') →
    ts = ids.map (fun id => 2 * posIn newΓ id + 1) ∧ c = c' ∧
      ∀ id ∈ ids, (Mock.ctxPosition newΓ id).isSome :=
  mapMGen_vt .snd newΓ

theorem mapMGen_vt_fst (newΓ : Ctx) : ∀ (ids : List Nat) (c : Nat) (ts : List Nat) (c' : Nat),
    (mapMGen (fun id => mockSym.variableTemporary .fst newΓ id) ids).run c = .ok (ts, c') →
    ts = ids.map (fun id => 2 * posIn newΓ id) ∧ c = c' ∧
      ∀ id ∈ ids, (Mock.ctxPosition newΓ id).isSome :=
  mapMGen_vt .fst newΓ

theorem mapInsert_fresh_perm {K V : Type} (cmp : K → K → Ordering) (k : K) (v : V) :
    ∀ (l : List (K × V)), (∀ e ∈ l, cmp k e.1 ≠ .eq) → (mapInsert cmp k v l).Perm ((k, v) :: l)
  | [], _ => by simp [mapInsert]
  | (k', v') :: rest, h => by
    simp only [mapInsert]
    cases hc : cmp k k' with
    | lt => exact List.Perm.refl _
    | eq => exact absurd hc (h (k', v') (by simp))
    | gt =>
      simp only
      have ih := mapInsert_fresh_perm cmp k v rest (fun e he => h e (by simp [he]))
      exact (List.Perm.cons _ ih).trans (List.Perm.swap _ _ _)

theorem transpose_perm (rearrange : List (Binding × Ident)) (Γ : Ctx) (hnd : (Γ.map (·.var.id)).Nodup) :
    (transpose rearrange Γ).Perm (Γ.map fun b => (b, targetsOf rearrange b)) := by
  unfold transpose
  have key : ∀ (Δ : Ctx) (acc : List (Binding × List Nat)),
      (Δ.map (·.var.id)).Nodup → (∀ b ∈ Δ, ∀ e ∈ acc, b.var.id ≠ e.1.var.id) →
      (Δ.foldl (fun tm b => mapInsert bindingCmp b (targetsOf rearrange b) tm) acc).Perm
        (Δ.map (fun b => (b, targetsOf rearrange b)) ++ acc) := by
    intro Δ
    induction Δ with
    | nil => intro acc _ _; simp
    | cons b rest ih =>
      intro acc hnd hdis
      simp only [List.map_cons, List.nodup_cons] at hnd
      simp only [List.foldl_cons, List.map_cons, List.cons_append]
      have hfresh : ∀ e ∈ acc, bindingCmp b e.1 ≠ .eq := by
        intro e he hc
        exact hdis b (by simp) e he (bindingCmp_eq_id hc)
      have hp := mapInsert_fresh_perm bindingCmp b (targetsOf rearrange b) acc hfresh
      refine (ih _ hnd.2 ?_).trans ?_
      · intro b' hb' e' he'
        have h1 := (hp.mem_iff).mp he'
        simp only [List.mem_cons] at h1
        rcases h1 with rfl | h1
        · intro hc; exact hnd.1 (List.mem_map.mpr ⟨b', hb', hc⟩)
        · exact hdis b' (by simp [hb']) e' h1
      · exact (List.Perm.append_left _ hp).trans List.perm_middle
  have := key Γ [] hnd (by simp)
  simp only [List.append_nil] at this
  exact this

theorem posOf_getElem {Γ : Ctx} {id i : Nat} (h : posOf Γ id = some i) :
    ∃ hi : i < Γ.length, Γ[i].var.id = id := by
  unfold posOf at h
  obtain ⟨hi, hp, _⟩ := List.findIdx?_eq_some_iff_getElem.mp h
  exact ⟨hi, by simpa using hp⟩

theorem posOf_isSome_of_mem {Γ : Ctx} {b : Binding} (hb : b ∈ Γ) : (posOf Γ b.var.id).isSome := by
  unfold posOf
  rw [List.findIdx?_isSome]
  simp only [List.any_eq_true, beq_iff_eq]
  exact ⟨b, hb, rfl⟩

theorem posOf_nodup_idx {Γ : Ctx} (hnd : (Γ.map (·.var.id)).Nodup) {j : Nat} (hj : j < Γ.length) :
    posOf Γ Γ[j].var.id = some j := by
  have hs := posOf_isSome_of_mem (List.getElem_mem hj)
  cases hp : posOf Γ Γ[j].var.id with
  | none => simp [hp] at hs
  | some i =>
    obtain ⟨hi, hid⟩ := posOf_getElem hp
    have : (Γ.map (·.var.id))[i]'(by simpa using hi) = (Γ.map (·.var.id))[j]'(by simpa using hj) := by
      simpa using hid
    have := (List.getElem_inj hnd).mp this
    rw [this]

theorem posIn_eq {Γ : Ctx} {id i : Nat} (h : posOf Γ id = some i) : posIn Γ id = i := by
  unfold posIn; rw [ctxPosition_eq_posOf, h]; rfl

theorem mem_targetsOf {pairs : List (Binding × Ident)} {b : Binding} {id : Nat} :
    id ∈ targetsOf pairs b ↔ ∃ p ∈ pairs, b.var.id = p.2.id ∧ id = p.1.var.id := by
  unfold targetsOf
  simp only [List.mem_map, List.mem_filter, beq_iff_eq]
  constructor
  · rintro ⟨p, ⟨hp, hb⟩, rfl⟩; exact ⟨p, hp, hb, rfl⟩
  · rintro ⟨p, hp, hb, rfl⟩; exact ⟨p, ⟨hp, hb⟩, rfl⟩

theorem posIn_getElem {Γ : Ctx} (hnd : (Γ.map (·.var.id)).Nodup) {j : Nat} (hj : j < Γ.length) :
    posIn Γ Γ[j].var.id = j := posIn_eq (posOf_nodup_idx hnd hj)

theorem posIn_of_mem {Γ : Ctx} (hnd : (Γ.map (·.var.id)).Nodup) {b : Binding} (hb : b ∈ Γ) :
    ∃ i, ∃ hi : i < Γ.length, Γ[i] = b ∧ posIn Γ b.var.id = i := by
  obtain ⟨i, hi, rfl⟩ := List.getElem_of_mem hb
  exact ⟨i, hi, rfl, posIn_getElem hnd hi⟩

/-- the move problem `pm` of the substitution `pairs` on a context `Γ` of integers only (every variable in
    its word temporary `2 * position + 1`): a functional map with distinct keys and targets, an edge from
    the source of each pair to its target, nothing outside the two contexts.  `ConnsWF2` (ProofsConn2.lean)
    is the notion for arbitrary contexts, the one `conns_wf2` establishes. -/
structure ConnsWF (Γ : Ctx) (pairs : List (Binding × Ident)) (pm : List (Nat × List Nat)) : Prop where
  keys : PMoves.KeysNodup pm
  targets : PMoves.TargetsNodup pm
  functional : PMoves.Functional pm
  edge : ∀ j (hj : j < pairs.length), PMoves.Edge pm (2 * posIn Γ pairs[j].2.id + 1) (2 * j + 1)
  range : ∀ x, x ∈ pm.map (·.1) ∨ x ∈ allTargets pm →
    ∃ i, x = 2 * i + 1 ∧ (i < Γ.length ∨ i < pairs.length)

theorem build_spec (Γ : Ctx) (ρ : List Value) : ∀ (pairs : List (Binding × Ident)) (vs : List Value),
    Pos.step.build Γ ρ pairs = .ok vs →
    vs.length = pairs.length ∧
    ∀ j (hj : j < pairs.length) (hv : j < vs.length),
      ∃ i, posOf Γ pairs[j].2.id = some i ∧ ρ[i]? = some vs[j]
  | [], vs, h => by
    simp only [Pos.step.build] at h
    cases h
    exact ⟨rfl, fun j hj => absurd hj (by simp)⟩
  | p :: ps, vs, h => by
    simp only [Pos.step.build] at h
    cases hr : readVar Γ ρ p.2 with
    | error e => simp [hr] at h
    | ok v =>
      simp only [hr] at h
      cases hb : Pos.step.build Γ ρ ps with
      | error e => simp [hb] at h
      | ok vs' =>
        simp only [hb, Except.ok.injEq] at h
        subst h
        obtain ⟨ih1, ih2⟩ := build_spec Γ ρ ps vs' hb
        refine ⟨by simp [ih1], ?_⟩
        intro j hj hv
        cases j with
        | zero =>
          unfold readVar at hr
          cases hp : posOf Γ p.2.id with
          | none => simp [hp] at hr
          | some i =>
            simp only [hp] at hr
            cases hg : ρ[i]? with
            | none => simp [hg] at hr
            | some w =>
              simp only [hg, Except.ok.injEq] at hr
              subst hr
              exact ⟨i, by simpa using hp, by simpa using hg⟩
        | succ j =>
          have := ih2 j (by simpa using hj) (by simpa using hv)
          simpa using this

end Scc.Backend.Subst
