/-
  Scc.Backend.ProofsShape — GENERIC LIFTING OF LIST SHAPES through the generic code generator
  (Generic.lean), used by the calling-convention theorems (property C13) of the x86-64 and AArch64
  backends.

  `X86/ProofsWfProg.lean` lifts a predicate on single instructions (`AllP P`).  The calling convention is
  not a property of single instructions: the code of `print_i64` is a BLOCK (save; move argument;
  call; restore) that must stay together.  Here the lifted property is an arbitrary predicate
  `L : List Code → Prop` that holds of `[]` and is closed under `++`:

    if every method of a backend `B` returns a list satisfying `L` when it is given temporaries
    satisfying `TOK` (`OpsShape`), then the body that `compileR B` emits satisfies `L`.

  Three refinements the C13 theorems need:
  * `print_i64` is only ever called with the `Snd` temporary of a variable OF THE CONTEXT IT IS GIVEN
    (`Src ctx t`: the block saves the registers of exactly that context);
  * a flag `mem : Prop`: with `mem = True` the statement is about all programs; with `mem = False` it
    is about INTEGER programs (`IntStmtC`: no `let`/`switch`/`create`/`invoke`, substitutions only in
    contexts of integers), for which the memory methods, indirect jumps and jump tables of the backend
    are never called — the hypotheses about them are then vacuous.
  * labels that are the target of a direct jump satisfy `LabOK` (definition labels `f_`, `cleanup`,
    fresh labels `lab<n>`).

  The walk over the generator is that of Scc/Backend/ProofsCalls.lean, with the facts `OpsShape.facts`; the
  lifting is `Emitted.lift` after a case analysis on the call.
-/
import Scc.Backend.ProofsCalls
import Scc.StringLemmas

set_option linter.unusedVariables false

namespace Scc.Backend.Shape

open Scc.AxCut
open Scc.Backend.Calls
open Scc.X86 (Post TreeOK TreesOK)

def AllExt (Γ : Ctx) : Prop := ∀ b ∈ Γ, b.chi = .ext

instance (Γ : Ctx) : Decidable (AllExt Γ) := by unfold AllExt; infer_instance

/-- statements of integer programs, with the context the code generator keeps: no `let`, `switch`,
    `create`, `invoke`; a substitution only in a context of integers -/
def IntStmtC : Ctx → Stmt → Prop
  | Γ, .subst pairs next => AllExt Γ ∧ IntStmtC (pairs.map (·.1)) next
  | Γ, .lit x _ next _ => IntStmtC (Γ ++ [⟨x, .ext, .i64⟩]) next
  | Γ, .op x _ _ _ next _ => IntStmtC (Γ ++ [⟨x, .ext, .i64⟩]) next
  | Γ, .print _ _ next _ => IntStmtC Γ next
  | Γ, .ifc _ _ _ t e => IntStmtC Γ t ∧ IntStmtC Γ e
  | _, .exit _ => True
  | _, .call _ _ => True
  | _, _ => False

section Generic

variable {Code T : Type} (B : Backend Code T) (L : List Code → Prop) (TOK : T → Prop)
  (Src : Ctx → T → Prop) (LabOK : String → Prop) (mem : Prop)

/-- what the generic generator needs from the backend methods -/
structure OpsShape : Prop where
  nil : L []
  append : ∀ {a b : List Code}, L a → L b → L (a ++ b)
  temp : TOK B.temp
  return1 : TOK B.return1
  vt : ∀ n ctx id, Post (B.variableTemporary n ctx id) TOK
  vtSrc : ∀ ctx id, Post (B.variableTemporary .snd ctx id) (Src ctx)
  labDef : ∀ x : Ident, LabOK (x.print ++ "_")
  labCleanup : LabOK "cleanup"
  labFresh : ∀ s : String, LabOK ("lab" ++ s)
  comment : ∀ m, L [B.comment m]
  label : ∀ l, L [B.label l]
  jumpLabel : ∀ l, LabOK l → L (B.jumpLabel l)
  jumpLabelIf : ∀ s a b l, TOK a → TOK b → LabOK l → L (B.jumpLabelIf s a b l)
  jumpLabelIfZero : ∀ s a l, TOK a → LabOK l → L (B.jumpLabelIfZero s a l)
  loadImmediate : ∀ t n, TOK t → L (B.loadImmediate t n)
  binop : ∀ o t s1 s2, TOK t → TOK s1 → TOK s2 → L (B.binop o t s1 s2)
  mov : ∀ t s, TOK t → TOK s → L (B.mov t s)
  printI64 : ∀ nl t ctx, TOK t → Src ctx t → Post (B.printI64 nl t ctx) L
  storeTemporary : ∀ t sp, TOK t → L (B.storeTemporary t sp)
  restoreTemporary : ∀ t sp, TOK t → L (B.restoreTemporary t sp)
  -- only reached from `let` / `switch` / `create` / `invoke` / substitutions of non-integers
  jump : mem → ∀ t, TOK t → L (B.jump t)
  jumpLabelFixed : mem → ∀ l, L (B.jumpLabelFixed l)
  loadLabel : mem → ∀ t l, TOK t → L (B.loadLabel t l)
  addAndJump : mem → ∀ t k, TOK t → L (B.addAndJump t k)
  eraseBlock : mem → ∀ t, TOK t → Post (B.eraseBlock t) L
  shareBlockN : mem → ∀ t n, TOK t → Post (B.shareBlockN t n) L
  store : mem → ∀ a b, Post (B.store a b) L
  load : mem → ∀ a b, Post (B.load a b) L

variable {B L TOK Src LabOK mem}

theorem OpsShape.cons (S : OpsShape B L TOK Src LabOK mem) {c : Code} {l : List Code} (h : L [c]) (hl : L l) :
    L (c :: l) := S.append h hl

theorem OpsShape.flatten (S : OpsShape B L TOK Src LabOK mem) :
    ∀ {ls : List (List Code)}, (∀ l ∈ ls, L l) → L ls.flatten
  | [], _ => S.nil
  | l :: ls, h => by
    rw [List.flatten_cons]
    exact S.append (h l (by simp)) (S.flatten fun x hx => h x (by simp [hx]))

/-- what `OpsShape` uses of the arguments -/
def OpsShape.facts (S : OpsShape B L TOK Src LabOK mem) : Facts T :=
  { TOK := TOK, Src := Src, JOK := LabOK, mem := mem }

theorem OpsShape.temps (S : OpsShape B L TOK Src LabOK mem) : TempsOK B S.facts :=
  ⟨S.temp, S.return1, S.vt, S.vtSrc⟩

theorem OpsShape.fixed (S : OpsShape B L TOK Src LabOK mem) : Fixed S.facts := by
  constructor <;> trivial

theorem shape_codeTable (S : OpsShape B L TOK Src LabOK mem) (hm : mem) (base : String) :
    ∀ (cs : Clauses), L (codeTable B cs base)
  | .nil => by simp only [codeTable]; exact S.nil
  | .cons xtor _ _ rest => by
    simp only [codeTable]
    exact S.append (S.jumpLabelFixed hm _) (shape_codeTable S hm base rest)

theorem OpsShape.call (S : OpsShape B L TOK Src LabOK mem) : ∀ c, Good B S.facts c → Post (c.run B) L
  | .comment m, _ => Post.pure (S.comment m)
  | .label l, _ => Post.pure (S.label l)
  | .table l cs, h => Post.pure (S.cons (S.label l) (shape_codeTable S h.1 l cs))
  | .jump t, h => Post.pure (S.jump h.1 t h.2)
  | .jumpLabel l, h => Post.pure (S.jumpLabel l h)
  | .jumpLabelIf s a b l, h => Post.pure (S.jumpLabelIf s a b l h.1 h.2.1 h.2.2)
  | .jumpLabelIfZero s a l, h => Post.pure (S.jumpLabelIfZero s a l h.1 h.2)
  | .loadImmediate t n, h => Post.pure (S.loadImmediate t n h.1)
  | .loadLabel t l, h => Post.pure (S.loadLabel h.1 t l h.2.1)
  | .addAndJump t n, h => Post.pure (S.addAndJump h.1 t n h.2.1)
  | .binop o t s1 s2, h => Post.pure (S.binop o t s1 s2 h.1 h.2.1 h.2.2.1)
  | .mov t s, h => Post.pure (S.mov t s h.1 h.2)
  | .printI64 nl t ctx, h => S.printI64 nl t ctx h.1 h.2
  | .eraseBlock t, h => S.eraseBlock h.1 t h.2
  | .shareBlockN t n, h => S.shareBlockN h.1 t n h.2.1
  | .store a b, h => S.store h a b
  | .load a b, h => S.load h a b
  | .storeTemporary t sp, h => Post.pure (S.storeTemporary t sp h)
  | .restoreTemporary t sp, h => Post.pure (S.restoreTemporary t sp h)

theorem OpsShape.lift (S : OpsShape B L TOK Src LabOK mem) {code : List Code}
    (h : Emitted B (Good B S.facts) code) : L code :=
  h.lift S.nil S.append S.call

theorem shape_treeMoves (S : OpsShape B L TOK Src LabOK mem) {temporary : T} (ht : TOK temporary)
    (sp : Bool) : ∀ (tr : Tree T), TreeOK TOK tr → L (treeMoves B temporary sp tr) :=
  fun tr h => S.lift (emitted_treeMoves (F := S.facts) ht sp tr h)

/-! ## statements: an integer statement never asks for the memory methods -/

mutual
theorem argsOK_of_int (S : OpsShape B L TOK Src LabOK mem) (hooks : Bool) (ren : Nat → String) :
    ∀ (s : Stmt) (Γ : Ctx), (mem ∨ IntStmtC Γ s) → ArgsOK S.facts hooks ren s Γ
  | .subst r next, Γ, h => by
    have h' : mem ∨ (AllExt Γ ∧ IntStmtC (r.map (·.1)) next) := h
    simp only [ArgsOK]
    refine ⟨fun _ => trivial, trivial, fun b hb hne => ⟨?_, trivial, trivial⟩, fun _ _ => trivial,
      argsOK_of_int S hooks ren next _ (h'.imp id (·.2))⟩
    exact h'.elim id fun hi => absurd (hi.1 b hb) hne
  | .call l _, Γ, _ => ⟨fun _ => trivial, trivial, S.labDef l⟩
  | .letS _ _ _ _ next _, Γ, h => by
    have hm : mem := h.elim id False.elim
    simp only [ArgsOK]
    exact ⟨fun _ => trivial, hm, trivial, argsOK_of_int S hooks ren next _ (Or.inl hm)⟩
  | .switch _ _ cls _, Γ, h => by
    have hm : mem := h.elim id False.elim
    simp only [ArgsOK]
    exact ⟨fun _ => trivial, hm, trivial, fun n => ⟨trivial, clausesOK_of_mem S hm hooks ren cls _ _⟩⟩
  | .create _ _ none _ _ _ _, Γ, _ => by simp only [ArgsOK]
  | .create _ _ (some _) cls next _ _, Γ, h => by
    have hm : mem := h.elim id False.elim
    simp only [ArgsOK]
    exact ⟨fun _ => trivial, hm, trivial, argsOK_of_int S hooks ren next _ (Or.inl hm),
      fun n => ⟨trivial, methodsOK_of_mem S hm hooks ren cls _ _⟩⟩
  | .invoke _ _ _ _, Γ, h => ⟨fun _ => trivial, h.elim id False.elim, trivial⟩
  | .lit _ _ next _, Γ, h => by
    simp only [ArgsOK]
    exact ⟨fun _ => trivial, trivial, trivial, argsOK_of_int S hooks ren next _ h⟩
  | .op _ _ _ _ next _, Γ, h => by
    simp only [ArgsOK]
    exact ⟨fun _ => trivial, trivial, False.elim, argsOK_of_int S hooks ren next _ h⟩
  | .print _ _ next _, Γ, h => by
    simp only [ArgsOK]
    exact ⟨fun _ => trivial, trivial, argsOK_of_int S hooks ren next _ h⟩
  | .ifc _ _ _ t e, Γ, h => by
    have h' : mem ∨ (IntStmtC Γ t ∧ IntStmtC Γ e) := h
    simp only [ArgsOK]
    exact ⟨fun _ => trivial, trivial, fun n => ⟨S.labFresh _, trivial⟩,
      argsOK_of_int S hooks ren e _ (h'.imp id (·.2)), argsOK_of_int S hooks ren t _ (h'.imp id (·.1))⟩
  | .exit _, Γ, _ => ⟨fun _ => trivial, trivial, S.labCleanup⟩
theorem clausesOK_of_mem (S : OpsShape B L TOK Src LabOK mem) (hm : mem) (hooks : Bool) (ren : Nat → String) :
    ∀ (cs : Clauses) (Γ : Ctx) (base : String), ClausesOK S.facts hooks ren cs Γ base
  | .nil, _, _ => by simp only [ClausesOK]
  | .cons _ _ body rest, Γ, base => by
    simp only [ClausesOK]
    exact ⟨trivial, argsOK_of_int S hooks ren body _ (Or.inl hm), clausesOK_of_mem S hm hooks ren rest Γ base⟩
theorem methodsOK_of_mem (S : OpsShape B L TOK Src LabOK mem) (hm : mem) (hooks : Bool) (ren : Nat → String) :
    ∀ (cs : Clauses) (env : Ctx) (base : String), MethodsOK S.facts hooks ren cs env base
  | .nil, _, _ => by simp only [MethodsOK]
  | .cons _ _ body rest, env, base => by
    simp only [MethodsOK]
    exact ⟨trivial, argsOK_of_int S hooks ren body _ (Or.inl hm), methodsOK_of_mem S hm hooks ren rest env base⟩
end

theorem post_codeClausesR (S : OpsShape B L TOK Src LabOK mem) (hm : mem) (hooks : Bool) (ren : Nat → String)
    (types : List TypeDecl) (context : Ctx) :
    ∀ (cs : Clauses) (baseLabel : String),
      Post (codeClausesR B hooks ren types context cs baseLabel) L :=
  fun cs baseLabel => (emitted_codeClausesR S.temps S.fixed hooks ren (fun _ _ _ _ => trivial) context cs
    baseLabel (clausesOK_of_mem S hm hooks ren cs _ _) hm).mono fun _ => S.lift

theorem post_codeMethodsR (S : OpsShape B L TOK Src LabOK mem) (hm : mem) (hooks : Bool) (ren : Nat → String)
    (types : List TypeDecl) (env : Ctx) :
    ∀ (cs : Clauses) (baseLabel : String),
      Post (codeMethodsR B hooks ren types env cs baseLabel) L :=
  fun cs baseLabel => (emitted_codeMethodsR S.temps S.fixed hooks ren (fun _ _ _ _ => trivial) env cs
    baseLabel (methodsOK_of_mem S hm hooks ren cs _ _) hm).mono fun _ => S.lift

/-- integer programs (syntactic, decidable; implied by `IntProg` + `LinTypedProg`) -/
def IntProgC (p : AxCut.Prog) : Prop := ∀ d ∈ p.defs, IntStmtC d.ctx d.body

/-- GENERIC LIFTING OF SHAPES: the body emitted for a program (any program if `mem`, an integer
    program otherwise) satisfies `L` -/
theorem post_compileR (S : OpsShape B L TOK Src LabOK mem) (hooks : Bool) (ren : Nat → String)
    (p : AxCut.Prog) (hp : mem ∨ IntProgC p) :
    Post (compileR B hooks ren p) (fun r => L r.1) :=
  (emitted_compileR S.temps S.fixed hooks ren p ⟨fun _ _ _ _ => trivial, fun d hd =>
    ⟨trivial, argsOK_of_int S hooks ren d.body d.ctx (hp.imp id fun h => h d hd)⟩⟩).mono fun _ => S.lift

end Generic

/-- labels that may be the target of a direct jump in a body: not the routine entry (the `LabOK` of the
instances of `OpsShape`) -/
def LabOK (l : String) : Prop := l ≠ "asm_main"

theorem labOK_def (x : Ident) : LabOK (x.print ++ "_") := Str.append_ne_suffix (by decide)
theorem labOK_cleanup : LabOK "cleanup" := by unfold LabOK; decide
theorem labOK_fresh (s : String) : LabOK ("lab" ++ s) := Str.append_ne_prefix (by decide)

end Scc.Backend.Shape
