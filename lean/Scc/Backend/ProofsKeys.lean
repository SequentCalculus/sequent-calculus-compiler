/-
  Scc.Backend.ProofsKeys — contexts with the same KEYS (ids, kinds, types; names are free): the
  positional machine cannot tell them apart (`posOf`, `readVar`, `readInt`, `step.build`, `chiTys`), and
  splitting / taking / dropping respects the keys.  Used by Theorem A (`Rel2`: the code at the program
  counter is the code for SOME context with the keys of the machine's context).
-/
import Scc.Backend.SimDefs2
import Scc.Backend.TotalKeys
import Scc.AxCut.PosSafe

namespace Scc.Backend.Keys

open Scc.AxCut Scc.AxCut.Pos

export Scc.Backend.Total (keys_length keys_take keys_drop keys_append keys_getElem keys_split keys_snoc
  hasVar_keys)

theorem keys_ids {Γ Δ : Ctx} (h : Γ.keys = Δ.keys) : Γ.map (·.var.id) = Δ.map (·.var.id) :=
  Total.keys_ids h

theorem keys_chi {Γ Δ : Ctx} (h : Γ.keys = Δ.keys) : Γ.map (·.chi) = Δ.map (·.chi) := by
  have := congrArg (List.map (fun k : Nat × Chi × Ty => k.2.1)) h
  simpa [Ctx.keys, Binding.key, Function.comp_def] using this

theorem keys_chiTys {Γ Δ : Ctx} (h : Γ.keys = Δ.keys) : Pos.chiTys Γ = Pos.chiTys Δ :=
  Total.keys_chiTys h

theorem keys_chiTys' {Γ Δ : Ctx} (h : Γ.keys = Δ.keys) : Ctx.chiTys Γ = Ctx.chiTys Δ := keys_chiTys h

theorem posOf_keys {Γ Δ : Ctx} (h : Γ.keys = Δ.keys) (x : Nat) : posOf Γ x = posOf Δ x := by
  have hid := keys_ids h
  unfold posOf
  have e : ∀ (l : Ctx), l.findIdx? (fun b => b.var.id == x) =
      (l.map (·.var.id)).findIdx? (fun i => i == x) := by
    intro l
    induction l with
    | nil => rfl
    | cons a l ih => simp [List.findIdx?_cons, ih]
  rw [e Γ, e Δ, hid]

theorem readVar_keys {Γ Δ : Ctx} (h : Γ.keys = Δ.keys) (ρ : List Value) (x : Ident) :
    readVar Γ ρ x = readVar Δ ρ x := by
  unfold readVar
  rw [posOf_keys h]

theorem readInt_keys {Γ Δ : Ctx} (h : Γ.keys = Δ.keys) (ρ : List Value) (x : Ident) :
    readInt Γ ρ x = readInt Δ ρ x := by
  unfold readInt
  rw [readVar_keys h]

theorem build_keys {Γ Δ : Ctx} (h : Γ.keys = Δ.keys) (ρ : List Value) :
    ∀ (pairs : List (Binding × Ident)), Pos.step.build Γ ρ pairs = Pos.step.build Δ ρ pairs
  | [] => rfl
  | p :: ps => by
    simp only [Pos.step.build, readVar_keys h, build_keys h ρ ps]

theorem mem_ids_keys {Γ Δ : Ctx} (h : Γ.keys = Δ.keys) {x : Nat} (hx : x ∉ Δ.ids) :
    ∀ b ∈ Γ, b.var.id ≠ x := by
  intro b hb e
  apply hx
  unfold Ctx.ids
  rw [← keys_ids h]
  exact List.mem_map.mpr ⟨b, hb, e⟩

theorem nodup_keys {Γ Δ : Ctx} (h : Γ.keys = Δ.keys) (hn : NodupIds Δ) : (Γ.map (·.var.id)).Nodup := by
  rw [keys_ids h]; exact hn

end Scc.Backend.Keys
