/-
  Scc.Backend.ProofsSim — lemmas for Theorem A (Props/C06Generic.lean): temporaries, code layout
  (`CodeAt` from the layout of the whole program), symbolic execution of single instructions, and the
  simulation of the statements that neither read a heap object nor release one (`lit`, `op`, `print`,
  `ifc`, `exit`, `call`, the initial configuration).  These do not depend on what the representation
  relation records about kinds and closure environments: they are proved for any representation of
  values (`Kit`), of which `Sim.Rel` (ProofsHeap.lean) and `Sim2.RelX` (ProofsRep2.lean) are instances.
-/
import Scc.Backend.SimDefs2
import Scc.Backend.ProofsNames

set_option linter.unusedSimpArgs false

namespace Scc.Backend.Sim

open Scc.AxCut Scc.AxCut.Pos Scc.Backend.Abs

theorem find_filter_ne {α : Type} {t t' : Nat} (σ : List (Nat × α)) (h : t' ≠ t) :
    (σ.filter (fun e => e.1 != t)).find? (fun e => e.1 == t') = σ.find? (fun e => e.1 == t') := by
  induction σ with
  | nil => rfl
  | cons e σ ih =>
    by_cases h1 : e.1 = t
    · have : (e.1 != t) = false := by simp [h1]
      simp only [List.filter_cons, this]
      have : (e.1 == t') = false := by simp [h1, Ne.symm h]
      simp only [List.find?_cons, this]
      exact ih
    · have : (e.1 != t) = true := by simp [h1]
      simp only [List.filter_cons, this, if_true, List.find?_cons]
      rw [ih]

theorem find_filter_eq {α : Type} {t : Nat} (σ : List (Nat × α)) :
    (σ.filter (fun e => e.1 != t)).find? (fun e => e.1 == t) = none := by
  rw [List.find?_eq_none]
  intro e he
  have := (List.mem_filter.mp he).2
  simpa using this

theorem get_unset_same (σ : Temps) (t : Nat) : (σ.unset t).get t = none := by
  unfold Temps.get Temps.unset
  rw [find_filter_eq]

theorem get_unset_other (σ : Temps) {t t' : Nat} (h : t' ≠ t) : (σ.unset t).get t' = σ.get t' := by
  unfold Temps.get Temps.unset
  rw [find_filter_ne σ h]

theorem get_set_same (σ : Temps) (t : Nat) (v : Word) : (σ.set t v).get t = some v := by
  unfold Temps.get Temps.set
  simp

theorem get_set_other (σ : Temps) {t t' : Nat} (v : Word) (h : t' ≠ t) :
    (σ.set t v).get t' = σ.get t' := by
  unfold Temps.set
  have : Temps.get ((t, v) :: σ.unset t) t' = (σ.unset t).get t' := by
    unfold Temps.get
    have : (t == t') = false := by simp [Ne.symm h]
    simp [List.find?_cons, this]
  rw [this, get_unset_other σ h]

theorem get_clobberTemp (σ : Temps) {t : Nat} (h : t ≠ Mock.T_TEMP) :
    (clobberTemp σ).get t = σ.get t := get_unset_other σ h

theorem get_keepPositions (σ : Temps) (n t : Nat) :
    (keepPositions σ n).get t = if t < 2 * n then σ.get t else none := by
  unfold keepPositions Temps.get
  induction σ with
  | nil => simp
  | cons e σ ih =>
    by_cases h1 : e.1 < 2 * n
    · simp only [List.filter_cons, decide_eq_true_eq, h1, if_true, List.find?_cons]
      by_cases h2 : e.1 = t
      · subst h2; simp [h1]
      · have : (e.1 == t) = false := by simp [h2]
        simp only [this]
        exact ih
    · simp only [List.filter_cons, decide_eq_true_eq, h1, if_false, List.find?_cons]
      by_cases h2 : e.1 = t
      · subst h2
        simp only [beq_self_eq_true, h1, if_false]
        rw [ih]; simp [h1]
      · have : (e.1 == t) = false := by simp [h2]
        simp only [this]
        exact ih

def width : MockOp → Nat
  | .comment _ => 0
  | .label _ => 0
  | _ => 1

theorem instrCount_cons (op : MockOp) (r : List MockOp) :
    instrCount (op :: r) = width op + instrCount r := by
  cases op <;> simp only [instrCount, width] <;> omega

/-- the full name is `Scc.Backend.Subst.instrCount_append` because the backends' files refer to it so -/
theorem _root_.Scc.Backend.Subst.instrCount_append :
    ∀ (a b : List MockOp), instrCount (a ++ b) = instrCount a + instrCount b
  | [], b => by simp [instrCount]
  | op :: a, b => by
    rw [List.cons_append, instrCount_cons, instrCount_cons, Subst.instrCount_append a b, Nat.add_assoc]

theorem CodeAt_cons (P : Program) (op : MockOp) (r : List MockOp) (pc : Nat) :
    CodeAt P pc (op :: r) ↔ (width op = 1 → P.code[pc]? = some op) ∧
      (∀ n, op.dfn = some n → P.labelAddr n = some pc) ∧ CodeAt P (pc + width op) r := by
  cases op <;> simp [CodeAt, width, MockOp.dfn]

theorem layout_cons (op : MockOp) (r : List MockOp) (a : Nat) :
    layout (op :: r) a = (List.replicate (width op) op ++ (layout r (a + width op)).1,
      (op.dfn).toList.map (·, a) ++ (layout r (a + width op)).2) := by
  cases op <;> rfl

theorem CodeAt_append (P : Program) : ∀ (a b : List MockOp) (pc : Nat),
    CodeAt P pc (a ++ b) ↔ CodeAt P pc a ∧ CodeAt P (pc + instrCount a) b
  | [], b, pc => by simp [CodeAt, instrCount]
  | op :: a, b, pc => by
    simp only [List.cons_append, CodeAt_cons, CodeAt_append P a b, instrCount_cons, and_assoc,
      Nat.add_assoc]

theorem CodeAt_hook (P : Program) (hooks : Bool) (Γ : Ctx) (pc : Nat) (r : List MockOp) :
    CodeAt P pc (hookCode mockSym hooks Γ ++ r) ↔ CodeAt P pc r := by
  unfold hookCode
  cases hooks <;> simp [CodeAt]

theorem stepsTo_trans (P : Program) : ∀ (k1 k2 : Nat) (c1 c2 c3 : Config),
    stepsTo P k1 c1 c2 → stepsTo P k2 c2 c3 → stepsTo P (k1 + k2) c1 c3
  | 0, k2, c1, c2, c3, h1, h2 => by simp only [stepsTo] at h1; subst h1; simpa using h2
  | k1 + 1, k2, c1, c2, c3, h1, h2 => by
    obtain ⟨c, hs, h1'⟩ := h1
    rw [show k1 + 1 + k2 = (k1 + k2) + 1 by omega]
    exact ⟨c, hs, stepsTo_trans P k1 k2 c c2 c3 h1' h2⟩

theorem stepsTo_det (P : Program) : ∀ (k : Nat) (c c1 c2 : Config),
    stepsTo P k c c1 → stepsTo P k c c2 → c1 = c2
  | 0, _, _, _, h1, h2 => (show _ = _ from h1).symm.trans h2
  | k + 1, _, c1, c2, ⟨a, ha, h1⟩, ⟨b, hb, h2⟩ => by
    rw [ha] at hb
    injection hb with hb
    subst hb
    exact stepsTo_det P k a c1 c2 h1 h2

theorem stepsTo_one (P : Program) (c c' : Config) (h : Abs.step P c = .next c') : stepsTo P 1 c c' :=
  ⟨c', h, rfl⟩

theorem layout_fst_length : ∀ (ops : List MockOp) (a : Nat), (layout ops a).1.length = instrCount ops
  | [], a => rfl
  | op :: r, a => by
    simp only [layout_cons, List.length_append, List.length_replicate, layout_fst_length r,
      instrCount_cons]

theorem layout_append : ∀ (pre suf : List MockOp) (a : Nat),
    layout (pre ++ suf) a =
      ((layout pre a).1 ++ (layout suf (a + instrCount pre)).1,
       (layout pre a).2 ++ (layout suf (a + instrCount pre)).2)
  | [], suf, a => by simp [layout, instrCount]
  | op :: r, suf, a => by
    simp only [List.cons_append, layout_cons, layout_append r suf, instrCount_cons, List.append_assoc,
      Nat.add_assoc]

def labelNames : List MockOp → List String
  | [] => []
  | .label n :: r => n :: labelNames r
  | _ :: r => labelNames r

theorem labelNames_cons (op : MockOp) (r : List MockOp) :
    labelNames (op :: r) = (op.dfn).toList ++ labelNames r := by
  cases op <;> rfl

theorem labelNames_eq_dfns : ∀ (ops : List MockOp), labelNames ops = dfns (events ops)
  | [] => rfl
  | op :: r => by
    rw [labelNames_cons, events_cons, dfns_append, labelNames_eq_dfns r]
    cases op <;> rfl

theorem layout_snd_names : ∀ (ops : List MockOp) (a : Nat),
    (layout ops a).2.map (·.1) = labelNames ops
  | [], a => rfl
  | op :: r, a => by
    rw [layout_cons, labelNames_cons, List.map_append, layout_snd_names r]
    cases op.dfn <;> rfl

theorem labelNames_append (a b : List MockOp) : labelNames (a ++ b) = labelNames a ++ labelNames b := by
  induction a with
  | nil => rfl
  | cons op r ih => rw [List.cons_append, labelNames_cons, labelNames_cons, ih, List.append_assoc]

theorem lookupLabel_append_of_not_mem (l1 l2 : List (String × Nat)) (n : String)
    (h : n ∉ l1.map (·.1)) : lookupLabel (l1 ++ l2) n = lookupLabel l2 n := by
  unfold lookupLabel
  rw [List.find?_append]
  have : l1.find? (fun e => e.1 == n) = none := by
    rw [List.find?_eq_none]
    intro e he hc
    apply h
    simp only [beq_iff_eq] at hc
    exact List.mem_map.mpr ⟨e, he, hc⟩
  rw [this]; rfl

theorem codeAt_of_layout (P : Program) (whole : List MockOp)
    (hcode : P.code = (layout whole 0).1.toArray) (hlab : P.labels = (layout whole 0).2)
    (hnodup : (labelNames whole).Nodup) :
    ∀ (suf pre : List MockOp), whole = pre ++ suf → CodeAt P (instrCount pre) suf
  | [], pre, _ => trivial
  | op :: r, pre, hw => by
    have ih := codeAt_of_layout P whole hcode hlab hnodup r (pre ++ [op]) (by simp [hw])
    have hl := layout_append pre (op :: r) 0
    rw [← hw, Nat.zero_add, layout_cons] at hl
    have hlen : instrCount (pre ++ [op]) = instrCount pre + width op := by
      rw [Subst.instrCount_append, instrCount_cons]; rfl
    rw [CodeAt_cons]
    refine ⟨fun hw1 => ?_, fun n hn => ?_, hlen ▸ ih⟩
    · rw [hcode, hl, hw1]
      simp only [List.getElem?_toArray]
      rw [List.getElem?_append_right (by rw [layout_fst_length]; exact Nat.le_refl _),
        layout_fst_length, Nat.sub_self]
      rfl
    · unfold Program.labelAddr
      rw [hlab, hl, hn, lookupLabel_append_of_not_mem]
      · simp [lookupLabel]
      · rw [layout_snd_names]
        intro hmem
        rw [hw, labelNames_append, List.nodup_append] at hnodup
        exact hnodup.2.2 n hmem n (by rw [labelNames_cons, hn]; simp) rfl

/-- the whole code is laid out at address 0 of the program made from it -/
theorem codeAt_ofOps (whole : List MockOp) (hnodup : (dfns (events whole)).Nodup) :
    ∀ (pre suf : List MockOp), whole = pre ++ suf →
      CodeAt (Program.ofOps whole) (instrCount pre) suf := by
  intro pre suf hw
  exact codeAt_of_layout (Program.ofOps whole) whole rfl rfl (by rw [labelNames_eq_dfns]; exact hnodup)
    suf pre hw

/-- the abstract instruction at the program counter -/
theorem fetch_of_split {ops : List MockOp} (hnodup : (labelNames ops).Nodup) {ops1 ops2 : List MockOp} {op : MockOp}
    (ho : ops = ops1 ++ op :: ops2) (h1 : ∀ m, op ≠ .comment m) (h2 : ∀ n, op ≠ .label n) :
    (Program.ofOps ops).code[instrCount ops1]? = some op := by
  have hca := codeAt_ofOps ops (by rw [← labelNames_eq_dfns]; exact hnodup) ops1 _ ho
  cases op <;> simp only [CodeAt] at hca <;> first | exact hca.1 | exact absurd rfl (h1 _) | exact absurd rfl (h2 _)

theorem ctxPosition_go (id : Nat) : ∀ (Γ : Ctx) (k : Nat),
    Mock.ctxPosition.go id Γ k = (Γ.findIdx? (fun b => b.var.id == id)).map (· + k)
  | [], k => rfl
  | b :: bs, k => by
    simp only [Mock.ctxPosition.go, List.findIdx?_cons]
    by_cases h : (b.var.id == id) = true
    · simp [h]
    · simp only [h, if_false, Bool.false_eq_true]
      rw [ctxPosition_go id bs (k + 1)]
      cases List.findIdx? (fun b => b.var.id == id) bs <;> simp [Nat.add_assoc, Nat.add_comm 1]

theorem ctxPosition_eq_posOf (Γ : Ctx) (id : Nat) : Mock.ctxPosition Γ id = posOf Γ id := by
  unfold Mock.ctxPosition posOf
  rw [ctxPosition_go]
  cases List.findIdx? (fun b => b.var.id == id) Γ <;> simp

theorem posOf_lt {Γ : Ctx} {id i : Nat} (h : posOf Γ id = some i) : i < Γ.length := by
  unfold posOf at h
  obtain ⟨hi, _⟩ := List.findIdx?_eq_some_iff_getElem.mp h
  exact hi

theorem posOf_append_old {Γ : Ctx} {id i : Nat} (l : Ctx) (h : posOf Γ id = some i) :
    posOf (Γ ++ l) id = some i := by
  unfold posOf at *
  rw [List.findIdx?_append, h]; rfl

theorem posOf_append_fresh (Γ : Ctx) (b : Binding) (h : ∀ b' ∈ Γ, b'.var.id ≠ b.var.id) :
    posOf (Γ ++ [b]) b.var.id = some Γ.length := by
  unfold posOf
  rw [List.findIdx?_append]
  have : List.findIdx? (fun b' => b'.var.id == b.var.id) Γ = none := by
    rw [List.findIdx?_eq_none_iff]
    intro x hx
    simp [h x hx]
  rw [this]
  simp [List.findIdx?_cons]

theorem ctxPosition_snoc_fresh {Γ : Ctx} {b : Binding} {id p : Nat}
    (hp : Mock.ctxPosition (Γ ++ [b]) id = some p) (hid : b.var.id = id)
    (h : ∀ b' ∈ Γ, b'.var.id ≠ id) : p = Γ.length := by
  subst hid
  rw [ctxPosition_eq_posOf, posOf_append_fresh Γ b h] at hp
  exact (Option.some.inj hp).symm

theorem ctxPosition_append_old {Γ l : Ctx} {id i p : Nat} (hp : Mock.ctxPosition (Γ ++ l) id = some p)
    (h : Mock.ctxPosition Γ id = some i) : p = i := by
  rw [ctxPosition_eq_posOf] at h hp
  rw [posOf_append_old l h] at hp
  exact (Option.some.inj hp).symm

theorem readInt_ok {Γ : Ctx} {ρ : List Value} {x : Ident} {n : Word} (h : readInt Γ ρ x = .ok n) :
    ∃ i, posOf Γ x.id = some i ∧ ρ[i]? = some (.int n) := by
  unfold readInt readVar at h
  cases hp : posOf Γ x.id with
  | none => simp [hp] at h
  | some i =>
    simp only [hp] at h
    cases hv : ρ[i]? with
    | none => simp [hv] at h
    | some v =>
      simp only [hv] at h
      cases v with
      | int m => simp at h; subst h; exact ⟨i, rfl, hv⟩
      | obj _ _ => simp at h
      | clo _ _ _ => simp at h

def HeapExt (h h' : Heap) : Prop := ∀ id o, h.get id = some o → h'.get id = some o

def FieldsOf (V : Heap → Value → Option Word → Word → Prop) (K : Chi → Value → Prop) (h : Heap) :
    List Value → List Field → Prop
  | [], [] => True
  | v :: vs, f :: fs =>
    (V h v (if f.chi == .ext then none else some f.ptr) f.val ∧ K f.chi v) ∧ FieldsOf V K h vs fs
  | _, _ => False

/-- the values `vs` are the fields of the object referenced by `r` (no value: `r = 0`) -/
def BlockOf (V : Heap → Value → Option Word → Word → Prop) (K : Chi → Value → Prop) (h : Heap)
    (vs : List Value) (r : Word) : Prop :=
  (vs = [] ∧ r = 0) ∨ (vs ≠ [] ∧ r ≠ 0 ∧ ∃ o, h.get r.toNat = some o ∧ FieldsOf V K h vs o.fields)

/-- A representation of values by (pointer part, word part) in a heap: `V` as `RepVal` (SimDefs.lean),
    `K χ v`: what a binding or field of kind `χ` records about the value `v` it holds, `E Γc Γ'`: the
    methods of a closure annotated with `Γc` may be coded for the environment `Γ'`.  Field lists and
    blocks are represented position by position (`FieldsOf`, `BlockOf`). -/
structure Kit (P : Program) (hooks : Bool) (types : List TypeDecl) where
  V : Heap → Value → Option Word → Word → Prop
  K : Chi → Value → Prop
  E : Ctx → Ctx → Prop
  int : ∀ {h} (n : Word) (p : Option Word), V h (.int n) p n
  int_inv : ∀ {h n p w}, V h (.int n) p w → w = n
  obj : ∀ {h} (tag : Nat) {fs : List Value} {r : Word}, BlockOf V K h fs r →
    V h (.obj tag fs) (some r) (BitVec.ofNat 64 tag)
  clo : ∀ {h} {Γc Γ' : Ctx} {env : List Value} {cl : Clauses} {r : Word} {a : Nat}, E Γc Γ' →
    BlockOf V K h env r → MethodsAt P hooks types a Γ' cl →
    V h (.clo Γc env cl) (some r) (BitVec.ofNat 64 a)
  V_ext : ∀ {h h' v p w}, HeapExt h h' → V h v p w → V h' v p w
  /-- `kindOf v` (SimDefs2.lean; the one thing this file takes from there) is the kind of the binding that
      can hold `v`: a binding or field of that kind records what it should about `v` -/
  K_kind : ∀ v, K (Sim2.kindOf v) v

section
variable {P : Program} {hooks : Bool}

abbrev Kit.Fields {types : List TypeDecl} (R : Kit P hooks types) := FieldsOf R.V R.K
abbrev Kit.Block {types : List TypeDecl} (R : Kit P hooks types) := BlockOf R.V R.K

/-- position `i` of the environment is represented by the temporaries `2i` (pointer part, only for
    non-`ext` positions) and `2i+1` (word part): `ValsOK` / `Sim2.ValsOK2` -/
def Kit.Vals {types : List TypeDecl} (R : Kit P hooks types) (h : Heap) (σ : Temps) (Γ : Ctx)
    (ρ : List Value) : Prop :=
  ∀ i (h1 : i < Γ.length) (h2 : i < ρ.length),
    R.V h ρ[i] (if Γ[i].chi == .ext then none else σ.get (2 * i)) ((σ.get (2 * i + 1)).getD 0) ∧
    (σ.get (2 * i + 1)).isSome ∧ R.K Γ[i].chi ρ[i] ∧ (Γ[i].chi != .ext → (σ.get (2 * i)).isSome)

/-- the positions `k, k+1, …` represent the values `ρΔ` with the bindings `Δ` -/
def Kit.Slice {types : List TypeDecl} (R : Kit P hooks types) (h : Heap) (σ : Temps) (Δ : Ctx)
    (ρΔ : List Value) (k : Nat) : Prop :=
  ∀ i (h1 : i < Δ.length) (h2 : i < ρΔ.length),
    R.V h ρΔ[i] (if Δ[i].chi == .ext then none else σ.get (2 * (k + i)))
      ((σ.get (2 * (k + i) + 1)).getD 0) ∧
    (σ.get (2 * (k + i) + 1)).isSome ∧ R.K Δ[i].chi ρΔ[i] ∧
    (Δ[i].chi != .ext → (σ.get (2 * (k + i))).isSome)

/-- `Rel` / `Sim2.RelX` over any representation of values -/
structure Kit.Rel (prog : Prog) (R : Kit P hooks prog.types) (st : Pos.State) (cfg : Config) : Prop where
  len : st.env.length = st.ctx.length
  cap : 2 * st.ctx.length + 2 < Mock.T_TEMP
  vals : R.Vals cfg.heap cfg.temps st.ctx st.env
  heap : HeapOK cfg.heap (roots st.ctx cfg.temps) cfg.next
  code : ∃ c c' ops, (codeStatementR mockSym hooks natRen prog.types st.stmt st.ctx).run c = .ok (ops, c') ∧
    CodeAt P cfg.pc ops

end

theorem Kit.Rel.temp_of_int {P : Program} {hooks : Bool} {prog : Prog} {R : Kit P hooks prog.types}
    {st : Pos.State} {cfg : Config} (Rl : R.Rel prog st cfg) {i : Nat} {n : Word}
    (hi : i < st.ctx.length) (hv : st.env[i]? = some (.int n)) :
    cfg.temps.get (2 * i + 1) = some n := by
  have hi2 : i < st.env.length := by rw [Rl.len]; exact hi
  obtain ⟨hr, hsome, _, _⟩ := Rl.vals i hi hi2
  have : st.env[i] = .int n := by
    rw [List.getElem?_eq_getElem hi2] at hv
    exact Option.some.inj hv
  rw [this] at hr
  have hw := R.int_inv hr
  cases hg : cfg.temps.get (2 * i + 1) with
  | none => simp [hg] at hsome
  | some w => simpa [hg] using hw

theorem Kit.Rel.readInt {P : Program} {hooks : Bool} {prog : Prog} {R : Kit P hooks prog.types}
    {st : Pos.State} {cfg : Config} (Rl : R.Rel prog st cfg) {x : Ident} {n : Word}
    (h : readInt st.ctx st.env x = .ok n) :
    ∃ i, Mock.ctxPosition st.ctx x.id = some i ∧ i < st.ctx.length ∧
      cfg.temps.get (2 * i + 1) = some n := by
  obtain ⟨i, hp, hv⟩ := readInt_ok h
  exact ⟨i, by rw [ctxPosition_eq_posOf]; exact hp, posOf_lt hp, Rl.temp_of_int (posOf_lt hp) hv⟩

theorem roots_go_congr (σ σ' : Temps) : ∀ (Γ : Ctx) (k : Nat),
    (∀ i, i < Γ.length → σ'.get (2 * (k + i)) = σ.get (2 * (k + i))) →
    roots.go σ' Γ k = roots.go σ Γ k
  | [], k, _ => rfl
  | b :: bs, k, h => by
    simp only [roots.go]
    have h0 := h 0 (by simp)
    simp only [Nat.add_zero] at h0
    rw [h0, roots_go_congr σ σ' bs (k + 1)]
    intro i hi
    have := h (i + 1) (by simp; omega)
    rw [show k + (i + 1) = k + 1 + i by omega] at this
    exact this

theorem roots_go_append (σ : Temps) : ∀ (Γ Δ : Ctx) (k : Nat),
    roots.go σ (Γ ++ Δ) k = roots.go σ Γ k ++ roots.go σ Δ (k + Γ.length)
  | [], Δ, k => by simp [roots.go]
  | b :: bs, Δ, k => by
    simp only [List.cons_append, roots.go, roots_go_append σ bs Δ (k + 1), List.append_assoc,
      List.length_cons]
    rw [show k + 1 + bs.length = k + (bs.length + 1) by omega]

theorem roots_append_ext (σ : Temps) (Γ : Ctx) (b : Binding) (hb : b.chi = .ext) :
    roots (Γ ++ [b]) σ = roots Γ σ := by
  unfold roots
  rw [roots_go_append]
  have : (Chi.ext != Chi.ext) = false := by decide
  simp [roots.go, hb, this]

theorem roots_congr (σ σ' : Temps) (Γ : Ctx)
    (h : ∀ i, i < Γ.length → σ'.get (2 * i) = σ.get (2 * i)) : roots Γ σ' = roots Γ σ := by
  unfold roots
  apply roots_go_congr
  intro i hi
  rw [Nat.zero_add]
  exact h i hi

theorem roots_go_chi (σ : Temps) : ∀ (Γ Δ : Ctx) (k : Nat), Γ.map (·.chi) = Δ.map (·.chi) →
    roots.go σ Γ k = roots.go σ Δ k
  | [], [], k, _ => rfl
  | [], _ :: _, k, h => by simp at h
  | _ :: _, [], k, h => by simp at h
  | b :: bs, d :: ds, k, h => by
    simp only [List.map_cons, List.cons.injEq] at h
    simp only [roots.go, h.1, roots_go_chi σ bs ds (k + 1) h.2]

section
variable {P : Program} {hooks : Bool} {types : List TypeDecl} {R : Kit P hooks types} {h h' : Heap}
  {σ σ' : Temps} {Γ : Ctx} {ρ : List Value}

theorem Kit.Vals.congr (V : R.Vals h σ Γ ρ) (hσ : ∀ t, t < 2 * Γ.length → σ'.get t = σ.get t) :
    R.Vals h σ' Γ ρ := by
  intro i h1 h2
  rw [hσ (2 * i) (by omega), hσ (2 * i + 1) (by omega)]
  exact V i h1 h2

theorem Kit.Vals.snoc (V : R.Vals h σ Γ ρ) (hlen : ρ.length = Γ.length)
    (hσ : ∀ t, t < 2 * Γ.length → σ'.get t = σ.get t) (b : Binding) (v : Value) (w : Word)
    (hw : σ'.get (2 * Γ.length + 1) = some w)
    (hv : R.V h v (if b.chi == .ext then none else σ'.get (2 * Γ.length)) w)
    (hkind : R.K b.chi v) (hptr : b.chi != .ext → (σ'.get (2 * Γ.length)).isSome) :
    R.Vals h σ' (Γ ++ [b]) (ρ ++ [v]) := by
  intro i h1 h2
  by_cases hi : i < Γ.length
  · have hi2 : i < ρ.length := by omega
    rw [hσ (2 * i) (by omega), hσ (2 * i + 1) (by omega),
      show (Γ ++ [b])[i] = Γ[i] from List.getElem_append_left hi,
      show (ρ ++ [v])[i] = ρ[i] from List.getElem_append_left hi2]
    exact V i hi hi2
  · have hi' : i = Γ.length := by simp at h1; omega
    subst hi'
    have g1 : (Γ ++ [b])[Γ.length] = b := by simp
    have g2 : (ρ ++ [v])[Γ.length] = v := by
      rw [List.getElem_append_right (by omega)]; simp [hlen]
    rw [g1, g2, hw]
    exact ⟨by simpa using hv, rfl, hkind, hptr⟩

theorem Kit.Vals.snoc_int (V : R.Vals h σ Γ ρ) (hlen : ρ.length = Γ.length)
    (hσ : ∀ t, t < 2 * Γ.length → σ'.get t = σ.get t) (b : Binding) (hb : b.chi = .ext) (w : Word)
    (hw : σ'.get (2 * Γ.length + 1) = some w) : R.Vals h σ' (Γ ++ [b]) (ρ ++ [.int w]) := by
  apply V.snoc hlen hσ b (.int w) w hw
  · exact R.int w _
  · rw [hb]; exact R.K_kind (.int w)
  · intro hc; rw [hb] at hc; exact absurd hc (by decide)

theorem Kit.Vals.take (V : R.Vals h σ Γ ρ) (n : Nat) : R.Vals h σ (Γ.take n) (ρ.take n) := by
  intro i h1 h2
  have h1' : i < Γ.length := by simp at h1; omega
  have h2' : i < ρ.length := by simp at h2; omega
  rw [show (Γ.take n)[i] = Γ[i] by simp, show (ρ.take n)[i] = ρ[i] by simp]
  exact V i h1' h2'

theorem Kit.Vals.slice (V : R.Vals h σ Γ ρ) (n : Nat) : R.Slice h σ (Γ.drop n) (ρ.drop n) n := by
  intro i h1 h2
  have h1' : n + i < Γ.length := by simp at h1; omega
  have h2' : n + i < ρ.length := by simp at h2; omega
  rw [show (Γ.drop n)[i] = Γ[n + i] by simp, show (ρ.drop n)[i] = ρ[n + i] by simp]
  exact V (n + i) h1' h2'

theorem Kit.Vals.chi {Δ : Ctx} (V : R.Vals h σ Γ ρ) (hc : Γ.map (·.chi) = Δ.map (·.chi)) :
    R.Vals h σ Δ ρ := by
  intro i h1 h2
  have hlen : Γ.length = Δ.length := by simpa using congrArg List.length hc
  have h1' : i < Γ.length := by omega
  have e : Γ[i].chi = Δ[i].chi := by
    have := congrArg (fun l => l[i]?) hc
    simp only [List.getElem?_map, List.getElem?_eq_getElem h1', List.getElem?_eq_getElem h1,
      Option.map_some, Option.some.injEq] at this
    exact this
  rw [← e]
  exact V i h1' h2

theorem Kit.Vals.ext (V : R.Vals h σ Γ ρ) (he : HeapExt h h') : R.Vals h' σ Γ ρ :=
  fun i h1 h2 =>
    let ⟨a, b, c, d⟩ := V i h1 h2
    ⟨R.V_ext he a, b, c, d⟩

theorem Kit.Fields.ext (he : HeapExt h h') :
    ∀ {vs : List Value} {fs : List Field}, R.Fields h vs fs → R.Fields h' vs fs
  | [], [], _ => trivial
  | _ :: _, _ :: _, H => ⟨⟨R.V_ext he H.1.1, H.1.2⟩, Kit.Fields.ext he H.2⟩
  | [], _ :: _, H => H.elim
  | _ :: _, [], H => H.elim

end

theorem HeapOK_congr {h : Heap} {rs rs' : List Nat} {next : Nat} (H : HeapOK h rs next) (e : rs' = rs) :
    HeapOK h rs' next := by subst e; exact H

theorem step_li (P : Program) (cfg : Config) (t : Nat) (imm : Int)
    (hc : P.code[cfg.pc]? = some (.li t imm)) (ht : t ≠ Mock.T_TEMP) :
    Abs.step P cfg = .next { cfg with pc := cfg.pc + 1,
                                      temps := (clobberTemp cfg.temps).set t (BitVec.ofInt 64 imm) } := by
  have : (t == Abs.T_TEMP) = false := by simp [Abs.T_TEMP, ht]
  simp [Abs.step, hc, this]

theorem Kit.Rel.lit {P : Program} {hooks : Bool} {prog : Prog} {R : Kit P hooks prog.types}
    {Γ : Ctx} {ρ : List Value} {x : Ident}
    {n : Int} {next : Stmt} {fv : FV} {cfg : Config}
    (Rl : R.Rel prog ⟨Γ, ρ, .lit x n next fv⟩ cfg)
    (hfresh : ∀ b ∈ Γ, b.var.id ≠ x.id) (hcap : 2 * (Γ.length + 1) + 2 < Mock.T_TEMP) :
    ∃ cfg', stepsTo P 1 cfg cfg' ∧ cfg'.out = cfg.out ∧ cfg'.next = cfg.next ∧
      R.Rel prog ⟨Γ ++ [⟨x, .ext, .i64⟩], ρ ++ [.int (BitVec.ofInt 64 n)], next⟩ cfg' := by
  obtain ⟨c, c', ops, hrun, hat⟩ := Rl.code
  simp only [codeStatementR, run_bind_ok, run_pure_ok, mockSym_variableTemporary, vt_run_ok] at hrun
  obtain ⟨t, k1, ⟨pos, hpos, rfl, rfl⟩, c2, k2, h2, rfl, rfl⟩ := hrun
  obtain rfl := ctxPosition_snoc_fresh hpos rfl hfresh
  simp only [mockSym_loadImmediate, mockSym_comment, List.append_assoc, CodeAt_hook] at hat
  simp only [List.cons_append, List.nil_append, CodeAt, TempNum.toNat] at hat
  obtain ⟨hcode, hat2⟩ := hat
  have ht : 2 * Γ.length + 1 ≠ Mock.T_TEMP := by omega
  refine ⟨_, stepsTo_one P _ _ (step_li P cfg _ n hcode ht), rfl, rfl, ?_⟩
  have hσ : ∀ t, t < 2 * Γ.length →
      ((clobberTemp cfg.temps).set (2 * Γ.length + 1) (BitVec.ofInt 64 n)).get t = cfg.temps.get t := by
    intro t ht'
    rw [get_set_other _ _ (by omega), get_clobberTemp _ (by omega)]
  exact {
    len := by simp [Rl.len]
    cap := by simpa using hcap
    vals := Rl.vals.snoc_int Rl.len hσ _ rfl _ (get_set_same _ _ _)
    heap := by
      apply HeapOK_congr Rl.heap
      show roots (Γ ++ [_]) _ = roots Γ cfg.temps
      rw [roots_append_ext _ _ _ rfl]
      exact roots_congr _ _ _ (fun i hi => hσ (2 * i) (by omega))
    code := ⟨_, _, c2, h2, hat2⟩ }

theorem evalBinOp_of_evalOp {o : BinOp} {a b v : Word} (h : Pos.evalOp o a b = .ok v) :
    Abs.evalBinOp o a b = .ok v := by
  cases o with
  | sum => simp only [Pos.evalOp] at h; cases h; rfl
  | sub => simp only [Pos.evalOp] at h; cases h; rfl
  | prod => simp only [Pos.evalOp] at h; cases h; rfl
  | div =>
    simp only [Pos.evalOp] at h
    split at h
    · cases h
    · split at h
      · cases h
      · cases h
        rename_i hb ho
        simp only [Pos.minInt] at ho
        simp only [Abs.evalBinOp, Abs.minWord, beq_iff_eq, Bool.and_eq_true]
        rw [if_neg hb, if_neg ho]
  | rem =>
    simp only [Pos.evalOp] at h
    split at h
    · cases h
    · split at h
      · cases h
      · cases h
        rename_i hb ho
        simp only [Pos.minInt] at ho
        simp only [Abs.evalBinOp, Abs.minWord, beq_iff_eq, Bool.and_eq_true]
        rw [if_neg hb, if_neg ho]

theorem step_binop (P : Program) (cfg : Config) (o : BinOp) (t a b : Nat) (va vb v : Word)
    (hc : P.code[cfg.pc]? = some (.binop o t a b)) (ht : t ≠ Mock.T_TEMP)
    (ha : cfg.temps.get a = some va) (hb : cfg.temps.get b = some vb)
    (hv : Abs.evalBinOp o va vb = .ok v) :
    Abs.step P cfg = .next { cfg with pc := cfg.pc + 1, temps := (clobberTemp cfg.temps).set t v } := by
  have : (t == Abs.T_TEMP) = false := by simp [Abs.T_TEMP, ht]
  simp [Abs.step, hc, this, getT, ha, hb, hv]

theorem Kit.Rel.op {P : Program} {hooks : Bool} {prog : Prog} {R : Kit P hooks prog.types}
    {Γ : Ctx} {ρ : List Value} {x a b : Ident}
    {o : BinOp} {next : Stmt} {fv : FV} {cfg : Config} {va vb v : Word}
    (Rl : R.Rel prog ⟨Γ, ρ, .op x a o b next fv⟩ cfg)
    (hfresh : ∀ b' ∈ Γ, b'.var.id ≠ x.id) (hcap : 2 * (Γ.length + 1) + 2 < Mock.T_TEMP)
    (ha : Pos.readInt Γ ρ a = .ok va) (hb : Pos.readInt Γ ρ b = .ok vb) (hv : Pos.evalOp o va vb = .ok v) :
    ∃ cfg', stepsTo P 1 cfg cfg' ∧ cfg'.out = cfg.out ∧ cfg'.next = cfg.next ∧
      R.Rel prog ⟨Γ ++ [⟨x, .ext, .i64⟩], ρ ++ [.int v], next⟩ cfg' := by
  obtain ⟨c, c', ops, hrun, hat⟩ := Rl.code
  simp only [codeStatementR, run_bind_ok, run_pure_ok, mockSym_variableTemporary, vt_run_ok] at hrun
  obtain ⟨t, k1, ⟨pos, hpos, rfl, rfl⟩, s1, k2, ⟨p1, hp1, rfl, rfl⟩, s2, k3, ⟨p2, hp2, rfl, rfl⟩,
    c2, k4, h2, rfl, rfl⟩ := hrun
  obtain rfl := ctxPosition_snoc_fresh hpos rfl hfresh
  obtain ⟨i1, hi1, hl1, hg1⟩ := Rl.readInt ha
  obtain ⟨i2, hi2, hl2, hg2⟩ := Rl.readInt hb
  have e1 : p1 = i1 := ctxPosition_append_old hp1 hi1
  have e2 : p2 = i2 := ctxPosition_append_old hp2 hi2
  subst e1 e2
  simp only [mockSym_binop, mockSym_comment, List.append_assoc, CodeAt_hook] at hat
  simp only [List.cons_append, List.nil_append, CodeAt, TempNum.toNat] at hat
  obtain ⟨hcode, hat2⟩ := hat
  have ht : 2 * Γ.length + 1 ≠ Mock.T_TEMP := by omega
  refine ⟨_, stepsTo_one P _ _
    (step_binop P cfg o _ _ _ va vb v hcode ht hg1 hg2 (evalBinOp_of_evalOp hv)), rfl, rfl, ?_⟩
  have hσ : ∀ t, t < 2 * Γ.length →
      ((clobberTemp cfg.temps).set (2 * Γ.length + 1) v).get t = cfg.temps.get t := by
    intro t ht'
    rw [get_set_other _ _ (by omega), get_clobberTemp _ (by omega)]
  exact {
    len := by simp [Rl.len]
    cap := by simpa using hcap
    vals := Rl.vals.snoc_int Rl.len hσ _ rfl _ (get_set_same _ _ _)
    heap := by
      apply HeapOK_congr Rl.heap
      show roots (Γ ++ [_]) _ = roots Γ cfg.temps
      rw [roots_append_ext _ _ _ rfl]
      exact roots_congr _ _ _ (fun i hi => hσ (2 * i) (by omega))
    code := ⟨_, _, c2, h2, hat2⟩ }

theorem step_print (P : Program) (cfg : Config) (nl : Bool) (s : Nat) (kinds : List Chi) (v : Word)
    (hc : P.code[cfg.pc]? = some (.print nl s kinds)) (hs : cfg.temps.get s = some v) :
    Abs.step P cfg = .next { cfg with pc := cfg.pc + 1, temps := keepPositions cfg.temps kinds.length,
                                      out := (nl, v) :: cfg.out } := by
  simp [Abs.step, hc, getT, hs]

theorem Kit.Rel.print {P : Program} {hooks : Bool} {prog : Prog} {R : Kit P hooks prog.types}
    {Γ : Ctx} {ρ : List Value} {a : Ident}
    {nl : Bool} {next : Stmt} {fv : FV} {cfg : Config} {v : Word}
    (Rl : R.Rel prog ⟨Γ, ρ, .print nl a next fv⟩ cfg) (ha : Pos.readInt Γ ρ a = .ok v) :
    ∃ cfg', stepsTo P 1 cfg cfg' ∧ cfg'.out = (nl, v) :: cfg.out ∧ cfg'.next = cfg.next ∧
      R.Rel prog ⟨Γ, ρ, next⟩ cfg' := by
  obtain ⟨c, c', ops, hrun, hat⟩ := Rl.code
  simp only [codeStatementR, run_bind_ok, run_pure_ok, mockSym_variableTemporary, vt_run_ok,
    mockSym_printI64] at hrun
  obtain ⟨t, k1, ⟨pos, hpos, rfl, rfl⟩, c1, k2, ⟨rfl, rfl⟩, c2, k3, h2, rfl, rfl⟩ := hrun
  obtain ⟨i, hi, hl, hg⟩ := Rl.readInt ha
  simp only at hi
  rw [hi] at hpos
  cases hpos
  simp only [mockSym_comment, List.append_assoc, CodeAt_hook] at hat
  simp only [List.cons_append, List.nil_append, CodeAt, TempNum.toNat] at hat
  obtain ⟨hcode, hat2⟩ := hat
  refine ⟨_, stepsTo_one P _ _ (step_print P cfg nl _ _ v hcode hg), rfl, rfl, ?_⟩
  have hσ : ∀ t, t < 2 * Γ.length →
      (keepPositions cfg.temps (Mock.kindsOf Γ).length).get t = cfg.temps.get t := by
    intro t ht'
    rw [get_keepPositions]
    simp [Mock.kindsOf, ht']
  exact {
    len := Rl.len
    cap := Rl.cap
    vals := Rl.vals.congr hσ
    heap := by
      apply HeapOK_congr Rl.heap
      exact roots_congr _ _ _ (fun i hi => hσ (2 * i) (by have : i < Γ.length := hi; omega))
    code := ⟨_, _, c2, h2, hat2⟩ }

theorem evalCond_eq_evalCmp (c : IfSort) (a b : Word) : Abs.evalCond c a b = Pos.evalCmp c a b := by
  cases c <;> rfl

theorem step_jif (P : Program) (cfg : Config) (c : IfSort) (a b : Nat) (name : String) (va vb : Word)
    (hc : P.code[cfg.pc]? = some (.jif c a b name))
    (ha : cfg.temps.get a = some va) (hb : cfg.temps.get b = some vb) :
    Abs.step P cfg =
      if Abs.evalCond c va vb then jumpTo P cfg name
      else .next { cfg with pc := cfg.pc + 1, temps := clobberTemp cfg.temps } := by
  simp [Abs.step, hc, getT, ha, hb]

theorem step_jifz (P : Program) (cfg : Config) (c : IfSort) (a : Nat) (name : String) (va : Word)
    (hc : P.code[cfg.pc]? = some (.jifz c a name)) (ha : cfg.temps.get a = some va) :
    Abs.step P cfg =
      if Abs.evalCond c va 0 then jumpTo P cfg name
      else .next { cfg with pc := cfg.pc + 1, temps := clobberTemp cfg.temps } := by
  simp [Abs.step, hc, getT, ha]

/-- a state that differs from a related one only in the program counter and `TEMP` -/
theorem Kit.Rel.jump {P : Program} {hooks : Bool} {prog : Prog} {R : Kit P hooks prog.types} {Γ : Ctx}
    {ρ : List Value} {s s' : Stmt}
    {cfg : Config} (Rl : R.Rel prog ⟨Γ, ρ, s⟩ cfg) (pc' : Nat)
    (hcode : ∃ c c' ops, (codeStatementR mockSym hooks natRen prog.types s' Γ).run c = .ok (ops, c') ∧
      CodeAt P pc' ops) :
    R.Rel prog ⟨Γ, ρ, s'⟩ { cfg with pc := pc', temps := clobberTemp cfg.temps } := by
  have hσ : ∀ t, t < 2 * Γ.length → (clobberTemp cfg.temps).get t = cfg.temps.get t := by
    intro t ht
    have := Rl.cap
    exact get_clobberTemp _ (by simp only at this; omega)
  exact {
    len := Rl.len
    cap := Rl.cap
    vals := Rl.vals.congr hσ
    heap := by
      apply HeapOK_congr Rl.heap
      exact roots_congr _ _ _ (fun i hi => hσ (2 * i) (by have : i < Γ.length := hi; omega))
    code := hcode }

theorem Kit.Rel.ifc {P : Program} {hooks : Bool} {prog : Prog} {R : Kit P hooks prog.types}
    {Γ : Ctx} {ρ : List Value} {a : Ident}
    {b : Option Ident} {srt : IfSort} {t e : Stmt} {cfg : Config} {va vb : Word}
    (Rl : R.Rel prog ⟨Γ, ρ, .ifc srt a b t e⟩ cfg) (ha : Pos.readInt Γ ρ a = .ok va)
    (hb : match b with | none => vb = 0 | some b' => Pos.readInt Γ ρ b' = .ok vb) :
    ∃ cfg', stepsTo P 1 cfg cfg' ∧ cfg'.out = cfg.out ∧ cfg'.next = cfg.next ∧
      R.Rel prog ⟨Γ, ρ, if Pos.evalCmp srt va vb then t else e⟩ cfg' := by
  obtain ⟨c, c', ops, hrun, hat⟩ := Rl.code
  simp only [codeStatementR, run_bind_ok, run_pure_ok, freshLabelStr_run_ok] at hrun
  obtain ⟨num, k1, ⟨rfl, rfl⟩, c1, k2, h1, c2, k3, h2, c3, k4, h3, rfl, rfl⟩ := hrun
  obtain ⟨i1, hi1, hl1, hg1⟩ := Rl.readInt ha
  simp only at hi1
  simp only [mockSym_comment, mockSym_label, List.append_assoc, CodeAt_hook] at hat
  simp only [List.cons_append, List.nil_append, CodeAt] at hat
  rw [CodeAt_append] at hat
  obtain ⟨hat1, hat'⟩ := hat
  simp only [CodeAt] at hat'
  rw [CodeAt_append] at hat'
  obtain ⟨hatE, hatT⟩ := hat'
  simp only [CodeAt] at hatT
  obtain ⟨hlab, hatT⟩ := hatT
  cases b with
  | none =>
    simp only at hb
    subst hb
    simp only [run_bind_ok, run_pure_ok, mockSym_variableTemporary, vt_run_ok] at h1
    obtain ⟨ta, k5, ⟨p, hp, rfl, rfl⟩, rfl, rfl⟩ := h1
    rw [hi1] at hp; cases hp
    simp only [mockSym_jumpLabelIfZero, CodeAt, TempNum.toNat, instrCount] at hat1 hatE hlab
    have hst := step_jifz P cfg srt _ _ va hat1.1 hg1
    rw [evalCond_eq_evalCmp] at hst
    by_cases hc : Pos.evalCmp srt va 0 = true
    · simp only [hc, if_true] at hst ⊢
      simp only [jumpTo, hlab] at hst
      exact ⟨_, stepsTo_one P _ _ hst, rfl, rfl, Rl.jump _ ⟨_, _, c3, h3, hatT⟩⟩
    · simp only [hc, if_false, Bool.false_eq_true] at hst ⊢
      exact ⟨_, stepsTo_one P _ _ hst, rfl, rfl, Rl.jump _ ⟨_, _, c2, h2, hatE⟩⟩
  | some b' =>
    simp only at hb
    obtain ⟨i2, hi2, hl2, hg2⟩ := Rl.readInt hb
    simp only at hi2
    simp only [run_bind_ok, run_pure_ok, mockSym_variableTemporary, vt_run_ok] at h1
    obtain ⟨ta, k5, ⟨p, hp, rfl, rfl⟩, tb, k6, ⟨q, hq, rfl, rfl⟩, rfl, rfl⟩ := h1
    rw [hi1] at hp; cases hp
    rw [hi2] at hq; cases hq
    simp only [mockSym_jumpLabelIf, CodeAt, TempNum.toNat, instrCount] at hat1 hatE hlab
    have hst := step_jif P cfg srt _ _ _ va vb hat1.1 hg1 hg2
    rw [evalCond_eq_evalCmp] at hst
    by_cases hc : Pos.evalCmp srt va vb = true
    · simp only [hc, if_true] at hst ⊢
      simp only [jumpTo, hlab] at hst
      exact ⟨_, stepsTo_one P _ _ hst, rfl, rfl, Rl.jump _ ⟨_, _, c3, h3, hatT⟩⟩
    · simp only [hc, if_false, Bool.false_eq_true] at hst ⊢
      exact ⟨_, stepsTo_one P _ _ hst, rfl, rfl, Rl.jump _ ⟨_, _, c2, h2, hatE⟩⟩

theorem step_mov (P : Program) (cfg : Config) (t s : Nat) (v : Word)
    (hc : P.code[cfg.pc]? = some (.mov t s)) (ht : t ≠ Mock.T_TEMP) (hs : cfg.temps.get s = some v) :
    Abs.step P cfg = .next { cfg with pc := cfg.pc + 1, temps := (clobberTemp cfg.temps).set t v } := by
  have : (t == Abs.T_TEMP) = false := by simp [Abs.T_TEMP, ht]
  simp [Abs.step, hc, this, hs, Temps.put]

theorem step_cleanup (P : Program) (cfg : Config) (v : Word)
    (hc : P.code[cfg.pc]? = some (.jumpLabel "cleanup")) (hs : cfg.temps.get Mock.T_RET1 = some v) :
    Abs.step P cfg = .halt (.done v) := by
  simp [Abs.step, hc, getT, Abs.T_RET1, hs]

theorem Kit.Rel.exit {P : Program} {hooks : Bool} {prog : Prog} {R : Kit P hooks prog.types}
    {Γ : Ctx} {ρ : List Value} {a : Ident}
    {cfg : Config} {v : Word}
    (Rl : R.Rel prog ⟨Γ, ρ, .exit a⟩ cfg) (ha : Pos.readInt Γ ρ a = .ok v) :
    ∃ cfg', stepsTo P 1 cfg cfg' ∧ cfg'.out = cfg.out ∧ Abs.step P cfg' = .halt (.done v) := by
  obtain ⟨c, c', ops, hrun, hat⟩ := Rl.code
  simp only [codeStatementR, run_bind_ok, run_pure_ok, mockSym_variableTemporary, vt_run_ok] at hrun
  obtain ⟨t, k1, ⟨pos, hpos, rfl, rfl⟩, rfl, rfl⟩ := hrun
  obtain ⟨i, hi, hl, hg⟩ := Rl.readInt ha
  simp only at hi
  rw [hi] at hpos; cases hpos
  simp only [mockSym_comment, mockSym_mov, mockSym_jumpLabel, mockSym_return1, List.append_assoc,
    CodeAt_hook] at hat
  simp only [List.cons_append, List.nil_append, CodeAt, TempNum.toNat] at hat
  obtain ⟨hmov, hjmp, _⟩ := hat
  have hst := step_mov P cfg Mock.T_RET1 _ v hmov (by decide) hg
  refine ⟨_, stepsTo_one P _ _ hst, rfl, ?_⟩
  exact step_cleanup P _ v hjmp (get_set_same _ _ _)

theorem defLabel_ne_cleanup (f : String) : (f ++ "_" == "cleanup") = false := by
  rw [beq_eq_false_iff_ne]
  intro h
  have := congrArg String.toList h
  rw [String.toList_append] at this
  have h2 := congrArg List.getLast? this
  simp at h2

theorem step_jumpLabel (P : Program) (cfg : Config) (name : String) (a : Nat)
    (hc : P.code[cfg.pc]? = some (.jumpLabel name)) (hn : (name == "cleanup") = false)
    (ha : P.labelAddr name = some a) :
    Abs.step P cfg = .next { cfg with pc := a, temps := clobberTemp cfg.temps } := by
  simp [Abs.step, hc, hn, jumpTo, ha]

theorem Kit.Rel.call {P : Program} {hooks : Bool} {prog : Prog} {R : Kit P hooks prog.types}
    {Γ : Ctx} {ρ : List Value} {l : Ident}
    {args : Ctx} {cfg : Config} {d : Def}
    (Rl : R.Rel prog ⟨Γ, ρ, .call l args⟩ cfg) (D : DefsAt P hooks prog)
    (hd : Pos.findDef prog.defs l = some d) (hchi : Pos.chiTys Γ = Pos.chiTys d.ctx) :
    ∃ cfg', stepsTo P 1 cfg cfg' ∧ cfg'.out = cfg.out ∧ cfg'.next = cfg.next ∧
      R.Rel prog ⟨d.ctx, ρ, d.body⟩ cfg' := by
  obtain ⟨c, c', ops, hrun, hat⟩ := Rl.code
  simp only [codeStatementR, run_pure_ok] at hrun
  obtain ⟨rfl, rfl⟩ := hrun
  simp only [mockSym_comment, mockSym_jumpLabel, List.append_assoc, CodeAt_hook] at hat
  simp only [List.cons_append, List.nil_append, CodeAt] at hat
  obtain ⟨hjmp, _⟩ := hat
  have hmem : d ∈ prog.defs := List.mem_of_find?_eq_some hd
  have hname : d.name = l := by
    have := List.find?_some hd
    exact Ident.eq_of_beq this
  obtain ⟨a, c1, c1', ops, hlab, hrun, hat⟩ := D d hmem
  rw [hname] at hlab
  have hst := step_jumpLabel P cfg _ a hjmp (defLabel_ne_cleanup _) hlab
  have hchi' : Γ.map (·.chi) = d.ctx.map (·.chi) := by
    have := congrArg (List.map Prod.fst) hchi
    simp only [Pos.chiTys, List.map_map] at this
    exact this
  have hlen : Γ.length = d.ctx.length := by simpa using congrArg List.length hchi'
  have hσ : ∀ t, t < 2 * Γ.length → (clobberTemp cfg.temps).get t = cfg.temps.get t := by
    intro t ht
    have := Rl.cap
    exact get_clobberTemp _ (by simp only at this; omega)
  refine ⟨_, stepsTo_one P _ _ hst, rfl, rfl, ?_⟩
  exact {
    len := by rw [← hlen]; exact Rl.len
    cap := by have := Rl.cap; simp only at this ⊢; omega
    vals := (Rl.vals.congr hσ).chi hchi'
    heap := by
      apply HeapOK_congr Rl.heap
      show roots d.ctx _ = roots Γ cfg.temps
      unfold roots
      rw [← roots_go_chi _ Γ d.ctx 0 hchi']
      exact roots_congr _ _ _ (fun i hi => hσ (2 * i) (by omega))
    code := ⟨_, _, ops, hrun, hat⟩ }

theorem assemble_split (hooks : Bool) (ren : Nat → String) (types : List TypeDecl) :
    ∀ (defs : List Def) (c : Nat) (blocks : List (List MockOp)) (c' : Nat),
      (translateR mockSym hooks ren types defs).run c = .ok (blocks, c') →
      ∀ d ∈ defs, ∃ pre post ck ck' ops,
        assemble mockSym blocks (defs.map (·.name)) =
          pre ++ MockOp.label (d.name.print ++ "_") :: (ops ++ post) ∧
        (codeStatementR mockSym hooks ren types d.body d.ctx).run ck = .ok (ops, ck')
  | [], c, blocks, c', _, d, hd => by simp at hd
  | d0 :: ds, c, blocks, c', h, d, hd => by
    simp only [translateR, run_bind_ok, run_pure_ok] at h
    obtain ⟨is, k1, h1, rest, k2, h2, rfl, rfl⟩ := h
    simp only [List.mem_cons] at hd
    rcases hd with rfl | hd
    · exact ⟨[], assemble mockSym rest (ds.map (·.name)), c, k1, is, by simp [assemble], h1⟩
    · obtain ⟨pre, post, ck, ck', ops, e, hr⟩ := assemble_split hooks ren types ds k1 rest _ h2 d hd
      refine ⟨MockOp.label (d0.name.print ++ "_") :: is ++ pre, post, ck, ck', ops, ?_, hr⟩
      simp [assemble, e]

theorem defsAt_of_compile (hooks : Bool) (prog : Prog) (c : Nat) (code : List MockOp) (nargs c' : Nat)
    (h : (compile mockSym hooks prog).run c = .ok ((code, nargs), c'))
    (hnodup : (dfns (events code)).Nodup) :
    DefsAt (Program.ofOps code) hooks prog := by
  intro d hd
  unfold compile compileR at h
  cases hdefs : prog.defs with
  | nil => rw [hdefs] at hd; simp at hd
  | cons d0 ds =>
    simp only [hdefs, run_bind_ok, run_pure_ok] at h
    obtain ⟨blocks, k, h1, h2, rfl⟩ := h
    cases h2
    rw [hdefs] at hd
    obtain ⟨pre, post, ck, ck', ops, e, hr⟩ := assemble_split hooks natRen prog.types _ c blocks _ h1 d hd
    have hat := codeAt_ofOps _ hnodup pre _ e
    rw [e] at hat ⊢
    simp only [CodeAt] at hat
    obtain ⟨hlab, hat⟩ := hat
    rw [CodeAt_append] at hat
    exact ⟨_, ck, ck', ops, hlab, hr, hat.1⟩

theorem initTemps_get : ∀ (args : List Word) (k i : Nat) (hi : i < args.length),
    (initTemps args k).get (2 * (k + i) + 1) = some args[i]
  | [], k, i, hi => by simp at hi
  | w :: ws, k, 0, _ => by
    simp [initTemps, Temps.get]
  | w :: ws, k, i + 1, hi => by
    have ih := initTemps_get ws (k + 1) i (by simpa using hi)
    rw [show k + 1 + i = k + (i + 1) by omega] at ih
    simp only [initTemps, Temps.get, List.find?_cons]
    have : (2 * k + 1 == 2 * (k + (i + 1)) + 1) = false := by
      rw [beq_eq_false_iff_ne]; omega
    simp only [this]
    simpa [Temps.get] using ih

theorem roots_go_all_ext (σ : Temps) : ∀ (Γ : Ctx) (k : Nat), (∀ b ∈ Γ, b.chi = .ext) →
    roots.go σ Γ k = []
  | [], k, _ => rfl
  | b :: bs, k, h => by
    have hb : b.chi = .ext := h b (by simp)
    have : (Chi.ext != Chi.ext) = false := by decide
    simp only [roots.go, hb, this, Bool.false_eq_true, if_false, List.nil_append]
    exact roots_go_all_ext σ bs (k + 1) (fun b' hb' => h b' (by simp [hb']))

theorem heapOK_empty (next : Nat) (hn : 0 < next) : HeapOK [] [] next where
  pos := hn
  nodup := by simp
  ids := by simp
  counts := by simp
  live := by intro id h; simp [refCount] at h

theorem Kit.Rel.init (hooks : Bool) (prog : Prog) (c : Nat) (code : List MockOp) (nargs c' : Nat)
    (hcomp : (compile mockSym hooks prog).run c = .ok ((code, nargs), c'))
    (hnodup : (dfns (events code)).Nodup)
    (d0 : Def) (hd : d0 ∈ prog.defs) (hext : ∀ b ∈ d0.ctx, b.chi = .ext)
    (args : List Word) (hlen : d0.ctx.length = args.length)
    (hcap : 2 * d0.ctx.length + 2 < Mock.T_TEMP)
    (R : Kit (Program.ofOps code) hooks prog.types) :
    ∃ a, (Program.ofOps code).labelAddr (d0.name.print ++ "_") = some a ∧
      R.Rel prog ⟨d0.ctx, args.map .int, d0.body⟩ (initConfig a args) ∧
      (initConfig a args).next = 1 := by
  obtain ⟨a, ck, ck', ops, hlab, hrun, hat⟩ := defsAt_of_compile hooks prog c code nargs c' hcomp hnodup d0 hd
  refine ⟨a, hlab, ?_, rfl⟩
  exact {
    len := by simp [hlen]
    cap := hcap
    vals := by
      intro i h1 h2
      have hi : i < args.length := by simpa using h2
      have hg := initTemps_get args 0 i hi
      rw [Nat.zero_add] at hg
      have hchi : (d0.ctx[i]).chi = .ext := hext _ (List.getElem_mem h1)
      have hb : (Chi.ext == Chi.ext) = true := by decide
      simp only [initConfig, hg, hchi, hb, if_true, List.getElem_map, Option.getD_some]
      refine ⟨R.int _ none, rfl, R.K_kind (.int _), ?_⟩
      intro hc; exact absurd hc (by decide)
    heap := by
      show HeapOK [] (roots d0.ctx _) 1
      unfold roots
      rw [roots_go_all_ext _ _ _ hext]
      exact heapOK_empty 1 (by decide)
    code := ⟨ck, ck', ops, hrun, hat⟩ }

end Scc.Backend.Sim
