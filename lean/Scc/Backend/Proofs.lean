/-
  Scc.Backend.Proofs — helper lemmas about the generic code generator (Generic.lean) and the mock
  backend (Mock.lean):
  * inversion lemmas for runs of `GenM` programs (`run_bind_ok`, …);
  * `rfl` simp lemmas for the fields of `mockSym`;
  * `CI`: "a generator family indexed by the label renderer uses the counter only through the
    renderer", closed under the monadic combinators, and `CI_codeStatementR` … for every backend whose
    monadic operations are shift invariant (`ShiftInvOps`; the mock backend is).
-/
import Scc.Backend.Mock
import Std.Data.String.ToNat

namespace Scc.Backend

open Scc.AxCut

theorem Ident.eq_of_beq {a b : Ident} (h : (a == b) = true) : a = b := by
  cases a with | mk n1 i1 => cases b with | mk n2 i2 =>
  have : (n1 == n2 && i1 == i2) = true := h
  simp at this
  simp [this]

theorem lab_toString_inj {m n : Nat} : "lab" ++ toString m = "lab" ++ toString n ↔ m = n := by
  constructor
  · intro h
    have h2 := congrArg String.toList h
    simp only [String.toList_append, List.append_cancel_left_eq] at h2
    exact Nat.repr_inj.mp (String.toList_inj.mp h2)
  · rintro rfl; rfl

theorem run_bind_ok {α β : Type} (f : GenM α) (g : α → GenM β) (c : Nat) (r : β) (c' : Nat) :
    (f >>= g).run c = .ok (r, c') ↔ ∃ a c1, f.run c = .ok (a, c1) ∧ (g a).run c1 = .ok (r, c') := by
  simp only [StateT.run_bind]
  cases h : f.run c with
  | error e => simp [bind, Except.bind]
  | ok p =>
    obtain ⟨a, c1⟩ := p
    simp only [bind, Except.bind]
    constructor
    · intro h'; exact ⟨a, c1, rfl, h'⟩
    · rintro ⟨a', c1', h1, h2⟩
      cases h1; exact h2

theorem run_pure_ok {α : Type} (a : α) (c : Nat) (r : α) (c' : Nat) :
    (pure a : GenM α).run c = .ok (r, c') ↔ a = r ∧ c = c' := by
  show (Except.ok (a, c) : Except String (α × Nat)) = .ok (r, c') ↔ _
  constructor
  · intro h; cases h; exact ⟨rfl, rfl⟩
  · rintro ⟨rfl, rfl⟩; rfl

theorem run_throw_ok {α : Type} (e : String) (c : Nat) (r : α) (c' : Nat) :
    (throw e : GenM α).run c = .ok (r, c') ↔ False := by
  show (Except.error e : Except String (α × Nat)) = .ok (r, c') ↔ False
  constructor
  · intro h; cases h
  · intro h; cases h

theorem vt_run_ok (num : TempNum) (ctx : Ctx) (id : Nat) (c : Nat) (t : Nat) (c' : Nat) :
    (Mock.variableTemporary num ctx id).run c = .ok (t, c') ↔
      ∃ pos, Mock.ctxPosition ctx id = some pos ∧ 2 * pos + num.toNat = t ∧ c = c' := by
  unfold Mock.variableTemporary
  cases h : Mock.ctxPosition ctx id with
  | none => simp [run_throw_ok]
  | some pos =>
    simp only [run_pure_ok]
    constructor
    · rintro ⟨rfl, rfl⟩; exact ⟨pos, rfl, rfl, rfl⟩
    · rintro ⟨pos', h1, h2, h3⟩; cases h1; exact ⟨h2, h3⟩

theorem freshLabelStr_run_ok (ren : Nat → String) (c : Nat) (s : String) (c' : Nat) :
    (freshLabelStr ren).run c = .ok (s, c') ↔ ren (c + 1) = s ∧ c + 1 = c' := by
  show (Except.ok (ren (c + 1), c + 1) : Except String (String × Nat)) = .ok (s, c') ↔ _
  constructor
  · intro h; cases h; exact ⟨rfl, rfl⟩
  · rintro ⟨rfl, rfl⟩; rfl

theorem splitOffLast_run_ok (context : Ctx) (n : Nat) (c : Nat) (r : Ctx × Ctx) (c' : Nat) :
    (splitOffLast context n).run c = .ok (r, c') ↔
      n ≤ context.length ∧ r = (context.take (context.length - n), context.drop (context.length - n)) ∧ c = c' := by
  unfold splitOffLast
  split
  · simp only [run_pure_ok]
    constructor
    · rintro ⟨rfl, rfl⟩; exact ⟨by assumption, rfl, rfl⟩
    · rintro ⟨_, rfl, rfl⟩; exact ⟨rfl, rfl⟩
  · simp only [run_throw_ok, false_iff]
    rintro ⟨h, _⟩; contradiction

theorem lookupTypeDeclM_run_ok (types : List TypeDecl) (ty : Ty) (c : Nat) (d : TypeDecl) (c' : Nat) :
    (lookupTypeDeclM types ty).run c = .ok (d, c') ↔ lookupTypeDecl types ty = some d ∧ c = c' := by
  unfold lookupTypeDeclM
  cases ty with
  | i64 => simp [run_throw_ok, lookupTypeDecl]
  | decl n =>
    dsimp only
    cases h : lookupTypeDecl types (.decl n) with
    | none => simp [run_throw_ok]
    | some d' =>
      simp only [run_pure_ok]
      constructor
      · rintro ⟨rfl, rfl⟩; exact ⟨rfl, rfl⟩
      · rintro ⟨h1, rfl⟩; cases h1; exact ⟨rfl, rfl⟩

theorem xtorPositionM_run_ok (d : TypeDecl) (tag : Ident) (c : Nat) (i : Nat) (c' : Nat) :
    (xtorPositionM d tag).run c = .ok (i, c') ↔ xtorPosition d tag = some i ∧ c = c' := by
  unfold xtorPositionM
  cases h : xtorPosition d tag with
  | none => simp [run_throw_ok]
  | some i' =>
    simp only [run_pure_ok]
    constructor
    · rintro ⟨rfl, rfl⟩; exact ⟨rfl, rfl⟩
    · rintro ⟨h1, rfl⟩; cases h1; exact ⟨rfl, rfl⟩

section mockSym_simp
@[simp] theorem mockSym_temp : mockSym.temp = Mock.T_TEMP := rfl
@[simp] theorem mockSym_return1 : mockSym.return1 = Mock.T_RET1 := rfl
@[simp] theorem mockSym_jumpLength (n : Nat) : mockSym.jumpLength n = (n : Int) := rfl
@[simp] theorem mockSym_variableTemporary : mockSym.variableTemporary = Mock.variableTemporary := rfl
@[simp] theorem mockSym_comment (m : String) : mockSym.comment m = .comment m := rfl
@[simp] theorem mockSym_label (n : String) : mockSym.label n = .label n := rfl
@[simp] theorem mockSym_jump (t : Nat) : mockSym.jump t = [.jump t] := rfl
@[simp] theorem mockSym_jumpLabel (n : String) : mockSym.jumpLabel n = [.jumpLabel n] := rfl
@[simp] theorem mockSym_jumpLabelFixed (n : String) : mockSym.jumpLabelFixed n = [.jumpFixed n] := rfl
@[simp] theorem mockSym_jumpLabelIf (c : IfSort) (a b : Nat) (n : String) :
    mockSym.jumpLabelIf c a b n = [.jif c a b n] := rfl
@[simp] theorem mockSym_jumpLabelIfZero (c : IfSort) (a : Nat) (n : String) :
    mockSym.jumpLabelIfZero c a n = [.jifz c a n] := rfl
@[simp] theorem mockSym_loadImmediate (t : Nat) (i : Int) : mockSym.loadImmediate t i = [.li t i] := rfl
@[simp] theorem mockSym_loadLabel (t : Nat) (n : String) : mockSym.loadLabel t n = [.ll t n] := rfl
@[simp] theorem mockSym_addAndJump (t : Nat) (i : Int) : mockSym.addAndJump t i = [.addJump t i] := rfl
@[simp] theorem mockSym_binop (o : BinOp) (t a b : Nat) : mockSym.binop o t a b = [.binop o t a b] := rfl
@[simp] theorem mockSym_mov (t s : Nat) : mockSym.mov t s = [.mov t s] := rfl
@[simp] theorem mockSym_printI64 (nl : Bool) (s : Nat) (ctx : Ctx) :
    mockSym.printI64 nl s ctx = pure [.print nl s (Mock.kindsOf ctx)] := rfl
@[simp] theorem mockSym_eraseBlock (t : Nat) : mockSym.eraseBlock t = pure [.erase t] := rfl
@[simp] theorem mockSym_shareBlockN (t n : Nat) : mockSym.shareBlockN t n = pure [.share t n] := rfl
@[simp] theorem mockSym_store (a b : Ctx) :
    mockSym.store a b = pure [.store (Mock.kindsOf a) b.length] := rfl
@[simp] theorem mockSym_load (a b : Ctx) :
    mockSym.load a b = pure [.load (Mock.kindsOf a) b.length] := rfl
@[simp] theorem mockSym_containsSpillEdge (r : Root Nat) : mockSym.containsSpillEdge r = false := rfl
@[simp] theorem mockSym_storeTemporary (t : Nat) (s : Bool) : mockSym.storeTemporary t s = [.save t s] := rfl
@[simp] theorem mockSym_restoreTemporary (t : Nat) (s : Bool) :
    mockSym.restoreTemporary t s = [.restore t s] := rfl
@[simp] theorem mockSym_tempLt (a b : Nat) : mockSym.tempLt a b = decide (a < b) := rfl
@[simp] theorem mockSym_tempEq (a b : Nat) : mockSym.tempEq a b = (a == b) := rfl
end mockSym_simp

def shiftRes {α : Type} (d : Nat) : Except String (α × Nat) → Except String (α × Nat)
  | .ok (a, k) => .ok (a, k + d)
  | .error e => .error e

/-- a generator family indexed by the label renderer uses the counter only through `ren` -/
structure CI {α : Type} (f : (Nat → String) → GenM α) : Prop where
  run : ∀ ren c d, (f ren).run (c + d) = shiftRes d ((f (fun n => ren (n + d))).run c)

theorem CI_pure {α} (a : α) : CI (fun _ => (pure a : GenM α)) := by
  constructor; intro ren c d; rfl

theorem CI_throw {α} (e : String) : CI (fun _ => (throw e : GenM α)) := by
  constructor; intro ren c d; rfl

theorem CI_bind {α β} (f : (Nat → String) → GenM α) (g : α → (Nat → String) → GenM β)
    (hf : CI f) (hg : ∀ a, CI (g a)) : CI (fun ren => f ren >>= fun a => g a ren) := by
  constructor; intro ren c d
  have h1 := hf.run ren c d
  simp only [StateT.run_bind] at *
  rw [h1]
  cases h : (f (fun n => ren (n + d))).run c with
  | error e => rfl
  | ok r =>
    obtain ⟨a, k⟩ := r
    simp only [shiftRes]
    exact (hg a).run ren k d

theorem CI_freshLabelStr : CI (fun ren => freshLabelStr ren) := by
  constructor; intro ren c d
  show (Except.ok (ren (c + d + 1), c + d + 1) : Except String (String × Nat)) =
    shiftRes d (Except.ok (ren (c + 1 + d), c + 1))
  simp only [shiftRes]
  rw [show c + d + 1 = c + 1 + d by omega]

theorem CI_ite {α} (c : Prop) [Decidable c] (f g : (Nat → String) → GenM α) (hf : CI f) (hg : CI g) :
    CI (fun ren => if c then f ren else g ren) := by
  by_cases h : c <;> simp only [h, if_true, if_false] <;> assumption

/-- shift invariance of a generator that does not depend on `ren` -/
def SI {α : Type} (m : GenM α) : Prop := CI (fun _ => m)

structure ShiftInvOps {Code T : Type} (B : Backend Code T) : Prop where
  variableTemporary : ∀ n ctx id, SI (B.variableTemporary n ctx id)
  printI64 : ∀ nl t ctx, SI (B.printI64 nl t ctx)
  eraseBlock : ∀ t, SI (B.eraseBlock t)
  shareBlockN : ∀ t n, SI (B.shareBlockN t n)
  store : ∀ a b, SI (B.store a b)
  load : ∀ a b, SI (B.load a b)

section
variable {Code T : Type} (B : Backend Code T) (H : ShiftInvOps B)
include H

omit H in
theorem SI_mapMGen {α β} (f : α → GenM β) (hf : ∀ a, SI (f a)) (l : List α) : SI (mapMGen f l) := by
  induction l with
  | nil => exact CI_pure _
  | cons a as ih =>
    unfold mapMGen
    apply CI_bind _ _ (hf a); intro b
    apply CI_bind _ _ ih; intro bs
    exact CI_pure _

theorem SI_connections_go (context newContext : Ctx) (tm : List (Binding × List Nat)) (acc) :
    SI (connections.go B context newContext tm acc) := by
  induction tm generalizing acc with
  | nil => exact CI_pure _
  | cons e rest ih =>
    obtain ⟨binding, targets⟩ := e
    unfold connections.go
    apply CI_ite
    · apply CI_bind _ _ (H.variableTemporary ..); intro k
      apply CI_bind _ _ (SI_mapMGen _ (fun _ => H.variableTemporary _ _ _) _); intro ts
      exact ih _
    · apply CI_bind _ _ (H.variableTemporary ..); intro k
      apply CI_bind _ _ (SI_mapMGen _ (fun _ => H.variableTemporary _ _ _) _); intro ts
      apply CI_bind _ _ (H.variableTemporary ..); intro k2
      apply CI_bind _ _ (SI_mapMGen _ (fun _ => H.variableTemporary _ _ _) _); intro ts2
      exact ih _

theorem SI_codeExchange (tm : List (Binding × List Nat)) (context newContext : Ctx) :
    SI (codeExchange B tm context newContext) := by
  unfold codeExchange connections
  apply CI_bind _ _ (SI_connections_go B H ..); intro conns
  cases parallelMoves B conns with
  | error e => exact CI_throw _
  | ok code => exact CI_pure _

theorem SI_updateReferenceCount (v : Ident) (context : Ctx) (n : Nat) :
    SI (updateReferenceCount B v context n) := by
  unfold updateReferenceCount
  apply CI_bind _ _ (H.variableTemporary ..); intro t
  match n with
  | 0 => exact CI_bind _ _ (H.eraseBlock _) (fun _ => CI_pure _)
  | 1 => exact CI_pure _
  | n + 2 => exact CI_bind _ _ (H.shareBlockN _ _) (fun _ => CI_pure _)

theorem SI_codeWeakeningContraction (tm : List (Binding × List Nat)) (context : Ctx) :
    SI (codeWeakeningContraction B tm context) := by
  induction tm with
  | nil => exact CI_pure _
  | cons e rest ih =>
    obtain ⟨binding, targets⟩ := e
    unfold codeWeakeningContraction
    apply CI_bind
    · apply CI_ite
      · exact SI_updateReferenceCount B H ..
      · exact CI_pure _
    · intro code
      exact CI_bind _ _ ih (fun _ => CI_pure _)

omit H in
theorem SI_splitOffLast (context : Ctx) (n : Nat) : SI (splitOffLast context n) := by
  unfold splitOffLast
  exact CI_ite _ _ _ (CI_pure _) (CI_throw _)

omit H in
theorem SI_lookupTypeDeclM (types : List TypeDecl) (ty : Ty) : SI (lookupTypeDeclM types ty) := by
  unfold lookupTypeDeclM
  cases ty with
  | i64 => exact CI_throw _
  | decl n =>
    dsimp only
    cases lookupTypeDecl types (.decl n) with
    | none => exact CI_throw _
    | some d => exact CI_pure _

omit H in
theorem SI_xtorPositionM (d : TypeDecl) (tag : Ident) : SI (xtorPositionM d tag) := by
  unfold xtorPositionM
  cases xtorPosition d tag with
  | none => exact CI_throw _
  | some d => exact CI_pure _

mutual
theorem CI_codeStatementR (hooks : Bool) (types : List TypeDecl) :
    ∀ (s : Stmt) (context : Ctx), CI (fun ren => codeStatementR B hooks ren types s context)
  | .subst rearrange next, context => by
    simp only [codeStatementR]
    apply CI_bind _ _ (SI_codeWeakeningContraction B H ..); intro c1
    apply CI_bind _ _ (SI_codeExchange B H ..); intro c2
    apply CI_bind _ _ (CI_codeStatementR hooks types next _); intro c3
    exact CI_pure _
  | .call label args, context => by
    simp only [codeStatementR]
    exact CI_pure _
  | .letS var ty tag args next fv, context => by
    simp only [codeStatementR]
    apply CI_bind _ _ (SI_lookupTypeDeclM ..); intro decl
    apply CI_bind _ _ (SI_xtorPositionM ..); intro pos
    apply CI_bind _ _ (SI_splitOffLast ..); intro sp
    obtain ⟨context1, arguments⟩ := sp
    dsimp only
    apply CI_bind _ _ (H.store ..); intro c1
    apply CI_bind _ _ (H.variableTemporary ..); intro t
    apply CI_bind _ _ (CI_codeStatementR hooks types next _); intro c3
    exact CI_pure _
  | .switch var ty clauses fv, context => by
    simp only [codeStatementR]
    apply CI_bind _ _ CI_freshLabelStr; intro num
    apply CI_bind
    · apply CI_ite
      · exact CI_pure _
      · apply CI_bind _ _ (H.variableTemporary ..); intro t
        exact CI_pure _
    · intro c1
      apply CI_bind _ _ (CI_codeClausesR hooks types _ clauses _); intro c3
      exact CI_pure _
  | .create var ty env clauses next fv1 fv2, context => by
    cases env with
    | none => simp only [codeStatementR]; exact CI_throw _
    | some envCtx =>
      simp only [codeStatementR]
      apply CI_bind _ _ (SI_splitOffLast ..); intro sp
      obtain ⟨context1, closureEnvironment⟩ := sp
      dsimp only
      apply CI_bind _ _ (H.store ..); intro c1
      apply CI_bind _ _ CI_freshLabelStr; intro num
      apply CI_bind _ _ (H.variableTemporary ..); intro t
      apply CI_bind _ _ (CI_codeStatementR hooks types next _); intro c3
      apply CI_bind _ _ (CI_codeMethodsR hooks types _ clauses _); intro c5
      exact CI_pure _
  | .invoke var tag ty args, context => by
    simp only [codeStatementR]
    apply CI_bind _ _ (H.variableTemporary ..); intro t
    apply CI_bind _ _ (SI_lookupTypeDeclM ..); intro decl
    apply CI_ite
    · exact CI_pure _
    · apply CI_bind _ _ (SI_xtorPositionM ..); intro pos
      exact CI_pure _
  | .lit var n next fv, context => by
    simp only [codeStatementR]
    apply CI_bind _ _ (H.variableTemporary ..); intro t
    apply CI_bind _ _ (CI_codeStatementR hooks types next _); intro c2
    exact CI_pure _
  | .op var fst o snd next fv, context => by
    simp only [codeStatementR]
    apply CI_bind _ _ (H.variableTemporary ..); intro t
    apply CI_bind _ _ (H.variableTemporary ..); intro s1
    apply CI_bind _ _ (H.variableTemporary ..); intro s2
    apply CI_bind _ _ (CI_codeStatementR hooks types next _); intro c2
    exact CI_pure _
  | .print newline var next fv, context => by
    simp only [codeStatementR]
    apply CI_bind _ _ (H.variableTemporary ..); intro t
    apply CI_bind _ _ (H.printI64 ..); intro c1
    apply CI_bind _ _ (CI_codeStatementR hooks types next _); intro c2
    exact CI_pure _
  | .ifc sort fst snd thenc elsec, context => by
    simp only [codeStatementR]
    apply CI_bind _ _ CI_freshLabelStr; intro num
    apply CI_bind
    · cases snd with
      | none =>
        dsimp only
        apply CI_bind _ _ (H.variableTemporary ..); intro a
        exact CI_pure _
      | some snd =>
        dsimp only
        apply CI_bind _ _ (H.variableTemporary ..); intro a
        apply CI_bind _ _ (H.variableTemporary ..); intro b
        exact CI_pure _
    · intro c1
      apply CI_bind _ _ (CI_codeStatementR hooks types elsec _); intro c2
      apply CI_bind _ _ (CI_codeStatementR hooks types thenc _); intro c3
      exact CI_pure _
  | .exit var, context => by
    simp only [codeStatementR]
    apply CI_bind _ _ (H.variableTemporary ..); intro t
    exact CI_pure _
theorem CI_codeClausesR (hooks : Bool) (types : List TypeDecl) (context : Ctx) :
    ∀ (cs : Clauses) (baseLabel : String),
      CI (fun ren => codeClausesR B hooks ren types context cs baseLabel)
  | .nil, _ => by
    simp only [codeClausesR]; exact CI_pure _
  | .cons xtor clauseCtx body rest, baseLabel => by
    simp only [codeClausesR]
    apply CI_bind _ _ (H.load ..); intro c1
    apply CI_bind _ _ (CI_codeStatementR hooks types body _); intro c2
    apply CI_bind _ _ (CI_codeClausesR hooks types context rest baseLabel); intro c3
    exact CI_pure _
theorem CI_codeMethodsR (hooks : Bool) (types : List TypeDecl) (env : Ctx) :
    ∀ (cs : Clauses) (baseLabel : String),
      CI (fun ren => codeMethodsR B hooks ren types env cs baseLabel)
  | .nil, _ => by
    simp only [codeMethodsR]; exact CI_pure _
  | .cons xtor clauseCtx body rest, baseLabel => by
    simp only [codeMethodsR]
    apply CI_bind _ _ (H.load ..); intro c1
    apply CI_bind _ _ (CI_codeStatementR hooks types body _); intro c2
    apply CI_bind _ _ (CI_codeMethodsR hooks types env rest baseLabel); intro c3
    exact CI_pure _
end

theorem CI_translateR (hooks : Bool) (types : List TypeDecl) :
    ∀ (defs : List Def), CI (fun ren => translateR B hooks ren types defs)
  | [] => by simp only [translateR]; exact CI_pure _
  | d :: ds => by
    simp only [translateR]
    apply CI_bind _ _ (CI_codeStatementR B H hooks types d.body d.ctx); intro is
    apply CI_bind _ _ (CI_translateR hooks types ds); intro rest
    exact CI_pure _

theorem CI_compileR (hooks : Bool) (p : Prog) : CI (fun ren => compileR B hooks ren p) := by
  unfold compileR
  cases p.defs with
  | nil => exact CI_throw _
  | cons d0 ds =>
    dsimp only
    apply CI_bind _ _ (CI_translateR B H hooks p.types _); intro blocks
    exact CI_pure _

end

theorem SI_mock_variableTemporary (n : TempNum) (ctx : Ctx) (id : Nat) :
    SI (Mock.variableTemporary n ctx id) := by
  unfold Mock.variableTemporary
  cases Mock.ctxPosition ctx id with
  | none => exact CI_throw _
  | some pos => exact CI_pure _

theorem shiftInvOps_mockSym : ShiftInvOps mockSym where
  variableTemporary := SI_mock_variableTemporary
  printI64 := fun _ _ _ => CI_pure _
  eraseBlock := fun _ => CI_pure _
  shareBlockN := fun _ _ => CI_pure _
  store := fun _ _ => CI_pure _
  load := fun _ _ => CI_pure _

end Scc.Backend
