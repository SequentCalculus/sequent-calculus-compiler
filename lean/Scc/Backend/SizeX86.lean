/-
  Scc.Backend.SizeX86 — the x86-64 backend (Scc/X86/Backend.lean, /repo/lang/axcut2x86_64) satisfies
  the hypotheses of the generic size bound of Scc.Backend.SizeGen with the constant c = 96:

    * `x86_law`:  temporaries are a lawful strict total order (registers before spills),
                  `variable_temporary` = `temporary_from_position (2·position + number)` is injective;
    * `x86_cost`: every instruction method emits at most 96 instructions (the longest: `div` 9,
                  `print_i64` ≤ 25 with the caller-save dance, `erase_block` ≤ 15), `store` of k
                  fields at most 96·(k+1) (per block of ≤ 3 fields: ≤ 17 for the values, 74 for
                  `acquire_block` including `erase_fields`), `load` at most 96·(k+1).
  Hence (`x86_compile_length`, `intoRoutine_length`): the body has at most 485·(1 + M)·nodes
  instructions, the routine at most that + 44 items.
-/
import Scc.Backend.SizeGen
import Scc.X86.Backend

set_option linter.unusedSimpArgs false

namespace Scc.Backend.SizeX86

open Scc.AxCut Scc.AxCut.SizeLin Scc.Backend.SizeConns Scc.Backend.SizeGen
open Scc.X86

/-! ## code.rs -/

theorem moveFromRegister_length (t : Temporary) (r : Reg) : (moveFromRegister t r).length = 1 := by
  cases t <;> rfl
theorem moveToRegister_length (r : Reg) (t : Temporary) : (moveToRegister r t).length = 1 := by
  cases t <;> rfl
theorem addToRegister_length (r : Reg) (t : Temporary) : (addToRegister r t).length = 1 := by
  cases t <;> rfl
theorem addToSpill_length (p : Nat) (t : Temporary) : (addToSpill p t).length ≤ 2 := by
  cases t <;> simp [addToSpill]
theorem mulToRegister_length (r : Reg) (t : Temporary) : (mulToRegister r t).length = 1 := by
  cases t <;> rfl
theorem mulToSpill_length (p : Nat) (t : Temporary) : (mulToSpill p t).length ≤ 2 := by
  cases t <;> simp [mulToSpill]
theorem subToRegister_length (r : Reg) (t : Temporary) : (subToRegister r t).length = 1 := by
  cases t <;> rfl
theorem subToSpill_length (p : Nat) (t : Temporary) : (subToSpill p t).length ≤ 2 := by
  cases t <;> simp [subToSpill]

theorem opCommutative_length (f : Reg → Temporary → List Code) (g : Nat → Temporary → List Code)
    (hf : ∀ r t, (f r t).length = 1) (hg : ∀ p t, (g p t).length ≤ 2) (t s1 s2 : Temporary) :
    (opCommutative f g t s1 s2).length ≤ 3 := by
  unfold opCommutative
  cases t with
  | reg r =>
    dsimp only
    split
    · rw [hf]; omega
    · split
      · rw [hf]; omega
      · simp only [List.length_append, moveToRegister_length, hf]; omega
  | spill p =>
    dsimp only
    split
    · have := hg p s2; omega
    · split
      · have := hg p s1; omega
      · simp only [List.length_append, moveToRegister_length, hf, List.length_cons, List.length_nil]; omega

theorem sub_length (t s1 s2 : Temporary) : (X86.sub t s1 s2).length ≤ 3 := by
  unfold X86.sub
  cases t with
  | reg r =>
    dsimp only
    split
    · rw [subToRegister_length]; omega
    · split <;> simp only [List.length_append, moveToRegister_length, subToRegister_length,
        List.length_cons, List.length_nil] <;> omega
  | spill p =>
    dsimp only
    split
    · have := subToSpill_length p s2; omega
    · simp only [List.length_append, moveToRegister_length, subToRegister_length,
        List.length_cons, List.length_nil]; omega

theorem divBy_length (t : Temporary) : (divBy t).length = 2 := by
  cases t with
  | reg r => simp only [divBy]; split <;> rfl
  | spill p => rfl

theorem binop_length (o : BinOp) (t s1 s2 : Temporary) : (X86.binop o t s1 s2).length ≤ 9 := by
  cases o with
  | sum =>
    have := opCommutative_length addToRegister addToSpill addToRegister_length addToSpill_length t s1 s2
    simp only [X86.binop, X86.add]; omega
  | sub => have := sub_length t s1 s2; simp only [X86.binop]; omega
  | prod =>
    have := opCommutative_length mulToRegister mulToSpill mulToRegister_length mulToSpill_length t s1 s2
    simp only [X86.binop, X86.mul]; omega
  | div =>
    simp only [X86.binop, X86.div, List.length_append, moveFromRegister_length, moveToRegister_length,
      divBy_length, List.length_cons, List.length_nil]; omega
  | rem =>
    simp only [X86.binop, X86.rem, List.length_append, moveFromRegister_length, moveToRegister_length,
      divBy_length, List.length_cons, List.length_nil]; omega

theorem mov_length (t s : Temporary) : (X86.mov t s).length ≤ 2 := by
  cases s <;> cases t <;> simp [X86.mov, moveFromRegister, moveToRegister]

theorem compare_length (a b : Temporary) : (X86.compare a b).length ≤ 2 := by
  cases a <;> cases b <;> simp [X86.compare]

theorem compareImmediate_length (a : Temporary) (n : Int) : (compareImmediate a n).length = 1 := by
  cases a <;> rfl

theorem jump_length (t : Temporary) : (X86.jump t).length ≤ 2 := by cases t <;> simp [X86.jump]
theorem loadImmediate_length (t : Temporary) (n : Int) : (X86.loadImmediate t n).length ≤ 2 := by
  cases t with
  | reg r => simp [X86.loadImmediate]
  | spill p => simp only [X86.loadImmediate]; split <;> simp
theorem loadLabel_length (t : Temporary) (l : String) : (X86.loadLabel t l).length ≤ 2 := by
  cases t <;> simp [X86.loadLabel]
theorem addAndJump_length (t : Temporary) (n : Int) : (X86.addAndJump t n).length ≤ 3 := by
  cases t <;> simp [X86.addAndJump]
theorem storeTemporary_length (t : Temporary) (b : Bool) : (X86.storeTemporary t b).length ≤ 2 := by
  cases t <;> cases b <;> simp [X86.storeTemporary]
theorem restoreTemporary_length (t : Temporary) (b : Bool) : (X86.restoreTemporary t b).length ≤ 2 := by
  cases t <;> cases b <;> simp [X86.restoreTemporary]

/-! ## print_i64: the caller-save dance -/

theorem flatten_length_le {α : Type} (k : Nat) : ∀ (ls : List (List α)), (∀ l ∈ ls, l.length ≤ k) →
    ls.flatten.length ≤ k * ls.length
  | [], _ => by simp
  | l :: ls, h => by
    have h1 := h l (by simp)
    have h2 := flatten_length_le k ls (fun x hx => h x (by simp [hx]))
    simp only [List.flatten_cons, List.length_append, List.length_cons, Nat.mul_add, Nat.mul_one]; omega

theorem registersToSave_length (Γ : Ctx) : (callerSaveRegistersInfo Γ).2.length ≤ 8 := by
  unfold callerSaveRegistersInfo
  dsimp only
  refine Nat.le_trans (flatten_length_le 2 _ ?_) ?_
  · intro l hl
    obtain ⟨bo, _, rfl⟩ := List.mem_map.1 hl
    split <;> simp
  · simp only [List.length_map, List.length_zipIdx, List.length_take]
    have : (CALLER_SAVE_LAST + 1 - CALLER_SAVE_FIRST) / 2 = 4 := rfl
    rw [this]; omega

theorem save_length (f : Nat) (rs : List Nat) : (saveCallerSaveRegisters f rs).length ≤ rs.length + 1 := by
  unfold saveCallerSaveRegisters
  simp only [List.length_append, List.length_map, List.length_zipIdx, List.length_take, List.length_drop]
  split <;> simp <;> omega

theorem restore_length (f : Nat) (rs : List Nat) :
    (restoreCallerSaveRegisters f rs).length ≤ rs.length + 1 := by
  unfold restoreCallerSaveRegisters
  simp only [List.length_append, List.length_map, List.length_zipIdx, List.length_take, List.length_drop,
    List.length_reverse]
  split <;> simp <;> omega

theorem printI64_length (nl : Bool) (t : Temporary) (Γ : Ctx) : (X86.printI64 nl t Γ).length ≤ 25 := by
  unfold X86.printI64
  have h1 := registersToSave_length Γ
  have h2 := save_length (callerSaveRegistersInfo Γ).1 (callerSaveRegistersInfo Γ).2
  have h3 := restore_length (callerSaveRegistersInfo Γ).1 (callerSaveRegistersInfo Γ).2
  cases t with
  | reg r => simp only [List.length_append, List.length_cons, List.length_nil]; omega
  | spill p =>
    simp only [List.length_append, List.length_cons, List.length_nil, moveToRegister_length]; omega

/-! ## memory.rs -/

theorem skipIfZero_length (cond : Temporary) (toSkip : List Code) :
    GPost (skipIfZero cond toSkip) (fun code => code.length = toSkip.length + 3) := by
  unfold skipIfZero
  refine GPost.bind (GPost.true _) fun l _ => GPost.pure ?_
  simp only [List.length_append, compareImmediate_length, List.length_cons, List.length_nil]; omega

theorem ifZeroThenElse_length (cond : Reg) (off : Option Int) (th el : List Code) :
    GPost (ifZeroThenElse cond off th el) (fun code => code.length = th.length + el.length + 5) := by
  unfold ifZeroThenElse
  refine GPost.bind (GPost.true _) fun l1 _ => GPost.bind (GPost.true _) fun l2 _ => GPost.pure ?_
  simp only [List.length_append, List.length_cons, List.length_nil]; omega

theorem eraseValidObject_length (r : Reg) : GPost (eraseValidObject r) (fun code => code.length = 10) := by
  unfold eraseValidObject
  exact GPost.mono (ifZeroThenElse_length _ _ _ _) (fun code h => by simpa using h)

theorem eraseBlock_length (t : Temporary) : GPost (X86.eraseBlock t) (fun code => code.length ≤ 15) := by
  unfold X86.eraseBlock
  cases t with
  | reg r =>
    dsimp only
    refine GPost.bind (eraseValidObject_length r) fun c hc => ?_
    refine GPost.mono (skipIfZero_length _ _) fun code h => ?_
    simp only [List.length_append, List.length_cons, List.length_nil, hc] at h; omega
  | spill p =>
    dsimp only
    refine GPost.bind (eraseValidObject_length TEMP) fun c hc => ?_
    refine GPost.bind (skipIfZero_length _ _) fun r hr => GPost.pure ?_
    simp only [List.length_append, List.length_cons, List.length_nil, hc] at hr ⊢; omega

theorem eraseBlock_reg_length (r : Reg) : GPost (X86.eraseBlock (.reg r)) (fun code => code.length = 14) := by
  unfold X86.eraseBlock
  dsimp only
  refine GPost.bind (eraseValidObject_length r) fun c hc => ?_
  refine GPost.mono (skipIfZero_length _ _) fun code h => ?_
  simp only [List.length_append, List.length_cons, List.length_nil, hc] at h; omega

theorem shareBlockN_length (t : Temporary) (n : Nat) :
    GPost (X86.shareBlockN t n) (fun code => code.length ≤ 6) := by
  unfold X86.shareBlockN
  cases t with
  | reg r =>
    dsimp only
    refine GPost.mono (skipIfZero_length _ _) fun code h => ?_
    simp only [List.length_append, List.length_cons, List.length_nil] at h; omega
  | spill p =>
    dsimp only
    refine GPost.mono (skipIfZero_length _ _) fun code h => ?_
    simp only [List.length_append, List.length_cons, List.length_nil] at h; omega

theorem eraseFields_length (r : Reg) : ∀ (n off : Nat),
    GPost (eraseFields r n off) (fun code => code.length = 16 * n)
  | 0, _ => by simp only [eraseFields]; exact GPost.pure rfl
  | n + 1, off => by
    simp only [eraseFields]
    refine GPost.bind (eraseBlock_reg_length TEMP) fun c hc => ?_
    refine GPost.bind (eraseFields_length r n (off + 1)) fun rest hr => GPost.pure ?_
    simp only [List.length_append, List.length_cons, List.length_nil, hc, hr]; omega

theorem acquireBlock_length (t : Temporary) : GPost (acquireBlock t) (fun code => code.length ≤ 74) := by
  unfold acquireBlock
  have hF : FIELDS_PER_BLOCK = 3 := rfl
  refine GPost.bind (eraseFields_length HEAP FIELDS_PER_BLOCK 0) fun erased he => ?_
  refine GPost.bind (ifZeroThenElse_length _ _ _ _) fun inner hi => ?_
  refine GPost.bind (ifZeroThenElse_length _ _ _ _) fun outer ho => GPost.pure ?_
  rw [hF] at he
  cases t with
  | reg r =>
    simp only [List.length_append, List.length_cons, List.length_nil, he] at hi ho ⊢; omega
  | spill p =>
    simp only [List.length_append, List.length_cons, List.length_nil, he] at hi ho ⊢; omega

theorem storeZeros_length (ff : Nat) (r : Reg) : (storeZeros ff r).length = ff := by
  unfold storeZeros
  have : ∀ (l : List Nat), ((l.map fun offset => storeZero r offset).flatten).length = l.length := by
    intro l; induction l with
    | nil => rfl
    | cons a l ih =>
      rw [List.map_cons, List.flatten_cons, List.length_append, ih]
      simp [storeZero]; omega
  rw [this, List.length_range]

theorem storeField_length (num : TempNum) (Γ : Ctx) (r : Reg) (off : Nat) :
    GPost (storeField num Γ r off) (fun code => code.length ≤ 2) := by
  unfold storeField
  refine GPost.bind (GPost.true _) fun t _ => ?_
  cases t <;> exact GPost.pure (by simp)

theorem loadField_length (num : TempNum) (Γ : Ctx) (r : Reg) (off : Nat) :
    GPost (loadField num Γ r off) (fun code => code.length ≤ 2) := by
  unfold loadField
  refine GPost.bind (GPost.true _) fun t _ => ?_
  cases t <;> exact GPost.pure (by simp)

theorem storeValue_length (b : Binding) (Γ : Ctx) (r : Reg) (off : Nat) :
    GPost (storeValue b Γ r off) (fun code => code.length ≤ 4) := by
  unfold storeValue
  refine GPost.bind (storeField_length _ _ _ _) fun c1 h1 => ?_
  split
  · exact GPost.pure (by simp [storeZero]; omega)
  · exact GPost.bind (storeField_length _ _ _ _) fun c2 h2 => GPost.pure (by simp; omega)

theorem loadValue_length (b : Binding) (Γ : Ctx) (r : Reg) (off : Nat) (mode : LoadMode) :
    GPost (loadValue b Γ r off mode) (fun code => code.length ≤ 10) := by
  unfold loadValue
  refine GPost.bind (loadField_length _ _ _ _) fun c1 h1 => ?_
  split
  · refine GPost.bind (loadField_length _ _ _ _) fun c2 h2 => ?_
    refine GPost.bind (GPost.true _) fun t _ => ?_
    dsimp only
    split
    · refine GPost.bind (Q1 := fun (code : List Code) => code.length ≤ 6)
        (by unfold shareBlock; exact shareBlockN_length _ 1) fun c3 h3 => GPost.pure ?_
      simp only [List.length_append]; omega
    · exact GPost.pure (by simp only [List.length_append]; omega)
  · exact GPost.pure (by omega)

theorem gpost_pred1 (n : Nat) : GPost (pred1 n) (fun k => k + 1 = n) := by
  unfold pred1
  cases n with
  | zero => exact GPost.throw
  | succ k => exact GPost.pure rfl

theorem storeValuesLoop_length (Γ : Ctx) (r : Reg) : ∀ (l : List Binding) (ff : Nat),
    GPost (storeValuesLoop Γ r l ff) (fun res => res.1.length ≤ 4 * l.length ∧ res.2 ≤ ff)
  | [], ff => by simp only [storeValuesLoop]; exact GPost.pure (by simp)
  | b :: rest, ff => by
    simp only [storeValuesLoop]
    refine GPost.bind (gpost_pred1 ff) fun off hoff => ?_
    refine GPost.bind (storeValue_length _ _ _ _) fun c hc => ?_
    refine GPost.bind (storeValuesLoop_length Γ r rest off) fun res hres => ?_
    obtain ⟨cs, ff'⟩ := res
    refine GPost.pure ?_
    simp only [List.length_append, List.length_cons] at hres ⊢; omega

theorem storeValues_length (toStore Γ : Ctx) (r : Reg) (ff : Nat) :
    GPost (storeValues toStore Γ r ff) (fun code => code.length ≤ 2 + 4 * toStore.length + ff) := by
  unfold storeValues
  refine GPost.bind (storeValuesLoop_length Γ r toStore.reverse ff) fun res hres => ?_
  obtain ⟨cs, ff'⟩ := res
  refine GPost.pure ?_
  simp only [List.length_reverse] at hres
  simp only [List.length_append, List.length_cons, List.length_nil, storeZeros_length]
  split <;> simp <;> omega

theorem loadValuesLoop_length (Γ : Ctx) (r : Reg) (mode : LoadMode) : ∀ (l : List Binding) (ff : Nat),
    GPost (loadValuesLoop Γ r mode l ff) (fun code => code.length ≤ 10 * l.length)
  | [], ff => by simp only [loadValuesLoop]; exact GPost.pure (by simp)
  | b :: rest, ff => by
    simp only [loadValuesLoop]
    refine GPost.bind (GPost.true _) fun off _ => ?_
    refine GPost.bind (loadValue_length _ _ _ _ _) fun c hc => ?_
    refine GPost.bind (loadValuesLoop_length Γ r mode rest off) fun cs hcs => GPost.pure ?_
    simp only [List.length_append, List.length_cons]; omega

theorem loadValues_length (toLoad Γ : Ctx) (r : Reg) (ff : Nat) (mode : LoadMode) :
    GPost (loadValues toLoad Γ r ff mode) (fun code => code.length ≤ 1 + 10 * toLoad.length) := by
  unfold loadValues
  refine GPost.bind (loadValuesLoop_length Γ r mode toLoad.reverse ff) fun cs hcs => GPost.pure ?_
  simp only [List.length_reverse] at hcs
  simp only [List.length_append, List.length_cons, List.length_nil]; omega

/-- the part of the fields stored into / loaded from one block: at most 3, and the rest is shorter -/
theorem restLength_spec (len : Nat) (pos : BlockPosition) (hlen : 0 < len) :
    len - restLength len pos ≤ 3 ∧ restLength len pos < len := by
  have hF : FIELDS_PER_BLOCK = 3 := rfl
  unfold restLength
  rw [hF]
  cases pos
  · by_cases h : len ≤ 3 - 0 <;> simp only [BlockPosition.toNat, h, if_true, if_false] <;> omega
  · by_cases h : len ≤ 3 - 1 <;> simp only [BlockPosition.toNat, h, if_true, if_false] <;> omega

theorem storeFields_length : ∀ (fuel : Nat) (toStore Γ : Ctx) (pos : BlockPosition),
    GPost (storeFields fuel toStore Γ pos) (fun code => code.length ≤ 96 * toStore.length + 3)
  | 0, _, _, _ => by simp only [storeFields]; exact GPost.throw
  | fuel + 1, toStore, Γ, pos => by
    simp only [storeFields]
    split
    · split
      · refine GPost.bind (GPost.true _) fun t _ => GPost.pure ?_
        have := loadImmediate_length t 0
        simp only [List.length_append, List.length_cons, List.length_nil]; omega
      · exact GPost.pure (by simp)
    · next hne =>
      have hlen : 0 < toStore.length := by
        cases toStore with
        | nil => simp at hne
        | cons _ _ => simp
      obtain ⟨r1, r2⟩ := restLength_spec toStore.length pos hlen
      have hF : FIELDS_PER_BLOCK = 3 := rfl
      have hc2 : (if pos = BlockPosition.last then [Code.COMMENT "#allocate memory"] else []).length ≤ 1 := by
        split <;> simp
      split
      · refine GPost.bind (storeField_length _ _ _ _) fun c hc => ?_
        simp only [pure_bind]
        refine GPost.bind (storeValues_length _ _ _ _) fun c3 h3 => ?_
        refine GPost.bind (GPost.true _) fun t _ => ?_
        refine GPost.bind (acquireBlock_length t) fun c4 h4 => ?_
        refine GPost.bind (storeFields_length fuel _ Γ .other) fun c5 h5 => GPost.pure ?_
        simp only [List.length_drop, List.length_take, hF] at h3 h5
        simp only [List.length_append, List.length_cons, List.length_nil]
        omega
      · simp only [pure_bind]
        refine GPost.bind (storeValues_length _ _ _ _) fun c3 h3 => ?_
        refine GPost.bind (GPost.true _) fun t _ => ?_
        refine GPost.bind (acquireBlock_length t) fun c4 h4 => ?_
        refine GPost.bind (storeFields_length fuel _ Γ .other) fun c5 h5 => GPost.pure ?_
        simp only [List.length_drop, List.length_take, hF] at h3 h5
        simp only [List.length_append, List.length_cons, List.length_nil]
        omega

theorem store_length (a b : Ctx) : GPost (X86.store a b) (fun code => code.length ≤ 96 * (a.length + 1)) := by
  unfold X86.store
  exact GPost.mono (storeFields_length _ a b .last) (fun code h => by omega)

theorem loadFieldsBlock_length (r : Reg) (next Γ1 Γ2 : Ctx) (pos : BlockPosition) (mode : LoadMode) :
    GPost (loadFieldsBlock r next Γ1 Γ2 pos mode) (fun code => code.length ≤ 7 + 10 * next.length) := by
  unfold loadFieldsBlock
  have hrel : (if mode = LoadMode.release then [Code.COMMENT "###release block"] ++ releaseBlock r
      else []).length ≤ 3 := by
    split <;> simp [releaseBlock]
  dsimp only
  split
  · refine GPost.bind (loadField_length _ _ _ _) fun c hc => ?_
    simp only [pure_bind]
    refine GPost.bind (loadValues_length _ _ _ _ _) fun c3 h3 => GPost.pure ?_
    simp only [List.length_append, List.length_cons, List.length_nil] at hrel ⊢; omega
  · simp only [pure_bind]
    refine GPost.bind (loadValues_length _ _ _ _ _) fun c3 h3 => GPost.pure ?_
    simp only [List.length_append, List.length_cons, List.length_nil] at hrel ⊢; omega

theorem loadFields_length : ∀ (fuel : Nat) (toLoad Γ : Ctx) (pos : BlockPosition) (mode : LoadMode)
    (freed : Bool), GPost (loadFields fuel toLoad Γ pos mode freed)
      (fun res => res.1.length ≤ 42 * toLoad.length)
  | 0, _, _, _, _, _ => by simp only [loadFields]; exact GPost.throw
  | fuel + 1, toLoad, Γ, pos, mode, freed => by
    simp only [loadFields]
    split
    · exact GPost.pure (by simp)
    · next hne =>
      have hlen : 0 < toLoad.length := by
        cases toLoad with
        | nil => simp at hne
        | cons _ _ => simp
      obtain ⟨r1, r2⟩ := restLength_spec toLoad.length pos hlen
      refine GPost.bind (loadFields_length fuel _ Γ .other mode freed) fun res hres => ?_
      obtain ⟨c0, freed'⟩ := res
      dsimp only at hres ⊢
      refine GPost.bind (GPost.true _) fun mb _ => ?_
      simp only [List.length_take] at hres
      cases mb with
      | reg r =>
        dsimp only
        refine GPost.bind (loadFieldsBlock_length _ _ _ _ _ _) fun c hc => GPost.pure ?_
        simp only [List.length_drop] at hc
        simp only [List.length_append]; omega
      | spill p =>
        dsimp only
        refine GPost.bind (loadFieldsBlock_length _ _ _ _ _ _) fun c hc => GPost.pure ?_
        simp only [List.length_drop] at hc
        have h1 : (if (!freed') = true then
            [Code.COMMENT "###evacuate additional scratch register for memory block",
             Code.MOVS TEMPORARY_TEMP STACK (stackOffset SPILL_TEMP)] else []).length ≤ 2 := by
          split <;> simp
        have h3 : (if pos = BlockPosition.last then
            [Code.COMMENT "###restore evacuated register",
             Code.MOVL TEMPORARY_TEMP STACK (stackOffset SPILL_TEMP)] else []).length ≤ 2 := by
          split <;> simp
        simp only [List.length_append, List.length_cons, List.length_nil]; omega

theorem loadRegister_length (r : Reg) (toLoad Γ : Ctx) :
    GPost (loadRegister r toLoad Γ) (fun code => code.length ≤ 9 + 84 * toLoad.length) := by
  unfold loadRegister
  refine GPost.bind (loadFields_length _ toLoad Γ .last .release false) fun r1 h1 => ?_
  obtain ⟨cThen, _⟩ := r1
  refine GPost.bind (loadFields_length _ toLoad Γ .last .share false) fun r2 h2 => ?_
  obtain ⟨cElse, _⟩ := r2
  refine GPost.bind (ifZeroThenElse_length _ _ _ _) fun c hc => GPost.pure ?_
  simp only [List.length_append, List.length_cons, List.length_nil] at hc h1 h2 ⊢; omega

theorem load_length (a b : Ctx) : GPost (X86.load a b) (fun code => code.length ≤ 96 * (a.length + 1)) := by
  unfold X86.load
  split
  · exact GPost.pure (by simp)
  · refine GPost.bind (GPost.true _) fun mb _ => ?_
    cases mb with
    | reg r =>
      dsimp only
      refine GPost.bind (loadRegister_length _ _ _) fun c hc => GPost.pure ?_
      simp only [List.length_append, List.length_cons, List.length_nil]; omega
    | spill p =>
      dsimp only
      refine GPost.bind (loadRegister_length _ _ _) fun c hc => GPost.pure ?_
      simp only [List.length_append, List.length_cons, List.length_nil]; omega

/-! ## utils.rs: `variable_temporary` -/

theorem ctxPosition_spec (id : Nat) : ∀ (ctx : Ctx) (i pos : Nat), X86.ctxPosition ctx id i = some pos →
    i ≤ pos ∧ ∃ b, ctx[pos - i]? = some b ∧ b.var.id = id
  | [], _, _, h => by simp [X86.ctxPosition] at h
  | b :: bs, i, pos, h => by
    simp only [X86.ctxPosition] at h
    split at h
    · next hb =>
      cases h
      exact ⟨Nat.le_refl _, b, by simp, by simpa using hb⟩
    · obtain ⟨h1, b', h2, h3⟩ := ctxPosition_spec id bs (i + 1) pos h
      refine ⟨by omega, b', ?_, h3⟩
      have : pos - i = (pos - (i + 1)) + 1 := by omega
      rw [this]; simpa using h2

theorem tfp_cases' {n : Nat} {t : Temporary} (h : temporaryFromPosition n = .ok t) :
    (n + 4 < 16 ∧ t = .reg (n + 4)) ∨ (16 ≤ n + 4 ∧ t = .spill (n + 4 - 16 + 1)) := by
  have hR : RESERVED = 4 := rfl
  have hN : REGISTER_NUM = 16 := rfl
  have hS : RESERVED_SPILLS = 1 := rfl
  unfold temporaryFromPosition at h
  simp only [hR, hN, hS] at h
  split at h
  · next hlt => left; exact ⟨hlt, (Except.ok.inj h).symm⟩
  · next hge =>
    split at h
    · right; exact ⟨by omega, (Except.ok.inj h).symm⟩
    · cases h

theorem tfp_inj {n m : Nat} {t : Temporary} (h1 : temporaryFromPosition n = .ok t)
    (h2 : temporaryFromPosition m = .ok t) : n = m := by
  rcases tfp_cases' h1 with ⟨a1, rfl⟩ | ⟨a1, rfl⟩ <;> rcases tfp_cases' h2 with ⟨a2, e⟩ | ⟨a2, e⟩
  · have := Temporary.reg.inj e; omega
  · cases e
  · cases e
  · have := Temporary.spill.inj e; omega

theorem x86_vt {num : TempNum} {ctx : Ctx} {id : Nat} {t : Temporary} (h : VT x86Backend num ctx id t) :
    ∃ pos b, X86.ctxPosition ctx id 0 = some pos ∧ temporaryFromPosition (2 * pos + num.toNat) = .ok t ∧
      ctx[pos]? = some b ∧ b.var.id = id := by
  obtain ⟨c, c', hr⟩ := h
  change (X86.variableTemporary num ctx id).run c = .ok (t, c') at hr
  unfold X86.variableTemporary at hr
  cases hp : X86.ctxPosition ctx id 0 with
  | none => rw [hp] at hr; exact ((run_throw_ok _ c t c').1 hr).elim
  | some pos =>
    rw [hp] at hr
    dsimp only at hr
    obtain ⟨_, b, hb, hid⟩ := ctxPosition_spec id ctx 0 pos hp
    refine ⟨pos, b, rfl, ?_, by simpa using hb, hid⟩
    cases ht : temporaryFromPosition (2 * pos + num.toNat) with
    | error e => rw [ht] at hr; exact ((run_throw_ok _ c t c').1 hr).elim
    | ok t' =>
      rw [ht] at hr
      obtain ⟨rfl, _⟩ := (run_pure_ok t' c t c').1 hr
      rfl

theorem temp_beq' (x y : Temporary) : (x == y) = true ↔ x = y := by
  cases x <;> cases y <;> simp [BEq.beq, instBEqTemporary.beq]

theorem x86_law : BackendLaw x86Backend where
  eq := by intro a b; exact temp_beq' a b
  irrefl := by intro a; cases a <;> simp [x86Backend, tempLt]
  trans := by
    intro a b c h1 h2
    cases a <;> cases b <;> cases c <;> simp [x86Backend, tempLt] at h1 h2 ⊢ <;> omega
  total := by
    intro a b h1 h2
    cases a <;> cases b <;> simp [x86Backend, tempLt] at h1 h2 ⊢ <;> omega
  vtDet := by
    intro num ctx id t t' h h'
    obtain ⟨p, _, hp, ht, _, _⟩ := x86_vt h
    obtain ⟨p', _, hp', ht', _, _⟩ := x86_vt h'
    rw [hp] at hp'; cases hp'
    rw [ht] at ht'; cases ht'; rfl
  vtInj := by
    intro num num' ctx id id' t h h'
    obtain ⟨p, b, _, ht, hb, hid⟩ := x86_vt h
    obtain ⟨p', b', _, ht', hb', hid'⟩ := x86_vt h'
    have e := tfp_inj ht ht'
    have hn : num = num' ∧ p = p' := by
      cases num <;> cases num' <;> simp only [TempNum.toNat] at e <;>
        first | exact ⟨rfl, by omega⟩ | (exfalso; omega)
    obtain ⟨rfl, rfl⟩ := hn
    rw [hb] at hb'; cases hb'
    exact ⟨rfl, hid.symm.trans hid'⟩

theorem x86_cost : GenCost x86Backend 96 where
  move := ⟨fun a b => Nat.le_trans (mov_length a b) (by omega),
    fun t s => Nat.le_trans (storeTemporary_length t s) (by omega),
    fun t s => Nat.le_trans (restoreTemporary_length t s) (by omega)⟩
  jump := fun t => Nat.le_trans (jump_length t) (by omega)
  jumpLabel := fun _ => by show [Code.JMPL _].length ≤ 96; simp
  jumpLabelFixed := fun _ => by show [Code.JMPLN _].length ≤ 96; simp
  jumpLabelIf := fun s a b l => by
    show (X86.jumpLabelIf s a b l).length ≤ 96
    have := compare_length a b
    simp only [X86.jumpLabelIf, List.length_append, List.length_cons, List.length_nil]; omega
  jumpLabelIfZero := fun s a l => by
    show (X86.jumpLabelIfZero s a l).length ≤ 96
    simp only [X86.jumpLabelIfZero, List.length_append, compareImmediate_length, List.length_cons,
      List.length_nil]; omega
  loadImmediate := fun t n => Nat.le_trans (loadImmediate_length t n) (by omega)
  loadLabel := fun t l => Nat.le_trans (loadLabel_length t l) (by omega)
  addAndJump := fun t n => Nat.le_trans (addAndJump_length t n) (by omega)
  binop := fun o t a b => Nat.le_trans (binop_length o t a b) (by omega)
  printI64 := fun nl t ctx => GPost.pure (Nat.le_trans (printI64_length nl t ctx) (by omega))
  eraseBlock := fun t => GPost.mono (eraseBlock_length t) (fun _ h => by omega)
  shareBlockN := fun t n => GPost.mono (shareBlockN_length t n) (fun _ h => by omega)
  store := store_length
  load := load_length

/-- C19 for the x86-64 code generator: at most `485·(1 + M)` instructions per node -/
theorem x86_compile_length (hooks : Bool) (p : Prog) (M : Nat) (hM : defsCap p.defs ≤ M)
    (hok : substOkProg p = true) (c : Nat) (body : List Code) (nargs : Nat)
    (h : compileX86 p hooks c = .ok (body, nargs)) : body.length ≤ 485 * (1 + M) * defsNodes p.defs := by
  unfold compileX86 at h
  split at h
  · cases h
  · next r c' hr =>
    cases h
    have := compile_length x86_law x86_cost hooks natRen p M hM hok c _ c' hr
    simpa [KW] using this

theorem moveArguments_length : ∀ (n : Nat) (l : List Code), moveArguments n = .ok l → l.length ≤ 10
  | 0, l, h => by simp [moveArguments] at h; subst h; simp
  | 1, l, h => by
    simp only [moveArguments] at h
    split at h
    · cases h; simp
    · cases h
  | n + 2, l, h => by
    simp only [moveArguments] at h
    split at h
    · cases h
    · next hn =>
      split at h
      · next target src rest _ _ hrest =>
        cases h
        have hlen : ∀ (k : Nat) (r : List Code), 1 ≤ k → k ≤ 4 → moveArguments k = .ok r → r.length ≤ 2 * k := by
          intro k
          induction k with
          | zero => intro r h0 _ hr; omega
          | succ k ih =>
            intro r _ hk hr
            cases k with
            | zero =>
              simp only [moveArguments] at hr
              split at hr
              · cases hr; simp
              · cases hr
            | succ k =>
              simp only [moveArguments] at hr
              split at hr
              · cases hr
              · split at hr
                · next _ _ rest' _ _ hrest' =>
                  cases hr
                  have := ih rest' (by omega) (by omega) hrest'
                  simp only [List.length_append, List.length_cons, List.length_nil]; omega
                · cases hr
        have := hlen (n + 1) rest (by omega) (by omega) hrest
        simp only [List.length_append, List.length_cons, List.length_nil]; omega
      · cases h

/-- the routine wrapper (preamble, setup, cleanup) adds at most 44 lines -/
theorem intoRoutine_length (body : List Code) (nargs : Nat) (routine : List Code)
    (h : intoRoutine body nargs = .ok routine) : routine.length ≤ body.length + 44 := by
  unfold intoRoutine at h
  split at h
  · cases h
  · next su hsu =>
    cases h
    unfold setup at hsu
    split at hsu
    · cases hsu
    · next moves hm =>
      cases hsu
      have := moveArguments_length nargs moves hm
      have hp : consts.calleeSavePushed.length = 6 := rfl
      simp only [List.length_append, List.length_cons, List.length_nil, preamble, cleanup,
        List.length_map, List.length_reverse, hp]
      omega

end Scc.Backend.SizeX86
