/-
  Scc.Backend.TotalMock — the MOCK backend (Scc/Backend/Mock.lean, `mockSym`) is a `TotalBackend` with NO
  permitted error and NO capacity bound: the generic code generator instantiated with it succeeds on
  every linearly typed program with at least one definition, from every value of the label counter.

    `mock_total`        `TotalBackend mockSym (fun _ => False) (fun _ => True)`
    `mock_compile_ok`   `LinTypedProg p → p.defs ≠ [] → ∃ r, (compile mockSym hooks p).run c = .ok r`

  Used by the end-to-end composition (Props/C01Final.lean): the hypothesis "the mock code generator
  succeeds" of Theorem A / `X86.C06_data_programs` is DERIVED from `LinTypedProg`, not evaluated.
-/
import Scc.Backend.TotalGen
import Scc.Backend.Mock

namespace Scc.Backend.Total

open Scc.AxCut

/-- `ctxPosition.go` returns the FIRST position of the variable, shifted by the start index -/
theorem mock_go_some {id : Nat} : ∀ {Γ : Ctx} {i q : Nat}, Mock.ctxPosition.go id Γ i = some q →
    ∃ p b, q = i + p ∧ p < Γ.length ∧ Γ[p]? = some b ∧ b.var.id = id
  | [], _, _, h => by simp [Mock.ctxPosition.go] at h
  | b :: bs, i, q, h => by
    unfold Mock.ctxPosition.go at h
    split at h
    · rename_i hb
      injection h with h
      exact ⟨0, b, by omega, by simp, rfl, by simpa using hb⟩
    · obtain ⟨p, b', hq, hp, hb', hid⟩ := mock_go_some h
      exact ⟨p + 1, b', by omega, by simp; omega, by simpa using hb', hid⟩

theorem mock_go_of_mem {id : Nat} : ∀ {Γ : Ctx} (i : Nat), (∃ b ∈ Γ, b.var.id = id) →
    ∃ q, Mock.ctxPosition.go id Γ i = some q
  | [], _, h => by obtain ⟨b, hb, _⟩ := h; cases hb
  | b :: bs, i, h => by
    unfold Mock.ctxPosition.go
    by_cases hb : (b.var.id == id) = true
    · rw [if_pos hb]; exact ⟨i, rfl⟩
    · rw [if_neg hb]
      obtain ⟨b', hb', hid⟩ := h
      rcases List.mem_cons.mp hb' with rfl | hb'
      · exact absurd (by simpa using hid) hb
      · exact mock_go_of_mem (i + 1) ⟨b', hb', hid⟩

theorem mock_vt_run {n : TempNum} {Γ : Ctx} {id : Nat} {c k : Nat} {t : Nat}
    (h : (Mock.variableTemporary n Γ id).run c = .ok (t, k)) :
    ∃ q, Mock.ctxPosition Γ id = some q ∧ t = 2 * q + n.toNat := by
  unfold Mock.variableTemporary at h
  cases hp : Mock.ctxPosition Γ id with
  | none =>
    rw [hp] at h
    have h2 : (Except.error _ : Except String (Nat × Nat)) = .ok (t, k) := h
    cases h2
  | some q =>
    rw [hp] at h
    have h' : (Except.ok (2 * q + n.toNat, c) : Except String (Nat × Nat)) = .ok (t, k) := h
    injection h' with h'
    injection h' with h1 h2
    exact ⟨q, rfl, h1.symm⟩

theorem mock_isVT {n : TempNum} {Γ : Ctx} {id : Nat} {t : Nat} (h : IsVT mockSym n Γ id t) :
    ∃ p b, Mock.ctxPosition Γ id = some p ∧ Γ[p]? = some b ∧ b.var.id = id ∧ t = 2 * p + n.toNat := by
  obtain ⟨c, k, h⟩ := h
  obtain ⟨q, hq, ht⟩ := mock_vt_run h
  obtain ⟨p, b, hqp, _, hb, hid⟩ := mock_go_some (show Mock.ctxPosition.go id Γ 0 = some q from hq)
  have : q = p := by omega
  subst this
  exact ⟨q, b, hq, hb, hid, ht⟩

theorem mock_tot_variableTemporary (n : TempNum) (Γ : Ctx) (id : Nat)
    (hmem : ∃ b ∈ Γ, b.var.id = id) : Tot (fun _ => False) (Mock.variableTemporary n Γ id) := by
  unfold Mock.variableTemporary
  obtain ⟨q, hq⟩ := mock_go_of_mem 0 hmem
  rw [show Mock.ctxPosition Γ id = some q from hq]
  exact Tot.pure _

/-- **the mock backend never fails** on the variables of its context; no capacity -/
theorem mock_total : TotalBackend mockSym (fun _ => False) (fun _ => True) where
  fits_mono := fun _ _ => trivial
  tempEq_iff := fun a b => by
    show (a == b) = true ↔ a = b
    exact beq_iff_eq
  vt_total := fun n Γ id hmem _ => mock_tot_variableTemporary n Γ id hmem
  vt_inj := by
    intro Γ n n' id id' t h h'
    obtain ⟨p, b, _, hb, hid, ht⟩ := mock_isVT h
    obtain ⟨p', b', _, hb', hid', ht'⟩ := mock_isVT h'
    have hp : p = p' := by
      cases n <;> cases n' <;> simp only [TempNum.toNat] at ht ht' <;> omega
    subst hp
    rw [hb] at hb'
    injection hb' with hb'
    subst hb'
    refine ⟨?_, hid.symm.trans hid'⟩
    cases n <;> cases n' <;> simp only [TempNum.toNat] at ht ht' <;> first | rfl | omega
  vt_det := by
    intro Γ n id t t' h h'
    obtain ⟨p, _, hp, _, _, ht⟩ := mock_isVT h
    obtain ⟨p', _, hp', _, _, ht'⟩ := mock_isVT h'
    rw [hp] at hp'
    injection hp' with hp'
    subst hp'
    rw [ht, ht']
  printI64 := fun _ _ _ _ => Tot.pure _
  eraseBlock := fun _ => Tot.pure _
  shareBlockN := fun _ _ => Tot.pure _
  store := fun _ _ _ => Tot.pure _
  load := fun _ _ _ => Tot.pure _

/-- **the mock code generator succeeds on every linearly typed program with a definition** -/
theorem mock_compile_ok (hooks : Bool) (p : Prog) (htp : LinTypedProg p) (hne : p.defs ≠ []) (c : Nat) :
    ∃ ops nargs c', (compile mockSym hooks p).run c = .ok ((ops, nargs), c') := by
  have h := compile_resOk mock_total hooks p htp hne trivial c
  cases hr : (compile mockSym hooks p).run c with
  | error e => rw [hr] at h; exact absurd h id
  | ok r => obtain ⟨⟨ops, nargs⟩, c'⟩ := r; exact ⟨ops, nargs, c', rfl⟩

end Scc.Backend.Total

#print axioms Scc.Backend.Total.mock_total
#print axioms Scc.Backend.Total.mock_compile_ok
