/-
  Scc.Backend.ProofsHeap — Theorem A for the allocating statements `let` and `create`, for any
  representation of values (`Kit`, ProofsSim.lean): `store` against the representation and the counting
  invariant `HeapOK`.  At the end: `Sim.Rel` is the instance `valKit`.
-/
import Scc.Backend.ProofsSim

set_option linter.unusedSimpArgs false

namespace Scc.Backend.Sim

open Scc.AxCut Scc.AxCut.Pos Scc.Backend.Abs

mutual
theorem RepVal.ext {P : Program} {hooks : Bool} {types : List TypeDecl} {h h' : Heap}
    (he : HeapExt h h') : ∀ {v : Value} {p : Option Word} {w : Word},
    RepVal P hooks types h v p w → RepVal P hooks types h' v p w
  | _, _, _, .int n p => .int n p
  | _, _, _, .obj tag fields r hb => .obj tag fields r (RepBlock.ext he hb)
  | _, _, _, .clo envCtx env clauses r a hb hm => .clo envCtx env clauses r a (RepBlock.ext he hb) hm
theorem RepBlock.ext {P : Program} {hooks : Bool} {types : List TypeDecl} {h h' : Heap}
    (he : HeapExt h h') : ∀ {vs : List Value} {r : Word},
    RepBlock P hooks types h vs r → RepBlock P hooks types h' vs r
  | _, _, .empty => .empty
  | _, _, .block v vs r o hr hg hf => .block v vs r o hr (he _ _ hg) (RepFields.ext he hf)
theorem RepFields.ext {P : Program} {hooks : Bool} {types : List TypeDecl} {h h' : Heap}
    (he : HeapExt h h') : ∀ {vs : List Value} {fs : List Field},
    RepFields P hooks types h vs fs → RepFields P hooks types h' vs fs
  | _, _, .nil => .nil
  | _, _, .cons v vs f fs hv hk hr => .cons v vs f fs (RepVal.ext he hv) hk (RepFields.ext he hr)
end

theorem heap_get_cons_ne {h : Heap} {id id' : Nat} {o : Obj} (hne : id' ≠ id) :
    Heap.get ((id, o) :: h) id' = h.get id' := by
  unfold Heap.get
  have : (id == id') = false := by simp [Ne.symm hne]
  simp [List.find?_cons, this]

theorem heap_get_cons_same {h : Heap} {id : Nat} {o : Obj} : Heap.get ((id, o) :: h) id = some o := by
  unfold Heap.get; simp

theorem heap_get_mem {h : Heap} {id : Nat} {o : Obj} (hg : h.get id = some o) : (id, o) ∈ h := by
  unfold Heap.get at hg
  cases hf : h.find? (fun e => e.1 == id) with
  | none => simp [hf] at hg
  | some e =>
    simp only [hf, Option.some.injEq] at hg
    have hm := List.mem_of_find?_eq_some hf
    have hp := List.find?_some hf
    simp only [beq_iff_eq] at hp
    obtain ⟨e1, e2⟩ := e
    simp only at hp hg
    subst hp hg
    exact hm

theorem heapExt_cons {h : Heap} {id : Nat} {o : Obj} (hfresh : ∀ e ∈ h, e.1 ≠ id) :
    HeapExt h ((id, o) :: h) := by
  intro id' o' hg
  have hm := heap_get_mem hg
  have hne : id' ≠ id := hfresh _ hm
  rw [heap_get_cons_ne hne]; exact hg

section
variable {P : Program} {hooks : Bool} {types : List TypeDecl} {R : Kit P hooks types} {h : Heap}
  {σ : Temps}

theorem Kit.Slice.tail {b : Binding} {Δ : Ctx} {v : Value} {vs : List Value} {k : Nat}
    (S : R.Slice h σ (b :: Δ) (v :: vs) k) : R.Slice h σ Δ vs (k + 1) := by
  intro i h1 h2
  have := S (i + 1) (by simp; omega) (by simp; omega)
  simp only [List.getElem_cons_succ] at this
  rw [show k + (i + 1) = k + 1 + i by omega] at this
  exact this

theorem readFields_ok :
    ∀ (Δ : Ctx) (ρΔ : List Value) (k : Nat), R.Slice h σ Δ ρΔ k → ρΔ.length = Δ.length →
    ∃ fields, readFields σ (Mock.kindsOf Δ) k = some fields ∧ R.Fields h ρΔ fields ∧
      ∀ c, Obj.children ⟨c, fields⟩ = roots.go σ Δ k
  | [], ρΔ, k, _, hl => by
    have : ρΔ = [] := List.length_eq_zero_iff.mp (by simpa using hl)
    subst this
    exact ⟨[], rfl, trivial, fun _ => rfl⟩
  | b :: Δ, ρΔ, k, S, hl => by
    cases ρΔ with
    | nil => simp at hl
    | cons v vs =>
      obtain ⟨fs, hfs, hrep, hch⟩ := readFields_ok Δ vs (k + 1) S.tail (by simpa using hl)
      obtain ⟨hv, hsome, hkind, hptr⟩ := S 0 (by simp) (by simp)
      simp only [List.getElem_cons_zero, Nat.add_zero] at hv hsome hkind hptr
      cases hw : σ.get (2 * k + 1) with
      | none => simp [hw] at hsome
      | some w =>
        simp only [hw, Option.getD_some] at hv
        by_cases hext : (b.chi == .ext) = true
        · refine ⟨⟨b.chi, 0, w⟩ :: fs, ?_, ?_, ?_⟩
          · have hfs' : readFields σ (List.map (fun x => x.chi) Δ) (k + 1) = some fs := hfs
            simp [Mock.kindsOf, readFields, hw, hext, hfs']
          · refine ⟨⟨?_, hkind⟩, hrep⟩
            simp only [hext, if_true] at hv ⊢; exact hv
          · intro c
            have hne : (b.chi != .ext) = false := by simp [bne, hext]
            simp only [Obj.children, List.filterMap_cons, roots.go, hne, Bool.false_and,
              Bool.false_eq_true, if_false, List.nil_append]
            exact hch c
        · have hne : (b.chi != .ext) = true := by simp [bne, hext]
          have hps := hptr hne
          cases hp : σ.get (2 * k) with
          | none => simp [hp] at hps
          | some p =>
            refine ⟨⟨b.chi, p, w⟩ :: fs, ?_, ?_, ?_⟩
            · have hext' : (b.chi == .ext) = false := by simpa using hext
              have hfs' : readFields σ (List.map (fun x => x.chi) Δ) (k + 1) = some fs := hfs
              simp [Mock.kindsOf, readFields, hw, hext', hp, hfs']
            · refine ⟨⟨?_, hkind⟩, hrep⟩
              simp only [hext, hp] at hv ⊢
              simpa using hv
            · intro c
              simp only [Obj.children, List.filterMap_cons, roots.go, hne, Bool.true_and, hp,
                if_true]
              by_cases hp0 : (p != 0) = true
              · simp only [hp0, if_true, List.singleton_append, List.cons.injEq, true_and]
                exact hch c
              · simp only [hp0, Bool.false_eq_true, if_false, List.nil_append]
                exact hch c

theorem refCount_cons (h : Heap) (rs : List Nat) (id : Nat) (o : Obj) (x : Nat) :
    refCount ((id, o) :: h) rs x = rs.count x + (o.children.count x +
      (h.map fun e => e.2.children.count x).sum) := by
  simp [refCount]

theorem heap_get_isSome_mem {h : Heap} {id : Nat} (hs : (h.get id).isSome) : ∃ o, (id, o) ∈ h := by
  cases hg : h.get id with
  | none => simp [hg] at hs
  | some o => exact ⟨o, heap_get_mem hg⟩

theorem heapOK_alloc {h : Heap} {rsKeep rsDrop : List Nat} {next : Nat} {o : Obj}
    (H : HeapOK h (rsKeep ++ rsDrop) next) (hc : o.count = 0) (hch : o.children = rsDrop)
    (hn : next < 2 ^ 64) :
    HeapOK ((next, o) :: h) (rsKeep ++ [next]) (next + 1) := by
  have hfresh : ∀ e ∈ h, e.1 ≠ next := fun e he => Nat.ne_of_lt (H.ids e he).2.1
  have hzero : refCount h (rsKeep ++ rsDrop) next = 0 := by
    cases hr : refCount h (rsKeep ++ rsDrop) next with
    | zero => rfl
    | succ m =>
      have := H.live next (by omega)
      obtain ⟨o', ho'⟩ := heap_get_isSome_mem this
      exact absurd rfl (hfresh _ ho')
  have key : ∀ x, refCount ((next, o) :: h) (rsKeep ++ [next]) x =
      refCount h (rsKeep ++ rsDrop) x + (if x = next then 1 else 0) := by
    intro x
    rw [refCount_cons, hch]
    simp only [refCount, List.count_append, List.count_cons, List.count_nil]
    by_cases hx : next = x
    · subst hx; simp; omega
    · have : (next == x) = false := by simp [hx]
      have hx' : ¬ x = next := fun e => hx e.symm
      simp [this, hx']; omega
  exact {
    pos := by omega
    nodup := by
      simp only [List.map_cons, List.nodup_cons]
      refine ⟨?_, H.nodup⟩
      intro hm
      obtain ⟨e, he, he1⟩ := List.mem_map.mp hm
      exact hfresh e he he1
    ids := by
      intro e he
      simp only [List.mem_cons] at he
      rcases he with rfl | he
      · exact ⟨H.pos, by simp, hn⟩
      · obtain ⟨a, b, c⟩ := H.ids e he
        exact ⟨a, by omega, c⟩
    counts := by
      intro e he
      simp only [List.mem_cons] at he
      rcases he with rfl | he
      · rw [key]; simp [hc, hzero]
      · rw [key]
        have := hfresh e he
        simp [this, H.counts e he]
    live := by
      intro id hid
      rw [key] at hid
      by_cases hx : id = next
      · subst hx; simp [heap_get_cons_same]
      · simp only [hx, if_false, Nat.add_zero] at hid
        rw [heap_get_cons_ne hx]
        exact H.live id hid }

theorem get_clearPositions (σ : Temps) (n cnt t : Nat) :
    (clearPositions σ n cnt).get t = if 2 * n ≤ t ∧ t < 2 * (n + cnt) then none else σ.get t := by
  unfold clearPositions Temps.get
  induction σ with
  | nil => simp
  | cons e σ ih =>
    by_cases h1 : 2 * n ≤ e.1 ∧ e.1 < 2 * (n + cnt)
    · have hb : (!(decide (2 * n ≤ e.1) && decide (e.1 < 2 * (n + cnt)))) = false := by simp [h1]
      simp only [List.filter_cons, hb, Bool.false_eq_true, if_false, List.find?_cons]
      by_cases h2 : e.1 = t
      · subst h2
        simp only [beq_self_eq_true, h1, and_self, if_true]
        rw [ih]; simp [h1]
      · have : (e.1 == t) = false := by simp [h2]
        simp only [this]
        exact ih
    · have hb : (!(decide (2 * n ≤ e.1) && decide (e.1 < 2 * (n + cnt)))) = true := by
        simp only [Bool.not_eq_true', Bool.and_eq_false_iff, decide_eq_false_iff_not]
        by_cases h3 : 2 * n ≤ e.1
        · exact Or.inr (fun h4 => h1 ⟨h3, h4⟩)
        · exact Or.inl h3
      simp only [List.filter_cons, hb, if_true, List.find?_cons]
      by_cases h2 : e.1 = t
      · subst h2; simp [h1]
      · have : (e.1 == t) = false := by simp [h2]
        simp only [this]
        exact ih

theorem step_store_empty (P : Program) (cfg : Config) (n : Nat)
    (hc : P.code[cfg.pc]? = some (.store [] n)) :
    Abs.step P cfg = .next { cfg with pc := cfg.pc + 1, temps := (clobberTemp cfg.temps).set (2 * n) 0 } := by
  simp [Abs.step, hc]

theorem step_store_cons (P : Program) (cfg : Config) (k : Chi) (ks : List Chi) (n : Nat)
    (fields : List Field)
    (hc : P.code[cfg.pc]? = some (.store (k :: ks) n))
    (hf : readFields cfg.temps (k :: ks) n = some fields) :
    Abs.step P cfg = .next { cfg with pc := cfg.pc + 1,
                                      temps := (clearPositions (clobberTemp cfg.temps) n (k :: ks).length).set
                                        (2 * n) (BitVec.ofNat 64 cfg.next),
                                      heap := (cfg.next, ⟨0, fields⟩) :: cfg.heap,
                                      next := cfg.next + 1 } := by
  simp [Abs.step, hc, hf]

theorem ofNat_toNat_lt {x : Nat} (h : x < 2 ^ 64) : (BitVec.ofNat 64 x).toNat = x := by
  simp [BitVec.toNat_ofNat, Nat.mod_eq_of_lt h]

theorem ofNat_ne_zero {x : Nat} (h0 : 0 < x) (h : x < 2 ^ 64) : BitVec.ofNat 64 x ≠ 0 := by
  intro e
  have := congrArg BitVec.toNat e
  rw [ofNat_toNat_lt h] at this
  simp at this
  omega

/-- the common part of `let` and `create`: the last `k` positions are stored into a fresh object
    (or nothing is allocated when `k = 0`); afterwards temporary `2 * (Γ.length - k)` references the block -/
theorem store_sim {Γ : Ctx} {ρ : List Value} {cfg : Config} (k : Nat)
    (V : R.Vals cfg.heap cfg.temps Γ ρ) (hlen : ρ.length = Γ.length)
    (hcap : 2 * Γ.length + 2 < Mock.T_TEMP)
    (H : HeapOK cfg.heap (roots Γ cfg.temps) cfg.next) (hk : k ≤ Γ.length)
    (hnext : cfg.next < 2 ^ 64)
    (hc : P.code[cfg.pc]? = some (.store (Mock.kindsOf (Γ.drop (Γ.length - k)))
      (Γ.take (Γ.length - k)).length)) :
    ∃ cfg1 r, Abs.step P cfg = .next cfg1 ∧ cfg1.pc = cfg.pc + 1 ∧ cfg1.out = cfg.out ∧
      cfg1.temps.get (2 * (Γ.length - k)) = some r ∧
      R.Block cfg1.heap (ρ.drop (Γ.length - k)) r ∧
      (∀ t, t < 2 * (Γ.length - k) → cfg1.temps.get t = cfg.temps.get t) ∧
      HeapExt cfg.heap cfg1.heap ∧
      HeapOK cfg1.heap (roots (Γ.take (Γ.length - k)) cfg.temps ++ (if r != 0 then [r.toNat] else []))
        cfg1.next ∧
      cfg1.next ≤ cfg.next + 1 := by
  have hn : (Γ.take (Γ.length - k)).length = Γ.length - k := by simp
  rw [hn] at hc
  have hroots : roots Γ cfg.temps =
      roots (Γ.take (Γ.length - k)) cfg.temps ++
        roots.go cfg.temps (Γ.drop (Γ.length - k)) (Γ.length - k) := by
    unfold roots
    conv => lhs; rw [← List.take_append_drop (Γ.length - k) Γ]
    rw [roots_go_append, hn, Nat.zero_add]
  cases hΔ : Γ.drop (Γ.length - k) with
  | nil =>
    rw [hΔ] at hc
    have hρ : ρ.drop (Γ.length - k) = [] := by
      have h1 : (Γ.drop (Γ.length - k)).length = 0 := by rw [hΔ]; rfl
      apply List.eq_nil_of_length_eq_zero
      simp only [List.length_drop] at h1 ⊢
      omega
    refine ⟨_, 0, step_store_empty P cfg _ hc, rfl, rfl, get_set_same _ _ _, ?_, ?_, ?_, ?_, Nat.le_succ _⟩
    · exact Or.inl ⟨hρ, rfl⟩
    · intro t ht
      have h1 : t ≠ 2 * (Γ.length - k) := by omega
      have h2 : t ≠ Mock.T_TEMP := by omega
      rw [get_set_other _ _ h1, get_clobberTemp _ h2]
    · intro id o h; exact h
    · rw [hroots, hΔ] at H
      simpa [roots.go] using H
  | cons b Δ =>
    rw [hΔ] at hc
    have S := V.slice (Γ.length - k)
    rw [hΔ] at S
    have hlenΔ : (ρ.drop (Γ.length - k)).length = (b :: Δ).length := by
      rw [← hΔ]; simp [hlen]
    obtain ⟨fields, hf, hrep, hch⟩ := readFields_ok (b :: Δ) _ _ S hlenΔ
    have hfresh : ∀ e ∈ cfg.heap, e.1 ≠ cfg.next := fun e he => Nat.ne_of_lt (H.ids e he).2.1
    have hext : HeapExt cfg.heap ((cfg.next, ⟨0, fields⟩) :: cfg.heap) := heapExt_cons hfresh
    have hr0 : BitVec.ofNat 64 cfg.next ≠ 0 := ofNat_ne_zero H.pos hnext
    have hrt : (BitVec.ofNat 64 cfg.next).toNat = cfg.next := ofNat_toNat_lt hnext
    refine ⟨_, BitVec.ofNat 64 cfg.next, step_store_cons P cfg _ _ _ fields hc hf, rfl, rfl,
      get_set_same _ _ _, ?_, ?_, hext, ?_, Nat.le_refl _⟩
    · refine Or.inr ⟨List.ne_nil_of_length_pos (by rw [hlenΔ]; simp), hr0, ⟨0, fields⟩, ?_,
        Kit.Fields.ext hext hrep⟩
      rw [hrt]; exact heap_get_cons_same
    · intro t ht
      have h1 : t ≠ 2 * (Γ.length - k) := by omega
      have h2 : t ≠ Mock.T_TEMP := by omega
      rw [get_set_other _ _ h1, get_clearPositions]
      rw [if_neg (by omega)]
      exact get_clobberTemp _ h2
    · have hb : (BitVec.ofNat 64 cfg.next != 0) = true := by rw [bne_iff_ne]; exact hr0
      simp only [hb, if_true, hrt]
      rw [hroots, hΔ] at H
      exact heapOK_alloc H rfl (hch 0) hnext

end

/-- the temporaries after `store` and the instruction that writes the word part of the new position
    `m`: the positions below `m` are unchanged, position `m` holds `(r, w)` and its root is `r` -/
theorem temps_alloc {σ σ1 : Temps} {Γ0 : Ctx} {m : Nat} {r : Word} (w : Word) (hm : Γ0.length = m)
    (hcap : 2 * (m + 1) + 2 < Mock.T_TEMP)
    (hlow : ∀ t, t < 2 * m → σ1.get t = σ.get t) (hr : σ1.get (2 * m) = some r) :
    (∀ t, t < 2 * Γ0.length → ((clobberTemp σ1).set (2 * m + 1) w).get t = σ.get t) ∧
    ((clobberTemp σ1).set (2 * m + 1) w).get (2 * Γ0.length) = some r ∧
    ((clobberTemp σ1).set (2 * m + 1) w).get (2 * Γ0.length + 1) = some w ∧
    ∀ b : Binding, (b.chi != .ext) = true →
      roots (Γ0 ++ [b]) ((clobberTemp σ1).set (2 * m + 1) w) =
        roots Γ0 σ ++ (if r != 0 then [r.toNat] else []) := by
  subst hm
  have hσ : ∀ t, t < 2 * Γ0.length →
      ((clobberTemp σ1).set (2 * Γ0.length + 1) w).get t = σ.get t := fun t ht => by
    rw [get_set_other _ _ (by omega), get_clobberTemp _ (by omega), hlow t ht]
  have hg : ((clobberTemp σ1).set (2 * Γ0.length + 1) w).get (2 * Γ0.length) = some r := by
    rw [get_set_other _ _ (by omega), get_clobberTemp _ (by omega), hr]
  refine ⟨hσ, hg, get_set_same _ _ _, fun b hb => ?_⟩
  unfold roots
  rw [roots_go_append, Nat.zero_add]
  congr 1
  · exact roots_go_congr _ _ _ 0 (fun i hi => by rw [Nat.zero_add]; exact hσ (2 * i) (by omega))
  · simp only [roots.go, List.append_nil, hb, if_true, hg]

theorem tagPosition_ok {types : List TypeDecl} {ty : Ty} {tag : Ident} {pos : Nat}
    (h : Pos.tagPosition types ty tag = .ok pos) :
    ∃ d, lookupTypeDecl types ty = some d ∧ xtorPosition d tag = some pos := by
  unfold Pos.tagPosition at h
  cases hd : lookupTypeDecl types ty with
  | none => simp [hd] at h
  | some d =>
    simp only [hd] at h
    cases hx : xtorPosition d tag with
    | none => simp [hx] at h
    | some i =>
      simp only [hx, Except.ok.injEq] at h
      subst h
      exact ⟨d, rfl, hx⟩

theorem Kit.Rel.letS {P : Program} {hooks : Bool} {prog : Prog} {R : Kit P hooks prog.types}
    {Γ : Ctx} {ρ : List Value} {x : Ident}
    {ty : Ty} {tag : Ident} {args : Ctx} {next : Stmt} {fv : FV} {cfg : Config} {pos : Nat}
    (Rl : R.Rel prog ⟨Γ, ρ, .letS x ty tag args next fv⟩ cfg)
    (hk : args.length ≤ Γ.length)
    (hfresh : ∀ b ∈ Γ.take (Γ.length - args.length), b.var.id ≠ x.id)
    (hpos : Pos.tagPosition prog.types ty tag = .ok pos)
    (hcap : 2 * (Γ.length - args.length + 1) + 2 < Mock.T_TEMP)
    (hnext : cfg.next < 2 ^ 64) :
    ∃ cfg', stepsTo P 2 cfg cfg' ∧ cfg'.out = cfg.out ∧ cfg'.next ≤ cfg.next + 1 ∧
      R.Rel prog ⟨Γ.take (Γ.length - args.length) ++ [⟨x, .prd, ty⟩],
        ρ.take (Γ.length - args.length) ++ [.obj pos (ρ.drop (Γ.length - args.length))], next⟩ cfg' := by
  obtain ⟨c, c', ops, hrun, hat⟩ := Rl.code
  obtain ⟨d, hd, hx⟩ := tagPosition_ok hpos
  simp only [codeStatementR, run_bind_ok, run_pure_ok, lookupTypeDeclM_run_ok, xtorPositionM_run_ok,
    splitOffLast_run_ok, mockSym_store, mockSym_variableTemporary, vt_run_ok] at hrun
  obtain ⟨decl, k1, ⟨hd', rfl⟩, pos', k2, ⟨hx', rfl⟩, sp, k3, ⟨_, rfl, rfl⟩, c1, k4, ⟨rfl, rfl⟩, t, k5,
    ⟨p, hp, rfl, rfl⟩, c3, k6, h3, rfl, rfl⟩ := hrun
  rw [hd] at hd'; cases hd'
  rw [hx] at hx'; cases hx'
  have hn : (Γ.take (Γ.length - args.length)).length = Γ.length - args.length := by simp
  have hp' : p = Γ.length - args.length := (ctxPosition_snoc_fresh hp rfl hfresh).trans hn
  subst hp'
  simp only [mockSym_comment, mockSym_loadImmediate, mockSym_jumpLength, List.append_assoc,
    CodeAt_hook] at hat
  simp only [List.cons_append, List.nil_append, CodeAt, TempNum.toNat] at hat
  obtain ⟨hstore, hli, hat3⟩ := hat
  obtain ⟨cfg1, r, hstep1, hpc1, hout1, hr, hblock, hlow, hext, hheap, hnx⟩ :=
    store_sim args.length Rl.vals Rl.len Rl.cap Rl.heap hk hnext hstore
  -- second instruction: the tag
  have hli' : P.code[cfg1.pc]? = some (.li (2 * (Γ.length - args.length) + 1) (pos : Int)) := by
    rw [hpc1]; exact hli
  have ht : 2 * (Γ.length - args.length) + 1 ≠ Mock.T_TEMP := by omega
  have hstep2 := step_li P cfg1 _ _ hli' ht
  refine ⟨_, ⟨cfg1, hstep1, stepsTo_one P _ _ hstep2⟩, by simpa using hout1, hnx, ?_⟩
  obtain ⟨hσ, hget2n, hgetw, hroots⟩ :=
    temps_alloc (σ := cfg.temps) (BitVec.ofInt 64 pos) hn hcap hlow hr
  have hprd : (Chi.prd == Chi.ext) = false := by decide
  exact {
    len := by simp [Rl.len]
    cap := by simpa using hcap
    vals := by
      apply ((Rl.vals.take (Γ.length - args.length)).ext hext).snoc (by simp [Rl.len]) hσ _ _
        (BitVec.ofInt 64 pos) hgetw
      · rw [hget2n]
        simp only [hprd, Bool.false_eq_true, if_false]
        have : BitVec.ofInt 64 (pos : Int) = BitVec.ofNat 64 pos := by simp
        rw [this]
        exact R.obj pos hblock
      · exact R.K_kind (.obj pos _)
      · intro _; rw [hget2n]; rfl
    heap := HeapOK_congr hheap (hroots _ rfl)
    code := ⟨_, _, c3, h3, by rw [hpc1]; exact hat3⟩ }

theorem step_ll (P : Program) (cfg : Config) (t : Nat) (name : String) (a : Nat)
    (hc : P.code[cfg.pc]? = some (.ll t name)) (ht : t ≠ Mock.T_TEMP)
    (ha : P.labelAddr name = some a) :
    Abs.step P cfg = .next { cfg with pc := cfg.pc + 1,
                                      temps := (clobberTemp cfg.temps).set t (BitVec.ofNat 64 a) } := by
  have : (t == Abs.T_TEMP) = false := by simp [Abs.T_TEMP, ht]
  simp [Abs.step, hc, this, ha]

/-- `create` with a closure environment annotation that the representation accepts for the context
    suffix it captures -/
theorem Kit.Rel.create {P : Program} {hooks : Bool} {prog : Prog} {R : Kit P hooks prog.types}
    {Γ : Ctx} {ρ : List Value} {x : Ident}
    {ty : Ty} {Γc : Ctx} {clauses : Clauses} {next : Stmt} {f1 f2 : FV} {cfg : Config}
    (Rl : R.Rel prog ⟨Γ, ρ, .create x ty (some Γc) clauses next f1 f2⟩ cfg)
    (hk : Γc.length ≤ Γ.length)
    (hE : R.E Γc (Γ.drop (Γ.length - Γc.length)))
    (hfresh : ∀ b ∈ Γ.take (Γ.length - Γc.length), b.var.id ≠ x.id)
    (hcap : 2 * (Γ.length - Γc.length + 1) + 2 < Mock.T_TEMP)
    (hnext : cfg.next < 2 ^ 64) :
    ∃ cfg', stepsTo P 2 cfg cfg' ∧ cfg'.out = cfg.out ∧ cfg'.next ≤ cfg.next + 1 ∧
      R.Rel prog ⟨Γ.take (Γ.length - Γc.length) ++ [⟨x, .cns, ty⟩],
        ρ.take (Γ.length - Γc.length) ++ [.clo Γc (ρ.drop (Γ.length - Γc.length)) clauses], next⟩ cfg' := by
  obtain ⟨c, c', ops, hrun, hat⟩ := Rl.code
  simp only [codeStatementR, run_bind_ok, run_pure_ok, freshLabelStr_run_ok, splitOffLast_run_ok,
    mockSym_store, mockSym_variableTemporary, vt_run_ok] at hrun
  obtain ⟨sp, k1, ⟨_, rfl, rfl⟩, c1, k2, ⟨rfl, rfl⟩, num, k3, ⟨rfl, rfl⟩, t, k4, ⟨p, hp, rfl, rfl⟩,
    c3, k5, h3, c5, k6, h5, rfl, rfl⟩ := hrun
  have hn : (Γ.take (Γ.length - Γc.length)).length = Γ.length - Γc.length := by simp
  have hp' : p = Γ.length - Γc.length := (ctxPosition_snoc_fresh hp rfl hfresh).trans hn
  subst hp'
  simp only [mockSym_comment, mockSym_loadLabel, mockSym_label, List.append_assoc, CodeAt_hook] at hat
  simp only [List.cons_append, List.nil_append, CodeAt, TempNum.toNat] at hat
  obtain ⟨hstore, hll, hat'⟩ := hat
  rw [CodeAt_append] at hat'
  obtain ⟨hat3, hat45⟩ := hat'
  simp only [CodeAt] at hat45
  obtain ⟨hlab, hat45'⟩ := hat45
  obtain ⟨cfg1, r, hstep1, hpc1, hout1, hr, hblock, hlow, hext, hheap, hnx⟩ :=
    store_sim Γc.length Rl.vals Rl.len Rl.cap Rl.heap hk hnext hstore
  have hll' : P.code[cfg1.pc]? = some (.ll (2 * (Γ.length - Γc.length) + 1)
      (mangleTy ty ++ "_" ++ natRen (c + 1))) := by
    rw [hpc1]; exact hll
  have ht : 2 * (Γ.length - Γc.length) + 1 ≠ Mock.T_TEMP := by omega
  have hstep2 := step_ll P cfg1 _ _ _ hll' ht hlab
  refine ⟨_, ⟨cfg1, hstep1, stepsTo_one P _ _ hstep2⟩, by simpa using hout1, hnx, ?_⟩
  obtain ⟨hσ, hget2n, hgetw, hroots⟩ :=
    temps_alloc (σ := cfg.temps) (BitVec.ofNat 64 (cfg.pc + 1 + 1 + instrCount c3)) hn hcap hlow hr
  have hcns : (Chi.cns == Chi.ext) = false := by decide
  have hmeth : MethodsAt P hooks prog.types (cfg.pc + 1 + 1 + instrCount c3)
      (Γ.drop (Γ.length - Γc.length)) clauses := by
    refine ⟨mangleTy ty ++ "_" ++ natRen (c + 1), k5, k6, c5, ?_, ?_⟩
    · simpa using h5
    · simp only [CodeAt]
      exact ⟨hlab, hat45'⟩
  exact {
    len := by simp [Rl.len]
    cap := by simpa using hcap
    vals := by
      apply ((Rl.vals.take (Γ.length - Γc.length)).ext hext).snoc (by simp [Rl.len]) hσ _ _
        (BitVec.ofNat 64 (cfg.pc + 1 + 1 + instrCount c3)) hgetw
      · rw [hget2n]
        simp only [hcns, Bool.false_eq_true, if_false]
        exact R.clo hE hblock hmeth
      · exact R.K_kind (.clo Γc _ clauses)
      · intro _; rw [hget2n]; rfl
    heap := HeapOK_congr hheap (hroots _ rfl)
    code := ⟨_, _, c3, h3, by rw [hpc1]; exact hat3⟩ }

section
variable {P : Program} {hooks : Bool} {types : List TypeDecl} {h : Heap}

theorem repFields_of : ∀ {vs : List Value} {fs : List Field},
    FieldsOf (RepVal P hooks types) (fun χ v => (χ == .ext) = isInt v) h vs fs →
    RepFields P hooks types h vs fs
  | [], [], _ => .nil
  | _ :: _, _ :: _, H => .cons _ _ _ _ H.1.1 H.1.2 (repFields_of H.2)
  | [], _ :: _, H => H.elim
  | _ :: _, [], H => H.elim

theorem repBlock_of {vs : List Value} {r : Word}
    (H : BlockOf (RepVal P hooks types) (fun χ v => (χ == .ext) = isInt v) h vs r) :
    RepBlock P hooks types h vs r := by
  rcases H with ⟨rfl, rfl⟩ | ⟨hne, hr, o, hg, hf⟩
  · exact .empty
  · cases vs with
    | nil => exact absurd rfl hne
    | cons v vs => exact .block v vs r o hr hg (repFields_of hf)

end

def valKit (P : Program) (hooks : Bool) (types : List TypeDecl) : Kit P hooks types where
  V := RepVal P hooks types
  K := fun χ v => (χ == .ext) = isInt v
  E := fun Γc Γ' => Γc = Γ'
  int := fun n p => .int n p
  int_inv := fun hv => by cases hv; rfl
  obj := fun tag _ _ hb => .obj tag _ _ (repBlock_of hb)
  clo := fun e hb hm => by subst e; exact .clo _ _ _ _ _ (repBlock_of hb) hm
  V_ext := fun he hv => hv.ext he
  K_kind := fun v => by cases v <;> rfl

theorem rel_iff {P : Program} {hooks : Bool} {prog : Prog} {st : Pos.State} {cfg : Config} :
    Rel P hooks prog st cfg ↔ (valKit P hooks prog.types).Rel prog st cfg :=
  ⟨fun R => ⟨R.len, R.cap, R.vals, R.heap, R.code⟩, fun R => ⟨R.len, R.cap, R.vals, R.heap, R.code⟩⟩

end Scc.Backend.Sim
