/-
  Scc.Backend.TotalKeys — the ordered-linear typing `LinTyped` (Scc/AxCut/LinTyping.lean) does not
  depend on the NAMES of the variables in the context: `LinTyped.of_keys`
      Γ'.keys = Γ.keys → LinTyped T S Γ s → LinTyped T S Γ' s
  (`Ctx.keys`: ids, kinds, types).  Needed by the totality theorem of the code generator: create.rs
  generates the method bodies in the context suffix it splits off, which the typing relates to the
  ANNOTATED closure environment only up to names.
-/
import Scc.AxCut.LinTyping

namespace Scc.Backend.Total

open Scc.AxCut

theorem keys_length {Γ Δ : Ctx} (h : Γ.keys = Δ.keys) : Γ.length = Δ.length := by
  have := congrArg List.length h
  simpa [Ctx.keys] using this

theorem keys_ids {Γ Δ : Ctx} (h : Γ.keys = Δ.keys) : Γ.ids = Δ.ids := by
  have := congrArg (List.map (fun k : Nat × Chi × Ty => k.1)) h
  simpa [Ctx.keys, Ctx.ids, Binding.key, Function.comp_def] using this

theorem keys_chiTys {Γ Δ : Ctx} (h : Γ.keys = Δ.keys) : Γ.chiTys = Δ.chiTys := by
  have := congrArg (List.map (fun k : Nat × Chi × Ty => k.2)) h
  simpa [Ctx.keys, Ctx.chiTys, Binding.key, Function.comp_def] using this

theorem keys_take {Γ Δ : Ctx} (h : Γ.keys = Δ.keys) (n : Nat) :
    Ctx.keys (Γ.take n) = Ctx.keys (Δ.take n) := by
  unfold Ctx.keys at *
  rw [List.map_take, List.map_take, h]

theorem keys_drop {Γ Δ : Ctx} (h : Γ.keys = Δ.keys) (n : Nat) :
    Ctx.keys (Γ.drop n) = Ctx.keys (Δ.drop n) := by
  unfold Ctx.keys at *
  rw [List.map_drop, List.map_drop, h]

theorem keys_append {Γ Γ' Δ Δ' : Ctx} (h1 : Γ.keys = Γ'.keys) (h2 : Δ.keys = Δ'.keys) :
    Ctx.keys (Γ ++ Δ) = Ctx.keys (Γ' ++ Δ') := by
  unfold Ctx.keys at *
  rw [List.map_append, List.map_append, h1, h2]

/-- a context with the keys of `Γ1 ++ Γ2` splits accordingly -/
theorem keys_split {Γ' Γ1 Γ2 : Ctx} (h : Γ'.keys = Ctx.keys (Γ1 ++ Γ2)) :
    Γ' = Γ'.take Γ1.length ++ Γ'.drop Γ1.length ∧
    Ctx.keys (Γ'.take Γ1.length) = Γ1.keys ∧ Ctx.keys (Γ'.drop Γ1.length) = Γ2.keys := by
  refine ⟨(List.take_append_drop _ _).symm, ?_, ?_⟩
  · rw [keys_take h]; simp
  · rw [keys_drop h]; simp

theorem keys_snoc {Γ' Γ1 : Ctx} {b : Binding} (h : Γ'.keys = Ctx.keys (Γ1 ++ [b])) :
    ∃ Γ1' b', Γ' = Γ1' ++ [b'] ∧ Ctx.keys Γ1' = Γ1.keys ∧ b'.key = b.key := by
  obtain ⟨h1, h2, h3⟩ := keys_split h
  have hl : (Γ'.drop Γ1.length).length = 1 := by
    have := keys_length h3
    simpa using this
  match hd : Γ'.drop Γ1.length, hl with
  | [b'], _ =>
    refine ⟨Γ'.take Γ1.length, b', by rw [← hd]; exact h1, h2, ?_⟩
    rw [hd] at h3
    simpa [Ctx.keys] using h3

theorem keys_getElem {Γ Δ : Ctx} (h : Γ.keys = Δ.keys) {i : Nat} (h1 : i < Γ.length)
    (h2 : i < Δ.length) : Γ[i].key = Δ[i].key := by
  have := congrArg (fun l => l[i]?) h
  simp only [Ctx.keys, List.getElem?_map, List.getElem?_eq_getElem h1, List.getElem?_eq_getElem h2,
    Option.map_some, Option.some.injEq] at this
  exact this

theorem nodup_keys {Γ Δ : Ctx} (h : Γ.keys = Δ.keys) (hn : NodupIds Δ) : NodupIds Γ := by
  unfold NodupIds at *; rw [keys_ids h]; exact hn

/-- a variable of `Δ` is a variable of `Γ` (same id, kind, type) -/
theorem hasVar_keys {Γ Δ : Ctx} (h : Γ.keys = Δ.keys) {x : Nat} {chi : Chi} {ty : Ty}
    (hv : HasVar Δ x chi ty) : HasVar Γ x chi ty := by
  obtain ⟨b, hb, h1, h2, h3⟩ := hv
  obtain ⟨i, hi, rfl⟩ := List.getElem_of_mem hb
  have hi' : i < Γ.length := by rw [keys_length h]; exact hi
  have hk := keys_getElem h hi' hi
  simp only [Binding.key, Prod.mk.injEq] at hk
  exact ⟨Γ[i], List.getElem_mem hi', by rw [hk.1]; exact h1, by rw [hk.2.1]; exact h2,
    by rw [hk.2.2]; exact h3⟩

theorem keys_refl_snoc {Γ Δ : Ctx} (h : Γ.keys = Δ.keys) (b : Binding) :
    Ctx.keys (Γ ++ [b]) = Ctx.keys (Δ ++ [b]) := keys_append h rfl

mutual
  /-- the typing of a statement depends on the context only through its keys -/
  theorem LinTyped.of_keys {T : List TypeDecl} {S : Sigs} :
      ∀ (s : Stmt) {Γ Γ' : Ctx}, Γ'.keys = Γ.keys → LinTyped T S Γ s → LinTyped T S Γ' s
    | .subst pairs next, Γ, Γ', hk, h => by
      cases h with
      | subst h1 h2 h3 h4 =>
        exact .subst (nodup_keys hk h1) (fun p hp => hasVar_keys hk (h2 p hp)) h3 h4
    | .call l args, Γ, Γ', hk, h => by
      cases h with
      | call h1 h2 h3 => exact .call (nodup_keys hk h1) h2 (by rw [keys_chiTys hk]; exact h3)
    | .letS x ty tag args next fv, Γ, Γ', hk, h => by
      cases h with
      | @letS _ Γ1 Γa _ _ _ _ sig _ _ h1 h2 h3 h4 h5 h6 h7 =>
        subst h2
        obtain ⟨e1, e2, e3⟩ := keys_split hk
        refine .letS (Γ' := Γ'.take Γ1.length) (Γa := Γ'.drop Γ1.length) (nodup_keys hk h1) e1
          (by rw [e3]; exact h3) h4 h5 (by rw [keys_ids e2]; exact h6) ?_
        exact LinTyped.of_keys next (keys_refl_snoc e2 _) h7
    | .switch x ty cs fv, Γ, Γ', hk, h => by
      cases h with
      | @switch _ Γ1 b _ _ _ _ d h1 h2 h3 h4 h5 h6 =>
        subst h2
        obtain ⟨Γ1', b', e1, e2, e3⟩ := keys_snoc hk
        exact .switch (nodup_keys hk h1) e1 (by rw [e3]; exact h3) h4 h5
          (LinTypedClauses.of_keys cs e2 rfl h6)
    | .create x ty env cs next fc fn, Γ, Γ', hk, h => by
      cases h with
      | @create _ Γn Γe Γc _ _ _ _ _ _ d h1 h2 h3 h4 h5 h6 h7 h8 =>
        subst h2
        obtain ⟨e1, e2, e3⟩ := keys_split hk
        refine .create (Γn := Γ'.take Γn.length) (Γe := Γ'.drop Γn.length) (nodup_keys hk h1) e1
          (by rw [e3]; exact h3) h4 h5 h6 (by rw [keys_ids e2]; exact h7) ?_
        exact LinTyped.of_keys next (keys_refl_snoc e2 _) h8
    | .invoke x tag ty args, Γ, Γ', hk, h => by
      cases h with
      | @invoke _ Γa b _ _ _ _ sig h1 h2 h3 h4 h5 =>
        subst h2
        obtain ⟨Γ1', b', e1, e2, e3⟩ := keys_snoc hk
        exact .invoke (nodup_keys hk h1) e1 (by rw [e3]; exact h3) h4
          (by rw [keys_chiTys e2]; exact h5)
    | .lit x n next fv, Γ, Γ', hk, h => by
      cases h with
      | lit h1 h2 h3 =>
        exact .lit (nodup_keys hk h1) (by rw [keys_ids hk]; exact h2)
          (LinTyped.of_keys next (keys_refl_snoc hk _) h3)
    | .op x a o b next fv, Γ, Γ', hk, h => by
      cases h with
      | op h1 h2 h3 h4 h5 =>
        exact .op (nodup_keys hk h1) (hasVar_keys hk h2) (hasVar_keys hk h3)
          (by rw [keys_ids hk]; exact h4) (LinTyped.of_keys next (keys_refl_snoc hk _) h5)
    | .print nl a next fv, Γ, Γ', hk, h => by
      cases h with
      | print h1 h2 h3 =>
        exact .print (nodup_keys hk h1) (hasVar_keys hk h2) (LinTyped.of_keys next hk h3)
    | .ifc s a b t e, Γ, Γ', hk, h => by
      cases h with
      | ifc h1 h2 h3 h4 h5 =>
        exact .ifc (nodup_keys hk h1) (hasVar_keys hk h2) (fun b' hb' => hasVar_keys hk (h3 b' hb'))
          (LinTyped.of_keys t hk h4) (LinTyped.of_keys e hk h5)
    | .exit x, Γ, Γ', hk, h => by
      cases h with
      | exit h1 h2 => exact .exit (nodup_keys hk h1) (hasVar_keys hk h2)
  theorem LinTypedClauses.of_keys {T : List TypeDecl} {S : Sigs} :
      ∀ (cs : Clauses) {pre pre' post post' : Ctx}, pre'.keys = pre.keys → post'.keys = post.keys →
        LinTypedClauses T S pre post cs → LinTypedClauses T S pre' post' cs
    | .nil, _, _, _, _, _, _, _ => .nil
    | .cons x ctx body rest, pre, pre', post, post', hk1, hk2, h => by
      cases h with
      | cons h1 h2 =>
        exact .cons (LinTyped.of_keys body (keys_append (keys_append hk1 rfl) hk2) h1)
          (LinTypedClauses.of_keys rest hk1 hk2 h2)
end

end Scc.Backend.Total
