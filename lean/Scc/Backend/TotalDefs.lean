/-
  Scc.Backend.TotalDefs — "total or capacity": the vocabulary of the code-generator totality theorem
  (property C12, link `codegen_total`; Props/C12Codegen.lean).

  * `ResOk cap r`        an `Except String` result is `ok` or an error whose message satisfies `cap`;
  * `TotP cap P m`       the generator `m : GenM α` returns, from EVERY value of the label counter, a result
                         satisfying `P` or an error satisfying `cap` (so no other panic message of the
                         model is reachable); `Tot cap m` is `TotP cap (fun _ => True) m`;
  * closure of `TotP` under the monadic combinators used by Generic.lean and the backends;
  * `TotalBackend B cap fits`: the predicate on a backend record under which the generic generator is
    total-or-capacity: every monadic method is, as long as the number of variables involved `fits`
    (`fits = fun _ => True` for the unconditional theorem, `fits n = (2 * n ≤ K)` for "no error at all
    under the static capacity check"), temporaries are compared by a lawful equality, and
    `variable_temporary` is injective in (number, variable) and independent of the label counter.
-/
import Scc.Backend.Proofs

namespace Scc.Backend.Total

open Scc.AxCut

/-- a result, or an error with a permitted message -/
def ResOk {α : Type} (cap : String → Prop) : Except String α → Prop
  | .ok _ => True
  | .error e => cap e

/-- from every counter value: a result satisfying `P`, or a permitted error -/
def TotP {α : Type} (cap : String → Prop) (P : α → Prop) (m : GenM α) : Prop :=
  ∀ c, match m.run c with
    | .ok (a, _) => P a
    | .error e => cap e

abbrev Tot {α : Type} (cap : String → Prop) (m : GenM α) : Prop := TotP cap (fun _ => True) m

section
variable {α β : Type} {cap : String → Prop}

theorem TotP.pure {P : α → Prop} {a : α} (h : P a) : TotP cap P (pure a : GenM α) := fun _ => h

theorem Tot.pure (a : α) : Tot cap (pure a : GenM α) := fun _ => trivial

theorem TotP.throw {P : α → Prop} {e : String} (h : cap e) : TotP cap P (throw e : GenM α) := fun _ => h

theorem TotP.bind {P : β → Prop} {Q : α → Prop} {m : GenM α} {f : α → GenM β}
    (hm : TotP cap Q m) (hf : ∀ a, Q a → TotP cap P (f a)) : TotP cap P (m >>= f) := by
  intro c
  have h1 := hm c
  simp only [StateT.run_bind]
  cases h : m.run c with
  | error e => rw [h] at h1; exact h1
  | ok p =>
    obtain ⟨a, c1⟩ := p
    rw [h] at h1
    exact hf a h1 c1

theorem Tot.bind {m : GenM α} {f : α → GenM β} (hm : Tot cap m) (hf : ∀ a, Tot cap (f a)) :
    Tot cap (m >>= f) := TotP.bind hm (fun a _ => hf a)

theorem TotP.mono {P Q : α → Prop} {m : GenM α} (h : TotP cap P m) (hpq : ∀ a, P a → Q a) :
    TotP cap Q m := by
  intro c
  have h1 := h c
  cases hr : m.run c with
  | error e => rw [hr] at h1; exact h1
  | ok p => obtain ⟨a, c1⟩ := p; rw [hr] at h1; exact hpq a h1

theorem TotP.tot {P : α → Prop} {m : GenM α} (h : TotP cap P m) : Tot cap m := h.mono (fun _ _ => trivial)

theorem TotP.and {P Q : α → Prop} {m : GenM α} (h1 : TotP cap P m) (h2 : TotP cap Q m) :
    TotP cap (fun a => P a ∧ Q a) m := by
  intro c
  have a1 := h1 c
  have a2 := h2 c
  cases hr : m.run c with
  | error e => rw [hr] at a1; exact a1
  | ok p => obtain ⟨a, c1⟩ := p; rw [hr] at a1 a2; exact ⟨a1, a2⟩

/-- `Tot` with the postcondition "the value is the result of some run" -/
theorem Tot.self {m : GenM α} (h : Tot cap m) : TotP cap (fun a => ∃ c k, m.run c = .ok (a, k)) m := by
  intro c
  have h1 := h c
  cases hr : m.run c with
  | error e => rw [hr] at h1; exact h1
  | ok p => obtain ⟨a, c1⟩ := p; exact ⟨c, c1, hr⟩

theorem TotP.ite {P : α → Prop} {c : Prop} [Decidable c] {m n : GenM α}
    (hm : c → TotP cap P m) (hn : ¬ c → TotP cap P n) : TotP cap P (if c then m else n) := by
  by_cases h : c
  · simp only [h, if_true]; exact hm h
  · simp only [h, if_false]; exact hn h

/-- a generator is total-or-capacity iff none of its runs ends in another error -/
theorem TotP.of_runs {P : α → Prop} {m : GenM α}
    (hok : ∀ c a k, m.run c = .ok (a, k) → P a) (herr : ∀ c e, m.run c = .error e → cap e) :
    TotP cap P m := by
  intro c
  cases hr : m.run c with
  | error e => exact herr c e hr
  | ok p => obtain ⟨a, c1⟩ := p; exact hok c a c1 hr

theorem TotP.run_ok {P : α → Prop} {m : GenM α} (h : TotP cap P m) {c : Nat} {a : α} {k : Nat}
    (hr : m.run c = .ok (a, k)) : P a := by
  have := h c; rw [hr] at this; exact this

theorem TotP.run_error {P : α → Prop} {m : GenM α} (h : TotP cap P m) {c : Nat} {e : String}
    (hr : m.run c = .error e) : cap e := by
  have := h c; rw [hr] at this; exact this

theorem Tot.resOk {m : GenM α} (h : Tot cap m) (c : Nat) : ResOk cap (m.run c) := by
  have h1 := h c
  cases hr : m.run c with
  | error e => rw [hr] at h1; exact h1
  | ok p => trivial

theorem Tot.freshLabel : Tot cap Scc.Backend.freshLabel := fun _ => trivial

theorem Tot.freshLabelStr (ren : Nat → String) : Tot cap (Scc.Backend.freshLabelStr ren) := fun _ => trivial

theorem TotP.mapMGen {Q : α → β → Prop} {f : α → GenM β} : ∀ (l : List α),
    (∀ a ∈ l, TotP cap (Q a) (f a)) →
    TotP cap (fun bs => ∀ b ∈ bs, ∃ a ∈ l, Q a b) (mapMGen f l)
  | [], _ => TotP.pure (by simp)
  | a :: as, h => by
    unfold Scc.Backend.mapMGen
    refine TotP.bind (h a (by simp)) fun b hb => ?_
    refine TotP.bind (TotP.mapMGen as fun a' ha' => h a' (by simp [ha'])) fun bs hbs => ?_
    refine TotP.pure ?_
    intro b' hb'
    rcases List.mem_cons.mp hb' with rfl | hb'
    · exact ⟨a, by simp, hb⟩
    · obtain ⟨a', ha', hq⟩ := hbs b' hb'
      exact ⟨a', by simp [ha'], hq⟩

end

/-- `t` is a value of `variable_temporary number Γ id` (for some value of the label counter) -/
def IsVT {Code T : Type} (B : Backend Code T) (n : TempNum) (Γ : Ctx) (id : Nat) (t : T) : Prop :=
  ∃ c k, (B.variableTemporary n Γ id).run c = .ok (t, k)

/-- The hypotheses on a backend under which the generic code generator is total-or-capacity.
    `fits n`: a context of `n` variables is within the capacity for which the methods are claimed total
    (downward closed). -/
structure TotalBackend {Code T : Type} (B : Backend Code T) (cap : String → Prop) (fits : Nat → Prop) :
    Prop where
  fits_mono : ∀ {m n : Nat}, m ≤ n → fits n → fits m
  /-- `PartialEq` of the temporaries is equality -/
  tempEq_iff : ∀ a b, B.tempEq a b = true ↔ a = b
  /-- utils.rs: variable_temporary finds every variable of the context (`get_position` succeeds) -/
  vt_total : ∀ n (Γ : Ctx) id, (∃ b ∈ Γ, b.var.id = id) → fits Γ.length → Tot cap (B.variableTemporary n Γ id)
  /-- different (number, variable) pairs of one context have different temporaries -/
  vt_inj : ∀ {Γ n n' id id' t}, IsVT B n Γ id t → IsVT B n' Γ id' t → n = n' ∧ id = id'
  /-- the temporary does not depend on the label counter -/
  vt_det : ∀ {Γ n id t t'}, IsVT B n Γ id t → IsVT B n Γ id t' → t = t'
  printI64 : ∀ nl t Γ, fits Γ.length → Tot cap (B.printI64 nl t Γ)
  eraseBlock : ∀ t, Tot cap (B.eraseBlock t)
  shareBlockN : ∀ t n, Tot cap (B.shareBlockN t n)
  /-- memory.rs: store `a` (the suffix of the context) keeping `b`; one more variable is bound next -/
  store : ∀ a b, fits (a.length + b.length + 1) → Tot cap (B.store a b)
  /-- memory.rs: load `a` on top of `b` -/
  load : ∀ a b, fits (a.length + b.length) → Tot cap (B.load a b)

end Scc.Backend.Total
