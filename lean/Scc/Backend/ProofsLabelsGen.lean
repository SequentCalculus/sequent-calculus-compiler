/-
  Scc.Backend.ProofsLabelsGen — THE LABELS DEFINED BY THE CODE OF THE GENERIC GENERATOR ARE PAIRWISE DISTINCT,
  for an arbitrary backend record `B` (`C14Generic.labels_unique`, about the mock code, is `body_labels` after
  `g_compile` at the record `labOps_mock` at the end of this file).  The labels of the body are the labels the
  generic generator defines (`f_`, `T_7`, `T_7_Cons`, `lab7`: the structured names `Lbl` of
  Scc/Backend/ProofsLabels.lean, with the numbers of the backend's own run of the label counter) and the local
  labels `lab<n>` of the memory methods, all drawn from ONE counter.

  Part 1 is about label LISTS: `LF lo hi L` (local labels `lab<n>` of distinct numbers in `(lo, hi]`) and
  `G S X a b L` (renderings of distinct structured labels, special ones in `S` or generated ones numbered in
  `(a, b]`), each with the rules for code generated one piece after the other.
  Part 2 is the walk over `compileR B`: a backend says of each method which labels its code defines (`LabOps`:
  none; `label l` exactly `l`; memory methods and `print_i64` only local labels drawn from the counter;
  `variable_temporary` leaves the counter alone); `g_compile` gives `G` for
  the labels of the body and `body_labels` the distinctness of `asm_main`, the body's labels and `cleanup`.
-/
import Scc.Backend.ProofsNames

namespace Scc.Backend.Lab

open Scc.AxCut

abbrev R : Lbl → String := Lbl.render natRen

/-! ## Part 1a: local labels -/

/-- `L` lists the local labels `lab<n>` of pairwise distinct numbers in `(lo, hi]` -/
def LF (lo hi : Nat) (L : List String) : Prop :=
  ∃ ns : List Nat, L = ns.map (fun n => R (.lab n)) ∧ ns.Nodup ∧ ∀ n ∈ ns, lo < n ∧ n ≤ hi

theorem LF.nil (lo hi : Nat) : LF lo hi [] := ⟨[], rfl, List.nodup_nil, fun _ h => by cases h⟩

theorem LF.mono {lo hi lo' hi' : Nat} {L : List String} (h : LF lo hi L) (h1 : lo' ≤ lo) (h2 : hi ≤ hi') :
    LF lo' hi' L := by
  obtain ⟨ns, e, nd, hr⟩ := h
  exact ⟨ns, e, nd, fun n hn => by have := hr n hn; omega⟩

/-- labels of one range inserted anywhere among labels of a range apart from it -/
theorem LF.insert {a b a' b' : Nat} {L1 L2 M : List String} (h : LF a b (L1 ++ L2)) (hM : LF a' b' M)
    (hab : b ≤ a' ∨ b' ≤ a) : LF (min a a') (max b b') (L1 ++ M ++ L2) := by
  obtain ⟨ns, e, nd, hr⟩ := h
  obtain ⟨ms, rfl, md, mr⟩ := hM
  -- split the number list along the two parts
  have e1 : L1 = (ns.take L1.length).map (fun n => R (.lab n)) := by
    have := congrArg (List.take L1.length) e
    rwa [List.take_left' rfl, ← List.map_take] at this
  have e2 : L2 = (ns.drop L1.length).map (fun n => R (.lab n)) := by
    have := congrArg (List.drop L1.length) e
    rwa [List.drop_left' rfl, ← List.map_drop] at this
  have hnd : (ns.take L1.length ++ ns.drop L1.length).Nodup := by rwa [List.take_append_drop]
  have ht : ∀ n ∈ ns.take L1.length, a < n ∧ n ≤ b := fun n hn => hr n (List.mem_of_mem_take hn)
  have hd : ∀ n ∈ ns.drop L1.length, a < n ∧ n ≤ b := fun n hn => hr n (List.mem_of_mem_drop hn)
  generalize ns.take L1.length = n1 at e1 hnd ht
  generalize ns.drop L1.length = n2 at e2 hnd hd
  rw [List.nodup_append] at hnd
  refine ⟨n1 ++ ms ++ n2, by rw [List.map_append, List.map_append, ← e1, ← e2], ?_, ?_⟩
  · rw [List.nodup_append, List.nodup_append]
    refine ⟨⟨hnd.1, md, fun x hx y hy exy => ?_⟩, hnd.2.1, fun x hx y hy exy => ?_⟩
    · have := ht x hx
      have := mr y hy
      omega
    · rcases List.mem_append.1 hx with hx | hx
      · exact hnd.2.2 x hx y hy exy
      · have := mr x hx
        have := hd y hy
        omega
  · intro n hn
    rcases List.mem_append.1 hn with hn | hn
    · rcases List.mem_append.1 hn with hn | hn
      · have := ht n hn; omega
      · have := mr n hn; omega
    · have := hd n hn; omega

theorem LF.append {a b c : Nat} {L1 L2 : List String} (h1 : LF a b L1) (h2 : LF b c L2) (hab : a ≤ b)
    (hbc : b ≤ c) : LF a c (L1 ++ L2) := by
  have := (LF.insert (L1 := []) h2 h1 (Or.inr (Nat.le_refl _))).mono (lo' := a) (hi' := c) (by omega) (by omega)
  rwa [List.nil_append] at this

/-- the same with the two parts in the other order in the code -/
theorem LF.append' {a b c : Nat} {L1 L2 : List String} (h1 : LF a b L1) (h2 : LF b c L2) (hab : a ≤ b)
    (hbc : b ≤ c) : LF a c (L2 ++ L1) := by
  have := (LF.insert (L1 := L2) (L2 := []) (by rwa [List.append_nil]) h1 (Or.inr (Nat.le_refl _))).mono
    (lo' := a) (hi' := c) (by omega) (by omega)
  rwa [List.append_nil] at this

theorem LF.single (k : Nat) : LF k (k + 1) [R (.lab (k + 1))] :=
  ⟨[k + 1], rfl, by simp, fun n hn => by simp at hn; omega⟩

/-- the labels of pairwise distinct offsets from the counter -/
theorem LF.offsets (k b : Nat) (is : List Nat) (hd : is.Nodup) (hr : ∀ i ∈ is, 0 < i ∧ i ≤ b) :
    LF k (k + b) (is.map fun i => R (.lab (k + i))) := by
  refine ⟨is.map (k + ·), by rw [List.map_map]; rfl,
    nodup_map_of_inj_on _ is (fun a _ b _ h => Nat.add_left_cancel h) hd, fun n hn => ?_⟩
  obtain ⟨i, hi, rfl⟩ := List.mem_map.1 hn
  have := hr i hi
  omega

/-- the labels of `if_zero_then_else`: the branches' labels come from `(a, k]`, the two new labels are those of
`k + 1` and `k + 2` -/
theorem LF.ifZeroThenElse {a k : Nat} {L1 L2 : List String} (h : LF a k (L1 ++ L2)) (hak : a ≤ k) :
    LF a (k + 2) (L1 ++ R (.lab (k + 1)) :: (L2 ++ [R (.lab (k + 2))])) := by
  have h1 := (LF.insert h (LF.single k) (Or.inl (Nat.le_refl _))).mono (lo' := a) (hi' := k + 1) (by omega) (by omega)
  have h2 := h1.append (LF.single (k + 1)) (by omega) (by omega)
  simpa [List.append_assoc] using h2

/-- the labels `L`, generated from counter `k` to `k'` -/
def LFC (k k' : Nat) (L : List String) : Prop := k ≤ k' ∧ LF k k' L

theorem LFC.nil (k : Nat) : LFC k k [] := ⟨Nat.le_refl _, LF.nil _ _⟩

theorem LFC.append {a b c : Nat} {L1 L2 : List String} (h1 : LFC a b L1) (h2 : LFC b c L2) :
    LFC a c (L1 ++ L2) :=
  ⟨Nat.le_trans h1.1 h2.1, h1.2.append h2.2 h1.1 h2.1⟩

/-! ## Part 1b: structured labels -/

/-- the labels `L` are the renderings of pairwise distinct structured labels, each either one of the special
labels `S` or a generated label with a number in `(a, b]`; the xtor names of clause labels are in `X` -/
def G (S : List Lbl) (X : List String) (a b : Nat) (L : List String) : Prop :=
  a ≤ b ∧ ∃ ls : List Lbl, L = ls.map R ∧ ls.Nodup ∧ (∀ l ∈ ls, l ∈ S ∨ InRange a b l) ∧
    ∀ l ∈ ls, ∀ x, l.xtor? = some x → x ∈ X

/-- the special labels are not generated labels with a number above `a` -/
def Below (a : Nat) (S : List Lbl) : Prop := ∀ l ∈ S, ∀ n, l.num = some n → n ≤ a

theorem Below.not_inRange {a b c : Nat} {S : List Lbl} (h : Below a S) {l : Lbl} (hl : l ∈ S) (hab : a ≤ b)
    (hr : InRange b c l) : False := by
  obtain ⟨k, hk, h1, _⟩ := hr
  have := h l hl k hk
  omega

theorem Below.nil (a : Nat) : Below a [] := fun _ h => absurd h List.not_mem_nil

theorem Below.cons {a : Nat} {l : Lbl} {S : List Lbl} (hn : ∀ n, l.num = some n → n ≤ a) (h : Below a S) :
    Below a (l :: S) := by
  intro l' hl'
  rcases List.mem_cons.1 hl' with rfl | hl'
  · exact hn
  · exact h l' hl'

theorem G.nil (X : List String) (a : Nat) : G [] X a a [] :=
  ⟨Nat.le_refl _, [], rfl, List.nodup_nil, fun _ h => absurd h List.not_mem_nil, fun _ h => absurd h List.not_mem_nil⟩

theorem G.monoX {S : List Lbl} {X X' : List String} {a b : Nat} {L : List String} (h : G S X a b L)
    (hX : ∀ x ∈ X, x ∈ X') : G S X' a b L := by
  obtain ⟨hab, ls, e, nd, r, hx⟩ := h
  exact ⟨hab, ls, e, nd, r, fun l hl x hlx => hX x (hx l hl x hlx)⟩

theorem G.monoS {S S' : List Lbl} {X : List String} {a b : Nat} {L : List String} (h : G S X a b L)
    (hS : ∀ l ∈ S, l ∈ S') : G S' X a b L := by
  obtain ⟨hab, ls, e, nd, r, hx⟩ := h
  exact ⟨hab, ls, e, nd, fun l hl => (r l hl).imp (hS l) id, hx⟩

theorem G.widen {S : List Lbl} {X : List String} {a b a' b' : Nat} {L : List String} (h : G S X a b L)
    (h1 : a' ≤ a) (h2 : b ≤ b') : G S X a' b' L := by
  obtain ⟨hab, ls, e, nd, r, hx⟩ := h
  exact ⟨by omega, ls, e, nd, fun l hl => (r l hl).imp id (fun h => h.mono h1 h2), hx⟩

/-- two pieces of code generated one after the other, standing in the code in either order -/
theorem G.append_or {S1 S2 : List Lbl} {X : List String} {a b c : Nat} {L1 L2 L : List String}
    (h1 : G S1 X a b L1) (h2 : G S2 X b c L2) (hd : ∀ l ∈ S1, ∀ l' ∈ S2, l ≠ l')
    (hb1 : Below a S1) (hb2 : Below a S2) (hL : L = L1 ++ L2 ∨ L = L2 ++ L1) : G (S1 ++ S2) X a c L := by
  obtain ⟨hab, l1, e1, d1, r1, x1⟩ := h1
  obtain ⟨hbc, l2, e2, d2, r2, x2⟩ := h2
  have hdis : ∀ x ∈ l1, ∀ y ∈ l2, x ≠ y := by
    intro x hx y hy e
    subst e
    rcases r1 x hx with hs1 | hr1
    · rcases r2 x hy with hs2 | hr2
      · exact hd x hs1 x hs2 rfl
      · exact hb1.not_inRange hs1 hab hr2
    · rcases r2 x hy with hs2 | hr2
      · exact hb2.not_inRange hs2 (Nat.le_refl _) hr1
      · exact hr1.disjoint hr2 (Nat.le_refl _)
  have hr1 : ∀ l ∈ l1, l ∈ S1 ++ S2 ∨ InRange a c l := fun l h =>
    (r1 l h).imp (fun h => List.mem_append_left _ h) (fun h => h.mono (Nat.le_refl _) hbc)
  have hr2 : ∀ l ∈ l2, l ∈ S1 ++ S2 ∨ InRange a c l := fun l h =>
    (r2 l h).imp (fun h => List.mem_append_right _ h) (fun h => h.mono hab (Nat.le_refl _))
  rcases hL with rfl | rfl
  · refine ⟨by omega, l1 ++ l2, by rw [e1, e2, List.map_append], List.nodup_append.2 ⟨d1, d2, hdis⟩, ?_, ?_⟩
    · exact fun l hl => (List.mem_append.1 hl).elim (hr1 l) (hr2 l)
    · exact fun l hl => (List.mem_append.1 hl).elim (x1 l) (x2 l)
  · refine ⟨by omega, l2 ++ l1, by rw [e1, e2, List.map_append],
      List.nodup_append.2 ⟨d2, d1, fun y hy x hx e => hdis x hx y hy e.symm⟩, ?_, ?_⟩
    · exact fun l hl => (List.mem_append.1 hl).elim (hr2 l) (hr1 l)
    · exact fun l hl => (List.mem_append.1 hl).elim (x2 l) (x1 l)

theorem G.append {S1 S2 : List Lbl} {X : List String} {a b c : Nat} {L1 L2 : List String}
    (h1 : G S1 X a b L1) (h2 : G S2 X b c L2) (hd : ∀ l ∈ S1, ∀ l' ∈ S2, l ≠ l')
    (hb1 : Below a S1) (hb2 : Below a S2) : G (S1 ++ S2) X a c (L1 ++ L2) :=
  G.append_or h1 h2 hd hb1 hb2 (Or.inl rfl)

theorem G.app0 {X : List String} {a b c : Nat} {L1 L2 : List String} (h1 : G [] X a b L1) (h2 : G [] X b c L2) :
    G [] X a c (L1 ++ L2) :=
  G.append h1 h2 (fun _ h => absurd h List.not_mem_nil) (Below.nil _) (Below.nil _)

/-- special labels whose numbers lie in the range are ordinary generated labels -/
theorem G.toRange {S : List Lbl} {X : List String} {a b a0 : Nat} {L : List String} (h : G S X a b L)
    (h0 : a0 ≤ a) (hS : ∀ l ∈ S, InRange a0 b l) : G [] X a0 b L := by
  obtain ⟨hab, ls, e, nd, r, hx⟩ := h
  refine ⟨by omega, ls, e, nd, ?_, hx⟩
  intro l hl
  rcases r l hl with h | h
  · exact Or.inr (hS l h)
  · exact Or.inr (h.mono h0 (Nat.le_refl _))

theorem G.lab (l : Lbl) (X : List String) (a : Nat) (hx : ∀ x, l.xtor? = some x → x ∈ X) : G [l] X a a [R l] :=
  ⟨Nat.le_refl _, [l], rfl, by simp, fun l' hl' => Or.inl hl', fun l' hl' x hlx => by
    simp only [List.mem_singleton] at hl'
    subst hl'
    exact hx x hlx⟩

/-- a special label in front of code generated with further special labels -/
theorem G.cons {l : Lbl} {S : List Lbl} {X : List String} {a b : Nat} {L : List String} (h : G S X a b L)
    (hl : l ∉ S) (hn : ∀ n, l.num = some n → n ≤ a) (hS : Below a S) (hx : ∀ x, l.xtor? = some x → x ∈ X) :
    G (l :: S) X a b (R l :: L) :=
  G.append (G.lab l X a hx) h (fun l1 h1 l2 h2 e => by
    rw [List.mem_singleton.1 h1] at e
    exact hl (e ▸ h2)) (Below.cons (S := []) hn (Below.nil _)) hS

/-- local labels drawn from the counter are generated labels, with no special ones -/
theorem G.ofLFC {a b : Nat} {L : List String} (h : LFC a b L) (X : List String) : G [] X a b L := by
  obtain ⟨hab, ns, e, nd, hr⟩ := h
  refine ⟨hab, ns.map Lbl.lab, by rw [e, List.map_map]; rfl, ?_, ?_, ?_⟩
  · exact nodup_map_of_inj_on Lbl.lab ns (fun a _ b _ h => by injection h) nd
  · intro l hl
    obtain ⟨n, hn, rfl⟩ := List.mem_map.1 hl
    have := hr n hn
    exact Or.inr ⟨n, rfl, this.1, this.2⟩
  · intro l hl x hlx
    obtain ⟨n, hn, rfl⟩ := List.mem_map.1 hl
    cases hlx

/-- a label of the fresh number `k + 1` between two pieces generated after it; the special labels of the second
piece carry the same number -/
theorem G.fresh {l : Lbl} {S : List Lbl} {X : List String} {k a b : Nat} {L1 L2 : List String}
    (h1 : G [] X (k + 1) a L1) (h2 : G S X a b L2) (hl : l.num = some (k + 1)) (hx : l.xtor? = none)
    (hS : ∀ l' ∈ S, l'.num = some (k + 1) ∧ l' ≠ l) : G [] X k b (L1 ++ R l :: L2) := by
  have hka := h1.1
  have hbS : Below a S := fun l' hl' n hn => by
    rw [(hS l' hl').1] at hn
    cases hn
    exact hka
  have g2 := G.cons (l := l) h2 (fun h => (hS l h).2 rfl) (fun n hn => by rw [hl] at hn; cases hn; exact hka) hbS
    (fun x hx' => by rw [hx] at hx'; cases hx')
  have g := G.append h1 g2 (fun _ h => absurd h List.not_mem_nil) (Below.nil _) (by
    refine Below.cons (fun n hn => ?_) (fun l' hl' n hn => ?_)
    · rw [hl] at hn; cases hn; exact Nat.le_refl _
    · rw [(hS l' hl').1] at hn; cases hn; exact Nat.le_refl _)
  refine g.toRange (Nat.le_succ k) fun l' hl' => ⟨k + 1, ?_, Nat.lt_succ_self k, Nat.le_trans hka h2.1⟩
  rcases List.mem_cons.1 hl' with rfl | hl'
  · exact hl
  · exact (hS l' hl').1

/-! ## Part 2: the code of the generic generator -/

section Walk
variable {Code T : Type}

/-- the labels defined by a code list, `dfn c` being the label the item `c` defines -/
def labs (dfn : Code → Option String) (items : List Code) : List String := items.filterMap dfn

theorem labs_nil (dfn : Code → Option String) : labs dfn [] = [] := rfl

theorem labs_append (dfn : Code → Option String) (a b : List Code) : labs dfn (a ++ b) = labs dfn a ++ labs dfn b :=
  List.filterMap_append

theorem labs_cons_some {dfn : Code → Option String} {c : Code} {l : String} (h : dfn c = some l) (r : List Code) :
    labs dfn (c :: r) = l :: labs dfn r := List.filterMap_cons_some h

theorem labs_cons_none {dfn : Code → Option String} {c : Code} (h : dfn c = none) (r : List Code) :
    labs dfn (c :: r) = labs dfn r := List.filterMap_cons_none h

theorem labs_flatten_nil {dfn : Code → Option String} {ls : List (List Code)} (h : ∀ l ∈ ls, labs dfn l = []) :
    labs dfn ls.flatten = [] := by
  induction ls with
  | nil => rfl
  | cons a r ih =>
    rw [List.flatten_cons, labs_append, h a (List.mem_cons_self ..), ih fun l hl => h l (List.mem_cons_of_mem _ hl)]
    rfl

def Keeps {α : Type} (m : GenM α) : Prop := ∀ k a k', m.run k = .ok (a, k') → k' = k

theorem Keeps.pure {α : Type} (a : α) : Keeps (pure a : GenM α) := fun k r k' h =>
  ((run_pure_ok a k r k').1 h).2.symm

theorem Keeps.bind {α β : Type} {m : GenM α} {f : α → GenM β} (h1 : Keeps m) (h2 : ∀ a, Keeps (f a)) :
    Keeps (m >>= f) := by
  intro k r k' h
  obtain ⟨a, k1, ha, hf⟩ := (run_bind_ok m f k r k').1 h
  rw [h2 a k1 r k' hf, h1 k a k1 ha]

theorem keeps_mapMGen {α β : Type} {f : α → GenM β} (h : ∀ a, Keeps (f a)) : ∀ l : List α, Keeps (mapMGen f l)
  | [] => Keeps.pure _
  | a :: as => (h a).bind fun _ => (keeps_mapMGen h as).bind fun _ => Keeps.pure _

/-- what each method of a backend does to labels, `dfn c` being the label the item `c` defines: `label l`
defines exactly `l`; the other instruction methods define none; the memory methods and `print_i64` (monadic)
define only local labels drawn from the counter (`LFC`); `variable_temporary` leaves the counter alone -/
structure LabOps (B : Backend Code T) (dfn : Code → Option String) : Prop where
  comment : ∀ m, dfn (B.comment m) = none
  label : ∀ l, dfn (B.label l) = some l
  jump : ∀ t, labs dfn (B.jump t) = []
  jumpLabel : ∀ l, labs dfn (B.jumpLabel l) = []
  jumpLabelFixed : ∀ l, labs dfn (B.jumpLabelFixed l) = []
  jumpLabelIf : ∀ s a b l, labs dfn (B.jumpLabelIf s a b l) = []
  jumpLabelIfZero : ∀ s a l, labs dfn (B.jumpLabelIfZero s a l) = []
  loadImmediate : ∀ t n, labs dfn (B.loadImmediate t n) = []
  loadLabel : ∀ t l, labs dfn (B.loadLabel t l) = []
  addAndJump : ∀ t n, labs dfn (B.addAndJump t n) = []
  binop : ∀ o t a b, labs dfn (B.binop o t a b) = []
  mov : ∀ t s, labs dfn (B.mov t s) = []
  storeTemporary : ∀ t sp, labs dfn (B.storeTemporary t sp) = []
  restoreTemporary : ∀ t sp, labs dfn (B.restoreTemporary t sp) = []
  variableTemporary : ∀ n Γ id, Keeps (B.variableTemporary n Γ id)
  printI64 : ∀ nl t Γ k code k', (B.printI64 nl t Γ).run k = .ok (code, k') → LFC k k' (labs dfn code)
  eraseBlock : ∀ t k code k', (B.eraseBlock t).run k = .ok (code, k') → LFC k k' (labs dfn code)
  shareBlockN : ∀ t n k code k', (B.shareBlockN t n).run k = .ok (code, k') → LFC k k' (labs dfn code)
  store : ∀ a b k code k', (B.store a b).run k = .ok (code, k') → LFC k k' (labs dfn code)
  load : ∀ a b k code k', (B.load a b).run k = .ok (code, k') → LFC k k' (labs dfn code)

variable {B : Backend Code T} {dfn : Code → Option String}

theorem LabOps.labs_label (S : LabOps B dfn) (l : String) (r : List Code) : labs dfn (B.label l :: r) = l :: labs dfn r :=
  labs_cons_some (S.label l) r

theorem LabOps.labs_comment (S : LabOps B dfn) (m : String) (r : List Code) : labs dfn (B.comment m :: r) = labs dfn r :=
  labs_cons_none (S.comment m) r

theorem LabOps.labs_hook (S : LabOps B dfn) (hooks : Bool) (Γ : Ctx) : labs dfn (hookCode B hooks Γ) = [] := by
  unfold hookCode
  split
  · exact S.labs_comment _ []
  · rfl

theorem labs_codeTable (S : LabOps B dfn) (base : String) : ∀ (cs : Clauses), labs dfn (codeTable B cs base) = []
  | .nil => rfl
  | .cons x _ _ rest => by
    rw [codeTable, labs_append, S.jumpLabelFixed, labs_codeTable S base rest]
    rfl

theorem labs_tableIf (S : LabOps B dfn) (base : String) (cs : Clauses) :
    labs dfn (if cs.length > 1 then codeTable B cs base else []) = [] := by
  split
  · exact labs_codeTable S base cs
  · rfl

/-! ### substitution.rs -/

mutual
  theorem labs_treeMoves (S : LabOps B dfn) (t : T) (sp : Bool) :
      ∀ (tr : Tree T), labs dfn (treeMoves B t sp tr) = []
    | .backEdge => by rw [treeMoves]; exact S.storeTemporary _ _
    | .node target kids => by
      rw [treeMoves, labs_append, labs_treeMovesList S target sp kids, S.mov]
      rfl
  theorem labs_treeMovesList (S : LabOps B dfn) (t : T) (sp : Bool) :
      ∀ (trs : List (Tree T)), labs dfn (treeMovesList B t sp trs) = []
    | [] => by rw [treeMovesList]; rfl
    | k :: ks => by
      rw [treeMovesList, labs_append, labs_treeMoves S t sp k, labs_treeMovesList S t sp ks]
      rfl
end

theorem labs_rootMoves (S : LabOps B dfn) : ∀ (r : Root T), labs dfn (rootMoves B r) = []
  | .startNode t kids => by
    simp only [rootMoves]
    rw [labs_append, labs_treeMovesList S]
    split
    · exact S.restoreTemporary _ _
    · rfl

theorem labs_parallelMoves (S : LabOps B dfn) {conns : List (T × List T)} {code : List Code} (h : parallelMoves B conns = .ok code) :
    labs dfn code = [] := by
  unfold parallelMoves at h
  split at h
  · cases h
  · rename_i forest _
    cases h
    rw [labs_append, labs_flatten_nil fun l hl => ?_, List.append_nil]
    · split
      · exact S.labs_comment _ []
      · rfl
    · obtain ⟨r, _, rfl⟩ := List.mem_map.1 hl
      exact labs_rootMoves S r

theorem keeps_connections_go (S : LabOps B dfn) (Γ newΓ : Ctx) : ∀ (tm : List (Binding × List Nat)) (acc : List (T × List T)),
    Keeps (connections.go B Γ newΓ tm acc)
  | [], acc => Keeps.pure _
  | (b, targets) :: rest, acc => by
    rw [connections.go]
    have vt := S.variableTemporary
    split
    · exact (vt _ _ _).bind fun _ => (keeps_mapMGen (fun _ => vt _ _ _) _).bind fun _ =>
        keeps_connections_go S Γ newΓ rest _
    · exact (vt _ _ _).bind fun _ => (keeps_mapMGen (fun _ => vt _ _ _) _).bind fun _ =>
        (vt _ _ _).bind fun _ => (keeps_mapMGen (fun _ => vt _ _ _) _).bind fun _ =>
          keeps_connections_go S Γ newΓ rest _

theorem codeExchange_nl (S : LabOps B dfn) {tm : List (Binding × List Nat)} {Γ newΓ : Ctx} {k : Nat} {code : List Code} {k' : Nat}
    (h : (codeExchange B tm Γ newΓ).run k = .ok (code, k')) : k' = k ∧ labs dfn code = [] := by
  unfold codeExchange connections at h
  simp only [run_bind_ok] at h
  obtain ⟨conns, k1, h1, h2⟩ := h
  have := keeps_connections_go S Γ newΓ tm [] k conns k1 h1
  subst this
  cases hpm : parallelMoves B conns with
  | error e => rw [hpm] at h2; exact ((run_throw_ok _ _ _ _).1 h2).elim
  | ok code' =>
    rw [hpm] at h2
    obtain ⟨rfl, rfl⟩ := (run_pure_ok _ _ _ _).1 h2
    exact ⟨rfl, labs_parallelMoves S hpm⟩

theorem urc_lfc (S : LabOps B dfn) {var : Ident} {Γ : Ctx} {n k : Nat} {code : List Code} {k' : Nat}
    (h : (updateReferenceCount B var Γ n).run k = .ok (code, k')) : LFC k k' (labs dfn code) := by
  unfold updateReferenceCount at h
  simp only [run_bind_ok] at h
  obtain ⟨t, k1, ht, h⟩ := h
  have := S.variableTemporary _ _ _ _ _ _ ht
  subst this
  match n with
  | 0 =>
    simp only [run_bind_ok, run_pure_ok] at h
    obtain ⟨cd, k2, hcd, rfl, rfl⟩ := h
    rw [S.labs_comment]
    exact S.eraseBlock _ _ _ _ hcd
  | 1 =>
    simp only [run_pure_ok] at h
    obtain ⟨rfl, rfl⟩ := h
    exact LFC.nil _
  | m + 2 =>
    simp only [run_bind_ok, run_pure_ok] at h
    obtain ⟨cd, k2, hcd, rfl, rfl⟩ := h
    rw [S.labs_comment]
    exact S.shareBlockN _ _ _ _ _ hcd

theorem cwc_lfc (S : LabOps B dfn) (Γ : Ctx) : ∀ (tm : List (Binding × List Nat)) (k : Nat) (code : List Code) (k' : Nat),
    (codeWeakeningContraction B tm Γ).run k = .ok (code, k') → LFC k k' (labs dfn code)
  | [], k, code, k', h => by
    simp only [codeWeakeningContraction, run_pure_ok] at h
    obtain ⟨rfl, rfl⟩ := h
    exact LFC.nil _
  | (b, targets) :: rest, k, code, k', h => by
    simp only [codeWeakeningContraction, run_bind_ok, run_pure_ok] at h
    obtain ⟨c1, k1, h1, c2, k2, h2, rfl, rfl⟩ := h
    have l1 : LFC k k1 (labs dfn c1) := by
      split at h1
      · exact urc_lfc S h1
      · simp only [run_pure_ok] at h1
        obtain ⟨rfl, rfl⟩ := h1
        exact LFC.nil _
    rw [labs_append]
    exact l1.append (cwc_lfc S Γ rest _ _ _ h2)

def clauseLbls (m : String) (n : Nat) (cs : Clauses) : List Lbl := (xtorNames cs).map (Lbl.clause m n)

theorem below_clauseLbls {m : String} {n a : Nat} (h : n ≤ a) (cs : Clauses) : Below a (clauseLbls m n cs) := by
  intro l hl k hk
  obtain ⟨x, _, rfl⟩ := List.mem_map.1 hl
  cases hk
  exact h

/-- the table label of the fresh number `k + 1`, standing between code generated after it and the clauses -/
theorem G.table {m : String} {cs : Clauses} {X : List String} {k a b : Nat} {L1 L2 : List String}
    (h1 : G [] X (k + 1) a L1) (h2 : G (clauseLbls m (k + 1) cs) X a b L2) :
    G [] X k b (L1 ++ R (.base m (k + 1)) :: L2) :=
  G.fresh h1 h2 rfl rfl fun l' hl' => by
    obtain ⟨x, _, rfl⟩ := List.mem_map.1 hl'
    exact ⟨rfl, fun e => by cases e⟩

/-- one clause: its label, the loads, the body; then the remaining clauses -/
theorem G.clause {m : String} {n k k1 k2 k3 : Nat} {x : Ident} {cctx : Ctx} {body : Stmt} {rest : Clauses}
    {L1 L2 L3 : List String} (l1 : LFC k k1 L1) (g2 : G [] (stmtXtorNames body) k1 k2 L2)
    (g3 : G (clauseLbls m n rest) (xtorNames rest ++ clausesXtorNames rest) k2 k3 L3)
    (hx : x.print ∉ xtorNames rest) (hn : n ≤ k) :
    G (clauseLbls m n (.cons x cctx body rest))
      (xtorNames (.cons x cctx body rest) ++ clausesXtorNames (.cons x cctx body rest)) k k3
      (R (.clause m n x.print) :: (L1 ++ (L2 ++ L3))) := by
  have hk1 := l1.1
  have hk2 := g2.1
  generalize hX : xtorNames (.cons x cctx body rest) ++ clausesXtorNames (.cons x cctx body rest) = X
  have g2' : G [] X k1 k2 L2 := g2.monoX fun y hy => by
    rw [← hX]; simp only [clausesXtorNames, xtorNames, List.mem_append, List.mem_cons]
    exact Or.inr (Or.inl hy)
  have g3' : G (clauseLbls m n rest) X k2 k3 L3 := g3.monoX fun y hy => by
    rw [← hX]; simp only [clausesXtorNames, xtorNames, List.mem_append, List.mem_cons] at hy ⊢
    rcases hy with hy | hy
    · exact Or.inl (Or.inr hy)
    · exact Or.inr (Or.inr hy)
  have nodisj : ∀ l ∈ ([] : List Lbl), ∀ l' ∈ clauseLbls m n rest, l ≠ l' := fun _ h => absurd h List.not_mem_nil
  have g23 := G.append g2' g3' nodisj (Below.nil _) (below_clauseLbls (by omega) _)
  have g123 := G.append (G.ofLFC l1 X) g23 nodisj (Below.nil _) (below_clauseLbls hn _)
  refine G.cons (l := .clause m n x.print) g123 (fun hm => ?_) (fun _ h => by cases h; exact hn)
    (below_clauseLbls hn _) (fun y hy => by cases hy; rw [← hX]; simp [xtorNames])
  obtain ⟨y, hy, e⟩ := List.mem_map.1 hm
  injection e with _ _ e
  exact hx (e ▸ hy)

section
variable (S : LabOps B dfn) (hooks : Bool) (types : List TypeDecl)
include S

mutual
theorem g_stmt : ∀ (s : Stmt) (Γ : Ctx) (k : Nat) (items : List Code) (k' : Nat),
    (codeStatementR B hooks natRen types s Γ).run k = .ok (items, k') → stmtXtorsDistinct s = true →
    G [] (stmtXtorNames s) k k' (labs dfn items)
  | .subst pairs next => fun Γ k items k' h hx => by
    simp only [codeStatementR, run_bind_ok, run_pure_ok] at h
    obtain ⟨c1, k1, h1, c2, k2, h2, c3, k3, h3, rfl, rfl⟩ := h
    obtain ⟨rfl, n2⟩ := codeExchange_nl S h2
    simp only [stmtXtorsDistinct] at hx
    simp only [stmtXtorNames, labs_append, S.labs_hook, S.labs_comment, n2, labs_nil, List.nil_append,
      List.append_nil]
    exact (G.ofLFC (cwc_lfc S Γ _ _ _ _ h1) _).app0 (g_stmt next _ _ _ _ h3 hx)
  | .call l args => fun Γ k items k' h hx => by
    simp only [codeStatementR, run_pure_ok] at h
    obtain ⟨rfl, rfl⟩ := h
    simp only [labs_append, S.labs_hook, S.labs_comment, S.jumpLabel, labs_nil, List.nil_append]
    exact G.nil _ _
  | .letS x ty tag args next fv => fun Γ k items k' h hx => by
    simp only [codeStatementR, run_bind_ok, run_pure_ok, lookupTypeDeclM_run_ok, xtorPositionM_run_ok,
      splitOffLast_run_ok] at h
    obtain ⟨decl, k1, ⟨_, rfl⟩, pos, k2, ⟨_, rfl⟩, sp, k3, ⟨_, rfl, rfl⟩, c1, k4, h1, t, k5, h5, c3, k6, h3,
      rfl, rfl⟩ := h
    have := S.variableTemporary _ _ _ _ _ _ h5
    subst this
    simp only [stmtXtorsDistinct] at hx
    simp only [stmtXtorNames, labs_append, S.labs_hook, S.labs_comment, S.loadImmediate, labs_nil, List.nil_append,
      List.append_nil]
    exact (G.ofLFC (S.store _ _ _ _ _ h1) _).app0 (g_stmt next _ _ _ _ h3 hx)
  | .switch x ty clauses fv => fun Γ k items k' h hx => by
    simp only [codeStatementR, run_bind_ok, run_pure_ok, freshLabelStr_run_ok] at h
    obtain ⟨num, k1, ⟨rfl, rfl⟩, c1, k2, h1, c3, k3, h3, rfl, rfl⟩ := h
    simp only [stmtXtorsDistinct, Bool.and_eq_true, decide_eq_true_eq] at hx
    have hc1 : k2 = k + 1 ∧ labs dfn c1 = [] := by
      split at h1
      · simp only [run_pure_ok] at h1
        obtain ⟨rfl, rfl⟩ := h1
        exact ⟨rfl, S.labs_comment _ []⟩
      · simp only [run_bind_ok, run_pure_ok] at h1
        obtain ⟨t, k4, h4, rfl, rfl⟩ := h1
        have := S.variableTemporary _ _ _ _ _ _ h4
        subst this
        exact ⟨rfl, by rw [labs_append, labs_append, S.loadLabel, S.binop, S.jump]; rfl⟩
    obtain ⟨rfl, n1⟩ := hc1
    have g3 := g_clauses (mangleTy ty) (k + 1) clauses _ _ _ _ h3 hx.1 hx.2 (Nat.le_refl _)
    simp only [stmtXtorNames, labs_append, S.labs_hook, S.labs_comment, S.labs_label, n1, labs_tableIf S, labs_nil,
      List.nil_append, List.cons_append]
    exact G.table (G.nil _ _) g3
  | .create x ty env clauses next f1 f2 => fun Γ k items k' h hx => by
    cases env with
    | none =>
      simp only [codeStatementR] at h
      exact ((run_throw_ok _ _ _ _).1 h).elim
    | some envCtx =>
      simp only [codeStatementR, run_bind_ok, run_pure_ok, freshLabelStr_run_ok, splitOffLast_run_ok] at h
      obtain ⟨sp, k1, ⟨_, rfl, rfl⟩, c1, k2, h1, num, k3, ⟨rfl, rfl⟩, t, k4, h4, c3, k5, h3, c5, k6, h5,
        rfl, rfl⟩ := h
      have := S.variableTemporary _ _ _ _ _ _ h4
      subst this
      simp only [stmtXtorsDistinct, Bool.and_eq_true, decide_eq_true_eq] at hx
      have g3 := g_stmt next _ _ _ _ h3 hx.1
      have g5 := g_methods (mangleTy ty) (k2 + 1) clauses _ _ _ _ h5 hx.2.1 hx.2.2 g3.1
      simp only [stmtXtorNames, labs_append, S.labs_hook, S.labs_comment, S.labs_label, S.loadLabel, labs_tableIf S,
        List.nil_append, List.cons_append, List.append_assoc]
      exact (G.ofLFC (S.store _ _ _ _ _ h1) _).app0
        (G.table (g3.monoX fun _ h => List.mem_append_left _ h) (g5.monoX fun _ h => List.mem_append_right _ h))
  | .invoke x tag ty args => fun Γ k items k' h hx => by
    simp only [codeStatementR, run_bind_ok, lookupTypeDeclM_run_ok] at h
    obtain ⟨t, k1, h1, decl, k2, ⟨_, rfl⟩, h2⟩ := h
    have := S.variableTemporary _ _ _ _ _ _ h1
    subst this
    split at h2
    · simp only [run_pure_ok] at h2
      obtain ⟨rfl, rfl⟩ := h2
      simp only [labs_append, S.labs_hook, S.labs_comment, S.jump, labs_nil, List.nil_append]
      exact G.nil _ _
    · simp only [run_bind_ok, run_pure_ok, xtorPositionM_run_ok] at h2
      obtain ⟨pos, k3, ⟨_, rfl⟩, rfl, rfl⟩ := h2
      simp only [labs_append, S.labs_hook, S.labs_comment, S.addAndJump, labs_nil, List.nil_append]
      exact G.nil _ _
  | .lit x n next fv => fun Γ k items k' h hx => by
    simp only [codeStatementR, run_bind_ok, run_pure_ok] at h
    obtain ⟨t, k1, h1, c2, k2, h2, rfl, rfl⟩ := h
    have := S.variableTemporary _ _ _ _ _ _ h1
    subst this
    simp only [stmtXtorsDistinct] at hx
    simp only [stmtXtorNames, labs_append, S.labs_hook, S.labs_comment, S.loadImmediate, labs_nil, List.nil_append]
    exact g_stmt next _ _ _ _ h2 hx
  | .op x a o b next fv => fun Γ k items k' h hx => by
    simp only [codeStatementR, run_bind_ok, run_pure_ok] at h
    obtain ⟨t, k1, h1, s1, k2, h2, s2, k3, h3, c2, k4, h4, rfl, rfl⟩ := h
    have := S.variableTemporary _ _ _ _ _ _ h1
    subst this
    have := S.variableTemporary _ _ _ _ _ _ h2
    subst this
    have := S.variableTemporary _ _ _ _ _ _ h3
    subst this
    simp only [stmtXtorsDistinct] at hx
    simp only [stmtXtorNames, labs_append, S.labs_hook, S.labs_comment, S.binop, labs_nil, List.nil_append]
    exact g_stmt next _ _ _ _ h4 hx
  | .print nl a next fv => fun Γ k items k' h hx => by
    simp only [codeStatementR, run_bind_ok, run_pure_ok] at h
    obtain ⟨t, k1, h1, c1, k2, h2, c2, k3, h3, rfl, rfl⟩ := h
    have := S.variableTemporary _ _ _ _ _ _ h1
    subst this
    simp only [stmtXtorsDistinct] at hx
    simp only [stmtXtorNames, labs_append, S.labs_hook, S.labs_comment, labs_nil, List.nil_append]
    exact (G.ofLFC (S.printI64 _ _ _ _ _ _ h2) _).app0 (g_stmt next _ _ _ _ h3 hx)
  | .ifc srt a b thenc elsec => fun Γ k items k' h hx => by
    simp only [codeStatementR, run_bind_ok, run_pure_ok, freshLabelStr_run_ok] at h
    obtain ⟨num, k1, ⟨rfl, rfl⟩, c1, k2, h1, c2, k3, h2, c3, k4, h3, rfl, rfl⟩ := h
    have hc1 : k2 = k + 1 ∧ labs dfn c1 = [] := by
      cases b with
      | none =>
        simp only [run_bind_ok, run_pure_ok] at h1
        obtain ⟨t, k5, h5, rfl, rfl⟩ := h1
        have := S.variableTemporary _ _ _ _ _ _ h5
        subst this
        exact ⟨rfl, S.jumpLabelIfZero _ _ _⟩
      | some b' =>
        simp only [run_bind_ok, run_pure_ok] at h1
        obtain ⟨t, k5, h5, t2, k6, h6, rfl, rfl⟩ := h1
        have := S.variableTemporary _ _ _ _ _ _ h5
        subst this
        have := S.variableTemporary _ _ _ _ _ _ h6
        subst this
        exact ⟨rfl, S.jumpLabelIf _ _ _ _⟩
    obtain ⟨rfl, n1⟩ := hc1
    simp only [stmtXtorsDistinct, Bool.and_eq_true] at hx
    have g2 := g_stmt elsec _ _ _ _ h2 hx.1
    have g3 := g_stmt thenc _ _ _ _ h3 hx.2
    simp only [stmtXtorNames, labs_append, S.labs_hook, S.labs_comment, S.labs_label, n1, List.nil_append,
      List.cons_append, List.append_assoc]
    exact G.fresh (l := .lab (k + 1)) (g2.monoX fun _ h => List.mem_append_left _ h)
      (g3.monoX fun _ h => List.mem_append_right _ h) rfl rfl (fun _ h => absurd h List.not_mem_nil)
  | .exit a => fun Γ k items k' h hx => by
    simp only [codeStatementR, run_bind_ok, run_pure_ok] at h
    obtain ⟨t, k1, h1, rfl, rfl⟩ := h
    have := S.variableTemporary _ _ _ _ _ _ h1
    subst this
    simp only [labs_append, S.labs_hook, S.labs_comment, S.mov, S.jumpLabel, labs_nil, List.nil_append]
    exact G.nil _ _
theorem g_clauses (m : String) (n : Nat) : ∀ (cs : Clauses) (Γ : Ctx) (k : Nat) (items : List Code) (k' : Nat),
    (codeClausesR B hooks natRen types Γ cs (m ++ "_" ++ natRen n)).run k = .ok (items, k') →
    (xtorNames cs).Nodup → clausesXtorsDistinct cs = true → n ≤ k →
    G (clauseLbls m n cs) (xtorNames cs ++ clausesXtorNames cs) k k' (labs dfn items)
  | .nil => fun Γ k items k' h _ _ _ => by
    simp only [codeClausesR, run_pure_ok] at h
    obtain ⟨rfl, rfl⟩ := h
    exact G.nil _ _
  | .cons x cctx body rest => fun Γ k items k' h hnd hx hn => by
    simp only [codeClausesR, run_bind_ok, run_pure_ok] at h
    obtain ⟨c1, k1, h1, c2, k2, h2, c3, k3, h3, rfl, rfl⟩ := h
    simp only [clausesXtorsDistinct, Bool.and_eq_true] at hx
    simp only [xtorNames, List.nodup_cons] at hnd
    have l1 := S.load _ _ _ _ _ h1
    have g2 := g_stmt body _ _ _ _ h2 hx.1
    have g3 := g_clauses m n rest _ _ _ _ h3 hnd.2 hx.2 (Nat.le_trans hn (Nat.le_trans l1.1 g2.1))
    simp only [labs_append, S.labs_label, List.cons_append, List.append_assoc]
    exact G.clause l1 g2 g3 hnd.1 hn
theorem g_methods (m : String) (n : Nat) : ∀ (cs : Clauses) (env : Ctx) (k : Nat) (items : List Code) (k' : Nat),
    (codeMethodsR B hooks natRen types env cs (m ++ "_" ++ natRen n)).run k = .ok (items, k') →
    (xtorNames cs).Nodup → clausesXtorsDistinct cs = true → n ≤ k →
    G (clauseLbls m n cs) (xtorNames cs ++ clausesXtorNames cs) k k' (labs dfn items)
  | .nil => fun env k items k' h _ _ _ => by
    simp only [codeMethodsR, run_pure_ok] at h
    obtain ⟨rfl, rfl⟩ := h
    exact G.nil _ _
  | .cons x cctx body rest => fun env k items k' h hnd hx hn => by
    simp only [codeMethodsR, run_bind_ok, run_pure_ok] at h
    obtain ⟨c1, k1, h1, c2, k2, h2, c3, k3, h3, rfl, rfl⟩ := h
    simp only [clausesXtorsDistinct, Bool.and_eq_true] at hx
    simp only [xtorNames, List.nodup_cons] at hnd
    have l1 := S.load _ _ _ _ _ h1
    have g2 := g_stmt body _ _ _ _ h2 hx.1
    have g3 := g_methods m n rest _ _ _ _ h3 hnd.2 hx.2 (Nat.le_trans hn (Nat.le_trans l1.1 g2.1))
    simp only [labs_append, S.labs_label, List.cons_append, List.append_assoc]
    exact G.clause l1 g2 g3 hnd.1 hn
end

end

def defnLbls (defs : List Def) : List Lbl := defs.map fun d => Lbl.defn d.name.print

theorem below_defnLbls (a : Nat) (defs : List Def) : Below a (defnLbls defs) := by
  intro l hl n hn
  obtain ⟨d, _, rfl⟩ := List.mem_map.1 hl
  cases hn

theorem g_defs (S : LabOps B dfn) (hooks : Bool) (types : List TypeDecl) : ∀ (defs : List Def) (k : Nat)
    (blocks : List (List Code)) (k' : Nat), (translateR B hooks natRen types defs).run k = .ok (blocks, k') →
    (defs.map (·.name.print)).Nodup → (∀ d ∈ defs, stmtXtorsDistinct d.body = true) →
    G (defnLbls defs) (defsXtorNames defs) k k' (labs dfn (assemble B blocks (defs.map (·.name))))
  | [], k, blocks, k', h, _, _ => by
    simp only [translateR, run_pure_ok] at h
    obtain ⟨rfl, rfl⟩ := h
    exact G.nil _ _
  | d :: ds, k, blocks, k', h, hnd, hx => by
    simp only [translateR, run_bind_ok, run_pure_ok] at h
    obtain ⟨is, k1, h1, rest, k2, h2, rfl, rfl⟩ := h
    simp only [List.map_cons, List.nodup_cons] at hnd
    have g1 := g_stmt S hooks types d.body _ _ _ _ h1 (hx d List.mem_cons_self)
    have g2 := g_defs S hooks types ds _ _ _ h2 hnd.2 (fun d' hd' => hx d' (List.mem_cons_of_mem _ hd'))
    have g12 := G.append (g1.monoX fun _ h => List.mem_append_left _ h) (g2.monoX fun _ h => List.mem_append_right _ h)
      (fun _ h => absurd h List.not_mem_nil) (Below.nil _) (below_defnLbls _ _)
    simp only [assemble, List.map_cons, S.labs_label, labs_append]
    refine G.cons (l := .defn d.name.print) g12 (fun hm => ?_) (fun _ h => by cases h) (below_defnLbls _ _)
      (fun _ h => by cases h)
    obtain ⟨d', hd', e⟩ := List.mem_map.1 hm
    injection e with e
    exact hnd.1 (List.mem_map.2 ⟨d', hd', e⟩)

open Scc.Props.C14Generic (LabelSafe progXtorNames)

/-- the body: the labels of the definitions and generated labels -/
theorem g_compile (S : LabOps B dfn) {hooks : Bool} {p : AxCut.Prog} {k : Nat} {body : List Code} {nargs k' : Nat}
    (hr : (compile B hooks p).run k = .ok ((body, nargs), k')) (hsafe : LabelSafe p = true) :
    G (defnLbls p.defs) (progXtorNames p) k k' (labs dfn body) := by
  simp only [LabelSafe, Bool.and_eq_true, decide_eq_true_eq, List.all_eq_true] at hsafe
  obtain ⟨⟨hd, hx⟩, _⟩ := hsafe
  unfold compile compileR at hr
  cases hdefs : p.defs with
  | nil => rw [hdefs] at hr; exact ((run_throw_ok _ _ _ _).1 hr).elim
  | cons d0 ds =>
    rw [hdefs] at hr
    simp only [run_bind_ok, run_pure_ok] at hr
    obtain ⟨blocks, k1, h1, e, rfl⟩ := hr
    injection e with e1 _
    rw [← e1]
    unfold progXtorNames
    rw [hdefs]
    exact g_defs S hooks p.types (d0 :: ds) k blocks k1 h1 (by rw [← hdefs]; exact hd)
      (fun d hd' => hx d (by rw [hdefs]; exact hd'))

end Walk

/-! ## the labels of the routine wrapper -/

theorem count_u_clause (m : String) (n : Nat) (x : String) : 2 ≤ (R (.clause m n x)).toList.count '_' := by
  show 2 ≤ (Lbl.render natRen (.clause m n x)).toList.count '_'
  rw [render_clause]
  simp only [List.count_append, List.count_cons_self]
  omega

theorem render_defn_ne {f : String} {s : String} (hs : s.toList.getLast? ≠ some '_') :
    Lbl.render natRen (.defn f) ≠ s := by
  intro h
  have := congrArg String.toList h
  rw [render_defn] at this
  have h2 := congrArg List.getLast? this
  simp at h2
  exact hs h2.symm

/-- a label of the body is not a name that has one `_`, not at its end, before a segment that is not a number -/
theorem R_ne_of_shape {l : Lbl} (hl : l ≠ .cleanup) {s : String} (h1 : s.toList.getLast? ≠ some '_')
    (h2 : '_' ∈ s.toList) (h3 : (lastSeg s.toList).all Char.isDigit = false) (h4 : s.toList.count '_' < 2) :
    R l ≠ s := by
  intro h
  have hl' : (Lbl.render natRen l).toList = s.toList := by rw [← h]
  cases l with
  | defn f => exact render_defn_ne h1 h
  | cleanup => exact hl rfl
  | lab n => exact u_not_mem_lab n (hl' ▸ h2)
  | base m n =>
    have := lastSeg_base m n
    rw [hl'] at this
    rw [this, toDigits_all_digit n] at h3
    cases h3
  | clause m n x =>
    have := count_u_clause m n x
    have e : (R (.clause m n x)).toList = s.toList := hl'
    rw [e] at this
    omega

theorem R_ne_asm_main {l : Lbl} (hl : l ≠ .cleanup) : R l ≠ "asm_main" :=
  R_ne_of_shape hl (by decide) (by decide) (by decide) (by decide)

theorem R_ne_ext {l : Lbl} (hl : l ≠ .cleanup) {s : String} (hs : s = "print_i64" ∨ s = "println_i64") :
    R l ≠ s := by
  rcases hs with rfl | rfl <;> exact R_ne_of_shape hl (by decide) (by decide) (by decide) (by decide)

theorem R_ne_cleanup {l : Lbl} (hl : l ≠ .cleanup) : R l ≠ "cleanup" := by
  intro h
  have hl' : (Lbl.render natRen l).toList = (Lbl.render natRen .cleanup).toList := by
    show (R l).toList = _
    rw [h]; rfl
  cases l with
  | defn f => exact u_not_mem_cleanup (hl' ▸ u_mem_defn f)
  | cleanup => exact hl rfl
  | lab n =>
    rw [render_lab, render_cleanup] at hl'
    simp at hl'
  | base m n => exact u_not_mem_cleanup (hl' ▸ u_mem_base m n)
  | clause m n x => exact u_not_mem_cleanup (hl' ▸ u_mem_clause m n x)

open Scc.Props.C14Generic (LabelSafe progXtorNames) in
/-- the labels of the body of a `LabelSafe` program are renderings of pairwise distinct structured labels other
than `cleanup`; so `asm_main`, the labels of the body and `cleanup` are pairwise distinct -/
theorem body_labels {p : AxCut.Prog} {k k' : Nat} {L : List String} (hsafe : LabelSafe p = true)
    (g : G (defnLbls p.defs) (progXtorNames p) k k' L) :
    (∃ ls : List Lbl, L = ls.map R ∧ ∀ l ∈ ls, l ≠ Lbl.cleanup) ∧ ("asm_main" :: (L ++ ["cleanup"])).Nodup := by
  obtain ⟨_, ls, rfl, nd, rng, hx⟩ := g
  have hs : safeXtorNames (progXtorNames p) = true := by
    simp only [LabelSafe, Bool.and_eq_true] at hsafe
    exact hsafe.2
  have hne : ∀ l ∈ ls, l ≠ Lbl.cleanup := by
    intro l hl e'
    subst e'
    rcases rng _ hl with h1 | h1
    · obtain ⟨d, _, e2⟩ := List.mem_map.1 h1
      cases e2
    · obtain ⟨n, hn, _⟩ := h1
      cases hn
  have hxin : ∀ l ∈ ls, l.xtorIn (progXtorNames p) := by
    intro l hl
    cases l with
    | clause m n x => exact hx _ hl x rfl
    | _ => trivial
  refine ⟨⟨ls, rfl, hne⟩, ?_⟩
  rw [List.nodup_cons, List.nodup_append]
  refine ⟨?_, nodup_map_of_inj_on R ls (fun a ha b hb hab => render_inj _ hs a b (hxin a ha) (hxin b hb) hab) nd,
    by simp, ?_⟩
  · rw [List.mem_append, not_or]
    refine ⟨fun hm => ?_, by decide⟩
    obtain ⟨l, hl, e⟩ := List.mem_map.1 hm
    exact R_ne_asm_main (hne l hl) e
  · intro a ha b hb hab
    rw [List.mem_singleton.1 hb] at hab
    obtain ⟨l, hl, rfl⟩ := List.mem_map.1 ha
    exact R_ne_cleanup (hne l hl) hab

/-! ## the mock backend -/

theorem labs_mockOp : ∀ (code : List MockOp), labs MockOp.dfn code = dfns (events code)
  | [] => rfl
  | op :: code => by
    rw [show op :: code = [op] ++ code from rfl, labs_append, events_append, dfns_append,
      labs_mockOp code]
    cases op <;> rfl

theorem lfc_pure_mock {op : MockOp} (h : MockOp.dfn op = none) (k : Nat) (code : List MockOp) (k' : Nat)
    (hr : (pure [op] : GenM (List MockOp)).run k = .ok (code, k')) : LFC k k' (labs MockOp.dfn code) := by
  obtain ⟨rfl, rfl⟩ := (run_pure_ok _ _ _ _).1 hr
  simp only [labs, List.filterMap_cons, h, List.filterMap_nil]
  exact LFC.nil k

theorem labOps_mock : LabOps mockSym MockOp.dfn where
  comment _ := rfl
  label _ := rfl
  jump _ := rfl
  jumpLabel _ := rfl
  jumpLabelFixed _ := rfl
  jumpLabelIf _ _ _ _ := rfl
  jumpLabelIfZero _ _ _ := rfl
  loadImmediate _ _ := rfl
  loadLabel _ _ := rfl
  addAndJump _ _ := rfl
  binop _ _ _ _ := rfl
  mov _ _ := rfl
  storeTemporary _ _ := rfl
  restoreTemporary _ _ := rfl
  variableTemporary n Γ id := fun k t k' h => ((vt_run_ok n Γ id k t k').1 h).choose_spec.2.2.symm
  printI64 _ _ _ := lfc_pure_mock rfl
  eraseBlock _ := lfc_pure_mock rfl
  shareBlockN _ _ := lfc_pure_mock rfl
  store _ _ := lfc_pure_mock rfl
  load _ _ := lfc_pure_mock rfl

end Scc.Backend.Lab
