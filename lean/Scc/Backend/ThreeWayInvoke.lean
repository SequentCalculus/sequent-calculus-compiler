/-
  Scc.Backend.ThreeWayInvoke — THREE-WAY SIMULATION OF `invoke`, once for every machine: the navigation of the
  machine to the selected method (`MachineI.invoke_nav`: the jump through the code pointer of the closure, the word
  of the closure variable may change), then the `load` of the closure environment (`load_mid`).  The machine may
  end ahead of the boundary state by labels and comments (`RunA`).  The closure facts (`hword` … `hXM`) come
  from the closure invariant.
-/
import Scc.Backend.ThreeWaySwitch
import Scc.Backend.ProofsKeys

namespace Scc.Backend.ThreeWay

open Scc.AxCut Scc.AxCut.Pos Scc.Backend.Abs Scc.Backend.Sim Scc.Backend.Sim2
open Scc.Heap (HState InvS InvW)
open Scc.Heap.Refine (HRef FrLe Room loadAbs)

variable {Code Tm : Type} {B : Backend Code Tm} (M : MachineI B)

/-- `invoke` on the three machines: the positional machine selects method `pos` of the closure at the last position;
the abstract machine and the machine `M` get to the `load` of that method (`invoke_nav_abs`, `M.invoke_nav`: the
machine possibly ahead of the boundary state, `RunA`) and unpack the environment (`load_mid`); the relation holds
for `c.ctx ++ envCtx'` at the code of the method body -/
theorem invoke_x3 {P : Program} {hooks : Bool} {prog : AxCut.Prog} {Γa : Ctx} {b : Binding}
    {ρa : List Value} {Γc : Ctx} {ρc : List Value} {clauses : Clauses} {x tag : Ident} {ty : Ty}
    {args : Ctx} {cfg : Config} {c : Clause} {pos : Nat}
    (R : RelX P hooks prog ⟨Γa ++ [b], ρa ++ [.clo Γc ρc clauses], .invoke x tag ty args⟩ cfg)
    (hfits : Fits P)
    (hb : b.var.id = x.id) (hfresh : ∀ b' ∈ Γa, b'.var.id ≠ x.id)
    (hpos : Pos.tagPosition prog.types ty tag = .ok pos)
    (hclause : nthClause clauses pos = some c)
    (hlenc : ∀ d, lookupTypeDecl prog.types ty = some d → clauses.length = d.xtors.length)
    (hargs : Γa.map (·.chi) = c.ctx.map (·.chi))
    (hkinds : ρc.map Sim2.kindOf = Mock.kindsOf Γc)
    (hcap : 2 * (c.ctx.length + Γc.length) + 2 < Mock.T_TEMP)
    {hs : HState} {ι : Nat → Nat} {κ : Nat → Nat → Word} {st : M.S} {kp : Nat}
    (X : X3 M.toTarget (Γa ++ [b]) cfg hs ι κ st)
    {a : Nat} {envCtx' : Ctx} {w : Word} (hkeys : envCtx'.keys = Γc.keys)
    (hword : cfg.temps.get (2 * Γa.length + 1) = some (BitVec.ofNat 64 a))
    (hmeth : MethodsAt P hooks prog.types a envCtx' clauses)
    (hw : M.tv st (2 * Γa.length + 1) = some w)
    (hXM : XMethodsAt M.toMachineA hooks prog.types w envCtx' clauses)
    {k k' : Nat} {items : List Code}
    (hrun : (codeStatementR B hooks natRen prog.types (.invoke x tag ty args) (Γa ++ [b])).run k =
      .ok (items, k'))
    (hat : XAt M.cs kp items) (hpc : M.pcAt st kp)
    (hcapX : 2 * (c.ctx.length + Γc.length) ≤ M.ntemps)
    (htag : M.tagOK pos) :
    ∃ kk cfg' st' hs' kp', stepsTo P kk cfg cfg' ∧ M.RunA kp st kp' st' ∧ M.pcAt st' kp' ∧
      FrLe hs hs' 0 ∧ cfg'.out = cfg.out ∧ cfg'.next = cfg.next ∧
      RelX P hooks prog ⟨c.ctx ++ envCtx', ρa ++ ρc, c.body⟩ cfg' ∧
      X3 M.toTarget (c.ctx ++ envCtx') cfg' hs' ι κ st' ∧
      ∃ k1 k1' items', (codeStatementR B hooks natRen prog.types c.body (c.ctx ++ envCtx')).run k1 =
          .ok (items', k1') ∧ XAt M.cs kp' items' ∧ LoadProvS M.toTarget Γa.length envCtx' cfg cfg' κ st st' := by
  have hlen : ρa.length = Γa.length := by have := R.len; simpa using this
  have hlenA : Γa.length = c.ctx.length := by simpa using congrArg List.length hargs
  have hkenv : Mock.kindsOf envCtx' = Mock.kindsOf Γc := Scc.Backend.Keys.keys_chi hkeys
  have hlenv : envCtx'.length = Γc.length := Scc.Backend.Keys.keys_length hkeys
  have hkinds' : ρc.map Sim2.kindOf = Mock.kindsOf envCtx' := by rw [hkenv]; exact hkinds
  have hcap' : 2 * (Γa.length + envCtx'.length) + 2 < Mock.T_TEMP := by rw [hlenA, hlenv]; exact hcap
  have hn1 : Γa.length < (Γa ++ [b]).length := by simp
  have hn2 : Γa.length < (ρa ++ [Value.clo Γc ρc clauses]).length := by simp [hlen]
  obtain ⟨hrep, hsome, hkind, hptr⟩ := R.vals Γa.length hn1 hn2
  have g1 : (Γa ++ [b])[Γa.length] = b := by simp
  have g2 : (ρa ++ [Value.clo Γc ρc clauses])[Γa.length] = .clo Γc ρc clauses := by
    rw [List.getElem_append_right (by omega)]; simp [hlen]
  simp only [g1, g2] at hrep hkind hptr
  have hbchi : b.chi = .cns := hkind
  have hbne : b.chi ≠ .ext := by rw [hbchi]; decide
  have hbe : (b.chi == .ext) = false := (chi_beq_ext_false _).mpr hbne
  simp only [hbe, Bool.false_eq_true, if_false] at hrep
  obtain ⟨r, a'', envCtx'', hr, hB, _, _, _⟩ := hrep.clo_inv
  obtain ⟨d, hd, hx⟩ := tagPosition_ok hpos
  obtain ⟨k4, cfg4, hst4, h4heap, h4next, h4out, h4temps, hloadM, hcode⟩ :=
    invoke_nav_abs R hfits hb hfresh hpos hclause hlenc hlenA hword hmeth
  have hcapXa := X.cap
  simp only [List.length_append, List.length_singleton] at hcapXa
  obtain ⟨st4, kp4, kl, kl', lcode, kb', body, hn4, hpc4, B4, K4, hdef4, hload, hbody, hat4⟩ :=
    M.invoke_nav hrun hat hpc X.bnd hcapXa hb hfresh hd hx hclause (hlenc d hd) hw hXM htag
  have hN := M.ntemps_le
  have X4 : X3 M.toTarget (Γa ++ [b]) cfg hs ι κ st4 :=
    X3R.keep_cns X B4 hn1 (by rw [g1]; exact hbchi) K4 hdef4
  have hmk4 : ∀ u, u < M.ntemps → u ≠ 2 * Γa.length + 1 → M.tv st4 u = M.tv st u := fun u hu hne => K4.tv u hu hne
  have X4' : X3 M.toTarget (c.ctx ++ [b]) cfg hs ι κ st4 := X4.ctxCongr (by simp [hargs])
  obtain ⟨cfg', st5, hs', hstep, hn5, hpc5, hfrL, hout', hnext', R', X5, LP5⟩ :=
    load_mid M.toMachine (Γ'' := c.ctx) (s' := c.body) R hargs hbne hr hB hkinds' hcap' h4heap h4next h4out h4temps
      hloadM hcode X4' hload hat4 hpc4 (by rw [hlenA, hlenv]; omega)
  exact ⟨k4 + 1, cfg', st5, hs', _, stepsTo_trans P _ _ _ _ _ hst4 (stepsTo_one P _ _ hstep), M.runA_trans hn4 hn5,
    hpc5, hfrL, hout', hnext', R', X5, kl', kb', body, hbody, hat4.right,
    LP5.of_keep (fun i hi => hmk4 _ (by omega) (by omega))⟩

end Scc.Backend.ThreeWay
