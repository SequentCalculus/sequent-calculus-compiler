/-
  Scc.Backend.ProofsPost — the postcondition calculus of the generator monad `GenM`: `Post m Q` says that
  every successful run of `m`, from any value of the label counter, returns a value satisfying `Q` (the
  counter itself is not observed); the rules follow `pure`, `throw` and `>>=`.
  Nothing here is specific to x86-64: the full name is `Scc.X86.Post` because the theorems about the
  code of the generic generator (operand ranges, names, calling convention) are stated with it under this
  name.  The theorems about sizes, about the operands of the AArch64 memory code and about the RISC-V
  memory code are stated with the same formula under the names
  `Scc.Backend.SizeConns.GPost`, `Scc.A64.GenAll` and `Scc.RV.GenP` (the last two take the predicate
  first); their rules are instances of the rules below.  `Emits.post` (Backend/ProofsGen.lean) concludes with the
  same formula written out.
-/
import Scc.Backend.Proofs

namespace Scc.X86

open Scc.Backend (GenM run_bind_ok run_pure_ok run_throw_ok)

def Post {α : Type} (m : GenM α) (Q : α → Prop) : Prop :=
  ∀ c a c', m.run c = .ok (a, c') → Q a

theorem Post.pure {α : Type} {a : α} {Q : α → Prop} (h : Q a) : Post (pure a : GenM α) Q := by
  intro c r c' hr
  obtain ⟨rfl, _⟩ := (run_pure_ok a c r c').1 hr
  exact h

theorem Post.throw {α : Type} {e : String} {Q : α → Prop} : Post (throw e : GenM α) Q := by
  intro c r c' hr
  exact ((run_throw_ok e c r c').1 hr).elim

theorem Post.bind {α β : Type} {m : GenM α} {f : α → GenM β} {Q1 : α → Prop} {Q : β → Prop}
    (h1 : Post m Q1) (h2 : ∀ a, Q1 a → Post (f a) Q) : Post (m >>= f) Q := by
  intro c r c' hr
  obtain ⟨a, c1, ha, hf⟩ := (run_bind_ok m f c r c').1 hr
  exact h2 a (h1 c a c1 ha) c1 r c' hf

theorem Post.mono {α : Type} {m : GenM α} {Q1 Q : α → Prop} (h1 : Post m Q1) (h : ∀ a, Q1 a → Q a) :
    Post m Q := fun c a c' hr => h a (h1 c a c' hr)

theorem Post.true {α : Type} (m : GenM α) : Post m (fun _ => True) := fun _ _ _ _ => trivial

theorem Post.and {α : Type} {m : GenM α} {Q1 Q2 : α → Prop} (h1 : Post m Q1) (h2 : Post m Q2) :
    Post m (fun a => Q1 a ∧ Q2 a) := fun c a c' hr => ⟨h1 c a c' hr, h2 c a c' hr⟩

end Scc.X86
