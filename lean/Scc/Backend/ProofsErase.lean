/-
  Scc.Backend.ProofsErase — the `erase` and `share` operations of the abstract backend machine
  (AbstractMachine.lean: `Heap.eraseLoop`, `Heap.erase`, `Heap.share`) against the counting invariant
  `HeapOK` (SimDefs.lean) and the representation relation `RepV` (SimDefs2.lean), for Theorem A.

  In the loop (`eraseLoop_ok`) the work list items are references that are being dropped; they count as
  roots (invariant `HeapOK h (rs ++ work) next`).  The loop never runs out of fuel (measure
  `work.length + totalFields`), never meets a dangling reference, ends in a heap satisfying
  `HeapOK h' rs next`, and every representation whose start pointer is one of the remaining roots
  survives.  `share ref k` adds `k` roots referencing `ref`.
-/
import Scc.Backend.ProofsLoad
import Scc.ListLemmas

set_option linter.unusedSimpArgs false

namespace Scc.Backend.Sim2

open Scc.AxCut Scc.AxCut.Pos Scc.Backend.Abs Scc.Backend.Sim

theorem totalFields_cons (id : Nat) (o : Obj) (h : Heap) :
    Heap.totalFields ((id, o) :: h) = o.fields.length + Heap.totalFields h := by
  simp [Heap.totalFields]

theorem totalFields_remove : ∀ {h : Heap}, (h.map (·.1)).Nodup → ∀ {id : Nat} {o : Obj},
    h.get id = some o → (h.remove id).totalFields + o.fields.length = h.totalFields
  | [], _, id, o, hg => by simp [Heap.get] at hg
  | (e1, e2) :: h, hnd, id, o, hg => by
    simp only [List.map_cons, List.nodup_cons] at hnd
    by_cases he : e1 = id
    · subst he
      rw [heap_get_cons_same] at hg
      have ho : e2 = o := Option.some.inj hg
      subst ho
      rw [remove_cons_same, remove_eq_self hnd.1, totalFields_cons]
      omega
    · have hne : id ≠ e1 := fun hc => he hc.symm
      rw [heap_get_cons_ne hne] at hg
      rw [remove_cons_other _ _ he, totalFields_cons, totalFields_cons]
      have := totalFields_remove hnd.2 hg
      omega

theorem totalFields_set {h : Heap} (hnd : (h.map (·.1)).Nodup) {id : Nat} {o o' : Obj}
    (hg : h.get id = some o) (hf : o'.fields = o.fields) :
    (h.set id o').totalFields = h.totalFields := by
  have := totalFields_remove hnd hg
  unfold Heap.set
  rw [totalFields_cons, hf]
  omega

theorem children_length_le (o : Obj) : o.children.length ≤ o.fields.length := by
  unfold Obj.children
  exact List.length_filterMap_le _ _

theorem eraseLoop_ok {P : Program} {hooks : Bool} {types : List TypeDecl} {next : Nat} :
    ∀ (fuel : Nat) (work : List Nat) (h : Heap) (rs : List Nat),
    HeapOK h (rs ++ work) next → work.length + h.totalFields < fuel →
    ∃ h', Heap.eraseLoop fuel work h = .ok h' ∧ HeapOK h' rs next ∧
      ∀ (v : Value) (p : Option Word) (w : Word), RepV P hooks types h v p w →
        (∀ r, p = some r → r ≠ 0 → r.toNat ∈ rs) → RepV P hooks types h' v p w
  | 0, _, _, _, _, hfuel => by omega
  | fuel + 1, [], h, rs, H, _ =>
    ⟨h, rfl, by simpa using H, fun _ _ _ hv _ => hv⟩
  | fuel + 1, id :: work, h, rs, H, hfuel => by
    have hmem : id ∈ rs ++ id :: work := by simp
    have hlive : (h.get id).isSome := by
      apply H.live
      have : 0 < (rs ++ id :: work).count id := List.count_pos_iff.mpr hmem
      simp only [refCount_eq]
      omega
    cases hg : h.get id with
    | none => simp [hg] at hlive
    | some o =>
      by_cases hcount : o.count > 0
      · -- shared: the count is decremented
        have H1 : HeapOK (h.set id { o with count := o.count - 1 }) (rs ++ work) next := by
          apply heapOK_setCount H hg
          · intro x hx
            have : ¬ (id = x) := fun e => hx e.symm
            simp [List.count_append, List.count_cons, this]
          · simp [List.count_append, List.count_cons]; omega
        have htf : (h.set id { o with count := o.count - 1 }).totalFields = h.totalFields :=
          totalFields_set H.nodup hg rfl
        have hfuel1 : work.length + (h.set id { o with count := o.count - 1 }).totalFields < fuel := by
          rw [htf]; simp only [List.length_cons] at hfuel; omega
        obtain ⟨h', he, H', R'⟩ := eraseLoop_ok (P := P) (hooks := hooks) (types := types)
          fuel work _ rs H1 hfuel1
        refine ⟨h', ?_, H', ?_⟩
        · simp only [Heap.eraseLoop, hg, hcount, if_true]
          exact he
        · intro v p w hv hp
          exact R' v p w (RepV.kept (allFieldsKept_set hg _) hv) hp
      · -- unique: the object is freed, its children are erased in turn
        have h0 : o.count = 0 := by omega
        obtain ⟨hcnt, hunref⟩ := heapOK_unique H hg h0 hmem
        have hnotroot : id ∉ rs := by
          intro hm
          have : 0 < rs.count id := List.count_pos_iff.mpr hm
          simp [List.count_append, List.count_cons] at hcnt
          omega
        have hkept : FieldsKept h (h.remove id) id := by
          intro id' o' hne hg'
          exact ⟨o', by rw [heap_get_remove_other _ hne]; exact hg', rfl⟩
        have H1 : HeapOK (h.remove id) (rs ++ (o.children ++ work)) next := by
          apply heapOK_remove H hg h0
          intro x
          simp only [List.count_append, List.count_cons, List.count_nil]
          by_cases hx : x = id
          · subst hx; simp; omega
          · have : ¬ (id = x) := fun e => hx e.symm
            simp [hx, this]; omega
        have hfuel1 : (o.children ++ work).length + (h.remove id).totalFields < fuel := by
          have h1 := totalFields_remove H.nodup hg
          have h2 := children_length_le o
          simp only [List.length_cons] at hfuel
          simp only [List.length_append]
          omega
        obtain ⟨h', he, H', R'⟩ := eraseLoop_ok (P := P) (hooks := hooks) (types := types)
          fuel (o.children ++ work) _ rs H1 hfuel1
        refine ⟨h', ?_, H', ?_⟩
        · simp only [Heap.eraseLoop, hg, hcount, if_false]
          exact he
        · intro v p w hv hp
          refine R' v p w (RepV.transfer hkept hunref hv ?_) hp
          intro r hr hr0 e
          exact hnotroot (e ▸ hp r hr hr0)

theorem erase_ok {P : Program} {hooks : Bool} {types : List TypeDecl} {h : Heap} {rs : List Nat}
    {next : Nat} (ref : Word)
    (H : HeapOK h (rs ++ (if ref != 0 then [ref.toNat] else [])) next) :
    ∃ h', h.erase ref = .ok h' ∧ HeapOK h' rs next ∧
      ∀ (v : Value) (p : Option Word) (w : Word), RepV P hooks types h v p w →
        (∀ r, p = some r → r ≠ 0 → r.toNat ∈ rs) → RepV P hooks types h' v p w := by
  by_cases hr : ref = 0
  · subst hr
    refine ⟨h, by simp [Heap.erase], by simpa using H, fun _ _ _ hv _ => hv⟩
  · have h1 : (ref != 0) = true := by rw [bne_iff_ne]; exact hr
    have h2 : (ref == 0) = false := by rw [beq_eq_false_iff_ne]; exact hr
    simp only [h1, if_true] at H
    obtain ⟨h', he, H', R'⟩ := eraseLoop_ok (P := P) (hooks := hooks) (types := types)
      (h.totalFields + 2) [ref.toNat] h rs H (by simp only [List.length_cons, List.length_nil]; omega)
    refine ⟨h', ?_, H', R'⟩
    simp only [Heap.erase, h2, Bool.false_eq_true, if_false]
    exact he

theorem count_flatten_replicate_singleton (x y : Nat) (k : Nat) :
    ((List.replicate k [x]).flatten).count y = if y = x then k else 0 := by
  rw [count_flatten_replicate, List.count_singleton]
  by_cases e : y = x
  · subst e; simp
  · have : ¬ (x = y) := fun e' => e e'.symm
    simp [e, this]

theorem flatten_replicate_nil (k : Nat) : ((List.replicate k ([] : List Nat)).flatten) = [] :=
  List.flatten_replicate_nil

theorem share_heapOK {h : Heap} {rs : List Nat} {next : Nat} (ref : Word) (k : Nat)
    (hmem : ref ≠ 0 → ref.toNat ∈ rs) (H : HeapOK h rs next) :
    ∃ h', h.share ref k = .ok h' ∧
      HeapOK h' (rs ++ (List.replicate k (if ref != 0 then [ref.toNat] else [])).flatten) next ∧
      AllFieldsKept h h' := by
  by_cases hr : ref = 0
  · subst hr
    refine ⟨h, by simp [Heap.share], ?_, AllFieldsKept.refl h⟩
    have : ((0 : Word) != 0) = false := by simp
    simp only [this, Bool.false_eq_true, if_false, flatten_replicate_nil, List.append_nil]
    exact H
  · have h1 : (ref != 0) = true := by rw [bne_iff_ne]; exact hr
    have h2 : (ref == 0) = false := by rw [beq_eq_false_iff_ne]; exact hr
    have hm := hmem hr
    have hlive : (h.get ref.toNat).isSome := by
      apply H.live
      have : 0 < rs.count ref.toNat := List.count_pos_iff.mpr hm
      simp only [refCount_eq]
      omega
    cases hg : h.get ref.toNat with
    | none => simp [hg] at hlive
    | some o =>
      refine ⟨h.set ref.toNat { o with count := o.count + k }, ?_, ?_, allFieldsKept_set hg _⟩
      · simp only [Heap.share, h2, Bool.false_eq_true, if_false, hg]
      · simp only [h1, if_true]
        apply heapOK_setCount H hg
        · intro x hx
          simp only [List.count_append, count_flatten_replicate_singleton, hx, if_false, Nat.add_zero]
        · simp only [List.count_append, count_flatten_replicate_singleton, if_true]
          omega

theorem step_erase (P : Program) (cfg : Config) (t : Nat) (v : Word) (h' : Heap)
    (hc : P.code[cfg.pc]? = some (.erase t)) (ht : cfg.temps.get t = some v)
    (he : cfg.heap.erase v = .ok h') :
    Abs.step P cfg = .next { cfg with pc := cfg.pc + 1, temps := (clobberTemp cfg.temps).unset t,
                                      heap := h' } := by
  simp only [Abs.step, hc, getT, ht, he]

theorem step_share (P : Program) (cfg : Config) (t k : Nat) (v : Word) (h' : Heap)
    (hc : P.code[cfg.pc]? = some (.share t k)) (ht : cfg.temps.get t = some v)
    (he : cfg.heap.share v k = .ok h') :
    Abs.step P cfg = .next { cfg with pc := cfg.pc + 1, temps := clobberTemp cfg.temps, heap := h' } := by
  simp only [Abs.step, hc, getT, ht, he]

/-! ## non-vacuity -/

/-- a two-object heap: object 2 (unique) has a pointer field referencing object 1 (count 1, also a root) -/
example : HeapOK [(2, ⟨0, [⟨.prd, 1, 0⟩]⟩), (1, ⟨1, [⟨.ext, 0, 7⟩]⟩)] ([1] ++ [2]) 3 :=
  { pos := by decide
    nodup := by decide
    ids := by decide
    counts := by decide
    live := by
      intro id hid
      by_cases h1 : id = 1
      · subst h1; decide
      · by_cases h2 : id = 2
        · subst h2; decide
        · exfalso
          have e1 : ¬ (1 = id) := fun e => h1 e.symm
          have e2 : ¬ (2 = id) := fun e => h2 e.symm
          simp [refCount, Obj.children, List.count_cons, e1, e2] at hid }

example : Heap.erase [(2, ⟨0, [⟨.prd, 1, 0⟩]⟩), (1, ⟨1, [⟨.ext, 0, 7⟩]⟩)] 2 =
    .ok [(1, ⟨0, [⟨.ext, 0, 7⟩]⟩)] := by rfl

example : Heap.share [(1, ⟨1, [⟨.ext, 0, 7⟩]⟩)] 1 2 = .ok [(1, ⟨3, [⟨.ext, 0, 7⟩]⟩)] := by rfl

end Scc.Backend.Sim2
