/-
  Scc.Backend.ThreeWayLet — the abstract `store` against `Memory::store` (the memory contract ∘ `href_store`,
  with the closure words of the new object recorded in `κ`), and the three-way simulation of `let` and of
  `create` (the environment is stored like the fields of a `let`, then the address of the method table is loaded:
  `MachineA`; `create_x3` names the label of the method table and says that the machine passes it), once for
  every machine.
-/
import Scc.Backend.ThreeWayInt
import Scc.Backend.ProofsHeap2
import Scc.Heap.RefineFrontier

set_option linter.unusedVariables false

namespace Scc.Backend.ThreeWay

open Scc.AxCut Scc.AxCut.Pos Scc.Backend.Abs Scc.Backend.Sim Scc.Backend.Sim2
open Scc.Backend.NamesC (MM mm_append mm_ofList)
open Scc.Heap (HState InvS InvW)
open Scc.Heap.Refine (HRef imgW fieldImg kindB href_store FrLe Room frLe_store FrPk frPk_store href_head_lt
  href_root_mem chi_bne_iff ofNat_of_toNat storeObj_nil)
open Scc.Backend.Prov (readFields_spec)

/-- fields whose word parts are replaced by `T j` (field number `j`) -/
def setVals (T : Nat → Word) : Nat → List Abs.Field → List Abs.Field
  | _, [] => []
  | j, f :: fs => { f with val := T j } :: setVals T (j + 1) fs

/-- the variables `Δ` at positions `k, k+1, …` hold, on the machine, the images of the fields that the
abstract `store` reads, with the word parts `T j` the machine holds -/
theorem envFields_of_read {slot : Nat → Option Word} {ι : Nat → Nat} {σ : Temps} (T : Nat → Word) :
    ∀ (Δ : Ctx) (k j0 : Nat) (fields : List Abs.Field),
    readFields σ (Mock.kindsOf Δ) k = some fields →
    (∀ j (hj : j < Δ.length), slot (2 * (k + j) + 1) = some (T (j0 + j))) →
    (∀ j (hj : j < Δ.length), Δ[j].chi ≠ .ext → ∀ r, σ.get (2 * (k + j)) = some r →
      slot (2 * (k + j)) = some (imgWord ι r) ∧ (r ≠ 0 → ι r.toNat < 2 ^ 64)) →
    Scc.Mem.EnvFields slot k Δ ((setVals T j0 fields).map (fieldImg ι))
  | [], k, j0, fields, hf, _, _ => by
    simp only [Mock.kindsOf, List.map_nil, readFields, Option.some.injEq] at hf
    subst hf
    trivial
  | b :: Δ, k, j0, fields, hf, hw, hp => by
    simp only [Mock.kindsOf, List.map_cons, readFields] at hf
    cases hg : σ.get (2 * k + 1) with
    | none => simp [hg] at hf
    | some w =>
      cases hr : readFields σ (Δ.map (·.chi)) (k + 1) with
      | none => simp [hg, hr] at hf
      | some rest =>
        have ih := envFields_of_read (slot := slot) (ι := ι) T Δ (k + 1) (j0 + 1) rest hr
          (fun j hj => by
            have := hw (j + 1) (by simpa using hj)
            rw [show k + (j + 1) = k + 1 + j by omega, show j0 + (j + 1) = j0 + 1 + j by omega] at this
            exact this)
          (fun j hj hc r hr' => by
            have := hp (j + 1) (by simpa using hj) (by simpa using hc) r
              (by rw [show k + (j + 1) = k + 1 + j by omega]; exact hr')
            rw [show k + (j + 1) = k + 1 + j by omega] at this
            exact this)
        have hw0 := hw 0 (by simp)
        simp only [Nat.add_zero] at hw0
        simp only [hg, hr] at hf
        by_cases hext : (b.chi == .ext) = true
        · rw [if_pos hext] at hf
          injection hf with hf
          subst hf
          refine ⟨?_, ih⟩
          unfold Scc.Mem.FieldAt
          rw [if_pos hext]
          refine ⟨T j0, ?_, hw0⟩
          have hk : kindB ({ chi := b.chi, ptr := 0, val := T j0 } : Abs.Field) = false := by
            show (b.chi != Chi.ext) = false
            rw [chi_bne_iff, hext]; rfl
          simp only [fieldImg, hk, Bool.false_eq_true, if_false]
        · rw [if_neg hext] at hf
          cases hp0 : σ.get (2 * k) with
          | none => simp [hp0] at hf
          | some p =>
            simp only [hp0] at hf
            injection hf with hf
            subst hf
            have hne : b.chi ≠ .ext := fun e => hext (by rw [e]; rfl)
            obtain ⟨hpv, hlt⟩ := hp 0 (by simp) (by simpa using hne) p (by simpa using hp0)
            simp only [Nat.add_zero] at hpv
            refine ⟨?_, ih⟩
            unfold Scc.Mem.FieldAt
            rw [if_neg hext]
            refine ⟨imgWord ι p, T j0, ?_, hpv, hw0⟩
            have hk : kindB ({ chi := b.chi, ptr := p, val := T j0 } : Abs.Field) = true := by
              show (b.chi != Chi.ext) = true
              rw [chi_bne_iff]
              simp only [Bool.not_eq_true']
              simpa using hext
            simp only [fieldImg, hk, if_true]
            rw [imgWord_toNat hlt]

/-- the stored fields, translated with the words the machine holds: `κ' id j = T j` on closure fields and
`T j` is the translation of the abstract word elsewhere -/
theorem setVals_eq_trFs {s : Word} {κ : Nat → Nat → Word} {id : Nat} {T : Nat → Word} :
    ∀ (j : Nat) (fs : List Abs.Field),
    (∀ i (hi : i < fs.length), fs[i].chi = .cns → κ id (j + i) = T (j + i)) →
    (∀ i (hi : i < fs.length), fs[i].chi ≠ .cns → T (j + i) = trW s fs[i].chi fs[i].val) →
    setVals T j fs = trFs s κ id j fs
  | _, [], _, _ => rfl
  | j, f :: fs, h1, h2 => by
    simp only [setVals, trFs]
    rw [setVals_eq_trFs (j + 1) fs
      (fun i hi hc => by
        have := h1 (i + 1) (by simpa using hi) (by simpa using hc)
        rw [show j + (i + 1) = j + 1 + i by omega] at this; exact this)
      (fun i hi hc => by
        have := h2 (i + 1) (by simpa using hi) (by simpa using hc)
        rw [show j + (i + 1) = j + 1 + i by omega] at this; exact this)]
    congr 1
    unfold trF
    have a1 := h1 0 (by simp)
    have a2 := h2 0 (by simp)
    simp only [Nat.add_zero, List.getElem_cons_zero] at a1 a2
    cases hc : f.chi with
    | cns => simp only; rw [a1 hc]
    | prd => simp only; rw [a2 (by rw [hc]; decide), hc]
    | ext => simp only; rw [a2 (by rw [hc]; decide), hc]

section
variable {Code Tm : Type} {B : Backend Code Tm} {T : Target B}

/-- THE ABSTRACT `store` (at least one field) AGAINST `Memory::store` -/
theorem store_x3 {Γ : Ctx} {cfg cfg1 : Config} {hs : HState} {ι : Nat → Nat} {κ : Nat → Nat → Word} {st : T.S}
    (X : X3 T Γ cfg hs ι κ st) {n : Nat} (hn : n < Γ.length) {fields : List Abs.Field}
    (hf : readFields cfg.temps (Mock.kindsOf (Γ.drop n)) n = some fields)
    (hch : Obj.children ⟨0, fields⟩ = roots.go cfg.temps (Γ.drop n) n)
    (hnext : cfg.next < 2 ^ 64)
    (hlow : ∀ t, t < 2 * n → cfg1.temps.get t = cfg.temps.get t)
    (hheap : cfg1.heap = (cfg.next, ⟨0, fields⟩) :: cfg.heap) (hnx : cfg1.next = cfg.next + 1)
    (hout : cfg1.out = cfg.out)
    (hroom : Room hs (64 * (Γ.length - n) + 64)) (kk : Nat) :
    ∃ code kk', (B.store (Γ.drop n) (Γ.take n)).run kk = .ok (code, kk') ∧ kk ≤ kk' ∧ T.LabsIn code kk kk' ∧
      ∃ st' hs' p, T.Exec code st st' ∧
        X3R T (Γ.take n) cfg1 (roots (Γ.take n) cfg.temps ++ [cfg.next]) hs'
          (fun i => if i = cfg.next then p else ι i) (Prov.storeK (T.tv st) κ cfg.next n) st' ∧
        T.tv st' (2 * n) = some (BitVec.ofNat 64 p) ∧ p ≠ 0 ∧ p < 2 ^ 64 ∧
        FrLe hs hs' (64 * (Γ.length - n)) ∧
        (∀ t, t < 2 * n → T.tv st' t = T.tv st t) ∧ FrPk hs hs' := by
  have hnle : n ≤ Γ.length := Nat.le_of_lt hn
  have hlenT : (Γ.take n).length = n := by simp [Nat.min_eq_left hnle]
  have hlenD : (Γ.drop n).length = Γ.length - n := by simp
  have hsplit := roots_split cfg.temps Γ n hnle
  -- the words the machine holds at the stored positions
  generalize hT : (fun j => (T.tv st (2 * (n + j) + 1)).getD 0) = Tw
  have hTdef : ∀ j (hj : j < (Γ.drop n).length), T.tv st (2 * (n + j) + 1) = some (Tw j) := by
    intro j hj
    have hj' : n + j < Γ.length := by rw [hlenD] at hj; omega
    -- the abstract temporary is defined (the store reads it)
    have hdef : ∃ a, cfg.temps.get (2 * (n + j) + 1) = some a := by
      obtain ⟨hl, hs⟩ := readFields_spec cfg.temps _ n fields hf
      have hjk : j < (Mock.kindsOf (Γ.drop n)).length := by simpa [Mock.kindsOf] using hj
      exact ⟨_, (hs j hjk (by rw [hl]; exact hjk)).2.1⟩
    obtain ⟨a, ha⟩ := hdef
    have hw := X.words (n + j) hj' a ha
    rw [← hT]
    simp only
    rw [hw]
    rfl
  have hE : Scc.Mem.EnvFields (T.tv st) n (Γ.drop n) ((setVals Tw 0 fields).map (fieldImg ι)) := by
    apply envFields_of_read Tw (Γ.drop n) n 0 fields hf
    · intro j hj
      rw [Nat.zero_add]; exact hTdef j hj
    · intro j hj hc r hr
      have hj' : n + j < Γ.length := by rw [hlenD] at hj; omega
      have hc' : Γ[n + j].chi ≠ .ext := by simpa using hc
      exact ⟨X.ptrs (n + j) hj' hc' r hr, fun h0 => (X3.ref_lt X hj' hc' hr h0).1⟩
  obtain ⟨hflenK, hfspec⟩ := readFields_spec cfg.temps _ n fields hf
  have hflen : fields.length = Γ.length - n := by
    rw [hflenK]; simp [Mock.kindsOf]
  -- the translation of the new object
  have hnewF : setVals Tw 0 fields = trFs T.stride (Prov.storeK (T.tv st) κ cfg.next n) cfg.next 0 fields := by
    apply setVals_eq_trFs 0 fields
    · intro i hi hc
      rw [Nat.zero_add, ← hT]
      simp [Prov.storeK]
    · intro i hi hc
      rw [Nat.zero_add]
      have hik : i < (Mock.kindsOf (Γ.drop n)).length := by rw [← hflenK]; exact hi
      obtain ⟨hchi, hval, _⟩ := hfspec i hik hi
      have hi' : n + i < Γ.length := by rw [hflen] at hi; omega
      have hw := X.words (n + i) hi' _ hval
      have hT' := hTdef i (by rw [hlenD]; rw [hflen] at hi; exact hi)
      rw [hT'] at hw
      have hcΓ : Γ[n + i].chi = fields[i].chi := by
        rw [hchi]; simp [Mock.kindsOf]
      rw [hcΓ] at hw
      injection hw with hw
      rw [hw]
      cases hcc : fields[i].chi with
      | cns => exact absurd hcc hc
      | prd => rfl
      | ext => rfl
  rw [hnewF] at hE
  generalize hκ' : Prov.storeK (T.tv st) κ cfg.next n = κ' at hE hnewF
  have hκold : ∀ e ∈ cfg.heap, ∀ j, κ' e.1 j = κ e.1 j := by
    intro e he j
    have := (X.href.abs.ids _ (mem_trHeap T.stride κ he)).2.1
    simp only at this
    rw [← hκ']
    unfold Prov.storeK
    rw [if_neg (by omega)]
  have hcho : Obj.children ⟨0, trFs T.stride κ' cfg.next 0 fields⟩ = roots.go cfg.temps (Γ.drop n) n := by
    rw [← hch]; exact trO_children T.stride κ' cfg.next ⟨0, fields⟩
  have R0 : HRef (trHeap T.stride κ cfg.heap) (roots (Γ.take n) cfg.temps ++ Obj.children ⟨0, trFs T.stride κ' cfg.next 0 fields⟩)
      cfg.next hs ι := by
    rw [hcho, ← hsplit]; exact X.href
  obtain ⟨hs', p, hop, R1⟩ := href_store (o := ⟨0, trFs T.stride κ' cfg.next 0 fields⟩) rfl
    (by
      intro e
      have : fields.length = 0 := by
        have := congrArg List.length e
        simpa [trFs_length] using this
      omega)
    hnext R0
    (by
      obtain ⟨lin, lazy, live, Fr, I⟩ := X.href.conc
      refine ⟨lin, lazy, live, Fr, ?_, ?_⟩
      · rw [hcho, ← hsplit]; exact I
      · simp only [trFs_length]; rw [hflen]; have := hroom _ _ _ _ _ I; omega)
  have hfr : FrLe hs hs' (64 * (Γ.length - n)) := by
    have := frLe_store (o := ⟨0, trFs T.stride κ' cfg.next 0 fields⟩) R0
      (by simp only [trFs_length]; rw [hflen]; exact hroom) hop
    simpa [hflen, trFs_length] using this
  have hpk : FrPk hs hs' := frPk_store (o := ⟨0, trFs T.stride κ' cfg.next 0 fields⟩) R0
    (by simp only [trFs_length]; rw [hflen]; exact hroom) hop
  obtain ⟨code, kk', hrun, hle, hlabs, st', hx, B', HR', ⟨w, hw, ew⟩, hkeep, hout'⟩ :=
    T.store X.bnd X.hrel (toStore := Γ.drop n) (rem := Γ.take n)
      (by rw [hlenT, hlenD]; have := X.cap; omega) (by rw [hlenT]; have := X.cap; omega) (by rw [hlenT]; exact hE) hop kk
  rw [hlenT] at hw hkeep
  have hnew : (cfg.next, (⟨0, trFs T.stride κ' cfg.next 0 fields⟩ : Obj)) ∈
      (cfg.next, (⟨0, trFs T.stride κ' cfg.next 0 fields⟩ : Obj)) :: trHeap T.stride κ cfg.heap :=
    List.mem_cons_self
  have hp0 : p ≠ 0 := by
    have := (R1.shape _ hnew).pos
    simpa using this
  have hplt : p < 2 ^ 64 := by
    have h1 := href_head_lt R1 hnew
    simp only [if_true] at h1
    have h2 := T.limit_lt B' HR'
    omega
  refine ⟨code, kk', hrun, hle, hlabs, st', hs', p, hx, ?_, by rw [hw, ofNat_of_toNat ew], hp0, hplt, hfr,
    hkeep, hpk⟩
  refine ⟨B', by rw [hlenT]; have := X.cap; omega, ?_, ?_, by rw [hout]; exact hout' _ X.out, HR', ?_⟩
  · intro i hi a ha
    rw [hlenT] at hi
    rw [hlow _ (by omega)] at ha
    rw [hkeep _ (by omega)]
    have := X.words i (by omega) a ha
    simpa using this
  · intro i hi hc r hr
    rw [hlenT] at hi
    have hi' : i < Γ.length := by omega
    have hc' : Γ[i].chi ≠ .ext := by simpa using hc
    rw [hlow _ (by omega)] at hr
    rw [hkeep _ (by omega), X.ptrs i hi' hc' r hr]
    congr 1
    unfold imgWord
    by_cases h0 : r = 0
    · simp [h0]
    · rw [if_neg h0, if_neg h0]
      have := (X3.ref_lt X hi' hc' hr h0).2
      show _ = BitVec.ofNat 64 (if r.toNat = cfg.next then p else ι r.toNat)
      rw [if_neg (by omega)]
  · rw [hheap, hnx, trHeap_cons, trHeap_congr T.stride κ cfg.heap hκold]
    exact R1

/-- `store` of no field: the null pointer -/
theorem store_x3_empty {Γ : Ctx} {cfg cfg1 : Config} {hs : HState} {ι : Nat → Nat} {κ : Nat → Nat → Word} {st : T.S}
    (X : X3 T Γ cfg hs ι κ st) (hroomT : 2 * Γ.length < T.ntemps)
    (hlow : ∀ t, t < 2 * Γ.length → cfg1.temps.get t = cfg.temps.get t)
    (hheap : cfg1.heap = cfg.heap) (hnx : cfg1.next = cfg.next) (hout : cfg1.out = cfg.out) (kk : Nat) :
    ∃ code kk', (B.store [] Γ).run kk = .ok (code, kk') ∧ kk ≤ kk' ∧ T.LabsIn code kk kk' ∧
      ∃ st', T.Exec code st st' ∧ X3R T Γ cfg1 (roots Γ cfg.temps) hs ι κ st' ∧
        T.tv st' (2 * Γ.length) = some 0 ∧ (∀ t, t < 2 * Γ.length → T.tv st' t = T.tv st t) := by
  obtain ⟨code, kk', hrun, hle, hlabs, st', hx, B', HR', ⟨w, hw, ew⟩, hkeep, hout'⟩ :=
    T.store X.bnd X.hrel (toStore := []) (rem := Γ) (fs := [])
      (by have := X.cap; simp; omega) hroomT trivial (storeObj_nil hs) kk
  have hw0 : w = 0 := by
    apply BitVec.eq_of_toNat_eq; rw [ew]; rfl
  refine ⟨code, kk', hrun, hle, hlabs, st', hx, ?_, by rw [hw, hw0], hkeep⟩
  refine ⟨B', X.cap, ?_, ?_, by rw [hout]; exact hout' _ X.out, HR', ?_⟩
  · intro i hi a ha
    rw [hlow _ (by omega)] at ha
    rw [hkeep _ (by omega)]
    exact X.words i hi a ha
  · intro i hi hc r hr
    rw [hlow _ (by omega)] at hr
    rw [hkeep _ (by omega)]
    exact X.ptrs i hi hc r hr
  · rw [hheap, hnx]
    exact X.href

end

section
variable {Code Tm : Type} {B : Backend Code Tm} (M : Machine B)

/-- the roots of a context with one more variable, in temporaries that agree with `σ` up to its pointer part -/
theorem roots_snoc_congr {σ σ' : Temps} {Γ : Ctx} {b : Binding}
    (h : ∀ t, t < 2 * Γ.length + 1 → σ'.get t = σ.get t) :
    roots (Γ ++ [b]) σ' = roots Γ σ ++ rootOf σ b Γ.length := by
  rw [roots_snoc, roots_congr σ σ' Γ (fun i hi => h (2 * i) (by omega))]
  unfold rootOf
  rw [h (2 * Γ.length) (by omega)]

/-- the `store` of `let` / `create` on both machines: the positions `N, N+1, …` become the fields of a new
object, referenced by the pointer part of the new position `N` (a binding `b` of non-`ext` kind) -/
theorem store_mid {P : Program} {Γ : Ctx} {N : Nat} (hNle : N ≤ Γ.length) (hN1 : 2 * N + 1 < M.ntemps)
    {b : Binding} (hb : b.chi ≠ .ext)
    {cfg cA : Config} {hs : HState} {ι : Nat → Nat} {κ : Nat → Nat → Word} {st0 : M.S} {kp : Nat}
    (X0 : X3 M.toTarget Γ cfg hs ι κ st0)
    (hstore : P.code[cfg.pc]? = some (.store (Mock.kindsOf (Γ.drop N)) N))
    (hsA : Abs.step P cfg = .next cA)
    {fields : List Abs.Field} (hf : readFields cfg.temps (Mock.kindsOf (Γ.drop N)) N = some fields)
    (hch : Obj.children ⟨0, fields⟩ = roots.go cfg.temps (Γ.drop N) N)
    (hnext : cfg.next < 2 ^ 64) (hroom : Room hs (64 * (Γ.length - N) + 64))
    {k kst : Nat} {cst rest : List Code}
    (hstX : (B.store (Γ.drop N) (Γ.take N)).run k = .ok (cst, kst))
    (hat1 : XAt M.cs kp (cst ++ rest)) (hpc : M.pcAt st0 kp) :
    ∃ st1 hs' ι' κ', M.RunS kp st0 (kp + cst.length) st1 ∧ M.pcAt st1 (kp + cst.length) ∧
      X3R M.toTarget (Γ.take N) cA (roots (Γ.take N) cA.temps ++ rootOf cA.temps b N) hs' ι' κ' st1 ∧
      (∀ r, cA.temps.get (2 * N) = some r → M.tv st1 (2 * N) = some (imgWord ι' r)) ∧
      cA.pc = cfg.pc + 1 ∧ FrLe hs hs' (64 * (Γ.length - N)) ∧
      cA.out = cfg.out ∧ cA.next ≤ cfg.next + 1 ∧
      (∀ t, t < 2 * N → cA.temps.get t = cfg.temps.get t) ∧
      (∀ t, t < 2 * N → M.tv st1 t = M.tv st0 t) ∧
      ((Γ.drop N = [] ∧ cA.heap = cfg.heap ∧ κ' = κ ∧ cA.temps.get (2 * N) = some 0) ∨
       (Γ.drop N ≠ [] ∧ cA.heap = (cfg.next, ⟨0, fields⟩) :: cfg.heap ∧
        κ' = Prov.storeK (M.tv st0) κ cfg.next N ∧
        cA.temps.get (2 * N) = some (BitVec.ofNat 64 cfg.next))) ∧ FrPk hs hs' := by
  have hncst := M.noHook_store hstX
  have hN' := M.ntemps_le
  have h2N : 2 * N ≤ M.ntemps := by have := X0.cap; omega
  have hlenTake : (Γ.take N).length = N := by simp [Nat.min_eq_left hNle]
  have hbne : (b.chi != Chi.ext) = true := (Scc.Backend.Sim2.chi_bne_ext _).mpr hb
  cases hΔ : Γ.drop N with
  | nil =>
    have hNΓ : N = Γ.length := by
      have := congrArg List.length hΔ
      simp at this; omega
    rw [hΔ] at hstore hstX
    have hT : Γ.take N = Γ := by rw [hNΓ]; exact List.take_length
    rw [hT] at hstX ⊢
    have hA := step_store_empty P cfg N hstore
    rw [hsA] at hA
    injection hA with hA
    have hlow : ∀ t, t < 2 * Γ.length → cA.temps.get t = cfg.temps.get t := by
      intro t ht
      rw [hA]
      simp only
      rw [get_set_other _ _ (by omega), get_clobberTemp _ (by unfold Mock.T_TEMP; have := X0.cap; omega)]
    obtain ⟨code, kk', hrunS, _, _, st1, hx, X1, hv1, hkeepE⟩ :=
      store_x3_empty X0 (by omega) hlow (by rw [hA]) (by rw [hA]) (by rw [hA]) k
    have hcode : code = cst ∧ kk' = kst := by
      have : (B.store [] Γ).run k = .ok (cst, kst) := hstX
      rw [hrunS] at this
      injection this with this
      injection this with e1 e2
      exact ⟨e1, e2⟩
    obtain ⟨rfl, rfl⟩ := hcode
    obtain ⟨st1', hn1, hpc1, B1', K1'⟩ := M.lift hat1.left hpc hx hncst X1.bnd
    have h2n : cA.temps.get (2 * N) = some 0 := by
      rw [hA]; simp only; exact get_set_same _ _ _
    have hcapΓ := X0.cap
    refine ⟨st1', hs, ι, κ, hn1, hpc1, ?_, ?_, by rw [hA], by
      rw [hNΓ, Nat.sub_self]; exact Scc.Heap.Refine.FrLe.refl hs, by rw [hA], by rw [hA]; exact Nat.le_succ _,
      fun t ht => hlow t (by omega),
      fun t ht => by rw [K1'.tv _ (by omega) id]; exact hkeepE t (by omega),
      Or.inl ⟨rfl, by rw [hA], rfl, h2n⟩, FrPk.refl hs⟩
    · have hr : rootOf cA.temps b N = [] := by
        unfold rootOf; rw [h2n]; simp
      rw [hr, List.append_nil, roots_congr _ _ _ (fun i hi => hlow (2 * i) (by omega))]
      exact X3R.keep X1 B1' K1'
    · intro r hr
      rw [h2n] at hr
      obtain rfl := Option.some.inj hr
      rw [K1'.tv _ (by omega) id, hNΓ, hv1]
      simp [imgWord]
  | cons b0 Δ =>
    rw [hΔ] at hstore
    have hfc : readFields cfg.temps (b0.chi :: Mock.kindsOf Δ) N = some fields := by
      rw [hΔ] at hf; exact hf
    have hA := step_store_cons P cfg b0.chi (Mock.kindsOf Δ) N fields hstore hfc
    rw [hsA] at hA
    injection hA with hA
    have hNlt : N < Γ.length := by
      have := congrArg List.length hΔ
      simp at this; omega
    have hlow : ∀ t, t < 2 * N → cA.temps.get t = cfg.temps.get t := by
      intro t ht
      rw [hA]
      simp only
      rw [get_set_other _ _ (by omega), get_clearPositions, if_neg (by omega),
        get_clobberTemp _ (by unfold Mock.T_TEMP; have := X0.cap; omega)]
    obtain ⟨code, kk', hrunS, _, _, st1, hs', p, hx, X1, hv1, hp0, hplt, hfrS, hkeepS, hpkS⟩ :=
      store_x3 X0 hNlt (by rw [hΔ]; exact hfc) hch hnext hlow (by rw [hA]) (by rw [hA])
        (by rw [hA]) hroom k
    have hcode : code = cst ∧ kk' = kst := by
      have : (B.store (Γ.drop N) (Γ.take N)).run k = .ok (cst, kst) := hstX
      rw [hrunS] at this
      injection this with this
      injection this with e1 e2
      exact ⟨e1, e2⟩
    obtain ⟨rfl, rfl⟩ := hcode
    obtain ⟨st1', hn1, hpc1, B1', K1'⟩ := M.lift hat1.left hpc hx hncst X1.bnd
    have hcapΓ := X0.cap
    have h2n : cA.temps.get (2 * N) = some (BitVec.ofNat 64 cfg.next) := by
      rw [hA]; simp only; exact get_set_same _ _ _
    have hr0 : BitVec.ofNat 64 cfg.next ≠ 0 := ofNat_ne_zero X0.href.abs.pos hnext
    have hrt : (BitVec.ofNat 64 cfg.next).toNat = cfg.next := ofNat_toNat_lt hnext
    refine ⟨st1', hs', (fun i => if i = cfg.next then p else ι i), Prov.storeK (M.tv st0) κ cfg.next N, hn1, hpc1,
      ?_, ?_, by rw [hA], hfrS, by rw [hA], by rw [hA]; exact Nat.le_refl _, hlow,
      fun t ht => by rw [K1'.tv _ (by omega) id]; exact hkeepS t ht,
      Or.inr ⟨by simp, by rw [hA], rfl, h2n⟩, hpkS⟩
    · have hr : rootOf cA.temps b N = [cfg.next] := by
        unfold rootOf
        rw [h2n]
        have h2 : (BitVec.ofNat 64 cfg.next != 0) = true := by rw [bne_iff_ne]; exact hr0
        simp only [hbne, h2, if_true, hrt]
      rw [hr, roots_congr _ _ _ (fun i hi => hlow (2 * i) (by rw [hlenTake] at hi; omega))]
      exact X3R.keep X1 B1' K1'
    · intro r hr
      rw [h2n] at hr
      obtain rfl := Option.some.inj hr
      rw [K1'.tv _ (by omega) id, hv1]
      unfold imgWord
      rw [if_neg hr0, hrt]
      simp

/-- `let` on the three machines: `sim2_let`, and the machine stores the last `args.length` positions into a fresh
block (`store_mid`) and loads the tag into the word part of the new position (`M.loadImm`); what happened to the
positions and the heap is `Prov.LetProv` -/
theorem let_x3 {P : Program} {hooks : Bool} {prog : AxCut.Prog} {Γ : Ctx} {ρ : List Value} {x : Ident}
    {ty : Ty} {tag : Ident} {args : Ctx} {next : Stmt} {fv : FV} {cfg : Config} {pos : Nat}
    (R : RelX P hooks prog ⟨Γ, ρ, .letS x ty tag args next fv⟩ cfg)
    (hk : args.length ≤ Γ.length)
    (hfresh : ∀ b ∈ Γ.take (Γ.length - args.length), b.var.id ≠ x.id)
    (hpos : Pos.tagPosition prog.types ty tag = .ok pos)
    (hcap : 2 * (Γ.length - args.length + 1) + 2 < Mock.T_TEMP)
    (hnext : cfg.next < 2 ^ 64)
    {hs : HState} {ι : Nat → Nat} {κ : Nat → Nat → Word} {st : M.S} {kp : Nat}
    (X : X3 M.toTarget Γ cfg hs ι κ st)
    {k k' : Nat} {items : List Code}
    (hrun : (codeStatementR B hooks natRen prog.types (.letS x ty tag args next fv) Γ).run k =
      .ok (items, k'))
    (hat : XAt M.cs kp items) (hpc : M.pcAt st kp)
    (hroom : Room hs (64 * args.length + 64))
    (hfit : M.immOK (B.jumpLength pos)) :
    ∃ cfg' st' hs' ι' κ' kp', stepsTo P 2 cfg cfg' ∧ M.RunH kp st kp' st' ∧ M.pcAt st' kp' ∧
      FrLe hs hs' (64 * args.length) ∧ FrPk hs hs' ∧
      cfg'.out = cfg.out ∧ cfg'.next ≤ cfg.next + 1 ∧
      RelX P hooks prog ⟨Γ.take (Γ.length - args.length) ++ [⟨x, .prd, ty⟩],
        ρ.take (Γ.length - args.length) ++ [.obj pos (ρ.drop (Γ.length - args.length))], next⟩ cfg' ∧
      X3 M.toTarget (Γ.take (Γ.length - args.length) ++ [⟨x, .prd, ty⟩]) cfg' hs' ι' κ' st' ∧
      ∃ k1 k1' items', (codeStatementR B hooks natRen prog.types next
          (Γ.take (Γ.length - args.length) ++ [⟨x, .prd, ty⟩])).run k1 = .ok (items', k1') ∧
        XAt M.cs kp' items' ∧
        Prov.LetProv (M.tv st) (M.tv st') Γ (Γ.length - args.length) cfg cfg' κ κ' := by
  obtain ⟨cfg', hst, hout', hnx', R'⟩ := sim2_let R hk hfresh hpos hcap hnext
  -- the mock code at the program counter (as in `sim2_let`)
  obtain ⟨c, c', ops, hrunM, hatM⟩ := R.code
  obtain ⟨d, hd, hxp⟩ := tagPosition_ok hpos
  simp only [codeStatementR, run_bind_ok, run_pure_ok, lookupTypeDeclM_run_ok, xtorPositionM_run_ok,
    splitOffLast_run_ok, mockSym_store, mockSym_variableTemporary, vt_run_ok] at hrunM
  obtain ⟨decl, k1, ⟨hd', rfl⟩, pos', k2, ⟨hx', rfl⟩, sp, k3, ⟨_, rfl, rfl⟩, c1, k4, ⟨rfl, rfl⟩, t, k5,
    ⟨p, hp, rfl, rfl⟩, c3, k6, h3, rfl, rfl⟩ := hrunM
  rw [hd] at hd'; cases hd'
  rw [hxp] at hx'; cases hx'
  have hn : (Γ.take (Γ.length - args.length)).length = Γ.length - args.length := by simp
  have hp' : p = Γ.length - args.length := by
    rw [ctxPosition_eq_posOf] at hp
    have := posOf_append_fresh (Γ.take (Γ.length - args.length)) ⟨x, .prd, ty⟩ hfresh
    simp only at hp
    rw [this, hn] at hp
    exact (Option.some.inj hp).symm
  subst hp'
  simp only [mockSym_comment, mockSym_loadImmediate, mockSym_jumpLength, List.append_assoc,
    CodeAt_hook] at hatM
  simp only [List.cons_append, List.nil_append, CodeAt, TempNum.toNat] at hatM
  obtain ⟨hstore, hli, hat3⟩ := hatM
  rw [hn] at hstore
  simp only [codeStatementR, run_bind_ok, run_pure_ok, lookupTypeDeclM_run_ok, xtorPositionM_run_ok,
    splitOffLast_run_ok] at hrun
  obtain ⟨declX, _, ⟨hdX, rfl⟩, posX, _, ⟨hxX, rfl⟩, spX, _, ⟨_, rfl, rfl⟩, cst, kst, hstX, tX, _, htX,
    c3X, k6X, h3X, rfl, rfl⟩ := hrun
  rw [hd] at hdX; cases hdX
  rw [hxp] at hxX; cases hxX
  obtain ⟨pX, hpX, hltX, rfl, rfl⟩ := M.vt htX
  have hpX' : pX = Γ.length - args.length := by
    have := posOf_append_fresh (Γ.take (Γ.length - args.length)) ⟨x, .prd, ty⟩ hfresh
    simp only at hpX
    rw [this, hn] at hpX
    exact (Option.some.inj hpX).symm
  subst hpX'
  simp only [TempNum.toNat] at hltX
  generalize hN : Γ.length - args.length = N at *
  have hNle : N ≤ Γ.length := by omega
  obtain ⟨cA, hsA, cB, hsB, hcB⟩ := hst
  have hcB' : cB = cfg' := hcB
  subst hcB'
  simp only [TempNum.toNat] at hstX h3X htX hat h3 hp hpX
  have hatA : XAt M.cs kp ((hookCode B hooks Γ ++ [B.comment
      ("let " ++ x.print ++ ": " ++ tyPrint ty ++ " = " ++ tag.print ++ "(" ++ varsPrint args ++ ");")]) ++
      (cst ++ (B.comment "#load tag" :: (B.loadImmediate (M.posT (2 * N + 1)) (B.jumpLength pos) ++ c3X)))) := by
    simpa [List.append_assoc] using hat
  obtain ⟨st0, hk0, hpc0, B0, K0, htv0⟩ := M.run_c0 hatA.left hpc (M.commentOK_of_mm (by
    simp only [String.append_assoc]; exact mm_append (mm_ofList (by decide)))) X.bnd
  have X0 : X3 M.toTarget Γ cfg hs ι κ st0 := X3R.keep X B0 K0
  have hat1 := hatA.right
  have hN' := M.ntemps_le
  have hcapΓ := X.cap
  have hlenρ : (ρ.drop N).length = (Γ.drop N).length := by
    have := R.len; simp only at this; simp [this]
  obtain ⟨fields, hf, hrep, hch⟩ := readFields_ok2 (Γ.drop N) (ρ.drop N) N (R.vals.slice N) hlenρ
  have hlenTake : (Γ.take N).length = N := hn
  obtain ⟨st1, hs', ι', κ', hn1, hpc1, X1, hptr1, hpcA, hfrM, _, _, hlowM, hmachM, hobjM, hpkM⟩ :=
    store_mid M hNle hltX (b := ⟨x, .prd, ty⟩) (by intro h; cases h) X0 hstore hsA hf (hch 0) hnext
      (by rw [show Γ.length - N = args.length by omega]; exact hroom) hstX hat1 hpc0
  rw [show Γ.length - N = args.length by omega] at hfrM
  have hB := step_li P cA (2 * N + 1) pos (by rw [hpcA]; exact hli) (by unfold Mock.T_TEMP; omega)
  rw [hsB] at hB
  injection hB with hB
  have hat2 := hat1.right
  obtain ⟨st1c, hkc, hpcc, Bc, Kc⟩ := M.run_comment hat2.head hpc1
    (M.commentOK_of_mm (mm_ofList (by decide))) X1.bnd
  obtain ⟨st2, hk2, hpc2, B2, hv2, K2⟩ := M.loadImm hat2.tail.left hpcc Bc hltX hfit
  have K12 : Keep M.toTarget st1 st2 (· = 2 * N + 1) := (Kc.mono (fun _ h => h.elim)).trans K2
  have X2 : X3R M.toTarget (Γ.take N ++ [⟨x, .prd, ty⟩]) cB
      (roots (Γ.take N) cA.temps ++ rootOf cA.temps ⟨x, .prd, ty⟩ N) hs' ι' κ' st2 := by
    refine X3R.snoc X1 (by rw [hlenTake]; exact hltX) B2 (by rw [hlenTake]; exact K12) (a := BitVec.ofInt 64 pos)
      (v := BitVec.ofInt 64 (B.jumpLength pos)) (by rw [hlenTake, hv2]) (fun _ => M.jumpLength_stride pos)
      (by rw [hB, hlenTake]) (by rw [hB]) (by rw [hB]) (by rw [hB]) ?_
    intro _ r hr
    rw [hlenTake] at hr ⊢
    exact hptr1 r hr
  have hrootsB : roots (Γ.take N ++ [⟨x, .prd, ty⟩]) cB.temps =
      roots (Γ.take N) cA.temps ++ rootOf cA.temps ⟨x, .prd, ty⟩ N := by
    have hgetB : ∀ t, t ≠ 2 * N + 1 → t < M.ntemps → cB.temps.get t = cA.temps.get t := by
      intro t hne ht
      rw [hB]
      simp only
      rw [get_set_other _ _ hne, get_clobberTemp _ (by unfold Mock.T_TEMP; omega)]
    have := roots_snoc_congr (Γ := Γ.take N) (b := ⟨x, .prd, ty⟩)
      (fun t ht => hgetB t (by rw [hlenTake] at ht; omega) (by rw [hlenTake] at ht; omega))
    rwa [hlenTake] at this
  refine ⟨cB, st2, hs', ι', κ', _, ⟨cA, hsA, cB, hsB, rfl⟩,
    M.runH_trans (M.runH_trans (M.runH_trans hk0 hn1) hkc) hk2, hpc2, hfrM, hpkM,
    hout', hnx', R', ?_, _, _, c3X, h3X, hat2.tail.right, ?_⟩
  · show X3R M.toTarget _ cB (roots _ cB.temps) hs' ι' κ' _
    rw [hrootsB]
    exact X2
  · -- what happened to the positions and the heap
    have hκeq : Prov.storeK (M.tv st0) κ cfg.next N = Prov.storeK (M.tv st) κ cfg.next N := by
      funext i j
      simp only [Prov.storeK, htv0]
    refine ⟨⟨fun t ht => ?_, fun i hi => ?_⟩, fields, hf, ?_⟩
    · rw [hB]; simp only
      rw [get_set_other _ _ (by omega), get_clobberTemp _ (by unfold Mock.T_TEMP; omega)]
      exact hlowM t ht
    · show M.tv st2 _ = M.tv st _
      rw [K12.tv _ (by omega) (by omega), hmachM _ (by omega), K0.tv _ (by omega) id]
    · have hg2N : cB.temps.get (2 * N) = cA.temps.get (2 * N) := by
        rw [hB]; simp only
        rw [get_set_other _ _ (by omega), get_clobberTemp _ (by unfold Mock.T_TEMP; omega)]
      rcases hobjM with ⟨h1, h2, h3, h4⟩ | ⟨h1, h2, h3, h4⟩
      · exact Or.inl ⟨h1, by rw [hB]; exact h2, h3, by rw [hg2N]; exact h4⟩
      · exact Or.inr ⟨h1, by rw [hB]; exact h2, by rw [h3, hκeq], by rw [hg2N]; exact h4⟩

end

section
variable {Code Tm : Type} {B : Backend Code Tm} (M : MachineA B)

/-- `create` on the three machines: `sim2_create`, and the machine stores the environment into a fresh block
(`store_mid`) and loads the address of the method table (`M.loadLabel`) into the word part of the new position;
the methods stand behind that address on both sides (`MethodsAt`, `XMethodsAtB`) -/
theorem create_x3 {P : Program} {hooks : Bool} {prog : AxCut.Prog} {Γ : Ctx}
    {ρ : List Value} {x : Ident} {ty : Ty} {Γc : Ctx} {clauses : Clauses} {next : Stmt} {f1 f2 : FV}
    {cfg : Config}
    (R : RelX P hooks prog ⟨Γ, ρ, .create x ty (some Γc) clauses next f1 f2⟩ cfg)
    (hk : Γc.length ≤ Γ.length)
    (hkeys : Ctx.keys (Γ.drop (Γ.length - Γc.length)) = Γc.keys)
    (hfresh : ∀ b ∈ Γ.take (Γ.length - Γc.length), b.var.id ≠ x.id)
    (hcap : 2 * (Γ.length - Γc.length + 1) + 2 < Mock.T_TEMP)
    (hnext : cfg.next < 2 ^ 64)
    {hs : HState} {ι : Nat → Nat} {κ : Nat → Nat → Word} {st : M.S} {kp : Nat}
    (X : X3 M.toTarget Γ cfg hs ι κ st)
    {k k' : Nat} {items : List Code}
    (hrun : (codeStatementR B hooks natRen prog.types (.create x ty (some Γc) clauses next f1 f2) Γ).run k =
      .ok (items, k'))
    (hat : XAt M.cs kp items) (hpc : M.pcAt st kp)
    (hroom : Room hs (64 * Γc.length + 64)) :
    ∃ cfg' st' hs' ι' κ' kp', stepsTo P 2 cfg cfg' ∧ M.RunH kp st kp' st' ∧ M.pcAt st' kp' ∧
      FrLe hs hs' (64 * Γc.length) ∧ FrPk hs hs' ∧
      cfg'.out = cfg.out ∧ cfg'.next ≤ cfg.next + 1 ∧
      RelX P hooks prog ⟨Γ.take (Γ.length - Γc.length) ++ [⟨x, .cns, ty⟩],
        ρ.take (Γ.length - Γc.length) ++ [.clo Γc (ρ.drop (Γ.length - Γc.length)) clauses], next⟩ cfg' ∧
      X3 M.toTarget (Γ.take (Γ.length - Γc.length) ++ [⟨x, .cns, ty⟩]) cfg' hs' ι' κ' st' ∧
      ∃ k1 k1' items', (codeStatementR B hooks natRen prog.types next
          (Γ.take (Γ.length - Γc.length) ++ [⟨x, .cns, ty⟩])).run k1 = .ok (items', k1') ∧
        XAt M.cs kp' items' ∧ Prov.LetProv (M.tv st) (M.tv st') Γ (Γ.length - Γc.length) cfg cfg' κ κ' ∧
        ∃ a w, cfg'.temps.get (2 * (Γ.length - Γc.length) + 1) = some (BitVec.ofNat 64 a) ∧
          M.tv st' (2 * (Γ.length - Γc.length) + 1) = some w ∧
          MethodsAt P hooks prog.types a (Γ.drop (Γ.length - Γc.length)) clauses ∧
          ∃ base, M.LabelOK base ∧
            XMethodsAtB M hooks prog.types w (Γ.drop (Γ.length - Γc.length)) clauses base := by
  obtain ⟨cfg', hst, hout', hnx', R'⟩ := sim2_create R hk hkeys hfresh hcap hnext
  -- the mock code at the program counter (as in `sim2_create`)
  obtain ⟨c, c', ops, hrunM, hatM⟩ := R.code
  simp only [codeStatementR, run_bind_ok, run_pure_ok, freshLabelStr_run_ok, splitOffLast_run_ok,
    mockSym_store, mockSym_variableTemporary, vt_run_ok] at hrunM
  obtain ⟨sp, k1, ⟨_, rfl, rfl⟩, c1, k2, ⟨rfl, rfl⟩, num, k3, ⟨rfl, rfl⟩, t, k4, ⟨p, hp, rfl, rfl⟩,
    c3, k5, h3, c5, k6, h5, rfl, rfl⟩ := hrunM
  have hn : (Γ.take (Γ.length - Γc.length)).length = Γ.length - Γc.length := by simp
  have hp' : p = Γ.length - Γc.length := by
    rw [ctxPosition_eq_posOf] at hp
    have := posOf_append_fresh (Γ.take (Γ.length - Γc.length)) ⟨x, .cns, ty⟩ hfresh
    simp only at hp
    rw [this, hn] at hp
    exact (Option.some.inj hp).symm
  subst hp'
  simp only [mockSym_comment, mockSym_loadLabel, mockSym_label, List.append_assoc, CodeAt_hook] at hatM
  simp only [List.cons_append, List.nil_append, CodeAt, TempNum.toNat] at hatM
  obtain ⟨hstore, hll, hat'⟩ := hatM
  rw [CodeAt_append] at hat'
  obtain ⟨hat3, hat45⟩ := hat'
  simp only [CodeAt] at hat45
  obtain ⟨hlab, hat45'⟩ := hat45
  rw [hn] at hstore
  simp only [codeStatementR, run_bind_ok, run_pure_ok, freshLabelStr_run_ok, splitOffLast_run_ok] at hrun
  obtain ⟨spX, _, ⟨_, rfl, rfl⟩, cst, kst, hstX, numX, _, ⟨rfl, rfl⟩, tX, _, htX, c3X, k5X, h3X, c5X, k6X, h5X,
    rfl, rfl⟩ := hrun
  obtain ⟨pX, hpX, hltX, rfl, rfl⟩ := M.vt htX
  have hpX' : pX = Γ.length - Γc.length := by
    have := posOf_append_fresh (Γ.take (Γ.length - Γc.length)) ⟨x, .cns, ty⟩ hfresh
    simp only at hpX
    rw [this, hn] at hpX
    exact (Option.some.inj hpX).symm
  subst hpX'
  simp only [TempNum.toNat] at hltX
  generalize hN : Γ.length - Γc.length = N at *
  have hNle : N ≤ Γ.length := by omega
  obtain ⟨cA, hsA, cB, hsB, hcB⟩ := hst
  have hcB' : cB = cfg' := hcB
  subst hcB'
  simp only [TempNum.toNat] at hstX h3X htX hat h3 hp hpX h5 h5X
  generalize hlbl : mangleTy ty ++ "_" ++ natRen (_ + 1) = lbl at hat h5X
  generalize hT : (if clauses.length > 1 then codeTable B clauses lbl else []) = table at hat
  have hatA : XAt M.cs kp ((hookCode B hooks Γ ++ [B.comment
      ("create " ++ x.print ++ ": " ++ tyPrint ty ++ " = (" ++ varsPrint Γc ++ ")\\{ ... \\};")]) ++
      (cst ++ (B.comment "#load tag" :: (B.loadLabel (M.posT (2 * N + 1)) lbl ++
      (c3X ++ (B.label lbl :: (table ++ c5X))))))) := by
    simpa [List.append_assoc] using hat
  obtain ⟨st0, hk0, hpc0, B0, K0, htv0⟩ := M.run_c0 hatA.left hpc (M.commentOK_of_mm (by
    simp only [String.append_assoc]; exact mm_append (mm_ofList (by decide)))) X.bnd
  have X0 : X3 M.toTarget Γ cfg hs ι κ st0 := X3R.keep X B0 K0
  have hat1 := hatA.right
  have hN' := M.ntemps_le
  have hcapΓ := X.cap
  have hlenρ : (ρ.drop N).length = (Γ.drop N).length := by
    have := R.len; simp only at this; simp [this]
  obtain ⟨fields, hf, hrep, hch⟩ := readFields_ok2 (Γ.drop N) (ρ.drop N) N (R.vals.slice N) hlenρ
  have hlenTake : (Γ.take N).length = N := hn
  obtain ⟨st1, hs', ι', κ', hn1, hpc1, X1, hptr1, hpcA, hfrM, _, _, hlowM, hmachM, hobjM, hpkM⟩ :=
    store_mid M.toMachine hNle hltX (b := ⟨x, .cns, ty⟩) (by intro h; cases h) X0 hstore hsA hf (hch 0) hnext
      (by rw [show Γ.length - N = Γc.length by omega]; exact hroom) hstX hat1 hpc0
  have hll' : P.code[cA.pc]? = some (.ll (2 * N + 1) (mangleTy ty ++ "_" ++ natRen (c + 1))) := by
    rw [hpcA]; exact hll
  have hB := step_ll P cA (2 * N + 1) _ _ hll' (by unfold Mock.T_TEMP; omega) hlab
  rw [hsB] at hB
  injection hB with hB
  have hat2 := hat1.right
  have hatT := hat2.tail.right.right
  obtain ⟨st1c, hkc, hpcc, Bc, Kc⟩ := M.run_comment hat2.head hpc1
    (M.commentOK_of_mm (mm_ofList (by decide))) X1.bnd
  obtain ⟨st2, hk2, hpc2, B2, hv2, K2⟩ := M.loadLabel hat2.tail.left hatT.head hpcc Bc hltX
  have K12 : Keep M.toTarget st1 st2 (· = 2 * N + 1) := (Kc.mono (fun _ h => h.elim)).trans K2
  have X2 : X3R M.toTarget (Γ.take N ++ [⟨x, .cns, ty⟩]) cB
      (roots (Γ.take N) cA.temps ++ rootOf cA.temps ⟨x, .cns, ty⟩ N) hs' ι' κ' st2 := by
    refine X3R.snoc X1 (by rw [hlenTake]; exact hltX) B2 (by rw [hlenTake]; exact K12)
      (a := BitVec.ofNat 64 (cfg.pc + 1 + 1 + instrCount c3)) (by rw [hlenTake, hv2]) (fun h => absurd rfl h)
      (by rw [hB, hlenTake]) (by rw [hB]) (by rw [hB]) (by rw [hB]) ?_
    intro _ r hr
    rw [hlenTake] at hr ⊢
    exact hptr1 r hr
  have hgetB : ∀ t, t ≠ 2 * N + 1 → t < M.ntemps → cB.temps.get t = cA.temps.get t := by
    intro t hne ht
    rw [hB]
    simp only
    rw [get_set_other _ _ hne, get_clobberTemp _ (by unfold Mock.T_TEMP; omega)]
  have hrootsB : roots (Γ.take N ++ [⟨x, .cns, ty⟩]) cB.temps =
      roots (Γ.take N) cA.temps ++ rootOf cA.temps ⟨x, .cns, ty⟩ N := by
    have := roots_snoc_congr (Γ := Γ.take N) (b := ⟨x, .cns, ty⟩)
      (fun t ht => hgetB t (by rw [hlenTake] at ht; omega) (by rw [hlenTake] at ht; omega))
    rwa [hlenTake] at this
  have hκeq : Prov.storeK (M.tv st0) κ cfg.next N = Prov.storeK (M.tv st) κ cfg.next N := by
    funext i j
    simp only [Prov.storeK, htv0]
  refine ⟨cB, st2, hs', ι', κ', _, ⟨cA, hsA, cB, hsB, rfl⟩,
    M.runH_trans (M.runH_trans (M.runH_trans hk0 hn1) hkc) hk2, hpc2,
    by rw [show Γ.length - N = Γc.length by omega] at hfrM; exact hfrM, hpkM,
    hout', hnx', R', ?_, _, _, c3X, h3X, hat2.tail.right.left, ?_, cfg.pc + 1 + 1 + instrCount c3,
    _, ?_, hv2, ?_, ?_⟩
  · show X3R M.toTarget _ cB (roots _ cB.temps) hs' ι' κ' _
    rw [hrootsB]
    exact X2
  · -- what happened to the positions and the heap
    refine ⟨⟨fun t ht => ?_, fun i hi => ?_⟩, fields, hf, ?_⟩
    · rw [hgetB t (by omega) (by omega)]
      exact hlowM t ht
    · show M.tv st2 _ = M.tv st _
      rw [K12.tv _ (by omega) (by omega), hmachM _ (by omega), K0.tv _ (by omega) id]
    · rcases hobjM with ⟨h1, h2, h3, h4⟩ | ⟨h1, h2, h3, h4⟩
      · exact Or.inl ⟨h1, by rw [hB]; exact h2, h3, by rw [hgetB _ (by omega) (by omega)]; exact h4⟩
      · exact Or.inr ⟨h1, by rw [hB]; exact h2, by rw [h3, hκeq], by rw [hgetB _ (by omega) (by omega)]; exact h4⟩
  · rw [hB]; simp only; exact get_set_same _ _ _
  · refine ⟨mangleTy ty ++ "_" ++ natRen (c + 1), k5, k6, c5, ?_, ?_⟩
    · simpa using h5
    · simp only [CodeAt]
      exact ⟨hlab, hat45'⟩
  · refine ⟨lbl, hlbl ▸ M.labelOK_table _ _, _, _, c5X, _, h5X, ?_, rfl⟩
    rw [hT]
    exact hatT

end

end Scc.Backend.ThreeWay
