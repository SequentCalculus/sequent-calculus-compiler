/-
  Counting lemmas about the ROOTS of a context for the `subst` statement (Theorem A):
  * `roots_count_transpose` — the roots of `Γ` are, up to order, the roots contributed by the keys of the
    transposed map `transpose pairs Γ` (each binding of `Γ` once);
  * `roots_new_count` — the roots of the new context `pairs.map (·.1)` (whose pointer temporaries hold what
    the pointer temporaries of the sources held) are, up to order, the root of every old binding once per
    target of that binding.
  Pure list/counting facts: no machine, no code.  Sources modelled elsewhere (`substitution.rs: fn transpose`
  in `Scc/Backend/Generic.lean`).
-/
import Scc.Backend.ProofsConn2
import Scc.Backend.ProofsRep2
import Scc.ListLemmas

namespace Scc.Backend.Subst

open Scc.AxCut Scc.Backend.Abs Scc.Backend.Sim Scc.Backend.Sim2

def rootAt (σ : Temps) (Γ : Ctx) (b : Binding) : List Nat := rootOf σ b (posIn Γ b.var.id)

/-- the roots of the not yet processed entries of the transposed map: each once -/
def rootsT (σ : Temps) (Γ : Ctx) (tm : List (Binding × List Nat)) : List Nat :=
  tm.flatMap fun e => rootAt σ Γ e.1

/-- the roots after reference counts have been adjusted: one per target -/
def rootsDone (σ : Temps) (Γ : Ctx) (tm : List (Binding × List Nat)) : List Nat :=
  tm.flatMap fun e => (List.replicate e.2.length (rootAt σ Γ e.1)).flatten

theorem count_flatMap_perm {α : Type} (f : α → List Nat) (x : Nat) {l₁ l₂ : List α} (h : l₁.Perm l₂) :
    (l₁.flatMap f).count x = (l₂.flatMap f).count x := by
  induction h with
  | nil => rfl
  | cons a _ ih => simp only [List.flatMap_cons, List.count_append, ih]
  | swap a b l => simp only [List.flatMap_cons, List.count_append]; omega
  | trans _ _ ih1 ih2 => rw [ih1, ih2]

/-- the weighted number of occurrences of `x`: binding `b` contributes `w b` copies of `g b` -/
theorem count_weighted_add {α : Type} (g : α → List Nat) (w1 w2 : α → Nat) (x : Nat) : ∀ l : List α,
    (l.flatMap fun b => (List.replicate (w1 b + w2 b) (g b)).flatten).count x =
      (l.flatMap fun b => (List.replicate (w1 b) (g b)).flatten).count x +
      (l.flatMap fun b => (List.replicate (w2 b) (g b)).flatten).count x
  | [] => by simp
  | a :: l => by
    simp only [List.flatMap_cons, List.count_append, count_weighted_add g w1 w2 x l,
      count_flatten_replicate, Nat.add_mul]
    omega

theorem count_weighted_zero {α : Type} (g : α → List Nat) (x : Nat) : ∀ l : List α,
    (l.flatMap fun b => (List.replicate 0 (g b)).flatten).count x = 0
  | [] => by simp
  | a :: l => by
    simp only [List.flatMap_cons, List.count_append, count_weighted_zero g x l,
      count_flatten_replicate, Nat.zero_mul]

/-- the indicator weight of one identifier picks out the unique binding with that identifier -/
theorem count_weighted_unique (g : Binding → List Nat) (x : Nat) (id : Nat) (b₀ : Binding)
    (hid : b₀.var.id = id) : ∀ Γ : Ctx, (Γ.map (·.var.id)).Nodup → b₀ ∈ Γ →
    (Γ.flatMap fun b => (List.replicate (if b.var.id == id then 1 else 0) (g b)).flatten).count x =
      (g b₀).count x
  | [], _, hm => by simp at hm
  | a :: Γ, hnd, hm => by
    simp only [List.map_cons, List.nodup_cons] at hnd
    simp only [List.flatMap_cons, List.count_append, count_flatten_replicate]
    rcases List.mem_cons.mp hm with rfl | hm'
    · -- `b₀` is the head: no binding of the tail has its identifier
      have htail : (Γ.flatMap fun b =>
          (List.replicate (if b.var.id == id then 1 else 0) (g b)).flatten).count x = 0 := by
        have hcongr : ∀ Δ : Ctx, (∀ b ∈ Δ, b.var.id ≠ id) →
            (Δ.flatMap fun b =>
              (List.replicate (if b.var.id == id then 1 else 0) (g b)).flatten).count x = 0 := by
          intro Δ
          induction Δ with
          | nil => intro _; simp
          | cons d Δ ih =>
            intro hne
            have hd : (d.var.id == id) = false := by
              rw [beq_eq_false_iff_ne]; exact hne d (List.mem_cons_self)
            simp only [List.flatMap_cons, List.count_append, count_flatten_replicate, hd,
              ih (fun b hb => hne b (List.mem_cons_of_mem _ hb))]
            simp
        apply hcongr
        intro b hb hbid
        exact hnd.1 (List.mem_map.mpr ⟨b, hb, by rw [hbid, hid]⟩)
      have hh : (b₀.var.id == id) = true := by rw [beq_iff_eq]; exact hid
      rw [htail, hh]; simp
    · have hne : (a.var.id == id) = false := by
        rw [beq_eq_false_iff_ne]
        intro ha
        exact hnd.1 (List.mem_map.mpr ⟨b₀, hm', by rw [hid, ha]⟩)
      rw [count_weighted_unique g x id b₀ hid Γ hnd.2 hm', hne]; simp

theorem roots_go_cons (σ : Temps) (b : Binding) (Δ : Ctx) (k : Nat) :
    roots.go σ (b :: Δ) k = rootOf σ b k ++ roots.go σ Δ (k + 1) := by
  simp only [roots.go, rootOf]
  cases σ.get (2 * k) <;> rfl

theorem rootOf_get_congr (σ σ' : Temps) (b : Binding) (i j : Nat) (h : σ'.get (2 * i) = σ.get (2 * j)) :
    rootOf σ' b i = rootOf σ b j := by
  unfold rootOf; rw [h]

theorem roots_go_flatMap (σ : Temps) (f : Binding → Nat) : ∀ (Δ : Ctx) (k : Nat),
    (∀ j (hj : j < Δ.length), f Δ[j] = k + j) →
    roots.go σ Δ k = Δ.flatMap (fun b => rootOf σ b (f b))
  | [], _, _ => rfl
  | b :: Δ, k, h => by
    have h0 : f b = k := h 0 (Nat.zero_lt_succ _)
    have ih := roots_go_flatMap σ f Δ (k + 1) (fun j hj => by
      have := h (j + 1) (by simpa using hj)
      simp only [List.getElem_cons_succ] at this
      omega)
    rw [roots_go_cons, List.flatMap_cons, ih, h0]

theorem roots_eq_flatMap (σ : Temps) (Γ : Ctx) (hΓ : (Γ.map (·.var.id)).Nodup) :
    roots Γ σ = Γ.flatMap (rootAt σ Γ) := by
  unfold roots
  exact roots_go_flatMap σ (fun b => posIn Γ b.var.id) Γ 0 (fun j hj => by
    rw [posIn_getElem hΓ hj]; omega)

/-- the roots of the keys of the transposed map are the roots of the context -/
theorem roots_count_transpose (σ : Temps) (Γ : Ctx) (pairs : List (Binding × Ident))
    (hΓ : (Γ.map (·.var.id)).Nodup) :
    ∀ x, (rootsT σ Γ (transpose pairs Γ)).count x = (roots Γ σ).count x := by
  intro x
  unfold rootsT
  rw [count_flatMap_perm _ x (transpose_perm pairs Γ hΓ), List.flatMap_map, roots_eq_flatMap σ Γ hΓ]

/-- the root of the source of the pair `p` (only `.chi` of the binding matters to `rootOf`) -/
def srcRoot (σ : Temps) (Γ : Ctx) (p : Binding × Ident) : List Nat := rootOf σ p.1 (posIn Γ p.2.id)

theorem rootOf_chi_congr (σ : Temps) {b b' : Binding} (h : b.chi = b'.chi) (i : Nat) :
    rootOf σ b i = rootOf σ b' i := by
  unfold rootOf; rw [h]

theorem rootOf_ext (σ : Temps) {b : Binding} (h : b.chi = .ext) (i : Nat) : rootOf σ b i = [] := by
  unfold rootOf; rw [h]; rfl

theorem roots_go_new (σ σ' : Temps) (Γ : Ctx) : ∀ (ps : List (Binding × Ident)) (k : Nat),
    (∀ j (hj : j < ps.length), ps[j].1.chi ≠ .ext →
      σ'.get (2 * (k + j)) = σ.get (2 * posIn Γ ps[j].2.id)) →
    roots.go σ' (ps.map (·.1)) k = ps.flatMap (srcRoot σ Γ)
  | [], _, _ => rfl
  | p :: ps, k, h => by
    have ih := roots_go_new σ σ' Γ ps (k + 1) (fun j hj hc => by
      have := h (j + 1) (by simpa using hj) (by simpa using hc)
      simp only [List.getElem_cons_succ] at this
      rw [← this]; congr 2; omega)
    rw [List.map_cons, roots_go_cons, List.flatMap_cons, ih]
    congr 1
    unfold srcRoot
    by_cases hc : p.1.chi = .ext
    · rw [rootOf_ext σ' hc, rootOf_ext σ hc]
    · have h0 := h 0 (by simp) (by simpa using hc)
      simp only [List.getElem_cons_zero, Nat.add_zero] at h0
      exact rootOf_get_congr σ σ' p.1 k _ h0

theorem roots_new_eq (σ σ' : Temps) (Γ : Ctx) (pairs : List (Binding × Ident))
    (hσ : ∀ j (hj : j < pairs.length), pairs[j].1.chi ≠ .ext →
      σ'.get (2 * j) = σ.get (2 * posIn Γ pairs[j].2.id)) :
    roots (pairs.map (·.1)) σ' = pairs.flatMap (srcRoot σ Γ) := by
  unfold roots
  exact roots_go_new σ σ' Γ pairs 0 (fun j hj hc => by rw [Nat.zero_add]; exact hσ j hj hc)

theorem targetsOf_length_cons (p : Binding × Ident) (ps : List (Binding × Ident)) (b : Binding) :
    (targetsOf (p :: ps) b).length = (if b.var.id == p.2.id then 1 else 0) + (targetsOf ps b).length := by
  unfold targetsOf
  simp only [List.length_map, List.filter_cons]
  split <;> simp <;> omega

/-- double counting: every pair contributes the root of its source once -/
theorem count_pairs_eq_weighted (σ : Temps) (Γ : Ctx) (hΓ : (Γ.map (·.var.id)).Nodup) (x : Nat) :
    ∀ ps : List (Binding × Ident),
    (∀ p ∈ ps, ∃ b ∈ Γ, b.var.id = p.2.id ∧ b.chi = p.1.chi) →
    (ps.flatMap (srcRoot σ Γ)).count x =
      (Γ.flatMap fun b => (List.replicate (targetsOf ps b).length (rootAt σ Γ b)).flatten).count x
  | [], _ => by
    have : ∀ b : Binding, (targetsOf [] b).length = 0 := fun b => by simp [targetsOf]
    simp only [this, count_weighted_zero]; simp
  | p :: ps, hold => by
    obtain ⟨b₀, hb₀, hid, hchi⟩ := hold p (List.mem_cons_self)
    have ih := count_pairs_eq_weighted σ Γ hΓ x ps (fun q hq => hold q (List.mem_cons_of_mem _ hq))
    have hsrc : srcRoot σ Γ p = rootAt σ Γ b₀ := by
      unfold srcRoot rootAt
      rw [hid]; exact (rootOf_chi_congr σ hchi _).symm
    simp only [targetsOf_length_cons]
    rw [count_weighted_add (rootAt σ Γ) (fun b => if b.var.id == p.2.id then 1 else 0)
        (fun b => (targetsOf ps b).length) x Γ,
      count_weighted_unique (rootAt σ Γ) x p.2.id b₀ hid Γ hΓ hb₀, ← ih, List.flatMap_cons,
      List.count_append, hsrc]

/-- the roots of the new context: the root of every old binding, once per target -/
theorem roots_new_count (σ σ' : Temps) (Γ : Ctx) (pairs : List (Binding × Ident))
    (hΓ : (Γ.map (·.var.id)).Nodup)
    (hold : ∀ p ∈ pairs, ∃ b ∈ Γ, b.var.id = p.2.id ∧ b.chi = p.1.chi)
    (hσ : ∀ j (hj : j < pairs.length), pairs[j].1.chi ≠ .ext →
      σ'.get (2 * j) = σ.get (2 * posIn Γ pairs[j].2.id)) :
    ∀ x, (roots (pairs.map (·.1)) σ').count x = (rootsDone σ Γ (transpose pairs Γ)).count x := by
  intro x
  unfold rootsDone
  rw [roots_new_eq σ σ' Γ pairs hσ, count_flatMap_perm _ x (transpose_perm pairs Γ hΓ), List.flatMap_map,
    count_pairs_eq_weighted σ Γ hΓ x pairs hold]

/-! ## non-vacuity -/

/-- a concrete instance of the hypotheses of `roots_new_count` / `roots_count_transpose`:
    `Γ = [a : prd, n : ext]`, substitution `[a1 := a, a2 := a, m := n]` (the producer is duplicated) -/
example :
    let a : Binding := ⟨⟨"a", 0⟩, .prd, .decl ⟨"L", 0⟩⟩
    let n : Binding := ⟨⟨"n", 1⟩, .ext, .i64⟩
    let Γ : Ctx := [a, n]
    let pairs : List (Binding × Ident) :=
      [(⟨⟨"a1", 2⟩, .prd, .decl ⟨"L", 0⟩⟩, ⟨"a", 0⟩), (⟨⟨"a2", 3⟩, .prd, .decl ⟨"L", 0⟩⟩, ⟨"a", 0⟩),
       (⟨⟨"m", 4⟩, .ext, .i64⟩, ⟨"n", 1⟩)]
    (Γ.map (·.var.id)).Nodup ∧
      (∀ p ∈ pairs, ∃ b ∈ Γ, b.var.id = p.2.id ∧ b.chi = p.1.chi) := by
  refine ⟨by decide, ?_⟩
  intro p hp
  simp only [List.mem_cons, List.not_mem_nil, or_false] at hp
  rcases hp with rfl | rfl | rfl
  · exact ⟨_, List.mem_cons_self, rfl, rfl⟩
  · exact ⟨_, List.mem_cons_self, rfl, rfl⟩
  · exact ⟨_, List.mem_cons_of_mem _ List.mem_cons_self, rfl, rfl⟩

end Scc.Backend.Subst

#print axioms Scc.Backend.Subst.roots_count_transpose
#print axioms Scc.Backend.Subst.roots_new_count
