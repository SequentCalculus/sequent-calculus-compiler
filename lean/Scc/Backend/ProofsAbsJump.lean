/-
  Scc.Backend.ProofsAbsJump — a jump of the abstract machine keeps heap, object counter and output and
  changes of the temporaries only `TEMP` (`JumpFacts`; the scratch cell, which it keeps as well, is not
  recorded), for the conditional jumps and the jump to a label.  For every backend.
-/
import Scc.Backend.ProofsAbsStep
import Scc.Backend.ProofsSim2

namespace Scc.Backend.Sim

open Scc.AxCut Scc.Backend.Abs

theorem stepsTo_one_inv {P : Program} {c c' : Config} (h : stepsTo P 1 c c') : Abs.step P c = .next c' := by
  obtain ⟨c1, hs, e⟩ := h
  have : c1 = c' := e
  rw [← this]; exact hs

structure JumpFacts (cfg cfg' : Config) : Prop where
  temps : cfg'.temps = clobberTemp cfg.temps
  heap : cfg'.heap = cfg.heap
  next : cfg'.next = cfg.next
  out : cfg'.out = cfg.out

theorem jumpTo_facts {P : Program} {cfg cfg' : Config} {n : String} (h : jumpTo P cfg n = .next cfg') :
    JumpFacts cfg cfg' := by
  unfold jumpTo at h
  split at h
  · injection h with h; subst h; exact ⟨rfl, rfl, rfl, rfl⟩
  · simp [stuck] at h

theorem step_jif_facts {P : Program} {cfg cfg' : Config} {c : IfSort} {a b : Nat} {n : String}
    (hc : P.code[cfg.pc]? = some (.jif c a b n)) (h : Abs.step P cfg = .next cfg') : JumpFacts cfg cfg' := by
  simp only [Abs.step, hc] at h
  obtain ⟨va, _, h⟩ := getT_next h
  obtain ⟨vb, _, h⟩ := getT_next h
  split at h
  · exact jumpTo_facts h
  · injection h with h; subst h; exact ⟨rfl, rfl, rfl, rfl⟩

theorem step_jifz_facts {P : Program} {cfg cfg' : Config} {c : IfSort} {a : Nat} {n : String}
    (hc : P.code[cfg.pc]? = some (.jifz c a n)) (h : Abs.step P cfg = .next cfg') : JumpFacts cfg cfg' := by
  simp only [Abs.step, hc] at h
  obtain ⟨va, _, h⟩ := getT_next h
  split at h
  · exact jumpTo_facts h
  · injection h with h; subst h; exact ⟨rfl, rfl, rfl, rfl⟩

theorem step_jumpLabel_facts {P : Program} {cfg cfg' : Config} {n : String}
    (hc : P.code[cfg.pc]? = some (.jumpLabel n)) (h : Abs.step P cfg = .next cfg') : JumpFacts cfg cfg' := by
  simp only [Abs.step, hc] at h
  split at h
  · obtain ⟨v, _, h⟩ := getT_next h
    cases h
  · exact jumpTo_facts h

end Scc.Backend.Sim
