/-
  Scc.Backend.ThreeWayRun — THE THREE-WAY STEP, once for every machine.
  `step3C`: the nine statement forms other than `create` / `invoke` — the walk over the typing derivation of the
  current statement, the side conditions of each step lemma of Scc/Backend/ThreeWay*.lean, the bookkeeping of
  the runs (a `call` executes an instruction; the frontier), and what the step did to the positions and the heap
  (`Prov.StepProv`, Scc/Backend/StepProv.lean), so that every stack carries its own invariant over the step.
  `step3K`: all eleven forms with the closure invariant `Prov.XC` (Scc/Backend/ClosWalk.lean) carried along.
  A predicate `Qs` on statements that passes to sub-statements (`Hered`) is carried along; the limits of the
  machine are asked of it (`hlit`) and of the type declarations (`htag`, `htagI`).  The last step (`exit`) stays
  with each backend: its claim speaks of the machine's own halting.
-/
import Scc.Backend.ThreeWayInvoke
import Scc.Backend.ClosWalk
import Scc.AxCut.PosHered
import Scc.AxCut.PosStep
import Scc.Props.C06Generic
import Scc.Backend.ProofsCalls

namespace Scc.Backend.ThreeWay

open Scc.AxCut Scc.AxCut.Pos Scc.Backend.Abs Scc.Backend.Sim
open Scc.Backend.Sim2 Scc.Backend.Keys
open Scc.Props.C14Generic (LabelSafe)
open Scc.Props.C06Generic (outAfter WithinCapacity EnoughHeap CodeFits fits_of_codeFits
  kinds_of_fieldsTyped chiTys_fst fresh_of_nodup_snoc take_of_append)
open Scc.Heap (HState)
open Scc.Heap.Refine (FrLe Room FrPk)
-- Scc/AxCut/PosHered.lean; the full names are `Scc.X86.Ref.K.…` because the step claims of the backends' property
-- statements refer to them under these names
open Scc.X86.Ref.K (Hered allocArity IsJump)

variable {Code Tm : Type} {B : Backend Code Tm}

def HeadData : Stmt → Prop
  | .create _ _ _ _ _ _ _ => False
  | .invoke _ _ _ _ => False
  | _ => True

/-- the statement comments of `op` and `call` start with a name of the program: they are no hooks -/
def HeadOK (M : Machine B) : Stmt → Prop
  | .op x a o b _ _ => M.CommentOK (x.print ++ " <- " ++ a.print ++ " " ++ o.sym ++ " " ++ b.print ++ ";")
  | .call l _ => M.CommentOK (l.print ++ "(...)")
  | _ => True

/-- THE THREE-WAY STEP for the statements other than `create` / `invoke`: Theorem A's `TheoremA_full` with the
machine `M` carried along -/
theorem step3C (M : MachineN B) {Qs : Stmt → Prop} {Qc : Clauses → Prop}
    (hooks : Bool) (prog : AxCut.Prog) (c : Nat) (code : List MockOp) (nargs c' : Nat)
    (hcomp : (compile mockSym hooks prog).run c = .ok ((code, nargs), c'))
    (hsafe : LabelSafe prog = true) (hfit : CodeFits code)
    (DX : XDefsAt M.toMachine hooks prog) (Hd : Hered Qs Qc) (hdefs : ∀ d ∈ prog.defs, Qs d.body)
    (hlit : ∀ {x n next fv}, Qs (.lit x n next fv) → M.immOK n)
    (htag : ∀ d ∈ prog.types, ∀ pos, pos < d.xtors.length → M.immOK (B.jumpLength pos))
    (hsm : M.ntemps ≤ M.shareMax)
    (st : Pos.State) (cfg : Config) (hs : HState) (X : M.S) (kp : Nat) {Γ' : Ctx} {ι : Nat → Nat}
    {κ : Nat → Nat → Word}
    (hk : Γ'.keys = st.ctx.keys) (RX : RelX (Program.ofOps code) hooks prog ⟨Γ', st.env, st.stmt⟩ cfg)
    (X3h : X3 M.toTarget Γ' cfg hs ι κ X) {kx kx' : Nat} {items : List Code}
    (hrunX : (codeStatementR B hooks natRen prog.types st.stmt Γ').run kx = .ok (items, kx'))
    (hatX : XAt M.cs kp items) (hpc : M.pcAt X kp)
    (T : Pos.StateTyped prog st) (hheap : EnoughHeap cfg) (hd : HeadData st.stmt) (hq : Qs st.stmt)
    (hhead : HeadOK M.toMachine st.stmt)
    (hroom : Room hs (64 * allocArity st.stmt + 64))
    {st' : Pos.State} {o : Option (Bool × Word)} (hst : Pos.step prog st = .next st' o)
    (hcap : WithinCapacity st'.ctx) (hcap2 : 2 * st'.ctx.length < M.ntemps) :
    ∃ cfg' hs' X' kp' Γ'' ι' κ', M.RunH kp X kp' X' ∧ M.pcAt X' kp' ∧
      (IsJump st.stmt → M.RunHR kp X kp' X') ∧
      cfg'.out = outAfter o cfg.out ∧ cfg'.next ≤ cfg.next + 1 ∧
      FrLe hs hs' (64 * allocArity st.stmt) ∧ FrPk hs hs' ∧
      Γ''.keys = st'.ctx.keys ∧ RelX (Program.ofOps code) hooks prog ⟨Γ'', st'.env, st'.stmt⟩ cfg' ∧
      X3 M.toTarget Γ'' cfg' hs' ι' κ' X' ∧
      (∃ k k' items, (codeStatementR B hooks natRen prog.types st'.stmt Γ'').run k = .ok (items, k') ∧
        XAt M.cs kp' items) ∧
      Prov.StepProv (Program.ofOps code) (M.tv X) (M.tv X') cfg cfg' κ Γ' st.env Γ'' st'.env κ' ∧
      Qs st'.stmt := by
  have hnodup := Scc.Props.C14Generic.labels_unique hooks prog c code nargs c' hcomp hsafe
  have D := defsAt_of_compile hooks prog c code nargs c' hcomp hnodup
  have hfits := fits_of_codeFits hfit
  obtain ⟨Γ, ρ, s⟩ := st
  obtain ⟨hty, henv⟩ := T
  simp only at hk RX hty henv hrunX hd hq hhead hroom
  have hlenk : Γ'.length = Γ.length := keys_length hk
  have hcapX3 := X3h.cap
  have hN := Pos.step_next hst
  cases hty with
  | lit hn hfr hnext =>
    rename_i x n next fv
    cases hN
    obtain ⟨cfg', X', kp', h1, hm, hpc', h2, h3, h4, h5, k1, k1', items', hr', hat', hh, KP⟩ :=
      lit_x3 M.toMachine RX (mem_ids_keys hk hfr)
      (by simp [WithinCapacity] at hcap; omega) X3h hrunX hatX hpc (hlit hq)
    exact ⟨cfg', hs, X', kp', Γ' ++ [⟨x, .ext, .i64⟩], ι, κ, hm, hpc', (fun hj => False.elim hj), h2, by omega,
      FrLe.same hs _, FrPk.refl hs, keys_append hk rfl, h4, h5, ⟨k1, k1', items', hr', hat'⟩,
      .int _ _ rfl KP hh, Hd.lit hq⟩
  | op hn ha hb hfr hnext =>
    rename_i x a o b next fv
    cases hN with
    | op hra hrb hv =>
      obtain ⟨cfg', X', kp', h1, hm, hpc', h2, h3, h4, h5, k1, k1', items', hr', hat', hh, KP⟩ :=
        op_x3 M.toMachine RX (mem_ids_keys hk hfr)
        (by simp [WithinCapacity] at hcap; omega)
        (by rw [readInt_keys hk]; exact hra) (by rw [readInt_keys hk]; exact hrb) hv X3h hrunX hatX hpc hhead
      exact ⟨cfg', hs, X', kp', Γ' ++ [⟨x, .ext, .i64⟩], ι, κ, hm, hpc', (fun hj => False.elim hj), h2, by omega,
        FrLe.same hs _, FrPk.refl hs, keys_append hk rfl, h4, h5, ⟨k1, k1', items', hr', hat'⟩,
        .int _ _ rfl KP hh, Hd.op hq⟩
  | print hn ha hnext =>
    rename_i nl a next fv
    cases hN with
    | print hra =>
      obtain ⟨cfg', X', kp', h1, hm, hpc', h2, h3, h4, h5, k1, k1', items', hr', hat', hh, KP⟩ :=
        print_x3 M.toMachine RX (by rw [readInt_keys hk]; exact hra) X3h hrunX hatX hpc
      exact ⟨cfg', hs, X', kp', Γ', ι, κ, hm, hpc', (fun hj => False.elim hj), h2, by omega, FrLe.same hs _,
        FrPk.refl hs, hk, h4, h5, ⟨k1, k1', items', hr', hat'⟩, .keep rfl KP hh, Hd.print hq⟩
  | ifc hn ha hb ht he =>
    rename_i srt a b t e
    have hbr : ∀ (c : Bool), Qs (if c then t else e) := by
      intro c
      cases c
      · exact (Hd.ifc hq).2
      · exact (Hd.ifc hq).1
    cases hN with
    | ifz hra =>
      rename_i va
      obtain ⟨cfg', X', kp', h1, hm, hpc', h2, h3, h4, h5, k1, k1', items', hr', hat', hh, KP⟩ :=
        ifc_x3 M.toMachine (b := none) (vb := 0) RX
        (by rw [readInt_keys hk]; exact hra) rfl X3h hrunX hatX hpc
      exact ⟨cfg', hs, X', kp', Γ', ι, κ, hm, hpc', (fun hj => False.elim hj), h2, by omega, FrLe.same hs _,
        FrPk.refl hs, hk, h4, h5, ⟨k1, k1', items', hr', hat'⟩, .keep rfl KP hh, hbr _⟩
    | ifc hra hrb =>
      rename_i b' va vb
      obtain ⟨cfg', X', kp', h1, hm, hpc', h2, h3, h4, h5, k1, k1', items', hr', hat', hh, KP⟩ :=
        ifc_x3 M.toMachine (b := some b') (vb := vb) RX
        (by rw [readInt_keys hk]; exact hra) (by simp only; rw [readInt_keys hk]; exact hrb)
        X3h hrunX hatX hpc
      exact ⟨cfg', hs, X', kp', Γ', ι, κ, hm, hpc', (fun hj => False.elim hj), h2, by omega, FrLe.same hs _,
        FrPk.refl hs, hk, h4, h5, ⟨k1, k1', items', hr', hat'⟩, .keep rfl KP hh, hbr _⟩
  | exit hn ha => cases hN
  | call hn hf hc =>
    rename_i l args params
    cases hN with
    | call hd hchi hlenρ =>
      rename_i d
      obtain ⟨cfg', X', kp', h1, hmR, hpc', h2, h3, h4, h5, k1, k1', items', hr', hat', hh, KP⟩ :=
        call_x3 M.toMachine RX D DX hd
          (by rw [keys_chiTys hk]; exact hchi) X3h hrunX hatX hpc hhead
      have hdm : d ∈ prog.defs := List.mem_of_find?_eq_some hd
      have hchi' : Γ'.map (·.chi) = d.ctx.map (·.chi) := by
        rw [keys_chi hk]
        have := congrArg (List.map (·.1)) hchi
        simpa [Pos.chiTys, Function.comp_def] using this
      exact ⟨cfg', hs, X', kp', d.ctx, ι, κ, M.runHR_runH hmR, hpc', (fun _ => hmR), h2, by omega,
        FrLe.same hs _, FrPk.refl hs, rfl, h4, h5, ⟨k1, k1', items', hr', hat'⟩, .keep hchi' KP hh,
        hdefs d hdm⟩
  | subst hn hhas hnew hnext =>
    rename_i pairs next
    cases hN with
    | subst hb =>
      rename_i vs
      have hnew' : (pairs.map (·.1.var.id)).Nodup := by
        have : ((pairs.map (·.1)).map (·.var.id)).Nodup := hnew
        rw [List.map_map] at this
        exact this
      have hold : ∀ p ∈ pairs, ∃ b ∈ Γ', b.var.id = p.2.id ∧ b.chi = p.1.chi := by
        intro p hp
        obtain ⟨b, hb', hid, hchi, _⟩ := hasVar_keys hk (hhas p hp)
        exact ⟨b, hb', hid, hchi⟩
      have hpl : 2 * pairs.length < M.ntemps := by simpa using hcap2
      obtain ⟨k, cfg', X', hs', kp', h1, hm, hpc', hfr, h2, h3, h4, h5, k1, k1', items', hr', hat', SP⟩ :=
        subst_x3 M.toMachine RX
        (nodup_keys hk hn) hnew' hold
        (by simpa [WithinCapacity] using hcap) (by rw [build_keys hk]; exact hb) X3h hrunX hatX hpc
        (by omega) (by omega)
      exact ⟨cfg', hs', X', kp', pairs.map (·.1), ι, κ, hm, hpc', (fun hj => False.elim hj), h2, by omega,
        FrLe.mono hfr (by omega), FrPk.of_frLe0 hfr, rfl, h4, h5, ⟨k1, k1', items', hr', hat'⟩,
        .subst h1 h3 SP, Hd.subst hq⟩
  | @letS _ Γ0 Γa x ty tag args sig next fv hn hsplit hkeys hs hs' hfr hnext =>
    have hlenA : Γa.length = args.length := keys_length hkeys
    have hsplit' : Γ = Γ0 ++ Γa := hsplit
    cases hN with
    | letS hkA hlenρ hpos =>
      rename_i pos
      have hn0 : Γ.length - args.length = Γ0.length := by rw [hsplit']; simp; omega
      have htake : Γ.take (Γ.length - args.length) = Γ0 := by
        rw [← hlenA]; exact take_of_append hsplit'
      have hkt : Ctx.keys (Γ'.take (Γ'.length - args.length)) = Γ0.keys := by
        rw [hlenk, keys_take hk, htake]
      obtain ⟨dT, hdT, hxT⟩ := tagPosition_ok hpos
      have hposlt : pos < dT.xtors.length := by
        have := Scc.X86.xtorPosition_go_lt dT.xtors tag 0 pos hxT
        omega
      have hdTm : dT ∈ prog.types := by
        cases ty with
        | i64 => simp [lookupTypeDecl] at hdT
        | decl nm => exact List.mem_of_find?_eq_some hdT
      obtain ⟨cfg', X', hs', ι', κ', kp', h1, hm, hpc', hfr, hpk, h2, h3, h4, h5, k1, k1', items', hr',
        hat', LP⟩ :=
        let_x3 M.toMachine RX
        (by rw [hlenk]; exact hkA) (mem_ids_keys hkt hfr) hpos
        (by
          simp only [WithinCapacity, htake, List.length_append, List.length_singleton] at hcap
          rw [hlenk, hn0]; exact hcap) hheap X3h hrunX hatX hpc
        hroom (htag dT hdTm pos hposlt)
      rw [hlenk] at h4 h5 hr' LP
      refine ⟨cfg', hs', X', kp', _, ι', κ', hm, hpc', (fun hj => False.elim hj), h2, h3, hfr, hpk, ?_, h4, h5,
        ⟨k1, k1', items', hr', hat'⟩, .letS x ty pos (by rw [hlenk]; exact Nat.sub_le _ _) LP, Hd.letS hq⟩
      show Ctx.keys (Γ'.take (Γ.length - args.length) ++ [_]) =
        Ctx.keys (Γ.take (Γ.length - args.length) ++ [_])
      rw [htake, ← hlenk]
      exact keys_append hkt rfl
  | @create _ Γn Γe Γc x ty clauses next fc fn d hn hsplit hkeys hd' hm hcl hfr hnext => exact hd.elim
  | @switch _ Γ0 b x ty cls fv d hn hsplit hb hd' hm hcl =>
    subst hsplit
    obtain ⟨ρ', v, rfl, hρ', hv⟩ := Pos.env_last henv
    have hbid : b.var.id = x.id := congrArg (·.1) hb
    have hbchi : b.chi = .prd := congrArg (·.2.1) hb
    have hbty : b.ty = ty := congrArg (·.2.2) hb
    rw [hbchi, hbty] at hv
    cases hN with
    | switch hgb hgv hx0 hl0 hc1 hfl =>
      rename_i b0 tag fields cl
      obtain rfl : v = .obj tag fields := by simpa using hgv
      simp only [List.dropLast_concat] at hcap hcap2 ⊢
      cases hv with
      | obj hd'' hx hf =>
        have := Pos.lookupTypeDecl_unique hd' hd''
        subst this
        obtain ⟨cl', hc1', hc2, hc3⟩ := Pos.nthClause_ok d.xtors cls tag _ hm hx
        obtain rfl : cl' = cl := Option.some.inj (hc1'.symm.trans hc1)
        obtain ⟨Γ0', b', rfl, hk0, hkb⟩ := keys_snoc hk
        have hb'id : b'.var.id = x.id := by
          have := congrArg (·.1) hkb
          simp only [Binding.key] at this
          rw [this]; exact hbid
        have hb'chi : b'.chi = .prd := by
          have := congrArg (·.2.1) hkb
          simp only [Binding.key] at this
          rw [this]; exact hbchi
        have hkinds : fields.map Sim2.kindOf = Mock.kindsOf cl'.ctx := by
          rw [kinds_of_fieldsTyped hf, hc2, chiTys_fst]
        have hfr : x.id ∉ Γ0.ids := by rw [← hbid]; exact fresh_of_nodup_snoc hn
        obtain ⟨k, cfg', X', hs', kp', h1, hm, hpc', hfr', h2, h3, h4, h5, k1, k1', items', hr', hat', LP⟩ :=
          switch_x3 M RX
          hfits hb'id (mem_ids_keys hk0 hfr) hc1 hkinds
          (by
            simp only [WithinCapacity, List.length_append] at hcap
            rw [keys_length hk0]; exact hcap) X3h hrunX hatX hpc
          (by
            simp only [List.length_append] at hcap2
            rw [keys_length hk0]; omega)
        exact ⟨cfg', hs', X', kp', Γ0' ++ cl'.ctx, ι, κ, hm, hpc', (fun hj => False.elim hj), h2, by omega,
          FrLe.mono hfr' (by omega), FrPk.of_frLe0 hfr', keys_append hk0 rfl, h4, h5,
          ⟨k1, k1', items', hr', hat'⟩, .switch hb'chi h1 h3 hkinds LP.toT, Hd.nth (Hd.switch hq) hc1⟩
  | @invoke _ Γa b x tag ty args sig hn hsplit hb hs hs' => exact hd.elim

/-- THE THREE-WAY STEP FOR ALL ELEVEN STATEMENT FORMS with the closure invariant `Prov.XC` carried along:
`step3C` and `XC.step` for the nine forms without closures, `create_x3` and `invoke_x3` for the other two.  `MX`:
what the backend says of its code behind a code pointer — the methods stand there and satisfy `Qc`.  The run
of the machine: to the next boundary (`RunH`; with an instruction executed for a `call`), or — after an
`invoke` — possibly ahead of it (`RunA`) -/
theorem step3K (M : MachineI B) {Qs : Stmt → Prop} {Qc : Clauses → Prop} (MX : Word → Ctx → Clauses → Prop)
    (hooks : Bool) (prog : AxCut.Prog) (c : Nat) (code : List MockOp) (nargs c' : Nat)
    (hcomp : (compile mockSym hooks prog).run c = .ok ((code, nargs), c'))
    (hsafe : LabelSafe prog = true) (hfit : CodeFits code)
    (DX : XDefsAt M.toMachine hooks prog) (Hd : Hered Qs Qc) (hdefs : ∀ d ∈ prog.defs, Qs d.body)
    (hlit : ∀ {x n next fv}, Qs (.lit x n next fv) → M.immOK n)
    (htag : ∀ d ∈ prog.types, ∀ pos, pos < d.xtors.length → M.immOK (B.jumpLength pos))
    (htagI : ∀ d ∈ prog.types, ∀ pos, pos < d.xtors.length → M.tagOK pos)
    (hsm : M.ntemps ≤ M.shareMax)
    (hMX1 : ∀ {w envCtx cl}, MX w envCtx cl → XMethodsAt M.toMachineA hooks prog.types w envCtx cl ∧ Qc cl)
    (hMX2 : ∀ {w envCtx cl}, XMethodsAt M.toMachineA hooks prog.types w envCtx cl → Qc cl → MX w envCtx cl)
    (st : Pos.State) (cfg : Config) (hs : HState) (X : M.S) (kp : Nat) {Γ' : Ctx} {ι : Nat → Nat}
    {κ : Nat → Nat → Word}
    (hk : Γ'.keys = st.ctx.keys) (RX : RelX (Program.ofOps code) hooks prog ⟨Γ', st.env, st.stmt⟩ cfg)
    (X3h : X3 M.toTarget Γ' cfg hs ι κ X)
    (C : Prov.XC (Program.ofOps code) hooks prog.types MX (M.tv X) Γ' st.env cfg κ)
    {kx kx' : Nat} {items : List Code}
    (hrunX : (codeStatementR B hooks natRen prog.types st.stmt Γ').run kx = .ok (items, kx'))
    (hatX : XAt M.cs kp items) (hpc : M.pcAt X kp)
    (T : Pos.StateTyped prog st) (hheap : EnoughHeap cfg) (hq : Qs st.stmt)
    (hhead : HeadOK M.toMachine st.stmt)
    (hroom : Room hs (64 * allocArity st.stmt + 64))
    {st' : Pos.State} {o : Option (Bool × Word)} (hst : Pos.step prog st = .next st' o)
    (hcap : WithinCapacity st'.ctx) (hcap2 : 2 * st'.ctx.length < M.ntemps) :
    ∃ cfg' hs' X' kp' Γ'' ι' κ',
      (M.RunH kp X kp' X' ∧ (IsJump st.stmt → M.RunHR kp X kp' X') ∨ M.RunA kp X kp' X') ∧ M.pcAt X' kp' ∧
      cfg'.out = outAfter o cfg.out ∧ cfg'.next ≤ cfg.next + 1 ∧
      FrLe hs hs' (64 * allocArity st.stmt) ∧ FrPk hs hs' ∧
      Γ''.keys = st'.ctx.keys ∧ RelX (Program.ofOps code) hooks prog ⟨Γ'', st'.env, st'.stmt⟩ cfg' ∧
      X3 M.toTarget Γ'' cfg' hs' ι' κ' X' ∧
      Prov.XC (Program.ofOps code) hooks prog.types MX (M.tv X') Γ'' st'.env cfg' κ' ∧
      (∃ k k' items, (codeStatementR B hooks natRen prog.types st'.stmt Γ'').run k = .ok (items, k') ∧
        XAt M.cs kp' items) ∧
      Qs st'.stmt := by
  have hdef := X3R.mach_def X3h RX
  by_cases hhd : HeadData st.stmt
  · obtain ⟨cfg', hs', X', kp', Γ'', ι', κ', hm, hpc', hj, hout, hnx, hfr, hpk, hk', R', X3', hc, SP, hq'⟩ :=
      step3C M.toMachineN hooks prog c code nargs c' hcomp hsafe hfit DX Hd hdefs hlit htag hsm st cfg hs X kp hk
        RX X3h hrunX hatX hpc T hheap hhd hq hhead hroom hst hcap hcap2
    exact ⟨cfg', hs', X', kp', Γ'', ι', κ', Or.inl ⟨hm, hj⟩, hpc', hout, hnx, hfr, hpk, hk', R', X3',
      C.step RX hdef hheap SP R', hc, hq'⟩
  have hfits := fits_of_codeFits hfit
  obtain ⟨Γ, ρ, s⟩ := st
  obtain ⟨hty, henv⟩ := T
  simp only at hk RX hty henv hrunX hhd hq hhead hroom C
  have hlenk : Γ'.length = Γ.length := keys_length hk
  have hlenρ : ρ.length = Γ'.length := RX.len
  have hcapX3 := X3h.cap
  have hN := Pos.step_next hst
  cases hty with
  | @create _ Γn Γe Γc x ty clauses next fc fn d hn hsplit hkeys hd hm hcl hfr hnext =>
    have hlenE : Γe.length = Γc.length := keys_length hkeys
    have hsplit' : Γ = Γn ++ Γe := hsplit
    cases hN with
    | create hkA hlenρ' =>
      have hn0 : Γ.length - Γc.length = Γn.length := by rw [hsplit']; simp; omega
      have htake : Γ.take (Γ.length - Γc.length) = Γn := by
        rw [← hlenE]; exact take_of_append hsplit'
      have hdrop : Γ.drop (Γ.length - Γc.length) = Γe := by
        rw [hn0, hsplit']; simp
      have hkt : Ctx.keys (Γ'.take (Γ'.length - Γc.length)) = Γn.keys := by
        rw [hlenk, keys_take hk, htake]
      have hkd : Ctx.keys (Γ'.drop (Γ'.length - Γc.length)) = Γc.keys := by
        rw [hlenk, keys_drop hk, hdrop]; exact hkeys
      obtain ⟨cfg', X', hs', ι', κ', kp', h1, hm, hpc', hfr, hpk, h2, h3, h4, h5, k1, k1', items', hr', hat', LP, a, w0,
        ha, hw0, hmeth, base, _, hxmB⟩ :=
        create_x3 M.toMachineA RX (by rw [hlenk]; exact hkA) hkd (mem_ids_keys hkt hfr)
          (by
            simp only [WithinCapacity, htake, List.length_append, List.length_singleton] at hcap
            rw [hlenk, hn0]; exact hcap) hheap X3h hrunX hatX hpc hroom
      have hxm : XMethodsAt M.toMachineA hooks prog.types w0 (Γ'.drop (Γ'.length - Γc.length)) clauses :=
        ⟨base, hxmB⟩
      obtain ⟨C0, r, hr, hXB⟩ := C.let_parts hlenρ (Nat.sub_le _ _) RX.heap hheap hdef LP
      have hNlen : (Γ'.take (Γ'.length - Γc.length)).length = Γ'.length - Γc.length := by simp
      have C' := (C0.snoc (by simp [hlenρ]) ⟨x, .cns, ty⟩ (.clo Γc (ρ.drop (Γ'.length - Γc.length)) clauses)
        (fun w hw => by
          rw [hNlen, hr, ha]
          rw [hNlen] at hw
          have hw' : some w0 = some w := hw0.symm.trans hw
          injection hw' with hw'
          subst hw'
          exact .clo Γc _ _ clauses r a w0 hkd hXB hmeth (hMX2 hxm (Hd.create hq).1)))
      rw [hlenk] at h4 h5 C' hr'
      refine ⟨cfg', hs', X', kp', _, ι', κ', Or.inl ⟨hm, fun hj => False.elim hj⟩, hpc', h2, h3, hfr, hpk, ?_, h4, h5, C',
        ⟨k1, k1', items', hr', hat'⟩, (Hd.create hq).2⟩
      show Ctx.keys (Γ'.take (Γ.length - Γc.length) ++ [_]) =
        Ctx.keys (Γ.take (Γ.length - Γc.length) ++ [_])
      rw [htake, ← hlenk]
      exact keys_append hkt rfl
  | @invoke _ Γa b x tag ty args sig hn hsplit hb hs hs' =>
    subst hsplit
    obtain ⟨ρ', v, rfl, hρ', hv⟩ := Pos.env_last henv
    have hbid : b.var.id = x.id := congrArg (·.1) hb
    have hbchi : b.chi = .cns := congrArg (·.2.1) hb
    have hbty : b.ty = ty := congrArg (·.2.2) hb
    rw [hbchi, hbty] at hv
    obtain ⟨d, xt, i, hd, hx, hxs, htp'⟩ := Pos.tagPosition_ok hs
    cases hv with
    | clo hd' hm hf hcl =>
      rename_i d' Γc env cls
      have := Pos.lookupTypeDecl_unique hd hd'
      subst this
      obtain ⟨cl, hc1, hc2, hc3⟩ := Pos.nthClause_ok d.xtors cls i xt hm hx
      cases hN with
      | invoke hgb hgv hx0 hl0 htp0 hc0 hal0 =>
      rename_i b0 Γc0 ρc0 cl0 pos0 c0
      obtain ⟨e1, e2, e3⟩ : Γc = Γc0 ∧ env = ρc0 ∧ cls = cl0 := by simpa using hgv
      subst e1 e2 e3
      have e4 : i = pos0 := Except.ok.inj (htp'.symm.trans htp0)
      subst e4
      have e5 : cl = c0 := Option.some.inj (hc1.symm.trans hc0)
      subst e5
      simp only [List.dropLast_concat] at hcap hcap2 ⊢
      obtain ⟨Γa', b', rfl, hk0, hkb⟩ := keys_snoc hk
      have hb'id : b'.var.id = x.id := by
        have := congrArg (·.1) hkb
        simp only [Binding.key] at this
        rw [this]; exact hbid
      have hb'chi : b'.chi = .cns := by
        have := congrArg (·.2.1) hkb
        simp only [Binding.key] at this
        rw [this]; exact hbchi
      have hkinds : env.map Sim2.kindOf = Mock.kindsOf Γc := by
        rw [kinds_of_fieldsTyped hf, chiTys_fst]
      have hfr : x.id ∉ Γa.ids := by rw [← hbid]; exact fresh_of_nodup_snoc hn
      have hargs : Γa'.map (·.chi) = cl.ctx.map (·.chi) := by
        rw [keys_chi hk0]
        have h1 : Ctx.chiTys Γa = Ctx.chiTys cl.ctx := by rw [hs', ← hxs, hc2]
        have := congrArg (List.map (·.1)) h1
        simpa [Ctx.chiTys, Function.comp_def] using this
      have hlen0 : ρ'.length = Γa'.length := by simpa using hlenρ
      -- the closure at the last position: its methods on both sides
      have hi1 : Γa'.length < (Γa' ++ [b']).length := by simp
      have hi2 : Γa'.length < (ρ' ++ [Value.clo Γc env cls]).length := by simp [hlen0]
      obtain ⟨w, hw⟩ := Option.isSome_iff_exists.mp (hdef _ hi1)
      have hC := C _ hi1 hi2 w hw
      have g2 : (ρ' ++ [Value.clo Γc env cls])[Γa'.length] = .clo Γc env cls := by
        rw [List.getElem_append_right (by omega)]; simp [hlen0]
      rw [g2] at hC
      obtain ⟨r0, a, envCtx', hp0, ha0, hke, hXB0, hmeth, hmx⟩ := hC.clo_inv
      obtain ⟨hxm, hcb⟩ := hMX1 hmx
      obtain ⟨_, hsome, _, _⟩ := RX.vals _ hi1 hi2
      obtain ⟨aw, haw⟩ := Option.isSome_iff_exists.mp hsome
      have hword : cfg.temps.get (2 * Γa'.length + 1) = some (BitVec.ofNat 64 a) := by
        rw [haw] at ha0 ⊢
        simp only [Option.getD_some] at ha0
        rw [ha0]
      have hposlt : i < d.xtors.length := by
        obtain ⟨dT, hdT, hxT⟩ := tagPosition_ok htp'
        have := Pos.lookupTypeDecl_unique hd hdT
        subst this
        have := Scc.X86.xtorPosition_go_lt d.xtors tag 0 i hxT
        omega
      have hdm : d ∈ prog.types := by
        cases ty with
        | i64 => simp [lookupTypeDecl] at hd
        | decl nm => exact List.mem_of_find?_eq_some hd
      have hcapW : 2 * (cl.ctx.length + Γc.length) + 2 < Mock.T_TEMP := by
        simpa [WithinCapacity] using hcap
      obtain ⟨k, cfg', X', hs', kp', h1, hm, hpc', hfr', h2, h3, h4, h5, k1, k1', items', hr', hat', LP⟩ :=
        invoke_x3 M RX hfits hb'id (mem_ids_keys hk0 hfr) htp' hc1
        (fun d0 hd0 => by
          have := Pos.lookupTypeDecl_unique hd hd0
          subst this
          exact Scc.Props.C06Generic.clausesMatch_length _ _ hm)
        hargs hkinds hcapW X3h hke hword hmeth hw hxm hrunX hatX hpc
        (by
          have : 2 * (cl.ctx.length + Γc.length) < M.ntemps := by simpa using hcap2
          omega) (htagI d hdm i hposlt)
      have LP := LP.toT
      have hXB : ∀ r, cfg.temps.get (2 * Γa'.length) = some r →
          Prov.XB (Program.ofOps code) hooks prog.types MX cfg.heap κ env r := by
        intro r hr
        have g1 : (Γa' ++ [b'])[Γa'.length] = b' := by simp
        rw [g1, hb'chi, hr] at hp0
        simp only [show ((Chi.cns == Chi.ext) = true) = False from by decide, if_false,
          Option.some.injEq] at hp0
        rw [hp0]; exact hXB0
      have hkinds' : env.map Sim2.kindOf = Mock.kindsOf envCtx' := by
        rw [show Mock.kindsOf envCtx' = Mock.kindsOf Γc from keys_chi hke]; exact hkinds
      exact ⟨cfg', hs', X', kp', cl.ctx ++ envCtx', ι, κ, Or.inr hm, hpc', h2, by omega, FrLe.mono hfr' (by omega),
        FrPk.of_frLe0 hfr', keys_append rfl hke, h4, h5, C.load hlen0 hargs RX.heap h1 h4 hkinds' LP hXB,
        ⟨k1, k1', items', hr', hat'⟩, Hd.nth hcb hc1⟩
  | _ => exact absurd trivial hhd

end Scc.Backend.ThreeWay
