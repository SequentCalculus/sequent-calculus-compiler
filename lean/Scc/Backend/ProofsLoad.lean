/-
  Scc.Backend.ProofsLoad — Theorem A for `switch` and `invoke`: the `load` contract of the abstract
  machine against the strengthened representation (SimDefs2.lean) and the counting invariant `HeapOK`.
    unique case (count 0): the block is removed, its children are taken over by the new positions;
    shared case: the count is decremented and every child is shared once more.
  `sim2_switch` / `sim2_invoke` are the walk to the `load` (`switch_nav_abs` / `invoke_nav_abs`, also used by the
  three-way simulations of the backends, which run the concrete machine alongside) followed by `load_enter`.
-/
import Scc.Backend.ProofsRep2
import Scc.Backend.ProofsKeys

set_option linter.unusedSimpArgs false

namespace Scc.Backend.Sim2

open Scc.AxCut Scc.AxCut.Pos Scc.Backend.Abs Scc.Backend.Sim

theorem writeFields_get_low : ∀ (fs : List Field) (σ : Temps) (n t : Nat), t < 2 * n →
    (writeFields σ fs n).get t = σ.get t
  | [], σ, n, t, _ => rfl
  | f :: fs, σ, n, t, ht => by
    simp only [writeFields]
    rw [writeFields_get_low fs _ (n + 1) t (by omega)]
    split
    · rw [get_set_other _ _ (by omega), get_unset_other _ (by omega)]
    · rw [get_set_other _ _ (by omega), get_set_other _ _ (by omega)]

theorem writeFields_get_val : ∀ (fs : List Field) (σ : Temps) (n j : Nat) (hj : j < fs.length),
    (writeFields σ fs n).get (2 * (n + j) + 1) = some fs[j].val
  | [], _, _, _, hj => by simp at hj
  | f :: fs, σ, n, 0, _ => by
    simp only [writeFields, Nat.add_zero, List.getElem_cons_zero]
    rw [writeFields_get_low fs _ (n + 1) _ (by omega)]
    split <;> exact get_set_same _ _ _
  | f :: fs, σ, n, j + 1, hj => by
    simp only [writeFields, List.getElem_cons_succ]
    have := writeFields_get_val fs
      (if f.chi == .ext then (σ.unset (2 * n)).set (2 * n + 1) f.val
       else (σ.set (2 * n) f.ptr).set (2 * n + 1) f.val) (n + 1) j (by simpa using hj)
    rw [show n + 1 + j = n + (j + 1) by omega] at this
    exact this

theorem writeFields_get_ptr : ∀ (fs : List Field) (σ : Temps) (n j : Nat) (hj : j < fs.length),
    (writeFields σ fs n).get (2 * (n + j)) = if fs[j].chi == .ext then none else some fs[j].ptr
  | [], _, _, _, hj => by simp at hj
  | f :: fs, σ, n, 0, _ => by
    simp only [writeFields, Nat.add_zero, List.getElem_cons_zero]
    rw [writeFields_get_low fs _ (n + 1) _ (by omega)]
    split
    · rw [get_set_other _ _ (by omega), get_unset_same]
    · rw [get_set_other _ _ (by omega), get_set_same]
  | f :: fs, σ, n, j + 1, hj => by
    simp only [writeFields, List.getElem_cons_succ]
    have := writeFields_get_ptr fs
      (if f.chi == .ext then (σ.unset (2 * n)).set (2 * n + 1) f.val
       else (σ.set (2 * n) f.ptr).set (2 * n + 1) f.val) (n + 1) j (by simpa using hj)
    rw [show n + 1 + j = n + (j + 1) by omega] at this
    exact this

theorem roots_go_loaded (σ : Temps) (c : Nat) : ∀ (Δ : Ctx) (fs : List Field) (k : Nat),
    fs.map (·.chi) = Δ.map (·.chi) →
    (∀ j (hj : j < fs.length), σ.get (2 * (k + j)) = if fs[j].chi == .ext then none else some fs[j].ptr) →
    roots.go σ Δ k = Obj.children ⟨c, fs⟩
  | [], [], _, _, _ => rfl
  | [], _ :: _, _, h, _ => by simp at h
  | _ :: _, [], _, h, _ => by simp at h
  | b :: bs, f :: fs, k, h, hg => by
    simp only [List.map_cons, List.cons.injEq] at h
    have ih := roots_go_loaded σ c bs fs (k + 1) h.2 (fun j hj => by
      have := hg (j + 1) (by simpa using hj)
      simp only [List.getElem_cons_succ] at this
      rw [show k + 1 + j = k + (j + 1) by omega]
      exact this)
    have h0 := hg 0 (by simp)
    simp only [Nat.add_zero, List.getElem_cons_zero] at h0
    simp only [roots.go, Obj.children, List.filterMap_cons, ← h.1]
    have ih' : roots.go σ bs (k + 1) = List.filterMap
        (fun f => if (f.chi != Chi.ext && f.ptr != 0) = true then some f.ptr.toNat else none) fs := ih
    rw [ih', h0]
    by_cases hc : f.chi = .ext
    · have h1 : (f.chi != .ext) = false := (chi_bne_ext_false _).mpr hc
      simp [h1]
    · have h1 : (f.chi != .ext) = true := (chi_bne_ext _).mpr hc
      have h2 : (f.chi == .ext) = false := (chi_beq_ext_false _).mpr hc
      simp only [h1, h2, Bool.false_eq_true, if_false, if_true, Bool.true_and]
      by_cases hp : f.ptr = 0#64
      · simp [hp]
      · simp [hp]

theorem RepF.length_eq {P : Program} {hooks : Bool} {types : List TypeDecl} {h : Heap} :
    ∀ {vs : List Value} {fs : List Field}, RepF P hooks types h vs fs → vs.length = fs.length
  | _, _, .nil => rfl
  | _, _, .cons v vs f fs _ _ hr => by simp [RepF.length_eq hr]

theorem RepF.get {P : Program} {hooks : Bool} {types : List TypeDecl} {h : Heap} :
    ∀ {vs : List Value} {fs : List Field}, RepF P hooks types h vs fs →
    ∀ j (h1 : j < vs.length) (h2 : j < fs.length),
      RepV P hooks types h vs[j] (if fs[j].chi == .ext then none else some fs[j].ptr) fs[j].val ∧
      fs[j].chi = kindOf vs[j]
  | _, _, .nil, j, h1, _ => by simp at h1
  | _, _, .cons v vs f fs hv hk hr, 0, _, _ => ⟨hv, hk⟩
  | _, _, .cons v vs f fs hv hk hr, j + 1, h1, h2 => by
    simpa using RepF.get hr j (by simpa using h1) (by simpa using h2)

theorem RepF.kinds {P : Program} {hooks : Bool} {types : List TypeDecl} {h : Heap} :
    ∀ {vs : List Value} {fs : List Field}, RepF P hooks types h vs fs → fs.map (·.chi) = vs.map kindOf
  | _, _, .nil => rfl
  | _, _, .cons v vs f fs _ hk hr => by simp [hk, RepF.kinds hr]

theorem ValsOK2.append {P : Program} {hooks : Bool} {types : List TypeDecl} {h : Heap} {σ : Temps}
    {Γ Δ : Ctx} {ρ vs : List Value} (V : ValsOK2 P hooks types h σ Γ ρ) (hlen : ρ.length = Γ.length)
    (hΔ : ∀ j (h1 : j < Δ.length) (h2 : j < vs.length),
      RepV P hooks types h vs[j]
        (if Δ[j].chi == .ext then none else σ.get (2 * (Γ.length + j)))
        ((σ.get (2 * (Γ.length + j) + 1)).getD 0) ∧
      (σ.get (2 * (Γ.length + j) + 1)).isSome ∧
      (Δ[j].chi = kindOf vs[j]) ∧
      (Δ[j].chi != .ext → (σ.get (2 * (Γ.length + j))).isSome)) :
    ValsOK2 P hooks types h σ (Γ ++ Δ) (ρ ++ vs) := by
  intro i h1 h2
  by_cases hi : i < Γ.length
  · have hi2 : i < ρ.length := by omega
    have g1 : (Γ ++ Δ)[i] = Γ[i] := List.getElem_append_left hi
    have g2 : (ρ ++ vs)[i] = ρ[i] := List.getElem_append_left hi2
    rw [g1, g2]
    exact V i hi hi2
  · have hi' : Γ.length ≤ i := by omega
    have h1' : i - Γ.length < Δ.length := by simp at h1; omega
    have h2' : i - Γ.length < vs.length := by simp at h2; omega
    have g1 : (Γ ++ Δ)[i] = Δ[i - Γ.length] := List.getElem_append_right hi'
    have g2 : (ρ ++ vs)[i] = vs[i - Γ.length] := by
      rw [List.getElem_append_right (by omega)]
      simp [hlen]
    rw [g1, g2]
    have := hΔ (i - Γ.length) h1' h2'
    rw [show Γ.length + (i - Γ.length) = i by omega] at this
    exact this

theorem AllFieldsKept.refl (h : Heap) : AllFieldsKept h h := fun _ o hg => ⟨o, hg, rfl⟩

theorem AllFieldsKept.trans {h1 h2 h3 : Heap} (a : AllFieldsKept h1 h2) (b : AllFieldsKept h2 h3) :
    AllFieldsKept h1 h3 := by
  intro id o hg
  obtain ⟨o2, hg2, e2⟩ := a id o hg
  obtain ⟨o3, hg3, e3⟩ := b id o2 hg2
  exact ⟨o3, hg3, e3.trans e2⟩

theorem allFieldsKept_set {h : Heap} {id : Nat} {o : Obj} (hg : h.get id = some o) (c : Nat) :
    AllFieldsKept h (h.set id { o with count := c }) := by
  intro id' o' hg'
  by_cases hi : id' = id
  · subst hi
    rw [hg] at hg'
    cases hg'
    exact ⟨_, heap_get_set_same _ _ _, rfl⟩
  · exact ⟨o', by rw [heap_get_set_other _ _ hi]; exact hg', rfl⟩

theorem share_ok {h : Heap} {c k : Nat} {o : Obj} (h0 : 0 < c) (hlt : c < 2 ^ 64)
    (hg : h.get c = some o) :
    h.share (BitVec.ofNat 64 c) k = .ok (h.set c { o with count := o.count + k }) := by
  unfold Heap.share
  have hne : (BitVec.ofNat 64 c == 0) = false := by
    rw [beq_eq_false_iff_ne]; exact ofNat_ne_zero h0 hlt
  simp only [hne, Bool.false_eq_true, if_false, ofNat_toNat_lt hlt, hg]

theorem shareAll_ok : ∀ (cs : List Nat) (h : Heap) (rs : List Nat) (next : Nat),
    HeapOK h rs next → (∀ c ∈ cs, 0 < c ∧ c < 2 ^ 64 ∧ (h.get c).isSome) →
    ∃ h', h.shareAll cs = .ok h' ∧ HeapOK h' (rs ++ cs) next ∧ AllFieldsKept h h'
  | [], h, rs, next, H, _ => ⟨h, rfl, by simpa using H, AllFieldsKept.refl h⟩
  | c :: cs, h, rs, next, H, hcs => by
    obtain ⟨h0, hlt, hs⟩ := hcs c (by simp)
    cases hg : h.get c with
    | none => simp [hg] at hs
    | some o =>
      have hshare := share_ok (k := 1) h0 hlt hg
      have H1 : HeapOK (h.set c { o with count := o.count + 1 }) (rs ++ [c]) next := by
        apply heapOK_setCount H hg
        · intro x hx
          have : ¬ (c = x) := fun e => hx e.symm
          simp [List.count_append, List.count_cons, this]
        · simp [List.count_append]; omega
      have hcs' : ∀ c' ∈ cs, 0 < c' ∧ c' < 2 ^ 64 ∧
          ((h.set c { o with count := o.count + 1 }).get c').isSome := by
        intro c' hc'
        obtain ⟨a, b, d⟩ := hcs c' (by simp [hc'])
        refine ⟨a, b, ?_⟩
        by_cases e : c' = c
        · subst e; rw [heap_get_set_same]; rfl
        · rw [heap_get_set_other _ _ e]; exact d
      obtain ⟨h', hs', H', K'⟩ := shareAll_ok cs _ _ next H1 hcs'
      refine ⟨h', ?_, ?_, (allFieldsKept_set hg _).trans K'⟩
      · simp only [Heap.shareAll, hshare]; exact hs'
      · simpa [List.append_assoc] using H'

theorem step_load_empty (P : Program) (cfg : Config) (n : Nat)
    (hc : P.code[cfg.pc]? = some (.load [] n)) :
    Abs.step P cfg = .next { cfg with pc := cfg.pc + 1, temps := clobberTemp cfg.temps } := by
  simp [Abs.step, hc]

theorem chi_beq_self (c : Chi) : (c == c) = true := by cases c <;> decide

theorem kinds_bne_self : ∀ (l : List Chi), (l != l) = false
  | [] => rfl
  | c :: l => by
    have ih := kinds_bne_self l
    simp only [bne, Bool.not_eq_false'] at ih ⊢
    show ((c :: l) == (c :: l)) = true
    have : ((c :: l) == (c :: l)) = ((c == c) && (l == l)) := rfl
    rw [this, chi_beq_self, ih]; rfl

theorem step_load_unique (P : Program) (cfg : Config) (k : Chi) (ks : List Chi) (n : Nat) (ref : Word)
    (o : Obj) (hc : P.code[cfg.pc]? = some (.load (k :: ks) n))
    (hr : cfg.temps.get (2 * n) = some ref) (h0 : ref ≠ 0) (hg : cfg.heap.get ref.toNat = some o)
    (hk : o.fields.map (·.chi) = k :: ks) (hcount : o.count = 0) :
    Abs.step P cfg = .next { cfg with pc := cfg.pc + 1,
                                      temps := writeFields (clobberTemp cfg.temps) o.fields n,
                                      heap := cfg.heap.remove ref.toNat } := by
  have h1 : (ref == 0) = false := by rw [beq_eq_false_iff_ne]; exact h0
  have h2 : (o.fields.map (·.chi) != k :: ks) = false := by rw [hk]; exact kinds_bne_self _
  simp only [Abs.step, hc, getT, hr, h1, hg, h2, hcount, Bool.false_eq_true, if_false, beq_self_eq_true,
    if_true]

theorem step_load_shared (P : Program) (cfg : Config) (k : Chi) (ks : List Chi) (n : Nat) (ref : Word)
    (o : Obj) (h' : Heap) (hc : P.code[cfg.pc]? = some (.load (k :: ks) n))
    (hr : cfg.temps.get (2 * n) = some ref) (h0 : ref ≠ 0) (hg : cfg.heap.get ref.toNat = some o)
    (hk : o.fields.map (·.chi) = k :: ks) (hcount : o.count ≠ 0)
    (hs : (cfg.heap.set ref.toNat { o with count := o.count - 1 }).shareAll o.children = .ok h') :
    Abs.step P cfg = .next { cfg with pc := cfg.pc + 1,
                                      temps := writeFields (clobberTemp cfg.temps) o.fields n,
                                      heap := h' } := by
  have h1 : (ref == 0) = false := by rw [beq_eq_false_iff_ne]; exact h0
  have h2 : (o.fields.map (·.chi) != k :: ks) = false := by rw [hk]; exact kinds_bne_self _
  have h3 : (o.count == 0) = false := by rw [beq_eq_false_iff_ne]; exact hcount
  simp only [Abs.step, hc, getT, hr, h1, hg, h2, h3, hs, Bool.false_eq_true, if_false]

theorem childSum_pos_of_mem {h : Heap} {e : Nat × Obj} (he : e ∈ h) {x : Nat} (hx : x ∈ e.2.children) :
    0 < childSum h x := by
  induction h with
  | nil => cases he
  | cons a h ih =>
    obtain ⟨a1, a2⟩ := a
    rw [childSum_cons]
    rcases List.mem_cons.mp he with rfl | he'
    · have : 0 < List.count x a2.children := List.count_pos_iff.mpr hx
      omega
    · have := ih he'
      omega

theorem heapOK_child_live {h : Heap} {rs : List Nat} {next id : Nat} {o : Obj} (H : HeapOK h rs next)
    (hg : h.get id = some o) {c : Nat} (hc : c ∈ o.children) :
    0 < c ∧ c < 2 ^ 64 ∧ (h.get c).isSome := by
  have hlive : (h.get c).isSome := by
    apply H.live
    have := childSum_pos_of_mem (heap_get_mem hg) hc
    simp only [refCount_eq]
    omega
  obtain ⟨o', ho'⟩ := heap_get_isSome_mem hlive
  exact ⟨(H.ids _ ho').1, children_lt hc, hlive⟩

/-- THE `load` CONTRACT: temporary `2n` (n = number of remaining positions) references a block
    representing `vs`; after `load` the positions `n, n+1, …` represent `vs`, and the counting
    invariant holds for the extended context. -/
theorem load_sim {P : Program} {hooks : Bool} {types : List TypeDecl} {Γ Δ : Ctx} {ρ vs : List Value}
    {cfg : Config} {r : Word}
    (V : ValsOK2 P hooks types cfg.heap cfg.temps Γ ρ) (hlen : ρ.length = Γ.length)
    (hcap : 2 * (Γ.length + Δ.length) + 2 < Mock.T_TEMP)
    (hr : cfg.temps.get (2 * Γ.length) = some r)
    (hB : RepB P hooks types cfg.heap vs r)
    (hkinds : vs.map kindOf = Mock.kindsOf Δ)
    (H : HeapOK cfg.heap (roots Γ cfg.temps ++ (if r != 0 then [r.toNat] else [])) cfg.next)
    (hc : P.code[cfg.pc]? = some (.load (Mock.kindsOf Δ) Γ.length)) :
    ∃ cfg1, Abs.step P cfg = .next cfg1 ∧ cfg1.pc = cfg.pc + 1 ∧ cfg1.out = cfg.out ∧
      cfg1.next = cfg.next ∧
      ValsOK2 P hooks types cfg1.heap cfg1.temps (Γ ++ Δ) (ρ ++ vs) ∧
      HeapOK cfg1.heap (roots (Γ ++ Δ) cfg1.temps) cfg1.next := by
  have hlenΔ : vs.length = Δ.length := by
    have := congrArg List.length hkinds
    simpa [Mock.kindsOf] using this
  cases hB with
  | empty =>
    have hΔ : Δ = [] := List.length_eq_zero_iff.mp (by simpa using hlenΔ.symm)
    subst hΔ
    have hc' : P.code[cfg.pc]? = some (.load [] Γ.length) := hc
    refine ⟨_, step_load_empty P cfg _ hc', rfl, rfl, rfl, ?_, ?_⟩
    · simp only [List.append_nil]
      exact V.congr (fun t ht => get_clobberTemp _ (by simp at hcap; omega))
    · simp only [List.append_nil]
      have e : roots Γ (clobberTemp cfg.temps) = roots Γ cfg.temps :=
        roots_congr _ _ _ (fun i hi => get_clobberTemp _ (by simp at hcap; omega))
      show HeapOK cfg.heap (roots Γ (clobberTemp cfg.temps)) cfg.next
      rw [e]
      simpa using H
  | block v vs' r o hr0 hg hF =>
    have hrb : (r != 0) = true := by rw [bne_iff_ne]; exact hr0
    simp only [hrb, if_true] at H
    have hfk : o.fields.map (·.chi) = Mock.kindsOf Δ := by rw [RepF.kinds hF]; exact hkinds
    have hflen : o.fields.length = Δ.length := by
      have := congrArg List.length hfk
      simpa [Mock.kindsOf] using this
    obtain ⟨k, ks, hkk⟩ : ∃ k ks, Mock.kindsOf Δ = k :: ks := by
      cases hd : Mock.kindsOf Δ with
      | nil => rw [hd] at hkinds; simp at hkinds
      | cons k ks => exact ⟨k, ks, rfl⟩
    rw [hkk] at hc
    have hσlow : ∀ t, t < 2 * Γ.length →
        (writeFields (clobberTemp cfg.temps) o.fields Γ.length).get t = cfg.temps.get t := by
      intro t ht
      rw [writeFields_get_low _ _ _ _ ht]
      exact get_clobberTemp _ (by omega)
    have hroots' : roots (Γ ++ Δ) (writeFields (clobberTemp cfg.temps) o.fields Γ.length) =
        roots Γ cfg.temps ++ o.children := by
      unfold roots
      rw [roots_go_append, Nat.zero_add]
      congr 1
      · exact roots_go_congr _ _ _ 0 (fun i hi => by rw [Nat.zero_add]; exact hσlow _ (by omega))
      · exact roots_go_loaded _ o.count Δ o.fields Γ.length hfk
          (fun j hj => writeFields_get_ptr _ _ _ j hj)
    -- representation of the loaded positions in any heap that keeps the fields reachable from them
    have hnew : ∀ (h' : Heap), (∀ j (h1 : j < (v :: vs').length) (h2 : j < o.fields.length),
          RepV P hooks types h' (v :: vs')[j]
            (if o.fields[j].chi == .ext then none else some o.fields[j].ptr) o.fields[j].val) →
        ∀ j (h1 : j < Δ.length) (h2 : j < (v :: vs').length),
          RepV P hooks types h' (v :: vs')[j]
            (if Δ[j].chi == .ext then none
             else (writeFields (clobberTemp cfg.temps) o.fields Γ.length).get (2 * (Γ.length + j)))
            (((writeFields (clobberTemp cfg.temps) o.fields Γ.length).get
              (2 * (Γ.length + j) + 1)).getD 0) ∧
          ((writeFields (clobberTemp cfg.temps) o.fields Γ.length).get (2 * (Γ.length + j) + 1)).isSome ∧
          (Δ[j].chi = kindOf (v :: vs')[j]) ∧
          (Δ[j].chi != .ext →
            ((writeFields (clobberTemp cfg.temps) o.fields Γ.length).get (2 * (Γ.length + j))).isSome) := by
      intro h' hrep j h1 h2
      have h3 : j < o.fields.length := by omega
      have hchi : o.fields[j].chi = Δ[j].chi := by
        have := congrArg (fun l => l[j]?) hfk
        simp only [Mock.kindsOf, List.getElem?_map, List.getElem?_eq_getElem h3,
          List.getElem?_eq_getElem h1, Option.map_some, Option.some.injEq] at this
        exact this
      have hk := (RepF.get hF j h2 h3).2
      rw [writeFields_get_val _ _ _ j h3, writeFields_get_ptr _ _ _ j h3, ← hchi]
      refine ⟨?_, rfl, hk, ?_⟩
      · have := hrep j h2 h3
        by_cases hce : (o.fields[j].chi == .ext) = true
        · simpa [hce] using this
        · simpa [hce] using this
      · intro hne
        have : (o.fields[j].chi == .ext) = false := by
          rw [chi_beq_ext_false]; exact (chi_bne_ext _).mp hne
        simp [this]
    by_cases hcount : o.count = 0
    · -- unique: the block is freed
      have hmemr : r.toNat ∈ roots Γ cfg.temps ++ [r.toNat] := by simp
      obtain ⟨hcnt, hunref⟩ := heapOK_unique H hg hcount hmemr
      have hnotroot : r.toNat ∉ roots Γ cfg.temps := by
        intro hm
        have : 0 < (roots Γ cfg.temps).count r.toNat := List.count_pos_iff.mpr hm
        simp [List.count_append] at hcnt
        omega
      have hkept : FieldsKept cfg.heap (cfg.heap.remove r.toNat) r.toNat := by
        intro id o' hne hg'
        exact ⟨o', by rw [heap_get_remove_other _ hne]; exact hg', rfl⟩
      refine ⟨_, step_load_unique P cfg k ks _ r o hc hr hr0 hg (by rw [hfk, hkk]) hcount,
        rfl, rfl, rfl, ?_, ?_⟩
      · apply ValsOK2.append _ hlen
        · apply hnew
          intro j h1 h2
          refine RepV.transfer hkept hunref (RepF.get hF j h1 h2).1 ?_
          intro p hp hp0 e
          by_cases hce : (o.fields[j].chi == .ext) = true
          · simp [hce] at hp
          · simp only [hce, Bool.false_eq_true, if_false, Option.some.injEq] at hp
            subst hp
            exact hunref _ _ hg (e ▸ mem_children (List.getElem_mem h2)
              (fun e' => hce ((chi_beq_ext _).mpr e')) hp0)
        · apply ValsOK2.congr _ hσlow
          apply V.transfer hkept hunref
          intro i hi hci p hp hp0 e
          exact hnotroot (e ▸ mem_roots hi hci hp hp0)
      · show HeapOK (cfg.heap.remove r.toNat) (roots (Γ ++ Δ) _) cfg.next
        rw [hroots']
        apply heapOK_remove H hg hcount
        intro x
        simp only [List.count_append, List.count_cons, List.count_nil]
        by_cases hx : x = r.toNat
        · subst hx; simp; omega
        · have : ¬ (r.toNat = x) := fun e => hx e.symm
          simp [hx, this]
    · -- shared: decrement, share the children
      have H1 : HeapOK (cfg.heap.set r.toNat { o with count := o.count - 1 }) (roots Γ cfg.temps) cfg.next := by
        apply heapOK_setCount H hg
        · intro x hx
          have : ¬ (r.toNat = x) := fun e => hx e.symm
          simp [List.count_append, List.count_cons, this]
        · simp [List.count_append]; omega
      have hlive : ∀ c ∈ o.children, 0 < c ∧ c < 2 ^ 64 ∧
          ((cfg.heap.set r.toNat { o with count := o.count - 1 }).get c).isSome := by
        intro c hc'
        obtain ⟨a, b, d⟩ := heapOK_child_live H hg hc'
        refine ⟨a, b, ?_⟩
        by_cases e : c = r.toNat
        · rw [e, heap_get_set_same]; rfl
        · rw [heap_get_set_other _ _ e]; exact d
      obtain ⟨h', hs, H', K'⟩ := shareAll_ok o.children _ _ _ H1 hlive
      have K : AllFieldsKept cfg.heap h' := (allFieldsKept_set hg _).trans K'
      refine ⟨_, step_load_shared P cfg k ks _ r o h' hc hr hr0 hg (by rw [hfk, hkk]) hcount hs,
        rfl, rfl, rfl, ?_, ?_⟩
      · apply ValsOK2.append _ hlen
        · apply hnew
          intro j h1 h2
          exact RepV.kept K (RepF.get hF j h1 h2).1
        · exact (V.kept K).congr hσlow
      · show HeapOK h' (roots (Γ ++ Δ) _) cfg.next
        rw [hroots']
        exact H'

theorem nthClause_lt : ∀ (clauses : Clauses) (i : Nat) (c : Clause), nthClause clauses i = some c →
    i < clauses.length
  | .nil, _, _, h => by simp [nthClause] at h
  | .cons _ _ _ r, 0, _, _ => by simp [Clauses.length]
  | .cons _ _ _ r, i + 1, c, h => by
    simp only [nthClause] at h
    have := nthClause_lt r i c h
    simp only [Clauses.length]; omega

theorem codeClauses_nth (hooks : Bool) (ren : Nat → String) (types : List TypeDecl) (Γ : Ctx) :
    ∀ (clauses : Clauses) (base : String) (i : Nat) (c : Clause) (k : Nat) (code : List MockOp) (k' : Nat),
    (codeClausesR mockSym hooks ren types Γ clauses base).run k = .ok (code, k') →
    nthClause clauses i = some c →
    ∃ pre post kb kb' body,
      code = pre ++ MockOp.label (clauseLabel base c.xtor) ::
        MockOp.load (Mock.kindsOf c.ctx) Γ.length :: (body ++ post) ∧
      (codeStatementR mockSym hooks ren types c.body (Γ ++ c.ctx)).run kb = .ok (body, kb')
  | .nil, _, _, _, _, _, _, _, h => by simp [nthClause] at h
  | .cons x ctx body rest, base, i, c, k, code, k', hrun, h => by
    simp only [codeClausesR, run_bind_ok, run_pure_ok, mockSym_load, mockSym_label] at hrun
    obtain ⟨c1, k1, ⟨rfl, rfl⟩, c2, k2, h2, c3, k3, h3, rfl, rfl⟩ := hrun
    cases i with
    | zero =>
      simp only [nthClause, Option.some.injEq] at h
      subst h
      exact ⟨[], c3, _, _, c2, by simp, h2⟩
    | succ i =>
      simp only [nthClause] at h
      obtain ⟨pre, post, kb, kb', b, e, hb⟩ := codeClauses_nth hooks ren types Γ rest base i c _ _ _ h3 h
      refine ⟨MockOp.label (clauseLabel base x) :: ([MockOp.load (Mock.kindsOf ctx) Γ.length] ++ c2) ++ pre,
        post, kb, kb', b, ?_, hb⟩
      rw [e]; simp

theorem codeClauses_head (hooks : Bool) (ren : Nat → String) (types : List TypeDecl) (Γ : Ctx)
    (clauses : Clauses) (base : String) (c : Clause) (k : Nat) (code : List MockOp) (k' : Nat)
    (hrun : (codeClausesR mockSym hooks ren types Γ clauses base).run k = .ok (code, k'))
    (h : nthClause clauses 0 = some c) :
    ∃ post kb kb' body,
      code = [] ++ MockOp.label (clauseLabel base c.xtor) ::
        MockOp.load (Mock.kindsOf c.ctx) Γ.length :: (body ++ post) ∧
      (codeStatementR mockSym hooks ren types c.body (Γ ++ c.ctx)).run kb = .ok (body, kb') := by
  cases clauses with
  | nil => simp [nthClause] at h
  | cons x ctx body rest =>
    simp only [codeClausesR, run_bind_ok, run_pure_ok, mockSym_load, mockSym_label] at hrun
    obtain ⟨c1, k1, ⟨rfl, rfl⟩, c2, k2, h2, c3, k3, h3, rfl, rfl⟩ := hrun
    simp only [nthClause, Option.some.injEq] at h
    subst h
    exact ⟨c3, _, _, c2, by simp, h2⟩

theorem codeMethods_head (hooks : Bool) (ren : Nat → String) (types : List TypeDecl) (env : Ctx)
    (clauses : Clauses) (base : String) (c : Clause) (k : Nat) (code : List MockOp) (k' : Nat)
    (hrun : (codeMethodsR mockSym hooks ren types env clauses base).run k = .ok (code, k'))
    (h : nthClause clauses 0 = some c) :
    ∃ post kb kb' body,
      code = [] ++ MockOp.label (clauseLabel base c.xtor) ::
        MockOp.load (Mock.kindsOf env) c.ctx.length :: (body ++ post) ∧
      (codeStatementR mockSym hooks ren types c.body (c.ctx ++ env)).run kb = .ok (body, kb') := by
  cases clauses with
  | nil => simp [nthClause] at h
  | cons x ctx body rest =>
    simp only [codeMethodsR, run_bind_ok, run_pure_ok, mockSym_load, mockSym_label] at hrun
    obtain ⟨c1, k1, ⟨rfl, rfl⟩, c2, k2, h2, c3, k3, h3, rfl, rfl⟩ := hrun
    simp only [nthClause, Option.some.injEq] at h
    subst h
    exact ⟨c3, _, _, c2, by simp, h2⟩

theorem codeMethods_nth (hooks : Bool) (ren : Nat → String) (types : List TypeDecl) (env : Ctx) :
    ∀ (clauses : Clauses) (base : String) (i : Nat) (c : Clause) (k : Nat) (code : List MockOp) (k' : Nat),
    (codeMethodsR mockSym hooks ren types env clauses base).run k = .ok (code, k') →
    nthClause clauses i = some c →
    ∃ pre post kb kb' body,
      code = pre ++ MockOp.label (clauseLabel base c.xtor) ::
        MockOp.load (Mock.kindsOf env) c.ctx.length :: (body ++ post) ∧
      (codeStatementR mockSym hooks ren types c.body (c.ctx ++ env)).run kb = .ok (body, kb')
  | .nil, _, _, _, _, _, _, _, h => by simp [nthClause] at h
  | .cons x ctx body rest, base, i, c, k, code, k', hrun, h => by
    simp only [codeMethodsR, run_bind_ok, run_pure_ok, mockSym_load, mockSym_label] at hrun
    obtain ⟨c1, k1, ⟨rfl, rfl⟩, c2, k2, h2, c3, k3, h3, rfl, rfl⟩ := hrun
    cases i with
    | zero =>
      simp only [nthClause, Option.some.injEq] at h
      subst h
      exact ⟨[], c3, _, _, c2, by simp, h2⟩
    | succ i =>
      simp only [nthClause] at h
      obtain ⟨pre, post, kb, kb', b, e, hb⟩ := codeMethods_nth hooks ren types env rest base i c _ _ _ h3 h
      refine ⟨MockOp.label (clauseLabel base x) :: ([MockOp.load (Mock.kindsOf env) ctx.length] ++ c2) ++ pre,
        post, kb, kb', b, ?_, hb⟩
      rw [e]; simp

theorem codeTable_nth (P : Program) (base : String) : ∀ (clauses : Clauses) (i : Nat) (c : Clause)
    (a : Nat) (rest : List MockOp), nthClause clauses i = some c →
    CodeAt P a (codeTable mockSym clauses base ++ rest) →
    P.code[a + i]? = some (.jumpFixed (clauseLabel base c.xtor))
  | .nil, _, _, _, _, h, _ => by simp [nthClause] at h
  | .cons x ctx body r, 0, c, a, rest, h, hat => by
    simp only [nthClause, Option.some.injEq] at h
    subst h
    simp only [codeTable, mockSym_jumpLabelFixed, List.cons_append, List.nil_append, CodeAt] at hat
    exact hat.1
  | .cons x ctx body r, i + 1, c, a, rest, h, hat => by
    simp only [nthClause] at h
    simp only [codeTable, mockSym_jumpLabelFixed, List.cons_append, List.nil_append, CodeAt] at hat
    have := codeTable_nth P base r i c (a + 1) rest h hat.2
    rw [show a + (i + 1) = a + 1 + i by omega]
    exact this

theorem clause_at {P : Program} {a : Nat} {pre post body : List MockOp} {lbl : String} {ks : List Chi}
    {n : Nat} (hat : CodeAt P a (pre ++ MockOp.label lbl :: MockOp.load ks n :: (body ++ post))) :
    P.labelAddr lbl = some (a + instrCount pre) ∧
    P.code[a + instrCount pre]? = some (.load ks n) ∧ CodeAt P (a + instrCount pre + 1) body := by
  rw [CodeAt_append] at hat
  obtain ⟨_, hat⟩ := hat
  simp only [CodeAt] at hat
  obtain ⟨h1, h2, h3⟩ := hat
  rw [CodeAt_append] at h3
  exact ⟨h1, h2, h3.1⟩

theorem RepV.obj_inv {P : Program} {hooks : Bool} {types : List TypeDecl} {h : Heap} {tag : Nat}
    {fields : List Value} {p : Option Word} {w : Word}
    (hv : RepV P hooks types h (.obj tag fields) p w) :
    ∃ r, p = some r ∧ RepB P hooks types h fields r ∧ w = BitVec.ofNat 64 tag := by
  cases hv with
  | obj _ _ r hb => exact ⟨r, rfl, hb, rfl⟩

theorem RepV.clo_inv {P : Program} {hooks : Bool} {types : List TypeDecl} {h : Heap} {envCtx : Ctx}
    {env : List Value} {clauses : Clauses} {p : Option Word} {w : Word}
    (hv : RepV P hooks types h (.clo envCtx env clauses) p w) :
    ∃ r a envCtx', p = some r ∧ RepB P hooks types h env r ∧ w = BitVec.ofNat 64 a ∧
      envCtx'.keys = envCtx.keys ∧ MethodsAt P hooks types a envCtx' clauses := by
  cases hv with
  | clo _ envCtx' _ _ r a hk hb hm => exact ⟨r, a, envCtx', rfl, hb, rfl, hk, hm⟩

/-- the last position holds a block reference; the machine is (after the jumps of `switch` / `invoke`,
    which only change `TEMP`) at the `load` of a clause whose body is coded for the context
    `Γ'' ++ Δ` (`Γ''`: the remaining positions, possibly renamed) -/
theorem load_enter {P : Program} {hooks : Bool} {prog : Prog} {Γ' Γ'' Δ : Ctx} {b : Binding}
    {ρ' vs : List Value} {v : Value} {s s' : Stmt} {cfg cfg4 : Config} {r : Word}
    (R : RelX P hooks prog ⟨Γ' ++ [b], ρ' ++ [v], s⟩ cfg)
    (hchi : Γ'.map (·.chi) = Γ''.map (·.chi))
    (hbchi : b.chi ≠ .ext)
    (hr : cfg.temps.get (2 * Γ'.length) = some r)
    (hB : RepB P hooks prog.types cfg.heap vs r)
    (hkinds : vs.map kindOf = Mock.kindsOf Δ)
    (hcap : 2 * (Γ'.length + Δ.length) + 2 < Mock.T_TEMP)
    (hheap : cfg4.heap = cfg.heap) (hnext : cfg4.next = cfg.next) (hout : cfg4.out = cfg.out)
    (htemps : ∀ t, t < 2 * (Γ'.length + 1) → cfg4.temps.get t = cfg.temps.get t)
    (hc : P.code[cfg4.pc]? = some (.load (Mock.kindsOf Δ) Γ'.length))
    (hcode : ∃ c c' ops, (codeStatementR mockSym hooks natRen prog.types s' (Γ'' ++ Δ)).run c = .ok (ops, c') ∧
      CodeAt P (cfg4.pc + 1) ops) :
    ∃ cfg', Abs.step P cfg4 = .next cfg' ∧ cfg'.out = cfg.out ∧ cfg'.next = cfg.next ∧
      RelX P hooks prog ⟨Γ'' ++ Δ, ρ' ++ vs, s'⟩ cfg' := by
  have hlen : ρ'.length = Γ'.length := by
    have := R.len
    simpa using this
  have hlen'' : Γ'.length = Γ''.length := by simpa using congrArg List.length hchi
  have V0 : ValsOK2 P hooks prog.types cfg4.heap cfg4.temps Γ' ρ' := by
    rw [hheap]
    have e1 : (Γ' ++ [b]).take Γ'.length = Γ' := List.take_left' rfl
    have e2 : (ρ' ++ [v]).take Γ'.length = ρ' := List.take_left' hlen
    have V1 := R.vals.take Γ'.length
    rw [e1, e2] at V1
    exact V1.congr (fun t ht => htemps t (by omega))
  have hroots : roots Γ' cfg4.temps = roots Γ' cfg.temps :=
    roots_congr _ _ _ (fun i hi => htemps _ (by omega))
  have H0 : HeapOK cfg4.heap (roots Γ' cfg4.temps ++ (if r != 0 then [r.toNat] else [])) cfg4.next := by
    rw [hheap, hnext, hroots]
    have := R.heap
    simp only at this
    rw [roots_snoc] at this
    have hne : (b.chi != .ext) = true := (chi_bne_ext _).mpr hbchi
    simpa [rootOf, hne, hr] using this
  have hr4 : cfg4.temps.get (2 * Γ'.length) = some r := by rw [htemps _ (by omega)]; exact hr
  obtain ⟨cfg', hstep, hpc, hout', hnext', V', H'⟩ :=
    load_sim (Δ := Δ) V0 hlen hcap hr4 (hheap ▸ hB) hkinds H0 hc
  refine ⟨cfg', hstep, by rw [hout', hout], by rw [hnext', hnext], ?_⟩
  obtain ⟨c, c', ops, hrun, hat⟩ := hcode
  exact {
    len := by simp [hlen, hlen'']; have := congrArg List.length hkinds; simp [Mock.kindsOf] at this; omega
    cap := by simp only [List.length_append]; rw [← hlen'']; exact hcap
    vals := by
      apply ValsOK2.chi V'
      simp [hchi]
    heap := by
      apply HeapOK_congr H'
      show roots (Γ'' ++ Δ) _ = roots (Γ' ++ Δ) _
      unfold roots
      exact (roots_go_chi _ (Γ' ++ Δ) (Γ'' ++ Δ) 0 (by simp [hchi])).symm
    code := ⟨c, c', ops, hrun, by rw [hpc]; exact hat⟩ }

theorem step_ll_temp (P : Program) (cfg : Config) (name : String) (a : Nat)
    (hc : P.code[cfg.pc]? = some (.ll Mock.T_TEMP name)) (ha : P.labelAddr name = some a) :
    Abs.step P cfg = .next { cfg with pc := cfg.pc + 1,
                                      temps := cfg.temps.set Mock.T_TEMP (BitVec.ofNat 64 a) } := by
  have : (Mock.T_TEMP == Abs.T_TEMP) = true := by decide
  simp [Abs.step, hc, this, ha]

theorem step_binop_temp (P : Program) (cfg : Config) (o : BinOp) (b : Nat) (va vb v : Word)
    (hc : P.code[cfg.pc]? = some (.binop o Mock.T_TEMP Mock.T_TEMP b))
    (ha : cfg.temps.get Mock.T_TEMP = some va) (hb : cfg.temps.get b = some vb)
    (hv : Abs.evalBinOp o va vb = .ok v) :
    Abs.step P cfg = .next { cfg with pc := cfg.pc + 1, temps := cfg.temps.set Mock.T_TEMP v } := by
  have : (Mock.T_TEMP == Abs.T_TEMP) = true := by decide
  simp [Abs.step, hc, this, getT, ha, hb, hv]

theorem step_jump (P : Program) (cfg : Config) (t : Nat) (v : Word)
    (hc : P.code[cfg.pc]? = some (.jump t)) (ht : cfg.temps.get t = some v) :
    Abs.step P cfg = .next { cfg with pc := v.toNat, temps := clobberTemp cfg.temps } := by
  simp [Abs.step, hc, getT, ht]

theorem step_jumpFixed (P : Program) (cfg : Config) (name : String) (a : Nat)
    (hc : P.code[cfg.pc]? = some (.jumpFixed name)) (ha : P.labelAddr name = some a) :
    Abs.step P cfg = .next { cfg with pc := a, temps := clobberTemp cfg.temps } := by
  simp [Abs.step, hc, jumpTo, ha]

theorem step_addJump (P : Program) (cfg : Config) (t : Nat) (imm : Int) (v : Word)
    (hc : P.code[cfg.pc]? = some (.addJump t imm)) (ht : cfg.temps.get t = some v) :
    Abs.step P cfg = .next { cfg with pc := (v + BitVec.ofInt 64 imm).toNat,
                                      temps := clobberTemp cfg.temps } := by
  simp [Abs.step, hc, getT, ht]

theorem toNat_add_ofNat {a i : Nat} (h : a + i < 2 ^ 64) :
    (BitVec.ofNat 64 a + BitVec.ofNat 64 i).toNat = a + i := by
  simp only [BitVec.toNat_add, BitVec.toNat_ofNat]
  have h1 : a % 2 ^ 64 = a := Nat.mod_eq_of_lt (by omega)
  have h2 : i % 2 ^ 64 = i := Nat.mod_eq_of_lt (by omega)
  rw [h1, h2, Nat.mod_eq_of_lt h]

theorem code_lt_size {P : Program} {a : Nat} {op : MockOp} (h : P.code[a]? = some op) : a < P.code.size := by
  by_cases hlt : a < P.code.size
  · exact hlt
  · rw [Array.getElem?_eq_none (by omega)] at h; cases h

/-- a `switch` with at most one clause falls through: the `load` of the clause is AT the switch -/
theorem switch_code_single {P : Program} {hooks : Bool} {types : List TypeDecl} {x : Ident} {ty : Ty}
    {clauses : Clauses} {fv : FV} {Γ : Ctx} {pc : Nat} {cl : Clause}
    (hcode : ∃ c c' ops, (codeStatementR mockSym hooks natRen types (.switch x ty clauses fv) Γ).run c =
      .ok (ops, c') ∧ CodeAt P pc ops)
    (hle : clauses.length ≤ 1) (hcl : nthClause clauses 0 = some cl) :
    P.code[pc]? = some (.load (Mock.kindsOf cl.ctx) Γ.dropLast.length) := by
  obtain ⟨k0, k0', ops, hrun, hat⟩ := hcode
  simp only [codeStatementR, run_bind_ok, run_pure_ok, freshLabelStr_run_ok] at hrun
  obtain ⟨num, k1, ⟨rfl, rfl⟩, c1, k2, h1, c3, k3, h3, rfl, rfl⟩ := hrun
  obtain ⟨post0, kb0, kb0', body0, hc30, hbody0⟩ :=
    codeClauses_head hooks natRen types _ clauses _ cl _ _ _ h3 hcl
  simp only [mockSym_comment, mockSym_label, List.append_assoc, CodeAt_hook] at hat
  simp only [List.cons_append, List.nil_append, CodeAt] at hat
  rw [CodeAt_append] at hat
  obtain ⟨hat1, hat2⟩ := hat
  simp only [CodeAt] at hat2
  obtain ⟨hlab, hat2⟩ := hat2
  simp only [hle, if_true, run_pure_ok] at h1
  obtain ⟨rfl, rfl⟩ := h1
  have hgt : ¬ (clauses.length > 1) := by omega
  simp only [hgt, if_false, List.nil_append, CodeAt, instrCount, Nat.add_zero, mockSym_comment] at hat2
  rw [hc30] at hat2
  obtain ⟨_, hload, _⟩ := clause_at hat2
  simpa [instrCount] using hload

/-- the abstract machine from a `switch` up to the `load` at the head of the selected clause; the backends'
three-way simulations run the concrete machine alongside up to this point -/
theorem switch_nav_abs {P : Program} {hooks : Bool} {prog : AxCut.Prog} {Γ' : Ctx} {b : Binding}
    {ρ' : List Value} {pos : Nat} {fields : List Value} {x : Ident} {ty : Ty} {clauses : Clauses}
    {fv : FV} {cfg : Config} {c : Clause}
    (R : RelX P hooks prog ⟨Γ' ++ [b], ρ' ++ [.obj pos fields], .switch x ty clauses fv⟩ cfg)
    (hfits : Fits P)
    (hb : b.var.id = x.id) (hfresh : ∀ b' ∈ Γ', b'.var.id ≠ x.id)
    (hclause : nthClause clauses pos = some c) :
    ∃ k4 cfg4 r, stepsTo P k4 cfg cfg4 ∧ cfg4.heap = cfg.heap ∧ cfg4.next = cfg.next ∧ cfg4.out = cfg.out ∧
      (∀ t, t < 2 * (Γ'.length + 1) → cfg4.temps.get t = cfg.temps.get t) ∧
      P.code[cfg4.pc]? = some (.load (Mock.kindsOf c.ctx) Γ'.length) ∧
      (∃ c0 c0' ops, (codeStatementR mockSym hooks natRen prog.types c.body (Γ' ++ c.ctx)).run c0 = .ok (ops, c0') ∧
        CodeAt P (cfg4.pc + 1) ops) ∧
      cfg.temps.get (2 * Γ'.length) = some r ∧ RepB P hooks prog.types cfg.heap fields r ∧
      cfg.temps.get (2 * Γ'.length + 1) = some (BitVec.ofNat 64 pos) ∧ b.chi = .prd := by
  obtain ⟨k0, k0', ops, hrun, hat⟩ := R.code
  have hlen : ρ'.length = Γ'.length := by have := R.len; simpa using this
  have hn1 : Γ'.length < (Γ' ++ [b]).length := by simp
  have hn2 : Γ'.length < (ρ' ++ [Value.obj pos fields]).length := by simp [hlen]
  obtain ⟨hrep, hsome, hkind, hptr⟩ := R.vals Γ'.length hn1 hn2
  have g1 : (Γ' ++ [b])[Γ'.length] = b := by simp
  have g2 : (ρ' ++ [Value.obj pos fields])[Γ'.length] = .obj pos fields := by
    rw [List.getElem_append_right (by omega)]; simp [hlen]
  simp only [g1, g2] at hrep hkind hptr
  have hbchi : b.chi = .prd := hkind
  have hbne : b.chi ≠ .ext := by rw [hbchi]; decide
  have hbe : (b.chi == .ext) = false := (chi_beq_ext_false _).mpr hbne
  simp only [hbe, Bool.false_eq_true, if_false] at hrep
  obtain ⟨r, hr, hB, hw⟩ := hrep.obj_inv
  have hword : cfg.temps.get (2 * Γ'.length + 1) = some (BitVec.ofNat 64 pos) := by
    cases hg : cfg.temps.get (2 * Γ'.length + 1) with
    | none => simp [hg] at hsome
    | some w => simp only [hg, Option.getD_some] at hw; rw [hw]
  simp only [codeStatementR, run_bind_ok, run_pure_ok, freshLabelStr_run_ok] at hrun
  obtain ⟨num, k1, ⟨rfl, rfl⟩, c1, k2, h1, c3, k3, h3, rfl, rfl⟩ := hrun
  obtain ⟨pre, post, kb, kb', body, hc3, hbody⟩ :=
    codeClauses_nth hooks natRen prog.types _ clauses _ pos c _ _ _ h3 hclause
  have hdl : (Γ' ++ [b]).dropLast = Γ' := by simp
  rw [hdl] at hc3 hbody
  simp only [mockSym_comment, mockSym_label, List.append_assoc, CodeAt_hook] at hat
  simp only [List.cons_append, List.nil_append, CodeAt] at hat
  rw [CodeAt_append] at hat
  obtain ⟨hat1, hat2⟩ := hat
  simp only [CodeAt] at hat2
  obtain ⟨hlab, hat2⟩ := hat2
  have hposlt := nthClause_lt clauses pos c hclause
  by_cases hle : clauses.length ≤ 1
  · -- a single clause: fall through (comments and labels occupy no space)
    have hpos0 : pos = 0 := by omega
    subst hpos0
    obtain ⟨post0, kb0, kb0', body0, hc30, hbody0⟩ :=
      codeClauses_head hooks natRen prog.types _ clauses _ c _ _ _ h3 hclause
    rw [hdl] at hc30 hbody0
    simp only [hle, if_true, run_pure_ok] at h1
    obtain ⟨rfl, rfl⟩ := h1
    have hgt : ¬ (clauses.length > 1) := by omega
    simp only [hgt, if_false, List.nil_append, CodeAt, instrCount, Nat.add_zero, mockSym_comment] at hat2 hlab
    rw [hc30] at hat2
    obtain ⟨_, hload, hatb⟩ := clause_at hat2
    simp only [instrCount, Nat.add_zero] at hload hatb
    exact ⟨0, cfg, r, rfl, rfl, rfl, rfl, fun _ _ => rfl, hload, ⟨_, _, body0, hbody0, hatb⟩, hr, hB, hword, hbchi⟩
  · -- a jump table
    have hgt : clauses.length > 1 := by omega
    simp only [hle, if_false, run_bind_ok, run_pure_ok, mockSym_variableTemporary, vt_run_ok] at h1
    obtain ⟨tt, k4, ⟨p, hp, rfl, rfl⟩, rfl, rfl⟩ := h1
    have hp' : p = Γ'.length := by
      rw [ctxPosition_eq_posOf] at hp
      have := posOf_append_fresh Γ' b (fun b' hb' => by rw [hb]; exact hfresh b' hb')
      rw [hb] at this
      rw [this] at hp
      exact (Option.some.inj hp).symm
    subst hp'
    simp only [mockSym_loadLabel, mockSym_binop, mockSym_jump, mockSym_temp, List.cons_append,
      List.nil_append, CodeAt, instrCount, TempNum.toNat] at hat1 hat2 hlab
    obtain ⟨hll, hadd, hjmp, _⟩ := hat1
    simp only [hgt, if_true] at hat2
    generalize cfg.pc + (0 + 1 + 1 + 1) = a at hlab hat2
    have htab := codeTable_nth P _ clauses pos c _ _ hclause hat2
    rw [CodeAt_append] at hat2
    obtain ⟨_, hat3⟩ := hat2
    rw [hc3] at hat3
    obtain ⟨hclab, hload, hatb⟩ := clause_at hat3
    generalize a + instrCount (codeTable mockSym clauses (mangleTy ty ++ "_" ++ natRen (k0 + 1))) +
      instrCount pre = ca at hclab hload hatb
    have hcapR := R.cap
    simp only [List.length_append, List.length_singleton] at hcapR
    -- 1: ll
    let σ1 : Temps := cfg.temps.set Mock.T_TEMP (BitVec.ofNat 64 a)
    let cfg1 : Config := { cfg with pc := cfg.pc + 1, temps := σ1 }
    have hs1 : Abs.step P cfg = .next cfg1 := step_ll_temp P cfg _ _ hll hlab
    -- 2: add
    let σ2 : Temps := σ1.set Mock.T_TEMP (BitVec.ofNat 64 a + BitVec.ofNat 64 pos)
    let cfg2 : Config := { cfg1 with pc := cfg.pc + 1 + 1, temps := σ2 }
    have hs2 : Abs.step P cfg1 = .next cfg2 :=
      step_binop_temp P cfg1 BinOp.sum (2 * Γ'.length + 1) (BitVec.ofNat 64 a) (BitVec.ofNat 64 pos) _
        hadd (get_set_same _ _ _) (by
          show σ1.get (2 * Γ'.length + 1) = _
          rw [get_set_other _ _ (by omega)]; exact hword) rfl
    -- 3: jump
    have haddr : (BitVec.ofNat 64 a + BitVec.ofNat 64 pos).toNat = a + pos := by
      apply toNat_add_ofNat
      have := code_lt_size htab
      unfold Fits at hfits
      omega
    let cfg3 : Config := { cfg2 with pc := a + pos, temps := clobberTemp σ2 }
    have hs3 : Abs.step P cfg2 = .next cfg3 := by
      have := Scc.Backend.Sim2.step_jump P cfg2 Mock.T_TEMP _ hjmp (get_set_same _ _ _)
      rw [haddr] at this
      exact this
    -- 4: the table entry
    let cfg4 : Config := { cfg3 with pc := ca, temps := clobberTemp (clobberTemp σ2) }
    have hs4 : Abs.step P cfg3 = .next cfg4 := step_jumpFixed P cfg3 _ _ htab hclab
    refine ⟨4, cfg4, r, ⟨cfg1, hs1, cfg2, hs2, cfg3, hs3, stepsTo_one P _ _ hs4⟩, rfl, rfl, rfl, ?_, hload,
      ⟨_, _, body, hbody, hatb⟩, hr, hB, hword, hbchi⟩
    intro t ht
    show (clobberTemp (clobberTemp σ2)).get t = _
    rw [get_clobberTemp _ (by omega), get_clobberTemp _ (by omega), get_set_other _ _ (by omega),
      get_set_other _ _ (by omega)]

theorem sim2_switch {P : Program} {hooks : Bool} {prog : Prog} {Γ' : Ctx} {b : Binding}
    {ρ' : List Value} {pos : Nat} {fields : List Value} {x : Ident} {ty : Ty} {clauses : Clauses}
    {fv : FV} {cfg : Config} {c : Clause}
    (R : RelX P hooks prog ⟨Γ' ++ [b], ρ' ++ [.obj pos fields], .switch x ty clauses fv⟩ cfg)
    (hfits : Fits P)
    (hb : b.var.id = x.id) (hfresh : ∀ b' ∈ Γ', b'.var.id ≠ x.id)
    (hclause : nthClause clauses pos = some c)
    (hkinds : fields.map kindOf = Mock.kindsOf c.ctx)
    (hcap : 2 * (Γ'.length + c.ctx.length) + 2 < Mock.T_TEMP) :
    ∃ k cfg', stepsTo P k cfg cfg' ∧ cfg'.out = cfg.out ∧ cfg'.next = cfg.next ∧
      RelX P hooks prog ⟨Γ' ++ c.ctx, ρ' ++ fields, c.body⟩ cfg' := by
  obtain ⟨k4, cfg4, r, hsteps, hheap, hnext, hout, htemps, hload, hbody, hr, hB, _, hbchi⟩ :=
    switch_nav_abs R hfits hb hfresh hclause
  obtain ⟨cfg', hstep, hout', hnext', R'⟩ := load_enter (Γ'' := Γ') (s' := c.body) R rfl
    (by rw [hbchi]; decide) hr hB hkinds hcap hheap hnext hout htemps hload hbody
  exact ⟨k4 + 1, cfg', stepsTo_trans P k4 1 _ _ _ hsteps (stepsTo_one P _ _ hstep), hout', hnext', R'⟩

/-- the abstract machine from an `invoke` up to the `load` at the head of the selected method, for the code
address `a` and environment context `ec'` of a given witness `MethodsAt`; the backends' three-way simulations
run the concrete machine alongside up to this point -/
theorem invoke_nav_abs {P : Program} {hooks : Bool} {prog : AxCut.Prog} {Γa : Ctx} {b : Binding}
    {ρa : List Value} {v : Value} {clauses : Clauses} {x tag : Ident} {ty : Ty}
    {args : Ctx} {cfg : Config} {c : Clause} {pos a : Nat} {ec' : Ctx}
    (R : RelX P hooks prog ⟨Γa ++ [b], ρa ++ [v], .invoke x tag ty args⟩ cfg)
    (hfits : Fits P)
    (hb : b.var.id = x.id) (hfresh : ∀ b' ∈ Γa, b'.var.id ≠ x.id)
    (hpos : Pos.tagPosition prog.types ty tag = .ok pos)
    (hclause : nthClause clauses pos = some c)
    (hlenc : ∀ d, lookupTypeDecl prog.types ty = some d → clauses.length = d.xtors.length)
    (hlenA : Γa.length = c.ctx.length)
    (hword : cfg.temps.get (2 * Γa.length + 1) = some (BitVec.ofNat 64 a))
    (hmeth : MethodsAt P hooks prog.types a ec' clauses) :
    ∃ k4 cfg4, stepsTo P k4 cfg cfg4 ∧ cfg4.heap = cfg.heap ∧ cfg4.next = cfg.next ∧ cfg4.out = cfg.out ∧
      (∀ t, t < 2 * (Γa.length + 1) → cfg4.temps.get t = cfg.temps.get t) ∧
      P.code[cfg4.pc]? = some (.load (Mock.kindsOf ec') Γa.length) ∧
      ∃ c0 c0' ops, (codeStatementR mockSym hooks natRen prog.types c.body (c.ctx ++ ec')).run c0 = .ok (ops, c0') ∧
        CodeAt P (cfg4.pc + 1) ops := by
  obtain ⟨k0, k0', ops, hrun, hat⟩ := R.code
  obtain ⟨base, km, km', mcode, hmrun, hmat⟩ := hmeth
  simp only [CodeAt] at hmat
  obtain ⟨_, hmat⟩ := hmat
  have hcapR := R.cap
  simp only [List.length_append, List.length_singleton] at hcapR
  obtain ⟨d, hd, hx⟩ := tagPosition_ok hpos
  have hlc := hlenc d hd
  have hposlt := nthClause_lt clauses pos c hclause
  simp only [codeStatementR, run_bind_ok, run_pure_ok, mockSym_variableTemporary, vt_run_ok,
    lookupTypeDeclM_run_ok] at hrun
  obtain ⟨tt, k1, ⟨p, hp, rfl, rfl⟩, decl, k2, ⟨hd', rfl⟩, hrun⟩ := hrun
  rw [hd] at hd'; cases hd'
  have hp' : p = Γa.length := by
    rw [ctxPosition_eq_posOf] at hp
    have := posOf_append_fresh Γa b (fun b' hb' => by rw [hb]; exact hfresh b' hb')
    rw [hb] at this
    rw [this] at hp
    exact (Option.some.inj hp).symm
  subst hp'
  by_cases hle : d.xtors.length ≤ 1
  · -- a single method: jump to it directly
    have hpos0 : pos = 0 := by omega
    subst hpos0
    simp only [hle, if_true, run_pure_ok] at hrun
    obtain ⟨rfl, rfl⟩ := hrun
    simp only [mockSym_comment, mockSym_jump, List.append_assoc, CodeAt_hook] at hat
    simp only [List.cons_append, List.nil_append, CodeAt, TempNum.toNat] at hat
    obtain ⟨hjmp, _⟩ := hat
    have hgt : ¬ (clauses.length > 1) := by omega
    simp only [hgt, if_false, List.nil_append] at hmat
    obtain ⟨post0, kb0, kb0', body0, hc0, hbody0⟩ :=
      codeMethods_head hooks natRen prog.types _ clauses _ c _ _ _ hmrun hclause
    rw [hc0] at hmat
    obtain ⟨_, hload, hatb⟩ := clause_at hmat
    simp only [instrCount, Nat.add_zero] at hload hatb
    have ha : (BitVec.ofNat 64 a).toNat = a := by
      apply ofNat_toNat_lt
      have := code_lt_size hload
      unfold Fits at hfits
      omega
    let cfg1 : Config := { cfg with pc := a, temps := clobberTemp cfg.temps }
    have hs1 : Abs.step P cfg = .next cfg1 := by
      have := Scc.Backend.Sim2.step_jump P cfg _ _ hjmp hword
      rw [ha] at this
      exact this
    refine ⟨1, cfg1, stepsTo_one P _ _ hs1, rfl, rfl, rfl, ?_, by rw [hlenA]; exact hload, _, _, body0, hbody0, hatb⟩
    intro t ht
    show (clobberTemp cfg.temps).get t = _
    rw [get_clobberTemp _ (by omega)]
  · -- through the method table
    have hgt : clauses.length > 1 := by omega
    simp only [hle, if_false, run_bind_ok, run_pure_ok, xtorPositionM_run_ok] at hrun
    obtain ⟨pos', k3, ⟨hx', rfl⟩, rfl, rfl⟩ := hrun
    rw [hx] at hx'; cases hx'
    simp only [mockSym_addAndJump, mockSym_jumpLength, List.append_assoc, CodeAt_hook] at hat
    simp only [List.cons_append, List.nil_append, CodeAt, TempNum.toNat] at hat
    obtain ⟨hjmp, _⟩ := hat
    simp only [hgt, if_true] at hmat
    have htab := codeTable_nth P _ clauses pos c _ _ hclause hmat
    rw [CodeAt_append] at hmat
    obtain ⟨_, hmat3⟩ := hmat
    obtain ⟨pre, post, kb, kb', body, hc3, hbody⟩ :=
      codeMethods_nth hooks natRen prog.types _ clauses _ pos c _ _ _ hmrun hclause
    rw [hc3] at hmat3
    obtain ⟨hclab, hload, hatb⟩ := clause_at hmat3
    generalize a + instrCount (codeTable mockSym clauses base) + instrCount pre = ca at hclab hload hatb
    have haddr : (BitVec.ofNat 64 a + BitVec.ofInt 64 (pos : Int)).toNat = a + pos := by
      have e : BitVec.ofInt 64 (pos : Int) = BitVec.ofNat 64 pos := by simp
      rw [e]
      apply toNat_add_ofNat
      have := code_lt_size htab
      unfold Fits at hfits
      omega
    let cfg1 : Config := { cfg with pc := a + pos, temps := clobberTemp cfg.temps }
    have hs1 : Abs.step P cfg = .next cfg1 := by
      have := step_addJump P cfg _ _ _ hjmp hword
      rw [haddr] at this
      exact this
    let cfg2 : Config := { cfg1 with pc := ca, temps := clobberTemp (clobberTemp cfg.temps) }
    have hs2 : Abs.step P cfg1 = .next cfg2 := step_jumpFixed P cfg1 _ _ htab hclab
    refine ⟨2, cfg2, ⟨cfg1, hs1, stepsTo_one P _ _ hs2⟩, rfl, rfl, rfl, ?_, by rw [hlenA]; exact hload, _, _, body,
      hbody, hatb⟩
    intro t ht
    show (clobberTemp (clobberTemp cfg.temps)).get t = _
    rw [get_clobberTemp _ (by omega), get_clobberTemp _ (by omega)]

/-- `invoke` on a closure: the walk to the `load` of the selected method (`invoke_nav_abs`), then
    `load_enter`.  The method's code was generated, at the `create`, for the environment context `envCtx'`
    the representation records; it has the keys of `Γc` and possibly other names, hence the new state is
    related at `c.ctx ++ envCtx'`.  `hlenc` asks for one clause per destructor only where the type is
    declared (the code generator looks the declaration up to decide between a direct jump and the table). -/
theorem sim2_invoke {P : Program} {hooks : Bool} {prog : Prog} {Γa : Ctx} {b : Binding}
    {ρa : List Value} {Γc : Ctx} {ρc : List Value} {clauses : Clauses} {x tag : Ident} {ty : Ty}
    {args : Ctx} {cfg : Config} {c : Clause} {pos : Nat}
    (R : RelX P hooks prog ⟨Γa ++ [b], ρa ++ [.clo Γc ρc clauses], .invoke x tag ty args⟩ cfg)
    (hfits : Fits P)
    (hb : b.var.id = x.id) (hfresh : ∀ b' ∈ Γa, b'.var.id ≠ x.id)
    (hpos : Pos.tagPosition prog.types ty tag = .ok pos)
    (hclause : nthClause clauses pos = some c)
    (hlenc : ∀ d, lookupTypeDecl prog.types ty = some d → clauses.length = d.xtors.length)
    (hargs : Γa.map (·.chi) = c.ctx.map (·.chi))
    (hkinds : ρc.map kindOf = Mock.kindsOf Γc)
    (hcap : 2 * (c.ctx.length + Γc.length) + 2 < Mock.T_TEMP) :
    ∃ k cfg' envCtx', Ctx.keys envCtx' = Γc.keys ∧ stepsTo P k cfg cfg' ∧ cfg'.out = cfg.out ∧
      cfg'.next = cfg.next ∧ RelX P hooks prog ⟨c.ctx ++ envCtx', ρa ++ ρc, c.body⟩ cfg' := by
  have hlen : ρa.length = Γa.length := by have := R.len; simpa using this
  have hlenA : Γa.length = c.ctx.length := by simpa using congrArg List.length hargs
  have hn1 : Γa.length < (Γa ++ [b]).length := by simp
  have hn2 : Γa.length < (ρa ++ [Value.clo Γc ρc clauses]).length := by simp [hlen]
  obtain ⟨hrep, hsome, hkind, hptr⟩ := R.vals Γa.length hn1 hn2
  have g1 : (Γa ++ [b])[Γa.length] = b := by simp
  have g2 : (ρa ++ [Value.clo Γc ρc clauses])[Γa.length] = .clo Γc ρc clauses := by
    rw [List.getElem_append_right (by omega)]; simp [hlen]
  simp only [g1, g2] at hrep hkind hptr
  have hbchi : b.chi = .cns := hkind
  have hbne : b.chi ≠ .ext := by rw [hbchi]; decide
  have hbe : (b.chi == .ext) = false := (chi_beq_ext_false _).mpr hbne
  simp only [hbe, Bool.false_eq_true, if_false] at hrep
  obtain ⟨r, a, envCtx', hr, hB, hw, hkeys, hmeth⟩ := hrep.clo_inv
  have hword : cfg.temps.get (2 * Γa.length + 1) = some (BitVec.ofNat 64 a) := by
    cases hg : cfg.temps.get (2 * Γa.length + 1) with
    | none => simp [hg] at hsome
    | some w => simp only [hg, Option.getD_some] at hw; rw [hw]
  have hkenv : Mock.kindsOf envCtx' = Mock.kindsOf Γc := Keys.keys_chi hkeys
  have hlenv : envCtx'.length = Γc.length := Total.keys_length hkeys
  have hkinds' : ρc.map kindOf = Mock.kindsOf envCtx' := by rw [hkenv]; exact hkinds
  have hcap' : 2 * (Γa.length + envCtx'.length) + 2 < Mock.T_TEMP := by rw [hlenA, hlenv]; exact hcap
  obtain ⟨k4, cfg4, hsteps, hheap, hnext, hout, htemps, hload, hbody⟩ :=
    invoke_nav_abs R hfits hb hfresh hpos hclause hlenc hlenA hword hmeth
  obtain ⟨cfg', hstep, hout', hnext', R'⟩ := load_enter (Γ'' := c.ctx) (Δ := envCtx') (s' := c.body)
    R hargs hbne hr hB hkinds' hcap' hheap hnext hout htemps hload hbody
  exact ⟨k4 + 1, cfg', envCtx', hkeys, stepsTo_trans P k4 1 _ _ _ hsteps (stepsTo_one P _ _ hstep), hout',
    hnext', R'⟩

end Scc.Backend.Sim2
