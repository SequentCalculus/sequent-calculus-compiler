/-
  Scc.Backend.ThreeWayInt — the three-way simulation of the statements on integers (`lit`, `op`, `print`, `ifc`)
  and of `call` (`XDefsAt`: the code of every definition stands in the routine behind its label), once for every
  machine: Theorem A's `sim2_lit` … `sim2_call` with the machine carried along.
-/
import Scc.Backend.ThreeWayStep

namespace Scc.Backend.ThreeWay

open Scc.AxCut Scc.AxCut.Pos Scc.Backend.Abs Scc.Backend.Sim Scc.Backend.Sim2
open Scc.Backend.NamesC (MM mm_append mm_ofList)
open Scc.Heap (HState)
open Scc.Heap.Refine (HRef FrLe)

section
variable {Code Tm : Type} {B : Backend Code Tm}

section
variable {T : Target B}
variable {Γ : Ctx} {cfg : Config} {rs : List Nat} {hs : HState} {ι : Nat → Nat} {κ : Nat → Nat → Word}

/-- the word part of a NEW last position is written (its pointer part, if it has one, is in place); for a
closure the machine word is arbitrary -/
theorem X3R.snoc {Γ0 : Ctx} {b : Binding} {cfg1 cfg2 : Config} {st1 st2 : T.S}
    (X : X3R T Γ0 cfg1 rs hs ι κ st1) (hcap : 2 * Γ0.length + 1 < T.ntemps) (B2 : T.Bnd st2)
    (K : Keep T st1 st2 (· = 2 * Γ0.length + 1))
    {a v : Word} (hv : T.tv st2 (2 * Γ0.length + 1) = some v) (hvv : b.chi ≠ .cns → v = trW T.stride b.chi a)
    (htemps : cfg2.temps = (clobberTemp cfg1.temps).set (2 * Γ0.length + 1) a)
    (hheap : cfg2.heap = cfg1.heap) (hnext : cfg2.next = cfg1.next) (hout : cfg2.out = cfg1.out)
    (hptr : b.chi ≠ .ext → ∀ r, cfg1.temps.get (2 * Γ0.length) = some r →
      T.tv st1 (2 * Γ0.length) = some (imgWord ι r)) :
    X3R T (Γ0 ++ [b]) cfg2 rs hs ι κ st2 := by
  have hN := T.ntemps_le
  have hget : ∀ t, t ≠ 2 * Γ0.length + 1 → t < T.ntemps → cfg2.temps.get t = cfg1.temps.get t := by
    intro t hne ht
    rw [htemps, get_set_other _ _ hne, get_clobberTemp _ (by unfold Mock.T_TEMP; omega)]
  refine ⟨B2, by simp; omega, ?_, ?_, by rw [hout]; exact K.out _ X.out, K.hrel _ X.hrel, ?_⟩
  · intro i hi a' ha'
    simp only [List.length_append, List.length_cons, List.length_nil] at hi
    by_cases hin : i < Γ0.length
    · rw [hget _ (by omega) (by omega)] at ha'
      rw [K.tv _ (by omega) (by omega), List.getElem_append_left hin]
      exact X.words i hin a' ha'
    · have hie : i = Γ0.length := by omega
      subst hie
      rw [htemps, get_set_same] at ha'
      injection ha' with ha'
      subst ha'
      have hb : (Γ0 ++ [b])[Γ0.length] = b := by simp
      rw [hb]
      exact words_of hv hvv
  · intro i hi hc r hr
    simp only [List.length_append, List.length_cons, List.length_nil] at hi
    by_cases hin : i < Γ0.length
    · rw [hget _ (by omega) (by omega)] at hr
      rw [K.tv _ (by omega) (by omega)]
      rw [List.getElem_append_left hin] at hc
      exact X.ptrs i hin hc r hr
    · have hie : i = Γ0.length := by omega
      subst hie
      have hc' : b.chi ≠ .ext := by simpa using hc
      rw [hget _ (by omega) (by omega)] at hr
      rw [K.tv _ (by omega) (by omega)]
      exact hptr hc' r hr
  · rw [hheap, hnext]
    exact X.href

/-- the relation does not look at the abstract program counter, `TEMP`, or temporaries beyond the context -/
theorem X3.absCongr {cfg' : Config} {st : T.S} (X : X3 T Γ cfg hs ι κ st)
    (ht : ∀ t, t < 2 * Γ.length → cfg'.temps.get t = cfg.temps.get t)
    (hh : cfg'.heap = cfg.heap) (hn : cfg'.next = cfg.next) (ho : cfg'.out = cfg.out) :
    X3 T Γ cfg' hs ι κ st := by
  refine ⟨X.bnd, X.cap, ?_, ?_, by rw [ho]; exact X.out, X.hrel, ?_⟩
  · intro i hi a ha
    rw [ht _ (by omega)] at ha
    exact X.words i hi a ha
  · intro i hi hc r hr
    rw [ht _ (by omega)] at hr
    exact X.ptrs i hi hc r hr
  · rw [hh, hn, roots_congr _ _ _ (fun i hi => ht (2 * i) (by omega))]
    exact X.href

theorem X3.jump {cfg' : Config} {st : T.S} (X : X3 T Γ cfg hs ι κ st) (J : JumpFacts cfg cfg') :
    X3 T Γ cfg' hs ι κ st :=
  X.absCongr (fun t ht => by
    rw [J.temps, get_clobberTemp _ (by unfold Mock.T_TEMP; have := X.cap; have := T.ntemps_le; omega)])
    J.heap J.next J.out

/-- the relation depends on the context only through its kinds -/
theorem X3.ctxCongr {Δ : Ctx} {st : T.S} (X : X3 T Γ cfg hs ι κ st) (hc : Γ.map (·.chi) = Δ.map (·.chi)) :
    X3 T Δ cfg hs ι κ st := by
  have hlen : Γ.length = Δ.length := by simpa using congrArg List.length hc
  have hchi : ∀ i (h1 : i < Γ.length) (h2 : i < Δ.length), Δ[i].chi = Γ[i].chi := by
    intro i h1 h2
    have := congrArg (fun l => l[i]?) hc
    simp only [List.getElem?_map, List.getElem?_eq_getElem h1, List.getElem?_eq_getElem h2,
      Option.map_some, Option.some.injEq] at this
    exact this.symm
  refine ⟨X.bnd, by rw [← hlen]; exact X.cap, ?_, ?_, X.out, X.hrel, ?_⟩
  · intro i hi a ha
    rw [hchi i (by omega) hi]
    exact X.words i (by omega) a ha
  · intro i hi hcx r hr
    exact X.ptrs i (by omega) (by rw [← hchi i (by omega) hi]; exact hcx) r hr
  · have : roots Δ cfg.temps = roots Γ cfg.temps := by
      unfold roots
      exact (roots_go_chi _ Γ Δ 0 hc).symm
    rw [this]
    exact X.href

end

/-- an integer variable read by the positional machine: its position, its word, its kind -/
theorem readInt_facts {P : Abs.Program} {hooks : Bool} {prog : AxCut.Prog} {Γ : Ctx} {ρ : List Value} {s : Stmt}
    {cfg : Config} (R : RelX P hooks prog ⟨Γ, ρ, s⟩ cfg) {y : Ident} {w : Word} (hy : readInt Γ ρ y = .ok w) :
    ∃ i, Pos.posOf Γ y.id = some i ∧ ∃ hi : i < Γ.length, cfg.temps.get (2 * i + 1) = some w ∧
      Γ[i].chi = .ext := by
  obtain ⟨i, hi, hl, hg⟩ := R.readInt hy
  simp only at hi hl
  rw [ctxPosition_eq_posOf] at hi
  refine ⟨i, hi, hl, hg, ?_⟩
  have := (R.vals i hl (by show _ < ρ.length; have hlen : ρ.length = Γ.length := R.len; omega)).2.2.1
  simp only at this
  obtain ⟨_, hpo, hval⟩ := readInt_ok hy
  rw [hi] at hpo
  cases hpo
  rw [List.getElem?_eq_getElem (by show _ < ρ.length; have hlen : ρ.length = Γ.length := R.len; omega)] at hval
  injection hval with hval
  rw [this, hval]; rfl

/-- the second temporary of every position of the context is defined on the machine -/
theorem X3R.mach_def {T : Target B} {P : Program} {hooks : Bool} {prog : AxCut.Prog} {Γ : Ctx} {ρ : List Value}
    {s : Stmt} {cfg : Config} {rs : List Nat} {hs : HState} {ι : Nat → Nat} {κ : Nat → Nat → Word} {st : T.S}
    (X : X3R T Γ cfg rs hs ι κ st) (R : RelX P hooks prog ⟨Γ, ρ, s⟩ cfg) :
    ∀ i, i < Γ.length → (T.tv st (2 * i + 1)).isSome := by
  intro i hi
  have h2 : i < ρ.length := by have := R.len; simp only at this; omega
  obtain ⟨_, hsome, _, _⟩ := R.vals i hi h2
  obtain ⟨a, ha⟩ := Option.isSome_iff_exists.mp hsome
  rw [X.words i hi a ha]
  rfl

variable (M : Machine B)

/-- `lit` on the three machines: `sim2_lit`, and the machine loads the literal (`M.loadImm`) into the word part of
the new position; the other positions and the heap are untouched (`Prov.KeepPos`) -/
theorem lit_x3 {P : Program} {hooks : Bool} {prog : AxCut.Prog} {Γ : Ctx} {ρ : List Value} {x : Ident}
    {n : Int} {next : Stmt} {fv : FV} {cfg : Config}
    (R : RelX P hooks prog ⟨Γ, ρ, .lit x n next fv⟩ cfg)
    (hfresh : ∀ b ∈ Γ, b.var.id ≠ x.id) (hcap : 2 * (Γ.length + 1) + 2 < Mock.T_TEMP)
    {hs : HState} {ι : Nat → Nat} {κ : Nat → Nat → Word} {st : M.S} {kp : Nat}
    (X : X3 M.toTarget Γ cfg hs ι κ st)
    {kx kx' : Nat} {items : List Code}
    (hrunX : (codeStatementR B hooks natRen prog.types (.lit x n next fv) Γ).run kx = .ok (items, kx'))
    (hatX : XAt M.cs kp items) (hpc : M.pcAt st kp) (hfit : M.immOK n) :
    ∃ cfg' st' kp', stepsTo P 1 cfg cfg' ∧ M.RunH kp st kp' st' ∧ M.pcAt st' kp' ∧
      cfg'.out = cfg.out ∧ cfg'.next = cfg.next ∧
      RelX P hooks prog ⟨Γ ++ [⟨x, .ext, .i64⟩], ρ ++ [.int (BitVec.ofInt 64 n)], next⟩ cfg' ∧
      X3 M.toTarget (Γ ++ [⟨x, .ext, .i64⟩]) cfg' hs ι κ st' ∧
      ∃ k1 k1' items', (codeStatementR B hooks natRen prog.types next
          (Γ ++ [⟨x, .ext, .i64⟩])).run k1 = .ok (items', k1') ∧ XAt M.cs kp' items' ∧
        cfg'.heap = cfg.heap ∧ Prov.KeepPos (M.tv st) (M.tv st') Γ.length cfg cfg' := by
  obtain ⟨cfg', hst, hout, hnext, R'⟩ := sim2_lit R hfresh hcap
  -- the mock code, the abstract step explicitly
  obtain ⟨c, c', ops, hrun, hat⟩ := R.code
  simp only [codeStatementR, run_bind_ok, run_pure_ok, mockSym_variableTemporary, vt_run_ok] at hrun
  obtain ⟨t, k1, ⟨pos, hpos, rfl, rfl⟩, c2, k2, h2, rfl, rfl⟩ := hrun
  have hp : pos = Γ.length := by
    rw [ctxPosition_eq_posOf] at hpos
    have := posOf_append_fresh Γ ⟨x, .ext, .i64⟩ hfresh
    rw [this] at hpos
    exact (Option.some.inj hpos).symm
  subst hp
  simp only [mockSym_loadImmediate, mockSym_comment, List.append_assoc, CodeAt_hook] at hat
  simp only [List.cons_append, List.nil_append, CodeAt, TempNum.toNat] at hat
  obtain ⟨hcode, _⟩ := hat
  have hB := step_li P cfg _ n hcode (by unfold Mock.T_TEMP at hcap ⊢; omega)
  rw [stepsTo_one_inv hst] at hB
  injection hB with hB
  simp only [codeStatementR, run_bind_ok, run_pure_ok] at hrunX
  obtain ⟨tX, _, htX, c2X, k2X, h2X, rfl, rfl⟩ := hrunX
  obtain ⟨pX, hpX, hltX, rfl, rfl⟩ := M.vt htX
  have hpX' : pX = Γ.length := by
    have := posOf_append_fresh Γ ⟨x, .ext, .i64⟩ hfresh
    rw [this] at hpX
    exact (Option.some.inj hpX).symm
  subst hpX'
  simp only [TempNum.toNat] at hltX hatX
  have hatA : XAt M.cs kp ((hookCode B hooks Γ ++
      [B.comment ("lit " ++ x.print ++ " <- " ++ toString n ++ ";")]) ++
      (B.loadImmediate (M.posT (2 * Γ.length + 1)) n ++ c2X)) := by
    simpa [List.append_assoc] using hatX
  obtain ⟨st0, hr0, hpc0, B0, K0, _⟩ := M.run_c0 hatA.left hpc (M.commentOK_of_mm (by
    simp only [String.append_assoc]; exact mm_append (mm_ofList (by decide)))) X.bnd
  have X0 : X3 M.toTarget Γ cfg hs ι κ st0 := X3R.keep X B0 K0
  obtain ⟨st2, hr2, hpc2, B2, hv2, K2⟩ := M.loadImm hatA.right.left hpc0 B0 hltX hfit
  have hN := M.ntemps_le
  have htk : ∀ t, t < 2 * Γ.length → cfg'.temps.get t = cfg.temps.get t := fun t ht => by
    rw [hB]; simp only
    rw [get_set_other _ _ (by omega), get_clobberTemp _ (by unfold Mock.T_TEMP; omega)]
  have X2 : X3R M.toTarget (Γ ++ [⟨x, .ext, .i64⟩]) cfg' (roots Γ cfg.temps) hs ι κ st2 :=
    X3R.snoc X0 hltX B2 K2 (a := BitVec.ofInt 64 n) hv2 (fun _ => rfl) (by rw [hB]) (by rw [hB])
      (by rw [hB]) (by rw [hB]) (fun h => absurd rfl h)
  refine ⟨cfg', st2, _, hst, M.runH_trans hr0 hr2, hpc2, hout, hnext, R', ?_, _, _, c2X, h2X,
    hatA.right.right, by rw [hB], ⟨htk, fun i hi => by
      show M.tv st2 _ = M.tv st _
      rw [K2.tv _ (by omega) (by omega), K0.tv _ (by omega) id]⟩⟩
  show X3R M.toTarget _ cfg' (roots _ cfg'.temps) hs ι κ _
  rw [roots_snoc_ext cfg.temps cfg'.temps Γ _ rfl htk]
  exact X2

/-- `op` on the three machines: `sim2_op`, and the machine computes the result (`M.binop`) into the word part of the
new position.  The statement comment starts with the name `x` of the program; that it is no hook of the heap
monitor is therefore a hypothesis (`hcm`; `HeadOK`, Scc/Backend/ThreeWayRun.lean) -/
theorem op_x3 {P : Program} {hooks : Bool} {prog : AxCut.Prog} {Γ : Ctx} {ρ : List Value} {x a b : Ident}
    {o : BinOp} {next : Stmt} {fv : FV} {cfg : Config} {va vb v : Word}
    (R : RelX P hooks prog ⟨Γ, ρ, .op x a o b next fv⟩ cfg)
    (hfresh : ∀ b' ∈ Γ, b'.var.id ≠ x.id) (hcap : 2 * (Γ.length + 1) + 2 < Mock.T_TEMP)
    (ha : readInt Γ ρ a = .ok va) (hb : readInt Γ ρ b = .ok vb) (hv : Pos.evalOp o va vb = .ok v)
    {hs : HState} {ι : Nat → Nat} {κ : Nat → Nat → Word} {st : M.S} {kp : Nat}
    (X : X3 M.toTarget Γ cfg hs ι κ st)
    {kx kx' : Nat} {items : List Code}
    (hrunX : (codeStatementR B hooks natRen prog.types (.op x a o b next fv) Γ).run kx = .ok (items, kx'))
    (hatX : XAt M.cs kp items) (hpc : M.pcAt st kp)
    (hcm : M.CommentOK (x.print ++ " <- " ++ a.print ++ " " ++ o.sym ++ " " ++ b.print ++ ";")) :
    ∃ cfg' st' kp', stepsTo P 1 cfg cfg' ∧ M.RunH kp st kp' st' ∧ M.pcAt st' kp' ∧
      cfg'.out = cfg.out ∧ cfg'.next = cfg.next ∧
      RelX P hooks prog ⟨Γ ++ [⟨x, .ext, .i64⟩], ρ ++ [.int v], next⟩ cfg' ∧
      X3 M.toTarget (Γ ++ [⟨x, .ext, .i64⟩]) cfg' hs ι κ st' ∧
      ∃ k1 k1' items', (codeStatementR B hooks natRen prog.types next
          (Γ ++ [⟨x, .ext, .i64⟩])).run k1 = .ok (items', k1') ∧ XAt M.cs kp' items' ∧
        cfg'.heap = cfg.heap ∧ Prov.KeepPos (M.tv st) (M.tv st') Γ.length cfg cfg' := by
  obtain ⟨cfg', hst, hout, hnext, R'⟩ := sim2_op R hfresh hcap ha hb hv
  obtain ⟨c, c', ops, hrun, hat⟩ := R.code
  simp only [codeStatementR, run_bind_ok, run_pure_ok, mockSym_variableTemporary, vt_run_ok] at hrun
  obtain ⟨t, k1, ⟨pos, hpos, rfl, rfl⟩, s1, k2, ⟨p1, hp1, rfl, rfl⟩, s2, k3, ⟨p2, hp2, rfl, rfl⟩,
    c2, k4, h2, rfl, rfl⟩ := hrun
  have hp : pos = Γ.length := by
    rw [ctxPosition_eq_posOf] at hpos
    have := posOf_append_fresh Γ ⟨x, .ext, .i64⟩ hfresh
    rw [this] at hpos
    exact (Option.some.inj hpos).symm
  subst hp
  obtain ⟨i1, hi1, hl1, hg1⟩ := R.readInt ha
  obtain ⟨i2, hi2, hl2, hg2⟩ := R.readInt hb
  simp only at hi1 hi2 hl1 hl2
  have e1 : p1 = i1 := by
    rw [ctxPosition_eq_posOf] at hp1 hi1
    have := posOf_append_old [⟨x, .ext, .i64⟩] hi1
    rw [this] at hp1; exact (Option.some.inj hp1).symm
  have e2 : p2 = i2 := by
    rw [ctxPosition_eq_posOf] at hp2 hi2
    have := posOf_append_old [⟨x, .ext, .i64⟩] hi2
    rw [this] at hp2; exact (Option.some.inj hp2).symm
  subst e1 e2
  simp only [mockSym_binop, mockSym_comment, List.append_assoc, CodeAt_hook] at hat
  simp only [List.cons_append, List.nil_append, CodeAt, TempNum.toNat] at hat
  obtain ⟨hcode, _⟩ := hat
  have hB := step_binop P cfg o _ _ _ va vb v hcode (by unfold Mock.T_TEMP at hcap ⊢; omega) hg1 hg2
    (evalBinOp_of_evalOp hv)
  rw [stepsTo_one_inv hst] at hB
  injection hB with hB
  have hchi1 : Γ[p1].chi = .ext := by
    obtain ⟨i, hi', _, _, hc⟩ := readInt_facts R ha
    rw [ctxPosition_eq_posOf] at hi1
    cases hi'.symm.trans hi1
    exact hc
  have hchi2 : Γ[p2].chi = .ext := by
    obtain ⟨i, hi', _, _, hc⟩ := readInt_facts R hb
    rw [ctxPosition_eq_posOf] at hi2
    cases hi'.symm.trans hi2
    exact hc
  simp only [codeStatementR, run_bind_ok, run_pure_ok] at hrunX
  obtain ⟨tX, _, htX, s1X, _, hs1X, s2X, _, hs2X, c2X, k2X, h2X, rfl, rfl⟩ := hrunX
  obtain ⟨pX, hpX, hltX, rfl, rfl⟩ := M.vt htX
  obtain ⟨q1, hq1, hlt1, rfl, rfl⟩ := M.vt hs1X
  obtain ⟨q2, hq2, hlt2, rfl, rfl⟩ := M.vt hs2X
  have hpX' : pX = Γ.length := by
    have := posOf_append_fresh Γ ⟨x, .ext, .i64⟩ hfresh
    rw [this] at hpX
    exact (Option.some.inj hpX).symm
  subst hpX'
  have eq1 : q1 = p1 := by
    rw [ctxPosition_eq_posOf] at hi1
    have := posOf_append_old [⟨x, .ext, .i64⟩] hi1
    rw [this] at hq1; exact (Option.some.inj hq1).symm
  have eq2 : q2 = p2 := by
    rw [ctxPosition_eq_posOf] at hi2
    have := posOf_append_old [⟨x, .ext, .i64⟩] hi2
    rw [this] at hq2; exact (Option.some.inj hq2).symm
  subst eq1 eq2
  simp only [TempNum.toNat] at hltX hlt1 hlt2 hatX
  have hatA : XAt M.cs kp ((hookCode B hooks Γ ++
      [B.comment (x.print ++ " <- " ++ a.print ++ " " ++ o.sym ++ " " ++ b.print ++ ";")]) ++
      (B.binop o (M.posT (2 * Γ.length + 1)) (M.posT (2 * q1 + 1)) (M.posT (2 * q2 + 1)) ++ c2X)) := by
    simpa [List.append_assoc] using hatX
  obtain ⟨st0, hr0, hpc0, B0, K0, _⟩ := M.run_c0 hatA.left hpc hcm X.bnd
  have X0 : X3 M.toTarget Γ cfg hs ι κ st0 := X3R.keep X B0 K0
  have hw1 := X0.words q1 hl1 va hg1
  have hw2 := X0.words q2 hl2 vb hg2
  rw [hchi1] at hw1
  rw [hchi2] at hw2
  obtain ⟨st2, hr2, hpc2, B2, hv2, K2⟩ := M.binop hatA.right.left hpc0 B0 hltX hl1 hl2 hw1 hw2 hv
  have hN := M.ntemps_le
  have htk : ∀ t, t < 2 * Γ.length → cfg'.temps.get t = cfg.temps.get t := fun t ht => by
    rw [hB]; simp only
    rw [get_set_other _ _ (by omega), get_clobberTemp _ (by unfold Mock.T_TEMP; omega)]
  have X2 : X3R M.toTarget (Γ ++ [⟨x, .ext, .i64⟩]) cfg' (roots Γ cfg.temps) hs ι κ st2 :=
    X3R.snoc X0 hltX B2 K2 (a := v) hv2 (fun _ => rfl) (by rw [hB]) (by rw [hB])
      (by rw [hB]) (by rw [hB]) (fun h => absurd rfl h)
  refine ⟨cfg', st2, _, hst, M.runH_trans hr0 hr2, hpc2, hout, hnext, R', ?_, _, _, c2X, h2X,
    hatA.right.right, by rw [hB], ⟨htk, fun i hi => by
      show M.tv st2 _ = M.tv st _
      rw [K2.tv _ (by omega) (by omega), K0.tv _ (by omega) id]⟩⟩
  show X3R M.toTarget _ cfg' (roots _ cfg'.temps) hs ι κ _
  rw [roots_snoc_ext cfg.temps cfg'.temps Γ _ rfl htk]
  exact X2

/-- `print` on the three machines: `sim2_print`, and the machine calls the print runtime (`M.print`), which appends
the value to the trace and keeps the positions of `Γ` -/
theorem print_x3 {P : Program} {hooks : Bool} {prog : AxCut.Prog} {Γ : Ctx} {ρ : List Value} {a : Ident}
    {nl : Bool} {next : Stmt} {fv : FV} {cfg : Config} {v : Word}
    (R : RelX P hooks prog ⟨Γ, ρ, .print nl a next fv⟩ cfg) (ha : readInt Γ ρ a = .ok v)
    {hs : HState} {ι : Nat → Nat} {κ : Nat → Nat → Word} {st : M.S} {kp : Nat}
    (X : X3 M.toTarget Γ cfg hs ι κ st)
    {kx kx' : Nat} {items : List Code}
    (hrunX : (codeStatementR B hooks natRen prog.types (.print nl a next fv) Γ).run kx = .ok (items, kx'))
    (hatX : XAt M.cs kp items) (hpc : M.pcAt st kp) :
    ∃ cfg' st' kp', stepsTo P 1 cfg cfg' ∧ M.RunH kp st kp' st' ∧ M.pcAt st' kp' ∧
      cfg'.out = (nl, v) :: cfg.out ∧ cfg'.next = cfg.next ∧
      RelX P hooks prog ⟨Γ, ρ, next⟩ cfg' ∧ X3 M.toTarget Γ cfg' hs ι κ st' ∧
      ∃ k1 k1' items', (codeStatementR B hooks natRen prog.types next Γ).run k1 = .ok (items', k1') ∧
        XAt M.cs kp' items' ∧ cfg'.heap = cfg.heap ∧ Prov.KeepPos (M.tv st) (M.tv st') Γ.length cfg cfg' := by
  obtain ⟨cfg', hst, hout, hnext, R'⟩ := sim2_print R ha
  obtain ⟨c, c', ops, hrun, hat⟩ := R.code
  simp only [codeStatementR, run_bind_ok, run_pure_ok, mockSym_variableTemporary, vt_run_ok,
    mockSym_printI64] at hrun
  obtain ⟨t, k1, ⟨pos, hpos, rfl, rfl⟩, c1, k2, ⟨rfl, rfl⟩, c2, k3, h2, rfl, rfl⟩ := hrun
  obtain ⟨i, hi, hl, hg⟩ := R.readInt ha
  simp only at hi hl
  rw [hi] at hpos
  cases hpos
  simp only [mockSym_comment, List.append_assoc, CodeAt_hook] at hat
  simp only [List.cons_append, List.nil_append, CodeAt, TempNum.toNat] at hat
  obtain ⟨hcode, _⟩ := hat
  have hB := step_print P cfg nl _ _ v hcode hg
  rw [stepsTo_one_inv hst] at hB
  injection hB with hB
  have hchi : Γ[pos].chi = .ext := by
    obtain ⟨i, hi', _, _, hc⟩ := readInt_facts R ha
    rw [ctxPosition_eq_posOf] at hi
    cases hi'.symm.trans hi
    exact hc
  simp only [codeStatementR, run_bind_ok, run_pure_ok] at hrunX
  obtain ⟨tX, _, htX, c1X, _, hc1X, c2X, k2X, h2X, rfl, rfl⟩ := hrunX
  obtain ⟨pX, hpX, hltX, rfl, rfl⟩ := M.vt htX
  have hpX' : pX = pos := by
    rw [ctxPosition_eq_posOf] at hi
    rw [hi] at hpX; exact (Option.some.inj hpX).symm
  subst hpX'
  simp only [TempNum.toNat] at hltX hc1X
  have hatA : XAt M.cs kp ((hookCode B hooks Γ ++
      [B.comment ((if nl then "println_i64" else "print_i64") ++ " " ++ a.print ++ ";")]) ++ (c1X ++ c2X)) := by
    simpa [List.append_assoc] using hatX
  obtain ⟨st0, hr0, hpc0, B0, K0, _⟩ := M.run_c0 hatA.left hpc (M.commentOK_of_mm (by
    cases nl <;> simp only [String.append_assoc, if_true, Bool.false_eq_true, if_false] <;>
      exact mm_append (mm_ofList (by decide)))) X.bnd
  have X0 : X3 M.toTarget Γ cfg hs ι κ st0 := X3R.keep X B0 K0
  have hw := X0.words pX hl v hg
  rw [hchi] at hw
  obtain ⟨_, st2, hr2, hpc2, B2, hkeepW, hkeepP, hout2, hrel2⟩ :=
    M.print hc1X hatA.right.left hpc0 B0 hl X0.cap hw
  have hσ : ∀ t, t < 2 * Γ.length → cfg'.temps.get t = cfg.temps.get t := by
    intro t ht'
    rw [hB]
    simp only
    rw [get_keepPositions]
    simp [Mock.kindsOf, ht']
  have hcapX := X.cap
  refine ⟨cfg', st2, _, hst, M.runH_trans hr0 hr2, hpc2, hout, hnext, R', ?_, _, _, c2X, h2X, hatA.right.right,
    by rw [hB], ⟨hσ, fun i hi => by
      show M.tv st2 _ = M.tv st _
      rw [hkeepW i hi, K0.tv _ (by omega) id]⟩⟩
  refine ⟨B2, X0.cap, ?_, ?_, ?_, hrel2 _ X0.hrel, ?_⟩
  · intro j hj a' ha'
    rw [hσ _ (by omega)] at ha'
    rw [hkeepW j hj]
    exact X0.words j hj a' ha'
  · intro j hj hc r hr
    rw [hσ _ (by omega)] at hr
    rw [hkeepP j hj hc]
    exact X0.ptrs j hj hc r hr
  · rw [hout]
    exact hout2 _ X0.out
  · have e1 : cfg'.heap = cfg.heap := by rw [hB]
    have e2' : cfg'.next = cfg.next := by rw [hB]
    rw [e1, e2', roots_congr _ _ _ (fun i hi => hσ (2 * i) (by omega))]
    exact X0.href

/-- `ifc` on the three machines: `sim2_ifc`, and the machine compares (`M.jumpIf` / `M.jumpIfZero`) and falls into
the else branch or jumps over it to the fresh label of the then branch; no position changes -/
theorem ifc_x3 {P : Program} {hooks : Bool} {prog : AxCut.Prog} {Γ : Ctx} {ρ : List Value} {a : Ident}
    {b : Option Ident} {srt : IfSort} {t e : Stmt} {cfg : Config} {va vb : Word}
    (R : RelX P hooks prog ⟨Γ, ρ, .ifc srt a b t e⟩ cfg) (ha : readInt Γ ρ a = .ok va)
    (hb : match b with | none => vb = 0 | some b' => readInt Γ ρ b' = .ok vb)
    {hs : HState} {ι : Nat → Nat} {κ : Nat → Nat → Word} {st : M.S} {kp : Nat}
    (X : X3 M.toTarget Γ cfg hs ι κ st)
    {kx kx' : Nat} {items : List Code}
    (hrunX : (codeStatementR B hooks natRen prog.types (.ifc srt a b t e) Γ).run kx = .ok (items, kx'))
    (hatX : XAt M.cs kp items) (hpc : M.pcAt st kp) :
    ∃ cfg' st' kp', stepsTo P 1 cfg cfg' ∧ M.RunH kp st kp' st' ∧ M.pcAt st' kp' ∧
      cfg'.out = cfg.out ∧ cfg'.next = cfg.next ∧
      RelX P hooks prog ⟨Γ, ρ, if Pos.evalCmp srt va vb then t else e⟩ cfg' ∧ X3 M.toTarget Γ cfg' hs ι κ st' ∧
      ∃ k1 k1' items', (codeStatementR B hooks natRen prog.types
          (if Pos.evalCmp srt va vb then t else e) Γ).run k1 = .ok (items', k1') ∧ XAt M.cs kp' items' ∧
        cfg'.heap = cfg.heap ∧ Prov.KeepPos (M.tv st) (M.tv st') Γ.length cfg cfg' := by
  obtain ⟨cfg', hst, hout, hnext, R'⟩ := sim2_ifc R ha hb
  have hstep := stepsTo_one_inv hst
  -- the abstract step changes only the program counter and TEMP
  have J : JumpFacts cfg cfg' := by
    obtain ⟨c, c', ops, hrun, hat⟩ := R.code
    simp only [codeStatementR, run_bind_ok, run_pure_ok, freshLabelStr_run_ok] at hrun
    obtain ⟨num, k1, ⟨rfl, rfl⟩, c1, k2, h1, c2, k3, h2, c3, k4, h3, rfl, rfl⟩ := hrun
    simp only [mockSym_comment, mockSym_label, List.append_assoc, CodeAt_hook] at hat
    simp only [List.cons_append, List.nil_append, CodeAt] at hat
    rw [CodeAt_append] at hat
    obtain ⟨hat1, _⟩ := hat
    cases b with
    | none =>
      simp only [run_bind_ok, run_pure_ok, mockSym_variableTemporary, vt_run_ok] at h1
      obtain ⟨ta, k5, ⟨p, hp, rfl, rfl⟩, rfl, rfl⟩ := h1
      simp only [mockSym_jumpLabelIfZero, CodeAt] at hat1
      exact step_jifz_facts hat1.1 hstep
    | some b' =>
      simp only [run_bind_ok, run_pure_ok, mockSym_variableTemporary, vt_run_ok] at h1
      obtain ⟨ta, k5, ⟨p, hp, rfl, rfl⟩, tb, k6, ⟨q, hq, rfl, rfl⟩, rfl, rfl⟩ := h1
      simp only [mockSym_jumpLabelIf, CodeAt] at hat1
      exact step_jif_facts hat1.1 hstep
  -- the machine code: comments, the conditional jump, the else branch, the label, the then branch
  simp only [codeStatementR, run_bind_ok, run_pure_ok, freshLabelStr_run_ok] at hrunX
  obtain ⟨num, _, ⟨rfl, rfl⟩, c1X, k2X, h1X, c2X, k3X, h2X, c3X, k4X, h3X, rfl, rfl⟩ := hrunX
  generalize hlbl : "lab" ++ natRen (kx + 1) = lbl at *
  have hatA : XAt M.cs kp ((hookCode B hooks Γ ++ [B.comment (ifcComment srt a b)]) ++ (c1X ++
      (B.comment "else branch" :: (c2X ++ (B.label lbl :: B.comment "then branch" :: c3X))))) := by
    simpa [List.append_assoc] using hatX
  obtain ⟨st0, hr0, hpc0, B0, K0, _⟩ := M.run_c0 hatA.left hpc (M.commentOK_of_mm (by
    unfold ifcComment; simp only [String.append_assoc]; exact mm_append (mm_ofList (by decide)))) X.bnd
  have X0 : X3 M.toTarget Γ cfg hs ι κ st0 := X3R.keep X B0 K0
  have hatB := hatA.right
  have hatE := hatB.right
  have hatL := hatE.tail.right
  have hcmp : ∃ st1, M.RunS (kp + (hookCode B hooks Γ ++ [B.comment (ifcComment srt a b)]).length) st0
        (if Pos.evalCmp srt va vb then
          kp + (hookCode B hooks Γ ++ [B.comment (ifcComment srt a b)]).length + c1X.length + 1 + c2X.length
         else kp + (hookCode B hooks Γ ++ [B.comment (ifcComment srt a b)]).length + c1X.length) st1 ∧
      M.pcAt st1 (if Pos.evalCmp srt va vb then
          kp + (hookCode B hooks Γ ++ [B.comment (ifcComment srt a b)]).length + c1X.length + 1 + c2X.length
         else kp + (hookCode B hooks Γ ++ [B.comment (ifcComment srt a b)]).length + c1X.length) ∧
      M.Bnd st1 ∧ Keep M.toTarget st0 st1 (fun _ => False) := by
    cases b with
    | none =>
      simp only at hb
      subst hb
      simp only [run_bind_ok, run_pure_ok] at h1X
      obtain ⟨ta, _, hta, rfl, rfl⟩ := h1X
      obtain ⟨p, hp, hlt, rfl, rfl⟩ := M.vt hta
      obtain ⟨i, hi, hl, hg, hchi⟩ := readInt_facts R ha
      rw [hi] at hp
      injection hp with hp
      subst hp
      simp only [TempNum.toNat] at hlt hatB hatL ⊢
      have hw := X0.words i hl va hg
      rw [hchi] at hw
      exact M.jumpIfZero hatB.left hatL.head hpc0 B0 hlt hw
    | some b' =>
      simp only at hb
      simp only [run_bind_ok, run_pure_ok] at h1X
      obtain ⟨ta, _, hta, tb, _, htb, rfl, rfl⟩ := h1X
      obtain ⟨p, hp, hlt, rfl, rfl⟩ := M.vt hta
      obtain ⟨q, hq, hltq, rfl, rfl⟩ := M.vt htb
      obtain ⟨i, hi, hl, hg, hchi⟩ := readInt_facts R ha
      obtain ⟨j, hj, hlj, hgj, hchij⟩ := readInt_facts R hb
      rw [hi] at hp
      injection hp with hp
      subst hp
      rw [hj] at hq
      injection hq with hq
      subst hq
      simp only [TempNum.toNat] at hlt hltq hatB hatL ⊢
      have hw := X0.words i hl va hg
      rw [hchi] at hw
      have hwj := X0.words j hlj vb hgj
      rw [hchij] at hwj
      exact M.jumpIf hatB.left hatL.head hpc0 B0 hlt hltq hw hwj
  obtain ⟨st1, hr1, hpc1, B1, K1⟩ := hcmp
  have X1 : X3 M.toTarget Γ cfg' hs ι κ st1 := X3.jump (X3R.keep X0 B1 K1) J
  have hcapX := X.cap
  have hN := M.ntemps_le
  have hKP : ∀ st2 : M.S, Keep M.toTarget st1 st2 (fun _ => False) →
      Prov.KeepPos (M.tv st) (M.tv st2) Γ.length cfg cfg' := fun st2 K2 =>
    ⟨fun t ht => by rw [J.temps, get_clobberTemp _ (by unfold Mock.T_TEMP; omega)], fun i hi => by
      show M.tv st2 _ = M.tv st _
      rw [K2.tv _ (by omega) id, K1.tv _ (by omega) id, K0.tv _ (by omega) id]⟩
  by_cases hcnd : Pos.evalCmp srt va vb = true
  · -- the jump is taken: to the label, over the label and the comment
    simp only [hcnd, if_true] at hr1 hpc1 ⊢
    obtain ⟨st2, hr2, hpc2, B2, K2⟩ := M.run_label hatL.head hpc1 (hlbl ▸ M.labelOK_fresh (kx + 1)) B1
    obtain ⟨st3, hr3, hpc3, B3, K3⟩ := M.run_comment hatL.tail.head hpc2
      (M.commentOK_of_mm (mm_ofList (by decide))) B2
    have K23 : Keep M.toTarget st1 st3 (fun _ => False) := K2.trans K3
    exact ⟨cfg', st3, _, hst, M.runH_trans (M.runH_trans (M.runH_trans hr0 hr1) hr2) hr3, hpc3, hout, hnext,
      by simpa [hcnd] using R', X3R.keep X1 B3 K23, _, _, c3X, h3X, hatL.tail.tail, J.heap, hKP st3 K23⟩
  · -- fall through: the comment, then the else branch
    have hcnd' : Pos.evalCmp srt va vb = false := by simpa using hcnd
    simp only [hcnd', Bool.false_eq_true, if_false] at hr1 hpc1 ⊢
    obtain ⟨st2, hr2, hpc2, B2, K2⟩ := M.run_comment hatE.head hpc1
      (M.commentOK_of_mm (mm_ofList (by decide))) B1
    exact ⟨cfg', st2, _, hst, M.runH_trans (M.runH_trans hr0 hr1) hr2, hpc2, hout, hnext,
      by simpa [hcnd'] using R', X3R.keep X1 B2 K2, _, _, c2X, h2X, hatE.tail.left, J.heap, hKP st2 K2⟩

/-- the code of every definition stands in the assembled routine behind its label -/
theorem assemble_split {Code Tm : Type} (B : Backend Code Tm) (hooks : Bool) (ren : Nat → String)
    (types : List TypeDecl) :
    ∀ (defs : List Def) (c : Nat) (blocks : List (List Code)) (c' : Nat),
      (translateR B hooks ren types defs).run c = .ok (blocks, c') →
      ∀ d ∈ defs, ∃ pre post ck ck' items,
        assemble B blocks (defs.map (·.name)) =
          pre ++ B.label (d.name.print ++ "_") :: (items ++ post) ∧
        (codeStatementR B hooks ren types d.body d.ctx).run ck = .ok (items, ck')
  | [], c, blocks, c', _, d, hd => by simp at hd
  | d0 :: ds, c, blocks, c', h, d, hd => by
    simp only [translateR, run_bind_ok, run_pure_ok] at h
    obtain ⟨is, k1, h1, rest, k2, h2, rfl, rfl⟩ := h
    simp only [List.mem_cons] at hd
    rcases hd with rfl | hd
    · exact ⟨[], assemble B rest (ds.map (·.name)), c, k1, is, by simp [assemble], h1⟩
    · obtain ⟨pre, post, ck, ck', items, e, hr⟩ := assemble_split B hooks ren types ds k1 rest _ h2 d hd
      refine ⟨B.label (d0.name.print ++ "_") :: is ++ pre, post, ck, ck', items, ?_, hr⟩
      simp only [assemble, List.map_cons, e]
      simp

/-- the code of method `i` stands in the code of the methods behind its label: the `load` of its environment, then
its body -/
theorem codeMethods_nth {Code Tm : Type} (B : Backend Code Tm) (hooks : Bool) (ren : Nat → String)
    (types : List TypeDecl) (env : Ctx) :
    ∀ (clauses : Clauses) (base : String) (i : Nat) (c : Clause) (k : Nat) (code : List Code) (k' : Nat),
    (codeMethodsR B hooks ren types env clauses base).run k = .ok (code, k') →
    nthClause clauses i = some c →
    ∃ pre post kl kl' lcode kb' body,
      code = pre ++ B.label (clauseLabel base c.xtor) :: (lcode ++ (body ++ post)) ∧
      (B.load env c.ctx).run kl = .ok (lcode, kl') ∧
      (codeStatementR B hooks ren types c.body (c.ctx ++ env)).run kl' = .ok (body, kb')
  | .nil, _, _, _, _, _, _, _, h => by simp [nthClause] at h
  | .cons x ctx body rest, base, i, c, k, code, k', hrun, h => by
    simp only [codeMethodsR, run_bind_ok, run_pure_ok] at hrun
    obtain ⟨c1, k1, h1, c2, k2, h2, c3, k3, h3, rfl, rfl⟩ := hrun
    cases i with
    | zero =>
      simp only [nthClause, Option.some.injEq] at h
      subst h
      exact ⟨[], c3, k, k1, c1, k2, c2, by simp, h1, h2⟩
    | succ i =>
      simp only [nthClause] at h
      obtain ⟨pre, post, kl, kl', lcode, kb', b, e, hl, hb⟩ :=
        codeMethods_nth B hooks ren types env rest base i c _ _ _ h3 h
      refine ⟨B.label (clauseLabel base x) :: (c1 ++ c2) ++ pre, post, kl, kl', lcode, kb', b, ?_, hl, hb⟩
      rw [e]
      simp

/-- the first method stands at the head, and its `load` runs from the counter of the whole -/
theorem codeMethods_head {Code Tm : Type} (B : Backend Code Tm) (hooks : Bool) (ren : Nat → String)
    (types : List TypeDecl) (env : Ctx)
    (clauses : Clauses) (base : String) (c : Clause) (k : Nat) (code : List Code) (k' : Nat)
    (hrun : (codeMethodsR B hooks ren types env clauses base).run k = .ok (code, k'))
    (h : nthClause clauses 0 = some c) :
    ∃ post kl' lcode kb' body,
      code = B.label (clauseLabel base c.xtor) :: (lcode ++ (body ++ post)) ∧
      (B.load env c.ctx).run k = .ok (lcode, kl') ∧
      (codeStatementR B hooks ren types c.body (c.ctx ++ env)).run kl' = .ok (body, kb') := by
  cases clauses with
  | nil => simp [nthClause] at h
  | cons x ctx body rest =>
    simp only [codeMethodsR, run_bind_ok, run_pure_ok] at hrun
    obtain ⟨c1, k1, h1, c2, k2, h2, c3, k3, h3, rfl, rfl⟩ := hrun
    simp only [nthClause, Option.some.injEq] at h
    subst h
    exact ⟨c3, k1, c1, k2, c2, by simp, h1, h2⟩

/-- the same for the clauses of a `switch`: the clause context is loaded in front of the context -/
theorem codeClauses_nth {Code Tm : Type} (B : Backend Code Tm) (hooks : Bool) (ren : Nat → String)
    (types : List TypeDecl) (Γ : Ctx) :
    ∀ (clauses : Clauses) (base : String) (i : Nat) (c : Clause) (k : Nat) (code : List Code) (k' : Nat),
    (codeClausesR B hooks ren types Γ clauses base).run k = .ok (code, k') →
    nthClause clauses i = some c →
    ∃ pre post kl kl' lcode kb' body,
      code = pre ++ B.label (clauseLabel base c.xtor) :: (lcode ++ (body ++ post)) ∧
      (B.load c.ctx Γ).run kl = .ok (lcode, kl') ∧
      (codeStatementR B hooks ren types c.body (Γ ++ c.ctx)).run kl' = .ok (body, kb')
  | .nil, _, _, _, _, _, _, _, h => by simp [nthClause] at h
  | .cons x ctx body rest, base, i, c, k, code, k', hrun, h => by
    simp only [codeClausesR, run_bind_ok, run_pure_ok] at hrun
    obtain ⟨c1, k1, h1, c2, k2, h2, c3, k3, h3, rfl, rfl⟩ := hrun
    cases i with
    | zero =>
      simp only [nthClause, Option.some.injEq] at h
      subst h
      exact ⟨[], c3, k, k1, c1, k2, c2, by simp, h1, h2⟩
    | succ i =>
      simp only [nthClause] at h
      obtain ⟨pre, post, kl, kl', lcode, kb', b, e, hl, hb⟩ :=
        codeClauses_nth B hooks ren types Γ rest base i c _ _ _ h3 h
      refine ⟨B.label (clauseLabel base x) :: (c1 ++ c2) ++ pre, post, kl, kl', lcode, kb', b, ?_, hl, hb⟩
      rw [e]
      simp

theorem codeClauses_head {Code Tm : Type} (B : Backend Code Tm) (hooks : Bool) (ren : Nat → String)
    (types : List TypeDecl) (Γ : Ctx)
    (clauses : Clauses) (base : String) (c : Clause) (k : Nat) (code : List Code) (k' : Nat)
    (hrun : (codeClausesR B hooks ren types Γ clauses base).run k = .ok (code, k'))
    (h : nthClause clauses 0 = some c) :
    ∃ post kl' lcode kb' body,
      code = B.label (clauseLabel base c.xtor) :: (lcode ++ (body ++ post)) ∧
      (B.load c.ctx Γ).run k = .ok (lcode, kl') ∧
      (codeStatementR B hooks ren types c.body (Γ ++ c.ctx)).run kl' = .ok (body, kb') := by
  cases clauses with
  | nil => simp [nthClause] at h
  | cons x ctx body rest =>
    simp only [codeClausesR, run_bind_ok, run_pure_ok] at hrun
    obtain ⟨c1, k1, h1, c2, k2, h2, c3, k3, h3, rfl, rfl⟩ := hrun
    simp only [nthClause, Option.some.injEq] at h
    subst h
    exact ⟨c3, k1, c1, k2, c2, by simp, h1, h2⟩

/-- the jump table of a backend whose `jump_label_fixed` is the one instruction `j l`: entry `i` jumps to the
label of clause `i` -/
theorem codeTable_nth {Code Tm : Type} (B : Backend Code Tm) {j : String → Code}
    (hj : ∀ l, B.jumpLabelFixed l = [j l]) (base : String) :
    ∀ (clauses : Clauses) (i : Nat) (c : Clause), nthClause clauses i = some c →
    (codeTable B clauses base)[i]? = some (j (clauseLabel base c.xtor))
  | .nil, _, _, h => by simp [nthClause] at h
  | .cons x ctx body r, 0, c, h => by
    simp only [nthClause, Option.some.injEq] at h
    subst h
    simp [codeTable, hj]
  | .cons x ctx body r, i + 1, c, h => by
    simp only [nthClause] at h
    simpa [codeTable, hj] using codeTable_nth B hj base r i c h

theorem codeTable_length {Code Tm : Type} (B : Backend Code Tm) {j : String → Code}
    (hj : ∀ l, B.jumpLabelFixed l = [j l]) (base : String) :
    ∀ (clauses : Clauses), (codeTable B clauses base).length = clauses.length
  | .nil => rfl
  | .cons x ctx body r => by simp [codeTable, hj, Clauses.length, codeTable_length B hj base r]

/-- the word arithmetic of the computed jump: table address plus `s` bytes per entry -/
theorem toNat_table_addr {s n pos : Nat} (hs0 : 0 < s) (hs : s < 2 ^ 64) (h : n + s * pos < 2 ^ 64) :
    (BitVec.ofNat 64 n + BitVec.ofNat 64 pos * BitVec.ofNat 64 s).toNat = n + s * pos := by
  have hp : pos ≤ s * pos := Nat.le_mul_of_pos_left pos hs0
  simp only [BitVec.toNat_add, BitVec.toNat_mul, BitVec.toNat_ofNat]
  rw [Nat.mod_eq_of_lt (show n < 2 ^ 64 by omega), Nat.mod_eq_of_lt (show pos < 2 ^ 64 by omega),
    Nat.mod_eq_of_lt hs, Nat.mul_comm pos s, Nat.mod_eq_of_lt (show s * pos < 2 ^ 64 by omega),
    Nat.mod_eq_of_lt h]

/-- the code of every definition is in the loaded routine, behind its label.  The backends' own `K.XDefsAt` say
in addition that the label is found by the loader's index; they imply this one (`K.XDefsAt.toM`) -/
def XDefsAt (hooks : Bool) (prog : AxCut.Prog) : Prop :=
  ∀ d ∈ prog.defs, ∃ i k k' items, XAt M.cs i [B.label (d.name.print ++ "_")] ∧
    (codeStatementR B hooks natRen prog.types d.body d.ctx).run k = .ok (items, k') ∧ XAt M.cs (i + 1) items

/-- `call` on the three machines: `sim2_call`, and the machine jumps to the label of the definition (`M.jumpLabel`,
a run that executes an instruction) and passes it; no position changes.  The statement comment starts with the
name `l` of the program (`hcm`, as for `op`) -/
theorem call_x3 {P : Program} {hooks : Bool} {prog : AxCut.Prog} {Γ : Ctx} {ρ : List Value} {l : Ident}
    {args : Ctx} {cfg : Config} {d : Def}
    (R : RelX P hooks prog ⟨Γ, ρ, .call l args⟩ cfg) (D : DefsAt P hooks prog) (DX : XDefsAt M hooks prog)
    (hd : Pos.findDef prog.defs l = some d) (hchi : Pos.chiTys Γ = Pos.chiTys d.ctx)
    {hs : HState} {ι : Nat → Nat} {κ : Nat → Nat → Word} {st : M.S} {kp : Nat}
    (X : X3 M.toTarget Γ cfg hs ι κ st)
    {kx kx' : Nat} {items : List Code}
    (hrunX : (codeStatementR B hooks natRen prog.types (.call l args) Γ).run kx = .ok (items, kx'))
    (hatX : XAt M.cs kp items) (hpc : M.pcAt st kp) (hcm : M.CommentOK (l.print ++ "(...)")) :
    ∃ cfg' st' kp', stepsTo P 1 cfg cfg' ∧ M.RunHR kp st kp' st' ∧ M.pcAt st' kp' ∧
      cfg'.out = cfg.out ∧ cfg'.next = cfg.next ∧
      RelX P hooks prog ⟨d.ctx, ρ, d.body⟩ cfg' ∧ X3 M.toTarget d.ctx cfg' hs ι κ st' ∧
      ∃ k1 k1' items', (codeStatementR B hooks natRen prog.types d.body d.ctx).run k1 = .ok (items', k1') ∧
        XAt M.cs kp' items' ∧ cfg'.heap = cfg.heap ∧ Prov.KeepPos (M.tv st) (M.tv st') Γ.length cfg cfg' := by
  obtain ⟨cfg', hst, hout, hnext, R'⟩ := sim2_call R D hd hchi
  have hstep := stepsTo_one_inv hst
  have J : JumpFacts cfg cfg' := by
    obtain ⟨c, c', ops, hrun, hat⟩ := R.code
    simp only [codeStatementR, run_pure_ok] at hrun
    obtain ⟨rfl, rfl⟩ := hrun
    simp only [mockSym_comment, mockSym_jumpLabel, List.append_assoc, CodeAt_hook] at hat
    simp only [List.cons_append, List.nil_append, CodeAt] at hat
    exact step_jumpLabel_facts hat.1 hstep
  have hmem : d ∈ prog.defs := List.mem_of_find?_eq_some hd
  have hname : d.name = l := by
    have := List.find?_some hd
    exact Ident.eq_of_beq this
  obtain ⟨i, k1, k1', ditems, hlab, hdrun, hdat⟩ := DX d hmem
  simp only [codeStatementR, run_pure_ok] at hrunX
  obtain ⟨rfl, rfl⟩ := hrunX
  obtain ⟨st0, hr0, hpc0, B0, K0, _⟩ := M.run_c0 hatX.left hpc hcm X.bnd
  have X0 : X3 M.toTarget Γ cfg hs ι κ st0 := X3R.keep X B0 K0
  obtain ⟨st1, hr1, hpc1, B1, K1⟩ := M.jumpLabel hatX.right (by rw [← hname]; exact hlab) hpc0 B0
  obtain ⟨st2, hr2, hpc2, B2, K2⟩ := M.run_label hlab hpc1 (M.labelOK_def _) B1
  have hkeys : Γ.map (·.chi) = d.ctx.map (·.chi) := by
    have := congrArg (List.map Prod.fst) hchi
    simp only [Pos.chiTys, List.map_map] at this
    exact this
  have hcapX := X.cap
  have hN := M.ntemps_le
  have K12 : Keep M.toTarget st0 st2 (fun _ => False) := K1.trans K2
  exact ⟨cfg', st2, _, hst, M.runHR_trans (M.runH_transR hr0 hr1) hr2, hpc2, hout, hnext, R',
    X3R.keep ((X0.jump J).ctxCongr hkeys) B2 K12, _, _, ditems, hdrun, hdat, J.heap,
    ⟨fun t ht => by rw [J.temps, get_clobberTemp _ (by unfold Mock.T_TEMP; omega)], fun i hi => by
      show M.tv st2 _ = M.tv st _
      rw [K12.tv _ (by omega) id, K0.tv _ (by omega) id]⟩⟩

end

end Scc.Backend.ThreeWay
