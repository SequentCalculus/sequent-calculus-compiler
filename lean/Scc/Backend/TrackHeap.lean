/-
  Scc.Backend.TrackHeap — THE TWO INVARIANTS OF THE RUNS, for any backend.

  A backend's STATEMENT BOUNDARIES are a relation `B st acc cfg hs X` between a state of the positional machine, the
  configuration of the abstract machine, the block heap and a machine state (x86-64: `∃ X0, Bd … X0 X`; AArch64:
  typed, within capacity, `Tol` and `K.Rel3`; RV64: typed, within capacity, `Rel3`), with the step theorem of the backend
  read at boundaries (`Boundaries.next`): with room for the allocation of the statement the machine reaches the next
  boundary; the frontier moves by at most the allocation (`FrLe`), and only when the free lists are exhausted
  (`FrPk`); a `call` or `invoke` takes a transition; and with the last step (`Boundaries.done`): from the boundary of
  the statement that ends the run the machine reaches a state in `AtEnd`.

  From it, once for all backends (`Scc/Backend/Track.lean`):
  * `roomTrack` — the runs in a heap with room for `cap + 1` blocks per step;
  * `PeakFrom`, `PeakInv`, `peakTrack` — the runs under the footprint bound: if at no boundary more than `Pk` blocks
    are in use, the frontier never rises above `Pk + 1` blocks, and a heap of `64·(Pk + A + 2)` bytes is enough for a
    run of any length.  `PeakInv.step` is the bookkeeping alone (for the runs that carry more: the heap monitor).
-/
import Scc.Backend.Track
import Scc.Heap.FrBound
import Scc.AxCut.PosHered
import Scc.Props.C06Generic

namespace Scc.Backend.Track

open Scc.AxCut Scc.Backend.Abs
open Scc.Props.C06Generic (outAfter statesOf stopsWithin Reachable EnoughHeap reachable_prepend)
open Scc.Heap (HState InvS)
open Scc.Heap.Refine (FrLe Room FrPk)
open Scc.X86.Conc (FrBound LiveLe0)
open Scc.X86.Ref.K (allocArity allocArity_le IsJump jumpW jumpW_le AllocLe AllocLeClauses ValAll hered_step
  hered_allocLe)

variable {MS : Type}

theorem frLe_mono {s s' : HState} {a b : Nat} (h : FrLe s s' a) (hab : a ≤ b) : FrLe s s' b :=
  ⟨h.1, h.2.1, fun _ _ _ _ _ _ _ _ _ _ J J' => by have := h.2.2 _ _ _ _ _ _ _ _ _ _ J J'; omega⟩

/-- the statement boundaries `B` of a backend, in a heap of `bytes` bytes at `base`; `AtEnd v acc X`: the backend's
description of a machine state `X` that ends the run with result `v` after the output `acc` (x86-64: `step` yields
`done v` and the trace is `acc`) -/
structure Boundaries (steps : Nat → MS → MS → Prop) (prog : Prog)
    (B : Pos.State → List (Bool × Word) → Config → HState → MS → Prop) (AtEnd : Word → List (Bool × Word) → MS → Prop)
    (base bytes : Nat) : Prop where
  refl : ∀ X, steps 0 X X
  trans : ∀ {a b X Y Z}, steps a X Y → steps b Y Z → steps (a + b) X Z
  /-- the block heap at a boundary satisfies the heap invariant (for some roots, free lists and live set) -/
  witness : ∀ {st acc cfg hs X}, B st acc cfg hs X → ∃ rs lin lazy live Fr, InvS hs rs [] lin lazy live Fr
  hbase : ∀ {st acc cfg hs X}, B st acc cfg hs X → hs.base = base
  hlimit : ∀ {st acc cfg hs X}, B st acc cfg hs X → hs.limit = base + bytes
  next : ∀ {st acc cfg hs X st' o}, B st acc cfg hs X → EnoughHeap cfg → Room hs (64 * allocArity st.stmt + 64) →
    Pos.step prog st = .next st' o →
    ∃ cfg' hs' k X', steps k X X' ∧ B st' (outAfter o acc) cfg' hs' X' ∧ cfg'.next ≤ cfg.next + 1 ∧
      FrLe hs hs' (64 * allocArity st.stmt) ∧ FrPk hs hs' ∧ (IsJump st.stmt → 1 ≤ k)
  done : ∀ {st acc cfg hs X v}, B st acc cfg hs X → EnoughHeap cfg → Room hs (64 * allocArity st.stmt + 64) →
    Pos.step prog st = .done v → ∃ k XL, steps k X XL ∧ AtEnd v acc XL

section
variable {steps : Nat → MS → MS → Prop} {prog : Prog} {B : Pos.State → List (Bool × Word) → Config → HState → MS → Prop}
  {AtEnd : Word → List (Bool × Word) → MS → Prop} {base bytes : Nat}

/-- a boundary, the output so far, object numbers and room for `r` more steps -/
def RoomRun (B : Pos.State → List (Bool × Word) → Config → HState → MS → Prop) (cap r : Nat) (st : Pos.State) (acc : List (Bool × Word))
    (X : MS) : Prop :=
  ∃ cfg hs, B st acc cfg hs X ∧ cfg.next + r < 2 ^ 64 ∧ Room hs (64 * (cap + 1) * r)

theorem roomTrack (H : Boundaries steps prog B AtEnd base bytes) {cap : Nat}
    (hcap : ∀ {st acc cfg hs X}, B st acc cfg hs X → allocArity st.stmt ≤ cap) :
    Track steps prog (RoomRun B cap) jumpW where
  refl := H.refl
  trans := H.trans
  next := by
    rintro r st acc X st' o ⟨cfg, hs, b, hnext, hroom⟩ hst
    have hc := hcap b
    rw [Nat.mul_succ] at hroom
    obtain ⟨cfg', hs', k, X', hk, b', h3, hfr, _, hj⟩ := H.next b (by unfold EnoughHeap; omega)
      (hroom.mono (by omega)) hst
    refine ⟨k, X', hk, ⟨cfg', hs', b', by omega, ?_⟩, jumpW_le hj⟩
    exact (hroom.step (frLe_mono hfr (show 64 * allocArity st.stmt ≤ 64 * cap by omega)) (by omega)
      (H.witness b)).mono (by omega)

/-- a terminating run in a heap with room for `cap + 1` blocks per step -/
theorem room_done (H : Boundaries steps prog B AtEnd base bytes) {cap : Nat}
    (hcap : ∀ {st acc cfg hs X}, B st acc cfg hs X → allocArity st.stmt ≤ cap)
    {n r : Nat} {st : Pos.State} {acc : List (Bool × Word)} {X : MS} (h : RoomRun B cap (n + r) st acc X)
    {out : List (Bool × Word)} {v : Word} (hrun : Pos.runState prog n st acc = ⟨out, .done v⟩) :
    ∃ k XL accL, steps k X XL ∧ accL.reverse = out ∧ AtEnd v accL XL :=
  (roomTrack H hcap).run_done (fun ⟨_, _, b, hnext, hroom⟩ hst => H.done b (by unfold EnoughHeap; omega)
    (hroom.mono (by have := hcap b; rw [Nat.mul_succ]; omega)) hst) h hrun

/-- THE PEAK HYPOTHESIS from the machine state `X` on: at every boundary the machine reaches from `X` (with at most
`C` blocks below the frontier), at most `Pk` blocks are in use -/
def PeakFrom (steps : Nat → MS → MS → Prop) (prog : Prog) (B : Pos.State → List (Bool × Word) → Config → HState → MS → Prop)
    (st : Pos.State) (X : MS) (Pk C : Nat) : Prop :=
  ∀ n X' st' acc' cfg' hs', Reachable prog st st' → steps n X X' → B st' acc' cfg' hs' X' → FrBound hs' C →
    LiveLe0 hs' Pk

/-- what the runs under the footprint bound keep at a boundary: the bound `A` on the allocation of the statement
and of the clauses of the closures in the environment, the two bounds on the frontier (`Pk + 1` from the peak
hypothesis, `Cb` from counting `A` blocks per step), the peak hypothesis from here on -/
structure PeakInv (steps : Nat → MS → MS → Prop) (prog : Prog) (B : Pos.State → List (Bool × Word) → Config → HState → MS → Prop)
    (A Pk C : Nat) (st : Pos.State) (acc : List (Bool × Word)) (cfg : Config) (hs : HState) (X : MS) (Cb : Nat) :
    Prop where
  bd : B st acc cfg hs X
  alloc : AllocLe A st.stmt
  vals : ∀ w ∈ st.env, ValAll (AllocLeClauses A) w
  fb : FrBound hs (Pk + 1)
  cb : FrBound hs Cb
  peak : PeakFrom steps prog B st X Pk C

variable {A Pk C : Nat} {st : Pos.State} {acc : List (Bool × Word)} {cfg : Config} {hs : HState} {X : MS} {Cb : Nat}

/-- the heap of `64·(Pk + A + 2)` bytes has room for the allocation of the statement -/
theorem PeakInv.room (H : Boundaries steps prog B AtEnd base bytes) (I : PeakInv steps prog B A Pk C st acc cfg hs X Cb)
    (hbytes : 64 * (Pk + A + 2) ≤ bytes) : Room hs (64 * allocArity st.stmt + 64) :=
  Scc.X86.Conc.Room.of_frBound_bytes I.fb (H.hbase I.bd) (H.hlimit I.bd) (allocArity_le I.alloc) hbytes

/-- THE BOOKKEEPING from a boundary to the next -/
theorem PeakInv.step (H : Boundaries steps prog B AtEnd base bytes) (hA : ∀ d ∈ prog.defs, AllocLe A d.body)
    (I : PeakInv steps prog B A Pk C st acc cfg hs X Cb) (hC : Cb + A ≤ C)
    {st' : Pos.State} {o : Option (Bool × Word)} (hst : Pos.step prog st = .next st' o)
    {k : Nat} {X' : MS} (hk : steps k X X') {cfg' : Config} {hs' : HState} (b' : B st' (outAfter o acc) cfg' hs' X')
    (hfr : FrLe hs hs' (64 * allocArity st.stmt)) (hpk : FrPk hs hs') :
    PeakInv steps prog B A Pk C st' (outAfter o acc) cfg' hs' X' (Cb + A) := by
  have hAr := allocArity_le I.alloc
  have hw := H.witness I.bd
  obtain ⟨hlet', hvals'⟩ := hered_step (hered_allocLe A) hA hst I.alloc I.vals
  have hcb' : FrBound hs' (Cb + A) := I.cb.of_frLe (frLe_mono hfr (by omega)) hw
  have hlive' : LiveLe0 hs' Pk := I.peak k X' st' _ cfg' hs' (Reachable.step Reachable.refl hst) hk b'
    (fun rs lin lazy live F J => by have := hcb' rs lin lazy live F J; omega)
  exact ⟨b', hlet', hvals', I.fb.step hfr.2.1 hpk hw hlive', hcb',
    fun n X'' st'' acc'' cfg'' hs'' hr hn => I.peak (k + n) X'' st'' acc'' cfg'' hs'' (reachable_prepend hst hr) (H.trans hk hn)⟩

/-- `PeakInv`, the output so far, object numbers and the count `Cb` of blocks for `r` more steps -/
def PeakRun (steps : Nat → MS → MS → Prop) (prog : Prog) (B : Pos.State → List (Bool × Word) → Config → HState → MS → Prop)
    (A Pk C r : Nat) (st : Pos.State) (acc : List (Bool × Word)) (X : MS) : Prop :=
  ∃ cfg hs Cb, PeakInv steps prog B A Pk C st acc cfg hs X Cb ∧ cfg.next + r < 2 ^ 64 ∧ Cb + A * r ≤ C

theorem peakTrack (H : Boundaries steps prog B AtEnd base bytes) (hA : ∀ d ∈ prog.defs, AllocLe A d.body)
    (hbytes : 64 * (Pk + A + 2) ≤ bytes) : Track steps prog (PeakRun steps prog B A Pk C) jumpW where
  refl := H.refl
  trans := H.trans
  next := by
    rintro r st acc X st' o ⟨cfg, hs, Cb, I, hnext, hC⟩ hst
    rw [Nat.mul_succ] at hC
    obtain ⟨cfg', hs', k, X', hk, b', h3, hfr, hpk, hj⟩ := H.next I.bd (by unfold EnoughHeap; omega)
      (I.room H hbytes) hst
    exact ⟨k, X', hk, ⟨cfg', hs', Cb + A, I.step H hA (by omega) hst hk b' hfr hpk, by omega, by omega⟩, jumpW_le hj⟩

/-- a terminating run under the footprint bound -/
theorem peak_done (H : Boundaries steps prog B AtEnd base bytes) (hA : ∀ d ∈ prog.defs, AllocLe A d.body)
    (hbytes : 64 * (Pk + A + 2) ≤ bytes) {n r : Nat} {st : Pos.State} {acc : List (Bool × Word)} {X : MS}
    (h : PeakRun steps prog B A Pk C (n + r) st acc X) {out : List (Bool × Word)} {v : Word}
    (hrun : Pos.runState prog n st acc = ⟨out, .done v⟩) :
    ∃ k XL accL, steps k X XL ∧ accL.reverse = out ∧ AtEnd v accL XL :=
  (peakTrack H hA hbytes).run_done (fun ⟨_, _, _, I, hnext, _⟩ hst => H.done I.bd (by unfold EnoughHeap; omega)
    (I.room H hbytes) hst) h hrun

end

/-- a terminating run stops within its fuel -/
theorem stopsWithin_of_done (prog : AxCut.Prog) : ∀ (fuel : Nat) (st : Pos.State) (acc out : List (Bool × Word))
    (v : Word), Pos.runState prog fuel st acc = ⟨out, .done v⟩ → stopsWithin prog fuel st = true
  | 0, _, _, _, _, h => by simp [Pos.runState] at h
  | fuel + 1, st, acc, out, v, h => by
    simp only [Pos.runState] at h
    simp only [stopsWithin]
    cases hst : Pos.step prog st with
    | stuck w => rfl
    | done v' => rfl
    | next st' o =>
      simp only [hst] at h
      exact stopsWithin_of_done prog fuel st' _ out v h

end Scc.Backend.Track
