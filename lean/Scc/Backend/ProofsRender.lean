/-
  Scc.Backend.ProofsRender — THE CODE OF A BACKEND RENDERS THE MOCK CODE, for any backend (the walk over the generic
  generator that the refinement proofs of every backend need: "Theorem B" speaks about the instructions of the mock
  code one by one, so the code the same generator emits with the real backend has to be that code, instruction by
  instruction, under a map `f` of temporaries).

  `SegG R g ops cs g'`: the code list `cs` is the concatenation of blocks related by `R` to the abstract
  instructions `ops` (`R g op blk g'`: `blk` renders `op`; `g ⟶ g'` is whatever discipline the backend keeps, e.g.
  the scratch mode of parallel moves).  The `Seg` / `MSeg` of the backends (x86-64 and AArch64: `Ref.Seg`,
  `Ref.MSeg`, `Ref.K.MSeg`; RV64: `Ref.MSeg`) are separate inductives of this shape for their `OpRel` / `MOpRel`,
  under the names their statements use; `seg_of_segG` / `mseg_of_segG`, next to each, turns a `SegG` into it.

  What the walk asks of a backend stands in three records.  `MoveOps` (parallel_moves.rs): `f` preserves order and
  equality of temporaries (`TempMap`, stated for any two backends in Scc/X86/RefPM.lean, namespace `Scc.X86.Ref`),
  and `store_temporary`, `restore_temporary`, `mov`, `comment` render `save`, `restore`, `mov`, `comment`; `E g p c`
  is the backend's side condition on a move from `p` to `c` in mode `g` (x86-64: no spill-to-spill move while TEMP
  holds the saved value), which `contains_spill_edge` guarantees for all edges of a root (`edges`).  `VarTemps`
  (substitution.rs): a successful run of the backend's `variable_temporary` is the mock run mapped by `f` (`ok`: the
  predicate on mock temporaries the backend's relation asks for; `okNum`: for which of the two temporaries of a
  position it holds).  `StmtOps` with `LitHered` (the statements of integer programs): the backend's
  `load_immediate`, the arithmetic methods, the jumps, `print_i64` and the moves to the return register render `li`,
  `binop`, `jif`, `jifz`, `jumpLabel`, `print`, `mov`; hence (`seg_compile`) the code of a compiled integer program
  renders the mock code of the same program, block by block.
  Instances: Scc/X86/RefParam.lean, Scc/A64/RefParam.lean (word parts of positions, integer programs);
  Scc/X86/RefClosHMoves.lean, Scc/A64/RefClosHMoves.lean, Scc/RV/RefMoves.lean, and `mMoveOps` of
  Scc/X86/RefHeapMoves.lean, Scc/A64/RefHeapMoves.lean (all temporaries, the moves only).
-/
import Scc.X86.RefPM
import Scc.Backend.ProofsCalls
import Scc.Props.C06Generic

set_option linter.unusedSectionVars false

namespace Scc.Backend.Render

open Scc.AxCut Scc.X86 Scc.X86.Ref

variable {C T M : Type}

/-- `cs` is the concatenation of the renderings of `ops` -/
inductive SegG (R : M → MockOp → List C → M → Prop) : M → List MockOp → List C → M → Prop where
  | nil (g : M) : SegG R g [] [] g
  | cons {g g1 g' : M} {op : MockOp} {blk : List C} {ops : List MockOp} {cs : List C} :
      R g op blk g1 → SegG R g1 ops cs g' → SegG R g (op :: ops) (blk ++ cs) g'

theorem SegG.append {R : M → MockOp → List C → M → Prop} {g g1 g' : M} {o1 o2 : List MockOp} {c1 c2 : List C}
    (h1 : SegG R g o1 c1 g1) (h2 : SegG R g1 o2 c2 g') : SegG R g (o1 ++ o2) (c1 ++ c2) g' := by
  induction h1 with
  | nil g => simpa using h2
  | cons hop _ ih =>
    rw [List.cons_append, List.append_assoc]
    exact SegG.cons hop (ih h2)

theorem SegG.single {R : M → MockOp → List C → M → Prop} {g g' : M} {op : MockOp} {blk : List C}
    (h : R g op blk g') : SegG R g [op] blk g' := by
  have := SegG.cons h (SegG.nil g')
  simpa using this

/-- mode after the moves of a tree: the scratch cell is in use if the tree refers back to the root -/
def afterG (pm : Bool → M) (b : Bool) (back : Bool) (g : M) : M := if back then pm b else g

theorem afterG_mode {normal : M} {pm : Bool → M} {b : Bool} {g : M} (hg : g = normal ∨ g = pm b) (back : Bool) :
    afterG pm b back g = normal ∨ afterG pm b back g = pm b := by
  unfold afterG; split
  · exact Or.inr rfl
  · exact hg

mutual
  def EdgesT (P : T → T → Prop) (parent : T) : Tree T → Prop
    | .backEdge => True
    | .node t kids => P parent t ∧ EdgesTs P t kids
  def EdgesTs (P : T → T → Prop) (parent : T) : List (Tree T) → Prop
    | [] => True
    | k :: ks => EdgesT P parent k ∧ EdgesTs P parent ks
end

mutual
  theorem EdgesT.of_forall {P : T → T → Prop} (h : ∀ p c, P p c) (parent : T) : ∀ tr : Tree T, EdgesT P parent tr
    | .backEdge => trivial
    | .node t kids => ⟨h _ _, EdgesTs.of_forall h t kids⟩
  theorem EdgesTs.of_forall {P : T → T → Prop} (h : ∀ p c, P p c) (parent : T) :
      ∀ l : List (Tree T), EdgesTs P parent l
    | [] => trivial
    | k :: ks => ⟨EdgesT.of_forall h parent k, EdgesTs.of_forall h parent ks⟩
end

/-- what parallel_moves.rs needs of the backend `B` under the map `f` of temporaries (`normal`: the mode
    outside the moves of a root; `pm b`: the scratch cell is in use, with spill flag `b`) -/
structure MoveOps (B : Backend C T) (f : Nat → T) (ok : Nat → Prop) (R : M → MockOp → List C → M → Prop)
    (normal : M) (pm : Bool → M) (E : M → T → T → Prop) : Prop where
  tm : TempMap mockSym B f
  save : ∀ {g p b}, ok p → (g = normal ∨ g = pm b) → R g (.save p false) (B.storeTemporary (f p) b) (pm b)
  restore : ∀ {t b}, ok t → R (pm b) (.restore t false) (B.restoreTemporary (f t) b) normal
  mov : ∀ {g t s}, ok t → ok s → E g (f s) (f t) → R g (.mov t s) (B.mov (f t) (f s)) g
  comment : ∀ {g m}, R g (.comment m) [B.comment m] g
  edges : ∀ t kids, EdgesTs (fun p c => ∀ g, (g = normal ∨ g = pm (B.containsSpillEdge (.startNode t kids))) → E g p c)
    t kids

section Moves

variable {B : Backend C T} {f : Nat → T} {ok : Nat → Prop} {R : M → MockOp → List C → M → Prop}
  {normal : M} {pm : Bool → M} {E : M → T → T → Prop} (O : MoveOps B f ok R normal pm E)

include O

mutual
  theorem seg_treeMoves (b : Bool) (parent : Nat) (hp : ok parent) : ∀ (tr : Tree Nat) (g : M),
      (g = normal ∨ g = pm b) → TreeOK ok tr →
      EdgesT (fun p c => ∀ g, (g = normal ∨ g = pm b) → E g p c) (f parent) (mapT f tr) →
      SegG R g (treeMoves mockSym parent false tr) (treeMoves B (f parent) b (mapT f tr))
        (afterG pm b (Tree.refersBack tr) g)
    | .backEdge, g, hg, _, _ => by
      simp only [treeMoves, mapT, Tree.refersBack, afterG, if_true]
      exact SegG.single (O.save hp hg)
    | .node target kids, g, hg, hw, hn => by
      simp only [treeMoves, mapT, Tree.refersBack]
      have hk := seg_treeMovesList b target hw.1 kids g hg hw.2 hn.2
      exact SegG.append hk (SegG.single (O.mov hw.1 hp (hn.1 _ (afterG_mode hg _))))
  theorem seg_treeMovesList (b : Bool) (parent : Nat) (hp : ok parent) : ∀ (l : List (Tree Nat)) (g : M),
      (g = normal ∨ g = pm b) → TreesOK ok l →
      EdgesTs (fun p c => ∀ g, (g = normal ∨ g = pm b) → E g p c) (f parent) (mapTs f l) →
      SegG R g (treeMovesList mockSym parent false l) (treeMovesList B (f parent) b (mapTs f l))
        (afterG pm b (Tree.anyRefersBack l) g)
    | [], g, _, _, _ => by
      simp only [treeMovesList, mapTs, Tree.anyRefersBack, afterG]
      exact SegG.nil g
    | k :: ks, g, hg, hw, hn => by
      simp only [treeMovesList, mapTs, Tree.anyRefersBack]
      have h1 := seg_treeMoves b parent hp k g hg hw.1 hn.1
      have h2 := seg_treeMovesList b parent hp ks (afterG pm b (Tree.refersBack k) g)
        (afterG_mode hg (Tree.refersBack k)) hw.2 hn.2
      have := SegG.append h1 h2
      have e : afterG pm b (Tree.anyRefersBack ks) (afterG pm b (Tree.refersBack k) g) =
          afterG pm b (Tree.refersBack k || Tree.anyRefersBack ks) g := by
        unfold afterG
        cases Tree.refersBack k <;> cases Tree.anyRefersBack ks <;> simp
      rw [e] at this
      exact this
end

theorem seg_rootMoves (r : Root Nat) (hw : RootOK ok r) :
    SegG R normal (rootMoves mockSym r) (rootMoves B (mapR f r)) normal := by
  cases r with
  | startNode t kids =>
    simp only [rootMoves, mapR, mockSym_containsSpillEdge, anyRefersBack_map]
    have hk := seg_treeMovesList O _ t hw.1 kids normal (Or.inl rfl) hw.2 (O.edges (f t) (mapTs f kids))
    refine SegG.append hk ?_
    by_cases hr : Tree.anyRefersBack kids = true
    · simp only [hr, if_true, afterG]
      exact SegG.single (O.restore hw.1)
    · simp only [hr, afterG, if_false, Bool.false_eq_true]
      exact SegG.nil _

theorem seg_flatten_rootMoves : ∀ (forest : List (Root Nat)), (∀ r ∈ forest, RootOK ok r) →
    SegG R normal (forest.map (rootMoves mockSym)).flatten ((forest.map (mapR f)).map (rootMoves B)).flatten normal
  | [], _ => SegG.nil _
  | r :: rs, h => by
    simp only [List.map_cons, List.flatten_cons]
    exact SegG.append (seg_rootMoves O r (h r (by simp)))
      (seg_flatten_rootMoves rs (fun x hx => h x (by simp [hx])))

/-- parallel_moves.rs: fn parallel_moves -/
theorem seg_parallelMoves (pmap : List (Nat × List Nat)) (hk : ∀ e ∈ pmap, ok e.1) (hpm : PmOK ok pmap)
    {code : List C} (h : parallelMoves B (mapPM f pmap) = .ok code) :
    ∃ ops, parallelMoves mockSym pmap = .ok ops ∧ SegG R normal ops code normal := by
  unfold parallelMoves at h ⊢
  rw [spanningForest_map O.tm] at h
  cases hf : spanningForest mockSym pmap with
  | error e => rw [hf] at h; simp [Except.map] at h
  | ok forest =>
    rw [hf] at h
    simp only [Except.map, Except.ok.injEq] at h
    have hroots : ∀ r ∈ forest, RootOK ok r := by
      unfold spanningForest at hf
      exact spanningForestLoop_ok (B := mockSym) _ _ _ forest
        (fun k hk' => by
          obtain ⟨e, he, rfl⟩ := List.mem_map.1 hk'
          exact hk e he) hpm hf
    refine ⟨_, rfl, ?_⟩
    rw [← h]
    have hall : (forest.map (mapR f)).all Root.noTargets = forest.all Root.noTargets := by
      rw [List.all_map]
      congr 1
      funext r
      exact noTargets_map r
    rw [hall]
    refine SegG.append ?_ (seg_flatten_rootMoves O forest hroots)
    split
    · exact SegG.single O.comment
    · exact SegG.nil _

end Moves

/-- a successful run of the backend's `variable_temporary` is the mock run, mapped by `f` -/
structure VarTemps (B : Backend C T) (f : Nat → T) (ok : Nat → Prop) (okNum : TempNum → Prop) : Prop where
  vt : ∀ {num ctx id c t c'}, (B.variableTemporary num ctx id).run c = .ok (t, c') →
    ∃ pos, Pos.posOf ctx id = some pos ∧ t = f (2 * pos + num.toNat) ∧ c' = c ∧
      (okNum num → ok (2 * pos + num.toNat)) ∧
      (mockSym.variableTemporary num ctx id).run c = .ok (2 * pos + num.toNat, c)

section Subst

variable {B : Backend C T} {f : Nat → T} {ok : Nat → Prop} {okNum : TempNum → Prop} (V : VarTemps B f ok okNum)

include V

theorem mapMGen_vt_rel {num : TempNum} (hnum : okNum num) (ctx : Ctx) :
    ∀ (ids : List Nat) (c : Nat) (ts : List T) (c' : Nat),
    (mapMGen (fun id => B.variableTemporary num ctx id) ids).run c = .ok (ts, c') →
    ∃ tsM, (mapMGen (fun id => mockSym.variableTemporary num ctx id) ids).run c = .ok (tsM, c) ∧
      ts = tsM.map f ∧ c' = c ∧ ∀ t ∈ tsM, ok t
  | [], c, ts, c', h => by
    simp only [mapMGen, run_pure_ok] at h
    obtain ⟨rfl, rfl⟩ := h
    exact ⟨[], rfl, rfl, rfl, by simp⟩
  | id :: rest, c, ts, c', h => by
    simp only [mapMGen, run_bind_ok, run_pure_ok] at h
    obtain ⟨t, c1, h1, bs, c2, h2, rfl, rfl⟩ := h
    obtain ⟨pos, hp, rfl, rfl, hok, hm⟩ := V.vt h1
    obtain ⟨tsM, hM, rfl, rfl, hw⟩ := mapMGen_vt_rel hnum ctx rest _ _ _ h2
    refine ⟨(2 * pos + num.toNat) :: tsM, ?_, rfl, rfl, ?_⟩
    · simp only [mapMGen, run_bind_ok, run_pure_ok]
      exact ⟨_, _, hm, _, _, hM, rfl, rfl⟩
    · intro t ht
      simp only [List.mem_cons] at ht
      rcases ht with rfl | ht
      · exact hok hnum
      · exact hw t ht

/-- substitution.rs: fn connections -/
theorem connections_go_rel (tmB : TempMap mockSym B f) (hsnd : okNum .snd) (Γ newΓ : Ctx) :
    ∀ (tm : List (Binding × List Nat)) (accM : List (Nat × List Nat)) (c : Nat) (connsX : List (T × List T))
    (c' : Nat), (∀ e ∈ tm, e.1.chi ≠ .ext → okNum .fst) → ConnsOK ok accM →
    (connections.go B Γ newΓ tm (mapPM f accM)).run c = .ok (connsX, c') →
    ∃ connsM, (connections.go mockSym Γ newΓ tm accM).run c = .ok (connsM, c) ∧
      connsX = mapPM f connsM ∧ c' = c ∧ ConnsOK ok connsM
  | [], accM, c, connsX, c', _, hacc, h => by
    simp only [connections.go, run_pure_ok] at h
    obtain ⟨rfl, rfl⟩ := h
    exact ⟨accM, rfl, rfl, rfl, hacc⟩
  | (b, targets) :: rest, accM, c, connsX, c', hfst, hacc, h => by
    have hrest : ∀ e ∈ rest, e.1.chi ≠ .ext → okNum .fst := fun e he => hfst e (by simp [he])
    unfold connections.go at h ⊢
    by_cases hbe : (b.chi == Chi.ext) = true
    · simp only [hbe, if_true, run_bind_ok] at h ⊢
      obtain ⟨k, c1, h1, ts, c2, h2, h3⟩ := h
      obtain ⟨pos, hp, rfl, rfl, hok, hm⟩ := V.vt h1
      obtain ⟨tsM, hM, rfl, rfl, hw⟩ := mapMGen_vt_rel V hsnd newΓ targets _ _ _ h2
      rw [setOfList_map tmB, mapInsert_map tmB] at h3
      obtain ⟨connsM, hgo, e1, e2, hok'⟩ := connections_go_rel tmB hsnd Γ newΓ rest _ _ _ _ hrest
        (mem_mapInsert _ _ _ (QK := ok) (QV := fun l => ∀ t ∈ l, ok t) (hok hsnd)
          (mem_setOfList (B := mockSym) (TOK := ok) hw) accM hacc) h3
      exact ⟨connsM, ⟨_, _, hm, _, _, hM, hgo⟩, e1, e2, hok'⟩
    · have hf1 : okNum .fst := hfst (b, targets) (by simp) (fun e => hbe (by rw [e]; decide))
      simp only [hbe, Bool.false_eq_true, if_false, run_bind_ok] at h ⊢
      obtain ⟨k1, c1, h1, ts1, c2, h2, k2, c3, h3, ts2, c4, h4, h5⟩ := h
      obtain ⟨pos1, hp1, rfl, rfl, hok1, hm1⟩ := V.vt h1
      obtain ⟨tsM1, hM1, rfl, rfl, hw1⟩ := mapMGen_vt_rel V hf1 newΓ targets _ _ _ h2
      obtain ⟨pos2, hp2, rfl, rfl, hok2, hm2⟩ := V.vt h3
      obtain ⟨tsM2, hM2, rfl, rfl, hw2⟩ := mapMGen_vt_rel V hsnd newΓ targets _ _ _ h4
      simp only [setOfList_map tmB, mapInsert_map tmB] at h5
      obtain ⟨connsM, hgo, e1, e2, hok'⟩ := connections_go_rel tmB hsnd Γ newΓ rest _ _ _ _ hrest
        (mem_mapInsert _ _ _ (QK := ok) (QV := fun l => ∀ t ∈ l, ok t) (hok2 hsnd)
          (mem_setOfList (B := mockSym) (TOK := ok) hw2) _
          (mem_mapInsert _ _ _ (QK := ok) (QV := fun l => ∀ t ∈ l, ok t) (hok1 hf1)
            (mem_setOfList (B := mockSym) (TOK := ok) hw1) accM hacc)) h5
      exact ⟨connsM, ⟨_, _, hm1, _, _, hM1, _, _, hm2, _, _, hM2, hgo⟩, e1, e2, hok'⟩

end Subst

/-- substitution.rs: fn code_exchange -/
theorem seg_codeExchange {B : Backend C T} {f : Nat → T} {ok : Nat → Prop} {okNum : TempNum → Prop}
    {R : M → MockOp → List C → M → Prop} {normal : M} {pm : Bool → M} {E : M → T → T → Prop}
    (O : MoveOps B f ok R normal pm E) (V : VarTemps B f ok okNum) (hsnd : okNum .snd)
    (tm : List (Binding × List Nat)) (Γ newΓ : Ctx) (hfst : ∀ e ∈ tm, e.1.chi ≠ .ext → okNum .fst)
    {c : Nat} {code : List C} {c' : Nat} (h : (codeExchange B tm Γ newΓ).run c = .ok (code, c')) :
    ∃ ops, (codeExchange mockSym tm Γ newΓ).run c = .ok (ops, c') ∧ SegG R normal ops code normal := by
  unfold codeExchange connections at h ⊢
  simp only [run_bind_ok] at h ⊢
  obtain ⟨connsX, c1, h1, h2⟩ := h
  obtain ⟨connsM, hgo, rfl, rfl, hok⟩ := connections_go_rel V O.tm hsnd Γ newΓ tm [] c connsX c1 hfst
    (fun _ h => by simp at h) h1
  cases hpm : parallelMoves B (mapPM f connsM) with
  | error e => rw [hpm] at h2; simp [run_throw_ok] at h2
  | ok code' =>
    rw [hpm] at h2
    simp only [run_pure_ok] at h2
    obtain ⟨rfl, rfl⟩ := h2
    obtain ⟨ops, hops, S⟩ := seg_parallelMoves O connsM (fun e he => (hok e he).1) (fun e he => (hok e he).2) hpm
    refine ⟨ops, ⟨connsM, _, hgo, ?_⟩, S⟩
    rw [hops]
    rfl

/-- `code_weakening_contraction` emits nothing on `ext` contexts, with any backend -/
theorem cwc_all_ext (B : Backend C T) (Γ : Ctx) : ∀ (tm : List (Binding × List Nat)) (c : Nat) (code : List C)
    (c' : Nat), (∀ e ∈ tm, e.1.chi = .ext) →
    ((codeWeakeningContraction B tm Γ).run c = .ok (code, c') ↔ code = [] ∧ c = c')
  | [], c, code, c', _ => by
    simp only [codeWeakeningContraction, run_pure_ok]
    exact ⟨fun h => ⟨h.1.symm, h.2⟩, fun h => ⟨h.1.symm, h.2⟩⟩
  | (b, targets) :: rest, c, code, c', hext => by
    have hb : b.chi = .ext := hext (b, targets) (by simp)
    have hbe : (b.chi != Chi.ext) = false := by rw [hb]; decide
    unfold codeWeakeningContraction
    simp only [hbe, Bool.false_eq_true, if_false, run_bind_ok, run_pure_ok]
    have ih := fun code1 c1 => cwc_all_ext B Γ rest c code1 c1 (fun e he => hext e (by simp [he]))
    constructor
    · rintro ⟨c0, k0, ⟨rfl, rfl⟩, c1, k1, h1, rfl, rfl⟩
      obtain ⟨e1, e2⟩ := (ih _ _).1 h1
      subst e1 e2
      simp
    · rintro ⟨rfl, rfl⟩
      exact ⟨[], c, ⟨rfl, rfl⟩, [], c, (ih _ _).2 ⟨rfl, rfl⟩, rfl, rfl⟩

theorem seg_hook {B : Backend C T} {R : M → MockOp → List C → M → Prop}
    (hc : ∀ {g m}, R g (.comment m) [B.comment m] g) (hooks : Bool) (Γ : Ctx) (g : M) :
    SegG R g (hookCode mockSym hooks Γ) (hookCode B hooks Γ) g := by
  unfold hookCode
  cases hooks
  · exact SegG.nil g
  · exact SegG.single hc

open Scc.Backend.Sim
open Scc.Props.C06Generic (IntStmt IntCtx IntProg)

/-- what the walk over the integer statements needs of the backend besides the moves: its methods render the mock
instructions (`exit`: the mode between `mov RET1 t` and `jumplabel cleanup`; `litOK`: the backend's condition on
literals) -/
structure StmtOps (B : Backend C T) (f : Nat → T) (ok : Nat → Prop) (R : M → MockOp → List C → M → Prop)
    (normal exit : M) (litOK : Int → Prop) : Prop where
  comment : ∀ {g m}, R g (.comment m) [B.comment m] g
  label : ∀ {n}, R normal (.label n) [B.label n] normal
  jumpLabel : ∀ {n}, R normal (.jumpLabel n) (B.jumpLabel n) normal
  jumpCleanup : R exit (.jumpLabel "cleanup") (B.jumpLabel "cleanup") normal
  movRet : ∀ {s}, ok s → R normal (.mov Mock.T_RET1 s) (B.mov B.return1 (f s)) exit
  li : ∀ {t n}, ok t → litOK n → R normal (.li t n) (B.loadImmediate (f t) n) normal
  binop : ∀ {o t a b}, ok t → ok a → ok b → a < t → b < t →
    R normal (.binop o t a b) (B.binop o (f t) (f a) (f b)) normal
  jifz : ∀ {c a n}, ok a → R normal (.jifz c a n) (B.jumpLabelIfZero c (f a) n) normal
  jif : ∀ {c a b n}, ok a → ok b → R normal (.jif c a b n) (B.jumpLabelIf c (f a) (f b) n) normal
  print : ∀ {nl s Γ c code c'}, ok s → s < 2 * Γ.length → (B.printI64 nl (f s) Γ).run c = .ok (code, c') →
    c' = c ∧ R normal (.print nl s (Mock.kindsOf Γ)) code normal

/-- a predicate on statements that gives `litOK` of the literals of integer statements -/
structure LitHered (L : Stmt → Prop) (litOK : Int → Prop) : Prop where
  lit : ∀ {x n next fv}, L (.lit x n next fv) → litOK n ∧ L next
  op : ∀ {x a o b next fv}, L (.op x a o b next fv) → L next
  print : ∀ {nl a next fv}, L (.print nl a next fv) → L next
  ifc : ∀ {s a b t e}, L (.ifc s a b t e) → L t ∧ L e
  subst : ∀ {pairs next}, L (.subst pairs next) → L next

theorem posOf_of_hasVar {Γ : Ctx} {x : Nat} {chi : Chi} {ty : Ty} (h : HasVar Γ x chi ty) :
    ∃ i, Pos.posOf Γ x = some i ∧ i < Γ.length := by
  obtain ⟨b, hb, rfl, _, _⟩ := h
  have := Scc.Backend.Subst.posOf_isSome_of_mem hb
  cases hp : Pos.posOf Γ b.var.id with
  | none => rw [hp] at this; simp at this
  | some i => exact ⟨i, rfl, posOf_lt hp⟩

section Stmts

variable {B : Backend C T} {f : Nat → T} {ok : Nat → Prop} {R : M → MockOp → List C → M → Prop}
  {normal exit : M} {pm : Bool → M} {E : M → T → T → Prop} {litOK : Int → Prop} {L : Stmt → Prop}
  (O : MoveOps B f ok R normal pm E) (V : VarTemps B f ok (· = .snd)) (S : StmtOps B f ok R normal exit litOK)
  (H : LitHered L litOK)

include S in
theorem seg_c0 (hooks : Bool) (Γ : Ctx) (m : String) :
    SegG R normal (hookCode mockSym hooks Γ ++ [mockSym.comment m]) (hookCode B hooks Γ ++ [B.comment m]) normal :=
  SegG.append (seg_hook S.comment hooks Γ normal) (SegG.single S.comment)

include O V S H in
/-- statements/*.rs on integer statements -/
theorem seg_codeStatement (hooks : Bool) (types : List TypeDecl) (sigs : Sigs) :
    ∀ (s : Stmt) (Γ : Ctx), LinTyped types sigs Γ s → IntStmt s → IntCtx Γ → L s →
      ∀ (c : Nat) (body : List C) (c' : Nat),
        (codeStatementR B hooks natRen types s Γ).run c = .ok (body, c') →
        ∃ ops, (codeStatementR mockSym hooks natRen types s Γ).run c = .ok (ops, c') ∧ SegG R normal ops body normal
  | .lit x n next fv => fun Γ hty hint hctx hb c body c' h => by
    cases hty with
    | lit _ hfr hnext =>
      simp only [codeStatementR, run_bind_ok, run_pure_ok] at h ⊢
      obtain ⟨t, c1, h1, c2code, c2, h2, rfl, rfl⟩ := h
      obtain ⟨pos, hp, rfl, rfl, hok, hm⟩ := V.vt h1
      obtain ⟨ops2, hm2, S2⟩ := seg_codeStatement hooks types sigs next _ hnext hint
        (Scc.Props.C06Generic.intCtx_snoc hctx _ rfl) (H.lit hb).2 _ _ _ h2
      refine ⟨_, ⟨_, _, hm, ops2, _, hm2, rfl, rfl⟩, ?_⟩
      exact SegG.append (SegG.append (seg_c0 S hooks Γ _) (SegG.single (S.li (hok rfl) (H.lit hb).1))) S2
  | .op x a o b next fv => fun Γ hty hint hctx hb c body c' h => by
    cases hty with
    | op _ hva hvb hfr hnext =>
      simp only [codeStatementR, run_bind_ok, run_pure_ok] at h ⊢
      obtain ⟨t, c1, h1, s1, c2, h2, s2, c3, h3, c2code, c4, h4, rfl, rfl⟩ := h
      obtain ⟨pt, hpt, rfl, rfl, hokt, hm1⟩ := V.vt h1
      obtain ⟨pa, hpa, rfl, rfl, hoka, hm2⟩ := V.vt h2
      obtain ⟨pb, hpb, rfl, rfl, hokb, hm3⟩ := V.vt h3
      obtain ⟨ops2, hm4, S2⟩ := seg_codeStatement hooks types sigs next _ hnext hint
        (Scc.Props.C06Generic.intCtx_snoc hctx _ rfl) (H.op hb) _ _ _ h4
      -- positions: the target is fresh, the sources are old
      have ht : pt = Γ.length := by
        have := posOf_append_fresh Γ ⟨x, .ext, .i64⟩ (Scc.Props.C06Generic.fresh_of_not_mem_ids hfr)
        rw [this] at hpt; injection hpt with e; exact e.symm
      obtain ⟨ia, hia, hlta⟩ := posOf_of_hasVar hva
      obtain ⟨ib, hib, hltb⟩ := posOf_of_hasVar hvb
      have ea : pa = ia := by
        rw [posOf_append_old _ hia] at hpa; injection hpa with e; exact e.symm
      have eb : pb = ib := by
        rw [posOf_append_old _ hib] at hpb; injection hpb with e; exact e.symm
      refine ⟨_, ⟨_, _, hm1, _, _, hm2, _, _, hm3, ops2, _, hm4, rfl, rfl⟩, ?_⟩
      refine SegG.append (SegG.append (seg_c0 S hooks Γ _) (SegG.single ?_)) S2
      exact S.binop (hokt rfl) (hoka rfl) (hokb rfl) (by simp only [TempNum.toNat]; omega)
        (by simp only [TempNum.toNat]; omega)
  | .print nl a next fv => fun Γ hty hint hctx hb c body c' h => by
    cases hty with
    | print _ hva hnext =>
      simp only [codeStatementR, run_bind_ok, run_pure_ok] at h ⊢
      obtain ⟨t, c1, h1, c1code, c2, hpr, c2code, c3, h3, rfl, rfl⟩ := h
      obtain ⟨pa, hpa, rfl, rfl, hoka, hm1⟩ := V.vt h1
      have hlt := posOf_lt hpa
      obtain ⟨rfl, hR⟩ := S.print (hoka rfl) (by simp only [TempNum.toNat]; omega) hpr
      obtain ⟨ops2, hm4, S2⟩ := seg_codeStatement hooks types sigs next _ hnext hint hctx (H.print hb) _ _ _ h3
      refine ⟨_, ⟨_, _, hm1, [.print nl _ (Mock.kindsOf Γ)], _, rfl, ops2, _, hm4, rfl, rfl⟩, ?_⟩
      exact SegG.append (SegG.append (seg_c0 S hooks Γ _) (SegG.single hR)) S2
  | .exit a => fun Γ hty hint hctx hb c body c' h => by
    simp only [codeStatementR, run_bind_ok, run_pure_ok] at h ⊢
    obtain ⟨t, c1, h1, rfl, rfl⟩ := h
    obtain ⟨pa, hpa, rfl, rfl, hoka, hm1⟩ := V.vt h1
    refine ⟨_, ⟨_, _, hm1, rfl, rfl⟩, ?_⟩
    exact SegG.append (SegG.append (seg_c0 S hooks Γ _) (SegG.single (S.movRet (hoka rfl))))
      (SegG.single S.jumpCleanup)
  | .call l args => fun Γ hty hint hctx hb c body c' h => by
    simp only [codeStatementR, run_pure_ok] at h ⊢
    obtain ⟨rfl, rfl⟩ := h
    exact ⟨_, ⟨rfl, rfl⟩, SegG.append (seg_c0 S hooks Γ _) (SegG.single S.jumpLabel)⟩
  | .ifc srt a b t e => fun Γ hty hint hctx hb c body c' h => by
    cases hty with
    | ifc _ hva hvb ht he =>
      simp only [IntStmt] at hint
      simp only [codeStatementR, run_bind_ok, run_pure_ok] at h ⊢
      obtain ⟨num, c1, hnum, c1code, c2, hc1, c2code, c3, h2, c3code, c4, h3, rfl, rfl⟩ := h
      obtain ⟨ops2, hm2, S2⟩ := seg_codeStatement hooks types sigs e _ he hint.2 hctx (H.ifc hb).2 _ _ _ h2
      obtain ⟨ops3, hm3, S3⟩ := seg_codeStatement hooks types sigs t _ ht hint.1 hctx (H.ifc hb).1 _ _ _ h3
      have key : ∃ ops1, (match b with
            | none => do
              let a ← mockSym.variableTemporary .snd Γ a.id
              pure (mockSym.jumpLabelIfZero srt a ("lab" ++ num))
            | some snd => do
              let a ← mockSym.variableTemporary .snd Γ a.id
              let b ← mockSym.variableTemporary .snd Γ snd.id
              pure (mockSym.jumpLabelIf srt a b ("lab" ++ num))).run c1 = .ok (ops1, c2) ∧
          SegG R normal ops1 c1code normal := by
        cases b with
        | none =>
          simp only [run_bind_ok, run_pure_ok] at hc1 ⊢
          obtain ⟨ta, k1, h1, rfl, rfl⟩ := hc1
          obtain ⟨pa, hpa, rfl, rfl, hoka, hm1⟩ := V.vt h1
          exact ⟨_, ⟨_, _, hm1, rfl, rfl⟩, SegG.single (S.jifz (hoka rfl))⟩
        | some b' =>
          simp only [run_bind_ok, run_pure_ok] at hc1 ⊢
          obtain ⟨ta, k1, h1, tb, k2, h2', rfl, rfl⟩ := hc1
          obtain ⟨pa, hpa, rfl, rfl, hoka, hm1⟩ := V.vt h1
          obtain ⟨pb, hpb, rfl, rfl, hokb, hm2'⟩ := V.vt h2'
          exact ⟨_, ⟨_, _, hm1, _, _, hm2', rfl, rfl⟩, SegG.single (S.jif (hoka rfl) (hokb rfl))⟩
      obtain ⟨ops1, hk1, S1⟩ := key
      refine ⟨_, ⟨num, c1, hnum, ops1, c2, hk1, ops2, c3, hm2, ops3, c4, hm3, rfl, rfl⟩, ?_⟩
      exact SegG.append (SegG.append (SegG.append (SegG.append (SegG.append (seg_c0 S hooks Γ _) S1)
        (SegG.single S.comment)) S2) (SegG.append (SegG.single S.label) (SegG.single S.comment))) S3
  | .subst pairs next => fun Γ hty hint hctx hb c body c' h => by
    cases hty with
    | subst hnd hhas hnew hnext =>
      simp only [IntStmt] at hint
      simp only [codeStatementR, run_bind_ok, run_pure_ok] at h ⊢
      obtain ⟨c1code, c1, hc1, c2code, c2, hc2, c3code, c3, h3, rfl, rfl⟩ := h
      have hext : ∀ e ∈ transpose pairs Γ, e.1.chi = .ext :=
        fun e he => hctx e.1 (Scc.Backend.Calls.transpose_keys_mem pairs Γ e he)
      obtain ⟨rfl, rfl⟩ := (cwc_all_ext B Γ _ _ _ _ hext).1 hc1
      obtain ⟨ops2, hm2, S2⟩ := seg_codeExchange O V rfl _ Γ _ (fun e he hne => absurd (hext e he) hne) hc2
      have hctx' : IntCtx (pairs.map (·.1)) := by
        intro b hb'
        obtain ⟨p, hp, rfl⟩ := List.mem_map.mp hb'
        obtain ⟨b0, hb0, _, hchi, _⟩ := hhas p hp
        rw [← hchi]; exact hctx b0 hb0
      obtain ⟨ops3, hm3, S3⟩ := seg_codeStatement hooks types sigs next _ hnext hint hctx' (H.subst hb) _ _ _ h3
      refine ⟨_, ⟨[], c, (cwc_all_ext mockSym Γ _ c [] c hext).2 ⟨rfl, rfl⟩, ops2, c2, hm2, ops3, c3, hm3, rfl, rfl⟩,
        ?_⟩
      simp only [List.append_nil]
      exact SegG.append (SegG.append (seg_c0 S hooks Γ _) S2) S3
  | .letS _ _ _ _ _ _ => fun _ _ hint _ _ _ _ _ _ => absurd hint (by simp [IntStmt])
  | .switch _ _ _ _ => fun _ _ hint _ _ _ _ _ _ => absurd hint (by simp [IntStmt])
  | .create _ _ _ _ _ _ _ => fun _ _ hint _ _ _ _ _ _ => absurd hint (by simp [IntStmt])
  | .invoke _ _ _ _ => fun _ _ hint _ _ _ _ _ _ => absurd hint (by simp [IntStmt])

def SegBlocksG (R : M → MockOp → List C → M → Prop) (normal : M) : List (List MockOp) → List (List C) → Prop
  | [], [] => True
  | a :: as, b :: bs => SegG R normal a b normal ∧ SegBlocksG R normal as bs
  | _, _ => False

include O V S H in
theorem seg_translate (hooks : Bool) (types : List TypeDecl) (sigs : Sigs) :
    ∀ (defs : List Def), (∀ d ∈ defs, LinTyped types sigs d.ctx d.body) →
      (∀ d ∈ defs, IntCtx d.ctx ∧ IntStmt d.body) → (∀ d ∈ defs, L d.body) →
      ∀ (c : Nat) (blocks : List (List C)) (c' : Nat),
        (translateR B hooks natRen types defs).run c = .ok (blocks, c') →
        ∃ blocksM, (translateR mockSym hooks natRen types defs).run c = .ok (blocksM, c') ∧
          SegBlocksG R normal blocksM blocks
  | [], _, _, _, c, blocks, c', h => by
    simp only [translateR, run_pure_ok] at h ⊢
    obtain ⟨rfl, rfl⟩ := h
    exact ⟨[], ⟨rfl, rfl⟩, trivial⟩
  | d :: ds, hty, hint, hb, c, blocks, c', h => by
    simp only [translateR, run_bind_ok, run_pure_ok] at h ⊢
    obtain ⟨is, c1, h1, rest, c2, h2, rfl, rfl⟩ := h
    obtain ⟨ops, hm1, S1⟩ := seg_codeStatement O V S H hooks types sigs d.body d.ctx (hty d (by simp))
      (hint d (by simp)).2 (hint d (by simp)).1 (hb d (by simp)) _ _ _ h1
    obtain ⟨restM, hm2, S2⟩ := seg_translate hooks types sigs ds (fun x hx => hty x (by simp [hx]))
      (fun x hx => hint x (by simp [hx])) (fun x hx => hb x (by simp [hx])) _ _ _ h2
    exact ⟨ops :: restM, ⟨ops, c1, hm1, restM, c2, hm2, rfl, rfl⟩, S1, S2⟩

include S in
theorem seg_assemble : ∀ (blocksM : List (List MockOp)) (blocks : List (List C)) (names : List Ident),
    SegBlocksG R normal blocksM blocks →
    SegG R normal (assemble mockSym blocksM names) (assemble B blocks names) normal
  | [], [], _, _ => by simp only [assemble]; exact SegG.nil _
  | [], _ :: _, _, h => by simp [SegBlocksG] at h
  | _ :: _, [], _, h => by simp [SegBlocksG] at h
  | a :: as, b :: bs, [], _ => by simp only [assemble]; exact SegG.nil _
  | a :: as, b :: bs, n :: ns, h => by
    simp only [assemble]
    exact SegG.cons (blk := [B.label (n.print ++ "_")]) S.label (SegG.append h.1 (seg_assemble as bs ns h.2))

include O V S H in
/-- THE RENDERING THEOREM: whenever the code generator with the backend `B` succeeds on a linearly typed integer
program whose literals are `litOK`, the mock code generator succeeds from the same counter with the same number of
arguments, and the code of `B` is the rendering of the mock code -/
theorem seg_compile (hooks : Bool) (p : AxCut.Prog) (htp : LinTypedProg p) (hip : IntProg p)
    (hL : ∀ d ∈ p.defs, L d.body) {c : Nat} {body : List C} {nargs c' : Nat}
    (hx : (compile B hooks p).run c = .ok ((body, nargs), c')) :
    ∃ ops, (compile mockSym hooks p).run c = .ok ((ops, nargs), c') ∧ SegG R normal ops body normal := by
  unfold compile compileR at hx ⊢
  cases hd : p.defs with
  | nil => rw [hd] at hx; simp [run_throw_ok] at hx
  | cons d0 ds =>
    rw [hd] at hx
    simp only [run_bind_ok, run_pure_ok] at hx ⊢
    obtain ⟨blocks, c1, h1, e1, rfl⟩ := hx
    injection e1 with e1 e2
    obtain ⟨blocksM, hm, Sb⟩ := seg_translate O V S H hooks p.types p.sigs (d0 :: ds)
      (by rw [← hd]; exact htp) (by rw [← hd]; exact hip) (by rw [← hd]; exact hL) _ _ _ h1
    refine ⟨_, ⟨blocksM, c1, hm, by rw [← e2], rfl⟩, ?_⟩
    rw [← e1]
    exact seg_assemble S _ _ _ Sb

end Stmts

end Scc.Backend.Render
