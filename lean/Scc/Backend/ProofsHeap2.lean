/-
  Scc.Backend.ProofsHeap2 — the allocating statements `let` and `create` (ProofsHeap.lean) at the
  strengthened representation relation `RelX` (SimDefs2.lean).  `sim2_create` needs of the annotated
  closure environment only that its KEYS (ids, kinds, types) are those of the context suffix it
  captures.
-/
import Scc.Backend.ProofsSim2

namespace Scc.Backend.Sim2

open Scc.AxCut Scc.AxCut.Pos Scc.Backend.Abs Scc.Backend.Sim

theorem readFields_ok2 {P : Program} {hooks : Bool} {types : List TypeDecl} {h : Heap} {σ : Temps}
    (Δ : Ctx) (ρΔ : List Value) (k : Nat) (S : (valKit2 P hooks types).Slice h σ Δ ρΔ k)
    (hl : ρΔ.length = Δ.length) :
    ∃ fields, readFields σ (Mock.kindsOf Δ) k = some fields ∧ RepF P hooks types h ρΔ fields ∧
      ∀ c, Obj.children ⟨c, fields⟩ = roots.go σ Δ k :=
  let ⟨fields, h1, h2, h3⟩ := readFields_ok Δ ρΔ k S hl
  ⟨fields, h1, repF_of h2, h3⟩

theorem sim2_let {P : Program} {hooks : Bool} {prog : Prog} {Γ : Ctx} {ρ : List Value} {x : Ident}
    {ty : Ty} {tag : Ident} {args : Ctx} {next : Stmt} {fv : FV} {cfg : Config} {pos : Nat}
    (R : RelX P hooks prog ⟨Γ, ρ, .letS x ty tag args next fv⟩ cfg)
    (hk : args.length ≤ Γ.length)
    (hfresh : ∀ b ∈ Γ.take (Γ.length - args.length), b.var.id ≠ x.id)
    (hpos : Pos.tagPosition prog.types ty tag = .ok pos)
    (hcap : 2 * (Γ.length - args.length + 1) + 2 < Mock.T_TEMP)
    (hnext : cfg.next < 2 ^ 64) :
    ∃ cfg', stepsTo P 2 cfg cfg' ∧ cfg'.out = cfg.out ∧ cfg'.next ≤ cfg.next + 1 ∧
      RelX P hooks prog ⟨Γ.take (Γ.length - args.length) ++ [⟨x, .prd, ty⟩],
        ρ.take (Γ.length - args.length) ++ [.obj pos (ρ.drop (Γ.length - args.length))], next⟩ cfg' :=
  let ⟨cfg', h1, h2, h3, h4⟩ := (relX_iff.mp R).letS hk hfresh hpos hcap hnext
  ⟨cfg', h1, h2, h3, relX_iff.mpr h4⟩

/-- `create` with the closure environment annotated with the keys (ids, kinds, types) of the context
    suffix it captures (what `LinTyped` gives) -/
theorem sim2_create {P : Program} {hooks : Bool} {prog : Prog} {Γ : Ctx} {ρ : List Value} {x : Ident}
    {ty : Ty} {Γc : Ctx} {clauses : Clauses} {next : Stmt} {f1 f2 : FV} {cfg : Config}
    (R : RelX P hooks prog ⟨Γ, ρ, .create x ty (some Γc) clauses next f1 f2⟩ cfg)
    (hk : Γc.length ≤ Γ.length)
    (hkeys : Ctx.keys (Γ.drop (Γ.length - Γc.length)) = Γc.keys)
    (hfresh : ∀ b ∈ Γ.take (Γ.length - Γc.length), b.var.id ≠ x.id)
    (hcap : 2 * (Γ.length - Γc.length + 1) + 2 < Mock.T_TEMP)
    (hnext : cfg.next < 2 ^ 64) :
    ∃ cfg', stepsTo P 2 cfg cfg' ∧ cfg'.out = cfg.out ∧ cfg'.next ≤ cfg.next + 1 ∧
      RelX P hooks prog ⟨Γ.take (Γ.length - Γc.length) ++ [⟨x, .cns, ty⟩],
        ρ.take (Γ.length - Γc.length) ++ [.clo Γc (ρ.drop (Γ.length - Γc.length)) clauses], next⟩ cfg' :=
  let ⟨cfg', h1, h2, h3, h4⟩ := (relX_iff.mp R).create hk hkeys hfresh hcap hnext
  ⟨cfg', h1, h2, h3, relX_iff.mpr h4⟩

end Scc.Backend.Sim2
