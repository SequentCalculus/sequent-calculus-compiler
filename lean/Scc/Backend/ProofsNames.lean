/-
  Scc.Backend.ProofsNames — when do two structured label names (`Lbl`, ProofsLabels.lean) render to
  the same string?  `Lbl.render natRen` is injective on every set of labels whose clause labels use
  xtor names from a list `xs` with `safeXtorNames xs = true`:
    (a,b) the last `_`-separated segment of every xtor name is not a (possibly empty) digit string
          [excludes: empty name, name ending in `_`, `…_<digits>`, `<digits>`];
    (c)   no xtor name is `<something>_<another xtor name of xs>`.
  These are the real collision conditions: for each way they fail, Props/C14Generic.lean contains a
  program whose output defines one label twice.  At the end: the hypothesis on names of C14-T3,
  `C14Generic.LabelSafe` (stated here because the theorem about all backends, ProofsLabelsGen.lean, needs it).
-/
import Scc.Backend.ProofsLabels

namespace Scc.Backend

/-- the part after the last underscore (everything, if there is none) -/
def lastSeg (cs : List Char) : List Char := (cs.reverse.takeWhile (· != '_')).reverse

/-- (a,b): the last segment is not a (possibly empty) string of digits -/
def goodXtorName (x : String) : Bool := !(lastSeg x.toList).all Char.isDigit

/-- (c): `x'` preceded by an underscore is a suffix of `x` -/
def uSuffix (x' x : String) : Bool := ('_' :: x'.toList).isSuffixOf x.toList

/-- the decidable safety condition on the printed xtor names of a program -/
def safeXtorNames (xs : List String) : Bool :=
  xs.all goodXtorName && xs.all fun x => xs.all fun x' => !uSuffix x' x

theorem takeWhile_append_of_not {α : Type} (p : α → Bool) (l : List α) (x : α) (r : List α)
    (hx : p x = false) : (l ++ x :: r).takeWhile p = l.takeWhile p := by
  induction l with
  | nil => simp [List.takeWhile, hx]
  | cons a l ih =>
    simp only [List.cons_append, List.takeWhile_cons]
    split
    · rw [ih]
    · rfl

theorem takeWhile_eq_self {α : Type} (p : α → Bool) (l : List α) (h : ∀ a ∈ l, p a = true) :
    l.takeWhile p = l := by
  induction l with
  | nil => rfl
  | cons a l ih =>
    simp only [List.takeWhile_cons, h a (by simp), if_true]
    rw [ih (fun b hb => h b (by simp [hb]))]

theorem lastSeg_append_u (a r : List Char) : lastSeg (a ++ '_' :: r) = lastSeg r := by
  unfold lastSeg
  simp only [List.reverse_append, List.reverse_cons, List.append_assoc, List.singleton_append]
  rw [takeWhile_append_of_not _ _ _ _ (by decide)]

theorem lastSeg_of_no_u (r : List Char) (h : '_' ∉ r) : lastSeg r = r := by
  unfold lastSeg
  rw [takeWhile_eq_self, List.reverse_reverse]
  intro a ha
  have : a ∈ r := by simpa using ha
  simp only [bne_iff_ne, ne_eq]
  intro e; subst e; exact h this

theorem lastSeg_snoc_u (a : List Char) : lastSeg (a ++ ['_']) = [] := by
  rw [lastSeg_append_u]; rfl

/-- splitting at the last underscore is unique -/
theorem split_last_u {a a' r r' : List Char} (h : a ++ '_' :: r = a' ++ '_' :: r')
    (hr : '_' ∉ r) (hr' : '_' ∉ r') : a = a' ∧ r = r' := by
  rcases List.append_eq_append_iff.mp h with ⟨as, h1, h2⟩ | ⟨bs, h1, h2⟩
  · cases as with
    | nil => simp at h1 h2; exact ⟨h1.symm, h2⟩
    | cons c as =>
      simp only [List.cons_append, List.cons.injEq] at h2
      obtain ⟨rfl, h2⟩ := h2
      exfalso; apply hr; rw [h2]; simp
  · cases bs with
    | nil => simp at h1 h2; exact ⟨h1, h2.symm⟩
    | cons c bs =>
      simp only [List.cons_append, List.cons.injEq] at h2
      obtain ⟨rfl, h2⟩ := h2
      exfalso; apply hr'; rw [h2]; simp

theorem toString_toList (n : Nat) : (toString n).toList = Nat.toDigits 10 n := Nat.toList_repr

theorem toDigits_inj {n m : Nat} (h : Nat.toDigits 10 n = Nat.toDigits 10 m) : n = m := by
  have h1 := @Nat.ofDigitChars_ten_toDigits n
  have h2 := @Nat.ofDigitChars_ten_toDigits m
  rw [h] at h1
  omega

theorem toDigits_all_digit (n : Nat) : (Nat.toDigits 10 n).all Char.isDigit = true := by
  rw [List.all_eq_true]
  intro c hc
  exact Nat.isDigit_of_mem_toDigits (by decide) (by decide) hc

theorem render_defn (f : String) : (Lbl.render natRen (.defn f)).toList = f.toList ++ ['_'] := by
  simp [Lbl.render, String.toList_append]

theorem render_lab (n : Nat) :
    (Lbl.render natRen (.lab n)).toList = 'l' :: 'a' :: 'b' :: Nat.toDigits 10 n := by
  simp [Lbl.render, String.toList_append, natRen]

theorem render_base (m : String) (n : Nat) :
    (Lbl.render natRen (.base m n)).toList = m.toList ++ '_' :: Nat.toDigits 10 n := by
  simp [Lbl.render, String.toList_append, natRen]

theorem render_clause (m : String) (n : Nat) (x : String) :
    (Lbl.render natRen (.clause m n x)).toList =
      (m.toList ++ '_' :: Nat.toDigits 10 n) ++ '_' :: x.toList := by
  simp [Lbl.render, String.toList_append, natRen]

theorem render_cleanup : (Lbl.render natRen .cleanup).toList = ['c','l','e','a','n','u','p'] := by
  decide

theorem ne_of_u_mem {a b : List Char} (ha : '_' ∈ a) (hb : '_' ∉ b) : a ≠ b :=
  fun e => hb (e ▸ ha)

theorem u_mem_defn (f : String) : '_' ∈ (Lbl.render natRen (.defn f)).toList := by
  rw [render_defn]; simp

theorem u_mem_base (m : String) (n : Nat) : '_' ∈ (Lbl.render natRen (.base m n)).toList := by
  rw [render_base]; simp

theorem u_mem_clause (m : String) (n : Nat) (x : String) :
    '_' ∈ (Lbl.render natRen (.clause m n x)).toList := by
  rw [render_clause]; simp

theorem u_not_mem_lab (n : Nat) : '_' ∉ (Lbl.render natRen (.lab n)).toList := by
  rw [render_lab]
  simp only [List.mem_cons, not_or]
  exact ⟨by decide, by decide, by decide, Nat.underscore_not_in_toDigits⟩

theorem u_not_mem_cleanup : '_' ∉ (Lbl.render natRen .cleanup).toList := by
  rw [render_cleanup]; decide

theorem lastSeg_defn (f : String) : lastSeg (Lbl.render natRen (.defn f)).toList = [] := by
  rw [render_defn, lastSeg_snoc_u]

theorem lastSeg_base (m : String) (n : Nat) :
    lastSeg (Lbl.render natRen (.base m n)).toList = Nat.toDigits 10 n := by
  rw [render_base, lastSeg_append_u, lastSeg_of_no_u _ Nat.underscore_not_in_toDigits]

theorem lastSeg_clause (m : String) (n : Nat) (x : String) :
    lastSeg (Lbl.render natRen (.clause m n x)).toList = lastSeg x.toList := by
  rw [render_clause, lastSeg_append_u]

/-- clause labels use xtor names from `xs` -/
def Lbl.xtorIn (xs : List String) : Lbl → Prop
  | .clause _ _ x => x ∈ xs
  | _ => True

theorem render_inj (xs : List String) (hs : safeXtorNames xs = true) (l1 l2 : Lbl)
    (h1 : l1.xtorIn xs) (h2 : l2.xtorIn xs)
    (h : Lbl.render natRen l1 = Lbl.render natRen l2) : l1 = l2 := by
  have hl : (Lbl.render natRen l1).toList = (Lbl.render natRen l2).toList := by rw [h]
  simp only [safeXtorNames, Bool.and_eq_true, List.all_eq_true] at hs
  obtain ⟨hgood, hsuf⟩ := hs
  have good : ∀ x ∈ xs, (lastSeg x.toList).all Char.isDigit = false := by
    intro x hx
    have := hgood x hx
    simpa [goodXtorName] using this
  cases l1 with
  | defn f =>
    cases l2 with
    | defn f' =>
      rw [render_defn, render_defn] at hl
      have := List.append_cancel_right hl
      rw [String.toList_inj] at this
      rw [this]
    | cleanup => exact absurd hl (ne_of_u_mem (u_mem_defn f) u_not_mem_cleanup)
    | lab n => exact absurd hl (ne_of_u_mem (u_mem_defn f) (u_not_mem_lab n))
    | base m n =>
      have := congrArg lastSeg hl
      rw [lastSeg_defn, lastSeg_base] at this
      exact absurd this.symm Nat.toDigits_ne_nil
    | clause m n x =>
      have := congrArg lastSeg hl
      rw [lastSeg_defn, lastSeg_clause] at this
      have g := good x h2
      rw [← this] at g
      simp at g
  | cleanup =>
    cases l2 with
    | defn f => exact absurd hl.symm (ne_of_u_mem (u_mem_defn f) u_not_mem_cleanup)
    | cleanup => rfl
    | lab n =>
      rw [render_cleanup, render_lab] at hl
      exact absurd (List.cons.inj hl).1 (by decide)
    | base m n => exact absurd hl.symm (ne_of_u_mem (u_mem_base m n) u_not_mem_cleanup)
    | clause m n x => exact absurd hl.symm (ne_of_u_mem (u_mem_clause m n x) u_not_mem_cleanup)
  | lab n =>
    cases l2 with
    | defn f => exact absurd hl.symm (ne_of_u_mem (u_mem_defn f) (u_not_mem_lab n))
    | cleanup =>
      rw [render_cleanup, render_lab] at hl
      exact absurd (List.cons.inj hl).1 (by decide)
    | lab n' =>
      rw [render_lab, render_lab] at hl
      simp only [List.cons.injEq, true_and] at hl
      rw [toDigits_inj hl]
    | base m n' => exact absurd hl.symm (ne_of_u_mem (u_mem_base m n') (u_not_mem_lab n))
    | clause m n' x => exact absurd hl.symm (ne_of_u_mem (u_mem_clause m n' x) (u_not_mem_lab n))
  | base m n =>
    cases l2 with
    | defn f =>
      have := congrArg lastSeg hl
      rw [lastSeg_defn, lastSeg_base] at this
      exact absurd this Nat.toDigits_ne_nil
    | cleanup => exact absurd hl (ne_of_u_mem (u_mem_base m n) u_not_mem_cleanup)
    | lab n' => exact absurd hl (ne_of_u_mem (u_mem_base m n) (u_not_mem_lab n'))
    | base m' n' =>
      rw [render_base, render_base] at hl
      obtain ⟨e1, e2⟩ := split_last_u hl Nat.underscore_not_in_toDigits Nat.underscore_not_in_toDigits
      rw [String.toList_inj] at e1
      rw [e1, toDigits_inj e2]
    | clause m' n' x =>
      have := congrArg lastSeg hl
      rw [lastSeg_base, lastSeg_clause] at this
      have g := good x h2
      rw [← this, toDigits_all_digit] at g
      cases g
  | clause m n x =>
    cases l2 with
    | defn f =>
      have := congrArg lastSeg hl
      rw [lastSeg_defn, lastSeg_clause] at this
      have g := good x h1
      rw [this] at g
      simp at g
    | cleanup => exact absurd hl (ne_of_u_mem (u_mem_clause m n x) u_not_mem_cleanup)
    | lab n' => exact absurd hl (ne_of_u_mem (u_mem_clause m n x) (u_not_mem_lab n'))
    | base m' n' =>
      have := congrArg lastSeg hl
      rw [lastSeg_base, lastSeg_clause] at this
      have g := good x h1
      rw [this, toDigits_all_digit] at g
      cases g
    | clause m' n' x' =>
      rw [render_clause, render_clause] at hl
      have key : x.toList = x'.toList ∧
          m.toList ++ '_' :: Nat.toDigits 10 n = m'.toList ++ '_' :: Nat.toDigits 10 n' := by
        rcases List.append_eq_append_iff.mp hl with ⟨as, e1, e2⟩ | ⟨bs, e1, e2⟩
        · -- (m'…n') = (m…n) ++ as,  '_' :: x = as ++ '_' :: x'
          cases as with
          | nil => simp at e1 e2; exact ⟨e2, e1.symm⟩
          | cons c as =>
            simp only [List.cons_append, List.cons.injEq] at e2
            obtain ⟨rfl, e2⟩ := e2
            exfalso
            have := hsuf x h1 x' h2
            simp only [uSuffix, Bool.not_eq_eq_eq_not, Bool.not_true, ← Bool.not_eq_true, List.isSuffixOf_iff_suffix] at this
            exact this ⟨as, e2.symm⟩
        · cases bs with
          | nil => simp at e1 e2; exact ⟨e2.symm, e1⟩
          | cons c bs =>
            simp only [List.cons_append, List.cons.injEq] at e2
            obtain ⟨rfl, e2⟩ := e2
            exfalso
            have := hsuf x' h2 x h1
            simp only [uSuffix, Bool.not_eq_eq_eq_not, Bool.not_true, ← Bool.not_eq_true, List.isSuffixOf_iff_suffix] at this
            exact this ⟨bs, e2.symm⟩
      obtain ⟨ex, em⟩ := key
      obtain ⟨e1, e2⟩ := split_last_u em Nat.underscore_not_in_toDigits Nat.underscore_not_in_toDigits
      rw [String.toList_inj] at e1 ex
      rw [e1, ex, toDigits_inj e2]

end Scc.Backend

namespace Scc.Props.C14Generic

open Scc.AxCut Scc.Backend

def progXtorNames (p : Prog) : List String := defsXtorNames p.defs

/-- The decidable hypothesis on names:
    1. the printed names of the definitions are pairwise distinct;
    2. in every clause list the printed xtor names are pairwise distinct;
    3. `safeXtorNames`: the last `_`-segment of every xtor name is (a) not empty and (b) not a digit string
       (`goodXtorName`), and (c) no xtor name is `<something>_<another xtor name>` (`uSuffix`). -/
def LabelSafe (p : Prog) : Bool :=
  decide (p.defs.map (·.name.print)).Nodup &&
  p.defs.all (fun d => stmtXtorsDistinct d.body) &&
  safeXtorNames (progXtorNames p)

end Scc.Props.C14Generic
