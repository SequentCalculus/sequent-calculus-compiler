/-
  Scc.Backend.ProofsAbsStep — inversion of one step of the abstract backend machine (AbstractMachine.lean):
  a step that goes on or halts read the temporaries it needed, and only `jumplabel cleanup` halts with a result;
  what `mov`, `save`, `restore` do; `evalBinOp` is `Pos.evalOp` where it succeeds; the temporaries the initial
  configuration holds.
-/
import Scc.Backend.AbstractMachine
import Scc.AxCut.SemPos

namespace Scc.Backend.Abs

open Scc.AxCut

theorem getT_next {σ : Temps} {t : Nat} {k : Word → StepRes} {c' : Config}
    (h : getT σ t k = .next c') : ∃ v, σ.get t = some v ∧ k v = .next c' := by
  unfold getT at h
  cases hv : σ.get t with
  | none => simp [hv, stuck] at h
  | some v => simp only [hv] at h; exact ⟨v, rfl, h⟩

theorem getT_done {σ : Temps} {t : Nat} {k : Word → StepRes} {w : Word}
    (h : getT σ t k = .halt (.done w)) : ∃ v, σ.get t = some v ∧ k v = .halt (.done w) := by
  unfold getT at h
  cases hv : σ.get t with
  | none => simp [hv, stuck] at h
  | some v => simp only [hv] at h; exact ⟨v, rfl, h⟩

theorem step_done_inv {P : Program} {cfg : Config} {op : MockOp} {v : Word}
    (hf : P.code[cfg.pc]? = some op) (hs : Abs.step P cfg = .halt (.done v)) :
    op = .jumpLabel "cleanup" ∧ cfg.temps.get Mock.T_RET1 = some v := by
  simp only [Abs.step, hf] at hs
  cases op <;> simp only [] at hs
  case jumpLabel n =>
    by_cases hn : (n == "cleanup") = true
    · rw [if_pos hn] at hs
      obtain ⟨w, hw, hk⟩ := getT_done hs
      injection hk with hk
      injection hk with hk
      simp only [beq_iff_eq] at hn
      rw [hn]
      refine ⟨rfl, ?_⟩
      rw [← hk]; exact hw
    · rw [if_neg hn] at hs
      unfold jumpTo at hs
      split at hs <;> simp [stuck] at hs
  all_goals (first | (simp [getT, stuck, jumpTo] at hs; done) | skip)
  all_goals
    repeat' (first
      | (have hd := getT_done hs; clear hs; obtain ⟨_, _, hs⟩ := hd)
      | (unfold jumpTo at hs)
      | (split at hs)
      | (simp [stuck] at hs; done))

theorem step_mov' (P : Program) (cfg : Config) (t s : Nat)
    (hc : P.code[cfg.pc]? = some (.mov t s)) (ht : t ≠ Mock.T_TEMP) :
    Abs.step P cfg = .next
      { cfg with pc := cfg.pc + 1, temps := (clobberTemp cfg.temps).put t (cfg.temps.get s) } := by
  have : (t == Abs.T_TEMP) = false := by simp [Abs.T_TEMP, ht]
  simp [Abs.step, hc, this]

theorem step_save' (P : Program) (cfg : Config) (t : Nat) (sp : Bool)
    (hc : P.code[cfg.pc]? = some (.save t sp)) :
    Abs.step P cfg = .next
      { cfg with pc := cfg.pc + 1, temps := clobberTemp cfg.temps, scratch := cfg.temps.get t } := by
  simp [Abs.step, hc]

theorem step_restore' (P : Program) (cfg : Config) (t : Nat) (sp : Bool)
    (hc : P.code[cfg.pc]? = some (.restore t sp)) (ht : t ≠ Mock.T_TEMP) :
    Abs.step P cfg = .next
      { cfg with pc := cfg.pc + 1, temps := (clobberTemp cfg.temps).put t cfg.scratch } := by
  have : (t == Abs.T_TEMP) = false := by simp [Abs.T_TEMP, ht]
  simp [Abs.step, hc, this]

theorem evalOp_of_evalBinOp {o : BinOp} {a b v : Word} (h : Abs.evalBinOp o a b = .ok v) :
    Pos.evalOp o a b = .ok v := by
  cases o with
  | sum => simp only [Abs.evalBinOp] at h; cases h; rfl
  | sub => simp only [Abs.evalBinOp] at h; cases h; rfl
  | prod => simp only [Abs.evalBinOp] at h; cases h; rfl
  | div =>
    simp only [Abs.evalBinOp, beq_iff_eq, Bool.and_eq_true, Abs.minWord] at h
    split at h
    · cases h
    · split at h
      · cases h
      · cases h
        rename_i hb ho
        have ho' : ¬ (a = Pos.minInt ∧ b = -1) := ho
        simp only [Pos.evalOp, if_neg hb, if_neg ho']
  | rem =>
    simp only [Abs.evalBinOp, beq_iff_eq, Bool.and_eq_true, Abs.minWord] at h
    split at h
    · cases h
    · split at h
      · cases h
      · cases h
        rename_i hb ho
        have ho' : ¬ (a = Pos.minInt ∧ b = -1) := ho
        simp only [Pos.evalOp, if_neg hb, if_neg ho']

theorem initTemps_get_inv : ∀ (args : List Word) (k t : Nat) (v : Word),
    (initTemps args k).get t = some v → ∃ i, ∃ (hi : i < args.length), t = 2 * (k + i) + 1 ∧ v = args[i]
  | [], k, t, v, h => by simp [initTemps, Temps.get] at h
  | w :: ws, k, t, v, h => by
    simp only [initTemps, Temps.get, List.find?_cons] at h
    by_cases e : (2 * k + 1 == t) = true
    · simp only [e] at h
      simp only [beq_iff_eq] at e
      injection h with h
      exact ⟨0, by simp, by omega, by simp [h]⟩
    · simp only [e] at h
      obtain ⟨i, hi, ht, hv⟩ := initTemps_get_inv ws (k + 1) t v h
      exact ⟨i + 1, by simpa using hi, by omega, by simpa using hv⟩

end Scc.Backend.Abs
