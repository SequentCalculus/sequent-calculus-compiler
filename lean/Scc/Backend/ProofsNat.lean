/-
  Scc.Backend.ProofsNat — naturality of the generic code generator in the code type: running it with
  the backend `B.mapCode f` gives the `f`-image of running it with `B` (same counter, same panics).
  Consequence: the text produced with `mock` (`Code := String`, what is compared with the harness)
  is `MockOp.render` applied to the structured code produced with `mockSym` (what the theorems are
  about).
-/
import Scc.Backend.TotalPM

namespace Scc.Backend

open Scc.AxCut

/-- map the result value of a run -/
def mapRun {α β : Type} (g : α → β) : Except String (α × Nat) → Except String (β × Nat)
  | .ok (a, k) => .ok (g a, k)
  | .error e => .error e

/-- `m'` computes the `g`-image of what `m` computes -/
structure Img {α β : Type} (g : α → β) (m : GenM α) (m' : GenM β) : Prop where
  run : ∀ c, m'.run c = mapRun g (m.run c)

theorem Img_pure {α β : Type} (g : α → β) (a : α) : Img g (pure a : GenM α) (pure (g a)) :=
  ⟨fun _ => rfl⟩

theorem Img_pure' {α β : Type} (g : α → β) (a : α) (b : β) (h : b = g a) :
    Img g (pure a : GenM α) (pure b) := by subst h; exact Img_pure g a

theorem Img_throw {α β : Type} (g : α → β) (e : String) : Img g (throw e : GenM α) (throw e) :=
  ⟨fun _ => rfl⟩

theorem Img_id {α : Type} (m : GenM α) : Img id m m := by
  constructor; intro c
  cases h : m.run c with
  | error e => rfl
  | ok r => obtain ⟨a, k⟩ := r; rfl

theorem Img_bind {α α' β β' : Type} (g : α → α') (h : β → β') (m : GenM α) (m' : GenM α')
    (k : α → GenM β) (k' : α' → GenM β')
    (hm : Img g m m') (hk : ∀ a, Img h (k a) (k' (g a))) : Img h (m >>= k) (m' >>= k') := by
  constructor; intro c
  simp only [StateT.run_bind]
  rw [hm.run c]
  cases hx : m.run c with
  | error e => rfl
  | ok r =>
    obtain ⟨a, k1⟩ := r
    simp only [mapRun, bind, Except.bind]
    exact (hk a).run k1

theorem Img_ite {α β : Type} (g : α → β) (c : Prop) [Decidable c] (m1 m2 : GenM α) (m1' m2' : GenM β)
    (h1 : Img g m1 m1') (h2 : Img g m2 m2') :
    Img g (if c then m1 else m2) (if c then m1' else m2') := by
  by_cases h : c <;> simp only [h, if_true, if_false] <;> assumption

section
variable {Code Code' T : Type} (B : Backend Code T) (f : Code → Code')

@[simp] theorem mapCode_variableTemporary : (B.mapCode f).variableTemporary = B.variableTemporary := rfl
@[simp] theorem mapCode_comment (m : String) : (B.mapCode f).comment m = f (B.comment m) := rfl
@[simp] theorem mapCode_label (m : String) : (B.mapCode f).label m = f (B.label m) := rfl
@[simp] theorem mapCode_jump (t : T) : (B.mapCode f).jump t = (B.jump t).map f := rfl
@[simp] theorem mapCode_jumpLabel (n : String) : (B.mapCode f).jumpLabel n = (B.jumpLabel n).map f := rfl
@[simp] theorem mapCode_jumpLabelFixed (n : String) :
    (B.mapCode f).jumpLabelFixed n = (B.jumpLabelFixed n).map f := rfl
@[simp] theorem mapCode_jumpLabelIf (c : IfSort) (a b : T) (n : String) :
    (B.mapCode f).jumpLabelIf c a b n = (B.jumpLabelIf c a b n).map f := rfl
@[simp] theorem mapCode_jumpLabelIfZero (c : IfSort) (a : T) (n : String) :
    (B.mapCode f).jumpLabelIfZero c a n = (B.jumpLabelIfZero c a n).map f := rfl
@[simp] theorem mapCode_loadImmediate (t : T) (i : Int) :
    (B.mapCode f).loadImmediate t i = (B.loadImmediate t i).map f := rfl
@[simp] theorem mapCode_loadLabel (t : T) (n : String) :
    (B.mapCode f).loadLabel t n = (B.loadLabel t n).map f := rfl
@[simp] theorem mapCode_addAndJump (t : T) (i : Int) :
    (B.mapCode f).addAndJump t i = (B.addAndJump t i).map f := rfl
@[simp] theorem mapCode_binop (o : BinOp) (t a b : T) :
    (B.mapCode f).binop o t a b = (B.binop o t a b).map f := rfl
@[simp] theorem mapCode_mov (t s : T) : (B.mapCode f).mov t s = (B.mov t s).map f := rfl
@[simp] theorem mapCode_temp : (B.mapCode f).temp = B.temp := rfl
@[simp] theorem mapCode_return1 : (B.mapCode f).return1 = B.return1 := rfl
@[simp] theorem mapCode_jumpLength : (B.mapCode f).jumpLength = B.jumpLength := rfl
@[simp] theorem mapCode_printI64 (nl : Bool) (t : T) (c : Ctx) :
    (B.mapCode f).printI64 nl t c = (fun l => l.map f) <$> B.printI64 nl t c := rfl
@[simp] theorem mapCode_eraseBlock (t : T) :
    (B.mapCode f).eraseBlock t = (fun l => l.map f) <$> B.eraseBlock t := rfl
@[simp] theorem mapCode_shareBlockN (t : T) (n : Nat) :
    (B.mapCode f).shareBlockN t n = (fun l => l.map f) <$> B.shareBlockN t n := rfl
@[simp] theorem mapCode_store (a b : Ctx) :
    (B.mapCode f).store a b = (fun l => l.map f) <$> B.store a b := rfl
@[simp] theorem mapCode_load (a b : Ctx) :
    (B.mapCode f).load a b = (fun l => l.map f) <$> B.load a b := rfl
@[simp] theorem mapCode_tempLt : (B.mapCode f).tempLt = B.tempLt := rfl
@[simp] theorem mapCode_tempEq : (B.mapCode f).tempEq = B.tempEq := rfl

/-! ### the pure parts -/

theorem mapCode_tempCmp : tempCmp (B.mapCode f) = tempCmp B := rfl
theorem mapCode_setInsert (t : T) : ∀ (l : List T), setInsert (B.mapCode f) t l = setInsert B t l
  | [] => rfl
  | t' :: rest => by
    simp only [setInsert, mapCode_tempCmp, mapCode_setInsert t rest]

theorem mapCode_setOfList : setOfList (B.mapCode f) = setOfList B := by
  funext ts
  unfold setOfList
  have : (fun s t => setInsert (B.mapCode f) t s) = (fun s t => setInsert B t s) := by
    funext s t; exact mapCode_setInsert B f t s
  rw [this]

theorem mapCode_spanningTree (pm : List (T × List T)) (root : T) : ∀ (fuel : Nat) (node : T),
    spanningTree (B.mapCode f) pm root fuel node = spanningTree B pm root fuel node
  | 0, _ => rfl
  | fuel + 1, node => by
    have ih : spanningTree (B.mapCode f) pm root fuel = spanningTree B pm root fuel :=
      funext (mapCode_spanningTree pm root fuel)
    simp only [spanningTree, mapCode_tempEq, mapLookup, ih]

theorem mapCode_spanningTree' (pm : List (T × List T)) (root : T) (fuel : Nat) :
    spanningTree (B.mapCode f) pm root fuel = spanningTree B pm root fuel :=
  funext (mapCode_spanningTree B f pm root fuel)

theorem mapCode_spanningForestLoop (fuel : Nat) : ∀ (keys : List T) (pm : List (T × List T)),
    spanningForestLoop (B.mapCode f) fuel keys pm = spanningForestLoop B fuel keys pm
  | [], _ => rfl
  | t :: keys, pm => by
    have ih : spanningForestLoop (B.mapCode f) fuel keys = spanningForestLoop B fuel keys :=
      funext (mapCode_spanningForestLoop fuel keys)
    simp only [spanningForestLoop, mapLookup, mapCode_tempEq, mapCode_spanningTree', deleteTargets,
      memT, ih]

mutual
theorem mapCode_treeMoves (t : T) (sp : Bool) : ∀ (tr : Tree T),
    treeMoves (B.mapCode f) t sp tr = (treeMoves B t sp tr).map f
  | .backEdge => rfl
  | .node target kids => by
    simp only [treeMoves, List.map_append, mapCode_treeMovesList target sp kids]
    rfl
theorem mapCode_treeMovesList (t : T) (sp : Bool) : ∀ (trs : List (Tree T)),
    treeMovesList (B.mapCode f) t sp trs = (treeMovesList B t sp trs).map f
  | [] => rfl
  | k :: ks => by
    simp only [treeMovesList, List.map_append, mapCode_treeMoves t sp k, mapCode_treeMovesList t sp ks]
end

theorem mapCode_rootMoves (r : Root T) : rootMoves (B.mapCode f) r = (rootMoves B r).map f := by
  cases r with
  | startNode t kids =>
    simp only [rootMoves, List.map_append, mapCode_treeMovesList]
    have : (B.mapCode f).containsSpillEdge = B.containsSpillEdge := rfl
    rw [this]
    split
    · rfl
    · rfl

theorem mapCode_rootMoves' : rootMoves (B.mapCode f) = fun r => (rootMoves B r).map f :=
  funext (mapCode_rootMoves B f)

theorem mapCode_parallelMoves (conns : List (T × List T)) :
    parallelMoves (B.mapCode f) conns = (parallelMoves B conns).map (List.map f) := by
  unfold parallelMoves spanningForest
  rw [mapCode_spanningForestLoop]
  have : allNodes (B.mapCode f) conns = allNodes B conns := rfl
  rw [this]
  cases spanningForestLoop B ((allNodes B conns).length + 1) (conns.map (·.1)) conns with
  | error e => rfl
  | ok forest =>
    simp only [Except.map, List.map_append, List.map_flatten, List.map_map, mapCode_rootMoves',
      mapCode_comment]
    split <;> rfl

theorem mapCode_hookCode (hooks : Bool) (ctx : Ctx) :
    hookCode (B.mapCode f) hooks ctx = (hookCode B hooks ctx).map f := by
  unfold hookCode; cases hooks <;> rfl

theorem mapCode_codeTable (base : String) : ∀ (cs : Clauses),
    codeTable (B.mapCode f) cs base = (codeTable B cs base).map f
  | .nil => rfl
  | .cons x _ _ rest => by
    simp only [codeTable, List.map_append, mapCode_codeTable base rest]
    rfl

/-! ### the monadic parts -/

theorem mapCode_connections (tm : List (Binding × List Nat)) (context newContext : Ctx) :
    connections (B.mapCode f) tm context newContext = connections B tm context newContext := by
  unfold connections
  have key : ∀ (tm : List (Binding × List Nat)) (acc : List (T × List T)),
      connections.go (B.mapCode f) context newContext tm acc =
        connections.go B context newContext tm acc := by
    intro tm
    induction tm with
    | nil => intro acc; rfl
    | cons e rest ih =>
      intro acc
      obtain ⟨binding, targets⟩ := e
      simp only [connections.go, mapCode_variableTemporary, ih, mapCode_tempCmp, mapCode_setOfList]
  exact key tm []

theorem Img_codeExchange (tm : List (Binding × List Nat)) (context newContext : Ctx) :
    Img (List.map f) (codeExchange B tm context newContext)
      (codeExchange (B.mapCode f) tm context newContext) := by
  unfold codeExchange
  rw [mapCode_connections]
  apply Img_bind id (List.map f) _ _ _ _ (Img_id _)
  intro conns
  simp only [id, mapCode_parallelMoves]
  cases parallelMoves B conns with
  | error e => exact Img_throw _ _
  | ok code => exact Img_pure _ _

omit B in
theorem Img_mapped (m : GenM (List Code)) :
    Img (List.map f) m ((fun l => l.map f) <$> m) := by
  constructor; intro c
  show ((fun l => List.map f l) <$> m).run c = _
  simp only [StateT.run_map]
  cases m.run c with
  | error e => rfl
  | ok r => obtain ⟨a, k⟩ := r; rfl

theorem Img_updateReferenceCount (v : Ident) (context : Ctx) (n : Nat) :
    Img (List.map f) (updateReferenceCount B v context n)
      (updateReferenceCount (B.mapCode f) v context n) := by
  unfold updateReferenceCount
  apply Img_bind id (List.map f) _ _ _ _ (Img_id _)
  intro t
  match n with
  | 0 =>
    apply Img_bind (List.map f) (List.map f) _ _ _ _ (Img_mapped f _)
    intro code
    exact Img_pure _ _
  | 1 => exact Img_pure _ _
  | n + 2 =>
    apply Img_bind (List.map f) (List.map f) _ _ _ _ (Img_mapped f _)
    intro code
    exact Img_pure _ _

theorem Img_codeWeakeningContraction (context : Ctx) : ∀ (tm : List (Binding × List Nat)),
    Img (List.map f) (codeWeakeningContraction B tm context)
      (codeWeakeningContraction (B.mapCode f) tm context)
  | [] => Img_pure _ _
  | (binding, targets) :: rest => by
    unfold codeWeakeningContraction
    apply Img_bind (List.map f) (List.map f)
    · apply Img_ite
      · exact Img_updateReferenceCount B f ..
      · exact Img_pure _ _
    · intro code
      apply Img_bind (List.map f) (List.map f) _ _ _ _ (Img_codeWeakeningContraction context rest)
      intro codeRest
      apply Img_pure'; simp

/-! ### the generator -/

mutual
theorem Img_codeStatementR (hooks : Bool) (ren : Nat → String) (types : List TypeDecl) :
    ∀ (s : Stmt) (context : Ctx),
      Img (List.map f) (codeStatementR B hooks ren types s context)
        (codeStatementR (B.mapCode f) hooks ren types s context)
  | .subst rearrange next, context => by
    simp only [codeStatementR]
    apply Img_bind (List.map f) _ _ _ _ _ (Img_codeWeakeningContraction B f ..); intro c1
    apply Img_bind (List.map f) _ _ _ _ _ (Img_codeExchange B f ..); intro c2
    apply Img_bind (List.map f) _ _ _ _ _ (Img_codeStatementR hooks ren types next _); intro c3
    apply Img_pure'; simp [mapCode_hookCode]
  | .call label args, context => by
    simp only [codeStatementR]
    apply Img_pure'; simp [mapCode_hookCode]
  | .letS var ty tag args next fv, context => by
    simp only [codeStatementR]
    apply Img_bind id _ _ _ _ _ (Img_id _); intro decl
    apply Img_bind id _ _ _ _ _ (Img_id _); intro pos
    apply Img_bind id _ _ _ _ _ (Img_id _); intro sp
    obtain ⟨context1, arguments⟩ := sp
    simp only [id]
    apply Img_bind (List.map f) _ _ _ _ _ (Img_mapped f _); intro c1
    apply Img_bind id _ _ _ _ _ (Img_id _); intro t
    apply Img_bind (List.map f) _ _ _ _ _ (Img_codeStatementR hooks ren types next _); intro c3
    apply Img_pure'; simp [mapCode_hookCode]
  | .switch var ty clauses fv, context => by
    simp only [codeStatementR]
    apply Img_bind id _ _ _ _ _ (Img_id _); intro num
    simp only [id]
    apply Img_bind (List.map f)
    · apply Img_ite
      · apply Img_pure'; simp
      · apply Img_bind id _ _ _ _ _ (Img_id _); intro t
        apply Img_pure'; simp
    · intro c1
      apply Img_bind (List.map f) _ _ _ _ _ (Img_codeClausesR hooks ren types _ clauses _); intro c3
      apply Img_pure'
      by_cases hn : clauses.length > 1 <;> simp [mapCode_hookCode, mapCode_codeTable, hn]
  | .create var ty env clauses next fv1 fv2, context => by
    cases env with
    | none => simp only [codeStatementR]; exact Img_throw _ _
    | some envCtx =>
      simp only [codeStatementR]
      apply Img_bind id _ _ _ _ _ (Img_id _); intro sp
      obtain ⟨context1, closureEnvironment⟩ := sp
      simp only [id]
      apply Img_bind (List.map f) _ _ _ _ _ (Img_mapped f _); intro c1
      apply Img_bind id _ _ _ _ _ (Img_id _); intro num
      apply Img_bind id _ _ _ _ _ (Img_id _); intro t
      simp only [id]
      apply Img_bind (List.map f) _ _ _ _ _ (Img_codeStatementR hooks ren types next _); intro c3
      apply Img_bind (List.map f) _ _ _ _ _ (Img_codeMethodsR hooks ren types _ clauses _); intro c5
      apply Img_pure'
      by_cases hn : clauses.length > 1 <;> simp [mapCode_hookCode, mapCode_codeTable, hn]
  | .invoke var tag ty args, context => by
    simp only [codeStatementR]
    apply Img_bind id _ _ _ _ _ (Img_id _); intro t
    apply Img_bind id _ _ _ _ _ (Img_id _); intro decl
    simp only [id]
    apply Img_ite
    · apply Img_pure'; simp [mapCode_hookCode]
    · apply Img_bind id _ _ _ _ _ (Img_id _); intro pos
      apply Img_pure'; simp [mapCode_hookCode]
  | .lit var n next fv, context => by
    simp only [codeStatementR]
    apply Img_bind id _ _ _ _ _ (Img_id _); intro t
    apply Img_bind (List.map f) _ _ _ _ _ (Img_codeStatementR hooks ren types next _); intro c2
    apply Img_pure'; simp [mapCode_hookCode]
  | .op var fst o snd next fv, context => by
    simp only [codeStatementR]
    apply Img_bind id _ _ _ _ _ (Img_id _); intro t
    apply Img_bind id _ _ _ _ _ (Img_id _); intro s1
    apply Img_bind id _ _ _ _ _ (Img_id _); intro s2
    apply Img_bind (List.map f) _ _ _ _ _ (Img_codeStatementR hooks ren types next _); intro c2
    apply Img_pure'; simp [mapCode_hookCode]
  | .print newline var next fv, context => by
    simp only [codeStatementR]
    apply Img_bind id _ _ _ _ _ (Img_id _); intro t
    simp only [id]
    apply Img_bind (List.map f) _ _ _ _ _ (Img_mapped f _); intro c1
    apply Img_bind (List.map f) _ _ _ _ _ (Img_codeStatementR hooks ren types next _); intro c2
    apply Img_pure'; simp [mapCode_hookCode]
  | .ifc sort fst snd thenc elsec, context => by
    simp only [codeStatementR]
    apply Img_bind id _ _ _ _ _ (Img_id _); intro num
    simp only [id]
    apply Img_bind (List.map f)
    · cases snd with
      | none =>
        dsimp only
        apply Img_bind id _ _ _ _ _ (Img_id _); intro a
        apply Img_pure'; simp
      | some snd =>
        dsimp only
        apply Img_bind id _ _ _ _ _ (Img_id _); intro a
        apply Img_bind id _ _ _ _ _ (Img_id _); intro b
        apply Img_pure'; simp
    · intro c1
      apply Img_bind (List.map f) _ _ _ _ _ (Img_codeStatementR hooks ren types elsec _); intro c2
      apply Img_bind (List.map f) _ _ _ _ _ (Img_codeStatementR hooks ren types thenc _); intro c3
      apply Img_pure'; simp [mapCode_hookCode]
  | .exit var, context => by
    simp only [codeStatementR]
    apply Img_bind id _ _ _ _ _ (Img_id _); intro t
    apply Img_pure'; simp [mapCode_hookCode]
theorem Img_codeClausesR (hooks : Bool) (ren : Nat → String) (types : List TypeDecl) (context : Ctx) :
    ∀ (cs : Clauses) (baseLabel : String),
      Img (List.map f) (codeClausesR B hooks ren types context cs baseLabel)
        (codeClausesR (B.mapCode f) hooks ren types context cs baseLabel)
  | .nil, _ => by simp only [codeClausesR]; exact Img_pure _ _
  | .cons xtor clauseCtx body rest, baseLabel => by
    simp only [codeClausesR]
    apply Img_bind (List.map f) _ _ _ _ _ (Img_mapped f _); intro c1
    apply Img_bind (List.map f) _ _ _ _ _ (Img_codeStatementR hooks ren types body _); intro c2
    apply Img_bind (List.map f) _ _ _ _ _ (Img_codeClausesR hooks ren types context rest baseLabel)
    intro c3
    apply Img_pure'; simp
theorem Img_codeMethodsR (hooks : Bool) (ren : Nat → String) (types : List TypeDecl) (env : Ctx) :
    ∀ (cs : Clauses) (baseLabel : String),
      Img (List.map f) (codeMethodsR B hooks ren types env cs baseLabel)
        (codeMethodsR (B.mapCode f) hooks ren types env cs baseLabel)
  | .nil, _ => by simp only [codeMethodsR]; exact Img_pure _ _
  | .cons xtor clauseCtx body rest, baseLabel => by
    simp only [codeMethodsR]
    apply Img_bind (List.map f) _ _ _ _ _ (Img_mapped f _); intro c1
    apply Img_bind (List.map f) _ _ _ _ _ (Img_codeStatementR hooks ren types body _); intro c2
    apply Img_bind (List.map f) _ _ _ _ _ (Img_codeMethodsR hooks ren types env rest baseLabel)
    intro c3
    apply Img_pure'; simp
end

theorem Img_translateR (hooks : Bool) (ren : Nat → String) (types : List TypeDecl) :
    ∀ (defs : List Def),
      Img (List.map (List.map f)) (translateR B hooks ren types defs)
        (translateR (B.mapCode f) hooks ren types defs)
  | [] => by simp only [translateR]; exact Img_pure _ _
  | d :: ds => by
    simp only [translateR]
    apply Img_bind (List.map f) _ _ _ _ _ (Img_codeStatementR B f hooks ren types d.body d.ctx)
    intro is
    apply Img_bind (List.map (List.map f)) _ _ _ _ _ (Img_translateR hooks ren types ds); intro rest
    apply Img_pure'; simp

theorem mapCode_assemble : ∀ (blocks : List (List Code)) (names : List Ident),
    assemble (B.mapCode f) (blocks.map (List.map f)) names = (assemble B blocks names).map f
  | [], _ => by simp [assemble]
  | _ :: _, [] => by simp [assemble]
  | b :: bs, n :: ns => by simp [assemble, mapCode_assemble bs ns]

/-- naturality of `compile` in the code type -/
theorem Img_compileR (hooks : Bool) (ren : Nat → String) (p : Prog) :
    Img (fun r : List Code × Nat => (r.1.map f, r.2)) (compileR B hooks ren p)
      (compileR (B.mapCode f) hooks ren p) := by
  unfold compileR
  cases p.defs with
  | nil => exact Img_throw _ _
  | cons d0 ds =>
    dsimp only
    apply Img_bind (List.map (List.map f)) _ _ _ _ _ (Img_translateR B f hooks ren p.types _)
    intro blocks
    apply Img_pure'
    simp [mapCode_assemble]

end

/-- the text produced with `mock` is the rendering of the structured code produced with `mockSym`
    (same panics, same final counter) -/
theorem compile_mock_eq_render (hooks : Bool) (p : Prog) (c : Nat) :
    (compile mock hooks p).run c =
      mapRun (fun r : List MockOp × Nat => (r.1.map MockOp.render, r.2))
        ((compile mockSym hooks p).run c) :=
  (Img_compileR mockSym MockOp.render hooks natRen p).run c

/-- the line function compared with the harness (`S6m`) is the rendering of `compileMockSym` -/
theorem runLineMock_eq (dumpS5 : String) (hooks : Bool) (c : Nat) :
    runLineMock dumpS5 hooks c =
      match readS5 dumpS5 with
      | .error e => e
      | .ok p =>
        match compileMockSym p hooks c with
        | .error e => "PANIC " ++ e
        | .ok ops => "OK " ++ "\n".intercalate (ops.map MockOp.render) := by
  unfold runLineMock compileMockSym runGen
  cases readS5 dumpS5 with
  | error e => rfl
  | ok p =>
    simp only [compile_mock_eq_render]
    cases (compile mockSym hooks p).run c with
    | error e => rfl
    | ok r => obtain ⟨⟨ops, n⟩, k⟩ := r; rfl

end Scc.Backend
