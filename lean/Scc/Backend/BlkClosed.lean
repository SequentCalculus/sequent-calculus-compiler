/-
  Scc.Backend.BlkClosed — code of the shape `Blk` refers only to labels it defines itself: single items
  refer to none, each of the two blocks defines the labels it jumps to.
-/
import Scc.Backend.Blk
import Scc.Backend.ProofsRefs

namespace Scc.Backend

open Scc.Backend.Refs

variable {Code : Type}

namespace Blk

variable {S : BlkSyn Code} {Leaf : Code → Prop} {CndOK : S.Cnd → Prop}

/-- the code refers only to labels it defines: single items refer to none, each block defines the labels
    it jumps to -/
theorem closed (V : View Code) (hleaf : ∀ c, Leaf c → V.ref c = none)
    (hjz : ∀ x l, V.ref (S.jz x l) = some l) (hjmp : ∀ l, V.ref (S.jmp l) = some l)
    (hlr : ∀ l, V.ref (S.lab l) = none) (hld : ∀ l, V.dfn (S.lab l) = some l)
    {l : List Code} (h : Blk S Leaf CndOK l) : Closed V l := by
  have hpre : ∀ {pre : List Code}, (∀ c ∈ pre, Leaf c) → V.refs pre = [] := fun hp =>
    noRefs_of_forall fun c hc => hleaf c (hp c hc)
  induction h with
  | nil => exact Closed.nil
  | one h => exact (noRefs_single (hleaf _ h)).closed
  | append _ _ ha hb => exact ha.append hb
  | @skip pre body x n hp _ _ hb =>
    intro r hr
    have e1 : V.refs [S.jz x (S.name n)] = [S.name n] := by simp [View.refs, hjz]
    have e2 : V.refs [S.lab (S.name n)] = [] := by simp [View.refs, hlr]
    have e3 : V.labs [S.lab (S.name n)] = [S.name n] := by simp [View.labs, hld]
    rw [Refs.refs_append V, Refs.refs_append V, Refs.refs_append V, hpre hp, e1, e2] at hr
    rw [Refs.labs_append V, Refs.labs_append V, Refs.labs_append V, e3]
    simp only [List.nil_append, List.append_nil, List.singleton_append, List.mem_cons] at hr
    simp only [List.mem_append, List.mem_singleton]
    rcases hr with rfl | hr
    · exact Or.inr rfl
    · exact Or.inl (Or.inr (hb r hr))
  | @ite pre tb eb x n1 n2 hp _ _ _ ht he =>
    intro r hr
    have e1 : V.refs [S.jz x (S.name n1)] = [S.name n1] := by simp [View.refs, hjz]
    have e2 : V.refs [S.jmp (S.name n2), S.lab (S.name n1)] = [S.name n2] := by simp [View.refs, hjmp, hlr]
    have e3 : V.refs [S.lab (S.name n2)] = [] := by simp [View.refs, hlr]
    have e4 : S.name n1 ∈ V.labs [S.jmp (S.name n2), S.lab (S.name n1)] := by
      simp [View.labs, hld]
    have e5 : V.labs [S.lab (S.name n2)] = [S.name n2] := by simp [View.labs, hld]
    rw [Refs.refs_append V, Refs.refs_append V, Refs.refs_append V, Refs.refs_append V, Refs.refs_append V, hpre hp, e1, e2, e3] at hr
    rw [Refs.labs_append V, Refs.labs_append V, Refs.labs_append V, Refs.labs_append V, e5]
    simp only [List.nil_append, List.append_nil, List.mem_append, List.mem_singleton, List.mem_cons,
      List.not_mem_nil, or_false] at hr ⊢
    rcases hr with ((rfl | hr) | rfl) | hr
    · exact Or.inl (Or.inl (Or.inr e4))
    · exact Or.inl (Or.inl (Or.inl (Or.inr (he r hr))))
    · exact Or.inr rfl
    · exact Or.inl (Or.inr (ht r hr))

/-- code of the shape `Blk` whose single items are plain (shape `sh`, no label defined or referred to) and whose
    jumps and labels have the shape `sh'`: every item has the shape `sh'`, and every referenced label is defined
    in the list -/
theorem plain_closed (V : View Code) {sh sh' : Code → Bool} (hleaf : ∀ c, Leaf c → plainB V sh c = true)
    (hsh : ∀ c, plainB V sh c = true → sh' c = true)
    (hjz : ∀ x l, sh' (S.jz x l) = true ∧ V.ref (S.jz x l) = some l)
    (hjmp : ∀ l, sh' (S.jmp l) = true ∧ V.ref (S.jmp l) = some l)
    (hlab : ∀ l, sh' (S.lab l) = true ∧ V.ref (S.lab l) = none ∧ V.dfn (S.lab l) = some l)
    {l : List Code} (h : Blk S Leaf CndOK l) : l.all sh' = true ∧ Closed V l :=
  ⟨List.all_eq_true.2 (Blk.forall (P := fun c => sh' c = true) (fun c hc => hsh c (hleaf c hc))
      (fun x n _ => (hjz x (S.name n)).1) (fun n => (hjmp (S.name n)).1) (fun n => (hlab (S.name n)).1) h),
    closed V (fun c hc => (plainB_iff.1 (hleaf c hc)).2.2) (fun x l => (hjz x l).2) (fun l => (hjmp l).2)
      (fun l => (hlab l).2.1) (fun l => (hlab l).2.2) h⟩

end Blk

end Scc.Backend
