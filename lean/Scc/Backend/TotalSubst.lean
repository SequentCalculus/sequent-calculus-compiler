/-
  Scc.Backend.TotalSubst — the `substitute` statement of the generic code generator (substitution.rs,
  statements/substitute.rs) is total-or-capacity for every `TotalBackend`:
  * `transpose_mem`: every entry of `transpose pairs Γ` is keyed by a binding of `Γ`, and its targets are
    the new variables of the pairs whose old variable is that binding;
  * `Tot_codeWeakeningContraction`;
  * `TotP_connections_go`: `connections` terminates with a FUNCTIONAL move graph when the new variables are
    pairwise distinct (each target temporary belongs to one new variable, `vt_inj`; a new variable has
    one old variable; the source temporary is determined by it, `vt_det`);
  * `Tot_codeExchange`: hence `parallel_moves` succeeds (TotalPM.lean).
-/
import Scc.Backend.TotalPM
import Scc.Backend.ProofsBTree

namespace Scc.Backend.Total

open Scc.AxCut

/-! ## `BTreeMap::insert` / `BTreeSet::insert` on association lists: where the entries come from -/

theorem mem_mapInsert {K V : Type} (cmp : K → K → Ordering) (k : K) (v : V) :
    ∀ (l : List (K × V)) (e : K × V), e ∈ mapInsert cmp k v l →
      e ∈ l ∨ (e.2 = v ∧ (e.1 = k ∨ (cmp k e.1 = .eq ∧ e.1 ∈ l.map (·.1))))
  | [], e, h => by
    simp only [mapInsert, List.mem_singleton] at h
    subst h; exact Or.inr ⟨rfl, Or.inl rfl⟩
  | (k', v') :: rest, e, h => by
    simp only [mapInsert] at h
    cases hc : cmp k k' with
    | lt =>
      simp only [hc, List.mem_cons] at h
      rcases h with rfl | h
      · exact Or.inr ⟨rfl, Or.inl rfl⟩
      · exact Or.inl (by simpa using h)
    | eq =>
      simp only [hc, List.mem_cons] at h
      rcases h with rfl | h
      · exact Or.inr ⟨rfl, Or.inr ⟨hc, by simp⟩⟩
      · exact Or.inl (by simp [h])
    | gt =>
      simp only [hc, List.mem_cons] at h
      rcases h with rfl | h
      · exact Or.inl (by simp)
      · rcases mem_mapInsert cmp k v rest e h with h1 | ⟨h1, h2⟩
        · exact Or.inl (by simp [h1])
        · refine Or.inr ⟨h1, ?_⟩
          rcases h2 with h2 | ⟨h2, h3⟩
          · exact Or.inl h2
          · exact Or.inr ⟨h2, by simp only [List.map_cons, List.mem_cons]; exact Or.inr h3⟩

theorem keys_mapInsert {K V : Type} (cmp : K → K → Ordering) (k : K) (v : V) :
    ∀ (l : List (K × V)) (x : K), x ∈ (mapInsert cmp k v l).map (·.1) → x = k ∨ x ∈ l.map (·.1) := by
  intro l x hx
  obtain ⟨e, he, rfl⟩ := List.mem_map.mp hx
  rcases mem_mapInsert cmp k v l e he with h | ⟨_, h | ⟨_, h⟩⟩
  · exact Or.inr (List.mem_map.mpr ⟨e, h, rfl⟩)
  · exact Or.inl h
  · exact Or.inr h

section
variable {Code T : Type} (B : Backend Code T)

theorem mem_setInsert (t : T) : ∀ (l : List T) (x : T), x ∈ setInsert B t l → x = t ∨ x ∈ l
  | [], x, h => by simp only [setInsert, List.mem_singleton] at h; exact Or.inl h
  | t' :: rest, x, h => by
    simp only [setInsert] at h
    cases hc : tempCmp B t t' with
    | lt =>
      simp only [hc, List.mem_cons] at h
      rcases h with h | h
      · exact Or.inl h
      · exact Or.inr (by simpa using h)
    | eq =>
      simp only [hc] at h
      exact Or.inr h
    | gt =>
      simp only [hc, List.mem_cons] at h
      rcases h with h | h
      · exact Or.inr (by simp [h])
      · rcases mem_setInsert t rest x h with h1 | h1
        · exact Or.inl h1
        · exact Or.inr (by simp [h1])

theorem mem_setOfList (ts : List T) (x : T) (h : x ∈ setOfList B ts) : x ∈ ts := by
  unfold setOfList at h
  have key : ∀ (ts acc : List T), x ∈ ts.foldl (fun s t => setInsert B t s) acc → x ∈ acc ∨ x ∈ ts := by
    intro ts
    induction ts with
    | nil => intro acc h; exact Or.inl h
    | cons t rest ih =>
      intro acc h
      simp only [List.foldl_cons] at h
      rcases ih _ h with h1 | h1
      · rcases mem_setInsert B t acc x h1 with h2 | h2
        · exact Or.inr (by simp [h2])
        · exact Or.inl h2
      · exact Or.inr (by simp [h1])
  rcases key ts [] h with h1 | h1
  · simp at h1
  · exact h1

theorem tempCmp_eq {a b : T} (heq : ∀ a b, B.tempEq a b = true ↔ a = b) (h : tempCmp B a b = .eq) :
    a = b := by
  unfold tempCmp at h
  split at h
  · cases h
  · split at h
    · rename_i h2; exact (heq _ _).mp h2
    · cases h

end

/-- the targets `transpose` records for a binding with id `i` -/
def targetIds (rearrange : List (Binding × Ident)) (i : Nat) : List Nat :=
  (rearrange.filter fun (_, old) => i == old.id).map fun (new, _) => new.var.id

theorem mem_targetIds {pairs : List (Binding × Ident)} {i id : Nat} :
    id ∈ targetIds pairs i ↔ ∃ p ∈ pairs, i = p.2.id ∧ id = p.1.var.id := by
  unfold targetIds
  simp only [List.mem_map, List.mem_filter, beq_iff_eq]
  constructor
  · rintro ⟨p, ⟨hp, hb⟩, rfl⟩; exact ⟨p, hp, hb, rfl⟩
  · rintro ⟨p, hp, hb, rfl⟩; exact ⟨p, ⟨hp, hb⟩, rfl⟩

/-- every entry of the transposed rearrangement is keyed by a binding of the context; its targets are
    the new variables of the pairs whose old variable has the id of the key -/
theorem transpose_mem (pairs : List (Binding × Ident)) (Γ : Ctx) :
    ∀ e ∈ transpose pairs Γ, e.1 ∈ Γ ∧ e.2 = targetIds pairs e.1.var.id := by
  unfold transpose
  have key : ∀ (Δ : Ctx) (acc : List (Binding × List Nat)),
      (∀ b ∈ Δ, b ∈ Γ) → (∀ e ∈ acc, e.1 ∈ Γ ∧ e.2 = targetIds pairs e.1.var.id) →
      ∀ e ∈ Δ.foldl (fun tm b => mapInsert bindingCmp b (targetIds pairs b.var.id) tm) acc,
        e.1 ∈ Γ ∧ e.2 = targetIds pairs e.1.var.id := by
    intro Δ
    induction Δ with
    | nil => intro acc _ hacc e he; exact hacc e he
    | cons b rest ih =>
      intro acc hΔ hacc e he
      simp only [List.foldl_cons] at he
      refine ih _ (fun b' hb' => hΔ b' (by simp [hb'])) ?_ e he
      intro e' he'
      rcases mem_mapInsert bindingCmp b _ acc e' he' with h | ⟨h1, h2 | ⟨h2, h3⟩⟩
      · exact hacc e' h
      · exact ⟨by rw [h2]; exact hΔ b (by simp), by rw [h1, h2]⟩
      · obtain ⟨e0, he0, h0⟩ := List.mem_map.mp h3
        exact ⟨by rw [← h0]; exact (hacc e0 he0).1, by rw [h1, BTree.bindingCmp_eq_id h2]⟩
  exact key Γ [] (fun _ h => h) (by simp)

/-! ## the generic `substitute` -/

section
variable {Code T : Type} {B : Backend Code T} {cap : String → Prop} {fits : Nat → Prop}
variable (H : TotalBackend B cap fits)
include H

theorem Tot_updateReferenceCount (v : Ident) (Γ : Ctx) (n : Nat) (hv : ∃ b ∈ Γ, b.var.id = v.id)
    (hfit : fits Γ.length) : Tot cap (updateReferenceCount B v Γ n) := by
  unfold updateReferenceCount
  refine Tot.bind (H.vt_total _ _ _ hv hfit) fun t => ?_
  match n with
  | 0 => exact Tot.bind (H.eraseBlock _) fun _ => Tot.pure _
  | 1 => exact Tot.pure _
  | n + 2 => exact Tot.bind (H.shareBlockN _ _) fun _ => Tot.pure _

theorem Tot_codeWeakeningContraction (Γ : Ctx) (hfit : fits Γ.length) :
    ∀ (tm : List (Binding × List Nat)), (∀ e ∈ tm, e.1 ∈ Γ) →
      Tot cap (codeWeakeningContraction B tm Γ)
  | [], _ => by unfold codeWeakeningContraction; exact Tot.pure _
  | (binding, targets) :: rest, h => by
    unfold codeWeakeningContraction
    refine Tot.bind ?_ fun code => ?_
    · refine TotP.ite (fun _ => ?_) (fun _ => Tot.pure _)
      exact Tot_updateReferenceCount H _ _ _ ⟨binding, h (binding, targets) (by simp), rfl⟩ hfit
    · exact Tot.bind (Tot_codeWeakeningContraction Γ hfit rest fun e he => h e (by simp [he]))
        fun _ => Tot.pure _

/-- the edges of the move graph of `subst pairs` from `Γ` to `newΓ`: the temporary `number` of the
    old variable of a pair goes to the temporary `number` of its new variable -/
def SubstEdges (B : Backend Code T) (pairs : List (Binding × Ident)) (Γ newΓ : Ctx)
    (pm : List (T × List T)) : Prop :=
  ∀ s t, Edge pm s t → ∃ num, ∃ p ∈ pairs, IsVT B num Γ p.2.id s ∧ IsVT B num newΓ p.1.var.id t

omit H in
theorem SubstEdges.insert {pairs : List (Binding × Ident)} {Γ newΓ : Ctx} {acc : List (T × List T)}
    (heq : ∀ a b, B.tempEq a b = true ↔ a = b)
    (hacc : SubstEdges B pairs Γ newΓ acc) {num : TempNum} {i : Nat} {k : T} {ts : List T}
    {targets : List Nat}
    (hk : IsVT B num Γ i k) (hts : ∀ t ∈ ts, ∃ id ∈ targets, IsVT B num newΓ id t)
    (htg : ∀ id ∈ targets, ∃ p ∈ pairs, i = p.2.id ∧ id = p.1.var.id) :
    SubstEdges B pairs Γ newΓ (mapInsert (tempCmp B) k (setOfList B ts) acc) := by
  intro s t ⟨v, hm, ht⟩
  rcases mem_mapInsert (tempCmp B) k (setOfList B ts) acc (s, v) hm with h | ⟨h1, h2⟩
  · exact hacc s t ⟨v, h, ht⟩
  · simp only at h1 h2
    subst h1
    have hs : s = k := by
      rcases h2 with h2 | ⟨h2, _⟩
      · exact h2
      · exact (tempCmp_eq B heq h2).symm
    subst hs
    obtain ⟨id, hid, hvt⟩ := hts t (mem_setOfList B ts t ht)
    obtain ⟨p, hp, hi, hid'⟩ := htg id hid
    exact ⟨num, p, hp, by rw [← hi]; exact hk, by rw [← hid']; exact hvt⟩

omit H in
theorem pair_eq_of_nodup {pairs : List (Binding × Ident)}
    (hnd : ((pairs.map (·.1)).map (·.var.id)).Nodup) {p p' : Binding × Ident} (hp : p ∈ pairs)
    (hp' : p' ∈ pairs) (h : p.1.var.id = p'.1.var.id) : p = p' := by
  induction pairs with
  | nil => cases hp
  | cons a rest ih =>
    simp only [List.map_cons, List.nodup_cons, List.mem_map, not_exists, not_and] at hnd
    have hno : ∀ q ∈ rest, q.1.var.id ≠ a.1.var.id := by
      intro q hq e
      exact hnd.1 q.1 ⟨q, hq, rfl⟩ e
    rcases List.mem_cons.mp hp with h1 | h1
    · rcases List.mem_cons.mp hp' with h2 | h2
      · rw [h1, h2]
      · subst h1; exact absurd h.symm (hno p' h2)
    · rcases List.mem_cons.mp hp' with h2 | h2
      · subst h2; exact absurd h (hno p h1)
      · exact ih (by simpa using hnd.2) h1 h2

theorem SubstEdges.functional {pairs : List (Binding × Ident)} {Γ : Ctx} {pm : List (T × List T)}
    (hnd : ((pairs.map (·.1)).map (·.var.id)).Nodup)
    (h : SubstEdges B pairs Γ (pairs.map (·.1)) pm) : Functional pm := by
  intro s s' t e e'
  obtain ⟨num, p, hp, hs, ht⟩ := h s t e
  obtain ⟨num', p', hp', hs', ht'⟩ := h s' t e'
  obtain ⟨rfl, hid⟩ := H.vt_inj ht ht'
  have := pair_eq_of_nodup hnd hp hp' hid
  subst this
  exact H.vt_det hs hs'

theorem TotP_vts (num : TempNum) (newΓ : Ctx) (hfit : fits newΓ.length) (targets : List Nat)
    (h : ∀ id ∈ targets, ∃ b ∈ newΓ, b.var.id = id) :
    TotP cap (fun ts => ∀ t ∈ ts, ∃ id ∈ targets, IsVT B num newΓ id t)
      (mapMGen (fun target => B.variableTemporary num newΓ target) targets) :=
  TotP.mapMGen (Q := fun id t => IsVT B num newΓ id t) targets
    fun id hid => Tot.self (H.vt_total num newΓ id (h id hid) hfit)

theorem TotP_connections_go (pairs : List (Binding × Ident)) (Γ newΓ : Ctx)
    (hfit : fits Γ.length) (hfit' : fits newΓ.length)
    (hnew : ∀ p ∈ pairs, ∃ b ∈ newΓ, b.var.id = p.1.var.id) :
    ∀ (tm : List (Binding × List Nat)) (acc : List (T × List T)),
      (∀ e ∈ tm, e.1 ∈ Γ ∧ e.2 = targetIds pairs e.1.var.id) →
      SubstEdges B pairs Γ newΓ acc →
      TotP cap (SubstEdges B pairs Γ newΓ) (connections.go B Γ newΓ tm acc)
  | [], acc, _, hacc => by unfold connections.go; exact TotP.pure hacc
  | (binding, targets) :: rest, acc, htm, hacc => by
    obtain ⟨hb, htg⟩ := htm (binding, targets) (by simp)
    simp only at hb htg
    have hrest : ∀ e ∈ rest, e.1 ∈ Γ ∧ e.2 = targetIds pairs e.1.var.id :=
      fun e he => htm e (by simp [he])
    have htg' : ∀ id ∈ targets, ∃ p ∈ pairs, binding.var.id = p.2.id ∧ id = p.1.var.id := by
      intro id hid; rw [htg] at hid; exact mem_targetIds.mp hid
    have hin : ∀ id ∈ targets, ∃ b ∈ newΓ, b.var.id = id := by
      intro id hid
      obtain ⟨p, hp, _, rfl⟩ := htg' id hid
      exact hnew p hp
    have hbΓ : ∃ b ∈ Γ, b.var.id = binding.var.id := ⟨binding, hb, rfl⟩
    unfold connections.go
    refine TotP.ite (fun _ => ?_) (fun _ => ?_)
    · refine TotP.bind (Tot.self (H.vt_total .snd Γ _ hbΓ hfit)) fun k hk => ?_
      refine TotP.bind (TotP_vts H .snd newΓ hfit' targets hin) fun ts hts => ?_
      exact TotP_connections_go pairs Γ newΓ hfit hfit' hnew rest _ hrest
        (hacc.insert H.tempEq_iff hk hts htg')
    · refine TotP.bind (Tot.self (H.vt_total .fst Γ _ hbΓ hfit)) fun k1 hk1 => ?_
      refine TotP.bind (TotP_vts H .fst newΓ hfit' targets hin) fun ts1 hts1 => ?_
      refine TotP.bind (Tot.self (H.vt_total .snd Γ _ hbΓ hfit)) fun k2 hk2 => ?_
      refine TotP.bind (TotP_vts H .snd newΓ hfit' targets hin) fun ts2 hts2 => ?_
      exact TotP_connections_go pairs Γ newΓ hfit hfit' hnew rest _ hrest
        ((hacc.insert H.tempEq_iff hk1 hts1 htg').insert H.tempEq_iff hk2 hts2 htg')

/-- `code_exchange` for the transposed rearrangement of a `subst` whose new variables are pairwise
    distinct: a result or a capacity error -/
theorem Tot_codeExchange (pairs : List (Binding × Ident)) (Γ : Ctx)
    (hfit : fits Γ.length) (hfit' : fits pairs.length)
    (hnd : ((pairs.map (·.1)).map (·.var.id)).Nodup) :
    Tot cap (codeExchange B (transpose pairs Γ) Γ (pairs.map (·.1))) := by
  unfold codeExchange connections
  have hnew : ∀ p ∈ pairs, ∃ b ∈ pairs.map (·.1), b.var.id = p.1.var.id :=
    fun p hp => ⟨p.1, List.mem_map.mpr ⟨p, hp, rfl⟩, rfl⟩
  refine TotP.bind (TotP_connections_go H pairs Γ (pairs.map (·.1)) hfit (by simpa using hfit') hnew
    (transpose pairs Γ) [] (transpose_mem pairs Γ) ?_) fun conns hconns => ?_
  · intro s t ⟨v, hm, _⟩; cases hm
  · obtain ⟨code, hcode⟩ := parallelMoves_ok H.tempEq_iff (hconns.functional H hnd)
    rw [hcode]
    exact Tot.pure _

end

end Scc.Backend.Total
