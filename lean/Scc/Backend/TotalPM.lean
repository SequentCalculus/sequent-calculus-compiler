/-
  Scc.Backend.TotalPM — `parallelMoves` of the generic code generator (Generic.lean; parallel_moves.rs)
  never fails on a FUNCTIONAL move graph (every temporary is the target of at most one source), for every
  backend whose `tempEq` is equality:
  * `spanningTree` does not run out of fuel (= the Rust recursion terminates): on a functional graph every
    cycle reachable from the root passes through the root, so a path without repetition is not longer
    than the number of distinct temporaries (the fuel `allNodes.length + 1`);
  * `spanningForestLoop` never misses a key (`delete_targets` keeps the keys).
  The argument is the one of Scc/PMoves/Proofs.lean (there for `Nat` temporaries and `Option`), here for an
  abstract type of temporaries.
-/
import Scc.Backend.TotalDefs

set_option linter.unusedSimpArgs false

namespace Scc.Backend.Total

section
variable {Code T : Type} (B : Backend Code T)

/-- `s ↦ {…, t, …}` is an entry of the map -/
def Edge (pm : List (T × List T)) (s t : T) : Prop := ∃ ts, (s, ts) ∈ pm ∧ t ∈ ts

/-- every temporary is the target of at most one source (the documented precondition of
    `parallel_moves`) -/
def Functional (pm : List (T × List T)) : Prop := ∀ s s' t, Edge pm s t → Edge pm s' t → s = s'

variable {B}
variable (heq : ∀ a b, B.tempEq a b = true ↔ a = b)
include heq

theorem tempEq_false {a b : T} : B.tempEq a b = false ↔ a ≠ b := by
  rw [← Bool.not_eq_true, heq]

theorem mapLookup_mem {pm : List (T × List T)} {k : T} {ts : List T}
    (h : mapLookup B pm k = some ts) : (k, ts) ∈ pm := by
  unfold mapLookup at h
  cases hf : pm.find? (fun e => B.tempEq k e.1) with
  | none => simp [hf] at h
  | some e =>
    simp only [hf, Option.some.injEq] at h
    have hm := List.mem_of_find?_eq_some hf
    have hp := List.find?_some hf
    have : k = e.1 := (heq _ _).mp hp
    subst h
    rw [this]
    exact hm

theorem mapLookup_isSome_of_key {pm : List (T × List T)} {k : T} (h : k ∈ pm.map (·.1)) :
    ∃ ts, mapLookup B pm k = some ts := by
  unfold mapLookup
  cases hf : pm.find? (fun e => B.tempEq k e.1) with
  | some e => exact ⟨e.2, rfl⟩
  | none =>
    exfalso
    obtain ⟨e, he, rfl⟩ := List.mem_map.mp h
    have := List.find?_eq_none.mp hf e he
    exact this ((heq _ _).mpr rfl)

omit heq in
theorem mapExcept_exists {α β : Type} {f : α → Except String β} : ∀ {xs : List α},
    (∀ x ∈ xs, ∃ y, f x = .ok y) → ∃ ys, mapExcept f xs = .ok ys
  | [], _ => ⟨[], rfl⟩
  | x :: xs, h => by
    obtain ⟨y, hy⟩ := h x List.mem_cons_self
    obtain ⟨ys, hys⟩ := mapExcept_exists (xs := xs) (fun x' hx' => h x' (List.mem_cons_of_mem _ hx'))
    exact ⟨y :: ys, by simp [mapExcept, hy, hys]⟩

omit heq in
/-- `Reach pm r a c`: there is a path `a → … → c` none of whose nodes, except possibly `a`, is `r` -/
inductive Reach (pm : List (T × List T)) (r : T) : T → T → Prop
  | refl (a : T) : Reach pm r a a
  | step {a b c : T} : Reach pm r a b → Edge pm b c → c ≠ r → Reach pm r a c

omit heq in
theorem Reach.head {pm : List (T × List T)} {r a b c : T} (hab : Edge pm a b) (hb : b ≠ r)
    (h : Reach pm r b c) : Reach pm r a c := by
  induction h with
  | refl => exact .step (.refl a) hab hb
  | step _ e ne ih => exact .step ih e ne

omit heq in
theorem Reach.last {pm : List (T × List T)} {r a c : T} (h : Reach pm r a c) (hne : a ≠ c) :
    ∃ y, Reach pm r a y ∧ Edge pm y c ∧ c ≠ r := by
  cases h with
  | refl => exact absurd rfl hne
  | step h1 e ne => exact ⟨_, h1, e, ne⟩

omit heq in
/-- no cycle avoiding the root passes through a node reachable from the root -/
theorem Reach.acyclic {pm : List (T × List T)} (hf : Functional pm) {r n : T} (h : Reach pm r r n) :
    ∀ c, Edge pm n c → c ≠ r → ¬ Reach pm r c n := by
  induction h with
  | refl =>
    intro c _ hc hcr
    obtain ⟨_, _, _, hrr⟩ := hcr.last hc
    exact hrr rfl
  | @step m n hm e ne ih =>
    intro c enc hc hcn
    by_cases hcn' : c = n
    · subst hcn'
      have : m = c := hf _ _ _ e enc
      subst this
      exact ih m enc hc hcn
    · obtain ⟨y, hcy, eyn, _⟩ := hcn.last hcn'
      have : y = m := hf _ _ _ eyn e
      subst this
      exact ih n e ne (Reach.head enc hc hcy)

/-- `fuel > depth` suffices: `anc` is the list of proper ancestors of `n` (root included), `V` any list
    containing all targets of the map -/
theorem spanningTree_terminates {pm : List (T × List T)} (hf : Functional pm) {r : T} (V : List T)
    (hV : ∀ s t, Edge pm s t → t ∈ V) :
    ∀ (fuel : Nat) (n : T) (anc : List T), anc.Nodup → (∀ a ∈ anc, a ∈ V) →
      (∀ a ∈ anc, Reach pm r a n) → Reach pm r r n → (n = r ∨ (n ∉ anc ∧ n ∈ V)) →
      V.length + 1 ≤ anc.length + fuel → ∃ tr, spanningTree B pm r fuel n = .ok tr := by
  intro fuel
  induction fuel with
  | zero =>
    intro n anc hnd hsub _ _ _ hlen
    have := List.Nodup.length_le_of_subset hnd (fun a ha => hsub a ha)
    omega
  | succ fuel ih =>
    intro n anc hnd hsub hanc hrn hn hlen
    simp only [spanningTree]
    by_cases hrn' : r = n
    · simp [(heq r n).mpr hrn']
    · have hne : ¬ (B.tempEq r n = true) := fun h => hrn' ((heq _ _).mp h)
      simp only [hne, if_false]
      cases hl : mapLookup B pm n with
      | none => exact ⟨_, rfl⟩
      | some targets =>
        simp only
        have hnr : n ≠ r := fun e => hrn' e.symm
        obtain ⟨hna, hnV⟩ := hn.resolve_left hnr
        have hnd' : (n :: anc).Nodup := List.nodup_cons.mpr ⟨hna, hnd⟩
        have hsub' : ∀ a ∈ n :: anc, a ∈ V := by
          intro a ha
          rcases List.mem_cons.mp ha with rfl | ha
          · exact hnV
          · exact hsub a ha
        have hle := List.Nodup.length_le_of_subset hnd' (fun a ha => hsub' a ha)
        simp only [List.length_cons] at hle
        have : ∃ kids, mapExcept (spanningTree B pm r fuel) targets = .ok kids := by
          apply mapExcept_exists
          intro c hc
          have e : Edge pm n c := ⟨targets, mapLookup_mem heq hl, hc⟩
          by_cases hcr : c = r
          · subst hcr
            obtain ⟨f', rfl⟩ : ∃ f', fuel = f' + 1 := ⟨fuel - 1, by omega⟩
            exact ⟨.backEdge, by simp [spanningTree, (heq c c).mpr rfl]⟩
          · apply ih c (n :: anc) hnd' hsub'
            · intro a ha
              rcases List.mem_cons.mp ha with rfl | ha
              · exact .step (.refl _) e hcr
              · exact .step (hanc a ha) e hcr
            · exact .step hrn e hcr
            · refine Or.inr ⟨?_, hV _ _ e⟩
              intro hmem
              rcases List.mem_cons.mp hmem with rfl | hmem
              · exact Reach.acyclic hf hrn c e hcr (.refl _)
              · exact Reach.acyclic hf hrn c e hcr (hanc c hmem)
            · simp only [List.length_cons]; omega
        obtain ⟨kids, hk⟩ := this
        exact ⟨.node n kids, by simp [hk]⟩

/-! ## the `spanning_forest` loop -/

omit heq in
theorem edge_deleteTargets {W : List T} {pm : List (T × List T)} {s t : T}
    (h : Edge (deleteTargets B W pm) s t) : Edge pm s t := by
  obtain ⟨ts, hm, ht⟩ := h
  simp only [deleteTargets, List.mem_map] at hm
  obtain ⟨⟨k, v⟩, hm, hkv⟩ := hm
  simp only [Prod.mk.injEq] at hkv
  obtain ⟨rfl, rfl⟩ := hkv
  exact ⟨v, hm, (List.mem_filter.mp ht).1⟩

omit heq in
theorem keys_deleteTargets (W : List T) (pm : List (T × List T)) :
    (deleteTargets B W pm).map (·.1) = pm.map (·.1) := by
  simp [deleteTargets, List.map_map, Function.comp_def]

/-- the mutated map `cur` relative to the original map `pm0` -/
structure Good (pm0 cur : List (T × List T)) : Prop where
  keys : cur.map (·.1) = pm0.map (·.1)
  sub : ∀ s t, Edge cur s t → Edge pm0 s t

omit heq in
theorem Good.delete {pm0 cur : List (T × List T)} (g : Good pm0 cur) (W : List T) :
    Good pm0 (deleteTargets B W cur) :=
  ⟨by rw [keys_deleteTargets, g.keys], fun s t h => g.sub s t (edge_deleteTargets h)⟩

omit heq in
theorem Good.functional {pm0 cur : List (T × List T)} (g : Good pm0 cur) (hf0 : Functional pm0) :
    Functional cur :=
  fun s s' t h h' => hf0 s s' t (g.sub _ _ h) (g.sub _ _ h')

theorem mem_allNodes {pm : List (T × List T)} {x : T}
    (h : x ∈ pm.map (·.1) ∨ x ∈ pm.flatMap (·.2)) : x ∈ allNodes B pm := by
  unfold allNodes
  letI : BEq T := ⟨B.tempEq⟩
  haveI : ReflBEq T := ⟨fun {a} => (heq a a).mpr rfl⟩
  haveI : LawfulBEq T := ⟨fun {a b} h => (heq a b).mp h⟩
  rw [List.mem_eraseDups]
  simpa using h

omit heq in
theorem edge_mem_allTargets {pm : List (T × List T)} {s t : T} (e : Edge pm s t) :
    t ∈ pm.flatMap (·.2) := by
  obtain ⟨ts, hm, ht⟩ := e
  exact List.mem_flatMap.mpr ⟨(s, ts), hm, ht⟩

theorem spanningForestLoop_ok {pm0 : List (T × List T)} (hf0 : Functional pm0) {fuel : Nat}
    (hfuel : (allNodes B pm0).length ≤ fuel) :
    ∀ (ks : List T) (cur : List (T × List T)), Good pm0 cur → (∀ k ∈ ks, k ∈ pm0.map (·.1)) →
      ∃ roots, spanningForestLoop B fuel ks cur = .ok roots := by
  intro ks
  induction ks with
  | nil => intro cur _ _; exact ⟨[], rfl⟩
  | cons k ks ih =>
    intro cur good hks
    have hkey : k ∈ cur.map (·.1) := by rw [good.keys]; exact hks k List.mem_cons_self
    obtain ⟨ts, hl⟩ := mapLookup_isSome_of_key heq hkey
    have hfc := good.functional hf0
    have hV : ∀ s t, Edge cur s t → t ∈ allNodes B pm0 := fun s t e =>
      mem_allNodes heq (Or.inr (edge_mem_allTargets (good.sub _ _ e)))
    have : ∃ trees, mapExcept (spanningTree B cur k fuel)
        (ts.filter (fun t => !B.tempEq t k)) = .ok trees := by
      apply mapExcept_exists
      intro c hc
      obtain ⟨hc1, hc2⟩ := List.mem_filter.mp hc
      have hck : c ≠ k := by
        intro e
        rw [Bool.not_eq_true', tempEq_false heq] at hc2
        exact hc2 e
      have e : Edge cur k c := ⟨ts, mapLookup_mem heq hl, hc1⟩
      have hr : Reach cur k k c := .step (.refl k) e hck
      apply spanningTree_terminates heq hfc (allNodes B pm0) hV fuel c [k]
      · simp
      · intro a ha
        simp only [List.mem_singleton] at ha
        subst ha
        exact mem_allNodes heq (Or.inl (hks a List.mem_cons_self))
      · intro a ha
        simp only [List.mem_singleton] at ha
        subst ha
        exact hr
      · exact hr
      · exact Or.inr ⟨by simpa using hck, hV _ _ e⟩
      · simp only [List.length_singleton]; omega
    obtain ⟨trees, ho⟩ := this
    obtain ⟨rest, hrest⟩ := ih (deleteTargets B (Root.visitedBy (Root.startNode k trees)) cur)
      (good.delete _) (fun k' hk' => hks k' (List.mem_cons_of_mem _ hk'))
    exact ⟨Root.startNode k trees :: rest, by simp [spanningForestLoop, hl, ho, hrest]⟩

/-- **`parallel_moves` does not fail on a functional move graph** -/
theorem parallelMoves_ok {pm : List (T × List T)} (hf : Functional pm) :
    ∃ code, parallelMoves B pm = .ok code := by
  obtain ⟨roots, hroots⟩ := spanningForestLoop_ok heq hf (fuel := (allNodes B pm).length + 1)
    (by omega) (pm.map (·.1)) pm ⟨rfl, fun _ _ h => h⟩ (fun _ h => h)
  unfold parallelMoves spanningForest
  rw [hroots]
  exact ⟨_, rfl⟩

end

end Scc.Backend.Total
