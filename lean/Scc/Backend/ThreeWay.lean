/-
  Scc.Backend.ThreeWay — the right half of the three-way relation
        AxCut positional machine  ⟷  abstract backend machine  ⟷  a real machine
  once, for every real machine.
  The translation of the abstract heap (`trW` … `trHeap`): the machine holds a tag as the offset into a jump table
  (tag × `stride`) and a closure as the address of its methods (the map `κ`, per object and field); `imgWord`: a
  reference as a machine address.
  A `Target B` says what the relation and its proofs see of a machine that runs the code of the backend `B`: what
  the temporaries of the positions hold (`tv`, the vocabulary of Scc/Backend/StepProv.lean), the trace, the boundary
  invariant, the heap view, how a block runs by itself, and one contract per method of memory.rs (erase, share,
  store, load).  The postconditions of the contracts speak of the state reached only through these observations
  (spelled out in `Target`, as `Keep` in the contracts of `Machine`, Scc/Backend/ThreeWayStep.lean), so the frame
  notions of the backends stay behind them.
  `X3R T` is the relation; a backend's own relation is `X3R` at its target.  `erase_x3`, `share_x3`: the abstract
  `erase` / `share` against the two block contracts.
-/
import Scc.Heap.RefineTr
import Scc.Heap.RefineHRef
import Scc.Heap.RefineOps
import Scc.Heap.RefineBound
import Scc.Backend.SimDefs2
import Scc.Backend.ProofsSubstObj
import Scc.Mem.View

namespace Scc.Backend.ThreeWay

open Scc.AxCut Scc.Backend.Abs Scc.Backend.Sim Scc.Backend.Sim2
open Scc.Backend.Subst (rp)
open Scc.Heap (HState InvS InvW)
open Scc.Heap.Refine

/-- the word part of a value of kind `chi` whose abstract word is `a`: a tag is the byte offset of its entry in
the jump table (`stride` bytes per entry); for a closure the word is a code address, which is no function of
the abstract one (never used for `cns`) -/
def trW (stride : Word) (chi : Chi) (a : Word) : Word :=
  match chi with
  | .prd => a * stride
  | _ => a

/-- `trW` given what the machine's temporary holds (`cur`): for a closure the word is whatever it holds -/
def trWs (stride : Word) (cur : Option Word) (chi : Chi) (a : Word) : Word :=
  match chi with
  | .cns => cur.getD 0
  | c => trW stride c a

/-- field `j` of the object `id`: `κ id j` is the machine's word of a closure field -/
def trF (stride : Word) (κ : Nat → Nat → Word) (id j : Nat) (f : Abs.Field) : Abs.Field :=
  { f with val := match f.chi with
                  | .cns => κ id j
                  | c => trW stride c f.val }

def trFs (stride : Word) (κ : Nat → Nat → Word) (id : Nat) : Nat → List Abs.Field → List Abs.Field
  | _, [] => []
  | j, f :: fs => trF stride κ id j f :: trFs stride κ id (j + 1) fs

/-- the abstract heap with the word parts as the machine holds them -/
def trHeap (stride : Word) (κ : Nat → Nat → Word) : Heap → Heap :=
  mapFields fun id fs => trFs stride κ id 0 fs

/-- a reference: null ↦ null, `id ↦ ι id` -/
def imgWord (ι : Nat → Nat) (r : Word) : Word := if r = 0 then 0 else BitVec.ofNat 64 (ι r.toNat)

section
variable (s : Word) (κ : Nat → Nat → Word)

theorem trFs_length (id : Nat) : ∀ (j : Nat) (fs : List Abs.Field), (trFs s κ id j fs).length = fs.length
  | _, [] => rfl
  | j, f :: fs => by simp [trFs, trFs_length id (j + 1) fs]

theorem trFs_filterMap {α : Type} (g : Abs.Field → Option α) (hg : ∀ id j f, g (trF s κ id j f) = g f)
    (id : Nat) : ∀ (j : Nat) (fs : List Abs.Field), (trFs s κ id j fs).filterMap g = fs.filterMap g
  | _, [] => rfl
  | j, f :: fs => by
    simp only [trFs, List.filterMap_cons, hg, trFs_filterMap g hg id (j + 1) fs]

theorem fieldsOK_trFs : FieldsOK (fun id fs => trFs s κ id 0 fs) :=
  ⟨fun id fs => trFs_length s κ id 0 fs, fun id o => by
    unfold Obj.children
    exact trFs_filterMap s κ _ (fun _ _ _ => rfl) id 0 o.fields⟩

theorem trF_val_of_ne (id j : Nat) (f : Abs.Field) (hc : f.chi ≠ .cns) :
    (trF s κ id j f).val = trW s f.chi f.val := by
  unfold trF
  cases h : f.chi with
  | cns => exact absurd h hc
  | prd => rfl
  | ext => rfl

theorem trFs_getElem (id : Nat) : ∀ (j : Nat) (fs : List Abs.Field) (i : Nat) (hi : i < fs.length),
    (trFs s κ id j fs)[i]'(by rw [trFs_length]; exact hi) = trF s κ id (j + i) fs[i]
  | _, [], i, hi => by simp at hi
  | j, f :: fs, 0, _ => by simp [trFs]
  | j, f :: fs, i + 1, hi => by
    simp only [trFs, List.getElem_cons_succ]
    rw [trFs_getElem id (j + 1) fs i (by simpa using hi)]
    congr 1
    omega

theorem trFs_map_chi (id : Nat) : ∀ (j : Nat) (fs : List Abs.Field),
    (trFs s κ id j fs).map (·.chi) = fs.map (·.chi)
  | _, [] => rfl
  | j, f :: fs => by
    have : (trF s κ id j f).chi = f.chi := rfl
    simp [trFs, this, trFs_map_chi id (j + 1) fs]

abbrev trO (id : Nat) (o : Obj) : Obj := mapObj (fun id fs => trFs s κ id 0 fs) id o

theorem trO_children (id : Nat) (o : Obj) : (trO s κ id o).children = o.children :=
  (fieldsOK_trFs s κ).children id o

theorem trHeap_cons (id : Nat) (o : Obj) (h : Heap) :
    trHeap s κ ((id, o) :: h) = (id, trO s κ id o) :: trHeap s κ h := rfl

theorem trHeap_get (h : Heap) (id : Nat) : (trHeap s κ h).get id = (h.get id).map (trO s κ id) :=
  mapFields_get (g := fun id fs => trFs s κ id 0 fs) h id

theorem mem_trHeap {h : Heap} {e : Nat × Obj} (he : e ∈ h) : (e.1, trO s κ e.1 e.2) ∈ trHeap s κ h :=
  mem_mapFields (g := fun id fs => trFs s κ id 0 fs) he

/-- only the closure words of closure fields enter the translation -/
theorem trFs_congr_cns {κ' : Nat → Nat → Word} (id : Nat) : ∀ (j : Nat) (fs : List Abs.Field),
    (∀ i (hi : i < fs.length), fs[i].chi = .cns → κ' id (j + i) = κ id (j + i)) →
    trFs s κ' id j fs = trFs s κ id j fs
  | _, [], _ => rfl
  | j, f :: fs, h => by
    have ih := trFs_congr_cns (κ' := κ') id (j + 1) fs (fun i hi hc => by
      have := h (i + 1) (by simpa using hi) (by simpa using hc)
      rwa [show j + (i + 1) = j + 1 + i by omega] at this)
    have h0 : f.chi = .cns → κ' id j = κ id j := fun hc => by
      have := h 0 (by simp) (by simpa using hc)
      simpa using this
    have hf : trF s κ' id j f = trF s κ id j f := by
      unfold trF
      cases hc : f.chi with
      | cns => simp only; rw [h0 hc]
      | prd => rfl
      | ext => rfl
    simp only [trFs, ih, hf]

/-- the translation looks at `κ` only on the ids of the heap -/
theorem trFs_congr {κ' : Nat → Nat → Word} (id : Nat) (hκ : ∀ j, κ' id j = κ id j)
    (j : Nat) (fs : List Abs.Field) : trFs s κ' id j fs = trFs s κ id j fs :=
  trFs_congr_cns s κ id j fs (fun _ _ _ => hκ _)

theorem trHeap_congr {κ' : Nat → Nat → Word} : ∀ (h : Heap), (∀ e ∈ h, ∀ j, κ' e.1 j = κ e.1 j) →
    trHeap s κ' h = trHeap s κ h
  | [], _ => rfl
  | e :: h, hκ => by
    rw [show (e :: h) = ((e.1, e.2) :: h) from rfl, trHeap_cons, trHeap_cons,
      trHeap_congr h (fun e' he' => hκ e' (by simp [he']))]
    congr 2
    unfold trO mapObj
    simp only [trFs_congr s κ e.1 (hκ e (by simp))]

/-- where `κ` holds the abstract words of the closure fields, a closure field is translated like any other -/
theorem trFs_of_same {id : Nat} : ∀ (j0 : Nat) (fs : List Abs.Field),
    (∀ j f, fs[j]? = some f → f.chi = .cns → κ id (j0 + j) = f.val) →
    trFs s κ id j0 fs = fs.map fun f => { f with val := trW s f.chi f.val }
  | _, [], _ => rfl
  | j0, f :: fs, h => by
    simp only [trFs, List.map_cons]
    rw [trFs_of_same (j0 + 1) fs (fun j f' hf hc => by
      have := h (j + 1) f' (by simpa using hf) hc
      rwa [show j0 + (j + 1) = j0 + 1 + j by omega] at this)]
    congr 1
    have h0 : f.chi = .cns → κ id j0 = f.val := by simpa using h 0 f (by simp)
    unfold trF
    cases hc : f.chi with
    | cns => simp only; rw [h0 hc]; rfl
    | prd => rfl
    | ext => rfl

/-- when `κ` is the abstract word on the closure fields of `h`, the translation of the heap does not need `κ` -/
theorem trHeap_of_same {h : Heap} (hnd : (h.map (·.1)).Nodup)
    (S : ∀ id o, h.get id = some o → ∀ j f, o.fields[j]? = some f → f.chi = .cns → κ id j = f.val) :
    trHeap s κ h =
      h.map fun e => (e.1, { e.2 with fields := e.2.fields.map fun f => { f with val := trW s f.chi f.val } }) := by
  unfold trHeap mapFields
  apply List.map_congr_left
  intro e he
  show (e.1, { e.2 with fields := trFs s κ e.1 0 e.2.fields }) = _
  rw [trFs_of_same s κ 0 e.2.fields (fun j f hf hc => by
    rw [Nat.zero_add]; exact S e.1 e.2 (heap_mem_get hnd he) j f hf hc)]
end

theorem words_of {s : Word} {x : Option Word} {v : Word} {chi : Chi} {a : Word} (hx : x = some v)
    (hv : chi ≠ .cns → v = trW s chi a) : x = some (trWs s x chi a) := by
  subst hx
  cases chi with
  | cns => rfl
  | prd => rw [hv (by decide)]; rfl
  | ext => rw [hv (by decide)]; rfl

theorem imgWord_toNat {ι : Nat → Nat} {r : Word} (h : r ≠ 0 → ι r.toNat < 2 ^ 64) :
    (imgWord ι r).toNat = imgW ι r := by
  unfold imgWord imgW
  by_cases h0 : r = 0
  · simp [h0]
  · rw [if_neg h0, if_neg h0]
    simp [BitVec.toNat_ofNat, Nat.mod_eq_of_lt (h h0)]

/-- WHAT THE THREE-WAY RELATION SEES OF A MACHINE that runs the code of the backend `B`: observations of a state
(`tv`, `OutOK`, `Bnd`, `HRel`), the constants of the code generator the translation depends on, and the contracts of
the methods of memory.rs, whose code runs by itself (`Exec`) -/
structure Target {Code Tm : Type} (B : Backend Code Tm) where
  /-- states, with whatever a run moves (program counter, trace) -/
  S : Type
  /-- temporaries `0 … ntemps - 1` are those of positions (utils.rs temporary_from_position) -/
  ntemps : Nat
  ntemps_le : ntemps ≤ 512
  /-- the temporary of the backend for temporary `t` of the abstract machine (`2i`, `2i+1`: position `i`) -/
  posT : Nat → Tm
  /-- what the temporary `posT t` holds (`none`: undefined) -/
  tv : S → Nat → Option Word
  /-- the machine's trace is `o` (a machine without output: anything) -/
  OutOK : S → List (Bool × Word) → Prop
  /-- what holds at every statement boundary whatever the context (stack pointer, callee-save area) -/
  Bnd : S → Prop
  /-- the machine memory represents the block-level heap -/
  HRel : S → HState → Prop
  /-- bytes per entry of a jump table -/
  stride : Word
  jumpLength_stride : ∀ pos : Nat, BitVec.ofInt 64 (B.jumpLength pos) = BitVec.ofInt 64 (pos : Int) * stride
  /-- bound on the increment of `share_block_n` (an immediate) -/
  shareMax : Nat
  shareMax_le : shareMax ≤ 2 ^ 32
  /-- a block of code, wherever it stands, runs from a state to a state and falls through -/
  Exec : List Code → S → S → Prop
  /-- memory.rs erase_block -/
  erase : ∀ {st : S} {hs hs' : HState} {t : Nat} {p : Word}, Bnd st → HRel st hs → t < ntemps →
    tv st t = some p → Scc.Heap.eraseBlock hs p.toNat = .ok hs' → ∀ kk : Nat,
    ∃ code, (B.eraseBlock (posT t)).run kk = .ok (code, kk + 3) ∧
      ∃ st', Exec code st st' ∧ Bnd st' ∧ HRel st' hs' ∧ (∀ u, u < ntemps → tv st' u = tv st u) ∧
        ∀ o, OutOK st o → OutOK st' o
  /-- memory.rs share_block_n -/
  share : ∀ {st : S} {hs hs' : HState} {t : Nat} {p : Word} {n : Nat}, Bnd st → HRel st hs → t < ntemps →
    tv st t = some p → n < shareMax → Scc.Heap.shareBlock hs p.toNat n = .ok hs' →
    (p ≠ 0 → hs.mem.get p.toNat + n < 2 ^ 64) → ∀ kk : Nat,
    ∃ code, (B.shareBlockN (posT t) n).run kk = .ok (code, kk + 1) ∧
      ∃ st', Exec code st st' ∧ Bnd st' ∧ HRel st' hs' ∧ (∀ u, u < ntemps → tv st' u = tv st u) ∧
        ∀ o, OutOK st o → OutOK st' o
  /-- the local labels of a block of memory.rs are drawn between the two label counters -/
  LabsIn : List Code → Nat → Nat → Prop
  /-- memory.rs store: the positions from `rem.length` on hold the fields `fs` (Scc/Mem/View.lean); the address
  of the new block goes to the pointer part of position `rem.length`, the positions below are kept -/
  store : ∀ {st : S} {hs hs' : HState} {toStore rem : Ctx} {fs : List Scc.Heap.Field} {ptr : Nat}, Bnd st →
    HRel st hs → 2 * (rem.length + toStore.length) ≤ ntemps → 2 * rem.length < ntemps →
    Scc.Mem.EnvFields (tv st) rem.length toStore fs →
    Scc.Heap.storeObj hs fs = .ok (hs', ptr) → ∀ kk : Nat,
    ∃ code kk', (B.store toStore rem).run kk = .ok (code, kk') ∧ kk ≤ kk' ∧ LabsIn code kk kk' ∧
      ∃ st', Exec code st st' ∧ Bnd st' ∧ HRel st' hs' ∧ (∃ w, tv st' (2 * rem.length) = some w ∧ w.toNat = ptr) ∧
        (∀ t, t < 2 * rem.length → tv st' t = tv st t) ∧ ∀ o, OutOK st o → OutOK st' o
  /-- the heap lies below 2^64 -/
  limit_lt : ∀ {st : S} {hs : HState}, Bnd st → HRel st hs → hs.limit < 2 ^ 64
  /-- a word of the heap view is a machine word -/
  mem_lt : ∀ {st : S} {hs : HState}, HRel st hs → ∀ a, hs.mem.get a < 2 ^ 64
  /-- memory.rs load: the block referenced by the pointer part of position `existing.length` is unpacked into the
  positions from there on; the positions below are kept -/
  load : ∀ {st : S} {hs hs' : HState} {toLoad existing : Ctx} {pw : Word} {vals : List Scc.Heap.Field}, Bnd st →
    HRel st hs → 2 * (existing.length + toLoad.length) ≤ ntemps → tv st (2 * existing.length) = some pw →
    Scc.Heap.loadObj hs pw.toNat (toLoad.map fun b => b.chi != .ext) = .ok (hs', vals) →
    (hs.mem.get pw.toNat ≠ 0 → ∀ a, hs'.mem.get a < 2 ^ 64) → ∀ kk : Nat,
    ∃ code kk', (B.load toLoad existing).run kk = .ok (code, kk') ∧ kk ≤ kk' ∧ LabsIn code kk kk' ∧
      ∃ st', Exec code st st' ∧ Bnd st' ∧ HRel st' hs' ∧ Scc.Mem.EnvFields (tv st') existing.length toLoad vals ∧
        (∀ t, t < 2 * existing.length → tv st' t = tv st t) ∧ ∀ o, OutOK st o → OutOK st' o

section
variable {Code Tm : Type} {B : Backend Code Tm} (T : Target B)

/-- from `st` to `st'` the temporaries of the positions outside `ch`, the trace and the heap view are
untouched -/
structure Keep (st st' : T.S) (ch : Nat → Prop) : Prop where
  tv : ∀ u, u < T.ntemps → ¬ ch u → T.tv st' u = T.tv st u
  out : ∀ o, T.OutOK st o → T.OutOK st' o
  hrel : ∀ hs, T.HRel st hs → T.HRel st' hs

/-- the temporaries of all positions and the trace are untouched (the heap may have changed) -/
structure MachKeep (st st' : T.S) : Prop where
  tv : ∀ u, u < T.ntemps → T.tv st' u = T.tv st u
  out : ∀ o, T.OutOK st o → T.OutOK st' o

theorem MachKeep.refl (st : T.S) : MachKeep T st st := ⟨fun _ _ => rfl, fun _ h => h⟩

variable {T} in
theorem MachKeep.trans {a b c : T.S} (h1 : MachKeep T a b) (h2 : MachKeep T b c) : MachKeep T a c :=
  ⟨fun u hu => (h2.tv u hu).trans (h1.tv u hu), fun o h => h2.out o (h1.out o h)⟩

variable {T} in
theorem Keep.mono {st st' : T.S} {ch ch' : Nat → Prop} (K : Keep T st st' ch) (h : ∀ u, ch u → ch' u) :
    Keep T st st' ch' :=
  ⟨fun u hu hc => K.tv u hu (fun hcu => hc (h u hcu)), K.out, K.hrel⟩

variable {T} in
theorem Keep.trans {a b c : T.S} {ch : Nat → Prop} (h1 : Keep T a b ch) (h2 : Keep T b c ch) : Keep T a c ch :=
  ⟨fun u hu hc => (h2.tv u hu hc).trans (h1.tv u hu hc), fun o h => h2.out o (h1.out o h),
    fun hs h => h2.hrel hs (h1.hrel hs h)⟩

variable {T} in
/-- a step that keeps the positions outside `ch`, then a step that changes no position -/
theorem Keep.then {a b c : T.S} {ch : Nat → Prop} (h1 : Keep T a b ch) (h2 : Keep T b c (fun _ => False)) :
    Keep T a c ch :=
  h1.trans (h2.mono (fun _ h => h.elim))

variable {T} in
/-- `Keep` of all positions says more than `MachKeep`: the heap view is untouched too -/
theorem Keep.machKeep {st st' : T.S} (K : Keep T st st' (fun _ => False)) : MachKeep T st st' :=
  ⟨fun u hu => K.tv u hu id, K.out⟩

/-- THE RIGHT HALF OF THE THREE-WAY RELATION at a statement boundary with context `Γ`: position `i` of the
abstract machine (temporaries `2i`, `2i+1`) is held by the machine's temporaries `2i`, `2i+1`; the machine memory
represents the block-level heap `hs`, which represents the abstract heap with the machine's word parts under
the address map `ι`; `rs`: the non-null references held -/
structure X3R (Γ : Ctx) (cfg : Config) (rs : List Nat) (hs : HState) (ι : Nat → Nat)
    (κ : Nat → Nat → Word) (st : T.S) : Prop where
  bnd : T.Bnd st
  cap : 2 * Γ.length ≤ T.ntemps
  /-- word parts (for a closure: the temporary is defined) -/
  words : ∀ i (hi : i < Γ.length) a, cfg.temps.get (2 * i + 1) = some a →
    T.tv st (2 * i + 1) = some (trWs T.stride (T.tv st (2 * i + 1)) Γ[i].chi a)
  /-- pointer parts -/
  ptrs : ∀ i (hi : i < Γ.length), Γ[i].chi ≠ .ext → ∀ r, cfg.temps.get (2 * i) = some r →
    T.tv st (2 * i) = some (imgWord ι r)
  out : T.OutOK st cfg.out
  hrel : T.HRel st hs
  href : HRef (trHeap T.stride κ cfg.heap) rs cfg.next hs ι

/-- at a statement boundary the roots are the references held by the variables of the context -/
def X3 (Γ : Ctx) (cfg : Config) (hs : HState) (ι : Nat → Nat) (κ : Nat → Nat → Word) (st : T.S) : Prop :=
  X3R T Γ cfg (roots Γ cfg.temps) hs ι κ st

variable {T}
variable {Γ : Ctx} {cfg cfg1 : Config} {rs rs1 : List Nat} {hs hs1 : HState} {ι : Nat → Nat}
  {κ : Nat → Nat → Word} {st st1 : T.S}

theorem X3R.roots_congr {rs' : List Nat} (X : X3R T Γ cfg rs hs ι κ st) (hc : ∀ x, rs'.count x = rs.count x) :
    X3R T Γ cfg rs' hs ι κ st :=
  ⟨X.bnd, X.cap, X.words, X.ptrs, X.out, X.hrel, HRef.roots_congr X.href hc⟩

/-- the relation after a heap operation that leaves the temporaries of all positions alone -/
theorem X3R.heapStep (X : X3R T Γ cfg rs hs ι κ st) (B1 : T.Bnd st1) (K : MachKeep T st st1)
    (HR1 : T.HRel st1 hs1)
    (htemps : ∀ t v, t < 2 * Γ.length → cfg1.temps.get t = some v → cfg.temps.get t = some v)
    (hout1 : cfg1.out = cfg.out)
    (R1 : HRef (trHeap T.stride κ cfg1.heap) rs1 cfg1.next hs1 ι) : X3R T Γ cfg1 rs1 hs1 ι κ st1 := by
  have hcap := X.cap
  refine ⟨B1, X.cap, ?_, ?_, by rw [hout1]; exact K.out _ X.out, HR1, R1⟩
  · intro i hi a ha
    rw [K.tv _ (by omega)]
    exact X.words i hi a (htemps _ _ (by omega) ha)
  · intro i hi hc r hr
    rw [K.tv _ (by omega)]
    exact X.ptrs i hi hc r (htemps _ _ (by omega) hr)

/-- the relation sees a state only through the temporaries of the positions, the trace and the heap view -/
theorem X3R.keep (X : X3R T Γ cfg rs hs ι κ st) (B1 : T.Bnd st1) (K : Keep T st st1 (fun _ => False)) :
    X3R T Γ cfg rs hs ι κ st1 :=
  X.heapStep B1 K.machKeep (K.hrel _ X.hrel) (fun _ _ _ h => h) rfl X.href

/-- the word of a closure variable may change (it only has to stay defined) -/
theorem X3R.keep_cns (X : X3R T Γ cfg rs hs ι κ st) (B1 : T.Bnd st1) {n : Nat} (hn : n < Γ.length)
    (hc : Γ[n].chi = .cns) (K : Keep T st st1 (· = 2 * n + 1)) (hdef : (T.tv st1 (2 * n + 1)).isSome) :
    X3R T Γ cfg rs hs ι κ st1 := by
  refine ⟨B1, X.cap, ?_, ?_, K.out _ X.out, K.hrel _ X.hrel, X.href⟩
  · intro i hi a ha
    by_cases e : i = n
    · subst e
      obtain ⟨w, hw⟩ := Option.isSome_iff_exists.mp hdef
      rw [hc]
      exact words_of hw (fun h => absurd rfl h)
    · have := X.cap
      rw [K.tv _ (by omega) (by omega)]
      exact X.words i hi a ha
  · intro i hi hcx r hr
    have := X.cap
    rw [K.tv _ (by omega) (by omega)]
    exact X.ptrs i hi hcx r hr

/-- the relation looks at the closure words of the fields only through the translated heap -/
theorem X3R.congrK {κ' : Nat → Nat → Word} (X : X3R T Γ cfg rs hs ι κ st)
    (h : trHeap T.stride κ' cfg.heap = trHeap T.stride κ cfg.heap) : X3R T Γ cfg rs hs ι κ' st :=
  ⟨X.bnd, X.cap, X.words, X.ptrs, X.out, X.hrel, by rw [h]; exact X.href⟩

/-- a reference held as a root is a machine address -/
theorem X3R.root_lt (X : X3R T Γ cfg rs hs ι κ st) {p : Word} (hm : p ≠ 0 → p.toNat ∈ rs) :
    p ≠ 0 → ι p.toNat < 2 ^ 64 := by
  intro h0
  obtain ⟨o, ho⟩ := href_root_mem X.href (hm h0)
  have h1 := href_head_lt X.href ho
  have h2 := T.limit_lt X.bnd X.hrel
  simp only at h1
  omega

/-- a reference held by a variable of a related context is an address inside the heap (`X3R.root_lt`), and an
identifier the abstract heap has drawn -/
theorem X3.ref_lt {Γ : Ctx} {cfg : Config} {hs : HState} {ι : Nat → Nat} {κ : Nat → Nat → Word} {st : T.S}
    (X : X3 T Γ cfg hs ι κ st) {i : Nat} (hi : i < Γ.length) (hc : Γ[i].chi ≠ .ext) {r : Word}
    (hr : cfg.temps.get (2 * i) = some r) (h0 : r ≠ 0) :
    ι r.toNat < 2 ^ 64 ∧ r.toNat < cfg.next := by
  have hm := Scc.Backend.Sim2.mem_roots hi hc hr h0
  obtain ⟨o, ho⟩ := href_root_mem X.href hm
  exact ⟨X3R.root_lt X (fun _ => hm) h0, (X.href.abs.ids _ ho).2.1⟩

theorem mem_rp {p : Word} (h0 : p ≠ 0) : p.toNat ∈ rp p := by
  have : (p != 0) = true := by rw [bne_iff_ne]; exact h0
  simp only [rp, this, if_true, List.mem_singleton]

/-- THE ABSTRACT `erase` AGAINST `Memory::erase_block`: the memory contract ∘ `href_erase` -/
theorem erase_x3 {rsKeep : List Nat} {i : Nat} (hi : i < Γ.length) (hc : Γ[i].chi ≠ .ext) {p : Word}
    (X : X3R T Γ cfg (rsKeep ++ rp p) hs ι κ st)
    (hp : cfg.temps.get (2 * i) = some p) {h' : Heap} (he : cfg.heap.erase p = .ok h')
    (hcfg1 : cfg1 =
      { cfg with pc := cfg.pc + 1, temps := (clobberTemp cfg.temps).unset (2 * i), heap := h' })
    (kk : Nat) :
    ∃ code, (B.eraseBlock (T.posT (2 * i))).run kk = .ok (code, kk + 3) ∧
      ∃ st' hs', T.Exec code st st' ∧ X3R T Γ cfg1 rsKeep hs' ι κ st' ∧ FrLe hs hs' 0 ∧ MachKeep T st st' := by
  have hcap := X.cap
  have hN := T.ntemps_le
  have hplt := X.root_lt (p := p) (fun h0 => List.mem_append.2 (Or.inr (mem_rp h0)))
  obtain ⟨h'', hs', he', hop, R1⟩ := href_erase p X.href
  have hh'' : h'' = trHeap T.stride κ h' := by
    have := mapFields_erase (fieldsOK_trFs T.stride κ) he
    unfold trHeap at he' ⊢
    rw [he'] at this
    injection this
  subst hh''
  obtain ⟨code, hrun, st', hx, B', HR', hk, ho⟩ :=
    T.erase X.bnd X.hrel (by omega) (X.ptrs i hi hc p hp) (by rw [imgWord_toNat hplt]; exact hop) kk
  refine ⟨code, hrun, st', hs', hx, ?_, frLe_erase p X.href hop, ⟨hk, ho⟩⟩
  refine X.heapStep B' ⟨hk, ho⟩ HR' ?_ (by rw [hcfg1]) (by rw [hcfg1]; exact R1)
  intro t v ht hg
  rw [hcfg1] at hg
  simp only at hg
  by_cases e : t = 2 * i
  · subst e; rw [get_unset_same] at hg; cases hg
  · rw [get_unset_other _ e, get_clobberTemp _ (by unfold Mock.T_TEMP; omega)] at hg
    exact hg

/-- THE ABSTRACT `share` AGAINST `Memory::share_block_n`: the memory contract ∘ `href_share`; the count does not
overflow by the counting invariant -/
theorem share_x3 {i : Nat} (hi : i < Γ.length) (hc : Γ[i].chi ≠ .ext) {p : Word}
    (X : X3R T Γ cfg rs hs ι κ st) (hmem : p ≠ 0 → p.toNat ∈ rs) (hrs : rs.length ≤ 2 ^ 40)
    (hp : cfg.temps.get (2 * i) = some p) {k : Nat} (hk : k < T.shareMax) {h' : Heap}
    (he : cfg.heap.share p k = .ok h')
    (hcfg1 : cfg1 = { cfg with pc := cfg.pc + 1, temps := clobberTemp cfg.temps, heap := h' })
    (kk : Nat) :
    ∃ code, (B.shareBlockN (T.posT (2 * i)) k).run kk = .ok (code, kk + 1) ∧
      ∃ st' hs', T.Exec code st st' ∧
        X3R T Γ cfg1 (rs ++ (List.replicate k (rp p)).flatten) hs' ι κ st' ∧ FrLe hs hs' 0 ∧
        MachKeep T st st' := by
  have hcap := X.cap
  have hN := T.ntemps_le
  have hplt := X.root_lt hmem
  obtain ⟨h'', hs', he', hop, R1⟩ := href_share X.href p k hmem
  have hh'' : h'' = trHeap T.stride κ h' := by
    have := mapFields_share (g := fun id fs => trFs T.stride κ id 0 fs) he
    unfold trHeap at he' ⊢
    rw [he'] at this
    injection this
  subst hh''
  have hno : imgWord ι p ≠ 0 → hs.mem.get (imgWord ι p).toNat + k < 2 ^ 64 := by
    intro hne
    have h0 : p ≠ 0 := fun e => hne (by simp [imgWord, e])
    have htn : (imgWord ι p).toNat = ι p.toNat := by
      rw [imgWord_toNat hplt]; unfold imgW; rw [if_neg h0]
    obtain ⟨lin, lazy, live, Fr, I⟩ := X.href.conc
    obtain ⟨o, ho⟩ := href_root_mem X.href (hmem h0)
    rw [htn]
    exact live_header_add_lt I (T.limit_lt X.bnd X.hrel) (by rw [List.length_map]; exact hrs)
      (C09R_chains_live X.href I _ ho _ (head_mem_blocksOf (X.href.shape _ ho)))
      (by have := T.shareMax_le; omega)
  obtain ⟨code, hrun, st', hx, B', HR', hkp, ho⟩ :=
    T.share X.bnd X.hrel (by omega) (X.ptrs i hi hc p hp) hk (by rw [imgWord_toNat hplt]; exact hop) hno kk
  refine ⟨code, hrun, st', hs', hx, ?_, frLe_share X.href p k hmem hop, ⟨hkp, ho⟩⟩
  refine X.heapStep B' ⟨hkp, ho⟩ HR' ?_ (by rw [hcfg1]) (by rw [hcfg1]; exact R1)
  intro t v ht hg
  rw [hcfg1] at hg
  simp only at hg
  rw [get_clobberTemp _ (by unfold Mock.T_TEMP; omega)] at hg
  exact hg

end

end Scc.Backend.ThreeWay
