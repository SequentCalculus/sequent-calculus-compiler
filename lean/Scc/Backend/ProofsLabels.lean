/-
  Scc.Backend.ProofsLabels — the label structure of the code produced by the generic code generator
  with the mock backend: `events` (label definitions and references of a code list, in order), the
  structured label names `Lbl` and the SKELETON functions `stmtEvents` / `clausesEvents` /
  `defsEvents` that compute the events from the program alone; `codeStatementR_events` …: the events
  of generated code are the rendered skeleton events and the final counter is the skeleton's.
  Then, about the skeleton: every referenced label is defined (C14-T2), the numbers of the generated
  labels lie in the range of the counter, the xtor names of clause labels are those of the program
  (`stmtEvents_xtors`, `clausesEvents_xtors`; C14-T3 does not use them: it goes through `G … X` of ProofsLabelsGen.lean).
  (That the defined labels are pairwise distinct, C14-T3, is proved for every backend in
  ProofsLabelsGen.lean.)  The last declaration, `C14Generic.clauseXtors` (the xtors of a clause list), belongs to the
  vocabulary of Props/C14Generic.lean; it stands here because Backend/ProofsRefs.lean states its jump-table facts
  with it and is imported by that file.
-/
import Scc.Backend.Proofs
import Scc.ListLemmas

namespace Scc.Backend

open Scc.AxCut

/-- label events of code: definitions and references, in code order -/
inductive LEv (L : Type) where
  | dfn (l : L)
  | ref (l : L)
  deriving DecidableEq, Repr

def LEv.map {L L' : Type} (f : L → L') : LEv L → LEv L'
  | .dfn l => .dfn (f l)
  | .ref l => .ref (f l)

def MockOp.events : MockOp → List (LEv String)
  | .label n => [.dfn n]
  | .jumpLabel n => [.ref n]
  | .jumpFixed n => [.ref n]
  | .jif _ _ _ n => [.ref n]
  | .jifz _ _ n => [.ref n]
  | .ll _ n => [.ref n]
  | _ => []

def events (code : List MockOp) : List (LEv String) := code.flatMap MockOp.events

def MockOp.dfn : MockOp → Option String
  | .label n => some n
  | _ => none

@[simp] theorem events_nil : events [] = [] := rfl
@[simp] theorem events_cons (op : MockOp) (code : List MockOp) :
    events (op :: code) = op.events ++ events code := by simp [events]
@[simp] theorem events_append (a b : List MockOp) : events (a ++ b) = events a ++ events b := by
  simp [events]

/-- structured label names -/
inductive Lbl where
  /-- label of a definition with printed name `f` -/
  | defn (f : String)
  | cleanup
  | lab (n : Nat)
  /-- table / clause base label: mangled type name, number -/
  | base (m : String) (n : Nat)
  /-- clause label: mangled type name, number, printed xtor name -/
  | clause (m : String) (n : Nat) (x : String)
  deriving DecidableEq, Repr

def Lbl.render (ren : Nat → String) : Lbl → String
  | .defn f => f ++ "_"
  | .cleanup => "cleanup"
  | .lab n => "lab" ++ ren n
  | .base m n => m ++ "_" ++ ren n
  | .clause m n x => m ++ "_" ++ ren n ++ "_" ++ x

def tableEvents (m : String) (n : Nat) : Clauses → List (LEv Lbl)
  | .nil => []
  | .cons x _ _ rest => .ref (.clause m n x.print) :: tableEvents m n rest

mutual
  def stmtEvents : Stmt → Nat → List (LEv Lbl) × Nat
    | .subst _ next, c => stmtEvents next c
    | .call f _, c => ([.ref (.defn f.print)], c)
    | .letS _ _ _ _ next _, c => stmtEvents next c
    | .switch _ ty cs _, c =>
      let r := clausesEvents (mangleTy ty) (c + 1) cs (c + 1)
      ((if cs.length ≤ 1 then [] else [.ref (.base (mangleTy ty) (c + 1))]) ++
        .dfn (.base (mangleTy ty) (c + 1)) ::
        (if cs.length > 1 then tableEvents (mangleTy ty) (c + 1) cs else []) ++ r.1, r.2)
    | .create _ ty _ cs next _ _, c =>
      let r1 := stmtEvents next (c + 1)
      let r2 := clausesEvents (mangleTy ty) (c + 1) cs r1.2
      (.ref (.base (mangleTy ty) (c + 1)) :: r1.1 ++ .dfn (.base (mangleTy ty) (c + 1)) ::
        (if cs.length > 1 then tableEvents (mangleTy ty) (c + 1) cs else []) ++ r2.1, r2.2)
    | .invoke _ _ _ _, c => ([], c)
    | .lit _ _ next _, c => stmtEvents next c
    | .op _ _ _ _ next _, c => stmtEvents next c
    | .print _ _ next _, c => stmtEvents next c
    | .ifc _ _ _ thenc elsec, c =>
      let r1 := stmtEvents elsec (c + 1)
      let r2 := stmtEvents thenc r1.2
      (.ref (.lab (c + 1)) :: r1.1 ++ .dfn (.lab (c + 1)) :: r2.1, r2.2)
    | .exit _, c => ([.ref .cleanup], c)
  def clausesEvents (m : String) (n : Nat) : Clauses → Nat → List (LEv Lbl) × Nat
    | .nil, c => ([], c)
    | .cons x _ body rest, c =>
      let r1 := stmtEvents body c
      let r2 := clausesEvents m n rest r1.2
      (.dfn (.clause m n x.print) :: r1.1 ++ r2.1, r2.2)
end

theorem events_hookCode (hooks : Bool) (ctx : Ctx) : events (hookCode mockSym hooks ctx) = [] := by
  unfold hookCode; cases hooks <;> simp [MockOp.events]

theorem events_codeTable (ren : Nat → String) (m : String) (n : Nat) : ∀ (cs : Clauses),
    events (codeTable mockSym cs (m ++ "_" ++ ren n)) =
      (tableEvents m n cs).map (LEv.map (Lbl.render ren))
  | .nil => by simp [codeTable, tableEvents]
  | .cons x c b rest => by
    simp [codeTable, tableEvents, events_codeTable ren m n rest, MockOp.events, LEv.map,
      Lbl.render, clauseLabel]

mutual
theorem events_treeMoves (t : Nat) (sp : Bool) : ∀ (tr : Tree Nat), events (treeMoves mockSym t sp tr) = []
  | .backEdge => by simp [treeMoves, MockOp.events]
  | .node target kids => by
    simp [treeMoves, MockOp.events, events_treeMovesList target sp kids]
theorem events_treeMovesList (t : Nat) (sp : Bool) :
    ∀ (trs : List (Tree Nat)), events (treeMovesList mockSym t sp trs) = []
  | [] => by simp [treeMovesList]
  | k :: ks => by
    simp [treeMovesList, events_treeMoves t sp k, events_treeMovesList t sp ks]
end

theorem events_rootMoves (r : Root Nat) : events (rootMoves mockSym r) = [] := by
  cases r with
  | startNode t kids =>
    simp only [rootMoves, events_append, events_treeMovesList]
    split <;> simp [MockOp.events]

theorem events_flatten_rootMoves (forest : List (Root Nat)) :
    events ((forest.map (rootMoves mockSym)).flatten) = [] := by
  induction forest with
  | nil => simp
  | cons r rs ih => simp [events_rootMoves, ih]

theorem events_parallelMoves (conns : List (Nat × List Nat)) (code : List MockOp)
    (h : parallelMoves mockSym conns = .ok code) : events code = [] := by
  unfold parallelMoves at h
  cases hf : spanningForest mockSym conns with
  | error e => simp [hf] at h
  | ok forest =>
    simp only [hf] at h
    cases h
    simp only [events_append, events_flatten_rootMoves]
    split <;> simp [MockOp.events]

theorem mapMGen_vt_run_ok (num : TempNum) (ctx : Ctx) (ids : List Nat) (c : Nat) (ts : List Nat) (c' : Nat)
    (h : (mapMGen (fun id => mockSym.variableTemporary num ctx id) ids).run c = .ok (ts, c')) : c = c' := by
  induction ids generalizing ts with
  | nil => simp only [mapMGen, run_pure_ok] at h; exact h.2
  | cons a as ih =>
    simp only [mapMGen, run_bind_ok, run_pure_ok, mockSym_variableTemporary, vt_run_ok] at h
    obtain ⟨t, c1, ⟨pos, _, _, rfl⟩, bs, c2, h2, _, rfl⟩ := h
    exact ih _ h2

theorem connections_go_run_ok (context newContext : Ctx) (tm : List (Binding × List Nat))
    (acc : List (Nat × List Nat)) (c : Nat) (r : List (Nat × List Nat)) (c' : Nat)
    (h : (connections.go mockSym context newContext tm acc).run c = .ok (r, c')) : c = c' := by
  induction tm generalizing acc with
  | nil => simp only [connections.go, run_pure_ok] at h; exact h.2
  | cons e rest ih =>
    obtain ⟨binding, targets⟩ := e
    unfold connections.go at h
    split at h
    · simp only [run_bind_ok, mockSym_variableTemporary, vt_run_ok] at h
      obtain ⟨k, c1, ⟨pos, _, _, rfl⟩, ts, c2, h2, h3⟩ := h
      have := mapMGen_vt_run_ok _ _ _ _ _ _ h2
      subst this
      exact ih _ h3
    · simp only [run_bind_ok, mockSym_variableTemporary, vt_run_ok] at h
      obtain ⟨k, c1, ⟨pos, _, _, rfl⟩, ts, c2, h2, k2, c3, ⟨pos2, _, _, rfl⟩, ts2, c4, h4, h5⟩ := h
      have e1 := mapMGen_vt_run_ok _ _ _ _ _ _ h2
      subst e1
      have e2 := mapMGen_vt_run_ok _ _ _ _ _ _ h4
      subst e2
      exact ih _ h5

theorem codeExchange_events (tm : List (Binding × List Nat)) (context newContext : Ctx) (c : Nat)
    (code : List MockOp) (c' : Nat)
    (h : (codeExchange mockSym tm context newContext).run c = .ok (code, c')) :
    events code = [] ∧ c = c' := by
  unfold codeExchange connections at h
  simp only [run_bind_ok] at h
  obtain ⟨conns, c1, h1, h2⟩ := h
  have e1 := connections_go_run_ok _ _ _ _ _ _ _ h1
  subst e1
  cases hp : parallelMoves mockSym conns with
  | error e => simp [hp, run_throw_ok] at h2
  | ok code' =>
    simp only [hp, run_pure_ok] at h2
    obtain ⟨rfl, rfl⟩ := h2
    exact ⟨events_parallelMoves _ _ hp, rfl⟩

theorem updateReferenceCount_events (v : Ident) (context : Ctx) (n : Nat) (c : Nat)
    (code : List MockOp) (c' : Nat)
    (h : (updateReferenceCount mockSym v context n).run c = .ok (code, c')) :
    events code = [] ∧ c = c' := by
  unfold updateReferenceCount at h
  simp only [run_bind_ok, mockSym_variableTemporary, vt_run_ok] at h
  obtain ⟨t, c1, ⟨pos, _, _, rfl⟩, h2⟩ := h
  match n with
  | 0 =>
    simp only [mockSym_eraseBlock, run_bind_ok, run_pure_ok] at h2
    obtain ⟨a, c2, ⟨rfl, rfl⟩, rfl, rfl⟩ := h2
    simp [MockOp.events]
  | 1 =>
    simp only [run_pure_ok] at h2
    obtain ⟨rfl, rfl⟩ := h2
    simp
  | n + 2 =>
    simp only [mockSym_shareBlockN, run_bind_ok, run_pure_ok] at h2
    obtain ⟨a, c2, ⟨rfl, rfl⟩, rfl, rfl⟩ := h2
    simp [MockOp.events]

theorem codeWeakeningContraction_events (tm : List (Binding × List Nat)) (context : Ctx) (c : Nat)
    (code : List MockOp) (c' : Nat)
    (h : (codeWeakeningContraction mockSym tm context).run c = .ok (code, c')) :
    events code = [] ∧ c = c' := by
  induction tm generalizing code c with
  | nil => simp only [codeWeakeningContraction, run_pure_ok] at h; obtain ⟨rfl, rfl⟩ := h; simp
  | cons e rest ih =>
    obtain ⟨binding, targets⟩ := e
    unfold codeWeakeningContraction at h
    simp only [run_bind_ok, run_pure_ok] at h
    obtain ⟨code1, c1, h1, code2, c2, h2, rfl, rfl⟩ := h
    have ⟨e2, e2'⟩ := ih _ _ h2
    split at h1
    · have ⟨e1, e1'⟩ := updateReferenceCount_events _ _ _ _ _ _ h1
      subst e1' e2'
      simp [e1, e2]
    · simp only [run_pure_ok] at h1
      obtain ⟨rfl, rfl⟩ := h1
      subst e2'
      simp [e2]

/-- label events of generated code are the rendered skeleton events; the counter is the skeleton's -/
def EvSpec (ren : Nat → String) (m : GenM (List MockOp)) (sk : Nat → List (LEv Lbl) × Nat) : Prop :=
  ∀ c code c', m.run c = .ok (code, c') →
    events code = (sk c).1.map (LEv.map (Lbl.render ren)) ∧ c' = (sk c).2

mutual
theorem codeStatementR_events (hooks : Bool) (ren : Nat → String) (types : List TypeDecl) :
    ∀ (s : Stmt) (context : Ctx),
      EvSpec ren (codeStatementR mockSym hooks ren types s context) (stmtEvents s)
  | .subst rearrange next, context => by
    intro c code c' h
    simp only [codeStatementR, run_bind_ok, run_pure_ok] at h
    obtain ⟨c1, k1, h1, c2, k2, h2, c3, k3, h3, rfl, rfl⟩ := h
    obtain ⟨e1, rfl⟩ := codeWeakeningContraction_events _ _ _ _ _ h1
    obtain ⟨e2, rfl⟩ := codeExchange_events _ _ _ _ _ _ h2
    obtain ⟨e3, rfl⟩ := codeStatementR_events hooks ren types next _ _ _ _ h3
    simp [events_hookCode, MockOp.events, e1, e2, e3, stmtEvents]
  | .call label args, context => by
    intro c code c' h
    simp only [codeStatementR, run_pure_ok] at h
    obtain ⟨rfl, rfl⟩ := h
    simp [events_hookCode, MockOp.events, stmtEvents, LEv.map, Lbl.render]
  | .letS var ty tag args next fv, context => by
    intro c code c' h
    simp only [codeStatementR, run_bind_ok, run_pure_ok, lookupTypeDeclM_run_ok, xtorPositionM_run_ok,
      splitOffLast_run_ok, mockSym_store, mockSym_variableTemporary, vt_run_ok] at h
    obtain ⟨decl, k1, ⟨_, rfl⟩, pos, k2, ⟨_, rfl⟩, sp, k3, ⟨_, rfl, rfl⟩, c1, k4, ⟨rfl, rfl⟩, t, k5,
      ⟨p, _, _, rfl⟩, c3, k6, h3, rfl, rfl⟩ := h
    obtain ⟨e3, rfl⟩ := codeStatementR_events hooks ren types next _ _ _ _ h3
    simp [events_hookCode, MockOp.events, e3, stmtEvents]
  | .switch var ty clauses fv, context => by
    intro c code c' h
    simp only [codeStatementR, run_bind_ok, run_pure_ok, freshLabelStr_run_ok] at h
    obtain ⟨num, k1, ⟨rfl, rfl⟩, c1, k2, h1, c3, k3, h3, rfl, rfl⟩ := h
    obtain ⟨e3, rfl⟩ := codeClausesR_events hooks ren types _ (mangleTy ty) (c + 1) clauses _ _ _ h3
    simp only [stmtEvents]
    by_cases hn : clauses.length ≤ 1
    · simp only [hn, if_true, run_pure_ok] at h1
      obtain ⟨rfl, rfl⟩ := h1
      have hn' : ¬ clauses.length > 1 := by omega
      simp [events_hookCode, MockOp.events, e3, hn, hn', LEv.map, Lbl.render]
    · simp only [hn, if_false, run_bind_ok, run_pure_ok, mockSym_variableTemporary, vt_run_ok] at h1
      obtain ⟨t, k4, ⟨p, _, _, rfl⟩, rfl, rfl⟩ := h1
      have hn' : clauses.length > 1 := by omega
      simp [events_hookCode, MockOp.events, e3, hn, hn', LEv.map, Lbl.render, events_codeTable]
  | .create var ty env clauses next fv1 fv2, context => by
    intro c code c' h
    cases env with
    | none => simp [codeStatementR, run_throw_ok] at h
    | some envCtx =>
      simp only [codeStatementR, run_bind_ok, run_pure_ok, freshLabelStr_run_ok, splitOffLast_run_ok,
        mockSym_store, mockSym_variableTemporary, vt_run_ok] at h
      obtain ⟨sp, k1, ⟨_, rfl, rfl⟩, c1, k2, ⟨rfl, rfl⟩, num, k3, ⟨rfl, rfl⟩, t, k4, ⟨p, _, _, rfl⟩,
        c3, k5, h3, c5, k6, h5, rfl, rfl⟩ := h
      obtain ⟨e3, rfl⟩ := codeStatementR_events hooks ren types next _ _ _ _ h3
      obtain ⟨e5, rfl⟩ := codeMethodsR_events hooks ren types _ (mangleTy ty) (c + 1) clauses _ _ _ h5
      simp only [stmtEvents]
      by_cases hn : clauses.length > 1
      · simp [events_hookCode, MockOp.events, e3, e5, hn, LEv.map, Lbl.render, events_codeTable]
      · simp [events_hookCode, MockOp.events, e3, e5, hn, LEv.map, Lbl.render]
  | .invoke var tag ty args, context => by
    intro c code c' h
    simp only [codeStatementR, run_bind_ok, lookupTypeDeclM_run_ok, mockSym_variableTemporary,
      vt_run_ok] at h
    obtain ⟨t, k1, ⟨p, _, _, rfl⟩, decl, k2, ⟨_, rfl⟩, h2⟩ := h
    split at h2
    · simp only [run_pure_ok] at h2
      obtain ⟨rfl, rfl⟩ := h2
      simp [events_hookCode, MockOp.events, stmtEvents]
    · simp only [run_bind_ok, run_pure_ok, xtorPositionM_run_ok] at h2
      obtain ⟨pos, k3, ⟨_, rfl⟩, rfl, rfl⟩ := h2
      simp [events_hookCode, MockOp.events, stmtEvents]
  | .lit var n next fv, context => by
    intro c code c' h
    simp only [codeStatementR, run_bind_ok, run_pure_ok, mockSym_variableTemporary, vt_run_ok] at h
    obtain ⟨t, k1, ⟨p, _, _, rfl⟩, c2, k2, h2, rfl, rfl⟩ := h
    obtain ⟨e2, rfl⟩ := codeStatementR_events hooks ren types next _ _ _ _ h2
    simp [events_hookCode, MockOp.events, e2, stmtEvents]
  | .op var fst o snd next fv, context => by
    intro c code c' h
    simp only [codeStatementR, run_bind_ok, run_pure_ok, mockSym_variableTemporary, vt_run_ok] at h
    obtain ⟨t, k1, ⟨p, _, _, rfl⟩, s1, k2, ⟨p1, _, _, rfl⟩, s2, k3, ⟨p2, _, _, rfl⟩, c2, k4, h2, rfl,
      rfl⟩ := h
    obtain ⟨e2, rfl⟩ := codeStatementR_events hooks ren types next _ _ _ _ h2
    simp [events_hookCode, MockOp.events, e2, stmtEvents]
  | .print newline var next fv, context => by
    intro c code c' h
    simp only [codeStatementR, run_bind_ok, run_pure_ok, mockSym_variableTemporary, vt_run_ok,
      mockSym_printI64] at h
    obtain ⟨t, k1, ⟨p, _, _, rfl⟩, c1, k2, ⟨rfl, rfl⟩, c2, k3, h2, rfl, rfl⟩ := h
    obtain ⟨e2, rfl⟩ := codeStatementR_events hooks ren types next _ _ _ _ h2
    simp [events_hookCode, MockOp.events, e2, stmtEvents]
  | .ifc sort fst snd thenc elsec, context => by
    intro c code c' h
    simp only [codeStatementR, run_bind_ok, run_pure_ok, freshLabelStr_run_ok] at h
    obtain ⟨num, k1, ⟨rfl, rfl⟩, c1, k2, h1, c2, k3, h2, c3, k4, h3, rfl, rfl⟩ := h
    have hc1 : events c1 = [.ref (Lbl.render ren (.lab (c + 1)))] ∧ c + 1 = k2 := by
      cases snd with
      | none =>
        simp only [run_bind_ok, run_pure_ok, mockSym_variableTemporary, vt_run_ok] at h1
        obtain ⟨a, k5, ⟨p, _, _, rfl⟩, rfl, rfl⟩ := h1
        simp [MockOp.events, Lbl.render]
      | some snd =>
        simp only [run_bind_ok, run_pure_ok, mockSym_variableTemporary, vt_run_ok] at h1
        obtain ⟨a, k5, ⟨p, _, _, rfl⟩, b, k6, ⟨q, _, _, rfl⟩, rfl, rfl⟩ := h1
        simp [MockOp.events, Lbl.render]
    obtain ⟨ec1, rfl⟩ := hc1
    obtain ⟨e2, rfl⟩ := codeStatementR_events hooks ren types elsec _ _ _ _ h2
    obtain ⟨e3, rfl⟩ := codeStatementR_events hooks ren types thenc _ _ _ _ h3
    simp [events_hookCode, MockOp.events, ec1, e2, e3, stmtEvents, LEv.map, Lbl.render]
  | .exit var, context => by
    intro c code c' h
    simp only [codeStatementR, run_bind_ok, run_pure_ok, mockSym_variableTemporary, vt_run_ok] at h
    obtain ⟨t, k1, ⟨p, _, _, rfl⟩, rfl, rfl⟩ := h
    simp [events_hookCode, MockOp.events, stmtEvents, LEv.map, Lbl.render]
theorem codeClausesR_events (hooks : Bool) (ren : Nat → String) (types : List TypeDecl)
    (context : Ctx) (m : String) (n : Nat) :
    ∀ (cs : Clauses),
      EvSpec ren (codeClausesR mockSym hooks ren types context cs (m ++ "_" ++ ren n))
        (clausesEvents m n cs)
  | .nil => by
    intro c code c' h
    simp only [codeClausesR, run_pure_ok] at h
    obtain ⟨rfl, rfl⟩ := h
    simp [clausesEvents]
  | .cons xtor clauseCtx body rest => by
    intro c code c' h
    simp only [codeClausesR, run_bind_ok, run_pure_ok, mockSym_load] at h
    obtain ⟨c1, k1, ⟨rfl, rfl⟩, c2, k2, h2, c3, k3, h3, rfl, rfl⟩ := h
    obtain ⟨e2, rfl⟩ := codeStatementR_events hooks ren types body _ _ _ _ h2
    obtain ⟨e3, rfl⟩ := codeClausesR_events hooks ren types context m n rest _ _ _ h3
    simp [MockOp.events, e2, e3, clausesEvents, LEv.map, Lbl.render, clauseLabel]
theorem codeMethodsR_events (hooks : Bool) (ren : Nat → String) (types : List TypeDecl)
    (env : Ctx) (m : String) (n : Nat) :
    ∀ (cs : Clauses),
      EvSpec ren (codeMethodsR mockSym hooks ren types env cs (m ++ "_" ++ ren n))
        (clausesEvents m n cs)
  | .nil => by
    intro c code c' h
    simp only [codeMethodsR, run_pure_ok] at h
    obtain ⟨rfl, rfl⟩ := h
    simp [clausesEvents]
  | .cons xtor clauseCtx body rest => by
    intro c code c' h
    simp only [codeMethodsR, run_bind_ok, run_pure_ok, mockSym_load] at h
    obtain ⟨c1, k1, ⟨rfl, rfl⟩, c2, k2, h2, c3, k3, h3, rfl, rfl⟩ := h
    obtain ⟨e2, rfl⟩ := codeStatementR_events hooks ren types body _ _ _ _ h2
    obtain ⟨e3, rfl⟩ := codeMethodsR_events hooks ren types env m n rest _ _ _ h3
    simp [MockOp.events, e2, e3, clausesEvents, LEv.map, Lbl.render, clauseLabel]
end

/-- skeleton of `compile`: per definition its label, then the events of its body -/
def defsEvents : List Def → Nat → List (LEv Lbl) × Nat
  | [], c => ([], c)
  | d :: ds, c =>
    let r1 := stmtEvents d.body c
    let r2 := defsEvents ds r1.2
    (.dfn (.defn d.name.print) :: r1.1 ++ r2.1, r2.2)

theorem translateR_events (hooks : Bool) (ren : Nat → String) (types : List TypeDecl) :
    ∀ (defs : List Def) (c : Nat) (blocks : List (List MockOp)) (c' : Nat),
      (translateR mockSym hooks ren types defs).run c = .ok (blocks, c') →
      events (assemble mockSym blocks (defs.map (·.name))) =
        (defsEvents defs c).1.map (LEv.map (Lbl.render ren)) ∧ c' = (defsEvents defs c).2
  | [], c, blocks, c', h => by
    simp only [translateR, run_pure_ok] at h
    obtain ⟨rfl, rfl⟩ := h
    simp [assemble, defsEvents]
  | d :: ds, c, blocks, c', h => by
    simp only [translateR, run_bind_ok, run_pure_ok] at h
    obtain ⟨is, k1, h1, rest, k2, h2, rfl, rfl⟩ := h
    obtain ⟨e1, rfl⟩ := codeStatementR_events hooks ren types d.body _ _ _ _ h1
    obtain ⟨e2, rfl⟩ := translateR_events hooks ren types ds _ _ _ h2
    simp [assemble, defsEvents, e1, e2, MockOp.events, LEv.map, Lbl.render]

theorem compileR_events (hooks : Bool) (ren : Nat → String) (p : Prog) (c : Nat)
    (code : List MockOp) (nargs : Nat) (c' : Nat)
    (h : (compileR mockSym hooks ren p).run c = .ok ((code, nargs), c')) :
    events code = (defsEvents p.defs c).1.map (LEv.map (Lbl.render ren)) ∧
      c' = (defsEvents p.defs c).2 := by
  unfold compileR at h
  cases hd : p.defs with
  | nil => simp [hd, run_throw_ok] at h
  | cons d0 ds =>
    simp only [hd, run_bind_ok, run_pure_ok] at h
    obtain ⟨blocks, k, h1, h2, rfl⟩ := h
    cases h2
    have := translateR_events hooks ren p.types (d0 :: ds) c blocks k h1
    simpa using this

def dfns {L : Type} : List (LEv L) → List L
  | [] => []
  | .dfn l :: rest => l :: dfns rest
  | .ref _ :: rest => dfns rest

def refs {L : Type} : List (LEv L) → List L
  | [] => []
  | .ref l :: rest => l :: refs rest
  | .dfn _ :: rest => refs rest

@[simp] theorem dfns_nil {L : Type} : dfns ([] : List (LEv L)) = [] := rfl
@[simp] theorem refs_nil {L : Type} : refs ([] : List (LEv L)) = [] := rfl
@[simp] theorem dfns_cons_dfn {L : Type} (l : L) (r : List (LEv L)) : dfns (.dfn l :: r) = l :: dfns r := rfl
@[simp] theorem dfns_cons_ref {L : Type} (l : L) (r : List (LEv L)) : dfns (.ref l :: r) = dfns r := rfl
@[simp] theorem refs_cons_ref {L : Type} (l : L) (r : List (LEv L)) : refs (.ref l :: r) = l :: refs r := rfl
@[simp] theorem refs_cons_dfn {L : Type} (l : L) (r : List (LEv L)) : refs (.dfn l :: r) = refs r := rfl

@[simp] theorem dfns_append {L : Type} (a b : List (LEv L)) : dfns (a ++ b) = dfns a ++ dfns b := by
  induction a with
  | nil => rfl
  | cons e r ih => cases e <;> simp [ih]

@[simp] theorem refs_append {L : Type} (a b : List (LEv L)) : refs (a ++ b) = refs a ++ refs b := by
  induction a with
  | nil => rfl
  | cons e r ih => cases e <;> simp [ih]

theorem dfns_map {L L' : Type} (f : L → L') (a : List (LEv L)) :
    dfns (a.map (LEv.map f)) = (dfns a).map f := by
  induction a with
  | nil => rfl
  | cons e r ih => cases e <;> simp [LEv.map, ih]

theorem refs_map {L L' : Type} (f : L → L') (a : List (LEv L)) :
    refs (a.map (LEv.map f)) = (refs a).map f := by
  induction a with
  | nil => rfl
  | cons e r ih => cases e <;> simp [LEv.map, ih]

def xtorNames : Clauses → List String
  | .nil => []
  | .cons x _ _ rest => x.print :: xtorNames rest

mutual
  def stmtCalls : Stmt → List String
    | .subst _ next => stmtCalls next
    | .call f _ => [f.print]
    | .letS _ _ _ _ next _ => stmtCalls next
    | .switch _ _ cs _ => clausesCalls cs
    | .create _ _ _ cs next _ _ => stmtCalls next ++ clausesCalls cs
    | .invoke _ _ _ _ => []
    | .lit _ _ next _ => stmtCalls next
    | .op _ _ _ _ next _ => stmtCalls next
    | .print _ _ next _ => stmtCalls next
    | .ifc _ _ _ thenc elsec => stmtCalls elsec ++ stmtCalls thenc
    | .exit _ => []
  def clausesCalls : Clauses → List String
    | .nil => []
    | .cons _ _ body rest => stmtCalls body ++ clausesCalls rest
end

theorem dfns_tableEvents (m : String) (n : Nat) : ∀ cs, dfns (tableEvents m n cs) = []
  | .nil => rfl
  | .cons x c b rest => by simp [tableEvents, dfns_tableEvents m n rest]

theorem refs_tableEvents (m : String) (n : Nat) :
    ∀ cs, refs (tableEvents m n cs) = (xtorNames cs).map (Lbl.clause m n)
  | .nil => rfl
  | .cons x c b rest => by simp [tableEvents, xtorNames, refs_tableEvents m n rest]

/-- a reference is resolved inside the code, or is `cleanup`, or is the label of a called definition -/
def Resolved (evs : List (LEv Lbl)) (calls : List String) : Prop :=
  ∀ l ∈ refs evs, l ∈ dfns evs ∨ l = .cleanup ∨ ∃ f ∈ calls, l = .defn f

theorem clause_mem_dfns_clausesEvents (m : String) (n : Nat) :
    ∀ (cs : Clauses) (c : Nat) (x : String), x ∈ xtorNames cs →
      Lbl.clause m n x ∈ dfns (clausesEvents m n cs c).1
  | .nil, _, _, h => by simp [xtorNames] at h
  | .cons x' _ body rest, c, x, h => by
    simp only [xtorNames, List.mem_cons] at h
    simp only [clausesEvents, dfns_cons_dfn, dfns_append, List.mem_cons, List.mem_append]
    rcases h with rfl | h
    · simp
    · simp [clause_mem_dfns_clausesEvents m n rest _ x h]

mutual
theorem stmtEvents_resolved : ∀ (s : Stmt) (c : Nat), Resolved (stmtEvents s c).1 (stmtCalls s)
  | .subst _ next, c => by simpa [stmtEvents, stmtCalls] using stmtEvents_resolved next c
  | .call f _, c => by
    intro l hl
    simp [stmtEvents] at hl
    subst hl
    exact Or.inr (Or.inr ⟨f.print, by simp [stmtCalls], rfl⟩)
  | .letS _ _ _ _ next _, c => by simpa [stmtEvents, stmtCalls] using stmtEvents_resolved next c
  | .switch _ ty cs _, c => by
    intro l hl
    have ih := clausesEvents_resolved (mangleTy ty) (c + 1) cs (c + 1)
    simp only [stmtEvents, refs_append, refs_cons_dfn, List.mem_append] at hl
    simp only [stmtEvents, stmtCalls]
    rcases hl with (hl | hl) | hl
    · split at hl
      · simp at hl
      · simp at hl; subst hl; exact Or.inl (by simp)
    · split at hl
      · rw [refs_tableEvents] at hl
        obtain ⟨x, hx, rfl⟩ := List.mem_map.mp hl
        exact Or.inl (by simp [clause_mem_dfns_clausesEvents _ _ cs _ x hx])
      · simp at hl
    · rcases ih l hl with h | h | h
      · exact Or.inl (by simp [h])
      · exact Or.inr (Or.inl h)
      · exact Or.inr (Or.inr h)
  | .create _ ty _ cs next _ _, c => by
    intro l hl
    have ih1 := stmtEvents_resolved next (c + 1)
    have ih2 := clausesEvents_resolved (mangleTy ty) (c + 1) cs (stmtEvents next (c + 1)).2
    simp only [stmtEvents, refs_append, refs_cons_dfn, refs_cons_ref, List.mem_append, List.mem_cons] at hl
    simp only [stmtEvents, stmtCalls]
    rcases hl with ((hl | hl) | hl) | hl
    · subst hl; exact Or.inl (by simp)
    · rcases ih1 l hl with h | h | ⟨f, hf, h⟩
      · exact Or.inl (by simp [h])
      · exact Or.inr (Or.inl h)
      · exact Or.inr (Or.inr ⟨f, by simp [hf], h⟩)
    · split at hl
      · rw [refs_tableEvents] at hl
        obtain ⟨x, hx, rfl⟩ := List.mem_map.mp hl
        exact Or.inl (by simp [clause_mem_dfns_clausesEvents _ _ cs _ x hx])
      · simp at hl
    · rcases ih2 l hl with h | h | ⟨f, hf, h⟩
      · exact Or.inl (by simp [h])
      · exact Or.inr (Or.inl h)
      · exact Or.inr (Or.inr ⟨f, by simp [hf], h⟩)
  | .invoke _ _ _ _, c => by intro l hl; simp [stmtEvents] at hl
  | .lit _ _ next _, c => by simpa [stmtEvents, stmtCalls] using stmtEvents_resolved next c
  | .op _ _ _ _ next _, c => by simpa [stmtEvents, stmtCalls] using stmtEvents_resolved next c
  | .print _ _ next _, c => by simpa [stmtEvents, stmtCalls] using stmtEvents_resolved next c
  | .ifc _ _ _ thenc elsec, c => by
    intro l hl
    have ih1 := stmtEvents_resolved elsec (c + 1)
    have ih2 := stmtEvents_resolved thenc (stmtEvents elsec (c + 1)).2
    simp only [stmtEvents, refs_append, refs_cons_dfn, refs_cons_ref, List.mem_append, List.mem_cons] at hl
    simp only [stmtEvents, stmtCalls]
    rcases hl with (hl | hl) | hl
    · subst hl; exact Or.inl (by simp)
    · rcases ih1 l hl with h | h | ⟨f, hf, h⟩
      · exact Or.inl (by simp [h])
      · exact Or.inr (Or.inl h)
      · exact Or.inr (Or.inr ⟨f, by simp [hf], h⟩)
    · rcases ih2 l hl with h | h | ⟨f, hf, h⟩
      · exact Or.inl (by simp [h])
      · exact Or.inr (Or.inl h)
      · exact Or.inr (Or.inr ⟨f, by simp [hf], h⟩)
  | .exit _, c => by
    intro l hl
    simp [stmtEvents] at hl
    exact Or.inr (Or.inl hl)
theorem clausesEvents_resolved (m : String) (n : Nat) :
    ∀ (cs : Clauses) (c : Nat), Resolved (clausesEvents m n cs c).1 (clausesCalls cs)
  | .nil, c => by intro l hl; simp [clausesEvents] at hl
  | .cons x _ body rest, c => by
    intro l hl
    have ih1 := stmtEvents_resolved body c
    have ih2 := clausesEvents_resolved m n rest (stmtEvents body c).2
    simp only [clausesEvents, refs_append, refs_cons_dfn, List.mem_append] at hl
    simp only [clausesEvents, clausesCalls]
    rcases hl with hl | hl
    · rcases ih1 l hl with h | h | ⟨f, hf, h⟩
      · exact Or.inl (by simp [h])
      · exact Or.inr (Or.inl h)
      · exact Or.inr (Or.inr ⟨f, by simp [hf], h⟩)
    · rcases ih2 l hl with h | h | ⟨f, hf, h⟩
      · exact Or.inl (by simp [h])
      · exact Or.inr (Or.inl h)
      · exact Or.inr (Or.inr ⟨f, by simp [hf], h⟩)
end

/-! ## whole programs: every reference is resolved -/

def defsCalls : List Def → List String
  | [] => []
  | d :: ds => stmtCalls d.body ++ defsCalls ds

theorem defsEvents_resolved : ∀ (defs : List Def) (c : Nat),
    Resolved (defsEvents defs c).1 (defsCalls defs)
  | [], c => by intro l hl; simp [defsEvents] at hl
  | d :: ds, c => by
    intro l hl
    have ih1 := stmtEvents_resolved d.body c
    have ih2 := defsEvents_resolved ds (stmtEvents d.body c).2
    simp only [defsEvents, refs_append, refs_cons_dfn, List.mem_append] at hl
    simp only [defsEvents, defsCalls]
    rcases hl with hl | hl
    · rcases ih1 l hl with h | h | ⟨f, hf, h⟩
      · exact Or.inl (by simp [h])
      · exact Or.inr (Or.inl h)
      · exact Or.inr (Or.inr ⟨f, by simp [hf], h⟩)
    · rcases ih2 l hl with h | h | ⟨f, hf, h⟩
      · exact Or.inl (by simp [h])
      · exact Or.inr (Or.inl h)
      · exact Or.inr (Or.inr ⟨f, by simp [hf], h⟩)

theorem defn_mem_dfns_defsEvents : ∀ (defs : List Def) (c : Nat) (f : String),
    f ∈ defs.map (·.name.print) → Lbl.defn f ∈ dfns (defsEvents defs c).1
  | [], _, _, h => by simp at h
  | d :: ds, c, f, h => by
    simp only [List.map_cons, List.mem_cons] at h
    simp only [defsEvents, dfns_cons_dfn, dfns_append, List.mem_cons, List.mem_append]
    rcases h with rfl | h
    · simp
    · simp [defn_mem_dfns_defsEvents ds _ f h]

/-! ## the numbers of the generated labels -/

def Lbl.num : Lbl → Option Nat
  | .lab n => some n
  | .base _ n => some n
  | .clause _ n _ => some n
  | .defn _ => none
  | .cleanup => none

def InRange (lo hi : Nat) (l : Lbl) : Prop := ∃ k, l.num = some k ∧ lo < k ∧ k ≤ hi

theorem InRange.mono {lo hi lo' hi' : Nat} {l : Lbl} (h : InRange lo hi l) (h1 : lo' ≤ lo) (h2 : hi ≤ hi') :
    InRange lo' hi' l := by
  obtain ⟨k, hk, a, b⟩ := h
  exact ⟨k, hk, by omega, by omega⟩

mutual
theorem stmtEvents_range : ∀ (s : Stmt) (c : Nat),
    c ≤ (stmtEvents s c).2 ∧ ∀ l ∈ dfns (stmtEvents s c).1, InRange c (stmtEvents s c).2 l
  | .subst _ next, c => by simpa [stmtEvents] using stmtEvents_range next c
  | .call _ _, c => by simp [stmtEvents]
  | .letS _ _ _ _ next _, c => by simpa [stmtEvents] using stmtEvents_range next c
  | .switch _ ty cs _, c => by
    obtain ⟨h1, h2⟩ := clausesEvents_range (mangleTy ty) (c + 1) cs (c + 1)
    simp only [stmtEvents]
    refine ⟨by omega, ?_⟩
    intro l hl
    simp only [dfns_append, dfns_cons_dfn, List.mem_append, List.mem_cons] at hl
    rcases hl with (hl | hl | hl) | hl
    · split at hl <;> simp at hl
    · subst hl; exact ⟨c + 1, rfl, by omega, h1⟩
    · split at hl
      · rw [dfns_tableEvents] at hl; simp at hl
      · simp at hl
    · rcases h2 l hl with ⟨x, _, rfl⟩ | h
      · exact ⟨c + 1, rfl, by omega, h1⟩
      · exact h.mono (by omega) (Nat.le_refl _)
  | .create _ ty _ cs next _ _, c => by
    obtain ⟨h1, h2⟩ := stmtEvents_range next (c + 1)
    obtain ⟨h3, h4⟩ := clausesEvents_range (mangleTy ty) (c + 1) cs (stmtEvents next (c + 1)).2
    simp only [stmtEvents]
    refine ⟨by omega, ?_⟩
    intro l hl
    simp only [dfns_append, dfns_cons_dfn, dfns_cons_ref, List.mem_append, List.mem_cons] at hl
    rcases hl with (hl | hl | hl) | hl
    · exact (h2 l hl).mono (by omega) h3
    · subst hl; exact ⟨c + 1, rfl, by omega, by omega⟩
    · split at hl
      · rw [dfns_tableEvents] at hl; simp at hl
      · simp at hl
    · rcases h4 l hl with ⟨x, _, rfl⟩ | h
      · exact ⟨c + 1, rfl, by omega, by omega⟩
      · exact h.mono (by omega) (Nat.le_refl _)
  | .invoke _ _ _ _, c => by simp [stmtEvents]
  | .lit _ _ next _, c => by simpa [stmtEvents] using stmtEvents_range next c
  | .op _ _ _ _ next _, c => by simpa [stmtEvents] using stmtEvents_range next c
  | .print _ _ next _, c => by simpa [stmtEvents] using stmtEvents_range next c
  | .ifc _ _ _ thenc elsec, c => by
    obtain ⟨h1, h2⟩ := stmtEvents_range elsec (c + 1)
    obtain ⟨h3, h4⟩ := stmtEvents_range thenc (stmtEvents elsec (c + 1)).2
    simp only [stmtEvents]
    refine ⟨by omega, ?_⟩
    intro l hl
    simp only [dfns_append, dfns_cons_dfn, dfns_cons_ref, List.mem_append, List.mem_cons] at hl
    rcases hl with hl | hl | hl
    · exact (h2 l hl).mono (by omega) h3
    · subst hl; exact ⟨c + 1, rfl, by omega, by omega⟩
    · exact (h4 l hl).mono (by omega) (Nat.le_refl _)
  | .exit _, c => by simp [stmtEvents]
theorem clausesEvents_range (m : String) (n : Nat) : ∀ (cs : Clauses) (c : Nat),
    c ≤ (clausesEvents m n cs c).2 ∧ ∀ l ∈ dfns (clausesEvents m n cs c).1,
      (∃ x ∈ xtorNames cs, l = Lbl.clause m n x) ∨ InRange c (clausesEvents m n cs c).2 l
  | .nil, c => by simp [clausesEvents]
  | .cons x _ body rest, c => by
    obtain ⟨h1, h2⟩ := stmtEvents_range body c
    obtain ⟨h3, h4⟩ := clausesEvents_range m n rest (stmtEvents body c).2
    simp only [clausesEvents]
    refine ⟨by omega, ?_⟩
    intro l hl
    simp only [dfns_append, dfns_cons_dfn, List.mem_append, List.mem_cons] at hl
    rcases hl with (hl | hl) | hl
    · subst hl; exact Or.inl ⟨x.print, by simp [xtorNames], rfl⟩
    · exact Or.inr ((h2 l hl).mono (Nat.le_refl _) h3)
    · rcases h4 l hl with ⟨x', hx', rfl⟩ | h
      · exact Or.inl ⟨x', by simp [xtorNames, hx'], rfl⟩
      · exact Or.inr (h.mono h1 (Nat.le_refl _))
end

theorem InRange.disjoint {a b b' d : Nat} {l : Lbl} (h1 : InRange a b l) (h2 : InRange b' d l)
    (h : b ≤ b') : False := by
  obtain ⟨k, hk, _, _⟩ := h1
  obtain ⟨k', hk', _, _⟩ := h2
  rw [hk] at hk'; cases hk'; omega

mutual
  /-- every clause list has pairwise distinct printed xtor names (decidable) -/
  def stmtXtorsDistinct : Stmt → Bool
    | .subst _ next => stmtXtorsDistinct next
    | .call _ _ => true
    | .letS _ _ _ _ next _ => stmtXtorsDistinct next
    | .switch _ _ cs _ => decide (xtorNames cs).Nodup && clausesXtorsDistinct cs
    | .create _ _ _ cs next _ _ =>
      stmtXtorsDistinct next && (decide (xtorNames cs).Nodup && clausesXtorsDistinct cs)
    | .invoke _ _ _ _ => true
    | .lit _ _ next _ => stmtXtorsDistinct next
    | .op _ _ _ _ next _ => stmtXtorsDistinct next
    | .print _ _ next _ => stmtXtorsDistinct next
    | .ifc _ _ _ thenc elsec => stmtXtorsDistinct elsec && stmtXtorsDistinct thenc
    | .exit _ => true
  def clausesXtorsDistinct : Clauses → Bool
    | .nil => true
    | .cons _ _ body rest => stmtXtorsDistinct body && clausesXtorsDistinct rest
end

theorem defsEvents_range : ∀ (defs : List Def) (c : Nat),
    c ≤ (defsEvents defs c).2 ∧ ∀ l ∈ dfns (defsEvents defs c).1,
      (∃ f ∈ defs.map (·.name.print), l = Lbl.defn f) ∨ InRange c (defsEvents defs c).2 l
  | [], c => by simp [defsEvents]
  | d :: ds, c => by
    obtain ⟨h1, h2⟩ := stmtEvents_range d.body c
    obtain ⟨h3, h4⟩ := defsEvents_range ds (stmtEvents d.body c).2
    simp only [defsEvents]
    refine ⟨by omega, ?_⟩
    intro l hl
    simp only [dfns_append, dfns_cons_dfn, List.mem_append, List.mem_cons] at hl
    rcases hl with (hl | hl) | hl
    · subst hl; exact Or.inl ⟨d.name.print, by simp, rfl⟩
    · exact Or.inr ((h2 l hl).mono (Nat.le_refl _) h3)
    · rcases h4 l hl with ⟨f, hf, rfl⟩ | h
      · exact Or.inl ⟨f, by simp only [List.map_cons, List.mem_cons]; exact Or.inr hf, rfl⟩
      · exact Or.inr (h.mono h1 (Nat.le_refl _))

mutual
  /-- printed xtor names of all clause lists of a statement -/
  def stmtXtorNames : Stmt → List String
    | .subst _ next => stmtXtorNames next
    | .call _ _ => []
    | .letS _ _ _ _ next _ => stmtXtorNames next
    | .switch _ _ cs _ => xtorNames cs ++ clausesXtorNames cs
    | .create _ _ _ cs next _ _ => stmtXtorNames next ++ (xtorNames cs ++ clausesXtorNames cs)
    | .invoke _ _ _ _ => []
    | .lit _ _ next _ => stmtXtorNames next
    | .op _ _ _ _ next _ => stmtXtorNames next
    | .print _ _ next _ => stmtXtorNames next
    | .ifc _ _ _ thenc elsec => stmtXtorNames elsec ++ stmtXtorNames thenc
    | .exit _ => []
  def clausesXtorNames : Clauses → List String
    | .nil => []
    | .cons _ _ body rest => stmtXtorNames body ++ clausesXtorNames rest
end

def defsXtorNames : List Def → List String
  | [] => []
  | d :: ds => stmtXtorNames d.body ++ defsXtorNames ds

def Lbl.xtor? : Lbl → Option String
  | .clause _ _ x => some x
  | _ => none

mutual
theorem stmtEvents_xtors : ∀ (s : Stmt) (c : Nat) (l : Lbl), l ∈ dfns (stmtEvents s c).1 →
    ∀ x, l.xtor? = some x → x ∈ stmtXtorNames s
  | .subst _ next, c, l, hl => by
    simp only [stmtEvents] at hl; simpa [stmtXtorNames] using stmtEvents_xtors next c l hl
  | .call _ _, c, l, hl => by simp [stmtEvents] at hl
  | .letS _ _ _ _ next _, c, l, hl => by
    simp only [stmtEvents] at hl; simpa [stmtXtorNames] using stmtEvents_xtors next c l hl
  | .switch _ ty cs _, c, l, hl => by
    intro x hx
    simp only [stmtEvents, dfns_append, dfns_cons_dfn, List.mem_append, List.mem_cons] at hl
    simp only [stmtXtorNames, List.mem_append]
    rcases hl with (hl | hl | hl) | hl
    · split at hl <;> simp at hl
    · subst hl; cases hx
    · split at hl
      · rw [dfns_tableEvents] at hl; simp at hl
      · simp at hl
    · exact clausesEvents_xtors _ _ cs _ l hl x hx
  | .create _ ty _ cs next _ _, c, l, hl => by
    intro x hx
    simp only [stmtEvents, dfns_append, dfns_cons_dfn, dfns_cons_ref, List.mem_append,
      List.mem_cons] at hl
    simp only [stmtXtorNames, List.mem_append]
    rcases hl with (hl | hl | hl) | hl
    · exact Or.inl (stmtEvents_xtors next _ l hl x hx)
    · subst hl; cases hx
    · split at hl
      · rw [dfns_tableEvents] at hl; simp at hl
      · simp at hl
    · exact Or.inr (clausesEvents_xtors _ _ cs _ l hl x hx)
  | .invoke _ _ _ _, c, l, hl => by simp [stmtEvents] at hl
  | .lit _ _ next _, c, l, hl => by
    simp only [stmtEvents] at hl; simpa [stmtXtorNames] using stmtEvents_xtors next c l hl
  | .op _ _ _ _ next _, c, l, hl => by
    simp only [stmtEvents] at hl; simpa [stmtXtorNames] using stmtEvents_xtors next c l hl
  | .print _ _ next _, c, l, hl => by
    simp only [stmtEvents] at hl; simpa [stmtXtorNames] using stmtEvents_xtors next c l hl
  | .ifc _ _ _ thenc elsec, c, l, hl => by
    intro x hx
    simp only [stmtEvents, dfns_append, dfns_cons_dfn, dfns_cons_ref, List.mem_append,
      List.mem_cons] at hl
    simp only [stmtXtorNames, List.mem_append]
    rcases hl with hl | hl | hl
    · exact Or.inl (stmtEvents_xtors elsec _ l hl x hx)
    · subst hl; cases hx
    · exact Or.inr (stmtEvents_xtors thenc _ l hl x hx)
  | .exit _, c, l, hl => by simp [stmtEvents] at hl
theorem clausesEvents_xtors (m : String) (n : Nat) : ∀ (cs : Clauses) (c : Nat) (l : Lbl),
    l ∈ dfns (clausesEvents m n cs c).1 →
    ∀ x, l.xtor? = some x → x ∈ xtorNames cs ∨ x ∈ clausesXtorNames cs
  | .nil, c, l, hl => by simp [clausesEvents] at hl
  | .cons x' _ body rest, c, l, hl => by
    intro x hx
    simp only [clausesEvents, dfns_append, dfns_cons_dfn, List.mem_append, List.mem_cons] at hl
    simp only [xtorNames, clausesXtorNames, List.mem_cons, List.mem_append]
    rcases hl with (hl | hl) | hl
    · subst hl; cases hx; exact Or.inl (Or.inl rfl)
    · exact Or.inr (Or.inl (stmtEvents_xtors body _ l hl x hx))
    · rcases clausesEvents_xtors m n rest _ l hl x hx with h | h
      · exact Or.inl (Or.inr h)
      · exact Or.inr (Or.inr h)
end

end Scc.Backend

namespace Scc.Props.C14Generic

open Scc.AxCut

def clauseXtors : Clauses → List Ident
  | .nil => []
  | .cons x _ _ rest => x :: clauseXtors rest

end Scc.Props.C14Generic
