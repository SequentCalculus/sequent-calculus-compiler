/-
  Scc.Backend.ProofsGen — WHEN a generator succeeds and WHAT it returns.  `Gen m cond f`: from the label
  counter `k` the generator `m` succeeds exactly under `cond` and then returns `f k`; `Emits m cond f` is
  the direction "a successful run implies `cond` and returns `f k`" alone, for the recursions bounded by
  fuel, whose exact condition of success is of no interest.  Both are closed under `pure`, `throw`, `>>=`.
  What a backend's memory.rs emits is stated once in this form; totality (`Gen.run`) and every property of
  the emitted code (`Emits.post`, after `Gen.emits`) are read off it.
-/
import Scc.Backend.Proofs

namespace Scc.Backend

theorem genm_bind {α β : Type} {m : GenM α} {f : α → GenM β} {k k1 : Nat} {a : α}
    (h1 : m.run k = .ok (a, k1)) : (m >>= f).run k = (f a).run k1 := by
  rw [StateT.run_bind, h1]; rfl

theorem genm_pure {α : Type} (a : α) (k : Nat) : (pure a : GenM α).run k = .ok (a, k) := rfl

/-- the generator succeeds exactly under `cond`, and from the label counter `k` it returns `f k` -/
def Gen {α : Type} (m : GenM α) (cond : Prop) (f : Nat → α × Nat) : Prop :=
  ∀ k r, m.run k = .ok r ↔ cond ∧ r = f k

/-- a successful run implies `cond` and returns `f k` -/
def Emits {α : Type} (m : GenM α) (cond : Prop) (f : Nat → α × Nat) : Prop :=
  ∀ k r, m.run k = .ok r → cond ∧ r = f k

namespace Gen
variable {α β : Type}

theorem pure (a : α) : Gen (pure a : GenM α) True (fun k => (a, k)) := fun k r => by
  obtain ⟨r1, r2⟩ := r
  rw [run_pure_ok]
  constructor
  · rintro ⟨rfl, rfl⟩; exact ⟨trivial, rfl⟩
  · rintro ⟨-, h⟩; cases h; exact ⟨rfl, rfl⟩

theorem throw {e : String} {f : Nat → α × Nat} : Gen (throw e : GenM α) False f := fun k r => by
  obtain ⟨r1, r2⟩ := r
  rw [run_throw_ok]
  exact ⟨False.elim, fun h => h.1⟩

theorem congr {m : GenM α} {c c' : Prop} {f : Nat → α × Nat} (h : Gen m c f) (hc : c ↔ c') : Gen m c' f :=
  fun k r => by rw [h k r, hc]

theorem bind {m : GenM α} {g : α → GenM β} {c1 c2 : Prop} {f : Nat → α × Nat} {h : α → Nat → β × Nat}
    {F : Nat → β × Nat} (h1 : Gen m c1 f) (h2 : ∀ a, Gen (g a) c2 (h a))
    (e : ∀ k, F k = h (f k).1 (f k).2) : Gen (m >>= g) (c1 ∧ c2) F := fun k r => by
  obtain ⟨r1, r2⟩ := r
  rw [run_bind_ok, e]
  constructor
  · rintro ⟨a, k1, ha, hg⟩
    obtain ⟨hc1, e1⟩ := (h1 k _).1 ha
    obtain ⟨hc2, e2⟩ := (h2 a k1 _).1 hg
    rw [← e1]
    exact ⟨⟨hc1, hc2⟩, e2⟩
  · rintro ⟨⟨hc1, hc2⟩, er⟩
    exact ⟨(f k).1, (f k).2, (h1 k _).2 ⟨hc1, rfl⟩, (h2 _ _ _).2 ⟨hc2, er⟩⟩

theorem bindc {m : GenM α} {g : α → GenM β} {a : α} {c1 c2 : Prop} {F : Nat → β × Nat}
    (h1 : Gen m c1 (fun k => (a, k))) (h2 : Gen (g a) c2 F) : Gen (m >>= g) (c1 ∧ c2) F := fun k r => by
  obtain ⟨r1, r2⟩ := r
  rw [run_bind_ok]
  constructor
  · rintro ⟨a', k1, ha, hg⟩
    obtain ⟨hc1, e1⟩ := (h1 k _).1 ha
    cases e1
    exact ⟨⟨hc1, ((h2 k _).1 hg).1⟩, ((h2 k _).1 hg).2⟩
  · rintro ⟨⟨hc1, hc2⟩, er⟩
    exact ⟨a, k, (h1 k _).2 ⟨hc1, rfl⟩, (h2 _ _).2 ⟨hc2, er⟩⟩

theorem of_run {m : GenM α} {f : Nat → α × Nat} (h : ∀ k, m.run k = .ok (f k)) : Gen m True f := fun k r => by
  rw [h]
  exact ⟨fun e => ⟨trivial, by cases e; rfl⟩, fun e => by rw [e.2]⟩

theorem run {m : GenM α} {c : Prop} {f : Nat → α × Nat} (h : Gen m c f) (hc : c) (k : Nat) :
    m.run k = .ok (f k) := (h k _).2 ⟨hc, rfl⟩

theorem emits {m : GenM α} {c : Prop} {f : Nat → α × Nat} (h : Gen m c f) : Emits m c f :=
  fun k r hr => (h k r).1 hr

end Gen

namespace Emits
variable {α β : Type}

theorem mono {m : GenM α} {c c' : Prop} {f : Nat → α × Nat} (h : Emits m c f) (hc : c → c') : Emits m c' f :=
  fun k r hr => ⟨hc (h k r hr).1, (h k r hr).2⟩

theorem throw {e : String} {c : Prop} {f : Nat → α × Nat} : Emits (throw e : GenM α) c f :=
  fun k r hr => by obtain ⟨r1, r2⟩ := r; exact ((run_throw_ok _ _ _ _).1 hr).elim

theorem bind {m : GenM α} {g : α → GenM β} {c1 c2 : Prop} {f : Nat → α × Nat} {h : α → Nat → β × Nat}
    {F : Nat → β × Nat} (h1 : Emits m c1 f) (h2 : ∀ a, Emits (g a) c2 (h a))
    (e : ∀ k, F k = h (f k).1 (f k).2) : Emits (m >>= g) (c1 ∧ c2) F := fun k r hr => by
  obtain ⟨r1, r2⟩ := r
  obtain ⟨a, k1, ha, hg⟩ := (run_bind_ok _ _ _ _ _).1 hr
  obtain ⟨hc1, e1⟩ := h1 k _ ha
  obtain ⟨hc2, e2⟩ := h2 a k1 _ hg
  rw [e, ← e1]
  exact ⟨⟨hc1, hc2⟩, e2⟩

theorem bindc {m : GenM α} {g : α → GenM β} {a : α} {c1 c2 : Prop} {F : Nat → β × Nat}
    (h1 : Emits m c1 (fun k => (a, k))) (h2 : Emits (g a) c2 F) : Emits (m >>= g) (c1 ∧ c2) F :=
  fun k r hr => by
    obtain ⟨r1, r2⟩ := r
    obtain ⟨a', k1, ha, hg⟩ := (run_bind_ok _ _ _ _ _).1 hr
    obtain ⟨hc1, e1⟩ := h1 k _ ha
    cases e1
    exact ⟨⟨hc1, (h2 k _ hg).1⟩, (h2 k _ hg).2⟩

theorem post {m : GenM α} {c : Prop} {f : Nat → α × Nat} (h : Emits m c f) {Q : α → Prop}
    (hq : c → ∀ k, Q (f k).1) : ∀ k a k', m.run k = .ok (a, k') → Q a := fun k a k' hr => by
  obtain ⟨hc, e⟩ := h k _ hr
  have := hq hc k
  rw [← e] at this
  exact this

end Emits

end Scc.Backend
