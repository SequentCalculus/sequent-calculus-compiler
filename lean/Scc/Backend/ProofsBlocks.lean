/-
  Scc.Backend.ProofsBlocks — texts made of plain instructions and whole blocks, for any type of instructions.

  The bodies that the code generators emit consist of "plain" instructions and of whole blocks of a given kind
  (for property C13: the blocks of `print_i64`).  What the dynamic half of C13 uses of this is the same on every
  backend and is stated here once (`Shape`, closed under `++` and under weakening of `plain`, which is what the
  static half uses): an instruction that is not plain lies in one of the blocks, with
  texts of the same shape around the block (`Shape.split_at`); the text from an instruction on that occurs in no
  block is again of the shape; and a list in which only marked places satisfy a test splits at such a place in
  one way only.  The backends instantiate `plain`, the blocks and the test (X86|A64 CCProofsSites, CCProofsRun).
-/

namespace Scc.Backend.Blocks

variable {α : Type}

theorem drop_append_ge {a b : List α} {n : Nat} (h : a.length ≤ n) :
    (a ++ b).drop n = b.drop (n - a.length) := by
  induction a generalizing n with
  | nil => simp
  | cons x a ih =>
    cases n with
    | zero => simp at h
    | succ n =>
      simp only [List.cons_append, List.drop_succ_cons, List.length_cons, Nat.add_sub_add_right]
      exact ih (by simpa using h)

theorem drop_eq_append_get {l a b : List α} {i : Nat} (h : l.drop i = a ++ b) :
    ∀ j (hj : j < a.length), l[i + j]? = some a[j] := by
  intro j hj
  have : (l.drop i)[j]? = some a[j] := by
    rw [h, List.getElem?_append_left hj, List.getElem?_eq_getElem hj]
  rwa [List.getElem?_drop] at this

theorem drop_add_of_append {l a b : List α} {i : Nat} (h : l.drop i = a ++ b) :
    l.drop (i + a.length) = b := by
  rw [← List.drop_drop, h, List.drop_left]

/-- a list with exactly one element satisfying `p` splits uniquely at it -/
theorem split_unique {p : α → Bool} {B1 B2 pre post : List α} {a b : α} (h1 : ∀ c ∈ B1, p c = false)
    (hb : p b = true) (e : B1 ++ a :: B2 = pre ++ b :: post) (h2 : ∀ c ∈ B2, p c = false) :
    pre = B1 ∧ a = b ∧ post = B2 := by
  induction B1 generalizing pre with
  | nil =>
    cases pre with
    | nil => simp at e; exact ⟨rfl, e.1, e.2.symm⟩
    | cons x pre' =>
      simp only [List.nil_append, List.cons_append, List.cons.injEq] at e
      have : b ∈ B2 := by rw [e.2]; simp
      have := h2 b this
      rw [hb] at this; cases this
  | cons x B1' ih =>
    cases pre with
    | nil =>
      simp only [List.cons_append, List.nil_append, List.cons.injEq] at e
      have := h1 x (by simp)
      rw [e.1, hb] at this; cases this
    | cons y pre' =>
      simp only [List.cons_append, List.cons.injEq] at e
      obtain ⟨r1, r2, r3⟩ := ih (fun c hc => h1 c (by simp [hc])) e.2
      exact ⟨by rw [e.1, r1], r2, r3⟩

/-- an element satisfying `p` of `H ++ B ++ E`, where no element of `H` or `E` does, is in `B` -/
theorem split_middle {p : α → Bool} {H B E pre post : List α} {x : α} (hx : p x = true)
    (hH : ∀ c ∈ H, p c = false) (hE : ∀ c ∈ E, p c = false) (e : H ++ (B ++ E) = pre ++ x :: post) :
    ∃ pre' post', pre = H ++ pre' ∧ B = pre' ++ x :: post' ∧ post = post' ++ E := by
  have no : ∀ {l : List α}, (∀ c ∈ l, p c = false) → x ∈ l → False := fun h hm => by
    have := h _ hm; rw [hx] at this; cases this
  have key : ∀ a' : List α, B ++ E = a' ++ x :: post → ∃ post', B = a' ++ x :: post' ∧ post = post' ++ E := by
    intro a' e2
    rcases List.append_eq_append_iff.1 e2 with ⟨m, hm1, hm2⟩ | ⟨m, hm1, hm2⟩
    · exact (no hE (by rw [hm2]; simp)).elim
    · cases m with
      | nil =>
        simp only [List.nil_append] at hm2
        exact (no hE (by rw [← hm2]; simp)).elim
      | cons y m' =>
        simp only [List.cons_append, List.cons.injEq] at hm2
        obtain ⟨rfl, hp⟩ := hm2
        exact ⟨m', hm1, hp⟩
  rcases List.append_eq_append_iff.1 e with ⟨m, hm1, hm2⟩ | ⟨m, hm1, hm2⟩
  · obtain ⟨post', h1, h2⟩ := key m hm2
    exact ⟨m, post', hm1, h1, h2⟩
  · cases m with
    | nil =>
      simp only [List.append_nil] at hm1
      simp only [List.nil_append] at hm2
      obtain ⟨post', h1, h2⟩ := key [] (by simpa using hm2.symm)
      exact ⟨[], post', by simp [hm1], h1, h2⟩
    | cons y m' =>
      simp only [List.cons_append, List.cons.injEq] at hm2
      obtain ⟨rfl, _⟩ := hm2
      exact (no hH (by rw [hm1]; simp)).elim

/-- the positions of `x` in `H ++ B ++ E` when `x` does not occur in `H` and occurs in `E` at most at the
    front: from such a position on the list is a final part of `B` that `S` holds of, followed by `E` -/
theorem drop_at_middle {S : List α → Prop} {H B E : List α} {x : α} (hH : x ∉ H)
    (hB : ∀ j, B[j]? = some x → S (B.drop j)) (hnil : S []) (hE : ∀ j, E[j]? = some x → j = 0) {i : Nat}
    (hi : (H ++ B ++ E)[i]? = some x) : ∃ rest, S rest ∧ (H ++ B ++ E).drop i = rest ++ E := by
  by_cases h1 : i < H.length
  · rw [List.append_assoc, List.getElem?_append_left h1] at hi
    exact absurd (List.mem_of_getElem? hi) hH
  · have hge : H.length ≤ i := by omega
    rw [List.append_assoc, List.getElem?_append_right hge] at hi
    rw [List.append_assoc, drop_append_ge hge]
    by_cases h2 : i - H.length < B.length
    · rw [List.getElem?_append_left h2] at hi
      exact ⟨B.drop (i - H.length), hB _ hi, by rw [List.drop_append_of_le_length (by omega)]⟩
    · have hge2 : B.length ≤ i - H.length := by omega
      rw [List.getElem?_append_right hge2] at hi
      refine ⟨[], hnil, ?_⟩
      rw [drop_append_ge hge2, hE _ hi]
      rfl

/-- the text is a concatenation of instructions satisfying `plain` and of lists satisfying `IsBlock` -/
inductive Shape (plain : α → Bool) (IsBlock : List α → Prop) : List α → Prop where
  | nil : Shape plain IsBlock []
  | plain {c : α} {rest : List α} : plain c = true → Shape plain IsBlock rest → Shape plain IsBlock (c :: rest)
  | block {b rest : List α} : IsBlock b → Shape plain IsBlock rest → Shape plain IsBlock (b ++ rest)

variable {plain : α → Bool} {IsBlock : List α → Prop}

theorem Shape.append {a b : List α} (ha : Shape plain IsBlock a) (hb : Shape plain IsBlock b) :
    Shape plain IsBlock (a ++ b) := by
  induction ha with
  | nil => exact hb
  | plain h _ ih => exact .plain h ih
  | block h _ ih => rw [List.append_assoc]; exact .block h ih

theorem Shape.ofAll : ∀ {l : List α}, l.all plain = true → Shape plain IsBlock l
  | [], _ => .nil
  | c :: rest, h => by
    simp only [List.all_cons, Bool.and_eq_true] at h
    exact .plain h.1 (Shape.ofAll h.2)

theorem Shape.mono {q : α → Bool} (hpq : ∀ c, plain c = true → q c = true) {l : List α}
    (h : Shape plain IsBlock l) : Shape q IsBlock l := by
  induction h with
  | nil => exact .nil
  | plain h _ ih => exact .plain (hpq _ h) ih
  | block h _ ih => exact .block h ih

/-- AN INSTRUCTION THAT IS NOT PLAIN LIES IN A BLOCK, with texts of the same shape before and after the block -/
theorem Shape.split_at {body : List α} (h : Shape plain IsBlock body) :
    ∀ {pre post : List α} {x : α}, plain x = false → body = pre ++ x :: post →
    ∃ pre' m1 m2 post', IsBlock (m1 ++ x :: m2) ∧ Shape plain IsBlock pre' ∧ Shape plain IsBlock post' ∧
      pre = pre' ++ m1 ∧ post = m2 ++ post' := by
  induction h with
  | nil => intro pre post x _ e; simp at e
  | @plain c rest hc hrest ih =>
    intro pre post x hx e
    cases pre with
    | nil =>
      simp only [List.nil_append, List.cons.injEq] at e
      rw [e.1, hx] at hc; cases hc
    | cons y pre1 =>
      simp only [List.cons_append, List.cons.injEq] at e
      obtain ⟨pre', m1, m2, post', hb, h1, h2, hp, hq⟩ := ih hx e.2
      exact ⟨y :: pre', m1, m2, post', hb, .plain (e.1 ▸ hc) h1, h2, by rw [hp]; rfl, hq⟩
  | @block b rest hb hrest ih =>
    intro pre post x hx e
    rcases List.append_eq_append_iff.1 e with ⟨m, hm1, hm2⟩ | ⟨m, hm1, hm2⟩
    · obtain ⟨pre', m1, m2, post', hb', h1, h2, hp, hq⟩ := ih hx hm2
      exact ⟨b ++ pre', m1, m2, post', hb', .block hb h1, h2, by rw [hm1, hp, List.append_assoc], hq⟩
    · cases m with
      | nil =>
        simp only [List.append_nil] at hm1
        simp only [List.nil_append] at hm2
        obtain ⟨pre', m1, m2, post', hb', h1, h2, hp, hq⟩ :=
          ih (pre := []) (post := post) hx (by simpa using hm2.symm)
        exact ⟨b ++ pre', m1, m2, post', hb', .block hb h1, h2,
          by rw [← hm1, List.append_assoc, ← hp]; simp, hq⟩
      | cons y m' =>
        simp only [List.cons_append, List.cons.injEq] at hm2
        obtain ⟨rfl, hpost⟩ := hm2
        exact ⟨[], pre, m', rest, hm1 ▸ hb, .nil, hrest, rfl, hpost⟩

/-- the same by positions: `body.drop j` starts with a block that contains position `k` -/
theorem Shape.nonplain_in_block {body : List α} (h : Shape plain IsBlock body) {k : Nat} {c : α}
    (hk : body[k]? = some c) (hp : plain c = false) :
    ∃ j b, IsBlock b ∧ j ≤ k ∧ k < j + b.length ∧ (body.drop j).take b.length = b := by
  have hlt : k < body.length := by
    rcases Nat.lt_or_ge k body.length with h | h
    · exact h
    · rw [List.getElem?_eq_none h] at hk; cases hk
  have e : body = body.take k ++ c :: body.drop (k + 1) := by
    have hc : body[k] = c := by rw [List.getElem?_eq_getElem hlt] at hk; exact Option.some.inj hk
    rw [← hc, List.getElem_cons_drop, List.take_append_drop]
  obtain ⟨pre', m1, m2, post', hb, _, _, e1, e2⟩ := h.split_at hp e
  have hl : (body.take k).length = k := by rw [List.length_take]; omega
  refine ⟨pre'.length, m1 ++ c :: m2, hb, ?_, ?_, ?_⟩
  · rw [← hl, e1]; simp
  · rw [← hl, e1]; simp
  · have : body = pre' ++ ((m1 ++ c :: m2) ++ post') := by
      rw [e, e1, e2]; simp
    rw [this, List.drop_left, List.take_left]

/-- the text from an instruction on that occurs in no block -/
theorem Shape.drop_at {body : List α} (h : Shape plain IsBlock body) {x : α} (hx : ∀ b, IsBlock b → x ∉ b) :
    ∀ (j : Nat), body[j]? = some x → Shape plain IsBlock (body.drop j) := by
  induction h with
  | nil => intro j hj; simp at hj
  | @plain c rest hc hrest ih =>
    intro j hj
    cases j with
    | zero => exact .plain hc hrest
    | succ j => simpa using ih j (by simpa using hj)
  | @block b rest hb hrest ih =>
    intro j hj
    by_cases hlt : j < b.length
    · rw [List.getElem?_append_left hlt] at hj
      exact absurd (List.mem_of_getElem? hj) (hx b hb)
    · have hge : b.length ≤ j := by omega
      rw [List.getElem?_append_right hge] at hj
      rw [drop_append_ge hge]
      exact ih _ hj

end Scc.Backend.Blocks
