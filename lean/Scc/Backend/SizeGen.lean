/-
  Scc.Backend.SizeGen — C19 for the GENERIC code generator (/repo/lang/axcut2backend; Generic.lean),
  for an arbitrary backend record `B` whose primitives have bounded code (`GenCost B c`: every
  instruction method emits at most `c` codes, `store`/`load` of `k` fields at most `c·(k+1)`) and whose
  temporaries are lawful (`BackendLaw`, SizeConns.lean):

      |code of s in Γ|  ≤  (5 + 5c) · (1 + M) · |s|         for every M ≥ ctxCap |Γ| s

  (`|s|` = statement + clause nodes, `ctxCap` = longest context, Scc/AxCut/SizeLin.lean), provided the
  new names of every explicit substitution in `s` are pairwise distinct (`substOk`, decidable; see
  SizePM.lean for why the bound is false without it).  Per node: a substitution costs one reference
  count update per old variable and at most `1 + 2c·|new| + 2c·|old|` moves; `let`/`create` store their
  fields, a clause loads its fields (create: the closure environment), everything else is constant.
  `compile_length`: the same for whole programs (`translate` + `assemble`).
-/
import Scc.Backend.SizeConns
import Scc.AxCut.SizeLin

namespace Scc.Backend.SizeGen

open Scc.AxCut Scc.AxCut.SizeLin Scc.Backend.SizePM Scc.Backend.SizeConns

mutual
  def substOk : Stmt → Bool
    | .subst pairs next => decide ((pairs.map (·.1.var.id)).Nodup) && substOk next
    | .call _ _ => true
    | .letS _ _ _ _ next _ => substOk next
    | .switch _ _ cs _ => substOkC cs
    | .create _ _ _ cs next _ _ => substOkC cs && substOk next
    | .invoke _ _ _ _ => true
    | .lit _ _ next _ => substOk next
    | .op _ _ _ _ next _ => substOk next
    | .print _ _ next _ => substOk next
    | .ifc _ _ _ t e => substOk t && substOk e
    | .exit _ => true
  def substOkC : Clauses → Bool
    | .nil => true
    | .cons _ _ body rest => substOk body && substOkC rest
end

def substOkProg (p : Prog) : Bool := p.defs.all fun d => substOk d.body

section
variable {Code T : Type} (B : Backend Code T)

/-- `c` bounds the code of every primitive of the backend -/
structure GenCost (c : Nat) : Prop where
  move : MoveCost B c
  jump : ∀ t, (B.jump t).length ≤ c
  jumpLabel : ∀ l, (B.jumpLabel l).length ≤ c
  jumpLabelFixed : ∀ l, (B.jumpLabelFixed l).length ≤ c
  jumpLabelIf : ∀ s a b l, (B.jumpLabelIf s a b l).length ≤ c
  jumpLabelIfZero : ∀ s a l, (B.jumpLabelIfZero s a l).length ≤ c
  loadImmediate : ∀ t n, (B.loadImmediate t n).length ≤ c
  loadLabel : ∀ t l, (B.loadLabel t l).length ≤ c
  addAndJump : ∀ t n, (B.addAndJump t n).length ≤ c
  binop : ∀ o t a b, (B.binop o t a b).length ≤ c
  printI64 : ∀ nl t ctx, GPost (B.printI64 nl t ctx) (fun code => code.length ≤ c)
  eraseBlock : ∀ t, GPost (B.eraseBlock t) (fun code => code.length ≤ c)
  shareBlockN : ∀ t n, GPost (B.shareBlockN t n) (fun code => code.length ≤ c)
  store : ∀ a b, GPost (B.store a b) (fun code => code.length ≤ c * (a.length + 1))
  load : ∀ a b, GPost (B.load a b) (fun code => code.length ≤ c * (a.length + 1))

variable {B}

theorem hookCode_length (hooks : Bool) (Γ : Ctx) : (hookCode B hooks Γ).length ≤ 1 := by
  unfold hookCode; split <;> simp

theorem codeTable_length {c : Nat} (C : GenCost B c) (base : String) : ∀ (cs : Clauses),
    (codeTable B cs base).length ≤ c * cs.length
  | .nil => by simp [codeTable]
  | .cons x _ _ rest => by
    have h1 := C.jumpLabelFixed (clauseLabel base x)
    have h2 := codeTable_length C base rest
    simp only [codeTable, List.length_append, Clauses.length, Nat.mul_add, Nat.mul_one]; omega

theorem clauses_length_le_size : ∀ (cs : Clauses), cs.length ≤ cs.size
  | .nil => by simp [Clauses.length, Clauses.size]
  | .cons _ _ body rest => by
    have := clauses_length_le_size rest
    simp only [Clauses.length, Clauses.size]; omega

theorem gpost_splitOffLast (Γ : Ctx) (n : Nat) :
    GPost (splitOffLast Γ n) (fun sp => n ≤ Γ.length ∧ sp.1.length = Γ.length - n ∧ sp.2.length = n) := by
  unfold splitOffLast
  split
  · next h => exact GPost.pure ⟨h, by simp <;> omega, by simp <;> omega⟩
  · exact GPost.throw

theorem urc_length {c : Nat} (C : GenCost B c) (var : Ident) (Γ : Ctx) (n : Nat) :
    GPost (updateReferenceCount B var Γ n) (fun code => code.length ≤ 1 + c) := by
  unfold updateReferenceCount
  refine GPost.bind (GPost.true _) fun t _ => ?_
  match n with
  | 0 => exact GPost.bind (C.eraseBlock t) fun code hc => GPost.pure (by simp; omega)
  | 1 => exact GPost.pure (by simp)
  | n + 2 => exact GPost.bind (C.shareBlockN t (n + 1)) fun code hc => GPost.pure (by simp; omega)

theorem cwc_length {c : Nat} (C : GenCost B c) (Γ : Ctx) : ∀ (tm : List (Binding × List Nat)),
    GPost (codeWeakeningContraction B tm Γ) (fun code => code.length ≤ tm.length * (1 + c))
  | [] => by simp only [codeWeakeningContraction]; exact GPost.pure (by simp)
  | (binding, targets) :: rest => by
    simp only [codeWeakeningContraction]
    refine GPost.bind (Q1 := fun code => code.length ≤ 1 + c) ?_ fun code hc => ?_
    · split
      · exact urc_length C _ _ _
      · exact GPost.pure (by simp)
    · refine GPost.bind (cwc_length C Γ rest) fun codeRest hr => GPost.pure ?_
      simp only [List.length_append, List.length_cons, Nat.add_mul, Nat.one_mul]; omega

theorem exch_length {c : Nat} (L : BackendLaw B) (C : GenCost B c)
    (re : List (Binding × Ident)) (Γ newΓ : Ctx) (hnew : (re.map (·.1.var.id)).Nodup) :
    GPost (codeExchange B (transpose re Γ) Γ newΓ)
      (fun code => code.length ≤ 1 + 2 * (c * re.length) + 2 * (c * Γ.length)) := by
  refine GPost.mono (codeExchange_length L C.move re Γ newΓ hnew) ?_
  intro code h
  rw [Nat.mul_assoc, Nat.mul_assoc] at h
  exact h

/-- the constant of the bound: `(5 + 5c)·(1 + M)` per node -/
def KW (c M : Nat) : Nat := (5 + 5 * c) * (1 + M)

theorem KW_eq (c M : Nat) : KW c M = 5 + 5 * c + 5 * M + 5 * (c * M) := by
  unfold KW
  rw [Nat.add_mul, Nat.mul_add, Nat.mul_add, Nat.mul_one, Nat.mul_one, Nat.mul_assoc]
  omega

/-- closes the length goal of one node: the length of the emitted list and the node counts `Stmt.size`,
    `Clauses.size`, `ctxCap` are turned into sums, in the goal AND in every hypothesis (`at *`), with the
    products over sums distributed, and `omega` concludes.  What `omega` needs beyond that stands in the
    context when the macro is called: the cost of each emitted piece (`C.…`, `h1`, `h2`, … from `GPost.bind`)
    and the monotonicity facts `m1`, `m2`, … for the products `c * _`, which `omega` treats as atoms. -/
local macro "fin_gen" : tactic =>
  `(tactic| (simp only [List.length_append, List.length_cons, List.length_nil, List.length_singleton,
      Stmt.size, Clauses.size, Clauses.length, Nat.mul_add, Nat.mul_one, Nat.add_mul, Nat.one_mul,
      ctxCap, ctxCapClauses] at *
             omega))

mutual
  theorem code_length {c : Nat} (L : BackendLaw B) (C : GenCost B c) (hooks : Bool) (ren : Nat → String)
      (types : List TypeDecl) (M W : Nat) (hW : 5 + 5 * c + 5 * M + 5 * (c * M) ≤ W) :
      ∀ (s : Stmt) (Γ : Ctx), ctxCap Γ.length s ≤ M → substOk s = true →
        GPost (codeStatementR B hooks ren types s Γ) (fun code => code.length ≤ W * s.size)
    | .subst rearrange next, Γ, hM, hok => by
      simp only [codeStatementR]
      simp only [substOk, Bool.and_eq_true, decide_eq_true_eq] at hok
      have hΓ := le_ctxCap Γ.length (.subst rearrange next)
      obtain ⟨t1, t2⟩ := transpose_entries rearrange Γ
      have hk := hookCode_length (B := B) hooks Γ
      have hre : rearrange.length ≤ M := by
        have := le_ctxCap rearrange.length next
        simp only [ctxCap] at hM; omega
      have m1 : c * rearrange.length ≤ c * M := Nat.mul_le_mul_left _ hre
      have m2 : c * Γ.length ≤ c * M := Nat.mul_le_mul_left _ (Nat.le_trans hΓ hM)
      have m3 : (transpose rearrange Γ).length * (1 + c) ≤ M * (1 + c) :=
        Nat.mul_le_mul_right _ (Nat.le_trans t2 (Nat.le_trans hΓ hM))
      have m4 : M * (1 + c) = M + c * M := by rw [Nat.mul_add, Nat.mul_one, Nat.mul_comm]
      refine GPost.bind (cwc_length C Γ _) fun c1 h1 => ?_
      refine GPost.bind (exch_length L C rearrange Γ _ hok.1) fun c2 h2 => ?_
      refine GPost.bind (code_length L C hooks ren types M W hW next _ (by
        simp only [List.length_map]; simp only [ctxCap] at hM; omega) hok.2) fun c3 h3 => ?_
      refine GPost.pure ?_
      fin_gen
    | .call label args, Γ, hM, _ => by
      simp only [codeStatementR]
      have hk := hookCode_length (B := B) hooks Γ
      have := C.jumpLabel (label.print ++ "_")
      refine GPost.pure ?_
      fin_gen
    | .letS var ty tag args next fv, Γ, hM, hok => by
      simp only [codeStatementR]
      simp only [substOk] at hok
      have hΓ := le_ctxCap Γ.length (.letS var ty tag args next fv)
      have hk := hookCode_length (B := B) hooks Γ
      refine GPost.bind (GPost.true _) fun decl _ => ?_
      refine GPost.bind (GPost.true _) fun pos _ => ?_
      refine GPost.bind (gpost_splitOffLast Γ args.length) fun sp hsp => ?_
      obtain ⟨context1, arguments⟩ := sp
      dsimp only at hsp ⊢
      refine GPost.bind (C.store _ _) fun c1 h1 => ?_
      refine GPost.bind (GPost.true _) fun t _ => ?_
      have hctx : (context1 ++ [(⟨var, .prd, ty⟩ : Binding)]).length = Γ.length - args.length + 1 := by
        simp [hsp.2.1]
      refine GPost.bind (code_length L C hooks ren types M W hW next _ (by
        rw [hctx]; simp only [ctxCap] at hM; omega) hok) fun c3 h3 => ?_
      refine GPost.pure ?_
      have := C.loadImmediate t (B.jumpLength pos)
      have m1 : c * arguments.length ≤ c * M :=
        Nat.mul_le_mul_left _ (by rw [hsp.2.2]; exact Nat.le_trans hsp.1 (Nat.le_trans hΓ hM))
      fin_gen
    | .switch var ty clauses fv, Γ, hM, hok => by
      simp only [codeStatementR]
      simp only [substOk] at hok
      have hk := hookCode_length (B := B) hooks Γ
      refine GPost.bind (GPost.true _) fun num _ => ?_
      refine GPost.bind (Q1 := fun code => code.length ≤ 3 * c + 1) ?_ fun c1 h1 => ?_
      · split
        · exact GPost.pure (by simp)
        · refine GPost.bind (GPost.true _) fun t _ => GPost.pure ?_
          have a1 := C.loadLabel B.temp (mangleTy ty ++ "_" ++ num)
          have a2 := C.binop .sum B.temp B.temp t
          have a3 := C.jump B.temp
          simp only [List.length_append]; omega
      · refine GPost.bind (clauses_code_length L C hooks ren types M W hW clauses Γ.dropLast _ (by
          simp only [List.length_dropLast]; simp only [ctxCap] at hM; omega) hok) fun c3 h3 => ?_
        refine GPost.pure ?_
        have ht := codeTable_length C (mangleTy ty ++ "_" ++ num) clauses
        have : (if clauses.length > 1 then codeTable B clauses (mangleTy ty ++ "_" ++ num) else []).length
            ≤ c * clauses.length := by split <;> simp [ht]
        fin_gen
    | .create var ty env clauses next fv1 fv2, Γ, hM, hok => by
      cases env with
      | none => simp only [codeStatementR]; exact GPost.throw
      | some envCtx =>
        simp only [codeStatementR]
        simp only [substOk, Bool.and_eq_true] at hok
        have hΓ := le_ctxCap Γ.length (.create var ty (some envCtx) clauses next fv1 fv2)
        have hk := hookCode_length (B := B) hooks Γ
        refine GPost.bind (gpost_splitOffLast Γ envCtx.length) fun sp hsp => ?_
        obtain ⟨context1, closureEnvironment⟩ := sp
        dsimp only at hsp ⊢
        refine GPost.bind (C.store _ _) fun c1 h1 => ?_
        refine GPost.bind (GPost.true _) fun num _ => ?_
        refine GPost.bind (GPost.true _) fun t _ => ?_
        have hctx : (context1 ++ [(⟨var, .cns, ty⟩ : Binding)]).length = Γ.length - envCtx.length + 1 := by
          simp [hsp.2.1]
        have henv : closureEnvironment.length ≤ M := by
          rw [hsp.2.2]; exact Nat.le_trans hsp.1 (Nat.le_trans hΓ hM)
        refine GPost.bind (code_length L C hooks ren types M W hW next _ (by
          rw [hctx]; simp only [ctxCap, Option.getD_some] at hM; omega) hok.2) fun c3 h3 => ?_
        refine GPost.bind (methods_code_length L C hooks ren types M W hW clauses closureEnvironment _ (by
          rw [hsp.2.2]; simp only [ctxCap, Option.getD_some] at hM; omega) henv hok.1) fun c5 h5 => ?_
        refine GPost.pure ?_
        have a1 := C.loadLabel t (mangleTy ty ++ "_" ++ num)
        have ht := codeTable_length C (mangleTy ty ++ "_" ++ num) clauses
        have : (if clauses.length > 1 then codeTable B clauses (mangleTy ty ++ "_" ++ num) else []).length
            ≤ c * clauses.length := by split <;> simp [ht]
        have m1 : c * closureEnvironment.length ≤ c * M := Nat.mul_le_mul_left _ henv
        fin_gen
    | .invoke var tag ty args, Γ, hM, _ => by
      simp only [codeStatementR]
      have hk := hookCode_length (B := B) hooks Γ
      refine GPost.bind (GPost.true _) fun t _ => ?_
      refine GPost.bind (GPost.true _) fun decl _ => ?_
      split
      · refine GPost.pure ?_
        have := C.jump t
        fin_gen
      · refine GPost.bind (GPost.true _) fun pos _ => GPost.pure ?_
        have := C.addAndJump t (B.jumpLength pos)
        fin_gen
    | .lit var n next fv, Γ, hM, hok => by
      simp only [codeStatementR]
      simp only [substOk] at hok
      have hk := hookCode_length (B := B) hooks Γ
      refine GPost.bind (GPost.true _) fun t _ => ?_
      refine GPost.bind (code_length L C hooks ren types M W hW next _ (by
        simp only [List.length_append, List.length_singleton]; simp only [ctxCap] at hM; omega) hok)
        fun c2 h2 => ?_
      refine GPost.pure ?_
      have := C.loadImmediate t n
      fin_gen
    | .op var fst o snd next fv, Γ, hM, hok => by
      simp only [codeStatementR]
      simp only [substOk] at hok
      have hk := hookCode_length (B := B) hooks Γ
      refine GPost.bind (GPost.true _) fun t _ => ?_
      refine GPost.bind (GPost.true _) fun s1 _ => ?_
      refine GPost.bind (GPost.true _) fun s2 _ => ?_
      refine GPost.bind (code_length L C hooks ren types M W hW next _ (by
        simp only [List.length_append, List.length_singleton]; simp only [ctxCap] at hM; omega) hok)
        fun c2 h2 => ?_
      refine GPost.pure ?_
      have := C.binop o t s1 s2
      fin_gen
    | .print newline var next fv, Γ, hM, hok => by
      simp only [codeStatementR]
      simp only [substOk] at hok
      have hk := hookCode_length (B := B) hooks Γ
      refine GPost.bind (GPost.true _) fun t _ => ?_
      refine GPost.bind (C.printI64 _ _ _) fun c1 h1 => ?_
      refine GPost.bind (code_length L C hooks ren types M W hW next _ (by
        simp only [ctxCap] at hM; omega) hok) fun c2 h2 => ?_
      refine GPost.pure ?_
      fin_gen
    | .ifc sort fst snd thenc elsec, Γ, hM, hok => by
      simp only [codeStatementR]
      simp only [substOk, Bool.and_eq_true] at hok
      have hk := hookCode_length (B := B) hooks Γ
      refine GPost.bind (GPost.true _) fun num _ => ?_
      refine GPost.bind (Q1 := fun code => code.length ≤ c) ?_ fun c1 h1 => ?_
      · cases snd with
        | none =>
          dsimp only
          exact GPost.bind (GPost.true _) fun a _ => GPost.pure (C.jumpLabelIfZero _ _ _)
        | some snd =>
          dsimp only
          exact GPost.bind (GPost.true _) fun a _ => GPost.bind (GPost.true _) fun b _ =>
            GPost.pure (C.jumpLabelIf _ _ _ _)
      · refine GPost.bind (code_length L C hooks ren types M W hW elsec _ (by
          simp only [ctxCap] at hM; omega) hok.2) fun c2 h2 => ?_
        refine GPost.bind (code_length L C hooks ren types M W hW thenc _ (by
          simp only [ctxCap] at hM; omega) hok.1) fun c3 h3 => ?_
        refine GPost.pure ?_
        fin_gen
    | .exit var, Γ, hM, _ => by
      simp only [codeStatementR]
      have hk := hookCode_length (B := B) hooks Γ
      refine GPost.bind (GPost.true _) fun t _ => GPost.pure ?_
      have a1 := C.move.mov B.return1 t
      have a2 := C.jumpLabel "cleanup"
      fin_gen
  theorem clauses_code_length {c : Nat} (L : BackendLaw B) (C : GenCost B c) (hooks : Bool)
      (ren : Nat → String) (types : List TypeDecl) (M W : Nat)
      (hW : 5 + 5 * c + 5 * M + 5 * (c * M) ≤ W) :
      ∀ (cs : Clauses) (Γ : Ctx) (base : String), ctxCapClauses Γ.length cs ≤ M → substOkC cs = true →
        GPost (codeClausesR B hooks ren types Γ cs base)
          (fun code => code.length + c * cs.length ≤ W * cs.size)
    | .nil, _, _, _, _ => by simp only [codeClausesR]; exact GPost.pure (by simp [Clauses.length])
    | .cons xtor clauseCtx body rest, Γ, base, hM, hok => by
      simp only [codeClausesR]
      simp only [substOkC, Bool.and_eq_true] at hok
      have hb := le_ctxCap (Γ.length + clauseCtx.length) body
      refine GPost.bind (C.load _ _) fun c1 h1 => ?_
      refine GPost.bind (code_length L C hooks ren types M W hW body _ (by
        simp only [List.length_append]; simp only [ctxCapClauses] at hM; omega) hok.1) fun c2 h2 => ?_
      refine GPost.bind (clauses_code_length L C hooks ren types M W hW rest Γ base (by
        simp only [ctxCapClauses] at hM; omega) hok.2) fun c3 h3 => ?_
      refine GPost.pure ?_
      have m1 : c * clauseCtx.length ≤ c * M :=
        Nat.mul_le_mul_left _ (by simp only [ctxCapClauses] at hM; omega)
      fin_gen
  theorem methods_code_length {c : Nat} (L : BackendLaw B) (C : GenCost B c) (hooks : Bool)
      (ren : Nat → String) (types : List TypeDecl) (M W : Nat)
      (hW : 5 + 5 * c + 5 * M + 5 * (c * M) ≤ W) :
      ∀ (cs : Clauses) (env : Ctx) (base : String), ctxCapClauses env.length cs ≤ M → env.length ≤ M →
        substOkC cs = true →
        GPost (codeMethodsR B hooks ren types env cs base)
          (fun code => code.length + c * cs.length ≤ W * cs.size)
    | .nil, _, _, _, _, _ => by simp only [codeMethodsR]; exact GPost.pure (by simp [Clauses.length])
    | .cons xtor clauseCtx body rest, env, base, hM, henv, hok => by
      simp only [codeMethodsR]
      simp only [substOkC, Bool.and_eq_true] at hok
      refine GPost.bind (C.load _ _) fun c1 h1 => ?_
      refine GPost.bind (code_length L C hooks ren types M W hW body _ (by
        simp only [List.length_append]; simp only [ctxCapClauses] at hM
        rw [Nat.add_comm]; omega) hok.1) fun c2 h2 => ?_
      refine GPost.bind (methods_code_length L C hooks ren types M W hW rest env base (by
        simp only [ctxCapClauses] at hM; omega) henv hok.2) fun c3 h3 => ?_
      refine GPost.pure ?_
      have m1 : c * env.length ≤ c * M := Nat.mul_le_mul_left _ henv
      fin_gen
end

def blocksLen {α : Type} : List (List α) → Nat
  | [] => 0
  | b :: bs => b.length + blocksLen bs

theorem translate_length {c : Nat} (L : BackendLaw B) (C : GenCost B c) (hooks : Bool)
    (ren : Nat → String) (types : List TypeDecl) (M W : Nat)
    (hW : 5 + 5 * c + 5 * M + 5 * (c * M) ≤ W) :
    ∀ (ds : List Def), defsCap ds ≤ M → (ds.all fun d => substOk d.body) = true →
      GPost (translateR B hooks ren types ds)
        (fun blocks => blocksLen blocks + blocks.length ≤ W * defsNodes ds ∧ blocks.length = ds.length)
  | [], _, _ => by simp only [translateR]; exact GPost.pure (by simp [blocksLen, defsNodes])
  | d :: ds, hM, hok => by
    simp only [translateR]
    simp only [List.all_cons, Bool.and_eq_true] at hok
    simp only [defsCap] at hM
    refine GPost.bind (code_length L C hooks ren types M W hW d.body d.ctx (by omega) hok.1) fun is h1 => ?_
    refine GPost.bind (translate_length L C hooks ren types M W hW ds (by omega) hok.2) fun rest h2 => ?_
    refine GPost.pure ?_
    simp only [blocksLen, List.length_cons, defsNodes, Nat.mul_add, Nat.mul_one]
    omega

theorem assemble_length : ∀ (blocks : List (List Code)) (names : List Ident),
    (assemble B blocks names).length ≤ blocksLen blocks + blocks.length
  | [], _ => by simp [assemble]
  | _ :: _, [] => by simp [assemble]
  | b :: bs, n :: ns => by
    have := assemble_length bs ns
    simp only [assemble, List.length_cons, List.length_append, blocksLen]; omega

/-- C19 for `compile` with an arbitrary lawful backend: at most `(5 + 5c)·(1 + M)` codes per node of the
    linearized program, `M` = its longest context -/
theorem compile_length {c : Nat} (L : BackendLaw B) (C : GenCost B c) (hooks : Bool)
    (ren : Nat → String) (p : Prog) (M : Nat) (hM : defsCap p.defs ≤ M)
    (hok : substOkProg p = true) :
    GPost (compileR B hooks ren p) (fun r => r.1.length ≤ KW c M * defsNodes p.defs) := by
  unfold compileR
  split
  · exact GPost.throw
  · next d0 rest hd =>
    refine GPost.bind (translate_length L C hooks ren p.types M (KW c M) (Nat.le_of_eq (KW_eq c M).symm)
      p.defs hM hok) fun blocks hb => GPost.pure ?_
    have := assemble_length (B := B) blocks (p.defs.map (·.name))
    simp only
    omega

end

end Scc.Backend.SizeGen
