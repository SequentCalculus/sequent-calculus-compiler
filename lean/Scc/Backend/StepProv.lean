/-
  Scc.Backend.StepProv — WHAT A STEP OF A STATEMENT OTHER THAN `create` / `invoke` DOES TO THE POSITIONS AND THE HEAP, for
  every backend whose three-way relation keeps, per instance of a closure, the machine's code pointer (`κ id j`: the
  word the machine holds for the closure in field `j` of the object `id`; for a variable: what its word temporary holds).
  Of the concrete machine only `tv t` is seen: the word it holds in the temporary of the abstract temporary `t`
  (`none`: undefined), before (`tv`) and after (`tv'`) the step.
  * `KeepPos`, `SubstProv`, `LetProv`, `LoadProv`: where the new positions and the new heap fields come from, per kind
    of step; `StepProv`: their sum, with the contexts, environments and code-pointer maps before and after.
  * `OldFields`, `oldFields_steps`: the abstract machine never modifies the fields of an object.
  * `Same`: the machine holds, for closure-kinded variables and fields too, the very word the abstract machine
    holds — the invariant by which a relation that carries `κ` becomes one that does not; `Same.step`: it is kept.
-/
import Scc.Backend.ProofsRep2
import Scc.Backend.ProofsLoad
import Scc.Backend.ProofsAbsStep
import Scc.Heap.RefineLoad

set_option linter.unusedVariables false

namespace Scc.Backend.Prov

open Scc.AxCut Scc.AxCut.Pos Scc.Backend.Abs Scc.Backend.Sim Scc.Backend.Sim2

theorem readFields_spec (σ : Temps) : ∀ (ks : List Chi) (n : Nat) (fields : List Abs.Field),
    readFields σ ks n = some fields → fields.length = ks.length ∧
    ∀ j (hj : j < ks.length) (hj' : j < fields.length), fields[j].chi = ks[j] ∧
      σ.get (2 * (n + j) + 1) = some fields[j].val ∧
      (fields[j].chi ≠ .ext → σ.get (2 * (n + j)) = some fields[j].ptr)
  | [], n, fields, h => by
    simp only [readFields, Option.some.injEq] at h
    subst h
    exact ⟨rfl, fun j hj => by simp at hj⟩
  | k :: ks, n, fields, h => by
    simp only [readFields] at h
    cases hg : σ.get (2 * n + 1) with
    | none => simp [hg] at h
    | some w =>
      cases hr : readFields σ ks (n + 1) with
      | none => simp [hg, hr] at h
      | some rest =>
        obtain ⟨hl, hs⟩ := readFields_spec σ ks (n + 1) rest hr
        simp only [hg, hr] at h
        have key : ∃ p, fields = ⟨k, p, w⟩ :: rest ∧ (k ≠ .ext → σ.get (2 * n) = some p) := by
          split at h
          · rename_i hk
            injection h with h
            exact ⟨_, h.symm, fun hne => absurd ((Scc.Backend.Sim2.chi_beq_ext _).mp hk) hne⟩
          · split at h
            · rename_i p hp
              injection h with h; exact ⟨_, h.symm, fun _ => hp⟩
            · cases h
        obtain ⟨p, rfl, hp⟩ := key
        refine ⟨by simp [hl], ?_⟩
        intro j hj hj'
        cases j with
        | zero => exact ⟨rfl, by simpa using hg, by simpa using hp⟩
        | succ j =>
          have := hs j (by simpa using hj) (by simpa using hj')
          simp only [List.getElem_cons_succ]
          rw [show n + (j + 1) = n + 1 + j by omega]
          exact this

/-- an object of `h'` with an id below `n` is an object of `h` with the same fields -/
def OldFields (n : Nat) (h h' : Heap) : Prop :=
  ∀ id o', id < n → h'.get id = some o' → ∃ o, h.get id = some o ∧ o.fields = o'.fields

theorem OldFields.refl (n : Nat) (h : Heap) : OldFields n h h := fun id o' _ hg => ⟨o', hg, rfl⟩

theorem OldFields.trans {n m : Nat} {h1 h2 h3 : Heap} (a : OldFields n h1 h2) (b : OldFields m h2 h3)
    (hnm : n ≤ m) : OldFields n h1 h3 := by
  intro id o3 hid hg
  obtain ⟨o2, hg2, e2⟩ := b id o3 (by omega) hg
  obtain ⟨o1, hg1, e1⟩ := a id o2 hid hg2
  exact ⟨o1, hg1, by rw [e1, e2]⟩

theorem oldFields_set {n : Nat} {h : Heap} {id : Nat} {o : Obj} (hg : h.get id = some o) (cnt : Nat) :
    OldFields n h (h.set id { o with count := cnt }) := by
  intro id' o' _ hg'
  by_cases e : id' = id
  · subst e
    rw [heap_get_set_same] at hg'
    injection hg' with hg'
    exact ⟨o, hg, by rw [← hg']⟩
  · rw [heap_get_set_other _ _ e] at hg'
    exact ⟨o', hg', rfl⟩

theorem oldFields_remove {n : Nat} (h : Heap) (id : Nat) : OldFields n h (h.remove id) := by
  intro id' o' _ hg'
  by_cases e : id' = id
  · subst e
    rw [heap_get_remove_same] at hg'
    cases hg'
  · rw [heap_get_remove_other _ e] at hg'
    exact ⟨o', hg', rfl⟩

theorem oldFields_eraseLoop (n : Nat) : ∀ (fuel : Nat) (work : List Nat) (h h' : Heap),
    Heap.eraseLoop fuel work h = .ok h' → OldFields n h h'
  | 0, [], h, h', hs => by
    simp only [Heap.eraseLoop] at hs
    injection hs with hs; rw [← hs]; exact OldFields.refl _ _
  | 0, _ :: _, h, h', hs => by simp [Heap.eraseLoop] at hs
  | _ + 1, [], h, h', hs => by
    simp only [Heap.eraseLoop] at hs
    injection hs with hs; rw [← hs]; exact OldFields.refl _ _
  | fuel + 1, id :: work, h, h', hs => by
    simp only [Heap.eraseLoop] at hs
    cases hg : h.get id with
    | none => rw [hg] at hs; cases hs
    | some o =>
      rw [hg] at hs
      simp only at hs
      by_cases hc : o.count > 0
      · rw [if_pos hc] at hs
        exact (oldFields_set hg _).trans (oldFields_eraseLoop n fuel work _ _ hs) (Nat.le_refl _)
      · rw [if_neg hc] at hs
        exact (oldFields_remove h id).trans (oldFields_eraseLoop n fuel _ _ _ hs) (Nat.le_refl _)

theorem oldFields_erase {n : Nat} {h h' : Heap} {ref : Word} (hs : h.erase ref = .ok h') : OldFields n h h' := by
  unfold Heap.erase at hs
  split at hs
  · injection hs with hs; rw [← hs]; exact OldFields.refl _ _
  · exact oldFields_eraseLoop n _ _ _ _ hs

theorem oldFields_share {n : Nat} {h h' : Heap} {ref : Word} {k : Nat} (hs : h.share ref k = .ok h') :
    OldFields n h h' := by
  unfold Heap.share at hs
  split at hs
  · injection hs with hs; rw [← hs]; exact OldFields.refl _ _
  · cases hg : h.get ref.toNat with
    | none => rw [hg] at hs; cases hs
    | some o =>
      rw [hg] at hs
      injection hs with hs
      rw [← hs]
      exact oldFields_set hg _

theorem oldFields_shareAll (n : Nat) : ∀ (ids : List Nat) (h h' : Heap), h.shareAll ids = .ok h' →
    OldFields n h h'
  | [], h, h', hs => by
    simp only [Heap.shareAll] at hs
    injection hs with hs; rw [← hs]; exact OldFields.refl _ _
  | id :: ids, h, h', hs => by
    simp only [Heap.shareAll] at hs
    cases h1 : h.share (BitVec.ofNat 64 id) 1 with
    | error e => rw [h1] at hs; cases hs
    | ok h1' =>
      rw [h1] at hs
      exact (oldFields_share h1).trans (oldFields_shareAll n ids _ _ hs) (Nat.le_refl _)

theorem oldFields_loadAbs {n : Nat} {h h' : Heap} {id : Nat} {o : Obj} (hg : h.get id = some o)
    (hl : Scc.Heap.Refine.loadAbs h id o = .ok h') : OldFields n h h' := by
  unfold Scc.Heap.Refine.loadAbs at hl
  split at hl
  · injection hl with hl; rw [← hl]; exact oldFields_remove h id
  · exact (oldFields_set hg _).trans (oldFields_shareAll n _ _ _ hl) (Nat.le_refl _)

/-- the abstract `load` of an object with at least one field, when the machine goes on, explicitly -/
theorem step_load_explicit {P : Program} {cfg cfg' : Config} {k : Chi} {ks : List Chi} {n : Nat} {r : Word}
    {o : Obj} (hc : P.code[cfg.pc]? = some (.load (k :: ks) n)) (hr : cfg.temps.get (2 * n) = some r)
    (hr0 : r ≠ 0) (hg : cfg.heap.get r.toNat = some o) (hk : o.fields.map (·.chi) = k :: ks)
    (hstep : Abs.step P cfg = .next cfg') :
    ∃ h', Scc.Heap.Refine.loadAbs cfg.heap r.toNat o = .ok h' ∧
      cfg' = { cfg with pc := cfg.pc + 1, temps := writeFields (clobberTemp cfg.temps) o.fields n, heap := h' } := by
  by_cases hc0 : o.count = 0
  · have hA := step_load_unique P cfg _ _ _ r o hc hr hr0 hg hk hc0
    rw [hstep] at hA
    injection hA with hA
    refine ⟨cfg.heap.remove r.toNat, ?_, hA⟩
    unfold Scc.Heap.Refine.loadAbs
    simp [hc0]
  · cases hsh : (cfg.heap.set r.toNat { o with count := o.count - 1 }).shareAll o.children with
    | error e =>
      exfalso
      have h1 : (r == 0) = false := by rw [beq_eq_false_iff_ne]; exact hr0
      have h2 : (o.fields.map (·.chi) != k :: ks) = false := by rw [hk]; exact kinds_bne_self _
      have h3 : (o.count == 0) = false := by rw [beq_eq_false_iff_ne]; exact hc0
      simp only [Abs.step, hc, getT, hr, h1, hg, h2, h3, hsh, Bool.false_eq_true, if_false, stuck] at hstep
      cases hstep
    | ok h' =>
      have hA := step_load_shared P cfg _ _ _ r o h' hc hr hr0 hg hk hc0 hsh
      rw [hstep] at hA
      injection hA with hA
      refine ⟨h', ?_, hA⟩
      unfold Scc.Heap.Refine.loadAbs
      have : (o.count == 0) = false := by rw [beq_eq_false_iff_ne]; exact hc0
      rw [if_neg (by rw [this]; simp)]
      exact hsh

/-- ONE STEP of the abstract machine: old objects keep their fields, the id counter does not decrease -/
theorem oldFields_step {P : Program} {c c' : Config} (h : Abs.step P c = .next c') :
    OldFields c.next c.heap c'.heap ∧ c.next ≤ c'.next := by
  have same : ∀ {c'' : Config}, c''.heap = c.heap → c''.next = c.next →
      OldFields c.next c.heap c''.heap ∧ c.next ≤ c''.next := by
    intro c'' e1 e2
    rw [e1, e2]; exact ⟨OldFields.refl _ _, Nat.le_refl _⟩
  have jt : ∀ {n : String} {c'' : Config}, jumpTo P c n = .next c'' →
      OldFields c.next c.heap c''.heap ∧ c.next ≤ c''.next := by
    intro n c'' hj
    unfold jumpTo at hj
    split at hj
    · injection hj with hj; subst hj; exact same rfl rfl
    · simp [stuck] at hj
  unfold Abs.step at h
  cases hc : P.code[c.pc]? with
  | none => rw [hc] at h; simp [stuck] at h
  | some op =>
    rw [hc] at h
    cases op with
    | comment m => simp only at h; injection h with h; subst h; exact same rfl rfl
    | label m => simp only at h; injection h with h; subst h; exact same rfl rfl
    | jump t =>
      simp only at h
      obtain ⟨v, _, h⟩ := getT_next h
      injection h with h; subst h; exact same rfl rfl
    | jumpLabel n =>
      simp only at h
      split at h
      · obtain ⟨v, _, h⟩ := getT_next h
        cases h
      · exact jt h
    | jumpFixed n => simp only at h; exact jt h
    | jif cnd a b n =>
      simp only at h
      obtain ⟨va, _, h⟩ := getT_next h
      obtain ⟨vb, _, h⟩ := getT_next h
      split at h
      · exact jt h
      · injection h with h; subst h; exact same rfl rfl
    | jifz cnd a n =>
      simp only at h
      obtain ⟨va, _, h⟩ := getT_next h
      split at h
      · exact jt h
      · injection h with h; subst h; exact same rfl rfl
    | li t imm => simp only at h; injection h with h; subst h; exact same rfl rfl
    | ll t n =>
      simp only at h
      split at h
      · injection h with h; subst h; exact same rfl rfl
      · simp [stuck] at h
    | addJump t imm =>
      simp only at h
      obtain ⟨v, _, h⟩ := getT_next h
      injection h with h; subst h; exact same rfl rfl
    | binop o t a b =>
      simp only at h
      obtain ⟨va, _, h⟩ := getT_next h
      obtain ⟨vb, _, h⟩ := getT_next h
      split at h
      · simp [stuck] at h
      · injection h with h; subst h; exact same rfl rfl
    | mov t s => simp only at h; injection h with h; subst h; exact same rfl rfl
    | print nl s kinds =>
      simp only at h
      obtain ⟨v, _, h⟩ := getT_next h
      injection h with h; subst h; exact same rfl rfl
    | erase t =>
      simp only at h
      obtain ⟨v, _, h⟩ := getT_next h
      split at h
      · simp [stuck] at h
      · rename_i hh he
        injection h with h; subst h
        exact ⟨oldFields_erase he, Nat.le_refl _⟩
    | share t k =>
      simp only at h
      obtain ⟨v, _, h⟩ := getT_next h
      split at h
      · simp [stuck] at h
      · rename_i hh he
        injection h with h; subst h
        exact ⟨oldFields_share he, Nat.le_refl _⟩
    | store kinds n =>
      simp only at h
      split at h
      · injection h with h; subst h; exact same rfl rfl
      · split at h
        · simp [stuck] at h
        · injection h with h; subst h
          refine ⟨?_, Nat.le_succ _⟩
          intro id o' hid hg
          simp only at hg
          rw [heap_get_cons_ne (by omega)] at hg
          exact ⟨o', hg, rfl⟩
    | load kinds n =>
      simp only at h
      split at h
      · injection h with h; subst h; exact same rfl rfl
      · obtain ⟨ref, _, h⟩ := getT_next h
        split at h
        · simp [stuck] at h
        · split at h
          · simp [stuck] at h
          · rename_i o hg
            split at h
            · simp [stuck] at h
            · split at h
              · injection h with h; subst h
                exact ⟨oldFields_remove _ _, Nat.le_refl _⟩
              · split at h
                · simp [stuck] at h
                · rename_i h'' hsh
                  injection h with h; subst h
                  exact ⟨(oldFields_set hg _).trans (oldFields_shareAll _ _ _ _ hsh) (Nat.le_refl _), Nat.le_refl _⟩
    | save t b => simp only at h; injection h with h; subst h; exact same rfl rfl
    | restore t b => simp only at h; injection h with h; subst h; exact same rfl rfl

theorem oldFields_steps {P : Program} : ∀ (k : Nat) (c c' : Config), stepsTo P k c c' →
    OldFields c.next c.heap c'.heap ∧ c.next ≤ c'.next
  | 0, c, c', h => by
    have : c = c' := h
    subst this
    exact ⟨OldFields.refl _ _, Nat.le_refl _⟩
  | k + 1, c, c', h => by
    obtain ⟨c1, hs, h'⟩ := h
    obtain ⟨a1, a2⟩ := oldFields_step hs
    obtain ⟨b1, b2⟩ := oldFields_steps k c1 c' h'
    exact ⟨a1.trans b1 a2, by omega⟩

/-- the first `n` positions are untouched: their abstract temporaries, and the machine's word temporaries -/
structure KeepPos (tv tv' : Nat → Option Word) (n : Nat) (cfg cfg' : Config) : Prop where
  temps : ∀ t, t < 2 * n → cfg'.temps.get t = cfg.temps.get t
  mach : ∀ i, i < n → tv' (2 * i + 1) = tv (2 * i + 1)

/-- `subst`: new position `j` holds, on both machines, what the position `i` of its source variable held -/
def SubstProv (tv tv' : Nat → Option Word) (Γ : Ctx) (ρ : List Value) (pairs : List (Binding × Ident))
    (vs : List Value) (cfg cfg' : Config) : Prop :=
  ∀ j (hj : j < pairs.length), ∃ i, ∃ hi : i < Γ.length, ρ[i]? = vs[j]? ∧ Γ[i].chi = pairs[j].1.chi ∧
    cfg'.temps.get (2 * j + 1) = cfg.temps.get (2 * i + 1) ∧
    (pairs[j].1.chi ≠ .ext → cfg'.temps.get (2 * j) = cfg.temps.get (2 * i)) ∧
    tv' (2 * j + 1) = tv (2 * i + 1) ∧ (Mock.ctxPosition Γ pairs[j].2.id).getD 0 = i

/-- the words of the stored closure fields: what the machine holds at the stored positions -/
def storeK (tv : Nat → Option Word) (κ : Nat → Nat → Word) (id n : Nat) : Nat → Nat → Word :=
  fun i j => if i = id then (tv (2 * (n + j) + 1)).getD 0 else κ i j

/-- `let` / `create`: the first `N` positions are untouched; the remaining ones (`fields`) are stored into a new
object with identifier `cfg.next`, whose closure words `κ'` records, and the pointer part of position `N` refers to
it; when no position remains no object is made and that pointer part is null -/
structure LetProv (tv tv' : Nat → Option Word) (Γ : Ctx) (N : Nat) (cfg cfg' : Config)
    (κ κ' : Nat → Nat → Word) : Prop where
  keep : KeepPos tv tv' N cfg cfg'
  obj : ∃ fields, readFields cfg.temps (Mock.kindsOf (Γ.drop N)) N = some fields ∧
    ((Γ.drop N = [] ∧ cfg'.heap = cfg.heap ∧ κ' = κ ∧ cfg'.temps.get (2 * N) = some 0) ∨
     (Γ.drop N ≠ [] ∧ cfg'.heap = (cfg.next, ⟨0, fields⟩) :: cfg.heap ∧ κ' = storeK tv κ cfg.next N ∧
      cfg'.temps.get (2 * N) = some (BitVec.ofNat 64 cfg.next)))

/-- `switch` / `invoke`: the first `n` positions are untouched, position `n` held a reference to the object `o`,
whose fields are unpacked into the positions `n, n+1, …` (no field: nothing happens); the machine's word of a
closure field is the one `κ` records -/
structure LoadProv (tv tv' : Nat → Option Word) (n : Nat) (Δ : Ctx) (cfg cfg' : Config)
    (κ : Nat → Nat → Word) : Prop where
  keep : KeepPos tv tv' n cfg cfg'
  obj : (Δ = [] ∧ cfg'.heap = cfg.heap) ∨
    ∃ r o, cfg.temps.get (2 * n) = some r ∧ r ≠ 0 ∧ cfg.heap.get r.toNat = some o ∧
      o.fields.map (·.chi) = Mock.kindsOf Δ ∧
      ∀ j (hj : j < o.fields.length),
        cfg'.temps.get (2 * (n + j) + 1) = some o.fields[j].val ∧
        cfg'.temps.get (2 * (n + j)) = (if o.fields[j].chi == .ext then none else some o.fields[j].ptr) ∧
        (o.fields[j].chi = .cns → tv' (2 * (n + j) + 1) = some (κ r.toNat j))

/-- WHAT A STEP DID TO THE POSITIONS AND THE HEAP, for the statements other than `create` / `invoke`: one of the
four above, with the contexts, the environments and the code-pointer maps before and after.  Enough to carry an
invariant that speaks of closure words over the step (`Same.step` below; the closure invariant of a backend). -/
inductive StepProv (P : Program) (tv tv' : Nat → Option Word) (cfg cfg' : Config) (κ : Nat → Nat → Word) :
    Ctx → List Value → Ctx → List Value → (Nat → Nat → Word) → Prop where
  /-- `print`, `ifc`, `call` -/
  | keep {Γ Γ' : Ctx} {ρ : List Value} : Γ.map (·.chi) = Γ'.map (·.chi) → KeepPos tv tv' Γ.length cfg cfg' →
      cfg'.heap = cfg.heap → StepProv P tv tv' cfg cfg' κ Γ ρ Γ' ρ κ
  /-- `lit`, `op` -/
  | int {Γ : Ctx} {ρ : List Value} (b : Binding) (n : Word) : b.chi = .ext → KeepPos tv tv' Γ.length cfg cfg' →
      cfg'.heap = cfg.heap → StepProv P tv tv' cfg cfg' κ Γ ρ (Γ ++ [b]) (ρ ++ [.int n]) κ
  /-- `subst`: the new context is the targets of the pairs, each holding what its source held -/
  | subst {Γ : Ctx} {ρ vs : List Value} {pairs : List (Binding × Ident)} {k : Nat} : stepsTo P k cfg cfg' →
      cfg'.next = cfg.next → SubstProv tv tv' Γ ρ pairs vs cfg cfg' →
      StepProv P tv tv' cfg cfg' κ Γ ρ (pairs.map (·.1)) vs κ
  /-- `let`: the last positions become the fields of the object at the new position `N` -/
  | letS {Γ : Ctx} {ρ : List Value} {N : Nat} {κ' : Nat → Nat → Word} (x : Ident) (ty : Ty) (pos : Nat) :
      N ≤ Γ.length → LetProv tv tv' Γ N cfg cfg' κ κ' →
      StepProv P tv tv' cfg cfg' κ Γ ρ (Γ.take N ++ [⟨x, .prd, ty⟩]) (ρ.take N ++ [.obj pos (ρ.drop N)]) κ'
  /-- `switch`: the fields of the scrutinee at the last position become the positions of `Δ` -/
  | switch {Γ' Δ : Ctx} {b : Binding} {ρ' fields : List Value} {tag k : Nat} : b.chi = .prd →
      stepsTo P k cfg cfg' → cfg'.next = cfg.next → fields.map Sim2.kindOf = Mock.kindsOf Δ →
      LoadProv tv tv' Γ'.length Δ cfg cfg' κ →
      StepProv P tv tv' cfg cfg' κ (Γ' ++ [b]) (ρ' ++ [.obj tag fields]) (Γ' ++ Δ) (ρ' ++ fields) κ

/-- `κ` is the word part of the closure fields of `h` -/
def SameF (κ : Nat → Nat → Word) (h : Heap) : Prop :=
  ∀ id o, h.get id = some o → ∀ j f, o.fields[j]? = some f → f.chi = .cns → κ id j = f.val

/-- the machine holds the abstract word also where the value is a closure: in the variables of `Γ` and,
through `κ`, in the fields of the heap -/
structure Same (tv : Nat → Option Word) (Γ : Ctx) (cfg : Config) (κ : Nat → Nat → Word) : Prop where
  vars : ∀ i (hi : i < Γ.length) a, Γ[i].chi = .cns → cfg.temps.get (2 * i + 1) = some a →
    tv (2 * i + 1) = some a
  flds : SameF κ cfg.heap

/-- the closure fields of a heap, as a code-pointer map -/
def fieldWords (h : Heap) : Nat → Nat → Word := fun id j =>
  match h.get id with
  | some o => match o.fields[j]? with
    | some f => f.val
    | none => 0
  | none => 0

theorem sameF_fieldWords (h : Heap) : SameF (fieldWords h) h := by
  intro id o hg j f hf _
  simp only [fieldWords, hg, hf]

theorem SameF.of_oldFields {κ : Nat → Nat → Word} {n : Nat} {h h' : Heap} (S : SameF κ h)
    (O : OldFields n h h') (hids : ∀ id o, h'.get id = some o → id < n) : SameF κ h' := by
  intro id o' hg j f hf hc
  obtain ⟨o, hgo, e⟩ := O id o' (hids id o' hg) hg
  exact S id o hgo j f (by rw [e]; exact hf) hc

/-- the abstract machine never modifies the fields of an object -/
theorem SameF.steps {P : Program} {k : Nat} {cfg cfg' : Config} {κ : Nat → Nat → Word}
    (S : SameF κ cfg.heap) (hst : stepsTo P k cfg cfg')
    (hids : ∀ id o, cfg'.heap.get id = some o → id < cfg.next) : SameF κ cfg'.heap :=
  S.of_oldFields (oldFields_steps k cfg cfg' hst).1 hids

/-- a new object made of the positions `N, N+1, …`: its closure fields are what the machine holds there -/
theorem Same.storeF {Γ : Ctx} {N : Nat} {cfg : Config} {κ : Nat → Nat → Word} {tv : Nat → Option Word}
    (S : Same tv Γ cfg κ) {fields : List Abs.Field}
    (hf : readFields cfg.temps (Mock.kindsOf (Γ.drop N)) N = some fields) :
    SameF (storeK tv κ cfg.next N) ((cfg.next, ⟨0, fields⟩) :: cfg.heap) := by
  intro id o hg j f hfj hc
  unfold storeK
  by_cases hid : id = cfg.next
  · subst hid
    rw [heap_get_cons_same] at hg
    obtain rfl := Option.some.inj hg
    rw [if_pos rfl]
    obtain ⟨hl, hspec⟩ := readFields_spec cfg.temps _ N fields hf
    obtain ⟨hjl, rfl⟩ := List.getElem?_eq_some_iff.1 hfj
    have hjk : j < (Mock.kindsOf (Γ.drop N)).length := by rw [← hl]; exact hjl
    obtain ⟨hchi, hval, _⟩ := hspec j hjk hjl
    have hjΓ : N + j < Γ.length := by
      have : j < Γ.length - N := by simpa [Mock.kindsOf] using hjk
      omega
    have hcΓ : Γ[N + j].chi = .cns := by
      rw [← hc, hchi]; simp [Mock.kindsOf]
    rw [S.vars (N + j) hjΓ _ hcΓ hval]
    rfl
  · rw [heap_get_cons_ne hid] at hg
    rw [if_neg hid]
    exact S.flds id o hg j f hfj hc

/-- the first `N` positions are untouched -/
theorem Same.take {Γ : Ctx} {N : Nat} (hN : N ≤ Γ.length) {cfg cfg' : Config}
    {κ κ' : Nat → Nat → Word} {tv tv' : Nat → Option Word} (S : Same tv Γ cfg κ) (KP : KeepPos tv tv' N cfg cfg')
    (hfl : SameF κ' cfg'.heap) : Same tv' (Γ.take N) cfg' κ' := by
  refine ⟨fun i hi a hc ha => ?_, hfl⟩
  have hiN : i < N := by simp at hi; omega
  rw [KP.mach i hiN]
  exact S.vars i (by omega) a (by simpa using hc) (by rw [← KP.temps _ (by omega)]; exact ha)

theorem Same.snoc {Γ : Ctx} {cfg : Config} {κ : Nat → Nat → Word} {tv : Nat → Option Word}
    (S : Same tv Γ cfg κ) {b : Binding} (hb : b.chi ≠ .cns) : Same tv (Γ ++ [b]) cfg κ := by
  refine ⟨fun i hi a hc ha => ?_, S.flds⟩
  by_cases hiΓ : i < Γ.length
  · rw [List.getElem_append_left hiΓ] at hc
    exact S.vars i hiΓ a hc ha
  · have : i = Γ.length := by simp at hi; omega
    subst this
    rw [List.getElem_append_right (Nat.le_refl _)] at hc
    simp at hc
    exact absurd hc hb

/-- `lit`, `op`, `print`, `ifc`, `call`: the heap and the positions are untouched; the kinds of the context
are the same -/
theorem Same.keep {Γ Γ' : Ctx} {cfg cfg' : Config} {κ : Nat → Nat → Word} {tv tv' : Nat → Option Word}
    (S : Same tv Γ cfg κ) (hchi : Γ.map (·.chi) = Γ'.map (·.chi))
    (KP : KeepPos tv tv' Γ.length cfg cfg') (hh : cfg'.heap = cfg.heap) : Same tv' Γ' cfg' κ := by
  have hlen : Γ.length = Γ'.length := by simpa using congrArg List.length hchi
  refine ⟨fun i hi a hc ha => ?_, by rw [hh]; exact S.flds⟩
  have hi' : i < Γ.length := by omega
  have e : Γ'[i].chi = Γ[i].chi := by
    have := congrArg (fun l => l[i]?) hchi
    simp only [List.getElem?_map, List.getElem?_eq_getElem hi', List.getElem?_eq_getElem hi,
      Option.map_some, Option.some.injEq] at this
    exact this.symm
  rw [KP.mach i hi']
  exact S.vars i hi' a (by rw [← e]; exact hc) (by rw [← KP.temps _ (by omega)]; exact ha)

/-- `subst`: a new position holds what the position of its source variable held -/
theorem Same.subst {P : Program} {Γ : Ctx} {ρ vs : List Value} {pairs : List (Binding × Ident)}
    {cfg cfg' : Config} {κ : Nat → Nat → Word} {tv tv' : Nat → Option Word} {k : Nat}
    (S : Same tv Γ cfg κ) (hst : stepsTo P k cfg cfg')
    (hids : ∀ id o, cfg'.heap.get id = some o → id < cfg.next)
    (SP : SubstProv tv tv' Γ ρ pairs vs cfg cfg') :
    Same tv' (pairs.map (·.1)) cfg' κ := by
  refine ⟨fun j hj a hc ha => ?_, S.flds.steps hst hids⟩
  have hj' : j < pairs.length := by simpa using hj
  obtain ⟨i, hi, _, hchi, ht1, _, hm, _⟩ := SP j hj'
  rw [hm]
  exact S.vars i hi a (by rw [hchi]; simpa using hc) (by rw [← ht1]; exact ha)

/-- `let`: the stored positions become the fields of a new object -/
theorem Same.let {Γ : Ctx} {N : Nat} (hN : N ≤ Γ.length) {cfg cfg' : Config}
    {κ κ' : Nat → Nat → Word} {tv tv' : Nat → Option Word} (S : Same tv Γ cfg κ)
    (LP : LetProv tv tv' Γ N cfg cfg' κ κ') {b : Binding} (hb : b.chi ≠ .cns) :
    Same tv' (Γ.take N ++ [b]) cfg' κ' := by
  obtain ⟨KP, fields, hf, hobj⟩ := LP
  refine (S.take hN KP ?_).snoc hb
  rcases hobj with ⟨_, h2, h3, _⟩ | ⟨_, h2, h3, _⟩
  · rw [h2, h3]; exact S.flds
  · rw [h2, h3]; exact S.storeF hf

/-- `switch`: the fields of an object become positions -/
theorem Same.load {Γ' Γ'' Δ : Ctx} {b : Binding} {cfg cfg' : Config}
    {κ : Nat → Nat → Word} {tv tv' : Nat → Option Word}
    (S : Same tv (Γ' ++ [b]) cfg κ) (hchi : Γ'.map (·.chi) = Γ''.map (·.chi))
    (LP : LoadProv tv tv' Γ'.length Δ cfg cfg' κ) (hfl : SameF κ cfg'.heap) :
    Same tv' (Γ'' ++ Δ) cfg' κ := by
  obtain ⟨KP, hobj⟩ := LP
  have hlen : Γ'.length = Γ''.length := by simpa using congrArg List.length hchi
  refine ⟨fun i hi a hc ha => ?_, hfl⟩
  by_cases hiΓ : i < Γ'.length
  · have e : Γ''[i].chi = Γ'[i].chi := by
      have := congrArg (fun l => l[i]?) hchi
      simp only [List.getElem?_map, List.getElem?_eq_getElem hiΓ, List.getElem?_eq_getElem (hlen ▸ hiΓ),
        Option.map_some, Option.some.injEq] at this
      exact this.symm
    rw [List.getElem_append_left (hlen ▸ hiΓ), e] at hc
    rw [KP.mach i hiΓ]
    refine S.vars i (by simp; omega) a ?_ (by rw [← KP.temps _ (by omega)]; exact ha)
    rw [List.getElem_append_left hiΓ]; exact hc
  · obtain ⟨j, rfl⟩ : ∃ j, i = Γ'.length + j := ⟨i - Γ'.length, by omega⟩
    have hjΔ : j < Δ.length := by simp at hi; omega
    have hg : (Γ'' ++ Δ)[Γ'.length + j] = Δ[j] := by
      rw [List.getElem_append_right (by omega)]; simp [hlen]
    rw [hg] at hc
    rcases hobj with ⟨hΔ, _⟩ | ⟨r, o, hr, hr0, hgo, hk, hj'⟩
    · rw [hΔ] at hjΔ; simp at hjΔ
    · have hjo : j < o.fields.length := by
        have := congrArg List.length hk
        simp [Mock.kindsOf] at this; omega
      obtain ⟨ht1, _, hm⟩ := hj' j hjo
      have hcf : o.fields[j].chi = .cns := by
        have := congrArg (fun l => l[j]?) hk
        simp only [Mock.kindsOf, List.getElem?_map, List.getElem?_eq_getElem hjo,
          List.getElem?_eq_getElem hjΔ, Option.map_some, Option.some.injEq] at this
        rw [this]; exact hc
      rw [ht1] at ha
      obtain rfl := Option.some.inj ha
      rw [hm hcf, S.flds r.toNat o hgo j _ (List.getElem?_eq_getElem hjo) hcf]

/-- `Same` AFTER A STEP of a statement other than `create` / `invoke` -/
theorem Same.step {P : Program} {Γ Γ' : Ctx} {ρ ρ' : List Value} {cfg cfg' : Config}
    {κ κ' : Nat → Nat → Word} {tv tv' : Nat → Option Word} (S : Same tv Γ cfg κ)
    (SP : StepProv P tv tv' cfg cfg' κ Γ ρ Γ' ρ' κ')
    (hids : ∀ id o, cfg'.heap.get id = some o → id < cfg'.next) : Same tv' Γ' cfg' κ' := by
  cases SP with
  | keep hchi KP hh => exact S.keep hchi KP hh
  | int b n hb KP hh => exact (S.keep rfl KP hh).snoc (by rw [hb]; intro e; cases e)
  | subst h1 hnx SPv => exact S.subst h1 (hnx ▸ hids) SPv
  | letS x ty pos hN LP => exact S.let hN LP (by intro e; cases e)
  | switch hb h1 hnx _ LP => exact S.load rfl LP (S.flds.steps h1 (hnx ▸ hids))

end Scc.Backend.Prov
