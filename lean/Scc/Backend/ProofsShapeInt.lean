/-
  Scc.Backend.ProofsShapeInt — the syntactic notion of integer program used by the generic shape lifting
  (`IntProgC`, Scc/Backend/ProofsShape.lean: substitutions only in contexts of integers, with the context
  that the code generator keeps) follows from the notion used for Theorem A (`IntProg` of
  Props/C06Generic.lean: integer parameters, no `let`/`switch`/`create`/`invoke`) for linearly typed
  programs: typing forces the new bindings of a substitution to have the kinds of the old ones.
-/
import Scc.Backend.ProofsShape
import Scc.Props.C06Generic

namespace Scc.Backend.Shape

open Scc.AxCut
open Scc.Props.C06Generic (IntCtx IntStmt IntProg)

theorem allExt_snoc {Γ : Ctx} (h : AllExt Γ) (x : Ident) : AllExt (Γ ++ [⟨x, .ext, .i64⟩]) := by
  intro b hb
  rcases List.mem_append.1 hb with hb | hb
  · exact h b hb
  · simp only [List.mem_singleton] at hb; subst hb; rfl

theorem intStmtC_of_typed {T : List TypeDecl} {S : Sigs} : ∀ (s : Stmt) (Γ : Ctx),
    IntStmt s → AllExt Γ → LinTyped T S Γ s → IntStmtC Γ s
  | .lit x n next fv, Γ, hi, hΓ, ht => by
    cases ht with
    | lit _ _ hnext =>
      exact intStmtC_of_typed next _ hi (allExt_snoc hΓ x) hnext
  | .op x a o b next fv, Γ, hi, hΓ, ht => by
    cases ht with
    | op _ _ _ _ hnext =>
      exact intStmtC_of_typed next _ hi (allExt_snoc hΓ x) hnext
  | .print nl a next fv, Γ, hi, hΓ, ht => by
    cases ht with
    | print _ _ hnext =>
      exact intStmtC_of_typed next _ hi hΓ hnext
  | .ifc sort a b t e, Γ, hi, hΓ, ht => by
    cases ht with
    | ifc _ _ _ h1 h2 =>
      exact ⟨intStmtC_of_typed t _ hi.1 hΓ h1, intStmtC_of_typed e _ hi.2 hΓ h2⟩
  | .exit x, _, _, _, _ => trivial
  | .call l args, _, _, _, _ => trivial
  | .subst pairs next, Γ, hi, hΓ, ht => by
    cases ht with
    | subst _ hvars _ hnext =>
      refine ⟨hΓ, intStmtC_of_typed next _ hi ?_ hnext⟩
      intro b hb
      obtain ⟨pr, hpr, rfl⟩ := List.mem_map.1 hb
      obtain ⟨b', hb', _, hchi, _⟩ := hvars pr hpr
      rw [← hchi]
      exact hΓ b' hb'
  | .letS _ _ _ _ _ _, _, hi, _, _ => hi.elim
  | .switch _ _ _ _, _, hi, _, _ => hi.elim
  | .create _ _ _ _ _ _ _, _, hi, _, _ => hi.elim
  | .invoke _ _ _ _, _, hi, _, _ => hi.elim

/-- pipeline programs that are integer programs in the sense of Theorem A are integer programs in the
    sense of the shape lifting -/
theorem intProgC_of_intProg {p : AxCut.Prog} (hi : IntProg p) (ht : LinTypedProg p) : IntProgC p := by
  intro d hd
  exact intStmtC_of_typed d.body d.ctx (hi d hd).2 (hi d hd).1 (ht d hd)

end Scc.Backend.Shape
