/-
  Scc.Backend.ProofsSubstObj — Theorem A for `subst` on ARBITRARY contexts (objects and closures may be
  dropped, duplicated, moved):
    * `urc_step`: the code of `update_reference_count` for one binding (erase | nothing | share n)
      against the counting invariant: the root of the binding is replaced by one root per target;
    * `run_cwc`: the whole `code_weakening_contraction`, in the order of the transposed map;
    * `sim2_subst`: then the parallel moves of BOTH temporaries of every position
      (ProofsConn2.lean, PMoves correctness) give a configuration representing the new environment;
    * `sim_subst`: the same for contexts of integers in the relation `Sim.Rel`.
-/
import Scc.Backend.ProofsErase
import Scc.Backend.ProofsSubstRoots
import Scc.Backend.ProofsSim2
import Scc.ListLemmas

namespace Scc.Backend.Subst

open Scc.AxCut Scc.AxCut.Pos Scc.Backend.Abs Scc.Backend.Sim Scc.Backend.Sim2 Scc.Backend.PM

/-- the root list of a pointer -/
def rp (p : Word) : List Nat := if p != 0 then [p.toNat] else []

theorem rootOf_nonext {σ : Temps} {b : Binding} {i : Nat} {p : Word} (hc : b.chi ≠ .ext)
    (hg : σ.get (2 * i) = some p) : rootOf σ b i = rp p := by
  have h1 : (b.chi != .ext) = true := (Sim2.chi_bne_ext _).mpr hc
  simp [rootOf, h1, hg, rp]

theorem count_replicate_flatten (k : Nat) (l : List Nat) (x : Nat) :
    ((List.replicate k l).flatten).count x = k * l.count x :=
  count_flatten_replicate x l k

theorem urc_run_ok (var : Ident) (Γ : Ctx) (n : Nat) (c : Nat) (code : List MockOp) (c' : Nat) :
    (updateReferenceCount mockSym var Γ n).run c = .ok (code, c') →
    ∃ pos, Mock.ctxPosition Γ var.id = some pos ∧ c = c' ∧
      code = match n with
        | 0 => [MockOp.comment ("#erase " ++ var.print), MockOp.erase (2 * pos)]
        | 1 => []
        | m + 2 => [MockOp.comment ("#share " ++ var.print), MockOp.share (2 * pos) (m + 1)] := by
  intro h
  unfold updateReferenceCount at h
  simp only [run_bind_ok, mockSym_variableTemporary, vt_run_ok] at h
  obtain ⟨t, c1, ⟨pos, hpos, rfl, rfl⟩, h⟩ := h
  refine ⟨pos, hpos, ?_⟩
  match n with
  | 0 =>
    simp only [mockSym_eraseBlock, run_bind_ok, run_pure_ok, mockSym_comment] at h
    obtain ⟨cd, c2, ⟨rfl, rfl⟩, rfl, rfl⟩ := h
    exact ⟨rfl, by simp [TempNum.toNat]⟩
  | 1 =>
    simp only [run_pure_ok] at h
    exact ⟨h.2, h.1.symm⟩
  | m + 2 =>
    simp only [mockSym_shareBlockN, run_bind_ok, run_pure_ok, mockSym_comment] at h
    obtain ⟨cd, c2, ⟨rfl, rfl⟩, rfl, rfl⟩ := h
    exact ⟨rfl, by simp [TempNum.toNat]⟩

/-- `update_reference_count` for the binding `b` with `tl` targets, whose pointer temporary holds `p`: among
    the roots (`acc` before it, `rs` after it) the one root of `p` is replaced by `tl` of them — erase for
    `tl = 0`, nothing for 1, share for more.  Temporaries other than `TEMP` keep their contents (the pointer
    temporary of `b` only if it has a target), and a representation survives; when `b` is erased, only if
    it starts at a root that is still held. -/
theorem urc_step {P : Program} {hooks : Bool} {types : List TypeDecl} {Γ : Ctx} {b : Binding} (tl : Nat)
    (cfg : Config) (code : List MockOp) (c c' : Nat)
    (hrun : (updateReferenceCount mockSym b.var Γ tl).run c = .ok (code, c'))
    (hat : CodeAt P cfg.pc code)
    (p : Word) (hp : cfg.temps.get (2 * posIn Γ b.var.id) = some p)
    (acc rs : List Nat) (H : HeapOK cfg.heap (acc ++ rp p ++ rs) cfg.next) :
    ∃ k cfg1, stepsTo P k cfg cfg1 ∧ cfg1.pc = cfg.pc + instrCount code ∧ cfg1.out = cfg.out ∧
      cfg1.next = cfg.next ∧ c = c' ∧
      HeapOK cfg1.heap (acc ++ (List.replicate tl (rp p)).flatten ++ rs) cfg1.next ∧
      (∀ t, t ≠ Mock.T_TEMP → (t ≠ 2 * posIn Γ b.var.id ∨ 0 < tl) → cfg1.temps.get t = cfg.temps.get t) ∧
      (∀ (v : Value) (p' : Option Word) (w : Word), RepV P hooks types cfg.heap v p' w →
        (tl = 0 → ∀ r, p' = some r → r ≠ 0 → r.toNat ∈ acc ++ rs) →
        RepV P hooks types cfg1.heap v p' w) := by
  obtain ⟨pos, hpos, hcc, hcode⟩ := urc_run_ok _ _ _ _ _ _ hrun
  have hposIn : posIn Γ b.var.id = pos := by unfold posIn; rw [hpos]; rfl
  rw [hposIn] at hp ⊢
  cases tl with
  | zero =>
    simp only at hcode
    subst hcode
    simp only [CodeAt] at hat
    obtain ⟨hc, _⟩ := hat
    have H' : HeapOK cfg.heap ((acc ++ rs) ++ (if p != 0 then [p.toNat] else [])) cfg.next := by
      apply heapOK_count_congr H
      intro x
      simp only [rp, List.count_append]
      omega
    obtain ⟨h', he, Hh, hrep⟩ := erase_ok (P := P) (hooks := hooks) (types := types) p H'
    refine ⟨1, _, stepsTo_one P _ _ (step_erase P cfg _ p h' hc hp he), by simp [instrCount], rfl, rfl,
      hcc, ?_, ?_, ?_⟩
    · simpa using Hh
    · intro t ht hor
      have htp : t ≠ 2 * pos := by
        rcases hor with h | h
        · exact h
        · omega
      show ((clobberTemp cfg.temps).unset (2 * pos)).get t = _
      rw [get_unset_other _ htp, get_clobberTemp _ ht]
    · intro v p' w hv hcond
      exact hrep v p' w hv (hcond rfl)
  | succ n =>
  cases n with
  | zero =>
    simp only at hcode
    subst hcode
    refine ⟨0, cfg, rfl, by simp [instrCount], rfl, rfl, hcc, ?_, fun _ _ _ => rfl, fun _ _ _ hv _ => hv⟩
    simpa using H
  | succ m =>
    simp only at hcode
    subst hcode
    simp only [CodeAt] at hat
    obtain ⟨hc, _⟩ := hat
    have hmem : p ≠ 0 → p.toNat ∈ acc ++ rp p ++ rs := by
      intro h0
      have : (p != 0) = true := by rw [bne_iff_ne]; exact h0
      simp only [rp, this, if_true, List.mem_append, List.mem_singleton]
      exact Or.inl (Or.inr trivial)
    obtain ⟨h', he, Hh, hk⟩ := share_heapOK p (m + 1) hmem H
    refine ⟨1, _, stepsTo_one P _ _ (step_share P cfg _ _ p h' hc hp he), by simp [instrCount], rfl, rfl,
      hcc, ?_, ?_, ?_⟩
    · apply heapOK_count_congr Hh
      intro x
      have e : (if p != 0 then [p.toNat] else []) = rp p := rfl
      rw [e]
      simp only [List.count_append, count_replicate_flatten]
      rw [show m + 2 = (m + 1) + 1 by omega, Nat.succ_mul]
      omega
    · intro t ht _
      show (clobberTemp cfg.temps).get t = _
      exact get_clobberTemp _ ht
    · intro v p' w hv _
      exact RepV.kept hk hv

theorem getElem_inj_ids {Γ : Ctx} (hΓ : (Γ.map (·.var.id)).Nodup) {i j : Nat} (hi : i < Γ.length)
    (hj : j < Γ.length) (h : Γ[i] = Γ[j]) : i = j := by
  have : (Γ.map (·.var.id))[i]'(by simpa using hi) = (Γ.map (·.var.id))[j]'(by simpa using hj) := by
    simp [h]
  exact (List.getElem_inj hΓ).mp this

theorem mem_replicate_flatten {k : Nat} {l : List Nat} {y : Nat} (hk : 0 < k) (hy : y ∈ l) :
    y ∈ (List.replicate k l).flatten := by
  cases k with
  | zero => omega
  | succ k => simp [List.replicate_succ, hy]

/-- the walk of `code_weakening_contraction` over the entries `rest` of the transposed map still to come,
    `urc_step` for each.  `σ0`: the temporaries before the statement; `acc`: the roots of the entries
    done, each once per target.  Carried along: the roots held are `acc` and one per entry of `rest`; a
    pointer variable with targets is still in `rest` or has its roots in `acc`; the temporaries of
    variables with targets or still in `rest` are those of `σ0`; the values of variables with targets
    are represented (those without are erased on the way). -/
theorem run_cwc {P : Program} {hooks : Bool} {types : List TypeDecl} {Γ : Ctx} {ρ : List Value}
    {pairs : List (Binding × Ident)} {σ0 : Temps}
    (hΓ : (Γ.map (·.var.id)).Nodup) (hcap : 2 * Γ.length + 2 < Mock.T_TEMP)
    (hptr : ∀ i (hi : i < Γ.length), Γ[i].chi ≠ .ext → (σ0.get (2 * i)).isSome) :
    ∀ (rest : List (Binding × List Nat)) (acc : List Nat) (cfg : Config) (code : List MockOp) (c c' : Nat),
    (codeWeakeningContraction mockSym rest Γ).run c = .ok (code, c') → CodeAt P cfg.pc code →
    (∀ e ∈ rest, e.1 ∈ Γ ∧ e.2 = targetsOf pairs e.1) → (rest.map (·.1.var.id)).Nodup →
    HeapOK cfg.heap (acc ++ rootsT σ0 Γ rest) cfg.next →
    (∀ i (hi : i < Γ.length), targetsOf pairs Γ[i] ≠ [] → Γ[i].chi ≠ .ext →
      (∃ e ∈ rest, e.1 = Γ[i]) ∨ (∀ y ∈ rootOf σ0 Γ[i] i, y ∈ acc)) →
    (∀ i (hi : i < Γ.length), (targetsOf pairs Γ[i] ≠ [] ∨ ∃ e ∈ rest, e.1 = Γ[i]) →
      cfg.temps.get (2 * i) = σ0.get (2 * i) ∧ cfg.temps.get (2 * i + 1) = σ0.get (2 * i + 1)) →
    (∀ i (hi : i < Γ.length) (hi2 : i < ρ.length), targetsOf pairs Γ[i] ≠ [] →
      RepV P hooks types cfg.heap ρ[i] (if Γ[i].chi == .ext then none else σ0.get (2 * i))
        ((σ0.get (2 * i + 1)).getD 0)) →
    ∃ k cfg1, stepsTo P k cfg cfg1 ∧ cfg1.pc = cfg.pc + instrCount code ∧ cfg1.out = cfg.out ∧
      cfg1.next = cfg.next ∧ c = c' ∧
      HeapOK cfg1.heap (acc ++ rootsDone σ0 Γ rest) cfg1.next ∧
      (∀ i (hi : i < Γ.length), targetsOf pairs Γ[i] ≠ [] →
        cfg1.temps.get (2 * i) = σ0.get (2 * i) ∧ cfg1.temps.get (2 * i + 1) = σ0.get (2 * i + 1)) ∧
      (∀ i (hi : i < Γ.length) (hi2 : i < ρ.length), targetsOf pairs Γ[i] ≠ [] →
        RepV P hooks types cfg1.heap ρ[i] (if Γ[i].chi == .ext then none else σ0.get (2 * i))
          ((σ0.get (2 * i + 1)).getD 0))
  | [], acc, cfg, code, c, c', hrun, _, _, _, H, _, T, Vv => by
    simp only [codeWeakeningContraction, run_pure_ok] at hrun
    obtain ⟨rfl, rfl⟩ := hrun
    refine ⟨0, cfg, rfl, by simp [instrCount], rfl, rfl, rfl, ?_, ?_, Vv⟩
    · simpa [rootsT, rootsDone] using H
    · intro i hi hS; exact T i hi (Or.inl hS)
  | (b, targets) :: rest', acc, cfg, code, c, c', hrun, hat, hent, hnd, H, J, T, Vv => by
    unfold codeWeakeningContraction at hrun
    simp only [run_bind_ok, run_pure_ok] at hrun
    obtain ⟨code1, c1, h1, code2, c2, h2, rfl, rfl⟩ := hrun
    rw [CodeAt_append] at hat
    obtain ⟨hat1, hat2⟩ := hat
    obtain ⟨hbΓ, htg⟩ := hent (b, targets) (by simp)
    simp only at hbΓ htg
    obtain ⟨i, hi, hgi, hposi⟩ := posIn_of_mem hΓ hbΓ
    have hent' : ∀ e ∈ rest', e.1 ∈ Γ ∧ e.2 = targetsOf pairs e.1 := fun e he => hent e (by simp [he])
    simp only [List.map_cons, List.nodup_cons] at hnd
    have hother : ∀ e ∈ rest', e.1 ≠ b := by
      intro e he hc
      exact hnd.1 (List.mem_map.mpr ⟨e, he, by rw [hc]⟩)
    by_cases hext : b.chi = .ext
    · -- `ext`: no code, no root
      have hbne : (b.chi != .ext) = false := (Sim2.chi_bne_ext_false _).mpr hext
      simp only [hbne, Bool.false_eq_true, if_false, run_pure_ok] at h1
      obtain ⟨rfl, rfl⟩ := h1
      have hroot : rootAt σ0 Γ b = [] := rootOf_ext σ0 hext _
      have H' : HeapOK cfg.heap (acc ++ rootsT σ0 Γ rest') cfg.next := by
        simpa [rootsT, hroot] using H
      have J' : ∀ i' (hi' : i' < Γ.length), targetsOf pairs Γ[i'] ≠ [] → Γ[i'].chi ≠ .ext →
          (∃ e ∈ rest', e.1 = Γ[i']) ∨ (∀ y ∈ rootOf σ0 Γ[i'] i', y ∈ acc) := by
        intro i' hi' hS hne
        rcases J i' hi' hS hne with ⟨e, he, hee⟩ | h
        · rcases List.mem_cons.mp he with rfl | he'
          · simp only at hee
            rw [← hee] at hne
            exact absurd hext hne
          · exact Or.inl ⟨e, he', hee⟩
        · exact Or.inr h
      have T' : ∀ i' (hi' : i' < Γ.length), (targetsOf pairs Γ[i'] ≠ [] ∨ ∃ e ∈ rest', e.1 = Γ[i']) →
          cfg.temps.get (2 * i') = σ0.get (2 * i') ∧ cfg.temps.get (2 * i' + 1) = σ0.get (2 * i' + 1) := by
        intro i' hi' h
        apply T i' hi'
        rcases h with h | ⟨e, he, hee⟩
        · exact Or.inl h
        · exact Or.inr ⟨e, by simp [he], hee⟩
      obtain ⟨k, cfg1, hs, hpc, hout, hnext, hcc, H1, T1, V1⟩ :=
        run_cwc hΓ hcap hptr rest' acc cfg code2 _ _ h2 (by simpa [instrCount] using hat2) hent' hnd.2 H' J' T' Vv
      refine ⟨k, cfg1, hs, by simpa [instrCount] using hpc, hout, hnext, hcc, ?_, T1, V1⟩
      simpa [rootsDone, hroot, flatten_replicate_nil] using H1
    · -- an object or closure variable
      have hbne : (b.chi != .ext) = true := (Sim2.chi_bne_ext _).mpr hext
      simp only [hbne, if_true] at h1
      have hci : Γ[i].chi ≠ .ext := by rw [hgi]; exact hext
      obtain ⟨hT0, _⟩ := T i hi (Or.inr ⟨(b, targets), by simp, hgi.symm⟩)
      obtain ⟨p, hp0⟩ := Option.isSome_iff_exists.mp (hptr i hi hci)
      have hp : cfg.temps.get (2 * posIn Γ b.var.id) = some p := by rw [hposi, hT0, hp0]
      have hroot : rootAt σ0 Γ b = rp p := by
        unfold rootAt; rw [hposi]; exact rootOf_nonext hext hp0
      have hrooti : rootOf σ0 Γ[i] i = rp p := rootOf_nonext hci hp0
      have H0 : HeapOK cfg.heap (acc ++ rp p ++ rootsT σ0 Γ rest') cfg.next := by
        have : rootsT σ0 Γ ((b, targets) :: rest') = rp p ++ rootsT σ0 Γ rest' := by
          simp [rootsT, hroot]
        rw [this, ← List.append_assoc] at H
        exact H
      obtain ⟨k1, cfg1, hs1, hpc1, hout1, hnext1, hcc1, H1, ht1, hr1⟩ :=
        urc_step (P := P) (hooks := hooks) (types := types) targets.length cfg code1 c c1 h1 hat1 p hp
          acc (rootsT σ0 Γ rest') H0
      subst hcc1
      have hS_tl : targetsOf pairs Γ[i] ≠ [] → 0 < targets.length := by
        intro h
        rw [hgi, ← htg] at h
        exact List.length_pos_iff.mpr h
      have J' : ∀ i' (hi' : i' < Γ.length), targetsOf pairs Γ[i'] ≠ [] → Γ[i'].chi ≠ .ext →
          (∃ e ∈ rest', e.1 = Γ[i']) ∨
            (∀ y ∈ rootOf σ0 Γ[i'] i', y ∈ acc ++ (List.replicate targets.length (rp p)).flatten) := by
        intro i' hi' hS hne
        rcases J i' hi' hS hne with ⟨e, he, hee⟩ | h
        · rcases List.mem_cons.mp he with rfl | he'
          · simp only at hee
            have hii : i' = i := getElem_inj_ids hΓ hi' hi (by rw [← hee, hgi])
            subst hii
            right
            intro y hy
            rw [hrooti] at hy
            exact List.mem_append.mpr (Or.inr (mem_replicate_flatten (hS_tl hS) hy))
          · exact Or.inl ⟨e, he', hee⟩
        · exact Or.inr (fun y hy => List.mem_append.mpr (Or.inl (h y hy)))
      have T' : ∀ i' (hi' : i' < Γ.length), (targetsOf pairs Γ[i'] ≠ [] ∨ ∃ e ∈ rest', e.1 = Γ[i']) →
          cfg1.temps.get (2 * i') = σ0.get (2 * i') ∧ cfg1.temps.get (2 * i' + 1) = σ0.get (2 * i' + 1) := by
        intro i' hi' h
        have hold' := T i' hi' (by
          rcases h with h | ⟨e, he, hee⟩
          · exact Or.inl h
          · exact Or.inr ⟨e, by simp [he], hee⟩)
        have hcond : 2 * i' ≠ 2 * posIn Γ b.var.id ∨ 0 < targets.length := by
          rw [hposi]
          by_cases hii : i' = i
          · subst hii
            rcases h with h | ⟨e, he, hee⟩
            · exact Or.inr (hS_tl h)
            · exact absurd (hee.trans hgi) (hother e he)
          · left; omega
        refine ⟨?_, ?_⟩
        · rw [ht1 _ (by omega) hcond]; exact hold'.1
        · rw [ht1 _ (by omega) (Or.inl (by omega))]; exact hold'.2
      have V' : ∀ i' (hi' : i' < Γ.length) (hi2 : i' < ρ.length), targetsOf pairs Γ[i'] ≠ [] →
          RepV P hooks types cfg1.heap ρ[i'] (if Γ[i'].chi == .ext then none else σ0.get (2 * i'))
            ((σ0.get (2 * i' + 1)).getD 0) := by
        intro i' hi' hi2 hS
        apply hr1 _ _ _ (Vv i' hi' hi2 hS)
        intro htl0 r hr hr0
        by_cases hce : (Γ[i'].chi == .ext) = true
        · simp [hce] at hr
        · simp only [hce, Bool.false_eq_true, if_false] at hr
          have hne : Γ[i'].chi ≠ .ext := fun e => hce ((Sim2.chi_beq_ext _).mpr e)
          have hroot' : rootOf σ0 Γ[i'] i' = [r.toNat] := by
            rw [rootOf_nonext hne hr]
            have : (r != 0) = true := by rw [bne_iff_ne]; exact hr0
            simp only [rp, this, if_true]
          rcases J i' hi' hS hne with ⟨e, he, hee⟩ | h
          · rcases List.mem_cons.mp he with rfl | he'
            · simp only at hee
              have hii : i' = i := getElem_inj_ids hΓ hi' hi (by rw [← hee, hgi])
              subst hii
              have := hS_tl hS
              omega
            · apply List.mem_append.mpr
              right
              unfold rootsT
              rw [List.mem_flatMap]
              refine ⟨e, he', ?_⟩
              unfold rootAt
              rw [hee, posIn_getElem hΓ hi', hroot']
              simp
          · exact List.mem_append.mpr (Or.inl (h _ (by rw [hroot']; simp)))
      have H1' : HeapOK cfg1.heap ((acc ++ (List.replicate targets.length (rp p)).flatten) ++
          rootsT σ0 Γ rest') cfg1.next := H1
      obtain ⟨k2, cfg2, hs2, hpc2, hout2, hnext2, hcc2, H2, T2, V2⟩ :=
        run_cwc hΓ hcap hptr rest' _ cfg1 code2 _ _ h2 (by rw [hpc1]; exact hat2) hent' hnd.2 H1' J' T' V'
      refine ⟨k1 + k2, cfg2, stepsTo_trans P _ _ _ _ _ hs1 hs2, ?_, by rw [hout2, hout1],
        by rw [hnext2, hnext1], hcc2, ?_, T2, V2⟩
      · rw [hpc2, hpc1, instrCount_append]; omega
      · have : rootsDone σ0 Γ ((b, targets) :: rest') =
            (List.replicate targets.length (rp p)).flatten ++ rootsDone σ0 Γ rest' := by
          simp [rootsDone, hroot]
        rw [this, ← List.append_assoc]
        exact H2

theorem sim2_subst {P : Program} {hooks : Bool} {prog : Prog} {Γ : Ctx} {ρ : List Value}
    {pairs : List (Binding × Ident)} {next : Stmt} {cfg : Config} {vs : List Value}
    (R : RelX P hooks prog ⟨Γ, ρ, .subst pairs next⟩ cfg)
    (hΓ : (Γ.map (·.var.id)).Nodup)
    (hnew : (pairs.map (·.1.var.id)).Nodup)
    (hold : ∀ p ∈ pairs, ∃ b ∈ Γ, b.var.id = p.2.id ∧ b.chi = p.1.chi)
    (hcap : 2 * pairs.length + 2 < Mock.T_TEMP)
    (hvs : Pos.step.build Γ ρ pairs = .ok vs) :
    ∃ k cfg', stepsTo P k cfg cfg' ∧ cfg'.out = cfg.out ∧ cfg'.next = cfg.next ∧
      RelX P hooks prog ⟨pairs.map (·.1), vs, next⟩ cfg' := by
  obtain ⟨c, c', ops, hrun, hat⟩ := R.code
  simp only [codeStatementR, run_bind_ok, run_pure_ok] at hrun
  obtain ⟨c1, k1, h1, c2, k2, h2, c3, k3, h3, rfl, rfl⟩ := hrun
  have hcapΓ := R.cap
  have hlenρ := R.len
  simp only at hcapΓ hlenρ
  simp only [mockSym_comment, List.append_assoc, CodeAt_hook] at hat
  simp only [List.cons_append, List.nil_append, CodeAt] at hat
  rw [CodeAt_append] at hat
  obtain ⟨hat1, hat23⟩ := hat
  rw [CodeAt_append] at hat23
  obtain ⟨hat2, hat3⟩ := hat23
  have hperm := transpose_perm pairs Γ hΓ
  have hent : ∀ e ∈ transpose pairs Γ, e.1 ∈ Γ ∧ e.2 = targetsOf pairs e.1 := by
    intro e he
    obtain ⟨b, hb, rfl⟩ := (transpose_spec pairs Γ hΓ e).mp he
    exact ⟨hb, rfl⟩
  have hndtm : ((transpose pairs Γ).map (·.1.var.id)).Nodup := by
    have := (hperm.map (·.1.var.id))
    rw [this.nodup_iff, List.map_map]
    exact hΓ
  have hmemtm : ∀ i (hi : i < Γ.length), ∃ e ∈ transpose pairs Γ, e.1 = Γ[i] := by
    intro i hi
    exact ⟨(Γ[i], targetsOf pairs Γ[i]),
      (transpose_spec pairs Γ hΓ _).mpr ⟨Γ[i], List.getElem_mem hi, rfl⟩, rfl⟩
  have hptr : ∀ i (hi : i < Γ.length), Γ[i].chi ≠ .ext → (cfg.temps.get (2 * i)).isSome := by
    intro i hi hc
    exact (R.vals i hi (by rw [hlenρ]; exact hi)).2.2.2 ((Sim2.chi_bne_ext _).mpr hc)
  -- 1: erase / share
  obtain ⟨ka, cfg1, hs1, hpc1, hout1, hnext1, _, H1, T1, V1⟩ :=
    run_cwc (P := P) (hooks := hooks) (types := prog.types) (ρ := ρ) (pairs := pairs) (σ0 := cfg.temps)
      hΓ hcapΓ hptr (transpose pairs Γ) [] cfg c1 _ _ h1 hat1 hent hndtm
      (by
        apply heapOK_count_congr R.heap
        intro x
        simp only [List.nil_append]
        exact roots_count_transpose cfg.temps Γ pairs hΓ x)
      (fun i hi _ _ => Or.inl (hmemtm i hi))
      (fun i hi _ => ⟨rfl, rfl⟩)
      (fun i hi hi2 _ => (R.vals i hi hi2).1)
  -- 2: the moves
  unfold codeExchange connections at h2
  simp only [run_bind_ok] at h2
  obtain ⟨conns, k4, h4, h5⟩ := h2
  obtain ⟨rfl, _, _⟩ := connections_go_spec Γ (pairs.map (·.1)) _ _ _ _ _ h4
  have W := conns_wf2 Γ pairs hΓ hnew hold
  obtain ⟨aops, haops, hsem⟩ := PMoves.parallelMovesFuel_correct (V := Option Word) _ W.keys W.targets
    W.functional (fun _ => false) (PMoves.fuelFor _) (Nat.le_succ _)
  have hmine := parallelMoves_eq _ aops haops
  rw [hmine] at h5
  simp only [run_pure_ok] at h5
  obtain ⟨rfl, rfl⟩ := h5
  have hne : ∀ x ∈ codeTemps (aops.map aopToMock), x ≠ Mock.T_TEMP := by
    intro x hx
    rcases W.range x (parallelMoves_temps _ _ hmine x hx) with h | h <;> omega
  obtain ⟨cfg2, hs2, hpc2, hheap2, hnext2, hout2, hag, _⟩ :=
    run_moves P aops cfg1 (fun t => cfg1.temps.get t) cfg1.scratch (by rw [hpc1]; exact hat2) hne
      (fun _ _ => rfl) rfl
  have hsem' := (hsem (fun t => cfg1.temps.get t) cfg1.scratch).1
  obtain ⟨hlen, hbuild⟩ := build_spec Γ ρ pairs vs hvs
  have hsrc : ∀ j (hj : j < pairs.length) (hv : j < vs.length),
      ∃ i, ∃ hi : i < Γ.length, posIn Γ pairs[j].2.id = i ∧ ρ[i]? = some vs[j] ∧
        targetsOf pairs Γ[i] ≠ [] ∧ Γ[i].chi = pairs[j].1.chi := by
    intro j hj hv
    obtain ⟨i, hpos, hval⟩ := hbuild j hj hv
    have hi := posOf_lt hpos
    obtain ⟨_, hid⟩ := posOf_getElem hpos
    refine ⟨i, hi, posIn_eq hpos, hval, ?_, ?_⟩
    · intro hnil
      have : pairs[j].1.var.id ∈ targetsOf pairs Γ[i] :=
        mem_targetsOf.mpr ⟨pairs[j], List.getElem_mem hj, hid, rfl⟩
      rw [hnil] at this
      cases this
    · obtain ⟨b, hb, hbid, hbchi⟩ := hold pairs[j] (List.getElem_mem hj)
      obtain ⟨i', hi', hgi', hposi'⟩ := posIn_of_mem hΓ hb
      have : i' = i := by rw [← hposi', hbid]; exact posIn_eq hpos
      subst this
      rw [hgi']; exact hbchi
  have hget1 : ∀ j (hj : j < pairs.length) (hv : j < vs.length) (i : Nat) (hi : i < Γ.length),
      posIn Γ pairs[j].2.id = i → targetsOf pairs Γ[i] ≠ [] →
      cfg2.temps.get (2 * j + 1) = cfg.temps.get (2 * i + 1) := by
    intro j hj hv i hi hpi hS
    rw [hag _ (by omega)]
    have := hsem' _ _ (W.edgeSnd j hj)
    rw [hpi] at this
    rw [this]
    exact (T1 i hi hS).2
  have hget0 : ∀ j (hj : j < pairs.length) (i : Nat) (hi : i < Γ.length),
      posIn Γ pairs[j].2.id = i → targetsOf pairs Γ[i] ≠ [] → pairs[j].1.chi ≠ .ext →
      cfg2.temps.get (2 * j) = cfg.temps.get (2 * i) := by
    intro j hj i hi hpi hS hne'
    rw [hag _ (by omega)]
    have := hsem' _ _ (W.edgeFst j hj hne')
    rw [hpi] at this
    rw [this]
    exact (T1 i hi hS).1
  refine ⟨ka + instrCount (aops.map aopToMock), cfg2, stepsTo_trans P _ _ _ _ _ hs1 hs2,
    by rw [hout2, hout1], by rw [hnext2, hnext1], ?_⟩
  exact {
    len := by simp [hlen]
    cap := by simpa using hcap
    vals := by
      intro j h1' h2'
      have hj : j < pairs.length := by simpa using h1'
      obtain ⟨i, hi, hpi, hval, hS, hchi⟩ := hsrc j hj h2'
      have hi2 : i < ρ.length := by rw [hlenρ]; exact hi
      have hv : vs[j] = ρ[i] := by
        rw [List.getElem?_eq_getElem hi2] at hval
        exact (Option.some.inj hval).symm
      obtain ⟨_, hsome, hkind, hptr'⟩ := R.vals i hi hi2
      have hrep := V1 i hi hi2 hS
      have hcj : ((List.map (fun p : Binding × Ident => p.1) pairs)[j]'h1').chi = Γ[i].chi := by
        simp [hchi]
      rw [hcj, hget1 j hj h2' i hi hpi hS, hv, hheap2]
      refine ⟨?_, hsome, hkind, ?_⟩
      · by_cases hce : (Γ[i].chi == .ext) = true
        · simpa [hce] using hrep
        · have hne' : pairs[j].1.chi ≠ .ext := by
            rw [← hchi]; exact fun e => hce ((Sim2.chi_beq_ext _).mpr e)
          simp only [hce, Bool.false_eq_true, if_false] at hrep ⊢
          rw [hget0 j hj i hi hpi hS hne']
          exact hrep
      · intro hc
        have hne' : pairs[j].1.chi ≠ .ext := by
          rw [← hchi]; exact (Sim2.chi_bne_ext _).mp hc
        rw [hget0 j hj i hi hpi hS hne']
        exact hptr' hc
    heap := by
      rw [hheap2, hnext2]
      apply heapOK_count_congr H1
      intro x
      simp only [List.nil_append]
      apply roots_new_count cfg.temps cfg2.temps Γ pairs hΓ hold
      intro j hj hne'
      obtain ⟨b, hb, hbid, hbchi⟩ := hold pairs[j] (List.getElem_mem hj)
      obtain ⟨i, hi, hgi, hposi⟩ := posIn_of_mem hΓ hb
      have hpi : posIn Γ pairs[j].2.id = i := by rw [← hbid]; exact hposi
      have hS : targetsOf pairs Γ[i] ≠ [] := by
        intro hnil
        have : pairs[j].1.var.id ∈ targetsOf pairs Γ[i] :=
          mem_targetsOf.mpr ⟨pairs[j], List.getElem_mem hj, by rw [hgi]; exact hbid, rfl⟩
        rw [hnil] at this
        cases this
      rw [hpi]
      exact hget0 j hj i hi hpi hS hne'
    code := ⟨_, _, c3, h3, by rw [hpc2, hpc1]; simpa [Nat.add_assoc] using hat3⟩ }

/-- `subst` on a context of integers in the relation `Sim.Rel`: on such contexts `Rel` and `RelX` coincide -/
theorem sim_subst {P : Program} {hooks : Bool} {prog : Prog} {Γ : Ctx} {ρ : List Value}
    {pairs : List (Binding × Ident)} {next : Stmt} {cfg : Config} {vs : List Value}
    (R : Rel P hooks prog ⟨Γ, ρ, .subst pairs next⟩ cfg)
    (hΓ : (Γ.map (·.var.id)).Nodup) (hext : ∀ b ∈ Γ, b.chi = .ext)
    (hnew : (pairs.map (·.1.var.id)).Nodup) (hnewext : ∀ p ∈ pairs, p.1.chi = .ext)
    (hold : ∀ p ∈ pairs, ∃ b ∈ Γ, b.var.id = p.2.id)
    (hcap : 2 * pairs.length + 2 < Mock.T_TEMP)
    (hvs : Pos.step.build Γ ρ pairs = .ok vs) :
    ∃ k cfg', stepsTo P k cfg cfg' ∧ cfg'.out = cfg.out ∧
      Rel P hooks prog ⟨pairs.map (·.1), vs, next⟩ cfg' := by
  obtain ⟨k, cfg', h1, h2, _, R'⟩ := sim2_subst (relX_of_rel hext R) hΓ hnew
    (fun p hp => by
      obtain ⟨b, hb, hid⟩ := hold p hp
      exact ⟨b, hb, hid, by rw [hext b hb, hnewext p hp]⟩) hcap hvs
  refine ⟨k, cfg', h1, h2, rel_of_relX ?_ R'⟩
  intro b hb
  obtain ⟨p, hp, rfl⟩ := List.mem_map.mp hb
  exact hnewext p hp

end Scc.Backend.Subst
