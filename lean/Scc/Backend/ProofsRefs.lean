/-
  Scc.Backend.ProofsRefs — C14, EVERY LABEL THAT THE CODE OF A ROUTINE REFERS TO IS DEFINED IN IT, for an
  arbitrary backend record `B`, read through a label view `V` of its code type (`V.dfn c` the label an item
  defines, `V.ref c` the label it refers to).

  The body (`RefOps`, `refs_compileR`, `refs_defined`): a backend says per method which labels the returned
  codes refer to — none, the label argument, or (memory methods, which draw local labels) only labels the
  returned code defines itself (`Closed`).  The references the generator adds are resolved by the shape of
  the statements: `switch`/`create` refer to the table label and the table to the clause labels they define,
  `ifc` to its `lab<n>`, `call f` to `f_`, `exit` to `cleanup`; so every reference of the body is defined in
  the body, is `cleanup`, or is `f_` for a called definition `f` (`Res`), and in a linearly typed program every
  called definition exists (`callsDefined_of_linTyped`).
  The routine around the body (`plainB`, `closed_wrap`): head and tail refer to no label (they consist of plain
  items and label definitions) and the tail defines `cleanup`; head ++ body ++ tail is then `Closed`.

  Also here, because it walks the same generator: `PieceOps`/`piece_compileR`, the lifting of a predicate on
  code LISTS that is closed under `++` (e.g. "no fixed-size jump outside a jump table"), where `binop` may
  assume that the target variable differs from the sources (`OpFresh`, which `LinTyped` gives); it is
  `Emitted.lift` over the walk of Scc/Backend/ProofsCalls.lean.
  `Post` is the postcondition calculus of Scc/Backend/ProofsPost.lean; its full name is `Scc.X86.Post`
  because the property statements refer to it under that name.
-/
import Scc.Backend.ProofsCalls
import Scc.Backend.ProofsLabels
import Scc.Backend.TotalDefs
import Scc.AxCut.LinTyping

namespace Scc.Backend.Refs

open Scc.AxCut
open Scc.X86 (Post TreeOK treeOK_true)
open Scc.Props.C14Generic (clauseXtors)
open Scc.Backend.Calls
open Scc.Backend.Total (IsVT)

/-- label view of a code type: the label an item defines / refers to -/
structure View (Code : Type) where
  dfn : Code → Option String
  ref : Code → Option String

section lists
variable {Code : Type} (V : View Code)

def View.labs (items : List Code) : List String := items.filterMap V.dfn
def View.refs (items : List Code) : List String := items.filterMap V.ref

@[simp] theorem labs_nil : V.labs [] = [] := rfl
@[simp] theorem refs_nil : V.refs [] = [] := rfl
theorem labs_append (a b : List Code) : V.labs (a ++ b) = V.labs a ++ V.labs b := by
  simp [View.labs, List.filterMap_append]
theorem refs_append (a b : List Code) : V.refs (a ++ b) = V.refs a ++ V.refs b := by
  simp [View.refs, List.filterMap_append]
theorem labs_cons (c : Code) (l : List Code) : V.labs (c :: l) = V.labs [c] ++ V.labs l :=
  labs_append V [c] l
theorem refs_cons (c : Code) (l : List Code) : V.refs (c :: l) = V.refs [c] ++ V.refs l :=
  refs_append V [c] l

def RefsIn (D : String → Prop) (items : List Code) : Prop := ∀ r ∈ V.refs items, D r
def LabsIn (D : String → Prop) (items : List Code) : Prop := ∀ l ∈ V.labs items, D l
def Closed (items : List Code) : Prop := ∀ r ∈ V.refs items, r ∈ V.labs items
def NoRefs (items : List Code) : Prop := V.refs items = []
def RefsTo (l : String) (items : List Code) : Prop := ∀ r ∈ V.refs items, r = l

variable {V}

theorem RefsIn.nil {D : String → Prop} : RefsIn V D [] := fun _ h => by cases h
theorem RefsIn.append {D : String → Prop} {a b : List Code} (ha : RefsIn V D a) (hb : RefsIn V D b) :
    RefsIn V D (a ++ b) := by
  intro r hr
  rw [refs_append, List.mem_append] at hr
  exact hr.elim (ha r) (hb r)
theorem RefsIn.cons {D : String → Prop} {c : Code} {l : List Code} (hc : RefsIn V D [c]) (hl : RefsIn V D l) :
    RefsIn V D (c :: l) := RefsIn.append (a := [c]) hc hl
theorem RefsIn.ite {D : String → Prop} {c : Prop} [Decidable c] {a b : List Code} (ha : RefsIn V D a)
    (hb : RefsIn V D b) : RefsIn V D (if c then a else b) := by split <;> assumption
theorem NoRefs.refsIn {D : String → Prop} {a : List Code} (h : NoRefs V a) : RefsIn V D a := by
  intro r hr; rw [h] at hr; cases hr
theorem RefsTo.refsIn {D : String → Prop} {l : String} {a : List Code} (h : RefsTo V l a) (hl : D l) :
    RefsIn V D a := fun r hr => (h r hr) ▸ hl
theorem Closed.refsIn {D : String → Prop} {a : List Code} (h : Closed V a) (hl : LabsIn V D a) :
    RefsIn V D a := fun r hr => hl r (h r hr)

theorem NoRefs.nil : NoRefs V ([] : List Code) := rfl
theorem NoRefs.append {a b : List Code} (ha : NoRefs V a) (hb : NoRefs V b) : NoRefs V (a ++ b) := by
  unfold NoRefs at *; rw [refs_append, ha, hb]; rfl
theorem NoRefs.ite {c : Prop} [Decidable c] {a b : List Code} (ha : NoRefs V a) (hb : NoRefs V b) :
    NoRefs V (if c then a else b) := by split <;> assumption
theorem NoRefs.flatten {ls : List (List Code)} (h : ∀ l ∈ ls, NoRefs V l) : NoRefs V ls.flatten := by
  induction ls with
  | nil => rfl
  | cons l ls ih =>
    rw [List.flatten_cons]
    exact NoRefs.append (h l (by simp)) (ih fun x hx => h x (by simp [hx]))
theorem NoRefs.closed {a : List Code} (h : NoRefs V a) : Closed V a := by
  intro r hr; rw [h] at hr; cases hr
theorem noRefs_of_forall {a : List Code} (h : ∀ c ∈ a, V.ref c = none) : NoRefs V a := by
  unfold NoRefs View.refs
  rw [List.filterMap_eq_nil_iff]
  exact h
theorem noRefs_single {c : Code} (h : V.ref c = none) : NoRefs V [c] := by
  unfold NoRefs View.refs; simp [h]

theorem Closed.nil : Closed V ([] : List Code) := fun _ h => by cases h
theorem Closed.append {a b : List Code} (ha : Closed V a) (hb : Closed V b) : Closed V (a ++ b) := by
  intro r hr
  rw [refs_append, List.mem_append] at hr
  rw [labs_append, List.mem_append]
  exact hr.elim (fun h => Or.inl (ha r h)) (fun h => Or.inr (hb r h))
theorem Closed.noRefs_left {a b : List Code} (ha : NoRefs V a) (hb : Closed V b) : Closed V (a ++ b) :=
  Closed.append ha.closed hb
theorem Closed.noRefs_right {a b : List Code} (ha : Closed V a) (hb : NoRefs V b) : Closed V (a ++ b) :=
  Closed.append ha hb.closed
theorem Closed.cons {c : Code} {l : List Code} (hc : V.ref c = none) (hl : Closed V l) : Closed V (c :: l) :=
  Closed.noRefs_left (a := [c]) (noRefs_single hc) hl
theorem closed_of {a : List Code} (h : ∀ r ∈ V.refs a, r ∈ V.labs a) : Closed V a := h

theorem LabsIn.append_iff {D : String → Prop} {a b : List Code} :
    LabsIn V D (a ++ b) ↔ LabsIn V D a ∧ LabsIn V D b := by
  unfold LabsIn
  rw [labs_append]
  simp only [List.mem_append]
  exact ⟨fun h => ⟨fun l hl => h l (Or.inl hl), fun l hl => h l (Or.inr hl)⟩,
    fun h l hl => hl.elim (h.1 l) (h.2 l)⟩
theorem LabsIn.cons_iff {D : String → Prop} {c : Code} {l : List Code} :
    LabsIn V D (c :: l) ↔ LabsIn V D [c] ∧ LabsIn V D l := LabsIn.append_iff (a := [c])
theorem LabsIn.of_mem {D : String → Prop} {a : List Code} (h : LabsIn V D a) {l : String} (hl : l ∈ V.labs a) :
    D l := h l hl

end lists

/-! ## plain items, and a routine as head ++ body ++ tail

What the three backends say alike about their code lists, over a label view `V` and a per-item shape `sh`. -/

section Plain
variable {Code : Type} {V : View Code} {sh : Code → Bool}

def plainB (V : View Code) (sh : Code → Bool) (c : Code) : Bool := sh c && (V.dfn c).isNone && (V.ref c).isNone

theorem plainB_iff {c : Code} : plainB V sh c = true ↔ sh c = true ∧ V.dfn c = none ∧ V.ref c = none := by
  simp only [plainB, Bool.and_eq_true, Option.isNone_iff_eq_none, and_assoc]

theorem noRefs_of_plain {l : List Code} (h : l.all (plainB V sh) = true) : NoRefs V l :=
  noRefs_of_forall (V := V) fun c hc => (plainB_iff.1 (List.all_eq_true.1 h c hc)).2.2

theorem all_of_plain {l : List Code} (h : l.all (plainB V sh) = true) : l.all sh = true :=
  List.all_eq_true.2 fun c hc => (plainB_iff.1 (List.all_eq_true.1 h c hc)).1

theorem refsTo_single {c : Code} {l : String} (h : V.ref c = some l) : RefsTo V l [c] := by
  intro r hr
  simpa [View.refs, h] using hr

theorem refsTo_plain_single {a : List Code} {c : Code} {l : String} (ha : a.all (plainB V sh) = true)
    (hc : V.ref c = some l) : RefsTo V l (a ++ [c]) := by
  intro r hr
  rw [refs_append, noRefs_of_plain ha, List.nil_append] at hr
  exact refsTo_single hc r hr

/-- THE ROUTINE: a head and a tail that refer to no label around a body whose references are defined in the body
    or are the label `cl` that the tail defines: every referenced label is defined -/
theorem closed_wrap {head body tail : List Code} {cl : String} (hh : NoRefs V head) (ht : NoRefs V tail)
    (hb : ∀ l ∈ V.refs body, l ∈ V.labs body ∨ l = cl) (hcl : cl ∈ V.labs tail) :
    Closed V (head ++ (body ++ tail)) := by
  intro r hr
  rw [refs_append, refs_append, hh, ht, List.nil_append, List.append_nil] at hr
  rw [labs_append, labs_append]
  rcases hb r hr with h | rfl
  · exact List.mem_append_right _ (List.mem_append_left _ h)
  · exact List.mem_append_right _ (List.mem_append_right _ hcl)

end Plain

section Generic
variable {Code T : Type}

/-- which labels the codes returned by the methods of a backend define and refer to -/
structure RefOps (B : Backend Code T) (V : View Code) : Prop where
  comment : ∀ m, V.dfn (B.comment m) = none ∧ V.ref (B.comment m) = none
  label : ∀ l, V.dfn (B.label l) = some l ∧ V.ref (B.label l) = none
  jump : ∀ t, NoRefs V (B.jump t)
  jumpLabel : ∀ l, RefsTo V l (B.jumpLabel l)
  jumpLabelFixed : ∀ l, RefsTo V l (B.jumpLabelFixed l)
  jumpLabelIf : ∀ s a b l, RefsTo V l (B.jumpLabelIf s a b l)
  jumpLabelIfZero : ∀ s a l, RefsTo V l (B.jumpLabelIfZero s a l)
  loadImmediate : ∀ t n, NoRefs V (B.loadImmediate t n)
  loadLabel : ∀ t l, RefsTo V l (B.loadLabel t l)
  addAndJump : ∀ t n, NoRefs V (B.addAndJump t n)
  binop : ∀ o t a b, NoRefs V (B.binop o t a b)
  mov : ∀ t s, NoRefs V (B.mov t s)
  printI64 : ∀ nl t ctx, Post (B.printI64 nl t ctx) (Closed V)
  eraseBlock : ∀ t, Post (B.eraseBlock t) (Closed V)
  shareBlockN : ∀ t n, Post (B.shareBlockN t n) (Closed V)
  store : ∀ a b, Post (B.store a b) (Closed V)
  load : ∀ a b, Post (B.load a b) (Closed V)
  storeTemporary : ∀ t sp, NoRefs V (B.storeTemporary t sp)
  restoreTemporary : ∀ t sp, NoRefs V (B.restoreTemporary t sp)

variable {B : Backend Code T} {V : View Code}

theorem RefOps.noRefs_comment (S : RefOps B V) (m : String) : NoRefs V [B.comment m] :=
  noRefs_single (S.comment m).2
theorem RefOps.noRefs_label (S : RefOps B V) (l : String) : NoRefs V [B.label l] :=
  noRefs_single (S.label l).2
theorem RefOps.labs_label (S : RefOps B V) (l : String) : V.labs [B.label l] = [l] := by
  simp [View.labs, (S.label l).1]
theorem RefOps.labs_comment (S : RefOps B V) (m : String) : V.labs [B.comment m] = [] := by
  simp [View.labs, (S.comment m).1]

theorem RefOps.noRefs_hook (S : RefOps B V) (hooks : Bool) (ctx : Ctx) : NoRefs V (hookCode B hooks ctx) := by
  unfold hookCode
  exact NoRefs.ite (S.noRefs_comment _) NoRefs.nil

theorem RefOps.noRefs_hook_comment (S : RefOps B V) (hooks : Bool) (ctx : Ctx) (m : String) :
    NoRefs V (hookCode B hooks ctx ++ [B.comment m]) :=
  NoRefs.append (S.noRefs_hook hooks ctx) (S.noRefs_comment m)

mutual
  theorem noRefs_treeMoves (S : RefOps B V) (t : T) (sp : Bool) : ∀ (tr : Tree T), NoRefs V (treeMoves B t sp tr)
    | .backEdge => by simp only [treeMoves]; exact S.storeTemporary _ _
    | .node target kids => by
      simp only [treeMoves]
      exact NoRefs.append (noRefs_treeMovesList S target sp kids) (S.mov _ _)
  theorem noRefs_treeMovesList (S : RefOps B V) (t : T) (sp : Bool) :
      ∀ (trs : List (Tree T)), NoRefs V (treeMovesList B t sp trs)
    | [] => by simp only [treeMovesList]; exact NoRefs.nil
    | k :: ks => by
      simp only [treeMovesList]
      exact NoRefs.append (noRefs_treeMoves S t sp k) (noRefs_treeMovesList S t sp ks)
end

theorem noRefs_rootMoves (S : RefOps B V) : ∀ (r : Root T), NoRefs V (rootMoves B r)
  | .startNode t kids => by
    simp only [rootMoves]
    exact NoRefs.append (noRefs_treeMovesList S _ _ kids) (NoRefs.ite (S.restoreTemporary _ _) NoRefs.nil)

theorem noRefs_parallelMoves (S : RefOps B V) {conns : List (T × List T)} {code : List Code}
    (h : parallelMoves B conns = .ok code) : NoRefs V code := by
  unfold parallelMoves at h
  split at h
  · cases h
  · rename_i forest _
    cases h
    refine NoRefs.append (NoRefs.ite (S.noRefs_comment _) NoRefs.nil) (NoRefs.flatten ?_)
    intro l hl
    obtain ⟨r, _, rfl⟩ := List.mem_map.1 hl
    exact noRefs_rootMoves S r

theorem post_codeExchange (S : RefOps B V) (tm : List (Binding × List Nat)) (context newContext : Ctx) :
    Post (codeExchange B tm context newContext) (NoRefs V) := by
  unfold codeExchange
  refine Post.bind (Post.true _) fun conns _ => ?_
  cases hpm : parallelMoves B conns with
  | error e => exact Post.throw
  | ok code => exact Post.pure (noRefs_parallelMoves S hpm)

theorem post_updateReferenceCount (S : RefOps B V) (var : Ident) (context : Ctx) (newCount : Nat) :
    Post (updateReferenceCount B var context newCount) (Closed V) := by
  unfold updateReferenceCount
  refine Post.bind (Post.true _) fun t _ => ?_
  match newCount with
  | 0 => exact Post.bind (S.eraseBlock t) fun code hc => Post.pure (Closed.cons (S.comment _).2 hc)
  | 1 => exact Post.pure Closed.nil
  | n + 2 => exact Post.bind (S.shareBlockN t (n + 1)) fun code hc => Post.pure (Closed.cons (S.comment _).2 hc)

theorem post_codeWeakeningContraction (S : RefOps B V) (context : Ctx) :
    ∀ (tm : List (Binding × List Nat)), Post (codeWeakeningContraction B tm context) (Closed V)
  | [] => by simp only [codeWeakeningContraction]; exact Post.pure Closed.nil
  | (binding, targets) :: rest => by
    simp only [codeWeakeningContraction]
    refine Post.bind (Q1 := Closed V) ?_ fun code hc => ?_
    · split
      · exact post_updateReferenceCount S _ _ _
      · exact Post.pure Closed.nil
    · exact Post.bind (post_codeWeakeningContraction S context rest) fun codeRest hr =>
        Post.pure (Closed.append hc hr)

theorem refs_codeTable (S : RefOps B V) (base : String) : ∀ (cs : Clauses),
    ∀ r ∈ V.refs (codeTable B cs base), ∃ x ∈ clauseXtors cs, r = clauseLabel base x
  | .nil => by intro r hr; simp [codeTable] at hr
  | .cons x _ _ rest => by
    intro r hr
    simp only [codeTable] at hr
    rw [refs_append, List.mem_append] at hr
    rcases hr with hr | hr
    · exact ⟨x, by simp [clauseXtors], S.jumpLabelFixed _ r hr⟩
    · obtain ⟨y, hy, e⟩ := refs_codeTable S base rest r hr
      exact ⟨y, by simp [clauseXtors, hy], e⟩

/-- the clause labels are defined by the clause code -/
theorem labs_codeClausesR (S : RefOps B V) (hooks : Bool) (ren : Nat → String) (types : List TypeDecl)
    (context : Ctx) : ∀ (cs : Clauses) (base : String),
    Post (codeClausesR B hooks ren types context cs base)
      (fun items => ∀ x ∈ clauseXtors cs, clauseLabel base x ∈ V.labs items)
  | .nil, _ => by simp only [codeClausesR]; exact Post.pure (by simp [clauseXtors])
  | .cons xtor clauseCtx body rest, base => by
    simp only [codeClausesR]
    refine Post.bind (Post.true _) fun c1 _ => ?_
    refine Post.bind (Post.true _) fun c2 _ => ?_
    refine Post.bind (labs_codeClausesR S hooks ren types context rest base) fun c3 h3 => ?_
    refine Post.pure ?_
    intro x hx
    simp only [clauseXtors, List.mem_cons] at hx
    have e : B.label (clauseLabel base xtor) :: c1 ++ c2 ++ c3 =
        [B.label (clauseLabel base xtor)] ++ (c1 ++ c2) ++ c3 := by simp
    rw [e, labs_append, labs_append, S.labs_label]
    rcases hx with rfl | hx
    · simp
    · simp [h3 x hx]

theorem labs_codeMethodsR (S : RefOps B V) (hooks : Bool) (ren : Nat → String) (types : List TypeDecl)
    (env : Ctx) : ∀ (cs : Clauses) (base : String),
    Post (codeMethodsR B hooks ren types env cs base)
      (fun items => ∀ x ∈ clauseXtors cs, clauseLabel base x ∈ V.labs items)
  | .nil, _ => by simp only [codeMethodsR]; exact Post.pure (by simp [clauseXtors])
  | .cons xtor clauseCtx body rest, base => by
    simp only [codeMethodsR]
    refine Post.bind (Post.true _) fun c1 _ => ?_
    refine Post.bind (Post.true _) fun c2 _ => ?_
    refine Post.bind (labs_codeMethodsR S hooks ren types env rest base) fun c3 h3 => ?_
    refine Post.pure ?_
    intro x hx
    simp only [clauseXtors, List.mem_cons] at hx
    have e : B.label (clauseLabel base xtor) :: c1 ++ c2 ++ c3 =
        [B.label (clauseLabel base xtor)] ++ (c1 ++ c2) ++ c3 := by simp
    rw [e, labs_append, labs_append, S.labs_label]
    rcases hx with rfl | hx
    · simp
    · simp [h3 x hx]

/-- the result of a statement: every reference satisfies any `D` that holds of the labels defined by the
code, of `cleanup` and of the labels of the called definitions -/
def Res (V : View Code) (calls : List String) (items : List Code) : Prop :=
  ∀ D : String → Prop, LabsIn V D items → D "cleanup" → (∀ f ∈ calls, D (f ++ "_")) → RefsIn V D items

theorem Res.mono {calls calls' : List String} {items : List Code} (h : Res V calls items)
    (hc : ∀ f ∈ calls, f ∈ calls') : Res V calls' items :=
  fun D hl hcl hf => h D hl hcl (fun f hf' => hf f (hc f hf'))

theorem Closed.res {calls : List String} {items : List Code} (h : Closed V items) : Res V calls items :=
  fun _ hl _ _ => h.refsIn hl

theorem NoRefs.res {calls : List String} {items : List Code} (h : NoRefs V items) : Res V calls items :=
  h.closed.res

/-- the label of the table and the table itself: references to the clause labels -/
theorem refsIn_table (S : RefOps B V) {D : String → Prop} (lbl : String) (cs : Clauses)
    (h : ∀ x ∈ clauseXtors cs, D (clauseLabel lbl x)) :
    RefsIn V D (B.label lbl :: (if cs.length > 1 then codeTable B cs lbl else [])) := by
  refine RefsIn.cons (S.noRefs_label _).refsIn (RefsIn.ite ?_ RefsIn.nil)
  intro r hr
  obtain ⟨x, hx, rfl⟩ := refs_codeTable S lbl cs r hr
  exact h x hx

mutual
theorem res_codeStatementR (S : RefOps B V) (hooks : Bool) (ren : Nat → String) (types : List TypeDecl) :
    ∀ (s : Stmt) (context : Ctx),
      Post (codeStatementR B hooks ren types s context) (Res V (stmtCalls s))
  | .subst rearrange next, context => by
    simp only [codeStatementR]
    refine Post.bind (post_codeWeakeningContraction S context _) fun c1 h1 => ?_
    refine Post.bind (post_codeExchange S _ _ _) fun c2 h2 => ?_
    refine Post.bind (res_codeStatementR S hooks ren types next _) fun c3 h3 => ?_
    refine Post.pure ?_
    intro D hl hcl hf
    simp only [LabsIn.append_iff] at hl
    exact RefsIn.append (RefsIn.append (RefsIn.append (S.noRefs_hook_comment _ _ _).refsIn (h1.refsIn hl.1.1.2))
      h2.refsIn) (h3 D hl.2 hcl (by simpa [stmtCalls] using hf))
  | .call label args, context => by
    simp only [codeStatementR]
    refine Post.pure ?_
    intro D hl hcl hf
    exact RefsIn.append (S.noRefs_hook_comment _ _ _).refsIn ((S.jumpLabel _).refsIn (hf _ (by simp [stmtCalls])))
  | .letS var ty tag args next fv, context => by
    simp only [codeStatementR]
    refine Post.bind (Post.true _) fun decl _ => ?_
    refine Post.bind (Post.true _) fun pos _ => ?_
    refine Post.bind (Post.true _) fun sp _ => ?_
    obtain ⟨context1, arguments⟩ := sp
    dsimp only
    refine Post.bind (S.store _ _) fun c1 h1 => ?_
    refine Post.bind (Post.true _) fun t _ => ?_
    refine Post.bind (res_codeStatementR S hooks ren types next _) fun c3 h3 => ?_
    refine Post.pure ?_
    intro D hl hcl hf
    simp only [LabsIn.append_iff] at hl
    exact RefsIn.append (RefsIn.append (RefsIn.append (S.noRefs_hook_comment _ _ _).refsIn (h1.refsIn hl.1.1.2))
      (RefsIn.cons (S.noRefs_comment _).refsIn (S.loadImmediate _ _).refsIn))
      (h3 D hl.2 hcl (by simpa [stmtCalls] using hf))
  | .switch var ty clauses fv, context => by
    simp only [codeStatementR]
    refine Post.bind (Post.true _) fun num _ => ?_
    refine Post.bind (Q1 := fun c1 => ∀ D : String → Prop, D (mangleTy ty ++ "_" ++ num) → RefsIn V D c1) ?_
      fun c1 h1 => ?_
    · split
      · exact Post.pure fun D _ => (S.noRefs_comment _).refsIn
      · exact Post.bind (Post.true _) fun t _ => Post.pure fun D hD =>
          RefsIn.append (RefsIn.append ((S.loadLabel _ _).refsIn hD) (S.binop _ _ _ _).refsIn) (S.jump _).refsIn
    · refine Post.bind (Q1 := fun c3 => Res V (clausesCalls clauses) c3 ∧
        ∀ x ∈ clauseXtors clauses, clauseLabel (mangleTy ty ++ "_" ++ num) x ∈ V.labs c3)
        (Post.and (res_codeClausesR S hooks ren types _ clauses _) (labs_codeClausesR S hooks ren types _ clauses _))
        fun c3 h3 => ?_
      refine Post.pure ?_
      intro D hl hcl hf
      simp only [LabsIn.append_iff] at hl
      have hlab : D (mangleTy ty ++ "_" ++ num) := by
        have := hl.1.2
        rw [LabsIn.cons_iff] at this
        exact this.1 _ (by rw [S.labs_label]; simp)
      exact RefsIn.append (RefsIn.append (RefsIn.append (S.noRefs_hook_comment _ _ _).refsIn (h1 D hlab))
        (refsIn_table S _ clauses fun x hx => hl.2 _ (h3.2 x hx)))
        (h3.1 D hl.2 hcl (by simpa [stmtCalls] using hf))
  | .create var ty env clauses next fv1 fv2, context => by
    cases env with
    | none => simp only [codeStatementR]; exact Post.throw
    | some envCtx =>
      simp only [codeStatementR]
      refine Post.bind (Post.true _) fun sp _ => ?_
      obtain ⟨context1, closureEnvironment⟩ := sp
      dsimp only
      refine Post.bind (S.store _ _) fun c1 h1 => ?_
      refine Post.bind (Post.true _) fun num _ => ?_
      refine Post.bind (Post.true _) fun t _ => ?_
      refine Post.bind (res_codeStatementR S hooks ren types next _) fun c3 h3 => ?_
      refine Post.bind (Q1 := fun c5 => Res V (clausesCalls clauses) c5 ∧
        ∀ x ∈ clauseXtors clauses, clauseLabel (mangleTy ty ++ "_" ++ num) x ∈ V.labs c5)
        (Post.and (res_codeMethodsR S hooks ren types _ clauses _) (labs_codeMethodsR S hooks ren types _ clauses _))
        fun c5 h5 => ?_
      refine Post.pure ?_
      intro D hl hcl hf
      simp only [LabsIn.append_iff] at hl
      have hlab : D (mangleTy ty ++ "_" ++ num) := by
        have := hl.1.2
        rw [LabsIn.cons_iff] at this
        exact this.1 _ (by rw [S.labs_label]; simp)
      simp only [stmtCalls, List.mem_append] at hf
      exact RefsIn.append (RefsIn.append (RefsIn.append (RefsIn.append (RefsIn.append
        (S.noRefs_hook_comment _ _ _).refsIn (h1.refsIn hl.1.1.1.1.2))
        (RefsIn.cons (S.noRefs_comment _).refsIn ((S.loadLabel _ _).refsIn hlab)))
        (h3 D hl.1.1.2 hcl (fun f hf' => hf f (Or.inl hf'))))
        (refsIn_table S _ clauses fun x hx => hl.2 _ (h5.2 x hx)))
        (h5.1 D hl.2 hcl (fun f hf' => hf f (Or.inr hf')))
  | .invoke var tag ty args, context => by
    simp only [codeStatementR]
    refine Post.bind (Post.true _) fun t _ => ?_
    refine Post.bind (Post.true _) fun decl _ => ?_
    split
    · exact Post.pure (NoRefs.res (NoRefs.append (NoRefs.append (S.noRefs_hook_comment _ _ _) (S.noRefs_comment _))
        (S.jump _)))
    · exact Post.bind (Post.true _) fun pos _ =>
        Post.pure (NoRefs.res (NoRefs.append (S.noRefs_hook_comment _ _ _) (S.addAndJump _ _)))
  | .lit var n next fv, context => by
    simp only [codeStatementR]
    refine Post.bind (Post.true _) fun t _ => ?_
    refine Post.bind (res_codeStatementR S hooks ren types next _) fun c2 h2 => ?_
    refine Post.pure ?_
    intro D hl hcl hf
    simp only [LabsIn.append_iff] at hl
    exact RefsIn.append (RefsIn.append (S.noRefs_hook_comment _ _ _).refsIn (S.loadImmediate _ _).refsIn)
      (h2 D hl.2 hcl (by simpa [stmtCalls] using hf))
  | .op var fst o snd next fv, context => by
    simp only [codeStatementR]
    refine Post.bind (Post.true _) fun t _ => ?_
    refine Post.bind (Post.true _) fun s1 _ => ?_
    refine Post.bind (Post.true _) fun s2 _ => ?_
    refine Post.bind (res_codeStatementR S hooks ren types next _) fun c2 h2 => ?_
    refine Post.pure ?_
    intro D hl hcl hf
    simp only [LabsIn.append_iff] at hl
    exact RefsIn.append (RefsIn.append (S.noRefs_hook_comment _ _ _).refsIn (S.binop _ _ _ _).refsIn)
      (h2 D hl.2 hcl (by simpa [stmtCalls] using hf))
  | .print newline var next fv, context => by
    simp only [codeStatementR]
    refine Post.bind (Post.true _) fun t _ => ?_
    refine Post.bind (S.printI64 _ _ _) fun c1 h1 => ?_
    refine Post.bind (res_codeStatementR S hooks ren types next _) fun c2 h2 => ?_
    refine Post.pure ?_
    intro D hl hcl hf
    simp only [LabsIn.append_iff] at hl
    exact RefsIn.append (RefsIn.append (S.noRefs_hook_comment _ _ _).refsIn (h1.refsIn hl.1.2))
      (h2 D hl.2 hcl (by simpa [stmtCalls] using hf))
  | .ifc sort fst snd thenc elsec, context => by
    simp only [codeStatementR]
    refine Post.bind (Post.true _) fun num _ => ?_
    refine Post.bind (Q1 := RefsTo V ("lab" ++ num)) ?_ fun c1 h1 => ?_
    · cases snd with
      | none =>
        dsimp only
        exact Post.bind (Post.true _) fun a _ => Post.pure (S.jumpLabelIfZero _ _ _)
      | some snd =>
        dsimp only
        exact Post.bind (Post.true _) fun a _ => Post.bind (Post.true _) fun b _ =>
          Post.pure (S.jumpLabelIf _ _ _ _)
    · refine Post.bind (res_codeStatementR S hooks ren types elsec _) fun c2 h2 => ?_
      refine Post.bind (res_codeStatementR S hooks ren types thenc _) fun c3 h3 => ?_
      refine Post.pure ?_
      intro D hl hcl hf
      simp only [LabsIn.append_iff] at hl
      have hlab : D ("lab" ++ num) := by
        have := hl.1.2
        rw [LabsIn.cons_iff] at this
        exact this.1 _ (by rw [S.labs_label]; simp)
      simp only [stmtCalls, List.mem_append] at hf
      exact RefsIn.append (RefsIn.append (RefsIn.append (RefsIn.append (RefsIn.append
        (S.noRefs_hook_comment _ _ _).refsIn (h1.refsIn hlab)) (S.noRefs_comment _).refsIn)
        (h2 D hl.1.1.2 hcl (fun f hf' => hf f (Or.inl hf'))))
        (RefsIn.cons (S.noRefs_label _).refsIn (S.noRefs_comment _).refsIn))
        (h3 D hl.2 hcl (fun f hf' => hf f (Or.inr hf')))
  | .exit var, context => by
    simp only [codeStatementR]
    refine Post.bind (Post.true _) fun t _ => Post.pure ?_
    intro D hl hcl hf
    exact RefsIn.append (RefsIn.append (S.noRefs_hook_comment _ _ _).refsIn (S.mov _ _).refsIn)
      ((S.jumpLabel _).refsIn hcl)
theorem res_codeClausesR (S : RefOps B V) (hooks : Bool) (ren : Nat → String) (types : List TypeDecl)
    (context : Ctx) : ∀ (cs : Clauses) (baseLabel : String),
      Post (codeClausesR B hooks ren types context cs baseLabel) (Res V (clausesCalls cs))
  | .nil, _ => by simp only [codeClausesR]; exact Post.pure NoRefs.nil.res
  | .cons xtor clauseCtx body rest, baseLabel => by
    simp only [codeClausesR]
    refine Post.bind (S.load _ _) fun c1 h1 => ?_
    refine Post.bind (res_codeStatementR S hooks ren types body _) fun c2 h2 => ?_
    refine Post.bind (res_codeClausesR S hooks ren types context rest baseLabel) fun c3 h3 => ?_
    refine Post.pure ?_
    intro D hl hcl hf
    have e : B.label (clauseLabel baseLabel xtor) :: c1 ++ c2 ++ c3 =
        (([B.label (clauseLabel baseLabel xtor)] ++ c1) ++ c2) ++ c3 := by simp
    rw [e] at hl ⊢
    simp only [LabsIn.append_iff] at hl
    simp only [clausesCalls, List.mem_append] at hf
    exact RefsIn.append (RefsIn.append (RefsIn.append (S.noRefs_label _).refsIn (h1.refsIn hl.1.1.2))
      (h2 D hl.1.2 hcl (fun f hf' => hf f (Or.inl hf')))) (h3 D hl.2 hcl (fun f hf' => hf f (Or.inr hf')))
theorem res_codeMethodsR (S : RefOps B V) (hooks : Bool) (ren : Nat → String) (types : List TypeDecl)
    (env : Ctx) : ∀ (cs : Clauses) (baseLabel : String),
      Post (codeMethodsR B hooks ren types env cs baseLabel) (Res V (clausesCalls cs))
  | .nil, _ => by simp only [codeMethodsR]; exact Post.pure NoRefs.nil.res
  | .cons xtor clauseCtx body rest, baseLabel => by
    simp only [codeMethodsR]
    refine Post.bind (S.load _ _) fun c1 h1 => ?_
    refine Post.bind (res_codeStatementR S hooks ren types body _) fun c2 h2 => ?_
    refine Post.bind (res_codeMethodsR S hooks ren types env rest baseLabel) fun c3 h3 => ?_
    refine Post.pure ?_
    intro D hl hcl hf
    have e : B.label (clauseLabel baseLabel xtor) :: c1 ++ c2 ++ c3 =
        (([B.label (clauseLabel baseLabel xtor)] ++ c1) ++ c2) ++ c3 := by simp
    rw [e] at hl ⊢
    simp only [LabsIn.append_iff] at hl
    simp only [clausesCalls, List.mem_append] at hf
    exact RefsIn.append (RefsIn.append (RefsIn.append (S.noRefs_label _).refsIn (h1.refsIn hl.1.1.2))
      (h2 D hl.1.2 hcl (fun f hf' => hf f (Or.inl hf')))) (h3 D hl.2 hcl (fun f hf' => hf f (Or.inr hf')))
end

theorem res_translateR (S : RefOps B V) (hooks : Bool) (ren : Nat → String) (types : List TypeDecl) :
    ∀ (defs : List Def), Post (translateR B hooks ren types defs)
      (fun blocks => blocks.length = defs.length ∧ ∀ b ∈ blocks, Res V (defsCalls defs) b)
  | [] => by simp only [translateR]; exact Post.pure ⟨rfl, by simp⟩
  | d :: ds => by
    simp only [translateR]
    refine Post.bind (res_codeStatementR S hooks ren types d.body d.ctx) fun is his => ?_
    refine Post.bind (res_translateR S hooks ren types ds) fun rest hr => ?_
    refine Post.pure ⟨by simp [hr.1], ?_⟩
    intro b hb
    simp only [List.mem_cons] at hb
    rcases hb with rfl | hb
    · exact his.mono (fun f hf => by simp [defsCalls, hf])
    · exact (hr.2 b hb).mono (fun f hf => by simp [defsCalls, hf])

theorem res_assemble (S : RefOps B V) (calls : List String) :
    ∀ (blocks : List (List Code)) (names : List Ident), (∀ b ∈ blocks, Res V calls b) →
      Res V calls (assemble B blocks names)
  | [], _, _ => by simp only [assemble]; exact NoRefs.nil.res
  | _ :: _, [], _ => by simp only [assemble]; exact NoRefs.nil.res
  | block :: blocks, name :: names, h => by
    simp only [assemble]
    intro D hl hcl hf
    have e : B.label (name.print ++ "_") :: block ++ assemble B blocks names =
        ([B.label (name.print ++ "_")] ++ block) ++ assemble B blocks names := by simp
    rw [e] at hl ⊢
    simp only [LabsIn.append_iff] at hl
    exact RefsIn.append (RefsIn.append (S.noRefs_label _).refsIn (h block (by simp) D hl.1.2 hcl hf))
      (res_assemble S calls blocks names (fun b hb => h b (by simp [hb])) D hl.2 hcl hf)

theorem labs_assemble (S : RefOps B V) : ∀ (blocks : List (List Code)) (names : List Ident),
    blocks.length = names.length → ∀ n ∈ names, n.print ++ "_" ∈ V.labs (assemble B blocks names)
  | [], [], _ => by intro n hn; cases hn
  | [], _ :: _, h => by simp at h
  | _ :: _, [], h => by simp at h
  | block :: blocks, name :: names, h => by
    intro n hn
    simp only [assemble]
    have e : B.label (name.print ++ "_") :: block ++ assemble B blocks names =
        ([B.label (name.print ++ "_")] ++ block) ++ assemble B blocks names := by simp
    rw [e, labs_append, labs_append, S.labs_label]
    simp only [List.mem_cons] at hn
    rcases hn with rfl | hn
    · simp
    · have := labs_assemble S blocks names (by simpa using h) n hn
      simp [this]

/-- GENERIC: the references of the code of a whole program, and the labels of its definitions -/
theorem refs_compileR (S : RefOps B V) (hooks : Bool) (ren : Nat → String) (p : AxCut.Prog) :
    Post (compileR B hooks ren p) (fun r => Res V (defsCalls p.defs) r.1 ∧
      ∀ d ∈ p.defs, d.name.print ++ "_" ∈ V.labs r.1) := by
  unfold compileR
  cases hd : p.defs with
  | nil => exact Post.throw
  | cons d0 ds =>
    dsimp only
    refine Post.bind (res_translateR S hooks ren p.types (d0 :: ds)) fun blocks hb => ?_
    refine Post.pure ⟨res_assemble S _ _ _ hb.2, ?_⟩
    intro d hd'
    exact labs_assemble S blocks _ (by simp [hb.1]) d.name (List.mem_map.2 ⟨d, hd', rfl⟩)

/-- **every label referenced by the code of a program whose called definitions exist is defined in the
    code, or is `cleanup`** -/
theorem refs_defined (S : RefOps B V) (hooks : Bool) (ren : Nat → String) (p : AxCut.Prog)
    (hcalls : ∀ f ∈ defsCalls p.defs, f ∈ p.defs.map (·.name.print)) :
    Post (compileR B hooks ren p) (fun r => ∀ l ∈ V.refs r.1, l ∈ V.labs r.1 ∨ l = "cleanup") := by
  refine (refs_compileR S hooks ren p).mono ?_
  rintro r ⟨h1, h2⟩
  refine h1 (fun l => l ∈ V.labs r.1 ∨ l = "cleanup") (fun l hl => Or.inl hl) (Or.inr rfl) ?_
  intro f hf
  obtain ⟨d, hd, rfl⟩ := List.mem_map.1 (hcalls f hf)
  exact Or.inl (h2 d hd)

/-! ## predicates on code lists closed under `++` -/

mutual
  /-- the target of every `op` differs from its sources -/
  def OpFresh : Stmt → Prop
    | .subst _ next => OpFresh next
    | .call _ _ => True
    | .letS _ _ _ _ next _ => OpFresh next
    | .switch _ _ clauses _ => OpFreshC clauses
    | .create _ _ _ clauses next _ _ => OpFreshC clauses ∧ OpFresh next
    | .invoke _ _ _ _ => True
    | .lit _ _ next _ => OpFresh next
    | .op x a _ b next _ => x.id ≠ a.id ∧ x.id ≠ b.id ∧ OpFresh next
    | .print _ _ next _ => OpFresh next
    | .ifc _ _ _ thenc elsec => OpFresh thenc ∧ OpFresh elsec
    | .exit _ => True
  def OpFreshC : Clauses → Prop
    | .nil => True
    | .cons _ _ body rest => OpFresh body ∧ OpFreshC rest
end

/-- what the generic generator needs from the backend for a predicate `Q` on code lists -/
structure PieceOps (B : Backend Code T) (Q : List Code → Prop) : Prop where
  nil : Q []
  append : ∀ {a b}, Q a → Q b → Q (a ++ b)
  comment : ∀ m, Q [B.comment m]
  label : ∀ l, Q [B.label l]
  /-- a label directly followed by a jump table -/
  table : ∀ l cs base, Q (B.label l :: codeTable B cs base)
  jump : ∀ t, Q (B.jump t)
  jumpLabel : ∀ l, Q (B.jumpLabel l)
  jumpLabelIf : ∀ s a b l, Q (B.jumpLabelIf s a b l)
  jumpLabelIfZero : ∀ s a l, Q (B.jumpLabelIfZero s a l)
  loadImmediate : ∀ t n, Q (B.loadImmediate t n)
  loadLabel : ∀ t l, Q (B.loadLabel t l)
  addAndJump : ∀ t n, Q (B.addAndJump t n)
  /-- `op`: the three temporaries are those of three variables of one context, the target variable
      differing from the sources -/
  binop : ∀ o (Γ : Ctx) (x a b : Nat) t s1 s2, x ≠ a → x ≠ b → IsVT B .snd Γ x t → IsVT B .snd Γ a s1 →
    IsVT B .snd Γ b s2 → Q (B.binop o t s1 s2)
  /-- `switch`: the table address plus the tag, in the scratch temporary -/
  binopTemp : ∀ t, Q (B.binop .sum B.temp B.temp t)
  mov : ∀ t s, Q (B.mov t s)
  printI64 : ∀ nl t ctx, Post (B.printI64 nl t ctx) Q
  eraseBlock : ∀ t, Post (B.eraseBlock t) Q
  shareBlockN : ∀ t n, Post (B.shareBlockN t n) Q
  store : ∀ a b, Post (B.store a b) Q
  load : ∀ a b, Post (B.load a b) Q
  storeTemporary : ∀ t sp, Q (B.storeTemporary t sp)
  restoreTemporary : ∀ t sp, Q (B.restoreTemporary t sp)

variable {Q : List Code → Prop}

theorem PieceOps.flatten (S : PieceOps B Q) {ls : List (List Code)} (h : ∀ l ∈ ls, Q l) : Q ls.flatten := by
  induction ls with
  | nil => exact S.nil
  | cons l ls ih =>
    rw [List.flatten_cons]
    exact S.append (h l (by simp)) (ih fun x hx => h x (by simp [hx]))

/-- what `PieceOps` uses of the arguments: the target of an `op` differs from its sources -/
def pieceFacts (T : Type) : Facts T := { fresh := True }

theorem pieceTemps (B : Backend Code T) : TempsOK B (pieceFacts T) :=
  ⟨trivial, trivial, fun _ _ _ => Post.true _, fun _ _ => Post.true _⟩

theorem pieceFixed : Fixed (pieceFacts T) := by constructor <;> trivial

theorem PieceOps.call (S : PieceOps B Q) : ∀ c, Good B (pieceFacts T) c → Post (c.run B) Q
  | .comment m, _ => Post.pure (S.comment m)
  | .label l, _ => Post.pure (S.label l)
  | .table l cs, _ => Post.pure (S.table l cs l)
  | .jump t, _ => Post.pure (S.jump t)
  | .jumpLabel l, _ => Post.pure (S.jumpLabel l)
  | .jumpLabelIf s a b l, _ => Post.pure (S.jumpLabelIf s a b l)
  | .jumpLabelIfZero s a l, _ => Post.pure (S.jumpLabelIfZero s a l)
  | .loadImmediate t n, _ => Post.pure (S.loadImmediate t n)
  | .loadLabel t l, _ => Post.pure (S.loadLabel t l)
  | .addAndJump t n, _ => Post.pure (S.addAndJump t n)
  | .binop o t s1 s2, h => by
    obtain ⟨_, _, _, ⟨Γ, x, a, b, hf, ht, h1, h2⟩ | ⟨_, rfl, rfl, rfl⟩⟩ := h
    · exact Post.pure (S.binop o Γ x a b t s1 s2 (hf trivial).1 (hf trivial).2 ht h1 h2)
    · exact Post.pure (S.binopTemp s2)
  | .mov t s, _ => Post.pure (S.mov t s)
  | .printI64 nl t ctx, _ => S.printI64 nl t ctx
  | .eraseBlock t, _ => S.eraseBlock t
  | .shareBlockN t n, _ => S.shareBlockN t n
  | .store a b, _ => S.store a b
  | .load a b, _ => S.load a b
  | .storeTemporary t sp, _ => Post.pure (S.storeTemporary t sp)
  | .restoreTemporary t sp, _ => Post.pure (S.restoreTemporary t sp)

theorem PieceOps.lift (S : PieceOps B Q) {code : List Code} (h : Emitted B (Good B (pieceFacts T)) code) :
    Q code :=
  h.lift S.nil S.append S.call

theorem q_treeMoves (S : PieceOps B Q) (t : T) (sp : Bool) : ∀ (tr : Tree T), Q (treeMoves B t sp tr) :=
  fun tr => S.lift (emitted_treeMoves (F := pieceFacts T) trivial sp tr (treeOK_true tr))

mutual
theorem argsOK_of_opFresh (hooks : Bool) (ren : Nat → String) :
    ∀ (s : Stmt) (Γ : Ctx), OpFresh s → ArgsOK (pieceFacts T) hooks ren s Γ
  | .subst r next, Γ, h => by
    simp only [ArgsOK]
    exact ⟨fun _ => trivial, trivial, fun _ _ _ => ⟨trivial, trivial, trivial⟩, fun _ _ => trivial,
      argsOK_of_opFresh hooks ren next _ h⟩
  | .call _ _, Γ, _ => ⟨fun _ => trivial, trivial, trivial⟩
  | .letS _ _ _ _ next _, Γ, h => by
    simp only [ArgsOK]
    exact ⟨fun _ => trivial, trivial, trivial, argsOK_of_opFresh hooks ren next _ h⟩
  | .switch _ _ cls _, Γ, h => by
    simp only [ArgsOK]
    exact ⟨fun _ => trivial, trivial, trivial, fun n => ⟨trivial, clausesOK_of_opFreshC hooks ren cls _ _ h⟩⟩
  | .create _ _ none _ _ _ _, Γ, _ => by simp only [ArgsOK]
  | .create _ _ (some _) cls next _ _, Γ, h => by
    simp only [ArgsOK]
    exact ⟨fun _ => trivial, trivial, trivial, argsOK_of_opFresh hooks ren next _ h.2,
      fun n => ⟨trivial, methodsOK_of_opFreshC hooks ren cls _ _ h.1⟩⟩
  | .invoke _ _ _ _, Γ, _ => ⟨fun _ => trivial, trivial, trivial⟩
  | .lit _ _ next _, Γ, h => by
    simp only [ArgsOK]
    exact ⟨fun _ => trivial, trivial, trivial, argsOK_of_opFresh hooks ren next _ h⟩
  | .op _ _ _ _ next _, Γ, h => by
    simp only [ArgsOK]
    exact ⟨fun _ => trivial, trivial, fun _ => ⟨h.1, h.2.1⟩, argsOK_of_opFresh hooks ren next _ h.2.2⟩
  | .print _ _ next _, Γ, h => by
    simp only [ArgsOK]
    exact ⟨fun _ => trivial, trivial, argsOK_of_opFresh hooks ren next _ h⟩
  | .ifc _ _ _ t e, Γ, h => by
    simp only [ArgsOK]
    exact ⟨fun _ => trivial, trivial, fun _ => ⟨trivial, trivial⟩, argsOK_of_opFresh hooks ren e _ h.2,
      argsOK_of_opFresh hooks ren t _ h.1⟩
  | .exit _, Γ, _ => ⟨fun _ => trivial, trivial, trivial⟩
theorem clausesOK_of_opFreshC (hooks : Bool) (ren : Nat → String) :
    ∀ (cs : Clauses) (Γ : Ctx) (base : String), OpFreshC cs → ClausesOK (pieceFacts T) hooks ren cs Γ base
  | .nil, _, _, _ => by simp only [ClausesOK]
  | .cons _ _ body rest, Γ, base, h => by
    simp only [ClausesOK]
    exact ⟨trivial, argsOK_of_opFresh hooks ren body _ h.1, clausesOK_of_opFreshC hooks ren rest Γ base h.2⟩
theorem methodsOK_of_opFreshC (hooks : Bool) (ren : Nat → String) :
    ∀ (cs : Clauses) (env : Ctx) (base : String), OpFreshC cs → MethodsOK (pieceFacts T) hooks ren cs env base
  | .nil, _, _, _ => by simp only [MethodsOK]
  | .cons _ _ body rest, env, base, h => by
    simp only [MethodsOK]
    exact ⟨trivial, argsOK_of_opFresh hooks ren body _ h.1, methodsOK_of_opFreshC hooks ren rest env base h.2⟩
end

theorem q_codeClausesR (S : PieceOps B Q) (hooks : Bool) (ren : Nat → String) (types : List TypeDecl)
    (context : Ctx) : ∀ (cs : Clauses) (baseLabel : String), OpFreshC cs →
      Post (codeClausesR B hooks ren types context cs baseLabel) Q :=
  fun cs baseLabel h => (emitted_codeClausesR (pieceTemps B) pieceFixed hooks ren (fun _ _ _ _ => trivial) context
    cs baseLabel (clausesOK_of_opFreshC hooks ren cs _ _ h) trivial).mono fun _ => S.lift

theorem q_codeMethodsR (S : PieceOps B Q) (hooks : Bool) (ren : Nat → String) (types : List TypeDecl)
    (env : Ctx) : ∀ (cs : Clauses) (baseLabel : String), OpFreshC cs →
      Post (codeMethodsR B hooks ren types env cs baseLabel) Q :=
  fun cs baseLabel h => (emitted_codeMethodsR (pieceTemps B) pieceFixed hooks ren (fun _ _ _ _ => trivial) env
    cs baseLabel (methodsOK_of_opFreshC hooks ren cs _ _ h) trivial).mono fun _ => S.lift

/-- GENERIC LIFTING of a list predicate closed under `++` -/
theorem piece_compileR (S : PieceOps B Q) (hooks : Bool) (ren : Nat → String) (p : AxCut.Prog)
    (hp : ∀ d ∈ p.defs, OpFresh d.body) : Post (compileR B hooks ren p) (fun r => Q r.1) :=
  (emitted_compileR (pieceTemps B) pieceFixed hooks ren p ⟨fun _ _ _ _ => trivial, fun d hd =>
    ⟨trivial, argsOK_of_opFresh hooks ren d.body d.ctx (hp d hd)⟩⟩).mono fun _ => S.lift

end Generic

/-! ## what linear typing gives -/

theorem hasVar_ids {Γ : Ctx} {x : Nat} {chi : Chi} {ty : Ty} (h : HasVar Γ x chi ty) : x ∈ Γ.ids := by
  obtain ⟨b, hb, e, _⟩ := h
  exact List.mem_map.2 ⟨b, hb, e⟩

mutual
theorem opFresh_of_linTyped {T : List TypeDecl} {S : Sigs} : ∀ {Γ : Ctx} {s : Stmt}, LinTyped T S Γ s → OpFresh s
  | _, _, .subst _ _ _ h => (opFresh_of_linTyped h : OpFresh _)
  | _, _, .call _ _ _ => trivial
  | _, _, .letS _ _ _ _ _ _ h => (opFresh_of_linTyped h : OpFresh _)
  | _, _, .switch _ _ _ _ _ h => (opFreshC_of_linTyped h : OpFreshC _)
  | _, _, .create _ _ _ _ _ hc _ h => ⟨opFreshC_of_linTyped hc, opFresh_of_linTyped h⟩
  | _, _, .invoke _ _ _ _ _ => trivial
  | _, _, .lit _ _ h => (opFresh_of_linTyped h : OpFresh _)
  | _, _, .op _ ha hb hx h =>
    ⟨fun e => hx (e ▸ hasVar_ids ha), fun e => hx (e ▸ hasVar_ids hb), opFresh_of_linTyped h⟩
  | _, _, .print _ _ h => (opFresh_of_linTyped h : OpFresh _)
  | _, _, .ifc _ _ _ ht he => ⟨opFresh_of_linTyped ht, opFresh_of_linTyped he⟩
  | _, _, .exit _ _ => trivial
theorem opFreshC_of_linTyped {T : List TypeDecl} {S : Sigs} : ∀ {pre post : Ctx} {cs : Clauses},
    LinTypedClauses T S pre post cs → OpFreshC cs
  | _, _, _, .nil => trivial
  | _, _, _, .cons hb hr => ⟨opFresh_of_linTyped hb, opFreshC_of_linTyped hr⟩
end

theorem opFresh_of_linTypedProg {p : AxCut.Prog} (h : LinTypedProg p) : ∀ d ∈ p.defs, OpFresh d.body :=
  fun d hd => opFresh_of_linTyped (h d hd)

theorem findSig_mem {S : Sigs} {l : Ident} {params : Ctx} (h : findSig S l = some params) :
    l ∈ S.map (·.1) := by
  unfold findSig at h
  split at h
  · cases h
  · rename_i s hs
    have h1 := List.mem_of_find?_eq_some hs
    have h2 := List.find?_some hs
    exact List.mem_map.2 ⟨s, h1, Ident.eq_of_beq h2⟩

mutual
theorem calls_of_linTyped {T : List TypeDecl} {S : Sigs} : ∀ {Γ : Ctx} {s : Stmt}, LinTyped T S Γ s →
    ∀ f ∈ stmtCalls s, f ∈ S.map (·.1.print)
  | _, _, .subst _ _ _ h => (calls_of_linTyped h : ∀ f ∈ stmtCalls _, _)
  | _, _, .call _ hs _ => by
    intro f hf
    simp only [stmtCalls, List.mem_singleton] at hf
    subst hf
    obtain ⟨s, hs1, hs2⟩ := List.mem_map.1 (findSig_mem hs)
    exact List.mem_map.2 ⟨s, hs1, by rw [hs2]⟩
  | _, _, .letS _ _ _ _ _ _ h => (calls_of_linTyped h : ∀ f ∈ stmtCalls _, _)
  | _, _, .switch _ _ _ _ _ h => (callsC_of_linTyped h : ∀ f ∈ clausesCalls _, _)
  | _, _, .create _ _ _ _ _ hc _ h => by
    intro f hf
    simp only [stmtCalls, List.mem_append] at hf
    exact hf.elim (calls_of_linTyped h f) (callsC_of_linTyped hc f)
  | _, _, .invoke _ _ _ _ _ => by intro f hf; simp [stmtCalls] at hf
  | _, _, .lit _ _ h => (calls_of_linTyped h : ∀ f ∈ stmtCalls _, _)
  | _, _, .op _ _ _ _ h => (calls_of_linTyped h : ∀ f ∈ stmtCalls _, _)
  | _, _, .print _ _ h => (calls_of_linTyped h : ∀ f ∈ stmtCalls _, _)
  | _, _, .ifc _ _ _ ht he => by
    intro f hf
    simp only [stmtCalls, List.mem_append] at hf
    exact hf.elim (calls_of_linTyped he f) (calls_of_linTyped ht f)
  | _, _, .exit _ _ => by intro f hf; simp [stmtCalls] at hf
theorem callsC_of_linTyped {T : List TypeDecl} {S : Sigs} : ∀ {pre post : Ctx} {cs : Clauses},
    LinTypedClauses T S pre post cs → ∀ f ∈ clausesCalls cs, f ∈ S.map (·.1.print)
  | _, _, _, .nil => by intro f hf; simp [clausesCalls] at hf
  | _, _, _, .cons hb hr => by
    intro f hf
    simp only [clausesCalls, List.mem_append] at hf
    exact hf.elim (calls_of_linTyped hb f) (callsC_of_linTyped hr f)
end

theorem callsDefined_of_linTyped {p : AxCut.Prog} (h : LinTypedProg p) :
    ∀ f ∈ defsCalls p.defs, f ∈ p.defs.map (·.name.print) := by
  have hs : ∀ f, f ∈ p.sigs.map (·.1.print) → f ∈ p.defs.map (·.name.print) := by
    intro f hf
    simpa [Prog.sigs, List.map_map] using hf
  have : ∀ (ds : List Def), (∀ d ∈ ds, d ∈ p.defs) → ∀ f ∈ defsCalls ds, f ∈ p.defs.map (·.name.print) := by
    intro ds
    induction ds with
    | nil => intro _ f hf; simp [defsCalls] at hf
    | cons d ds ih =>
      intro hsub f hf
      simp only [defsCalls, List.mem_append] at hf
      rcases hf with hf | hf
      · exact hs f (calls_of_linTyped (h d (hsub d (by simp))) f hf)
      · exact ih (fun x hx => hsub x (by simp [hx])) f hf
  exact this p.defs (fun _ h => h)

end Scc.Backend.Refs
