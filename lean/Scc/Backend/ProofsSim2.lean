/-
  Scc.Backend.ProofsSim2 — the simulation lemmas of ProofsSim.lean (`lit`, `op`, `print`, `ifc`, `exit`,
  `call`, the initial configuration) at the strengthened representation relation `RelX`
  (SimDefs2.lean), the instance `valKit2` (ProofsRep2.lean); on integer contexts `RelX` and `Rel`
  coincide.
-/
import Scc.Backend.ProofsRep2

namespace Scc.Backend.Sim2

open Scc.AxCut Scc.AxCut.Pos Scc.Backend.Abs Scc.Backend.Sim

theorem valsOK_iff_of_ext {P : Program} {hooks : Bool} {types : List TypeDecl} {h : Heap} {σ : Temps}
    {Γ : Ctx} {ρ : List Value} (hext : ∀ b ∈ Γ, b.chi = .ext) :
    ValsOK P hooks types h σ Γ ρ ↔ ValsOK2 P hooks types h σ Γ ρ := by
  have hb : (Chi.ext == Chi.ext) = true := by decide
  constructor
  · intro V i h1 h2
    obtain ⟨hr, hsome, hk, hp⟩ := V i h1 h2
    rw [hext _ (List.getElem_mem h1)] at hr hk hp ⊢
    cases hv : ρ[i] with
    | int n =>
      rw [hv] at hr
      cases hr
      exact ⟨.int _ _, hsome, rfl, hp⟩
    | obj _ _ => rw [hv, hb] at hk; cases hk
    | clo _ _ _ => rw [hv, hb] at hk; cases hk
  · intro V i h1 h2
    obtain ⟨hr, hsome, hk, hp⟩ := V i h1 h2
    rw [hext _ (List.getElem_mem h1)] at hr hk hp ⊢
    cases hv : ρ[i] with
    | int n =>
      rw [hv] at hr
      cases hr
      exact ⟨.int _ _, hsome, hb, hp⟩
    | obj _ _ => rw [hv] at hk; cases hk
    | clo _ _ _ => rw [hv] at hk; cases hk

theorem relX_of_rel {P : Program} {hooks : Bool} {prog : Prog} {st : Pos.State} {cfg : Config}
    (hext : ∀ b ∈ st.ctx, b.chi = .ext) (R : Rel P hooks prog st cfg) : RelX P hooks prog st cfg :=
  ⟨R.len, R.cap, (valsOK_iff_of_ext hext).mp R.vals, R.heap, R.code⟩

theorem rel_of_relX {P : Program} {hooks : Bool} {prog : Prog} {st : Pos.State} {cfg : Config}
    (hext : ∀ b ∈ st.ctx, b.chi = .ext) (R : RelX P hooks prog st cfg) : Rel P hooks prog st cfg :=
  ⟨R.len, R.cap, (valsOK_iff_of_ext hext).mpr R.vals, R.heap, R.code⟩

theorem RelX.readInt {P : Program} {hooks : Bool} {prog : Prog} {st : Pos.State} {cfg : Config}
    (R : RelX P hooks prog st cfg) {x : Ident} {n : Word} (h : readInt st.ctx st.env x = .ok n) :
    ∃ i, Mock.ctxPosition st.ctx x.id = some i ∧ i < st.ctx.length ∧
      cfg.temps.get (2 * i + 1) = some n :=
  (relX_iff.mp R).readInt h

theorem sim2_lit {P : Program} {hooks : Bool} {prog : Prog} {Γ : Ctx} {ρ : List Value} {x : Ident}
    {n : Int} {next : Stmt} {fv : FV} {cfg : Config}
    (R : RelX P hooks prog ⟨Γ, ρ, .lit x n next fv⟩ cfg)
    (hfresh : ∀ b ∈ Γ, b.var.id ≠ x.id) (hcap : 2 * (Γ.length + 1) + 2 < Mock.T_TEMP) :
    ∃ cfg', stepsTo P 1 cfg cfg' ∧ cfg'.out = cfg.out ∧ cfg'.next = cfg.next ∧
      RelX P hooks prog ⟨Γ ++ [⟨x, .ext, .i64⟩], ρ ++ [.int (BitVec.ofInt 64 n)], next⟩ cfg' :=
  let ⟨cfg', h1, h2, h3, h4⟩ := (relX_iff.mp R).lit hfresh hcap
  ⟨cfg', h1, h2, h3, relX_iff.mpr h4⟩

theorem sim2_op {P : Program} {hooks : Bool} {prog : Prog} {Γ : Ctx} {ρ : List Value} {x a b : Ident}
    {o : BinOp} {next : Stmt} {fv : FV} {cfg : Config} {va vb v : Word}
    (R : RelX P hooks prog ⟨Γ, ρ, .op x a o b next fv⟩ cfg)
    (hfresh : ∀ b' ∈ Γ, b'.var.id ≠ x.id) (hcap : 2 * (Γ.length + 1) + 2 < Mock.T_TEMP)
    (ha : readInt Γ ρ a = .ok va) (hb : readInt Γ ρ b = .ok vb) (hv : Pos.evalOp o va vb = .ok v) :
    ∃ cfg', stepsTo P 1 cfg cfg' ∧ cfg'.out = cfg.out ∧ cfg'.next = cfg.next ∧
      RelX P hooks prog ⟨Γ ++ [⟨x, .ext, .i64⟩], ρ ++ [.int v], next⟩ cfg' :=
  let ⟨cfg', h1, h2, h3, h4⟩ := (relX_iff.mp R).op hfresh hcap ha hb hv
  ⟨cfg', h1, h2, h3, relX_iff.mpr h4⟩

theorem sim2_print {P : Program} {hooks : Bool} {prog : Prog} {Γ : Ctx} {ρ : List Value} {a : Ident}
    {nl : Bool} {next : Stmt} {fv : FV} {cfg : Config} {v : Word}
    (R : RelX P hooks prog ⟨Γ, ρ, .print nl a next fv⟩ cfg) (ha : readInt Γ ρ a = .ok v) :
    ∃ cfg', stepsTo P 1 cfg cfg' ∧ cfg'.out = (nl, v) :: cfg.out ∧ cfg'.next = cfg.next ∧
      RelX P hooks prog ⟨Γ, ρ, next⟩ cfg' :=
  let ⟨cfg', h1, h2, h3, h4⟩ := (relX_iff.mp R).print ha
  ⟨cfg', h1, h2, h3, relX_iff.mpr h4⟩

theorem sim2_ifc {P : Program} {hooks : Bool} {prog : Prog} {Γ : Ctx} {ρ : List Value} {a : Ident}
    {b : Option Ident} {srt : IfSort} {t e : Stmt} {cfg : Config} {va vb : Word}
    (R : RelX P hooks prog ⟨Γ, ρ, .ifc srt a b t e⟩ cfg) (ha : readInt Γ ρ a = .ok va)
    (hb : match b with | none => vb = 0 | some b' => readInt Γ ρ b' = .ok vb) :
    ∃ cfg', stepsTo P 1 cfg cfg' ∧ cfg'.out = cfg.out ∧ cfg'.next = cfg.next ∧
      RelX P hooks prog ⟨Γ, ρ, if Pos.evalCmp srt va vb then t else e⟩ cfg' := by
  cases b <;>
  · obtain ⟨cfg', h1, h2, h3, h4⟩ := (relX_iff.mp R).ifc ha hb
    exact ⟨cfg', h1, h2, h3, relX_iff.mpr h4⟩

theorem sim2_exit {P : Program} {hooks : Bool} {prog : Prog} {Γ : Ctx} {ρ : List Value} {a : Ident}
    {cfg : Config} {v : Word}
    (R : RelX P hooks prog ⟨Γ, ρ, .exit a⟩ cfg) (ha : readInt Γ ρ a = .ok v) :
    ∃ cfg', stepsTo P 1 cfg cfg' ∧ cfg'.out = cfg.out ∧ Abs.step P cfg' = .halt (.done v) :=
  (relX_iff.mp R).exit ha

theorem sim2_call {P : Program} {hooks : Bool} {prog : Prog} {Γ : Ctx} {ρ : List Value} {l : Ident}
    {args : Ctx} {cfg : Config} {d : Def}
    (R : RelX P hooks prog ⟨Γ, ρ, .call l args⟩ cfg) (D : DefsAt P hooks prog)
    (hd : Pos.findDef prog.defs l = some d) (hchi : Pos.chiTys Γ = Pos.chiTys d.ctx) :
    ∃ cfg', stepsTo P 1 cfg cfg' ∧ cfg'.out = cfg.out ∧ cfg'.next = cfg.next ∧
      RelX P hooks prog ⟨d.ctx, ρ, d.body⟩ cfg' :=
  let ⟨cfg', h1, h2, h3, h4⟩ := (relX_iff.mp R).call D hd hchi
  ⟨cfg', h1, h2, h3, relX_iff.mpr h4⟩

theorem init_relX (hooks : Bool) (prog : Prog) (c : Nat) (code : List MockOp) (nargs c' : Nat)
    (hcomp : (compile mockSym hooks prog).run c = .ok ((code, nargs), c'))
    (hnodup : (dfns (events code)).Nodup)
    (d0 : Def) (hd : d0 ∈ prog.defs) (hext : ∀ b ∈ d0.ctx, b.chi = .ext)
    (args : List Word) (hlen : d0.ctx.length = args.length)
    (hcap : 2 * d0.ctx.length + 2 < Mock.T_TEMP) :
    ∃ a, (Program.ofOps code).labelAddr (d0.name.print ++ "_") = some a ∧
      RelX (Program.ofOps code) hooks prog ⟨d0.ctx, args.map .int, d0.body⟩ (initConfig a args) ∧
      (initConfig a args).next = 1 :=
  let ⟨a, h1, h2, h3⟩ := Kit.Rel.init hooks prog c code nargs c' hcomp hnodup d0 hd hext args hlen hcap
    (valKit2 _ hooks prog.types)
  ⟨a, h1, relX_iff.mpr h2, h3⟩

end Scc.Backend.Sim2
