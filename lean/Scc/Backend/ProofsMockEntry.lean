/-
  Scc.Backend.ProofsMockEntry — facts about mock code used where a run of the abstract machine on the mock code
  is transported to a real machine: instruction counts and labels of a laid-out list of mock operations; for the
  code of `compile mockSym`, the wrapper labels `asm_main` and `cleanup` are not among its labels, and its
  first item is the label of the first definition.
-/
import Scc.Backend.ProofsSim
import Scc.Backend.ProofsLabelsGen

namespace Scc.Backend.Sim

open Scc.AxCut Scc.Backend.Abs

theorem labelNames_split {n : String} : ∀ {ops : List MockOp}, n ∈ labelNames ops →
    ∃ o1 o2, ops = o1 ++ MockOp.label n :: o2 ∧ n ∉ labelNames o1
  | [], h => by simp [labelNames] at h
  | op :: r, h => by
    by_cases hop : op = .label n
    · subst hop
      exact ⟨[], r, rfl, by simp [labelNames]⟩
    · have hr : n ∈ labelNames r := by
        cases op <;> simp only [labelNames, List.mem_cons] at h <;> try exact h
        rcases h with h | h
        · subst h; exact absurd rfl hop
        · exact h
      obtain ⟨o1, o2, e, hn⟩ := labelNames_split hr
      refine ⟨op :: o1, o2, by rw [e]; rfl, ?_⟩
      cases op <;> simp only [labelNames, List.mem_cons, not_or] <;> try exact hn
      exact ⟨fun e' => hop (by rw [e']), hn⟩

theorem mem_labelNames_of_labelAddr {ops : List MockOp} {n : String} {a : Nat}
    (h : (Program.ofOps ops).labelAddr n = some a) : n ∈ labelNames ops := by
  unfold Program.labelAddr lookupLabel at h
  cases hf : (Program.ofOps ops).labels.find? (fun e => e.1 == n) with
  | none => simp [hf] at h
  | some e =>
    have hm := List.mem_of_find?_eq_some hf
    have he := List.find?_some hf
    simp only [beq_iff_eq] at he
    rw [← layout_snd_names ops 0, ← he]
    exact List.mem_map.2 ⟨e, hm, rfl⟩

theorem ofOps_size (ops : List MockOp) : (Program.ofOps ops).code.size = instrCount ops := by
  simp [Program.ofOps, layout_fst_length]

theorem mock_labels_ne {hooks : Bool} {p : AxCut.Prog} {c : Nat} {code : List MockOp} {nargs c' : Nat}
    (hcomp : (compile mockSym hooks p).run c = .ok ((code, nargs), c')) :
    "asm_main" ∉ labelNames code ∧ "cleanup" ∉ labelNames code := by
  obtain ⟨hev, _⟩ := compileR_events hooks natRen p c code nargs c' hcomp
  rw [labelNames_eq_dfns, hev, dfns_map]
  have key : ∀ l ∈ dfns (defsEvents p.defs c).1, l ≠ Lbl.cleanup := by
    intro l hl e
    subst e
    rcases (defsEvents_range p.defs c).2 _ hl with ⟨f, _, e⟩ | ⟨n, hn, _⟩
    · cases e
    · cases hn
  constructor <;> intro hm <;> obtain ⟨l, hl, e⟩ := List.mem_map.1 hm
  · exact Lab.R_ne_asm_main (key l hl) e
  · exact Lab.R_ne_cleanup (key l hl) e

theorem mock_entry {hooks : Bool} {p : AxCut.Prog} {c : Nat} {code : List MockOp} {nargs c' : Nat}
    {d0 : Def} (hcomp : (compile mockSym hooks p).run c = .ok ((code, nargs), c'))
    (hd : p.defs.head? = some d0) :
    (∃ rest, code = .label (d0.name.print ++ "_") :: rest) ∧ nargs = d0.ctx.length := by
  unfold compile compileR at hcomp
  cases hdefs : p.defs with
  | nil => rw [hdefs] at hd; simp at hd
  | cons d ds =>
    rw [hdefs] at hd hcomp
    simp only [List.head?_cons, Option.some.injEq] at hd
    subst hd
    simp only [run_bind_ok, run_pure_ok, translateR] at hcomp
    obtain ⟨blocks, c1, ⟨is, c2, h1, rest, c3, h2, rfl, rfl⟩, e, rfl⟩ := hcomp
    injection e with e1 e2
    refine ⟨⟨is ++ assemble mockSym rest (ds.map (·.name)), ?_⟩, e2.symm⟩
    rw [← e1]
    rfl

theorem mock_entry_addr (n : String) (rest : List MockOp) :
    (Program.ofOps (.label n :: rest)).labelAddr n = some 0 := by
  simp [Program.ofOps, Program.labelAddr, lookupLabel, Abs.layout]

end Scc.Backend.Sim
