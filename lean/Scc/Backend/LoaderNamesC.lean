/-
  Scc.Backend.LoaderNamesC — WHICH STRINGS the generic code generator hands to the label- and comment-taking
  methods of a backend: the lifting from the methods to `compileR`, for a predicate `COK` on comments.
  The vocabulary (`NoNL`, `StrOK`, `OkcSpec`, `GenLabel`, `CtxVars`, `progNamesOK`, the tactic `lit_ok`) is that of
  Scc/X86/LoaderNames.lean, which is generic in the backend record as well; its full names are `Scc.X86.Loader.…`
  because the theorems of all three loaders are stated with them under these names.  Nothing here rests on x86-64.

  `OpsNamesC B P COK LOK`: comments in `COK` and labels in `LOK` give `P`-codes.  `CommentSpec okc COK`: what
  the traversal needs of `COK`; it holds of `NoNL` (x86-64: a comment is any text without line break) and of
  `CommentOK okc` (AArch64 / RISC-V: their parser reads a comment that starts with `#ctx [` as a heap-monitor
  hook and REJECTS the text if it is not a well-formed hook).

  `CommentOK okc m`: the comment `m` has no line break and is either NOT a `#ctx [` text or EXACTLY the
  hook comment `ctxHookComment ctx` of a context whose variable names are `okc`-strings.
  Every comment of the generator is of this kind, provided `okc '#' = false` (the `op` comment
  `x <- a + b;` and the `call` comment `f(...)` START WITH A NAME; every other comment starts with a
  literal: `substitute `, `let `, `switch `, `create `, `invoke `, `lit `, `print…`, `if `, `exit `,
  `else branch`, `then branch`, `#move variables`, `#erase `, `#share `, `#load tag`, `#there is only…`).
  `MM m`: the text differs from `#ctx [` at a position inside both (stable under appending on the right).
  `argsOK_of_names`: the texts of the generator, by recursion on the statement, as the hypothesis `ArgsOK` of
  the walk of Scc/Backend/ProofsCalls.lean; `post_compileR_gen`: the lifting (`Emitted.lift`);
  `post_compileR_namesC` (`CommentOK`) and `Loader.post_compileR_names` (`NoNL`) are its two instances; in the
  same way `allPG_treeMoves`, `postG_codeClausesR`, `postG_codeMethodsR` have the instances `allPN_treeMoves`,
  `postN_codeClausesR`, `postN_codeMethodsR` in each of the two namespaces `NamesC` and `X86.Loader`.
-/
import Scc.X86.LoaderNames

set_option linter.unusedVariables false

namespace Scc.Backend.NamesC

open Scc.AxCut Scc.X86 Scc.X86.Loader Scc.Backend.Calls

/-! ## texts that are not `#ctx [` hooks -/

def ctxP : List Char := "#ctx [".toList

/-- the text differs from `#ctx [` at a position inside both -/
abbrev MM (m : String) : Prop := mismatch ctxP m.toList = true

theorem mismatch_append {p a : List Char} (b : List Char) (h : mismatch p a = true) :
    mismatch p (a ++ b) = true := by
  induction p generalizing a with
  | nil => simp [mismatch] at h
  | cons x xs ih =>
    cases a with
    | nil => simp [mismatch] at h
    | cons y ys =>
      simp only [mismatch] at h
      simp only [List.cons_append, mismatch]
      split
      · rename_i hxy; simp only [hxy, if_true] at h; exact ih h
      · rfl

theorem not_prefix_of_mismatch {p a : List Char} (h : mismatch p a = true) : ¬ p <+: a := by
  induction p generalizing a with
  | nil => simp [mismatch] at h
  | cons x xs ih =>
    cases a with
    | nil => simp [mismatch] at h
    | cons y ys =>
      simp only [mismatch] at h
      intro hp
      obtain ⟨t, ht⟩ := hp
      simp only [List.cons_append, List.cons.injEq] at ht
      simp only [ht.1, if_true] at h
      exact ih h ⟨t, ht.2⟩

theorem mm_append {a b : String} (h : MM a) : MM (a ++ b) := by
  show mismatch ctxP (a ++ b).toList = true
  rw [String.toList_append]; exact mismatch_append _ h

theorem mm_not_prefix {m : String} (h : MM m) : ¬ ctxP <+: m.toList := not_prefix_of_mismatch h

theorem mm_ofList {cs : List Char} (h : mismatch ctxP cs = true) : MM (String.ofList cs) := by
  rwa [MM, String.toList_ofList]

/-- The second rule of `lit_ok` (the first, X86/LoaderNames.lean, proves `NoNL` of a literal): `MM` of a literal from
`mismatch ctxP` of its characters, again one `decide`.  A tactic with several rules tries them, the last declared
first, until one closes the goal, so `by lit_ok` proves whichever of `NoNL "…"` and `MM "…"` is asked:
`C.lit (by lit_ok) (by lit_ok)` uses one rule for each argument. -/
macro_rules | `(tactic| lit_ok) => `(tactic| exact mm_ofList (by decide))

/-- a text that starts with a name (of characters other than `#`) -/
theorem mm_strOK_append {okc : Char → Bool} (hh : okc '#' = false) {a b : String} (ha : StrOK okc a)
    (hb : MM b) : MM (a ++ b) := by
  show mismatch ctxP (a ++ b).toList = true
  rw [String.toList_append]
  cases hl : a.toList with
  | nil => exact hb
  | cons x xs =>
    have hx : okc x = true := ha x (by rw [hl]; simp)
    have : '#' ≠ x := by intro e; rw [← e, hh] at hx; cases hx
    show mismatch ('#' :: _) (x :: _) = true
    simp only [mismatch, this, if_false]

/-- **what every comment of the generator is** -/
def CommentOK (okc : Char → Bool) (m : String) : Prop :=
  NoNL m ∧ (¬ ctxP <+: m.toList ∨ ∃ ctx, CtxVars okc ctx ∧ m = ctxHookComment ctx)

theorem cok_mm {okc : Char → Bool} {m : String} (h1 : NoNL m) (h2 : MM m) : CommentOK okc m :=
  ⟨h1, Or.inl (mm_not_prefix h2)⟩

/-- what the traversal needs of the predicate on comments: it holds of the hook comments, and of every
    text without line break that differs from `#ctx [` (the `op` and `call` comments start with a name:
    they differ from `#ctx [` when `#` is no name character) -/
structure CommentSpec (okc : Char → Bool) (COK : String → Prop) : Prop where
  hook : ∀ {ctx}, CtxVars okc ctx → COK (ctxHookComment ctx)
  text : ∀ {m}, NoNL m → (okc '#' = false → MM m) → COK m

theorem CommentSpec.lit {okc : Char → Bool} {COK : String → Prop} (C : CommentSpec okc COK) {m : String}
    (h1 : NoNL m) (h2 : MM m) : COK m := C.text h1 fun _ => h2

theorem commentSpec_noNL {okc : Char → Bool} (H : OkcSpec okc) : CommentSpec okc NoNL where
  hook := noNL_ctxHookComment H
  text := fun h _ => h

theorem commentSpec_commentOK {okc : Char → Bool} (H : OkcSpec okc) (hh : okc '#' = false) :
    CommentSpec okc (CommentOK okc) where
  hook := fun hc => ⟨noNL_ctxHookComment H hc, Or.inr ⟨_, hc, rfl⟩⟩
  text := fun h1 h2 => cok_mm h1 (h2 hh)

section Generic

variable {Code T : Type} (B : Backend Code T) (P : Code → Prop) (COK : String → Prop) (LOK : String → Prop)

/-- what the generic generator needs from the backend methods: comments in `COK` and
    labels in `LOK` give `P`-codes, whatever the temporaries and numbers are -/
structure OpsNamesC : Prop where
  comment : ∀ m, COK m → P (B.comment m)
  label : ∀ l, LOK l → P (B.label l)
  jump : ∀ t, AllP P (B.jump t)
  jumpLabel : ∀ l, LOK l → AllP P (B.jumpLabel l)
  jumpLabelFixed : ∀ l, LOK l → AllP P (B.jumpLabelFixed l)
  jumpLabelIf : ∀ s a b l, LOK l → AllP P (B.jumpLabelIf s a b l)
  jumpLabelIfZero : ∀ s a l, LOK l → AllP P (B.jumpLabelIfZero s a l)
  loadImmediate : ∀ t n, AllP P (B.loadImmediate t n)
  loadLabel : ∀ t l, LOK l → AllP P (B.loadLabel t l)
  addAndJump : ∀ t k, AllP P (B.addAndJump t k)
  binop : ∀ o t s1 s2, AllP P (B.binop o t s1 s2)
  mov : ∀ t s, AllP P (B.mov t s)
  printI64 : ∀ nl t ctx, Post (B.printI64 nl t ctx) (AllP P)
  eraseBlock : ∀ t, Post (B.eraseBlock t) (AllP P)
  shareBlockN : ∀ t n, Post (B.shareBlockN t n) (AllP P)
  store : ∀ a b, Post (B.store a b) (AllP P)
  load : ∀ a b, Post (B.load a b) (AllP P)
  storeTemporary : ∀ t sp, AllP P (B.storeTemporary t sp)
  restoreTemporary : ∀ t sp, AllP P (B.restoreTemporary t sp)

variable {B P COK LOK} {okc : Char → Bool}

/-- what `OpsNamesC` uses of the arguments -/
def OpsNamesC.facts (S : OpsNamesC B P COK LOK) : Facts T := { COK := COK, LOK := LOK, JOK := LOK }

theorem OpsNamesC.temps (S : OpsNamesC B P COK LOK) : TempsOK B S.facts :=
  ⟨trivial, trivial, fun _ _ _ => Post.true _, fun _ _ => Post.true _⟩

theorem allPG_codeTable (S : OpsNamesC B P COK LOK) {base : String} :
    ∀ (cs : Clauses), TableOK LOK base cs → AllP P (codeTable B cs base)
  | .nil, _ => by simp only [codeTable]; exact AllP.nil
  | .cons xtor _ _ rest, h => by
    simp only [codeTable]
    exact AllP.append (S.jumpLabelFixed _ h.1) (allPG_codeTable S rest h.2)

theorem OpsNamesC.call (S : OpsNamesC B P COK LOK) : ∀ c, Good B S.facts c → Post (c.run B) (AllP P)
  | .comment m, h => Post.pure (AllP.single (S.comment m h))
  | .label l, h => Post.pure (AllP.single (S.label l h))
  | .table l cs, h => Post.pure (AllP.cons (S.label l h.2.1) (allPG_codeTable S cs h.2.2))
  | .jump t, _ => Post.pure (S.jump t)
  | .jumpLabel l, h => Post.pure (S.jumpLabel l h)
  | .jumpLabelIf s a b l, h => Post.pure (S.jumpLabelIf s a b l h.2.2)
  | .jumpLabelIfZero s a l, h => Post.pure (S.jumpLabelIfZero s a l h.2)
  | .loadImmediate t n, _ => Post.pure (S.loadImmediate t n)
  | .loadLabel t l, h => Post.pure (S.loadLabel t l h.2.2)
  | .addAndJump t n, _ => Post.pure (S.addAndJump t n)
  | .binop o t s1 s2, _ => Post.pure (S.binop o t s1 s2)
  | .mov t s, _ => Post.pure (S.mov t s)
  | .printI64 nl t ctx, _ => S.printI64 nl t ctx
  | .eraseBlock t, _ => S.eraseBlock t
  | .shareBlockN t n, _ => S.shareBlockN t n
  | .store a b, _ => S.store a b
  | .load a b, _ => S.load a b
  | .storeTemporary t sp, _ => Post.pure (S.storeTemporary t sp)
  | .restoreTemporary t sp, _ => Post.pure (S.restoreTemporary t sp)

theorem OpsNamesC.lift (S : OpsNamesC B P COK LOK) {code : List Code}
    (h : Emitted B (Good B S.facts) code) : AllP P code :=
  h.lift AllP.nil AllP.append S.call

theorem allPG_treeMoves (S : OpsNamesC B P COK LOK) (t : T) (sp : Bool) :
    ∀ (tr : Tree T), AllP P (treeMoves B t sp tr) :=
  fun tr => S.lift (emitted_treeMoves (F := S.facts) trivial sp tr (treeOK_true tr))

/-! parallel moves and substitutions ask for fixed comments and `#erase x` / `#share x` only: the comment predicate
`MM` suffices -/

theorem fixedM (S : OpsNamesC B P MM LOK) : Fixed S.facts where
  moves := mm_ofList (by decide)
  loadTag := mm_ofList (by decide)
  fall := mm_ofList (by decide)
  direct := mm_ofList (by decide)
  elseB := mm_ofList (by decide)
  thenB := mm_ofList (by decide)

theorem postM_codeExchange (S : OpsNamesC B P MM LOK) (tm : List (Binding × List Nat)) (context newContext : Ctx) :
    Post (codeExchange B tm context newContext) (AllP P) :=
  (emitted_codeExchange S.temps (fixedM S) tm context newContext).mono fun _ => S.lift

theorem postM_codeWeakeningContraction (S : OpsNamesC B P MM LOK) (context : Ctx) (tm : List (Binding × List Nat)) :
    Post (codeWeakeningContraction B tm context) (AllP P) :=
  (emitted_codeWeakeningContraction S.temps context tm fun _ _ => ⟨fun _ _ => trivial, fun _ =>
    ⟨trivial, mm_append (mm_ofList (by decide)), mm_append (mm_ofList (by decide))⟩⟩).mono fun _ => S.lift

end Generic

/-! ## the texts of the generator: every comment is `COK`, every label a `GenLabel` -/

section Traversal

variable {Code T : Type} {B : Backend Code T} {P : Code → Prop} {COK : String → Prop} {okc : Char → Bool}
  {ren : Nat → String}

theorem genLabel_us (H : OkcSpec okc) {a : String} (ha : StrOK okc a) {b : String} (hb : StrOK okc b) :
    GenLabel okc ren (a ++ "_" ++ b) := by
  refine Or.inl ⟨strOK_append.2 ⟨strOK_append.2 ⟨ha, strOK_us H⟩, hb⟩, ?_⟩
  simp [String.toList_append]

theorem genLabel_us' (H : OkcSpec okc) {a : String} (ha : StrOK okc a) : GenLabel okc ren (a ++ "_") := by
  refine Or.inl ⟨strOK_append.2 ⟨ha, strOK_us H⟩, ?_⟩
  simp [String.toList_append]

theorem strOK_of_genLabel_us (H : OkcSpec okc) {a : String} (ha : StrOK okc a) {b : String} (hb : StrOK okc b) :
    StrOK okc (a ++ "_" ++ b) := strOK_append.2 ⟨strOK_append.2 ⟨ha, strOK_us H⟩, hb⟩

theorem ctxVars_take {ctx : Ctx} (h : CtxVars okc ctx) (n : Nat) : CtxVars okc (ctx.take n) :=
  h.sub (fun _ hx => List.mem_of_mem_take hx)
theorem ctxVars_drop {ctx : Ctx} (h : CtxVars okc ctx) (n : Nat) : CtxVars okc (ctx.drop n) :=
  h.sub (fun _ hx => List.mem_of_mem_drop hx)
theorem ctxVars_dropLast {ctx : Ctx} (h : CtxVars okc ctx) : CtxVars okc ctx.dropLast :=
  h.sub (fun _ hx => by rw [List.dropLast_eq_take] at hx; exact List.mem_of_mem_take hx)

theorem OpsNamesC.fixed (C : CommentSpec okc COK) (S : OpsNamesC B P COK (GenLabel okc ren)) :
    Fixed S.facts where
  moves := C.lit (by lit_ok) (by lit_ok)
  loadTag := C.lit (by lit_ok) (by lit_ok)
  fall := C.lit (by lit_ok) (by lit_ok)
  direct := C.lit (by lit_ok) (by lit_ok)
  elseB := C.lit (by lit_ok) (by lit_ok)
  thenB := C.lit (by lit_ok) (by lit_ok)

mutual
theorem argsOK_of_names (H : OkcSpec okc) (C : CommentSpec okc COK) (hren : ∀ n, StrOK okc (ren n))
    (S : OpsNamesC B P COK (GenLabel okc ren)) (hooks : Bool) :
    ∀ (s : Stmt) (Γ : Ctx), stmtNamesOK okc s = true → CtxVars okc Γ → ArgsOK S.facts hooks ren s Γ
  | .subst r next, Γ, hb, hc => by
    simp only [stmtNamesOK, Bool.and_eq_true, List.all_eq_true] at hb
    have hnew : CtxVars okc (r.map (·.1)) := by
      intro b hbm
      obtain ⟨e, he, rfl⟩ := List.mem_map.1 hbm
      exact (hb.1 e he).1
    simp only [ArgsOK]
    refine ⟨fun _ => C.hook hc, C.lit (noNL_substComment H hb.1) (mm_append (mm_append (by lit_ok))),
      fun b hbm _ => ⟨trivial, ?_, ?_⟩, fun _ _ => trivial, argsOK_of_names H C hren S hooks next _ hb.2 hnew⟩
    · exact C.lit (noNL_append.2 ⟨by lit_ok, noNL_print H (hc b hbm)⟩) (mm_append (by lit_ok))
    · exact C.lit (noNL_append.2 ⟨by lit_ok, noNL_print H (hc b hbm)⟩) (mm_append (by lit_ok))
  | .call l _, Γ, hb, hc => by
    simp only [stmtNamesOK] at hb
    exact ⟨fun _ => C.hook hc, C.text (noNL_append.2 ⟨noNL_print H hb, by lit_ok⟩)
        fun hh => mm_strOK_append hh (strOK_print H hb) (by lit_ok),
      genLabel_us' H (strOK_print H hb)⟩
  | .letS var ty tag args next _, Γ, hb, hc => by
    simp only [stmtNamesOK, Bool.and_eq_true] at hb
    obtain ⟨⟨⟨⟨hvar, hty⟩, htag⟩, hargs⟩, hnext⟩ := hb
    simp only [ArgsOK]
    refine ⟨fun _ => C.hook hc, trivial, C.lit ?_ ?_,
      argsOK_of_names H C hren S hooks next _ hnext ((ctxVars_take hc _).append (CtxVars.single hvar))⟩
    · simp only [noNL_append]
      exact ⟨⟨⟨⟨⟨⟨⟨⟨by lit_ok, noNL_print H hvar⟩, by lit_ok⟩, noNL_tyPrint hty⟩, by lit_ok⟩, noNL_print H htag⟩,
        by lit_ok⟩, noNL_varsPrint H (ctxVars_of_ctxOK hargs)⟩, by lit_ok⟩
    · exact mm_append (mm_append (mm_append (mm_append (mm_append (mm_append (mm_append (mm_append (by lit_ok))))))))
  | .switch var ty cls _, Γ, hb, hc => by
    simp only [stmtNamesOK, Bool.and_eq_true] at hb
    obtain ⟨⟨hvar, hty⟩, hcl⟩ := hb
    simp only [ArgsOK]
    exact ⟨fun _ => C.hook hc, trivial,
      C.lit (noNL_append.2 ⟨noNL_append.2 ⟨by lit_ok, noNL_print H hvar⟩, by lit_ok⟩)
        (mm_append (mm_append (by lit_ok))),
      fun n => ⟨genLabel_us H (strOK_mangleTy hty) (hren n),
        clausesOK_of_names H C hren S hooks cls _ _ hcl (ctxVars_dropLast hc)
          (strOK_of_genLabel_us H (strOK_mangleTy hty) (hren n))⟩⟩
  | .create _ _ none _ _ _ _, Γ, _, _ => by simp only [ArgsOK]
  | .create var ty (some env) cls next _ _, Γ, hb, hc => by
    simp only [stmtNamesOK, Bool.and_eq_true] at hb
    obtain ⟨⟨⟨⟨⟨hvar, hty⟩, htyl⟩, henv⟩, hcl⟩, hnext⟩ := hb
    simp only [ArgsOK]
    refine ⟨fun _ => C.hook hc, trivial, C.lit ?_ ?_,
      argsOK_of_names H C hren S hooks next _ hnext ((ctxVars_take hc _).append (CtxVars.single hvar)),
      fun n => ⟨genLabel_us H (strOK_mangleTy htyl) (hren n),
        methodsOK_of_names H C hren S hooks cls _ _ hcl (ctxVars_drop hc _)
          (strOK_of_genLabel_us H (strOK_mangleTy htyl) (hren n))⟩⟩
    · simp only [noNL_append]
      exact ⟨⟨⟨⟨⟨⟨by lit_ok, noNL_print H hvar⟩, by lit_ok⟩, noNL_tyPrint hty⟩, by lit_ok⟩,
        noNL_varsPrint H (ctxVars_of_ctxOK henv)⟩, by lit_ok⟩
    · exact mm_append (mm_append (mm_append (mm_append (mm_append (mm_append (by lit_ok))))))
  | .invoke var tag _ args, Γ, hb, hc => by
    simp only [stmtNamesOK, Bool.and_eq_true] at hb
    obtain ⟨⟨hvar, htag⟩, hargs⟩ := hb
    refine ⟨fun _ => C.hook hc, trivial, C.lit (noNL_invokePrint H hvar htag hargs) ?_⟩
    unfold invokePrint
    exact mm_append (mm_append (mm_append (mm_append (by lit_ok))))
  | .lit var n next _, Γ, hb, hc => by
    simp only [stmtNamesOK, Bool.and_eq_true] at hb
    simp only [ArgsOK]
    refine ⟨fun _ => C.hook hc, C.lit ?_ ?_, trivial,
      argsOK_of_names H C hren S hooks next _ hb.2 (hc.append (CtxVars.single hb.1))⟩
    · simp only [noNL_append]
      exact ⟨⟨⟨⟨by lit_ok, noNL_print H hb.1⟩, by lit_ok⟩, noNL_intToString n⟩, by lit_ok⟩
    · exact mm_append (mm_append (mm_append (mm_append (by lit_ok))))
  | .op var a o b next _, Γ, hb, hc => by
    simp only [stmtNamesOK, Bool.and_eq_true] at hb
    obtain ⟨⟨⟨hvar, hfst⟩, hsnd⟩, hnext⟩ := hb
    simp only [ArgsOK]
    refine ⟨fun _ => C.hook hc, C.text ?_ fun hh => ?_, False.elim,
      argsOK_of_names H C hren S hooks next _ hnext (hc.append (CtxVars.single hvar))⟩
    · simp only [noNL_append]
      exact ⟨⟨⟨⟨⟨⟨⟨noNL_print H hvar, by lit_ok⟩, noNL_print H hfst⟩, by lit_ok⟩, noNL_opSym o⟩, by lit_ok⟩,
        noNL_print H hsnd⟩, by lit_ok⟩
    · exact mm_append (mm_append (mm_append (mm_append (mm_append (mm_append
        (mm_strOK_append hh (strOK_print H hvar) (by lit_ok)))))))
  | .print nl var next _, Γ, hb, hc => by
    simp only [stmtNamesOK, Bool.and_eq_true] at hb
    simp only [ArgsOK]
    refine ⟨fun _ => C.hook hc, C.lit ?_ ?_, argsOK_of_names H C hren S hooks next _ hb.2 hc⟩
    · simp only [noNL_append]
      refine ⟨⟨⟨?_, by lit_ok⟩, noNL_print H hb.1⟩, by lit_ok⟩
      cases nl <;> decide
    · refine mm_append (mm_append (mm_append ?_))
      cases nl <;> decide
  | .ifc sort a b t e, Γ, hb, hc => by
    simp only [stmtNamesOK, Bool.and_eq_true] at hb
    obtain ⟨⟨⟨hfst, hsnd⟩, hthen⟩, helse⟩ := hb
    simp only [ArgsOK]
    refine ⟨fun _ => C.hook hc, C.lit (noNL_ifcComment H sort hfst fun s hs => by subst hs; exact hsnd) ?_,
      fun n => ⟨Or.inr (Or.inl ⟨n, rfl⟩), Or.inr (Or.inl ⟨n, rfl⟩)⟩,
      argsOK_of_names H C hren S hooks e _ helse hc, argsOK_of_names H C hren S hooks t _ hthen hc⟩
    unfold ifcComment
    exact mm_append (mm_append (mm_append (mm_append (mm_append (mm_append (by lit_ok))))))
  | .exit var, Γ, hb, hc => by
    simp only [stmtNamesOK] at hb
    exact ⟨fun _ => C.hook hc, C.lit (noNL_append.2 ⟨by lit_ok, noNL_print H hb⟩) (mm_append (by lit_ok)),
      Or.inr (Or.inr rfl)⟩
theorem clausesOK_of_names (H : OkcSpec okc) (C : CommentSpec okc COK) (hren : ∀ n, StrOK okc (ren n))
    (S : OpsNamesC B P COK (GenLabel okc ren)) (hooks : Bool) :
    ∀ (cs : Clauses) (Γ : Ctx) (base : String), clausesNamesOK okc cs = true → CtxVars okc Γ → StrOK okc base →
      ClausesOK S.facts hooks ren cs Γ base
  | .nil, _, _, _, _, _ => by simp only [ClausesOK]
  | .cons x cctx body rest, Γ, base, hb, hc, hbase => by
    simp only [clausesNamesOK, Bool.and_eq_true] at hb
    obtain ⟨⟨⟨hx, hctx⟩, hbody⟩, hrest⟩ := hb
    simp only [ClausesOK]
    exact ⟨genLabel_us H hbase (strOK_print H hx),
      argsOK_of_names H C hren S hooks body _ hbody (hc.append (ctxVars_of_ctxOK hctx)),
      clausesOK_of_names H C hren S hooks rest Γ base hrest hc hbase⟩
theorem methodsOK_of_names (H : OkcSpec okc) (C : CommentSpec okc COK) (hren : ∀ n, StrOK okc (ren n))
    (S : OpsNamesC B P COK (GenLabel okc ren)) (hooks : Bool) :
    ∀ (cs : Clauses) (env : Ctx) (base : String), clausesNamesOK okc cs = true → CtxVars okc env →
      StrOK okc base → MethodsOK S.facts hooks ren cs env base
  | .nil, _, _, _, _, _ => by simp only [MethodsOK]
  | .cons x cctx body rest, env, base, hb, hc, hbase => by
    simp only [clausesNamesOK, Bool.and_eq_true] at hb
    obtain ⟨⟨⟨hx, hctx⟩, hbody⟩, hrest⟩ := hb
    simp only [MethodsOK]
    exact ⟨genLabel_us H hbase (strOK_print H hx),
      argsOK_of_names H C hren S hooks body _ hbody ((ctxVars_of_ctxOK hctx).append hc),
      methodsOK_of_names H C hren S hooks rest env base hrest hc hbase⟩
end

theorem postG_codeClausesR (H : OkcSpec okc) (C : CommentSpec okc COK) (hren : ∀ n, StrOK okc (ren n))
    (S : OpsNamesC B P COK (GenLabel okc ren)) (hooks : Bool) (types : List TypeDecl) (context : Ctx)
    (hc : CtxVars okc context) (cs : Clauses) (baseLabel : String) (hb : clausesNamesOK okc cs = true)
    (hbase : StrOK okc baseLabel) : Post (codeClausesR B hooks ren types context cs baseLabel) (AllP P) :=
  (emitted_codeClausesR S.temps (S.fixed C) hooks ren (fun _ _ _ _ => trivial) context cs baseLabel
    (clausesOK_of_names H C hren S hooks cs _ _ hb hc hbase) trivial).mono fun _ => S.lift

theorem postG_codeMethodsR (H : OkcSpec okc) (C : CommentSpec okc COK) (hren : ∀ n, StrOK okc (ren n))
    (S : OpsNamesC B P COK (GenLabel okc ren)) (hooks : Bool) (types : List TypeDecl) (env : Ctx)
    (hc : CtxVars okc env) (cs : Clauses) (baseLabel : String) (hb : clausesNamesOK okc cs = true)
    (hbase : StrOK okc baseLabel) : Post (codeMethodsR B hooks ren types env cs baseLabel) (AllP P) :=
  (emitted_codeMethodsR S.temps (S.fixed C) hooks ren (fun _ _ _ _ => trivial) env cs baseLabel
    (methodsOK_of_names H C hren S hooks cs _ _ hb hc hbase) trivial).mono fun _ => S.lift

/-- GENERIC LIFTING for names: every code emitted for a program whose names are `okc`-strings (`progNamesOK okc p`)
    satisfies `P`, if the backend methods produce `P`-codes from `COK` comments and `GenLabel`s -/
theorem post_compileR_gen (H : OkcSpec okc) (C : CommentSpec okc COK) (hren : ∀ n, StrOK okc (ren n))
    (S : OpsNamesC B P COK (GenLabel okc ren)) (hooks : Bool) (p : AxCut.Prog) (hp : progNamesOK okc p = true) :
    Post (compileR B hooks ren p) (fun r => AllP P r.1) := by
  simp only [progNamesOK, List.all_eq_true] at hp
  refine (emitted_compileR S.temps (S.fixed C) hooks ren p ⟨fun _ _ _ _ => trivial, fun d hd => ?_⟩).mono
    fun _ => S.lift
  have := hp d hd
  simp only [defNamesOK, Bool.and_eq_true] at this
  exact ⟨genLabel_us' H (strOK_print H this.1.1),
    argsOK_of_names H C hren S hooks d.body d.ctx this.2 (ctxVars_of_ctxOK this.1.2)⟩

end Traversal

/-! ## comments in `CommentOK` -/

section

variable {Code T : Type} {B : Backend Code T} {P : Code → Prop} {LOK : String → Prop} {okc : Char → Bool}

theorem allPN_treeMoves (S : OpsNamesC B P (CommentOK okc) LOK) (t : T) (sp : Bool) : ∀ (tr : Tree T), AllP P (treeMoves B t sp tr) :=
  allPG_treeMoves S t sp

end

section

variable {Code T : Type} {B : Backend Code T} {P : Code → Prop} {okc : Char → Bool} {ren : Nat → String}

theorem postN_codeClausesR (H : OkcSpec okc) (hh : okc '#' = false) (hren : ∀ n, StrOK okc (ren n))
    (S : OpsNamesC B P (CommentOK okc) (GenLabel okc ren)) (hooks : Bool) (types : List TypeDecl) (context : Ctx)
    (hc : CtxVars okc context) :
    ∀ (cs : Clauses) (baseLabel : String), clausesNamesOK okc cs = true → StrOK okc baseLabel →
      Post (codeClausesR B hooks ren types context cs baseLabel) (AllP P) :=
  postG_codeClausesR H (commentSpec_commentOK H hh) hren S hooks types context hc

theorem postN_codeMethodsR (H : OkcSpec okc) (hh : okc '#' = false) (hren : ∀ n, StrOK okc (ren n))
    (S : OpsNamesC B P (CommentOK okc) (GenLabel okc ren)) (hooks : Bool) (types : List TypeDecl) (env : Ctx)
    (hc : CtxVars okc env) :
    ∀ (cs : Clauses) (baseLabel : String), clausesNamesOK okc cs = true → StrOK okc baseLabel →
      Post (codeMethodsR B hooks ren types env cs baseLabel) (AllP P) :=
  postG_codeMethodsR H (commentSpec_commentOK H hh) hren S hooks types env hc

theorem post_compileR_namesC (H : OkcSpec okc) (hh : okc '#' = false) (hren : ∀ n, StrOK okc (ren n))
    (S : OpsNamesC B P (CommentOK okc) (GenLabel okc ren)) (hooks : Bool) (p : AxCut.Prog) (hp : progNamesOK okc p = true) :
    Post (compileR B hooks ren p) (fun r => AllP P r.1) :=
  post_compileR_gen H (commentSpec_commentOK H hh) hren S hooks p hp

end

end Scc.Backend.NamesC

/-! ## comments in `NoNL` -/

namespace Scc.X86.Loader

open Scc.AxCut Scc.Backend Scc.Backend.NamesC

section

variable {Code T : Type} {B : Backend Code T} {P : Code → Prop} {LOK : String → Prop}

theorem OpsNames.toC (S : OpsNames B P LOK) : OpsNamesC B P NoNL LOK := { S with }

theorem allPN_treeMoves (S : OpsNames B P LOK) (t : T) (sp : Bool) : ∀ (tr : Tree T), AllP P (treeMoves B t sp tr) :=
  allPG_treeMoves S.toC t sp

end

section

variable {Code T : Type} {B : Backend Code T} {P : Code → Prop} {okc : Char → Bool} {ren : Nat → String}

theorem postN_codeClausesR (H : OkcSpec okc) (hren : ∀ n, StrOK okc (ren n))
    (S : OpsNames B P (GenLabel okc ren)) (hooks : Bool) (types : List TypeDecl) (context : Ctx)
    (hc : CtxVars okc context) :
    ∀ (cs : Clauses) (baseLabel : String), clausesNamesOK okc cs = true → StrOK okc baseLabel →
      Post (codeClausesR B hooks ren types context cs baseLabel) (AllP P) :=
  postG_codeClausesR H (commentSpec_noNL H) hren S.toC hooks types context hc

theorem postN_codeMethodsR (H : OkcSpec okc) (hren : ∀ n, StrOK okc (ren n))
    (S : OpsNames B P (GenLabel okc ren)) (hooks : Bool) (types : List TypeDecl) (env : Ctx)
    (hc : CtxVars okc env) :
    ∀ (cs : Clauses) (baseLabel : String), clausesNamesOK okc cs = true → StrOK okc baseLabel →
      Post (codeMethodsR B hooks ren types env cs baseLabel) (AllP P) :=
  postG_codeMethodsR H (commentSpec_noNL H) hren S.toC hooks types env hc

theorem post_compileR_names (H : OkcSpec okc) (hren : ∀ n, StrOK okc (ren n))
    (S : OpsNames B P (GenLabel okc ren)) (hooks : Bool) (p : AxCut.Prog) (hp : progNamesOK okc p = true) :
    Post (compileR B hooks ren p) (fun r => AllP P r.1) :=
  post_compileR_gen H (commentSpec_noNL H) hren S.toC hooks p hp

end

end Scc.X86.Loader
