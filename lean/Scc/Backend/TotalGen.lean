/-
  Scc.Backend.TotalGen — THE GENERIC CODE GENERATOR IS TOTAL-OR-CAPACITY ON LINEARLY TYPED PROGRAMS
  (property C12, link `codegen_total`), for every backend satisfying `TotalBackend B cap fits`
  (TotalDefs.lean):

    `Tot_codeStatementR`   LinTyped types sigs Γ s → fits (capStmt Γ.length s) →
                           Tot cap (codeStatementR B hooks ren types s Γ)
    `Tot_compileR`         LinTypedProg p → p.defs ≠ [] → fits (progCap p) → Tot cap (compileR B hooks ren p)

  i.e. from every value of the label counter the generator returns code or an error whose message
  satisfies `cap`; none of the other panic sites of the model (= of axcut2backend) is reachable:
    "Variable … not found in context"          every looked-up variable is in the context (LinTyped gives
                                               the exact contexts; `HasVar`, the split-off suffixes);
    "User-defined type cannot be i64", "Type … not found", "Xtor … not found in type declaration …"
                                               `lookupXtor` of the typing rule for let / invoke;
    "attempt to subtract with overflow"        `split_off`: arguments / closure environment are a suffix;
    "Closure environment must be annotated"    the typing rule for create has an annotated environment;
    "spanning_forest: key not found", "spanning_tree: unbounded recursion (stack overflow)"
                                               the move graph of a subst with pairwise distinct new
                                               variables is functional (TotalSubst.lean, TotalPM.lean);
    "index out of bounds: the len is 0 …"      the program has a definition.
  `fits` is the capacity for which the backend methods are claimed total; `capStmt`/`progCap`
  (Scc/AxCut/PosCapacity.lean) is the static bound on the length of the contexts the generator visits.
-/
import Scc.Backend.TotalSubst
import Scc.Backend.TotalKeys
import Scc.AxCut.PosCapacity

namespace Scc.Backend.Total

open Scc.AxCut Scc.AxCut.Pos

/-! ## the lookups of the generic part succeed on typed statements -/

section
variable {cap : String → Prop}

theorem TotP_lookupTypeDeclM {types : List TypeDecl} {ty : Ty} {d : TypeDecl}
    (h : lookupTypeDecl types ty = some d) : TotP cap (fun d' => d' = d) (lookupTypeDeclM types ty) := by
  unfold lookupTypeDeclM
  cases ty with
  | i64 => simp [lookupTypeDecl] at h
  | decl n =>
    dsimp only
    rw [h]
    exact TotP.pure rfl

theorem xtorPosition_go_isSome {tag : Ident} : ∀ (xs : List XtorSig) (i : Nat) (x : XtorSig),
    xs.find? (fun x => x.name == tag) = some x → ∃ j, xtorPosition.go tag xs i = some j
  | [], _, _, h => by simp at h
  | y :: ys, i, x, h => by
    unfold xtorPosition.go
    by_cases hy : (y.name == tag) = true
    · exact ⟨i, by simp [hy]⟩
    · simp only [hy, if_false, Bool.false_eq_true]
      rw [List.find?_cons] at h
      simp only [hy] at h
      exact xtorPosition_go_isSome ys (i + 1) x h

theorem Tot_xtorPositionM {d : TypeDecl} {tag : Ident} {x : XtorSig}
    (h : d.xtors.find? (fun x => x.name == tag) = some x) : Tot cap (xtorPositionM d tag) := by
  unfold xtorPositionM xtorPosition
  obtain ⟨j, hj⟩ := xtorPosition_go_isSome d.xtors 0 x h
  rw [hj]
  exact Tot.pure _

theorem TotP_splitOffLast {Γ : Ctx} {n : Nat} (h : n ≤ Γ.length) :
    TotP cap (fun r => r = (Γ.take (Γ.length - n), Γ.drop (Γ.length - n))) (splitOffLast Γ n) := by
  unfold splitOffLast
  rw [if_pos h]
  exact TotP.pure rfl

/-- `lookupXtor` = `lookupTypeDecl` followed by `find?` -/
theorem lookupXtor_some {types : List TypeDecl} {ty : Ty} {tag : Ident} {sig : Ctx}
    (h : lookupXtor types ty tag = some sig) :
    ∃ d x, lookupTypeDecl types ty = some d ∧ d.xtors.find? (fun x => x.name == tag) = some x := by
  unfold lookupXtor at h
  cases hd : lookupTypeDecl types ty with
  | none => simp [hd] at h
  | some d =>
    simp only [hd] at h
    cases hx : d.xtors.find? (fun x => x.name == tag) with
    | none => simp [hx] at h
    | some x => exact ⟨d, x, rfl, hx⟩

end

theorem hasVar_mem {Γ : Ctx} {x : Nat} {chi : Chi} {ty : Ty} (h : HasVar Γ x chi ty) :
    ∃ b ∈ Γ, b.var.id = x := by
  obtain ⟨b, hb, h1, _⟩ := h
  exact ⟨b, hb, h1⟩

theorem mem_append_left' {Γ Δ : Ctx} {x : Nat} (h : ∃ b ∈ Γ, b.var.id = x) :
    ∃ b ∈ Γ ++ Δ, b.var.id = x := by
  obtain ⟨b, hb, h1⟩ := h
  exact ⟨b, List.mem_append_left _ hb, h1⟩

theorem mem_snoc_self (Γ : Ctx) (b : Binding) : ∃ b' ∈ Γ ++ [b], b'.var.id = b.var.id :=
  ⟨b, by simp, rfl⟩

theorem id_of_key {b : Binding} {x : Nat} {chi : Chi} {ty : Ty} (h : b.key = (x, chi, ty)) :
    b.var.id = x := by
  simp only [Binding.key, Prod.mk.injEq] at h
  exact h.1

/-! ## the generator is total, statement form by statement form -/

section
variable {Code T : Type} {B : Backend Code T} {cap : String → Prop} {fits : Nat → Prop}
variable (H : TotalBackend B cap fits)
include H

theorem Tot_subst (hooks : Bool) (ren : Nat → String) (types : List TypeDecl)
    (pairs : List (Binding × Ident)) (next : Stmt) (Γ : Ctx)
    (hnd : NodupIds (pairs.map (·.1))) (hfit : fits Γ.length) (hfit' : fits pairs.length)
    (hnext : Tot cap (codeStatementR B hooks ren types next (pairs.map (·.1)))) :
    Tot cap (codeStatementR B hooks ren types (.subst pairs next) Γ) := by
  simp only [codeStatementR]
  refine Tot.bind (Tot_codeWeakeningContraction H Γ hfit _ fun e he => (transpose_mem pairs Γ e he).1)
    fun c1 => ?_
  refine Tot.bind (Tot_codeExchange H pairs Γ hfit hfit' hnd) fun c2 => ?_
  exact Tot.bind hnext fun c3 => Tot.pure _

mutual
  theorem Tot_codeStatementR (hooks : Bool) (ren : Nat → String) (types : List TypeDecl) (sigs : Sigs) :
      ∀ (s : Stmt) (Γ : Ctx), LinTyped types sigs Γ s → fits (capStmt Γ.length s) →
        Tot cap (codeStatementR B hooks ren types s Γ)
    | .subst pairs next, Γ, h, hfit => by
      cases h with
      | subst h1 h2 h3 h4 =>
        simp only [capStmt] at hfit
        have hnext := Tot_codeStatementR hooks ren types sigs next _ h4
          (H.fits_mono (by simp only [List.length_map]; omega) hfit)
        exact Tot_subst H hooks ren types pairs next Γ h3 (H.fits_mono (by omega) hfit)
          (H.fits_mono (by have := le_capStmt pairs.length next; omega) hfit) hnext
    | .call label args, Γ, h, hfit => by
      simp only [codeStatementR]
      exact Tot.pure _
    | .letS var ty tag args next fv, Γ, h, hfit => by
      cases h with
      | @letS _ Γ1 Γa _ _ _ _ sig _ _ h1 h2 h3 h4 h5 h6 h7 =>
        subst h2
        obtain ⟨d, x, hd, hx⟩ := lookupXtor_some h4
        have hlen : Γa.length = args.length := keys_length h3
        simp only [capStmt, List.length_append] at hfit
        have hc := le_capStmt (Γ1.length + Γa.length + 1) next
        have htake : List.take ((Γ1 ++ Γa).length - args.length) (Γ1 ++ Γa) = Γ1 := by
          rw [List.length_append, ← hlen, Nat.add_sub_cancel, List.take_left']; rfl
        have hdrop : List.drop ((Γ1 ++ Γa).length - args.length) (Γ1 ++ Γa) = Γa := by
          rw [List.length_append, ← hlen, Nat.add_sub_cancel, List.drop_left']; rfl
        simp only [codeStatementR]
        refine TotP.bind (TotP_lookupTypeDeclM hd) fun decl hdecl => ?_
        subst hdecl
        refine Tot.bind (Tot_xtorPositionM hx) fun pos => ?_
        refine TotP.bind (TotP_splitOffLast (by rw [List.length_append]; omega)) fun sp hsp => ?_
        subst hsp
        rw [htake, hdrop]
        dsimp only
        refine Tot.bind (H.store _ _ (H.fits_mono (by omega) hfit)) fun c1 => ?_
        refine Tot.bind (H.vt_total _ _ _ (mem_snoc_self _ _)
          (H.fits_mono (by simp only [List.length_append, List.length_singleton]; omega) hfit))
          fun t => ?_
        refine Tot.bind (Tot_codeStatementR hooks ren types sigs next _ h7 ?_) fun c3 => Tot.pure _
        have hm : capStmt (Γ1 ++ [(⟨var, .prd, ty⟩ : Binding)]).length next ≤
            capStmt (Γ1.length + Γa.length + 1) next :=
          capStmt_mono next (by simp only [List.length_append, List.length_singleton]; omega)
        exact H.fits_mono (by omega) hfit
    | .switch var ty clauses fv, Γ, h, hfit => by
      cases h with
      | @switch _ Γ1 b _ _ _ _ d h1 h2 h3 h4 h5 h6 =>
        subst h2
        simp only [capStmt, List.length_append, List.length_singleton] at hfit
        simp only [codeStatementR]
        refine Tot.bind (Tot.freshLabelStr ren) fun num => ?_
        refine Tot.bind ?_ fun c1 => ?_
        · refine TotP.ite (fun _ => Tot.pure _) (fun _ => ?_)
          refine Tot.bind (H.vt_total _ _ _ ⟨b, by simp, id_of_key h3⟩
            (H.fits_mono (by simp only [List.length_append, List.length_singleton]; omega) hfit))
            fun t => Tot.pure _
        · rw [List.dropLast_concat]
          refine Tot.bind (Tot_codeClausesR hooks ren types sigs clauses Γ1 _ h6 ?_) fun c3 => Tot.pure _
          have hm : capClauses Γ1.length clauses ≤ capClauses (Γ1.length + 1) clauses :=
            capClauses_mono clauses (by omega)
          exact H.fits_mono (by omega) hfit
    | .create var ty env clauses next fc fn, Γ, h, hfit => by
      cases h with
      | @create _ Γn Γe Γc _ _ _ _ _ _ d h1 h2 h3 h4 h5 h6 h7 h8 =>
        subst h2
        have hlen : Γe.length = Γc.length := keys_length h3
        simp only [capStmt, List.length_append, Option.getD_some] at hfit
        have hc := le_capStmt (Γn.length + Γe.length + 1) next
        have htake : List.take ((Γn ++ Γe).length - Γc.length) (Γn ++ Γe) = Γn := by
          rw [List.length_append, ← hlen, Nat.add_sub_cancel, List.take_left']; rfl
        have hdrop : List.drop ((Γn ++ Γe).length - Γc.length) (Γn ++ Γe) = Γe := by
          rw [List.length_append, ← hlen, Nat.add_sub_cancel, List.drop_left']; rfl
        simp only [codeStatementR]
        refine TotP.bind (TotP_splitOffLast (by rw [List.length_append]; omega)) fun sp hsp => ?_
        subst hsp
        rw [htake, hdrop]
        dsimp only
        refine Tot.bind (H.store _ _ (H.fits_mono (by omega) hfit)) fun c1 => ?_
        refine Tot.bind (Tot.freshLabelStr ren) fun num => ?_
        refine Tot.bind (H.vt_total _ _ _ (mem_snoc_self _ _)
          (H.fits_mono (by simp only [List.length_append, List.length_singleton]; omega) hfit))
          fun t => ?_
        refine Tot.bind (Tot_codeStatementR hooks ren types sigs next _ h8 ?_) fun c3 => ?_
        · have hm : capStmt (Γn ++ [(⟨var, .cns, ty⟩ : Binding)]).length next ≤
              capStmt (Γn.length + Γe.length + 1) next :=
            capStmt_mono next (by simp only [List.length_append, List.length_singleton]; omega)
          exact H.fits_mono (by omega) hfit
        · refine Tot.bind (Tot_codeMethodsR hooks ren types sigs clauses Γe Γc _ h3 h6 ?_)
            fun c5 => Tot.pure _
          rw [hlen]
          exact H.fits_mono (by omega) hfit
    | .invoke var tag ty args, Γ, h, hfit => by
      cases h with
      | @invoke _ Γa b _ _ _ _ sig h1 h2 h3 h4 h5 =>
        subst h2
        obtain ⟨d, x, hd, hx⟩ := lookupXtor_some h4
        simp only [capStmt] at hfit
        simp only [codeStatementR]
        refine Tot.bind (H.vt_total _ _ _ ⟨b, by simp, id_of_key h3⟩ hfit) fun t => ?_
        refine TotP.bind (TotP_lookupTypeDeclM hd) fun decl hdecl => ?_
        subst hdecl
        refine TotP.ite (fun _ => Tot.pure _) (fun _ => ?_)
        exact Tot.bind (Tot_xtorPositionM hx) fun pos => Tot.pure _
    | .lit var n next fv, Γ, h, hfit => by
      cases h with
      | lit h1 h2 h3 =>
        simp only [capStmt] at hfit
        have hc := le_capStmt (Γ.length + 1) next
        simp only [codeStatementR]
        refine Tot.bind (H.vt_total _ _ _ (mem_snoc_self _ _)
          (H.fits_mono (by simp only [List.length_append, List.length_singleton]; omega) hfit))
          fun t => ?_
        refine Tot.bind (Tot_codeStatementR hooks ren types sigs next _ h3 ?_) fun c2 => Tot.pure _
        rw [List.length_append, List.length_singleton]
        exact H.fits_mono (by omega) hfit
    | .op var fst o snd next fv, Γ, h, hfit => by
      cases h with
      | op h1 h2 h3 h4 h5 =>
        simp only [capStmt] at hfit
        have hc := le_capStmt (Γ.length + 1) next
        have hf1 : fits (Γ ++ [(⟨var, .ext, .i64⟩ : Binding)]).length :=
          H.fits_mono (by simp only [List.length_append, List.length_singleton]; omega) hfit
        simp only [codeStatementR]
        refine Tot.bind (H.vt_total _ _ _ (mem_snoc_self _ _) hf1) fun t => ?_
        refine Tot.bind (H.vt_total _ _ _ (mem_append_left' (hasVar_mem h2)) hf1) fun s1 => ?_
        refine Tot.bind (H.vt_total _ _ _ (mem_append_left' (hasVar_mem h3)) hf1) fun s2 => ?_
        refine Tot.bind (Tot_codeStatementR hooks ren types sigs next _ h5 ?_) fun c2 => Tot.pure _
        rw [List.length_append, List.length_singleton]
        exact H.fits_mono (by omega) hfit
    | .print newline var next fv, Γ, h, hfit => by
      cases h with
      | print h1 h2 h3 =>
        simp only [capStmt] at hfit
        have hf1 : fits Γ.length := H.fits_mono (by omega) hfit
        simp only [codeStatementR]
        refine Tot.bind (H.vt_total _ _ _ (hasVar_mem h2) hf1) fun t => ?_
        refine Tot.bind (H.printI64 _ _ _ hf1) fun c1 => ?_
        exact Tot.bind (Tot_codeStatementR hooks ren types sigs next _ h3
          (H.fits_mono (by omega) hfit)) fun c2 => Tot.pure _
    | .ifc sort fst snd thenc elsec, Γ, h, hfit => by
      cases h with
      | ifc h1 h2 h3 h4 h5 =>
        simp only [capStmt] at hfit
        have hf1 : fits Γ.length := H.fits_mono (by omega) hfit
        simp only [codeStatementR]
        refine Tot.bind (Tot.freshLabelStr ren) fun num => ?_
        refine Tot.bind ?_ fun c1 => ?_
        · cases snd with
          | none =>
            dsimp only
            exact Tot.bind (H.vt_total _ _ _ (hasVar_mem h2) hf1) fun a => Tot.pure _
          | some snd =>
            dsimp only
            refine Tot.bind (H.vt_total _ _ _ (hasVar_mem h2) hf1) fun a => ?_
            exact Tot.bind (H.vt_total _ _ _ (hasVar_mem (h3 snd rfl)) hf1) fun b => Tot.pure _
        · refine Tot.bind (Tot_codeStatementR hooks ren types sigs elsec _ h5
            (H.fits_mono (by omega) hfit)) fun c2 => ?_
          exact Tot.bind (Tot_codeStatementR hooks ren types sigs thenc _ h4
            (H.fits_mono (by omega) hfit)) fun c3 => Tot.pure _
    | .exit var, Γ, h, hfit => by
      cases h with
      | exit h1 h2 =>
        simp only [capStmt] at hfit
        simp only [codeStatementR]
        exact Tot.bind (H.vt_total _ _ _ (hasVar_mem h2) hfit) fun t => Tot.pure _
  theorem Tot_codeClausesR (hooks : Bool) (ren : Nat → String) (types : List TypeDecl) (sigs : Sigs) :
      ∀ (cs : Clauses) (Γ : Ctx) (baseLabel : String), LinTypedClauses types sigs Γ [] cs →
        fits (capClauses Γ.length cs) → Tot cap (codeClausesR B hooks ren types Γ cs baseLabel)
    | .nil, _, _, _, _ => by
      simp only [codeClausesR]; exact Tot.pure _
    | .cons xtor clauseCtx body rest, Γ, baseLabel, h, hfit => by
      cases h with
      | cons h1 h2 =>
        simp only [capClauses] at hfit
        have hc := le_capStmt (Γ.length + clauseCtx.length) body
        simp only [List.append_nil] at h1
        simp only [codeClausesR]
        refine Tot.bind (H.load _ _ (H.fits_mono (by omega) hfit)) fun c1 => ?_
        refine Tot.bind (Tot_codeStatementR hooks ren types sigs body _ h1 ?_) fun c2 => ?_
        · rw [List.length_append]; exact H.fits_mono (by omega) hfit
        · exact Tot.bind (Tot_codeClausesR hooks ren types sigs rest Γ baseLabel h2
            (H.fits_mono (by omega) hfit)) fun c3 => Tot.pure _
  theorem Tot_codeMethodsR (hooks : Bool) (ren : Nat → String) (types : List TypeDecl) (sigs : Sigs) :
      ∀ (cs : Clauses) (env envC : Ctx) (baseLabel : String), env.keys = envC.keys →
        LinTypedClauses types sigs [] envC cs → fits (capClauses env.length cs) →
        Tot cap (codeMethodsR B hooks ren types env cs baseLabel)
    | .nil, _, _, _, _, _, _ => by
      simp only [codeMethodsR]; exact Tot.pure _
    | .cons xtor clauseCtx body rest, env, envC, baseLabel, hk, h, hfit => by
      cases h with
      | cons h1 h2 =>
        simp only [capClauses] at hfit
        have hc := le_capStmt (env.length + clauseCtx.length) body
        simp only [List.nil_append] at h1
        have h1' : LinTyped types sigs (clauseCtx ++ env) body :=
          LinTyped.of_keys body (keys_append rfl hk) h1
        simp only [codeMethodsR]
        refine Tot.bind (H.load _ _ (H.fits_mono (by omega) hfit)) fun c1 => ?_
        refine Tot.bind (Tot_codeStatementR hooks ren types sigs body _ h1' ?_) fun c2 => ?_
        · rw [List.length_append, Nat.add_comm]; exact H.fits_mono (by omega) hfit
        · exact Tot.bind (Tot_codeMethodsR hooks ren types sigs rest env envC baseLabel hk h2
            (H.fits_mono (by omega) hfit)) fun c3 => Tot.pure _
end

theorem Tot_translateR (hooks : Bool) (ren : Nat → String) (types : List TypeDecl) (sigs : Sigs) :
    ∀ (defs : List Def), (∀ d ∈ defs, LinTyped types sigs d.ctx d.body) →
      (∀ d ∈ defs, fits (capStmt d.ctx.length d.body)) → Tot cap (translateR B hooks ren types defs)
  | [], _, _ => by simp only [translateR]; exact Tot.pure _
  | d :: ds, h, hfit => by
    simp only [translateR]
    refine Tot.bind (Tot_codeStatementR H hooks ren types sigs d.body d.ctx (h d (by simp))
      (hfit d (by simp))) fun is => ?_
    exact Tot.bind (Tot_translateR hooks ren types sigs ds (fun d' hd' => h d' (by simp [hd']))
      (fun d' hd' => hfit d' (by simp [hd']))) fun rest => Tot.pure _

/-- **the generic code generator on a linearly typed program with at least one definition, all of whose
    contexts fit: code, or an error permitted by `cap`** -/
theorem Tot_compileR (hooks : Bool) (ren : Nat → String) (p : Prog) (htp : LinTypedProg p)
    (hne : p.defs ≠ []) (hfit : fits (progCap p)) : Tot cap (compileR B hooks ren p) := by
  unfold compileR
  cases hd : p.defs with
  | nil => exact absurd hd hne
  | cons d0 ds =>
    dsimp only
    refine Tot.bind ?_ fun blocks => Tot.pure _
    rw [← hd]
    exact Tot_translateR H hooks ren p.types p.sigs p.defs htp
      (fun d hd' => H.fits_mono (progCap_def p d hd') hfit)

theorem Tot_compile (hooks : Bool) (p : Prog) (htp : LinTypedProg p)
    (hne : p.defs ≠ []) (hfit : fits (progCap p)) : Tot cap (compile B hooks p) :=
  Tot_compileR H hooks natRen p htp hne hfit

/-- the same as a statement about the result of one run -/
theorem compile_resOk (hooks : Bool) (p : Prog) (htp : LinTypedProg p)
    (hne : p.defs ≠ []) (hfit : fits (progCap p)) (c : Nat) : ResOk cap ((compile B hooks p).run c) :=
  (Tot_compile H hooks p htp hne hfit).resOk c

end

end Scc.Backend.Total
