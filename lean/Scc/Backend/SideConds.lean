/-
  Scc.Backend.SideConds — the side hypotheses of the run theorems that do not depend on the backend: what the
  generic code generator returns as number of arguments, that the mock code fits the address space (from the
  size bound of the generic generator), and the capacity of every context of a run (from the static bound).
-/
import Scc.Props.C06Capacity
import Scc.Backend.SizeMock
import Scc.Pipeline.SizeCompose

namespace Scc.Backend

open Scc.AxCut Scc.AxCut.Pos Scc.Backend.Sim
open Scc.Props.C06Generic (Reachable CodeFits reach_ctx_le)

theorem compile_nargs_cons {Code T : Type} {B : Backend Code T} {hooks : Bool} {p : AxCut.Prog} {c : Nat}
    {body : List Code} {nargs k : Nat} (h : (compile B hooks p).run c = .ok ((body, nargs), k)) :
    ∃ d0 ds, p.defs = d0 :: ds ∧ nargs = d0.ctx.length := by
  unfold compile compileR at h
  cases hd : p.defs with
  | nil => rw [hd] at h; cases h
  | cons d0 ds =>
    rw [hd] at h
    simp only [run_bind_ok, run_pure_ok] at h
    obtain ⟨blocks, k', _, e, _⟩ := h
    injection e with _ e2
    exact ⟨d0, ds, rfl, e2.symm⟩

theorem compile_nargs_head {Code T : Type} {B : Backend Code T} {hooks : Bool} {p : AxCut.Prog} {c : Nat}
    {body : List Code} {nargs k : Nat} (h : (compile B hooks p).run c = .ok ((body, nargs), k)) {d0 : Def}
    (hd : p.defs.head? = some d0) : nargs = d0.ctx.length := by
  obtain ⟨d, ds, e, hn⟩ := compile_nargs_cons h
  rw [e] at hd
  cases hd
  exact hn

theorem instrCount_le_length : ∀ (ops : List MockOp), instrCount ops ≤ ops.length
  | [] => Nat.le_refl _
  | op :: r => by
    have := instrCount_le_length r
    cases op <;> simp only [instrCount, List.length_cons] <;> omega

/-- the mock code fits the address space when `10·(1 + longest context)·nodes < 2^64` (`sizeCheck` of x86-64
    and AArch64, `C08_sizeCheck` of RV64) -/
theorem codeFits_of_nodes {p : AxCut.Prog} (htp : LinTypedProg p)
    (h : 10 * (1 + SizeLin.defsCap p.defs) * SizeLin.defsNodes p.defs < 2 ^ 64) {hooks : Bool}
    {c : Nat} {ops : List MockOp} {nargs c' : Nat}
    (hcomp : (compile mockSym hooks p).run c = .ok ((ops, nargs), c')) : CodeFits ops := by
  have hlen := SizeMock.mock_compile_length hooks p (SizeLin.defsCap p.defs) (Nat.le_refl _)
    (Scc.Pipeline.SizeCompose.substOkProg_of_linTyped htp) c ops (by
      unfold compileMockSym runGen
      rw [hcomp])
  unfold CodeFits
  have := instrCount_le_length ops
  omega

theorem cap_of_progCap {p : AxCut.Prog} {K : Nat} (h : 2 * progCap p ≤ K) {d0 : Def} (hd : d0 ∈ p.defs)
    (args : List (BitVec 64)) :
    ∀ st, Reachable p ⟨d0.ctx, args.map .int, d0.body⟩ st → 2 * st.ctx.length ≤ K := by
  intro st hr
  have h1 := reach_ctx_le p d0 hd args st hr
  omega

end Scc.Backend
