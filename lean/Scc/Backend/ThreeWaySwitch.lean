/-
  Scc.Backend.ThreeWaySwitch — the abstract `load` against `Memory::load` (the memory contract ∘
  `href_load_full`; the count of a shared block does not overflow by the counting invariant), the `load` behind the
  navigation of `switch` / `invoke` on both machines (`load_mid`), and the three-way simulation of `switch`, once
  for every machine.
-/
import Scc.Backend.ThreeWayLet
import Scc.Heap.RefineBound
import Scc.Backend.ProofsLoad
import Scc.Backend.ProofsSubstRoots

namespace Scc.Backend.ThreeWay

open Scc.AxCut Scc.AxCut.Pos Scc.Backend.Abs Scc.Backend.Sim Scc.Backend.Sim2
open Scc.Backend.NamesC (MM mm_append mm_ofList)
open Scc.Heap (HState InvS InvW)
open Scc.Heap.Refine (HRef imgW fieldImg kindB href_load_full loadAbs live_header_lt FrLe frLe_load href_head_lt
  href_root_mem chi_bne_iff kindB_eq)

/-- the variables `Δ` at positions `k, k+1, …` hold the images of the fields `fs`: read off the words -/
theorem envFields_decode {slot : Nat → Option Word} {ι : Nat → Nat} : ∀ (Δ : Ctx) (k : Nat) (fs : List Abs.Field),
    fs.map (·.chi) = Mock.kindsOf Δ → Scc.Mem.EnvFields slot k Δ (fs.map (fieldImg ι)) →
    (∀ f ∈ fs, f.chi ≠ .ext → f.ptr ≠ 0 → ι f.ptr.toNat < 2 ^ 64) →
    ∀ j (hj : j < fs.length), slot (2 * (k + j) + 1) = some fs[j].val ∧
      (fs[j].chi ≠ .ext → slot (2 * (k + j)) = some (imgWord ι fs[j].ptr))
  | [], k, [], _, _, _ => fun j hj => by simp at hj
  | [], k, _ :: _, h, _, _ => by simp [Mock.kindsOf] at h
  | _ :: _, k, [], h, _, _ => by simp [Mock.kindsOf] at h
  | b :: Δ, k, f :: fs, hchi, hE, hlt => by
    simp only [Mock.kindsOf, List.map_cons, List.cons.injEq] at hchi
    simp only [List.map_cons, Scc.Mem.EnvFields] at hE
    obtain ⟨h0, hrest⟩ := hE
    have ih := envFields_decode Δ (k + 1) fs hchi.2 hrest (fun f' hf' => hlt f' (by simp [hf']))
    intro j hj
    cases j with
    | zero =>
      simp only [Nat.add_zero, List.getElem_cons_zero]
      unfold Scc.Mem.FieldAt at h0
      by_cases hext : (b.chi == .ext) = true
      · rw [if_pos hext] at h0
        obtain ⟨w, hw, hv⟩ := h0
        have hk : kindB f = false := by
          rw [kindB_eq, hchi.1, chi_bne_iff, hext]; rfl
        simp only [fieldImg, hk, Bool.false_eq_true, if_false, Scc.Heap.Field.int.injEq] at hw
        have : w = f.val := BitVec.eq_of_toNat_eq hw.symm
        refine ⟨by rw [hv, this], fun hne => ?_⟩
        exfalso
        apply hne
        rw [hchi.1]
        exact (Scc.Backend.Sim2.chi_beq_ext _).mp hext
      · rw [if_neg hext] at h0
        obtain ⟨p, w, hpw, hvp, hvw⟩ := h0
        have hne : f.chi ≠ .ext := by
          rw [hchi.1]; intro e; exact hext (by rw [e]; rfl)
        have hk : kindB f = true := by
          rw [kindB_eq, hchi.1, chi_bne_iff]
          simp only [Bool.not_eq_true']
          simpa using hext
        simp only [fieldImg, hk, if_true, Scc.Heap.Field.ptr.injEq] at hpw
        have e1 : w = f.val := BitVec.eq_of_toNat_eq hpw.2.symm
        have e2 : p = imgWord ι f.ptr := by
          apply BitVec.eq_of_toNat_eq
          rw [imgWord_toNat (hlt f (by simp) hne)]
          exact hpw.1.symm
        exact ⟨by rw [hvw, e1], fun _ => by rw [hvp, e2]⟩
    | succ j =>
      have := ih j (by simpa using hj)
      simp only [List.getElem_cons_succ]
      rw [show k + (j + 1) = k + 1 + j by omega]
      exact this

section
variable {Code Tm : Type} {B : Backend Code Tm}

/-- what `switch` / `invoke` do to the positions and the heap: the first `n` positions are untouched, position `n`
held a reference to the object `o`, whose fields are unpacked into the positions `n, n+1, …` (no field: nothing
happens); the machine holds the translated word of every loaded field (`Prov.LoadProv` keeps of this what it says
about closure fields) -/
structure LoadProvS (T : Target B) (n : Nat) (Δ : Ctx) (cfg cfg' : Config) (κ : Nat → Nat → Word)
    (st st' : T.S) : Prop where
  keep : Prov.KeepPos (T.tv st) (T.tv st') n cfg cfg'
  obj : (Δ = [] ∧ cfg'.heap = cfg.heap) ∨
    ∃ r o, cfg.temps.get (2 * n) = some r ∧ r ≠ 0 ∧ cfg.heap.get r.toNat = some o ∧
      o.fields.map (·.chi) = Mock.kindsOf Δ ∧
      ∀ j (hj : j < o.fields.length),
        cfg'.temps.get (2 * (n + j) + 1) = some o.fields[j].val ∧
        cfg'.temps.get (2 * (n + j)) = (if o.fields[j].chi == .ext then none else some o.fields[j].ptr) ∧
        T.tv st' (2 * (n + j) + 1) = some (trF T.stride κ r.toNat j o.fields[j]).val

variable {T : Target B}

theorem LoadProvS.toT {n : Nat} {Δ : Ctx} {cfg cfg' : Config} {κ : Nat → Nat → Word} {st st' : T.S}
    (h : LoadProvS T n Δ cfg cfg' κ st st') : Prov.LoadProv (T.tv st) (T.tv st') n Δ cfg cfg' κ := by
  refine ⟨h.keep, ?_⟩
  rcases h.obj with h0 | ⟨r, o, a1, a2, a3, a4, a5⟩
  · exact Or.inl h0
  · refine Or.inr ⟨r, o, a1, a2, a3, a4, fun j hj => ⟨(a5 j hj).1, (a5 j hj).2.1, fun hc => ?_⟩⟩
    have := (a5 j hj).2.2
    unfold trF at this
    simp only [hc] at this
    exact this

/-- the machine before: any state that holds the same words at the first `n` positions -/
theorem LoadProvS.of_keep {n : Nat} {Δ : Ctx} {cfg cfg' : Config} {κ : Nat → Nat → Word} {st0 st st' : T.S}
    (LP : LoadProvS T n Δ cfg cfg' κ st st') (h : ∀ i, i < n → T.tv st (2 * i + 1) = T.tv st0 (2 * i + 1)) :
    LoadProvS T n Δ cfg cfg' κ st0 st' :=
  ⟨⟨LP.keep.temps, fun i hi => (LP.keep.mach i hi).trans (h i hi)⟩, LP.obj⟩

/-- the machine after: any state that holds the same words at the positions -/
theorem LoadProvS.keep_right {n : Nat} {Δ : Ctx} {cfg cfg' : Config} {κ : Nat → Nat → Word} {st st' st'' : T.S}
    (LP : LoadProvS T n Δ cfg cfg' κ st st') (hcap : 2 * (n + Δ.length) ≤ T.ntemps)
    (K : Keep T st' st'' (fun _ => False)) : LoadProvS T n Δ cfg cfg' κ st st'' := by
  refine ⟨⟨LP.keep.temps, fun i hi => (K.tv _ (by omega) id).trans (LP.keep.mach i hi)⟩, ?_⟩
  rcases LP.obj with h0 | ⟨r, o, a1, a2, a3, a4, a5⟩
  · exact Or.inl h0
  · refine Or.inr ⟨r, o, a1, a2, a3, a4, fun j hj => ⟨(a5 j hj).1, (a5 j hj).2.1, ?_⟩⟩
    have hl : o.fields.length = Δ.length := by
      have := congrArg List.length a4
      simpa [Mock.kindsOf] using this
    rw [K.tv _ (by omega) id]
    exact (a5 j hj).2.2

/-- THE ABSTRACT `load` AGAINST `Memory::load`: position `Γ'.length` holds a reference to the object `o`, whose
kinds are those of `Δ`; the code of `B.load Δ Γ'` runs by itself (`T.Exec`), frees or unshares the block on both
sides and leaves the relation for `Γ' ++ Δ` with every loaded field in its position -/
theorem load_x3 {Γ' Δ : Ctx} {b : Binding} {cfg cfg4 cfg' : Config} {hs : HState} {ι : Nat → Nat}
    {κ : Nat → Nat → Word} {st : T.S} {r : Word} {o : Obj} {h' : Heap}
    (X : X3 T (Γ' ++ [b]) cfg hs ι κ st) (hb : b.chi ≠ .ext)
    (hr : cfg.temps.get (2 * Γ'.length) = some r) (hr0 : r ≠ 0)
    (hg : cfg.heap.get r.toNat = some o)
    (hk : o.fields.map (·.chi) = Mock.kindsOf Δ)
    (hcapΔ : 2 * (Γ'.length + Δ.length) ≤ T.ntemps)
    (h4next : cfg4.next = cfg.next) (h4out : cfg4.out = cfg.out)
    (h4temps : ∀ t, t < 2 * (Γ'.length + 1) → cfg4.temps.get t = cfg.temps.get t)
    (hlo : loadAbs cfg.heap r.toNat o = .ok h')
    (hcfg' : cfg' =
      { cfg4 with pc := cfg4.pc + 1, temps := writeFields (clobberTemp cfg4.temps) o.fields Γ'.length, heap := h' })
    (kk : Nat) :
    ∃ code kk', (B.load Δ Γ').run kk = .ok (code, kk') ∧ kk ≤ kk' ∧ T.LabsIn code kk kk' ∧
      ∃ st' hs', T.Exec code st st' ∧
        X3 T (Γ' ++ Δ) cfg' hs' ι κ st' ∧ FrLe hs hs' 0 ∧ LoadProvS T Γ'.length Δ cfg cfg' κ st st' := by
  have hlenΔ : Δ.length = o.fields.length := by
    have := congrArg List.length hk
    simpa [Mock.kindsOf] using this.symm
  have hn1 : Γ'.length < (Γ' ++ [b]).length := by simp
  have hgb : (Γ' ++ [b])[Γ'.length] = b := by simp
  -- the roots: the remaining variables and the scrutinee
  have hroots : roots (Γ' ++ [b]) cfg.temps = roots Γ' cfg.temps ++ [r.toNat] := roots_snoc_ptr hb hr hr0
  have R0 : HRef (trHeap T.stride κ cfg.heap) (roots Γ' cfg.temps ++ [r.toNat]) cfg.next hs ι := by
    rw [← hroots]; exact X.href
  have hg' : (trHeap T.stride κ cfg.heap).get r.toNat = some (trO T.stride κ r.toNat o) := by
    rw [trHeap_get, hg]; rfl
  obtain ⟨h'', hs', hlo', hop, R1, hfr, hsame, hfront⟩ := href_load_full R0 hg'
  have hh'' : h'' = trHeap T.stride κ h' := by
    have := Scc.Heap.Refine.mapFields_loadAbs (fieldsOK_trFs T.stride κ) (o := o) hlo
    unfold trHeap at hlo' ⊢
    rw [hlo'] at this
    injection this
  subst hh''
  have hpw := X.ptrs Γ'.length hn1 (by rw [hgb]; exact hb) r hr
  have hrlt := X3.ref_lt X hn1 (by rw [hgb]; exact hb) hr hr0
  have hpwn : (imgWord ι r).toNat = ι r.toNat := by
    rw [imgWord_toNat (fun _ => hrlt.1)]
    unfold imgW; rw [if_neg hr0]
  have hkinds : Δ.map (fun b => b.chi != .ext) = (trO T.stride κ r.toNat o).fields.map kindB := by
    show _ = (trFs T.stride κ r.toNat 0 o.fields).map kindB
    have : (trFs T.stride κ r.toNat 0 o.fields).map kindB =
        ((trFs T.stride κ r.toNat 0 o.fields).map (·.chi)).map (fun c => c != Chi.ext) := by
      rw [List.map_map]; rfl
    rw [this, trFs_map_chi, hk]
    simp [Mock.kindsOf]
  have hlim := T.limit_lt X.bnd X.hrel
  obtain ⟨code, kk', hrun, hle, hlabs, st', hx, B', HR', hE, hkeep, hout'⟩ :=
    T.load X.bnd X.hrel (toLoad := Δ) (existing := Γ') hcapΔ hpw
      (by rw [hpwn, hkinds]; exact hop)
      (by
        intro hcnt a
        rw [hpwn] at hcnt
        rcases hfr hcnt a with e | ⟨lin, lazy, live, Fr, I, hal⟩
        · rw [e]; exact T.mem_lt X.hrel a
        · refine live_header_lt I (by rw [hsame.limit]; exact hlim) ?_ hal
          rw [List.length_map, List.length_append]
          have h1 := roots_length_le cfg.temps Γ'
          have h2 := children_length_le (trO T.stride κ r.toNat o)
          have h3 : (trO T.stride κ r.toNat o).fields.length = o.fields.length := trFs_length _ _ _ _ _
          rw [h3] at h2
          have hN := T.ntemps_le
          omega) kk
  have hchild_lt : ∀ f ∈ (trO T.stride κ r.toNat o).fields, f.chi ≠ .ext → f.ptr ≠ 0 → ι f.ptr.toNat < 2 ^ 64 := by
    intro f hf hc hp
    have hm : f.ptr.toNat ∈ (trO T.stride κ r.toNat o).children := Scc.Backend.Sim2.mem_children hf hc hp
    obtain ⟨oc, hoc⟩ := href_root_mem R1 (List.mem_append.2 (Or.inr hm))
    have h1 := href_head_lt R1 hoc
    have h2 := hsame.limit
    simp only at h1
    omega
  have hdec := envFields_decode (ι := ι) Δ Γ'.length (trO T.stride κ r.toNat o).fields
    (by show (trFs T.stride κ r.toNat 0 o.fields).map (·.chi) = _; rw [trFs_map_chi]; exact hk) hE hchild_lt
  have hflen : (trO T.stride κ r.toNat o).fields.length = o.fields.length := trFs_length _ _ _ _ _
  have hfget : ∀ j (hj : j < o.fields.length), (trO T.stride κ r.toNat o).fields[j]'(by rw [hflen]; exact hj) =
      trF T.stride κ r.toNat j o.fields[j] := fun j hj => by
    have := trFs_getElem T.stride κ r.toNat 0 o.fields j hj
    rw [Nat.zero_add] at this
    exact this
  have hN := T.ntemps_le
  have hlowσ : ∀ t, t < 2 * Γ'.length → cfg'.temps.get t = cfg.temps.get t := by
    intro t ht
    rw [hcfg']
    simp only
    rw [writeFields_get_low _ _ _ _ ht, get_clobberTemp _ (by unfold Mock.T_TEMP; omega), h4temps t (by omega)]
  have hvalσ : ∀ j (hj : j < o.fields.length), cfg'.temps.get (2 * (Γ'.length + j) + 1) = some o.fields[j].val := by
    intro j hj; rw [hcfg']; exact writeFields_get_val _ _ _ _ hj
  have hptrσ : ∀ j (hj : j < o.fields.length), cfg'.temps.get (2 * (Γ'.length + j)) =
      if o.fields[j].chi == .ext then none else some o.fields[j].ptr := by
    intro j hj; rw [hcfg']; exact writeFields_get_ptr _ _ _ _ hj
  have hchiΔ : ∀ j (hj : j < o.fields.length), (Δ[j]'(by omega)).chi = o.fields[j].chi := by
    intro j hj
    have := congrArg (fun l => l[j]?) hk
    simp only [Mock.kindsOf, List.getElem?_map, List.getElem?_eq_getElem hj,
      List.getElem?_eq_getElem (show j < Δ.length by omega), Option.map_some, Option.some.injEq] at this
    exact this.symm
  refine ⟨code, kk', hrun, hle, hlabs, st', hs', hx, ?_, frLe_load R0 hg' hop,
    ⟨hlowσ, fun i hi => hkeep _ (by omega)⟩, Or.inr ⟨r, o, hr, hr0, hg, hk, fun j hj => ⟨hvalσ j hj, hptrσ j hj, by
      have := (hdec j (by rw [hflen]; exact hj)).1
      rw [hfget j hj] at this
      exact this⟩⟩⟩
  refine ⟨B', by simp; omega, ?_, ?_, by rw [hcfg']; simp only; rw [h4out]; exact hout' _ X.out, HR', ?_⟩
  · intro i hi a ha
    simp only [List.length_append] at hi
    by_cases hin : i < Γ'.length
    · rw [hlowσ _ (by omega)] at ha
      rw [hkeep _ (by omega), List.getElem_append_left hin]
      have := X.words i (by simp; omega) a ha
      rw [List.getElem_append_left hin] at this
      exact this
    · obtain ⟨j, rfl⟩ : ∃ j, i = Γ'.length + j := ⟨i - Γ'.length, by omega⟩
      have hj : j < o.fields.length := by omega
      rw [hvalσ j hj] at ha
      obtain rfl := Option.some.inj ha
      rw [List.getElem_append_right (by omega)]
      simp only [Nat.add_sub_cancel_left]
      rw [hchiΔ j hj]
      have := (hdec j (by rw [hflen]; exact hj)).1
      rw [hfget j hj] at this
      exact words_of this (fun hc => trF_val_of_ne T.stride κ _ _ _ hc)
  · intro i hi hc r' hr'
    simp only [List.length_append] at hi
    by_cases hin : i < Γ'.length
    · rw [hlowσ _ (by omega)] at hr'
      rw [hkeep _ (by omega)]
      rw [List.getElem_append_left hin] at hc
      exact X.ptrs i (by simp; omega) (by rw [List.getElem_append_left hin]; exact hc) r' hr'
    · obtain ⟨j, rfl⟩ : ∃ j, i = Γ'.length + j := ⟨i - Γ'.length, by omega⟩
      have hj : j < o.fields.length := by omega
      rw [List.getElem_append_right (by omega)] at hc
      simp only [Nat.add_sub_cancel_left] at hc
      rw [hchiΔ j hj] at hc
      have hce : (o.fields[j].chi == Chi.ext) = false := (Scc.Backend.Sim2.chi_beq_ext_false _).mpr hc
      rw [hptrσ j hj, hce] at hr'
      simp only [Bool.false_eq_true, if_false, Option.some.injEq] at hr'
      subst hr'
      have := (hdec j (by rw [hflen]; exact hj)).2
      rw [hfget j hj] at this
      exact this hc
  · show HRef (trHeap T.stride κ cfg'.heap) (roots (Γ' ++ Δ) cfg'.temps) cfg'.next hs' ι
    have e1 : cfg'.heap = h' := by rw [hcfg']
    have e2 : cfg'.next = cfg.next := by rw [hcfg']; exact h4next
    have e3 : roots (Γ' ++ Δ) cfg'.temps = roots Γ' cfg.temps ++ (trO T.stride κ r.toNat o).children := by
      unfold roots
      rw [roots_go_append, Nat.zero_add]
      congr 1
      · exact roots_go_congr _ _ _ 0 (fun i hi => by rw [Nat.zero_add]; exact hlowσ _ (by omega))
      · rw [trO_children]
        exact roots_go_loaded _ o.count Δ o.fields Γ'.length hk hptrσ
    rw [e1, e2, e3]
    exact R1

end

section
variable {Code Tm : Type} {B : Backend Code Tm}

/-- the `load` of the selected clause of `switch` / method of `invoke` on both machines: the abstract machine is
(after the jumps, which only change `TEMP`) at the `load`, the machine at its code; the last position holds a
reference to a block with the kinds of `Δ`, whose fields become the positions of `Δ` -/
theorem load_mid (M : Machine B) {P : Program} {hooks : Bool} {prog : AxCut.Prog} {Γ' Γ'' Δ0 : Ctx} {b : Binding}
    {ρ' vs : List Value} {v : Value} {s s' : Stmt} {cfg cfg4 : Config} {r : Word}
    (R : RelX P hooks prog ⟨Γ' ++ [b], ρ' ++ [v], s⟩ cfg)
    (hargs : Γ'.map (·.chi) = Γ''.map (·.chi)) (hbne : b.chi ≠ .ext)
    (hr : cfg.temps.get (2 * Γ'.length) = some r)
    (hB : RepB P hooks prog.types cfg.heap vs r)
    (hkinds : vs.map Sim2.kindOf = Mock.kindsOf Δ0)
    (hcap : 2 * (Γ'.length + Δ0.length) + 2 < Mock.T_TEMP)
    (h4heap : cfg4.heap = cfg.heap) (h4next : cfg4.next = cfg.next) (h4out : cfg4.out = cfg.out)
    (h4temps : ∀ t, t < 2 * (Γ'.length + 1) → cfg4.temps.get t = cfg.temps.get t)
    (hloadM : P.code[cfg4.pc]? = some (.load (Mock.kindsOf Δ0) Γ'.length))
    (hcode : ∃ c c' ops, (codeStatementR mockSym hooks natRen prog.types s' (Γ'' ++ Δ0)).run c = .ok (ops, c') ∧
      CodeAt P (cfg4.pc + 1) ops)
    {hs : HState} {ι : Nat → Nat} {κ : Nat → Nat → Word} {st4 : M.S} {kp4 : Nat}
    (X4 : X3 M.toTarget (Γ'' ++ [b]) cfg hs ι κ st4)
    {kl kl' : Nat} {lcode rest : List Code}
    (hload : (B.load Δ0 Γ'').run kl = .ok (lcode, kl'))
    (hat4 : XAt M.cs kp4 (lcode ++ rest)) (hpc4 : M.pcAt st4 kp4)
    (hcapX : 2 * (Γ'.length + Δ0.length) ≤ M.ntemps) :
    ∃ cfg' st5 hs', Abs.step P cfg4 = .next cfg' ∧ M.RunS kp4 st4 (kp4 + lcode.length) st5 ∧
      M.pcAt st5 (kp4 + lcode.length) ∧ FrLe hs hs' 0 ∧ cfg'.out = cfg.out ∧ cfg'.next = cfg.next ∧
      RelX P hooks prog ⟨Γ'' ++ Δ0, ρ' ++ vs, s'⟩ cfg' ∧ X3 M.toTarget (Γ'' ++ Δ0) cfg' hs' ι κ st5 ∧
      LoadProvS M.toTarget Γ'.length Δ0 cfg cfg' κ st4 st5 := by
  have hlenA : Γ'.length = Γ''.length := by simpa using congrArg List.length hargs
  have hN := M.ntemps_le
  have hcapXa := X4.cap
  simp only [List.length_append, List.length_singleton] at hcapXa
  obtain ⟨cfg', hstep, hout', hnext', R'⟩ := load_enter (Γ'' := Γ'') (Δ := Δ0) (s' := s')
    (cfg4 := cfg4) R hargs hbne hr hB hkinds hcap h4heap h4next h4out h4temps hloadM hcode
  cases hctx : Δ0 with
  | nil =>
    -- no environment: nothing is loaded, no code
    have hf0 : vs = [] := by
      have := congrArg List.length hkinds
      rw [hctx] at this
      simpa [Mock.kindsOf] using this
    subst hf0
    have hr0 : r = 0 := by cases hB; rfl
    subst hr0
    rw [hctx] at hloadM hload
    have hA := step_load_empty P cfg4 _ hloadM
    rw [hstep] at hA
    injection hA with hA
    have hl0 : lcode = [] := by
      have : (B.load [] Γ'').run kl = .ok ([], kl) := M.load_nil Γ'' kl
      rw [this] at hload
      injection hload with hload
      injection hload with e1 _
      exact e1.symm
    subst hl0
    rw [hctx] at R'
    have hlow : ∀ t, t < 2 * (Γ'.length + 1) → cfg'.temps.get t = cfg.temps.get t := by
      intro t ht
      rw [hA]
      simp only
      rw [get_clobberTemp _ (by unfold Mock.T_TEMP; omega), h4temps t ht]
    refine ⟨cfg', st4, hs, hstep, M.runS_refl kp4 st4, hpc4, Scc.Heap.Refine.FrLe.refl hs, hout', hnext', R', ?_, ?_⟩
    · rw [List.append_nil]
      refine ⟨X4.bnd, by omega, ?_, ?_, by rw [hA]; simp only; rw [h4out]; exact X4.out, X4.hrel, ?_⟩
      · intro i hi a0 ha
        rw [hlow _ (by omega)] at ha
        have := X4.words i (by simp; omega) a0 ha
        rw [List.getElem_append_left hi] at this
        exact this
      · intro i hi hc r' hr'
        rw [hlow _ (by omega)] at hr'
        exact X4.ptrs i (by simp; omega) (by rw [List.getElem_append_left hi]; exact hc) r' hr'
      · have e1 : cfg'.heap = cfg.heap := by rw [hA]; exact h4heap
        have e2 : cfg'.next = cfg.next := by rw [hA]; exact h4next
        have e3 : roots (Γ'' ++ [b]) cfg.temps = roots Γ'' cfg'.temps := by
          rw [roots_snoc]
          have : rootOf cfg.temps b Γ''.length = [] := by
            unfold rootOf; rw [← hlenA, hr]; simp
          rw [this, List.append_nil]
          exact (roots_congr _ _ _ (fun i hi => hlow (2 * i) (by omega))).symm
        rw [e1, e2, ← e3]
        exact X4.href
    · refine ⟨⟨fun t ht => hlow t (by omega), fun i hi => rfl⟩, Or.inl ⟨rfl, ?_⟩⟩
      rw [hA]; exact h4heap
  | cons b0 Δ =>
    rw [hctx] at hkinds
    cases hB with
    | empty => simp [Mock.kindsOf] at hkinds
    | block v vs _ o hr0 hg hF =>
      have hk : o.fields.map (·.chi) = Mock.kindsOf Δ0 := by
        rw [RepF.kinds hF, hctx]; exact hkinds
      have hr' : cfg.temps.get (2 * Γ''.length) = some r := by rw [← hlenA]; exact hr
      have hr4 : cfg4.temps.get (2 * Γ'.length) = some r := by rw [h4temps _ (by omega)]; exact hr
      have hg4 : cfg4.heap.get r.toNat = some o := by rw [h4heap]; exact hg
      have hk4 : o.fields.map (·.chi) = b0.chi :: Mock.kindsOf Δ := by rw [hk, hctx]; rfl
      have hloadM' : P.code[cfg4.pc]? = some (.load (b0.chi :: Mock.kindsOf Δ) Γ'.length) := by
        rw [hloadM, hctx]; rfl
      obtain ⟨h', hlo, hcfg'⟩ := Prov.step_load_explicit hloadM' hr4 hr0 hg4 hk4 hstep
      rw [h4heap] at hlo
      rw [hlenA] at hcfg' h4temps hcapX
      obtain ⟨code, kk', hrunL, _, _, st5, hs', hx5, X5, hfrL, LP5⟩ :=
        load_x3 X4 hbne hr' hr0 hg hk hcapX h4next h4out h4temps hlo hcfg' kl
      have hcode' : code = lcode := by
        rw [hload] at hrunL
        injection hrunL with hrunL
        injection hrunL with e1 _
        exact e1.symm
      subst hcode'
      obtain ⟨st6, hn5, hpc6, B6, K6⟩ := M.lift hat4.left hpc4 hx5 (M.noHook_load hload) X5.bnd
      rw [← hctx]
      refine ⟨cfg', st6, hs', hstep, hn5, hpc6, hfrL, hout', hnext', R', X3R.keep X5 B6 K6, ?_⟩
      rw [← hlenA] at LP5
      exact LP5.keep_right (by omega) K6

end

section
variable {Code Tm : Type} {B : Backend Code Tm} (M : MachineN B)

/-- `switch` on the three machines: the positional machine selects clause `pos`; the abstract machine and the
machine `M` get to the `load` of that clause (`switch_nav_abs`, `M.switch_nav`) and unpack the scrutinee
(`load_mid`); the relation holds for `Γ' ++ c.ctx` at the code of the clause body -/
theorem switch_x3 {P : Program} {hooks : Bool} {prog : AxCut.Prog} {Γ' : Ctx} {b : Binding}
    {ρ' : List Value} {pos : Nat} {fields : List Value} {x : Ident} {ty : Ty} {clauses : Clauses}
    {fv : FV} {cfg : Config} {c : Clause}
    (R : RelX P hooks prog ⟨Γ' ++ [b], ρ' ++ [.obj pos fields], .switch x ty clauses fv⟩ cfg)
    (hfits : Fits P)
    (hb : b.var.id = x.id) (hfresh : ∀ b' ∈ Γ', b'.var.id ≠ x.id)
    (hclause : nthClause clauses pos = some c)
    (hkinds : fields.map Sim2.kindOf = Mock.kindsOf c.ctx)
    (hcap : 2 * (Γ'.length + c.ctx.length) + 2 < Mock.T_TEMP)
    {hs : HState} {ι : Nat → Nat} {κ : Nat → Nat → Word} {st : M.S} {kp : Nat}
    (X : X3 M.toTarget (Γ' ++ [b]) cfg hs ι κ st)
    {k k' : Nat} {items : List Code}
    (hrun : (codeStatementR B hooks natRen prog.types (.switch x ty clauses fv) (Γ' ++ [b])).run k =
      .ok (items, k'))
    (hat : XAt M.cs kp items) (hpc : M.pcAt st kp)
    (hcapX : 2 * (Γ'.length + c.ctx.length) ≤ M.ntemps) :
    ∃ kk cfg' st' hs' kp', stepsTo P kk cfg cfg' ∧ M.RunH kp st kp' st' ∧ M.pcAt st' kp' ∧ FrLe hs hs' 0 ∧
      cfg'.out = cfg.out ∧ cfg'.next = cfg.next ∧
      RelX P hooks prog ⟨Γ' ++ c.ctx, ρ' ++ fields, c.body⟩ cfg' ∧
      X3 M.toTarget (Γ' ++ c.ctx) cfg' hs' ι κ st' ∧
      ∃ k1 k1' items', (codeStatementR B hooks natRen prog.types c.body (Γ' ++ c.ctx)).run k1 =
          .ok (items', k1') ∧ XAt M.cs kp' items' ∧ LoadProvS M.toTarget Γ'.length c.ctx cfg cfg' κ st st' := by
  obtain ⟨k4, cfg4, r, hst4, h4heap, h4next, h4out, h4temps, hloadM, hcode, hr, hB, hword, hbchi⟩ :=
    switch_nav_abs R hfits hb hfresh hclause
  have hxw : M.tv st (2 * Γ'.length + 1) = some (BitVec.ofNat 64 pos * M.stride) := by
    have := X.words Γ'.length (by simp) _ hword
    simpa [hbchi, trW, trWs] using this
  obtain ⟨st4, kp4, kl, kl', lcode, kb', body, hn4, hpc4, B4, K4, hload, hbody, hat4⟩ :=
    M.switch_nav hrun hat hpc X.bnd hb hfresh hclause hxw
  have X4 : X3 M.toTarget (Γ' ++ [b]) cfg hs ι κ st4 := X3R.keep X B4 K4
  have hN := M.ntemps_le
  have hcapX0 := X.cap
  simp only [List.length_append, List.length_singleton] at hcapX0
  have hmk4 : ∀ u, u < M.ntemps → M.tv st4 u = M.tv st u := fun u hu => K4.tv u hu id
  have hbne : b.chi ≠ .ext := by rw [hbchi]; decide
  obtain ⟨cfg', st5, hs', hstep, hn5, hpc5, hfrL, hout', hnext', R', X5, LP5⟩ :=
    load_mid M.toMachine (Γ'' := Γ') (s' := c.body) R rfl hbne hr hB hkinds hcap h4heap h4next h4out h4temps hloadM hcode
      X4 hload hat4 hpc4 hcapX
  exact ⟨k4 + 1, cfg', st5, hs', _, stepsTo_trans P _ _ _ _ _ hst4 (stepsTo_one P _ _ hstep), M.runH_trans hn4 hn5,
    hpc5, hfrL, hout', hnext', R', X5, kl', kb', body, hbody, hat4.right,
    LP5.of_keep (fun i hi => hmk4 _ (by omega))⟩

end

end Scc.Backend.ThreeWay
