/-
  Scc.Backend.ProofsRep2 — what Theorem A's steps on objects (load, erase, share; ProofsLoad, ProofsErase,
  ProofsSubstObj) need about the representation `RepV`/`RelX`/`ValsOK2` of SimDefs2.lean and the counting
  invariant `HeapOK`: the abstract heap under `set`/`remove`; the representation survives a heap change that
  keeps the fields of every object except one that nothing refers to (`RepV.transfer`; `RepV.kept` is the case
  where all fields are kept); `HeapOK` under the change of one count and under the removal of an object whose
  count is zero; the roots of a context, binding by binding (`rootOf`, `roots_snoc`); `RelX` as the instance
  `valKit2` of the representation `Kit` of ProofsSim.lean.
-/
import Scc.Backend.SimDefs2
import Scc.Backend.ProofsHeap

set_option linter.unusedSimpArgs false

namespace Scc.Backend.Sim2

open Scc.AxCut Scc.AxCut.Pos Scc.Backend.Abs Scc.Backend.Sim

theorem heap_get_remove_same (h : Heap) (id : Nat) : (h.remove id).get id = none := by
  unfold Heap.get Heap.remove
  rw [find_filter_eq]

theorem heap_get_remove_other (h : Heap) {id id' : Nat} (hne : id' ≠ id) :
    (h.remove id).get id' = h.get id' := by
  unfold Heap.get Heap.remove
  rw [find_filter_ne h hne]

theorem heap_get_set_same (h : Heap) (id : Nat) (o : Obj) : (h.set id o).get id = some o := by
  unfold Heap.set; exact heap_get_cons_same

theorem heap_get_set_other (h : Heap) {id id' : Nat} (o : Obj) (hne : id' ≠ id) :
    (h.set id o).get id' = h.get id' := by
  unfold Heap.set
  rw [heap_get_cons_ne hne, heap_get_remove_other h hne]

theorem mem_remove {h : Heap} {id : Nat} {e : Nat × Obj} : e ∈ h.remove id ↔ e ∈ h ∧ e.1 ≠ id := by
  unfold Heap.remove
  simp [List.mem_filter]

theorem heap_mem_get {h : Heap} (hnd : (h.map (·.1)).Nodup) {e : Nat × Obj} (he : e ∈ h) :
    h.get e.1 = some e.2 := by
  induction h with
  | nil => cases he
  | cons a h ih =>
    simp only [List.map_cons, List.nodup_cons] at hnd
    rcases List.mem_cons.mp he with rfl | he'
    · exact heap_get_cons_same
    · have hne : e.1 ≠ a.1 := by
        intro hc
        exact hnd.1 (List.mem_map.mpr ⟨e, he', hc⟩)
      obtain ⟨a1, a2⟩ := a
      rw [heap_get_cons_ne hne]
      exact ih hnd.2 he'

def FieldsKept (h h' : Heap) (x : Nat) : Prop :=
  ∀ id o, id ≠ x → h.get id = some o → ∃ o', h'.get id = some o' ∧ o'.fields = o.fields

def Unref (h : Heap) (x : Nat) : Prop := ∀ id o, h.get id = some o → x ∉ o.children

theorem chi_beq_ext (c : Chi) : (c == .ext) = true ↔ c = .ext := by cases c <;> decide

theorem chi_beq_ext_false (c : Chi) : (c == .ext) = false ↔ c ≠ .ext := by cases c <;> decide

theorem chi_bne_ext (c : Chi) : (c != .ext) = true ↔ c ≠ .ext := by cases c <;> decide

theorem chi_bne_ext_false (c : Chi) : (c != .ext) = false ↔ c = .ext := by cases c <;> decide

theorem mem_children {o : Obj} {f : Field} (hf : f ∈ o.fields) (hc : f.chi ≠ .ext) (hp : f.ptr ≠ 0) :
    f.ptr.toNat ∈ o.children := by
  unfold Obj.children
  rw [List.mem_filterMap]
  refine ⟨f, hf, ?_⟩
  have h1 : (f.chi != .ext) = true := (chi_bne_ext _).mpr hc
  have h2 : (f.ptr != 0) = true := by rw [bne_iff_ne]; exact hp
  simp only [h1, h2, Bool.and_self, if_true]

mutual
theorem RepV.transfer {P : Program} {hooks : Bool} {types : List TypeDecl} {h h' : Heap} {x : Nat}
    (hk : FieldsKept h h' x) (hu : Unref h x) : ∀ {v : Value} {p : Option Word} {w : Word},
    RepV P hooks types h v p w → (∀ r, p = some r → r ≠ 0 → r.toNat ≠ x) →
    RepV P hooks types h' v p w
  | _, _, _, .int n p, _ => .int n p
  | _, _, _, .obj tag fields r hb, hp =>
    .obj tag fields r (RepB.transfer hk hu hb (hp r rfl))
  | _, _, _, .clo envCtx envCtx' env clauses r a hkeys hb hm, hp =>
    .clo envCtx envCtx' env clauses r a hkeys (RepB.transfer hk hu hb (hp r rfl)) hm
theorem RepB.transfer {P : Program} {hooks : Bool} {types : List TypeDecl} {h h' : Heap} {x : Nat}
    (hk : FieldsKept h h' x) (hu : Unref h x) : ∀ {vs : List Value} {r : Word},
    RepB P hooks types h vs r → (r ≠ 0 → r.toNat ≠ x) → RepB P hooks types h' vs r
  | _, _, .empty, _ => .empty
  | _, _, .block v vs r o hr hg hf, hp => by
    obtain ⟨o', hg', hfe⟩ := hk _ _ (hp hr) hg
    refine .block v vs r o' hr hg' ?_
    rw [hfe]
    exact RepF.transfer hk hu hf (fun f hfm hc hp0 => by
      intro e
      exact hu _ _ hg (e ▸ mem_children hfm hc hp0))
theorem RepF.transfer {P : Program} {hooks : Bool} {types : List TypeDecl} {h h' : Heap} {x : Nat}
    (hk : FieldsKept h h' x) (hu : Unref h x) : ∀ {vs : List Value} {fs : List Field},
    RepF P hooks types h vs fs → (∀ f ∈ fs, f.chi ≠ .ext → f.ptr ≠ 0 → f.ptr.toNat ≠ x) →
    RepF P hooks types h' vs fs
  | _, _, .nil, _ => .nil
  | _, _, .cons v vs f fs hv hkind hr, hp => by
    refine .cons v vs f fs ?_ hkind (RepF.transfer hk hu hr (fun f' hf' => hp f' (by simp [hf'])))
    refine RepV.transfer hk hu hv ?_
    intro r hr' hr0
    by_cases hc : (f.chi == .ext) = true
    · simp [hc] at hr'
    · simp only [hc, Bool.false_eq_true, if_false, Option.some.injEq] at hr'
      subst hr'
      exact hp f (by simp) (fun e => hc ((chi_beq_ext _).mpr e)) hr0
end

theorem children_lt {o : Obj} {y : Nat} (hy : y ∈ o.children) : y < 2 ^ 64 := by
  unfold Obj.children at hy
  rw [List.mem_filterMap] at hy
  obtain ⟨f, _, hf⟩ := hy
  split at hf
  · cases hf; exact f.ptr.isLt
  · cases hf

def AllFieldsKept (h h' : Heap) : Prop :=
  ∀ id o, h.get id = some o → ∃ o', h'.get id = some o' ∧ o'.fields = o.fields

/-- `transfer` at an object number no reference can have: ids of children are words (`children_lt`), so
    `2 ^ 64` is referenced by nothing and the side conditions about the exempted object are vacuous -/
theorem RepV.kept {P : Program} {hooks : Bool} {types : List TypeDecl} {h h' : Heap}
    (hk : AllFieldsKept h h') {v : Value} {p : Option Word} {w : Word}
    (hv : RepV P hooks types h v p w) : RepV P hooks types h' v p w := by
  refine RepV.transfer (x := 2 ^ 64) (fun id o _ hg => hk id o hg) ?_ hv ?_
  · intro id o hg hm
    exact absurd (children_lt hm) (Nat.lt_irrefl _)
  · intro r _ _ e
    have := r.isLt
    omega

theorem RepB.kept {P : Program} {hooks : Bool} {types : List TypeDecl} {h h' : Heap}
    (hk : AllFieldsKept h h') {vs : List Value} {r : Word}
    (hv : RepB P hooks types h vs r) : RepB P hooks types h' vs r := by
  refine RepB.transfer (x := 2 ^ 64) (fun id o _ hg => hk id o hg) ?_ hv ?_
  · intro id o hg hm
    exact absurd (children_lt hm) (Nat.lt_irrefl _)
  · intro _ e
    have := r.isLt
    omega

theorem AllFieldsKept.ofExt {h h' : Heap} (he : HeapExt h h') : AllFieldsKept h h' :=
  fun id o hg => ⟨o, he id o hg, rfl⟩

def childSum (h : Heap) (x : Nat) : Nat := (h.map fun e => e.2.children.count x).sum

theorem refCount_eq (h : Heap) (rs : List Nat) (x : Nat) : refCount h rs x = rs.count x + childSum h x := rfl

theorem remove_eq_self {h : Heap} {id : Nat} (hn : id ∉ h.map (·.1)) : h.remove id = h := by
  unfold Heap.remove
  rw [List.filter_eq_self]
  intro e he
  simp only [bne_iff_ne, ne_eq]
  intro hc
  exact hn (List.mem_map.mpr ⟨e, he, hc⟩)

theorem remove_cons_same (e1 : Nat) (e2 : Obj) (h : Heap) :
    Heap.remove ((e1, e2) :: h) e1 = Heap.remove h e1 := by
  unfold Heap.remove
  simp [List.filter_cons]

theorem remove_cons_other {e1 id : Nat} (e2 : Obj) (h : Heap) (hne : e1 ≠ id) :
    Heap.remove ((e1, e2) :: h) id = (e1, e2) :: Heap.remove h id := by
  unfold Heap.remove
  have : (e1 != id) = true := by simp [hne]
  simp [List.filter_cons, this]

theorem childSum_cons (id : Nat) (o : Obj) (h : Heap) (x : Nat) :
    childSum ((id, o) :: h) x = o.children.count x + childSum h x := by
  simp [childSum]

theorem childSum_remove : ∀ {h : Heap}, (h.map (·.1)).Nodup → ∀ {id : Nat} {o : Obj},
    h.get id = some o → ∀ (x : Nat), childSum (h.remove id) x + o.children.count x = childSum h x
  | [], _, id, o, hg, _ => by simp [Heap.get] at hg
  | (e1, e2) :: h, hnd, id, o, hg, x => by
    simp only [List.map_cons, List.nodup_cons] at hnd
    by_cases he : e1 = id
    · subst he
      rw [heap_get_cons_same] at hg
      have ho : e2 = o := Option.some.inj hg
      subst ho
      rw [remove_cons_same, remove_eq_self hnd.1, childSum_cons]
      omega
    · have hne : id ≠ e1 := fun hc => he hc.symm
      rw [heap_get_cons_ne hne] at hg
      rw [remove_cons_other _ _ he, childSum_cons, childSum_cons]
      have := childSum_remove hnd.2 hg x
      omega

theorem childSum_set {h : Heap} (hnd : (h.map (·.1)).Nodup) {id : Nat} {o o' : Obj}
    (hg : h.get id = some o) (x : Nat) :
    childSum (h.set id o') x + o.children.count x = childSum h x + o'.children.count x := by
  have := childSum_remove hnd hg x
  unfold Heap.set
  rw [childSum_cons]
  omega

theorem childSum_zero {h : Heap} {x : Nat} (hz : childSum h x = 0) : ∀ e ∈ h, x ∉ e.2.children := by
  induction h with
  | nil => intro e he; cases he
  | cons a h ih =>
    simp only [childSum, List.map_cons, List.sum_cons] at hz
    intro e he
    rcases List.mem_cons.mp he with rfl | he'
    · intro hm
      have : 0 < e.2.children.count x := List.count_pos_iff.mpr hm
      omega
    · exact ih (by simp only [childSum]; omega) e he'

theorem nodup_remove {h : Heap} (hnd : (h.map (·.1)).Nodup) (id : Nat) : ((h.remove id).map (·.1)).Nodup := by
  unfold Heap.remove
  exact List.Nodup.sublist (List.Sublist.map _ List.filter_sublist) hnd

theorem nodup_set {h : Heap} (hnd : (h.map (·.1)).Nodup) (id : Nat) (o : Obj) :
    ((h.set id o).map (·.1)).Nodup := by
  unfold Heap.set
  simp only [List.map_cons, List.nodup_cons]
  refine ⟨?_, nodup_remove hnd id⟩
  intro hm
  obtain ⟨e, he, he1⟩ := List.mem_map.mp hm
  exact (mem_remove.mp he).2 he1

theorem heapOK_count_congr {h : Heap} {rs rs' : List Nat} {next : Nat} (H : HeapOK h rs next)
    (hrs : ∀ x, rs'.count x = rs.count x) : HeapOK h rs' next := by
  have key : ∀ x, refCount h rs' x = refCount h rs x := by
    intro x; simp only [refCount_eq, hrs x]
  exact {
    pos := H.pos
    nodup := H.nodup
    ids := H.ids
    counts := by intro e he; rw [key]; exact H.counts e he
    live := by intro id hid; rw [key] at hid; exact H.live id hid }

/-- `HeapOK` when the count of one object changes together with the number of roots
    referencing it -/
theorem heapOK_setCount {h : Heap} {rs rs' : List Nat} {next id c' : Nat} {o : Obj}
    (H : HeapOK h rs next) (hg : h.get id = some o)
    (hrs : ∀ x, x ≠ id → rs'.count x = rs.count x)
    (hc : c' + rs.count id = o.count + rs'.count id) :
    HeapOK (h.set id { o with count := c' }) rs' next := by
  have hmem := heap_get_mem hg
  have hcs : ∀ x, childSum (h.set id { o with count := c' }) x = childSum h x := by
    intro x
    have := childSum_set (o' := { o with count := c' }) H.nodup hg x
    have e : ({ o with count := c' } : Obj).children = o.children := rfl
    rw [e] at this
    omega
  exact {
    pos := H.pos
    nodup := nodup_set H.nodup _ _
    ids := by
      intro e he
      unfold Heap.set at he
      rcases List.mem_cons.mp he with rfl | he'
      · exact H.ids (id, o) hmem
      · exact H.ids e (mem_remove.mp he').1
    counts := by
      intro e he
      unfold Heap.set at he
      rcases List.mem_cons.mp he with rfl | he'
      · have := H.counts _ hmem
        simp only [refCount_eq, hcs] at this ⊢
        omega
      · have hne := (mem_remove.mp he').2
        have := H.counts e (mem_remove.mp he').1
        simp only [refCount_eq, hcs, hrs _ hne] at this ⊢
        exact this
    live := by
      intro x hx
      by_cases hxi : x = id
      · subst hxi; rw [heap_get_set_same]; rfl
      · rw [heap_get_set_other _ _ hxi]
        apply H.live
        simp only [refCount_eq, hcs, hrs _ hxi] at hx ⊢
        exact hx }

/-- `HeapOK` when an object with count 0 is removed: the reference to it disappears from the
    roots, its children become roots -/
theorem heapOK_remove {h : Heap} {rs rs' : List Nat} {next id : Nat} {o : Obj}
    (H : HeapOK h rs next) (hg : h.get id = some o) (h0 : o.count = 0)
    (hrs : ∀ x, rs'.count x + (if x = id then 1 else 0) = rs.count x + o.children.count x) :
    HeapOK (h.remove id) rs' next := by
  have hmem := heap_get_mem hg
  have hcs := childSum_remove H.nodup hg
  have hid := H.counts _ hmem
  simp only [refCount_eq, h0] at hid
  exact {
    pos := H.pos
    nodup := nodup_remove H.nodup _
    ids := fun e he => H.ids e (mem_remove.mp he).1
    counts := by
      intro e he
      have hne := (mem_remove.mp he).2
      have := H.counts e (mem_remove.mp he).1
      have h1 := hrs e.1
      have h2 := hcs e.1
      simp only [hne, if_false] at h1
      simp only [refCount_eq] at this ⊢
      omega
    live := by
      intro x hx
      have h1 := hrs x
      have h2 := hcs x
      simp only [refCount_eq] at hx
      by_cases hxi : x = id
      · subst hxi
        simp only [if_true] at h1
        omega
      · simp only [hxi, if_false] at h1
        rw [heap_get_remove_other _ hxi]
        apply H.live
        simp only [refCount_eq]
        omega }

/-- a unique object that is referenced by a root is referenced by nothing else -/
theorem heapOK_unique {h : Heap} {rs : List Nat} {next id : Nat} {o : Obj}
    (H : HeapOK h rs next) (hg : h.get id = some o) (h0 : o.count = 0) (hr : id ∈ rs) :
    rs.count id = 1 ∧ Unref h id := by
  have hid := H.counts _ (heap_get_mem hg)
  simp only [refCount_eq, h0] at hid
  have hpos : 0 < rs.count id := List.count_pos_iff.mpr hr
  refine ⟨by omega, ?_⟩
  intro id' o' hg' hm
  exact childSum_zero (by omega) _ (heap_get_mem hg') hm

theorem mem_roots_go (σ : Temps) : ∀ (Γ : Ctx) (k i : Nat) (hi : i < Γ.length) (p : Word),
    Γ[i].chi ≠ .ext → σ.get (2 * (k + i)) = some p → p ≠ 0 → p.toNat ∈ roots.go σ Γ k
  | [], _, _, hi, _, _, _, _ => by simp at hi
  | b :: bs, k, 0, _, p, hc, hg, hp => by
    simp only [List.getElem_cons_zero] at hc
    simp only [Nat.add_zero] at hg
    have h1 : (b.chi != .ext) = true := (chi_bne_ext _).mpr hc
    have h2 : (p != 0) = true := by rw [bne_iff_ne]; exact hp
    simp only [roots.go, h1, hg, h2, if_true, List.mem_append, List.mem_singleton]
    exact Or.inl trivial
  | b :: bs, k, i + 1, hi, p, hc, hg, hp => by
    simp only [List.getElem_cons_succ] at hc
    have := mem_roots_go σ bs (k + 1) i (by simpa using hi) p hc
      (by rw [show k + 1 + i = k + (i + 1) by omega]; exact hg) hp
    simp only [roots.go, List.mem_append]
    exact Or.inr this

theorem mem_roots {σ : Temps} {Γ : Ctx} {i : Nat} (hi : i < Γ.length) {p : Word}
    (hc : Γ[i].chi ≠ .ext) (hg : σ.get (2 * i) = some p) (hp : p ≠ 0) : p.toNat ∈ roots Γ σ := by
  unfold roots
  exact mem_roots_go σ Γ 0 i hi p hc (by rw [Nat.zero_add]; exact hg) hp

def rootOf (σ : Temps) (b : Binding) (i : Nat) : List Nat :=
  if b.chi != .ext then
    match σ.get (2 * i) with
    | some p => if p != 0 then [p.toNat] else []
    | none => []
  else []

theorem roots_snoc (σ : Temps) (Γ : Ctx) (b : Binding) :
    roots (Γ ++ [b]) σ = roots Γ σ ++ rootOf σ b Γ.length := by
  unfold roots
  rw [roots_go_append]
  simp only [roots.go, rootOf, List.append_nil, Nat.zero_add]
  cases σ.get (2 * Γ.length) <;> rfl

section
variable {P : Program} {hooks : Bool} {types : List TypeDecl} {h : Heap}

theorem repF_of : ∀ {vs : List Value} {fs : List Field},
    FieldsOf (RepV P hooks types) (fun χ v => χ = kindOf v) h vs fs → RepF P hooks types h vs fs
  | [], [], _ => .nil
  | _ :: _, _ :: _, H => .cons _ _ _ _ H.1.1 H.1.2 (repF_of H.2)
  | [], _ :: _, H => H.elim
  | _ :: _, [], H => H.elim

theorem repB_of {vs : List Value} {r : Word}
    (H : BlockOf (RepV P hooks types) (fun χ v => χ = kindOf v) h vs r) : RepB P hooks types h vs r := by
  rcases H with ⟨rfl, rfl⟩ | ⟨hne, hr, o, hg, hf⟩
  · exact .empty
  · cases vs with
    | nil => exact absurd rfl hne
    | cons v vs => exact .block v vs r o hr hg (repF_of hf)

end

def valKit2 (P : Program) (hooks : Bool) (types : List TypeDecl) : Kit P hooks types where
  V := RepV P hooks types
  K := fun χ v => χ = kindOf v
  E := fun Γc Γ' => Γ'.keys = Γc.keys
  int := fun n p => .int n p
  int_inv := fun hv => by cases hv; rfl
  obj := fun tag _ _ hb => .obj tag _ _ (repB_of hb)
  clo := fun e hb hm => .clo _ _ _ _ _ _ e (repB_of hb) hm
  V_ext := fun he hv => hv.kept (AllFieldsKept.ofExt he)
  K_kind := fun _ => rfl

theorem relX_iff {P : Program} {hooks : Bool} {prog : Prog} {st : Pos.State} {cfg : Config} :
    RelX P hooks prog st cfg ↔ (valKit2 P hooks prog.types).Rel prog st cfg :=
  ⟨fun R => ⟨R.len, R.cap, R.vals, R.heap, R.code⟩, fun R => ⟨R.len, R.cap, R.vals, R.heap, R.code⟩⟩

section
variable {P : Program} {hooks : Bool} {types : List TypeDecl} {h : Heap} {σ σ' : Temps} {Γ Δ : Ctx}
  {ρ : List Value}

theorem ValsOK2.congr (V : ValsOK2 P hooks types h σ Γ ρ)
    (hσ : ∀ t, t < 2 * Γ.length → σ'.get t = σ.get t) : ValsOK2 P hooks types h σ' Γ ρ :=
  Kit.Vals.congr (R := valKit2 P hooks types) V hσ

theorem ValsOK2.take (V : ValsOK2 P hooks types h σ Γ ρ) (n : Nat) :
    ValsOK2 P hooks types h σ (Γ.take n) (ρ.take n) :=
  Kit.Vals.take (R := valKit2 P hooks types) V n

theorem ValsOK2.slice (V : ValsOK2 P hooks types h σ Γ ρ) (n : Nat) :
    (valKit2 P hooks types).Slice h σ (Γ.drop n) (ρ.drop n) n :=
  Kit.Vals.slice (R := valKit2 P hooks types) V n

theorem ValsOK2.chi (V : ValsOK2 P hooks types h σ Γ ρ) (hc : Γ.map (·.chi) = Δ.map (·.chi)) :
    ValsOK2 P hooks types h σ Δ ρ :=
  Kit.Vals.chi (R := valKit2 P hooks types) V hc

end

/-- the representation of the environment survives a heap change that keeps the fields of every
    object except `x`, when `x` is referenced neither by the heap nor by a position -/
theorem ValsOK2.transfer {P : Program} {hooks : Bool} {types : List TypeDecl} {h h' : Heap} {σ : Temps}
    {Γ : Ctx} {ρ : List Value} {x : Nat} (V : ValsOK2 P hooks types h σ Γ ρ)
    (hk : FieldsKept h h' x) (hu : Unref h x)
    (hroot : ∀ i (hi : i < Γ.length), Γ[i].chi ≠ .ext → ∀ p, σ.get (2 * i) = some p → p ≠ 0 →
      p.toNat ≠ x) :
    ValsOK2 P hooks types h' σ Γ ρ := by
  intro i h1 h2
  obtain ⟨a, b, c, d⟩ := V i h1 h2
  refine ⟨RepV.transfer hk hu a ?_, b, c, d⟩
  intro r hr hr0
  by_cases hc : (Γ[i].chi == .ext) = true
  · simp [hc] at hr
  · simp only [hc, Bool.false_eq_true, if_false] at hr
    exact hroot i h1 (fun e => hc ((chi_beq_ext _).mpr e)) r hr hr0

theorem ValsOK2.kept {P : Program} {hooks : Bool} {types : List TypeDecl} {h h' : Heap} {σ : Temps}
    {Γ : Ctx} {ρ : List Value} (V : ValsOK2 P hooks types h σ Γ ρ) (hk : AllFieldsKept h h') :
    ValsOK2 P hooks types h' σ Γ ρ := by
  intro i h1 h2
  obtain ⟨a, b, c, d⟩ := V i h1 h2
  exact ⟨RepV.kept hk a, b, c, d⟩

end Scc.Backend.Sim2
