/-
  Scc.Backend.SizeMock — the mock backend (Mock.lean, /verif/harness/src/mock.rs) satisfies the
  hypotheses of the generic size bound of Scc.Backend.SizeGen: its temporaries are `Nat` with the
  usual order, `variable_temporary` is `2·position + number`, and every primitive emits ONE abstract
  instruction (`GenCost mockSym 1`).  Hence

      |compile mock p|  ≤  10 · (1 + M) · nodes(p)       (`mock_compile_length`)

  for every linearized program `p` with longest context `M` whose substitutions have pairwise distinct
  new names.
-/
import Scc.Backend.SizeGen

namespace Scc.Backend.SizeMock

open Scc.AxCut Scc.AxCut.SizeLin Scc.Backend.SizeConns Scc.Backend.SizeGen

theorem mock_go_spec (id : Nat) : ∀ (ctx : Ctx) (i pos : Nat), Mock.ctxPosition.go id ctx i = some pos →
    i ≤ pos ∧ ∃ b, ctx[pos - i]? = some b ∧ b.var.id = id
  | [], _, _, h => by simp [Mock.ctxPosition.go] at h
  | b :: bs, i, pos, h => by
    simp only [Mock.ctxPosition.go] at h
    split at h
    · next hb =>
      cases h
      exact ⟨Nat.le_refl _, b, by simp, by simpa using hb⟩
    · obtain ⟨h1, b', h2, h3⟩ := mock_go_spec id bs (i + 1) pos h
      refine ⟨by omega, b', ?_, h3⟩
      have : pos - i = (pos - (i + 1)) + 1 := by omega
      rw [this]; simpa using h2

theorem mock_vt {num : TempNum} {ctx : Ctx} {id t : Nat} (h : VT mockSym num ctx id t) :
    ∃ pos b, Mock.ctxPosition ctx id = some pos ∧ t = 2 * pos + num.toNat ∧ ctx[pos]? = some b ∧
      b.var.id = id := by
  obtain ⟨c, c', hr⟩ := h
  obtain ⟨pos, hp, ht, _⟩ := (vt_run_ok num ctx id c t c').1 hr
  obtain ⟨_, b, hb, hid⟩ := mock_go_spec id ctx 0 pos hp
  exact ⟨pos, b, hp, ht.symm, by simpa using hb, hid⟩

theorem mock_law : BackendLaw mockSym where
  eq := by intro a b; show (a == b) = true ↔ a = b; simp
  irrefl := by intro a; show decide (a < a) = false; simp
  trans := by
    intro a b c h1 h2
    have h1' : a < b := of_decide_eq_true h1
    have h2' : b < c := of_decide_eq_true h2
    exact decide_eq_true (Nat.lt_trans h1' h2')
  total := by
    intro a b h1 h2
    have h1' : ¬ a < b := of_decide_eq_false h1
    exact decide_eq_true (by omega)
  vtDet := by
    intro num ctx id t t' h h'
    obtain ⟨p, _, hp, rfl, _, _⟩ := mock_vt h
    obtain ⟨p', _, hp', rfl, _, _⟩ := mock_vt h'
    rw [hp] at hp'; cases hp'; rfl
  vtInj := by
    intro num num' ctx id id' t h h'
    obtain ⟨p, b, _, rfl, hb, hid⟩ := mock_vt h
    obtain ⟨p', b', _, e, hb', hid'⟩ := mock_vt h'
    have hn : num = num' ∧ p = p' := by
      cases num <;> cases num' <;> simp only [TempNum.toNat] at e <;>
        first | exact ⟨rfl, by omega⟩ | (exfalso; omega)
    obtain ⟨rfl, rfl⟩ := hn
    rw [hb] at hb'; cases hb'
    exact ⟨rfl, hid.symm.trans hid'⟩

theorem mock_cost : GenCost mockSym 1 where
  move := ⟨fun _ _ => Nat.le_refl _, fun _ _ => Nat.le_refl _, fun _ _ => Nat.le_refl _⟩
  jump := fun _ => Nat.le_refl _
  jumpLabel := fun _ => Nat.le_refl _
  jumpLabelFixed := fun _ => Nat.le_refl _
  jumpLabelIf := fun _ _ _ _ => Nat.le_refl _
  jumpLabelIfZero := fun _ _ _ => Nat.le_refl _
  loadImmediate := fun _ _ => Nat.le_refl _
  loadLabel := fun _ _ => Nat.le_refl _
  addAndJump := fun _ _ => Nat.le_refl _
  binop := fun _ _ _ _ => Nat.le_refl _
  printI64 := fun _ _ _ => GPost.pure (Nat.le_refl _)
  eraseBlock := fun _ => GPost.pure (Nat.le_refl _)
  shareBlockN := fun _ _ => GPost.pure (Nat.le_refl _)
  store := fun a _ => GPost.pure (by simp)
  load := fun a _ => GPost.pure (by simp)

/-- C19 for the mock backend: at most `10·(1 + M)` abstract instructions per node -/
theorem mock_compile_length (hooks : Bool) (p : Prog) (M : Nat) (hM : defsCap p.defs ≤ M)
    (hok : substOkProg p = true) (c : Nat) (ops : List MockOp)
    (h : compileMockSym p hooks c = .ok ops) : ops.length ≤ 10 * (1 + M) * defsNodes p.defs := by
  unfold compileMockSym runGen at h
  split at h
  · cases h
  · next r c' hr =>
    cases h
    have := compile_length mock_law mock_cost hooks natRen p M hM hok c _ c' hr
    simpa [KW] using this

end Scc.Backend.SizeMock
