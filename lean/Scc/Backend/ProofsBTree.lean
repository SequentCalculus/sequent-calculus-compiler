/-
  Scc.Backend.ProofsBTree — the `BTreeSet` / `BTreeMap` of temporaries of the generic generator
  (`setInsert`, `setOfList`, `mapInsert (tempCmp B)`; Generic.lean) keep strictly ascending lists
  strictly ascending and insert what they should, for every backend whose temporaries are a lawful
  strict total order (`OrderLaw`; the mock backend: `mock_order`).
-/
import Scc.Backend.Proofs

namespace Scc.Backend.BTree

open Scc.AxCut

section
variable {Code T : Type} (B : Backend Code T)

/-- `tempEq` is equality and `tempLt` a strict total order -/
structure OrderLaw : Prop where
  eq : ∀ a b : T, B.tempEq a b = true ↔ a = b
  irrefl : ∀ a : T, B.tempLt a a = false
  trans : ∀ a b c : T, B.tempLt a b = true → B.tempLt b c = true → B.tempLt a c = true
  total : ∀ a b : T, B.tempLt a b = false → a ≠ b → B.tempLt b a = true

variable {B}

def Asc (B : Backend Code T) (l : List T) : Prop := l.Pairwise (fun a b => B.tempLt a b = true)

theorem Asc.nodup (L : OrderLaw B) {l : List T} (h : Asc B l) : l.Nodup := by
  refine List.Pairwise.imp ?_ h
  intro a b hab e
  subst e
  rw [L.irrefl] at hab
  cases hab

theorem cmp_lt {a b : T} : tempCmp B a b = .lt ↔ B.tempLt a b = true := by
  unfold tempCmp
  cases B.tempLt a b <;> cases B.tempEq a b <;> simp

theorem cmp_eq (L : OrderLaw B) {a b : T} : tempCmp B a b = .eq ↔ a = b := by
  unfold tempCmp
  constructor
  · intro h
    cases hl : B.tempLt a b <;> cases he : B.tempEq a b <;> simp [hl, he] at h
    exact (L.eq _ _).1 he
  · rintro rfl
    simp [L.irrefl, (L.eq a a).2 rfl]

theorem cmp_gt (L : OrderLaw B) {a b : T} (h : tempCmp B a b = .gt) : B.tempLt b a = true := by
  unfold tempCmp at h
  cases hl : B.tempLt a b <;> cases he : B.tempEq a b <;> simp [hl, he] at h
  refine L.total a b hl ?_
  intro e
  have := (L.eq a b).2 e
  rw [he] at this
  cases this

theorem setInsert_spec (L : OrderLaw B) (t : T) : ∀ (l : List T), Asc B l →
    Asc B (setInsert B t l) ∧ (∀ x, x ∈ setInsert B t l ↔ x = t ∨ x ∈ l) ∧
    (setInsert B t l).length ≤ l.length + 1
  | [], _ => by simp [setInsert, Asc]
  | t' :: rest, h => by
    have h' : Asc B rest := (List.pairwise_cons.1 h).2
    have hall : ∀ y ∈ rest, B.tempLt t' y = true := (List.pairwise_cons.1 h).1
    simp only [setInsert]
    cases hc : tempCmp B t t' with
    | lt =>
      have hlt := cmp_lt.1 hc
      refine ⟨?_, by simp, by simp⟩
      refine List.pairwise_cons.2 ⟨?_, h⟩
      intro y hy
      simp only [List.mem_cons] at hy
      rcases hy with rfl | hy
      · exact hlt
      · exact L.trans _ _ _ hlt (hall y hy)
    | eq =>
      have := (cmp_eq L).1 hc
      subst this
      refine ⟨h, ?_, by simp⟩
      intro x; simp
    | gt =>
      have hgt := cmp_gt L hc
      obtain ⟨i1, i2, i3⟩ := setInsert_spec L t rest h'
      refine ⟨?_, ?_, by simp; omega⟩
      · refine List.pairwise_cons.2 ⟨?_, i1⟩
        intro y hy
        rcases (i2 y).1 hy with rfl | hy
        · exact hgt
        · exact hall y hy
      · intro x
        simp only [List.mem_cons, i2]
        constructor
        · rintro (h1 | h1 | h1)
          · exact Or.inr (Or.inl h1)
          · exact Or.inl h1
          · exact Or.inr (Or.inr h1)
        · rintro (h1 | h1 | h1)
          · exact Or.inr (Or.inl h1)
          · exact Or.inl h1
          · exact Or.inr (Or.inr h1)

theorem setOfList_spec (L : OrderLaw B) (ts : List T) :
    Asc B (setOfList B ts) ∧ (∀ x, x ∈ setOfList B ts ↔ x ∈ ts) ∧ (setOfList B ts).length ≤ ts.length := by
  unfold setOfList
  have key : ∀ (ts acc : List T), Asc B acc →
      Asc B (ts.foldl (fun s t => setInsert B t s) acc) ∧
      (∀ x, x ∈ ts.foldl (fun s t => setInsert B t s) acc ↔ x ∈ ts ∨ x ∈ acc) ∧
      (ts.foldl (fun s t => setInsert B t s) acc).length ≤ ts.length + acc.length := by
    intro ts
    induction ts with
    | nil => intro acc h; simp [h]
    | cons t ts ih =>
      intro acc h
      obtain ⟨i1, i2, i3⟩ := setInsert_spec L t acc h
      obtain ⟨j1, j2, j3⟩ := ih _ i1
      refine ⟨j1, ?_, by simp only [List.foldl_cons, List.length_cons]; omega⟩
      intro x
      simp only [List.foldl_cons, j2, i2, List.mem_cons]
      constructor
      · rintro (h1 | h1 | h1)
        · exact Or.inl (Or.inr h1)
        · exact Or.inl (Or.inl h1)
        · exact Or.inr h1
      · rintro ((h1 | h1) | h1)
        · exact Or.inr (Or.inl h1)
        · exact Or.inl h1
        · exact Or.inr (Or.inr h1)
  have := key ts [] (by simp [Asc])
  simpa using this

def KeysAsc (B : Backend Code T) (pm : List (T × List T)) : Prop := Asc B (pm.map (·.1))

theorem mapInsert_spec (L : OrderLaw B) (k : T) (v : List T) : ∀ (l : List (T × List T)),
    KeysAsc B l →
    KeysAsc B (mapInsert (tempCmp B) k v l) ∧
    (∀ e, e ∈ mapInsert (tempCmp B) k v l → e = (k, v) ∨ (e ∈ l ∧ e.1 ≠ k)) ∧
    (∀ x, x ∈ (mapInsert (tempCmp B) k v l).map (·.1) ↔ x = k ∨ x ∈ l.map (·.1)) ∧
    (mapInsert (tempCmp B) k v l).length ≤ l.length + 1
  | [], _ => by simp [mapInsert, KeysAsc, Asc]
  | (k', v') :: rest, h => by
    have h' : KeysAsc B rest := (List.pairwise_cons.1 h).2
    have hall : ∀ y ∈ rest.map (·.1), B.tempLt k' y = true := (List.pairwise_cons.1 h).1
    simp only [mapInsert]
    cases hc : tempCmp B k k' with
    | lt =>
      have hlt := cmp_lt.1 hc
      refine ⟨?_, ?_, by simp, by simp⟩
      · refine List.pairwise_cons.2 ⟨?_, h⟩
        intro y hy
        simp only [List.map_cons, List.mem_cons] at hy
        rcases hy with rfl | hy
        · exact hlt
        · exact L.trans _ _ _ hlt (hall y hy)
      · intro e he
        simp only [List.mem_cons] at he
        rcases he with rfl | rfl | he
        · exact Or.inl rfl
        · refine Or.inr ⟨by simp, ?_⟩
          intro e; simp only at e; subst e
          rw [L.irrefl] at hlt; cases hlt
        · refine Or.inr ⟨by simp [he], ?_⟩
          intro e'
          have h1 := hall e.1 (List.mem_map.mpr ⟨e, he, rfl⟩)
          rw [e'] at h1
          have := L.trans _ _ _ hlt h1
          rw [L.irrefl] at this; cases this
    | eq =>
      have := (cmp_eq L).1 hc
      subst this
      refine ⟨h, ?_, by simp, by simp⟩
      intro e he
      simp only [List.mem_cons] at he
      rcases he with rfl | he
      · exact Or.inl rfl
      · refine Or.inr ⟨by simp [he], ?_⟩
        intro e'
        have h1 := hall e.1 (List.mem_map.mpr ⟨e, he, rfl⟩)
        rw [e', L.irrefl] at h1; cases h1
    | gt =>
      have hgt := cmp_gt L hc
      obtain ⟨i1, i2, i3, i4⟩ := mapInsert_spec L k v rest h'
      refine ⟨?_, ?_, ?_, by simp; omega⟩
      · refine List.pairwise_cons.2 ⟨?_, i1⟩
        intro y hy
        rcases (i3 y).1 hy with rfl | hy
        · exact hgt
        · exact hall y hy
      · intro e he
        simp only [List.mem_cons] at he
        rcases he with rfl | he
        · refine Or.inr ⟨by simp, ?_⟩
          intro e'; simp only at e'; subst e'
          rw [L.irrefl] at hgt; cases hgt
        · rcases i2 e he with h1 | ⟨h1, h2⟩
          · exact Or.inl h1
          · exact Or.inr ⟨by simp [h1], h2⟩
      · intro x
        simp only [List.map_cons, List.mem_cons, i3]
        constructor
        · rintro (h1 | h1 | h1)
          · exact Or.inr (Or.inl h1)
          · exact Or.inl h1
          · exact Or.inr (Or.inr h1)
        · rintro (h1 | h1 | h1)
          · exact Or.inr (Or.inl h1)
          · exact Or.inl h1
          · exact Or.inr (Or.inr h1)

theorem mem_mapInsert_of (L : OrderLaw B) (k : T) (v : List T) : ∀ (l : List (T × List T)) (e : T × List T),
    e = (k, v) ∨ (e ∈ l ∧ e.1 ≠ k) → e ∈ mapInsert (tempCmp B) k v l
  | [], e, h => by
    rcases h with rfl | ⟨h, _⟩
    · simp [mapInsert]
    · simp at h
  | (k', v') :: rest, e, h => by
    simp only [mapInsert]
    cases hc : tempCmp B k k' with
    | lt =>
      rcases h with rfl | ⟨h, _⟩
      · exact List.mem_cons_self
      · exact List.mem_cons_of_mem _ h
    | eq =>
      have := (cmp_eq L).1 hc
      subst this
      rcases h with rfl | ⟨h, hne⟩
      · simp
      · rcases List.mem_cons.1 h with rfl | h
        · exact absurd rfl hne
        · simp [h]
    | gt =>
      rcases h with rfl | ⟨h, hne⟩
      · exact List.mem_cons_of_mem _ (mem_mapInsert_of L k v rest _ (Or.inl rfl))
      · rcases List.mem_cons.1 h with rfl | h
        · simp
        · exact List.mem_cons_of_mem _ (mem_mapInsert_of L k v rest _ (Or.inr ⟨h, hne⟩))

end

theorem bindingCmp_eq_id {a b : Binding} (h : bindingCmp a b = .eq) : a.var.id = b.var.id := by
  unfold bindingCmp at h
  have h1 : identCmp a.var b.var = .eq := by
    cases hc : identCmp a.var b.var <;> simp [hc, Ordering.then] at h ⊢
  unfold identCmp at h1
  have h2 : compare a.var.id b.var.id = .eq := by
    cases hc : strCmp a.var.name b.var.name <;> simp [hc, Ordering.then] at h1 ⊢
    exact h1
  exact Nat.compare_eq_eq.mp h2

theorem mock_order : OrderLaw mockSym where
  eq := by intro a b; show (a == b) = true ↔ a = b; simp
  irrefl := by intro a; show decide (a < a) = false; simp
  trans := by
    intro a b c h1 h2
    exact decide_eq_true (Nat.lt_trans (of_decide_eq_true h1) (of_decide_eq_true h2))
  total := by
    intro a b h1 h2
    have h1' : ¬ a < b := of_decide_eq_false h1
    exact decide_eq_true (by omega)

end Scc.Backend.BTree
