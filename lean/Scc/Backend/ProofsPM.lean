/-
  Scc.Backend.ProofsPM — the generic `parallelMoves` of Generic.lean, instantiated with the mock
  backend, IS the parallel-move model of Scc/PMoves/Model.lean (the one whose correctness is proved in
  Scc/PMoves/Proofs.lean): same forest, same instruction sequence, same fuel (`parallelMoves_eq`).  Then
  `run_moves`: the abstract backend machine runs the emitted `mov`/`save`/`restore` instructions as the model
  runs its operations (`PMoves.run`), so `parallelMovesFuel_correct` applies to it (ProofsSubstObj.lean).
  Proof file.
-/
import Scc.Backend.ProofsSim
import Scc.Backend.TotalPM
import Scc.PMoves.Proofs

namespace Scc.Backend.PM

open Scc.Backend.Abs Scc.Backend.Sim

mutual
  def convTree : Tree Nat → PMoves.Tree
    | .backEdge => .backEdge
    | .node t kids => .node t (convTrees kids)
  def convTrees : List (Tree Nat) → List PMoves.Tree
    | [] => []
    | k :: ks => convTree k :: convTrees ks
end

def convRoot : Root Nat → PMoves.Root
  | .startNode t kids => .startNode t (convTrees kids)

def aopToMock : PMoves.AOp → MockOp
  | .mov t s => .mov t s
  | .save s sp => .save s sp
  | .restore t sp => .restore t sp
  | .comment m => .comment m

def toOpt {α β : Type} (g : α → β) : Except String α → Option β
  | .ok a => some (g a)
  | .error _ => none

theorem convTrees_eq_map (l : List (Tree Nat)) : convTrees l = l.map convTree := by
  induction l with
  | nil => rfl
  | cons k ks ih => simp [convTrees, ih]

theorem mapLookup_eq (pm : List (Nat × List Nat)) (k : Nat) :
    mapLookup mockSym pm k = PMoves.mapLookup pm k := by
  unfold mapLookup
  induction pm with
  | nil => rfl
  | cons e rest ih =>
    obtain ⟨k', v⟩ := e
    simp only [List.find?_cons, mockSym_tempEq, PMoves.mapLookup]
    by_cases h : k' = k
    · subst h; simp
    · have h1 : (k == k') = false := by simp [Ne.symm h]
      have h2 : (k' == k) = false := by simp [h]
      simp only [h1, h2, Bool.false_eq_true, if_false]
      exact ih

theorem optMap_mapExcept {α β β' : Type} (g : β → β') (fe : α → Except String β) (fo : α → Option β')
    (h : ∀ a, fo a = toOpt g (fe a)) : ∀ (l : List α),
    PMoves.optMap fo l = toOpt (List.map g) (mapExcept fe l)
  | [] => rfl
  | a :: as => by
    simp only [PMoves.optMap, mapExcept, h a]
    cases fe a with
    | error e => rfl
    | ok b =>
      simp only [toOpt]
      rw [optMap_mapExcept g fe fo h as]
      cases mapExcept fe as with
      | error e => rfl
      | ok bs => rfl

theorem spanningTree_eq (pm : List (Nat × List Nat)) (root : Nat) : ∀ (fuel node : Nat),
    PMoves.spanningTree fuel pm root node = toOpt convTree (spanningTree mockSym pm root fuel node)
  | 0, _ => rfl
  | fuel + 1, node => by
    simp only [PMoves.spanningTree, spanningTree, mockSym_tempEq, mapLookup_eq]
    by_cases h : root = node
    · subst h; simp [toOpt, convTree]
    · have h1 : (root == node) = false := by simp [h]
      simp only [h1, Bool.false_eq_true, if_false]
      cases PMoves.mapLookup pm node with
      | none => simp [toOpt, convTree, convTrees]
      | some targets =>
        simp only
        rw [optMap_mapExcept convTree _ _ (spanningTree_eq pm root fuel) targets]
        cases mapExcept (spanningTree mockSym pm root fuel) targets with
        | error e => rfl
        | ok kids => simp [toOpt, convTree, convTrees_eq_map]

mutual
theorem nodes_eq : ∀ (t : Tree Nat), (convTree t).nodes = Tree.nodes t
  | .backEdge => rfl
  | .node t kids => by simp [convTree, PMoves.Tree.nodes, Tree.nodes, nodesList_eq kids]
theorem nodesList_eq : ∀ (l : List (Tree Nat)), PMoves.nodesList (convTrees l) = Tree.nodesList l
  | [] => rfl
  | k :: ks => by simp [convTrees, PMoves.nodesList, Tree.nodesList, nodes_eq k, nodesList_eq ks]
end

mutual
theorem refersBack_eq : ∀ (t : Tree Nat), (convTree t).refersBack = Tree.refersBack t
  | .backEdge => rfl
  | .node t kids => by simp [convTree, PMoves.Tree.refersBack, Tree.refersBack, anyRefersBack_eq kids]
theorem anyRefersBack_eq : ∀ (l : List (Tree Nat)),
    PMoves.anyRefersBack (convTrees l) = Tree.anyRefersBack l
  | [] => rfl
  | k :: ks => by
    simp [convTrees, PMoves.anyRefersBack, Tree.anyRefersBack, refersBack_eq k, anyRefersBack_eq ks]
end

theorem visitedBy_eq (r : Root Nat) : (convRoot r).visitedBy = Root.visitedBy r := by
  cases r with
  | startNode t kids =>
    simp [convRoot, PMoves.Root.visitedBy, Root.visitedBy, anyRefersBack_eq, nodesList_eq]

theorem memT_eq (t : Nat) : ∀ (del : List Nat), memT mockSym t del = del.contains t
  | [] => rfl
  | d :: ds => by
    have ih := memT_eq t ds
    unfold memT at ih ⊢
    simp only [List.any_cons, List.contains_cons, ih, mockSym_tempEq]

theorem deleteTargets_eq (del : List Nat) (pm : List (Nat × List Nat)) :
    deleteTargets mockSym del pm = PMoves.deleteTargets del pm := by
  unfold deleteTargets PMoves.deleteTargets
  apply List.map_congr_left
  intro kv _
  obtain ⟨k, ts⟩ := kv
  simp only [memT_eq]

def toRes {α β : Type} (g : α → β) : Except String α → PMoves.Res β → Prop
  | .ok a, .ok b => b = g a
  | .error _, .outOfFuel => True
  | .error _, .missingKey => True
  | _, _ => False

theorem forest_eq (fuel : Nat) : ∀ (keys : List Nat) (pm : List (Nat × List Nat)),
    toRes (List.map convRoot) (spanningForestLoop mockSym fuel keys pm)
      (PMoves.spanningForestGo fuel keys pm)
  | [], pm => by simp [spanningForestLoop, PMoves.spanningForestGo, toRes]
  | t :: keys, pm => by
    simp only [spanningForestLoop, PMoves.spanningForestGo, mapLookup_eq, mockSym_tempEq]
    cases PMoves.mapLookup pm t with
    | none => simp [toRes]
    | some ts =>
      simp only
      rw [optMap_mapExcept convTree _ _ (spanningTree_eq pm t fuel)]
      cases hk : mapExcept (spanningTree mockSym pm t fuel) (List.filter (fun x => !(x == t)) ts) with
      | error e => simp [toOpt, toRes]
      | ok kids =>
        simp only [toOpt]
        have hv : (PMoves.Root.startNode t (List.map convTree kids)).visitedBy =
            Root.visitedBy (Root.startNode t kids) := by
          rw [← convTrees_eq_map]; exact visitedBy_eq (Root.startNode t kids)
        rw [hv, ← deleteTargets_eq]
        have ih := forest_eq fuel keys (deleteTargets mockSym (Root.visitedBy (Root.startNode t kids)) pm)
        cases h1 : spanningForestLoop mockSym fuel keys
            (deleteTargets mockSym (Root.visitedBy (Root.startNode t kids)) pm) with
        | error e =>
          rw [h1] at ih
          cases h2 : PMoves.spanningForestGo fuel keys
              (deleteTargets mockSym (Root.visitedBy (Root.startNode t kids)) pm) with
          | ok r => rw [h2] at ih; simp [toRes] at ih
          | outOfFuel => simp [toRes]
          | missingKey => simp [toRes]
        | ok roots =>
          rw [h1] at ih
          cases h2 : PMoves.spanningForestGo fuel keys
              (deleteTargets mockSym (Root.visitedBy (Root.startNode t kids)) pm) with
          | ok r =>
            rw [h2] at ih
            simp only [toRes] at ih
            simp [toRes, ih, convRoot, convTrees_eq_map]
          | outOfFuel => rw [h2] at ih; simp [toRes] at ih
          | missingKey => rw [h2] at ih; simp [toRes] at ih

mutual
theorem treeMoves_eq (t : Nat) (sp : Bool) : ∀ (tr : Tree Nat),
    treeMoves mockSym t sp tr = (PMoves.treeMoves t (convTree tr) sp).map aopToMock
  | .backEdge => rfl
  | .node target kids => by
    simp [treeMoves, convTree, PMoves.treeMoves, treeMovesList_eq target sp kids, aopToMock]
theorem treeMovesList_eq (t : Nat) (sp : Bool) : ∀ (trs : List (Tree Nat)),
    treeMovesList mockSym t sp trs = (PMoves.forestMoves t (convTrees trs) sp).map aopToMock
  | [] => rfl
  | k :: ks => by
    simp [treeMovesList, convTrees, PMoves.forestMoves, treeMoves_eq t sp k, treeMovesList_eq t sp ks]
end

theorem rootMoves_eq (r : Root Nat) :
    rootMoves mockSym r = (PMoves.rootMoves (fun _ => false) (convRoot r)).map aopToMock := by
  cases r with
  | startNode t kids =>
    simp only [rootMoves, convRoot, PMoves.rootMoves, mockSym_containsSpillEdge, treeMovesList_eq,
      List.map_append, anyRefersBack_eq]
    split <;> simp [aopToMock]

theorem noTargets_eq (r : Root Nat) : Root.noTargets r = (convRoot r).trees.isEmpty := by
  cases r with
  | startNode t kids => cases kids <;> rfl

theorem forestCode_eq (forest : List (Root Nat)) :
    (if !forest.all Root.noTargets then [mockSym.comment "#move variables"] else []) ++
        (forest.map (rootMoves mockSym)).flatten =
      (PMoves.forestCode (fun _ => false) (forest.map convRoot)).map aopToMock := by
  unfold PMoves.forestCode
  have h1 : (forest.map convRoot).all (fun r => r.trees.isEmpty) = forest.all Root.noTargets := by
    induction forest with
    | nil => rfl
    | cons r rs ih => simp [List.all_cons, noTargets_eq r, ih]
  rw [h1]
  simp only [List.map_append, List.flatMap, List.map_flatten, List.map_map]
  congr 1
  · split <;> simp [aopToMock]
  · congr 1
    apply List.map_congr_left
    intro r _
    exact rootMoves_eq r

theorem allNodes_eq (pm : List (Nat × List Nat)) : allNodes mockSym pm = PMoves.allNodes pm := rfl

/-- the generic `parallelMoves` with the mock backend is the PMoves model -/
theorem parallelMoves_eq (pm : List (Nat × List Nat)) (aops : List PMoves.AOp)
    (h : PMoves.parallelMoves pm (fun _ => false) = .ok aops) :
    parallelMoves mockSym pm = .ok (aops.map aopToMock) := by
  unfold PMoves.parallelMoves PMoves.parallelMovesFuel PMoves.spanningForest PMoves.fuelFor at h
  unfold parallelMoves spanningForest
  rw [allNodes_eq]
  have hf := forest_eq ((PMoves.allNodes pm).length + 1) (pm.map (·.1)) pm
  cases h1 : spanningForestLoop mockSym ((PMoves.allNodes pm).length + 1) (pm.map (·.1)) pm with
  | error e =>
    rw [h1] at hf
    cases h2 : PMoves.spanningForestGo ((PMoves.allNodes pm).length + 1) (pm.map (·.1)) pm with
    | ok r => rw [h2] at hf; simp [toRes] at hf
    | outOfFuel => rw [h2] at h; simp at h
    | missingKey => rw [h2] at h; simp at h
  | ok forest =>
    rw [h1] at hf
    cases h2 : PMoves.spanningForestGo ((PMoves.allNodes pm).length + 1) (pm.map (·.1)) pm with
    | ok r =>
      rw [h2] at hf h
      simp only [toRes] at hf
      subst hf
      simp only [PMoves.Res.ok.injEq] at h
      subst h
      simp only
      rw [forestCode_eq]
    | outOfFuel => rw [h2] at hf; simp [toRes] at hf
    | missingKey => rw [h2] at hf; simp [toRes] at hf

/-! ## which temporaries the move code mentions -/

def opTemps : MockOp → List Nat
  | .mov t s => [t, s]
  | .save t _ => [t]
  | .restore t _ => [t]
  | _ => []

def codeTemps (code : List MockOp) : List Nat := code.flatMap opTemps

@[simp] theorem codeTemps_nil : codeTemps [] = [] := rfl
@[simp] theorem codeTemps_append (a b : List MockOp) : codeTemps (a ++ b) = codeTemps a ++ codeTemps b := by
  simp [codeTemps]
@[simp] theorem codeTemps_cons (op : MockOp) (a : List MockOp) :
    codeTemps (op :: a) = opTemps op ++ codeTemps a := by simp [codeTemps]

mutual
theorem treeMoves_temps (t : Nat) (sp : Bool) : ∀ (tr : Tree Nat),
    ∀ x ∈ codeTemps (treeMoves mockSym t sp tr), x = t ∨ x ∈ Tree.nodes tr
  | .backEdge => by
    intro x hx
    simp [treeMoves, opTemps] at hx
    exact Or.inl hx
  | .node target kids => by
    intro x hx
    simp only [treeMoves, codeTemps_append, List.mem_append, mockSym_mov, codeTemps_cons, opTemps,
      codeTemps_nil, List.append_nil, List.mem_cons, List.not_mem_nil, or_false] at hx
    simp only [Tree.nodes, List.mem_cons]
    rcases hx with hx | hx | hx
    · rcases treeMovesList_temps target sp kids x hx with h | h
      · exact Or.inr (Or.inl h)
      · exact Or.inr (Or.inr h)
    · exact Or.inr (Or.inl hx)
    · exact Or.inl hx
theorem treeMovesList_temps (t : Nat) (sp : Bool) : ∀ (trs : List (Tree Nat)),
    ∀ x ∈ codeTemps (treeMovesList mockSym t sp trs), x = t ∨ x ∈ Tree.nodesList trs
  | [] => by intro x hx; simp [treeMovesList] at hx
  | k :: ks => by
    intro x hx
    simp only [treeMovesList, codeTemps_append, List.mem_append] at hx
    simp only [Tree.nodesList, List.mem_append]
    rcases hx with hx | hx
    · rcases treeMoves_temps t sp k x hx with h | h
      · exact Or.inl h
      · exact Or.inr (Or.inl h)
    · rcases treeMovesList_temps t sp ks x hx with h | h
      · exact Or.inl h
      · exact Or.inr (Or.inr h)
end

def allTargets (pm : List (Nat × List Nat)) : List Nat := pm.flatMap (·.2)

theorem mapLookup_mem {pm : List (Nat × List Nat)} {k : Nat} {ts : List Nat}
    (h : mapLookup mockSym pm k = some ts) : ∀ t ∈ ts, t ∈ allTargets pm := by
  unfold mapLookup at h
  simp only [mockSym_tempEq] at h
  cases hf : pm.find? (fun e => k == e.1) with
  | none => simp [hf] at h
  | some e =>
    simp only [hf, Option.some.injEq] at h
    subst h
    intro t ht
    unfold allTargets
    exact List.mem_flatMap.mpr ⟨e, List.mem_of_find?_eq_some hf, ht⟩

theorem mapExcept_ok_mem {α β : Type} {f : α → Except String β} : ∀ {l : List α} {r : List β},
    mapExcept f l = .ok r → ∀ b ∈ r, ∃ a ∈ l, f a = .ok b
  | [], r, h => by simp [mapExcept] at h; subst h; simp
  | a :: as, r, h => by
    simp only [mapExcept] at h
    cases ha : f a with
    | error e => simp [ha] at h
    | ok b0 =>
      simp only [ha] at h
      cases hr : mapExcept f as with
      | error e => simp [hr] at h
      | ok bs =>
        simp only [hr, Except.ok.injEq] at h
        subst h
        intro b hb
        simp only [List.mem_cons] at hb
        rcases hb with rfl | hb
        · exact ⟨a, by simp, ha⟩
        · obtain ⟨a', ha', hfa⟩ := mapExcept_ok_mem hr b hb
          exact ⟨a', by simp [ha'], hfa⟩

theorem nodesList_mem {l : List (Tree Nat)} {x : Nat} (h : x ∈ Tree.nodesList l) :
    ∃ k ∈ l, x ∈ Tree.nodes k := by
  induction l with
  | nil => simp [Tree.nodesList] at h
  | cons k ks ih =>
    simp only [Tree.nodesList, List.mem_append] at h
    rcases h with h | h
    · exact ⟨k, by simp, h⟩
    · obtain ⟨k', hk', hx⟩ := ih h
      exact ⟨k', by simp [hk'], hx⟩

theorem spanningTree_nodes (pm : List (Nat × List Nat)) (root : Nat) : ∀ (fuel node : Nat) (tr : Tree Nat),
    spanningTree mockSym pm root fuel node = .ok tr →
    ∀ x ∈ Tree.nodes tr, x = node ∨ x ∈ allTargets pm
  | 0, _, _, h => by simp [spanningTree] at h
  | fuel + 1, node, tr, h => by
    simp only [spanningTree] at h
    split at h
    · cases h; intro x hx; simp [Tree.nodes] at hx
    · cases hl : mapLookup mockSym pm node with
      | none =>
        simp only [hl, Except.ok.injEq] at h
        subst h
        intro x hx
        simp [Tree.nodes, Tree.nodesList] at hx
        exact Or.inl hx
      | some targets =>
        simp only [hl] at h
        cases hm : mapExcept (spanningTree mockSym pm root fuel) targets with
        | error e => simp [hm] at h
        | ok kids =>
          simp only [hm, Except.ok.injEq] at h
          subst h
          intro x hx
          simp only [Tree.nodes, List.mem_cons] at hx
          rcases hx with hx | hx
          · exact Or.inl hx
          · obtain ⟨k, hk, hxk⟩ := nodesList_mem hx
            obtain ⟨a, ha, hfa⟩ := mapExcept_ok_mem hm k hk
            rcases spanningTree_nodes pm root fuel a k hfa x hxk with h1 | h1
            · subst h1; exact Or.inr (mapLookup_mem hl _ ha)
            · exact Or.inr h1

theorem allTargets_deleteTargets (del : List Nat) (pm : List (Nat × List Nat)) :
    ∀ x ∈ allTargets (deleteTargets mockSym del pm), x ∈ allTargets pm := by
  intro x hx
  unfold allTargets deleteTargets at *
  simp only [List.mem_flatMap, List.mem_map] at hx ⊢
  obtain ⟨e, ⟨e0, he0, rfl⟩, hx⟩ := hx
  exact ⟨e0, he0, (List.mem_filter.mp hx).1⟩

theorem forest_temps (fuel : Nat) : ∀ (keys : List Nat) (pm : List (Nat × List Nat)) (roots : List (Root Nat)),
    spanningForestLoop mockSym fuel keys pm = .ok roots →
    ∀ x ∈ codeTemps ((roots.map (rootMoves mockSym)).flatten), x ∈ keys ∨ x ∈ allTargets pm
  | [], pm, roots, h => by
    simp [spanningForestLoop] at h; subst h; simp
  | t :: keys, pm, roots, h => by
    simp only [spanningForestLoop] at h
    cases hl : mapLookup mockSym pm t with
    | none => simp [hl] at h
    | some ts =>
      simp only [hl] at h
      simp only [mockSym_tempEq] at h
      cases hm : mapExcept (spanningTree mockSym pm t fuel) (ts.filter fun x => !(x == t)) with
      | error e => simp [hm] at h
      | ok kids =>
        simp only [hm] at h
        cases hr : spanningForestLoop mockSym fuel keys
            (deleteTargets mockSym (Root.visitedBy (Root.startNode t kids)) pm) with
        | error e => simp [hr] at h
        | ok rest =>
          simp only [hr, Except.ok.injEq] at h
          subst h
          intro x hx
          simp only [List.map_cons, List.flatten_cons, codeTemps_append, List.mem_append] at hx
          rcases hx with hx | hx
          · -- the root's own moves
            simp only [rootMoves, codeTemps_append, List.mem_append] at hx
            have hroot : x = t ∨ x ∈ Tree.nodesList kids := by
              rcases hx with hx | hx
              · exact treeMovesList_temps t _ kids x hx
              · split at hx
                · simp [opTemps] at hx; exact Or.inl hx
                · simp at hx
            rcases hroot with rfl | hxk
            · exact Or.inl (by simp)
            · obtain ⟨k, hk, hxk'⟩ := nodesList_mem hxk
              obtain ⟨a, ha, hfa⟩ := mapExcept_ok_mem hm k hk
              rcases spanningTree_nodes pm t fuel a k hfa x hxk' with h1 | h1
              · subst h1
                exact Or.inr (mapLookup_mem hl _ (List.mem_filter.mp ha).1)
              · exact Or.inr h1
          · rcases forest_temps fuel keys _ rest hr x hx with h1 | h1
            · exact Or.inl (by simp [h1])
            · exact Or.inr (allTargets_deleteTargets _ _ x h1)

/-- the instructions of `parallelMoves` mention only keys and targets of the map -/
theorem parallelMoves_temps (pm : List (Nat × List Nat)) (code : List MockOp)
    (h : parallelMoves mockSym pm = .ok code) :
    ∀ x ∈ codeTemps code, x ∈ pm.map (·.1) ∨ x ∈ allTargets pm := by
  unfold parallelMoves spanningForest at h
  cases hf : spanningForestLoop mockSym ((allNodes mockSym pm).length + 1) (pm.map (·.1)) pm with
  | error e => simp [hf] at h
  | ok forest =>
    simp only [hf, Except.ok.injEq] at h
    subst h
    intro x hx
    simp only [codeTemps_append, List.mem_append] at hx
    rcases hx with hx | hx
    · split at hx <;> simp [opTemps] at hx
    · exact forest_temps _ _ _ _ hf x hx

/-! ## running the move code on the abstract machine -/

theorem get_put_same (σ : Temps) (t : Nat) (v : Option Word) : (σ.put t v).get t = v := by
  cases v with
  | none => exact get_unset_same σ t
  | some w => exact get_set_same σ t w

theorem get_put_other (σ : Temps) {t t' : Nat} (v : Option Word) (h : t' ≠ t) :
    (σ.put t v).get t' = σ.get t' := by
  cases v with
  | none => exact get_unset_other σ h
  | some w => exact get_set_other σ w h

/-- the machine's temporaries agree with an abstract store, except possibly at `TEMP` -/
def Agrees (σ : Temps) (f : Nat → Option Word) : Prop := ∀ t, t ≠ Mock.T_TEMP → σ.get t = f t

theorem run_moves (P : Program) : ∀ (aops : List PMoves.AOp) (cfg : Config) (f : Nat → Option Word)
    (sc : Option Word),
    CodeAt P cfg.pc (aops.map aopToMock) →
    (∀ x ∈ codeTemps (aops.map aopToMock), x ≠ Mock.T_TEMP) →
    Agrees cfg.temps f → cfg.scratch = sc →
    ∃ cfg', stepsTo P (instrCount (aops.map aopToMock)) cfg cfg' ∧
      cfg'.pc = cfg.pc + instrCount (aops.map aopToMock) ∧ cfg'.heap = cfg.heap ∧
      cfg'.next = cfg.next ∧ cfg'.out = cfg.out ∧
      Agrees cfg'.temps (PMoves.run aops (f, sc)).1 ∧ cfg'.scratch = (PMoves.run aops (f, sc)).2
  | [], cfg, f, sc, _, _, hag, hsc => ⟨cfg, rfl, rfl, rfl, rfl, rfl, hag, hsc⟩
  | op :: rest, cfg, f, sc, hat, hne, hag, hsc => by
    cases op with
    | comment m =>
      simp only [List.map_cons, aopToMock, CodeAt, instrCount, codeTemps_cons, opTemps,
        List.nil_append] at hat hne ⊢
      exact run_moves P rest cfg f sc hat hne hag hsc
    | mov t s =>
      simp only [List.map_cons, aopToMock, CodeAt, instrCount, codeTemps_cons, opTemps] at hat hne ⊢
      obtain ⟨hcode, hat'⟩ := hat
      have ht : t ≠ Mock.T_TEMP := hne t (by simp)
      have hs : s ≠ Mock.T_TEMP := hne s (by simp)
      have hb : (t == Abs.T_TEMP) = false := by simp [Abs.T_TEMP, ht]
      have hstep : Abs.step P cfg =
          .next { cfg with pc := cfg.pc + 1, temps := Temps.put (clobberTemp cfg.temps) t (cfg.temps.get s) } := by
        simp [Abs.step, hcode, hb]
      have hag' : Agrees ((clobberTemp cfg.temps).put t (cfg.temps.get s)) (PMoves.upd f t (f s)) := by
        intro x hx
        unfold PMoves.upd
        by_cases hxt : x = t
        · subst hxt; rw [get_put_same, hag s hs]; simp
        · rw [get_put_other _ _ hxt, get_clobberTemp _ hx, hag x hx]; simp [hxt]
      obtain ⟨cfg', h1, h2, h3, h4, h5, h6, h7⟩ := run_moves P rest
        { cfg with pc := cfg.pc + 1, temps := Temps.put (clobberTemp cfg.temps) t (cfg.temps.get s) }
        (PMoves.upd f t (f s)) sc hat' (fun x hx => hne x (by simp [hx])) hag' hsc
      refine ⟨cfg', ?_, ?_, h3, h4, h5, ?_, ?_⟩
      · rw [Nat.add_comm]; exact stepsTo_trans P 1 _ _ _ _ (stepsTo_one P _ _ hstep) h1
      · rw [h2]; simp only; omega
      · simpa [PMoves.run, PMoves.step] using h6
      · simpa [PMoves.run, PMoves.step] using h7
    | save s sp =>
      simp only [List.map_cons, aopToMock, CodeAt, instrCount, codeTemps_cons, opTemps] at hat hne ⊢
      obtain ⟨hcode, hat'⟩ := hat
      have hs : s ≠ Mock.T_TEMP := hne s (by simp)
      have hstep : Abs.step P cfg =
          .next { cfg with pc := cfg.pc + 1, temps := clobberTemp cfg.temps, scratch := cfg.temps.get s } := by
        simp [Abs.step, hcode]
      have hag' : Agrees (clobberTemp cfg.temps) f := by
        intro x hx; rw [get_clobberTemp _ hx, hag x hx]
      obtain ⟨cfg', h1, h2, h3, h4, h5, h6, h7⟩ := run_moves P rest
        { cfg with pc := cfg.pc + 1, temps := clobberTemp cfg.temps, scratch := cfg.temps.get s }
        f (f s) hat' (fun x hx => hne x (by simp [hx])) hag' (hag s hs)
      refine ⟨cfg', ?_, ?_, h3, h4, h5, ?_, ?_⟩
      · rw [Nat.add_comm]; exact stepsTo_trans P 1 _ _ _ _ (stepsTo_one P _ _ hstep) h1
      · rw [h2]; simp only; omega
      · simpa [PMoves.run, PMoves.step] using h6
      · simpa [PMoves.run, PMoves.step] using h7
    | restore t sp =>
      simp only [List.map_cons, aopToMock, CodeAt, instrCount, codeTemps_cons, opTemps] at hat hne ⊢
      obtain ⟨hcode, hat'⟩ := hat
      have ht : t ≠ Mock.T_TEMP := hne t (by simp)
      have hb : (t == Abs.T_TEMP) = false := by simp [Abs.T_TEMP, ht]
      have hstep : Abs.step P cfg =
          .next { cfg with pc := cfg.pc + 1, temps := Temps.put (clobberTemp cfg.temps) t cfg.scratch } := by
        simp [Abs.step, hcode, hb]
      have hag' : Agrees ((clobberTemp cfg.temps).put t cfg.scratch) (PMoves.upd f t sc) := by
        intro x hx
        unfold PMoves.upd
        by_cases hxt : x = t
        · subst hxt; rw [get_put_same, hsc]; simp
        · rw [get_put_other _ _ hxt, get_clobberTemp _ hx, hag x hx]; simp [hxt]
      obtain ⟨cfg', h1, h2, h3, h4, h5, h6, h7⟩ := run_moves P rest
        { cfg with pc := cfg.pc + 1, temps := Temps.put (clobberTemp cfg.temps) t cfg.scratch }
        (PMoves.upd f t sc) sc hat' (fun x hx => hne x (by simp [hx])) hag' hsc
      refine ⟨cfg', ?_, ?_, h3, h4, h5, ?_, ?_⟩
      · rw [Nat.add_comm]; exact stepsTo_trans P 1 _ _ _ _ (stepsTo_one P _ _ hstep) h1
      · rw [h2]; simp only; omega
      · simpa [PMoves.run, PMoves.step] using h6
      · simpa [PMoves.run, PMoves.step] using h7

end Scc.Backend.PM
