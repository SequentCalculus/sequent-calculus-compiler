/-
  Scc.Backend.ProofsCalls — WHAT THE GENERIC CODE GENERATOR ASKS OF A BACKEND, said once.
  A `Call` is one method of the `Backend` record together with its arguments; `Emitted B G code` says that
  `code` is a concatenation of results of calls satisfying `G`.  A predicate on code lists that holds of
  `[]`, is closed under `++` and holds of the result of every call satisfying `G` holds of every emitted list
  (`Emitted.lift`).
  `Good B F` lists, per method, every fact about the ARGUMENTS that a user may rely on, over a record `F` of
  predicates: temporaries are `B.temp`, `B.return1` or results of `variable_temporary` (`F.TOK`, and the
  variables they belong to for `binop` and `print_i64`), comments `F.COK`, labels defined or loaded `F.LOK`,
  targets of direct jumps `F.JOK`, immediates `F.LitOK` or offsets of tags `F.TagOK`, share counts `F.CntOK`;
  indirect jumps, jump tables and the memory methods are called only if `F.mem`.
  `ArgsOK F hooks ren s Γ` says, by recursion on the statement, that the strings and numbers the generator
  builds for `s` in the context `Γ` satisfy these predicates; it mirrors the texts of `codeStatementR`.
  THE WALK (`emitted_codeStatementR` … `emitted_compileR`) is done once: under `ArgsOK` the code of a
  statement, a list of clauses, a program is `Emitted B (Good B F)`.  The liftings of X86/ProofsWfProg.lean (operand
  ranges), Backend/LoaderNamesC.lean (text-safe names), Backend/ProofsShape.lean (calling convention) and
  Backend/ProofsRefs.lean (pieces) are
  `Emitted.lift` after a case analysis on the call.
  The first part holds what these liftings share about lists of codes and about parallel_moves.rs /
  substitution.rs (every node of the spanning forest is one of the given temporaries).  Nothing in it is
  specific to x86-64: its full names are `Scc.X86.…` because the theorems about the code of all three
  backends are stated with `AllP` and `TreeOK` under these names.
-/
import Scc.Backend.ProofsPost
import Scc.Backend.TotalDefs

set_option linter.unusedVariables false

namespace Scc.X86

open Scc.AxCut
open Scc.Backend

def AllP {Code : Type} (P : Code → Prop) (l : List Code) : Prop := ∀ c ∈ l, P c

theorem AllP.nil {Code : Type} {P : Code → Prop} : AllP P [] := fun _ h => by simp at h
theorem AllP.single {Code : Type} {P : Code → Prop} {c : Code} (h : P c) : AllP P [c] :=
  fun x hx => by simp only [List.mem_singleton] at hx; subst hx; exact h
theorem AllP.append {Code : Type} {P : Code → Prop} {a b : List Code} (ha : AllP P a) (hb : AllP P b) :
    AllP P (a ++ b) := fun x hx => (List.mem_append.1 hx).elim (ha x) (hb x)
theorem AllP.cons {Code : Type} {P : Code → Prop} {c : Code} {l : List Code} (h : P c) (hl : AllP P l) :
    AllP P (c :: l) := AllP.append (AllP.single h) hl
theorem AllP.flatten {Code : Type} {P : Code → Prop} {ls : List (List Code)} (h : ∀ l ∈ ls, AllP P l) :
    AllP P ls.flatten := fun x hx => by
  obtain ⟨l, hl, hxl⟩ := List.mem_flatten.1 hx
  exact h l hl x hxl
theorem AllP.ite {Code : Type} {P : Code → Prop} {c : Prop} [Decidable c] {a b : List Code}
    (ha : AllP P a) (hb : AllP P b) : AllP P (if c then a else b) := by
  split <;> assumption

section Generic

variable {Code T : Type} {B : Backend Code T} {TOK : T → Prop}

/-! ## parallel_moves.rs: every node of the spanning forest is one of the given temporaries -/

mutual
  def TreeOK (TOK : T → Prop) : Tree T → Prop
    | .backEdge => True
    | .node t kids => TOK t ∧ TreesOK TOK kids
  def TreesOK (TOK : T → Prop) : List (Tree T) → Prop
    | [] => True
    | k :: ks => TreeOK TOK k ∧ TreesOK TOK ks
end

def RootOK (TOK : T → Prop) : Root T → Prop
  | .startNode t kids => TOK t ∧ TreesOK TOK kids

theorem treesOK_of_forall {TOK : T → Prop} : ∀ {l : List (Tree T)}, (∀ k ∈ l, TreeOK TOK k) → TreesOK TOK l
  | [], _ => trivial
  | k :: ks, h => ⟨h k (by simp), treesOK_of_forall fun x hx => h x (by simp [hx])⟩

theorem treeOK_true : ∀ (tr : Tree T), TreeOK (fun _ => True) tr
  | .backEdge => trivial
  | .node _ kids => ⟨trivial, treesOK_of_forall fun k _ => treeOK_true k⟩

def PmOK (TOK : T → Prop) (pm : List (T × List T)) : Prop := ∀ e ∈ pm, ∀ t ∈ e.2, TOK t

theorem mapLookup_ok {pm : List (T × List T)} (hpm : PmOK TOK pm) {k : T} {ts : List T}
    (h : mapLookup B pm k = some ts) : ∀ t ∈ ts, TOK t := by
  unfold mapLookup at h
  cases hf : pm.find? (fun e => B.tempEq k e.1) with
  | none => simp [hf] at h
  | some e =>
    simp only [hf, Option.some.injEq] at h
    subst h
    exact hpm e (List.mem_of_find?_eq_some hf)

theorem mapExcept_ok_forall {α β : Type} {f : α → Except String β} {Q : β → Prop} :
    ∀ {l : List α} {r : List β}, (∀ a ∈ l, ∀ b, f a = .ok b → Q b) → mapExcept f l = .ok r →
      ∀ b ∈ r, Q b
  | [], r, _, h => by simp [mapExcept] at h; subst h; simp
  | a :: as, r, hq, h => by
    simp only [mapExcept] at h
    cases ha : f a with
    | error e => simp [ha] at h
    | ok b0 =>
      simp only [ha] at h
      cases hr : mapExcept f as with
      | error e => simp [hr] at h
      | ok bs =>
        simp only [hr, Except.ok.injEq] at h
        subst h
        intro b hb
        simp only [List.mem_cons] at hb
        rcases hb with rfl | hb
        · exact hq a (by simp) _ ha
        · exact mapExcept_ok_forall (fun a' ha' => hq a' (by simp [ha'])) hr b hb

theorem spanningTree_ok {pm : List (T × List T)} (hpm : PmOK TOK pm) (root : T) :
    ∀ (fuel : Nat) (node : T) (tr : Tree T), TOK node → spanningTree B pm root fuel node = .ok tr →
      TreeOK TOK tr
  | 0, _, _, _, h => by simp [spanningTree] at h
  | fuel + 1, node, tr, hn, h => by
    simp only [spanningTree] at h
    split at h
    · cases h; trivial
    · split at h
      · rename_i targets hl
        split at h
        · cases h
        · rename_i kids hk
          cases h
          refine ⟨hn, treesOK_of_forall ?_⟩
          exact mapExcept_ok_forall (fun a ha b hb =>
            spanningTree_ok hpm root fuel a b (mapLookup_ok hpm hl a ha) hb) hk
      · cases h; exact ⟨hn, trivial⟩

theorem pmOK_deleteTargets {pm : List (T × List T)} (hpm : PmOK TOK pm) (del : List T) :
    PmOK TOK (deleteTargets B del pm) := by
  intro e he t ht
  simp only [deleteTargets, List.mem_map] at he
  obtain ⟨⟨k, ts⟩, hmem, rfl⟩ := he
  exact hpm _ hmem t ((List.mem_filter.1 ht).1)

theorem spanningForestLoop_ok (fuel : Nat) : ∀ (keys : List T) (pm : List (T × List T)) (roots : List (Root T)),
    (∀ k ∈ keys, TOK k) → PmOK TOK pm → spanningForestLoop B fuel keys pm = .ok roots →
    ∀ r ∈ roots, RootOK TOK r
  | [], pm, roots, _, _, h => by simp [spanningForestLoop] at h; subst h; simp
  | temporary :: keys, pm, roots, hk, hpm, h => by
    simp only [spanningForestLoop] at h
    split at h
    · cases h
    · rename_i targets0 hl
      split at h
      · cases h
      · rename_i kids hkids
        split at h
        · cases h
        · rename_i rest hrest
          cases h
          have hroot : RootOK TOK (Root.startNode temporary kids) := by
            refine ⟨hk temporary (by simp), treesOK_of_forall ?_⟩
            exact mapExcept_ok_forall (fun a ha b hb =>
              spanningTree_ok hpm temporary fuel a b
                (mapLookup_ok hpm hl a ((List.mem_filter.1 ha).1)) hb) hkids
          intro r hr
          simp only [List.mem_cons] at hr
          rcases hr with rfl | hr
          · exact hroot
          · exact spanningForestLoop_ok fuel keys _ rest (fun k hk' => hk k (by simp [hk']))
              (pmOK_deleteTargets hpm _) hrest r hr

theorem mem_mapInsert {K V : Type} (cmp : K → K → Ordering) (k : K) (v : V) {QK : K → Prop} {QV : V → Prop}
    (hk : QK k) (hv : QV v) : ∀ (l : List (K × V)), (∀ e ∈ l, QK e.1 ∧ QV e.2) →
      ∀ e ∈ mapInsert cmp k v l, QK e.1 ∧ QV e.2
  | [], _, e, he => by
    simp only [mapInsert, List.mem_singleton] at he; subst he; exact ⟨hk, hv⟩
  | (k', v') :: rest, hl, e, he => by
    simp only [mapInsert] at he
    split at he
    · simp only [List.mem_cons] at he
      rcases he with rfl | rfl | he
      · exact ⟨hk, hv⟩
      · exact hl _ (by simp)
      · exact hl e (by simp [he])
    · simp only [List.mem_cons] at he
      rcases he with rfl | he
      · exact ⟨(hl (k', v') (by simp)).1, hv⟩
      · exact hl e (by simp [he])
    · simp only [List.mem_cons] at he
      rcases he with rfl | he
      · exact hl _ (by simp)
      · exact mem_mapInsert cmp k v hk hv rest (fun x hx => hl x (by simp [hx])) e he

theorem mem_setInsert {t : T} {s : List T} (ht : TOK t) (hs : ∀ x ∈ s, TOK x) :
    ∀ x ∈ setInsert B t s, TOK x := by
  induction s with
  | nil => intro x hx; simp only [setInsert, List.mem_singleton] at hx; subst hx; exact ht
  | cons t' rest ih =>
    intro x hx
    simp only [setInsert] at hx
    split at hx
    · simp only [List.mem_cons] at hx
      rcases hx with rfl | rfl | hx
      · exact ht
      · exact hs _ (by simp)
      · exact hs x (by simp [hx])
    · exact hs x hx
    · simp only [List.mem_cons] at hx
      rcases hx with rfl | hx
      · exact hs _ (by simp)
      · exact ih (fun y hy => hs y (by simp [hy])) x hx

theorem mem_setOfList {ts : List T} (hts : ∀ x ∈ ts, TOK x) : ∀ x ∈ setOfList B ts, TOK x := by
  unfold setOfList
  suffices h : ∀ (l acc : List T), (∀ x ∈ l, TOK x) → (∀ x ∈ acc, TOK x) →
      ∀ x ∈ l.foldl (fun s t => setInsert B t s) acc, TOK x from h ts [] hts (by simp)
  intro l
  induction l with
  | nil => intro acc _ hacc; simpa using hacc
  | cons a rest ih =>
    intro acc hl hacc
    simp only [List.foldl_cons]
    exact ih _ (fun x hx => hl x (by simp [hx])) (mem_setInsert (hl a (by simp)) hacc)

theorem post_mapMGen {α β : Type} {f : α → GenM β} {Q : β → Prop} (hf : ∀ a, Post (f a) Q) :
    ∀ (l : List α), Post (mapMGen f l) (fun bs => ∀ b ∈ bs, Q b)
  | [] => by simp only [mapMGen]; exact Post.pure (by simp)
  | a :: as => by
    simp only [mapMGen]
    exact Post.bind (hf a) fun b hb => Post.bind (post_mapMGen hf as) fun bs hbs =>
      Post.pure (by
        intro x hx
        simp only [List.mem_cons] at hx
        rcases hx with rfl | hx
        · exact hb
        · exact hbs x hx)

def ConnsOK (TOK : T → Prop) (pm : List (T × List T)) : Prop :=
  ∀ e ∈ pm, TOK e.1 ∧ ∀ t ∈ e.2, TOK t

theorem transpose_lengths (rearrange : List (Binding × Ident)) (context : Ctx) :
    ∀ e ∈ transpose rearrange context, e.2.length ≤ rearrange.length := by
  unfold transpose
  suffices h : ∀ (l : Ctx) (acc : List (Binding × List Nat)),
      (∀ e ∈ acc, True ∧ e.2.length ≤ rearrange.length) →
      ∀ e ∈ l.foldl (fun targetMap binding =>
        mapInsert bindingCmp binding
          ((rearrange.filter fun x => binding.var.id == x.2.id).map fun x => x.1.var.id) targetMap) acc,
        True ∧ e.2.length ≤ rearrange.length from
    fun e he => (h context [] (by simp) e he).2
  intro l
  induction l with
  | nil => intro acc hacc; simpa using hacc
  | cons b rest ih =>
    intro acc hacc
    simp only [List.foldl_cons]
    refine ih _ (mem_mapInsert bindingCmp b _ (QK := fun _ => True)
      (QV := fun v => v.length ≤ rearrange.length) trivial ?_ acc hacc)
    simp only [List.length_map]
    exact List.length_filter_le _ _

theorem xtorPosition_go_lt : ∀ (xs : List XtorSig) (tag : Ident) (k i : Nat),
    xtorPosition.go tag xs k = some i → i < k + xs.length
  | [], _, _, _, h => by simp [xtorPosition.go] at h
  | x :: xs, tag, k, i, h => by
    simp only [xtorPosition.go] at h
    split at h
    · cases h; simp
    · have := xtorPosition_go_lt xs tag (k + 1) i h
      simp only [List.length_cons]; omega

theorem xtorPosition_lt {d : TypeDecl} {tag : Ident} {i : Nat} (h : xtorPosition d tag = some i) :
    i < d.xtors.length := by
  have := xtorPosition_go_lt d.xtors tag 0 i h
  omega

theorem post_lookupTypeDeclM (types : List TypeDecl) (ty : Ty) :
    Post (lookupTypeDeclM types ty) (· ∈ types) := by
  intro c d c' h
  have h1 := ((lookupTypeDeclM_run_ok types ty c d c').1 h).1
  cases ty with
  | i64 => simp [lookupTypeDecl] at h1
  | decl n =>
    simp only [lookupTypeDecl] at h1
    exact List.mem_of_find?_eq_some h1

theorem post_xtorPositionM (d : TypeDecl) (tag : Ident) :
    Post (xtorPositionM d tag) (· < d.xtors.length) := by
  intro c i c' h
  exact xtorPosition_lt ((xtorPositionM_run_ok d tag c i c').1 h).1

end Generic

end Scc.X86

namespace Scc.Backend.Calls

open Scc.AxCut
open Scc.X86 (Post TreeOK TreesOK RootOK PmOK ConnsOK spanningForestLoop_ok mem_mapInsert mem_setOfList
  post_mapMGen post_lookupTypeDeclM post_xtorPositionM transpose_lengths)
open Scc.Backend.Total (IsVT)

/-- one request of the generic generator to the backend (`table`: a label directly followed by its jump table) -/
inductive Call (T : Type) where
  | comment (m : String)
  | label (l : String)
  | table (l : String) (cs : Clauses)
  | jump (t : T)
  | jumpLabel (l : String)
  | jumpLabelIf (s : IfSort) (a b : T) (l : String)
  | jumpLabelIfZero (s : IfSort) (a : T) (l : String)
  | loadImmediate (t : T) (n : Int)
  | loadLabel (t : T) (l : String)
  | addAndJump (t : T) (n : Int)
  | binop (o : BinOp) (t s1 s2 : T)
  | mov (t s : T)
  | printI64 (nl : Bool) (t : T) (ctx : Ctx)
  | eraseBlock (t : T)
  | shareBlockN (t : T) (n : Nat)
  | store (a b : Ctx)
  | load (a b : Ctx)
  | storeTemporary (t : T) (sp : Bool)
  | restoreTemporary (t : T) (sp : Bool)

variable {Code T : Type}

def Call.run (B : Backend Code T) : Call T → GenM (List Code)
  | .comment m => pure [B.comment m]
  | .label l => pure [B.label l]
  | .table l cs => pure (B.label l :: codeTable B cs l)
  | .jump t => pure (B.jump t)
  | .jumpLabel l => pure (B.jumpLabel l)
  | .jumpLabelIf s a b l => pure (B.jumpLabelIf s a b l)
  | .jumpLabelIfZero s a l => pure (B.jumpLabelIfZero s a l)
  | .loadImmediate t n => pure (B.loadImmediate t n)
  | .loadLabel t l => pure (B.loadLabel t l)
  | .addAndJump t n => pure (B.addAndJump t n)
  | .binop o t s1 s2 => pure (B.binop o t s1 s2)
  | .mov t s => pure (B.mov t s)
  | .printI64 nl t ctx => B.printI64 nl t ctx
  | .eraseBlock t => B.eraseBlock t
  | .shareBlockN t n => B.shareBlockN t n
  | .store a b => B.store a b
  | .load a b => B.load a b
  | .storeTemporary t sp => pure (B.storeTemporary t sp)
  | .restoreTemporary t sp => pure (B.restoreTemporary t sp)

/-- `code` is a concatenation of results of calls satisfying `G` -/
inductive Emitted (B : Backend Code T) (G : Call T → Prop) : List Code → Prop where
  | nil : Emitted B G []
  | append {a b : List Code} : Emitted B G a → Emitted B G b → Emitted B G (a ++ b)
  | call (c : Call T) {code : List Code} {k k' : Nat} : G c → (c.run B).run k = .ok (code, k') →
    Emitted B G code

variable {B : Backend Code T} {G : Call T → Prop}

/-- THE lifting: one induction, for every predicate and every set of facts about the arguments -/
theorem Emitted.lift {Q : List Code → Prop} (hnil : Q []) (happ : ∀ {a b}, Q a → Q b → Q (a ++ b))
    (hcall : ∀ c, G c → Post (c.run B) Q) {code : List Code} (h : Emitted B G code) : Q code := by
  induction h with
  | nil => exact hnil
  | append _ _ iha ihb => exact happ iha ihb
  | call c hg hr => exact hcall c hg _ _ _ hr

/-- a method that does not run in the generator monad -/
theorem Emitted.pure (c : Call T) (hg : G c) {code : List Code} (h : c.run B = Pure.pure code) :
    Emitted B G code :=
  .call c (k := 0) (k' := 0) hg (by rw [h]; rfl)

theorem Emitted.post (G : Call T → Prop) (c : Call T) (hg : G c) : Post (c.run B) (Emitted B G) :=
  fun _ _ _ hr => .call c hg hr

theorem Emitted.ite {c : Prop} [Decidable c] {a b : List Code} (ha : Emitted B G a) (hb : Emitted B G b) :
    Emitted B G (if c then a else b) := by
  split <;> assumption

theorem Emitted.flatten : ∀ {ls : List (List Code)}, (∀ l ∈ ls, Emitted B G l) → Emitted B G ls.flatten
  | [], _ => .nil
  | l :: ls, h => by
    rw [List.flatten_cons]
    exact .append (h l (by simp)) (Emitted.flatten fun x hx => h x (by simp [hx]))

/-- what a user wants to know of the arguments; the defaults ask nothing -/
structure Facts (T : Type) where
  /-- temporaries -/
  TOK : T → Prop := fun _ => True
  /-- the temporary handed to `print_i64`, with the context handed to it -/
  Src : Ctx → T → Prop := fun _ _ => True
  /-- comments -/
  COK : String → Prop := fun _ => True
  /-- labels that are defined, loaded, or entries of a jump table -/
  LOK : String → Prop := fun _ => True
  /-- targets of direct jumps -/
  JOK : String → Prop := fun _ => True
  /-- immediates -/
  LitOK : Int → Prop := fun _ => True
  /-- positions of tags -/
  TagOK : Nat → Prop := fun _ => True
  /-- share counts -/
  CntOK : Nat → Prop := fun _ => True
  /-- asked by `ArgsOK` at every `let`, `switch`, `create`, `invoke` and substitution of a non-integer, and
  recorded by `Good` at the indirect jumps, the jump tables and the memory methods: with `False` for it a
  user need not treat those calls, for programs that have none of these statements -/
  mem : Prop := True
  /-- when it holds, `ArgsOK` asks that the target of every `op` differ from its sources, and `Good` records
  this at `binop`; under the default nothing is asked and nothing recorded -/
  fresh : Prop := False

/-- the entries of the jump table of `cs` with base label `base` -/
def TableOK (LOK : String → Prop) (base : String) : Clauses → Prop
  | .nil => True
  | .cons x _ _ rest => LOK (clauseLabel base x) ∧ TableOK LOK base rest

/-- what holds of the arguments of every call of the generator -/
def Good (B : Backend Code T) (F : Facts T) : Call T → Prop
  | .comment m => F.COK m
  | .label l => F.LOK l
  | .table l cs => F.mem ∧ F.LOK l ∧ TableOK F.LOK l cs
  | .jump t => F.mem ∧ F.TOK t
  | .jumpLabel l => F.JOK l
  | .jumpLabelIf _ a b l => F.TOK a ∧ F.TOK b ∧ F.JOK l
  | .jumpLabelIfZero _ a l => F.TOK a ∧ F.JOK l
  | .loadImmediate t n => F.TOK t ∧ (F.LitOK n ∨ F.mem ∧ ∃ k, F.TagOK k ∧ n = B.jumpLength k)
  | .loadLabel t l => F.mem ∧ F.TOK t ∧ F.LOK l
  | .addAndJump t n => F.mem ∧ F.TOK t ∧ ∃ k, F.TagOK k ∧ n = B.jumpLength k
  | .binop o t s1 s2 => F.TOK t ∧ F.TOK s1 ∧ F.TOK s2 ∧
    ((∃ (Γ : Ctx) (x a b : Nat), (F.fresh → x ≠ a ∧ x ≠ b) ∧ IsVT B .snd Γ x t ∧ IsVT B .snd Γ a s1 ∧
        IsVT B .snd Γ b s2) ∨
      (F.mem ∧ o = .sum ∧ t = B.temp ∧ s1 = B.temp))
  | .mov t s => F.TOK t ∧ F.TOK s
  | .printI64 _ t ctx => F.TOK t ∧ F.Src ctx t
  | .eraseBlock t => F.mem ∧ F.TOK t
  | .shareBlockN t n => F.mem ∧ F.TOK t ∧ F.CntOK n
  | .store _ _ => F.mem
  | .load _ _ => F.mem
  | .storeTemporary t _ => F.TOK t
  | .restoreTemporary t _ => F.TOK t

structure TempsOK (B : Backend Code T) (F : Facts T) : Prop where
  temp : F.TOK B.temp
  return1 : F.TOK B.return1
  vt : ∀ n ctx id, Post (B.variableTemporary n ctx id) F.TOK
  vtSrc : ∀ ctx id, Post (B.variableTemporary .snd ctx id) (F.Src ctx)

/-- the comments that do not depend on the program -/
structure Fixed (F : Facts T) : Prop where
  moves : F.COK "#move variables"
  loadTag : F.COK "#load tag"
  fall : F.COK "#there is only one clause, so we can just fall through"
  direct : F.COK "#there is only one clause, so we can jump there directly"
  elseB : F.COK "else branch"
  thenB : F.COK "then branch"

def HookOK (F : Facts T) (hooks : Bool) (Γ : Ctx) : Prop := hooks = true → F.COK (ctxHookComment Γ)

mutual
  /-- the strings and numbers the generator builds for the statement `s` in the context `Γ` -/
  def ArgsOK (F : Facts T) (hooks : Bool) (ren : Nat → String) : Stmt → Ctx → Prop
    | .subst r next, Γ => HookOK F hooks Γ ∧ F.COK (substComment r) ∧
      (∀ b ∈ Γ, b.chi ≠ .ext → F.mem ∧ F.COK ("#erase " ++ b.var.print) ∧ F.COK ("#share " ++ b.var.print)) ∧
      (∀ k, k + 2 ≤ r.length → F.CntOK (k + 1)) ∧ ArgsOK F hooks ren next (r.map (·.1))
    | .call l _, Γ => HookOK F hooks Γ ∧ F.COK (l.print ++ "(...)") ∧ F.JOK (l.print ++ "_")
    | .letS var ty tag args next _, Γ => HookOK F hooks Γ ∧ F.mem ∧
      F.COK ("let " ++ var.print ++ ": " ++ tyPrint ty ++ " = " ++ tag.print ++ "(" ++ varsPrint args ++ ");") ∧
      ArgsOK F hooks ren next (Γ.take (Γ.length - args.length) ++ [⟨var, .prd, ty⟩])
    | .switch var ty cls _, Γ => HookOK F hooks Γ ∧ F.mem ∧ F.COK ("switch " ++ var.print ++ " \\{ ... \\};") ∧
      ∀ n, F.LOK (mangleTy ty ++ "_" ++ ren n) ∧
        ClausesOK F hooks ren cls Γ.dropLast (mangleTy ty ++ "_" ++ ren n)
    | .create var ty (some env) cls next _ _, Γ => HookOK F hooks Γ ∧ F.mem ∧
      F.COK ("create " ++ var.print ++ ": " ++ tyPrint ty ++ " = (" ++ varsPrint env ++ ")\\{ ... \\};") ∧
      ArgsOK F hooks ren next (Γ.take (Γ.length - env.length) ++ [⟨var, .cns, ty⟩]) ∧
      ∀ n, F.LOK (mangleTy ty ++ "_" ++ ren n) ∧
        MethodsOK F hooks ren cls (Γ.drop (Γ.length - env.length)) (mangleTy ty ++ "_" ++ ren n)
    | .create _ _ none _ _ _ _, _ => True
    | .invoke var tag _ args, Γ => HookOK F hooks Γ ∧ F.mem ∧ F.COK (invokePrint var tag args)
    | .lit var n next _, Γ => HookOK F hooks Γ ∧
      F.COK ("lit " ++ var.print ++ " <- " ++ toString n ++ ";") ∧ F.LitOK n ∧
      ArgsOK F hooks ren next (Γ ++ [⟨var, .ext, .i64⟩])
    | .op var a o b next _, Γ => HookOK F hooks Γ ∧
      F.COK (var.print ++ " <- " ++ a.print ++ " " ++ o.sym ++ " " ++ b.print ++ ";") ∧
      (F.fresh → var.id ≠ a.id ∧ var.id ≠ b.id) ∧ ArgsOK F hooks ren next (Γ ++ [⟨var, .ext, .i64⟩])
    | .print nl var next _, Γ => HookOK F hooks Γ ∧
      F.COK ((if nl then "println_i64" else "print_i64") ++ " " ++ var.print ++ ";") ∧
      ArgsOK F hooks ren next Γ
    | .ifc sort a b t e, Γ => HookOK F hooks Γ ∧ F.COK (ifcComment sort a b) ∧
      (∀ n, F.JOK ("lab" ++ ren n) ∧ F.LOK ("lab" ++ ren n)) ∧ ArgsOK F hooks ren e Γ ∧ ArgsOK F hooks ren t Γ
    | .exit var, Γ => HookOK F hooks Γ ∧ F.COK ("exit " ++ var.print) ∧ F.JOK "cleanup"
  /-- the clauses of a `switch`, compiled in the context `Γ` extended by the clause's own -/
  def ClausesOK (F : Facts T) (hooks : Bool) (ren : Nat → String) : Clauses → Ctx → String → Prop
    | .nil, _, _ => True
    | .cons x cctx body rest, Γ, base => F.LOK (clauseLabel base x) ∧ ArgsOK F hooks ren body (Γ ++ cctx) ∧
      ClausesOK F hooks ren rest Γ base
  /-- the methods of a `create`, compiled in their own context followed by the closure environment -/
  def MethodsOK (F : Facts T) (hooks : Bool) (ren : Nat → String) : Clauses → Ctx → String → Prop
    | .nil, _, _ => True
    | .cons x cctx body rest, env, base => F.LOK (clauseLabel base x) ∧ ArgsOK F hooks ren body (cctx ++ env) ∧
      MethodsOK F hooks ren rest env base
end

theorem ClausesOK.table {F : Facts T} {hooks : Bool} {ren : Nat → String} :
    ∀ {cs : Clauses} {Γ : Ctx} {base : String}, ClausesOK F hooks ren cs Γ base → TableOK F.LOK base cs
  | .nil, _, _, _ => trivial
  | .cons _ _ _ _, _, _, h => by
    simp only [ClausesOK] at h
    exact ⟨h.1, h.2.2.table⟩

theorem MethodsOK.table {F : Facts T} {hooks : Bool} {ren : Nat → String} :
    ∀ {cs : Clauses} {env : Ctx} {base : String}, MethodsOK F hooks ren cs env base → TableOK F.LOK base cs
  | .nil, _, _, _ => trivial
  | .cons _ _ _ _, _, _, h => by
    simp only [MethodsOK] at h
    exact ⟨h.1, h.2.2.table⟩

def TypesOK (F : Facts T) (types : List TypeDecl) : Prop := ∀ d ∈ types, ∀ k < d.xtors.length, F.TagOK k

def ProgOK (F : Facts T) (hooks : Bool) (ren : Nat → String) (p : AxCut.Prog) : Prop :=
  TypesOK F p.types ∧ ∀ d ∈ p.defs, F.LOK (d.name.print ++ "_") ∧ ArgsOK F hooks ren d.body d.ctx

/-! ## parallel_moves.rs, substitution.rs -/

section Walk

variable {F : Facts T}

mutual
  theorem emitted_treeMoves {temporary : T} (ht : F.TOK temporary) (sp : Bool) :
      ∀ (tr : Tree T), TreeOK F.TOK tr → Emitted B (Good B F) (treeMoves B temporary sp tr)
    | .backEdge, _ => by simp only [treeMoves]; exact .pure (.storeTemporary temporary sp) ht rfl
    | .node target kids, h => by
      simp only [treeMoves]
      exact .append (emitted_treeMovesList h.1 sp kids h.2) (.pure (.mov target temporary) ⟨h.1, ht⟩ rfl)
  theorem emitted_treeMovesList {temporary : T} (ht : F.TOK temporary) (sp : Bool) :
      ∀ (trs : List (Tree T)), TreesOK F.TOK trs → Emitted B (Good B F) (treeMovesList B temporary sp trs)
    | [], _ => by simp only [treeMovesList]; exact .nil
    | k :: ks, h => by
      simp only [treeMovesList]
      exact .append (emitted_treeMoves ht sp k h.1) (emitted_treeMovesList ht sp ks h.2)
end

theorem emitted_rootMoves : ∀ (r : Root T), RootOK F.TOK r → Emitted B (Good B F) (rootMoves B r)
  | .startNode t kids, h => by
    simp only [rootMoves]
    exact .append (emitted_treeMovesList h.1 _ kids h.2)
      (.ite (.pure (.restoreTemporary t _) h.1 rfl) .nil)

theorem emitted_parallelMoves (X : Fixed F) {conns : List (T × List T)} (hc : ConnsOK F.TOK conns)
    {code : List Code} (h : parallelMoves B conns = .ok code) : Emitted B (Good B F) code := by
  unfold parallelMoves at h
  split at h
  · cases h
  · rename_i forest hf
    cases h
    have hroots := spanningForestLoop_ok (B := B) _ _ _ forest
      (fun k hk => by
        obtain ⟨e, he, rfl⟩ := List.mem_map.1 hk
        exact (hc e he).1) (fun e he => (hc e he).2) hf
    refine .append (.ite (.pure (.comment _) X.moves rfl) .nil) (.flatten ?_)
    intro l hl
    obtain ⟨r, hr, rfl⟩ := List.mem_map.1 hl
    exact emitted_rootMoves r (hroots r hr)

theorem post_connections_go (A : TempsOK B F) (context newContext : Ctx) :
    ∀ (tm : List (Binding × List Nat)) (acc : List (T × List T)), ConnsOK F.TOK acc →
      Post (connections.go B context newContext tm acc) (ConnsOK F.TOK)
  | [], acc, hacc => by simp only [connections.go]; exact Post.pure hacc
  | (binding, targets) :: rest, acc, hacc => by
    simp only [connections.go]
    split
    · refine Post.bind (A.vt _ _ _) fun k hk => ?_
      refine Post.bind (post_mapMGen (fun target => A.vt .snd newContext target) targets) fun ts hts => ?_
      exact post_connections_go A context newContext rest _
        (mem_mapInsert _ k _ (QK := F.TOK) (QV := fun l => ∀ t ∈ l, F.TOK t) hk (mem_setOfList hts) acc hacc)
    · refine Post.bind (A.vt _ _ _) fun k1 hk1 => ?_
      refine Post.bind (post_mapMGen (fun target => A.vt .fst newContext target) targets) fun ts1 hts1 => ?_
      refine Post.bind (A.vt _ _ _) fun k2 hk2 => ?_
      refine Post.bind (post_mapMGen (fun target => A.vt .snd newContext target) targets) fun ts2 hts2 => ?_
      exact post_connections_go A context newContext rest _
        (mem_mapInsert _ k2 _ (QK := F.TOK) (QV := fun l => ∀ t ∈ l, F.TOK t) hk2 (mem_setOfList hts2) _
          (mem_mapInsert _ k1 _ (QK := F.TOK) (QV := fun l => ∀ t ∈ l, F.TOK t) hk1 (mem_setOfList hts1)
            acc hacc))

theorem emitted_codeExchange (A : TempsOK B F) (X : Fixed F) (tm : List (Binding × List Nat))
    (context newContext : Ctx) : Post (codeExchange B tm context newContext) (Emitted B (Good B F)) := by
  unfold codeExchange connections
  refine Post.bind (post_connections_go A context newContext tm [] (fun _ h => by simp at h)) fun conns hc => ?_
  cases hpm : parallelMoves B conns with
  | error e => exact Post.throw
  | ok code => exact Post.pure (emitted_parallelMoves X hc hpm)

theorem emitted_updateReferenceCount (A : TempsOK B F) (hm : F.mem) (var : Ident) (context : Ctx)
    (he : F.COK ("#erase " ++ var.print)) (hs : F.COK ("#share " ++ var.print)) {newCount : Nat}
    (hn : ∀ k, k + 2 ≤ newCount → F.CntOK (k + 1)) :
    Post (updateReferenceCount B var context newCount) (Emitted B (Good B F)) := by
  unfold updateReferenceCount
  refine Post.bind (A.vt _ _ _) fun t ht => ?_
  match newCount, hn with
  | 0, _ =>
    exact Post.bind (Emitted.post (Good B F) (.eraseBlock t) ⟨hm, ht⟩) fun code hc =>
      Post.pure (.append (a := [_]) (.pure (.comment _) he rfl) hc)
  | 1, _ => exact Post.pure .nil
  | n + 2, hn =>
    exact Post.bind (Emitted.post (Good B F) (.shareBlockN t (n + 1)) ⟨hm, ht, hn n (Nat.le_refl _)⟩) fun code hc =>
      Post.pure (.append (a := [_]) (.pure (.comment _) hs rfl) hc)

theorem emitted_codeWeakeningContraction (A : TempsOK B F) (context : Ctx) :
    ∀ (tm : List (Binding × List Nat)), (∀ e ∈ tm, (∀ k, k + 2 ≤ e.2.length → F.CntOK (k + 1)) ∧ (e.1.chi ≠ .ext →
        F.mem ∧ F.COK ("#erase " ++ e.1.var.print) ∧ F.COK ("#share " ++ e.1.var.print))) →
      Post (codeWeakeningContraction B tm context) (Emitted B (Good B F))
  | [], _ => by simp only [codeWeakeningContraction]; exact Post.pure .nil
  | (binding, targets) :: rest, h => by
    simp only [codeWeakeningContraction]
    refine Post.bind (Q1 := Emitted B (Good B F)) ?_ fun code hc => ?_
    · split
      · rename_i hne
        obtain ⟨hl, hb⟩ := h (binding, targets) (by simp)
        obtain ⟨hm, he, hs⟩ := hb fun e => by rw [e] at hne; exact absurd hne (by decide)
        exact emitted_updateReferenceCount A hm _ _ he hs hl
      · exact Post.pure .nil
    · exact Post.bind (emitted_codeWeakeningContraction A context rest fun e he => h e (by simp [he]))
        fun codeRest hr => Post.pure (.append hc hr)

theorem transpose_keys_mem (rearrange : List (Binding × Ident)) (context : Ctx) :
    ∀ e ∈ transpose rearrange context, e.1 ∈ context := by
  unfold transpose
  suffices h : ∀ (l : Ctx) (acc : List (Binding × List Nat)),
      (∀ b ∈ l, b ∈ context) → (∀ e ∈ acc, e.1 ∈ context ∧ True) →
      ∀ e ∈ l.foldl (fun targetMap binding =>
        mapInsert bindingCmp binding
          ((rearrange.filter fun x => binding.var.id == x.2.id).map fun x => x.1.var.id) targetMap) acc,
        e.1 ∈ context ∧ True from
    fun e he => (h context [] (fun _ hb => hb) (by simp) e he).1
  intro l
  induction l with
  | nil => intro acc _ hacc; simpa using hacc
  | cons b rest ih =>
    intro acc hl hacc
    simp only [List.foldl_cons]
    exact ih _ (fun x hx => hl x (by simp [hx]))
      (mem_mapInsert bindingCmp b _ (QK := fun k => k ∈ context) (QV := fun _ => True)
        (hl b (by simp)) trivial acc hacc)

theorem post_isVT (B : Backend Code T) (n : TempNum) (Γ : Ctx) (id : Nat) :
    Post (B.variableTemporary n Γ id) (IsVT B n Γ id) := fun c a c' h => ⟨c, c', h⟩

theorem post_freshLabelStr (ren : Nat → String) : Post (freshLabelStr ren) (fun s => ∃ n, s = ren n) := by
  intro c s c' h
  exact ⟨c + 1, ((freshLabelStr_run_ok ren c s c').1 h).1.symm⟩

theorem post_splitOffLast (Γ : Ctx) (n : Nat) :
    Post (splitOffLast Γ n) (fun r => r = (Γ.take (Γ.length - n), Γ.drop (Γ.length - n))) := by
  unfold splitOffLast
  split
  · exact Post.pure rfl
  · exact Post.throw

/-- the hook and the comment every statement starts with -/
theorem emitted_c0 {hooks : Bool} {Γ : Ctx} (hh : HookOK F hooks Γ) {m : String} (hm : F.COK m) :
    Emitted B (Good B F) (hookCode B hooks Γ ++ [B.comment m]) := by
  refine .append ?_ (.pure (.comment m) hm rfl)
  unfold hookCode
  split
  · rename_i h; exact .pure (.comment _) (hh h) rfl
  · exact .nil

theorem emitted_tableIf {l : String} {cs : Clauses} (hm : F.mem) (hl : F.LOK l) (ht : TableOK F.LOK l cs) :
    Emitted B (Good B F) (B.label l :: (if cs.length > 1 then codeTable B cs l else [])) := by
  split
  · exact .pure (.table l cs) ⟨hm, hl, ht⟩ rfl
  · exact .pure (.label l) hl rfl

mutual
theorem emitted_codeStatementR (A : TempsOK B F) (X : Fixed F) (hooks : Bool) (ren : Nat → String)
    {types : List TypeDecl} (hty : TypesOK F types) :
    ∀ (s : Stmt) (Γ : Ctx), ArgsOK F hooks ren s Γ →
      Post (codeStatementR B hooks ren types s Γ) (Emitted B (Good B F))
  | .subst r next, Γ, h => by
    simp only [codeStatementR]
    simp only [ArgsOK] at h
    obtain ⟨hh, hc, hb, hn, hnext⟩ := h
    refine Post.bind (emitted_codeWeakeningContraction A Γ _ fun e he =>
      ⟨fun k hk => hn k (Nat.le_trans hk (transpose_lengths r Γ e he)), hb e.1 (transpose_keys_mem r Γ e he)⟩)
      fun c1 h1 => ?_
    refine Post.bind (emitted_codeExchange A X _ _ _) fun c2 h2 => ?_
    refine Post.bind (emitted_codeStatementR A X hooks ren hty next _ hnext) fun c3 h3 => ?_
    exact Post.pure (.append (.append (.append (emitted_c0 hh hc) h1) h2) h3)
  | .call l args, Γ, h => by
    simp only [codeStatementR]
    simp only [ArgsOK] at h
    exact Post.pure (.append (emitted_c0 h.1 h.2.1) (.pure (.jumpLabel _) h.2.2 rfl))
  | .letS var ty tag args next fv, Γ, h => by
    simp only [codeStatementR]
    simp only [ArgsOK] at h
    obtain ⟨hh, hm, hc, hnext⟩ := h
    refine Post.bind (post_lookupTypeDeclM types ty) fun decl hd => ?_
    refine Post.bind (post_xtorPositionM decl tag) fun pos hpos => ?_
    refine Post.bind (post_splitOffLast Γ _) fun sp hsp => ?_
    subst hsp
    dsimp only
    refine Post.bind (Emitted.post (Good B F) (.store _ _) hm) fun c1 h1 => ?_
    refine Post.bind (A.vt _ _ _) fun t ht => ?_
    refine Post.bind (emitted_codeStatementR A X hooks ren hty next _ hnext) fun c3 h3 => ?_
    exact Post.pure (.append (.append (.append (emitted_c0 hh hc) h1)
      (.append (a := [_]) (.pure (.comment _) X.loadTag rfl)
        (.pure (.loadImmediate t _) ⟨ht, Or.inr ⟨hm, pos, hty decl hd pos hpos, rfl⟩⟩ rfl))) h3)
  | .switch var ty cls fv, Γ, h => by
    simp only [codeStatementR]
    simp only [ArgsOK] at h
    obtain ⟨hh, hm, hc, hn⟩ := h
    refine Post.bind (post_freshLabelStr ren) fun num hnum => ?_
    obtain ⟨n, rfl⟩ := hnum
    refine Post.bind (Q1 := Emitted B (Good B F)) ?_ fun c1 h1 => ?_
    · split
      · exact Post.pure (.pure (.comment _) X.fall rfl)
      · exact Post.bind (A.vt _ _ _) fun t ht =>
          Post.pure (.append (.append (.pure (.loadLabel B.temp _) ⟨hm, A.temp, (hn n).1⟩ rfl)
            (.pure (.binop .sum B.temp B.temp t) ⟨A.temp, A.temp, ht, Or.inr ⟨hm, rfl, rfl, rfl⟩⟩ rfl))
            (.pure (.jump B.temp) ⟨hm, A.temp⟩ rfl))
    · refine Post.bind (emitted_codeClausesR A X hooks ren hty _ cls _ (hn n).2 hm) fun c3 h3 => ?_
      exact Post.pure (.append (.append (.append (emitted_c0 hh hc) h1)
        (emitted_tableIf hm (hn n).1 (hn n).2.table)) h3)
  | .create var ty env cls next fv1 fv2, Γ, h => by
    cases env with
    | none => simp only [codeStatementR]; exact Post.throw
    | some envCtx =>
      simp only [codeStatementR]
      simp only [ArgsOK] at h
      obtain ⟨hh, hm, hc, hnext, hn⟩ := h
      refine Post.bind (post_splitOffLast Γ _) fun sp hsp => ?_
      subst hsp
      dsimp only
      refine Post.bind (Emitted.post (Good B F) (.store _ _) hm) fun c1 h1 => ?_
      refine Post.bind (post_freshLabelStr ren) fun num hnum => ?_
      obtain ⟨n, rfl⟩ := hnum
      refine Post.bind (A.vt _ _ _) fun t ht => ?_
      refine Post.bind (emitted_codeStatementR A X hooks ren hty next _ hnext) fun c3 h3 => ?_
      refine Post.bind (emitted_codeMethodsR A X hooks ren hty _ cls _ (hn n).2 hm) fun c5 h5 => ?_
      exact Post.pure (.append (.append (.append (.append (.append (emitted_c0 hh hc) h1)
        (.append (a := [_]) (.pure (.comment _) X.loadTag rfl)
          (.pure (.loadLabel t _) ⟨hm, ht, (hn n).1⟩ rfl))) h3)
        (emitted_tableIf hm (hn n).1 (hn n).2.table)) h5)
  | .invoke var tag ty args, Γ, h => by
    simp only [codeStatementR]
    simp only [ArgsOK] at h
    obtain ⟨hh, hm, hc⟩ := h
    refine Post.bind (A.vt _ _ _) fun t ht => ?_
    refine Post.bind (post_lookupTypeDeclM types ty) fun decl hd => ?_
    split
    · exact Post.pure (.append (.append (emitted_c0 hh hc) (.pure (.comment _) X.direct rfl))
        (.pure (.jump t) ⟨hm, ht⟩ rfl))
    · exact Post.bind (post_xtorPositionM decl tag) fun pos hpos =>
        Post.pure (.append (emitted_c0 hh hc)
          (.pure (.addAndJump t _) ⟨hm, ht, pos, hty decl hd pos hpos, rfl⟩ rfl))
  | .lit var n next fv, Γ, h => by
    simp only [codeStatementR]
    simp only [ArgsOK] at h
    obtain ⟨hh, hc, hl, hnext⟩ := h
    refine Post.bind (A.vt _ _ _) fun t ht => ?_
    refine Post.bind (emitted_codeStatementR A X hooks ren hty next _ hnext) fun c2 h2 => ?_
    exact Post.pure (.append (.append (emitted_c0 hh hc) (.pure (.loadImmediate t n) ⟨ht, Or.inl hl⟩ rfl)) h2)
  | .op var a o b next fv, Γ, h => by
    simp only [codeStatementR]
    simp only [ArgsOK] at h
    obtain ⟨hh, hc, hf, hnext⟩ := h
    refine Post.bind ((A.vt _ _ _).and (post_isVT B _ _ _)) fun t ht => ?_
    refine Post.bind ((A.vt _ _ _).and (post_isVT B _ _ _)) fun s1 hs1 => ?_
    refine Post.bind ((A.vt _ _ _).and (post_isVT B _ _ _)) fun s2 hs2 => ?_
    refine Post.bind (emitted_codeStatementR A X hooks ren hty next _ hnext) fun c2 h2 => ?_
    exact Post.pure (.append (.append (emitted_c0 hh hc) (.pure (.binop o t s1 s2)
      ⟨ht.1, hs1.1, hs2.1, Or.inl ⟨_, _, _, _, hf, ht.2, hs1.2, hs2.2⟩⟩ rfl)) h2)
  | .print nl var next fv, Γ, h => by
    simp only [codeStatementR]
    simp only [ArgsOK] at h
    obtain ⟨hh, hc, hnext⟩ := h
    refine Post.bind ((A.vt _ _ _).and (A.vtSrc _ _)) fun t ht => ?_
    refine Post.bind (Emitted.post (Good B F) (.printI64 nl t Γ) ht) fun c1 h1 => ?_
    refine Post.bind (emitted_codeStatementR A X hooks ren hty next _ hnext) fun c2 h2 => ?_
    exact Post.pure (.append (.append (emitted_c0 hh hc) h1) h2)
  | .ifc sort a b thenc elsec, Γ, h => by
    simp only [codeStatementR]
    simp only [ArgsOK] at h
    obtain ⟨hh, hc, hl, helse, hthen⟩ := h
    refine Post.bind (post_freshLabelStr ren) fun num hnum => ?_
    obtain ⟨n, rfl⟩ := hnum
    refine Post.bind (Q1 := Emitted B (Good B F)) ?_ fun c1 h1 => ?_
    · cases b with
      | none =>
        dsimp only
        exact Post.bind (A.vt _ _ _) fun x hx =>
          Post.pure (.pure (.jumpLabelIfZero sort x _) ⟨hx, (hl n).1⟩ rfl)
      | some b =>
        dsimp only
        exact Post.bind (A.vt _ _ _) fun x hx => Post.bind (A.vt _ _ _) fun y hy =>
          Post.pure (.pure (.jumpLabelIf sort x y _) ⟨hx, hy, (hl n).1⟩ rfl)
    · refine Post.bind (emitted_codeStatementR A X hooks ren hty elsec _ helse) fun c2 h2 => ?_
      refine Post.bind (emitted_codeStatementR A X hooks ren hty thenc _ hthen) fun c3 h3 => ?_
      exact Post.pure (.append (.append (.append (.append (.append (emitted_c0 hh hc) h1)
        (.pure (.comment _) X.elseB rfl)) h2)
        (.append (a := [_]) (.pure (.label _) (hl n).2 rfl) (.pure (.comment _) X.thenB rfl))) h3)
  | .exit var, Γ, h => by
    simp only [codeStatementR]
    simp only [ArgsOK] at h
    exact Post.bind (A.vt _ _ _) fun t ht =>
      Post.pure (.append (.append (emitted_c0 h.1 h.2.1) (.pure (.mov B.return1 t) ⟨A.return1, ht⟩ rfl))
        (.pure (.jumpLabel _) h.2.2 rfl))
theorem emitted_codeClausesR (A : TempsOK B F) (X : Fixed F) (hooks : Bool) (ren : Nat → String)
    {types : List TypeDecl} (hty : TypesOK F types) (Γ : Ctx) :
    ∀ (cs : Clauses) (base : String), ClausesOK F hooks ren cs Γ base → F.mem →
      Post (codeClausesR B hooks ren types Γ cs base) (Emitted B (Good B F))
  | .nil, _, _, _ => by simp only [codeClausesR]; exact Post.pure .nil
  | .cons x cctx body rest, base, h, hm => by
    simp only [codeClausesR]
    simp only [ClausesOK] at h
    refine Post.bind (Emitted.post (Good B F) (.load _ _) hm) fun c1 h1 => ?_
    refine Post.bind (emitted_codeStatementR A X hooks ren hty body _ h.2.1) fun c2 h2 => ?_
    refine Post.bind (emitted_codeClausesR A X hooks ren hty Γ rest base h.2.2 hm) fun c3 h3 => ?_
    exact Post.pure (.append (a := [_]) (.pure (.label _) h.1 rfl) (.append (.append h1 h2) h3))
theorem emitted_codeMethodsR (A : TempsOK B F) (X : Fixed F) (hooks : Bool) (ren : Nat → String)
    {types : List TypeDecl} (hty : TypesOK F types) (env : Ctx) :
    ∀ (cs : Clauses) (base : String), MethodsOK F hooks ren cs env base → F.mem →
      Post (codeMethodsR B hooks ren types env cs base) (Emitted B (Good B F))
  | .nil, _, _, _ => by simp only [codeMethodsR]; exact Post.pure .nil
  | .cons x cctx body rest, base, h, hm => by
    simp only [codeMethodsR]
    simp only [MethodsOK] at h
    refine Post.bind (Emitted.post (Good B F) (.load _ _) hm) fun c1 h1 => ?_
    refine Post.bind (emitted_codeStatementR A X hooks ren hty body _ h.2.1) fun c2 h2 => ?_
    refine Post.bind (emitted_codeMethodsR A X hooks ren hty env rest base h.2.2 hm) fun c3 h3 => ?_
    exact Post.pure (.append (a := [_]) (.pure (.label _) h.1 rfl) (.append (.append h1 h2) h3))
end

theorem emitted_translateR (A : TempsOK B F) (X : Fixed F) (hooks : Bool) (ren : Nat → String)
    {types : List TypeDecl} (hty : TypesOK F types) :
    ∀ (defs : List Def), (∀ d ∈ defs, ArgsOK F hooks ren d.body d.ctx) →
      Post (translateR B hooks ren types defs) (fun blocks => ∀ b ∈ blocks, Emitted B (Good B F) b)
  | [], _ => by simp only [translateR]; exact Post.pure (by simp)
  | d :: ds, h => by
    simp only [translateR]
    refine Post.bind (emitted_codeStatementR A X hooks ren hty d.body d.ctx (h d (by simp))) fun is his => ?_
    refine Post.bind (emitted_translateR A X hooks ren hty ds fun x hx => h x (by simp [hx])) fun rest hr => ?_
    exact Post.pure (by
      intro b hb
      simp only [List.mem_cons] at hb
      rcases hb with rfl | hb
      · exact his
      · exact hr b hb)

theorem emitted_assemble :
    ∀ (blocks : List (List Code)) (names : List Ident), (∀ b ∈ blocks, Emitted B (Good B F) b) →
      (∀ n ∈ names, F.LOK (n.print ++ "_")) → Emitted B (Good B F) (assemble B blocks names)
  | [], _, _, _ => by simp only [assemble]; exact .nil
  | _ :: _, [], _, _ => by simp only [assemble]; exact .nil
  | block :: blocks, name :: names, h, hn => by
    simp only [assemble]
    exact .append (a := [_]) (.pure (.label _) (hn name (by simp)) rfl)
      (.append (h block (by simp))
        (emitted_assemble blocks names (fun b hb => h b (by simp [hb])) fun n hm => hn n (by simp [hm])))

/-- THE WALK: the code of a program is a concatenation of results of calls whose arguments are `Good` -/
theorem emitted_compileR (A : TempsOK B F) (X : Fixed F) (hooks : Bool) (ren : Nat → String) (p : AxCut.Prog)
    (hp : ProgOK F hooks ren p) : Post (compileR B hooks ren p) (fun r => Emitted B (Good B F) r.1) := by
  unfold compileR
  cases hd : p.defs with
  | nil => exact Post.throw
  | cons d0 ds =>
    dsimp only
    refine Post.bind (emitted_translateR A X hooks ren hp.1 _ fun d hdm => (hp.2 d (hd ▸ hdm)).2)
      fun blocks hb => ?_
    refine Post.pure (emitted_assemble _ _ hb ?_)
    intro n hn
    obtain ⟨d, hdm, rfl⟩ := List.mem_map.1 hn
    exact (hp.2 d (hd ▸ hdm)).1

end Walk

end Scc.Backend.Calls
