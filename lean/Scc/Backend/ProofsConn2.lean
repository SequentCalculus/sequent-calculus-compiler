/-
  Scc.Backend.ProofsConn2 — the map built by `connections` (substitution.rs) for ARBITRARY contexts:
  an `ext` binding contributes one entry (word part `2*pos+1`), a `prd`/`cns` binding two entries
  (pointer part `2*pos`, then word part `2*pos+1`).  `connections_go_spec` computes the map,
  `conns_wf2` shows that it is a well-formed parallel-move problem with the expected edges (`ConnsWF2`).
-/
import Scc.Backend.ProofsSubst
import Scc.Backend.ProofsRep2
import Scc.ListLemmas

set_option linter.unusedSimpArgs false

namespace Scc.Backend.Subst

open Scc.AxCut Scc.Backend.PM Scc.Backend.BTree

theorem nodup_flatMap_of {α β : Type} (f : α → List β) :
    ∀ (l : List α), l.Nodup → (∀ a ∈ l, (f a).Nodup) →
      (∀ a ∈ l, ∀ b ∈ l, ∀ x, x ∈ f a → x ∈ f b → a = b) → (l.flatMap f).Nodup
  | [], _, _, _ => by simp
  | a :: l, hn, hf, hdis => by
    simp only [List.nodup_cons] at hn
    rw [List.flatMap_cons, List.nodup_append]
    refine ⟨hf a (by simp), ?_, ?_⟩
    · exact nodup_flatMap_of f l hn.2 (fun x hx => hf x (by simp [hx]))
        (fun x hx y hy => hdis x (by simp [hx]) y (by simp [hy]))
    · intro x hx y hy hxy
      subst hxy
      obtain ⟨b, hb, hxb⟩ := List.mem_flatMap.mp hy
      have := hdis a (by simp) b (by simp [hb]) x hx hxb
      subst this
      exact hn.1 hb

/-- the map entries `connections` inserts for a binding (in insertion order) -/
def entriesOf (Γ newΓ : Ctx) (e : Binding × List Nat) : List (Nat × List Nat) :=
  if e.1.chi == .ext then [(2 * posIn Γ e.1.var.id + 1, e.2.map fun id => 2 * posIn newΓ id + 1)]
  else [(2 * posIn Γ e.1.var.id, e.2.map fun id => 2 * posIn newΓ id),
        (2 * posIn Γ e.1.var.id + 1, e.2.map fun id => 2 * posIn newΓ id + 1)]

theorem connections_go_spec (Γ newΓ : Ctx) : ∀ (tm : List (Binding × List Nat))
    (acc : List (Nat × List Nat)) (c : Nat) (r : List (Nat × List Nat)) (c' : Nat),
    (connections.go mockSym Γ newΓ tm acc).run c = .ok (r, c') →
    r = insertAll (tm.flatMap (entriesOf Γ newΓ)) acc ∧ c = c' ∧
    ∀ e ∈ tm, (Mock.ctxPosition Γ e.1.var.id).isSome ∧ ∀ id ∈ e.2, (Mock.ctxPosition newΓ id).isSome
  | [], acc, c, r, c', h => by
    simp only [connections.go, run_pure_ok] at h
    simp [insertAll, h.1, h.2]
  | (b, targets) :: rest, acc, c, r, c', h => by
    unfold connections.go at h
    cases hbe : (b.chi == Chi.ext) with
    | true =>
      simp only [hbe, if_true, run_bind_ok, mockSym_variableTemporary, vt_run_ok] at h
      obtain ⟨k, c1, ⟨pos, hpos, rfl, rfl⟩, ts, c2, h2, h3⟩ := h
      obtain ⟨e1, e2, e3⟩ := mapMGen_vt_snd newΓ targets _ _ _ h2
      subst e1 e2
      obtain ⟨ih1, ih2, ih3⟩ := connections_go_spec Γ newΓ rest _ _ _ _ h3
      refine ⟨?_, ih2, ?_⟩
      · rw [ih1]
        simp [insertAll, entriesOf, hbe, posIn, hpos, TempNum.toNat, List.foldl_append]
      · intro e he
        simp only [List.mem_cons] at he
        rcases he with rfl | he
        · exact ⟨by simp [hpos], e3⟩
        · exact ih3 e he
    | false =>
      simp only [hbe, Bool.false_eq_true, if_false, run_bind_ok, mockSym_variableTemporary,
        vt_run_ok] at h
      obtain ⟨k1, c1, ⟨pos, hpos, rfl, rfl⟩, ts1, c2, h2, k2, c3, ⟨pos', hpos', rfl, rfl⟩,
        ts2, c4, h4, h5⟩ := h
      rw [hpos] at hpos'
      cases hpos'
      obtain ⟨e1, e2, e3⟩ := mapMGen_vt_fst newΓ targets _ _ _ h2
      subst e1 e2
      obtain ⟨e4, e5, e6⟩ := mapMGen_vt_snd newΓ targets _ _ _ h4
      subst e4 e5
      obtain ⟨ih1, ih2, ih3⟩ := connections_go_spec Γ newΓ rest _ _ _ _ h5
      refine ⟨?_, ih2, ?_⟩
      · rw [ih1]
        simp [insertAll, entriesOf, hbe, posIn, hpos, TempNum.toNat, List.foldl_append]
      · intro e he
        simp only [List.mem_cons] at he
        rcases he with rfl | he
        · exact ⟨by simp [hpos], e3⟩
        · exact ih3 e he

theorem mem_entriesOf {Γ newΓ : Ctx} {e : Binding × List Nat} {e0 : Nat × List Nat} :
    e0 ∈ entriesOf Γ newΓ e ↔
      e0 = (2 * posIn Γ e.1.var.id + 1, e.2.map fun id => 2 * posIn newΓ id + 1) ∨
      (e.1.chi ≠ .ext ∧ e0 = (2 * posIn Γ e.1.var.id, e.2.map fun id => 2 * posIn newΓ id)) := by
  unfold entriesOf
  cases hbe : (e.1.chi == Chi.ext) with
  | true =>
    have := (Sim2.chi_beq_ext _).mp hbe
    simp [this]
  | false =>
    have := (Sim2.chi_beq_ext_false _).mp hbe
    simp only [Bool.false_eq_true, if_false, List.mem_cons, List.not_mem_nil, or_false]
    constructor
    · rintro (h | h)
      · exact Or.inr ⟨this, h⟩
      · exact Or.inl h
    · rintro (h | ⟨_, h⟩)
      · exact Or.inr h
      · exact Or.inl h

theorem entriesOf_keys_nodup (Γ newΓ : Ctx) (e : Binding × List Nat) :
    ((entriesOf Γ newΓ e).map (·.1)).Nodup := by
  unfold entriesOf
  cases hbe : (e.1.chi == Chi.ext) <;> simp

structure ConnsWF2 (Γ : Ctx) (pairs : List (Binding × Ident)) (pm : List (Nat × List Nat)) : Prop where
  keys : PMoves.KeysNodup pm
  targets : PMoves.TargetsNodup pm
  functional : PMoves.Functional pm
  edgeSnd : ∀ j (hj : j < pairs.length), PMoves.Edge pm (2 * posIn Γ pairs[j].2.id + 1) (2 * j + 1)
  edgeFst : ∀ j (hj : j < pairs.length), pairs[j].1.chi ≠ .ext →
    PMoves.Edge pm (2 * posIn Γ pairs[j].2.id) (2 * j)
  range : ∀ x, x ∈ pm.map (·.1) ∨ x ∈ allTargets pm → x < 2 * Γ.length ∨ x < 2 * pairs.length

theorem entries_keys_nodup (Γ : Ctx) (pairs : List (Binding × Ident)) (newΓ : Ctx)
    (hΓ : (Γ.map (·.var.id)).Nodup) :
    (((transpose pairs Γ).flatMap (entriesOf Γ newΓ)).map (·.1)).Nodup := by
  have hperm := transpose_perm pairs Γ hΓ
  have hΓnd : Γ.Nodup := nodup_of_map _ Γ hΓ
  rw [List.map_flatMap]
  rw [(hperm.flatMap_right _).nodup_iff, List.flatMap_map]
  apply nodup_flatMap_of _ _ hΓnd
  · intro b _
    exact entriesOf_keys_nodup Γ newΓ _
  · intro a ha b hb x hxa hxb
    obtain ⟨ea, hea, rfl⟩ := List.mem_map.mp hxa
    obtain ⟨eb, heb, hab⟩ := List.mem_map.mp hxb
    obtain ⟨i, hi, rfl, ei⟩ := posIn_of_mem hΓ ha
    obtain ⟨j, hj, rfl, ej⟩ := posIn_of_mem hΓ hb
    have h1 := mem_entriesOf.mp hea
    have h2 := mem_entriesOf.mp heb
    simp only at h1 h2
    rw [ei] at h1
    rw [ej] at h2
    have : i = j := by
      rcases h1 with rfl | ⟨_, rfl⟩ <;> rcases h2 with rfl | ⟨_, rfl⟩ <;> simp only at hab <;> omega
    subst this
    rfl

theorem mem_entries (Γ : Ctx) (pairs : List (Binding × Ident)) (newΓ : Ctx)
    (hΓ : (Γ.map (·.var.id)).Nodup) (e0 : Nat × List Nat) :
    e0 ∈ (transpose pairs Γ).flatMap (entriesOf Γ newΓ) ↔
      ∃ b ∈ Γ, e0 = (2 * posIn Γ b.var.id + 1,
          (targetsOf pairs b).map fun id => 2 * posIn newΓ id + 1) ∨
        (b.chi ≠ .ext ∧ e0 = (2 * posIn Γ b.var.id,
          (targetsOf pairs b).map fun id => 2 * posIn newΓ id)) := by
  rw [List.mem_flatMap]
  constructor
  · rintro ⟨e, he, h⟩
    obtain ⟨b, hb, rfl⟩ := (transpose_spec pairs Γ hΓ e).mp he
    exact ⟨b, hb, mem_entriesOf.mp h⟩
  · rintro ⟨b, hb, h⟩
    exact ⟨(b, targetsOf pairs b), (transpose_spec pairs Γ hΓ _).mpr ⟨b, hb, rfl⟩,
      mem_entriesOf.mpr h⟩

theorem conns_edge_iff (Γ : Ctx) (pairs : List (Binding × Ident)) (newΓ : Ctx)
    (hΓ : (Γ.map (·.var.id)).Nodup) (s t : Nat) :
    PMoves.Edge (insertAll ((transpose pairs Γ).flatMap (entriesOf Γ newΓ)) []) s t ↔
      ∃ b ∈ Γ, ∃ p ∈ pairs, b.var.id = p.2.id ∧
        ((s = 2 * posIn Γ b.var.id + 1 ∧ t = 2 * posIn newΓ p.1.var.id + 1) ∨
         (b.chi ≠ .ext ∧ s = 2 * posIn Γ b.var.id ∧ t = 2 * posIn newΓ p.1.var.id)) := by
  obtain ⟨hasc, hmem⟩ := insertAll_spec _ [] (by simp [KeysAsc, Asc])
    (entries_keys_nodup Γ pairs newΓ hΓ) (by simp)
  unfold PMoves.Edge
  constructor
  · rintro ⟨ts, hin, ht⟩
    rcases (hmem (s, ts)).mp hin with h | ⟨e0, he0, h⟩
    · simp at h
    · obtain ⟨b, hb, hcase⟩ := (mem_entries Γ pairs newΓ hΓ e0).mp he0
      rcases hcase with rfl | ⟨hne, rfl⟩
      · simp only [Prod.mk.injEq] at h
        obtain ⟨rfl, rfl⟩ := h
        rw [(setOfList_spec mock_order _).2.1] at ht
        obtain ⟨id, hid, rfl⟩ := List.mem_map.mp ht
        obtain ⟨p, hp, hbp, rfl⟩ := mem_targetsOf.mp hid
        exact ⟨b, hb, p, hp, hbp, Or.inl ⟨rfl, rfl⟩⟩
      · simp only [Prod.mk.injEq] at h
        obtain ⟨rfl, rfl⟩ := h
        rw [(setOfList_spec mock_order _).2.1] at ht
        obtain ⟨id, hid, rfl⟩ := List.mem_map.mp ht
        obtain ⟨p, hp, hbp, rfl⟩ := mem_targetsOf.mp hid
        exact ⟨b, hb, p, hp, hbp, Or.inr ⟨hne, rfl, rfl⟩⟩
  · rintro ⟨b, hb, p, hp, hbp, ⟨rfl, rfl⟩ | ⟨hne, rfl, rfl⟩⟩
    · refine ⟨_, (hmem _).mpr (Or.inr ⟨_, (mem_entries Γ pairs newΓ hΓ _).mpr
        ⟨b, hb, Or.inl rfl⟩, rfl⟩), ?_⟩
      rw [(setOfList_spec mock_order _).2.1]
      exact List.mem_map.mpr ⟨p.1.var.id, mem_targetsOf.mpr ⟨p, hp, hbp, rfl⟩, rfl⟩
    · refine ⟨_, (hmem _).mpr (Or.inr ⟨_, (mem_entries Γ pairs newΓ hΓ _).mpr
        ⟨b, hb, Or.inr ⟨hne, rfl⟩⟩, rfl⟩), ?_⟩
      rw [(setOfList_spec mock_order _).2.1]
      exact List.mem_map.mpr ⟨p.1.var.id, mem_targetsOf.mpr ⟨p, hp, hbp, rfl⟩, rfl⟩

theorem posIn_new (pairs : List (Binding × Ident)) (hnew : (pairs.map (·.1.var.id)).Nodup) :
    ∀ p ∈ pairs, ∃ j, ∃ hj : j < pairs.length, pairs[j] = p ∧
      posIn (pairs.map (·.1)) p.1.var.id = j := by
  have hnewΓ : ((pairs.map (·.1)).map (·.var.id)).Nodup := by
    rw [List.map_map]; exact hnew
  intro p hp
  obtain ⟨j, hj, rfl⟩ := List.getElem_of_mem hp
  refine ⟨j, hj, rfl, ?_⟩
  have hj' : j < (pairs.map (·.1)).length := by simpa using hj
  have := posIn_getElem hnewΓ hj'
  simpa using this

theorem posIn_new_idx (pairs : List (Binding × Ident)) (hnew : (pairs.map (·.1.var.id)).Nodup)
    (j : Nat) (hj : j < pairs.length) : posIn (pairs.map (·.1)) pairs[j].1.var.id = j := by
  obtain ⟨j', hj', e1, e2⟩ := posIn_new pairs hnew pairs[j] (List.getElem_mem hj)
  have hjj : j' = j := by
    have hn : (pairs.map (·.1.var.id))[j']'(by simpa using hj') =
        (pairs.map (·.1.var.id))[j]'(by simpa using hj) := by simp [e1]
    exact (List.getElem_inj hnew).mp hn
  rw [e2, hjj]

theorem conns_wf2 (Γ : Ctx) (pairs : List (Binding × Ident)) (hΓ : (Γ.map (·.var.id)).Nodup)
    (hnew : (pairs.map (·.1.var.id)).Nodup)
    (hold : ∀ p ∈ pairs, ∃ b ∈ Γ, b.var.id = p.2.id ∧ b.chi = p.1.chi) :
    ConnsWF2 Γ pairs
      (insertAll ((transpose pairs Γ).flatMap (entriesOf Γ (pairs.map (·.1)))) []) := by
  obtain ⟨hasc, hmem⟩ := insertAll_spec _ [] (by simp [KeysAsc, Asc])
    (entries_keys_nodup Γ pairs (pairs.map (·.1)) hΓ) (by simp)
  have hedge := conns_edge_iff Γ pairs (pairs.map (·.1)) hΓ
  have hposNew := posIn_new pairs hnew
  exact {
    keys := Asc.nodup mock_order hasc
    targets := by
      intro kv hkv
      rcases (hmem kv).mp hkv with h | ⟨e0, _, rfl⟩
      · simp at h
      · exact Asc.nodup mock_order (setOfList_spec mock_order _).1
    functional := by
      intro s s' t h1 h2
      obtain ⟨b, hb, p, hp, hbp, hc⟩ := (hedge s t).mp h1
      obtain ⟨b', hb', p', hp', hbp', hc'⟩ := (hedge s' t).mp h2
      obtain ⟨j, hj, rfl, ej⟩ := hposNew p hp
      obtain ⟨j', hj', rfl, ej'⟩ := hposNew p' hp'
      rw [ej] at hc
      rw [ej'] at hc'
      rw [hbp] at hc
      rw [hbp'] at hc'
      rcases hc with ⟨rfl, rfl⟩ | ⟨_, rfl, rfl⟩ <;> rcases hc' with ⟨rfl, ht⟩ | ⟨_, rfl, ht⟩
      · have : j = j' := by omega
        subst this; rfl
      · omega
      · omega
      · have : j = j' := by omega
        subst this; rfl
    edgeSnd := by
      intro j hj
      obtain ⟨b, hb, hbid, _⟩ := hold pairs[j] (List.getElem_mem hj)
      rw [hedge]
      refine ⟨b, hb, pairs[j], List.getElem_mem hj, hbid, Or.inl ⟨by rw [hbid], ?_⟩⟩
      rw [posIn_new_idx pairs hnew j hj]
    edgeFst := by
      intro j hj hne
      obtain ⟨b, hb, hbid, hchi⟩ := hold pairs[j] (List.getElem_mem hj)
      rw [hedge]
      refine ⟨b, hb, pairs[j], List.getElem_mem hj, hbid,
        Or.inr ⟨by rw [hchi]; exact hne, by rw [hbid], ?_⟩⟩
      rw [posIn_new_idx pairs hnew j hj]
    range := by
      intro x hx
      rcases hx with hx | hx
      · obtain ⟨e, he, rfl⟩ := List.mem_map.mp hx
        rcases (hmem e).mp he with h | ⟨e0, he0, rfl⟩
        · simp at h
        · obtain ⟨b, hb, hcase⟩ := (mem_entries Γ pairs _ hΓ e0).mp he0
          obtain ⟨i, hi, _, ei⟩ := posIn_of_mem hΓ hb
          rcases hcase with rfl | ⟨_, rfl⟩
          · simp only [ei]; omega
          · simp only [ei]; omega
      · unfold allTargets at hx
        obtain ⟨e, he, hxe⟩ := List.mem_flatMap.mp hx
        have : PMoves.Edge _ e.1 x := ⟨e.2, he, hxe⟩
        obtain ⟨b, hb, p, hp, _, hc⟩ := (hedge _ _).mp this
        obtain ⟨j, hj, _, ej⟩ := hposNew p hp
        rw [ej] at hc
        rcases hc with ⟨_, rfl⟩ | ⟨_, _, rfl⟩ <;> omega }

/-! ## non-vacuity -/

/-- old context `x : ext, k : cns`; new context `k' := k, y := x, z := x` -/
def exΓ : Ctx := [⟨⟨"x", 1⟩, .ext, .i64⟩, ⟨⟨"k", 2⟩, .cns, .i64⟩]
def exPairs : List (Binding × Ident) :=
  [(⟨⟨"k'", 3⟩, .cns, .i64⟩, ⟨"k", 2⟩), (⟨⟨"y", 4⟩, .ext, .i64⟩, ⟨"x", 1⟩),
   (⟨⟨"z", 5⟩, .ext, .i64⟩, ⟨"x", 1⟩)]

example : (exΓ.map (·.var.id)).Nodup ∧ (exPairs.map (·.1.var.id)).Nodup ∧
    ∀ p ∈ exPairs, ∃ b ∈ exΓ, b.var.id = p.2.id ∧ b.chi = p.1.chi := by
  unfold exΓ exPairs; decide

example : (connections.go mockSym exΓ (exPairs.map (·.1)) (transpose exPairs exΓ) []).run 7 =
    .ok ([(1, [3, 5]), (2, [0]), (3, [1])], 7) := by rfl

end Scc.Backend.Subst
