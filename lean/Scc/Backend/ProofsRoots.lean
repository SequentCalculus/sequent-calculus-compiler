/-
  Scc.Backend.ProofsRoots — the roots of a context (`Sim2.roots`: the references held by its variables) under the
  changes of the context that the statements make: a new integer position, a last variable that holds a pointer, a
  split at a position; the number of roots is at most the number of variables.  For every backend.
-/
import Scc.Backend.ProofsSim2
import Scc.Backend.ProofsSubstRoots
import Scc.Backend.ProofsErase

namespace Scc.Backend.Sim2

open Scc.AxCut Scc.Backend.Abs Scc.Backend.Sim

theorem roots_snoc_ext (σ σ' : Temps) (Γ : Ctx) (b : Binding) (hb : b.chi = .ext)
    (h : ∀ t, t < 2 * Γ.length → σ'.get t = σ.get t) : roots (Γ ++ [b]) σ' = roots Γ σ := by
  rw [roots_append_ext _ _ _ hb]
  exact roots_congr _ _ _ (fun i hi => h (2 * i) (by omega))

theorem roots_snoc_ptr {σ : Temps} {Γ' : Ctx} {b : Binding} {r : Word} (hbne : b.chi ≠ .ext)
    (hr : σ.get (2 * Γ'.length) = some r) (hr0 : r ≠ 0) : roots (Γ' ++ [b]) σ = roots Γ' σ ++ [r.toNat] := by
  have hroot : rootOf σ b Γ'.length = [r.toNat] := by
    unfold rootOf
    have h1 : (b.chi != Chi.ext) = true := (chi_bne_ext _).mpr hbne
    have h2 : (r != 0) = true := by rw [bne_iff_ne]; exact hr0
    simp only [h1, hr, h2, if_true]
  rw [roots_snoc, hroot]

theorem rootOf_length_le (σ : Temps) (b : Binding) (k : Nat) : (Scc.Backend.Sim2.rootOf σ b k).length ≤ 1 := by
  unfold Scc.Backend.Sim2.rootOf
  split
  · split
    · split <;> simp
    · simp
  · simp

theorem roots_go_length_le (σ : Temps) : ∀ (Γ : Ctx) (k : Nat), (roots.go σ Γ k).length ≤ Γ.length
  | [], _ => by simp [roots.go]
  | b :: bs, k => by
    rw [Scc.Backend.Subst.roots_go_cons, List.length_append, List.length_cons]
    have ih := roots_go_length_le σ bs (k + 1)
    have := rootOf_length_le σ b k
    omega

theorem roots_length_le (σ : Temps) (Γ : Ctx) : (roots Γ σ).length ≤ Γ.length := roots_go_length_le σ Γ 0

theorem roots_split (σ : Temps) (Γ : Ctx) (n : Nat) (hn : n ≤ Γ.length) :
    roots Γ σ = roots (Γ.take n) σ ++ roots.go σ (Γ.drop n) n := by
  unfold roots
  conv => lhs; rw [← List.take_append_drop n Γ]
  rw [roots_go_append]
  simp [Nat.min_eq_left hn]

end Scc.Backend.Sim2
