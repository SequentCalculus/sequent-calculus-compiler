/-
  Scc.Backend.ClosWalk — CLOSURES in a three-way relation that keeps, per instance of a closure, the machine's code
  pointer (`κ`, Scc/Backend/StepProv.lean): the walk over a value along its representation in the abstract heap, and
  the closure invariant, for every backend.
  * `XV P hooks types M h κ v ptr a w`: for every closure inside `v` whose abstract word is `a` and whose machine word
    is `w`, the mock methods are at `a` (`MethodsAt`) and the machine's at `w` (`M w envCtx clauses`: what the backend
    says of its code behind the code pointer `w`), for the same environment context.
  * `XC … tv Γ ρ cfg κ`: the walk for every variable of the context; the machine word of a variable is what its word
    temporary holds (`tv`).
  * the walk under changes of the heap (`XV.sub`, `XV.kept`, `XV.congrK`), and `XC.step`: THE INVARIANT IS PRESERVED by
    every statement form other than `create` / `invoke`, from what the step does to the positions and the heap
    (`StepProv`); the parts (`XC.let_parts`, `XC.snoc`, `XC.load`) serve `create` and `invoke`
    (`ThreeWay.step3K`, Scc/Backend/ThreeWayRun.lean; Scc/RV/RefCreate.lean, RefSwitch.lean, RefRun.lean).
-/
import Scc.Backend.StepProv

set_option linter.unusedVariables false

namespace Scc.Backend.Prov

open Scc.AxCut Scc.AxCut.Pos Scc.Backend.Abs Scc.Backend.Sim Scc.Backend.Sim2

section
variable (P : Program) (hooks : Bool) (types : List TypeDecl) (M : Word → Ctx → Clauses → Prop)

mutual
  /-- `XV … h κ v ptr a w`: the closures inside the value `v` (represented by pointer part `ptr` and abstract
      word `a` in the abstract heap `h`, by the word `w` on the machine) have their methods on both sides -/
  inductive XV (h : Heap) (κ : Nat → Nat → Word) : Value → Option Word → Word → Word → Prop where
    | int (n : Word) (p : Option Word) (a w : Word) : XV h κ (.int n) p a w
    | obj (tag : Nat) (fields : List Value) (r a w : Word) :
      XB h κ fields r → XV h κ (.obj tag fields) (some r) a w
    | clo (envCtx envCtx' : Ctx) (env : List Value) (clauses : Clauses) (r : Word) (a : Nat) (w : Word) :
      envCtx'.keys = envCtx.keys → XB h κ env r →
      MethodsAt P hooks types a envCtx' clauses → M w envCtx' clauses →
      XV h κ (.clo envCtx env clauses) (some r) (BitVec.ofNat 64 a) w
  /-- the values `vs` are the fields of the block referenced by `r` (no value: the null reference) -/
  inductive XB (h : Heap) (κ : Nat → Nat → Word) : List Value → Word → Prop where
    | empty : XB h κ [] 0
    | block (v : Value) (vs : List Value) (r : Word) (o : Obj) :
      r ≠ 0 → h.get r.toNat = some o → XF h κ (v :: vs) o.fields r.toNat 0 → XB h κ (v :: vs) r
  /-- field `j`, `j+1`, … of the object `id` -/
  inductive XF (h : Heap) (κ : Nat → Nat → Word) : List Value → List Field → Nat → Nat → Prop where
    | nil (id j : Nat) : XF h κ [] [] id j
    | cons (v : Value) (vs : List Value) (f : Field) (fs : List Field) (id j : Nat) :
      XV h κ v (if f.chi == .ext then none else some f.ptr) f.val (κ id j) →
      XF h κ vs fs id (j + 1) → XF h κ (v :: vs) (f :: fs) id j
end

/-- THE CLOSURE INVARIANT at a statement boundary: the walk for every variable of the context; the machine
word of a variable is what its word temporary holds -/
def XC (tv : Nat → Option Word) (Γ : Ctx) (ρ : List Value) (cfg : Config) (κ : Nat → Nat → Word) : Prop :=
  ∀ i (h1 : i < Γ.length) (h2 : i < ρ.length) (w : Word),
    tv (2 * i + 1) = some w →
    XV P hooks types M cfg.heap κ ρ[i]
      (if Γ[i].chi == .ext then none else cfg.temps.get (2 * i))
      ((cfg.temps.get (2 * i + 1)).getD 0) w

end

section Walk
variable {P : Program} {hooks : Bool} {types : List TypeDecl} {M : Word → Ctx → Clauses → Prop}

mutual
/-- the walk survives a change of the heap that keeps the fields of the old objects, for every value that
is still represented in the new heap -/
theorem XV.sub {n : Nat} {h h' : Heap} {κ : Nat → Nat → Word} (hold : OldFields n h h')
    (hids : ∀ id o, h.get id = some o → id < n) : ∀ {v : Value} {p : Option Word} {a w a' : Word},
    XV P hooks types M h κ v p a w → RepV P hooks types h' v p a' → XV P hooks types M h' κ v p a w
  | _, _, _, _, _, .int n p a w, _ => .int n p a w
  | _, _, _, _, _, .obj tag fields r a w hb, hr => by
    obtain ⟨r', hr', hB, _⟩ := hr.obj_inv
    injection hr' with hr'
    subst hr'
    exact .obj tag fields r a w (XB.sub hold hids hb hB)
  | _, _, _, _, _, .clo envCtx envCtx' env clauses r a w hk hb hm hx, hr => by
    obtain ⟨r', a'', envCtx'', hr', hB, _⟩ := hr.clo_inv
    injection hr' with hr'
    subst hr'
    exact .clo envCtx envCtx' env clauses r a w hk (XB.sub hold hids hb hB) hm hx
theorem XB.sub {n : Nat} {h h' : Heap} {κ : Nat → Nat → Word} (hold : OldFields n h h')
    (hids : ∀ id o, h.get id = some o → id < n) : ∀ {vs : List Value} {r : Word},
    XB P hooks types M h κ vs r → RepB P hooks types h' vs r → XB P hooks types M h' κ vs r
  | _, _, .empty, _ => .empty
  | _, _, .block v vs r o hr0 hg hf, hB => by
    cases hB with
    | block _ _ _ o' _ hg' hF' =>
      obtain ⟨o2, hg2, e2⟩ := hold r.toNat o' (hids _ _ hg) hg'
      rw [hg] at hg2
      injection hg2 with hg2
      subst hg2
      refine .block v vs r o' hr0 hg' ?_
      rw [← e2]
      rw [← e2] at hF'
      exact XF.sub hold hids hf hF'
theorem XF.sub {n : Nat} {h h' : Heap} {κ : Nat → Nat → Word} (hold : OldFields n h h')
    (hids : ∀ id o, h.get id = some o → id < n) : ∀ {vs : List Value} {fs : List Field} {id j : Nat},
    XF P hooks types M h κ vs fs id j → RepF P hooks types h' vs fs → XF P hooks types M h' κ vs fs id j
  | _, _, _, _, .nil id j, _ => .nil id j
  | _, _, _, _, .cons v vs f fs id j hv hr, hF => by
    cases hF with
    | cons _ _ _ _ hv' _ hr' =>
      exact .cons v vs f fs id j (XV.sub hold hids hv hv') (XF.sub hold hids hr hr')
end

mutual
/-- the walk survives a heap change that keeps the fields of every object -/
theorem XV.kept {h h' : Heap} {κ : Nat → Nat → Word} (hk : AllFieldsKept h h') :
    ∀ {v : Value} {p : Option Word} {a w : Word},
    XV P hooks types M h κ v p a w → XV P hooks types M h' κ v p a w
  | _, _, _, _, .int n p a w => .int n p a w
  | _, _, _, _, .obj tag fields r a w hb => .obj tag fields r a w (XB.kept hk hb)
  | _, _, _, _, .clo envCtx envCtx' env clauses r a w hkeys hb hm hx =>
    .clo envCtx envCtx' env clauses r a w hkeys (XB.kept hk hb) hm hx
theorem XB.kept {h h' : Heap} {κ : Nat → Nat → Word} (hk : AllFieldsKept h h') :
    ∀ {vs : List Value} {r : Word}, XB P hooks types M h κ vs r → XB P hooks types M h' κ vs r
  | _, _, .empty => .empty
  | _, _, .block v vs r o hr0 hg hf => by
    obtain ⟨o', hg', e⟩ := hk _ _ hg
    refine .block v vs r o' hr0 hg' ?_
    rw [e]
    exact XF.kept hk hf
theorem XF.kept {h h' : Heap} {κ : Nat → Nat → Word} (hk : AllFieldsKept h h') :
    ∀ {vs : List Value} {fs : List Field} {id j : Nat},
    XF P hooks types M h κ vs fs id j → XF P hooks types M h' κ vs fs id j
  | _, _, _, _, .nil id j => .nil id j
  | _, _, _, _, .cons v vs f fs id j hv hr => .cons v vs f fs id j (XV.kept hk hv) (XF.kept hk hr)
end

mutual
/-- the walk looks at `κ` only on the objects of the heap -/
theorem XV.congrK {h : Heap} {κ κ' : Nat → Nat → Word} (hκ : ∀ id o, h.get id = some o → ∀ j, κ' id j = κ id j) :
    ∀ {v : Value} {p : Option Word} {a w : Word},
    XV P hooks types M h κ v p a w → XV P hooks types M h κ' v p a w
  | _, _, _, _, .int n p a w => .int n p a w
  | _, _, _, _, .obj tag fields r a w hb => .obj tag fields r a w (XB.congrK hκ hb)
  | _, _, _, _, .clo envCtx envCtx' env clauses r a w hkeys hb hm hx =>
    .clo envCtx envCtx' env clauses r a w hkeys (XB.congrK hκ hb) hm hx
theorem XB.congrK {h : Heap} {κ κ' : Nat → Nat → Word} (hκ : ∀ id o, h.get id = some o → ∀ j, κ' id j = κ id j) :
    ∀ {vs : List Value} {r : Word}, XB P hooks types M h κ vs r → XB P hooks types M h κ' vs r
  | _, _, .empty => .empty
  | _, _, .block v vs r o hr0 hg hf => .block v vs r o hr0 hg (XF.congrK hκ hf (hκ _ _ hg))
theorem XF.congrK {h : Heap} {κ κ' : Nat → Nat → Word} (hκ : ∀ id o, h.get id = some o → ∀ j, κ' id j = κ id j) :
    ∀ {vs : List Value} {fs : List Field} {id j : Nat},
    XF P hooks types M h κ vs fs id j → (∀ j, κ' id j = κ id j) → XF P hooks types M h κ' vs fs id j
  | _, _, _, _, .nil id j, _ => .nil id j
  | _, _, _, _, .cons v vs f fs id j hv hr, hid => by
    refine .cons v vs f fs id j ?_ (XF.congrK hκ hr hid)
    rw [hid j]
    exact XV.congrK hκ hv
end

end Walk

section
variable {P : Program} {hooks : Bool} {types : List TypeDecl} {M : Word → Ctx → Clauses → Prop}

/-- the machine word and the abstract word of a value that is not a closure do not matter -/
theorem XV.words_irrel {h : Heap} {κ : Nat → Nat → Word} {v : Value} {p : Option Word} {a w : Word}
    (hv : XV P hooks types M h κ v p a w) (hk : Sim2.kindOf v ≠ .cns) (a' w' : Word) :
    XV P hooks types M h κ v p a' w' := by
  cases hv with
  | int n p a w => exact .int n p a' w'
  | obj tag fields r a w hb => exact .obj tag fields r a' w' hb
  | clo _ _ _ _ _ _ _ _ _ _ _ => exact absurd rfl hk

/-- `lit`, `op`, `print`, `ifc`, `call`: the heap and the positions are untouched; the kinds of the context
are the same -/
theorem XC.keep {Γ Γ' : Ctx} {ρ : List Value} {cfg cfg' : Config} {κ : Nat → Nat → Word} {tv tv' : Nat → Option Word}
    (C : XC P hooks types M tv Γ ρ cfg κ) (hchi : Γ.map (·.chi) = Γ'.map (·.chi))
    (K : KeepPos tv tv' Γ.length cfg cfg') (hh : cfg'.heap = cfg.heap) :
    XC P hooks types M tv' Γ' ρ cfg' κ := by
  have hlen : Γ.length = Γ'.length := by simpa using congrArg List.length hchi
  intro i h1 h2 w hw
  have h1' : i < Γ.length := by omega
  have e : Γ'[i].chi = Γ[i].chi := by
    have := congrArg (fun l => l[i]?) hchi
    simp only [List.getElem?_map, List.getElem?_eq_getElem h1', List.getElem?_eq_getElem h1,
      Option.map_some, Option.some.injEq] at this
    exact this.symm
  rw [K.mach i h1'] at hw
  rw [e, hh, K.temps _ (by omega), K.temps _ (by omega)]
  exact C i h1' h2 w hw

theorem ids_of_heapOK {h : Heap} {rs : List Nat} {next : Nat} (H : HeapOK h rs next) :
    ∀ id o, h.get id = some o → id < next := fun id o hg => (H.ids _ (heap_get_mem hg)).2.1

/-- `subst`: a new position holds what the position of its source variable held; objects may have been
erased or shared -/
theorem XC.subst {prog : AxCut.Prog} {Γ : Ctx} {ρ vs : List Value} {pairs : List (Binding × Ident)}
    {next : Stmt} {cfg cfg' : Config} {κ : Nat → Nat → Word} {tv tv' : Nat → Option Word} {k : Nat}
    (C : XC P hooks prog.types M tv Γ ρ cfg κ) (hlen : ρ.length = Γ.length)
    (hH : HeapOK cfg.heap (roots Γ cfg.temps) cfg.next)
    (hsteps : stepsTo P k cfg cfg')
    (R' : RelX P hooks prog ⟨pairs.map (fun q : Binding × Ident => q.1), vs, next⟩ cfg')
    (SP : SubstProv tv tv' Γ ρ pairs vs cfg cfg') :
    XC P hooks prog.types M tv' (pairs.map (fun q : Binding × Ident => q.1)) vs cfg' κ := by
  obtain ⟨hold, _⟩ := oldFields_steps k cfg cfg' hsteps
  intro j h1 h2 w hw
  have hj : j < pairs.length := by simpa using h1
  obtain ⟨i, hi, hρ, hchi, ht1, ht0, hm, _⟩ := SP j hj
  have hi2 : i < ρ.length := by omega
  rw [hm] at hw
  have hC := C i hi hi2 w hw
  have hv : vs[j] = ρ[i] := by
    rw [List.getElem?_eq_getElem hi2, List.getElem?_eq_getElem h2] at hρ
    exact (Option.some.inj hρ).symm
  have hR := (R'.vals j h1 h2).1
  simp only at hR
  have hcj : ((pairs.map (fun q : Binding × Ident => q.1))[j]'h1).chi = Γ[i].chi := by simp [hchi]
  rw [hcj] at hR ⊢
  rw [hv] at hR ⊢
  rw [ht1]
  by_cases hce : (Γ[i].chi == .ext) = true
  · simp only [hce, if_true] at hC hR ⊢
    exact XV.sub hold (ids_of_heapOK hH) hC hR
  · simp only [hce, Bool.false_eq_true, if_false] at hC hR ⊢
    have hne : pairs[j].1.chi ≠ .ext := by
      rw [← hchi]; exact fun e => hce ((Sim2.chi_beq_ext _).mpr e)
    rw [ht0 hne] at hR ⊢
    exact XV.sub hold (ids_of_heapOK hH) hC hR

theorem XC.snoc {Γ0 : Ctx} {ρ0 : List Value} {cfg' : Config} {κ : Nat → Nat → Word} {tv' : Nat → Option Word}
    (C : XC P hooks types M tv' Γ0 ρ0 cfg' κ) (hlen : ρ0.length = Γ0.length) (b : Binding) (v : Value)
    (hv : ∀ w, tv' ((2 * Γ0.length + 1)) = some w →
      XV P hooks types M cfg'.heap κ v (if b.chi == .ext then none else cfg'.temps.get (2 * Γ0.length))
        ((cfg'.temps.get (2 * Γ0.length + 1)).getD 0) w) :
    XC P hooks types M tv' (Γ0 ++ [b]) (ρ0 ++ [v]) cfg' κ := by
  intro i h1 h2 w hw
  by_cases hi : i < Γ0.length
  · have hi2 : i < ρ0.length := by omega
    have g1 : (Γ0 ++ [b])[i] = Γ0[i] := List.getElem_append_left hi
    have g2 : (ρ0 ++ [v])[i] = ρ0[i] := List.getElem_append_left hi2
    rw [g1, g2]
    exact C i hi hi2 w hw
  · have hie : i = Γ0.length := by simp at h1; omega
    subst hie
    have g1 : (Γ0 ++ [b])[Γ0.length] = b := by simp
    have g2 : (ρ0 ++ [v])[Γ0.length] = v := by
      rw [List.getElem_append_right (by omega)]; simp [hlen]
    rw [g1, g2]
    exact hv w hw

theorem XC.snoc_int {Γ : Ctx} {ρ : List Value} {cfg cfg' : Config} {κ : Nat → Nat → Word} {tv tv' : Nat → Option Word}
    (C : XC P hooks types M tv Γ ρ cfg κ) (hlen : ρ.length = Γ.length)
    (K : KeepPos tv tv' Γ.length cfg cfg') (hh : cfg'.heap = cfg.heap) (b : Binding) (n : Word) :
    XC P hooks types M tv' (Γ ++ [b]) (ρ ++ [.int n]) cfg' κ :=
  XC.snoc (XC.keep C rfl K hh) hlen b (.int n) (fun _ _ => .int n _ _ _)

theorem XF.get {h : Heap} {κ : Nat → Nat → Word} : ∀ {vs : List Value} {fs : List Field} {id j0 : Nat},
    XF P hooks types M h κ vs fs id j0 → ∀ j (h1 : j < vs.length) (h2 : j < fs.length),
      XV P hooks types M h κ vs[j] (if fs[j].chi == .ext then none else some fs[j].ptr) fs[j].val (κ id (j0 + j))
  | _, _, _, _, .nil id j0, j, h1, _ => by simp at h1
  | _, _, _, _, .cons v vs f fs id j0 hv hr, 0, _, _ => by simpa using hv
  | _, _, _, _, .cons v vs f fs id j0 hv hr, j + 1, h1, h2 => by
    have := XF.get hr j (by simpa using h1) (by simpa using h2)
    simp only [List.getElem_cons_succ]
    rw [show j0 + (j + 1) = j0 + 1 + j by omega]
    exact this

/-- the walk of the fields that `store` reads from the positions `k, k+1, …` -/
theorem xf_of_positions {h : Heap} {κ : Nat → Nat → Word} {σ : Temps} {id : Nat} :
    ∀ (Δ : Ctx) (ρΔ : List Value) (k j0 : Nat) (fields : List Field),
    readFields σ (Mock.kindsOf Δ) k = some fields → ρΔ.length = Δ.length →
    (∀ j (hj : j < Δ.length) (hj2 : j < ρΔ.length),
      XV P hooks types M h κ ρΔ[j] (if Δ[j].chi == .ext then none else σ.get (2 * (k + j)))
        ((σ.get (2 * (k + j) + 1)).getD 0) (κ id (j0 + j))) →
    XF P hooks types M h κ ρΔ fields id j0
  | [], ρΔ, k, j0, fields, hf, hl, _ => by
    have : ρΔ = [] := List.length_eq_zero_iff.mp (by simpa using hl)
    subst this
    simp only [Mock.kindsOf, List.map_nil, readFields, Option.some.injEq] at hf
    subst hf
    exact .nil id j0
  | b :: Δ, ρΔ, k, j0, fields, hf, hl, hx => by
    cases ρΔ with
    | nil => simp at hl
    | cons v vs =>
      obtain ⟨hlen, hspec⟩ := readFields_spec σ _ k fields hf
      cases fields with
      | nil => simp [Mock.kindsOf] at hlen
      | cons f fs =>
        have hf' : readFields σ (Mock.kindsOf Δ) (k + 1) = some fs := by
          simp only [Mock.kindsOf, List.map_cons, readFields] at hf
          cases hg : σ.get (2 * k + 1) with
          | none => simp [hg] at hf
          | some w =>
            cases hr : readFields σ (Δ.map (·.chi)) (k + 1) with
            | none => simp [hg, hr] at hf
            | some rest =>
              simp only [hg, hr] at hf
              split at hf
              · injection hf with hf; injection hf with _ h2
                show readFields σ (Δ.map (·.chi)) (k + 1) = some fs
                rw [← h2]; exact hr
              · split at hf
                · injection hf with hf; injection hf with _ h2
                  show readFields σ (Δ.map (·.chi)) (k + 1) = some fs
                  rw [← h2]; exact hr
                · cases hf
        have ih := xf_of_positions Δ vs (k + 1) (j0 + 1) fs hf' (by simpa using hl)
          (fun j hj hj2 => by
            have := hx (j + 1) (by simpa using hj) (by simpa using hj2)
            simp only [List.getElem_cons_succ] at this
            rw [show k + (j + 1) = k + 1 + j by omega, show j0 + (j + 1) = j0 + 1 + j by omega] at this
            exact this)
        have h0 := hx 0 (by simp) (by simp)
        simp only [List.getElem_cons_zero, Nat.add_zero] at h0
        obtain ⟨hc0, hv0, hp0⟩ := hspec 0 (by simp [Mock.kindsOf]) (by simp)
        simp only [List.getElem_cons_zero, Nat.add_zero, Mock.kindsOf, List.map_cons] at hc0 hv0 hp0
        refine .cons v vs f fs id j0 ?_ ih
        rw [hv0] at h0
        simp only [Option.getD_some] at h0
        rw [hc0]
        by_cases hce : (b.chi == .ext) = true
        · simpa [hce] using h0
        · simp only [hce, Bool.false_eq_true, if_false] at h0 ⊢
          have hne : f.chi ≠ .ext := by rw [hc0]; exact fun e => hce ((Sim2.chi_beq_ext _).mpr e)
          rw [hp0 hne] at h0
          exact h0

theorem allFieldsKept_cons {h : Heap} {n : Nat} (o : Obj) (hn : ∀ id o', h.get id = some o' → id ≠ n) :
    AllFieldsKept h ((n, o) :: h) := by
  intro id o' hg
  exact ⟨o', by rw [heap_get_cons_ne (hn id o' hg)]; exact hg, rfl⟩

/-- `let` / `create`: the first `N` positions in the new state, and the block of the stored values -/
theorem XC.let_parts {Γ : Ctx} {ρ : List Value} {N : Nat} {cfg cfg' : Config} {κ κ' : Nat → Nat → Word}
    {tv tv' : Nat → Option Word} (C : XC P hooks types M tv Γ ρ cfg κ) (hlen : ρ.length = Γ.length) (hN : N ≤ Γ.length)
    (hH : HeapOK cfg.heap (roots Γ cfg.temps) cfg.next) (hnext : cfg.next < 2 ^ 64)
    (hdef : ∀ i, i < Γ.length → (tv ((2 * i + 1))).isSome)
    (LP : LetProv tv tv' Γ N cfg cfg' κ κ') :
    XC P hooks types M tv' (Γ.take N) (ρ.take N) cfg' κ' ∧
    ∃ r, cfg'.temps.get (2 * N) = some r ∧ XB P hooks types M cfg'.heap κ' (ρ.drop N) r := by
  obtain ⟨K, fields, hf, hobj⟩ := LP
  have hids := ids_of_heapOK hH
  -- the old values in the new heap
  have hold : ∀ {v : Value} {p : Option Word} {a w : Word}, XV P hooks types M cfg.heap κ v p a w →
      XV P hooks types M cfg'.heap κ' v p a w := by
    intro v p a w hv
    rcases hobj with ⟨_, h2, h3, _⟩ | ⟨_, h2, h3, _⟩
    · rw [h2, h3]; exact hv
    · rw [h2]
      refine XV.kept (allFieldsKept_cons _ (fun id o' hg => by have := hids id o' hg; omega)) ?_
      refine XV.congrK (fun id o hg j => ?_) hv
      rw [h3]
      unfold storeK
      rw [if_neg (by have := hids id o hg; omega)]
  refine ⟨?_, ?_⟩
  · intro i h1 h2 w hw
    have hiN : i < N := by simp at h1; omega
    have hi : i < Γ.length := by omega
    have hi2 : i < ρ.length := by omega
    have g1 : (Γ.take N)[i] = Γ[i] := by simp
    have g2 : (ρ.take N)[i] = ρ[i] := by simp
    rw [K.mach i hiN] at hw
    rw [g1, g2, K.temps _ (by omega), K.temps _ (by omega)]
    exact hold (C i hi hi2 w hw)
  · have hlenD : (ρ.drop N).length = (Γ.drop N).length := by simp [hlen]
    rcases hobj with ⟨h1, h2, h3, h4⟩ | ⟨h1, h2, h3, h4⟩
    · have : ρ.drop N = [] := by
        apply List.length_eq_zero_iff.mp
        rw [hlenD, h1]; rfl
      rw [this]
      exact ⟨0, h4, .empty⟩
    · refine ⟨BitVec.ofNat 64 cfg.next, h4, ?_⟩
      have hrt : (BitVec.ofNat 64 cfg.next).toNat = cfg.next := ofNat_toNat_lt hnext
      have hr0 : BitVec.ofNat 64 cfg.next ≠ 0 := ofNat_ne_zero hH.pos hnext
      cases hρD : ρ.drop N with
      | nil =>
        rw [hρD] at hlenD
        have : Γ.drop N = [] := List.length_eq_zero_iff.mp hlenD.symm
        exact absurd this h1
      | cons v vs =>
        refine .block v vs _ ⟨0, fields⟩ hr0 (by rw [hrt, h2]; exact heap_get_cons_same) ?_
        rw [hrt, ← hρD]
        apply xf_of_positions (Γ.drop N) (ρ.drop N) N 0 fields hf hlenD
        intro j hj hj2
        have hj' : N + j < Γ.length := by simp at hj; omega
        have hj2' : N + j < ρ.length := by omega
        have g1 : (Γ.drop N)[j] = Γ[N + j] := by simp
        have g2 : (ρ.drop N)[j] = ρ[N + j] := by simp
        rw [g1, g2, Nat.zero_add]
        obtain ⟨w0, hw0⟩ := Option.isSome_iff_exists.mp (hdef (N + j) hj')
        have := hold (C (N + j) hj' hj2' w0 hw0)
        have hk : κ' cfg.next j = w0 := by
          rw [h3]; unfold storeK; rw [if_pos rfl, hw0]; rfl
        rw [hk]
        exact this

theorem XB.inv {h : Heap} {κ : Nat → Nat → Word} {vs : List Value} {r : Word}
    (hB : XB P hooks types M h κ vs r) (hne : vs ≠ []) :
    ∃ o, r ≠ 0 ∧ h.get r.toNat = some o ∧ XF P hooks types M h κ vs o.fields r.toNat 0 := by
  cases hB with
  | empty => exact absurd rfl hne
  | block v0 vs0 _ o hr0 hg hF => exact ⟨o, hr0, hg, hF⟩

/-- `switch` / `invoke`: the relation for the remaining and the loaded positions.  `hXB`: the block of the
value at the last position (from the walk of that value) -/
theorem XC.load {prog : AxCut.Prog} {Γ' Γ'' Δ : Ctx} {b : Binding} {ρ' vs : List Value} {v : Value} {body : Stmt}
    {cfg cfg' : Config} {κ : Nat → Nat → Word} {tv tv' : Nat → Option Word} {k : Nat}
    (C : XC P hooks prog.types M tv (Γ' ++ [b]) (ρ' ++ [v]) cfg κ) (hlen : ρ'.length = Γ'.length)
    (hchi : Γ'.map (·.chi) = Γ''.map (·.chi))
    (hH : HeapOK cfg.heap (roots (Γ' ++ [b]) cfg.temps) cfg.next)
    (hsteps : stepsTo P k cfg cfg')
    (R' : RelX P hooks prog ⟨Γ'' ++ Δ, ρ' ++ vs, body⟩ cfg')
    (hkinds : vs.map Sim2.kindOf = Mock.kindsOf Δ)
    (LP : LoadProv tv tv' Γ'.length Δ cfg cfg' κ)
    (hXB : ∀ r, cfg.temps.get (2 * Γ'.length) = some r → XB P hooks prog.types M cfg.heap κ vs r) :
    XC P hooks prog.types M tv' (Γ'' ++ Δ) (ρ' ++ vs) cfg' κ := by
  obtain ⟨hold, _⟩ := oldFields_steps k cfg cfg' hsteps
  have hids := ids_of_heapOK hH
  obtain ⟨K, hobj⟩ := LP
  have hlen'' : Γ'.length = Γ''.length := by simpa using congrArg List.length hchi
  have hlv : vs.length = Δ.length := by simpa [Mock.kindsOf] using congrArg List.length hkinds
  intro i h1 h2 w hw
  have hR := (R'.vals i h1 h2).1
  simp only at hR
  by_cases hi : i < Γ'.length
  · have hi'' : i < Γ''.length := by omega
    have hi2 : i < ρ'.length := by omega
    have e : Γ''[i].chi = Γ'[i].chi := by
      have := congrArg (fun l => l[i]?) hchi
      simp only [List.getElem?_map, List.getElem?_eq_getElem hi, List.getElem?_eq_getElem hi'',
        Option.map_some, Option.some.injEq] at this
      exact this.symm
    have g1 : (Γ'' ++ Δ)[i] = Γ''[i] := List.getElem_append_left hi''
    have g2 : (ρ' ++ vs)[i] = ρ'[i] := List.getElem_append_left hi2
    have hC := C i (by simp; omega) (by simp; omega) w (by rw [← K.mach i hi]; exact hw)
    have g1' : (Γ' ++ [b])[i]'(by simp; omega) = Γ'[i] := List.getElem_append_left hi
    have g2' : (ρ' ++ [v])[i]'(by simp; omega) = ρ'[i] := List.getElem_append_left hi2
    rw [g1', g2'] at hC
    rw [g1, g2, e, K.temps _ (by omega), K.temps _ (by omega)] at hR ⊢
    exact XV.sub hold hids hC hR
  · obtain ⟨j, rfl⟩ : ∃ j, i = Γ'.length + j := ⟨i - Γ'.length, by omega⟩
    have hjΔ : j < Δ.length := by simp at h1; omega
    have hjv : j < vs.length := by omega
    have g1 : (Γ'' ++ Δ)[Γ'.length + j] = Δ[j] := by
      rw [List.getElem_append_right (by omega)]; simp [hlen'']
    have g2 : (ρ' ++ vs)[Γ'.length + j] = vs[j] := by
      rw [List.getElem_append_right (by omega)]; simp [hlen]
    rcases hobj with ⟨hΔ, _⟩ | ⟨r, o, hr, hr0, hg, hk, hj'⟩
    · rw [hΔ] at hjΔ; simp at hjΔ
    · have hjo : j < o.fields.length := by
        have := congrArg List.length hk
        simp [Mock.kindsOf] at this; omega
      obtain ⟨ht1, ht0, hm⟩ := hj' j hjo
      obtain ⟨o2, _, hg2, hF⟩ := (hXB r hr).inv (fun e => by rw [e] at hjv; simp at hjv)
      rw [hg] at hg2
      injection hg2 with hg2
      subst hg2
      · skip
        have hx := XF.get hF j hjv hjo
        rw [Nat.zero_add] at hx
        have hcΔ : Δ[j].chi = o.fields[j].chi := by
          have := congrArg (fun l => l[j]?) hk
          simp only [Mock.kindsOf, List.getElem?_map, List.getElem?_eq_getElem hjo,
            List.getElem?_eq_getElem hjΔ, Option.map_some, Option.some.injEq] at this
          exact this.symm
        have hkv : Sim2.kindOf vs[j] = o.fields[j].chi := by
          have := congrArg (fun l => l[j]?) hkinds
          simp only [Mock.kindsOf, List.getElem?_map, List.getElem?_eq_getElem hjv,
            List.getElem?_eq_getElem hjΔ, Option.map_some, Option.some.injEq] at this
          rw [this, hcΔ]
        have hx' : XV P hooks prog.types M cfg.heap κ vs[j]
            (if o.fields[j].chi == .ext then none else some o.fields[j].ptr) o.fields[j].val w := by
          by_cases hcc : o.fields[j].chi = .cns
          · have hw' : some (κ r.toNat j) = some w := (hm hcc).symm.trans hw
            injection hw' with hw'
            rw [← hw']; exact hx
          · exact hx.words_irrel (by rw [hkv]; exact hcc) _ _
        rw [g1, g2, hcΔ, ht1, ht0] at hR ⊢
        simp only [Option.getD_some] at hR ⊢
        have e2 : (if (o.fields[j].chi == Chi.ext) = true then none else
            (if (o.fields[j].chi == Chi.ext) = true then none else some o.fields[j].ptr)) =
            (if (o.fields[j].chi == Chi.ext) = true then none else some o.fields[j].ptr) := by
          split <;> rfl
        rw [e2] at hR ⊢
        exact XV.sub hold hids hx' hR

theorem XV.obj_inv {h : Heap} {κ : Nat → Nat → Word} {tag : Nat} {fields : List Value} {p : Option Word}
    {a w : Word} (hv : XV P hooks types M h κ (.obj tag fields) p a w) :
    ∃ r, p = some r ∧ XB P hooks types M h κ fields r := by
  cases hv with
  | obj _ _ r _ _ hb => exact ⟨r, rfl, hb⟩

theorem XV.clo_inv {h : Heap} {κ : Nat → Nat → Word} {envCtx : Ctx} {env : List Value} {clauses : Clauses}
    {p : Option Word} {a w : Word} (hv : XV P hooks types M h κ (.clo envCtx env clauses) p a w) :
    ∃ r a' envCtx', p = some r ∧ a = BitVec.ofNat 64 a' ∧ envCtx'.keys = envCtx.keys ∧
      XB P hooks types M h κ env r ∧ MethodsAt P hooks types a' envCtx' clauses ∧
      M w envCtx' clauses := by
  cases hv with
  | clo _ envCtx' _ _ r a' _ hk hb hm hx => exact ⟨r, a', envCtx', rfl, rfl, hk, hb, hm, hx⟩

/-- the block of the object at the last position, from the walk of that value -/
theorem XC.last_obj {Γ' : Ctx} {b : Binding} {ρ' fields : List Value} {tag : Nat} {cfg : Config}
    {κ : Nat → Nat → Word} {tv : Nat → Option Word}
    (C : XC P hooks types M tv (Γ' ++ [b]) (ρ' ++ [.obj tag fields]) cfg κ) (hlen : ρ'.length = Γ'.length)
    (hb : b.chi = .prd) (hdef : (tv ((2 * Γ'.length + 1))).isSome) :
    ∀ r, cfg.temps.get (2 * Γ'.length) = some r → XB P hooks types M cfg.heap κ fields r := by
  intro r hr
  have hi1 : Γ'.length < (Γ' ++ [b]).length := by simp
  have hi2 : Γ'.length < (ρ' ++ [Value.obj tag fields]).length := by simp [hlen]
  obtain ⟨w, hw⟩ := Option.isSome_iff_exists.mp hdef
  have hC := C _ hi1 hi2 w hw
  have g1 : (Γ' ++ [b])[Γ'.length] = b := by simp
  have g2 : (ρ' ++ [Value.obj tag fields])[Γ'.length] = .obj tag fields := by
    rw [List.getElem_append_right (by omega)]; simp [hlen]
  rw [g1, g2, hb, hr] at hC
  obtain ⟨r', hr', hB⟩ := hC.obj_inv
  simp only [show ((Chi.prd == Chi.ext) = true) = False from by decide, if_false, Option.some.injEq] at hr'
  rw [hr']; exact hB

/-- THE CLOSURE INVARIANT AFTER A STEP of a statement other than `create` / `invoke` -/
theorem XC.step {prog : AxCut.Prog} {Γ Γ' : Ctx} {ρ ρ' : List Value} {s s' : Stmt} {cfg cfg' : Config}
    {κ κ' : Nat → Nat → Word} {tv tv' : Nat → Option Word}
    (C : XC P hooks prog.types M tv Γ ρ cfg κ) (R : RelX P hooks prog ⟨Γ, ρ, s⟩ cfg)
    (hdef : ∀ i, i < Γ.length → (tv (2 * i + 1)).isSome) (hnext : cfg.next < 2 ^ 64)
    (SP : StepProv P tv tv' cfg cfg' κ Γ ρ Γ' ρ' κ') (R' : RelX P hooks prog ⟨Γ', ρ', s'⟩ cfg') :
    XC P hooks prog.types M tv' Γ' ρ' cfg' κ' := by
  have hlen : ρ.length = Γ.length := R.len
  cases SP with
  | keep hchi KP hh => exact C.keep hchi KP hh
  | int b n _ KP hh => exact C.snoc_int hlen KP hh b n
  | subst h1 _ SPv => exact XC.subst C hlen R.heap h1 R' SPv
  | @letS _ _ N _ x ty pos hN LP =>
    obtain ⟨C0, r, hr, hXB⟩ := XC.let_parts C hlen hN R.heap hnext hdef LP
    have hNlen : (Γ.take N).length = N := by simp [Nat.min_eq_left hN]
    exact XC.snoc C0 (by simp [hlen]) ⟨x, .prd, ty⟩ (.obj pos (ρ.drop N)) (fun w _ => by
      rw [hNlen, hr]; exact .obj pos _ r _ w hXB)
  | @switch Γ0 Δ b ρ0 fields tag k hb h1 _ hkinds LP =>
    have hlen0 : ρ0.length = Γ0.length := by simpa using hlen
    exact XC.load C hlen0 rfl R.heap h1 R' hkinds LP (C.last_obj hlen0 hb (hdef _ (by simp)))

end

end Scc.Backend.Prov
