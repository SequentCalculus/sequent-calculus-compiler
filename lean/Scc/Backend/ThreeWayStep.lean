/-
  Scc.Backend.ThreeWayStep — a machine with a loaded routine, and `subst` on it.
  A `Machine B` is a `Target B` with a loaded routine: list positions (`XAt`), runs between them (`RunS`: past no
  hook of the heap monitor; `RunH`: past the hook of the statement at most), how a block at a position becomes a
  run (`lift`), and the contracts of the straight-line methods.  What only some statements need is added level by
  level, so that a lemma asks of the machine no more than it uses: `MachineA` (addresses of labels: `create`),
  `MachineN` (the computed jump of `switch`), `MachineI` (the jump through a code pointer: `invoke`).
  `subst` (Theorem A's `sim2_subst` with the machine carried along): `update_reference_count` for one binding
  (`x_urc_run_ok`: its code; `urc_step3`: erase / nothing / share on the three machines), the walk over all
  bindings (`run_cwc3`, weakening and contraction), then the parallel moves — the machine follows the mock code
  from a shadow configuration that holds the machine's own words (`shadowTemps`, `M.exchange`) — assembled in
  `subst_x3`.
-/
import Scc.Backend.ThreeWay
import Scc.Backend.StepProv
import Scc.Backend.ProofsSim2
import Scc.Backend.ProofsSubstObj
import Scc.Backend.ProofsRoots
import Scc.Backend.ProofsAbsJump
import Scc.Backend.LoaderNamesC

set_option linter.unusedSimpArgs false

namespace Scc.Backend.ThreeWay

open Scc.AxCut Scc.AxCut.Pos Scc.Backend.Abs Scc.Backend.Sim Scc.Backend.Sim2
open Scc.Backend.NamesC (MM mm_append mm_ofList)
open Scc.Heap (HState)
open Scc.Heap.Refine (HRef FrLe)

/-- the routine `cs` holds `items` from list position `k` on.  The backends' own `XAt` (`Scc.X86.Ref.XAt`,
`Scc.A64.Ref.XAt`, which their property statements name) are this definition at their code type and unfold to it
(`Scc.X86.Ref.K.xat_iff`) -/
def XAt {Code : Type} (cs : List Code) (k : Nat) (items : List Code) : Prop :=
  ∃ cs1 rest, cs = cs1 ++ items ++ rest ∧ cs1.length = k

theorem XAt.left {Code : Type} {cs : List Code} {k : Nat} {a b : List Code} (h : XAt cs k (a ++ b)) : XAt cs k a := by
  obtain ⟨cs1, rest, e, hl⟩ := h
  exact ⟨cs1, b ++ rest, by rw [e]; simp, hl⟩

theorem XAt.right {Code : Type} {cs : List Code} {k : Nat} {a b : List Code} (h : XAt cs k (a ++ b)) :
    XAt cs (k + a.length) b := by
  obtain ⟨cs1, rest, e, hl⟩ := h
  exact ⟨cs1 ++ a, rest, by rw [e]; simp, by simp [hl]⟩

theorem XAt.tail {Code : Type} {cs : List Code} {k : Nat} {a : Code} {b : List Code} (h : XAt cs k (a :: b)) :
    XAt cs (k + 1) b := XAt.right (a := [a]) h

theorem XAt.head {Code : Type} {cs : List Code} {k : Nat} {a : Code} {b : List Code} (h : XAt cs k (a :: b)) :
    XAt cs k [a] := XAt.left (a := [a]) (b := b) h

/-- the abstract temporaries `t < n` := what the machine holds (`tv`) -/
def shadowTemps (n : Nat) (tv : Nat → Option Word) : Temps :=
  (List.range n).filterMap fun t => (tv t).map fun v => (t, v)

theorem get_shadowTemps (n : Nat) (tv : Nat → Option Word) (t : Nat) :
    (shadowTemps n tv).get t = if t < n then tv t else none := by
  unfold shadowTemps Temps.get
  have key : ∀ n, ((List.range n).filterMap fun t' => (tv t').map fun v => (t', v)).find?
      (fun e => e.1 == t) = if t < n then (tv t).map (fun v => (t, v)) else none := by
    intro n
    induction n with
    | zero => simp
    | succ n ih =>
      rw [List.range_succ, List.filterMap_append, List.find?_append, ih]
      by_cases h1 : t < n
      · have : t < n + 1 := by omega
        simp only [h1, this, if_true]
        cases hv : tv t with
        | none =>
          simp only [Option.map_none, Option.none_or]
          simp only [List.filterMap_cons, List.filterMap_nil]
          cases hn : tv n with
          | none => simp
          | some w =>
            simp only [Option.map_some]
            have : (n == t) = false := by simp; omega
            simp [this]
        | some w => simp
      · simp only [h1, if_false, Option.none_or, List.filterMap_cons, List.filterMap_nil]
        by_cases h2 : t = n
        · subst h2
          simp only [Nat.lt_succ_self, if_true]
          cases hn : tv t with
          | none => simp
          | some w => simp
        · have : ¬ t < n + 1 := by omega
          simp only [this, if_false]
          cases hn : tv n with
          | none => simp
          | some w =>
            simp only [Option.map_some]
            have : (n == t) = false := by simp; omega
            simp [this]
  rw [key n]
  by_cases h : t < n
  · simp only [h, if_true]
    cases tv t <;> rfl
  · simp only [h, if_false]

section
variable {Code Tm : Type}

/-- A MACHINE WITH A LOADED ROUTINE: what the step lemmas see of a machine besides its `Target`.  Code is
addressed by positions of the list `cs`; a state stands at a position (`pcAt`); the machine gets from a state at
one position to a state at another by runs, which compose; each method of code.rs the generic generator calls has
a contract: its code at a position runs to the position behind it (or to a label) and changes the temporaries as
the method says -/
structure Machine (B : Backend Code Tm) extends Target B where
  /-- the loaded routine, as the list of items the generator emitted -/
  cs : List Code
  /-- the machine stands at list position `k` -/
  pcAt : S → Nat → Prop
  /-- `RunS k st k' st'`: the machine gets from `st` at position `k` to `st'` at position `k'` and passes no hook of
  the heap monitor on the way -/
  RunS : Nat → S → Nat → S → Prop
  /-- a `RunS` that may start at the hook of a statement (the states strictly in between pass none) -/
  RunH : Nat → S → Nat → S → Prop
  runS_refl : ∀ (a : Nat) (s : S), RunS a s a s
  runS_trans : ∀ {a b c : Nat} {s s' s'' : S}, RunS a s b s' → RunS b s' c s'' → RunS a s c s''
  runH_trans : ∀ {a b c : Nat} {s s' s'' : S}, RunH a s b s' → RunS b s' c s'' → RunH a s c s''
  /-- a `RunS` that executes an instruction (not only labels, comments, hooks) -/
  RunSR : Nat → S → Nat → S → Prop
  /-- a `RunH` that executes an instruction -/
  RunHR : Nat → S → Nat → S → Prop
  runH_transR : ∀ {a b c : Nat} {s s' s'' : S}, RunH a s b s' → RunSR b s' c s'' → RunHR a s c s''
  runHR_trans : ∀ {a b c : Nat} {s s' s'' : S}, RunHR a s b s' → RunS b s' c s'' → RunHR a s c s''
  runHR_runH : ∀ {a b : Nat} {s s' : S}, RunHR a s b s' → RunH a s b s'
  /-- code without hooks of the heap monitor -/
  NoHook : List Code → Prop
  /-- the comment is no hook of the heap monitor, as far as the runs of this machine care: a text that differs
  from `#ctx [` (`MM`) is none -/
  CommentOK : String → Prop
  commentOK_of_mm : ∀ {m : String}, MM m → CommentOK m
  /-- utils.rs variable_temporary -/
  vt : ∀ {num : TempNum} {ctx : Ctx} {id kx kx' : Nat} {t : Tm},
    (B.variableTemporary num ctx id).run kx = .ok (t, kx') →
    ∃ pos, Pos.posOf ctx id = some pos ∧ 2 * pos + num.toNat < ntemps ∧ t = posT (2 * pos + num.toNat) ∧ kx' = kx
  /-- a block at a list position runs on the loaded routine; the state reached agrees with the block's on all
  that `Target` sees (it may differ in the program counter) -/
  lift : ∀ {k : Nat} {blk : List Code} {st st' : S}, XAt cs k blk → pcAt st k → Exec blk st st' → NoHook blk →
    Bnd st' → ∃ st'', RunS k st (k + blk.length) st'' ∧ pcAt st'' (k + blk.length) ∧ Bnd st'' ∧
      Keep toTarget st' st'' (fun _ => False)
  noHook_erase : ∀ {t : Tm} {k k' : Nat} {code : List Code}, (B.eraseBlock t).run k = .ok (code, k') → NoHook code
  noHook_share : ∀ {t : Tm} {n k k' : Nat} {code : List Code},
    (B.shareBlockN t n).run k = .ok (code, k') → NoHook code
  noHook_store : ∀ {a b : Ctx} {k k' : Nat} {code : List Code}, (B.store a b).run k = .ok (code, k') → NoHook code
  noHook_load : ∀ {a b : Ctx} {k k' : Nat} {code : List Code}, (B.load a b).run k = .ok (code, k') → NoHook code
  load_nil : ∀ (Γ : Ctx) (k : Nat), (B.load [] Γ).run k = .ok ([], k)
  run_comment : ∀ {k : Nat} {st : S} {m : String}, XAt cs k [B.comment m] → pcAt st k → CommentOK m → Bnd st →
    ∃ st', RunS k st (k + 1) st' ∧ pcAt st' (k + 1) ∧ Bnd st' ∧ Keep toTarget st st' (fun _ => False)
  /-- the first block of every statement: the hook, if any, and the statement comment -/
  run_c0 : ∀ {k : Nat} {st : S} {hooks : Bool} {Γ : Ctx} {m : String},
    XAt cs k (hookCode B hooks Γ ++ [B.comment m]) → pcAt st k → CommentOK m → Bnd st →
    ∃ st', RunH k st (k + (hookCode B hooks Γ ++ [B.comment m]).length) st' ∧
      pcAt st' (k + (hookCode B hooks Γ ++ [B.comment m]).length) ∧ Bnd st' ∧
      Keep toTarget st st' (fun _ => False) ∧ ∀ u, tv st' u = tv st u
  /-- labels the machine passes like a comment (a machine may halt on a label of its own): the labels of the
  generated code are among them -/
  LabelOK : String → Prop
  labelOK_fresh : ∀ n : Nat, LabelOK ("lab" ++ natRen n)
  labelOK_def : ∀ s : String, LabelOK (s ++ "_")
  labelOK_table : ∀ a b : String, LabelOK (a ++ "_" ++ b)
  run_label : ∀ {k : Nat} {st : S} {l : String}, XAt cs k [B.label l] → pcAt st k → LabelOK l → Bnd st →
    ∃ st', RunS k st (k + 1) st' ∧ pcAt st' (k + 1) ∧ Bnd st' ∧ Keep toTarget st st' (fun _ => False)
  /-- literals that `load_immediate` materialises -/
  immOK : Int → Prop
  /-- code.rs load_immediate -/
  loadImm : ∀ {k : Nat} {st : S} {t : Nat} {n : Int}, XAt cs k (B.loadImmediate (posT t) n) → pcAt st k →
    Bnd st → t < ntemps → immOK n →
    ∃ st', RunS k st (k + (B.loadImmediate (posT t) n).length) st' ∧
      pcAt st' (k + (B.loadImmediate (posT t) n).length) ∧ Bnd st' ∧
      tv st' t = some (BitVec.ofInt 64 n) ∧ Keep toTarget st st' (· = t)
  /-- code.rs add / sub / mul / div / rem on word parts, the target at a later position than the sources -/
  binop : ∀ {k : Nat} {st : S} {o : BinOp} {pt p1 p2 : Nat} {a b r : Word},
    XAt cs k (B.binop o (posT (2 * pt + 1)) (posT (2 * p1 + 1)) (posT (2 * p2 + 1))) → pcAt st k → Bnd st →
    2 * pt + 1 < ntemps → p1 < pt → p2 < pt → tv st (2 * p1 + 1) = some a → tv st (2 * p2 + 1) = some b →
    Pos.evalOp o a b = .ok r →
    ∃ st', RunS k st (k + (B.binop o (posT (2 * pt + 1)) (posT (2 * p1 + 1)) (posT (2 * p2 + 1))).length) st' ∧
      pcAt st' (k + (B.binop o (posT (2 * pt + 1)) (posT (2 * p1 + 1)) (posT (2 * p2 + 1))).length) ∧ Bnd st' ∧
      tv st' (2 * pt + 1) = some r ∧ Keep toTarget st st' (· = 2 * pt + 1)
  /-- code.rs print_i64 / println_i64 in context `Γ`: the call of the runtime keeps the word parts of all
  positions of `Γ` and the pointer parts of those that have one -/
  print : ∀ {k : Nat} {st : S} {nl : Bool} {p : Nat} {Γ : Ctx} {kx kx' : Nat} {code : List Code} {v : Word},
    (B.printI64 nl (posT (2 * p + 1)) Γ).run kx = .ok (code, kx') → XAt cs k code → pcAt st k → Bnd st →
    p < Γ.length → 2 * Γ.length ≤ ntemps → tv st (2 * p + 1) = some v →
    kx' = kx ∧ ∃ st', RunS k st (k + code.length) st' ∧ pcAt st' (k + code.length) ∧ Bnd st' ∧
      (∀ j, j < Γ.length → tv st' (2 * j + 1) = tv st (2 * j + 1)) ∧
      (∀ j (hj : j < Γ.length), Γ[j].chi ≠ .ext → tv st' (2 * j) = tv st (2 * j)) ∧
      (∀ o, OutOK st o → OutOK st' ((nl, v) :: o)) ∧ ∀ hs, HRel st hs → HRel st' hs
  /-- code.rs jump_label_if_*: to the position of the label, or on -/
  jumpIf : ∀ {k k' : Nat} {st : S} {srt : IfSort} {s1 s2 : Nat} {l : String} {a b : Word},
    XAt cs k (B.jumpLabelIf srt (posT s1) (posT s2) l) → XAt cs k' [B.label l] → pcAt st k → Bnd st →
    s1 < ntemps → s2 < ntemps → tv st s1 = some a → tv st s2 = some b →
    ∃ st', RunS k st (if Pos.evalCmp srt a b then k' else k + (B.jumpLabelIf srt (posT s1) (posT s2) l).length) st' ∧
      pcAt st' (if Pos.evalCmp srt a b then k' else k + (B.jumpLabelIf srt (posT s1) (posT s2) l).length) ∧
      Bnd st' ∧ Keep toTarget st st' (fun _ => False)
  /-- code.rs jump_label: to the position of the label -/
  jumpLabel : ∀ {k k' : Nat} {st : S} {l : String}, XAt cs k (B.jumpLabel l) → XAt cs k' [B.label l] →
    pcAt st k → Bnd st →
    ∃ st', RunSR k st k' st' ∧ pcAt st' k' ∧ Bnd st' ∧ Keep toTarget st st' (fun _ => False)
  /-- code.rs jump_label_if_zero_*: the same against zero -/
  jumpIfZero : ∀ {k k' : Nat} {st : S} {srt : IfSort} {s1 : Nat} {l : String} {a : Word},
    XAt cs k (B.jumpLabelIfZero srt (posT s1) l) → XAt cs k' [B.label l] → pcAt st k → Bnd st →
    s1 < ntemps → tv st s1 = some a →
    ∃ st', RunS k st (if Pos.evalCmp srt a 0 then k' else k + (B.jumpLabelIfZero srt (posT s1) l).length) st' ∧
      pcAt st' (if Pos.evalCmp srt a 0 then k' else k + (B.jumpLabelIfZero srt (posT s1) l).length) ∧
      Bnd st' ∧ Keep toTarget st st' (fun _ => False)
  /-- parallel_moves.rs: the code of `code_exchange` renders the mock code, and runs in lockstep with it from ANY
  configuration of the abstract machine with an empty scratch cell that agrees with the machine on the
  temporaries of the positions (the moves copy possibly undefined temporaries) -/
  exchange : ∀ {P : Program} {tm : List (Binding × List Nat)} {Γ newΓ : Ctx} {c c' : Nat} {code : List Code}
    {k : Nat} {st : S} {cfg : Config},
    (codeExchange B tm Γ newΓ).run c = .ok (code, c') → XAt cs k code → pcAt st k → Bnd st →
    cfg.scratch = none → (∀ t v, t < ntemps → cfg.temps.get t = some v → tv st t = some v) →
    ∃ ops, (codeExchange mockSym tm Γ newΓ).run c = .ok (ops, c') ∧
      (CodeAt P cfg.pc ops → ∃ cfg' st', stepsTo P (instrCount ops) cfg cfg' ∧
        RunS k st (k + code.length) st' ∧ pcAt st' (k + code.length) ∧ Bnd st' ∧
        (∀ t v, t < ntemps → cfg'.temps.get t = some v → tv st' t = some v) ∧
        (∀ o, OutOK st o → OutOK st' o) ∧ ∀ hs, HRel st hs → HRel st' hs)

/-- a machine whose loaded routine has addresses: code pointers -/
structure MachineA (B : Backend Code Tm) extends Machine B where
  /-- the address of list position `idx` (of a label) as a machine word -/
  addrOf : Nat → Word
  /-- code.rs load_label: the address of the position of the label -/
  loadLabel : ∀ {k idx : Nat} {st : S} {t : Nat} {l : String}, XAt cs k (B.loadLabel (posT t) l) →
    XAt cs idx [B.label l] → pcAt st k → Bnd st → t < ntemps →
    ∃ st', RunS k st (k + (B.loadLabel (posT t) l).length) st' ∧
      pcAt st' (k + (B.loadLabel (posT t) l).length) ∧ Bnd st' ∧
      tv st' t = some (addrOf idx) ∧ Keep toTarget st st' (· = t)

/-- the code of the methods of a closure stands in the routine behind the label `base`, whose address is `w` -/
def XMethodsAtB {B : Backend Code Tm} (M : MachineA B) (hooks : Bool) (types : List TypeDecl) (w : Word)
    (envCtx : Ctx) (clauses : Clauses) (base : String) : Prop :=
  ∃ (k k' : Nat) (code : List Code) (idx : Nat),
    (codeMethodsR B hooks natRen types envCtx clauses base).run k = .ok (code, k') ∧
    XAt M.cs idx (B.label base ::
      ((if clauses.length > 1 then codeTable B clauses base else []) ++ code)) ∧
    w = M.addrOf idx

/-- the code of the methods of a closure stands in the routine behind some label whose address is `w`
(`XMethodsAtB`).  The backends' own `K.XMethodsAt` unfold to this at their `machineA`
(`Scc.X86.Ref.K.xmethodsAt_iff`) -/
def XMethodsAt {B : Backend Code Tm} (M : MachineA B) (hooks : Bool) (types : List TypeDecl) (w : Word)
    (envCtx : Ctx) (clauses : Clauses) : Prop :=
  ∃ base : String, XMethodsAtB M hooks types w envCtx clauses base

/-- a `MachineA` with the navigation from a `switch` (a statement that dispatches on a tag) to the code it selects -/
structure MachineN (B : Backend Code Tm) extends MachineA B where
  /-- the machine from a `switch` on a tag to the `load` of the selected clause: through the jump table (the word
  of the scrutinee is the offset of the entry), or over the labels of the single clause -/
  switch_nav : ∀ {hooks : Bool} {types : List TypeDecl} {Γ' : Ctx} {b : Binding} {x : Ident} {ty : Ty}
    {clauses : Clauses} {fv : FV} {pos : Nat} {c : Clause} {k k' kp : Nat} {items : List Code} {st : S},
    (codeStatementR B hooks natRen types (.switch x ty clauses fv) (Γ' ++ [b])).run k = .ok (items, k') →
    XAt cs kp items → pcAt st kp → Bnd st → b.var.id = x.id → (∀ b' ∈ Γ', b'.var.id ≠ x.id) →
    nthClause clauses pos = some c → tv st (2 * Γ'.length + 1) = some (BitVec.ofNat 64 pos * stride) →
    ∃ st4 kp4 kl kl' lcode kb' body, RunH kp st kp4 st4 ∧ pcAt st4 kp4 ∧ Bnd st4 ∧
      Keep toTarget st st4 (fun _ => False) ∧ (B.load c.ctx Γ').run kl = .ok (lcode, kl') ∧
      (codeStatementR B hooks natRen types c.body (Γ' ++ c.ctx)).run kl' = .ok (body, kb') ∧
      XAt cs kp4 (lcode ++ body)

/-- a `MachineN` with the navigation from an `invoke` through the code pointer of a closure to the method it
selects -/
structure MachineI (B : Backend Code Tm) extends MachineN B where
  /-- positions of xtors that the add-and-jump of `invoke` reaches -/
  tagOK : Nat → Prop
  /-- runs that execute an instruction and end at the state named or AHEAD of it by labels and comments that are
  no hooks (the jump to a code pointer lands on the first instruction behind the labels of the method) -/
  RunA : Nat → S → Nat → S → Prop
  runA_trans : ∀ {a b c : Nat} {s s' s'' : S}, RunA a s b s' → RunS b s' c s'' → RunA a s c s''
  /-- the machine from an `invoke` to the `load` of the selected method: the jump to the code pointer `w` (one
  method), or to the entry of the method table behind it; the word of the closure variable may change -/
  invoke_nav : ∀ {hooks : Bool} {types : List TypeDecl} {Γa : Ctx} {b : Binding} {x tag : Ident} {ty : Ty}
    {args : Ctx} {clauses : Clauses} {d : TypeDecl} {pos : Nat} {c : Clause} {envCtx' : Ctx} {w : Word}
    {k k' kp : Nat} {items : List Code} {st : S},
    (codeStatementR B hooks natRen types (.invoke x tag ty args) (Γa ++ [b])).run k = .ok (items, k') →
    XAt cs kp items → pcAt st kp → Bnd st → 2 * (Γa.length + 1) ≤ ntemps →
    b.var.id = x.id → (∀ b' ∈ Γa, b'.var.id ≠ x.id) →
    lookupTypeDecl types ty = some d → xtorPosition d tag = some pos → nthClause clauses pos = some c →
    clauses.length = d.xtors.length → tv st (2 * Γa.length + 1) = some w →
    XMethodsAt toMachineA hooks types w envCtx' clauses → tagOK pos →
    ∃ st4 kp4 kl kl' lcode kb' body, RunA kp st kp4 st4 ∧ pcAt st4 kp4 ∧ Bnd st4 ∧
      Keep toTarget st st4 (· = 2 * Γa.length + 1) ∧ (tv st4 (2 * Γa.length + 1)).isSome ∧
      (B.load envCtx' c.ctx).run kl = .ok (lcode, kl') ∧
      (codeStatementR B hooks natRen types c.body (c.ctx ++ envCtx')).run kl' = .ok (body, kb') ∧
      XAt cs kp4 (lcode ++ body)

variable {B : Backend Code Tm} (M : Machine B)

open Scc.Backend.Subst (rp) in
theorem x_urc_run_ok (var : Ident) (Γ : Ctx) (n : Nat) (c : Nat) (code : List Code) (c' : Nat) :
    (updateReferenceCount B var Γ n).run c = .ok (code, c') →
    ∃ pos, Pos.posOf Γ var.id = some pos ∧ 2 * pos < M.ntemps ∧
      match n with
        | 0 => ∃ ecode, (B.eraseBlock (M.posT (2 * pos))).run c = .ok (ecode, c') ∧
            code = B.comment ("#erase " ++ var.print) :: ecode
        | 1 => code = [] ∧ c = c'
        | m + 2 => ∃ scode, (B.shareBlockN (M.posT (2 * pos)) (m + 1)).run c = .ok (scode, c') ∧
            code = B.comment ("#share " ++ var.print) :: scode := by
  intro h
  unfold updateReferenceCount at h
  simp only [run_bind_ok] at h
  obtain ⟨t, c1, ht, h⟩ := h
  obtain ⟨pos, hpos, hlt, rfl, rfl⟩ := M.vt ht
  simp only [TempNum.toNat, Nat.add_zero] at hlt h
  refine ⟨pos, hpos, hlt, ?_⟩
  match n with
  | 0 =>
    simp only [run_bind_ok, run_pure_ok] at h
    obtain ⟨cd, c2, hcd, rfl, rfl⟩ := h
    exact ⟨cd, hcd, rfl⟩
  | 1 =>
    simp only [run_pure_ok] at h
    exact ⟨h.1.symm, h.2⟩
  | m + 2 =>
    simp only [run_bind_ok, run_pure_ok] at h
    obtain ⟨cd, c2, hcd, rfl, rfl⟩ := h
    exact ⟨cd, hcd, rfl⟩

open Scc.Backend.Subst (rp) in
open Scc.Heap.Refine (FrLe) in
/-- `update_reference_count` for one binding, three-way -/
theorem urc_step3 {P : Program} {hooks : Bool} {types : List TypeDecl} {Γ : Ctx} {b : Binding} (tl : Nat)
    (cfg : Config) (code : List MockOp) (c c' : Nat)
    (hrun : (updateReferenceCount mockSym b.var Γ tl).run c = .ok (code, c'))
    (hat : CodeAt P cfg.pc code)
    (p : Word) (hp : cfg.temps.get (2 * Scc.Backend.Subst.posIn Γ b.var.id) = some p)
    (acc rs : List Nat) (Hh : HeapOK cfg.heap (acc ++ rp p ++ rs) cfg.next)
    (hi : Scc.Backend.Subst.posIn Γ b.var.id < Γ.length)
    (hchi : Γ[Scc.Backend.Subst.posIn Γ b.var.id].chi ≠ .ext)
    {hs : HState} {ι : Nat → Nat} {κ : Nat → Nat → Word} {st : M.S} {kp : Nat}
    (X : X3R M.toTarget Γ cfg (acc ++ rp p ++ rs) hs ι κ st)
    {kx kx' : Nat} {xcode : List Code}
    (hrunX : (updateReferenceCount B b.var Γ tl).run kx = .ok (xcode, kx'))
    (hatX : XAt M.cs kp xcode) (hpc : M.pcAt st kp)
    (hlen : (acc ++ rp p ++ rs).length ≤ 2 ^ 40) (htl : tl < M.shareMax + 1) :
    ∃ k cfg1, stepsTo P k cfg cfg1 ∧ cfg1.pc = cfg.pc + instrCount code ∧ cfg1.out = cfg.out ∧
      cfg1.next = cfg.next ∧ c = c' ∧
      HeapOK cfg1.heap (acc ++ (List.replicate tl (rp p)).flatten ++ rs) cfg1.next ∧
      (∀ t, t ≠ Mock.T_TEMP → (t ≠ 2 * Scc.Backend.Subst.posIn Γ b.var.id ∨ 0 < tl) →
        cfg1.temps.get t = cfg.temps.get t) ∧
      (∀ (v : Value) (p' : Option Word) (w : Word), RepV P hooks types cfg.heap v p' w →
        (tl = 0 → ∀ r, p' = some r → r ≠ 0 → r.toNat ∈ acc ++ rs) →
        RepV P hooks types cfg1.heap v p' w) ∧
      ∃ st1 hs1, M.RunS kp st (kp + xcode.length) st1 ∧ M.pcAt st1 (kp + xcode.length) ∧
        X3R M.toTarget Γ cfg1 (acc ++ (List.replicate tl (rp p)).flatten ++ rs) hs1 ι κ st1 ∧ FrLe hs hs1 0 ∧
        MachKeep M.toTarget st st1 := by
  obtain ⟨pos, hpos, hcc, hcode⟩ := Scc.Backend.Subst.urc_run_ok _ _ _ _ _ _ hrun
  have hposIn : Scc.Backend.Subst.posIn Γ b.var.id = pos := by
    unfold Scc.Backend.Subst.posIn; rw [hpos]; rfl
  obtain ⟨posX, hposX, hltX, hcodeX⟩ := x_urc_run_ok M _ _ _ _ _ _ hrunX
  have hpx : posX = pos := by
    rw [ctxPosition_eq_posOf] at hpos
    rw [hpos] at hposX
    exact (Option.some.inj hposX).symm
  subst hpx
  generalize hpi : Scc.Backend.Subst.posIn Γ b.var.id = pi at *
  have hposIn' := hposIn.symm
  subst hposIn'
  cases tl with
  | zero =>
    simp only at hcode hcodeX
    subst hcode
    obtain ⟨ecode, hrunE, rfl⟩ := hcodeX
    simp only [CodeAt] at hat
    obtain ⟨hc, _⟩ := hat
    have H' : HeapOK cfg.heap ((acc ++ rs) ++ (if p != 0 then [p.toNat] else [])) cfg.next := by
      apply heapOK_count_congr Hh
      intro x
      simp only [rp, List.count_append]
      omega
    obtain ⟨h', he, Hh', hrep⟩ := erase_ok (P := P) (hooks := hooks) (types := types) p H'
    obtain ⟨st0, hr0, hpc0, B0, K0⟩ := M.run_comment hatX.head hpc (M.commentOK_of_mm (mm_append (mm_ofList (by decide)))) X.bnd
    have Xe : X3R M.toTarget Γ cfg ((acc ++ rs) ++ rp p) hs ι κ st0 :=
      (X.roots_congr (fun x => by simp only [List.count_append]; omega)).keep B0 K0
    obtain ⟨code2, hrun2, st', hs', hx, X', hfrE, hmkE⟩ := erase_x3 hi hchi Xe hp he rfl kx
    have hcode2 : code2 = ecode := by
      rw [hrunE] at hrun2
      injection hrun2 with hrun2
      injection hrun2 with e1 _
      exact e1.symm
    subst hcode2
    obtain ⟨st1, hr1, hpc1, B1, K1⟩ := M.lift hatX.tail hpc0 hx (M.noHook_erase hrunE) X'.bnd
    refine ⟨1, _, stepsTo_one P _ _ (step_erase P cfg _ p h' hc hp he), by simp [instrCount], rfl, rfl,
      hcc, by simpa using Hh', ?_, fun v p' w hv hcond => hrep v p' w hv (hcond rfl), ?_⟩
    · intro t ht hor
      have htp : t ≠ 2 * posX := by
        rcases hor with h | h
        · exact h
        · omega
      show ((clobberTemp cfg.temps).unset (2 * posX)).get t = _
      rw [get_unset_other _ htp, get_clobberTemp _ ht]
    · refine ⟨st1, hs', by
        have := M.runS_trans hr0 hr1
        simpa [Nat.add_assoc, Nat.add_comm 1] using this, by
        simpa [Nat.add_assoc, Nat.add_comm 1] using hpc1, ?_, hfrE,
        (K0.machKeep.trans hmkE).trans K1.machKeep⟩
      simp only [List.replicate_zero, List.flatten_nil, List.append_nil]
      exact X'.keep B1 K1
  | succ n =>
  cases n with
  | zero =>
    simp only at hcode hcodeX
    subst hcode
    obtain ⟨rfl, rfl⟩ := hcodeX
    refine ⟨0, cfg, rfl, by simp [instrCount], rfl, rfl, hcc, by simpa using Hh, fun _ _ _ => rfl,
      fun _ _ _ hv _ => hv, st, hs, by simpa using M.runS_refl kp st, by simpa using hpc, ?_,
      Scc.Heap.Refine.FrLe.refl hs, MachKeep.refl _ st⟩
    simpa using X
  | succ m =>
    simp only at hcode hcodeX
    subst hcode
    obtain ⟨scode, hrunS, rfl⟩ := hcodeX
    simp only [CodeAt] at hat
    obtain ⟨hc, _⟩ := hat
    have hmem : p ≠ 0 → p.toNat ∈ acc ++ rp p ++ rs := by
      intro h0
      have : (p != 0) = true := by rw [bne_iff_ne]; exact h0
      simp only [rp, this, if_true, List.mem_append, List.mem_singleton]
      exact Or.inl (Or.inr trivial)
    obtain ⟨h', he, Hh', hk⟩ := share_heapOK p (m + 1) hmem Hh
    obtain ⟨st0, hr0, hpc0, B0, K0⟩ := M.run_comment hatX.head hpc (M.commentOK_of_mm (mm_append (mm_ofList (by decide)))) X.bnd
    have Xe : X3R M.toTarget Γ cfg (acc ++ rp p ++ rs) hs ι κ st0 := X.keep B0 K0
    obtain ⟨code2, hrun2, st', hs', hx, X', hfrS, hmkS⟩ :=
      share_x3 hi hchi Xe hmem hlen hp (k := m + 1) (by omega) he rfl kx
    have hce : code2 = scode := by
      rw [hrunS] at hrun2
      injection hrun2 with hrun2
      injection hrun2 with e1 _
      exact e1.symm
    subst hce
    obtain ⟨st1, hr1, hpc1, B1, K1⟩ := M.lift hatX.tail hpc0 hx (M.noHook_share hrunS) X'.bnd
    have hcount : ∀ x, (acc ++ (List.replicate (m + 1 + 1) (rp p)).flatten ++ rs).count x =
        (acc ++ rp p ++ rs ++ (List.replicate (m + 1) (rp p)).flatten).count x := by
      intro x
      simp only [List.count_append, Scc.Backend.Subst.count_replicate_flatten]
      rw [show m + 1 + 1 = (m + 1) + 1 by omega, Nat.succ_mul]
      omega
    refine ⟨1, _, stepsTo_one P _ _ (step_share P cfg _ _ p h' hc hp he), by simp [instrCount], rfl, rfl,
      hcc, ?_, ?_, fun v p' w hv _ => RepV.kept hk hv, ?_⟩
    · apply heapOK_count_congr Hh'
      intro x
      have e : (if p != 0 then [p.toNat] else []) = rp p := rfl
      rw [e]
      exact hcount x
    · intro t ht _
      show (clobberTemp cfg.temps).get t = _
      exact get_clobberTemp _ ht
    · refine ⟨st1, hs', by
        have := M.runS_trans hr0 hr1
        simpa [Nat.add_assoc, Nat.add_comm 1] using this, by
        simpa [Nat.add_assoc, Nat.add_comm 1] using hpc1, ?_, hfrS,
        (K0.machKeep.trans hmkS).trans K1.machKeep⟩
      exact (X'.keep B1 K1).roots_congr hcount

open Scc.Backend.Subst in
/-- weakening and contraction on the three machines: the walk of `codeWeakeningContraction` over the bindings of
the context, `urc_step3` for each; the roots held are those of the bindings still to come plus the new counts of
the ones done -/
theorem run_cwc3 {P : Program} {hooks : Bool} {types : List TypeDecl} {Γ : Ctx} {ρ : List Value}
    {pairs : List (Binding × Ident)} {σ0 : Temps}
    (hΓ : (Γ.map (·.var.id)).Nodup) (hcap : 2 * Γ.length + 2 < Mock.T_TEMP)
    (hptr : ∀ i (hi : i < Γ.length), Γ[i].chi ≠ .ext → (σ0.get (2 * i)).isSome)
    (hpl : pairs.length < M.shareMax) {ι : Nat → Nat} {κ : Nat → Nat → Word} :
    ∀ (rest : List (Binding × List Nat)) (acc : List Nat) (cfg : Config) (code : List MockOp) (c c' : Nat),
    (codeWeakeningContraction mockSym rest Γ).run c = .ok (code, c') → CodeAt P cfg.pc code →
    (∀ e ∈ rest, e.1 ∈ Γ ∧ e.2 = targetsOf pairs e.1) → (rest.map (·.1.var.id)).Nodup →
    HeapOK cfg.heap (acc ++ rootsT σ0 Γ rest) cfg.next →
    (∀ i (hi : i < Γ.length), targetsOf pairs Γ[i] ≠ [] → Γ[i].chi ≠ .ext →
      (∃ e ∈ rest, e.1 = Γ[i]) ∨ (∀ y ∈ rootOf σ0 Γ[i] i, y ∈ acc)) →
    (∀ i (hi : i < Γ.length), (targetsOf pairs Γ[i] ≠ [] ∨ ∃ e ∈ rest, e.1 = Γ[i]) →
      cfg.temps.get (2 * i) = σ0.get (2 * i) ∧ cfg.temps.get (2 * i + 1) = σ0.get (2 * i + 1)) →
    (∀ i (hi : i < Γ.length) (hi2 : i < ρ.length), targetsOf pairs Γ[i] ≠ [] →
      RepV P hooks types cfg.heap ρ[i] (if Γ[i].chi == .ext then none else σ0.get (2 * i))
        ((σ0.get (2 * i + 1)).getD 0)) →
    ∀ (st : M.S) (hs : HState) (kp kx : Nat) (xcode : List Code) (kx' : Nat),
    (codeWeakeningContraction B rest Γ).run kx = .ok (xcode, kx') → XAt M.cs kp xcode → M.pcAt st kp →
    X3R M.toTarget Γ cfg (acc ++ rootsT σ0 Γ rest) hs ι κ st →
    (acc ++ rootsT σ0 Γ rest).length + rest.length * pairs.length ≤ 2 ^ 40 →
    ∃ k cfg1, stepsTo P k cfg cfg1 ∧ cfg1.pc = cfg.pc + instrCount code ∧ cfg1.out = cfg.out ∧
      cfg1.next = cfg.next ∧ c = c' ∧
      HeapOK cfg1.heap (acc ++ rootsDone σ0 Γ rest) cfg1.next ∧
      (∀ i (hi : i < Γ.length), targetsOf pairs Γ[i] ≠ [] →
        cfg1.temps.get (2 * i) = σ0.get (2 * i) ∧ cfg1.temps.get (2 * i + 1) = σ0.get (2 * i + 1)) ∧
      (∀ i (hi : i < Γ.length) (hi2 : i < ρ.length), targetsOf pairs Γ[i] ≠ [] →
        RepV P hooks types cfg1.heap ρ[i] (if Γ[i].chi == .ext then none else σ0.get (2 * i))
          ((σ0.get (2 * i + 1)).getD 0)) ∧
      ∃ st1 hs1, M.RunS kp st (kp + xcode.length) st1 ∧ M.pcAt st1 (kp + xcode.length) ∧
        X3R M.toTarget Γ cfg1 (acc ++ rootsDone σ0 Γ rest) hs1 ι κ st1 ∧ FrLe hs hs1 0 ∧
        MachKeep M.toTarget st st1
  | [], acc, cfg, code, c, c', hrun, _, _, _, H, _, T, Vv, st, hs, kp, kx, xcode, kx', hrunX, hatX, hpc, X, _ => by
    simp only [codeWeakeningContraction, run_pure_ok] at hrun hrunX
    obtain ⟨rfl, rfl⟩ := hrun
    obtain ⟨rfl, rfl⟩ := hrunX
    refine ⟨0, cfg, rfl, by simp [instrCount], rfl, rfl, rfl, ?_, ?_, Vv, st, hs, by simpa using M.runS_refl kp st,
      by simpa using hpc, ?_, Scc.Heap.Refine.FrLe.refl hs, MachKeep.refl _ st⟩
    · simpa [rootsT, rootsDone] using H
    · intro i hi hS; exact T i hi (Or.inl hS)
    · simpa [rootsT, rootsDone] using X
  | (b, targets) :: rest', acc, cfg, code, c, c', hrun, hat, hent, hnd, H, J, T, Vv, st, hs, kp, kx, xcode, kx',
      hrunX, hatX, hpc, X, hlen => by
    unfold codeWeakeningContraction at hrun hrunX
    simp only [run_bind_ok, run_pure_ok] at hrun hrunX
    obtain ⟨code1, c1, h1, code2, c2, h2, rfl, rfl⟩ := hrun
    obtain ⟨code1X, k1X, h1X, code2X, k2X, h2X, rfl, rfl⟩ := hrunX
    have htl_le : targets.length ≤ pairs.length := by
      have := (hent (b, targets) (by simp)).2
      simp only at this
      rw [this]
      unfold targetsOf
      rw [List.length_map]
      exact List.length_filter_le _ _
    rw [CodeAt_append] at hat
    obtain ⟨hat1, hat2⟩ := hat
    obtain ⟨hbΓ, htg⟩ := hent (b, targets) (by simp)
    simp only at hbΓ htg
    obtain ⟨i, hi, hgi, hposi⟩ := posIn_of_mem hΓ hbΓ
    have hent' : ∀ e ∈ rest', e.1 ∈ Γ ∧ e.2 = targetsOf pairs e.1 := fun e he => hent e (by simp [he])
    simp only [List.map_cons, List.nodup_cons] at hnd
    -- an entry of the rest is at another position
    have hother : ∀ e ∈ rest', e.1 ≠ b := by
      intro e he hc
      exact hnd.1 (List.mem_map.mpr ⟨e, he, by rw [hc]⟩)
    by_cases hext : b.chi = .ext
    · -- `ext`: no code, no root
      have hbne : (b.chi != .ext) = false := (Sim2.chi_bne_ext_false _).mpr hext
      simp only [hbne, Bool.false_eq_true, if_false, run_pure_ok] at h1 h1X
      obtain ⟨rfl, rfl⟩ := h1
      obtain ⟨rfl, rfl⟩ := h1X
      have hroot : rootAt σ0 Γ b = [] := rootOf_ext σ0 hext _
      have H' : HeapOK cfg.heap (acc ++ rootsT σ0 Γ rest') cfg.next := by
        simpa [rootsT, hroot] using H
      have J' : ∀ i' (hi' : i' < Γ.length), targetsOf pairs Γ[i'] ≠ [] → Γ[i'].chi ≠ .ext →
          (∃ e ∈ rest', e.1 = Γ[i']) ∨ (∀ y ∈ rootOf σ0 Γ[i'] i', y ∈ acc) := by
        intro i' hi' hS hne
        rcases J i' hi' hS hne with ⟨e, he, hee⟩ | h
        · rcases List.mem_cons.mp he with rfl | he'
          · simp only at hee
            rw [← hee] at hne
            exact absurd hext hne
          · exact Or.inl ⟨e, he', hee⟩
        · exact Or.inr h
      have T' : ∀ i' (hi' : i' < Γ.length), (targetsOf pairs Γ[i'] ≠ [] ∨ ∃ e ∈ rest', e.1 = Γ[i']) →
          cfg.temps.get (2 * i') = σ0.get (2 * i') ∧ cfg.temps.get (2 * i' + 1) = σ0.get (2 * i' + 1) := by
        intro i' hi' h
        apply T i' hi'
        rcases h with h | ⟨e, he, hee⟩
        · exact Or.inl h
        · exact Or.inr ⟨e, by simp [he], hee⟩
      have hrT : rootsT σ0 Γ ((b, targets) :: rest') = rootsT σ0 Γ rest' := by simp [rootsT, hroot]
      obtain ⟨k, cfg1, hs', hpcM, hout, hnext, hcc, H1, T1, V1, st1, hs1, hn1, hpc1, X1, hfr1, hmk1⟩ :=
        run_cwc3 hΓ hcap hptr hpl rest' acc cfg code2 _ _ h2 (by simpa [instrCount] using hat2) hent' hnd.2 H' J'
          T' Vv st hs kp _ code2X _ h2X (by simpa using hatX) hpc (by rw [← hrT]; exact X)
          (by
            rw [hrT] at hlen
            simp only [List.length_cons] at hlen
            have : rest'.length * pairs.length ≤ (rest'.length + 1) * pairs.length :=
              Nat.mul_le_mul_right _ (Nat.le_succ _)
            omega)
      refine ⟨k, cfg1, hs', by simpa [instrCount] using hpcM, hout, hnext, hcc, ?_, T1, V1, st1, hs1,
        by simpa using hn1, by simpa using hpc1, ?_, hfr1, hmk1⟩
      · simpa [rootsDone, hroot, flatten_replicate_nil] using H1
      · have : rootsDone σ0 Γ ((b, targets) :: rest') = rootsDone σ0 Γ rest' := by
          simp [rootsDone, hroot, flatten_replicate_nil]
        rw [this]; exact X1
    · -- an object or closure variable
      have hbne : (b.chi != .ext) = true := (Sim2.chi_bne_ext _).mpr hext
      simp only [hbne, if_true] at h1 h1X
      have hci : Γ[i].chi ≠ .ext := by rw [hgi]; exact hext
      obtain ⟨hT0, _⟩ := T i hi (Or.inr ⟨(b, targets), by simp, hgi.symm⟩)
      obtain ⟨p, hp0⟩ := Option.isSome_iff_exists.mp (hptr i hi hci)
      have hp : cfg.temps.get (2 * posIn Γ b.var.id) = some p := by rw [hposi, hT0, hp0]
      have hroot : rootAt σ0 Γ b = rp p := by
        unfold rootAt; rw [hposi]; exact rootOf_nonext hext hp0
      have hrooti : rootOf σ0 Γ[i] i = rp p := rootOf_nonext hci hp0
      have H0 : HeapOK cfg.heap (acc ++ rp p ++ rootsT σ0 Γ rest') cfg.next := by
        have : rootsT σ0 Γ ((b, targets) :: rest') = rp p ++ rootsT σ0 Γ rest' := by
          simp [rootsT, hroot]
        rw [this, ← List.append_assoc] at H
        exact H
      have hrT : rootsT σ0 Γ ((b, targets) :: rest') = rp p ++ rootsT σ0 Γ rest' := by
        simp [rootsT, hroot]
      have X0 : X3R M.toTarget Γ cfg (acc ++ rp p ++ rootsT σ0 Γ rest') hs ι κ st := by
        rw [hrT, ← List.append_assoc] at X; exact X
      have hlen0 : (acc ++ rp p ++ rootsT σ0 Γ rest').length ≤ 2 ^ 40 := by
        rw [hrT, ← List.append_assoc] at hlen; omega
      obtain ⟨k1, cfg1, hs1, hpc1, hout1, hnext1, hcc1, H1, ht1, hr1, stA, hsA, hnA, hpcA, XA, hfrA, hmkA⟩ :=
        urc_step3 M (P := P) (hooks := hooks) (types := types) targets.length cfg code1 c c1 h1
          hat1 p hp acc (rootsT σ0 Γ rest') H0 (by rw [hposi]; exact hi)
          (by
            have e : Γ[posIn Γ b.var.id]'(by rw [hposi]; exact hi) = Γ[i] := by
              congr 1
            rw [e]; exact hci)
          X0 h1X (XAt.left hatX) hpc hlen0 (by omega)
      subst hcc1
      have hS_tl : targetsOf pairs Γ[i] ≠ [] → 0 < targets.length := by
        intro h
        rw [hgi, ← htg] at h
        exact List.length_pos_iff.mpr h
      -- the invariants after this binding
      have J' : ∀ i' (hi' : i' < Γ.length), targetsOf pairs Γ[i'] ≠ [] → Γ[i'].chi ≠ .ext →
          (∃ e ∈ rest', e.1 = Γ[i']) ∨
            (∀ y ∈ rootOf σ0 Γ[i'] i', y ∈ acc ++ (List.replicate targets.length (rp p)).flatten) := by
        intro i' hi' hS hne
        rcases J i' hi' hS hne with ⟨e, he, hee⟩ | h
        · rcases List.mem_cons.mp he with rfl | he'
          · simp only at hee
            have hii : i' = i := getElem_inj_ids hΓ hi' hi (by rw [← hee, hgi])
            subst hii
            right
            intro y hy
            rw [hrooti] at hy
            exact List.mem_append.mpr (Or.inr (mem_replicate_flatten (hS_tl hS) hy))
          · exact Or.inl ⟨e, he', hee⟩
        · exact Or.inr (fun y hy => List.mem_append.mpr (Or.inl (h y hy)))
      have T' : ∀ i' (hi' : i' < Γ.length), (targetsOf pairs Γ[i'] ≠ [] ∨ ∃ e ∈ rest', e.1 = Γ[i']) →
          cfg1.temps.get (2 * i') = σ0.get (2 * i') ∧ cfg1.temps.get (2 * i' + 1) = σ0.get (2 * i' + 1) := by
        intro i' hi' h
        have hold' := T i' hi' (by
          rcases h with h | ⟨e, he, hee⟩
          · exact Or.inl h
          · exact Or.inr ⟨e, by simp [he], hee⟩)
        have hcond : 2 * i' ≠ 2 * posIn Γ b.var.id ∨ 0 < targets.length := by
          rw [hposi]
          by_cases hii : i' = i
          · subst hii
            rcases h with h | ⟨e, he, hee⟩
            · exact Or.inr (hS_tl h)
            · exact absurd (hee.trans hgi) (hother e he)
          · left; omega
        refine ⟨?_, ?_⟩
        · rw [ht1 _ (by omega) hcond]; exact hold'.1
        · rw [ht1 _ (by omega) (Or.inl (by omega))]; exact hold'.2
      have V' : ∀ i' (hi' : i' < Γ.length) (hi2 : i' < ρ.length), targetsOf pairs Γ[i'] ≠ [] →
          RepV P hooks types cfg1.heap ρ[i'] (if Γ[i'].chi == .ext then none else σ0.get (2 * i'))
            ((σ0.get (2 * i' + 1)).getD 0) := by
        intro i' hi' hi2 hS
        apply hr1 _ _ _ (Vv i' hi' hi2 hS)
        intro htl0 r hr hr0
        by_cases hce : (Γ[i'].chi == .ext) = true
        · simp [hce] at hr
        · simp only [hce, Bool.false_eq_true, if_false] at hr
          have hne : Γ[i'].chi ≠ .ext := fun e => hce ((Sim2.chi_beq_ext _).mpr e)
          have hroot' : rootOf σ0 Γ[i'] i' = [r.toNat] := by
            rw [rootOf_nonext hne hr]
            have : (r != 0) = true := by rw [bne_iff_ne]; exact hr0
            simp only [rp, this, if_true]
          rcases J i' hi' hS hne with ⟨e, he, hee⟩ | h
          · rcases List.mem_cons.mp he with rfl | he'
            · simp only at hee
              have hii : i' = i := getElem_inj_ids hΓ hi' hi (by rw [← hee, hgi])
              subst hii
              have := hS_tl hS
              omega
            · apply List.mem_append.mpr
              right
              unfold rootsT
              rw [List.mem_flatMap]
              refine ⟨e, he', ?_⟩
              unfold rootAt
              rw [hee, posIn_getElem hΓ hi', hroot']
              simp
          · exact List.mem_append.mpr (Or.inl (h _ (by rw [hroot']; simp)))
      have H1' : HeapOK cfg1.heap ((acc ++ (List.replicate targets.length (rp p)).flatten) ++
          rootsT σ0 Γ rest') cfg1.next := H1
      have hflen : ((List.replicate targets.length (rp p)).flatten).length ≤ targets.length := by
        have : ∀ k : Nat, ((List.replicate k (rp p)).flatten).length ≤ k := by
          intro k
          induction k with
          | zero => simp
          | succ k ih =>
            simp only [List.replicate_succ, List.flatten_cons, List.length_append]
            have : (rp p).length ≤ 1 := by unfold rp; split <;> simp
            omega
        exact this _
      obtain ⟨k2, cfg2, hs2, hpc2, hout2, hnext2, hcc2, H2, T2, V2, stB, hsB, hnB, hpcB, XB, hfrB, hmkB⟩ :=
        run_cwc3 hΓ hcap hptr hpl rest' _ cfg1 code2 _ _ h2 (by rw [hpc1]; exact hat2) hent' hnd.2 H1' J' T' V'
          stA hsA _ _ code2X _ h2X hatX.right hpcA XA
          (by
            rw [hrT] at hlen
            simp only [List.length_append, List.length_cons] at hlen ⊢
            have h1 : rest'.length * pairs.length + pairs.length = (rest'.length + 1) * pairs.length := by
              rw [Nat.succ_mul]
            omega)
      have hfrAB : FrLe hs hsB 0 := by
        obtain ⟨l1, l2, l3, f1, I1⟩ := XA.href.conc
        have := Scc.Heap.Refine.FrLe.trans hfrA hfrB ⟨_, l1, l2, l3, f1, I1⟩
        simpa using this
      refine ⟨k1 + k2, cfg2, stepsTo_trans P _ _ _ _ _ hs1 hs2, ?_, by rw [hout2, hout1],
        by rw [hnext2, hnext1], hcc2, ?_, T2, V2, stB, hsB,
        by rw [List.length_append, ← Nat.add_assoc]; exact M.runS_trans hnA hnB,
        by rw [List.length_append, ← Nat.add_assoc]; exact hpcB, ?_, hfrAB, hmkA.trans hmkB⟩
      · rw [hpc2, hpc1, instrCount_append]; omega
      · have : rootsDone σ0 Γ ((b, targets) :: rest') =
            (List.replicate targets.length (rp p)).flatten ++ rootsDone σ0 Γ rest' := by
          simp [rootsDone, hroot]
        rw [this, ← List.append_assoc]
        exact H2
      · have : rootsDone σ0 Γ ((b, targets) :: rest') =
            (List.replicate targets.length (rp p)).flatten ++ rootsDone σ0 Γ rest' := by
          simp [rootsDone, hroot]
        rw [this, ← List.append_assoc]
        exact XB

open Scc.Backend.Subst Scc.Backend.PM in
/-- `subst` on the three machines (weakening, contraction and exchange of integer AND object variables): the proof
of Theorem A's `sim2_subst` with the machine carried along -/
theorem subst_x3 {P : Program} {hooks : Bool} {prog : AxCut.Prog} {Γ : Ctx} {ρ : List Value}
    {pairs : List (Binding × Ident)} {next : Stmt} {cfg : Config} {vs : List Value}
    (R : RelX P hooks prog ⟨Γ, ρ, .subst pairs next⟩ cfg)
    (hΓ : (Γ.map (·.var.id)).Nodup)
    (hnew : (pairs.map (·.1.var.id)).Nodup)
    (hold : ∀ p ∈ pairs, ∃ b ∈ Γ, b.var.id = p.2.id ∧ b.chi = p.1.chi)
    (hcap : 2 * pairs.length + 2 < Mock.T_TEMP)
    (hvs : Pos.step.build Γ ρ pairs = .ok vs)
    {hsX : HState} {ι : Nat → Nat} {κ : Nat → Nat → Word} {st : M.S} {kp : Nat}
    (X : X3 M.toTarget Γ cfg hsX ι κ st)
    {kx kx' : Nat} {items : List Code}
    (hrunX : (codeStatementR B hooks natRen prog.types (.subst pairs next) Γ).run kx = .ok (items, kx'))
    (hatX : XAt M.cs kp items) (hpc : M.pcAt st kp)
    (hpl : pairs.length < M.shareMax) (hcapX : 2 * pairs.length ≤ M.ntemps) :
    ∃ k cfg' st' hs' kp', stepsTo P k cfg cfg' ∧ M.RunH kp st kp' st' ∧ M.pcAt st' kp' ∧ FrLe hsX hs' 0 ∧
      cfg'.out = cfg.out ∧ cfg'.next = cfg.next ∧
      RelX P hooks prog ⟨pairs.map (·.1), vs, next⟩ cfg' ∧
      X3 M.toTarget (pairs.map (·.1)) cfg' hs' ι κ st' ∧
      ∃ k1 k1' items', (codeStatementR B hooks natRen prog.types next (pairs.map (·.1))).run k1 =
          .ok (items', k1') ∧ XAt M.cs kp' items' ∧
        Prov.SubstProv (M.tv st) (M.tv st') Γ ρ pairs vs cfg cfg' := by
  obtain ⟨c, c', ops, hrun, hat⟩ := R.code
  simp only [codeStatementR, run_bind_ok, run_pure_ok] at hrun hrunX
  obtain ⟨c1, k1, h1, c2, k2, h2, c3, k3, h3, rfl, rfl⟩ := hrun
  obtain ⟨c1X, k1X, h1X, c2X, k2X, h2X, c3X, k3X, h3X, rfl, rfl⟩ := hrunX
  -- the layout: comments, weakening/contraction, moves, the next statement
  have hatA : XAt M.cs kp ((hookCode B hooks Γ ++ [B.comment (substComment pairs)]) ++ (c1X ++ (c2X ++ c3X))) := by
    simpa [List.append_assoc] using hatX
  obtain ⟨sta, hkc0, hpca, Ba, Ka, _⟩ := M.run_c0 hatA.left hpc
    (M.commentOK_of_mm (by
      unfold substComment; simp only [String.append_assoc]; exact mm_append (mm_ofList (by decide)))) X.bnd
  have Xa : X3 M.toTarget Γ cfg hsX ι κ sta := X3R.keep X Ba Ka
  have hatB := hatA.right
  have hN := M.ntemps_le
  have hcapΓ := R.cap
  have hlenρ := R.len
  simp only at hcapΓ hlenρ
  -- the same layout of the mock code
  simp only [mockSym_comment, List.append_assoc, CodeAt_hook] at hat
  simp only [List.cons_append, List.nil_append, CodeAt] at hat
  rw [CodeAt_append] at hat
  obtain ⟨hat1, hat23⟩ := hat
  rw [CodeAt_append] at hat23
  obtain ⟨hat2, hat3⟩ := hat23
  have hperm := transpose_perm pairs Γ hΓ
  have hent : ∀ e ∈ transpose pairs Γ, e.1 ∈ Γ ∧ e.2 = targetsOf pairs e.1 := by
    intro e he
    obtain ⟨b, hb, rfl⟩ := (transpose_spec pairs Γ hΓ e).mp he
    exact ⟨hb, rfl⟩
  have hndtm : ((transpose pairs Γ).map (·.1.var.id)).Nodup := by
    have := (hperm.map (·.1.var.id))
    rw [this.nodup_iff, List.map_map]
    exact hΓ
  have hmemtm : ∀ i (hi : i < Γ.length), ∃ e ∈ transpose pairs Γ, e.1 = Γ[i] := by
    intro i hi
    exact ⟨(Γ[i], targetsOf pairs Γ[i]),
      (transpose_spec pairs Γ hΓ _).mpr ⟨Γ[i], List.getElem_mem hi, rfl⟩, rfl⟩
  have hptr : ∀ i (hi : i < Γ.length), Γ[i].chi ≠ .ext → (cfg.temps.get (2 * i)).isSome := by
    intro i hi hc
    exact (R.vals i hi (by rw [hlenρ]; exact hi)).2.2.2 ((Sim2.chi_bne_ext _).mpr hc)
  -- 1: erase / share
  have hlenTm : (transpose pairs Γ).length = Γ.length := by
    have := hperm.length_eq
    simpa using this
  have hrT_len : (rootsT cfg.temps Γ (transpose pairs Γ)).length ≤ (transpose pairs Γ).length := by
    unfold rootsT
    generalize transpose pairs Γ = tm
    induction tm with
    | nil => simp
    | cons e tm ih =>
      simp only [List.flatMap_cons, List.length_append, List.length_cons]
      have : (rootAt cfg.temps Γ e.1).length ≤ 1 := rootOf_length_le _ _ _
      omega
  obtain ⟨ka, cfg1, hs1, hpc1, hout1, hnext1, _, H1, T1, V1, st1, hsA, hnA, hpcA, X1, hfrC, hmkC⟩ :=
    run_cwc3 M (P := P) (hooks := hooks) (types := prog.types) (ρ := ρ) (pairs := pairs)
      (σ0 := cfg.temps) hΓ hcapΓ hptr hpl (ι := ι) (transpose pairs Γ) [] cfg c1 _ _ h1 hat1 hent hndtm
      (by
        apply heapOK_count_congr R.heap
        intro x
        simp only [List.nil_append]
        exact roots_count_transpose cfg.temps Γ pairs hΓ x)
      (fun i hi _ _ => Or.inl (hmemtm i hi))
      (fun i hi _ => ⟨rfl, rfl⟩)
      (fun i hi hi2 _ => (R.vals i hi hi2).1)
      sta hsX _ _ c1X _ h1X hatB.left hpca
      (Xa.roots_congr (fun x => by
        simp only [List.nil_append]
        exact roots_count_transpose cfg.temps Γ pairs hΓ x))
      (by
        simp only [List.nil_append]
        have h1' := Xa.cap
        have hsm := M.shareMax_le
        have : (transpose pairs Γ).length * pairs.length ≤ 256 * (2 ^ 32 - 1) := by
          rw [hlenTm]
          exact Nat.mul_le_mul (by omega) (by omega)
        omega)
  -- 2: the moves
  unfold codeExchange connections at h2
  simp only [run_bind_ok] at h2
  obtain ⟨conns, k4, h4, h5⟩ := h2
  obtain ⟨rfl, _, _⟩ := connections_go_spec Γ (pairs.map (·.1)) _ _ _ _ _ h4
  have W := conns_wf2 Γ pairs hΓ hnew hold
  obtain ⟨aops, haops, hsem⟩ := PMoves.parallelMovesFuel_correct (V := Option Word) _ W.keys W.targets
    W.functional (fun _ => false) (PMoves.fuelFor _) (Nat.le_succ _)
  have hmine := parallelMoves_eq _ aops haops
  rw [hmine] at h5
  simp only [run_pure_ok] at h5
  obtain ⟨rfl, rfl⟩ := h5
  have hne : ∀ x ∈ codeTemps (aops.map aopToMock), x ≠ Mock.T_TEMP := by
    intro x hx
    rcases W.range x (parallelMoves_temps _ _ hmine x hx) with h | h <;> omega
  obtain ⟨cfg2, hs2, hpc2, hheap2, hnext2, hout2, hag, _⟩ :=
    run_moves P aops cfg1 (fun t => cfg1.temps.get t) cfg1.scratch (by rw [hpc1]; exact hat2) hne
      (fun _ _ => rfl) rfl
  -- the moves on the machine: through a shadow configuration that holds the machine's words
  have hatC := hatB.right
  obtain ⟨opsS, hopsS, hfollow⟩ := M.exchange (P := P)
    (cfg := { cfg1 with temps := shadowTemps M.ntemps (M.tv st1), scratch := none }) h2X hatC.left hpcA X1.bnd rfl
    (fun t v ht hg => by rw [get_shadowTemps, if_pos ht] at hg; exact hg)
  have hopsE : opsS = aops.map aopToMock := by
    unfold codeExchange connections at hopsS
    simp only [run_bind_ok] at hopsS
    obtain ⟨connsS, k4S, h4S, h5S⟩ := hopsS
    obtain ⟨rfl, _, _⟩ := connections_go_spec Γ (pairs.map (·.1)) _ _ _ _ _ h4S
    rw [hmine] at h5S
    simp only [run_pure_ok] at h5S
    exact h5S.1.symm
  subst hopsE
  obtain ⟨cfgS2, st2, hsS, hnB, hpcB, B2, htS2, hout2S, hrel2⟩ := hfollow (by rw [hpc1]; exact hat2)
  obtain ⟨cfgS2', hsS', _, _, _, _, hagS, _⟩ :=
    run_moves P aops { cfg1 with temps := shadowTemps M.ntemps (M.tv st1), scratch := none }
      (fun t => (shadowTemps M.ntemps (M.tv st1)).get t) none (by rw [hpc1]; exact hat2) hne (fun _ _ => rfl) rfl
  have hdet : cfgS2' = cfgS2 := stepsTo_det P _ _ _ _ hsS' hsS
  subst hdet
  have hsemS := (hsem (fun t => (shadowTemps M.ntemps (M.tv st1)).get t) none).1
  -- a target of an edge holds, on the machine, what the source held before the moves
  have hedge : ∀ s t, PMoves.Edge
      (insertAll ((transpose pairs Γ).flatMap (entriesOf Γ (pairs.map (·.1)))) []) s t → t < M.ntemps →
      s < M.ntemps → ∀ v, M.tv st1 s = some v → M.tv st2 t = some v := by
    intro s t he ht hs' v hv
    apply htS2 t v ht
    rw [hagS t (by unfold Mock.T_TEMP; omega), hsemS _ _ he, get_shadowTemps, if_pos hs']
    exact hv
  have hsem' := (hsem (fun t => cfg1.temps.get t) cfg1.scratch).1
  obtain ⟨hlen, hbuild⟩ := build_spec Γ ρ pairs vs hvs
  -- the source of a new position
  have hsrc : ∀ j (hj : j < pairs.length) (hv : j < vs.length),
      ∃ i, ∃ hi : i < Γ.length, posIn Γ pairs[j].2.id = i ∧ ρ[i]? = some vs[j] ∧
        targetsOf pairs Γ[i] ≠ [] ∧ Γ[i].chi = pairs[j].1.chi := by
    intro j hj hv
    obtain ⟨i, hpos, hval⟩ := hbuild j hj hv
    have hi := posOf_lt hpos
    obtain ⟨_, hid⟩ := posOf_getElem hpos
    refine ⟨i, hi, posIn_eq hpos, hval, ?_, ?_⟩
    · intro hnil
      have : pairs[j].1.var.id ∈ targetsOf pairs Γ[i] :=
        mem_targetsOf.mpr ⟨pairs[j], List.getElem_mem hj, hid, rfl⟩
      rw [hnil] at this
      cases this
    · obtain ⟨b, hb, hbid, hbchi⟩ := hold pairs[j] (List.getElem_mem hj)
      obtain ⟨i', hi', hgi', hposi'⟩ := posIn_of_mem hΓ hb
      have : i' = i := by rw [← hposi', hbid]; exact posIn_eq hpos
      subst this
      rw [hgi']; exact hbchi
  have hget1 : ∀ j (hj : j < pairs.length) (hv : j < vs.length) (i : Nat) (hi : i < Γ.length),
      posIn Γ pairs[j].2.id = i → targetsOf pairs Γ[i] ≠ [] →
      cfg2.temps.get (2 * j + 1) = cfg.temps.get (2 * i + 1) := by
    intro j hj hv i hi hpi hS
    rw [hag _ (by omega)]
    have := hsem' _ _ (W.edgeSnd j hj)
    rw [hpi] at this
    rw [this]
    exact (T1 i hi hS).2
  have hget0 : ∀ j (hj : j < pairs.length) (i : Nat) (hi : i < Γ.length),
      posIn Γ pairs[j].2.id = i → targetsOf pairs Γ[i] ≠ [] → pairs[j].1.chi ≠ .ext →
      cfg2.temps.get (2 * j) = cfg.temps.get (2 * i) := by
    intro j hj i hi hpi hS hne'
    rw [hag _ (by omega)]
    have := hsem' _ _ (W.edgeFst j hj hne')
    rw [hpi] at this
    rw [this]
    exact (T1 i hi hS).1
  have hRelX : RelX P hooks prog ⟨pairs.map (·.1), vs, next⟩ cfg2 := by
    exact {
      len := by simp [hlen]
      cap := by simpa using hcap
      vals := by
        intro j h1' h2'
        have hj : j < pairs.length := by simpa using h1'
        obtain ⟨i, hi, hpi, hval, hS, hchi⟩ := hsrc j hj h2'
        have hi2 : i < ρ.length := by rw [hlenρ]; exact hi
        have hv : vs[j] = ρ[i] := by
          rw [List.getElem?_eq_getElem hi2] at hval
          exact (Option.some.inj hval).symm
        obtain ⟨_, hsome, hkind, hptr'⟩ := R.vals i hi hi2
        have hrep := V1 i hi hi2 hS
        have hcj : ((List.map (fun p : Binding × Ident => p.1) pairs)[j]'h1').chi = Γ[i].chi := by
          simp [hchi]
        rw [hcj, hget1 j hj h2' i hi hpi hS, hv, hheap2]
        refine ⟨?_, hsome, hkind, ?_⟩
        · by_cases hce : (Γ[i].chi == .ext) = true
          · simpa [hce] using hrep
          · have hne' : pairs[j].1.chi ≠ .ext := by
              rw [← hchi]; exact fun e => hce ((Sim2.chi_beq_ext _).mpr e)
            simp only [hce, Bool.false_eq_true, if_false] at hrep ⊢
            rw [hget0 j hj i hi hpi hS hne']
            exact hrep
        · intro hc
          have hne' : pairs[j].1.chi ≠ .ext := by
            rw [← hchi]; exact (Sim2.chi_bne_ext _).mp hc
          rw [hget0 j hj i hi hpi hS hne']
          exact hptr' hc
      heap := by
        rw [hheap2, hnext2]
        apply heapOK_count_congr H1
        intro x
        simp only [List.nil_append]
        apply roots_new_count cfg.temps cfg2.temps Γ pairs hΓ hold
        intro j hj hne'
        obtain ⟨b, hb, hbid, hbchi⟩ := hold pairs[j] (List.getElem_mem hj)
        obtain ⟨i, hi, hgi, hposi⟩ := posIn_of_mem hΓ hb
        have hpi : posIn Γ pairs[j].2.id = i := by rw [← hbid]; exact hposi
        have hS : targetsOf pairs Γ[i] ≠ [] := by
          intro hnil
          have : pairs[j].1.var.id ∈ targetsOf pairs Γ[i] :=
            mem_targetsOf.mpr ⟨pairs[j], List.getElem_mem hj, by rw [hgi]; exact hbid, rfl⟩
          rw [hnil] at this
          cases this
        rw [hpi]
        exact hget0 j hj i hi hpi hS hne'
      code := ⟨_, _, c3, h3, by rw [hpc2, hpc1]; simpa [Nat.add_assoc] using hat3⟩ }
  refine ⟨ka + instrCount (aops.map aopToMock), cfg2, st2, hsA, _, stepsTo_trans P _ _ _ _ _ hs1 hs2,
    M.runH_trans (M.runH_trans hkc0 hnA) hnB, hpcB, hfrC, by rw [hout2, hout1], by rw [hnext2, hnext1],
    hRelX, ?_, _, _, c3X, h3X, hatC.right, ?_⟩
  rotate_left
  · -- where the new positions come from
    intro j hj
    have hv : j < vs.length := by rw [hlen]; exact hj
    obtain ⟨i, hi, hpi, hval, hS, hchi⟩ := hsrc j hj hv
    have hi2 : i < ρ.length := by rw [hlenρ]; exact hi
    refine ⟨i, hi, by rw [hval, List.getElem?_eq_getElem hv], hchi, hget1 j hj hv i hi hpi hS,
      fun hne => hget0 j hj i hi hpi hS hne, ?_, hpi⟩
    obtain ⟨_, hsome, _, _⟩ := R.vals i hi hi2
    obtain ⟨a, ha⟩ := Option.isSome_iff_exists.mp hsome
    have h1' := X1.words i hi a (by rw [(T1 i hi hS).2]; exact ha)
    have hcapΓ' := X1.cap
    have h2' := hedge (2 * i + 1) (2 * j + 1) (by
      have := W.edgeSnd j hj
      rw [hpi] at this
      exact this) (by omega) (by omega) _ h1'
    show M.tv st2 (2 * j + 1) = M.tv st (2 * i + 1)
    rw [h2', ← h1', hmkC.tv _ (by omega), Ka.tv _ (by omega) id]
  -- the relation for the new context
  have hlenP : (pairs.map (·.1)).length = pairs.length := by simp
  refine ⟨B2, by rw [hlenP]; exact hcapX, ?_, ?_, ?_, ?_, ?_⟩
  · intro j hj a ha
    rw [hlenP] at hj
    have hv : j < vs.length := by rw [hlen]; exact hj
    obtain ⟨i, hi, hpi, hval, hS, hchi⟩ := hsrc j hj hv
    rw [hget1 j hj hv i hi hpi hS] at ha
    have hcj : ((List.map (fun p : Binding × Ident => p.1) pairs)[j]'(by rw [hlenP]; exact hj)).chi = Γ[i].chi := by
      simp [hchi]
    rw [hcj]
    have h1' := X1.words i hi a (by rw [(T1 i hi hS).2]; exact ha)
    have hcapΓ' := X1.cap
    have h2' := hedge (2 * i + 1) (2 * j + 1) (by
      have := W.edgeSnd j hj
      rw [hpi] at this
      exact this) (by omega) (by omega) _ h1'
    refine words_of h2' (fun hc => ?_)
    cases hcc : Γ[i].chi with
    | cns => exact absurd hcc hc
    | prd => rfl
    | ext => rfl
  · intro j hj hc r hr
    rw [hlenP] at hj
    have hv : j < vs.length := by rw [hlen]; exact hj
    obtain ⟨i, hi, hpi, hval, hS, hchi⟩ := hsrc j hj hv
    have hcj : ((List.map (fun p : Binding × Ident => p.1) pairs)[j]'(by rw [hlenP]; exact hj)).chi = Γ[i].chi := by
      simp [hchi]
    rw [hcj] at hc
    have hne' : pairs[j].1.chi ≠ .ext := by rw [← hchi]; exact hc
    rw [hget0 j hj i hi hpi hS hne'] at hr
    have h1' := X1.ptrs i hi hc r (by rw [(T1 i hi hS).1]; exact hr)
    have hcapΓ' := X1.cap
    refine hedge _ _ ?_ (by omega) (by omega) _ h1'
    have := W.edgeFst j hj hne'
    rw [hpi] at this
    exact this
  · rw [hout2]; exact hout2S _ X1.out
  · exact hrel2 _ X1.hrel
  · rw [hheap2, hnext2]
    refine Scc.Heap.Refine.HRef.roots_congr X1.href (fun x => ?_)
    simp only [List.nil_append]
    apply roots_new_count cfg.temps cfg2.temps Γ pairs hΓ hold
    intro j hj hne'
    obtain ⟨b, hb, hbid, hbchi⟩ := hold pairs[j] (List.getElem_mem hj)
    obtain ⟨i, hi, hgi, hposi⟩ := posIn_of_mem hΓ hb
    have hpi : posIn Γ pairs[j].2.id = i := by rw [← hbid]; exact hposi
    have hS : targetsOf pairs Γ[i] ≠ [] := by
      intro hnil
      have : pairs[j].1.var.id ∈ targetsOf pairs Γ[i] :=
        mem_targetsOf.mpr ⟨pairs[j], List.getElem_mem hj, by rw [hgi]; exact hbid, rfl⟩
      rw [hnil] at this
      cases this
    rw [hpi]
    exact hget0 j hj i hi hpi hS hne'

end

end Scc.Backend.ThreeWay
