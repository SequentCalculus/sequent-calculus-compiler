/-
  Scc.Backend.Track — A RUN OF THE POSITIONAL MACHINE TRACKED BY A MACHINE, for any machine.

  All that the run level of a backend knows of its machine is a relation `steps k X Y` ("`k` transitions lead
  from `X` to `Y`, without fault and without the run ending in between": `stepN … = .inl Y` on x86-64 and RV64,
  `StepsN` on AArch64, the same restricted to runs on which the heap monitor passes for the monitor theorems)
  that composes, and ONE lemma `next`: an invariant `I r st acc X` between a state of the positional machine, the
  output so far, and a machine state — with a budget `r` of steps still paid for (object numbers below 2^64,
  blocks of heap) — is carried over a step of the positional machine by at least `w` transitions.

  `Track.run` is the one induction along the run: the machine passes through a state in the invariant for
  every state of the run, in order (`Chain`), whether the run ends or not; it makes at least as many transitions
  as the weights of the statements executed add up to (`weight`); and the last state reached is in the invariant
  with the positional state that ends the run (`Ends`: `done`, `stuck`, or the fuel used up).
  What a backend proves about whole runs (result and output, the chain of boundaries, the peak, progress, the
  monitors, faults) is this theorem for its invariant, followed by its lemma about the last step (`Track.run_done`).
  The two invariants all backends share are in Scc/Backend/TrackHeap.lean.

  The positional machine alone says how much the executed statements weigh (`weight_ge`, Scc/AxCut/PosProgress.lean).
-/
import Scc.AxCut.PosRun

namespace Scc.Backend.Track

open Scc.AxCut Scc.Backend.Abs
open Scc.Props.C06Generic (outAfter statesOf)

variable {MS : Type}

/-- from `X` the machine passes through a chain of states, one for each positional state of the list, each in
relation `Q` to it.  The property statements speak of the chain of one machine: `Scc.X86.Conc.BChain`,
`Scc.RV.Conc.BChain`, `Scc.A64.ConcK.BChain` are this recursion with `steps` spelt out for that machine, and
`bchain_of_chain` (next to each of them) turns a `Chain` into it. -/
def Chain (steps : Nat → MS → MS → Prop) (Q : Pos.State → MS → Prop) : List Pos.State → MS → Prop
  | [], _ => True
  | st :: rest, X => Q st X ∧ (rest = [] ∨ ∃ n X', steps n X X' ∧ Chain steps Q rest X')

theorem Chain.mono {steps : Nat → MS → MS → Prop} {Q Q' : Pos.State → MS → Prop} (hq : ∀ st X, Q st X → Q' st X) :
    ∀ {sts : List Pos.State} {X : MS}, Chain steps Q sts X → Chain steps Q' sts X
  | [], _, _ => trivial
  | _ :: _, _, hc => ⟨hq _ _ hc.1, hc.2.imp id fun ⟨n, X', hn, hc'⟩ => ⟨n, X', hn, Chain.mono hq hc'⟩⟩

/-- the weights of the statements executed in the first `n` steps from `st` -/
def weight (w : Stmt → Nat) (prog : Prog) : Nat → Pos.State → Nat
  | 0, _ => 0
  | n + 1, st =>
    match Pos.step prog st with
    | .next st' _ => w st.stmt + weight w prog n st'
    | _ => 0

/-- `b` is the behaviour of a run that has reached `st` with output `acc` and `m` steps left: `st` ends the run,
or the fuel is used up -/
def Ends (prog : Prog) (m : Nat) (st : Pos.State) (acc : List (Bool × Word)) (b : Pos.Behaviour) : Prop :=
  b.out = acc.reverse ∧
    match b.res with
    | .done v => 0 < m ∧ Pos.step prog st = .done v
    | .stuck why => 0 < m ∧ Pos.step prog st = .stuck why
    | .outOfFuel => m = 0

/-- the invariant `I` is carried from a state of the positional machine to the next, by `steps` -/
structure Track (steps : Nat → MS → MS → Prop) (prog : Prog)
    (I : Nat → Pos.State → List (Bool × Word) → MS → Prop) (w : Stmt → Nat) : Prop where
  refl : ∀ X, steps 0 X X
  trans : ∀ {a b X Y Z}, steps a X Y → steps b Y Z → steps (a + b) X Z
  next : ∀ {r st acc X st' o}, I (r + 1) st acc X → Pos.step prog st = .next st' o →
    ∃ k X', steps k X X' ∧ I r st' (outAfter o acc) X' ∧ w st.stmt ≤ k

/-- THE RUN, TRACKED: `n` steps of the positional machine from a state in the invariant (with budget for `n`
steps and `r` more) -/
theorem Track.run {steps : Nat → MS → MS → Prop} {prog : Prog} {I : Nat → Pos.State → List (Bool × Word) → MS → Prop}
    {w : Stmt → Nat} (T : Track steps prog I w) :
    ∀ (n r : Nat) (st : Pos.State) (acc : List (Bool × Word)) (X : MS), I (n + r) st acc X →
      Chain steps (fun st X => ∃ r acc, I r st acc X) (statesOf prog n st) X ∧
      ∃ j stL accL k XL, j ≤ n ∧ steps k X XL ∧ weight w prog n st ≤ k ∧ I (n - j + r) stL accL XL ∧
        Ends prog (n - j) stL accL (Pos.runState prog n st acc)
  | 0, r, st, acc, X, h =>
    ⟨⟨⟨_, _, h⟩, Or.inl rfl⟩, 0, st, acc, 0, X, Nat.le_refl _, T.refl X, Nat.le_refl _, h, rfl, rfl⟩
  | n + 1, r, st, acc, X, h => by
    simp only [statesOf, weight, Pos.runState]
    cases hst : Pos.step prog st with
    | done v =>
      exact ⟨⟨⟨_, _, h⟩, Or.inl rfl⟩, 0, st, acc, 0, X, Nat.zero_le _, T.refl X, Nat.le_refl _, h, rfl,
        Nat.succ_pos n, hst⟩
    | stuck why =>
      exact ⟨⟨⟨_, _, h⟩, Or.inl rfl⟩, 0, st, acc, 0, X, Nat.zero_le _, T.refl X, Nat.le_refl _, h, rfl,
        Nat.succ_pos n, hst⟩
    | next st' o =>
      rw [Nat.add_right_comm] at h
      obtain ⟨k, X', hk, h', hw⟩ := T.next h hst
      obtain ⟨hch, j, stL, accL, k', XL, hj, hk', hw', hI, hE⟩ := T.run n r st' (outAfter o acc) X' h'
      refine ⟨⟨⟨_, _, h⟩, Or.inr ⟨k, X', hk, hch⟩⟩, j + 1, stL, accL, k + k', XL, Nat.succ_le_succ hj,
        T.trans hk hk', Nat.add_le_add hw hw', ?_, ?_⟩
      · rw [Nat.add_sub_add_right]; exact hI
      · rw [Nat.add_sub_add_right]; cases o <;> exact hE

/-- the result of a run does not depend on the output before it -/
theorem runState_res (prog : Prog) : ∀ (n : Nat) (st : Pos.State) (acc acc' : List (Bool × Word)),
    (Pos.runState prog n st acc).res = (Pos.runState prog n st acc').res
  | 0, _, _, _ => rfl
  | n + 1, st, acc, acc' => by
    simp only [Pos.runState]
    cases Pos.step prog st with
    | next st' o => exact runState_res prog n st' _ _
    | done v => rfl
    | stuck w => rfl

theorem Ends.done {prog : Prog} {m : Nat} {st : Pos.State} {acc out : List (Bool × Word)} {v : Word}
    (h : Ends prog m st acc ⟨out, .done v⟩) : 0 < m ∧ Pos.step prog st = .done v ∧ acc.reverse = out :=
  ⟨h.2.1, h.2.2, h.1.symm⟩

theorem Ends.stuck {prog : Prog} {m : Nat} {st : Pos.State} {acc out : List (Bool × Word)} {why : Pos.Why}
    (h : Ends prog m st acc ⟨out, .stuck why⟩) : 0 < m ∧ Pos.step prog st = .stuck why ∧ acc.reverse = out :=
  ⟨h.2.1, h.2.2, h.1.symm⟩

theorem Behaviour.eq_of_res {b : Pos.Behaviour} {r : Pos.Result} (h : b.res = r) : b = ⟨b.out, r⟩ := by
  cases b; cases h; rfl

/-- a terminating run: the machine reaches a state in `AtEnd`, if from the invariant at a state that ends the run with
`done v` it does -/
theorem Track.run_done {steps : Nat → MS → MS → Prop} {prog : Prog}
    {I : Nat → Pos.State → List (Bool × Word) → MS → Prop} {w : Stmt → Nat} (T : Track steps prog I w)
    {AtEnd : Word → List (Bool × Word) → MS → Prop}
    (hdone : ∀ {r st acc X v}, I (r + 1) st acc X → Pos.step prog st = .done v → ∃ k XL, steps k X XL ∧ AtEnd v acc XL)
    {n r : Nat} {st : Pos.State} {acc : List (Bool × Word)} {X : MS} (h : I (n + r) st acc X)
    {out : List (Bool × Word)} {v : Word} (hrun : Pos.runState prog n st acc = ⟨out, .done v⟩) :
    ∃ k XL accL, steps k X XL ∧ accL.reverse = out ∧ AtEnd v accL XL := by
  obtain ⟨_, j, stL, accL, k, XL, _, hk, _, hI, hE⟩ := T.run n r st acc X h
  rw [hrun] at hE
  obtain ⟨hm, hst, hout⟩ := hE.done
  rw [show n - j + r = (n - j - 1 + r) + 1 by omega] at hI
  obtain ⟨k', XF, hk', hF⟩ := hdone hI hst
  exact ⟨k + k', XF, accL, T.trans hk hk', hout, hF⟩

end Scc.Backend.Track
