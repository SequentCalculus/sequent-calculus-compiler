/-
  Scc.RV.MemLemmas — the two control combinators of memory.rs (`skip_if_zero`,
  `if_zero_then_else`) and the reference-count operations built from them (`share_block_n`,
  `erase_block`) on the RV64 machine.

  Block semantics with FORWARD local labels (`execFwd`): like `execList`, but a jump to a label that
  is defined further down in the same block continues there; a jump to any other label leaves the
  block.  All jumps emitted by memory.rs are forward jumps to fresh labels, which is what the
  machine's `runLoop` does with them when the labels are unique in the text (C14-T3).
-/
import Scc.RV.Lemmas
import Scc.Backend.Proofs
import Std.Data.String.ToNat

set_option linter.unusedSimpArgs false

namespace Scc.RV

/-- the code after the first definition of label `l` -/
def skipTo (l : String) : List Code → Option (List Code)
  | [] => none
  | c :: cs =>
    match c with
    | .LAB l' => if l' = l then some cs else skipTo l cs
    | _ => skipTo l cs

theorem skipTo_length {l : String} : ∀ {cs r : List Code}, skipTo l cs = some r → r.length < cs.length
  | [], _, h => by simp [skipTo] at h
  | c :: cs, r, h => by
    cases c <;> simp only [skipTo] at h
    case LAB l' =>
      split at h
      · injection h with h; subst h; simp
      · have := skipTo_length h; simp; omega
    all_goals (have := skipTo_length h; simp; omega)

/-- straight-line execution with forward local labels (instruction addresses are irrelevant for
the code of memory.rs: it contains no `LA` and every `JAL` discards its link in `X0`) -/
def execFwd (cfg : MonCfg) (la : String → Option Nat) (code : List Code) (s : State) :
    Except String (State × Next) :=
  match code with
  | [] => .ok (s, .fall)
  | c :: cs =>
    match exec cfg la 0 c s with
    | .error e => .error e
    | .ok (s1, .fall) => execFwd cfg la cs s1
    | .ok (s1, .label l) =>
      match _h : skipTo l cs with
      | some rest => execFwd cfg la rest s1
      | none => .ok (s1, .label l)
    | .ok (s1, .addr a) => .ok (s1, .addr a)
termination_by code.length
decreasing_by
  · simp
  · have := skipTo_length _h; simp; omega

theorem skipTo_append (l : String) (b : List Code) : ∀ (a : List Code),
    skipTo l (a ++ b) = match skipTo l a with
      | some r => some (r ++ b)
      | none => skipTo l b
  | [] => by simp [skipTo]
  | c :: cs => by
    cases c <;> simp only [List.cons_append, skipTo, skipTo_append l b cs]
    case LAB l' => split <;> simp

variable (cfg : MonCfg) (la : String → Option Nat)

/-- how the continuation of a block is entered -/
def contFwd (b : List Code) : Except String (State × Next) → Except String (State × Next)
  | .error e => .error e
  | .ok (s', .fall) => execFwd cfg la b s'
  | .ok (s', .label l) =>
    match skipTo l b with
    | some rest => execFwd cfg la rest s'
    | none => .ok (s', .label l)
  | .ok (s', .addr x) => .ok (s', .addr x)

theorem execFwd_nil (s : State) : execFwd cfg la [] s = .ok (s, .fall) := by
  rw [execFwd]

theorem execFwd_cons (c : Code) (cs : List Code) (s : State) :
    execFwd cfg la (c :: cs) s = contFwd cfg la cs (exec cfg la 0 c s) := by
  rw [execFwd]
  cases h : exec cfg la 0 c s with
  | error e => simp [contFwd]
  | ok r =>
    obtain ⟨s1, n⟩ := r
    cases n with
    | fall => simp [contFwd]
    | addr a => simp [contFwd]
    | label l =>
      simp only [contFwd]
      split <;> rename_i h2 <;> simp [h2]

theorem execFwd_append (b : List Code) : ∀ (n : Nat) (a : List Code) (s : State), a.length ≤ n →
    execFwd cfg la (a ++ b) s = contFwd cfg la b (execFwd cfg la a s) := by
  intro n
  induction n with
  | zero =>
    intro a s h
    have : a = [] := List.eq_nil_of_length_eq_zero (Nat.le_zero.mp h)
    subst this
    simp [execFwd_nil, contFwd]
  | succ n ih =>
    intro a s h
    cases a with
    | nil => simp [execFwd_nil, contFwd]
    | cons c cs =>
      have hcs : cs.length ≤ n := by simpa using h
      rw [List.cons_append, execFwd_cons, execFwd_cons]
      cases hex : exec cfg la 0 c s with
      | error e => simp [contFwd]
      | ok r =>
        obtain ⟨s1, nx⟩ := r
        cases nx with
        | fall => simp only [contFwd]; exact ih cs s1 hcs
        | addr x => simp [contFwd]
        | label l =>
          simp only [contFwd, skipTo_append]
          cases hsk : skipTo l cs with
          | none => simp
          | some r =>
            have := skipTo_length hsk
            simp only
            exact ih r s1 (by omega)

theorem exec_BEQ_zero {x : Register} {l : String} {s : State} {v : Word} (hx : s.readReg x = .ok v) :
    exec cfg la 0 (.BEQ x ZERO l) s = .ok (s, if v = 0 then .label l else .fall) := by
  simp only [exec, branch, hx, readReg_zero]
  by_cases h : v = 0 <;> simp [h]

/-- memory.rs skip_if_zero: shape of the code -/
theorem skipIfZero_run (condition : Register) (toSkip : List Code) (c : Nat) :
    (skipIfZero condition toSkip).run c =
      .ok ([.BEQ condition ZERO (labName (c + 1))] ++ toSkip ++ [.LAB (labName (c + 1))], c + 1) := rfl

/-- memory.rs if_zero_then_else: shape of the code -/
theorem ifZeroThenElse_run (condition : Register) (thenBranch elseBranch : List Code) (c : Nat) :
    (ifZeroThenElse condition thenBranch elseBranch).run c =
      .ok ([.BEQ condition ZERO (labName (c + 1))] ++ elseBranch ++
        [.JAL ZERO (labName (c + 2)), .LAB (labName (c + 1))] ++ thenBranch ++
        [.LAB (labName (c + 2))], c + 2) := rfl

theorem labName_inj {m n : Nat} : labName m = labName n ↔ m = n := Scc.Backend.lab_toString_inj

/-- skip_if_zero, condition zero: nothing happens (the label is fresh for the skipped code) -/
theorem execFwd_skip_zero (cond : Register) (body : List Code) (l : String) (s : State)
    (hv : s.readReg cond = .ok 0) (hfresh : skipTo l body = none) :
    execFwd cfg la ([.BEQ cond ZERO l] ++ body ++ [.LAB l]) s = .ok (s, .fall) := by
  rw [List.append_assoc, List.singleton_append, execFwd_cons, exec_BEQ_zero cfg la hv]
  simp [contFwd, skipTo_append, hfresh, skipTo, execFwd_nil]

/-- skip_if_zero, condition non-zero: the code is executed -/
theorem execFwd_skip_nonzero (cond : Register) (body : List Code) (l : String) (s s' : State)
    (v : Word) (hv : s.readReg cond = .ok v) (hne : v ≠ 0)
    (hbody : execFwd cfg la body s = .ok (s', .fall)) :
    execFwd cfg la ([.BEQ cond ZERO l] ++ body ++ [.LAB l]) s = .ok (s', .fall) := by
  rw [List.append_assoc, List.singleton_append, execFwd_cons, exec_BEQ_zero cfg la hv]
  simp only [hne, if_false, contFwd]
  rw [execFwd_append cfg la _ body.length body s (Nat.le_refl _), hbody]
  simp only [contFwd]
  rw [execFwd_cons]
  simp [exec, contFwd, execFwd_nil]

/-- if_zero_then_else, condition zero: exactly the then-branch runs -/
theorem execFwd_ite_zero (cond : Register) (thenB elseB : List Code) (lt le : String)
    (s s' : State) (hv : s.readReg cond = .ok 0)
    (hfresh : skipTo lt elseB = none)
    (hthen : execFwd cfg la thenB s = .ok (s', .fall)) :
    execFwd cfg la ([.BEQ cond ZERO lt] ++ elseB ++ [.JAL ZERO le, .LAB lt] ++ thenB ++ [.LAB le]) s =
      .ok (s', .fall) := by
  simp only [List.append_assoc, List.singleton_append, List.cons_append, List.nil_append]
  rw [execFwd_cons, exec_BEQ_zero cfg la hv]
  simp only [if_true, contFwd, skipTo_append, hfresh]
  simp only [List.cons_append, List.nil_append, skipTo, if_true]
  rw [execFwd_append cfg la _ thenB.length thenB s (Nat.le_refl _), hthen]
  simp only [contFwd]
  rw [execFwd_cons]
  simp [exec, contFwd, execFwd_nil]

/-- if_zero_then_else, condition non-zero: exactly the else-branch runs (the two labels differ) -/
theorem execFwd_ite_nonzero (cond : Register) (thenB elseB : List Code) (lt le : String)
    (s s' : State) (v : Word) (hv : s.readReg cond = .ok v) (hne : v ≠ 0) (hlab : lt ≠ le)
    (hfresh : skipTo le thenB = none)
    (helse : execFwd cfg la elseB s = .ok (s', .fall)) :
    execFwd cfg la ([.BEQ cond ZERO lt] ++ elseB ++ [.JAL ZERO le, .LAB lt] ++ thenB ++ [.LAB le]) s =
      .ok (s', .fall) := by
  simp only [List.append_assoc, List.singleton_append, List.cons_append, List.nil_append]
  rw [execFwd_cons, exec_BEQ_zero cfg la hv]
  simp only [hne, if_false, contFwd]
  rw [execFwd_append cfg la _ elseB.length elseB s (Nat.le_refl _), helse]
  simp only [contFwd, List.cons_append, List.nil_append]
  rw [execFwd_cons]
  simp only [exec, writeReg_zero, contFwd, skipTo, hlab, if_false, skipTo_append, hfresh, if_true]
  simp [execFwd_nil]

/-- the effect of a store that passed the address check -/
def State.storeRaw (s : State) (a : Nat) (v : Word) : State :=
  { s with mem := s.mem.insert a v, maxHeapWritten := max s.maxHeapWritten (a + 8 - heapBase) }

theorem storeRaw_readReg (s : State) (a : Nat) (v : Word) (r : Register) :
    (s.storeRaw a v).readReg r = s.readReg r := rfl

theorem storeRaw_wf {s : State} (h : s.WF) (a : Nat) (v : Word) : (s.storeRaw a v).WF := h

theorem storeRaw_mem (s : State) (a : Nat) (v : Word) : (s.storeRaw a v).mem = s.mem.insert a v := rfl

theorem imm_zero : imm 0 = 0#64 := by simp [imm]

theorem exec_LW {x y : Register} {s : State} {b : Word} (c : Int) (hy : s.readReg y = .ok b)
    (hok : checkAddr cfg (b + imm c).toNat = .ok ()) :
    exec cfg la 0 (.LW x y c) s = .ok (s.writeReg x (s.mem.getD (b + imm c).toNat 0), .fall) := by
  simp only [exec, hy, State.load, hok]

theorem exec_SW {x y : Register} {s : State} {v b : Word} (c : Int) (hx : s.readReg x = .ok v)
    (hy : s.readReg y = .ok b) (hok : checkAddr cfg (b + imm c).toNat = .ok ()) :
    exec cfg la 0 (.SW x y c) s = .ok (s.storeRaw (b + imm c).toNat v, .fall) := by
  simp only [exec, hx, hy, State.store, hok, State.storeRaw]

theorem exec_COMMENT (m : String) (s : State) : exec cfg la 0 (.COMMENT m) s = .ok (s, .fall) := rfl

theorem exec_MV (x y : Register) (s : State) :
    exec cfg la 0 (.MV x y) s = .ok (s.copyReg x y, .fall) := rfl

/-! ## share_block_n (memory.rs): `if p ≠ 0 { [p + 0] += n }` -/

theorem shareBlockN_run (toShare : Register) (n c : Nat) :
    (shareBlockN toShare n).run c = .ok ([.BEQ toShare ZERO (labName (c + 1))] ++
      [.COMMENT "####increment refcount", .LW TEMP toShare referenceCountOffset,
       .ADDI TEMP TEMP (n : Int), .SW TEMP toShare referenceCountOffset] ++
      [.LAB (labName (c + 1))], c + 1) := rfl

theorem shareBlockN_null (r : Register) (n c : Nat) (s : State) (hr : s.readReg r = .ok 0) :
    ∃ code c', (shareBlockN r n).run c = .ok (code, c') ∧ execFwd cfg la code s = .ok (s, .fall) :=
  ⟨_, _, shareBlockN_run r n c, execFwd_skip_zero cfg la r _ _ s hr rfl⟩

/-- non-null pointer `p` to an accessible word: the count at `p` is increased by `n`; only
`TEMP` and that word change -/
theorem shareBlockN_spec (r : Register) (n c : Nat) (s : State) (hs : s.WF) (p : Word)
    (hr : s.readReg r = .ok p) (hp : p ≠ 0) (hrt : r.n ≠ TEMP.n)
    (hok : checkAddr cfg p.toNat = .ok ()) :
    ∃ code c' s', (shareBlockN r n).run c = .ok (code, c') ∧
      execFwd cfg la code s = .ok (s', .fall) ∧
      s'.mem = s.mem.insert p.toNat (s.mem.getD p.toNat 0 + imm (n : Int)) ∧
      (∀ x : Register, x.n ≠ TEMP.n → s'.readReg x = s.readReg x) ∧ s'.WF := by
  have haddr : (p + imm referenceCountOffset).toNat = p.toNat := by
    simp [referenceCountOffset, address, imm_zero]
  let cnt := s.mem.getD p.toNat 0
  let s1 := s.writeReg TEMP cnt
  let s2 := s1.writeReg TEMP (cnt + imm (n : Int))
  have hs1 : s1.WF := writeReg_wf hs _ _
  have hs2 : s2.WF := writeReg_wf hs1 _ _
  have h1t : s1.readReg TEMP = .ok cnt := readReg_writeReg_same hs temp_usable _
  have h2t : s2.readReg TEMP = .ok (cnt + imm (n : Int)) := readReg_writeReg_same hs1 temp_usable _
  have h2r : s2.readReg r = .ok p := by
    rw [readReg_writeReg_other s1 hrt, readReg_writeReg_other s hrt]; exact hr
  refine ⟨_, _, s2.storeRaw p.toNat (cnt + imm (n : Int)), shareBlockN_run r n c, ?_, ?_, ?_,
    storeRaw_wf hs2 _ _⟩
  · apply execFwd_skip_nonzero cfg la r _ _ s _ p hr hp
    rw [execFwd_cons, exec_COMMENT]; simp only [contFwd]
    rw [execFwd_cons, exec_LW cfg la _ hr (by rw [haddr]; exact hok), haddr]; simp only [contFwd]
    rw [execFwd_cons, exec_ADDI cfg la 0 _ h1t]; simp only [contFwd]
    rw [execFwd_cons, exec_SW cfg la _ h2t h2r (by rw [haddr]; exact hok), haddr]; simp only [contFwd]
    rw [execFwd_nil]
  · rw [storeRaw_mem, writeReg_mem, writeReg_mem]
  · intro x hx
    rw [storeRaw_readReg, readReg_writeReg_other s1 hx, readReg_writeReg_other s hx]

/-! ## erase_block (memory.rs):
`if p ≠ 0 { if [p + 0] = 0 { [p + 0] := FREE; FREE := p } else { [p + 0] -= 1 } }` -/

def eraseBlockCode (r : Register) (l1 l2 l3 : String) : List Code :=
  [.BEQ r ZERO l3] ++
    ([.COMMENT "######check refcount", .LW TEMP r referenceCountOffset] ++
      ([.BEQ TEMP ZERO l1] ++
        [.COMMENT "######either decrement refcount ...", .ADDI TEMP TEMP (-1),
         .SW TEMP r referenceCountOffset] ++
        [.JAL ZERO l2, .LAB l1] ++
        [.COMMENT "######... or add block to lazy free list", .SW FREE r nextElementOffset,
         .MV FREE r] ++
        [.LAB l2])) ++
    [.LAB l3]

theorem eraseBlock_run (r : Register) (c : Nat) :
    (eraseBlock r).run c =
      .ok (eraseBlockCode r (labName (c + 1)) (labName (c + 2)) (labName (c + 3)), c + 3) := rfl

theorem eraseBlock_null (r : Register) (c : Nat) (s : State) (hr : s.readReg r = .ok 0) :
    ∃ code c', (eraseBlock r).run c = .ok (code, c') ∧ execFwd cfg la code s = .ok (s, .fall) := by
  refine ⟨_, _, eraseBlock_run r c, ?_⟩
  unfold eraseBlockCode
  apply execFwd_skip_zero cfg la r _ _ s hr
  have h13 : labName (c + 1) ≠ labName (c + 3) := fun h => by have := labName_inj.mp h; omega
  have h23 : labName (c + 2) ≠ labName (c + 3) := fun h => by have := labName_inj.mp h; omega
  simp [skipTo, h13, h23]

theorem free_usable : FREE.Usable := ⟨by decide, by decide⟩

/-- non-null pointer whose count is zero: the block is pushed onto the lazy free list -/
theorem eraseBlock_spec_zero (r : Register) (c : Nat) (s : State) (hs : s.WF) (p f : Word)
    (hr : s.readReg r = .ok p) (hp : p ≠ 0) (hrt : r.n ≠ TEMP.n)
    (hf : s.readReg FREE = .ok f) (hok : checkAddr cfg p.toNat = .ok ())
    (hcnt : s.mem.getD p.toNat 0 = 0) :
    ∃ code c' s', (eraseBlock r).run c = .ok (code, c') ∧
      execFwd cfg la code s = .ok (s', .fall) ∧
      s'.mem = s.mem.insert p.toNat f ∧ s'.readReg FREE = .ok p ∧
      (∀ x : Register, x.n ≠ TEMP.n → x.n ≠ FREE.n → s'.readReg x = s.readReg x) ∧ s'.WF := by
  have haddr : (p + imm referenceCountOffset).toNat = p.toNat := by
    simp [referenceCountOffset, address, imm_zero]
  have haddr' : (p + imm nextElementOffset).toNat = p.toNat := by
    simp [nextElementOffset, address, imm_zero]
  have h12 : labName (c + 1) ≠ labName (c + 2) := fun h => by have := labName_inj.mp h; omega
  have hft : FREE.n ≠ TEMP.n := by decide
  let s1 := s.writeReg TEMP 0
  have hs1 : s1.WF := writeReg_wf hs _ _
  have h1t : s1.readReg TEMP = .ok 0 := readReg_writeReg_same hs temp_usable _
  have h1r : s1.readReg r = .ok p := by rw [readReg_writeReg_other s hrt]; exact hr
  have h1f : s1.readReg FREE = .ok f := by rw [readReg_writeReg_other s hft]; exact hf
  let s2 := s1.storeRaw p.toNat f
  have hs2 : s2.WF := storeRaw_wf hs1 _ _
  let s3 := s2.copyReg FREE r
  refine ⟨_, _, s3, eraseBlock_run r c, ?_, ?_, ?_, ?_, copyReg_wf hs2 _ _⟩
  · unfold eraseBlockCode
    apply execFwd_skip_nonzero cfg la r _ _ s _ p hr hp
    rw [List.cons_append, execFwd_cons, exec_COMMENT]; simp only [contFwd]
    rw [List.cons_append, execFwd_cons, exec_LW cfg la _ hr (by rw [haddr]; exact hok), haddr, hcnt]
    simp only [contFwd, List.nil_append]
    apply execFwd_ite_zero cfg la TEMP _ _ _ _ s1 s3 h1t (by simp [skipTo])
    rw [execFwd_cons, exec_COMMENT]; simp only [contFwd]
    rw [execFwd_cons, exec_SW cfg la _ h1f h1r (by rw [haddr']; exact hok), haddr']; simp only [contFwd]
    rw [execFwd_cons, exec_MV]; simp only [contFwd]
    rw [execFwd_nil]
  · simp only [s3, s2, s1, copyReg_mem, storeRaw_mem, writeReg_mem]
  · exact readReg_copyReg_same hs2 free_usable (by rw [storeRaw_readReg]; exact h1r)
  · intro x hxt hxf
    simp only [s3, s2, s1]
    rw [readReg_copyReg_other _ hxf, storeRaw_readReg, readReg_writeReg_other s hxt]

/-- non-null pointer whose count is not zero: the count is decremented -/
theorem eraseBlock_spec_nonzero (r : Register) (c : Nat) (s : State) (hs : s.WF) (p : Word)
    (hr : s.readReg r = .ok p) (hp : p ≠ 0) (hrt : r.n ≠ TEMP.n)
    (hok : checkAddr cfg p.toNat = .ok ()) (hcnt : s.mem.getD p.toNat 0 ≠ 0) :
    ∃ code c' s', (eraseBlock r).run c = .ok (code, c') ∧
      execFwd cfg la code s = .ok (s', .fall) ∧
      s'.mem = s.mem.insert p.toNat (s.mem.getD p.toNat 0 + imm (-1)) ∧
      (∀ x : Register, x.n ≠ TEMP.n → s'.readReg x = s.readReg x) ∧ s'.WF := by
  have haddr : (p + imm referenceCountOffset).toNat = p.toNat := by
    simp [referenceCountOffset, address, imm_zero]
  have h12 : labName (c + 1) ≠ labName (c + 2) := fun h => by have := labName_inj.mp h; omega
  let cnt := s.mem.getD p.toNat 0
  let s1 := s.writeReg TEMP cnt
  let s2 := s1.writeReg TEMP (cnt + imm (-1))
  have hs1 : s1.WF := writeReg_wf hs _ _
  have hs2 : s2.WF := writeReg_wf hs1 _ _
  have h1t : s1.readReg TEMP = .ok cnt := readReg_writeReg_same hs temp_usable _
  have h2t : s2.readReg TEMP = .ok (cnt + imm (-1)) := readReg_writeReg_same hs1 temp_usable _
  have h2r : s2.readReg r = .ok p := by
    rw [readReg_writeReg_other s1 hrt, readReg_writeReg_other s hrt]; exact hr
  refine ⟨_, _, s2.storeRaw p.toNat (cnt + imm (-1)), eraseBlock_run r c, ?_, ?_, ?_,
    storeRaw_wf hs2 _ _⟩
  · unfold eraseBlockCode
    apply execFwd_skip_nonzero cfg la r _ _ s _ p hr hp
    rw [List.cons_append, execFwd_cons, exec_COMMENT]; simp only [contFwd]
    rw [List.cons_append, execFwd_cons, exec_LW cfg la _ hr (by rw [haddr]; exact hok), haddr]
    simp only [contFwd, List.nil_append]
    apply execFwd_ite_nonzero cfg la TEMP _ _ _ _ s1 _ cnt h1t hcnt h12 (by simp [skipTo])
    rw [execFwd_cons, exec_COMMENT]; simp only [contFwd]
    rw [execFwd_cons, exec_ADDI cfg la 0 _ h1t]; simp only [contFwd]
    rw [execFwd_cons, exec_SW cfg la _ h2t h2r (by rw [haddr]; exact hok), haddr]; simp only [contFwd]
    rw [execFwd_nil]
  · rw [storeRaw_mem, writeReg_mem, writeReg_mem]
  · intro x hx
    rw [storeRaw_readReg, readReg_writeReg_other s1 hx, readReg_writeReg_other s hx]

end Scc.RV
