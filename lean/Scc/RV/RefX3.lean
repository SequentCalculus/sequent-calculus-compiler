/-
  Scc.RV.RefX3 — basic facts about the relation `X3R` (RefDefs.lean): it does not look at the program
  counter / step counter of the machine nor at the abstract program counter, it depends on the context only
  through its kinds; what a change of registers (`Keep`) preserves of it; how the registers of positions are read.
-/
import Scc.RV.RefTr
import Scc.Backend.ThreeWay
import Scc.RV.RefBridge
import Scc.Heap.RefineHRef
import Scc.Backend.ProofsRoots
import Scc.Backend.ProofsAbsJump
import Scc.Backend.ProofsRep2
import Scc.Backend.ProofsSim2
import Scc.Backend.ProofsSim
import Scc.Backend.ProofsSubstRoots

set_option linter.unusedSimpArgs false

namespace Scc.RV.Ref

open Scc.AxCut Scc.Backend Scc.Backend.Abs Scc.Backend.Sim
open Scc.Heap (HState InvS InvW)
open Scc.Heap.Refine (HRef imgW fieldImg kindB href_head_lt href_root_mem)

/-- `imgWord` is the generic `ThreeWay.imgWord` (the same definition) -/
theorem imgWord_toNat {ι : Nat → Nat} {r : Word} (h : r ≠ 0 → ι r.toNat < 2 ^ 64) :
    (imgWord ι r).toNat = imgW ι r := ThreeWay.imgWord_toNat h

theorem mview_setPS (st : State) (pc k : Nat) : mview (setPS st pc k) = mview st := rfl

theorem readReg_of_val {st : State} {r : Register} {v : Word} (h0 : r.n ≠ 0)
    (h : (mview st).val r.n = some v) : st.readReg r = .ok v := by
  unfold State.readReg
  rw [if_neg h0]
  simp only [mview] at h
  cases hv : st.regs[r.n]? with
  | none => simp [hv] at h
  | some o =>
    cases o with
    | none => simp [hv] at h
    | some w => simp [hv] at h; simp [h]

theorem readReg_of_rv {st : State} {t : Nat} {v : Word} (h : rv st t = some v) :
    st.readReg (posTemp t) = .ok v :=
  readReg_of_val (by simp [posReg]) h

theorem rv_of_readReg {st : State} {t : Nat} {v : Word} (h : st.readReg (posTemp t) = .ok v) :
    rv st t = some v :=
  mview_val_of_readReg (by simp [posReg]) h

theorem rv_of_regs {st st' : State} {ch : Nat → Prop}
    (hregs : ∀ r, 1 ≤ r → r < 32 → ¬ ch r → st'.regs[r]? = st.regs[r]?) {t : Nat} (ht : t < 28)
    (h : ¬ ch (posReg t)) : rv st' t = rv st t := by
  unfold Ref.rv mview
  simp only
  rw [hregs (posReg t) (by unfold posReg; omega) (by unfold posReg; omega) h]

/-- what a change of registers leaves alone (`FrameR`, MemProofsView.lean, is the frame of the memory operations,
which fixes the program counter and the step counter too; `ThreeWay.Keep` speaks of positions) -/
structure Keep (st st' : State) (changed : Nat → Prop) : Prop where
  wf : st'.WF
  mem : st'.mem = st.mem
  regs : ∀ r, 1 ≤ r → r < 32 → ¬ changed r → st'.regs[r]? = st.regs[r]?

theorem Keep.readReg {st st' : State} {ch : Nat → Prop} (K : Keep st st' ch) (r : Register)
    (h : ¬ ch r.n) (h32 : r.n < 32) : st'.readReg r = st.readReg r := readReg_of_regs K.regs r h h32

theorem Keep.heapRel {mc : MonCfg} {st st' : State} {ch : Nat → Prop} {hs : HState} (K : Keep st st' ch)
    (R : HeapRel mc st hs) (h2 : ¬ ch 2) (h3 : ¬ ch 3) : HeapRel mc st' hs := by
  refine ⟨R.base, R.limit, fun a => by rw [K.mem]; exact R.mem a, ?_, ?_⟩
  · obtain ⟨w, hw, e⟩ := R.heap
    exact ⟨w, by rw [K.readReg HEAP h2 (by decide)]; exact hw, e⟩
  · obtain ⟨w, hw, e⟩ := R.free
    exact ⟨w, by rw [K.readReg FREE h3 (by decide)]; exact hw, e⟩

theorem Keep.trans {s1 s2 s3 : State} {c1 c2 : Nat → Prop} (K1 : Keep s1 s2 c1) (K2 : Keep s2 s3 c2) :
    Keep s1 s3 (fun u => c1 u ∨ c2 u) :=
  ⟨K2.wf, K2.mem.trans K1.mem, fun r h1 h2 hc => by
    rw [K2.regs r h1 h2 (fun h => hc (Or.inr h)), K1.regs r h1 h2 (fun h => hc (Or.inl h))]⟩

theorem Keep.setPS {st st' : State} {ch : Nat → Prop} (K : Keep st st' ch) (pc k : Nat) :
    Keep st (setPS st' pc k) ch := ⟨K.wf, K.mem, K.regs⟩

theorem keep_writeReg {st : State} (hwf : st.WF) (r : Register) (v : Word) :
    Keep st (st.writeReg r v) (fun u => u = r.n) := by
  refine ⟨writeReg_wf hwf r v, writeReg_mem st r v, fun u h1 h2 hne => ?_⟩
  unfold State.writeReg
  split
  · rfl
  · simp only
    rw [Array.getElem?_setIfInBounds]
    have : ¬ r.n = u := fun e => hne e.symm
    simp [this]

theorem keep_copyReg {st : State} (hwf : st.WF) (x y : Register) :
    Keep st (st.copyReg x y) (fun u => u = x.n) := by
  refine ⟨copyReg_wf hwf x y, copyReg_mem st x y, fun u h1 h2 hne => ?_⟩
  have hxu : ¬ x.n = u := fun e => hne e.symm
  unfold State.copyReg
  split
  · rfl
  · split
    · simp only; rw [Array.getElem?_setIfInBounds]; simp [hxu]
    · simp only; rw [Array.getElem?_setIfInBounds]; simp [hxu]

theorem rv_writeReg_same {st : State} (hwf : st.WF) {t : Nat} (ht : t < 28) (v : Word) :
    rv (st.writeReg (posTemp t) v) t = some v := by
  apply rv_of_readReg
  exact readReg_writeReg_same hwf ⟨by simp [posReg], by simp [posReg, registerNum]; omega⟩ v

/-- `MV`: the target gets the content of the source, defined or not -/
theorem val_copyReg_same {st : State} (hwf : st.WF) {x y : Register} (hx1 : 1 ≤ x.n) (hx2 : x.n < 32)
    (hy1 : 1 ≤ y.n) (hy2 : y.n < 32) : (mview (st.copyReg x y)).val x.n = (mview st).val y.n := by
  have := (MRep.copyReg (mrep_mview hwf) hx1 hx2 hy2).1
  have h1 := this.vals x.n hx1 hx2
  simp only [MState.setT_val, if_true] at h1
  simp only [mview]
  rw [h1]
  simp only [Option.join_some]
  rw [MState.rd_of hy1 hy2]
  rfl

theorem heapRel_setPS {mc : MonCfg} {st : State} {hs : HState} (R : HeapRel mc st hs) (pc k : Nat) :
    HeapRel mc (setPS st pc k) hs := ⟨R.base, R.limit, R.mem, R.heap, R.free⟩

variable {mc : MonCfg} {cw : Nat → Word} {τ : Nat → Nat → Word}

theorem X3R.setPS {Γ : Ctx} {cfg : Config} {rs : List Nat} {hs : HState} {ι : Nat → Nat}
    {st : State} (X : X3R mc cw τ Γ cfg rs hs ι st) (pc k : Nat) : X3R mc cw τ Γ cfg rs hs ι (setPS st pc k) :=
  ⟨⟨X.bnd.wf, X.bnd.top⟩, X.cap, X.words, X.ptrs, heapRel_setPS X.hrel pc k, X.href⟩

theorem X3R.setPc {Γ : Ctx} {cfg : Config} {rs : List Nat} {hs : HState} {ι : Nat → Nat}
    {st : State} (X : X3R mc cw τ Γ cfg rs hs ι st) (pc : Nat) : X3R mc cw τ Γ { cfg with pc := pc } rs hs ι st :=
  ⟨X.bnd, X.cap, X.words, X.ptrs, X.hrel, X.href⟩

/-- a change of registers other than those of the context, HEAP and FREE keeps the relation -/
theorem X3R.keep {Γ : Ctx} {cfg : Config} {rs : List Nat} {hs : HState} {ι : Nat → Nat} {st st' : State}
    {ch : Nat → Prop} (X : X3R mc cw τ Γ cfg rs hs ι st) (K : Keep st st' ch)
    (hch : ∀ t, t < 2 * Γ.length → ¬ ch (posReg t)) (h2 : ¬ ch 2) (h3 : ¬ ch 3) :
    X3R mc cw τ Γ cfg rs hs ι st' := by
  have hcap := X.cap
  refine ⟨⟨K.wf, X.bnd.top⟩, X.cap, ?_, ?_, K.heapRel X.hrel h2 h3, X.href⟩
  · intro i hi a ha
    rw [rv_of_regs K.regs (by omega) (hch _ (by omega))]
    exact X.words i hi a ha
  · intro i hi hc r hr
    rw [rv_of_regs K.regs (by omega) (hch _ (by omega))]
    exact X.ptrs i hi hc r hr

/-- the relation does not look at the abstract program counter, `TEMP`, or temporaries beyond the context -/
theorem X3.absCongr {Γ : Ctx} {cfg cfg' : Config} {hs : HState} {ι : Nat → Nat} {st : State}
    (X : X3 mc cw τ Γ cfg hs ι st) (ht : ∀ t, t < 2 * Γ.length → cfg'.temps.get t = cfg.temps.get t)
    (hh : cfg'.heap = cfg.heap) (hn : cfg'.next = cfg.next) : X3 mc cw τ Γ cfg' hs ι st := by
  refine ⟨X.bnd, X.cap, ?_, ?_, X.hrel, ?_⟩
  · intro i hi a ha
    rw [ht _ (by omega)] at ha
    exact X.words i hi a ha
  · intro i hi hc r hr
    rw [ht _ (by omega)] at hr
    exact X.ptrs i hi hc r hr
  · rw [hh, hn, roots_congr _ _ _ (fun i hi => ht (2 * i) (by omega))]
    exact X.href

theorem X3.ctxCongr {Γ Δ : Ctx} {cfg : Config} {hs : HState} {ι : Nat → Nat} {st : State}
    (X : X3 mc cw τ Γ cfg hs ι st) (hc : Γ.map (·.chi) = Δ.map (·.chi)) : X3 mc cw τ Δ cfg hs ι st := by
  have hlen : Γ.length = Δ.length := by simpa using congrArg List.length hc
  have hchi : ∀ i (h1 : i < Γ.length) (h2 : i < Δ.length), Δ[i].chi = Γ[i].chi := by
    intro i h1 h2
    have := congrArg (fun l => l[i]?) hc
    simp only [List.getElem?_map, List.getElem?_eq_getElem h1, List.getElem?_eq_getElem h2,
      Option.map_some, Option.some.injEq] at this
    exact this.symm
  refine ⟨X.bnd, by rw [← hlen]; exact X.cap, ?_, ?_, X.hrel, ?_⟩
  · intro i hi a ha
    rw [hchi i (by omega) hi]
    exact X.words i (by omega) a ha
  · intro i hi hcx r hr
    exact X.ptrs i (by omega) (by rw [← hchi i (by omega) hi]; exact hcx) r hr
  · have : roots Δ cfg.temps = roots Γ cfg.temps := by
      unfold roots
      exact (roots_go_chi _ Γ Δ 0 hc).symm
    rw [this]
    exact X.href

theorem hook_comments (hooks : Bool) (Γ : Ctx) (m : String) :
    ∀ y ∈ hookCode rvBackend hooks Γ ++ [rvBackend.comment m], ∃ m', y = Code.COMMENT m' := by
  intro y hy
  unfold hookCode at hy
  cases hooks <;> simp at hy
  · exact ⟨_, hy⟩
  · rcases hy with rfl | rfl <;> exact ⟨_, rfl⟩

end Scc.RV.Ref
