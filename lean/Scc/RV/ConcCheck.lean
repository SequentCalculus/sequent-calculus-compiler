/-
  Scc.RV.ConcCheck — the EXECUTABLE heap monitor of the RV64 SPEC machine (`heapMonitor`, Scc/RV/Machine.lean)
  succeeds wherever its predicate holds: `HeapInvAt` (ConcInv.lean) for the full heap region, plus the monitor's window (the
  monitor checks the invariant for the region up to 8 blocks above the highest block ever stored to:
  `limit = heapBase + min heapBytes (⌈maxHeapWritten/64⌉·64 + 512)`).  From the COMPLETENESS of `invCheckFn`
  (Scc/Heap/ProofsCheckComplete.lean).

  Everything is proved for `heapMonitorG base`, the monitor with the heap base as a PARAMETER, and transferred by
  `heapMonitor_eqG` (the last section of Scc/RV/ConcStep.lean says why).
-/
import Scc.RV.ConcC10
import Scc.X86.ConcCheck

namespace Scc.RV.Conc

open Scc.AxCut Scc.Backend
open Scc.Heap (InvW invCheckFn_complete)
open Scc.X86.Conc (invW_window ctxKinds)

theorem heapMonitorG_ok {base : Nat} {mc : MonCfg} {X : State} {rs : List Nat} {roots : List Word} {h f : Word}
    {lin lazy live : List Nat} {F : Nat}
    (hr : rs.mapM (fun r => X.readReg ⟨r⟩) = .ok roots)
    (hh : X.readReg HEAP = .ok h) (hf : X.readReg FREE = .ok f)
    (I : InvW (memFn X) base (base + mc.heapBytes) h.toNat f.toNat
      (roots.map (·.toNat)) [] lin lazy live F)
    (hw : F + 64 ≤ base + ((X.maxHeapWritten + 63) / 64 * 64 + 8 * 64)) :
    heapMonitorG base mc X rs = .ok { X with blocksBelow := max X.blocksBelow ((F - base) / blockBytes) } := by
  have hFr := I.frontier_room
  have I' := invW_window (limit' := base + min mc.heapBytes ((X.maxHeapWritten + 63) / 64 * 64 + 8 * 64))
    I (by have := Nat.min_le_left mc.heapBytes ((X.maxHeapWritten + 63) / 64 * 64 + 8 * 64); omega)
    (by
      rcases Nat.le_total mc.heapBytes ((X.maxHeapWritten + 63) / 64 * 64 + 8 * 64) with h1 | h1
      · rw [Nat.min_eq_left h1]; exact hFr
      · rw [Nat.min_eq_right h1]; exact hw)
  obtain ⟨live', hc, _⟩ := invCheckFn_complete I'
  unfold heapMonitorG
  rw [hr]
  simp only [hh, hf]
  have hc' : Scc.Heap.invCheckFn (fun a => (X.mem.getD a 0).toNat) base
      (base + min mc.heapBytes ((X.maxHeapWritten + 63) / 64 * 64 + 8 * 64)) h.toNat f.toNat
      (roots.map (·.toNat)) [] = .ok (lin, lazy, live', F) := hc
  rw [hc']

/-- THE MONITOR'S CHECK SUCCEEDS where the invariant holds and the frontier lies inside the monitor's window; it
records the number of blocks below the frontier -/
theorem heapMonitor_ok {mc : MonCfg} {X : State} {rs : List Nat} {roots : List Word} {h f : Word}
    {lin lazy live : List Nat} {F : Nat}
    (hr : rs.mapM (fun r => X.readReg ⟨r⟩) = .ok roots)
    (hh : X.readReg HEAP = .ok h) (hf : X.readReg FREE = .ok f)
    (I : InvW (memFn X) heapBase (heapBase + mc.heapBytes) h.toNat f.toNat
      (roots.map (·.toNat)) [] lin lazy live F)
    (hw : F + 64 ≤ heapBase + ((X.maxHeapWritten + 63) / 64 * 64 + 8 * 64)) :
    heapMonitor mc X rs = .ok { X with blocksBelow := max X.blocksBelow ((F - heapBase) / blockBytes) } := by
  rw [heapMonitor_eqG]
  exact heapMonitorG_ok hr hh hf I hw

/-- THE EXECUTABLE HEAP MONITOR SUCCEEDS AT EVERY STATEMENT BOUNDARY (inside its window), all programs: run with
the roots of the kinds of the boundary's context, it returns the state with the monitor's counter raised to the
number of blocks below the frontier -/
theorem heapMonitor_boundary {p : AxCut.Prog} {hooks : Bool} {ks : List Code} {ops : List MockOp}
    {mc : MonCfg} {st : Pos.State} {X : State} (B : BoundaryOf p hooks ks ops mc st X) :
    ∃ below inUse, HeapShapeAt mc X below inUse ∧
      (64 * below + 64 ≤ (X.maxHeapWritten + 63) / 64 * 64 + 8 * 64 →
        heapMonitor mc X (hookRoots (ctxKinds st.ctx)) = .ok { X with blocksBelow := max X.blocksBelow below }) := by
  obtain ⟨roots, h, f, lin, lazy, live, F, hr, hh, hf, I⟩ := heapInvAt_of_boundary B
  refine ⟨(F - heapBase) / 64, live.length, ⟨h, f, _, lin, lazy, live, F, hh, hf, I, rfl, rfl⟩, ?_⟩
  intro hw
  apply heapMonitor_ok hr hh hf I
  have hFb := I.frontier_block
  unfold Scc.Heap.IsBlock at hFb
  omega

end Scc.RV.Conc
