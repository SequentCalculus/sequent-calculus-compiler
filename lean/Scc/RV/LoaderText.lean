/-
  Scc.RV.LoaderText — the loader `parseText` (Scc/RV/Machine.lean) on the text of a whole routine printed by
  `intoRoutine` (Scc/RV/Backend.lean: `into_rv64_routine`): for text-safe items (`CodeOK`, the proof side of the
  decidable `itemTextOK`, Scc/RV/LoaderCheck.lean: `codeOK_of_itemTextOK`) it returns the items with their line numbers
  (`parseText_intoRoutine`; a comment loses its trailing white space, a label takes two lines) — PROVIDED the
  routine is empty or starts with a label (`HeadLabel`).  `into_rv64_routine` glues the header comment
  `// actual code` and the first printed item together WITHOUT a line break; only because a label is printed with a
  leading line break does the first item stand on a line of its own (`intoRoutine_lines`).  Without `HeadLabel` the
  first item is swallowed by the comment (`parseText_swallow`; Props/C14LoaderRV.lean).
  `textLoads`: the three facts the run theorems need of the text.
-/
import Scc.RV.LoaderInstr
import Scc.RV.Backend

namespace Scc.RV.Loader

open Scc.RV.Ref Scc.Str

set_option linter.unusedSimpArgs false

def NoNL (s : String) : Prop := '\n' ∉ s.toList

/-- a comment as the loader reads it is not a malformed hook -/
def HookOK (m : String) : Prop := parseHookL (rtrimList m.toList) ≠ some none

/-- text-safety of one item: its registers exist, the label it refers to and the label it defines are readable, its
comment has no line break and is no malformed hook -/
structure CodeOK (c : Code) : Prop where
  regs : RegsOK c
  ref : ∀ l, c.labelRef? = some l → LabelOK l
  lab : ∀ l, c = .LAB l → LabelDefOK l
  com : ∀ m, c = .COMMENT m → NoNL m ∧ HookOK m

def codeLines : Code → List String
  | .LAB l => ["", l ++ ":"]
  | c => [printCode c]

/-- what the loader reads the lines of an item as (`none` = a blank line, skipped) -/
def codeParsed : Code → List (Option Code)
  | .LAB l => [none, some (.LAB l)]
  | c => [some (parsedCode c)]

theorem codeLines_ne_nil (c : Code) : codeLines c ≠ [] := by cases c <;> simp [codeLines]

theorem printCode_lines (c : Code) : printCode c = "\n".intercalate (codeLines c) := by
  cases c with
  | LAB l =>
    rw [printCode_LAB]
    apply String.ext
    simp [codeLines, String.toList_intercalate, String.toList_append]
  | _ =>
    apply String.ext
    simp [codeLines, String.toList_intercalate]

theorem parse_codeLines (c : Code) (h : CodeOK c) :
    (codeLines c).map parseLine = (codeParsed c).map some ∧ ∀ l ∈ codeLines c, '\n' ∉ l.toList := by
  by_cases hi : c.isInstr = true
  · have hr := reads_instr c hi h.regs h.ref
    have e1 : codeLines c = [printCode c] := by cases c <;> first | rfl | cases hi
    have e2 : codeParsed c = [some c] := by cases c <;> first | rfl | cases hi
    rw [e1, e2]
    refine ⟨by simp [hr.1], ?_⟩
    intro l hl
    simp only [List.mem_singleton] at hl
    subst hl; exact hr.2
  · cases c with
    | LAB l =>
      have hl := h.lab l rfl
      refine ⟨by simp [codeLines, codeParsed, parseLine_empty, parseLine_label hl], ?_⟩
      intro x hx
      simp only [codeLines, List.mem_cons, List.not_mem_nil, or_false] at hx
      rcases hx with rfl | rfl
      · simp
      · exact label_no_nl hl
    | COMMENT m =>
      have hm := h.com m rfl
      refine ⟨by simp [codeLines, codeParsed, printCode_COMMENT, parseLine_comment, parsedCode], ?_⟩
      intro x hx
      simp only [codeLines, List.mem_singleton] at hx
      subst hx
      rw [printCode_COMMENT, String.toList_append]
      intro hmem
      simp only [List.mem_append] at hmem
      rcases hmem with hmem | hmem
      · revert hmem; decide
      · exact hm.1 hmem
    | _ => exact absurd rfl hi

/-- the read lines with their numbers: every line counts, blank lines are dropped -/
def numberOpt : Nat → List (Option Code) → List (Nat × Code)
  | _, [] => []
  | n, none :: rs => numberOpt (n + 1) rs
  | n, some c :: rs => (n, c) :: numberOpt (n + 1) rs

theorem map_snd_numberOpt (n : Nat) (rs : List (Option Code)) :
    (numberOpt n rs).map (·.2) = rs.filterMap id := by
  induction rs generalizing n with
  | nil => rfl
  | cons r rs ih =>
    cases r with
    | none => simp [numberOpt, ih]
    | some c => simp [numberOpt, ih]

theorem numberOpt_lines (n : Nat) (rs : List (Option Code)) :
    ∀ x ∈ numberOpt n rs, n ≤ x.1 ∧ x.1 < n + rs.length := by
  induction rs generalizing n with
  | nil => intro x hx; simp [numberOpt] at hx
  | cons r rs ih =>
    intro x hx
    cases r with
    | none =>
      simp only [numberOpt] at hx
      have := ih (n + 1) x hx
      simp only [List.length_cons]; omega
    | some c =>
      simp only [numberOpt, List.mem_cons] at hx
      rcases hx with rfl | hx
      · simp
      · have := ih (n + 1) x hx
        simp only [List.length_cons]; omega

theorem parseLines_of (lines : List String) (rs : List (Option Code))
    (h : lines.map parseLine = rs.map some) : ∀ n, parseLines n lines = .ok (numberOpt n rs) := by
  induction lines generalizing rs with
  | nil =>
    intro n
    cases rs with
    | nil => rfl
    | cons _ _ => simp at h
  | cons l ls ih =>
    intro n
    cases rs with
    | nil => simp at h
    | cons r rs =>
      simp only [List.map_cons, List.cons.injEq] at h
      rw [parseLines]
      cases r with
      | none => simp only [h.1, numberOpt]; exact ih rs h.2 (n + 1)
      | some c => simp only [h.1, numberOpt, ih rs h.2 (n + 1)]

def HeadLabel (instrs : List Code) : Prop := instrs = [] ∨ ∃ l rest, instrs = .LAB l :: rest

def routineLines (instrs : List Code) : List String :=
  "// actual code" :: ((instrs.flatMap codeLines).drop 1 ++ ["", "cleanup:"])

def routineParsed (instrs : List Code) : List (Option Code) :=
  some (.COMMENT "actual code") :: ((instrs.flatMap codeParsed).drop 1 ++ [none, some (.LAB "cleanup")])

theorem toList_intoRoutine (instrs : List Code) :
    (intoRoutine instrs).toList
      = "// actual code".toList ++ ['\n'].intercalate ((instrs.map printCode).map String.toList)
        ++ ['\n', '\n'] ++ "cleanup:".toList := by
  unfold intoRoutine
  simp only [String.toList_intercalate, String.toList_append, List.map_cons, List.map_nil]
  rw [List.intercalate_cons_cons, List.intercalate_singleton]
  simp

theorem intercalate_printed (instrs : List Code) :
    ['\n'].intercalate ((instrs.map printCode).map String.toList)
      = ['\n'].intercalate ((instrs.flatMap codeLines).map String.toList) := by
  have e1 : (instrs.map printCode).map String.toList
      = (instrs.map (fun c => (codeLines c).map String.toList)).map (fun l => ['\n'].intercalate l) := by
    rw [List.map_map, List.map_map]
    apply List.map_congr_left
    intro c _
    simp only [Function.comp]
    rw [printCode_lines c, String.toList_intercalate]; rfl
  rw [e1, intercalate_flatten ['\n'] _ (by
    intro l hl
    obtain ⟨c, _, rfl⟩ := List.mem_map.1 hl
    have := codeLines_ne_nil c
    cases hc : codeLines c with
    | nil => exact absurd hc this
    | cons _ _ => simp)]
  congr 1
  simp [List.flatMap, List.map_flatten, List.map_map, Function.comp_def]

/-- the text of a routine that starts with a label (or is empty) is its lines joined by line breaks -/
theorem intoRoutine_lines {instrs : List Code} (h : HeadLabel instrs) :
    intoRoutine instrs = "\n".intercalate (routineLines instrs) := by
  apply String.ext
  have hn : "\n".toList = ['\n'] := rfl
  rw [toList_intoRoutine, intercalate_printed, String.toList_intercalate, hn]
  unfold routineLines
  rcases h with rfl | ⟨l, rest, rfl⟩
  · simp [List.intercalate_cons_cons, List.intercalate_singleton, intercalate_nil']
  · have e : (Code.LAB l :: rest).flatMap codeLines = "" :: (l ++ ":") :: rest.flatMap codeLines := by
      simp [List.flatMap_cons, codeLines]
    rw [e]
    simp only [List.drop_succ_cons, List.drop_zero, List.map_cons, List.map_append, List.map_nil,
      List.cons_append]
    rw [List.intercalate_cons_cons, List.intercalate_cons_cons (l := "// actual code".toList)]
    have hne : ((l ++ ":").toList :: List.map String.toList (List.flatMap codeLines rest)) ≠ [] := by simp
    have hsplit := intercalate_append ['\n'] ((l ++ ":").toList :: List.map String.toList (List.flatMap codeLines rest))
      ["".toList, "cleanup:".toList] hne (by simp)
    simp only [List.cons_append] at hsplit
    rw [hsplit, List.intercalate_cons_cons, List.intercalate_singleton]
    simp

theorem splitOn_intoRoutine {instrs : List Code} (h : HeadLabel instrs)
    (hnl : ∀ l ∈ routineLines instrs, '\n' ∉ l.toList) :
    (intoRoutine instrs).splitOn "\n" = routineLines instrs := by
  rw [intoRoutine_lines h]
  unfold routineLines at hnl ⊢
  exact splitOn_newline_intercalate _ _ hnl

theorem map_parseLine_flatMap (cs : List Code) (h : ∀ c ∈ cs, CodeOK c) :
    (cs.flatMap codeLines).map parseLine = (cs.flatMap codeParsed).map some := by
  induction cs with
  | nil => rfl
  | cons c cs ih =>
    simp only [List.flatMap_cons, List.map_append]
    rw [(parse_codeLines c (h c (by simp))).1, ih (fun x hx => h x (by simp [hx]))]

theorem rtrimS_actual : rtrimS "actual code" = "actual code" := by
  unfold rtrimS
  rw [ofList_eq_iff]
  decide

theorem parseLine_header : parseLine "// actual code" = some (some (.COMMENT "actual code")) := by
  have := parseLine_comment "actual code"
  rw [rtrimS_actual] at this
  exact this

theorem labelDefOK_cleanup : LabelDefOK "cleanup" := ⟨tok_of_check (by decide), noSlash_of_head (by decide)⟩

theorem parseLine_cleanup : parseLine "cleanup:" = some (some (.LAB "cleanup")) := by
  have e : ("cleanup:" : String) = "cleanup" ++ ":" := by
    apply String.ext; rw [String.toList_append]; rfl
  rw [e]
  exact parseLine_label labelDefOK_cleanup

theorem routineLines_parse (instrs : List Code) (h : ∀ c ∈ instrs, CodeOK c) :
    (routineLines instrs).map parseLine = (routineParsed instrs).map some := by
  unfold routineLines routineParsed
  simp only [List.map_cons, List.map_append, List.map_nil, parseLine_header, parseLine_empty, parseLine_cleanup,
    List.map_drop, map_parseLine_flatMap instrs h]

theorem routineLines_no_nl (instrs : List Code) (h : ∀ c ∈ instrs, CodeOK c) :
    ∀ l ∈ routineLines instrs, '\n' ∉ l.toList := by
  intro l hl
  unfold routineLines at hl
  simp only [List.mem_cons, List.mem_append, List.not_mem_nil, or_false] at hl
  rcases hl with rfl | hl | rfl | rfl
  · decide
  · obtain ⟨c, hc, hlc⟩ := List.mem_flatMap.1 (List.mem_of_mem_drop hl)
    exact (parse_codeLines c (h c hc)).2 l hlc
  · simp
  · decide

/-- **THE ROUND TRIP**: the loader reads the text of a text-safe routine that starts with a label as its
    items, with their line numbers -/
theorem parseText_intoRoutine (instrs : List Code) (hh : HeadLabel instrs) (h : ∀ c ∈ instrs, CodeOK c) :
    parseText (intoRoutine instrs) = .ok (numberOpt 1 (routineParsed instrs)) := by
  unfold parseText
  rw [splitOn_intoRoutine hh (routineLines_no_nl instrs h)]
  exact parseLines_of _ _ (routineLines_parse instrs h) 1

theorem filterMap_codeParsed (cs : List Code) : (cs.flatMap codeParsed).filterMap id = cs.map parsedCode := by
  induction cs with
  | nil => rfl
  | cons c cs ih =>
    rw [List.flatMap_cons, List.filterMap_append, ih]
    cases c <;> rfl

/-- the read items: the header comment, the items of the routine, the label `cleanup` -/
theorem routine_codes {instrs : List Code} (hh : HeadLabel instrs) :
    (numberOpt 1 (routineParsed instrs)).map (·.2)
      = [Code.COMMENT "actual code"] ++ instrs.map parsedCode ++ [Code.LAB "cleanup"] := by
  rw [map_snd_numberOpt]
  unfold routineParsed
  have key : ((instrs.flatMap codeParsed).drop 1).filterMap id = instrs.map parsedCode := by
    rcases hh with rfl | ⟨l, rest, rfl⟩
    · rfl
    · rw [← filterMap_codeParsed]
      simp [List.flatMap_cons, codeParsed]
  simp only [List.filterMap_cons, id, List.filterMap_append, key, List.filterMap_nil]
  rfl

theorem parseHook_header : parseHook "actual code" = none := by
  rw [parseHook_eq]; decide

theorem badHook_parsedCode {c : Code} (h : CodeOK c) : ¬ badHook (parsedCode c) := by
  cases c with
  | COMMENT m =>
    simp only [parsedCode, badHook]
    rw [parseHook_eq]
    unfold rtrimS
    rw [String.toList_ofList]
    exact (h.com m rfl).2
  | _ => simp [parsedCode, badHook]

theorem routine_no_badHook {instrs : List Code} (hh : HeadLabel instrs) (h : ∀ c ∈ instrs, CodeOK c) :
    ∀ x ∈ numberOpt 1 (routineParsed instrs), ¬ badHook x.2 := by
  intro x hx
  have hm : x.2 ∈ (numberOpt 1 (routineParsed instrs)).map (·.2) := List.mem_map.2 ⟨x, hx, rfl⟩
  rw [routine_codes hh] at hm
  simp only [List.mem_append, List.mem_singleton, List.mem_map] at hm
  rcases hm with (hm | ⟨c, hc, hm⟩) | hm
  · rw [hm]; simp only [badHook]; rw [parseHook_header]; simp
  · rw [← hm]; exact badHook_parsedCode (h c hc)
  · rw [hm]; simp [badHook]

/-- the three facts the run theorems of C08 need of the text of a routine -/
theorem textLoads (instrs : List Code) (hh : HeadLabel instrs) (h : ∀ c ∈ instrs, CodeOK c) :
    ∃ lines, parseText (intoRoutine instrs) = .ok lines ∧
      (lines.map (·.2)).map stripC = ([Code.COMMENT "actual code"] ++ instrs ++ [Code.LAB "cleanup"]).map stripC ∧
      ∀ x ∈ lines, ¬ badHook x.2 := by
  refine ⟨_, parseText_intoRoutine instrs hh h, ?_, routine_no_badHook hh h⟩
  rw [routine_codes hh]
  simp only [List.map_append, List.map_map]
  congr 2
  apply List.map_congr_left
  intro c _
  exact stripC_parsedCode c

/-! ## a routine that does NOT start with a label: its first item is swallowed by the header comment -/

theorem intercalate_head_append {α : Type} (sep a p : List α) (rest : List (List α)) :
    sep.intercalate ((a ++ p) :: rest) = a ++ sep.intercalate (p :: rest) := by
  cases rest with
  | nil => simp [List.intercalate_singleton]
  | cons r rs => simp [List.intercalate_cons_cons]

/-- the lines of the text of a routine whose first item `c` is not a label: the header comment and the printed
    `c` are ONE line -/
theorem intoRoutine_swallow (c : Code) (cs : List Code) (hc : codeLines c = [printCode c]) :
    intoRoutine (c :: cs)
      = "\n".intercalate (("// actual code" ++ printCode c) :: (cs.flatMap codeLines ++ ["", "cleanup:"])) := by
  apply String.ext
  have hn : "\n".toList = ['\n'] := rfl
  rw [toList_intoRoutine, intercalate_printed, String.toList_intercalate, hn, List.flatMap_cons, hc]
  simp only [List.map_cons, List.map_append, List.map_nil, List.cons_append, List.nil_append,
    String.toList_append]
  rw [intercalate_head_append]
  have hsplit := intercalate_append ['\n'] ((printCode c).toList :: List.map String.toList (List.flatMap codeLines cs))
    ["".toList, "cleanup:".toList] (by simp) (by simp)
  simp only [List.cons_append] at hsplit
  rw [hsplit, List.intercalate_cons_cons, List.intercalate_singleton]
  simp

/-- … and the loader reads that line as a comment: the routine has one item fewer than it should -/
theorem parseText_swallow (c : Code) (cs : List Code) (hc : codeLines c = [printCode c])
    (h : ∀ x ∈ c :: cs, CodeOK x) :
    parseText (intoRoutine (c :: cs))
      = .ok (numberOpt 1 (some (.COMMENT (rtrimS ("actual code" ++ printCode c))) ::
          (cs.flatMap codeParsed ++ [none, some (.LAB "cleanup")]))) := by
  have hcl := parse_codeLines c (h c (by simp))
  rw [hc] at hcl
  have hnl : ∀ l ∈ ("// actual code" ++ printCode c) :: (cs.flatMap codeLines ++ ["", "cleanup:"]),
      '\n' ∉ l.toList := by
    intro l hl
    simp only [List.mem_cons, List.mem_append, List.not_mem_nil, or_false] at hl
    rcases hl with rfl | hl | rfl | rfl
    · rw [String.toList_append]
      intro hm
      simp only [List.mem_append] at hm
      rcases hm with hm | hm
      · revert hm; decide
      · exact hcl.2 _ (by simp) hm
    · obtain ⟨x, hx, hlx⟩ := List.mem_flatMap.1 hl
      exact (parse_codeLines x (h x (by simp [hx]))).2 l hlx
    · simp
    · decide
  unfold parseText
  rw [intoRoutine_swallow c cs hc, splitOn_newline_intercalate _ _ hnl]
  refine parseLines_of _ _ ?_ 1
  have e : "// actual code" ++ printCode c = "// " ++ ("actual code" ++ printCode c) := by
    apply String.ext; simp [String.toList_append]
  simp only [List.map_cons, List.map_append, List.map_nil, parseLine_empty, parseLine_cleanup,
    map_parseLine_flatMap cs (fun x hx => h x (by simp [hx]))]
  rw [e, parseLine_comment]

theorem swallow_length (cs : List Code) (m : String) :
    (numberOpt 1 (some (.COMMENT m) :: (cs.flatMap codeParsed ++ [none, some (.LAB "cleanup")]))).length
      = cs.length + 2 := by
  have := congrArg List.length (map_snd_numberOpt 1
    (some (Code.COMMENT m) :: (cs.flatMap codeParsed ++ [none, some (Code.LAB "cleanup")])))
  rw [List.length_map] at this
  rw [this]
  simp only [List.filterMap_cons, id, List.filterMap_append, filterMap_codeParsed, List.filterMap_nil,
    List.length_cons, List.length_append, List.length_map, List.length_nil]

end Scc.RV.Loader
