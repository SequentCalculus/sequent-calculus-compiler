/-
  Scc.RV.ConcMon — THE HEAP MONITOR IS AN OBSERVER: the
  run of the RV64 SPEC machine with the heap monitor ON is, state by state and up to the monitor's counter
  `blocksBelow`, the run with the monitor OFF — until the monitor reports.  So for every amount of fuel the result
  with the monitor on is the result with the monitor off, or a report `inv:` of the monitor; and every state the
  monitored machine passes through is (up to `blocksBelow`) a state the unmonitored machine passes through.
-/
import Scc.RV.ConcMach

namespace Scc.RV.Conc

def monOff (mc : MonCfg) : MonCfg := { mc with heap := false }

theorem monOff_heap (mc : MonCfg) : (monOff mc).heap = false := rfl
theorem monOff_heapBytes (mc : MonCfg) : (monOff mc).heapBytes = mc.heapBytes := rfl

def setBB (s : State) (b : Nat) : State := { s with blocksBelow := b }

def mapBB (b : Nat) : Except String (State × Next) → Except String (State × Next)
  | .error e => .error e
  | .ok (s, n) => .ok (setBB s b, n)

theorem readReg_setBB (s : State) (b : Nat) (r : Register) : (setBB s b).readReg r = s.readReg r := rfl

theorem writeReg_setBB (s : State) (b : Nat) (r : Register) (v : Word) :
    (setBB s b).writeReg r v = setBB (s.writeReg r v) b := by
  unfold State.writeReg setBB; split <;> rfl

theorem copyReg_setBB (s : State) (b : Nat) (x y : Register) :
    (setBB s b).copyReg x y = setBB (s.copyReg x y) b := by
  unfold State.copyReg setBB; split
  · rfl
  · split <;> rfl

theorem load_setBB (cfg : MonCfg) (s : State) (b a : Nat) : (setBB s b).load cfg a = s.load cfg a := rfl

theorem store_setBB (cfg : MonCfg) (s : State) (b a : Nat) (v : Word) :
    (setBB s b).store cfg a v = match s.store cfg a v with
      | .error e => .error e
      | .ok s1 => .ok (setBB s1 b) := by
  unfold State.store
  cases checkAddr cfg a <;> rfl

/-- an instruction neither reads nor writes the monitor's counter -/
theorem exec_setBB (cfg : MonCfg) (la : String → Option Nat) (a b : Nat) (c : Code) (s : State) :
    exec cfg la a c (setBB s b) = mapBB b (exec cfg la a c s) := by
  have harith : ∀ x y z f, arith3 (setBB s b) x y z f = mapBB b (arith3 s x y z f) := by
    intro x y z f
    simp only [arith3, readReg_setBB]
    cases s.readReg y with
    | error e => rfl
    | ok a =>
      dsimp only
      cases s.readReg z with
      | error e => rfl
      | ok b' =>
        dsimp only
        cases f a b' with
        | error e => rfl
        | ok v => simp [mapBB, writeReg_setBB]
  have hbranch : ∀ x y l f, branch (setBB s b) x y l f = mapBB b (branch s x y l f) := by
    intro x y l f
    simp only [branch, readReg_setBB]
    cases s.readReg x with
    | error e => rfl
    | ok a =>
      cases s.readReg y with
      | error e => rfl
      | ok b' => rfl
  cases c <;> simp only [exec, harith, hbranch]
  case ADDI x y c =>
    simp only [readReg_setBB]
    cases s.readReg y with
    | error e => rfl
    | ok a => simp [mapBB, writeReg_setBB]
  case JAL x l => simp [mapBB, writeReg_setBB]
  case JALR x y c =>
    simp only [readReg_setBB]
    cases s.readReg y with
    | error e => rfl
    | ok a => simp [mapBB, writeReg_setBB]
  case LA x l =>
    cases la l with
    | none => rfl
    | some a => simp [mapBB, writeReg_setBB]
  case LI x c => simp [mapBB, writeReg_setBB]
  case MV x y => simp [mapBB, copyReg_setBB]
  case LW x y c =>
    simp only [readReg_setBB, load_setBB]
    cases s.readReg y with
    | error e => rfl
    | ok b' =>
      dsimp only
      cases s.load cfg (b' + imm c).toNat with
      | error e => rfl
      | ok v => simp [mapBB, writeReg_setBB]
  case SW x y c =>
    simp only [readReg_setBB, store_setBB]
    cases s.readReg x with
    | error e => rfl
    | ok v =>
      dsimp only
      cases s.readReg y with
      | error e => rfl
      | ok b' =>
        dsimp only
        cases s.store cfg (b' + imm c).toNat v with
        | error e => rfl
        | ok s1 => rfl
  case LAB l => rfl
  case COMMENT m => rfl

theorem exec_monOff (mc : MonCfg) (la : String → Option Nat) (a : Nat) (c : Code) (s : State) :
    exec (monOff mc) la a c s = exec mc la a c s := by
  cases c <;> rfl

def SameBB (s t : State) : Prop := ∃ b, t = setBB s b

theorem SameBB.refl (s : State) : SameBB s s := ⟨s.blocksBelow, rfl⟩

theorem SameBB.pc {s t : State} (h : SameBB s t) : t.pc = s.pc := by obtain ⟨b, rfl⟩ := h; rfl
theorem SameBB.regs {s t : State} (h : SameBB s t) : t.regs = s.regs := by obtain ⟨b, rfl⟩ := h; rfl
theorem SameBB.mem {s t : State} (h : SameBB s t) : t.mem = s.mem := by obtain ⟨b, rfl⟩ := h; rfl
theorem SameBB.steps {s t : State} (h : SameBB s t) : t.steps = s.steps := by obtain ⟨b, rfl⟩ := h; rfl
theorem SameBB.mhw {s t : State} (h : SameBB s t) : t.maxHeapWritten = s.maxHeapWritten := by
  obtain ⟨b, rfl⟩ := h; rfl
theorem SameBB.readReg {s t : State} (h : SameBB s t) (r : Register) : t.readReg r = s.readReg r := by
  obtain ⟨b, rfl⟩ := h; rfl

def SameRes (r r' : RunResult) : Prop :=
  r'.out = r.out ∧ r'.res = r.res ∧ r'.steps = r.steps ∧ r'.maxHeapWritten = r.maxHeapWritten

theorem sameRes_result {s t : State} (h : SameBB s t) (res : Res) : SameRes (s.result res) (t.result res) := by
  obtain ⟨b, rfl⟩ := h
  exact ⟨rfl, rfl, rfl, rfl⟩

/-- ONE STEP with the monitor on: the same step with the monitor off (up to the counter), or a report of the
monitor -/
theorem step_monOff (p : Program) (mc : MonCfg) {s t : State} (hst : SameBB s t) :
    (∃ s' t', step p mc s = .inl s' ∧ step p (monOff mc) t = .inl t' ∧ SameBB s' t') ∨
    (∃ r r', step p mc s = .inr r ∧ step p (monOff mc) t = .inr r' ∧ SameRes r r') ∨
    (∃ r e ln, step p mc s = .inr r ∧ r.res = .invFail e ln) := by
  obtain ⟨b, rfl⟩ := hst
  have hpc : (setBB s b).pc = s.pc := rfl
  cases hit : p.items[s.pc]? with
  | none =>
    right; left
    have hit' : p.items[(setBB s b).pc]? = none := hit
    exact ⟨_, _, step_none hit, step_none hit', sameRes_result ⟨b, rfl⟩ _⟩
  | some it =>
    have hit' : p.items[(setBB s b).pc]? = some it := hit
    rcases code_kind it.code with ⟨l, hc⟩ | ⟨m, hc⟩ | hi
    · rw [step_lab hit hc, step_lab hit' hc]
      unfold stepLab
      split
      · rw [readReg_setBB]
        cases s.readReg RETURN1 with
        | ok v => right; left; exact ⟨_, _, rfl, rfl, sameRes_result ⟨b, rfl⟩ _⟩
        | error e => right; left; exact ⟨_, _, rfl, rfl, sameRes_result ⟨b, rfl⟩ _⟩
      · left; exact ⟨_, _, rfl, rfl, ⟨b, rfl⟩⟩
    · rw [step_hook hit hc, step_hook hit' hc]
      unfold stepHook
      rw [monOff_heap]
      cases hr : it.roots with
      | none => left; exact ⟨_, _, rfl, rfl, ⟨b, rfl⟩⟩
      | some rs =>
        simp only [Bool.false_eq_true, if_false]
        cases hh : mc.heap with
        | false => left; exact ⟨_, _, rfl, rfl, ⟨b, rfl⟩⟩
        | true =>
          simp only [if_true]
          cases hm : heapMonitor mc s rs with
          | error e => right; right; exact ⟨_, e, it.line, rfl, rfl⟩
          | ok s1 =>
            left
            obtain ⟨b1, rfl⟩ := heapMonitor_frame hm
            exact ⟨_, _, rfl, rfl, ⟨b, rfl⟩⟩
    · rw [step_instr hit hi, step_instr hit' hi]
      unfold stepInstr
      rw [exec_monOff, exec_setBB]
      cases hx : exec mc p.labelAddr it.addr it.code s with
      | error e => right; left; exact ⟨_, _, rfl, rfl, sameRes_result ⟨b, rfl⟩ _⟩
      | ok r =>
        obtain ⟨s1, next⟩ := r
        simp only [mapBB]
        cases next with
        | fall => left; exact ⟨_, _, rfl, rfl, ⟨b, rfl⟩⟩
        | label l =>
          simp only
          cases p.labelIdx[l]? with
          | none => right; left; exact ⟨_, _, rfl, rfl, ⟨rfl, rfl, rfl, rfl⟩⟩
          | some i => left; exact ⟨_, _, rfl, rfl, ⟨b, rfl⟩⟩
        | addr a =>
          simp only
          cases p.addrIdx[a.toNat]? with
          | none => right; left; exact ⟨_, _, rfl, rfl, ⟨rfl, rfl, rfl, rfl⟩⟩
          | some i => left; exact ⟨_, _, rfl, rfl, ⟨b, rfl⟩⟩

/-- EVERY STATE THE MONITORED MACHINE PASSES THROUGH is, up to the monitor's counter, a state the unmonitored
machine passes through after the same number of units of fuel -/
theorem stepN_monOff (p : Program) (mc : MonCfg) : ∀ (k : Nat) {s t s' : State}, SameBB s t →
    stepN p mc k s = .inl s' → ∃ t', stepN p (monOff mc) k t = .inl t' ∧ SameBB s' t'
  | 0, s, t, s', hst, h => by
    simp only [stepN, Sum.inl.injEq] at h
    subst h
    exact ⟨t, rfl, hst⟩
  | k + 1, s, t, s', hst, h => by
    simp only [stepN] at h ⊢
    rcases step_monOff p mc hst with ⟨s1, t1, h1, h2, h3⟩ | ⟨r, r', h1, _, _⟩ | ⟨r, e, ln, h1, _⟩
    · rw [h1] at h
      rw [h2]
      exact stepN_monOff p mc k h3 h
    · rw [h1] at h; cases h
    · rw [h1] at h; cases h

/-- THE HEAP MONITOR IS AN OBSERVER: for every amount of fuel, the result with the monitor on is the result with
the monitor off, or a report of the monitor -/
theorem runLoop_monitor_indep (p : Program) (mc : MonCfg) : ∀ (f : Nat) {s t : State}, SameBB s t →
    SameRes (runLoop p mc f s) (runLoop p (monOff mc) f t) ∨ ∃ e ln, (runLoop p mc f s).res = .invFail e ln
  | 0, s, t, hst => by
    rw [runLoop_zero, runLoop_zero]
    exact Or.inl (sameRes_result hst _)
  | f + 1, s, t, hst => by
    rw [runLoop_succ, runLoop_succ]
    rcases step_monOff p mc hst with ⟨s1, t1, h1, h2, h3⟩ | ⟨r, r', h1, h2, h3⟩ | ⟨r, e, ln, h1, h2⟩
    · rw [h1, h2]
      exact runLoop_monitor_indep p mc f h3
    · rw [h1, h2]
      exact Or.inl h3
    · rw [h1]
      exact Or.inr ⟨e, ln, h2⟩

end Scc.RV.Conc
