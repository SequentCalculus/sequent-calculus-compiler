/-
  Scc.RV.RefLand — where an indirect jump to THE ADDRESS OF A LABEL lands.  The
  address table of the machine (`layout`, Machine.lean) maps the address of the next instruction after a label
  to the FIRST label standing before that instruction (`pendOf`), and the address after the last instruction to
  the first label at the very end; so a jump to the address of the label at index `i` lands at an index
  `m ≤ i`, and only labels and hook comments stand between `m` and `i` (`Loaded.land`).
-/
import Scc.RV.RefLayout

namespace Scc.RV.Ref

/-- a label followed by labels and comments only is pending, or an earlier one is -/
theorem pendOf_le : ∀ (ks : List Code) (i : Nat), (∃ l, ks[i]? = some (.LAB l)) →
    (∀ t, i ≤ t → t < ks.length → ∀ c, ks[t]? = some c → c.isInstr = false) →
    ∃ m, pendOf ks = some m ∧ m ≤ i := by
  refine snoc_ind (fun i h _ => by simp at h) ?_
  intro ks c ih i hl hn
  rw [pendOf_snoc]
  obtain ⟨l, hl⟩ := hl
  by_cases hi : i < ks.length
  · rw [List.getElem?_append_left hi] at hl
    obtain ⟨m, hm, hmi⟩ := ih i ⟨l, hl⟩ (fun t h1 h2 c' hc' => hn t h1 (by simp; omega) c' (by
      rw [List.getElem?_append_left h2]; exact hc'))
    have hc : c.isInstr = false := hn ks.length (by omega) (by simp) c (by simp)
    refine ⟨m, ?_, hmi⟩
    rw [hm]
    cases c <;> first | rfl | (simp [Code.isInstr] at hc)
  · have hie : i = ks.length := by
      rcases Nat.lt_or_ge i (ks ++ [c]).length with h | h
      · simp at h; omega
      · rw [List.getElem?_eq_none h] at hl; cases hl
    subst hie
    simp at hl
    subst hl
    cases hp : pendOf ks with
    | none => exact ⟨ks.length, rfl, Nat.le_refl _⟩
    | some p =>
      have := (pendOf_spec ks p hp).1
      exact ⟨p, rfl, by omega⟩

theorem icount_take_stable (ks : List Code) (i : Nat) : ∀ (d : Nat), i + d ≤ ks.length →
    (∀ t, i ≤ t → t < i + d → ∀ c, ks[t]? = some c → c.isInstr = false) →
    icount (ks.take (i + d)) = icount (ks.take i)
  | 0, _, _ => rfl
  | d + 1, hle, hn => by
    have hlt : i + d < ks.length := by omega
    rw [show i + (d + 1) = (i + d) + 1 by omega, List.take_succ_eq_append_getElem hlt, icount_append,
      icount_single, icount_take_stable ks i d (by omega) (fun t h1 h2 => hn t h1 (by omega))]
    have := hn (i + d) (by omega) (by omega) _ (List.getElem?_eq_getElem hlt)
    rw [this]
    simp

/-- from index `i` on: the first instruction, or none at all -/
theorem first_instr (ks : List Code) : ∀ (d i : Nat), i + d = ks.length →
    (∃ j, i ≤ j ∧ ∃ h : j < ks.length, ks[j].isInstr = true ∧
      ∀ t, i ≤ t → t < j → ∀ c, ks[t]? = some c → c.isInstr = false) ∨
    (∀ t, i ≤ t → t < ks.length → ∀ c, ks[t]? = some c → c.isInstr = false)
  | 0, i, h => Or.inr (fun t h1 h2 => by omega)
  | d + 1, i, h => by
    have hlt : i < ks.length := by omega
    by_cases hi : ks[i].isInstr = true
    · exact Or.inl ⟨i, Nat.le_refl _, hlt, hi, fun t h1 h2 => by omega⟩
    · have hi' : ks[i].isInstr = false := by simpa using hi
      rcases first_instr ks d (i + 1) (by omega) with ⟨j, hj, hjl, hji, hall⟩ | hall
      · refine Or.inl ⟨j, by omega, hjl, hji, fun t h1 h2 c hc => ?_⟩
        by_cases ht : t = i
        · subst ht
          rw [List.getElem?_eq_getElem hlt] at hc
          injection hc with hc
          rw [← hc]; exact hi'
        · exact hall t (by omega) h2 c hc
      · refine Or.inr (fun t h1 h2 c hc => ?_)
        by_cases ht : t = i
        · subst ht
          rw [List.getElem?_eq_getElem hlt] at hc
          injection hc with hc
          rw [← hc]; exact hi'
        · exact hall t (by omega) h2 c hc

/-- WHERE A JUMP TO THE ADDRESS OF A LABEL LANDS -/
theorem Loaded.land {p : Program} {ks : List Code} (L : Loaded p ks) {i : Nat} {l : String}
    (hl : ks[i]? = some (.LAB l)) :
    ∃ m, p.addrIdx[codeBase + 4 * icount (ks.take i)]? = some m ∧ m ≤ i ∧
      ∀ t, m ≤ t → t < i → ∀ c, ks[t]? = some c → c.isInstr = false := by
  have hi : i < ks.length := by
    rcases Nat.lt_or_ge i ks.length with h | h
    · exact h
    · rw [List.getElem?_eq_none h] at hl; cases hl
  rcases first_instr ks (ks.length - i) i (by omega) with ⟨j, hij, hjl, hji, hall⟩ | hall
  · -- an instruction follows: its address is the address of the label
    have hne : j ≠ i := by
      intro e
      subst e
      rw [List.getElem?_eq_getElem hi] at hl
      injection hl with hl
      rw [hl] at hji
      simp [Code.isInstr] at hji
    have hic : icount (ks.take j) = icount (ks.take i) := by
      have := icount_take_stable ks i (j - i) (by omega) (fun t h1 h2 => hall t h1 (by omega))
      rw [show i + (j - i) = j by omega] at this
      exact this
    have hget : ∀ t, t < j → (ks.take j)[t]? = ks[t]? := fun t ht => by
      rw [List.getElem?_take]; simp [ht]
    obtain ⟨m, hm, hmi⟩ := pendOf_le (ks.take j) i ⟨l, by rw [hget i (by omega)]; exact hl⟩
      (fun t h1 h2 c hc => by
        have htj : t < j := by simp at h2; omega
        rw [hget t htj] at hc
        exact hall t h1 htj c hc)
    have hspec := pendOf_spec (ks.take j) m hm
    refine ⟨m, ?_, hmi, fun t h1 h2 c hc => ?_⟩
    · rw [← hic, L.addrs j hjl hji, hm]
      rfl
    · have htj : t < j := by omega
      exact hspec.2.2 t h1 (by simp; omega) c (by rw [hget t htj]; exact hc)
  · -- no instruction follows: the address is the end of the code
    have hic : icount ks = icount (ks.take i) := by
      have := icount_take_stable ks i (ks.length - i) (by omega) (fun t h1 h2 => hall t h1 (by omega))
      rw [show i + (ks.length - i) = ks.length by omega, List.take_length] at this
      exact this
    obtain ⟨m, hm, hmi⟩ := pendOf_le ks i ⟨l, hl⟩ hall
    have hspec := pendOf_spec ks m hm
    refine ⟨m, ?_, hmi, fun t h1 h2 c hc => hspec.2.2 t h1 (by omega) c hc⟩
    rw [← hic]
    exact L.endAddr m hm

end Scc.RV.Ref
