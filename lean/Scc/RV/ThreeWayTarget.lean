/-
  Scc.RV.ThreeWayTarget — the RV64 machine as a `Target rvBackend` (Scc/Backend/ThreeWay.lean): the registers of
  the positions, the boundary invariant, the heap view, the contracts of memory.rs; the translation of the word parts
  is the generic one with 4 bytes per table entry (`trHeap_eq`).  RV64's relation names the
  machine word of a closure per position (`cw i`) where the generic relation asks only that it is defined: `X3R`
  is the generic relation at this target together with `CwOK` ("the closure words are `cw`").  The machine has
  no output.
-/
import Scc.Backend.ThreeWay
import Scc.RV.RefX3
import Scc.RV.RefMem

namespace Scc.RV.Ref

open Scc.AxCut Scc.Backend Scc.Backend.Abs
open Scc.Heap (HState InvS InvW)
open Scc.Heap.Refine (HRef imgW FrLe)

theorem trF_eq (τ : Nat → Nat → Word) (id j : Nat) (f : Abs.Field) :
    trF (τ id j) f = ThreeWay.trF 4#64 τ id j f := by
  obtain ⟨chi, ptr, val⟩ := f
  cases chi <;> rfl

theorem trFieldsP_eq (τ : Nat → Nat → Word) (id : Nat) : ∀ (j : Nat) (fs : List Abs.Field),
    trFieldsP (τ id) j fs = ThreeWay.trFs 4#64 τ id j fs
  | _, [] => rfl
  | j, f :: fs => by simp only [trFieldsP, ThreeWay.trFs, trF_eq, trFieldsP_eq τ id (j + 1) fs]

theorem trHeap_eq (τ : Nat → Nat → Word) (h : Heap) : trHeap τ h = ThreeWay.trHeap 4#64 τ h := by
  unfold trHeap ThreeWay.trHeap Scc.Heap.Refine.mapFields
  apply List.map_congr_left
  intro e _
  simp only [trO, Scc.Heap.Refine.mapObj, trFieldsP_eq]

/-- `trHeap τ` is `mapFields` for `trFieldsP (τ id)` on the fields of the object `id` -/
theorem fieldsOK_trFieldsP {τ : Nat → Nat → Word} : Scc.Heap.Refine.FieldsOK (fun id fs => trFieldsP (τ id) 0 fs) := by
  have e : (fun id fs => trFieldsP (τ id) 0 fs) = fun id fs => ThreeWay.trFs 4#64 τ id 0 fs := by
    funext id fs
    exact trFieldsP_eq τ id 0 fs
  rw [e]
  exact ThreeWay.fieldsOK_trFs 4#64 τ

theorem noCleanup_of_labsIn {code : List Code} {lo hi : Nat} (h : LabsIn code lo hi) :
    Code.LAB "cleanup" ∉ code := by
  intro hm
  obtain ⟨n, e, _, _⟩ := h _ hm
  exact labName_ne_cleanup n e.symm

/-- what `store` leaves alone: the registers of the positions below the stored ones -/
theorem storedReg_keep {st st' : State} {n len : Nat}
    (FT : FrameR st st' (fun u => u = TEMP.n ∨ u = HEAP.n ∨ u = FREE.n ∨ StoredReg n len u))
    {t : Nat} (ht : t < 2 * n) (h28 : t < 28) : rv st' t = rv st t := by
  apply rv_of_regs FT.regs h28
  intro hc
  rcases hc with e | e | e | ⟨j, _, e | e⟩
  · simp [posReg] at e
  · simp [posReg] at e
  · simp [posReg] at e
  · have := posReg_inj.1 e; omega
  · have := posReg_inj.1 e; omega

section
variable (mc : MonCfg) (la : String → Option Nat)

def target : ThreeWay.Target rvBackend where
  S := State
  ntemps := 28
  ntemps_le := by decide
  posT := posTemp
  tv := rv
  OutOK _ _ := True
  Bnd := Boundary mc
  HRel := HeapRel mc
  stride := 4#64
  jumpLength_stride := fun pos => by
    show BitVec.ofInt 64 ((4 : Int) * (pos : Int)) = BitVec.ofInt 64 pos * 4#64
    rw [BitVec.ofInt_mul, BitVec.mul_comm]
    rfl
  shareMax := 2 ^ 31
  shareMax_le := by decide
  Exec code st st' := execFwd mc la code st = .ok (st', .fall)
  limit_lt := fun B R => by
    have h2 := R.limit
    have h3 := B.top
    omega
  erase := by
    intro st hs hs' t p B R ht hv hop kk
    obtain ⟨code, hrun, _, _, st', hx, B', HR', FH⟩ :=
      eraseBlock_contract (la := la) B R (r := posTemp t) (by simp [posReg]) (by simp [posReg]; omega) hv hop kk
    exact ⟨code, hrun, st', hx, B', HR', fun u hu => rv_of_regs FH.regs hu (by simp [posReg]), fun _ h => h⟩
  share := by
    intro st hs hs' t p n B R ht hv hn hop hno kk
    obtain ⟨code, hrun, _, _, st', hx, B', HR', FH⟩ :=
      shareBlockN_contract (la := la) B R (r := posTemp t) (by simp [posReg]) (by simp [posReg]; omega) hv
        (n := n) hop hno kk
    exact ⟨code, hrun, st', hx, B', HR', fun u hu => rv_of_regs FH.regs hu (by simp [posReg]), fun _ h => h⟩
  LabsIn := Scc.RV.LabsIn
  store := by
    intro st hs hs' toStore rem fs ptr B R hcap hrem hE hop kk
    obtain ⟨code, kk', hrun, hle, hlabs, st', hx, B', HR', ⟨w, hw, ew⟩, FT⟩ :=
      store_contract (la := la) B R (toStore := toStore) (rem := rem) hcap (by omega)
        ((envFields_iff B.top).2 hE) hop kk
    exact ⟨code, kk', hrun, hle, hlabs, st', hx, B', HR', ⟨w, rv_of_readReg hw, ew⟩,
      fun t ht => storedReg_keep FT ht (by omega), fun _ h => h⟩

  mem_lt := fun {st hs} R a => by rw [R.mem a]; exact (st.mem.getD a 0).isLt
  load := by
    intro st hs hs' toLoad existing pw vals B R hcap hp hop hno kk
    obtain ⟨code, kk', hrun, hle, hlabs, st', hx, B', HR', hE, FT⟩ :=
      load_contract (la := la) B R (toLoad := toLoad) (existing := existing) hcap (readReg_of_rv hp) hop hno kk
    refine ⟨code, kk', hrun, hle, hlabs, st', hx, B', HR', (envFields_iff B'.top).1 hE, fun t ht => ?_,
      fun _ h => h⟩
    apply rv_of_regs FT.regs (by omega)
    intro hc
    rcases hc with e | e | ⟨m, h1, _, e⟩
    · simp [posReg] at e
    · simp [posReg] at e
    · have := posReg_inj.1 e; omega

variable {mc la}
variable {cw : Nat → Word} {τ : Nat → Nat → Word} {Γ : Ctx} {cfg cfg1 : Config} {rs rs1 : List Nat}
  {hs hs1 : HState} {ι : Nat → Nat} {st st1 : State}

/-- the closure words of the context are `cw` -/
def CwOK (cw : Nat → Word) (Γ : Ctx) (cfg : Config) (st : State) : Prop :=
  ∀ i (hi : i < Γ.length), Γ[i].chi = .cns → (cfg.temps.get (2 * i + 1)).isSome → rv st (2 * i + 1) = some (cw i)

theorem x3r_iff : X3R mc cw τ Γ cfg rs hs ι st ↔
    ThreeWay.X3R (target mc la) Γ cfg rs hs ι τ st ∧ CwOK cw Γ cfg st := by
  constructor
  · intro X
    refine ⟨⟨X.bnd, by have := X.cap; show _ ≤ 28; omega, ?_, X.ptrs, trivial, X.hrel,
      by have := X.href; rw [trHeap_eq] at this; exact this⟩, ?_⟩
    · intro i hi a ha
      have hw := X.words i hi a ha
      show rv st (2 * i + 1) = some (ThreeWay.trWs 4#64 (rv st (2 * i + 1)) Γ[i].chi a)
      rw [hw]
      cases h : Γ[i].chi <;> rfl
    · intro i hi hc hs'
      obtain ⟨a, ha⟩ := Option.isSome_iff_exists.1 hs'
      have hw := X.words i hi a ha
      rw [hw, hc]; rfl
  · rintro ⟨X, C⟩
    refine ⟨X.bnd, by have : _ ≤ 28 := X.cap; omega, ?_, X.ptrs, X.hrel, by rw [trHeap_eq]; exact X.href⟩
    intro i hi a ha
    have hw : rv st (2 * i + 1) = _ := X.words i hi a ha
    cases h : Γ[i].chi with
    | cns => rw [C i hi h (by rw [ha]; rfl)]; rfl
    | prd => rw [hw, h]; rfl
    | ext => rw [hw, h]; rfl

/-- the references held by the variables of a related context are addresses inside the heap
(`ThreeWay.X3.ref_lt`) -/
theorem X3R.ref_lt {hsX : HState} (X : X3 mc cw τ Γ cfg hsX ι st) {i : Nat} (hi : i < Γ.length)
    (hc : Γ[i].chi ≠ .ext) {r : Word} (hr : cfg.temps.get (2 * i) = some r) (h0 : r ≠ 0) :
    ι r.toNat < 2 ^ 64 ∧ r.toNat < cfg.next :=
  ThreeWay.X3.ref_lt ((x3r_iff (la := fun _ => none)).1 X).1 hi hc hr h0

theorem X3R.ofM (X : ThreeWay.X3R (target mc la) Γ cfg rs hs ι τ st) (C : CwOK cw Γ cfg st) :
    X3R mc cw τ Γ cfg rs hs ι st := x3r_iff.2 ⟨X, C⟩

/-- the closure words stay where the machine keeps the word parts of the positions and the abstract machine
defines no new one -/
theorem CwOK.keep (C : CwOK cw Γ cfg st) (hk : ∀ u, u < 2 * Γ.length → rv st1 u = rv st u)
    (htemps : ∀ t, t < 2 * Γ.length → (cfg1.temps.get t).isSome → (cfg.temps.get t).isSome) :
    CwOK cw Γ cfg1 st1 := fun i hi hc hs' => by
  rw [hk _ (by omega)]
  exact C i hi hc (htemps _ (by omega) hs')

theorem CwOK.take (C : CwOK cw Γ cfg st) (n : Nat) : CwOK cw (Γ.take n) cfg st := fun i hi hc hs' => by
  have hi' : i < Γ.length := by simp at hi; omega
  exact C i hi' (by simpa using hc) hs'

/-- RV64's relation does not look at the trace of the abstract machine -/
theorem X3R.setOut (X : X3R mc cw τ Γ cfg rs hs ι st) (o : List (Bool × Word)) :
    X3R mc cw τ Γ { cfg with out := o } rs hs ι st :=
  ⟨X.bnd, X.cap, X.words, X.ptrs, X.hrel, X.href⟩

end

end Scc.RV.Ref
