/-
  Scc.RV.RefTr — what is said by unfolding about the translation `trHeap` of the word parts of an abstract heap
  (RefDefs.lean), and `loadCw`, the closure words of the positions after a `load`.  Everything else about `trHeap`
  comes from the generic translation of Scc/Backend/ThreeWay.lean through `trHeap_eq` (ThreeWayTarget.lean).
-/
import Scc.RV.RefDefs

namespace Scc.RV.Ref

open Scc.Backend Scc.Backend.Abs

variable {τ : Nat → Nat → Abs.Word}

theorem trF_chi (m : Abs.Word) (f : Abs.Field) : (trF m f).chi = f.chi := rfl
theorem trF_ptr (m : Abs.Word) (f : Abs.Field) : (trF m f).ptr = f.ptr := rfl

theorem trO_fields (id : Nat) (o : Obj) : (trO τ id o).fields = trFieldsP (τ id) 0 o.fields := rfl

theorem trO_with_count (id : Nat) (o : Obj) (c : Nat) :
    trO τ id { o with count := c } = { trO τ id o with count := c } := rfl

theorem trHeap_nil : trHeap τ [] = [] := rfl

/-- the closure words of the positions after `load`: the remaining variables keep theirs, the loaded
variables get those of the fields of the loaded object -/
def loadCw (cw : Nat → Abs.Word) (n : Nat) (mw : Nat → Abs.Word) : Nat → Abs.Word :=
  fun i => if i < n then cw i else mw (i - n)

end Scc.RV.Ref
