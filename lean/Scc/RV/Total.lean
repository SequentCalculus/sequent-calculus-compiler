/-
  Scc.RV.Total — "total or capacity" for the RISC-V backend model `rvBackend` (Scc/RV/Backend.lean):
  the instance of `Scc.Backend.Total.TotalBackend` (Scc/Backend/TotalDefs.lean; property C12, link
  `codegen_total`).

  Proved (for all arguments, all values of the label counter):
  * `rv_total : TotalBackend rvBackend capRV (fun _ => True)` — the only error messages reachable from the
    methods of the RISC-V backend are "Out of registers" (utils.rs `assert!(register_number < REGISTER_NUM)`)
    and "not implemented in RISC-V backend" (code.rs `print_i64`).  In particular
      - `variable_temporary` on a variable of the context never panics "Variable … not found in context";
      - `store`/`load` never hit `free_fields - 1` at `free_fields = 0` ("attempt to subtract with overflow"):
        `store_values`/`load_values` are always called with `free_fields ≥` the number of bindings, because
        `rest_length` leaves at most `FIELDS_PER_BLOCK - block_position` of them (`length_drop_restLength`);
      - `variable_temporary number Γ id` is `X(2 * pos + number + RESERVED)` with `pos` the FIRST position of
        `id` in `Γ` (`getPosition_go_some`), hence injective in `(number, id)` and counter independent.
  * `compileRoutine_resOk` — the same for the line function `compileRoutine` given it for `compile`.
  * `rv_total_fits : TotalBackend rvBackend (· = "not implemented in RISC-V backend") fitsRV` with
    `fitsRV n := 2 * n + reserved ≤ registerNum`, i.e. `n ≤ 14` (`fitsRV_iff`, `fitsRV_of_le`: `2 * n ≤ 28`;
    tight: `not_fitsRV_15` and `vt_fails_15`, `store_fails_14`, `load_fails_15`; `fitsRV_iff_positions`:
    `fitsRV n` iff `positionRegister` succeeds at all positions `< n`): when the contexts fit, the only error
    left is the unimplemented print.  Moreover `rv_store_ok`, `rv_load_ok`, `rv_vt_ok`: within the capacity
    these methods SUCCEED from every counter value (`Tot (fun _ => False)`).
  Both instances come from ONE family of lemmas, parametrised by the set `okp` of positions at which
  `positionRegister` is known to be total-or-`cap` (`okp = everything` resp. `okp pos = pos ≤ 13`).
-/
import Scc.Backend.TotalDefs
import Scc.RV.Backend

namespace Scc.RV.Total

open Scc.AxCut Scc.Backend Scc.Backend.Total

/-- the error messages of the RISC-V backend that are reachable from its methods -/
def capRV (e : String) : Prop := e = "Out of registers" ∨ e = "not implemented in RISC-V backend"

/-! ## utils.rs -/

theorem toNat_le_one (number : TempNum) : number.toNat ≤ 1 := by
  cases number <;> simp [TempNum.toNat]

theorem toNat_inj {n n' : TempNum} (h : n.toNat = n'.toNat) : n = n' := by
  cases n <;> cases n' <;> simp [TempNum.toNat] at h ⊢

/-- `get_position` returns the FIRST position of the variable -/
theorem getPosition_go_some (id : Nat) : ∀ (ctx : Ctx) (i p : Nat), getPosition.go id ctx i = some p →
    i ≤ p ∧ p - i < ctx.length ∧ (∃ b, ctx[p - i]? = some b ∧ b.var.id = id) ∧
      ∀ j b, j < p - i → ctx[j]? = some b → b.var.id ≠ id
  | [], i, p, h => by simp [getPosition.go] at h
  | b :: bs, i, p, h => by
    simp only [getPosition.go] at h
    split at h
    · rename_i hb
      injection h with h
      subst h
      refine ⟨Nat.le_refl _, by simp, ⟨b, by simp, by simpa using hb⟩, ?_⟩
      intro j b' hj; omega
    · rename_i hb
      obtain ⟨h1, h2, ⟨b', h3, h4⟩, h5⟩ := getPosition_go_some id bs (i + 1) p h
      have e : p - i = (p - (i + 1)) + 1 := by omega
      refine ⟨by omega, by simp only [List.length_cons]; omega, ⟨b', by rw [e]; simpa using h3, h4⟩, ?_⟩
      intro j b'' hj hb''
      cases j with
      | zero =>
        simp only [List.getElem?_cons_zero, Option.some.injEq] at hb''
        subst hb''
        simpa using hb
      | succ j =>
        simp only [List.getElem?_cons_succ] at hb''
        exact h5 j b'' (by omega) hb''

theorem getPosition_go_none (id : Nat) : ∀ (ctx : Ctx) (i : Nat), getPosition.go id ctx i = none →
    ∀ b ∈ ctx, b.var.id ≠ id
  | [], _, _ => by simp
  | b :: bs, i, h => by
    simp only [getPosition.go] at h
    split at h
    · cases h
    · rename_i hb
      intro b' hb'
      rcases List.mem_cons.mp hb' with rfl | hb'
      · simpa using hb
      · exact getPosition_go_none id bs (i + 1) h b' hb'

/-- `get_position` finds every variable of the context, below the length of the context -/
theorem getPosition_of_mem {Γ : Ctx} {id : Nat} (h : ∃ b ∈ Γ, b.var.id = id) :
    ∃ p, getPosition Γ id = some p ∧ p < Γ.length := by
  unfold getPosition
  cases hg : getPosition.go id Γ 0 with
  | none =>
    obtain ⟨b, hb, hid⟩ := h
    exact absurd hid (getPosition_go_none id Γ 0 hg b hb)
  | some p =>
    have := (getPosition_go_some id Γ 0 p hg).2.1
    exact ⟨p, rfl, by simpa using this⟩

/-- two variables with the same first position are equal -/
theorem getPosition_inj {Γ : Ctx} {id id' p : Nat} (h : getPosition Γ id = some p)
    (h' : getPosition Γ id' = some p) : id = id' := by
  unfold getPosition at h h'
  obtain ⟨b, hb, hid⟩ := (getPosition_go_some id Γ 0 p h).2.2.1
  obtain ⟨b', hb', hid'⟩ := (getPosition_go_some id' Γ 0 p h').2.2.1
  rw [hb] at hb'
  injection hb' with hb'
  subst hb'
  rw [← hid, ← hid']

theorem positionRegister_run_ok {n : TempNum} {pos c k : Nat} {t : Register}
    (h : (positionRegister n pos).run c = .ok (t, k)) : t = ⟨2 * pos + n.toNat + reserved⟩ := by
  unfold positionRegister at h
  dsimp only at h
  split at h
  · have h : (Except.ok ((⟨2 * pos + n.toNat + reserved⟩ : Register), c) : Except String _) = .ok (t, k) := h
    injection h with h
    injection h with h _
    exact h.symm
  · have h : (Except.error "Out of registers" : Except String (Register × Nat)) = .ok (t, k) := h
    cases h

/-- `positionRegister` fails only with "Out of registers" -/
theorem positionRegister_tot {cap : String → Prop} (hc : cap "Out of registers") (n : TempNum) (pos : Nat) :
    Tot cap (positionRegister n pos) := by
  unfold positionRegister
  dsimp only
  exact TotP.ite (fun _ => Tot.pure _) (fun _ => TotP.throw hc)

/-- below the capacity `positionRegister` does not fail at all -/
theorem positionRegister_tot_fits {cap : String → Prop} (n : TempNum) (pos : Nat) (h : pos ≤ 13) :
    Tot cap (positionRegister n pos) := by
  unfold positionRegister
  dsimp only
  have hn := toNat_le_one n
  refine TotP.ite (fun _ => Tot.pure _) (fun hh => ?_)
  simp only [reserved, registerNum] at hh
  omega

theorem variableTemporary_run_ok {n : TempNum} {Γ : Ctx} {id c k : Nat} {t : Register}
    (h : (variableTemporary n Γ id).run c = .ok (t, k)) :
    ∃ p, getPosition Γ id = some p ∧ t = ⟨2 * p + n.toNat + reserved⟩ := by
  unfold variableTemporary at h
  cases hg : getPosition Γ id with
  | none =>
    rw [hg] at h
    have h : (Except.error _ : Except String (Register × Nat)) = .ok (t, k) := h
    cases h
  | some p =>
    rw [hg] at h
    exact ⟨p, rfl, positionRegister_run_ok h⟩

theorem isVT_iff {n : TempNum} {Γ : Ctx} {id : Nat} {t : Register} (h : IsVT rvBackend n Γ id t) :
    ∃ p, getPosition Γ id = some p ∧ t = ⟨2 * p + n.toNat + reserved⟩ := by
  obtain ⟨c, k, h⟩ := h
  exact variableTemporary_run_ok h

theorem rv_vt_inj {Γ : Ctx} {n n' : TempNum} {id id' : Nat} {t : Register}
    (h : IsVT rvBackend n Γ id t) (h' : IsVT rvBackend n' Γ id' t) : n = n' ∧ id = id' := by
  obtain ⟨p, hp, ht⟩ := isVT_iff h
  obtain ⟨p', hp', ht'⟩ := isVT_iff h'
  rw [ht] at ht'
  injection ht' with ht'
  have h1 := toNat_le_one n
  have h2 := toNat_le_one n'
  have hpp : p = p' := by omega
  subst hpp
  exact ⟨toNat_inj (by omega), getPosition_inj hp hp'⟩

theorem rv_vt_det {Γ : Ctx} {n : TempNum} {id : Nat} {t t' : Register}
    (h : IsVT rvBackend n Γ id t) (h' : IsVT rvBackend n Γ id t') : t = t' := by
  obtain ⟨p, hp, ht⟩ := isVT_iff h
  obtain ⟨p', hp', ht'⟩ := isVT_iff h'
  rw [hp] at hp'
  injection hp' with hp'
  subst hp'
  rw [ht, ht']

theorem rv_tempEq_iff (a b : Register) : rvBackend.tempEq a b = true ↔ a = b := by
  show (a == b) = true ↔ a = b
  cases a with | mk x => cases b with | mk y =>
  simp [BEq.beq, instBEqRegister.beq]

/-! ## memory.rs, for any set `okp` of positions at which `positionRegister` is total-or-`cap` -/

section
variable {cap : String → Prop} {okp : Nat → Prop}

theorem tot_freshTemporary (hpr : ∀ n pos, okp pos → Tot cap (positionRegister n pos))
    (n : TempNum) (Γ : Ctx) (h : okp Γ.length) : Tot cap (freshTemporary n Γ) :=
  hpr n _ h

theorem tot_skipIfZero (condition : Register) (toSkip : List Code) : Tot cap (skipIfZero condition toSkip) := by
  unfold skipIfZero
  exact Tot.bind Tot.freshLabel fun _ => Tot.pure _

theorem tot_ifZeroThenElse (condition : Register) (t e : List Code) : Tot cap (ifZeroThenElse condition t e) := by
  unfold ifZeroThenElse
  exact Tot.bind Tot.freshLabel fun _ => Tot.bind Tot.freshLabel fun _ => Tot.pure _

theorem tot_eraseBlock (r : Register) : Tot cap (Scc.RV.eraseBlock r) := by
  unfold Scc.RV.eraseBlock
  exact Tot.bind (tot_ifZeroThenElse _ _ _) fun _ => tot_skipIfZero _ _

theorem tot_shareBlockN (r : Register) (n : Nat) : Tot cap (Scc.RV.shareBlockN r n) := by
  unfold Scc.RV.shareBlockN
  exact tot_skipIfZero _ _

theorem tot_eraseFields (a b : Register) : ∀ (k offset : Nat), Tot cap (eraseFields a b k offset)
  | 0, _ => Tot.pure _
  | k + 1, offset => by
    unfold eraseFields
    exact Tot.bind (tot_eraseBlock _) fun _ => Tot.bind (tot_eraseFields a b k (offset + 1)) fun _ => Tot.pure _

theorem tot_acquireBlock (a b : Register) : Tot cap (acquireBlock a b) := by
  unfold acquireBlock
  exact Tot.bind (tot_eraseFields _ _ _ _) fun _ => Tot.bind (tot_ifZeroThenElse _ _ _) fun _ =>
    Tot.bind (tot_ifZeroThenElse _ _ _) fun _ => Tot.pure _

theorem tot_pred1 {ff : Nat} (h : 0 < ff) : TotP cap (fun k => k + 1 = ff) (pred1 ff) := by
  cases ff with
  | zero => omega
  | succ k => exact TotP.pure rfl

variable (hpr : ∀ n pos, okp pos → Tot cap (positionRegister n pos))
include hpr

theorem tot_storeField (n : TempNum) (Γ : Ctx) (mb : Register) (off : Nat) (h : okp Γ.length) :
    Tot cap (storeField n Γ mb off) := by
  unfold storeField
  exact Tot.bind (tot_freshTemporary hpr n Γ h) fun _ => Tot.pure _

theorem tot_loadField (n : TempNum) (Γ : Ctx) (mb : Register) (off : Nat) (h : okp Γ.length) :
    Tot cap (loadField n Γ mb off) := by
  unfold loadField
  exact Tot.bind (tot_freshTemporary hpr n Γ h) fun _ => Tot.pure _

theorem tot_storeValue (b : Binding) (Γ : Ctx) (mb : Register) (off : Nat) (h : okp Γ.length) :
    Tot cap (storeValue b Γ mb off) := by
  unfold storeValue
  refine Tot.bind (tot_storeField hpr _ Γ mb off h) fun _ => ?_
  refine TotP.ite (fun _ => Tot.pure _) (fun _ => ?_)
  exact Tot.bind (tot_storeField hpr _ Γ mb off h) fun _ => Tot.pure _

theorem tot_loadValue (b : Binding) (Γ : Ctx) (mb : Register) (off : Nat) (mode : LoadMode)
    (h : okp Γ.length) : Tot cap (loadValue b Γ mb off mode) := by
  unfold loadValue
  refine Tot.bind (tot_loadField hpr _ Γ mb off h) fun _ => ?_
  refine TotP.ite (fun _ => ?_) (fun _ => Tot.pure _)
  refine Tot.bind (tot_loadField hpr _ Γ mb off h) fun _ => ?_
  refine TotP.ite (fun _ => ?_) (fun _ => Tot.pure _)
  refine Tot.bind (tot_freshTemporary hpr _ Γ h) fun _ => ?_
  exact Tot.bind (tot_shareBlockN _ _) fun _ => Tot.pure _

/-- the `while let` loop of `store_values` never underflows `free_fields` when it starts with at least as
    many free fields as bindings; the positions requested are those of the bindings -/
theorem tot_storeValuesLoop (rem : Ctx) (mb : Register) : ∀ (rev : List Binding) (ff : Nat),
    rev.length ≤ ff → (∀ pos, pos < rem.length + rev.length → okp pos) →
    Tot cap (storeValuesLoop rem mb rev ff)
  | [], ff, _, _ => Tot.pure _
  | b :: rest, ff, hlen, hok => by
    unfold storeValuesLoop
    simp only [List.length_cons] at hlen hok
    refine TotP.bind (tot_pred1 (by omega)) fun off hoff => ?_
    refine Tot.bind (tot_storeValue hpr _ _ _ _ (hok _ (by simp))) fun _ => ?_
    refine Tot.bind (tot_storeValuesLoop rem mb rest off (by omega) fun pos hp => hok pos (by omega)) fun _ => ?_
    exact Tot.pure _

theorem tot_storeValues (toStore rem : Ctx) (mb : Register) (ff : Nat) (hlen : toStore.length ≤ ff)
    (hok : ∀ pos, pos < rem.length + toStore.length → okp pos) : Tot cap (storeValues toStore rem mb ff) := by
  unfold storeValues
  refine Tot.bind (tot_storeValuesLoop hpr rem mb _ ff (by simpa using hlen) (by simpa using hok)) fun _ => ?_
  exact Tot.pure _

theorem tot_loadValuesLoop (ex : Ctx) (mb : Register) (mode : LoadMode) : ∀ (rev : List Binding) (ff : Nat),
    rev.length ≤ ff → (∀ pos, pos < ex.length + rev.length → okp pos) →
    Tot cap (loadValuesLoop ex mb mode rev ff)
  | [], ff, _, _ => Tot.pure _
  | b :: rest, ff, hlen, hok => by
    unfold loadValuesLoop
    simp only [List.length_cons] at hlen hok
    refine TotP.bind (tot_pred1 (by omega)) fun off hoff => ?_
    refine Tot.bind (tot_loadValue hpr _ _ _ _ _ (hok _ (by simp))) fun _ => ?_
    refine Tot.bind (tot_loadValuesLoop ex mb mode rest off (by omega) fun pos hp => hok pos (by omega)) fun _ => ?_
    exact Tot.pure _

theorem tot_loadValues (toLoad ex : Ctx) (mb : Register) (ff : Nat) (mode : LoadMode)
    (hlen : toLoad.length ≤ ff) (hok : ∀ pos, pos < ex.length + toLoad.length → okp pos) :
    Tot cap (loadValues toLoad ex mb ff mode) := by
  unfold loadValues
  refine Tot.bind (tot_loadValuesLoop hpr ex mb mode _ ff (by simpa using hlen) (by simpa using hok)) fun _ => ?_
  exact Tot.pure _

omit hpr in
/-- `rest_length` leaves at most `FIELDS_PER_BLOCK - block_position` bindings for the current block -/
theorem length_drop_restLength (l : Ctx) (bp : BlockPosition) :
    (l.drop (restLength l.length bp)).length ≤ fieldsPerBlock - bp.toNat := by
  simp only [List.length_drop]
  unfold restLength
  split <;> omega

omit hpr in
theorem restLength_lt' (l : Ctx) (bp : BlockPosition) (h : l ≠ []) : restLength l.length bp < l.length := by
  apply restLength_lt
  cases l with
  | nil => exact absurd rfl h
  | cons _ _ => simp

/-- one round of `store_fields`, given the call on the remaining blocks: all positions requested are
    `≤ |remaining| + |to_store|` -/
theorem tot_storeFields_step (toStore rem : Ctx) (bp : BlockPosition)
    (hok : ∀ pos, pos ≤ rem.length + toStore.length → okp pos)
    (hrec : toStore ≠ [] → Tot cap (storeFields (toStore.take (restLength toStore.length bp)) rem .other)) :
    Tot cap (storeFields toStore rem bp) := by
  rw [storeFields]
  split
  · rename_i hem
    have : toStore = [] := by simpa using hem
    subst this
    refine TotP.ite (fun _ => ?_) (fun _ => Tot.pure _)
    exact Tot.bind (tot_freshTemporary hpr _ _ (hok _ (by simp))) fun _ => Tot.pure _
  · rename_i hem
    have hne : toStore ≠ [] := by simpa using hem
    have hrl := restLength_lt' toStore bp hne
    have htake : (toStore.take (restLength toStore.length bp)).length = restLength toStore.length bp := by
      simp only [List.length_take]; omega
    have hdrop : (toStore.drop (restLength toStore.length bp)).length =
        toStore.length - restLength toStore.length bp := by simp
    have hSV : Tot cap (storeValues (toStore.drop (restLength toStore.length bp))
        (rem ++ toStore.take (restLength toStore.length bp)) HEAP (fieldsPerBlock - bp.toNat)) := by
      refine tot_storeValues hpr _ _ _ _ (length_drop_restLength toStore bp) ?_
      intro pos hp
      apply hok
      simp only [List.length_append, htake, hdrop] at hp
      omega
    have hpos : okp (rem ++ toStore.take (restLength toStore.length bp)).length := by
      apply hok
      simp only [List.length_append, htake]
      omega
    have hrec := hrec hne
    dsimp only
    split
    · exact Tot.bind (tot_storeField hpr _ _ _ _ (hok _ (by simp))) fun _ => Tot.bind (Tot.pure _) fun _ =>
        Tot.bind hSV fun _ => Tot.bind (tot_freshTemporary hpr _ _ hpos) fun _ =>
        Tot.bind (tot_freshTemporary hpr _ _ hpos) fun _ => Tot.bind (tot_acquireBlock _ _) fun _ =>
        Tot.bind hrec fun _ => Tot.pure _
    · exact Tot.bind (Tot.pure _) fun _ =>
        Tot.bind hSV fun _ => Tot.bind (tot_freshTemporary hpr _ _ hpos) fun _ =>
        Tot.bind (tot_freshTemporary hpr _ _ hpos) fun _ => Tot.bind (tot_acquireBlock _ _) fun _ =>
        Tot.bind hrec fun _ => Tot.pure _

theorem tot_storeFields : ∀ (k : Nat) (toStore rem : Ctx) (bp : BlockPosition), toStore.length ≤ k →
    (∀ pos, pos ≤ rem.length + toStore.length → okp pos) → Tot cap (storeFields toStore rem bp)
  | 0, toStore, rem, bp, hk, hok => tot_storeFields_step hpr toStore rem bp hok fun hne =>
      absurd (List.length_eq_zero_iff.mp (Nat.le_zero.1 hk)) hne
  | k + 1, toStore, rem, bp, hk, hok => tot_storeFields_step hpr toStore rem bp hok fun hne => by
      have hrl := restLength_lt' toStore bp hne
      have htake : (toStore.take (restLength toStore.length bp)).length = restLength toStore.length bp := by
        simp only [List.length_take]; omega
      refine tot_storeFields k _ rem .other (by rw [htake]; omega) fun pos hp => hok pos ?_
      rw [htake] at hp
      omega

/-- one round of `load_fields`, given the call on the remaining blocks: all positions requested are
    `< |existing| + |to_load|` for the last block, `≤` for the others (the link to the next block is loaded into the
    first temporary of the next variable) -/
theorem tot_loadFields_step (mode : LoadMode) (toLoad ex : Ctx) (bp : BlockPosition)
    (hok : ∀ pos, pos < ex.length + toLoad.length + bp.toNat → okp pos)
    (hrec : toLoad ≠ [] → Tot cap (loadFields (toLoad.take (restLength toLoad.length bp)) ex .other mode)) :
    Tot cap (loadFields toLoad ex bp mode) := by
  rw [loadFields]
  split
  · exact Tot.pure _
  · rename_i hem
    have hne : toLoad ≠ [] := by simpa using hem
    have hrl := restLength_lt' toLoad bp hne
    have htake : (toLoad.take (restLength toLoad.length bp)).length = restLength toLoad.length bp := by
      simp only [List.length_take]; omega
    have hdrop : (toLoad.drop (restLength toLoad.length bp)).length =
        toLoad.length - restLength toLoad.length bp := by simp
    have hLV : ∀ mb, Tot cap (loadValues (toLoad.drop (restLength toLoad.length bp))
        (ex ++ toLoad.take (restLength toLoad.length bp)) mb (fieldsPerBlock - bp.toNat) mode) := by
      intro mb
      refine tot_loadValues hpr _ _ _ _ _ (length_drop_restLength toLoad bp) ?_
      intro pos hp
      apply hok
      simp only [List.length_append, htake, hdrop] at hp
      omega
    have hpos : okp (ex ++ toLoad.take (restLength toLoad.length bp)).length := by
      apply hok
      simp only [List.length_append, htake]
      omega
    have hrec := hrec hne
    dsimp only
    refine Tot.bind hrec fun c1 => ?_
    refine Tot.bind (tot_freshTemporary hpr _ _ hpos) fun mb => ?_
    split
    · rename_i hbp
      have hbp : bp = .other := by simpa using hbp
      subst hbp
      exact Tot.bind (tot_loadField hpr _ _ _ _ (hok _ (by simp [BlockPosition.toNat]))) fun _ =>
        Tot.bind (Tot.pure _) fun _ => Tot.bind (hLV _) fun _ => Tot.pure _
    · exact Tot.bind (Tot.pure _) fun _ => Tot.bind (hLV _) fun _ => Tot.pure _

theorem tot_loadFields (mode : LoadMode) : ∀ (k : Nat) (toLoad ex : Ctx) (bp : BlockPosition),
    toLoad.length ≤ k → (∀ pos, pos < ex.length + toLoad.length + bp.toNat → okp pos) →
    Tot cap (loadFields toLoad ex bp mode)
  | 0, toLoad, ex, bp, hk, hok => tot_loadFields_step hpr mode toLoad ex bp hok fun hne =>
      absurd (List.length_eq_zero_iff.mp (Nat.le_zero.1 hk)) hne
  | k + 1, toLoad, ex, bp, hk, hok => tot_loadFields_step hpr mode toLoad ex bp hok fun hne => by
      have hrl := restLength_lt' toLoad bp hne
      have htake : (toLoad.take (restLength toLoad.length bp)).length = restLength toLoad.length bp := by
        simp only [List.length_take]; omega
      refine tot_loadFields mode k _ ex .other (by rw [htake]; omega) fun pos hp => hok pos ?_
      rw [htake] at hp
      simp only [BlockPosition.toNat] at hp
      omega

theorem tot_store (a b : Ctx) (hok : ∀ pos, pos ≤ a.length + b.length → okp pos) : Tot cap (store a b) := by
  unfold store
  exact tot_storeFields hpr a.length a b .last (Nat.le_refl _) fun pos hp => hok pos (by omega)

theorem tot_load (a b : Ctx) (hok : ∀ pos, pos < a.length + b.length → okp pos) : Tot cap (load a b) := by
  unfold load
  refine TotP.ite (fun _ => Tot.pure _) (fun hem => ?_)
  have hne : a ≠ [] := by simpa using hem
  have hpos : 0 < a.length := by
    cases a with
    | nil => exact absurd rfl hne
    | cons _ _ => simp
  have hlf : ∀ mode, Tot cap (loadFields a b .last mode) := fun mode =>
    tot_loadFields hpr mode a.length a b .last (Nat.le_refl _) fun pos hp => hok pos (by
      simp only [BlockPosition.toNat] at hp; omega)
  refine Tot.bind (tot_freshTemporary hpr _ _ (hok _ (by omega))) fun mb => ?_
  refine Tot.bind (hlf _) fun c1 => ?_
  refine Tot.bind (hlf _) fun c2 => ?_
  exact Tot.bind (tot_ifZeroThenElse _ _ _) fun c3 => Tot.pure _

end

/-! ## Part 1: the unconditional instance -/

theorem rv_vt_total {cap : String → Prop} {okp : Nat → Prop}
    (hpr : ∀ n pos, okp pos → Tot cap (positionRegister n pos)) (n : TempNum) (Γ : Ctx) (id : Nat)
    (hmem : ∃ b ∈ Γ, b.var.id = id) (hok : ∀ pos, pos < Γ.length → okp pos) :
    Tot cap (variableTemporary n Γ id) := by
  obtain ⟨p, hp, hlt⟩ := getPosition_of_mem hmem
  unfold variableTemporary
  rw [hp]
  exact hpr n p (hok p hlt)

/-- TOTAL OR CAPACITY, RISC-V: no error message other than "Out of registers" and
    "not implemented in RISC-V backend" is reachable from the methods of the backend. -/
theorem rv_total : TotalBackend rvBackend capRV (fun _ => True) where
  fits_mono := fun _ _ => trivial
  tempEq_iff := rv_tempEq_iff
  vt_total := fun n Γ id hmem _ =>
    rv_vt_total (okp := fun _ => True) (fun n pos _ => positionRegister_tot (Or.inl rfl) n pos) n Γ id hmem
      (fun _ _ => trivial)
  vt_inj := rv_vt_inj
  vt_det := rv_vt_det
  printI64 := fun _ _ _ _ => TotP.throw (Or.inr rfl)
  eraseBlock := fun t => tot_eraseBlock t
  shareBlockN := fun t n => tot_shareBlockN t n
  store := fun a b _ =>
    tot_store (okp := fun _ => True) (fun n pos _ => positionRegister_tot (Or.inl rfl) n pos) a b
      (fun _ _ => trivial)
  load := fun a b _ =>
    tot_load (okp := fun _ => True) (fun n pos _ => positionRegister_tot (Or.inl rfl) n pos) a b
      (fun _ _ => trivial)

/-- the line function `compileRoutine` fails exactly when `compile` does, with the same message -/
theorem compileRoutine_resOk (p : Prog) (hooks : Bool) (c : Nat) :
    ResOk capRV ((Scc.Backend.compile rvBackend hooks p).run c) → ResOk capRV (compileRoutine p hooks c) := by
  intro h
  unfold compileRoutine
  cases hr : (Scc.Backend.compile rvBackend hooks p).run c with
  | error e => rw [hr] at h; exact h
  | ok r => obtain ⟨⟨ins, n⟩, k⟩ := r; trivial

example : capRV "Out of registers" := Or.inl rfl

/-! ## Part 2: within the capacity the only error left is the unimplemented print -/

/-- a context of `n` variables fits into the registers: both temporaries of every position `< n` are below
    `REGISTER_NUM` (`2 * (n - 1) + 1 + RESERVED < REGISTER_NUM`) -/
def fitsRV (n : Nat) : Prop := 2 * n + reserved ≤ registerNum

instance (n : Nat) : Decidable (fitsRV n) := by unfold fitsRV; exact inferInstance

theorem fitsRV_iff (n : Nat) : fitsRV n ↔ n ≤ 14 := by
  unfold fitsRV reserved registerNum
  omega

/-- the numeric bound: `K = 28 = REGISTER_NUM - RESERVED` -/
theorem fitsRV_of_le {n : Nat} (h : 2 * n ≤ 28) : fitsRV n := (fitsRV_iff n).mpr (by omega)

theorem le_of_fitsRV {n : Nat} (h : fitsRV n) : 2 * n ≤ 28 := by have := (fitsRV_iff n).mp h; omega

/-- `fitsRV n` says exactly that `positionRegister` succeeds at every position below `n`, for both numbers -/
theorem fitsRV_iff_positions (n : Nat) :
    fitsRV n ↔ ∀ num pos, pos < n → Tot (fun _ => False) (positionRegister num pos) := by
  rw [fitsRV_iff]
  constructor
  · intro h num pos hp
    exact positionRegister_tot_fits num pos (by omega)
  · intro h
    cases n with
    | zero => omega
    | succ n =>
      have h1 := h .snd n (by omega) 0
      by_cases hlt : 2 * n + 1 + 4 < 32
      · omega
      · exfalso
        unfold positionRegister at h1
        dsimp only at h1
        rw [if_neg (show ¬ (2 * n + TempNum.snd.toNat + reserved < registerNum) from hlt)] at h1
        exact h1

example : fitsRV 5 := fitsRV_of_le (by decide)
example : fitsRV 14 := by decide

/-- tight: 15 variables do not fit … -/
theorem not_fitsRV_15 : ¬ fitsRV 15 := by decide

def ctxOf (n : Nat) : Ctx := (List.range n).map fun i => ⟨⟨"x", i⟩, .ext, .i64⟩

/-- … and `variable_temporary` of the 15th variable of a context is the "Out of registers" panic, -/
theorem vt_fails_15 (c : Nat) :
    (rvBackend.variableTemporary .fst (ctxOf 15) 14).run c = .error "Out of registers" := rfl

/-- `store` of nothing on top of 14 variables requests the temporary of position 14 = |a| + |b|
    (so `fits (|a| + |b| + 1)` cannot be replaced by `fits (|a| + |b|)`), -/
theorem store_fails_14 (c : Nat) : (rvBackend.store [] (ctxOf 14)).run c = .error "Out of registers" := by
  show (storeFields [] (ctxOf 14) .last).run c = _
  rw [storeFields]
  rfl

/-- while 14 variables are fine. -/
example (c : Nat) : (rvBackend.variableTemporary .snd (ctxOf 14) 13).run c = .ok (⟨31⟩, c) := rfl

/-- `load` of one variable on top of 14 requests the temporary of position 14 = |a| + |b| - 1. -/
theorem load_fails_15 (c : Nat) : (rvBackend.load (ctxOf 1) (ctxOf 14)).run c = .error "Out of registers" := rfl

/-- NO ERROR BUT THE UNIMPLEMENTED PRINT, RISC-V, when the contexts fit (at most 14 variables; for `store`,
    the stored and the kept variables and the one bound next). -/
theorem rv_total_fits :
    TotalBackend rvBackend (fun e => e = "not implemented in RISC-V backend") fitsRV where
  fits_mono := fun hmn h => (fitsRV_iff _).mpr (by have := (fitsRV_iff _).mp h; omega)
  tempEq_iff := rv_tempEq_iff
  vt_total := fun n Γ id hmem hfit =>
    rv_vt_total (okp := fun pos => pos ≤ 13) (fun n pos h => positionRegister_tot_fits n pos h) n Γ id hmem
      (fun pos hp => by have := (fitsRV_iff _).mp hfit; show pos ≤ 13; omega)
  vt_inj := rv_vt_inj
  vt_det := rv_vt_det
  printI64 := fun _ _ _ _ => TotP.throw rfl
  eraseBlock := fun t => tot_eraseBlock t
  shareBlockN := fun t n => tot_shareBlockN t n
  store := fun a b hfit =>
    tot_store (okp := fun pos => pos ≤ 13) (fun n pos h => positionRegister_tot_fits n pos h) a b
      (fun pos hp => by have := (fitsRV_iff _).mp hfit; show pos ≤ 13; omega)
  load := fun a b hfit =>
    tot_load (okp := fun pos => pos ≤ 13) (fun n pos h => positionRegister_tot_fits n pos h) a b
      (fun pos hp => by have := (fitsRV_iff _).mp hfit; show pos ≤ 13; omega)

/-- a generator that is total with NO permitted error succeeds from every counter value -/
theorem run_ok_of_tot {α : Type} {m : GenM α} (h : Tot (fun _ => False) m) (c : Nat) :
    ∃ r, m.run c = .ok r := by
  have h1 := h c
  cases hr : m.run c with
  | error e => rw [hr] at h1; exact absurd h1 (fun h => h)
  | ok r => exact ⟨r, rfl⟩

/-- within the capacity `store`, `load` and `variable_temporary` (of a variable of the context) succeed -/
theorem rv_store_ok (a b : Ctx) (hfit : fitsRV (a.length + b.length + 1)) (c : Nat) :
    ∃ r, (rvBackend.store a b).run c = .ok r :=
  run_ok_of_tot (tot_store (okp := fun pos => pos ≤ 13) (fun n pos h => positionRegister_tot_fits n pos h) a b
    (fun pos hp => by have := (fitsRV_iff _).mp hfit; show pos ≤ 13; omega)) c

theorem rv_load_ok (a b : Ctx) (hfit : fitsRV (a.length + b.length)) (c : Nat) :
    ∃ r, (rvBackend.load a b).run c = .ok r :=
  run_ok_of_tot (tot_load (okp := fun pos => pos ≤ 13) (fun n pos h => positionRegister_tot_fits n pos h) a b
    (fun pos hp => by have := (fitsRV_iff _).mp hfit; show pos ≤ 13; omega)) c

theorem rv_vt_ok (n : TempNum) (Γ : Ctx) (id : Nat) (hmem : ∃ b ∈ Γ, b.var.id = id) (hfit : fitsRV Γ.length)
    (c : Nat) : ∃ r, (rvBackend.variableTemporary n Γ id).run c = .ok r :=
  run_ok_of_tot (rv_vt_total (okp := fun pos => pos ≤ 13) (fun n pos h => positionRegister_tot_fits n pos h)
    n Γ id hmem (fun pos hp => by have := (fitsRV_iff _).mp hfit; show pos ≤ 13; omega)) c

/-- non-vacuity: a store of 7 variables (three blocks) keeping 6, and the load back -/
example : ∃ r, (rvBackend.store (ctxOf 7) (ctxOf 6)).run 0 = .ok r := rv_store_ok _ _ (by decide) 0
example : ∃ r, (rvBackend.load (ctxOf 7) (ctxOf 7)).run 0 = .ok r := rv_load_ok _ _ (by decide) 0

#print axioms rv_total
#print axioms rv_total_fits
#print axioms compileRoutine_resOk

end Scc.RV.Total
