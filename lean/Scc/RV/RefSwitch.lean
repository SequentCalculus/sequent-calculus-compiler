/-
  Scc.RV.RefSwitch — `switch` (pattern matching on an object) on the three machines, RV64.  The abstract machine
  gets to the `load` of the selected clause by `switch_nav_abs` (Scc/Backend/ProofsLoad.lean); the RV64 machine by
  `switch_nav_rv`: `LA TEMP table; ADD TEMP TEMP tag; JALR X0 TEMP 0; JAL X0 clause` (or over the labels of a single
  clause) — the computed jump lands on the `pos`-th `JAL` of the table, whose address is `address(table) + 4·pos`
  (`Loaded.addrs`; for `pos = 0` the machine lands on the table label standing before the instruction).  Then the
  emitted `Memory::load` (`load_enter_x3`: the `load` at the head of a clause or of a method on the three machines,
  `load_mid` of Scc/Backend/ThreeWaySwitch.lean at the RV64 machine of the code that starts at the `load`)
  re-establishes `X3`; `switch_x3` puts the three together.
-/
import Scc.RV.RefLet
import Scc.RV.RefCloDefs

namespace Scc.RV.Ref

open Scc.AxCut Scc.AxCut.Pos Scc.Backend Scc.Backend.Abs Scc.Backend.Sim Scc.Backend.Sim2
open Scc.Heap (HState InvS InvW)
open Scc.Heap.Refine (HRef imgW fieldImg kindB loadAbs FrLe)

theorem rv_codeTable_instr (base : String) : ∀ (clauses : Clauses),
    ∀ c ∈ codeTable rvBackend clauses base, c.isInstr = true
  | .nil => fun c hc => by simp [codeTable] at hc
  | .cons x ctx body r => fun c hc => by
    have hc' : c ∈ Code.JAL ZERO (clauseLabel base x) :: codeTable rvBackend r base := hc
    rcases List.mem_cons.1 hc' with rfl | h
    · rfl
    · exact rv_codeTable_instr base r c h

/-- `Scc.getElem?_mid` (Scc/ListLemmas.lean) -/
theorem getElem?_mid {β : Type} (l : List β) (a : β) (r : List β) : (l ++ a :: r)[l.length]? = some a :=
  Scc.getElem?_mid l a r

theorem Keeps.noncomments : ∀ {a ka : List Code}, Keeps a ka → (∀ c ∈ a, c.isComment = false) → ka = a := by
  intro a ka h
  induction h with
  | nil => intro _; rfl
  | keep _ _ ih => intro hall; rw [ih (fun x hx => hall x (by simp [hx]))]
  | @drop m _ _ _ _ => intro hall; have := hall (.COMMENT m) (by simp); simp [Code.isComment] at this
  | @keepC m _ _ _ _ _ => intro hall; have := hall (.COMMENT m) (by simp); simp [Code.isComment] at this

theorem icount_all_instr {l : List Code} (h : ∀ c ∈ l, c.isInstr = true) : icount l = l.length := by
  unfold icount
  rw [List.filter_eq_self.2 h]

theorem execFwd_two {mc : MonCfg} {la : String → Option Nat} {c1 c2 : Code} {s s1 s2 : State}
    (h1 : exec mc la 0 c1 s = .ok (s1, .fall)) (h2 : exec mc la 0 c2 s1 = .ok (s2, .fall)) :
    execFwd mc la [c1, c2] s = .ok (s2, .fall) := by
  rw [execFwd_cons, h1]
  simp only [contFwd]
  exact execFwd_single h2

theorem toNat_table_addr {n pos : Nat} (h : n + 4 * pos < 2 ^ 64) :
    BitVec.ofNat 64 n + BitVec.ofNat 64 pos * 4#64 = BitVec.ofNat 64 (n + 4 * pos) := by
  apply BitVec.eq_of_toNat_eq
  rw [ThreeWay.toNat_table_addr (s := 4) (by decide) (by decide) h, BitVec.toNat_ofNat, Nat.mod_eq_of_lt h]

section LoadEnter

variable {mc : MonCfg} {cw : Nat → Word} {τ : Nat → Nat → Word} {pr : RV.Program} {ks : List Code}
  (L : Loaded pr ks) (hnd : (labs ks).Nodup) (hheap : mc.heap = false)

include L hnd hheap in
/-- both machines are at the `load` of a clause / method (after the jumps of `switch` / `invoke`, which only
change the scratch register): the fields of the block referenced by the last position are loaded -/
theorem load_enter_x3 {P : Abs.Program} {hooks : Bool} {prog : AxCut.Prog} {Q : Word → Ctx → Clauses → Prop}
    {Γ' Γ'' Δ : Ctx} {b : Binding}
    {ρ' vs : List Value} {v : Value} {s s' : Stmt} {cfg cfg4 : Config} {r : Word} {k4 : Nat}
    (R : RelX P hooks prog ⟨Γ' ++ [b], ρ' ++ [v], s⟩ cfg)
    (hchi : Γ'.map (·.chi) = Γ''.map (·.chi))
    (hbne : b.chi ≠ .ext)
    (hr : cfg.temps.get (2 * Γ'.length) = some r)
    (hB : RepB P hooks prog.types cfg.heap vs r) (hXB : Prov.XB P hooks prog.types Q cfg.heap τ vs r)
    (hkinds : vs.map Sim2.kindOf = Mock.kindsOf Δ)
    (hcap : 2 * (Γ'.length + Δ.length) + 2 < Mock.T_TEMP)
    (hst4 : stepsTo P k4 cfg cfg4)
    (h4heap : cfg4.heap = cfg.heap) (h4next : cfg4.next = cfg.next) (h4out : cfg4.out = cfg.out)
    (h4temps : ∀ t, t < 2 * (Γ'.length + 1) → cfg4.temps.get t = cfg.temps.get t)
    (hloadM : P.code[cfg4.pc]? = some (.load (Mock.kindsOf Δ) Γ'.length))
    (hcode : ∃ c c' ops, (codeStatementR mockSym hooks natRen prog.types s' (Γ'' ++ Δ)).run c = .ok (ops, c') ∧
      CodeAt P (cfg4.pc + 1) ops)
    {hs : HState} {ι : Nat → Nat} {st4 : State} (X4 : X3 mc cw τ (Γ' ++ [b]) cfg hs ι st4)
    {kl kl' : Nat} {lcode body : List Code}
    (hload : (load Δ Γ'').run kl = .ok (lcode, kl'))
    (hat4 : KAt ks st4.pc (lcode ++ body))
    (hcapX : Γ'.length + Δ.length ≤ 14)
    (CVh : CVals P hooks prog.types Q cw τ cfg.heap cfg.temps (Γ' ++ [b]) (ρ' ++ [v])) :
    ∃ cfg' st' hs', stepsTo P (k4 + 1) cfg cfg' ∧ Reach pr mc st4 st' ∧ FrLe hs hs' 0 ∧
      cfg'.out = cfg.out ∧ cfg'.next = cfg.next ∧
      RelX P hooks prog ⟨Γ'' ++ Δ, ρ' ++ vs, s'⟩ cfg' ∧
      X3 mc (loadCw cw Γ'.length (τ r.toNat)) τ (Γ'' ++ Δ) cfg' hs' ι st' ∧
      CVals P hooks prog.types Q (loadCw cw Γ'.length (τ r.toNat)) τ cfg'.heap cfg'.temps (Γ'' ++ Δ) (ρ' ++ vs) ∧
      KAt ks st'.pc body := by
  have hlen'' : Γ'.length = Γ''.length := by simpa using congrArg List.length hchi
  have hlenρ : ρ'.length = Γ'.length := by have := R.len; simpa using this
  have X4' : X3 mc cw τ (Γ'' ++ [b]) cfg hs ι st4 :=
    X4.ctxCongr (by simp only [List.map_append, hchi])
  obtain ⟨X0, C⟩ := (x3r_iff (la := pr.labelAddr)).1 X4'
  -- the machine of the code that starts here: the `load`, then the clause / the method
  obtain ⟨cfg', st5, hs', hstep, hn5, hpc5, hfr, hout', hnext', R', X', LP⟩ :=
    ThreeWay.load_mid (machine L hnd hheap (lcode ++ body)) R hchi hbne hr hB hkinds hcap h4heap h4next h4out h4temps
      hloadM hcode X0 hload (xat_self _) (pcAtR_zero hat4) (by show _ ≤ 28; omega)
  have hst' : stepsTo P (k4 + 1) cfg cfg' := stepsTo_trans P _ _ _ _ _ hst4 (stepsTo_one P _ _ hstep)
  have hat5 : KAt ks st5.pc body := by
    have := hpc5.1
    simpa using this
  exact ⟨cfg', st5, hs', hst', hn5, hfr, hout', hnext', R',
    X3R.ofM X' (cwOK_load C hlen'' hr LP),
    CVals.ofXC (Prov.XC.load CVh.toXC hlenρ hchi R.heap hst' R' hkinds (loadProv_cw hr LP)
      (fun r0 h0 => by obtain rfl := Option.some.inj (hr.symm.trans h0); exact hXB)) R'.vals, hat5⟩

end LoadEnter

section Switch3

variable {mc : MonCfg} {cw : Nat → Word} {τ : Nat → Nat → Word} {pr : RV.Program} {ks : List Code} (L : Loaded pr ks)
  (hnd : (labs ks).Nodup) (hheap : mc.heap = false) (hfitX : codeBase + 4 * icount ks < 2 ^ 64)

include L hnd hheap hfitX in
/-- the machine from the `switch` to the `load` of the selected clause -/
theorem switch_nav_rv {hooks : Bool} {types : List TypeDecl} {Γ' : Ctx} {b : Binding} {cfg : Config}
    {hs : HState} {ι : Nat → Nat} {st : State} {x : Ident} {ty : Ty} {clauses : Clauses} {fv : FV}
    {pos : Nat} {c : Clause}
    (X : X3 mc cw τ (Γ' ++ [b]) cfg hs ι st)
    (hb : b.var.id = x.id) (hfresh : ∀ b' ∈ Γ', b'.var.id ≠ x.id)
    (hclause : nthClause clauses pos = some c)
    (hword : cfg.temps.get (2 * Γ'.length + 1) = some (BitVec.ofNat 64 pos)) (hbchi : b.chi = .prd)
    {k k' : Nat} {items : List Code}
    (hrun : (codeStatementR rvBackend hooks natRen types (.switch x ty clauses fv) (Γ' ++ [b])).run k =
      .ok (items, k'))
    (hat : KAt ks st.pc items) :
    ∃ st4 kl kl' lcode kb' body, Reach pr mc st st4 ∧ X3 mc cw τ (Γ' ++ [b]) cfg hs ι st4 ∧
      (load c.ctx Γ').run kl = .ok (lcode, kl') ∧
      (codeStatementR rvBackend hooks natRen types c.body (Γ' ++ c.ctx)).run kl' = .ok (body, kb') ∧
      KAt ks st4.pc (lcode ++ body) := by
  simp only [codeStatementR, run_bind_ok, run_pure_ok, freshLabelStr_run_ok] at hrun
  obtain ⟨num, k1, ⟨rfl, rfl⟩, c1, k2, h1, c3, k3, h3, rfl, rfl⟩ := hrun
  have hdl : (Γ' ++ [b]).dropLast = Γ' := by simp
  rw [hdl] at h3
  obtain ⟨pre, post, kl, kl', lcode, kb', body,
      (hc3 : _ = pre ++ Code.LAB (clauseLabel _ c.xtor) :: (lcode ++ (body ++ post))),
      (hload : (load c.ctx Γ').run kl = .ok (lcode, kl')), hbody⟩ :=
    ThreeWay.codeClauses_nth rvBackend hooks natRen types Γ' clauses _ pos c _ _ _ h3 hclause
  have hposlt := nthClause_lt clauses pos c hclause
  generalize hc0 : hookCode rvBackend hooks (Γ' ++ [b]) ++
      [rvBackend.comment ("switch " ++ x.print ++ " \\{ ... \\};")] = c0 at hat
  have hc0c : ∀ y ∈ c0, ∃ m', y = Code.COMMENT m' := by rw [← hc0]; exact hook_comments hooks _ _
  have hlblne : mangleTy ty ++ "_" ++ natRen (k + 1) ≠ "cleanup" := table_ne_cleanup _ _
  have hclne : clauseLabel (mangleTy ty ++ "_" ++ natRen (k + 1)) c.xtor ≠ "cleanup" := by
    unfold clauseLabel; exact table_ne_cleanup _ _
  generalize hlbl : mangleTy ty ++ "_" ++ natRen (k + 1) = lbl at *
  have hxl : rvBackend.label lbl = Code.LAB lbl := rfl
  rw [hxl] at hat
  by_cases hle : clauses.length ≤ 1
  · -- a single clause: comments and labels only
    have hpos0 : pos = 0 := by omega
    subst hpos0
    simp only [hle, if_true, run_pure_ok] at h1
    obtain ⟨rfl, rfl⟩ := h1
    have hgt : ¬ (clauses.length > 1) := by omega
    simp only [hgt, if_false] at hat
    obtain ⟨post0, kl0', lcode0, kb0', body0,
        (hc30 : _ = Code.LAB (clauseLabel lbl c.xtor) :: (lcode0 ++ (body0 ++ post0))),
        (hload0 : (load c.ctx Γ').run _ = .ok (lcode0, kl0')), hbody0⟩ :=
      ThreeWay.codeClauses_head rvBackend hooks natRen types Γ' clauses lbl c _ _ _ h3 hclause
    rw [hc30] at hat
    have hxc : rvBackend.comment "#there is only one clause, so we can just fall through" =
        Code.COMMENT "#there is only one clause, so we can just fall through" := rfl
    rw [hxc] at hat
    have hatN : KAt ks st.pc ((c0 ++ [Code.COMMENT "#there is only one clause, so we can just fall through"]) ++
        (Code.LAB lbl :: (Code.LAB (clauseLabel lbl c.xtor) :: ((lcode0 ++ body0) ++ post0)))) := by
      simpa [List.append_assoc] using hat
    obtain ⟨pc0, k0, hr0, hat0⟩ := pass_comments L hnd hheap hatN (by
      intro y hy
      simp only [List.mem_append, List.mem_cons, List.not_mem_nil, or_false] at hy
      rcases hy with hy | rfl
      · exact hc0c y hy
      · exact ⟨_, rfl⟩)
    obtain ⟨hr1, hat1⟩ := pass_label L (cfg := mc) (s := setPS st pc0 k0) hat0 hlblne
    obtain ⟨hr2, hat2⟩ := pass_label L (cfg := mc)
      (s := setPS (setPS st pc0 k0) ((setPS st pc0 k0).pc + 1) (setPS st pc0 k0).steps) hat1 hclne
    exact ⟨_, _, _, lcode0, _, body0, hr0.trans (hr1.trans hr2), X3R.setPS (X3R.setPS (X3R.setPS X _ _) _ _) _ _,
      hload0, hbody0, hat2.left⟩
  · -- a jump table
    have hgt : clauses.length > 1 := by omega
    simp only [hle, if_false, run_bind_ok, run_pure_ok] at h1
    obtain ⟨tt, k4, htt, rfl, rfl⟩ := h1
    obtain ⟨q, hq, hlt, rfl, rfl⟩ := (rv_vt_run_ok _ _ _ _ _ _).1 htt
    have hq' : q = Γ'.length := by
      have := posOf_append_fresh Γ' b (fun b' hb' => by rw [hb]; exact hfresh b' hb')
      rw [hb] at this
      rw [this] at hq
      exact (Option.some.inj hq).symm
    subst hq'
    simp only [TempNum.toNat] at hlt
    simp only [hgt, if_true] at hat
    have hBe : rvBackend.loadLabel rvBackend.temp lbl ++
        rvBackend.binop BinOp.sum rvBackend.temp rvBackend.temp (posTemp (2 * Γ'.length + TempNum.snd.toNat)) ++
        rvBackend.jump rvBackend.temp =
        [Code.LA TEMP lbl, Code.ADD TEMP TEMP (posTemp (2 * Γ'.length + 1))] ++ [Code.JALR ZERO TEMP 0] := rfl
    rw [hBe] at hat
    generalize hT : codeTable rvBackend clauses lbl = table at hat
    have htab : table[pos]? = some (.JAL ZERO (clauseLabel lbl c.xtor)) := by
      rw [← hT]; exact ThreeWay.codeTable_nth rvBackend (j := Code.JAL ZERO) (fun _ => rfl) lbl clauses pos c hclause
    have htlen : table.length = clauses.length := by rw [← hT]; exact ThreeWay.codeTable_length rvBackend (j := Code.JAL ZERO) (fun _ => rfl) lbl clauses
    have htins : ∀ y ∈ table, y.isInstr = true := by rw [← hT]; exact rv_codeTable_instr lbl clauses
    rw [hc3] at hat
    have hatA : KAt ks st.pc (c0 ++ ([Code.LA TEMP lbl, Code.ADD TEMP TEMP (posTemp (2 * Γ'.length + 1))] ++
        (Code.JALR ZERO TEMP 0 :: (Code.LAB lbl :: (table ++ (pre ++ Code.LAB (clauseLabel lbl c.xtor) ::
          (lcode ++ (body ++ post)))))))) := by
      simpa [List.append_assoc] using hat
    -- the comments
    obtain ⟨pca, ka, hra, hata⟩ := pass_comments L hnd hheap hatA hc0c
    have Xa : X3 mc cw τ (Γ' ++ [b]) cfg hs ι (setPS st pca ka) := X3R.setPS X _ _
    replace hata : KAt ks (setPS st pca ka).pc ([Code.LA TEMP lbl, Code.ADD TEMP TEMP (posTemp (2 * Γ'.length + 1))] ++
        (Code.JALR ZERO TEMP 0 :: (Code.LAB lbl :: (table ++ (pre ++ Code.LAB (clauseLabel lbl c.xtor) ::
          (lcode ++ (body ++ post))))))) := hata
    generalize setPS st pca ka = sa at hra Xa hata
    -- the positions of the jump, the table label and the table
    obtain ⟨kab, _, hkab, hatJ⟩ := hata.split
    have hkab' : kab = [Code.LA TEMP lbl, Code.ADD TEMP TEMP (posTemp (2 * Γ'.length + 1))] :=
      hkab.noncomments (fun y hy => by simp at hy; rcases hy with rfl | rfl <;> rfl)
    subst hkab'
    simp only [List.length_cons, List.length_nil] at hatJ
    obtain ⟨hgJ, hatL⟩ := hatJ.head rfl
    obtain ⟨hgL, hatT⟩ := hatL.head rfl
    generalize hiJ : sa.pc + (0 + 1 + 1) = iJ at hgJ hatL hgL hatT
    obtain ⟨kt, ⟨kT1, kTrest, ekT, hkT1⟩, hkt, hatC⟩ := hatT.split
    have hkt' : table = kt := (hkt.noncomments (fun y hy => isComment_of_isInstr (htins y hy))).symm
    subst hkt'
    have hiL := labIdx_of_nodup hnd hgL
    have hlA := L.labelAddr hiL
    generalize hA : codeBase + 4 * icount (ks.take (iJ + 1)) = A at hlA
    have hAeven : A % 2 = 0 := by rw [← hA]; unfold codeBase; omega
    -- the prefix of the kept codes up to the table
    have hk1 : kT1 = ks.take (iJ + 1 + 1) := by
      rw [ekT, List.append_assoc, List.take_left' hkT1]
    have htakeL : ks.take (iJ + 1 + 1) = ks.take (iJ + 1) ++ [Code.LAB lbl] := by
      have hlt' : iJ + 1 < ks.length := (List.getElem?_eq_some_iff.1 hgL).1
      rw [List.take_succ_eq_append_getElem hlt']
      rw [List.getElem?_eq_getElem hlt'] at hgL
      rw [Option.some.inj hgL]
    have htakeJ : ks.take (iJ + 1) = ks.take iJ ++ [Code.JALR ZERO TEMP 0] := by
      have hlt' : iJ < ks.length := (List.getElem?_eq_some_iff.1 hgJ).1
      rw [List.take_succ_eq_append_getElem hlt']
      rw [List.getElem?_eq_getElem hlt'] at hgJ
      rw [Option.some.inj hgJ]
    have hj : iJ + 1 + 1 + pos < ks.length := by
      rw [ekT]; simp [hkT1]; omega
    have hgj : ks[iJ + 1 + 1 + pos]? = some (Code.JAL ZERO (clauseLabel lbl c.xtor)) := by
      rw [ekT, List.append_assoc, List.getElem?_append_right (by omega), hkT1]
      simp only [Nat.add_sub_cancel_left]
      rw [List.getElem?_append_left (by omega)]
      exact htab
    have htakej : ks.take (iJ + 1 + 1 + pos) = ks.take (iJ + 1 + 1) ++ table.take pos := by
      rw [← hk1]
      conv => lhs; rw [ekT, List.append_assoc, ← hkT1, List.take_length_add_append]
      rw [List.take_append_of_le_length (by omega)]
    have hicj : icount (ks.take (iJ + 1 + 1 + pos)) = icount (ks.take (iJ + 1)) + pos := by
      rw [htakej, htakeL, icount_append, icount_append, icount_single,
        icount_all_instr (fun y hy => htins y (List.mem_of_mem_take hy))]
      simp [Code.isInstr]
      omega
    have hbound : A + 4 * pos < 2 ^ 64 := by
      have := icount_take_le ks (iJ + 1 + 1 + pos)
      rw [hicj] at this
      omega
    -- the address computation
    have hxw : rv sa (2 * Γ'.length + 1) = some (BitVec.ofNat 64 pos * 4#64) := by
      have := Xa.words Γ'.length (by simp) _ hword
      simpa [hbchi, trW] using this
    have hwf := Xa.bnd.wf
    have hex1 : exec mc pr.labelAddr 0 (Code.LA TEMP lbl) sa =
        .ok (sa.writeReg TEMP (BitVec.ofNat 64 A), .fall) := exec_LA mc pr.labelAddr 0 sa hlA
    have hr1 : (sa.writeReg TEMP (BitVec.ofNat 64 A)).readReg TEMP = .ok (BitVec.ofNat 64 A) :=
      readReg_writeReg_same hwf temp_usable _
    have hr1t : (sa.writeReg TEMP (BitVec.ofNat 64 A)).readReg (posTemp (2 * Γ'.length + 1)) =
        .ok (BitVec.ofNat 64 pos * 4#64) := by
      rw [readReg_writeReg_other sa (by simp [posReg])]
      exact readReg_of_rv hxw
    have hex2 := exec_ADD mc pr.labelAddr 0 (x := TEMP) hr1 hr1t
    rw [toNat_table_addr hbound] at hex2
    generalize hsb : (sa.writeReg TEMP (BitVec.ofNat 64 A)).writeReg TEMP (BitVec.ofNat 64 (A + 4 * pos)) = sb at hex2
    have hKb : Keep sa sb (fun u => u = 1) := by
      rw [← hsb]
      have := (keep_writeReg hwf TEMP (BitVec.ofNat 64 A)).trans
        (keep_writeReg (writeReg_wf hwf TEMP _) TEMP (BitVec.ofNat 64 (A + 4 * pos)))
      exact ⟨this.wf, this.mem, fun r h1 h2 hc => this.regs r h1 h2 (fun h => hc (by rcases h with h | h <;> exact h))⟩
    have hrb : sb.readReg TEMP = .ok (BitVec.ofNat 64 (A + 4 * pos)) := by
      rw [← hsb]; exact readReg_writeReg_same (writeReg_wf hwf TEMP _) temp_usable _
    obtain ⟨pcb, kb, hrb', hatb⟩ := exec_block L hnd hheap hata
      (fun y hy => by simp at hy; rcases hy with rfl | rfl <;> rfl) (by simp) (execFwd_two hex1 hex2)
    have Xb : X3 mc cw τ (Γ' ++ [b]) cfg hs ι (setPS sb pcb kb) :=
      X3R.setPS (X3R.keep Xa hKb (fun t _ => by simp [posReg]) (by decide) (by decide)) _ _
    -- the jump through TEMP lands on the table entry
    have hjx : ∀ a', exec mc pr.labelAddr a' (Code.JALR ZERO TEMP 0) (setPS sb pcb kb) =
        .ok (setPS sb pcb kb, .addr (BitVec.ofNat 64 (A + 4 * pos))) := fun a' =>
      exec_JALR_zero mc pr.labelAddr a' (s := setPS sb pcb kb) hrb (by omega)
    have hji : ks[iJ + 1 + 1 + pos].isInstr = true := by
      rw [List.getElem?_eq_getElem hj] at hgj
      rw [Option.some.inj hgj]; rfl
    have hrc := step_addr L (cfg := mc) (s := setPS sb pcb kb) hatb rfl hjx hj hji
      (by rw [ofNat_toNat_lt hbound, hicj, ← hA]; omega)
    -- from the landing item to the table entry
    have hland : Reach pr mc
        (setPS (setPS sb pcb kb) ((pendOf (ks.take (iJ + 1 + 1 + pos))).getD (iJ + 1 + 1 + pos))
          ((setPS sb pcb kb).steps + 1))
        (setPS (setPS sb pcb kb) (iJ + 1 + 1 + pos) ((setPS sb pcb kb).steps + 1)) := by
      cases pos with
      | zero =>
        have hp : pendOf (ks.take (iJ + 1 + 1 + 0)) = some (iJ + 1) := by
          rw [Nat.add_zero, htakeL, pendOf_snoc, htakeJ, pendOf_snoc]
          simp [pendStep, List.length_take]
          have hlt' : iJ < ks.length := (List.getElem?_eq_some_iff.1 hgJ).1
          omega
        rw [hp]
        simp only [Option.getD_some, Nat.add_zero]
        have hatL' : KAt ks (setPS (setPS sb pcb kb) (iJ + 1) ((setPS sb pcb kb).steps + 1)).pc
            (Code.LAB lbl :: (table ++ (pre ++ Code.LAB (clauseLabel lbl c.xtor) :: (lcode ++ (body ++ post))))) :=
          hatL
        exact (pass_label L (cfg := mc) hatL' hlblne).1
      | succ p' =>
        have hp : pendOf (ks.take (iJ + 1 + 1 + (p' + 1))) = none := by
          have hlt' : iJ + 1 + 1 + p' < ks.length := by omega
          rw [show iJ + 1 + 1 + (p' + 1) = (iJ + 1 + 1 + p') + 1 by omega, List.take_succ_eq_append_getElem hlt',
            pendOf_snoc]
          have hg' : ks[iJ + 1 + 1 + p']? = table[p']? := by
            rw [ekT, List.append_assoc, List.getElem?_append_right (by omega), hkT1]
            simp only [Nat.add_sub_cancel_left]
            rw [List.getElem?_append_left (by omega)]
          have hin : (ks[iJ + 1 + 1 + p']).isInstr = true := by
            have h1 : p' < table.length := by omega
            rw [List.getElem?_eq_getElem hlt', List.getElem?_eq_getElem h1] at hg'
            rw [Option.some.inj hg']
            exact htins _ (List.getElem_mem h1)
          exact pendStep_of_isInstr _ _ hin
        rw [hp]
        exact Reach.refl _ _ _
    generalize hsc : setPS (setPS sb pcb kb) (iJ + 1 + 1 + pos) ((setPS sb pcb kb).steps + 1) = sc at hland
    have Xc : X3 mc cw τ (Γ' ++ [b]) cfg hs ι sc := by rw [← hsc]; exact X3R.setPS Xb _ _
    have hscpc : sc.pc = iJ + 1 + 1 + pos := by rw [← hsc]; rfl
    -- the table entry jumps to the clause
    have hatE : KAt ks sc.pc (Code.JAL ZERO (clauseLabel lbl c.xtor) :: []) := by
      rw [hscpc]
      refine ⟨ks.take (iJ + 1 + 1 + pos), [Code.JAL ZERO (clauseLabel lbl c.xtor)], ks.drop (iJ + 1 + 1 + pos + 1),
        ?_, by simp [List.length_take]; omega, .keep rfl .nil⟩
      rw [List.append_assoc, List.singleton_append]
      have := List.getElem?_eq_getElem hj
      rw [hgj] at this
      rw [Option.some.inj this, ← List.drop_eq_getElem_cons hj, List.take_append_drop]
    obtain ⟨iC, hgC, hatB⟩ := hatC.lab_at
    have hrd := step_label L (cfg := mc) (s := sc) (s1 := sc) (l := clauseLabel lbl c.xtor) (i := iC) hatE rfl
      (fun a' => exec_JAL_zero mc _ a' _ _) (labIdx_of_nodup hnd hgC)
    -- the label of the clause
    have hatCl : KAt ks (setPS sc iC (sc.steps + 1)).pc
        (Code.LAB (clauseLabel lbl c.xtor) :: (lcode ++ (body ++ post))) := KAt.of_label hgC hatB
    obtain ⟨hre, hatF⟩ := pass_label L (cfg := mc) hatCl hclne
    refine ⟨_, kl, kl', lcode, kb', body,
      hra.trans (hrb'.trans (hrc.trans (hland.trans (hrd.trans hre)))),
      X3R.setPS (X3R.setPS Xc _ _) _ _, hload, hbody, ?_⟩
    have : KAt ks (setPS (setPS sc iC (sc.steps + 1)) ((setPS sc iC (sc.steps + 1)).pc + 1)
        (setPS sc iC (sc.steps + 1)).steps).pc ((lcode ++ body) ++ post) := by
      rw [List.append_assoc]; exact hatF
    exact this.left

include L hnd hheap hfitX in
/-- `switch` on the three machines: `switch_nav_abs`, `switch_nav_rv`, then `load_enter_x3` -/
theorem switch_x3 {P : Abs.Program} {hooks : Bool} {prog : AxCut.Prog} {Γ' : Ctx} {b : Binding}
    {ρ' : List Value} {pos : Nat} {fields : List Value} {x : Ident} {ty : Ty} {clauses : Clauses}
    {fv : FV} {cfg : Config} {c : Clause}
    (R : RelX P hooks prog ⟨Γ' ++ [b], ρ' ++ [.obj pos fields], .switch x ty clauses fv⟩ cfg)
    (hfits : Fits P)
    (hb : b.var.id = x.id) (hfresh : ∀ b' ∈ Γ', b'.var.id ≠ x.id)
    (hclause : nthClause clauses pos = some c)
    (hkinds : fields.map Sim2.kindOf = Mock.kindsOf c.ctx)
    (hcap : 2 * (Γ'.length + c.ctx.length) + 2 < Mock.T_TEMP)
    {hs : HState} {ι : Nat → Nat} {st : State} (X : X3 mc cw τ (Γ' ++ [b]) cfg hs ι st)
    {k k' : Nat} {items : List Code}
    (hrun : (codeStatementR rvBackend hooks natRen prog.types (.switch x ty clauses fv) (Γ' ++ [b])).run k =
      .ok (items, k'))
    (hat : KAt ks st.pc items)
    (hcapX : Γ'.length + c.ctx.length ≤ 14)
    {Q : Word → Ctx → Clauses → Prop}
    (CVh : CVals P hooks prog.types Q cw τ cfg.heap cfg.temps (Γ' ++ [b]) (ρ' ++ [.obj pos fields])) :
    ∃ kk cfg' st' hs', stepsTo P kk cfg cfg' ∧ Reach pr mc st st' ∧ FrLe hs hs' 0 ∧
      cfg'.out = cfg.out ∧ cfg'.next = cfg.next ∧
      RelX P hooks prog ⟨Γ' ++ c.ctx, ρ' ++ fields, c.body⟩ cfg' ∧
      (∃ r, cfg.temps.get (2 * Γ'.length) = some r ∧
        X3 mc (loadCw cw Γ'.length (τ r.toNat)) τ (Γ' ++ c.ctx) cfg' hs' ι st' ∧
        CVals P hooks prog.types Q (loadCw cw Γ'.length (τ r.toNat)) τ cfg'.heap cfg'.temps (Γ' ++ c.ctx)
          (ρ' ++ fields)) ∧
      ∃ k1 k1' items', (codeStatementR rvBackend hooks natRen prog.types c.body (Γ' ++ c.ctx)).run k1 =
          .ok (items', k1') ∧ KAt ks st'.pc items' := by
  obtain ⟨k4, cfg4, r, hst4, h4heap, h4next, h4out, h4temps, hloadM, hcode, hr, hB, hword, hbchi⟩ :=
    switch_nav_abs R hfits hb hfresh hclause
  obtain ⟨st4, kl, kl', lcode, kb', body, hn4, X4, hload, hbody, hat4⟩ :=
    switch_nav_rv L hnd hheap hfitX X hb hfresh hclause hword hbchi hrun hat
  have hbne : b.chi ≠ .ext := by rw [hbchi]; decide
  have hlenρ : ρ'.length = Γ'.length := by have := R.len; simpa using this
  obtain ⟨cfg', st', hs', hst', hn5, hfr, hout', hnext', R', X', CV', hat5⟩ :=
    load_enter_x3 L hnd hheap (Γ'' := Γ') (Δ := c.ctx) (s' := c.body) R rfl hbne hr hB
      (Prov.XC.last_obj CVh.toXC hlenρ hbchi (by rw [cwTv_snd]; rfl) r hr) hkinds hcap hst4 h4heap h4next h4out
      h4temps hloadM hcode X4 hload hat4 hcapX CVh
  exact ⟨k4 + 1, cfg', st', hs', hst', hn4.trans hn5, hfr, hout', hnext', R', ⟨r, hr, X', CV'⟩, kl', kb', body,
    hbody, hat5⟩

end Switch3

end Scc.RV.Ref
