/-
  Scc.RV.RefInt — what the three-way lemmas of RV64 share: the runs of `variable_temporary` / `fresh_temporary`
  (`rv_vt_run_ok`, `rv_ft_run_ok`), what an abstract step keeps that writes neither the heap nor the positions
  (`FrameFacts`), `X3` along a jump of the abstract machine, where a label inside code that lies in the kept codes
  stands (`KAt.lab_from`, `KAt.lab_at`).
  The statements that do not touch the heap (`lit`, `op`, `ifc`): Scc/RV/RefIntStep.lean.
-/
import Scc.RV.RefX3
import Scc.Backend.ProofsSim2
import Scc.Backend.ThreeWayInt

namespace Scc.RV.Ref

open Scc.AxCut Scc.Backend Scc.Backend.Abs Scc.Backend.Sim
open Scc.Heap (HState InvS InvW)
open Scc.Heap.Refine (HRef)

theorem getPosition_go (id : Nat) : ∀ (Γ : Ctx) (k : Nat),
    getPosition.go id Γ k = (Γ.findIdx? (fun b => b.var.id == id)).map (· + k)
  | [], k => rfl
  | b :: bs, k => by
    simp only [getPosition.go, List.findIdx?_cons]
    by_cases h : (b.var.id == id) = true
    · simp [h]
    · simp only [h, if_false, Bool.false_eq_true]
      rw [getPosition_go id bs (k + 1)]
      cases List.findIdx? (fun b => b.var.id == id) bs <;> simp [Nat.add_assoc, Nat.add_comm 1]

theorem getPosition_eq_posOf (Γ : Ctx) (id : Nat) : getPosition Γ id = Pos.posOf Γ id := by
  unfold Pos.posOf getPosition
  rw [getPosition_go]
  cases List.findIdx? (fun b => b.var.id == id) Γ <;> simp

theorem positionRegister_run (num : TempNum) (pos c : Nat) (t : Register) (c' : Nat) :
    (positionRegister num pos).run c = .ok (t, c') ↔
      2 * pos + num.toNat < 28 ∧ t = posTemp (2 * pos + num.toNat) ∧ c = c' := by
  unfold positionRegister
  dsimp only
  by_cases h : 2 * pos + num.toNat + reserved < registerNum
  · rw [if_pos h, run_pure_ok]
    simp only [reserved, registerNum] at h
    constructor
    · rintro ⟨rfl, rfl⟩; exact ⟨by omega, rfl, rfl⟩
    · rintro ⟨_, rfl, rfl⟩; exact ⟨rfl, rfl⟩
  · rw [if_neg h, run_throw_ok]
    simp only [reserved, registerNum] at h
    constructor
    · intro hf; exact hf.elim
    · rintro ⟨h', _⟩; omega

theorem rv_vt_run_ok (num : TempNum) (ctx : Ctx) (id : Nat) (c : Nat) (t : Register) (c' : Nat) :
    (rvBackend.variableTemporary num ctx id).run c = .ok (t, c') ↔
      ∃ pos, Pos.posOf ctx id = some pos ∧ 2 * pos + num.toNat < 28 ∧
        t = posTemp (2 * pos + num.toNat) ∧ c = c' := by
  show (variableTemporary num ctx id).run c = .ok (t, c') ↔ _
  unfold variableTemporary
  rw [getPosition_eq_posOf]
  cases hp : Pos.posOf ctx id with
  | none => simp [run_throw_ok]
  | some pos =>
    simp only [Option.some.injEq, exists_eq_left', positionRegister_run]

theorem rv_ft_run_ok (num : TempNum) (ctx : Ctx) (c : Nat) (t : Register) (c' : Nat) :
    (rvBackend.freshTemporary num ctx).run c = .ok (t, c') ↔
      2 * ctx.length + num.toNat < 28 ∧ t = posTemp (2 * ctx.length + num.toNat) ∧ c = c' :=
  positionRegister_run num ctx.length c t c'

theorem execFwd_single {mc : MonCfg} {la : String → Option Nat} {c : Code} {s s1 : State}
    (h : exec mc la 0 c s = .ok (s1, .fall)) : execFwd mc la [c] s = .ok (s1, .fall) := by
  rw [execFwd_cons, h]
  simp only [contFwd]
  exact execFwd_nil mc la s1

/-- `Abs.getT_done` (Scc/Backend/ProofsAbsStep.lean) under the name the RV64 statements use -/
theorem getT_done {σ : Temps} {t : Nat} {k : Word → StepRes} {w : Word}
    (h : getT σ t k = .halt (.done w)) : ∃ v, σ.get t = some v ∧ k v = .halt (.done w) :=
  Scc.Backend.Abs.getT_done h

/-- what an abstract step keeps that writes neither the heap nor the temporaries of the positions below `n` -/
structure FrameFacts (cfg cfg' : Config) (n : Nat) : Prop where
  heap : cfg'.heap = cfg.heap
  low : ∀ t, t < 2 * n → cfg'.temps.get t = cfg.temps.get t

theorem JumpFacts.frame {cfg cfg' : Config} (J : JumpFacts cfg cfg') {n : Nat} (hn : 2 * n ≤ Mock.T_TEMP) :
    FrameFacts cfg cfg' n :=
  ⟨J.heap, fun t ht => by rw [J.temps, get_clobberTemp _ (by omega)]⟩

theorem X3.jump {mc : MonCfg} {cw : Nat → Word} {τ : Nat → Nat → Word} {Γ : Ctx} {cfg cfg' : Config} {hs : HState} {ι : Nat → Nat}
    {st : State} (X : X3 mc cw τ Γ cfg hs ι st) (J : JumpFacts cfg cfg') : X3 mc cw τ Γ cfg' hs ι st :=
  X.absCongr (fun t ht => by
    rw [J.temps, get_clobberTemp _ (by unfold Mock.T_TEMP; have := X.cap; omega)]) J.heap J.next

theorem KAt.lab_from {ks : List Code} {pc : Nat} {a b : List Code} {l : String}
    (h : KAt ks pc (a ++ Code.LAB l :: b)) : ∃ j, ks[j]? = some (Code.LAB l) ∧ KAt ks j (Code.LAB l :: b) := by
  obtain ⟨ka, _, _, h2⟩ := h.split
  exact ⟨_, (h2.head rfl).1, h2⟩

theorem KAt.lab_at {ks : List Code} {pc : Nat} {a b : List Code} {l : String}
    (h : KAt ks pc (a ++ Code.LAB l :: b)) : ∃ j, ks[j]? = some (Code.LAB l) ∧ KAt ks (j + 1) b := by
  obtain ⟨j, hj, h2⟩ := h.lab_from
  exact ⟨j, hj, (h2.head rfl).2⟩

theorem binop_single (o : BinOp) (t a b : Register) :
    ∃ c, rvBackend.binop o t a b = [c] ∧ PcFree c = true ∧ c.isInstr = true := by
  cases o <;> exact ⟨_, rfl, rfl, rfl⟩

end Scc.RV.Ref
