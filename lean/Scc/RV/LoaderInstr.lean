/-
  Scc.RV.LoaderInstr — the loader `parseLine` (Scc/RV/Machine.lean) reads every line that the printer
  `printCode` (Scc/RV/Instr.lean) produces back, for EVERY constructor of `Scc.RV.Code`: an instruction whose
  registers are `X0 .. X31` and whose label is a token is read back as itself, and its printed form is one line
  (`reads_instr`; 19 forms; `ADDI` is printed `ADD rd rs imm` and told from `ADD` by its third operand);
  `LAB l` prints as an empty line (skipped) and `l:`, which must not start with `//`; `COMMENT m` is read as
  `COMMENT (rtrim m)` for EVERY `m` (the loader trims the line): `parsedCode c` is what an item is read as.
-/
import Scc.RV.LoaderLemmas
import Scc.RV.RefLayout

namespace Scc.RV.Loader

open Scc.RV.Ref Scc.Str

def regsOf : Code → List Register
  | .ADD x y z | .SUB x y z | .MUL x y z | .DIV x y z | .REM x y z => [x, y, z]
  | .ADDI x y _ | .JALR x y _ | .MV x y | .LW x y _ | .SW x y _ => [x, y]
  | .BEQ x y _ | .BNE x y _ | .BLT x y _ | .BLE x y _ | .BGT x y _ | .BGE x y _ => [x, y]
  | .JAL x _ | .LA x _ | .LI x _ => [x]
  | .LAB _ | .COMMENT _ => []

def RegsOK (c : Code) : Prop := ∀ r ∈ regsOf c, r.n < registerNum

/-- a referenced label: not empty, no white space -/
def LabelOK (l : String) : Prop := Tok l.toList

/-- a defined label: moreover it does not start with `//` -/
def LabelDefOK (l : String) : Prop := Tok l.toList ∧ NoSlash l.toList

theorem forall_tok_nil : ∀ w ∈ ([] : List (List Char)), Tok w := fun _ h => by simp at h

theorem forall_tok_cons {a : List Char} {l : List (List Char)} (ha : Tok a) (hl : ∀ w ∈ l, Tok w) :
    ∀ w ∈ a :: l, Tok w := by
  intro w hw
  simp only [List.mem_cons] at hw
  rcases hw with rfl | hw
  · exact ha
  · exact hl w hw

theorem tok_of_check {w : List Char} (h : (!w.isEmpty && w.all (fun c => !c.isWhitespace)) = true) : Tok w := by
  simp only [Bool.and_eq_true, Bool.not_eq_true', List.all_eq_true] at h
  exact ⟨fun e => by rw [e] at h; simp at h, h.2⟩

/-! ## the printed forms as token lines -/

section Printed

variable (x y z : Register) (c : Int) (l : String)

/-- the printed form of an instruction is the line of its tokens: `String.ext`, then `simp` with the printer -/
local macro "pr" : tactic =>
  `(tactic| (apply String.ext
             simp [printCode, toString_str, print_eq, toList_repr_int, String.toList_append, tokLine_cons,
               tokLine_single]))

theorem p_ADD : printCode (.ADD x y z) = String.ofList (tokLine "ADD".toList [regC x, regC y, regC z]) := by pr
theorem p_ADDI : printCode (.ADDI x y c) = String.ofList (tokLine "ADD".toList [regC x, regC y, immC c]) := by pr
theorem p_SUB : printCode (.SUB x y z) = String.ofList (tokLine "SUB".toList [regC x, regC y, regC z]) := by pr
theorem p_MUL : printCode (.MUL x y z) = String.ofList (tokLine "MUL".toList [regC x, regC y, regC z]) := by pr
theorem p_DIV : printCode (.DIV x y z) = String.ofList (tokLine "DIV".toList [regC x, regC y, regC z]) := by pr
theorem p_REM : printCode (.REM x y z) = String.ofList (tokLine "REM".toList [regC x, regC y, regC z]) := by pr
theorem p_JAL : printCode (.JAL x l) = String.ofList (tokLine "JAL".toList [regC x, l.toList]) := by pr
theorem p_JALR : printCode (.JALR x y c) = String.ofList (tokLine "JALR".toList [regC x, regC y, immC c]) := by pr
theorem p_LA : printCode (.LA x l) = String.ofList (tokLine "LA".toList [regC x, l.toList]) := by pr
theorem p_LI : printCode (.LI x c) = String.ofList (tokLine "LI".toList [regC x, immC c]) := by pr
theorem p_MV : printCode (.MV x y) = String.ofList (tokLine "MV".toList [regC x, regC y]) := by pr
theorem p_LW : printCode (.LW x y c) = String.ofList (tokLine "LW".toList [regC x, immC c, regC y]) := by pr
theorem p_SW : printCode (.SW x y c) = String.ofList (tokLine "SW".toList [regC x, immC c, regC y]) := by pr
theorem p_BEQ : printCode (.BEQ x y l) = String.ofList (tokLine "BEQ".toList [regC x, regC y, l.toList]) := by pr
theorem p_BNE : printCode (.BNE x y l) = String.ofList (tokLine "BNE".toList [regC x, regC y, l.toList]) := by pr
theorem p_BLT : printCode (.BLT x y l) = String.ofList (tokLine "BLT".toList [regC x, regC y, l.toList]) := by pr
theorem p_BLE : printCode (.BLE x y l) = String.ofList (tokLine "BLE".toList [regC x, regC y, l.toList]) := by pr
theorem p_BGT : printCode (.BGT x y l) = String.ofList (tokLine "BGT".toList [regC x, regC y, l.toList]) := by pr
theorem p_BGE : printCode (.BGE x y l) = String.ofList (tokLine "BGE".toList [regC x, regC y, l.toList]) := by pr

end Printed

theorem parseLabelRef?_tok {l : String} (h : LabelOK l) : parseLabelRef? l = some l := by
  have := parseLabelRef?_ofList h.1
  rwa [String.ofList_toList] at this

abbrev Reads (code : Code) : Prop :=
  parseLine (printCode code) = some (some code) ∧ '\n' ∉ (printCode code).toList

/-- the tokens of a printed instruction are tokens -/
local macro "toks" : tactic =>
  `(tactic| (
      repeat (first
        | exact forall_tok_nil
        | (refine forall_tok_cons ?_ ?_; rotate_left))
      all_goals first
        | exact tok_regC _
        | exact tok_immC _
        | assumption
        | exact tok_of_check (by decide)))

/-- reading a line of tokens whose first token is the mnemonic `mn` -/
theorem reads_of (code : Code) (mn : String) (ws : List (List Char))
    (hp : printCode code = String.ofList (tokLine mn.toList ws))
    (hall : ∀ w ∈ mn.toList :: ws, Tok w) (hs : mn.toList.head? ≠ some '/')
    (hm : ∀ t : String, t.trimAscii.toString = t → t.isEmpty = false → t.startsWith "// " = false →
      t.startsWith "//" = false → words t = mn :: ws.map String.ofList → parseLine t = some (some code)) :
    Reads code := by
  obtain ⟨h1, h2, h3, h4, h5⟩ := tokLine_facts mn.toList ws hall (noSlash_of_head hs)
  refine ⟨?_, ?_⟩
  · rw [hp]
    refine hm _ h1 h2 h3 h4 ?_
    rw [h5, List.map_cons, String.ofList_toList]
  · rw [hp, String.toList_ofList]
    exact tokLine_no_nl _ _ hall

/-- evaluate `parseLine` on a line whose words are known -/
local macro "rd" "[" extra:Lean.Parser.Tactic.simpLemma,* "]" : tactic =>
  `(tactic| (
      intro t h1 h2 h3 h4 h5
      unfold parseLine
      simp only [h1, h2, h3, h4, h5, Bool.false_eq_true, if_false, List.map_cons, List.map_nil,
        parseReg?_immC, parseImm?_immC, Option.map_some, parseRRR, parseRRL, String.ofList_toList, $extra,*]))

section Reads

variable {x y z : Register} {c : Int} {l : String}

theorem r_ADD (hx : x.n < registerNum) (hy : y.n < registerNum) (hz : z.n < registerNum) : Reads (.ADD x y z) := by
  refine reads_of _ "ADD" [regC x, regC y, regC z] (p_ADD x y z) (by toks) (by decide) ?_
  rd [parseReg?_regC _ hx, parseReg?_regC _ hy, parseReg?_regC _ hz]

theorem r_SUB (hx : x.n < registerNum) (hy : y.n < registerNum) (hz : z.n < registerNum) : Reads (.SUB x y z) := by
  refine reads_of _ "SUB" [regC x, regC y, regC z] (p_SUB x y z) (by toks) (by decide) ?_
  rd [parseReg?_regC _ hx, parseReg?_regC _ hy, parseReg?_regC _ hz]

theorem r_MUL (hx : x.n < registerNum) (hy : y.n < registerNum) (hz : z.n < registerNum) : Reads (.MUL x y z) := by
  refine reads_of _ "MUL" [regC x, regC y, regC z] (p_MUL x y z) (by toks) (by decide) ?_
  rd [parseReg?_regC _ hx, parseReg?_regC _ hy, parseReg?_regC _ hz]

theorem r_DIV (hx : x.n < registerNum) (hy : y.n < registerNum) (hz : z.n < registerNum) : Reads (.DIV x y z) := by
  refine reads_of _ "DIV" [regC x, regC y, regC z] (p_DIV x y z) (by toks) (by decide) ?_
  rd [parseReg?_regC _ hx, parseReg?_regC _ hy, parseReg?_regC _ hz]

theorem r_REM (hx : x.n < registerNum) (hy : y.n < registerNum) (hz : z.n < registerNum) : Reads (.REM x y z) := by
  refine reads_of _ "REM" [regC x, regC y, regC z] (p_REM x y z) (by toks) (by decide) ?_
  rd [parseReg?_regC _ hx, parseReg?_regC _ hy, parseReg?_regC _ hz]

/-- `ADDI` is printed with the mnemonic `ADD`; the loader tells it from `ADD` by its third operand -/
theorem r_ADDI (hx : x.n < registerNum) (hy : y.n < registerNum) : Reads (.ADDI x y c) := by
  refine reads_of _ "ADD" [regC x, regC y, immC c] (p_ADDI x y c) (by toks) (by decide) ?_
  rd [parseReg?_regC _ hx, parseReg?_regC _ hy]

theorem r_JALR (hx : x.n < registerNum) (hy : y.n < registerNum) : Reads (.JALR x y c) := by
  refine reads_of _ "JALR" [regC x, regC y, immC c] (p_JALR x y c) (by toks) (by decide) ?_
  rd [parseReg?_regC _ hx, parseReg?_regC _ hy]

theorem r_MV (hx : x.n < registerNum) (hy : y.n < registerNum) : Reads (.MV x y) := by
  refine reads_of _ "MV" [regC x, regC y] (p_MV x y) (by toks) (by decide) ?_
  rd [parseReg?_regC _ hx, parseReg?_regC _ hy]

theorem r_LW (hx : x.n < registerNum) (hy : y.n < registerNum) : Reads (.LW x y c) := by
  refine reads_of _ "LW" [regC x, immC c, regC y] (p_LW x y c) (by toks) (by decide) ?_
  rd [parseReg?_regC _ hx, parseReg?_regC _ hy]

theorem r_SW (hx : x.n < registerNum) (hy : y.n < registerNum) : Reads (.SW x y c) := by
  refine reads_of _ "SW" [regC x, immC c, regC y] (p_SW x y c) (by toks) (by decide) ?_
  rd [parseReg?_regC _ hx, parseReg?_regC _ hy]

theorem r_LI (hx : x.n < registerNum) : Reads (.LI x c) := by
  refine reads_of _ "LI" [regC x, immC c] (p_LI x c) (by toks) (by decide) ?_
  rd [parseReg?_regC _ hx]

theorem r_JAL (hx : x.n < registerNum) (hl : LabelOK l) : Reads (.JAL x l) := by
  have hlt : Tok l.toList := hl
  refine reads_of _ "JAL" [regC x, l.toList] (p_JAL x l) (by toks) (by decide) ?_
  rd [parseReg?_regC _ hx, parseLabelRef?_tok hl]

theorem r_LA (hx : x.n < registerNum) (hl : LabelOK l) : Reads (.LA x l) := by
  have hlt : Tok l.toList := hl
  refine reads_of _ "LA" [regC x, l.toList] (p_LA x l) (by toks) (by decide) ?_
  rd [parseReg?_regC _ hx, parseLabelRef?_tok hl]

theorem r_BEQ (hx : x.n < registerNum) (hy : y.n < registerNum) (hl : LabelOK l) : Reads (.BEQ x y l) := by
  have hlt : Tok l.toList := hl
  refine reads_of _ "BEQ" [regC x, regC y, l.toList] (p_BEQ x y l) (by toks) (by decide) ?_
  rd [parseReg?_regC _ hx, parseReg?_regC _ hy, parseLabelRef?_tok hl]

theorem r_BNE (hx : x.n < registerNum) (hy : y.n < registerNum) (hl : LabelOK l) : Reads (.BNE x y l) := by
  have hlt : Tok l.toList := hl
  refine reads_of _ "BNE" [regC x, regC y, l.toList] (p_BNE x y l) (by toks) (by decide) ?_
  rd [parseReg?_regC _ hx, parseReg?_regC _ hy, parseLabelRef?_tok hl]

theorem r_BLT (hx : x.n < registerNum) (hy : y.n < registerNum) (hl : LabelOK l) : Reads (.BLT x y l) := by
  have hlt : Tok l.toList := hl
  refine reads_of _ "BLT" [regC x, regC y, l.toList] (p_BLT x y l) (by toks) (by decide) ?_
  rd [parseReg?_regC _ hx, parseReg?_regC _ hy, parseLabelRef?_tok hl]

theorem r_BLE (hx : x.n < registerNum) (hy : y.n < registerNum) (hl : LabelOK l) : Reads (.BLE x y l) := by
  have hlt : Tok l.toList := hl
  refine reads_of _ "BLE" [regC x, regC y, l.toList] (p_BLE x y l) (by toks) (by decide) ?_
  rd [parseReg?_regC _ hx, parseReg?_regC _ hy, parseLabelRef?_tok hl]

theorem r_BGT (hx : x.n < registerNum) (hy : y.n < registerNum) (hl : LabelOK l) : Reads (.BGT x y l) := by
  have hlt : Tok l.toList := hl
  refine reads_of _ "BGT" [regC x, regC y, l.toList] (p_BGT x y l) (by toks) (by decide) ?_
  rd [parseReg?_regC _ hx, parseReg?_regC _ hy, parseLabelRef?_tok hl]

theorem r_BGE (hx : x.n < registerNum) (hy : y.n < registerNum) (hl : LabelOK l) : Reads (.BGE x y l) := by
  have hlt : Tok l.toList := hl
  refine reads_of _ "BGE" [regC x, regC y, l.toList] (p_BGE x y l) (by toks) (by decide) ?_
  rd [parseReg?_regC _ hx, parseReg?_regC _ hy, parseLabelRef?_tok hl]

end Reads

/-- **every instruction the printer can print is read back**, provided its registers exist and its label (if
    any) is text-safe -/
theorem reads_instr (c : Code) (hi : c.isInstr = true) (hr : RegsOK c)
    (hl : ∀ l, c.labelRef? = some l → LabelOK l) : Reads c := by
  cases c with
  | ADD x y z => exact r_ADD (hr x (by simp [regsOf])) (hr y (by simp [regsOf])) (hr z (by simp [regsOf]))
  | SUB x y z => exact r_SUB (hr x (by simp [regsOf])) (hr y (by simp [regsOf])) (hr z (by simp [regsOf]))
  | MUL x y z => exact r_MUL (hr x (by simp [regsOf])) (hr y (by simp [regsOf])) (hr z (by simp [regsOf]))
  | DIV x y z => exact r_DIV (hr x (by simp [regsOf])) (hr y (by simp [regsOf])) (hr z (by simp [regsOf]))
  | REM x y z => exact r_REM (hr x (by simp [regsOf])) (hr y (by simp [regsOf])) (hr z (by simp [regsOf]))
  | ADDI x y c => exact r_ADDI (hr x (by simp [regsOf])) (hr y (by simp [regsOf]))
  | JALR x y c => exact r_JALR (hr x (by simp [regsOf])) (hr y (by simp [regsOf]))
  | MV x y => exact r_MV (hr x (by simp [regsOf])) (hr y (by simp [regsOf]))
  | LW x y c => exact r_LW (hr x (by simp [regsOf])) (hr y (by simp [regsOf]))
  | SW x y c => exact r_SW (hr x (by simp [regsOf])) (hr y (by simp [regsOf]))
  | LI x c => exact r_LI (hr x (by simp [regsOf]))
  | JAL x l => exact r_JAL (hr x (by simp [regsOf])) (hl l rfl)
  | LA x l => exact r_LA (hr x (by simp [regsOf])) (hl l rfl)
  | BEQ x y l => exact r_BEQ (hr x (by simp [regsOf])) (hr y (by simp [regsOf])) (hl l rfl)
  | BNE x y l => exact r_BNE (hr x (by simp [regsOf])) (hr y (by simp [regsOf])) (hl l rfl)
  | BLT x y l => exact r_BLT (hr x (by simp [regsOf])) (hr y (by simp [regsOf])) (hl l rfl)
  | BLE x y l => exact r_BLE (hr x (by simp [regsOf])) (hr y (by simp [regsOf])) (hl l rfl)
  | BGT x y l => exact r_BGT (hr x (by simp [regsOf])) (hr y (by simp [regsOf])) (hl l rfl)
  | BGE x y l => exact r_BGE (hr x (by simp [regsOf])) (hr y (by simp [regsOf])) (hl l rfl)
  | LAB l => cases hi
  | COMMENT m => cases hi

theorem parseLine_blank {raw : String} (h : trimList raw.toList = []) : parseLine raw = some none := by
  have ht : raw.trimAscii.toString = "" := by rw [trimAscii_eq, h]
  have he : ("" : String).isEmpty = true := rfl
  unfold parseLine
  simp only [ht, he, if_true]

theorem parseLine_empty : parseLine "" = some none := parseLine_blank rfl

theorem noSlash_snoc {l : List Char} (hne : l ≠ []) (hs : NoSlash l) (c : Char) (hc : c ≠ '/') :
    NoSlash (l ++ [c]) := by
  rintro ⟨t, ht⟩
  match l, hne, hs with
  | [x], _, _ =>
    simp only [List.cons_append, List.nil_append, List.cons.injEq] at ht
    exact hc ht.2.1.symm
  | x :: y :: r, _, hs =>
    simp only [List.cons_append, List.nil_append, List.cons.injEq] at ht
    exact hs ⟨r, by rw [← ht.1, ← ht.2.1]; rfl⟩

theorem parseLine_label {l : String} (h : LabelDefOK l) : parseLine (l ++ ":") = some (some (.LAB l)) := by
  have htok : Tok (l.toList ++ [':']) := by
    refine ⟨by simp, ?_⟩
    intro c hc
    simp only [List.mem_append, List.mem_singleton] at hc
    rcases hc with hc | rfl
    · exact h.1.2 c hc
    · decide
  have hall : ∀ w ∈ (l.toList ++ [':']) :: [], Tok w := forall_tok_cons htok forall_tok_nil
  have hs : NoSlash (l.toList ++ [':']) := noSlash_snoc h.1.1 h.2 ':' (by decide)
  obtain ⟨h1, h2, h3, h4, h5⟩ := tokLine_facts (l.toList ++ [':']) [] hall hs
  have e : l ++ ":" = String.ofList (tokLine (l.toList ++ [':']) []) := by
    apply String.ext
    rw [tokLine_single, String.toList_ofList, String.toList_append]; rfl
  rw [e]
  rw [tokLine_single] at h1 h2 h3 h4 h5 ⊢
  have hend : (String.ofList (l.toList ++ [':'])).endsWith ":" = true := by
    rw [colon_eq, ew_singleton, String.toList_ofList]; simp
  have hlen : decide ((String.ofList (l.toList ++ [':'])).length > 1) = true := by
    have hne := h.1.1
    rw [String.length_ofList]
    cases hl : l.toList with
    | nil => exact absurd hl hne
    | cons _ _ => simp
  have hdrop : ((String.ofList (l.toList ++ [':'])).dropEnd 1).toString = l := by
    apply String.ext
    rw [toList_dropEnd, String.toList_ofList]; simp
  unfold parseLine
  simp only [h1, h2, h3, h4, h5, Bool.false_eq_true, if_false, List.map_cons, List.map_nil, hend, hlen,
    Bool.and_self, if_true, hdrop]

theorem printCode_LAB (l : String) : printCode (.LAB l) = "\n" ++ (l ++ ":") := by
  apply String.ext
  simp [printCode, toString_str, String.toList_append]

theorem label_no_nl {l : String} (h : LabelDefOK l) : '\n' ∉ (l ++ ":").toList := by
  rw [String.toList_append]
  intro hm
  simp only [List.mem_append] at hm
  rcases hm with hm | hm
  · exact tok_no_nl h.1 hm
  · revert hm; decide

theorem printCode_COMMENT (m : String) : printCode (.COMMENT m) = "// " ++ m := by
  apply String.ext
  simp [printCode, toString_str, String.toList_append]

/-- the text of a comment as the loader reads it: without its trailing white space -/
def rtrimS (m : String) : String := String.ofList (rtrimList m.toList)

/-- a comment line is read as the comment without its trailing white space — for EVERY comment text -/
theorem parseLine_comment (m : String) : parseLine ("// " ++ m) = some (some (.COMMENT (rtrimS m))) := by
  have hl : ("// " ++ m).toList = ['/', '/', ' '] ++ m.toList := by rw [String.toList_append]; rfl
  have ht : ("// " ++ m).trimAscii.toString.toList = rtrimList (['/', '/', ' '] ++ m.toList) := by
    rw [toList_trimAscii, hl]
    exact trimList_of_head (by intro c hc; simp at hc; subst hc; decide)
  unfold rtrimList at ht
  rw [dropEndWhileList_append] at ht
  by_cases hm : dropEndWhileList Char.isWhitespace m.toList = []
  · -- the comment text is white space only: the trimmed line is `//`
    simp only [hm, if_true] at ht
    have ht' : ("// " ++ m).trimAscii.toString = "//" := by
      apply String.ext; rw [ht]; decide
    have hr : rtrimS m = "" := by unfold rtrimS rtrimList; rw [hm]
    have e1 : ("//" : String).isEmpty = false := by decide
    have e2 : ("//" : String).startsWith "// " = false := sw_false (by decide)
    have e3 : ("//" : String).startsWith "//" = true := sw_true (by decide)
    have e4 : (("//" : String).drop 2).toString = "" := by
      apply String.ext; rw [toList_drop]; rfl
    unfold parseLine
    simp only [ht', e1, e2, e3, e4, hr, Bool.false_eq_true, if_false, if_true]
  · simp only [hm, if_false] at ht
    have hne : ("// " ++ m).trimAscii.toString.isEmpty = false := by
      cases hb : ("// " ++ m).trimAscii.toString.isEmpty with
      | false => rfl
      | true =>
        have := (isEmpty_iff_toList _).1 hb
        rw [ht] at this; simp at this
    have hsw : ("// " ++ m).trimAscii.toString.startsWith "// " = true :=
      sw_true (by rw [ht]; exact ⟨_, rfl⟩)
    have hd : (("// " ++ m).trimAscii.toString.drop 3).toString = rtrimS m := by
      apply String.ext
      rw [toList_drop, ht]
      unfold rtrimS rtrimList
      rw [String.toList_ofList]; rfl
    unfold parseLine
    simp only [hne, hsw, hd, Bool.false_eq_true, if_false, if_true]

/-- what the loader reads an item as: a comment loses its trailing white space, everything else is itself -/
def parsedCode : Code → Code
  | .COMMENT m => .COMMENT (rtrimS m)
  | c => c

theorem stripC_parsedCode (c : Code) : stripC (parsedCode c) = stripC c := by
  cases c <;> rfl

end Scc.RV.Loader
