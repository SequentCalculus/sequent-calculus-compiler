/-
  Scc.RV.RefBridge — Theorem B (RV64): from executions of emitted code (`exec`, `execFwd`) to the run loop
  of the machine on a LOADED program (`Loaded p ks`, RefLayout.lean) whose hook monitor is switched off
  (`cfg.heap = false`: a kept hook comment is an item that does nothing).
  * `Reach p cfg s s'`: the run loop gets from `s` to `s'` (it consumes some fuel) — stated with the
    transition function `step` of the loop (Scc/RV/ConcStep.lean): the machine PASSES THROUGH `s'`
    (`stepN p cfg k s = .inl s'`);
  * `KAt ks pc items`: the emitted code `items` lies in the kept codes from item index `pc` on, up to the
    comments that the layout dropped (`Keeps`);
  * `exec_block`: a block with forward local labels that `execFwd` runs to its end (the code of the memory
    operations, straight-line code) is run by the loop, wherever it lies;
  * `step_fall`, `step_label`, `step_addr`, `pass_label`, `pass_items`, `run_done`: single items.
-/
import Scc.RV.RefLayout
import Scc.RV.MemProofsFree
import Scc.RV.ConcStep

namespace Scc.RV.Ref

/-- the run loop gets from `s` to `s'`: after some units of fuel (items traversed) the machine is in state `s'` -/
def Reach (p : Program) (cfg : MonCfg) (s s' : State) : Prop :=
  ∃ k, stepN p cfg k s = .inl s'

theorem Reach.refl (p : Program) (cfg : MonCfg) (s : State) : Reach p cfg s s := ⟨0, rfl⟩

theorem Reach.trans {p : Program} {cfg : MonCfg} {s1 s2 s3 : State} (h1 : Reach p cfg s1 s2)
    (h2 : Reach p cfg s2 s3) : Reach p cfg s1 s3 := by
  obtain ⟨k1, h1⟩ := h1
  obtain ⟨k2, h2⟩ := h2
  exact ⟨k1 + k2, stepN_trans p cfg h1 h2⟩

theorem Reach.of_step {p : Program} {cfg : MonCfg} {s s' : State} (h : step p cfg s = .inl s') :
    Reach p cfg s s' := ⟨1, by rw [stepN_one]; exact h⟩

theorem Reach.of_eq {p : Program} {cfg : MonCfg} {s s' : State} (h : s = s') : Reach p cfg s s' := by
  subst h; exact Reach.refl p cfg s

def ReachP (p : Program) (cfg : MonCfg) (s s' : State) : Prop :=
  ∃ k, 1 ≤ k ∧ stepN p cfg k s = .inl s'

theorem ReachP.reach {p : Program} {cfg : MonCfg} {s s' : State} (h : ReachP p cfg s s') : Reach p cfg s s' := by
  obtain ⟨k, _, hk⟩ := h
  exact ⟨k, hk⟩

theorem Reach.transP {p : Program} {cfg : MonCfg} {s1 s2 s3 : State} (h1 : Reach p cfg s1 s2)
    (h2 : ReachP p cfg s2 s3) : ReachP p cfg s1 s3 := by
  obtain ⟨k1, h1⟩ := h1
  obtain ⟨k2, hk2, h2⟩ := h2
  exact ⟨k1 + k2, by omega, stepN_trans p cfg h1 h2⟩

theorem ReachP.trans_reach {p : Program} {cfg : MonCfg} {s1 s2 s3 : State} (h1 : ReachP p cfg s1 s2)
    (h2 : Reach p cfg s2 s3) : ReachP p cfg s1 s3 := by
  obtain ⟨k1, hk1, h1⟩ := h1
  obtain ⟨k2, h2⟩ := h2
  exact ⟨k1 + k2, by omega, stepN_trans p cfg h1 h2⟩

theorem ReachP.of_step {p : Program} {cfg : MonCfg} {s s' : State} (h : step p cfg s = .inl s') :
    ReachP p cfg s s' := ⟨1, Nat.le_refl _, by rw [stepN_one]; exact h⟩

section Items

variable (p : Program) (cfg : MonCfg)

/-- a kept comment (a hook) does nothing when the heap monitor is off -/
theorem runLoop_comment (hheap : cfg.heap = false) (fuel : Nat) (s : State) {it : Item} {m : String}
    (hit : p.items[s.pc]? = some it) (hc : it.code = .COMMENT m) :
    runLoop p cfg (fuel + 1) s = runLoop p cfg fuel (setPS s (s.pc + 1) s.steps) := by
  simp only [runLoop, hit, hc, hheap]
  cases it.roots <;> simp [setPS]

theorem runLoop_addr (fuel : Nat) (s s1 : State) {it : Item} {a : Word} {i : Nat}
    (hit : p.items[s.pc]? = some it) (hi : it.code.isInstr = true)
    (hx : exec cfg p.labelAddr it.addr it.code s = .ok (s1, .addr a)) (hl : p.addrIdx[a.toNat]? = some i) :
    runLoop p cfg (fuel + 1) s = runLoop p cfg fuel (setPS s1 i (s.steps + 1)) := by
  obtain ⟨_, hst⟩ := exec_pc_steps hx
  obtain ⟨line, code, addr, roots⟩ := it
  simp only at hi hx
  cases code <;> simp [Code.isInstr] at hi <;> simp only [runLoop, hit, hx, hl, setPS, hst]

theorem runLoop_cleanup (fuel : Nat) (s : State) {it : Item} {v : Word}
    (hit : p.items[s.pc]? = some it) (hc : it.code = .LAB "cleanup") (hv : s.readReg RETURN1 = .ok v) :
    (runLoop p cfg (fuel + 1) s).res = .done v := by
  simp only [runLoop, hit, hc, hv]
  rfl

end Items

/-- the conditions under which a kept block can be run item by item: no use of the own code address, the
label `cleanup` (where the run ends) is not defined -/
structure RunnableK (cs : List Code) : Prop where
  pcFree : ∀ c ∈ cs, PcFree c = true
  noCleanup : Code.LAB "cleanup" ∉ cs

/-- THE BRIDGE, with kept comments: whenever `execFwd` runs the block (from offset `off`) to its end,
`runLoop` does the same -/
theorem run_fwdK (p : Program) (cfg : MonCfg) (hheap : cfg.heap = false) (pc0 : Nat) (cs : List Code)
    (hb : BlockAt p pc0 cs) (hr : RunnableK cs) :
    ∀ (n off : Nat) (s s' : State), cs.length - off ≤ n → off ≤ cs.length → s.pc = pc0 + off →
      execFwd cfg p.labelAddr (cs.drop off) s = .ok (s', .fall) →
      ∃ k steps', stepN p cfg k s = .inl (setPS s' (pc0 + cs.length) steps') := by
  intro n
  induction n with
  | zero =>
    intro off s s' hn hoff hpc hx
    have : off = cs.length := by omega
    subst this
    rw [List.drop_length, execFwd_nil] at hx
    simp only [Except.ok.injEq, Prod.mk.injEq, and_true] at hx
    subst hx
    exact ⟨0, s.steps, by simp only [stepN, setPS, ← hpc]⟩
  | succ n ih =>
    intro off s s' hn hoff hpc hx
    by_cases hlt : off < cs.length
    · have hdrop : cs.drop off = cs[off] :: cs.drop (off + 1) := by
        rw [List.drop_eq_getElem_cons hlt]
      obtain ⟨it, hit, hcode⟩ := hb.code off hlt
      rw [← hpc] at hit
      have hmem : cs[off] ∈ cs := List.getElem_mem hlt
      have hfree := hr.pcFree _ hmem
      rw [hdrop, execFwd_cons] at hx
      cases hex : exec cfg p.labelAddr 0 cs[off] s with
      | error e => simp [hex, contFwd] at hx
      | ok r =>
        obtain ⟨s1, ctl⟩ := r
        rw [hex] at hx
        have hex' : exec cfg p.labelAddr it.addr it.code s = .ok (s1, ctl) := by
          rw [hcode, exec_pcFree cfg _ _ hfree]; exact hex
        by_cases hlab : ∃ l, cs[off] = .LAB l
        · -- a label of the block: passed
          obtain ⟨l, hl⟩ := hlab
          rw [hl] at hex
          simp only [exec_LAB', Except.ok.injEq, Prod.mk.injEq] at hex
          obtain ⟨rfl, rfl⟩ := hex
          simp only [contFwd] at hx
          have hne : l ≠ "cleanup" := fun e => hr.noCleanup (by rw [← e, ← hl]; exact hmem)
          have hx' := execFwd_setPS cfg p.labelAddr (s.pc + 1) s.steps _ (cs.drop (off + 1)) s (Nat.le_refl _)
          rw [hx] at hx'
          obtain ⟨k, st, hk⟩ := ih (off + 1) _ _ (by omega) (by omega) (by simp only [setPS]; omega) hx'
          refine ⟨k + 1, st, ?_⟩
          rw [stepN_succ_of_step (Scc.RV.step_of_label p cfg s hit (by rw [hcode, hl]) hne)]
          exact hk
        · by_cases hcom : ∃ m, cs[off] = .COMMENT m
          · -- a kept comment: passed
            obtain ⟨m, hm⟩ := hcom
            rw [hm] at hex
            simp only [exec, Except.ok.injEq, Prod.mk.injEq] at hex
            obtain ⟨rfl, rfl⟩ := hex
            simp only [contFwd] at hx
            have hx' := execFwd_setPS cfg p.labelAddr (s.pc + 1) s.steps _ (cs.drop (off + 1)) s (Nat.le_refl _)
            rw [hx] at hx'
            obtain ⟨k, st, hk⟩ := ih (off + 1) _ _ (by omega) (by omega) (by simp only [setPS]; omega) hx'
            refine ⟨k + 1, st, ?_⟩
            rw [stepN_succ_of_step (Scc.RV.step_of_comment p cfg hheap s hit (by rw [hcode, hm]))]
            exact hk
          · -- an instruction
            have hins : it.code.isInstr = true := by
              rw [hcode]
              cases hc : cs[off] <;> simp [Code.isInstr]
              · exact hlab ⟨_, hc⟩
              · exact hcom ⟨_, hc⟩
            cases ctl with
            | fall =>
              simp only [contFwd] at hx
              have hx' := execFwd_setPS cfg p.labelAddr (s.pc + 1) (s.steps + 1) _ (cs.drop (off + 1)) s1
                (Nat.le_refl _)
              rw [hx] at hx'
              obtain ⟨k, st, hk⟩ := ih (off + 1) _ _ (by omega) (by omega) (by simp only [setPS]; omega) hx'
              refine ⟨k + 1, st, ?_⟩
              rw [stepN_succ_of_step (Scc.RV.step_of_fall p cfg s s1 hit hins hex')]
              exact hk
            | label l =>
              simp only [contFwd] at hx
              cases hsk : skipTo l (cs.drop (off + 1)) with
              | none => simp [hsk] at hx
              | some rest =>
                simp only [hsk] at hx
                obtain ⟨j, hj, hrest⟩ := skipTo_spec hsk
                have hj' : cs[off + 1 + j]? = some (.LAB l) := by
                  rw [List.getElem?_drop] at hj; exact hj
                obtain ⟨hjlt, hjeq⟩ := List.getElem?_eq_some_iff.1 hj'
                have hl := hb.labels _ _ hj'
                have hdrop2 : cs.drop (off + 1 + j) = .LAB l :: rest := by
                  rw [List.drop_eq_getElem_cons hjlt, hrest, List.drop_drop, hjeq]
                  rfl
                have hx2 : execFwd cfg p.labelAddr (cs.drop (off + 1 + j)) s1 = .ok (s', .fall) := by
                  rw [hdrop2, execFwd_cons, exec_LAB']
                  simp only [contFwd]
                  exact hx
                have hx' := execFwd_setPS cfg p.labelAddr (pc0 + (off + 1 + j)) (s.steps + 1) _
                  (cs.drop (off + 1 + j)) s1 (Nat.le_refl _)
                rw [hx2] at hx'
                obtain ⟨k, st, hk⟩ := ih (off + 1 + j) _ _ (by omega) (by omega) (by simp only [setPS]) hx'
                refine ⟨k + 1, st, ?_⟩
                rw [stepN_succ_of_step (Scc.RV.step_of_jump p cfg s s1 hit hins hex' hl)]
                exact hk
            | addr a => simp [contFwd] at hx
    · have : off = cs.length := by omega
      subst this
      rw [List.drop_length, execFwd_nil] at hx
      simp only [Except.ok.injEq, Prod.mk.injEq, and_true] at hx
      subst hx
      exact ⟨0, s.steps, by simp only [stepN, setPS, ← hpc]⟩

/-- the emitted code `items` lies in the kept codes `ks` from index `pc` on (some comments dropped) -/
def KAt (ks : List Code) (pc : Nat) (items : List Code) : Prop :=
  ∃ k1 ki rest, ks = k1 ++ ki ++ rest ∧ k1.length = pc ∧ Keeps items ki

theorem KAt.split {ks : List Code} {pc : Nat} {a b : List Code} (h : KAt ks pc (a ++ b)) :
    ∃ ka, (∃ k1 rest, ks = k1 ++ ka ++ rest ∧ k1.length = pc) ∧ Keeps a ka ∧ KAt ks (pc + ka.length) b := by
  obtain ⟨k1, ki, rest, e, hl, hk⟩ := h
  obtain ⟨ka, kb, e2, h1, h2⟩ := hk.append_inv
  refine ⟨ka, ⟨k1, kb ++ rest, by rw [e, e2]; simp, hl⟩, h1, k1 ++ ka, kb, rest, by rw [e, e2]; simp, by simp [hl], h2⟩

theorem KAt.left {ks : List Code} {pc : Nat} {a b : List Code} (h : KAt ks pc (a ++ b)) : KAt ks pc a := by
  obtain ⟨ka, ⟨k1, rest, e, hl⟩, hk, _⟩ := h.split
  exact ⟨k1, ka, rest, e, hl, hk⟩

theorem KAt.head {ks : List Code} {pc : Nat} {c : Code} {b : List Code} (h : KAt ks pc (c :: b))
    (hc : c.isComment = false) : ks[pc]? = some c ∧ KAt ks (pc + 1) b := by
  obtain ⟨k1, ki, rest, e, hl, hk⟩ := h
  obtain ⟨ki', rfl, hk'⟩ := hk.cons_inv hc
  refine ⟨by rw [e, ← hl]; simp, k1 ++ [c], ki', rest, by rw [e]; simp, by simp [hl], hk'⟩

theorem kat_lab_mem {ks : List Code} {pc : Nat} {items : List Code} (h : KAt ks pc items) {l : String}
    (hl : l ∈ labs items) : l ∈ labs ks := by
  obtain ⟨k1, ki, rest, e, _, hk⟩ := h
  rw [e, labs_append, labs_append, hk.labs]
  simp [hl]

section Bridge

variable {p : Program} {cfg : MonCfg} {ks : List Code} (L : Loaded p ks) (hnd : (labs ks).Nodup)
  (hheap : cfg.heap = false)

include L in
theorem loaded_item {i : Nat} {c : Code} (h : ks[i]? = some c) :
    ∃ it, p.items[i]? = some it ∧ it.code = c ∧ it.addr = codeBase + 4 * icount (ks.take i) := by
  obtain ⟨hlt, e⟩ := List.getElem?_eq_some_iff.1 h
  obtain ⟨it, h1, h2, h3⟩ := L.code i hlt
  exact ⟨it, h1, by rw [h2, e], h3⟩

include L hnd in
theorem blockAt_of_loaded {k1 ki rest : List Code} (e : ks = k1 ++ ki ++ rest) : BlockAt p k1.length ki := by
  refine ⟨fun i h => ?_, fun j l hj => ?_⟩
  · have hg : ks[k1.length + i]? = some ki[i] := by
      rw [e, List.append_assoc, List.getElem?_append_right (by omega)]
      simp only [Nat.add_sub_cancel_left]
      rw [List.getElem?_append_left h, List.getElem?_eq_getElem h]
    obtain ⟨it, h1, h2, _⟩ := loaded_item L hg
    exact ⟨it, h1, h2⟩
  · have hjlt : j < ki.length := by
      rcases Nat.lt_or_ge j ki.length with h | h
      · exact h
      · rw [List.getElem?_eq_none h] at hj; cases hj
    have hg : ks[k1.length + j]? = some (.LAB l) := by
      rw [e, List.append_assoc, List.getElem?_append_right (by omega)]
      simp only [Nat.add_sub_cancel_left]
      rw [List.getElem?_append_left hjlt]
      exact hj
    rw [L.labels]
    exact labIdx_of_nodup hnd hg

include L hnd hheap in
/-- THE BRIDGE for an emitted block with forward local labels that lies at the program counter: whenever
`execFwd` runs it to its end, so does the machine, and it continues with the code that follows -/
theorem exec_block {blk more : List Code} {s s' : State} (hat : KAt ks s.pc (blk ++ more))
    (hfree : MemFree blk) (hclean : Code.LAB "cleanup" ∉ blk)
    (hx : execFwd cfg p.labelAddr blk s = .ok (s', .fall)) :
    ∃ pc' steps', Reach p cfg s (setPS s' pc' steps') ∧ KAt ks pc' more := by
  obtain ⟨ka, ⟨k1, rest, e, hl⟩, hk, hmore⟩ := hat.split
  have hb : BlockAt p k1.length ka := blockAt_of_loaded L hnd e
  have hr : RunnableK ka := by
    refine ⟨fun c hc => ?_, fun hc => hclean (hk.mem_noncomment _ hc rfl)⟩
    by_cases hcc : c.isComment = true
    · cases c <;> simp [Code.isComment] at hcc; rfl
    · exact hfree c (hk.mem_noncomment c hc (by simpa using hcc))
  have hx' : execFwd cfg p.labelAddr ka s = .ok (s', .fall) := by
    rw [← execFwd_stripComments cfg p.labelAddr ka.length ka s (Nat.le_refl _), hk.strip,
      execFwd_stripComments cfg p.labelAddr blk.length blk s (Nat.le_refl _)]
    exact hx
  obtain ⟨k, steps', hk'⟩ := run_fwdK p cfg hheap k1.length ka hb hr ka.length 0 s s' (by omega) (by omega)
    (by rw [hl]; rfl) (by simpa using hx')
  exact ⟨k1.length + ka.length, steps', ⟨k, hk'⟩, by rw [hl]; exact hmore⟩

include L hnd hheap in
theorem pass_comments {c0 more : List Code} {s : State} (hat : KAt ks s.pc (c0 ++ more))
    (hc0 : ∀ y ∈ c0, ∃ m, y = Code.COMMENT m) :
    ∃ pc' steps', Reach p cfg s (setPS s pc' steps') ∧ KAt ks pc' more := by
  refine exec_block L hnd hheap hat (fun c hc => ?_) (fun hc => ?_) ?_
  · obtain ⟨m, rfl⟩ := hc0 c hc; rfl
  · obtain ⟨m, e⟩ := hc0 _ hc; cases e
  · clear hat
    induction c0 generalizing s with
    | nil => exact execFwd_nil cfg _ s
    | cons y c0 ih =>
      obtain ⟨m, rfl⟩ := hc0 y (by simp)
      rw [execFwd_cons]
      simp only [exec, contFwd]
      exact ih (fun y hy => hc0 y (by simp [hy]))

include L in
theorem step_fall {c : Code} {more : List Code} {s s1 : State} (hat : KAt ks s.pc (c :: more))
    (hi : c.isInstr = true) (hx : ∀ a, exec cfg p.labelAddr a c s = .ok (s1, .fall)) :
    Reach p cfg s (setPS s1 (s.pc + 1) (s.steps + 1)) ∧ KAt ks (s.pc + 1) more := by
  have hc : c.isComment = false := isComment_of_isInstr hi
  obtain ⟨hg, hm⟩ := hat.head hc
  obtain ⟨it, h1, h2, _⟩ := loaded_item L hg
  refine ⟨Reach.of_step ?_, hm⟩
  exact Scc.RV.step_of_fall p cfg s s1 h1 (by rw [h2]; exact hi) (by rw [h2]; exact hx _)

include L in
theorem step_label {c : Code} {more : List Code} {s s1 : State} {l : String} {i : Nat}
    (hat : KAt ks s.pc (c :: more)) (hi : c.isInstr = true)
    (hx : ∀ a, exec cfg p.labelAddr a c s = .ok (s1, .label l)) (hl : labIdx ks l = some i) :
    Reach p cfg s (setPS s1 i (s.steps + 1)) := by
  have hc : c.isComment = false := isComment_of_isInstr hi
  obtain ⟨hg, _⟩ := hat.head hc
  obtain ⟨it, h1, h2, _⟩ := loaded_item L hg
  refine Reach.of_step ?_
  exact Scc.RV.step_of_jump p cfg s s1 h1 (by rw [h2]; exact hi) (by rw [h2]; exact hx _)
    (by rw [L.labels]; exact hl)

include L in
theorem step_addr {c : Code} {more : List Code} {s s1 : State} {a : Word} {j : Nat}
    (hat : KAt ks s.pc (c :: more)) (hi : c.isInstr = true)
    (hx : ∀ a', exec cfg p.labelAddr a' c s = .ok (s1, .addr a)) (hj : j < ks.length)
    (hji : ks[j].isInstr = true) (ha : a.toNat = codeBase + 4 * icount (ks.take j)) :
    Reach p cfg s (setPS s1 ((pendOf (ks.take j)).getD j) (s.steps + 1)) := by
  have hc : c.isComment = false := isComment_of_isInstr hi
  obtain ⟨hg, _⟩ := hat.head hc
  obtain ⟨it, h1, h2, _⟩ := loaded_item L hg
  refine Reach.of_step ?_
  exact Scc.RV.step_of_addr p cfg s s1 h1 (by rw [h2]; exact hi) (by rw [h2]; exact hx _)
    (by rw [ha]; exact L.addrs j hj hji)

include L in
theorem pass_labelP {l : String} {more : List Code} {s : State} (hat : KAt ks s.pc (Code.LAB l :: more))
    (hl : l ≠ "cleanup") : ReachP p cfg s (setPS s (s.pc + 1) s.steps) ∧ KAt ks (s.pc + 1) more := by
  obtain ⟨hg, hm⟩ := hat.head rfl
  obtain ⟨it, h1, h2, _⟩ := loaded_item L hg
  refine ⟨ReachP.of_step ?_, hm⟩
  exact Scc.RV.step_of_label p cfg s h1 h2 hl

include L in
theorem pass_label {l : String} {more : List Code} {s : State} (hat : KAt ks s.pc (Code.LAB l :: more))
    (hl : l ≠ "cleanup") : Reach p cfg s (setPS s (s.pc + 1) s.steps) ∧ KAt ks (s.pc + 1) more :=
  (pass_labelP L hat hl).imp ReachP.reach id

include L hheap in
/-- items that are no instructions (labels other than `cleanup`, hooks) are passed -/
theorem pass_items (s : State) : ∀ (n i : Nat), s.pc = i → i + n ≤ ks.length →
    (∀ m, i ≤ m → m < i + n → ∀ c, ks[m]? = some c → c.isInstr = false ∧ c ≠ Code.LAB "cleanup") →
    Reach p cfg s (setPS s (i + n) s.steps)
  | 0, i, hpc, _, _ => by
    exact Reach.of_eq (by subst hpc; rfl)
  | n + 1, i, hpc, hle, hall => by
    have hlt : i < ks.length := by omega
    have hg : ks[i]? = some ks[i] := List.getElem?_eq_getElem hlt
    obtain ⟨hni, hnc⟩ := hall i (Nat.le_refl _) (by omega) _ hg
    obtain ⟨it, h1, h2, _⟩ := loaded_item L hg
    have h1' : p.items[s.pc]? = some it := by rw [hpc]; exact h1
    have hstep : Reach p cfg s (setPS s (i + 1) s.steps) := by
      refine Reach.of_step ?_
      cases hc : ks[i] with
      | LAB l =>
        rw [hc] at h2 hnc
        rw [Scc.RV.step_of_label p cfg s h1' h2 (fun e => hnc (by rw [e])), hpc]
        rfl
      | COMMENT m =>
        rw [hc] at h2
        rw [Scc.RV.step_of_comment p cfg hheap s h1' h2, hpc]
      | _ => rw [hc] at hni; simp [Code.isInstr] at hni
    have := pass_items (setPS s (i + 1) s.steps) n (i + 1) rfl (by omega)
      (fun m h1 h2 c hc => hall m (by omega) (by omega) c hc)
    have e : i + 1 + n = i + (n + 1) := by omega
    rw [e] at this
    exact hstep.trans this

include L in
theorem run_done {s : State} {v : Word} (hg : ks[s.pc]? = some (Code.LAB "cleanup"))
    (hv : s.readReg RETURN1 = .ok v) (fuel : Nat) : (runLoop p cfg (fuel + 1) s).res = .done v := by
  obtain ⟨it, h1, h2, _⟩ := loaded_item L hg
  exact runLoop_cleanup p cfg fuel s h1 h2 hv

end Bridge

end Scc.RV.Ref
