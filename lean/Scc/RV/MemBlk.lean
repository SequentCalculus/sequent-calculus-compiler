/-
  Scc.RV.MemBlk — the FORM of the code of memory.rs (RV64): single items `Leaf` — a `#…` comment that is
  one line and no `#ctx` hook (`Scc.Mem.MemCom`), or one of `mv`, `lw`, `sw`, `addi` — put together by concatenation and by the
  two label-drawing blocks (`Scc.Backend.Blk`; the conditional jump tests a register against `X0`).  That the
  registers exist is asked only under the flag `rok`, that the immediates are 12-bit only under `iok` (what
  is known of the arguments a method is called with).  The code of `store` and of `load` is a `Blk`
  (`blk_store`, `blk_load`): the leaves are, and the walks over `store_fields` and `load_fields` are
  `Scc.Mem.StoreCode.Leaves.storeFieldsC` and `Scc.Mem.LoadCode.LoadLeaves.loadFieldsC`; so is the code of
  `erase_block` and `share_block_n`.
-/
import Scc.RV.MemCode
import Scc.RV.LoaderLemmas
import Scc.Backend.Blk

namespace Scc.RV.Mem

open Scc.AxCut
open Scc.Backend (GenM TempNum Gen)

export Scc.Mem (MemCom memCom_ofList memCom_checkChild)

/-- the instruction forms memory.rs uses outside its blocks -/
def memForm : Code → Bool
  | .MV _ _ | .LW _ _ _ | .SW _ _ _ | .ADDI _ _ _ => true
  | _ => false

def RegsOK : Code → Prop
  | .MV x y | .LW x y _ | .SW x y _ | .ADDI x y _ => x.n < 32 ∧ y.n < 32
  | _ => True

def ImmOK : Code → Prop
  | .LW _ _ c | .SW _ _ c | .ADDI _ _ c => fitsI12 c = true
  | _ => True

/-- a single item of memory.rs; the registers are asked to exist under `rok`, the immediates to be 12-bit under `iok` -/
inductive Leaf (rok iok : Prop) : Code → Prop
  | com {m : String} : MemCom m → Leaf rok iok (.COMMENT m)
  | instr {c : Code} : memForm c = true → (rok → RegsOK c) → (iok → ImmOK c) → Leaf rok iok c

theorem Leaf.mono {rok iok rok' iok' : Prop} (hr : rok' → rok) (hi : iok' → iok) {c : Code}
    (hl : Leaf rok iok c) : Leaf rok' iok' c := by
  cases hl with
  | com hm => exact .com hm
  | instr hf h1 h2 => exact .instr hf (fun o => h1 (hr o)) (fun o => h2 (hi o))

/-- the jumps and labels of `skip_if_zero` and `if_zero_then_else` -/
def syn : Scc.Backend.BlkSyn Code := ⟨Register, fun x l => .BEQ x ZERO l, fun l => .JAL ZERO l, .LAB, labName⟩

/-- code of memory.rs; the registers tested by its blocks exist if `rok` -/
abbrev Blk (rok iok : Prop) : List Code → Prop :=
  Scc.Backend.Blk syn (Leaf rok iok) (fun x => rok → x.n < 32)

namespace Blk
variable {rok iok : Prop}

/-! the rules of `Scc.Backend.Blk` under the names of this namespace, so that `.nil`, `.append`, `.cons` resolve
as the instruction forms below do -/

theorem nil : Blk rok iok [] := Scc.Backend.Blk.nil
theorem append {a b : List Code} (ha : Blk rok iok a) (hb : Blk rok iok b) : Blk rok iok (a ++ b) :=
  Scc.Backend.Blk.append ha hb
theorem cons {c : Code} {l : List Code} (h : Leaf rok iok c) (hl : Blk rok iok l) : Blk rok iok (c :: l) :=
  Scc.Backend.Blk.cons h hl

theorem mono {rok' iok' : Prop} (hr : rok' → rok) (hi : iok' → iok) {l : List Code} (hl : Blk rok iok l) :
    Blk rok' iok' l := Scc.Backend.Blk.mono (fun _ h => h.mono hr hi) (fun _ hx o => hx (hr o)) hl

theorem mv {x y : Register} {l : List Code} (h : rok → x.n < 32 ∧ y.n < 32) (hl : Blk rok iok l) :
    Blk rok iok (.MV x y :: l) := cons (.instr rfl h fun _ => trivial) hl
theorem lw {x y : Register} {c : Int} {l : List Code} (h : rok → x.n < 32 ∧ y.n < 32) (hc : iok → fitsI12 c = true)
    (hl : Blk rok iok l) : Blk rok iok (.LW x y c :: l) := cons (.instr rfl h hc) hl
theorem sw {x y : Register} {c : Int} {l : List Code} (h : rok → x.n < 32 ∧ y.n < 32) (hc : iok → fitsI12 c = true)
    (hl : Blk rok iok l) : Blk rok iok (.SW x y c :: l) := cons (.instr rfl h hc) hl
theorem addi {x y : Register} {c : Int} {l : List Code} (h : rok → x.n < 32 ∧ y.n < 32)
    (hc : iok → fitsI12 c = true) (hl : Blk rok iok l) : Blk rok iok (.ADDI x y c :: l) := cons (.instr rfl h hc) hl

theorem consC {m : String} {l : List Code} (h : MemCom m) (hl : Blk rok iok l) : Blk rok iok (.COMMENT m :: l) :=
  cons (.com h) hl

end Blk

theorem fitsI12_fieldOffset {number field : Nat} (hn : number ≤ 1) (hf : field ≤ 3) :
    fitsI12 (fieldOffset number field) = true := by
  simp only [fitsI12, fieldOffset, address, fieldSlotSize, Bool.and_eq_true]
  constructor <;> (apply decide_eq_true; omega)

variable {rok iok : Prop}

theorem blk_skipIfZeroC {r : Register} (hr : rok → r.n < 32) {body : List Code} (hb : Blk rok iok body) (k : Nat) :
    Blk rok iok (skipIfZeroC r body k) := by
  have := Scc.Backend.Blk.skip (S := syn) (Leaf := Leaf rok iok) (CndOK := fun x => rok → x.n < 32) (pre := [])
    (x := r) (k + 1) (fun _ h => by cases h) hr hb
  exact this

theorem blk_ifZeroThenElseC {r : Register} (hr : rok → r.n < 32) {tb eb : List Code} (ht : Blk rok iok tb)
    (he : Blk rok iok eb) (k : Nat) : Blk rok iok (ifZeroThenElseC r tb eb k) := by
  have := Scc.Backend.Blk.ite (S := syn) (Leaf := Leaf rok iok) (CndOK := fun x => rok → x.n < 32) (pre := [])
    (x := r) (k + 1) (k + 2) (fun _ h => by cases h) hr ht he
  exact this

theorem temp_lt : TEMP.n < 32 := by decide
theorem heap_lt : HEAP.n < 32 := by decide
theorem free_lt : FREE.n < 32 := by decide
theorem zero_lt : ZERO.n < 32 := by decide

theorem blk_eraseBlockC (r : Register) (k : Nat) : Blk (r.n < 32) True (eraseBlockC r k) :=
  blk_skipIfZeroC id (.consC (by mc) (.lw (fun o => ⟨temp_lt, o⟩) (fun _ => by decide)
    (blk_ifZeroThenElseC (fun _ => temp_lt)
      (.consC (by mc) (.sw (fun o => ⟨free_lt, o⟩) (fun _ => by decide) (.mv (fun o => ⟨free_lt, o⟩) .nil)))
      (.consC (by mc) (.addi (fun _ => ⟨temp_lt, temp_lt⟩) (fun _ => by decide)
        (.sw (fun o => ⟨temp_lt, o⟩) (fun _ => by decide) .nil))) k))) (k + 2)

theorem blk_shareBlockNC (r : Register) (n k : Nat) : Blk (r.n < 32) (n ≤ 2047) (shareBlockNC r n k) :=
  blk_skipIfZeroC id (.consC (by mc) (.lw (fun o => ⟨temp_lt, o⟩) (fun _ => by decide)
    (.addi (fun _ => ⟨temp_lt, temp_lt⟩) (fun o => by
        simp only [fitsI12, Bool.and_eq_true, decide_eq_true_eq]; omega)
      (.sw (fun o => ⟨temp_lt, o⟩) (fun _ => by decide) .nil)))) k

theorem blk_eraseFieldsC {r a : Register} (hr : r.n < 32) : ∀ (n offset k : Nat), n + offset ≤ 3 →
    Blk (a.n < 32) iok (eraseFieldsC r a n offset k)
  | 0, _, _, _ => .nil
  | n + 1, offset, k, h => by
    unfold eraseFieldsC
    exact .append (.append (.consC (memCom_checkChild _)
      (.lw (fun o => ⟨o, hr⟩) (fun _ => fitsI12_fieldOffset (Nat.zero_le _) (by omega)) .nil))
      ((blk_eraseBlockC a k).mono id fun _ => trivial)) (blk_eraseFieldsC hr n (offset + 1) (k + 3) (by omega))

theorem blk_acquireBlockC (nb a : Register) (k : Nat) : Blk (nb.n < 32 ∧ a.n < 32) iok (acquireBlockC nb a k) := by
  refine .append (.mv (fun o => ⟨o.1, heap_lt⟩) (.consC (by mc) (.consC (by mc)
    (.lw (fun _ => ⟨heap_lt, heap_lt⟩) (fun _ => by decide) .nil)))) ?_
  refine blk_ifZeroThenElseC (fun _ => heap_lt)
    (.append (.consC (by mc) (.mv (fun _ => ⟨heap_lt, free_lt⟩)
      (.lw (fun _ => ⟨free_lt, free_lt⟩) (fun _ => by decide) .nil))) ?_)
    (.consC (by mc) (.sw (fun o => ⟨zero_lt, o.1⟩) (fun _ => by decide) .nil)) (k + 11)
  exact blk_ifZeroThenElseC (fun _ => free_lt)
    (.consC (by mc) (.addi (fun _ => ⟨free_lt, heap_lt⟩) (fun _ => by decide) .nil))
    (.append (.consC (by mc) (.sw (fun _ => ⟨zero_lt, heap_lt⟩) (fun _ => by decide) (.consC (by mc) .nil)))
      ((blk_eraseFieldsC heap_lt fieldsPerBlock 0 k (by decide)).mono (fun o => o.2) id)) (k + 9)

theorem posTemp_lt {m : Nat} (h : m < 28) : (posTemp m).n < 32 := by
  show posReg m < 32; unfold posReg; omega

theorem leaves_blk : memCode.Leaves (Blk True True) where
  nil := .nil
  append := .append
  comment := fun s hs => by
    simp only [Scc.Mem.StoreCode.storeComments, List.mem_cons, List.not_mem_nil, or_false] at hs
    rcases hs with rfl | rfl | rfl | rfl | rfl | rfl <;> exact .consC (by mc) .nil
  stF := fun {m r} num {off} hm hr ho =>
    .sw (fun _ => ⟨posTemp_lt hm, hr.2⟩) (fun _ => fitsI12_fieldOffset (by cases num <;> decide) ho) .nil
  stZ := fun {r off} hr ho => .sw (fun _ => ⟨zero_lt, hr.2⟩) (fun _ => fitsI12_fieldOffset (Nat.zero_le _) ho) .nil
  acq := fun {m} k hm => (blk_acquireBlockC _ _ k).mono (fun _ => ⟨posTemp_lt (Nat.lt_of_succ_lt hm), posTemp_lt hm⟩) id
  zero := fun hm => .mv (fun _ => ⟨posTemp_lt hm, zero_lt⟩) .nil

theorem blk_store (toStore rem : Ctx) {k k' : Nat} {code : List Code}
    (h : (store toStore rem).run k = .ok (code, k')) : Blk True True code :=
  (gen_store toStore rem).emits.post (fun hf k => leaves_blk.storeFieldsC _ _ _ _ k hf) k code k' h

theorem loadLeaves_blk : loadCode.LoadLeaves (Blk True True) where
  nil := .nil
  append := .append
  comment := fun s hs => by
    simp only [Scc.Mem.LoadCode.loadComments, List.mem_cons, List.not_mem_nil, or_false] at hs
    rcases hs with rfl | rfl | rfl | rfl | rfl <;> exact .consC (by mc) .nil
  ldF := fun {m r} num {off} hm hr ho =>
    .lw (fun _ => ⟨posTemp_lt hm, hr.2⟩) (fun _ => fitsI12_fieldOffset (by cases num <;> decide) ho) .nil
  shr := fun {m} k hm => (blk_shareBlockNC _ 1 k).mono (fun _ => posTemp_lt hm) fun _ => by decide
  release := fun hr => .sw (fun _ => ⟨heap_lt, hr.2⟩) (fun _ => by decide) (.mv (fun _ => ⟨heap_lt, hr.2⟩) .nil)
  evac := .nil
  ldBlk := fun _ _ => .nil
  restore := .nil

theorem blk_top {m : Nat} {cT cE : List Code} (k : Nat) (hm : m < 28) (hT : Blk True True cT)
    (hE : Blk True True cE) : Blk True True (loadCode.top m cT cE k) :=
  .append (.append (.consC (by mc) (.lw (fun _ => ⟨temp_lt, posTemp_lt hm⟩) (fun _ => by decide) .nil))
    (.consC (by mc) .nil))
    (blk_ifZeroThenElseC (fun _ => temp_lt) (.consC (by mc) hT)
      (.append (.consC (by mc) (.addi (fun _ => ⟨temp_lt, temp_lt⟩) (fun _ => by decide)
        (.sw (fun _ => ⟨temp_lt, posTemp_lt hm⟩) (fun _ => by decide) .nil))) hE) _)

theorem blk_load (toLoad existing : Ctx) {k k' : Nat} {code : List Code}
    (h : (load toLoad existing).run k = .ok (code, k')) : Blk True True code :=
  (emits_load toLoad existing).post (fun hc k => loadLeaves_blk.loadC blk_top toLoad existing.length k hc) k code k' h

theorem blk_eraseBlock (r : Register) {k k' : Nat} {code : List Code}
    (h : (eraseBlock r).run k = .ok (code, k')) : Blk (r.n < 32) True code := by
  rw [eraseBlock_run] at h
  cases h
  exact blk_eraseBlockC r k

theorem blk_shareBlockN (r : Register) (n : Nat) {k k' : Nat} {code : List Code}
    (h : (shareBlockN r n).run k = .ok (code, k')) : Blk (r.n < 32) (n ≤ 2047) code := by
  rw [shareBlockN_run] at h
  cases h
  exact blk_shareBlockNC r n k

end Scc.RV.Mem
