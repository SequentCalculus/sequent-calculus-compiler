/-
  Scc.RV.LoaderCheck — the DECIDABLE text-safety predicates of the RISC-V loader round trip
  (Props/C14LoaderRV.lean), their soundness w.r.t. the proof-side `CodeOK` / `HeadLabel` (LoaderText.lean), and
  the facts needed to establish them without evaluation:

  * `regOKB`, `labelOKB`, `labelDefOKB`, `commentOKB`, `nmR` (the strings of an item), `regsOKB` (its registers),
    `itemTextOK = regsOKB && nmR`, `headLabelB`, `routineTextOK`;
  * `codeOK_of_itemTextOK`, `headLabel_of_B`, `textLoads_of_routineTextOK` (soundness);
  * `commentOKB_plain` (a comment that does not start with `#ctx [`), `commentOKB_hook` (the hook comment
    `ctxHookComment ctx` of a context with white-space-free names).
  Everything is defined on character lists: `decide` evaluates it in the kernel.
-/
import Scc.RV.LoaderText
import Scc.Backend.Generic

namespace Scc.RV.Loader

open Scc.RV.Ref Scc.Str

set_option linter.unusedSimpArgs false

def regOKB (r : Register) : Bool := decide (r.n < registerNum)

/-- a referenced label: not empty, no white space -/
def labelOKB (l : String) : Bool := !l.toList.isEmpty && l.toList.all (fun c => !c.isWhitespace)

/-- a defined label: moreover it does not start with `//` (the loader would take the line for a comment) -/
def labelDefOKB (l : String) : Bool := labelOKB l && !(['/', '/'].isPrefixOf l.toList)

/-- a comment: no line break, and what the loader reads it as (the text without trailing white space) is not
    a malformed `#ctx [` hook -/
def commentOKB (m : String) : Bool :=
  m.toList.all (· != '\n') && (parseHookL (rtrimList m.toList) != some none)

/-- the strings of one item are text-safe -/
def nmR : Code → Bool
  | .JAL _ l | .LA _ l | .BEQ _ _ l | .BNE _ _ l | .BLT _ _ l | .BLE _ _ l | .BGT _ _ l | .BGE _ _ l => labelOKB l
  | .LAB l => labelDefOKB l
  | .COMMENT m => commentOKB m
  | _ => true

def regsOKB (c : Code) : Bool := (regsOf c).all regOKB

/-- **text-safety of one item** -/
def itemTextOK (c : Code) : Bool := regsOKB c && nmR c

def headLabelB : List Code → Bool
  | [] => true
  | .LAB _ :: _ => true
  | _ => false

/-- **text-safety of a routine** -/
def routineTextOK (instrs : List Code) : Bool := headLabelB instrs && instrs.all itemTextOK

theorem labelOKB_sound {l : String} (h : labelOKB l = true) : LabelOK l := tok_of_check h

theorem labelDefOKB_sound {l : String} (h : labelDefOKB l = true) : LabelDefOK l := by
  simp only [labelDefOKB, Bool.and_eq_true, Bool.not_eq_true'] at h
  refine ⟨labelOKB_sound h.1, ?_⟩
  intro hp
  have := List.isPrefixOf_iff_prefix.2 hp
  rw [this] at h; exact absurd h.2 (by simp)

theorem commentOKB_sound {m : String} (h : commentOKB m = true) : NoNL m ∧ HookOK m := by
  simp only [commentOKB, Bool.and_eq_true, List.all_eq_true, bne_iff_ne, ne_eq] at h
  exact ⟨fun hm => h.1 _ hm rfl, h.2⟩

theorem regsOKB_sound {c : Code} (h : regsOKB c = true) : RegsOK c := by
  simp only [regsOKB, List.all_eq_true, regOKB, decide_eq_true_eq] at h
  exact h

theorem codeOK_of_itemTextOK {c : Code} (h : itemTextOK c = true) : CodeOK c := by
  simp only [itemTextOK, Bool.and_eq_true] at h
  refine ⟨regsOKB_sound h.1, ?_, ?_, ?_⟩
  · intro l hl
    cases c <;> simp only [Code.labelRef?, Option.some.injEq] at hl <;>
      first | (subst hl; exact labelOKB_sound h.2) | cases hl
  · intro l hl; subst hl; exact labelDefOKB_sound h.2
  · intro m hm; subst hm; exact commentOKB_sound h.2

theorem headLabel_of_B {instrs : List Code} (h : headLabelB instrs = true) : HeadLabel instrs := by
  cases instrs with
  | nil => exact Or.inl rfl
  | cons c cs =>
    cases c <;> first | exact Or.inr ⟨_, _, rfl⟩ | (simp [headLabelB] at h)

/-- the text of a text-safe routine loads -/
theorem textLoads_of_routineTextOK (instrs : List Code) (h : routineTextOK instrs = true) :
    ∃ lines, parseText (intoRoutine instrs) = .ok lines ∧
      (lines.map (·.2)).map stripC = ([Code.COMMENT "actual code"] ++ instrs ++ [Code.LAB "cleanup"]).map stripC ∧
      ∀ x ∈ lines, ¬ badHook x.2 := by
  simp only [routineTextOK, Bool.and_eq_true, List.all_eq_true] at h
  exact textLoads instrs (headLabel_of_B h.1) (fun c hc => codeOK_of_itemTextOK (h.2 c hc))

/-! ## completeness on the labels and comments the backend emits -/

theorem labelOKB_of_chars {l : String} (hne : l.toList ≠ []) (h : ∀ c ∈ l.toList, c.isWhitespace = false) :
    labelOKB l = true := by
  simp only [labelOKB, Bool.and_eq_true, Bool.not_eq_true', List.all_eq_true]
  refine ⟨?_, h⟩
  cases hl : l.toList with
  | nil => exact absurd hl hne
  | cons _ _ => rfl

theorem labelDefOKB_of_chars {l : String} (hne : l.toList ≠ [])
    (h : ∀ c ∈ l.toList, c.isWhitespace = false ∧ c ≠ '/') : labelDefOKB l = true := by
  simp only [labelDefOKB, Bool.and_eq_true, Bool.not_eq_true']
  refine ⟨labelOKB_of_chars hne (fun c hc => (h c hc).1), ?_⟩
  cases hp : ['/', '/'].isPrefixOf l.toList with
  | false => rfl
  | true =>
    obtain ⟨t, ht⟩ := List.isPrefixOf_iff_prefix.1 hp
    exact absurd rfl (h '/' (by rw [← ht]; simp)).2

theorem labelOKB_of_def {l : String} (h : labelDefOKB l = true) : labelOKB l = true := by
  simp only [labelDefOKB, Bool.and_eq_true] at h; exact h.1

theorem rtrimList_prefix (l : List Char) : rtrimList l <+: l := by
  obtain ⟨b, hb⟩ := dropEndWhileList_prefix (p := Char.isWhitespace) l
  exact ⟨b, hb.symm⟩

theorem commentOKB_plain {m : String} (h1 : '\n' ∉ m.toList) (h2 : ¬ "#ctx [".toList <+: m.toList) :
    commentOKB m = true := by
  simp only [commentOKB, Bool.and_eq_true, List.all_eq_true, bne_iff_ne, ne_eq]
  refine ⟨fun c hc e => h1 (e ▸ hc), ?_⟩
  have hp : "#ctx [".toList.isPrefixOf (rtrimList m.toList) = false := by
    cases hp : "#ctx [".toList.isPrefixOf (rtrimList m.toList) with
    | false => rfl
    | true => exact absurd ((List.isPrefixOf_iff_prefix.1 hp).trans (rtrimList_prefix _)) h2
  unfold parseHookL
  rw [hp]
  simp

/-- one binding of a hook: `name:kind` -/
def hookWordC (b : Scc.AxCut.Binding) : List Char := b.var.print.toList ++ ':' :: (Scc.Backend.chiStr b.chi).toList

theorem ctxHookComment_toList (ctx : Scc.AxCut.Ctx) :
    (Scc.Backend.ctxHookComment ctx).toList
      = "#ctx [".toList ++ ([' '].intercalate (ctx.map hookWordC) ++ [']']) := by
  unfold Scc.Backend.ctxHookComment
  simp only [String.toList_append, String.toList_intercalate, List.map_map, List.append_assoc]
  congr 2
  · congr 1
    apply List.map_congr_left
    intro b _
    simp [hookWordC, String.toList_append]

/-- the kind of a binding as the hook reports it: `true` = a heap pointer (`prd`, `cns`), `false` = `ext` -/
def chiPtr : Scc.AxCut.Chi → Bool
  | .ext => false
  | _ => true

theorem chiStr_chars (chi : Scc.AxCut.Chi) :
    (∀ c ∈ (Scc.Backend.chiStr chi).toList, c.isWhitespace = false) ∧ ':' ∉ (Scc.Backend.chiStr chi).toList ∧
      kindL (Scc.Backend.chiStr chi).toList = some (chiPtr chi) := by
  cases chi <;> decide

theorem mapM_map_some {α β γ : Type} (f : β → Option γ) (g : α → β) (k : α → γ) (l : List α)
    (h : ∀ a ∈ l, f (g a) = some (k a)) : (l.map g).mapM f = some (l.map k) := by
  induction l with
  | nil => rfl
  | cons a as ih =>
    rw [List.map_cons, List.mapM_cons, h a (by simp), ih (fun x hx => h x (by simp [hx]))]
    rfl

theorem hookWord_kind (b : Scc.AxCut.Binding) : hookKindL (hookWordC b) = some (chiPtr b.chi) := by
  unfold hookKindL hookWordC
  rw [splitList_append_sep', splitList_of_not_mem _ _ (chiStr_chars b.chi).2.1]
  simp only [List.getLast?_append, List.getLast?_singleton, Option.some_or]
  exact (chiStr_chars b.chi).2.2

/-- the hook comment of a context whose variable names contain no white space: its character list, as the
    loader reads it, is the hook of the context's kinds -/
theorem parseHookL_hook (ctx : Scc.AxCut.Ctx) (h : ∀ b ∈ ctx, ∀ c ∈ b.var.print.toList, c.isWhitespace = false) :
    '\n' ∉ (Scc.Backend.ctxHookComment ctx).toList ∧
    rtrimList (Scc.Backend.ctxHookComment ctx).toList = (Scc.Backend.ctxHookComment ctx).toList ∧
    parseHookL (Scc.Backend.ctxHookComment ctx).toList = some (some (ctx.map fun b => chiPtr b.chi)) := by
  have htokw : ∀ b ∈ ctx, Tok (hookWordC b) := by
    intro b hb
    refine ⟨by simp [hookWordC], ?_⟩
    intro c hc
    simp only [hookWordC, List.mem_append, List.mem_cons] at hc
    rcases hc with hc | rfl | hc
    · exact h b hb c hc
    · decide
    · exact (chiStr_chars b.chi).1 c hc
  have hnlw : '\n' ∉ [' '].intercalate (ctx.map hookWordC) := by
    cases hctx : ctx with
    | nil => simp [intercalate_nil']
    | cons b bs =>
      have := tokLine_no_nl (hookWordC b) (bs.map hookWordC) (by
        intro x hx
        rw [← List.map_cons] at hx
        obtain ⟨b', hb', rfl⟩ := List.mem_map.1 hx
        exact htokw b' (by rw [hctx]; exact hb'))
      simpa [tokLine] using this
  rw [ctxHookComment_toList]
  refine ⟨?_, ?_, ?_⟩
  · intro hc
    simp only [List.mem_append, List.mem_singleton] at hc
    rcases hc with hc | hc | hc
    · revert hc; decide
    · exact hnlw hc
    · revert hc; decide
  · apply rtrimList_of_last
    intro c hc
    rw [← List.append_assoc, List.getLast?_append] at hc
    simp at hc
    subst hc; decide
  · unfold parseHookL
    have hp : "#ctx [".toList.isPrefixOf ("#ctx [".toList ++ ([' '].intercalate (ctx.map hookWordC) ++ [']'])) = true :=
      List.isPrefixOf_iff_prefix.2 ⟨_, rfl⟩
    have hl : (("#ctx [".toList ++ ([' '].intercalate (ctx.map hookWordC) ++ [']'])).getLast? == some ']') = true := by
      rw [← List.append_assoc, List.getLast?_append]; simp
    have hinner : (("#ctx [".toList ++ ([' '].intercalate (ctx.map hookWordC) ++ [']'])).drop 6).dropLast
        = [' '].intercalate (ctx.map hookWordC) := by
      have : ("#ctx [".toList ++ ([' '].intercalate (ctx.map hookWordC) ++ [']'])).drop 6
          = [' '].intercalate (ctx.map hookWordC) ++ [']'] := rfl
      rw [this, List.dropLast_concat]
    simp only [hp, hl, Bool.and_self, if_true, hinner]
    have hwords : wordsL ([' '].intercalate (ctx.map hookWordC)) = ctx.map hookWordC := by
      cases hctx : ctx with
      | nil => rfl
      | cons b bs =>
        rw [List.map_cons]
        apply wordsL_intercalate
        intro x hx
        rw [← List.map_cons] at hx
        obtain ⟨b', hb', rfl⟩ := List.mem_map.1 hx
        exact htokw b' (by rw [hctx]; exact hb')
    rw [hwords, mapM_map_some hookKindL hookWordC (fun b => chiPtr b.chi) ctx (fun b _ => hookWord_kind b)]

/-- … so it passes the comment check -/
theorem commentOKB_hook (ctx : Scc.AxCut.Ctx) (h : ∀ b ∈ ctx, ∀ c ∈ b.var.print.toList, c.isWhitespace = false) :
    commentOKB (Scc.Backend.ctxHookComment ctx) = true := by
  obtain ⟨h1, h2, h3⟩ := parseHookL_hook ctx h
  simp only [commentOKB, Bool.and_eq_true, List.all_eq_true, bne_iff_ne, ne_eq]
  refine ⟨fun c hc e => h1 (e ▸ hc), ?_⟩
  rw [h2, h3]
  simp

end Scc.RV.Loader
