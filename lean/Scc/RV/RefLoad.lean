/-
  Scc.RV.RefLoad — the abstract machine's `load` against the RV64 code of `Memory::load`: from related states
  (`X3`) whose last position holds a reference to an object with the kinds of `Δ`, whenever the abstract machine
  unpacks the object into the positions of `Δ` (unique: the object is freed; shared: count decremented, children
  shared), the emitted code runs to its end and the states are related again.  It is `load_x3` of Scc/Backend/ThreeWaySwitch.lean at the RV64 target (`load_contract`,
  Scc/RV/MemProofsLoad.lean = Props/C08RV.lean `C08_load_correct`, ∘ `href_load_full`, Scc/Heap/RefineLoad.lean),
  with the closure words of the loaded positions named by `loadCw` (`cwOK_load`, `loadProv_cw`: also for the `load`
  at the head of a clause or of a method, RefSwitch.lean `load_enter_x3`).
-/
import Scc.RV.RefStore
import Scc.Backend.ThreeWaySwitch
import Scc.Heap.RefineBound
import Scc.Backend.ProofsLoad
import Scc.Backend.ProofsSubstRoots

namespace Scc.RV.Ref

open Scc.AxCut Scc.Backend Scc.Backend.Abs
open Scc.Heap (HState InvS InvW)
open Scc.Heap.Refine (HRef imgW fieldImg kindB href_load_full loadAbs live_header_lt FrLe frLe_load href_head_lt href_root_mem kindB_eq chi_bne_iff)

variable {mc : MonCfg} {cw : Nat → Word} {τ : Nat → Nat → Word}

/-- what `load` did to the positions, over the closure words: the remaining variables keep theirs, the loaded ones
get those of the fields of the loaded object (`loadCw`) -/
theorem loadProv_cw {la : String → Option Nat} {n : Nat} {Δ : Ctx} {cfg cfg' : Config} {st st' : State} {r : Word}
    (hr : cfg.temps.get (2 * n) = some r)
    (LP : ThreeWay.LoadProvS (target mc la) n Δ cfg cfg' τ st st') :
    Prov.LoadProv (cwTv cw) (cwTv (loadCw cw n (τ r.toNat))) n Δ cfg cfg' τ := by
  refine ⟨⟨LP.keep.temps, fun i hi => by rw [cwTv_snd, cwTv_snd]; simp only [loadCw, if_pos hi]⟩, ?_⟩
  rcases LP.obj with h0 | ⟨r1, o1, a1, a2, a3, a4, a5⟩
  · exact Or.inl h0
  · refine Or.inr ⟨r1, o1, a1, a2, a3, a4, fun j hj => ⟨(a5 j hj).1, (a5 j hj).2.1, fun _ => ?_⟩⟩
    obtain rfl : r1 = r := Option.some.inj (a1.symm.trans hr)
    rw [cwTv_snd]
    simp only [loadCw, if_neg (show ¬ n + j < n by omega), Nat.add_sub_cancel_left]

/-- … and the machine holds them -/
theorem cwOK_load {la : String → Option Nat} {Γ' Γ'' Δ : Ctx} {b : Binding} {cfg cfg' : Config} {st st' : State}
    {r : Word} (C : CwOK cw (Γ'' ++ [b]) cfg st) (hlen : Γ'.length = Γ''.length)
    (hr : cfg.temps.get (2 * Γ'.length) = some r)
    (LP : ThreeWay.LoadProvS (target mc la) Γ'.length Δ cfg cfg' τ st st') :
    CwOK (loadCw cw Γ'.length (τ r.toNat)) (Γ'' ++ Δ) cfg' st' := by
  intro i hi hc hdef
  simp only [List.length_append] at hi
  by_cases hin : i < Γ'.length
  · have hin'' : i < Γ''.length := by omega
    have hci : (Γ'' ++ [b])[i]'(by simp; omega) = Γ''[i] := List.getElem_append_left hin''
    have hci' : (Γ'' ++ Δ)[i]'(by simp; omega) = Γ''[i] := List.getElem_append_left hin''
    rw [hci'] at hc
    have e : rv st' (2 * i + 1) = rv st (2 * i + 1) := LP.keep.mach i hin
    rw [e]
    simp only [loadCw, if_pos hin]
    refine C i (by simp; omega) (by rw [hci]; exact hc) ?_
    have := LP.keep.temps (2 * i + 1) (by omega)
    rw [← this]; exact hdef
  · obtain ⟨j, rfl⟩ : ∃ j, i = Γ'.length + j := ⟨i - Γ'.length, by omega⟩
    have hjΔ : j < Δ.length := by omega
    have hcj : (Γ'' ++ Δ)[Γ'.length + j]'(by simp; omega) = Δ[j] := by
      rw [List.getElem_append_right (by omega)]; simp [hlen]
    rw [hcj] at hc
    rcases LP.obj with ⟨e, _⟩ | ⟨r1, o1, a1, _, _, a4, a5⟩
    · rw [e] at hjΔ; simp at hjΔ
    · obtain rfl : r1 = r := Option.some.inj (a1.symm.trans hr)
      have hl : o1.fields.length = Δ.length := by
        have := congrArg List.length a4
        simpa [Mock.kindsOf] using this
      have hj : j < o1.fields.length := by omega
      have hfc : o1.fields[j].chi = .cns := by
        have := congrArg (fun l => l[j]?) a4
        simp only [Mock.kindsOf, List.getElem?_map, List.getElem?_eq_getElem hj,
          List.getElem?_eq_getElem hjΔ, Option.map_some, Option.some.injEq] at this
        rw [this]; exact hc
      have e : rv st' (2 * (Γ'.length + j) + 1) = some (ThreeWay.trF 4#64 τ r1.toNat j o1.fields[j]).val :=
        (a5 j hj).2.2
      rw [e]
      simp only [loadCw, if_neg (show ¬ Γ'.length + j < Γ'.length by omega), Nat.add_sub_cancel_left]
      unfold ThreeWay.trF
      simp only [hfc]

/-- THE ABSTRACT `load` AGAINST `Memory::load`, in the RV64 relation: the closure words of the loaded positions are
those `τ` records for the fields of the object (`loadCw`) -/
theorem load_x3 {la : String → Option Nat}
    {Γ' Δ : Ctx} {b : Binding} {cfg cfg4 cfg' : Config} {hs : HState} {ι : Nat → Nat} {st : State}
    {r : Word} {o : Obj} {h' : Heap}
    (X : X3 mc cw τ (Γ' ++ [b]) cfg hs ι st) (hb : b.chi ≠ .ext)
    (hr : cfg.temps.get (2 * Γ'.length) = some r) (hr0 : r ≠ 0)
    (hg : cfg.heap.get r.toNat = some o)
    (hk : o.fields.map (·.chi) = Mock.kindsOf Δ)
    (hcapΔ : Γ'.length + Δ.length ≤ 14)
    (h4next : cfg4.next = cfg.next)
    (h4temps : ∀ t, t < 2 * (Γ'.length + 1) → cfg4.temps.get t = cfg.temps.get t)
    (hlo : loadAbs cfg.heap r.toNat o = .ok h')
    (hcfg' : cfg' =
      { cfg4 with pc := cfg4.pc + 1, temps := writeFields (clobberTemp cfg4.temps) o.fields Γ'.length, heap := h' })
    (kk : Nat) :
    ∃ code kk', (load Δ Γ').run kk = .ok (code, kk') ∧ MemFree code ∧ Code.LAB "cleanup" ∉ code ∧
      ∃ st' hs', execFwd mc la code st = .ok (st', .fall) ∧
        X3 mc (loadCw cw Γ'.length (τ r.toNat)) τ (Γ' ++ Δ) cfg' hs' ι st' ∧ FrLe hs hs' 0 := by
  have hlenΔ : Δ.length = o.fields.length := by
    have := congrArg List.length hk
    simpa [Mock.kindsOf] using this.symm
  obtain ⟨X0, C⟩ := (x3r_iff (la := la)).1 X
  have hcap : (Γ' ++ [b]).length ≤ 14 := X.cap
  simp only [List.length_append, List.length_singleton] at hcap
  obtain ⟨code, kk', hrun, _, hlabs, st', hs', hx, X', hfr, LP⟩ :=
    ThreeWay.load_x3 (T := target mc la) (cfg4 := { cfg4 with out := cfg.out })
      (cfg' := { cfg' with out := cfg.out }) X0 hb hr hr0 hg hk (by show _ ≤ 28; omega) h4next rfl h4temps hlo
      (by rw [hcfg']) kk
  exact ⟨code, kk', hrun, load_free _ _ kk code _ hrun, noCleanup_of_labsIn hlabs, st', hs', hx,
    (X3R.ofM X' (cwOK_load C rfl hr LP)).setOut cfg'.out, hfr⟩

end Scc.RV.Ref
