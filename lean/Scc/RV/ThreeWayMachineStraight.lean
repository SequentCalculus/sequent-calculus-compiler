/-
  Scc.RV.ThreeWayMachineStraight — the fields of the RV64 `Machine rvBackend` (Scc/Backend/ThreeWayStep.lean) for the
  straight-line methods of code.rs, over the vocabulary of Scc/RV/ThreeWayMachine.lean: comments and labels are passed
  (`pass_comments`, `pass_label`), `load_immediate` and the arithmetic are one instruction each that writes one
  register (`rv_lift`), the branches are one instruction that falls through or jumps to a label of the statement's
  code (`rv_branch`: the label is found by splitting the statement's code where it lies in the loaded routine).
  RV64 has no print.
-/
import Scc.RV.ThreeWayMachine

set_option linter.unusedVariables false

namespace Scc.RV.Ref

open Scc.AxCut Scc.Backend
open Scc.Heap (HState)
open Scc.Backend.ThreeWay (XAt)

theorem rv_jumpIf_single (srt : IfSort) (a b : Register) (l : String) :
    ∃ c, rvBackend.jumpLabelIf srt a b l = [c] ∧ c.isInstr = true := by
  cases srt <;> exact ⟨_, rfl, rfl⟩

/-- a label with an underscore inside is not the exit label (the labels of tables, clauses and methods) -/
theorem table_ne_cleanup (a b : String) : a ++ "_" ++ b ≠ "cleanup" := by
  intro e
  have h : '_' ∈ (a ++ "_" ++ b).toList := by
    simp only [String.toList_append]
    have : ("_" : String).toList = ['_'] := rfl
    rw [this]
    simp
  rw [e] at h
  have h4 : ("cleanup" : String).toList = ['c', 'l', 'e', 'a', 'n', 'u', 'p'] := rfl
  rw [h4] at h
  simp at h

section
variable {mc : MonCfg} {la : String → Option Nat}

/-- a change of the register of position `t` alone, in the vocabulary of the target -/
theorem keepT_of_keep {st st' : State} {t : Nat} (K : Keep st st' (fun u => u = posReg t)) :
    ThreeWay.Keep (target mc la) st st' (· = t) :=
  ⟨fun u hu hne => rv_of_regs K.regs hu (fun e => hne (posReg_inj.1 e)), fun _ h => h,
    fun hs R => K.heapRel R (by simp [posReg]) (by simp [posReg])⟩

end

section
variable {mc : MonCfg} {pr : RV.Program} {ks : List Code} (L : Loaded pr ks) (hndL : (labs ks).Nodup)
  (hheap : mc.heap = false) {items : List Code}

include L hndL hheap in
/-- a comment is passed (`(_ : True)`: the field's `CommentOK m`, which asks nothing on RV64) -/
theorem rv_run_comment {k : Nat} {st : State} {m : String} (hat : XAt items k [rvBackend.comment m])
    (hpc : pcAtR ks items st k) (_ : True) (B : Boundary mc st) :
    ∃ st', Reach pr mc st st' ∧ pcAtR ks items st' (k + 1) ∧ Boundary mc st' ∧
      ThreeWay.Keep (target mc pr.labelAddr) st st' (fun _ => False) := by
  obtain ⟨pc', steps', hr, hat'⟩ := pass_comments L hndL hheap (hpc.kat hat)
    (fun y hy => ⟨m, by
      have : y = rvBackend.comment m := by simpa using hy
      exact this⟩)
  exact ⟨setPS st pc' steps', hr, ⟨hat', hpc.2⟩, bnd_setPS B _ _, keep_setPS _ _ _⟩

include L hndL hheap in
/-- the hook, if any, and the statement comment are passed (`(_ : True)`: `CommentOK m`) -/
theorem rv_run_c0 {k : Nat} {st : State} {hooks : Bool} {Γ : Ctx} {m : String}
    (hat : XAt items k (hookCode rvBackend hooks Γ ++ [rvBackend.comment m])) (hpc : pcAtR ks items st k)
    (_ : True) (B : Boundary mc st) :
    ∃ st', Reach pr mc st st' ∧
      pcAtR ks items st' (k + (hookCode rvBackend hooks Γ ++ [rvBackend.comment m]).length) ∧ Boundary mc st' ∧
      ThreeWay.Keep (target mc pr.labelAddr) st st' (fun _ => False) ∧ ∀ u, rv st' u = rv st u := by
  obtain ⟨pc', steps', hr, hat'⟩ := pass_comments L hndL hheap (hpc.kat hat) (hook_comments hooks Γ m)
  exact ⟨setPS st pc' steps', hr, ⟨hat', hpc.2⟩, bnd_setPS B _ _, keep_setPS _ _ _, fun _ => rfl⟩

include L in
theorem rv_run_label {k : Nat} {st : State} {l : String} (hat : XAt items k [rvBackend.label l])
    (hpc : pcAtR ks items st k) (hl : l ≠ "cleanup") (B : Boundary mc st) :
    ∃ st', Reach pr mc st st' ∧ pcAtR ks items st' (k + 1) ∧ Boundary mc st' ∧
      ThreeWay.Keep (target mc pr.labelAddr) st st' (fun _ => False) := by
  obtain ⟨hr, hat'⟩ := pass_label L (cfg := mc) (hpc.kat hat) hl
  exact ⟨setPS st (st.pc + 1) st.steps, hr, ⟨hat', hpc.2⟩, bnd_setPS B _ _, keep_setPS _ _ _⟩

include L hndL hheap in
/-- code.rs load_immediate: `LI`, any literal (`(_ : True)`: the field's `immOK n`) -/
theorem rv_loadImm {k : Nat} {st : State} {t : Nat} {n : Int}
    (hat : XAt items k (rvBackend.loadImmediate (posTemp t) n)) (hpc : pcAtR ks items st k)
    (B : Boundary mc st) (ht : t < 28) (_ : True) :
    ∃ st', Reach pr mc st st' ∧ pcAtR ks items st' (k + (rvBackend.loadImmediate (posTemp t) n).length) ∧
      Boundary mc st' ∧ rv st' t = some (BitVec.ofInt 64 n) ∧
      ThreeWay.Keep (target mc pr.labelAddr) st st' (· = t) := by
  have hx : execFwd mc pr.labelAddr (rvBackend.loadImmediate (posTemp t) n) st =
      .ok (st.writeReg (posTemp t) (imm n), .fall) :=
    execFwd_single (show exec mc pr.labelAddr 0 (Code.LI (posTemp t) n) st = .ok (_, .fall) from rfl)
  have K := keep_writeReg B.wf (posTemp t) (imm n)
  obtain ⟨st'', hr, hpc', B', K'⟩ := rv_lift L hndL hheap hat hpc hx
    ⟨fun c hc => by
      have : c = Code.LI (posTemp t) n := by simpa [rvBackend] using hc
      subst this; rfl, by simp [rvBackend]⟩ ⟨K.wf, B.top⟩
  refine ⟨st'', hr, hpc', B', ?_, ThreeWay.Keep.then (keepT_of_keep K) K'⟩
  have := K'.tv t ht id
  exact this.trans (rv_writeReg_same B.wf ht _)

include L hndL hheap in
/-- code.rs add … rem: one instruction (the field's order hypotheses `p1 < pt`, `p2 < pt` are not asked: on RV64
every position has its own register) -/
theorem rv_binop {k : Nat} {st : State} {o : BinOp} {pt p1 p2 : Nat} {a b r : Word}
    (hat : XAt items k (rvBackend.binop o (posTemp (2 * pt + 1)) (posTemp (2 * p1 + 1)) (posTemp (2 * p2 + 1))))
    (hpc : pcAtR ks items st k) (B : Boundary mc st) (ht : 2 * pt + 1 < 28)
    (ha : rv st (2 * p1 + 1) = some a) (hb : rv st (2 * p2 + 1) = some b) (hv : Pos.evalOp o a b = .ok r) :
    ∃ st', Reach pr mc st st' ∧
      pcAtR ks items st'
        (k + (rvBackend.binop o (posTemp (2 * pt + 1)) (posTemp (2 * p1 + 1)) (posTemp (2 * p2 + 1))).length) ∧
      Boundary mc st' ∧ rv st' (2 * pt + 1) = some r ∧
      ThreeWay.Keep (target mc pr.labelAddr) st st' (· = 2 * pt + 1) := by
  obtain ⟨ci, hci, hcf, hcin⟩ := binop_single o (posTemp (2 * pt + 1)) (posTemp (2 * p1 + 1))
    (posTemp (2 * p2 + 1))
  have hex : exec mc pr.labelAddr 0 ci st = .ok (st.writeReg (posTemp (2 * pt + 1)) r, .fall) := by
    have := exec_binop mc pr.labelAddr 0 o (posTemp (2 * pt + 1)) (posTemp (2 * p1 + 1)) (posTemp (2 * p2 + 1))
      st a b r (readReg_of_rv ha) (readReg_of_rv hb) hv
    rw [hci, execList_singleton] at this
    exact this
  rw [hci] at hat ⊢
  have K := keep_writeReg B.wf (posTemp (2 * pt + 1)) r
  obtain ⟨st'', hr, hpc', B', K'⟩ := rv_lift L hndL hheap hat hpc (execFwd_single hex)
    ⟨fun c hc => by simp at hc; subst hc; exact hcf,
      by simp; intro e; rw [← e] at hcin; simp [Code.isInstr] at hcin⟩ ⟨K.wf, B.top⟩
  refine ⟨st'', hr, hpc', B', ?_, ThreeWay.Keep.then (keepT_of_keep K) K'⟩
  have := K'.tv (2 * pt + 1) ht id
  exact this.trans (rv_writeReg_same B.wf ht _)

/-- code.rs print_i64 / println_i64: not implemented on RV64 -/
theorem rv_print {nl : Bool} {p : Nat} {Γ : Ctx} {kx kx' : Nat} {code : List Code}
    (h : (rvBackend.printI64 nl (posTemp (2 * p + 1)) Γ).run kx = .ok (code, kx')) : False := by
  cases h

include L hndL in
/-- a branch at position `k`: on, or to the position `k'` of its label; one transition either way -/
theorem rv_branch {k k' : Nat} {st : State} {ci : Code} {l : String} {c : Bool}
    (hat : XAt items k [ci]) (hlab : XAt items k' [Code.LAB l]) (hpc : pcAtR ks items st k)
    (B : Boundary mc st) (hcin : ci.isInstr = true)
    (hjx : ∀ ad, exec mc pr.labelAddr ad ci st = .ok (st, if c then .label l else .fall)) :
    ∃ st', ReachP pr mc st st' ∧ pcAtR ks items st' (if c then k' else k + 1) ∧ Boundary mc st' ∧
      ThreeWay.Keep (target mc pr.labelAddr) st st' (fun _ => False) := by
  have hatK := hpc.kat hat
  obtain ⟨hg, hm⟩ := hatK.head (isComment_of_isInstr hcin)
  obtain ⟨it, h1, h2, _⟩ := loaded_item L hg
  cases c with
  | true =>
    simp only [if_true] at hjx ⊢
    obtain ⟨pc0, hk0⟩ := hpc.2
    obtain ⟨cs1, rest, e, hl1⟩ := hlab
    have hk0' : KAt ks pc0 (cs1 ++ (Code.LAB l :: rest)) := by
      rw [e] at hk0
      simpa [List.append_assoc] using hk0
    obtain ⟨ka, _, _, hatj⟩ := hk0'.split
    have hidx := labIdx_of_nodup hndL (hatj.head rfl).1
    refine ⟨setPS st (pc0 + ka.length) (st.steps + 1), ReachP.of_step ?_, ⟨?_, hpc.2⟩, bnd_setPS B _ _,
      keep_setPS _ _ _⟩
    · exact Scc.RV.step_of_jump pr mc st st h1 (by rw [h2]; exact hcin) (by rw [h2]; exact hjx _)
        (by rw [L.labels]; exact hidx)
    · show KAt ks (pc0 + ka.length) (items.drop k')
      have : items.drop k' = Code.LAB l :: rest := by
        rw [e, ← hl1, List.append_assoc, List.drop_left]
        rfl
      rw [this]
      exact hatj
  | false =>
    simp only [Bool.false_eq_true, if_false] at hjx ⊢
    refine ⟨setPS st (st.pc + 1) (st.steps + 1), ReachP.of_step ?_, ⟨hm, hpc.2⟩, bnd_setPS B _ _,
      keep_setPS _ _ _⟩
    exact Scc.RV.step_of_fall pr mc st st h1 (by rw [h2]; exact hcin) (by rw [h2]; exact hjx _)

include L hndL in
/-- code.rs jump_label_if_*: one branch instruction (the field's bounds `s1 < 28`, `s2 < 28` are not asked: the
registers are read through `rv`) -/
theorem rv_jumpIf {k k' : Nat} {st : State} {srt : IfSort} {s1 s2 : Nat} {l : String} {a b : Word}
    (hat : XAt items k (rvBackend.jumpLabelIf srt (posTemp s1) (posTemp s2) l))
    (hlab : XAt items k' [rvBackend.label l]) (hpc : pcAtR ks items st k) (B : Boundary mc st)
    (ha : rv st s1 = some a) (hb : rv st s2 = some b) :
    ∃ st', Reach pr mc st st' ∧
      pcAtR ks items st' (if Pos.evalCmp srt a b then k'
        else k + (rvBackend.jumpLabelIf srt (posTemp s1) (posTemp s2) l).length) ∧
      Boundary mc st' ∧ ThreeWay.Keep (target mc pr.labelAddr) st st' (fun _ => False) := by
  obtain ⟨ci, hci, hcin⟩ := rv_jumpIf_single srt (posTemp s1) (posTemp s2) l
  have hjx : ∀ ad, exec mc pr.labelAddr ad ci st = .ok (st, if Pos.evalCmp srt a b then .label l else .fall) := by
    intro ad
    have := exec_jumpLabelIf mc pr.labelAddr ad srt (posTemp s1) (posTemp s2) l st a b (readReg_of_rv ha)
      (readReg_of_rv hb)
    rw [hci, execList_singleton] at this
    exact this
  rw [hci] at hat ⊢
  obtain ⟨st', hr, hpc', B', K'⟩ := rv_branch L hndL hat hlab hpc B hcin hjx
  exact ⟨st', hr.reach, hpc', B', K'⟩

include L hndL in
/-- code.rs jump_label_if_zero_*: the same against `ZERO` -/
theorem rv_jumpIfZero {k k' : Nat} {st : State} {srt : IfSort} {s1 : Nat} {l : String} {a : Word}
    (hat : XAt items k (rvBackend.jumpLabelIfZero srt (posTemp s1) l))
    (hlab : XAt items k' [rvBackend.label l]) (hpc : pcAtR ks items st k) (B : Boundary mc st)
    (ha : rv st s1 = some a) :
    ∃ st', Reach pr mc st st' ∧
      pcAtR ks items st' (if Pos.evalCmp srt a 0 then k'
        else k + (rvBackend.jumpLabelIfZero srt (posTemp s1) l).length) ∧
      Boundary mc st' ∧ ThreeWay.Keep (target mc pr.labelAddr) st st' (fun _ => False) := by
  obtain ⟨ci, hci, hcin⟩ := rv_jumpIf_single srt (posTemp s1) ZERO l
  have hci' : rvBackend.jumpLabelIfZero srt (posTemp s1) l = [ci] := hci
  have hjx : ∀ ad, exec mc pr.labelAddr ad ci st = .ok (st, if Pos.evalCmp srt a 0 then .label l else .fall) := by
    intro ad
    have := exec_jumpLabelIfZero mc pr.labelAddr ad srt (posTemp s1) l st a (readReg_of_rv ha)
    rw [hci', execList_singleton] at this
    exact this
  rw [hci'] at hat ⊢
  obtain ⟨st', hr, hpc', B', K'⟩ := rv_branch L hndL hat hlab hpc B hcin hjx
  exact ⟨st', hr.reach, hpc', B', K'⟩

include L hndL in
/-- code.rs jump_label: `JAL ZERO l`, a real transition -/
theorem rv_jumpLabel {k k' : Nat} {st : State} {l : String} (hat : XAt items k (rvBackend.jumpLabel l))
    (hlab : XAt items k' [rvBackend.label l]) (hpc : pcAtR ks items st k) (B : Boundary mc st) :
    ∃ st', ReachP pr mc st st' ∧ pcAtR ks items st' k' ∧ Boundary mc st' ∧
      ThreeWay.Keep (target mc pr.labelAddr) st st' (fun _ => False) := by
  have hat' : XAt items k [Code.JAL ZERO l] := hat
  exact rv_branch (c := true) L hndL hat' hlab hpc B rfl (fun ad => exec_JAL_zero mc _ ad l st)

end

end Scc.RV.Ref
