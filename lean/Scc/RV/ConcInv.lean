/-
  Scc.RV.ConcInv — the heap invariant of C09 ON THE CONCRETE RV64 MACHINE STATE, derived from the three-way
  relation at a statement boundary.

  `HeapInvAt s kinds limit` is the predicate of the executable heap monitor (`heapMonitor` of
  Scc/RV/Machine.lean) with the decision procedure `Scc.Heap.invCheckFn` replaced by what it decides, the
  invariant `Scc.Heap.InvW` (Scc/Heap/Inv.lean), on the raw machine components:
    * memory    = the machine's heap words (unwritten words read 0), as naturals;
    * heap/free = the contents of the registers HEAP (X2) and FREE (X3);
    * roots     = the contents of the FIRST temporaries `X(2i + 4)` of the non-`ext` variables of the context,
                  read exactly as the monitor reads them (`readReg`: in particular they are DEFINED);
    * region    = `[heapBase, limit)`.
  `heapInvAt_of_x3`: a machine state in the right half `X3` of the three-way relation (with the left half
  `RelX`, which makes the pointer temporaries of non-`ext` variables defined) satisfies `HeapInvAt` with
  `limit = heapBase + heapBytes`: `HeapRel` (machine memory = block-level state) ∘ `HRef.conc` (the block-level
  state satisfies `InvS` w.r.t. the images of the abstract roots) ∘ agreement of the roots up to null pointers
  (`InvW.roots_congr`).  A closure is a heap object like a constructor object: its pointer part (the
  environment block) is a root, its word part (the address of the method table) is not looked at.
  `ctxKinds` (the kinds a `#ctx […]` hook lists) and the counting lemmas are those of Scc/X86/ConcInv.lean (they do
  not mention the machine).  There is no stack on RV64 and no tolerance: an indirect jump lands ON the label (Machine.lean `addrIdx`).
-/
import Scc.RV.RefRun
import Scc.X86.ConcInv

namespace Scc.RV.Conc

open Scc.AxCut Scc.Backend Scc.Backend.Abs Scc.RV.Ref
open Scc.Backend.Sim2
open Scc.Heap (HState InvS InvW)
open Scc.Heap.Refine (HRef imgW)
open Scc.X86.Conc (ctxKinds zipIdx_filter_kinds count_roots)

/-- the machine's heap memory as the invariant sees it (`heapMonitor`: `fun a => (s.mem.getD a 0).toNat`) -/
def memFn (s : State) : Nat → Nat := fun a => (s.mem.getD a 0).toNat

/-- THE MONITOR'S PREDICATE on a machine state (with `invCheckFn` replaced by `InvW`): the roots, HEAP and FREE
are readable (defined), and the invariant holds for the raw machine memory in `[heapBase, limit)` -/
def HeapInvAt (s : State) (kinds : List Bool) (limit : Nat) : Prop :=
  ∃ (roots : List Word) (h f : Word) (lin lazy live : List Nat) (F : Nat),
    (hookRoots kinds).mapM (fun r => s.readReg ⟨r⟩) = .ok roots ∧
    s.readReg HEAP = .ok h ∧ s.readReg FREE = .ok f ∧
    InvW (memFn s) heapBase limit h.toNat f.toNat (roots.map (·.toNat)) [] lin lazy live F

theorem hookRoots_go (kinds : List Bool) : ∀ (k : Nat),
    hookRoots.go kinds k = ((kinds.zipIdx k).filter (·.1)).map (fun (ki : Bool × Nat) => 2 * ki.2 + reserved) := by
  induction kinds with
  | nil => intro k; rfl
  | cons b ks ih =>
    intro k
    cases b with
    | true =>
      simp only [hookRoots.go, List.zipIdx_cons, List.filter_cons, if_true, List.map_cons, ih]
    | false =>
      simp only [hookRoots.go, List.zipIdx_cons, List.filter_cons, Bool.false_eq_true, if_false, ih]

theorem hookRoots_eq (kinds : List Bool) :
    hookRoots kinds = ((kinds.zipIdx 0).filter (·.1)).map (fun (ki : Bool × Nat) => 2 * ki.2 + reserved) :=
  hookRoots_go kinds 0

variable {mc : MonCfg} {cw : Nat → Word} {τ : Nat → Nat → Word}

/-- THE HEAP INVARIANT ON THE CONCRETE MACHINE STATE at a statement boundary -/
theorem heapInvAt_of_x3 {P : Abs.Program} {hooks : Bool} {prog : AxCut.Prog} {Γ : Ctx} {ρ : List Pos.Value}
    {s : Stmt} {cfg : Config} {hs : HState} {ι : Nat → Nat} {st : State}
    (R : RelX P hooks prog ⟨Γ, ρ, s⟩ cfg) (X : X3 mc cw τ Γ cfg hs ι st) :
    HeapInvAt st (ctxKinds Γ) (heapBase + mc.heapBytes) ∧ hs.limit = heapBase + mc.heapBytes := by
  obtain ⟨w, hw, ew⟩ := X.hrel.heap
  obtain ⟨f, hf, ef⟩ := X.hrel.free
  obtain ⟨lin, lazy, live, Fr, I⟩ := X.href.conc
  -- the pointer parts on the abstract machine
  let val : Nat → Word := fun i => imgWord ι ((cfg.temps.get (2 * i)).getD 0)
  have hlen : ρ.length = Γ.length := R.len
  have hdef : ∀ i (hi : i < Γ.length), Γ[i].chi ≠ .ext → ∃ r, cfg.temps.get (2 * i) = some r ∧
      rv st (2 * i) = some (val i) ∧ (val i).toNat = imgW ι r := by
    intro i hi hc
    have hv := (R.vals i hi (by rw [hlen]; exact hi)).2.2.2 ((chi_bne_ext _).mpr hc)
    cases hg : cfg.temps.get (2 * i) with
    | none => rw [hg] at hv; cases hv
    | some r =>
      refine ⟨r, rfl, ?_, ?_⟩
      · have := X.ptrs i hi hc r hg
        simpa [val, hg] using this
      · simp only [val, hg, Option.getD_some]
        exact imgWord_toNat (fun h0 => (X3R.ref_lt X hi hc hg h0).1)
  -- what the monitor reads
  have hread : (hookRoots (ctxKinds Γ)).mapM (fun r => st.readReg ⟨r⟩) =
      .ok ((((ctxKinds Γ).zipIdx 0).filter (·.1)).map (fun (ki : Bool × Nat) => val ki.2)) := by
    rw [hookRoots_eq]
    have := mapM_ok (fun (ki : Bool × Nat) => st.readReg ⟨2 * ki.2 + reserved⟩)
      (fun (ki : Bool × Nat) => val ki.2) (((ctxKinds Γ).zipIdx 0).filter (·.1)) (by
        intro ki hki
        rw [List.mem_filter] at hki
        obtain ⟨hmem, hk1⟩ := hki
        obtain ⟨hidx, hlt, hget⟩ := List.mem_zipIdx hmem
        simp only [Nat.zero_add, Nat.sub_zero] at hlt hget
        have hlt' : ki.2 < Γ.length := by simpa [ctxKinds] using hlt
        have hc : Γ[ki.2].chi ≠ .ext := by
          have : (ctxKinds Γ)[ki.2] = true := by rw [← hget]; exact hk1
          apply (chi_bne_ext _).mp
          simpa [ctxKinds] using this
        obtain ⟨r, _, hv, _⟩ := hdef ki.2 hlt' hc
        exact readReg_of_rv hv)
    rw [List.mapM_map]
    exact this
  refine ⟨⟨_, w, f, lin, lazy, live, Fr, hread, hw, hf, ?_⟩, X.hrel.limit⟩
  have hmem : memFn st = hs.mem.get := by
    funext a; exact (X.hrel.mem a).symm
  rw [hmem, ew, ef, ← X.hrel.limit, ← X.hrel.base]
  refine InvW.roots_congr I (fun b hb => ?_)
  rw [List.map_map]
  have e1 := zipIdx_filter_kinds Γ 0 (fun i => (val i).toNat)
  have e1' : List.map ((fun (x : Word) => x.toNat) ∘ fun (ki : Bool × Nat) => val ki.2)
      (List.filter (fun x => x.1) ((ctxKinds Γ).zipIdx 0)) =
      (((ctxKinds Γ).zipIdx 0).filter (·.1)).map (fun (ki : Bool × Nat) => (val ki.2).toNat) := rfl
  rw [e1', e1]
  have := count_roots cfg.temps ι (fun i => (val i).toNat) b hb Γ 0 (by
    intro j hj hc
    obtain ⟨r, hr, _, hv⟩ := hdef j hj hc
    exact ⟨r, by rw [Nat.zero_add]; exact hr, by rw [Nat.zero_add]; exact hv⟩)
  rw [this]
  rfl

theorem heapInvAt_setPS {s : State} {kinds : List Bool} {limit : Nat} (pc k : Nat)
    (h : HeapInvAt s kinds limit) : HeapInvAt (setPS s pc k) kinds limit := h

end Scc.RV.Conc
