/-
  Scc.RV.RefSubst — `erase` and `share` of the abstract machine against the RV64 code of
  `Memory::erase_block` / `share_block_n` (weakening and contraction of object variables): composition of
  the machine contracts (Scc/RV/RefMem.lean) with the heap refinement (`href_erase`, `href_share`,
  Scc/Heap/RefineOps.lean); the "no overflow" side condition of `share_block_n` is discharged from the
  counting invariant: the lemmas of Scc/Backend/ThreeWay.lean at the RV64 target.  `subst` on the three machines
  (`subst_x3`): the lemma of Scc/Backend/ThreeWayStep.lean at the RV64 machine (`machine`, ThreeWayMachineAsm.lean),
  with the closure words of the new positions (`cwSubst`) and the closures (`CVals`) carried along.
-/
import Scc.RV.RefMoves
import Scc.RV.ThreeWayMachineAsm
import Scc.RV.RefMem
import Scc.RV.RefCloDefs
import Scc.Heap.RefineBound
import Scc.Heap.RefineFrontier
import Scc.Backend.ProofsSubstObj

namespace Scc.RV.Ref

open Scc.AxCut Scc.AxCut.Pos Scc.Backend Scc.Backend.Abs Scc.Backend.Sim Scc.Backend.Sim2
open Scc.Backend.Subst (rp)
open Scc.Heap (HState InvS InvW)
open Scc.Heap.Refine (HRef imgW fieldImg kindB href_erase href_share live_header_add_lt FrLe frLe_erase frLe_share href_head_lt href_root_mem)

section Ops

variable {mc : MonCfg} {cw : Nat → Word} {τ : Nat → Nat → Word} {la : String → Option Nat}

/-- THE ABSTRACT `erase` AGAINST `Memory::erase_block` -/
theorem erase_x3 {Γ : Ctx} {cfg cfg1 : Config} {rsKeep : List Nat} {hs : HState} {ι : Nat → Nat} {st : State}
    {i : Nat} (hi : i < Γ.length) (hc : Γ[i].chi ≠ .ext) {p : Word}
    (X : X3R mc cw τ Γ cfg (rsKeep ++ rp p) hs ι st)
    (hp : cfg.temps.get (2 * i) = some p) {h' : Heap} (he : cfg.heap.erase p = .ok h')
    (hcfg1 : cfg1 =
      { cfg with pc := cfg.pc + 1, temps := (clobberTemp cfg.temps).unset (2 * i), heap := h' })
    (kk : Nat) :
    ∃ code, (eraseBlock (posTemp (2 * i))).run kk = .ok (code, kk + 3) ∧ MemFree code ∧
      Code.LAB "cleanup" ∉ code ∧
      ∃ st' hs', execFwd mc la code st = .ok (st', .fall) ∧
        X3R mc cw τ Γ cfg1 rsKeep hs' ι st' ∧ FrLe hs hs' 0 := by
  obtain ⟨X0, C⟩ := (x3r_iff (la := la)).1 X
  obtain ⟨code, hrun, st', hs', hx, X', hfr, K⟩ :=
    ThreeWay.erase_x3 (T := target mc la) hi hc X0 hp he hcfg1 kk
  have hcode : code = eraseBlockCode (posTemp (2 * i)) (labName (kk + 1)) (labName (kk + 2)) (labName (kk + 3)) := by
    have := (eraseBlock_run (posTemp (2 * i)) kk).symm.trans hrun
    injection this with this
    exact (congrArg Prod.fst this).symm
  refine ⟨code, hrun, eraseBlock_free _ kk code _ hrun,
    by rw [hcode]; exact noCleanup_of_labsIn (labsIn_eraseBlockCode _ kk), st', hs', hx,
    X3R.ofM X' (C.keep (fun u hu => K.tv u (by have := X.cap; show u < 28; omega)) fun t ht hs1 => ?_), hfr⟩
  have hcap := X.cap
  rw [hcfg1] at hs1
  simp only at hs1
  by_cases e : t = 2 * i
  · subst e; rw [get_unset_same] at hs1; cases hs1
  · rwa [get_unset_other _ e, get_clobberTemp _ (by unfold Mock.T_TEMP; omega)] at hs1

/-- THE ABSTRACT `share` AGAINST `Memory::share_block_n` -/
theorem share_x3 {Γ : Ctx} {cfg cfg1 : Config} {rs : List Nat} {hs : HState} {ι : Nat → Nat} {st : State}
    {i : Nat} (hi : i < Γ.length) (hc : Γ[i].chi ≠ .ext) {p : Word}
    (X : X3R mc cw τ Γ cfg rs hs ι st) (hmem : p ≠ 0 → p.toNat ∈ rs) (hrs : rs.length ≤ 2 ^ 40)
    (hp : cfg.temps.get (2 * i) = some p) {k : Nat} (hk : k < 2 ^ 31) {h' : Heap}
    (he : cfg.heap.share p k = .ok h')
    (hcfg1 : cfg1 = { cfg with pc := cfg.pc + 1, temps := clobberTemp cfg.temps, heap := h' })
    (kk : Nat) :
    ∃ code, (shareBlockN (posTemp (2 * i)) k).run kk = .ok (code, kk + 1) ∧ MemFree code ∧
      Code.LAB "cleanup" ∉ code ∧
      ∃ st' hs', execFwd mc la code st = .ok (st', .fall) ∧
        X3R mc cw τ Γ cfg1 (rs ++ (List.replicate k (rp p)).flatten) hs' ι st' ∧ FrLe hs hs' 0 := by
  obtain ⟨X0, C⟩ := (x3r_iff (la := la)).1 X
  obtain ⟨code, hrun, st', hs', hx, X', hfr, K⟩ :=
    ThreeWay.share_x3 (T := target mc la) hi hc X0 hmem hrs hp hk he hcfg1 kk
  have hcode : code = shareNCode (posTemp (2 * i)) k (labName (kk + 1)) := by
    have := (shareBlockN_run' (posTemp (2 * i)) k kk).symm.trans hrun
    injection this with this
    exact (congrArg Prod.fst this).symm
  refine ⟨code, hrun, shareBlockN_free _ _ kk code _ hrun,
    by rw [hcode]; exact noCleanup_of_labsIn (labsIn_shareNCode _ _ kk), st', hs', hx,
    X3R.ofM X' (C.keep (fun u hu => K.tv u (by have := X.cap; show u < 28; omega)) fun t ht hs1 => ?_), hfr⟩
  have hcap := X.cap
  rw [hcfg1] at hs1
  simp only at hs1
  rwa [get_clobberTemp _ (by unfold Mock.T_TEMP; omega)] at hs1

end Ops

/-- the closure words of the positions after a substitution: position `j` gets the word of its source -/
def cwSubst (cw : Nat → Word) (Γ : Ctx) (pairs : List (Binding × Ident)) : Nat → Word :=
  fun j => match pairs[j]? with
    | some p => cw (Scc.Backend.Subst.posIn Γ p.2.id)
    | none => 0

theorem cwSubst_eq (cw : Nat → Word) (Γ : Ctx) (pairs : List (Binding × Ident)) {j : Nat} (hj : j < pairs.length) :
    cwSubst cw Γ pairs j = cw (Scc.Backend.Subst.posIn Γ pairs[j].2.id) := by
  unfold cwSubst
  rw [List.getElem?_eq_getElem hj]

section Subst3

variable {mc : MonCfg} {cw : Nat → Word} {τ : Nat → Nat → Word} {pr : RV.Program} {ks : List Code} (L : Loaded pr ks)
  (hndL : (labs ks).Nodup) (hheap : mc.heap = false)

include L hndL hheap in
/-- `subst` on the three machines (weakening, contraction and exchange of integer AND object variables): the lemma
of Scc/Backend/ThreeWayStep.lean at the RV64 machine; new position `j` holds the closure word of its source -/
theorem subst_x3 {P : Abs.Program} {hooks : Bool} {prog : AxCut.Prog} {Γ : Ctx} {ρ : List Value}
    {pairs : List (Binding × Ident)} {next : Stmt} {cfg : Config} {vs : List Value}
    (R : RelX P hooks prog ⟨Γ, ρ, .subst pairs next⟩ cfg)
    (hΓ : (Γ.map (·.var.id)).Nodup)
    (hnew : (pairs.map (·.1.var.id)).Nodup)
    (hold : ∀ p ∈ pairs, ∃ b ∈ Γ, b.var.id = p.2.id ∧ b.chi = p.1.chi)
    (hcap : 2 * pairs.length + 2 < Mock.T_TEMP)
    (hvs : Pos.step.build Γ ρ pairs = .ok vs)
    {hsX : HState} {ι : Nat → Nat} {st : State} (X : X3 mc cw τ Γ cfg hsX ι st)
    {kx kx' : Nat} {items : List Code}
    (hrunX : (codeStatementR rvBackend hooks natRen prog.types (.subst pairs next) Γ).run kx = .ok (items, kx'))
    (hatX : KAt ks st.pc items)
    (hcapX : pairs.length ≤ 14)
    {Q : Word → Ctx → Clauses → Prop} (CVh : CVals P hooks prog.types Q cw τ cfg.heap cfg.temps Γ ρ) :
    ∃ k cfg' st' hs', stepsTo P k cfg cfg' ∧ Reach pr mc st st' ∧ FrLe hsX hs' 0 ∧
      cfg'.out = cfg.out ∧ cfg'.next = cfg.next ∧
      RelX P hooks prog ⟨pairs.map (·.1), vs, next⟩ cfg' ∧
      X3 mc (cwSubst cw Γ pairs) τ (pairs.map (·.1)) cfg' hs' ι st' ∧
      CVals P hooks prog.types Q (cwSubst cw Γ pairs) τ cfg'.heap cfg'.temps (pairs.map (·.1)) vs ∧
      ∃ k1 k1' items', (codeStatementR rvBackend hooks natRen prog.types next (pairs.map (·.1))).run k1 =
          .ok (items', k1') ∧ KAt ks st'.pc items' := by
  obtain ⟨X0, C⟩ := (x3r_iff (la := pr.labelAddr)).1 X
  obtain ⟨k, cfg', st', hs', kp', hst, hreach, hpc', hfr, hout, hnext, R', X', k1, k1', items', hr', hat', SP⟩ :=
    ThreeWay.subst_x3 (machine L hndL hheap items) R hΓ hnew hold hcap hvs X0 hrunX (xat_self items)
      (pcAtR_zero hatX) (by show pairs.length < 2 ^ 31; omega) (by show 2 * pairs.length ≤ 28; omega)
  have hcw : CwOK (cwSubst cw Γ pairs) (pairs.map (·.1)) cfg' st' := by
    intro j hj hc hdef
    have hj' : j < pairs.length := by simpa using hj
    obtain ⟨i, hi, _, hchi, ht1, _, hm, hpi⟩ := SP j hj'
    have hm' : rv st' (2 * j + 1) = rv st (2 * i + 1) := hm
    rw [hm', cwSubst_eq cw Γ pairs hj', show Scc.Backend.Subst.posIn Γ pairs[j].2.id = i from hpi]
    exact C i hi (by rw [hchi]; simpa using hc) (by rw [← ht1]; exact hdef)
  have SPc : Prov.SubstProv (cwTv cw) (cwTv (cwSubst cw Γ pairs)) Γ ρ pairs vs cfg cfg' := fun j hj => by
    obtain ⟨i, hi, h1, h2, h3, h4, _, hpi⟩ := SP j hj
    refine ⟨i, hi, h1, h2, h3, h4, ?_, hpi⟩
    rw [cwTv_snd, cwTv_snd, cwSubst_eq cw Γ pairs hj, show Scc.Backend.Subst.posIn Γ pairs[j].2.id = i from hpi]
  exact ⟨k, cfg', st', hs', hst, hreach, hfr, hout, hnext, R', X3R.ofM X' hcw,
    CVals.ofXC (Prov.XC.subst CVh.toXC R.len R.heap hst R' SPc) R'.vals, k1, k1', items', hr', hpc'.next hat'⟩

end Subst3

end Scc.RV.Ref
