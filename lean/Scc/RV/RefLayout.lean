/-
  Scc.RV.RefLayout — THE RV64 LOADER at the level of parsed lines: what the machine's
  `layout` (Machine.lean) builds from a list of lines.
  * `keptC`: the lines that become items (instructions, labels, hook comments; plain comments are dropped);
  * `Loaded p ks`: the program `p` holds the kept codes `ks` (item i has code `ks[i]` and byte address
    `codeBase + 4·(instructions before i)`), its label table maps a label to the index of its FIRST
    definition, its address table maps the address of an instruction to the first label standing directly
    before it (`pendOf`), otherwise to the instruction itself, the entry is the first label;
  * `loaded_layout`: `layout lines` succeeds whenever no hook comment is malformed, and its result is
    `Loaded` with the kept codes of the lines;
  * `Keeps cs ks`: `ks` is `cs` without some of its comments, comments compared up to their text
    (`stripC`): the relation between the emitted code and the kept codes of the parsed text.
-/
import Scc.RV.LayoutLemmas
import Scc.RV.MemProofsRun

namespace Scc.RV.Ref

/-- the line becomes an item of the program -/
def keptC : Code → Bool
  | .COMMENT m => (parseHook m).isSome
  | _ => true

/-- a malformed hook comment: `layout` fails -/
def badHook : Code → Prop
  | .COMMENT m => parseHook m = some none
  | _ => False

/-- number of instructions (4 bytes each) -/
def icount (ks : List Code) : Nat := (ks.filter Code.isInstr).length

/-- index of the first definition of a label -/
def labIdx (ks : List Code) (l : String) : Option Nat := ks.findIdx? (fun c => decide (c = Code.LAB l))

def isLab : Code → Bool
  | .LAB _ => true
  | _ => false

def firstLab (ks : List Code) : Option Nat := ks.findIdx? isLab

/-- `pendingLabel` of `layoutStep` -/
def pendStep (i : Nat) (pend : Option Nat) (c : Code) : Option Nat :=
  match c with
  | .LAB _ => (match pend with | none => some i | p => p)
  | .COMMENT _ => pend
  | _ => none

def pendFold (ks : List Code) : Nat × Option Nat :=
  ks.foldl (fun s c => (s.1 + 1, pendStep s.1 s.2 c)) (0, none)

/-- the first label since the last instruction -/
def pendOf (ks : List Code) : Option Nat := (pendFold ks).2

theorem snoc_ind {α : Type} {P : List α → Prop} (h0 : P []) (h1 : ∀ l a, P l → P (l ++ [a])) : ∀ l, P l := by
  intro l
  have key : ∀ r : List α, P r.reverse := by
    intro r
    induction r with
    | nil => exact h0
    | cons a r ih => rw [List.reverse_cons]; exact h1 _ _ ih
  have := key l.reverse
  rwa [List.reverse_reverse] at this

theorem pendFold_snoc (ks : List Code) (c : Code) :
    pendFold (ks ++ [c]) = ((pendFold ks).1 + 1, pendStep (pendFold ks).1 (pendFold ks).2 c) := by
  unfold pendFold
  rw [List.foldl_append]
  rfl

theorem pendFold_fst : ∀ (ks : List Code), (pendFold ks).1 = ks.length := by
  refine snoc_ind rfl ?_
  intro ks c ih
  rw [pendFold_snoc]; simp [ih]

theorem isComment_of_isInstr {c : Code} (h : c.isInstr = true) : c.isComment = false := by
  cases c <;> first | rfl | (simp [Code.isInstr] at h)

theorem pendStep_of_isInstr (i : Nat) (pend : Option Nat) {c : Code} (h : c.isInstr = true) :
    pendStep i pend c = none := by
  cases c <;> first | rfl | (simp [Code.isInstr] at h)

theorem pendOf_nil : pendOf [] = none := rfl

theorem pendOf_snoc (ks : List Code) (c : Code) : pendOf (ks ++ [c]) = pendStep ks.length (pendOf ks) c := by
  unfold pendOf
  rw [pendFold_snoc, pendFold_fst]

/-- what a pending label is: a label at index `i`, followed by labels and comments only -/
theorem pendOf_spec : ∀ (ks : List Code) (i : Nat), pendOf ks = some i →
    i < ks.length ∧ (∃ l, ks[i]? = some (.LAB l)) ∧ ∀ m, i ≤ m → m < ks.length → ∀ c, ks[m]? = some c → c.isInstr = false := by
  refine snoc_ind (fun i h => by simp [pendOf_nil] at h) ?_
  · intro ks c ih
    intro i h
    rw [pendOf_snoc] at h
    cases c
    case LAB l =>
      simp only [pendStep] at h
      cases hp : pendOf ks with
      | none =>
        rw [hp] at h
        simp only [Option.some.injEq] at h
        subst h
        refine ⟨by simp, ⟨l, by simp⟩, ?_⟩
        intro m hm1 hm2 c hc
        have : m = ks.length := by simp at hm2; omega
        subst this
        simp at hc
        subst hc; rfl
      | some i' =>
        rw [hp] at h
        simp only [Option.some.injEq] at h
        subst h
        obtain ⟨h1, ⟨l', h2⟩, h3⟩ := ih i' hp
        refine ⟨by simp; omega, ⟨l', by rw [List.getElem?_append_left h1]; exact h2⟩, ?_⟩
        intro m hm1 hm2 c hc
        by_cases hm : m < ks.length
        · rw [List.getElem?_append_left hm] at hc
          exact h3 m hm1 hm c hc
        · have : m = ks.length := by simp at hm2; omega
          subst this
          simp at hc
          subst hc; rfl
    case COMMENT msg =>
      simp only [pendStep] at h
      obtain ⟨h1, ⟨l', h2⟩, h3⟩ := ih i h
      refine ⟨by simp; omega, ⟨l', by rw [List.getElem?_append_left h1]; exact h2⟩, ?_⟩
      intro m hm1 hm2 c hc
      by_cases hm : m < ks.length
      · rw [List.getElem?_append_left hm] at hc
        exact h3 m hm1 hm c hc
      · have : m = ks.length := by simp at hm2; omega
        subst this
        simp at hc
        subst hc; rfl
    all_goals (simp [pendStep] at h)

theorem icount_nil : icount [] = 0 := rfl

theorem icount_append (a b : List Code) : icount (a ++ b) = icount a + icount b := by
  simp [icount, List.filter_append]

theorem icount_single (c : Code) : icount [c] = if c.isInstr then 1 else 0 := by
  unfold icount
  by_cases h : c.isInstr = true <;> simp [h]

theorem icount_take_lt {ks : List Code} {j : Nat} (h : j < ks.length) (hi : ks[j].isInstr = true) :
    icount (ks.take j) < icount ks := by
  have e : ks = ks.take j ++ ks[j] :: ks.drop (j + 1) := by
    conv => lhs; rw [← List.take_append_drop j ks, List.drop_eq_getElem_cons h]
  conv => rhs; rw [e]
  rw [icount_append, show ks[j] :: ks.drop (j + 1) = [ks[j]] ++ ks.drop (j + 1) from rfl, icount_append,
    icount_single, if_pos hi]
  omega

theorem icount_take_le (ks : List Code) (j : Nat) : icount (ks.take j) ≤ icount ks := by
  conv => rhs; rw [← List.take_append_drop j ks]
  rw [icount_append]; omega

theorem labIdx_snoc (ks : List Code) (c : Code) (l : String) :
    labIdx (ks ++ [c]) l = (labIdx ks l).or (if c = Code.LAB l then some ks.length else none) := by
  unfold labIdx
  rw [List.findIdx?_append]
  congr 1
  by_cases h : c = Code.LAB l <;> simp [h]

theorem firstLab_snoc (ks : List Code) (c : Code) :
    firstLab (ks ++ [c]) = (firstLab ks).or (if isLab c then some ks.length else none) := by
  unfold firstLab
  rw [List.findIdx?_append]
  congr 1
  by_cases h : isLab c = true <;> simp [h]

/-- the invariant of `layoutLoop` -/
structure LInv (st : LayoutSt) (ks : List Code) : Prop where
  size : st.items.size = ks.length
  code : ∀ i (h : i < ks.length), ∃ it, st.items[i]? = some it ∧ it.code = ks[i] ∧
    it.addr = codeBase + 4 * icount (ks.take i)
  addr : st.addr = codeBase + 4 * icount ks
  labels : ∀ l, st.labelIdx[l]? = labIdx ks l
  addrs : ∀ j (h : j < ks.length), ks[j].isInstr = true →
    st.addrIdx[codeBase + 4 * icount (ks.take j)]? = some ((pendOf (ks.take j)).getD j)
  pend : st.pendingLabel = pendOf ks
  entry : st.entry = firstLab ks

theorem linv_init : LInv {} [] :=
  ⟨rfl, fun i h => by simp at h, rfl, fun l => by simp [labIdx], fun j h => by simp at h, rfl, rfl⟩

/-- pushing an item that is no instruction and no label -/
theorem LInv.push_code {st : LayoutSt} {ks : List Code} (I : LInv st ks) (it : Item) (c : Code)
    (hc : it.code = c) (ha : it.addr = st.addr) :
    ∀ i (h : i < (ks ++ [c]).length), ∃ it', (st.items.push it)[i]? = some it' ∧ it'.code = (ks ++ [c])[i] ∧
      it'.addr = codeBase + 4 * icount ((ks ++ [c]).take i) := by
  intro i h
  by_cases hi : i < ks.length
  · obtain ⟨it', h1, h2, h3⟩ := I.code i hi
    refine ⟨it', ?_, ?_, ?_⟩
    · rw [Array.getElem?_push, if_neg (by rw [I.size]; omega)]; exact h1
    · rw [List.getElem_append_left hi]; exact h2
    · rw [List.take_append_of_le_length (Nat.le_of_lt hi)]; exact h3
  · have : i = ks.length := by simp at h; omega
    subst this
    refine ⟨it, ?_, ?_, ?_⟩
    · rw [Array.getElem?_push, if_pos I.size.symm]
    · simp [hc]
    · rw [ha, I.addr, List.take_append_of_le_length (Nat.le_refl _), List.take_length]

theorem LInv.addrs_snoc_noninstr {st : LayoutSt} {ks : List Code} (I : LInv st ks) {c : Code}
    (hc : c.isInstr = false) :
    ∀ j (h : j < (ks ++ [c]).length), (ks ++ [c])[j].isInstr = true →
      st.addrIdx[codeBase + 4 * icount ((ks ++ [c]).take j)]? = some ((pendOf ((ks ++ [c]).take j)).getD j) := by
  intro j h hj
  by_cases hi : j < ks.length
  · rw [List.getElem_append_left hi] at hj
    rw [List.take_append_of_le_length (Nat.le_of_lt hi)]
    exact I.addrs j hi hj
  · have : j = ks.length := by simp at h; omega
    subst this
    simp [hc] at hj

theorem linv_step {st : LayoutSt} {ks : List Code} (I : LInv st ks) (n : Nat) (c : Code) (hb : ¬ badHook c) :
    ∃ st', layoutStep st (n, c) = .ok st' ∧ LInv st' (if keptC c then ks ++ [c] else ks) := by
  by_cases hins : c.isInstr = true
  · -- an instruction
    have hk : keptC c = true := by cases c <;> simp [Code.isInstr] at hins <;> rfl
    rw [layoutStep_instr st n c hins, hk, if_pos rfl]
    refine ⟨_, rfl, ?_⟩
    have hic : icount (ks ++ [c]) = icount ks + 1 := by rw [icount_append, icount_single, if_pos hins]
    refine ⟨by simp [I.size], I.push_code ⟨n, c, st.addr, none⟩ c rfl rfl, by simp only; rw [I.addr, hic]; omega,
      ?_, ?_, ?_, ?_⟩
    · intro l
      rw [labIdx_snoc, if_neg (by intro e; rw [e] at hins; simp [Code.isInstr] at hins)]
      simp only [Option.or_none]
      exact I.labels l
    · intro j h hj
      simp only
      rw [Std.HashMap.getElem?_insert]
      by_cases hi : j < ks.length
      · rw [List.getElem_append_left hi] at hj
        rw [List.take_append_of_le_length (Nat.le_of_lt hi)]
        have hlt := icount_take_lt hi hj
        have hne : (st.addr == codeBase + 4 * icount (ks.take j)) = false := by
          rw [I.addr]; simp; omega
        rw [hne]
        simp only [Bool.false_eq_true, if_false]
        exact I.addrs j hi hj
      · have : j = ks.length := by simp at h; omega
        subst this
        rw [List.take_append_of_le_length (Nat.le_refl _), List.take_length, I.addr]
        simp [I.pend, I.size]
    · simp only
      rw [pendOf_snoc]
      cases c <;> simp [Code.isInstr] at hins <;> rfl
    · simp only
      rw [firstLab_snoc, if_neg (by cases c <;> simp [Code.isInstr] at hins <;> simp [isLab])]
      simp only [Option.or_none]
      exact I.entry
  · have hins' : c.isInstr = false := by simpa using hins
    cases c with
    | LAB l =>
      simp only [keptC, if_true]
      refine ⟨_, rfl, ?_⟩
      have hic : icount (ks ++ [Code.LAB l]) = icount ks := by rw [icount_append, icount_single]; simp [Code.isInstr]
      refine ⟨by simp [I.size], I.push_code ⟨n, .LAB l, st.addr, none⟩ (.LAB l) rfl rfl,
        by simp only; rw [I.addr, hic], ?_, I.addrs_snoc_noninstr rfl, ?_, ?_⟩
      · intro l'
        simp only
        rw [labIdx_snoc]
        by_cases hcon : st.labelIdx.contains l = true
        · rw [if_pos hcon, I.labels l']
          by_cases e : l = l'
          · subst e
            rw [Std.HashMap.contains_eq_isSome_getElem?, I.labels l] at hcon
            cases hl : labIdx ks l with
            | none => rw [hl] at hcon; simp at hcon
            | some i => simp
          · have : ¬ (Code.LAB l = Code.LAB l') := fun h => e (by injection h)
            rw [if_neg this]; simp
        · rw [if_neg hcon, Std.HashMap.getElem?_insert]
          by_cases e : l = l'
          · subst e
            rw [Std.HashMap.contains_eq_isSome_getElem?, I.labels l] at hcon
            cases hl : labIdx ks l with
            | none => simp [I.size]
            | some i => rw [hl] at hcon; simp at hcon
          · have : ¬ (Code.LAB l = Code.LAB l') := fun h => e (by injection h)
            have e' : (l == l') = false := by simpa using e
            rw [if_neg this, e']
            simp only [Bool.false_eq_true, if_false, Option.or_none]
            exact I.labels l'
      · simp only
        rw [pendOf_snoc, I.pend, I.size]
        rfl
      · simp only
        rw [firstLab_snoc, I.entry, I.size]
        cases firstLab ks <;> simp [isLab]
    | COMMENT msg =>
      cases hp : parseHook msg with
      | none =>
        have e : layoutStep st (n, .COMMENT msg) = .ok st := by simp [layoutStep, hp]
        simp only [keptC, hp, Option.isSome_none, Bool.false_eq_true, if_false]
        exact ⟨st, e, I⟩
      | some o =>
        cases o with
        | none => exact absurd hp hb
        | some kinds =>
          have e : layoutStep st (n, .COMMENT msg) =
              .ok ⟨st.items.push ⟨n, .COMMENT msg, st.addr, some (hookRoots kinds)⟩, st.labelIdx, st.addrIdx,
                st.entry, st.addr, st.pendingLabel⟩ := by simp [layoutStep, hp]
          simp only [keptC, hp, Option.isSome_some, if_true]
          refine ⟨_, e, ?_⟩
          have hic : icount (ks ++ [Code.COMMENT msg]) = icount ks := by
            rw [icount_append, icount_single]; simp [Code.isInstr]
          refine ⟨by simp [I.size], I.push_code ⟨n, .COMMENT msg, st.addr, some (hookRoots kinds)⟩ _ rfl rfl,
            by simp only; rw [I.addr, hic], ?_, I.addrs_snoc_noninstr rfl, ?_, ?_⟩
          · intro l'
            simp only
            rw [labIdx_snoc, if_neg (by simp)]
            simp only [Option.or_none]
            exact I.labels l'
          · simp only
            rw [pendOf_snoc, I.pend]
            rfl
          · simp only
            rw [firstLab_snoc, I.entry]
            simp [isLab]
    | _ => simp [Code.isInstr] at hins'

def keptOf (lines : List (Nat × Code)) : List Code := (lines.map (·.2)).filter keptC

theorem linv_loop : ∀ (lines : List (Nat × Code)) (st : LayoutSt) (ks : List Code), LInv st ks →
    (∀ x ∈ lines, ¬ badHook x.2) →
    ∃ st', layoutLoop st lines = .ok st' ∧ LInv st' (ks ++ keptOf lines)
  | [], st, ks, I, _ => ⟨st, rfl, by simpa [keptOf] using I⟩
  | (n, c) :: rest, st, ks, I, hb => by
    obtain ⟨st1, h1, I1⟩ := linv_step I n c (hb (n, c) (by simp))
    obtain ⟨st', h2, I2⟩ := linv_loop rest st1 _ I1 (fun x hx => hb x (by simp [hx]))
    refine ⟨st', by simp only [layoutLoop, h1]; exact h2, ?_⟩
    by_cases hk : keptC c = true
    · simp only [hk, if_true, List.append_assoc, List.singleton_append] at I2
      simpa [keptOf, hk] using I2
    · simp only [hk, if_false, Bool.false_eq_true] at I2
      simpa [keptOf, hk] using I2

/-- the program holds the kept codes `ks` -/
structure Loaded (p : Program) (ks : List Code) : Prop where
  size : p.items.size = ks.length
  code : ∀ i (h : i < ks.length), ∃ it, p.items[i]? = some it ∧ it.code = ks[i] ∧
    it.addr = codeBase + 4 * icount (ks.take i)
  labels : ∀ l, p.labelIdx[l]? = labIdx ks l
  addrs : ∀ j (h : j < ks.length), ks[j].isInstr = true →
    p.addrIdx[codeBase + 4 * icount (ks.take j)]? = some ((pendOf (ks.take j)).getD j)
  /-- the address after the last instruction belongs to the labels at the very end -/
  endAddr : ∀ i, pendOf ks = some i → p.addrIdx[codeBase + 4 * icount ks]? = some i
  entry : p.entry = firstLab ks

/-- THE LOADER on parsed lines: `layout` succeeds unless a hook comment is malformed, and the program holds
the kept codes -/
theorem loaded_layout (lines : List (Nat × Code)) (hb : ∀ x ∈ lines, ¬ badHook x.2) :
    ∃ p, layout lines = .ok p ∧ Loaded p (keptOf lines) := by
  obtain ⟨st, h1, I⟩ := linv_loop lines {} [] linv_init hb
  simp only [List.nil_append] at I
  refine ⟨_, by simp only [layout, h1]; rfl, ?_⟩
  refine ⟨I.size, I.code, I.labels, ?_, ?_, I.entry⟩
  · intro j h hj
    simp only
    cases hp : st.pendingLabel with
    | none => simp only; exact I.addrs j h hj
    | some i =>
      simp only
      rw [Std.HashMap.getElem?_insert]
      have hlt := icount_take_lt h hj
      have hne : (st.addr == codeBase + 4 * icount ((keptOf lines).take j)) = false := by
        rw [I.addr]; simp; omega
      rw [hne]
      simp only [Bool.false_eq_true, if_false]
      exact I.addrs j h hj
  · intro i hi
    simp only
    rw [I.pend, hi]
    simp only
    rw [← I.addr, Std.HashMap.getElem?_insert_self]

theorem Loaded.labelAddr {p : Program} {ks : List Code} (L : Loaded p ks) {l : String} {i : Nat}
    (h : labIdx ks l = some i) : p.labelAddr l = some (codeBase + 4 * icount (ks.take i)) := by
  have hi : i < ks.length := by
    unfold labIdx at h
    exact (List.findIdx?_eq_some_iff_getElem.1 h).1
  obtain ⟨it, h1, _, h3⟩ := L.code i hi
  unfold Program.labelAddr
  rw [L.labels l, h]
  simp [h1, h3]

/-- comments carry no semantics: codes are compared up to the text of comments -/
def stripC : Code → Code
  | .COMMENT _ => .COMMENT ""
  | c => c

theorem stripC_noncomment {c : Code} (h : c.isComment = false) : stripC c = c := by
  cases c <;> first | rfl | (simp [Code.isComment] at h)

theorem stripC_eq_noncomment {c d : Code} (h : d.isComment = false) (e : stripC c = stripC d) : c = d := by
  rw [stripC_noncomment h] at e
  cases c <;> first | exact e | (simp only [stripC] at e; rw [← e] at h; simp [Code.isComment] at h)

theorem stripC_eq_comment {c : Code} {m : String} (e : stripC c = stripC (.COMMENT m)) : ∃ m', c = .COMMENT m' := by
  cases c <;> first | exact ⟨_, rfl⟩ | (simp [stripC] at e)

/-- `ks` is `cs` without some of its comments (comments up to their text) -/
inductive Keeps : List Code → List Code → Prop where
  | nil : Keeps [] []
  | keep {c : Code} {cs ks : List Code} : c.isComment = false → Keeps cs ks → Keeps (c :: cs) (c :: ks)
  | drop {m : String} {cs ks : List Code} : Keeps cs ks → Keeps (.COMMENT m :: cs) ks
  | keepC {m m' : String} {cs ks : List Code} : Keeps cs ks → Keeps (.COMMENT m :: cs) (.COMMENT m' :: ks)

theorem keeps_filter : ∀ (cs : List Code), Keeps cs (cs.filter keptC)
  | [] => .nil
  | c :: cs => by
    by_cases hc : c.isComment = true
    · cases c <;> simp [Code.isComment] at hc
      rename_i m
      by_cases hk : keptC (.COMMENT m) = true
      · rw [List.filter_cons_of_pos hk]; exact .keepC (keeps_filter cs)
      · rw [List.filter_cons_of_neg hk]; exact .drop (keeps_filter cs)
    · have hc' : c.isComment = false := by simpa using hc
      have hk : keptC c = true := by cases c <;> first | rfl | (simp [Code.isComment] at hc')
      rw [List.filter_cons_of_pos hk]
      exact .keep hc' (keeps_filter cs)

/-- the relation does not see the text of comments -/
theorem Keeps.of_strip : ∀ {ls ks : List Code}, Keeps ls ks → ∀ {cs : List Code},
    ls.map stripC = cs.map stripC → Keeps cs ks := by
  intro ls ks h
  induction h with
  | nil =>
    intro cs e
    have : cs = [] := by simpa using e.symm
    subst this; exact .nil
  | @keep c ls ks hc _ ih =>
    intro cs e
    cases cs with
    | nil => simp at e
    | cons d cs =>
      simp only [List.map_cons, List.cons.injEq] at e
      have : d = c := stripC_eq_noncomment hc e.1.symm
      subst this
      exact .keep hc (ih e.2)
  | @drop m ls ks _ ih =>
    intro cs e
    cases cs with
    | nil => simp at e
    | cons d cs =>
      simp only [List.map_cons, List.cons.injEq] at e
      obtain ⟨m', rfl⟩ := stripC_eq_comment e.1.symm
      exact .drop (ih e.2)
  | @keepC m m1 ls ks _ ih =>
    intro cs e
    cases cs with
    | nil => simp at e
    | cons d cs =>
      simp only [List.map_cons, List.cons.injEq] at e
      obtain ⟨m', rfl⟩ := stripC_eq_comment e.1.symm
      exact .keepC (ih e.2)

theorem Keeps.strip : ∀ {cs ks : List Code}, Keeps cs ks → stripComments ks = stripComments cs := by
  intro cs ks h
  induction h with
  | nil => rfl
  | keep hc _ ih => simp [stripComments, hc] at ih ⊢; exact ih
  | drop _ ih => simp [stripComments, Code.isComment] at ih ⊢; exact ih
  | keepC _ ih => simp [stripComments, Code.isComment] at ih ⊢; exact ih

theorem Keeps.append_inv : ∀ {a b ks : List Code}, Keeps (a ++ b) ks →
    ∃ ka kb, ks = ka ++ kb ∧ Keeps a ka ∧ Keeps b kb
  | [], b, ks, h => ⟨[], ks, rfl, .nil, h⟩
  | c :: a, b, ks, h => by
    cases h with
    | keep hc h' =>
      obtain ⟨ka, kb, e, h1, h2⟩ := Keeps.append_inv h'
      exact ⟨c :: ka, kb, by rw [e]; rfl, .keep hc h1, h2⟩
    | drop h' =>
      obtain ⟨ka, kb, e, h1, h2⟩ := Keeps.append_inv h'
      exact ⟨ka, kb, e, .drop h1, h2⟩
    | keepC h' =>
      obtain ⟨ka, kb, e, h1, h2⟩ := Keeps.append_inv h'
      exact ⟨_ :: ka, kb, by rw [e]; rfl, .keepC h1, h2⟩

theorem Keeps.append : ∀ {a ka b kb : List Code}, Keeps a ka → Keeps b kb → Keeps (a ++ b) (ka ++ kb) := by
  intro a ka b kb h1 h2
  induction h1 with
  | nil => exact h2
  | keep hc _ ih => exact .keep hc ih
  | drop _ ih => exact .drop ih
  | keepC _ ih => exact .keepC ih

theorem Keeps.cons_inv {c : Code} {cs ks : List Code} (hc : c.isComment = false) (h : Keeps (c :: cs) ks) :
    ∃ ks', ks = c :: ks' ∧ Keeps cs ks' := by
  cases h with
  | keep _ h' => exact ⟨_, rfl, h'⟩
  | drop _ => simp [Code.isComment] at hc
  | keepC _ => simp [Code.isComment] at hc

theorem Keeps.length_le : ∀ {cs ks : List Code}, Keeps cs ks → ks.length ≤ cs.length := by
  intro cs ks h
  induction h with
  | nil => exact Nat.le_refl _
  | keep _ _ ih => simp; exact ih
  | drop _ ih => simp; omega
  | keepC _ ih => simp; exact ih

/-- the labels defined (`Scc.Backend.Lab.labs` for the labels of the RV64 items; this definition is the one the
property statements name) -/
def labs (cs : List Code) : List String := cs.filterMap fun c => match c with | .LAB l => some l | _ => none

theorem labs_append (a b : List Code) : labs (a ++ b) = labs a ++ labs b := by simp [labs]

theorem Keeps.labs : ∀ {cs ks : List Code}, Keeps cs ks → labs ks = labs cs := by
  intro cs ks h
  induction h with
  | nil => rfl
  | @keep c _ _ hc _ ih => simp only [Ref.labs, List.filterMap_cons] at ih ⊢; rw [ih]
  | drop _ ih => simp only [Ref.labs, List.filterMap_cons] at ih ⊢; exact ih
  | keepC _ ih => simp only [Ref.labs, List.filterMap_cons] at ih ⊢; exact ih

theorem Keeps.mem_noncomment : ∀ {cs ks : List Code}, Keeps cs ks → ∀ c ∈ ks, c.isComment = false → c ∈ cs := by
  intro cs ks h
  induction h with
  | nil => intro c hc; simp at hc
  | keep _ _ ih =>
    intro c hc hn
    rcases List.mem_cons.1 hc with rfl | hc
    · simp
    · exact List.mem_cons_of_mem _ (ih c hc hn)
  | drop _ ih => intro c hc hn; exact List.mem_cons_of_mem _ (ih c hc hn)
  | keepC _ ih =>
    intro c hc hn
    rcases List.mem_cons.1 hc with rfl | hc
    · simp [Code.isComment] at hn
    · exact List.mem_cons_of_mem _ (ih c hc hn)

/-- with pairwise distinct labels, a label resolves to the item that defines it -/
theorem labIdx_of_nodup : ∀ {ks : List Code} {i : Nat} {l : String}, (labs ks).Nodup →
    ks[i]? = some (.LAB l) → labIdx ks l = some i := by
  intro ks i l hnd hi
  have hlt : i < ks.length := by
    rcases Nat.lt_or_ge i ks.length with h | h
    · exact h
    · rw [List.getElem?_eq_none h] at hi; cases hi
  have hget : ks[i] = Code.LAB l := by
    rw [List.getElem?_eq_getElem hlt] at hi; exact Option.some.inj hi
  unfold labIdx
  rw [List.findIdx?_eq_some_iff_getElem]
  refine ⟨hlt, by simp [hget], ?_⟩
  intro j hj
  simp only [decide_eq_true_eq]
  intro hjl
  -- two definitions of `l`
  have hsplit : ks = ks.take j ++ Code.LAB l :: (ks.drop (j + 1)) := by
    have hjlt : j < ks.length := by omega
    conv => lhs; rw [← List.take_append_drop j ks, List.drop_eq_getElem_cons hjlt, hjl]
  have hmem : Code.LAB l ∈ ks.drop (j + 1) := by
    have : (ks.drop (j + 1))[i - (j + 1)]? = some (Code.LAB l) := by
      rw [List.getElem?_drop]
      have : j + 1 + (i - (j + 1)) = i := by omega
      rw [this]; exact hi
    exact List.mem_of_getElem? this
  rw [hsplit, labs_append] at hnd
  have hnd2 := (List.nodup_append.1 hnd).2.1
  simp only [labs, List.filterMap_cons] at hnd2
  have hin : l ∈ (ks.drop (j + 1)).filterMap (fun c => match c with | .LAB l => some l | _ => none) :=
    List.mem_filterMap.2 ⟨_, hmem, rfl⟩
  exact (List.nodup_cons.1 hnd2).1 hin

end Scc.RV.Ref
