/-
  Scc.RV.RefStore — the abstract machine's `store` against the RV64 code of `Memory::store`:
  from related states (`X3`), whenever the abstract machine stores the last `k`
  positions of the context into a fresh object, the emitted code runs to its end and the states are related
  again (roots: the remaining variables and the new object).  It is `store_x3` of Scc/Backend/ThreeWayLet.lean at
  the RV64 target (`store_contract`, Scc/RV/MemProofsStore.lean = Props/C08RV.lean `C08_store_correct`, ∘
  `href_store`, Scc/Heap/RefineStoreObj.lean), with the closure words of the new object named by `cw`.
-/
import Scc.RV.RefSubst
import Scc.Backend.ThreeWayLet
import Scc.Backend.ProofsHeap2
import Scc.Heap.RefineFrontier

namespace Scc.RV.Ref

open Scc.AxCut Scc.Backend Scc.Backend.Abs Scc.Backend.Sim
open Scc.Heap (HState InvS InvW)
open Scc.Backend.Sim2 (roots_split)
open Scc.Heap.Refine (HRef imgW fieldImg kindB href_store FrLe Room frLe_store FrPk frPk_store href_head_lt chi_bne_iff ofNat_of_toNat)

variable {mc : MonCfg} {cw : Nat → Word} {τ : Nat → Nat → Word}

theorem kindB_trF (m : Word) (f : Abs.Field) : kindB (trF m f) = kindB f := rfl

/-- the closure words of the fields of the object that `store` creates: those of the stored positions -/
def storeTau (τ : Nat → Nat → Word) (next : Nat) (cw : Nat → Word) (n : Nat) : Nat → Nat → Word :=
  fun id j => if id = next then cw (n + j) else τ id j

/-- the closure words of the object that `store` creates are those of the stored positions, whether read off `cw`
or off the machine (`Prov.storeK`): the translated heaps are the same -/
theorem trHeap_storeTau {Γ : Ctx} {cfg : Config} {st : State} {n : Nat} {fields : List Abs.Field}
    (C : CwOK cw Γ cfg st) (hf : readFields cfg.temps (Mock.kindsOf (Γ.drop n)) n = some fields)
    (hids : ∀ e ∈ cfg.heap, e.1 < cfg.next) :
    ThreeWay.trHeap 4#64 (storeTau τ cfg.next cw n) ((cfg.next, ⟨0, fields⟩) :: cfg.heap) =
      ThreeWay.trHeap 4#64 (Scc.Backend.Prov.storeK (rv st) τ cfg.next n)
        ((cfg.next, ⟨0, fields⟩) :: cfg.heap) := by
  obtain ⟨hfl, hspec⟩ := Scc.Backend.Prov.readFields_spec cfg.temps _ n fields hf
  rw [ThreeWay.trHeap_cons, ThreeWay.trHeap_cons]
  congr 1
  · congr 1
    show (⟨0, ThreeWay.trFs 4#64 _ cfg.next 0 fields⟩ : Obj) = ⟨0, ThreeWay.trFs 4#64 _ cfg.next 0 fields⟩
    congr 1
    apply ThreeWay.trFs_congr_cns
    intro j hj hc
    have hjk : j < (Mock.kindsOf (Γ.drop n)).length := by rw [← hfl]; exact hj
    obtain ⟨hchi, hw, _⟩ := hspec j hjk hj
    have hjΓ : n + j < Γ.length := by
      have : j < Γ.length - n := by simpa [Mock.kindsOf] using hjk
      omega
    have hcΓ : Γ[n + j].chi = .cns := by
      rw [← hc, hchi]; simp [Mock.kindsOf]
    simp only [storeTau, Scc.Backend.Prov.storeK, if_true, Nat.zero_add]
    rw [C (n + j) hjΓ hcΓ (by rw [hw]; rfl)]
    rfl
  · apply ThreeWay.trHeap_congr
    intro e he j
    have hlt : e.1 < cfg.next := hids e he
    simp only [storeTau, Scc.Backend.Prov.storeK]
    rw [if_neg (by omega), if_neg (by omega)]

/-- THE ABSTRACT `store` (at least one field) AGAINST `Memory::store` -/
theorem store_x3 {la : String → Option Nat}
    {Γ : Ctx} {cfg cfg1 : Config} {hs : HState} {ι : Nat → Nat} {st : State}
    (X : X3 mc cw τ Γ cfg hs ι st) {n : Nat} (hn : n < Γ.length) {fields : List Abs.Field}
    (hf : readFields cfg.temps (Mock.kindsOf (Γ.drop n)) n = some fields)
    (hch : Obj.children ⟨0, fields⟩ = roots.go cfg.temps (Γ.drop n) n)
    (hnext : cfg.next < 2 ^ 64)
    (hlow : ∀ t, t < 2 * n → cfg1.temps.get t = cfg.temps.get t)
    (hheap : cfg1.heap = (cfg.next, ⟨0, fields⟩) :: cfg.heap) (hnx : cfg1.next = cfg.next + 1)
    (hroom : Room hs (64 * (Γ.length - n) + 64)) (kk : Nat) :
    ∃ code kk', (store (Γ.drop n) (Γ.take n)).run kk = .ok (code, kk') ∧ MemFree code ∧
      Code.LAB "cleanup" ∉ code ∧
      ∃ st' hs' p, execFwd mc la code st = .ok (st', .fall) ∧
        X3R mc cw (storeTau τ cfg.next cw n) (Γ.take n) cfg1 (roots (Γ.take n) cfg.temps ++ [cfg.next]) hs'
          (fun i => if i = cfg.next then p else ι i) st' ∧
        rv st' (2 * n) = some (BitVec.ofNat 64 p) ∧ p ≠ 0 ∧ p < 2 ^ 64 ∧
        FrLe hs hs' (64 * (Γ.length - n)) ∧ FrPk hs hs' := by
  have hcap := X.cap
  have hnle : n ≤ Γ.length := Nat.le_of_lt hn
  have hlenT : (Γ.take n).length = n := by simp [Nat.min_eq_left hnle]
  obtain ⟨X0, C⟩ := (x3r_iff (la := la)).1 X
  obtain ⟨code, kk', hrun, _, hlabs, st', hs', p, hx, X', hv, hp0, hplt, hfr, hkeep, hpk⟩ :=
    ThreeWay.store_x3 (T := target mc la) (cfg1 := { cfg1 with out := cfg.out }) X0 hn hf hch hnext hlow hheap hnx
      rfl hroom kk
  refine ⟨code, kk', hrun, store_free _ _ kk code _ hrun, noCleanup_of_labsIn hlabs, st', hs', p, hx, ?_, hv,
    hp0, hplt, hfr, hpk⟩
  have hκ := trHeap_storeTau (τ := τ) C hf (fun e he => (X0.href.abs.ids _ (ThreeWay.mem_trHeap 4#64 τ he)).2.1)
  have X'' := X3R.ofM (cw := cw) (X'.congrK (κ' := storeTau τ cfg.next cw n) (by rw [hheap]; exact hκ))
    ((C.take n).keep (fun u hu => hkeep u (by rw [hlenT] at hu; exact hu)) (fun t ht hs1 => by
      rw [hlenT] at ht
      have : cfg1.temps.get t = cfg.temps.get t := hlow t ht
      rw [← this]; exact hs1))
  exact X''.setOut cfg1.out

end Scc.RV.Ref
