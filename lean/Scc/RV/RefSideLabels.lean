/-
  Scc.RV.RefSideLabels — SIDE HYPOTHESES of the RV64 run theorems (C08): THE LABELS OF THE EMITTED
  ROUTINE ARE PAIRWISE DISTINCT for every `LabelSafe` program (`labels_unique_rv`) — the RV64 analogue of
  `C14Generic.labels_unique` (which is about the mock code).  The
  walk over the generic generator is that of Scc/Backend/ProofsLabelsGen.lean; this file says which RV64
  methods define no label and which (the memory methods, RefSideLabMem.lean) local labels `lab<n>` drawn from
  the counter (`labOps_rv`); the routine adds `cleanup`.
-/
import Scc.RV.RefSideLabMem
import Scc.RV.RefInt

namespace Scc.RV.Ref

open Scc.AxCut Scc.Backend

abbrev R : Lbl → String := Lbl.render natRen

theorem labName_eq (n : Nat) : labName n = R (.lab n) := rfl

/-- the labels defined by `items` are the renderings of pairwise distinct structured labels, each either
one of the special labels `S` or a generated label with a number in `(a, b]`; the xtor names of clause
labels are in `X` -/
def G (S : List Lbl) (X : List String) (a b : Nat) (items : List Code) : Prop :=
  a ≤ b ∧ ∃ ls : List Lbl, labs items = ls.map R ∧ ls.Nodup ∧ (∀ l ∈ ls, l ∈ S ∨ InRange a b l) ∧
    ∀ l ∈ ls, ∀ x, l.xtor? = some x → x ∈ X

/-- the special labels are not generated labels with a number above `a` -/
def Below (a : Nat) (S : List Lbl) : Prop := ∀ l ∈ S, ∀ n, l.num = some n → n ≤ a

theorem G_iff {S : List Lbl} {X : List String} {a b : Nat} {items : List Code} :
    G S X a b items ↔ Lab.G S X a b (labs items) := Iff.rfl

theorem G.monoS {S S' : List Lbl} {X : List String} {a b : Nat} {items : List Code} (h : G S X a b items)
    (hS : ∀ l ∈ S, l ∈ S') : G S' X a b items := Lab.G.monoS h hS

theorem G.widen {S : List Lbl} {X : List String} {a b a' b' : Nat} {items : List Code} (h : G S X a b items)
    (h1 : a' ≤ a) (h2 : b ≤ b') : G S X a' b' items := Lab.G.widen h h1 h2

/-- two pieces of code generated one after the other -/
theorem G.append {S1 S2 : List Lbl} {X : List String} {a b c : Nat} {c1 c2 : List Code}
    (h1 : G S1 X a b c1) (h2 : G S2 X b c c2) (hd : ∀ l ∈ S1, ∀ l' ∈ S2, l ≠ l')
    (hb1 : Below a S1) (hb2 : Below a S2) : G (S1 ++ S2) X a c (c1 ++ c2) :=
  Lab.G.append_or (G_iff.1 h1) (G_iff.1 h2) hd hb1 hb2 (Or.inl (labs_append c1 c2))

/-- the same when the second piece stands BEFORE the first in the code -/
theorem G.append' {S1 S2 : List Lbl} {X : List String} {a b c : Nat} {c1 c2 : List Code}
    (h1 : G S1 X a b c1) (h2 : G S2 X b c c2) (hd : ∀ l ∈ S1, ∀ l' ∈ S2, l ≠ l')
    (hb1 : Below a S1) (hb2 : Below a S2) : G (S1 ++ S2) X a c (c2 ++ c1) :=
  Lab.G.append_or (G_iff.1 h1) (G_iff.1 h2) hd hb1 hb2 (Or.inr (labs_append c2 c1))

theorem nl_of_all {code : List Code} (h : ∀ c ∈ code, ∀ l, c ≠ .LAB l) : NL code :=
  fun l hl => h _ hl l rfl

theorem nl_loadLabel (t : Register) (l : String) : NL (rvBackend.loadLabel t l) := by
  intro l' hl; simp [rvBackend] at hl

theorem nl_loadImmediate (t : Register) (i : Int) : NL (rvBackend.loadImmediate t i) := by
  intro l' hl; simp [rvBackend] at hl

theorem nl_jump (t : Register) : NL (rvBackend.jump t) := by
  intro l' hl; simp [rvBackend] at hl

theorem nl_addAndJump (t : Register) (i : Int) : NL (rvBackend.addAndJump t i) := by
  intro l' hl; simp [rvBackend, addAndJump] at hl

theorem nl_mov (a b : Register) : NL (rvBackend.mov a b) := by
  intro l' hl; simp [rvBackend] at hl

theorem nl_jumpLabel (l : String) : NL (rvBackend.jumpLabel l) := by
  intro l' hl; simp [rvBackend] at hl

theorem nl_binop (o : BinOp) (t a b : Register) : NL (rvBackend.binop o t a b) := by
  intro l' hl
  cases o <;> simp [rvBackend, binop] at hl

theorem nl_jumpLabelIf (s : IfSort) (a b : Register) (l : String) : NL (rvBackend.jumpLabelIf s a b l) := by
  intro l' hl
  cases s <;> simp [rvBackend, jumpLabelIf] at hl

theorem nl_jumpLabelIfZero (s : IfSort) (a : Register) (l : String) : NL (rvBackend.jumpLabelIfZero s a l) := by
  intro l' hl
  cases s <;> simp [rvBackend, jumpLabelIfZero, jumpLabelIf] at hl

theorem rv_vt_k {n : TempNum} {Γ : Ctx} {id k : Nat} {t : Register} {k' : Nat}
    (h : (rvBackend.variableTemporary n Γ id).run k = .ok (t, k')) : k' = k := by
  obtain ⟨_, _, _, _, e⟩ := (rv_vt_run_ok n Γ id k t k').1 h
  exact e.symm

/-- which methods of the RV64 backend define no label, which local labels drawn from the counter; the backend
has no code for `print` -/
theorem labOps_rv : Lab.LabOps rvBackend (fun c => match c with | .LAB l => some l | _ => none) where
  comment := fun _ => rfl
  label := fun _ => rfl
  jump := fun t => (nl_jump t).labs
  jumpLabel := fun l => (nl_jumpLabel l).labs
  jumpLabelFixed := fun _ => rfl
  jumpLabelIf := fun s a b l => (nl_jumpLabelIf s a b l).labs
  jumpLabelIfZero := fun s a l => (nl_jumpLabelIfZero s a l).labs
  loadImmediate := fun t n => (nl_loadImmediate t n).labs
  loadLabel := fun t l => (nl_loadLabel t l).labs
  addAndJump := fun t n => (nl_addAndJump t n).labs
  binop := fun o t a b => (nl_binop o t a b).labs
  mov := fun t s => (nl_mov t s).labs
  storeTemporary := fun _ _ => rfl
  restoreTemporary := fun _ _ => rfl
  variableTemporary := fun _ _ _ _ _ _ h => rv_vt_k h
  printI64 := fun _ _ _ _ _ _ h => ((run_throw_ok _ _ _ _).1 h).elim
  eraseBlock := fun _ _ _ _ h => lfc_eraseBlock h
  shareBlockN := fun _ _ _ _ _ h => lfc_shareBlockN h
  store := fun _ _ _ _ _ h => lfc_store h
  load := fun _ _ _ _ _ h => lfc_load h

def clauseLbls (m : String) (n : Nat) (cs : Clauses) : List Lbl := (xtorNames cs).map (Lbl.clause m n)

section
variable (hooks : Bool) (types : List TypeDecl)

theorem g_methods (m : String) (n : Nat) : ∀ (cs : Clauses) (env : Ctx) (k : Nat) (items : List Code) (k' : Nat),
    (codeMethodsR rvBackend hooks natRen types env cs (m ++ "_" ++ natRen n)).run k = .ok (items, k') →
    (xtorNames cs).Nodup → clausesXtorsDistinct cs = true → n ≤ k →
    G (clauseLbls m n cs) (xtorNames cs ++ clausesXtorNames cs) k k' items :=
  Lab.g_methods labOps_rv hooks types m n

end

open Scc.Props.C14Generic (LabelSafe progXtorNames)

/-- the body: the labels of the definitions and generated labels -/
theorem g_body {hooks : Bool} {p : AxCut.Prog} {k : Nat} {body : List Code} {nargs k' : Nat}
    (hr : (compile rvBackend hooks p).run k = .ok ((body, nargs), k')) (hsafe : LabelSafe p = true) :
    G (Lab.defnLbls p.defs) (progXtorNames p) k k' body :=
  Lab.g_compile labOps_rv hr hsafe

/-- SIDE HYPOTHESIS: THE LABELS OF THE EMITTED ROUTINE (the body, then `cleanup:`) ARE PAIRWISE DISTINCT, for every
`LabelSafe` program, both hook settings, every start value of the label counter -/
theorem labels_unique_rv {hooks : Bool} {p : AxCut.Prog} {k : Nat} {body : List Code} {nargs k' : Nat}
    (hsafe : LabelSafe p = true) (h : (compile rvBackend hooks p).run k = .ok ((body, nargs), k')) :
    (labs (body ++ [Code.LAB "cleanup"])).Nodup := by
  rw [labs_append]
  exact (List.nodup_cons.1 (Lab.body_labels hsafe (g_body h hsafe)).2).2

end Scc.RV.Ref
