/-
  Scc.RV.ThreeWayMachine — the vocabulary of the RV64 instance of `Machine rvBackend` (Scc/Backend/ThreeWayStep.lean)
  and its fields that run blocks (`rv_lift`, the `noHookR_*`, `rv_vt`, `rv_exchange`); the instance itself is
  `machine`, Scc/RV/ThreeWayMachineAsm.lean.  The loaded routine `ks` is the emitted code with some comments dropped
  (`Keeps`, Scc/RV/RefLayout.lean; `KAt`, Scc/RV/RefBridge.lean), and a statement knows only where ITS code lies in
  it; so the routine of the instance is the code `items` of the current statement, and the machine stands at its
  position `k` when the rest `items.drop k` lies in `ks` at the program counter (`pcAtR`).  Blocks run by `exec_block`, which wants them
  free of pc-relative instructions and of the label `cleanup` (`NoHookR`).
-/
import Scc.Backend.ThreeWayStep
import Scc.RV.ThreeWayTarget
import Scc.RV.RefMoves
import Scc.RV.RefSideLabMem

set_option linter.unusedVariables false

namespace Scc.RV.Ref

open Scc.AxCut Scc.Backend Scc.Backend.Abs Scc.Backend.Sim
open Scc.Heap (HState InvS InvW)
open Scc.Heap.Refine (HRef imgW FrLe)
open Scc.Backend.ThreeWay (XAt)

/-- the machine stands at position `k` of the code `items` of the current statement: the rest of the code lies in
the kept codes at the program counter; and the whole of `items` lies somewhere in the kept codes (a fact about the
statement that every run keeps: with it a jump finds the label it goes to, wherever in `items` it stands) -/
def pcAtR (ks items : List Code) (st : State) (k : Nat) : Prop :=
  KAt ks st.pc (items.drop k) ∧ ∃ pc0, KAt ks pc0 items

/-- what `exec_block` wants of a block -/
def NoHookR (blk : List Code) : Prop := MemFree blk ∧ Code.LAB "cleanup" ∉ blk

theorem drop_of_xat {items blk : List Code} {k : Nat} (h : XAt items k blk) :
    items.drop k = blk ++ items.drop (k + blk.length) := by
  obtain ⟨cs1, rest, e, hl⟩ := h
  subst hl
  rw [e, List.append_assoc, List.drop_left, ← List.append_assoc, ← List.length_append, List.drop_left]

/-- a block at a position of the statement's code lies in the kept codes at the program counter -/
theorem pcAtR.kat {ks items blk : List Code} {st : State} {k : Nat} (hpc : pcAtR ks items st k)
    (hat : XAt items k blk) : KAt ks st.pc (blk ++ items.drop (k + blk.length)) := by
  have := hpc.1
  rwa [drop_of_xat hat] at this

theorem xat_self (items : List Code) : XAt items 0 items := ⟨[], [], by simp, rfl⟩

theorem pcAtR_zero {ks items : List Code} {st : State} (h : KAt ks st.pc items) : pcAtR ks items st 0 :=
  ⟨by rwa [List.drop_zero], st.pc, h⟩

/-- the code of the next statement at the position reached lies in the kept codes at the program counter -/
theorem pcAtR.next {ks items items' : List Code} {st : State} {k : Nat} (hpc : pcAtR ks items st k)
    (hat : XAt items k items') : KAt ks st.pc items' := (hpc.kat hat).left

section
variable {mc : MonCfg} {la : String → Option Nat}

theorem keep_setPS (st : State) (pc k : Nat) :
    ThreeWay.Keep (target mc la) st (setPS st pc k) (fun _ => False) :=
  ⟨fun _ _ _ => rfl, fun _ h => h, fun hs R => heapRel_setPS R _ _⟩

theorem bnd_setPS {st : State} (B : Boundary mc st) (pc k : Nat) : Boundary mc (setPS st pc k) := ⟨B.wf, B.top⟩

end

theorem noCleanup_of_lfc {k k' : Nat} {code : List Code} (h : LFC k k' code) : Code.LAB "cleanup" ∉ code := by
  intro hm
  obtain ⟨ns, e, _, _⟩ := h.2
  have : "cleanup" ∈ labs code := by
    unfold labs
    exact List.mem_filterMap.2 ⟨_, hm, rfl⟩
  rw [e] at this
  obtain ⟨n, _, hn⟩ := List.mem_map.1 this
  exact labName_ne_cleanup n hn

theorem noHookR_erase {t : Register} {k k' : Nat} {code : List Code}
    (h : (eraseBlock t).run k = .ok (code, k')) : NoHookR code := by
  refine ⟨eraseBlock_free t k code k' h, ?_⟩
  have := (eraseBlock_run t k).symm.trans h
  injection this with this
  rw [← (Prod.mk.inj this).1]
  exact noCleanup_of_labsIn (labsIn_eraseBlockCode t k)

theorem noHookR_share {t : Register} {n k k' : Nat} {code : List Code}
    (h : (shareBlockN t n).run k = .ok (code, k')) : NoHookR code := by
  refine ⟨shareBlockN_free t n k code k' h, ?_⟩
  have := (shareBlockN_run' t n k).symm.trans h
  injection this with this
  rw [← (Prod.mk.inj this).1]
  exact noCleanup_of_labsIn (labsIn_shareNCode t n k)

theorem noHookR_store {a b : Ctx} {k k' : Nat} {code : List Code}
    (h : (store a b).run k = .ok (code, k')) : NoHookR code :=
  ⟨store_free a b k code k' h, noCleanup_of_lfc (lfc_store h)⟩

theorem noHookR_load {a b : Ctx} {k k' : Nat} {code : List Code}
    (h : (load a b).run k = .ok (code, k')) : NoHookR code :=
  ⟨load_free a b k code k' h, noCleanup_of_lfc (lfc_load h)⟩

theorem keep_refl {st : State} (hwf : st.WF) (ch : Nat → Prop) : Keep st st ch := ⟨hwf, rfl, fun _ _ _ _ => rfl⟩

theorem not_moveReg_2 : ¬ MoveReg 2 := by
  rintro (h | ⟨t, _, h⟩)
  · omega
  · unfold posReg at h; omega

theorem not_moveReg_3 : ¬ MoveReg 3 := by
  rintro (h | ⟨t, _, h⟩)
  · omega
  · unfold posReg at h; omega

section
variable {mc : MonCfg} {pr : RV.Program} {ks : List Code} (L : Loaded pr ks) (hndL : (labs ks).Nodup)
  (hheap : mc.heap = false) {items : List Code}

include L hndL hheap in
/-- a block that runs to its end by itself runs on the loaded routine -/
theorem rv_lift {k : Nat} {blk : List Code} {st st' : State} (hat : XAt items k blk) (hpc : pcAtR ks items st k)
    (hx : execFwd mc pr.labelAddr blk st = .ok (st', .fall)) (hn : NoHookR blk) (B' : Boundary mc st') :
    ∃ st'', Reach pr mc st st'' ∧ pcAtR ks items st'' (k + blk.length) ∧ Boundary mc st'' ∧
      ThreeWay.Keep (target mc pr.labelAddr) st' st'' (fun _ => False) := by
  obtain ⟨pc', steps', hr, hat'⟩ := exec_block L hndL hheap (hpc.kat hat) hn.1 hn.2 hx
  exact ⟨setPS st' pc' steps', hr, ⟨hat', hpc.2⟩, bnd_setPS B' _ _, keep_setPS _ _ _⟩

theorem rv_vt {num : TempNum} {ctx : Ctx} {id kx kx' : Nat} {t : Register}
    (h : (rvBackend.variableTemporary num ctx id).run kx = .ok (t, kx')) :
    ∃ pos, Pos.posOf ctx id = some pos ∧ 2 * pos + num.toNat < 28 ∧ t = posTemp (2 * pos + num.toNat) ∧ kx' = kx := by
  obtain ⟨pos, h1, h2, h3, h4⟩ := (rv_vt_run_ok _ _ _ _ _ _).1 h
  exact ⟨pos, h1, h2, h3, h4.symm⟩

include L hndL hheap in
/-- parallel_moves.rs on the RV64 machine, in lockstep with the mock code from a configuration whose scratch cell
is empty -/
theorem rv_exchange {P : Abs.Program} {tm : List (Binding × List Nat)} {Γ newΓ : Ctx} {c c' : Nat}
    {code : List Code} {k : Nat} {st : State} {cfg : Config}
    (h : (codeExchange rvBackend tm Γ newΓ).run c = .ok (code, c')) (hat : XAt items k code)
    (hpc : pcAtR ks items st k) (B : Boundary mc st) (hscr : cfg.scratch = none)
    (htv : ∀ t v, t < 28 → cfg.temps.get t = some v → rv st t = some v) :
    ∃ ops, (codeExchange mockSym tm Γ newΓ).run c = .ok (ops, c') ∧
      (CodeAt P cfg.pc ops → ∃ cfg' st', stepsTo P (instrCount ops) cfg cfg' ∧
        Reach pr mc st st' ∧ pcAtR ks items st' (k + code.length) ∧ Boundary mc st' ∧
        (∀ t v, t < 28 → cfg'.temps.get t = some v → rv st' t = some v) ∧
        ∀ hs, HeapRel mc st hs → HeapRel mc st' hs) := by
  obtain ⟨ops, hops, SS⟩ := mseg_codeExchange tm Γ newΓ h
  refine ⟨ops, hops, fun hcode => ?_⟩
  obtain ⟨cfg', st', hs, hn, hat', R', _⟩ :=
    mseg_follow L hndL hheap (P := P) (st0 := st) SS _ cfg st hcode (hpc.kat hat)
      ⟨fun t v ht hg => htv t v ht hg, (fun w hw => by rw [hscr] at hw; cases hw), keep_refl B.wf _⟩
  exact ⟨cfg', st', hs, hn, ⟨hat', hpc.2⟩, ⟨R'.keep.wf, B.top⟩, R'.temps,
    fun hs R => R'.keep.heapRel R not_moveReg_2 not_moveReg_3⟩

end

section
variable {cw : Nat → Word} {Γ : Ctx} {cfg cfg' : Config} {st st' : State}

/-- the first `n = |Γ|` positions are untouched -/
theorem CwOK.keepPos (C : CwOK cw Γ cfg st) (K : Prov.KeepPos (rv st) (rv st') Γ.length cfg cfg') :
    CwOK cw Γ cfg' st' := fun i hi hc hs' => by
  rw [K.mach i hi]
  exact C i hi hc (by rw [← K.temps _ (by omega)]; exact hs')

/-- … and a position that is no closure is appended -/
theorem CwOK.snoc (C : CwOK cw Γ cfg st) (K : Prov.KeepPos (rv st) (rv st') Γ.length cfg cfg') {b : Binding}
    (hb : b.chi ≠ .cns) : CwOK cw (Γ ++ [b]) cfg' st' := fun i hi hc hs' => by
  simp only [List.length_append, List.length_singleton] at hi
  by_cases hin : i < Γ.length
  · rw [List.getElem_append_left hin] at hc
    exact C.keepPos K i hin hc hs'
  · have : i = Γ.length := by omega
    subst this
    simp at hc
    exact absurd hc hb

end

end Scc.RV.Ref
