/-
  Scc.RV.RefCloDefs — the representation of values WITH the machine words of the closures, RV64.  Theorem A's
  `RepV` (Backend/SimDefs2.lean) says that a closure value is represented by a block reference and the ABSTRACT code address `a` of its methods (`MethodsAt P … a envCtx' clauses`, with a hidden
  environment context `envCtx'`).  On the RV64 machine the word of a closure is the address of the label of
  its method table; there is no function from abstract code addresses to RV64 addresses that could be shown to
  be correct (the code generators are run with different label counters), so the machine word of a closure is
  kept PER LOCATION: `cw i` for position `i` of the context, `τ id j` for field `j` of heap object `id`
  (RefDefs.lean), and the relation `CV` below — `RepV` with one more index, the machine word — records for
  every closure value at every location that the RV64 code at its machine word is the code of ITS methods for
  THE SAME environment context as the abstract code (`Q m envCtx' clauses`).

  `CV` is `RepV` together with the closure walk of Scc/Backend/ClosWalk.lean (`CV.toX`, `CV.ofX`; `CVals.toXC`,
  `CVals.ofXC` with the closure words `cw` as words in temporaries, `cwTv`): that is how `CVals` follows the steps.
-/
import Scc.RV.RefTr
import Scc.Backend.ProofsRep2
import Scc.Backend.ProofsLoad
import Scc.Backend.ClosWalk

set_option linter.unusedVariables false

namespace Scc.RV.Ref

open Scc.AxCut Scc.AxCut.Pos Scc.Backend Scc.Backend.Abs Scc.Backend.Sim Scc.Backend.Sim2

section Defs

variable (P : Abs.Program) (hooks : Bool) (types : List TypeDecl) (Q : Word → Ctx → Clauses → Prop)

mutual
  /-- `CV … τ h v ptr w m`: `RepV … h v ptr w`, and `m` is the machine word of `v` if `v` is a closure; the
  closures in the fields of heap object `id` have the machine words `τ id ·` -/
  inductive CV (τ : Nat → Nat → Word) (h : Heap) : Value → Option Word → Word → Word → Prop where
    | int (n : Word) (p : Option Word) (m : Word) : CV τ h (.int n) p n m
    | obj (tag : Nat) (fields : List Value) (r : Word) (m : Word) :
      CB τ h fields r → CV τ h (.obj tag fields) (some r) (BitVec.ofNat 64 tag) m
    | clo (envCtx envCtx' : Ctx) (env : List Value) (clauses : Clauses) (r : Word) (a : Nat) (m : Word) :
      envCtx'.keys = envCtx.keys →
      CB τ h env r → MethodsAt P hooks types a envCtx' clauses → Q m envCtx' clauses →
      CV τ h (.clo envCtx env clauses) (some r) (BitVec.ofNat 64 a) m
  inductive CB (τ : Nat → Nat → Word) (h : Heap) : List Value → Word → Prop where
    | empty : CB τ h [] 0
    | block (v : Value) (vs : List Value) (r : Word) (o : Obj) :
      r ≠ 0 → h.get r.toNat = some o → CF τ h (v :: vs) o.fields (τ r.toNat) 0 →
      CB τ h (v :: vs) r
  /-- the values `vs` are the fields `fs`, the closures among them with the machine words `mw k, mw (k+1), …` -/
  inductive CF (τ : Nat → Nat → Word) (h : Heap) : List Value → List Field → (Nat → Word) → Nat → Prop where
    | nil (mw : Nat → Word) (k : Nat) : CF τ h [] [] mw k
    | cons (v : Value) (vs : List Value) (f : Field) (fs : List Field) (mw : Nat → Word) (k : Nat) :
      CV τ h v (if f.chi == .ext then none else some f.ptr) f.val (mw k) →
      f.chi = Sim2.kindOf v →
      CF τ h vs fs mw (k + 1) → CF τ h (v :: vs) (f :: fs) mw k
end

/-- the twin of `ValsOK2`: position `i` of the environment, with the machine word `cw i` -/
def CVals (cw : Nat → Word) (τ : Nat → Nat → Word) (h : Heap) (σ : Temps) (Γ : Ctx) (ρ : List Value) : Prop :=
  ∀ i (h1 : i < Γ.length) (h2 : i < ρ.length),
    CV P hooks types Q τ h ρ[i] (if Γ[i].chi == .ext then none else σ.get (2 * i))
      ((σ.get (2 * i + 1)).getD 0) (cw i)

end Defs

variable {P : Abs.Program} {hooks : Bool} {types : List TypeDecl} {Q : Word → Ctx → Clauses → Prop}

mutual
theorem CV.rep {τ : Nat → Nat → Word} {h : Heap} : ∀ {v : Value} {p : Option Word} {w m : Word},
    CV P hooks types Q τ h v p w m → RepV P hooks types h v p w
  | _, _, _, _, .int n p m => .int n p
  | _, _, _, _, .obj tag fields r m hb => .obj tag fields r (CB.rep hb)
  | _, _, _, _, .clo ec ec' env cl r a m hk hb hm hq => .clo ec ec' env cl r a hk (CB.rep hb) hm
theorem CB.rep {τ : Nat → Nat → Word} {h : Heap} : ∀ {vs : List Value} {r : Word},
    CB P hooks types Q τ h vs r → RepB P hooks types h vs r
  | _, _, .empty => .empty
  | _, _, .block v vs r o hr hg hf => .block v vs r o hr hg (CF.rep hf)
theorem CF.rep {τ : Nat → Nat → Word} {h : Heap} : ∀ {vs : List Value} {fs : List Field} {mw : Nat → Word}
    {k : Nat}, CF P hooks types Q τ h vs fs mw k → RepF P hooks types h vs fs
  | _, _, _, _, .nil mw k => .nil
  | _, _, _, _, .cons v vs f fs mw k hv hk hr => .cons v vs f fs (CV.rep hv) hk (CF.rep hr)
end

theorem CV.word_irrel {τ : Nat → Nat → Word} {h : Heap} {v : Value} {p : Option Word} {w m m' : Word}
    (hv : CV P hooks types Q τ h v p w m) (hk : Sim2.kindOf v ≠ Chi.cns) : CV P hooks types Q τ h v p w m' := by
  cases hv with
  | int n p m => exact .int _ _ m'
  | obj tag fields r m hb => exact .obj tag fields r m' hb
  | clo => exact absurd rfl hk

theorem CV.clo_inv {τ : Nat → Nat → Word} {h : Heap} {envCtx : Ctx} {env : List Value} {clauses : Clauses}
    {p : Option Word} {w m : Word} (hv : CV P hooks types Q τ h (.clo envCtx env clauses) p w m) :
    ∃ r a envCtx', p = some r ∧ CB P hooks types Q τ h env r ∧ w = BitVec.ofNat 64 a ∧
      envCtx'.keys = envCtx.keys ∧ MethodsAt P hooks types a envCtx' clauses ∧ Q m envCtx' clauses := by
  cases hv with
  | clo _ envCtx' _ _ r a _ hk hb hm hq => exact ⟨r, a, envCtx', rfl, hb, rfl, hk, hm, hq⟩

theorem CVals.append {cw : Nat → Word} {τ : Nat → Nat → Word} {h : Heap} {σ : Temps} {Γ Δ : Ctx}
    {ρ vs : List Value} (V : CVals P hooks types Q cw τ h σ Γ ρ) (hlen : ρ.length = Γ.length)
    (hΔ : ∀ j (h1 : j < Δ.length) (h2 : j < vs.length),
      CV P hooks types Q τ h vs[j] (if Δ[j].chi == .ext then none else σ.get (2 * (Γ.length + j)))
        ((σ.get (2 * (Γ.length + j) + 1)).getD 0) (cw (Γ.length + j))) :
    CVals P hooks types Q cw τ h σ (Γ ++ Δ) (ρ ++ vs) := by
  intro i h1 h2
  by_cases hi : i < Γ.length
  · have hi2 : i < ρ.length := by omega
    have g1 : (Γ ++ Δ)[i] = Γ[i] := List.getElem_append_left hi
    have g2 : (ρ ++ vs)[i] = ρ[i] := List.getElem_append_left hi2
    rw [g1, g2]
    exact V i hi hi2
  · have hi' : Γ.length ≤ i := by omega
    have h1' : i - Γ.length < Δ.length := by simp at h1; omega
    have h2' : i - Γ.length < vs.length := by simp at h2; omega
    have g1 : (Γ ++ Δ)[i] = Δ[i - Γ.length] := List.getElem_append_right hi'
    have g2 : (ρ ++ vs)[i] = vs[i - Γ.length] := by
      rw [List.getElem_append_right (by omega)]
      simp [hlen]
    rw [g1, g2]
    have := hΔ (i - Γ.length) h1' h2'
    rw [show Γ.length + (i - Γ.length) = i by omega] at this
    exact this

mutual
theorem CV.toX {τ : Nat → Nat → Word} {h : Heap} : ∀ {v : Value} {p : Option Word} {w m : Word},
    CV P hooks types Q τ h v p w m → Prov.XV P hooks types Q h τ v p w m
  | _, _, _, _, .int n p m => .int n p _ m
  | _, _, _, _, .obj tag fields r m hb => .obj tag fields r _ m (CB.toX hb)
  | _, _, _, _, .clo ec ec' env cl r a m hk hb hm hq => .clo ec ec' env cl r a m hk (CB.toX hb) hm hq
theorem CB.toX {τ : Nat → Nat → Word} {h : Heap} : ∀ {vs : List Value} {r : Word},
    CB P hooks types Q τ h vs r → Prov.XB P hooks types Q h τ vs r
  | _, _, .empty => .empty
  | _, _, .block v vs r o hr hg hf => .block v vs r o hr hg (CF.toX hf (fun _ => rfl))
theorem CF.toX {τ : Nat → Nat → Word} {h : Heap} : ∀ {vs : List Value} {fs : List Field} {mw : Nat → Word}
    {k id : Nat}, CF P hooks types Q τ h vs fs mw k → (∀ j, mw j = τ id j) → Prov.XF P hooks types Q h τ vs fs id k
  | _, _, _, _, _, .nil mw k, _ => .nil _ _
  | _, _, _, _, _, .cons v vs f fs mw k hv hk hr, he =>
    .cons v vs f fs _ k (by rw [← he k]; exact CV.toX hv) (CF.toX hr he)
end

mutual
theorem CV.ofX {τ : Nat → Nat → Word} {h : Heap} : ∀ {v : Value} {p : Option Word} {w m : Word},
    RepV P hooks types h v p w → Prov.XV P hooks types Q h τ v p w m → CV P hooks types Q τ h v p w m
  | _, _, _, _, .int n p, _ => .int n p _
  | _, _, _, _, .obj tag fields r hb, .obj _ _ _ _ _ hx => .obj tag fields r _ (CB.ofX hb hx)
  | _, _, _, _, .clo ec ec' env cl r a hk hb hm, hx => by
    -- the walk knows the methods on both sides, for ITS environment context and abstract address
    generalize hw : BitVec.ofNat 64 a = w at hx
    cases hx with
    | clo _ ec'' _ _ _ a' _ hk' hxb hm' hq' => exact .clo ec ec'' env cl r a' _ hk' (CB.ofX hb hxb) hm' hq'
theorem CB.ofX {τ : Nat → Nat → Word} {h : Heap} : ∀ {vs : List Value} {r : Word},
    RepB P hooks types h vs r → Prov.XB P hooks types Q h τ vs r → CB P hooks types Q τ h vs r
  | _, _, .empty, _ => .empty
  | _, _, .block v vs r o hr hg hf, .block _ _ _ o' _ hg' hx => by
    have : o' = o := Option.some.inj (hg'.symm.trans hg)
    subst this
    exact .block v vs r o' hr hg (CF.ofX hf hx)
theorem CF.ofX {τ : Nat → Nat → Word} {h : Heap} : ∀ {vs : List Value} {fs : List Field} {id k : Nat},
    RepF P hooks types h vs fs → Prov.XF P hooks types Q h τ vs fs id k → CF P hooks types Q τ h vs fs (τ id) k
  | _, _, _, _, .nil, _ => .nil _ _
  | _, _, _, _, .cons v vs f fs hv hk hr, .cons _ _ _ _ _ _ hxv hxr =>
    .cons v vs f fs _ _ (CV.ofX hv hxv) hk (CF.ofX hr hxr)
end

theorem CB.kept {τ τ' : Nat → Nat → Word} {h h' : Heap}
    (hk : AllFieldsKept h h') (hτ : ∀ id o, h.get id = some o → τ' id = τ id)
    {vs : List Value} {r : Word}
    (hv : CB P hooks types Q τ h vs r) : CB P hooks types Q τ' h' vs r :=
  CB.ofX (RepB.kept hk hv.rep)
    (Prov.XB.kept hk (Prov.XB.congrK (fun id o hg j => by rw [hτ id o hg]) hv.toX))

/-- the closure words `cw` of the positions, as words in the temporaries of positions (the vocabulary of
Scc/Backend/StepProv.lean); only the word parts (odd temporaries, `cwTv_snd`) are ever asked -/
def cwTv (cw : Nat → Word) : Nat → Option Word := fun t => some (cw (t / 2))

theorem cwTv_snd (cw : Nat → Word) (i : Nat) : cwTv cw (2 * i + 1) = some (cw i) := by
  unfold cwTv
  rw [show (2 * i + 1) / 2 = i by omega]

theorem CVals.toXC {cw : Nat → Word} {τ : Nat → Nat → Word} {cfg : Config} {Γ : Ctx} {ρ : List Value}
    (V : CVals P hooks types Q cw τ cfg.heap cfg.temps Γ ρ) : Prov.XC P hooks types Q (cwTv cw) Γ ρ cfg τ :=
  fun i h1 h2 w hw => by
    rw [cwTv_snd] at hw
    obtain rfl := Option.some.inj hw
    exact (V i h1 h2).toX

theorem CVals.ofXC {cw : Nat → Word} {τ : Nat → Nat → Word} {cfg : Config} {Γ : Ctx} {ρ : List Value}
    (C : Prov.XC P hooks types Q (cwTv cw) Γ ρ cfg τ) (VR : ValsOK2 P hooks types cfg.heap cfg.temps Γ ρ) :
    CVals P hooks types Q cw τ cfg.heap cfg.temps Γ ρ :=
  fun i h1 h2 => CV.ofX (VR i h1 h2).1 (C i h1 h2 _ (cwTv_snd cw i))

end Scc.RV.Ref
