/-
  Scc.RV.ConcC10 — C10 (heap footprint) on concrete RV64 runs of ALL programs (integers, data types, closures).
  The runs under the footprint bound (`Track.peakTrack`, `Track.peak_done` of `Entry.boundaries`) with the entry
  (`entry_setup`, ConcRun.lean) and the machine facts of ConcMach.lean.  The hypothesis is about the machine's own
  run (`PeakAtMost Pk C`: at no statement boundary are more than `Pk` blocks in use, `HeapShapeAt` reading the
  blocks off the raw machine state); `PeakHyp` is the peak hypothesis at the entry, from any source.
-/
import Scc.RV.ConcPeakRun
import Scc.RV.ConcMach

set_option linter.unusedVariables false

namespace Scc.RV.Conc

open Scc.AxCut Scc.Backend Scc.Backend.Abs Scc.RV.Ref
open Scc.Props.C14Generic (LabelSafe)
open Scc.Props.C06Generic (outAfter WithinCapacity Reachable EnoughHeap CodeFits statesOf stopsWithin)
open Scc.Heap (HState InvS InvW Exhausted)
open Scc.Heap.Refine (HRef FrLe Room FrPk)
open Scc.X86.Conc (FrBound LiveLe LiveLe0 frBound_init)
open Scc.X86.Ref.K (allocArity AllocLe AllocLeClauses ValAll valAll_ints)

/-- the heap of the machine state `X` is consistent, with `below` blocks below the allocation frontier,
`inUse` of which are in use (neither on the reusable nor on the deferred free list: reachable, or waiting
beneath a deferred block) -/
def HeapShapeAt (mc : MonCfg) (X : State) (below inUse : Nat) : Prop :=
  ∃ (h f : Word) (roots lin lazy live : List Nat) (F : Nat),
    X.readReg HEAP = .ok h ∧ X.readReg FREE = .ok f ∧
    InvW (memFn X) heapBase (heapBase + mc.heapBytes) h.toNat f.toNat roots [] lin lazy live F ∧
    (F - heapBase) / 64 = below ∧ live.length = inUse

theorem heapShapeAt_of_rel {mc : MonCfg} {X : State} {hs : HState} (HR : HeapRel mc X hs)
    {rs lin lazy live : List Nat} {F : Nat} (I : InvS hs rs [] lin lazy live F) :
    HeapShapeAt mc X ((F - hs.base) / 64) live.length := by
  obtain ⟨w, hw, ew⟩ := HR.heap
  obtain ⟨f, hf, ef⟩ := HR.free
  refine ⟨w, f, rs, lin, lazy, live, F, hw, hf, ?_, by rw [HR.base], rfl⟩
  have hmem : memFn X = hs.mem.get := by
    funext a; exact (HR.mem a).symm
  rw [hmem, ew, ef, ← HR.limit, ← HR.base]
  exact I

theorem HeapShapeAt.inUse_le {mc : MonCfg} {X : State} {below inUse : Nat} (h : HeapShapeAt mc X below inUse) :
    inUse ≤ below := by
  obtain ⟨_, _, _, lin, lazy, live, F, _, _, I, h1, h2⟩ := h
  have := I.card
  omega

/-- THE PEAK HYPOTHESIS, all programs: at no statement boundary of the machine's run (from its initial state) are
more than `Pk` blocks in use.  Only boundaries with at most `C` blocks below the frontier matter (`C` = the trivial
bound `A·fuel + 1`: a step of the run moves the frontier by at most `A` blocks; no other boundary occurs) -/
def PeakAtMost (p : AxCut.Prog) (hooks : Bool) (ks : List Code) (ops : List MockOp) (mc : MonCfg)
    (pr : RV.Program) (X00 : State) (Pk C : Nat) : Prop :=
  ∀ n X st, stepN pr mc n X00 = .inl X →
    BoundaryOf p hooks ks ops mc st X → ∀ below inUse, HeapShapeAt mc X below inUse → below ≤ C →
    inUse ≤ Pk

theorem peakAtMost_trivial (p : AxCut.Prog) (hooks : Bool) (ks : List Code) (ops : List MockOp)
    (mc : MonCfg) (pr : RV.Program) (X00 : State) (C : Nat) :
    PeakAtMost p hooks ks ops mc pr X00 C C :=
  fun _ _ _ _ _ _ _ h hb => Nat.le_trans h.inUse_le hb

/-- the peak hypothesis on block-level states, from the one on machine states -/
theorem peakFrom_of_peakAtMost {p : AxCut.Prog} {hooks : Bool} {ks : List Code} {ops : List MockOp}
    {mc : MonCfg} {pr : RV.Program} {X00 : State} {Pk C : Nat}
    (hP : PeakAtMost p hooks ks ops mc pr X00 Pk C) {n0 : Nat}
    {X0 : State} (h0 : stepN pr mc n0 X00 = .inl X0) (st : Pos.State) :
    PeakFrom mc pr ks (Program.ofOps ops) hooks p st X0 Pk C := by
  intro n X' st' cfg' hs' _ hn R hC rs lin live Fr I
  have hB : BoundaryOf p hooks ks ops mc st' X' := ⟨cfg', hs', R⟩
  obtain ⟨Γ', ι, cw, τ, _, _, X3h, _⟩ := R
  exact hP (n0 + n) X' st' (stepN_trans pr mc h0 hn) hB _ _
    (heapShapeAt_of_rel X3h.hrel I) (hC _ _ _ _ _ I)

/-- the peak hypothesis at the entry: whatever first boundary the entry establishes -/
def PeakHyp (p : AxCut.Prog) (hooks : Bool) (ks : List Code) (ops : List MockOp) (mc : MonCfg)
    (pr : RV.Program) (X00 : State) (d0 : Def) (args : List Word) (Pk C : Nat) : Prop :=
  ∀ (n0 : Nat) (X0 : State), stepN pr mc n0 X00 = .inl X0 →
    PeakFrom mc pr ks (Program.ofOps ops) hooks p ⟨d0.ctx, args.map .int, d0.body⟩ X0 Pk C

theorem peakHyp_of_peakAtMost {p : AxCut.Prog} {hooks : Bool} {ks : List Code} {ops : List MockOp}
    {mc : MonCfg} {pr : RV.Program} {X00 : State} {d0 : Def} {args : List Word} {Pk C : Nat}
    (hP : PeakAtMost p hooks ks ops mc pr X00 Pk C) :
    PeakHyp p hooks ks ops mc pr X00 d0 args Pk C :=
  fun n0 X0 h0 => peakFrom_of_peakAtMost hP h0 _

/-- the invariant of the runs under the footprint bound at the first boundary, for `fuel` steps -/
theorem Entry.peakRun {p : AxCut.Prog} {args : List Word} {hooks : Bool} {d0 : Def} {ops : List MockOp} {mc : MonCfg}
    {lines : List (Nat × Code)} {pr : RV.Program} {ic e : Nat} {regs : Array (Option Word)} {X0 : State} {a : Nat}
    (En : Entry p args hooks d0 ops mc lines pr ic e regs X0 a)
    (hcap : ∀ st, Reachable p ⟨d0.ctx, args.map .int, d0.body⟩ st → st.ctx.length ≤ 14) (hmem : d0 ∈ p.defs)
    {A Pk C : Nat} (hA : ∀ d ∈ p.defs, AllocLe A d.body) (hbytes : 64 * (Pk + A + 2) ≤ mc.heapBytes)
    (hP : PeakFrom mc pr (keptOf lines) (Program.ofOps ops) hooks p ⟨d0.ctx, args.map .int, d0.body⟩ X0 Pk C)
    {fuel : Nat} (hfuel : fuel + 1 < 2 ^ 64) (hC : A * fuel + 1 ≤ C) :
    Track.PeakRun (Steps pr mc) p (Bd mc (keptOf lines) (Program.ofOps ops) hooks p) A Pk C fuel
      ⟨d0.ctx, args.map .int, d0.body⟩ [] X0 :=
  ⟨_, _, 1, ⟨En.bd hcap, hA d0 hmem, valAll_ints _ args, frBound_init (by decide) (by omega) (by omega),
    frBound_init (by decide) (by omega) (Nat.le_refl _), hP.track⟩, by rw [En.next1]; omega, by omega⟩

/-- the chain of block-level facts as a chain of facts about the raw machine states (no peak hypothesis on
machine states needed: the number of blocks in use is not reported) -/
theorem bchain_frontier {p : AxCut.Prog} {hooks : Bool} {ks : List Code} {ops : List MockOp} {mc : MonCfg}
    {pr : RV.Program} {Pk C : Nat} :
    ∀ (sts : List Pos.State) (X : State),
      BChain pr mc (ChainRel mc ks (Program.ofOps ops) hooks p Pk C) sts X →
      BChain pr mc (fun st X => BoundaryOf p hooks ks ops mc st X ∧
        ∃ below inUse, HeapShapeAt mc X below inUse ∧ below ≤ Pk + 1) sts X := by
  intro sts
  induction sts with
  | nil => intro X _; trivial
  | cons st rest ih =>
    intro X hc
    obtain ⟨⟨cfgA, hs, R, hfb, hcC⟩, hrest⟩ := hc
    have hB : BoundaryOf p hooks ks ops mc st X := ⟨cfgA, hs, R⟩
    have hX3 : ∃ Γ' ι cw τ, X3 mc cw τ Γ' cfgA hs ι X := by
      obtain ⟨Γ', ι, cw, τ, _, _, X3h, _⟩ := R
      exact ⟨Γ', ι, cw, τ, X3h⟩
    obtain ⟨Γ', ι, cw, τ, X3h⟩ := hX3
    obtain ⟨lin, lazy, live, Fr, I⟩ := X3h.href.conc
    have hsh := heapShapeAt_of_rel X3h.hrel I
    refine ⟨⟨hB, _, _, hsh, hfb _ _ _ _ _ I⟩, ?_⟩
    rcases hrest with e | ⟨n', X', hn', hc'⟩
    · exact Or.inl e
    · exact Or.inr ⟨n', X', hn', ih X' hc'⟩

/-- the chain of block-level facts as a chain of facts about the raw machine states, using the peak
hypothesis at every state of the chain (they are all on the run) -/
theorem bchain_shape {p : AxCut.Prog} {hooks : Bool} {ks : List Code} {ops : List MockOp} {mc : MonCfg}
    {pr : RV.Program} {X00 : State} {Pk C : Nat}
    (hP : PeakAtMost p hooks ks ops mc pr X00 Pk C) :
    ∀ (sts : List Pos.State) (X : State) (k : Nat),
      stepN pr mc k X00 = .inl X →
      BChain pr mc (ChainRel mc ks (Program.ofOps ops) hooks p Pk C) sts X →
      BChain pr mc (fun st X => BoundaryOf p hooks ks ops mc st X ∧
        ∃ below inUse, HeapShapeAt mc X below inUse ∧ below ≤ Pk + 1 ∧ inUse ≤ Pk) sts X := by
  intro sts
  induction sts with
  | nil => intro X k _ _; trivial
  | cons st rest ih =>
    intro X k hk' hc
    obtain ⟨⟨cfgA, hs, R, hfb, hcC⟩, hrest⟩ := hc
    have hB : BoundaryOf p hooks ks ops mc st X := ⟨cfgA, hs, R⟩
    have hX3 : ∃ Γ' ι cw τ, X3 mc cw τ Γ' cfgA hs ι X := by
      obtain ⟨Γ', ι, cw, τ, _, _, X3h, _⟩ := R
      exact ⟨Γ', ι, cw, τ, X3h⟩
    obtain ⟨Γ', ι, cw, τ, X3h⟩ := hX3
    obtain ⟨lin, lazy, live, Fr, I⟩ := X3h.href.conc
    have hsh := heapShapeAt_of_rel X3h.hrel I
    refine ⟨⟨hB, _, _, hsh, hfb _ _ _ _ _ I, hP k X st hk' hB _ _ hsh (hcC _ _ _ _ _ I)⟩, ?_⟩
    rcases hrest with e | ⟨n', X', hn', hc'⟩
    · exact Or.inl e
    · exact Or.inr ⟨n', X', hn', ih X' (k + n') (stepN_trans pr mc hk' hn') hc'⟩

theorem mhwOK_init (mc : MonCfg) (regs : Array (Option Word)) (e : Nat) : MhwOK mc (initState regs e) :=
  Nat.zero_le _

/-- THE RUN FROM THE MACHINE'S INITIAL STATE UNDER THE FOOTPRINT BOUND, for any source of the peak hypothesis: for ANY
number `fuel` of steps of the positional machine the machine passes — without fault — through a boundary state for
every state the positional machine goes through, the frontier below `Pk + 1` blocks at each; if the positional
machine ends within `fuel` steps, the machine ends the run with the same result, having written inside its heap -/
theorem programs_run3 (p : AxCut.Prog) (args : List Word) (hooks : Bool) (instrs hdr : List Code)
    (nargs cX : Nat) (d0 : Def) (ops : List MockOp) (c' : Nat)
    (hsafe : LabelSafe p = true) (htp : LinTypedProg p)
    (hcompM : (compile mockSym hooks p).run 0 = .ok ((ops, nargs), c')) (hfit : CodeFits ops)
    {cX0 : Nat} (hcompX : (compile rvBackend hooks p).run cX0 = .ok ((instrs, nargs), cX))
    (hnd : (labs (instrs ++ [Code.LAB "cleanup"])).Nodup) (hfitX : codeBase + 4 * instrs.length < 2 ^ 64)
    (hd : p.defs.head? = some d0) (hentry : ∀ b ∈ d0.ctx, b.chi = .ext ∧ b.ty = .i64)
    (hlen : d0.ctx.length = args.length)
    (hcap : ∀ st, Reachable p ⟨d0.ctx, args.map .int, d0.body⟩ st → st.ctx.length ≤ 14)
    (fuel : Nat) (hfuel : fuel + 1 < 2 ^ 64)
    (mc : MonCfg) (hheap : mc.heap = false) (htop : heapBase + mc.heapBytes ≤ 2 ^ 63)
    (Pk A : Nat) (hA : ∀ d ∈ p.defs, AllocLe A d.body) (hbytes : 64 * (Pk + A + 2) ≤ mc.heapBytes)
    (lines : List (Nat × Code)) (hhdr : ∀ c ∈ hdr, c.isComment = true)
    (hlines : (lines.map (·.2)).map stripC = (hdr ++ instrs ++ [Code.LAB "cleanup"]).map stripC)
    (hhook : ∀ x ∈ lines, ¬ badHook x.2)
    (hP : ∀ pr e regs, layout lines = .ok pr → pr.entry = some e → entryRegs args = some regs →
      PeakHyp p hooks (keptOf lines) ops mc pr (initState regs e) d0 args Pk (A * fuel + 1)) :
    ∃ pr e regs, layout lines = .ok pr ∧ pr.entry = some e ∧ entryRegs args = some regs ∧
      ∃ X0, stepN pr mc 1 (initState regs e) = .inl X0 ∧
        BChain pr mc (ChainRel mc (keptOf lines) (Program.ofOps ops) hooks p Pk (A * fuel + 1))
          (statesOf p fuel ⟨d0.ctx, args.map .int, d0.body⟩) X0 ∧
        ∀ (acc : List (Bool × Word)) (v : Word),
          (Pos.runState p fuel ⟨d0.ctx, args.map .int, d0.body⟩ acc).res = .done v →
          ∃ n XL r, stepN pr mc n X0 = .inl XL ∧ step pr mc XL = .inr r ∧ r.res = .done v ∧
            XL.maxHeapWritten ≤ mc.heapBytes := by
  have hmem : d0 ∈ p.defs := List.mem_of_mem_head? hd
  have hc0 := hcap _ Reachable.refl
  simp only at hc0
  obtain ⟨pr, ic, e, regs, X0, a, En⟩ := entry_setup p args hooks instrs hdr nargs cX d0 ops c' hsafe htp hcompM
    hcompX hnd hfitX hd hentry hlen hc0 mc htop (by omega) lines hhdr hlines hhook
  have H := En.boundaries hheap hcompM hsafe htp hfit
  have I0 := En.peakRun hcap hmem hA hbytes (hP pr e regs En.lay En.entry En.hregs 1 X0 En.steps) hfuel (Nat.le_refl _)
  refine ⟨pr, e, regs, En.lay, En.entry, En.hregs, X0, En.steps,
    bchain_of_chain (((Track.peakTrack H hA hbytes).run fuel 0 _ _ _ I0).1.mono chainRel_of_peakRun), fun acc v h => ?_⟩
  rw [Track.runState_res p fuel _ acc []] at h
  obtain ⟨n, XL, _, g1, _, r, g2, g3⟩ := Track.peak_done H hA hbytes (n := fuel) (r := 0) I0
    (Track.Behaviour.eq_of_res h)
  exact ⟨n, XL, r, g1, g2, g3,
    (stepN_mhw hheap (1 + n) (stepN_trans pr mc En.steps g1)).2 (mhwOK_init mc regs e)⟩

/-- C10 ON THE MACHINE, all programs: the run under the footprint bound -/
theorem programs_peak (p : AxCut.Prog) (args : List Word) (hooks : Bool) (instrs hdr : List Code)
    (nargs cX : Nat) (d0 : Def) (ops : List MockOp) (c' : Nat)
    (hsafe : LabelSafe p = true) (htp : LinTypedProg p)
    (hcompM : (compile mockSym hooks p).run 0 = .ok ((ops, nargs), c')) (hfit : CodeFits ops)
    {cX0 : Nat} (hcompX : (compile rvBackend hooks p).run cX0 = .ok ((instrs, nargs), cX))
    (hnd : (labs (instrs ++ [Code.LAB "cleanup"])).Nodup) (hfitX : codeBase + 4 * instrs.length < 2 ^ 64)
    (hd : p.defs.head? = some d0) (hentry : ∀ b ∈ d0.ctx, b.chi = .ext ∧ b.ty = .i64)
    (hcap : ∀ st, Reachable p ⟨d0.ctx, args.map .int, d0.body⟩ st → st.ctx.length ≤ 14)
    (fuel : Nat) (v : Word) (hfuel : fuel + 1 < 2 ^ 64)
    (hrun : (Pos.run p args fuel).res = .done v)
    (mc : MonCfg) (hheap : mc.heap = false) (htop : heapBase + mc.heapBytes ≤ 2 ^ 63)
    (Pk A : Nat) (hA : ∀ d ∈ p.defs, AllocLe A d.body) (hbytes : 64 * (Pk + A + 2) ≤ mc.heapBytes)
    (lines : List (Nat × Code)) (hhdr : ∀ c ∈ hdr, c.isComment = true)
    (hlines : (lines.map (·.2)).map stripC = (hdr ++ instrs ++ [Code.LAB "cleanup"]).map stripC)
    (hhook : ∀ x ∈ lines, ¬ badHook x.2)
    (hP : ∀ pr e regs, layout lines = .ok pr → pr.entry = some e → entryRegs args = some regs →
      PeakAtMost p hooks (keptOf lines) ops mc pr (initState regs e) Pk (A * fuel + 1)) :
    ∃ pr e regs, layout lines = .ok pr ∧ pr.entry = some e ∧ entryRegs args = some regs ∧
      ∃ X0 n XL r, stepN pr mc 1 (initState regs e) = .inl X0 ∧
        BChain pr mc
          (fun st X => BoundaryOf p hooks (keptOf lines) ops mc st X ∧
            ∃ below inUse, HeapShapeAt mc X below inUse ∧ below ≤ Pk + 1 ∧ inUse ≤ Pk)
          (statesOf p fuel ⟨d0.ctx, args.map .int, d0.body⟩) X0 ∧
        stepN pr mc n X0 = .inl XL ∧ step pr mc XL = .inr r ∧ r.res = .done v ∧
        XL.maxHeapWritten ≤ mc.heapBytes := by
  obtain ⟨hlen, hrun'⟩ := run_entry hd hrun
  obtain ⟨pr, e, regs, hlay, he, hregs, X0, h0, hch, hdone⟩ := programs_run3 p args hooks instrs hdr nargs cX d0 ops c'
    hsafe htp hcompM hfit hcompX hnd hfitX hd hentry hlen hcap fuel hfuel mc hheap htop Pk A hA hbytes lines hhdr hlines
    hhook (fun pr e regs h1 h2 h3 => peakHyp_of_peakAtMost (hP pr e regs h1 h2 h3))
  obtain ⟨n, XL, r, g1, g2, g3, hm⟩ := hdone [] v hrun'
  exact ⟨pr, e, regs, hlay, he, hregs, X0, n, XL, r, h0, bchain_shape (hP pr e regs hlay he hregs) _ X0 1 h0 hch,
    g1, g2, g3, hm⟩

/-- C09/C10 ON THE MACHINE FOR EVERY PREFIX OF EVERY RUN (terminating or not), all programs: for ANY number
`fuel` of steps of the positional machine, the machine started in its initial state passes — without fault —
through a boundary state for every state the positional machine goes through in `fuel` steps -/
theorem programs_prefix (p : AxCut.Prog) (args : List Word) (hooks : Bool) (instrs hdr : List Code)
    (nargs cX : Nat) (d0 : Def) (ops : List MockOp) (c' : Nat)
    (hsafe : LabelSafe p = true) (htp : LinTypedProg p)
    (hcompM : (compile mockSym hooks p).run 0 = .ok ((ops, nargs), c')) (hfit : CodeFits ops)
    {cX0 : Nat} (hcompX : (compile rvBackend hooks p).run cX0 = .ok ((instrs, nargs), cX))
    (hnd : (labs (instrs ++ [Code.LAB "cleanup"])).Nodup) (hfitX : codeBase + 4 * instrs.length < 2 ^ 64)
    (hd : p.defs.head? = some d0) (hentry : ∀ b ∈ d0.ctx, b.chi = .ext ∧ b.ty = .i64)
    (hlen : d0.ctx.length = args.length)
    (hcap : ∀ st, Reachable p ⟨d0.ctx, args.map .int, d0.body⟩ st → st.ctx.length ≤ 14)
    (fuel : Nat) (hfuel : fuel + 1 < 2 ^ 64)
    (mc : MonCfg) (hheap : mc.heap = false) (htop : heapBase + mc.heapBytes ≤ 2 ^ 63)
    (Pk A : Nat) (hA : ∀ d ∈ p.defs, AllocLe A d.body) (hbytes : 64 * (Pk + A + 2) ≤ mc.heapBytes)
    (lines : List (Nat × Code)) (hhdr : ∀ c ∈ hdr, c.isComment = true)
    (hlines : (lines.map (·.2)).map stripC = (hdr ++ instrs ++ [Code.LAB "cleanup"]).map stripC)
    (hhook : ∀ x ∈ lines, ¬ badHook x.2)
    (hP : ∀ pr e regs, layout lines = .ok pr → pr.entry = some e → entryRegs args = some regs →
      PeakAtMost p hooks (keptOf lines) ops mc pr (initState regs e) Pk (A * fuel + 1)) :
    ∃ pr e regs, layout lines = .ok pr ∧ pr.entry = some e ∧ entryRegs args = some regs ∧
      ∃ X0, stepN pr mc 1 (initState regs e) = .inl X0 ∧
        BChain pr mc
          (fun st X => BoundaryOf p hooks (keptOf lines) ops mc st X ∧
            ∃ below inUse, HeapShapeAt mc X below inUse ∧ below ≤ Pk + 1 ∧ inUse ≤ Pk)
          (statesOf p fuel ⟨d0.ctx, args.map .int, d0.body⟩) X0 := by
  obtain ⟨pr, e, regs, hlay, he, hregs, X0, h0, hch, _⟩ := programs_run3 p args hooks instrs hdr nargs cX d0 ops c'
    hsafe htp hcompM hfit hcompX hnd hfitX hd hentry hlen hcap fuel hfuel mc hheap htop Pk A hA hbytes lines hhdr hlines
    hhook (fun pr e regs h1 h2 h3 => peakHyp_of_peakAtMost (hP pr e regs h1 h2 h3))
  exact ⟨pr, e, regs, hlay, he, hregs, X0, h0, bchain_shape (hP pr e regs hlay he hregs) _ X0 1 h0 hch⟩

/-- the machine on parsed lines, when the lines load and the arguments fit -/
theorem runLines_eq {lines : List (Nat × Code)} {pr : RV.Program} {args : List Word} {e : Nat}
    {regs : Array (Option Word)} (hlay : layout lines = .ok pr) (he : pr.entry = some e)
    (hregs : entryRegs args = some regs) (fuel : Nat) (mc : MonCfg) :
    runLines lines args fuel mc = runLoop pr mc fuel (initState regs e) := by
  unfold runLines
  rw [hlay]
  simp only [runProgram, he, hregs]
  rfl

/-- … on the run loop: result and the highest heap address written -/
theorem programs_peak_lines (p : AxCut.Prog) (args : List Word) (hooks : Bool) (instrs hdr : List Code)
    (nargs cX : Nat) (d0 : Def) (ops : List MockOp) (c' : Nat)
    (hsafe : LabelSafe p = true) (htp : LinTypedProg p)
    (hcompM : (compile mockSym hooks p).run 0 = .ok ((ops, nargs), c')) (hfit : CodeFits ops)
    {cX0 : Nat} (hcompX : (compile rvBackend hooks p).run cX0 = .ok ((instrs, nargs), cX))
    (hnd : (labs (instrs ++ [Code.LAB "cleanup"])).Nodup) (hfitX : codeBase + 4 * instrs.length < 2 ^ 64)
    (hd : p.defs.head? = some d0) (hentry : ∀ b ∈ d0.ctx, b.chi = .ext ∧ b.ty = .i64)
    (hcap : ∀ st, Reachable p ⟨d0.ctx, args.map .int, d0.body⟩ st → st.ctx.length ≤ 14)
    (fuel : Nat) (v : Word) (hfuel : fuel + 1 < 2 ^ 64)
    (hrun : (Pos.run p args fuel).res = .done v)
    (mc : MonCfg) (hheap : mc.heap = false) (htop : heapBase + mc.heapBytes ≤ 2 ^ 63)
    (Pk A : Nat) (hA : ∀ d ∈ p.defs, AllocLe A d.body) (hbytes : 64 * (Pk + A + 2) ≤ mc.heapBytes)
    (lines : List (Nat × Code)) (hhdr : ∀ c ∈ hdr, c.isComment = true)
    (hlines : (lines.map (·.2)).map stripC = (hdr ++ instrs ++ [Code.LAB "cleanup"]).map stripC)
    (hhook : ∀ x ∈ lines, ¬ badHook x.2)
    (hP : ∀ pr e regs, layout lines = .ok pr → pr.entry = some e → entryRegs args = some regs →
      PeakAtMost p hooks (keptOf lines) ops mc pr (initState regs e) Pk (A * fuel + 1)) :
    ∃ fuel', (runLines lines args fuel' mc).res = .done v ∧
      (runLines lines args fuel' mc).maxHeapWritten ≤ mc.heapBytes := by
  obtain ⟨pr, e, regs, hlay, he, hregs, X0, n, XL, r, h0, _, g1, g2, g3, hm⟩ := programs_peak p args hooks instrs
    hdr nargs cX d0 ops c' hsafe htp hcompM hfit hcompX hnd hfitX hd hentry hcap fuel v hfuel hrun mc hheap htop
    Pk A hA hbytes lines hhdr hlines hhook hP
  refine ⟨(1 + n) + 1, ?_⟩
  rw [runLines_eq hlay he hregs]
  have hN : stepN pr mc ((1 + n) + 1) (initState regs e) = .inr r :=
    stepN_trans_inr pr mc (stepN_trans pr mc h0 g1) (by rw [stepN_one]; exact g2)
  have hrl := runLoop_stepN_inr pr mc ((1 + n) + 1) 0 hN
  rw [Nat.zero_add] at hrl
  rw [hrl]
  exact ⟨g3, by rw [step_done_mhw g2 g3]; exact hm⟩

/-- a run on the lines that ends with `done v` in a smaller heap is the same run in a larger heap -/
theorem runLines_larger_heap {mc' mc : MonCfg} (S : Sub mc' mc) (lines : List (Nat × Code)) (args : List Word)
    (f : Nat) (v : Word) (h : (runLines lines args f mc').res = .done v) :
    runLines lines args f mc = runLines lines args f mc' := by
  unfold runLines at *
  cases hlay : layout lines with
  | error e => rfl
  | ok pr =>
    rw [hlay] at h
    simp only at h ⊢
    unfold runProgram at *
    cases he : pr.entry with
    | none => rfl
    | some e =>
      cases hr : entryRegs args with
      | none => rfl
      | some regs =>
        rw [he, hr] at h
        simp only at h ⊢
        exact runLoop_larger_heap S pr f _ v h

end Scc.RV.Conc
