/-
  Scc.RV.Lemmas — register-file lemmas and one-instruction contracts of the RV64 machine (Scc/RV/Machine.lean)
  for the instruction lists emitted by the backend model (Scc/RV/Backend.lean).
-/
import Scc.RV.Machine
import Scc.RV.Backend
import Scc.AxCut.SemPos

set_option linter.unusedSimpArgs false

namespace Scc.RV

open Scc.AxCut Scc.Backend

/-- the register file has its 32 entries -/
def State.WF (s : State) : Prop := s.regs.size = registerNum

/-- a register that can be written and read back: X1 .. X31 -/
def Register.Usable (r : Register) : Prop := r.n ≠ 0 ∧ r.n < registerNum

theorem writeReg_wf {s : State} (h : s.WF) (r : Register) (v : Word) : (s.writeReg r v).WF := by
  unfold State.writeReg State.WF at *
  split <;> simp_all

theorem copyReg_wf {s : State} (h : s.WF) (x y : Register) : (s.copyReg x y).WF := by
  unfold State.copyReg State.WF at *
  split
  · exact h
  · split <;> simp_all

theorem readReg_zero (s : State) : s.readReg ZERO = .ok 0 := by
  simp [State.readReg, ZERO]

theorem readReg_writeReg_same {s : State} (h : s.WF) {r : Register} (hr : r.Usable) (v : Word) :
    (s.writeReg r v).readReg r = .ok v := by
  obtain ⟨h0, h32⟩ := hr
  unfold State.WF at h
  simp [State.readReg, State.writeReg, h0, Array.getElem?_setIfInBounds, h, h32]

theorem readReg_writeReg_other (s : State) {r r' : Register} (hne : r'.n ≠ r.n) (v : Word) :
    (s.writeReg r v).readReg r' = s.readReg r' := by
  unfold State.readReg State.writeReg
  by_cases h0 : r.n = 0
  · simp [h0]
  · by_cases h0' : r'.n = 0
    · simp [h0']
    · simp [h0, h0', Array.getElem?_setIfInBounds, Ne.symm hne]

theorem readReg_copyReg_same {s : State} (h : s.WF) {x y : Register} (hx : x.Usable) {v : Word}
    (hy : s.readReg y = .ok v) : (s.copyReg x y).readReg x = .ok v := by
  obtain ⟨h0, h32⟩ := hx
  unfold State.WF at h
  unfold State.readReg at hy
  unfold State.copyReg State.readReg
  by_cases hy0 : y.n = 0
  · simp [hy0] at hy
    simp [h0, hy0, h, h32, hy]
  · simp only [hy0, if_false] at hy
    simp only [h0, hy0, if_false]
    cases hyv : s.regs[y.n]? with
    | none => simp [hyv] at hy
    | some o =>
      cases o with
      | none => simp [hyv] at hy
      | some w =>
        simp [hyv] at hy
        simp [h, h32, hy]

theorem readReg_copyReg_other (s : State) {x y r : Register} (hne : r.n ≠ x.n) :
    (s.copyReg x y).readReg r = s.readReg r := by
  unfold State.copyReg State.readReg
  by_cases h0 : x.n = 0
  · simp [h0]
  · by_cases hr : r.n = 0
    · simp [hr]
    · by_cases hy : y.n = 0 <;> simp [h0, hr, hy, Ne.symm hne]

theorem writeReg_mem (s : State) (r : Register) (v : Word) : (s.writeReg r v).mem = s.mem := by
  unfold State.writeReg; split <;> rfl

theorem copyReg_mem (s : State) (a b : Register) : (s.copyReg a b).mem = s.mem := by
  unfold State.copyReg; split; rfl; split <;> rfl

/-- Execution of a straight-line block starting at byte address `pc`: instructions are executed
in order as long as they fall through; the first jump taken ends the block.  (This is what
`runLoop` does on consecutive items; labels and comments are skipped and have size 0.) -/
def execList (cfg : MonCfg) (la : String → Option Nat) : Nat → List Code → State →
    Except String (State × Next)
  | _, [], s => .ok (s, .fall)
  | pc, c :: cs, s =>
    match exec cfg la pc c s with
    | .error e => .error e
    | .ok (s1, .fall) => execList cfg la (if c.isInstr then pc + 4 else pc) cs s1
    | .ok (s1, n) => .ok (s1, n)

variable (cfg : MonCfg) (la : String → Option Nat) (pc : Nat)

theorem execList_singleton (c : Code) (s : State) :
    execList cfg la pc [c] s = exec cfg la pc c s := by
  unfold execList
  cases h : exec cfg la pc c s with
  | error e => rfl
  | ok r =>
    obtain ⟨s1, n⟩ := r
    cases n <;> simp [execList]

/-! ## operators (code.rs add/sub/mul/div/rem against the positional machine's `evalOp`) -/

theorem int64Min_eq : INT64_MIN = Pos.minInt := by decide

/-- Every operator, all operand values: where the AxCut machine computes `v`, the emitted
instruction writes `v` into the target and falls through. -/
theorem exec_binop (o : BinOp) (t a b : Register) (s : State) (va vb v : Word)
    (ha : s.readReg a = .ok va) (hb : s.readReg b = .ok vb) (hv : Pos.evalOp o va vb = .ok v) :
    execList cfg la pc (rvBackend.binop o t a b) s = .ok (s.writeReg t v, .fall) := by
  cases o
  case sum => simp_all [rvBackend, binop, execList, exec, arith3, Pos.evalOp]
  case sub => simp_all [rvBackend, binop, execList, exec, arith3, Pos.evalOp]
  case prod => simp_all [rvBackend, binop, execList, exec, arith3, Pos.evalOp]
  case div =>
    by_cases h0 : vb = 0#64
    · simp [Pos.evalOp, h0] at hv
    · by_cases h1 : va = Pos.minInt ∧ vb = 18446744073709551615#64
      · simp [Pos.evalOp, h0, h1] at hv
      · simp [Pos.evalOp, h0, h1] at hv
        subst hv
        simp [rvBackend, binop, execList, exec, arith3, ha, hb, divW, int64Min_eq, h0, h1]
  case rem =>
    by_cases h0 : vb = 0#64
    · simp [Pos.evalOp, h0] at hv
    · by_cases h1 : va = Pos.minInt ∧ vb = 18446744073709551615#64
      · simp [Pos.evalOp, h0, h1] at hv
      · simp [Pos.evalOp, h0, h1] at hv
        subst hv
        simp [rvBackend, binop, execList, exec, arith3, ha, hb, remW, int64Min_eq, h0, h1]

/-- … and where the AxCut machine is stuck (division by zero, MIN / -1) the machine faults. -/
theorem exec_binop_fault (o : BinOp) (t a b : Register) (s : State) (va vb : Word) (w : Pos.Why)
    (ha : s.readReg a = .ok va) (hb : s.readReg b = .ok vb) (hv : Pos.evalOp o va vb = .error w) :
    ∃ e, execList cfg la pc (rvBackend.binop o t a b) s = .error e := by
  cases o
  case sum => simp [Pos.evalOp] at hv
  case sub => simp [Pos.evalOp] at hv
  case prod => simp [Pos.evalOp] at hv
  case div =>
    by_cases h0 : vb = 0#64
    · simp [rvBackend, binop, execList, exec, arith3, ha, hb, divW, h0]
    · by_cases h1 : va = Pos.minInt ∧ vb = 18446744073709551615#64
      · simp [rvBackend, binop, execList, exec, arith3, ha, hb, divW, int64Min_eq, h0, h1]
      · simp [Pos.evalOp, h0, h1] at hv
  case rem =>
    by_cases h0 : vb = 0#64
    · simp [rvBackend, binop, execList, exec, arith3, ha, hb, remW, h0]
    · by_cases h1 : va = Pos.minInt ∧ vb = 18446744073709551615#64
      · simp [rvBackend, binop, execList, exec, arith3, ha, hb, remW, int64Min_eq, h0, h1]
      · simp [Pos.evalOp, h0, h1] at hv

/-! ## comparisons + branch (code.rs jump_label_if_* against the positional machine's `evalCmp`)

`BEQ BNE BLT BGE` are real RV64 branches; `BLE a b` and `BGT a b` are assembler pseudo-instructions
(`BGE b a`, `BLT b a`: the operands are swapped), which is how the machine executes them. -/

theorem sle_eq_not_slt (a b : Word) : a.sle b = !(b.slt a) := by
  simp only [BitVec.sle, BitVec.slt]
  by_cases h : a.toInt ≤ b.toInt
  · simp [h, Int.not_lt.mpr h]
  · simp [h, Int.not_le.mp h]

/-- two-operand form: the branch is taken iff the AxCut comparison holds -/
theorem exec_jumpLabelIf (sort : IfSort) (a b : Register) (l : String) (s : State) (va vb : Word)
    (ha : s.readReg a = .ok va) (hb : s.readReg b = .ok vb) :
    execList cfg la pc (rvBackend.jumpLabelIf sort a b l) s =
      .ok (s, if Pos.evalCmp sort va vb then .label l else .fall) := by
  cases sort <;>
    simp [rvBackend, jumpLabelIf, execList_singleton, exec, branch, ha, hb, Pos.evalCmp,
      sle_eq_not_slt] <;>
    (try (cases BitVec.slt va vb <;> rfl)) <;> (try (cases BitVec.slt vb va <;> rfl))

/-- zero form: the second operand is the hard-wired `X0` -/
theorem exec_jumpLabelIfZero (sort : IfSort) (a : Register) (l : String) (s : State) (va : Word)
    (ha : s.readReg a = .ok va) :
    execList cfg la pc (rvBackend.jumpLabelIfZero sort a l) s =
      .ok (s, if Pos.evalCmp sort va 0 then .label l else .fall) :=
  exec_jumpLabelIf cfg la pc sort a ZERO l s va 0 ha (readReg_zero s)

theorem exec_mov (t a : Register) (s : State) :
    execList cfg la pc (rvBackend.mov t a) s = .ok (s.copyReg t a, .fall) := by
  simp [rvBackend, execList, exec]

/-- `mov`: the target holds the source value afterwards, every other register is unchanged -/
theorem exec_mov_spec (t a : Register) (s : State) (hs : s.WF) (ht : t.Usable) (v : Word)
    (ha : s.readReg a = .ok v) :
    ∃ s', execList cfg la pc (rvBackend.mov t a) s = .ok (s', .fall) ∧ s'.WF ∧
      s'.readReg t = .ok v ∧ (∀ r : Register, r.n ≠ t.n → s'.readReg r = s.readReg r) ∧
      s'.mem = s.mem :=
  ⟨s.copyReg t a, exec_mov cfg la pc t a s, copyReg_wf hs t a, readReg_copyReg_same hs ht ha,
    fun _ hne => readReg_copyReg_other s hne, copyReg_mem s t a⟩

/-- `load_immediate` (`LI`): ANY 64-bit literal in one instruction, the value the AxCut machine
uses for `lit` (`BitVec.ofInt 64 n`) -/
theorem exec_loadImmediate (t : Register) (n : Int) (s : State) :
    execList cfg la pc (rvBackend.loadImmediate t n) s = .ok (s.writeReg t (BitVec.ofInt 64 n), .fall) := by
  simp [rvBackend, execList, exec, imm]

theorem exec_loadLabel (t : Register) (l : String) (a : Nat) (s : State) (hl : la l = some a) :
    execList cfg la pc (rvBackend.loadLabel t l) s = .ok (s.writeReg t (BitVec.ofNat 64 a), .fall) := by
  simp [rvBackend, execList, exec, hl]

theorem exec_jumpLabel (l : String) (s : State) :
    execList cfg la pc (rvBackend.jumpLabel l) s = .ok (s, .label l) := by
  simp [rvBackend, execList, exec, State.writeReg, ZERO]

theorem exec_jumpLabelFixed (l : String) (s : State) :
    execList cfg la pc (rvBackend.jumpLabelFixed l) s = .ok (s, .label l) := by
  simp [rvBackend, execList, exec, State.writeReg, ZERO]

/-- clearing bit 0 of an even address does nothing (`JALR` clears bit 0 of the target) -/
theorem and_not_one_of_even (n : Nat) (h : n % 2 = 0) :
    BitVec.ofNat 64 n &&& ~~~(1#64) = BitVec.ofNat 64 n := by
  apply BitVec.eq_of_getLsbD_eq
  intro i hi
  simp only [BitVec.getLsbD_and, BitVec.getLsbD_not, BitVec.getLsbD_ofNat]
  by_cases h0 : i = 0
  · subst h0
    simp [Nat.testBit_zero, h]
  · simp
    intro _ _
    refine ⟨hi, Or.inr ?_⟩
    cases i with
    | zero => contradiction
    | succ j => simp [Nat.testBit_succ]

theorem exec_jump (t : Register) (s : State) (n : Nat) (ht : s.readReg t = .ok (BitVec.ofNat 64 n))
    (heven : n % 2 = 0) :
    execList cfg la pc (rvBackend.jump t) s = .ok (s, .addr (BitVec.ofNat 64 n)) := by
  have h := and_not_one_of_even n heven
  simp [rvBackend, execList, exec, ht, State.writeReg, ZERO, imm]
  simpa using h

theorem temp_usable : TEMP.Usable := ⟨by decide, by decide⟩

theorem return1_usable : RETURN1.Usable := ⟨by decide, by decide⟩

theorem imm_natCast (n : Nat) : imm (n : Int) = BitVec.ofNat 64 n := by
  simp [imm]

theorem writeReg_zero (s : State) (v : Word) : s.writeReg ZERO v = s := by
  simp [State.writeReg, ZERO]

theorem execList_cons_fall {c : Code} {cs : List Code} {s s1 : State}
    (h : exec cfg la pc c s = .ok (s1, .fall)) :
    execList cfg la pc (c :: cs) s = execList cfg la (if c.isInstr then pc + 4 else pc) cs s1 := by
  simp [execList, h]

theorem exec_LA {x : Register} {l : String} {a : Nat} (s : State) (hl : la l = some a) :
    exec cfg la pc (.LA x l) s = .ok (s.writeReg x (BitVec.ofNat 64 a), .fall) := by
  simp [exec, hl]

theorem exec_ADD {x y z : Register} {s : State} {a b : Word} (hy : s.readReg y = .ok a)
    (hz : s.readReg z = .ok b) :
    exec cfg la pc (.ADD x y z) s = .ok (s.writeReg x (a + b), .fall) := by
  simp [exec, arith3, hy, hz]

theorem exec_ADDI {x y : Register} {s : State} {a : Word} (c : Int) (hy : s.readReg y = .ok a) :
    exec cfg la pc (.ADDI x y c) s = .ok (s.writeReg x (a + imm c), .fall) := by
  simp [exec, hy]

theorem exec_JALR_zero {y : Register} {s : State} {n : Nat} (hy : s.readReg y = .ok (BitVec.ofNat 64 n))
    (heven : n % 2 = 0) :
    exec cfg la pc (.JALR ZERO y 0) s = .ok (s, .addr (BitVec.ofNat 64 n)) := by
  have h := and_not_one_of_even n heven
  simp only [exec, hy, writeReg_zero, imm]
  simp
  simpa using h

/-- `add_and_jump` with the stride of the jump tables: from the address `A` of a table the jump
goes to `A + 4 k`, the address of the k-th entry (every entry is one 4-byte `JAL`).  Only the
scratch register `TEMP` changes. -/
theorem exec_addAndJump (t : Register) (k : Nat) (s : State) (hs : s.WF) (A : Nat)
    (ht : s.readReg t = .ok (BitVec.ofNat 64 A)) (hA : A % 2 = 0) :
    ∃ s', execList cfg la pc (rvBackend.addAndJump t (rvBackend.jumpLength k)) s =
        .ok (s', .addr (BitVec.ofNat 64 (A + 4 * k))) ∧
      (∀ r : Register, r.n ≠ TEMP.n → s'.readReg r = s.readReg r) ∧ s'.mem = s.mem := by
  have hk : jumpLength k = ((4 * k : Nat) : Int) := by simp [jumpLength]
  have hsum : BitVec.ofNat 64 A + imm (jumpLength k) = BitVec.ofNat 64 (A + 4 * k) := by
    rw [hk, imm_natCast]; simp [BitVec.ofNat_add]
  have heven : (A + 4 * k) % 2 = 0 := by omega
  refine ⟨s.writeReg TEMP (BitVec.ofNat 64 (A + 4 * k)), ?_, ?_, writeReg_mem _ _ _⟩
  · have hr := readReg_writeReg_same hs temp_usable (BitVec.ofNat 64 (A + 4 * k))
    show execList cfg la pc [.ADDI TEMP t (jumpLength k), .JALR ZERO TEMP 0] s = _
    rw [execList_cons_fall cfg la pc (exec_ADDI cfg la pc _ ht), hsum, execList_singleton,
      exec_JALR_zero cfg la _ hr heven]
  · intro r hne
    exact readReg_writeReg_other s hne _

/-- the dispatch of `switch`: `LA TEMP table; ADD TEMP TEMP tag; JALR X0 TEMP 0` with the tag
`jump_length k` that `let` put into the second temporary goes to the k-th table entry -/
theorem exec_switch_dispatch (tag : Register) (L : String) (A k : Nat) (s : State) (hs : s.WF)
    (hl : la L = some A) (hA : A % 2 = 0) (htag : tag.n ≠ TEMP.n)
    (hv : s.readReg tag = .ok (BitVec.ofInt 64 (rvBackend.jumpLength k))) :
    ∃ s', execList cfg la pc (rvBackend.loadLabel rvBackend.temp L ++
          rvBackend.binop .sum rvBackend.temp rvBackend.temp tag ++ rvBackend.jump rvBackend.temp) s =
        .ok (s', .addr (BitVec.ofNat 64 (A + 4 * k))) ∧
      (∀ r : Register, r.n ≠ TEMP.n → s'.readReg r = s.readReg r) ∧ s'.mem = s.mem := by
  have hk : BitVec.ofInt 64 (jumpLength k) = BitVec.ofNat 64 (4 * k) := by
    rw [show jumpLength k = ((4 * k : Nat) : Int) by simp [jumpLength], BitVec.ofInt_natCast]
  have hsum : BitVec.ofNat 64 A + BitVec.ofNat 64 (4 * k) = BitVec.ofNat 64 (A + 4 * k) := by
    simp [BitVec.ofNat_add]
  have heven : (A + 4 * k) % 2 = 0 := by omega
  have hs1 : (s.writeReg TEMP (BitVec.ofNat 64 A)).WF := writeReg_wf hs _ _
  have hr1 : (s.writeReg TEMP (BitVec.ofNat 64 A)).readReg TEMP = .ok (BitVec.ofNat 64 A) :=
    readReg_writeReg_same hs temp_usable _
  have ht1 : (s.writeReg TEMP (BitVec.ofNat 64 A)).readReg tag = .ok (BitVec.ofNat 64 (4 * k)) := by
    rw [readReg_writeReg_other s htag, hv]
    show Except.ok (BitVec.ofInt 64 (jumpLength k)) = _
    rw [hk]
  have hr2 := readReg_writeReg_same hs1 temp_usable (BitVec.ofNat 64 (A + 4 * k))
  refine ⟨(s.writeReg TEMP (BitVec.ofNat 64 A)).writeReg TEMP (BitVec.ofNat 64 (A + 4 * k)),
    ?_, ?_, ?_⟩
  · show execList cfg la pc [.LA TEMP L, .ADD TEMP TEMP tag, .JALR ZERO TEMP 0] s = _
    rw [execList_cons_fall cfg la pc (exec_LA cfg la pc s hl),
      execList_cons_fall cfg la _ (exec_ADD cfg la _ hr1 ht1), hsum, execList_singleton,
      exec_JALR_zero cfg la _ hr2 heven]
  · intro r hne
    rw [readReg_writeReg_other _ hne, readReg_writeReg_other _ hne]
  · rw [writeReg_mem, writeReg_mem]

/-! ## parallel moves through `TEMP` (parallel_moves.rs) -/

theorem exec_storeTemporary (t : Register) (spill : Bool) (s : State) :
    execList cfg la pc (rvBackend.storeTemporary t spill) s = .ok (s.copyReg TEMP t, .fall) := by
  simp [rvBackend, execList, exec]

theorem exec_restoreTemporary (t : Register) (spill : Bool) (s : State) :
    execList cfg la pc (rvBackend.restoreTemporary t spill) s = .ok (s.copyReg t TEMP, .fall) := by
  simp [rvBackend, execList, exec]

/-- The code of a two-cycle `x ↦ y, y ↦ x` as `root_moves` emits it (save `y` in `TEMP`, move
`x` to `y`, restore `TEMP` into `x`) exchanges the two registers and changes nothing else but
`TEMP`. -/
theorem exec_swap_through_temp (x y : Register) (spill : Bool) (s : State) (hs : s.WF)
    (hx : x.Usable) (hy : y.Usable) (hxy : x.n ≠ y.n) (hxt : x.n ≠ TEMP.n) (hyt : y.n ≠ TEMP.n)
    (vx vy : Word) (hvx : s.readReg x = .ok vx) (hvy : s.readReg y = .ok vy) :
    ∃ s', execList cfg la pc (rvBackend.storeTemporary y spill ++ rvBackend.mov y x ++
          rvBackend.restoreTemporary x spill) s = .ok (s', .fall) ∧
      s'.readReg x = .ok vy ∧ s'.readReg y = .ok vx ∧
      (∀ r : Register, r.n ≠ x.n → r.n ≠ y.n → r.n ≠ TEMP.n → s'.readReg r = s.readReg r) ∧
      s'.mem = s.mem := by
  let s1 := s.copyReg TEMP y
  let s2 := s1.copyReg y x
  let s3 := s2.copyReg x TEMP
  have hs1 : s1.WF := copyReg_wf hs _ _
  have hs2 : s2.WF := copyReg_wf hs1 _ _
  have h1t : s1.readReg TEMP = .ok vy := readReg_copyReg_same hs temp_usable hvy
  have h1x : s1.readReg x = .ok vx := by rw [readReg_copyReg_other s hxt]; exact hvx
  have h2y : s2.readReg y = .ok vx := readReg_copyReg_same hs1 hy h1x
  have h2t : s2.readReg TEMP = .ok vy := by
    rw [readReg_copyReg_other s1 (Ne.symm hyt)]; exact h1t
  have h3x : s3.readReg x = .ok vy := readReg_copyReg_same hs2 hx h2t
  have h3y : s3.readReg y = .ok vx := by
    rw [readReg_copyReg_other s2 (Ne.symm hxy)]; exact h2y
  refine ⟨s3, ?_, h3x, h3y, ?_, ?_⟩
  · simp [rvBackend, execList, exec, s3, s2, s1]
  · intro r h1 h2 h3
    simp only [s3, s2, s1]
    rw [readReg_copyReg_other _ h1, readReg_copyReg_other _ h2, readReg_copyReg_other _ h3]
  · simp only [s3, s2, s1, copyReg_mem]

/-! ## exit (statements/exit.rs): `MV X10 t; JAL X0 cleanup`

`RETURN1 = X10` is ALSO the first temporary of the variable at position 3 (and `X11`, the second
temporary of that position, may be the operand `t`): the contract holds for EVERY operand
register, because the move into `X10` is the last thing the program does. -/
theorem exec_exit (t : Register) (s : State) (hs : s.WF) (v : Word) (ht : s.readReg t = .ok v) :
    ∃ s', execList cfg la pc (rvBackend.mov rvBackend.return1 t ++ rvBackend.jumpLabel "cleanup") s =
        .ok (s', .label "cleanup") ∧ s'.readReg RETURN1 = .ok v := by
  refine ⟨s.copyReg RETURN1 t, ?_, readReg_copyReg_same hs return1_usable ht⟩
  simp [rvBackend, execList, exec, State.writeReg, ZERO]

/-! ## capacity (utils.rs): 14 variables -/

theorem getPosition_go_ge (context : Ctx) (id i p : Nat) (h : getPosition.go id context i = some p) :
    i ≤ p := by
  induction context generalizing i with
  | nil => simp [getPosition.go] at h
  | cons b bs ih =>
    simp only [getPosition.go] at h
    split at h
    · injection h with h; omega
    · have := ih (i + 1) h; omega

theorem TempNum.toNat_le_one (number : TempNum) : number.toNat ≤ 1 := by
  cases number <;> simp [TempNum.toNat]

/-- `positionRegister` succeeds iff the position is at most 13, and then yields `X(2 pos + number + 4)` -/
theorem positionRegister_ok_iff (number : TempNum) (pos c : Nat) (r : Register) :
    (positionRegister number pos).run c = .ok (r, c) ↔
      pos ≤ 13 ∧ r = ⟨2 * pos + number.toNat + reserved⟩ := by
  have hn := TempNum.toNat_le_one number
  unfold positionRegister
  simp only [reserved, registerNum]
  by_cases h : 2 * pos + number.toNat + 4 < 32
  · simp only [h, if_true]
    show Except.ok ((⟨2 * pos + number.toNat + 4⟩ : Register), c) = Except.ok (r, c) ↔ _
    constructor
    · intro he
      injection he with he
      injection he with he _
      exact ⟨by omega, he.symm⟩
    · rintro ⟨_, rfl⟩; rfl
  · simp only [h, if_false]
    show (Except.error "Out of registers" : Except String (Register × Nat)) = Except.ok (r, c) ↔ _
    constructor
    · intro he; cases he
    · rintro ⟨hp, _⟩; omega

/-- `positionRegister` either succeeds or panics with "Out of registers" -/
theorem positionRegister_error_iff (number : TempNum) (pos c : Nat) :
    (positionRegister number pos).run c = .error "Out of registers" ↔ 14 ≤ pos := by
  have hn := TempNum.toNat_le_one number
  unfold positionRegister
  simp only [reserved, registerNum]
  by_cases h : 2 * pos + number.toNat + 4 < 32
  · simp only [h, if_true]
    show Except.ok ((⟨2 * pos + number.toNat + 4⟩ : Register), c) = Except.error _ ↔ _
    constructor
    · intro he; cases he
    · intro; omega
  · simp only [h, if_false]
    show (Except.error "Out of registers" : Except String (Register × Nat)) = Except.error _ ↔ _
    constructor
    · intro _; omega
    · intro _; rfl

end Scc.RV
