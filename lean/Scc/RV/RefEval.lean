/-
  Scc.RV.RefEval — EVALUATING the RV64 code generator in the kernel.  `store_fields` / `load_fields`
  (Scc/RV/Backend.lean) are defined by well-founded recursion (on the length of the context), which neither
  `rfl` nor `decide` can unfold.  Here: structurally recursive clones with fuel (`storeFieldsF`,
  `loadFieldsF`), proved EQUAL to the originals (`storeF_eq`, `loadF_eq`), and the backend record with the
  clones (`rvBackendF = rvBackend`).  So `compile rvBackend hooks p` can be computed by `rfl` / `decide` as
  `compile rvBackendF hooks p` (used by the non-vacuity examples of Props/C08RVHeap.lean).
-/
import Scc.RV.MemProofsLoad

namespace Scc.RV

open Scc.AxCut Scc.Backend

/-- `store_fields` with fuel (structural recursion) -/
def storeFieldsF : Nat → Ctx → Ctx → BlockPosition → GenM (List Code)
  | 0, _, _, _ => throw "storeFieldsF: out of fuel"
  | n + 1, toStore, remainingContext, blockPosition =>
    if toStore.isEmpty then
      if blockPosition == .last then do
        let t ← freshTemporary .fst remainingContext
        pure [.COMMENT "#mark no allocation", .MV t ZERO]
      else pure []
    else do
      let remainingPlusToStore := remainingContext ++ toStore
      let c1 ← if blockPosition == .other then do
          let c ← storeField .fst remainingPlusToStore HEAP (fieldsPerBlock - 1)
          pure [.COMMENT "##store link to previous block", c]
        else pure []
      let rl := restLength toStore.length blockPosition
      let toStoreNext := toStore.drop rl
      let toStore' := toStore.take rl
      let remainingPlusRest := remainingContext ++ toStore'
      let c2 : List Code := if blockPosition == .last then [.COMMENT "#allocate memory"] else []
      let c3 ← storeValues toStoreNext remainingPlusRest HEAP (fieldsPerBlock - blockPosition.toNat)
      let nb ← freshTemporary .fst remainingPlusRest
      let at' ← freshTemporary .snd remainingPlusRest
      let c4 ← acquireBlock nb at'
      let c5 ← storeFieldsF n toStore' remainingContext .other
      pure (c1 ++ c2 ++ c3 ++ [.COMMENT "##acquire free block from heap register"] ++ c4 ++ c5)

theorem storeFieldsF_eq : ∀ (n : Nat) (toStore rem : Ctx) (pos : BlockPosition), toStore.length < n →
    storeFieldsF n toStore rem pos = storeFields toStore rem pos
  | 0, _, _, _, h => by omega
  | n + 1, toStore, rem, pos, h => by
    rw [storeFields, storeFieldsF]
    by_cases he : toStore.isEmpty = true
    · simp only [he, if_true, dite_true]
    · have he' : toStore.isEmpty = false := by simpa using he
      simp only [he', Bool.false_eq_true, if_false, dite_false]
      have hpos : 0 < toStore.length := by
        cases toStore with
        | nil => simp at he'
        | cons _ _ => simp
      have hlt := restLength_lt toStore.length pos hpos
      have ih := storeFieldsF_eq n (toStore.take (restLength toStore.length pos)) rem .other
        (by simp [List.length_take]; omega)
      rw [ih]

def storeF (toStore remainingContext : Ctx) : GenM (List Code) :=
  storeFieldsF (toStore.length + 1) toStore remainingContext .last

theorem storeF_eq : storeF = store := by
  funext a b
  exact storeFieldsF_eq _ a b .last (Nat.lt_succ_self _)

/-- `load_fields` with fuel (structural recursion) -/
def loadFieldsF : Nat → Ctx → Ctx → BlockPosition → LoadMode → GenM (List Code)
  | 0, _, _, _, _ => throw "loadFieldsF: out of fuel"
  | n + 1, toLoad, existingContext, blockPosition, loadMode =>
    if toLoad.isEmpty then pure []
    else do
      let existingPlusToLoad := existingContext ++ toLoad
      let rl := restLength toLoad.length blockPosition
      let toLoadNext := toLoad.drop rl
      let toLoad' := toLoad.take rl
      let existingPlusRest := existingContext ++ toLoad'
      let c1 ← loadFieldsF n toLoad' existingContext .other loadMode
      let memoryBlock ← freshTemporary .fst existingPlusRest
      let c2 : List Code :=
        if loadMode == .release then .COMMENT "###release block" :: releaseBlock memoryBlock else []
      let c3 ← if blockPosition == .other then do
          let c ← loadField .fst existingPlusToLoad memoryBlock (fieldsPerBlock - 1)
          pure [.COMMENT "###load link to next block", c]
        else pure []
      let c4 ← loadValues toLoadNext existingPlusRest memoryBlock
        (fieldsPerBlock - blockPosition.toNat) loadMode
      pure (c1 ++ c2 ++ c3 ++ c4)

theorem loadFieldsF_eq : ∀ (n : Nat) (toLoad ex : Ctx) (pos : BlockPosition) (mode : LoadMode),
    toLoad.length < n → loadFieldsF n toLoad ex pos mode = loadFields toLoad ex pos mode
  | 0, _, _, _, _, h => by omega
  | n + 1, toLoad, ex, pos, mode, h => by
    rw [loadFields, loadFieldsF]
    by_cases he : toLoad.isEmpty = true
    · simp only [he, if_true, dite_true]
    · have he' : toLoad.isEmpty = false := by simpa using he
      simp only [he', Bool.false_eq_true, if_false, dite_false]
      have hpos : 0 < toLoad.length := by
        cases toLoad with
        | nil => simp at he'
        | cons _ _ => simp
      have hlt := restLength_lt toLoad.length pos hpos
      have ih := loadFieldsF_eq n (toLoad.take (restLength toLoad.length pos)) ex .other mode
        (by simp [List.length_take]; omega)
      rw [ih]

def loadF (toLoad existingContext : Ctx) : GenM (List Code) :=
  if toLoad.isEmpty then pure []
  else do
    let memoryBlock ← freshTemporary .fst existingContext
    let c0 : List Code :=
      [.COMMENT "#load from memory", .LW TEMP memoryBlock referenceCountOffset]
    let c1 ← loadFieldsF (toLoad.length + 1) toLoad existingContext .last .release
    let thenBranch : List Code :=
      .COMMENT "##... or release blocks onto linear free list when loading" :: c1
    let c2 ← loadFieldsF (toLoad.length + 1) toLoad existingContext .last .share
    let elseBranch : List Code :=
      [.COMMENT "##either decrement refcount and share children...",
       .ADDI TEMP TEMP (-1), .SW TEMP memoryBlock referenceCountOffset] ++ c2
    let c3 ← ifZeroThenElse TEMP thenBranch elseBranch
    pure (c0 ++ [.COMMENT "##check refcount"] ++ c3)

theorem loadF_eq : loadF = load := by
  funext a b
  unfold loadF load
  rw [loadFieldsF_eq _ a b .last .release (Nat.lt_succ_self _),
    loadFieldsF_eq _ a b .last .share (Nat.lt_succ_self _)]

def rvBackendF : Scc.Backend.Backend Code Register := { rvBackend with store := storeF, load := loadF }

theorem rvBackendF_eq : rvBackendF = rvBackend := by
  unfold rvBackendF
  rw [storeF_eq, loadF_eq]
  rfl

end Scc.RV
