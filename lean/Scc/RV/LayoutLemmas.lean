/-
  Scc.RV.LayoutLemmas — proof file: facts about the code layout of the RV64 machine
  (Scc/RV/Machine.lean `layoutStep`, `layoutLoop`, `layout`): items are only appended, every
  instruction advances the address by 4, and therefore the entries of a jump table (a label
  followed by `JAL X0 …` instructions) are at `address(label) + 4 k`.  Used by Scc/Props/C14RV.lean.
-/
import Scc.RV.Machine

namespace Scc.RV

/-- what layout records about a line: code and address -/
def Item.view (it : Item) : Code × Nat := (it.code, it.addr)

theorem layoutStep_instr (st : LayoutSt) (n : Nat) (c : Code) (hc : c.isInstr = true) :
    layoutStep st (n, c) = .ok { st with
      items := st.items.push ⟨n, c, st.addr, none⟩
      addrIdx := st.addrIdx.insert st.addr (st.pendingLabel.getD st.items.size)
      addr := st.addr + 4
      pendingLabel := none } := by
  cases c <;> simp [layoutStep, Code.isInstr] at hc ⊢

theorem layoutStep_label (st : LayoutSt) (n : Nat) (L : String) :
    ∃ stL, layoutStep st (n, .LAB L) = .ok stL ∧
      stL.items = st.items.push ⟨n, .LAB L, st.addr, none⟩ ∧ stL.addr = st.addr :=
  ⟨_, rfl, rfl, rfl⟩

/-- a layout step only appends items -/
theorem layoutStep_items {st st' : LayoutSt} {lc : Nat × Code} (h : layoutStep st lc = .ok st') :
    st.items.size ≤ st'.items.size ∧ ∀ i, i < st.items.size → st'.items[i]? = st.items[i]? := by
  obtain ⟨n, c⟩ := lc
  by_cases hc : c.isInstr = true
  · rw [layoutStep_instr st n c hc] at h
    injection h with h
    subst h
    refine ⟨by simp, ?_⟩
    intro i hi
    simp [Array.getElem?_push, Nat.ne_of_lt hi]
  · cases c <;> simp [Code.isInstr] at hc
    case LAB l =>
      simp only [layoutStep] at h
      injection h with h
      subst h
      refine ⟨by simp, ?_⟩
      intro i hi
      simp [Array.getElem?_push, Nat.ne_of_lt hi]
    case COMMENT msg =>
      simp only [layoutStep] at h
      split at h
      · injection h with h; subst h; exact ⟨Nat.le_refl _, fun _ _ => rfl⟩
      · cases h
      · injection h with h
        subst h
        refine ⟨by simp, ?_⟩
        intro i hi
        simp [Array.getElem?_push, Nat.ne_of_lt hi]

theorem layoutLoop_items {lines : List (Nat × Code)} : ∀ {st st' : LayoutSt},
    layoutLoop st lines = .ok st' →
    st.items.size ≤ st'.items.size ∧ ∀ i, i < st.items.size → st'.items[i]? = st.items[i]? := by
  induction lines with
  | nil =>
    intro st st' h
    simp only [layoutLoop] at h
    injection h with h; subst h
    exact ⟨Nat.le_refl _, fun _ _ => rfl⟩
  | cons lc rest ih =>
    intro st st' h
    simp only [layoutLoop] at h
    split at h
    · cases h
    · rename_i st1 h1
      have ⟨hs1, hi1⟩ := layoutStep_items h1
      have ⟨hs2, hi2⟩ := ih h
      refine ⟨Nat.le_trans hs1 hs2, ?_⟩
      intro i hi
      rw [hi2 i (Nat.lt_of_lt_of_le hi hs1), hi1 i hi]

theorem layoutLoop_append (a b : List (Nat × Code)) : ∀ (st : LayoutSt),
    layoutLoop st (a ++ b) =
      match layoutLoop st a with
      | .error e => .error e
      | .ok st1 => layoutLoop st1 b := by
  induction a with
  | nil => intro st; simp [layoutLoop]
  | cons lc rest ih =>
    intro st
    simp only [List.cons_append, layoutLoop]
    cases h : layoutStep st lc with
    | error e => rfl
    | ok st1 => simp [ih st1]

/-- a run of `JAL X0 …` lines is laid out at consecutive addresses, 4 bytes apart -/
theorem layoutLoop_jals (es : List (Nat × String)) : ∀ (st : LayoutSt),
    ∃ st', layoutLoop st (es.map fun e => (e.1, Code.JAL ZERO e.2)) = .ok st' ∧
      st'.items.size = st.items.size + es.length ∧
      ∀ k (hk : k < es.length),
        (st'.items[st.items.size + k]?).map Item.view = some (.JAL ZERO es[k].2, st.addr + 4 * k) := by
  induction es with
  | nil => intro st; exact ⟨st, by simp [layoutLoop], by simp, by intro k hk; simp at hk⟩
  | cons e rest ih =>
    intro st
    have hstep := layoutStep_instr st e.1 (.JAL ZERO e.2) rfl
    obtain ⟨st', hl, hsz, hk'⟩ := ih { st with
      items := st.items.push ⟨e.1, .JAL ZERO e.2, st.addr, none⟩
      addrIdx := st.addrIdx.insert st.addr (st.pendingLabel.getD st.items.size)
      addr := st.addr + 4
      pendingLabel := none }
    refine ⟨st', ?_, ?_, ?_⟩
    · simp only [List.map_cons, layoutLoop, hstep]
      exact hl
    · simp only [Array.size_push] at hsz
      simp only [List.length_cons]
      omega
    · intro k hk
      cases k with
      | zero =>
        have ⟨_, hmono⟩ := layoutLoop_items hl
        have := hmono st.items.size (by simp)
        simp only [Nat.add_zero, List.getElem_cons_zero, Nat.mul_zero]
        rw [this]
        simp [Item.view]
      | succ j =>
        have hj : j < rest.length := by simpa using hk
        have := hk' j hj
        simp only [Array.size_push] at this
        simp only [List.getElem_cons_succ]
        rw [show st.items.size + (j + 1) = st.items.size + 1 + j by omega,
          show st.addr + 4 * (j + 1) = st.addr + 4 + 4 * j by omega]
        exact this

/-- C14-T1 on the machine's layout: in the laid-out program, the k-th `JAL` directly after a table
label `L` is at `address(L) + 4 k`.  (`i` = item index of the label, `A` = its address.) -/
theorem layout_table_stride (pre post : List (Nat × Code)) (n0 : Nat) (L : String)
    (es : List (Nat × String)) (p : Program)
    (h : layout (pre ++ ((n0, Code.LAB L) :: es.map fun e => (e.1, Code.JAL ZERO e.2)) ++ post) = .ok p) :
    ∃ i A, (p.items[i]?).map Item.view = some (.LAB L, A) ∧
      ∀ k (hk : k < es.length),
        (p.items[i + 1 + k]?).map Item.view = some (.JAL ZERO es[k].2, A + 4 * k) := by
  unfold layout at h
  split at h
  · cases h
  · rename_i st hloop
    injection h with h
    subst h
    simp only
    rw [List.append_assoc, layoutLoop_append] at hloop
    split at hloop
    · cases hloop
    · rename_i st1 hpre
      obtain ⟨stL, hL, hitems, haddr⟩ := layoutStep_label st1 n0 L
      rw [List.cons_append, layoutLoop, hL] at hloop
      simp only at hloop
      rw [layoutLoop_append] at hloop
      obtain ⟨st2, hjals, hsz2, hk2⟩ := layoutLoop_jals es stL
      rw [hjals] at hloop
      simp only at hloop
      have ⟨hsz3, hmono3⟩ := layoutLoop_items hloop
      have ⟨_, hmono2⟩ := layoutLoop_items hjals
      rw [hitems] at hsz2 hk2 hmono2
      rw [haddr] at hk2
      simp only [Array.size_push] at hsz2 hk2 hmono2
      refine ⟨st1.items.size, st1.addr, ?_, ?_⟩
      · rw [hmono3 _ (by omega), hmono2 _ (by omega)]
        simp [Item.view]
      · intro k hk
        rw [hmono3 _ (by omega)]
        exact hk2 k hk

end Scc.RV
