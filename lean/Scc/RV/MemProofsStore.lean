/-
  Scc.RV.MemProofsStore — the contract of `store` (memory.rs Memory::store) for the RV64 backend against
  `Scc.Heap.storeObj`, for objects of ANY number of fields (one block or a chain of linked blocks):
  `store_field` and `store_zero` on the view against the model's `wr` (`m_storeFieldCode`, `m_storeZero`),
  the contracts of the leaves of `store` as a `Scc.Mem.StoreSpec` over the view machine (`memSpec`), and
  `store_contract` on the machine from the backend-independent `Scc.Mem.StoreSpec.storeFields_does`.

  Environment (`FieldAt`, `EnvFields`; `envFields_slots` says that it is `Scc.Mem.EnvFields`): the variable
  at context position `i` lives in the registers `posReg (2 i)` (pointer part, only for non-`ext`
  variables) and `posReg (2 i + 1)` (word part) — utils.rs: register `2 * position + number + RESERVED`;
  positions 0..13 (there are no spills on RV64).
-/
import Scc.RV.MemProofsHeap
import Scc.RV.MemCode
import Scc.Mem.Store

namespace Scc.RV

open Scc.AxCut
open Scc.Backend (GenM TempNum freshLabel)

theorem posReg_ne_low (n : Nat) : posReg n ≠ 1 ∧ posReg n ≠ 2 ∧ posReg n ≠ 3 ∧ posReg n ≠ 0 := by
  unfold posReg; omega

section Prim
variable {cfg : MonCfg} {μ : MState} {h h' : Scc.Heap.HState}

/-- `[blk + off] := t` is the model's `wr` -/
theorem m_storeFieldCode (C : CfgOK cfg) (H : HRelM cfg μ h) {t : Register} {v : Word}
    (hv : μ.rd t = some v) {blk : Register} {b : Word} (hvb : μ.rd blk = some b) {off : Nat}
    (hwr : Scc.Heap.wr h (b.toNat + off) v.toNat = .ok h') :
    ∃ μ', mFwd cfg [.SW t blk (off : Int)] μ = some (μ', .fall) ∧ HRelM cfg μ' h' ∧ μ'.val = μ.val := by
  obtain ⟨hok, rfl⟩ := wr_eq_ok.1 hwr
  have ha := haddr_ok C H hok
  refine ⟨μ.setH (b.toNat + off) v, ?_, H.setH _ _, rfl⟩
  simp [mFwd_cons, mFwd_nil, mcont, mexecC, mexec, hv, hvb, ha]

/-- `store_zero`: `[blk + fst off] := 0` -/
theorem m_storeZero (C : CfgOK cfg) (H : HRelM cfg μ h) {blk : Register} {b : Word}
    (hvb : μ.rd blk = some b) {off : Nat}
    (hwr : Scc.Heap.wr h (b.toNat + Scc.Heap.fstOff off) 0 = .ok h') :
    ∃ μ', mFwd cfg (storeZero blk off) μ = some (μ', .fall) ∧ HRelM cfg μ' h' ∧ μ'.val = μ.val := by
  unfold storeZero
  rw [fieldOffset_fst]
  exact m_storeFieldCode C H (t := ZERO) (v := 0) (μ.rd_zero) hvb hwr

end Prim

/-- the variable `b` at context position `n` holds the model field `f`: an `ext` variable an integer
(word part), any other variable a pointer part and a word part -/
def FieldAt (μ : MState) (n : Nat) (b : Binding) (f : Scc.Heap.Field) : Prop :=
  if (b.chi == .ext) = true then ∃ w : Word, f = .int w.toNat ∧ μ.val (posReg (2 * n + 1)) = some w
  else ∃ p w : Word, f = .ptr p.toNat w.toNat ∧ μ.val (posReg (2 * n)) = some p ∧
    μ.val (posReg (2 * n + 1)) = some w

/-- the variables `Γ` at positions `n, n+1, …` hold the fields `fs` -/
def EnvFields (μ : MState) : Nat → Ctx → List Scc.Heap.Field → Prop
  | _, [], [] => True
  | n, b :: bs, f :: fs => FieldAt μ n b f ∧ EnvFields μ (n + 1) bs fs
  | _, _, _ => False

theorem envFields_slots {μ : MState} : ∀ {n : Nat} {Γ : Ctx} {fs : List Scc.Heap.Field},
    EnvFields μ n Γ fs ↔ Scc.Mem.EnvFields (fun m => μ.val (posReg m)) n Γ fs
  | _, [], [] => Iff.rfl
  | _, [], _ :: _ => Iff.rfl
  | _, _ :: _, [] => Iff.rfl
  | _, _ :: _, _ :: _ => and_congr Iff.rfl envFields_slots

theorem EnvFields.append {μ : MState} : ∀ {n : Nat} {Γ1 Γ2 : Ctx} {f1 f2 : List Scc.Heap.Field},
    EnvFields μ n Γ1 f1 → EnvFields μ (n + Γ1.length) Γ2 f2 → EnvFields μ n (Γ1 ++ Γ2) (f1 ++ f2) :=
  fun h1 h2 => envFields_slots.2 ((envFields_slots.1 h1).append (envFields_slots.1 h2))

theorem noLab_storeZero (blk : Register) (off : Nat) : NoLab (storeZero blk off) := by
  intro l; simp [storeZero]

theorem posTemp_rd {μ : MState} {n : Nat} (h : n < 28) : μ.rd (posTemp n) = μ.val (posReg n) :=
  MState.rd_of (by simp [posReg]) (by simp [posReg]; omega)

/-- the registers of the stored positions: what `store_fields` may change besides TEMP, HEAP, FREE -/
def StoredReg (base len : Nat) (u : Nat) : Prop :=
  ∃ j, j ≤ len - 1 ∧ (u = posReg (2 * (base + j)) ∨ u = posReg (2 * (base + j) + 1))

/-- the environment as the MACHINE holds it (the view of the machine state) -/
def EnvFieldsM (st : State) (n : Nat) (Γ : Ctx) (fs : List Scc.Heap.Field) : Prop :=
  EnvFields (mview st) n Γ fs

/-- the contracts of the leaves of `store`: no bound on the offsets; `acquire_block` also changes its
additional temporary -/
def memSpec {cfg : MonCfg} (C : CfgOK cfg) : Scc.Mem.StoreSpec (memView cfg) Mem.memCode where
  reg := fun r => r.n
  scratch := fun u => u = 1
  freeT := 3
  clob := fun m u => u = posReg m ∨ u = posReg (m + 1)
  runs_comment := mFwd_comment cfg
  reg_keep := fun hr e => by have h1 : 2 ≤ _ := hr.1; have : _ = 1 := e; omega
  pos_keep := fun _ e => by have : posReg _ = 1 := e; unfold posReg at this; omega
  pos_ne_heap := fun _ e => by have : posReg _ = 2 := e; unfold posReg at this; omega
  pos_ne_free := fun _ e => by have : posReg _ = 3 := e; unfold posReg at this; omega
  clob_self := fun _ => Or.inl rfl
  clob_pos := fun h _ e => by
    have e : posReg _ = posReg _ ∨ posReg _ = posReg _ := e
    simp only [posReg] at e; omega
  rel_heap := fun H => H.heap
  stF_does := fun {μ s s' m v r b num off} H hm hv hr hvb _ hwr => by
    have hm : m < 28 := hm
    obtain ⟨μ', x, H', F⟩ := m_storeFieldCode C H (t := posTemp m) ((posTemp_rd hm).trans hv)
      (blk := r) ((MState.rd_of (Nat.le_of_succ_le hr.1) hr.2).trans hvb) hwr
    rw [← fieldOffset_nat] at x
    exact ⟨μ', x, H', fun u _ => congrFun F u, trivial⟩
  stZ_does := fun {μ s s' r b off} H hr hvb _ hwr => by
    obtain ⟨μ', x, H', F⟩ := m_storeZero C H (blk := r) ((MState.rd_of (Nat.le_of_succ_le hr.1) hr.2).trans hvb) hwr
    exact ⟨μ', x, H', fun u _ => congrFun F u, trivial⟩
  acq_does := fun {μ s s' m new} k H hm hop => by
    have hm : m + 1 < 28 := hm
    obtain ⟨code, hr, -, μ', x, H', hw, F⟩ := m_acquire C H (nb := posTemp m) (at' := posTemp (m + 1))
      (by simp [posTemp, posReg]) (by simp [posTemp, posReg]; omega) (by simp [posTemp, posReg])
      (by simp [posTemp, posReg]; omega) (by simp [posTemp, posReg]) hop k
    rw [Mem.acquireBlock_run] at hr
    cases hr
    exact ⟨μ', x, H', fun u hu => F u (fun e => hu.2.2.2 (Or.inl e)) (fun e => hu.2.2.2 (Or.inr e)) hu.1 hu.2.1 hu.2.2.1,
      hw⟩
  zero_does := fun {μ s m} H hm => by
    have hm : m < 28 := hm
    have hle : 1 ≤ posReg m := by unfold posReg; omega
    have hlt : posReg m < 32 := by unfold posReg; omega
    refine ⟨μ.setT (posReg m) (some 0#64), ?_, H.setT (by unfold posReg; omega) (by unfold posReg; omega) _,
      fun u hu => if_neg hu.2, if_pos rfl⟩
    show mFwd cfg [.MV (posTemp m) ZERO] μ = _
    simp [mFwd_cons, mFwd_nil, mcont, mexecC, mexec, hle, hlt, MState.rd, posTemp]

theorem envFields_iff {cfg : MonCfg} (C : CfgOK cfg) {μ : MState} {n : Nat} {Γ : Ctx} {fs : List Scc.Heap.Field} :
    EnvFields μ n Γ fs ↔ Scc.Mem.EnvFields ((memSpec C).slot μ) n Γ fs := envFields_slots

theorem memCode_counts : Mem.memCode.Counts (fun a b code => a ≤ b ∧ Scc.Mem.LabsIn Code.LAB code a b) :=
  Scc.Mem.StoreCode.counts_labsIn (fun _ _ h => by cases h) (fun _ _ _ _ l h => by cases List.mem_singleton.1 h)
    (fun r off => noLab_iff.1 (noLab_storeZero r off))
    (fun m k => labsIn_iff.1 (labsIn_acquireBlockC (posTemp m) (posTemp (m + 1)) k))
    (fun _ l h => by cases List.mem_singleton.1 h)

/-- CONTRACT of `store` (memory.rs Memory::store) on the RV64 machine, for ANY number of fields: the
variables `toStore` (context positions `|rem| …`, holding the model fields `fs`) are stored as one
object — one block for up to `FIELDS_PER_BLOCK` fields, otherwise a chain of linked blocks, each block
taken by `acquire_block` — exactly as `Scc.Heap.storeObj` does on the abstract heap.  From every
boundary state representing a heap on which the model succeeds, the code runs to its end; the final
state is a boundary state, represents the model's result heap, and the first register of position
`|rem|` holds the object pointer (0 for an object without fields).
Changed: TEMP, HEAP, FREE, the heap, and registers of the stored positions (the targets and additional
temporaries of `acquire_block`; the first register of position `|rem|` alone for an object without
fields); every variable of `rem` and everything beyond the stored positions is preserved.
`hcap`: the registers of all positions up to `|rem| + |toStore|` exist (positions 0..13); `hrem`: so does the
first register of position `|rem|`, which receives the pointer even when `toStore` is empty.
The proof is the backend-independent `Scc.Mem.StoreSpec.storeFields_does` at the leaves `memSpec`. -/
theorem store_contract {cfg : MonCfg} {la : String → Option Nat} {st : State}
    (B : Boundary cfg st) {h h' : Scc.Heap.HState} (R : HeapRel cfg st h)
    {toStore rem : Ctx} {fs : List Scc.Heap.Field} (hcap : 2 * (rem.length + toStore.length) ≤ 28)
    (hrem : rem.length < 14) (hE : EnvFieldsM st rem.length toStore fs) {ptr : Nat}
    (hop : Scc.Heap.storeObj h fs = .ok (h', ptr)) (k : Nat) :
    ∃ code k', (store toStore rem).run k = .ok (code, k') ∧ k ≤ k' ∧ LabsIn code k k' ∧
      ∃ st', execFwd cfg la code st = .ok (st', .fall) ∧ Boundary cfg st' ∧ HeapRel cfg st' h' ∧
        (∃ w, st'.readReg (posTemp (2 * rem.length)) = .ok w ∧ w.toNat = ptr) ∧
        FrameR st st' (fun u => u = TEMP.n ∨ u = HEAP.n ∨ u = FREE.n ∨
          StoredReg rem.length toStore.length u) := by
  have C := B.top
  obtain ⟨hk, hl⟩ := memCode_counts.storeFieldsC (toStore.length + 1) toStore rem.length .last k
  obtain ⟨μ', hx, H', hfr, w, hw, ew⟩ := (memSpec C).storeFields_does
    (toStore.length + 1) toStore rem.length .last fs 0 (mview st) h h' ptr k (Nat.lt_succ_self _)
    (heapRel_mview R) ((envFields_iff C).1 hE) hcap (by show 2 * rem.length < 28; omega)
    (fun e => by cases e) hop
  obtain ⟨st', e, B', M', F⟩ := m_to_machine la B hx
    (changed := fun u => u = TEMP.n ∨ u = HEAP.n ∨ u = FREE.n ∨ StoredReg rem.length toStore.length u)
    (fun u hu => hfr u ⟨fun e => hu (Or.inl e), fun e => hu (Or.inr (Or.inl e)),
      fun e => hu (Or.inr (Or.inr (Or.inl e))),
      fun j hj e => hu (Or.inr (Or.inr (Or.inr ⟨j, hj, e⟩)))⟩)
  exact ⟨_, _, (Mem.gen_store toStore rem).run (Or.inr ⟨hcap, by show 2 * rem.length < 28; omega,
      fun e => by cases e⟩) k, hk, labsIn_iff.2 hl,
    st', e, B', heapRel_of_mrep M' H', ⟨w, M'.readReg (by rw [posTemp_rd (by omega)]; exact hw), ew⟩, F⟩

end Scc.RV
