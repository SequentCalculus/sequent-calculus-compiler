/-
  Scc.RV.RefCall — `call` (jump to a definition) and `exit` (result into `X10`, jump to `cleanup`, where the
  machine's run ends) on the three machines, RV64.
-/
import Scc.RV.RefInt

namespace Scc.RV.Ref

open Scc.AxCut Scc.AxCut.Pos Scc.Backend Scc.Backend.Abs Scc.Backend.Sim Scc.Backend.Sim2
open Scc.Heap (HState InvS InvW)
open Scc.Heap.Refine (HRef)

/-- every definition's RV code is in the kept codes, behind its label -/
def KDefsAt (ks : List Code) (hooks : Bool) (prog : AxCut.Prog) : Prop :=
  ∀ d ∈ prog.defs, ∃ i k k' items, labIdx ks (d.name.print ++ "_") = some i ∧
    ks[i]? = some (Code.LAB (d.name.print ++ "_")) ∧
    (codeStatementR rvBackend hooks natRen prog.types d.body d.ctx).run k = .ok (items, k') ∧
    KAt ks (i + 1) items

theorem defLabel_ne_cleanup (s : String) : s ++ "_" ≠ "cleanup" := by
  intro h
  have h2 := congrArg (fun x => x.toList.reverse) h
  simp only [String.toList_append, List.reverse_append] at h2
  have h3 : ("_" : String).toList = ['_'] := rfl
  have h4 : ("cleanup" : String).toList = ['c', 'l', 'e', 'a', 'n', 'u', 'p'] := rfl
  rw [h3, h4] at h2
  simp at h2

theorem exec_JAL_zero (mc : MonCfg) (la : String → Option Nat) (a : Nat) (l : String) (s : State) :
    exec mc la a (.JAL ZERO l) s = .ok (s, .label l) := by
  simp [exec, State.writeReg, ZERO]

theorem KAt.of_label {ks : List Code} {i : Nat} {l : String} {items : List Code}
    (hg : ks[i]? = some (Code.LAB l)) (h : KAt ks (i + 1) items) : KAt ks i (Code.LAB l :: items) := by
  obtain ⟨k1, ki, rest, e, hl, hk⟩ := h
  have hilt : i < k1.length := by omega
  refine ⟨k1.take i, Code.LAB l :: ki, rest, ?_, by simp; omega, .keep rfl hk⟩
  have hk1 : k1 = k1.take i ++ [Code.LAB l] := by
    have h1 : k1[i]? = some (Code.LAB l) := by
      rw [e, List.append_assoc, List.getElem?_append_left hilt] at hg; exact hg
    conv => lhs; rw [← List.take_append_drop i k1]
    congr 1
    rw [List.drop_eq_getElem_cons hilt]
    rw [List.getElem?_eq_getElem hilt] at h1
    injection h1 with h1
    rw [h1, List.drop_eq_nil_of_le (by omega)]
  rw [e]
  conv => lhs; rw [hk1]
  simp [List.append_assoc]

section Call3

variable {mc : MonCfg} {cw : Nat → Word} {τ : Nat → Nat → Word} {p : RV.Program} {ks : List Code} (L : Loaded p ks)
  (hndL : (labs ks).Nodup) (hheap : mc.heap = false)

include L hndL hheap in
/-- `call` on the three machines: `sim2_call`, and the machine jumps (`JAL`, a real transition: `ReachP`) to the
label of the definition and passes it; heap and positions are untouched (`FrameFacts`), the relation holds for the
context of the definition, whose body's code lies in the kept codes at the new program counter -/
theorem call_x3 {P : Abs.Program} {hooks : Bool} {prog : AxCut.Prog} {Γ : Ctx} {ρ : List Value} {l : Ident}
    {args : Ctx} {cfg : Config} {d : Def}
    (R : RelX P hooks prog ⟨Γ, ρ, .call l args⟩ cfg) (D : DefsAt P hooks prog) (DX : KDefsAt ks hooks prog)
    (hd : Pos.findDef prog.defs l = some d) (hchi : Pos.chiTys Γ = Pos.chiTys d.ctx)
    {hs : HState} {ι : Nat → Nat} {st : State} (X : X3 mc cw τ Γ cfg hs ι st)
    {kx kx' : Nat} {items : List Code}
    (hrunX : (codeStatementR rvBackend hooks natRen prog.types (.call l args) Γ).run kx = .ok (items, kx'))
    (hatX : KAt ks st.pc items) :
    ∃ cfg' st', stepsTo P 1 cfg cfg' ∧ ReachP p mc st st' ∧
      cfg'.out = cfg.out ∧ cfg'.next = cfg.next ∧ FrameFacts cfg cfg' Γ.length ∧
      RelX P hooks prog ⟨d.ctx, ρ, d.body⟩ cfg' ∧ X3 mc cw τ d.ctx cfg' hs ι st' ∧
      ∃ k1 k1' items', (codeStatementR rvBackend hooks natRen prog.types d.body d.ctx).run k1 = .ok (items', k1') ∧
        KAt ks st'.pc items' := by
  obtain ⟨cfg', hst, hout, hnext, R'⟩ := sim2_call R D hd hchi
  have hstep := stepsTo_one_inv hst
  have J : JumpFacts cfg cfg' := by
    obtain ⟨c, c', ops, hrun, hat⟩ := R.code
    simp only [codeStatementR, run_pure_ok] at hrun
    obtain ⟨rfl, rfl⟩ := hrun
    simp only [mockSym_comment, mockSym_jumpLabel, List.append_assoc, CodeAt_hook] at hat
    simp only [List.cons_append, List.nil_append, CodeAt] at hat
    exact step_jumpLabel_facts hat.1 hstep
  have hmem : d ∈ prog.defs := List.mem_of_find?_eq_some hd
  have hname : d.name = l := by
    have := List.find?_some hd
    exact Ident.eq_of_beq this
  obtain ⟨i, k1, k1', ditems, hidx, hlab, hdrun, hdat⟩ := DX d hmem
  simp only [codeStatementR, run_pure_ok] at hrunX
  obtain ⟨rfl, rfl⟩ := hrunX
  generalize hc0 : hookCode rvBackend hooks Γ ++ [rvBackend.comment (l.print ++ "(...)")] = c0 at hatX
  have hc0c : ∀ y ∈ c0, ∃ m', y = Code.COMMENT m' := by rw [← hc0]; exact hook_comments hooks Γ _
  replace hatX : KAt ks st.pc (c0 ++ [Code.JAL ZERO (l.print ++ "_")]) := hatX
  obtain ⟨pc0, k0, hr0, hat0⟩ := pass_comments L hndL hheap hatX hc0c
  have X0 : X3 mc cw τ Γ cfg hs ι (setPS st pc0 k0) := X3R.setPS X _ _
  have hr1 := step_label L (cfg := mc) (s := setPS st pc0 k0) (s1 := setPS st pc0 k0) (l := l.print ++ "_")
    (i := i) hat0 rfl (fun a => exec_JAL_zero mc _ a _ _) (by rw [← hname]; exact hidx)
  have hkeys : Γ.map (·.chi) = d.ctx.map (·.chi) := by
    have := congrArg (List.map Prod.fst) hchi
    simp only [Pos.chiTys, List.map_map] at this
    exact this
  have X1 : X3 mc cw τ d.ctx cfg' hs ι (setPS (setPS st pc0 k0) i ((setPS st pc0 k0).steps + 1)) :=
    X3R.setPS ((X0.jump J).ctxCongr hkeys) _ _
  have hati : KAt ks (setPS (setPS st pc0 k0) i ((setPS st pc0 k0).steps + 1)).pc
      (Code.LAB (d.name.print ++ "_") :: ditems) := KAt.of_label hlab hdat
  generalize setPS (setPS st pc0 k0) i ((setPS st pc0 k0).steps + 1) = s1 at hr1 X1 hati
  obtain ⟨hr2, hat2⟩ := pass_labelP L (cfg := mc) hati (defLabel_ne_cleanup _)
  exact ⟨cfg', _, hst, hr0.transP (hr1.transP hr2), hout, hnext,
    JumpFacts.frame J (by have := X.cap; unfold Mock.T_TEMP; omega), R', X3R.setPS X1 _ _, _, _, ditems, hdrun, hat2⟩

include L hndL hheap in
/-- THREE-WAY SIMULATION OF `exit`: the result goes to `X10`, the jump goes to `cleanup`, where the run ends
with the result -/
theorem exit_x3 {P : Abs.Program} {hooks : Bool} {prog : AxCut.Prog} {Γ : Ctx} {ρ : List Value} {a : Ident}
    {cfg : Config} {v : Word}
    (R : RelX P hooks prog ⟨Γ, ρ, .exit a⟩ cfg) (ha : readInt Γ ρ a = .ok v)
    {hs : HState} {ι : Nat → Nat} {st : State} (X : X3 mc cw τ Γ cfg hs ι st)
    {kx kx' : Nat} {items : List Code}
    (hrunX : (codeStatementR rvBackend hooks natRen prog.types (.exit a) Γ).run kx = .ok (items, kx'))
    (hatX : KAt ks st.pc items) {ic : Nat} (hclean : labIdx ks "cleanup" = some ic) :
    ∃ stL, Reach p mc st stL ∧ ∀ fuel, (runLoop p mc (fuel + 1) stL).res = .done v := by
  obtain ⟨i, hi, hl, hg, hchi⟩ := Scc.Backend.ThreeWay.readInt_facts R ha
  simp only [codeStatementR, run_bind_ok, run_pure_ok] at hrunX
  obtain ⟨tX, _, htX, rfl, rfl⟩ := hrunX
  obtain ⟨pX, hpX, hltX, rfl, rfl⟩ := (rv_vt_run_ok _ _ _ _ _ _).1 htX
  rw [hi] at hpX
  injection hpX with hpX
  subst hpX
  simp only [TempNum.toNat] at hltX
  generalize hc0 : hookCode rvBackend hooks Γ ++ [rvBackend.comment ("exit " ++ a.print)] = c0 at hatX
  have hc0c : ∀ y ∈ c0, ∃ m', y = Code.COMMENT m' := by rw [← hc0]; exact hook_comments hooks Γ _
  replace hatX : KAt ks st.pc (c0 ++ ([Code.MV RETURN1 (posTemp (2 * i + 1))] ++ [Code.JAL ZERO "cleanup"])) := by
    have : rvBackend.mov rvBackend.return1 (posTemp (2 * i + TempNum.snd.toNat)) ++
        rvBackend.jumpLabel "cleanup" = [Code.MV RETURN1 (posTemp (2 * i + 1))] ++ [Code.JAL ZERO "cleanup"] := rfl
    rw [← this]
    simpa [List.append_assoc] using hatX
  obtain ⟨pc0, k0, hr0, hat0⟩ := pass_comments L hndL hheap hatX hc0c
  have X0 : X3 mc cw τ Γ cfg hs ι (setPS st pc0 k0) := X3R.setPS X _ _
  have hw := X0.words i hl v hg
  rw [hchi] at hw
  obtain ⟨hr1, hat1⟩ := step_fall L (cfg := mc) (s := setPS st pc0 k0)
    (s1 := (setPS st pc0 k0).copyReg RETURN1 (posTemp (2 * i + 1))) hat0 rfl (fun a => rfl)
  have hv1 : ((setPS st pc0 k0).copyReg RETURN1 (posTemp (2 * i + 1))).readReg RETURN1 = .ok v :=
    readReg_copyReg_same X0.bnd.wf return1_usable (readReg_of_rv hw)
  generalize hS1 : setPS ((setPS st pc0 k0).copyReg RETURN1 (posTemp (2 * i + 1))) ((setPS st pc0 k0).pc + 1)
    ((setPS st pc0 k0).steps + 1) = s1 at hr1 hat1
  have hv1' : s1.readReg RETURN1 = .ok v := by rw [← hS1]; exact hv1
  have hat1' : KAt ks s1.pc [Code.JAL ZERO "cleanup"] := by rw [← hS1]; exact hat1
  have hr2 := step_label L (cfg := mc) (s := s1) (s1 := s1) (l := "cleanup") (i := ic) hat1' rfl
    (fun a => exec_JAL_zero mc _ a _ _) hclean
  have hgc : ks[ic]? = some (Code.LAB "cleanup") := by
    unfold labIdx at hclean
    obtain ⟨hlt, hp, _⟩ := List.findIdx?_eq_some_iff_getElem.1 hclean
    rw [List.getElem?_eq_getElem hlt]
    simpa using hp
  refine ⟨setPS s1 ic (s1.steps + 1), hr0.trans (hr1.trans hr2), fun fuel => ?_⟩
  exact run_done L (s := setPS s1 ic (s1.steps + 1)) hgc hv1' fuel

end Call3

end Scc.RV.Ref
