/-
  Scc.RV.ConcMach — generic facts about the RV64 SPEC machine (Scc/RV/Machine.lean), for ANY program, in terms
  of the transition function `step` of the run loop (Scc/RV/ConcStep.lean):
  * `maxHeapWritten ≤ heapBytes` is an invariant of `step` (a store outside the heap region faults): the highest
    heap address ever written lies inside the heap region; `maxHeapWritten` never decreases (stated for the machine
    with the heap monitor off; for facts about `heapMonitor` see the last section of Scc/RV/ConcStep.lean);
  * MONOTONICITY IN THE HEAP SIZE: a transition that does not fault in a configuration with a SMALLER heap region
    (heap monitor off in both) is the same transition in the larger configuration (`Sub mc' mc`); hence a run that
    ends with `done v` in the smaller heap is, state by state, the run in the larger heap, with the same
    `maxHeapWritten`.
-/
import Scc.RV.ConcStep

namespace Scc.RV.Conc

def MhwOK (mc : MonCfg) (s : State) : Prop := s.maxHeapWritten ≤ mc.heapBytes

theorem writeReg_mhw (s : State) (r : Register) (v : Word) :
    (s.writeReg r v).maxHeapWritten = s.maxHeapWritten := by
  unfold State.writeReg; split <;> rfl

theorem copyReg_mhw (s : State) (x y : Register) : (s.copyReg x y).maxHeapWritten = s.maxHeapWritten := by
  unfold State.copyReg
  split
  · rfl
  · split <;> rfl

theorem arith3_mhw {s s' : State} {x y z : Register} {f : Word → Word → Except String Word} {n : Next}
    (h : arith3 s x y z f = .ok (s', n)) : s'.maxHeapWritten = s.maxHeapWritten := by
  unfold arith3 at h
  cases h1 : s.readReg y with
  | error e => rw [h1] at h; cases h
  | ok a =>
    rw [h1] at h; dsimp only at h
    cases h2 : s.readReg z with
    | error e => rw [h2] at h; cases h
    | ok b =>
      rw [h2] at h; dsimp only at h
      cases h3 : f a b with
      | error e => rw [h3] at h; cases h
      | ok v =>
        rw [h3] at h
        simp only [Except.ok.injEq, Prod.mk.injEq] at h
        rw [← h.1]; exact writeReg_mhw _ _ _

theorem branch_state {s s' : State} {x y : Register} {l : String} {cond : Word → Word → Bool} {n : Next}
    (h : branch s x y l cond = .ok (s', n)) : s' = s := by
  unfold branch at h
  cases h1 : s.readReg x with
  | error e => rw [h1] at h; cases h
  | ok a =>
    rw [h1] at h; dsimp only at h
    cases h2 : s.readReg y with
    | error e => rw [h2] at h; cases h
    | ok b =>
      rw [h2] at h
      simp only [Except.ok.injEq, Prod.mk.injEq] at h
      exact h.1.symm

theorem checkAddr_ok {mc : MonCfg} {a : Nat} (h : checkAddr mc a = .ok ()) :
    a % 8 = 0 ∧ heapBase ≤ a ∧ a + 8 ≤ heapBase + mc.heapBytes := by
  unfold checkAddr at h
  split at h
  · cases h
  · rename_i h8
    split at h
    · rename_i hin; exact ⟨by omega, hin.1, hin.2⟩
    · cases h

theorem store_mhw {mc : MonCfg} {s s' : State} {a : Nat} {v : Word} (h : s.store mc a v = .ok s') :
    s.maxHeapWritten ≤ s'.maxHeapWritten ∧ (MhwOK mc s → MhwOK mc s') := by
  unfold State.store at h
  cases hc : checkAddr mc a with
  | error e => rw [hc] at h; cases h
  | ok u =>
    rw [hc] at h
    simp only [Except.ok.injEq] at h
    subst h
    obtain ⟨_, h1, h2⟩ := checkAddr_ok hc
    refine ⟨Nat.le_max_left _ _, fun hs => ?_⟩
    unfold MhwOK at *
    show max s.maxHeapWritten _ ≤ _
    omega

/-- one instruction: `maxHeapWritten` does not decrease and stays inside the heap region -/
theorem exec_mhw {mc : MonCfg} {la : String → Option Nat} {pcAddr : Nat} {c : Code} {s s' : State} {n : Next}
    (h : exec mc la pcAddr c s = .ok (s', n)) :
    s.maxHeapWritten ≤ s'.maxHeapWritten ∧ (MhwOK mc s → MhwOK mc s') := by
  have heq : ∀ {t : State}, t.maxHeapWritten = s.maxHeapWritten →
      s.maxHeapWritten ≤ t.maxHeapWritten ∧ (MhwOK mc s → MhwOK mc t) := by
    intro t e
    unfold MhwOK
    rw [e]
    exact ⟨Nat.le_refl _, id⟩
  cases c <;> simp only [exec] at h
  case ADD => exact heq (arith3_mhw h)
  case SUB => exact heq (arith3_mhw h)
  case MUL => exact heq (arith3_mhw h)
  case DIV => exact heq (arith3_mhw h)
  case REM => exact heq (arith3_mhw h)
  case ADDI x y c =>
    cases h1 : s.readReg y with
    | error e => rw [h1] at h; cases h
    | ok a =>
      rw [h1] at h
      simp only [Except.ok.injEq, Prod.mk.injEq] at h
      rw [← h.1]; exact heq (writeReg_mhw _ _ _)
  case LI x c =>
    simp only [Except.ok.injEq, Prod.mk.injEq] at h
    rw [← h.1]; exact heq (writeReg_mhw _ _ _)
  case MV x y =>
    simp only [Except.ok.injEq, Prod.mk.injEq] at h
    rw [← h.1]; exact heq (copyReg_mhw _ _ _)
  case LA x l =>
    cases h1 : la l with
    | none => rw [h1] at h; cases h
    | some a =>
      rw [h1] at h
      simp only [Except.ok.injEq, Prod.mk.injEq] at h
      rw [← h.1]; exact heq (writeReg_mhw _ _ _)
  case LW x y c =>
    cases h1 : s.readReg y with
    | error e => rw [h1] at h; cases h
    | ok b =>
      rw [h1] at h; dsimp only at h
      cases h2 : s.load mc (b + imm c).toNat with
      | error e => rw [h2] at h; cases h
      | ok v =>
        rw [h2] at h
        simp only [Except.ok.injEq, Prod.mk.injEq] at h
        rw [← h.1]; exact heq (writeReg_mhw _ _ _)
  case SW x y c =>
    cases h1 : s.readReg x with
    | error e => rw [h1] at h; cases h
    | ok v =>
      rw [h1] at h; dsimp only at h
      cases h2 : s.readReg y with
      | error e => rw [h2] at h; cases h
      | ok b =>
        rw [h2] at h; dsimp only at h
        cases h3 : s.store mc (b + imm c).toNat v with
        | error e => rw [h3] at h; cases h
        | ok s1 =>
          rw [h3] at h
          simp only [Except.ok.injEq, Prod.mk.injEq] at h
          rw [← h.1]; exact store_mhw h3
  case JAL x l =>
    simp only [Except.ok.injEq, Prod.mk.injEq] at h
    rw [← h.1]; exact heq (writeReg_mhw _ _ _)
  case JALR x y c =>
    cases h1 : s.readReg y with
    | error e => rw [h1] at h; cases h
    | ok b =>
      rw [h1] at h
      simp only [Except.ok.injEq, Prod.mk.injEq] at h
      rw [← h.1]; exact heq (writeReg_mhw _ _ _)
  case BEQ => rw [branch_state h]; exact heq rfl
  case BNE => rw [branch_state h]; exact heq rfl
  case BLT => rw [branch_state h]; exact heq rfl
  case BGE => rw [branch_state h]; exact heq rfl
  case BLE => rw [branch_state h]; exact heq rfl
  case BGT => rw [branch_state h]; exact heq rfl
  case LAB =>
    simp only [Except.ok.injEq, Prod.mk.injEq] at h
    rw [← h.1]; exact heq rfl
  case COMMENT =>
    simp only [Except.ok.injEq, Prod.mk.injEq] at h
    rw [← h.1]; exact heq rfl

theorem stepInstr_mhw {p : Program} {mc : MonCfg} {s s' : State} {it : Item}
    (h : stepInstr p mc s it = .inl s') :
    s.maxHeapWritten ≤ s'.maxHeapWritten ∧ (MhwOK mc s → MhwOK mc s') := by
  unfold stepInstr at h
  cases hx : exec mc p.labelAddr it.addr it.code s with
  | error e => rw [hx] at h; cases h
  | ok r =>
    obtain ⟨s1, next⟩ := r
    rw [hx] at h; dsimp only at h
    have h1 := exec_mhw hx
    have h1' : ∀ pc : Nat, s.maxHeapWritten ≤ ({ s1 with steps := s1.steps + 1, pc := pc } : State).maxHeapWritten ∧
        (MhwOK mc s → MhwOK mc ({ s1 with steps := s1.steps + 1, pc := pc } : State)) := fun _ => h1
    cases next with
    | fall =>
      simp only [Sum.inl.injEq] at h
      rw [← h]; exact h1' _
    | label l =>
      dsimp only at h
      cases hl : p.labelIdx[l]? with
      | none => rw [hl] at h; cases h
      | some i =>
        rw [hl] at h
        simp only [Sum.inl.injEq] at h
        rw [← h]; exact h1' _
    | addr a =>
      dsimp only at h
      cases hl : p.addrIdx[a.toNat]? with
      | none => rw [hl] at h; cases h
      | some i =>
        rw [hl] at h
        simp only [Sum.inl.injEq] at h
        rw [← h]; exact h1' _

theorem stepHook_mhw {mc : MonCfg} (hheap : mc.heap = false) {s s' : State} {it : Item}
    (h : stepHook mc s it = .inl s') : s'.maxHeapWritten = s.maxHeapWritten := by
  unfold stepHook at h
  rw [hheap] at h
  cases hr : it.roots with
  | none =>
    rw [hr] at h
    simp only [Sum.inl.injEq] at h
    rw [← h]
  | some rs =>
    rw [hr] at h
    simp only [Bool.false_eq_true, if_false, Sum.inl.injEq] at h
    rw [← h]

theorem stepLab_mhw {s s' : State} {it : Item} {l : String} (h : stepLab s it l = .inl s') :
    s'.maxHeapWritten = s.maxHeapWritten := by
  unfold stepLab at h
  split at h
  · split at h <;> cases h
  · simp only [Sum.inl.injEq] at h
    rw [← h]

theorem step_mhw {p : Program} {mc : MonCfg} (hheap : mc.heap = false) {s s' : State}
    (h : step p mc s = .inl s') :
    s.maxHeapWritten ≤ s'.maxHeapWritten ∧ (MhwOK mc s → MhwOK mc s') := by
  have heq : ∀ {t : State}, t.maxHeapWritten = s.maxHeapWritten →
      s.maxHeapWritten ≤ t.maxHeapWritten ∧ (MhwOK mc s → MhwOK mc t) := by
    intro t e
    unfold MhwOK
    rw [e]
    exact ⟨Nat.le_refl _, id⟩
  cases hit : p.items[s.pc]? with
  | none => rw [step_none hit] at h; cases h
  | some it =>
    rcases code_kind it.code with ⟨l, hc⟩ | ⟨m, hc⟩ | hi
    · rw [step_lab hit hc] at h; exact heq (stepLab_mhw h)
    · rw [step_hook hit hc] at h; exact heq (stepHook_mhw hheap h)
    · rw [step_instr hit hi] at h; exact stepInstr_mhw h

theorem stepN_mhw {p : Program} {mc : MonCfg} (hheap : mc.heap = false) : ∀ (n : Nat) {s s' : State},
    stepN p mc n s = .inl s' →
    s.maxHeapWritten ≤ s'.maxHeapWritten ∧ (MhwOK mc s → MhwOK mc s')
  | 0, s, s', h => by
    simp only [stepN, Sum.inl.injEq] at h
    subst h
    exact ⟨Nat.le_refl _, id⟩
  | n + 1, s, s', h => by
    simp only [stepN] at h
    cases hst : step p mc s with
    | inr r => rw [hst] at h; cases h
    | inl s1 =>
      rw [hst] at h
      have h1 := step_mhw hheap hst
      have h2 := stepN_mhw hheap n h
      exact ⟨Nat.le_trans h1.1 h2.1, fun hs => h2.2 (h1.2 hs)⟩

/-- a step that ends the run with `done v`: the result record carries the `maxHeapWritten` of the state -/
theorem step_done_mhw {p : Program} {mc : MonCfg} {s : State} {r : RunResult} {v : Word}
    (h : step p mc s = .inr r) (hv : r.res = .done v) : r.maxHeapWritten = s.maxHeapWritten := by
  cases hit : p.items[s.pc]? with
  | none =>
    rw [step_none hit] at h
    simp only [Sum.inr.injEq] at h
    rw [← h] at hv; cases hv
  | some it =>
    rcases code_kind it.code with ⟨l, hc⟩ | ⟨m, hc⟩ | hi
    · rw [step_lab hit hc] at h
      unfold stepLab at h
      split at h
      · cases hr : s.readReg RETURN1 with
        | ok w =>
          rw [hr] at h
          simp only [Sum.inr.injEq] at h
          rw [← h]; rfl
        | error e =>
          rw [hr] at h
          simp only [Sum.inr.injEq] at h
          rw [← h] at hv; cases hv
      · cases h
    · rw [step_hook hit hc] at h
      unfold stepHook at h
      cases hr : it.roots with
      | none => rw [hr] at h; cases h
      | some rs =>
        rw [hr] at h; dsimp only at h
        split at h
        · cases hm : heapMonitor mc s rs with
          | error e =>
            rw [hm] at h
            simp only [Sum.inr.injEq] at h
            rw [← h] at hv; cases hv
          | ok s1 => rw [hm] at h; cases h
        · cases h
    · rw [step_instr hit hi] at h
      unfold stepInstr at h
      cases hx : exec mc p.labelAddr it.addr it.code s with
      | error e =>
        rw [hx] at h
        simp only [Sum.inr.injEq] at h
        rw [← h] at hv; cases hv
      | ok r' =>
        obtain ⟨s1, next⟩ := r'
        rw [hx] at h; dsimp only at h
        cases next with
        | fall => cases h
        | label l =>
          dsimp only at h
          cases hl : p.labelIdx[l]? with
          | none =>
            rw [hl] at h
            simp only [Sum.inr.injEq] at h
            rw [← h] at hv; cases hv
          | some i => rw [hl] at h; cases h
        | addr a =>
          dsimp only at h
          cases hl : p.addrIdx[a.toNat]? with
          | none =>
            rw [hl] at h
            simp only [Sum.inr.injEq] at h
            rw [← h] at hv; cases hv
          | some i => rw [hl] at h; cases h

/-- `mc'` is `mc` with a smaller heap region (heap monitor off in both) -/
structure Sub (mc' mc : MonCfg) : Prop where
  bytes : mc'.heapBytes ≤ mc.heapBytes
  heap' : mc'.heap = false
  heap : mc.heap = false

section Mono
variable {mc' mc : MonCfg} (S : Sub mc' mc)
include S

theorem checkAddr_mono {a : Nat} (h : checkAddr mc' a = .ok ()) : checkAddr mc a = .ok () := by
  obtain ⟨h1, h2, h3⟩ := checkAddr_ok h
  have := S.bytes
  unfold checkAddr
  rw [if_neg (by omega), if_pos ⟨h2, by omega⟩]

theorem load_mono {s : State} {a : Nat} {v : Word} (h : s.load mc' a = .ok v) : s.load mc a = .ok v := by
  unfold State.load at *
  cases hc : checkAddr mc' a with
  | error e => rw [hc] at h; cases h
  | ok u => rw [hc] at h; rw [checkAddr_mono S hc]; exact h

theorem store_mono {s s' : State} {a : Nat} {v : Word} (h : s.store mc' a v = .ok s') :
    s.store mc a v = .ok s' := by
  unfold State.store at *
  cases hc : checkAddr mc' a with
  | error e => rw [hc] at h; cases h
  | ok u => rw [hc] at h; rw [checkAddr_mono S hc]; exact h

theorem exec_mono {la : String → Option Nat} {pcAddr : Nat} {c : Code} {s : State} {x : State × Next}
    (h : exec mc' la pcAddr c s = .ok x) : exec mc la pcAddr c s = .ok x := by
  cases c <;> simp only [exec] at h ⊢
  case LW x y c =>
    cases h1 : s.readReg y with
    | error e => rw [h1] at h; cases h
    | ok b =>
      rw [h1] at h; dsimp only at h ⊢
      cases h2 : s.load mc' (b + imm c).toNat with
      | error e => rw [h2] at h; cases h
      | ok v => rw [h2] at h; rw [load_mono S h2]; exact h
  case SW x y c =>
    cases h1 : s.readReg x with
    | error e => rw [h1] at h; cases h
    | ok v =>
      rw [h1] at h; dsimp only at h ⊢
      cases h2 : s.readReg y with
      | error e => rw [h2] at h; cases h
      | ok b =>
        rw [h2] at h; dsimp only at h ⊢
        cases h3 : s.store mc' (b + imm c).toNat v with
        | error e => rw [h3] at h; cases h
        | ok s1 => rw [h3] at h; rw [store_mono S h3]; exact h
  all_goals exact h

theorem stepHook_mono {s : State} {it : Item} : stepHook mc' s it = stepHook mc s it := by
  unfold stepHook
  rw [S.heap', S.heap]
  cases it.roots <;> simp

theorem step_mono {p : Program} {s s' : State} (h : step p mc' s = .inl s') : step p mc s = .inl s' := by
  cases hit : p.items[s.pc]? with
  | none => rw [step_none hit] at h; cases h
  | some it =>
    rcases code_kind it.code with ⟨l, hc⟩ | ⟨m, hc⟩ | hi
    · rw [step_lab hit hc] at h ⊢; exact h
    · rw [step_hook hit hc] at h ⊢; rw [← stepHook_mono S]; exact h
    · rw [step_instr hit hi] at h ⊢
      unfold stepInstr at h ⊢
      cases hx : exec mc' p.labelAddr it.addr it.code s with
      | error e => rw [hx] at h; cases h
      | ok r => rw [hx] at h; rw [exec_mono S hx]; exact h

theorem step_mono_done {p : Program} {s : State} {r : RunResult} {v : Word} (h : step p mc' s = .inr r)
    (hv : r.res = .done v) : step p mc s = .inr r := by
  cases hit : p.items[s.pc]? with
  | none => rw [step_none hit] at h ⊢; exact h
  | some it =>
    rcases code_kind it.code with ⟨l, hc⟩ | ⟨m, hc⟩ | hi
    · rw [step_lab hit hc] at h ⊢; exact h
    · rw [step_hook hit hc] at h ⊢; rw [← stepHook_mono S]; exact h
    · rw [step_instr hit hi] at h ⊢
      unfold stepInstr at h ⊢
      cases hx : exec mc' p.labelAddr it.addr it.code s with
      | error e =>
        rw [hx] at h
        simp only [Sum.inr.injEq] at h
        rw [← h] at hv; cases hv
      | ok r' => rw [hx] at h; rw [exec_mono S hx]; exact h

theorem stepN_mono {p : Program} : ∀ (n : Nat) {s s' : State},
    stepN p mc' n s = .inl s' → stepN p mc n s = .inl s'
  | 0, s, s', h => h
  | n + 1, s, s', h => by
    simp only [stepN] at h ⊢
    cases hst : step p mc' s with
    | inr r => rw [hst] at h; cases h
    | inl s1 =>
      rw [hst] at h
      rw [step_mono S hst]
      exact stepN_mono n h

/-- a run that ends with `done v` in the smaller heap is the same run in the larger heap -/
theorem runLoop_larger_heap (p : Program) : ∀ (f : Nat) (s : State) (v : Word),
    (runLoop p mc' f s).res = .done v → runLoop p mc f s = runLoop p mc' f s
  | 0, s, v, h => by rw [runLoop_zero] at h; cases h
  | f + 1, s, v, h => by
    rw [runLoop_succ] at h ⊢
    rw [runLoop_succ p mc' f s]
    cases hst : step p mc' s with
    | inl s1 =>
      rw [hst] at h
      rw [step_mono S hst]
      exact runLoop_larger_heap p f s1 v h
    | inr r =>
      rw [hst] at h
      rw [step_mono_done S hst h]

end Mono

def withHeapBytes (mc : MonCfg) (b : Nat) : MonCfg := { mc with heapBytes := b }

theorem sub_withHeapBytes {mc : MonCfg} (hheap : mc.heap = false) {b : Nat} (hb : b ≤ mc.heapBytes) :
    Sub (withHeapBytes mc b) mc := ⟨hb, hheap, hheap⟩

end Scc.RV.Conc
