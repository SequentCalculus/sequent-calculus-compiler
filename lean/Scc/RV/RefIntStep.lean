/-
  Scc.RV.RefIntStep — `lit`, `op`, `ifc` on the three machines, RV64: the lemmas of Scc/Backend/ThreeWayInt.lean
  at the RV64 machine (`machine`, Scc/RV/ThreeWayMachineAsm.lean) for the code of the statement, with the closure
  words `cw` of RV64's relation carried along (`x3r_iff`, `CwOK`).
-/
import Scc.RV.ThreeWayMachineAsm
import Scc.Backend.ThreeWayInt

namespace Scc.RV.Ref

open Scc.AxCut Scc.AxCut.Pos Scc.Backend Scc.Backend.Abs Scc.Backend.Sim Scc.Backend.Sim2
open Scc.Heap (HState InvS InvW)
open Scc.Heap.Refine (HRef FrLe)

section Int3

variable {mc : MonCfg} {cw : Nat → Word} {τ : Nat → Nat → Word} {pr : RV.Program} {ks : List Code} (L : Loaded pr ks)
  (hndL : (labs ks).Nodup) (hheap : mc.heap = false)

include L hndL hheap in
/-- `ThreeWay.lit_x3` at the RV64 machine of the statement's code, in the RV64 relation (the closure words `cw` of
the old positions are kept) -/
theorem lit_x3 {P : Abs.Program} {hooks : Bool} {prog : AxCut.Prog} {Γ : Ctx} {ρ : List Value} {x : Ident}
    {n : Int} {next : Stmt} {fv : FV} {cfg : Config}
    (R : RelX P hooks prog ⟨Γ, ρ, .lit x n next fv⟩ cfg)
    (hfresh : ∀ b ∈ Γ, b.var.id ≠ x.id) (hcap : 2 * (Γ.length + 1) + 2 < Mock.T_TEMP)
    {hs : HState} {ι : Nat → Nat} {st : State} (X : X3 mc cw τ Γ cfg hs ι st)
    {kx kx' : Nat} {items : List Code}
    (hrunX : (codeStatementR rvBackend hooks natRen prog.types (.lit x n next fv) Γ).run kx = .ok (items, kx'))
    (hatX : KAt ks st.pc items) :
    ∃ cfg' st', stepsTo P 1 cfg cfg' ∧ Reach pr mc st st' ∧
      cfg'.out = cfg.out ∧ cfg'.next = cfg.next ∧ FrameFacts cfg cfg' Γ.length ∧
      RelX P hooks prog ⟨Γ ++ [⟨x, .ext, .i64⟩], ρ ++ [.int (BitVec.ofInt 64 n)], next⟩ cfg' ∧
      X3 mc cw τ (Γ ++ [⟨x, .ext, .i64⟩]) cfg' hs ι st' ∧
      ∃ k1 k1' items', (codeStatementR rvBackend hooks natRen prog.types next
          (Γ ++ [⟨x, .ext, .i64⟩])).run k1 = .ok (items', k1') ∧ KAt ks st'.pc items' := by
  obtain ⟨X0, C⟩ := (x3r_iff (la := pr.labelAddr)).1 X
  obtain ⟨cfg', st', kp', hst, hreach, hpc', hout, hnext, R', X', k1, k1', items', hr', hat', hh, KP⟩ :=
    ThreeWay.lit_x3 (machine L hndL hheap items) R hfresh hcap X0 hrunX (xat_self items)
      (pcAtR_zero hatX) trivial
  exact ⟨cfg', st', hst, hreach, hout, hnext, ⟨hh, KP.temps⟩, R', X3R.ofM X' (C.snoc KP (fun h => by cases h)), k1, k1',
    items', hr', hpc'.next hat'⟩

include L hndL hheap in
/-- `ThreeWay.op_x3` at the RV64 machine of the statement's code, likewise -/
theorem op_x3 {P : Abs.Program} {hooks : Bool} {prog : AxCut.Prog} {Γ : Ctx} {ρ : List Value} {x a b : Ident}
    {o : BinOp} {next : Stmt} {fv : FV} {cfg : Config} {va vb v : Word}
    (R : RelX P hooks prog ⟨Γ, ρ, .op x a o b next fv⟩ cfg)
    (hfresh : ∀ b' ∈ Γ, b'.var.id ≠ x.id) (hcap : 2 * (Γ.length + 1) + 2 < Mock.T_TEMP)
    (ha : readInt Γ ρ a = .ok va) (hb : readInt Γ ρ b = .ok vb) (hv : Pos.evalOp o va vb = .ok v)
    {hs : HState} {ι : Nat → Nat} {st : State} (X : X3 mc cw τ Γ cfg hs ι st)
    {kx kx' : Nat} {items : List Code}
    (hrunX : (codeStatementR rvBackend hooks natRen prog.types (.op x a o b next fv) Γ).run kx = .ok (items, kx'))
    (hatX : KAt ks st.pc items) :
    ∃ cfg' st', stepsTo P 1 cfg cfg' ∧ Reach pr mc st st' ∧
      cfg'.out = cfg.out ∧ cfg'.next = cfg.next ∧ FrameFacts cfg cfg' Γ.length ∧
      RelX P hooks prog ⟨Γ ++ [⟨x, .ext, .i64⟩], ρ ++ [.int v], next⟩ cfg' ∧
      X3 mc cw τ (Γ ++ [⟨x, .ext, .i64⟩]) cfg' hs ι st' ∧
      ∃ k1 k1' items', (codeStatementR rvBackend hooks natRen prog.types next
          (Γ ++ [⟨x, .ext, .i64⟩])).run k1 = .ok (items', k1') ∧ KAt ks st'.pc items' := by
  obtain ⟨X0, C⟩ := (x3r_iff (la := pr.labelAddr)).1 X
  obtain ⟨cfg', st', kp', hst, hreach, hpc', hout, hnext, R', X', k1, k1', items', hr', hat', hh, KP⟩ :=
    ThreeWay.op_x3 (machine L hndL hheap items) R hfresh hcap ha hb hv X0 hrunX (xat_self items)
      (pcAtR_zero hatX) trivial
  exact ⟨cfg', st', hst, hreach, hout, hnext, ⟨hh, KP.temps⟩, R', X3R.ofM X' (C.snoc KP (fun h => by cases h)), k1, k1',
    items', hr', hpc'.next hat'⟩

include L hndL hheap in
/-- `ThreeWay.ifc_x3` at the RV64 machine of the statement's code: no position changes -/
theorem ifc_x3 {P : Abs.Program} {hooks : Bool} {prog : AxCut.Prog} {Γ : Ctx} {ρ : List Value} {a : Ident}
    {b : Option Ident} {srt : IfSort} {t e : Stmt} {cfg : Config} {va vb : Word}
    (R : RelX P hooks prog ⟨Γ, ρ, .ifc srt a b t e⟩ cfg) (ha : readInt Γ ρ a = .ok va)
    (hb : match b with | none => vb = 0 | some b' => readInt Γ ρ b' = .ok vb)
    {hs : HState} {ι : Nat → Nat} {st : State} (X : X3 mc cw τ Γ cfg hs ι st)
    {kx kx' : Nat} {items : List Code}
    (hrunX : (codeStatementR rvBackend hooks natRen prog.types (.ifc srt a b t e) Γ).run kx = .ok (items, kx'))
    (hatX : KAt ks st.pc items) :
    ∃ cfg' st', stepsTo P 1 cfg cfg' ∧ Reach pr mc st st' ∧
      cfg'.out = cfg.out ∧ cfg'.next = cfg.next ∧ FrameFacts cfg cfg' Γ.length ∧
      RelX P hooks prog ⟨Γ, ρ, if Pos.evalCmp srt va vb then t else e⟩ cfg' ∧ X3 mc cw τ Γ cfg' hs ι st' ∧
      ∃ k1 k1' items', (codeStatementR rvBackend hooks natRen prog.types
          (if Pos.evalCmp srt va vb then t else e) Γ).run k1 = .ok (items', k1') ∧ KAt ks st'.pc items' := by
  obtain ⟨X0, C⟩ := (x3r_iff (la := pr.labelAddr)).1 X
  obtain ⟨cfg', st', kp', hst, hreach, hpc', hout, hnext, R', X', k1, k1', items', hr', hat', hh, KP⟩ :=
    ThreeWay.ifc_x3 (machine L hndL hheap items) R ha hb X0 hrunX (xat_self items) (pcAtR_zero hatX)
  exact ⟨cfg', st', hst, hreach, hout, hnext, ⟨hh, KP.temps⟩, R', X3R.ofM X' (C.keepPos KP), k1, k1',
    items', hr', hpc'.next hat'⟩

end Int3

end Scc.RV.Ref
