/-
  Scc.RV.RefCreate — `create` on the three machines, RV64.
  * `KMethodsAt ks hooks types m ec cl`: the machine word `m` is the address of a label of the kept codes `ks`
    at which the RV64 code of the methods `cl` for the closure environment `ec` stands (the counterpart of
    Theorem A's `MethodsAt`);
  * `create_x3`: `create_x3` of Scc/Backend/ThreeWayLet.lean at the RV64 machine with addresses (`machineA`,
    ThreeWayMachineA.lean): the new variable holds the block with the closure environment and the ADDRESS OF THE
    METHOD TABLE, and `KMethodsAt` holds for it (`kmethodsAt_of_xat`);
  * `create_cvals`: the closures of the new context by the closure walk of Scc/Backend/ClosWalk.lean.
-/
import Scc.RV.RefLet
import Scc.RV.RefCloDefs
import Scc.RV.RefSwitch
import Scc.RV.ThreeWayMachineA

namespace Scc.RV.Ref

open Scc.AxCut Scc.AxCut.Pos Scc.Backend Scc.Backend.Abs Scc.Backend.Sim Scc.Backend.Sim2
open Scc.Heap (HState InvS InvW)
open Scc.Heap.Refine (HRef FrLe Room FrPk)
open Scc.Backend.ThreeWay (XAt)

/-- the RV64 code of the methods `cl` of a closure with environment `ec` stands at the label whose address is
the machine word `m` -/
def KMethodsAt (ks : List Code) (hooks : Bool) (types : List TypeDecl) (m : Word) (ec : Ctx) (cl : Clauses) :
    Prop :=
  ∃ (base : String) (i k k' : Nat) (code : List Code), base ≠ "cleanup" ∧ labIdx ks base = some i ∧
    m = BitVec.ofNat 64 (codeBase + 4 * icount (ks.take i)) ∧
    (codeMethodsR rvBackend hooks natRen types ec cl base).run k = .ok (code, k') ∧
    KAt ks i (Code.LAB base :: ((if cl.length > 1 then codeTable rvBackend cl base else []) ++ code))

def cwSet (cw : Nat → Word) (N : Nat) (m : Word) : Nat → Word := fun i => if i = N then m else cw i

theorem cwSet_same (cw : Nat → Word) (N : Nat) (m : Word) : cwSet cw N m N = m := by simp [cwSet]

theorem cwSet_other (cw : Nat → Word) {N i : Nat} (m : Word) (h : i ≠ N) : cwSet cw N m i = cw i := by
  simp [cwSet, h]

variable {mc : MonCfg} {cw : Nat → Word} {τ : Nat → Nat → Word}

/-- the code of the methods behind a label of the statement's code stands in the loaded routine, at the address of
the label -/
theorem kmethodsAt_of_xat {ks items : List Code} (hnd : (labs ks).Nodup) {st : State} {k : Nat}
    (hpc : pcAtR ks items st k) {hooks : Bool} {types : List TypeDecl} {ec : Ctx} {cl : Clauses}
    {base : String} {kk kk' idx : Nat} {code : List Code} {w : Word} (hb : base ≠ "cleanup")
    (hrun : (codeMethodsR rvBackend hooks natRen types ec cl base).run kk = .ok (code, kk'))
    (hat : XAt items idx (rvBackend.label base ::
      ((if cl.length > 1 then codeTable rvBackend cl base else []) ++ code)))
    (hw : w = addrOfR ks items idx) : KMethodsAt ks hooks types w ec cl := by
  obtain ⟨pc0, hk0⟩ := hpc.2
  obtain ⟨cs1, post, e, hl1⟩ := hat
  have hk0' : KAt ks pc0 (cs1 ++ Code.LAB base ::
      (((if cl.length > 1 then codeTable rvBackend cl base else []) ++ code) ++ post)) := by
    rw [e] at hk0
    simpa [List.append_assoc, rvBackend] using hk0
  obtain ⟨j, hj, hkj⟩ := hk0'.lab_from
  have hidx := labIdx_of_nodup hnd hj
  have hget : items[idx]? = some (Code.LAB base) := by
    rw [e, ← hl1]
    simp [rvBackend]
  refine ⟨base, j, kk, kk', code, hb, hidx, ?_, hrun, ?_⟩
  · rw [hw]
    unfold addrOfR
    rw [hget]
    simp only [hidx]
  · have : KAt ks j ((Code.LAB base :: ((if cl.length > 1 then codeTable rvBackend cl base else []) ++ code)) ++
        post) := by simpa [List.append_assoc] using hkj
    exact this.left

/-- the closures after `create`: the remaining positions and the stored block by the walk, the new closure by its
methods on both machines -/
theorem create_cvals {P : Abs.Program} {hooks : Bool} {Q : Word → Ctx → Clauses → Prop} {prog : AxCut.Prog}
    {cw : Nat → Word} {τ : Nat → Nat → Word}
    {Γ : Ctx} {ρ : List Value} {x : Ident} {ty : Ty} {Γc : Ctx} {clauses : Clauses} {next : Stmt} {f1 f2 : FV}
    {cfg cfg' : Config}
    (R : RelX P hooks prog ⟨Γ, ρ, .create x ty (some Γc) clauses next f1 f2⟩ cfg)
    (V : CVals P hooks prog.types Q cw τ cfg.heap cfg.temps Γ ρ)
    (hkeys : Ctx.keys (Γ.drop (Γ.length - Γc.length)) = Γc.keys) (hnext : cfg.next < 2 ^ 64) {m : Word}
    (hQ : Q m (Γ.drop (Γ.length - Γc.length)) clauses)
    (LP : Prov.LetProv (cwTv cw) (cwTv (cwSet cw (Γ.length - Γc.length) m)) Γ (Γ.length - Γc.length) cfg cfg' τ
      (letTau τ cfg.next cw (Γ.length - Γc.length) Γc.length))
    {a : Nat} (ha : cfg'.temps.get (2 * (Γ.length - Γc.length) + 1) = some (BitVec.ofNat 64 a))
    (hmeth : MethodsAt P hooks prog.types a (Γ.drop (Γ.length - Γc.length)) clauses)
    (R' : RelX P hooks prog ⟨Γ.take (Γ.length - Γc.length) ++ [⟨x, .cns, ty⟩],
      ρ.take (Γ.length - Γc.length) ++ [.clo Γc (ρ.drop (Γ.length - Γc.length)) clauses], next⟩ cfg') :
    CVals P hooks prog.types Q (cwSet cw (Γ.length - Γc.length) m)
      (letTau τ cfg.next cw (Γ.length - Γc.length) Γc.length) cfg'.heap cfg'.temps
      (Γ.take (Γ.length - Γc.length) ++ [⟨x, .cns, ty⟩])
      (ρ.take (Γ.length - Γc.length) ++ [.clo Γc (ρ.drop (Γ.length - Γc.length)) clauses]) := by
  have hn : (Γ.take (Γ.length - Γc.length)).length = Γ.length - Γc.length := by simp
  obtain ⟨C0, r', hr', hXB⟩ := Prov.XC.let_parts V.toXC R.len (Nat.sub_le _ _) R.heap hnext
    (fun i _ => by rw [cwTv_snd]; rfl) LP
  have hlenT : (ρ.take (Γ.length - Γc.length)).length = (Γ.take (Γ.length - Γc.length)).length := by
    simp [R.len]
  refine CVals.ofXC (Prov.XC.snoc C0 hlenT ⟨x, .cns, ty⟩ (.clo Γc (ρ.drop (Γ.length - Γc.length)) clauses)
    (fun w hw => ?_)) R'.vals
  rw [hn, cwTv_snd, cwSet_same] at hw
  obtain rfl := Option.some.inj hw
  have hcns : (Chi.cns == Chi.ext) = false := by decide
  rw [hn, hr', ha]
  simp only [hcns, Bool.false_eq_true, if_false, Option.getD_some]
  exact .clo Γc (Γ.drop (Γ.length - Γc.length)) _ clauses r' _ _ hkeys hXB hmeth hQ

section Create3

variable {pr : RV.Program} {ks : List Code} (L : Loaded pr ks) (hnd : (labs ks).Nodup)
  (hheap : mc.heap = false)

include L hnd hheap in
/-- `ThreeWay.create_x3` at the RV64 machine with addresses, with what it did to the positions and the heap and the
methods of the new closure on the abstract machine -/
theorem create_x3P {P : Abs.Program} {hooks : Bool} {prog : AxCut.Prog} {Γ : Ctx} {ρ : List Value} {x : Ident}
    {ty : Ty} {Γc : Ctx} {clauses : Clauses} {next : Stmt} {f1 f2 : FV} {cfg : Config}
    (R : RelX P hooks prog ⟨Γ, ρ, .create x ty (some Γc) clauses next f1 f2⟩ cfg)
    (hk : Γc.length ≤ Γ.length)
    (hkeys : Ctx.keys (Γ.drop (Γ.length - Γc.length)) = Γc.keys)
    (hfresh : ∀ b ∈ Γ.take (Γ.length - Γc.length), b.var.id ≠ x.id)
    (hcap : 2 * (Γ.length - Γc.length + 1) + 2 < Mock.T_TEMP)
    (hnext : cfg.next < 2 ^ 64)
    {hs : HState} {ι : Nat → Nat} {st : State} (X : X3 mc cw τ Γ cfg hs ι st)
    {k k' : Nat} {items : List Code}
    (hrun : (codeStatementR rvBackend hooks natRen prog.types (.create x ty (some Γc) clauses next f1 f2) Γ).run k =
      .ok (items, k'))
    (hat : KAt ks st.pc items)
    (hroom : Room hs (64 * Γc.length + 64)) :
    ∃ cfg' st' hs' ι' m, stepsTo P 2 cfg cfg' ∧ Reach pr mc st st' ∧ FrLe hs hs' (64 * Γc.length) ∧ FrPk hs hs' ∧
      cfg'.out = cfg.out ∧ cfg'.next ≤ cfg.next + 1 ∧
      RelX P hooks prog ⟨Γ.take (Γ.length - Γc.length) ++ [⟨x, .cns, ty⟩],
        ρ.take (Γ.length - Γc.length) ++ [.clo Γc (ρ.drop (Γ.length - Γc.length)) clauses], next⟩ cfg' ∧
      KMethodsAt ks hooks prog.types m (Γ.drop (Γ.length - Γc.length)) clauses ∧
      X3 mc (cwSet cw (Γ.length - Γc.length) m) (letTau τ cfg.next cw (Γ.length - Γc.length) Γc.length)
        (Γ.take (Γ.length - Γc.length) ++ [⟨x, .cns, ty⟩]) cfg' hs' ι' st' ∧
      ∃ k1 k1' items', (codeStatementR rvBackend hooks natRen prog.types next
          (Γ.take (Γ.length - Γc.length) ++ [⟨x, .cns, ty⟩])).run k1 = .ok (items', k1') ∧
        KAt ks st'.pc items' ∧
        Prov.LetProv (cwTv cw) (cwTv (cwSet cw (Γ.length - Γc.length) m)) Γ (Γ.length - Γc.length) cfg cfg' τ
          (letTau τ cfg.next cw (Γ.length - Γc.length) Γc.length) ∧
        ∃ a, cfg'.temps.get (2 * (Γ.length - Γc.length) + 1) = some (BitVec.ofNat 64 a) ∧
          MethodsAt P hooks prog.types a (Γ.drop (Γ.length - Γc.length)) clauses := by
  obtain ⟨X0, C⟩ := (x3r_iff (la := pr.labelAddr)).1 X
  obtain ⟨cfg', st', hs', ι', κ', kp', hst, hreach, hpc', hfr, hpk, hout, hnx, R', X', k1, k1', items', hr', hat',
      LP, a, w, ha, hw, hmeth, base, hb, kk, kk', code, idx, hrunM, hatM, hwM⟩ :=
    ThreeWay.create_x3 (machineA L hnd hheap items) R hk hkeys hfresh hcap hnext X0 hrun (xat_self items)
      (pcAtR_zero hat) hroom
  have hK := kmethodsAt_of_xat hnd hpc' hb hrunM hatM hwM
  have hlenT : (Γ.take (Γ.length - Γc.length)).length = Γ.length - Γc.length := by simp
  -- the closure words: the remaining positions keep theirs, the new position holds `w`
  have hcw : CwOK (cwSet cw (Γ.length - Γc.length) w) (Γ.take (Γ.length - Γc.length) ++ [⟨x, .cns, ty⟩]) cfg' st' := by
    intro i hi hc hdef
    simp only [List.length_append, List.length_singleton, hlenT] at hi
    by_cases hin : i < Γ.length - Γc.length
    · rw [cwSet_other cw w (by omega)]
      have hin' : i < (Γ.take (Γ.length - Γc.length)).length := by rw [hlenT]; exact hin
      rw [List.getElem_append_left hin'] at hc
      have e : rv st' (2 * i + 1) = rv st (2 * i + 1) := LP.keep.mach i hin
      rw [e]
      exact (C.take _) i hin' hc (by rw [← LP.keep.temps _ (by omega)]; exact hdef)
    · have : i = Γ.length - Γc.length := by omega
      subst this
      rw [cwSet_same]
      exact hw
  exact ⟨cfg', st', hs', ι', w, hst, hreach, hfr, hpk, hout, hnx, R', hK,
    X3R.ofM (x3_of_letProv C rfl hk (fun e he => (X0.href.abs.ids _ (ThreeWay.mem_trHeap 4#64 τ he)).2.1) LP X') hcw,
    k1, k1', items', hr', hpc'.next hat', letProv_cw rfl hk LP _ (fun i hi => cwSet_other cw w (by omega)), a, ha,
    hmeth⟩

include L hnd hheap in
/-- `create_x3P` without its last conclusions (`Prov.LetProv` over the closure words, the methods on the abstract
machine) -/
theorem create_x3 {P : Abs.Program} {hooks : Bool} {prog : AxCut.Prog} {Γ : Ctx} {ρ : List Value} {x : Ident}
    {ty : Ty} {Γc : Ctx} {clauses : Clauses} {next : Stmt} {f1 f2 : FV} {cfg : Config}
    (R : RelX P hooks prog ⟨Γ, ρ, .create x ty (some Γc) clauses next f1 f2⟩ cfg)
    (hk : Γc.length ≤ Γ.length)
    (hkeys : Ctx.keys (Γ.drop (Γ.length - Γc.length)) = Γc.keys)
    (hfresh : ∀ b ∈ Γ.take (Γ.length - Γc.length), b.var.id ≠ x.id)
    (hcap : 2 * (Γ.length - Γc.length + 1) + 2 < Mock.T_TEMP)
    (hnext : cfg.next < 2 ^ 64)
    {hs : HState} {ι : Nat → Nat} {st : State} (X : X3 mc cw τ Γ cfg hs ι st)
    {k k' : Nat} {items : List Code}
    (hrun : (codeStatementR rvBackend hooks natRen prog.types (.create x ty (some Γc) clauses next f1 f2) Γ).run k =
      .ok (items, k'))
    (hat : KAt ks st.pc items)
    (hroom : Room hs (64 * Γc.length + 64)) :
    ∃ cfg' st' hs' ι' m, stepsTo P 2 cfg cfg' ∧ Reach pr mc st st' ∧ FrLe hs hs' (64 * Γc.length) ∧ FrPk hs hs' ∧
      cfg'.out = cfg.out ∧ cfg'.next ≤ cfg.next + 1 ∧
      RelX P hooks prog ⟨Γ.take (Γ.length - Γc.length) ++ [⟨x, .cns, ty⟩],
        ρ.take (Γ.length - Γc.length) ++ [.clo Γc (ρ.drop (Γ.length - Γc.length)) clauses], next⟩ cfg' ∧
      KMethodsAt ks hooks prog.types m (Γ.drop (Γ.length - Γc.length)) clauses ∧
      X3 mc (cwSet cw (Γ.length - Γc.length) m) (letTau τ cfg.next cw (Γ.length - Γc.length) Γc.length)
        (Γ.take (Γ.length - Γc.length) ++ [⟨x, .cns, ty⟩]) cfg' hs' ι' st' ∧
      ∃ k1 k1' items', (codeStatementR rvBackend hooks natRen prog.types next
          (Γ.take (Γ.length - Γc.length) ++ [⟨x, .cns, ty⟩])).run k1 = .ok (items', k1') ∧
        KAt ks st'.pc items' := by
  obtain ⟨cfg', st', hs', ι', m, a1, a2, a3, a4, a5, a6, a7, a8, a9, k1, k1', items', b1, b2, _⟩ :=
    create_x3P L hnd hheap R hk hkeys hfresh hcap hnext X hrun hat hroom
  exact ⟨cfg', st', hs', ι', m, a1, a2, a3, a4, a5, a6, a7, a8, a9, k1, k1', items', b1, b2⟩

end Create3

end Scc.RV.Ref
