/-
  Scc.RV.LoaderLemmas — the pieces of the RISC-V loader (Scc/RV/Machine.lean: `words`, `digitsToNat?`,
  `parseReg?`, `parseImm?`, `parseLabelRef?`, `parseHook`) on the texts that the printer (Scc/RV/Instr.lean
  `printCode`) produces, stated on character lists with Scc/StringLemmas.lean, Scc/StringLemmasAscii.lean
  (nothing about core `String` is assumed).  A printed line is a list of tokens joined by single blanks
  (`tokLine`): its words are the tokens, it is its own trimmed form and no comment (`tokLine_facts`).  Registers
  and immediates are read back (`parseReg?_print`, `parseImm?_toString`), and the text of an immediate is no
  register name (`parseReg?_immC`) — this is what tells `ADD rd rs imm` from `ADD rd rs1 rs2`.
  `words_eq`, `parseHook_eq`: `words` and `parseHook` on EVERY string, as functions of its character list.
-/
import Scc.RV.Machine
import Scc.StringLemmasAscii

namespace Scc.RV.Loader

open Scc.Str

set_option linter.unusedSimpArgs false

theorem toString_str (s : String) : toString s = s := rfl

theorem ofList_inj {a b : List Char} (h : String.ofList a = String.ofList b) : a = b := String.ofList_inj.1 h

theorem sw_false {s pat : String} (h : ¬ pat.toList <+: s.toList) : s.startsWith pat = false := by
  rw [startsWith_eq_decide]; simpa using h

theorem sw_true {s pat : String} (h : pat.toList <+: s.toList) : s.startsWith pat = true := by
  rw [startsWith_eq_decide]; simpa using h

theorem ew_singleton (s : String) (c : Char) :
    s.endsWith (String.singleton c) = decide (s.toList.getLast? = some c) := by
  rw [Bool.eq_iff_iff, endsWith_singleton_iff]; simp

/-- the non-empty pieces of a text between blanks -/
def wordsL (l : List Char) : List (List Char) := (splitList ' ' l).filter (fun w => !w.isEmpty)

theorem ofList_ne_empty_iff (w : List Char) : decide (String.ofList w ≠ "") = !w.isEmpty := by
  cases w with
  | nil => simp [String.ofList_nil]
  | cons x xs =>
    have : String.ofList (x :: xs) ≠ "" := by
      intro e
      have := congrArg String.toList e
      simp at this
    simp [this]

theorem words_eq (s : String) : words s = (wordsL s.toList).map String.ofList := by
  unfold words wordsL
  rw [splitOn_space, List.filter_map]
  congr 1
  apply List.filter_congr
  intro w _
  exact ofList_ne_empty_iff w

def Tok (w : List Char) : Prop := w ≠ [] ∧ ∀ c ∈ w, c.isWhitespace = false

theorem tok_no_blank {w : List Char} (h : Tok w) : ' ' ∉ w := fun hm => absurd (h.2 _ hm) (by decide)

theorem tok_no_nl {w : List Char} (h : Tok w) : '\n' ∉ w := fun hm => absurd (h.2 _ hm) (by decide)

theorem tok_trimmed {w : List Char} (h : Tok w) : Trimmed w :=
  ⟨fun c hc => h.2 c (List.mem_of_mem_head? hc), fun c hc => h.2 c (List.mem_of_getLast? hc)⟩

theorem wordsL_intercalate (w : List Char) (ws : List (List Char)) (h : ∀ x ∈ w :: ws, Tok x) :
    wordsL ([' '].intercalate (w :: ws)) = w :: ws := by
  unfold wordsL
  rw [splitList_intercalate ' ' w ws (fun x hx => tok_no_blank (h x hx))]
  apply List.filter_eq_self.2
  intro x hx
  have := (h x hx).1
  cases x with
  | nil => exact absurd rfl this
  | cons _ _ => rfl

/-- the line: the tokens joined by single blanks -/
def tokLine (w : List Char) (ws : List (List Char)) : List Char := [' '].intercalate (w :: ws)

theorem tokLine_cons (w w2 : List Char) (ws : List (List Char)) :
    tokLine w (w2 :: ws) = w ++ ' ' :: tokLine w2 ws := by
  unfold tokLine
  rw [List.intercalate_cons_cons]; simp

theorem tokLine_single (w : List Char) : tokLine w [] = w := by
  unfold tokLine; exact List.intercalate_singleton

theorem tokLine_head {w : List Char} (ws : List (List Char)) (hw : w ≠ []) :
    (tokLine w ws).head? = w.head? := by
  cases ws with
  | nil => rw [tokLine_single]
  | cons w2 ws =>
    rw [tokLine_cons]
    cases w with
    | nil => exact absurd rfl hw
    | cons x xs => rfl

theorem tokLine_ne_nil {w : List Char} (ws : List (List Char)) (hw : w ≠ []) : tokLine w ws ≠ [] := by
  intro e
  have := tokLine_head ws hw
  rw [e] at this
  cases w with
  | nil => exact absurd rfl hw
  | cons x xs => simp at this

theorem tokLine_last (w : List Char) (ws : List (List Char)) (h : ∀ x ∈ w :: ws, Tok x) :
    ∀ c, (tokLine w ws).getLast? = some c → c.isWhitespace = false := by
  induction ws generalizing w with
  | nil =>
    intro c hc
    rw [tokLine_single] at hc
    exact (h w (by simp)).2 c (List.mem_of_getLast? hc)
  | cons w2 ws ih =>
    intro c hc
    have hne : tokLine w2 ws ≠ [] := tokLine_ne_nil ws (h w2 (by simp)).1
    have e : w ++ ' ' :: tokLine w2 ws = (w ++ [' ']) ++ tokLine w2 ws := by simp
    rw [tokLine_cons, e, getLast?_append_ne_nil hne] at hc
    exact ih w2 (fun x hx => h x (by simp at hx ⊢; right; exact hx)) c hc

theorem tokLine_trimmed (w : List Char) (ws : List (List Char)) (h : ∀ x ∈ w :: ws, Tok x) :
    Trimmed (tokLine w ws) := by
  refine ⟨?_, tokLine_last w ws h⟩
  intro c hc
  rw [tokLine_head ws (h w (by simp)).1] at hc
  exact (h w (by simp)).2 c (List.mem_of_mem_head? hc)

theorem tokLine_no_nl (w : List Char) (ws : List (List Char)) (h : ∀ x ∈ w :: ws, Tok x) :
    '\n' ∉ tokLine w ws := by
  induction ws generalizing w with
  | nil => rw [tokLine_single]; exact tok_no_nl (h w (by simp))
  | cons w2 ws ih =>
    rw [tokLine_cons]
    intro hm
    simp only [List.mem_append, List.mem_cons] at hm
    rcases hm with hm | hm | hm
    · exact tok_no_nl (h w (by simp)) hm
    · exact absurd hm (by decide)
    · exact ih w2 (fun x hx => h x (by simp at hx ⊢; right; exact hx)) hm

def NoSlash (w : List Char) : Prop := ¬ ['/', '/'] <+: w

theorem tokLine_not_slash {w : List Char} (ws : List (List Char)) (hw : Tok w) (hs : NoSlash w) :
    ¬ ['/', '/'] <+: tokLine w ws := by
  cases ws with
  | nil => rw [tokLine_single]; exact hs
  | cons w2 ws =>
    rw [tokLine_cons]
    rintro ⟨t, ht⟩
    match w, hw, hs with
    | [], hw, _ => exact hw.1 rfl
    | [x], hw, _ =>
      simp only [List.cons_append, List.nil_append, List.cons.injEq] at ht
      exact absurd ht.2.1 (by decide)
    | x :: y :: r, _, hs =>
      simp only [List.cons_append, List.nil_append, List.cons.injEq] at ht
      exact hs ⟨r, by rw [← ht.1, ← ht.2.1]; rfl⟩

theorem noSlash_of_head {w : List Char} (h : w.head? ≠ some '/') : NoSlash w := by
  rintro ⟨t, rfl⟩
  exact h rfl

theorem prefix_slash_of_slash_blank {l : List Char} (h : ['/', '/', ' '] <+: l) : ['/', '/'] <+: l := by
  obtain ⟨t, rfl⟩ := h
  exact ⟨' ' :: t, rfl⟩

/-- what `parseLine` sees of a line of tokens: it is its own trimmed form, it is not empty, it is no
    comment, and its words are the tokens -/
theorem tokLine_facts (w : List Char) (ws : List (List Char)) (h : ∀ x ∈ w :: ws, Tok x) (hs : NoSlash w) :
    let t := String.ofList (tokLine w ws)
    t.trimAscii.toString = t ∧ t.isEmpty = false ∧ t.startsWith "// " = false ∧ t.startsWith "//" = false ∧
      words t = (w :: ws).map String.ofList := by
  have hw := h w (by simp)
  have he : (String.ofList (tokLine w ws)).toList = tokLine w ws := String.toList_ofList
  refine ⟨?_, ?_, ?_, ?_, ?_⟩
  · rw [trimAscii_eq, String.toList_ofList, trimList_of_trimmed (tokLine_trimmed w ws h)]
  · rw [isEmpty_ofList]
    cases hl : tokLine w ws with
    | nil => exact absurd hl (tokLine_ne_nil ws hw.1)
    | cons _ _ => rfl
  · apply sw_false
    rw [he]
    exact fun hp => tokLine_not_slash ws hw hs (prefix_slash_of_slash_blank hp)
  · apply sw_false
    rw [he]
    exact tokLine_not_slash ws hw hs
  · rw [words_eq, String.toList_ofList]
    unfold tokLine
    rw [wordsL_intercalate w ws h]

theorem toList_toString_nat (n : Nat) : (toString n).toList = Nat.toDigits 10 n := Str.toList_toString_nat n

theorem isDigit_facts {c : Char} (h : c.isDigit = true) :
    c.isWhitespace = false ∧ c ≠ 'X' ∧ c ≠ '-' ∧ c ≠ '/' := by
  have hr : 48 ≤ c.val ∧ c.val ≤ 57 := by simpa [Char.isDigit] using h
  have key : ∀ d : Char, (d.val < 48 ∨ 57 < d.val) → c ≠ d := by
    intro d hd e; subst e
    rcases hd with hd | hd
    · exact absurd hr.1 (by simpa using hd)
    · exact absurd hr.2 (by simpa using hd)
  refine ⟨?_, key _ (by decide), key _ (by decide), key _ (by decide)⟩
  simp only [Char.isWhitespace, Bool.or_eq_false_iff, decide_eq_false_iff_not]
  exact ⟨⟨⟨key _ (by decide), key _ (by decide)⟩, key _ (by decide)⟩, key _ (by decide)⟩

theorem foldl_digits' (l : List Char) (init : Nat) :
    l.foldl (fun n c => 10 * n + (c.toNat - '0'.toNat)) init = Nat.ofDigitChars 10 l init := by
  unfold Nat.ofDigitChars
  induction l generalizing init with
  | nil => rfl
  | cons c cs ih => simp only [List.foldl_cons]

theorem digitsToNat?_toDigits (n : Nat) : digitsToNat? (Nat.toDigits 10 n) = some n := by
  unfold digitsToNat?
  have hne : (Nat.toDigits 10 n).isEmpty = false := by
    obtain ⟨d, ds, hd, _⟩ := toDigits_head n
    rw [hd]; rfl
  have hall : (Nat.toDigits 10 n).all Char.isDigit = true := by
    rw [List.all_eq_true]; exact isDigit_toDigits n
  simp only [hne, hall, Bool.not_true, Bool.or_self, Bool.false_eq_true, if_false]
  rw [foldl_digits', Nat.ofDigitChars_ten_toDigits]

def regC (r : Register) : List Char := 'X' :: Nat.toDigits 10 r.n

theorem print_eq (r : Register) : r.print = String.ofList (regC r) := by
  apply String.ext
  simp [Register.print, regC, String.toList_append, toList_toString_nat]

theorem tok_regC (r : Register) : Tok (regC r) := by
  refine ⟨by simp [regC], ?_⟩
  intro c hc
  simp only [regC, List.mem_cons] at hc
  rcases hc with rfl | hc
  · decide
  · exact (isDigit_facts (isDigit_toDigits _ c hc)).1

theorem parseReg?_regC (r : Register) (h : r.n < registerNum) : parseReg? (String.ofList (regC r)) = some r := by
  unfold parseReg?
  simp only [String.toList_ofList, regC, digitsToNat?_toDigits, h, toString_nat, beq_self_eq_true,
    Bool.and_self, decide_true, if_true]

theorem parseReg?_print (r : Register) (h : r.n < registerNum) : parseReg? r.print = some r := by
  rw [print_eq]; exact parseReg?_regC r h

theorem toList_repr_int (i : Int) : i.repr.toList = immC i := by
  have := toString_int i
  rw [← String.toList_ofList (l := immC i), ← this]; rfl

theorem tok_immC (i : Int) : Tok (immC i) :=
  ⟨immC_ne_nil i, fun c hc => by
    rcases immC_mem i c hc with h | rfl
    · exact (isDigit_facts h).1
    · decide⟩

theorem parseImm?_immC (i : Int) : parseImm? (String.ofList (immC i)) = some i := by
  unfold parseImm?
  rw [String.toList_ofList]
  cases i with
  | ofNat n =>
    obtain ⟨d, ds, hd, hdig⟩ := toDigits_head n
    have hm : d ≠ '-' := (isDigit_facts hdig).2.2.1
    simp only [immC, hd]
    split
    · rename_i heq; injection heq with h _; exact absurd h hm
    · rw [← hd, digitsToNat?_toDigits]; rfl
  | negSucc n =>
    simp only [immC, digitsToNat?_toDigits, Option.map_some]
    rw [Int.negSucc_eq]; rfl

theorem parseImm?_toString (i : Int) : parseImm? (toString i) = some i := by
  rw [toString_int]; exact parseImm?_immC i

theorem parseReg?_immC (i : Int) : parseReg? (String.ofList (immC i)) = none := by
  have hhead : ∃ d ds, immC i = d :: ds ∧ d ≠ 'X' := by
    cases i with
    | ofNat n =>
      obtain ⟨d, ds, hd, hdig⟩ := toDigits_head n
      exact ⟨d, ds, hd, (isDigit_facts hdig).2.1⟩
    | negSucc n => exact ⟨'-', _, rfl, by decide⟩
  obtain ⟨d, ds, hd, hX⟩ := hhead
  unfold parseReg?
  rw [String.toList_ofList, hd]
  split
  · rename_i heq; injection heq with h _; exact absurd h hX
  · rfl

theorem parseLabelRef?_ofList {l : List Char} (h : l ≠ []) :
    parseLabelRef? (String.ofList l) = some (String.ofList l) := by
  unfold parseLabelRef?
  have : (String.ofList l).isEmpty = false := by
    rw [isEmpty_ofList]
    cases l with
    | nil => exact absurd rfl h
    | cons _ _ => rfl
  simp [this]

def kindL (k : List Char) : Option Bool :=
  if k = ['p', 'r', 'd'] then some true else if k = ['c', 'n', 's'] then some true
  else if k = ['e', 'x', 't'] then some false else none

/-- one binding of a hook: the kind after the last colon -/
def hookKindL (w : List Char) : Option Bool :=
  match (splitList ':' w).getLast? with
  | some k => kindL k
  | none => none

def parseHookL (l : List Char) : Option (Option (List Bool)) :=
  if "#ctx [".toList.isPrefixOf l && l.getLast? == some ']' then
    some ((wordsL ((l.drop 6).dropLast)).mapM hookKindL)
  else none

theorem kind_match (w : String) :
    (match (w.splitOn ":").getLast? with
      | some "prd" => some true
      | some "cns" => some true
      | some "ext" => some false
      | _ => none)
    = hookKindL w.toList := by
  unfold hookKindL
  rw [splitOn_colon, List.getLast?_map]
  cases (splitList ':' w.toList).getLast? with
  | none => rfl
  | some k =>
    simp only [Option.map_some]
    unfold kindL
    by_cases h1 : k = ['p', 'r', 'd']
    · subst h1; rfl
    · by_cases h2 : k = ['c', 'n', 's']
      · subst h2; rfl
      · by_cases h3 : k = ['e', 'x', 't']
        · subst h3; rfl
        · have e1 : String.ofList k ≠ "prd" := fun e => h1 (ofList_eq_iff.1 e)
          have e2 : String.ofList k ≠ "cns" := fun e => h2 (ofList_eq_iff.1 e)
          have e3 : String.ofList k ≠ "ext" := fun e => h3 (ofList_eq_iff.1 e)
          simp only [h1, h2, h3, if_false]
          split <;> first | rfl | (rename_i heq; injection heq with heq; first | exact absurd heq e1 | exact absurd heq e2 | exact absurd heq e3)

theorem parseHook_eq (s : String) : parseHook s = parseHookL s.toList := by
  unfold parseHook parseHookL
  have hsw : s.startsWith "#ctx [" = "#ctx [".toList.isPrefixOf s.toList := by
    rw [startsWith_eq_decide, Bool.eq_iff_iff, decide_eq_true_iff, List.isPrefixOf_iff_prefix]
  have hew : s.endsWith "]" = (s.toList.getLast? == some ']') := by
    have : "]" = String.singleton ']' := rfl
    rw [this, ew_singleton, Bool.eq_iff_iff]; simp
  rw [hsw, hew]
  split
  · dsimp only
    congr 1
    rw [words_eq, toList_drop_dropEnd, List.mapM_map]
    have e : (List.drop 6 s.toList).take ((List.drop 6 s.toList).length - 1) = (List.drop 6 s.toList).dropLast := by
      rw [List.dropLast_eq_take]
    rw [e]
    congr 1
    funext w
    have := kind_match (String.ofList w)
    rw [String.toList_ofList] at this
    exact this
  · rfl

end Scc.RV.Loader
