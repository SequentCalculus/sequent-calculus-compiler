/-
  Scc.RV.MemProofsRun — THE BRIDGE from the block semantics with forward local labels (`execFwd`,
  MemLemmas.lean) to the machine's run loop (`runLoop`, Machine.lean): if the laid-out program contains
  the block at the current item index and the labels the block defines resolve into the block, then
  whenever `execFwd` runs the block to its end, `runLoop` does the same and arrives just behind it.

  The layout drops plain comments (`layoutStep`), and `execFwd` executes an instruction with code
  address 0 while `runLoop` passes the real address, so the bridge is stated for the comment-free part
  `stripComments codes` of a block whose instructions do not use their own address (`PcFree`: no `JALR`,
  no `JAL` with a link register other than `X0` — true of everything memory.rs emits).
-/
import Scc.RV.MemLemmas

set_option linter.unusedSimpArgs false

namespace Scc.RV

def Code.isComment : Code → Bool
  | .COMMENT _ => true
  | _ => false

/-- the block without its comments (what `layout` keeps of a block without hooks) -/
def stripComments (codes : List Code) : List Code := codes.filter (fun c => !c.isComment)

theorem skipTo_stripComments (l : String) : ∀ (cs : List Code),
    skipTo l (stripComments cs) = (skipTo l cs).map stripComments
  | [] => rfl
  | c :: cs => by
    by_cases hc : c.isComment = true
    · have e1 : stripComments (c :: cs) = stripComments cs := by simp [stripComments, hc]
      rw [e1]
      cases c <;> simp [Code.isComment] at hc
      simp only [skipTo]
      exact skipTo_stripComments l cs
    · have e1 : stripComments (c :: cs) = c :: stripComments cs := by simp [stripComments, hc]
      rw [e1]
      cases c <;> simp only [skipTo]
      case LAB l' =>
        split
        · simp
        · exact skipTo_stripComments l cs
      all_goals exact skipTo_stripComments l cs

theorem execFwd_stripComments (cfg : MonCfg) (la : String → Option Nat) : ∀ (n : Nat) (cs : List Code)
    (s : State), cs.length ≤ n → execFwd cfg la (stripComments cs) s = execFwd cfg la cs s := by
  intro n
  induction n with
  | zero =>
    intro cs s h
    have : cs = [] := List.eq_nil_of_length_eq_zero (Nat.le_zero.mp h)
    subst this; rfl
  | succ n ih =>
    intro cs s h
    cases cs with
    | nil => rfl
    | cons c cs =>
      have hcs : cs.length ≤ n := by simpa using h
      by_cases hc : c.isComment = true
      · have e1 : stripComments (c :: cs) = stripComments cs := by simp [stripComments, hc]
        rw [e1, execFwd_cons]
        cases c <;> simp [Code.isComment] at hc
        simp only [exec, contFwd]
        exact ih cs s hcs
      · have e1 : stripComments (c :: cs) = c :: stripComments cs := by simp [stripComments, hc]
        rw [e1, execFwd_cons, execFwd_cons]
        cases hex : exec cfg la 0 c s with
        | error e => simp [contFwd]
        | ok r =>
          obtain ⟨s1, nx⟩ := r
          cases nx with
          | fall => simp only [contFwd]; exact ih cs s1 hcs
          | addr x => simp [contFwd]
          | label l =>
            simp only [contFwd, skipTo_stripComments]
            cases hsk : skipTo l cs with
            | none => simp
            | some r =>
              have := skipTo_length hsk
              simp only [Option.map_some]
              exact ih r s1 (by omega)

def setPS (s : State) (pc steps : Nat) : State := { s with pc := pc, steps := steps }

def mapPS (pc steps : Nat) : Except String (State × Next) → Except String (State × Next)
  | .error e => .error e
  | .ok (s, n) => .ok (setPS s pc steps, n)

theorem readReg_setPS (s : State) (p k : Nat) (r : Register) : (setPS s p k).readReg r = s.readReg r := rfl

theorem writeReg_setPS (s : State) (p k : Nat) (r : Register) (v : Word) :
    (setPS s p k).writeReg r v = setPS (s.writeReg r v) p k := by
  unfold State.writeReg setPS; split <;> rfl

theorem copyReg_setPS (s : State) (p k : Nat) (x y : Register) :
    (setPS s p k).copyReg x y = setPS (s.copyReg x y) p k := by
  unfold State.copyReg setPS; split
  · rfl
  · split <;> rfl

theorem load_setPS (cfg : MonCfg) (s : State) (p k a : Nat) : (setPS s p k).load cfg a = s.load cfg a := rfl

theorem store_setPS (cfg : MonCfg) (s : State) (p k a : Nat) (v : Word) :
    (setPS s p k).store cfg a v = match s.store cfg a v with
      | .error e => .error e
      | .ok s1 => .ok (setPS s1 p k) := by
  unfold State.store
  cases checkAddr cfg a <;> rfl

theorem exec_setPS (cfg : MonCfg) (la : String → Option Nat) (a p k : Nat) (c : Code) (s : State) :
    exec cfg la a c (setPS s p k) = mapPS p k (exec cfg la a c s) := by
  have harith : ∀ x y z f, arith3 (setPS s p k) x y z f = mapPS p k (arith3 s x y z f) := by
    intro x y z f
    simp only [arith3, readReg_setPS]
    cases s.readReg y with
    | error e => rfl
    | ok a =>
      dsimp only
      cases s.readReg z with
      | error e => rfl
      | ok b =>
        dsimp only
        cases f a b with
        | error e => rfl
        | ok v => simp [mapPS, writeReg_setPS]
  have hbranch : ∀ x y l f, branch (setPS s p k) x y l f = mapPS p k (branch s x y l f) := by
    intro x y l f
    simp only [branch, readReg_setPS]
    cases s.readReg x with
    | error e => rfl
    | ok a =>
      cases s.readReg y with
      | error e => rfl
      | ok b => rfl
  cases c <;> simp only [exec, harith, hbranch]
  case ADDI x y c =>
    simp only [readReg_setPS]
    cases s.readReg y with
    | error e => rfl
    | ok a => simp [mapPS, writeReg_setPS]
  case JAL x l => simp [mapPS, writeReg_setPS]
  case JALR x y c =>
    simp only [readReg_setPS]
    cases s.readReg y with
    | error e => rfl
    | ok a => simp [mapPS, writeReg_setPS]
  case LA x l =>
    cases la l with
    | none => rfl
    | some a => simp [mapPS, writeReg_setPS]
  case LI x c => simp [mapPS, writeReg_setPS]
  case MV x y => simp [mapPS, copyReg_setPS]
  case LW x y c =>
    simp only [readReg_setPS, load_setPS]
    cases s.readReg y with
    | error e => rfl
    | ok b =>
      dsimp only
      cases s.load cfg (b + imm c).toNat with
      | error e => rfl
      | ok v => simp [mapPS, writeReg_setPS]
  case SW x y c =>
    simp only [readReg_setPS, store_setPS]
    cases s.readReg x with
    | error e => rfl
    | ok v =>
      dsimp only
      cases s.readReg y with
      | error e => rfl
      | ok b =>
        dsimp only
        cases s.store cfg (b + imm c).toNat v with
        | error e => rfl
        | ok s1 => rfl
  case LAB l => rfl
  case COMMENT m => rfl

theorem execFwd_setPS (cfg : MonCfg) (la : String → Option Nat) (p k : Nat) :
    ∀ (n : Nat) (codes : List Code) (s : State), codes.length ≤ n →
      execFwd cfg la codes (setPS s p k) = mapPS p k (execFwd cfg la codes s) := by
  intro n
  induction n with
  | zero =>
    intro codes s h
    have : codes = [] := List.eq_nil_of_length_eq_zero (Nat.le_zero.mp h)
    subst this
    simp [execFwd_nil, mapPS]
  | succ n ih =>
    intro codes s h
    cases codes with
    | nil => simp [execFwd_nil, mapPS]
    | cons cd cs =>
      have hcs : cs.length ≤ n := by simpa using h
      rw [execFwd_cons, execFwd_cons, exec_setPS]
      cases hex : exec cfg la 0 cd s with
      | error e => simp [mapPS, contFwd]
      | ok r =>
        obtain ⟨s1, ctl⟩ := r
        cases ctl with
        | fall => simp only [mapPS, contFwd]; exact ih cs s1 hcs
        | addr a => simp [mapPS, contFwd]
        | label l =>
          simp only [mapPS, contFwd]
          cases hsk : skipTo l cs with
          | none => simp [mapPS]
          | some rest =>
            have := skipTo_length hsk
            simp only
            exact ih rest s1 (by omega)

/-- the instruction does not use its own code address -/
def PcFree : Code → Bool
  | .JAL x _ => x.n == 0
  | .JALR _ _ _ => false
  | _ => true

theorem exec_pcFree (cfg : MonCfg) (la : String → Option Nat) (a : Nat) {c : Code} (h : PcFree c = true)
    (s : State) : exec cfg la a c s = exec cfg la 0 c s := by
  cases c <;> simp only [exec] <;> simp [PcFree] at h
  case JAL x l => simp [State.writeReg, h]

theorem exec_pc_steps {cfg : MonCfg} {la : String → Option Nat} {a : Nat} {c : Code} {s s1 : State} {n : Next}
    (h : exec cfg la a c s = .ok (s1, n)) : s1.pc = s.pc ∧ s1.steps = s.steps := by
  have := exec_setPS cfg la a s.pc s.steps c s
  have e : setPS s s.pc s.steps = s := rfl
  rw [e, h] at this
  simp only [mapPS, Except.ok.injEq, Prod.mk.injEq, and_true] at this
  rw [this]
  exact ⟨rfl, rfl⟩

section Loop
variable (p : Program) (cfg : MonCfg)

/-- a label other than `cleanup` is passed -/
theorem runLoop_label (fuel : Nat) (s : State) {it : Item} {l : String} (hit : p.items[s.pc]? = some it)
    (hc : it.code = .LAB l) (hl : l ≠ "cleanup") :
    runLoop p cfg (fuel + 1) s = runLoop p cfg fuel { s with pc := s.pc + 1 } := by
  have : (l == "cleanup") = false := by simpa using hl
  simp only [runLoop, hit, hc, this, Bool.false_eq_true, if_false]

/-- an instruction that falls through -/
theorem runLoop_fall (fuel : Nat) (s s1 : State) {it : Item} (hit : p.items[s.pc]? = some it)
    (hi : it.code.isInstr = true)
    (hx : exec cfg p.labelAddr it.addr it.code s = .ok (s1, .fall)) :
    runLoop p cfg (fuel + 1) s = runLoop p cfg fuel (setPS s1 (s.pc + 1) (s.steps + 1)) := by
  obtain ⟨_, hst⟩ := exec_pc_steps hx
  obtain ⟨line, code, addr, roots⟩ := it
  simp only at hi hx
  cases code <;> simp [Code.isInstr] at hi <;> simp only [runLoop, hit, hx, setPS, hst]

/-- an instruction that jumps to a label -/
theorem runLoop_jump (fuel : Nat) (s s1 : State) {it : Item} {l : String} {i : Nat}
    (hit : p.items[s.pc]? = some it) (hi : it.code.isInstr = true)
    (hx : exec cfg p.labelAddr it.addr it.code s = .ok (s1, .label l)) (hl : p.labelIdx[l]? = some i) :
    runLoop p cfg (fuel + 1) s = runLoop p cfg fuel (setPS s1 i (s.steps + 1)) := by
  obtain ⟨_, hst⟩ := exec_pc_steps hx
  obtain ⟨line, code, addr, roots⟩ := it
  simp only at hi hx
  cases code <;> simp [Code.isInstr] at hi <;> simp only [runLoop, hit, hx, hl, setPS, hst]

end Loop

theorem skipTo_spec {l : String} : ∀ {cs rest : List Code}, skipTo l cs = some rest →
    ∃ j, cs[j]? = some (.LAB l) ∧ rest = cs.drop (j + 1)
  | [], _, h => by simp [skipTo] at h
  | cd :: cs, rest, h => by
    have key : skipTo l cs = some rest → ∃ j, (cd :: cs)[j]? = some (.LAB l) ∧ rest = (cd :: cs).drop (j + 1) := by
      intro h'
      obtain ⟨j, h1, h2⟩ := skipTo_spec h'
      exact ⟨j + 1, by simpa using h1, by simpa using h2⟩
    cases cd <;> simp only [skipTo] at h
    case LAB l' =>
      split at h
      · rename_i e
        injection h with h
        exact ⟨0, by simp [e], by simp [h]⟩
      · exact key h
    all_goals exact key h

/-- the laid-out program contains the comment-free block `cs` at item index `pc0`, and every label the
block defines resolves to its position in the block (i.e. it is defined nowhere earlier in the text;
with unique labels, C14-T3, nowhere else) -/
structure BlockAt (p : Program) (pc0 : Nat) (cs : List Code) : Prop where
  code : ∀ i (h : i < cs.length), ∃ it, p.items[pc0 + i]? = some it ∧ it.code = cs[i]
  labels : ∀ j l, cs[j]? = some (.LAB l) → p.labelIdx[l]? = some (pc0 + j)

/-- the conditions under which a block can be run item by item: no comments (the layout has dropped
them), no use of the own code address, and the label `cleanup` (where the run ends) is not defined -/
structure Runnable (cs : List Code) : Prop where
  noComment : ∀ c ∈ cs, c.isComment = false
  pcFree : ∀ c ∈ cs, PcFree c = true
  noCleanup : Code.LAB "cleanup" ∉ cs

theorem exec_LAB' (cfg : MonCfg) (la : String → Option Nat) (a : Nat) (l : String) (s : State) :
    exec cfg la a (.LAB l) s = .ok (s, .fall) := rfl

/-- THE BRIDGE: whenever `execFwd` runs the block (from offset `off`) to its end, `runLoop` does the
same — it consumes `k` units of fuel and continues just behind the block with the same registers and
memory. -/
theorem run_fwd (p : Program) (cfg : MonCfg) (pc0 : Nat) (cs : List Code) (hb : BlockAt p pc0 cs)
    (hr : Runnable cs) :
    ∀ (n off : Nat) (s s' : State), cs.length - off ≤ n → off ≤ cs.length → s.pc = pc0 + off →
      execFwd cfg p.labelAddr (cs.drop off) s = .ok (s', .fall) →
      ∃ k steps', ∀ fuel, runLoop p cfg (fuel + k) s = runLoop p cfg fuel (setPS s' (pc0 + cs.length) steps') := by
  intro n
  induction n with
  | zero =>
    intro off s s' hn hoff hpc hx
    have : off = cs.length := by omega
    subst this
    rw [List.drop_length, execFwd_nil] at hx
    simp only [Except.ok.injEq, Prod.mk.injEq, and_true] at hx
    subst hx
    exact ⟨0, s.steps, fun fuel => by simp only [Nat.add_zero, setPS, ← hpc]⟩
  | succ n ih =>
    intro off s s' hn hoff hpc hx
    by_cases hlt : off < cs.length
    · have hdrop : cs.drop off = cs[off] :: cs.drop (off + 1) := by
        rw [List.drop_eq_getElem_cons hlt]
      obtain ⟨it, hit, hcode⟩ := hb.code off hlt
      rw [← hpc] at hit
      have hmem : cs[off] ∈ cs := List.getElem_mem hlt
      have hfree := hr.pcFree _ hmem
      have hncom := hr.noComment _ hmem
      rw [hdrop, execFwd_cons] at hx
      cases hex : exec cfg p.labelAddr 0 cs[off] s with
      | error e => simp [hex, contFwd] at hx
      | ok r =>
        obtain ⟨s1, ctl⟩ := r
        rw [hex] at hx
        have hex' : exec cfg p.labelAddr it.addr it.code s = .ok (s1, ctl) := by
          rw [hcode, exec_pcFree cfg _ _ hfree]; exact hex
        by_cases hlab : ∃ l, cs[off] = .LAB l
        · -- a label of the block: passed
          obtain ⟨l, hl⟩ := hlab
          rw [hl] at hex
          simp only [exec_LAB', Except.ok.injEq, Prod.mk.injEq] at hex
          obtain ⟨rfl, rfl⟩ := hex
          simp only [contFwd] at hx
          have hne : l ≠ "cleanup" := fun e => hr.noCleanup (by rw [← e, ← hl]; exact hmem)
          have hx' := execFwd_setPS cfg p.labelAddr (s.pc + 1) s.steps _ (cs.drop (off + 1)) s (Nat.le_refl _)
          rw [hx] at hx'
          obtain ⟨k, st, hk⟩ := ih (off + 1) _ _ (by omega) (by omega) (by simp only [setPS]; omega) hx'
          refine ⟨k + 1, st, fun fuel => ?_⟩
          rw [← Nat.add_assoc, runLoop_label p cfg (fuel + k) s hit (by rw [hcode, hl]) hne]
          exact hk fuel
        · -- an instruction
          have hins : it.code.isInstr = true := by
            rw [hcode]
            cases hc : cs[off] <;> simp [Code.isInstr]
            · exact hlab ⟨_, hc⟩
            · rw [hc] at hncom; simp [Code.isComment] at hncom
          cases ctl with
          | fall =>
            simp only [contFwd] at hx
            have hx' := execFwd_setPS cfg p.labelAddr (s.pc + 1) (s.steps + 1) _ (cs.drop (off + 1)) s1
              (Nat.le_refl _)
            rw [hx] at hx'
            obtain ⟨k, st, hk⟩ := ih (off + 1) _ _ (by omega) (by omega) (by simp only [setPS]; omega) hx'
            refine ⟨k + 1, st, fun fuel => ?_⟩
            rw [← Nat.add_assoc, runLoop_fall p cfg (fuel + k) s s1 hit hins hex']
            exact hk fuel
          | label l =>
            simp only [contFwd] at hx
            cases hsk : skipTo l (cs.drop (off + 1)) with
            | none => simp [hsk] at hx
            | some rest =>
              simp only [hsk] at hx
              obtain ⟨j, hj, hrest⟩ := skipTo_spec hsk
              have hj' : cs[off + 1 + j]? = some (.LAB l) := by
                rw [List.getElem?_drop] at hj; exact hj
              obtain ⟨hjlt, hjeq⟩ := List.getElem?_eq_some_iff.1 hj'
              have hl := hb.labels _ _ hj'
              have hdrop2 : cs.drop (off + 1 + j) = .LAB l :: rest := by
                rw [List.drop_eq_getElem_cons hjlt, hrest, List.drop_drop, hjeq]
                rfl
              have hx2 : execFwd cfg p.labelAddr (cs.drop (off + 1 + j)) s1 = .ok (s', .fall) := by
                rw [hdrop2, execFwd_cons, exec_LAB']
                simp only [contFwd]
                exact hx
              have hx' := execFwd_setPS cfg p.labelAddr (pc0 + (off + 1 + j)) (s.steps + 1) _
                (cs.drop (off + 1 + j)) s1 (Nat.le_refl _)
              rw [hx2] at hx'
              obtain ⟨k, st, hk⟩ := ih (off + 1 + j) _ _ (by omega) (by omega) (by simp only [setPS]) hx'
              refine ⟨k + 1, st, fun fuel => ?_⟩
              rw [← Nat.add_assoc, runLoop_jump p cfg (fuel + k) s s1 hit hins hex' hl]
              exact hk fuel
          | addr a => simp [contFwd] at hx
    · have : off = cs.length := by omega
      subst this
      rw [List.drop_length, execFwd_nil] at hx
      simp only [Except.ok.injEq, Prod.mk.injEq, and_true] at hx
      subst hx
      exact ⟨0, s.steps, fun fuel => by simp only [Nat.add_zero, setPS, ← hpc]⟩

/-- THE BRIDGE for a block WITH comments: the laid-out program contains its comment-free part -/
theorem run_fwd_block (p : Program) (cfg : MonCfg) (codes : List Code) (s s' : State)
    (hb : BlockAt p s.pc (stripComments codes)) (hr : Runnable (stripComments codes))
    (hx : execFwd cfg p.labelAddr codes s = .ok (s', .fall)) :
    ∃ k steps', ∀ fuel, runLoop p cfg (fuel + k) s =
      runLoop p cfg fuel (setPS s' (s.pc + (stripComments codes).length) steps') := by
  rw [← execFwd_stripComments cfg p.labelAddr codes.length codes s (Nat.le_refl _)] at hx
  exact run_fwd p cfg s.pc _ hb hr (stripComments codes).length 0 s s' (by omega) (by omega) rfl
    (by simpa using hx)

/-- `Runnable` is decidable: the check on a concrete block -/
def runnableB (cs : List Code) : Bool :=
  cs.all (fun c => !c.isComment && PcFree c && !(decide (c = Code.LAB "cleanup")))

theorem runnable_of_B {cs : List Code} (h : runnableB cs = true) : Runnable cs := by
  unfold runnableB at h
  rw [List.all_eq_true] at h
  refine ⟨fun c hc => ?_, fun c hc => ?_, fun hc => ?_⟩
  · have := h c hc
    simp only [Bool.and_eq_true, Bool.not_eq_true'] at this
    exact this.1.1
  · have := h c hc
    simp only [Bool.and_eq_true] at this
    exact this.1.2
  · have := h _ hc
    simp at this

end Scc.RV
