/-
  Scc.RV.ConcPeakRun — the peak hypothesis of the footprint theorems on the RV64 runs: `PeakFrom` (at no statement
  boundary the machine reaches are more than `Pk` blocks in use) is the hypothesis of the footprint invariant of
  `Scc/Backend/TrackHeap.lean` at the boundaries `Conc.boundaries` (`PeakFrom.track`); `ChainRel` is what that
  invariant leaves at every state of a run (`chainRel_of_peakRun`): the relation of the chains of
  Scc/RV/ConcC10.lean.
-/
import Scc.RV.ConcRun

namespace Scc.RV.Conc

open Scc.AxCut Scc.Backend Scc.RV.Ref
open Scc.Props.C14Generic (LabelSafe)
open Scc.Props.C06Generic (outAfter WithinCapacity Reachable EnoughHeap CodeFits statesOf stopsWithin)
open Scc.Heap (HState InvS InvW Exhausted)
open Scc.Heap.Refine (HRef FrLe Room FrPk)
open Scc.X86.Conc (FrBound LiveLe LiveLe0)
open Scc.X86.Ref.K (allocArity AllocLe AllocLeClauses ValAll hered_step hered_allocLe allocArity_le)

/-- THE PEAK HYPOTHESIS from the machine state `X` on: at every statement boundary the machine reaches from `X`
(with at most `C` blocks below the frontier), at most `Pk` blocks are in use -/
def PeakFrom (mc : MonCfg) (pr : RV.Program) (ks : List Code) (P : Abs.Program) (hooks : Bool)
    (prog : AxCut.Prog) (st : Pos.State) (X : State) (Pk C : Nat) : Prop :=
  ∀ n X' st' cfg' hs', Reachable prog st st' → stepN pr mc n X = .inl X' →
    Rel3 mc ks P hooks prog st' cfg' hs' X' → FrBound hs' C → LiveLe0 hs' Pk

/-- … as the hypothesis of the footprint invariant of `Scc/Backend/TrackHeap.lean` at the boundaries `Conc.Bd` -/
theorem PeakFrom.track {mc : MonCfg} {pr : RV.Program} {ks : List Code} {P : Abs.Program} {hooks : Bool}
    {prog : AxCut.Prog} {st : Pos.State} {X : State} {Pk C : Nat} (h : PeakFrom mc pr ks P hooks prog st X Pk C) :
    Track.PeakFrom (Steps pr mc) prog (Bd mc ks P hooks prog) st X Pk C :=
  fun n X' st' _ cfg' hs' hr hn B => h n X' st' cfg' hs' hr hn B.rel

/-- the relation of the chains of Scc/RV/ConcC10.lean: a boundary state, with the two bounds on the frontier -/
def ChainRel (mc : MonCfg) (ks : List Code) (P : Abs.Program) (hooks : Bool) (prog : AxCut.Prog) (Pk C : Nat)
    (st : Pos.State) (X : State) : Prop :=
  ∃ cfg hs, Rel3 mc ks P hooks prog st cfg hs X ∧ FrBound hs (Pk + 1) ∧ FrBound hs C

theorem chainRel_of_peakRun {mc : MonCfg} {pr : RV.Program} {ks : List Code} {P : Abs.Program} {hooks : Bool}
    {prog : AxCut.Prog} {A Pk C : Nat} (st : Pos.State) (X : State)
    (h : ∃ r acc, Track.PeakRun (Steps pr mc) prog (Bd mc ks P hooks prog) A Pk C r st acc X) :
    ChainRel mc ks P hooks prog Pk C st X := by
  obtain ⟨_, _, cfg, hs, Cb, I, _, hC⟩ := h
  exact ⟨cfg, hs, I.bd.rel, I.fb, fun rs lin lazy live F J => by have := I.cb rs lin lazy live F J; omega⟩

end Scc.RV.Conc
