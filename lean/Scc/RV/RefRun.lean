/-
  Scc.RV.RefRun — THE THREE-WAY STEP on RV64 (`step3P`: Theorem A's `TheoremA_full` with the RV64 machine carried
  along, by cases on the statement form, each case one of the step lemmas), the definitions in the routine
  (`kdefsAt_of_compile`), the machine on parsed lines (`runLines`).  The run and the composition with the initial
  state and the loader: Scc/RV/ConcRun.lean.
  `step3P` carries the bookkeeping of C10 and of the progress argument:
  * `FrPk`: the allocation frontier moves only when both free lists are exhausted afterwards;
  * the room a step needs and the distance the frontier may move are those of the CURRENT statement
    (`allocArity`: the number of fields of a `let`, the number of variables of the environment of a `create`, 0 for
    every other statement); `step3` is the same with the uniform 14 blocks;
  * a `call` and an `invoke` (`IsJump`) make the machine consume at least one unit of fuel (`ReachP`).
  `allocArity`, `AllocLe`, `progMaxAlloc`, the hereditary predicates (`ValAll`, `Hered`, `hered_step`: bounds on
  statements have to be kept for the clauses of every closure inside every value of the environment, because
  `invoke` continues with a statement taken out of a closure value) are those of Scc/AxCut/PosHered.lean — they
  speak about AxCut statements and the positional machine only.
-/
import Scc.RV.RefInit
import Scc.RV.RefIntStep
import Scc.RV.RefSwitch
import Scc.RV.RefInvoke
import Scc.Props.C06Generic
import Scc.AxCut.PosHered

set_option linter.unusedVariables false

namespace Scc.RV.Ref

open Scc.AxCut Scc.AxCut.Pos Scc.Backend Scc.Backend.Abs Scc.Backend.Sim
open Scc.Backend.Sim2 Scc.Backend.Keys
open Scc.Props.C14Generic (LabelSafe)
open Scc.Props.C06Generic (outAfter WithinCapacity Reachable EnoughHeap CodeFits fits_of_codeFits
  kinds_of_fieldsTyped chiTys_fst fresh_of_nodup_snoc take_of_append clausesMatch_length)
open Scc.Heap (HState InvS InvW)
open Scc.Heap.Refine (HRef FrLe Room FrPk)
open Scc.X86.Ref.K (allocArity IsJump allocArity_le_length)

/-- THE THREE-WAY RELATION at a statement boundary: Theorem A's relation, the representation relation of the
RV64 machine (with the machine words `cw`, `τ` of the closures), the representation of the values with the
machine words of the closures, and the RV64 code of the current statement at the program counter -/
def Rel3 (mc : MonCfg) (ks : List Code) (P : Abs.Program) (hooks : Bool) (prog : AxCut.Prog)
    (st : Pos.State) (cfg : Config) (hs : HState) (X : State) : Prop :=
  ∃ (Γ' : Ctx) (ι : Nat → Nat) (cw : Nat → Word) (τ : Nat → Nat → Word),
    Γ'.keys = st.ctx.keys ∧ RelX P hooks prog ⟨Γ', st.env, st.stmt⟩ cfg ∧
    X3 mc cw τ Γ' cfg hs ι X ∧
    CVals P hooks prog.types (KMethodsAt ks hooks prog.types) cw τ cfg.heap cfg.temps Γ' st.env ∧
    ∃ k k' items, (codeStatementR rvBackend hooks natRen prog.types st.stmt Γ').run k = .ok (items, k') ∧
      KAt ks X.pc items

/-- the three-way simulation claim for one step of the positional machine: a step to `st'` is reproduced PROVIDED
`st'` is within the capacity of the backend (at most 14 variables); a final step: the machine reaches a state from
which its run ends with the same result; a stuck positional machine: nothing is claimed -/
def StepSim3 (mc : MonCfg) (pr : RV.Program) (ks : List Code) (P : Abs.Program) (hooks : Bool)
    (prog : AxCut.Prog) (st : Pos.State) (cfg : Config) (hs : HState) (X : State) : Prop :=
  match Pos.step prog st with
  | .next st' o =>
    WithinCapacity st'.ctx → st'.ctx.length ≤ 14 →
    ∃ cfg' hs' X', Reach pr mc X X' ∧ cfg'.next ≤ cfg.next + 1 ∧
      FrLe hs hs' (64 * 14) ∧ Rel3 mc ks P hooks prog st' cfg' hs' X'
  | .done v => ∃ XL, Reach pr mc X XL ∧ ∀ fuel, (runLoop pr mc (fuel + 1) XL).res = .done v
  | .stuck _ => True

/-- `StepSim3` (same provisos: capacity of `st'`, nothing for a stuck machine) with the bookkeeping of C10 -/
def StepSim3P (mc : MonCfg) (pr : RV.Program) (ks : List Code) (P : Abs.Program) (hooks : Bool)
    (prog : AxCut.Prog) (st : Pos.State) (cfg : Config) (hs : HState) (X : State) : Prop :=
  match Pos.step prog st with
  | .next st' o =>
    WithinCapacity st'.ctx → st'.ctx.length ≤ 14 →
    ∃ cfg' hs' X', Reach pr mc X X' ∧ (IsJump st.stmt → ReachP pr mc X X') ∧ cfg'.next ≤ cfg.next + 1 ∧
      FrLe hs hs' (64 * allocArity st.stmt) ∧ FrPk hs hs' ∧ Rel3 mc ks P hooks prog st' cfg' hs' X'
  | .done v => ∃ XL, Reach pr mc X XL ∧ ∀ fuel, (runLoop pr mc (fuel + 1) XL).res = .done v
  | .stuck _ => True

theorem StepSim3P.weaken {mc : MonCfg} {pr : RV.Program} {ks : List Code} {P : Abs.Program} {hooks : Bool}
    {prog : AxCut.Prog} {st : Pos.State} {cfg : Config} {hs : HState} {X : State}
    (h : StepSim3P mc pr ks P hooks prog st cfg hs X) (ha : allocArity st.stmt ≤ 14) :
    StepSim3 mc pr ks P hooks prog st cfg hs X := by
  unfold StepSim3P at h
  unfold StepSim3
  cases hst : Pos.step prog st with
  | next st' o =>
    simp only [hst] at h ⊢
    intro hc hc2
    obtain ⟨cfg', hs', X', hm, _, hn, hfr, _, R⟩ := h hc hc2
    exact ⟨cfg', hs', X', hm, hn, hfr.mono (by omega), R⟩
  | done v =>
    simp only [hst] at h ⊢
    exact h
  | stuck e => trivial

section
variable {P : Abs.Program} {hooks : Bool} {types : List TypeDecl} {Q : Word → Ctx → Clauses → Prop}
  {cw : Nat → Word} {τ : Nat → Nat → Word}

/-- the closures survive an abstract step that keeps the heap and the positions (`ifc`, `call`) -/
theorem cvals_frame {cfg cfg' : Config} {Γ Γ' : Ctx} {ρ : List Value}
    (V : CVals P hooks types Q cw τ cfg.heap cfg.temps Γ ρ) (F : FrameFacts cfg cfg' Γ.length)
    (hchi : Γ.map (·.chi) = Γ'.map (·.chi)) (VR' : ValsOK2 P hooks types cfg'.heap cfg'.temps Γ' ρ) :
    CVals P hooks types Q cw τ cfg'.heap cfg'.temps Γ' ρ :=
  CVals.ofXC (Prov.XC.keep V.toXC hchi ⟨F.low, fun _ _ => rfl⟩ F.heap) VR'

/-- the closures survive an abstract step that keeps the heap and the positions and appends an integer variable
(`lit`, `op`) -/
theorem cvals_frame_int {prog : AxCut.Prog} {cfg cfg' : Config} {Γ : Ctx} {ρ : List Value} {b : Binding}
    {v : Word} {s : Stmt}
    (V : CVals P hooks prog.types Q cw τ cfg.heap cfg.temps Γ ρ) (hlen : ρ.length = Γ.length)
    (F : FrameFacts cfg cfg' Γ.length)
    (R' : RelX P hooks prog ⟨Γ ++ [b], ρ ++ [.int v], s⟩ cfg') :
    CVals P hooks prog.types Q cw τ cfg'.heap cfg'.temps (Γ ++ [b]) (ρ ++ [.int v]) :=
  CVals.ofXC (Prov.XC.snoc_int V.toXC hlen ⟨F.low, fun _ _ => rfl⟩ F.heap b v) R'.vals

end

/-- a context of integers: no closure to represent -/
theorem cvals_of_ints {P : Abs.Program} {hooks : Bool} {types : List TypeDecl} {Q : Word → Ctx → Clauses → Prop}
    {cw : Nat → Word} {τ : Nat → Nat → Word} {h : Heap} {σ : Temps} {Γ : Ctx} {ns : List Word}
    (V : ValsOK2 P hooks types h σ Γ (ns.map .int)) : CVals P hooks types Q cw τ h σ Γ (ns.map .int) := by
  intro i h1 h2
  have := (V i h1 h2).1
  have hg : (ns.map Value.int)[i] = .int (ns[i]'(by simpa using h2)) := by simp
  rw [hg] at this ⊢
  generalize (σ.get (2 * i + 1)).getD 0 = w at this ⊢
  generalize (if (Γ[i].chi == Chi.ext) = true then none else σ.get (2 * i)) = p at this ⊢
  cases this
  exact .int _ _ _

section Run3

variable {mc : MonCfg} {pr : RV.Program} {ks : List Code} (L : Loaded pr ks)
  (hndL : (labs ks).Nodup) (hheap : mc.heap = false) {ic : Nat} (hclean : labIdx ks "cleanup" = some ic)
  (hicl : ic + 1 = ks.length)
  (hfitX : codeBase + 4 * icount ks < 2 ^ 64)

include L hndL hheap hclean hicl hfitX in
/-- THE THREE-WAY STEP with the bookkeeping of C10: Theorem A's `TheoremA_full` with the RV64 machine carried along
(all statements; a `print` has no RV64 code, so it cannot be the current statement) -/
theorem step3P (hooks : Bool) (prog : AxCut.Prog) (c : Nat) (code : List MockOp) (nargs c' : Nat)
    (hcomp : (compile mockSym hooks prog).run c = .ok ((code, nargs), c'))
    (hsafe : LabelSafe prog = true) (hfit : CodeFits code)
    (DX : KDefsAt ks hooks prog)
    (st : Pos.State) (cfg : Config) (hs : HState) (X : State)
    (R : Rel3 mc ks (Program.ofOps code) hooks prog st cfg hs X)
    (T : Pos.StateTyped prog st) (hheapA : EnoughHeap cfg)
    (hroom : Room hs (64 * allocArity st.stmt + 64)) :
    StepSim3P mc pr ks (Program.ofOps code) hooks prog st cfg hs X := by
  have hnodup := Scc.Props.C14Generic.labels_unique hooks prog c code nargs c' hcomp hsafe
  have D := defsAt_of_compile hooks prog c code nargs c' hcomp hnodup
  have hfits := fits_of_codeFits hfit
  have hcl : ∀ t, t + 1 < ks.length → ks[t]? ≠ some (Code.LAB "cleanup") := by
    intro t ht e
    have := labIdx_of_nodup hndL e
    rw [hclean] at this
    injection this with this
    omega
  obtain ⟨Γ, ρ, s⟩ := st
  obtain ⟨Γ', ι, cw, τ, hk, RX, X3h, CVh, kx, kx', items, hrunX, hatX⟩ := R
  obtain ⟨hty, henv⟩ := T
  simp only at hk RX hty henv CVh hrunX hroom
  have hlenk : Γ'.length = Γ.length := keys_length hk
  unfold StepSim3P
  have hcapX3 := X3h.cap
  cases hst : Pos.step prog ⟨Γ, ρ, s⟩ with
  | stuck e => trivial
  | done v =>
    obtain ⟨a, hsa, hra⟩ := Pos.step_done_iff.1 hst
    simp only at hsa hra
    subst hsa
    exact exit_x3 L hndL hheap RX (by rw [readInt_keys hk]; exact hra) X3h hrunX hatX hclean
  | next st' o =>
    have hN := Pos.step_next hst
    show WithinCapacity st'.ctx → st'.ctx.length ≤ 14 → _
    intro hcap hcap2
    cases hty with
    | lit hn hfr hnext =>
      rename_i x n next fv
      cases hN
      obtain ⟨cfg', X', h1, hm, h2, h3, hF, h4, h5, h6⟩ := lit_x3 L hndL hheap RX (mem_ids_keys hk hfr)
        (by simp [WithinCapacity] at hcap; omega) X3h hrunX hatX
      exact ⟨cfg', hs, X', hm, (fun hj => False.elim hj), by omega, FrLe.same hs _, FrPk.refl hs,
        ⟨Γ' ++ [⟨x, .ext, .i64⟩], ι, cw, τ, keys_append hk rfl, h4, h5, cvals_frame_int CVh RX.len hF h4, h6⟩⟩
    | op hn ha hb hfr hnext =>
      rename_i x a o b next fv
      cases hN with
      | op hra hrb hv =>
        obtain ⟨cfg', X', h1, hm, h2, h3, hF, h4, h5, h6⟩ := op_x3 L hndL hheap RX (mem_ids_keys hk hfr)
          (by simp [WithinCapacity] at hcap; omega)
          (by rw [readInt_keys hk]; exact hra) (by rw [readInt_keys hk]; exact hrb) hv X3h hrunX hatX
        exact ⟨cfg', hs, X', hm, (fun hj => False.elim hj), by omega, FrLe.same hs _, FrPk.refl hs,
          ⟨Γ' ++ [⟨x, .ext, .i64⟩], ι, cw, τ, keys_append hk rfl, h4, h5,
            cvals_frame_int CVh RX.len hF h4, h6⟩⟩
    | print hn ha hnext =>
      -- the RV64 backend has no code for `print`
      exfalso
      simp only [codeStatementR, run_bind_ok, run_pure_ok] at hrunX
      obtain ⟨t, k1, _, c1, k2, h1, _⟩ := hrunX
      cases h1
    | ifc hn ha hb ht he =>
      rename_i srt a b t e
      cases hN with
      | ifz hra =>
        obtain ⟨cfg', X', h1, hm, h2, h3, hF, h4, h5, h6⟩ := ifc_x3 L hndL hheap (b := none) (vb := 0) RX
          (by rw [readInt_keys hk]; exact hra) rfl X3h hrunX hatX
        exact ⟨cfg', hs, X', hm, (fun hj => False.elim hj), by omega, FrLe.same hs _, FrPk.refl hs,
          ⟨Γ', ι, cw, τ, hk, h4, h5, cvals_frame CVh hF rfl h4.vals, h6⟩⟩
      | ifc hra hrb =>
        rename_i b' va vb
        obtain ⟨cfg', X', h1, hm, h2, h3, hF, h4, h5, h6⟩ := ifc_x3 L hndL hheap (b := some b') (vb := vb) RX
          (by rw [readInt_keys hk]; exact hra) (by simp only; rw [readInt_keys hk]; exact hrb)
          X3h hrunX hatX
        exact ⟨cfg', hs, X', hm, (fun hj => False.elim hj), by omega, FrLe.same hs _, FrPk.refl hs,
          ⟨Γ', ι, cw, τ, hk, h4, h5, cvals_frame CVh hF rfl h4.vals, h6⟩⟩
    | exit hn ha => cases hN
    | call hn hf hc =>
      rename_i l args params
      cases hN with
      | call hd hchi hlenρ =>
        rename_i d
        obtain ⟨cfg', X', h1, hmP, h2, h3, hF, h4, h5, h6⟩ := call_x3 L hndL hheap RX D DX hd
          (by rw [keys_chiTys hk]; exact hchi) X3h hrunX hatX
        have hkeys : Γ'.map (·.chi) = d.ctx.map (·.chi) := by
          have := congrArg (List.map Prod.fst) ((keys_chiTys hk).trans hchi)
          simp only [Pos.chiTys, List.map_map] at this
          exact this
        exact ⟨cfg', hs, X', hmP.reach, (fun _ => hmP), by omega, FrLe.same hs _, FrPk.refl hs,
          ⟨d.ctx, ι, cw, τ, rfl, h4, h5, cvals_frame CVh hF hkeys h4.vals, h6⟩⟩
    | subst hn hhas hnew hnext =>
      rename_i pairs next
      cases hN with
      | subst hb =>
        rename_i vs
        have hnew' : (pairs.map (·.1.var.id)).Nodup := by
          have : ((pairs.map (·.1)).map (·.var.id)).Nodup := hnew
          rw [List.map_map] at this
          exact this
        have hold : ∀ p ∈ pairs, ∃ b ∈ Γ', b.var.id = p.2.id ∧ b.chi = p.1.chi := by
          intro p hp
          obtain ⟨b, hb', hid, hchi, _⟩ := hasVar_keys hk (hhas p hp)
          exact ⟨b, hb', hid, hchi⟩
        have hpl : pairs.length ≤ 14 := by simpa using hcap2
        obtain ⟨k, cfg', X', hs', h1, hm, hfr, h2, h3, h4, h5, hcv, h6⟩ := subst_x3 L hndL hheap RX
          (nodup_keys hk hn) hnew' hold
          (by simpa [WithinCapacity] using hcap) (by rw [build_keys hk]; exact hb) X3h hrunX hatX hpl CVh
        exact ⟨cfg', hs', X', hm, (fun hj => False.elim hj), by omega, FrLe.mono hfr (Nat.zero_le _),
          FrPk.of_frLe0 hfr, ⟨pairs.map (·.1), ι, _, τ, rfl, h4, h5, hcv, h6⟩⟩
    | @letS _ Γ0 Γa x ty tag args sig next fv hn hsplit hkeys hs hs' hfr hnext =>
      have hlenA : Γa.length = args.length := keys_length hkeys
      have hsplit' : Γ = Γ0 ++ Γa := hsplit
      cases hN with
      | letS hkA hlenρ hpos =>
        rename_i pos
        have hn0 : Γ.length - args.length = Γ0.length := by rw [hsplit']; simp; omega
        have htake : Γ.take (Γ.length - args.length) = Γ0 := by
          rw [← hlenA]; exact take_of_append hsplit'
        have hkt : Ctx.keys (Γ'.take (Γ'.length - args.length)) = Γ0.keys := by
          rw [hlenk, keys_take hk, htake]
        have hcapL : 2 * (Γ'.length - args.length + 1) + 2 < Mock.T_TEMP := by
          simp only [WithinCapacity, htake, List.length_append, List.length_singleton] at hcap
          rw [hlenk, hn0]; exact hcap
        obtain ⟨cfg', X', hs', ι', h1, hm, hfr', hpk', h2, h3, h4, h5, k1, k1', items', h6a, h6b, LP⟩ :=
          let_x3P L hndL hheap RX (by rw [hlenk]; exact hkA) (mem_ids_keys hkt hfr) hpos hcapL hheapA X3h hrunX hatX
            hroom
        have hcv := CVals.ofXC (Prov.XC.step CVh.toXC RX (fun i _ => by rw [cwTv_snd]; rfl) hheapA
          (.letS x ty pos (Nat.sub_le _ _) LP) h4) h4.vals
        rw [hlenk] at h4 h5 hcv h6a
        refine ⟨cfg', hs', X', hm, (fun hj => False.elim hj), h3, hfr', hpk',
          ⟨_, ι', cw, _, ?_, h4, h5, hcv, k1, k1', items', h6a, h6b⟩⟩
        show Ctx.keys (Γ'.take (Γ.length - args.length) ++ [_]) =
          Ctx.keys (Γ.take (Γ.length - args.length) ++ [_])
        rw [htake, ← hlenk]
        exact keys_append hkt rfl
    | @create _ Γn Γe Γc x ty clauses next fc fn d hn hsplit hkeys hd hm hcl' hfr hnext =>
      have hlenE : Γe.length = Γc.length := keys_length hkeys
      have hsplit' : Γ = Γn ++ Γe := hsplit
      cases hN with
      | create hkA hlenρ =>
        have hn0 : Γ.length - Γc.length = Γn.length := by rw [hsplit']; simp; omega
        have htake : Γ.take (Γ.length - Γc.length) = Γn := by
          rw [← hlenE]; exact take_of_append hsplit'
        have hdrop : Γ.drop (Γ.length - Γc.length) = Γe := by
          rw [hn0, hsplit']; simp
        have hkt : Ctx.keys (Γ'.take (Γ'.length - Γc.length)) = Γn.keys := by
          rw [hlenk, keys_take hk, htake]
        have hkd : Ctx.keys (Γ'.drop (Γ'.length - Γc.length)) = Γc.keys := by
          rw [hlenk, keys_drop hk, hdrop]; exact hkeys
        have hcapL : 2 * (Γ'.length - Γc.length + 1) + 2 < Mock.T_TEMP := by
          simp only [WithinCapacity, htake, List.length_append, List.length_singleton] at hcap
          rw [hlenk, hn0]; exact hcap
        obtain ⟨cfg', X', hs', ι', m, h1, hmr, hfr', hpk', h2, h3, h4, hK, h5, k1, k1', items', h6a, h6b, LP, a, ha,
            hmeth⟩ := create_x3P L hndL hheap RX (by rw [hlenk]; exact hkA) hkd (mem_ids_keys hkt hfr) hcapL hheapA X3h
          hrunX hatX hroom
        have hcv := create_cvals RX CVh hkd hheapA hK LP ha hmeth h4
        rw [hlenk] at h4 h5 hcv h6a
        refine ⟨cfg', hs', X', hmr, (fun hj => False.elim hj), h3, hfr', hpk',
          ⟨_, ι', _, _, ?_, h4, h5, hcv, k1, k1', items', h6a, h6b⟩⟩
        show Ctx.keys (Γ'.take (Γ.length - Γc.length) ++ [_]) =
          Ctx.keys (Γ.take (Γ.length - Γc.length) ++ [_])
        rw [htake, ← hlenk]
        exact keys_append hkt rfl
    | @switch _ Γ0 b x ty cs fv d hn hsplit hb hd hm hcl' =>
      subst hsplit
      obtain ⟨ρ', v, rfl, hρ', hv⟩ := Pos.env_last henv
      have hbid : b.var.id = x.id := congrArg (·.1) hb
      have hbchi : b.chi = .prd := congrArg (·.2.1) hb
      have hbty : b.ty = ty := congrArg (·.2.2) hb
      rw [hbchi, hbty] at hv
      cases hN with
      | switch hgb hgv hx0 hl0 hc1 hfl =>
        rename_i b0 tag fields cl
        obtain rfl : v = .obj tag fields := by simpa using hgv
        simp only [List.dropLast_concat] at hcap hcap2 ⊢
        cases hv with
        | obj hd' hx hf =>
          have := Pos.lookupTypeDecl_unique hd hd'
          subst this
          obtain ⟨cl', hc1', hc2, hc3⟩ := Pos.nthClause_ok d.xtors cs tag _ hm hx
          obtain rfl : cl' = cl := Option.some.inj (hc1'.symm.trans hc1)
          obtain ⟨Γ0', b', rfl, hk0, hkb⟩ := keys_snoc hk
          have hb'id : b'.var.id = x.id := by
            have := congrArg (·.1) hkb
            simp only [Binding.key] at this
            rw [this]; exact hbid
          have hkinds : fields.map Sim2.kindOf = Mock.kindsOf cl'.ctx := by
            rw [kinds_of_fieldsTyped hf, hc2, chiTys_fst]
          have hfr : x.id ∉ Γ0.ids := by rw [← hbid]; exact fresh_of_nodup_snoc hn
          obtain ⟨k, cfg', X', hs', h1, hm, hfr', h2, h3, h4, ⟨r, _, h5, hcv⟩, h6⟩ :=
            switch_x3 L hndL hheap hfitX RX hfits hb'id (mem_ids_keys hk0 hfr) hc1 hkinds
            (by
              simp only [WithinCapacity, List.length_append] at hcap
              rw [keys_length hk0]; exact hcap) X3h hrunX hatX
            (by
              simp only [List.length_append] at hcap2
              rw [keys_length hk0]; exact hcap2) CVh
          exact ⟨cfg', hs', X', hm, (fun hj => False.elim hj), by omega, FrLe.mono hfr' (Nat.zero_le _),
            FrPk.of_frLe0 hfr', ⟨Γ0' ++ cl'.ctx, ι, _, τ, keys_append hk0 rfl, h4, h5, hcv, h6⟩⟩
    | @invoke _ Γa b x tag ty args sig hn hsplit hb hs hs' =>
      subst hsplit
      obtain ⟨ρ', v, rfl, hρ', hv⟩ := Pos.env_last henv
      have hbid : b.var.id = x.id := congrArg (·.1) hb
      have hbchi : b.chi = .cns := congrArg (·.2.1) hb
      have hbty : b.ty = ty := congrArg (·.2.2) hb
      rw [hbchi, hbty] at hv
      obtain ⟨d, xt, i, hd, hx, hxs, htp'⟩ := Pos.tagPosition_ok hs
      cases hv with
      | clo hd' hm hf hcl' =>
        rename_i d' Γc env cs
        have := Pos.lookupTypeDecl_unique hd hd'
        subst this
        obtain ⟨cl, hc1, hc2, hc3⟩ := Pos.nthClause_ok d.xtors cs i xt hm hx
        cases hN with
        | invoke hgb hgv hx0 hl0 htp0 hc0 hal0 =>
        rename_i b0 Γc0 ρc0 cl0 pos0 c0
        obtain ⟨e1, e2, e3⟩ : Γc = Γc0 ∧ env = ρc0 ∧ cs = cl0 := by simpa using hgv
        subst e1 e2 e3
        have e4 : i = pos0 := Except.ok.inj (htp'.symm.trans htp0)
        subst e4
        have e5 : cl = c0 := Option.some.inj (hc1.symm.trans hc0)
        subst e5
        simp only [List.dropLast_concat] at hcap hcap2 ⊢
        obtain ⟨Γa', b', rfl, hk0, hkb⟩ := keys_snoc hk
        have hb'id : b'.var.id = x.id := by
          have := congrArg (·.1) hkb
          simp only [Binding.key] at this
          rw [this]; exact hbid
        have hkinds : env.map Sim2.kindOf = Mock.kindsOf Γc := by
          rw [kinds_of_fieldsTyped hf, chiTys_fst]
        have hfr : x.id ∉ Γa.ids := by rw [← hbid]; exact fresh_of_nodup_snoc hn
        have hargs : Γa'.map (·.chi) = cl.ctx.map (·.chi) := by
          rw [keys_chi hk0]
          have h1 : Ctx.chiTys Γa = Ctx.chiTys cl.ctx := by rw [hs', ← hxs, hc2]
          have := congrArg (List.map (·.1)) h1
          simpa [Ctx.chiTys, Function.comp_def] using this
        obtain ⟨k, cfg', X', hs', envCtx', hke, h1, hmr, hfr', h2, h3, h4, ⟨r, _, h5, hcv⟩, h6⟩ :=
          invoke_x3 L hndL hheap hfitX hcl RX hfits hb'id
            (mem_ids_keys hk0 hfr) htp' hc1
            (fun d0 hd0 => by
              have := Pos.lookupTypeDecl_unique hd hd0
              subst this
              exact clausesMatch_length _ _ hm)
            hargs hkinds
            (by simpa [WithinCapacity] using hcap) X3h hrunX hatX
            (by simpa using hcap2) CVh
        exact ⟨cfg', hs', X', hmr.reach, (fun _ => hmr), by omega, FrLe.mono hfr' (Nat.zero_le _),
          FrPk.of_frLe0 hfr', ⟨cl.ctx ++ envCtx', ι, _, τ, keys_append rfl hke, h4, h5, hcv, h6⟩⟩

include L hndL hheap hclean hicl hfitX in
/-- THE THREE-WAY STEP with the uniform bounds: room for 15 blocks, the frontier moves by at most 14 -/
theorem step3 (hooks : Bool) (prog : AxCut.Prog) (c : Nat) (code : List MockOp) (nargs c' : Nat)
    (hcomp : (compile mockSym hooks prog).run c = .ok ((code, nargs), c'))
    (hsafe : LabelSafe prog = true) (hfit : CodeFits code)
    (DX : KDefsAt ks hooks prog)
    (st : Pos.State) (cfg : Config) (hs : HState) (X : State)
    (R : Rel3 mc ks (Program.ofOps code) hooks prog st cfg hs X)
    (T : Pos.StateTyped prog st) (hheapA : EnoughHeap cfg)
    (hroom : Room hs (64 * 15)) :
    StepSim3 mc pr ks (Program.ofOps code) hooks prog st cfg hs X := by
  have ha : allocArity st.stmt ≤ 14 := by
    obtain ⟨Γ', ι, cw, τ, hk, _, X3h, _⟩ := R
    have h1 := allocArity_le_length T.1
    have h2 := X3h.cap
    have h3 := keys_length hk
    omega
  exact (step3P L hndL hheap hclean hicl hfitX hooks prog c code nargs c' hcomp hsafe hfit DX st cfg hs X R T
    hheapA (hroom.mono (by omega))).weaken ha

theorem withinCapacity_of_le {Γ : Ctx} (h : Γ.length ≤ 14) : WithinCapacity Γ := by
  unfold WithinCapacity
  show 2 * Γ.length + 2 < 1000001
  omega

end Run3

/-- a segment of the emitted code lies in the kept codes, and a non-comment at its head is the item at that index -/
theorem kat_of_keeps {cs ks : List Code} (hk : Keeps cs ks) {pre items post : List Code}
    (e : cs = pre ++ items ++ post) : ∃ pc, KAt ks pc items ∧
      ∀ c rest, items = c :: rest → c.isComment = false → ks[pc]? = some c := by
  subst e
  obtain ⟨k12, k3, e1, h12, h3⟩ := hk.append_inv
  obtain ⟨k1, k2, e2, h1, h2⟩ := h12.append_inv
  refine ⟨k1.length, ⟨k1, k2, k3, by rw [e1, e2], rfl, h2⟩, ?_⟩
  intro c rest hi hc
  subst hi
  obtain ⟨k2', rfl, _⟩ := h2.cons_inv hc
  rw [e1, e2]
  simp

/-- every definition's code is in the kept codes behind its label -/
theorem kdefsAt_of_compile {hooks : Bool} {prog : AxCut.Prog} {c : Nat} {instrs : List Code} {nargs c' : Nat}
    (h : (compile rvBackend hooks prog).run c = .ok ((instrs, nargs), c')) {cs hdr post ks : List Code}
    (hcs : cs = hdr ++ instrs ++ post) (hk : Keeps cs ks) (hnd : (labs ks).Nodup) : KDefsAt ks hooks prog := by
  intro d hd
  unfold compile compileR at h
  cases hdefs : prog.defs with
  | nil => rw [hdefs] at hd; simp at hd
  | cons d0 ds =>
    simp only [hdefs, run_bind_ok, run_pure_ok] at h
    obtain ⟨blocks, k, h1, h2, rfl⟩ := h
    cases h2
    rw [hdefs] at hd
    obtain ⟨pre, post', ck, ck', items, e, hr⟩ :=
      ThreeWay.assemble_split rvBackend hooks natRen prog.types _ c blocks _ h1 d hd
    have e : assemble rvBackend blocks (List.map (·.name) (d0 :: ds)) =
        pre ++ Code.LAB (d.name.print ++ "_") :: (items ++ post') := e
    have hcs' : cs = (hdr ++ pre) ++ (Code.LAB (d.name.print ++ "_") :: items) ++ (post' ++ post) := by
      rw [hcs, e]; simp [List.append_assoc]
    obtain ⟨pc, hat, hget⟩ := kat_of_keeps hk hcs'
    have hg := hget _ _ rfl rfl
    obtain ⟨_, hat'⟩ := hat.head rfl
    exact ⟨pc, ck, ck', items, labIdx_of_nodup hnd hg, hg, hr, hat'⟩

/-- the machine on parsed lines (what `run` does after `parseText`, without the `wf` monitor) -/
def runLines (lines : List (Nat × Code)) (args : List Word) (fuel : Nat) (cfg : MonCfg) : RunResult :=
  match layout lines with
  | .error e => ⟨[], .fault e 0, 0, 0, 0⟩
  | .ok p => runProgram p args fuel cfg

theorem run_eq_runLines {text : String} {lines : List (Nat × Code)} (h : parseText text = .ok lines)
    (args : List Word) (fuel : Nat) (cfg : MonCfg) (hwf : cfg.wf = false) :
    run text args fuel cfg = runLines lines args fuel cfg := by
  unfold run runLines parseProgram
  rw [h]
  simp only
  cases layout lines with
  | error e => rfl
  | ok p => simp [hwf]

theorem keeps_comments : ∀ {a ka : List Code}, Keeps a ka → (∀ c ∈ a, c.isComment = true) →
    ∀ c ∈ ka, c.isComment = true := by
  intro a ka h
  induction h with
  | nil => intro _ c hc; simp at hc
  | @keep c _ _ hc _ _ => intro hall; have := hall c (by simp); rw [hc] at this; cases this
  | drop _ ih => intro hall c hc; exact ih (fun x hx => hall x (by simp [hx])) c hc
  | keepC _ ih =>
    intro hall c hc
    rcases List.mem_cons.1 hc with rfl | hc
    · rfl
    · exact ih (fun x hx => hall x (by simp [hx])) c hc

theorem firstLab_append_comments {a b : List Code} (ha : ∀ c ∈ a, c.isComment = true) :
    firstLab (a ++ b) = (firstLab b).map (· + a.length) := by
  unfold firstLab
  rw [List.findIdx?_append]
  have : List.findIdx? isLab a = none := by
    rw [List.findIdx?_eq_none_iff]
    intro x hx
    have := ha x hx
    cases x <;> simp [Code.isComment] at this
    rfl
  rw [this]
  simp

end Scc.RV.Ref
