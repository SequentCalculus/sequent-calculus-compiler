/-
  Scc.RV.RefMoves — PARALLEL MOVES of ALL temporaries of positions (pointer parts and word parts), the move
  block of `subst`, on RV64.  There are no spills: `mov t s` is `MV X(t+4) X(s+4)`, the saved value of a
  cycle lives in TEMP (`MV X1 t` / `MV t X1`), and `MV` copies a register whether it is defined or not —
  like the abstract machine's `mov`/`save`/`restore`.  The relation `MRel` looks at nothing but the
  temporaries and the scratch cell — moves are agnostic of what the words mean — and records what the
  block leaves alone (`Keep`: memory, HEAP, FREE).  The RV code of `code_exchange` renders the mock code
  (`mseg_codeExchange`: the instance of Scc/Backend/ProofsRender.lean for all temporaries of positions and all
  bindings), and a rendered block is executed by both machines in lockstep (`mseg_follow`).
-/
import Scc.RV.RefCall
import Scc.X86.RefPM
import Scc.X86.ProofsWfProg
import Scc.Backend.ProofsPM
import Scc.Backend.ProofsSubstObj
import Scc.RV.Total
import Scc.Backend.ProofsRender

namespace Scc.RV.Ref

open Scc.AxCut Scc.Backend Scc.Backend.Abs Scc.Backend.Sim Scc.Backend.PM
open Scc.X86 (TreeOK TreesOK RootOK PmOK ConnsOK)
open Scc.X86.Ref (TempMap mapT mapTs mapR mapPM)

/-- a temporary of a position within the capacity of utils.rs (14 variables) -/
def PosT (t : Nat) : Prop := t < 28

theorem posT_ne_temp {t : Nat} (h : PosT t) : t ≠ Mock.T_TEMP := by
  unfold PosT at h; unfold Mock.T_TEMP; omega

theorem tempMap_posTemp : TempMap mockSym rvBackend posTemp where
  lt := fun a b => by
    show decide ((posTemp a).n < (posTemp b).n) = decide (a < b)
    simp [posReg]
  eq := fun a b => by
    show rvBackend.tempEq (posTemp a) (posTemp b) = (a == b)
    by_cases h : a = b
    · subst h
      rw [(Scc.RV.Total.rv_tempEq_iff _ _).2 rfl]; simp
    · have : posTemp a ≠ posTemp b := fun e => h (by injection e with e; exact posReg_inj.1 e)
      have h2 : rvBackend.tempEq (posTemp a) (posTemp b) = false := by
        cases hx : rvBackend.tempEq (posTemp a) (posTemp b)
        · rfl
        · exact absurd ((Scc.RV.Total.rv_tempEq_iff _ _).1 hx) this
      rw [h2]; simp [h]

/-- `blk` renders the move instruction `op` -/
def MOpRel (op : MockOp) (blk : List Code) : Prop :=
  match op with
  | .comment m => blk = [.COMMENT m]
  | .mov t s => PosT t ∧ PosT s ∧ blk = [.MV (posTemp t) (posTemp s)]
  | .save t _ => PosT t ∧ blk = [.MV TEMP (posTemp t)]
  | .restore t _ => PosT t ∧ blk = [.MV (posTemp t) TEMP]
  | _ => False

inductive MSeg : List MockOp → List Code → Prop where
  | nil : MSeg [] []
  | cons {op : MockOp} {blk : List Code} {ops : List MockOp} {cs : List Code} :
      MOpRel op blk → MSeg ops cs → MSeg (op :: ops) (blk ++ cs)

theorem MSeg.append {o1 o2 : List MockOp} {c1 c2 : List Code}
    (h1 : MSeg o1 c1) (h2 : MSeg o2 c2) : MSeg (o1 ++ o2) (c1 ++ c2) := by
  induction h1 with
  | nil => simpa using h2
  | cons hop _ ih =>
    rw [List.cons_append, List.append_assoc]
    exact MSeg.cons hop ih

theorem MSeg.single {op : MockOp} {blk : List Code} (h : MOpRel op blk) : MSeg [op] blk := by
  have := MSeg.cons h MSeg.nil
  simpa using this

/-- the registers a block of moves may change: TEMP and the registers of positions -/
def MoveReg (u : Nat) : Prop := u = 1 ∨ ∃ t, t < 28 ∧ u = posReg t

/-- the relation of the move block: a (shadow) configuration of the abstract machine and the machine agree
on every temporary of a position and on the scratch cell (which lives in TEMP) -/
structure MRel (st0 : State) (cfg : Config) (st : State) : Prop where
  temps : ∀ t v, PosT t → cfg.temps.get t = some v → rv st t = some v
  scratch : ∀ w, cfg.scratch = some w → (mview st).val 1 = some w
  keep : Keep st0 st MoveReg

theorem MRel.setPS {st0 : State} {cfg : Config} {st : State}
    (R : MRel st0 cfg st) (pc k : Nat) : MRel st0 cfg (setPS st pc k) :=
  ⟨R.temps, R.scratch, R.keep.setPS pc k⟩

theorem keep_move_step {st0 st : State} (K : Keep st0 st MoveReg) {x y : Register} (hx : MoveReg x.n) :
    Keep st0 (st.copyReg x y) MoveReg := by
  have := K.trans (keep_copyReg K.wf x y)
  refine ⟨this.wf, this.mem, fun r h1 h2 hc => this.regs r h1 h2 (fun h => ?_)⟩
  rcases h with h | h
  · exact hc h
  · exact hc (h ▸ hx)

section Ops

variable {mc : MonCfg} {la : String → Option Nat} {st0 : State} {cfg : Config} {st : State}

theorem rv_copy_other {x y : Register} (hwf : st.WF) {t : Nat} (ht : t < 28) (hne : posReg t ≠ x.n) :
    rv (st.copyReg x y) t = rv st t :=
  rv_of_regs (keep_copyReg hwf x y).regs ht hne

/-- `mov t s` of parallel moves -/
theorem mrep_mov (R : MRel st0 cfg st) {t s : Nat} (ht : PosT t) (hs : PosT s) (pc' : Nat) :
    MRel st0 { cfg with pc := pc', temps := (clobberTemp cfg.temps).put t (cfg.temps.get s) }
      (st.copyReg (posTemp t) (posTemp s)) := by
  have hwf := R.keep.wf
  have hsame : rv (st.copyReg (posTemp t) (posTemp s)) t = rv st s :=
    val_copyReg_same hwf (by simp [posReg]) (by unfold PosT at ht; simp [posReg]; omega) (by simp [posReg])
      (by unfold PosT at hs; simp [posReg]; omega)
  refine ⟨?_, ?_, keep_move_step R.keep (Or.inr ⟨t, ht, rfl⟩)⟩
  · intro t' v' ht' hg
    by_cases e' : t' = t
    · subst e'
      simp only at hg
      rw [get_put_same] at hg
      rw [hsame]; exact R.temps s v' hs hg
    · rw [get_put_other _ _ e', get_clobberTemp _ (posT_ne_temp ht')] at hg
      rw [rv_copy_other hwf ht' (by simp; exact fun e => e' (posReg_inj.1 e))]
      exact R.temps t' v' ht' hg
  · intro w hw
    have : (mview (st.copyReg (posTemp t) (posTemp s))).val 1 = (mview st).val 1 := by
      simp only [mview]
      rw [(keep_copyReg hwf (posTemp t) (posTemp s)).regs 1 (by omega) (by omega) (by simp [posReg])]
    rw [this]
    exact R.scratch w hw

/-- `save t`: the scratch cell (TEMP) := t -/
theorem mrep_save (R : MRel st0 cfg st) {t : Nat} (ht : PosT t) (pc' : Nat) :
    MRel st0 { cfg with pc := pc', temps := clobberTemp cfg.temps, scratch := cfg.temps.get t }
      (st.copyReg TEMP (posTemp t)) := by
  have hwf := R.keep.wf
  refine ⟨?_, ?_, keep_move_step R.keep (Or.inl rfl)⟩
  · intro t' v' ht' hg
    simp only at hg
    rw [get_clobberTemp _ (posT_ne_temp ht')] at hg
    rw [rv_copy_other hwf ht' (by simp [posReg])]
    exact R.temps t' v' ht' hg
  · intro w hw
    simp only at hw
    have := val_copyReg_same hwf (x := TEMP) (y := posTemp t) (by decide) (by decide) (by simp [posReg])
      (by unfold PosT at ht; simp [posReg]; omega)
    rw [show TEMP.n = 1 from rfl] at this
    rw [this]
    exact R.temps t w ht hw

/-- `restore t`: t := the scratch cell -/
theorem mrep_restore (R : MRel st0 cfg st) {t : Nat} (ht : PosT t) (pc' : Nat) :
    MRel st0 { cfg with pc := pc', temps := (clobberTemp cfg.temps).put t cfg.scratch }
      (st.copyReg (posTemp t) TEMP) := by
  have hwf := R.keep.wf
  have hsame : rv (st.copyReg (posTemp t) TEMP) t = (mview st).val 1 :=
    val_copyReg_same hwf (by simp [posReg]) (by unfold PosT at ht; simp [posReg]; omega) (by decide) (by decide)
  refine ⟨?_, ?_, keep_move_step R.keep (Or.inr ⟨t, ht, rfl⟩)⟩
  · intro t' v' ht' hg
    by_cases e' : t' = t
    · subst e'
      simp only at hg
      rw [get_put_same] at hg
      rw [hsame]; exact R.scratch v' hg
    · rw [get_put_other _ _ e', get_clobberTemp _ (posT_ne_temp ht')] at hg
      rw [rv_copy_other hwf ht' (by simp; exact fun e => e' (posReg_inj.1 e))]
      exact R.temps t' v' ht' hg
  · intro w hw
    have : (mview (st.copyReg (posTemp t) TEMP)).val 1 = (mview st).val 1 := by
      simp only [mview]
      rw [(keep_copyReg hwf (posTemp t) TEMP).regs 1 (by omega) (by omega) (by simp [posReg])]
    rw [this]
    exact R.scratch w hw

end Ops

section Follow

variable {mc : MonCfg} {p : RV.Program} {ks : List Code} (L : Loaded p ks) (hndL : (labs ks).Nodup)
  (hheap : mc.heap = false) {P : Abs.Program} {st0 : State}

include L hndL hheap in
theorem step_MV {x y : Register} {more : List Code} {s : State} (hat : KAt ks s.pc ([Code.MV x y] ++ more)) :
    ∃ pc' k', Reach p mc s (setPS (s.copyReg x y) pc' k') ∧ KAt ks pc' more :=
  exec_block L hndL hheap hat (fun c hc => by simp at hc; subst hc; rfl) (by simp)
    (execFwd_single (show exec mc p.labelAddr 0 (Code.MV x y) s = .ok (_, .fall) from rfl))

include L hndL hheap in
/-- the abstract machine (on ANY configuration: moves copy possibly undefined temporaries) and the RV64
machine execute a rendered block of moves in lockstep -/
theorem mseg_follow {ops : List MockOp} {items : List Code} (S : MSeg ops items) :
    ∀ (more : List Code) (cfg : Config) (st : State), CodeAt P cfg.pc ops → KAt ks st.pc (items ++ more) →
    MRel st0 cfg st →
    ∃ cfg' st', stepsTo P (instrCount ops) cfg cfg' ∧ Reach p mc st st' ∧
      KAt ks st'.pc more ∧ MRel st0 cfg' st' ∧ cfg'.pc = cfg.pc + instrCount ops := by
  induction S with
  | nil =>
    intro more cfg st _ hat R
    exact ⟨cfg, st, rfl, Reach.refl _ _ _, by simpa using hat, R, by simp [instrCount]⟩
  | @cons op blk ops cs' hop S ih =>
    intro more cfg st hat hatX R
    have hatX' : KAt ks st.pc (blk ++ (cs' ++ more)) := by simpa [List.append_assoc] using hatX
    have one : ∃ cfg1 st1, stepsTo P (instrCount [op]) cfg cfg1 ∧ Reach p mc st st1 ∧
        KAt ks st1.pc (cs' ++ more) ∧ MRel st0 cfg1 st1 ∧ cfg1.pc = cfg.pc + instrCount [op] ∧
        CodeAt P cfg1.pc ops := by
      cases op <;> simp only [MOpRel] at hop
      case comment m =>
        subst hop
        simp only [CodeAt] at hat
        obtain ⟨pc0, k0, hr0, hat0⟩ := pass_comments L hndL hheap hatX' (fun y hy => by simp at hy; exact ⟨_, hy⟩)
        exact ⟨cfg, _, rfl, hr0, hat0, R.setPS _ _, by simp [instrCount], hat⟩
      case mov t s =>
        obtain ⟨ht, hs, rfl⟩ := hop
        simp only [CodeAt] at hat
        obtain ⟨hc, hat'⟩ := hat
        obtain ⟨pc1, k1, hr1, hat1⟩ := step_MV L hndL hheap hatX'
        exact ⟨_, _, stepsTo_one P _ _ (step_mov' P cfg t s hc (posT_ne_temp ht)), hr1, hat1,
          (mrep_mov R ht hs (cfg.pc + 1)).setPS _ _, rfl, hat'⟩
      case save t sp =>
        obtain ⟨ht, rfl⟩ := hop
        simp only [CodeAt] at hat
        obtain ⟨hc, hat'⟩ := hat
        obtain ⟨pc1, k1, hr1, hat1⟩ := step_MV L hndL hheap hatX'
        exact ⟨_, _, stepsTo_one P _ _ (step_save' P cfg t sp hc), hr1, hat1,
          (mrep_save R ht (cfg.pc + 1)).setPS _ _, rfl, hat'⟩
      case restore t sp =>
        obtain ⟨ht, rfl⟩ := hop
        simp only [CodeAt] at hat
        obtain ⟨hc, hat'⟩ := hat
        obtain ⟨pc1, k1, hr1, hat1⟩ := step_MV L hndL hheap hatX'
        exact ⟨_, _, stepsTo_one P _ _ (step_restore' P cfg t sp hc (posT_ne_temp ht)), hr1, hat1,
          (mrep_restore R ht (cfg.pc + 1)).setPS _ _, rfl, hat'⟩
    obtain ⟨cfg1, st1, hs1, hn1, hat1, R1, hpcA, hatc1⟩ := one
    obtain ⟨cfg2, st2, hs2, hn2, hat2, R2, hpcB⟩ := ih more cfg1 st1 hatc1 hat1 R1
    have hic : instrCount (op :: ops) = instrCount [op] + instrCount ops := by
      rw [show op :: ops = [op] ++ ops from rfl, Scc.Backend.Subst.instrCount_append]
    refine ⟨cfg2, st2, ?_, hn1.trans hn2, hat2, R2, ?_⟩
    · rw [hic]
      exact stepsTo_trans P _ _ _ _ _ hs1 hs2
    · rw [hpcB, hpcA, hic]; omega

end Follow

theorem mseg_of_segG {g g' : Unit} {ops : List MockOp} {cs : List Code}
    (h : Render.SegG (fun _ op blk _ => MOpRel op blk) g ops cs g') : MSeg ops cs := by
  induction h with
  | nil _ => exact MSeg.nil
  | cons hop _ ih => exact MSeg.cons hop ih

theorem mMoveOps : Render.MoveOps rvBackend posTemp PosT (fun (_ : Unit) op blk _ => MOpRel op blk) ()
    (fun _ => ()) (fun _ _ _ => True) where
  tm := tempMap_posTemp
  save hp _ := ⟨hp, rfl⟩
  restore ht := ⟨ht, rfl⟩
  mov ht hs _ := ⟨ht, hs, rfl⟩
  comment := rfl
  edges t kids := Render.EdgesTs.of_forall (fun _ _ _ _ => trivial) t kids

theorem mseg_treeMoves (b : Bool) (parent : Nat) (hp : PosT parent) : ∀ (tr : Tree Nat),
    TreeOK PosT tr →
    MSeg (treeMoves mockSym parent false tr) (treeMoves rvBackend (posTemp parent) b (mapT posTemp tr)) :=
  fun tr hw => mseg_of_segG (Render.seg_treeMoves mMoveOps b parent hp tr () (Or.inl rfl) hw
    (Render.EdgesT.of_forall (fun _ _ _ _ => trivial) _ _))

/-- the mock run that corresponds to a successful RV run of `variable_temporary` -/
theorem vt_rel {num : TempNum} {ctx : Ctx} {id : Nat} {c : Nat} {t : Register} {c' : Nat}
    (h : (rvBackend.variableTemporary num ctx id).run c = .ok (t, c')) :
    ∃ pos, Pos.posOf ctx id = some pos ∧ 2 * pos + num.toNat < 28 ∧ t = posTemp (2 * pos + num.toNat) ∧
      c' = c ∧ (mockSym.variableTemporary num ctx id).run c = .ok (2 * pos + num.toNat, c) := by
  obtain ⟨pos, hp, hlt, rfl, rfl⟩ := (rv_vt_run_ok num ctx id c t c').1 h
  refine ⟨pos, hp, hlt, rfl, rfl, ?_⟩
  rw [mockSym_variableTemporary, vt_run_ok]
  exact ⟨pos, by rw [ctxPosition_eq_posOf]; exact hp, rfl, rfl⟩

theorem mVarTemps : Render.VarTemps rvBackend posTemp PosT (fun _ => True) where
  vt h := by
    obtain ⟨pos, hp, hlt, rfl, rfl, hm⟩ := vt_rel h
    exact ⟨pos, hp, rfl, rfl, fun _ => hlt, hm⟩

/-- `code_exchange`, all bindings: the RV code renders the mock code -/
theorem mseg_codeExchange (tm : List (Binding × List Nat)) (Γ newΓ : Ctx)
    {c : Nat} {code : List Code} {c' : Nat}
    (h : (codeExchange rvBackend tm Γ newΓ).run c = .ok (code, c')) :
    ∃ ops, (codeExchange mockSym tm Γ newΓ).run c = .ok (ops, c') ∧ MSeg ops code := by
  obtain ⟨ops, hops, S⟩ := Render.seg_codeExchange mMoveOps mVarTemps trivial tm Γ newΓ (fun _ _ _ => trivial) h
  exact ⟨ops, hops, mseg_of_segG S⟩

end Scc.RV.Ref
