/-
  Scc.RV.ConcRun — the STATEMENT BOUNDARIES of the RV64 run of ANY program (integers, data types, closures),
  made explicit (RV64 has one run layer for all programs; x86-64 has Scc/X86/ConcRun.lean and ConcKRun.lean): along
  a run of the positional machine, the machine passes (by `stepN`, Scc/RV/ConcStep.lean: without fault, without
  ending the run) through states related by `Rel3` to EVERY state `statesOf` of the run, in order (`BChain`).  The
  boundaries `Bd` with `step3P` (Scc/RV/RefRun.lean) read at them are an instance of Scc/Backend/TrackHeap.lean
  (`boundaries`), and the run is `Track.run` (Scc/Backend/Track.lean).  Before the run (`Entry`, `entry_setup`):
  loader, the entry state, Theorem A at the entry, the first `Rel3` behind the entry label.
  No tolerance is needed on RV64: an indirect jump lands ON the label standing at the target address, so the
  machine IS at the boundary state the relation speaks about.
-/
import Scc.RV.ConcInv
import Scc.Backend.TrackHeap

namespace Scc.RV.Conc

open Scc.AxCut Scc.Backend Scc.Backend.Abs Scc.RV.Ref
open Scc.Backend.Sim2
open Scc.Props.C14Generic (LabelSafe)
open Scc.Props.C06Generic (outAfter WithinCapacity Reachable EnoughHeap CodeFits statesOf stopsWithin
  reachable_mem_statesOf)
open Scc.Heap (HState InvS InvW)
open Scc.Heap.Refine (HRef FrLe Room)
open Scc.X86.Conc (ctxKinds ctxKinds_keys)

/-- from `X` the machine passes through a chain of states (by `stepN`: no fault, no end of the run in
between), one for each positional state of the list, each in relation `Q` to it: `Track.Chain`
(Scc/Backend/Track.lean) with `steps` spelt out for this machine, the form the statements of the run theorems use;
`bchain_of_chain` below turns a `Track.Chain` into it -/
def BChain (pr : RV.Program) (mc : MonCfg) (Q : Pos.State → State → Prop) : List Pos.State → State → Prop
  | [], _ => True
  | st :: rest, X => Q st X ∧ (rest = [] ∨ ∃ n X', stepN pr mc n X = .inl X' ∧ BChain pr mc Q rest X')

theorem BChain.mem {pr : RV.Program} {mc : MonCfg} {Q : Pos.State → State → Prop} :
    ∀ {sts : List Pos.State} {X : State}, BChain pr mc Q sts X → ∀ st ∈ sts,
      ∃ n X', stepN pr mc n X = .inl X' ∧ Q st X'
  | [], _, _, st, h => by simp at h
  | s0 :: rest, X, hc, st, h => by
    rcases List.mem_cons.1 h with rfl | h
    · exact ⟨0, X, rfl, hc.1⟩
    · rcases hc.2 with e | ⟨n, X', hn, hc'⟩
      · subst e; simp at h
      · obtain ⟨n', X'', hn', hq⟩ := BChain.mem hc' st h
        exact ⟨n + n', X'', stepN_trans pr mc hn hn', hq⟩

theorem BChain.mono {pr : RV.Program} {mc : MonCfg} {Q Q' : Pos.State → State → Prop}
    (hq : ∀ st X, Q st X → Q' st X) :
    ∀ {sts : List Pos.State} {X : State}, BChain pr mc Q sts X → BChain pr mc Q' sts X
  | [], _, _ => trivial
  | s0 :: rest, X, hc => by
    refine ⟨hq _ _ hc.1, ?_⟩
    rcases hc.2 with e | ⟨n, X', hn, hc'⟩
    · exact Or.inl e
    · exact Or.inr ⟨n, X', hn, BChain.mono hq hc'⟩

theorem BChain.prepend {pr : RV.Program} {mc : MonCfg} {Q : Pos.State → State → Prop} {n : Nat} {X0 X : State}
    (h0 : stepN pr mc n X0 = .inl X) :
    ∀ {sts : List Pos.State}, BChain pr mc Q sts X → ∀ st ∈ sts, ∃ n' X', stepN pr mc n' X0 = .inl X' ∧ Q st X' := by
  intro sts hc st hm
  obtain ⟨n', X', h1, h2⟩ := hc.mem st hm
  exact ⟨n + n', X', stepN_trans pr mc h0 h1, h2⟩

abbrev Steps (pr : RV.Program) (mc : MonCfg) (k : Nat) (X Y : State) : Prop := stepN pr mc k X = .inl Y

theorem bchain_of_chain {pr : RV.Program} {mc : MonCfg} {Q : Pos.State → State → Prop} :
    ∀ {sts : List Pos.State} {X : State}, Track.Chain (Steps pr mc) Q sts X → BChain pr mc Q sts X
  | [], _, _ => trivial
  | _ :: _, _, hc => ⟨hc.1, hc.2.imp id fun ⟨n, X', hn, hc'⟩ => ⟨n, X', hn, bchain_of_chain hc'⟩⟩

/-- a statement boundary of the run: a typed state of the positional machine, all of whose successors fit the
registers, in relation `Rel3` to the machine state (RV64 has no output: `acc` is not looked at) -/
structure Bd (mc : MonCfg) (ks : List Code) (P : Abs.Program) (hooks : Bool) (prog : AxCut.Prog) (st : Pos.State)
    (acc : List (Bool × Word)) (cfg : Config) (hs : HState) (X : State) : Prop where
  typed : Pos.StateTyped prog st
  cap : ∀ st', Reachable prog st st' → st'.ctx.length ≤ 14
  rel : Rel3 mc ks P hooks prog st cfg hs X

theorem Bd.x3 {mc : MonCfg} {ks : List Code} {P : Abs.Program} {hooks : Bool} {prog : AxCut.Prog} {st : Pos.State}
    {acc : List (Bool × Word)} {cfg : Config} {hs : HState} {X : State} (B : Bd mc ks P hooks prog st acc cfg hs X) :
    ∃ Γ' ι cw τ, X3 mc cw τ Γ' cfg hs ι X := by
  obtain ⟨Γ', ι, cw, τ, _, _, X3h, _⟩ := B.rel
  exact ⟨Γ', ι, cw, τ, X3h⟩

/-- the statement allocates at most as many blocks as there are registers for variables -/
theorem Bd.alloc_le {mc : MonCfg} {ks : List Code} {P : Abs.Program} {hooks : Bool} {prog : AxCut.Prog}
    {st : Pos.State} {acc : List (Bool × Word)} {cfg : Config} {hs : HState} {X : State}
    (B : Bd mc ks P hooks prog st acc cfg hs X) : Scc.X86.Ref.K.allocArity st.stmt ≤ 14 := by
  have h1 := Scc.X86.Ref.K.allocArity_le_length B.typed.1
  have h2 := B.cap st Reachable.refl
  omega

/-- the machine ends the run with result `v` (the output so far is not mentioned: the RV64 machine has no trace, its
backend cannot print) -/
def AtEnd (pr : RV.Program) (mc : MonCfg) (v : Word) (_ : List (Bool × Word)) (XL : State) : Prop :=
  ∃ r, step pr mc XL = .inr r ∧ r.res = .done v

section Run3

variable {mc : MonCfg} {pr : RV.Program} {ks : List Code} (L : Loaded pr ks)
  (hndL : (labs ks).Nodup) (hheap : mc.heap = false) {ic : Nat} (hclean : labIdx ks "cleanup" = some ic)
  (hicl : ic + 1 = ks.length)
  (hfitX : codeBase + 4 * icount ks < 2 ^ 64)

include L hndL hheap hclean hicl hfitX in
theorem boundaries (hooks : Bool) (prog : AxCut.Prog) (c : Nat) (code : List MockOp) (nargs c' : Nat)
    (hcomp : (compile mockSym hooks prog).run c = .ok ((code, nargs), c'))
    (hsafe : LabelSafe prog = true) (htp : LinTypedProg prog) (hfit : CodeFits code)
    (DX : KDefsAt ks hooks prog) :
    Track.Boundaries (Steps pr mc) prog (Bd mc ks (Program.ofOps code) hooks prog) (AtEnd pr mc) heapBase
      mc.heapBytes where
  refl _ := rfl
  trans := stepN_trans pr mc
  witness B := by
    obtain ⟨_, _, _, _, X3h⟩ := B.x3
    obtain ⟨lin, lazy, live, Fr, I⟩ := X3h.href.conc
    exact ⟨_, lin, lazy, live, Fr, I⟩
  hbase B := by obtain ⟨_, _, _, _, X3h⟩ := B.x3; exact X3h.hrel.base
  hlimit B := by obtain ⟨_, _, _, _, X3h⟩ := B.x3; exact X3h.hrel.limit
  next := by
    intro st acc cfg hs X st' o B hheapA hroom hst
    have hsim := step3P L hndL hheap hclean hicl hfitX hooks prog c code nargs c' hcomp hsafe hfit
      DX st cfg hs X B.rel B.typed hheapA hroom
    have hsafe' := Pos.step_safe htp st B.typed
    unfold StepSim3P at hsim
    simp only [hst] at hsim
    rw [hst] at hsafe'
    have hc' := B.cap st' (Reachable.step Reachable.refl hst)
    obtain ⟨cfg', hs', X', ⟨k, hk⟩, hj, h3, hfr, hpk, R'⟩ := hsim (withinCapacity_of_le hc') hc'
    have B' : Bd mc ks (Program.ofOps code) hooks prog st' (outAfter o acc) cfg' hs' X' :=
      ⟨hsafe', fun st'' hr => B.cap st'' (Scc.Props.C06Generic.reachable_prepend hst hr), R'⟩
    by_cases hJ : Scc.X86.Ref.K.IsJump st.stmt
    · obtain ⟨k1, hk1, hk'⟩ := hj hJ
      exact ⟨cfg', hs', k1, X', hk', B', h3, hfr, hpk, fun _ => hk1⟩
    · exact ⟨cfg', hs', k, X', hk, B', h3, hfr, hpk, fun h => absurd h hJ⟩
  done := by
    intro st acc cfg hs X v B hheapA hroom hst
    have hsim := step3P L hndL hheap hclean hicl hfitX hooks prog c code nargs c' hcomp hsafe hfit
      DX st cfg hs X B.rel B.typed hheapA hroom
    unfold StepSim3P at hsim
    simp only [hst] at hsim
    obtain ⟨XL, ⟨n, h1⟩, h2⟩ := hsim
    obtain ⟨r, hr, hres⟩ := step_done_of_runLoop (h2 0)
    exact ⟨n, XL, h1, r, hr, hres⟩

end Run3

def initState (regs : Array (Option Word)) (e : Nat) : State := { regs := regs, mem := ∅, pc := e }

/-- what the loader and the entry establish: the loaded program, its kept codes, the first boundary (behind the
entry label).  `ic`: the index of the label `cleanup`, the last of the kept codes; `e`: the entry of the loaded
program; `regs`: the entry registers for `args`; the machine takes one transition (the entry label) from its
initial state to the first boundary state `X0`; `a`: the program counter of the abstract machine at the entry -/
structure Entry (p : AxCut.Prog) (args : List Word) (hooks : Bool) (d0 : Def) (ops : List MockOp) (mc : MonCfg)
    (lines : List (Nat × Code)) (pr : RV.Program) (ic e : Nat) (regs : Array (Option Word)) (X0 : State)
    (a : Nat) : Prop where
  lay : layout lines = .ok pr
  loaded : Loaded pr (keptOf lines)
  nd : (labs (keptOf lines)).Nodup
  clean : labIdx (keptOf lines) "cleanup" = some ic
  icl : ic + 1 = (keptOf lines).length
  fit : codeBase + 4 * icount (keptOf lines) < 2 ^ 64
  defs : KDefsAt (keptOf lines) hooks p
  entry : pr.entry = some e
  hregs : entryRegs args = some regs
  steps : stepN pr mc 1 (initState regs e) = .inl X0
  rel : Rel3 mc (keptOf lines) (Program.ofOps ops) hooks p ⟨d0.ctx, args.map .int, d0.body⟩ (initConfig a args)
    (Scc.Heap.init heapBase (heapBase + mc.heapBytes)) X0
  next1 : (initConfig a args).next = 1
  typed : Pos.StateTyped p ⟨d0.ctx, args.map .int, d0.body⟩

/-- THE ENTRY: loader, entry state, Theorem A at the entry, the first `Rel3`.  `hcompM` next to `hcompX`: the relation
speaks of the mock code of the same program (the label counter of the RV64 run, `cX0`, is arbitrary); `hdr`: the
comment lines in front of the instructions; `hlines`: the parsed lines are the routine up to the text of
comments; `hfitX` counts every item as an instruction, which bounds `icount`; `hentry`: the parameters of the
first definition are `ext` integers -/
theorem entry_setup (p : AxCut.Prog) (args : List Word) (hooks : Bool) (instrs hdr : List Code)
    (nargs cX : Nat) (d0 : Def) (ops : List MockOp) (c' : Nat)
    (hsafe : LabelSafe p = true) (htp : LinTypedProg p)
    (hcompM : (compile mockSym hooks p).run 0 = .ok ((ops, nargs), c'))
    {cX0 : Nat} (hcompX : (compile rvBackend hooks p).run cX0 = .ok ((instrs, nargs), cX))
    (hnd : (labs (instrs ++ [Code.LAB "cleanup"])).Nodup) (hfitX : codeBase + 4 * instrs.length < 2 ^ 64)
    (hd : p.defs.head? = some d0) (hentry : ∀ b ∈ d0.ctx, b.chi = .ext ∧ b.ty = .i64)
    (hlen : d0.ctx.length = args.length) (hc0 : d0.ctx.length ≤ 14)
    (mc : MonCfg) (htop : heapBase + mc.heapBytes ≤ 2 ^ 63) (hbytes : 128 ≤ mc.heapBytes)
    (lines : List (Nat × Code)) (hhdr : ∀ c ∈ hdr, c.isComment = true)
    (hlines : (lines.map (·.2)).map stripC = (hdr ++ instrs ++ [Code.LAB "cleanup"]).map stripC)
    (hhook : ∀ x ∈ lines, ¬ badHook x.2) :
    ∃ pr ic e regs X0 a, Entry p args hooks d0 ops mc lines pr ic e regs X0 a := by
  have hmem : d0 ∈ p.defs := List.mem_of_mem_head? hd
  have hnodupD := Scc.Props.C14Generic.labels_unique hooks p 0 ops nargs c' hcompM hsafe
  -- the loader
  obtain ⟨pr, hlay, L⟩ := loaded_layout lines hhook
  have hK : Keeps (hdr ++ instrs ++ [Code.LAB "cleanup"]) (keptOf lines) :=
    (keeps_filter (lines.map (·.2))).of_strip hlines
  generalize hks : keptOf lines = ks at L hK
  have hlabs : labs ks = labs (instrs ++ [Code.LAB "cleanup"]) := by
    rw [hK.labs, List.append_assoc, labs_append]
    have : labs hdr = [] := by
      unfold labs
      rw [List.filterMap_eq_nil_iff]
      intro c hc
      have := hhdr c hc
      cases c <;> simp [Code.isComment] at this
      rfl
    rw [this]; rfl
  have hndL : (labs ks).Nodup := by rw [hlabs]; exact hnd
  -- the pieces of the kept codes
  obtain ⟨k12, k3, e1, h12, h3⟩ := hK.append_inv
  obtain ⟨k1, k2, e2, h1, h2⟩ := h12.append_inv
  obtain ⟨k3', rfl, h3'⟩ := h3.cons_inv (c := Code.LAB "cleanup") rfl
  have hk3 : k3' = [] := by cases h3'; rfl
  subst hk3
  have hclean : labIdx ks "cleanup" = some (k1 ++ k2).length := by
    apply labIdx_of_nodup hndL
    rw [e1, e2]; simp
  -- the definitions
  have DX : KDefsAt ks hooks p := kdefsAt_of_compile hcompX rfl hK hndL
  obtain ⟨i, kx, kx', ditems, hi, hget, hdrun, hdat⟩ := DX d0 hmem
  -- the entry label is the first label
  have hinstr : ∃ rest, instrs = Code.LAB (d0.name.print ++ "_") :: rest := by
    unfold compile compileR at hcompX
    cases hdefs : p.defs with
    | nil => rw [hdefs] at hd; simp at hd
    | cons d ds =>
      rw [hdefs] at hd hcompX
      simp only [List.head?_cons, Option.some.injEq] at hd
      subst hd
      simp only [run_bind_ok, run_pure_ok, translateR] at hcompX
      obtain ⟨blocks, c1, ⟨is, c2, h1, rest, c3, h2, rfl, rfl⟩, e, rfl⟩ := hcompX
      injection e with e1 e2
      exact ⟨is ++ assemble rvBackend rest (ds.map (·.name)), by rw [← e1]; rfl⟩
  obtain ⟨irest, hinstr⟩ := hinstr
  rw [hinstr] at h2
  obtain ⟨k2', rfl, h2'⟩ := h2.cons_inv (c := Code.LAB (d0.name.print ++ "_")) rfl
  have hk1c := keeps_comments h1 hhdr
  have hentryIdx : pr.entry = some k1.length := by
    rw [L.entry, e1, e2, List.append_assoc, firstLab_append_comments hk1c]
    simp [firstLab, isLab, List.findIdx?_cons]
  have hi0 : i = k1.length := by
    have hg : ks[k1.length]? = some (Code.LAB (d0.name.print ++ "_")) := by rw [e1, e2]; simp
    have := labIdx_of_nodup hndL hg
    rw [hi] at this
    exact Option.some.inj this
  subst hi0
  -- the entry state
  obtain ⟨regs, hregs, _⟩ := entryRegs_spec args (by omega)
  have X3i : X3 mc (fun _ => 0) (fun _ _ => 0) d0.ctx (initConfig 0 args)
      (Scc.Heap.init heapBase (heapBase + mc.heapBytes)) id { regs := regs, mem := ∅, pc := k1.length } :=
    x3_init hregs hlen (fun b hb => (hentry b hb).1) hc0 htop hbytes id
  -- Theorem A at the entry
  obtain ⟨a, hlab, RX, hn1⟩ := init_relX hooks p 0 ops nargs c' hcompM hnodupD d0 hmem
    (fun b hb => (hentry b hb).1) args hlen (withinCapacity_of_le hc0)
  have T : Pos.StateTyped p ⟨d0.ctx, args.map .int, d0.body⟩ :=
    ⟨htp d0 hmem, Pos.ints_typed d0.ctx args hlen hentry⟩
  have X3a : X3 mc (fun _ => 0) (fun _ _ => 0) d0.ctx (initConfig a args)
      (Scc.Heap.init heapBase (heapBase + mc.heapBytes)) id { regs := regs, mem := ∅, pc := k1.length } :=
    X3i.absCongr (fun _ _ => rfl) rfl rfl
  -- over the entry label
  have hatL : KAt ks (State.pc { regs := regs, mem := ∅, pc := k1.length })
      (Code.LAB (d0.name.print ++ "_") :: ditems) := KAt.of_label hget hdat
  obtain ⟨hg0, hat1⟩ := hatL.head rfl
  obtain ⟨it, hit1, hit2, _⟩ := loaded_item L hg0
  have hstep1 : step pr mc { regs := regs, mem := ∅, pc := k1.length } =
      .inl (setPS { regs := regs, mem := ∅, pc := k1.length } (k1.length + 1) 0) :=
    step_of_label pr mc _ hit1 hit2 (defLabel_ne_cleanup _)
  have R3 : Rel3 mc ks (Program.ofOps ops) hooks p ⟨d0.ctx, args.map .int, d0.body⟩ (initConfig a args)
      (Scc.Heap.init heapBase (heapBase + mc.heapBytes))
      (setPS { regs := regs, mem := ∅, pc := k1.length } (k1.length + 1) 0) :=
    ⟨d0.ctx, id, fun _ => 0, fun _ _ => 0, rfl, RX, X3R.setPS X3a _ _, cvals_of_ints RX.vals, kx, kx', ditems,
      hdrun, hat1⟩
  have hfitK : codeBase + 4 * icount ks < 2 ^ 64 := by
    have h1 : icount ks ≤ instrs.length := by
      rw [e1, e2, icount_append, icount_append, icount_single]
      have hz : icount k1 = 0 := by
        unfold icount
        rw [List.length_eq_zero_iff, List.filter_eq_nil_iff]
        intro y hy
        have := hk1c y hy
        cases y <;> simp [Code.isComment] at this
        simp [Code.isInstr]
      have hle : icount (Code.LAB (d0.name.print ++ "_") :: k2') ≤ (Code.LAB (d0.name.print ++ "_") :: k2').length := by
        unfold icount; exact List.length_filter_le _ _
      have hlen2 : (Code.LAB (d0.name.print ++ "_") :: k2').length ≤ instrs.length := by
        rw [hinstr]
        simp only [List.length_cons]
        have := h2'.length_le
        omega
      rw [hz]
      simp [Code.isInstr]
      omega
    omega
  have hicl : (k1 ++ Code.LAB (d0.name.print ++ "_") :: k2').length + 1 = ks.length := by
    rw [e1, e2]; simp only [List.length_append, List.length_cons, List.length_nil]
  subst hks
  exact ⟨pr, _, k1.length, regs, _, a, hlay, L, hndL, hclean, hicl, hfitK, DX, hentryIdx, hregs,
    by rw [stepN_one]; exact hstep1, R3, hn1, T⟩

section EntryRun

variable {p : AxCut.Prog} {args : List Word} {hooks : Bool} {d0 : Def} {ops : List MockOp} {mc : MonCfg}
  {lines : List (Nat × Code)} {pr : RV.Program} {ic e : Nat} {regs : Array (Option Word)} {X0 : State} {a : Nat}
  (En : Entry p args hooks d0 ops mc lines pr ic e regs X0 a)

include En in
theorem Entry.boundaries (hheap : mc.heap = false) {nargs c' : Nat}
    (hcompM : (compile mockSym hooks p).run 0 = .ok ((ops, nargs), c')) (hsafe : LabelSafe p = true)
    (htp : LinTypedProg p) (hfit : CodeFits ops) :
    Track.Boundaries (Steps pr mc) p (Bd mc (keptOf lines) (Program.ofOps ops) hooks p) (AtEnd pr mc) heapBase
      mc.heapBytes :=
  Conc.boundaries En.loaded En.nd hheap En.clean En.icl En.fit hooks p 0 ops nargs c' hcompM hsafe htp hfit En.defs

include En in
theorem Entry.bd (hcap : ∀ st, Reachable p ⟨d0.ctx, args.map .int, d0.body⟩ st → st.ctx.length ≤ 14) :
    Bd mc (keptOf lines) (Program.ofOps ops) hooks p ⟨d0.ctx, args.map .int, d0.body⟩ [] (initConfig a args)
      (Scc.Heap.init heapBase (heapBase + mc.heapBytes)) X0 :=
  ⟨En.typed, hcap, En.rel⟩

end EntryRun

/-- a machine state at a STATEMENT BOUNDARY of the run of the routine: related by the three-way relation `Rel3`
(Scc/RV/RefRun.lean: Theorem A's relation, the representation relation `X3` of the RV64 machine with the machine
words of the closures, the RV64 code of the current statement at the program counter) to a state of the
positional machine.  `ks`: the kept codes of the loaded lines -/
def BoundaryOf (p : AxCut.Prog) (hooks : Bool) (ks : List Code) (ops : List MockOp) (mc : MonCfg)
    (st : Pos.State) (X : State) : Prop :=
  ∃ (cfgA : Config) (hs : HState), Rel3 mc ks (Program.ofOps ops) hooks p st cfgA hs X

/-- THE HEAP INVARIANT AT EVERY STATEMENT BOUNDARY: a machine state related by `Rel3` to a positional state
satisfies the monitor's predicate for the kinds of that state's context -/
theorem heapInvAt_of_boundary {p : AxCut.Prog} {hooks : Bool} {ks : List Code} {ops : List MockOp}
    {mc : MonCfg} {st : Pos.State} {X : State} (B : BoundaryOf p hooks ks ops mc st X) :
    HeapInvAt X (ctxKinds st.ctx) (heapBase + mc.heapBytes) := by
  obtain ⟨cfgA, hs, Γ', ι, cw, τ, hkeys, RX, X3h, _⟩ := B
  have := (heapInvAt_of_x3 RX X3h).1
  rw [ctxKinds_keys hkeys] at this
  exact this

theorem run_entry {p : AxCut.Prog} {args : List Word} {d0 : Def} (hd : p.defs.head? = some d0) {fuel : Nat}
    {v : Word} (hrun : (Pos.run p args fuel).res = .done v) :
    d0.ctx.length = args.length ∧
      (Pos.runState p fuel ⟨d0.ctx, args.map .int, d0.body⟩ []).res = .done v := by
  obtain ⟨_, hlen, h⟩ := Scc.Props.C06Generic.run_entry hd rfl ⟨v, hrun⟩
  exact ⟨hlen, by rw [h]; exact hrun⟩

/-- the whole run from the machine's initial state: the machine passes through a boundary state for EVERY
state of the terminating run of the positional machine, in order, and ends the run with its result -/
theorem programs_chain (p : AxCut.Prog) (args : List Word) (hooks : Bool) (instrs hdr : List Code)
    (nargs cX : Nat) (d0 : Def) (ops : List MockOp) (c' : Nat)
    (hsafe : LabelSafe p = true) (htp : LinTypedProg p)
    (hcompM : (compile mockSym hooks p).run 0 = .ok ((ops, nargs), c')) (hfit : CodeFits ops)
    {cX0 : Nat} (hcompX : (compile rvBackend hooks p).run cX0 = .ok ((instrs, nargs), cX))
    (hnd : (labs (instrs ++ [Code.LAB "cleanup"])).Nodup) (hfitX : codeBase + 4 * instrs.length < 2 ^ 64)
    (hd : p.defs.head? = some d0) (hentry : ∀ b ∈ d0.ctx, b.chi = .ext ∧ b.ty = .i64)
    (hcap : ∀ st, Reachable p ⟨d0.ctx, args.map .int, d0.body⟩ st → st.ctx.length ≤ 14)
    (fuel : Nat) (v : Word) (hfuel : fuel + 1 < 2 ^ 64)
    (hrun : (Pos.run p args fuel).res = .done v)
    (mc : MonCfg) (hheap : mc.heap = false) (htop : heapBase + mc.heapBytes ≤ 2 ^ 63)
    (hbytes : 128 + 64 * 15 * fuel ≤ mc.heapBytes)
    (lines : List (Nat × Code)) (hhdr : ∀ c ∈ hdr, c.isComment = true)
    (hlines : (lines.map (·.2)).map stripC = (hdr ++ instrs ++ [Code.LAB "cleanup"]).map stripC)
    (hhook : ∀ x ∈ lines, ¬ badHook x.2) :
    ∃ pr e regs, layout lines = .ok pr ∧ pr.entry = some e ∧ entryRegs args = some regs ∧
      ∃ X0, stepN pr mc 1 (initState regs e) = .inl X0 ∧
        BChain pr mc (BoundaryOf p hooks (keptOf lines) ops mc)
          (statesOf p fuel ⟨d0.ctx, args.map .int, d0.body⟩) X0 ∧
        stopsWithin p fuel ⟨d0.ctx, args.map .int, d0.body⟩ = true ∧
        ∃ n XL r, stepN pr mc n X0 = .inl XL ∧ step pr mc XL = .inr r ∧ r.res = .done v := by
  obtain ⟨hlen, hrun'⟩ := run_entry hd hrun
  have hc0 := hcap _ Reachable.refl
  simp only at hc0
  obtain ⟨pr, ic, e, regs, X0, a, En⟩ := entry_setup p args hooks instrs hdr nargs cX d0 ops c' hsafe htp hcompM
    hcompX hnd hfitX hd hentry hlen hc0 mc htop (by omega) lines hhdr hlines hhook
  have H := En.boundaries hheap hcompM hsafe htp hfit
  have I0 : Track.RoomRun (Bd mc (keptOf lines) (Program.ofOps ops) hooks p) 14 (fuel + 0)
      ⟨d0.ctx, args.map .int, d0.body⟩ [] X0 :=
    ⟨_, _, En.bd hcap, by rw [En.next1]; omega, Scc.Heap.Refine.room_init (by decide) (by omega) (by omega)⟩
  obtain ⟨n, XL, _, g1, _, r, g2, g3⟩ := Track.room_done H (fun B => B.alloc_le) I0 (Track.Behaviour.eq_of_res hrun')
  exact ⟨pr, e, regs, En.lay, En.entry, En.hregs, X0, En.steps,
    bchain_of_chain (((Track.roomTrack H fun B => B.alloc_le).run fuel 0 _ _ _ I0).1.mono
      fun st X ⟨_, _, cfgA, hs, B, _⟩ => ⟨cfgA, hs, B.rel⟩),
    Track.stopsWithin_of_done p fuel _ _ _ _ (Track.Behaviour.eq_of_res hrun'), n, XL, r, g1, g2, g3⟩

end Scc.RV.Conc

namespace Scc.RV.Ref

open Scc.AxCut Scc.Backend
open Scc.Props.C14Generic (LabelSafe)
open Scc.Props.C06Generic (Reachable CodeFits)

/-- THEOREM A ∘ THEOREM B on the parsed LINES of the emitted routine: a terminating run of the AxCut
positional machine is reproduced by the RV64 machine on any line list that agrees with the emitted routine
(header comments, the instructions, `cleanup:`) up to the text of comments and has no malformed hook. -/
theorem programs_lines (p : AxCut.Prog) (args : List Word) (hooks : Bool) (instrs hdr : List Code)
    (nargs cX : Nat) (d0 : Def) (ops : List MockOp) (c' : Nat)
    (hsafe : LabelSafe p = true) (htp : LinTypedProg p)
    (hcompM : (compile mockSym hooks p).run 0 = .ok ((ops, nargs), c')) (hfit : CodeFits ops)
    {cX0 : Nat} (hcompX : (compile rvBackend hooks p).run cX0 = .ok ((instrs, nargs), cX))
    (hnd : (labs (instrs ++ [Code.LAB "cleanup"])).Nodup) (hfitX : codeBase + 4 * instrs.length < 2 ^ 64)
    (hd : p.defs.head? = some d0) (hentry : ∀ b ∈ d0.ctx, b.chi = .ext ∧ b.ty = .i64)
    (hcap : ∀ st, Reachable p ⟨d0.ctx, args.map .int, d0.body⟩ st → st.ctx.length ≤ 14)
    (fuel : Nat) (v : Word) (hfuel : fuel + 1 < 2 ^ 64)
    (hrun : (Pos.run p args fuel).res = .done v)
    (mc : MonCfg) (hheap : mc.heap = false) (htop : heapBase + mc.heapBytes ≤ 2 ^ 63)
    (hbytes : 128 + 64 * 15 * fuel ≤ mc.heapBytes)
    (lines : List (Nat × Code)) (hhdr : ∀ c ∈ hdr, c.isComment = true)
    (hlines : (lines.map (·.2)).map stripC = (hdr ++ instrs ++ [Code.LAB "cleanup"]).map stripC)
    (hhook : ∀ x ∈ lines, ¬ badHook x.2) :
    ∃ fuel', (runLines lines args fuel' mc).res = .done v := by
  obtain ⟨pr, e, regs, hlay, he, hregs, X0, h0, _, _, n, XL, r, h1, h2, h3⟩ :=
    Conc.programs_chain p args hooks instrs hdr nargs cX d0 ops c' hsafe htp hcompM hfit hcompX hnd hfitX hd hentry
      hcap fuel v hfuel hrun mc hheap htop hbytes lines hhdr hlines hhook
  refine ⟨1 + (1 + n), ?_⟩
  unfold runLines
  rw [hlay]
  simp only [runProgram, he, hregs]
  show (runLoop pr mc (1 + (1 + n)) (Conc.initState regs e)).res = .done v
  rw [runLoop_stepN pr mc (1 + n) 1 (stepN_trans pr mc h0 h1), runLoop_succ, h2]
  exact h3

end Scc.RV.Ref
