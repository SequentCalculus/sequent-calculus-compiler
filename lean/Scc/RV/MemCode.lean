/-
  Scc.RV.MemCode — WHAT memory.rs of the RV64 backend emits.  The methods without a capacity check
  (`skip_if_zero`, `if_zero_then_else`, `erase_block`, `share_block_n`, `acquire_block`) return the pure
  code `…C` from every label counter; `store` succeeds exactly when its registers exist and then returns
  the backend-independent code `Scc.Mem.StoreCode.storeFieldsC` of the leaves `memCode`; `load` succeeds only
  when its registers exist and then returns `Scc.Mem.LoadCode.loadC` of the leaves `loadCode`.
-/
import Scc.RV.Backend
import Scc.Mem.LoadCode
import Scc.Backend.ProofsGen

namespace Scc.RV

open Scc.AxCut
open Scc.Backend (GenM TempNum freshLabel Gen Emits)

/-- the register number of temporary `n` (= `2 * position + number`): `n + RESERVED` -/
def posReg (n : Nat) : Nat := n + 4

def posTemp (n : Nat) : Register := ⟨posReg n⟩

@[simp] theorem posTemp_n (n : Nat) : (posTemp n).n = posReg n := rfl

theorem posReg_inj {m n : Nat} : posReg m = posReg n ↔ m = n := by
  unfold posReg; omega

/-- the capacity check of the backend: "Out of registers" -/
theorem gen_positionRegister (num : TempNum) (p : Nat) :
    Gen (positionRegister num p) (2 * p + num.toNat < 28) (fun k => (posTemp (2 * p + num.toNat), k)) := by
  unfold positionRegister
  have hr : reserved = 4 := rfl
  have hn : registerNum = 32 := rfl
  dsimp only
  by_cases h : 2 * p + num.toNat + reserved < registerNum
  · rw [if_pos h]
    exact (Gen.pure _).congr ⟨fun _ => by omega, fun _ => trivial⟩
  · rw [if_neg h]
    exact Gen.throw.congr ⟨False.elim, fun h' => h (by omega)⟩

theorem gen_freshTemporary (num : TempNum) (ctx : Ctx) :
    Gen (freshTemporary num ctx) (2 * ctx.length + num.toNat < 28)
      (fun k => (posTemp (2 * ctx.length + num.toNat), k)) := gen_positionRegister num ctx.length

/-- memory.rs BlockPosition ↦ the model's -/
def posMap : BlockPosition → Scc.Heap.BlockPosition
  | .last => .last
  | .other => .other

theorem restLength_eq (n : Nat) (pos : BlockPosition) :
    restLength n pos = Scc.Heap.restLength n (posMap pos) := by
  cases pos <;> rfl

/-- memory.rs LoadMode ↦ the model's -/
def modeMap : LoadMode → Scc.Heap.LoadMode
  | .release => .release
  | .share => .share

end Scc.RV

namespace Scc.RV.Mem

open Scc.AxCut
open Scc.Backend (GenM TempNum freshLabel Gen Emits)

/-- memory.rs skip_if_zero from the label counter `k` (draws `k + 1`) -/
def skipIfZeroC (cond : Register) (toSkip : List Code) (k : Nat) : List Code :=
  [.BEQ cond ZERO (labName (k + 1))] ++ toSkip ++ [.LAB (labName (k + 1))]

/-- memory.rs if_zero_then_else from the label counter `k` (draws `k + 1`, `k + 2`) -/
def ifZeroThenElseC (cond : Register) (tb eb : List Code) (k : Nat) : List Code :=
  [.BEQ cond ZERO (labName (k + 1))] ++ eb ++ [.JAL ZERO (labName (k + 2)), .LAB (labName (k + 1))] ++ tb ++
    [.LAB (labName (k + 2))]

/-- The runs `ifZeroThenElse_run`, `eraseBlock_run`, `shareBlockN_run` of this namespace give the code as the
functions `…C`, which the walks below use; `Scc.RV.ifZeroThenElse_run` … of MemLemmas.lean state the same runs
with the code written out, for the contracts proved there. -/
theorem ifZeroThenElse_run (cond : Register) (tb eb : List Code) (k : Nat) :
    (ifZeroThenElse cond tb eb).run k = .ok (ifZeroThenElseC cond tb eb k, k + 2) := rfl

/-- memory.rs erase_block from the label counter `k` (draws three labels) -/
def eraseBlockC (r : Register) (k : Nat) : List Code :=
  skipIfZeroC r ([.COMMENT "######check refcount", .LW TEMP r referenceCountOffset] ++
    ifZeroThenElseC TEMP
      [.COMMENT "######... or add block to lazy free list", .SW FREE r nextElementOffset, .MV FREE r]
      [.COMMENT "######either decrement refcount ...", .ADDI TEMP TEMP (-1), .SW TEMP r referenceCountOffset] k)
    (k + 2)

theorem eraseBlock_run (r : Register) (k : Nat) : (eraseBlock r).run k = .ok (eraseBlockC r k, k + 3) := rfl

/-- memory.rs share_block_n from the label counter `k` (draws one label) -/
def shareBlockNC (r : Register) (n : Nat) (k : Nat) : List Code :=
  skipIfZeroC r [.COMMENT "####increment refcount", .LW TEMP r referenceCountOffset,
    .ADDI TEMP TEMP (n : Int), .SW TEMP r referenceCountOffset] k

theorem shareBlockN_run (r : Register) (n k : Nat) : (shareBlockN r n).run k = .ok (shareBlockNC r n k, k + 1) := rfl

/-- acquire_block::erase_fields from the label counter `k` (three labels per field) -/
def eraseFieldsC (r a : Register) : Nat → Nat → Nat → List Code
  | 0, _, _ => []
  | n + 1, offset, k =>
    [.COMMENT ("#####check child " ++ toString (offset + 1) ++ " for erasure"),
      .LW a r (fieldOffset 0 offset)] ++ eraseBlockC a k ++ eraseFieldsC r a n (offset + 1) (k + 3)

/-- memory.rs acquire_block from the label counter `k` (draws 13 labels) -/
def acquireBlockC (nb a : Register) (k : Nat) : List Code :=
  [.MV nb HEAP, .COMMENT "##get next free block into heap register",
      .COMMENT "###(1) check linear free list for next block", .LW HEAP HEAP nextElementOffset] ++
    ifZeroThenElseC HEAP
      ([.COMMENT "###(2) check non-linear lazy free list for next block", .MV HEAP FREE,
          .LW FREE FREE nextElementOffset] ++
        ifZeroThenElseC FREE
          [.COMMENT "###(3) fall back to bump allocation", .ADDI FREE HEAP (fieldOffset 0 fieldsPerBlock)]
          ([.COMMENT "####mark linear free list empty", .SW ZERO HEAP nextElementOffset,
            .COMMENT "####erase children of next block"] ++ eraseFieldsC HEAP a fieldsPerBlock 0 k) (k + 9))
      [.COMMENT "####initialize refcount of just acquired block", .SW ZERO nb referenceCountOffset]
      (k + 11)

theorem acquireBlock_run (nb a : Register) (k : Nat) :
    (acquireBlock nb a).run k = .ok (acquireBlockC nb a k, k + 13) := rfl

/-- the leaves of `store`; the temporaries are the register numbers, the additional temporary of
`acquire_block` for position `m` is the temporary of position `m + 1` -/
@[reducible] def memCode : Scc.Mem.StoreCode Code Nat where
  ρ := Register
  lab := .LAB
  comment := .COMMENT
  pos := posReg
  cap := 28
  okBlk := fun r => 2 ≤ r.n ∧ r.n < 32
  offOk := fun off => off ≤ 3
  offOk_mono := fun h1 h2 => Nat.le_trans h1 h2
  offOk_block := by decide
  heapR := HEAP
  heapR_ok := ⟨Nat.le_refl 2, by decide⟩
  stF := fun t r num off => [.SW ⟨t⟩ r (fieldOffset num.toNat off)]
  stZ := storeZero
  acqLabs := 13
  acq := fun m k => acquireBlockC (posTemp m) (posTemp (m + 1)) k
  zero := fun m => [.MV (posTemp m) ZERO]

theorem gen_storeField (num : TempNum) (ctx : Ctx) (blk : Register) (off : Nat) :
    Gen (storeField num ctx blk off) (2 * ctx.length + num.toNat < 28)
      (fun k => (Code.SW (posTemp (2 * ctx.length + num.toNat)) blk (fieldOffset num.toNat off), k)) := by
  unfold storeField
  refine (Gen.bindc (gen_freshTemporary num ctx) (c2 := True) ?_).congr ⟨fun h => h.1, fun h => ⟨h, trivial⟩⟩
  exact Gen.pure _

theorem gen_storeValue (b : Binding) (ctx : Ctx) (blk : Register) (off : Nat) :
    Gen (storeValue b ctx blk off) (2 * ctx.length + 1 < 28)
      (fun k => (memCode.storeValueC b ctx.length blk off, k)) := by
  unfold storeValue Scc.Mem.StoreCode.storeValueC
  by_cases hχ : (b.chi == .ext) = true
  · simp only [hχ, if_true]
    refine (Gen.bindc (gen_storeField .snd ctx blk off) (c2 := True) ?_).congr (by simp [TempNum.toNat])
    exact Gen.pure _
  · simp only [hχ, Bool.false_eq_true, if_false]
    refine (Gen.bindc (gen_storeField .snd ctx blk off) (Gen.bindc (gen_storeField .fst ctx blk off)
      (c2 := True) ?_)).congr ?_
    · exact Gen.pure _
    · simp only [TempNum.toNat]
      exact ⟨fun h => h.1, fun h => ⟨h, by omega, trivial⟩⟩

theorem gen_storeValuesLoop (rem : Ctx) (blk : Register) : ∀ (bsRev : List Binding) (ff : Nat),
    Gen (storeValuesLoop rem blk bsRev ff) (bsRev.length ≤ ff ∧ (bsRev = [] ∨ 2 * (rem.length + bsRev.length) ≤ 28))
      (fun k => (memCode.storeLoopC rem.length blk bsRev ff, k))
  | [], _ => (Gen.pure _).congr (by simp)
  | b :: rest, ff => by
    unfold storeValuesLoop
    have hp : Gen (pred1 ff) (0 < ff) (fun k => (ff - 1, k)) := by
      cases ff with
      | zero => exact Gen.throw.congr (by simp)
      | succ n => exact (Gen.pure _).congr (by simp)
    have hlen : (rem ++ rest.reverse).length = rem.length + rest.length := by simp
    refine (Gen.bindc hp (Gen.bindc (gen_storeValue b _ blk _) (Gen.bind (gen_storeValuesLoop rem blk rest (ff - 1))
      (fun r => Gen.pure _) (F := fun k => (memCode.storeLoopC rem.length blk (b :: rest) ff, k))
      fun _ => ?_))).congr ?_
    · simp [Scc.Mem.StoreCode.storeLoopC]
    · rw [hlen]
      simp only [List.length_cons, reduceCtorEq, false_or, and_true]
      constructor
      · rintro ⟨h1, h2, h3, h4⟩; omega
      · rintro ⟨h1, h2⟩
        refine ⟨by omega, by omega, by omega, ?_⟩
        by_cases hr : rest = []
        · exact Or.inl hr
        · exact Or.inr (by omega)

theorem gen_storeValues (toStore rem : Ctx) (blk : Register) (ff : Nat) :
    Gen (storeValues toStore rem blk ff)
      (toStore.length ≤ ff ∧ (toStore = [] ∨ 2 * (rem.length + toStore.length) ≤ 28))
      (fun k => (memCode.storeValuesC toStore rem.length blk ff, k)) := by
  unfold storeValues
  exact (Gen.bind (gen_storeValuesLoop rem blk toStore.reverse ff) (fun r => Gen.pure _) fun _ => rfl).congr
    (by simp)

theorem restLength_fits (n : Nat) (pos : BlockPosition) : n - restLength n pos ≤ fieldsPerBlock - pos.toNat := by
  unfold restLength
  split <;> omega

/-- `store_fields` succeeds exactly when its registers exist, and returns the backend-independent code
(the fuel of the code function is any bound on the recursion depth) -/
theorem gen_storeFields : ∀ (n : Nat) (toStore rem : Ctx) (pos : BlockPosition), toStore.length < n →
    Gen (storeFields toStore rem pos) (memCode.FitsS toStore rem.length (posMap pos))
      (memCode.storeFieldsC n toStore rem.length (posMap pos))
  | 0, _, _, _, h => absurd h (Nat.not_lt_zero _)
  | n + 1, toStore, rem, pos, hn => by
    rw [storeFields]
    unfold Scc.Mem.StoreCode.FitsS
    simp only [Scc.Mem.StoreCode.storeFieldsC]
    by_cases hne : toStore = []
    · subst hne
      simp only [List.isEmpty_nil, dite_true, if_true]
      cases pos with
      | last =>
        simp only [beq_self_eq_true, if_true, posMap]
        refine (Gen.bindc (gen_freshTemporary .fst rem) (c2 := True) ?_).congr ?_
        · exact Gen.pure _
        · simp only [TempNum.toNat, List.length_nil, reduceCtorEq, and_false, false_or, and_true, Nat.add_zero,
            false_imp_iff]
          omega
      | other => exact (Gen.pure _).congr (by simp [posMap])
    · have hie : toStore.isEmpty = false := List.isEmpty_eq_false_iff.mpr hne
      have hpos : 0 < toStore.length := List.length_pos_iff.mpr hne
      simp only [hie, Bool.false_eq_true, dite_false, if_neg hne, false_and, false_or]
      have hrl : Scc.Heap.restLength toStore.length (posMap pos) = restLength toStore.length pos :=
        (restLength_eq _ _).symm
      have hrlt : restLength toStore.length pos < toStore.length := by
        rw [restLength_eq]; exact Scc.Heap.restLength_lt _ _ hpos
      have hfit := restLength_fits toStore.length pos
      rw [hrl]
      generalize restLength toStore.length pos = rl at hrlt hfit ⊢
      have hlt : (rem ++ toStore.take rl).length = rem.length + rl := by
        simp [List.length_take]; omega
      have hlt2 : (toStore.take rl).length = rl := by simp [List.length_take]; omega
      have hdne : toStore.drop rl ≠ [] := fun e => by
        have := congrArg List.length e; simp only [List.length_drop, List.length_nil] at this; omega
      have h3 := gen_storeValues (toStore.drop rl) (rem ++ toStore.take rl) HEAP (fieldsPerBlock - pos.toNat)
      rw [hlt] at h3
      have h5 := gen_storeFields n (toStore.take rl) rem .other (by rw [hlt2]; omega)
      have tail : ∀ c1 : List Code, Gen (do
            let c3 ← storeValues (toStore.drop rl) (rem ++ toStore.take rl) HEAP (fieldsPerBlock - pos.toNat)
            let nb ← freshTemporary .fst (rem ++ toStore.take rl)
            let at' ← freshTemporary .snd (rem ++ toStore.take rl)
            let c4 ← acquireBlock nb at'
            let c5 ← storeFields (toStore.take rl) rem .other
            pure (c1 ++ (if (pos == .last) = true then [Code.COMMENT "#allocate memory"] else []) ++ c3 ++
              [.COMMENT "##acquire free block from heap register"] ++ c4 ++ c5))
          (2 * (rem.length + toStore.length) ≤ 28)
          (fun k =>
            let r := memCode.storeFieldsC n (toStore.take rl) rem.length .other (k + 13)
            (c1 ++ (if (pos == .last) = true then [Code.COMMENT "#allocate memory"] else []) ++
              memCode.storeValuesC (toStore.drop rl) (rem.length + rl) HEAP (fieldsPerBlock - pos.toNat) ++
              [.COMMENT "##acquire free block from heap register"] ++
              acquireBlockC (posTemp (2 * (rem.length + rl))) (posTemp (2 * (rem.length + rl) + 1)) k ++ r.1, r.2)) := by
        intro c1
        have hin : ∀ pre : List Code, Gen (do
              let c4 ← acquireBlock (posTemp (2 * (rem.length + rl))) (posTemp (2 * (rem.length + rl) + 1))
              let c5 ← storeFields (toStore.take rl) rem .other
              pure (pre ++ c4 ++ c5))
            (True ∧ memCode.FitsS (toStore.take rl) rem.length .other ∧ True)
            (fun k =>
              let r := memCode.storeFieldsC n (toStore.take rl) rem.length .other (k + 13)
              (pre ++ acquireBlockC (posTemp (2 * (rem.length + rl))) (posTemp (2 * (rem.length + rl) + 1)) k ++ r.1,
                r.2)) := fun pre =>
          Gen.bind (Gen.of_run (acquireBlock_run _ _)) (fun c4 => Gen.bind h5 (fun c5 => Gen.pure _) fun _ => rfl)
            fun _ => rfl
        have hf := gen_freshTemporary .fst (rem ++ toStore.take rl)
        have hs := gen_freshTemporary .snd (rem ++ toStore.take rl)
        simp only [TempNum.toNat, Nat.add_zero, hlt] at hf hs
        refine (Gen.bindc h3 (Gen.bindc hf (Gen.bindc hs (hin _)))).congr ?_
        simp only [List.length_drop, hdne, false_or, true_and, and_true, hlt2,
          Scc.Mem.StoreCode.FitsS, reduceCtorEq, true_imp_iff]
        constructor
        · rintro ⟨⟨_, h⟩, _⟩; omega
        · intro h
          refine ⟨⟨hfit, by omega⟩, by omega, by omega, ?_⟩
          by_cases hr : toStore.take rl = []
          · exact Or.inl hr
          · exact Or.inr ⟨by omega, by omega, by omega⟩
      cases pos with
      | last =>
        have := tail []
        have e1 : (BlockPosition.last == BlockPosition.other) = false := rfl
        simp only [e1, Bool.false_eq_true, if_false, beq_self_eq_true, if_true, posMap, reduceCtorEq,
          false_imp_iff, and_true] at this ⊢
        refine (Gen.bindc (Gen.pure _) this).congr ?_
        simp only [hne, false_and, false_or, true_and]
        omega
      | other =>
        have hsf := gen_storeField .fst (rem ++ toStore) HEAP (fieldsPerBlock - 1)
        simp only [TempNum.toNat, Nat.add_zero, List.length_append] at hsf
        have := tail [Code.COMMENT "##store link to previous block",
          Code.SW (posTemp (2 * (rem.length + toStore.length))) HEAP (fieldOffset 0 (fieldsPerBlock - 1))]
        have e1 : (BlockPosition.other == BlockPosition.last) = false := rfl
        simp only [e1, Bool.false_eq_true, if_false, beq_self_eq_true, if_true, posMap, reduceCtorEq,
          true_imp_iff] at this ⊢
        refine (Gen.bindc hsf (Gen.bindc (Gen.pure _) this)).congr ?_
        simp only [hne, false_and, false_or, true_and]
        omega

theorem gen_store (toStore rem : Ctx) :
    Gen (store toStore rem) (memCode.FitsS toStore rem.length .last)
      (memCode.storeFieldsC (toStore.length + 1) toStore rem.length .last) :=
  gen_storeFields _ toStore rem .last (Nat.lt_succ_self _)

/-- the leaves of `load_fields`: there are no spill slots -/
@[reducible] def loadCode : Scc.Mem.LoadCode Code Nat where
  toStoreCode := memCode
  ldF := fun t r num off => [.LW ⟨t⟩ r (fieldOffset num.toNat off)]
  shrLabs := 1
  shr := fun m k => shareBlockNC (posTemp m) 1 k
  release := releaseBlock
  isSpill := fun _ => false
  regOf := fun m => posTemp m
  regOf_ok := fun {m} h _ => by
    have h : m < 28 := h
    show 2 ≤ posReg m ∧ posReg m < 32
    unfold posReg; omega
  ttR := HEAP
  ttR_ok := ⟨Nat.le_refl 2, by decide⟩
  evac := []
  ldBlk := fun _ => []
  restore := []
  topLabs := 2
  top := fun m cT cE k =>
    [.COMMENT "#load from memory", .LW TEMP (posTemp m) referenceCountOffset] ++ [.COMMENT "##check refcount"] ++
      ifZeroThenElseC TEMP (.COMMENT "##... or release blocks onto linear free list when loading" :: cT)
        ([.COMMENT "##either decrement refcount and share children...", .ADDI TEMP TEMP (-1),
          .SW TEMP (posTemp m) referenceCountOffset] ++ cE) k

theorem gen_loadField (num : TempNum) (ctx : Ctx) (blk : Register) (off : Nat) :
    Gen (loadField num ctx blk off) (2 * ctx.length + num.toNat < 28)
      (fun k => (Code.LW (posTemp (2 * ctx.length + num.toNat)) blk (fieldOffset num.toNat off), k)) := by
  unfold loadField
  refine (Gen.bindc (gen_freshTemporary num ctx) (c2 := True) ?_).congr ⟨fun h => h.1, fun h => ⟨h, trivial⟩⟩
  exact Gen.pure _

theorem gen_loadValue (b : Binding) (ctx : Ctx) (blk : Register) (off : Nat) (mode : LoadMode) :
    Gen (loadValue b ctx blk off mode) (2 * ctx.length + 1 < 28)
      (fun k => loadCode.loadValueC b ctx.length blk off (modeMap mode) k) := by
  unfold loadValue Scc.Mem.LoadCode.loadValueC
  by_cases hχ : (b.chi != .ext) = true
  · simp only [hχ, if_true]
    have hf := gen_freshTemporary .fst ctx
    simp only [TempNum.toNat, Nat.add_zero] at hf
    cases mode with
    | share =>
      simp only [modeMap, if_true, beq_self_eq_true]
      refine (Gen.bindc (gen_loadField .snd ctx blk off) (Gen.bindc (gen_loadField .fst ctx blk off)
        (Gen.bindc hf (c2 := True) ?_))).congr ?_
      · exact (Gen.bind (Gen.of_run (shareBlockN_run _ 1)) (fun c3 => Gen.pure _) fun _ => rfl).congr (by simp)
      · simp only [TempNum.toNat]
        exact ⟨fun h => h.1, fun h => ⟨h, by omega, by omega, trivial⟩⟩
    | release =>
      have e1 : (LoadMode.release == LoadMode.share) = false := rfl
      simp only [modeMap, reduceCtorEq, if_false, e1, Bool.false_eq_true]
      refine (Gen.bindc (gen_loadField .snd ctx blk off) (Gen.bindc (gen_loadField .fst ctx blk off)
        (c2 := True) ?_)).congr ?_
      · exact Gen.pure _
      · simp only [TempNum.toNat]
        exact ⟨fun h => h.1, fun h => ⟨h, by omega, trivial⟩⟩
  · simp only [hχ, Bool.false_eq_true, if_false]
    refine (Gen.bindc (gen_loadField .snd ctx blk off) (c2 := True) ?_).congr (by simp [TempNum.toNat])
    exact Gen.pure _

theorem gen_loadValuesLoop (existing : Ctx) (blk : Register) (mode : LoadMode) : ∀ (bsRev : List Binding) (ff : Nat),
    Gen (loadValuesLoop existing blk mode bsRev ff)
      (bsRev.length ≤ ff ∧ (bsRev = [] ∨ 2 * (existing.length + bsRev.length) ≤ 28))
      (fun k => loadCode.loadLoopC existing.length blk (modeMap mode) bsRev ff k)
  | [], _ => (Gen.pure _).congr (by simp)
  | b :: rest, ff => by
    unfold loadValuesLoop
    have hp : Gen (pred1 ff) (0 < ff) (fun k => (ff - 1, k)) := by
      cases ff with
      | zero => exact Gen.throw.congr (by simp)
      | succ n => exact (Gen.pure _).congr (by simp)
    have hlen : (existing ++ rest.reverse).length = existing.length + rest.length := by simp
    have hv := gen_loadValue b (existing ++ rest.reverse) blk (ff - 1) mode
    rw [hlen] at hv
    refine (Gen.bindc hp (Gen.bind hv (fun c => Gen.bind (gen_loadValuesLoop existing blk mode rest (ff - 1))
      (fun cs => Gen.pure _) fun _ => rfl) fun _ => ?_)).congr ?_
    · simp [Scc.Mem.LoadCode.loadLoopC]
    · simp only [List.length_cons, reduceCtorEq, false_or, and_true]
      constructor
      · rintro ⟨h1, h2, h3, h4⟩; omega
      · rintro ⟨h1, h2⟩
        refine ⟨by omega, by omega, by omega, ?_⟩
        by_cases hr : rest = []
        · exact Or.inl hr
        · exact Or.inr (by omega)

theorem gen_loadValues (toLoad existing : Ctx) (blk : Register) (ff : Nat) (mode : LoadMode) :
    Gen (loadValues toLoad existing blk ff mode)
      (toLoad.length ≤ ff ∧ (toLoad = [] ∨ 2 * (existing.length + toLoad.length) ≤ 28))
      (fun k => loadCode.loadValuesC toLoad existing.length blk ff (modeMap mode) k) := by
  unfold loadValues
  exact (Gen.bind (gen_loadValuesLoop existing blk mode toLoad.reverse ff) (fun r => Gen.pure _) fun _ => rfl).congr
    (by simp)

/-- a successful run of `load_fields` returns the backend-independent code (the fuel of the code function is any
bound on the recursion depth), and the registers exist -/
theorem emits_loadFields : ∀ (n : Nat) (toLoad existing : Ctx) (pos : BlockPosition) (mode : LoadMode),
    toLoad.length < n →
    Emits (loadFields toLoad existing pos mode)
      (toLoad = [] ∨ (2 * (existing.length + toLoad.length) ≤ 28 ∧
        (pos = .other → 2 * (existing.length + toLoad.length) < 28)))
      (fun k => ((loadCode.loadFieldsC n toLoad existing.length (posMap pos) (modeMap mode) false k).1.1,
        (loadCode.loadFieldsC n toLoad existing.length (posMap pos) (modeMap mode) false k).2))
  | 0, _, _, _, _, h => absurd h (Nat.not_lt_zero _)
  | n + 1, toLoad, existing, pos, mode, hn => by
    rw [loadFields]
    by_cases hne : toLoad = []
    · subst hne
      simp only [List.isEmpty_nil, dite_true]
      exact (Gen.pure _).emits.mono fun _ => by simp
    · have hie : toLoad.isEmpty = false := List.isEmpty_eq_false_iff.mpr hne
      have hpos : 0 < toLoad.length := List.length_pos_iff.mpr hne
      simp only [hie, Bool.false_eq_true, dite_false]
      have hrl : Scc.Heap.restLength toLoad.length (posMap pos) = restLength toLoad.length pos :=
        (restLength_eq _ _).symm
      have hrlt : restLength toLoad.length pos < toLoad.length := by
        rw [restLength_eq]; exact Scc.Heap.restLength_lt _ _ hpos
      have hfit := restLength_fits toLoad.length pos
      have hlt : (existing ++ toLoad.take (restLength toLoad.length pos)).length =
          existing.length + restLength toLoad.length pos := by simp [List.length_take]; omega
      have hlt2 : (toLoad.take (restLength toLoad.length pos)).length = restLength toLoad.length pos := by
        simp [List.length_take]; omega
      have hla : (existing ++ toLoad).length = existing.length + toLoad.length := by simp
      have hf := (gen_freshTemporary .fst (existing ++ toLoad.take (restLength toLoad.length pos))).emits
      simp only [TempNum.toNat, Nat.add_zero, hlt] at hf
      have hv := (gen_loadValues (toLoad.drop (restLength toLoad.length pos))
        (existing ++ toLoad.take (restLength toLoad.length pos))
        (posTemp (2 * (existing.length + restLength toLoad.length pos))) (fieldsPerBlock - pos.toNat) mode).emits
      rw [hlt] at hv
      have h0 := emits_loadFields n (toLoad.take (restLength toLoad.length pos)) existing .other mode
        (by rw [hlt2]; omega)
      have hcap : (toLoad.drop (restLength toLoad.length pos) = [] ∨
          2 * (existing.length + restLength toLoad.length pos +
            (toLoad.drop (restLength toLoad.length pos)).length) ≤ 28) →
          2 * (existing.length + toLoad.length) ≤ 28 := fun h => by
        rcases h with h1 | h1
        · have := congrArg List.length h1; simp only [List.length_drop, List.length_nil] at this; omega
        · simp only [List.length_drop] at h1; omega
      refine (Emits.bind h0
        (h := fun c1 k1 =>
          let rb := loadCode.loadBlockC (posTemp (2 * (existing.length + restLength toLoad.length pos)))
            (toLoad.drop (restLength toLoad.length pos)) (existing.length + toLoad.length)
            (existing.length + restLength toLoad.length pos) (posMap pos) (modeMap mode) k1
          (c1 ++ rb.1, rb.2))
        (c2 := 2 * (existing.length + toLoad.length) ≤ 28 ∧ (pos = .other → 2 * (existing.length + toLoad.length) < 28))
        (fun c1 => ?_) fun k => ?_).mono fun h => Or.inr h.2
      · refine (Emits.bindc hf ?_).mono (c := 2 * (existing.length + restLength toLoad.length pos) < 28 ∧ _) fun h => h.2
        unfold Scc.Mem.LoadCode.loadBlockC
        cases pos with
        | last =>
          have e1 : (BlockPosition.last == BlockPosition.other) = false := rfl
          simp only [e1, Bool.false_eq_true, if_false, posMap, reduceCtorEq]
          refine (Emits.bindc (Gen.pure _).emits (Emits.bind hv (fun c4 => (Gen.pure _).emits) fun _ => ?_)).mono
            fun h => ⟨hcap h.2.1.2, fun e => by cases e⟩
          cases mode <;> simp [modeMap, List.append_assoc] <;> (repeat' apply And.intro) <;> rfl
        | other =>
          simp only [beq_self_eq_true, if_true, posMap]
          have hl := (gen_loadField .fst (existing ++ toLoad)
            (posTemp (2 * (existing.length + restLength toLoad.length BlockPosition.other))) (fieldsPerBlock - 1)).emits
          simp only [TempNum.toNat, Nat.add_zero, hla] at hl
          refine (Emits.bindc hl (Emits.bindc (Gen.pure _).emits (Emits.bind hv (fun c4 => (Gen.pure _).emits)
            fun _ => ?_))).mono fun h => ⟨hcap h.2.2.1.2, fun _ => h.1⟩
          cases mode <;> simp [modeMap, List.append_assoc] <;> (repeat' apply And.intro) <;> rfl
      · simp only [Scc.Mem.LoadCode.loadFieldsC, if_neg hne, hrl, Bool.false_eq_true, if_false]
        rfl

theorem emits_load (toLoad existing : Ctx) :
    Emits (load toLoad existing) (toLoad = [] ∨ 2 * (existing.length + toLoad.length) ≤ 28)
      (loadCode.loadC toLoad existing.length) := by
  unfold load Scc.Mem.LoadCode.loadC
  by_cases hne : toLoad = []
  · subst hne
    simp only [List.isEmpty_nil, if_true]
    exact (Gen.pure _).emits.mono fun _ => by simp
  · have hie : toLoad.isEmpty = false := List.isEmpty_eq_false_iff.mpr hne
    simp only [hie, Bool.false_eq_true, if_false, if_neg hne]
    have hf := (gen_freshTemporary .fst existing).emits
    simp only [TempNum.toNat, Nat.add_zero] at hf
    have hor : (toLoad = [] ∨ (2 * (existing.length + toLoad.length) ≤ 28 ∧
        (BlockPosition.last = .other → 2 * (existing.length + toLoad.length) < 28))) →
        (toLoad = [] ∨ 2 * (existing.length + toLoad.length) ≤ 28) := fun h => h.imp id fun h => h.1
    refine (Emits.bindc hf ?_).mono fun h => h.2
    refine (Emits.bind (emits_loadFields (toLoad.length + 1) toLoad existing .last .release (Nat.lt_succ_self _))
      (c2 := True)
      (h := fun cT k1 =>
        let rE := loadCode.loadFieldsC (toLoad.length + 1) toLoad existing.length .last .share false k1
        ([Code.COMMENT "#load from memory", Code.LW TEMP (posTemp (2 * existing.length)) referenceCountOffset] ++
            [Code.COMMENT "##check refcount"] ++
          ifZeroThenElseC TEMP
            (Code.COMMENT "##... or release blocks onto linear free list when loading" :: cT)
            ([Code.COMMENT "##either decrement refcount and share children...", Code.ADDI TEMP TEMP (-1),
              Code.SW TEMP (posTemp (2 * existing.length)) referenceCountOffset] ++ rE.1.1) rE.2, rE.2 + 2))
      (fun cT => ?_) fun _ => rfl).mono fun h => hor h.1
    refine (Emits.bind (emits_loadFields (toLoad.length + 1) toLoad existing .last .share (Nat.lt_succ_self _))
      (c2 := True)
      (h := fun cE k2 =>
        ([Code.COMMENT "#load from memory", Code.LW TEMP (posTemp (2 * existing.length)) referenceCountOffset] ++
            [Code.COMMENT "##check refcount"] ++
          ifZeroThenElseC TEMP
            (Code.COMMENT "##... or release blocks onto linear free list when loading" :: cT)
            ([Code.COMMENT "##either decrement refcount and share children...", Code.ADDI TEMP TEMP (-1),
              Code.SW TEMP (posTemp (2 * existing.length)) referenceCountOffset] ++ cE) k2, k2 + 2))
      (fun cE => ?_) fun _ => rfl).mono fun _ => trivial
    exact (Emits.bind (Gen.of_run (ifZeroThenElse_run TEMP _ _)).emits
      (fun c => (Gen.pure _).emits) fun _ => rfl).mono fun _ => trivial

end Scc.RV.Mem
