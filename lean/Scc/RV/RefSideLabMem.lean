/-
  Scc.RV.RefSideLabMem — SIDE HYPOTHESES of the RV64 run theorems (C08): the labels DEFINED by the code
  of the memory methods of the RV64 backend (memory.rs: erase_block, share_block_n, store, load).  Every label
  definition of that code comes from `skip_if_zero` / `if_zero_then_else`, which define the labels `lab<n>` of
  the numbers they draw: for EVERY run of a memory method from the counter value `k` to `k'`, the labels
  defined by the code are `lab<n>` for pairwise distinct numbers `k < n ≤ k'` (`LFC`).  (`store` and `load`: the
  counter walks `Scc.Mem.StoreCode.Counts`, `Scc.Mem.LoadCode.LoadCounts` over the code of Scc/RV/MemCode.lean.)
-/
import Scc.RV.RefLayout
import Scc.RV.RefEval
import Scc.RV.MemProofsLoad
import Scc.Backend.ProofsLabelsGen

set_option linter.unusedSimpArgs false

namespace Scc.RV.Ref

open Scc.AxCut Scc.Backend

/-- `L` lists the local labels `lab<n>` of pairwise distinct numbers in `(lo, hi]` -/
def LF (lo hi : Nat) (L : List String) : Prop :=
  ∃ ns : List Nat, L = ns.map labName ∧ ns.Nodup ∧ ∀ n ∈ ns, lo < n ∧ n ≤ hi

theorem LF.mono {lo hi lo' hi' : Nat} {L : List String} (h : LF lo hi L) (h1 : lo' ≤ lo) (h2 : hi ≤ hi') :
    LF lo' hi' L := Lab.LF.mono h h1 h2

theorem LF.append {a b c : Nat} {L1 L2 : List String} (h1 : LF a b L1) (h2 : LF b c L2) (hab : a ≤ b)
    (hbc : b ≤ c) : LF a c (L1 ++ L2) := Lab.LF.append h1 h2 hab hbc

theorem LF.single (k : Nat) : LF k (k + 1) [labName (k + 1)] := Lab.LF.single k

def NL (code : List Code) : Prop := ∀ l, Code.LAB l ∉ code

theorem NL.labs {code : List Code} (h : NL code) : labs code = [] := by
  unfold Ref.labs
  rw [List.filterMap_eq_nil_iff]
  intro c hc
  cases c <;> first | rfl | exact absurd hc (h _)

theorem NL.append {a b : List Code} (ha : NL a) (hb : NL b) : NL (a ++ b) := fun l h => by
  rcases List.mem_append.1 h with h | h
  · exact ha l h
  · exact hb l h

theorem NL.nil : NL [] := fun _ h => by cases h

theorem labs_cons_lab (l : String) (r : List Code) : labs (.LAB l :: r) = l :: labs r := rfl

theorem labs_cons_other {c : Code} (h : ∀ l, c ≠ .LAB l) (r : List Code) : labs (c :: r) = labs r := by
  unfold Ref.labs
  rw [List.filterMap_cons]
  cases c <;> first | rfl | exact absurd rfl (h _)

/-- the labels defined by `code`, generated from counter `k` to `k'` -/
def LFC (k k' : Nat) (code : List Code) : Prop := k ≤ k' ∧ LF k k' (labs code)

theorem LFC.of_nl {code : List Code} (h : NL code) (k : Nat) : LFC k k code :=
  ⟨Nat.le_refl _, by rw [h.labs]; exact Lab.LF.nil _ _⟩

theorem LFC.append {a b c : Nat} {c1 c2 : List Code} (h1 : LFC a b c1) (h2 : LFC b c c2) :
    LFC a c (c1 ++ c2) :=
  ⟨by have := h1.1; have := h2.1; omega, by rw [labs_append]; exact h1.2.append h2.2 h1.1 h2.1⟩

theorem LFC.nl_left {a b : Nat} {c1 c2 : List Code} (h1 : NL c1) (h2 : LFC a b c2) : LFC a b (c1 ++ c2) :=
  ⟨h2.1, by rw [labs_append, h1.labs]; exact h2.2⟩

theorem labs_ifZeroThenElse (c0 c1 : Code) (h0 : ∀ l, c0 ≠ .LAB l) (h1 : ∀ l, c1 ≠ .LAB l) (tb eb : List Code)
    (l1 l2 : String) :
    labs ([c0] ++ eb ++ [c1, .LAB l1] ++ tb ++ [.LAB l2]) = labs eb ++ l1 :: (labs tb ++ [l2]) := by
  simp only [labs_append]
  have e1 : labs [c0] = [] := by rw [labs_cons_other h0]; rfl
  have e2 : labs [c1, Code.LAB l1] = [l1] := by rw [labs_cons_other h1]; rfl
  rw [e1, e2]
  simp only [List.nil_append, List.append_assoc]
  rfl

/-- `if_zero_then_else`: the branches were generated before, from `a` to `b` and from `b` to `k` (in any
order) -/
theorem lfc_ifZeroThenElse {r : Register} {tb eb : List Code} {a k : Nat}
    (hb : LF a k (labs eb ++ labs tb)) (hak : a ≤ k)
    {code : List Code} {k' : Nat} (h : (ifZeroThenElse r tb eb).run k = .ok (code, k')) : LFC a k' code := by
  rw [ifZeroThenElse_run] at h
  injection h with h
  injection h with h1 h2
  subst h1 h2
  refine ⟨by omega, ?_⟩
  rw [labs_ifZeroThenElse _ _ (fun _ => by simp) (fun _ => by simp)]
  exact Lab.LF.ifZeroThenElse hb hak

theorem lfc_eraseBlock {t : Register} {k : Nat} {code : List Code} {k' : Nat}
    (h : (eraseBlock t).run k = .ok (code, k')) : LFC k k' code := by
  rw [eraseBlock_run] at h
  injection h with h
  injection h with h1 h2
  subst h1 h2
  exact ⟨by omega, Lab.LF.offsets k 3 [1, 2, 3] (by decide) (by decide)⟩

theorem lfc_shareBlockN {t : Register} {n k : Nat} {code : List Code} {k' : Nat}
    (h : (shareBlockN t n).run k = .ok (code, k')) : LFC k k' code := by
  rw [shareBlockN_run] at h
  injection h with h
  injection h with h1 h2
  subst h1 h2
  exact ⟨by omega, LF.single k⟩

/-- an `if_zero_then_else` one of whose branches defines no label -/
theorem lfc_ite_then {r : Register} {tb eb : List Code} {a k : Nat} (ht : NL tb) (he : LFC a k eb) :
    LFC a (k + 2) (Mem.ifZeroThenElseC r tb eb k) :=
  lfc_ifZeroThenElse (by rw [ht.labs, List.append_nil]; exact he.2) he.1 (Mem.ifZeroThenElse_run _ _ _ _)

theorem lfc_ite_else {r : Register} {tb eb : List Code} {a k : Nat} (he : NL eb) (ht : LFC a k tb) :
    LFC a (k + 2) (Mem.ifZeroThenElseC r tb eb k) :=
  lfc_ifZeroThenElse (by rw [he.labs]; exact ht.2) ht.1 (Mem.ifZeroThenElse_run _ _ _ _)

/-- `erase_fields`: every child draws the three labels of its `erase_block` -/
theorem lfc_eraseFieldsC (r a : Register) : ∀ (n off k : Nat), LFC k (k + 3 * n) (Mem.eraseFieldsC r a n off k)
  | 0, _, k => LFC.of_nl NL.nil k
  | n + 1, off, k => by
    rw [show k + 3 * (n + 1) = k + 3 + 3 * n by omega]
    exact LFC.append (LFC.nl_left (fun l h => by simp at h) (lfc_eraseBlock (Mem.eraseBlock_run _ k)))
      (lfc_eraseFieldsC r a n (off + 1) (k + 3))

/-- `acquire_block`: the nine labels of the three children, then two for each of its two tests -/
theorem lfc_acquireBlock {t a : Register} {k : Nat} {code : List Code} {k' : Nat}
    (h : (acquireBlock t a).run k = .ok (code, k')) : LFC k k' code := by
  rw [Mem.acquireBlock_run] at h
  injection h with h
  injection h with h1 h2
  subst h1 h2
  exact LFC.nl_left (fun l h => by simp at h)
    (lfc_ite_else (fun l h => by simp at h) (LFC.nl_left (fun l h => by simp at h)
      (lfc_ite_then (fun l h => by simp at h) (LFC.nl_left (fun l h => by simp at h)
        (lfc_eraseFieldsC HEAP a fieldsPerBlock 0 k)))))

theorem nl_storeZero (r : Register) (off : Nat) : NL (storeZero r off) := by
  intro l hl; simp [storeZero] at hl

/-- the labels of the code of `store` are those `acquire_block` draws -/
theorem memCode_lfc : Mem.memCode.Counts LFC where
  nil := fun k => LFC.of_nl NL.nil k
  append := LFC.append
  comment := fun s k => LFC.of_nl (fun l h => by cases List.mem_singleton.1 h) k
  stF := fun t r num off k => LFC.of_nl (fun l h => by cases List.mem_singleton.1 h) k
  stZ := fun r off k => LFC.of_nl (nl_storeZero r off) k
  acq := fun m k => lfc_acquireBlock (Mem.acquireBlock_run (posTemp m) (posTemp (m + 1)) k)
  zero := fun m k => LFC.of_nl (fun l h => by cases List.mem_singleton.1 h) k

theorem lfc_store {ts rem : Ctx} {k : Nat} {code : List Code} {k' : Nat}
    (h : (store ts rem).run k = .ok (code, k')) : LFC k k' code := by
  obtain ⟨-, e⟩ := (Mem.gen_store ts rem).emits k _ h
  have := memCode_lfc.storeFieldsC (ts.length + 1) ts rem.length .last k
  rw [← e] at this
  exact this

/-- the labels of the code of `load_fields` are those `share_block` draws -/
theorem loadCode_lfc : Mem.loadCode.LoadCounts LFC where
  nil := fun k => LFC.of_nl NL.nil k
  append := LFC.append
  comment := fun s k => LFC.of_nl (fun l h => by cases List.mem_singleton.1 h) k
  ldF := fun t r num off k => LFC.of_nl (fun l h => by cases List.mem_singleton.1 h) k
  shr := fun m k => lfc_shareBlockN (t := posTemp m) (n := 1) (Mem.shareBlockN_run _ 1 k)
  release := fun r k => LFC.of_nl (fun l h => by simp [Mem.loadCode, releaseBlock] at h) k
  evac := fun k => LFC.of_nl NL.nil k
  ldBlk := fun m k => LFC.of_nl NL.nil k
  restore := fun k => LFC.of_nl NL.nil k

/-- the labels of the test of the reference count come after those of the two branches -/
theorem lfc_top (m : Nat) {a b c : Nat} {x y : List Code} (hT : LFC a b x) (hE : LFC b c y) :
    LFC a (c + 2) (Mem.loadCode.top m x y c) := by
  refine LFC.nl_left (c1 := [Code.COMMENT "#load from memory",
    Code.LW TEMP (posTemp m) referenceCountOffset] ++ [Code.COMMENT "##check refcount"])
    (fun l h => by simp at h) ?_
  refine lfc_ifZeroThenElse (a := a) ?_ (Nat.le_trans hT.1 hE.1) (Mem.ifZeroThenElse_run _ _ _ _)
  have e1 : ∀ l : List Code, labs ([Code.COMMENT "##either decrement refcount and share children...",
      Code.ADDI TEMP TEMP (-1), Code.SW TEMP (posTemp m) referenceCountOffset] ++ l) = labs l :=
    fun _ => rfl
  have e2 : ∀ l : List Code,
      labs (Code.COMMENT "##... or release blocks onto linear free list when loading" :: l) = labs l := fun _ => rfl
  rw [e1, e2]
  exact Lab.LF.append' hT.2 hE.2 hT.1 hE.1

theorem lfc_load {tl ex : Ctx} {k : Nat} {code : List Code} {k' : Nat}
    (h : (load tl ex).run k = .ok (code, k')) : LFC k k' code := by
  obtain ⟨-, e⟩ := Mem.emits_load tl ex k _ h
  have := loadCode_lfc.loadC lfc_top tl ex.length k
  rw [← e] at this
  exact this

end Scc.RV.Ref
