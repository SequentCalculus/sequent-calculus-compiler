/-
  Scc.RV.ConcData — THE PEAK HYPOTHESIS FROM THE SIZE OF THE SOURCE-LEVEL DATA, on RV64: at a statement boundary whose deferred free list is empty, the
  blocks in use are at most the fields of the objects of the abstract heap (NO GARBAGE, Scc/Heap/RefineNoGarb.lean)
  and these are at most the fields of the object AND CLOSURE nodes of the values of the environment
  (`valsFields`, `heapFields_le_vals`, Scc/X86/ConcData.lean — backend-independent: they speak about Theorem A's
  relation only; a closure environment is an object of the abstract heap like the fields of a constructor).
  `programs_peak_gen`, `programs_prefix_gen`: the runs of ConcC10.lean for any source of the peak hypothesis
  (`PeakHyp`).
-/
import Scc.RV.ConcC10
import Scc.X86.ConcData

namespace Scc.RV.Conc

open Scc.AxCut Scc.Backend Scc.RV.Ref
open Scc.Props.C14Generic (LabelSafe)
open Scc.Props.C06Generic (outAfter WithinCapacity Reachable EnoughHeap CodeFits statesOf stopsWithin)
open Scc.Heap (HState InvS InvW Exhausted)
open Scc.Heap.Refine (HRef FrLe Room FrPk heapFields live_le_heapFields)
open Scc.X86.Conc (FrBound LiveLe LiveLe0 valsFields live_le_valsFields)
open Scc.X86.Ref.K (allocArity AllocLe AllocLeClauses ValAll valAll_ints)

theorem peakFrom_of_data {mc : MonCfg} {pr : RV.Program} {ks : List Code} {P : Abs.Program} {hooks : Bool}
    {prog : AxCut.Prog} {st : Pos.State} {X : State} {D C : Nat}
    (hD : ∀ st', Reachable prog st st' → valsFields st'.env ≤ D) :
    PeakFrom mc pr ks P hooks prog st X D C := by
  intro n X' st' cfg' hs' hr hn R hC rs lin live Fr I
  obtain ⟨Γ', ι, cw, τ, _, RX, X3h, _⟩ := R
  have h2 := live_le_valsFields (fieldsOK_trFieldsP (τ := τ)) RX X3h.href I
  have h3 := hD st' hr
  omega

theorem peakHyp_of_data {p : AxCut.Prog} {hooks : Bool} {ks : List Code} {ops : List MockOp} {mc : MonCfg}
    {pr : RV.Program} {X00 : State} {d0 : Def} {args : List Word} {D C : Nat}
    (hD : ∀ st, Reachable p ⟨d0.ctx, args.map .int, d0.body⟩ st → valsFields st.env ≤ D) :
    PeakHyp p hooks ks ops mc pr X00 d0 args D C :=
  fun _ _ _ => peakFrom_of_data hD

/-- EVERY PREFIX OF EVERY RUN, for any source of the peak hypothesis -/
theorem programs_prefix_gen (p : AxCut.Prog) (args : List Word) (hooks : Bool) (instrs hdr : List Code)
    (nargs cX : Nat) (d0 : Def) (ops : List MockOp) (c' : Nat)
    (hsafe : LabelSafe p = true) (htp : LinTypedProg p)
    (hcompM : (compile mockSym hooks p).run 0 = .ok ((ops, nargs), c')) (hfit : CodeFits ops)
    {cX0 : Nat} (hcompX : (compile rvBackend hooks p).run cX0 = .ok ((instrs, nargs), cX))
    (hnd : (labs (instrs ++ [Code.LAB "cleanup"])).Nodup) (hfitX : codeBase + 4 * instrs.length < 2 ^ 64)
    (hd : p.defs.head? = some d0) (hentry : ∀ b ∈ d0.ctx, b.chi = .ext ∧ b.ty = .i64)
    (hlen : d0.ctx.length = args.length)
    (hcap : ∀ st, Reachable p ⟨d0.ctx, args.map .int, d0.body⟩ st → st.ctx.length ≤ 14)
    (fuel : Nat) (hfuel : fuel + 1 < 2 ^ 64)
    (mc : MonCfg) (hheap : mc.heap = false) (htop : heapBase + mc.heapBytes ≤ 2 ^ 63)
    (Pk A : Nat) (hA : ∀ d ∈ p.defs, AllocLe A d.body) (hbytes : 64 * (Pk + A + 2) ≤ mc.heapBytes)
    (lines : List (Nat × Code)) (hhdr : ∀ c ∈ hdr, c.isComment = true)
    (hlines : (lines.map (·.2)).map stripC = (hdr ++ instrs ++ [Code.LAB "cleanup"]).map stripC)
    (hhook : ∀ x ∈ lines, ¬ badHook x.2)
    (hP : ∀ pr e regs, layout lines = .ok pr → pr.entry = some e → entryRegs args = some regs →
      PeakHyp p hooks (keptOf lines) ops mc pr (initState regs e) d0 args Pk (A * fuel + 1)) :
    ∃ pr e regs, layout lines = .ok pr ∧ pr.entry = some e ∧ entryRegs args = some regs ∧
      ∃ X0, stepN pr mc 1 (initState regs e) = .inl X0 ∧
        BChain pr mc
          (fun st X => BoundaryOf p hooks (keptOf lines) ops mc st X ∧
            ∃ below inUse, HeapShapeAt mc X below inUse ∧ below ≤ Pk + 1)
          (statesOf p fuel ⟨d0.ctx, args.map .int, d0.body⟩) X0 := by
  obtain ⟨pr, e, regs, hlay, he, hregs, X0, h0, hch, _⟩ := programs_run3 p args hooks instrs hdr nargs cX d0 ops c'
    hsafe htp hcompM hfit hcompX hnd hfitX hd hentry hlen hcap fuel hfuel mc hheap htop Pk A hA hbytes lines hhdr hlines
    hhook hP
  exact ⟨pr, e, regs, hlay, he, hregs, X0, h0, bchain_frontier _ X0 hch⟩

/-- A TERMINATING RUN, for any source of the peak hypothesis: the boundaries, the result, the highest heap
address written -/
theorem programs_peak_gen (p : AxCut.Prog) (args : List Word) (hooks : Bool) (instrs hdr : List Code)
    (nargs cX : Nat) (d0 : Def) (ops : List MockOp) (c' : Nat)
    (hsafe : LabelSafe p = true) (htp : LinTypedProg p)
    (hcompM : (compile mockSym hooks p).run 0 = .ok ((ops, nargs), c')) (hfit : CodeFits ops)
    {cX0 : Nat} (hcompX : (compile rvBackend hooks p).run cX0 = .ok ((instrs, nargs), cX))
    (hnd : (labs (instrs ++ [Code.LAB "cleanup"])).Nodup) (hfitX : codeBase + 4 * instrs.length < 2 ^ 64)
    (hd : p.defs.head? = some d0) (hentry : ∀ b ∈ d0.ctx, b.chi = .ext ∧ b.ty = .i64)
    (hcap : ∀ st, Reachable p ⟨d0.ctx, args.map .int, d0.body⟩ st → st.ctx.length ≤ 14)
    (fuel : Nat) (v : Word) (hfuel : fuel + 1 < 2 ^ 64)
    (hrun : (Pos.run p args fuel).res = .done v)
    (mc : MonCfg) (hheap : mc.heap = false) (htop : heapBase + mc.heapBytes ≤ 2 ^ 63)
    (Pk A : Nat) (hA : ∀ d ∈ p.defs, AllocLe A d.body) (hbytes : 64 * (Pk + A + 2) ≤ mc.heapBytes)
    (lines : List (Nat × Code)) (hhdr : ∀ c ∈ hdr, c.isComment = true)
    (hlines : (lines.map (·.2)).map stripC = (hdr ++ instrs ++ [Code.LAB "cleanup"]).map stripC)
    (hhook : ∀ x ∈ lines, ¬ badHook x.2)
    (hP : ∀ pr e regs, layout lines = .ok pr → pr.entry = some e → entryRegs args = some regs →
      PeakHyp p hooks (keptOf lines) ops mc pr (initState regs e) d0 args Pk (A * fuel + 1)) :
    ∃ pr e regs, layout lines = .ok pr ∧ pr.entry = some e ∧ entryRegs args = some regs ∧
      ∃ X0 n XL r, stepN pr mc 1 (initState regs e) = .inl X0 ∧
        BChain pr mc
          (fun st X => BoundaryOf p hooks (keptOf lines) ops mc st X ∧
            ∃ below inUse, HeapShapeAt mc X below inUse ∧ below ≤ Pk + 1)
          (statesOf p fuel ⟨d0.ctx, args.map .int, d0.body⟩) X0 ∧
        stepN pr mc n X0 = .inl XL ∧ step pr mc XL = .inr r ∧ r.res = .done v ∧
        XL.maxHeapWritten ≤ mc.heapBytes := by
  obtain ⟨hlen, hrun'⟩ := run_entry hd hrun
  obtain ⟨pr, e, regs, hlay, he, hregs, X0, h0, hch, hdone⟩ := programs_run3 p args hooks instrs hdr nargs cX d0 ops c'
    hsafe htp hcompM hfit hcompX hnd hfitX hd hentry hlen hcap fuel hfuel mc hheap htop Pk A hA hbytes lines hhdr hlines
    hhook hP
  obtain ⟨n, XL, r, g1, g2, g3, hm⟩ := hdone [] v hrun'
  exact ⟨pr, e, regs, hlay, he, hregs, X0, n, XL, r, h0, bchain_frontier _ X0 hch, g1, g2, g3, hm⟩

/-- … on the run loop: result and the highest heap address written -/
theorem programs_peak_gen_lines (p : AxCut.Prog) (args : List Word) (hooks : Bool) (instrs hdr : List Code)
    (nargs cX : Nat) (d0 : Def) (ops : List MockOp) (c' : Nat)
    (hsafe : LabelSafe p = true) (htp : LinTypedProg p)
    (hcompM : (compile mockSym hooks p).run 0 = .ok ((ops, nargs), c')) (hfit : CodeFits ops)
    {cX0 : Nat} (hcompX : (compile rvBackend hooks p).run cX0 = .ok ((instrs, nargs), cX))
    (hnd : (labs (instrs ++ [Code.LAB "cleanup"])).Nodup) (hfitX : codeBase + 4 * instrs.length < 2 ^ 64)
    (hd : p.defs.head? = some d0) (hentry : ∀ b ∈ d0.ctx, b.chi = .ext ∧ b.ty = .i64)
    (hcap : ∀ st, Reachable p ⟨d0.ctx, args.map .int, d0.body⟩ st → st.ctx.length ≤ 14)
    (fuel : Nat) (v : Word) (hfuel : fuel + 1 < 2 ^ 64)
    (hrun : (Pos.run p args fuel).res = .done v)
    (mc : MonCfg) (hheap : mc.heap = false) (htop : heapBase + mc.heapBytes ≤ 2 ^ 63)
    (Pk A : Nat) (hA : ∀ d ∈ p.defs, AllocLe A d.body) (hbytes : 64 * (Pk + A + 2) ≤ mc.heapBytes)
    (lines : List (Nat × Code)) (hhdr : ∀ c ∈ hdr, c.isComment = true)
    (hlines : (lines.map (·.2)).map stripC = (hdr ++ instrs ++ [Code.LAB "cleanup"]).map stripC)
    (hhook : ∀ x ∈ lines, ¬ badHook x.2)
    (hP : ∀ pr e regs, layout lines = .ok pr → pr.entry = some e → entryRegs args = some regs →
      PeakHyp p hooks (keptOf lines) ops mc pr (initState regs e) d0 args Pk (A * fuel + 1)) :
    ∃ fuel', (runLines lines args fuel' mc).res = .done v ∧
      (runLines lines args fuel' mc).maxHeapWritten ≤ mc.heapBytes := by
  obtain ⟨pr, e, regs, hlay, he, hregs, X0, n, XL, r, h0, _, g1, g2, g3, hm⟩ := programs_peak_gen p args hooks instrs
    hdr nargs cX d0 ops c' hsafe htp hcompM hfit hcompX hnd hfitX hd hentry hcap fuel v hfuel hrun mc hheap htop
    Pk A hA hbytes lines hhdr hlines hhook hP
  refine ⟨(1 + n) + 1, ?_⟩
  rw [runLines_eq hlay he hregs]
  have hN : stepN pr mc ((1 + n) + 1) (initState regs e) = .inr r :=
    stepN_trans_inr pr mc (stepN_trans pr mc h0 g1) (by rw [stepN_one]; exact g2)
  have hrl := runLoop_stepN_inr pr mc ((1 + n) + 1) 0 hN
  rw [Nat.zero_add] at hrl
  rw [hrl]
  exact ⟨g3, by rw [step_done_mhw g2 g3]; exact hm⟩

end Scc.RV.Conc
