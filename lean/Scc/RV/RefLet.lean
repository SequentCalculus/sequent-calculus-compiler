/-
  Scc.RV.RefLet — `let` (allocation of an object) on the three machines, RV64: `let_x3` of Scc/Backend/ThreeWayLet.lean
  at the RV64 machine (`machine`, ThreeWayMachineAsm.lean), the closure words of the new object named by `cw` (`letTau`,
  `x3_of_letProv`, `letProv_cw`: also used by `create`, RefCreate.lean).
-/
import Scc.RV.RefLoad

namespace Scc.RV.Ref

open Scc.AxCut Scc.AxCut.Pos Scc.Backend Scc.Backend.Abs Scc.Backend.Sim Scc.Backend.Sim2
open Scc.Heap (HState InvS InvW)
open Scc.Heap.Refine (HRef imgW fieldImg kindB FrLe Room FrPk storeObj_nil)

variable {mc : MonCfg} {cw : Nat → Word} {τ : Nat → Nat → Word}

/-- the closure words of the heap fields after `let` / `create`: the new object (if there is one) gets
those of the stored positions -/
def letTau (τ : Nat → Nat → Word) (next : Nat) (cw : Nat → Word) (N nargs : Nat) : Nat → Nat → Word :=
  if nargs = 0 then τ else storeTau τ next cw N

section Let3

variable {pr : RV.Program} {ks : List Code} (L : Loaded pr ks) (hnd : (labs ks).Nodup)
  (hheap : mc.heap = false)

/-- the relation after `let` / `create`, with the closure words of the new object named by `cw` -/
theorem x3_of_letProv {Γ : Ctx} {cfg cfg' : Config} {N nargs : Nat} {hs' : HState} {ι' : Nat → Nat}
    {κ' : Nat → Nat → Word} {st st' : State} {la : String → Option Nat} {Γ' : Ctx} {rs : List Nat}
    (C : CwOK cw Γ cfg st) (hN : Γ.length - nargs = N) (hk : nargs ≤ Γ.length)
    (hids : ∀ e ∈ cfg.heap, e.1 < cfg.next)
    (LP : Prov.LetProv (rv st) (rv st') Γ N cfg cfg' τ κ')
    (X' : ThreeWay.X3R (target mc la) Γ' cfg' rs hs' ι' κ' st') :
    ThreeWay.X3R (target mc la) Γ' cfg' rs hs' ι' (letTau τ cfg.next cw N nargs) st' := by
  obtain ⟨fields, hf, h⟩ := LP.obj
  rcases h with ⟨hΔ, _, hκ, _⟩ | ⟨hΔ, hh, hκ, _⟩
  · have h0 : nargs = 0 := by
      have := congrArg List.length hΔ
      simp at this; omega
    have : letTau τ cfg.next cw N nargs = κ' := by unfold letTau; rw [if_pos h0, hκ]
    rw [this]; exact X'
  · have h0 : nargs ≠ 0 := by
      intro e
      apply hΔ
      apply List.eq_nil_of_length_eq_zero
      simp; omega
    have : letTau τ cfg.next cw N nargs = storeTau τ cfg.next cw N := by unfold letTau; rw [if_neg h0]
    rw [this]
    exact X'.congrK (by rw [hh, hκ]; exact trHeap_storeTau C hf hids)

/-- what `let` / `create` did to the positions and the heap, over the closure words `cw` (`cwTv`,
RefCloDefs.lean) instead of the words of the machine -/
theorem letProv_cw {Γ : Ctx} {cfg cfg' : Config} {N nargs : Nat} {κ' : Nat → Nat → Word} {st st' : State}
    (hN : Γ.length - nargs = N) (hk : nargs ≤ Γ.length) (LP : Prov.LetProv (rv st) (rv st') Γ N cfg cfg' τ κ')
    (cw' : Nat → Word) (hcw : ∀ i, i < N → cw' i = cw i) :
    Prov.LetProv (cwTv cw) (cwTv cw') Γ N cfg cfg' τ (letTau τ cfg.next cw N nargs) := by
  obtain ⟨K, fields, hf, h⟩ := LP
  refine ⟨⟨K.temps, fun i hi => by rw [cwTv_snd, cwTv_snd, hcw i hi]⟩, fields, hf, ?_⟩
  rcases h with ⟨hΔ, hh, _, ht⟩ | ⟨hΔ, hh, _, ht⟩
  · have h0 : nargs = 0 := by
      have := congrArg List.length hΔ
      simp at this; omega
    exact Or.inl ⟨hΔ, hh, by unfold letTau; rw [if_pos h0], ht⟩
  · have h0 : nargs ≠ 0 := by
      intro e
      apply hΔ
      apply List.eq_nil_of_length_eq_zero
      simp; omega
    refine Or.inr ⟨hΔ, hh, ?_, ht⟩
    funext i j
    unfold letTau storeTau Prov.storeK
    rw [if_neg h0, cwTv_snd]
    rfl

include L hnd hheap in
/-- `ThreeWay.let_x3` at the RV64 machine of the statement's code, with what it did to the positions and the heap
(`Prov.LetProv` over the closure words: the words `τ` records for the new object are those of the stored positions) -/
theorem let_x3P {P : Abs.Program} {hooks : Bool} {prog : AxCut.Prog} {Γ : Ctx} {ρ : List Value} {x : Ident}
    {ty : Ty} {tag : Ident} {args : Ctx} {next : Stmt} {fv : FV} {cfg : Config} {pos : Nat}
    (R : RelX P hooks prog ⟨Γ, ρ, .letS x ty tag args next fv⟩ cfg)
    (hk : args.length ≤ Γ.length)
    (hfresh : ∀ b ∈ Γ.take (Γ.length - args.length), b.var.id ≠ x.id)
    (hpos : Pos.tagPosition prog.types ty tag = .ok pos)
    (hcap : 2 * (Γ.length - args.length + 1) + 2 < Mock.T_TEMP)
    (hnext : cfg.next < 2 ^ 64)
    {hs : HState} {ι : Nat → Nat} {st : State} (X : X3 mc cw τ Γ cfg hs ι st)
    {k k' : Nat} {items : List Code}
    (hrun : (codeStatementR rvBackend hooks natRen prog.types (.letS x ty tag args next fv) Γ).run k =
      .ok (items, k'))
    (hat : KAt ks st.pc items)
    (hroom : Room hs (64 * args.length + 64)) :
    ∃ cfg' st' hs' ι', stepsTo P 2 cfg cfg' ∧ Reach pr mc st st' ∧ FrLe hs hs' (64 * args.length) ∧ FrPk hs hs' ∧
      cfg'.out = cfg.out ∧ cfg'.next ≤ cfg.next + 1 ∧
      RelX P hooks prog ⟨Γ.take (Γ.length - args.length) ++ [⟨x, .prd, ty⟩],
        ρ.take (Γ.length - args.length) ++ [.obj pos (ρ.drop (Γ.length - args.length))], next⟩ cfg' ∧
      X3 mc cw (letTau τ cfg.next cw (Γ.length - args.length) args.length)
        (Γ.take (Γ.length - args.length) ++ [⟨x, .prd, ty⟩]) cfg' hs' ι' st' ∧
      ∃ k1 k1' items', (codeStatementR rvBackend hooks natRen prog.types next
          (Γ.take (Γ.length - args.length) ++ [⟨x, .prd, ty⟩])).run k1 = .ok (items', k1') ∧
        KAt ks st'.pc items' ∧
        Prov.LetProv (cwTv cw) (cwTv cw) Γ (Γ.length - args.length) cfg cfg' τ
          (letTau τ cfg.next cw (Γ.length - args.length) args.length) := by
  obtain ⟨X0, C⟩ := (x3r_iff (la := pr.labelAddr)).1 X
  obtain ⟨cfg', st', hs', ι', κ', kp', hst, hreach, hpc', hfr, hpk, hout, hnx, R', X', k1, k1', items', hr', hat',
      LP⟩ :=
    ThreeWay.let_x3 (machine L hnd hheap items) R hk hfresh hpos hcap hnext X0 hrun (xat_self items)
      (pcAtR_zero hat) hroom trivial
  have hlenT : (Γ.take (Γ.length - args.length)).length = Γ.length - args.length := by simp
  have hcw : CwOK cw (Γ.take (Γ.length - args.length) ++ [⟨x, .prd, ty⟩]) cfg' st' :=
    CwOK.snoc (C.take _) (by rw [hlenT]; exact LP.keep) (fun h => by cases h)
  exact ⟨cfg', st', hs', ι', hst, hreach, hfr, hpk, hout, hnx, R',
    X3R.ofM (x3_of_letProv C rfl hk (fun e he => (X0.href.abs.ids _ (ThreeWay.mem_trHeap 4#64 τ he)).2.1) LP X') hcw,
    k1, k1', items', hr', hpc'.next hat', letProv_cw rfl hk LP cw (fun _ _ => rfl)⟩

include L hnd hheap in
/-- `let_x3P` without its last conclusion (`Prov.LetProv` over the closure words) -/
theorem let_x3 {P : Abs.Program} {hooks : Bool} {prog : AxCut.Prog} {Γ : Ctx} {ρ : List Value} {x : Ident}
    {ty : Ty} {tag : Ident} {args : Ctx} {next : Stmt} {fv : FV} {cfg : Config} {pos : Nat}
    (R : RelX P hooks prog ⟨Γ, ρ, .letS x ty tag args next fv⟩ cfg)
    (hk : args.length ≤ Γ.length)
    (hfresh : ∀ b ∈ Γ.take (Γ.length - args.length), b.var.id ≠ x.id)
    (hpos : Pos.tagPosition prog.types ty tag = .ok pos)
    (hcap : 2 * (Γ.length - args.length + 1) + 2 < Mock.T_TEMP)
    (hnext : cfg.next < 2 ^ 64)
    {hs : HState} {ι : Nat → Nat} {st : State} (X : X3 mc cw τ Γ cfg hs ι st)
    {k k' : Nat} {items : List Code}
    (hrun : (codeStatementR rvBackend hooks natRen prog.types (.letS x ty tag args next fv) Γ).run k =
      .ok (items, k'))
    (hat : KAt ks st.pc items)
    (hroom : Room hs (64 * args.length + 64)) :
    ∃ cfg' st' hs' ι', stepsTo P 2 cfg cfg' ∧ Reach pr mc st st' ∧ FrLe hs hs' (64 * args.length) ∧ FrPk hs hs' ∧
      cfg'.out = cfg.out ∧ cfg'.next ≤ cfg.next + 1 ∧
      RelX P hooks prog ⟨Γ.take (Γ.length - args.length) ++ [⟨x, .prd, ty⟩],
        ρ.take (Γ.length - args.length) ++ [.obj pos (ρ.drop (Γ.length - args.length))], next⟩ cfg' ∧
      X3 mc cw (letTau τ cfg.next cw (Γ.length - args.length) args.length)
        (Γ.take (Γ.length - args.length) ++ [⟨x, .prd, ty⟩]) cfg' hs' ι' st' ∧
      ∃ k1 k1' items', (codeStatementR rvBackend hooks natRen prog.types next
          (Γ.take (Γ.length - args.length) ++ [⟨x, .prd, ty⟩])).run k1 = .ok (items', k1') ∧
        KAt ks st'.pc items' := by
  obtain ⟨cfg', st', hs', ι', a1, a2, a3, a4, a5, a6, a7, a8, k1, k1', items', a9, a10, _⟩ :=
    let_x3P L hnd hheap R hk hfresh hpos hcap hnext X hrun hat hroom
  exact ⟨cfg', st', hs', ι', a1, a2, a3, a4, a5, a6, a7, a8, k1, k1', items', a9, a10⟩

end Let3

end Scc.RV.Ref
