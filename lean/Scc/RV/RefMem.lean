/-
  Scc.RV.RefMem — MEMORY CONTRACTS of `erase_block` and `share_block_n` (memory.rs) on the RV64 machine
  against the heap model Scc/Heap/Model.lean (`Scc.Heap.eraseBlock`, `Scc.Heap.shareBlock`), in the
  vocabulary of Scc/RV/MemProofsView.lean and MemProofsHeap.lean (`Boundary` / `FrameR` / `HeapRel`): the two contracts that the three-way
  simulation of `subst` needs besides `store` / `load` (Scc/RV/MemProofs*.lean).
-/
import Scc.RV.MemProofsLoad
import Scc.RV.MemProofsFree

namespace Scc.RV

/-- the code of `share_block_n` for a pointer in register `r` (label `l`) -/
def shareNCode (r : Register) (n : Nat) (l : String) : List Code :=
  [.BEQ r ZERO l] ++
    [.COMMENT "####increment refcount", .LW TEMP r referenceCountOffset,
     .ADDI TEMP TEMP (n : Int), .SW TEMP r referenceCountOffset] ++ [.LAB l]

theorem shareBlockN_run' (r : Register) (n k : Nat) :
    (shareBlockN r n).run k = .ok (shareNCode r n (labName (k + 1)), k + 1) := rfl

theorem labsIn_shareNCode (r : Register) (n k : Nat) : LabsIn (shareNCode r n (labName (k + 1))) k (k + 1) := by
  intro l hl
  simp only [shareNCode, List.mem_cons, List.mem_append, reduceCtorEq, false_or, Code.LAB.injEq,
    List.not_mem_nil, or_false] at hl
  exact ⟨k + 1, hl, by omega, by omega⟩

section View
variable {cfg : MonCfg} {μ : MState} {h h' : Scc.Heap.HState}

/-- `share_block_n` on the view, pointer in any variable register: `n` more references -/
theorem m_shareN (C : CfgOK cfg) (H : HRelM cfg μ h) {r : Register} (h1 : 4 ≤ r.n) (h2 : r.n < 32) {p : Word}
    (hv : μ.val r.n = some p) {n : Nat} (hop : Scc.Heap.shareBlock h p.toNat n = .ok h')
    (hno : p ≠ 0 → h.mem.get p.toNat + n < 2 ^ 64) (l : String) :
    ∃ μ', mFwd cfg (shareNCode r n l) μ = some (μ', .fall) ∧ HRelM cfg μ' h' ∧
      (∀ u, u ≠ 1 → μ'.val u = μ.val u) := by
  have hrd : ∀ ν : MState, ν.rd r = ν.val r.n := fun ν => MState.rd_of (by omega) h2
  have h0 : ¬ r.n = 0 := by omega
  have hr1 : ¬ r.n = 1 := by omega
  by_cases hp : p = 0
  · subst hp
    have : h' = h := by
      simp [Scc.Heap.shareBlock] at hop
      exact hop.symm
    subst this
    refine ⟨μ, ?_, H, fun _ _ => rfl⟩
    unfold shareNCode
    exact mFwd_skip_taken cfg r _ _ μ (by rw [hrd, hv]) (by simp [skipTo])
  · have hp' : p.toNat ≠ 0 := fun e => hp (BitVec.eq_of_toNat_eq (by simpa using e))
    unfold Scc.Heap.shareBlock at hop
    rw [if_neg hp'] at hop
    cases hrdc : Scc.Heap.rd h p.toNat with
    | error f => simp [hrdc] at hop
    | ok cnt =>
      simp only [hrdc] at hop
      obtain ⟨hok, hcnt⟩ := rd_eq_ok.1 hrdc
      obtain ⟨_, rfl⟩ := wr_eq_ok.1 hop
      have ha : haddr cfg p 0 = some p.toNat := haddr_ok0 C H hok
      have hw : (μ.heap p.toNat + imm ((n : Nat) : Int)).toNat = cnt + n := by
        have := toNat_add_imm_nat (μ.heap p.toNat) n (by rw [← H.mem]; exact hno hp)
        rw [hcnt, H.mem]; exact this
      refine ⟨((μ.setT 1 (some (μ.heap p.toNat))).setT 1 (some (μ.heap p.toNat + imm ((n : Nat) : Int)))).setH
        p.toNat (μ.heap p.toNat + imm ((n : Nat) : Int)), ?_, ?_, fun u hu => by simp [hu]⟩
      · unfold shareNCode
        refine mFwd_skip_not_taken cfg r _ _ μ _ (by rw [hrd, hv]) hp ?_
        simp [mFwd_cons, mFwd_nil, mcont, mexecC, mexec, MState.rd, h0, h2, hr1, hv, ha]
      · have := ((H.setT (t := 1) (by decide) (by decide) (some (μ.heap p.toNat))).setT (t := 1) (by decide)
          (by decide) (some (μ.heap p.toNat + imm ((n : Nat) : Int)))).setH p.toNat
            (μ.heap p.toNat + imm ((n : Nat) : Int))
        rw [hw] at this
        exact this

end View

section Machine
variable {cfg : MonCfg} {la : String → Option Nat} {st : State}

/-- CONTRACT of `share_block_n` on the RV64 machine: the pointer in a variable register gets `n` more
references (`Scc.Heap.shareBlock`); only TEMP and the heap change -/
theorem shareBlockN_contract (B : Boundary cfg st) {h h' : Scc.Heap.HState} (R : HeapRel cfg st h)
    {r : Register} (h1 : 4 ≤ r.n) (h2 : r.n < 32) {p : Word} (hv : (mview st).val r.n = some p) {n : Nat}
    (hop : Scc.Heap.shareBlock h p.toNat n = .ok h') (hno : p ≠ 0 → h.mem.get p.toNat + n < 2 ^ 64) (k : Nat) :
    ∃ code, (shareBlockN r n).run k = .ok (code, k + 1) ∧ LabsIn code k (k + 1) ∧ MemFree code ∧
      ∃ st', execFwd cfg la code st = .ok (st', .fall) ∧ Boundary cfg st' ∧ HeapRel cfg st' h' ∧
        FrameR st st' (fun u => u = 1) := by
  obtain ⟨μ', hx, H', hfr⟩ := m_shareN B.top (heapRel_mview R) h1 h2 hv hop hno (labName (k + 1))
  obtain ⟨st', e, B', M', F⟩ := m_to_machine la B hx (changed := fun u => u = 1) (fun u hu => hfr u hu)
  exact ⟨_, shareBlockN_run' r n k, labsIn_shareNCode r n k, memFree_of_all rfl, st', e, B',
    heapRel_of_mrep M' H', F⟩

/-- CONTRACT of `erase_block` on the RV64 machine: the reference in a variable register is given up
(`Scc.Heap.eraseBlock`: count decremented, or the block goes onto the lazy free list); only TEMP, FREE and
the heap change -/
theorem eraseBlock_contract (B : Boundary cfg st) {h h' : Scc.Heap.HState} (R : HeapRel cfg st h)
    {r : Register} (h1 : 4 ≤ r.n) (h2 : r.n < 32) {p : Word} (hv : (mview st).val r.n = some p)
    (hop : Scc.Heap.eraseBlock h p.toNat = .ok h') (k : Nat) :
    ∃ code, (eraseBlock r).run k = .ok (code, k + 3) ∧ LabsIn code k (k + 3) ∧ MemFree code ∧
      ∃ st', execFwd cfg la code st = .ok (st', .fall) ∧ Boundary cfg st' ∧ HeapRel cfg st' h' ∧
        FrameR st st' (fun u => u = 1 ∨ u = 3) := by
  obtain ⟨μ', hx, H', hfr⟩ := m_erase B.top (heapRel_mview R) (by omega) h2 (by omega) hv hop
    (labName (k + 1)) (labName (k + 2)) (labName (k + 3))
    (fun e => by have := labName_inj.1 e; omega) (fun e => by have := labName_inj.1 e; omega)
    (fun e => by have := labName_inj.1 e; omega)
  obtain ⟨st', e, B', M', F⟩ := m_to_machine la B hx (changed := fun u => u = 1 ∨ u = 3)
    (fun u hu => hfr u (fun e => hu (Or.inr e)) (fun e => hu (Or.inl e)))
  exact ⟨_, eraseBlock_run r k, labsIn_eraseBlockCode r k, memFree_eraseBlockCode r _ _ _, st', e, B',
    heapRel_of_mrep M' H', F⟩

end Machine

end Scc.RV
