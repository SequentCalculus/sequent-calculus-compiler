/-
  Scc.RV.ThreeWayMachineA — the RV64 machine with addresses (`machineA`, a `MachineA rvBackend`): the address of
  the label at a position of the statement's code is the address the loader gave the label in the loaded routine
  (`Loaded.labelAddr`: code base + 4 · the number of instructions before it), and `load_label` is the one
  instruction `LA` that writes it.
-/
import Scc.RV.ThreeWayMachineAsm

namespace Scc.RV.Ref

open Scc.Backend
open Scc.Backend.ThreeWay (XAt)

/-- the address of the label that stands at position `idx` of the statement's code `items` -/
def addrOfR (ks items : List Code) (idx : Nat) : Word :=
  match items[idx]? with
  | some (.LAB l) =>
    match labIdx ks l with
    | some j => BitVec.ofNat 64 (codeBase + 4 * icount (ks.take j))
    | none => 0
  | _ => 0

/-- a label of the statement's code stands in the loaded routine -/
theorem pcAtR.lab {ks items : List Code} {st : State} {k idx : Nat} {l : String} (hnd : (labs ks).Nodup)
    (hpc : pcAtR ks items st k) (hlab : XAt items idx [Code.LAB l]) :
    ∃ j, labIdx ks l = some j ∧ items[idx]? = some (Code.LAB l) := by
  obtain ⟨pc0, hk0⟩ := hpc.2
  obtain ⟨cs1, rest, e, hl1⟩ := hlab
  have hk0' : KAt ks pc0 (cs1 ++ (Code.LAB l :: rest)) := by
    rw [e] at hk0
    simpa [List.append_assoc] using hk0
  obtain ⟨ka, _, _, hatj⟩ := hk0'.split
  refine ⟨_, labIdx_of_nodup hnd (hatj.head rfl).1, ?_⟩
  rw [e, ← hl1]
  simp

section
variable {mc : MonCfg} {pr : RV.Program} {ks : List Code} (L : Loaded pr ks) (hndL : (labs ks).Nodup)
  (hheap : mc.heap = false) {items : List Code}

include L hndL hheap in
/-- code.rs load_label: `LA` writes the address of the label -/
theorem rv_loadLabel {k idx : Nat} {st : State} {t : Nat} {l : String}
    (hat : XAt items k (rvBackend.loadLabel (posTemp t) l)) (hlab : XAt items idx [rvBackend.label l])
    (hpc : pcAtR ks items st k) (B : Boundary mc st) (ht : t < 28) :
    ∃ st', Reach pr mc st st' ∧ pcAtR ks items st' (k + (rvBackend.loadLabel (posTemp t) l).length) ∧
      Boundary mc st' ∧ rv st' t = some (addrOfR ks items idx) ∧
      ThreeWay.Keep (target mc pr.labelAddr) st st' (· = t) := by
  obtain ⟨j, hidx, hget⟩ := hpc.lab hndL (show XAt items idx [Code.LAB l] from hlab)
  have hla := L.labelAddr hidx
  have hm : addrOfR ks items idx = BitVec.ofNat 64 (codeBase + 4 * icount (ks.take j)) := by
    unfold addrOfR
    rw [hget]
    simp only [hidx]
  have hex : exec mc pr.labelAddr 0 (Code.LA (posTemp t) l) st =
      .ok (st.writeReg (posTemp t) (addrOfR ks items idx), .fall) := by
    simp only [exec, hla, hm]
  have hx : execFwd mc pr.labelAddr (rvBackend.loadLabel (posTemp t) l) st =
      .ok (st.writeReg (posTemp t) (addrOfR ks items idx), .fall) := execFwd_single hex
  have K := keep_writeReg B.wf (posTemp t) (addrOfR ks items idx)
  obtain ⟨st'', hr, hpc', B', K'⟩ := rv_lift L hndL hheap hat hpc hx
    ⟨fun c hc => by
      have : c = Code.LA (posTemp t) l := by simpa [rvBackend] using hc
      subst this; rfl, by simp [rvBackend]⟩ ⟨K.wf, B.top⟩
  refine ⟨st'', hr, hpc', B', ?_, ThreeWay.Keep.then (keepT_of_keep K) K'⟩
  have := K'.tv t ht id
  exact this.trans (rv_writeReg_same B.wf ht _)

def machineA (items : List Code) : ThreeWay.MachineA rvBackend where
  toMachine := machine L hndL hheap items
  addrOf := addrOfR ks items
  loadLabel := rv_loadLabel L hndL hheap

end

end Scc.RV.Ref
