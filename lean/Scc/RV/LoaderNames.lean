/-
  Scc.RV.LoaderNames — every routine the RISC-V backend model emits is text-safe (`routineTextOK`,
  Scc/RV/LoaderCheck.lean), from a decidable check on the names of the program (`compile_textOK`).
  The strings: the RISC-V instance `opsNamesC_rv` of the generic lifting for names (Scc/Backend/LoaderNamesC.lean),
  over the character class `okcR` (no white space, not `/`, not `#`).  The registers: the instance
  `opsSat_rv_regs` of `X86.OpsSat` (Scc/X86/ProofsWfProg.lean); no bounds on the program are needed for the
  existence of registers, since every program is within some bounds (`progB_exists`).  For memory.rs both at once:
  `GoodC h c` = the strings of `c` are text-safe, and IF `h` (the registers handed to the method exist) THEN the
  registers of `c` exist; it holds of every `Mem.Leaf`, hence of the code of the methods (Scc/RV/MemBlk.lean).
  `progB_exists`, `post_compileR_head` (the code starts with the label of the first definition) and
  `progNamesOK_mono` (the names check is monotone in the character class, so a program that passes the AArch64
  check passes this one) are stated for an arbitrary backend record and use nothing of RISC-V.
-/
import Scc.Backend.LoaderNamesC
import Scc.RV.LoaderCheck
import Scc.RV.MemBlk

namespace Scc.RV.Loader

open Scc.AxCut Scc.Backend Scc.Backend.NamesC Scc.Str
open Scc.X86 (AllP Post OpsSat ProgB StmtB ClausesB post_compileR)
open Scc.X86.Loader (StrOK OkcSpec GenLabel CtxVars identOK progNamesOK strOK_print)

/-- characters of a name that is safe in RISC-V labels and hook comments -/
def okcR (c : Char) : Bool := !c.isWhitespace && c != '/' && c != '#'

theorem okcR_facts {c : Char} (h : okcR c = true) : c.isWhitespace = false ∧ c ≠ '/' ∧ c ≠ '#' := by
  simp only [okcR, Bool.and_eq_true, bne_iff_ne, ne_eq, Bool.not_eq_true'] at h
  exact ⟨h.1.1, h.1.2, h.2⟩

theorem okcR_digit {c : Char} (h : c.isDigit = true) : okcR c = true := by
  have hr : 48 ≤ c.val ∧ c.val ≤ 57 := by simpa [Char.isDigit] using h
  have key : ∀ d : Char, (d.val < 48 ∨ 57 < d.val) → c ≠ d := by
    intro d hd e; subst e
    rcases hd with hd | hd
    · exact absurd hr.1 (by simpa using hd)
    · exact absurd hr.2 (by simpa using hd)
  simp only [okcR, Bool.and_eq_true, bne_iff_ne, ne_eq, Bool.not_eq_true']
  exact ⟨⟨(isDigit_facts h).1, key _ (by decide)⟩, key _ (by decide)⟩

theorem okcSpecR : OkcSpec okcR where
  nl := by intro c h e; subst e; revert h; decide
  us := by decide
  digit := fun c hc => okcR_digit hc

theorem okcR_hash : okcR '#' = false := by decide

theorem strOK_natRenR (n : Nat) : StrOK okcR (natRen n) := Scc.X86.Loader.strOK_natToString okcSpecR n

theorem labelDefOKB_of_strOK {l : String} (h : StrOK okcR l) (hne : l.toList ≠ []) : labelDefOKB l = true :=
  labelDefOKB_of_chars hne (fun c hc => ⟨(okcR_facts (h c hc)).1, (okcR_facts (h c hc)).2.1⟩)

theorem strOK_lab (n : Nat) : StrOK okcR ("lab" ++ toString n) := by
  intro c hc
  rw [String.toList_append, toList_toString_nat] at hc
  rcases List.mem_append.1 hc with hc | hc
  · have : ∀ c ∈ "lab".toList, okcR c = true := by decide +kernel
    exact this c hc
  · exact okcR_digit (isDigit_toDigits n c hc)

theorem labelDefOKB_lab (n : Nat) : labelDefOKB ("lab" ++ toString n) = true :=
  labelDefOKB_of_strOK (strOK_lab n) (by rw [String.toList_append]; simp)

theorem labelOKB_lab (n : Nat) : labelOKB ("lab" ++ toString n) = true := labelOKB_of_def (labelDefOKB_lab n)

theorem labelDefOKB_genLabel {l : String} (h : GenLabel okcR natRen l) : labelDefOKB l = true := by
  rcases h with ⟨h1, h2⟩ | ⟨n, rfl⟩ | rfl
  · exact labelDefOKB_of_strOK h1 (fun e => by rw [e] at h2; simp at h2)
  · exact labelDefOKB_lab n
  · decide

theorem labelOKB_genLabel {l : String} (h : GenLabel okcR natRen l) : labelOKB l = true :=
  labelOKB_of_def (labelDefOKB_genLabel h)

theorem commentOKB_of_commentOK {m : String} (h : CommentOK okcR m) : commentOKB m = true := by
  obtain ⟨h1, h2 | ⟨ctx, hc, rfl⟩⟩ := h
  · exact commentOKB_plain h1 h2
  · apply commentOKB_hook
    intro b hb c hcm
    exact (okcR_facts (strOK_print okcSpecR (hc b hb) c hcm)).1

/-! ## one item: names, and registers if the given registers exist -/

abbrev TOK (r : Register) : Prop := r.n < 32

/-- the strings of the item are text-safe; if `h` (the registers handed to the method exist), so are its
    registers -/
def GoodC (h : Prop) (c : Code) : Prop := nmR c = true ∧ (h → regsOKB c = true)

abbrev GoodL (h : Prop) (l : List Code) : Prop := AllP (GoodC h) l

theorem regsOKB_iff (c : Code) : regsOKB c = true ↔ ∀ r ∈ regsOf c, TOK r := by
  simp only [regsOKB, regOKB, List.all_eq_true, registerNum, TOK]
  constructor
  · intro h r hr; exact of_decide_eq_true (h r hr)
  · intro h r hr; exact decide_eq_true (h r hr)

theorem good_plain {h : Prop} {c : Code} (hn : nmR c = true) (hr : h → ∀ r ∈ regsOf c, TOK r) : GoodC h c :=
  ⟨hn, fun hh => (regsOKB_iff c).2 (hr hh)⟩

theorem good_comment {h : Prop} {m : String} (hm : commentOKB m = true) : GoodC h (.COMMENT m) :=
  ⟨hm, fun _ => rfl⟩

theorem good_lab {h : Prop} (n : Nat) : GoodC h (.LAB (labName n)) := ⟨labelDefOKB_lab n, fun _ => rfl⟩

theorem tok_zero : TOK ZERO := by decide
theorem tok_temp : TOK TEMP := by decide

/-- closes `TOK r`: `r` is `X0` or the scratch register, or `TOK r` is a hypothesis, or a component of a
conjunction among the hypotheses (the registers handed to a method arrive as `TOK a ∧ TOK b`) -/
local macro "tk" : tactic =>
  `(tactic| first
      | exact tok_zero | exact tok_temp | assumption
      | exact (And.left ‹_ ∧ _›) | exact (And.right ‹_ ∧ _›))

/-! ## utils.rs: temporaries exist -/

theorem post_positionRegister (n : TempNum) (pos : Nat) : Post (positionRegister n pos) TOK := by
  unfold positionRegister
  dsimp only
  split
  · rename_i hlt; exact Post.pure (by simpa [TOK, registerNum] using hlt)
  · exact Post.throw

theorem post_variableTemporary (n : TempNum) (ctx : Ctx) (id : Nat) : Post (variableTemporary n ctx id) TOK := by
  unfold variableTemporary
  split
  · exact Post.throw
  · exact post_positionRegister n _

/-! ## memory.rs -/

theorem commentOKB_memCom {m : String} (h : Mem.MemCom m) : commentOKB m = true :=
  commentOKB_plain h.1 fun hp => by
    obtain ⟨t, ht⟩ := hp
    have : m.toList[1]? = some 'c' := by rw [← ht]; rfl
    exact h.2 this

/-- the strings of a `Leaf` are text-safe, and its registers exist if the given ones do -/
theorem _root_.Scc.RV.Mem.Leaf.good {rok iok : Prop} {c : Code} (h : Mem.Leaf rok iok c) : GoodC rok c := by
  cases h with
  | com hm => exact good_comment (commentOKB_memCom hm)
  | instr hf hr _ =>
    refine good_plain (by cases c <;> first | rfl | cases hf) fun o r hm => ?_
    have hr := hr o
    cases c <;> first | cases hf | skip
    all_goals
      simp only [regsOf, List.mem_cons, List.not_mem_nil, or_false] at hm
      rcases hm with rfl | rfl
      · exact hr.1
      · exact hr.2

theorem _root_.Scc.RV.Mem.Blk.good {rok iok : Prop} {l : List Code} (h : Mem.Blk rok iok l) : GoodL rok l :=
  Scc.Backend.Blk.forall (S := Mem.syn) (P := GoodC rok) (fun _ hl => hl.good)
    (fun x n hx => good_plain (c := .BEQ x ZERO (labName n)) (labelOKB_lab n) fun o r hm => by
      rcases List.mem_cons.1 hm with hm | hm
      · exact hm ▸ hx o
      · exact List.mem_singleton.1 hm ▸ tok_zero)
    (fun n => good_plain (c := .JAL ZERO (labName n)) (labelOKB_lab n) fun _ r hm => by
      exact List.mem_singleton.1 hm ▸ tok_zero)
    (fun n => good_lab n) h

theorem post_store (a b : Ctx) : Post (store a b) (GoodL True) :=
  fun _ _ _ h => (Mem.blk_store a b h).good

theorem post_load (a b : Ctx) : Post (load a b) (GoodL True) :=
  fun _ _ _ h => (Mem.blk_load a b h).good

theorem post_eraseBlock (t : Register) : Post (eraseBlock t) (GoodL (TOK t)) :=
  fun _ _ _ h => (Mem.blk_eraseBlock t h).good

theorem post_shareBlockN (t : Register) (n : Nat) : Post (shareBlockN t n) (GoodL (TOK t)) :=
  fun _ _ _ h => (Mem.blk_shareBlockN t n h).good

abbrev NmP (c : Code) : Prop := nmR c = true
abbrev RgP (c : Code) : Prop := regsOKB c = true

theorem nm_of_good {h : Prop} {l : List Code} (g : GoodL h l) : AllP NmP l := fun c hc => (g c hc).1
theorem rg_of_good {h : Prop} {l : List Code} (hh : h) (g : GoodL h l) : AllP RgP l := fun c hc => (g c hc).2 hh

/-- the strings of every item a backend method returns are text-safe (labels: `GenLabel`s, comments:
    `CommentOK`), whatever the registers are -/
theorem opsNamesC_rv : OpsNamesC rvBackend NmP (CommentOK okcR) (GenLabel okcR natRen) where
  comment := fun m hm => commentOKB_of_commentOK hm
  label := fun l hl => labelDefOKB_genLabel hl
  jump := fun t => AllP.single rfl
  jumpLabel := fun l hl => AllP.single (labelOKB_genLabel hl)
  jumpLabelFixed := fun l hl => AllP.single (labelOKB_genLabel hl)
  jumpLabelIf := fun s a b l hl => by cases s <;> exact AllP.single (labelOKB_genLabel hl)
  jumpLabelIfZero := fun s a l hl => by cases s <;> exact AllP.single (labelOKB_genLabel hl)
  loadImmediate := fun t n => AllP.single rfl
  loadLabel := fun t l hl => AllP.single (labelOKB_genLabel hl)
  addAndJump := fun t k => AllP.cons rfl (AllP.single rfl)
  binop := fun o t s1 s2 => by cases o <;> exact AllP.single rfl
  mov := fun t s => AllP.single rfl
  printI64 := fun nl t ctx => Post.throw
  eraseBlock := fun t => (post_eraseBlock t).mono fun _ => nm_of_good
  shareBlockN := fun t n => (post_shareBlockN t n).mono fun _ => nm_of_good
  store := fun a b => (post_store a b).mono fun _ => nm_of_good
  load := fun a b => (post_load a b).mono fun _ => nm_of_good
  storeTemporary := fun t sp => AllP.single rfl
  restoreTemporary := fun t sp => AllP.single rfl

/-- the registers of an instruction are constants or known to exist -/
local macro "rg" : tactic =>
  `(tactic| (
      refine (regsOKB_iff _).2 ?_
      intro r hr
      simp only [regsOf, List.mem_cons, List.not_mem_nil, or_false] at hr
      first
        | (rcases hr with h1 | h1 | h1 <;> subst h1 <;> tk)
        | (rcases hr with h1 | h1 <;> subst h1 <;> tk)
        | (subst hr; tk)))

/-- the registers of every item a backend method returns exist, if the registers it is handed exist — for
    programs of ANY size (the bounds `maxTags`, `maxSubst` of `OpsSat` are not needed) -/
theorem opsSat_rv_regs (maxTags maxSubst : Nat) :
    OpsSat rvBackend RgP TOK (fun _ => True) maxTags maxSubst where
  temp := tok_temp
  return1 := by decide
  vt := fun n ctx id => post_variableTemporary n ctx id
  comment := fun m => rfl
  label := fun l => rfl
  jump := fun t ht => AllP.single (by rg)
  jumpLabel := fun l => AllP.single (by rg)
  jumpLabelFixed := fun l => AllP.single (by rg)
  jumpLabelIf := fun s a b l ha hb => by cases s <;> exact AllP.single (by rg)
  jumpLabelIfZero := fun s a l ha => by cases s <;> exact AllP.single (by rg)
  loadImmediate := fun t n ht _ => AllP.single (by rg)
  tagLit := fun _ _ => trivial
  loadLabel := fun t l ht => AllP.single (by rg)
  addAndJump := fun t k ht _ => AllP.cons (by rg) (AllP.single (by rg))
  binop := fun o t s1 s2 ht h1 h2 => by cases o <;> exact AllP.single (by rg)
  mov := fun t s ht hs => AllP.single (by rg)
  printI64 := fun nl t ctx ht => Post.throw
  eraseBlock := fun t ht => (post_eraseBlock t).mono fun _ => rg_of_good ht
  shareBlockN := fun t n ht _ => (post_shareBlockN t n).mono fun _ => rg_of_good ht
  store := fun a b => (post_store a b).mono fun _ => rg_of_good trivial
  load := fun a b => (post_load a b).mono fun _ => rg_of_good trivial
  storeTemporary := fun t sp ht => AllP.single (by rg)
  restoreTemporary := fun t sp ht => AllP.single (by rg)

/-! ## every program is within SOME bounds -/

mutual
  theorem stmtB_exists : ∀ s : Stmt, ∃ n, ∀ m, n ≤ m → StmtB (fun _ => True) m s
    | .subst pairs next => by
      obtain ⟨n, hn⟩ := stmtB_exists next
      exact ⟨n + pairs.length, fun m hm => by simp only [StmtB]; exact ⟨by omega, hn m (by omega)⟩⟩
    | .call _ _ => ⟨0, fun m _ => by simp [StmtB]⟩
    | .letS _ _ _ _ next _ => by
      obtain ⟨n, hn⟩ := stmtB_exists next
      exact ⟨n, fun m hm => by simp only [StmtB]; exact hn m hm⟩
    | .switch _ _ cl _ => by
      obtain ⟨n, hn⟩ := clausesB_exists cl
      exact ⟨n, fun m hm => by simp only [StmtB]; exact hn m hm⟩
    | .create _ _ _ cl next _ _ => by
      obtain ⟨n1, h1⟩ := clausesB_exists cl
      obtain ⟨n2, h2⟩ := stmtB_exists next
      exact ⟨n1 + n2, fun m hm => by simp only [StmtB]; exact ⟨h1 m (by omega), h2 m (by omega)⟩⟩
    | .invoke _ _ _ _ => ⟨0, fun m _ => by simp [StmtB]⟩
    | .lit _ _ next _ => by
      obtain ⟨n, hn⟩ := stmtB_exists next
      exact ⟨n, fun m hm => by simp only [StmtB]; exact ⟨trivial, hn m hm⟩⟩
    | .op _ _ _ _ next _ => by
      obtain ⟨n, hn⟩ := stmtB_exists next
      exact ⟨n, fun m hm => by simp only [StmtB]; exact hn m hm⟩
    | .print _ _ next _ => by
      obtain ⟨n, hn⟩ := stmtB_exists next
      exact ⟨n, fun m hm => by simp only [StmtB]; exact hn m hm⟩
    | .ifc _ _ _ t e => by
      obtain ⟨n1, h1⟩ := stmtB_exists t
      obtain ⟨n2, h2⟩ := stmtB_exists e
      exact ⟨n1 + n2, fun m hm => by simp only [StmtB]; exact ⟨h1 m (by omega), h2 m (by omega)⟩⟩
    | .exit _ => ⟨0, fun m _ => by simp [StmtB]⟩
  theorem clausesB_exists : ∀ c : Clauses, ∃ n, ∀ m, n ≤ m → ClausesB (fun _ => True) m c
    | .nil => ⟨0, fun m _ => by simp [ClausesB]⟩
    | .cons _ _ body rest => by
      obtain ⟨n1, h1⟩ := stmtB_exists body
      obtain ⟨n2, h2⟩ := clausesB_exists rest
      exact ⟨n1 + n2, fun m hm => by simp only [ClausesB]; exact ⟨h1 m (by omega), h2 m (by omega)⟩⟩
end

theorem defsB_exists : ∀ defs : List Def, ∃ n, ∀ m, n ≤ m → ∀ d ∈ defs, StmtB (fun _ => True) m d.body
  | [] => ⟨0, fun _ _ _ h => by simp at h⟩
  | d :: ds => by
    obtain ⟨n1, h1⟩ := stmtB_exists d.body
    obtain ⟨n2, h2⟩ := defsB_exists ds
    refine ⟨n1 + n2, fun m hm x hx => ?_⟩
    simp only [List.mem_cons] at hx
    rcases hx with rfl | hx
    · exact h1 m (by omega)
    · exact h2 m (by omega) x hx

theorem typesB_exists : ∀ types : List TypeDecl, ∃ n, ∀ d ∈ types, d.xtors.length ≤ n
  | [] => ⟨0, fun _ h => by simp at h⟩
  | d :: ds => by
    obtain ⟨n, hn⟩ := typesB_exists ds
    refine ⟨n + d.xtors.length, fun x hx => ?_⟩
    simp only [List.mem_cons] at hx
    rcases hx with rfl | hx
    · omega
    · have := hn x hx; omega

theorem progB_exists (p : AxCut.Prog) : ∃ mt ms, ProgB (fun _ => True) mt ms p := by
  obtain ⟨mt, ht⟩ := typesB_exists p.types
  obtain ⟨ms, hs⟩ := defsB_exists p.defs
  exact ⟨mt, ms, ht, hs ms (Nat.le_refl _)⟩

section Head

variable {Code T : Type} (B : Backend Code T)

theorem post_translateR_ne (hooks : Bool) (ren : Nat → String) (types : List TypeDecl) (d : Def) (ds : List Def) :
    Post (translateR B hooks ren types (d :: ds)) (fun blocks => ∃ b bs, blocks = b :: bs) := by
  simp only [translateR]
  exact Post.bind (Post.true _) fun is _ => Post.bind (Post.true _) fun rest _ => Post.pure ⟨is, rest, rfl⟩

/-- the code of a program starts with the label of its first definition -/
theorem post_compileR_head (hooks : Bool) (ren : Nat → String) (p : AxCut.Prog) :
    Post (compileR B hooks ren p) (fun r => ∃ l rest, r.1 = B.label l :: rest) := by
  unfold compileR
  cases hd : p.defs with
  | nil => exact Post.throw
  | cons d0 ds =>
    dsimp only
    refine Post.bind (post_translateR_ne B hooks ren p.types d0 ds) fun blocks hb => Post.pure ?_
    obtain ⟨b, bs, rfl⟩ := hb
    exact ⟨_, _, rfl⟩

end Head

/-! ## the names check is monotone in the character class -/

section Mono

open Scc.X86.Loader (tyLabelOK tyNoNL bindingOK ctxOK stmtNamesOK clausesNamesOK defNamesOK)

variable {okc1 okc2 : Char → Bool} (hsub : ∀ c, okc1 c = true → okc2 c = true)

include hsub

theorem identOK_mono {i : Ident} (h : identOK okc1 i = true) : identOK okc2 i = true := by
  simp only [identOK, List.all_eq_true] at h ⊢
  exact fun c hc => hsub c (h c hc)

theorem tyLabelOK_mono {ty : Ty} (h : tyLabelOK okc1 ty = true) : tyLabelOK okc2 ty = true := by
  simp only [tyLabelOK, List.all_eq_true] at h ⊢
  exact fun c hc => hsub c (h c hc)

theorem ctxOK_mono {c : Ctx} (h : ctxOK okc1 c = true) : ctxOK okc2 c = true := by
  simp only [ctxOK, List.all_eq_true, bindingOK, Bool.and_eq_true] at h ⊢
  exact fun b hb => ⟨identOK_mono hsub (h b hb).1, (h b hb).2⟩

mutual
  theorem stmtNamesOK_mono : ∀ s : Stmt, stmtNamesOK okc1 s = true → stmtNamesOK okc2 s = true
    | .subst pairs next, h => by
      simp only [stmtNamesOK, Bool.and_eq_true, List.all_eq_true] at h ⊢
      exact ⟨fun e he => ⟨identOK_mono hsub (h.1 e he).1, identOK_mono hsub (h.1 e he).2⟩,
        stmtNamesOK_mono next h.2⟩
    | .call _ _, h => by
      simp only [stmtNamesOK] at h ⊢; exact identOK_mono hsub h
    | .letS _ _ _ _ next _, h => by
      simp only [stmtNamesOK, Bool.and_eq_true] at h ⊢
      obtain ⟨⟨⟨⟨h1, h2⟩, h3⟩, h4⟩, h5⟩ := h
      exact ⟨⟨⟨⟨identOK_mono hsub h1, h2⟩, identOK_mono hsub h3⟩, ctxOK_mono hsub h4⟩, stmtNamesOK_mono next h5⟩
    | .switch _ _ cl _, h => by
      simp only [stmtNamesOK, Bool.and_eq_true] at h ⊢
      obtain ⟨⟨h1, h2⟩, h3⟩ := h
      exact ⟨⟨identOK_mono hsub h1, tyLabelOK_mono hsub h2⟩, clausesNamesOK_mono cl h3⟩
    | .create _ _ env cl next _ _, h => by
      simp only [stmtNamesOK, Bool.and_eq_true] at h ⊢
      obtain ⟨⟨⟨⟨⟨h1, h2⟩, h3⟩, h4⟩, h5⟩, h6⟩ := h
      refine ⟨⟨⟨⟨⟨identOK_mono hsub h1, h2⟩, tyLabelOK_mono hsub h3⟩, ?_⟩, clausesNamesOK_mono cl h5⟩,
        stmtNamesOK_mono next h6⟩
      cases env with
      | none => rfl
      | some e => exact ctxOK_mono hsub h4
    | .invoke _ _ _ _, h => by
      simp only [stmtNamesOK, Bool.and_eq_true] at h ⊢
      exact ⟨⟨identOK_mono hsub h.1.1, identOK_mono hsub h.1.2⟩, ctxOK_mono hsub h.2⟩
    | .lit _ _ next _, h => by
      simp only [stmtNamesOK, Bool.and_eq_true] at h ⊢
      exact ⟨identOK_mono hsub h.1, stmtNamesOK_mono next h.2⟩
    | .op _ _ _ _ next _, h => by
      simp only [stmtNamesOK, Bool.and_eq_true] at h ⊢
      exact ⟨⟨⟨identOK_mono hsub h.1.1.1, identOK_mono hsub h.1.1.2⟩, identOK_mono hsub h.1.2⟩,
        stmtNamesOK_mono next h.2⟩
    | .print _ _ next _, h => by
      simp only [stmtNamesOK, Bool.and_eq_true] at h ⊢
      exact ⟨identOK_mono hsub h.1, stmtNamesOK_mono next h.2⟩
    | .ifc _ _ snd t e, h => by
      simp only [stmtNamesOK, Bool.and_eq_true] at h ⊢
      obtain ⟨⟨⟨h1, h2⟩, h3⟩, h4⟩ := h
      refine ⟨⟨⟨identOK_mono hsub h1, ?_⟩, stmtNamesOK_mono t h3⟩, stmtNamesOK_mono e h4⟩
      cases snd with
      | none => rfl
      | some s => exact identOK_mono hsub h2
    | .exit _, h => by
      simp only [stmtNamesOK] at h ⊢; exact identOK_mono hsub h
  theorem clausesNamesOK_mono : ∀ c : Clauses, clausesNamesOK okc1 c = true → clausesNamesOK okc2 c = true
    | .nil, _ => by simp [clausesNamesOK]
    | .cons _ _ body rest, h => by
      simp only [clausesNamesOK, Bool.and_eq_true] at h ⊢
      obtain ⟨⟨⟨h1, h2⟩, h3⟩, h4⟩ := h
      exact ⟨⟨⟨identOK_mono hsub h1, ctxOK_mono hsub h2⟩, stmtNamesOK_mono body h3⟩, clausesNamesOK_mono rest h4⟩
end

theorem progNamesOK_mono {p : AxCut.Prog} (h : progNamesOK okc1 p = true) : progNamesOK okc2 p = true := by
  simp only [progNamesOK, List.all_eq_true, defNamesOK, Bool.and_eq_true] at h ⊢
  intro d hd
  obtain ⟨⟨h1, h2⟩, h3⟩ := h d hd
  exact ⟨⟨identOK_mono hsub h1, ctxOK_mono hsub h2⟩, stmtNamesOK_mono hsub d.body h3⟩

end Mono

/-- **every routine the RISC-V backend model emits for a program with text-safe names is text-safe** -/
theorem compile_textOK {p : AxCut.Prog} {hooks : Bool} {c0 : Nat} {instrs : List Code} {nargs c' : Nat}
    (hp : progNamesOK okcR p = true)
    (h : (compile rvBackend hooks p).run c0 = .ok ((instrs, nargs), c')) : routineTextOK instrs = true := by
  have hn : AllP NmP instrs :=
    post_compileR_namesC okcSpecR okcR_hash strOK_natRenR opsNamesC_rv hooks p hp c0 _ c' h
  obtain ⟨mt, ms, hb⟩ := progB_exists p
  have hr : AllP RgP instrs := post_compileR (opsSat_rv_regs mt ms) hooks natRen p hb c0 _ c' h
  obtain ⟨l, rest, hl⟩ := post_compileR_head rvBackend hooks natRen p c0 _ c' h
  simp only [routineTextOK, Bool.and_eq_true, List.all_eq_true, itemTextOK]
  refine ⟨?_, fun c hc => ⟨hr c hc, hn c hc⟩⟩
  simp only at hl
  rw [hl]; rfl

end Scc.RV.Loader
