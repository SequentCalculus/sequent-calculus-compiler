/-
  Scc.RV.RefInvoke — `invoke` on the three machines, RV64.
  * `invoke_nav_rv`: the RV64 machine from the `invoke` (`JALR` through the word of the closure, or
    `add_and_jump` through the method table) to the `load` of the selected method;
  * `invoke_x3`: the abstract navigation (`invoke_nav_abs`), `invoke_nav_rv`, then `load_enter_x3`.
-/
import Scc.RV.RefCreate
import Scc.RV.RefSwitch
import Scc.RV.RefJump
import Scc.Backend.ProofsKeys

set_option linter.unusedSimpArgs false

namespace Scc.RV.Ref

open Scc.AxCut Scc.AxCut.Pos Scc.Backend Scc.Backend.Abs Scc.Backend.Sim Scc.Backend.Sim2
open Scc.Heap (HState InvS InvW)
open Scc.Heap.Refine (HRef FrLe Room loadAbs)

theorem kat_table_entry {ks : List Code} {i : Nat} {base : String} {table rest : List Code} {pos : Nat} {e : Code}
    (hat : KAt ks i (Code.LAB base :: (table ++ rest))) (htins : ∀ y ∈ table, y.isInstr = true)
    (htab : table[pos]? = some e) :
    ks[i]? = some (Code.LAB base) ∧ ks[i + 1 + pos]? = some e ∧
      icount (ks.take (i + 1 + pos)) = icount (ks.take i) + pos ∧ KAt ks (i + 1 + table.length) rest := by
  obtain ⟨hgL, hatT⟩ := hat.head rfl
  obtain ⟨kt, ⟨kT1, kTrest, ekT, hkT1⟩, hkt, hatC⟩ := hatT.split
  have hkt' : table = kt := (hkt.noncomments (fun y hy => isComment_of_isInstr (htins y hy))).symm
  subst hkt'
  have hposlt : pos < table.length := (List.getElem?_eq_some_iff.1 htab).1
  have hilt : i < ks.length := (List.getElem?_eq_some_iff.1 hgL).1
  have hgj : ks[i + 1 + pos]? = some e := by
    rw [ekT, List.append_assoc, List.getElem?_append_right (by omega), hkT1]
    simp only [Nat.add_sub_cancel_left]
    rw [List.getElem?_append_left (by omega)]
    exact htab
  have hk1 : kT1 = ks.take (i + 1) := by
    rw [ekT, List.append_assoc, List.take_left' hkT1]
  have htakeL : ks.take (i + 1) = ks.take i ++ [Code.LAB base] := by
    rw [List.take_succ_eq_append_getElem hilt]
    rw [List.getElem?_eq_getElem hilt] at hgL
    rw [Option.some.inj hgL]
  have htakej : ks.take (i + 1 + pos) = ks.take (i + 1) ++ table.take pos := by
    rw [← hk1]
    conv => lhs; rw [ekT, List.append_assoc, ← hkT1, List.take_length_add_append]
    rw [List.take_append_of_le_length (by omega)]
  refine ⟨hgL, hgj, ?_, hatC⟩
  rw [htakej, htakeL, icount_append, icount_append, icount_single,
    icount_all_instr (fun y hy => htins y (List.mem_of_mem_take hy))]
  simp [Code.isInstr]
  omega

section Nav

variable {mc : MonCfg} {cw : Nat → Word} {τ : Nat → Nat → Word} {pr : RV.Program} {ks : List Code}
  (L : Loaded pr ks) (hnd : (labs ks).Nodup) (hheap : mc.heap = false)
  (hfitX : codeBase + 4 * icount ks < 2 ^ 64)
  (hcl : ∀ t, t + 1 < ks.length → ks[t]? ≠ some (Code.LAB "cleanup"))

include L hnd hheap hfitX hcl in
/-- the machine from the `invoke` to the `load` of the selected method -/
theorem invoke_nav_rv {hooks : Bool} {types : List TypeDecl} {Γa : Ctx} {b : Binding} {cfg : Config}
    {hs : HState} {ι : Nat → Nat} {st : State} {x tag : Ident} {ty : Ty} {args : Ctx} {clauses : Clauses}
    {pos : Nat} {c : Clause} {d : TypeDecl} {ec' : Ctx} {m : Word}
    (X : X3 mc cw τ (Γa ++ [b]) cfg hs ι st)
    (hb : b.var.id = x.id) (hfresh : ∀ b' ∈ Γa, b'.var.id ≠ x.id)
    (hd : lookupTypeDecl types ty = some d) (hx : xtorPosition d tag = some pos)
    (hclause : nthClause clauses pos = some c) (hlc : clauses.length = d.xtors.length)
    (hrv : rv st (2 * Γa.length + 1) = some m) (hK : KMethodsAt ks hooks types m ec' clauses)
    {k k' : Nat} {items : List Code}
    (hrun : (codeStatementR rvBackend hooks natRen types (.invoke x tag ty args) (Γa ++ [b])).run k =
      .ok (items, k'))
    (hat : KAt ks st.pc items) :
    ∃ st4 kl kl' lcode kb' body, ReachP pr mc st st4 ∧ X3 mc cw τ (Γa ++ [b]) cfg hs ι st4 ∧
      (load ec' c.ctx).run kl = .ok (lcode, kl') ∧
      (codeStatementR rvBackend hooks natRen types c.body (c.ctx ++ ec')).run kl' = .ok (body, kb') ∧
      KAt ks st4.pc (lcode ++ body) := by
  obtain ⟨base, i, km, km', mcode, hbase, hidx, hm, hmrun, hatM⟩ := hK
  have hposlt := nthClause_lt clauses pos c hclause
  have hclne : clauseLabel base c.xtor ≠ "cleanup" := by
    unfold clauseLabel; exact table_ne_cleanup _ _
  generalize hA : codeBase + 4 * icount (ks.take i) = A at hm
  have hAlt : A < 2 ^ 64 := by
    have := icount_take_le ks i
    omega
  have hAeven : A % 2 = 0 := by rw [← hA]; unfold codeBase; omega
  have hgi : ks[i]? = some (Code.LAB base) := (hatM.head rfl).1
  have hilt : i < ks.length := (List.getElem?_eq_some_iff.1 hgi).1
  have hcl' : ∀ j, j < ks.length → ∀ t, t < j → ks[t]? ≠ some (Code.LAB "cleanup") :=
    fun j hj t ht => hcl t (by omega)
  simp only [codeStatementR, run_bind_ok, run_pure_ok, lookupTypeDeclM_run_ok] at hrun
  obtain ⟨tX, _, htX, decl, _, ⟨hd', rfl⟩, hrun⟩ := hrun
  rw [hd] at hd'; cases hd'
  obtain ⟨q, hq, hlt, rfl, rfl⟩ := (rv_vt_run_ok _ _ _ _ _ _).1 htX
  have hq' : q = Γa.length := by
    have := posOf_append_fresh Γa b (fun b' hb' => by rw [hb]; exact hfresh b' hb')
    rw [hb] at this
    rw [this] at hq
    exact (Option.some.inj hq).symm
  subst hq'
  simp only [TempNum.toNat] at hlt
  generalize hc0 : hookCode rvBackend hooks (Γa ++ [b]) ++ [rvBackend.comment (invokePrint x tag args)] = c0 at hrun
  have hc0c : ∀ y ∈ c0, ∃ m', y = Code.COMMENT m' := by rw [← hc0]; exact hook_comments hooks _ _
  have hrt : st.readReg (posTemp (2 * Γa.length + 1)) = .ok (BitVec.ofNat 64 A) := by
    rw [← hm]; exact readReg_of_rv hrv
  by_cases hle : d.xtors.length ≤ 1
  · -- a single method: the jump goes to the label of the (empty) table
    have hpos0 : pos = 0 := by omega
    subst hpos0
    simp only [hle, if_true, run_pure_ok] at hrun
    obtain ⟨rfl, rfl⟩ := hrun
    have hgt : ¬ (clauses.length > 1) := by omega
    simp only [hgt, if_false, List.nil_append] at hatM
    obtain ⟨post0, kl0', lcode0, kb0', body0,
        (hc30 : _ = Code.LAB (clauseLabel base c.xtor) :: (lcode0 ++ (body0 ++ post0))),
        (hload0 : (load ec' c.ctx).run _ = .ok (lcode0, kl0')), hbody0⟩ :=
      ThreeWay.codeMethods_head rvBackend hooks natRen types ec' clauses base c _ _ _ hmrun hclause
    rw [hc30] at hatM
    have hatN : KAt ks st.pc ((c0 ++ [Code.COMMENT "#there is only one clause, so we can jump there directly"]) ++
        [Code.JALR ZERO (posTemp (2 * Γa.length + 1)) 0]) := hat
    obtain ⟨pc0, k0, hr0, hat0⟩ := pass_comments L hnd hheap hatN (by
      intro y hy
      simp only [List.mem_append, List.mem_cons, List.not_mem_nil, or_false] at hy
      rcases hy with hy | rfl
      · exact hc0c y hy
      · exact ⟨_, rfl⟩)
    have hjx : ∀ a', exec mc pr.labelAddr a' (Code.JALR ZERO (posTemp (2 * Γa.length + 1)) 0) (setPS st pc0 k0) =
        .ok (setPS st pc0 k0, .addr (BitVec.ofNat 64 A)) := fun a' =>
      exec_JALR_zero mc pr.labelAddr a' (s := setPS st pc0 k0) (by rw [readReg_setPS]; exact hrt) hAeven
    have hr1 := jump_reach L hheap (s := setPS st pc0 k0) hat0 rfl hjx hilt
      (Or.inr ⟨base, by rw [List.getElem?_eq_getElem hilt] at hgi; injection hgi⟩)
      (by rw [ofNat_toNat_lt hAlt, hA]) (hcl' i hilt)
    have hatM' : KAt ks (setPS (setPS st pc0 k0) i ((setPS st pc0 k0).steps + 1)).pc
        (Code.LAB base :: (Code.LAB (clauseLabel base c.xtor) :: (lcode0 ++ (body0 ++ post0)))) := hatM
    have X1 : X3 mc cw τ (Γa ++ [b]) cfg hs ι (setPS (setPS st pc0 k0) i ((setPS st pc0 k0).steps + 1)) :=
      X3R.setPS (X3R.setPS X _ _) _ _
    generalize setPS (setPS st pc0 k0) i ((setPS st pc0 k0).steps + 1) = s1 at hr1 hatM' X1
    obtain ⟨hr2, hat2⟩ := pass_label L (cfg := mc) hatM' hbase
    obtain ⟨hr3, hat3⟩ := pass_labelP L (cfg := mc) (s := setPS s1 (s1.pc + 1) s1.steps) hat2 hclne
    refine ⟨_, _, _, lcode0, _, body0, hr0.transP (hr1.transP (hr2.transP hr3)),
      X3R.setPS (X3R.setPS X1 _ _) _ _, hload0, hbody0, ?_⟩
    have : KAt ks (setPS (setPS s1 (s1.pc + 1) s1.steps) ((setPS s1 (s1.pc + 1) s1.steps).pc + 1)
        (setPS s1 (s1.pc + 1) s1.steps).steps).pc ((lcode0 ++ body0) ++ post0) := by
      rw [List.append_assoc]; exact hat3
    exact this.left
  · -- through the method table
    have hgt : clauses.length > 1 := by omega
    simp only [hle, if_false, run_bind_ok, run_pure_ok, xtorPositionM_run_ok] at hrun
    obtain ⟨pos', _, ⟨hx', rfl⟩, rfl, rfl⟩ := hrun
    rw [hx] at hx'; cases hx'
    simp only [hgt, if_true] at hatM
    generalize hT : codeTable rvBackend clauses base = table at hatM
    have htab : table[pos]? = some (.JAL ZERO (clauseLabel base c.xtor)) := by
      rw [← hT]; exact ThreeWay.codeTable_nth rvBackend (j := Code.JAL ZERO) (fun _ => rfl) base clauses pos c hclause
    have htlen : table.length = clauses.length := by rw [← hT]; exact ThreeWay.codeTable_length rvBackend (j := Code.JAL ZERO) (fun _ => rfl) base clauses
    have htins : ∀ y ∈ table, y.isInstr = true := by rw [← hT]; exact rv_codeTable_instr base clauses
    obtain ⟨pre, post, kl, kl', lcode, kb', body,
        (hc3 : _ = pre ++ Code.LAB (clauseLabel base c.xtor) :: (lcode ++ (body ++ post))),
        (hload : (load ec' c.ctx).run kl = .ok (lcode, kl')), hbody⟩ :=
      ThreeWay.codeMethods_nth rvBackend hooks natRen types ec' clauses base pos c _ _ _ hmrun hclause
    rw [hc3] at hatM
    obtain ⟨_, hgj, hicj, hatC⟩ := kat_table_entry hatM htins htab
    have hj : i + 1 + pos < ks.length := (List.getElem?_eq_some_iff.1 hgj).1
    have hbound : A + 4 * pos < 2 ^ 64 := by
      have := icount_take_le ks (i + 1 + pos)
      rw [hicj] at this
      omega
    have hatN : KAt ks st.pc (c0 ++ ([Code.ADDI TEMP (posTemp (2 * Γa.length + 1)) (rvBackend.jumpLength pos)] ++
        [Code.JALR ZERO TEMP 0])) := by
      have : rvBackend.addAndJump (posTemp (2 * Γa.length + TempNum.snd.toNat)) (rvBackend.jumpLength pos) =
          [Code.ADDI TEMP (posTemp (2 * Γa.length + 1)) (rvBackend.jumpLength pos)] ++ [Code.JALR ZERO TEMP 0] := rfl
      rw [← this]
      exact hat
    obtain ⟨pca, ka, hra, hata⟩ := pass_comments L hnd hheap hatN hc0c
    have Xa : X3 mc cw τ (Γa ++ [b]) cfg hs ι (setPS st pca ka) := X3R.setPS X _ _
    have hrta : (setPS st pca ka).readReg (posTemp (2 * Γa.length + 1)) = .ok (BitVec.ofNat 64 A) := by
      rw [readReg_setPS]; exact hrt
    replace hata : KAt ks (setPS st pca ka).pc
        ([Code.ADDI TEMP (posTemp (2 * Γa.length + 1)) (rvBackend.jumpLength pos)] ++ [Code.JALR ZERO TEMP 0]) := hata
    generalize setPS st pca ka = sa at hra Xa hata hrta
    have hwf := Xa.bnd.wf
    -- the address computation
    have hk : rvBackend.jumpLength pos = ((4 * pos : Nat) : Int) := by
      show jumpLength pos = _
      simp [jumpLength]
    have hsum : BitVec.ofNat 64 A + imm (rvBackend.jumpLength pos) = BitVec.ofNat 64 (A + 4 * pos) := by
      rw [hk, imm_natCast]; simp [BitVec.ofNat_add]
    have hex1 : exec mc pr.labelAddr 0 (Code.ADDI TEMP (posTemp (2 * Γa.length + 1)) (rvBackend.jumpLength pos)) sa =
        .ok (sa.writeReg TEMP (BitVec.ofNat 64 (A + 4 * pos)), .fall) := by
      rw [exec_ADDI mc pr.labelAddr 0 _ hrta, hsum]
    generalize hsb : sa.writeReg TEMP (BitVec.ofNat 64 (A + 4 * pos)) = sb at hex1
    have hKb : Keep sa sb (fun u => u = 1) := by
      rw [← hsb]
      have := keep_writeReg hwf TEMP (BitVec.ofNat 64 (A + 4 * pos))
      exact ⟨this.wf, this.mem, fun r h1 h2 hc => this.regs r h1 h2 (fun h => hc h)⟩
    have hrb : sb.readReg TEMP = .ok (BitVec.ofNat 64 (A + 4 * pos)) := by
      rw [← hsb]; exact readReg_writeReg_same hwf temp_usable _
    obtain ⟨pcb, kb, hrb', hatb⟩ := exec_block L hnd hheap hata
      (fun y hy => by simp at hy; subst hy; rfl) (by simp) (execFwd_single hex1)
    have Xb : X3 mc cw τ (Γa ++ [b]) cfg hs ι (setPS sb pcb kb) :=
      X3R.setPS (X3R.keep Xa hKb (fun t _ => by simp [posReg]) (by decide) (by decide)) _ _
    -- the jump through TEMP lands on the table entry
    have hjx : ∀ a', exec mc pr.labelAddr a' (Code.JALR ZERO TEMP 0) (setPS sb pcb kb) =
        .ok (setPS sb pcb kb, .addr (BitVec.ofNat 64 (A + 4 * pos))) := fun a' =>
      exec_JALR_zero mc pr.labelAddr a' (s := setPS sb pcb kb) (by rw [readReg_setPS]; exact hrb) (by omega)
    have hji : ks[i + 1 + pos].isInstr = true := by
      rw [List.getElem?_eq_getElem hj] at hgj
      rw [Option.some.inj hgj]; rfl
    have hrc := jump_reach L hheap (s := setPS sb pcb kb) hatb rfl hjx hj (Or.inl hji)
      (by rw [ofNat_toNat_lt hbound, hicj, ← hA]; omega) (hcl' _ hj)
    generalize hsc : setPS (setPS sb pcb kb) (i + 1 + pos) ((setPS sb pcb kb).steps + 1) = sc at hrc
    have Xc : X3 mc cw τ (Γa ++ [b]) cfg hs ι sc := by rw [← hsc]; exact X3R.setPS Xb _ _
    have hscpc : sc.pc = i + 1 + pos := by rw [← hsc]; rfl
    -- the table entry jumps to the method
    have hatE : KAt ks sc.pc (Code.JAL ZERO (clauseLabel base c.xtor) :: []) := by
      rw [hscpc]
      refine ⟨ks.take (i + 1 + pos), [Code.JAL ZERO (clauseLabel base c.xtor)], ks.drop (i + 1 + pos + 1),
        ?_, by simp [List.length_take]; omega, .keep rfl .nil⟩
      rw [List.append_assoc, List.singleton_append]
      have := List.getElem?_eq_getElem hj
      rw [hgj] at this
      rw [Option.some.inj this, ← List.drop_eq_getElem_cons hj, List.take_append_drop]
    obtain ⟨iC, hgC, hatB⟩ := hatC.lab_at
    have hrd := step_label L (cfg := mc) (s := sc) (s1 := sc) (l := clauseLabel base c.xtor) (i := iC) hatE rfl
      (fun a' => exec_JAL_zero mc _ a' _ _) (labIdx_of_nodup hnd hgC)
    have hatCl : KAt ks (setPS sc iC (sc.steps + 1)).pc
        (Code.LAB (clauseLabel base c.xtor) :: (lcode ++ (body ++ post))) := KAt.of_label hgC hatB
    obtain ⟨hre, hatF⟩ := pass_labelP L (cfg := mc) hatCl hclne
    refine ⟨_, kl, kl', lcode, kb', body,
      hra.transP (hrb'.transP (hrc.transP (hrd.transP hre))),
      X3R.setPS (X3R.setPS Xc _ _) _ _, hload, hbody, ?_⟩
    have : KAt ks (setPS (setPS sc iC (sc.steps + 1)) ((setPS sc iC (sc.steps + 1)).pc + 1)
        (setPS sc iC (sc.steps + 1)).steps).pc ((lcode ++ body) ++ post) := by
      rw [List.append_assoc]; exact hatF
    exact this.left

end Nav

section Invoke3

variable {mc : MonCfg} {cw : Nat → Word} {τ : Nat → Nat → Word} {pr : RV.Program} {ks : List Code}
  (L : Loaded pr ks) (hnd : (labs ks).Nodup) (hheap : mc.heap = false)
  (hfitX : codeBase + 4 * icount ks < 2 ^ 64)
  (hcl : ∀ t, t + 1 < ks.length → ks[t]? ≠ some (Code.LAB "cleanup"))

include L hnd hheap hfitX hcl in
/-- `invoke` on the three machines: the jump through the word of the closure (directly, or through the
method table), the `load` of the closure environment -/
theorem invoke_x3 {P : Abs.Program} {hooks : Bool} {prog : AxCut.Prog} {Γa : Ctx} {b : Binding}
    {ρa : List Value} {Γc : Ctx} {ρc : List Value} {clauses : Clauses} {x tag : Ident} {ty : Ty}
    {args : Ctx} {cfg : Config} {c : Clause} {pos : Nat}
    (R : RelX P hooks prog ⟨Γa ++ [b], ρa ++ [.clo Γc ρc clauses], .invoke x tag ty args⟩ cfg)
    (hfits : Fits P)
    (hb : b.var.id = x.id) (hfresh : ∀ b' ∈ Γa, b'.var.id ≠ x.id)
    (hpos : Pos.tagPosition prog.types ty tag = .ok pos)
    (hclause : nthClause clauses pos = some c)
    (hlenc : ∀ d, lookupTypeDecl prog.types ty = some d → clauses.length = d.xtors.length)
    (hargs : Γa.map (·.chi) = c.ctx.map (·.chi))
    (hkinds : ρc.map Sim2.kindOf = Mock.kindsOf Γc)
    (hcap : 2 * (c.ctx.length + Γc.length) + 2 < Mock.T_TEMP)
    {hs : HState} {ι : Nat → Nat} {st : State} (X : X3 mc cw τ (Γa ++ [b]) cfg hs ι st)
    {k k' : Nat} {items : List Code}
    (hrun : (codeStatementR rvBackend hooks natRen prog.types (.invoke x tag ty args) (Γa ++ [b])).run k =
      .ok (items, k'))
    (hat : KAt ks st.pc items)
    (hcapX : c.ctx.length + Γc.length ≤ 14)
    (CVh : CVals P hooks prog.types (KMethodsAt ks hooks prog.types) cw τ cfg.heap cfg.temps (Γa ++ [b])
      (ρa ++ [.clo Γc ρc clauses])) :
    ∃ kk cfg' st' hs' envCtx', Ctx.keys envCtx' = Γc.keys ∧ stepsTo P kk cfg cfg' ∧ ReachP pr mc st st' ∧
      FrLe hs hs' 0 ∧ cfg'.out = cfg.out ∧ cfg'.next = cfg.next ∧
      RelX P hooks prog ⟨c.ctx ++ envCtx', ρa ++ ρc, c.body⟩ cfg' ∧
      (∃ r, cfg.temps.get (2 * Γa.length) = some r ∧
        X3 mc (loadCw cw Γa.length (τ r.toNat)) τ (c.ctx ++ envCtx') cfg' hs' ι st' ∧
        CVals P hooks prog.types (KMethodsAt ks hooks prog.types) (loadCw cw Γa.length (τ r.toNat)) τ cfg'.heap
          cfg'.temps (c.ctx ++ envCtx') (ρa ++ ρc)) ∧
      ∃ k1 k1' items', (codeStatementR rvBackend hooks natRen prog.types c.body (c.ctx ++ envCtx')).run k1 =
          .ok (items', k1') ∧ KAt ks st'.pc items' := by
  have hlen : ρa.length = Γa.length := by have := R.len; simpa using this
  have hlenA : Γa.length = c.ctx.length := by simpa using congrArg List.length hargs
  have hn1 : Γa.length < (Γa ++ [b]).length := by simp
  have hn2 : Γa.length < (ρa ++ [Value.clo Γc ρc clauses]).length := by simp [hlen]
  obtain ⟨_, hsome, hkind, _⟩ := R.vals Γa.length hn1 hn2
  have hcv := CVh Γa.length hn1 hn2
  have g1 : (Γa ++ [b])[Γa.length] = b := by simp
  have g2 : (ρa ++ [Value.clo Γc ρc clauses])[Γa.length] = .clo Γc ρc clauses := by
    rw [List.getElem_append_right (by omega)]; simp [hlen]
  simp only [g1, g2] at hcv hkind
  have hbchi : b.chi = .cns := hkind
  have hbne : b.chi ≠ .ext := by rw [hbchi]; decide
  have hbe : (b.chi == .ext) = false := (Sim2.chi_beq_ext_false _).mpr hbne
  simp only [hbe, Bool.false_eq_true, if_false] at hcv
  obtain ⟨r, a, envCtx', hr, hCB, hw, hkeys, hmeth, hK⟩ := hcv.clo_inv
  have hword : cfg.temps.get (2 * Γa.length + 1) = some (BitVec.ofNat 64 a) := by
    cases hg : cfg.temps.get (2 * Γa.length + 1) with
    | none => simp [hg] at hsome
    | some w => simp only [hg, Option.getD_some] at hw; rw [hw]
  have hkenv : Mock.kindsOf envCtx' = Mock.kindsOf Γc := Scc.Backend.Keys.keys_chi hkeys
  have hlenv : envCtx'.length = Γc.length := Scc.Backend.Keys.keys_length hkeys
  have hkinds' : ρc.map Sim2.kindOf = Mock.kindsOf envCtx' := by rw [hkenv]; exact hkinds
  have hcap' : 2 * (Γa.length + envCtx'.length) + 2 < Mock.T_TEMP := by rw [hlenA, hlenv]; exact hcap
  obtain ⟨d, hd, hx⟩ := tagPosition_ok hpos
  obtain ⟨k4, cfg4, hst4, h4heap, h4next, h4out, h4temps, hloadM, hcode⟩ :=
    invoke_nav_abs R hfits hb hfresh hpos hclause hlenc hlenA hword hmeth
  have hrv : rv st (2 * Γa.length + 1) = some (cw Γa.length) := by
    have := X.words Γa.length hn1 _ hword
    simpa [g1, hbchi, trW] using this
  obtain ⟨st4, kl, kl', lcode, kb', body, hn4, X4, hload, hbody, hat4⟩ :=
    invoke_nav_rv L hnd hheap hfitX hcl X hb hfresh hd hx hclause (hlenc d hd) hrv hK hrun hat
  obtain ⟨cfg', st', hs', hst', hn5, hfr, hout', hnext', R', X', CV', hat5⟩ :=
    load_enter_x3 L hnd hheap (Γ'' := c.ctx) (Δ := envCtx') (s' := c.body) R hargs hbne hr hCB.rep hCB.toX hkinds' hcap' hst4
      h4heap h4next h4out h4temps hloadM hcode X4 hload hat4 (by rw [hlenA, hlenv]; exact hcapX) CVh
  exact ⟨k4 + 1, cfg', st', hs', envCtx', hkeys, hst', hn4.trans_reach hn5, hfr, hout', hnext', R',
    ⟨r, hr, X', CV'⟩, kl', kb', body, hbody, hat5⟩

end Invoke3

end Scc.RV.Ref
