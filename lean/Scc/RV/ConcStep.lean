/-
  Scc.RV.ConcStep — THE RUN LOOP OF THE RV64 SPEC MACHINE (Scc/RV/Machine.lean `runLoop`) AS AN ITERATED
  TRANSITION FUNCTION.  `runLoop` consumes one unit of fuel per item traversed; `step p cfg s` is what it
  does with one unit (`.inl s'`: the loop continues with `s'`; `.inr r`: the run ends with the result `r`),
  `stepN` its iteration.  `runLoop_succ`, `runLoop_stepN`: the loop IS the iteration of `step` (`step` is a
  function of this file, proved equal to what the executable `runLoop` does).
  With it "the machine passes through the state `s'`" can be SAID: `stepN p cfg k s = .inl s'`
  (`Scc.RV.Ref.Reach`, Scc/RV/RefBridge.lean); the three-way stack of RV64 (Scc/RV/Ref*.lean) is stated over it.
  `step` is split by the kind of the item at the program counter (`stepLab`, `stepHook`, `stepInstr`; `step_lab`,
  `step_hook`, `step_instr`) so that proofs about it need not unfold the whole case analysis.
  The last section is about the heap monitor: `heapMonitorG base` is `heapMonitor` with the heap base as a
  parameter (`heapMonitor_eqG`), the form in which facts about the monitor can be checked by the kernel.
-/
import Scc.RV.MemProofsRun

namespace Scc.RV

def stepInstr (p : Program) (cfg : MonCfg) (s : State) (it : Item) : State ⊕ RunResult :=
  match exec cfg p.labelAddr it.addr it.code s with
  | .error e => .inr (s.result (.fault e it.line))
  | .ok (s1, next) =>
    let s2 := { s1 with steps := s1.steps + 1 }
    match next with
    | .fall => .inl { s2 with pc := s.pc + 1 }
    | .label l =>
      match p.labelIdx[l]? with
      | none => .inr (s2.result (.fault s!"undefined-label {l}" it.line))
      | some i => .inl { s2 with pc := i }
    | .addr a =>
      match p.addrIdx[a.toNat]? with
      | none => .inr (s2.result (.fault "jump-to-non-instruction" it.line))
      | some i => .inl { s2 with pc := i }

def stepHook (cfg : MonCfg) (s : State) (it : Item) : State ⊕ RunResult :=
  match it.roots with
  | some rs =>
    if cfg.heap then
      match heapMonitor cfg s rs with
      | .error e => .inr (s.result (.invFail e it.line))
      | .ok s1 => .inl { s1 with pc := s.pc + 1 }
    else .inl { s with pc := s.pc + 1 }
  | none => .inl { s with pc := s.pc + 1 }

def stepLab (s : State) (it : Item) (l : String) : State ⊕ RunResult :=
  if l == "cleanup" then
    match s.readReg RETURN1 with
    | .ok v => .inr (s.result (.done v))
    | .error e => .inr (s.result (.fault e it.line))
  else .inl { s with pc := s.pc + 1 }

/-- one unit of fuel of `runLoop`: one item (instruction, label, kept comment) -/
def step (p : Program) (cfg : MonCfg) (s : State) : State ⊕ RunResult :=
  match p.items[s.pc]? with
  | none => .inr (s.result (.fault "fell-off-end" 0))
  | some it =>
    match it.code with
    | .LAB l => stepLab s it l
    | .COMMENT _ => stepHook cfg s it
    | _ => stepInstr p cfg s it

def stepN (p : Program) (cfg : MonCfg) : Nat → State → State ⊕ RunResult
  | 0, s => .inl s
  | n + 1, s =>
    match step p cfg s with
    | .inl s' => stepN p cfg n s'
    | .inr r => .inr r

/-- THE RUN LOOP IS THE ITERATION OF `step` -/
theorem runLoop_succ (p : Program) (cfg : MonCfg) (fuel : Nat) (s : State) :
    runLoop p cfg (fuel + 1) s = match step p cfg s with
      | .inl s' => runLoop p cfg fuel s'
      | .inr r => r := by
  unfold step
  rw [runLoop]
  cases hit : p.items[s.pc]? with
  | none => rfl
  | some it =>
    simp only
    cases hc : it.code with
    | LAB l =>
      simp only [stepLab]
      by_cases hl : (l == "cleanup") = true
      · simp only [hl, if_true]
        cases s.readReg RETURN1 <;> rfl
      · simp only [hl]
        rfl
    | COMMENT m =>
      simp only [stepHook]
      cases it.roots with
      | none => rfl
      | some rs =>
        simp only
        cases cfg.heap with
        | false => rfl
        | true =>
          simp only [if_true]
          cases heapMonitor cfg s rs <;> rfl
    | _ =>
      simp only [stepInstr, hc]
      cases exec cfg p.labelAddr it.addr _ s with
      | error e => rfl
      | ok r =>
        obtain ⟨s1, next⟩ := r
        simp only
        cases next with
        | fall => rfl
        | label l => simp only; cases p.labelIdx[l]? <;> rfl
        | addr a => simp only; cases p.addrIdx[a.toNat]? <;> rfl

theorem step_none {p : Program} {cfg : MonCfg} {s : State} (hit : p.items[s.pc]? = none) :
    step p cfg s = .inr (s.result (.fault "fell-off-end" 0)) := by
  simp only [step, hit]

theorem step_lab {p : Program} {cfg : MonCfg} {s : State} {it : Item} {l : String}
    (hit : p.items[s.pc]? = some it) (hc : it.code = .LAB l) : step p cfg s = stepLab s it l := by
  simp only [step, hit, hc]

theorem step_hook {p : Program} {cfg : MonCfg} {s : State} {it : Item} {m : String}
    (hit : p.items[s.pc]? = some it) (hc : it.code = .COMMENT m) : step p cfg s = stepHook cfg s it := by
  simp only [step, hit, hc]

theorem step_instr {p : Program} {cfg : MonCfg} {s : State} {it : Item}
    (hit : p.items[s.pc]? = some it) (hi : it.code.isInstr = true) : step p cfg s = stepInstr p cfg s it := by
  simp only [step, hit]
  cases hc : it.code <;> first | rfl | (rw [hc] at hi; simp [Code.isInstr] at hi)

theorem code_kind (c : Code) : (∃ l, c = .LAB l) ∨ (∃ m, c = .COMMENT m) ∨ c.isInstr = true := by
  cases c <;> simp [Code.isInstr]

theorem stepN_zero (p : Program) (cfg : MonCfg) (s : State) : stepN p cfg 0 s = .inl s := rfl

theorem stepN_one (p : Program) (cfg : MonCfg) (s : State) : stepN p cfg 1 s = step p cfg s := by
  simp only [stepN]
  cases step p cfg s <;> rfl

theorem stepN_succ_of_step {p : Program} {cfg : MonCfg} {s s1 : State} (h : step p cfg s = .inl s1) (n : Nat) :
    stepN p cfg (n + 1) s = stepN p cfg n s1 := by
  simp only [stepN, h]

theorem stepN_trans (p : Program) (cfg : MonCfg) : ∀ {n m : Nat} {s s1 s2 : State},
    stepN p cfg n s = .inl s1 → stepN p cfg m s1 = .inl s2 → stepN p cfg (n + m) s = .inl s2
  | 0, m, s, s1, s2, h1, h2 => by
    simp only [stepN, Sum.inl.injEq] at h1
    subst h1
    rw [Nat.zero_add]; exact h2
  | n + 1, m, s, s1, s2, h1, h2 => by
    rw [show n + 1 + m = (n + m) + 1 by omega]
    simp only [stepN] at h1 ⊢
    cases hs : step p cfg s with
    | inr r => rw [hs] at h1; cases h1
    | inl s' =>
      rw [hs] at h1
      simp only
      exact stepN_trans p cfg h1 h2

theorem stepN_trans_inr (p : Program) (cfg : MonCfg) : ∀ {n m : Nat} {s s1 : State} {r : RunResult},
    stepN p cfg n s = .inl s1 → stepN p cfg m s1 = .inr r → stepN p cfg (n + m) s = .inr r
  | 0, m, s, s1, r, h1, h2 => by
    simp only [stepN, Sum.inl.injEq] at h1
    subst h1
    rw [Nat.zero_add]; exact h2
  | n + 1, m, s, s1, r, h1, h2 => by
    rw [show n + 1 + m = (n + m) + 1 by omega]
    simp only [stepN] at h1 ⊢
    cases hs : step p cfg s with
    | inr r => rw [hs] at h1; cases h1
    | inl s' =>
      rw [hs] at h1
      simp only
      exact stepN_trans_inr p cfg h1 h2

/-- a prefix of a run that has not ended has not ended -/
theorem stepN_split (p : Program) (cfg : MonCfg) : ∀ (n m : Nat) {s s2 : State},
    stepN p cfg (n + m) s = .inl s2 → ∃ s1, stepN p cfg n s = .inl s1 ∧ stepN p cfg m s1 = .inl s2
  | 0, m, s, s2, h => ⟨s, rfl, by rw [Nat.zero_add] at h; exact h⟩
  | n + 1, m, s, s2, h => by
    rw [show n + 1 + m = (n + m) + 1 by omega] at h
    simp only [stepN] at h ⊢
    cases hs : step p cfg s with
    | inr r => rw [hs] at h; cases h
    | inl s' =>
      rw [hs] at h
      simp only
      exact stepN_split p cfg n m h

/-- the run loop after `k` steps that do not end the run -/
theorem runLoop_stepN (p : Program) (cfg : MonCfg) : ∀ (k fuel : Nat) {s s' : State},
    stepN p cfg k s = .inl s' → runLoop p cfg (fuel + k) s = runLoop p cfg fuel s'
  | 0, fuel, s, s', h => by
    simp only [stepN, Sum.inl.injEq] at h
    subst h; rfl
  | k + 1, fuel, s, s', h => by
    simp only [stepN] at h
    rw [← Nat.add_assoc, runLoop_succ]
    cases hs : step p cfg s with
    | inr r => rw [hs] at h; cases h
    | inl s1 =>
      rw [hs] at h
      simp only
      exact runLoop_stepN p cfg k fuel h

theorem runLoop_stepN_inr (p : Program) (cfg : MonCfg) : ∀ (k fuel : Nat) {s : State} {r : RunResult},
    stepN p cfg k s = .inr r → runLoop p cfg (fuel + k) s = r
  | 0, fuel, s, r, h => by simp [stepN] at h
  | k + 1, fuel, s, r, h => by
    simp only [stepN] at h
    rw [← Nat.add_assoc, runLoop_succ]
    cases hs : step p cfg s with
    | inr r' =>
      rw [hs] at h
      simp only
      injection h
    | inl s1 =>
      rw [hs] at h
      simp only
      exact runLoop_stepN_inr p cfg k fuel h

theorem runLoop_zero (p : Program) (cfg : MonCfg) (s : State) : runLoop p cfg 0 s = s.result .outOfFuel := by
  rw [runLoop]

/-- the loop with `k` units of fuel, in terms of `stepN` -/
theorem runLoop_eq_stepN (p : Program) (cfg : MonCfg) (k : Nat) (s : State) :
    runLoop p cfg k s = match stepN p cfg k s with
      | .inl s' => s'.result .outOfFuel
      | .inr r => r := by
  cases h : stepN p cfg k s with
  | inl s' =>
    have := runLoop_stepN p cfg k 0 h
    rw [Nat.zero_add] at this
    rw [this, runLoop_zero]
  | inr r =>
    have := runLoop_stepN_inr p cfg k 0 h
    rw [Nat.zero_add] at this
    exact this

/-- a state from which every positive amount of fuel gives `done v` ends the run in one step -/
theorem step_done_of_runLoop {p : Program} {cfg : MonCfg} {s : State} {v : Word}
    (h : (runLoop p cfg 1 s).res = .done v) : ∃ r, step p cfg s = .inr r ∧ r.res = .done v := by
  have := runLoop_succ p cfg 0 s
  cases hs : step p cfg s with
  | inl s' =>
    rw [hs] at this
    simp only at this
    rw [this, runLoop_zero] at h
    cases h
  | inr r =>
    rw [hs] at this
    simp only at this
    rw [this] at h
    exact ⟨r, rfl, h⟩

section Items
variable (p : Program) (cfg : MonCfg)

theorem step_of_label (s : State) {it : Item} {l : String} (hit : p.items[s.pc]? = some it)
    (hc : it.code = .LAB l) (hl : l ≠ "cleanup") : step p cfg s = .inl { s with pc := s.pc + 1 } := by
  have : (l == "cleanup") = false := by simpa using hl
  rw [step_lab hit hc]
  simp only [stepLab, this, Bool.false_eq_true, if_false]

theorem step_of_fall (s s1 : State) {it : Item} (hit : p.items[s.pc]? = some it) (hi : it.code.isInstr = true)
    (hx : exec cfg p.labelAddr it.addr it.code s = .ok (s1, .fall)) :
    step p cfg s = .inl (setPS s1 (s.pc + 1) (s.steps + 1)) := by
  obtain ⟨_, hst⟩ := exec_pc_steps hx
  rw [step_instr hit hi]
  simp only [stepInstr, hx, setPS, hst]

theorem step_of_jump (s s1 : State) {it : Item} {l : String} {i : Nat} (hit : p.items[s.pc]? = some it)
    (hi : it.code.isInstr = true) (hx : exec cfg p.labelAddr it.addr it.code s = .ok (s1, .label l))
    (hl : p.labelIdx[l]? = some i) : step p cfg s = .inl (setPS s1 i (s.steps + 1)) := by
  obtain ⟨_, hst⟩ := exec_pc_steps hx
  rw [step_instr hit hi]
  simp only [stepInstr, hx, hl, setPS, hst]

theorem step_of_addr (s s1 : State) {it : Item} {a : Word} {i : Nat} (hit : p.items[s.pc]? = some it)
    (hi : it.code.isInstr = true) (hx : exec cfg p.labelAddr it.addr it.code s = .ok (s1, .addr a))
    (hl : p.addrIdx[a.toNat]? = some i) : step p cfg s = .inl (setPS s1 i (s.steps + 1)) := by
  obtain ⟨_, hst⟩ := exec_pc_steps hx
  rw [step_instr hit hi]
  simp only [stepInstr, hx, hl, setPS, hst]

/-- a kept comment (a hook) does nothing when the heap monitor is off -/
theorem step_of_comment (hheap : cfg.heap = false) (s : State) {it : Item} {m : String}
    (hit : p.items[s.pc]? = some it) (hc : it.code = .COMMENT m) :
    step p cfg s = .inl (setPS s (s.pc + 1) s.steps) := by
  rw [step_hook hit hc]
  simp only [stepHook, hheap]
  cases it.roots <;> simp [setPS]

end Items

/-! ## the heap monitor with the heap base as a parameter

`heapBase` is the LITERAL 0x10000000 on this machine; a proof whose kernel check has to reduce a `match` on
`invCheckFn … heapBase …` runs into "(kernel) deep recursion" (`x - 268435456` with symbolic `x` is unfolded 2^28
times).  Facts about `heapMonitor` are therefore proved for `heapMonitorG base` and transferred by
`heapMonitor_eqG` (`rfl`: syntactically equal bodies, nothing is reduced). -/

def heapMonitorG (base : Nat) (cfg : MonCfg) (s : State) (rootRegs : List Nat) : Except String State :=
  match rootRegs.mapM (fun r => s.readReg ⟨r⟩) with
  | .error e => .error s!"root {e}"
  | .ok roots =>
    match s.readReg HEAP, s.readReg FREE with
    | .ok h, .ok f =>
      let ext := (s.maxHeapWritten + 63) / 64 * 64 + 8 * 64
      let limit := base + min cfg.heapBytes ext
      match Scc.Heap.invCheckFn (fun a => (s.mem.getD a 0).toNat) base limit
          h.toNat f.toNat (roots.map (·.toNat)) [] with
      | .error e => .error e
      | .ok (_, _, _, frontier) =>
        .ok { s with blocksBelow := max s.blocksBelow ((frontier - base) / blockBytes) }
    | _, _ => .error "HEAP or FREE register undefined"

theorem heapMonitor_eqG (cfg : MonCfg) (s : State) (rs : List Nat) :
    heapMonitor cfg s rs = heapMonitorG heapBase cfg s rs := rfl

/-- a successful check changes nothing but the monitor's counter -/
theorem heapMonitorG_frame {base : Nat} {mc : MonCfg} {s s1 : State} {rs : List Nat}
    (h : heapMonitorG base mc s rs = .ok s1) : ∃ b, s1 = { s with blocksBelow := b } := by
  unfold heapMonitorG at h
  cases h1 : rs.mapM (fun r => s.readReg ⟨r⟩) with
  | error e => rw [h1] at h; cases h
  | ok roots =>
    rw [h1] at h; dsimp only at h
    cases h2 : s.readReg HEAP with
    | error e => rw [h2] at h; cases h
    | ok hh =>
      cases h3 : s.readReg FREE with
      | error e => rw [h2, h3] at h; cases h
      | ok ff =>
        rw [h2, h3] at h; dsimp only at h
        generalize Scc.Heap.invCheckFn _ _ _ _ _ _ _ = r at h
        cases r with
        | error e => cases h
        | ok q =>
          obtain ⟨a, b, c, d⟩ := q
          simp only [Except.ok.injEq] at h
          exact ⟨_, h.symm⟩

theorem heapMonitor_frame {mc : MonCfg} {s s1 : State} {rs : List Nat}
    (h : heapMonitor mc s rs = .ok s1) : ∃ b, s1 = { s with blocksBelow := b } := by
  rw [heapMonitor_eqG] at h
  exact heapMonitorG_frame h

end Scc.RV
