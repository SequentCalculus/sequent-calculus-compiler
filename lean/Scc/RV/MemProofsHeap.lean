/-
  Scc.RV.MemProofsHeap — the view (MemProofsView.lean) against the heap model Scc/Heap/Model.lean: when a
  machine state / view state represents an abstract heap (`HeapRel` / `HRelM`), the model's `rd`/`wr` are
  heap loads / stores of the view, and `erase_block` and `acquire_block` (memory.rs) do on the view, then on
  the machine, what `Scc.Heap.eraseBlock` and `Scc.Heap.acquire` do on the model.  The three cases of
  `acquire` are proved once for all backends (`Scc.Mem.AcqSpec.acquire_does`); this file supplies the view
  machine as a `Scc.Mem.View` and the code and the contracts of the leaves.  The labels a piece of code
  defines (`LabsIn`, `NoLab`) are the notions of `Scc.Mem` at `Code.LAB`.
-/
import Scc.RV.MemProofsView
import Scc.Heap.Access
import Scc.Backend.ProofsGen
import Scc.RV.MemCode
import Scc.Mem.Acquire

set_option linter.unusedSimpArgs false

namespace Scc.RV

export Scc.Heap (rd_eq_ok wr_eq_ok heap_storeFields_nil heap_storeFields_cons heap_loadFields_nil heap_loadFields_cons)

open Scc.Backend (GenM TempNum freshLabel)
open Scc.Heap (HOk)

/-- the heap region lies below 2^63 (so heap addresses never wrap) -/
def CfgOK (cfg : MonCfg) : Prop := heapBase + cfg.heapBytes ≤ 2 ^ 63

theorem heapBase_mod8 : heapBase % 8 = 0 := by decide

/-- machine state `st` represents the abstract heap `h` -/
structure HeapRel (cfg : MonCfg) (st : State) (h : Scc.Heap.HState) : Prop where
  base : h.base = heapBase
  limit : h.limit = heapBase + cfg.heapBytes
  mem : ∀ a, h.mem.get a = (st.mem.getD a 0).toNat
  heap : ∃ w, st.readReg HEAP = .ok w ∧ w.toNat = h.heap
  free : ∃ w, st.readReg FREE = .ok w ∧ w.toNat = h.free

/-- view state `μ` represents the abstract heap `h` -/
structure HRelM (cfg : MonCfg) (μ : MState) (h : Scc.Heap.HState) : Prop where
  base : h.base = heapBase
  limit : h.limit = heapBase + cfg.heapBytes
  mem : ∀ a, h.mem.get a = (μ.heap a).toNat
  heap : ∃ w, μ.val 2 = some w ∧ w.toNat = h.heap
  free : ∃ w, μ.val 3 = some w ∧ w.toNat = h.free

theorem heapRel_mview {cfg : MonCfg} {st : State} {h : Scc.Heap.HState} (R : HeapRel cfg st h) :
    HRelM cfg (mview st) h := by
  obtain ⟨wh, hwh, ewh⟩ := R.heap
  obtain ⟨wf, hwf, ewf⟩ := R.free
  exact ⟨R.base, R.limit, R.mem, ⟨wh, mview_val_of_readReg (r := HEAP) (by decide) hwh, ewh⟩,
    ⟨wf, mview_val_of_readReg (r := FREE) (by decide) hwf, ewf⟩⟩

theorem heapRel_of_mrep {cfg : MonCfg} {st : State} {μ : MState} {h : Scc.Heap.HState}
    (M : MRep st μ) (H : HRelM cfg μ h) : HeapRel cfg st h := by
  obtain ⟨wh, hwh, ewh⟩ := H.heap
  obtain ⟨wf, hwf, ewf⟩ := H.free
  refine ⟨H.base, H.limit, fun a => by rw [M.heap]; exact H.mem a,
    ⟨wh, M.readReg (r := HEAP) (by simpa [MState.rd] using hwh), ewh⟩,
    ⟨wf, M.readReg (r := FREE) (by simpa [MState.rd] using hwf), ewf⟩⟩

theorem toNat_add_imm_nat (w : Word) (n : Nat) (h : w.toNat + n < 2 ^ 64) :
    (w + imm (n : Int)).toNat = w.toNat + n := by
  rw [imm_natCast, BitVec.toNat_add, BitVec.toNat_ofNat]
  omega

theorem toNat_add_neg_one (w : Word) (h : w ≠ 0) : (w + imm (-1)).toNat = w.toNat - 1 := by
  have h0 : w.toNat ≠ 0 := fun e => h (BitVec.eq_of_toNat_eq (by simpa using e))
  have hlt : w.toNat < 2 ^ 64 := w.isLt
  have : (imm (-1)).toNat = 2 ^ 64 - 1 := by decide
  rw [BitVec.toNat_add, this]
  omega

@[simp] theorem refcount_zero : referenceCountOffset = 0 := by decide
@[simp] theorem next_zero : nextElementOffset = 0 := by decide

section Prim
variable {cfg : MonCfg} {μ : MState} {h : Scc.Heap.HState}

theorem haddr_ok (C : CfgOK cfg) (H : HRelM cfg μ h) {x : Word} {off : Nat}
    (hok : HOk h (x.toNat + off)) : haddr cfg x (off : Int) = some (x.toNat + off) := by
  obtain ⟨h1, h2, h3⟩ := hok
  rw [H.base] at h1 h3
  rw [H.limit] at h2
  have hb := heapBase_mod8
  unfold CfgOK at C
  have hsum : (x + imm (off : Int)).toNat = x.toNat + off := toNat_add_imm_nat x off (by omega)
  unfold haddr
  rw [hsum, if_pos]
  exact ⟨by omega, h1, h2⟩

theorem haddr_ok0 (C : CfgOK cfg) (H : HRelM cfg μ h) {x : Word} (hok : HOk h x.toNat) :
    haddr cfg x 0 = some x.toNat := by
  have := haddr_ok C H (x := x) (off := 0) (by simpa using hok)
  simpa using this

theorem HRelM.setH (H : HRelM cfg μ h) (a : Nat) (w : Word) :
    HRelM cfg (μ.setH a w) { h with mem := h.mem.set a w.toNat } := by
  refine ⟨H.base, H.limit, fun b => ?_, H.heap, H.free⟩
  simp only [Scc.Heap.Mem.get_set, MState.setH_heap]
  by_cases e : a = b
  · subst e; simp
  · have : ¬ b = a := fun h => e h.symm
    simp [e, this, H.mem b]

theorem HRelM.setT (H : HRelM cfg μ h) {t : Nat} (h1 : t ≠ 2) (h2 : t ≠ 3) (v : Option Word) :
    HRelM cfg (μ.setT t v) h := by
  obtain ⟨wh, hwh, ewh⟩ := H.heap
  obtain ⟨wf, hwf, ewf⟩ := H.free
  exact ⟨H.base, H.limit, H.mem, ⟨wh, by simp [Ne.symm h1, hwh], ewh⟩, ⟨wf, by simp [Ne.symm h2, hwf], ewf⟩⟩

theorem HRelM.of_frame {μ' : MState} (H : HRelM cfg μ h) (hh : μ'.heap = μ.heap)
    (h1 : μ'.val 2 = μ.val 2) (h2 : μ'.val 3 = μ.val 3) : HRelM cfg μ' h := by
  obtain ⟨wh, hwh, ewh⟩ := H.heap
  obtain ⟨wf, hwf, ewf⟩ := H.free
  exact ⟨H.base, H.limit, fun a => by rw [hh]; exact H.mem a, ⟨wh, by rw [h1]; exact hwh, ewh⟩,
    ⟨wf, by rw [h2]; exact hwf, ewf⟩⟩

end Prim

section Erase
variable {cfg : MonCfg} {μ : MState} {h h' : Scc.Heap.HState}

/-- CONTRACT of `erase_block` on the view, pointer in any register `r` other than TEMP: the code runs
to its end, the result represents `Scc.Heap.eraseBlock`; only TEMP, FREE and the header word change -/
theorem m_erase (C : CfgOK cfg) (H : HRelM cfg μ h) {r : Register} (h1 : 1 ≤ r.n) (h2 : r.n < 32)
    (hT : r.n ≠ 1) {p : Word} (hv : μ.val r.n = some p)
    (hop : Scc.Heap.eraseBlock h p.toNat = .ok h')
    (l1 l2 l3 : String) (h12 : l1 ≠ l2) (h13 : l1 ≠ l3) (h23 : l2 ≠ l3) :
    ∃ μ', mFwd cfg (eraseBlockCode r l1 l2 l3) μ = some (μ', .fall) ∧ HRelM cfg μ' h' ∧
      (∀ u, u ≠ 3 → u ≠ 1 → μ'.val u = μ.val u) := by
  have h0 : ¬ r.n = 0 := by omega
  have hrd : ∀ ν : MState, ν.rd r = ν.val r.n := fun ν => MState.rd_of h1 h2
  by_cases hp : p = 0
  · subst hp
    have : h' = h := by
      simp [Scc.Heap.eraseBlock] at hop
      exact hop.symm
    subst this
    refine ⟨μ, ?_, H, fun _ _ _ => rfl⟩
    unfold eraseBlockCode
    refine mFwd_skip_taken cfg r _ _ μ (by rw [hrd, hv]) ?_
    simp [skipTo, h13, h23]
  · have hp' : p.toNat ≠ 0 := fun e => hp (BitVec.eq_of_toNat_eq (by simpa using e))
    unfold Scc.Heap.eraseBlock at hop
    rw [if_neg hp'] at hop
    cases hrdc : Scc.Heap.rd h p.toNat with
    | error f => simp [hrdc] at hop
    | ok cnt =>
      simp only [hrdc] at hop
      obtain ⟨hok, hcnt⟩ := rd_eq_ok.1 hrdc
      have ha : haddr cfg p 0 = some p.toNat := haddr_ok0 C H hok
      obtain ⟨wf, hwf, ewf⟩ := H.free
      obtain ⟨wh, hwh, ewh⟩ := H.heap
      have hr1 : ¬ r.n = 1 := hT
      by_cases hc0 : cnt = 0
      · subst hc0
        have hw0 : μ.heap p.toNat = 0#64 := BitVec.eq_of_toNat_eq (by rw [← H.mem, ← hcnt]; rfl)
        simp only [if_true] at hop
        cases hwr : Scc.Heap.wr h p.toNat h.free with
        | error e => simp [hwr] at hop
        | ok hh =>
          simp only [hwr, Except.ok.injEq] at hop
          obtain ⟨_, rfl⟩ := wr_eq_ok.1 hwr
          subst hop
          refine ⟨((μ.setT 1 (some 0#64)).setH p.toNat wf).setT 3 (some p), ?_, ?_, ?_⟩
          · unfold eraseBlockCode
            refine mFwd_skip_not_taken cfg r _ _ μ _ (by rw [hrd, hv]) hp ?_
            have x1 : mFwd cfg [.COMMENT "######check refcount", .LW TEMP r referenceCountOffset] μ =
                some (μ.setT 1 (some 0#64), .fall) := by
              simp [mFwd_cons, mFwd_nil, mcont, mexecC, mexec, hrd, hv, ha, hw0]
            refine mFwd_seq cfg x1 ?_
            refine mFwd_ite_then cfg TEMP _ _ _ _ _ _ (by simp [MState.rd]) (by simp [skipTo]) ?_
            simp [mFwd_cons, mFwd_nil, mcont, mexecC, mexec, MState.rd, h0, h2, hr1, hv, ha, hwf]
          · have := (H.setT (t := 1) (by decide) (by decide) (some 0#64)).setH p.toNat wf
            rw [ewf] at this
            exact ⟨this.base, this.limit, this.mem, ⟨wh, by simp [hwh], ewh⟩, ⟨p, by simp, rfl⟩⟩
          · intro u hu3 hu1
            simp [hu3, hu1]
      · have hw0 : ¬ μ.heap p.toNat = 0#64 := fun e => hc0 (by rw [hcnt, H.mem, e]; rfl)
        rw [if_neg hc0] at hop
        obtain ⟨_, rfl⟩ := wr_eq_ok.1 hop
        have hw : (μ.heap p.toNat + imm (-1)).toNat = cnt - 1 := by
          rw [toNat_add_neg_one _ hw0, hcnt, H.mem]
        refine ⟨((μ.setT 1 (some (μ.heap p.toNat))).setT 1 (some (μ.heap p.toNat + imm (-1)))).setH p.toNat
          (μ.heap p.toNat + imm (-1)), ?_, ?_, ?_⟩
        · unfold eraseBlockCode
          refine mFwd_skip_not_taken cfg r _ _ μ _ (by rw [hrd, hv]) hp ?_
          have x1 : mFwd cfg [.COMMENT "######check refcount", .LW TEMP r referenceCountOffset] μ =
              some (μ.setT 1 (some (μ.heap p.toNat)), .fall) := by
            simp [mFwd_cons, mFwd_nil, mcont, mexecC, mexec, hrd, hv, ha]
          refine mFwd_seq cfg x1 ?_
          refine mFwd_ite_else cfg TEMP _ _ _ _ _ _ (a := μ.heap p.toNat) (by simp [MState.rd]) hw0 h12
            (by simp [skipTo]) ?_
          simp [mFwd_cons, mFwd_nil, mcont, mexecC, mexec, MState.rd, h0, h2, hr1, hv, ha]
        · have := ((H.setT (t := 1) (by decide) (by decide) (some (μ.heap p.toNat))).setT (t := 1) (by decide)
            (by decide) (some (μ.heap p.toNat + imm (-1)))).setH p.toNat (μ.heap p.toNat + imm (-1))
          rw [hw] at this
          exact this
        · intro u hu3 hu1
          simp [hu1]

end Erase

def LabsIn (code : List Code) (lo hi : Nat) : Prop :=
  ∀ l, Code.LAB l ∈ code → ∃ n, l = labName n ∧ lo < n ∧ n ≤ hi

/-- no label is defined in the code (`Scc.Mem.NoLab` at `Code.LAB`: `noLab_iff`) -/
def NoLab (code : List Code) : Prop := ∀ l, Code.LAB l ∉ code

theorem labsIn_iff {code : List Code} {lo hi : Nat} : LabsIn code lo hi ↔ Scc.Mem.LabsIn Code.LAB code lo hi :=
  Iff.rfl

theorem noLab_iff {code : List Code} : NoLab code ↔ Scc.Mem.NoLab Code.LAB code := Iff.rfl

theorem skipTo_none_of_not_mem {l : String} : ∀ {code : List Code}, Code.LAB l ∉ code → skipTo l code = none
  | [], _ => rfl
  | cd :: cs, h => by
    have h1 : cd ≠ Code.LAB l := fun e => h (by simp [e])
    have h2 : Code.LAB l ∉ cs := fun e => h (by simp [e])
    cases cd <;> simp only [skipTo] <;> try exact skipTo_none_of_not_mem h2
    case LAB l' =>
      have : l' ≠ l := fun e => h1 (by rw [e])
      rw [if_neg this]
      exact skipTo_none_of_not_mem h2

theorem LabsIn.skipTo_none {code : List Code} {lo hi n : Nat} (L : LabsIn code lo hi)
    (hn : n ≤ lo ∨ hi < n) : skipTo (labName n) code = none := by
  apply skipTo_none_of_not_mem
  intro hm
  obtain ⟨m, e, h1, h2⟩ := L _ hm
  have := labName_inj.1 e
  omega

theorem LabsIn.nil (lo hi : Nat) : LabsIn [] lo hi := labsIn_iff.2 (Scc.Mem.NoLab.nil.labsIn lo hi)

theorem LabsIn.append {a b : List Code} {lo hi : Nat} (ha : LabsIn a lo hi) (hb : LabsIn b lo hi) :
    LabsIn (a ++ b) lo hi := labsIn_iff.2 ((labsIn_iff.1 ha).append (labsIn_iff.1 hb))

theorem LabsIn.mono {a : List Code} {lo hi lo' hi' : Nat} (ha : LabsIn a lo hi) (h1 : lo' ≤ lo)
    (h2 : hi ≤ hi') : LabsIn a lo' hi' := labsIn_iff.2 ((labsIn_iff.1 ha).mono h1 h2)

theorem NoLab.append {a b : List Code} (ha : NoLab a) (hb : NoLab b) : NoLab (a ++ b) :=
  noLab_iff.2 ((noLab_iff.1 ha).append (noLab_iff.1 hb))

theorem NoLab.labsIn {a : List Code} (h : NoLab a) (lo hi : Nat) : LabsIn a lo hi :=
  labsIn_iff.2 ((noLab_iff.1 h).labsIn lo hi)

theorem LabsIn.of_noLab {a : List Code} (lo hi : Nat) (h : ∀ l, Code.LAB l ∉ a) : LabsIn a lo hi :=
  NoLab.labsIn h lo hi

theorem LabsIn.cons_lab {a : List Code} {lo hi n : Nat} (ha : LabsIn a lo hi) (h1 : lo < n) (h2 : n ≤ hi) :
    LabsIn (.LAB (labName n) :: a) lo hi := labsIn_iff.2 ((labsIn_iff.1 ha).cons_lab Code.LAB.inj h1 h2)

theorem LabsIn.cons_other {a : List Code} {lo hi : Nat} {cd : Code} (ha : LabsIn a lo hi)
    (h : ∀ l, cd ≠ .LAB l) : LabsIn (cd :: a) lo hi := labsIn_iff.2 ((labsIn_iff.1 ha).cons_other h)

theorem noLab_comment (m : String) : NoLab [.COMMENT m] := fun l => by simp

theorem labsIn_eraseBlockCode (r : Register) (k : Nat) :
    LabsIn (eraseBlockCode r (labName (k + 1)) (labName (k + 2)) (labName (k + 3))) k (k + 3) := by
  intro l h
  simp only [eraseBlockCode, List.mem_cons, List.mem_append, reduceCtorEq, false_or, or_false,
    Code.LAB.injEq, List.not_mem_nil] at h
  rcases h with (h | h) | h
  · exact ⟨k + 1, h, by omega, by omega⟩
  · exact ⟨k + 2, h, by omega, by omega⟩
  · exact ⟨k + 3, h, by omega, by omega⟩

theorem fieldOffset_nat (n i : Nat) : fieldOffset n i = ((Scc.Heap.fieldOffset n i : Nat) : Int) := by
  simp [fieldOffset, address, fieldSlotSize, Scc.Heap.fieldOffset]

theorem fieldOffset_fst (i : Nat) : fieldOffset 0 i = ((Scc.Heap.fstOff i : Nat) : Int) :=
  fieldOffset_nat 0 i

/-- the code that erases child `i` of the block in register `blk` through the register `at'`
(labels `k+1 … k+3`) -/
def eraseFieldCode (blk at' : Register) (i k : Nat) : List Code :=
  [.COMMENT ("#####check child " ++ toString (i + 1) ++ " for erasure"),
   .LW at' blk (fieldOffset 0 i)] ++
    eraseBlockCode at' (labName (k + 1)) (labName (k + 2)) (labName (k + 3))

theorem labsIn_eraseFieldCode (blk at' : Register) (i k : Nat) :
    LabsIn (eraseFieldCode blk at' i k) k (k + 3) :=
  (labsIn_eraseBlockCode at' k).cons_other (by simp) |>.cons_other (by simp)

section EraseFields
variable {cfg : MonCfg} {μ : MState} {h h' : Scc.Heap.HState}

/-- one child: `at := [blk + fst i]; erase at` -/
theorem m_eraseField (C : CfgOK cfg) (H : HRelM cfg μ h) {blk at' : Register} (hb1 : 1 ≤ blk.n)
    (hb2 : blk.n < 32) (ha1 : 4 ≤ at'.n) (ha2 : at'.n < 32)
    {b : Word} (hv : μ.val blk.n = some b) {i : Nat} {c0 : Nat}
    (hrd : Scc.Heap.rd h (b.toNat + Scc.Heap.fstOff i) = .ok c0)
    (hop : Scc.Heap.eraseBlock h c0 = .ok h') (k : Nat) :
    ∃ μ', mFwd cfg (eraseFieldCode blk at' i k) μ = some (μ', .fall) ∧ HRelM cfg μ' h' ∧
      (∀ u, u ≠ 3 → u ≠ 1 → u ≠ at'.n → μ'.val u = μ.val u) := by
  obtain ⟨hok, hc0⟩ := rd_eq_ok.1 hrd
  have ha := haddr_ok C H hok
  let μ1 := μ.setT at'.n (some (μ.heap (b.toNat + Scc.Heap.fstOff i)))
  have e1 : mFwd cfg [.COMMENT ("#####check child " ++ toString (i + 1) ++ " for erasure"),
      .LW at' blk (fieldOffset 0 i)] μ = some (μ1, .fall) := by
    have ha1' : 1 ≤ at'.n := by omega
    simp [mFwd_cons, mFwd_nil, mcont, mexecC, mexec, MState.rd_of hb1 hb2, hv, fieldOffset_fst, ha, ha1', ha2, μ1]
  have H1 : HRelM cfg μ1 h := H.setT (by omega) (by omega) _
  have hv1 : μ1.val at'.n = some (μ.heap (b.toNat + Scc.Heap.fstOff i)) := by simp [μ1]
  have hop1 : Scc.Heap.eraseBlock h (μ.heap (b.toNat + Scc.Heap.fstOff i)).toNat = .ok h' := by
    rw [← H.mem, ← hc0]; exact hop
  have l12 : labName (k + 1) ≠ labName (k + 2) := fun e => by have := labName_inj.mp e; omega
  have l13 : labName (k + 1) ≠ labName (k + 3) := fun e => by have := labName_inj.mp e; omega
  have l23 : labName (k + 2) ≠ labName (k + 3) := fun e => by have := labName_inj.mp e; omega
  obtain ⟨μ', e2, H2, F2⟩ := m_erase C H1 (r := at') (by omega) ha2 (by omega) hv1 hop1 _ _ _ l12 l13 l23
  refine ⟨μ', mFwd_seq cfg e1 e2, H2, fun u hF hT hA => ?_⟩
  rw [F2 u hF hT]
  simp [μ1, hA]

end EraseFields

/-- the view machine of MemProofsView as a `Mem.View`; the temporaries are the register numbers -/
@[reducible] def memView (cfg : MonCfg) : Scc.Mem.View where
  κ := Code
  σ := MState
  τ := Nat
  val := fun μ n => μ.val n
  Runs := fun code μ μ' => mFwd cfg code μ = some (μ', .fall)
  Rel := HRelM cfg
  runs_nil := mFwd_nil cfg
  runs_seq := mFwd_seq cfg

/-- the leaves of `acquire_block`: the target and the additional temporary -/
@[reducible] def acqCode : Scc.Mem.AcqCode Code (Register × Register) where
  lab := .LAB
  comment := .COMMENT
  head := fun t => [.MV t.1 HEAP]
  ldNextH := [.LW HEAP HEAP nextElementOffset]
  ite := fun b tb eb k => Mem.ifZeroThenElseC (if b then FREE else HEAP) tb eb k
  initRc := fun t => [.SW ZERO t.1 referenceCountOffset]
  takeLazy := [.MV HEAP FREE, .LW FREE FREE nextElementOffset]
  bump := [.ADDI FREE HEAP (fieldOffset 0 fieldsPerBlock)]
  markEmpty := [.SW ZERO HEAP nextElementOffset]
  eraseField := fun t i k => eraseFieldCode HEAP t.2 i k

theorem acqC_eq (nb at' : Register) (k : Nat) : Mem.acquireBlockC nb at' k = acqCode.acqC (nb, at') k := rfl

theorem labsIn_ifZeroThenElseC (r : Register) {tb eb : List Code} {lo hi k : Nat} (ht : LabsIn tb lo hi)
    (he : LabsIn eb lo hi) (h1 : lo ≤ k) (h2 : k + 2 ≤ hi) : LabsIn (Mem.ifZeroThenElseC r tb eb k) lo hi := by
  refine LabsIn.append (LabsIn.append (LabsIn.append (LabsIn.append (LabsIn.of_noLab _ _ (by simp)) he) ?_) ht) ?_
  · exact ((LabsIn.nil _ _).cons_lab (n := k + 1) (by omega) (by omega)).cons_other (by simp)
  · exact (LabsIn.nil _ _).cons_lab (by omega) (by omega)

theorem acqLabs : Scc.Mem.AcqLabs acqCode where
  comment_ne_lab := fun _ _ h => by cases h
  noLab_head := fun t l => by simp
  noLab_ldNextH := fun l => by simp
  noLab_initRc := fun t l => by simp
  noLab_takeLazy := fun l => by simp
  noLab_bump := fun l => by simp
  noLab_markEmpty := fun l => by simp
  labs_eraseField := fun t i k => labsIn_iff.1 (labsIn_eraseFieldCode HEAP t.2 i k)
  labs_ite := fun b _ _ _ _ _ ht he h1 h2 =>
    labsIn_iff.1 (labsIn_ifZeroThenElseC (if b then FREE else HEAP) (labsIn_iff.2 ht) (labsIn_iff.2 he) h1 h2)

theorem labsIn_acquireBlockC (nb at' : Register) (k : Nat) : LabsIn (Mem.acquireBlockC nb at' k) k (k + 13) := by
  rw [acqC_eq]; exact labsIn_iff.2 (acqLabs.labs_acqC (nb, at') k)

section Acquire
variable {cfg : MonCfg} {μ : MState} {h h' : Scc.Heap.HState}

theorem fieldOffset_block : fieldOffset 0 fieldsPerBlock = ((64 : Nat) : Int) := by decide

/-- HEAP (`false`) or FREE (`true`) holds the model's register -/
theorem HRelM.sel (H : HRelM cfg μ h) (b : Bool) :
    ∃ w, μ.rd (if b then FREE else HEAP) = some w ∧ w.toNat = (if b then h.free else h.heap) := by
  cases b with
  | false => exact H.heap
  | true => exact H.free

/-- the contracts of the leaves of `acquire_block`; the children are erased through the additional temporary -/
def acqSpec (C : CfgOK cfg) : Scc.Mem.AcqSpec (memView cfg) acqCode where
  toAcqLabs := acqLabs
  heapT := 2
  freeT := 3
  tgt := fun t => t.1.n
  ptr := fun t => t.1.n
  okT := fun t => 4 ≤ t.1.n ∧ t.1.n < 32 ∧ 4 ≤ t.2.n ∧ t.2.n < 32 ∧ t.1.n ≠ t.2.n
  scratch := fun u => u = 1
  clobE := fun t u => u = t.2.n
  tgt_keep := fun {t} ht => ⟨fun e => by have : t.1.n = 1 := e; omega, ht.2.2.2.2⟩
  tgt_ne_heap := fun {t} ht e => by have : t.1.n = 2 := e; omega
  tgt_ne_free := fun {t} ht e => by have : t.1.n = 3 := e; omega
  ptr_ne_heap := fun {t} ht e => by have : t.1.n = 2 := e; omega
  runs_comment := mFwd_comment cfg
  rel_heap := fun H => H.heap
  head_does := fun {μ s t} H ht => by
    obtain ⟨wH, hH, eH⟩ := H.heap
    have hH' : μ.val 2 = some wH := hH
    refine ⟨μ.setT t.1.n (some wH), ?_, H.setT (by omega) (by omega) _, fun u hu => if_neg hu.2,
      (if_pos rfl).trans hH'.symm, (if_pos rfl).trans hH'.symm⟩
    show mFwd cfg [.MV t.1 HEAP] μ = _
    simp [mFwd_cons, mFwd_nil, mcont, mexecC, mexec, MState.rd, show 1 ≤ t.1.n by omega, ht.2.1, hH']
  ldNextH_does := fun {μ s h0} H hrd => by
    obtain ⟨wH, hH, eH⟩ := H.heap
    obtain ⟨wF, hF, eF⟩ := H.free
    have hH' : μ.val 2 = some wH := hH
    have hF' : μ.val 3 = some wF := hF
    obtain ⟨hok, hh0⟩ := rd_eq_ok.1 hrd
    rw [← eH] at hok hh0
    have aH : haddr cfg wH 0 = some wH.toNat := haddr_ok0 C H hok
    refine ⟨μ.setT 2 (some (μ.heap wH.toNat)), ?_, ⟨H.base, H.limit, H.mem,
      ⟨μ.heap wH.toNat, by simp [MState.rd], by rw [hh0, H.mem]⟩, ⟨wF, by simp [MState.rd, hF'], eF⟩⟩,
      fun u hu => if_neg hu, trivial⟩
    show mFwd cfg [.LW HEAP HEAP nextElementOffset] μ = _
    simp [mFwd_cons, mFwd_nil, mcont, mexecC, mexec, MState.rd, hH', aH]
  ite_then := fun {μ s b tb eb k0 k P} H hz hl hT => by
    have hl : LabsIn eb k0 k := labsIn_iff.2 hl
    obtain ⟨w, hw, ew⟩ := H.sel b
    have hw0 : w = 0#64 := BitVec.eq_of_toNat_eq (by rw [ew, hz]; rfl)
    subst hw0
    obtain ⟨μ', x, p⟩ := hT μ H (fun u => rfl)
    exact ⟨μ', mFwd_ite_then cfg _ _ _ _ _ _ _ hw (hl.skipTo_none (Or.inr (by omega))) x, p⟩
  ite_else := fun {μ s b tb eb k0 k P} H hz hl hE => by
    have hl : LabsIn tb k0 k := labsIn_iff.2 hl
    obtain ⟨w, hw, ew⟩ := H.sel b
    have hw0 : w ≠ 0#64 := fun e => hz (by rw [← ew, e]; rfl)
    obtain ⟨μ', x, p⟩ := hE μ H (fun u => rfl)
    exact ⟨μ', mFwd_ite_else cfg _ _ _ _ _ _ _ hw hw0 (fun e => by have := labName_inj.mp e; omega)
      (hl.skipTo_none (Or.inr (by omega))) x, p⟩
  initRc_does := fun {μ s s' t w} H ht hv hwr => by
    obtain ⟨hok, rfl⟩ := wr_eq_ok.1 hwr
    have ha : haddr cfg w 0 = some w.toNat := haddr_ok0 C H hok
    have hv : μ.val t.1.n = some w := hv
    refine ⟨μ.setH w.toNat 0#64, ?_, by simpa using H.setH w.toNat 0#64, fun u _ => rfl, trivial⟩
    show mFwd cfg [.SW ZERO t.1 referenceCountOffset] μ = _
    simp [mFwd_cons, mFwd_nil, mcont, mexecC, mexec, MState.rd, show ¬ t.1.n = 0 by omega, ht.2.1, hv, ha]
  takeLazy_does := fun {μ s f'} H hrf => by
    obtain ⟨wF, hF, eF⟩ := H.free
    have hF' : μ.val 3 = some wF := hF
    obtain ⟨hokF, hf'⟩ := rd_eq_ok.1 hrf
    rw [← eF] at hokF hf'
    have aF : haddr cfg wF 0 = some wF.toNat := haddr_ok0 C H hokF
    refine ⟨(μ.setT 2 (some wF)).setT 3 (some (μ.heap wF.toNat)), ?_, ⟨H.base, H.limit, H.mem,
      ⟨wF, by simp [MState.rd], eF⟩, ⟨μ.heap wF.toNat, by simp [MState.rd], by rw [hf', H.mem]⟩⟩,
      fun u hu => by
        show ((μ.setT 2 (some wF)).setT 3 (some (μ.heap wF.toNat))).val u = μ.val u
        simp [show u ≠ 2 from hu.1, show u ≠ 3 from hu.2], trivial⟩
    show mFwd cfg [.MV HEAP FREE, .LW FREE FREE nextElementOffset] μ = _
    simp [mFwd_cons, mFwd_nil, mcont, mexecC, mexec, MState.rd, hF', aF]
  bump_does := fun {μ s} H hok => by
    obtain ⟨wH, hH, eH⟩ := H.heap
    have hH' : μ.val 2 = some wH := hH
    rw [← eH] at hok
    have hno : wH.toNat + 64 < 2 ^ 64 := by
      have h2 := hok.2.1
      unfold CfgOK at C
      rw [H.limit] at h2
      omega
    refine ⟨μ.setT 3 (some (wH + imm ((64 : Nat) : Int))), ?_, ⟨H.base, H.limit, H.mem,
      ⟨wH, by simp [MState.rd, hH'], eH⟩,
      ⟨wH + imm ((64 : Nat) : Int), by simp [MState.rd], by rw [toNat_add_imm_nat _ _ hno, eH]; rfl⟩⟩,
      fun u hu => if_neg hu, trivial⟩
    show mFwd cfg [.ADDI FREE HEAP (fieldOffset 0 fieldsPerBlock)] μ = _
    simp [mFwd_cons, mFwd_nil, mcont, mexecC, mexec, MState.rd, fieldOffset_block, hH']
  markEmpty_does := fun {μ s s'} H hwr => by
    obtain ⟨wH, hH, eH⟩ := H.heap
    have hH' : μ.val 2 = some wH := hH
    rw [← eH] at hwr
    obtain ⟨hok, rfl⟩ := wr_eq_ok.1 hwr
    have aH : haddr cfg wH 0 = some wH.toNat := haddr_ok0 C H hok
    refine ⟨μ.setH wH.toNat 0#64, ?_, by simpa using H.setH wH.toNat 0#64, fun u _ => rfl, trivial⟩
    show mFwd cfg [.SW ZERO HEAP nextElementOffset] μ = _
    simp [mFwd_cons, mFwd_nil, mcont, mexecC, mexec, MState.rd, hH', aH]
  eraseField_does := fun {μ s s' t i c0} k H ht _ hrd hop => by
    obtain ⟨wH, hH, eH⟩ := H.heap
    have hH' : μ.val HEAP.n = some wH := hH
    rw [← eH] at hrd
    obtain ⟨μ', x, H', F⟩ := m_eraseField C H (blk := HEAP) (at' := t.2) (by decide) (by decide) ht.2.2.1
      ht.2.2.2.1 hH' hrd hop k
    exact ⟨μ', x, H', fun u hu => F u hu.2.1 hu.1 hu.2.2, trivial⟩

/-- CONTRACT of `acquire_block` on the view: whenever the heap model acquires a block, the emitted
code runs to its end, the result represents the model's result, the target `nb` holds the acquired
block; only `nb`, the additional temporary `at'`, TEMP, HEAP, FREE and the heap change.  The three cases of
the model are the backend-independent `Scc.Mem.AcqSpec.acquire_does` at the leaves `acqSpec`. -/
theorem m_acquire (C : CfgOK cfg) (H : HRelM cfg μ h) {nb at' : Register} (hn1 : 4 ≤ nb.n) (hn2 : nb.n < 32)
    (ha1 : 4 ≤ at'.n) (ha2 : at'.n < 32) (hna : nb.n ≠ at'.n) {new : Nat}
    (hop : Scc.Heap.acquire h = .ok (h', new)) (k : Nat) :
    ∃ code, (acquireBlock nb at').run k = .ok (code, k + 13) ∧ LabsIn code k (k + 13) ∧
      ∃ μ', mFwd cfg code μ = some (μ', .fall) ∧ HRelM cfg μ' h' ∧
        (∃ w, μ'.val nb.n = some w ∧ w.toNat = new) ∧
        (∀ u, u ≠ nb.n → u ≠ at'.n → u ≠ 1 → u ≠ 2 → u ≠ 3 → μ'.val u = μ.val u) := by
  obtain ⟨μ', x, H', F', w, hw, ew⟩ := (acqSpec C).acquire_does (t := (nb, at')) H ⟨hn1, hn2, ha1, ha2, hna⟩ hop k
  exact ⟨_, Mem.acquireBlock_run nb at' k, labsIn_acquireBlockC nb at' k, μ', by rw [acqC_eq]; exact x, H', ⟨w, hw, ew⟩,
    fun u hu hA h1 h2 h3 => F' u ⟨h1, h2, h3, hu, hA⟩⟩

end Acquire

/-- CONTRACT of `acquire_block` (memory.rs) on the RV64 machine: from every boundary state that
represents an abstract heap on which `Scc.Heap.acquire` succeeds — (1) next block of the linear free
list, (2) head of the lazy free list with deferred erasure of its three children, (3) bump of the
frontier — the emitted code runs to its end; the final state is a boundary state, represents the
model's result heap, and holds the acquired block in the target `nb`.  Only `nb`, the additional
temporary `at'` (the register through which the children are erased in case (2)), TEMP, HEAP, FREE and
the heap change. -/
theorem acquireBlock_contract {cfg : MonCfg} {la : String → Option Nat} {st : State}
    (B : Boundary cfg st) {h h' : Scc.Heap.HState} (R : HeapRel cfg st h)
    {nb at' : Register} (hn1 : 4 ≤ nb.n) (hn2 : nb.n < 32) (ha1 : 4 ≤ at'.n) (ha2 : at'.n < 32)
    (hna : nb.n ≠ at'.n) {new : Nat} (hop : Scc.Heap.acquire h = .ok (h', new)) (k : Nat) :
    ∃ code, (acquireBlock nb at').run k = .ok (code, k + 13) ∧ LabsIn code k (k + 13) ∧
      ∃ st', execFwd cfg la code st = .ok (st', .fall) ∧ Boundary cfg st' ∧ HeapRel cfg st' h' ∧
        (∃ w, st'.readReg nb = .ok w ∧ w.toNat = new) ∧
        FrameR st st' (fun u => u = nb.n ∨ u = at'.n ∨ u = TEMP.n ∨ u = HEAP.n ∨ u = FREE.n) := by
  obtain ⟨code, hrun, hl, μ', hx, H', ⟨w, hw, ew⟩, hfr⟩ :=
    m_acquire B.top (heapRel_mview R) hn1 hn2 ha1 ha2 hna hop k
  obtain ⟨st', e, B', M', F⟩ := m_to_machine la B hx
    (changed := fun u => u = nb.n ∨ u = at'.n ∨ u = TEMP.n ∨ u = HEAP.n ∨ u = FREE.n)
    (fun u hu => hfr u (fun e => hu (Or.inl e)) (fun e => hu (Or.inr (Or.inl e)))
      (fun e => hu (Or.inr (Or.inr (Or.inl e)))) (fun e => hu (Or.inr (Or.inr (Or.inr (Or.inl e)))))
      (fun e => hu (Or.inr (Or.inr (Or.inr (Or.inr e))))))
  exact ⟨code, hrun, hl, st', e, B', heapRel_of_mrep M' H',
    ⟨w, M'.readReg (by rw [MState.rd_of (by omega) hn2]; exact hw), ew⟩, F⟩

end Scc.RV
