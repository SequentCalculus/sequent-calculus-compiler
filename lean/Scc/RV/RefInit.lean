/-
  Scc.RV.RefInit — the INITIAL STATE on RV64: the entry state of the machine (`runProgram`:
  `X2 = heapBase`, `X3 = heapBase + 64`, argument i in `X(2i + 5)` = the word register of position i, empty
  memory) represents the initial configuration of the abstract backend machine (`initConfig`: argument i in
  the word part of position i, empty heap) and the initial state of the block-level heap model
  (`Scc.Heap.init`): the three-way relation `X3` for the entry definition (`x3_init`).
-/
import Scc.RV.RefSubst

set_option linter.unusedSimpArgs false

namespace Scc.RV.Ref

open Scc.AxCut Scc.Backend.Abs Scc.Backend.Sim
open Scc.Heap (HState InvS InvW)
open Scc.Heap.Refine (HRef FrLe Room href_init')

theorem entryRegs_go_spec : ∀ (as : List Word) (i : Nat) (r : Array (Option Word)), r.size = 32 →
    i + as.length ≤ 14 →
    ∃ r', entryRegs.go as i r = some r' ∧ r'.size = 32 ∧
      (∀ j (hj : j < as.length), r'[2 * (i + j) + 5]? = some (some as[j])) ∧
      (∀ u, (∀ j, j < as.length → u ≠ 2 * (i + j) + 5) → r'[u]? = r[u]?)
  | [], i, r, hr, _ => ⟨r, rfl, hr, fun j hj => by simp at hj, fun _ _ => rfl⟩
  | a :: as, i, r, hr, hle => by
    simp only [List.length_cons] at hle
    have hlt : 2 * i + 1 + reserved < registerNum := by simp only [reserved, registerNum]; omega
    obtain ⟨r', h1, h2, h3, h4⟩ := entryRegs_go_spec as (i + 1)
      (r.setIfInBounds (2 * i + 1 + reserved) (some a)) (by simp [hr]) (by omega)
    refine ⟨r', by simp only [entryRegs.go, hlt, if_true]; exact h1, h2, ?_, ?_⟩
    · intro j hj
      cases j with
      | zero =>
        simp only [Nat.add_zero, List.getElem_cons_zero]
        rw [h4 _ (fun j hj e => by omega)]
        rw [Array.getElem?_setIfInBounds]
        simp [reserved, hr]; omega
      | succ j =>
        have := h3 j (by simpa using hj)
        simp only [List.getElem_cons_succ]
        rw [show i + (j + 1) = i + 1 + j by omega]
        exact this
    · intro u hu
      rw [h4 u (fun j hj e => hu (j + 1) (by simp; omega) (by omega))]
      rw [Array.getElem?_setIfInBounds]
      have : ¬ 2 * i + 1 + reserved = u := by
        have := hu 0 (by simp)
        simp only [reserved]; omega
      simp [this]

theorem entryRegs_spec (args : List Word) (hle : args.length ≤ 14) :
    ∃ r, entryRegs args = some r ∧ r.size = 32 ∧
      (∀ j (hj : j < args.length), r[2 * j + 5]? = some (some args[j])) ∧
      r[2]? = some (some (BitVec.ofNat 64 heapBase)) ∧
      r[3]? = some (some (BitVec.ofNat 64 (heapBase + blockBytes))) := by
  obtain ⟨r, h1, h2, h3, h4⟩ := entryRegs_go_spec args 0
    (((Array.replicate registerNum none).setIfInBounds HEAP.n (some (BitVec.ofNat 64 heapBase))).setIfInBounds
      FREE.n (some (BitVec.ofNat 64 (heapBase + blockBytes)))) (by simp [registerNum]) (by omega)
  refine ⟨r, h1, h2, fun j hj => by simpa using h3 j hj, ?_, ?_⟩
  · rw [h4 2 (fun j _ => by omega)]
    simp [registerNum, Array.getElem?_setIfInBounds]
  · rw [h4 3 (fun j _ => by omega)]
    simp [registerNum, Array.getElem?_setIfInBounds]

/-- the entry state of the machine: integer parameters in the word registers, empty heap -/
theorem x3_init {mc : MonCfg} {cw : Nat → Word} {τ : Nat → Nat → Word} {args : List Word} {regs : Array (Option Word)} {e a : Nat}
    {Γ : Ctx} (hr : entryRegs args = some regs) (hlen : Γ.length = args.length)
    (hext : ∀ b ∈ Γ, b.chi = .ext) (hcap : Γ.length ≤ 14) (htop : heapBase + mc.heapBytes ≤ 2 ^ 63)
    (hl : 128 ≤ mc.heapBytes) (ι : Nat → Nat) :
    X3 mc cw τ Γ (initConfig a args) (Scc.Heap.init heapBase (heapBase + mc.heapBytes)) ι
      { regs := regs, mem := ∅, pc := e } := by
  obtain ⟨r, h1, hsz, hargs, hH, hF⟩ := entryRegs_spec args (by omega)
  rw [hr] at h1
  injection h1 with h1
  subst h1
  have hroots : roots Γ (initConfig a args).temps = [] := roots_go_all_ext _ Γ 0 hext
  have hwf : State.WF { regs := regs, mem := ∅, pc := e } := hsz
  unfold X3
  rw [hroots]
  refine ⟨⟨hwf, htop⟩, hcap, ?_, ?_, ?_, href_init' ι (by decide) (by omega)⟩
  · intro i hi w hw
    have hc : Γ[i].chi = .ext := hext _ (List.getElem_mem hi)
    rw [hc]
    obtain ⟨j, hj, ht, hv⟩ := initTemps_get_inv args 0 _ _ hw
    have hij : j = i := by omega
    subst hij
    show ((regs[posReg (2 * j + 1)]?).join) = some (trW .ext w (cw j))
    have : posReg (2 * j + 1) = 2 * j + 5 := by unfold posReg; omega
    rw [this, hargs j hj, hv]
    rfl
  · intro i hi hc
    exact absurd (hext _ (List.getElem_mem hi)) hc
  · refine ⟨rfl, rfl, fun a' => ?_, ⟨BitVec.ofNat 64 heapBase, ?_,
        show (BitVec.ofNat 64 heapBase).toNat = heapBase by decide⟩,
      ⟨BitVec.ofNat 64 (heapBase + blockBytes), ?_,
        show (BitVec.ofNat 64 (heapBase + blockBytes)).toNat = heapBase + Scc.Heap.blockSize by decide⟩⟩
    · simp [Scc.Heap.init]
    · simp only [State.readReg, HEAP]
      simp [hH]
    · simp only [State.readReg, FREE]
      simp [hF]

end Scc.RV.Ref
