/-
  Scc.RV.MemProofsLoad — the contract of `load` (memory.rs: release_block, load_field,
  load_value(s), load_fields, Memory::load) against `Scc.Heap.loadObj`: unique branch (count 0: the
  blocks go back onto the linear free list, the children move into the environment) and shared branch
  (count > 0: decrement, every pointer child is shared), for objects of ANY number of fields (one block
  or a chain).  The memory block of each level is the first register of the first variable loaded from
  it (there are no spills on RV64).  The proof is the backend-independent
  `Scc.Mem.LoadSpec.load_does` (Mem/Load.lean) at the leaves `loadSpec`.
-/
import Scc.RV.MemProofsStore
import Scc.RV.Total
import Scc.Mem.Load

set_option linter.unusedSimpArgs false

namespace Scc.RV

open Scc.AxCut
open Scc.Backend (GenM TempNum freshLabel)
open Scc.Heap (HOk)

section Prim
variable {cfg : MonCfg} {μ : MState} {h h' : Scc.Heap.HState}

/-- `t := [mb + off]` is the model's `rd` -/
theorem m_loadFieldCode (C : CfgOK cfg) (H : HRelM cfg μ h) {n : Nat} (hn : n < 28)
    {mb : Register} {b : Word} (hvb : μ.rd mb = some b)
    {off : Nat} {v : Nat} (hrd : Scc.Heap.rd h (b.toNat + off) = .ok v) :
    ∃ w, mFwd cfg [.LW (posTemp n) mb (off : Int)] μ = some (μ.setT (posReg n) (some w), .fall) ∧
      w.toNat = v := by
  obtain ⟨hok, hv⟩ := rd_eq_ok.1 hrd
  have ha := haddr_ok C H hok
  have h1 : 1 ≤ posReg n := by unfold posReg; omega
  have h2 : posReg n < 32 := by unfold posReg; omega
  refine ⟨μ.heap (b.toNat + off), ?_, by rw [hv, H.mem]⟩
  simp [mFwd_cons, mFwd_nil, mcont, mexecC, mexec, h1, h2, hvb, ha]

theorem shareBlockNC_one (r : Register) (k : Nat) : Mem.shareBlockNC r 1 k =
    [.BEQ r ZERO (labName (k + 1))] ++
      [.COMMENT "####increment refcount", .LW TEMP r referenceCountOffset,
       .ADDI TEMP TEMP ((1 : Nat) : Int), .SW TEMP r referenceCountOffset] ++ [.LAB (labName (k + 1))] := rfl

theorem labsIn_shareCode (r : Register) (k : Nat) : LabsIn (Mem.shareBlockNC r 1 k) k (k + 1) := by
  intro l hl
  simp only [shareBlockNC_one, List.mem_cons, List.mem_append, reduceCtorEq, false_or, Code.LAB.injEq,
    List.not_mem_nil, or_false] at hl
  exact ⟨k + 1, hl, by omega, by omega⟩

/-- `share_block` on the view, pointer in any variable register: one more reference -/
theorem m_share1 (C : CfgOK cfg) (H : HRelM cfg μ h) {r : Register} (h1 : 4 ≤ r.n) (h2 : r.n < 32) {p : Word}
    (hv : μ.val r.n = some p) (hop : Scc.Heap.shareBlock h p.toNat 1 = .ok h')
    (hno : p ≠ 0 → h.mem.get p.toNat + 1 < 2 ^ 64) (k : Nat) :
    ∃ μ', mFwd cfg (Mem.shareBlockNC r 1 k) μ = some (μ', .fall) ∧ HRelM cfg μ' h' ∧
      (∀ u, u ≠ 1 → μ'.val u = μ.val u) := by
  rw [shareBlockNC_one]
  generalize labName (k + 1) = l
  have hrd : ∀ ν : MState, ν.rd r = ν.val r.n := fun ν => MState.rd_of (by omega) h2
  have h0 : ¬ r.n = 0 := by omega
  have hr1 : ¬ r.n = 1 := by omega
  by_cases hp : p = 0
  · subst hp
    have : h' = h := by
      simp [Scc.Heap.shareBlock] at hop
      exact hop.symm
    subst this
    refine ⟨μ, ?_, H, fun _ _ => rfl⟩
    exact mFwd_skip_taken cfg r _ _ μ (by rw [hrd, hv]) (by simp [skipTo])
  · have hp' : p.toNat ≠ 0 := fun e => hp (BitVec.eq_of_toNat_eq (by simpa using e))
    unfold Scc.Heap.shareBlock at hop
    rw [if_neg hp'] at hop
    cases hrdc : Scc.Heap.rd h p.toNat with
    | error f => simp [hrdc] at hop
    | ok cnt =>
      simp only [hrdc] at hop
      obtain ⟨hok, hcnt⟩ := rd_eq_ok.1 hrdc
      obtain ⟨_, rfl⟩ := wr_eq_ok.1 hop
      have ha : haddr cfg p 0 = some p.toNat := haddr_ok0 C H hok
      have hw : (μ.heap p.toNat + imm ((1 : Nat) : Int)).toNat = cnt + 1 := by
        have := toNat_add_imm_nat (μ.heap p.toNat) 1 (by rw [← H.mem]; exact hno hp)
        rw [hcnt, H.mem]; exact this
      refine ⟨((μ.setT 1 (some (μ.heap p.toNat))).setT 1 (some (μ.heap p.toNat + imm ((1 : Nat) : Int)))).setH
        p.toNat (μ.heap p.toNat + imm ((1 : Nat) : Int)), ?_, ?_, fun u hu => by simp [hu]⟩
      · refine mFwd_skip_not_taken cfg r _ _ μ _ (by rw [hrd, hv]) hp ?_
        simp [mFwd_cons, mFwd_nil, mcont, mexecC, mexec, MState.rd, h0, h2, hr1, hv, ha]
      · have := ((H.setT (t := 1) (by decide) (by decide) (some (μ.heap p.toNat))).setT (t := 1) (by decide)
          (by decide) (some (μ.heap p.toNat + imm ((1 : Nat) : Int)))).setH p.toNat
            (μ.heap p.toNat + imm ((1 : Nat) : Int))
        rw [hw] at this
        exact this

end Prim

/-- the model's kind of a variable: `true` = it has a pointer part (not `ext`) -/
def kindOf (b : Binding) : Bool := b.chi != .ext

theorem kindOf_eq : kindOf = Scc.Mem.kindOf := rfl

section Leaves
variable {cfg : MonCfg}

/-- `release_block` on the view: the block in register `mb` becomes the head of the linear free list -/
theorem m_release (C : CfgOK cfg) {μ : MState} {s1 s2 : Scc.Heap.HState} (H : HRelM cfg μ s1) {mb : Register}
    (hm1 : 4 ≤ mb.n) (hm2 : mb.n < 32) {wb : Word} (hvb : μ.val mb.n = some wb)
    (hrel : Scc.Heap.releaseBlock s1 wb.toNat = .ok s2) :
    ∃ μ1, mFwd cfg (releaseBlock mb) μ = some (μ1, .fall) ∧ HRelM cfg μ1 s2 ∧
      (∀ u, u ≠ 2 → μ1.val u = μ.val u) := by
  have hm0 : ¬ mb.n = 0 := by omega
  simp only [Scc.Heap.releaseBlock] at hrel
  cases hw : Scc.Heap.wr s1 wb.toNat s1.heap with
  | error e => simp [hw] at hrel
  | ok sx =>
    simp only [hw, Except.ok.injEq] at hrel
    subst hrel
    obtain ⟨hok, rfl⟩ := wr_eq_ok.1 hw
    obtain ⟨wH, hH, eH⟩ := H.heap
    have ha : haddr cfg wb 0 = some wb.toNat := haddr_ok0 C H hok
    refine ⟨(μ.setH wb.toNat wH).setT 2 (some wb), ?_, ?_, ?_⟩
    · simp [releaseBlock, mFwd_cons, mFwd_nil, mcont, mexecC, mexec, MState.rd, hm0, hm2, hvb, ha, hH]
    · obtain ⟨wf, hwf, ewf⟩ := H.free
      have := H.setH wb.toNat wH
      rw [eH] at this
      exact ⟨this.base, this.limit, this.mem, ⟨wb, by simp, rfl⟩, ⟨wf, by simp [hwf], ewf⟩⟩
    · intro u hu; simp [hu]

theorem top_eq (m : Nat) (cT cE : List Code) (k : Nat) :
    Mem.loadCode.top m cT cE k =
      ([.COMMENT "#load from memory", .LW TEMP (posTemp m) referenceCountOffset] ++ [.COMMENT "##check refcount"]) ++
      ([.BEQ TEMP ZERO (labName (k + 1))] ++
        ([.COMMENT "##either decrement refcount and share children...", .ADDI TEMP TEMP (-1),
          .SW TEMP (posTemp m) referenceCountOffset] ++ cE) ++
        [.JAL ZERO (labName (k + 2)), .LAB (labName (k + 1))] ++
        (.COMMENT "##... or release blocks onto linear free list when loading" :: cT) ++
        [.LAB (labName (k + 2))]) := rfl

/-- the head of `load`: the count is fetched into TEMP -/
theorem m_loadTop_head (C : CfgOK cfg) {μ : MState} {h : Scc.Heap.HState} (H : HRelM cfg μ h) {m : Nat}
    (hm : m < 28) {pw : Word} (hp : μ.val (posReg m) = some pw) (hok : HOk h pw.toNat) :
    mFwd cfg ([.COMMENT "#load from memory", .LW TEMP (posTemp m) referenceCountOffset] ++
      [.COMMENT "##check refcount"]) μ = some (μ.setT 1 (some (μ.heap pw.toNat)), .fall) := by
  have ha : haddr cfg pw 0 = some pw.toNat := haddr_ok0 C H hok
  obtain ⟨t1, t2, t3, t0⟩ := posReg_ne_low m
  have ht32 : posReg m < 32 := by unfold posReg; omega
  simp [mFwd_cons, mFwd_nil, mcont, mexecC, mexec, MState.rd, t0, ht32, hp, ha]

/-- the contracts of the leaves of `load_fields`: block pointers are in the even registers of the context
positions; no position is spilled -/
def loadSpec (C : CfgOK cfg) : Scc.Mem.LoadSpec (memView cfg) Mem.loadCode where
  toStoreSpec := memSpec C
  ttPos := 0
  slotT := 1
  isTT := fun u => decide (u = 2)
  isTT_iff := fun {u} => by
    show decide (u = 2) = true ↔ u = 2
    simp
  blkR := fun r => 4 ≤ r.n ∧ r.n < 32 ∧ r.n % 2 = 0
  blkR_ok := fun {r : Register} (h : 4 ≤ r.n ∧ r.n < 32 ∧ r.n % 2 = 0) => (⟨by omega, h.2.1⟩ : 2 ≤ r.n ∧ r.n < 32)
  blkR_odd := fun {r : Register} {n} (h : 4 ≤ r.n ∧ r.n < 32 ∧ r.n % 2 = 0) _ e => by
    have e : posReg (2 * n + 1) = r.n := e
    unfold posReg at e; omega
  blkR_ne_heap := fun {r : Register} (h : 4 ≤ r.n ∧ r.n < 32 ∧ r.n % 2 = 0) e => by
    have e : r.n = 2 := e
    omega
  blkR_regOf := fun {m} (hm : 2 * m < 28) _ => by
    show 4 ≤ posReg (2 * m) ∧ posReg (2 * m) < 32 ∧ posReg (2 * m) % 2 = 0
    unfold posReg; omega
  pos_regOf := fun _ _ => rfl
  pos_inj := fun _ _ e => posReg_inj.1 e
  isSpill_mono := fun _ h => nomatch h
  spill := fun _ h => nomatch h
  ldF_does := fun {μ s m r b num off v} H hm hr hvb _ hrd => by
    have hm : m < 28 := hm
    have hr : 2 ≤ r.n ∧ r.n < 32 := hr
    obtain ⟨w, x, ew⟩ := m_loadFieldCode C H hm (mb := r) ((MState.rd_of (by omega) hr.2).trans hvb) hrd
    rw [← fieldOffset_nat] at x
    obtain ⟨n1, n2, n3, -⟩ := posReg_ne_low m
    exact ⟨_, x, H.setT n2 n3 _, fun u hu => if_neg hu.2, w, if_pos rfl, ew⟩
  ldS_does := fun {μ s s' m r b off pv} k H hm hr hvb _ hrd hsh hno => by
    have hm : m < 28 := hm
    have hr : 2 ≤ r.n ∧ r.n < 32 := hr
    obtain ⟨p, x2, ep⟩ := m_loadFieldCode C H hm (mb := r) ((MState.rd_of (by omega) hr.2).trans hvb) hrd
    rw [← fieldOffset_fst] at x2
    obtain ⟨n1, n2, n3, -⟩ := posReg_ne_low m
    have H2 : HRelM cfg (μ.setT (posReg m) (some p)) s := H.setT n2 n3 _
    rw [← ep] at hsh
    have hno' : p ≠ 0 → s.mem.get p.toNat + 1 < 2 ^ 64 := fun hp0 =>
      Scc.Heap.shareBlock_lt hsh hno (fun e => hp0 (BitVec.eq_of_toNat_eq (by simpa using e)))
    obtain ⟨μ3, x3, H3, F3⟩ := m_share1 C H2 (r := posTemp m) (by simp [posTemp, posReg])
      (by simp [posTemp, posReg]; omega) (if_pos rfl) hsh hno' k
    refine ⟨μ3, mFwd_seq cfg x2 x3, H3, fun u hu => ?_, p, ?_, ep⟩
    · show μ3.val u = μ.val u
      rw [F3 u hu.1]; exact if_neg hu.2
    · show μ3.val (posReg m) = some p
      rw [F3 _ n1]; exact if_pos rfl
  release_does := fun {μ s s' r b} H (hr : 4 ≤ r.n ∧ r.n < 32 ∧ r.n % 2 = 0) hvb hrel => by
    obtain ⟨μ1, x1, H1, F1⟩ := m_release C H hr.1 hr.2.1 hvb hrel
    exact ⟨μ1, x1, H1, fun u hu => F1 u hu.2, trivial⟩
  top_then := fun {μ s m pw cT cE k0 k P} H hm hp hrd hlE hT => by
    have hlE : LabsIn cE k0 k := labsIn_iff.2 hlE
    have hm : m < 28 := hm
    obtain ⟨hok, hcnt⟩ := rd_eq_ok.1 hrd
    have e1 := m_loadTop_head C H hm hp hok
    have hx0 : μ.heap pw.toNat = 0#64 := BitVec.eq_of_toNat_eq (by rw [← H.mem, ← hcnt]; rfl)
    obtain ⟨μ', x, p⟩ := hT _ (H.setT (t := 1) (by decide) (by decide) (some (μ.heap pw.toNat))) (fun u hu => by
      show (μ.setT 1 (some (μ.heap pw.toNat))).val u = μ.val u
      simp [show u ≠ 1 from hu])
    refine ⟨μ', ?_, p⟩
    show mFwd cfg (Mem.loadCode.top m cT cE k) μ = some (μ', .fall)
    rw [top_eq, mFwd_pre cfg e1]
    rw [hx0] at x ⊢
    refine mFwd_ite_then cfg TEMP _ _ _ _ _ _ (by simp [MState.rd]) ?_
      (mFwd_seq cfg (a := [_]) (mFwd_comment cfg _ _) x)
    rw [skipTo_append]
    simp only [skipTo]
    exact hlE.skipTo_none (Or.inr (by omega))
  top_else := fun {μ s s0 m pw cT cE k0 k cnt P} H hm hp hrd hz hwr hlT hE => by
    have hlT : LabsIn cT k0 k := labsIn_iff.2 hlT
    have hm : m < 28 := hm
    have hp : μ.val (posReg m) = some pw := hp
    obtain ⟨hok, hcnt⟩ := rd_eq_ok.1 hrd
    have e1 := m_loadTop_head C H hm hp hok
    have ha : haddr cfg pw 0 = some pw.toNat := haddr_ok0 C H hok
    obtain ⟨t1, t2, t3, t0⟩ := posReg_ne_low m
    have ht32 : posReg m < 32 := by unfold posReg; omega
    have hx0 : ¬ μ.heap pw.toNat = 0#64 := fun e => hz (by rw [hcnt, H.mem, e]; rfl)
    obtain ⟨_, rfl⟩ := wr_eq_ok.1 hwr
    have hw : (μ.heap pw.toNat + imm (-1)).toNat = cnt - 1 := by
      rw [toNat_add_neg_one _ hx0, hcnt, H.mem]
    let μ2 : MState := ((μ.setT 1 (some (μ.heap pw.toNat))).setT 1
      (some (μ.heap pw.toNat + imm (-1)))).setH pw.toNat (μ.heap pw.toNat + imm (-1))
    have H2 : HRelM cfg μ2 { s with mem := s.mem.set pw.toNat (cnt - 1) } := by
      have := ((H.setT (t := 1) (by decide) (by decide) (some (μ.heap pw.toNat))).setT (t := 1) (by decide)
        (by decide) (some (μ.heap pw.toNat + imm (-1)))).setH pw.toNat (μ.heap pw.toNat + imm (-1))
      rw [hw] at this
      exact this
    have x2 : mFwd cfg [.COMMENT "##either decrement refcount and share children...",
        .ADDI TEMP TEMP (-1), .SW TEMP (posTemp m) referenceCountOffset]
        (μ.setT 1 (some (μ.heap pw.toNat))) = some (μ2, .fall) := by
      simp [mFwd_cons, mFwd_nil, mcont, mexecC, mexec, MState.rd, t0, t1, ht32, hp, ha, μ2]
    have hfr2 : ∀ u, u ≠ 1 → μ2.val u = μ.val u := fun u hT => by simp [μ2, hT]
    clear_value μ2
    obtain ⟨μ', x, p⟩ := hE μ2 H2 hfr2
    refine ⟨μ', ?_, p⟩
    show mFwd cfg (Mem.loadCode.top m cT cE k) μ = some (μ', .fall)
    rw [top_eq, mFwd_pre cfg e1]
    refine mFwd_ite_else cfg TEMP _ _ _ _ _ _ (a := μ.heap pw.toNat) (by simp [MState.rd]) hx0
      (fun e => by have := labName_inj.mp e; omega) ?_ (mFwd_seq cfg x2 x)
    simp only [skipTo]
    exact hlT.skipTo_none (Or.inr (by omega))

end Leaves

theorem loadCode_counts : Mem.loadCode.LoadCounts (fun a b code => a ≤ b ∧ Scc.Mem.LabsIn Code.LAB code a b) :=
  Mem.loadCode.loadCounts_labsIn (fun _ _ h => by cases h) (fun t r num off l h => by cases List.mem_singleton.1 h)
    (fun m k => labsIn_iff.1 (labsIn_shareCode (posTemp m) k)) (fun r l => by simp [Mem.loadCode, releaseBlock])
    (fun l h => by cases h) (fun m l h => by cases h) (fun l h => by cases h)

/-- the labels of the test of the reference count come after those of the two branches -/
theorem counts_top (m : Nat) {a b c : Nat} {x y : List Code} (hT : a ≤ b ∧ Scc.Mem.LabsIn Code.LAB x a b)
    (hE : b ≤ c ∧ Scc.Mem.LabsIn Code.LAB y b c) :
    a ≤ c + 2 ∧ Scc.Mem.LabsIn Code.LAB (Mem.loadCode.top m x y c) a (c + 2) := by
  refine ⟨by omega, labsIn_iff.1 ?_⟩
  have hT2 := labsIn_iff.2 hT.2
  have hE2 := labsIn_iff.2 hE.2
  rw [top_eq]
  refine LabsIn.append (LabsIn.of_noLab _ _ (by simp)) ?_
  refine LabsIn.append (LabsIn.append (LabsIn.append (LabsIn.append (LabsIn.of_noLab _ _ (by simp)) ?_) ?_) ?_) ?_
  · exact (LabsIn.of_noLab _ _ (by simp)).append (hE2.mono hT.1 (by omega))
  · exact ((LabsIn.nil _ _).cons_lab (n := c + 1) (by omega) (by omega)).cons_other (by simp)
  · exact (hT2.mono (Nat.le_refl _) (by omega)).cons_other (by simp)
  · exact (LabsIn.nil _ _).cons_lab (by omega) (by omega)

section Load
variable {cfg : MonCfg}

/-- CONTRACT of `load` on the view: unique branch (count 0) and shared branch (count > 0), ANY number
of fields -/
theorem m_load (C : CfgOK cfg) {μ : MState} {h h' : Scc.Heap.HState} (H : HRelM cfg μ h)
    {toLoad existing : Ctx} (hcap : 2 * (existing.length + toLoad.length) ≤ 28) {pw : Word}
    (hp : μ.val (posReg (2 * existing.length)) = some pw) {vals : List Scc.Heap.Field}
    (hop : Scc.Heap.loadObj h pw.toNat (toLoad.map kindOf) = .ok (h', vals))
    (hno : h.mem.get pw.toNat ≠ 0 → ∀ a, h'.mem.get a < 2 ^ 64) (k : Nat) :
    ∃ code k', (load toLoad existing).run k = .ok (code, k') ∧ k ≤ k' ∧ LabsIn code k k' ∧
      ∃ μ', mFwd cfg code μ = some (μ', .fall) ∧ HRelM cfg μ' h' ∧ EnvFields μ' existing.length toLoad vals ∧
        (∀ u, u ≠ 1 → u ≠ 2 →
          (∀ m, 2 * existing.length ≤ m → m < 2 * (existing.length + toLoad.length) → u ≠ posReg m) →
          μ'.val u = μ.val u) := by
  have hrun : (load toLoad existing).run k = .ok (Mem.loadCode.loadC toLoad existing.length k) := by
    have ht := Total.tot_load (cap := fun _ => False) (okp := fun pos => pos ≤ 13)
      (fun n pos h => Total.positionRegister_tot_fits n pos h) toLoad existing (fun pos hp => by
        show pos ≤ 13
        omega) k
    cases hr : (load toLoad existing).run k with
    | error e => rw [hr] at ht; exact ht.elim
    | ok r => rw [(Mem.emits_load toLoad existing k r hr).2]
  have hl := loadCode_counts.loadC counts_top toLoad existing.length k
  obtain ⟨μ', x, H', E', F'⟩ := (loadSpec C).load_does loadCode_counts H hcap hp (kindOf_eq ▸ hop) hno k
  exact ⟨_, _, hrun, hl.1, labsIn_iff.2 hl.2, μ', x, H', (envFields_iff C).2 E', fun u hT hH hu => F' u hT hH hT hu⟩

end Load

/-- CONTRACT of `load` (memory.rs Memory::load) on the RV64 machine, for ANY number of fields: the
object whose pointer is in the first register of position `|existing|` is unpacked into the variables
`toLoad` (positions `|existing| …`) exactly as `Scc.Heap.loadObj` does on the abstract heap — unique
branch (count 0): the blocks of the chain go back onto the linear free list, the children move; shared
branch (count > 0): the count is decremented and every pointer child gets one more reference.  From
every boundary state representing a heap on which the model succeeds, the code runs to its end; the
final state is a boundary state, represents the model's result heap, and the variables hold the loaded
fields (`EnvFieldsM`).
Changed: TEMP, HEAP, the heap, the registers of the loaded positions; preserved: FREE, every variable of
`existing`, every register beyond the loaded positions.
`hcap`: the registers of all positions up to `|existing| + |toLoad|` exist (positions 0..13).
`hno` (shared branch only): the incremented counts of the model (unbounded naturals) fit in 64 bits. -/
theorem load_contract {cfg : MonCfg} {la : String → Option Nat} {st : State}
    (B : Boundary cfg st) {h h' : Scc.Heap.HState} (R : HeapRel cfg st h)
    {toLoad existing : Ctx} (hcap : 2 * (existing.length + toLoad.length) ≤ 28) {pw : Word}
    (hp : st.readReg (posTemp (2 * existing.length)) = .ok pw) {vals : List Scc.Heap.Field}
    (hop : Scc.Heap.loadObj h pw.toNat (toLoad.map kindOf) = .ok (h', vals))
    (hno : h.mem.get pw.toNat ≠ 0 → ∀ a, h'.mem.get a < 2 ^ 64) (k : Nat) :
    ∃ code k', (load toLoad existing).run k = .ok (code, k') ∧ k ≤ k' ∧ LabsIn code k k' ∧
      ∃ st', execFwd cfg la code st = .ok (st', .fall) ∧ Boundary cfg st' ∧ HeapRel cfg st' h' ∧
        EnvFieldsM st' existing.length toLoad vals ∧
        FrameR st st' (fun u => u = TEMP.n ∨ u = HEAP.n ∨
          ∃ m, 2 * existing.length ≤ m ∧ m < 2 * (existing.length + toLoad.length) ∧ u = posReg m) := by
  have hp' : (mview st).val (posReg (2 * existing.length)) = some pw :=
    mview_val_of_readReg (r := posTemp (2 * existing.length)) (by simp [posReg]) hp
  obtain ⟨code, k', hrun, hk, hl, μ', hx, H', E', hfr⟩ :=
    m_load B.top (heapRel_mview R) hcap (μ := mview st) hp' hop hno k
  obtain ⟨st', e, B', M', F⟩ := m_to_machine la B hx
    (changed := fun u => u = TEMP.n ∨ u = HEAP.n ∨
      ∃ m, 2 * existing.length ≤ m ∧ m < 2 * (existing.length + toLoad.length) ∧ u = posReg m)
    (fun u hu => hfr u (fun e => hu (Or.inl e)) (fun e => hu (Or.inr (Or.inl e)))
      (fun m h1 h2 e => hu (Or.inr (Or.inr ⟨m, h1, h2, e⟩))))
  refine ⟨code, k', hrun, hk, hl, st', e, B', heapRel_of_mrep M' H', ?_, F⟩
  refine envFields_slots.2 ((envFields_slots.1 E').congr (fun m _ h2 => ?_))
  have h32 : posReg m < 32 := by unfold posReg; omega
  have := M'.vals (posReg m) (by unfold posReg; omega) h32
  simp [mview, this]

end Scc.RV
