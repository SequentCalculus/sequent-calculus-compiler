/-
  Scc.RV.RefJump — an indirect jump (`JALR`) to the address of ANY item of the
  kept codes — a label (the method table of a closure) or an instruction (an entry of the table) — reaches
  that item: the machine lands on the first label standing before it (RefLand.lean) and passes the labels and
  hook comments in between (`jump_reach`).
-/
import Scc.RV.RefLand
import Scc.RV.RefBridge

namespace Scc.RV.Ref

/-- where a jump to the address of an instruction lands -/
theorem Loaded.land_instr {p : Program} {ks : List Code} (L : Loaded p ks) {j : Nat} (hj : j < ks.length)
    (hji : ks[j].isInstr = true) :
    ∃ m, p.addrIdx[codeBase + 4 * icount (ks.take j)]? = some m ∧ m ≤ j ∧
      ∀ t, m ≤ t → t < j → ∀ c, ks[t]? = some c → c.isInstr = false := by
  cases hp : pendOf (ks.take j) with
  | none =>
    refine ⟨j, by rw [L.addrs j hj hji, hp]; rfl, Nat.le_refl _, fun t h1 h2 => by omega⟩
  | some m =>
    obtain ⟨h1, _, h3⟩ := pendOf_spec (ks.take j) m hp
    have hmj : m < j := by simp at h1; omega
    refine ⟨m, by rw [L.addrs j hj hji, hp]; rfl, by omega, fun t ht1 ht2 c hc => ?_⟩
    exact h3 t ht1 (by simp; omega) c (by rw [List.getElem?_take]; simp [ht2, hc])

section Jump

variable {p : Program} {cfg : MonCfg} {ks : List Code} (L : Loaded p ks) (hnd : (labs ks).Nodup)
  (hheap : cfg.heap = false)

include L hheap in
/-- AN INDIRECT JUMP TO THE ADDRESS OF ITEM `j` (a label or an instruction) REACHES ITEM `j` -/
theorem jump_reach {c : Code} {more : List Code} {s s1 : State} {a : Word} {j : Nat}
    (hat : KAt ks s.pc (c :: more)) (hi : c.isInstr = true)
    (hx : ∀ a', exec cfg p.labelAddr a' c s = .ok (s1, .addr a))
    (hj : j < ks.length) (hjk : ks[j].isInstr = true ∨ ∃ l, ks[j] = Code.LAB l)
    (ha : a.toNat = codeBase + 4 * icount (ks.take j))
    (hcl : ∀ t, t < j → ks[t]? ≠ some (Code.LAB "cleanup")) :
    Reach p cfg s (setPS s1 j (s.steps + 1)) := by
  have hc : c.isComment = false := isComment_of_isInstr hi
  obtain ⟨hg, _⟩ := hat.head hc
  obtain ⟨it, h1, h2, _⟩ := loaded_item L hg
  have hland : ∃ m, p.addrIdx[codeBase + 4 * icount (ks.take j)]? = some m ∧ m ≤ j ∧
      ∀ t, m ≤ t → t < j → ∀ c, ks[t]? = some c → c.isInstr = false := by
    rcases hjk with h | ⟨l, h⟩
    · exact L.land_instr hj h
    · exact L.land (l := l) (by rw [List.getElem?_eq_getElem hj, h])
  obtain ⟨m, hm, hmj, hbetween⟩ := hland
  have hr1 : Reach p cfg s (setPS s1 m (s.steps + 1)) := by
    refine Reach.of_step ?_
    exact Scc.RV.step_of_addr p cfg s s1 h1 (by rw [h2]; exact hi) (by rw [h2]; exact hx _) (by rw [ha]; exact hm)
  have hr2 := pass_items L hheap (setPS s1 m (s.steps + 1)) (j - m) m rfl (by omega)
    (fun t ht1 ht2 c hc => ⟨hbetween t ht1 (by omega) c hc, fun e => hcl t (by omega) (by rw [hc, e])⟩)
  have e : setPS (setPS s1 m (s.steps + 1)) (m + (j - m)) (setPS s1 m (s.steps + 1)).steps =
      setPS s1 j (s.steps + 1) := by
    simp only [setPS]
    rw [show m + (j - m) = j by omega]
  rw [e] at hr2
  exact hr1.trans hr2

end Jump

end Scc.RV.Ref
