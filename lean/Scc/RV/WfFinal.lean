/-
  Scc.RV.WfFinal — C14 for RV64: the RV64 instances of the generic label theorems of
  Scc/Backend/ProofsRefs.lean and of the generic operand lifting of Scc/X86/ProofsWfProg.lean (`OpsSat`), the
  validator `wfLines` (Scc/RV/Machine.lean) characterised on the proof side, and the resulting facts about the
  ROUTINE (`// actual code`, the body, `cleanup:`):

  * `refOps_rv`   which labels the codes returned by every method of `rvBackend` refer to (memory methods: only
                  the local labels `lab<n>` they define themselves);
  * `opsSat_rv`   every method returns codes whose operands are in range (`Code.operandsOk`: 12-bit signed
                  immediates of `ADDI`/`JALR`/`LW`/`SW`, 64-bit `LI`), for literals within i64, at most 512
                  xtors per type and at most 2048 pairs per substitution (the sharp capacity limits of the
                  backend: `C14RV_addAndJump_limit`, `C14RV_share_limit`, Props/C14RV.lean);
  * `wfLines_eq_tablesOk`  if the labels are pairwise distinct, every referenced label is defined and every
                  operand is in range, `wfLines lines` is its last test `tablesOk`;
  * `routine_facts`  these three hypotheses for the routine of every `LabelSafe` program in range whose called
                  definitions exist (e.g. a linearly typed one).
  memory.rs: `MW` (operands of every item + closedness of the references) holds of every `Mem.Blk`
  (Scc/RV/MemBlk.lean) whose immediates are 12-bit.
  The bounds are `ProgInRangeRV`; `inRangeB` is the check that implies them (`progInRange_of_check`), used by Props/C14RVFinal.lean.
-/
import Scc.Backend.ProofsRefs
import Scc.Backend.BlkClosed
import Scc.RV.MemBlk
import Scc.X86.ProofsWfProg
import Scc.RV.RefSideLabels
import Scc.RV.Machine
import Scc.ListLemmas

namespace Scc.RV.Wf

open Scc.AxCut Scc.Backend Scc.RV.Ref
open Scc.Backend.Refs
open Scc.X86 (Post AllP OpsSat ProgB StmtB ClausesB)

def dfn : Code → Option String
  | .LAB l => some l
  | _ => none

def V : View Code := ⟨dfn, Code.labelRef?⟩

theorem V_labs (l : List Code) : V.labs l = labs l := rfl

/-- plain items: operands in range, no label defined, no label referenced -/
def plB (c : Code) : Bool := c.operandsOk && (dfn c).isNone && (c.labelRef?).isNone

/-! ## memory.rs: operands and closedness -/

/-- every item has operands in range and every referenced label is defined in the list -/
def MW (l : List Code) : Prop := l.all Code.operandsOk = true ∧ Closed V l

theorem MW.append {a b : List Code} (ha : MW a) (hb : MW b) : MW (a ++ b) :=
  ⟨by rw [List.all_append, ha.1, hb.1]; rfl, ha.2.append hb.2⟩

abbrev PostMW (m : GenM (List Code)) : Prop := Post m MW

/-- a `Leaf` with a 12-bit immediate is a plain item: it defines and refers to no label -/
theorem _root_.Scc.RV.Mem.Leaf.pl {rok iok : Prop} {c : Code} (h : Mem.Leaf rok iok c) (o : iok) : plB c = true := by
  cases h with
  | com _ => rfl
  | instr hf _ hi =>
    have hi := hi o
    cases c with
    | MV x y => rfl
    | LW x y i => simp only [plB, Code.operandsOk, Bool.and_eq_true]; exact ⟨⟨hi, rfl⟩, rfl⟩
    | SW x y i => simp only [plB, Code.operandsOk, Bool.and_eq_true]; exact ⟨⟨hi, rfl⟩, rfl⟩
    | ADDI x y i => simp only [plB, Code.operandsOk, Bool.and_eq_true]; exact ⟨⟨hi, rfl⟩, rfl⟩
    | _ => cases hf

/-- code of memory.rs has encodable operands and refers only to labels it defines -/
theorem _root_.Scc.RV.Mem.Blk.mw {rok iok : Prop} {l : List Code} (h : Mem.Blk rok iok l) (o : iok) : MW l :=
  Scc.Backend.Blk.plain_closed V (sh := Code.operandsOk) (sh' := Code.operandsOk) (fun _ hl => hl.pl o)
    (fun _ hc => (plainB_iff.1 hc).1) (fun _ _ => ⟨rfl, rfl⟩) (fun _ => ⟨rfl, rfl⟩) (fun _ => ⟨rfl, rfl, rfl⟩) h

theorem postMW_store (toStore ctx : Ctx) : PostMW (store toStore ctx) :=
  fun _ _ _ h => (Mem.blk_store toStore ctx h).mw trivial

theorem postMW_load (toLoad ctx : Ctx) : PostMW (load toLoad ctx) :=
  fun _ _ _ h => (Mem.blk_load toLoad ctx h).mw trivial

theorem postMW_eraseBlock (t : Register) : PostMW (eraseBlock t) :=
  fun _ _ _ h => (Mem.blk_eraseBlock t h).mw trivial

theorem postMW_shareBlockN (t : Register) {n : Nat} (hn : n ≤ 2047) : PostMW (shareBlockN t n) :=
  fun _ _ _ h => (Mem.blk_shareBlockN t n h).mw hn

theorem noRefs_single' {c : Code} (h : c.labelRef? = none) : NoRefs V [c] := noRefs_single (V := V) h

theorem refOps_rv : RefOps rvBackend V where
  comment := fun _ => ⟨rfl, rfl⟩
  label := fun _ => ⟨rfl, rfl⟩
  jump := fun t => noRefs_single' rfl
  jumpLabel := fun l => refsTo_single (c := Code.JAL ZERO l) rfl
  jumpLabelFixed := fun l => refsTo_single (c := Code.JAL ZERO l) rfl
  jumpLabelIf := fun s a b l => by
    show RefsTo V l (jumpLabelIf s a b l)
    cases s <;> exact refsTo_single rfl
  jumpLabelIfZero := fun s a l => by
    show RefsTo V l (jumpLabelIf s a ZERO l)
    cases s <;> exact refsTo_single rfl
  loadImmediate := fun t n => noRefs_single' rfl
  loadLabel := fun t l => refsTo_single (c := Code.LA t l) rfl
  addAndJump := fun t n => noRefs_of_forall (V := V) (by
    intro c hc
    simp only [rvBackend, addAndJump, List.mem_cons, List.not_mem_nil, or_false] at hc
    rcases hc with rfl | rfl <;> rfl)
  binop := fun o t a b => by
    show NoRefs V (binop o t a b)
    cases o <;> exact noRefs_single' rfl
  mov := fun t s => noRefs_single' rfl
  printI64 := fun nl t ctx => Post.throw
  eraseBlock := fun t => (postMW_eraseBlock t).mono fun _ h => h.2
  shareBlockN := fun t n => by
    show Post (shareBlockN t n) (Closed V)
    unfold shareBlockN
    refine Post.bind (Post.true _) fun l _ => Post.pure ?_
    intro r hr
    have : r = labName l := by
      simpa [View.refs, V, Code.labelRef?] using hr
    subst this
    simp [View.labs, V, dfn]
  store := fun a b => (postMW_store a b).mono fun _ h => h.2
  load := fun a b => (postMW_load a b).mono fun _ h => h.2
  storeTemporary := fun t sp => noRefs_single' rfl
  restoreTemporary := fun t sp => noRefs_single' rfl

theorem allP_of_all {l : List Code} (h : l.all Code.operandsOk = true) : AllP (fun c => c.operandsOk = true) l := by
  simpa [AllP, List.all_eq_true] using h

/-- xtors per type: the offset `4·k` that `add_and_jump` adds must fit the 12-bit immediate of `ADDI` -/
def maxTagsRV : Nat := 512
/-- pairs per substitution: a share count `n ≤ 2047` must fit the 12-bit immediate of `ADDI` -/
def maxSubstRV : Nat := 2048

theorem opsSat_rv : OpsSat rvBackend (fun c => c.operandsOk = true) (fun _ => True)
    (fun n => fitsI64 n = true) maxTagsRV maxSubstRV where
  temp := trivial
  return1 := trivial
  vt := fun _ _ _ => Post.true _
  comment := fun _ => rfl
  label := fun _ => rfl
  jump := fun t _ => allP_of_all rfl
  jumpLabel := fun l => allP_of_all rfl
  jumpLabelFixed := fun l => allP_of_all rfl
  jumpLabelIf := fun s a b l _ _ => by
    show AllP _ (jumpLabelIf s a b l)
    cases s <;> exact allP_of_all rfl
  jumpLabelIfZero := fun s a l _ => by
    show AllP _ (jumpLabelIf s a ZERO l)
    cases s <;> exact allP_of_all rfl
  loadImmediate := fun t n _ hn => allP_of_all (by
    show ([Code.LI t n].all Code.operandsOk) = true
    simp only [List.all_cons, List.all_nil, Code.operandsOk, Bool.and_true]; exact hn)
  tagLit := fun k hk => by
    show fitsI64 (jumpLength k) = true
    simp only [maxTagsRV] at hk
    have hk' : (k : Int) < 512 := by omega
    show (decide (-9223372036854775808 ≤ 4 * (k : Int)) && decide (4 * (k : Int) ≤ 9223372036854775807)) = true
    rw [Bool.and_eq_true]
    exact ⟨decide_eq_true (by omega), decide_eq_true (by omega)⟩
  loadLabel := fun t l _ => allP_of_all rfl
  addAndJump := fun t k _ hk => allP_of_all (by
    show ((addAndJump t (jumpLength k)).all Code.operandsOk) = true
    simp only [maxTagsRV] at hk
    simp only [addAndJump, List.all_cons, List.all_nil, Code.operandsOk, fitsI12, jumpLength, Bool.and_true,
      Bool.and_eq_true, decide_eq_true_eq]
    omega)
  binop := fun o t a b _ _ _ => by
    show AllP _ (binop o t a b)
    cases o <;> exact allP_of_all rfl
  mov := fun t s _ _ => allP_of_all rfl
  printI64 := fun _ _ _ _ => Post.throw
  eraseBlock := fun t _ => (postMW_eraseBlock t).mono fun _ h => allP_of_all h.1
  shareBlockN := fun t n _ hn => (postMW_shareBlockN t (by simp only [maxSubstRV] at hn; omega)).mono
    fun _ h => allP_of_all h.1
  store := fun a b => (postMW_store a b).mono fun _ h => allP_of_all h.1
  load := fun a b => (postMW_load a b).mono fun _ h => allP_of_all h.1
  storeTemporary := fun t sp _ => allP_of_all rfl
  restoreTemporary := fun t sp _ => allP_of_all rfl

/-- the bounds of a program (decidable: `inRangeB`) -/
def ProgInRangeRV (p : AxCut.Prog) : Prop := ProgB (fun n => fitsI64 n = true) maxTagsRV maxSubstRV p

mutual
  def stmtRangeB : Stmt → Bool
    | .subst pairs next => decide (pairs.length ≤ maxSubstRV) && stmtRangeB next
    | .call _ _ => true
    | .letS _ _ _ _ next _ => stmtRangeB next
    | .switch _ _ clauses _ => clausesRangeB clauses
    | .create _ _ _ clauses next _ _ => clausesRangeB clauses && stmtRangeB next
    | .invoke _ _ _ _ => true
    | .lit _ n next _ => fitsI64 n && stmtRangeB next
    | .op _ _ _ _ next _ => stmtRangeB next
    | .print _ _ next _ => stmtRangeB next
    | .ifc _ _ _ thenc elsec => stmtRangeB thenc && stmtRangeB elsec
    | .exit _ => true
  def clausesRangeB : Clauses → Bool
    | .nil => true
    | .cons _ _ body rest => stmtRangeB body && clausesRangeB rest
end

/-- THE DECIDABLE PER-PROGRAM CHECK of the RV64 backend for C14: literals are i64 values, at most 512 xtors per
    type, at most 2048 pairs per substitution -/
def inRangeB (p : AxCut.Prog) : Bool :=
  p.types.all (fun d => decide (d.xtors.length ≤ maxTagsRV)) && p.defs.all (fun d => stmtRangeB d.body)

mutual
  theorem stmtRange_sound : ∀ s : AxCut.Stmt, stmtRangeB s = true → StmtB (fun n => fitsI64 n = true) maxSubstRV s
    | .subst pairs next, h => by
      simp only [stmtRangeB, Bool.and_eq_true, decide_eq_true_eq] at h
      simp only [StmtB]
      exact ⟨h.1, stmtRange_sound next h.2⟩
    | .call _ _, _ => by simp [StmtB]
    | .letS _ _ _ _ next _, h => by
      simp only [stmtRangeB] at h; simp only [StmtB]; exact stmtRange_sound next h
    | .switch _ _ cl _, h => by
      simp only [stmtRangeB] at h; simp only [StmtB]; exact clausesRange_sound cl h
    | .create _ _ _ cl next _ _, h => by
      simp only [stmtRangeB, Bool.and_eq_true] at h
      simp only [StmtB]
      exact ⟨clausesRange_sound cl h.1, stmtRange_sound next h.2⟩
    | .invoke _ _ _ _, _ => by simp [StmtB]
    | .lit _ n next _, h => by
      simp only [stmtRangeB, Bool.and_eq_true] at h
      simp only [StmtB]
      exact ⟨h.1, stmtRange_sound next h.2⟩
    | .op _ _ _ _ next _, h => by
      simp only [stmtRangeB] at h; simp only [StmtB]; exact stmtRange_sound next h
    | .print _ _ next _, h => by
      simp only [stmtRangeB] at h; simp only [StmtB]; exact stmtRange_sound next h
    | .ifc _ _ _ t e, h => by
      simp only [stmtRangeB, Bool.and_eq_true] at h
      simp only [StmtB]
      exact ⟨stmtRange_sound t h.1, stmtRange_sound e h.2⟩
    | .exit _, _ => by simp [StmtB]
  theorem clausesRange_sound : ∀ cl : AxCut.Clauses, clausesRangeB cl = true →
      ClausesB (fun n => fitsI64 n = true) maxSubstRV cl
    | .nil, _ => by simp [ClausesB]
    | .cons _ _ body rest, h => by
      simp only [clausesRangeB, Bool.and_eq_true] at h
      simp only [ClausesB]
      exact ⟨stmtRange_sound body h.1, clausesRange_sound rest h.2⟩
end

theorem progInRange_of_check {p : AxCut.Prog} (h : inRangeB p = true) : ProgInRangeRV p := by
  simp only [inRangeB, Bool.and_eq_true, List.all_eq_true, decide_eq_true_eq] at h
  exact ⟨fun d hd => h.1 d hd, fun d hd => stmtRange_sound d.body (h.2 d hd)⟩

def takenOf (codes : List Code) : List String :=
  codes.filterMap fun c => match c with | .LA _ l => some l | _ => none

theorem firstDuplicate_none : ∀ {l : List String}, l.Nodup → firstDuplicate l = none
  | [], _ => rfl
  | x :: xs, h => by
    simp only [List.nodup_cons] at h
    simp only [firstDuplicate]
    have : xs.contains x = false := by simpa using h.1
    rw [this]
    exact firstDuplicate_none h.2

/-- if the labels are pairwise distinct, the referenced labels defined and the operands in range, the
    validator is its last test, the jump tables -/
theorem wfLines_eq_tablesOk (lines : List (Nat × Code))
    (hnd : (labs (lines.map (·.2))).Nodup)
    (hrefs : ∀ c ∈ lines.map (·.2), ∀ l, c.labelRef? = some l → l ∈ labs (lines.map (·.2)))
    (hops : ∀ c ∈ lines.map (·.2), c.operandsOk = true) :
    wfLines lines = tablesOk (labs (lines.map (·.2))) (takenOf (lines.map (·.2))) lines := by
  have h1 := firstDuplicate_none hnd
  have h2 : lines.find? (fun lc => match lc.2.labelRef? with
      | some l => !(labs (lines.map (·.2))).contains l | none => false) = none := by
    apply find?_none_of
    intro x hx
    cases hr : x.2.labelRef? with
    | none => rfl
    | some l =>
      have := hrefs x.2 (List.mem_map.2 ⟨x, hx, rfl⟩) l hr
      have : (labs (lines.map (·.2))).contains l = true := by simpa using this
      show (!(labs (lines.map (·.2))).contains l) = false
      rw [this]; rfl
  have h3 : lines.find? (fun lc => !lc.2.operandsOk) = none := by
    apply find?_none_of
    intro x hx
    rw [hops x.2 (List.mem_map.2 ⟨x, hx, rfl⟩)]; rfl
  unfold wfLines
  dsimp only
  generalize hL : (List.filterMap _ lines : List String) = L
  have hL' : L = labs (lines.map (·.2)) := by
    rw [← hL]; unfold labs; rw [List.filterMap_map]; rfl
  subst hL'
  generalize hT : (List.filterMap _ lines : List String) = T
  have hT' : T = takenOf (lines.map (·.2)) := by
    rw [← hT]; unfold takenOf; rw [List.filterMap_map]; rfl
  subst hT'
  rw [h1]
  dsimp only
  split
  · rename_i line c heq; exact absurd (h2.symm.trans heq) (by simp)
  · split
    · rename_i line c heq; exact absurd (h3.symm.trans heq) (by simp)
    · rfl

theorem labs_map_stripC (codes : List Code) : labs (codes.map stripC) = labs codes := by
  unfold labs
  rw [List.filterMap_map]
  congr 1
  funext c
  cases c <;> rfl

theorem labelRef_stripC (c : Code) : (stripC c).labelRef? = c.labelRef? := by cases c <;> rfl
theorem operandsOk_stripC (c : Code) : (stripC c).operandsOk = c.operandsOk := by cases c <;> rfl

/-- the three hypotheses of `wfLines_eq_tablesOk` do not depend on the text of comments -/
theorem facts_of_stripC {codes codes' : List Code} (e : codes'.map stripC = codes.map stripC)
    (hnd : (labs codes).Nodup)
    (hrefs : ∀ c ∈ codes, ∀ l, c.labelRef? = some l → l ∈ labs codes)
    (hops : ∀ c ∈ codes, c.operandsOk = true) :
    (labs codes').Nodup ∧ (∀ c ∈ codes', ∀ l, c.labelRef? = some l → l ∈ labs codes') ∧
      (∀ c ∈ codes', c.operandsOk = true) := by
  have hl : labs codes' = labs codes := by rw [← labs_map_stripC codes', e, labs_map_stripC]
  have hmem : ∀ c ∈ codes', ∃ c0 ∈ codes, stripC c = stripC c0 := by
    intro c hc
    have : stripC c ∈ codes.map stripC := by rw [← e]; exact List.mem_map.2 ⟨c, hc, rfl⟩
    obtain ⟨c0, h0, e0⟩ := List.mem_map.1 this
    exact ⟨c0, h0, e0.symm⟩
  refine ⟨hl ▸ hnd, ?_, ?_⟩
  · intro c hc l hr
    obtain ⟨c0, h0, e0⟩ := hmem c hc
    rw [hl]
    exact hrefs c0 h0 l (by rw [← labelRef_stripC, ← e0, labelRef_stripC]; exact hr)
  · intro c hc
    obtain ⟨c0, h0, e0⟩ := hmem c hc
    rw [← operandsOk_stripC, e0, operandsOk_stripC]
    exact hops c0 h0

open Scc.Props.C14Generic (LabelSafe)

/-- **the routine of every `LabelSafe` program in range whose called definitions exist (e.g. a linearly typed
    one, `callsDefined_of_linTyped`): labels pairwise distinct, referenced labels defined, operands in range** -/
theorem routine_facts {p : AxCut.Prog} {hooks : Bool} {k : Nat} {body : List Code} {nargs k' : Nat}
    (hsafe : LabelSafe p = true) (hcalls : ∀ f ∈ defsCalls p.defs, f ∈ p.defs.map (·.name.print))
    (hrange : ProgInRangeRV p)
    (h : (compile rvBackend hooks p).run k = .ok ((body, nargs), k')) :
    let routine := [Code.COMMENT "actual code"] ++ body ++ [Code.LAB "cleanup"]
    (labs routine).Nodup ∧ (∀ c ∈ routine, ∀ l, c.labelRef? = some l → l ∈ labs routine) ∧
      (∀ c ∈ routine, c.operandsOk = true) := by
  intro routine
  have hnd := labels_unique_rv hsafe h
  have h1 := refs_defined refOps_rv hooks natRen p hcalls k _ k' h
  have h2 := Scc.X86.post_compileR opsSat_rv hooks natRen p hrange k _ k' h
  have hlabs : labs routine = labs (body ++ [Code.LAB "cleanup"]) := by
    show labs ([Code.COMMENT "actual code"] ++ body ++ [Code.LAB "cleanup"]) = _
    rw [List.append_assoc, Ref.labs_append]; rfl
  have hcl : Closed V routine := by
    show Closed V ([Code.COMMENT "actual code"] ++ body ++ [Code.LAB "cleanup"])
    rw [List.append_assoc]
    exact closed_wrap (cl := "cleanup") rfl rfl h1 (by simp [View.labs, V, dfn])
  refine ⟨hlabs ▸ hnd, fun c hc l hr => hcl l (List.mem_filterMap.2 ⟨c, hc, hr⟩), ?_⟩
  · intro c hc
    have hc' : c = Code.COMMENT "actual code" ∨ c ∈ body ∨ c = Code.LAB "cleanup" := by
      simpa [routine] using hc
    rcases hc' with rfl | hc' | rfl
    · rfl
    · exact h2 c hc'
    · rfl

end Scc.RV.Wf
