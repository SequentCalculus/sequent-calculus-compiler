/-
  Scc.RV.MemProofsFree — everything memory.rs emits can be run item by item by the machine's loop
  (`Runnable`, MemProofsRun.lean): no instruction of `acquire_block`, `store`, `load`, `erase_block`,
  `share_block_n` uses its own code address (`PcFree`: the only jumps are `BEQ` and `JAL X0`), for ALL
  arguments and whatever the label counter: it holds of every item of memory.rs and of the jumps of its
  blocks, and the code of the methods is a `Mem.Blk` (Scc/RV/MemBlk.lean; `GenP`: a property of every
  successful run of a generator).
  With the fresh-label bookkeeping (`LabsIn`: the labels are `lab<n>`, never `cleanup`) this discharges
  the `Runnable` hypothesis of the bridge `run_fwd_block` for the memory contracts.
-/
import Scc.RV.MemProofsLoad
import Scc.RV.MemProofsRun
import Scc.RV.MemBlk
import Scc.Backend.ProofsPost

namespace Scc.RV

open Scc.AxCut
open Scc.Backend (GenM TempNum freshLabel)
open Scc.X86 (Post)

/-- `Scc.X86.Post` (Backend/ProofsPost.lean) with the arguments in the other order -/
def GenP {α : Type} (P : α → Prop) (m : GenM α) : Prop :=
  ∀ k a k', m.run k = .ok (a, k') → P a

theorem GenP.pure {α : Type} {P : α → Prop} {a : α} (h : P a) : GenP P (pure a : GenM α) := Post.pure h

theorem GenP.triv {α : Type} (m : GenM α) : GenP (fun _ => True) m := Post.true m

theorem GenP.bind {α β : Type} {P : α → Prop} {Q : β → Prop} {m : GenM α} {f : α → GenM β}
    (hm : GenP P m) (hf : ∀ a, P a → GenP Q (f a)) : GenP Q (m >>= f) := Post.bind hm hf

theorem GenP.throw {α : Type} {P : α → Prop} (e : String) : GenP P (throw e : GenM α) := Post.throw

theorem GenP.of_run {α : Type} {P : α → Prop} {m : GenM α} (g : Nat → α) (n : Nat → Nat)
    (hrun : ∀ k, m.run k = .ok (g k, n k)) (h : ∀ k, P (g k)) : GenP P m := by
  intro k a k' hr
  rw [hrun k] at hr
  cases hr
  exact h k

def MemFree (code : List Code) : Prop := ∀ c ∈ code, PcFree c = true

theorem MemFree.nil : MemFree [] := fun _ h => by simp at h

theorem MemFree.append {a b : List Code} (ha : MemFree a) (hb : MemFree b) : MemFree (a ++ b) :=
  fun c h => by
    rcases List.mem_append.1 h with h | h
    · exact ha c h
    · exact hb c h

theorem MemFree.cons {c : Code} {a : List Code} (hc : PcFree c = true) (ha : MemFree a) : MemFree (c :: a) :=
  fun d h => by
    rcases List.mem_cons.1 h with h | h
    · rw [h]; exact hc
    · exact ha d h

theorem memFree_of_all {l : List Code} (h : l.all PcFree = true) : MemFree l := by
  rw [List.all_eq_true] at h
  exact h

abbrev GenFree (m : GenM (List Code)) : Prop := GenP MemFree m

theorem memFree_skip {r : Register} {body : List Code} {l : String} (hb : MemFree body) :
    MemFree ([.BEQ r ZERO l] ++ body ++ [.LAB l]) :=
  ((memFree_of_all rfl).append hb).append (memFree_of_all rfl)

theorem skipIfZero_free (r : Register) {body : List Code} (hb : MemFree body) : GenFree (skipIfZero r body) :=
  GenP.of_run _ _ (skipIfZero_run r body) (fun _ => memFree_skip hb)

theorem memFree_eraseBlockCode (r : Register) (l1 l2 l3 : String) : MemFree (eraseBlockCode r l1 l2 l3) :=
  memFree_of_all rfl

/-- code of memory.rs can be run item by item: it never reads the program counter -/
theorem _root_.Scc.RV.Mem.Blk.memFree {rok iok : Prop} {l : List Code} (h : Mem.Blk rok iok l) : MemFree l :=
  Scc.Backend.Blk.forall (S := Mem.syn) (P := fun c => PcFree c = true)
    (fun c hl => by
      cases hl with
      | com _ => rfl
      | instr hf _ _ => cases c <;> first | rfl | cases hf)
    (fun _ _ _ => rfl) (fun _ => rfl) (fun _ => rfl) h

theorem eraseBlock_free (r : Register) : GenFree (eraseBlock r) :=
  fun _ _ _ h => (Mem.blk_eraseBlock r h).memFree

theorem shareBlockN_free (r : Register) (n : Nat) : GenFree (shareBlockN r n) :=
  fun _ _ _ h => (Mem.blk_shareBlockN r n h).memFree

theorem acquireBlock_free (nb at' : Register) : GenFree (acquireBlock nb at') := fun k _ _ h => by
  rw [Mem.acquireBlock_run] at h
  cases h
  exact (Mem.blk_acquireBlockC (iok := True) nb at' k).memFree

theorem pred1_triv (ff : Nat) : GenP (fun _ => True) (pred1 ff) := GenP.triv _

theorem store_free (toStore rem : Ctx) : GenFree (store toStore rem) :=
  fun _ _ _ h => (Mem.blk_store toStore rem h).memFree

theorem load_free (toLoad existing : Ctx) : GenFree (load toLoad existing) :=
  fun _ _ _ h => (Mem.blk_load toLoad existing h).memFree

theorem labName_ne_cleanup (n : Nat) : labName n ≠ "cleanup" := by
  intro h
  have h2 := congrArg String.toList h
  unfold labName at h2
  simp only [String.toList_append] at h2
  have h3 : ("lab" : String).toList = ['l', 'a', 'b'] := rfl
  have h4 : ("cleanup" : String).toList = ['c', 'l', 'e', 'a', 'n', 'u', 'p'] := rfl
  rw [h3, h4] at h2
  simp at h2

theorem mem_stripComments {c : Code} {codes : List Code} (h : c ∈ stripComments codes) :
    c ∈ codes ∧ c.isComment = false := by
  simp only [stripComments, List.mem_filter, Bool.not_eq_true'] at h
  exact h

/-- code of memory.rs — free of uses of the own address, its labels fresh — can be run item by item -/
theorem runnable_strip {codes : List Code} {lo hi : Nat} (hf : MemFree codes) (hl : LabsIn codes lo hi) :
    Runnable (stripComments codes) := by
  refine ⟨fun c hc => (mem_stripComments hc).2, fun c hc => hf c (mem_stripComments hc).1, fun hc => ?_⟩
  obtain ⟨n, e, _, _⟩ := hl _ (mem_stripComments hc).1
  exact labName_ne_cleanup n e.symm

/-- a block of memory.rs that `execFwd` runs to its end is run by the machine's loop -/
theorem mem_block_runs (p : Program) (cfg : MonCfg) {codes : List Code} {lo hi : Nat} {st s' : State}
    (hf : MemFree codes) (hl : LabsIn codes lo hi) (hb : BlockAt p st.pc (stripComments codes))
    (hx : execFwd cfg p.labelAddr codes st = .ok (s', .fall)) :
    ∃ n steps', ∀ fuel, runLoop p cfg (fuel + n) st =
      runLoop p cfg fuel (setPS s' (st.pc + (stripComments codes).length) steps') :=
  run_fwd_block p cfg codes st s' hb (runnable_strip hf hl) hx

end Scc.RV
