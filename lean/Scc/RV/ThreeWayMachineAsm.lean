/-
  Scc.RV.ThreeWayMachineAsm — `machine`: the fields of ThreeWayMachine.lean (blocks) and of
  ThreeWayMachineStraight.lean (straight-line methods) assembled into THE RV64 INSTANCE of `Machine rvBackend`
  (Scc/Backend/ThreeWayStep.lean), for the statement whose code is `items`.  Runs are `Reach` / `ReachP` (Scc/RV/RefBridge.lean;
  RV64 has no hooks in its runs), every comment is passed, a label is passed unless it is `cleanup`, every literal is
  materialised, `print` has no code.
-/
import Scc.RV.ThreeWayMachineStraight

namespace Scc.RV.Ref

open Scc.Backend
open Scc.Heap (HState InvS InvW)
open Scc.Heap.Refine (HRef imgW FrLe)
open Scc.Backend.ThreeWay (XAt)

section
variable {mc : MonCfg} {pr : RV.Program} {ks : List Code} (L : Loaded pr ks) (hndL : (labs ks).Nodup)
  (hheap : mc.heap = false) (items : List Code)

def machine : ThreeWay.Machine rvBackend where
  toTarget := target mc pr.labelAddr
  cs := items
  pcAt := pcAtR ks items
  RunS _ st _ st' := Reach pr mc st st'
  RunH _ st _ st' := Reach pr mc st st'
  runS_refl := fun _ s => Reach.refl _ _ s
  runS_trans := fun h1 h2 => h1.trans h2
  runH_trans := fun h1 h2 => h1.trans h2
  RunSR _ st _ st' := ReachP pr mc st st'
  RunHR _ st _ st' := ReachP pr mc st st'
  runH_transR := fun h1 h2 => h1.transP h2
  runHR_trans := fun h1 h2 => h1.trans_reach h2
  runHR_runH := fun h => h.reach
  NoHook := NoHookR
  CommentOK := fun _ => True
  commentOK_of_mm := fun _ => trivial
  vt := rv_vt
  lift := fun hat hpc hx hn B' => rv_lift L hndL hheap hat hpc hx hn B'
  noHook_erase := noHookR_erase
  noHook_share := noHookR_share
  noHook_store := noHookR_store
  noHook_load := noHookR_load
  load_nil := fun _ _ => rfl
  run_comment := fun hat hpc h B => rv_run_comment L hndL hheap hat hpc h B
  run_c0 := fun hat hpc h B => rv_run_c0 L hndL hheap hat hpc h B
  LabelOK := fun l => l ≠ "cleanup"
  labelOK_fresh := fun n => labName_ne_cleanup n
  labelOK_def := fun s => defLabel_ne_cleanup s
  labelOK_table := fun a b => table_ne_cleanup a b
  run_label := fun hat hpc hl B => rv_run_label L hat hpc hl B
  immOK := fun _ => True
  loadImm := fun hat hpc B ht h => rv_loadImm L hndL hheap hat hpc B ht h
  binop := fun hat hpc B h1 _ _ h4 h5 h6 => rv_binop L hndL hheap hat hpc B h1 h4 h5 h6
  print := fun h => (rv_print h).elim
  jumpIf := fun hat hl hpc B _ _ h3 h4 => rv_jumpIf L hndL hat hl hpc B h3 h4
  jumpLabel := fun hat hl hpc B => rv_jumpLabel L hndL hat hl hpc B
  jumpIfZero := fun hat hl hpc B _ h2 => rv_jumpIfZero L hndL hat hl hpc B h2
  exchange := fun h hat hpc B hscr htv => by
    obtain ⟨ops, hops, hf⟩ := rv_exchange L hndL hheap h hat hpc B hscr htv
    refine ⟨ops, hops, fun hc => ?_⟩
    obtain ⟨cfg', st', a1, a2, a3, a4, a5, a6⟩ := hf hc
    exact ⟨cfg', st', a1, a2, a3, a4, a5, fun _ h => h, a6⟩

end

end Scc.RV.Ref
