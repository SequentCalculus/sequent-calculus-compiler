/-
  Scc.RV.ConcAllFuel — EVERY AMOUNT OF MACHINE FUEL, runs that do not terminate included, ALL PROGRAMS, on RV64.
  PROGRESS: every `call` and every `invoke` makes the machine consume at least one unit of fuel (`ReachP`,
  Scc/RV/RefBridge.lean; `StepSim3P`, RefRun.lean: counted by `Track.run`), and a run of the positional machine
  that is still going after `N·(M + 1) + |stmt|` steps has executed `N` of them (`weight_ge`,
  Scc/AxCut/PosProgress.lean): the machine consumes at least `N` units of fuel WITHOUT FAULT.  With the facts
  about the run loop for every amount of fuel (a run that does not fault in a smaller heap is the same run in a
  larger heap: `runLoop_eq_tight`) this gives the result of the machine for every fuel.
-/
import Scc.RV.ConcData
import Scc.AxCut.PosProgress
import Scc.X86.ConcAllFuel

namespace Scc.RV.Conc

open Scc.AxCut Scc.Backend Scc.RV.Ref
open Scc.Props.C14Generic (LabelSafe)
open Scc.Props.C06Generic (outAfter WithinCapacity Reachable EnoughHeap CodeFits statesOf stopsWithin)
open Scc.Heap (HState InvS InvW Exhausted)
open Scc.Heap.Refine (HRef FrLe Room FrPk)
open Scc.X86.Conc (FrBound LiveLe LiveLe0 frBound_init valsFields stmtSize clausesSize stmtSize_pos clausesSize_nth
  run_eq_runState)
open Scc.X86.Ref.K (allocArity AllocLe AllocLeClauses ValAll valAll_ints hered_step hered_allocLe allocArity_le)
open Scc.X86.Conc (weight_ge)

/-- fewer units of fuel than the machine consumes without ending the run: `outOfFuel` -/
theorem runLoop_outOfFuel (p : Program) (mc : MonCfg) (f n : Nat) (s X : State) (hX : stepN p mc n s = .inl X)
    (hn : f ≤ n) : (runLoop p mc f s).res = .outOfFuel := by
  have e : n = f + (n - f) := by omega
  rw [e] at hX
  obtain ⟨s1, h1, _⟩ := stepN_split p mc f (n - f) hX
  rw [runLoop_eq_stepN, h1]
  rfl

/-- once the run has ended it has ended with the same result for every larger amount of fuel -/
theorem stepN_inr_mono (p : Program) (mc : MonCfg) : ∀ (k : Nat) {s : State} {r : RunResult},
    stepN p mc k s = .inr r → ∀ m, k ≤ m → stepN p mc m s = .inr r
  | 0, s, r, h, _, _ => by simp [stepN] at h
  | k + 1, s, r, h, m, hm => by
    obtain ⟨m', rfl⟩ : ∃ m', m = m' + 1 := ⟨m - 1, by omega⟩
    simp only [stepN] at h ⊢
    cases hs : step p mc s with
    | inr r' => rw [hs] at h; exact h
    | inl s1 =>
      rw [hs] at h
      simp only
      exact stepN_inr_mono p mc k h m' (by omega)

/-- a run that ends with `done v` for some amount of fuel gives `outOfFuel` or `done v` for every amount -/
theorem runLoop_res_of_done {p : Program} {mc : MonCfg} {s : State} {f0 : Nat} {v : Word}
    (h : (runLoop p mc f0 s).res = .done v) (f : Nat) :
    (runLoop p mc f s).res = .outOfFuel ∨ (runLoop p mc f s).res = .done v := by
  rw [runLoop_eq_stepN] at h
  rw [runLoop_eq_stepN]
  cases h0 : stepN p mc f0 s with
  | inl s0 => rw [h0] at h; cases h
  | inr r =>
    rw [h0] at h
    cases hf : stepN p mc f s with
    | inl s1 => exact Or.inl rfl
    | inr r' =>
      right
      simp only
      have e1 := stepN_inr_mono p mc f0 h0 (max f0 f) (Nat.le_max_left _ _)
      have e2 := stepN_inr_mono p mc f hf (max f0 f) (Nat.le_max_right _ _)
      rw [e1] at e2
      injection e2 with e2
      rw [← e2]; exact h

theorem stepInstr_inr_mhw {p : Program} {mc : MonCfg} {s : State} {it : Item} {r : RunResult}
    (h : stepInstr p mc s it = .inr r) (hs : MhwOK mc s) : r.maxHeapWritten ≤ mc.heapBytes := by
  unfold stepInstr at h
  cases hx : exec mc p.labelAddr it.addr it.code s with
  | error e =>
    rw [hx] at h
    simp only [Sum.inr.injEq] at h
    rw [← h]; exact hs
  | ok r' =>
    obtain ⟨s1, next⟩ := r'
    rw [hx] at h; dsimp only at h
    have h1 : MhwOK mc s1 := (exec_mhw hx).2 hs
    cases next with
    | fall => cases h
    | label l =>
      dsimp only at h
      cases hl : p.labelIdx[l]? with
      | none =>
        rw [hl] at h
        simp only [Sum.inr.injEq] at h
        rw [← h]; exact h1
      | some i => rw [hl] at h; cases h
    | addr a =>
      dsimp only at h
      cases hl : p.addrIdx[a.toNat]? with
      | none =>
        rw [hl] at h
        simp only [Sum.inr.injEq] at h
        rw [← h]; exact h1
      | some i => rw [hl] at h; cases h

/-- the result record of a step that ends the run (heap monitor off) carries a `maxHeapWritten` inside the heap
region -/
theorem step_inr_mhw {p : Program} {mc : MonCfg} (hheap : mc.heap = false) {s : State} {r : RunResult}
    (h : step p mc s = .inr r) (hs : MhwOK mc s) : r.maxHeapWritten ≤ mc.heapBytes := by
  cases hit : p.items[s.pc]? with
  | none =>
    rw [step_none hit] at h
    simp only [Sum.inr.injEq] at h
    rw [← h]; exact hs
  | some it =>
    rcases code_kind it.code with ⟨l, hc⟩ | ⟨m, hc⟩ | hi
    · rw [step_lab hit hc] at h
      unfold stepLab at h
      split at h
      · cases hr : s.readReg RETURN1 with
        | ok w =>
          rw [hr] at h
          simp only [Sum.inr.injEq] at h
          rw [← h]; exact hs
        | error e =>
          rw [hr] at h
          simp only [Sum.inr.injEq] at h
          rw [← h]; exact hs
      · cases h
    · rw [step_hook hit hc] at h
      unfold stepHook at h
      rw [hheap] at h
      cases hr : it.roots with
      | none => rw [hr] at h; cases h
      | some rs =>
        rw [hr] at h
        simp only [Bool.false_eq_true, if_false] at h
        cases h
    · rw [step_instr hit hi] at h
      exact stepInstr_inr_mhw h hs

/-- EVERY AMOUNT OF FUEL (heap monitor off): the machine's record of the highest heap address written lies inside
the heap region -/
theorem runLoop_mhw {p : Program} {mc : MonCfg} (hheap : mc.heap = false) : ∀ (f : Nat) (s : State),
    MhwOK mc s → (runLoop p mc f s).maxHeapWritten ≤ mc.heapBytes
  | 0, s, hs => by rw [runLoop_zero]; exact hs
  | f + 1, s, hs => by
    rw [runLoop_succ]
    cases hst : step p mc s with
    | inl s1 => exact runLoop_mhw hheap f s1 ((step_mhw hheap hst).2 hs)
    | inr r => exact step_inr_mhw hheap hst hs

theorem step_inr_not_outOfFuel {p : Program} {mc : MonCfg} (hheap : mc.heap = false) {s : State} {r : RunResult}
    (hst : step p mc s = .inr r) : r.res ≠ .outOfFuel := by
  intro h
  cases hit : p.items[s.pc]? with
  | none =>
    rw [step_none hit] at hst
    simp only [Sum.inr.injEq] at hst
    rw [← hst] at h; cases h
  | some it =>
    rcases code_kind it.code with ⟨l, hc⟩ | ⟨m, hc⟩ | hi
    · rw [step_lab hit hc] at hst
      unfold stepLab at hst
      split at hst
      · cases hr : s.readReg RETURN1 with
        | ok w =>
          rw [hr] at hst
          simp only [Sum.inr.injEq] at hst
          rw [← hst] at h; cases h
        | error e =>
          rw [hr] at hst
          simp only [Sum.inr.injEq] at hst
          rw [← hst] at h; cases h
      · cases hst
    · rw [step_hook hit hc] at hst
      unfold stepHook at hst
      rw [hheap] at hst
      cases hr : it.roots with
      | none => rw [hr] at hst; cases hst
      | some rs =>
        rw [hr] at hst
        simp only [Bool.false_eq_true, if_false] at hst
        cases hst
    · rw [step_instr hit hi] at hst
      unfold stepInstr at hst
      cases hx : exec mc p.labelAddr it.addr it.code s with
      | error e =>
        rw [hx] at hst
        simp only [Sum.inr.injEq] at hst
        rw [← hst] at h; cases h
      | ok r' =>
        obtain ⟨s1, next⟩ := r'
        rw [hx] at hst; dsimp only at hst
        cases next with
        | fall => cases hst
        | label l =>
          dsimp only at hst
          cases hl : p.labelIdx[l]? with
          | none =>
            rw [hl] at hst
            simp only [Sum.inr.injEq] at hst
            rw [← hst] at h; cases h
          | some i => rw [hl] at hst; cases hst
        | addr a =>
          dsimp only at hst
          cases hl : p.addrIdx[a.toNat]? with
          | none =>
            rw [hl] at hst
            simp only [Sum.inr.injEq] at hst
            rw [← hst] at h; cases h
          | some i => rw [hl] at hst; cases hst

theorem stepN_inr_not_outOfFuel {p : Program} {mc : MonCfg} (hheap : mc.heap = false) : ∀ (k : Nat) {s : State}
    {r : RunResult}, stepN p mc k s = .inr r → r.res ≠ .outOfFuel
  | 0, s, r, h => by cases h
  | k + 1, s, r, h => by
    rw [stepN] at h
    cases hst : step p mc s with
    | inl s1 => rw [hst] at h; exact stepN_inr_not_outOfFuel hheap k h
    | inr r' =>
      rw [hst] at h
      injection h with h
      subst h
      exact step_inr_not_outOfFuel hheap hst

/-- a run that does not fault in the smaller heap (it runs out of fuel or ends with `done`) is the same run in the
larger heap -/
theorem runLoop_eq_tight {mc' mc : MonCfg} (S : Sub mc' mc) (p : Program) (f : Nat) (s : State)
    (h : (runLoop p mc' f s).res = .outOfFuel ∨ ∃ v, (runLoop p mc' f s).res = .done v) :
    runLoop p mc f s = runLoop p mc' f s := by
  rcases h with h | ⟨v, h⟩
  · rw [runLoop_eq_stepN] at h
    rw [runLoop_eq_stepN, runLoop_eq_stepN p mc']
    cases h0 : stepN p mc' f s with
    | inl s1 => rw [stepN_mono S f h0]
    | inr r =>
      rw [h0] at h
      exact absurd h (stepN_inr_not_outOfFuel S.heap' f h0)
  · exact runLoop_larger_heap S p f s v h

/-- what `runLines` does: the lines do not load / there is no label / too many arguments (a fault before the run),
or the run loop from the initial state -/
theorem runLines_cases (lines : List (Nat × Code)) (args : List Word) (mc : MonCfg) :
    (∀ f, (runLines lines args f mc).maxHeapWritten = 0 ∧ ∃ e ln, (runLines lines args f mc).res = .fault e ln) ∨
    ∃ pr e regs, layout lines = .ok pr ∧ pr.entry = some e ∧ entryRegs args = some regs := by
  cases hlay : layout lines with
  | error e =>
    left; intro f
    unfold runLines
    rw [hlay]
    exact ⟨rfl, _, _, rfl⟩
  | ok pr =>
    cases he : pr.entry with
    | none =>
      left; intro f
      unfold runLines
      rw [hlay]
      simp only [runProgram, he]
      exact ⟨trivial, _, _, rfl⟩
    | some e =>
      cases hr : entryRegs args with
      | none =>
        left; intro f
        unfold runLines
        rw [hlay]
        simp only [runProgram, he, hr]
        exact ⟨trivial, _, _, rfl⟩
      | some regs => right; exact ⟨pr, e, regs, rfl, he, rfl⟩

theorem runLines_mhw (lines : List (Nat × Code)) (args : List Word) (f : Nat) (mc : MonCfg) (hheap : mc.heap = false) :
    (runLines lines args f mc).maxHeapWritten ≤ mc.heapBytes := by
  rcases runLines_cases lines args mc with h | ⟨pr, e, regs, hlay, he, hregs⟩
  · rw [(h f).1]; exact Nat.zero_le _
  · rw [runLines_eq hlay he hregs]
    exact runLoop_mhw hheap f _ (mhwOK_init mc regs e)

/-- a run on the lines that does not fault in the smaller heap is the same run in the larger heap -/
theorem runLines_eq_tight {mc' mc : MonCfg} (S : Sub mc' mc) (lines : List (Nat × Code)) (args : List Word)
    (f : Nat)
    (h : (runLines lines args f mc').res = .outOfFuel ∨ ∃ v, (runLines lines args f mc').res = .done v) :
    runLines lines args f mc = runLines lines args f mc' := by
  rcases runLines_cases lines args mc' with h0 | ⟨pr, e, regs, hlay, he, hregs⟩
  · obtain ⟨_, e, ln, hres⟩ := h0 f
    rcases h with h | ⟨v, h⟩ <;> (rw [hres] at h; cases h)
  · rw [runLines_eq hlay he hregs] at h ⊢
    rw [runLines_eq hlay he hregs]
    exact runLoop_eq_tight S pr f _ h

/-- progress from the initial state (for any source of the peak hypothesis) -/
theorem programs_progress_gen (p : AxCut.Prog) (args : List Word) (hooks : Bool) (instrs hdr : List Code)
    (nargs cX : Nat) (d0 : Def) (ops : List MockOp) (c' : Nat)
    (hsafe : LabelSafe p = true) (htp : LinTypedProg p)
    (hcompM : (compile mockSym hooks p).run 0 = .ok ((ops, nargs), c')) (hfit : CodeFits ops)
    {cX0 : Nat} (hcompX : (compile rvBackend hooks p).run cX0 = .ok ((instrs, nargs), cX))
    (hnd : (labs (instrs ++ [Code.LAB "cleanup"])).Nodup) (hfitX : codeBase + 4 * instrs.length < 2 ^ 64)
    (hd : p.defs.head? = some d0) (hentry : ∀ b ∈ d0.ctx, b.chi = .ext ∧ b.ty = .i64)
    (hlen : d0.ctx.length = args.length)
    (hcap : ∀ st, Reachable p ⟨d0.ctx, args.map .int, d0.body⟩ st → st.ctx.length ≤ 14)
    (fuel : Nat) (hfuel : fuel + 1 < 2 ^ 64)
    (mc : MonCfg) (hheap : mc.heap = false) (htop : heapBase + mc.heapBytes ≤ 2 ^ 63)
    (Pk A M : Nat) (hA : ∀ d ∈ p.defs, AllocLe A d.body) (hM : ∀ d ∈ p.defs, stmtSize d.body ≤ M)
    (hbytes : 64 * (Pk + A + 2) ≤ mc.heapBytes)
    (lines : List (Nat × Code)) (hhdr : ∀ c ∈ hdr, c.isComment = true)
    (hlines : (lines.map (·.2)).map stripC = (hdr ++ instrs ++ [Code.LAB "cleanup"]).map stripC)
    (hhook : ∀ x ∈ lines, ¬ badHook x.2)
    (hP : ∀ pr e regs, layout lines = .ok pr → pr.entry = some e → entryRegs args = some regs →
      PeakHyp p hooks (keptOf lines) ops mc pr (initState regs e) d0 args Pk (A * fuel + 1))
    (hrun : (Pos.runState p fuel ⟨d0.ctx, args.map .int, d0.body⟩ []).res = .outOfFuel)
    (N : Nat) (hN : N * (M + 1) + stmtSize d0.body ≤ fuel) :
    ∃ pr e regs, layout lines = .ok pr ∧ pr.entry = some e ∧ entryRegs args = some regs ∧
      ∃ n X, N ≤ n ∧ stepN pr mc n (initState regs e) = .inl X := by
  have hmem : d0 ∈ p.defs := List.mem_of_mem_head? hd
  have hc0 := hcap _ Reachable.refl
  simp only at hc0
  obtain ⟨pr, ic, e, regs, X0, a, En⟩ := entry_setup p args hooks instrs hdr nargs cX d0 ops c' hsafe htp hcompM
    hcompX hnd hfitX hd hentry hlen hc0 mc htop (by omega) lines hhdr hlines hhook
  obtain ⟨_, _, _, _, n, X, _, hX, hw, _⟩ := (Track.peakTrack (En.boundaries hheap hcompM hsafe htp hfit) hA
    hbytes).run fuel 0 _ _ _ (En.peakRun hcap hmem hA hbytes (hP pr e regs En.lay En.entry En.hregs 1 X0 En.steps)
      hfuel (Nat.le_refl _))
  have hN' := weight_ge hM fuel N _ [] (hM d0 hmem) (valAll_ints _ args) hrun hN
  exact ⟨pr, e, regs, En.lay, En.entry, En.hregs, 1 + n, X, by omega, stepN_trans pr mc En.steps hX⟩

/-- EVERY AMOUNT OF MACHINE FUEL (heap monitor off), all programs, for any source of the peak hypothesis: the
result of the machine on the lines of the routine is `outOfFuel`, or `done v` with `v` the result of the
positional machine — provided the positional machine never gets stuck (no division by zero / overflow) -/
theorem programs_all_fuel_gen (p : AxCut.Prog) (args : List Word) (hooks : Bool) (instrs hdr : List Code)
    (nargs cX : Nat) (d0 : Def) (ops : List MockOp) (c' : Nat)
    (hsafe : LabelSafe p = true) (htp : LinTypedProg p)
    (hcompM : (compile mockSym hooks p).run 0 = .ok ((ops, nargs), c')) (hfit : CodeFits ops)
    {cX0 : Nat} (hcompX : (compile rvBackend hooks p).run cX0 = .ok ((instrs, nargs), cX))
    (hnd : (labs (instrs ++ [Code.LAB "cleanup"])).Nodup) (hfitX : codeBase + 4 * instrs.length < 2 ^ 64)
    (hd : p.defs.head? = some d0) (hentry : ∀ b ∈ d0.ctx, b.chi = .ext ∧ b.ty = .i64)
    (hlen : d0.ctx.length = args.length)
    (hcap : ∀ st, Reachable p ⟨d0.ctx, args.map .int, d0.body⟩ st → st.ctx.length ≤ 14)
    (hnostuck : ∀ fuel w, (Pos.run p args fuel).res ≠ .stuck w)
    (mc : MonCfg) (hheap : mc.heap = false) (htop : heapBase + mc.heapBytes ≤ 2 ^ 63)
    (Pk A M : Nat) (hA : ∀ d ∈ p.defs, AllocLe A d.body) (hM : ∀ d ∈ p.defs, stmtSize d.body ≤ M)
    (hbytes : 64 * (Pk + A + 2) ≤ mc.heapBytes)
    (lines : List (Nat × Code)) (hhdr : ∀ c ∈ hdr, c.isComment = true)
    (hlines : (lines.map (·.2)).map stripC = (hdr ++ instrs ++ [Code.LAB "cleanup"]).map stripC)
    (hhook : ∀ x ∈ lines, ¬ badHook x.2)
    (fuel' : Nat) (hf : fuel' * (M + 1) + stmtSize d0.body + 1 < 2 ^ 64)
    (hP : ∀ pr e regs, layout lines = .ok pr → pr.entry = some e → entryRegs args = some regs →
      PeakHyp p hooks (keptOf lines) ops mc pr (initState regs e) d0 args Pk
        (A * (fuel' * (M + 1) + stmtSize d0.body) + 1)) :
    (runLines lines args fuel' mc).res = .outOfFuel ∨
      ∃ v, (Pos.run p args (fuel' * (M + 1) + stmtSize d0.body)).res = .done v ∧
        (runLines lines args fuel' mc).res = .done v := by
  have hrs := run_eq_runState hd hlen (fuel' * (M + 1) + stmtSize d0.body)
  cases hres : (Pos.run p args (fuel' * (M + 1) + stmtSize d0.body)).res with
  | stuck w => exact absurd hres (hnostuck (fuel' * (M + 1) + stmtSize d0.body) w)
  | done v =>
    obtain ⟨f0, h2, _⟩ := programs_peak_gen_lines p args hooks instrs hdr nargs cX d0 ops c' hsafe htp
      hcompM hfit hcompX hnd hfitX hd hentry hcap _ v hf hres mc hheap htop Pk A hA hbytes lines hhdr hlines hhook hP
    rcases runLines_cases lines args mc with h0 | ⟨pr, e, regs, hlay, he, hregs⟩
    · obtain ⟨_, e, ln, hr⟩ := h0 f0
      rw [hr] at h2; cases h2
    · rw [runLines_eq hlay he hregs] at h2 ⊢
      rcases runLoop_res_of_done h2 fuel' with h | h
      · exact Or.inl h
      · exact Or.inr ⟨v, rfl, h⟩
  | outOfFuel =>
    left
    rw [hrs] at hres
    obtain ⟨pr, e, regs, hlay, he, hregs, n, X, hn, hX⟩ := programs_progress_gen p args hooks instrs hdr nargs cX d0
      ops c' hsafe htp hcompM hfit hcompX hnd hfitX hd hentry hlen hcap _ hf mc hheap htop Pk A M hA hM hbytes lines
      hhdr hlines hhook hP hres fuel' (Nat.le_refl _)
    rw [runLines_eq hlay he hregs]
    exact runLoop_outOfFuel pr mc fuel' n _ X hX hn

/-- EVERY AMOUNT OF MACHINE FUEL under a bound `D` on the fields of the object and closure values of the
positional machine's environments, all programs: the machine on the lines of the routine, in ANY heap of at
least `64·(D + A + 2)` bytes, ends in `outOfFuel` or in `done v` (the result of the positional machine), and
never writes above `64·(D + A + 2)` bytes of its heap -/
theorem programs_dsize_all (p : AxCut.Prog) (args : List Word) (hooks : Bool) (instrs hdr : List Code)
    (nargs cX : Nat) (d0 : Def) (ops : List MockOp) (c' : Nat)
    (hsafe : LabelSafe p = true) (htp : LinTypedProg p)
    (hcompM : (compile mockSym hooks p).run 0 = .ok ((ops, nargs), c')) (hfit : CodeFits ops)
    {cX0 : Nat} (hcompX : (compile rvBackend hooks p).run cX0 = .ok ((instrs, nargs), cX))
    (hnd : (labs (instrs ++ [Code.LAB "cleanup"])).Nodup) (hfitX : codeBase + 4 * instrs.length < 2 ^ 64)
    (hd : p.defs.head? = some d0) (hentry : ∀ b ∈ d0.ctx, b.chi = .ext ∧ b.ty = .i64)
    (hlen : d0.ctx.length = args.length)
    (hcap : ∀ st, Reachable p ⟨d0.ctx, args.map .int, d0.body⟩ st → st.ctx.length ≤ 14)
    (hnostuck : ∀ fuel w, (Pos.run p args fuel).res ≠ .stuck w)
    (D : Nat) (hD : ∀ st, Reachable p ⟨d0.ctx, args.map .int, d0.body⟩ st → valsFields st.env ≤ D)
    (mc : MonCfg) (hheap : mc.heap = false) (htop : heapBase + mc.heapBytes ≤ 2 ^ 63)
    (A M : Nat) (hA : ∀ d ∈ p.defs, AllocLe A d.body) (hM : ∀ d ∈ p.defs, stmtSize d.body ≤ M)
    (hbytes : 64 * (D + A + 2) ≤ mc.heapBytes)
    (lines : List (Nat × Code)) (hhdr : ∀ c ∈ hdr, c.isComment = true)
    (hlines : (lines.map (·.2)).map stripC = (hdr ++ instrs ++ [Code.LAB "cleanup"]).map stripC)
    (hhook : ∀ x ∈ lines, ¬ badHook x.2)
    (fuel' : Nat) (hf : fuel' * (M + 1) + stmtSize d0.body + 1 < 2 ^ 64) :
    ((runLines lines args fuel' mc).res = .outOfFuel ∨
      ∃ v, (Pos.run p args (fuel' * (M + 1) + stmtSize d0.body)).res = .done v ∧
        (runLines lines args fuel' mc).res = .done v) ∧
    (runLines lines args fuel' mc).maxHeapWritten ≤ 64 * (D + A + 2) := by
  -- the run in the heap cut down to `64·(D + A + 2)` bytes
  have htopt : heapBase + (withHeapBytes mc (64 * (D + A + 2))).heapBytes ≤ 2 ^ 63 := by
    show heapBase + 64 * (D + A + 2) ≤ 2 ^ 63
    exact Nat.le_trans (Nat.add_le_add_left hbytes heapBase) htop
  have hmt := runLines_mhw lines args fuel' (withHeapBytes mc (64 * (D + A + 2))) hheap
  have htight := programs_all_fuel_gen p args hooks instrs hdr nargs cX d0 ops c' hsafe htp hcompM hfit hcompX
    hnd hfitX hd hentry hlen hcap hnostuck (withHeapBytes mc (64 * (D + A + 2))) hheap htopt D A M hA hM
    (Nat.le_refl _) lines hhdr hlines hhook fuel' hf (fun _ _ _ _ _ _ => peakHyp_of_data hD)
  have e := runLines_eq_tight (sub_withHeapBytes hheap hbytes) lines args fuel' (by
    rcases htight with h | ⟨v, _, h⟩
    · exact Or.inl h
    · exact Or.inr ⟨v, h⟩)
  rw [e]
  exact ⟨htight, hmt⟩

end Scc.RV.Conc
