/-
  Scc.StringLemmasAscii — the core `String` functions used by the AArch64 / RISC-V assembly loaders
  (Scc/A64/Machine.lean `parseLine`, `parseReg`, `parseImm`, `parseHookVar`), characterised on
  `List Char`.  In Lean 4.33 these functions go through `String.Slice` and the `Pattern` machinery;
  every lemma here is proved from the core lemma files (Init/Data/String/Lemmas/*), nothing is assumed:

  * `trimList` and `toList_trimAscii : s.trimAscii.toString.toList = trimList s.toList`
    (`Slice.toList_copy_dropWhile`, `Slice.toList_copy_dropEndWhile` for every `Char → Bool` pattern);
    `trimList_indent`, `trimList_of_trimmed`, `trimList_idem`;
  * `startsWith_iff` / `endsWith_iff` (string pattern: `<+:` / `<:+` on the character lists), and the
    forms `startsWith_eq_decide`, `endsWith_eq_decide`, `endsWith_singleton_iff`;
  * `toList_drop`, `toList_dropEnd`, `toList_drop_dropEnd` (+ `.toString`);
  * `isEmpty_iff_toList`;
  * `isNatList`, `toNat?_eq` (`String.toNat?` for EVERY string: digits with `_` separators) and
    `toNat?_toDigits`;
  * `splitOn_space`, `splitOn_colon` (through `Scc.Str.splitOn_singleton`), `splitList_append_sep`,
    `intercalate_splitList` (`[c].intercalate (splitList c l) = l`), `intercalate_space`.
-/
import Scc.StringLemmas
import Std.Data.String.ToNat

namespace Scc.Str

open String String.Slice

set_option linter.unusedSimpArgs false

theorem dropWhile_append_of_all {p : Char → Bool} (a b : List Char) (ha : ∀ c ∈ a, p c = true)
    (hb : ∀ c, b.head? = some c → p c = false) : (a ++ b).dropWhile p = b := by
  rw [List.dropWhile_append_of_pos ha]
  cases b with
  | nil => rfl
  | cons x xs => exact List.dropWhile_cons_of_neg (by simp [hb x rfl])

theorem toList_copy_dropWhile (s : Slice) (p : Char → Bool) :
    (s.dropWhile p).copy.toList = s.copy.toList.dropWhile p := by
  have hchain := Pattern.Model.Pos.isLongestMatchAtChain_skipWhile p s.startPos
  rw [Pattern.Model.CharPred.isLongestMatchAtChain_iff_toList] at hchain
  obtain ⟨hle, hall⟩ := hchain
  have hsp := (s.startPos.skipWhile p).splits
  have heq : s.copy = _ := hsp.eq_append
  rw [Slice.slice_startPos] at hall
  show (s.sliceFrom (s.startPos.skipWhile p)).copy.toList = _
  conv => rhs; rw [heq, String.toList_append]
  symm
  apply dropWhile_append_of_all _ _ hall
  intro c hc
  by_cases hend : s.startPos.skipWhile p = s.endPos
  · have := (hsp.eq_endPos_iff).1 hend
    rw [this] at hc; simp at hc
  · obtain ⟨t, ht⟩ := hsp.exists_eq_singleton_append hend
    rw [ht] at hc
    simp at hc
    rw [← hc]
    exact Slice.Pos.apply_skipWhile_bool_eq_false

def dropEndWhileList (p : Char → Bool) (l : List Char) : List Char := (l.reverse.dropWhile p).reverse

theorem dropEndWhileList_append_of_all {p : Char → Bool} (a b : List Char) (hb : ∀ c ∈ b, p c = true)
    (ha : ∀ c, a.getLast? = some c → p c = false) : dropEndWhileList p (a ++ b) = a := by
  unfold dropEndWhileList
  rw [List.reverse_append, dropWhile_append_of_all b.reverse a.reverse (by simpa using hb)
    (by intro c hc; rw [List.head?_reverse] at hc; exact ha c hc), List.reverse_reverse]

theorem toList_copy_dropEndWhile (s : Slice) (p : Char → Bool) :
    (s.dropEndWhile p).copy.toList = dropEndWhileList p s.copy.toList := by
  have hchain := Pattern.Model.Pos.isLongestRevMatchAtChain_revSkipWhile p s.endPos
  rw [Pattern.Model.CharPred.isLongestRevMatchAtChain_iff_toList] at hchain
  obtain ⟨hle, hall⟩ := hchain
  have hsp := (s.endPos.revSkipWhile p).splits
  have heq : s.copy = _ := hsp.eq_append
  rw [Slice.slice_endPos] at hall
  show (s.sliceTo (s.endPos.revSkipWhile p)).copy.toList = _
  conv => rhs; rw [heq, String.toList_append]
  symm
  apply dropEndWhileList_append_of_all _ _ hall
  intro c hc
  by_cases hst : s.endPos.revSkipWhile p = s.startPos
  · have := (hsp.eq_startPos_iff).1 hst
    rw [this] at hc; simp at hc
  · obtain ⟨t, ht⟩ := hsp.exists_eq_append_singleton_of_ne_startPos hst
    rw [ht] at hc
    simp at hc
    rw [← hc]
    exact Slice.Pos.apply_revSkipWhile_bool_eq_false

theorem getLast?_append_ne_nil {a b : List Char} (hb : b ≠ []) : (a ++ b).getLast? = b.getLast? := by
  rw [List.getLast?_append]
  cases h : b.getLast? with
  | none => exact absurd (List.getLast?_eq_none_iff.1 h) hb
  | some c => rfl

/-- the text without its leading and trailing ASCII white space (` `, `\t`, `\r`, `\n`) -/
def trimList (l : List Char) : List Char := dropEndWhileList Char.isWhitespace (l.dropWhile Char.isWhitespace)

theorem toList_trimAscii_slice (s : Slice) : s.trimAscii.copy.toList = trimList s.copy.toList := by
  show ((s.dropWhile Char.isWhitespace).dropEndWhile Char.isWhitespace).copy.toList = _
  rw [toList_copy_dropEndWhile, toList_copy_dropWhile]; rfl

theorem toList_trimAscii (s : String) : s.trimAscii.toString.toList = trimList s.toList := by
  show s.toSlice.trimAscii.copy.toList = _
  rw [toList_trimAscii_slice, String.copy_toSlice]

theorem trimAscii_eq (s : String) : s.trimAscii.toString = String.ofList (trimList s.toList) := by
  rw [← toList_trimAscii, String.ofList_toList]

/-- a text without leading / trailing white space -/
def Trimmed (l : List Char) : Prop :=
  (∀ c, l.head? = some c → c.isWhitespace = false) ∧ (∀ c, l.getLast? = some c → c.isWhitespace = false)

theorem trimList_ws_append {w l : List Char} (hw : ∀ c ∈ w, c.isWhitespace = true) :
    trimList (w ++ l) = trimList l := by
  induction w with
  | nil => rfl
  | cons x xs ih =>
    unfold trimList
    simp only [List.cons_append, List.dropWhile, hw x (by simp)]
    exact ih (fun c hc => hw c (by simp [hc]))

theorem trimList_of_trimmed {l : List Char} (h : Trimmed l) : trimList l = l := by
  unfold trimList
  have h1 : l.dropWhile Char.isWhitespace = l := by
    simpa using dropWhile_append_of_all (p := Char.isWhitespace) [] l (by simp) h.1
  rw [h1]
  simpa using dropEndWhileList_append_of_all (p := Char.isWhitespace) l [] (by simp) h.2

theorem trimList_append_ws {l w : List Char} (hl : Trimmed l) (hw : ∀ c ∈ w, c.isWhitespace = true) :
    trimList (l ++ w) = l := by
  unfold trimList
  cases l with
  | nil =>
    have : (([] : List Char) ++ w).dropWhile Char.isWhitespace = [] := by
      simpa using dropWhile_append_of_all (p := Char.isWhitespace) w [] hw (by simp)
    rw [this]; rfl
  | cons x xs =>
    have hx : x.isWhitespace = false := hl.1 x rfl
    have h1 : ((x :: xs) ++ w).dropWhile Char.isWhitespace = (x :: xs) ++ w := by
      simp [List.dropWhile, hx]
    rw [h1]
    exact dropEndWhileList_append_of_all _ _ hw hl.2

theorem trimList_indent {l : List Char} (h : Trimmed l) : trimList (' ' :: ' ' :: ' ' :: ' ' :: l) = l := by
  have := trimList_ws_append (w := [' ', ' ', ' ', ' ']) (l := l) (by decide)
  simp only [List.cons_append, List.nil_append] at this
  rw [this, trimList_of_trimmed h]

theorem dropWhile_head_not {p : Char → Bool} (l : List Char) :
    ∀ c, (l.dropWhile p).head? = some c → p c = false := by
  intro c hc
  have := List.head?_dropWhile_not p l
  rwa [hc] at this

theorem dropEndWhileList_last_not {p : Char → Bool} (l : List Char) :
    ∀ c, (dropEndWhileList p l).getLast? = some c → p c = false := by
  intro c hc
  unfold dropEndWhileList at hc
  rw [List.getLast?_reverse] at hc
  exact dropWhile_head_not _ c hc

theorem dropWhile_suffix' {p : Char → Bool} (l : List Char) : ∃ a, l = a ++ l.dropWhile p :=
  ⟨l.takeWhile p, List.takeWhile_append_dropWhile.symm⟩

theorem dropEndWhileList_prefix {p : Char → Bool} (l : List Char) : ∃ b, l = dropEndWhileList p l ++ b := by
  obtain ⟨a, ha⟩ := dropWhile_suffix' (p := p) l.reverse
  refine ⟨a.reverse, ?_⟩
  unfold dropEndWhileList
  rw [← List.reverse_append, ← ha, List.reverse_reverse]

theorem trimmed_trimList (l : List Char) : Trimmed (trimList l) := by
  refine ⟨?_, dropEndWhileList_last_not _⟩
  intro c hc
  unfold trimList at hc
  obtain ⟨b, hb⟩ := dropEndWhileList_prefix (p := Char.isWhitespace) (l.dropWhile Char.isWhitespace)
  have hhead := dropWhile_head_not (p := Char.isWhitespace) l
  cases hd : dropEndWhileList Char.isWhitespace (l.dropWhile Char.isWhitespace) with
  | nil => rw [hd] at hc; simp at hc
  | cons x xs =>
    rw [hd] at hc hb
    simp only [List.head?_cons, Option.some.injEq] at hc
    subst hc
    exact hhead x (by rw [hb]; rfl)

theorem trimList_idem (l : List Char) : trimList (trimList l) = trimList l :=
  trimList_of_trimmed (trimmed_trimList l)

theorem trimAscii_idem (s : String) : s.trimAscii.toString.trimAscii.toString = s.trimAscii.toString := by
  apply String.ext
  rw [toList_trimAscii, toList_trimAscii, trimList_idem]

theorem trimList_nil : trimList [] = [] := rfl

theorem dropEndWhileList_append_all {p : Char → Bool} (a w : List Char) (hw : ∀ c ∈ w, p c = true) :
    dropEndWhileList p (a ++ w) = dropEndWhileList p a := by
  unfold dropEndWhileList
  rw [List.reverse_append, List.dropWhile_append_of_pos (by simpa using hw)]

theorem dropWhile_split {p : Char → Bool} (l : List Char) :
    ∃ a, l = a ++ l.dropWhile p ∧ ∀ c ∈ a, p c = true :=
  ⟨l.takeWhile p, List.takeWhile_append_dropWhile.symm, List.all_eq_true.1 List.all_takeWhile⟩

theorem dropEndWhileList_split {p : Char → Bool} (l : List Char) :
    ∃ w, l = dropEndWhileList p l ++ w ∧ ∀ c ∈ w, p c = true := by
  obtain ⟨a, ha, hall⟩ := dropWhile_split (p := p) l.reverse
  refine ⟨a.reverse, ?_, by simpa using hall⟩
  unfold dropEndWhileList
  rw [← List.reverse_append, ← ha, List.reverse_reverse]

theorem dropEndWhileList_append {p : Char → Bool} (a b : List Char) :
    dropEndWhileList p (a ++ b)
      = if dropEndWhileList p b = [] then dropEndWhileList p a else a ++ dropEndWhileList p b := by
  obtain ⟨w, hw, hall⟩ := dropEndWhileList_split (p := p) b
  have hlast := dropEndWhileList_last_not (p := p) b
  generalize dropEndWhileList p b = m at hw hlast
  subst hw
  by_cases hm : m = []
  · subst hm
    simp only [List.nil_append, if_true]
    exact dropEndWhileList_append_all a w hall
  · simp only [hm, if_false]
    rw [← List.append_assoc]
    apply dropEndWhileList_append_of_all _ _ hall
    intro c hc
    rw [List.getLast?_append] at hc
    cases hl : m.getLast? with
    | none => exact absurd (List.getLast?_eq_none_iff.1 hl) hm
    | some d => rw [hl] at hc; simp at hc; subst hc; exact hlast d hl

def rtrimList (l : List Char) : List Char := dropEndWhileList Char.isWhitespace l

theorem rtrimList_last (l : List Char) : ∀ c, (rtrimList l).getLast? = some c → c.isWhitespace = false :=
  dropEndWhileList_last_not l

theorem rtrimList_of_last {l : List Char} (h : ∀ c, l.getLast? = some c → c.isWhitespace = false) :
    rtrimList l = l := by
  unfold rtrimList
  simpa using dropEndWhileList_append_of_all (p := Char.isWhitespace) l [] (by simp) h

theorem trimList_of_head {l : List Char} (h : ∀ c, l.head? = some c → c.isWhitespace = false) :
    trimList l = rtrimList l := by
  unfold trimList rtrimList
  have h1 : l.dropWhile Char.isWhitespace = l := by
    simpa using dropWhile_append_of_all (p := Char.isWhitespace) [] l (by simp) h
  rw [h1]

theorem startsWith_iff (s pat : String) : s.startsWith pat = true ↔ pat.toList <+: s.toList :=
  String.startsWith_string_iff

theorem endsWith_iff (s pat : String) : s.endsWith pat = true ↔ pat.toList <:+ s.toList := by
  show s.toSlice.endsWith pat = true ↔ _
  rw [Slice.endsWith_string_iff, String.copy_toSlice]

theorem startsWith_eq_decide (s pat : String) : s.startsWith pat = decide (pat.toList <+: s.toList) := by
  rw [Bool.eq_iff_iff, startsWith_iff]; simp

theorem endsWith_eq_decide (s pat : String) : s.endsWith pat = decide (pat.toList <:+ s.toList) := by
  rw [Bool.eq_iff_iff, endsWith_iff]; simp

theorem endsWith_singleton_iff (s : String) (c : Char) :
    s.endsWith (String.singleton c) = true ↔ s.toList.getLast? = some c := by
  rw [endsWith_iff, String.toList_singleton]
  constructor
  · rintro ⟨t, ht⟩; rw [← ht]; simp
  · intro h
    obtain ⟨t, ht⟩ : ∃ t, s.toList = t ++ [c] := by
      cases hl : s.toList.reverse with
      | nil => rw [List.reverse_eq_nil_iff] at hl; rw [hl] at h; simp at h
      | cons x xs =>
        have : s.toList = xs.reverse ++ [x] := by
          rw [← List.reverse_reverse s.toList, hl]; simp
        rw [this] at h
        simp at h
        exact ⟨xs.reverse, by rw [this, h]⟩
    exact ⟨t, ht.symm⟩

theorem toList_drop (s : String) (n : Nat) : (s.drop n).toString.toList = s.toList.drop n :=
  String.toList_copy_drop

theorem toList_dropEnd (s : String) (n : Nat) :
    (s.dropEnd n).toString.toList = s.toList.take (s.toList.length - n) :=
  String.toList_copy_dropEnd

/-- `((s.drop m).dropEnd n).toString` as the loader writes it (`dropEnd` on the slice) -/
theorem toList_drop_dropEnd (s : String) (m n : Nat) :
    ((s.drop m).dropEnd n).toString.toList = (s.toList.drop m).take ((s.toList.drop m).length - n) := by
  show ((s.drop m).dropEnd n).copy.toList = _
  rw [Slice.toList_copy_dropEnd, String.toList_copy_drop]

theorem take_length_sub_one_append (a : List Char) (c : Char) :
    (a ++ [c]).take ((a ++ [c]).length - 1) = a := by
  simp

theorem isEmpty_iff_toList (s : String) : s.isEmpty = true ↔ s.toList = [] := by
  rw [String.isEmpty_iff, String.toList_eq_nil_iff]

theorem isEmpty_ofList (l : List Char) : (String.ofList l).isEmpty = l.isEmpty := by
  rw [Bool.eq_iff_iff, isEmpty_iff_toList, String.toList_ofList]; simp

/-- `String.Slice.isNat` on a list of characters: digits, single `_` separators between digits -/
def isNatList : List Char → Bool → Bool
  | [], last => last
  | c :: cs, last =>
    if c = '_' then (if !last then false else isNatList cs false)
    else if c.isDigit then isNatList cs true
    else false

def natOfList (l : List Char) : Nat :=
  l.foldl (fun n c => if c = '_' then n else n * 10 + (c.toNat - '0'.toNat)) 0

def isNatLoop : List Char → Bool → Option Bool × Bool
  | [], last => (none, last)
  | c :: cs, last =>
    if c = '_' then (if !last then (some false, last) else isNatLoop cs false)
    else if c.isDigit then isNatLoop cs true
    else (some false, last)

theorem isNatLoop_forIn (l : List Char) (last : Bool) :
    (forIn (m := Id) l ((none : Option Bool), last) fun c __s =>
        have lastWasDigit := __s.snd;
        if c = '_' then
          if (!lastWasDigit) = true then pure (ForInStep.done (some false, lastWasDigit))
          else
            have lastWasDigit := false;
            pure (ForInStep.yield (none, lastWasDigit))
        else
          if c.isDigit = true then
            have lastWasDigit := true;
            pure (ForInStep.yield (none, lastWasDigit))
          else pure (ForInStep.done (some false, lastWasDigit)))
      = pure (isNatLoop l last) := by
  induction l generalizing last with
  | nil => rfl
  | cons c cs ih =>
    rw [List.forIn_cons]
    by_cases hc : c = '_'
    · cases last
      · simp [hc, isNatLoop]
      · simp only [hc, isNatLoop, if_true, Bool.not_true, Bool.false_eq_true, if_false]
        exact ih false
    · by_cases hd : c.isDigit = true
      · simp only [hc, hd, isNatLoop, if_true, if_false]
        exact ih true
      · simp [hc, hd, isNatLoop]

theorem isNatLoop_final (l : List Char) (last : Bool) :
    (match (isNatLoop l last).1 with | some r => r | none => (isNatLoop l last).2) = isNatList l last := by
  induction l generalizing last with
  | nil => rfl
  | cons c cs ih =>
    unfold isNatLoop isNatList
    by_cases hc : c = '_'
    · cases last
      · simp [hc]
      · simp only [hc, if_true, Bool.not_true, Bool.false_eq_true, if_false]; exact ih false
    · by_cases hd : c.isDigit = true
      · simp only [hc, hd, if_true, if_false]; exact ih true
      · simp [hc, hd]

theorem isNat_eq (s : Slice) : s.isNat = isNatList s.copy.toList false := by
  unfold Slice.isNat
  simp only [Slice.forIn_eq_forIn_toList]
  rw [← isNatLoop_final]
  have := isNatLoop_forIn s.copy.toList false
  simp only [this]
  generalize isNatLoop s.copy.toList false = r
  obtain ⟨a, b⟩ := r
  cases a <;> rfl

theorem toNat?_eq (s : String) :
    s.toNat? = if isNatList s.toList false then some (natOfList s.toList) else none := by
  show s.toSlice.toNat? = _
  unfold Slice.toNat?
  rw [isNat_eq, Slice.foldl_eq_foldl_toList, String.copy_toSlice]
  rfl

theorem toNat?_toDigits (n : Nat) : (String.ofList (Nat.toDigits 10 n)).toNat? = some n := by
  rw [← toString_nat n]; exact Nat.toNat?_repr n

theorem toNat?_none_of_head {l : List Char} (c : Char) (cs : List Char) (hl : l = c :: cs)
    (hc : c.isDigit = false) : (String.ofList l).toNat? = none := by
  subst hl
  rw [toNat?_eq, String.toList_ofList]
  unfold isNatList
  by_cases hu : c = '_'
  · simp [hu]
  · simp [hu, hc]

theorem toNat?_empty : ("" : String).toNat? = none := by
  rw [toNat?_eq]; rfl

theorem space_eq : " " = String.singleton ' ' := rfl
theorem colon_eq : ":" = String.singleton ':' := rfl

theorem splitOn_space (s : String) : s.splitOn " " = (splitList ' ' s.toList).map String.ofList := by
  rw [space_eq, splitOn_singleton]

theorem splitOn_colon (s : String) : s.splitOn ":" = (splitList ':' s.toList).map String.ofList := by
  rw [colon_eq, splitOn_singleton]

theorem splitAux_ne_nil (c : Char) (cur l : List Char) : splitAux c cur l ≠ [] := by
  induction l generalizing cur with
  | nil => simp [splitAux]
  | cons x xs ih =>
    unfold splitAux
    split
    · simp
    · exact ih _

theorem splitList_ne_nil (c : Char) (l : List Char) : splitList c l ≠ [] := splitAux_ne_nil c [] l

theorem splitAux_cur (c : Char) (cur l : List Char) :
    ∃ p ps, splitAux c [] l = p :: ps ∧ splitAux c cur l = (cur ++ p) :: ps := by
  induction l generalizing cur with
  | nil => exact ⟨[], [], rfl, by simp [splitAux]⟩
  | cons x xs ih =>
    by_cases hx : x = c
    · exact ⟨[], splitAux c [] xs, by simp [splitAux, hx], by simp [splitAux, hx]⟩
    · obtain ⟨p, ps, h1, h2⟩ := ih [x]
      obtain ⟨p', ps', h1', h2'⟩ := ih (cur ++ [x])
      rw [h1] at h1'
      cases h1'
      exact ⟨[x] ++ p, ps, by simp [splitAux, hx, h2], by simp [splitAux, hx, h2']⟩

theorem splitList_append_sep (c : Char) (a rest : List Char) (ha : c ∉ a) :
    splitList c (a ++ c :: rest) = a :: splitList c rest := by
  unfold splitList
  rw [splitAux_sep c [] a rest ha]; rfl

theorem splitList_of_not_mem (c : Char) (a : List Char) (ha : c ∉ a) : splitList c a = [a] := by
  unfold splitList
  rw [splitAux_of_not_mem c [] a ha]; rfl

/-- the pieces of `a ++ c :: b` are the pieces of `a` followed by the pieces of `b` (EVERY `a`) -/
theorem splitList_append_sep' (c : Char) (a b : List Char) :
    splitList c (a ++ c :: b) = splitList c a ++ splitList c b := by
  unfold splitList
  suffices h : ∀ cur, splitAux c cur (a ++ c :: b) = splitAux c cur a ++ splitAux c [] b from h []
  induction a with
  | nil => intro cur; simp [splitAux]
  | cons x xs ih =>
    intro cur
    by_cases hx : x = c
    · simp [splitAux, hx, ih []]
    · simp [splitAux, hx, ih (cur ++ [x])]

theorem intercalate_splitList (c : Char) (l : List Char) : [c].intercalate (splitList c l) = l := by
  unfold splitList
  suffices h : ∀ cur, [c].intercalate (splitAux c cur l) = cur ++ l by simpa using h []
  induction l with
  | nil => intro cur; simp [splitAux, List.intercalate_singleton]
  | cons x xs ih =>
    intro cur
    by_cases hx : x = c
    · simp only [splitAux, hx, if_true]
      obtain ⟨p, ps, hp, _⟩ := splitAux_cur c [] xs
      rw [hp, List.intercalate_cons_cons, ← hp, ih []]; simp
    · simp only [splitAux, hx, if_false]
      rw [ih]; simp

theorem intercalate_space (ls : List String) :
    (" ".intercalate ls).toList = [' '].intercalate (ls.map String.toList) := by
  rw [String.toList_intercalate]; rfl

theorem intercalate_space_splitList (l : List Char) :
    " ".intercalate ((splitList ' ' l).map String.ofList) = String.ofList l := by
  apply String.ext
  rw [intercalate_space, List.map_map]
  have : (String.toList ∘ String.ofList) = id := by funext x; simp
  rw [this, List.map_id, intercalate_splitList, String.toList_ofList]

theorem intercalate_colon_splitList (l : List Char) :
    ":".intercalate ((splitList ':' l).map String.ofList) = String.ofList l := by
  apply String.ext
  rw [String.toList_intercalate, List.map_map]
  have : (String.toList ∘ String.ofList) = id := by funext x; simp
  rw [this, List.map_id]
  exact (intercalate_splitList ':' l).trans String.toList_ofList.symm

theorem not_mem_of_mem_splitAux (c : Char) (cur l : List Char) (hcur : c ∉ cur) :
    ∀ p ∈ splitAux c cur l, c ∉ p := by
  induction l generalizing cur with
  | nil => intro p hp; simp [splitAux] at hp; subst hp; exact hcur
  | cons x xs ih =>
    intro p hp
    by_cases hx : x = c
    · simp only [splitAux, hx, if_true, List.mem_cons] at hp
      rcases hp with rfl | hp
      · exact hcur
      · exact ih [] (by simp) p hp
    · simp only [splitAux, hx, if_false] at hp
      exact ih (cur ++ [x]) (by simp [hcur]; exact fun e => hx e.symm) p hp

theorem not_mem_of_mem_splitList (c : Char) (l : List Char) : ∀ p ∈ splitList c l, c ∉ p :=
  not_mem_of_mem_splitAux c [] l (by simp)

end Scc.Str
