/-
Scc.Heap.RefineBound — the reference counts stored in the headers of live blocks are SMALL: a count + 1
is the number of references from roots and from pointer slots of live and deferred blocks (invariant
(iv) of Scc/Heap/Inv.lean), there are three slots per block and at most (limit − base) / 64 blocks.
Used to discharge the "no overflow" side condition of the machine-level contracts of `share` and
`load` (the machine adds modulo 2^64, the model adds naturals).
-/
import Scc.Heap.RefineLoad
import Scc.ListLemmas

namespace Scc.Heap.Refine

theorem nodup_length_le : ∀ (B : Nat) (l : List Nat), l.Nodup → (∀ x ∈ l, x < B) → l.length ≤ B
  | 0, l, _, hb => by
    cases l with
    | nil => simp
    | cons x t => exact absurd (hb x (by simp)) (by omega)
  | B + 1, l, hnd, hb => by
    by_cases hB : B ∈ l
    · have h1 := nodup_length_le B (l.erase B) (hnd.erase B) (by
        intro x hx
        have hx' := (List.Nodup.mem_erase_iff hnd).1 hx
        have := hb x hx'.2
        have := hx'.1
        omega)
      rw [List.length_erase_of_mem hB] at h1
      omega
    · have h1 := nodup_length_le B l hnd (by
        intro x hx
        have := hb x hx
        have : x ≠ B := fun e => hB (e ▸ hx)
        omega)
      omega

theorem blocks_length_le {s : HState} {roots pend lin lazy live : List Nat} {F : Nat}
    (I : InvS s roots pend lin lazy live F) : (live ++ lazy).length ≤ (s.limit - s.base) / 64 := by
  have hnd := I.nodup
  rw [nodup4_iff] at hnd
  have hnd' : (live ++ lazy).Nodup := by
    rw [List.nodup_append]
    exact ⟨hnd.2.2.1, hnd.2.1, fun x hx y hy e => (hnd.2.2.2.2.2.1 y hy).1 (e ▸ hx)⟩
  have hblk : ∀ x ∈ live ++ lazy, IsBlock s.base x ∧ x < F := by
    intro x hx
    rcases List.mem_append.1 hx with h | h
    · exact I.live_block h
    · exact I.lazy_block h
  have hFr := I.frontier_room
  have hFb := I.frontier_block
  have hm : ((live ++ lazy).map fun a => (a - s.base) / 64).Nodup := by
    refine nodup_map_of_inj_on _ _ ?_ hnd'
    intro x hx y hy e
    have h1 := (hblk x hx).1
    have h2 := (hblk y hy).1
    unfold IsBlock at h1 h2
    omega
  have := nodup_length_le ((s.limit - s.base) / 64) _ hm (by
    intro z hz
    obtain ⟨a, ha, rfl⟩ := List.mem_map.1 hz
    have h1 := hblk a ha
    unfold IsBlock at h1 hFb
    have hlt : a - s.base + 64 ≤ s.limit - s.base := by omega
    have h64 : (a - s.base) / 64 * 64 = a - s.base := by
      have := Nat.div_add_mod (a - s.base) 64
      omega
    have : (a - s.base) / 64 * 64 + 64 ≤ (s.limit - s.base) / 64 * 64 + 63 := by
      have := Nat.div_add_mod (s.limit - s.base) 64
      have := Nat.mod_lt (s.limit - s.base) (by decide : 0 < 64)
      omega
    omega)
  simpa using this

/-- THE BOUND: with at most `2 ^ 62` roots the count of a live block is below `2 ^ 64` -/
theorem live_header_lt {s : HState} {roots lin lazy live : List Nat} {F : Nat}
    (I : InvS s roots [] lin lazy live F) (hlim : s.limit < 2 ^ 64) (hr : roots.length ≤ 2 ^ 62)
    {b : Nat} (hb : b ∈ live) : s.mem.get b < 2 ^ 64 := by
  have hc := I.counts b hb
  have h1 : roots.count b ≤ roots.length := List.count_le_length
  have h2 : (ptrFields s.mem.get (live ++ lazy)).count b ≤ 3 * (live ++ lazy).length := by
    rw [← ptrFields_length s.mem.get]; exact List.count_le_length
  have h3 := blocks_length_le I
  have h4 : (s.limit - s.base) / 64 ≤ 2 ^ 58 := by
    have : s.limit - s.base < 2 ^ 64 := by omega
    omega
  omega

/-- with at most `2 ^ 40` roots the header of a live block stays below `2 ^ 64` when `k < 2 ^ 32` is added
to it: a share cannot overflow the count -/
theorem live_header_add_lt {s : HState} {roots lin lazy live : List Nat} {F : Nat}
    (I : InvS s roots [] lin lazy live F) (hlim : s.limit < 2 ^ 64) (hr : roots.length ≤ 2 ^ 40)
    {b : Nat} (hb : b ∈ live) {k : Nat} (hk : k < 2 ^ 32) : s.mem.get b + k < 2 ^ 64 := by
  have hc := I.counts b hb
  have h1 : roots.count b ≤ roots.length := List.count_le_length
  have h2 : (ptrFields s.mem.get (live ++ lazy)).count b ≤ 3 * (live ++ lazy).length := by
    rw [← ptrFields_length s.mem.get]; exact List.count_le_length
  have h3 := blocks_length_le I
  have h4 : (s.limit - s.base) / 64 ≤ 2 ^ 58 := by
    have : s.limit - s.base < 2 ^ 64 := by omega
    omega
  omega

end Scc.Heap.Refine
