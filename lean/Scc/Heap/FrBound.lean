/-
  Scc.Heap.FrBound — THE FRONTIER UNDER A BOUND ON THE BLOCKS IN USE, what the footprint theorems of all backends
  count with (in the namespace `Scc.X86.Conc`: the statements of the run theorems refer to `FrBound`, `LiveLe`, `LiveLe0`
  under these full names).  `FrBound hs B`: at most `B` blocks lie below the frontier.  The frontier moves only when the free
  lists are exhausted (`FrPk`), and then what lies below it is in use: so a bound `Pk` on the blocks in use at those
  moments (`LiveLe0`) bounds the frontier by `Pk + 1` blocks (`FrBound.step`), and a heap of that size has room
  (`Room.of_frBound`).  `FrBound.of_frLe` is the count without that hypothesis; `frBound_init` the empty heap.
-/
import Scc.Heap.RefineFrontier

namespace Scc.X86.Conc

open Scc.Heap (HState InvS InvW Exhausted)
open Scc.Heap.Refine (HRef FrLe Room FrPk)

def FrBound (hs : HState) (B : Nat) : Prop :=
  ∀ rs lin lazy live F, InvS hs rs [] lin lazy live F → (F - hs.base) / 64 ≤ B

/-- in the state `hs` at most `Pk` blocks are in use (neither on the reusable nor on the deferred free list).  Asked of
every state of a run it is the bound one states about a program; the theorems ask for `LiveLe0` only, which it
implies (`LiveLe.le0`) -/
def LiveLe (hs : HState) (Pk : Nat) : Prop :=
  ∀ rs lin lazy live F, InvS hs rs [] lin lazy live F → live.length ≤ Pk

/-- `LiveLe` for the witnesses whose deferred free list is empty (the only moments at which the bound is needed: the
frontier moves only when both free lists are exhausted) -/
def LiveLe0 (hs : HState) (Pk : Nat) : Prop :=
  ∀ rs lin live F, InvS hs rs [] lin [] live F → live.length ≤ Pk

theorem LiveLe.le0 {hs : HState} {Pk : Nat} (h : LiveLe hs Pk) : LiveLe0 hs Pk :=
  fun rs lin live F J => h rs lin [] live F J

/-- one step of the bound: the frontier has not moved, or both free lists are exhausted and then the blocks
below the frontier are the blocks in use and the one block of the reusable list -/
theorem FrBound.step {hs hs' : HState} {Pk : Nat} (hb : FrBound hs (Pk + 1)) (hbase : hs'.base = hs.base)
    (hpk : FrPk hs hs') (hw : ∃ rs lin lazy live F, InvS hs rs [] lin lazy live F) (hl : LiveLe0 hs' Pk) :
    FrBound hs' (Pk + 1) := by
  obtain ⟨rs0, lin0, lazy0, live0, F0, I0⟩ := hw
  intro rs lin lazy live F J
  rcases hpk _ _ _ _ _ _ _ _ _ _ I0 J with h | ⟨h1, h2⟩
  · have := hb _ _ _ _ _ I0
    rw [hbase]
    have : (F - hs.base) / 64 ≤ (F0 - hs.base) / 64 := Nat.div_le_div_right (by omega)
    omega
  · subst h2
    have hc := InvW.card J
    have := hl _ _ _ _ J
    simp only [List.length_nil] at hc
    unfold InvS at J
    omega

theorem Room.of_frBound {hs : HState} {B n : Nat} (hb : FrBound hs B) (hl : hs.base + 64 * B + n ≤ hs.limit) :
    Room hs n := by
  intro rs lin lazy live F J
  have h1 := hb _ _ _ _ _ J
  have h2 := J.frontier_block
  unfold Scc.Heap.IsBlock at h2
  omega

/-- `Room.of_frBound` in the form the runs use it: a heap of `64·(Pk + A + 2)` bytes has room for an allocation of arity `a ≤ A`
while the frontier is below `Pk + 1` blocks -/
theorem Room.of_frBound_bytes {hs : HState} {Pk a A base bytes : Nat} (hb : FrBound hs (Pk + 1))
    (hbase : hs.base = base) (hlimit : hs.limit = base + bytes) (ha : a ≤ A)
    (hbytes : 64 * (Pk + A + 2) ≤ bytes) : Room hs (64 * a + 64) :=
  Room.of_frBound hb (by rw [hbase, hlimit]; omega)

theorem FrBound.of_frLe {hs hs' : HState} {B δ : Nat} (hb : FrBound hs B) (hf : FrLe hs hs' (64 * δ))
    (hw : ∃ rs lin lazy live F, InvS hs rs [] lin lazy live F) : FrBound hs' (B + δ) := by
  obtain ⟨rs0, lin0, lazy0, live0, F0, I0⟩ := hw
  intro rs lin lazy live F J
  have h1 := hb _ _ _ _ _ I0
  have h2 := hf.2.2 _ _ _ _ _ _ _ _ _ _ I0 J
  rw [hf.2.1]
  have h3 := I0.frontier_block
  have h4 := J.frontier_block
  unfold Scc.Heap.IsBlock at h3 h4
  rw [hf.2.1] at h4
  omega

theorem frBound_init {base bytes B : Nat} (hb : 0 < base) (hl : 128 ≤ bytes) (hB : 1 ≤ B) :
    FrBound (Scc.Heap.init base (base + bytes)) B := by
  have hinit := Scc.Heap.init_inv (base := base) (limit := base + bytes) hb (by omega)
  intro rs lin lazy live Fr J
  have := (Scc.Heap.InvS.witness_unique hinit J).2.2
  have hbb : (Scc.Heap.init base (base + bytes)).base = base := rfl
  rw [hbb, this]
  omega

end Scc.X86.Conc
