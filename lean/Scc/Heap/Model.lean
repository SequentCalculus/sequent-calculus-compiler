/-
Scc.Heap.Model — executable model of the reference-counting heap operations that the compiler's
backends emit (properties C09, C10).

Modelled source (transcribed function by function, same order of reads and writes):
  /repo/lang/axcut2x86_64/src/memory.rs      skip_if_zero, if_zero_then_else, acquire_block (with
      erase_fields), release_block, store_zero(s), store_field, load_field, store_value, load_value,
      store_values, load_values, store_fields, load_fields, erase_block, share_block_n, store, load
  /repo/lang/axcut2x86_64/src/config.rs      FIELDS_PER_BLOCK = 3, field_offset(number, i) =
      8 * (2 + 2 i + number), REFERENCE_COUNT_OFFSET = NEXT_ELEMENT_OFFSET = 0, block = 64 bytes
  /repo/lang/axcut2x86_64/src/into_routine.rs  setup: HEAP := heap base; FREE := HEAP + 64
  /repo/lang/axcut2aarch64/src/memory.rs, /repo/lang/axcut2rv64/src/memory.rs: same algorithm.
How statements use the operations: axcut2backend/src/statements/{let,create}.rs (`store`),
utils.rs code_clause/code_method (`load`), substitution.rs code_weakening_contraction
(`erase_block` for 0 copies, `share_block_n (k-1)` for k > 1 copies, before the moves).

Design choices
* Addresses and machine words are `Nat` (unbounded).  Reference counts and addresses never come
  near 2^64 in the situations the theorems talk about; wrap-around of `add qword [p], n` is NOT
  modelled (a count would have to exceed 2^64 - 1).  The decrement `add qword [p], -1` is only ever
  executed on a non-zero word, where it equals `c - 1` on `Nat`.
* Memory is a finite map from byte addresses (of 8-byte words) to words with default 0 (the heap is
  zero-filled at start).  Representation: `Std.HashMap Nat Nat` wrapped in `Mem` and accessed ONLY
  through `Mem.get` / `Mem.set`; the two lemmas `Mem.get_set` and `Mem.get_empty` at the end of the
  section `Memory` are everything the proofs ever use about the representation, so all theorems are about the
  function `s.mem.get : Nat → Nat`.  Execution is fast (destructive updates when used linearly),
  proofs never see the hash map.  The invariant checker takes a plain lookup function `Nat → Nat`,
  so it can also be run on the memory of an emulated machine.
* Every operation returns `Except Fault _`.  A fault is raised for an access outside
  `[base, limit)` or not 8-byte aligned relative to `base` (the real code has no such checks; there
  the behaviour is undefined / a segfault), and at the history level for a reference to a root that
  is not held.
* Scratch registers, spill slots and the choice Register/Spill of a temporary do not change the
  sequence of heap accesses (checked by reading memory.rs: the Spill variants go through TEMP /
  TEMPORARY_TEMP but access the same heap words in the same order), so they are not modelled here.
-/
import Std.Data.HashMap
import Std.Data.HashSet

namespace Scc.Heap

/-! ## Memory -/

/-- Word memory: byte address of a word ↦ word, default 0. -/
structure Mem where
  map : Std.HashMap Nat Nat

namespace Mem
def empty : Mem := ⟨∅⟩
def get (m : Mem) (a : Nat) : Nat := m.map.getD a 0
def set (m : Mem) (a v : Nat) : Mem := ⟨m.map.insert a v⟩

theorem get_set (m : Mem) (a v b : Nat) : (m.set a v).get b = if a = b then v else m.get b := by
  simp [get, set, Std.HashMap.getD_insert]

@[simp] theorem get_empty (b : Nat) : empty.get b = 0 := by
  simp [get, empty]
end Mem

/-! ## Configuration (config.rs) -/

/-- config.rs: FIELDS_PER_BLOCK -/
def fieldsPerBlock : Nat := 3
/-- config.rs: size of a block in bytes = field_offset(Fst, FIELDS_PER_BLOCK) -/
def blockSize : Nat := 64
/-- config.rs: fn field_offset; `number` = 0 for `Fst` (pointer slot), 1 for `Snd` (value slot). -/
def fieldOffset (number i : Nat) : Nat := 8 * (2 + 2 * i + number)
/-- Offset of the pointer slot of field `i`. -/
def fstOff (i : Nat) : Nat := fieldOffset 0 i
/-- Offset of the value slot of field `i`. -/
def sndOff (i : Nat) : Nat := fieldOffset 1 i

/-! ## State and primitive accesses -/

inductive Fault where
  | outOfHeap (a : Nat)      -- access outside [base, limit)
  | unaligned (a : Nat)      -- address not 8-byte aligned relative to the heap base
  | rootNotHeld (r : Nat)    -- history level: an op mentions a root that is not held
  | badIndex (i : Nat)       -- line protocol: root index out of range / used twice
  | arity                    -- more values than fields in a block (generator-side panic in Rust)
  deriving Repr, DecidableEq, Inhabited

structure HState where
  mem   : Mem
  heap  : Nat    -- register HEAP: head of the linear (immediately reusable) free list
  free  : Nat    -- register FREE: head of the lazy (deferred) free list
  base  : Nat    -- heap base (argument 0 of the routine)
  limit : Nat    -- one past the last heap byte

/-- into_routine.rs: fn setup (heap part).  Zero-filled heap of `limit - base` bytes. -/
def init (base limit : Nat) : HState :=
  { mem := Mem.empty, heap := base, free := base + blockSize, base := base, limit := limit }

/-- Is `a` the address of an 8-byte word inside the heap? -/
def HState.okAddr (s : HState) (a : Nat) : Bool :=
  decide (s.base ≤ a) && decide (a + 8 ≤ s.limit) && decide ((a - s.base) % 8 = 0)

/-- One 8-byte load. -/
def rd (s : HState) (a : Nat) : Except Fault Nat :=
  if s.base ≤ a ∧ a + 8 ≤ s.limit then
    if (a - s.base) % 8 = 0 then .ok (s.mem.get a) else .error (.unaligned a)
  else .error (.outOfHeap a)

/-- One 8-byte store. -/
def wr (s : HState) (a v : Nat) : Except Fault HState :=
  if s.base ≤ a ∧ a + 8 ≤ s.limit then
    if (a - s.base) % 8 = 0 then .ok { s with mem := s.mem.set a v } else .error (.unaligned a)
  else .error (.outOfHeap a)

/-! ## Block operations (memory.rs) -/

/-- memory.rs: fn erase_block (with erase_valid_object, skip_if_zero, if_zero_then_else).
`if p ≠ 0 { if [p+0] = 0 { [p+0] := FREE; FREE := p } else { [p+0] += -1 } }` -/
def eraseBlock (s : HState) (p : Nat) : Except Fault HState :=
  if p = 0 then .ok s else
  match rd s p with
  | .error f => .error f
  | .ok c =>
    if c = 0 then
      match wr s p s.free with
      | .error f => .error f
      | .ok s1 => .ok { s1 with free := p }
    else wr s p (c - 1)

/-- memory.rs: fn share_block_n.  `if p ≠ 0 { [p+0] += n }` -/
def shareBlock (s : HState) (p n : Nat) : Except Fault HState :=
  if p = 0 then .ok s else
  match rd s p with
  | .error f => .error f
  | .ok c => wr s p (c + n)

/-- memory.rs: fn release_block.  `[b+0] := HEAP; HEAP := b` -/
def releaseBlock (s : HState) (b : Nat) : Except Fault HState :=
  match wr s b s.heap with
  | .error f => .error f
  | .ok s1 => .ok { s1 with heap := b }

/-- memory.rs: fn acquire_block::erase_fields.  For i = 0,1,2: `TEMP := [blk + fst i]; erase TEMP`. -/
def eraseFields (s : HState) (blk : Nat) : Except Fault HState :=
  match rd s (blk + fstOff 0) with
  | .error f => .error f
  | .ok c0 =>
  match eraseBlock s c0 with
  | .error f => .error f
  | .ok s =>
  match rd s (blk + fstOff 1) with
  | .error f => .error f
  | .ok c1 =>
  match eraseBlock s c1 with
  | .error f => .error f
  | .ok s =>
  match rd s (blk + fstOff 2) with
  | .error f => .error f
  | .ok c2 => eraseBlock s c2

/-- memory.rs: fn acquire_block.  Returns the new state and the acquired block.
```
new := HEAP; HEAP := [HEAP+0]
if HEAP ≠ 0 { [new+0] := 0 }                                   -- (1)
else { HEAP := FREE; FREE := [FREE+0]
       if FREE = 0 { FREE := HEAP + 64 }                        -- (3) bump
       else { [HEAP+0] := 0; erase_fields(HEAP) } }             -- (2)
``` -/
def acquire (s : HState) : Except Fault (HState × Nat) :=
  let new := s.heap
  match rd s s.heap with
  | .error f => .error f
  | .ok h =>
    if h ≠ 0 then
      -- (1) the linear free list has another element
      match wr { s with heap := h } new 0 with
      | .error f => .error f
      | .ok s1 => .ok (s1, new)
    else
      match rd s s.free with
      | .error f => .error f
      | .ok f' =>
        if f' = 0 then
          -- (3) bump allocation
          .ok ({ s with heap := s.free, free := s.free + blockSize }, new)
        else
          -- (2) take the head of the lazy free list, erase its children
          match wr { s with heap := s.free, free := f' } s.free 0 with
          | .error f => .error f
          | .ok s1 =>
            match eraseFields s1 s1.heap with
            | .error f => .error f
            | .ok s2 => .ok (s2, new)

/-! ## Objects -/

/-- A field of an object: a pointer-typed variable (pointer part `p`, possibly 0 = "no allocation",
and tag/code word `w`) or an external (integer) variable. -/
inductive Field where
  | ptr (p w : Nat)
  | int (w : Nat)
  deriving Repr, DecidableEq, Inhabited

def Field.ptrPart : Field → Nat
  | .ptr p _ => p
  | .int _ => 0

/-- enum BlockPosition { Last = 0, Other = 1 } -/
inductive BlockPosition where
  | last | other
  deriving Repr, DecidableEq

/-- `block_position as usize` -/
def BlockPosition.toNat : BlockPosition → Nat
  | .last => 0
  | .other => 1

abbrev posLast : BlockPosition := .last
abbrev posOther : BlockPosition := .other

/-- memory.rs: fn store_value (store_field Snd; then store_zero or store_field Fst). -/
def storeValue (s : HState) (f : Field) (blk off : Nat) : Except Fault HState :=
  match f with
  | .int w =>
    match wr s (blk + sndOff off) w with
    | .error e => .error e
    | .ok s1 => wr s1 (blk + fstOff off) 0
  | .ptr p w =>
    match wr s (blk + sndOff off) w with
    | .error e => .error e
    | .ok s1 => wr s1 (blk + fstOff off) p

/-- memory.rs: fn store_zeros (offsets 0 .. n-1 ascending); `k` counts up from 0. -/
def storeZerosFrom (s : HState) (blk k : Nat) : Nat → Except Fault HState
  | 0 => .ok s
  | n + 1 =>
    match wr s (blk + fstOff k) 0 with
    | .error e => .error e
    | .ok s1 => storeZerosFrom s1 blk (k + 1) n

def storeZeros (s : HState) (n blk : Nat) : Except Fault HState := storeZerosFrom s blk 0 n

/-- memory.rs: fn store_values, on the reversed list (`while let Some(b) = to_store.pop()`). -/
def storeValuesRev (s : HState) (blk : Nat) : List Field → Nat → Except Fault HState
  | [], freeFields => storeZeros s freeFields blk
  | _ :: _, 0 => .error .arity
  | f :: rest, freeFields + 1 =>
    match storeValue s f blk freeFields with
    | .error e => .error e
    | .ok s1 => storeValuesRev s1 blk rest freeFields

/-- memory.rs: fn store_values.  Right-most value into the right-most field first; unused (lower)
fields get a null pointer slot. -/
def storeValues (s : HState) (vals : List Field) (blk freeFields : Nat) : Except Fault HState :=
  storeValuesRev s blk vals.reverse freeFields

/-- Number of leading values that do NOT go into the current block. -/
def restLength (len : Nat) (pos : BlockPosition) : Nat :=
  if len ≤ fieldsPerBlock - pos.toNat then 0 else len - (fieldsPerBlock - pos.toNat)

theorem restLength_lt (n : Nat) (pos : BlockPosition) (h : 0 < n) : restLength n pos < n := by
  unfold restLength fieldsPerBlock
  cases pos <;> simp only [BlockPosition.toNat] <;> (by_cases hc : n ≤ 3 <;> by_cases hd : n ≤ 2 <;> simp [hc, hd] <;> omega)

/-- memory.rs: fn store_fields.  `prev` is the block acquired last (the link target when
`pos = Other`).  Returns the pointer to the head block (0 for an object without fields). -/
def storeFields (s : HState) (toStore : List Field) (pos : BlockPosition) (prev : Nat) : Except Fault (HState × Nat) :=
  if _h : toStore = [] then
    .ok (s, if pos = posLast then 0 else prev)     -- "mark no allocation" / pointer already in place
  else
    -- store link to previous block
    match (if pos = posOther then wr s (s.heap + fstOff (fieldsPerBlock - 1)) prev else .ok s) with
    | .error e => .error e
    | .ok s1 =>
      let rl := restLength toStore.length pos
      match storeValues s1 (toStore.drop rl) s1.heap (fieldsPerBlock - pos.toNat) with
      | .error e => .error e
      | .ok s2 =>
        match acquire s2 with
        | .error e => .error e
        | .ok (s3, new) => storeFields s3 (toStore.take rl) posOther new
termination_by toStore.length
decreasing_by
  have : 0 < toStore.length := List.length_pos_iff.mpr _h
  simp only [List.length_take]
  exact Nat.lt_of_le_of_lt (Nat.min_le_left _ _) (restLength_lt _ _ this)

/-- memory.rs: Memory::store. -/
def storeObj (s : HState) (fields : List Field) : Except Fault (HState × Nat) :=
  storeFields s fields posLast 0

inductive LoadMode where
  | release | share
  deriving Repr, DecidableEq

/-- memory.rs: fn load_value.  `isPtr = false` for external (integer) variables: then only the value
slot is read. -/
def loadValue (s : HState) (isPtr : Bool) (blk off : Nat) (mode : LoadMode) :
    Except Fault (HState × Field) :=
  match rd s (blk + sndOff off) with
  | .error e => .error e
  | .ok w =>
    if isPtr then
      match rd s (blk + fstOff off) with
      | .error e => .error e
      | .ok p =>
        match mode with
        | .share =>
          match shareBlock s p 1 with
          | .error e => .error e
          | .ok s1 => .ok (s1, .ptr p w)
        | .release => .ok (s, .ptr p w)
    else .ok (s, .int w)

/-- memory.rs: fn load_values, on the reversed list of kinds; the accumulator collects the loaded
values in context (left-to-right) order. -/
def loadValuesRev (s : HState) (blk : Nat) (mode : LoadMode) :
    List Bool → Nat → List Field → Except Fault (HState × List Field)
  | [], _, acc => .ok (s, acc)
  | _ :: _, 0, _ => .error .arity
  | k :: rest, freeFields + 1, acc =>
    match loadValue s k blk freeFields mode with
    | .error e => .error e
    | .ok (s1, v) => loadValuesRev s1 blk mode rest freeFields (v :: acc)

/-- memory.rs: fn load_values. -/
def loadValues (s : HState) (kinds : List Bool) (blk freeFields : Nat) (mode : LoadMode) :
    Except Fault (HState × List Field) :=
  loadValuesRev s blk mode kinds.reverse freeFields []

/-- memory.rs: fn load_fields.  `p` is the pointer found in the first temporary after the context
(the object pointer).  Returns the new state, the loaded values, and the pointer to the block the
caller has to continue with (the link loaded from the current block when `pos = Other`). -/
def loadFields (s : HState) (kinds : List Bool) (pos : BlockPosition) (mode : LoadMode) (p : Nat) :
    Except Fault (HState × List Field × Nat) :=
  if _h : kinds = [] then .ok (s, [], p)
  else
    let rl := restLength kinds.length pos
    -- we load the previous fields first
    match loadFields s (kinds.take rl) posOther mode p with
    | .error e => .error e
    | .ok (s1, vals1, blk) =>
      match (match mode with
             | .release => releaseBlock s1 blk
             | .share => .ok s1) with
      | .error e => .error e
      | .ok s2 =>
        -- load link to next block (before the values)
        match (if pos = posOther then rd s2 (blk + fstOff (fieldsPerBlock - 1)) else .ok 0) with
        | .error e => .error e
        | .ok link =>
          match loadValues s2 (kinds.drop rl) blk (fieldsPerBlock - pos.toNat) mode with
          | .error e => .error e
          | .ok (s3, vals2) => .ok (s3, vals1 ++ vals2, link)
termination_by kinds.length
decreasing_by
  have : 0 < kinds.length := List.length_pos_iff.mpr _h
  simp only [List.length_take]
  exact Nat.lt_of_le_of_lt (Nat.min_le_left _ _) (restLength_lt _ _ this)

/-- memory.rs: Memory::load (with load_register).  `kinds[i] = true` iff the i-th variable loaded
is pointer-typed (not `Ext`).  Nothing is emitted for an empty context. -/
def loadObj (s : HState) (p : Nat) (kinds : List Bool) : Except Fault (HState × List Field) :=
  if kinds = [] then .ok (s, []) else
  match rd s p with
  | .error e => .error e
  | .ok c =>
    if c = 0 then
      match loadFields s kinds posLast .release p with
      | .error e => .error e
      | .ok (s1, vals, _) => .ok (s1, vals)
    else
      match wr s p (c - 1) with
      | .error e => .error e
      | .ok s0 =>
        match loadFields s0 kinds posLast .share p with
        | .error e => .error e
        | .ok (s1, vals, _) => .ok (s1, vals)

/-! ## Executable preconditions of `load` (well-formedness of histories)

`load` does not check anything; it is correct only for an object of the shape its kinds describe
(the shape `store` with the same kinds produces).  `Scc.Heap.LoadPre` (ProofsLoad) states this
precondition as a `Prop`; the functions below decide it (`opPreB_sound` in ProofsHist). -/

/-- Is the pointer slot of field `i` read by `load_values` when variables of kinds `ks` are loaded
from a block with `cap` usable fields?  (The values sit right-aligned in fields `cap-|ks| .. cap-1`;
`true` = pointer-typed variable.) -/
def slotLoaded (ks : List Bool) (cap i : Nat) : Bool :=
  decide (cap - ks.length ≤ i) && decide (i < cap) && ks.getD (i - (cap - ks.length)) false

def blockPreB (m : Nat → Nat) (blk : Nat) (ks : List Bool) (pos : BlockPosition) : Bool :=
  (List.range (fieldsPerBlock - pos.toNat)).all
    (fun i => slotLoaded ks (fieldsPerBlock - pos.toNat) i || m (blk + fstOff i) == 0) &&
  (pos != .other || m (blk + fstOff (fieldsPerBlock - 1)) != 0)

def loadPreB (s : HState) (kinds : List Bool) (pos : BlockPosition) (mode : LoadMode) (p : Nat) : Bool :=
  if _h : kinds = [] then true
  else
    let rl := restLength kinds.length pos
    loadPreB s (kinds.take rl) .other mode p &&
    match loadFields s (kinds.take rl) .other mode p with
    | .ok (s1, _, blk) =>
      blockPreB s1.mem.get blk (kinds.drop rl) pos &&
      (mode != .release || (kinds.take rl).isEmpty || s1.mem.get blk == 0)
    | .error _ => true
termination_by kinds.length
decreasing_by
  have : 0 < kinds.length := List.length_pos_iff.mpr _h
  simp only [List.length_take]
  exact Nat.lt_of_le_of_lt (Nat.min_le_left _ _) (restLength_lt _ _ this)

def loadObjPreB (s : HState) (p : Nat) (kinds : List Bool) : Bool :=
  if kinds = [] then p == 0
  else p != 0 &&
    (if s.mem.get p = 0 then loadPreB s kinds .last .release p
     else loadPreB { s with mem := s.mem.set p (s.mem.get p - 1) } kinds .last .share p)

/-! ## Histories

`roots` is the multiset (as a list) of the pointer parts currently held by live pointer-typed
variables; a root 0 ("no allocation") is allowed.  The ops are what statements do to the heap:
`Substitute` = `erase` / `share (k-1)`, `Let`/`Create` = `store`, clause / method entry = `load`.
`acquire_block` alone is not an op: it is only emitted inside `store_fields`, and between it and the
end of `store` the acquired block is referenced from nowhere. -/

inductive FieldRef where
  | root (r w : Nat)    -- a held pointer variable (consumed by the store) with value word `w`
  | int (w : Nat)
  deriving Repr, DecidableEq, Inhabited

def FieldRef.toField : FieldRef → Field
  | .root r w => .ptr r w
  | .int w => .int w

inductive HOp where
  | erase (root : Nat)
  | share (root n : Nat)
  | store (fields : List FieldRef)
  | load (root : Nat) (kinds : List Bool)
  deriving Repr, DecidableEq, Inhabited

/-- Pointer parts of pointer-typed fields, in order. -/
def ptrsOf : List Field → List Nat
  | [] => []
  | .ptr p _ :: fs => p :: ptrsOf fs
  | .int _ :: fs => ptrsOf fs

/-- Remove the roots in `rs` (with multiplicity) from `roots`. -/
def consumeRoots (roots : List Nat) : List Nat → Except Fault (List Nat)
  | [] => .ok roots
  | r :: rs => if r ∈ roots then consumeRoots (roots.erase r) rs else .error (.rootNotHeld r)

def applyOp (st : HState × List Nat) (op : HOp) : Except Fault (HState × List Nat) :=
  let (s, roots) := st
  match op with
  | .erase r =>
    if r ∈ roots then
      match eraseBlock s r with
      | .error e => .error e
      | .ok s1 => .ok (s1, roots.erase r)
    else .error (.rootNotHeld r)
  | .share r n =>
    if r ∈ roots then
      match shareBlock s r n with
      | .error e => .error e
      | .ok s1 => .ok (s1, List.replicate n r ++ roots)
    else .error (.rootNotHeld r)
  | .store fields =>
    let fs := fields.map FieldRef.toField
    match consumeRoots roots (ptrsOf fs) with
    | .error e => .error e
    | .ok roots1 =>
      match storeObj s fs with
      | .error e => .error e
      | .ok (s1, p) => .ok (s1, p :: roots1)
  | .load r kinds =>
    if r ∈ roots then
      match loadObj s r kinds with
      | .error e => .error e
      | .ok (s1, vals) => .ok (s1, ptrsOf vals ++ roots.erase r)
    else .error (.rootNotHeld r)

def applyOps (st : HState × List Nat) : List HOp → Except Fault (HState × List Nat)
  | [] => .ok st
  | op :: ops =>
    match applyOp st op with
    | .error e => .error e
    | .ok st1 => applyOps st1 ops

/-- Decides the precondition `OpPre` of one history step. -/
def opPreB (st : HState × List Nat) : HOp → Bool
  | .erase r => st.2.contains r
  | .share r _ => st.2.contains r
  | .store fields =>
    match consumeRoots st.2 (ptrsOf (fields.map FieldRef.toField)) with
    | .ok _ => true
    | .error _ => false
  | .load r kinds => st.2.contains r && loadObjPreB st.1 r kinds

/-! ## Walks (used by the checker and by C10) -/

/-- Follow word 0 from `a` until 0, at most `fuel` steps. -/
def walk (m : Nat → Nat) : Nat → Nat → List Nat
  | 0, _ => []
  | fuel + 1, a => if a = 0 then [] else a :: walk m fuel (m a)

/-- Follow word 0 from `a` until a block whose word 0 is 0 (that block included). -/
def walkToFrontier (m : Nat → Nat) : Nat → Nat → List Nat
  | 0, _ => []
  | fuel + 1, a => if m a = 0 then [a] else a :: walkToFrontier m fuel (m a)

def HState.fuel (s : HState) : Nat := (s.limit - s.base) / blockSize + 2
/-- The linear free list. -/
def HState.linList (s : HState) : List Nat := walk s.mem.get s.fuel s.heap
/-- The lazy free list including the frontier block as last element. -/
def HState.freeList (s : HState) : List Nat := walkToFrontier s.mem.get s.fuel s.free
/-- The allocation frontier (address of the first never-used block). -/
def HState.frontier (s : HState) : Nat := s.freeList.getLastD s.free
def HState.blocksBelowFrontier (s : HState) : Nat := (s.frontier - s.base) / blockSize
/-- Number of blocks that are neither free nor deferred: the reachable ones, including those waiting
beneath a deferred block. -/
def HState.liveCount (s : HState) : Nat :=
  s.blocksBelowFrontier - s.linList.length - (s.freeList.length - 1)

/-! ## Executable invariant checker -/

def isBlockB (base a : Nat) : Bool := decide (base ≤ a) && decide ((a - base) % blockSize = 0)

/-- The three pointer slots of block `b`. -/
def ptrSlots (m : Nat → Nat) (b : Nat) : List Nat := [m (b + 16), m (b + 32), m (b + 48)]

def ptrFields (m : Nat → Nat) (bs : List Nat) : List Nat := bs.flatMap (ptrSlots m)

/-- Follow word 0 from `a`; every element must be a block in `[base, hi)`.  Stops at 0
(`stopAtZeroHeader = false`) or at the first block whose header is 0 (`true`, that block included). -/
def checkedWalk (m : Nat → Nat) (base hi : Nat) (stopAtZeroHeader : Bool) (what : String) :
    Nat → Nat → List Nat → Except String (List Nat)
  | 0, _, _ => .error s!"{what}: list longer than the heap (cycle)"
  | fuel + 1, a, acc =>
    if a = 0 then
      if stopAtZeroHeader then .error s!"{what}: null pointer in list" else .ok acc.reverse
    else if !(isBlockB base a) || hi < a + blockSize then
      .error s!"{what}: element {a} is not a block inside the heap"
    else if stopAtZeroHeader && m a = 0 then .ok (a :: acc).reverse
    else checkedWalk m base hi stopAtZeroHeader what fuel (m a) (a :: acc)

/-- Work items of the depth-first traversal. -/
inductive Work where
  | visit (p : Nat)     -- pointer still to be looked at
  | finish (p : Nat)    -- all children of block `p` have been handled
  deriving Repr

/-- Depth-first traversal through pointer slots.  Blocks are emitted when they are FINISHED, at the
front of `acc`, so the result is in reverse post-order: if there is no cycle every block comes before
the blocks its slots point to (checked afterwards by `topoCheckRev`). -/
def reachLoop (m : Nat → Nat) (base frontier : Nat) :
    Nat → List Work → Std.HashSet Nat → List Nat → Except String (List Nat)
  | 0, _, _, _ => .error "reach: out of fuel"
  | fuel + 1, stack, seen, acc =>
    match stack with
    | [] => .ok acc
    | .finish p :: rest => reachLoop m base frontier fuel rest seen (p :: acc)
    | .visit p :: rest =>
      if p = 0 then reachLoop m base frontier fuel rest seen acc
      else if seen.contains p then reachLoop m base frontier fuel rest seen acc
      else if !(isBlockB base p) || frontier ≤ p then
        .error s!"(v) pointer {p} is not a block below the frontier {frontier}"
      else
        reachLoop m base frontier fuel
          ((ptrSlots m p).map Work.visit ++ Work.finish p :: rest) (seen.insert p) acc

/-- Check that a list, given in REVERSE, is topologically sorted: going through the reversed list,
every pointer slot of a block is null or one of the blocks seen before (= later in the list).
Returns an offending block. -/
def topoCheckRev (m : Nat → Nat) : List Nat → Std.HashSet Nat → Option Nat
  | [], _ => none
  | b :: rest, later =>
    if (ptrSlots m b).all (fun p => p == 0 || later.contains p) then
      topoCheckRev m rest (later.insert b)
    else some b

def countMap (xs : List Nat) : Std.HashMap Nat Nat :=
  xs.foldl (fun c x => c.insert x (c.getD x 0 + 1)) ∅

/-- First block address in `[a, a + 64 n)` step 64 that is not the head of the third argument (the sorted list of
all classified blocks), or a duplicate. -/
def coverCheck : Nat → Nat → List Nat → Except String Unit
  | 0, _, [] => .ok ()
  | 0, _, x :: _ => .error s!"(iii) block {x} is in two states (or listed beyond the frontier)"
  | _ + 1, a, [] => .error s!"(iii) block {a} is lost (not linear-free, deferred, reachable or pending)"
  | n + 1, a, x :: xs =>
    if x = a then coverCheck n (a + blockSize) xs
    else if x < a then .error s!"(iii) block {x} is in two states"
    else .error s!"(iii) block {a} is lost (not linear-free, deferred, reachable or pending)"

def allZeroFrom (m : Nat → Nat) : Nat → Nat → Except String Unit
  | 0, _ => .ok ()
  | n + 1, a => if m a = 0 then allZeroFrom m n (a + 8) else .error s!"(ii) word at {a} at or above the frontier is not zero"

def firstFailing (xs : List Nat) (bad : Nat → Bool) : Option Nat := xs.find? bad

/-- Decision procedure for the invariant on a memory given as a lookup function.
`pend` = blocks acquired but not yet referenced (empty at statement boundaries).
On success returns `(lin, lazy, live, frontier)`. -/
def invCheckFn (m : Nat → Nat) (base limit heap free : Nat) (roots pend : List Nat) :
    Except String (List Nat × List Nat × List Nat × Nat) :=
  if base = 0 then .error "base is 0" else
  let fuel := (limit - base) / blockSize + 2
  match checkedWalk m base limit false "(i) linear free list" fuel heap [] with
  | .error e => .error e
  | .ok lin =>
  if lin.isEmpty then .error "(i) linear free list is empty" else
  match checkedWalk m base limit true "(ii) lazy free list" fuel free [] with
  | .error e => .error e
  | .ok freeL =>
  let frontier := freeL.getLastD free
  let lazy := freeL.dropLast
  let nBelow := (frontier - base) / blockSize
  match reachLoop m base frontier (8 * nBelow + roots.length + 3 * lazy.length + 8)
      ((roots ++ ptrFields m lazy).map Work.visit) ∅ [] with
  | .error e => .error e
  | .ok live =>
  match topoCheckRev m live.reverse ∅ with
  | some b => .error s!"(vi) block {b} lies on a cycle of reachable blocks"
  | none =>
  let liveSet := Std.HashSet.ofList live
  match firstFailing (roots ++ ptrFields m (live ++ lazy)) (fun p => p != 0 && !liveSet.contains p) with
  | some p => .error s!"(v) pointer {p} (a root or a pointer slot of a reachable/deferred block) is not a reachable block"
  | none =>
  match coverCheck nBelow base ((lin ++ lazy ++ live ++ pend).mergeSort (· ≤ ·)) with
  | .error e => .error e
  | .ok () =>
  match allZeroFrom m ((limit - frontier) / 8) frontier with
  | .error e => .error e
  | .ok () =>
  let refs := countMap (roots ++ ptrFields m (live ++ lazy))
  match firstFailing live (fun b => m b + 1 != refs.getD b 0) with
  | some b => .error s!"(iv) block {b}: stored count {m b} but {refs.getD b 0} references"
  | none =>
  match firstFailing pend (fun b => m b != 0) with
  | some b => .error s!"pending block {b} has non-zero header"
  | none => .ok (lin, lazy, live, frontier)

/-- The invariant checker on model states (statement boundaries: nothing pending). -/
def invCheck (s : HState) (roots : List Nat) (limit : Nat := s.limit) : Except String Unit :=
  match invCheckFn s.mem.get s.base limit s.heap s.free roots [] with
  | .error e => .error e
  | .ok _ => .ok ()

/-! ## Line protocol

Request:  `heapops <base> <limit> <op>;<op>;...`
Roots are referred to by their INDEX in the current root list (new roots are put at the front:
after `t` the new object is root 0; after `l` the loaded pointer fields are roots 0,1,.. in field
order; after `s i n` the n new copies are roots 0..n-1).
  `e <i>`             erase root i
  `s <i> <n>`         share root i, n more copies
  `t <f> <f> ...`     store an object; `<f>` = `p<i>:<w>` (root i, value word w) or `i<w>` (integer w);
                      the indices refer to the root list before the op and must be distinct
  `t`                 store an object without fields (yields the root 0 = no allocation)
  `l <i> <kinds>`     load the object at root i; kinds = string over {p,i}, `-` for no fields
The invariant is checked after every op.
Reply:    `OK heap=<h> free=<f> frontier=<F> lin=<n> lazy=<n> live=<n> roots=<r,r,...>`
        | `FAULT <k> <fault>`     op number k (from 0) faulted
        | `INV-FAIL <k> <clause and block>`   invariant broken after op number k
        | `PRE-FAIL <k> ..`       op number k violates its precondition (`opPreB`: root not held,
                                  or `load` on an object whose shape does not match the kinds)
        | `BAD <message>`         malformed request -/

def parseNat? (s : String) : Option Nat := s.toNat?

def words (s : String) : List String := (s.splitOn " ").filter (· ≠ "")

inductive LOp where
  | erase (i : Nat)
  | share (i n : Nat)
  | store (fs : List (Option Nat × Nat))   -- (some root index | none, value word)
  | load (i : Nat) (kinds : List Bool)
  deriving Repr, Inhabited

def parseField (w : String) : Option (Option Nat × Nat) :=
  match w.toList with
  | 'i' :: rest => (parseNat? (String.ofList rest)).map (fun v => (none, v))
  | 'p' :: rest =>
    match (String.ofList rest).splitOn ":" with
    | [i, v] =>
      match parseNat? i, parseNat? v with
      | some i, some v => some (some i, v)
      | _, _ => none
    | _ => none
  | _ => none

def parseKinds (w : String) : Option (List Bool) :=
  if w = "-" then some [] else
  w.toList.mapM (fun c => if c = 'p' then some true else if c = 'i' then some false else none)

def parseLOp (s : String) : Option LOp :=
  match words s with
  | ["e", i] => (parseNat? i).map .erase
  | ["s", i, n] =>
    match parseNat? i, parseNat? n with
    | some i, some n => some (.share i n)
    | _, _ => none
  | "t" :: fs => (fs.mapM parseField).map .store
  | ["l", i, k] =>
    match parseNat? i, parseKinds k with
    | some i, some k => some (.load i k)
    | _, _ => none
  | _ => none

/-- Resolve root indices to addresses. -/
def resolveOp (roots : List Nat) : LOp → Except Fault HOp
  | .erase i => match roots[i]? with
    | some r => .ok (.erase r)
    | none => .error (.badIndex i)
  | .share i n => match roots[i]? with
    | some r => .ok (.share r n)
    | none => .error (.badIndex i)
  | .load i k => match roots[i]? with
    | some r => .ok (.load r k)
    | none => .error (.badIndex i)
  | .store fs =>
    let idxs := fs.filterMap (·.1)
    if !idxs.Nodup then .error (.badIndex 0) else
    match fs.mapM (fun (f : Option Nat × Nat) => match f with
        | (none, w) => some (FieldRef.int w)
        | (some i, w) => (roots[i]?).map (fun r => FieldRef.root r w)) with
    | some frs => .ok (.store frs)
    | none => .error (.badIndex 0)

def faultToString : Fault → String
  | .outOfHeap a => s!"outOfHeap {a}"
  | .unaligned a => s!"unaligned {a}"
  | .rootNotHeld r => s!"rootNotHeld {r}"
  | .badIndex i => s!"badIndex {i}"
  | .arity => "arity"

def natsToString (xs : List Nat) : String := ",".intercalate (xs.map toString)

def runLOps (s : HState) (roots : List Nat) : Nat → List LOp → String
  | k, [] =>
    match invCheckFn s.mem.get s.base s.limit s.heap s.free roots [] with
    | .error e => s!"INV-FAIL {k} {e}"
    | .ok (lin, lazy, live, fr) =>
      s!"OK heap={s.heap} free={s.free} frontier={fr} lin={lin.length} lazy={lazy.length} live={live.length} roots={natsToString roots}"
  | k, op :: ops =>
    match resolveOp roots op with
    | .error e => s!"FAULT {k} {faultToString e}"
    | .ok hop =>
      if !(opPreB (s, roots) hop) then s!"PRE-FAIL {k} precondition of op violated" else
      match applyOp (s, roots) hop with
      | .error e => s!"FAULT {k} {faultToString e}"
      | .ok (s1, roots1) =>
        match invCheck s1 roots1 with
        | .error e => s!"INV-FAIL {k} {e}"
        | .ok () => runLOps s1 roots1 (k + 1) ops

def handleLine (line : String) : String :=
  match words (line.trimAscii.toString) with
  | "heapops" :: base :: limit :: rest =>
    match parseNat? base, parseNat? limit with
    | some base, some limit =>
      let opsText := (" ".intercalate rest).splitOn ";"
      let opsText := opsText.filter (fun t => words t ≠ [])
      match opsText.mapM parseLOp with
      | some ops => runLOps (init base limit) [] 0 ops
      | none => "BAD cannot parse ops"
    | _, _ => "BAD base/limit"
  | _ => "BAD unknown request"

end Scc.Heap
