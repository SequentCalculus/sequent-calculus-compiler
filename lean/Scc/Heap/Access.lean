/-
  Scc.Heap.Access — what the contracts of the three backends use of the heap model alone: when the primitive
  accesses succeed, the recursion equations of `storeFields` / `loadFields`, and that loading in share mode
  only increments words.
-/
import Scc.Heap.Model

namespace Scc.Heap

def HOk (h : HState) (a : Nat) : Prop :=
  h.base ≤ a ∧ a + 8 ≤ h.limit ∧ (a - h.base) % 8 = 0

theorem rd_eq_ok {s : HState} {a v : Nat} :
    rd s a = .ok v ↔ HOk s a ∧ v = s.mem.get a := by
  unfold rd HOk
  by_cases h1 : s.base ≤ a ∧ a + 8 ≤ s.limit
  · by_cases h2 : (a - s.base) % 8 = 0
    · simp [h1, h2, eq_comm]
    · simp [h1, h2]
  · simp only [h1, if_false]
    constructor
    · intro h; cases h
    · intro h; exact absurd ⟨h.1.1, h.1.2.1⟩ h1

theorem wr_eq_ok {s s' : HState} {a v : Nat} :
    wr s a v = .ok s' ↔ HOk s a ∧ s' = { s with mem := s.mem.set a v } := by
  unfold wr HOk
  by_cases h1 : s.base ≤ a ∧ a + 8 ≤ s.limit
  · by_cases h2 : (a - s.base) % 8 = 0
    · simp [h1, h2, eq_comm]
    · simp [h1, h2]
  · simp only [h1, if_false]
    constructor
    · intro h; cases h
    · intro h; exact absurd ⟨h.1.1, h.1.2.1⟩ h1

theorem wr_heap {s s' : HState} {a v : Nat} (h : wr s a v = .ok s') : s'.heap = s.heap := by
  obtain ⟨_, rfl⟩ := wr_eq_ok.1 h; rfl

theorem heap_storeFields_nil (s : HState) (pos : BlockPosition) (prev : Nat) :
    storeFields s [] pos prev = .ok (s, if pos = .last then 0 else prev) := by
  rw [storeFields]; simp

theorem heap_storeFields_cons (s : HState) (fs : List Field) (hne : fs ≠ [])
    (pos : BlockPosition) (prev : Nat) :
    storeFields s fs pos prev =
      match (if pos = .other then wr s (s.heap + fstOff (fieldsPerBlock - 1)) prev
             else .ok s) with
      | .error e => .error e
      | .ok s1 =>
        match storeValues s1 (fs.drop (restLength fs.length pos)) s1.heap
            (fieldsPerBlock - pos.toNat) with
        | .error e => .error e
        | .ok s2 =>
          match acquire s2 with
          | .error e => .error e
          | .ok (s3, new) =>
            storeFields s3 (fs.take (restLength fs.length pos)) .other new := by
  rw [storeFields]; simp only [dif_neg hne]; rfl

theorem eraseBlock_heap {s s' : HState} {p : Nat} (h : eraseBlock s p = .ok s') : s'.heap = s.heap := by
  unfold eraseBlock at h
  split at h
  · cases h; rfl
  · cases hrd : rd s p with
    | error f => simp [hrd] at h
    | ok c =>
      simp only [hrd] at h
      split at h
      · cases hw : wr s p s.free with
        | error f => simp [hw] at h
        | ok s1 =>
          simp only [hw, Except.ok.injEq] at h
          subst h
          show s1.heap = s.heap
          exact wr_heap hw
      · exact wr_heap h

theorem shareBlock_mono {s s' : HState} {p n : Nat} (h : shareBlock s p n = .ok s') :
    ∀ a, s.mem.get a ≤ s'.mem.get a := by
  intro a
  unfold shareBlock at h
  split at h
  · cases h; exact Nat.le_refl _
  · cases hrd : rd s p with
    | error f => simp [hrd] at h
    | ok cnt =>
      simp only [hrd] at h
      obtain ⟨_, hc⟩ := rd_eq_ok.1 hrd
      obtain ⟨_, rfl⟩ := wr_eq_ok.1 h
      simp only [Mem.get_set]
      split
      · rename_i e; subst e; omega
      · exact Nat.le_refl _

/-- if the words after a `share_block` fit in 64 bits, the incremented count does -/
theorem shareBlock_lt {s s' : HState} {p : Nat} (h : shareBlock s p 1 = .ok s')
    (hb : ∀ a, s'.mem.get a < 2 ^ 64) (hp : p ≠ 0) : s.mem.get p + 1 < 2 ^ 64 := by
  have hb := hb p
  unfold shareBlock at h
  rw [if_neg hp] at h
  cases hrd : rd s p with
  | error f => simp [hrd] at h
  | ok cnt =>
    simp only [hrd] at h
    obtain ⟨_, hc⟩ := rd_eq_ok.1 hrd
    obtain ⟨_, rfl⟩ := wr_eq_ok.1 h
    simp only [Mem.get_set, if_true] at hb
    omega

theorem loadValue_mono {s s' : HState} {kd : Bool} {blk off : Nat} {v : Field}
    (h : loadValue s kd blk off .share = .ok (s', v)) : ∀ a, s.mem.get a ≤ s'.mem.get a := by
  simp only [loadValue] at h
  cases hr1 : rd s (blk + sndOff off) with
  | error e => simp [hr1] at h
  | ok w =>
    simp only [hr1] at h
    cases kd with
    | false =>
      simp only [Bool.false_eq_true, if_false, Except.ok.injEq, Prod.mk.injEq] at h
      obtain ⟨rfl, _⟩ := h
      exact fun _ => Nat.le_refl _
    | true =>
      simp only [if_true] at h
      cases hr2 : rd s (blk + fstOff off) with
      | error e => simp [hr2] at h
      | ok p =>
        simp only [hr2] at h
        cases hsh : shareBlock s p 1 with
        | error e => simp [hsh] at h
        | ok s1 =>
          simp only [hsh, Except.ok.injEq, Prod.mk.injEq] at h
          obtain ⟨rfl, _⟩ := h
          exact shareBlock_mono hsh

theorem loadValuesRev_mono {blk : Nat} : ∀ (ks : List Bool) (ff : Nat) (acc : List Field)
    (s s' : HState) (vs : List Field),
    loadValuesRev s blk .share ks ff acc = .ok (s', vs) → ∀ a, s.mem.get a ≤ s'.mem.get a := by
  intro ks
  induction ks with
  | nil =>
    intro ff acc s s' vs h
    simp only [loadValuesRev, Except.ok.injEq, Prod.mk.injEq] at h
    obtain ⟨rfl, _⟩ := h
    exact fun _ => Nat.le_refl _
  | cons kd rest ih =>
    intro ff acc s s' vs h
    cases ff with
    | zero => simp [loadValuesRev] at h
    | succ ff =>
      simp only [loadValuesRev] at h
      cases hlv : loadValue s kd blk ff .share with
      | error e => simp [hlv] at h
      | ok r =>
        obtain ⟨s1, v⟩ := r
        simp only [hlv] at h
        exact fun a => Nat.le_trans (loadValue_mono hlv a) (ih ff (v :: acc) s1 s' vs h a)

theorem loadValues_mono {s s' : HState} {ks : List Bool} {blk ff : Nat} {vs : List Field}
    (h : loadValues s ks blk ff .share = .ok (s', vs)) : ∀ a, s.mem.get a ≤ s'.mem.get a :=
  loadValuesRev_mono _ _ _ _ _ _ h

/-- the release step of `loadFields` (a definition, so that its case distinction has one name in every file) -/
def relStep (mode : LoadMode) (s1 : HState) (blk : Nat) : Except Fault HState :=
  match mode with
  | .release => releaseBlock s1 blk
  | .share => .ok s1

@[simp] theorem relStep_release (s1 : HState) (blk : Nat) : relStep .release s1 blk = releaseBlock s1 blk := rfl
@[simp] theorem relStep_share (s1 : HState) (blk : Nat) : relStep .share s1 blk = .ok s1 := rfl

theorem heap_loadFields_nil (s : HState) (pos : BlockPosition) (mode : LoadMode)
    (p : Nat) : loadFields s [] pos mode p = .ok (s, [], p) := by
  rw [loadFields]; simp

theorem heap_loadFields_cons (s : HState) (kinds : List Bool) (hne : kinds ≠ [])
    (pos : BlockPosition) (mode : LoadMode) (p : Nat) :
    loadFields s kinds pos mode p =
      match loadFields s (kinds.take (restLength kinds.length pos)) .other mode p with
      | .error e => .error e
      | .ok (s1, vals1, blk) =>
        match relStep mode s1 blk with
        | .error e => .error e
        | .ok s2 =>
          match (if pos = .other then rd s2 (blk + fstOff (fieldsPerBlock - 1))
                 else .ok 0) with
          | .error e => .error e
          | .ok link =>
            match loadValues s2 (kinds.drop (restLength kinds.length pos)) blk
                (fieldsPerBlock - pos.toNat) mode with
            | .error e => .error e
            | .ok (s3, vals2) => .ok (s3, vals1 ++ vals2, link) := by
  rw [loadFields]; simp only [dif_neg hne]; cases mode <;> rfl

end Scc.Heap
