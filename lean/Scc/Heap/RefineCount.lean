/-
Scc.Heap.RefineCount — the counting lemma of the heap refinement: the count stored in the head block of
an abstract object is at least the abstract count (`head_count_ge`).  The difference is the number of
references from blocks that are alive only at block level (children of deferred blocks).
Consequence: whenever the abstract machine treats an object as shared, so does the emitted code; an
abstractly live block is never put on a free list.
-/
import Scc.Heap.RefineFrame

namespace Scc.Heap.Refine

open Scc.Backend.Abs (Heap Obj Word)
open Scc.Backend.Sim2 (childSum refCount_eq)

theorem ptrsOf_fieldsAt_sublist (m : Nat → Nat) (blk : Nat) : ∀ (i : Nat) (ks : List Bool), i + ks.length ≤ 3 →
    (ptrsOf (fieldsAt m blk i ks)).Sublist ((ptrSlots m blk).drop i)
  | _, [], _ => by simp [fieldsAt, ptrsOf]
  | i, k :: ks, hl => by
    simp only [List.length_cons] at hl
    have ih := ptrsOf_fieldsAt_sublist m blk (i + 1) ks (by omega)
    have hdrop : (ptrSlots m blk).drop i = m (blk + fstOff i) :: (ptrSlots m blk).drop (i + 1) := by
      have : i = 0 ∨ i = 1 ∨ i = 2 := by omega
      rcases this with rfl | rfl | rfl <;> simp [ptrSlots, fstOff, fieldOffset]
    rw [hdrop]
    cases k with
    | false =>
      simp only [fieldsAt, Bool.false_eq_true, if_false, ptrsOf]
      exact List.Sublist.cons _ ih
    | true =>
      simp only [fieldsAt, if_true, ptrsOf]
      exact List.Sublist.cons_cons _ ih

/-- the pointers read by `peek` form a sublist of the pointer slots of the visited blocks -/
theorem ptrsOf_peek_sublist (m : Nat → Nat) : ∀ (n : Nat) (kinds : List Bool) (pos : BlockPosition) (p : Nat),
    kinds.length ≤ n →
    (ptrsOf (peek m kinds pos p).1).Sublist (ptrFields m ((peek m kinds pos p).2.2.map (·.1)))
  | 0, kinds, pos, p, hn => by
    have : kinds = [] := List.length_eq_zero_iff.mp (by omega)
    subst this
    rw [peek_nil]; simp [ptrsOf, ptrFields]
  | n + 1, kinds, pos, p, hn => by
    by_cases hk : kinds = []
    · subst hk; rw [peek_nil]; simp [ptrsOf, ptrFields]
    · have hpos : 0 < kinds.length := List.length_pos_iff.mpr hk
      have hrl := restLength_lt kinds.length pos hpos
      rw [peek_cons m hk]
      simp only [ptrsOf_append, List.map_append, List.map_cons, List.map_nil, ptrFields_append]
      apply List.Sublist.append (ptrsOf_peek_sublist m n _ posOther p (by rw [List.length_take]; omega))
      rw [ptrFields_cons, ptrFields_nil, List.append_nil]
      have h1 := length_drop_restLength kinds.length pos
      have h2 : fieldsPerBlock - pos.toNat ≤ 3 := by unfold fieldsPerBlock; omega
      exact (ptrsOf_fieldsAt_sublist m _ _ _ (by rw [List.length_drop]; omega)).trans (List.drop_sublist _ _)

/-- the images of the children form a sublist of the pointers of the field images -/
theorem children_sublist (ι : Nat → Nat) : ∀ (fs : List AField),
    ((fs.filterMap fun f => if f.chi != Scc.AxCut.Chi.ext && f.ptr != 0 then some f.ptr.toNat else none).map ι).Sublist
      (ptrsOf (fs.map (fieldImg ι)))
  | [] => by simp [ptrsOf]
  | f :: fs => by
    have ih := children_sublist ι fs
    simp only [List.map_cons]
    by_cases hk : kindB f = true
    · have hf : fieldImg ι f = .ptr (imgW ι f.ptr) f.val.toNat := by simp [fieldImg, hk]
      rw [hf]
      simp only [ptrsOf]
      have hk' : (f.chi != Scc.AxCut.Chi.ext) = true := hk
      by_cases hp : f.ptr = 0
      · have hc : (f.chi != Scc.AxCut.Chi.ext && f.ptr != 0) = false := by simp [hp]
        rw [List.filterMap_cons, if_neg (by rw [hc]; simp)]
        exact List.Sublist.cons _ ih
      · have hc : (f.chi != Scc.AxCut.Chi.ext && f.ptr != 0) = true := by
          rw [hk', Bool.true_and, bne_iff_ne]; exact hp
        rw [List.filterMap_cons, if_pos hc]
        simp only [List.map_cons]
        have : imgW ι f.ptr = ι f.ptr.toNat := by unfold imgW; rw [if_neg hp]
        rw [this]
        exact List.Sublist.cons_cons _ ih
    · have hk' : (f.chi != Scc.AxCut.Chi.ext) = false := by
        have : kindB f = false := by simpa using hk
        exact this
      have hf : fieldImg ι f = .int f.val.toNat := by
        have : kindB f = false := hk'
        simp [fieldImg, this]
      rw [hf]
      simp only [ptrsOf]
      have hc : (f.chi != Scc.AxCut.Chi.ext && f.ptr != 0) = false := by rw [hk']; rfl
      rw [List.filterMap_cons, if_neg (by rw [hc]; simp)]
      exact ih

/-- per object: the references to `id` among its children are pointer slots of its chain -/
theorem chain_count_ge {m : Nat → Nat} {ι : Nat → Nat} {p : Nat} {o : Obj} (O : ObjAt m ι p o.fields)
    (id : Nat) : o.children.count id ≤ (ptrFields m (blocksOf m p o.fields)).count (ι id) := by
  have h1 : o.children.count id ≤ (o.children.map ι).count (ι id) := List.count_le_count_map
  have h2 := (children_sublist ι o.fields).count_le (ι id)
  have h3 := (ptrsOf_peek_sublist m _ (o.fields.map kindB) .last p (Nat.le_refl _)).count_le (ι id)
  rw [O.vals] at h3
  have : o.children = o.fields.filterMap fun f =>
      if f.chi != Scc.AxCut.Chi.ext && f.ptr != 0 then some f.ptr.toNat else none := rfl
  rw [this] at h1
  exact Nat.le_trans h1 (Nat.le_trans h2 h3)

theorem sum_le_of_nodup_subset (g : Nat → Nat) : ∀ (l big : List Nat), l.Nodup → (∀ b ∈ l, b ∈ big) →
    (l.map g).sum ≤ (big.map g).sum
  | [], big, _, _ => by simp
  | a :: l, big, hnd, hsub => by
    have ha : a ∈ big := hsub a (by simp)
    obtain ⟨l1, l2, rfl⟩ := List.append_of_mem ha
    have hnd' := List.nodup_cons.mp hnd
    have hsub' : ∀ b ∈ l, b ∈ l1 ++ l2 := by
      intro b hb
      have := hsub b (by simp [hb])
      simp only [List.mem_append, List.mem_cons] at this ⊢
      rcases this with h | rfl | h
      · exact Or.inl h
      · exact absurd hb hnd'.1
      · exact Or.inr h
    have ih := sum_le_of_nodup_subset g l (l1 ++ l2) hnd'.2 hsub'
    simp only [List.map_cons, List.sum_cons, List.map_append, List.sum_append] at ih ⊢
    omega

theorem count_ptrFields_le {m : Nat → Nat} {l big : List Nat} (hnd : l.Nodup) (hsub : ∀ b ∈ l, b ∈ big)
    (x : Nat) : (ptrFields m l).count x ≤ (ptrFields m big).count x := by
  unfold ptrFields
  rw [List.count_flatMap, List.count_flatMap]
  exact sum_le_of_nodup_subset _ l big hnd hsub

def allBlocks (m : Nat → Nat) (ι : Nat → Nat) (h : Heap) : List Nat :=
  h.flatMap fun e => blocksOf m (ι e.1) e.2.fields

theorem allBlocks_nodup {m : Nat → Nat} {ι : Nat → Nat} : ∀ (h : Heap), (h.map (·.1)).Nodup →
    (∀ e ∈ h, (blocksOf m (ι e.1) e.2.fields).Nodup) →
    (∀ e ∈ h, ∀ e' ∈ h, e.1 ≠ e'.1 → ∀ b ∈ blocksOf m (ι e.1) e.2.fields, b ∉ blocksOf m (ι e'.1) e'.2.fields) →
    (allBlocks m ι h).Nodup
  | [], _, _, _ => by simp [allBlocks]
  | a :: h, hnd, hn, hd => by
    simp only [List.map_cons, List.nodup_cons] at hnd
    have ih := allBlocks_nodup h hnd.2 (fun e he => hn e (by simp [he]))
      (fun e he e' he' => hd e (by simp [he]) e' (by simp [he']))
    simp only [allBlocks, List.flatMap_cons]
    rw [List.nodup_append]
    refine ⟨hn a (by simp), ih, ?_⟩
    intro b hb b' hb' e
    subst e
    simp only [List.mem_flatMap] at hb'
    obtain ⟨e', he', hbe'⟩ := hb'
    have hne : a.1 ≠ e'.1 := by
      intro e
      exact hnd.1 (List.mem_map.2 ⟨e', he', e.symm⟩)
    exact hd a (by simp) e' (by simp [he']) hne b hb hbe'

theorem count_allBlocks_ge {m : Nat → Nat} {ι : Nat → Nat} : ∀ (h : Heap),
    (∀ e ∈ h, ObjAt m ι (ι e.1) e.2.fields) → ∀ id,
    childSum h id ≤ (ptrFields m (allBlocks m ι h)).count (ι id)
  | [], _, id => by simp [childSum, allBlocks]
  | a :: h, hs, id => by
    have ih := count_allBlocks_ge h (fun e he => hs e (by simp [he])) id
    have h1 := chain_count_ge (hs a (by simp)) id
    simp only [childSum, List.map_cons, List.sum_cons, allBlocks, List.flatMap_cons, ptrFields_append,
      List.count_append] at ih ⊢
    omega

/-- THE COUNTING LEMMA: the stored count of a head block is at least the abstract count -/
theorem head_count_ge {h : Heap} {rs : List Nat} {next : Nat} {s : HState} {ι : Nat → Nat}
    (R : HRef h rs next s ι) {e : Nat × Obj} (he : e ∈ h) : e.2.count ≤ s.mem.get (ι e.1) := by
  obtain ⟨lin, lazy, live, F, I⟩ := R.conc
  have hlive : ∀ e ∈ h, ∀ b ∈ blocksOf s.mem.get (ι e.1) e.2.fields, b ∈ live :=
    fun e he => chains_live I R.abs R.ord R.shape _ e he (Nat.le_refl _)
  have hhead : ι e.1 ∈ live := by
    have O := R.shape e he
    have hk : e.2.fields.map kindB ≠ [] := by simpa using O.ne
    have hl := (peek_chain s.mem.get _ (e.2.fields.map kindB) .last (ι e.1) (Nat.le_refl _))
    have hne : blocksOf s.mem.get (ι e.1) e.2.fields ≠ [] := by
      unfold blocksOf chainOf
      intro h0
      have := hl.2.2.2.mp (by simpa using h0)
      exact hk this
    cases hb : blocksOf s.mem.get (ι e.1) e.2.fields with
    | nil => exact absurd hb hne
    | cons x rest =>
      have h1 := hl.1
      unfold blocksOf chainOf at hb
      rw [hb] at h1
      have : x = ι e.1 := h1.1
      rw [← this]
      exact hlive e he x (by unfold blocksOf chainOf; rw [hb]; simp)
  have hc := I.counts _ hhead
  have ha := R.abs.counts e he
  rw [refCount_eq] at ha
  have h1 : rs.count e.1 ≤ (rs.map ι).count (ι e.1) := List.count_le_count_map
  have hnd : (allBlocks s.mem.get ι h).Nodup :=
    allBlocks_nodup h R.abs.nodup (fun e he => (R.shape e he).nodup) R.disj
  have hsub : ∀ b ∈ allBlocks s.mem.get ι h, b ∈ live ++ lazy := by
    intro b hb
    simp only [allBlocks, List.mem_flatMap] at hb
    obtain ⟨e', he', hb'⟩ := hb
    exact List.mem_append.2 (Or.inl (hlive e' he' b hb'))
  have h2 := count_ptrFields_le (m := s.mem.get) hnd hsub (ι e.1)
  have h3 := count_allBlocks_ge (m := s.mem.get) (ι := ι) h R.shape e.1
  omega

end Scc.Heap.Refine
