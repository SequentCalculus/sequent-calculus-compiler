/-
Scc.Heap.RefineStoreObj — `store` for the heap refinement, part 2: the invariant `SI` of a `store_fields`
in progress (fields `todo` still held by the roots, fields `done` already in the chain at `prev`), its
preservation by one block (`store_step`), the induction (`storeFields_ref`) and the commuting lemma
`href_store`: `Memory::store` of the images of the fields of a new abstract object yields a state that
represents the abstract heap extended by that object.
-/
import Scc.Heap.RefineStore

namespace Scc.Heap.Refine

open Scc.Backend.Abs (Heap Obj Word)
open Scc.Backend.Sim (HeapOK)

theorem peek_single (m : Nat → Nat) {ks : List Bool} (hne : ks ≠ []) (pos : BlockPosition) (p : Nat)
    (hl : ks.length ≤ capOf pos) :
    peek m ks pos p = (fieldsAt m p (capOf pos - ks.length) ks,
      (if pos = posOther then m (p + fstOff (fieldsPerBlock - 1)) else 0), [(p, ks, pos)]) := by
  have hrl : restLength ks.length pos = 0 := by
    unfold restLength; unfold capOf at hl; rw [if_pos hl]
  rw [peek_cons m hne, hrl]
  simp only [List.take_zero, List.drop_zero, peek_nil, List.nil_append]
  rfl

/-- every block of a chain but the first is the link of a block of the chain -/
theorem linked_pred {m : Nat → Nat} : ∀ (l : List Nat) (a : Nat), Linked m a l →
    ∀ b ∈ l.tail, ∃ q ∈ l, m (q + 48) = b
  | [], _, _, b, hb => by simp at hb
  | [x], _, _, b, hb => by simp at hb
  | x :: y :: rest, a, hl, b, hb => by
    obtain ⟨hx, hy, hr⟩ := hl
    simp only [List.tail_cons, List.mem_cons] at hb
    rcases hb with rfl | hb
    · exact ⟨x, by simp, by rw [hx, hy]⟩
    · obtain ⟨q, hq, e⟩ := linked_pred (y :: rest) (m (a + 48)) ⟨hy, hr⟩ b (by simpa using hb)
      exact ⟨q, List.mem_cons_of_mem _ hq, e⟩

theorem objAt_pred {m : Nat → Nat} {p : Nat} {fs : List AField} :
    ∀ b ∈ (blocksOf m p fs).tail, ∃ q ∈ blocksOf m p fs, b ∈ ptrSlots m q := by
  intro b hb
  obtain ⟨q, hq, e⟩ := linked_pred _ _ (peek_chain m _ (fs.map kindB) .last p (Nat.le_refl _)).1 b hb
  exact ⟨q, hq, by simp [ptrSlots, e]⟩

/-- `store_fields` in progress: the fields `todo` are still held by roots, the fields `done` are in the
chain at `prev` (count 0, referenced by the root `prev` only); the objects of the old heap are where they
were -/
structure SI (h : Heap) (rsKeep : List Nat) (ι : Nat → Nat) (fields : List AField)
    (s : HState) (todo done : List AField) (prev : Nat) : Prop where
  split : todo ++ done = fields
  conc : ∃ roots lin lazy live F, InvS s roots [] lin lazy live F ∧
    (∀ x, x ≠ 0 → roots.count x = (ptrsOf (todo.map (fieldImg ι))).count x +
      (if done = [] then 0 else [prev].count x) + (rsKeep.map ι).count x) ∧
    F + 64 * todo.length + 64 ≤ s.limit
  old : ∀ e ∈ h, ObjAt s.mem.get ι (ι e.1) e.2.fields
  disj : ∀ e ∈ h, ∀ e' ∈ h, e.1 ≠ e'.1 →
    ∀ b ∈ blocksOf s.mem.get (ι e.1) e.2.fields, b ∉ blocksOf s.mem.get (ι e'.1) e'.2.fields
  new : done ≠ [] → ObjAt s.mem.get ι prev done ∧ s.mem.get prev = 0 ∧
    ∀ e ∈ h, ∀ b ∈ blocksOf s.mem.get prev done, b ∉ blocksOf s.mem.get (ι e.1) e.2.fields
  al : todo ≠ [] → done ≠ [] → ∃ j, done.length = 3 + 2 * j

def posOf (done : List AField) : BlockPosition := if done = [] then .last else .other

theorem posOf_ne {l : List AField} (hl : l ≠ []) : posOf l = posOther := by
  unfold posOf; rw [if_neg hl]

theorem count_ptrsOf_children (ι : Nat → Nat) (fs : List AField) (b : Nat) (hb : b ≠ 0) :
    (ptrsOf (fs.map (fieldImg ι))).count b = ((childrenOf fs).map ι).count b :=
  count_ptrsOf_img ι fs b hb

section Step

variable {h : Heap} {rsKeep : List Nat} {next : Nat} {ι : Nat → Nat} {fields : List AField}

/-- ONE BLOCK of `store_fields` preserves `SI` -/
theorem store_step (A : HeapOK h (rsKeep ++ childrenOf fields) next)
    (hord : ∀ e ∈ h, ∀ c ∈ e.2.children, c < e.1)
    {s : HState} {todo done : List AField} {prev : Nat}
    (S : SI h rsKeep ι fields s todo done prev) (hne : todo ≠ []) :
    ∃ s1 s2 s3,
      (if posOf done = posOther then wr s (s.heap + fstOff (fieldsPerBlock - 1)) prev else .ok s) = .ok s1 ∧
      storeValues s1 ((todo.drop (restLength todo.length (posOf done))).map (fieldImg ι)) s1.heap
        (fieldsPerBlock - (posOf done).toNat) = .ok s2 ∧
      acquire s2 = .ok (s3, s.heap) ∧
      SI h rsKeep ι fields s3 (todo.take (restLength todo.length (posOf done)))
        (todo.drop (restLength todo.length (posOf done)) ++ done) s.heap := by
  obtain ⟨roots, lin, lazy, live, F, I, hroots, hroom⟩ := S.conc
  generalize hpos : posOf done = pos at *
  generalize hrl : restLength todo.length pos = rl at *
  have hlenpos : 0 < todo.length := List.length_pos_iff.mpr hne
  have hrl_lt : rl < todo.length := by rw [← hrl]; exact restLength_lt _ _ hlenpos
  have hg_len : (todo.drop rl).length ≤ capOf pos := by
    rw [List.length_drop, ← hrl]; exact length_drop_restLength _ _
  have hg_ne : todo.drop rl ≠ [] := by
    intro e
    have := congrArg List.length e
    rw [List.length_drop] at this
    simp at this; omega
  have hsplit : todo.take rl ++ todo.drop rl = todo := List.take_append_drop _ _
  have hposif : ∀ x, (if pos = BlockPosition.other then [prev].count x else 0) =
      (if done = [] then 0 else [prev].count x) := by
    intro x
    rw [← hpos]; unfold posOf
    by_cases hd : done = [] <;> simp [hd]
  have A' : HeapOK h (rsKeep ++ childrenOf (todo ++ done)) next := by rw [S.split]; exact A
  obtain ⟨hdl, holdl⟩ := store_liveness A' hord I hroots S.old (fun hd => (S.new hd).1)
  obtain ⟨s1, s2, s3, lin', lazy', live', F', e1, e2, e3, hsame, I3, hF', hNlin, hw, hh, hvals, hzero,
      hlink, hN0⟩ :=
    storeBlock_mem I ((todo.drop rl).map (fieldImg ι)) pos prev
      (ptrsOf ((todo.take rl).map (fieldImg ι)) ++ rsKeep.map ι)
      (by rw [List.length_map]; exact hg_len)
      (by
        intro x hx
        rw [hroots x hx, hposif x, List.count_append]
        conv => lhs; rw [← hsplit, List.map_append, ptrsOf_append, List.count_append]
        omega)
      (by omega)
  rw [map_isPtrF_fieldImg, List.length_map] at hvals
  rw [map_isPtrF_fieldImg] at hzero
  have hNb := I.lin_block hNlin
  have hN_ne0 : s.heap ≠ 0 := by have := hNb.1.1; have := I.base_pos; omega
  have hnd := I.nodup
  rw [nodup4_iff] at hnd
  have hN_notlive : s.heap ∉ live := (hnd.2.2.2.2.1 _ hNlin).2.1
  -- transport of chains made of live blocks
  have transport : ∀ (p : Nat) (fs : List AField), ObjAt s.mem.get ι p fs →
      (∀ b ∈ blocksOf s.mem.get p fs, b ∈ live) →
      ObjAt s3.mem.get ι p fs ∧ blocksOf s3.mem.get p fs = blocksOf s.mem.get p fs := by
    intro p fs O hl
    have hw' : ∀ b ∈ blocksOf s.mem.get p fs, ∀ k, 0 < k → k < 64 →
        s3.mem.get (b + k) = s.mem.get (b + k) := fun b hb => hw b (hl b hb)
    refine ⟨O.congr hw' ?_, blocksOf_congr hw'⟩
    intro b hb
    have hb' : b ∈ blocksOf s.mem.get p fs := List.mem_of_mem_tail hb
    obtain ⟨q, hq, hbq⟩ := objAt_pred b hb
    rw [hh b (hl b hb') (O.hdr b hb) (Or.inr ⟨q, hl q hq, hbq⟩)]
    exact (O.hdr b hb).symm
  have hold3 : ∀ e ∈ h, ObjAt s3.mem.get ι (ι e.1) e.2.fields ∧
      blocksOf s3.mem.get (ι e.1) e.2.fields = blocksOf s.mem.get (ι e.1) e.2.fields :=
    fun e he => transport _ _ (S.old e he) (holdl e he)
  have hN_notold : ∀ e ∈ h, s.heap ∉ blocksOf s3.mem.get (ι e.1) e.2.fields := by
    intro e he hmem
    rw [(hold3 e he).2] at hmem
    exact hN_notlive (holdl e he _ hmem)
  refine ⟨s1, s2, s3, e1, e2, e3, ?_⟩
  refine ⟨?_, ?_, fun e he => (hold3 e he).1, ?_, ?_, ?_⟩
  · rw [← List.append_assoc, hsplit]; exact S.split
  · refine ⟨_, lin', lazy', live', F', I3, ?_, ?_⟩
    · intro x hx
      have hne' : todo.drop rl ++ done ≠ [] := by simp [hg_ne]
      rw [if_neg hne']
      simp only [List.count_cons, List.count_append, List.count_nil]
      omega
    · rw [hsame.limit, List.length_take]
      have : min rl todo.length = rl := by omega
      omega
  · intro e he e' he' hne' b hb
    rw [(hold3 e he).2] at hb
    rw [(hold3 e' he').2]
    exact S.disj e he e' he' hne' b hb
  · intro _
    by_cases hd : done = []
    · -- the first block (position `last`)
      subst hd
      have hp : pos = .last := by rw [← hpos]; rfl
      subst hp
      rw [List.append_nil]
      have hks : (todo.drop rl).map kindB ≠ [] := by simpa using hg_ne
      have hkl : ((todo.drop rl).map kindB).length ≤ capOf .last := by rw [List.length_map]; exact hg_len
      have hpk := peek_single s3.mem.get hks .last s.heap hkl
      rw [List.length_map] at hpk
      have hbl : blocksOf s3.mem.get s.heap (todo.drop rl) = [s.heap] := by
        unfold blocksOf chainOf; rw [hpk]; rfl
      refine ⟨⟨hg_ne, hN_ne0, ?_, ?_, ?_, ?_⟩, hN0, ?_⟩
      · rw [hpk]; exact hvals
      · intro v hv
        unfold chainOf at hv
        rw [hpk] at hv
        simp only [List.mem_singleton] at hv
        subst hv
        exact ⟨hzero, fun hc => by cases hc⟩
      · rw [hbl]; intro b hb; simp at hb
      · rw [hbl]; simp
      · intro e he b hb
        rw [hbl] at hb
        simp only [List.mem_singleton] at hb
        subst hb
        exact hN_notold e he
    · -- a block in front of the chain at `prev`
      have hp : pos = .other := by rw [← hpos]; unfold posOf; rw [if_neg hd]
      subst hp
      obtain ⟨Od, hprev0, hdisj⟩ := S.new hd
      obtain ⟨Od3, hbd3⟩ := transport _ _ Od (hdl hd)
      obtain ⟨j, hj⟩ := S.al hne hd
      have hprev_live : prev ∈ live := hdl hd _ (head_mem_blocksOf Od)
      have hprev_root : prev ∈ roots := by
        apply List.count_pos_iff.mp
        rw [hroots prev Od.pos, if_neg hd]
        simp only [List.count_singleton_self]
        omega
      have hprev3 : s3.mem.get prev = 0 := hh prev hprev_live hprev0 (Or.inl hprev_root)
      have hlink' : s3.mem.get (s.heap + 48) = prev := hlink rfl
      have hks : (todo.drop rl).map kindB ≠ [] := by simpa using hg_ne
      have hkl : ((todo.drop rl).map kindB).length ≤ 2 := by rw [List.length_map]; exact hg_len
      have hpk := peek_prepend s3.mem.get _ (done.map kindB) .last (Nat.le_refl _)
        ⟨j, by rw [List.length_map, hj]; rfl⟩ ((todo.drop rl).map kindB) s.heap hks hkl
      rw [hlink', List.length_map, ← List.map_append] at hpk
      have hbl : blocksOf s3.mem.get s.heap (todo.drop rl ++ done) =
          s.heap :: blocksOf s3.mem.get prev done := by
        unfold blocksOf chainOf; rw [hpk]; rfl
      have hN_notd : s.heap ∉ blocksOf s3.mem.get prev done := by
        rw [hbd3]; intro hmem; exact hN_notlive (hdl hd _ hmem)
      refine ⟨⟨by simp [hg_ne], hN_ne0, ?_, ?_, ?_, ?_⟩, hN0, ?_⟩
      · rw [hpk, List.map_append]
        show fieldsAt s3.mem.get s.heap (2 - (todo.drop rl).length) _ ++ _ = _
        have hv : fieldsAt s3.mem.get s.heap (2 - (todo.drop rl).length) ((todo.drop rl).map kindB) =
            (todo.drop rl).map (fieldImg ι) := hvals
        rw [hv, Od3.vals]
      · intro v hv
        unfold chainOf at hv
        rw [hpk] at hv
        simp only [List.mem_cons] at hv
        rcases hv with rfl | hv
        · refine ⟨hzero, fun _ => ?_⟩
          show s3.mem.get (s.heap + 48) ≠ 0
          rw [hlink']; exact Od.pos
        · exact Od3.pre v hv
      · rw [hbl]
        simp only [List.tail_cons]
        intro b hb
        obtain ⟨t, et⟩ := blocksOf_head Od3
        rw [et] at hb
        simp only [List.mem_cons] at hb
        rcases hb with rfl | hb
        · exact hprev3
        · exact Od3.hdr b (by rw [et]; exact hb)
      · rw [hbl]
        exact List.nodup_cons.mpr ⟨hN_notd, Od3.nodup⟩
      · intro e he b hb
        rw [hbl] at hb
        simp only [List.mem_cons] at hb
        rcases hb with rfl | hb
        · exact hN_notold e he
        · rw [(hold3 e he).2]
          rw [hbd3] at hb
          exact hdisj e he b hb
  · intro hpre _
    have hrl_pos : 0 < rl := by
      cases hr : rl with
      | zero => rw [hr] at hpre; simp at hpre
      | succ n => omega
    have hgl : (todo.drop rl).length = capOf pos := by
      rw [List.length_drop, ← hrl]
      rw [← hrl] at hrl_pos
      unfold restLength at hrl_pos ⊢
      unfold capOf
      split <;> rename_i hc
      · rw [if_pos hc] at hrl_pos; omega
      · omega
    rw [List.length_append, hgl]
    by_cases hd : done = []
    · subst hd
      have hp : pos = .last := by rw [← hpos]; rfl
      subst hp
      exact ⟨0, rfl⟩
    · have hp : pos = .other := by rw [← hpos]; unfold posOf; rw [if_neg hd]
      subst hp
      obtain ⟨j, hj⟩ := S.al hne hd
      exact ⟨j + 1, by rw [hj, capOf_other]; omega⟩

/-- `store_fields` establishes `SI` with nothing left to store -/
theorem storeFields_ref (A : HeapOK h (rsKeep ++ childrenOf fields) next)
    (hord : ∀ e ∈ h, ∀ c ∈ e.2.children, c < e.1) :
    ∀ (n : Nat) (todo done : List AField) (prev : Nat) (s : HState), todo.length ≤ n →
      (todo ≠ [] ∨ done ≠ []) → SI h rsKeep ι fields s todo done prev →
      ∃ s' p, storeFields s (todo.map (fieldImg ι)) (posOf done) prev = .ok (s', p) ∧
        SI h rsKeep ι fields s' [] fields p := by
  intro n
  induction n with
  | zero =>
    intro todo done prev s hn hor S
    have ht : todo = [] := List.length_eq_zero_iff.mp (by omega)
    subst ht
    have hd : done ≠ [] := by
      rcases hor with h0 | h0
      · exact absurd rfl h0
      · exact h0
    have hsp : done = fields := by simpa using S.split
    refine ⟨s, prev, ?_, by have S2 := S; rw [hsp] at S2; exact S2⟩
    rw [storeFields]
    simp [posOf, hd]
  | succ n ih =>
    intro todo done prev s hn hor S
    by_cases ht : todo = []
    · subst ht
      have hd : done ≠ [] := by
        rcases hor with h0 | h0
        · exact absurd rfl h0
        · exact h0
      have hsp : done = fields := by simpa using S.split
      refine ⟨s, prev, ?_, by have S2 := S; rw [hsp] at S2; exact S2⟩
      rw [storeFields]
      simp [posOf, hd]
    · obtain ⟨s1, s2, s3, e1, e2, e3, S3⟩ := store_step A hord S ht
      have hlenpos : 0 < todo.length := List.length_pos_iff.mpr ht
      have hrl_lt := restLength_lt todo.length (posOf done) hlenpos
      have hgne : todo.drop (restLength todo.length (posOf done)) ++ done ≠ [] := by
        intro e
        have := congrArg List.length e
        simp only [List.length_append, List.length_drop, List.length_nil] at this
        omega
      obtain ⟨s', p, hst, S'⟩ := ih _ _ s.heap s3 (by rw [List.length_take]; omega) (Or.inr hgne) S3
      refine ⟨s', p, ?_, S'⟩
      have hpo : posOf (todo.drop (restLength todo.length (posOf done)) ++ done) = posOther :=
        posOf_ne hgne
      rw [hpo, List.map_take] at hst
      rw [storeFields]
      have hmne : todo.map (fieldImg ι) ≠ [] := by simpa using ht
      simp only [hmne, ↓reduceDIte, List.length_map]
      rw [e1]; simp only []
      rw [← List.map_drop, e2]; simp only []
      rw [e3]
      exact hst

end Step

/-- THE COMMUTING LEMMA FOR `store`: storing the images of the fields of a new abstract object `o`
(its non-null pointer fields are roots that are consumed) yields a block-level state that represents
the abstract heap extended by `o` under the fresh id `next`, whose head block is the pointer returned -/
theorem href_store {h : Heap} {rsKeep : List Nat} {next : Nat} {s : HState} {ι : Nat → Nat} {o : Obj}
    (hc : o.count = 0) (hne : o.fields ≠ []) (hnext : next < 2 ^ 64)
    (R : HRef h (rsKeep ++ o.children) next s ι)
    (hroom : ∃ lin lazy live F, InvS s ((rsKeep ++ o.children).map ι) [] lin lazy live F ∧
      F + 64 * o.fields.length + 64 ≤ s.limit) :
    ∃ s' p, storeObj s (o.fields.map (fieldImg ι)) = .ok (s', p) ∧
      HRef ((next, o) :: h) (rsKeep ++ [next]) (next + 1) s' (fun i => if i = next then p else ι i) := by
  have A : HeapOK h (rsKeep ++ childrenOf o.fields) next := R.abs
  obtain ⟨lin, lazy, live, F, I, hroomF⟩ := hroom
  have hroot_lt : ∀ r ∈ rsKeep ++ o.children, r < next := by
    intro r hr
    have hrl : (h.get r).isSome := by
      apply A.live
      have : 0 < (rsKeep ++ childrenOf o.fields).count r := List.count_pos_iff.mpr hr
      rw [Scc.Backend.Sim2.refCount_eq]; omega
    obtain ⟨o', ho'⟩ := Scc.Backend.Sim.heap_get_isSome_mem hrl
    exact (A.ids _ ho').2.1
  have S0 : SI h rsKeep ι o.fields s o.fields [] 0 := by
    refine ⟨by simp, ⟨_, lin, lazy, live, F, I, ?_, hroomF⟩, R.shape, R.disj,
      fun h0 => absurd rfl h0, fun _ h0 => absurd rfl h0⟩
    intro x hx
    rw [children_eq, List.map_append, List.count_append, count_ptrsOf_children ι _ x hx, if_pos rfl]
    omega
  obtain ⟨s', p, hst, S'⟩ := storeFields_ref A R.ord o.fields.length o.fields [] 0 s (Nat.le_refl _)
    (Or.inl hne) S0
  refine ⟨s', p, hst, ?_⟩
  obtain ⟨Onew, hp0, hdisj⟩ := S'.new hne
  obtain ⟨roots', lin', lazy', live', F', I', hroots', _⟩ := S'.conc
  have hι_new : (fun i => if i = next then p else ι i) next = p := if_pos rfl
  have hι_old : ∀ i, i ≠ next → (fun i => if i = next then p else ι i) i = ι i := fun i hi => if_neg hi
  generalize (fun i => if i = next then p else ι i) = ι' at hι_new hι_old ⊢
  have hid_lt : ∀ e ∈ h, e.1 < next := fun e he => (A.ids e he).2.1
  have hch_old : ∀ c ∈ o.children, ι' c = ι c := fun c hc' =>
    hι_old c (Nat.ne_of_lt (hroot_lt c (List.mem_append.2 (Or.inr hc'))))
  have hshape_old : ∀ e ∈ h, ObjAt s'.mem.get ι' (ι e.1) e.2.fields := by
    intro e he
    refine (S'.old e he).congr_map ?_
    intro c hc'
    have := R.ord e he c hc'
    exact hι_old c (by have := hid_lt e he; omega)
  refine ⟨Scc.Backend.Sim.heapOK_alloc R.abs hc rfl hnext, ?_, ⟨lin', lazy', live', F', ?_⟩, ?_, ?_⟩
  · intro e he c hc'
    simp only [List.mem_cons] at he
    rcases he with rfl | he
    · exact hroot_lt c (List.mem_append.2 (Or.inr hc'))
    · exact R.ord e he c hc'
  · refine InvW.roots_congr I' (fun x hx => ?_)
    rw [hroots' x hx, if_neg hne]
    have hkeep : rsKeep.map ι' = rsKeep.map ι := by
      apply List.map_congr_left
      intro r hr
      exact hι_old r (Nat.ne_of_lt (hroot_lt r (List.mem_append.2 (Or.inl hr))))
    have hnew : [next].map ι' = [p] := by simp [hι_new]
    rw [List.map_append, hkeep, List.count_append, hnew]
    simp only [List.map_nil, ptrsOf, List.count_nil]
    omega
  · intro e he
    simp only [List.mem_cons] at he
    rcases he with rfl | he
    · show ObjAt _ _ (ι' next) o.fields
      rw [hι_new]
      exact Onew.congr_map hch_old
    · rw [hι_old e.1 (Nat.ne_of_lt (hid_lt e he))]
      exact hshape_old e he
  · intro e he e' he' hne' b hb
    simp only [List.mem_cons] at he he'
    rcases he with rfl | he <;> rcases he' with rfl | he'
    · exact absurd rfl hne'
    · have e1 : ι' e'.1 = ι e'.1 := hι_old e'.1 (Nat.ne_of_lt (hid_lt e' he'))
      have hb2 : b ∈ blocksOf s'.mem.get (ι' next) o.fields := hb
      rw [hι_new] at hb2
      rw [e1]
      exact hdisj e' he' b hb2
    · have e1 : ι' e.1 = ι e.1 := hι_old e.1 (Nat.ne_of_lt (hid_lt e he))
      rw [e1] at hb
      show b ∉ blocksOf s'.mem.get (ι' next) o.fields
      rw [hι_new]
      intro hb'
      exact hdisj e he b hb' hb
    · have e1 : ι' e.1 = ι e.1 := hι_old e.1 (Nat.ne_of_lt (hid_lt e he))
      have e2 : ι' e'.1 = ι e'.1 := hι_old e'.1 (Nat.ne_of_lt (hid_lt e' he'))
      rw [e1] at hb
      rw [e2]
      exact S'.disj e he e' he' hne' b hb

end Scc.Heap.Refine
