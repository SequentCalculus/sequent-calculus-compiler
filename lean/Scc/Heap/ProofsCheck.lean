/-
Scc.Heap.ProofsCheck — soundness of the executable invariant checker: if `invCheckFn` accepts, the
invariant holds with the witnesses it returns.
-/
import Scc.Heap.ProofsHist

namespace Scc.Heap

theorem isBlockB_iff {base a : Nat} : isBlockB base a = true ↔ IsBlock base a := by
  unfold isBlockB IsBlock
  rw [Bool.and_eq_true]
  constructor
  · rintro ⟨h1, h2⟩; exact ⟨of_decide_eq_true h1, of_decide_eq_true h2⟩
  · rintro ⟨h1, h2⟩; exact ⟨decide_eq_true h1, decide_eq_true h2⟩

theorem checkedWalk_false_sound {m : Nat → Nat} {base hi : Nat} {what : String} :
    ∀ (fuel a : Nat) (acc r : List Nat),
    checkedWalk m base hi false what fuel a acc = .ok r →
    ∃ l, r = acc.reverse ++ l ∧ Chain m a l ∧ ∀ x, x ∈ l → IsBlock base x ∧ x + 64 ≤ hi := by
  intro fuel
  induction fuel with
  | zero => intro a acc r h; simp [checkedWalk] at h
  | succ fuel ih =>
    intro a acc r h
    simp only [checkedWalk] at h
    by_cases ha : a = 0
    · simp only [ha, if_true] at h
      injection h with h
      exact ⟨[], by simp [h], ha, by simp⟩
    · simp only [ha, if_false] at h
      split at h
      · cases h
      · rename_i hc
        simp only [Bool.or_eq_true, Bool.not_eq_true', decide_eq_true_eq, not_or, Bool.not_eq_false,
          Nat.not_lt] at hc
        simp only [Bool.false_and] at h
        obtain ⟨l, hr, hch, hall⟩ := ih (m a) (a :: acc) r (by simpa using h)
        refine ⟨a :: l, by simp [hr], ⟨rfl, ha, hch⟩, ?_⟩
        intro x hx
        rcases List.mem_cons.mp hx with rfl | hx
        · exact ⟨isBlockB_iff.mp hc.1, by simpa [blockSize] using hc.2⟩
        · exact hall x hx

theorem checkedWalk_true_sound {m : Nat → Nat} {base hi : Nat} {what : String} :
    ∀ (fuel a : Nat) (acc r : List Nat),
    checkedWalk m base hi true what fuel a acc = .ok r →
    ∃ l F, r = acc.reverse ++ l ++ [F] ∧ Chain m a (l ++ [F]) ∧
      ∀ x, x ∈ l ++ [F] → IsBlock base x ∧ x + 64 ≤ hi := by
  intro fuel
  induction fuel with
  | zero => intro a acc r h; simp [checkedWalk] at h
  | succ fuel ih =>
    intro a acc r h
    simp only [checkedWalk] at h
    by_cases ha : a = 0
    · simp [ha] at h
    · simp only [ha, if_false] at h
      split at h
      · cases h
      · rename_i hc
        simp only [Bool.or_eq_true, Bool.not_eq_true', decide_eq_true_eq, not_or, Bool.not_eq_false,
          Nat.not_lt] at hc
        have hblk : IsBlock base a ∧ a + 64 ≤ hi :=
          ⟨isBlockB_iff.mp hc.1, by simpa [blockSize] using hc.2⟩
        by_cases hz : m a = 0
        · simp only [hz, Bool.true_and, decide_true, if_true] at h
          injection h with h
          refine ⟨[], a, by simp [← h], ⟨rfl, ha, hz⟩, ?_⟩
          intro x hx
          simp at hx; subst hx; exact hblk
        · simp only [hz, Bool.true_and, decide_false] at h
          obtain ⟨l, F, hr, hch, hall⟩ := ih (m a) (a :: acc) r (by simpa using h)
          refine ⟨a :: l, F, by simp [hr], ⟨rfl, ha, hch⟩, ?_⟩
          intro x hx
          rcases List.mem_cons.mp hx with rfl | hx
          · exact hblk
          · exact hall x hx

theorem coverCheck_sound : ∀ (n a : Nat) (xs : List Nat),
    coverCheck n a xs = .ok () → xs = blocksList a n := by
  intro n
  induction n with
  | zero =>
    intro a xs h
    cases xs with
    | nil => rfl
    | cons x xs => simp [coverCheck] at h
  | succ n ih =>
    intro a xs h
    cases xs with
    | nil => simp [coverCheck] at h
    | cons x xs =>
      simp only [coverCheck] at h
      split at h
      · rename_i hx
        have := ih (a + blockSize) xs h
        subst hx
        rw [this, blocksList_succ]
      · split at h <;> cases h

theorem allZeroFrom_sound {m : Nat → Nat} : ∀ (n a : Nat),
    allZeroFrom m n a = .ok () → ∀ j, j < n → m (a + 8 * j) = 0 := by
  intro n
  induction n with
  | zero => intro a _ j hj; omega
  | succ n ih =>
    intro a h j hj
    simp only [allZeroFrom] at h
    split at h
    · rename_i hz
      cases j with
      | zero => simpa using hz
      | succ j =>
        have := ih (a + 8) h j (by omega)
        rw [show a + 8 * (j + 1) = a + 8 + 8 * j by omega]
        exact this
    · cases h

theorem countMap_getD (xs : List Nat) (b : Nat) : (countMap xs).getD b 0 = xs.count b := by
  unfold countMap
  have key : ∀ (ys : List Nat) (c : Std.HashMap Nat Nat),
      (ys.foldl (fun c x => c.insert x (c.getD x 0 + 1)) c).getD b 0 = c.getD b 0 + ys.count b := by
    intro ys
    induction ys with
    | nil => intro c; simp
    | cons y ys ih =>
      intro c
      rw [List.foldl_cons, ih, Std.HashMap.getD_insert, List.count_cons]
      by_cases hy : y = b
      · subst hy; simp; omega
      · simp [hy]
  rw [key]
  simp

theorem topoCheckRev_sound {m : Nat → Nat} : ∀ (rev : List Nat) (later : Std.HashSet Nat)
    (done : List Nat), (∀ x, later.contains x = done.contains x) → TopoSorted m done →
    topoCheckRev m rev later = none → TopoSorted m (rev.reverse ++ done) := by
  intro rev
  induction rev with
  | nil => intro later done _ hd _; simpa using hd
  | cons b rest ih =>
    intro later done hl hd h
    simp only [topoCheckRev] at h
    split at h
    · rename_i hall
      have := ih (later.insert b) (b :: done)
        (by
          intro x
          rw [Std.HashSet.contains_insert, hl x, List.contains_cons]
          by_cases hxb : x = b
          · subst hxb; simp
          · have : (b == x) = false := by simpa using Ne.symm hxb
            have h2 : (x == b) = false := by simpa using hxb
            rw [this, h2])
        ⟨by
          intro p hp
          have := List.all_eq_true.mp hall p hp
          simp only [Bool.or_eq_true, beq_iff_eq] at this
          rcases this with h0 | hc
          · exact Or.inl h0
          · right; rw [hl p] at hc; exact List.contains_iff_mem.mp hc, hd⟩ h
      simpa using this
    · cases h

theorem firstFailing_none {xs : List Nat} {bad : Nat → Bool} (h : firstFailing xs bad = none) :
    ∀ x, x ∈ xs → bad x = false := by
  intro x hx
  have := List.find?_eq_none.mp h x hx
  simpa using this

theorem invCheckFn_sound {m : Nat → Nat} {base limit heap free F : Nat}
    {roots pend lin lazy live : List Nat}
    (h : invCheckFn m base limit heap free roots pend = .ok (lin, lazy, live, F)) :
    InvW m base limit heap free roots pend lin lazy live F := by
  unfold invCheckFn at h
  by_cases hb : base = 0
  · simp [hb] at h
  simp only [hb, if_false] at h
  cases hlin : checkedWalk m base limit false "(i) linear free list"
      ((limit - base) / blockSize + 2) heap [] with
  | error e => simp [hlin] at h
  | ok lin0 =>
  simp only [hlin] at h
  by_cases hle : lin0.isEmpty = true
  · simp [hle] at h
  simp only [hle, Bool.false_eq_true, if_false] at h
  cases hfr : checkedWalk m base limit true "(ii) lazy free list"
      ((limit - base) / blockSize + 2) free [] with
  | error e => simp [hfr] at h
  | ok freeL =>
  simp only [hfr] at h
  split at h
  · cases h
  rename_i live0 hreach
  split at h
  · cases h
  rename_i htopo
  split at h
  · cases h
  rename_i hv
  split at h
  · cases h
  rename_i hcover
  split at h
  · cases h
  rename_i hzero
  split at h
  · cases h
  rename_i hcnt
  split at h
  · cases h
  rename_i hpend
  injection h with h
  injection h with e1 h
  injection h with e2 h
  injection h with e3 e4
  subst e1 e3
  obtain ⟨l1, hl1, hch1, hall1⟩ := checkedWalk_false_sound _ _ _ _ hlin
  simp only [List.reverse_nil, List.nil_append] at hl1
  subst hl1
  obtain ⟨l2, F0, hl2, hch2, hall2⟩ := checkedWalk_true_sound _ _ _ _ hfr
  simp only [List.reverse_nil, List.nil_append] at hl2
  subst hl2
  rw [List.getLastD_concat] at e4 hcover hzero hreach
  rw [List.dropLast_concat] at e2 hcover hv hcnt hreach
  have hts : TopoSorted m live0 := by
    have := topoCheckRev_sound live0.reverse ∅ [] (by intro x; simp) trivial htopo
    simpa using this
  subst e2 e4
  have hFb := hall2 F0 (by simp)
  have hFe : F0 = base + 64 * ((F0 - base) / blockSize) := by
    have := hFb.1; unfold IsBlock at this; unfold blockSize; omega
  have hsorted := coverCheck_sound _ _ _ hcover
  have hperm : (lin0 ++ l2 ++ live0 ++ pend).Perm (blocksList base ((F0 - base) / blockSize)) := by
    rw [← hsorted]; exact (List.mergeSort_perm _ _).symm
  have hvv := firstFailing_none hv
  have hlive : ∀ p, p ∈ roots ++ ptrFields m (live0 ++ l2) → p = 0 ∨ p ∈ live0 := by
    intro p hp
    have := hvv p hp
    simp only [Bool.and_eq_false_iff, bne_eq_false_iff_eq, Bool.not_eq_false',
      Std.HashSet.contains_ofList, List.contains_iff_mem] at this
    exact this
  exact
  { base_pos := Nat.pos_of_ne_zero hb
    lin_chain := hch1
    lin_ne := by intro e; rw [e] at hle; simp at hle
    lazy_chain := hch2
    frontier_block := hFb.1
    frontier_room := hFb.2
    zero_above := by
      intro a ha hl hal
      have hz := allZeroFrom_sound _ _ hzero ((a - F0) / 8) (by
        have := hFb.1; unfold IsBlock at this; omega)
      have : F0 + 8 * ((a - F0) / 8) = a := by
        have := hFb.1; unfold IsBlock at this; omega
      rw [this] at hz; exact hz
    nodup := hperm.nodup_iff.mpr (blocksList_nodup _ _)
    cover := by
      intro a
      rw [hperm.mem_iff, mem_blocksList, ← hFe]
    counts := by
      intro b hb'
      have := firstFailing_none hcnt b hb'
      simp only [bne_eq_false_iff_eq, countMap_getD, List.count_append] at this
      exact this
    fields_live := fun p hp => hlive p (List.mem_append_right _ hp)
    roots_live := fun r hr => hlive r (List.mem_append_left _ hr)
    pend_hdr := by
      intro b hb'
      have := firstFailing_none hpend b hb'
      simpa using this
    acyclic := ⟨live0, List.Perm.refl _, hts⟩ }

/-- `invCheck_sound` (stated in Props/C09): the checker only accepts states satisfying `Inv`. -/
theorem invCheck_sound' (s : HState) (roots : List Nat) (h : invCheck s roots = .ok ()) :
    Inv s roots := by
  unfold invCheck at h
  cases hc : invCheckFn s.mem.get s.base s.limit s.heap s.free roots [] with
  | error e => simp [hc] at h
  | ok r =>
    obtain ⟨lin, lazy, live, F⟩ := r
    exact ⟨lin, lazy, live, F, invCheckFn_sound hc⟩

end Scc.Heap
