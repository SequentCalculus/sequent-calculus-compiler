/-
Scc.Heap.Moves — the elementary state changes out of which every heap operation is composed, each
with its effect on the witnesses of `InvW` (pure: no `HState`, no `Except`).
-/
import Scc.Heap.Lemmas

namespace Scc.Heap

variable {m : Nat → Nat} {base limit heap free F : Nat} {roots pend lin lazy live : List Nat}

namespace InvW

theorem mem_all_block (h : InvW m base limit heap free roots pend lin lazy live F) {a : Nat}
    (ha : a ∈ lin ++ lazy ++ live ++ pend) : IsBlock base a ∧ a < F := (h.cover a).mp ha

theorem live_block (h : InvW m base limit heap free roots pend lin lazy live F) {a : Nat}
    (ha : a ∈ live) : IsBlock base a ∧ a < F := h.mem_all_block (by simp [ha])
theorem lin_block (h : InvW m base limit heap free roots pend lin lazy live F) {a : Nat}
    (ha : a ∈ lin) : IsBlock base a ∧ a < F := h.mem_all_block (by simp [ha])
theorem lazy_block (h : InvW m base limit heap free roots pend lin lazy live F) {a : Nat}
    (ha : a ∈ lazy) : IsBlock base a ∧ a < F := h.mem_all_block (by simp [ha])
theorem pend_block (h : InvW m base limit heap free roots pend lin lazy live F) {a : Nat}
    (ha : a ∈ pend) : IsBlock base a ∧ a < F := h.mem_all_block (by simp [ha])

theorem heap_mem_lin (h : InvW m base limit heap free roots pend lin lazy live F) : heap ∈ lin := by
  have hc := h.lin_chain
  cases lin with
  | nil => exact absurd rfl h.lin_ne
  | cons x xs => rw [hc.1]; exact List.mem_cons_self

theorem live_lazy_block (h : InvW m base limit heap free roots pend lin lazy live F) :
    ∀ b, b ∈ live ++ lazy → IsBlock base b := by
  intro b hb
  rcases List.mem_append.mp hb with hb | hb
  · exact (h.live_block hb).1
  · exact (h.lazy_block hb).1

theorem live_ne_zero (h : InvW m base limit heap free roots pend lin lazy live F) {a : Nat}
    (ha : a ∈ live) : a ≠ 0 := by
  have := (h.live_block ha).1.1; have := h.base_pos; omega

/-- `InvW` depends on the roots only through the multiplicities of the non-null ones. -/
theorem roots_congr (h : InvW m base limit heap free roots pend lin lazy live F) {roots' : List Nat}
    (hc : ∀ b, b ≠ 0 → roots'.count b = roots.count b) :
    InvW m base limit heap free roots' pend lin lazy live F := by
  refine { h with counts := ?_, roots_live := ?_ }
  · intro b hb
    rw [hc b (h.live_ne_zero hb)]; exact h.counts b hb
  · intro r hr
    by_cases h0 : r = 0
    · exact Or.inl h0
    · refine h.roots_live r ?_
      have : 0 < roots'.count r := List.count_pos_iff.mpr hr
      rw [hc r h0] at this
      exact List.count_pos_iff.mp this

theorem roots_perm (h : InvW m base limit heap free roots pend lin lazy live F) {roots' : List Nat}
    (hp : roots'.Perm roots) : InvW m base limit heap free roots' pend lin lazy live F :=
  h.roots_congr (fun b _ => hp.count_eq b)

theorem roots_zero (h : InvW m base limit heap free (0 :: roots) pend lin lazy live F) :
    InvW m base limit heap free roots pend lin lazy live F :=
  h.roots_congr (fun b hb => by simp [Ne.symm hb])

theorem sep (h : InvW m base limit heap free roots pend lin lazy live F) :
    lin.Nodup ∧ lazy.Nodup ∧ live.Nodup ∧ pend.Nodup ∧
    (∀ x, x ∈ lin → x ∉ lazy ∧ x ∉ live ∧ x ∉ pend) ∧
    (∀ x, x ∈ lazy → x ∉ live ∧ x ∉ pend) ∧ (∀ x, x ∈ live → x ∉ pend) :=
  nodup4_iff.mp h.nodup

theorem live_perm (h : InvW m base limit heap free roots pend lin lazy live F) {live' : List Nat}
    (hp : live'.Perm live) : InvW m base limit heap free roots pend lin lazy live' F := by
  have hall : (lin ++ lazy ++ live' ++ pend).Perm (lin ++ lazy ++ live ++ pend) :=
    (hp.append_left _).append_right _
  have hpf : (ptrFields m (live' ++ lazy)).Perm (ptrFields m (live ++ lazy)) :=
    (hp.append_right lazy).flatMap_right _
  refine { h with nodup := hall.nodup_iff.mpr h.nodup
                  cover := fun a => hall.mem_iff.trans (h.cover a)
                  counts := fun b hb => ?_, fields_live := fun q hq => ?_
                  roots_live := fun r hr => ?_, acyclic := ?_ }
  · rw [hpf.count_eq]; exact h.counts b (hp.mem_iff.mp hb)
  · exact (h.fields_live q (hpf.mem_iff.mp hq)).imp id hp.mem_iff.mpr
  · exact (h.roots_live r hr).imp id hp.mem_iff.mpr
  · obtain ⟨ord, ho, ht⟩ := h.acyclic
    exact ⟨ord, ho.trans hp.symm, ht⟩

/-- Writing the header of a block `p` below the frontier while blocks change lists: the clauses that
do not depend on headers (pointer slots, frontier, cover) carry over; the chains, the counts and the
liveness of references are what each move has to establish, all against the OLD pointer slots. -/
theorem relist (h : InvW m base limit heap free roots pend lin lazy live F) {p v : Nat}
    (hp : IsBlock base p ∧ p < F) {heap' free' : Nat} {roots' pend' lin' lazy' live' : List Nat}
    (hperm : (lin' ++ lazy' ++ live' ++ pend').Perm (lin ++ lazy ++ live ++ pend))
    (hlin : Chain (upd m p v) heap' lin') (hne : lin' ≠ [])
    (hlazy : Chain (upd m p v) free' (lazy' ++ [F]))
    (hcounts : ∀ b, b ∈ live' →
      upd m p v b + 1 = roots'.count b + (ptrFields m (live' ++ lazy')).count b)
    (hfields : ∀ q, q ∈ ptrFields m (live' ++ lazy') → q = 0 ∨ q ∈ live')
    (hroots : ∀ r, r ∈ roots' → r = 0 ∨ r ∈ live')
    (hpend : ∀ b, b ∈ pend' → upd m p v b = 0)
    (hacyc : ∃ ord, ord.Perm live' ∧ TopoSorted m ord) :
    InvW (upd m p v) base limit heap' free' roots' pend' lin' lazy' live' F := by
  have hcov : ∀ a, a ∈ lin' ++ lazy' ++ live' ++ pend' ↔ IsBlock base a ∧ a < F :=
    fun a => hperm.mem_iff.trans (h.cover a)
  have hblk : ∀ b, b ∈ live' ++ lazy' → IsBlock base b := fun b hb =>
    ((hcov b).mp (by
      simp only [List.mem_append] at hb ⊢
      rcases hb with hb | hb <;> simp [hb])).1
  have hpf : ptrFields (upd m p v) (live' ++ lazy') = ptrFields m (live' ++ lazy') :=
    ptrFields_upd_header hp.1 hblk
  obtain ⟨ord, hord, hts⟩ := hacyc
  exact
  { base_pos := h.base_pos
    lin_chain := hlin
    lin_ne := hne
    lazy_chain := hlazy
    frontier_block := h.frontier_block
    frontier_room := h.frontier_room
    zero_above := fun a ha hl hal => by
      rw [upd_other _ _ (by omega)]; exact h.zero_above a ha hl hal
    nodup := hperm.nodup_iff.mpr h.nodup
    cover := hcov
    counts := fun b hb => by rw [hpf]; exact hcounts b hb
    fields_live := by rw [hpf]; exact hfields
    roots_live := hroots
    pend_hdr := hpend
    acyclic := ⟨ord, hord, hts.congr (fun b hb => ptrSlots_upd_header hp.1
      (hblk b (List.mem_append_left _ (hord.mem_iff.mp hb))))⟩ }

/-- (M1) Change the count of a live block `p` by changing the number of roots that hold it. -/
theorem header_update (h : InvW m base limit heap free roots pend lin lazy live F)
    {p v : Nat} {roots' : List Nat} (hp : p ∈ live)
    (hv : v + 1 + roots.count p = m p + 1 + roots'.count p)
    (hc : ∀ b, b ≠ 0 → b ≠ p → roots'.count b = roots.count b) :
    InvW (upd m p v) base limit heap free roots' pend lin lazy live F := by
  have hpb := h.live_block hp
  obtain ⟨-, -, -, -, hlin, hlazy, hlive⟩ := h.sep
  refine h.relist hpb (List.Perm.refl _) (h.lin_chain.upd fun hx => (hlin p hx).2.1 hp) h.lin_ne
    (h.lazy_chain.upd (not_mem_concat (fun hx => (hlazy p hx).1 hp) (Nat.ne_of_lt hpb.2)))
    (fun b hb => ?_) h.fields_live (fun r hr => ?_)
    (fun b hb => by
      rw [upd_other _ _ (by rintro rfl; exact hlive _ hp hb)]; exact h.pend_hdr b hb)
    h.acyclic
  · by_cases hbp : b = p
    · subst hbp; rw [upd_same]; have := h.counts b hb; omega
    · rw [upd_other _ _ hbp, hc b (h.live_ne_zero hb) hbp]; exact h.counts b hb
  · by_cases h0 : r = 0
    · exact Or.inl h0
    · by_cases hrp : r = p
      · exact Or.inr (hrp ▸ hp)
      · refine h.roots_live r (List.count_pos_iff.mp ?_)
        rw [← hc r h0 hrp]; exact List.count_pos_iff.mpr hr

/-- Facts about a live block `p` whose count is 0 and which is held by a root: nothing else
refers to it. -/
theorem unique_ref (h : InvW m base limit heap free (p :: roots) pend lin lazy live F)
    (hp : p ∈ live) (hz : m p = 0) :
    p ∉ roots ∧ p ∉ ptrFields m (live ++ lazy) := by
  have := h.counts p hp
  rw [hz, List.count_cons_self] at this
  constructor
  · exact List.count_eq_zero.mp (by omega)
  · exact List.count_eq_zero.mp (by omega)

/-- A live block `p` with count 0 held by a root leaves `live`: what remains of the clauses about
the other live blocks, with the pointer slots of `p` counted apart. -/
theorem leave_live {p : Nat} {l : List Nat}
    (h : InvW m base limit heap free (p :: roots) pend lin lazy (p :: l) F) (hz : m p = 0) :
    p ∉ l ∧
    (∀ b, b ∈ l → b ≠ p ∧ m b + 1 =
      roots.count b + ((ptrSlots m p).count b + (ptrFields m (l ++ lazy)).count b)) ∧
    (∀ q, q ∈ ptrSlots m p ++ ptrFields m (l ++ lazy) → q = 0 ∨ q ∈ l) ∧
    (∀ r, r ∈ roots → r = 0 ∨ r ∈ l) ∧
    ∃ ord, ord.Perm l ∧ TopoSorted m ord := by
  have hp : p ∈ p :: l := List.mem_cons_self
  obtain ⟨hur, huf⟩ := h.unique_ref hp hz
  have hpl : p ∉ l := (List.nodup_cons.mp h.sep.2.2.1).1
  have hpf : ptrFields m ((p :: l) ++ lazy) = ptrSlots m p ++ ptrFields m (l ++ lazy) :=
    ptrFields_cons m p (l ++ lazy)
  rw [hpf] at huf
  refine ⟨hpl, fun b hb => ?_, fun q hq => ?_, fun r hr => ?_, ?_⟩
  · have hbp : b ≠ p := fun e => hpl (e ▸ hb)
    have := h.counts b (List.mem_cons_of_mem _ hb)
    rw [List.count_cons_of_ne (Ne.symm hbp), hpf, List.count_append] at this
    exact ⟨hbp, this⟩
  · rcases h.fields_live q (hpf ▸ hq) with h0 | hl
    · exact Or.inl h0
    · exact Or.inr ((List.mem_cons.mp hl).resolve_left fun e => huf (e ▸ hq))
  · rcases h.roots_live r (List.mem_cons_of_mem _ hr) with h0 | hl
    · exact Or.inl h0
    · exact Or.inr ((List.mem_cons.mp hl).resolve_left fun e => hur (e ▸ hr))
  · refine acyclic_remove (l1 := []) h.acyclic (fun b hb hq => huf ?_)
    rw [← hpf]
    exact ptrSlots_sub_ptrFields (List.mem_append_left _ hb) _ hq

/-- (M2) `erase_block` on a root whose count is 0: the block moves from `live` to the head of the
deferred list; its pointer slots keep counting as references ("waiting beneath a deferred block"). -/
theorem to_lazy {p : Nat} (h : InvW m base limit heap free (p :: roots) pend lin lazy live F)
    (hp : p ∈ live) (hz : m p = 0) :
    InvW (upd m p free) base limit heap p roots pend lin (p :: lazy) (live.erase p) F := by
  have h := h.live_perm (List.perm_cons_erase hp).symm
  generalize live.erase p = l at h
  have hpb := h.live_block List.mem_cons_self
  obtain ⟨-, -, -, -, hlin, hlazy, hlive⟩ := h.sep
  have hplazy : p ∉ lazy := fun hx => (hlazy p hx).1 List.mem_cons_self
  obtain ⟨hpl, hcnt, hfl, hrl, hac⟩ := h.leave_live hz
  have hpf : ptrFields m (l ++ p :: lazy) = ptrFields m l ++ (ptrSlots m p ++ ptrFields m lazy) := by
    rw [ptrFields_append, ptrFields_cons]
  refine h.relist hpb ?_ (h.lin_chain.upd fun hx => (hlin p hx).2.1 List.mem_cons_self) h.lin_ne
    ?_ (fun b hb => ?_) (fun q hq => hfl q ?_) hrl
    (fun b hb => by
      rw [upd_other _ _ (by rintro rfl; exact hlive _ List.mem_cons_self hb)]
      exact h.pend_hdr b hb)
    hac
  · apply List.perm_iff_count.mpr; intro a
    simp only [List.count_append, List.count_cons]; omega
  · show Chain _ p (p :: (lazy ++ [F]))
    refine ⟨rfl, h.live_ne_zero List.mem_cons_self, ?_⟩
    rw [upd_same]
    exact h.lazy_chain.upd (not_mem_concat hplazy (Nat.ne_of_lt hpb.2))
  · obtain ⟨hbp, hc⟩ := hcnt b hb
    rw [upd_other _ _ hbp, hpf, hc, ptrFields_append]
    simp only [List.count_append]; omega
  · rw [hpf] at hq
    rw [ptrFields_append]
    simp only [List.mem_append] at hq ⊢
    rcases hq with hq | hq | hq <;> simp [hq]

/-- (M3) `release_block` on a root whose count is 0: the block moves from `live` to the head of the
linear free list and its three pointer slots become roots (they are about to be loaded into
temporaries; slots that are not loaded must be null, see `LoadPre`). -/
theorem to_lin {p : Nat} (h : InvW m base limit heap free (p :: roots) pend lin lazy live F)
    (hp : p ∈ live) (hz : m p = 0) :
    InvW (upd m p heap) base limit p free (ptrSlots m p ++ roots) pend (p :: lin) lazy
      (live.erase p) F := by
  have h := h.live_perm (List.perm_cons_erase hp).symm
  generalize live.erase p = l at h
  have hpb := h.live_block List.mem_cons_self
  obtain ⟨-, -, -, -, hlin, hlazy, hlive⟩ := h.sep
  obtain ⟨hpl, hcnt, hfl, hrl, hac⟩ := h.leave_live hz
  refine h.relist hpb ?_ ?_ (List.cons_ne_nil _ _)
    (h.lazy_chain.upd (not_mem_concat (fun hx => (hlazy p hx).1 List.mem_cons_self)
      (Nat.ne_of_lt hpb.2)))
    (fun b hb => ?_) (fun q hq => hfl q (List.mem_append_right _ hq)) (fun r hr => ?_)
    (fun b hb => by
      rw [upd_other _ _ (by rintro rfl; exact hlive _ List.mem_cons_self hb)]
      exact h.pend_hdr b hb)
    hac
  · apply List.perm_iff_count.mpr; intro a
    simp only [List.count_append, List.count_cons]; omega
  · refine ⟨rfl, h.live_ne_zero List.mem_cons_self, ?_⟩
    rw [upd_same]
    exact h.lin_chain.upd fun hx => (hlin p hx).2.1 List.mem_cons_self
  · obtain ⟨hbp, hc⟩ := hcnt b hb
    rw [upd_other _ _ hbp, hc, List.count_append]; omega
  · rcases List.mem_append.mp hr with hr | hr
    · exact hfl r (List.mem_append_left _ hr)
    · exact hrl r hr

/-- (M4) `acquire_block` case (1): the linear free list has a second element. -/
theorem acquire_lin {b h' : Nat} {L : List Nat}
    (h : InvW m base limit b free roots pend (b :: h' :: L) lazy live F) :
    InvW (upd m b 0) base limit (m b) free roots (b :: pend) (h' :: L) lazy live F := by
  have hbb := h.lin_block List.mem_cons_self
  obtain ⟨hndl, -, -, -, hlin, -, -⟩ := h.sep
  obtain ⟨hblazy, hblive, hbpend⟩ := hlin b List.mem_cons_self
  obtain ⟨_, _, hch⟩ := h.lin_chain
  refine h.relist hbb ?_ (hch.upd (List.nodup_cons.mp hndl).1) (List.cons_ne_nil _ _)
    (h.lazy_chain.upd (not_mem_concat hblazy (Nat.ne_of_lt hbb.2)))
    (fun x hx => by
      rw [upd_other _ _ (by rintro rfl; exact hblive hx)]; exact h.counts x hx)
    h.fields_live h.roots_live (fun x hx => ?_) h.acyclic
  · apply List.perm_iff_count.mpr; intro a
    simp only [List.count_append, List.count_cons]; omega
  · rcases List.mem_cons.mp hx with rfl | hx2
    · exact upd_same _ _ _
    · rw [upd_other _ _ (by rintro rfl; exact hbpend hx2)]; exact h.pend_hdr x hx2

/-- (M5) `acquire_block` case (3): both free lists are exhausted, the frontier block becomes the
linear free list and the frontier moves up by one block.  The only move that changes `F`. -/
theorem acquire_bump {b : Nat}
    (h : InvW m base limit b F roots pend [b] [] live F) (hroom : F + 128 ≤ limit) :
    InvW m base limit F (F + 64) roots (b :: pend) [F] [] live (F + 64) := by
  have hFb := h.frontier_block
  have hbase := h.base_pos
  have hFnot : F ∉ [b] ++ [] ++ live ++ pend := fun hh => Nat.lt_irrefl _ ((h.cover F).mp hh).2
  have hperm : ([F] ++ [] ++ live ++ (b :: pend)).Perm (F :: ([b] ++ [] ++ live ++ pend)) := by
    apply List.perm_iff_count.mpr; intro a
    simp only [List.count_append, List.count_cons, List.count_nil]; omega
  have hz : ∀ k, k = 0 ∨ k = 64 → m (F + k) = 0 := fun k hk =>
    h.zero_above (F + k) (by omega) (by omega) (by unfold IsBlock at hFb; omega)
  exact
  { base_pos := h.base_pos
    lin_chain := ⟨rfl, by unfold IsBlock at hFb; omega, hz 0 (Or.inl rfl)⟩
    lin_ne := List.cons_ne_nil _ _
    lazy_chain := ⟨rfl, by omega, hz 64 (Or.inr rfl)⟩
    frontier_block := by unfold IsBlock at *; omega
    frontier_room := by omega
    zero_above := fun a ha hl hal => h.zero_above a (by omega) hl hal
    nodup := hperm.nodup_iff.mpr (List.nodup_cons.mpr ⟨hFnot, h.nodup⟩)
    cover := fun a => by
      rw [hperm.mem_iff, List.mem_cons, h.cover a]
      unfold IsBlock at *
      constructor
      · rintro (rfl | ⟨⟨h1, h2⟩, h3⟩) <;> omega
      · rintro ⟨⟨h1, h2⟩, h3⟩
        by_cases haF : a = F
        · exact Or.inl haF
        · right; omega
    counts := h.counts
    fields_live := h.fields_live
    roots_live := h.roots_live
    pend_hdr := fun x hx => by
      rcases List.mem_cons.mp hx with rfl | hx
      · exact h.lin_chain.2.2
      · exact h.pend_hdr x hx
    acyclic := h.acyclic }

/-- (M6) `acquire_block` case (2), first half: the head `D` of the deferred list becomes the
(one-element) linear free list; its three pointer slots, which counted as references so far, are now
three roots that `erase_fields` drops one after the other. -/
theorem acquire_lazy {b D : Nat} {lz : List Nat}
    (h : InvW m base limit b D roots pend [b] (D :: lz) live F) :
    InvW (upd m D 0) base limit D (m D) (ptrSlots m D ++ roots) (b :: pend) [D] lz live F := by
  have hDb := h.lazy_block List.mem_cons_self
  obtain ⟨-, hndz, -, -, hlin, hlazy, -⟩ := h.sep
  obtain ⟨hDlive, hDpend⟩ := hlazy D List.mem_cons_self
  have hDb' : b ≠ D := fun e => (hlin b List.mem_cons_self).1 (e ▸ List.mem_cons_self)
  have hpf : ptrFields m (live ++ D :: lz) =
      ptrFields m live ++ (ptrSlots m D ++ ptrFields m lz) := by
    rw [ptrFields_append, ptrFields_cons]
  obtain ⟨_, _, hch⟩ : Chain m D (D :: (lz ++ [F])) := h.lazy_chain
  refine h.relist hDb ?_ ⟨rfl, by have := hDb.1.1; have := h.base_pos; omega, upd_same _ _ _⟩
    (List.cons_ne_nil _ _)
    (hch.upd (not_mem_concat (List.nodup_cons.mp hndz).1 (Nat.ne_of_lt hDb.2)))
    (fun x hx => ?_) (fun q hq => h.fields_live q ?_) (fun r hr => ?_) (fun x hx => ?_) h.acyclic
  · apply List.perm_iff_count.mpr; intro a
    simp only [List.count_append, List.count_cons, List.count_nil]; omega
  · have := h.counts x hx
    rw [hpf] at this
    rw [upd_other _ _ (by rintro rfl; exact hDlive hx), ptrFields_append]
    simp only [List.count_append] at this ⊢; omega
  · rw [hpf]; rw [ptrFields_append] at hq
    simp only [List.mem_append] at hq ⊢
    rcases hq with hq | hq <;> simp [hq]
  · rcases List.mem_append.mp hr with hr | hr
    · refine h.fields_live r ?_
      rw [hpf]; simp [hr]
    · exact h.roots_live r hr
  · rcases List.mem_cons.mp hx with rfl | hx2
    · rw [upd_other _ _ hDb']; exact h.lin_chain.2.2
    · rw [upd_other _ _ (by rintro rfl; exact hDpend hx2)]; exact h.pend_hdr x hx2

/-- (M7) Any change confined to words 1..7 of a block that is on the linear free list or pending
changes nothing: such blocks may hold arbitrary data. -/
theorem frame_free {m' : Nat → Nat} {q : Nat}
    (h : InvW m base limit heap free roots pend lin lazy live F)
    (hq : q ∈ lin ∨ q ∈ pend) (hf : ∀ a, (a ≤ q ∨ q + 64 ≤ a) → m' a = m a) :
    InvW m' base limit heap free roots pend lin lazy live F := by
  have hqb : IsBlock base q ∧ q < F := hq.elim h.lin_block h.pend_block
  have hFb := h.frontier_block
  have hblk : ∀ x, IsBlock base x → m' x = m x := by
    intro x hx; apply hf; unfold IsBlock at *; omega
  obtain ⟨-, -, -, -, hlin, hlazy, hlive⟩ := h.sep
  have hslots : ∀ x, x ∈ live ++ lazy → ptrSlots m' x = ptrSlots m x := by
    intro x hx
    have hxb := h.live_lazy_block x hx
    have hxq : x ≠ q := by
      rintro rfl
      rcases List.mem_append.mp hx with hx | hx <;> rcases hq with hq | hq
      · exact (hlin x hq).2.1 hx
      · exact hlive x hx hq
      · exact (hlin x hq).1 hx
      · exact (hlazy x hx).2 hq
    unfold IsBlock at *
    simp only [ptrSlots]
    rw [hf _ (by omega), hf _ (by omega), hf _ (by omega)]
  have hpf : ptrFields m' (live ++ lazy) = ptrFields m (live ++ lazy) :=
    ptrFields_congr hslots
  obtain ⟨ord, hperm, hts⟩ := h.acyclic
  refine { h with lin_chain := ?_, lazy_chain := ?_, zero_above := ?_, counts := ?_,
                  fields_live := ?_, pend_hdr := ?_
                  acyclic := ⟨ord, hperm, hts.congr (fun x hx =>
                    hslots x (List.mem_append_left _ (hperm.mem_iff.mp hx)))⟩ }
  · exact h.lin_chain.frame (fun x hx => hblk x (h.lin_block hx).1)
  · refine h.lazy_chain.frame (fun x hx => hblk x ?_)
    rcases List.mem_append.mp hx with hx | hx
    · exact (h.lazy_block hx).1
    · rw [List.mem_singleton.mp hx]; exact hFb
  · intro a ha hl hal
    rw [hf a (by unfold IsBlock at *; omega)]; exact h.zero_above a ha hl hal
  · intro x hx
    rw [hpf, hblk x (h.live_block hx).1]; exact h.counts x hx
  · rw [hpf]; exact h.fields_live
  · intro x hx
    rw [hblk x (h.pend_block hx).1]; exact h.pend_hdr x hx

/-- (M7') Writing a non-header word of a block that is on the linear free list or pending. -/
theorem write_free {q k v : Nat}
    (h : InvW m base limit heap free roots pend lin lazy live F)
    (hq : q ∈ lin ∨ q ∈ pend) (hk : 0 < k) (hk' : k < 64) :
    InvW (upd m (q + k) v) base limit heap free roots pend lin lazy live F :=
  h.frame_free hq (fun _ ha => upd_other _ _ (by omega))

/-- (M8) The pending block `b`, whose three pointer slots hold (copies of) roots, becomes a live
object held by one root; the roots stored in it are consumed. -/
theorem adopt {b : Nat} {rest : List Nat}
    (h : InvW m base limit heap free (ptrSlots m b ++ rest) (b :: pend) lin lazy live F) :
    InvW m base limit heap free (b :: rest) pend lin lazy (b :: live) F := by
  have hb : b ∈ b :: pend := by simp
  have hbb := h.pend_block hb
  have hb0 : b ≠ 0 := by have := hbb.1.1; have := h.base_pos; omega
  have hnd := h.nodup
  have hperm : (lin ++ lazy ++ (b :: live) ++ pend).Perm (lin ++ lazy ++ live ++ (b :: pend)) := by
    apply List.perm_iff_count.mpr; intro a
    simp only [List.count_append, List.count_cons]; omega
  rw [nodup4_iff] at hnd
  have hblive : b ∉ live := fun hh => hnd.2.2.2.2.2.2 b hh hb
  have hbroots : b ∉ ptrSlots m b ++ rest := by
    intro hh; rcases h.roots_live b hh with h0 | hl
    · exact hb0 h0
    · exact hblive hl
  have hbf : b ∉ ptrFields m (live ++ lazy) := by
    intro hh; rcases h.fields_live b hh with h0 | hl
    · exact hb0 h0
    · exact hblive hl
  have hcnt : ∀ x, (ptrFields m ((b :: live) ++ lazy)).count x =
      (ptrSlots m b).count x + (ptrFields m (live ++ lazy)).count x := by
    intro x
    simp only [List.cons_append, ptrFields_cons, List.count_append]
  exact
  { base_pos := h.base_pos
    lin_chain := h.lin_chain
    lin_ne := h.lin_ne
    lazy_chain := h.lazy_chain
    frontier_block := h.frontier_block
    frontier_room := h.frontier_room
    zero_above := h.zero_above
    nodup := hperm.nodup_iff.mpr h.nodup
    cover := fun a => (hperm.mem_iff).trans (h.cover a)
    counts := by
      intro x hx
      rw [hcnt]
      rcases List.mem_cons.mp hx with rfl | hx2
      · have h1 : (ptrSlots m x ++ rest).count x = 0 := List.count_eq_zero.mpr hbroots
        have h2 : (ptrFields m (live ++ lazy)).count x = 0 := List.count_eq_zero.mpr hbf
        rw [List.count_append] at h1
        rw [h.pend_hdr x hb, List.count_cons_self]; omega
      · have hxb : x ≠ b := by intro e; rw [e] at hx2; exact hblive hx2
        have := h.counts x hx2
        rw [List.count_append] at this
        rw [List.count_cons_of_ne (Ne.symm hxb)]; omega
    fields_live := by
      intro q hq
      have hq' : q ∈ ptrSlots m b ∨ q ∈ ptrFields m (live ++ lazy) := by
        have := List.count_pos_iff.mpr hq; rw [hcnt] at this
        by_cases hc : 0 < (ptrSlots m b).count q
        · exact Or.inl (List.count_pos_iff.mp hc)
        · exact Or.inr (List.count_pos_iff.mp (by omega))
      have : q = 0 ∨ q ∈ live := by
        rcases hq' with hq' | hq'
        · exact h.roots_live q (List.mem_append_left _ hq')
        · exact h.fields_live q hq'
      rcases this with h0 | hl
      · exact Or.inl h0
      · exact Or.inr (List.mem_cons_of_mem _ hl)
    roots_live := by
      intro r hr
      rcases List.mem_cons.mp hr with rfl | hr
      · exact Or.inr (by simp)
      · rcases h.roots_live r (List.mem_append_right _ hr) with h0 | hl
        · exact Or.inl h0
        · exact Or.inr (List.mem_cons_of_mem _ hl)
    pend_hdr := fun x hx => h.pend_hdr x (List.mem_cons_of_mem _ hx)
    acyclic := by
      obtain ⟨ord, hperm', hts⟩ := h.acyclic
      refine ⟨b :: ord, List.Perm.cons b hperm', ⟨?_, hts⟩⟩
      intro q hq
      rcases h.roots_live q (List.mem_append_left _ hq) with h0 | hl
      · exact Or.inl h0
      · exact Or.inr (hperm'.mem_iff.mpr hl) }

end InvW
end Scc.Heap
