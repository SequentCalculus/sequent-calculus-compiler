/-
Scc.Heap.RefineNoGarb — NO GARBAGE WHEN THE DEFERRED LIST IS EMPTY: in a block-level state that represents an
abstract heap (`HRef`, Scc/Heap/RefineDefs.lean) and whose deferred free list is empty, EVERY block in use is
a block of (the chain of) an abstract object.  (Blocks that are alive only at block level are the children of
deferred blocks; `chains_live` is the converse inclusion.)  Hence the number of blocks in use is at most the
number of fields of the objects of the abstract heap (`live_le_heapFields`) — the link from the allocation
frontier of C10 to the size of the abstract (source-level) data.

Proof: the pointer slots of a chain block are null, links to the next block of the chain, or heads of the
chains of child objects (`BlockPre.slots_count`), so the blocks of all chains are closed under pointer slots
and contain the roots; every live block has a reference from a root or from a live block of smaller rank
(`live_sub_closed`, Scc/Heap/ProofsCheckComplete.lean).
-/
import Scc.Heap.RefineOps
import Scc.Heap.ProofsCheckComplete

namespace Scc.Heap.Refine

open Scc.Backend.Abs (Heap Obj Word)
open Scc.Backend.Sim (HeapOK refCount)
open Scc.Backend.Sim2 (childSum refCount_eq)

theorem peek_block_ptrs (m : Nat → Nat) : ∀ (n : Nat) (kinds : List Bool) (pos : BlockPosition) (p : Nat),
    kinds.length ≤ n → ∀ v ∈ (peek m kinds pos p).2.2,
      v.2.1.length ≤ fieldsPerBlock - v.2.2.toNat ∧
      ∀ x ∈ ptrsOf (fieldsAt m v.1 (fieldsPerBlock - v.2.2.toNat - v.2.1.length) v.2.1),
        x ∈ ptrsOf (peek m kinds pos p).1
  | 0, kinds, pos, p, hn, v, hv => by
    have : kinds = [] := List.length_eq_zero_iff.mp (by omega)
    subst this
    rw [peek_nil] at hv; simp at hv
  | n + 1, kinds, pos, p, hn, v, hv => by
    by_cases hk : kinds = []
    · subst hk; rw [peek_nil] at hv; simp at hv
    · have hpos : 0 < kinds.length := List.length_pos_iff.mpr hk
      have hrl := restLength_lt kinds.length pos hpos
      rw [peek_cons m hk] at hv ⊢
      simp only [List.mem_append, List.mem_singleton] at hv
      rcases hv with hv | rfl
      · obtain ⟨h1, h2⟩ := peek_block_ptrs m n _ posOther p (by rw [List.length_take]; omega) v hv
        refine ⟨h1, fun x hx => ?_⟩
        simp only [ptrsOf_append, List.mem_append]
        exact Or.inl (h2 x hx)
      · have hl := length_drop_restLength kinds.length pos
        refine ⟨by simp only [List.length_drop]; exact hl, fun x hx => ?_⟩
        simp only [ptrsOf_append, List.mem_append]
        exact Or.inr hx

/-- the number of blocks of a chain is at most the number of fields -/
theorem peek_length_le (m : Nat → Nat) : ∀ (n : Nat) (kinds : List Bool) (pos : BlockPosition) (p : Nat),
    kinds.length ≤ n → (peek m kinds pos p).2.2.length ≤ kinds.length
  | 0, kinds, pos, p, hn => by
    have : kinds = [] := List.length_eq_zero_iff.mp (by omega)
    subst this
    rw [peek_nil]; simp
  | n + 1, kinds, pos, p, hn => by
    by_cases hk : kinds = []
    · subst hk; rw [peek_nil]; simp
    · have hpos : 0 < kinds.length := List.length_pos_iff.mpr hk
      have hrl := restLength_lt kinds.length pos hpos
      rw [peek_cons m hk]
      have ih := peek_length_le m n (kinds.take (restLength kinds.length pos)) posOther p
        (by rw [List.length_take]; omega)
      simp only [List.length_append, List.length_cons, List.length_nil, List.length_take] at ih ⊢
      omega

theorem blocksOf_length_le (m : Nat → Nat) (p : Nat) (fs : List AField) : (blocksOf m p fs).length ≤ fs.length := by
  unfold blocksOf chainOf
  have := peek_length_le m _ (fs.map kindB) .last p (Nat.le_refl _)
  simpa using this

theorem Linked.next {m : Nat → Nat} : ∀ {l : List Nat} {a : Nat}, Linked m a l →
    ∀ (l1 : List Nat) (x y : Nat) (l2 : List Nat), l = l1 ++ x :: y :: l2 → y = m (x + 48)
  | [], _, _, l1, x, y, l2, e => by simp at e
  | b :: rest, a, h, [], x, y, l2, e => by
    simp only [List.nil_append, List.cons.injEq] at e
    obtain ⟨rfl, rfl⟩ := e
    obtain ⟨hb, hr⟩ := h
    obtain ⟨hy, _⟩ := hr
    rw [hy, hb]
  | b :: rest, a, h, c :: l1, x, y, l2, e => by
    simp only [List.cons_append, List.cons.injEq] at e
    obtain ⟨rfl, rfl⟩ := e
    exact Linked.next h.2 l1 x y l2 rfl

/-- the pointers of the images of the fields are null or images of children -/
theorem mem_ptrsOf_fieldImg (ι : Nat → Nat) : ∀ (fs : List AField) (x : Nat), x ∈ ptrsOf (fs.map (fieldImg ι)) →
    x = 0 ∨ ∃ c ∈ (fs.filterMap fun f =>
      if f.chi != Scc.AxCut.Chi.ext && f.ptr != 0 then some f.ptr.toNat else none), x = ι c
  | [], x, h => by simp [ptrsOf] at h
  | f :: fs, x, h => by
    simp only [List.map_cons] at h
    by_cases hk : kindB f = true
    · have hf : fieldImg ι f = .ptr (imgW ι f.ptr) f.val.toNat := by simp [fieldImg, hk]
      rw [hf] at h
      simp only [ptrsOf, List.mem_cons] at h
      have hk' : (f.chi != Scc.AxCut.Chi.ext) = true := hk
      rcases h with rfl | h
      · by_cases hp : f.ptr = 0
        · left; unfold imgW; rw [if_pos hp]
        · right
          have hc : (f.chi != Scc.AxCut.Chi.ext && f.ptr != 0) = true := by
            rw [hk', Bool.true_and, bne_iff_ne]; exact hp
          refine ⟨f.ptr.toNat, ?_, by unfold imgW; rw [if_neg hp]⟩
          rw [List.filterMap_cons, if_pos hc]
          simp
      · rcases mem_ptrsOf_fieldImg ι fs x h with h0 | ⟨c, hc, e⟩
        · exact Or.inl h0
        · right
          refine ⟨c, ?_, e⟩
          rw [List.filterMap_cons]
          split
          · exact hc
          · exact List.mem_cons_of_mem _ hc
    · have hk' : kindB f = false := by simpa using hk
      have hf : fieldImg ι f = .int f.val.toNat := by simp [fieldImg, hk']
      rw [hf] at h
      simp only [ptrsOf] at h
      rcases mem_ptrsOf_fieldImg ι fs x h with h0 | ⟨c, hc, e⟩
      · exact Or.inl h0
      · right
        refine ⟨c, ?_, e⟩
        have hcc : (f.chi != Scc.AxCut.Chi.ext && f.ptr != 0) = false := by
          have : (f.chi != Scc.AxCut.Chi.ext) = false := hk'
          rw [this]; rfl
        rw [List.filterMap_cons, if_neg (by rw [hcc]; simp)]
        exact hc

theorem mem_le_sum : ∀ (l : List Nat) (x : Nat), x ∈ l → x ≤ l.sum
  | [], _, h => by simp at h
  | a :: l, x, h => by
    simp only [List.sum_cons]
    rcases List.mem_cons.1 h with rfl | h
    · omega
    · have := mem_le_sum l x h
      omega

section Closed

variable {h : Heap} {rs : List Nat} {next : Nat} {s : HState} {ι : Nat → Nat}

theorem head_mem_allBlocks (R : HRef h rs next s ι) {e : Nat × Obj} (he : e ∈ h) :
    ι e.1 ∈ allBlocks s.mem.get ι h := by
  simp only [allBlocks, List.mem_flatMap]
  exact ⟨e, he, head_mem_blocksOf (R.shape e he)⟩

theorem mem_of_referenced (R : HRef h rs next s ι) {c : Nat} (hc : 0 < refCount h rs c) : ∃ o, (c, o) ∈ h :=
  Scc.Backend.Sim.heap_get_isSome_mem (R.abs.live c hc)

theorem slot_mem_allBlocks (R : HRef h rs next s ι) {b q : Nat} (hb : b ∈ allBlocks s.mem.get ι h)
    (hq : q ∈ ptrSlots s.mem.get b) (hq0 : q ≠ 0) : q ∈ allBlocks s.mem.get ι h := by
  simp only [allBlocks, List.mem_flatMap] at hb
  obtain ⟨e, he, hbe⟩ := hb
  have O := R.shape e he
  unfold blocksOf at hbe
  obtain ⟨v, hv, rfl⟩ := List.mem_map.1 hbe
  have hpre := O.pre v hv
  obtain ⟨hlen, hptrs⟩ := peek_block_ptrs s.mem.get _ (e.2.fields.map kindB) .last (ι e.1) (Nat.le_refl _) v hv
  have hcount := hpre.slots_count hlen q hq0
  have hpos : 0 < (ptrSlots s.mem.get v.1).count q := List.count_pos_iff.2 hq
  by_cases hfield : 0 < (ptrsOf (fieldsAt s.mem.get v.1 (fieldsPerBlock - v.2.2.toNat - v.2.1.length) v.2.1)).count q
  · -- a pointer field: the head of the chain of a child
    have hx := hptrs q (List.count_pos_iff.1 hfield)
    unfold chainOf at hv
    rw [O.vals] at hx
    rcases mem_ptrsOf_fieldImg ι e.2.fields q hx with h0 | ⟨c, hc, rfl⟩
    · exact absurd h0 hq0
    · have hcc : c ∈ e.2.children := hc
      have hrc : 0 < refCount h rs c := by
        rw [refCount_eq]
        have : 0 < childSum h c := by
          unfold childSum
          have h1 : 0 < e.2.children.count c := List.count_pos_iff.2 hcc
          have h2 : e.2.children.count c ≤ (h.map fun e => e.2.children.count c).sum :=
            mem_le_sum _ _ (List.mem_map.2 ⟨e, he, rfl⟩)
          omega
        omega
      obtain ⟨o', ho'⟩ := mem_of_referenced R hrc
      exact head_mem_allBlocks R ho'
  · -- the link: the next block of the same chain
    have hlink : (if v.2.2 = .other then [s.mem.get (v.1 + fstOff (fieldsPerBlock - 1))].count q else 0) ≠ 0 := by
      omega
    have hother : v.2.2 = .other := by
      by_cases hne : v.2.2 = .other
      · exact hne
      · rw [if_neg hne] at hlink
        exact absurd rfl hlink
    rw [if_pos hother] at hlink
    have hqe : q = s.mem.get (v.1 + 48) := by
      have : 0 < [s.mem.get (v.1 + fstOff (fieldsPerBlock - 1))].count q := Nat.pos_of_ne_zero hlink
      have hm := List.count_pos_iff.1 this
      simp only [List.mem_singleton] at hm
      rw [hm]
      rfl
    -- `v` is not the last visit, so there is a next one
    have hkne : e.2.fields.map kindB ≠ [] := by simpa using O.ne
    obtain ⟨init, blk, lastKs, hlist, hinit⟩ := peek_positions s.mem.get _ (e.2.fields.map kindB) .last (ι e.1)
      (Nat.le_refl _) hkne
    unfold chainOf at hv
    rw [hlist] at hv
    have hvinit : v ∈ init := by
      rcases List.mem_append.1 hv with h1 | h1
      · exact h1
      · simp only [List.mem_singleton] at h1
        rw [h1] at hother
        cases hother
    obtain ⟨i1, i2, hi⟩ := List.append_of_mem hvinit
    have hchain := (peek_chain s.mem.get _ (e.2.fields.map kindB) .last (ι e.1) (Nat.le_refl _)).1
    rw [hlist, hi] at hchain
    have hnext : ∃ y l2, List.map (fun (x : Visit) => x.1) (i1 ++ v :: i2 ++ [(blk, lastKs, BlockPosition.last)]) =
        i1.map (·.1) ++ v.1 :: y :: l2 := by
      cases i2 with
      | nil => exact ⟨blk, [], by simp⟩
      | cons w i2' => exact ⟨w.1, i2'.map (·.1) ++ [blk], by simp⟩
    obtain ⟨y, l2, hmap⟩ := hnext
    have hy := Linked.next hchain (i1.map (·.1)) v.1 y l2 hmap
    have hymem : y ∈ blocksOf s.mem.get (ι e.1) e.2.fields := by
      unfold blocksOf chainOf
      rw [hlist, hi, hmap]
      simp
    rw [hqe, ← hy]
    simp only [allBlocks, List.mem_flatMap]
    exact ⟨e, he, hymem⟩

/-- NO GARBAGE: with an empty deferred list, every block in use is a block of an abstract object -/
theorem live_sub_allBlocks (R : HRef h rs next s ι) {lin live : List Nat} {F : Nat}
    (I : InvS s (rs.map ι) [] lin [] live F) : ∀ b ∈ live, b ∈ allBlocks s.mem.get ι h := by
  obtain ⟨ord, hord, htopo⟩ := I.acyclic
  intro b hb
  refine live_sub_closed I hord htopo (S := allBlocks s.mem.get ι h) ?_ ?_ (rk ord b + 1) b hb (Nat.lt_succ_self _)
  · intro r hr
    simp only [ptrFields_nil, List.append_nil] at hr
    obtain ⟨id, hid, rfl⟩ := List.mem_map.1 hr
    right
    have hrc : 0 < refCount h rs id := by
      rw [refCount_eq]
      have : 0 < rs.count id := List.count_pos_iff.2 hid
      omega
    obtain ⟨o, ho⟩ := mem_of_referenced R hrc
    exact head_mem_allBlocks R ho
  · intro b' hb' q hq
    by_cases hq0 : q = 0
    · exact Or.inl hq0
    · exact Or.inr (slot_mem_allBlocks R hb' hq hq0)

def heapFields (h : Heap) : Nat := (h.map fun e => e.2.fields.length).sum

theorem allBlocks_length_le (m : Nat → Nat) (ι : Nat → Nat) : ∀ (h : Heap), (allBlocks m ι h).length ≤ heapFields h
  | [] => by simp [allBlocks, heapFields]
  | a :: h => by
    have ih := allBlocks_length_le m ι h
    have h1 := blocksOf_length_le m (ι a.1) a.2.fields
    simp only [allBlocks, heapFields, List.flatMap_cons, List.length_append, List.map_cons, List.sum_cons] at ih ⊢
    omega

/-- with an empty deferred list, the number of blocks in use is at most the number of fields of the objects
of the abstract heap -/
theorem live_le_heapFields (R : HRef h rs next s ι) {rs' lin live : List Nat} {F : Nat}
    (I : InvS s rs' [] lin [] live F) : live.length ≤ heapFields h := by
  obtain ⟨lin0, lazy0, live0, F0, I0⟩ := R.conc
  obtain ⟨e1, e2, e3⟩ := InvS.witness_unique I0 I
  have hl0 : lazy0 = [] := e2.symm
  subst hl0
  -- `live` and `live0` have the same elements (cover)
  have hnd : live.Nodup := by
    have := I.nodup; rw [nodup4_iff] at this; exact this.2.2.1
  have hsub : ∀ b ∈ live, b ∈ allBlocks s.mem.get ι h := by
    intro b hb
    apply live_sub_allBlocks R I0
    -- b ∈ live0: both cover the same blocks below the same frontier, with the same free lists
    have hcov := (I.cover b).1 (by simp [hb])
    rw [e3] at hcov
    have hmem := (I0.cover b).2 hcov
    simp only [List.append_nil, List.mem_append] at hmem
    rcases hmem with h1 | h1
    · exfalso
      rw [← e1] at h1
      have hn4 := I.nodup
      rw [nodup4_iff] at hn4
      exact (hn4.2.2.2.2.1 b h1).2.1 hb
    · exact h1
  exact Nat.le_trans (nodup_subset_length_le _ _ hnd hsub) (allBlocks_length_le _ _ h)

end Closed

end Scc.Heap.Refine
