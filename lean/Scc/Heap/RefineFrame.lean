/-
Scc.Heap.RefineFrame — frame reasoning for the heap refinement: `ObjAt` depends only on the words 1..7 of
the blocks of the chain and on the headers of its continuation blocks; `HRef.transfer`: the refinement
relation is re-established for an abstract heap whose objects are objects of the old heap (`Sub`: same
id, same fields; counts may differ, objects may be gone) once the block-level invariant holds again and
the chains of the remaining objects were not written to (except the headers of head blocks).
-/
import Scc.Heap.RefineLemmas

namespace Scc.Heap.Refine

open Scc.Backend.Abs (Heap Obj Word)

def Sub (h' h : Heap) : Prop := ∀ e' ∈ h', ∃ e ∈ h, e.1 = e'.1 ∧ e.2.fields = e'.2.fields

theorem Sub.refl (h : Heap) : Sub h h := fun e he => ⟨e, he, rfl, rfl⟩

theorem Sub.trans {h1 h2 h3 : Heap} (a : Sub h1 h2) (b : Sub h2 h3) : Sub h1 h3 := by
  intro e1 he1
  obtain ⟨e2, he2, h1', h2'⟩ := a e1 he1
  obtain ⟨e3, he3, h1'', h2''⟩ := b e2 he2
  exact ⟨e3, he3, h1''.trans h1', h2''.trans h2'⟩

theorem children_of_fields {o o' : Obj} (h : o.fields = o'.fields) : o.children = o'.children := by
  unfold Obj.children; rw [h]

/-- `ObjAt` after a change of memory that leaves the chain alone -/
theorem ObjAt.congr {m m' : Nat → Nat} {ι : Nat → Nat} {p : Nat} {fs : List AField} (O : ObjAt m ι p fs)
    (hw : ∀ b ∈ blocksOf m p fs, ∀ k, 0 < k → k < 64 → m' (b + k) = m (b + k))
    (hh : ∀ b ∈ (blocksOf m p fs).tail, m' b = m b) : ObjAt m' ι p fs := by
  have hp : peek m' (fs.map kindB) .last p = peek m (fs.map kindB) .last p :=
    peek_congr _ _ _ _ (Nat.le_refl _) hw
  have hb : blocksOf m' p fs = blocksOf m p fs := by unfold blocksOf chainOf; rw [hp]
  refine ⟨O.ne, O.pos, by rw [hp]; exact O.vals, ?_, ?_, by rw [hb]; exact O.nodup⟩
  · intro v hv
    have hv' : v ∈ chainOf m p fs := by unfold chainOf at hv ⊢; rw [hp] at hv; exact hv
    have hpre := O.pre v hv'
    have hvb : v.1 ∈ blocksOf m p fs := List.mem_map.2 ⟨v, hv', rfl⟩
    refine ⟨?_, ?_⟩
    · intro i hi hs
      rw [hw v.1 hvb (fstOff i) (by simp [fstOff, fieldOffset]; omega)
        (by simp [fstOff, fieldOffset]; unfold fieldsPerBlock at hi; omega)]
      exact hpre.unloaded i hi hs
    · intro hpos
      rw [hw v.1 hvb (fstOff (fieldsPerBlock - 1)) (by simp [fstOff, fieldOffset, fieldsPerBlock])
        (by simp [fstOff, fieldOffset, fieldsPerBlock])]
      exact hpre.link hpos
  · intro b hb'
    rw [hb] at hb'
    rw [hh b hb']; exact O.hdr b hb'

theorem blocksOf_congr {m m' : Nat → Nat} {p : Nat} {fs : List AField}
    (hw : ∀ b ∈ blocksOf m p fs, ∀ k, 0 < k → k < 64 → m' (b + k) = m (b + k)) :
    blocksOf m' p fs = blocksOf m p fs := by
  unfold blocksOf chainOf
  rw [peek_congr _ _ _ _ (Nat.le_refl _) hw]

/-- the image of a field depends on `ι` only at the object the field refers to -/
theorem fieldImg_congr {ι ι' : Nat → Nat} {f : AField} (h : kindB f = true → f.ptr ≠ 0 → ι' f.ptr.toNat = ι f.ptr.toNat) :
    fieldImg ι' f = fieldImg ι f := by
  unfold fieldImg
  by_cases hk : kindB f = true
  · simp only [hk, if_true]
    by_cases hp : f.ptr = 0
    · simp [imgW, hp]
    · simp only [imgW, hp, if_false]; rw [h hk hp]
  · simp [hk]

theorem mem_children_of {f : AField} {fs : List AField} (hf : f ∈ fs) (hk : kindB f = true) (hp : f.ptr ≠ 0) :
    f.ptr.toNat ∈ (fs.filterMap fun f => if f.chi != Scc.AxCut.Chi.ext && f.ptr != 0 then some f.ptr.toNat else none) := by
  rw [List.mem_filterMap]
  refine ⟨f, hf, ?_⟩
  have hk' : (f.chi != Scc.AxCut.Chi.ext) = true := hk
  have : (f.chi != Scc.AxCut.Chi.ext && f.ptr != 0) = true := by
    rw [hk', Bool.true_and, bne_iff_ne]; exact hp
  rw [if_pos this]

/-- change of the address map away from the children of the object -/
theorem ObjAt.congr_map {m : Nat → Nat} {ι ι' : Nat → Nat} {p : Nat} {o : Obj} (O : ObjAt m ι p o.fields)
    (h : ∀ c ∈ o.children, ι' c = ι c) : ObjAt m ι' p o.fields := by
  refine ⟨O.ne, O.pos, ?_, O.pre, O.hdr, O.nodup⟩
  rw [O.vals]
  apply List.map_congr_left
  intro f hf
  exact (fieldImg_congr (fun hk hp => h _ (mem_children_of hf hk hp))).symm

/-- THE TRANSFER LEMMA: re-establishing `HRef` after an operation -/
theorem HRef.transfer {h h' : Heap} {rs rs' : List Nat} {next next' : Nat} {s s' : HState} {ι : Nat → Nat}
    (R : HRef h rs next s ι) (hsub : Sub h' h) (A' : Scc.Backend.Sim.HeapOK h' rs' next')
    (hconc : ∃ lin lazy live F, InvS s' (rs'.map ι) [] lin lazy live F)
    (hw : ∀ e ∈ h', ∀ b ∈ blocksOf s.mem.get (ι e.1) e.2.fields, ∀ k, 0 < k → k < 64 →
      s'.mem.get (b + k) = s.mem.get (b + k))
    (hh : ∀ e ∈ h', ∀ b ∈ (blocksOf s.mem.get (ι e.1) e.2.fields).tail, s'.mem.get b = s.mem.get b) :
    HRef h' rs' next' s' ι := by
  have hold : ∀ e' ∈ h', ∃ e ∈ h, e.1 = e'.1 ∧ e.2.fields = e'.2.fields := hsub
  refine ⟨A', ?_, hconc, ?_, ?_⟩
  · intro e' he' c hc
    obtain ⟨e, he, h1, h2⟩ := hold e' he'
    rw [← h1]
    exact R.ord e he c (by rw [children_of_fields h2]; exact hc)
  · intro e' he'
    obtain ⟨e, he, h1, h2⟩ := hold e' he'
    have O := R.shape e he
    rw [h1, h2] at O
    exact O.congr (hw e' he') (hh e' he')
  · intro e1 he1 e2 he2 hne b hb
    obtain ⟨f1, hf1, a1, b1⟩ := hold e1 he1
    obtain ⟨f2, hf2, a2, b2⟩ := hold e2 he2
    rw [blocksOf_congr (hw e1 he1)] at hb
    rw [blocksOf_congr (hw e2 he2)]
    have := R.disj f1 hf1 f2 hf2 (by rw [a1, a2]; exact hne) b (by rw [a1, b1]; exact hb)
    rw [a2, b2] at this
    exact this

end Scc.Heap.Refine
