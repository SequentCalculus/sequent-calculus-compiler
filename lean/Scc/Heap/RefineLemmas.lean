/-
Scc.Heap.RefineLemmas — basic facts about the pure reader `peek` and the shape predicate `ObjAt` of the
heap refinement (RefineDefs.lean): unfolding equations, the chain structure of the visited blocks
(first block = the head, each further block = the link of its predecessor), independence of the header
words, the pointer slots of a chain.
-/
import Scc.Heap.RefineDefs
import Scc.Backend.ProofsRep2

namespace Scc.Heap.Refine

open Scc.Backend.Abs (Heap Obj Word)

theorem peek_nil (m : Nat → Nat) (pos : BlockPosition) (p : Nat) : peek m [] pos p = ([], p, []) := by
  rw [peek]; simp

theorem peek_cons (m : Nat → Nat) {kinds : List Bool} (hne : kinds ≠ []) (pos : BlockPosition) (p : Nat) :
    peek m kinds pos p =
      ((peek m (kinds.take (restLength kinds.length pos)) posOther p).1 ++
        fieldsAt m (peek m (kinds.take (restLength kinds.length pos)) posOther p).2.1
          (fieldsPerBlock - pos.toNat - (kinds.drop (restLength kinds.length pos)).length)
          (kinds.drop (restLength kinds.length pos)),
       (if pos = posOther then
          m ((peek m (kinds.take (restLength kinds.length pos)) posOther p).2.1 + fstOff (fieldsPerBlock - 1))
        else 0),
       (peek m (kinds.take (restLength kinds.length pos)) posOther p).2.2 ++
        [((peek m (kinds.take (restLength kinds.length pos)) posOther p).2.1,
          kinds.drop (restLength kinds.length pos), pos)]) := by
  rw [peek]
  simp only [hne, ↓reduceDIte]

/-- the blocks visited by `peek` form a chain starting at `p`: `Linked m a l` = following the links
(pointer slot 2, offset 48) from `a` visits exactly the blocks `l` -/
def Linked (m : Nat → Nat) : Nat → List Nat → Prop
  | _, [] => True
  | a, b :: rest => b = a ∧ Linked m (m (a + 48)) rest

theorem Linked.append {m : Nat → Nat} : ∀ {l : List Nat} {a : Nat} {b : Nat},
    Linked m a l → (l = [] → b = a) → (∀ x, l.getLast? = some x → b = m (x + 48)) → Linked m a (l ++ [b])
  | [], a, b, _, h0, _ => by
    show Linked m a [b]
    exact ⟨h0 rfl, trivial⟩
  | [x], a, b, h, _, hl => by
    obtain ⟨hx, _⟩ := h
    show Linked m a [x, b]
    exact ⟨hx, by rw [← hx]; exact hl x rfl, trivial⟩
  | x :: y :: rest, a, b, h, _, hl => by
    obtain ⟨hx, h2⟩ := h
    show Linked m a (x :: ((y :: rest) ++ [b]))
    refine ⟨hx, Linked.append h2 (by simp) ?_⟩
    intro z hz
    exact hl z (by simpa [List.getLast?_cons_cons] using hz)

/-- structure of a chain, by the same recursion as `peek`: the continuation block of a non-empty
chain at position `other` is the link of the last visited block; all blocks but the last are `other` -/
theorem peek_chain (m : Nat → Nat) : ∀ (n : Nat) (kinds : List Bool) (pos : BlockPosition) (p : Nat),
    kinds.length ≤ n →
    Linked m p ((peek m kinds pos p).2.2.map (·.1)) ∧
    (kinds = [] → (peek m kinds pos p).2.1 = p) ∧
    (kinds ≠ [] → pos = posOther →
      ∃ x, ((peek m kinds pos p).2.2.map (·.1)).getLast? = some x ∧ (peek m kinds pos p).2.1 = m (x + 48)) ∧
    ((peek m kinds pos p).2.2 = [] ↔ kinds = [])
  | 0, kinds, pos, p, hn => by
    have : kinds = [] := List.length_eq_zero_iff.mp (by omega)
    subst this
    rw [peek_nil]
    exact ⟨trivial, fun _ => rfl, fun h => absurd rfl h, by simp⟩
  | n + 1, kinds, pos, p, hn => by
    by_cases hk : kinds = []
    · subst hk
      rw [peek_nil]
      exact ⟨trivial, fun _ => rfl, fun h => absurd rfl h, by simp⟩
    · have hpos : 0 < kinds.length := List.length_pos_iff.mpr hk
      have hrl := restLength_lt kinds.length pos hpos
      obtain ⟨ih1, ih2, ih3, ih4⟩ := peek_chain m n (kinds.take (restLength kinds.length pos)) posOther p
        (by rw [List.length_take]; omega)
      rw [peek_cons m hk]
      refine ⟨?_, fun h => absurd h hk, ?_, by simp [hk]⟩
      · simp only [List.map_append, List.map_cons, List.map_nil]
        apply Linked.append ih1
        · intro hnil
          have : (peek m (kinds.take (restLength kinds.length pos)) posOther p).2.2 = [] := by
            simpa using hnil
          exact ih2 (ih4.mp this)
        · intro x hx
          have hne' : kinds.take (restLength kinds.length pos) ≠ [] := by
            intro e
            have := ih4.mpr e
            rw [this] at hx; simp at hx
          obtain ⟨y, hy1, hy2⟩ := ih3 hne' rfl
          rw [hy1] at hx; injection hx with hx; subst hx
          exact hy2
      · intro _ hp
        refine ⟨(peek m (kinds.take (restLength kinds.length pos)) posOther p).2.1, by simp, ?_⟩
        simp only [hp, if_true, fstOff, fieldOffset, fieldsPerBlock]

/-- all visited blocks but the last are at position `other`; the last is at `pos` -/
theorem peek_positions (m : Nat → Nat) : ∀ (n : Nat) (kinds : List Bool) (pos : BlockPosition) (p : Nat),
    kinds.length ≤ n → kinds ≠ [] →
    ∃ (init : List Visit) (blk : Nat) (lastKs : List Bool),
      (peek m kinds pos p).2.2 = init ++ [(blk, lastKs, pos)] ∧ ∀ v ∈ init, v.2.2 = posOther
  | 0, kinds, pos, p, hn, hk => by
    exact absurd (List.length_eq_zero_iff.mp (by omega)) hk
  | n + 1, kinds, pos, p, hn, hk => by
    have hpos : 0 < kinds.length := List.length_pos_iff.mpr hk
    have hrl := restLength_lt kinds.length pos hpos
    rw [peek_cons m hk]
    refine ⟨(peek m (kinds.take (restLength kinds.length pos)) posOther p).2.2, _, _, rfl, ?_⟩
    intro v hv
    by_cases hk' : kinds.take (restLength kinds.length pos) = []
    · rw [hk', peek_nil] at hv; simp at hv
    · obtain ⟨init, blk, lastKs, e, hi⟩ := peek_positions m n _ posOther p
        (by rw [List.length_take]; omega) hk'
      rw [e] at hv
      simp only [List.mem_append, List.mem_singleton] at hv
      rcases hv with hv | rfl
      · exact hi v hv
      · rfl

/-- `peek` does not read the header word of the blocks it visits -/
theorem peek_congr {m m' : Nat → Nat} : ∀ (n : Nat) (kinds : List Bool) (pos : BlockPosition) (p : Nat),
    kinds.length ≤ n →
    (∀ b ∈ (peek m kinds pos p).2.2.map (·.1), ∀ k, 0 < k → k < 64 → m' (b + k) = m (b + k)) →
    peek m' kinds pos p = peek m kinds pos p
  | 0, kinds, pos, p, hn, _ => by
    have : kinds = [] := List.length_eq_zero_iff.mp (by omega)
    subst this
    rw [peek_nil, peek_nil]
  | n + 1, kinds, pos, p, hn, hf => by
    by_cases hk : kinds = []
    · subst hk; rw [peek_nil, peek_nil]
    · have hpos : 0 < kinds.length := List.length_pos_iff.mpr hk
      have hrl := restLength_lt kinds.length pos hpos
      rw [peek_cons m hk] at hf
      have ih := peek_congr (m := m) (m' := m') n (kinds.take (restLength kinds.length pos)) posOther p
        (by rw [List.length_take]; omega)
        (fun b hb => hf b (by simp only [List.map_append, List.mem_append]; exact Or.inl hb))
      have hblk := hf (peek m (kinds.take (restLength kinds.length pos)) posOther p).2.1 (by simp)
      rw [peek_cons m' hk, peek_cons m hk, ih]
      have hlen : fieldsPerBlock - pos.toNat - (kinds.drop (restLength kinds.length pos)).length +
          (kinds.drop (restLength kinds.length pos)).length ≤ 3 := by
        have h1 := length_drop_restLength kinds.length pos
        rw [List.length_drop]
        have h2 : fieldsPerBlock - pos.toNat ≤ 3 := by
          unfold fieldsPerBlock; omega
        omega
      rw [fieldsAt_congr hblk _ _ hlen]
      rw [hblk (fstOff (fieldsPerBlock - 1)) (by simp [fstOff, fieldOffset, fieldsPerBlock])
        (by simp [fstOff, fieldOffset, fieldsPerBlock])]

theorem mem_ptrFields {m : Nat → Nat} {bs : List Nat} {x : Nat} :
    x ∈ ptrFields m bs ↔ ∃ b ∈ bs, x ∈ ptrSlots m b := by
  simp [ptrFields, List.mem_flatMap]

theorem ptrsOf_fieldsAt_sub (m : Nat → Nat) (blk : Nat) : ∀ (i : Nat) (ks : List Bool), i + ks.length ≤ 3 →
    ∀ x ∈ ptrsOf (fieldsAt m blk i ks), x ∈ ptrSlots m blk
  | _, [], _, x, hx => by simp [fieldsAt, ptrsOf] at hx
  | i, k :: ks, hl, x, hx => by
    simp only [List.length_cons] at hl
    cases k with
    | false =>
      simp only [fieldsAt, Bool.false_eq_true, if_false, ptrsOf] at hx
      exact ptrsOf_fieldsAt_sub m blk (i + 1) ks (by omega) x hx
    | true =>
      simp only [fieldsAt, if_true, ptrsOf, List.mem_cons] at hx
      rcases hx with rfl | hx
      · exact mem_ptrSlots_of_off (by omega)
      · exact ptrsOf_fieldsAt_sub m blk (i + 1) ks (by omega) x hx

/-- the pointers read by `peek` are pointer slots of the visited blocks -/
theorem ptrsOf_peek_sub (m : Nat → Nat) : ∀ (n : Nat) (kinds : List Bool) (pos : BlockPosition) (p : Nat),
    kinds.length ≤ n →
    ∀ x ∈ ptrsOf (peek m kinds pos p).1, x ∈ ptrFields m ((peek m kinds pos p).2.2.map (·.1))
  | 0, kinds, pos, p, hn, x, hx => by
    have : kinds = [] := List.length_eq_zero_iff.mp (by omega)
    subst this
    rw [peek_nil] at hx; simp [ptrsOf] at hx
  | n + 1, kinds, pos, p, hn, x, hx => by
    by_cases hk : kinds = []
    · subst hk; rw [peek_nil] at hx; simp [ptrsOf] at hx
    · have hpos : 0 < kinds.length := List.length_pos_iff.mpr hk
      have hrl := restLength_lt kinds.length pos hpos
      rw [peek_cons m hk] at hx ⊢
      simp only [ptrsOf_append, List.mem_append] at hx
      simp only [List.map_append, List.map_cons, List.map_nil, ptrFields_append, List.mem_append]
      rcases hx with hx | hx
      · exact Or.inl (ptrsOf_peek_sub m n _ posOther p (by rw [List.length_take]; omega) x hx)
      · right
        rw [ptrFields_cons, ptrFields_nil, List.append_nil]
        refine ptrsOf_fieldsAt_sub m _ _ _ ?_ x hx
        have h1 := length_drop_restLength kinds.length pos
        rw [List.length_drop]
        have h2 : fieldsPerBlock - pos.toNat ≤ 3 := by unfold fieldsPerBlock; omega
        omega

/-- a child of an abstract object appears, as its image, among the pointers of the field images -/
theorem child_mem_ptrsOf (ι : Nat → Nat) : ∀ (fs : List AField) (c : Nat),
    c ∈ (fs.filterMap fun f => if f.chi != Scc.AxCut.Chi.ext && f.ptr != 0 then some f.ptr.toNat else none) →
    ι c ∈ ptrsOf (fs.map (fieldImg ι))
  | [], c, h => by simp at h
  | f :: fs, c, h => by
    simp only [List.map_cons]
    by_cases hk : kindB f = true
    · have hf : fieldImg ι f = .ptr (imgW ι f.ptr) f.val.toNat := by simp [fieldImg, hk]
      rw [hf]
      simp only [ptrsOf, List.mem_cons]
      have hk' : (f.chi != Scc.AxCut.Chi.ext) = true := hk
      by_cases hp : f.ptr = 0
      · have hc : (f.chi != Scc.AxCut.Chi.ext && f.ptr != 0) = false := by simp [hp]
        rw [List.filterMap_cons, if_neg (by rw [hc]; simp)] at h
        exact Or.inr (child_mem_ptrsOf ι fs c h)
      · have hc : (f.chi != Scc.AxCut.Chi.ext && f.ptr != 0) = true := by
          rw [hk', Bool.true_and, bne_iff_ne]; exact hp
        rw [List.filterMap_cons, if_pos hc] at h
        simp only [List.mem_cons] at h
        rcases h with rfl | h
        · left; unfold imgW; rw [if_neg hp]
        · exact Or.inr (child_mem_ptrsOf ι fs c h)
    · have hk' : (f.chi != Scc.AxCut.Chi.ext) = false := by
        have : kindB f = false := by simpa using hk
        exact this
      have hf : fieldImg ι f = .int f.val.toNat := by
        have : kindB f = false := hk'
        simp [fieldImg, this]
      rw [hf]
      simp only [ptrsOf]
      have hc : (f.chi != Scc.AxCut.Chi.ext && f.ptr != 0) = false := by rw [hk']; rfl
      rw [List.filterMap_cons, if_neg (by rw [hc]; simp)] at h
      exact child_mem_ptrsOf ι fs c h

theorem childSum_pos {h : Heap} {x : Nat} (hp : 0 < Scc.Backend.Sim2.childSum h x) :
    ∃ e ∈ h, x ∈ e.2.children := by
  induction h with
  | nil => simp [Scc.Backend.Sim2.childSum] at hp
  | cons a h ih =>
    simp only [Scc.Backend.Sim2.childSum, List.map_cons, List.sum_cons] at hp
    by_cases ha : 0 < a.2.children.count x
    · exact ⟨a, by simp, List.count_pos_iff.mp ha⟩
    · obtain ⟨e, he, hx⟩ := ih (by simp only [Scc.Backend.Sim2.childSum]; omega)
      exact ⟨e, by simp [he], hx⟩

section Reach

variable {m : Nat → Nat} {base limit heap free F : Nat} {lin lazy live : List Nat}
  {h : Heap} {rs : List Nat} {next : Nat} {ι : Nat → Nat}

/-- along a chain: if the head is live, so is every block (links of live blocks are live) -/
theorem linked_live (I : InvW m base limit heap free (rs.map ι) [] lin lazy live F) :
    ∀ (l : List Nat) (a : Nat), Linked m a l → (l ≠ [] → a ∈ live) →
      (∀ b ∈ l.dropLast, m (b + 48) ≠ 0) → ∀ b ∈ l, b ∈ live
  | [], _, _, _, _, b, hb => by simp at hb
  | [x], a, hl, ha, _, b, hb => by
    simp only [List.mem_singleton] at hb
    subst hb
    rw [hl.1]; exact ha (by simp)
  | x :: y :: rest, a, hl, ha, hnz, b, hb => by
    obtain ⟨rfl, hl2⟩ := hl
    have hx : x ∈ live := ha (by simp)
    simp only [List.mem_cons] at hb
    rcases hb with rfl | hb
    · exact hx
    · have hy : y = m (x + 48) := hl2.1
      have hlink : m (x + 48) ∈ ptrSlots m x := by simp [ptrSlots]
      have hnz' : m (x + 48) ≠ 0 := hnz x (by simp [List.dropLast])
      have hylive : m (x + 48) ∈ live := by
        rcases I.slot_live hx hlink with h0 | hl
        · exact absurd h0 hnz'
        · exact hl
      refine linked_live I (y :: rest) (m (x + 48)) hl2 (fun _ => hylive) ?_ b (by simpa using hb)
      intro c hc
      exact hnz c (by
        simp only [List.dropLast_cons_cons, List.mem_cons]
        exact Or.inr hc)

/-- all blocks of a chain but the last carry a non-null link -/
theorem chain_links_ne {p : Nat} {fs : List AField} (O : ObjAt m ι p fs) :
    ∀ b ∈ (blocksOf m p fs).dropLast, m (b + 48) ≠ 0 := by
  intro b hb
  have hk : fs.map kindB ≠ [] := by simpa using O.ne
  obtain ⟨init, blk, lastKs, e, hi⟩ := peek_positions m _ (fs.map kindB) .last p (Nat.le_refl _) hk
  have hb' : b ∈ init.map (·.1) := by
    unfold blocksOf chainOf at hb
    rw [e] at hb
    simpa [List.dropLast_concat] using hb
  obtain ⟨v, hv, rfl⟩ := List.mem_map.1 hb'
  have hpre := O.pre v (by unfold chainOf; rw [e]; simp [hv])
  have := hpre.link (hi v hv)
  simpa [fstOff, fieldOffset, fieldsPerBlock] using this

/-- THE REACHABILITY LEMMA (general form): if the image of every abstract root is live, so is every block
of every abstract object.  `roots` (the roots of the block-level invariant) is arbitrary. -/
theorem chains_live_supp {roots : List Nat}
    (I : InvW m base limit heap free roots [] lin lazy live F)
    (A : Scc.Backend.Sim.HeapOK h rs next) (hord : ∀ e ∈ h, ∀ c ∈ e.2.children, c < e.1)
    (hshape : ∀ e ∈ h, ObjAt m ι (ι e.1) e.2.fields) (hsupp : ∀ r ∈ rs, ι r ∈ live) :
    ∀ (k : Nat) (e : Nat × Obj), e ∈ h → next - e.1 ≤ k → ∀ b ∈ blocksOf m (ι e.1) e.2.fields, b ∈ live := by
  have slot_live' : ∀ {blk q : Nat}, blk ∈ live → q ∈ ptrSlots m blk → q = 0 ∨ q ∈ live := by
    intro blk q hb hq
    apply I.fields_live
    exact ptrSlots_sub_ptrFields (List.mem_append.2 (Or.inl hb)) q hq
  have linked : ∀ (l : List Nat) (a : Nat), Linked m a l → (l ≠ [] → a ∈ live) →
      (∀ b ∈ l.dropLast, m (b + 48) ≠ 0) → ∀ b ∈ l, b ∈ live := by
    intro l
    induction l with
    | nil => intro a _ _ _ b hb; simp at hb
    | cons x rest ih =>
      intro a hl ha hnz b hb
      obtain ⟨rfl, hl2⟩ := hl
      have hx : x ∈ live := ha (by simp)
      simp only [List.mem_cons] at hb
      rcases hb with rfl | hb
      · exact hx
      · cases rest with
        | nil => simp at hb
        | cons y rest' =>
          have hlink : m (x + 48) ∈ ptrSlots m x := by simp [ptrSlots]
          have hnz' : m (x + 48) ≠ 0 := hnz x (by simp [List.dropLast])
          have hylive : m (x + 48) ∈ live := by
            rcases slot_live' hx hlink with h0 | hl
            · exact absurd h0 hnz'
            · exact hl
          refine ih (m (x + 48)) hl2 (fun _ => hylive) ?_ b hb
          intro c hc
          exact hnz c (by
            simp only [List.dropLast_cons_cons, List.mem_cons]
            exact Or.inr hc)
  intro k
  induction k with
  | zero =>
    intro e he hk
    have := (A.ids e he).2.1
    omega
  | succ k ih =>
    intro e he hk b hb
    have O := hshape e he
    have hkinds : e.2.fields.map kindB ≠ [] := by simpa using O.ne
    have hhead : ι e.1 ∈ live := by
      have hc := A.counts e he
      rw [Scc.Backend.Sim2.refCount_eq] at hc
      by_cases hr : 0 < rs.count e.1
      · exact hsupp e.1 (List.count_pos_iff.mp hr)
      · obtain ⟨e', he', hch⟩ := childSum_pos (h := h) (x := e.1) (by omega)
        have hlt := hord e' he' e.1 hch
        have hn' := (A.ids e' he').2.1
        have hblocks := ih e' he' (by omega)
        have O' := hshape e' he'
        have hmem : ι e.1 ∈ ptrsOf (e'.2.fields.map (fieldImg ι)) := child_mem_ptrsOf ι _ _ hch
        rw [← O'.vals] at hmem
        have hslot := ptrsOf_peek_sub m _ _ .last (ι e'.1) (Nat.le_refl _) _ hmem
        obtain ⟨b', hb', hx⟩ := mem_ptrFields.1 hslot
        rcases slot_live' (hblocks b' hb') hx with h0 | hl
        · exact absurd h0 O.pos
        · exact hl
    have hlinked := (peek_chain m _ (e.2.fields.map kindB) .last (ι e.1) (Nat.le_refl _)).1
    exact linked _ _ hlinked (fun _ => hhead) (chain_links_ne O) b hb

/-- THE REACHABILITY LEMMA: every block of every abstract object is live at block level -/
theorem chains_live (I : InvW m base limit heap free (rs.map ι) [] lin lazy live F)
    (A : Scc.Backend.Sim.HeapOK h rs next) (hord : ∀ e ∈ h, ∀ c ∈ e.2.children, c < e.1)
    (hshape : ∀ e ∈ h, ObjAt m ι (ι e.1) e.2.fields) :
    ∀ (k : Nat) (e : Nat × Obj), e ∈ h → next - e.1 ≤ k → ∀ b ∈ blocksOf m (ι e.1) e.2.fields, b ∈ live := by
  apply chains_live_supp I A hord hshape
  intro r hr
  have hmem : ι r ∈ rs.map ι := List.mem_map.2 ⟨r, hr, rfl⟩
  rcases I.roots_live _ hmem with h0 | hl
  · -- a root is a live abstract object, whose head is not null
    have hlive : (h.get r).isSome := by
      apply A.live
      have : 0 < rs.count r := List.count_pos_iff.mpr hr
      rw [Scc.Backend.Sim2.refCount_eq]; omega
    cases hg : h.get r with
    | none => rw [hg] at hlive; simp at hlive
    | some o =>
      have := (hshape (r, o) (Scc.Backend.Sim.heap_get_mem hg)).pos
      exact absurd h0 this
  · exact hl

end Reach

end Scc.Heap.Refine
