/-
Scc.Heap.RefineDefs — definitions for the HEAP REFINEMENT (backend-independent part of C06–C08):
the abstract heap of the abstract backend machine (`Scc.Backend.Abs.Heap`: objects `id ↦ (count,
fields)`, exact counts, immediate recursive erase; the heap of Theorem A) is REPRESENTED by a state of
the block-level heap model (`Scc.Heap.HState`: 64-byte blocks of FIELDS_PER_BLOCK = 3 fields chained
by links, linear free list + lazy free list with deferred erasure; the heap that the memory contracts of
all three backends are stated against).

* `peek` — a pure reader that mirrors `load_fields`: the values, the blocks visited (with the kinds
  loaded from each and its position in the chain).
* `ObjAt m ι p fs` — the object with abstract fields `fs` lies at head block `p` of memory `m`: the
  chain has the shape `store` produces (right-aligned values, null pointer slot for integers and unused
  fields, link in the last pointer slot, continuation blocks with count 0), a pointer field holds the
  head block `ι id` of the object it refers to.
* `HRef h rs next s ι` — the refinement relation: the abstract heap is well formed (`HeapOK`: exact
  counts w.r.t. the roots `rs`; children are older than their parents), the block-level state
  satisfies the C09 invariant `InvS` w.r.t. the roots `rs.map ι`, every abstract object lies at `ι id`,
  distinct objects occupy disjoint chains.  Blocks that are alive at block level but belong to no
  abstract object (children of deferred blocks: the abstract erase is immediate, the real one is
  deferred) are NOT mentioned: they are exactly the blocks of `live` outside the chains, and the
  reference counts need no clause either (stored count of a head block = abstract count + number of
  references from such blocks, a consequence of the two counting invariants).
The import of ProofsHist.lean is for `BlockPre` (ProofsLoad.lean), which `ObjAt` uses.
-/
import Scc.Heap.ProofsHist
import Scc.Backend.SimDefs

namespace Scc.Heap.Refine

open Scc.Heap
open Scc.Backend.Abs (Heap Obj Word)
open Scc.AxCut (Chi)

/-- a field of an abstract object -/
abbrev AField := Scc.Backend.Abs.Field

/-- is the field pointer-typed (not `ext`)? -/
def kindB (f : AField) : Bool := f.chi != Chi.ext

/-- the block-level image of a reference word: null ↦ null, `id ↦ ι id` -/
def imgW (ι : Nat → Nat) (w : Word) : Nat := if w = 0 then 0 else ι w.toNat

/-- the block-level image of an abstract field -/
def fieldImg (ι : Nat → Nat) (f : AField) : Field :=
  if kindB f then .ptr (imgW ι f.ptr) f.val.toNat else .int f.val.toNat

/-- one visited block of a chain: address, kinds of the variables loaded from it, position -/
abbrev Visit := Nat × List Bool × BlockPosition

/-- Pure reader mirroring `load_fields` (Model.lean): the values read, the block the caller
continues with, and the blocks visited in the order in which `load_fields` reaches them. -/
def peek (m : Nat → Nat) (kinds : List Bool) (pos : BlockPosition) (p : Nat) :
    List Field × Nat × List Visit :=
  if _h : kinds = [] then ([], p, [])
  else
    let rl := restLength kinds.length pos
    let r := peek m (kinds.take rl) posOther p
    let blk := r.2.1
    let link := if pos = posOther then m (blk + fstOff (fieldsPerBlock - 1)) else 0
    (r.1 ++ fieldsAt m blk (fieldsPerBlock - pos.toNat - (kinds.drop rl).length) (kinds.drop rl),
     link, r.2.2 ++ [(blk, kinds.drop rl, pos)])
termination_by kinds.length
decreasing_by
  have : 0 < kinds.length := List.length_pos_iff.mpr _h
  simp only [List.length_take]
  exact Nat.lt_of_le_of_lt (Nat.min_le_left _ _) (restLength_lt _ _ this)

/-- the blocks of the chain of an object with fields `fs` at `p` -/
def chainOf (m : Nat → Nat) (p : Nat) (fs : List AField) : List Visit :=
  (peek m (fs.map kindB) .last p).2.2

def blocksOf (m : Nat → Nat) (p : Nat) (fs : List AField) : List Nat := (chainOf m p fs).map (·.1)

/-- the object with abstract fields `fs` lies at head block `p` -/
structure ObjAt (m : Nat → Nat) (ι : Nat → Nat) (p : Nat) (fs : List AField) : Prop where
  ne : fs ≠ []
  pos : p ≠ 0
  /-- the values read are the images of the fields -/
  vals : (peek m (fs.map kindB) .last p).1 = fs.map (fieldImg ι)
  /-- every block has the shape `load` assumes (`BlockPre`, ProofsLoad.lean) -/
  pre : ∀ v ∈ chainOf m p fs, BlockPre m v.1 v.2.1 v.2.2
  /-- continuation blocks have count 0 (their only reference is the link) -/
  hdr : ∀ b ∈ (blocksOf m p fs).tail, m b = 0
  nodup : (blocksOf m p fs).Nodup

/-- THE REFINEMENT RELATION between the abstract heap `h` (roots `rs` = the non-null references held by
the live variables, with multiplicity; `next` = next fresh id) and the block-level state `s` -/
structure HRef (h : Heap) (rs : List Nat) (next : Nat) (s : HState) (ι : Nat → Nat) : Prop where
  abs : Scc.Backend.Sim.HeapOK h rs next
  /-- references point to OLDER objects (no cycles) -/
  ord : ∀ e ∈ h, ∀ c ∈ e.2.children, c < e.1
  conc : ∃ lin lazy live F, InvS s (rs.map ι) [] lin lazy live F
  shape : ∀ e ∈ h, ObjAt s.mem.get ι (ι e.1) e.2.fields
  disj : ∀ e ∈ h, ∀ e' ∈ h, e.1 ≠ e'.1 →
    ∀ b ∈ blocksOf s.mem.get (ι e.1) e.2.fields, b ∉ blocksOf s.mem.get (ι e'.1) e'.2.fields

end Scc.Heap.Refine
