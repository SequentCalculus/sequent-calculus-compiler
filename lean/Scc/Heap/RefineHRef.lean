/-
  Scc.Heap.RefineHRef — facts about the refinement `HRef` of the abstract heap by the block-level heap that every
  backend uses when it composes `HRef` with its memory contracts: the roots matter only as a multiset, heads of
  represented objects are addresses inside the heap, the refinement and the room at the start of a run; and small
  facts about what `store` and `load` see of a field.
-/
import Scc.Props.C09Refine
import Scc.Backend.ProofsRep2
import Scc.Heap.RefineFrontier

namespace Scc.Heap.Refine

open Scc.AxCut Scc.Backend Scc.Backend.Abs
open Scc.Heap (HState InvS InvW)

theorem HRef.roots_congr {h : Heap} {rs rs' : List Nat} {next : Nat} {s : HState} {ι : Nat → Nat}
    (R : HRef h rs next s ι) (hc : ∀ x, rs'.count x = rs.count x) : HRef h rs' next s ι := by
  have hp : rs'.Perm rs := List.perm_iff_count.2 hc
  obtain ⟨lin, lazy, live, F, I⟩ := R.conc
  refine ⟨Scc.Backend.Sim2.heapOK_count_congr R.abs hc, R.ord, ⟨lin, lazy, live, F, ?_⟩, R.shape, R.disj⟩
  exact InvW.roots_congr I (fun b _ => (hp.map ι).count_eq b)

theorem href_head_lt {h : Heap} {rs : List Nat} {next : Nat} {s : HState} {ι : Nat → Nat}
    (R : HRef h rs next s ι) {e : Nat × Obj} (he : e ∈ h) : ι e.1 + 64 ≤ s.limit := by
  obtain ⟨lin, lazy, live, F, I⟩ := R.conc
  have hl := Scc.Heap.Refine.C09R_chains_live R I e he _ (Scc.Heap.Refine.head_mem_blocksOf (R.shape e he))
  have h1 := I.live_block hl
  have h2 := I.frontier_room
  have h3 := I.frontier_block
  unfold Scc.Heap.IsBlock at h1 h3
  omega

theorem href_root_mem {h : Heap} {rs : List Nat} {next : Nat} {s : HState} {ι : Nat → Nat}
    (R : HRef h rs next s ι) {r : Nat} (hr : r ∈ rs) : ∃ o, (r, o) ∈ h := by
  have hrl : (h.get r).isSome := by
    apply R.abs.live
    have : 0 < rs.count r := List.count_pos_iff.mpr hr
    rw [Scc.Backend.Sim2.refCount_eq]; omega
  exact Scc.Backend.Sim.heap_get_isSome_mem hrl

theorem href_init' {base limit : Nat} (ι : Nat → Nat) (hb : 0 < base) (hl : base + 128 ≤ limit) :
    HRef [] [] 1 (Scc.Heap.init base limit) ι := by
  refine ⟨⟨by omega, by simp, by simp, by simp, ?_⟩, by simp, ?_, by simp, by simp⟩
  · intro id hid
    simp [Scc.Backend.Sim.refCount] at hid
  · exact ⟨[base], [], [], base + 64, Scc.Heap.init_inv hb hl⟩

theorem room_init {base limit n : Nat} (hb : 0 < base) (hl : base + 128 ≤ limit) (hn : base + 64 + n ≤ limit) :
    Room (Scc.Heap.init base limit) n := by
  intro rs lin lazy live Fr J
  have := (Scc.Heap.InvS.witness_unique (Scc.Heap.init_inv hb hl) J).2.2
  have hlim : (Scc.Heap.init base limit).limit = limit := rfl
  omega

theorem storeObj_nil (hs : HState) : Scc.Heap.storeObj hs [] = .ok (hs, 0) := by
  unfold Scc.Heap.storeObj
  rw [Scc.Heap.storeFields]
  simp

theorem kindB_eq (f : Abs.Field) : kindB f = (f.chi != Chi.ext) := rfl

theorem chi_bne_iff (c : Chi) : (c != Chi.ext) = !(c == Chi.ext) := rfl

theorem ofNat_of_toNat {w : Word} {p : Nat} (h : w.toNat = p) : w = BitVec.ofNat 64 p := by
  apply BitVec.eq_of_toNat_eq
  rw [BitVec.toNat_ofNat, ← h, Nat.mod_eq_of_lt w.isLt]

end Scc.Heap.Refine
