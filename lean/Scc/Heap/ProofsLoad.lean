/-
Scc.Heap.ProofsLoad — `load_values` and `load_fields` in release mode and in share mode, under the
precondition `LoadPre` on the shape of the chain (the shape `store` builds); one block in release mode
(`loadBlock_release`: the block goes to the linear free list).  `load` itself is in ProofsHist.lean.
-/
import Scc.Heap.ProofsStore

namespace Scc.Heap

/-- Roots gained by `load_values`: none in release mode (the slots already count as roots after
`release_block`), the loaded pointers in share mode. -/
def gained (mode : LoadMode) (vals : List Field) : List Nat :=
  match mode with
  | .release => []
  | .share => ptrsOf vals

theorem mem_ptrSlots_of_off {m : Nat → Nat} {blk i : Nat} (hi : i < 3) :
    m (blk + fstOff i) ∈ ptrSlots m blk := by
  have : i = 0 ∨ i = 1 ∨ i = 2 := by omega
  rcases this with rfl | rfl | rfl <;> simp [ptrSlots, fstOff, fieldOffset]

theorem InvW.slot_live {m : Nat → Nat} {base limit heap free F : Nat}
    {roots pend lin lazy live : List Nat}
    (h : InvW m base limit heap free roots pend lin lazy live F) {blk q : Nat}
    (hb : blk ∈ live) (hq : q ∈ ptrSlots m blk) : q = 0 ∨ q ∈ live := by
  apply h.fields_live
  obtain ⟨l1, l2, rfl⟩ := List.append_of_mem hb
  simp only [ptrFields_append, ptrFields_cons, List.mem_append]
  exact Or.inl (Or.inr (Or.inl hq))

/-- `load_values` on one block, both modes: the values read, and in share mode one more root for every
pointer read (`gained`). -/
theorem loadValuesRev_spec {blk F : Nat} {lin lazy live : List Nat} (mode : LoadMode) :
    ∀ (rev : List Bool) (ff : Nat) (acc : List Field) (s : HState) (roots : List Nat),
    rev.length ≤ ff → ff ≤ 3 → InvS s roots [] lin lazy live F →
    IsBlock s.base blk → blk < F → (mode = .share → blk ∈ live) →
    ∃ s', loadValuesRev s blk mode rev ff acc =
        .ok (s', fieldsAt s.mem.get blk (ff - rev.length) rev.reverse ++ acc) ∧
      SameHeap s s' ∧ s'.heap = s.heap ∧ s'.free = s.free ∧
      HeadersOnly (ptrsOf (fieldsAt s.mem.get blk (ff - rev.length) rev.reverse)) s s' ∧
      (mode = .release → s' = s) ∧
      InvS s' (gained mode (fieldsAt s.mem.get blk (ff - rev.length) rev.reverse) ++ roots) []
        lin lazy live F := by
  intro rev
  induction rev with
  | nil =>
    intro ff acc s roots _ _ h _ _ _
    refine ⟨s, by simp [loadValuesRev, fieldsAt], SameHeap.refl s, rfl, rfl, fun _ _ => rfl,
      fun _ => rfl, ?_⟩
    cases mode <;> simpa [gained, fieldsAt, ptrsOf] using h
  | cons k rest ih =>
    intro ff acc s roots hlen hff h hb hbF hlive
    obtain ⟨ff', rfl⟩ : ∃ ff', ff = ff' + 1 := ⟨ff - 1, by simp at hlen; omega⟩
    simp only [List.length_cons] at hlen
    have hFr := h.frontier_room
    have hlim : blk + 64 ≤ s.limit := by
      have := h.frontier_block; unfold IsBlock at *; omega
    have hrdS : rd s (blk + sndOff ff') = .ok (s.mem.get (blk + sndOff ff')) :=
      rd_off _ hb hlim (by simp [sndOff, fieldOffset]; omega) (by simp [sndOff, fieldOffset])
    have hrdF : rd s (blk + fstOff ff') = .ok (s.mem.get (blk + fstOff ff')) :=
      rd_off _ hb hlim (by simp [fstOff, fieldOffset]; omega) (by simp [fstOff, fieldOffset])
    have hidx : ff' + 1 - (k :: rest).length = ff' - rest.length := by
      simp only [List.length_cons]; omega
    have hrev : fieldsAt s.mem.get blk (ff' - rest.length) (k :: rest).reverse =
        fieldsAt s.mem.get blk (ff' - rest.length) rest.reverse ++
          fieldsAt s.mem.get blk ff' [k] := by
      rw [List.reverse_cons, fieldsAt_append, List.length_reverse]
      rw [show ff' - rest.length + rest.length = ff' by omega]
    rw [hidx, hrev]
    obtain ⟨s1, v, hlv, hv, hsame1, hheap1, hfree1, hho1, hrel1, hi1⟩ :
        ∃ s1 v, loadValue s k blk ff' mode = .ok (s1, v) ∧ [v] = fieldsAt s.mem.get blk ff' [k] ∧
          SameHeap s s1 ∧ s1.heap = s.heap ∧ s1.free = s.free ∧ HeadersOnly (ptrsOf [v]) s s1 ∧
          (mode = .release → s1 = s) ∧
          InvS s1 (gained mode [v] ++ roots) [] lin lazy live F := by
      cases k with
      | false =>
        refine ⟨s, .int (s.mem.get (blk + sndOff ff')), by simp [loadValue, hrdS], by simp [fieldsAt],
          SameHeap.refl s, rfl, rfl, fun _ _ => rfl, fun _ => rfl, ?_⟩
        cases mode <;> simpa [gained, ptrsOf] using h
      | true =>
        cases mode with
        | release =>
          exact ⟨s, .ptr (s.mem.get (blk + fstOff ff')) (s.mem.get (blk + sndOff ff')),
            by simp [loadValue, hrdS, hrdF], by simp [fieldsAt],
            SameHeap.refl s, rfl, rfl, fun _ _ => rfl, fun _ => rfl, by simpa [gained] using h⟩
        | share =>
          have hq := InvW.slot_live h (hlive rfl)
            (mem_ptrSlots_of_off (m := s.mem.get) (blk := blk) (i := ff') (by omega))
          obtain ⟨s1, hsh, hsame, hheap, hfree, hho, hi⟩ := shareBlock_spec (n := 1) h hq
          refine ⟨s1, .ptr (s.mem.get (blk + fstOff ff')) (s.mem.get (blk + sndOff ff')),
            by simp [loadValue, hrdS, hrdF, hsh], by simp [fieldsAt], hsame, hheap, hfree, hho,
            by simp, ?_⟩
          simpa [gained, ptrsOf] using hi
    have hcongr : fieldsAt s1.mem.get blk (ff' - rest.length) rest.reverse =
        fieldsAt s.mem.get blk (ff' - rest.length) rest.reverse := by
      apply fieldsAt_congr
      · intro j hj hj'
        exact hho1.nonblock (not_isBlock_add hb hj hj')
      · rw [List.length_reverse]; omega
    obtain ⟨s', hl', hsame', hheap', hfree', hho', hrel', hi'⟩ :=
      ih ff' (v :: acc) s1 (gained mode [v] ++ roots) (by omega) (by omega) hi1
        (by rw [hsame1.base]; exact hb) hbF hlive
    rw [hcongr] at hl' hi' hho'
    refine ⟨s', ?_, hsame1.trans hsame', by rw [hheap', hheap1], by rw [hfree', hfree1],
      (hho1.trans hsame1 hho').mono (by
        rw [← hv]; intro x hx
        simp only [ptrsOf_append, List.mem_append] at hx ⊢
        exact hx.symm), fun hm => by rw [hrel' hm, hrel1 hm], ?_⟩
    · simp only [loadValuesRev, hlv]
      rw [hl', ← hv]
      simp
    · rw [← hv]
      cases mode with
      | release => simpa [gained] using hi'
      | share =>
        simp only [gained, ptrsOf_append] at hi' ⊢
        simpa [List.append_assoc] using hi'

/-- What `load` assumes about a block from which it loads variables of kinds `ks`: pointer slots it
does not read (integer fields, unused fields) are null, and the link (if any) is not null. -/
structure BlockPre (m : Nat → Nat) (blk : Nat) (ks : List Bool) (pos : BlockPosition) : Prop where
  unloaded : ∀ i, i < fieldsPerBlock - pos.toNat →
    slotLoaded ks (fieldsPerBlock - pos.toNat) i = false → m (blk + fstOff i) = 0
  link : pos = .other → m (blk + fstOff (fieldsPerBlock - 1)) ≠ 0

/-- Under `BlockPre` the non-null pointer slots of the block are exactly the pointers loaded plus
the link. -/
theorem BlockPre.slots_count {m : Nat → Nat} {blk : Nat} {ks : List Bool} {pos : BlockPosition}
    (hpre : BlockPre m blk ks pos) (hlen : ks.length ≤ fieldsPerBlock - pos.toNat) :
    ∀ x, x ≠ 0 → (ptrSlots m blk).count x =
      (if pos = .other then [m (blk + fstOff (fieldsPerBlock - 1))].count x else 0) +
      (ptrsOf (fieldsAt m blk (fieldsPerBlock - pos.toNat - ks.length) ks)).count x :=
  fun _ hx => ptrSlots_count hlen hpre.unloaded hx

/-- Precondition of `load_fields` (hence of `load`): every block of the chain, at the moment it is
reached, satisfies `BlockPre` for the kinds loaded from it, and — in release mode — a continuation
block (one reached through a link) has count 0, i.e. the link is the only reference to it.
`store` with the same kinds establishes exactly this shape (right-aligned values, null pointer slot
for integers and unused fields, link in the last pointer slot, fresh blocks have count 0). -/
def LoadPre (s : HState) (kinds : List Bool) (pos : BlockPosition) (mode : LoadMode) (p : Nat) : Prop :=
  if _h : kinds = [] then True
  else
    let rl := restLength kinds.length pos
    LoadPre s (kinds.take rl) .other mode p ∧
    ∀ s1 vals1 blk, loadFields s (kinds.take rl) .other mode p = .ok (s1, vals1, blk) →
      BlockPre s1.mem.get blk (kinds.drop rl) pos ∧
      (mode = .release → kinds.take rl ≠ [] → s1.mem.get blk = 0)
termination_by kinds.length
decreasing_by
  have : 0 < kinds.length := List.length_pos_iff.mpr _h
  simp only [List.length_take]
  exact Nat.lt_of_le_of_lt (Nat.min_le_left _ _) (restLength_lt _ _ this)

/-- One block in release mode: the block (a root with count 0) goes to the linear free list, its
link and the loaded pointers become roots. -/
theorem loadBlock_release {s : HState} {F blk : Nat} {roots lin lazy live : List Nat}
    {ks : List Bool} {pos : BlockPosition}
    (h : InvS s (blk :: roots) [] lin lazy live F) (hb0 : blk ≠ 0) (hz : s.mem.get blk = 0)
    (hpre : BlockPre s.mem.get blk ks pos) (hlen : ks.length ≤ fieldsPerBlock - pos.toNat) :
    ∃ s2 link vals lin' live',
      releaseBlock s blk = .ok s2 ∧
      (if pos = posOther then rd s2 (blk + fstOff (fieldsPerBlock - 1)) else .ok 0) = .ok link ∧
      loadValues s2 ks blk (fieldsPerBlock - pos.toNat) .release = .ok (s2, vals) ∧
      SameHeap s s2 ∧ s2.free = s.free ∧
      InvS s2 ((if pos = .other then [link] else []) ++ ptrsOf vals ++ roots) [] lin' lazy live' F ∧
      (pos = .other → link ≠ 0) := by
  have hbl : blk ∈ live := by
    rcases h.roots_live blk (by simp) with h0 | hl
    · exact absurd h0 hb0
    · exact hl
  have hbb := h.live_block hbl
  have hFr := h.frontier_room
  have hlim : blk + 64 ≤ s.limit := by
    have := h.frontier_block; have := hbb.1; unfold IsBlock at *; omega
  have hwr := wr_off (s := s) (b := blk) s.heap 0 hbb.1 hlim (by omega) (by omega)
  simp only [Nat.add_zero] at hwr
  let s2 : HState := { s with mem := s.mem.set blk s.heap, heap := blk }
  have hi2 : InvS s2 (ptrSlots s.mem.get blk ++ roots) [] (blk :: lin) lazy (live.erase blk) F := by
    show InvW (s.mem.set blk s.heap).get _ _ _ _ _ _ _ _ _ _
    rw [Mem.get_set_upd]
    exact InvW.to_lin h hbl hz
  have hnb : ∀ k, 0 < k → k < 64 → s2.mem.get (blk + k) = s.mem.get (blk + k) := by
    intro k hk hk'
    show (s.mem.set blk s.heap).get _ = _
    rw [Mem.get_set, if_neg (by omega)]
  have hlink : (if pos = posOther then rd s2 (blk + fstOff (fieldsPerBlock - 1)) else .ok 0) =
      .ok (if pos = .other then s.mem.get (blk + fstOff (fieldsPerBlock - 1)) else 0) := by
    cases pos with
    | last => simp
    | other =>
      simp only [if_true]
      rw [rd_off (s := s2) _ hbb.1 hlim (by simp [fstOff, fieldOffset, fieldsPerBlock])
        (by simp [fstOff, fieldOffset, fieldsPerBlock])]
      rw [hnb _ (by simp [fstOff, fieldOffset, fieldsPerBlock]) (by simp [fstOff, fieldOffset, fieldsPerBlock])]
  have hcap3 : fieldsPerBlock - pos.toNat ≤ 3 := by simp [fieldsPerBlock]
  obtain ⟨s3, hlv, _, _, _, _, hrel, _⟩ :=
    loadValuesRev_spec (blk := blk) .release ks.reverse (fieldsPerBlock - pos.toNat) [] s2 _
      (by rw [List.length_reverse]; exact hlen) hcap3 hi2 hbb.1 hbb.2 (by simp)
  rw [hrel rfl, List.reverse_reverse, List.length_reverse, List.append_nil] at hlv
  have hfa : fieldsAt s2.mem.get blk (fieldsPerBlock - pos.toNat - ks.length) ks =
      fieldsAt s.mem.get blk (fieldsPerBlock - pos.toNat - ks.length) ks :=
    fieldsAt_congr hnb _ _ (by omega)
  rw [hfa] at hlv
  refine ⟨s2, _, _, blk :: lin, live.erase blk, by simp [releaseBlock, hwr, s2], hlink, hlv, ⟨rfl, rfl⟩, rfl, ?_, ?_⟩
  · refine InvW.roots_congr hi2 (fun x hx => ?_)
    rw [List.count_append, List.count_append, List.count_append, hpre.slots_count hlen x hx]
    cases pos <;> simp
  · intro hp
    rw [if_pos hp]
    exact hpre.link hp

theorem loadFields_cons {s : HState} {kinds : List Bool} (hne : kinds ≠ []) (pos : BlockPosition)
    (mode : LoadMode) (p : Nat) {s1 s2 s3 : HState} {vals1 vals2 : List Field} {blk link : Nat}
    (h1 : loadFields s (kinds.take (restLength kinds.length pos)) posOther mode p = .ok (s1, vals1, blk))
    (h2 : (match mode with
           | .release => releaseBlock s1 blk
           | .share => .ok s1) = .ok s2)
    (h3 : (if pos = posOther then rd s2 (blk + fstOff (fieldsPerBlock - 1)) else .ok 0) = .ok link)
    (h4 : loadValues s2 (kinds.drop (restLength kinds.length pos)) blk (fieldsPerBlock - pos.toNat) mode
            = .ok (s3, vals2)) :
    loadFields s kinds pos mode p = .ok (s3, vals1 ++ vals2, link) := by
  rw [loadFields]
  simp only [hne, ↓reduceDIte]
  rw [h1]; simp only []
  cases mode <;> simp only [] at h2 ⊢
  · rw [h2]; simp only []
    rw [h3]; simp only []
    rw [h4]
  · injection h2 with h2
    subst h2
    rw [h3]; simp only []
    rw [h4]

theorem LoadPre_cons {s : HState} {kinds : List Bool} (hne : kinds ≠ []) {pos : BlockPosition}
    {mode : LoadMode} {p : Nat} (h : LoadPre s kinds pos mode p) :
    LoadPre s (kinds.take (restLength kinds.length pos)) .other mode p ∧
    ∀ s1 vals1 blk, loadFields s (kinds.take (restLength kinds.length pos)) .other mode p
        = .ok (s1, vals1, blk) →
      BlockPre s1.mem.get blk (kinds.drop (restLength kinds.length pos)) pos ∧
      (mode = .release → kinds.take (restLength kinds.length pos) ≠ [] → s1.mem.get blk = 0) := by
  rw [LoadPre] at h
  simp only [hne, ↓reduceDIte] at h
  exact h

/-- `load_fields` in release mode (C09-T1: release + load in release mode, single blocks and
chains). -/
theorem loadFields_release_spec : ∀ (n : Nat) {s : HState} {F p : Nat}
    {roots lin lazy live : List Nat} (kinds : List Bool) (pos : BlockPosition),
    kinds.length ≤ n → InvS s (p :: roots) [] lin lazy live F → p ≠ 0 → s.mem.get p = 0 →
    LoadPre s kinds pos .release p → (kinds = [] → pos = .other) →
    ∃ s' vals nxt lin' live', loadFields s kinds pos .release p = .ok (s', vals, nxt) ∧
      SameHeap s s' ∧ s'.free = s.free ∧
      InvS s' ((if pos = .other then [nxt] else []) ++ ptrsOf vals ++ roots) [] lin' lazy live' F ∧
      (pos = .other → nxt ≠ 0) := by
  intro n
  induction n with
  | zero =>
    intro s F p roots lin lazy live kinds pos hn h hp hz _ hnil
    have hk : kinds = [] := List.length_eq_zero_iff.mp (by omega)
    subst hk
    have hpos := hnil rfl
    subst hpos
    exact ⟨s, [], p, lin, live, heap_loadFields_nil _ _ _ _, SameHeap.refl s, rfl,
      by simpa [ptrsOf] using h, fun _ => hp⟩
  | succ n ih =>
    intro s F p roots lin lazy live kinds pos hn h hp hz hpre hnil
    by_cases hk : kinds = []
    · subst hk
      have hpos := hnil rfl
      subst hpos
      exact ⟨s, [], p, lin, live, heap_loadFields_nil _ _ _ _, SameHeap.refl s, rfl,
        by simpa [ptrsOf] using h, fun _ => hp⟩
    · have hlpos : 0 < kinds.length := List.length_pos_iff.mpr hk
      have hrl := restLength_lt kinds.length pos hlpos
      obtain ⟨hpre1, hblk⟩ := LoadPre_cons hk hpre
      obtain ⟨s1, vals1, blk, lin1, live1, hl1, hsame1, hfree1, hi1, hnz1⟩ :=
        ih (kinds.take (restLength kinds.length pos)) .other
          (by rw [List.length_take]; omega) h hp hz hpre1 (fun _ => rfl)
      obtain ⟨hbpre, hhdr⟩ := hblk s1 vals1 blk hl1
      have hz1 : s1.mem.get blk = 0 := by
        by_cases ht : kinds.take (restLength kinds.length pos) = []
        · rw [ht, heap_loadFields_nil] at hl1
          injection hl1 with hl1
          injection hl1 with e1 e2
          injection e2 with e2 e3
          rw [← e1, ← e3]; exact hz
        · exact hhdr rfl ht
      simp only [if_true, List.cons_append] at hi1
      obtain ⟨s2, link, vals2, lin2, live2, hrel, hlink, hlv, hsame2, hfree2, hi2, hnz2⟩ :=
        loadBlock_release (ks := kinds.drop (restLength kinds.length pos)) (pos := pos) hi1
          (hnz1 rfl) hz1 hbpre (by rw [List.length_drop]; exact length_drop_restLength _ _)
      refine ⟨s2, vals1 ++ vals2, link, lin2, live2,
        loadFields_cons hk pos .release p hl1 hrel hlink hlv, hsame1.trans hsame2,
        by rw [hfree2, hfree1], ?_, hnz2⟩
      refine InvW.roots_congr hi2 (fun x _ => ?_)
      simp only [ptrsOf_append, List.count_append, List.count_nil]
      omega

/-- `load_fields` in share mode (C09-T1: load in share mode, single blocks and chains): nothing is
released; every pointer loaded gets one more root. -/
theorem loadFields_share_spec : ∀ (n : Nat) {s : HState} {F p : Nat}
    {roots lin lazy live : List Nat} (kinds : List Bool) (pos : BlockPosition),
    kinds.length ≤ n → InvS s roots [] lin lazy live F → p ∈ live →
    LoadPre s kinds pos .share p →
    ∃ s' vals nxt, loadFields s kinds pos .share p = .ok (s', vals, nxt) ∧
      SameHeap s s' ∧ s'.heap = s.heap ∧ s'.free = s.free ∧ HeadersOnly (ptrsOf vals) s s' ∧
      InvS s' (ptrsOf vals ++ roots) [] lin lazy live F ∧
      (pos = .other → nxt ∈ live) := by
  intro n
  induction n with
  | zero =>
    intro s F p roots lin lazy live kinds pos hn h hp _
    have hk : kinds = [] := List.length_eq_zero_iff.mp (by omega)
    subst hk
    exact ⟨s, [], p, heap_loadFields_nil _ _ _ _, SameHeap.refl s, rfl, rfl, fun _ _ => rfl,
      by simpa [ptrsOf] using h, fun _ => hp⟩
  | succ n ih =>
    intro s F p roots lin lazy live kinds pos hn h hp hpre
    by_cases hk : kinds = []
    · subst hk
      exact ⟨s, [], p, heap_loadFields_nil _ _ _ _, SameHeap.refl s, rfl, rfl, fun _ _ => rfl,
        by simpa [ptrsOf] using h, fun _ => hp⟩
    · have hlpos : 0 < kinds.length := List.length_pos_iff.mpr hk
      have hrl := restLength_lt kinds.length pos hlpos
      obtain ⟨hpre1, hblk⟩ := LoadPre_cons hk hpre
      obtain ⟨s1, vals1, blk, hl1, hsame1, hheap1, hfree1, hho1, hi1, hlive1⟩ :=
        ih (kinds.take (restLength kinds.length pos)) .other
          (by rw [List.length_take]; omega) h hp hpre1
      obtain ⟨hbpre, _⟩ := hblk s1 vals1 blk hl1
      have hbl : blk ∈ live := hlive1 rfl
      have hbb := hi1.live_block hbl
      have hFr := hi1.frontier_room
      have hlim : blk + 64 ≤ s1.limit := by
        have := hi1.frontier_block; have := hbb.1; unfold IsBlock at *; omega
      have hlink : (if pos = posOther then rd s1 (blk + fstOff (fieldsPerBlock - 1)) else .ok 0) =
          .ok (if pos = .other then s1.mem.get (blk + fstOff (fieldsPerBlock - 1)) else 0) := by
        cases pos with
        | last => simp
        | other =>
          simp only [if_true]
          rw [rd_off (s := s1) _ hbb.1 hlim (by simp [fstOff, fieldOffset, fieldsPerBlock])
            (by simp [fstOff, fieldOffset, fieldsPerBlock])]
      have hcap3 : fieldsPerBlock - pos.toNat ≤ 3 := by simp [fieldsPerBlock]
      obtain ⟨s3, hlv, hsame3, hheap3, hfree3, hho3, _, hi3⟩ :=
        loadValuesRev_spec (blk := blk) .share (kinds.drop (restLength kinds.length pos)).reverse
          (fieldsPerBlock - pos.toNat) [] s1 _
          (by rw [List.length_reverse, List.length_drop]; exact length_drop_restLength _ _)
          hcap3 hi1 hbb.1 hbb.2 (fun _ => hbl)
      rw [List.reverse_reverse, List.append_nil] at hlv
      rw [List.reverse_reverse] at hi3 hho3
      refine ⟨s3, _, _, loadFields_cons hk pos .share p hl1 rfl hlink hlv, hsame1.trans hsame3,
        by rw [hheap3, hheap1], by rw [hfree3, hfree1],
        (hho1.trans hsame1 hho3).mono (fun x hx => by simpa [ptrsOf_append] using hx), ?_, ?_⟩
      · refine InvW.roots_congr hi3 (fun x _ => ?_)
        simp only [gained, ptrsOf_append, List.count_append]
        omega
      · intro hpo
        rw [if_pos hpo]
        have hne := hbpre.link hpo
        rcases InvW.slot_live hi1 hbl (mem_ptrSlots_of_off (m := s1.mem.get) (blk := blk) (i := 2) (by omega)) with h0 | hl
        · simp only [fieldsPerBlock] at hne; exact absurd h0 hne
        · simpa [fieldsPerBlock] using hl

end Scc.Heap
