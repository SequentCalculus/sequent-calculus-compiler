/-
Scc.Heap.ProofsCheckDfs — the depth-first traversal `reachLoop` of the executable invariant checker
(Scc/Heap/Model.lean `invCheckFn`) is COMPLETE on states that satisfy the invariant: started with the roots
and the pointer slots of the deferred blocks it does not fail, does not run out of fuel, and returns a
duplicate-free list of exactly the live blocks, in reverse post-order — which is topologically sorted
(`TopoSorted`), because the live blocks have no cycle (invariant (vi)).

The traversal is analysed against a RANK on the live blocks (the position in the topological order that
invariant (vi) provides): every pointer slot of a live block is null or a live block of larger rank.  The
blocks whose `finish` item is on the work stack ("gray") form a chain of decreasing rank from the top of
the stack down, and every pending `visit` has a larger rank than the gray blocks below it: so a block that
is met again is already finished (no back edge).
-/
import Scc.Heap.ProofsCheck

namespace Scc.Heap

/-- in a duplicate-free topologically sorted list, pointer slots point to LATER elements -/
theorem topo_rank {m : Nat → Nat} : ∀ (ord : List Nat), ord.Nodup → TopoSorted m ord →
    ∀ b ∈ ord, ∀ q ∈ ptrSlots m b, q ≠ 0 → q ∈ ord ∧ ord.idxOf b < ord.idxOf q
  | [], _, _, b, hb, _, _, _ => by simp at hb
  | a :: rest, hnd, ht, b, hb, q, hq, hq0 => by
    rw [List.nodup_cons] at hnd
    obtain ⟨hfirst, hrest⟩ := ht
    rcases List.mem_cons.1 hb with rfl | hb'
    · rcases hfirst q hq with h0 | hmem
      · exact absurd h0 hq0
      · have hne : b ≠ q := fun e => hnd.1 (e ▸ hmem)
        refine ⟨List.mem_cons_of_mem _ hmem, ?_⟩
        rw [List.idxOf_cons, List.idxOf_cons]
        have : (b == q) = false := by simpa using hne
        simp [this]
    · obtain ⟨h1, h2⟩ := topo_rank rest hnd.2 hrest b hb' q hq hq0
      have hab : a ≠ b := fun e => hnd.1 (e ▸ hb')
      have haq : a ≠ q := fun e => hnd.1 (e ▸ h1)
      refine ⟨List.mem_cons_of_mem _ h1, ?_⟩
      rw [List.idxOf_cons, List.idxOf_cons]
      have e1 : (a == b) = false := by simpa using hab
      have e2 : (a == q) = false := by simpa using haq
      simp only [e1, e2, cond_false]
      omega

def Work.ptr : Work → Nat
  | .visit p => p
  | .finish p => p

/-- the blocks whose `finish` item is on the stack -/
def grays : List Work → List Nat
  | [] => []
  | .visit _ :: rest => grays rest
  | .finish p :: rest => p :: grays rest

theorem mem_grays : ∀ {stack : List Work} {p : Nat}, p ∈ grays stack ↔ Work.finish p ∈ stack
  | [], p => by simp [grays]
  | .visit q :: rest, p => by
    simp only [grays, List.mem_cons]
    rw [mem_grays]
    constructor
    · exact Or.inr
    · rintro (h | h)
      · cases h
      · exact h
  | .finish q :: rest, p => by
    simp only [grays, List.mem_cons]
    rw [mem_grays]
    constructor
    · rintro (h | h)
      · exact Or.inl (by rw [h])
      · exact Or.inr h
    · rintro (h | h)
      · injection h with h; exact Or.inl h
      · exact Or.inr h

theorem grays_visits (l : List Nat) (rest : List Work) : grays (l.map Work.visit ++ rest) = grays rest := by
  induction l with
  | nil => rfl
  | cons a l ih => simpa [grays] using ih

theorem grays_length_le : ∀ (stack : List Work), (grays stack).length ≤ stack.length
  | [] => Nat.le_refl _
  | .visit _ :: rest => by simp only [grays, List.length_cons]; have := grays_length_le rest; omega
  | .finish _ :: rest => by simp only [grays, List.length_cons]; have := grays_length_le rest; omega

theorem nodup_subset_length_le (l l' : List Nat) (h : l.Nodup) (hs : ∀ x ∈ l, x ∈ l') : l.length ≤ l'.length :=
  h.length_le_of_subset hs

section Dfs

variable {m : Nat → Nat} {base F : Nat} {live ord : List Nat} (R0 : List Nat)
  (hord : ord.Perm live) (hnd : live.Nodup) (htopo : TopoSorted m ord)
  (hblk : ∀ b ∈ live, IsBlock base b ∧ b < F)
  (hclosed : ∀ b ∈ live, ∀ q ∈ ptrSlots m b, q = 0 ∨ q ∈ live)

def rk (ord : List Nat) (b : Nat) : Nat := ord.idxOf b

include hord hnd htopo in
theorem edge_rank {b q : Nat} (hb : b ∈ live) (hq : q ∈ ptrSlots m b) (hq0 : q ≠ 0) :
    q ∈ live ∧ rk ord b < rk ord q := by
  have hndo : ord.Nodup := hord.nodup_iff.2 hnd
  obtain ⟨h1, h2⟩ := topo_rank ord hndo htopo b (hord.mem_iff.2 hb) q hq hq0
  exact ⟨hord.mem_iff.1 h1, h2⟩

structure DfsInv (stack : List Work) (seen : Std.HashSet Nat) (acc : List Nat) : Prop where
  /-- pending pointers are null or live -/
  items : ∀ w ∈ stack, w.ptr = 0 ∨ w.ptr ∈ live
  /-- every item has a larger rank than the gray blocks below it -/
  ranks : stack.Pairwise (fun x y => ∀ p', y = .finish p' → x.ptr = 0 ∨ rk ord p' < rk ord x.ptr)
  /-- seen = finished + gray -/
  seen_iff : ∀ x, seen.contains x = true ↔ x ∈ acc ++ grays stack
  nd : (acc ++ grays stack).Nodup
  sub : ∀ x ∈ acc ++ grays stack, x ∈ live
  /-- what is still owed for a gray block: each of its slots is null, finished, or above it on the stack -/
  oblig : ∀ above p below, stack = above ++ .finish p :: below → ∀ q ∈ ptrSlots m p,
    q = 0 ∨ q ∈ acc ∨ .visit q ∈ above ∨ .finish q ∈ above
  topo : TopoSorted m acc
  /-- the initial pointers are null, seen or pending -/
  roots : ∀ r ∈ R0, r = 0 ∨ r ∈ acc ∨ .finish r ∈ stack ∨ .visit r ∈ stack

structure DfsResult (acc : List Nat) : Prop where
  nd : acc.Nodup
  sub : ∀ x ∈ acc, x ∈ live
  topo : TopoSorted m acc
  roots : ∀ r ∈ R0, r = 0 ∨ r ∈ acc

def measure (live : List Nat) (stack : List Work) (acc : List Nat) : Nat :=
  stack.length + 4 * (live.length - (acc.length + (grays stack).length))

include hord hnd htopo hblk hclosed in
theorem reachLoop_complete : ∀ (fuel : Nat) (stack : List Work) (seen : Std.HashSet Nat) (acc : List Nat),
    DfsInv (m := m) (live := live) (ord := ord) R0 stack seen acc → measure live stack acc < fuel →
    ∃ acc', reachLoop m base F fuel stack seen acc = .ok acc' ∧ DfsResult (m := m) (live := live) R0 acc'
  | 0, _, _, _, _, h => absurd h (Nat.not_lt_zero _)
  | fuel + 1, [], seen, acc, I, _ => by
    refine ⟨acc, by simp [reachLoop], ?_, ?_, I.topo, ?_⟩
    · have := I.nd; simpa [grays] using this
    · intro x hx; exact I.sub x (by simp [hx])
    · intro r hr
      rcases I.roots r hr with h | h | h | h
      · exact Or.inl h
      · exact Or.inr h
      · simp at h
      · simp at h
  | fuel + 1, .finish p :: rest, seen, acc, I, hm => by
    simp only [reachLoop]
    have hslots : ∀ q ∈ ptrSlots m p, q = 0 ∨ q ∈ acc := by
      intro q hq
      rcases I.oblig [] p rest rfl q hq with h | h | h | h
      · exact Or.inl h
      · exact Or.inr h
      · simp at h
      · simp at h
    have hnd' := I.nd
    simp only [grays] at hnd'
    have hpacc : p ∉ acc := by
      intro hp
      have := (List.nodup_append.1 hnd').2.2 p hp p (by simp)
      exact this rfl
    have hperm : ((p :: acc) ++ grays rest).Perm (acc ++ p :: grays rest) := by
      simp only [List.cons_append]
      exact List.perm_middle.symm
    apply reachLoop_complete fuel rest seen (p :: acc)
    · refine ⟨fun w hw => I.items w (by simp [hw]), (List.pairwise_cons.1 I.ranks).2, ?_,
        hperm.nodup_iff.2 hnd', ?_, ?_, ⟨hslots, I.topo⟩, ?_⟩
      · intro x
        rw [I.seen_iff x]
        simp only [grays]
        exact (hperm.mem_iff).symm
      · intro x hx
        exact I.sub x (by simp only [grays]; exact hperm.mem_iff.1 hx)
      · intro above p' below e q hq
        rcases I.oblig (.finish p :: above) p' below (by rw [e]; rfl) q hq with h | h | h | h
        · exact Or.inl h
        · exact Or.inr (Or.inl (List.mem_cons_of_mem _ h))
        · rcases List.mem_cons.1 h with h | h
          · cases h
          · exact Or.inr (Or.inr (Or.inl h))
        · rcases List.mem_cons.1 h with h | h
          · injection h with h
            exact Or.inr (Or.inl (by rw [h]; simp))
          · exact Or.inr (Or.inr (Or.inr h))
      · intro r hr
        rcases I.roots r hr with h | h | h | h
        · exact Or.inl h
        · exact Or.inr (Or.inl (List.mem_cons_of_mem _ h))
        · rcases List.mem_cons.1 h with h | h
          · injection h with h
            exact Or.inr (Or.inl (by rw [h]; simp))
          · exact Or.inr (Or.inr (Or.inl h))
        · rcases List.mem_cons.1 h with h | h
          · cases h
          · exact Or.inr (Or.inr (Or.inr h))
    · unfold measure at hm ⊢
      simp only [grays, List.length_cons] at hm ⊢
      omega
  | fuel + 1, .visit q :: rest, seen, acc, I, hm => by
    simp only [reachLoop]
    -- dropping the visit item keeps the invariant whenever `q` is null or finished
    have drop : (q = 0 ∨ q ∈ acc) →
        DfsInv (m := m) (live := live) (ord := ord) R0 rest seen acc := by
      intro hq
      refine ⟨fun w hw => I.items w (by simp [hw]), (List.pairwise_cons.1 I.ranks).2, ?_, ?_, ?_, ?_,
        I.topo, ?_⟩
      · intro x; rw [I.seen_iff x]; simp only [grays]
      · have := I.nd; simpa only [grays] using this
      · intro x hx; exact I.sub x (by simpa only [grays] using hx)
      · intro above p' below e s hs
        rcases I.oblig (.visit q :: above) p' below (by rw [e]; rfl) s hs with h | h | h | h
        · exact Or.inl h
        · exact Or.inr (Or.inl h)
        · rcases List.mem_cons.1 h with h | h
          · injection h with h
            subst h
            rcases hq with h0 | hacc
            · exact Or.inl h0
            · exact Or.inr (Or.inl hacc)
          · exact Or.inr (Or.inr (Or.inl h))
        · rcases List.mem_cons.1 h with h | h
          · cases h
          · exact Or.inr (Or.inr (Or.inr h))
      · intro r hr
        rcases I.roots r hr with h | h | h | h
        · exact Or.inl h
        · exact Or.inr (Or.inl h)
        · rcases List.mem_cons.1 h with h | h
          · cases h
          · exact Or.inr (Or.inr (Or.inl h))
        · rcases List.mem_cons.1 h with h | h
          · injection h with h
            subst h
            rcases hq with h0 | hacc
            · exact Or.inl h0
            · exact Or.inr (Or.inl hacc)
          · exact Or.inr (Or.inr (Or.inr h))
    have hmdrop : measure live rest acc < fuel := by
      unfold measure at hm ⊢
      simp only [grays, List.length_cons] at hm ⊢
      omega
    by_cases hq0 : q = 0
    · rw [if_pos hq0]
      exact reachLoop_complete fuel rest seen acc (drop (Or.inl hq0)) hmdrop
    · rw [if_neg hq0]
      have hqlive : q ∈ live := by
        rcases I.items (.visit q) (by simp) with h | h
        · exact absurd h hq0
        · exact h
      by_cases hseen : seen.contains q = true
      · rw [if_pos hseen]
        -- `q` is finished: it cannot be gray (ranks)
        have hqacc : q ∈ acc := by
          rcases List.mem_append.1 ((I.seen_iff q).1 hseen) with h | h
          · exact h
          · exfalso
            simp only [grays] at h
            have hfin : Work.finish q ∈ rest := mem_grays.1 h
            have := (List.pairwise_cons.1 I.ranks).1 (.finish q) hfin q rfl
            rcases this with h0 | hlt
            · exact hq0 h0
            · exact Nat.lt_irrefl _ hlt
        exact reachLoop_complete fuel rest seen acc (drop (Or.inr hqacc)) hmdrop
      · rw [if_neg hseen]
        have hb := hblk q hqlive
        have hcond : (!(isBlockB base q) || decide (F ≤ q)) = false := by
          have h1 : isBlockB base q = true := isBlockB_iff.2 hb.1
          have h2 : decide (F ≤ q) = false := by
            rw [decide_eq_false_iff_not]; omega
          rw [h1, h2]; rfl
        rw [hcond]
        simp only [Bool.false_eq_true, if_false]
        have hqnot : q ∉ acc ++ grays rest := by
          intro h
          apply hseen
          rw [I.seen_iff q]
          simpa only [grays] using h
        have hgr : grays ((ptrSlots m q).map Work.visit ++ Work.finish q :: rest) = q :: grays rest := by
          rw [grays_visits]; rfl
        have hndI : (acc ++ grays rest).Nodup := by have := I.nd; simpa only [grays] using this
        have hnd2 : (acc ++ q :: grays rest).Nodup := by
          have hp : (acc ++ q :: grays rest).Perm (q :: (acc ++ grays rest)) := List.perm_middle
          rw [hp.nodup_iff, List.nodup_cons]
          exact ⟨hqnot, hndI⟩
        have hsubI : ∀ x ∈ acc ++ grays rest, x ∈ live := by
          intro x hx; exact I.sub x (by simpa only [grays] using hx)
        apply reachLoop_complete fuel _ (seen.insert q) acc
        · refine ⟨?_, ?_, ?_, by rw [hgr]; exact hnd2, ?_, ?_, I.topo, ?_⟩
          · -- items
            intro w hw
            rcases List.mem_append.1 hw with h | h
            · obtain ⟨s, hs, rfl⟩ := List.mem_map.1 h
              rcases hclosed q hqlive s hs with h0 | hl
              · exact Or.inl h0
              · exact Or.inr hl
            · rcases List.mem_cons.1 h with rfl | h
              · exact Or.inr hqlive
              · exact I.items w (by simp [h])
          · -- ranks
            have hrest := List.pairwise_cons.1 I.ranks
            rw [List.pairwise_append]
            refine ⟨?_, ?_, ?_⟩
            · -- among the visits: nothing to show
              rw [List.pairwise_map]
              exact List.pairwise_of_forall (fun _ _ p' e => by cases e)
            · rw [List.pairwise_cons]
              refine ⟨?_, hrest.2⟩
              intro y hy p' e
              subst e
              rcases hrest.1 (.finish p') hy p' rfl with h0 | hlt
              · exact absurd h0 hq0
              · exact Or.inr hlt
            · intro x hx y hy p' e
              subst e
              obtain ⟨s, hs, rfl⟩ := List.mem_map.1 hx
              by_cases hs0 : s = 0
              · exact Or.inl hs0
              · right
                have hedge := (edge_rank hord hnd htopo hqlive hs hs0).2
                rcases List.mem_cons.1 hy with h | h
                · injection h with h
                  subst h
                  exact hedge
                · rcases hrest.1 (.finish p') h p' rfl with h0 | hlt
                  · exact absurd h0 hq0
                  · exact Nat.lt_trans hlt hedge
          · -- seen
            intro x
            rw [Std.HashSet.contains_insert, hgr]
            simp only [Bool.or_eq_true, beq_iff_eq, List.mem_append, List.mem_cons]
            rw [I.seen_iff x]
            simp only [grays, List.mem_append]
            constructor
            · rintro (h | h | h)
              · exact Or.inr (Or.inl h.symm)
              · exact Or.inl h
              · exact Or.inr (Or.inr h)
            · rintro (h | h | h)
              · exact Or.inr (Or.inl h)
              · exact Or.inl h.symm
              · exact Or.inr (Or.inr h)
          · rw [hgr]
            intro x hx
            rcases List.mem_append.1 hx with h | h
            · exact hsubI x (List.mem_append_left _ h)
            · rcases List.mem_cons.1 h with rfl | h
              · exact hqlive
              · exact hsubI x (List.mem_append_right _ h)
          · -- obligations
            intro above p' below e s hs
            have old : ∀ a'', rest = a'' ++ Work.finish p' :: below →
                s = 0 ∨ s ∈ acc ∨ Work.visit s ∈ (ptrSlots m q).map Work.visit ++ Work.finish q :: a'' ∨
                  Work.finish s ∈ (ptrSlots m q).map Work.visit ++ Work.finish q :: a'' := by
              intro a'' e'
              rcases I.oblig (.visit q :: a'') p' below (by rw [e']; rfl) s hs with h | h | h | h
              · exact Or.inl h
              · exact Or.inr (Or.inl h)
              · rcases List.mem_cons.1 h with h | h
                · injection h with h
                  subst h
                  exact Or.inr (Or.inr (Or.inr (by simp)))
                · exact Or.inr (Or.inr (Or.inl (by simp [h])))
              · rcases List.mem_cons.1 h with h | h
                · cases h
                · exact Or.inr (Or.inr (Or.inr (by simp [h])))
            rcases List.append_eq_append_iff.1 e with ⟨a', ha, hb'⟩ | ⟨c', hc, hd⟩
            · cases a' with
              | nil =>
                simp only [List.nil_append] at hb'
                injection hb' with h1 h2
                injection h1 with h1
                subst h1
                rw [ha]
                exact Or.inr (Or.inr (Or.inl (by simp only [List.append_nil]; exact List.mem_map.2 ⟨s, hs, rfl⟩)))
              | cons x a'' =>
                simp only [List.cons_append] at hb'
                injection hb' with h1 h2
                subst h1
                rw [ha]
                exact old a'' h2
            · cases c' with
              | nil =>
                simp only [List.nil_append] at hd
                injection hd with h1 h2
                injection h1 with h1
                subst h1
                simp only [List.append_nil] at hc
                rw [← hc]
                exact Or.inr (Or.inr (Or.inl (List.mem_map.2 ⟨s, hs, rfl⟩)))
              | cons x c'' =>
                exfalso
                simp only [List.cons_append] at hd
                injection hd with h1 h2
                have hmem : Work.finish p' ∈ (ptrSlots m q).map Work.visit := by
                  rw [hc, ← h1]; simp
                obtain ⟨z, _, hz⟩ := List.mem_map.1 hmem
                cases hz
          · intro r hr
            rcases I.roots r hr with h | h | h | h
            · exact Or.inl h
            · exact Or.inr (Or.inl h)
            · rcases List.mem_cons.1 h with h | h
              · cases h
              · exact Or.inr (Or.inr (Or.inl (by simp [h])))
            · rcases List.mem_cons.1 h with h | h
              · injection h with h
                subst h
                exact Or.inr (Or.inr (Or.inl (by simp)))
              · exact Or.inr (Or.inr (Or.inr (by simp [h])))
        · -- the measure
          have hle : (acc ++ q :: grays rest).length ≤ live.length :=
            nodup_subset_length_le _ _ hnd2 (by
              intro x hx
              rcases List.mem_append.1 hx with h | h
              · exact hsubI x (List.mem_append_left _ h)
              · rcases List.mem_cons.1 h with rfl | h
                · exact hqlive
                · exact hsubI x (List.mem_append_right _ h))
          unfold measure at hm ⊢
          rw [hgr]
          simp only [grays, List.length_cons, List.length_append, List.length_map] at hm hle ⊢
          have h3 : (ptrSlots m q).length = 3 := rfl
          omega

end Dfs

end Scc.Heap
