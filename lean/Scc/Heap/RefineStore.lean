/-
Scc.Heap.RefineStore — `store` for the heap refinement, part 1: what the pieces of `store_fields` write.
* `acquire_keeps_header`: `acquire_block` writes at most the header of the acquired block, the header of
  the head of the lazy free list and the headers of the blocks that head points to (deferred erasure;
  `acquire_spec`), so a live block with count 0 whose reference is known keeps its header.
* `peek_prepend`: the chain read from a new head block whose link points to the head of an (aligned)
  chain is the new block followed by that chain.
* `store_liveness`: in the middle of a `store_fields` everything the refinement talks about is live (the
  old abstract heap, the fields still held by roots, the chain built so far).
* `storeBlock_mem`: `storeBlock_spec` (ProofsStore.lean) with what one block of `store_fields` does to the
  live blocks (words 1..7 kept; the header too when the count is 0 and the reference is known).
Part 2 (the induction and `href_store`) is RefineStoreObj.lean.
-/
import Scc.Heap.RefineLoad

namespace Scc.Heap.Refine

open Scc.Backend.Abs (Heap Obj Word)

/-- the words of field `i` of block `blk` -/
def fieldWords (blk i : Nat) : List Nat := [blk + fstOff i, blk + sndOff i]

def capOf (pos : BlockPosition) : Nat := fieldsPerBlock - pos.toNat

theorem capOf_last : capOf .last = 3 := rfl
theorem capOf_other : capOf .other = 2 := rfl

theorem restLength_aligned {n : Nat} {pos : BlockPosition} {j : Nat} (h : n = capOf pos + 2 * j) :
    restLength n pos = 2 * j := by
  unfold restLength
  unfold capOf at h
  split <;> omega

/-- THE PREPEND LEMMA: the chain read from a new head block `newp` holding the (at most two) fields `kg`
whose link points to an aligned chain is the new block followed by that chain -/
theorem peek_prepend (m : Nat → Nat) : ∀ (n : Nat) (ks : List Bool) (pos : BlockPosition),
    ks.length ≤ n → (∃ j, ks.length = capOf pos + 2 * j) →
    ∀ (kg : List Bool) (newp : Nat), kg ≠ [] → kg.length ≤ 2 →
    peek m (kg ++ ks) pos newp =
      (fieldsAt m newp (2 - kg.length) kg ++ (peek m ks pos (m (newp + 48))).1,
       (peek m ks pos (m (newp + 48))).2.1,
       (newp, kg, posOther) :: (peek m ks pos (m (newp + 48))).2.2) := by
  intro n
  induction n with
  | zero =>
    intro ks pos hn ⟨j, hj⟩
    have : capOf pos ≥ 2 := by cases pos <;> simp [capOf, fieldsPerBlock, BlockPosition.toNat]
    omega
  | succ n ih =>
    intro ks pos hn ⟨j, hj⟩ kg newp hkg hkl
    have hcap : capOf pos = 2 ∨ capOf pos = 3 := by cases pos <;> simp [capOf, fieldsPerBlock, BlockPosition.toNat]
    have hks : ks ≠ [] := by
      intro e; rw [e] at hj; simp at hj; omega
    have hne : kg ++ ks ≠ [] := by simp [hks]
    have hkgpos : 0 < kg.length := List.length_pos_iff.mpr hkg
    have hrl : restLength (kg ++ ks).length pos = kg.length + 2 * j := by
      unfold restLength
      rw [List.length_append]
      unfold capOf at hj hcap
      split <;> omega
    have hrl2 : restLength ks.length pos = 2 * j := restLength_aligned hj
    have htake : (kg ++ ks).take (restLength (kg ++ ks).length pos) = kg ++ ks.take (2 * j) := by
      rw [hrl, List.take_length_add_append]
    have hdrop : (kg ++ ks).drop (restLength (kg ++ ks).length pos) = ks.drop (2 * j) := by
      rw [hrl, List.drop_length_add_append]
    rw [peek_cons m hne, htake, hdrop, peek_cons m hks, hrl2]
    by_cases hj0 : j = 0
    · subst hj0
      simp only [Nat.mul_zero, List.take_zero, List.append_nil, List.drop_zero, peek_nil]
      have hrl' : restLength kg.length posOther = 0 := by
        unfold restLength
        have : fieldsPerBlock - posOther.toNat = 2 := rfl
        rw [this, if_pos hkl]
      rw [peek_cons m hkg, hrl']
      simp only [List.take_zero, List.drop_zero, peek_nil, List.nil_append, if_true]
      have h48 : fstOff (fieldsPerBlock - 1) = 48 := by simp [fstOff, fieldOffset, fieldsPerBlock]
      have h2 : fieldsPerBlock - posOther.toNat = 2 := rfl
      rw [h48, h2]
      rfl
    · -- the inner chain is aligned at position `other`
      have hlen' : (ks.take (2 * j)).length = capOf .other + 2 * (j - 1) := by
        rw [List.length_take, capOf_other]
        omega
      have hshort : (ks.take (2 * j)).length ≤ n := by
        rw [List.length_take]
        unfold capOf at hj hcap
        omega
      rw [ih (ks.take (2 * j)) .other hshort ⟨j - 1, hlen'⟩ kg newp hkg hkl]
      simp only [List.append_assoc, List.cons_append]

/-- a live block with count 0 whose one reference is known is referenced by nothing else -/
theorem not_slot_of_other {m : Nat → Nat} {base limit heap free F : Nat}
    {roots pend lin lazy live : List Nat} (I : InvW m base limit heap free roots pend lin lazy live F)
    {b D : Nat} (hb : b ∈ live) (hz : m b = 0) (hD : D ∈ live ++ lazy)
    (href : b ∈ roots ∨ ∃ q ∈ live ++ lazy, q ≠ D ∧ b ∈ ptrSlots m q) : b ∉ ptrSlots m D := by
  intro hbD
  have hc := I.counts b hb
  rw [hz] at hc
  have hnd : (live ++ lazy).Nodup := by
    have := I.nodup
    rw [nodup4_iff] at this
    rw [List.nodup_append]
    exact ⟨this.2.2.1, this.2.1, fun x hx y hy e => (this.2.2.2.2.2.1 y hy).1 (e ▸ hx)⟩
  rcases href with hr | ⟨q, hq, hne, hbq⟩
  · have h1 : 0 < roots.count b := List.count_pos_iff.mpr hr
    have h2 : 0 < (ptrFields m (live ++ lazy)).count b :=
      List.count_pos_iff.mpr (ptrSlots_sub_ptrFields hD b hbD)
    omega
  · have h2 := count_ptrFields_le (m := m) (l := [q, D]) (big := live ++ lazy)
      (by simp [hne]) (by
        intro x hx
        simp only [List.mem_cons, List.not_mem_nil, or_false] at hx
        rcases hx with rfl | rfl
        · exact hq
        · exact hD) b
    simp only [ptrFields_cons, ptrFields_nil, List.append_nil, List.count_append] at h2
    have h3 : 0 < (ptrSlots m q).count b := List.count_pos_iff.mpr hbq
    have h4 : 0 < (ptrSlots m D).count b := List.count_pos_iff.mpr hbD
    omega

/-- `acquire_block` leaves the header of a live block with count 0 alone when its single reference
is a root or a slot of a live block -/
theorem acquire_keeps_header {s s' : HState} {roots lin lazy live : List Nat} {F : Nat}
    (I : InvS s roots [] lin lazy live F)
    (hfr : HeadersOnly (s.heap :: s.free :: ptrSlots s.mem.get s.free) s s')
    {b : Nat} (hb : b ∈ live) (hz : s.mem.get b = 0)
    (href : b ∈ roots ∨ ∃ q ∈ live, b ∈ ptrSlots s.mem.get q) : s'.mem.get b = s.mem.get b := by
  have hnd := I.nodup
  rw [nodup4_iff] at hnd
  have hb0 : b ≠ 0 := I.live_ne_zero hb
  refine hfr.frame ?_
  simp only [List.mem_cons, not_or]
  refine ⟨?_, ?_, ?_⟩
  · -- the acquired block is on the linear free list
    have hc := I.lin_chain
    cases hl : lin with
    | nil => exact absurd hl I.lin_ne
    | cons x xs =>
      rw [hl] at hc
      intro e
      have : s.heap ∈ lin := by rw [hl, hc.1]; simp
      rw [← e] at this
      exact (hnd.2.2.2.2.1 b this).2.1 hb
  · -- the head of the lazy list is deferred or the frontier
    have hc := I.lazy_chain
    cases hl : lazy with
    | nil =>
      rw [hl] at hc
      simp only [List.nil_append, Chain] at hc
      intro e
      have := (I.live_block hb).2
      rw [e, hc.1] at this
      omega
    | cons D lz =>
      rw [hl] at hc
      simp only [List.cons_append, Chain] at hc
      intro e
      have : s.free ∈ lazy := by rw [hl, hc.1]; simp
      rw [← e] at this
      exact (hnd.2.2.2.2.2.1 b this).1 hb
  · have hc := I.lazy_chain
    cases hl : lazy with
    | nil =>
      rw [hl] at hc
      simp only [List.nil_append, Chain] at hc
      have hF := I.frontier_block
      have hroom := I.frontier_room
      have hfree : s.free = F := hc.1
      intro hm
      rw [hfree] at hm
      simp only [ptrSlots, List.mem_cons, List.not_mem_nil, or_false] at hm
      have z : ∀ k, k = 16 ∨ k = 32 ∨ k = 48 → s.mem.get (F + k) = 0 := by
        intro k hk
        apply I.zero_above
        · omega
        · rcases hk with rfl | rfl | rfl <;> omega
        · unfold IsBlock at hF
          rcases hk with rfl | rfl | rfl <;> omega
      rcases hm with hm | hm | hm
      · rw [z 16 (Or.inl rfl)] at hm; exact hb0 hm
      · rw [z 32 (Or.inr (Or.inl rfl))] at hm; exact hb0 hm
      · rw [z 48 (Or.inr (Or.inr rfl))] at hm; exact hb0 hm
    | cons D lz =>
      rw [hl] at hc
      simp only [List.cons_append, Chain] at hc
      have hDl : s.free ∈ lazy := by rw [hl, hc.1]; simp
      refine not_slot_of_other I hb hz (List.mem_append.2 (Or.inr hDl)) ?_
      rcases href with hr | ⟨q, hq, hbq⟩
      · exact Or.inl hr
      · refine Or.inr ⟨q, List.mem_append.2 (Or.inl hq), ?_, hbq⟩
        intro e
        rw [e] at hq
        exact (hnd.2.2.2.2.2.1 _ hDl).1 hq

open Scc.Backend.Sim (HeapOK)
open Scc.Backend.Sim2 (refCount_eq)

/-- the non-null references among the pointer fields -/
def childrenOf (fs : List AField) : List Nat :=
  fs.filterMap fun f => if f.chi != Scc.AxCut.Chi.ext && f.ptr != 0 then some f.ptr.toNat else none

theorem childrenOf_append (a b : List AField) : childrenOf (a ++ b) = childrenOf a ++ childrenOf b := by
  simp [childrenOf, List.filterMap_append]

theorem children_eq (o : Obj) : o.children = childrenOf o.fields := rfl

/-- along a chain: if the head is live, so is every block (arbitrary roots) -/
theorem linked_live_gen {m : Nat → Nat} {base limit heap free F : Nat} {roots pend lin lazy live : List Nat}
    (I : InvW m base limit heap free roots pend lin lazy live F) :
    ∀ (l : List Nat) (a : Nat), Linked m a l → (l ≠ [] → a ∈ live) →
      (∀ b ∈ l.dropLast, m (b + 48) ≠ 0) → ∀ b ∈ l, b ∈ live := by
  intro l
  induction l with
  | nil => intro a _ _ _ b hb; simp at hb
  | cons x rest ih =>
    intro a hl ha hnz b hb
    obtain ⟨rfl, hl2⟩ := hl
    have hx : x ∈ live := ha (by simp)
    simp only [List.mem_cons] at hb
    rcases hb with rfl | hb
    · exact hx
    · cases rest with
      | nil => simp at hb
      | cons y rest' =>
        have hlink : m (x + 48) ∈ ptrSlots m x := by simp [ptrSlots]
        have hnz' : m (x + 48) ≠ 0 := hnz x (by simp [List.dropLast])
        have hylive : m (x + 48) ∈ live := by
          rcases I.fields_live _ (ptrSlots_sub_ptrFields (List.mem_append.2 (Or.inl hx)) _ hlink) with h0 | hl
          · exact absurd h0 hnz'
          · exact hl
        refine ih (m (x + 48)) hl2 (fun _ => hylive) ?_ b hb
        intro c hc
        exact hnz c (by
          simp only [List.dropLast_cons_cons, List.mem_cons]
          exact Or.inr hc)

theorem objAt_live {m : Nat → Nat} {base limit heap free F : Nat} {roots pend lin lazy live : List Nat}
    (I : InvW m base limit heap free roots pend lin lazy live F) {ι : Nat → Nat} {p : Nat} {fs : List AField}
    (O : ObjAt m ι p fs) (hp : p ∈ live) : ∀ b ∈ blocksOf m p fs, b ∈ live :=
  linked_live_gen I _ _ (peek_chain m _ (fs.map kindB) .last p (Nat.le_refl _)).1 (fun _ => hp)
    (chain_links_ne O)

section Live

variable {h : Heap} {rsKeep : List Nat} {next : Nat} {ι : Nat → Nat}

/-- liveness of everything the refinement talks about, in the middle of a `store_fields`: the old
abstract heap `h` (roots: `rsKeep` and the children of the fields `todo ++ done`), the fields `todo`
still held by roots, the fields `done` already stored in the chain at `prev` -/
theorem store_liveness {s : HState} {roots lin lazy live : List Nat} {F : Nat}
    {todo done : List AField} {prev : Nat}
    (A : HeapOK h (rsKeep ++ childrenOf (todo ++ done)) next)
    (hord : ∀ e ∈ h, ∀ c ∈ e.2.children, c < e.1)
    (I : InvS s roots [] lin lazy live F)
    (hroots : ∀ x, x ≠ 0 → roots.count x = (ptrsOf (todo.map (fieldImg ι))).count x +
      (if done = [] then 0 else [prev].count x) + (rsKeep.map ι).count x)
    (hold : ∀ e ∈ h, ObjAt s.mem.get ι (ι e.1) e.2.fields)
    (hdone : done ≠ [] → ObjAt s.mem.get ι prev done) :
    (done ≠ [] → ∀ b ∈ blocksOf s.mem.get prev done, b ∈ live) ∧
    (∀ e ∈ h, ∀ b ∈ blocksOf s.mem.get (ι e.1) e.2.fields, b ∈ live) := by
  have root_live : ∀ x, x ≠ 0 → 0 < roots.count x → x ∈ live := by
    intro x hx hc
    rcases I.roots_live x (List.count_pos_iff.mp hc) with h0 | hl
    · exact absurd h0 hx
    · exact hl
  have hdl : done ≠ [] → ∀ b ∈ blocksOf s.mem.get prev done, b ∈ live := by
    intro hd
    have O := hdone hd
    apply objAt_live I O
    apply root_live prev O.pos
    rw [hroots prev O.pos, if_neg hd]
    simp only [List.count_singleton_self]
    omega
  refine ⟨hdl, ?_⟩
  intro e he
  refine chains_live_supp I A hord hold ?_ _ e he (Nat.le_refl _)
  intro r hr
  have hrl : (h.get r).isSome := by
    apply A.live
    have : 0 < (rsKeep ++ childrenOf (todo ++ done)).count r := List.count_pos_iff.mpr hr
    rw [refCount_eq]; omega
  obtain ⟨o, ho⟩ := Scc.Backend.Sim.heap_get_isSome_mem hrl
  have hpos : ι r ≠ 0 := (hold (r, o) ho).pos
  rw [childrenOf_append] at hr
  simp only [List.mem_append] at hr
  rcases hr with hr | hr | hr
  · apply root_live _ hpos
    rw [hroots _ hpos]
    have : 0 < (rsKeep.map ι).count (ι r) := List.count_pos_iff.mpr (List.mem_map.2 ⟨r, hr, rfl⟩)
    omega
  · apply root_live _ hpos
    rw [hroots _ hpos]
    have : 0 < (ptrsOf (todo.map (fieldImg ι))).count (ι r) :=
      List.count_pos_iff.mpr (child_mem_ptrsOf ι _ _ hr)
    omega
  · have hd : done ≠ [] := by
      intro e; rw [e] at hr; simp [childrenOf] at hr
    have O := hdone hd
    have hmem : ι r ∈ ptrsOf (done.map (fieldImg ι)) := child_mem_ptrsOf ι _ _ hr
    rw [← O.vals] at hmem
    have hslot := ptrsOf_peek_sub s.mem.get _ _ .last prev (Nat.le_refl _) _ hmem
    obtain ⟨b', hb', hx⟩ := mem_ptrFields.1 hslot
    have hb'l : b' ∈ live := hdl hd b' hb'
    rcases I.fields_live _ (ptrSlots_sub_ptrFields (List.mem_append.2 (Or.inl hb'l)) _ hx) with h0 | hl
    · exact absurd h0 hpos
    · exact hl

end Live

theorem isPtrF_fieldImg (ι : Nat → Nat) (f : AField) : isPtrF (fieldImg ι f) = kindB f := by
  unfold fieldImg
  by_cases h : kindB f = true
  · simp [h, isPtrF]
  · simp [h, isPtrF]

theorem map_isPtrF_fieldImg (ι : Nat → Nat) (fs : List AField) :
    (fs.map (fieldImg ι)).map isPtrF = fs.map kindB := by
  rw [List.map_map]
  apply List.map_congr_left
  intro f _
  exact isPtrF_fieldImg ι f

/-- `storeBlock_spec` (ProofsStore.lean) with what it means for the live blocks: they keep their
words 1..7, and those with count 0 referenced by a root or by a live block keep their header -/
theorem storeBlock_mem {s : HState} {F : Nat} {roots lin lazy live : List Nat}
    (h : InvS s roots [] lin lazy live F) (vals : List Field) (pos : BlockPosition) (prev : Nat)
    (rest' : List Nat) (hlen : vals.length ≤ capOf pos)
    (hroots : ∀ x, x ≠ 0 → roots.count x =
      (ptrsOf vals).count x + (if pos = .other then [prev].count x else 0) + rest'.count x)
    (hroom : F + 128 ≤ s.limit) :
    ∃ s1 s2 s3 lin' lazy' live' F',
      (if pos = posOther then wr s (s.heap + fstOff (fieldsPerBlock - 1)) prev else .ok s) = .ok s1 ∧
      storeValues s1 vals s1.heap (fieldsPerBlock - pos.toNat) = .ok s2 ∧
      acquire s2 = .ok (s3, s.heap) ∧ SameHeap s s3 ∧
      InvS s3 (s.heap :: rest') [] lin' lazy' live' F' ∧ F' ≤ F + 64 ∧
      s.heap ∈ lin ∧
      (∀ b, b ∈ live → ∀ k, 0 < k → k < 64 → s3.mem.get (b + k) = s.mem.get (b + k)) ∧
      (∀ b, b ∈ live → s.mem.get b = 0 → (b ∈ roots ∨ ∃ q ∈ live, b ∈ ptrSlots s.mem.get q) →
        s3.mem.get b = 0) ∧
      fieldsAt s3.mem.get s.heap (capOf pos - vals.length) (vals.map isPtrF) = vals ∧
      (∀ i, i < capOf pos → slotLoaded (vals.map isPtrF) (capOf pos) i = false →
        s3.mem.get (s.heap + fstOff i) = 0) ∧
      (pos = .other → s3.mem.get (s.heap + 48) = prev) ∧
      s3.mem.get s.heap = 0 := by
  obtain ⟨s1, s2, s3, lin', lazy', live', F', hs1, hs2, hacq, hsame, hi3, hbump, hbl, hsame2, hfr, hi2,
    hho, hrd, hun, hlink, hN0⟩ := storeBlock_spec h vals pos prev rest' hlen hroots hroom
  have hbb := h.lin_block hbl
  have hnd := h.nodup
  rw [nodup4_iff] at hnd
  have hw2 : ∀ b, b ∈ live → ∀ k, k < 64 → s2.mem.get (b + k) = s.mem.get (b + k) := by
    intro b hb k hk
    have hne : b ≠ s.heap := fun e => (hnd.2.2.2.2.1 _ hbl).2.1 (e ▸ hb)
    have hbB := (h.live_block hb).1
    apply hfr
    have := hbb.1
    unfold IsBlock at *
    omega
  refine ⟨s1, s2, s3, lin', lazy', live', F', hs1, hs2, hacq, hsame, hi3, ?_, hbl, ?_, ?_, hrd, hun,
    hlink, hN0⟩
  · rcases hbump with ⟨h1, _⟩ | ⟨h1, _⟩ <;> omega
  · intro b hb k hk hk'
    rw [hho.nonblock (by rw [hsame2.base]; exact not_isBlock_add (h.live_block hb).1 hk hk')]
    exact hw2 b hb k hk'
  · intro b hb hz href
    have hz2 : s2.mem.get b = 0 := by
      have := hw2 b hb 0 (by omega)
      rw [Nat.add_zero] at this
      rw [this]; exact hz
    rw [acquire_keeps_header hi2 hho hb hz2 ?_]
    · exact hz2
    · rcases href with hr | ⟨q, hq, hbq⟩
      · exact Or.inl hr
      · refine Or.inr ⟨q, hq, ?_⟩
        simp only [ptrSlots] at hbq ⊢
        rw [hw2 q hq 16 (by omega), hw2 q hq 32 (by omega), hw2 q hq 48 (by omega)]
        exact hbq

end Scc.Heap.Refine
