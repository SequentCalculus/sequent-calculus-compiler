/-
Scc.Heap.RefineLoad — `load` for the heap refinement.  The C09 specifications of `load_fields` /
`load` (ProofsLoad.lean, ProofsHist.lean) hide WHAT is loaded and WHICH words are written; here they are
re-derived in a form that exposes both: the values are those the pure reader `peek` finds in the memory
before the load, in release mode only the headers of the visited blocks are written, in share mode only
the headers of the loaded pointers.  The shape precondition is `ChainOK` (every visited block satisfies
`BlockPre`, continuation blocks have count 0, no block is visited twice) — what `ObjAt` says.
-/
import Scc.Heap.RefineOps
import Scc.Backend.ProofsLoad

set_option linter.unusedSimpArgs false

namespace Scc.Heap.Refine

open Scc.Backend.Abs (Heap Obj Word)
open Scc.Backend.Sim2 Scc.Backend.Sim

/-- the (partial) chain that `peek` reads is well shaped -/
structure ChainOK (m : Nat → Nat) (kinds : List Bool) (pos : BlockPosition) (p : Nat) : Prop where
  pre : ∀ v ∈ (peek m kinds pos p).2.2, BlockPre m v.1 v.2.1 v.2.2
  hdr : ∀ b ∈ ((peek m kinds pos p).2.2.map (·.1)).tail, m b = 0
  nodup : ((peek m kinds pos p).2.2.map (·.1)).Nodup

theorem ObjAt.chainOK {m : Nat → Nat} {ι : Nat → Nat} {p : Nat} {fs : List AField} (O : ObjAt m ι p fs) :
    ChainOK m (fs.map kindB) .last p := ⟨O.pre, O.hdr, O.nodup⟩

theorem visited_cons (m : Nat → Nat) {kinds : List Bool} (hk : kinds ≠ []) (pos : BlockPosition) (p : Nat) :
    (peek m kinds pos p).2.2.map (·.1) =
      (peek m (kinds.take (restLength kinds.length pos)) posOther p).2.2.map (·.1) ++
        [(peek m (kinds.take (restLength kinds.length pos)) posOther p).2.1] := by
  rw [peek_cons m hk pos p]
  simp

theorem chain_cons (m : Nat → Nat) {kinds : List Bool} (hk : kinds ≠ []) (pos : BlockPosition) (p : Nat) :
    (peek m kinds pos p).2.2 =
      (peek m (kinds.take (restLength kinds.length pos)) posOther p).2.2 ++
        [((peek m (kinds.take (restLength kinds.length pos)) posOther p).2.1,
          kinds.drop (restLength kinds.length pos), pos)] := by
  rw [peek_cons m hk pos p]

theorem ChainOK.prefix {m : Nat → Nat} {kinds : List Bool} {pos : BlockPosition} {p : Nat}
    (C : ChainOK m kinds pos p) (hk : kinds ≠ []) :
    ChainOK m (kinds.take (restLength kinds.length pos)) posOther p := by
  have e2 := chain_cons m hk pos p
  have e3 := visited_cons m hk pos p
  refine ⟨?_, ?_, ?_⟩
  · intro v hv
    exact C.pre v (by rw [e2]; exact List.mem_append.2 (Or.inl hv))
  · intro b hb
    apply C.hdr b
    rw [e3]
    by_cases hn : (peek m (kinds.take (restLength kinds.length pos)) posOther p).2.2.map (·.1) = []
    · rw [hn] at hb; simp at hb
    · rw [List.tail_append_of_ne_nil hn]
      exact List.mem_append.2 (Or.inl hb)
  · have := C.nodup
    rw [e3] at this
    exact (List.nodup_append.mp this).1

theorem ChainOK.last {m : Nat → Nat} {kinds : List Bool} {pos : BlockPosition} {p : Nat}
    (C : ChainOK m kinds pos p) (hk : kinds ≠ []) :
    BlockPre m (peek m (kinds.take (restLength kinds.length pos)) posOther p).2.1
      (kinds.drop (restLength kinds.length pos)) pos ∧
    (peek m (kinds.take (restLength kinds.length pos)) posOther p).2.1 ∉
      (peek m (kinds.take (restLength kinds.length pos)) posOther p).2.2.map (·.1) ∧
    (kinds.take (restLength kinds.length pos) ≠ [] →
      m (peek m (kinds.take (restLength kinds.length pos)) posOther p).2.1 = 0) := by
  have e2 := chain_cons m hk pos p
  have e3 := visited_cons m hk pos p
  refine ⟨?_, ?_, ?_⟩
  · exact C.pre ((peek m (kinds.take (restLength kinds.length pos)) posOther p).2.1,
      kinds.drop (restLength kinds.length pos), pos) (by rw [e2]; simp)
  · have := C.nodup
    rw [e3, List.nodup_append] at this
    intro hm
    exact this.2.2 _ hm _ (by simp) rfl
  · intro hne
    apply C.hdr
    rw [e3]
    have hn : (peek m (kinds.take (restLength kinds.length pos)) posOther p).2.2.map (·.1) ≠ [] := by
      intro h0
      have h0' : (peek m (kinds.take (restLength kinds.length pos)) posOther p).2.2 = [] := by
        simpa using h0
      have := (peek_chain m _ (kinds.take (restLength kinds.length pos)) posOther p (Nat.le_refl _)).2.2.2.mp h0'
      exact hne this
    rw [List.tail_append_of_ne_nil hn]
    simp

theorem blockPre_congr {m m' : Nat → Nat} {blk : Nat} {ks : List Bool} {pos : BlockPosition}
    (h : ∀ k, 0 < k → k < 64 → m' (blk + k) = m (blk + k)) (B : BlockPre m blk ks pos) :
    BlockPre m' blk ks pos := by
  refine ⟨?_, ?_⟩
  · intro i hi hs
    rw [h (fstOff i) (by simp [fstOff, fieldOffset]; omega)
      (by simp [fstOff, fieldOffset]; unfold fieldsPerBlock at hi; omega)]
    exact B.unloaded i hi hs
  · intro hp
    rw [h (fstOff (fieldsPerBlock - 1)) (by simp [fstOff, fieldOffset, fieldsPerBlock])
      (by simp [fstOff, fieldOffset, fieldsPerBlock])]
    exact B.link hp

/-- `load_fields` in release mode, with the values and the frame exposed -/
theorem loadFields_release_full : ∀ (n : Nat) {s : HState} {F p : Nat}
    {roots lin lazy live : List Nat} (kinds : List Bool) (pos : BlockPosition),
    kinds.length ≤ n → InvS s (p :: roots) [] lin lazy live F → p ≠ 0 → s.mem.get p = 0 →
    ChainOK s.mem.get kinds pos p → (kinds = [] → pos = .other) →
    ∃ s' lin' live',
      loadFields s kinds pos .release p =
        .ok (s', (peek s.mem.get kinds pos p).1, (peek s.mem.get kinds pos p).2.1) ∧
      SameHeap s s' ∧ s'.free = s.free ∧
      InvS s' ((if pos = .other then [(peek s.mem.get kinds pos p).2.1] else []) ++
        ptrsOf (peek s.mem.get kinds pos p).1 ++ roots) [] lin' lazy live' F ∧
      (pos = .other → (peek s.mem.get kinds pos p).2.1 ≠ 0) ∧
      (∀ a, a ∉ (peek s.mem.get kinds pos p).2.2.map (·.1) → s'.mem.get a = s.mem.get a) ∧
      (∀ b ∈ (peek s.mem.get kinds pos p).2.2.map (·.1), IsBlock s.base b) := by
  intro n
  induction n with
  | zero =>
    intro s F p roots lin lazy live kinds pos hn h hp hz _ hnil
    have hk : kinds = [] := List.length_eq_zero_iff.mp (by omega)
    subst hk
    have hpos := hnil rfl
    subst hpos
    rw [peek_nil]
    exact ⟨s, lin, live, heap_loadFields_nil _ _ _ _, SameHeap.refl s, rfl,
      by simpa [ptrsOf] using h, fun _ => hp, fun _ _ => rfl, by simp⟩
  | succ n ih =>
    intro s F p roots lin lazy live kinds pos hn h hp hz C hnil
    by_cases hk : kinds = []
    · subst hk
      have hpos := hnil rfl
      subst hpos
      rw [peek_nil]
      exact ⟨s, lin, live, heap_loadFields_nil _ _ _ _, SameHeap.refl s, rfl,
        by simpa [ptrsOf] using h, fun _ => hp, fun _ _ => rfl, by simp⟩
    · have hlpos : 0 < kinds.length := List.length_pos_iff.mpr hk
      have hrl := restLength_lt kinds.length pos hlpos
      obtain ⟨s1, lin1, live1, hl1, hsame1, hfree1, hi1, hnz1, hfr1, hblk1⟩ :=
        ih (kinds.take (restLength kinds.length pos)) .other
          (by rw [List.length_take]; omega) h hp hz (C.prefix hk) (fun _ => rfl)
      obtain ⟨hbpre0, hnotin, hhdr⟩ := C.last hk
      generalize hblkdef : (peek s.mem.get (kinds.take (restLength kinds.length pos)) posOther p).2.1 = blk
        at hl1 hi1 hnz1 hbpre0 hnotin hhdr
      generalize hv1def : (peek s.mem.get (kinds.take (restLength kinds.length pos)) posOther p).1 = vals1
        at hl1 hi1
      generalize hvisdef : (peek s.mem.get (kinds.take (restLength kinds.length pos)) posOther p).2.2.map (·.1)
        = vis1 at hfr1 hblk1 hnotin
      simp only [if_true, List.cons_append, List.nil_append] at hi1
      have hblk0 : blk ≠ 0 := hnz1 rfl
      have hbl1 : blk ∈ live1 := by
        rcases hi1.roots_live blk (by simp) with h0 | hl
        · exact absurd h0 hblk0
        · exact hl
      have hbb := hi1.live_block hbl1
      have hbbS : IsBlock s.base blk := by rw [← hsame1.base]; exact hbb.1
      have hz1 : s1.mem.get blk = 0 := by
        rw [hfr1 blk hnotin]
        by_cases ht : kinds.take (restLength kinds.length pos) = []
        · rw [ht, peek_nil] at hblkdef
          rw [← hblkdef]; exact hz
        · exact hhdr ht
      have hwords1 : ∀ k, 0 < k → k < 64 → s1.mem.get (blk + k) = s.mem.get (blk + k) := by
        intro k h0 hk'
        apply hfr1
        intro hm
        exact inside_ne_block hbbS (hblk1 _ hm) h0 hk' rfl
      have hbpre : BlockPre s1.mem.get blk (kinds.drop (restLength kinds.length pos)) pos :=
        blockPre_congr hwords1 hbpre0
      have hlen : (kinds.drop (restLength kinds.length pos)).length ≤ fieldsPerBlock - pos.toNat := by
        rw [List.length_drop]; exact length_drop_restLength _ _
      obtain ⟨s2, link, vals2, lin2, live2, hrel, hlink, hlv, hsame2, hfree2, hi2, hnz2⟩ :=
        loadBlock_release (ks := kinds.drop (restLength kinds.length pos)) (pos := pos) hi1
          hblk0 hz1 hbpre hlen
      have hs2 : s2 = { s1 with mem := s1.mem.set blk s1.heap, heap := blk } := by
        unfold releaseBlock at hrel
        cases hw : wr s1 blk s1.heap with
        | error e => rw [hw] at hrel; cases hrel
        | ok sx =>
          rw [hw] at hrel
          injection hrel with hrel
          rw [← hrel, (wr_eq_ok.1 hw).2]
      have hwords2 : ∀ k, 0 < k → k < 64 → s2.mem.get (blk + k) = s.mem.get (blk + k) := by
        intro k h0 hk'
        rw [hs2]
        show (s1.mem.set blk s1.heap).get _ = _
        rw [Mem.get_set, if_neg (by omega)]
        exact hwords1 k h0 hk'
      have hlinkv : link = if pos = posOther then s.mem.get (blk + fstOff (fieldsPerBlock - 1)) else 0 := by
        by_cases hpo : pos = posOther
        · rw [if_pos hpo] at hlink ⊢
          rw [(rd_eq_ok.1 hlink).2]
          exact hwords2 _ (by simp [fstOff, fieldOffset, fieldsPerBlock])
            (by simp [fstOff, fieldOffset, fieldsPerBlock])
        · rw [if_neg hpo] at hlink ⊢
          injection hlink with hlink; exact hlink.symm
      have hcap3 : fieldsPerBlock - pos.toNat ≤ 3 := by simp [fieldsPerBlock]
      have hbb2 : IsBlock s2.base blk := by rw [hsame2.base]; exact hbb.1
      have hvals2 : vals2 = fieldsAt s.mem.get blk
          (fieldsPerBlock - pos.toNat - (kinds.drop (restLength kinds.length pos)).length)
          (kinds.drop (restLength kinds.length pos)) := by
        obtain ⟨s3, hlv', _⟩ := loadValuesRev_spec (blk := blk) .release
          (kinds.drop (restLength kinds.length pos)).reverse (fieldsPerBlock - pos.toNat) [] s2 _
          (by rw [List.length_reverse]; exact hlen) hcap3 hi2 hbb2 hbb.2 (by simp)
        unfold loadValues at hlv
        rw [hlv'] at hlv
        injection hlv with hlv
        injection hlv with _ hlv
        rw [← hlv, List.reverse_reverse, List.length_reverse, List.append_nil]
        exact fieldsAt_congr hwords2 _ _ (by omega)
      rw [peek_cons s.mem.get hk]
      rw [hblkdef, hv1def, ← hvals2, ← hlinkv]
      refine ⟨s2, lin2, live2, loadFields_cons hk pos .release p hl1 hrel hlink hlv,
        hsame1.trans hsame2, by rw [hfree2, hfree1], ?_, hnz2, ?_, ?_⟩
      · refine InvW.roots_congr hi2 (fun x _ => ?_)
        simp only [ptrsOf_append, List.count_append, List.count_nil]
        omega
      · intro a ha
        simp only [List.map_append, List.map_cons, List.map_nil, List.mem_append, List.mem_singleton,
          not_or] at ha
        rw [hvisdef] at ha
        rw [hs2]
        show (s1.mem.set blk s1.heap).get a = _
        rw [Mem.get_set, if_neg (fun e => ha.2 e.symm)]
        exact hfr1 a ha.1
      · intro b hb
        simp only [List.map_append, List.map_cons, List.map_nil, List.mem_append, List.mem_singleton] at hb
        rw [hvisdef] at hb
        rcases hb with hb | rfl
        · exact hblk1 b hb
        · exact hbbS

/-- `load_fields` in share mode, with the values and the frame exposed -/
theorem loadFields_share_full : ∀ (n : Nat) {s : HState} {F p : Nat}
    {roots lin lazy live : List Nat} (kinds : List Bool) (pos : BlockPosition),
    kinds.length ≤ n → InvS s roots [] lin lazy live F → p ∈ live →
    ChainOK s.mem.get kinds pos p →
    ∃ s', loadFields s kinds pos .share p =
        .ok (s', (peek s.mem.get kinds pos p).1, (peek s.mem.get kinds pos p).2.1) ∧
      SameHeap s s' ∧ s'.heap = s.heap ∧ s'.free = s.free ∧
      HeadersOnly (ptrsOf (peek s.mem.get kinds pos p).1) s s' ∧
      InvS s' (ptrsOf (peek s.mem.get kinds pos p).1 ++ roots) [] lin lazy live F ∧
      (pos = .other → (peek s.mem.get kinds pos p).2.1 ∈ live) := by
  intro n
  induction n with
  | zero =>
    intro s F p roots lin lazy live kinds pos hn h hp _
    have hk : kinds = [] := List.length_eq_zero_iff.mp (by omega)
    subst hk
    rw [peek_nil]
    exact ⟨s, heap_loadFields_nil _ _ _ _, SameHeap.refl s, rfl, rfl, fun _ _ => rfl,
      by simpa [ptrsOf] using h, fun _ => hp⟩
  | succ n ih =>
    intro s F p roots lin lazy live kinds pos hn h hp C
    by_cases hk : kinds = []
    · subst hk
      rw [peek_nil]
      exact ⟨s, heap_loadFields_nil _ _ _ _, SameHeap.refl s, rfl, rfl, fun _ _ => rfl,
        by simpa [ptrsOf] using h, fun _ => hp⟩
    · have hlpos : 0 < kinds.length := List.length_pos_iff.mpr hk
      have hrl := restLength_lt kinds.length pos hlpos
      obtain ⟨s1, hl1, hsame1, hheap1, hfree1, hho1, hi1, hlive1⟩ :=
        ih (kinds.take (restLength kinds.length pos)) .other
          (by rw [List.length_take]; omega) h hp (C.prefix hk)
      obtain ⟨hbpre0, _, _⟩ := C.last hk
      generalize hblkdef : (peek s.mem.get (kinds.take (restLength kinds.length pos)) posOther p).2.1 = blk
        at hl1 hlive1 hbpre0
      generalize hv1def : (peek s.mem.get (kinds.take (restLength kinds.length pos)) posOther p).1 = vals1
        at hl1 hi1 hho1
      have hbl : blk ∈ live := hlive1 rfl
      have hbb := hi1.live_block hbl
      have hbbS : IsBlock s.base blk := by rw [← hsame1.base]; exact hbb.1
      have hFr := hi1.frontier_room
      have hlim : blk + 64 ≤ s1.limit := by
        have := hi1.frontier_block; have := hbb.1; unfold IsBlock at *; omega
      have hwords1 : ∀ k, 0 < k → k < 64 → s1.mem.get (blk + k) = s.mem.get (blk + k) :=
        fun k h0 hk' => hho1.nonblock (not_isBlock_add hbbS h0 hk')
      have hlink : (if pos = posOther then rd s1 (blk + fstOff (fieldsPerBlock - 1)) else .ok 0) =
          .ok (if pos = posOther then s.mem.get (blk + fstOff (fieldsPerBlock - 1)) else 0) := by
        cases pos with
        | last => simp
        | other =>
          simp only [if_true]
          rw [rd_off (s := s1) _ hbb.1 hlim (by simp [fstOff, fieldOffset, fieldsPerBlock])
            (by simp [fstOff, fieldOffset, fieldsPerBlock])]
          rw [hwords1 _ (by simp [fstOff, fieldOffset, fieldsPerBlock])
            (by simp [fstOff, fieldOffset, fieldsPerBlock])]
      have hcap3 : fieldsPerBlock - pos.toNat ≤ 3 := by simp [fieldsPerBlock]
      have hlen : (kinds.drop (restLength kinds.length pos)).length ≤ fieldsPerBlock - pos.toNat := by
        rw [List.length_drop]; exact length_drop_restLength _ _
      obtain ⟨s3, hlv, hsame3, hheap3, hfree3, hho3, _, hi3⟩ :=
        loadValuesRev_spec (blk := blk) .share (kinds.drop (restLength kinds.length pos)).reverse
          (fieldsPerBlock - pos.toNat) [] s1 _
          (by rw [List.length_reverse]; exact hlen)
          hcap3 hi1 hbb.1 hbb.2 (fun _ => hbl)
      rw [List.reverse_reverse, List.append_nil, List.length_reverse] at hlv
      rw [List.reverse_reverse, List.length_reverse] at hi3 hho3
      have hfa : fieldsAt s1.mem.get blk
          (fieldsPerBlock - pos.toNat - (kinds.drop (restLength kinds.length pos)).length)
          (kinds.drop (restLength kinds.length pos)) =
          fieldsAt s.mem.get blk
          (fieldsPerBlock - pos.toNat - (kinds.drop (restLength kinds.length pos)).length)
          (kinds.drop (restLength kinds.length pos)) :=
        fieldsAt_congr hwords1 _ _ (by omega)
      rw [hfa] at hlv hi3 hho3
      rw [peek_cons s.mem.get hk, hblkdef, hv1def]
      refine ⟨s3, loadFields_cons hk pos .share p hl1 rfl hlink hlv, hsame1.trans hsame3,
        by rw [hheap3, hheap1], by rw [hfree3, hfree1],
        (hho1.trans hsame1 hho3).mono (fun x hx => by simpa [ptrsOf_append] using hx), ?_, ?_⟩
      · refine InvW.roots_congr hi3 (fun x _ => ?_)
        simp only [gained, ptrsOf_append, List.count_append]
        omega
      · intro hpo
        rw [if_pos hpo]
        have hne := hbpre0.link hpo
        have hmem : s.mem.get (blk + fstOff (fieldsPerBlock - 1)) ∈ ptrSlots s1.mem.get blk := by
          rw [← hwords1 _ (by simp [fstOff, fieldOffset, fieldsPerBlock])
            (by simp [fstOff, fieldOffset, fieldsPerBlock])]
          exact mem_ptrSlots_of_off (m := s1.mem.get) (blk := blk) (i := 2) (by omega)
        rcases InvW.slot_live hi1 hbl hmem with h0 | hl
        · exact absurd h0 hne
        · exact hl

/-- the frame of an operation that writes at most headers of head blocks of abstract objects -/
theorem frame_of_head_writes {h h' : Heap} {rs : List Nat} {next : Nat} {s s' : HState} {ι : Nat → Nat}
    (R : HRef h rs next s ι) (hsub : Sub h' h)
    (hf : ∀ a, (∀ e ∈ h, a ≠ ι e.1) → s'.mem.get a = s.mem.get a) :
    (∀ e ∈ h', ∀ b ∈ blocksOf s.mem.get (ι e.1) e.2.fields, ∀ k, 0 < k → k < 64 →
      s'.mem.get (b + k) = s.mem.get (b + k)) ∧
    (∀ e ∈ h', ∀ b ∈ (blocksOf s.mem.get (ι e.1) e.2.fields).tail, s'.mem.get b = s.mem.get b) := by
  obtain ⟨lin, lazy, live, F, I⟩ := R.conc
  have hlive : ∀ e ∈ h, ∀ b ∈ blocksOf s.mem.get (ι e.1) e.2.fields, b ∈ live :=
    fun e he => chains_live I R.abs R.ord R.shape _ e he (Nat.le_refl _)
  have hhead : ∀ e ∈ h, IsBlock s.base (ι e.1) :=
    fun e he => (I.live_block (hlive e he _ (head_mem_blocksOf (R.shape e he)))).1
  constructor
  · intro e' he' b hb k h0 hk
    obtain ⟨e, he, h1, h2⟩ := hsub e' he'
    rw [← h1, ← h2] at hb
    apply hf
    intro e0 he0
    exact inside_ne_block (I.live_block (hlive e he b hb)).1 (hhead e0 he0) h0 hk
  · intro e' he' b hb
    obtain ⟨e, he, h1, h2⟩ := hsub e' he'
    rw [← h1, ← h2] at hb
    apply hf
    intro e0 he0 eq
    rw [eq] at hb
    exact head_not_tail R he0 he hb

theorem shareAll_sub : ∀ (cs : List Nat) (h h' : Heap), h.shareAll cs = .ok h' → Sub h' h
  | [], h, h', e => by simp [Heap.shareAll] at e; subst e; exact Sub.refl h
  | c :: cs, h, h', e => by
    simp only [Heap.shareAll] at e
    cases hs : h.share (BitVec.ofNat 64 c) 1 with
    | error x => rw [hs] at e; cases e
    | ok h1 =>
      rw [hs] at e
      have h1sub : Sub h1 h := by
        unfold Heap.share at hs
        split at hs
        · injection hs with hs; subst hs; exact Sub.refl h
        · split at hs
          · cases hs
          · rename_i o hg
            injection hs with hs; subst hs
            exact sub_set hg _
      exact (shareAll_sub cs h1 h' e).trans h1sub

/-- the non-null pointers of the field images are the images of the children -/
theorem count_ptrsOf_img (ι : Nat → Nat) : ∀ (fs : List AField) (b : Nat), b ≠ 0 →
    (ptrsOf (fs.map (fieldImg ι))).count b =
      ((fs.filterMap fun f => if f.chi != Scc.AxCut.Chi.ext && f.ptr != 0 then some f.ptr.toNat else none).map ι).count b
  | [], b, _ => by simp [ptrsOf]
  | f :: fs, b, hb => by
    have ih := count_ptrsOf_img ι fs b hb
    simp only [List.map_cons]
    by_cases hk : kindB f = true
    · have hf : fieldImg ι f = .ptr (imgW ι f.ptr) f.val.toNat := by simp [fieldImg, hk]
      rw [hf]
      simp only [ptrsOf]
      have hk' : (f.chi != Scc.AxCut.Chi.ext) = true := hk
      by_cases hp : f.ptr = 0
      · have hc : (f.chi != Scc.AxCut.Chi.ext && f.ptr != 0) = false := by simp [hp]
        rw [List.filterMap_cons, if_neg (by rw [hc]; simp)]
        have : imgW ι f.ptr = 0 := by simp [imgW, hp]
        rw [this, List.count_cons_of_ne (Ne.symm hb)]
        exact ih
      · have hc : (f.chi != Scc.AxCut.Chi.ext && f.ptr != 0) = true := by
          rw [hk', Bool.true_and, bne_iff_ne]; exact hp
        rw [List.filterMap_cons, if_pos hc]
        have : imgW ι f.ptr = ι f.ptr.toNat := by unfold imgW; rw [if_neg hp]
        rw [this]
        simp only [List.map_cons, List.count_cons, ih]
    · have hk' : (f.chi != Scc.AxCut.Chi.ext) = false := by
        have : kindB f = false := by simpa using hk
        exact this
      have hf : fieldImg ι f = .int f.val.toNat := by
        have : kindB f = false := hk'
        simp [fieldImg, this]
      rw [hf]
      simp only [ptrsOf]
      have hc : (f.chi != Scc.AxCut.Chi.ext && f.ptr != 0) = false := by rw [hk']; rfl
      rw [List.filterMap_cons, if_neg (by rw [hc]; simp)]
      exact ih

/-- the abstract result of `load` on object `id` -/
def loadAbs (h : Heap) (id : Nat) (o : Obj) : Except String Heap :=
  if o.count == 0 then .ok (h.remove id)
  else (h.set id { o with count := o.count - 1 }).shareAll o.children

/-- `load` ↔ `Memory::load`: the fields loaded are the images of the abstract fields; afterwards the
children are held by the loading context.  (When the object is abstractly unique but still referenced by
a block that is alive only at block level, the emitted code takes the shared path; the results are
related all the same.)  Beyond the refinement relation (`href_load`), for the memory contracts of the
backends: in share mode (header of the object not zero) a word that changes is the header of a block live
afterwards; `base` and `limit` stay; the block-level invariant holds before and after with the SAME
frontier. -/
theorem href_load_full {h : Heap} {rs : List Nat} {next : Nat} {s : HState} {ι : Nat → Nat} {id : Nat} {o : Obj}
    (R : HRef h (rs ++ [id]) next s ι) (hg : h.get id = some o) :
    ∃ h' s', loadAbs h id o = .ok h' ∧
      loadObj s (ι id) (o.fields.map kindB) = .ok (s', o.fields.map (fieldImg ι)) ∧
      HRef h' (rs ++ o.children) next s' ι ∧
      (s.mem.get (ι id) ≠ 0 → ∀ a, s'.mem.get a = s.mem.get a ∨
        ∃ lin lazy live F, InvS s' ((rs ++ o.children).map ι) [] lin lazy live F ∧ a ∈ live) ∧
      SameHeap s s' ∧
      (∃ lin lazy live lin' lazy' live' F, InvS s ((rs ++ [id]).map ι) [] lin lazy live F ∧
        InvS s' ((rs ++ o.children).map ι) [] lin' lazy' live' F) := by
  have he0 : (id, o) ∈ h := heap_get_mem hg
  have O := R.shape _ he0
  have hkne : o.fields.map kindB ≠ [] := by simpa using O.ne
  obtain ⟨lin, lazy, live, F, I⟩ := R.conc
  have I0 : InvS s (ι id :: rs.map ι) [] lin lazy live F := by
    refine InvW.roots_perm I ?_
    rw [List.map_append]
    exact (List.perm_append_comm (l₁ := rs.map ι) (l₂ := [ι id])).symm
  have hpl : ι id ∈ live := by
    rcases I0.roots_live (ι id) (by simp) with h0 | hl
    · exact absurd h0 O.pos
    · exact hl
  have hpb := I0.live_block hpl
  have hrd := I0.rd_block (k := 0) hpb.1 (Nat.le_of_lt hpb.2) (by omega) (by omega)
  simp only [Nat.add_zero] at hrd
  have habs : ∃ h', loadAbs h id o = .ok h' ∧ HeapOK h' (rs ++ o.children) next ∧ Sub h' h := by
    unfold loadAbs
    by_cases hc : o.count = 0
    · have : (o.count == 0) = true := by simp [hc]
      rw [if_pos this]
      refine ⟨_, rfl, ?_, sub_remove h id⟩
      apply heapOK_remove R.abs hg hc
      intro x
      simp only [List.count_append, List.count_cons, List.count_nil]
      by_cases hx : x = id
      · subst hx; simp; omega
      · have : ¬ (id = x) := fun e => hx e.symm
        simp [hx, this]
    · have : (o.count == 0) = false := by simp [hc]
      rw [if_neg (by rw [this]; simp)]
      have H1 : HeapOK (h.set id { o with count := o.count - 1 }) rs next := by
        apply heapOK_setCount R.abs hg
        · intro x hx
          have : ¬ (id = x) := fun e => hx e.symm
          simp [List.count_append, List.count_cons, this]
        · simp [List.count_append]; omega
      have hcs : ∀ c ∈ o.children, 0 < c ∧ c < 2 ^ 64 ∧
          ((h.set id { o with count := o.count - 1 }).get c).isSome := by
        intro c hc'
        obtain ⟨a, b, d⟩ := heapOK_child_live R.abs hg hc'
        refine ⟨a, b, ?_⟩
        by_cases e : c = id
        · subst e; rw [heap_get_set_same]; rfl
        · rw [heap_get_set_other _ _ e]; exact d
      obtain ⟨h', hs', H', _⟩ := shareAll_ok o.children _ rs next H1 hcs
      exact ⟨h', hs', H', (shareAll_sub _ _ _ hs').trans (sub_set hg _)⟩
  obtain ⟨h', hload, A', hsub⟩ := habs
  have hroots : ∀ b, b ≠ 0 → (ptrsOf (o.fields.map (fieldImg ι)) ++ rs.map ι).count b =
      ((rs ++ o.children).map ι).count b := by
    intro b hb
    rw [List.map_append, List.count_append, List.count_append, count_ptrsOf_img ι _ b hb]
    exact Nat.add_comm _ _
  by_cases hc : s.mem.get (ι id) = 0
  · -- the emitted code releases the blocks
    have hcnt : o.count = 0 := by
      have := head_count_ge R he0
      simp only at this
      omega
    obtain ⟨s', lin', live', hlf, hsame, _, I', _, hfr, _⟩ :=
      loadFields_release_full _ (o.fields.map kindB) .last (Nat.le_refl _) I0 O.pos hc O.chainOK
        (fun e => absurd e hkne)
    rw [O.vals] at hlf I'
    have Irel : InvS s' ((rs ++ o.children).map ι) [] lin' lazy live' F := by
      refine InvW.roots_congr I' (fun b hb => ?_)
      simp only [List.nil_append, if_false, show ¬ (BlockPosition.last = BlockPosition.other) by decide]
      exact (hroots b hb).symm
    refine ⟨h', s', hload, ?_, ?_, fun hne => absurd hc hne, hsame, ⟨lin, lazy, live, lin', lazy, live', F, I, Irel⟩⟩
    · simp [loadObj, hkne, hrd, hc, hlf]
    · have hh' : h' = h.remove id := by
        unfold loadAbs at hload
        have : (o.count == 0) = true := by simp [hcnt]
        rw [if_pos this] at hload
        injection hload with hload; exact hload.symm
      have hframe : ∀ e ∈ h', ∀ b ∈ blocksOf s.mem.get (ι e.1) e.2.fields, s'.mem.get b = s.mem.get b ∧
          ∀ k, 0 < k → k < 64 → s'.mem.get (b + k) = s.mem.get (b + k) := by
        intro e' he' b hb
        rw [hh'] at he'
        obtain ⟨he, hne⟩ := mem_remove.mp he'
        have hdis : ∀ x ∈ blocksOf s.mem.get (ι e'.1) e'.2.fields, x ∉ blocksOf s.mem.get (ι id) o.fields :=
          R.disj e' he (id, o) he0 hne
        have hlive : ∀ e ∈ h, ∀ b ∈ blocksOf s.mem.get (ι e.1) e.2.fields, b ∈ live :=
          fun e he => chains_live I R.abs R.ord R.shape _ e he (Nat.le_refl _)
        refine ⟨hfr b (hdis b hb), ?_⟩
        intro k h0 hk
        apply hfr
        intro hm
        have hb1 := (I.live_block (hlive e' he b hb)).1
        have hb2 := (I.live_block (hlive (id, o) he0 _ hm)).1
        exact inside_ne_block hb1 hb2 h0 hk rfl
      refine R.transfer hsub A' ⟨lin', lazy, live', F, ?_⟩
        (fun e he b hb => (hframe e he b hb).2)
        (fun e he b hb => (hframe e he b (List.mem_of_mem_tail hb)).1)
      refine InvW.roots_congr I' (fun b hb => ?_)
      simp only [List.nil_append, if_false, show ¬ (BlockPosition.last = BlockPosition.other) by decide]
      exact (hroots b hb).symm
  · -- the emitted code decrements the count and shares the children
    have hwr := I0.wr_block (k := 0) (s.mem.get (ι id) - 1) hpb.1 (Nat.le_of_lt hpb.2) (by omega) (by omega)
    simp only [Nat.add_zero] at hwr
    have hi0 : InvS { s with mem := s.mem.set (ι id) (s.mem.get (ι id) - 1) } (rs.map ι) [] lin lazy live F := by
      show InvW (s.mem.set (ι id) _).get _ _ _ _ _ _ _ _ _ _
      rw [Mem.get_set_upd]
      refine InvW.header_update I0 hpl ?_ ?_
      · rw [List.count_cons_self]; omega
      · intro b _ hb; rw [List.count_cons_of_ne (Ne.symm hb)]
    have hm0 : ∀ a, a ≠ ι id → (s.mem.set (ι id) (s.mem.get (ι id) - 1)).get a = s.mem.get a := by
      intro a ha
      rw [Mem.get_set, if_neg (fun e => ha e.symm)]
    have hlive : ∀ e ∈ h, ∀ b ∈ blocksOf s.mem.get (ι e.1) e.2.fields, b ∈ live :=
      fun e he => chains_live I R.abs R.ord R.shape _ e he (Nat.le_refl _)
    have O0 : ObjAt (s.mem.set (ι id) (s.mem.get (ι id) - 1)).get ι (ι id) o.fields := by
      apply O.congr
      · intro b hb k h0 hk
        apply hm0
        exact inside_ne_block (I.live_block (hlive _ he0 b hb)).1 hpb.1 h0 hk
      · intro b hb
        apply hm0
        intro e; rw [e] at hb
        exact head_not_mem_tail O hb
    have hpeek : peek (s.mem.set (ι id) (s.mem.get (ι id) - 1)).get (o.fields.map kindB) .last (ι id) =
        peek s.mem.get (o.fields.map kindB) .last (ι id) := by
      apply peek_congr _ _ _ _ (Nat.le_refl _)
      intro b hb k h0 hk
      apply hm0
      exact inside_ne_block (I.live_block (hlive _ he0 b hb)).1 hpb.1 h0 hk
    obtain ⟨s', hlf, hsame, _, _, hho, I', _⟩ :=
      loadFields_share_full _ (o.fields.map kindB) .last (Nat.le_refl _) hi0 hpl O0.chainOK
    simp only at hlf I' hho
    rw [hpeek, O.vals] at hlf I' hho
    have hhead : ∀ e ∈ h, IsBlock s.base (ι e.1) :=
      fun e he => (I.live_block (hlive e he _ (head_mem_blocksOf (R.shape e he)))).1
    have hf : ∀ a, (∀ e ∈ h, a ≠ ι e.1) → s'.mem.get a = s.mem.get a := by
      intro a ha
      by_cases hblk : IsBlock s.base a
      · have h1 : a ∉ ptrsOf (o.fields.map (fieldImg ι)) := by
          intro hm
          -- a pointer of the field images is null or the head of a child
          have hcnt : 0 < (ptrsOf (o.fields.map (fieldImg ι))).count a := List.count_pos_iff.mpr hm
          have ha0 : a ≠ 0 := by
            have := I.base_pos; unfold IsBlock at hblk; omega
          rw [count_ptrsOf_img ι _ a ha0] at hcnt
          obtain ⟨c, hc', rfl⟩ := List.mem_map.1 (List.count_pos_iff.mp hcnt)
          obtain ⟨_, _, hsome⟩ := heapOK_child_live R.abs hg hc'
          obtain ⟨oc, hoc⟩ := heap_get_isSome_mem hsome
          exact ha (c, oc) hoc rfl
        rw [hho.frame h1]
        exact hm0 a (ha (id, o) he0)
      · rw [hho.nonblock hblk]
        exact hm0 a (ha (id, o) he0)
    have Ifin : InvS s' ((rs ++ o.children).map ι) [] lin lazy live F :=
      InvW.roots_congr I' (fun b hb => (hroots b hb).symm)
    refine ⟨h', s', hload, ?_, ?_, ?_, ⟨hsame.base, hsame.limit⟩, ⟨lin, lazy, live, lin, lazy, live, F, I, Ifin⟩⟩
    · simp [loadObj, hkne, hrd, hc, hwr, hlf]
    · obtain ⟨hw, hhd⟩ := frame_of_head_writes R hsub hf
      exact R.transfer hsub A' ⟨lin, lazy, live, F, Ifin⟩ hw hhd
    · intro _ a
      by_cases ha : ∀ e ∈ h, a ≠ ι e.1
      · exact Or.inl (hf a ha)
      · refine Or.inr ⟨lin, lazy, live, F, Ifin, ?_⟩
        have : ∃ e ∈ h, a = ι e.1 := by
          apply Classical.byContradiction
          intro hn
          apply ha
          intro e he e'
          exact hn ⟨e, he, e'⟩
        obtain ⟨e, he, rfl⟩ := this
        exact hlive e he _ (head_mem_blocksOf (R.shape e he))

/-- the first three conjuncts of `href_load_full` -/
theorem href_load {h : Heap} {rs : List Nat} {next : Nat} {s : HState} {ι : Nat → Nat} {id : Nat} {o : Obj}
    (R : HRef h (rs ++ [id]) next s ι) (hg : h.get id = some o) :
    ∃ h' s', loadAbs h id o = .ok h' ∧
      loadObj s (ι id) (o.fields.map kindB) = .ok (s', o.fields.map (fieldImg ι)) ∧
      HRef h' (rs ++ o.children) next s' ι := by
  obtain ⟨h', s', a, b, c, _, _, _⟩ := href_load_full R hg
  exact ⟨h', s', a, b, c⟩

end Scc.Heap.Refine
