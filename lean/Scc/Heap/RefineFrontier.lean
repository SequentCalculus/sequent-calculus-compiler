/-
Scc.Heap.RefineFrontier — how far the frontier (C10) moves under the block-level operations that the
heap refinement relates to abstract operations: `share`, `erase`, `load` leave it alone, `store` of `n`
fields moves it by at most `64·n` bytes.  `FrLe s s' δ` is stated for ALL witnesses of the invariant
(`InvS.witness_unique`: the frontier is a function of the state), and so are `Room s n` (the frontier is
at least `n` bytes below the limit; what `store` asks for) and `FrPk s s'` (the frontier has not moved, or
both free lists are exhausted afterwards; `frPk_store`: the peak of C10 is reached only when nothing can
be reused).
-/
import Scc.Heap.RefineStoreObj

namespace Scc.Heap.Refine

open Scc.Backend.Abs (Heap Obj Word)

/-- the heap region is the same and the frontier moves by at most `δ` -/
def FrLe (s s' : HState) (δ : Nat) : Prop :=
  s'.limit = s.limit ∧ s'.base = s.base ∧
  ∀ rs lin lazy live F rs' lin' lazy' live' F', InvS s rs [] lin lazy live F →
    InvS s' rs' [] lin' lazy' live' F' → F' ≤ F + δ

theorem FrLe.of_witness {s s' : HState} {δ : Nat} (hl : s'.limit = s.limit) (hb : s'.base = s.base)
    {rs lin lazy live rs' lin' lazy' live' : List Nat} {F F' : Nat}
    (I : InvS s rs [] lin lazy live F) (I' : InvS s' rs' [] lin' lazy' live' F') (h : F' ≤ F + δ) :
    FrLe s s' δ := by
  refine ⟨hl, hb, ?_⟩
  intro rs1 lin1 lazy1 live1 F1 rs2 lin2 lazy2 live2 F2 J J'
  have e1 := (InvS.witness_unique I J).2.2
  have e2 := (InvS.witness_unique I' J').2.2
  omega

theorem FrLe.refl (s : HState) : FrLe s s 0 :=
  ⟨rfl, rfl, fun _ _ _ _ _ _ _ _ _ _ J J' => by have := (InvS.witness_unique J J').2.2; omega⟩

theorem FrLe.trans {s1 s2 s3 : HState} {a b : Nat} (h1 : FrLe s1 s2 a) (h2 : FrLe s2 s3 b)
    (hw : ∃ rs lin lazy live F, InvS s2 rs [] lin lazy live F) : FrLe s1 s3 (a + b) := by
  obtain ⟨rs2, lin2, lazy2, live2, F2, I2⟩ := hw
  refine ⟨h2.1.trans h1.1, h2.2.1.trans h1.2.1, ?_⟩
  intro rs lin lazy live F rs' lin' lazy' live' F' J J'
  have := h1.2.2 _ _ _ _ _ _ _ _ _ _ J I2
  have := h2.2.2 _ _ _ _ _ _ _ _ _ _ I2 J'
  omega

theorem FrLe.mono {s s' : HState} {a b : Nat} (h : FrLe s s' a) (hab : a ≤ b) : FrLe s s' b :=
  ⟨h.1, h.2.1, fun _ _ _ _ _ _ _ _ _ _ J J' => by have := h.2.2 _ _ _ _ _ _ _ _ _ _ J J'; omega⟩

theorem FrLe.same (s : HState) (δ : Nat) : FrLe s s δ := (FrLe.refl s).mono (Nat.zero_le δ)

def Room (s : HState) (n : Nat) : Prop :=
  ∀ rs lin lazy live F, InvS s rs [] lin lazy live F → F + n ≤ s.limit

theorem Room.step {s s' : HState} {n δ : Nat} (hr : Room s n) (hf : FrLe s s' δ) (hδ : δ ≤ n)
    (hw : ∃ rs lin lazy live F, InvS s rs [] lin lazy live F) : Room s' (n - δ) := by
  obtain ⟨rs0, lin0, lazy0, live0, F0, I0⟩ := hw
  intro rs lin lazy live F J
  have h1 := hr _ _ _ _ _ I0
  have h2 := hf.2.2 _ _ _ _ _ _ _ _ _ _ I0 J
  rw [hf.1]
  omega

theorem Room.mono {s : HState} {n m : Nat} (hr : Room s n) (h : m ≤ n) : Room s m := by
  intro rs lin lazy live F J
  have := hr _ _ _ _ _ J
  omega

theorem frLe_share {h : Heap} {rs : List Nat} {next : Nat} {s s' : HState} {ι : Nat → Nat}
    (R : HRef h rs next s ι) (ref : Word) (k : Nat) (hmem : ref ≠ 0 → ref.toNat ∈ rs)
    (hs : shareBlock s (imgW ι ref) k = .ok s') : FrLe s s' 0 := by
  obtain ⟨lin, lazy, live, F, I⟩ := R.conc
  have hp : imgW ι ref = 0 ∨ imgW ι ref ∈ live := by
    unfold imgW
    by_cases hr : ref = 0
    · rw [if_pos hr]; exact Or.inl rfl
    · rw [if_neg hr]
      exact I.roots_live _ (List.mem_map.2 ⟨ref.toNat, hmem hr, rfl⟩)
  obtain ⟨s'', hsb, hsame, _, _, _, I'⟩ := shareBlock_spec (p := imgW ι ref) (n := k) I hp
  rw [hs] at hsb
  injection hsb with hsb
  subst hsb
  exact FrLe.of_witness hsame.limit hsame.base I I' (by omega)

theorem frLe_erase {h : Heap} {rs : List Nat} {next : Nat} {s s' : HState} {ι : Nat → Nat} (ref : Word)
    (R : HRef h (rs ++ (if ref != 0 then [ref.toNat] else [])) next s ι)
    (hs : eraseBlock s (imgW ι ref) = .ok s') : FrLe s s' 0 := by
  obtain ⟨lin, lazy, live, F, I⟩ := R.conc
  have I0 : InvS s (imgW ι ref :: rs.map ι) [] lin lazy live F := by
    refine InvW.roots_congr I (fun b hb => ?_)
    unfold imgW
    by_cases hr : ref = 0
    · subst hr
      have e0 : ((0 : Word) != 0) = false := by simp
      simp only [if_true, e0, Bool.false_eq_true, if_false, List.append_nil]
      rw [List.count_cons_of_ne (Ne.symm hb)]
    · have e1 : (ref != 0) = true := by rw [bne_iff_ne]; exact hr
      simp only [hr, if_false, e1, if_true, List.map_append, List.map_cons, List.map_nil, List.count_append,
        List.count_cons, List.count_nil]
      omega
  obtain ⟨s'', lazy', live', hsb, hsame, _, _, I', _⟩ := eraseBlock_spec I0
  rw [hs] at hsb
  injection hsb with hsb
  subst hsb
  exact FrLe.of_witness hsame.limit hsame.base I I' (by omega)

theorem frLe_load {h : Heap} {rs : List Nat} {next : Nat} {s s' : HState} {ι : Nat → Nat} {id : Nat} {o : Obj}
    {vals : List Field} (R : HRef h (rs ++ [id]) next s ι) (hg : h.get id = some o)
    (hs : loadObj s (ι id) (o.fields.map kindB) = .ok (s', vals)) : FrLe s s' 0 := by
  obtain ⟨h', s'', _, hl, _, _, hsame, lin, lazy, live, lin', lazy', live', F, I, I'⟩ := href_load_full R hg
  rw [hs] at hl
  injection hl with hl
  injection hl with e1 _
  subst e1
  exact FrLe.of_witness hsame.limit hsame.base I I' (by omega)

theorem frLe_store {h : Heap} {rsKeep : List Nat} {next : Nat} {s s' : HState} {ι : Nat → Nat} {o : Obj}
    {p : Nat} (R : HRef h (rsKeep ++ o.children) next s ι)
    (hroom : Room s (64 * o.fields.length + 64))
    (hs : storeObj s (o.fields.map (fieldImg ι)) = .ok (s', p)) : FrLe s s' (64 * o.fields.length) := by
  obtain ⟨lin, lazy, live, F, I⟩ := R.conc
  obtain ⟨s'', p'', lin', lazy', live', F', hst, hsame, I', _, hF', _, _⟩ :=
    storeObj_spec (o.fields.map (fieldImg ι)) (rsKeep.map ι) I
      (by
        intro x hx
        rw [children_eq, List.map_append, List.count_append, count_ptrsOf_children ι _ x hx]
        omega)
      (by have := hroom _ _ _ _ _ I; simp only [List.length_map]; omega)
  rw [hs] at hst
  injection hst with hst
  injection hst with e1 _
  subst e1
  exact FrLe.of_witness hsame.limit hsame.base I I' (by simpa using hF')

/-- the frontier has not moved, or both free lists are exhausted (the reusable list is the one block it
always keeps, the deferred list is empty) — for all witnesses of the invariant -/
def FrPk (s s' : HState) : Prop :=
  ∀ rs lin lazy live F rs' lin' lazy' live' F', InvS s rs [] lin lazy live F →
    InvS s' rs' [] lin' lazy' live' F' → F' ≤ F ∨ Exhausted lin' lazy'

theorem FrPk.refl (s : HState) : FrPk s s :=
  fun _ _ _ _ _ _ _ _ _ _ J J' => Or.inl (by have := (InvS.witness_unique J J').2.2; omega)

theorem FrPk.of_frLe0 {s s' : HState} (h : FrLe s s' 0) : FrPk s s' :=
  fun _ _ _ _ _ _ _ _ _ _ J J' => Or.inl (by have := h.2.2 _ _ _ _ _ _ _ _ _ _ J J'; omega)

theorem frPk_store {h : Heap} {rsKeep : List Nat} {next : Nat} {s s' : HState} {ι : Nat → Nat} {o : Obj}
    {p : Nat} (R : HRef h (rsKeep ++ o.children) next s ι)
    (hroom : Room s (64 * o.fields.length + 64))
    (hs : storeObj s (o.fields.map (fieldImg ι)) = .ok (s', p)) : FrPk s s' := by
  obtain ⟨lin, lazy, live, F, I⟩ := R.conc
  obtain ⟨s'', p'', lin', lazy', live', F', hst, hsame, I', _, hF', _, hd⟩ :=
    storeObj_spec (o.fields.map (fieldImg ι)) (rsKeep.map ι) I
      (by
        intro x hx
        rw [children_eq, List.map_append, List.count_append, count_ptrsOf_children ι _ x hx]
        omega)
      (by have := hroom _ _ _ _ _ I; simp only [List.length_map]; omega)
  rw [hs] at hst
  injection hst with hst
  injection hst with e1 _
  subst e1
  intro rs1 lin1 lazy1 live1 F1 rs2 lin2 lazy2 live2 F2 J J'
  obtain ⟨_, _, e1⟩ := InvS.witness_unique I J
  obtain ⟨e2, e3, e4⟩ := InvS.witness_unique I' J'
  rcases hd with hd | hd
  · exact Or.inl (by omega)
  · exact Or.inr (by rw [e2, e3]; exact hd)

end Scc.Heap.Refine
