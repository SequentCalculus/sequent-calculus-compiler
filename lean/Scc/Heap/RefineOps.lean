/-
Scc.Heap.RefineOps — the heap refinement, one commuting lemma per abstract heap operation
(header operations): `share` ↔ `share_block_n`, `erase` ↔ `erase_block`.
The abstract erase frees the object and, recursively, its children at once; `erase_block` only
decrements the count or puts the head block on the lazy free list, its children stay alive at block
level until the block is reused (`acquire_block` case 2).  Both results are related by `HRef`.
-/
import Scc.Heap.RefineCount
import Scc.Backend.ProofsErase

set_option linter.unusedSimpArgs false

namespace Scc.Heap.Refine

open Scc.Backend.Abs (Heap Obj Word)
open Scc.Backend.Sim2 Scc.Backend.Sim

theorem blocksOf_head {m : Nat → Nat} {ι : Nat → Nat} {p : Nat} {fs : List AField} (O : ObjAt m ι p fs) :
    ∃ t, blocksOf m p fs = p :: t := by
  have hk : fs.map kindB ≠ [] := by simpa using O.ne
  have hl := peek_chain m _ (fs.map kindB) .last p (Nat.le_refl _)
  cases hb : blocksOf m p fs with
  | nil =>
    unfold blocksOf chainOf at hb
    exact absurd (hl.2.2.2.mp (by simpa using hb)) hk
  | cons x t =>
    have h1 := hl.1
    unfold blocksOf chainOf at hb
    rw [hb] at h1
    exact ⟨t, by rw [h1.1]⟩

theorem head_mem_blocksOf {m : Nat → Nat} {ι : Nat → Nat} {p : Nat} {fs : List AField} (O : ObjAt m ι p fs) :
    p ∈ blocksOf m p fs := by
  obtain ⟨t, e⟩ := blocksOf_head O
  rw [e]; simp

theorem head_not_mem_tail {m : Nat → Nat} {ι : Nat → Nat} {p : Nat} {fs : List AField} (O : ObjAt m ι p fs) :
    p ∉ (blocksOf m p fs).tail := by
  obtain ⟨t, e⟩ := blocksOf_head O
  have := O.nodup
  rw [e] at this ⊢
  exact (List.nodup_cons.mp this).1

/-- the head block of an object is no continuation block of any chain -/
theorem head_not_tail {h : Heap} {rs : List Nat} {next : Nat} {s : HState} {ι : Nat → Nat}
    (R : HRef h rs next s ι) {e e' : Nat × Obj} (he : e ∈ h) (he' : e' ∈ h) :
    ι e.1 ∉ (blocksOf s.mem.get (ι e'.1) e'.2.fields).tail := by
  by_cases hid : e.1 = e'.1
  · have hee : e = e' := by
      have h1 := heap_mem_get R.abs.nodup he
      have h2 := heap_mem_get R.abs.nodup he'
      rw [hid] at h1
      rw [h1] at h2
      injection h2 with h2
      exact Prod.ext hid h2
    subst hee
    exact head_not_mem_tail (R.shape e he)
  · intro hm
    have := R.disj e he e' he' hid (ι e.1) (head_mem_blocksOf (R.shape e he))
    exact this (List.mem_of_mem_tail hm)

theorem inside_ne_block {base b p k : Nat} (hb : IsBlock base b) (hp : IsBlock base p) (h0 : 0 < k)
    (hk : k < 64) : b + k ≠ p := by
  unfold IsBlock at *
  omega

/-- the frame of an operation that writes at most the header of the head block `ι e0.1` -/
theorem frame_of_header_write {h h' : Heap} {rs : List Nat} {next : Nat} {s s' : HState} {ι : Nat → Nat}
    (R : HRef h rs next s ι) (hsub : Sub h' h) {e0 : Nat × Obj} (he0 : e0 ∈ h)
    (hf : ∀ a, a ≠ ι e0.1 → s'.mem.get a = s.mem.get a) :
    (∀ e ∈ h', ∀ b ∈ blocksOf s.mem.get (ι e.1) e.2.fields, ∀ k, 0 < k → k < 64 →
      s'.mem.get (b + k) = s.mem.get (b + k)) ∧
    (∀ e ∈ h', ∀ b ∈ (blocksOf s.mem.get (ι e.1) e.2.fields).tail, s'.mem.get b = s.mem.get b) := by
  obtain ⟨lin, lazy, live, F, I⟩ := R.conc
  have hlive : ∀ e ∈ h, ∀ b ∈ blocksOf s.mem.get (ι e.1) e.2.fields, b ∈ live :=
    fun e he => chains_live I R.abs R.ord R.shape _ e he (Nat.le_refl _)
  have hp : IsBlock s.base (ι e0.1) :=
    (I.live_block (hlive e0 he0 _ (head_mem_blocksOf (R.shape e0 he0)))).1
  constructor
  · intro e' he' b hb k h0 hk
    obtain ⟨e, he, h1, h2⟩ := hsub e' he'
    rw [← h1, ← h2] at hb
    exact hf _ (inside_ne_block (I.live_block (hlive e he b hb)).1 hp h0 hk)
  · intro e' he' b hb
    obtain ⟨e, he, h1, h2⟩ := hsub e' he'
    rw [← h1, ← h2] at hb
    apply hf
    intro eq
    rw [eq] at hb
    exact head_not_tail R he0 he hb

theorem sub_set {h : Heap} {id : Nat} {o : Obj} (hg : h.get id = some o) (c : Nat) :
    Sub (h.set id { o with count := c }) h := by
  intro e' he'
  unfold Heap.set at he'
  simp only [List.mem_cons] at he'
  rcases he' with rfl | he'
  · exact ⟨(id, o), heap_get_mem hg, rfl, rfl⟩
  · exact ⟨e', (mem_remove.mp he').1, rfl, rfl⟩

theorem sub_remove (h : Heap) (id : Nat) : Sub (h.remove id) h :=
  fun e' he' => ⟨e', (mem_remove.mp he').1, rfl, rfl⟩

theorem map_flatten_replicate_singleton (ι : Nat → Nat) (x : Nat) : ∀ (k : Nat),
    ((List.replicate k [x]).flatten).map ι = List.replicate k (ι x)
  | 0 => rfl
  | k + 1 => by
    simp only [List.replicate_succ, List.flatten_cons, List.map_append, List.map_cons, List.map_nil,
      List.singleton_append, map_flatten_replicate_singleton ι x k]

/-- `share` ↔ `share_block_n` -/
theorem href_share {h : Heap} {rs : List Nat} {next : Nat} {s : HState} {ι : Nat → Nat}
    (R : HRef h rs next s ι) (ref : Word) (k : Nat) (hmem : ref ≠ 0 → ref.toNat ∈ rs) :
    ∃ h' s', h.share ref k = .ok h' ∧ shareBlock s (imgW ι ref) k = .ok s' ∧
      HRef h' (rs ++ (List.replicate k (if ref != 0 then [ref.toNat] else [])).flatten) next s' ι := by
  obtain ⟨h', hs, A', _⟩ := share_heapOK ref k hmem R.abs
  by_cases hr : ref = 0
  · subst hr
    have hh : h' = h := by simp [Heap.share] at hs; exact hs.symm
    subst hh
    have e0 : ((0 : Word) != 0) = false := by simp
    refine ⟨h', s, hs, by simp [imgW, shareBlock], ?_⟩
    simp only [e0, Bool.false_eq_true, if_false, flatten_replicate_nil, List.append_nil]
    exact R
  · have h1 : (ref != 0) = true := by rw [bne_iff_ne]; exact hr
    have h2 : (ref == 0) = false := by rw [beq_eq_false_iff_ne]; exact hr
    have hm := hmem hr
    obtain ⟨lin, lazy, live, F, I⟩ := R.conc
    have himg : imgW ι ref = ι ref.toNat := by unfold imgW; rw [if_neg hr]
    have hlive : (h.get ref.toNat).isSome := by
      apply R.abs.live
      have : 0 < rs.count ref.toNat := List.count_pos_iff.mpr hm
      simp only [refCount_eq]; omega
    cases hg : h.get ref.toNat with
    | none => simp [hg] at hlive
    | some o =>
      have he0 : (ref.toNat, o) ∈ h := heap_get_mem hg
      have hh' : h' = h.set ref.toNat { o with count := o.count + k } := by
        simp only [Heap.share, h2, Bool.false_eq_true, if_false, hg] at hs
        injection hs with hs; exact hs.symm
      have hp : ι ref.toNat = 0 ∨ ι ref.toNat ∈ live :=
        I.roots_live _ (List.mem_map.2 ⟨ref.toNat, hm, rfl⟩)
      obtain ⟨s', hsb, _, _, _, hho, I'⟩ := shareBlock_spec (p := ι ref.toNat) (n := k) I hp
      refine ⟨h', s', hs, by rw [himg]; exact hsb, ?_⟩
      simp only [h1, if_true] at A' ⊢
      have hsub : Sub h' h := by rw [hh']; exact sub_set hg _
      obtain ⟨hw, hhd⟩ := frame_of_header_write R hsub he0 (fun a ha => hho.frame (by simp [ha]))
      refine R.transfer hsub A' ⟨lin, lazy, live, F, ?_⟩ hw hhd
      refine InvW.roots_perm I' ?_
      rw [List.map_append, map_flatten_replicate_singleton]
      exact List.perm_append_comm

theorem eraseLoop_sub : ∀ (fuel : Nat) (work : List Nat) (h h' : Heap),
    Heap.eraseLoop fuel work h = .ok h' → Sub h' h
  | 0, [], h, h', e => by simp [Heap.eraseLoop] at e; subst e; exact Sub.refl h
  | 0, _ :: _, h, h', e => by simp [Heap.eraseLoop] at e
  | fuel + 1, [], h, h', e => by simp [Heap.eraseLoop] at e; subst e; exact Sub.refl h
  | fuel + 1, id :: work, h, h', e => by
    simp only [Heap.eraseLoop] at e
    cases hg : h.get id with
    | none => simp [hg] at e
    | some o =>
      simp only [hg] at e
      by_cases hc : o.count > 0
      · rw [if_pos hc] at e
        exact (eraseLoop_sub fuel work _ h' e).trans (sub_set hg _)
      · rw [if_neg hc] at e
        exact (eraseLoop_sub fuel _ _ h' e).trans (sub_remove h id)

/-- `erase` ↔ `erase_block`: the abstract machine frees the object and its children at once, the
emitted code decrements the count or defers the block -/
theorem href_erase {h : Heap} {rs : List Nat} {next : Nat} {s : HState} {ι : Nat → Nat} (ref : Word)
    (R : HRef h (rs ++ (if ref != 0 then [ref.toNat] else [])) next s ι) :
    ∃ h' s', h.erase ref = .ok h' ∧ eraseBlock s (imgW ι ref) = .ok s' ∧ HRef h' rs next s' ι := by
  obtain ⟨h', he, A', _⟩ := erase_ok (P := Scc.Backend.Abs.Program.ofOps []) (hooks := false) (types := [])
    ref R.abs
  by_cases hr : ref = 0
  · subst hr
    have hh : h' = h := by simp [Heap.erase] at he; exact he.symm
    subst hh
    have e0 : ((0 : Word) != 0) = false := by simp
    refine ⟨h', s, he, by simp [imgW, eraseBlock], ?_⟩
    have R' := R
    simp only [e0, Bool.false_eq_true, if_false, List.append_nil] at R'
    exact R'
  · have h1 : (ref != 0) = true := by rw [bne_iff_ne]; exact hr
    have h2 : (ref == 0) = false := by rw [beq_eq_false_iff_ne]; exact hr
    have R' := R
    simp only [h1, if_true] at R'
    obtain ⟨lin, lazy, live, F, I⟩ := R'.conc
    have himg : imgW ι ref = ι ref.toNat := by unfold imgW; rw [if_neg hr]
    have hlive : (h.get ref.toNat).isSome := by
      apply R'.abs.live
      simp only [refCount_eq, List.count_append, List.count_cons_self]; omega
    cases hg : h.get ref.toNat with
    | none => simp [hg] at hlive
    | some o =>
      have he0 : (ref.toNat, o) ∈ h := heap_get_mem hg
      have I0 : InvS s (ι ref.toNat :: rs.map ι) [] lin lazy live F := by
        refine InvW.roots_perm I ?_
        rw [List.map_append]
        exact (List.perm_append_comm (l₁ := rs.map ι) (l₂ := [ι ref.toNat])).symm
      obtain ⟨s', lazy', live', hsb, _, _, hho, I', _⟩ := eraseBlock_spec I0
      refine ⟨h', s', he, by rw [himg]; exact hsb, ?_⟩
      have hsub : Sub h' h := by
        simp only [Heap.erase, h2, Bool.false_eq_true, if_false] at he
        exact eraseLoop_sub _ _ _ _ he
      obtain ⟨hw, hhd⟩ := frame_of_header_write R' hsub he0 (fun a ha => hho.frame (by simp [ha]))
      exact R'.transfer hsub A' ⟨lin, lazy', live', F, I'⟩ hw hhd

end Scc.Heap.Refine
