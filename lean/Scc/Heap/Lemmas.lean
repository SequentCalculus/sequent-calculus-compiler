/-
Scc.Heap.Lemmas — basic facts used by the invariant-preservation proofs: pointwise memory update (`upd`),
free-list chains under writes outside the chain, the pointer fields of blocks (`ptrFields`; a header write
does not change them), topological order and acyclicity when a block is removed.
-/
import Scc.Heap.Inv

namespace Scc.Heap

def upd (m : Nat → Nat) (a v : Nat) : Nat → Nat := fun x => if x = a then v else m x

@[simp] theorem upd_same (m : Nat → Nat) (a v : Nat) : upd m a v a = v := by simp [upd]
theorem upd_other (m : Nat → Nat) {a x : Nat} (v : Nat) (h : x ≠ a) : upd m a v x = m x := by
  simp [upd, h]

theorem Mem.get_set_upd (m : Mem) (a v : Nat) : (m.set a v).get = upd m.get a v := by
  funext x; simp [Mem.get_set, upd]; split <;> split <;> simp_all

theorem Chain.frame {m m' : Nat → Nat} : ∀ {l : List Nat} {a : Nat},
    (∀ x, x ∈ l → m' x = m x) → Chain m a l → Chain m' a l
  | [], _, _, h => h
  | x :: xs, a, hf, h => by
    obtain ⟨h1, h2, h3⟩ := h
    refine ⟨h1, h2, ?_⟩
    rw [hf x (by simp)]
    exact Chain.frame (fun y hy => hf y (by simp [hy])) h3

theorem Chain.upd {m : Nat → Nat} {l : List Nat} {a p v : Nat} (hc : Chain m a l)
    (hp : p ∉ l) : Chain (upd m p v) a l :=
  hc.frame (fun _ hx => upd_other _ _ (fun e => hp (e ▸ hx)))

theorem not_mem_concat {p F : Nat} {l : List Nat} (h1 : p ∉ l) (h2 : p ≠ F) : p ∉ l ++ [F] :=
  fun hx => (List.mem_append.mp hx).elim h1 (fun hx => h2 (List.mem_singleton.mp hx))

theorem Chain.ne_zero {m : Nat → Nat} : ∀ {l : List Nat} {a : Nat}, Chain m a l → ∀ x, x ∈ l → x ≠ 0
  | [], _, _, x, hx => by simp at hx
  | y :: ys, a, h, x, hx => by
    obtain ⟨_, h2, h3⟩ := h
    rcases List.mem_cons.mp hx with rfl | hx
    · exact h2
    · exact Chain.ne_zero h3 x hx

theorem Chain.append_singleton {m : Nat → Nat} : ∀ {l : List Nat} {a F : Nat},
    Chain m a (l ++ [F]) → m F = 0
  | [], _, _, h => by simpa [Chain] using h.2.2
  | _ :: xs, _, _, h => Chain.append_singleton (l := xs) h.2.2

theorem ptrFields_nil (m : Nat → Nat) : ptrFields m [] = [] := rfl
theorem ptrFields_cons (m : Nat → Nat) (b : Nat) (bs : List Nat) :
    ptrFields m (b :: bs) = ptrSlots m b ++ ptrFields m bs := by simp [ptrFields]
theorem ptrFields_append (m : Nat → Nat) (as bs : List Nat) :
    ptrFields m (as ++ bs) = ptrFields m as ++ ptrFields m bs := by simp [ptrFields]

theorem ptrFields_length (m : Nat → Nat) : ∀ (l : List Nat), (ptrFields m l).length = 3 * l.length
  | [] => rfl
  | b :: t => by
    rw [ptrFields_cons, List.length_append, ptrFields_length m t]
    simp [ptrSlots]
    omega

theorem ptrFields_congr {m m' : Nat → Nat} {bs : List Nat}
    (h : ∀ b, b ∈ bs → ptrSlots m' b = ptrSlots m b) : ptrFields m' bs = ptrFields m bs := by
  induction bs with
  | nil => rfl
  | cons b bs ih =>
    rw [ptrFields_cons, ptrFields_cons, ih (fun x hx => h x (List.mem_cons_of_mem _ hx)),
      h b List.mem_cons_self]

theorem TopoSorted.congr {m m' : Nat → Nat} : ∀ {ord : List Nat},
    (∀ b, b ∈ ord → ptrSlots m' b = ptrSlots m b) → TopoSorted m ord → TopoSorted m' ord
  | [], _, _ => trivial
  | b :: rest, hs, h => by
    refine ⟨?_, TopoSorted.congr (fun x hx => hs x (by simp [hx])) h.2⟩
    rw [hs b (by simp)]; exact h.1

theorem TopoSorted.remove {m : Nat → Nat} {p : Nat} : ∀ {o1 o2 : List Nat},
    TopoSorted m (o1 ++ p :: o2) → (∀ b, b ∈ o1 → p ∉ ptrSlots m b) → TopoSorted m (o1 ++ o2)
  | [], _, h, _ => h.2
  | b :: o1, o2, h, hn => by
    have h' : TopoSorted m (b :: (o1 ++ p :: o2)) := h
    show TopoSorted m (b :: (o1 ++ o2))
    refine ⟨?_, TopoSorted.remove h'.2 (fun x hx => hn x (by simp [hx]))⟩
    intro q hq
    rcases h'.1 q hq with h0 | hl
    · exact Or.inl h0
    · right
      have hqp : q ≠ p := by rintro rfl; exact hn b (by simp) hq
      simp only [List.mem_append, List.mem_cons] at hl ⊢
      rcases hl with hl | hl | hl
      · exact Or.inl hl
      · exact absurd hl hqp
      · exact Or.inr hl

theorem ptrSlots_upd_header {m : Nat → Nat} {base p v b : Nat}
    (hp : IsBlock base p) (hb : IsBlock base b) : ptrSlots (upd m p v) b = ptrSlots m b := by
  unfold IsBlock at *
  simp only [ptrSlots]
  rw [upd_other _ _ (by omega), upd_other _ _ (by omega), upd_other _ _ (by omega)]

theorem ptrFields_upd_header {m : Nat → Nat} {base p v : Nat} {bs : List Nat}
    (hp : IsBlock base p) (hbs : ∀ b, b ∈ bs → IsBlock base b) :
    ptrFields (upd m p v) bs = ptrFields m bs :=
  ptrFields_congr fun b hb => ptrSlots_upd_header hp (hbs b hb)

theorem ptrSlots_sub_ptrFields {m : Nat → Nat} {b : Nat} {bs : List Nat} (hb : b ∈ bs) :
    ∀ q, q ∈ ptrSlots m b → q ∈ ptrFields m bs := by
  intro q hq
  obtain ⟨l1, l2, rfl⟩ := List.append_of_mem hb
  simp only [ptrFields_append, ptrFields_cons, List.mem_append]
  exact Or.inr (Or.inl hq)

theorem acyclic_remove {m : Nat → Nat} {p : Nat} {l1 l2 : List Nat}
    (h : ∃ ord, ord.Perm (l1 ++ p :: l2) ∧ TopoSorted m ord)
    (hn : ∀ b, b ∈ l1 ++ p :: l2 → p ∉ ptrSlots m b) :
    ∃ ord, ord.Perm (l1 ++ l2) ∧ TopoSorted m ord := by
  obtain ⟨ord, hperm, hts⟩ := h
  have hp : p ∈ ord := hperm.mem_iff.mpr (by simp)
  obtain ⟨o1, o2, rfl⟩ := List.append_of_mem hp
  refine ⟨o1 ++ o2, ?_, hts.remove (fun b hb => hn b (hperm.mem_iff.mp (by simp [hb])))⟩
  have h1 : (p :: (o1 ++ o2)).Perm (p :: (l1 ++ l2)) :=
    (List.perm_middle.symm.trans hperm).trans List.perm_middle
  exact h1.cons_inv

theorem nodup4_iff {a b c d : List Nat} : (a ++ b ++ c ++ d).Nodup ↔
    a.Nodup ∧ b.Nodup ∧ c.Nodup ∧ d.Nodup ∧ (∀ x, x ∈ a → x ∉ b ∧ x ∉ c ∧ x ∉ d) ∧
    (∀ x, x ∈ b → x ∉ c ∧ x ∉ d) ∧ (∀ x, x ∈ c → x ∉ d) := by
  simp only [List.nodup_append, List.mem_append]
  grind

end Scc.Heap
