/-
Scc.Heap.ProofsCheckComplete — COMPLETENESS of the executable invariant checker `invCheckFn`
(Scc/Heap/Model.lean; its soundness is `invCheckFn_sound`, Scc/Heap/ProofsCheck.lean): on a memory that
satisfies the invariant `InvW` the checker does not fail; it returns the linear free list, the deferred
list, the frontier of the invariant (they are functions of the memory) and a permutation of the live
blocks (in the order of its depth-first traversal).  So the runtime monitors of the machine models
(`heapCheck` on x86-64, `heapMonitor` on AArch64 and RV64), which call it, DECIDE the invariant.
-/
import Scc.Heap.ProofsCheckDfs

set_option linter.unusedSimpArgs false

namespace Scc.Heap

theorem checkedWalk_false_complete {m : Nat → Nat} {base hi : Nat} {what : String} :
    ∀ (l : List Nat) (fuel a : Nat) (acc : List Nat), Chain m a l →
    (∀ x, x ∈ l → IsBlock base x ∧ x + 64 ≤ hi) → l.length < fuel →
    checkedWalk m base hi false what fuel a acc = .ok (acc.reverse ++ l)
  | [], fuel + 1, a, acc, hc, _, _ => by
    have ha : a = 0 := hc
    simp [checkedWalk, ha]
  | x :: l, fuel + 1, a, acc, hc, hb, hf => by
    obtain ⟨rfl, hx0, hrest⟩ := hc
    have hbx := hb a (by simp)
    have h1 : isBlockB base a = true := isBlockB_iff.2 hbx.1
    have h2 : ¬ hi < a + blockSize := by unfold blockSize; omega
    simp only [checkedWalk, hx0, if_false, h1, Bool.not_true, Bool.false_or, decide_eq_true_eq, h2,
      Bool.false_and, Bool.false_eq_true]
    rw [checkedWalk_false_complete l fuel (m a) (a :: acc) hrest (fun y hy => hb y (by simp [hy]))
      (by simp only [List.length_cons] at hf; omega)]
    simp
  | [], 0, _, _, _, _, hf => absurd hf (Nat.not_lt_zero _)
  | _ :: _, 0, _, _, _, _, hf => absurd hf (Nat.not_lt_zero _)

theorem chain_snoc_ne_zero {m : Nat → Nat} : ∀ (l : List Nat) (a F : Nat), Chain m a (l ++ [F]) →
    ∀ x, x ∈ l → m x ≠ 0
  | [], _, _, _, x, hx => by simp at hx
  | y :: l, a, F, hc, x, hx => by
    obtain ⟨rfl, _, hrest⟩ := hc
    rcases List.mem_cons.1 hx with rfl | hx
    · cases l with
      | nil => exact fun e => hrest.2.1 (hrest.1.symm.trans e ▸ rfl) |>.elim
      | cons z l => exact fun e => hrest.2.1 (hrest.1.symm.trans e ▸ rfl) |>.elim
    · exact chain_snoc_ne_zero l (m a) F hrest x hx

theorem checkedWalk_true_complete {m : Nat → Nat} {base hi : Nat} {what : String} :
    ∀ (l : List Nat) (F fuel a : Nat) (acc : List Nat), Chain m a (l ++ [F]) →
    (∀ x, x ∈ l ++ [F] → IsBlock base x ∧ x + 64 ≤ hi) → m F = 0 → l.length < fuel →
    checkedWalk m base hi true what fuel a acc = .ok (acc.reverse ++ l ++ [F])
  | [], F, fuel + 1, a, acc, hc, hb, hF, _ => by
    obtain ⟨rfl, hx0, _⟩ := hc
    have hbx := hb a (by simp)
    have h1 : isBlockB base a = true := isBlockB_iff.2 hbx.1
    have h2 : ¬ hi < a + blockSize := by unfold blockSize; omega
    simp [checkedWalk, hx0, h1, h2, hF]
  | x :: l, F, fuel + 1, a, acc, hc, hb, hF, hf => by
    have hne := chain_snoc_ne_zero (x :: l) a F hc x (by simp)
    obtain ⟨rfl, hx0, hrest⟩ := hc
    have hbx := hb a (by simp)
    have h1 : isBlockB base a = true := isBlockB_iff.2 hbx.1
    have h2 : ¬ hi < a + blockSize := by unfold blockSize; omega
    simp only [checkedWalk, hx0, if_false, h1, Bool.not_true, Bool.false_or, decide_eq_true_eq, h2,
      Bool.true_and, hne, Bool.false_eq_true]
    rw [checkedWalk_true_complete l F fuel (m a) (a :: acc) hrest (fun y hy => hb y (by
      simp only [List.cons_append, List.mem_cons]; exact Or.inr hy)) hF
      (by simp only [List.length_cons] at hf; omega)]
    simp
  | [], _, 0, _, _, _, _, _, hf => absurd hf (Nat.not_lt_zero _)
  | _ :: _, _, 0, _, _, _, _, _, hf => absurd hf (Nat.not_lt_zero _)

theorem TopoSorted.suffix {m : Nat → Nat} : ∀ (l1 l2 : List Nat), TopoSorted m (l1 ++ l2) → TopoSorted m l2
  | [], _, h => h
  | _ :: l1, l2, h => TopoSorted.suffix l1 l2 h.2

theorem topoCheckRev_complete {m : Nat → Nat} : ∀ (rev : List Nat) (later : Std.HashSet Nat)
    (done : List Nat), (∀ x, later.contains x = done.contains x) → TopoSorted m (rev.reverse ++ done) →
    topoCheckRev m rev later = none
  | [], _, _, _, _ => rfl
  | b :: rest, later, done, hl, ht => by
    have ht' : TopoSorted m (rest.reverse ++ (b :: done)) := by
      simpa [List.reverse_cons, List.append_assoc] using ht
    have hb := (TopoSorted.suffix rest.reverse (b :: done) ht').1
    simp only [topoCheckRev]
    have hall : (ptrSlots m b).all (fun p => p == 0 || later.contains p) = true := by
      rw [List.all_eq_true]
      intro p hp
      rcases hb p hp with h0 | hm
      · simp [h0]
      · rw [hl p]
        simp only [Bool.or_eq_true, beq_iff_eq]
        exact Or.inr (List.contains_iff_mem.2 hm)
    rw [if_pos hall]
    apply topoCheckRev_complete rest (later.insert b) (b :: done) _ ht'
    intro x
    rw [Std.HashSet.contains_insert, hl x, List.contains_cons]
    by_cases hxb : x = b
    · subst hxb; simp
    · have : (b == x) = false := by simpa using Ne.symm hxb
      have h2 : (x == b) = false := by simpa using hxb
      rw [this, h2]

theorem coverCheck_complete : ∀ (n a : Nat), coverCheck n a (blocksList a n) = .ok ()
  | 0, a => rfl
  | n + 1, a => by
    rw [blocksList_succ]
    simp only [coverCheck, if_true]
    exact coverCheck_complete n (a + blockSize)

theorem sorted_perm_eq (l1 l2 : List Nat) (h1 : l1.Pairwise (· ≤ ·)) (h2 : l2.Pairwise (· ≤ ·))
    (hp : l1.Perm l2) : l1 = l2 :=
  hp.eq_of_pairwise (fun _ _ _ _ => Nat.le_antisymm) h1 h2

theorem blocksList_sorted (base n : Nat) : (blocksList base n).Pairwise (· ≤ ·) := by
  unfold blocksList
  rw [List.pairwise_map]
  exact List.Pairwise.imp (fun {a b} (h : a < b) => by omega) List.pairwise_lt_range

theorem allZeroFrom_complete {m : Nat → Nat} : ∀ (n a : Nat), (∀ i, i < n → m (a + 8 * i) = 0) →
    allZeroFrom m n a = .ok ()
  | 0, _, _ => rfl
  | n + 1, a, h => by
    simp only [allZeroFrom]
    have h0 := h 0 (by omega)
    simp only [Nat.mul_zero, Nat.add_zero] at h0
    rw [if_pos h0]
    apply allZeroFrom_complete n (a + 8)
    intro i hi
    have := h (i + 1) (by omega)
    rw [show a + 8 + 8 * i = a + 8 * (i + 1) by omega]
    exact this

theorem firstFailing_eq_none {xs : List Nat} {bad : Nat → Bool} (h : ∀ x, x ∈ xs → bad x = false) :
    firstFailing xs bad = none := by
  unfold firstFailing
  rw [List.find?_eq_none]
  intro x hx
  rw [h x hx]
  simp

/-- every live block has a reference from a root, a deferred block, or a live block of smaller rank; so a
set of live blocks that contains the roots and the slots of deferred blocks and is closed under pointer
slots contains every live block -/
theorem live_sub_closed {m : Nat → Nat} {base limit heap free F : Nat} {roots pend lin lazy live : List Nat}
    (I : InvW m base limit heap free roots pend lin lazy live F) {ord : List Nat} (hord : ord.Perm live)
    (htopo : TopoSorted m ord) {S : List Nat}
    (hroots : ∀ r ∈ roots ++ ptrFields m lazy, r = 0 ∨ r ∈ S)
    (hclosed : ∀ b ∈ S, ∀ q ∈ ptrSlots m b, q = 0 ∨ q ∈ S) :
    ∀ (n : Nat) (b : Nat), b ∈ live → rk ord b < n → b ∈ S := by
  have hnd : live.Nodup := by
    have := I.nodup
    rw [nodup4_iff] at this
    exact this.2.2.1
  have hcl : ∀ b ∈ live, ∀ q ∈ ptrSlots m b, q = 0 ∨ q ∈ live := by
    intro b hb q hq
    exact I.fields_live q (ptrSlots_sub_ptrFields (List.mem_append_left _ hb) q hq)
  intro n
  induction n with
  | zero => intro b _ h; exact absurd h (Nat.not_lt_zero _)
  | succ n ih =>
    intro b hb hr
    have hb0 : b ≠ 0 := I.live_ne_zero hb
    have hc := I.counts b hb
    have hpos : 0 < roots.count b + (ptrFields m (live ++ lazy)).count b := by omega
    by_cases h1 : 0 < roots.count b
    · rcases hroots b (List.mem_append_left _ (List.count_pos_iff.1 h1)) with h | h
      · exact absurd h hb0
      · exact h
    · have h2 : 0 < (ptrFields m (live ++ lazy)).count b := by omega
      have hmem := List.count_pos_iff.1 h2
      rw [ptrFields_append] at hmem
      rcases List.mem_append.1 hmem with hl | hl
      · -- from a live block of smaller rank
        unfold ptrFields at hl
        obtain ⟨b', hb', hq⟩ := List.mem_flatMap.1 hl
        have hedge := edge_rank hord hnd htopo hb' hq hb0
        have hb'S : b' ∈ S := ih b' hb' (by have := hedge.2; omega)
        rcases hclosed b' hb'S b hq with h | h
        · exact absurd h hb0
        · exact h
      · rcases hroots b (List.mem_append_right _ hl) with h | h
        · exact absurd h hb0
        · exact h

theorem topoSorted_closed {m : Nat → Nat} : ∀ (acc : List Nat), TopoSorted m acc →
    ∀ b ∈ acc, ∀ q ∈ ptrSlots m b, q = 0 ∨ q ∈ acc
  | [], _, b, hb, _, _ => by simp at hb
  | a :: acc, ht, b, hb, q, hq => by
    rcases List.mem_cons.1 hb with rfl | hb
    · rcases ht.1 q hq with h | h
      · exact Or.inl h
      · exact Or.inr (List.mem_cons_of_mem _ h)
    · rcases topoSorted_closed acc ht.2 b hb q hq with h | h
      · exact Or.inl h
      · exact Or.inr (List.mem_cons_of_mem _ h)

/-- COMPLETENESS OF THE CHECKER: on a memory that satisfies the invariant, `invCheckFn` succeeds and returns
the witnesses of the invariant (the live blocks in the order of its traversal) -/
theorem invCheckFn_complete {m : Nat → Nat} {base limit heap free F : Nat}
    {roots pend lin lazy live : List Nat}
    (I : InvW m base limit heap free roots pend lin lazy live F) :
    ∃ live', invCheckFn m base limit heap free roots pend = .ok (lin, lazy, live', F) ∧ live'.Perm live := by
  obtain ⟨ord, hord, htopo⟩ := I.acyclic
  have hnd4 := I.nodup
  rw [nodup4_iff] at hnd4
  have hndlive : live.Nodup := hnd4.2.2.1
  have hcard := I.card
  have hFb := I.frontier_block
  have hFr := I.frontier_room
  have hb0 : base ≠ 0 := Nat.pos_iff_ne_zero.1 I.base_pos
  have hnB : (F - base) / 64 ≤ (limit - base) / 64 := Nat.div_le_div_right (by omega)
  have hcl : ∀ b ∈ live, ∀ q ∈ ptrSlots m b, q = 0 ∨ q ∈ live := by
    intro b hb q hq
    exact I.fields_live q (ptrSlots_sub_ptrFields (List.mem_append_left _ hb) q hq)
  -- (i) the linear free list
  have hwalk1 : checkedWalk m base limit false "(i) linear free list" ((limit - base) / blockSize + 2) heap [] =
      .ok lin := by
    have := checkedWalk_false_complete (base := base) (hi := limit) (what := "(i) linear free list") lin ((limit - base) / blockSize + 2)
      heap [] I.lin_chain (fun x hx => by
        have h1 := I.lin_block hx
        exact ⟨h1.1, by have := h1.2; omega⟩)
      (by unfold blockSize; omega)
    simpa using this
  -- (ii) the deferred list
  have hmF : m F = 0 := I.zero_above F (Nat.le_refl _) (by omega) (by unfold IsBlock at hFb; omega)
  have hwalk2 : checkedWalk m base limit true "(ii) lazy free list" ((limit - base) / blockSize + 2) free [] =
      .ok (lazy ++ [F]) := by
    have := checkedWalk_true_complete (base := base) (hi := limit) (what := "(ii) lazy free list") lazy F ((limit - base) / blockSize + 2)
      free [] I.lazy_chain (by
        intro x hx
        rcases List.mem_append.1 hx with h | h
        · have h1 := I.lazy_block h
          exact ⟨h1.1, by have := h1.2; omega⟩
        · have : x = F := by simpa using h
          subst this
          exact ⟨hFb, hFr⟩) hmF (by unfold blockSize; omega)
    simpa using this
  have hblk : ∀ b ∈ live, IsBlock base b ∧ b < F := fun b hb => I.live_block hb
  have hinit : DfsInv (m := m) (live := live) (ord := ord) (roots ++ ptrFields m lazy)
      ((roots ++ ptrFields m lazy).map Work.visit) ∅ [] := by
    have hg : grays ((roots ++ ptrFields m lazy).map Work.visit) = [] := by
      have := grays_visits (roots ++ ptrFields m lazy) []
      simpa [grays] using this
    refine ⟨?_, ?_, ?_, by rw [hg]; simp, by rw [hg]; simp, ?_, trivial, ?_⟩
    · intro w hw
      obtain ⟨r, hr, rfl⟩ := List.mem_map.1 hw
      rcases List.mem_append.1 hr with h | h
      · exact I.roots_live r h
      · exact I.fields_live r (by rw [ptrFields_append]; exact List.mem_append_right _ h)
    · rw [List.pairwise_map]
      exact List.pairwise_of_forall (fun _ _ p' e => by cases e)
    · intro x; rw [hg]; simp
    · intro above p below e
      exfalso
      have : Work.finish p ∈ (roots ++ ptrFields m lazy).map Work.visit := by rw [e]; simp
      obtain ⟨z, _, hz⟩ := List.mem_map.1 this
      cases hz
    · intro r hr
      exact Or.inr (Or.inr (Or.inr (List.mem_map.2 ⟨r, hr, rfl⟩)))
  have hlivelen : live.length ≤ (F - base) / 64 := by omega
  obtain ⟨live', hreach, hres⟩ := reachLoop_complete (base := base) (F := F) (roots ++ ptrFields m lazy) hord
    hndlive htopo hblk hcl (8 * ((F - base) / blockSize) + roots.length + 3 * lazy.length + 8)
    ((roots ++ ptrFields m lazy).map Work.visit) ∅ [] hinit (by
      unfold measure
      have hg : grays ((roots ++ ptrFields m lazy).map Work.visit) = [] := by
        have := grays_visits (roots ++ ptrFields m lazy) []
        simpa [grays] using this
      rw [hg]
      have hpl : (ptrFields m lazy).length = 3 * lazy.length := ptrFields_length m lazy
      simp only [List.length_map, List.length_append, List.length_nil, Nat.add_zero, hpl, blockSize]
      omega)
  -- the result of the traversal is the set of live blocks
  have hsub : ∀ b ∈ live, b ∈ live' := by
    intro b hb
    exact live_sub_closed I hord htopo hres.roots (topoSorted_closed live' hres.topo) (rk ord b + 1) b hb
      (Nat.lt_succ_self _)
  have hperm : live'.Perm live :=
    (List.perm_ext_iff_of_nodup hres.nd hndlive).2 (fun a => ⟨hres.sub a, hsub a⟩)
  refine ⟨live', ?_, hperm⟩
  have htc : topoCheckRev m live'.reverse ∅ = none :=
    topoCheckRev_complete live'.reverse ∅ [] (by intro x; simp) (by simpa using hres.topo)
  have hv : firstFailing (roots ++ ptrFields m (live' ++ lazy))
      (fun p => p != 0 && !(Std.HashSet.ofList live').contains p) = none := by
    apply firstFailing_eq_none
    intro p hp
    have hpl : p = 0 ∨ p ∈ live := by
      rcases List.mem_append.1 hp with h | h
      · exact I.roots_live p h
      · apply I.fields_live p
        rw [ptrFields_append] at h ⊢
        rcases List.mem_append.1 h with h | h
        · unfold ptrFields at h ⊢
          obtain ⟨b, hb, hq⟩ := List.mem_flatMap.1 h
          exact List.mem_append_left _ (List.mem_flatMap.2 ⟨b, hperm.mem_iff.1 hb, hq⟩)
        · exact List.mem_append_right _ h
    rcases hpl with h0 | hl
    · simp [h0]
    · have : (Std.HashSet.ofList live').contains p = true := by
        rw [Std.HashSet.contains_ofList]; exact List.contains_iff_mem.2 (hperm.mem_iff.2 hl)
      simp [this]
  have hpermAll : (lin ++ lazy ++ live' ++ pend).Perm (blocksList base ((F - base) / 64)) := by
    have h1 : (lin ++ lazy ++ live' ++ pend).Perm (lin ++ lazy ++ live ++ pend) :=
      (List.Perm.append_left _ hperm).append_right _
    refine h1.trans ?_
    have hFe : F = base + 64 * ((F - base) / 64) := by unfold IsBlock at hFb; omega
    rw [List.perm_ext_iff_of_nodup I.nodup (blocksList_nodup _ _)]
    intro a
    rw [I.cover a, mem_blocksList, ← hFe]
  have hsort : (lin ++ lazy ++ live' ++ pend).mergeSort (· ≤ ·) = blocksList base ((F - base) / 64) := by
    apply sorted_perm_eq
    · have := List.pairwise_mergeSort (le := fun (a b : Nat) => decide (a ≤ b))
        (fun a b c h1 h2 => by simp only [decide_eq_true_eq] at *; omega)
        (fun a b => by simp only [Bool.or_eq_true, decide_eq_true_eq]; omega) (lin ++ lazy ++ live' ++ pend)
      exact this.imp (fun h => by simpa using h)
    · exact blocksList_sorted _ _
    · exact (List.mergeSort_perm _ _).trans hpermAll
  have hcov : coverCheck ((F - base) / blockSize) base ((lin ++ lazy ++ live' ++ pend).mergeSort (· ≤ ·)) = .ok () := by
    rw [hsort]; exact coverCheck_complete _ _
  have hzero : allZeroFrom m ((limit - F) / 8) F = .ok () := by
    apply allZeroFrom_complete
    intro i hi
    apply I.zero_above
    · omega
    · have : 8 * i + 8 ≤ limit - F := by
        have := Nat.div_mul_le_self (limit - F) 8
        omega
      omega
    · unfold IsBlock at hFb; omega
  have hcnt : firstFailing live' (fun b => m b + 1 != (countMap (roots ++ ptrFields m (live' ++ lazy))).getD b 0) =
      none := by
    apply firstFailing_eq_none
    intro b hb
    have hbl := hperm.mem_iff.1 hb
    have hc := I.counts b hbl
    have hpf : (ptrFields m (live' ++ lazy)).count b = (ptrFields m (live ++ lazy)).count b := by
      apply List.Perm.count_eq
      unfold ptrFields
      exact List.Perm.flatMap_right _ (List.Perm.append_right _ hperm)
    rw [countMap_getD, List.count_append, hpf, ← hc]
    simp
  have hpend : firstFailing pend (fun b => m b != 0) = none := by
    apply firstFailing_eq_none
    intro b hb
    simp [I.pend_hdr b hb]
  have hlinne : lin.isEmpty = false := by
    cases hlin : lin with
    | nil => exact absurd hlin I.lin_ne
    | cons a t => rfl
  unfold invCheckFn
  simp only [hb0, if_false, hwalk1, hlinne, Bool.false_eq_true, hwalk2, List.getLastD_concat,
    List.dropLast_concat, hreach, htc, hv, hcov, hzero, hcnt, hpend]

end Scc.Heap
