/-
Scc.Heap.ProofsStore — `store_values` / `store_fields` / `store`.
The shape of a stored block is described by reading it back: `fieldsAt` with the kinds of the stored
fields returns them, the other pointer slots are null (`StoreValuesPost`); `ptrSlots_count` turns this
shape, which `load` assumes as well (`BlockPre`), into the count of the references a block holds.
-/
import Scc.Heap.ProofsOps

namespace Scc.Heap

theorem wr_off {s : HState} {b : Nat} (v k : Nat) (hb : IsBlock s.base b) (hlim : b + 64 ≤ s.limit)
    (hk : k < 64) (hk8 : k % 8 = 0) :
    wr s (b + k) v = .ok { s with mem := s.mem.set (b + k) v } := by
  unfold IsBlock at hb
  exact wr_ok v (by omega) (by omega) (by omega)

theorem rd_off {s : HState} {b : Nat} (k : Nat) (hb : IsBlock s.base b) (hlim : b + 64 ≤ s.limit)
    (hk : k < 64) (hk8 : k % 8 = 0) :
    rd s (b + k) = .ok (s.mem.get (b + k)) := by
  unfold IsBlock at hb
  exact rd_ok (by omega) (by omega) (by omega)

theorem fstOff_eq (i : Nat) : fstOff i = 16 * i + 16 := by
  simp only [fstOff, fieldOffset]; omega

theorem sndOff_eq (i : Nat) : sndOff i = 16 * i + 24 := by
  simp only [sndOff, fieldOffset]; omega

/-- The values `load_values` reads for kinds `ks` from fields `i, i+1, ..` of block `blk`. -/
def fieldsAt (m : Nat → Nat) (blk : Nat) : Nat → List Bool → List Field
  | _, [] => []
  | i, k :: ks =>
    (if k then Field.ptr (m (blk + fstOff i)) (m (blk + sndOff i)) else Field.int (m (blk + sndOff i)))
      :: fieldsAt m blk (i + 1) ks

theorem fieldsAt_append (m : Nat → Nat) (blk : Nat) : ∀ (i : Nat) (a b : List Bool),
    fieldsAt m blk i (a ++ b) = fieldsAt m blk i a ++ fieldsAt m blk (i + a.length) b
  | i, [], b => by simp [fieldsAt]
  | i, k :: a, b => by
    simp only [List.cons_append, fieldsAt, List.length_cons, fieldsAt_append m blk (i + 1) a b]
    rw [show i + 1 + a.length = i + (a.length + 1) by omega]

theorem fieldsAt_congr {m m' : Nat → Nat} {blk : Nat}
    (h : ∀ k, 0 < k → k < 64 → m' (blk + k) = m (blk + k)) : ∀ (i : Nat) (ks : List Bool),
    i + ks.length ≤ 3 → fieldsAt m' blk i ks = fieldsAt m blk i ks
  | _, [], _ => rfl
  | i, k :: ks, hl => by
    simp only [List.length_cons] at hl
    simp only [fieldsAt, fieldsAt_congr h (i + 1) ks (by omega)]
    rw [h (fstOff i) (by rw [fstOff_eq]; omega) (by rw [fstOff_eq]; omega),
        h (sndOff i) (by rw [sndOff_eq]; omega) (by rw [sndOff_eq]; omega)]

/-- Among the pointer slots `i, i+1, ..` of the fields of kinds `ks`, where those of the integer
fields are null, the non-null ones are the pointers `load_values` reads. -/
theorem count_slots_from (m : Nat → Nat) (blk : Nat) {x : Nat} (hx : x ≠ 0) :
    ∀ (ks : List Bool) (i : Nat),
    (∀ j (hj : j < ks.length), ks[j] = false → m (blk + fstOff (i + j)) = 0) →
    ((List.range' i ks.length).map fun j => m (blk + fstOff j)).count x =
      (ptrsOf (fieldsAt m blk i ks)).count x
  | [], _, _ => rfl
  | k :: ks, i, h => by
    have ih := count_slots_from m blk hx ks (i + 1) (fun j hj hk => by
      have := h (j + 1) (by simpa using hj) (by simpa using hk)
      rwa [show i + (j + 1) = i + 1 + j by omega] at this)
    simp only [List.length_cons, List.range'_succ, List.map_cons, fieldsAt]
    cases k with
    | true => simp only [if_true, ptrsOf, List.count_cons, ih]
    | false =>
      have h0 := h 0 (by simp) rfl
      rw [Nat.add_zero] at h0
      simp only [Bool.false_eq_true, if_false, ptrsOf]
      rw [List.count_cons_of_ne (by rw [h0]; exact Ne.symm hx), ih]

/-- Fields of kinds `ks` right-aligned among the first `cap` fields of a block whose other pointer
slots (unused fields, integer fields) are null: the non-null ones among the first `cap` pointer
slots are exactly the pointers read back. -/
theorem count_slots {m : Nat → Nat} {blk cap : Nat} {ks : List Bool} (hlen : ks.length ≤ cap)
    (hun : ∀ i, i < cap → slotLoaded ks cap i = false → m (blk + fstOff i) = 0)
    {x : Nat} (hx : x ≠ 0) :
    ((List.range cap).map fun i => m (blk + fstOff i)).count x =
      (ptrsOf (fieldsAt m blk (cap - ks.length) ks)).count x := by
  have hsplit : List.range cap =
      List.range' 0 (cap - ks.length) ++ List.range' (cap - ks.length) ks.length := by
    have h := List.range'_append_1 (s := 0) (m := cap - ks.length) (n := ks.length)
    rw [Nat.zero_add] at h
    rw [List.range_eq_range', h]
    congr 1; omega
  rw [hsplit, List.map_append, List.count_append,
    count_slots_from m blk hx ks (cap - ks.length) (fun j hj hk => ?_), Nat.add_eq_right]
  · apply List.count_eq_zero.mpr
    intro hmem
    obtain ⟨i, hi, rfl⟩ := List.mem_map.mp hmem
    have hi' : i < cap - ks.length := by simpa using hi
    exact hx (hun i (by omega) (by simp [slotLoaded]; omega))
  · apply hun _ (by omega)
    simp only [slotLoaded, Nat.le_add_right, decide_true, Bool.true_and, Nat.add_sub_cancel_left]
    rw [List.getD_eq_getElem?_getD, List.getElem?_eq_getElem hj, Option.getD_some, hk,
      Bool.and_false]

theorem ptrSlots_eq_map (m : Nat → Nat) (blk : Nat) :
    ptrSlots m blk = (List.range 3).map fun i => m (blk + fstOff i) := rfl

/-- Under the shape `store` produces and `load` assumes (values right-aligned, null pointer slot for
unused and integer fields, link in the last pointer slot of a non-final block) the non-null pointer
slots of a block are exactly the pointers loaded plus the link. -/
theorem ptrSlots_count {m : Nat → Nat} {blk : Nat} {ks : List Bool} {pos : BlockPosition}
    (hlen : ks.length ≤ fieldsPerBlock - pos.toNat)
    (hun : ∀ i, i < fieldsPerBlock - pos.toNat →
      slotLoaded ks (fieldsPerBlock - pos.toNat) i = false → m (blk + fstOff i) = 0)
    {x : Nat} (hx : x ≠ 0) :
    (ptrSlots m blk).count x =
      (if pos = .other then [m (blk + fstOff (fieldsPerBlock - 1))].count x else 0) +
      (ptrsOf (fieldsAt m blk (fieldsPerBlock - pos.toNat - ks.length) ks)).count x := by
  rw [← count_slots hlen hun hx, ptrSlots_eq_map]
  cases pos with
  | last => simp only [reduceCtorEq, if_false, Nat.zero_add]; rfl
  | other =>
    rw [if_pos rfl, Nat.add_comm, ← List.count_append]
    rfl

def isPtrF : Field → Bool
  | .ptr _ _ => true
  | .int _ => false

def valWord : Field → Nat
  | .ptr _ w => w
  | .int w => w

theorem storeValue_spec {s : HState} {blk off : Nat} (f : Field) (hb : IsBlock s.base blk)
    (hlim : blk + 64 ≤ s.limit) (hoff : off < 3) :
    ∃ s', storeValue s f blk off = .ok s' ∧
      s'.mem.get (blk + sndOff off) = valWord f ∧ s'.mem.get (blk + fstOff off) = f.ptrPart ∧
      s'.heap = s.heap ∧ s'.free = s.free ∧ s'.base = s.base ∧ s'.limit = s.limit ∧
      (∀ a, a ≠ blk + fstOff off → a ≠ blk + sndOff off → s'.mem.get a = s.mem.get a) := by
  have e : storeValue s f blk off =
      match wr s (blk + sndOff off) (valWord f) with
      | .error e => .error e
      | .ok s1 => wr s1 (blk + fstOff off) f.ptrPart := by cases f <;> rfl
  have hne : blk + sndOff off ≠ blk + fstOff off := by rw [sndOff_eq, fstOff_eq]; omega
  rw [e, wr_off _ _ hb hlim (by rw [sndOff_eq]; omega) (by rw [sndOff_eq]; omega)]
  refine ⟨_, wr_off _ _ hb hlim (by rw [fstOff_eq]; omega) (by rw [fstOff_eq]; omega), ?_, ?_,
    rfl, rfl, rfl, rfl, fun a h1 h2 => ?_⟩
  · show ((s.mem.set _ _).set _ _).get _ = _
    rw [Mem.get_set, if_neg (Ne.symm hne), Mem.get_set, if_pos rfl]
  · show ((s.mem.set _ _).set _ _).get _ = _
    rw [Mem.get_set, if_pos rfl]
  · show ((s.mem.set _ _).set _ _).get _ = _
    rw [Mem.get_set, if_neg (Ne.symm h1), Mem.get_set, if_neg (Ne.symm h2)]

theorem storeZerosFrom_spec (blk : Nat) : ∀ (n k : Nat) (s : HState), k + n ≤ 3 →
    IsBlock s.base blk → blk + 64 ≤ s.limit →
    ∃ s', storeZerosFrom s blk k n = .ok s' ∧
      (∀ i, k ≤ i → i < k + n → s'.mem.get (blk + fstOff i) = 0) ∧
      s'.heap = s.heap ∧ s'.free = s.free ∧ s'.base = s.base ∧ s'.limit = s.limit ∧
      (∀ a, (∀ i, k ≤ i → i < k + n → a ≠ blk + fstOff i) → s'.mem.get a = s.mem.get a)
  | 0, k, s, _, _, _ =>
    ⟨s, rfl, fun i h1 h2 => by omega, rfl, rfl, rfl, rfl, fun _ _ => rfl⟩
  | n + 1, k, s, hk, hb, hlim => by
    obtain ⟨s', hs', hz, hh, hf, hbs, hl, hfr⟩ :=
      storeZerosFrom_spec blk n (k + 1) { s with mem := s.mem.set (blk + fstOff k) 0 } (by omega)
        hb hlim
    refine ⟨s', ?_, fun i h1 h2 => ?_, hh, hf, hbs, hl, fun a ha => ?_⟩
    · rw [storeZerosFrom, wr_off _ _ hb hlim (by rw [fstOff_eq]; omega) (by rw [fstOff_eq]; omega)]
      exact hs'
    · by_cases hik : i = k
      · subst hik
        rw [hfr _ (fun j hj1 hj2 => by rw [fstOff_eq, fstOff_eq]; omega)]
        show (s.mem.set _ 0).get _ = _
        rw [Mem.get_set, if_pos rfl]
      · exact hz i (by omega) (by omega)
    · rw [hfr a (fun i h1 h2 => ha i (by omega) (by omega))]
      show (s.mem.set _ 0).get _ = _
      rw [Mem.get_set, if_neg (Ne.symm (ha k (Nat.le_refl _) (by omega)))]

/-- `store_values` on the reversed list: field `rev[j]` goes to index `ff - 1 - j`, the pointer slots
of the indices below `ff - |rev|` are nulled, nothing else is written -/
theorem storeValuesRev_spec (blk : Nat) : ∀ (rev : List Field) (ff : Nat) (s : HState),
    rev.length ≤ ff → ff ≤ 3 → IsBlock s.base blk → blk + 64 ≤ s.limit →
    ∃ s', storeValuesRev s blk rev ff = .ok s' ∧
      (∀ j (hj : j < rev.length), s'.mem.get (blk + sndOff (ff - 1 - j)) = valWord rev[j] ∧
        s'.mem.get (blk + fstOff (ff - 1 - j)) = rev[j].ptrPart) ∧
      (∀ i, i < ff - rev.length → s'.mem.get (blk + fstOff i) = 0) ∧
      s'.heap = s.heap ∧ s'.free = s.free ∧ s'.base = s.base ∧ s'.limit = s.limit ∧
      (∀ a, (∀ i, i < ff → a ≠ blk + fstOff i ∧ a ≠ blk + sndOff i) → s'.mem.get a = s.mem.get a)
  | [], ff, s, _, hff, hb, hlim => by
    obtain ⟨s', hs', hz, hh, hf, hbs, hl, hfr⟩ := storeZerosFrom_spec blk ff 0 s (by omega) hb hlim
    exact ⟨s', hs', fun j hj => by simp at hj, fun i hi => hz i (Nat.zero_le _) (by simpa using hi),
      hh, hf, hbs, hl, fun a ha => hfr a (fun i _ h2 => (ha i (by omega)).1)⟩
  | f :: rest, 0, s, hl, _, _, _ => by simp at hl
  | f :: rest, ff + 1, s, hl, hff, hb, hlim => by
    simp only [List.length_cons] at hl
    obtain ⟨s1, h1, p1, p2, p3, p4, p5, p6, p7⟩ := storeValue_spec f hb hlim (off := ff) (by omega)
    obtain ⟨s', hs', hv, hz, hh, hf, hbs, hl', hfr⟩ :=
      storeValuesRev_spec blk rest ff s1 (by omega) (by omega) (by rw [p5]; exact hb)
        (by rw [p6]; exact hlim)
    refine ⟨s', by rw [storeValuesRev, h1]; exact hs', fun j hj => ?_, fun i hi => ?_,
      by rw [hh, p3], by rw [hf, p4], by rw [hbs, p5], by rw [hl', p6], fun a ha => ?_⟩
    · cases j with
      | zero =>
        simp only [List.getElem_cons_zero, Nat.add_sub_cancel, Nat.sub_zero]
        rw [hfr _ (fun i hi => by rw [sndOff_eq, fstOff_eq, sndOff_eq]; omega),
          hfr _ (fun i hi => by rw [fstOff_eq, fstOff_eq, sndOff_eq]; omega)]
        exact ⟨p1, p2⟩
      | succ j =>
        simp only [List.getElem_cons_succ]
        rw [show ff + 1 - 1 - (j + 1) = ff - 1 - j by omega]
        exact hv j (by simpa using hj)
    · simp only [List.length_cons] at hi
      exact hz i (by omega)
    · rw [hfr a (fun i hi => ha i (by omega))]
      exact p7 a (ha ff (by omega)).1 (ha ff (by omega)).2

theorem fieldsAt_of_words (m : Nat → Nat) (blk : Nat) : ∀ (vals : List Field) (i : Nat),
    (∀ j (hj : j < vals.length), m (blk + sndOff (i + j)) = valWord vals[j] ∧
      m (blk + fstOff (i + j)) = vals[j].ptrPart) →
    fieldsAt m blk i (vals.map isPtrF) = vals
  | [], i, _ => rfl
  | f :: rest, i, h => by
    have h0 := h 0 (by simp)
    simp only [Nat.add_zero, List.getElem_cons_zero] at h0
    have ih := fieldsAt_of_words m blk rest (i + 1) (fun j hj => by
      have := h (j + 1) (by simpa using hj)
      simp only [List.getElem_cons_succ] at this
      rw [show i + 1 + j = i + (j + 1) by omega]
      exact this)
    simp only [List.map_cons, fieldsAt, ih]
    cases f with
    | ptr p w => simp [isPtrF, h0.1, h0.2, valWord, Field.ptrPart]
    | int w => simp [isPtrF, h0.1, valWord]

/-- Postcondition of `store_values`: reading the block back with the kinds of the stored fields
returns the stored fields, the other pointer slots are null, nothing else is written. -/
structure StoreValuesPost (s : HState) (b cap : Nat) (vals : List Field) (s' : HState) : Prop where
  heap : s'.heap = s.heap
  free : s'.free = s.free
  base : s'.base = s.base
  limit : s'.limit = s.limit
  frame : ∀ a, (∀ i, i < cap → a ≠ b + fstOff i ∧ a ≠ b + sndOff i) → s'.mem.get a = s.mem.get a
  read : fieldsAt s'.mem.get b (cap - vals.length) (vals.map isPtrF) = vals
  unloaded : ∀ i, i < cap → slotLoaded (vals.map isPtrF) cap i = false → s'.mem.get (b + fstOff i) = 0

theorem storeValues_spec {s : HState} {b cap : Nat} {vals : List Field}
    (hb : IsBlock s.base b) (hlim : b + 64 ≤ s.limit) (hcap : cap ≤ 3) (hlen : vals.length ≤ cap) :
    ∃ s', storeValues s vals b cap = .ok s' ∧ StoreValuesPost s b cap vals s' := by
  have hlr : vals.reverse.length = vals.length := List.length_reverse
  obtain ⟨s', hs', hv, hz, hh, hf, hbs, hl, hfr⟩ :=
    storeValuesRev_spec b vals.reverse cap s (by rw [hlr]; exact hlen) hcap hb hlim
  have hwords : ∀ j (hj : j < vals.length),
      s'.mem.get (b + sndOff (cap - vals.length + j)) = valWord vals[j] ∧
      s'.mem.get (b + fstOff (cap - vals.length + j)) = vals[j].ptrPart := by
    intro j hj
    have := hv (vals.length - 1 - j) (by rw [hlr]; omega)
    rw [List.getElem_reverse] at this
    have e1 : cap - 1 - (vals.length - 1 - j) = cap - vals.length + j := by omega
    have e2 : vals.length - 1 - (vals.length - 1 - j) = j := by omega
    simp only [e1, e2] at this
    exact this
  refine ⟨s', hs', hh, hf, hbs, hl, hfr, fieldsAt_of_words _ _ _ _ hwords, fun i hi hs => ?_⟩
  unfold slotLoaded at hs
  simp only [List.length_map] at hs
  by_cases hlow : i < cap - vals.length
  · exact hz i (by rw [hlr]; exact hlow)
  · have hge : cap - vals.length ≤ i := by omega
    simp only [hge, hi, decide_true, Bool.true_and] at hs
    have hj : i - (cap - vals.length) < vals.length := by omega
    have := (hwords (i - (cap - vals.length)) hj).2
    rw [show cap - vals.length + (i - (cap - vals.length)) = i by omega] at this
    rw [this]
    rw [List.getD_eq_getElem?_getD, List.getElem?_map, List.getElem?_eq_getElem hj] at hs
    simp only [Option.map_some, Option.getD_some] at hs
    cases hv' : vals[i - (cap - vals.length)] with
    | ptr p w => rw [hv'] at hs; simp [isPtrF] at hs
    | int w => rfl

/-- both free lists are used up: the linear free list holds its one block at the frontier and the deferred
list is empty.  Only in this configuration does `acquire` move the frontier (`acquire_spec`). -/
def Exhausted (lin lazy : List Nat) : Prop := lin.length = 1 ∧ lazy = []

/-- One block of `store_fields`: (link,) values, `acquire_block`; afterwards the block is a live
object held by one root and the roots stored into it are consumed.  On the way only words 1..7 of the
block are written before `acquire_block`, which changes headers only; the block then holds the
values (right-aligned, null pointer slots elsewhere), the link, and count 0. -/
theorem storeBlock_spec {s : HState} {F : Nat} {roots lin lazy live : List Nat}
    (h : InvS s roots [] lin lazy live F) (vals : List Field) (pos : BlockPosition) (prev : Nat)
    (rest' : List Nat) (hlen : vals.length ≤ fieldsPerBlock - pos.toNat)
    (hroots : ∀ x, x ≠ 0 → roots.count x =
      (ptrsOf vals).count x + (if pos = .other then [prev].count x else 0) + rest'.count x)
    (hroom : F + 128 ≤ s.limit) :
    ∃ s1 s2 s3 lin' lazy' live' F',
      (if pos = posOther then wr s (s.heap + fstOff (fieldsPerBlock - 1)) prev else .ok s) = .ok s1 ∧
      storeValues s1 vals s1.heap (fieldsPerBlock - pos.toNat) = .ok s2 ∧
      acquire s2 = .ok (s3, s.heap) ∧ SameHeap s s3 ∧
      InvS s3 (s.heap :: rest') [] lin' lazy' live' F' ∧
      ((F' = F ∧ ¬ Exhausted lin lazy) ∨ (F' = F + 64 ∧ Exhausted lin lazy ∧ Exhausted lin' lazy')) ∧
      s.heap ∈ lin ∧ SameHeap s s2 ∧
      (∀ a, (a ≤ s.heap ∨ s.heap + 64 ≤ a) → s2.mem.get a = s.mem.get a) ∧
      InvS s2 roots [] lin lazy live F ∧
      HeadersOnly (s2.heap :: s2.free :: ptrSlots s2.mem.get s2.free) s2 s3 ∧
      fieldsAt s3.mem.get s.heap (fieldsPerBlock - pos.toNat - vals.length) (vals.map isPtrF) = vals ∧
      (∀ i, i < fieldsPerBlock - pos.toNat →
        slotLoaded (vals.map isPtrF) (fieldsPerBlock - pos.toNat) i = false →
        s3.mem.get (s.heap + fstOff i) = 0) ∧
      (pos = .other → s3.mem.get (s.heap + 48) = prev) ∧
      s3.mem.get s.heap = 0 := by
  have hbl : s.heap ∈ lin := h.heap_mem_lin
  have hbb := h.lin_block hbl
  have hFr := h.frontier_room
  have hFb := h.frontier_block
  have hlim : s.heap + 64 ≤ s.limit := by
    have := hbb.1; unfold IsBlock at *; omega
  -- step 1: the link
  obtain ⟨s1, hs1, hi1, hheap1, hbase1, hlimit1, hlink1, hfr1⟩ :
      ∃ s1, (if pos = posOther then wr s (s.heap + fstOff (fieldsPerBlock - 1)) prev else .ok s) = .ok s1 ∧
        InvS s1 roots [] lin lazy live F ∧ s1.heap = s.heap ∧ s1.base = s.base ∧ s1.limit = s.limit ∧
        (pos = .other → s1.mem.get (s.heap + 48) = prev) ∧
        (∀ a, a ≠ s.heap + 48 → s1.mem.get a = s.mem.get a) := by
    cases pos with
    | last => exact ⟨s, by simp, h, rfl, rfl, rfl, by simp, fun _ _ => rfl⟩
    | other =>
      refine ⟨{ s with mem := s.mem.set (s.heap + 48) prev }, ?_, ?_, rfl, rfl, rfl, ?_, ?_⟩
      · exact wr_off prev 48 hbb.1 hlim (by omega) (by omega)
      · show InvW (s.mem.set (s.heap + 48) prev).get _ _ _ _ _ _ _ _ _ _
        rw [Mem.get_set_upd]
        exact InvW.write_free h (Or.inl hbl) (by omega) (by omega)
      · intro _; show (s.mem.set _ prev).get _ = prev; rw [Mem.get_set, if_pos rfl]
      · intro a ha
        show (s.mem.set (s.heap + 48) prev).get a = _
        rw [Mem.get_set, if_neg (Ne.symm ha)]
  -- step 2: the values
  have hcap : fieldsPerBlock - pos.toNat ≤ 3 := Nat.sub_le _ _
  obtain ⟨s2, hs2, hpost⟩ := storeValues_spec (s := s1) (b := s1.heap) (vals := vals)
    (by rw [hbase1, hheap1]; exact hbb.1) (by rw [hheap1, hlimit1]; exact hlim) hcap hlen
  rw [hheap1] at hpost
  have hfr2 : ∀ a, (a < s.heap + 16 ∨ s.heap + 64 ≤ a) → s2.mem.get a = s1.mem.get a :=
    fun a ha => hpost.frame a (fun i hi => by rw [fstOff_eq, sndOff_eq]; omega)
  have hi2 : InvS s2 roots [] lin lazy live F := by
    unfold InvS
    rw [hpost.heap, hpost.free, hpost.base, hpost.limit]
    exact InvW.frame_free hi1 (Or.inl hbl) (fun a ha => hfr2 a (by omega))
  have hheap2 : s2.heap = s.heap := by rw [hpost.heap, hheap1]
  have hbase2 : s2.base = s.base := by rw [hpost.base, hbase1]
  -- step 3: acquire
  obtain ⟨s3, lin', lazy', live', F', hacq, hsame, hho, _, hi3, hbump⟩ :=
    acquire_spec hi2 (fun _ _ => by rw [hpost.limit, hlimit1]; exact hroom)
  rw [hheap2] at hacq hi3
  -- step 4: the acquired block
  have hnb : ∀ k, 0 < k → k < 64 → s3.mem.get (s.heap + k) = s2.mem.get (s.heap + k) := by
    intro k hk hk'
    apply hho.nonblock
    rw [hbase2]; exact not_isBlock_add hbb.1 hk hk'
  have hun3 : ∀ i, i < fieldsPerBlock - pos.toNat →
      slotLoaded (vals.map isPtrF) (fieldsPerBlock - pos.toNat) i = false →
      s3.mem.get (s.heap + fstOff i) = 0 := by
    intro i hi hsl
    rw [hnb (fstOff i) (by rw [fstOff_eq]; omega) (by rw [fstOff_eq]; omega)]
    exact hpost.unloaded i hi hsl
  have hrd3 : fieldsAt s3.mem.get s.heap (fieldsPerBlock - pos.toNat - vals.length)
      (vals.map isPtrF) = vals := by
    rw [fieldsAt_congr hnb _ _ (by rw [List.length_map]; omega)]
    exact hpost.read
  have hl3 : pos = .other → s3.mem.get (s.heap + 48) = prev := by
    intro hp
    rw [hnb 48 (by omega) (by omega), hpost.frame _ (fun i hi => ?_), hlink1 hp]
    rw [hp] at hi
    rw [fstOff_eq, sndOff_eq]
    have : i < 2 := hi
    omega
  have hslots : ∀ x, x ≠ 0 → (ptrSlots s3.mem.get s.heap).count x =
      (ptrsOf vals).count x + (if pos = .other then [prev].count x else 0) := by
    intro x hx
    have hc := ptrSlots_count (m := s3.mem.get) (blk := s.heap) (ks := vals.map isPtrF) (pos := pos)
      (by rw [List.length_map]; exact hlen) hun3 hx
    rw [List.length_map, hrd3] at hc
    rw [hc, Nat.add_comm]
    cases pos with
    | last => rfl
    | other => rw [if_pos rfl, if_pos rfl, ← hl3 rfl]; rfl
  -- step 5: adopt
  have hi3' : InvS s3 (ptrSlots s3.mem.get s.heap ++ rest') [s.heap] lin' lazy' live' F' := by
    refine InvW.roots_congr hi3 (fun x hx => ?_)
    rw [List.count_append, hslots x hx, hroots x hx]
  refine ⟨s1, s2, s3, lin', lazy', s.heap :: live', F', hs1, hs2, hacq,
    ⟨by rw [hsame.base, hbase2], by rw [hsame.limit, hpost.limit, hlimit1]⟩, InvW.adopt hi3', ?_,
    hbl, ⟨hbase2, by rw [hpost.limit, hlimit1]⟩, fun a ha => ?_, hi2, hho, hrd3, hun3, hl3,
    hi3.pend_hdr s.heap (by simp)⟩
  · unfold Exhausted
    rcases hbump with ⟨h1, h2⟩ | ⟨h1, h2, h3, h4, h5, _⟩
    · exact Or.inl ⟨h1, h2⟩
    · exact Or.inr ⟨h1, ⟨h2, h3⟩, ⟨h4, h5⟩⟩
  · rw [hfr2 a (by omega), hfr1 a (by omega)]

theorem ptrsOf_append (a b : List Field) : ptrsOf (a ++ b) = ptrsOf a ++ ptrsOf b := by
  induction a with
  | nil => rfl
  | cons f fs ih => cases f <;> simp [ptrsOf, ih]

theorem restLength_le (n : Nat) (pos : BlockPosition) : restLength n pos ≤ n := by
  unfold restLength; split <;> omega

theorem length_drop_restLength (n : Nat) (pos : BlockPosition) :
    n - restLength n pos ≤ fieldsPerBlock - pos.toNat := by
  unfold restLength; split <;> omega

/-- `store_fields` (C09-T1 storeObj: single blocks and chains, by induction on the number of
fields).  `roots` must contain the pointers being stored (and `prev`, the block acquired last, when
continuing a chain); they are replaced by the pointer to the new object. -/
theorem storeFields_spec : ∀ (n : Nat) {s : HState} {F : Nat} {roots lin lazy live : List Nat}
    (toStore : List Field) (pos : BlockPosition) (prev : Nat) (rest : List Nat),
    toStore.length ≤ n →
    InvS s roots [] lin lazy live F →
    (∀ x, x ≠ 0 → roots.count x =
      (ptrsOf toStore).count x + (if pos = .other then [prev].count x else 0) + rest.count x) →
    F + 64 * toStore.length + 64 ≤ s.limit →
    ∃ s' p lin' lazy' live' F', storeFields s toStore pos prev = .ok (s', p) ∧ SameHeap s s' ∧
      InvS s' (p :: rest) [] lin' lazy' live' F' ∧ F ≤ F' ∧ F' ≤ F + 64 * toStore.length ∧
      (Exhausted lin lazy → Exhausted lin' lazy') ∧ (F' = F ∨ Exhausted lin' lazy') := by
  intro n
  induction n with
  | zero =>
    intro s F roots lin lazy live toStore pos prev rest hn h hroots hroom
    have : toStore = [] := List.length_eq_zero_iff.mp (by omega)
    subst this
    rw [storeFields]
    simp only [↓reduceDIte]
    refine ⟨s, _, lin, lazy, live, F, rfl, SameHeap.refl s, ?_, Nat.le_refl _, by simp, id, Or.inl rfl⟩
    refine InvW.roots_congr h (fun x hx => ?_)
    rw [hroots x hx]
    cases pos <;> simp [ptrsOf, List.count_cons, posLast, Ne.symm hx] <;> omega
  | succ n ih =>
    intro s F roots lin lazy live toStore pos prev rest hn h hroots hroom
    by_cases hnil : toStore = []
    · subst hnil
      rw [storeFields]
      simp only [↓reduceDIte]
      refine ⟨s, _, lin, lazy, live, F, rfl, SameHeap.refl s, ?_, Nat.le_refl _, by simp, id, Or.inl rfl⟩
      refine InvW.roots_congr h (fun x hx => ?_)
      rw [hroots x hx]
      cases pos <;> simp [ptrsOf, List.count_cons, posLast, Ne.symm hx] <;> omega
    · have hpos : 0 < toStore.length := List.length_pos_iff.mpr hnil
      have hrl := restLength_lt toStore.length pos hpos
      have hsplit : toStore = toStore.take (restLength toStore.length pos) ++
          toStore.drop (restLength toStore.length pos) := (List.take_append_drop _ _).symm
      obtain ⟨s1, s2, s3, lin3, lazy3, live3, F3, hs1, hs2, hacq, hsame3, hi3, hbump, _⟩ :=
        storeBlock_spec h (toStore.drop (restLength toStore.length pos)) pos prev
          (ptrsOf (toStore.take (restLength toStore.length pos)) ++ rest)
          (by rw [List.length_drop]; exact length_drop_restLength _ _)
          (by
            intro x hx
            rw [hroots x hx, List.count_append]
            conv => lhs; rw [hsplit, ptrsOf_append, List.count_append]
            omega)
          (by omega)
      have hF3 : F ≤ F3 ∧ F3 ≤ F + 64 := by
        rcases hbump with ⟨h1, _⟩ | ⟨h1, _⟩ <;> omega
      obtain ⟨s', p, lin', lazy', live', F', hst, hsame', hi', hle1, hle2, hex, hdisj⟩ :=
        ih (s := s3) (toStore.take (restLength toStore.length pos)) .other s.heap rest
          (by rw [List.length_take]; omega) hi3
          (by
            intro x hx
            simp only [List.count_cons, List.count_append, List.count_nil, if_true]
            by_cases hxb : s.heap = x <;> simp [hxb] <;> omega)
          (by rw [hsame3.limit, List.length_take]; omega)
      refine ⟨s', p, lin', lazy', live', F', ?_, hsame3.trans hsame', hi', by omega, ?_, ?_, ?_⟩
      · rw [storeFields]
        simp only [hnil, ↓reduceDIte]
        rw [hs1]; simp only []
        rw [hs2]; simp only []
        rw [hacq]
        exact hst
      · rw [List.length_take] at hle2; omega
      · intro hP
        rcases hbump with ⟨_, h2⟩ | ⟨_, _, h3⟩
        · exact absurd hP h2
        · exact hex h3
      · rcases hbump with ⟨h1, _⟩ | ⟨_, _, h3⟩
        · rcases hdisj with hd | hd
          · exact Or.inl (by omega)
          · exact Or.inr hd
        · exact Or.inr (hex h3)

/-- `Memory::store` at a statement boundary. -/
theorem storeObj_spec {s : HState} {F : Nat} {roots lin lazy live : List Nat}
    (fields : List Field) (rest : List Nat)
    (h : InvS s roots [] lin lazy live F)
    (hroots : ∀ x, x ≠ 0 → roots.count x = (ptrsOf fields).count x + rest.count x)
    (hroom : F + 64 * fields.length + 64 ≤ s.limit) :
    ∃ s' p lin' lazy' live' F', storeObj s fields = .ok (s', p) ∧ SameHeap s s' ∧
      InvS s' (p :: rest) [] lin' lazy' live' F' ∧ F ≤ F' ∧ F' ≤ F + 64 * fields.length ∧
      (Exhausted lin lazy → Exhausted lin' lazy') ∧ (F' = F ∨ Exhausted lin' lazy') :=
  storeFields_spec fields.length fields .last 0 rest (Nat.le_refl _) h
    (fun x hx => by rw [hroots x hx]; simp) hroom

end Scc.Heap
