/-
  Scc.Heap.RefineTr — the abstract heap with the fields of every object replaced by fields of the same kinds and
  pointer parts (`mapFields g`: the word parts as a concrete machine holds them) commutes with every heap
  operation of the abstract machine (`get`, `remove`, `set`, `share`, `shareAll`, `erase`, allocation, the abstract
  `load`): the operations look at ids, counts, kinds and pointer parts only.  A backend chooses `g` (the word part
  of a tag, of a code pointer) and gets the facts about its translation of the heap from here.
-/
import Scc.Heap.RefineLoad

set_option linter.unusedSimpArgs false

namespace Scc.Heap.Refine

open Scc.Backend Scc.Backend.Abs Scc.Backend.Sim

/-- the object `o` with the fields `g id o.fields` (`id`: its id in the heap) -/
def mapObj (g : Nat → List Abs.Field → List Abs.Field) (id : Nat) (o : Obj) : Obj :=
  { o with fields := g id o.fields }

def mapFields (g : Nat → List Abs.Field → List Abs.Field) (h : Heap) : Heap :=
  h.map fun e => (e.1, mapObj g e.1 e.2)

/-- `g` keeps the number of the fields and the references they hold (their kinds and pointer parts) -/
structure FieldsOK (g : Nat → List Abs.Field → List Abs.Field) : Prop where
  length : ∀ id fs, (g id fs).length = fs.length
  children : ∀ id o, (mapObj g id o).children = o.children

section
variable {g : Nat → List Abs.Field → List Abs.Field}

theorem mapFields_cons (id : Nat) (o : Obj) (h : Heap) :
    mapFields g ((id, o) :: h) = (id, mapObj g id o) :: mapFields g h := rfl

theorem mapFields_get (h : Heap) (id : Nat) : (mapFields g h).get id = (h.get id).map (mapObj g id) := by
  induction h with
  | nil => rfl
  | cons e h ih =>
    unfold Heap.get at ih ⊢
    rw [show (e :: h) = ((e.1, e.2) :: h) from rfl, mapFields_cons]
    simp only [List.find?_cons]
    by_cases he : (e.1 == id) = true
    · have : e.1 = id := by simpa using he
      simp [he, this]
    · simp only [he]
      exact ih

theorem mapFields_remove (h : Heap) (id : Nat) : (mapFields g h).remove id = mapFields g (h.remove id) := by
  unfold Heap.remove mapFields
  rw [List.filter_map]
  rfl

theorem mapFields_set (h : Heap) (id : Nat) (o : Obj) :
    (mapFields g h).set id (mapObj g id o) = mapFields g (h.set id o) := by
  unfold Heap.set
  rw [mapFields_remove]
  rfl

theorem mapFields_share {h h' : Heap} {ref : Word} {k : Nat} (hs : h.share ref k = .ok h') :
    (mapFields g h).share ref k = .ok (mapFields g h') := by
  unfold Heap.share at hs ⊢
  by_cases h0 : (ref == 0) = true
  · rw [if_pos h0] at hs ⊢
    injection hs with hs; rw [hs]
  · rw [if_neg h0] at hs ⊢
    rw [mapFields_get]
    cases hg : h.get ref.toNat with
    | none => rw [hg] at hs; cases hs
    | some o =>
      rw [hg] at hs
      simp only [Option.map_some]
      injection hs with hs
      rw [← hs, ← mapFields_set]
      rfl

theorem mapFields_shareAll : ∀ (ids : List Nat) {h h' : Heap}, h.shareAll ids = .ok h' →
    (mapFields g h).shareAll ids = .ok (mapFields g h')
  | [], h, h', hs => by
    simp only [Heap.shareAll] at hs ⊢
    injection hs with hs; rw [hs]
  | id :: ids, h, h', hs => by
    simp only [Heap.shareAll] at hs ⊢
    cases h1 : h.share (BitVec.ofNat 64 id) 1 with
    | error e => rw [h1] at hs; cases hs
    | ok h1' =>
      rw [h1] at hs
      rw [mapFields_share h1]
      exact mapFields_shareAll ids hs

theorem mapFields_ids (h : Heap) : (mapFields g h).map (·.1) = h.map (·.1) := by
  unfold mapFields; rw [List.map_map]; rfl

theorem mapFields_mem {h : Heap} {e : Nat × Obj} (he : e ∈ mapFields g h) :
    ∃ e0 ∈ h, e = (e0.1, mapObj g e0.1 e0.2) := by
  unfold mapFields at he
  obtain ⟨e0, h0, rfl⟩ := List.mem_map.1 he
  exact ⟨e0, h0, rfl⟩

theorem mem_mapFields {h : Heap} {e : Nat × Obj} (he : e ∈ h) : (e.1, mapObj g e.1 e.2) ∈ mapFields g h :=
  List.mem_map.2 ⟨e, he, rfl⟩

variable (G : FieldsOK g)
include G

theorem mapFields_totalFields (h : Heap) : (mapFields g h).totalFields = h.totalFields := by
  unfold Heap.totalFields mapFields
  rw [List.map_map]
  congr 1
  apply List.map_congr_left
  intro e _
  exact G.length e.1 e.2.fields

theorem mapFields_eraseLoop : ∀ (fuel : Nat) (work : List Nat) {h h' : Heap},
    Heap.eraseLoop fuel work h = .ok h' → Heap.eraseLoop fuel work (mapFields g h) = .ok (mapFields g h')
  | 0, [], h, h', hs => by
    simp only [Heap.eraseLoop] at hs ⊢
    injection hs with hs; rw [hs]
  | 0, _ :: _, h, h', hs => by simp [Heap.eraseLoop] at hs
  | _ + 1, [], h, h', hs => by
    simp only [Heap.eraseLoop] at hs ⊢
    injection hs with hs; rw [hs]
  | fuel + 1, id :: work, h, h', hs => by
    simp only [Heap.eraseLoop] at hs ⊢
    rw [mapFields_get]
    cases hg : h.get id with
    | none => rw [hg] at hs; cases hs
    | some o =>
      rw [hg] at hs
      simp only [Option.map_some, G.children] at hs ⊢
      have hcnt : (mapObj g id o).count = o.count := rfl
      by_cases hc : o.count > 0
      · rw [if_pos hc] at hs
        rw [hcnt, if_pos hc]
        have := mapFields_eraseLoop fuel work hs
        rw [← mapFields_set] at this
        exact this
      · rw [if_neg hc] at hs
        rw [hcnt, if_neg hc]
        have := mapFields_eraseLoop fuel (o.children ++ work) hs
        rw [← mapFields_remove] at this
        exact this

theorem mapFields_erase {h h' : Heap} {ref : Word} (hs : h.erase ref = .ok h') :
    (mapFields g h).erase ref = .ok (mapFields g h') := by
  unfold Heap.erase at hs ⊢
  by_cases h0 : (ref == 0) = true
  · rw [if_pos h0] at hs ⊢
    injection hs with hs; rw [hs]
  · rw [if_neg h0] at hs ⊢
    rw [mapFields_totalFields G]
    exact mapFields_eraseLoop G _ _ hs

theorem mapFields_loadAbs {h h' : Heap} {id : Nat} {o : Obj} (hs : loadAbs h id o = .ok h') :
    loadAbs (mapFields g h) id (mapObj g id o) = .ok (mapFields g h') := by
  unfold loadAbs at hs ⊢
  rw [G.children]
  have hcnt : (mapObj g id o).count = o.count := rfl
  rw [hcnt]
  by_cases hc : (o.count == 0) = true
  · rw [if_pos hc] at hs ⊢
    injection hs with hs
    rw [← hs, mapFields_remove]
  · rw [if_neg hc] at hs ⊢
    have := mapFields_shareAll (g := g) _ hs
    rw [← mapFields_set] at this
    exact this

theorem mapFields_refCount (h : Heap) (rs : List Nat) (id : Nat) :
    refCount (mapFields g h) rs id = refCount h rs id := by
  unfold refCount mapFields
  rw [List.map_map]
  congr 2
  apply List.map_congr_left
  intro e _
  show List.count id (mapObj g e.1 e.2).children = _
  rw [G.children]

theorem heapOK_mapFields {h : Heap} {rs : List Nat} {next : Nat} (H : HeapOK h rs next) :
    HeapOK (mapFields g h) rs next := by
  refine ⟨H.pos, by rw [mapFields_ids]; exact H.nodup, ?_, ?_, ?_⟩
  · intro e he
    obtain ⟨e0, h0, rfl⟩ := mapFields_mem he
    exact H.ids e0 h0
  · intro e he
    obtain ⟨e0, h0, rfl⟩ := mapFields_mem he
    rw [mapFields_refCount G]
    exact H.counts e0 h0
  · intro id hid
    rw [mapFields_refCount G] at hid
    rw [mapFields_get]
    have := H.live id hid
    cases hg : h.get id with
    | none => rw [hg] at this; cases this
    | some o => rfl

end

end Scc.Heap.Refine
