/-
Scc.Heap.ProofsOps — the operations of the model that write headers only (`eraseBlock`, `shareBlock`,
`eraseFields`, `acquire`) succeed on a state satisfying the invariant and preserve it, with the prescribed
change of roots / pending blocks: the per-operation part of property C09 ("C09-T1" in the docstrings of
Heap/, listed in Props/C09.lean).  Each `_spec` also says what it leaves alone: `SameHeap` (`base` and
`limit`) and `HeadersOnly W` (all words but the headers of the blocks in `W`); the refinement layer
(Refine*.lean) takes its frame facts from these.
-/
import Scc.Heap.Moves
import Scc.Heap.Access

namespace Scc.Heap

variable {s : HState} {F : Nat} {roots pend lin lazy live : List Nat}

theorem rd_ok {s : HState} {a : Nat} (h1 : s.base ≤ a) (h2 : a + 8 ≤ s.limit)
    (h3 : (a - s.base) % 8 = 0) : rd s a = .ok (s.mem.get a) :=
  rd_eq_ok.2 ⟨⟨h1, h2, h3⟩, rfl⟩

theorem wr_ok {s : HState} {a : Nat} (v : Nat) (h1 : s.base ≤ a) (h2 : a + 8 ≤ s.limit)
    (h3 : (a - s.base) % 8 = 0) : wr s a v = .ok { s with mem := s.mem.set a v } :=
  wr_eq_ok.2 ⟨⟨h1, h2, h3⟩, rfl⟩

theorem InvS.block_addr (h : InvS s roots pend lin lazy live F) {a : Nat}
    (ha : IsBlock s.base a) (haF : a ≤ F) :
    s.base ≤ a ∧ a + 8 ≤ s.limit ∧ (a - s.base) % 8 = 0 := by
  have := h.frontier_room
  unfold IsBlock at ha
  omega

theorem InvS.rd_block (h : InvS s roots pend lin lazy live F) {a k : Nat}
    (ha : IsBlock s.base a) (haF : a ≤ F) (hk : k < 64) (hk8 : k % 8 = 0) :
    rd s (a + k) = .ok (s.mem.get (a + k)) := by
  have := h.frontier_room
  unfold IsBlock at ha
  exact rd_ok (by omega) (by omega) (by omega)

theorem InvS.wr_block (h : InvS s roots pend lin lazy live F) {a k : Nat} (v : Nat)
    (ha : IsBlock s.base a) (haF : a ≤ F) (hk : k < 64) (hk8 : k % 8 = 0) :
    wr s (a + k) v = .ok { s with mem := s.mem.set (a + k) v } := by
  have := h.frontier_room
  unfold IsBlock at ha
  exact wr_ok v (by omega) (by omega) (by omega)

/-- What all block-level operations have in common: `base`/`limit` are constants. -/
structure SameHeap (s s' : HState) : Prop where
  base : s'.base = s.base
  limit : s'.limit = s.limit

theorem SameHeap.refl (s : HState) : SameHeap s s := ⟨rfl, rfl⟩
theorem SameHeap.trans {s1 s2 s3 : HState} (h1 : SameHeap s1 s2) (h2 : SameHeap s2 s3) :
    SameHeap s1 s3 := ⟨h2.base.trans h1.base, h2.limit.trans h1.limit⟩

/-- Only header words (block addresses), and only those of the blocks in `W`, differ between the two
memories. -/
def HeadersOnly (W : List Nat) (s s' : HState) : Prop :=
  ∀ a, (a ∉ W ∨ ¬ IsBlock s.base a) → s'.mem.get a = s.mem.get a

theorem HeadersOnly.nonblock {W : List Nat} {s s' : HState} (h : HeadersOnly W s s') {a : Nat}
    (ha : ¬ IsBlock s.base a) : s'.mem.get a = s.mem.get a := h a (Or.inr ha)

theorem HeadersOnly.frame {W : List Nat} {s s' : HState} (h : HeadersOnly W s s') {a : Nat}
    (ha : a ∉ W) : s'.mem.get a = s.mem.get a := h a (Or.inl ha)

theorem HeadersOnly.mono {W W' : List Nat} {s s' : HState} (h : HeadersOnly W s s')
    (hW : ∀ x ∈ W, x ∈ W') : HeadersOnly W' s s' :=
  fun a ha => h a (ha.imp (fun hn hx => hn (hW a hx)) id)

theorem headersOnly_upd {s : HState} {p v : Nat} (hp : IsBlock s.base p) :
    ∀ a, (a ∉ [p] ∨ ¬ IsBlock s.base a) → upd s.mem.get p v a = s.mem.get a := by
  intro a ha
  exact upd_other _ _ (by rintro rfl; exact ha.elim (fun h => h (by simp)) (fun h => h hp))

/-- `erase_block` on a held root (C09-T1, erase, both cases). -/
theorem eraseBlock_spec {p : Nat} (h : InvS s (p :: roots) pend lin lazy live F) :
    ∃ s' lazy' live', eraseBlock s p = .ok s' ∧ SameHeap s s' ∧ s'.heap = s.heap ∧
      HeadersOnly [p] s s' ∧ InvS s' roots pend lin lazy' live' F ∧
      lazy'.length + live'.length = lazy.length + live.length := by
  by_cases hp0 : p = 0
  · subst hp0
    exact ⟨s, lazy, live, by simp [eraseBlock], SameHeap.refl s, rfl, fun _ _ => rfl,
      InvW.roots_zero h, rfl⟩
  · have hpl : p ∈ live := by
      rcases h.roots_live p (by simp) with h0 | hl
      · exact absurd h0 hp0
      · exact hl
    have hpb := h.live_block hpl
    have hrd := h.rd_block (k := 0) hpb.1 (Nat.le_of_lt hpb.2) (by omega) (by omega)
    simp only [Nat.add_zero] at hrd
    by_cases hc : s.mem.get p = 0
    · have hwr := h.wr_block (k := 0) s.free hpb.1 (Nat.le_of_lt hpb.2) (by omega) (by omega)
      simp only [Nat.add_zero] at hwr
      refine ⟨{ s with mem := s.mem.set p s.free, free := p }, p :: lazy, live.erase p, ?_,
        ⟨rfl, rfl⟩, rfl, ?_, ?_, ?_⟩
      · simp [eraseBlock, hp0, hrd, hc, hwr]
      · intro a ha
        show (s.mem.set p s.free).get a = _
        rw [Mem.get_set_upd]; exact headersOnly_upd hpb.1 a ha
      · show InvW (s.mem.set p s.free).get _ _ _ _ _ _ _ _ _ _
        rw [Mem.get_set_upd]
        exact InvW.to_lazy h hpl hc
      · have := List.length_pos_of_mem hpl
        rw [List.length_cons, List.length_erase_of_mem hpl]; omega
    · have hwr := h.wr_block (k := 0) (s.mem.get p - 1) hpb.1 (Nat.le_of_lt hpb.2) (by omega) (by omega)
      simp only [Nat.add_zero] at hwr
      refine ⟨{ s with mem := s.mem.set p (s.mem.get p - 1) }, lazy, live, ?_,
        ⟨rfl, rfl⟩, rfl, ?_, ?_, rfl⟩
      · simp [eraseBlock, hp0, hrd, hc, hwr]
      · intro a ha
        show (s.mem.set p _).get a = _
        rw [Mem.get_set_upd]; exact headersOnly_upd hpb.1 a ha
      · show InvW (s.mem.set p _).get _ _ _ _ _ _ _ _ _ _
        rw [Mem.get_set_upd]
        refine InvW.header_update h hpl ?_ ?_
        · rw [List.count_cons_self]; omega
        · intro b _ hb; rw [List.count_cons_of_ne (Ne.symm hb)]

/-- `share_block_n` on a held root: `n` more roots hold the block (C09-T1, share). -/
theorem shareBlock_spec {p n : Nat} (h : InvS s roots pend lin lazy live F)
    (hp : p = 0 ∨ p ∈ live) :
    ∃ s', shareBlock s p n = .ok s' ∧ SameHeap s s' ∧ s'.heap = s.heap ∧ s'.free = s.free ∧
      HeadersOnly [p] s s' ∧ InvS s' (List.replicate n p ++ roots) pend lin lazy live F := by
  by_cases hp0 : p = 0
  · subst hp0
    refine ⟨s, by simp [shareBlock], SameHeap.refl s, rfl, rfl, fun _ _ => rfl, ?_⟩
    refine InvW.roots_congr h (fun b hb => ?_)
    rw [List.count_append, List.count_replicate]
    simp [Ne.symm hb]
  · have hpl : p ∈ live := by
      rcases hp with h0 | hl
      · exact absurd h0 hp0
      · exact hl
    have hpb := h.live_block hpl
    have hrd := h.rd_block (k := 0) hpb.1 (Nat.le_of_lt hpb.2) (by omega) (by omega)
    have hwr := h.wr_block (k := 0) (s.mem.get p + n) hpb.1 (Nat.le_of_lt hpb.2) (by omega) (by omega)
    simp only [Nat.add_zero] at hrd hwr
    refine ⟨{ s with mem := s.mem.set p (s.mem.get p + n) }, ?_, ⟨rfl, rfl⟩, rfl, rfl, ?_, ?_⟩
    · simp [shareBlock, hp0, hrd, hwr]
    · intro a ha
      show (s.mem.set p _).get a = _
      rw [Mem.get_set_upd]; exact headersOnly_upd hpb.1 a ha
    · show InvW (s.mem.set p _).get _ _ _ _ _ _ _ _ _ _
      rw [Mem.get_set_upd]
      refine InvW.header_update h hpl ?_ ?_
      · rw [List.count_append, List.count_replicate]; simp; omega
      · intro b _ hb
        rw [List.count_append, List.count_replicate]; simp [Ne.symm hb]

theorem HeadersOnly.trans {W1 W2 : List Nat} {s1 s2 s3 : HState} (h1 : HeadersOnly W1 s1 s2)
    (hb : SameHeap s1 s2) (h2 : HeadersOnly W2 s2 s3) : HeadersOnly (W1 ++ W2) s1 s3 := by
  intro a ha
  have ha1 : a ∉ W1 ∨ ¬ IsBlock s1.base a := ha.imp (fun h hx => h (List.mem_append_left _ hx)) id
  have ha2 : a ∉ W2 ∨ ¬ IsBlock s2.base a := by
    rw [hb.base]; exact ha.imp (fun h hx => h (List.mem_append_right _ hx)) id
  rw [h2 a ha2, h1 a ha1]

theorem not_isBlock_add {base D k : Nat} (hD : IsBlock base D) (hk : 0 < k) (hk' : k < 64) :
    ¬ IsBlock base (D + k) := by
  unfold IsBlock at *; omega

/-- `erase_fields` (inside `acquire_block`): the three pointer slots of `D`, accounted as roots,
are erased one after the other (two of them may be the same block). -/
theorem eraseFields_spec {D : Nat}
    (h : InvS s (ptrSlots s.mem.get D ++ roots) pend lin lazy live F)
    (hD : IsBlock s.base D) (hDF : D < F) :
    ∃ s' lazy' live', eraseFields s D = .ok s' ∧ SameHeap s s' ∧ s'.heap = s.heap ∧
      HeadersOnly (ptrSlots s.mem.get D) s s' ∧ InvS s' roots pend lin lazy' live' F ∧
      lazy'.length + live'.length = lazy.length + live.length := by
  have h0 : InvS s (s.mem.get (D + 16) :: s.mem.get (D + 32) :: s.mem.get (D + 48) :: roots)
      pend lin lazy live F := h
  have hrd0 := h.rd_block (k := 16) hD (Nat.le_of_lt hDF) (by omega) (by omega)
  obtain ⟨s1, lazy1, live1, he1, hs1, hh1, ho1, hi1, hl1⟩ := eraseBlock_spec h0
  have hD1 : IsBlock s1.base D := by rw [hs1.base]; exact hD
  have hrd1 := hi1.rd_block (k := 32) hD1 (Nat.le_of_lt hDF) (by omega) (by omega)
  rw [ho1.nonblock (not_isBlock_add hD (by omega) (by omega))] at hrd1
  obtain ⟨s2, lazy2, live2, he2, hs2, hh2, ho2, hi2, hl2⟩ := eraseBlock_spec hi1
  have hD2 : IsBlock s2.base D := by rw [hs2.base]; exact hD1
  have hrd2 := hi2.rd_block (k := 48) hD2 (Nat.le_of_lt hDF) (by omega) (by omega)
  rw [ho2.nonblock (not_isBlock_add hD1 (by omega) (by omega)),
      ho1.nonblock (not_isBlock_add hD (by omega) (by omega))] at hrd2
  obtain ⟨s3, lazy3, live3, he3, hs3, hh3, ho3, hi3, hl3⟩ := eraseBlock_spec hi2
  refine ⟨s3, lazy3, live3, ?_, (hs1.trans hs2).trans hs3, by rw [hh3, hh2, hh1],
    ((ho1.trans hs1 ho2).trans (hs1.trans hs2) ho3).mono (by simp [ptrSlots]), hi3, by omega⟩
  simp only [eraseFields, fstOff, fieldOffset, Nat.reduceMul, Nat.reduceAdd, hrd0, he1, hrd1, he2, hrd2, he3]

/-- `acquire_block` (C09-T1 acquire, all three cases; C10: the frontier moves iff the linear free
list has exactly one element and the deferred list is empty). -/
theorem acquire_spec (h : InvS s roots pend lin lazy live F)
    (hroom : lin.length = 1 → lazy = [] → F + 128 ≤ s.limit) :
    ∃ s' lin' lazy' live' F', acquire s = .ok (s', s.heap) ∧ SameHeap s s' ∧
      HeadersOnly (s.heap :: s.free :: ptrSlots s.mem.get s.free) s s' ∧
      s.heap ∈ lin ∧
      InvS s' roots (s.heap :: pend) lin' lazy' live' F' ∧
      ((F' = F ∧ ¬ (lin.length = 1 ∧ lazy = [])) ∨
       (F' = F + 64 ∧ lin.length = 1 ∧ lazy = [] ∧ lin'.length = 1 ∧ lazy' = [] ∧ live' = live)) := by
  have hlin := h.lin_chain
  have hne := h.lin_ne
  match lin, hne, hlin, h, hroom with
  | b :: L, _, hlin, h, hroom =>
    obtain ⟨hb, hb0, hch⟩ := hlin
    have hbl : b ∈ b :: L := by simp
    have hbb := h.lin_block hbl
    have hbd := h.block_addr hbb.1 (Nat.le_of_lt hbb.2)
    have hrd : rd s b = .ok (s.mem.get b) := rd_ok hbd.1 hbd.2.1 hbd.2.2
    rw [hb]
    match L, hch, h, hroom with
    | h' :: L', hch, h, hroom =>
      -- case (1)
      have hh' : s.mem.get b = h' := hch.1
      have hh0 : h' ≠ 0 := hch.2.1
      have hwr : wr { s with heap := h' } b 0 = .ok { s with heap := h', mem := s.mem.set b 0 } :=
        wr_ok 0 hbd.1 hbd.2.1 hbd.2.2
      refine ⟨{ s with heap := h', mem := s.mem.set b 0 }, h' :: L', lazy, live, F, ?_,
        ⟨rfl, rfl⟩, ?_, hbl, ?_, Or.inl ⟨rfl, by simp⟩⟩
      · simp [acquire, hb, hrd, hh', hh0, hwr]
      · intro a ha
        show (s.mem.set b 0).get a = _
        rw [Mem.get_set_upd]
        exact headersOnly_upd hbb.1 a (ha.imp (fun h hx => h (by simp [List.mem_singleton.1 hx])) id)
      · show InvW (s.mem.set b 0).get _ _ _ _ _ _ _ _ _ _
        rw [Mem.get_set_upd]
        have h2 : InvW s.mem.get s.base s.limit b s.free roots pend (b :: h' :: L') lazy live F := by
          have := h; unfold InvS at this; rw [hb] at this; exact this
        have h3 := InvW.acquire_lin h2
        rw [hh'] at h3
        exact h3
    | [], hch, h, hroom =>
      have hmb : s.mem.get b = 0 := hch
      have hlz := h.lazy_chain
      match lazy, hlz, h, hroom with
      | [], hlz, h, hroom =>
        -- case (3)
        have hfree : s.free = F := hlz.1
        have hroom' := hroom rfl rfl
        have hFb := h.frontier_block
        have hrdF := h.rd_block (k := 0) hFb (Nat.le_refl _) (by omega) (by omega)
        simp only [Nat.add_zero] at hrdF
        have hmF : s.mem.get F = 0 := hlz.2.2
        refine ⟨{ s with heap := s.free, free := s.free + blockSize }, [F], [], live, F + 64, ?_,
          ⟨rfl, rfl⟩, fun _ _ => rfl, hbl, ?_,
          Or.inr ⟨rfl, rfl, rfl, rfl, rfl, rfl⟩⟩
        · simp [acquire, hb, hrd, hmb, hfree, hrdF, hmF]
        · show InvW s.mem.get s.base s.limit s.free (s.free + blockSize) roots (b :: pend) [F] [] live (F + 64)
          rw [hfree]
          have h2 : InvW s.mem.get s.base s.limit b F roots pend [b] [] live F := by
            have := h; unfold InvS at this; rw [hb, hfree] at this; exact this
          exact InvW.acquire_bump h2 hroom'
      | D :: lz, hlz, h, hroom =>
        -- case (2)
        have hfree : s.free = D := hlz.1
        have hDl : D ∈ D :: lz := by simp
        have hDb := h.lazy_block hDl
        have hrdD := h.rd_block (k := 0) hDb.1 (Nat.le_of_lt hDb.2) (by omega) (by omega)
        simp only [Nat.add_zero] at hrdD
        have hmD : s.mem.get D ≠ 0 := by
          have hc : Chain s.mem.get (s.mem.get D) (lz ++ [F]) := hlz.2.2
          cases lz with
          | nil => exact hc.1 ▸ hc.2.1
          | cons x xs => exact hc.1 ▸ hc.2.1
        let s1 : HState := { s with heap := D, free := s.mem.get D, mem := s.mem.set D 0 }
        have hDd := h.block_addr hDb.1 (Nat.le_of_lt hDb.2)
        have hwr : wr { s with heap := D, free := s.mem.get D } D 0 = .ok s1 :=
          wr_ok 0 hDd.1 hDd.2.1 hDd.2.2
        have h2 : InvW s.mem.get s.base s.limit b D roots pend [b] (D :: lz) live F := by
          have := h; unfold InvS at this; rw [hb, hfree] at this; exact this
        have hi1 : InvS s1 (ptrSlots s.mem.get D ++ roots) (b :: pend) [D] lz live F := by
          show InvW (s.mem.set D 0).get _ _ _ _ _ _ _ _ _ _
          rw [Mem.get_set_upd]
          exact InvW.acquire_lazy h2
        have hslots : ptrSlots s1.mem.get D = ptrSlots s.mem.get D := by
          show ptrSlots (s.mem.set D 0).get D = _
          rw [Mem.get_set_upd]
          simp only [ptrSlots]
          rw [upd_other _ _ (by omega), upd_other _ _ (by omega), upd_other _ _ (by omega)]
        rw [← hslots] at hi1
        obtain ⟨s2, lazy2, live2, he, hs2, hh2, ho2, hi2, hl2⟩ :=
          eraseFields_spec (s := s1) hi1 hDb.1 hDb.2
        refine ⟨s2, [D], lazy2, live2, F, ?_, ⟨hs2.base, hs2.limit⟩, ?_, hbl, hi2,
          Or.inl ⟨rfl, by simp⟩⟩
        · simp [acquire, hb, hrd, hmb, hfree, hrdD, hmD, hwr]
          show (match eraseFields s1 s1.heap with
            | .error f => Except.error f
            | .ok s2 => Except.ok (s2, b)) = _
          rw [show s1.heap = D from rfl, he]
        · intro a ha
          rw [hfree, ← hslots] at ha
          rw [ho2 a (ha.imp (fun h hx => h (by simp [hx])) id)]
          show (s.mem.set D 0).get a = _
          rw [Mem.get_set_upd]
          exact headersOnly_upd hDb.1 a (ha.imp (fun h hx => h (by simp [List.mem_singleton.1 hx])) id)

end Scc.Heap
