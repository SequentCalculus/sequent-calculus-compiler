/-
Scc.Heap.ProofsHist — the walk functions of the model compute the witnesses of the invariant; `load`
(`loadObj_spec` under `LoadObjPre`); histories: a history whose operations meet their preconditions
(`WfOps`; the executable checks `*PreB` of the model imply them, `*PreB_sound`) keeps the invariant from
the initial state on (`init_inv`, `applyOp_spec`, `applyOps_spec`) if the heap has room for `storeCost`
more blocks, and the number of blocks below the frontier stays at most one above the peak number of live
blocks.
-/
import Scc.Heap.ProofsLoad

namespace Scc.Heap

/-! ### Cardinality: the witnesses partition the blocks below the frontier -/

def blocksList (base n : Nat) : List Nat := (List.range n).map (fun k => base + 64 * k)

theorem blocksList_succ (base n : Nat) :
    blocksList base (n + 1) = base :: blocksList (base + blockSize) n := by
  simp only [blocksList, List.range_succ_eq_map, List.map_cons, List.map_map, blockSize]
  congr 1
  apply List.map_congr_left
  intro k _
  simp only [Function.comp]
  omega

theorem blocksList_nodup (base n : Nat) : (blocksList base n).Nodup := by
  unfold blocksList List.Nodup
  rw [List.pairwise_map]
  exact List.Pairwise.imp (fun {a b} (h : a ≠ b) => by omega) List.nodup_range

theorem mem_blocksList {base n a : Nat} :
    a ∈ blocksList base n ↔ IsBlock base a ∧ a < base + 64 * n := by
  unfold blocksList IsBlock
  rw [List.mem_map]
  constructor
  · rintro ⟨k, hk, rfl⟩
    rw [List.mem_range] at hk
    omega
  · rintro ⟨⟨h1, h2⟩, h3⟩
    exact ⟨(a - base) / 64, List.mem_range.mpr (by omega), by omega⟩

theorem InvW.card {m : Nat → Nat} {base limit heap free F : Nat}
    {roots pend lin lazy live : List Nat}
    (h : InvW m base limit heap free roots pend lin lazy live F) :
    lin.length + lazy.length + live.length + pend.length = (F - base) / 64 := by
  have hF := h.frontier_block
  have hFe : F = base + 64 * ((F - base) / 64) := by unfold IsBlock at hF; omega
  have hperm : (lin ++ lazy ++ live ++ pend).Perm (blocksList base ((F - base) / 64)) := by
    rw [List.perm_ext_iff_of_nodup h.nodup (blocksList_nodup _ _)]
    intro a
    rw [h.cover a, mem_blocksList, ← hFe]
  have := hperm.length_eq
  simp only [List.length_append, blocksList, List.length_map, List.length_range] at this
  exact this

theorem walk_of_chain {m : Nat → Nat} : ∀ {l : List Nat} {a fuel : Nat},
    Chain m a l → l.length < fuel → walk m fuel a = l
  | [], a, fuel + 1, h, _ => by
    have : a = 0 := h
    simp [walk, this]
  | x :: xs, a, fuel + 1, h, hl => by
    obtain ⟨rfl, h0, hc⟩ := h
    simp only [walk, h0, if_false]
    rw [walk_of_chain hc (by simp at hl; omega)]

theorem walkToFrontier_of_chain {m : Nat → Nat} : ∀ {l : List Nat} {a F fuel : Nat},
    Chain m a (l ++ [F]) → l.length < fuel → walkToFrontier m fuel a = l ++ [F]
  | [], a, F, fuel + 1, h, _ => by
    obtain ⟨rfl, _, h0⟩ := h
    have h0' : m a = 0 := h0
    simp [walkToFrontier, h0']
  | x :: xs, a, F, fuel + 1, h, hl => by
    obtain ⟨rfl, _, hc⟩ : Chain m a (x :: (xs ++ [F])) := h
    have hne : m a ≠ 0 := by
      cases xs with
      | nil => exact hc.1 ▸ hc.2.1
      | cons y ys => exact hc.1 ▸ hc.2.1
    simp only [walkToFrontier, hne, if_false, List.cons_append]
    rw [walkToFrontier_of_chain hc (by simp at hl; omega)]

theorem InvS.fuel_ok {s : HState} {F : Nat} {roots pend lin lazy live : List Nat}
    (h : InvS s roots pend lin lazy live F) : (F - s.base) / 64 + 1 < s.fuel := by
  have := h.frontier_room
  have := h.frontier_block
  unfold HState.fuel blockSize IsBlock at *
  omega

theorem InvS.linList_eq {s : HState} {F : Nat} {roots pend lin lazy live : List Nat}
    (h : InvS s roots pend lin lazy live F) : s.linList = lin := by
  have := h.card; have := h.fuel_ok
  exact walk_of_chain h.lin_chain (by omega)

theorem InvS.freeList_eq {s : HState} {F : Nat} {roots pend lin lazy live : List Nat}
    (h : InvS s roots pend lin lazy live F) : s.freeList = lazy ++ [F] := by
  have := h.card; have := h.fuel_ok
  exact walkToFrontier_of_chain h.lazy_chain (by omega)

theorem InvS.frontier_eq {s : HState} {F : Nat} {roots pend lin lazy live : List Nat}
    (h : InvS s roots pend lin lazy live F) : s.frontier = F := by
  unfold HState.frontier
  rw [h.freeList_eq, List.getLastD_concat]

theorem InvS.blocksBelowFrontier_eq {s : HState} {F : Nat} {roots pend lin lazy live : List Nat}
    (h : InvS s roots pend lin lazy live F) : s.blocksBelowFrontier = (F - s.base) / 64 := by
  unfold HState.blocksBelowFrontier blockSize
  rw [h.frontier_eq]

theorem InvS.liveCount_eq {s : HState} {F : Nat} {roots lin lazy live : List Nat}
    (h : InvS s roots [] lin lazy live F) : s.liveCount = live.length := by
  unfold HState.liveCount
  have := h.card
  rw [h.blocksBelowFrontier_eq, h.linList_eq, h.freeList_eq]
  simp only [List.length_append, List.length_cons, List.length_nil] at this ⊢
  omega

/-- The witnesses `lin`, `lazy` and `F` of the invariant are functions of the state (the walks compute them). -/
theorem InvS.witness_unique {s : HState} {F F' : Nat} {roots roots' pend pend' lin lazy live lin' lazy' live' : List Nat}
    (h : InvS s roots pend lin lazy live F) (h' : InvS s roots' pend' lin' lazy' live' F') :
    lin' = lin ∧ lazy' = lazy ∧ F' = F := by
  have h1 := h.linList_eq.symm.trans h'.linList_eq
  have h2 := h.freeList_eq.symm.trans h'.freeList_eq
  have h3 := h.frontier_eq.symm.trans h'.frontier_eq
  subst h3
  exact ⟨h1.symm, (List.append_cancel_right h2).symm, rfl⟩

/-- Precondition of `load` on the object at root `p`: without fields the pointer is null ("no
allocation"); otherwise it is not null and the chain has the shape that `kinds` describes
(`LoadPre`), in the state in which `load_fields` starts (in share mode: after the decrement). -/
def LoadObjPre (s : HState) (p : Nat) (kinds : List Bool) : Prop :=
  if kinds = [] then p = 0
  else p ≠ 0 ∧
    (if s.mem.get p = 0 then LoadPre s kinds .last .release p
     else LoadPre { s with mem := s.mem.set p (s.mem.get p - 1) } kinds .last .share p)

/-- `Memory::load` (C09-T1: load in release mode and in share mode). The frontier and the deferred
list do not change. -/
theorem loadObj_spec {s : HState} {F p : Nat} {roots lin lazy live : List Nat} {kinds : List Bool}
    (h : InvS s (p :: roots) [] lin lazy live F) (hpre : LoadObjPre s p kinds) :
    ∃ s' vals lin' live', loadObj s p kinds = .ok (s', vals) ∧ SameHeap s s' ∧
      InvS s' (ptrsOf vals ++ roots) [] lin' lazy live' F := by
  unfold LoadObjPre at hpre
  by_cases hk : kinds = []
  · rw [if_pos hk] at hpre
    subst hk; subst hpre
    exact ⟨s, [], lin, live, by simp [loadObj], SameHeap.refl s, by
      have := InvW.roots_zero h
      simpa [ptrsOf, InvS] using this⟩
  · rw [if_neg hk] at hpre
    obtain ⟨hp0, hpre⟩ := hpre
    have hpl : p ∈ live := by
      rcases h.roots_live p (by simp) with h0 | hl
      · exact absurd h0 hp0
      · exact hl
    have hpb := h.live_block hpl
    have hrd := h.rd_block (k := 0) hpb.1 (Nat.le_of_lt hpb.2) (by omega) (by omega)
    simp only [Nat.add_zero] at hrd
    by_cases hc : s.mem.get p = 0
    · rw [if_pos hc] at hpre
      obtain ⟨s', vals, nxt, lin', live', hl, hsame, _, hi, _⟩ :=
        loadFields_release_spec kinds.length kinds .last (Nat.le_refl _) h hp0 hc hpre
          (fun e => absurd e hk)
      refine ⟨s', vals, lin', live', ?_, hsame, by simpa using hi⟩
      simp [loadObj, hk, hrd, hc, hl]
    · rw [if_neg hc] at hpre
      have hwr := h.wr_block (k := 0) (s.mem.get p - 1) hpb.1 (Nat.le_of_lt hpb.2) (by omega) (by omega)
      simp only [Nat.add_zero] at hwr
      have hi0 : InvS { s with mem := s.mem.set p (s.mem.get p - 1) } roots [] lin lazy live F := by
        show InvW (s.mem.set p _).get _ _ _ _ _ _ _ _ _ _
        rw [Mem.get_set_upd]
        refine InvW.header_update h hpl ?_ ?_
        · rw [List.count_cons_self]; omega
        · intro b _ hb; rw [List.count_cons_of_ne (Ne.symm hb)]
      obtain ⟨s', vals, nxt, hl, hsame, _, _, _, hi, _⟩ :=
        loadFields_share_spec kinds.length kinds .last (Nat.le_refl _) hi0 hpl hpre
      refine ⟨s', vals, lin, live, ?_, ⟨hsame.base, hsame.limit⟩, hi⟩
      simp [loadObj, hk, hrd, hc, hwr, hl]

theorem consumeRoots_perm : ∀ {rs roots roots1 : List Nat},
    consumeRoots roots rs = .ok roots1 → roots.Perm (rs ++ roots1)
  | [], roots, roots1, h => by
    simp only [consumeRoots] at h
    injection h with h; subst h; simp
  | r :: rs, roots, roots1, h => by
    simp only [consumeRoots] at h
    split at h
    · rename_i hr
      have ih := consumeRoots_perm h
      exact (List.perm_cons_erase hr).trans (List.Perm.cons r ih)
    · cases h

/-- Precondition of one history step: the roots it mentions are held; loads respect the shape of
the object. -/
def OpPre (st : HState × List Nat) : HOp → Prop
  | .erase r => r ∈ st.2
  | .share r _ => r ∈ st.2
  | .store fields => ∃ roots1, consumeRoots st.2 (ptrsOf (fields.map FieldRef.toField)) = .ok roots1
  | .load r kinds => r ∈ st.2 ∧ LoadObjPre st.1 r kinds

theorem blockPreB_sound {m : Nat → Nat} {blk : Nat} {ks : List Bool} {pos : BlockPosition}
    (h : blockPreB m blk ks pos = true) : BlockPre m blk ks pos := by
  unfold blockPreB at h
  rw [Bool.and_eq_true, List.all_eq_true] at h
  obtain ⟨h1, h2⟩ := h
  constructor
  · intro i hi hs
    have := h1 i (List.mem_range.mpr hi)
    rw [hs] at this
    simpa using this
  · intro hp
    subst hp
    simpa using h2

theorem loadPreB_sound {s : HState} {mode : LoadMode} {p : Nat} : ∀ (n : Nat) (kinds : List Bool)
    (pos : BlockPosition), kinds.length ≤ n → loadPreB s kinds pos mode p = true →
    LoadPre s kinds pos mode p := by
  intro n
  induction n with
  | zero =>
    intro kinds pos hn _
    have hk : kinds = [] := List.length_eq_zero_iff.mp (by omega)
    subst hk
    rw [LoadPre]; simp
  | succ n ih =>
    intro kinds pos hn h
    by_cases hk : kinds = []
    · subst hk; rw [LoadPre]; simp
    · have hlpos : 0 < kinds.length := List.length_pos_iff.mpr hk
      have hrl := restLength_lt kinds.length pos hlpos
      rw [loadPreB] at h
      simp only [hk, ↓reduceDIte, Bool.and_eq_true] at h
      obtain ⟨h1, h2⟩ := h
      rw [LoadPre]
      simp only [hk, ↓reduceDIte]
      refine ⟨ih _ _ (by rw [List.length_take]; omega) h1, ?_⟩
      intro s1 vals1 blk hl
      rw [hl] at h2
      simp only [Bool.and_eq_true] at h2
      refine ⟨blockPreB_sound h2.1, ?_⟩
      intro hm hne
      have h3 := h2.2
      subst hm
      simp only [bne_self_eq_false, Bool.false_or, Bool.or_eq_true, List.isEmpty_iff,
        beq_iff_eq] at h3
      rcases h3 with h3 | h3
      · exact absurd h3 hne
      · exact h3

theorem loadObjPreB_sound {s : HState} {p : Nat} {kinds : List Bool}
    (h : loadObjPreB s p kinds = true) : LoadObjPre s p kinds := by
  unfold loadObjPreB at h
  unfold LoadObjPre
  by_cases hk : kinds = []
  · simp only [hk, if_true] at h ⊢
    simpa using h
  · simp only [hk, if_false, Bool.and_eq_true] at h ⊢
    refine ⟨by simpa using h.1, ?_⟩
    have h2 := h.2
    by_cases hc : s.mem.get p = 0
    · simp only [hc, if_true] at h2 ⊢
      have := loadPreB_sound (s := s) kinds.length kinds .last (Nat.le_refl _) (by simpa [hc] using h2)
      exact this
    · simp only [hc, if_false] at h2 ⊢
      exact loadPreB_sound kinds.length kinds .last (Nat.le_refl _) h2

theorem opPreB_sound {st : HState × List Nat} {op : HOp} (h : opPreB st op = true) : OpPre st op := by
  cases op with
  | erase r => simpa [opPreB, OpPre] using h
  | share r n => simpa [opPreB, OpPre] using h
  | store fields =>
    simp only [opPreB] at h
    simp only [OpPre]
    split at h
    · rename_i r hr; exact ⟨r, hr⟩
    · cases h
  | load r kinds =>
    simp only [opPreB, Bool.and_eq_true] at h
    exact ⟨by simpa using h.1, loadObjPreB_sound h.2⟩

/-- Well-formed histories: every op satisfies its precondition in the state in which it runs. -/
def WfOps (st : HState × List Nat) : List HOp → Prop
  | [] => True
  | op :: ops => OpPre st op ∧ ∀ st', applyOp st op = .ok st' → WfOps st' ops

/-- Upper bound on the number of blocks a history can take from the unused part of the heap. -/
def storeCost : List HOp → Nat
  | [] => 0
  | .store fields :: ops => fields.length + storeCost ops
  | _ :: ops => storeCost ops

def opCost : HOp → Nat
  | .store fields => fields.length
  | _ => 0

/-- One history step preserves the invariant; the frontier moves only in `store`, and when it has
moved both free lists are exhausted again. -/
theorem applyOp_spec {s : HState} {F : Nat} {roots lin lazy live : List Nat} {op : HOp}
    (h : InvS s roots [] lin lazy live F) (hpre : OpPre (s, roots) op)
    (hroom : F + 64 * opCost op + 64 ≤ s.limit) :
    ∃ s' roots' lin' lazy' live' F', applyOp (s, roots) op = .ok (s', roots') ∧ SameHeap s s' ∧
      InvS s' roots' [] lin' lazy' live' F' ∧ F ≤ F' ∧ F' ≤ F + 64 * opCost op ∧
      (F' = F ∨ Exhausted lin' lazy') := by
  cases op with
  | erase r =>
    have hr : r ∈ roots := hpre
    have h1 : InvS s (r :: roots.erase r) [] lin lazy live F :=
      InvW.roots_perm h (List.perm_cons_erase hr).symm
    obtain ⟨s', lazy', live', he, hsame, _, _, hi, _⟩ := eraseBlock_spec h1
    exact ⟨s', _, lin, lazy', live', F, by simp [applyOp, hr, he], hsame, hi, Nat.le_refl _,
      by simp [opCost], Or.inl rfl⟩
  | share r n =>
    have hr : r ∈ roots := hpre
    obtain ⟨s', he, hsame, _, _, _, hi⟩ := shareBlock_spec (n := n) h (h.roots_live r hr)
    exact ⟨s', _, lin, lazy, live, F, by simp [applyOp, hr, he], hsame, hi, Nat.le_refl _,
      by simp [opCost], Or.inl rfl⟩
  | store fields =>
    obtain ⟨roots1, hc⟩ := hpre
    have hperm := consumeRoots_perm hc
    obtain ⟨s', p, lin', lazy', live', F', hst, hsame, hi, hle1, hle2, _, hd⟩ :=
      storeObj_spec (fields.map FieldRef.toField) roots1 h
        (fun x _ => by rw [hperm.count_eq, List.count_append])
        (by simpa [opCost] using hroom)
    refine ⟨s', p :: roots1, lin', lazy', live', F', ?_, hsame, hi, hle1, ?_, hd⟩
    · simp only [applyOp]
      simp only [] at hc
      rw [hc]; simp only []
      rw [hst]
    · simpa [opCost] using hle2
  | load r kinds =>
    obtain ⟨hr, hlp⟩ := hpre
    have h1 : InvS s (r :: roots.erase r) [] lin lazy live F :=
      InvW.roots_perm h (List.perm_cons_erase hr).symm
    obtain ⟨s', vals, lin', live', hl, hsame, hi⟩ := loadObj_spec h1 hlp
    exact ⟨s', _, lin', lazy, live', F, by simp [applyOp, hr, hl], hsame, hi, Nat.le_refl _,
      by simp [opCost], Or.inl rfl⟩

/-- Peak number of live blocks (reachable or waiting beneath a deferred block) over all op
boundaries of a history. -/
def peakLive (st : HState × List Nat) : List HOp → Nat
  | [] => st.1.liveCount
  | op :: ops =>
    max st.1.liveCount (match applyOp st op with
      | .ok st' => peakLive st' ops
      | .error _ => 0)

theorem liveCount_le_peakLive (st : HState × List Nat) (ops : List HOp) :
    st.1.liveCount ≤ peakLive st ops := by
  cases ops with
  | nil => exact Nat.le_refl _
  | cons op ops => exact Nat.le_max_left _ _

theorem storeCost_cons (op : HOp) (ops : List HOp) : storeCost (op :: ops) = opCost op + storeCost ops := by
  cases op <;> simp [storeCost, opCost]

/-- Histories: no fault, the invariant holds at the end (hence, applied to prefixes, at every op
boundary), and the number of blocks below the frontier is at most one more than the peak number of
live blocks. -/
theorem applyOps_spec : ∀ (ops : List HOp) {s : HState} {F : Nat} {roots lin lazy live : List Nat}
    (B : Nat), InvS s roots [] lin lazy live F → WfOps (s, roots) ops →
    F + 64 * storeCost ops + 64 ≤ s.limit → (F - s.base) / 64 ≤ B + 1 →
    ∃ s' roots' lin' lazy' live' F', applyOps (s, roots) ops = .ok (s', roots') ∧ SameHeap s s' ∧
      InvS s' roots' [] lin' lazy' live' F' ∧
      (F' - s.base) / 64 ≤ max B (peakLive (s, roots) ops) + 1
  | [], s, F, roots, lin, lazy, live, B, h, _, _, hB =>
    ⟨s, roots, lin, lazy, live, F, rfl, SameHeap.refl s, h, by
      have := Nat.le_max_left B (peakLive (s, roots) []); omega⟩
  | op :: ops, s, F, roots, lin, lazy, live, B, h, hwf, hroom, hB => by
    obtain ⟨hpre, hwf'⟩ := hwf
    rw [storeCost_cons] at hroom
    obtain ⟨s1, roots1, lin1, lazy1, live1, F1, hap, hsame1, hi1, hle1, hle2, hd⟩ :=
      applyOp_spec h hpre (by omega)
    have hwf1 := hwf' (s1, roots1) hap
    have hlc1 := hi1.liveCount_eq
    have hcard1 := hi1.card
    -- the bound carried to the rest of the history
    obtain ⟨B1, hB1, hB1le⟩ : ∃ B1, (F1 - s1.base) / 64 ≤ B1 + 1 ∧
        max B1 (peakLive (s1, roots1) ops) ≤ max B (peakLive (s, roots) (op :: ops)) := by
      have hpk : peakLive (s, roots) (op :: ops) =
          max s.liveCount (peakLive (s1, roots1) ops) := by
        simp only [peakLive, hap]
      have hlp := liveCount_le_peakLive (s1, roots1) ops
      rcases hd with hd | ⟨hd1, hd2⟩
      · refine ⟨B, by rw [hd, hsame1.base]; exact hB, ?_⟩
        rw [hpk]; omega
      · refine ⟨s1.liveCount, ?_, ?_⟩
        · rw [hlc1, ← hcard1, hd2]; simp only [List.length_nil]; omega
        · rw [hpk]
          simp only [] at hlp
          omega
    obtain ⟨s', roots', lin', lazy', live', F', haps, hsame', hi', hbound⟩ :=
      applyOps_spec ops B1 hi1 hwf1 (by rw [hsame1.limit]; omega) hB1
    refine ⟨s', roots', lin', lazy', live', F', ?_, hsame1.trans hsame', hi', ?_⟩
    · simp only [applyOps, hap]; exact haps
    · rw [hsame1.base] at hbound; omega

theorem init_inv {base limit : Nat} (hb : 0 < base) (hl : base + 128 ≤ limit) :
    InvS (init base limit) [] [] [base] [] [] (base + 64) := by
  unfold InvS init
  simp only [blockSize]
  exact
  { base_pos := hb
    lin_chain := ⟨rfl, by omega, by simp [Chain]⟩
    lin_ne := by simp
    lazy_chain := ⟨rfl, by simp, by simp [Chain]⟩
    frontier_block := by unfold IsBlock; omega
    frontier_room := by omega
    zero_above := fun a _ _ _ => by simp
    nodup := by simp
    cover := by
      intro a
      simp only [List.append_nil, List.mem_singleton]
      unfold IsBlock; omega
    counts := by simp
    fields_live := by simp [ptrFields]
    roots_live := by simp
    pend_hdr := by simp
    acyclic := ⟨[], List.Perm.refl _, trivial⟩ }

end Scc.Heap
