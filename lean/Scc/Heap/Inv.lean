/-
Scc.Heap.Inv — the heap invariant of C09 as a `Prop` (definitions only; core imports only).

The invariant is stated over EXPLICIT witness lists: `lin` (linear free list), `lazy` (deferred free
list without the frontier block), `live` (blocks in use: reachable from the roots or waiting beneath
a deferred block), `pend` (blocks handed out by `acquire_block` inside `store_fields` that nothing
refers to yet; empty at statement boundaries) and the frontier `F`.

Differences to the wording in DESIGN.md §4 (and why):
* `live` is an existential witness instead of "the set of blocks reachable from ...": clause (iv)
  forces every live block to have at least one reference from a root or from a pointer slot of a
  live/deferred block, clause (v) closes `live` under pointer slots, and the added clause (vi)
  (`acyclic`: the live blocks can be topologically sorted w.r.t. pointer slots) excludes garbage
  cycles; together: following references backwards from any live block ends at a root or at a
  deferred block, i.e. `live` is exactly the reachable set.
* Every block has exactly three pointer slots (words 2, 4, 6) and ALL THREE are meaningful for
  live and deferred blocks: `store_values` writes the pointer slot of every field it stores (0 for
  integers), `store_zeros` nulls the unused ones and `store_fields` writes the link, so the deferred
  erasure in `acquire_block` case (2) may read all three.  Chain links are ordinary pointer slots
  for the invariant; "a link's target has count 0 and no other reference" is not part of `Inv`
  (it is a typing fact about which slot is a link, which the heap alone does not know) but a
  precondition of `loadObj` (`LoadPre`, ProofsLoad.lean; `LoadObjPre`, ProofsHist.lean).
* (ii) "every word at or above the frontier is 0" is bounded by `limit` (the monitor cannot look
  beyond the heap), talks about 8-byte words aligned relative to the heap base only, and the frontier
  block must lie inside the heap: `F + 64 ≤ limit`.
* Blocks on the linear free list and pending blocks may contain arbitrary stale data in words 1..7.
  The emitted code reads fields of a block that is ALREADY on the linear free list in exactly two
  places, both immediately after it put the block there and before anything else can touch it:
  `load_fields` in release mode (`release_block` comes before the loads of the block's fields) and
  `acquire_block` case (2) (`erase_fields(HEAP)` after the deferred block became the linear list).
  In the proofs the three pointer slots of such a block are accounted as roots from the moment the
  block changes lists (`InvW.to_lin`, `InvW.acquire_lazy`).  Otherwise a block taken from the linear
  list is written before it is read: `store` writes all three pointer slots (value, null or link)
  before `acquire_block` hands the block out.
-/
import Scc.Heap.Model

namespace Scc.Heap

/-- `a` is the address of a block of the heap starting at `base`. -/
def IsBlock (base a : Nat) : Prop := base ≤ a ∧ (a - base) % 64 = 0

/-- Following word 0 from `a` visits exactly the non-null addresses `l` and then reaches 0. -/
def Chain (m : Nat → Nat) : Nat → List Nat → Prop
  | a, [] => a = 0
  | a, x :: xs => a = x ∧ x ≠ 0 ∧ Chain m (m x) xs

/-- `ord` is topologically sorted: every pointer slot of a block in the list is null or points to a
block LATER in the list.  A duplicate-free list with this property has no cycle through pointer
slots. -/
def TopoSorted (m : Nat → Nat) : List Nat → Prop
  | [] => True
  | b :: rest => (∀ p, p ∈ ptrSlots m b → p = 0 ∨ p ∈ rest) ∧ TopoSorted m rest

/-- The invariant with explicit witnesses, on raw components (so that it can be stated for the
memory of an emulated machine as well as for model states). -/
structure InvW (m : Nat → Nat) (base limit heap free : Nat)
    (roots pend lin lazy live : List Nat) (F : Nat) : Prop where
  /-- the heap does not start at the null pointer -/
  base_pos : 0 < base
  /-- (i) the linear free list: duplicate-free (by `nodup`), null-terminated, non-empty -/
  lin_chain : Chain m heap lin
  lin_ne : lin ≠ []
  /-- (ii) the deferred free list ends at the frontier block, whose word 0 is 0 -/
  lazy_chain : Chain m free (lazy ++ [F])
  frontier_block : IsBlock base F
  frontier_room : F + 64 ≤ limit
  /-- (ii) every heap word from the frontier on is zero -/
  zero_above : ∀ a, F ≤ a → a + 8 ≤ limit → (a - base) % 8 = 0 → m a = 0
  /-- (iii) the four states are pairwise disjoint and duplicate-free ... -/
  nodup : (lin ++ lazy ++ live ++ pend).Nodup
  /-- (iii) ... and together are exactly the blocks below the frontier -/
  cover : ∀ a, a ∈ lin ++ lazy ++ live ++ pend ↔ (IsBlock base a ∧ a < F)
  /-- (iv) stored count + 1 = number of references from roots and from pointer slots of live and
  deferred blocks -/
  counts : ∀ b, b ∈ live → m b + 1 = roots.count b + (ptrFields m (live ++ lazy)).count b
  /-- (v) pointer slots of live and deferred blocks are null or point to live blocks -/
  fields_live : ∀ p, p ∈ ptrFields m (live ++ lazy) → p = 0 ∨ p ∈ live
  /-- roots are null or point to live blocks -/
  roots_live : ∀ r, r ∈ roots → r = 0 ∨ r ∈ live
  /-- a pending block has count 0 -/
  pend_hdr : ∀ b, b ∈ pend → m b = 0
  /-- (vi) no cycles among the live blocks: with (iv) — every live block has a reference — this makes
  every live block reachable from a root or from a deferred block, i.e. no block is lost -/
  acyclic : ∃ ord, ord.Perm live ∧ TopoSorted m ord

/-- `InvW` on a model state. -/
def InvS (s : HState) (roots pend lin lazy live : List Nat) (F : Nat) : Prop :=
  InvW s.mem.get s.base s.limit s.heap s.free roots pend lin lazy live F

/-- The invariant with pending blocks. -/
def InvP (s : HState) (roots pend : List Nat) : Prop :=
  ∃ lin lazy live F, InvS s roots pend lin lazy live F

/-- C09's invariant at statement boundaries: nothing pending. -/
def Inv (s : HState) (roots : List Nat) : Prop := InvP s roots []

end Scc.Heap
