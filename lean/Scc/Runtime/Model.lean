/-
  Scc.Runtime.Model — executable model of the C runtime that every compiled program is linked with.

  Modelled sources (of /repo):
    lang/driver/infrastructure/io.c               print_i64, println_i64
    lang/driver/infrastructure/driver-template.c  main
    lang/driver/src/lib.rs: fn generate_c_driver  (instantiation of the template by string replacement:
        prototype `int asm_main(void *heap, int64_t input1, ..., int64_t inputN)`,
        `if (argc != 1 + N)`, call `asm_main(heap, strtoll(argv[1], NULL, 10), ..., strtoll(argv[N], NULL, 10))`)

  Two variants are modelled side by side, as Scc/Generated/Runtime.lean distinguishes them (`negStyle`, `argConv`):
  the current sources (magnitude computed in `uint64_t`: `printUnsignedMag`; arguments converted with `strtoll`:
  `strtollModel`) and the earlier ones (`value = -value` on `int64_t`: `printSigned`; `atoi`: `argToParam`).
  Scc/Runtime/Current.lean selects by the generated values.

  C semantics is made explicit: signed overflow and out-of-bounds stores are reported as `Out.ub`,
  never silently given a value.  The buffer capacity (`MAX_DIGITS_INT` of io.c) is a parameter `cap`
  of every function; `maxDigitsInt` below only records the value currently found in io.c.

  Imports: core only (this file is linked into an executable).
-/

namespace Scc.Runtime

/-- io.c: `#define MAX_DIGITS_INT 20` (recorded value; the model functions take `cap` explicitly). -/
def maxDigitsInt : Nat := 20

/-- Outcome of one call of a C function that writes to stdout. -/
inductive Out where
  /-- the bytes handed to `write(STDOUT_FILENO, ..)` -/
  | ok (bytes : List UInt8)
  /-- the call has undefined behaviour in C; `why` names the first violated rule -/
  | ub (why : String)
  deriving Repr, DecidableEq, Inhabited

/-- `INT64_MIN` = -2^63 as a 64-bit pattern. -/
def INT64_MIN : BitVec 64 := 0x8000000000000000#64

/-! ## io.c -/

/-- io.c: the loop
```
  do { prev_value = value; value /= 10; start--; *start = '0' + (prev_value - value * 10); } while (value);
```
`value` is the (non-negative) value as a natural number — C `/` on non-negative operands is `Nat` division,
and `prev_value - value*10` cannot overflow since `0 ≤ value*10 ≤ prev_value`.
`start` is the index of the pointer `start` into `buf`; `buf` is the list of bytes currently stored at
`buf[start .. ]` (everything that was stored so far, up to the end of the array).
`start--; *start = ..` with `start = 0` stores to `buf[-1]`: result `none` (buffer under-run).
Recursion is on the value exactly as in C (the loop ends when the quotient is 0). -/
def digitLoop (value : Nat) (start : Nat) (buf : List UInt8) : Option (Nat × List UInt8) :=
  let prevValue := value
  let value' := value / 10                                  -- value /= 10
  match start with
  | 0 => none                                               -- start--; *start = ..  below buf[0]
  | start' + 1 =>                                           -- start--
    let buf' := UInt8.ofNat (48 + (prevValue - value' * 10)) :: buf   -- *start = '0' + (prev - value*10)
    if _h : value' = 0 then some (start', buf')              -- while (value)
    else digitLoop value' start' buf'
termination_by value
decreasing_by
  omega

/-- `write(STDOUT_FILENO, start, len)` where `buf` lists the bytes from `start` to the end of the array:
the first `len` of them are written (`len` never exceeds `buf.length` in the callers below: it is
computed from the same indices). -/
def writeFrom (buf : List UInt8) (len : Nat) : Out := .ok (buf.take len)

/-- io.c: common tail of `print_i64` / `println_i64` after the sign has been stripped.
`trailer` is what is stored at `buf[cap ..]` before the loop (`[]` for print: `char buf[cap]`,
`['\n']` for println: `char buf[cap+1]; buf[cap] = '\n'`), `start = &buf[cap]`.
`write` length: `&buf[cap] - start` (+ 1 for println, i.e. `+ trailer.length`). -/
def printTail (cap : Nat) (trailer : List UInt8) (negative : Bool) (magnitude : Nat) : Out :=
  match digitLoop magnitude cap trailer with
  | none => .ub "buffer-underflow"
  | some (start, buf) =>
    if negative then
      match start with
      | 0 => .ub "buffer-underflow"                          -- start--; *start = '-' below buf[0]
      | start' + 1 => writeFrom (45 :: buf) (cap - start' + trailer.length)
    else writeFrom buf (cap - start + trailer.length)

/-- C `value = -value` on `int64_t`: signed overflow (undefined behaviour) exactly for `INT64_MIN`. -/
def negI64 (value : BitVec 64) : Option (BitVec 64) :=
  if value = INT64_MIN then none else some (-value)

/-- io.c: shared body of print_i64 / println_i64 (the two C functions differ only in `trailer`).
The EARLIER body (`NegStyle.signed`), not the current code: `if (value < 0) { negative = true; value = -value; }` on
`int64_t`. -/
def printSigned (cap : Nat) (trailer : List UInt8) (value : BitVec 64) : Out :=
  if value.slt 0 then
    match negI64 value with
    | none => .ub "neg-overflow"
    | some value' => printTail cap trailer true value'.toNat
  else printTail cap trailer false value.toNat

/-- io.c: void print_i64(int64_t value) -/
def printI64 (cap : Nat) (value : BitVec 64) : Out := printSigned cap [] value

/-- io.c: void println_i64(int64_t value) -/
def printlnI64 (cap : Nat) (value : BitVec 64) : Out := printSigned cap [10] value

/-- The CURRENT body of io.c (`NegStyle.unsignedMag`): magnitude computed in `uint64_t`
(`uint64_t magnitude = (uint64_t)value; if (value < 0) magnitude = 0 - (uint64_t)value;` — wrap-around is
defined), loop on the unsigned magnitude. -/
def printUnsignedMag (cap : Nat) (trailer : List UInt8) (value : BitVec 64) : Out :=
  if value.slt 0 then printTail cap trailer true (0#64 - value).toNat
  else printTail cap trailer false value.toNat

/-- repaired print_i64 (see `printUnsignedMag`). -/
def printI64Fixed (cap : Nat) (value : BitVec 64) : Out := printUnsignedMag cap [] value

/-- repaired println_i64 (see `printUnsignedMag`). -/
def printlnI64Fixed (cap : Nat) (value : BitVec 64) : Out := printUnsignedMag cap [10] value

/-! ## decimal specification (independent of the loop) -/

/-- ASCII code of a character as a byte. -/
def charByte (c : Char) : UInt8 := UInt8.ofNat c.toNat

/-- decimal digits of a natural number, most significant first, no leading zeros, "0" for 0
(core `Nat.toDigits`, the function behind `Nat.repr`). -/
def decNat (n : Nat) : List UInt8 := (Nat.toDigits 10 n).map charByte

/-- The decimal spec: leading '-' for negatives, no leading zeros, "0" for zero. -/
def decSpec (v : Int) : List UInt8 :=
  if v < 0 then 45 :: decNat v.natAbs else decNat v.natAbs

/-! ## atoi / strtol (C standard + glibc) -/

/-- `isspace` in the "C" locale: space, \t \n \v \f \r. -/
def isSpace (c : UInt8) : Bool := c == 32 || (9 ≤ c && c ≤ 13)

/-- `'0' ≤ c ≤ '9'`. -/
def isDigit (c : UInt8) : Bool := 48 ≤ c && c ≤ 57

/-- accumulate decimal digits, stop at the first non-digit (or at the end = the NUL terminator). The
accumulator is unbounded; saturation is applied afterwards (same result as glibc's cutoff logic). -/
def parseDigits : List UInt8 → Nat → Nat
  | [], acc => acc
  | c :: cs, acc => if isDigit c then parseDigits cs (acc * 10 + (c.toNat - 48)) else acc

/-- the mathematical value denoted by the longest prefix `ws* [+-]? digit*` (0 if there are no digits). -/
def parseSigned (s : List UInt8) : Int :=
  match s.dropWhile isSpace with
  | 45 :: t => - (parseDigits t 0 : Int)       -- '-'
  | 43 :: t => (parseDigits t 0 : Int)         -- '+'
  | t => (parseDigits t 0 : Int)

/-- clamp to `[LONG_MIN, LONG_MAX]` (64-bit long). -/
def saturate64 (x : Int) : Int :=
  if x < -(2 : Int) ^ 63 then -(2 : Int) ^ 63 else if (2 : Int) ^ 63 - 1 < x then (2 : Int) ^ 63 - 1 else x

/-- `strtoll(s, NULL, 10)` = `strtol(s, NULL, 10)` on LP64: saturating 64-bit. -/
def strtollModel (s : List UInt8) : Int := saturate64 (parseSigned s)

/-- All stages of the conversion of one command line argument. -/
structure AtoiOut where
  /-- mathematical value of the parsed prefix -/
  parsed : Int
  /-- `strtol` result (saturated `long`) -/
  long : Int
  /-- `(int) long`: low 32 bits (implementation-defined conversion, gcc/clang: modular) -/
  int32 : BitVec 32
  /-- the `int` passed for an `int64_t` parameter: sign extension -/
  param : Int
  deriving Repr, DecidableEq

/-- glibc: `atoi(s) = (int) strtol(s, NULL, 10)`; then the implicit `int → int64_t` conversion at the
call `asm_main(heap, atoi(argv[i]), ..)` of the EARLIER driver (`ArgConv.atoi`; the current one calls `strtoll`:
`strtollModel`). -/
def atoiModel (s : List UInt8) : AtoiOut :=
  let p := parseSigned s
  let l := saturate64 p
  let i := BitVec.ofInt 32 l
  { parsed := p, long := l, int32 := i, param := i.toInt }

/-- the `atoi` conversion of the earlier driver: sign-extend-32(truncate-32(saturate-64(parse s))) -/
def argToParam (s : List UInt8) : Int := (BitVec.ofInt 32 (strtollModel s)).toInt

/-! ## driver-template.c -/

/-- Parameters of `generate_c_driver`. The heap (`calloc(heapsize, sizeof(void))`, result unchecked)
is not modelled here. -/
structure DriverCfg where
  nParams : Nat
  heapSizeMiB : Nat := 32
  deriving Repr, DecidableEq

/-- `ERROR_ARGUMENTS` as written by `write(STDOUT_FILENO, ERROR_ARGUMENTS, sizeof(ERROR_ARGUMENTS))`:
"wrong number of arguments\n" AND the terminating NUL (`sizeof` of a string literal counts it): 27 bytes. -/
def errorBytes : List UInt8 :=
  [119, 114, 111, 110, 103, 32,                    -- "wrong "
   110, 117, 109, 98, 101, 114, 32,                -- "number "
   111, 102, 32,                                   -- "of "
   97, 114, 103, 117, 109, 101, 110, 116, 115,     -- "arguments"
   10, 0]                                          -- "\n" "\0"

/-- `int val = asm_main(..)` reads the low 32 bits of the returned register; `return val;` from `main`;
the OS keeps the low 8 bits: a number in 0..255. -/
def exitStatus (ret : Int) : Nat := (BitVec.ofInt 32 ret).toNat % 256

/-- driver-template.c: int main(int argc, char *argv[]) as instantiated for `nParams` parameters, with the `atoi`
conversion of the EARLIER driver (for the current one, `strtoll`: `argToParamCur` of Scc/Runtime/Current.lean, used
by `nativeRun` of Scc/Pipeline.lean).
`argv` includes the program name (`argv.length = argc`). `asmMain` maps the converted arguments to
(bytes it wrote to stdout, 64-bit return value). Result: (stdout bytes, exit status). -/
def driverMain (nParams : Nat) (argv : List (List UInt8))
    (asmMain : List Int → (List UInt8 × Int)) : (List UInt8 × Nat) :=
  if argv.length ≠ 1 + nParams then
    (errorBytes, 1)
  else
    let r := asmMain ((argv.drop 1).map argToParam)      -- atoi(argv[1]) .. atoi(argv[n])
    (r.1, exitStatus r.2)

/-- `driverMain` for a configuration record. -/
def driverMainCfg (cfg : DriverCfg) (argv : List (List UInt8))
    (asmMain : List Int → (List UInt8 × Int)) : (List UInt8 × Nat) :=
  driverMain cfg.nParams argv asmMain

/-! ## line protocol (pure; used by the differential-test driver) -/

def hexDigit (n : Nat) : Char := if n < 10 then Char.ofNat (48 + n) else Char.ofNat (87 + n)

def hexOfBytes (bs : List UInt8) : String :=
  String.ofList (bs.flatMap fun b => [hexDigit (b.toNat / 16), hexDigit (b.toNat % 16)])

def hexVal (c : Char) : Option Nat :=
  if '0' ≤ c ∧ c ≤ '9' then some (c.toNat - 48)
  else if 'a' ≤ c ∧ c ≤ 'f' then some (c.toNat - 87)
  else if 'A' ≤ c ∧ c ≤ 'F' then some (c.toNat - 55)
  else none

def bytesOfHexChars : List Char → Option (List UInt8)
  | [] => some []
  | [_] => none
  | a :: b :: rest =>
    match hexVal a, hexVal b, bytesOfHexChars rest with
    | some x, some y, some bs => some (UInt8.ofNat (x * 16 + y) :: bs)
    | _, _, _ => none

def bytesOfHex (s : String) : Option (List UInt8) := bytesOfHexChars s.toList

def showOut : Out → String
  | .ok bs => hexOfBytes bs
  | .ub why => "UB " ++ why

/-- decimal int64 → bit pattern; `none` if not a decimal integer in [-2^63, 2^63). -/
def parseI64 (s : String) : Option (BitVec 64) :=
  match s.toInt? with
  | some i => if -(2 : Int) ^ 63 ≤ i ∧ i < (2 : Int) ^ 63 then some (BitVec.ofInt 64 i) else none
  | none => none

/-- Line protocol:
  `print <decimal int64>`    -> hex of the bytes written by print_i64, or `UB <why>`
  `println <decimal int64>`  -> same for println_i64
  `printfixed <decimal int64>` / `printlnfixed <decimal int64>` -> the repaired variants
  `atoi <hex bytes of the argument string>` -> decimal of `argToParam`
  `strtoll <hex bytes>`      -> decimal of `strtollModel`
  `exit <decimal int64>`     -> exit status (0..255) for that return value of asm_main
  `spec <decimal int64>`     -> hex of `decSpec`
  anything else              -> `ERR ...` -/
def handleLine (cap : Nat) (line : String) : String :=
  match line.trimAscii.toString.splitOn " " with
  | ["print", a] => match parseI64 a with
    | some v => showOut (printI64 cap v)
    | none => "ERR bad int64"
  | ["println", a] => match parseI64 a with
    | some v => showOut (printlnI64 cap v)
    | none => "ERR bad int64"
  | ["printfixed", a] => match parseI64 a with
    | some v => showOut (printI64Fixed cap v)
    | none => "ERR bad int64"
  | ["printlnfixed", a] => match parseI64 a with
    | some v => showOut (printlnI64Fixed cap v)
    | none => "ERR bad int64"
  | ["atoi"] => toString (argToParam [])
  | ["atoi", h] => match bytesOfHex h with
    | some bs => toString (argToParam bs)
    | none => "ERR bad hex"
  | ["strtoll"] => toString (strtollModel [])
  | ["strtoll", h] => match bytesOfHex h with
    | some bs => toString (strtollModel bs)
    | none => "ERR bad hex"
  | ["exit", a] => match parseI64 a with
    | some v => toString (exitStatus v.toInt)
    | none => "ERR bad int64"
  | ["spec", a] => match parseI64 a with
    | some v => hexOfBytes (decSpec v.toInt)
    | none => "ERR bad int64"
  | _ => "ERR unknown command"

end Scc.Runtime
