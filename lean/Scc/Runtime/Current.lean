/-
  Scc.Runtime.Current — the runtime model instantiated with what `checks/regen.py` extracted from the
  CURRENT sources of /repo (Scc/Generated/Runtime.lean is rewritten on every run):
  buffer capacity, how the magnitude of a negative value is computed, which C conversion function
  the generated driver applies to argv.
-/
import Scc.Runtime.Model
import Scc.Generated.Runtime

namespace Scc.Runtime

open Scc.Generated

/-- print_i64 as io.c has it now. -/
def printI64Cur (v : BitVec 64) : Out :=
  match negStyle with
  | .signed => printI64 maxDigitsIntSrc v
  | .unsignedMag => printI64Fixed maxDigitsIntSrc v

/-- println_i64 as io.c has it now. -/
def printlnI64Cur (v : BitVec 64) : Out :=
  match negStyle with
  | .signed => printlnI64 maxDigitsIntSrc v
  | .unsignedMag => printlnI64Fixed maxDigitsIntSrc v

/-- argument conversion as `generate_c_driver` emits it now. -/
def argToParamCur (s : List UInt8) : Int :=
  match argConv with
  | .atoi => argToParam s
  | .strtoll => strtollModel s

/-- line protocol (pure): the `*cur` requests use the extracted configuration. -/
def handleLineCur (line : String) : String :=
  match line.trimAscii.toString.splitOn " " with
  | ["printcur", a] => handleLine maxDigitsIntSrc
      (match negStyle with | .signed => s!"print {a}" | .unsignedMag => s!"printfixed {a}")
  | ["printlncur", a] => handleLine maxDigitsIntSrc
      (match negStyle with | .signed => s!"println {a}" | .unsignedMag => s!"printlnfixed {a}")
  | ["argcur"] => handleLine maxDigitsIntSrc
      (match argConv with | .atoi => "atoi" | .strtoll => "strtoll")
  | ["argcur", h] => handleLine maxDigitsIntSrc
      (match argConv with | .atoi => s!"atoi {h}" | .strtoll => s!"strtoll {h}")
  | _ => handleLine maxDigitsIntSrc line

end Scc.Runtime
