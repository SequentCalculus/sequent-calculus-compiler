/-
  Scc.Runtime.SpellingProofs — the argument conversion of the driver (Scc.Runtime.Model: `parseSigned`,
  `strtollModel`, `argToParam`) on EVERY decimal spelling of a number, not only the canonical one
  (`decSpec`): optional white space, optional sign `+`/`-`, one or more decimal digits with any number of
  leading zeros, optionally followed by bytes that are not part of the number.  Proof file.

  The numeric value of a digit string is defined here positionally (`digitsValue`, Horner form) and tied
  to core's `Nat.toDigits` (through `decNat`) in both directions:
    * `digitsValue_zeros_decNat` : the string `0…0 ++ decNat n` has value `n`;
    * `digits_eq_zeros_decNat`   : every non-empty digit string IS `0…0 ++ decNat (its value)`.
  Also: a model of `strtoll(s, NULL, 0)` (base detection: `0x`/`0X` hexadecimal, leading `0` octal),
  only used to exhibit that base 0 would NOT satisfy C20 (`010`; the exhibit is `C20_spelling_base0_false` in
  Props/C20Spelling.lean).
-/
import Scc.Runtime.Proofs

namespace Scc.Runtime

/-! ## digit strings and their value -/

/-- all bytes are ASCII digits -/
def allDigits (ds : List UInt8) : Bool := ds.all isDigit

/-- all bytes are white space (`isspace`) -/
def allSpace (ws : List UInt8) : Bool := ws.all isSpace

/-- Horner evaluation of a digit string, most significant digit first -/
def horner : Nat → List UInt8 → Nat
  | acc, [] => acc
  | acc, c :: cs => horner (acc * 10 + (c.toNat - 48)) cs

/-- the number a digit string denotes in base ten -/
def digitsValue (ds : List UInt8) : Nat := horner 0 ds

/-- `rest` cannot continue a number: it is empty (the NUL terminator follows) or starts with a non-digit -/
def stops : List UInt8 → Bool
  | [] => true
  | c :: _ => !isDigit c

theorem horner_nil (acc : Nat) : horner acc [] = acc := by rfl
theorem horner_cons (acc : Nat) (c : UInt8) (cs : List UInt8) :
    horner acc (c :: cs) = horner (acc * 10 + (c.toNat - 48)) cs := by rfl

theorem horner_append (acc : Nat) (a b : List UInt8) : horner acc (a ++ b) = horner (horner acc a) b := by
  induction a generalizing acc with
  | nil => rw [List.nil_append, horner_nil]
  | cons c cs ih => rw [List.cons_append, horner_cons, horner_cons, ih]

theorem horner_acc (acc : Nat) (ds : List UInt8) :
    horner acc ds = acc * 10 ^ ds.length + horner 0 ds := by
  induction ds generalizing acc with
  | nil => rw [horner_nil, horner_nil, List.length_nil, Nat.pow_zero, Nat.mul_one, Nat.add_zero]
  | cons c cs ih =>
    rw [horner_cons, horner_cons, List.length_cons, Nat.zero_mul, Nat.zero_add]
    rw [ih (acc * 10 + (c.toNat - 48)), ih (c.toNat - 48), Nat.pow_succ, Nat.add_mul]
    have : acc * 10 * 10 ^ cs.length = acc * (10 ^ cs.length * 10) := by
      rw [Nat.mul_assoc, Nat.mul_comm 10]
    omega

theorem digitsValue_snoc (ds : List UInt8) (c : UInt8) :
    digitsValue (ds ++ [c]) = digitsValue ds * 10 + (c.toNat - 48) := by
  unfold digitsValue
  rw [horner_append, horner_cons, horner_nil]

/-- on digits followed by a stop the C loop computes the Horner value -/
theorem parseDigits_allDigits : ∀ (ds rest : List UInt8) (acc : Nat),
    allDigits ds = true → stops rest = true → parseDigits (ds ++ rest) acc = horner acc ds := by
  intro ds
  induction ds with
  | nil =>
    intro rest acc _ hs
    cases rest with
    | nil => rw [List.append_nil, horner_nil]; rfl
    | cons c r =>
      have : isDigit c = false := by simpa [stops] using hs
      rw [List.nil_append, horner_nil, parseDigits, this]; rfl
  | cons c cs ih =>
    intro rest acc hd hs
    simp only [allDigits, List.all_cons, Bool.and_eq_true] at hd
    rw [List.cons_append, parseDigits, hd.1, if_pos rfl, horner_cons]
    exact ih rest _ hd.2 hs

theorem allDigits_decNat (n : Nat) : allDigits (decNat n) = true := by
  simp only [allDigits, List.all_eq_true]
  exact isDigit_of_mem_decNat n

theorem allDigits_zeros (k : Nat) : allDigits (List.replicate k 48) = true := by
  simp only [allDigits, List.all_eq_true]
  intro c hc
  rw [List.eq_of_mem_replicate hc]; decide

theorem allDigits_append {a b : List UInt8} :
    allDigits (a ++ b) = true ↔ allDigits a = true ∧ allDigits b = true := by
  simp [allDigits, List.all_append]

theorem digitsValue_decNat (n : Nat) : digitsValue (decNat n) = n := by
  have h := parseDigits_allDigits (decNat n) [] 0 (allDigits_decNat n) rfl
  rw [List.append_nil, parseDigits_decNat] at h
  exact h.symm

theorem horner_zeros (acc k : Nat) : horner acc (List.replicate k 48) = acc * 10 ^ k := by
  induction k generalizing acc with
  | zero => rw [List.replicate_zero, horner_nil, Nat.pow_zero, Nat.mul_one]
  | succ k ih =>
    rw [List.replicate_succ, horner_cons, ih, Nat.pow_succ]
    have : (48 : UInt8).toNat - 48 = 0 := by decide
    rw [this, Nat.add_zero, Nat.mul_assoc, Nat.mul_comm 10]

/-- leading zeros do not change the value; the canonical digits of `n` denote `n` -/
theorem digitsValue_zeros_decNat (k n : Nat) : digitsValue (List.replicate k 48 ++ decNat n) = n := by
  unfold digitsValue
  rw [horner_append, horner_zeros, Nat.zero_mul]
  exact digitsValue_decNat n

/-- a digit byte is `'0' + d` for its value `d < 10` -/
theorem isDigit_eq_ofNat {c : UInt8} (h : isDigit c = true) :
    c.toNat - 48 < 10 ∧ c = UInt8.ofNat (48 + (c.toNat - 48)) := by
  simp only [isDigit, Bool.and_eq_true, decide_eq_true_eq] at h
  have h1 : 48 ≤ c.toNat := by simpa [UInt8.le_iff_toNat_le] using h.1
  have h2 : c.toNat ≤ 57 := by simpa [UInt8.le_iff_toNat_le] using h.2
  refine ⟨by omega, ?_⟩
  have : 48 + (c.toNat - 48) = c.toNat := by omega
  rw [this, UInt8.ofNat_toNat]

/-- snoc form of the converse, by induction on the reversed string -/
theorem digits_eq_zeros_decNat_rev : ∀ (rs : List UInt8), rs ≠ [] → allDigits rs.reverse = true →
    ∃ k, rs.reverse = List.replicate k 48 ++ decNat (digitsValue rs.reverse) := by
  intro rs
  induction rs with
  | nil => intro h; exact absurd rfl h
  | cons c cs ih =>
    intro _ hd
    rw [List.reverse_cons] at hd ⊢
    obtain ⟨hcs, hc⟩ := allDigits_append.1 hd
    have hc' : isDigit c = true := by simpa [allDigits] using hc
    obtain ⟨hlt, hce⟩ := isDigit_eq_ofNat hc'
    rw [digitsValue_snoc]
    by_cases hnil : cs = []
    · subst hnil
      refine ⟨0, ?_⟩
      simp only [List.reverse_nil, List.nil_append, List.replicate_zero]
      have : digitsValue [] = 0 := rfl
      rw [this, Nat.zero_mul, Nat.zero_add, decNat_of_lt hlt, ← hce]
    · obtain ⟨k, hk⟩ := ih hnil hcs
      generalize hv : digitsValue cs.reverse = v at hk
      by_cases hv0 : v = 0
      · subst hv0
        refine ⟨k + 1, ?_⟩
        rw [hk, Nat.zero_mul, Nat.zero_add, decNat_of_lt hlt, ← hce]
        have h0 : decNat 0 = [48] := by decide
        rw [h0, List.replicate_succ']
      · refine ⟨k, ?_⟩
        have hge : 10 ≤ v * 10 + (c.toNat - 48) := by omega
        rw [decNat_of_ge hge]
        have hdiv : (v * 10 + (c.toNat - 48)) / 10 = v := by omega
        have hmod : (v * 10 + (c.toNat - 48)) % 10 = c.toNat - 48 := by omega
        rw [hdiv, hmod, ← hce, ← List.append_assoc, ← hk]

/-- **Every non-empty digit string is the canonical rendering of its value behind some leading zeros.** -/
theorem digits_eq_zeros_decNat (ds : List UInt8) (hne : ds ≠ []) (hd : allDigits ds = true) :
    ∃ k, ds = List.replicate k 48 ++ decNat (digitsValue ds) := by
  have h := digits_eq_zeros_decNat_rev ds.reverse (by simpa using hne) (by simpa using hd)
  simpa using h

/-! ## spellings of an argument -/

/-- the optional sign of a spelling -/
inductive Sign where
  | none | plus | minus
  deriving DecidableEq, Repr

def Sign.bytes : Sign → List UInt8
  | .none => []
  | .plus => [43]
  | .minus => [45]

/-- a spelling of a number as a command-line argument: `ws* [+-]? digit+` -/
structure Spelling where
  ws : List UInt8 := []
  sign : Sign := .none
  digits : List UInt8
  deriving DecidableEq, Repr

/-- the argument string -/
def Spelling.bytes (sp : Spelling) : List UInt8 := sp.ws ++ (sp.sign.bytes ++ sp.digits)

/-- well-formed: white space, then at least one digit, digits only (decidable) -/
def Spelling.ok (sp : Spelling) : Bool := allSpace sp.ws && allDigits sp.digits && !sp.digits.isEmpty

/-- the shape of the property text: no white space (`[+-]? digit+`) -/
def Spelling.plain (sp : Spelling) : Bool := sp.ws.isEmpty && sp.ok

/-- the number it denotes -/
def Spelling.value (sp : Spelling) : Int :=
  match sp.sign with
  | .minus => -(digitsValue sp.digits : Int)
  | _ => (digitsValue sp.digits : Int)

/-- The model of the C conversion on a spelling followed by anything that stops the number. -/
theorem parseSigned_spelling_append (sp : Spelling) (rest : List UInt8) (hok : sp.ok = true)
    (hs : stops rest = true) : parseSigned (sp.bytes ++ rest) = sp.value := by
  obtain ⟨ws, sign, ds⟩ := sp
  simp only [Spelling.ok, Bool.and_eq_true, Bool.not_eq_true', List.isEmpty_eq_false_iff] at hok
  obtain ⟨⟨hws, hds⟩, hne⟩ := hok
  have hp : ∀ acc, parseDigits (ds ++ rest) acc = horner acc ds :=
    fun acc => parseDigits_allDigits ds rest acc hds hs
  unfold parseSigned Spelling.bytes Spelling.value
  simp only
  rw [List.append_assoc, List.dropWhile_append_of_pos (List.all_eq_true.1 hws), List.append_assoc]
  cases sign with
  | minus =>
    have : ([45] ++ (ds ++ rest)).dropWhile isSpace = 45 :: (ds ++ rest) := by
      rw [List.singleton_append, List.dropWhile_cons_of_neg]; decide
    simp only [Sign.bytes, this, hp, digitsValue]
  | plus =>
    have : ([43] ++ (ds ++ rest)).dropWhile isSpace = 43 :: (ds ++ rest) := by
      rw [List.singleton_append, List.dropWhile_cons_of_neg]; decide
    simp only [Sign.bytes, this, hp, digitsValue]
  | none =>
    cases ds with
    | nil => exact absurd rfl hne
    | cons c t =>
      have hc : isDigit c = true := by
        simp only [allDigits, List.all_cons, Bool.and_eq_true] at hds; exact hds.1
      obtain ⟨hsp, h45, h43⟩ := isDigit_not_space hc
      have : ([] ++ (c :: t ++ rest)).dropWhile isSpace = c :: (t ++ rest) := by
        rw [List.nil_append, List.cons_append, List.dropWhile_cons_of_neg]; simp [hsp]
      simp only [Sign.bytes, this]
      have hp0 := hp 0
      rw [List.cons_append] at hp0
      split
      · rename_i heq; injection heq with h1 _; exact absurd h1 h45
      · rename_i heq; injection heq with h1 _; exact absurd h1 h43
      · rw [hp0]; rfl

theorem parseSigned_spelling (sp : Spelling) (hok : sp.ok = true) : parseSigned sp.bytes = sp.value := by
  have := parseSigned_spelling_append sp [] hok rfl
  rwa [List.append_nil] at this

/-! ## saturation -/

theorem saturate64_below {v : Int} (h : v < -2 ^ 63) : saturate64 v = -2 ^ 63 := by
  unfold saturate64; rw [if_pos h]

theorem saturate64_above {v : Int} (h : 2 ^ 63 ≤ v) : saturate64 v = 2 ^ 63 - 1 := by
  unfold saturate64; rw [if_neg (by omega), if_pos (by omega)]

/-- `strtoll(s, NULL, 10)` on a spelling, all three clauses of the C standard / glibc:
in range the value itself, below `LLONG_MIN`, above `LLONG_MAX`. -/
theorem strtollModel_spelling_append (sp : Spelling) (rest : List UInt8) (hok : sp.ok = true)
    (hs : stops rest = true) :
    (-2 ^ 63 ≤ sp.value → sp.value < 2 ^ 63 → strtollModel (sp.bytes ++ rest) = sp.value) ∧
    (sp.value < -2 ^ 63 → strtollModel (sp.bytes ++ rest) = -2 ^ 63) ∧
    (2 ^ 63 ≤ sp.value → strtollModel (sp.bytes ++ rest) = 2 ^ 63 - 1) := by
  unfold strtollModel
  rw [parseSigned_spelling_append sp rest hok hs]
  exact ⟨saturate64_of_range, saturate64_below, saturate64_above⟩

theorem strtollModel_spelling (sp : Spelling) (hok : sp.ok = true)
    (h1 : -2 ^ 63 ≤ sp.value) (h2 : sp.value < 2 ^ 63) : strtollModel sp.bytes = sp.value := by
  have := (strtollModel_spelling_append sp [] hok rfl).1 h1 h2
  rwa [List.append_nil] at this

/-- the `atoi` driver (`argToParam`): exact for values that fit a C `int` -/
theorem argToParam_spelling (sp : Spelling) (hok : sp.ok = true)
    (h1 : -2 ^ 31 ≤ sp.value) (h2 : sp.value < 2 ^ 31) : argToParam sp.bytes = sp.value := by
  rw [argToParam, strtollModel_spelling sp hok (by omega) (by omega), toInt_ofInt32_of_range h1 h2]

/-! ## the canonical spelling -/

/-- the conversion reads `decSpec v` back as `v`: it is the theorem for every spelling at the spelling
without white space and leading zeros, with `-` for a negative `v` -/
theorem parseSigned_decSpec (v : Int) : parseSigned (decSpec v) = v := by
  have h := parseSigned_spelling ⟨[], if v < 0 then .minus else .none, decNat v.natAbs⟩
    (by simp [Spelling.ok, allSpace, allDigits_decNat, decNat_ne_nil])
  unfold decSpec
  split <;> rename_i hv <;>
    simp only [Spelling.bytes, Spelling.value, Sign.bytes, hv, if_true, if_false, List.nil_append,
      List.singleton_append, digitsValue_decNat] at h <;> rw [h] <;> omega

theorem strtollModel_decSpec {v : Int} (h1 : -2 ^ 63 ≤ v) (h2 : v < 2 ^ 63) :
    strtollModel (decSpec v) = v := by
  rw [strtollModel, parseSigned_decSpec, saturate64_of_range h1 h2]

theorem argToParam_decSpec {v : Int} (h1 : -2 ^ 63 ≤ v) (h2 : v < 2 ^ 63) :
    argToParam (decSpec v) = (BitVec.ofInt 32 v).toInt := by
  rw [argToParam, strtollModel_decSpec h1 h2]

/-! ## `strtoll(s, NULL, 0)`: what the driver does NOT call -/

/-- value of a byte as a digit in bases up to 36 (`0-9`, `a-z`, `A-Z`) -/
def digitValOf (c : UInt8) : Option Nat :=
  if 48 ≤ c && c ≤ 57 then some (c.toNat - 48)
  else if 97 ≤ c && c ≤ 122 then some (c.toNat - 87)
  else if 65 ≤ c && c ≤ 90 then some (c.toNat - 55)
  else none

/-- accumulate digits of the given base, stop at the first byte that is no digit of that base -/
def parseDigitsB (base : Nat) : List UInt8 → Nat → Nat
  | [], acc => acc
  | c :: cs, acc =>
    match digitValOf c with
    | some d => if d < base then parseDigitsB base cs (acc * base + d) else acc
    | none => acc

/-- the magnitude with base detection as for `base = 0`: `0x`/`0X` + hex digit: hexadecimal; leading `0`:
octal; otherwise decimal -/
def parseMagnitude0 (t : List UInt8) : Nat :=
  match t with
  | 48 :: x :: h :: r =>
    if (x == 120 || x == 88) && (digitValOf h).any (· < 16) then parseDigitsB 16 (h :: r) 0
    else parseDigitsB 8 t 0
  | 48 :: _ => parseDigitsB 8 t 0
  | _ => parseDigitsB 10 t 0

/-- `strtoll(s, NULL, 0)` (glibc), saturating -/
def strtollBase0Model (s : List UInt8) : Int :=
  saturate64 (match s.dropWhile isSpace with
    | 45 :: t => -(parseMagnitude0 t : Int)
    | 43 :: t => (parseMagnitude0 t : Int)
    | t => (parseMagnitude0 t : Int))

/-- the generic digit loop at base ten is the model's `parseDigits` -/
theorem parseDigitsB_ten : ∀ (cs : List UInt8) (acc : Nat), parseDigitsB 10 cs acc = parseDigits cs acc := by
  intro cs
  induction cs with
  | nil => intro acc; rfl
  | cons c cs ih =>
    intro acc
    unfold parseDigitsB parseDigits
    by_cases hd : isDigit c = true
    · have h' : (48 ≤ c && c ≤ 57) = true := hd
      obtain ⟨hlt, _⟩ := isDigit_eq_ofNat hd
      simp only [digitValOf, h', if_true, hd, hlt]
      exact ih _
    · have h' : (48 ≤ c && c ≤ 57) = false := by simpa [isDigit] using hd
      simp only [digitValOf, h', Bool.false_eq_true, if_false, hd]
      split
      · rename_i d hdv
        have : ¬ d < 10 := by
          split at hdv
          · rename_i hl
            simp only [Bool.and_eq_true, decide_eq_true_eq, UInt8.le_iff_toNat_le] at hl
            injection hdv with hdv
            have : (97 : UInt8).toNat = 97 := rfl
            omega
          · split at hdv
            · rename_i hl
              simp only [Bool.and_eq_true, decide_eq_true_eq, UInt8.le_iff_toNat_le] at hl
              injection hdv with hdv
              have : (65 : UInt8).toNat = 65 := rfl
              omega
            · cases hdv
        rw [if_neg this]
      · rfl

end Scc.Runtime
