/-
  Scc.StringLemmas — lemmas about the core `String` functions that the assembly loaders of the three machine
  models use (`parseText` of Scc/X86/Machine.lean, Scc/A64/Machine.lean, Scc/RV/Machine.lean), proved FROM THE
  DEFINITIONS of the reference implementations in core (Init/Data/String/Basic.lean `Pos.Raw.utf8GetAux`,
  `Pos.Raw.extract.go₁/go₂`, Init/Data/String/Legacy.lean `splitOnAux`).  Core has no lemmas about the
  legacy `String.splitOn`; this file provides

  * first, the few facts about `String.ofList` and the decimal digits of a number that every loader uses;
  * `utf8Len` (byte length of a character list) and the "valid position" lemmas
    `get_of_valid`, `next_of_valid`, `atEnd_of_valid`, `extract_of_valid`;
  * `splitList c l` — the proof-friendly splitting of a character list at every occurrence of `c` —
    and `splitOn_singleton : s.splitOn (String.singleton c) = (splitList c s.toList).map String.ofList`
    (exhaustive reasoning on `String.splitOnAux`, for EVERY string and EVERY single-character
    separator);
  * `splitList_intercalate` / `splitOn_intercalate` / `splitOn_newline_intercalate`: splitting the `intercalate`
    of a NON-EMPTY list of pieces that do not contain the separator gives the pieces back (for the empty list
    the result is `[""]`, as the implementation has it: `splitOn_intercalate_nil`);
  * `splitOn_intercalate_chunks`: the same for a text printed chunk by chunk, every chunk a non-empty list of
    lines (the x86-64 and AArch64 printers); `intercalate_append`, `intercalate_flatten` are its list part,
    which the RISC-V loader uses on its own;
  * `splitLines` and `splitLines_eq : splitLines s = s.splitOn "\n"`.
-/

namespace Scc.Str

open String (Pos.Raw)

theorem ofList_eq_iff {cs : List Char} {s : String} : String.ofList cs = s ↔ cs = s.toList :=
  ⟨fun h => by rw [← h, String.toList_ofList], fun h => by rw [h, String.ofList_toList]⟩

theorem isDigit_toDigits (n : Nat) : ∀ c ∈ Nat.toDigits 10 n, c.isDigit = true :=
  fun _ hc => Nat.isDigit_of_mem_toDigits (by decide) (by decide) hc

theorem toList_toString_nat (n : Nat) : (toString n).toList = Nat.toDigits 10 n := Nat.toList_repr

theorem toString_nat (n : Nat) : toString n = String.ofList (Nat.toDigits 10 n) :=
  ofList_eq_iff.2 (toList_toString_nat n).symm |>.symm

theorem toDigits_head (n : Nat) : ∃ d ds, Nat.toDigits 10 n = d :: ds ∧ d.isDigit = true := by
  cases h : Nat.toDigits 10 n with
  | nil => exact absurd h Nat.toDigits_ne_nil
  | cons d ds => exact ⟨d, ds, rfl, isDigit_toDigits n d (by rw [h]; simp)⟩

/-- the decimal form of an integer as characters (Rust `Display for i64` = Lean `toString` on `Int`) -/
def immC : Int → List Char
  | .ofNat n => Nat.toDigits 10 n
  | .negSucc n => '-' :: Nat.toDigits 10 (n + 1)

theorem toString_int (i : Int) : toString i = String.ofList (immC i) := by
  apply String.ext
  rw [String.toList_ofList]
  cases i with
  | ofNat n => show (Nat.repr n).toList = _; exact Nat.toList_repr
  | negSucc n =>
    show ("-" ++ Nat.repr (n + 1)).toList = _
    rw [String.toList_append, Nat.toList_repr]; rfl

theorem immC_ne_nil (i : Int) : immC i ≠ [] := by
  cases i with
  | ofNat n => exact Nat.toDigits_ne_nil
  | negSucc n => simp [immC]

theorem immC_mem (i : Int) : ∀ c ∈ immC i, c.isDigit = true ∨ c = '-' := by
  intro c hc
  cases i with
  | ofNat n => exact .inl (isDigit_toDigits _ c hc)
  | negSucc n =>
    simp only [immC, List.mem_cons] at hc
    exact hc.elim .inr fun h => .inl (isDigit_toDigits _ c h)

theorem append_ne_prefix {p x t : String} (h : (p.toList.isPrefixOf t.toList) = false) : p ++ x ≠ t := by
  intro e
  have h2 := congrArg String.toList e
  rw [String.toList_append] at h2
  have : p.toList <+: t.toList := ⟨x.toList, h2⟩
  rw [← List.isPrefixOf_iff_prefix] at this
  rw [this] at h
  cases h

theorem append_ne_suffix {x s t : String} (h : (s.toList.isSuffixOf t.toList) = false) : x ++ s ≠ t := by
  intro e
  have h2 := congrArg String.toList e
  rw [String.toList_append] at h2
  have : s.toList <:+ t.toList := ⟨x.toList, h2⟩
  rw [← List.isSuffixOf_iff_suffix] at this
  rw [this] at h
  cases h

def utf8Len : List Char → Nat
  | [] => 0
  | c :: cs => c.utf8Size + utf8Len cs

@[simp] theorem utf8Len_nil : utf8Len [] = 0 := rfl
@[simp] theorem utf8Len_cons (c : Char) (cs : List Char) : utf8Len (c :: cs) = c.utf8Size + utf8Len cs := rfl

theorem utf8Len_append (a b : List Char) : utf8Len (a ++ b) = utf8Len a + utf8Len b := by
  induction a with
  | nil => simp
  | cons c cs ih => simp [ih, Nat.add_assoc]

theorem utf8ByteSize_ofList (l : List Char) : (String.ofList l).utf8ByteSize = utf8Len l := by
  induction l with
  | nil => simp [String.ofList_nil]
  | cons c cs ih =>
    rw [String.ofList_cons, String.utf8ByteSize_append, String.utf8ByteSize_singleton, ih]; rfl

theorem utf8ByteSize_eq (s : String) : s.utf8ByteSize = utf8Len s.toList := by
  rw [← utf8ByteSize_ofList, String.ofList_toList]

theorem utf8Len_pos_of_ne_nil {l : List Char} (h : l ≠ []) : 0 < utf8Len l := by
  cases l with
  | nil => exact absurd rfl h
  | cons c cs => have := Char.utf8Size_pos c; simp only [utf8Len_cons]; omega

theorem utf8GetAux_of_valid (cs cs' : List Char) (i p : Nat) (hp : i + utf8Len cs = p) :
    Pos.Raw.utf8GetAux (cs ++ cs') ⟨i⟩ ⟨p⟩ = cs'.headD default := by
  induction cs generalizing i with
  | nil =>
    simp only [utf8Len_nil, Nat.add_zero] at hp
    subst hp
    cases cs' with
    | nil => rfl
    | cons c cs' => simp [Pos.Raw.utf8GetAux]
  | cons c cs ih =>
    simp only [utf8Len_cons] at hp
    have hne : (⟨i⟩ : Pos.Raw) ≠ ⟨p⟩ := by
      intro h
      have := Char.utf8Size_pos c
      have : i = p := congrArg Pos.Raw.byteIdx h
      omega
    simp only [List.cons_append, Pos.Raw.utf8GetAux, hne, if_false]
    rw [Pos.Raw.add_char_eq]
    exact ih (i + c.utf8Size) (by omega)

theorem get_of_valid (cs cs' : List Char) :
    Pos.Raw.get (String.ofList (cs ++ cs')) ⟨utf8Len cs⟩ = cs'.headD default := by
  unfold Pos.Raw.get
  rw [String.toList_ofList]
  exact utf8GetAux_of_valid cs cs' 0 _ (by simp)

theorem next_of_valid (cs : List Char) (c : Char) (cs' : List Char) :
    Pos.Raw.next (String.ofList (cs ++ c :: cs')) ⟨utf8Len cs⟩ = ⟨utf8Len cs + c.utf8Size⟩ := by
  unfold Pos.Raw.next
  rw [get_of_valid]; rfl

theorem atEnd_of_valid (cs cs' : List Char) :
    Pos.Raw.atEnd (String.ofList (cs ++ cs')) ⟨utf8Len cs⟩ = true ↔ cs' = [] := by
  unfold Pos.Raw.atEnd
  simp only [utf8ByteSize_ofList, utf8Len_append, ge_iff_le, decide_eq_true_eq]
  constructor
  · intro h
    cases cs' with
    | nil => rfl
    | cons c cs' => have := Char.utf8Size_pos c; simp only [utf8Len_cons] at h; omega
  · rintro rfl; simp

theorem extract_go₂_of_valid (m r : List Char) (i e : Nat) (he : i + utf8Len m = e) :
    Pos.Raw.extract.go₂ (m ++ r) ⟨i⟩ ⟨e⟩ = m := by
  induction m generalizing i with
  | nil =>
    simp only [utf8Len_nil, Nat.add_zero] at he
    subst he
    cases r with
    | nil => rfl
    | cons c r => simp [Pos.Raw.extract.go₂]
  | cons c m ih =>
    simp only [utf8Len_cons] at he
    have hne : (⟨i⟩ : Pos.Raw) ≠ ⟨e⟩ := by
      intro h
      have := Char.utf8Size_pos c
      have : i = e := congrArg Pos.Raw.byteIdx h
      omega
    simp only [List.cons_append, Pos.Raw.extract.go₂, hne, if_false]
    rw [Pos.Raw.add_char_eq, ih (i + c.utf8Size) (by omega)]

theorem extract_go₁_of_valid (l m r : List Char) (i b e : Nat) (hb : i + utf8Len l = b)
    (he : b + utf8Len m = e) :
    Pos.Raw.extract.go₁ (l ++ m ++ r) ⟨i⟩ ⟨b⟩ ⟨e⟩ = m := by
  induction l generalizing i with
  | nil =>
    simp only [utf8Len_nil, Nat.add_zero] at hb
    subst hb
    simp only [List.nil_append]
    cases hm : m ++ r with
    | nil =>
      have : m = [] := (List.append_eq_nil_iff.1 hm).1
      subst this; rfl
    | cons c t =>
      simp only [Pos.Raw.extract.go₁, if_true]
      rw [← hm]
      exact extract_go₂_of_valid m r i e he
  | cons c l ih =>
    simp only [utf8Len_cons] at hb
    have hne : (⟨i⟩ : Pos.Raw) ≠ ⟨b⟩ := by
      intro h
      have := Char.utf8Size_pos c
      have : i = b := congrArg Pos.Raw.byteIdx h
      omega
    simp only [List.cons_append, Pos.Raw.extract.go₁, hne, if_false]
    rw [Pos.Raw.add_char_eq]
    exact ih (i + c.utf8Size) (by omega)

theorem extract_of_valid (l m r : List Char) :
    Pos.Raw.extract (String.ofList (l ++ m ++ r)) ⟨utf8Len l⟩ ⟨utf8Len l + utf8Len m⟩ = String.ofList m := by
  unfold Pos.Raw.extract
  by_cases hm : m = []
  · subst hm; simp [String.ofList_nil]
  · have := utf8Len_pos_of_ne_nil hm
    have hlt : ¬ (utf8Len l ≥ utf8Len l + utf8Len m) := by omega
    simp only [hlt, if_false, String.toList_ofList]
    exact congrArg String.ofList (extract_go₁_of_valid l m r 0 _ _ (by simp) rfl)

/-- `splitAux c cur l`: the pieces of `cur ++ l` when `cur` (no separator inside) is the piece being
    read -/
def splitAux (c : Char) : List Char → List Char → List (List Char)
  | cur, [] => [cur]
  | cur, x :: xs => if x = c then cur :: splitAux c [] xs else splitAux c (cur ++ [x]) xs

/-- the pieces of `l` between the occurrences of `c` (always at least one piece) -/
def splitList (c : Char) (l : List Char) : List (List Char) := splitAux c [] l

theorem splitAux_append_of_not_mem (c : Char) (cur a rest : List Char) (ha : c ∉ a) :
    splitAux c cur (a ++ rest) = splitAux c (cur ++ a) rest := by
  induction a generalizing cur with
  | nil => simp
  | cons x xs ih =>
    have hx : x ≠ c := fun h => ha (by simp [h])
    have hxs : c ∉ xs := fun h => ha (by simp [h])
    simp only [List.cons_append, splitAux, hx, if_false]
    rw [ih _ hxs]; simp

theorem splitAux_of_not_mem (c : Char) (cur a : List Char) (ha : c ∉ a) :
    splitAux c cur a = [cur ++ a] := by
  have := splitAux_append_of_not_mem c cur a [] ha
  simpa [splitAux] using this

theorem splitAux_sep (c : Char) (cur a rest : List Char) (ha : c ∉ a) :
    splitAux c cur (a ++ c :: rest) = (cur ++ a) :: splitAux c [] rest := by
  rw [splitAux_append_of_not_mem c cur a _ ha]; simp [splitAux]

/-- splitting the `intercalate` of separator-free pieces gives the pieces back -/
theorem splitList_intercalate (c : Char) (l : List Char) (ls : List (List Char))
    (h : ∀ x ∈ l :: ls, c ∉ x) :
    splitList c ([c].intercalate (l :: ls)) = l :: ls := by
  unfold splitList
  induction ls generalizing l with
  | nil =>
    have : [c].intercalate [l] = l := by simp [List.intercalate, List.intersperse]
    rw [this, splitAux_of_not_mem c [] l (h l (by simp))]; simp
  | cons l2 ls ih =>
    have e : [c].intercalate (l :: l2 :: ls) = l ++ c :: [c].intercalate (l2 :: ls) := by
      simp [List.intercalate, List.intersperse]
    rw [e, splitAux_sep c [] l _ (h l (by simp)), ih l2 (fun x hx => h x (by simp at hx ⊢; right; exact hx))]
    simp

theorem splitList_nil (c : Char) : splitList c [] = [[]] := rfl

theorem splitOnAux_singleton (c : Char) (pre cur rest : List Char) (r : List String) :
    String.splitOnAux (String.ofList (pre ++ cur ++ rest)) (String.singleton c)
        ⟨utf8Len pre⟩ ⟨utf8Len pre + utf8Len cur⟩ 0 r
      = r.reverse ++ (splitAux c cur rest).map String.ofList := by
  induction rest generalizing pre cur r with
  | nil =>
    rw [String.splitOnAux]
    have hend : Pos.Raw.atEnd (String.ofList (pre ++ cur ++ [])) ⟨utf8Len pre + utf8Len cur⟩ = true := by
      rw [← utf8Len_append]; exact (atEnd_of_valid (pre ++ cur) []).2 rfl
    simp only [hend, if_true]
    have := extract_of_valid pre cur []
    rw [this]; simp [splitAux]
  | cons x xs ih =>
    rw [String.splitOnAux]
    have hend : Pos.Raw.atEnd (String.ofList (pre ++ cur ++ x :: xs)) ⟨utf8Len pre + utf8Len cur⟩ = false := by
      rw [← utf8Len_append]
      cases h : Pos.Raw.atEnd (String.ofList (pre ++ cur ++ x :: xs)) ⟨utf8Len (pre ++ cur)⟩ with
      | false => rfl
      | true => exact absurd ((atEnd_of_valid (pre ++ cur) (x :: xs)).1 h) (by simp)
    have hget : Pos.Raw.get (String.ofList (pre ++ cur ++ x :: xs)) ⟨utf8Len pre + utf8Len cur⟩ = x := by
      rw [← utf8Len_append]; exact get_of_valid (pre ++ cur) (x :: xs)
    have hnext : Pos.Raw.next (String.ofList (pre ++ cur ++ x :: xs)) ⟨utf8Len pre + utf8Len cur⟩
        = ⟨utf8Len pre + utf8Len cur + x.utf8Size⟩ := by
      rw [← utf8Len_append]; exact next_of_valid (pre ++ cur) x xs
    have hsepget : Pos.Raw.get (String.singleton c) 0 = c := by
      have := get_of_valid [] [c]
      simpa [String.ofList_cons, String.ofList_nil] using this
    have hsepnext : Pos.Raw.next (String.singleton c) 0 = ⟨c.utf8Size⟩ := by
      unfold Pos.Raw.next; rw [hsepget, Pos.Raw.add_char_eq]; simp
    have hsepend : Pos.Raw.atEnd (String.singleton c) ⟨c.utf8Size⟩ = true := by
      unfold Pos.Raw.atEnd; simp [String.utf8ByteSize_singleton]
    simp only [hend, Bool.false_eq_true, if_false, hget, hsepget, hnext, hsepnext, hsepend, if_true]
    by_cases hx : x = c
    · subst hx
      simp only [beq_self_eq_true, if_true, splitAux]
      have e1 : (⟨utf8Len pre + utf8Len cur + x.utf8Size⟩ : Pos.Raw).unoffsetBy ⟨x.utf8Size⟩
          = ⟨utf8Len pre + utf8Len cur⟩ := by
        simp [Pos.Raw.unoffsetBy]
      rw [e1]
      have e2 : Pos.Raw.extract (String.ofList (pre ++ cur ++ x :: xs)) ⟨utf8Len pre⟩
          ⟨utf8Len pre + utf8Len cur⟩ = String.ofList cur := extract_of_valid pre cur (x :: xs)
      rw [e2]
      have e3 : pre ++ cur ++ x :: xs = (pre ++ cur ++ [x]) ++ [] ++ xs := by simp
      have e4 : utf8Len pre + utf8Len cur + x.utf8Size = utf8Len (pre ++ cur ++ [x]) := by
        simp [utf8Len_append, Nat.add_assoc]
      rw [e3, e4]
      have := ih (pre ++ cur ++ [x]) [] (String.ofList cur :: r)
      simp only [utf8Len_nil, Nat.add_zero] at this
      rw [this]; simp
    · have hb : (x == c) = false := by simpa using hx
      simp only [hb, Bool.false_eq_true, if_false, splitAux, hx]
      have e1 : (⟨utf8Len pre + utf8Len cur⟩ : Pos.Raw).unoffsetBy 0 = ⟨utf8Len pre + utf8Len cur⟩ := by
        simp [Pos.Raw.unoffsetBy]
      rw [e1, hnext]
      have e3 : pre ++ cur ++ x :: xs = pre ++ (cur ++ [x]) ++ xs := by simp
      have e4 : utf8Len pre + utf8Len cur + x.utf8Size = utf8Len pre + utf8Len (cur ++ [x]) := by
        simp [utf8Len_append, Nat.add_assoc]
      rw [e3, e4]
      exact ih pre (cur ++ [x]) r

theorem singleton_ne_empty (c : Char) : String.singleton c ≠ "" := by
  intro h
  have := congrArg String.toList h
  simp at this

/-- `String.splitOn` with a one-character separator, for every string -/
theorem splitOn_singleton (s : String) (c : Char) :
    s.splitOn (String.singleton c) = (splitList c s.toList).map String.ofList := by
  unfold String.splitOn
  have hne : (String.singleton c == "") = false := by
    have := singleton_ne_empty c
    simp [this]
  simp only [hne, Bool.false_eq_true, if_false]
  have := splitOnAux_singleton c [] [] s.toList []
  simp only [List.nil_append, utf8Len_nil, Nat.add_zero, String.ofList_toList, List.reverse_nil] at this
  exact this

/-- splitting the `intercalate` of a non-empty list `l :: ls` of separator-free strings gives the strings back -/
theorem splitOn_intercalate (c : Char) (l : String) (ls : List String)
    (h : ∀ x ∈ l :: ls, c ∉ x.toList) :
    ((String.singleton c).intercalate (l :: ls)).splitOn (String.singleton c) = l :: ls := by
  rw [splitOn_singleton, String.toList_intercalate]
  have : (String.singleton c).toList = [c] := String.toList_singleton c
  rw [this, List.map_cons, splitList_intercalate c l.toList (ls.map String.toList)]
  · simp [String.ofList_toList]
  · intro x hx
    simp only [List.mem_cons, List.mem_map] at hx
    rcases hx with rfl | ⟨y, hy, rfl⟩
    · exact h l (by simp)
    · exact h y (by simp [hy])

/-- the empty list of pieces: `intercalate` gives `""`, which splits into ONE empty piece -/
theorem splitOn_intercalate_nil (c : Char) :
    ((String.singleton c).intercalate []).splitOn (String.singleton c) = [""] := by
  rw [splitOn_singleton]
  simp [String.intercalate, splitList_nil, String.ofList_nil]

theorem intercalate_nil' {α : Type} (sep : List α) : sep.intercalate ([] : List (List α)) = [] :=
  List.intercalate_nil

theorem intercalate_append {α : Type} (sep : List α) (a b : List (List α)) (ha : a ≠ []) (hb : b ≠ []) :
    sep.intercalate (a ++ b) = sep.intercalate a ++ sep ++ sep.intercalate b := by
  induction a with
  | nil => exact absurd rfl ha
  | cons x xs ih =>
    cases xs with
    | nil =>
      cases b with
      | nil => exact absurd rfl hb
      | cons y ys => simp [List.intercalate_cons_cons, List.intercalate_singleton]
    | cons x2 xs =>
      rw [List.cons_append, List.cons_append, List.intercalate_cons_cons, ← List.cons_append, ih (by simp),
        List.intercalate_cons_cons]
      simp [List.append_assoc]

/-- a text printed chunk by chunk, every chunk itself a non-empty list of pieces joined by the same
    separator, is the `intercalate` of all the pieces -/
theorem intercalate_flatten {α : Type} (sep : List α) (L : List (List (List α))) (h : ∀ l ∈ L, l ≠ []) :
    sep.intercalate (L.map (fun l => sep.intercalate l)) = sep.intercalate L.flatten := by
  induction L with
  | nil => simp
  | cons l L ih =>
    cases L with
    | nil => simp [List.intercalate_singleton]
    | cons l2 L =>
      have hl : l ≠ [] := h l (by simp)
      have hl2 : l2 ≠ [] := h l2 (by simp)
      have hfl : (l2 :: L).flatten ≠ [] := by
        cases l2 with
        | nil => exact absurd rfl hl2
        | cons _ _ => simp
      rw [List.map_cons, List.map_cons, List.intercalate_cons_cons, ← List.map_cons,
        ih (fun x hx => h x (by simp at hx ⊢; right; exact hx))]
      show _ = sep.intercalate (l ++ (l2 :: L).flatten)
      rw [intercalate_append sep l _ hl hfl]

/-- splitting a text that is printed chunk by chunk (every chunk a non-empty list of separator-free
    lines joined by the separator) gives the lines of all the chunks -/
theorem splitOn_intercalate_chunks {α : Type} (c : Char) (f : α → List String) (xs : List α) (hx : xs ≠ [])
    (hne : ∀ x ∈ xs, f x ≠ []) (hfree : ∀ x ∈ xs, ∀ l ∈ f x, c ∉ l.toList) :
    ((String.singleton c).intercalate (xs.map (fun x => (String.singleton c).intercalate (f x)))).splitOn
        (String.singleton c) = xs.flatMap f := by
  have hflat : xs.flatMap f ≠ [] := by
    cases xs with
    | nil => exact absurd rfl hx
    | cons x xs =>
      have := hne x (by simp)
      cases hfx : f x with
      | nil => exact absurd hfx this
      | cons _ _ => simp [List.flatMap_cons, hfx]
  rw [splitOn_singleton, String.toList_intercalate, String.toList_singleton, List.map_map]
  have e1 : (String.toList ∘ fun x => (String.singleton c).intercalate (f x))
      = fun x => [c].intercalate ((f x).map String.toList) := by
    funext x; simp [String.toList_intercalate, String.toList_singleton]
  rw [e1]
  have e2 : xs.map (fun x => [c].intercalate ((f x).map String.toList))
      = (xs.map (fun x => (f x).map String.toList)).map (fun l => [c].intercalate l) := by
    rw [List.map_map]; rfl
  rw [e2, intercalate_flatten [c] _ (by
    intro l hl
    obtain ⟨x, hxm, rfl⟩ := List.mem_map.1 hl
    have := hne x hxm
    cases hfx : f x with
    | nil => exact absurd hfx this
    | cons _ _ => simp)]
  have e3 : (xs.map (fun x => (f x).map String.toList)).flatten = (xs.flatMap f).map String.toList := by
    simp [List.flatMap, List.map_flatten, List.map_map, Function.comp_def]
  rw [e3]
  cases hfl : xs.flatMap f with
  | nil => exact absurd hfl hflat
  | cons l ls =>
    rw [List.map_cons, splitList_intercalate c l.toList (ls.map String.toList)]
    · simp [String.ofList_toList]
    · intro y hy
      have hmem : ∀ z ∈ l :: ls, c ∉ z.toList := by
        intro z hz
        rw [← hfl] at hz
        obtain ⟨x, hxm, hzx⟩ := List.mem_flatMap.1 hz
        exact hfree x hxm z hzx
      simp only [List.mem_cons, List.mem_map] at hy
      rcases hy with rfl | ⟨z, hz, rfl⟩
      · exact hmem l (by simp)
      · exact hmem z (by simp [hz])

/-- proof-friendly line splitting: the pieces of the text between line breaks -/
def splitLines (s : String) : List String := (splitList '\n' s.toList).map String.ofList

theorem newline_eq : "\n" = String.singleton '\n' := rfl

theorem splitLines_eq (s : String) : splitLines s = s.splitOn "\n" := by
  rw [newline_eq, splitOn_singleton]; rfl

theorem splitOn_newline_intercalate (l : String) (ls : List String)
    (h : ∀ x ∈ l :: ls, '\n' ∉ x.toList) :
    ("\n".intercalate (l :: ls)).splitOn "\n" = l :: ls := by
  rw [newline_eq]; exact splitOn_intercalate '\n' l ls h

end Scc.Str
