/-
  Scc/PMoves/Backends.lean  --  executable model of the per-backend part of the parallel moves (C11, T2).

  What is modelled, from which source files
  -----------------------------------------
  * /repo/lang/axcut2x86_64/src/parallel_moves.rs   spill_edge_spill, spill_edge_register,
      contains_spill_edge, store_temporary, restore_temporary
    /repo/lang/axcut2x86_64/src/code.rs             move_from_register, move_to_register, mov
    /repo/lang/axcut2x86_64/src/config.rs           TEMP = Register(1), SPILL_TEMP = Spill(0), REGISTER_NUM = 16
  * /repo/lang/axcut2aarch64/src/parallel_moves.rs, code.rs (move_from_register, move_to_register, mov),
    config.rs  TEMP = X2, TEMP2 = X3, REGISTER_NUM = 30
  * /repo/lang/axcut2rv64/src/parallel_moves.rs, code.rs (mov), config.rs  TEMP = Register(1)

  Representation choices
  ----------------------
  * A temporary of the x86-64 / AArch64 backend is `Temporary::Register(r) | Temporary::Spill(p)` with the
    derived order (all registers before all spills, then by number).  The generic model works over `Nat`;
    a backend temporary is the `Nat` `n` with `decode n = reg n` for `n < REGISTER_NUM` and
    `spill (n - REGISTER_NUM)` otherwise.  This is an order isomorphism between `Nat` and the temporaries
    with register number `< REGISTER_NUM` (all that `temporary_from_position` can produce), so "iterate in
    ascending order" means the same on both sides.  RV64 has registers only: `decode n = reg n`.
  * `temporaryFromPosition` (utils.rs: fn temporary_from_position; RV64: inline in `variable_temporary`) gives the
    location code of a position number (`none` = the panic "Out of temporaries"/"Out of registers");
    `codeSubstituteX86/A64/RV64` instantiate statements/substitute.rs with it.
  * Only the three instructions that the moves use are modelled.  `MOVS r, [STACK + stack_offset p]` is
    `MOVS r p`: the spill area is a separate array indexed by spill position (`stack_offset` is
    injective and the stack pointer is not a temporary), likewise `MOVL`, `STR`, `LDR`.
  * Machine state: registers and spill slots, `MState V`.
-/
import Scc.PMoves.Model

set_option autoImplicit false

namespace Scc.PMoves

/-- A machine location. -/
inductive Loc where
  | reg (n : Nat)
  | spill (n : Nat)
  deriving Repr, DecidableEq, Inhabited

/-- Registers and spill slots. -/
structure MState (V : Type) where
  regs : Nat → V
  slots : Nat → V

def MState.rd {V : Type} (m : MState V) : Loc → V
  | .reg n => m.regs n
  | .spill n => m.slots n

def MState.setReg {V : Type} (m : MState V) (r : Nat) (v : V) : MState V :=
  { m with regs := upd m.regs r v }

def MState.setSlot {V : Type} (m : MState V) (p : Nat) (v : V) : MState V :=
  { m with slots := upd m.slots p v }

/-- run a list of concrete instructions -/
def runWith {C S : Type} (exec : C → S → S) : List C → S → S
  | [], m => m
  | c :: cs, m => runWith exec cs (exec c m)

/-! ## x86-64 -/
namespace X86

/-- config.rs: REGISTER_NUM -/
def REGISTER_NUM : Nat := 16
/-- config.rs: TEMP = Register(1) -/
def TEMP : Nat := 1
/-- config.rs: SPILL_TEMP = Spill(0) -/
def SPILL_TEMP : Nat := 0

def decode (n : Nat) : Loc := if n < REGISTER_NUM then .reg n else .spill (n - REGISTER_NUM)
def encode : Loc → Nat
  | .reg n => n
  | .spill p => REGISTER_NUM + p

/-- The instructions used by moves: `MOV r, r'`; `MOVS r, [rsp + off p]` (store); `MOVL r, [rsp + off p]` (load). -/
inductive Code where
  | MOV (target source : Nat)
  | MOVS (source : Nat) (position : Nat)
  | MOVL (target : Nat) (position : Nat)
  | COMMENT (msg : String)
  deriving Repr, DecidableEq, Inhabited

def exec {V : Type} : Code → MState V → MState V
  | .MOV t s, m => m.setReg t (m.regs s)
  | .MOVS s p, m => m.setSlot p (m.regs s)
  | .MOVL t p, m => m.setReg t (m.slots p)
  | .COMMENT _, m => m

def runCode {V : Type} : List Code → MState V → MState V := runWith exec

/-- code.rs: fn move_from_register -/
def moveFromRegister (temporary : Loc) (register : Nat) : List Code :=
  match temporary with
  | .reg targetRegister => [.MOV targetRegister register]
  | .spill targetPosition => [.MOVS register targetPosition]

/-- code.rs: fn move_to_register -/
def moveToRegister (register : Nat) (temporary : Loc) : List Code :=
  match temporary with
  | .reg sourceRegister => [.MOV register sourceRegister]
  | .spill sourcePosition => [.MOVL register sourcePosition]

/-- code.rs: fn mov -/
def mov (targetTemporary sourceTemporary : Loc) : List Code :=
  match sourceTemporary, targetTemporary with
  | .reg sourceRegister, _ => moveFromRegister targetTemporary sourceRegister
  | _, .reg targetRegister => moveToRegister targetRegister sourceTemporary
  | _, _ => moveToRegister TEMP sourceTemporary ++ moveFromRegister targetTemporary TEMP

mutual
/-- parallel_moves.rs: fn spill_edge_spill -/
def spillEdgeSpill (rootSpill : Bool) : Tree → Bool
  | .backEdge => rootSpill
  | .node t trees =>
    match decode t with
    | .reg _ => anySpillEdgeRegister rootSpill trees
    | .spill _ => true
/-- parallel_moves.rs: fn spill_edge_register -/
def spillEdgeRegister (rootSpill : Bool) : Tree → Bool
  | .backEdge => false
  | .node t trees =>
    match decode t with
    | .reg _ => anySpillEdgeRegister rootSpill trees
    | .spill _ => anySpillEdgeSpill rootSpill trees
/-- `trees.iter().any(|tree| spill_edge_spill(root_spill, tree))` -/
def anySpillEdgeSpill (rootSpill : Bool) : List Tree → Bool
  | [] => false
  | k :: ks => spillEdgeSpill rootSpill k || anySpillEdgeSpill rootSpill ks
/-- `trees.iter().any(|tree| spill_edge_register(root_spill, tree))` -/
def anySpillEdgeRegister (rootSpill : Bool) : List Tree → Bool
  | [] => false
  | k :: ks => spillEdgeRegister rootSpill k || anySpillEdgeRegister rootSpill ks
end

/-- parallel_moves.rs: fn contains_spill_edge -/
def containsSpillEdge : Root → Bool
  | .startNode t trees =>
    match decode t with
    | .reg _ => anySpillEdgeRegister false trees
    | .spill _ => anySpillEdgeSpill true trees

/-- parallel_moves.rs: fn store_temporary -/
def storeTemporary (temporary : Loc) (containsSpillMove : Bool) : List Code :=
  match temporary with
  | .reg register =>
    if containsSpillMove then [.MOVS register SPILL_TEMP] else [.MOV TEMP register]
  | .spill position =>
    [.MOVL TEMP position] ++ (if containsSpillMove then [.MOVS TEMP SPILL_TEMP] else [])

/-- parallel_moves.rs: fn restore_temporary -/
def restoreTemporary (temporary : Loc) (containsSpillMove : Bool) : List Code :=
  match temporary with
  | .reg register =>
    if containsSpillMove then [.MOVL register SPILL_TEMP] else [.MOV register TEMP]
  | .spill position =>
    (if containsSpillMove then [.MOVL TEMP SPILL_TEMP] else []) ++ [.MOVS TEMP position]

/-- The backend instantiation of one abstract instruction. -/
def lower : AOp → List Code
  | .mov t s => mov (decode t) (decode s)
  | .save s b => storeTemporary (decode s) b
  | .restore t b => restoreTemporary (decode t) b
  | .comment m => [.COMMENT m]

def lowerAll (ops : List AOp) : List Code := ops.flatMap lower

/-- `parallel_moves::<x86_64::Backend>` -/
def parallelMovesX86 (pm : PMap) : Res (List Code) :=
  match parallelMoves pm containsSpillEdge with
  | .ok ops => .ok (lowerAll ops)
  | .outOfFuel => .outOfFuel
  | .missingKey => .missingKey

/-- Temporaries that substitutions may use: everything except `TEMP` and `SPILL_TEMP`. -/
def usable (n : Nat) : Bool := n != TEMP && n != REGISTER_NUM + SPILL_TEMP

/-- config.rs: RESERVED, RESERVED_SPILLS, SPILL_NUM -/
def RESERVED : Nat := 4
def RESERVED_SPILLS : Nat := 1
def SPILL_NUM : Nat := 256

/-- utils.rs: fn temporary_from_position, as a location code; `none` = panic "Out of temporaries" -/
def temporaryFromPosition (position : Nat) : Option Nat :=
  let registerNumber := position + RESERVED
  if registerNumber < REGISTER_NUM then some (encode (.reg registerNumber))
  else
    let spillNumber := registerNumber - REGISTER_NUM + RESERVED_SPILLS
    if spillNumber < SPILL_NUM then some (encode (.spill spillNumber)) else none

/-- statements/substitute.rs instantiated with the x86-64 backend: reference-count instructions
    (abstract, on location codes) and the concrete moves -/
def codeSubstituteX86 (rearrange : Rearrange) (context : Ctx) : SubstRes × List Code :=
  match codeSubstitute temporaryFromPosition rearrange context containsSpillEdge with
  | .ok rc mv => (.ok rc mv, lowerAll mv)
  | r => (r, [])

def Code.render : Code → String
  | .MOV t s => s!"MOV {t} {s}"
  | .MOVS s p => s!"MOVS {s} {p}"
  | .MOVL t p => s!"MOVL {t} {p}"
  | .COMMENT m => s!"COMMENT {m}"

end X86

/-! ## AArch64 -/
namespace A64

/-- config.rs: REGISTER_NUM -/
def REGISTER_NUM : Nat := 30
/-- config.rs: TEMP = X2 -/
def TEMP : Nat := 2
/-- config.rs: TEMP2 = X3 -/
def TEMP2 : Nat := 3

def decode (n : Nat) : Loc := if n < REGISTER_NUM then .reg n else .spill (n - REGISTER_NUM)
def encode : Loc → Nat
  | .reg n => n
  | .spill p => REGISTER_NUM + p

/-- `MOVR Xt, Xs`; `STR Xs, [SP, off p]`; `LDR Xt, [SP, off p]` -/
inductive Code where
  | MOVR (target source : Nat)
  | STR (source : Nat) (position : Nat)
  | LDR (target : Nat) (position : Nat)
  | COMMENT (msg : String)
  deriving Repr, DecidableEq, Inhabited

def exec {V : Type} : Code → MState V → MState V
  | .MOVR t s, m => m.setReg t (m.regs s)
  | .STR s p, m => m.setSlot p (m.regs s)
  | .LDR t p, m => m.setReg t (m.slots p)
  | .COMMENT _, m => m

def runCode {V : Type} : List Code → MState V → MState V := runWith exec

/-- code.rs: fn move_from_register -/
def moveFromRegister (temporary : Loc) (register : Nat) : List Code :=
  match temporary with
  | .reg targetRegister => [.MOVR targetRegister register]
  | .spill targetPosition => [.STR register targetPosition]

/-- code.rs: fn move_to_register -/
def moveToRegister (register : Nat) (temporary : Loc) : List Code :=
  match temporary with
  | .reg sourceRegister => [.MOVR register sourceRegister]
  | .spill sourcePosition => [.LDR register sourcePosition]

/-- code.rs: fn mov -/
def mov (targetTemporary sourceTemporary : Loc) : List Code :=
  match sourceTemporary, targetTemporary with
  | .reg sourceRegister, _ => moveFromRegister targetTemporary sourceRegister
  | _, .reg targetRegister => moveToRegister targetRegister sourceTemporary
  | _, _ => moveToRegister TEMP2 sourceTemporary ++ moveFromRegister targetTemporary TEMP2

/-- parallel_moves.rs: fn contains_spill_edge -/
def containsSpillEdge : Root → Bool := fun _ => false

/-- parallel_moves.rs: fn store_temporary -/
def storeTemporary (temporary : Loc) (_ : Bool) : List Code :=
  match temporary with
  | .reg register => [.MOVR TEMP register]
  | .spill position => [.LDR TEMP position]

/-- parallel_moves.rs: fn restore_temporary -/
def restoreTemporary (temporary : Loc) (_ : Bool) : List Code :=
  match temporary with
  | .reg register => [.MOVR register TEMP]
  | .spill position => [.STR TEMP position]

def lower : AOp → List Code
  | .mov t s => mov (decode t) (decode s)
  | .save s b => storeTemporary (decode s) b
  | .restore t b => restoreTemporary (decode t) b
  | .comment m => [.COMMENT m]

def lowerAll (ops : List AOp) : List Code := ops.flatMap lower

/-- `parallel_moves::<aarch64::Backend>` -/
def parallelMovesA64 (pm : PMap) : Res (List Code) :=
  match parallelMoves pm containsSpillEdge with
  | .ok ops => .ok (lowerAll ops)
  | .outOfFuel => .outOfFuel
  | .missingKey => .missingKey

/-- Temporaries that substitutions may use: everything except `TEMP` and `TEMP2`. -/
def usable (n : Nat) : Bool := n != TEMP && n != TEMP2

/-- config.rs: RESERVED, RESERVED_SPILLS, SPILL_NUM -/
def RESERVED : Nat := 4
def RESERVED_SPILLS : Nat := 1
def SPILL_NUM : Nat := 256

/-- utils.rs: fn temporary_from_position, as a location code; `none` = panic "Out of temporaries" -/
def temporaryFromPosition (position : Nat) : Option Nat :=
  let registerNumber := position + RESERVED
  if registerNumber < REGISTER_NUM then some (encode (.reg registerNumber))
  else
    let spillNumber := registerNumber - REGISTER_NUM + RESERVED_SPILLS
    if spillNumber < SPILL_NUM then some (encode (.spill spillNumber)) else none

/-- statements/substitute.rs instantiated with the AArch64 backend -/
def codeSubstituteA64 (rearrange : Rearrange) (context : Ctx) : SubstRes × List Code :=
  match codeSubstitute temporaryFromPosition rearrange context containsSpillEdge with
  | .ok rc mv => (.ok rc mv, lowerAll mv)
  | r => (r, [])

def Code.render : Code → String
  | .MOVR t s => s!"MOVR {t} {s}"
  | .STR s p => s!"STR {s} {p}"
  | .LDR t p => s!"LDR {t} {p}"
  | .COMMENT m => s!"COMMENT {m}"

end A64

/-! ## RV64 (registers only) -/
namespace RV64

/-- config.rs: TEMP = Register(1) -/
def TEMP : Nat := 1

inductive Code where
  | MV (target source : Nat)
  | COMMENT (msg : String)
  deriving Repr, DecidableEq, Inhabited

def exec {V : Type} : Code → MState V → MState V
  | .MV t s, m => m.setReg t (m.regs s)
  | .COMMENT _, m => m

def runCode {V : Type} : List Code → MState V → MState V := runWith exec

def decode (n : Nat) : Loc := .reg n

/-- parallel_moves.rs: fn contains_spill_edge -/
def containsSpillEdge : Root → Bool := fun _ => false

/-- code.rs: fn mov; parallel_moves.rs: fn store_temporary, fn restore_temporary -/
def lower : AOp → List Code
  | .mov t s => [.MV t s]
  | .save s _ => [.MV TEMP s]
  | .restore t _ => [.MV t TEMP]
  | .comment m => [.COMMENT m]

def lowerAll (ops : List AOp) : List Code := ops.flatMap lower

/-- `parallel_moves::<rv64::Backend>` -/
def parallelMovesRV64 (pm : PMap) : Res (List Code) :=
  match parallelMoves pm containsSpillEdge with
  | .ok ops => .ok (lowerAll ops)
  | .outOfFuel => .outOfFuel
  | .missingKey => .missingKey

def usable (n : Nat) : Bool := n != TEMP

/-- config.rs: RESERVED, REGISTER_NUM -/
def RESERVED : Nat := 4
def REGISTER_NUM : Nat := 32

/-- utils.rs: fn variable_temporary: `register_number = 2 * position + number + RESERVED`;
    `none` = panic "Out of registers" -/
def temporaryFromPosition (position : Nat) : Option Nat :=
  let registerNumber := position + RESERVED
  if registerNumber < REGISTER_NUM then some registerNumber else none

/-- statements/substitute.rs instantiated with the RV64 backend -/
def codeSubstituteRV64 (rearrange : Rearrange) (context : Ctx) : SubstRes × List Code :=
  match codeSubstitute temporaryFromPosition rearrange context containsSpillEdge with
  | .ok rc mv => (.ok rc mv, lowerAll mv)
  | r => (r, [])

end RV64

/-! ## Executable end-to-end checkers (run exhaustively by the test driver) -/

/-- Initial machine state with pairwise distinct contents: the location with code `i` (see `decode`)
    holds `i + 1000`. -/
def initState (registerNum : Nat) : MState Nat :=
  { regs := fun n => n + 1000, slots := fun p => registerNum + p + 1000 }

/-- the unique source of `t` in `pm`, if any -/
def sourceOf (pm : PMap) (t : Nat) : Option Nat :=
  match pm.find? (fun kv => kv.2.contains t) with
  | some kv => some kv.1
  | none => none

/-- Does the final state `m'` realise the simultaneous assignment `pm` on `init`, on all the usable
    temporaries below `bound`? -/
def checkFinal (decode : Nat → Loc) (usable : Nat → Bool) (pm : PMap) (bound : Nat)
    (init final : MState Nat) : Bool :=
  (List.range bound).all (fun x =>
    !usable x ||
      (match sourceOf pm x with
       | some s => final.rd (decode x) == init.rd (decode s)
       | none => final.rd (decode x) == init.rd (decode x)))

/-- all temporaries of `pm` are usable -/
def allUsable (usable : Nat → Bool) (pm : PMap) : Bool := (allNodes pm).all usable

def boundOf (pm : PMap) : Nat := (allNodes pm).foldl max 0 + 3

/-- x86-64: run the concrete instruction sequence for `pm` on distinct values and compare with the
    simultaneous assignment.  Returns `true` also when `pm` is outside the theorem's hypotheses
    (not sorted / not functional / uses a scratch location). -/
def checkSubstX86 (pm : PMap) : Bool :=
  if !(isSorted pm && isFunctional pm && allUsable X86.usable pm) then true else
  match X86.parallelMovesX86 pm with
  | .ok code =>
    let init := initState X86.REGISTER_NUM
    checkFinal X86.decode X86.usable pm (boundOf pm + X86.REGISTER_NUM) init (X86.runCode code init)
  | _ => false

/-- AArch64 analogue of `checkSubstX86`. -/
def checkSubstA64 (pm : PMap) : Bool :=
  if !(isSorted pm && isFunctional pm && allUsable A64.usable pm) then true else
  match A64.parallelMovesA64 pm with
  | .ok code =>
    let init := initState A64.REGISTER_NUM
    checkFinal A64.decode A64.usable pm (boundOf pm + A64.REGISTER_NUM) init (A64.runCode code init)
  | _ => false

/-- RV64 analogue of `checkSubstX86`. -/
def checkSubstRV64 (pm : PMap) : Bool :=
  if !(isSorted pm && isFunctional pm && allUsable RV64.usable pm) then true else
  match RV64.parallelMovesRV64 pm with
  | .ok code =>
    let init : MState Nat := { regs := fun n => n + 1000, slots := fun p => p }
    checkFinal RV64.decode RV64.usable pm (boundOf pm) init (RV64.runCode code init)
  | _ => false

/-- Line protocol, backend entry points (extends `handleLine` of Model.lean):
    `pmx86 <pm>` / `pma64 <pm>` / `pmrv64 <pm>`  ->  concrete instructions, `|`-separated
      (`MOV t s`, `MOVS s p`, `MOVL t p`; `MOVR t s`, `STR s p`, `LDR t p`; `MV t s`; `COMMENT msg`),
      where temporaries are given by their code (x86: `n < 16` register `n`, else spill `n-16`;
      AArch64: boundary 30; RV64: register `n`);
    `chkx86 <pm>` / `chka64 <pm>` / `chkrv64 <pm>` -> `true` / `false`;
    `substx86 <ctx> -> <rearrange>` / `substa64 ...` / `substrv64 ...` (formats as for `subst`) ->
      refcount ops (`erase <code>`, `share <code> <n>`, `comment ...`) then the concrete move
      instructions, or `panic` / `outOfFuel` / `missingKey`. -/
def handleLineBackends (line : String) : String :=
  let (cmd, arg) := splitCommand line
  let withPm := fun (f : PMap → String) =>
    match parsePMap arg with
    | none => "error"
    | some pm => f pm
  let rend := fun {C : Type} (r : C → String) (res : Res (List C)) =>
    match res with
    | .ok code => "|".intercalate (code.map r)
    | .outOfFuel => "outOfFuel"
    | .missingKey => "missingKey"
  let rendS := fun {C : Type} (r : C → String) (res : SubstRes × List C) =>
    match res with
    | (.ok rc _, code) => "|".intercalate (rc.map ROp.render ++ code.map r)
    | (.panic, _) => "panic"
    | (.outOfFuel, _) => "outOfFuel"
    | (.missingKey, _) => "missingKey"
  if cmd == "pmx86" then withPm (fun pm => rend X86.Code.render (X86.parallelMovesX86 pm))
  else if cmd == "pma64" then withPm (fun pm => rend A64.Code.render (A64.parallelMovesA64 pm))
  else if cmd == "pmrv64" then
    withPm (fun pm => rend (fun c => match c with
      | RV64.Code.MV t s => s!"MV {t} {s}" | .COMMENT m => s!"COMMENT {m}") (RV64.parallelMovesRV64 pm))
  else if cmd == "chkx86" then withPm (fun pm => toString (checkSubstX86 pm))
  else if cmd == "chka64" then withPm (fun pm => toString (checkSubstA64 pm))
  else if cmd == "chkrv64" then withPm (fun pm => toString (checkSubstRV64 pm))
  else if cmd == "substx86" then
    match parseSubst arg with
    | none => "error"
    | some (ctx, re) => rendS X86.Code.render (X86.codeSubstituteX86 re ctx)
  else if cmd == "substa64" then
    match parseSubst arg with
    | none => "error"
    | some (ctx, re) => rendS A64.Code.render (A64.codeSubstituteA64 re ctx)
  else if cmd == "substrv64" then
    match parseSubst arg with
    | none => "error"
    | some (ctx, re) => rendS (fun c => match c with
      | RV64.Code.MV t s => s!"MV {t} {s}" | .COMMENT m => s!"COMMENT {m}") (RV64.codeSubstituteRV64 re ctx)
  else handleLine line

end Scc.PMoves
