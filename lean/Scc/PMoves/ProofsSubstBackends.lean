/-
  Scc/PMoves/ProofsSubstBackends.lean  --  C11 for a whole `Substitute` statement on each backend:
  `temporary_from_position` is injective, avoids the scratch locations, and (within capacity) total, so
  the map built by `connections` satisfies the hypotheses of the T2 theorems.
-/
import Scc.PMoves.ProofsSubst
import Scc.PMoves.ProofsX86
import Scc.PMoves.ProofsA64RV

set_option autoImplicit false

namespace Scc.PMoves

namespace X86

theorem tfp_cases {q c : Nat} (h : temporaryFromPosition q = some c) :
    (q + 4 < 16 ∧ c = q + 4) ∨ (16 ≤ q + 4 ∧ c = q + 5) := by
  simp only [temporaryFromPosition] at h
  split at h
  · rename_i h1
    simp only [RESERVED, REGISTER_NUM, encode, Option.some.injEq] at h h1; omega
  · rename_i h1
    split at h
    · simp only [RESERVED, REGISTER_NUM, RESERVED_SPILLS, encode, Option.some.injEq] at h h1; omega
    · simp at h

theorem tfp_injective : TfpInjective temporaryFromPosition := by
  intro a b c ha hb
  rcases tfp_cases ha with h | h <;> rcases tfp_cases hb with h' | h' <;> omega

theorem tfp_total {n : Nat} (h : 2 * n ≤ 267) : TfpTotal temporaryFromPosition n := by
  intro q hq
  simp only [temporaryFromPosition]
  split
  · exact ⟨_, rfl⟩
  · rename_i h1
    rw [if_pos (by simp only [RESERVED, REGISTER_NUM, RESERVED_SPILLS, SPILL_NUM] at h1 ⊢; omega)]
    exact ⟨_, rfl⟩

theorem tfp_usable {q c : Nat} (h : temporaryFromPosition q = some c) : usable c = true := by
  rcases tfp_cases h with h | h <;> simp [usable, TEMP, REGISTER_NUM, SPILL_TEMP] <;> omega

/-- C11 for a `Substitute` statement on x86-64: at most 133 variables before and after (the capacity of
    `temporary_from_position`), pairwise distinct ids.  The statement's code is the reference-count
    instructions of T3 followed by concrete moves that realise the simultaneous assignment on the
    machine state and change no other usable location. -/
theorem codeSubstitute_correct {V : Type} (re : Rearrange) (ctx : Ctx)
    (hcap : 2 * ctx.length ≤ 267) (hcap' : 2 * re.length ≤ 267)
    (hctx : (ctx.map (·.1)).Nodup) (hnew : (re.map (·.1.1)).Nodup) :
    ∃ mv, codeSubstituteX86 re ctx =
        (.ok (ctx.flatMap (refOpsFor temporaryFromPosition re ctx)) mv, lowerAll mv) ∧
      ∀ m : MState V,
        (∀ s t, SubstEdge temporaryFromPosition re ctx s t →
          rdN (runCode (lowerAll mv) m) t = rdN m s) ∧
        (∀ x, usable x = true → (∀ s, ¬ SubstEdge temporaryFromPosition re ctx s x) →
          rdN (runCode (lowerAll mv) m) x = rdN m x) := by
  obtain ⟨mv, hcode, hfin⟩ := codeSubstitute_lowered temporaryFromPosition tfp_injective containsSpillEdge
    usable tfp_usable (rdN (V := V)) (fun ops m => runCode (lowerAll ops) m)
    (fun pm hs hf hu => backend_correct_usable (S := MState V) rdN okN cell bad lower exec
      containsSpillEdge usable
      okN_iff_usable containsSpillEdge_complete sim_step (fun msg m => by simp [lower, runWith, exec]) pm hs hf hu)
    re ctx (tfp_total hcap) (tfp_total hcap') hctx hnew
  exact ⟨mv, by simp [codeSubstituteX86, hcode], hfin⟩

end X86

namespace A64

theorem tfp_cases {q c : Nat} (h : temporaryFromPosition q = some c) :
    (q + 4 < 30 ∧ c = q + 4) ∨ (30 ≤ q + 4 ∧ c = q + 5) := by
  simp only [temporaryFromPosition] at h
  split at h
  · rename_i h1
    simp only [RESERVED, REGISTER_NUM, encode, Option.some.injEq] at h h1; omega
  · rename_i h1
    split at h
    · simp only [RESERVED, REGISTER_NUM, RESERVED_SPILLS, encode, Option.some.injEq] at h h1; omega
    · simp at h

theorem tfp_injective : TfpInjective temporaryFromPosition := by
  intro a b c ha hb
  rcases tfp_cases ha with h | h <;> rcases tfp_cases hb with h' | h' <;> omega

theorem tfp_total {n : Nat} (h : 2 * n ≤ 281) : TfpTotal temporaryFromPosition n := by
  intro q hq
  simp only [temporaryFromPosition]
  split
  · exact ⟨_, rfl⟩
  · rename_i h1
    rw [if_pos (by simp only [RESERVED, REGISTER_NUM, RESERVED_SPILLS, SPILL_NUM] at h1 ⊢; omega)]
    exact ⟨_, rfl⟩

theorem tfp_usable {q c : Nat} (h : temporaryFromPosition q = some c) : usable c = true := by
  rcases tfp_cases h with h | h <;> simp [usable, TEMP, TEMP2] <;> omega

/-- C11 for a `Substitute` statement on AArch64 (capacity 140 variables). -/
theorem codeSubstitute_correct {V : Type} (re : Rearrange) (ctx : Ctx)
    (hcap : 2 * ctx.length ≤ 281) (hcap' : 2 * re.length ≤ 281)
    (hctx : (ctx.map (·.1)).Nodup) (hnew : (re.map (·.1.1)).Nodup) :
    ∃ mv, codeSubstituteA64 re ctx =
        (.ok (ctx.flatMap (refOpsFor temporaryFromPosition re ctx)) mv, lowerAll mv) ∧
      ∀ m : MState V,
        (∀ s t, SubstEdge temporaryFromPosition re ctx s t →
          rdN (runCode (lowerAll mv) m) t = rdN m s) ∧
        (∀ x, usable x = true → (∀ s, ¬ SubstEdge temporaryFromPosition re ctx s x) →
          rdN (runCode (lowerAll mv) m) x = rdN m x) := by
  obtain ⟨mv, hcode, hfin⟩ := codeSubstitute_lowered temporaryFromPosition tfp_injective containsSpillEdge
    usable tfp_usable (rdN (V := V)) (fun ops m => runCode (lowerAll ops) m)
    (fun pm hs hf hu => backend_correct_usable (S := MState V) rdN okN cell bad lower exec
      containsSpillEdge usable
      okN_iff_usable (fun _ _ _ _ _ _ h => h) sim_step (fun msg m => by simp [lower, runWith, exec]) pm hs hf hu)
    re ctx (tfp_total hcap) (tfp_total hcap') hctx hnew
  exact ⟨mv, by simp [codeSubstituteA64, hcode], hfin⟩

end A64

namespace RV64

theorem tfp_cases {q c : Nat} (h : temporaryFromPosition q = some c) : q + 4 < 32 ∧ c = q + 4 := by
  simp only [temporaryFromPosition] at h
  split at h
  · rename_i h1
    simp only [RESERVED, REGISTER_NUM, Option.some.injEq] at h h1; omega
  · simp at h

theorem tfp_injective : TfpInjective temporaryFromPosition := by
  intro a b c ha hb
  have := tfp_cases ha; have := tfp_cases hb; omega

theorem tfp_total {n : Nat} (h : 2 * n ≤ 28) : TfpTotal temporaryFromPosition n := by
  intro q hq
  simp only [temporaryFromPosition]
  rw [if_pos (by simp only [RESERVED, REGISTER_NUM]; omega)]; exact ⟨_, rfl⟩

theorem tfp_usable {q c : Nat} (h : temporaryFromPosition q = some c) : usable c = true := by
  have := tfp_cases h
  simp [usable, TEMP]; omega

/-- C11 for a `Substitute` statement on RV64 (capacity 14 variables, registers only). -/
theorem codeSubstitute_correct {V : Type} (re : Rearrange) (ctx : Ctx)
    (hcap : 2 * ctx.length ≤ 28) (hcap' : 2 * re.length ≤ 28)
    (hctx : (ctx.map (·.1)).Nodup) (hnew : (re.map (·.1.1)).Nodup) :
    ∃ mv, codeSubstituteRV64 re ctx =
        (.ok (ctx.flatMap (refOpsFor temporaryFromPosition re ctx)) mv, lowerAll mv) ∧
      ∀ m : MState V,
        (∀ s t, SubstEdge temporaryFromPosition re ctx s t →
          (runCode (lowerAll mv) m).regs t = m.regs s) ∧
        (∀ x, usable x = true → (∀ s, ¬ SubstEdge temporaryFromPosition re ctx s x) →
          (runCode (lowerAll mv) m).regs x = m.regs x) := by
  obtain ⟨mv, hcode, hfin⟩ := codeSubstitute_lowered temporaryFromPosition tfp_injective containsSpillEdge
    usable tfp_usable (fun (m : MState V) x => m.regs x) (fun ops m => runCode (lowerAll ops) m)
    (fun pm hs hf hu => backend_correct_usable (S := MState V) rdN okN cell bad lower exec
      containsSpillEdge usable
      (fun x => by simp [okN, usable, TEMP]) (fun _ _ _ _ _ _ h => h) sim_step
      (fun msg m => by simp [lower, runWith, exec]) pm hs hf hu)
    re ctx (tfp_total hcap) (tfp_total hcap') hctx hnew
  exact ⟨mv, by simp [codeSubstituteRV64, hcode], hfin⟩

end RV64

end Scc.PMoves
