/-
  Scc/PMoves/ProofsX86.lean  --  C11, T2 for the x86-64 backend.  The saved value lives in `TEMP`, unless the
  root has a spill-to-spill move, which goes through `TEMP`: then (`contains_spill_edge`,
  `containsSpillEdge_complete`) it lives in `SPILL_TEMP`, and `save` / `restore` of a spill slot go through
  `TEMP` in turn.  `sim_step`: what each instruction writes (`sim_of_writes`); `parallelMoves_correct_codes`.
-/
import Scc.PMoves.ProofsBackends

set_option autoImplicit false

namespace Scc.PMoves.X86

def rdN {V : Type} (m : MState V) (x : Nat) : V := m.rd (decode x)

/-- observable = not `TEMP` (code 1) and not `SPILL_TEMP` (code 16) -/
def okN (x : Nat) : Prop := x ≠ 1 ∧ x ≠ 16

/-- where `store_temporary` puts the saved value -/
def cell {V : Type} (f : Bool) (m : MState V) : V := if f then m.slots SPILL_TEMP else m.regs TEMP

/-- a `mov` between two spill slots (it goes through `TEMP`) -/
def bad (s t : Nat) : Prop := 16 ≤ s ∧ 16 ≤ t

theorem okN_iff_usable (x : Nat) : okN x ↔ usable x = true := by
  simp [okN, usable, TEMP, REGISTER_NUM, SPILL_TEMP]

theorem rdN_lt {V : Type} (m : MState V) {x : Nat} (h : x < 16) : rdN m x = m.regs x := by
  simp [rdN, decode, REGISTER_NUM, h, MState.rd]

theorem rdN_ge {V : Type} (m : MState V) {x : Nat} (h : ¬ x < 16) : rdN m x = m.slots (x - 16) := by
  simp [rdN, decode, REGISTER_NUM, h, MState.rd]

theorem rdN_setReg {V : Type} (m : MState V) (r : Nat) (v : V) (x : Nat) (hr : r < 16) :
    rdN (m.setReg r v) x = if x = r then v else rdN m x := by
  by_cases hx : x < 16
  · simp [rdN_lt _ hx, MState.setReg, upd]
  · have : x ≠ r := by omega
    simp [rdN_ge _ hx, MState.setReg, this]

theorem rdN_setSlot {V : Type} (m : MState V) (p : Nat) (v : V) (x : Nat) :
    rdN (m.setSlot p v) x = if x = 16 + p then v else rdN m x := by
  by_cases hx : x < 16
  · have : x ≠ 16 + p := by omega
    simp [rdN_lt _ hx, MState.setSlot, this]
  · by_cases hp : x = 16 + p
    · subst hp
      simp [rdN_ge _ hx, MState.setSlot, upd]
    · have : x - 16 ≠ p := by omega
      simp [rdN_ge _ hx, MState.setSlot, upd, this, hp]

/-- write the location with code `x` -/
def wrN {V : Type} (m : MState V) (x : Nat) (v : V) : MState V :=
  if x < 16 then m.setReg x v else m.setSlot (x - 16) v

theorem rdN_wrN {V : Type} (m : MState V) (t : Nat) (v : V) (x : Nat) :
    rdN (wrN m t v) x = if x = t then v else rdN m x := by
  unfold wrN
  split
  · next h => exact rdN_setReg m t v x h
  · next h => rw [rdN_setSlot, show 16 + (t - 16) = t by omega]

/-- the code of the scratch cell: `SPILL_TEMP` under the flag, else `TEMP` -/
def scN (f : Bool) : Nat := if f then 16 else 1

theorem sim_step {V : Type} (f : Bool) (op : AOp) (a : (Nat → V) × V) (m : MState V)
    (hop : OpOk okN bad f op) (h : Sim rdN okN cell f a m) :
    Sim rdN okN cell f (step op a) (runWith exec (lower op) m) := by
  have r1 : ∀ m : MState V, rdN m 1 = m.regs 1 := fun m => rdN_lt m (by omega)
  have r16 : ∀ m : MState V, rdN m 16 = m.slots 0 := fun m => rdN_ge m (by omega)
  -- a detour through `TEMP` is invisible to the observable locations and to `SPILL_TEMP`
  have viaTemp : ∀ (m : MState V) (v : V) (x : Nat), x ≠ 1 → rdN (wrN m 1 v) x = rdN m x :=
    fun m v x hx => by rw [rdN_wrN, if_neg hx]
  refine sim_of_writes rdN wrN rdN_wrN okN scN (fun f h => by cases f <;> simp [scN, okN] at h) cell
    (fun f m => by cases f <;> simp [cell, scN, r1, r16, TEMP, SPILL_TEMP]) bad lower exec f
    (fun msg m => by simp [lower, runWith, exec]) ?_ ?_ ?_ op a m hop h
  · intro t s m ht hs hb
    by_cases hs16 : s < 16 <;> by_cases ht16 : t < 16
    · exact ⟨m, fun _ _ => rfl, by
        simp [wrN, rdN_lt _ hs16, lower, mov, decode, REGISTER_NUM, hs16, ht16, moveFromRegister, runWith, exec]⟩
    · exact ⟨m, fun _ _ => rfl, by
        simp [wrN, rdN_lt _ hs16, lower, mov, decode, REGISTER_NUM, hs16, ht16, moveFromRegister, runWith, exec]⟩
    · exact ⟨m, fun _ _ => rfl, by
        simp [wrN, rdN_ge _ hs16, lower, mov, decode, REGISTER_NUM, hs16, ht16, moveToRegister, runWith, exec]⟩
    · -- spill to spill: through `TEMP`, allowed only under `f = true`
      have hf : f = true := by
        cases f with
        | true => rfl
        | false => exact absurd ⟨by omega, by omega⟩ (hb rfl)
      subst hf
      refine ⟨wrN m 1 (rdN m s), fun x hx => viaTemp _ _ _ ?_, ?_⟩
      · rcases hx with hx | rfl
        · exact hx.1
        · decide
      · simp [wrN, rdN_ge _ hs16, lower, mov, decode, REGISTER_NUM, hs16, ht16, moveToRegister,
          moveFromRegister, runWith, exec, TEMP, MState.setReg, upd]
  · intro s m hs
    by_cases hs16 : s < 16 <;> cases f
    · exact ⟨m, fun _ _ => rfl, by
        simp [wrN, scN, rdN_lt _ hs16, lower, storeTemporary, decode, REGISTER_NUM, hs16, runWith, exec, TEMP]⟩
    · exact ⟨m, fun _ _ => rfl, by
        simp [wrN, scN, rdN_lt _ hs16, lower, storeTemporary, decode, REGISTER_NUM, hs16, runWith, exec,
          SPILL_TEMP]⟩
    · exact ⟨m, fun _ _ => rfl, by
        simp [wrN, scN, rdN_ge _ hs16, lower, storeTemporary, decode, REGISTER_NUM, hs16, runWith, exec, TEMP]⟩
    · exact ⟨wrN m 1 (rdN m s), fun x hx => viaTemp _ _ _ hx.1, by
        simp [wrN, scN, rdN_ge _ hs16, lower, storeTemporary, decode, REGISTER_NUM, hs16, runWith, exec,
          SPILL_TEMP, TEMP, MState.setReg, upd]⟩
  · intro t m ht
    by_cases ht16 : t < 16 <;> cases f
    · exact ⟨m, fun _ _ => rfl, by
        simp [wrN, scN, r1, lower, restoreTemporary, decode, REGISTER_NUM, ht16, runWith, exec, TEMP]⟩
    · exact ⟨m, fun _ _ => rfl, by
        simp [wrN, scN, r16, lower, restoreTemporary, decode, REGISTER_NUM, ht16, runWith, exec, SPILL_TEMP]⟩
    · exact ⟨m, fun _ _ => rfl, by
        simp [wrN, scN, r1, lower, restoreTemporary, decode, REGISTER_NUM, ht16, runWith, exec, TEMP]⟩
    · refine ⟨wrN m 1 (rdN m 16), fun x hx => viaTemp _ _ _ ?_, ?_⟩
      · rcases hx with hx | rfl
        · exact hx.1
        · decide
      · simp [wrN, scN, r16, lower, restoreTemporary, decode, REGISTER_NUM, ht16, runWith, exec,
          SPILL_TEMP, TEMP, MState.setReg, upd]

mutual
theorem spillEdgeSpill_complete (rs : Bool) : ∀ (T : Tree) (p : Nat),
    spillEdgeSpill rs T = false → ∀ a b, (a, b) ∈ T.edges p → ¬ bad a b
  | .backEdge, _, _, a, b, hab => by simp [Tree.edges] at hab
  | .node t kids, p, h, a, b, hab => by
    simp only [spillEdgeSpill] at h
    by_cases ht : t < 16
    · simp only [decode, REGISTER_NUM, ht, if_true] at h
      simp only [Tree.edges, List.mem_cons, Prod.mk.injEq] at hab
      rcases hab with ⟨rfl, rfl⟩ | hab
      · intro hb; exact absurd hb.2 (by omega)
      · exact anySpillEdgeRegister_complete rs kids t ht h a b hab
    · simp [decode, REGISTER_NUM, ht] at h
theorem spillEdgeRegister_complete (rs : Bool) : ∀ (T : Tree) (p : Nat), p < 16 →
    spillEdgeRegister rs T = false → ∀ a b, (a, b) ∈ T.edges p → ¬ bad a b
  | .backEdge, _, _, _, a, b, hab => by simp [Tree.edges] at hab
  | .node t kids, p, hp, h, a, b, hab => by
    simp only [spillEdgeRegister] at h
    simp only [Tree.edges, List.mem_cons, Prod.mk.injEq] at hab
    by_cases ht : t < 16
    · simp only [decode, REGISTER_NUM, ht, if_true] at h
      rcases hab with ⟨rfl, rfl⟩ | hab
      · intro hb; exact absurd hb.2 (by omega)
      · exact anySpillEdgeRegister_complete rs kids t ht h a b hab
    · simp only [decode, REGISTER_NUM, ht, if_false] at h
      rcases hab with ⟨rfl, rfl⟩ | hab
      · intro hb; exact absurd hb.1 (by omega)
      · exact anySpillEdgeSpill_complete rs kids t h a b hab
theorem anySpillEdgeSpill_complete (rs : Bool) : ∀ (ks : List Tree) (p : Nat),
    anySpillEdgeSpill rs ks = false → ∀ a b, (a, b) ∈ edgesList p ks → ¬ bad a b
  | [], _, _, a, b, hab => by simp [edgesList] at hab
  | k :: ks, p, h, a, b, hab => by
    simp only [anySpillEdgeSpill, Bool.or_eq_false_iff] at h
    simp only [edgesList, List.mem_append] at hab
    rcases hab with hab | hab
    · exact spillEdgeSpill_complete rs k p h.1 a b hab
    · exact anySpillEdgeSpill_complete rs ks p h.2 a b hab
theorem anySpillEdgeRegister_complete (rs : Bool) : ∀ (ks : List Tree) (p : Nat), p < 16 →
    anySpillEdgeRegister rs ks = false → ∀ a b, (a, b) ∈ edgesList p ks → ¬ bad a b
  | [], _, _, _, a, b, hab => by simp [edgesList] at hab
  | k :: ks, p, hp, h, a, b, hab => by
    simp only [anySpillEdgeRegister, Bool.or_eq_false_iff] at h
    simp only [edgesList, List.mem_append] at hab
    rcases hab with hab | hab
    · exact spillEdgeRegister_complete rs k p hp h.1 a b hab
    · exact anySpillEdgeRegister_complete rs ks p hp h.2 a b hab
end

/-- Key lemma of T2: if `contains_spill_edge` answers `false` for a root, none of the `mov`s emitted
    for that root is between two spill slots (so `TEMP`, which then holds the saved value, survives). -/
theorem containsSpillEdge_complete (k : Nat) (trees : List Tree)
    (h : containsSpillEdge (.startNode k trees) = false) :
    ∀ a b, (a, b) ∈ edgesList k trees → ¬ bad a b := by
  simp only [containsSpillEdge] at h
  by_cases hk : k < 16
  · simp only [decode, REGISTER_NUM, hk, if_true] at h
    exact anySpillEdgeRegister_complete false trees k hk h
  · simp only [decode, REGISTER_NUM, hk, if_false] at h
    exact anySpillEdgeSpill_complete true trees k h

theorem lowerAll_eq (ops : List AOp) : lowerAll ops = ops.flatMap lower := rfl

/-- T2 for x86-64, in terms of location codes. -/
theorem parallelMoves_correct_codes {V : Type} (pm : PMap) (hs : Sorted pm) (hf : Functional pm)
    (hu : ∀ s t, Edge pm s t → usable s = true ∧ usable t = true) :
    ∃ code, parallelMovesX86 pm = .ok code ∧ ∀ m : MState V,
      (∀ s t, Edge pm s t → rdN (runCode code m) t = rdN m s) ∧
      (∀ x, usable x = true → (∀ s, ¬ Edge pm s x) → rdN (runCode code m) x = rdN m x) := by
  obtain ⟨ops, hops, hfin⟩ := backend_correct_usable (S := MState V) rdN okN cell bad lower exec containsSpillEdge usable
    okN_iff_usable containsSpillEdge_complete sim_step (fun msg m => by simp [lower, runWith, exec]) pm hs hf hu
  exact ⟨lowerAll ops, by simp [parallelMovesX86, hops], hfin⟩

end Scc.PMoves.X86
