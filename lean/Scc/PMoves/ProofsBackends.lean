/-
  Scc/PMoves/ProofsBackends.lean  --  the per-backend scratch discipline (C11, T2).

  A generic refinement theorem (`backend_correct`): if every abstract instruction emitted for a root is
  simulated by its concrete instantiation (relation `Sim`: observable locations agree, the abstract
  scratch cell is the backend's scratch location selected by the root's `contains_spill_move` flag), then
  the concrete code of `parallel_moves` realises the simultaneous assignment.  The backend enters through
  the `variable`s of `section generic` (locations, scratch cell, lowering, execution) and the hypotheses
  `hbad hsim hcomment`; the instances are ProofsX86.lean and ProofsA64RV.lean.
  `sim_of_writes` reduces `hsim` to what the code of one instruction writes: on a machine with numbered
  locations each of `mov`, `save`, `restore` is one write of its target, possibly after a detour through a
  scratch location that is not the cell in use.
-/
import Scc.PMoves.Proofs
import Scc.PMoves.Backends

set_option autoImplicit false

namespace Scc.PMoves

mutual
theorem treeMoves_ops (csm : Bool) : ∀ (T : Tree) (p : Nat) (op : AOp), op ∈ treeMoves p T csm →
    (∃ a b, op = .mov b a ∧ (a, b) ∈ T.edges p) ∨ (∃ b, op = .save b csm ∧ b ∈ T.backSrcs p)
  | .backEdge, p, op, h => by
    simp only [treeMoves, List.mem_singleton] at h
    exact Or.inr ⟨p, h, by simp [Tree.backSrcs]⟩
  | .node t kids, p, op, h => by
    simp only [treeMoves, List.mem_append, List.mem_singleton] at h
    rcases h with h | h
    · rcases forestMoves_ops csm kids t op h with ⟨a, b, h1, h2⟩ | ⟨b, h1, h2⟩
      · exact Or.inl ⟨a, b, h1, by simp [Tree.edges, h2]⟩
      · exact Or.inr ⟨b, h1, by simpa [Tree.backSrcs] using h2⟩
    · exact Or.inl ⟨p, t, h, by simp [Tree.edges]⟩
theorem forestMoves_ops (csm : Bool) : ∀ (ks : List Tree) (p : Nat) (op : AOp),
    op ∈ forestMoves p ks csm →
    (∃ a b, op = .mov b a ∧ (a, b) ∈ edgesList p ks) ∨ (∃ b, op = .save b csm ∧ b ∈ backSrcsList p ks)
  | [], _, op, h => by simp [forestMoves] at h
  | k :: ks, p, op, h => by
    simp only [forestMoves, List.mem_append] at h
    rcases h with h | h
    · rcases treeMoves_ops csm k p op h with ⟨a, b, h1, h2⟩ | ⟨b, h1, h2⟩
      · exact Or.inl ⟨a, b, h1, by simp [edgesList, h2]⟩
      · exact Or.inr ⟨b, h1, by simp [backSrcsList, h2]⟩
    · rcases forestMoves_ops csm ks p op h with ⟨a, b, h1, h2⟩ | ⟨b, h1, h2⟩
      · exact Or.inl ⟨a, b, h1, by simp [edgesList, h2]⟩
      · exact Or.inr ⟨b, h1, by simp [backSrcsList, h2]⟩
end

/-- An abstract instruction the backend can execute faithfully under flag `f`: its temporaries are
    observable (not scratch), its flag is the root's flag, and a `mov` between a `bad` pair (one that
    clobbers the `f = false` scratch location) occurs only when `f = true`. -/
def OpOk (ok : Nat → Prop) (bad : Nat → Nat → Prop) (f : Bool) : AOp → Prop
  | .mov t s => ok t ∧ ok s ∧ (f = false → ¬ bad s t)
  | .save s b => ok s ∧ b = f
  | .restore t b => ok t ∧ b = f
  | .comment _ => True

def Sim {S V : Type} (rd : S → Nat → V) (ok : Nat → Prop) (cell : Bool → S → V) (f : Bool)
    (a : (Nat → V) × V) (m : S) : Prop :=
  (∀ x, ok x → a.1 x = rd m x) ∧ a.2 = cell f m

/-- The simulation of one instruction, for a machine whose locations are numbered (`rd`, `wr` with the
    read-after-write law `hrw`) and whose scratch cell under flag `f` is the location `sc f`: the code of
    `mov`, `save`, `restore` is ONE write of the target, to a state `m'` that no observable location and
    not the scratch cell tells from `m` (the code may have gone through another scratch location). -/
theorem sim_of_writes {S V C : Type} (rd : S → Nat → V) (wr : S → Nat → V → S)
    (hrw : ∀ m t v x, rd (wr m t v) x = if x = t then v else rd m x)
    (ok : Nat → Prop) (sc : Bool → Nat) (hsc : ∀ f, ¬ ok (sc f))
    (cell : Bool → S → V) (hcell : ∀ f m, cell f m = rd m (sc f))
    (bad : Nat → Nat → Prop) (lower : AOp → List C) (exec : C → S → S) (f : Bool)
    (hcomment : ∀ msg m, runWith exec (lower (.comment msg)) m = m)
    (hmov : ∀ t s m, ok t → ok s → (f = false → ¬ bad s t) →
      ∃ m', (∀ x, ok x ∨ x = sc f → rd m' x = rd m x) ∧
        runWith exec (lower (.mov t s)) m = wr m' t (rd m s))
    (hsave : ∀ s m, ok s →
      ∃ m', (∀ x, ok x → rd m' x = rd m x) ∧ runWith exec (lower (.save s f)) m = wr m' (sc f) (rd m s))
    (hrestore : ∀ t m, ok t →
      ∃ m', (∀ x, ok x ∨ x = sc f → rd m' x = rd m x) ∧
        runWith exec (lower (.restore t f)) m = wr m' t (rd m (sc f)))
    (op : AOp) (a : (Nat → V) × V) (m : S) (hop : OpOk ok bad f op) (h : Sim rd ok cell f a m) :
    Sim rd ok cell f (step op a) (runWith exec (lower op) m) := by
  obtain ⟨σ, v0⟩ := a
  obtain ⟨h1, h2⟩ := h
  simp only at h1 h2
  cases op with
  | comment msg => rw [hcomment]; exact ⟨h1, h2⟩
  | mov t s =>
    obtain ⟨ht, hs, hb⟩ := hop
    obtain ⟨m', hm', e⟩ := hmov t s m ht hs hb
    rw [e]
    refine ⟨fun x hx => ?_, ?_⟩
    · simp only [step, upd, hrw]
      split
      · exact h1 s hs
      · rw [hm' x (Or.inl hx)]; exact h1 x hx
    · simp only [step, hcell, hrw]
      rw [if_neg (show ¬ sc f = t from fun e' => hsc f (e' ▸ ht)), hm' _ (Or.inr rfl), ← hcell]; exact h2
  | save s b =>
    obtain ⟨hs, rfl⟩ := hop
    obtain ⟨m', hm', e⟩ := hsave s m hs
    rw [e]
    refine ⟨fun x hx => ?_, ?_⟩
    · simp only [step, hrw]
      rw [if_neg (show ¬ x = sc b from fun e' => hsc b (e' ▸ hx)), hm' x hx]; exact h1 x hx
    · simp only [step, hcell, hrw, if_true]; exact h1 s hs
  | restore t b =>
    obtain ⟨ht, rfl⟩ := hop
    obtain ⟨m', hm', e⟩ := hrestore t m ht
    rw [e]
    refine ⟨fun x hx => ?_, ?_⟩
    · simp only [step, upd, hrw]
      split
      · rw [← hcell]; exact h2
      · rw [hm' x (Or.inl hx)]; exact h1 x hx
    · simp only [step, hcell, hrw]
      rw [if_neg (show ¬ sc b = t from fun e' => hsc b (e' ▸ ht)), hm' _ (Or.inr rfl), ← hcell]; exact h2

theorem runWith_append {C S : Type} (exec : C → S → S) (a b : List C) (m : S) :
    runWith exec (a ++ b) m = runWith exec b (runWith exec a m) := by
  induction a generalizing m with
  | nil => rfl
  | cons c cs ih => simp [runWith, ih]

theorem runWith_flatMap_roots {C S : Type} (exec : C → S → S) (f : Root → List C) (roots : List Root)
    (m : S) :
    runWith exec (roots.flatMap f) m = roots.foldl (fun s r => runWith exec (f r) s) m := by
  induction roots generalizing m with
  | nil => rfl
  | cons r rs ih => simp [List.flatMap_cons, runWith_append, ih]

section generic
variable {S V C : Type} (rd : S → Nat → V) (ok : Nat → Prop) (cell : Bool → S → V)
  (bad : Nat → Nat → Prop) (lower : AOp → List C) (exec : C → S → S)

theorem sim_run (f : Bool)
    (hsim : ∀ op a m, OpOk ok bad f op → Sim rd ok cell f a m →
      Sim rd ok cell f (step op a) (runWith exec (lower op) m)) :
    ∀ (ops : List AOp) (a : (Nat → V) × V) (m : S), (∀ op ∈ ops, OpOk ok bad f op) →
      Sim rd ok cell f a m → Sim rd ok cell f (run ops a) (runWith exec (ops.flatMap lower) m) := by
  intro ops
  induction ops with
  | nil => intro a m _ h; exact h
  | cons op ops ih =>
    intro a m hops h
    simp only [run, List.flatMap_cons, runWith_append]
    exact ih _ _ (fun o ho => hops o (List.mem_cons_of_mem _ ho))
      (hsim op a m (hops op List.mem_cons_self) h)

theorem rootMoves_opOk {pm : PMap} {k : Nat} {trees : List Tree} (g : RootGraph pm k trees)
    (csE : Root → Bool) (hok : ∀ s t, Edge pm s t → ok s ∧ ok t)
    (hbad : csE (.startNode k trees) = false → ∀ a b, (a, b) ∈ edgesList k trees → ¬ bad a b) :
    ∀ op ∈ rootMoves csE (.startNode k trees), OpOk ok bad (csE (.startNode k trees)) op := by
  intro op hop
  simp only [rootMoves, List.mem_append] at hop
  rcases hop with hop | hop
  · rcases forestMoves_ops _ trees k op hop with ⟨a, b, rfl, hab⟩ | ⟨b, rfl, hb⟩
    · have e := g.edges a b hab
      exact ⟨(hok a b e).2, (hok a b e).1, fun hf => hbad hf a b hab⟩
    · exact ⟨(hok b k (g.back b hb)).1, rfl⟩
  · cases hb : anyRefersBack trees with
    | false => simp [hb] at hop
    | true =>
      simp only [hb, if_true, List.mem_singleton] at hop
      subst hop
      -- the root is the target of the back edge
      have sp := forestMoves_spec (V := Nat) true trees k (fun _ => 0) 0 g.nodup g.root_not_node
      obtain ⟨b, hbm, _⟩ := sp.saved hb
      exact ⟨(hok b k (g.back b hbm)).2, rfl⟩

theorem backend_rootSpec {pm : PMap} {k : Nat} {trees : List Tree} (g : RootGraph pm k trees)
    (csE : Root → Bool) (hok : ∀ s t, Edge pm s t → ok s ∧ ok t)
    (hbad : csE (.startNode k trees) = false → ∀ a b, (a, b) ∈ edgesList k trees → ¬ bad a b)
    (hsim : ∀ f op a m, OpOk ok bad f op → Sim rd ok cell f a m →
      Sim rd ok cell f (step op a) (runWith exec (lower op) m))
    (m : S) :
    RootSpec rd ok pm (.startNode k trees) m
      (runWith exec ((rootMoves csE (.startNode k trees)).flatMap lower) m) := by
  let f := csE (.startNode k trees)
  let a0 : (Nat → V) × V := (fun x => rd m x, cell f m)
  have h0 : Sim rd ok cell f a0 m := ⟨fun _ _ => rfl, rfl⟩
  have hs := sim_run rd ok cell bad lower exec f (hsim f) _ a0 m
    (rootMoves_opOk ok bad g csE hok hbad) h0
  have sp := rootMoves_spec g csE a0
  constructor
  · intro x hx hw
    rw [← hs.1 x hx]
    exact sp.frame x trivial hw
  · intro x hw
    obtain ⟨a, ea, h⟩ := sp.moved x hw
    exact ⟨a, ea, by rw [← hs.1 x (hok a x ea).2]; exact h⟩

/-- Generic T2: the concrete code realises the simultaneous assignment on all observable locations. -/
theorem backend_correct (csE : Root → Bool)
    (hbad : ∀ k trees, csE (.startNode k trees) = false → ∀ a b, (a, b) ∈ edgesList k trees → ¬ bad a b)
    (hsim : ∀ f op a m, OpOk ok bad f op → Sim rd ok cell f a m →
      Sim rd ok cell f (step op a) (runWith exec (lower op) m))
    (hcomment : ∀ msg m, runWith exec (lower (.comment msg)) m = m)
    (pm : PMap) (hk : KeysNodup pm) (ht : TargetsNodup pm) (hf : Functional pm)
    (hok' : ∀ s t, Edge pm s t → ok s ∧ ok t) :
    ∃ ops, parallelMoves pm csE = .ok ops ∧ ∀ m : S,
      (∀ s t, Edge pm s t → rd (runWith exec (ops.flatMap lower) m) t = rd m s) ∧
      (∀ x, ok x → (∀ s, ¬ Edge pm s x) → rd (runWith exec (ops.flatMap lower) m) x = rd m x) := by
  have hfuel : (allNodes pm).length ≤ fuelFor pm := by unfold fuelFor; omega
  obtain ⟨roots, hroots⟩ := spanningForestGo_ok hf hfuel (pm.map (·.1)) pm (Good.refl ht)
    (fun _ h => h)
  refine ⟨forestCode csE roots, by simp [parallelMoves, parallelMovesFuel, spanningForest, hroots], ?_⟩
  intro m
  obtain ⟨cur', inv⟩ := forest_loop rd ok
    (fun r s => runWith exec ((rootMoves csE r).flatMap lower) s) pm hk hf hok' (fuelFor pm) m
    (fun cur k trees st good hroot =>
      backend_rootSpec rd ok cell bad lower exec
        (hroot.graph (good.keysNodup hk) good.tnd (good.functional hf)) csE
        (fun s t e => hok' s t (good.sub s t e)) (hbad k trees) hsim st)
    (pm.map (·.1)) pm m roots (Good.refl ht) (Inv.init _ _ pm m) hroots
  have hrun : runWith exec ((forestCode csE roots).flatMap lower) m =
      roots.foldl (fun s r => runWith exec ((rootMoves csE r).flatMap lower) s) m := by
    unfold forestCode
    rw [List.flatMap_append, runWith_append, List.flatMap_assoc, runWith_flatMap_roots]
    split
    · simp [hcomment]
    · simp [runWith]
  rw [hrun]
  exact inv.final

/-- `backend_correct` in the vocabulary of the backends: the map is sorted and its temporaries `usable`,
    a computable form of "observable" -/
theorem backend_correct_usable (csE : Root → Bool) (usable : Nat → Bool)
    (hou : ∀ x, ok x ↔ usable x = true)
    (hbad : ∀ k trees, csE (.startNode k trees) = false → ∀ a b, (a, b) ∈ edgesList k trees → ¬ bad a b)
    (hsim : ∀ f op a m, OpOk ok bad f op → Sim rd ok cell f a m →
      Sim rd ok cell f (step op a) (runWith exec (lower op) m))
    (hcomment : ∀ msg m, runWith exec (lower (.comment msg)) m = m)
    (pm : PMap) (hs : Sorted pm) (hf : Functional pm)
    (hu : ∀ s t, Edge pm s t → usable s = true ∧ usable t = true) :
    ∃ ops, parallelMoves pm csE = .ok ops ∧ ∀ m : S,
      (∀ s t, Edge pm s t → rd (runWith exec (ops.flatMap lower) m) t = rd m s) ∧
      (∀ x, usable x = true → (∀ s, ¬ Edge pm s x) → rd (runWith exec (ops.flatMap lower) m) x = rd m x) := by
  obtain ⟨ops, hops, hfin⟩ := backend_correct rd ok cell bad lower exec csE hbad hsim hcomment pm
    hs.keysNodup hs.targetsNodup hf
    (fun s t e => ⟨(hou s).mpr (hu s t e).1, (hou t).mpr (hu s t e).2⟩)
  exact ⟨ops, hops, fun m => ⟨(hfin m).1, fun x hx => (hfin m).2 x ((hou x).mpr hx)⟩⟩

end generic

theorem edge_ok_of_allNodes {ok : Nat → Prop} {pm : PMap} (hok : ∀ x ∈ allNodes pm, ok x) :
    ∀ s t, Edge pm s t → ok s ∧ ok t := by
  intro s t e
  refine ⟨hok s (mem_allNodes.mpr (Or.inl ?_)), hok t (mem_allNodes.mpr (Or.inr (edge_mem_allTargets e)))⟩
  obtain ⟨ts, hm, _⟩ := e
  exact List.mem_map.mpr ⟨(s, ts), hm, rfl⟩

end Scc.PMoves
