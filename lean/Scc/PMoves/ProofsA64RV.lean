/-
  Scc/PMoves/ProofsA64RV.lean  --  C11, T2 for the AArch64 and RV64 backends.
  AArch64: the saved value lives in `TEMP` (X2); a spill-to-spill `mov` goes through `TEMP2` (X3), so no
  flag is needed (`contains_spill_edge` is constantly `false`).  RV64: registers only, scratch `TEMP`.
-/
import Scc.PMoves.ProofsBackends

set_option autoImplicit false

namespace Scc.PMoves.A64

def rdN {V : Type} (m : MState V) (x : Nat) : V := m.rd (decode x)

/-- observable = not `TEMP` (X2) and not `TEMP2` (X3) -/
def okN (x : Nat) : Prop := x ≠ 2 ∧ x ≠ 3

def cell {V : Type} (_ : Bool) (m : MState V) : V := m.regs TEMP

def bad (_ _ : Nat) : Prop := False

theorem okN_iff_usable (x : Nat) : okN x ↔ usable x = true := by
  simp [okN, usable, TEMP, TEMP2]

theorem rdN_lt {V : Type} (m : MState V) {x : Nat} (h : x < 30) : rdN m x = m.regs x := by
  simp [rdN, decode, REGISTER_NUM, h, MState.rd]

theorem rdN_ge {V : Type} (m : MState V) {x : Nat} (h : ¬ x < 30) : rdN m x = m.slots (x - 30) := by
  simp [rdN, decode, REGISTER_NUM, h, MState.rd]

theorem rdN_setReg {V : Type} (m : MState V) (r : Nat) (v : V) (x : Nat) (hr : r < 30) :
    rdN (m.setReg r v) x = if x = r then v else rdN m x := by
  by_cases hx : x < 30
  · simp [rdN_lt _ hx, MState.setReg, upd]
  · have : x ≠ r := by omega
    simp [rdN_ge _ hx, MState.setReg, this]

theorem rdN_setSlot {V : Type} (m : MState V) (p : Nat) (v : V) (x : Nat) :
    rdN (m.setSlot p v) x = if x = 30 + p then v else rdN m x := by
  by_cases hx : x < 30
  · have : x ≠ 30 + p := by omega
    simp [rdN_lt _ hx, MState.setSlot, this]
  · by_cases hp : x = 30 + p
    · subst hp
      simp [rdN_ge _ hx, MState.setSlot, upd]
    · have : x - 30 ≠ p := by omega
      simp [rdN_ge _ hx, MState.setSlot, upd, this, hp]

/-- write the location with code `x` -/
def wrN {V : Type} (m : MState V) (x : Nat) (v : V) : MState V :=
  if x < 30 then m.setReg x v else m.setSlot (x - 30) v

theorem rdN_wrN {V : Type} (m : MState V) (t : Nat) (v : V) (x : Nat) :
    rdN (wrN m t v) x = if x = t then v else rdN m x := by
  unfold wrN
  split
  · next h => exact rdN_setReg m t v x h
  · next h => rw [rdN_setSlot, show 30 + (t - 30) = t by omega]

theorem sim_step {V : Type} (f : Bool) (op : AOp) (a : (Nat → V) × V) (m : MState V)
    (hop : OpOk okN bad f op) (h : Sim rdN okN cell f a m) :
    Sim rdN okN cell f (step op a) (runWith exec (lower op) m) := by
  refine sim_of_writes rdN wrN rdN_wrN okN (fun _ => 2) (fun _ h => h.1 rfl) cell
    (fun _ m => by simp [cell, rdN, decode, REGISTER_NUM, MState.rd, TEMP]) bad lower exec f
    (fun msg m => by simp [lower, runWith, exec]) ?_ ?_ ?_ op a m hop h
  · intro t s m ht hs _
    by_cases hs30 : s < 30 <;> by_cases ht30 : t < 30
    · exact ⟨m, fun _ _ => rfl, by
        simp [wrN, rdN_lt _ hs30, lower, mov, decode, REGISTER_NUM, hs30, ht30, moveFromRegister, runWith, exec]⟩
    · exact ⟨m, fun _ _ => rfl, by
        simp [wrN, rdN_lt _ hs30, lower, mov, decode, REGISTER_NUM, hs30, ht30, moveFromRegister, runWith, exec]⟩
    · exact ⟨m, fun _ _ => rfl, by
        simp [wrN, rdN_ge _ hs30, lower, mov, decode, REGISTER_NUM, hs30, ht30, moveToRegister, runWith, exec]⟩
    · -- spill to spill: through TEMP2
      refine ⟨wrN m 3 (rdN m s), fun x hx => ?_, ?_⟩
      · rw [rdN_wrN, if_neg]
        rcases hx with hx | rfl
        · exact hx.2
        · decide
      · simp [wrN, rdN_ge _ hs30, lower, mov, decode, REGISTER_NUM, hs30, ht30, moveToRegister,
          moveFromRegister, runWith, exec, TEMP2, MState.setReg, upd]
  · intro s m hs
    by_cases hs30 : s < 30
    · exact ⟨m, fun _ _ => rfl, by
        simp [wrN, rdN_lt _ hs30, lower, storeTemporary, decode, REGISTER_NUM, hs30, runWith, exec, TEMP]⟩
    · exact ⟨m, fun _ _ => rfl, by
        simp [wrN, rdN_ge _ hs30, lower, storeTemporary, decode, REGISTER_NUM, hs30, runWith, exec, TEMP]⟩
  · intro t m ht
    have h2 : rdN m 2 = m.regs 2 := rdN_lt m (by omega)
    by_cases ht30 : t < 30
    · exact ⟨m, fun _ _ => rfl, by
        simp [wrN, h2, lower, restoreTemporary, decode, REGISTER_NUM, ht30, runWith, exec, TEMP]⟩
    · exact ⟨m, fun _ _ => rfl, by
        simp [wrN, h2, lower, restoreTemporary, decode, REGISTER_NUM, ht30, runWith, exec, TEMP]⟩

/-- T2 for AArch64, in terms of location codes. -/
theorem parallelMoves_correct_codes {V : Type} (pm : PMap) (hs : Sorted pm) (hf : Functional pm)
    (hu : ∀ s t, Edge pm s t → usable s = true ∧ usable t = true) :
    ∃ code, parallelMovesA64 pm = .ok code ∧ ∀ m : MState V,
      (∀ s t, Edge pm s t → rdN (runCode code m) t = rdN m s) ∧
      (∀ x, usable x = true → (∀ s, ¬ Edge pm s x) → rdN (runCode code m) x = rdN m x) := by
  obtain ⟨ops, hops, hfin⟩ := backend_correct_usable (S := MState V) rdN okN cell bad lower exec containsSpillEdge usable
    okN_iff_usable (fun _ _ _ _ _ _ h => h) sim_step (fun msg m => by simp [lower, runWith, exec]) pm hs hf hu
  exact ⟨lowerAll ops, by simp [parallelMovesA64, hops], hfin⟩

end Scc.PMoves.A64

namespace Scc.PMoves.RV64

def rdN {V : Type} (m : MState V) (x : Nat) : V := m.rd (decode x)

/-- observable = not `TEMP` -/
def okN (x : Nat) : Prop := x ≠ 1

def cell {V : Type} (_ : Bool) (m : MState V) : V := m.regs TEMP

def bad (_ _ : Nat) : Prop := False

theorem sim_step {V : Type} (f : Bool) (op : AOp) (a : (Nat → V) × V) (m : MState V)
    (hop : OpOk okN bad f op) (h : Sim rdN okN cell f a m) :
    Sim rdN okN cell f (step op a) (runWith exec (lower op) m) := by
  refine sim_of_writes rdN MState.setReg
    (fun m t v x => by simp [rdN, decode, MState.rd, MState.setReg, upd]) okN (fun _ => 1) (fun _ h => h rfl)
    cell (fun _ m => by simp [cell, rdN, decode, MState.rd, TEMP]) bad lower exec f
    (fun msg m => by simp [lower, runWith, exec]) ?_ ?_ ?_ op a m hop h
  · intro t s m _ _ _
    exact ⟨m, fun _ _ => rfl, by simp [rdN, decode, MState.rd, lower, runWith, exec]⟩
  · intro s m _
    exact ⟨m, fun _ _ => rfl, by simp [rdN, decode, MState.rd, lower, runWith, exec, TEMP]⟩
  · intro t m _
    exact ⟨m, fun _ _ => rfl, by simp [rdN, decode, MState.rd, lower, runWith, exec, TEMP]⟩

/-- T2 for RV64. -/
theorem parallelMoves_correct_codes {V : Type} (pm : PMap) (hs : Sorted pm) (hf : Functional pm)
    (hu : ∀ s t, Edge pm s t → usable s = true ∧ usable t = true) :
    ∃ code, parallelMovesRV64 pm = .ok code ∧ ∀ m : MState V,
      (∀ s t, Edge pm s t → (runCode code m).regs t = m.regs s) ∧
      (∀ x, usable x = true → (∀ s, ¬ Edge pm s x) → (runCode code m).regs x = m.regs x) := by
  obtain ⟨ops, hops, hfin⟩ := backend_correct_usable (S := MState V) rdN okN cell bad lower exec containsSpillEdge usable
    (fun x => by simp [okN, usable, TEMP]) (fun _ _ _ _ _ _ h => h) sim_step
    (fun msg m => by simp [lower, runWith, exec]) pm hs hf hu
  exact ⟨lowerAll ops, by simp [parallelMovesRV64, hops], hfin⟩

end Scc.PMoves.RV64
