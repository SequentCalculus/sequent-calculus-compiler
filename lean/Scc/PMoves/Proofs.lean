/-
  Scc/PMoves/Proofs.lean  --  correctness of the generic parallel-move algorithm: part T1 of property C11
  (Props/C11.lean divides the property into T1 the generic algorithm, T2 the backends' instruction
  sequences, T3 the reference-count instructions of a substitution).

  In a functional map every temporary has at most one source, so the moves form trees below roots, and a
  root may close a cycle: a node that feeds the root carries a back edge.  `treeMoves` writes a node only
  after the subtree below it has read it and saves the source of a back edge in the scratch cell, from
  which the root is restored last; on trees with pairwise distinct nodes that is the simultaneous
  assignment along the edges.
  In order: the semantics of `treeMoves`/`forestMoves` on an arbitrary tree whose nodes are pairwise distinct;
  the graph produced by `spanningTree` on a functional map (edges, closure, distinctness, fuel); one root
  (`RootSpec`); the `spanningForest` loop, generic in the machine state (`Inv`, `forest_loop`); the loop does
  not run out of fuel (`spanningForestGo_ok`); the abstract machine as the instance.
-/
import Scc.PMoves.Model

set_option autoImplicit false

namespace Scc.PMoves

mutual
/-- The moves `(source, target)` that `treeMoves parent tree` performs with `mov`. -/
def Tree.edges (p : Nat) : Tree → List (Nat × Nat)
  | .backEdge => []
  | .node t kids => (p, t) :: edgesList t kids
def edgesList (p : Nat) : List Tree → List (Nat × Nat)
  | [] => []
  | k :: ks => k.edges p ++ edgesList p ks
end

mutual
/-- The temporaries that `treeMoves parent tree` saves to the scratch cell. -/
def Tree.backSrcs (p : Nat) : Tree → List Nat
  | .backEdge => [p]
  | .node t kids => backSrcsList t kids
def backSrcsList (p : Nat) : List Tree → List Nat
  | [] => []
  | k :: ks => k.backSrcs p ++ backSrcsList p ks
end

theorem run_append {V : Type} (a b : List AOp) (st : (Nat → V) × V) :
    run (a ++ b) st = run b (run a st) := by
  induction a generalizing st with
  | nil => rfl
  | cons op ops ih => simp [run, ih]

mutual
theorem Tree.edges_mem (p : Nat) : ∀ (T : Tree) (a b : Nat), (a, b) ∈ T.edges p →
    (a = p ∨ a ∈ T.nodes) ∧ b ∈ T.nodes
  | .backEdge, a, b, h => by simp [Tree.edges] at h
  | .node t kids, a, b, h => by
    simp only [Tree.edges, List.mem_cons, Prod.mk.injEq] at h
    rcases h with ⟨rfl, rfl⟩ | h
    · simp [Tree.nodes]
    · have := edgesList_mem t kids a b h
      simp only [Tree.nodes, List.mem_cons]
      rcases this with ⟨h1 | h1, h2⟩
      · exact ⟨Or.inr (Or.inl h1), Or.inr h2⟩
      · exact ⟨Or.inr (Or.inr h1), Or.inr h2⟩
theorem edgesList_mem (p : Nat) : ∀ (ks : List Tree) (a b : Nat), (a, b) ∈ edgesList p ks →
    (a = p ∨ a ∈ nodesList ks) ∧ b ∈ nodesList ks
  | [], a, b, h => by simp [edgesList] at h
  | k :: ks, a, b, h => by
    simp only [edgesList, List.mem_append] at h
    simp only [nodesList, List.mem_append]
    rcases h with h | h
    · have := Tree.edges_mem p k a b h
      rcases this with ⟨h1 | h1, h2⟩
      · exact ⟨Or.inl h1, Or.inl h2⟩
      · exact ⟨Or.inr (Or.inl h1), Or.inl h2⟩
    · have := edgesList_mem p ks a b h
      rcases this with ⟨h1 | h1, h2⟩
      · exact ⟨Or.inl h1, Or.inr h2⟩
      · exact ⟨Or.inr (Or.inr h1), Or.inr h2⟩
end

mutual
theorem Tree.backSrcs_mem (p : Nat) : ∀ (T : Tree) (b : Nat), b ∈ T.backSrcs p →
    (b = p ∨ b ∈ T.nodes)
  | .backEdge, b, h => by simp [Tree.backSrcs] at h; exact Or.inl h
  | .node t kids, b, h => by
    simp only [Tree.backSrcs] at h
    have := backSrcsList_mem t kids b h
    simp only [Tree.nodes, List.mem_cons]
    rcases this with h1 | h1
    · exact Or.inr (Or.inl h1)
    · exact Or.inr (Or.inr h1)
theorem backSrcsList_mem (p : Nat) : ∀ (ks : List Tree) (b : Nat), b ∈ backSrcsList p ks →
    (b = p ∨ b ∈ nodesList ks)
  | [], b, h => by simp [backSrcsList] at h
  | k :: ks, b, h => by
    simp only [backSrcsList, List.mem_append] at h
    simp only [nodesList, List.mem_append]
    rcases h with h | h
    · rcases Tree.backSrcs_mem p k b h with h1 | h1
      · exact Or.inl h1
      · exact Or.inr (Or.inl h1)
    · rcases backSrcsList_mem p ks b h with h1 | h1
      · exact Or.inl h1
      · exact Or.inr (Or.inr h1)
end

mutual
theorem Tree.nodes_has_edge (p : Nat) : ∀ (T : Tree) (x : Nat), x ∈ T.nodes →
    ∃ a, (a, x) ∈ T.edges p
  | .backEdge, x, h => by simp [Tree.nodes] at h
  | .node t kids, x, h => by
    simp only [Tree.nodes, List.mem_cons] at h
    rcases h with rfl | h
    · exact ⟨p, by simp [Tree.edges]⟩
    · obtain ⟨a, ha⟩ := nodesList_has_edge t kids x h
      exact ⟨a, by simp [Tree.edges, ha]⟩
theorem nodesList_has_edge (p : Nat) : ∀ (ks : List Tree) (x : Nat), x ∈ nodesList ks →
    ∃ a, (a, x) ∈ edgesList p ks
  | [], x, h => by simp [nodesList] at h
  | k :: ks, x, h => by
    simp only [nodesList, List.mem_append] at h
    rcases h with h | h
    · obtain ⟨a, ha⟩ := Tree.nodes_has_edge p k x h
      exact ⟨a, by simp [edgesList, ha]⟩
    · obtain ⟨a, ha⟩ := nodesList_has_edge p ks x h
      exact ⟨a, by simp [edgesList, ha]⟩
end

mutual
theorem Tree.refersBack_backSrcs (p : Nat) : ∀ (T : Tree), T.refersBack = false → T.backSrcs p = []
  | .backEdge, h => by simp [Tree.refersBack] at h
  | .node t kids, h => by
    simp only [Tree.refersBack] at h
    simp [Tree.backSrcs, anyRefersBack_backSrcs t kids h]
theorem anyRefersBack_backSrcs (p : Nat) : ∀ (ks : List Tree), anyRefersBack ks = false →
    backSrcsList p ks = []
  | [], _ => by simp [backSrcsList]
  | k :: ks, h => by
    simp only [anyRefersBack, Bool.or_eq_false_iff] at h
    simp [backSrcsList, Tree.refersBack_backSrcs p k h.1, anyRefersBack_backSrcs p ks h.2]
end

/-- What running the moves of a tree (or list of trees) does to the abstract machine. -/
structure MovesSpec {V : Type} (σ : Nat → V) (sc : V) (nodes : List Nat) (edges : List (Nat × Nat))
    (back : List Nat) (rb : Bool) (res : (Nat → V) × V) : Prop where
  frame : ∀ x, x ∉ nodes → res.1 x = σ x
  moved : ∀ a b, (a, b) ∈ edges → res.1 b = σ a
  noback : rb = false → res.2 = sc
  saved : rb = true → ∃ b ∈ back, res.2 = σ b

mutual
theorem treeMoves_spec {V : Type} (csm : Bool) : ∀ (T : Tree) (p : Nat) (σ : Nat → V) (sc : V),
    T.nodes.Nodup → p ∉ T.nodes →
    MovesSpec σ sc T.nodes (T.edges p) (T.backSrcs p) T.refersBack (run (treeMoves p T csm) (σ, sc))
  | .backEdge, p, σ, sc, _, _ => by
    constructor <;> simp [treeMoves, run, step, Tree.refersBack, Tree.backSrcs, Tree.edges]
  | .node t kids, p, σ, sc, hnd, hp => by
    simp only [Tree.nodes, List.nodup_cons, List.mem_cons, not_or] at hnd hp
    have ih := forestMoves_spec csm kids t σ sc hnd.2 hnd.1
    simp only [treeMoves, run_append]
    generalize run (forestMoves t kids csm) (σ, sc) = r1 at ih
    obtain ⟨σ1, sc1⟩ := r1
    have hp1 : σ1 p = σ p := ih.frame p hp.2
    constructor
    · intro x hx
      simp only [Tree.nodes, List.mem_cons, not_or] at hx
      simp only [run, step, upd, if_neg hx.1]
      exact ih.frame x hx.2
    · intro a b hab
      simp only [Tree.edges, List.mem_cons, Prod.mk.injEq] at hab
      rcases hab with ⟨rfl, rfl⟩ | hab
      · simp [run, step, upd, hp1]
      · have hb := (edgesList_mem t kids a b hab).2
        have hbt : b ≠ t := fun h => hnd.1 (h ▸ hb)
        simp only [run, step, upd, if_neg hbt]
        exact ih.moved a b hab
    · intro h
      simp only [Tree.refersBack] at h
      simpa [run, step] using ih.noback h
    · intro h
      simp only [Tree.refersBack] at h
      simpa [run, step, Tree.backSrcs] using ih.saved h
theorem forestMoves_spec {V : Type} (csm : Bool) : ∀ (ks : List Tree) (p : Nat) (σ : Nat → V) (sc : V),
    (nodesList ks).Nodup → p ∉ nodesList ks →
    MovesSpec σ sc (nodesList ks) (edgesList p ks) (backSrcsList p ks) (anyRefersBack ks)
      (run (forestMoves p ks csm) (σ, sc))
  | [], p, σ, sc, _, _ => by
    constructor <;> simp [forestMoves, run, anyRefersBack, edgesList]
  | k :: ks, p, σ, sc, hnd, hp => by
    simp only [nodesList, List.nodup_append, List.mem_append, not_or] at hnd hp
    obtain ⟨hndk, hndks, hdisj⟩ := hnd
    have ih1 := treeMoves_spec csm k p σ sc hndk hp.1
    simp only [forestMoves, run_append]
    generalize run (treeMoves p k csm) (σ, sc) = r1 at ih1
    obtain ⟨σ1, sc1⟩ := r1
    have ih2 := forestMoves_spec csm ks p σ1 sc1 hndks hp.2
    generalize run (forestMoves p ks csm) (σ1, sc1) = r2 at ih2
    obtain ⟨σ2, sc2⟩ := r2
    -- sources read by the second part are untouched by the first part
    have hsrc : ∀ a, (a = p ∨ a ∈ nodesList ks) → σ1 a = σ a := by
      intro a ha
      apply ih1.frame
      rcases ha with rfl | ha
      · exact hp.1
      · intro hak; exact hdisj a hak a ha rfl
    constructor
    · intro x hx
      simp only [nodesList, List.mem_append, not_or] at hx
      show σ2 x = σ x
      rw [show σ2 x = σ1 x from ih2.frame x hx.2]
      exact ih1.frame x hx.1
    · intro a b hab
      simp only [edgesList, List.mem_append] at hab
      show σ2 b = σ a
      rcases hab with hab | hab
      · have hb := (Tree.edges_mem p k a b hab).2
        have : b ∉ nodesList ks := fun h => hdisj b hb b h rfl
        rw [show σ2 b = σ1 b from ih2.frame b this]
        exact ih1.moved a b hab
      · rw [show σ2 b = σ1 a from ih2.moved a b hab]
        exact hsrc a (edgesList_mem p ks a b hab).1
    · intro h
      simp only [anyRefersBack, Bool.or_eq_false_iff] at h
      show sc2 = sc
      rw [show sc2 = sc1 from ih2.noback h.2]
      exact ih1.noback h.1
    · intro h
      show ∃ b ∈ backSrcsList p (k :: ks), sc2 = σ b
      simp only [backSrcsList, List.mem_append]
      cases hks : anyRefersBack ks with
      | true =>
        obtain ⟨b, hb, hsc⟩ := ih2.saved hks
        refine ⟨b, Or.inr hb, ?_⟩
        rw [show sc2 = σ1 b from hsc]
        exact hsrc b (backSrcsList_mem p ks b hb)
      | false =>
        have hk : k.refersBack = true := by simpa [anyRefersBack, hks] using h
        obtain ⟨b, hb, hsc⟩ := ih1.saved hk
        refine ⟨b, Or.inl hb, ?_⟩
        rw [show sc2 = sc1 from ih2.noback hks]
        exact hsc
end

/-- keys are pairwise distinct (implied by `Sorted`) -/
def KeysNodup (pm : PMap) : Prop := (pm.map (·.1)).Nodup
/-- every target list is duplicate free (implied by `Sorted`) -/
def TargetsNodup (pm : PMap) : Prop := ∀ kv ∈ pm, kv.2.Nodup

/-- `parallel_moves[&node]` if `contains_key(&node)`, else no targets -/
def targetsOf (pm : PMap) (n : Nat) : List Nat := (mapLookup pm n).getD []

theorem mapLookup_mem {pm : PMap} {k : Nat} {ts : List Nat} (h : mapLookup pm k = some ts) :
    (k, ts) ∈ pm := by
  induction pm with
  | nil => simp [mapLookup] at h
  | cons kv rest ih =>
    obtain ⟨k', v⟩ := kv
    simp only [mapLookup] at h
    split at h
    · rename_i hk
      simp only [beq_iff_eq] at hk
      simp only [Option.some.injEq] at h
      simp [hk, h]
    · exact List.mem_cons_of_mem _ (ih h)

theorem mapLookup_of_mem {pm : PMap} (hk : KeysNodup pm) {k : Nat} {ts : List Nat}
    (h : (k, ts) ∈ pm) : mapLookup pm k = some ts := by
  induction pm with
  | nil => simp at h
  | cons kv rest ih =>
    obtain ⟨k', v⟩ := kv
    simp only [KeysNodup, List.map_cons, List.nodup_cons, List.mem_map, not_exists, not_and] at hk
    simp only [List.mem_cons, Prod.mk.injEq] at h
    simp only [mapLookup]
    rcases h with ⟨rfl, rfl⟩ | h
    · simp
    · have : ¬ (k' == k) = true := by
        simp only [beq_iff_eq]
        intro e
        exact hk.1 (k, ts) h e.symm
      simp only [this]
      exact ih hk.2 h

theorem edge_of_mem_targetsOf {pm : PMap} {n t : Nat} (h : t ∈ targetsOf pm n) : Edge pm n t := by
  unfold targetsOf at h
  cases hl : mapLookup pm n with
  | none => simp [hl] at h
  | some ts =>
    simp only [hl, Option.getD_some] at h
    exact ⟨ts, mapLookup_mem hl, h⟩

theorem mem_targetsOf_of_edge {pm : PMap} (hk : KeysNodup pm) {n t : Nat} (h : Edge pm n t) :
    t ∈ targetsOf pm n := by
  obtain ⟨ts, hm, ht⟩ := h
  simp [targetsOf, mapLookup_of_mem hk hm, ht]

theorem targetsOf_nodup {pm : PMap} (ht : TargetsNodup pm) (n : Nat) : (targetsOf pm n).Nodup := by
  unfold targetsOf
  cases hl : mapLookup pm n with
  | none => simp
  | some ts => simpa using ht _ (mapLookup_mem hl)

theorem optMap_cons_some {α β : Type} {f : α → Option β} {x : α} {xs : List α} {ys : List β}
    (h : optMap f (x :: xs) = some ys) :
    ∃ y ys', f x = some y ∧ optMap f xs = some ys' ∧ ys = y :: ys' := by
  simp only [optMap] at h
  cases hx : f x with
  | none => simp [hx] at h
  | some y =>
    cases hxs : optMap f xs with
    | none => simp [hx, hxs] at h
    | some ys' =>
      simp only [hx, hxs, Option.some.injEq] at h
      exact ⟨y, ys', rfl, rfl, h.symm⟩

theorem optMap_exists {α β : Type} {f : α → Option β} {xs : List α}
    (h : ∀ x ∈ xs, ∃ y, f x = some y) : ∃ ys, optMap f xs = some ys := by
  induction xs with
  | nil => exact ⟨[], rfl⟩
  | cons x xs ih =>
    obtain ⟨y, hy⟩ := h x (List.mem_cons_self)
    obtain ⟨ys, hys⟩ := ih (fun x' hx' => h x' (List.mem_cons_of_mem _ hx'))
    exact ⟨y :: ys, by simp [optMap, hy, hys]⟩

theorem spanningTree_succ (fuel : Nat) (pm : PMap) (r n : Nat) :
    spanningTree (fuel + 1) pm r n =
      if r = n then some .backEdge
      else (optMap (spanningTree fuel pm r) (targetsOf pm n)).map (Tree.node n) := by
  simp only [spanningTree, targetsOf, beq_iff_eq]
  split
  · rfl
  · cases hl : mapLookup pm n with
    | none => simp [optMap]
    | some ts =>
      simp only [Option.getD_some]
      cases optMap (spanningTree fuel pm r) ts <;> simp

mutual
/-- `T` is the tree that `spanningTree pm r n` builds (independently of the fuel) -/
def IsST (pm : PMap) (r : Nat) : Nat → Tree → Prop
  | n, .backEdge => n = r
  | n, .node t kids => n ≠ r ∧ t = n ∧ AreSTs pm r (targetsOf pm n) kids
def AreSTs (pm : PMap) (r : Nat) : List Nat → List Tree → Prop
  | [], [] => True
  | t :: ts, k :: ks => IsST pm r t k ∧ AreSTs pm r ts ks
  | [], _ :: _ => False
  | _ :: _, [] => False
end

theorem spanningTree_isST (pm : PMap) (r : Nat) : ∀ (fuel n : Nat) (T : Tree),
    spanningTree fuel pm r n = some T → IsST pm r n T := by
  intro fuel
  induction fuel with
  | zero => intro n T h; simp [spanningTree] at h
  | succ fuel ih =>
    intro n T h
    rw [spanningTree_succ] at h
    split at h
    · rename_i hrn
      simp only [Option.some.injEq] at h
      subst h; simp [IsST, hrn]
    · rename_i hrn
      simp only [Option.map_eq_some_iff] at h
      obtain ⟨kids, hk, rfl⟩ := h
      refine ⟨fun e => hrn e.symm, rfl, ?_⟩
      generalize targetsOf pm n = ts at hk
      induction ts generalizing kids with
      | nil => simp only [optMap, Option.some.injEq] at hk; subst hk; trivial
      | cons t ts iht =>
        obtain ⟨y, ys', hy, hys, rfl⟩ := optMap_cons_some hk
        exact ⟨ih t y hy, iht ys' hys⟩

theorem optMap_spanningTree_areSTs (pm : PMap) (r fuel : Nat) : ∀ (ts : List Nat) (kids : List Tree),
    optMap (spanningTree fuel pm r) ts = some kids → AreSTs pm r ts kids := by
  intro ts
  induction ts with
  | nil => intro kids hk; simp only [optMap, Option.some.injEq] at hk; subst hk; trivial
  | cons t ts iht =>
    intro kids hk
    obtain ⟨y, ys', hy, hys, rfl⟩ := optMap_cons_some hk
    exact ⟨spanningTree_isST pm r fuel t y hy, iht ys' hys⟩

/-- `Reach pm r a c`: there is a path `a → … → c` in the move graph none of whose nodes, except
    possibly `a`, is the root `r`. -/
inductive Reach (pm : PMap) (r : Nat) : Nat → Nat → Prop
  | refl (a : Nat) : Reach pm r a a
  | step {a b c : Nat} : Reach pm r a b → Edge pm b c → c ≠ r → Reach pm r a c

theorem Reach.head {pm : PMap} {r a b c : Nat} (hab : Edge pm a b) (hb : b ≠ r)
    (h : Reach pm r b c) : Reach pm r a c := by
  induction h with
  | refl => exact .step (.refl a) hab hb
  | step _ e ne ih => exact .step ih e ne

theorem Reach.last {pm : PMap} {r a c : Nat} (h : Reach pm r a c) (hne : a ≠ c) :
    ∃ y, Reach pm r a y ∧ Edge pm y c ∧ c ≠ r := by
  cases h with
  | refl => exact absurd rfl hne
  | step h1 e ne => exact ⟨_, h1, e, ne⟩

theorem Reach.comparable {pm : PMap} (hf : Functional pm) {r a b x : Nat}
    (ha : Reach pm r a x) (hb : Reach pm r b x) : Reach pm r a b ∨ Reach pm r b a := by
  induction ha generalizing b with
  | refl => exact Or.inr hb
  | @step y x ha1 e ne ih =>
    cases hb with
    | refl => exact Or.inl (.step ha1 e ne)
    | @step y' _ hb1 e' _ =>
      have : y = y' := hf _ _ _ e e'
      subst this
      exact ih hb1

/-- no cycle avoiding the root passes through a node reachable from the root -/
theorem Reach.acyclic {pm : PMap} (hf : Functional pm) {r n : Nat} (h : Reach pm r r n) :
    ∀ c, Edge pm n c → c ≠ r → ¬ Reach pm r c n := by
  induction h with
  | refl =>
    intro c _ hc hcr
    obtain ⟨_, _, _, hrr⟩ := hcr.last hc
    exact hrr rfl
  | @step m n hm e ne ih =>
    intro c enc hc hcn
    by_cases hcn' : c = n
    · subst hcn'
      have : m = c := hf _ _ _ e enc
      subst this
      exact ih m enc hc hcn
    · obtain ⟨y, hcy, eyn, _⟩ := hcn.last hcn'
      have : y = m := hf _ _ _ eyn e
      subst this
      exact ih n e ne (Reach.head enc hc hcy)

/-- subtrees of different children of a reachable node are disjoint -/
theorem Reach.sibling {pm : PMap} (hf : Functional pm) {r n c c' x : Nat} (hn : Reach pm r r n)
    (e : Edge pm n c) (e' : Edge pm n c') (hc : c ≠ r) (hc' : c' ≠ r) (hne : c ≠ c')
    (h : Reach pm r c x) (h' : Reach pm r c' x) : False := by
  rcases Reach.comparable hf h h' with hcc | hcc
  · obtain ⟨y, hcy, eyc, _⟩ := hcc.last hne
    have : y = n := hf _ _ _ eyc e'
    subst this
    exact Reach.acyclic hf hn c e hc hcy
  · obtain ⟨y, hcy, eyc, _⟩ := hcc.last (Ne.symm hne)
    have : y = n := hf _ _ _ eyc e
    subst this
    exact Reach.acyclic hf hn c' e' hc' hcy

mutual
theorem IsST.nodes_reach {pm : PMap} {r : Nat} : ∀ (T : Tree) (n : Nat), IsST pm r n T →
    ∀ x ∈ T.nodes, n ≠ r ∧ x ≠ r ∧ Reach pm r n x
  | .backEdge, n, _, x, hx => by simp [Tree.nodes] at hx
  | .node t kids, n, h, x, hx => by
    obtain ⟨hn, rfl, hk⟩ := h
    simp only [Tree.nodes, List.mem_cons] at hx
    rcases hx with rfl | hx
    · exact ⟨hn, hn, .refl _⟩
    · obtain ⟨hxr, c, hc, hcr, hcx⟩ := AreSTs.nodes_reach kids _ hk x hx
      exact ⟨hn, hxr, Reach.head (edge_of_mem_targetsOf hc) hcr hcx⟩
theorem AreSTs.nodes_reach {pm : PMap} {r : Nat} : ∀ (ks : List Tree) (ts : List Nat),
    AreSTs pm r ts ks → ∀ x ∈ nodesList ks, x ≠ r ∧ ∃ c ∈ ts, c ≠ r ∧ Reach pm r c x
  | [], _, _, x, hx => by simp [nodesList] at hx
  | k :: ks, [], h, _, _ => by simp [AreSTs] at h
  | k :: ks, t :: ts, h, x, hx => by
    obtain ⟨h1, h2⟩ := h
    simp only [nodesList, List.mem_append] at hx
    rcases hx with hx | hx
    · obtain ⟨a, b, c⟩ := IsST.nodes_reach k t h1 x hx
      exact ⟨b, t, List.mem_cons_self, a, c⟩
    · obtain ⟨a, c, hc, b, d⟩ := AreSTs.nodes_reach ks ts h2 x hx
      exact ⟨a, c, List.mem_cons_of_mem _ hc, b, d⟩
end

mutual
theorem IsST.edges {pm : PMap} {r : Nat} : ∀ (T : Tree) (n p : Nat), IsST pm r n T → Edge pm p n →
    (∀ a b, (a, b) ∈ T.edges p → Edge pm a b) ∧ (∀ b ∈ T.backSrcs p, Edge pm b r)
  | .backEdge, n, p, h, e => by
    simp only [IsST] at h
    subst h
    simp [Tree.edges, Tree.backSrcs, e]
  | .node t kids, n, p, h, e => by
    obtain ⟨_, rfl, hk⟩ := h
    have := AreSTs.edges kids _ t hk (fun c hc => edge_of_mem_targetsOf hc)
    refine ⟨?_, ?_⟩
    · intro a b hab
      simp only [Tree.edges, List.mem_cons, Prod.mk.injEq] at hab
      rcases hab with ⟨rfl, rfl⟩ | hab
      · exact e
      · exact this.1 a b hab
    · intro b hb
      simp only [Tree.backSrcs] at hb
      exact this.2 b hb
theorem AreSTs.edges {pm : PMap} {r : Nat} : ∀ (ks : List Tree) (ts : List Nat) (p : Nat),
    AreSTs pm r ts ks → (∀ c ∈ ts, Edge pm p c) →
    (∀ a b, (a, b) ∈ edgesList p ks → Edge pm a b) ∧ (∀ b ∈ backSrcsList p ks, Edge pm b r)
  | [], _, _, _, _ => by simp [edgesList, backSrcsList]
  | k :: ks, [], _, h, _ => by simp [AreSTs] at h
  | k :: ks, t :: ts, p, h, he => by
    obtain ⟨h1, h2⟩ := h
    have i1 := IsST.edges k t p h1 (he t List.mem_cons_self)
    have i2 := AreSTs.edges ks ts p h2 (fun c hc => he c (List.mem_cons_of_mem _ hc))
    refine ⟨?_, ?_⟩
    · intro a b hab
      simp only [edgesList, List.mem_append] at hab
      rcases hab with hab | hab
      · exact i1.1 a b hab
      · exact i2.1 a b hab
    · intro b hb
      simp only [backSrcsList, List.mem_append] at hb
      rcases hb with hb | hb
      · exact i1.2 b hb
      · exact i2.2 b hb
end

/-- every requested child is either the back edge or a node of the forest -/
theorem AreSTs.mem {pm : PMap} {r : Nat} : ∀ (ks : List Tree) (ts : List Nat), AreSTs pm r ts ks →
    ∀ t ∈ ts, (t = r ∧ anyRefersBack ks = true) ∨ (t ≠ r ∧ t ∈ nodesList ks)
  | [], [], _, t, ht => by simp at ht
  | [], _ :: _, h, _, _ => by simp [AreSTs] at h
  | k :: ks, [], _, t, ht => by simp at ht
  | k :: ks, t' :: ts, h, t, ht => by
    obtain ⟨h1, h2⟩ := h
    simp only [List.mem_cons] at ht
    rcases ht with rfl | ht
    · cases k with
      | backEdge =>
        simp only [IsST] at h1
        exact Or.inl ⟨h1, by simp [anyRefersBack, Tree.refersBack]⟩
      | node t'' kids =>
        obtain ⟨hn, rfl, _⟩ := h1
        exact Or.inr ⟨hn, by simp [nodesList, Tree.nodes]⟩
    · rcases AreSTs.mem ks ts h2 t ht with ⟨a, b⟩ | ⟨a, b⟩
      · exact Or.inl ⟨a, by simp [anyRefersBack, b]⟩
      · exact Or.inr ⟨a, by simp [nodesList, b]⟩

mutual
theorem IsST.closed {pm : PMap} (hk : KeysNodup pm) {r : Nat} : ∀ (T : Tree) (n : Nat),
    IsST pm r n T → ∀ x ∈ T.nodes, ∀ t, Edge pm x t →
      t ∈ T.nodes ∨ (t = r ∧ T.refersBack = true)
  | .backEdge, n, _, x, hx, _, _ => by simp [Tree.nodes] at hx
  | .node t' kids, n, h, x, hx, t, e => by
    obtain ⟨hn, rfl, hks⟩ := h
    simp only [Tree.nodes, List.mem_cons] at hx
    simp only [Tree.nodes, List.mem_cons, Tree.refersBack]
    rcases hx with rfl | hx
    · rcases AreSTs.mem kids _ hks t (mem_targetsOf_of_edge hk e) with ⟨a, b⟩ | ⟨_, b⟩
      · exact Or.inr ⟨a, b⟩
      · exact Or.inl (Or.inr b)
    · rcases AreSTs.closed hk kids _ hks x hx t e with a | a
      · exact Or.inl (Or.inr a)
      · exact Or.inr a
theorem AreSTs.closed {pm : PMap} (hk : KeysNodup pm) {r : Nat} : ∀ (ks : List Tree) (ts : List Nat),
    AreSTs pm r ts ks → ∀ x ∈ nodesList ks, ∀ t, Edge pm x t →
      t ∈ nodesList ks ∨ (t = r ∧ anyRefersBack ks = true)
  | [], _, _, x, hx, _, _ => by simp [nodesList] at hx
  | k :: ks, [], h, _, _, _, _ => by simp [AreSTs] at h
  | k :: ks, t' :: ts, h, x, hx, t, e => by
    obtain ⟨h1, h2⟩ := h
    simp only [nodesList, List.mem_append] at hx
    simp only [nodesList, List.mem_append, anyRefersBack, Bool.or_eq_true]
    rcases hx with hx | hx
    · rcases IsST.closed hk k t' h1 x hx t e with a | ⟨a, b⟩
      · exact Or.inl (Or.inl a)
      · exact Or.inr ⟨a, Or.inl b⟩
    · rcases AreSTs.closed hk ks ts h2 x hx t e with a | ⟨a, b⟩
      · exact Or.inl (Or.inr a)
      · exact Or.inr ⟨a, Or.inr b⟩
end

mutual
theorem IsST.nodup {pm : PMap} (hf : Functional pm) (ht : TargetsNodup pm) {r : Nat} :
    ∀ (T : Tree) (n : Nat), IsST pm r n T → Reach pm r r n → T.nodes.Nodup
  | .backEdge, _, _, _ => by simp [Tree.nodes]
  | .node t' kids, n, h, hr => by
    obtain ⟨hn, rfl, hks⟩ := h
    simp only [Tree.nodes, List.nodup_cons]
    refine ⟨?_, AreSTs.nodup hf ht kids _ t' hks hr (targetsOf_nodup ht _)
      (fun c hc => edge_of_mem_targetsOf hc)⟩
    intro hmem
    obtain ⟨_, c, hc, hcr, hcx⟩ := AreSTs.nodes_reach kids _ hks t' hmem
    exact Reach.acyclic hf hr c (edge_of_mem_targetsOf hc) hcr hcx
theorem AreSTs.nodup {pm : PMap} (hf : Functional pm) (ht : TargetsNodup pm) {r : Nat} :
    ∀ (ks : List Tree) (ts : List Nat) (n : Nat), AreSTs pm r ts ks → Reach pm r r n → ts.Nodup →
      (∀ c ∈ ts, Edge pm n c) → (nodesList ks).Nodup
  | [], _, _, _, _, _, _ => by simp [nodesList]
  | k :: ks, [], _, h, _, _, _ => by simp [AreSTs] at h
  | k :: ks, t :: ts, n, h, hr, hnd, he => by
    obtain ⟨h1, h2⟩ := h
    simp only [List.nodup_cons] at hnd
    have et := he t List.mem_cons_self
    simp only [nodesList, List.nodup_append]
    refine ⟨?_, AreSTs.nodup hf ht ks ts n h2 hr hnd.2 (fun c hc => he c (List.mem_cons_of_mem _ hc)), ?_⟩
    · cases k with
      | backEdge => simp [Tree.nodes]
      | node t'' kids =>
        have htr : t ≠ r := h1.1
        exact IsST.nodup hf ht _ t h1 (.step hr et htr)
    · intro x hx y hy hxy
      subst hxy
      obtain ⟨htr, _, hrx⟩ := IsST.nodes_reach k t h1 x hx
      obtain ⟨_, c, hc, hcr, hcx⟩ := AreSTs.nodes_reach ks ts h2 x hy
      have hne : t ≠ c := fun e => hnd.1 (e ▸ hc)
      exact Reach.sibling hf hr et (he c (List.mem_cons_of_mem _ hc)) htr hcr hne hrx hcx
end

/-- `fuel > depth` suffices: `anc` is the list of proper ancestors of `n` (root included), `V` any list
    containing all targets of the map. -/
theorem spanningTree_terminates {pm : PMap} (hf : Functional pm) {r : Nat} (V : List Nat)
    (hV : ∀ s t, Edge pm s t → t ∈ V) :
    ∀ (fuel n : Nat) (anc : List Nat), anc.Nodup → (∀ a ∈ anc, a ∈ V) →
      (∀ a ∈ anc, Reach pm r a n) → Reach pm r r n → (n = r ∨ (n ∉ anc ∧ n ∈ V)) →
      V.length + 1 ≤ anc.length + fuel → ∃ T, spanningTree fuel pm r n = some T := by
  intro fuel
  induction fuel with
  | zero =>
    intro n anc hnd hsub _ _ _ hlen
    have := List.Nodup.length_le_of_subset hnd (fun a ha => hsub a ha)
    omega
  | succ fuel ih =>
    intro n anc hnd hsub hanc hrn hn hlen
    rw [spanningTree_succ]
    by_cases hrn' : r = n
    · simp [hrn']
    · simp only [if_neg hrn']
      have hnr : n ≠ r := fun e => hrn' e.symm
      obtain ⟨hna, hnV⟩ := hn.resolve_left hnr
      have hnd' : (n :: anc).Nodup := List.nodup_cons.mpr ⟨hna, hnd⟩
      have hsub' : ∀ a ∈ n :: anc, a ∈ V := by
        intro a ha
        rcases List.mem_cons.mp ha with rfl | ha
        · exact hnV
        · exact hsub a ha
      have hle := List.Nodup.length_le_of_subset hnd' (fun a ha => hsub' a ha)
      simp only [List.length_cons] at hle
      have : ∃ kids, optMap (spanningTree fuel pm r) (targetsOf pm n) = some kids := by
        apply optMap_exists
        intro c hc
        have e := edge_of_mem_targetsOf hc
        by_cases hcr : c = r
        · subst hcr
          obtain ⟨f', rfl⟩ : ∃ f', fuel = f' + 1 := ⟨fuel - 1, by omega⟩
          exact ⟨.backEdge, by rw [spanningTree_succ]; simp⟩
        · apply ih c (n :: anc) hnd' hsub'
          · intro a ha
            rcases List.mem_cons.mp ha with rfl | ha
            · exact .step (.refl _) e hcr
            · exact .step (hanc a ha) e hcr
          · exact .step hrn e hcr
          · refine Or.inr ⟨?_, hV _ _ e⟩
            intro hmem
            rcases List.mem_cons.mp hmem with rfl | hmem
            · exact Reach.acyclic hf hrn c e hcr (.refl _)
            · exact Reach.acyclic hf hrn c e hcr (hanc c hmem)
          · simp only [List.length_cons]; omega
      obtain ⟨kids, hk⟩ := this
      exact ⟨.node n kids, by simp [hk]⟩

theorem mem_visitedBy {k : Nat} {trees : List Tree} {x : Nat} :
    x ∈ (Root.startNode k trees).visitedBy ↔
      (x = k ∧ anyRefersBack trees = true) ∨ x ∈ nodesList trees := by
  simp only [Root.visitedBy, List.mem_append]
  cases anyRefersBack trees <;> simp

/-- graph facts about the root built for key `k` of the current map -/
structure RootGraph (pm : PMap) (k : Nat) (trees : List Tree) : Prop where
  nodup : (nodesList trees).Nodup
  root_not_node : k ∉ nodesList trees
  edges : ∀ a b, (a, b) ∈ edgesList k trees → Edge pm a b
  back : ∀ b ∈ backSrcsList k trees, Edge pm b k
  closed : ∀ x ∈ (Root.startNode k trees).visitedBy, ∀ t, Edge pm x t →
    t ∈ (Root.startNode k trees).visitedBy
  closed_root : ∀ t, Edge pm k t → t ≠ k → t ∈ (Root.startNode k trees).visitedBy

theorem rootGraph_of_areSTs {pm : PMap} (hk : KeysNodup pm) (ht : TargetsNodup pm) (hf : Functional pm)
    {k : Nat} {trees : List Tree}
    (hst : AreSTs pm k ((targetsOf pm k).filter (fun t => !(t == k))) trees) :
    RootGraph pm k trees := by
  have hedge : ∀ c ∈ (targetsOf pm k).filter (fun t => !(t == k)), Edge pm k c := by
    intro c hc
    exact edge_of_mem_targetsOf (List.mem_filter.mp hc).1
  have hnd : ((targetsOf pm k).filter (fun t => !(t == k))).Nodup :=
    List.Nodup.sublist List.filter_sublist (targetsOf_nodup ht k)
  have hmem : ∀ t, Edge pm k t → t ≠ k → t ∈ nodesList trees := by
    intro t e hne
    have : t ∈ (targetsOf pm k).filter (fun t => !(t == k)) := by
      simp [List.mem_filter, mem_targetsOf_of_edge hk e, hne]
    rcases AreSTs.mem trees _ hst t this with ⟨a, _⟩ | ⟨_, b⟩
    · exact absurd a hne
    · exact b
  refine ⟨AreSTs.nodup hf ht trees _ k hst (.refl k) hnd hedge, ?_, ?_, ?_, ?_, ?_⟩
  · intro h
    exact (AreSTs.nodes_reach trees _ hst k h).1 rfl
  · exact (AreSTs.edges trees _ k hst hedge).1
  · exact (AreSTs.edges trees _ k hst hedge).2
  · intro x hx t e
    rw [mem_visitedBy] at hx ⊢
    rcases hx with ⟨rfl, hb⟩ | hx
    · by_cases htx : t = x
      · exact Or.inl ⟨htx, hb⟩
      · exact Or.inr (hmem t e htx)
    · rcases AreSTs.closed hk trees _ hst x hx t e with a | a
      · exact Or.inr a
      · exact Or.inl a
  · intro t e hne
    rw [mem_visitedBy]
    exact Or.inr (hmem t e hne)

/-- What executing the code of one root does, seen through `rd` on the observable locations `ok`. -/
structure RootSpec {S V : Type} (rd : S → Nat → V) (ok : Nat → Prop) (pm : PMap) (root : Root)
    (st st' : S) : Prop where
  frame : ∀ x, ok x → x ∉ root.visitedBy → rd st' x = rd st x
  moved : ∀ x ∈ root.visitedBy, ∃ a, Edge pm a x ∧ rd st' x = rd st a

theorem rootMoves_spec {V : Type} {pm : PMap} {k : Nat} {trees : List Tree}
    (g : RootGraph pm k trees) (csE : Root → Bool) (st : (Nat → V) × V) :
    RootSpec (fun s x => s.1 x) (fun _ => True) pm (.startNode k trees) st
      (run (rootMoves csE (.startNode k trees)) st) := by
  obtain ⟨σ, sc⟩ := st
  have sp := forestMoves_spec (csE (.startNode k trees)) trees k σ sc g.nodup g.root_not_node
  simp only [rootMoves, run_append]
  generalize run (forestMoves k trees (csE (.startNode k trees))) (σ, sc) = r1 at sp
  obtain ⟨σ1, sc1⟩ := r1
  have hnode : ∀ x ∈ nodesList trees, ∃ a, Edge pm a x ∧ σ1 x = σ a := by
    intro x hx
    obtain ⟨a, ha⟩ := nodesList_has_edge k trees x hx
    exact ⟨a, g.edges a x ha, sp.moved a x ha⟩
  cases hb : anyRefersBack trees with
  | false =>
    simp only [Bool.false_eq_true, if_false, run]
    constructor
    · intro x _ hx
      rw [mem_visitedBy] at hx
      exact sp.frame x (fun h => hx (Or.inr h))
    · intro x hx
      rw [mem_visitedBy] at hx
      rcases hx with ⟨_, h⟩ | hx
      · simp [hb] at h
      · exact hnode x hx
  | true =>
    obtain ⟨b, hbm, hsc⟩ := sp.saved hb
    simp only [if_true, run, step]
    constructor
    · intro x _ hx
      rw [mem_visitedBy] at hx
      have hxk : x ≠ k := fun e => hx (Or.inl ⟨e, hb⟩)
      simp only [upd, if_neg hxk]
      exact sp.frame x (fun h => hx (Or.inr h))
    · intro x hx
      rw [mem_visitedBy] at hx
      by_cases hxk : x = k
      · subst hxk
        exact ⟨b, g.back b hbm, by simpa [upd] using hsc⟩
      · simp only [upd, if_neg hxk]
        rcases hx with ⟨h, _⟩ | hx
        · exact absurd h hxk
        · exact hnode x hx

theorem edge_deleteTargets {W : List Nat} {pm : PMap} {s t : Nat} :
    Edge (deleteTargets W pm) s t ↔ Edge pm s t ∧ t ∉ W := by
  simp only [Edge, deleteTargets, List.mem_map, Prod.mk.injEq]
  constructor
  · rintro ⟨ts, ⟨⟨k, v⟩, hm, rfl, rfl⟩, ht⟩
    simp only [List.mem_filter, Bool.not_eq_eq_eq_not, Bool.not_true, List.contains_eq_mem,
      decide_eq_false_iff_not] at ht
    exact ⟨⟨v, hm, ht.1⟩, ht.2⟩
  · rintro ⟨⟨ts, hm, ht⟩, hw⟩
    refine ⟨_, ⟨(s, ts), hm, rfl, rfl⟩, ?_⟩
    simp [List.mem_filter, ht, hw]

theorem keys_deleteTargets (W : List Nat) (pm : PMap) :
    (deleteTargets W pm).map (·.1) = pm.map (·.1) := by
  simp [deleteTargets, List.map_map, Function.comp_def]

/-- the mutated map `cur` relative to the original map `pm0` -/
structure Good (pm0 cur : PMap) : Prop where
  keys : cur.map (·.1) = pm0.map (·.1)
  sub : ∀ s t, Edge cur s t → Edge pm0 s t
  tnd : TargetsNodup cur

theorem Good.refl {pm0 : PMap} (ht : TargetsNodup pm0) : Good pm0 pm0 := ⟨rfl, fun _ _ h => h, ht⟩

theorem Good.delete {pm0 cur : PMap} (g : Good pm0 cur) (W : List Nat) :
    Good pm0 (deleteTargets W cur) := by
  refine ⟨by rw [keys_deleteTargets, g.keys], ?_, ?_⟩
  · intro s t h
    exact g.sub s t (edge_deleteTargets.mp h).1
  · intro kv hkv
    simp only [deleteTargets, List.mem_map] at hkv
    obtain ⟨kv', hm, rfl⟩ := hkv
    exact List.Nodup.sublist List.filter_sublist (g.tnd kv' hm)

theorem Good.keysNodup {pm0 cur : PMap} (g : Good pm0 cur) (hk0 : KeysNodup pm0) : KeysNodup cur := by
  unfold KeysNodup; rw [g.keys]; exact hk0

theorem Good.functional {pm0 cur : PMap} (g : Good pm0 cur) (hf0 : Functional pm0) : Functional cur :=
  fun s s' t h h' => hf0 s s' t (g.sub _ _ h) (g.sub _ _ h')

/-- loop invariant of `spanningForestGo`, relative to the initial state `st0` -/
structure Inv {S V : Type} (rd : S → Nat → V) (ok : Nat → Prop) (pm0 : PMap) (st0 : S)
    (ks : List Nat) (cur : PMap) (st : S) : Prop where
  done : ∀ s t, Edge pm0 s t → Edge cur s t ∨ rd st t = rd st0 s
  src : ∀ s t, Edge cur s t → rd st s = rd st0 s
  frame : ∀ x, ok x → (∀ s, ¬ Edge pm0 s x) → rd st x = rd st0 x
  pending : ∀ s t, Edge cur s t → s ≠ t → s ∈ ks

/-- A root as built by one iteration of `spanning_forest`. -/
def IsRootOf (fuel : Nat) (cur : PMap) (k : Nat) (trees : List Tree) : Prop :=
  ∃ ts, mapLookup cur k = some ts ∧
    optMap (spanningTree fuel cur k) (ts.filter (fun t => !(t == k))) = some trees

theorem IsRootOf.graph {fuel : Nat} {cur : PMap} {k : Nat} {trees : List Tree}
    (h : IsRootOf fuel cur k trees) (hk : KeysNodup cur) (ht : TargetsNodup cur) (hf : Functional cur) :
    RootGraph cur k trees := by
  obtain ⟨ts, hl, ho⟩ := h
  apply rootGraph_of_areSTs hk ht hf
  have : targetsOf cur k = ts := by simp [targetsOf, hl]
  rw [this]
  exact optMap_spanningTree_areSTs cur k fuel _ _ ho

theorem inv_step {S V : Type} {rd : S → Nat → V} {ok : Nat → Prop} {pm0 : PMap} {st0 : S}
    (hf0 : Functional pm0) (hok : ∀ s t, Edge pm0 s t → ok s ∧ ok t)
    {k : Nat} {ks : List Nat} {cur : PMap} {st st' : S} {trees : List Tree}
    (good : Good pm0 cur) (inv : Inv rd ok pm0 st0 (k :: ks) cur st)
    (g : RootGraph cur k trees) (sp : RootSpec rd ok cur (.startNode k trees) st st') :
    Inv rd ok pm0 st0 ks (deleteTargets (Root.startNode k trees).visitedBy cur) st' := by
  have hfc := good.functional hf0
  constructor
  · intro s t e0
    by_cases hw : t ∈ (Root.startNode k trees).visitedBy
    · right
      obtain ⟨a, ea, hrd⟩ := sp.moved t hw
      have : a = s := hf0 _ _ _ (good.sub _ _ ea) e0
      subst this
      rw [hrd]
      exact inv.src a t ea
    · rcases inv.done s t e0 with ec | hd
      · exact Or.inl (edge_deleteTargets.mpr ⟨ec, hw⟩)
      · right
        rw [sp.frame t (hok s t e0).2 hw]
        exact hd
  · intro s t e
    obtain ⟨ec, hw⟩ := edge_deleteTargets.mp e
    have hs : s ∉ (Root.startNode k trees).visitedBy := fun h => hw (g.closed s h t ec)
    rw [sp.frame s (hok s t (good.sub _ _ ec)).1 hs]
    exact inv.src s t ec
  · intro x hx hnt
    have : x ∉ (Root.startNode k trees).visitedBy := by
      intro h
      obtain ⟨a, ea, _⟩ := sp.moved x h
      exact hnt a (good.sub _ _ ea)
    rw [sp.frame x hx this]
    exact inv.frame x hx hnt
  · intro s t e hne
    obtain ⟨ec, hw⟩ := edge_deleteTargets.mp e
    rcases List.mem_cons.mp (inv.pending s t ec hne) with rfl | h
    · exact absurd (g.closed_root t ec (Ne.symm hne)) hw
    · exact h

/-- The loop: if executing each root satisfies `RootSpec`, executing the whole forest realises the
    simultaneous assignment. -/
theorem forest_loop {S V : Type} (rd : S → Nat → V) (ok : Nat → Prop) (exec : Root → S → S)
    (pm0 : PMap) (hk0 : KeysNodup pm0) (hf0 : Functional pm0)
    (hok : ∀ s t, Edge pm0 s t → ok s ∧ ok t) (fuel : Nat) (st0 : S)
    (hexec : ∀ cur k trees st, Good pm0 cur → IsRootOf fuel cur k trees →
        RootSpec rd ok cur (.startNode k trees) st (exec (.startNode k trees) st)) :
    ∀ (ks : List Nat) (cur : PMap) (st : S) (roots : List Root),
      Good pm0 cur → Inv rd ok pm0 st0 ks cur st →
      spanningForestGo fuel ks cur = .ok roots →
      ∃ cur', Inv rd ok pm0 st0 [] cur' (roots.foldl (fun s r => exec r s) st) := by
  intro ks
  induction ks with
  | nil =>
    intro cur st roots _ inv h
    simp only [spanningForestGo, Res.ok.injEq] at h
    subst h
    exact ⟨cur, inv⟩
  | cons k ks ih =>
    intro cur st roots good inv h
    simp only [spanningForestGo] at h
    cases hl : mapLookup cur k with
    | none => simp [hl] at h
    | some ts =>
      simp only [hl] at h
      cases ho : optMap (spanningTree fuel cur k) (ts.filter (fun t => !(t == k))) with
      | none => simp [ho] at h
      | some trees =>
        simp only [ho] at h
        have hroot : IsRootOf fuel cur k trees := ⟨ts, hl, ho⟩
        have g := hroot.graph (good.keysNodup hk0) good.tnd (good.functional hf0)
        have sp := hexec cur k trees st good hroot
        have inv' := inv_step hf0 hok good inv g sp
        cases hrest : spanningForestGo fuel ks
            (deleteTargets (Root.startNode k trees).visitedBy cur) with
        | outOfFuel => simp [hrest] at h
        | missingKey => simp [hrest] at h
        | ok rest =>
          simp only [hrest, Res.ok.injEq] at h
          subst h
          simp only [List.foldl_cons]
          exact ih _ _ rest (good.delete _) inv' hrest

theorem Inv.init {S V : Type} (rd : S → Nat → V) (ok : Nat → Prop) (pm0 : PMap) (st0 : S) :
    Inv rd ok pm0 st0 (pm0.map (·.1)) pm0 st0 := by
  refine ⟨fun s t e => Or.inl e, fun _ _ _ => rfl, fun _ _ _ => rfl, ?_⟩
  intro s t ⟨ts, hm, _⟩ _
  exact List.mem_map.mpr ⟨(s, ts), hm, rfl⟩

theorem Inv.final {S V : Type} {rd : S → Nat → V} {ok : Nat → Prop} {pm0 : PMap} {st0 st : S}
    {cur : PMap} (inv : Inv rd ok pm0 st0 [] cur st) :
    (∀ s t, Edge pm0 s t → rd st t = rd st0 s) ∧
    (∀ x, ok x → (∀ s, ¬ Edge pm0 s x) → rd st x = rd st0 x) := by
  refine ⟨?_, inv.frame⟩
  intro s t e
  rcases inv.done s t e with ec | h
  · by_cases hst : s = t
    · subst hst; exact inv.src s s ec
    · exact absurd (inv.pending s t ec hst) (by simp)
  · exact h

theorem mem_allNodes {pm : PMap} {x : Nat} :
    x ∈ allNodes pm ↔ x ∈ pm.map (·.1) ∨ x ∈ allTargets pm := by
  simp [allNodes, List.mem_eraseDups]

theorem edge_mem_allTargets {pm : PMap} {s t : Nat} (e : Edge pm s t) : t ∈ allTargets pm := by
  obtain ⟨ts, hm, ht⟩ := e
  exact List.mem_flatMap.mpr ⟨(s, ts), hm, ht⟩

theorem mapLookup_isSome_of_key {pm : PMap} {k : Nat} (h : k ∈ pm.map (·.1)) :
    ∃ ts, mapLookup pm k = some ts := by
  induction pm with
  | nil => simp at h
  | cons kv rest ih =>
    obtain ⟨k', v⟩ := kv
    simp only [List.map_cons, List.mem_cons] at h
    simp only [mapLookup]
    by_cases hk : k' = k
    · exact ⟨v, by simp [hk]⟩
    · have : ¬ (k' == k) = true := by simpa using hk
      simp only [this]
      exact ih (h.resolve_left (fun e => hk e.symm))

theorem spanningForestGo_ok {pm0 : PMap} (hf0 : Functional pm0) {fuel : Nat}
    (hfuel : (allNodes pm0).length ≤ fuel) :
    ∀ (ks : List Nat) (cur : PMap), Good pm0 cur → (∀ k ∈ ks, k ∈ pm0.map (·.1)) →
      ∃ roots, spanningForestGo fuel ks cur = .ok roots := by
  intro ks
  induction ks with
  | nil => intro cur _ _; exact ⟨[], rfl⟩
  | cons k ks ih =>
    intro cur good hks
    have hkey : k ∈ cur.map (·.1) := by rw [good.keys]; exact hks k List.mem_cons_self
    obtain ⟨ts, hl⟩ := mapLookup_isSome_of_key hkey
    have hfc := good.functional hf0
    have hV : ∀ s t, Edge cur s t → t ∈ allNodes pm0 := fun s t e =>
      mem_allNodes.mpr (Or.inr (edge_mem_allTargets (good.sub _ _ e)))
    have : ∃ trees, optMap (spanningTree fuel cur k) (ts.filter (fun t => !(t == k))) = some trees := by
      apply optMap_exists
      intro c hc
      obtain ⟨hc1, hc2⟩ := List.mem_filter.mp hc
      have hck : c ≠ k := by simpa using hc2
      have e : Edge cur k c := ⟨ts, mapLookup_mem hl, hc1⟩
      have hr : Reach cur k k c := .step (.refl k) e hck
      apply spanningTree_terminates hfc (allNodes pm0) hV fuel c [k]
      · simp
      · intro a ha
        simp only [List.mem_singleton] at ha
        subst ha
        exact mem_allNodes.mpr (Or.inl (hks a List.mem_cons_self))
      · intro a ha
        simp only [List.mem_singleton] at ha
        subst ha
        exact hr
      · exact hr
      · exact Or.inr ⟨by simpa using hck, hV _ _ e⟩
      · simp only [List.length_singleton]; omega
    obtain ⟨trees, ho⟩ := this
    obtain ⟨rest, hrest⟩ := ih (deleteTargets (Root.startNode k trees).visitedBy cur)
      (good.delete _) (fun k' hk' => hks k' (List.mem_cons_of_mem _ hk'))
    exact ⟨Root.startNode k trees :: rest, by simp [spanningForestGo, hl, ho, hrest]⟩

theorem run_flatMap {V : Type} (f : Root → List AOp) (roots : List Root) (st : (Nat → V) × V) :
    run (roots.flatMap f) st = roots.foldl (fun s r => run (f r) s) st := by
  induction roots generalizing st with
  | nil => rfl
  | cons r rs ih => simp [List.flatMap_cons, run_append, ih]

theorem run_forestCode {V : Type} (csE : Root → Bool) (forest : List Root) (st : (Nat → V) × V) :
    run (forestCode csE forest) st = forest.foldl (fun s r => run (rootMoves csE r) s) st := by
  unfold forestCode
  rw [run_append, run_flatMap]
  split <;> simp [run, step]

theorem Ascending.nodup {l : List Nat} (h : Ascending l) : l.Nodup :=
  List.Pairwise.imp (fun h => Nat.ne_of_lt h) h

theorem Sorted.keysNodup {pm : PMap} (h : Sorted pm) : KeysNodup pm := Ascending.nodup h.1
theorem Sorted.targetsNodup {pm : PMap} (h : Sorted pm) : TargetsNodup pm :=
  fun kv hkv => Ascending.nodup (h.2 kv hkv)

/-- T1 for maps with duplicate-free keys and target lists, explicit fuel. -/
theorem parallelMovesFuel_correct {V : Type} (pm : PMap) (hk : KeysNodup pm) (ht : TargetsNodup pm)
    (hf : Functional pm) (csE : Root → Bool) (fuel : Nat) (hfuel : (allNodes pm).length ≤ fuel) :
    ∃ ops, parallelMovesFuel fuel pm csE = .ok ops ∧ ∀ (σ : Nat → V) (sc : V),
      (∀ s t, Edge pm s t → (run ops (σ, sc)).1 t = σ s) ∧
      (∀ x, (∀ s, ¬ Edge pm s x) → (run ops (σ, sc)).1 x = σ x) := by
  obtain ⟨roots, hroots⟩ := spanningForestGo_ok hf hfuel (pm.map (·.1)) pm (Good.refl ht)
    (fun _ h => h)
  refine ⟨forestCode csE roots, by simp [parallelMovesFuel, spanningForest, hroots], ?_⟩
  intro σ sc
  obtain ⟨cur', inv⟩ := forest_loop (S := (Nat → V) × V) (fun s x => s.1 x) (fun _ => True)
    (fun r s => run (rootMoves csE r) s) pm hk hf (fun _ _ _ => ⟨trivial, trivial⟩) fuel (σ, sc)
    (fun cur k trees st good hroot =>
      rootMoves_spec (hroot.graph (good.keysNodup hk) good.tnd (good.functional hf)) csE st)
    (pm.map (·.1)) pm (σ, sc) roots (Good.refl ht) (Inv.init _ _ pm (σ, sc)) hroots
  rw [run_forestCode]
  have := inv.final
  exact ⟨this.1, fun x hx => this.2 x trivial hx⟩

end Scc.PMoves
