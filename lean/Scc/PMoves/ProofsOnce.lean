/-
  Scc/PMoves/ProofsOnce.lean  --  C11: every target of a (non-self) move is the destination of exactly
  one emitted `mov`/`restore`, and nothing else is a destination.
-/
import Scc.PMoves.Proofs

set_option autoImplicit false

namespace Scc.PMoves

/-- the temporary an abstract instruction writes (the scratch cell is not a temporary) -/
def AOp.dest : AOp → List Nat
  | .mov t _ => [t]
  | .restore t _ => [t]
  | .save _ _ => []
  | .comment _ => []

def dests (ops : List AOp) : List Nat := ops.flatMap AOp.dest

theorem dests_append (a b : List AOp) : dests (a ++ b) = dests a ++ dests b := by
  simp [dests]

mutual
theorem treeMoves_dests (csm : Bool) : ∀ (T : Tree) (p : Nat), (dests (treeMoves p T csm)).Perm T.nodes
  | .backEdge, p => by simp [treeMoves, dests, AOp.dest, Tree.nodes]
  | .node t kids, p => by
    simp only [treeMoves, dests_append, Tree.nodes]
    have ih := forestMoves_dests csm kids t
    have : dests [AOp.mov t p] = [t] := by simp [dests, AOp.dest]
    rw [this]
    exact (List.perm_append_comm).trans (List.Perm.cons t ih)
theorem forestMoves_dests (csm : Bool) : ∀ (ks : List Tree) (p : Nat),
    (dests (forestMoves p ks csm)).Perm (nodesList ks)
  | [], p => by simp [forestMoves, dests, nodesList]
  | k :: ks, p => by
    simp only [forestMoves, dests_append, nodesList]
    exact List.Perm.append (treeMoves_dests csm k p) (forestMoves_dests csm ks p)
end

theorem rootMoves_dests (csE : Root → Bool) (k : Nat) (trees : List Tree) :
    (dests (rootMoves csE (.startNode k trees))).Perm (Root.startNode k trees).visitedBy := by
  simp only [rootMoves, dests_append, Root.visitedBy]
  refine (List.Perm.append (forestMoves_dests _ trees k) ?_).trans List.perm_append_comm
  cases anyRefersBack trees <;> simp [dests, AOp.dest]

mutual
theorem Tree.edges_ne (p : Nat) : ∀ (T : Tree), T.nodes.Nodup → p ∉ T.nodes →
    ∀ a b, (a, b) ∈ T.edges p → a ≠ b
  | .backEdge, _, _, a, b, h => by simp [Tree.edges] at h
  | .node t kids, hnd, hp, a, b, h => by
    simp only [Tree.nodes, List.nodup_cons, List.mem_cons, not_or] at hnd hp
    simp only [Tree.edges, List.mem_cons, Prod.mk.injEq] at h
    rcases h with ⟨rfl, rfl⟩ | h
    · exact hp.1
    · exact edgesList_ne t kids hnd.2 hnd.1 a b h
theorem edgesList_ne (p : Nat) : ∀ (ks : List Tree), (nodesList ks).Nodup → p ∉ nodesList ks →
    ∀ a b, (a, b) ∈ edgesList p ks → a ≠ b
  | [], _, _, a, b, h => by simp [edgesList] at h
  | k :: ks, hnd, hp, a, b, h => by
    simp only [nodesList, List.nodup_append, List.mem_append, not_or] at hnd hp
    simp only [edgesList, List.mem_append] at h
    rcases h with h | h
    · exact Tree.edges_ne p k hnd.1 hp.1 a b h
    · exact edgesList_ne p ks hnd.2.1 hp.2 a b h
end

mutual
theorem Tree.refersBack_backSrcs_ne (p : Nat) : ∀ (T : Tree), T.refersBack = true →
    ∃ b, b ∈ T.backSrcs p
  | .backEdge, _ => ⟨p, by simp [Tree.backSrcs]⟩
  | .node t kids, h => by
    simp only [Tree.refersBack] at h
    simpa [Tree.backSrcs] using anyRefersBack_backSrcs_ne t kids h
theorem anyRefersBack_backSrcs_ne (p : Nat) : ∀ (ks : List Tree), anyRefersBack ks = true →
    ∃ b, b ∈ backSrcsList p ks
  | [], h => by simp [anyRefersBack] at h
  | k :: ks, h => by
    simp only [anyRefersBack, Bool.or_eq_true] at h
    rcases h with h | h
    · obtain ⟨b, hb⟩ := Tree.refersBack_backSrcs_ne p k h
      exact ⟨b, by simp [backSrcsList, hb]⟩
    · obtain ⟨b, hb⟩ := anyRefersBack_backSrcs_ne p ks h
      exact ⟨b, by simp [backSrcsList, hb]⟩
end

/-- at the top level no tree is the bare back edge, so every back source is a node -/
theorem AreSTs.backSrcs_nodes {pm : PMap} {r : Nat} (p : Nat) : ∀ (ks : List Tree) (ts : List Nat),
    AreSTs pm r ts ks → r ∉ ts → ∀ b ∈ backSrcsList p ks, b ∈ nodesList ks
  | [], _, _, _, b, hb => by simp [backSrcsList] at hb
  | k :: ks, [], h, _, _, _ => by simp [AreSTs] at h
  | k :: ks, t :: ts, h, hr, b, hb => by
    obtain ⟨h1, h2⟩ := h
    simp only [List.mem_cons, not_or] at hr
    simp only [backSrcsList, List.mem_append] at hb
    simp only [nodesList, List.mem_append]
    rcases hb with hb | hb
    · left
      cases k with
      | backEdge => exact absurd h1.symm hr.1
      | node t' kids =>
        simp only [Tree.backSrcs] at hb
        simp only [Tree.nodes, List.mem_cons]
        exact backSrcsList_mem t' kids b hb
    · exact Or.inr (AreSTs.backSrcs_nodes p ks ts h2 hr.2 b hb)

/-- every temporary visited by a root is the target of a non-self edge of the current map -/
theorem IsRootOf.targets {fuel : Nat} {cur : PMap} {k : Nat} {trees : List Tree}
    (h : IsRootOf fuel cur k trees) (g : RootGraph cur k trees) :
    ∀ x ∈ (Root.startNode k trees).visitedBy, ∃ a, a ≠ x ∧ Edge cur a x := by
  obtain ⟨ts, _, ho⟩ := h
  have hst := optMap_spanningTree_areSTs cur k fuel _ _ ho
  have hk : k ∉ ts.filter (fun t => !(t == k)) := by simp [List.mem_filter]
  intro x hx
  rw [mem_visitedBy] at hx
  rcases hx with ⟨rfl, hb⟩ | hx
  · obtain ⟨b, hbm⟩ := anyRefersBack_backSrcs_ne x trees hb
    have hbn := AreSTs.backSrcs_nodes x trees _ hst hk b hbm
    exact ⟨b, fun e => g.root_not_node (e ▸ hbn), g.back b hbm⟩
  · obtain ⟨a, ha⟩ := nodesList_has_edge k trees x hx
    exact ⟨a, edgesList_ne k trees g.nodup g.root_not_node a x ha, g.edges a x ha⟩

def written (roots : List Root) : List Nat := roots.flatMap Root.visitedBy

theorem written_spec {pm0 : PMap} (hk0 : KeysNodup pm0) (hf0 : Functional pm0) (fuel : Nat) :
    ∀ (ks : List Nat) (cur : PMap) (roots : List Root), Good pm0 cur →
      spanningForestGo fuel ks cur = .ok roots →
      (written roots).Nodup ∧
      (∀ x ∈ written roots, ∃ s, s ≠ x ∧ Edge cur s x) ∧
      (∀ s t, Edge cur s t → s ≠ t → s ∈ ks → t ∈ written roots) := by
  intro ks
  induction ks with
  | nil =>
    intro cur roots _ h
    simp only [spanningForestGo, Res.ok.injEq] at h
    subst h
    simp [written]
  | cons k ks ih =>
    intro cur roots good h
    simp only [spanningForestGo] at h
    cases hl : mapLookup cur k with
    | none => simp [hl] at h
    | some ts =>
      simp only [hl] at h
      cases ho : optMap (spanningTree fuel cur k) (ts.filter (fun t => !(t == k))) with
      | none => simp [ho] at h
      | some trees =>
        simp only [ho] at h
        have hroot : IsRootOf fuel cur k trees := ⟨ts, hl, ho⟩
        have g := hroot.graph (good.keysNodup hk0) good.tnd (good.functional hf0)
        have htg := hroot.targets g
        cases hrest : spanningForestGo fuel ks
            (deleteTargets (Root.startNode k trees).visitedBy cur) with
        | outOfFuel => simp [hrest] at h
        | missingKey => simp [hrest] at h
        | ok rest =>
          simp only [hrest, Res.ok.injEq] at h
          subst h
          obtain ⟨i1, i2, i3⟩ := ih _ rest (good.delete _) hrest
          have hW : (Root.startNode k trees).visitedBy.Nodup := by
            simp only [Root.visitedBy]
            cases anyRefersBack trees with
            | false => simpa using g.nodup
            | true => simpa using ⟨g.root_not_node, g.nodup⟩
          simp only [written, List.flatMap_cons]
          refine ⟨?_, ?_, ?_⟩
          · refine List.nodup_append.mpr ⟨hW, i1, ?_⟩
            intro x hx y hy hxy
            subst hxy
            obtain ⟨s, _, e⟩ := i2 x hy
            exact (edge_deleteTargets.mp e).2 hx
          · intro x hx
            rcases List.mem_append.mp hx with hx | hx
            · exact htg x hx
            · obtain ⟨s, hs, e⟩ := i2 x hx
              exact ⟨s, hs, (edge_deleteTargets.mp e).1⟩
          · intro s t e hne hs
            by_cases hw : t ∈ (Root.startNode k trees).visitedBy
            · exact List.mem_append.mpr (Or.inl hw)
            · rcases List.mem_cons.mp hs with rfl | hs
              · exact absurd (g.closed_root t e (Ne.symm hne)) hw
              · exact List.mem_append.mpr (Or.inr
                  (i3 s t (edge_deleteTargets.mpr ⟨e, hw⟩) hne hs))

theorem perm_flatMap {α β : Type} {f g : α → List β} : ∀ (l : List α),
    (∀ a ∈ l, (f a).Perm (g a)) → (l.flatMap f).Perm (l.flatMap g)
  | [], _ => by simp
  | a :: l, h => by
    simp only [List.flatMap_cons]
    exact List.Perm.append (h a List.mem_cons_self)
      (perm_flatMap l (fun a' ha' => h a' (List.mem_cons_of_mem _ ha')))

theorem forestCode_dests (csE : Root → Bool) (roots : List Root) :
    (dests (forestCode csE roots)).Perm (written roots) := by
  have h1 : dests (forestCode csE roots) = roots.flatMap (fun r => dests (rootMoves csE r)) := by
    unfold forestCode
    rw [dests_append]
    have : dests (if (!roots.all fun r => r.trees.isEmpty) = true
        then [AOp.comment "#move variables"] else []) = [] := by
      split <;> simp [dests, AOp.dest]
    rw [this, List.nil_append]
    simp only [dests, List.flatMap_assoc]
  rw [h1]
  apply perm_flatMap
  intro r _
  cases r with
  | startNode k trees => exact rootMoves_dests csE k trees

/-- Each target of a non-self move is the destination of exactly one `mov`/`restore`; nothing else is a
    destination. -/
theorem parallelMoves_dests (pm : PMap) (hk : KeysNodup pm) (ht : TargetsNodup pm) (hf : Functional pm)
    (csE : Root → Bool) :
    ∃ ops, parallelMoves pm csE = .ok ops ∧ (dests ops).Nodup ∧
      ∀ t, t ∈ dests ops ↔ ∃ s, s ≠ t ∧ Edge pm s t := by
  have hfuel : (allNodes pm).length ≤ fuelFor pm := by unfold fuelFor; omega
  obtain ⟨roots, hroots⟩ := spanningForestGo_ok hf hfuel (pm.map (·.1)) pm (Good.refl ht)
    (fun _ h => h)
  obtain ⟨w1, w2, w3⟩ := written_spec hk hf (fuelFor pm) _ pm roots (Good.refl ht) hroots
  have hp := forestCode_dests csE roots
  refine ⟨forestCode csE roots, by simp [parallelMoves, parallelMovesFuel, spanningForest, hroots],
    hp.nodup_iff.mpr w1, ?_⟩
  intro t
  rw [hp.mem_iff]
  constructor
  · exact w2 t
  · rintro ⟨s, hs, e⟩
    refine w3 s t e hs ?_
    obtain ⟨ts, hm, _⟩ := e
    exact List.mem_map.mpr ⟨(s, ts), hm, rfl⟩

end Scc.PMoves
