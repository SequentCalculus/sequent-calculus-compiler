/-
  Scc/PMoves/Model.lean  --  executable model of the parallel-move algorithm (property C11).

  What is modelled, from which source files
  -----------------------------------------
  * /repo/lang/axcut2backend/src/parallel_moves.rs  (GENERIC part)
      Tree, Root, Tree::nodes, Tree::refers_back, Root::visited_by, delete_targets,
      spanning_tree, spanning_forest, tree_moves, root_moves, parallel_moves.
  * /repo/lang/axcut2backend/src/substitution.rs
      transpose, code_exchange::connections, code_weakening_contraction.
  * /repo/lang/axcut2backend/src/statements/substitute.rs (the order: refcount ops, then moves).

  Representation choices
  ----------------------
  * `Temporary` (Rust: any `Ord + Hash + Copy` type) is `Nat`; the per-backend meaning of the numbers
    is in `Scc/PMoves/Backends.lean`.
  * `BTreeMap<Temporary, BTreeSet<Temporary>>` is `PMap = List (Nat × List Nat)` with strictly
    ascending keys and strictly ascending target lists (`Sorted`); `normalize` builds such a map from
    arbitrary edges the way `BTreeMap`/`BTreeSet` insertion does.  Iteration over a `BTreeMap` /
    `BTreeSet` is iteration over the list.
  * `HashSet`s are used for membership only: lists + `contains`.
  * `spanning_tree` has no syntactic termination argument in Rust (on an ill-formed move graph, e.g.
    `1 ↦ {2}, 2 ↦ {2,3}` it recurses forever / overflows the stack).  The model takes `fuel` and returns
    `none` when the fuel is exhausted; `Scc/PMoves/Proofs.lean` proves that any fuel ≥ the number of distinct
    nodes suffices for every functional move graph, so `fuelFor pm` = that number + 1 does
    (`C11_fuelFor_suffices`, Props/C11.lean).
  * `parallel_moves[temporary]` in `spanning_forest` panics on a missing key; the model has the explicit
    outcome `Res.missingKey` (proved unreachable).
  * Placement of variables: position `i` of a context owns the position numbers `2i` (`Fst`) and `2i+1`
    (`Snd`); the backend's `temporary_from_position` (a parameter `tfp : Nat → Option Nat` of
    `variableTemporary`, `connections`, `codeWeakeningContraction`, `codeSubstitute`) turns a position
    number into a temporary.  `genericTemporary = some` is the identity placement used by the generic
    theorems and by the `subst` request; the real ones are in Backends.lean.
  * The generic part emits abstract instructions `AOp`; `save`/`restore` stand for
    `Backend::store_temporary` / `Backend::restore_temporary`, their `Bool` is `contains_spill_move`.
  * `transpose`: the Rust `BTreeMap<ContextBinding, Vec<ID>>` is iterated in the derived order of
    `ContextBinding` (var.name, var.id, chi, ty).  The model has no names and produces the entries in
    CONTEXT order.  DEVIATION (documented, harmless for the moves): the iteration order only affects
    (a) the order of the `erase`/`share` groups emitted by `code_weakening_contraction` and (b) the
    order of insertions into the temporaries map built by `connections`, which is a `BTreeMap` keyed by
    temporary and therefore insensitive to insertion order as long as keys are distinct.  A context
    with two syntactically equal bindings would be collapsed by the Rust map; the model keeps both.

  Line protocol (`handleLine`), used by the differential test driver
  ------------------------------------------------------------------
    request  `pm <src>:<t1>,<t2>,...;<src>:<t>,...;...`   (decimal naturals; a source may have an empty
             target list `7:`; the edges are inserted with `normalize`; `containsSpillEdge := fun _ => false`)
    answer   the emitted ops separated by `|`, each one of
               `mov <t> <s>` | `save <s> <0|1>` | `restore <t> <0|1>` | `comment <msg>`
             (an empty answer means no instruction), or `outOfFuel` / `missingKey`.
    request  `subst <ctx> -> <rearrange>`
             <ctx>       = comma separated `<id>:<k>` with k ∈ {p,c,e} (prd, cns, ext), may be empty
             <rearrange> = comma separated `<newid>:<k>=<oldid>`, may be empty
    answer   refcount ops then move ops, `|`-separated; refcount ops are
               `comment #erase <id>` `erase <tFst>` | `comment #share <id>` `share <tFst> <n>`
             (the Rust comment text contains the printed variable `name_id`; the model has ids only),
             or `panic` if a variable is not found in its context, or `outOfFuel` (e.g. a new variable
             bound twice: the Rust code overflows its stack there).
             Temporaries are abstract position numbers (`genericTemporary`).
    anything else -> `error`.
-/

set_option autoImplicit false

namespace Scc.PMoves

/-! ## Ordered maps and sets as sorted association lists -/

/-- `BTreeMap<Temporary, BTreeSet<Temporary>>`. -/
abbrev PMap := List (Nat × List Nat)

/-- `BTreeSet::insert` on an ascending duplicate-free list. -/
def setInsert (x : Nat) : List Nat → List Nat
  | [] => [x]
  | y :: ys => if x < y then x :: y :: ys else if x == y then y :: ys else y :: setInsert x ys

/-- `iter.collect::<BTreeSet<_>>()`. -/
def setOfList (l : List Nat) : List Nat := l.foldl (fun acc x => setInsert x acc) []

/-- `BTreeMap::get`. -/
def mapLookup : PMap → Nat → Option (List Nat)
  | [], _ => none
  | (k, v) :: rest, key => if k == key then some v else mapLookup rest key

/-- `BTreeMap::insert` (replaces the value of an existing key). -/
def mapInsert (key : Nat) (val : List Nat) : PMap → PMap
  | [] => [(key, val)]
  | (k, v) :: rest =>
    if key < k then (key, val) :: (k, v) :: rest
    else if key == k then (key, val) :: rest
    else (k, v) :: mapInsert key val rest

/-- Builds the map from arbitrary `(source, target)` edges: `map.entry(s).or_default().insert(t)`. -/
def normalize (edges : List (Nat × Nat)) : PMap :=
  edges.foldl (fun m e => mapInsert e.1 (setInsert e.2 ((mapLookup m e.1).getD [])) m) []

/-- Strictly ascending. -/
def Ascending (l : List Nat) : Prop := l.Pairwise (· < ·)

/-- The representation invariant of a `BTreeMap<_, BTreeSet<_>>`. -/
def Sorted (pm : PMap) : Prop :=
  Ascending (pm.map (·.1)) ∧ ∀ kv ∈ pm, Ascending kv.2

/-- `s ↦ {…, t, …}` is an entry of the map. -/
def Edge (pm : PMap) (s t : Nat) : Prop := ∃ ts, (s, ts) ∈ pm ∧ t ∈ ts

/-- Every temporary is a target of at most one source (the documented precondition of
    `parallel_moves`: "the `BTreeSet`s in `assignments` are pairwise disjoint"). -/
def Functional (pm : PMap) : Prop := ∀ s s' t, Edge pm s t → Edge pm s' t → s = s'

/-- executable `Ascending` -/
def isAscending : List Nat → Bool
  | [] => true
  | [_] => true
  | x :: y :: rest => x < y && isAscending (y :: rest)

/-- executable `Sorted` -/
def isSorted (pm : PMap) : Bool :=
  isAscending (pm.map (·.1)) && pm.all (fun kv => isAscending kv.2)

/-- all targets, with multiplicity -/
def allTargets (pm : PMap) : List Nat := pm.flatMap (·.2)

def hasDup : List Nat → Bool
  | [] => false
  | x :: xs => xs.contains x || hasDup xs

/-- executable `Functional` (for maps with duplicate-free keys and target lists) -/
def isFunctional (pm : PMap) : Bool := !hasDup (allTargets pm)

/-- The distinct temporaries occurring in the map (keys and targets). -/
def allNodes (pm : PMap) : List Nat := (pm.map (·.1) ++ allTargets pm).eraseDups

/-- Recursion depth that is enough for `spanningTree` on functional maps. -/
def fuelFor (pm : PMap) : Nat := (allNodes pm).length + 1

/-! ## parallel_moves.rs: trees -/

/-- parallel_moves.rs: enum Tree -/
inductive Tree where
  | backEdge
  | node (t : Nat) (kids : List Tree)
  deriving Repr, Inhabited

/-- parallel_moves.rs: enum Root -/
inductive Root where
  | startNode (t : Nat) (trees : List Tree)
  deriving Repr, Inhabited

mutual
/-- parallel_moves.rs: fn Tree::nodes -/
def Tree.nodes : Tree → List Nat
  | .backEdge => []
  | .node t kids => t :: nodesList kids
/-- the `for tree in trees { visited.extend(tree.nodes()) }` loop -/
def nodesList : List Tree → List Nat
  | [] => []
  | k :: ks => k.nodes ++ nodesList ks
end

mutual
/-- parallel_moves.rs: fn Tree::refers_back -/
def Tree.refersBack : Tree → Bool
  | .backEdge => true
  | .node _ kids => anyRefersBack kids
/-- `trees.iter().any(Tree::refers_back)` -/
def anyRefersBack : List Tree → Bool
  | [] => false
  | k :: ks => k.refersBack || anyRefersBack ks
end

/-- parallel_moves.rs: fn Root::visited_by -/
def Root.visitedBy : Root → List Nat
  | .startNode t trees => (if anyRefersBack trees then [t] else []) ++ nodesList trees

/-- parallel_moves.rs: fn delete_targets -/
def deleteTargets (toDelete : List Nat) (pm : PMap) : PMap :=
  pm.map (fun kv => (kv.1, kv.2.filter (fun t => !toDelete.contains t)))

/-- `iter.map(f).collect()` where `f` may run out of fuel -/
def optMap {α β : Type} (f : α → Option β) : List α → Option (List β)
  | [] => some []
  | x :: xs =>
    match f x with
    | none => none
    | some y =>
      match optMap f xs with
      | none => none
      | some ys => some (y :: ys)

/-- parallel_moves.rs: fn spanning_tree   (`none` = out of fuel) -/
def spanningTree (fuel : Nat) (pm : PMap) (root node : Nat) : Option Tree :=
  match fuel with
  | 0 => none
  | fuel + 1 =>
    if root == node then some .backEdge
    else
      match mapLookup pm node with
      | some targets =>
        match optMap (spanningTree fuel pm root) targets with
        | none => none
        | some kids => some (.node node kids)
      | none => some (.node node [])

/-- Outcome of the forest construction. -/
inductive Res (α : Type) where
  | ok (a : α)
  | outOfFuel
  | missingKey
  deriving Repr

/-- parallel_moves.rs: fn spanning_forest, the `for temporary in mappings.keys()` loop.
    `keys` are the remaining keys of the ORIGINAL map, `pm` is the mutated `parallel_moves`. -/
def spanningForestGo (fuel : Nat) : List Nat → PMap → Res (List Root)
  | [], _ => .ok []
  | temporary :: keys, pm =>
    match mapLookup pm temporary with
    | none => .missingKey
    | some ts =>
      -- let mut targets = parallel_moves[temporary].clone(); targets.remove(temporary);
      let targets := ts.filter (fun t => !(t == temporary))
      match optMap (spanningTree fuel pm temporary) targets with
      | none => .outOfFuel
      | some trees =>
        let root := Root.startNode temporary trees
        let pm' := deleteTargets root.visitedBy pm
        match spanningForestGo fuel keys pm' with
        | .ok roots => .ok (root :: roots)
        | .outOfFuel => .outOfFuel
        | .missingKey => .missingKey

/-- parallel_moves.rs: fn spanning_forest -/
def spanningForest (fuel : Nat) (pm : PMap) : Res (List Root) :=
  spanningForestGo fuel (pm.map (·.1)) pm

/-! ## parallel_moves.rs: emitted instructions -/

/-- Abstract instructions emitted by the generic part. -/
inductive AOp where
  | mov (t s : Nat)
  | save (s : Nat) (spill : Bool)
  | restore (t : Nat) (spill : Bool)
  | comment (msg : String)
  deriving Repr, DecidableEq, Inhabited

mutual
/-- parallel_moves.rs: fn tree_moves -/
def treeMoves (temporary : Nat) : Tree → Bool → List AOp
  | .backEdge, csm => [.save temporary csm]
  | .node target kids, csm => forestMoves target kids csm ++ [.mov target temporary]
/-- the `for tree in trees { tree_moves(parent, tree, ..) }` loop -/
def forestMoves (parent : Nat) : List Tree → Bool → List AOp
  | [], _ => []
  | k :: ks, csm => treeMoves parent k csm ++ forestMoves parent ks csm
end

/-- parallel_moves.rs: fn root_moves -/
def rootMoves (containsSpillEdge : Root → Bool) (root : Root) : List AOp :=
  let csm := containsSpillEdge root
  match root with
  | .startNode temporary trees =>
    forestMoves temporary trees csm ++
      (if anyRefersBack trees then [.restore temporary csm] else [])

def Root.trees : Root → List Tree
  | .startNode _ trees => trees

def Root.temp : Root → Nat
  | .startNode t _ => t

/-- parallel_moves.rs: fn parallel_moves, after the forest has been computed -/
def forestCode (containsSpillEdge : Root → Bool) (forest : List Root) : List AOp :=
  (if !forest.all (fun r => r.trees.isEmpty) then [AOp.comment "#move variables"] else []) ++
    forest.flatMap (rootMoves containsSpillEdge)

/-- parallel_moves.rs: fn parallel_moves, with explicit fuel -/
def parallelMovesFuel (fuel : Nat) (pm : PMap) (containsSpillEdge : Root → Bool) : Res (List AOp) :=
  match spanningForest fuel pm with
  | .ok forest => .ok (forestCode containsSpillEdge forest)
  | .outOfFuel => .outOfFuel
  | .missingKey => .missingKey

/-- parallel_moves.rs: fn parallel_moves -/
def parallelMoves (pm : PMap) (containsSpillEdge : Root → Bool) : Res (List AOp) :=
  parallelMovesFuel (fuelFor pm) pm containsSpillEdge

/-! ## Abstract semantics: a store `Nat → V` and one scratch cell -/

/-- store update -/
def upd {V : Type} (σ : Nat → V) (t : Nat) (v : V) : Nat → V :=
  fun x => if x = t then v else σ x

def step {V : Type} : AOp → (Nat → V) × V → (Nat → V) × V
  | .mov t s, (σ, sc) => (upd σ t (σ s), sc)
  | .save s _, (σ, _) => (σ, σ s)
  | .restore t _, (σ, sc) => (upd σ t sc, sc)
  | .comment _, st => st

def run {V : Type} : List AOp → (Nat → V) × V → (Nat → V) × V
  | [], st => st
  | op :: ops, st => run ops (step op st)

/-! ## substitution.rs -/

/-- axcut Chirality -/
inductive Chi where
  | prd | cns | ext
  deriving Repr, DecidableEq, Inhabited

/-- A typing context: bindings `(id, chi)`; position `i` owns temporaries `2i` and `2i+1`. -/
abbrev Ctx := List (Nat × Chi)

/-- `self.rearrange`: `((new id, new chi), old id)` -/
abbrev Rearrange := List ((Nat × Chi) × Nat)

/-- substitution.rs: fn transpose   (entries in context order, see the header) -/
def transpose (rearrange : Rearrange) (context : Ctx) : List ((Nat × Chi) × List Nat) :=
  context.map (fun binding =>
    (binding, (rearrange.filter (fun no => binding.1 == no.2)).map (fun no => no.1.1)))

/-- statements/substitute.rs: `new_context` -/
def newContext (rearrange : Rearrange) : Ctx := rearrange.map (·.1)

/-- `context.bindings.iter().position(|b| b.var.id == id)`; `none` is the panic -/
def getPosition : Ctx → Nat → Option Nat
  | [], _ => none
  | b :: rest, id => if b.1 == id then some 0 else (getPosition rest id).map (· + 1)

/-- utils.rs (all backends): fn variable_temporary.  `num` = 0 for `Fst`, 1 for `Snd`.
    `tfp` is the backend's `temporary_from_position` (position number ↦ temporary; `none` is the panic
    "Out of temporaries"); the generic theorems use `genericTemporary = some`, i.e. the temporary of
    `(position, num)` is the abstract number `2 * position + num`.
    `none` is also the panic "Variable not found in context". -/
def variableTemporary (tfp : Nat → Option Nat) (num : Nat) (context : Ctx) (id : Nat) : Option Nat :=
  match getPosition context id with
  | none => none
  | some p => tfp (2 * p + num)

/-- the identity placement: position `q` is temporary `q` -/
def genericTemporary : Nat → Option Nat := some

/-- substitution.rs: fn code_exchange::connections   (`none` = panic in `variable_temporary`) -/
def connections (tfp : Nat → Option Nat) (targetMap : List ((Nat × Chi) × List Nat))
    (context newContext : Ctx) : Option PMap :=
  let rec go : List ((Nat × Chi) × List Nat) → PMap → Option PMap
    | [], acc => some acc
    | (binding, targets) :: rest, acc =>
      if binding.2 == Chi.ext then
        match variableTemporary tfp 1 context binding.1,
              optMap (variableTemporary tfp 1 newContext) targets with
        | some s, some ts => go rest (mapInsert s (setOfList ts) acc)
        | _, _ => none
      else
        match variableTemporary tfp 0 context binding.1,
              optMap (variableTemporary tfp 0 newContext) targets,
              variableTemporary tfp 1 context binding.1,
              optMap (variableTemporary tfp 1 newContext) targets with
        | some s0, some ts0, some s1, some ts1 =>
          go rest (mapInsert s1 (setOfList ts1) (mapInsert s0 (setOfList ts0) acc))
        | _, _, _, _ => none
  go targetMap []

/-- Abstract reference-count instructions (stand for `Backend::erase_block` /
    `Backend::share_block_n` applied to the `Fst` temporary of an old binding). -/
inductive ROp where
  | erase (tFst : Nat)
  | share (tFst : Nat) (n : Nat)
  | comment (kind : Nat) (id : Nat)   -- kind 0: "#erase <var>", kind 1: "#share <var>"
  deriving Repr, DecidableEq, Inhabited

/-- substitution.rs: fn code_weakening_contraction::update_reference_count -/
def updateReferenceCount (tfp : Nat → Option Nat) (id : Nat) (context : Ctx) (newCount : Nat) :
    Option (List ROp) :=
  match variableTemporary tfp 0 context id with
  | none => none
  | some temporary =>
    match newCount with
    | 0 => some [.comment 0 id, .erase temporary]
    | 1 => some []
    | n + 2 => some [.comment 1 id, .share temporary (n + 1)]

/-- substitution.rs: fn code_weakening_contraction -/
def codeWeakeningContraction (tfp : Nat → Option Nat) (targetMap : List ((Nat × Chi) × List Nat))
    (context : Ctx) : Option (List ROp)
  := match targetMap with
  | [] => some []
  | (binding, targets) :: rest =>
    if binding.2 != Chi.ext then
      match updateReferenceCount tfp binding.1 context targets.length with
      | none => none
      | some ops =>
        match codeWeakeningContraction tfp rest context with
        | none => none
        | some more => some (ops ++ more)
    else codeWeakeningContraction tfp rest context

/-- Outcome of a whole `Substitute` statement (without the continuation). -/
inductive SubstRes where
  | ok (refcount : List ROp) (moves : List AOp)
  | panic
  | outOfFuel
  | missingKey
  deriving Repr

/-- statements/substitute.rs: fn code_statement for Substitute, up to `self.next` -/
def codeSubstitute (tfp : Nat → Option Nat) (rearrange : Rearrange) (context : Ctx)
    (containsSpillEdge : Root → Bool) : SubstRes :=
  let targetMap := transpose rearrange context
  let newCtx := newContext rearrange
  match codeWeakeningContraction tfp targetMap context with
  | none => .panic
  | some rc =>
    match connections tfp targetMap context newCtx with
    | none => .panic
    | some pm =>
      match parallelMoves pm containsSpillEdge with
      | .ok moves => .ok rc moves
      | .outOfFuel => .outOfFuel
      | .missingKey => .missingKey

/-! ## Line protocol -/

def AOp.render : AOp → String
  | .mov t s => s!"mov {t} {s}"
  | .save s b => s!"save {s} {if b then 1 else 0}"
  | .restore t b => s!"restore {t} {if b then 1 else 0}"
  | .comment m => s!"comment {m}"

def ROp.render : ROp → String
  | .erase t => s!"erase {t}"
  | .share t n => s!"share {t} {n}"
  | .comment 0 id => s!"comment #erase {id}"
  | .comment _ id => s!"comment #share {id}"

def parseNatList (s : String) : Option (List Nat) :=
  if s.isEmpty then some [] else optMap String.toNat? (s.splitOn ",")

/-- `<src>:<t1>,<t2>` -/
def parseEntry (s : String) : Option (Nat × List Nat) :=
  match s.splitOn ":" with
  | [a, b] =>
    match a.toNat?, parseNatList b with
    | some src, some ts => some (src, ts)
    | _, _ => none
  | _ => none

/-- Insert the entries the way the Rust test driver builds its `BTreeMap`:
    `map.entry(src).or_default()` then one `insert` per target. -/
def pmapOfEntries (es : List (Nat × List Nat)) : PMap :=
  es.foldl (fun m e =>
    mapInsert e.1 (e.2.foldl (fun acc t => setInsert t acc) ((mapLookup m e.1).getD [])) m) []

def parsePMap (s : String) : Option PMap :=
  if s.isEmpty then some [] else
  match optMap parseEntry (s.splitOn ";") with
  | none => none
  | some es => some (pmapOfEntries es)

def parseChi (s : String) : Option Chi :=
  if s == "p" then some .prd else if s == "c" then some .cns else if s == "e" then some .ext else none

/-- `<id>:<k>` -/
def parseBinding (s : String) : Option (Nat × Chi) :=
  match s.splitOn ":" with
  | [a, b] =>
    match a.toNat?, parseChi b with
    | some id, some k => some (id, k)
    | _, _ => none
  | _ => none

/-- `<newid>:<k>=<oldid>` -/
def parseRearrangeEntry (s : String) : Option ((Nat × Chi) × Nat) :=
  match s.splitOn "=" with
  | [a, b] =>
    match parseBinding a, b.toNat? with
    | some nb, some old => some (nb, old)
    | _, _ => none
  | _ => none

def parseCommaList {α : Type} (f : String → Option α) (s : String) : Option (List α) :=
  if s.isEmpty then some [] else optMap f (s.splitOn ",")

def renderRes (r : Res (List AOp)) : String :=
  match r with
  | .ok ops => "|".intercalate (ops.map AOp.render)
  | .outOfFuel => "outOfFuel"
  | .missingKey => "missingKey"

def handlePm (arg : String) : String :=
  match parsePMap arg with
  | none => "error"
  | some pm => renderRes (parallelMoves pm (fun _ => false))

/-- `<ctx> -> <rearrange>` -/
def parseSubst (arg : String) : Option (Ctx × Rearrange) :=
  match arg.splitOn "->" with
  | [c, r] =>
    match parseCommaList parseBinding c.trimAscii.toString,
          parseCommaList parseRearrangeEntry r.trimAscii.toString with
    | some ctx, some re => some (ctx, re)
    | _, _ => none
  | _ => none

def handleSubst (arg : String) : String :=
  match parseSubst arg with
  | some (ctx, re) =>
    match codeSubstitute genericTemporary re ctx (fun _ => false) with
    | .ok rc mv => "|".intercalate (rc.map ROp.render ++ mv.map AOp.render)
    | .panic => "panic"
    | .outOfFuel => "outOfFuel"
    | .missingKey => "missingKey"
  | none => "error"

/-- split a request into its command word and the rest -/
def splitCommand (line : String) : String × String :=
  match line.trimAscii.toString.splitOn " " with
  | [] => ("", "")
  | cmd :: rest => (cmd, (" ".intercalate rest).trimAscii.toString)

/-- The pure request handler of the line protocol described in the file header. -/
def handleLine (line : String) : String :=
  let (cmd, arg) := splitCommand line
  if cmd == "pm" then handlePm arg
  else if cmd == "subst" then handleSubst arg
  else "error"

end Scc.PMoves
