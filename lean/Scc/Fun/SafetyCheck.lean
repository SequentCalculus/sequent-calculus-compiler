/-
  Scc.Fun.SafetyCheck — the checker's OUTPUT is `ATyped` (Scc/Fun/SafetyTyping.lean): every node
  of a checked term carries the annotations the abstract machine reads, and they are the types of the
  declarative typing.  At the level of terms this is a part of `checkTerm_sound`
  (Scc/Fun/CheckSound5.lean); here the program level: an accepted program and its source satisfy `AWT`
  (`checkProgram_AWT`).
-/
import Scc.Fun.SafetyLemmas
import Scc.Fun.CheckSound6

namespace Scc.Fun.Check
open Scc.Fun.Typing Scc.Fun.Safety

def AQ (p : Program) : Ctx → Ty → Term → Prop := fun Γ τ t' => ATyped p Γ t' τ

theorem checkTerm_soundA {p : Program} (ok : DeclsOk p) (hp : programNamesOk p = true) (t : Term)
    (hn : termNamesOk t = true) : SoundK p (AQ p) (checkTerm t) :=
  (checkTerm_sound ok hp t hn).mono fun _ _ _ h => h.2.2

theorem checkArgs_soundA {p : Program} (ok : DeclsOk p) (hp : programNamesOk p = true) :
    ∀ (ts : Terms) (bs : List Binding) (st : SymbolTable) (Γ : Ctx) (ts' : Terms)
      (st' : SymbolTable), argsNamesOk ts = true → Inv p st → ctxNamesOk Γ = true →
      ctxNamesOk bs = true → bs.length = termsLength ts → checkArgs ts bs st Γ = .ok (ts', st') →
      Inv p st' ∧ Ext st st' ∧ AArgs p Γ ts' bs := by
  intro ts bs st Γ ts' st' hn inv hΓ hbs hlen h
  obtain ⟨inv1, ext1, _, _, ha⟩ := checkArgs_sound ok hp ts bs st Γ ts' st' hn inv hΓ hbs hlen h
  exact ⟨inv1, ext1, ha⟩

theorem clauseCheckers_soundA {p : Program} (ok : DeclsOk p) (hp : programNamesOk p = true) :
    ∀ (cs : Clauses), clausesNamesOk cs = true →
    ∀ k ∈ clauseCheckers cs, SoundK p (AQ p) k.body :=
  fun cs hn k hk => ((clauseCheckers_sound ok hp cs hn).2 k hk).mono fun _ _ _ h => h.2.2

theorem checkDef_soundA {p : Program} (ok : DeclsOk p) (hp : programNamesOk p = true)
    {f f' : Def} {st st' : SymbolTable} (hf : f ∈ defs p) (inv : Inv p st)
    (h : checkDef f st = .ok (f', st')) :
    Inv p st' ∧ Ext st st' ∧ f'.name = f.name ∧ f'.ctx = f.ctx ∧ f'.retTy = f.retTy ∧
      ATyped p f.ctx f'.body f.retTy := by
  obtain ⟨g1, g2, g3⟩ := def_namesOk hp hf
  simp only [checkDef] at h
  split at h
  · cases h
  · rename_i h1
    split at h
    · cases h
    · rename_i st1 h2
      split at h
      · cases h
      · rename_i st2 h3
        split at h
        · cases h
        · rename_i body' st3 h4
          cases h
          obtain ⟨inv1, ext1, _⟩ := ctxCheck_sound ok hp f.ctx st st1 inv g1 h2
          obtain ⟨inv2, ext2, _, _⟩ := checkTy_sound ok hp f.retTy st1 st2 inv1 g2 h3
          obtain ⟨inv3, ext3, hty⟩ :=
            checkTerm_soundA ok hp f.body g3 st2 f.ctx f.retTy body' st' inv2 g1 g2 h4
          exact ⟨inv3, (ext1.trans ext2).trans ext3, rfl, rfl, rfl, hty⟩

/-- the checked definitions against the source definitions, in order -/
def DefsA (p : Program) : List Def → List Def → Prop
  | [], [] => True
  | d' :: r', d :: r => (d'.name = d.name ∧ d'.ctx = d.ctx ∧ d'.retTy = d.retTy ∧
      ATyped p d.ctx d'.body d.retTy) ∧ DefsA p r' r
  | _, _ => False

theorem checkDefs_soundA {p : Program} (ok : DeclsOk p) (hp : programNamesOk p = true) :
    ∀ (fs fs' : List Def) (st st' : SymbolTable), (∀ f ∈ fs, f ∈ defs p) → Inv p st →
    checkDefs fs st = .ok (fs', st') → Inv p st' ∧ Ext st st' ∧ DefsA p fs' fs
  | [], fs', st, st', _, inv, h => by
    simp only [checkDefs] at h; cases h
    exact ⟨inv, Ext.refl _, trivial⟩
  | f :: r, fs', st, st', hsub, inv, h => by
    simp only [checkDefs] at h
    split at h
    · cases h
    · rename_i f1 st1 h1
      split at h
      · cases h
      · rename_i r1 st2 h2
        cases h
        obtain ⟨inv1, ext1, e⟩ := checkDef_soundA ok hp (hsub f (by simp)) inv h1
        obtain ⟨inv2, ext2, es⟩ := checkDefs_soundA ok hp r r1 st1 st'
          (fun x hx => hsub x (by simp [hx])) inv1 h2
        exact ⟨inv2, ext1.trans ext2, e, es⟩

theorem DefsA.find {p : Program} : ∀ (fs' fs : List Def), DefsA p fs' fs → (fs.map (·.name)).Nodup →
    ∀ d ∈ fs, ∃ d', fs'.find? (fun x => x.name == d.name) = some d' ∧ d'.ctx = d.ctx ∧
      d'.retTy = d.retTy ∧ ATyped p d.ctx d'.body d.retTy
  | [], [], _, _, d, hd => by cases hd
  | [], _ :: _, h, _, _, _ => by cases h
  | _ :: _, [], h, _, _, _ => by cases h
  | d0' :: r', d0 :: r, h, hn, d, hd => by
    obtain ⟨⟨e1, e2, e3, e4⟩, hr⟩ := h
    simp only [List.map_cons, List.nodup_cons] at hn
    rcases List.mem_cons.mp hd with rfl | hd
    · exact ⟨d0', by simp [List.find?, e1], e2, e3, e4⟩
    · have hne : (d0'.name == d.name) = false := by
        simp only [beq_eq_false_iff_ne, ne_eq, e1]
        intro e
        exact hn.1 (List.mem_map.mpr ⟨d, hd, e.symm⟩)
      obtain ⟨d', h1, h2⟩ := DefsA.find r' r hr hn.2 d hd
      exact ⟨d', by simp [List.find?, hne, h1], h2⟩

theorem DefsA.back {p : Program} : ∀ (fs' fs : List Def), DefsA p fs' fs →
    ∀ d' ∈ fs', ∃ d ∈ fs, d.name = d'.name
  | [], [], _, d', hd => by cases hd
  | [], _ :: _, h, _, _ => by cases h
  | _ :: _, [], h, _, _ => by cases h
  | d0' :: r', d0 :: r, h, d', hd => by
    obtain ⟨⟨e1, _⟩, hr⟩ := h
    rcases List.mem_cons.mp hd with rfl | hd
    · exact ⟨d0, by simp, e1.symm⟩
    · obtain ⟨d, h1, h2⟩ := DefsA.back r' r hr d' hd
      exact ⟨d, by simp [h1], h2⟩

theorem DefsA.names {p : Program} : ∀ (fs' fs : List Def), DefsA p fs' fs →
    fs'.map (·.name) = fs.map (·.name)
  | [], [], _ => rfl
  | [], _ :: _, h => by cases h
  | _ :: _, [], h => by cases h
  | d0' :: r', d0 :: r, h => by
    obtain ⟨⟨e1, _⟩, hr⟩ := h
    simp only [List.map_cons, e1, DefsA.names r' r hr]

theorem DefsA.typed {p : Program} : ∀ (fs' fs : List Def), DefsA p fs' fs →
    ∀ d' ∈ fs', ∃ d ∈ fs, d'.ctx = d.ctx ∧ d'.retTy = d.retTy ∧ ATyped p d.ctx d'.body d.retTy
  | [], [], _, d', hd => by cases hd
  | [], _ :: _, h, _, _ => by cases h
  | _ :: _, [], h, _, _ => by cases h
  | d0' :: r', d0 :: r, h, d', hd => by
    obtain ⟨⟨_, e2, e3, e4⟩, hr⟩ := h
    rcases List.mem_cons.mp hd with rfl | hd
    · exact ⟨d0, by simp, e2, e3, e4⟩
    · obtain ⟨d, h1, h2⟩ := DefsA.typed r' r hr d' hd
      exact ⟨d, by simp [h1], h2⟩

mutual
  theorem wfTy_namesOk {p : Program} (hp : programNamesOk p = true) : ∀ {τ : Ty}, WfTy p τ →
      tyNamesOk τ = true
    | _, .i64 => rfl
    | _, .data d args hd _ ha => by
      simp [tyNamesOk, (data_namesOk hp hd).1, wfTys_namesOk hp ha]
    | _, .codata d args hd _ ha => by
      simp [tyNamesOk, (codata_namesOk hp hd).1, wfTys_namesOk hp ha]
  theorem wfTys_namesOk {p : Program} (hp : programNamesOk p = true) : ∀ {ts : Tys}, WfTys p ts →
      tysNamesOk ts = true
    | _, .nil => rfl
    | _, .cons h r => by simp [tysNamesOk, wfTy_namesOk hp h, wfTys_namesOk hp r]
end

mutual
  theorem tyName_toList : ∀ (τ : Ty) (fuel : Nat), tyDepth τ ≤ fuel →
      (tyName fuel τ).toList = printTyC τ
    | .i64, fuel, h => by
      cases fuel with
      | zero => simp [tyDepth] at h
      | succ f => simp [tyName, printTyC]
    | .decl n .nil, fuel, h => by
      cases fuel with
      | zero => simp [tyDepth] at h
      | succ f => simp [tyName, Tys.toList, printTyC, printTyArgsC]
    | .decl n (.cons t r), fuel, h => by
      cases fuel with
      | zero => simp [tyDepth] at h
      | succ f =>
        have h' : tyDepth.go (.cons t r) ≤ f := by simp [tyDepth] at h; omega
        have := tysName_toList (.cons t r) f h' (by simp)
        simp only [Tys.toList, List.map_cons] at this
        simp only [tyName, Tys.toList, List.map_cons, String.toList_append, printTyC, printTyArgsC]
        rw [← this]
        simp [-String.toList_intercalate]
  theorem tysName_toList : ∀ (ts : Tys) (fuel : Nat), tyDepth.go ts ≤ fuel → ts ≠ .nil →
      (", ".intercalate (ts.toList.map (tyName fuel))).toList ++ [']'] =
        (match ts with | .nil => [] | .cons t r => printTyC t ++ printTysTailC r)
    | .nil, _, _, h => absurd rfl h
    | .cons t .nil, fuel, h, _ => by
      have ht : tyDepth t ≤ fuel := by
        simp only [tyDepth.go] at h
        exact Nat.le_trans (Nat.le_max_left _ _) h
      simp [Tys.toList, printTysTailC, tyName_toList t fuel ht]
    | .cons t (.cons u r), fuel, h, _ => by
      have ht : tyDepth t ≤ fuel := by
        simp only [tyDepth.go] at h
        exact Nat.le_trans (Nat.le_max_left _ _) h
      have hr : tyDepth.go (.cons u r) ≤ fuel := by
        simp only [tyDepth.go] at h ⊢
        exact Nat.le_trans (Nat.le_max_right _ _) h
      have ih := tysName_toList (.cons u r) fuel hr (by simp)
      simp only [Tys.toList, List.map_cons] at ih
      simp only [Tys.toList, List.map_cons, String.intercalate_cons_cons, String.toList_append,
        tyName_toList t fuel ht, List.append_assoc, ih, printTysTailC]
      simp
end

theorem tyName_eq_instName (n : String) (a : Tys) :
    tyName (tyDepth (.decl n a) + 1) (.decl n a) = instName n a := by
  apply String.toList_inj.mp
  rw [tyName_toList _ _ (Nat.le_succ _)]
  simp [instName, printTyArgs, printTyC, String.toList_append]

/-- the machine's test `isCodataTy` is sound on well-formed types: a type it takes for a codata
type is an instance of a codata declaration of the source -/
theorem isCodataTy_sound {p : Program} {p' : CheckedProgram} (ok : DeclsOk p)
    (hp : programNamesOk p = true) (hi : InstancesOf printTyArgs p p') {τ : Ty} (hw : WfTy p τ)
    (h : isCodataTy p' τ = true) : ∃ d ∈ codatas p, ∃ targs, τ = .decl d.name targs := by
  cases τ with
  | i64 => simp [isCodataTy] at h
  | decl n a =>
    rcases wfTy_decl_inv hw with ⟨d, hd, rfl, _⟩ | ⟨d, hd, rfl, _⟩
    · exfalso
      simp only [isCodataTy, tyName_eq_instName, List.any_eq_true, beq_iff_eq] at h
      obtain ⟨d', hd', hn⟩ := h
      obtain ⟨cd, hcd, ta, hta, _, hname, _⟩ := hi.2 d' hd'
      have hna := wfTy_namesOk hp hw
      simp only [tyNamesOk, Bool.and_eq_true] at hna
      have : instName cd.name ta = instName d.name a := by
        rw [← hn, hname]; rfl
      obtain ⟨e, _⟩ := instName_inj (codata_namesOk hp hcd).1 hna.1 (wfTys_namesOk hp hta) hna.2 this
      exact data_codata_disjoint ok hd hcd e.symm
    · exact ⟨d, hd, a, rfl⟩

/-- an accepted program and its source satisfy the hypotheses of the type-safety proof -/
theorem checkProgramR_AWT {p : Program} {p' : CheckedProgram} (hp : programNamesOk p = true)
    (h : checkProgramR p = .ok p') : AWT p p' := by
  obtain ⟨wt, _, hinst, _⟩ := checkProgramR_sound hp h
  have ok := wt.decls
  have hdefs : DefsA p p'.defs (defs p) := by
    simp only [checkProgramR] at h
    split at h
    · cases h
    · rename_i st0 hb
      simp only [buildSymbolTable] at hb
      split at hb
      · cases hb
      · rename_i st0' hbuild
        split at hb
        · cases hb
        · rename_i hparams
          cases hb
          have b : Built st0 p.decls := by
            simpa using buildDecls_ok p.decls [] {} st0 built_empty hbuild
          simp only [checkWithTable] at h
          split at h
          · cases h
          · rename_i fs hdecls
            split at h
            · cases h
            · rename_i fs' st1 hdefs
              split at h
              · cases h
              · rename_i ds cs hcollect
                cases h
                obtain ⟨_, rfl⟩ := declsOk_of_checks b hparams hdecls
                exact (checkDefs_soundA ok hp (defs p) fs' st0 st1 (fun f hf => hf)
                  (built_inv b) hdefs).2.2
  refine ⟨ok, fun τ hw hc => isCodataTy_sound ok hp hinst hw hc, ?_, ?_, ?_, ?_⟩
  · intro d hd
    exact DefsA.find _ _ hdefs ok.defNamesNodup d hd
  · intro d' hd'
    exact DefsA.back _ _ hdefs d' hd'
  · rw [DefsA.names _ _ hdefs]
    exact ok.defNamesNodup
  · intro d' hd'
    obtain ⟨d, hd, e1, e2, e3⟩ := DefsA.typed _ _ hdefs d' hd'
    have dok := wt.defs d hd
    rw [e1, e2]
    exact ⟨dok.params, dok.paramTys, dok.retTy, e3⟩

theorem checkProgram_AWT {p : Program} {p' : CheckedProgram} (hp : programNamesOk p = true)
    (h : checkProgram p = .ok p') : AWT p p' :=
  checkProgramR_AWT hp (checkProgram_ok_iff.mp h)

end Scc.Fun.Check
