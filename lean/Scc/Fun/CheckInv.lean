/-
  Scc.Fun.CheckInv — inversion lemmas for the checker model: what a successful run of
  `checkTerm` / `checkArgs` / `checkEquality` / .. consists of.  Used by the proofs of C15.
-/
import Scc.Fun.CheckLemmas

namespace Scc.Fun.Check

mutual
  theorem Ty.beq_iff : ∀ (a b : Ty), Ty.beq a b = true ↔ a = b
    | .i64, .i64 => by simp [Ty.beq]
    | .i64, .decl _ _ => by simp [Ty.beq]
    | .decl _ _, .i64 => by simp [Ty.beq]
    | .decl n a, .decl m b => by
      simp only [Ty.beq, Bool.and_eq_true, beq_iff_eq, Tys.beq_iff a b, Ty.decl.injEq]
  theorem Tys.beq_iff : ∀ (a b : Tys), Tys.beq a b = true ↔ a = b
    | .nil, .nil => by simp [Tys.beq]
    | .nil, .cons _ _ => by simp [Tys.beq]
    | .cons _ _, .nil => by simp [Tys.beq]
    | .cons t r, .cons u s => by
      simp only [Tys.beq, Bool.and_eq_true, Ty.beq_iff t u, Tys.beq_iff r s, Tys.cons.injEq]
end

theorem Ty.not_bne_iff (a b : Ty) : ¬ ((a != b) = true) ↔ a = b := by
  have : (a == b) = Ty.beq a b := rfl
  simp [bne, this, ← Ty.beq_iff]

/-- `inv_split h` splits every `match` / `if` of the hypothesis `h : … = .ok …` and closes the branches in which
`h` equates different constructors -/
macro "inv_split" h:ident : tactic =>
  `(tactic| ((repeat' split at $h:ident) <;> (try (cases $h:ident; done))))

theorem eq_nil_of_not_not_isEmpty {α : Type} {l : List α} (h : ¬ (!l.isEmpty) = true) : l = [] := by
  cases l <;> simp_all

theorem checkEquality_ok {st e g st'} (h : checkEquality st e g = .ok st') :
    ∃ st1, checkTy e st = .ok st1 ∧ checkTy g st1 = .ok st' ∧ e = g := by
  simp only [checkEquality] at h
  inv_split h
  cases h
  exact ⟨_, ‹_›, ‹_›, (Ty.not_bne_iff _ _).mp ‹_›⟩

theorem checkAnnot_ok {st ty found st'} (h : checkAnnot st ty found = .ok st') :
    (ty = none ∧ st' = st) ∨ ∃ t, ty = some t ∧ checkEquality st t found = .ok st' := by
  cases ty with
  | none => simp only [checkAnnot] at h; cases h; exact .inl ⟨rfl, rfl⟩
  | some t => exact .inr ⟨t, rfl, h⟩

theorem checkCovarArg_ok {st Γ x ty chi bty t' st'}
    (h : checkCovarArg st Γ x ty chi bty = .ok (t', st')) :
    ¬ (chi == some Chi.prd) = true ∧ ∃ found st1, lookupCovar Γ x = .ok found ∧
      checkAnnot st ty found = .ok st1 ∧ checkEquality st1 bty found = .ok st' ∧
      t' = .var x (some found) (some .cns) := by
  simp only [checkCovarArg] at h
  inv_split h
  cases h
  exact ⟨‹_›, _, _, ‹_›, ‹_›, ‹_›, rfl⟩

theorem resolveXtorTy_ok {pol st xtor tyArgs r st'}
    (h : resolveXtorTy pol st xtor tyArgs = .ok (r, st')) :
    (lookupTyForXtor pol st.types (instName xtor tyArgs) = some r ∧ st' = st) ∨
    (lookupTyForXtor pol st.types (instName xtor tyArgs) = none ∧
      ∃ name xtors, findTemplateForXtor pol st.typeTemplates xtor = some (name, xtors) ∧
        checkTy (.decl name tyArgs) st = .ok st' ∧ r = (.decl name tyArgs, xtors)) := by
  simp only [resolveXtorTy] at h
  split at h
  · cases h; exact .inl ⟨‹_›, rfl⟩
  · refine .inr ⟨‹_›, ?_⟩
    simp only [lookupTyTemplateForXtor] at h
    inv_split h
    cases h
    exact ⟨_, _, ‹_›, ‹_›, rfl⟩

theorem checkTerm_var_ok {x ty chi} {st Γ τ t' st'}
    (h : checkTerm (.var x ty chi) st Γ τ = .ok (t', st')) :
    ¬ (chi == some Chi.cns) = true ∧ ∃ found st1, lookupVar Γ x = .ok found ∧
      checkAnnot st ty found = .ok st1 ∧
      checkEquality st1 τ found = .ok st' ∧ t' = .var x (some τ) (some .prd) := by
  simp only [checkTerm] at h
  inv_split h
  cases h
  exact ⟨‹_›, _, _, ‹_›, ‹_›, ‹_›, rfl⟩

theorem checkTerm_lit_ok {n} {st Γ τ t' st'} (h : checkTerm (.lit n) st Γ τ = .ok (t', st')) :
    checkEquality st τ .i64 = .ok st' ∧ t' = .lit n := by
  simp only [checkTerm] at h
  inv_split h
  cases h
  exact ⟨‹_›, rfl⟩

theorem checkTerm_op_ok {a b : Term} {o st Γ τ t' st'}
    (h : checkTerm (.op a o b) st Γ τ = .ok (t', st')) :
    ∃ st1 a' st2 b', checkEquality st .i64 τ = .ok st1 ∧ checkTerm a st1 Γ .i64 = .ok (a', st2) ∧
      checkTerm b st2 Γ .i64 = .ok (b', st') ∧ t' = .op a' o b' := by
  simp only [checkTerm] at h
  inv_split h
  cases h
  exact ⟨_, _, _, _, ‹_›, ‹_›, ‹_›, rfl⟩

theorem checkTerm_ifc_ok {s} {a b t e : Term} {an st Γ τ t' st'}
    (h : checkTerm (.ifc s a b t e an) st Γ τ = .ok (t', st')) :
    ∃ a' st1 b' st2 th' st3 e', checkTerm a st Γ .i64 = .ok (a', st1) ∧
      checkTerm b st1 Γ .i64 = .ok (b', st2) ∧ checkTerm t st2 Γ τ = .ok (th', st3) ∧
      checkTerm e st3 Γ τ = .ok (e', st') ∧ t' = .ifc s a' b' th' e' (some τ) := by
  simp only [checkTerm] at h
  inv_split h
  cases h
  exact ⟨_, _, _, _, _, _, _, ‹_›, ‹_›, ‹_›, ‹_›, rfl⟩

theorem checkTerm_ifz_ok {s} {a t e : Term} {an st Γ τ t' st'}
    (h : checkTerm (.ifz s a t e an) st Γ τ = .ok (t', st')) :
    ∃ a' st1 th' st3 e', checkTerm a st Γ .i64 = .ok (a', st1) ∧
      checkTerm t st1 Γ τ = .ok (th', st3) ∧
      checkTerm e st3 Γ τ = .ok (e', st') ∧ t' = .ifz s a' th' e' (some τ) := by
  simp only [checkTerm] at h
  inv_split h
  cases h
  exact ⟨_, _, _, _, _, ‹_›, ‹_›, ‹_›, rfl⟩

theorem checkTerm_print_ok {nl} {a n : Term} {an st Γ τ t' st'}
    (h : checkTerm (.print nl a n an) st Γ τ = .ok (t', st')) :
    ∃ a' st1 n', checkTerm a st Γ .i64 = .ok (a', st1) ∧
      checkTerm n st1 Γ τ = .ok (n', st') ∧ t' = .print nl a' n' (some τ) := by
  simp only [checkTerm] at h
  inv_split h
  cases h
  exact ⟨_, _, _, ‹_›, ‹_›, rfl⟩

theorem checkTerm_letIn_ok {x σ} {bound body : Term} {an st Γ τ t' st'}
    (h : checkTerm (.letIn x σ bound body an) st Γ τ = .ok (t', st')) :
    ∃ st1 bound' st2 body', checkTy σ st = .ok st1 ∧ checkTerm bound st1 Γ σ = .ok (bound', st2) ∧
      checkTerm body st2 (Γ ++ [⟨x, .prd, σ⟩]) τ = .ok (body', st') ∧
      t' = .letIn x σ bound' body' (some τ) := by
  simp only [checkTerm] at h
  inv_split h
  cases h
  exact ⟨_, _, _, _, ‹_›, ‹_›, ‹_›, rfl⟩

theorem checkTerm_call_ok {f args an st Γ τ t' st'}
    (h : checkTerm (.call f args an) st Γ τ = .ok (t', st')) :
    ∃ types retTy st1 args', st.defs.get? f = some (types, retTy) ∧
      checkEquality st τ retTy = .ok st1 ∧ ¬ (types.length != termsLength args) = true ∧
      checkArgs args types st1 Γ = .ok (args', st') ∧ t' = .call f args' (some τ) := by
  simp only [checkTerm] at h
  inv_split h
  cases h
  exact ⟨_, _, _, _, ‹_›, ‹_›, ‹_›, ‹_›, rfl⟩

theorem checkTerm_ctor_ok {id args an st Γ τ t' st'}
    (h : checkTerm (.ctor id args an) st Γ τ = .ok (t', st')) :
    ∃ name tyArgs types ty xs args' st1, τ = .decl name tyArgs ∧
      st.ctors.get? (instName id tyArgs) = some types ∧
      lookupTyForXtor .data st.types (instName id tyArgs) = some (ty, xs) ∧
      ¬ (types.length != termsLength args) = true ∧
      checkArgs args types st Γ = .ok (args', st1) ∧ checkEquality st1 τ ty = .ok st' ∧
      t' = .ctor id args' (some τ) := by
  simp only [checkTerm] at h
  inv_split h
  cases h
  exact ⟨_, _, _, _, _, _, _, rfl, ‹_›, ‹_›, ‹_›, ‹_›, ‹_›, rfl⟩

theorem checkTerm_dtor_ok {scrut id tyArgs args an st Γ τ t' st'}
    (h : checkTerm (.dtor scrut id tyArgs args an) st Γ τ = .ok (t', st')) :
    ∃ ty xs st1 scrut' st2 types retTy args' st3,
      resolveXtorTy .codata st id tyArgs = .ok ((ty, xs), st1) ∧
      checkTerm scrut st1 Γ ty = .ok (scrut', st2) ∧
      st2.dtors.get? (instName id tyArgs) = some (types, retTy) ∧
      ¬ (types.length != termsLength args) = true ∧
      checkArgs args types st2 Γ = .ok (args', st3) ∧ checkEquality st3 τ retTy = .ok st' ∧
      t' = .dtor scrut' id tyArgs args' (some τ) := by
  simp only [checkTerm] at h
  inv_split h
  cases h
  exact ⟨_, _, _, _, _, _, _, _, _, ‹_›, ‹_›, ‹_›, ‹_›, ‹_›, ‹_›, rfl⟩

theorem checkTerm_case_ok {scrut tyArgs cs an st Γ τ t' st'}
    (h : checkTerm (.case scrut tyArgs cs an) st Γ τ = .ok (t', st')) :
    ∃ pol0 xtor0 ns0 c0 b0 r0 ty expectedCtors st1 scrut' st2 newClauses,
      cs = .cons pol0 xtor0 ns0 c0 b0 r0 ∧
      resolveXtorTy .data st xtor0 tyArgs = .ok ((ty, expectedCtors), st1) ∧
      checkTerm scrut st1 Γ ty = .ok (scrut', st2) ∧
      clauseLoop (fun s n => (s.ctors.get? n).map fun sig => (sig, τ)) "T-015" false tyArgs Γ
        expectedCtors (clauseCheckers cs) [] st2 = .ok (newClauses, [], st') ∧
      t' = .case scrut' tyArgs (Clauses.ofList newClauses) (some τ) := by
  simp only [checkTerm] at h
  inv_split h
  cases h
  have := eq_nil_of_not_not_isEmpty ‹¬ _›
  subst this
  exact ⟨_, _, _, _, _, _, _, _, _, _, _, _, rfl, ‹_›, ‹_›, ‹_›, rfl⟩

theorem checkTerm_new_ok {cs an st Γ τ t' st'}
    (h : checkTerm (.new cs an) st Γ τ = .ok (t', st')) :
    ∃ name tyArgs ta expectedDtors newClauses, τ = .decl name tyArgs ∧
      st.types.get? (instName name tyArgs) = some (.codata, ta, expectedDtors) ∧
      clauseLoop (fun s n => s.dtors.get? n) "T-010" true tyArgs Γ expectedDtors (clauseCheckers cs) [] st
        = .ok (newClauses, [], st') ∧
      t' = .new (Clauses.ofList newClauses) (some τ) := by
  simp only [checkTerm] at h
  inv_split h
  cases h
  have := eq_nil_of_not_not_isEmpty ‹¬ _›
  subst this
  exact ⟨_, _, _, _, _, rfl, ‹_›, ‹_›, rfl⟩

theorem checkTerm_label_ok {a} {body : Term} {an st Γ τ t' st'}
    (h : checkTerm (.label a body an) st Γ τ = .ok (t', st')) :
    ∃ body', checkTerm body st (Γ ++ [⟨a, .cns, τ⟩]) τ = .ok (body', st') ∧
      t' = .label a body' (some τ) := by
  simp only [checkTerm] at h
  inv_split h
  cases h
  exact ⟨_, ‹_›, rfl⟩

theorem checkTerm_goto_ok {a} {arg : Term} {an st Γ τ t' st'}
    (h : checkTerm (.goto a arg an) st Γ τ = .ok (t', st')) :
    ∃ contTy st0 arg', lookupCovar Γ a = .ok contTy ∧ checkTy contTy st = .ok st0 ∧
      checkTerm arg st0 Γ contTy = .ok (arg', st') ∧ t' = .goto a arg' (some τ) := by
  simp only [checkTerm] at h
  inv_split h
  cases h
  exact ⟨_, _, _, ‹_›, ‹_›, ‹_›, rfl⟩

theorem checkTerm_exit_ok {arg : Term} {an st Γ τ t' st'}
    (h : checkTerm (.exit arg an) st Γ τ = .ok (t', st')) :
    ∃ arg', checkTerm arg st Γ .i64 = .ok (arg', st') ∧ t' = .exit arg' (some τ) := by
  simp only [checkTerm] at h
  inv_split h
  cases h
  exact ⟨_, ‹_›, rfl⟩

theorem checkTerm_paren_ok {inner : Term} {st Γ τ t' st'}
    (h : checkTerm (.paren inner) st Γ τ = .ok (t', st')) :
    ∃ inner', checkTerm inner st Γ τ = .ok (inner', st') ∧ t' = .paren inner' := by
  simp only [checkTerm] at h
  inv_split h
  cases h
  exact ⟨_, ‹_›, rfl⟩

theorem checkArgs_nil_ok {bs st Γ ts' st'} (h : checkArgs .nil bs st Γ = .ok (ts', st')) :
    ts' = .nil ∧ st' = st := by
  simp only [checkArgs] at h
  cases h; exact ⟨rfl, rfl⟩

theorem checkArgs_cons_nil_ok {t ts st Γ ts' st'} (h : checkArgs (.cons t ts) [] st Γ = .ok (ts', st')) :
    ts' = .nil ∧ st' = st := by
  simp only [checkArgs] at h
  cases h; exact ⟨rfl, rfl⟩

theorem checkArgs_cons_prd_ok {t ts} {b : Binding} {bs st Γ ts' st'} (hb : b.chi = .prd)
    (h : checkArgs (.cons t ts) (b :: bs) st Γ = .ok (ts', st')) :
    ∃ st1 t' st2 rest', checkTy b.ty st = .ok st1 ∧ checkTerm t st1 Γ b.ty = .ok (t', st2) ∧
      checkArgs ts bs st2 Γ = .ok (rest', st') ∧ ts' = .cons t' rest' := by
  simp only [checkArgs, hb] at h
  have hc : (Chi.prd == Chi.cns) = false := by decide
  simp only [hc, Bool.false_eq_true, if_false] at h
  split at h
  · cases h
  · rename_i heq
    split at h
    · cases h
    · rename_i heq2
      cases h
      split at heq
      · cases heq
      · exact ⟨_, _, _, _, ‹_›, heq, heq2, rfl⟩

theorem checkArgs_cons_cns_ok {t ts} {b : Binding} {bs st Γ ts' st'} (hb : b.chi = .cns)
    (h : checkArgs (.cons t ts) (b :: bs) st Γ = .ok (ts', st')) :
    ∃ x ty chi t' st2 rest', t = .var x ty chi ∧
      checkCovarArg st Γ x ty chi b.ty = .ok (t', st2) ∧
      checkArgs ts bs st2 Γ = .ok (rest', st') ∧ ts' = .cons t' rest' := by
  simp only [checkArgs, hb] at h
  have hc : (Chi.cns == Chi.cns) = true := by decide
  simp only [hc, if_true] at h
  split at h
  · cases h
  · rename_i heq
    split at h
    · cases h
    · rename_i heq2
      cases h
      split at heq
      · exact ⟨_, _, _, _, _, _, rfl, heq, heq2, rfl⟩
      · cases heq

theorem clauseLoop_nil_ok {sigOf missing checkRet tyArgs Γ ks acc st out left st'}
    (h : clauseLoop sigOf missing checkRet tyArgs Γ [] ks acc st = .ok (out, left, st')) :
    out = acc.reverse ∧ left = ks ∧ st' = st := by
  simp only [clauseLoop] at h
  cases h; exact ⟨rfl, rfl, rfl⟩

theorem clauseLoop_cons_ok {sigOf missing checkRet tyArgs Γ xtor rest ks acc st out left st'}
    (h : clauseLoop sigOf missing checkRet tyArgs Γ (xtor :: rest) ks acc st = .ok (out, left, st')) :
    ∃ pos k sig bodyTy st0 ctxClause body' st1,
      ks.findIdx? (fun k => k.src.xtor = xtor) = some pos ∧ ks[pos]? = some k ∧
      sigOf st (instName xtor tyArgs) = some (sig, bodyTy) ∧
      (if checkRet then checkTy bodyTy st else .ok st) = .ok st0 ∧
      namesNoDups k.src.names [] = .ok () ∧ addTypes k.src.names sig = .ok ctxClause ∧
      k.body st0 (Γ ++ ctxClause) bodyTy = .ok (body', st1) ∧
      clauseLoop sigOf missing checkRet tyArgs Γ rest (swapRemove ks pos)
        (⟨k.src.pol, k.src.xtor, k.src.names, ctxClause, body'⟩ :: acc) st1 = .ok (out, left, st') := by
  simp only [clauseLoop] at h
  split at h
  · cases h
  · split at h
    · cases h
    · split at h
      · cases h
      · split at h
        · cases h
        · split at h
          · cases h
          · split at h
            · cases h
            · split at h
              · cases h
              · exact ⟨_, _, _, _, _, _, _, _, ‹_›, ‹_›, ‹_›, ‹_›, ‹_›, ‹_›, ‹_›, h⟩

end Scc.Fun.Check
