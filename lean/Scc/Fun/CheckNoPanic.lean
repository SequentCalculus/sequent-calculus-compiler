/-
  Scc.Fun.CheckNoPanic — the checker model never reaches one of its `panic` outcomes
  (`swap_remove` index, `unwrap_or_else(|| panic!(..))` in `check_with_table`) on programs whose
  names are identifiers: every rejection is a diagnostic.
-/
import Scc.Fun.CheckComplete4

namespace Scc.Fun.Check
open Scc.Fun.Typing

/-- closes a branch whose hypothesis `h` is absurd by constructors or becomes an assumption after `cases`; the
proofs below use the stronger `np_close` -/
macro "np_leaf" h:ident : tactic =>
  `(tactic| first
    | (cases $h:ident; done)
    | (cases $h:ident; assumption)
    | skip)

theorem insertCtorInstances_noPanic (m : List (String × Ty)) (tyArgs : Tys) :
    ∀ (xs : List String) (st : SymbolTable) (s : String),
    insertCtorInstances m tyArgs xs st ≠ .error (.panic s)
  | [], st, s => by simp [insertCtorInstances]
  | x :: r, st, s => by
    intro h
    simp only [insertCtorInstances] at h
    split at h
    · cases h
    · exact insertCtorInstances_noPanic m tyArgs r _ s h

theorem insertDtorInstances_noPanic (m : List (String × Ty)) (tyArgs : Tys) :
    ∀ (xs : List String) (st : SymbolTable) (s : String),
    insertDtorInstances m tyArgs xs st ≠ .error (.panic s)
  | [], st, s => by simp [insertDtorInstances]
  | x :: r, st, s => by
    intro h
    simp only [insertDtorInstances] at h
    split at h
    · cases h
    · exact insertDtorInstances_noPanic m tyArgs r _ s h

theorem createInstanceRest_noPanic (k : String) (ta : Tys) (pol : Polarity) (ps xs : List String)
    (st : SymbolTable) (s : String) : createInstanceRest k ta pol ps xs st ≠ .error (.panic s) := by
  intro h
  simp only [createInstanceRest] at h
  split at h
  · rename_i e he
    cases h
    cases pol
    · exact insertCtorInstances_noPanic _ _ _ _ s he
    · exact insertDtorInstances_noPanic _ _ _ _ s he
  · cases h

mutual
  theorem checkTy_noPanic : ∀ (τ : Ty) (st : SymbolTable) (s : String),
      checkTy τ st ≠ .error (.panic s)
    | .i64, st, s => by simp [checkTy]
    | .decl n args, st, s => by
      intro h
      simp only [checkTy] at h
      split at h
      · cases h
      · split at h
        · cases h
        · split at h
          · cases h
          · split at h
            · rename_i e he
              cases h
              exact checkTys_noPanic args st s he
            · exact createInstanceRest_noPanic _ _ _ _ _ _ s h
  theorem checkTys_noPanic : ∀ (ts : Tys) (st : SymbolTable) (s : String),
      checkTys ts st ≠ .error (.panic s)
    | .nil, st, s => by simp [checkTys]
    | .cons t r, st, s => by
      intro h
      simp only [checkTys] at h
      split at h
      · rename_i e he
        cases h
        exact checkTy_noPanic t st s he
      · exact checkTys_noPanic r _ s h
end

theorem checkEquality_noPanic (st : SymbolTable) (a b : Ty) (s : String) :
    checkEquality st a b ≠ .error (.panic s) := by
  intro h
  simp only [checkEquality] at h
  split at h
  · rename_i e he; cases h; exact checkTy_noPanic _ _ s he
  · split at h
    · rename_i e he; cases h; exact checkTy_noPanic _ _ s he
    · split at h <;> cases h

theorem checkAnnot_noPanic (st : SymbolTable) (ty : Option Ty) (b : Ty) (s : String) :
    checkAnnot st ty b ≠ .error (.panic s) := by
  intro h
  cases ty with
  | none => cases h
  | some t => exact checkEquality_noPanic _ _ _ s h

theorem lookupVarRev_noPanic : ∀ (l : List Binding) (x s : String),
    lookupVarRev l x ≠ .error (.panic s)
  | [], x, s => by simp [lookupVarRev]
  | b :: r, x, s => by
    intro h
    simp only [lookupVarRev] at h
    split at h
    · split at h <;> cases h
    · exact lookupVarRev_noPanic r x s h

theorem lookupCovarRev_noPanic : ∀ (l : List Binding) (x s : String),
    lookupCovarRev l x ≠ .error (.panic s)
  | [], x, s => by simp [lookupCovarRev]
  | b :: r, x, s => by
    intro h
    simp only [lookupCovarRev] at h
    split at h
    · split at h <;> cases h
    · exact lookupCovarRev_noPanic r x s h

theorem checkCovarArg_noPanic (st : SymbolTable) (Γ : Ctx) (x : String) (ty : Option Ty)
    (chi : Option Chi) (b : Ty) (s : String) :
    checkCovarArg st Γ x ty chi b ≠ .error (.panic s) := by
  intro h
  simp only [checkCovarArg] at h
  split at h
  · cases h
  · split at h
    · rename_i e he; cases h; exact lookupCovarRev_noPanic _ _ s he
    · split at h
      · rename_i e he; cases h; exact checkAnnot_noPanic _ _ _ s he
      · split at h
        · rename_i e he; cases h; exact checkEquality_noPanic _ _ _ s he
        · cases h

theorem resolveXtorTy_noPanic (pol : Polarity) (st : SymbolTable) (x : String) (ta : Tys)
    (s : String) : resolveXtorTy pol st x ta ≠ .error (.panic s) := by
  intro h
  simp only [resolveXtorTy] at h
  split at h
  · cases h
  · simp only [lookupTyTemplateForXtor] at h
    split at h
    · cases h
    · split at h
      · rename_i e he; cases h; exact checkTy_noPanic _ _ s he
      · cases h

theorem namesNoDups_noPanic : ∀ (l seen : List String) (s : String),
    namesNoDups l seen ≠ .error (.panic s)
  | [], _, s => by simp [namesNoDups]
  | b :: r, seen, s => by
    intro h
    simp only [namesNoDups] at h
    split at h
    · cases h
    · exact namesNoDups_noPanic r _ s h

theorem addTypes_noPanic (ns : List String) (c : Ctx) (s : String) :
    addTypes ns c ≠ .error (.panic s) := by
  intro h
  simp only [addTypes] at h
  split at h <;> cases h

def NoPanicK (k : Checker) : Prop := ∀ st Γ τ s, k st Γ τ ≠ .error (.panic s)

theorem clauseLoop_noPanic {sigOf : SymbolTable → String → Option (Ctx × Ty)} {missing : String}
    {checkRet : Bool} {tyArgs : Tys} {Γ : Ctx} :
    ∀ (xtors : List String) (ks : List ClauseK) (acc : List Clause) (st : SymbolTable) (s : String),
    (∀ k ∈ ks, NoPanicK k.body) →
    clauseLoop sigOf missing checkRet tyArgs Γ xtors ks acc st ≠ .error (.panic s)
  | [], ks, acc, st, s, _ => by simp [clauseLoop]
  | x :: rest, ks, acc, st, s, hks => by
    intro h
    simp only [clauseLoop] at h
    split at h
    · cases h
    · rename_i pos hpos
      split at h
      · -- the swap_remove index is in range
        rename_i hnone
        obtain ⟨hlt, _⟩ := List.findIdx?_eq_some_iff_getElem.mp hpos
        rw [List.getElem?_eq_getElem hlt] at hnone
        cases hnone
      · rename_i k hk
        split at h
        · cases h
        · split at h
          · rename_i e he
            cases h
            cases checkRet
            · simp at he
            · exact checkTy_noPanic _ _ s (by simpa using he)
          · split at h
            · rename_i e he; cases h; exact namesNoDups_noPanic _ _ s he
            · split at h
              · rename_i e he; cases h; exact addTypes_noPanic _ _ s he
              · split at h
                · rename_i e he
                  cases h
                  exact hks k (List.mem_of_getElem? hk) _ _ _ s he
                · exact clauseLoop_noPanic rest _ _ _ s
                    (fun k' hk' => hks k' (mem_of_mem_swapRemove hk')) h

/-- Closes a branch of `checkTerm` in which the error `.panic s` was propagated from a callee: the context
holds `callee … = .error (.panic s)` (after `cases` on the propagation equation), and the branch is closed by
that callee's no-panic lemma, tried in turn (`checkEquality`, `checkTy`, `checkAnnot`, the two context lookups,
`resolveXtorTy`, `checkCovarArg`); `by assumption` picks the equation, so exactly the lemma of the callee that
failed applies.  Recursive calls (`checkTerm`, `checkArgs`, `clauseLoop`) are closed by name in the walk. -/
macro "np_close" s:ident : tactic => `(tactic| first
  | (exact checkEquality_noPanic _ _ _ $s (by assumption))
  | (exact checkTy_noPanic _ _ $s (by assumption))
  | (exact checkAnnot_noPanic _ _ _ $s (by assumption))
  | (exact lookupVarRev_noPanic _ _ $s (by assumption))
  | (exact lookupCovarRev_noPanic _ _ $s (by assumption))
  | (exact resolveXtorTy_noPanic _ _ _ _ $s (by assumption))
  | (exact checkCovarArg_noPanic _ _ _ _ _ _ $s (by assumption)))

mutual
  theorem checkTerm_noPanic : ∀ (t : Term), NoPanicK (checkTerm t)
    | .var x ty chi => by
      intro st Γ τ s h
      simp only [checkTerm] at h
      repeat' split at h
      all_goals first
        | (cases h; done)
        | (cases h; np_close s)
    | .lit n => by
      intro st Γ τ s h
      simp only [checkTerm] at h
      repeat' split at h
      all_goals first
        | (cases h; done)
        | (cases h; np_close s)
    | .op a o b => by
      intro st Γ τ s h
      simp only [checkTerm] at h
      repeat' split at h
      all_goals first
        | (cases h; done)
        | (cases h; np_close s)
        | (cases h; exact checkTerm_noPanic a _ _ _ s (by assumption))
        | (cases h; exact checkTerm_noPanic b _ _ _ s (by assumption))
    | .ifc sr a b t e an => by
      intro st Γ τ s h
      simp only [checkTerm] at h
      repeat' split at h
      all_goals first
        | (cases h; done)
        | (cases h; exact checkTerm_noPanic a _ _ _ s (by assumption))
        | (cases h; exact checkTerm_noPanic b _ _ _ s (by assumption))
        | (cases h; exact checkTerm_noPanic t _ _ _ s (by assumption))
        | (cases h; exact checkTerm_noPanic e _ _ _ s (by assumption))
    | .ifz sr a t e an => by
      intro st Γ τ s h
      simp only [checkTerm] at h
      repeat' split at h
      all_goals first
        | (cases h; done)
        | (cases h; exact checkTerm_noPanic a _ _ _ s (by assumption))
        | (cases h; exact checkTerm_noPanic t _ _ _ s (by assumption))
        | (cases h; exact checkTerm_noPanic e _ _ _ s (by assumption))
    | .print nl a n an => by
      intro st Γ τ s h
      simp only [checkTerm] at h
      repeat' split at h
      all_goals first
        | (cases h; done)
        | (cases h; exact checkTerm_noPanic a _ _ _ s (by assumption))
        | (cases h; exact checkTerm_noPanic n _ _ _ s (by assumption))
    | .letIn x σ bound body an => by
      intro st Γ τ s h
      simp only [checkTerm] at h
      repeat' split at h
      all_goals first
        | (cases h; done)
        | (cases h; np_close s)
        | (cases h; exact checkTerm_noPanic bound _ _ _ s (by assumption))
        | (cases h; exact checkTerm_noPanic body _ _ _ s (by assumption))
    | .call f args an => by
      intro st Γ τ s h
      simp only [checkTerm] at h
      repeat' split at h
      all_goals first
        | (cases h; done)
        | (cases h; np_close s)
        | (cases h; exact checkArgs_noPanic args _ _ _ s (by assumption))
    | .ctor id args an => by
      intro st Γ τ s h
      simp only [checkTerm] at h
      repeat' split at h
      all_goals first
        | (cases h; done)
        | (cases h; np_close s)
        | (cases h; exact checkArgs_noPanic args _ _ _ s (by assumption))
    | .dtor scrut id tyArgs args an => by
      intro st Γ τ s h
      simp only [checkTerm] at h
      repeat' split at h
      all_goals first
        | (cases h; done)
        | (cases h; np_close s)
        | (cases h; exact checkTerm_noPanic scrut _ _ _ s (by assumption))
        | (cases h; exact checkArgs_noPanic args _ _ _ s (by assumption))
    | .case scrut tyArgs cs an => by
      intro st Γ τ s h
      have hcs := clauseCheckers_noPanic cs
      simp only [checkTerm] at h
      repeat' split at h
      all_goals first
        | (cases h; done)
        | (cases h; np_close s)
        | (cases h; exact checkTerm_noPanic scrut _ _ _ s (by assumption))
        | (cases h; exact clauseLoop_noPanic _ _ _ _ s hcs (by assumption))
    | .new cs an => by
      intro st Γ τ s h
      have hcs := clauseCheckers_noPanic cs
      simp only [checkTerm] at h
      repeat' split at h
      all_goals first
        | (cases h; done)
        | (cases h; np_close s)
        | (cases h; exact clauseLoop_noPanic _ _ _ _ s hcs (by assumption))
    | .label a body an => by
      intro st Γ τ s h
      simp only [checkTerm] at h
      repeat' split at h
      all_goals first
        | (cases h; done)
        | (cases h; exact checkTerm_noPanic body _ _ _ s (by assumption))
    | .goto a arg an => by
      intro st Γ τ s h
      simp only [checkTerm] at h
      repeat' split at h
      all_goals first
        | (cases h; done)
        | (cases h; np_close s)
        | (cases h; exact checkTerm_noPanic arg _ _ _ s (by assumption))
    | .exit arg an => by
      intro st Γ τ s h
      simp only [checkTerm] at h
      repeat' split at h
      all_goals first
        | (cases h; done)
        | (cases h; exact checkTerm_noPanic arg _ _ _ s (by assumption))
    | .paren inner => by
      intro st Γ τ s h
      simp only [checkTerm] at h
      repeat' split at h
      all_goals first
        | (cases h; done)
        | (cases h; exact checkTerm_noPanic inner _ _ _ s (by assumption))
  theorem checkArgs_noPanic : ∀ (ts : Terms) (bs : List Binding) (st : SymbolTable) (Γ : Ctx)
      (s : String), checkArgs ts bs st Γ ≠ .error (.panic s)
    | .nil, bs, st, Γ, s => by simp [checkArgs]
    | .cons t r, [], st, Γ, s => by simp [checkArgs]
    | .cons t r, b :: bs, st, Γ, s => by
      intro h
      simp only [checkArgs] at h
      split at h
      · rename_i e he
        cases h
        split at he
        · split at he
          · exact checkCovarArg_noPanic _ _ _ _ _ _ s he
          · cases he
        · split at he
          · rename_i e' he'; cases he; exact checkTy_noPanic _ _ s he'
          · exact checkTerm_noPanic t _ _ _ s he
      · split at h
        · rename_i e he; cases h; exact checkArgs_noPanic r bs _ _ s he
        · cases h
  theorem clauseCheckers_noPanic : ∀ (cs : Clauses), ∀ k ∈ clauseCheckers cs, NoPanicK k.body
    | .nil => by simp [clauseCheckers]
    | .cons pol x ns c b r => by
      intro k hk
      simp only [clauseCheckers, List.mem_cons] at hk
      rcases hk with rfl | hk
      · exact checkTerm_noPanic b
      · exact clauseCheckers_noPanic r k hk
end

theorem buildDecl_noPanic (d : Decl) (st : SymbolTable) (s : String) :
    buildDecl d st ≠ .error (.panic s) := by
  intro h
  cases d with
  | defn f => simp only [buildDecl] at h; split at h <;> cases h
  | data d =>
    simp only [buildDecl] at h
    split at h
    · cases h
    · rw [buildCtors_eq] at h; split at h <;> cases h
  | codata d =>
    simp only [buildDecl] at h
    split at h
    · cases h
    · rw [buildDtors_eq] at h; split at h <;> cases h

theorem buildDecls_noPanic : ∀ (ds : List Decl) (st : SymbolTable) (s : String),
    buildDecls ds st ≠ .error (.panic s)
  | [], st, s => by simp [buildDecls]
  | d :: r, st, s => by
    intro h
    simp only [buildDecls] at h
    split at h
    · rename_i e he; cases h; exact buildDecl_noPanic _ _ s he
    · exact buildDecls_noPanic r _ s h

theorem paramsNotTemplates_noPanic {T : AList (Polarity × List String × List String)} :
    ∀ (ps : List String) (s : String), paramsNotTemplates T ps ≠ .error (.panic s)
  | [], s => by simp [paramsNotTemplates]
  | a :: r, s => by
    intro h
    simp only [paramsNotTemplates] at h
    split at h
    · cases h
    · exact paramsNotTemplates_noPanic r s h

theorem checkTypeParams_noPanic {T : AList (Polarity × List String × List String)} :
    ∀ (l : AList (Polarity × List String × List String)) (s : String),
    checkTypeParams T l ≠ .error (.panic s)
  | [], s => by simp [checkTypeParams]
  | (n, (pol, params, xs)) :: r, s => by
    intro h
    simp only [checkTypeParams] at h
    split at h
    · rename_i e he; cases h; exact namesNoDups_noPanic _ _ s he
    · split at h
      · rename_i e he; cases h; exact paramsNotTemplates_noPanic _ s he
      · exact checkTypeParams_noPanic r s h

theorem checkTyTemplate_noPanic (t : Ty) (st : SymbolTable) (ps : List String) (s : String) :
    checkTyTemplate t st ps ≠ .error (.panic s) := by
  intro h
  cases t with
  | i64 => cases h
  | decl n a =>
    simp only [checkTyTemplate] at h
    split at h
    · cases h
    · split at h <;> cases h

theorem ctxCheckTemplate_noPanic : ∀ (c : Ctx) (st : SymbolTable) (ps : List String) (s : String),
    ctxCheckTemplate c st ps ≠ .error (.panic s)
  | [], st, ps, s => by simp [ctxCheckTemplate]
  | b :: r, st, ps, s => by
    intro h
    simp only [ctxCheckTemplate] at h
    split at h
    · rename_i e he; cases h; exact checkTyTemplate_noPanic _ _ _ s he
    · exact ctxCheckTemplate_noPanic r _ _ s h

theorem checkCtorSigs_noPanic (st : SymbolTable) (ps : List String) : ∀ (cs : List CtorSig)
    (s : String), checkCtorSigs st ps cs ≠ .error (.panic s)
  | [], s => by simp [checkCtorSigs]
  | c :: r, s => by
    intro h
    simp only [checkCtorSigs] at h
    split at h
    · rename_i e he; cases h; exact ctxCheckTemplate_noPanic _ _ _ s he
    · exact checkCtorSigs_noPanic st ps r s h

theorem checkDtorSigs_noPanic (st : SymbolTable) (ps : List String) : ∀ (cs : List DtorSig)
    (s : String), checkDtorSigs st ps cs ≠ .error (.panic s)
  | [], s => by simp [checkDtorSigs]
  | c :: r, s => by
    intro h
    simp only [checkDtorSigs] at h
    split at h
    · rename_i e he; cases h; exact ctxCheckTemplate_noPanic _ _ _ s he
    · split at h
      · rename_i e he; cases h; exact checkTyTemplate_noPanic _ _ _ s he
      · exact checkDtorSigs_noPanic st ps r s h

theorem checkTypeDecls_noPanic : ∀ (ds : List Decl) (st : SymbolTable) (s : String),
    checkTypeDecls ds st ≠ .error (.panic s)
  | [], st, s => by simp [checkTypeDecls]
  | .data d :: r, st, s => by
    intro h
    simp only [checkTypeDecls] at h
    split at h
    · rename_i e he; cases h; exact checkCtorSigs_noPanic _ _ _ s he
    · exact checkTypeDecls_noPanic r st s h
  | .codata d :: r, st, s => by
    intro h
    simp only [checkTypeDecls] at h
    split at h
    · rename_i e he; cases h; exact checkDtorSigs_noPanic _ _ _ s he
    · exact checkTypeDecls_noPanic r st s h
  | .defn f :: r, st, s => by
    intro h
    simp only [checkTypeDecls] at h
    split at h
    · rename_i e he; cases h; exact checkTypeDecls_noPanic r st s he
    · cases h

theorem ctxNoDups_noPanic : ∀ (c : Ctx) (seen : List String) (s : String),
    ctxNoDups c seen ≠ .error (.panic s)
  | [], _, s => by simp [ctxNoDups]
  | b :: r, seen, s => by
    intro h
    simp only [ctxNoDups] at h
    split at h
    · split at h <;> cases h
    · exact ctxNoDups_noPanic r _ s h

theorem ctxCheck_noPanic : ∀ (c : Ctx) (st : SymbolTable) (s : String),
    ctxCheck c st ≠ .error (.panic s)
  | [], st, s => by simp [ctxCheck]
  | b :: r, st, s => by
    intro h
    simp only [ctxCheck] at h
    split at h
    · rename_i e he; cases h; exact checkTy_noPanic _ _ s he
    · exact ctxCheck_noPanic r _ s h

theorem checkDef_noPanic (f : Def) (st : SymbolTable) (s : String) :
    checkDef f st ≠ .error (.panic s) := by
  intro h
  simp only [checkDef] at h
  split at h
  · rename_i e he; cases h; exact ctxNoDups_noPanic _ _ s he
  · split at h
    · rename_i e he; cases h; exact ctxCheck_noPanic _ _ s he
    · split at h
      · rename_i e he; cases h; exact checkTy_noPanic _ _ s he
      · split at h
        · rename_i e he; cases h; exact checkTerm_noPanic _ _ _ _ s he
        · cases h

theorem checkDefs_noPanic : ∀ (fs : List Def) (st : SymbolTable) (s : String),
    checkDefs fs st ≠ .error (.panic s)
  | [], st, s => by simp [checkDefs]
  | f :: r, st, s => by
    intro h
    simp only [checkDefs] at h
    split at h
    · rename_i e he; cases h; exact checkDef_noPanic _ _ s he
    · split at h
      · rename_i e he; cases h; exact checkDefs_noPanic r _ s he
      · cases h

theorem checkProgramR_noPanic {p : Program} (hp : programNamesOk p = true) (s : String) :
    checkProgramR p ≠ .error (.panic s) := by
  intro h
  simp only [checkProgramR] at h
  split at h
  · rename_i e he
    cases h
    simp only [buildSymbolTable] at he
    split at he
    · rename_i e' he'; cases he; exact buildDecls_noPanic _ _ s he'
    · split at he
      · rename_i e' he'; cases he; exact checkTypeParams_noPanic _ s he'
      · cases he
  · rename_i st0 hb
    simp only [buildSymbolTable] at hb
    split at hb
    · cases hb
    · rename_i st0' hbuild
      split at hb
      · cases hb
      · rename_i hparams
        cases hb
        have b : Built st0 p.decls := by
          simpa using buildDecls_ok p.decls [] {} st0 built_empty hbuild
        simp only [checkWithTable] at h
        split at h
        · rename_i e he; cases h; exact checkTypeDecls_noPanic _ _ s he
        · rename_i fs hdecls
          split at h
          · rename_i e he; cases h; exact checkDefs_noPanic _ _ s he
          · rename_i fs' st1 hdefs
            obtain ⟨ok, rfl⟩ := declsOk_of_checks b hparams hdecls
            obtain ⟨inv1, _⟩ := checkDefs_sound ok hp (defs p) fs' st0 st1 (fun f hf => hf)
              (built_inv b) hdefs
            obtain ⟨r, hr⟩ := collectTypes_total inv1 st1.types (fun e he => he)
            rw [hr] at h
            cases h

end Scc.Fun.Check
