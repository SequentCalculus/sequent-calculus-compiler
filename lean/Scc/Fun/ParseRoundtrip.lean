/-
  Scc.Fun.ParseRoundtrip — C16-T2 (`parse_tokens`): the parser model maps the token sequence
  `tokens p` of a program in the image of the grammar (`InRange`) back to `p`.
-/
import Scc.Fun.PrintProofs

namespace Scc.Fun.Print
open Scc.Fun.Lex Scc.Fun.Parse

/-- grammar level of a term: 1 = `Term1`, 2 = `Term2`, 3 = `Term3`, 4 = `Term` -/
def level : Term → Nat
  | .lit _ | .var .. | .call .. | .paren _ => 1
  | .new .. | .ctor .. | .dtor .. | .case .. => 2
  | .ifc .. | .ifz .. | .label .. | .goto .. | .exit .. | .op .. | .letIn .. => 3
  | .print .. => 4

mutual
  /-- `InRange t`: `t` is in the image of the grammar: operands of `Op` are `Term1`, scrutinees
  `Term2`, the bound term of `let` is `Term3`, literals are in `[-(2^63-1), 2^63-1]`, annotations are
  empty, clauses have the polarity of their construct and an empty context. -/
  def InRange : Term → Prop
    | .var _ ty chi => ty = none ∧ chi = none
    | .lit n => -(i64Max : Int) ≤ n ∧ n ≤ (i64Max : Int)
    | .op a _ b => InRange a ∧ InRange b ∧ level a ≤ 1 ∧ level b ≤ 1
    | .ifc _ a b t e ty => InRange a ∧ InRange b ∧ InRange t ∧ InRange e ∧ ty = none
    | .ifz _ a t e ty => InRange a ∧ InRange t ∧ InRange e ∧ ty = none
    | .print _ a n ty => InRange a ∧ InRange n ∧ ty = none
    | .letIn _ _ b i ty => InRange b ∧ InRange i ∧ level b ≤ 3 ∧ ty = none
    | .call _ as ty => InRanges as ∧ ty = none
    | .ctor _ as ty => InRanges as ∧ ty = none
    | .dtor s _ _ as ty => InRange s ∧ level s ≤ 2 ∧ InRanges as ∧ ty = none
    | .case s _ cs ty => InRange s ∧ level s ≤ 2 ∧ InRangeCs .data cs ∧ ty = none
    | .new cs ty => InRangeCs .codata cs ∧ ty = none
    | .label _ t ty => InRange t ∧ ty = none
    | .goto _ t ty => InRange t ∧ ty = none
    | .exit t ty => InRange t ∧ ty = none
    | .paren t => InRange t
  def InRanges : Terms → Prop
    | .nil => True
    | .cons t r => InRange t ∧ InRanges r
  def InRangeCs (pol : Polarity) : Clauses → Prop
    | .nil => True
    | .cons p _ _ ctx b r => p = pol ∧ ctx = [] ∧ InRange b ∧ InRangeCs pol r
end

def InRangeDecl : Decl → Prop
  | .defn d => InRange d.body
  | _ => True

def InRangeProg (p : Program) : Prop := ∀ d ∈ p.decls, InRangeDecl d

def NoLbrack (rest : List Token) : Prop := ∀ r, rest ≠ .lbrack :: r
def NoLparen (rest : List Token) : Prop := ∀ r, rest ≠ .lparen :: r

/-- tokens that can follow a `Term2` inside a larger term -/
def postTok : Token → Bool
  | .rparen | .rbrace | .comma | .semi | .lbrace | .dot => true
  | .cmp _ | .zcmpL _ => true
  | _ => false

/-- tokens that can follow a complete term -/
def stopTok : Token → Bool
  | .rparen | .rbrace | .comma | .semi | .lbrace => true
  | .cmp _ | .zcmpL _ => true
  | _ => false

def Head (p : Token → Bool) (rest : List Token) : Prop := ∃ tk r, rest = tk :: r ∧ p tk = true

theorem stop_post {tk : Token} (h : stopTok tk = true) : postTok tk = true := by
  cases tk <;> simp_all [stopTok, postTok]

theorem post_num {tk : Token} (h : postTok tk = true) : numFollow tk = true := by
  cases tk <;> simp_all [postTok, numFollow]

theorem post_not_binop {tk : Token} (h : postTok tk = true) : binOpOf tk = none := by
  cases tk <;> simp_all [postTok, binOpOf]

theorem binop_num (o : BinOp) : numFollow (binOpTok o) = true := by cases o <;> rfl

theorem binOpOf_tok (o : BinOp) : binOpOf (binOpTok o) = some o := by cases o <;> rfl

theorem tyToks_head (t : Ty) : ∃ tk r, tyToks t = tk :: r ∧ (tk = .kw .i64 ∨ ∃ n, tk = .upper n) := by
  cases t with
  | i64 => exact ⟨_, _, rfl, .inl rfl⟩
  | decl n as => exact ⟨_, _, rfl, .inr ⟨_, rfl⟩⟩

mutual
  theorem tyP : (t : Ty) → ∀ (f : Nat) (rest : List Token), NoLbrack rest → 2 * (tyToks t).length ≤ f →
      parseTy f (tyToks t ++ rest) = .ok (t, rest)
    | .i64, f, rest, _, hf => by
      cases f with
      | zero => simp [tyToks] at hf
      | succ f => simp [tyToks, parseTy]
    | .decl n .nil, f, rest, hr, hf => by
      cases f with
      | zero => simp [tyToks] at hf
      | succ f =>
        simp only [tyToks, tyArgToks, List.cons_append, List.nil_append]
        unfold parseTy
        split
        · rename_i h; cases h
        · rename_i h; injection h with _ h2; exact absurd h2 (hr _)
        · rename_i h; injection h with h1 h2; cases h1; subst h2; simp [String.ofList_toList]
        · rename_i h1 h2; exact absurd rfl (h2 _ _)
    | .decl n (.cons t r), f, rest, hr, hf => by
      cases f with
      | zero => simp [tyToks] at hf
      | succ f =>
        have ih := tysP (.cons t r) f rest (by
          simp [tyToks, tyArgToks, tysToks] at hf ⊢; omega)
        simp only [tyToks, tyArgToks, List.cons_append, List.append_assoc, List.nil_append]
        unfold parseTy
        simp only [tysToks, List.append_assoc] at ih
        simp [ih, Outcome.bind, String.ofList_toList]
  theorem tysP : (ts : Tys) → ∀ (f : Nat) (rest : List Token), 2 * (tysToks ts).length + 1 ≤ f →
      parseTys f (tysToks ts ++ .rbrack :: rest) = .ok (ts, rest)
    | .nil, f, rest, hf => by
      cases f with
      | zero => simp at hf
      | succ f => simp [tysToks, parseTys]
    | .cons t .nil, f, rest, hf => by
      cases f with
      | zero => simp at hf
      | succ f =>
        have ih := tyP t f (.rbrack :: rest) (fun r h => by cases h) (by
          simp [tysToks, tysRestToks] at hf; omega)
        obtain ⟨tk, r0, h0, htk⟩ := tyToks_head t
        simp only [tysToks, tysRestToks, List.append_nil]
        unfold parseTys
        split
        · rename_i h; rw [h0] at h; injection h with h1 _; subst h1; rcases htk with h | ⟨_, h⟩ <;> cases h
        · simp [ih, Outcome.bind]
    | .cons t (.cons t' r), f, rest, hf => by
      cases f with
      | zero => simp at hf
      | succ f =>
        have hlen : (tysToks (.cons t (.cons t' r))).length =
            (tyToks t).length + 1 + (tysToks (.cons t' r)).length := by
          simp [tysToks, tysRestToks]; omega
        have ih1 := tyP t f (tysRestToks (.cons t' r) ++ .rbrack :: rest) (fun r h => by simp [tysRestToks] at h) (by omega)
        have ih2 := tysP (.cons t' r) f rest (by omega)
        obtain ⟨tk, r0, h0, htk⟩ := tyToks_head t
        simp only [tysToks, tysRestToks, List.cons_append, List.append_assoc] at ih1 ih2 ⊢
        unfold parseTys
        split
        · rename_i h; rw [h0] at h; injection h with h1 _; subst h1; rcases htk with h | ⟨_, h⟩ <;> cases h
        · simp [ih1, Outcome.bind, ih2]
end

theorem optTyArgsP (tas : Tys) (f : Nat) (rest : List Token) (hr : NoLbrack rest)
    (hf : 2 * (tyArgToks tas).length + 1 ≤ f) : parseOptTyArgs f (tyArgToks tas ++ rest) = .ok (tas, rest) := by
  cases tas with
  | nil =>
    simp only [tyArgToks, List.nil_append]
    unfold parseOptTyArgs
    split
    · rename_i r; exact absurd rfl (hr r)
    · rfl
  | cons t r =>
    have := tysP (.cons t r) f rest (by simp [tyArgToks, tysToks] at hf ⊢; omega)
    simp only [tysToks, List.append_assoc] at this
    simp only [tyArgToks, List.cons_append, List.append_assoc, List.nil_append]
    unfold parseOptTyArgs
    simp only [this]

theorem namesP : (n : String) → (ns : List String) → ∀ (f : Nat) (rest : List Token), ns.length + 1 ≤ f →
    parseNames f (joinToks [.comma] ((n :: ns).map fun n => [Token.lower n.toList]) ++ .rparen :: rest)
      = .ok (n :: ns, rest)
  | n, [], f, rest, hf => by
    cases f with
    | zero => simp at hf
    | succ f => simp [joinToks, parseNames, String.ofList_toList]
  | n, m :: ns, f, rest, hf => by
    cases f with
    | zero => simp at hf
    | succ f =>
      have ih := namesP m ns f rest (by simp at hf ⊢; omega)
      simp only [List.map_cons] at ih
      simp [joinToks, parseNames, ih, Outcome.bind, String.ofList_toList]

theorem optNamesP (ns : List String) (f : Nat) (rest : List Token) (hr : NoLparen rest)
    (hf : ns.length + 1 ≤ f) : parseOptNames f (namesToks ns ++ rest) = .ok (ns, rest) := by
  cases ns with
  | nil =>
    simp only [namesToks, List.nil_append]
    unfold parseOptNames
    split
    · rename_i r; exact absurd rfl (hr r)
    · rfl
  | cons n ns =>
    have := namesP n ns f rest (by simp at hf ⊢; omega)
    simp only [List.map_cons] at this
    simp only [namesToks, List.cons_append, List.append_assoc, List.map_cons, List.nil_append]
    unfold parseOptNames
    simp only [this]

theorem namesToks_length (ns : List String) : ns.length ≤ (namesToks ns).length := by
  cases ns with
  | nil => simp
  | cons n r =>
    have : ∀ (m : String) (l : List String),
        (m :: l).length ≤ (joinToks [Token.comma] ((m :: l).map fun n => [Token.lower n.toList])).length := by
      intro m l
      induction l generalizing m with
      | nil => simp [joinToks]
      | cons k l ih => have := ih k; simp [joinToks] at this ⊢; omega
    have := this n r
    simp [namesToks] at this ⊢; omega

theorem digitsToNat_natDigits (n : Nat) : digitsToNat (natDigits n) = n := by
  have h := Nat.ofDigitChars_ten_toDigits (n := n)
  rw [Nat.ofDigitChars_eq_foldl] at h
  have e0 : '0'.toNat = 48 := by decide
  simpa [digitsToNat, natDigits, digitVal, e0] using h

theorem parseNum_pos {mode : LiteralMode} {n : Nat} {tk : Token} {r : List Token} (hn : n ≤ i64Max)
    (htk : numFollow tk = true) : parseNum mode false (natDigits n) (tk :: r) = .ok (Int.ofNat n) := by
  simp [parseNum, htk, digitsToNat_natDigits, hn]

theorem parseNum_neg {mode : LiteralMode} {n : Nat} {tk : Token} {r : List Token} (hn : n ≤ i64Max)
    (htk : numFollow tk = true) : parseNum mode true (natDigits n) (tk :: r) = .ok (-(Int.ofNat n)) := by
  simp [parseNum, htk, digitsToNat_natDigits, hn]

def t1Start : Token → Bool
  | .lower _ | .num _ | .minus | .lparen => true
  | _ => false

def termStart : Token → Bool
  | .lower _ | .num _ | .minus | .lparen | .upper _ => true
  | .kw .if_ | .kw .printI64 | .kw .printlnI64 | .kw .let_ | .kw .new_ | .kw .label | .kw .goto
  | .kw .exit => true
  | _ => false

theorem termToks_head : (t : Term) → ∃ tk r, termToks t = tk :: r ∧ termStart tk = true ∧
    (level t ≤ 1 → t1Start tk = true)
  | .var .. => ⟨_, _, rfl, rfl, fun _ => rfl⟩
  | .lit (.ofNat _) => ⟨_, _, rfl, rfl, fun _ => rfl⟩
  | .lit (.negSucc _) => ⟨_, _, rfl, rfl, fun _ => rfl⟩
  | .op a _ _ => by
    obtain ⟨tk, r, h, hs, _⟩ := termToks_head a
    simp only [termToks, h, List.cons_append]
    exact ⟨_, _, rfl, hs, fun hl => by simp [level] at hl⟩
  | .ifc .. => ⟨_, _, rfl, rfl, fun hl => by simp [level] at hl⟩
  | .ifz .. => ⟨_, _, rfl, rfl, fun hl => by simp [level] at hl⟩
  | .print true .. => ⟨_, _, rfl, rfl, fun hl => by simp [level] at hl⟩
  | .print false .. => ⟨_, _, rfl, rfl, fun hl => by simp [level] at hl⟩
  | .letIn .. => ⟨_, _, rfl, rfl, fun hl => by simp [level] at hl⟩
  | .call .. => ⟨_, _, rfl, rfl, fun _ => rfl⟩
  | .ctor .. => ⟨_, _, rfl, rfl, fun hl => by simp [level] at hl⟩
  | .dtor s _ _ _ _ => by
    obtain ⟨tk, r, h, hs, _⟩ := termToks_head s
    simp only [termToks, h, List.cons_append]
    exact ⟨_, _, rfl, hs, fun hl => by simp [level] at hl⟩
  | .case s _ _ _ => by
    obtain ⟨tk, r, h, hs, _⟩ := termToks_head s
    simp only [termToks, h, List.cons_append]
    exact ⟨_, _, rfl, hs, fun hl => by simp [level] at hl⟩
  | .new .. => ⟨_, _, rfl, rfl, fun hl => by simp [level] at hl⟩
  | .label .. => ⟨_, _, rfl, rfl, fun hl => by simp [level] at hl⟩
  | .goto .. => ⟨_, _, rfl, rfl, fun hl => by simp [level] at hl⟩
  | .exit .. => ⟨_, _, rfl, rfl, fun hl => by simp [level] at hl⟩
  | .paren _ => ⟨_, _, rfl, rfl, fun _ => rfl⟩

def chain : Term → Nat
  | .dtor s _ _ _ _ => chain s + 1
  | .case s _ _ _ => chain s + 1
  | _ => 0

theorem chain_le : (t : Term) → chain t ≤ (termToks t).length
  | .dtor s _ _ _ _ => by have := chain_le s; simp [chain, termToks]; omega
  | .case s _ _ _ => by have := chain_le s; simp [chain, termToks]; omega
  | .var .. | .lit .. | .op .. | .ifc .. | .ifz .. | .print .. | .letIn .. | .call .. | .ctor ..
  | .new .. | .label .. | .goto .. | .exit .. | .paren .. => by simp [chain]

def afterTerm1 (mode : LiteralMode) (f : Nat) (a : Term) (r : List Token) : Outcome (Term × List Token) :=
  match r with
  | [] => .ok (a, r)
  | t :: r1 =>
    match binOpOf t with
    | some o => (parseTerm1 mode f r1).bind fun (b, r2) => .ok (.op a o b, r2)
    | none => parsePostfix mode f a r

theorem parseTerm_t1 {mode : LiteralMode} {f : Nat} {allow : Bool} {tk : Token} {r : List Token}
    (h : t1Start tk = true) :
    parseTerm mode (f + 1) allow (tk :: r) =
      (parseTerm1 mode f (tk :: r)).bind fun (a, r') => afterTerm1 mode f a r' := by
  cases tk <;> simp [t1Start] at h <;> (unfold parseTerm; rfl)

theorem parsePostfix_stop {mode : LiteralMode} {f : Nat} {t : Term} {rest : List Token}
    (h : Head stopTok rest) : parsePostfix mode (f + 1) t rest = .ok (t, rest) := by
  obtain ⟨tk, r, rfl, htk⟩ := h
  unfold parsePostfix
  split
  · rename_i h; injection h with h1 _; subst h1; simp [stopTok] at htk
  · rename_i h; injection h with h1 _; subst h1; simp [stopTok] at htk
  · rename_i h; injection h with h1 _; subst h1; simp [stopTok] at htk
  · rfl


def afterIfFst (mode : LiteralMode) (f : Nat) (a : Term) (r1 : List Token) : Outcome (Term × List Token) :=
  match r1 with
  | .cmp c :: r2 =>
    (parseTerm mode f true r2).bind fun (b, r3) =>
      (parseThenElse mode f r3).bind fun ((th, el), r4) =>
        .ok (.ifc c a b th el none, r4)
  | .zcmpL c :: r2 =>
    (parseThenElse mode f r2).bind fun ((th, el), r3) =>
      .ok (.ifz c a th el none, r3)
  | _ => failAt r1

theorem parseTerm_if {mode : LiteralMode} {f : Nat} {allow : Bool} {tk : Token} {r : List Token}
    (h : termStart tk = true) :
    parseTerm mode (f + 1) allow (.kw .if_ :: tk :: r) =
      (parseTerm mode f true (tk :: r)).bind fun (a, r1) => afterIfFst mode f a r1 := by
  cases tk <;> simp [termStart] at h <;> (conv => lhs; unfold parseTerm) <;> rfl

/-- the induction predicates of C16-T2: the parser reads the tokens of `t` back to `t`, in front of any rest that
starts with a token that can follow a term, at the level `Term` (`allow = true`) or `Term3` (`allow = false`, which
excludes `print`, the one term of level 4).  The fuel `3 * length + 3` (`+ 4` for argument lists, `+ 1` for clause
lists) is what the induction needs, not the least possible. -/
def ReadsTerm (mode : LiteralMode) (t : Term) : Prop :=
  ∀ (allow : Bool), (allow = false → level t ≤ 3) → ∀ (f : Nat) (rest : List Token), Head stopTok rest →
    3 * (termToks t).length + 3 ≤ f → parseTerm mode f allow (termToks t ++ rest) = .ok (t, rest)

theorem bracedP {mode : LiteralMode} {t : Term} (ht : ReadsTerm mode t) (g : Nat) (r : List Token)
    (hg : 3 * (termToks t).length + 3 ≤ g) :
    parseBraced mode (g + 1) (.lbrace :: (termToks t ++ .rbrace :: r)) = .ok (t, r) := by
  have := ht true (fun h => by cases h) g (.rbrace :: r) ⟨_, _, rfl, rfl⟩ hg
  unfold parseBraced
  simp [expect, Outcome.bind, this]

theorem thenElseP {mode : LiteralMode} {t e : Term} (ht : ReadsTerm mode t) (he : ReadsTerm mode e)
    (g : Nat) (r : List Token)
    (hg : 3 * (termToks t).length + 3 ≤ g) (hg' : 3 * (termToks e).length + 3 ≤ g) :
    parseThenElse mode (g + 2)
      (.lbrace :: (termToks t ++ .rbrace :: .kw .else_ :: .lbrace :: (termToks e ++ .rbrace :: r))) =
      .ok ((t, e), r) := by
  unfold parseThenElse
  simp [bracedP ht g _ hg, bracedP he g _ hg', expect, Outcome.bind]

/-- What is proved of every term `t` in the image of the grammar, by its grammar level: a `Term1` is read back
by `parseTerm1` (`t1`); a `Term2` inside `parseTerm` leads into the postfix loop at `t`, with the fuel the head
and the chain have used up (`ch`); and in every case `parseTerm` reads `t` back before a token that ends a
term (`tm`). -/
structure TermSpec (mode : LiteralMode) (t : Term) : Prop where
  t1 : level t ≤ 1 → ∀ (f : Nat) (rest : List Token), Head numFollow rest →
    3 * (termToks t).length + 2 ≤ f → parseTerm1 mode f (termToks t ++ rest) = .ok (t, rest)
  ch : level t ≤ 2 → ∀ (allow : Bool) (f : Nat) (rest : List Token), Head postTok rest →
    3 * (termToks t).length + 3 ≤ f →
    parseTerm mode f allow (termToks t ++ rest) = parsePostfix mode (f - 1 - chain t) t rest
  tm : ReadsTerm mode t

theorem chain_zero {t : Term} (h : level t ≤ 1) : chain t = 0 := by
  cases t <;> simp [level] at h <;> rfl

/-- a `Term1` inside `parseTerm` -/
theorem ch_of_t1 {mode : LiteralMode} {t : Term} (hl : level t ≤ 1)
    (h1 : ∀ (f : Nat) (rest : List Token), Head numFollow rest →
      3 * (termToks t).length + 2 ≤ f → parseTerm1 mode f (termToks t ++ rest) = .ok (t, rest))
    (allow : Bool) (f : Nat) (rest : List Token) (hr : Head postTok rest)
    (hf : 3 * (termToks t).length + 3 ≤ f) :
    parseTerm mode f allow (termToks t ++ rest) = parsePostfix mode (f - 1 - chain t) t rest := by
  obtain ⟨tk, r, h0, _, hs⟩ := termToks_head t
  obtain ⟨tk', r', rfl, hp⟩ := hr
  cases f with
  | zero => omega
  | succ f =>
    have := h1 f (tk' :: r') ⟨_, _, rfl, post_num hp⟩ (by omega)
    rw [h0] at this ⊢
    rw [List.cons_append, parseTerm_t1 (hs hl), ← List.cons_append, this]
    simp [Outcome.bind, afterTerm1, post_not_binop hp, chain_zero hl]

/-- a `Term2` as a complete term -/
theorem tm_of_ch {mode : LiteralMode} {t : Term}
    (hc : ∀ (allow : Bool) (f : Nat) (rest : List Token), Head postTok rest →
      3 * (termToks t).length + 3 ≤ f →
      parseTerm mode f allow (termToks t ++ rest) = parsePostfix mode (f - 1 - chain t) t rest) :
    ReadsTerm mode t := by
  intro allow _ f rest hr hf
  obtain ⟨tk', r', rfl, hp⟩ := hr
  rw [hc allow f _ ⟨_, _, rfl, stop_post hp⟩ hf]
  have := chain_le t
  obtain ⟨g, hg⟩ : ∃ g, f - 1 - chain t = g + 1 := ⟨f - 2 - chain t, by omega⟩
  rw [hg]
  exact parsePostfix_stop ⟨_, _, rfl, hp⟩


def ReadsArgs (mode : LiteralMode) (as : Terms) : Prop :=
  ∀ (f : Nat) (rest : List Token), 3 * (termsToks as).length + 4 ≤ f →
    parseArgs mode f (termsToks as ++ .rparen :: rest) = .ok (as, rest)

def ReadsClauses (mode : LiteralMode) (pol : Polarity) (cs : Clauses) : Prop :=
  ∀ (f : Nat) (rest : List Token), 3 * (clausesToks cs).length + 1 ≤ f →
    parseClauses mode pol f (clausesToks cs ++ .rbrace :: rest) = .ok (cs, rest)

/-- one destructor step of the postfix loop -/
theorem postfix_dtor {mode : LiteralMode} (s : Term) (d : String) (tas : Tys) (as : Terms)
    (has : ReadsArgs mode as) (g : Nat) (rest : List Token) (hr : Head postTok rest)
    (hg : 2 * (tyArgToks tas).length + 3 * (termsToks as).length + 4 ≤ g) :
    parsePostfix mode (g + 1) s (.dot :: .lower d.toList :: (tyArgToks tas ++ (optArgsToks as ++ rest))) =
      parsePostfix mode g (.dtor s d tas as none) rest := by
  obtain ⟨tk, r, rfl, hp⟩ := hr
  cases as with
  | nil =>
    have h1 := optTyArgsP tas g (tk :: r) (fun r' h => by injection h with h1 _; subst h1; simp [postTok] at hp)
      (by omega)
    conv => lhs; unfold parsePostfix
    simp only [optArgsToks, List.nil_append, h1, Outcome.bind, String.ofList_toList]
    cases tk <;> simp [postTok] at hp <;> rfl
  | cons a r' =>
    have h1 := optTyArgsP tas g (.lparen :: (termsToks (.cons a r') ++ .rparen :: tk :: r))
      (fun r' h => by cases h) (by omega)
    have h2 := has g (tk :: r) (by omega)
    conv => lhs; unfold parsePostfix
    simp [optArgsToks, h1, h2, Outcome.bind, String.ofList_toList]

/-- one `case` step of the postfix loop -/
theorem postfix_case {mode : LiteralMode} (s : Term) (tas : Tys) (cs : Clauses)
    (hcs : ReadsClauses mode .data cs) (g : Nat) (rest : List Token)
    (hg : 2 * (tyArgToks tas).length + 3 * (clausesToks cs).length + 2 ≤ g) :
    parsePostfix mode (g + 1) s
      (.dot :: .kw .case_ :: (tyArgToks tas ++ .lbrace :: (clausesToks cs ++ .rbrace :: rest))) =
      parsePostfix mode g (.case s tas cs none) rest := by
  have h1 := optTyArgsP tas g (.lbrace :: (clausesToks cs ++ .rbrace :: rest)) (fun r' h => by cases h)
    (by omega)
  have h2 := hcs g rest (by omega)
  conv => lhs; unfold parsePostfix
  simp [h1, h2, Outcome.bind, expect]


theorem head_num_of_stop {rest : List Token} (h : Head stopTok rest) : Head numFollow rest := by
  obtain ⟨tk, r, rfl, hp⟩ := h
  exact ⟨tk, r, rfl, post_num (stop_post hp)⟩

theorem head_post_of_stop {rest : List Token} (h : Head stopTok rest) : Head postTok rest := by
  obtain ⟨tk, r, rfl, hp⟩ := h
  exact ⟨tk, r, rfl, stop_post hp⟩

theorem spec_of_t1 {mode : LiteralMode} {t : Term} (hl : level t ≤ 1)
    (h1 : ∀ (f : Nat) (rest : List Token), Head numFollow rest →
      3 * (termToks t).length + 2 ≤ f → parseTerm1 mode f (termToks t ++ rest) = .ok (t, rest)) :
    TermSpec mode t :=
  ⟨fun _ => h1, fun _ => ch_of_t1 hl h1, tm_of_ch (ch_of_t1 hl h1)⟩

theorem spec_of_ch {mode : LiteralMode} {t : Term} (hl : ¬ level t ≤ 1)
    (hc : ∀ (allow : Bool) (f : Nat) (rest : List Token), Head postTok rest →
      3 * (termToks t).length + 3 ≤ f →
      parseTerm mode f allow (termToks t ++ rest) = parsePostfix mode (f - 1 - chain t) t rest) :
    TermSpec mode t :=
  ⟨fun h => absurd h hl, fun _ => hc, tm_of_ch hc⟩

theorem spec_of_tm {mode : LiteralMode} {t : Term} (hl : ¬ level t ≤ 2) (h : ReadsTerm mode t) :
    TermSpec mode t :=
  ⟨fun h' => absurd (Nat.le_trans h' (by decide)) hl, fun h' => absurd h' hl, h⟩

mutual
  theorem specP (mode : LiteralMode) : (t : Term) → InRange t → TermSpec mode t
    | .var x ty chi, h => by
      simp only [InRange] at h
      obtain ⟨rfl, rfl⟩ := h
      refine spec_of_t1 (by simp [level]) ?_
      intro f rest hr hf
      obtain ⟨tk, r, rfl, hp⟩ := hr
      cases f with
      | zero => omega
      | succ f =>
        cases tk <;> simp [numFollow] at hp <;> simp [termToks, parseTerm1, String.ofList_toList]
    | .lit n, h => by
      simp only [InRange] at h
      refine spec_of_t1 (by simp [level]) ?_
      intro f rest hr hf
      obtain ⟨tk, r, rfl, hp⟩ := hr
      cases f with
      | zero => omega
      | succ f =>
        cases n with
        | ofNat k =>
          have hk : k ≤ i64Max := by have := h.2; simp only [Int.ofNat_eq_natCast] at this; omega
          simp [termToks, litToks, parseTerm1, parseNum_pos hk hp, Outcome.bind]
        | negSucc k =>
          have hk : k + 1 ≤ i64Max := by have := h.1; simp only [Int.negSucc_eq] at this; omega
          simp [termToks, litToks, parseTerm1, parseNum_neg hk hp, Outcome.bind]
          omega
    | .call fn as ty, h => by
      simp only [InRange] at h
      obtain ⟨has, rfl⟩ := h
      refine spec_of_t1 (by simp [level]) ?_
      intro f rest hr hf
      cases f with
      | zero => omega
      | succ f =>
        have := argsP mode as has f rest (by simp [termToks] at hf; omega)
        simp [termToks, parseTerm1, this, Outcome.bind, String.ofList_toList]
    | .paren t, h => by
      simp only [InRange] at h
      refine spec_of_t1 (by simp [level]) ?_
      intro f rest hr hf
      cases f with
      | zero => omega
      | succ f =>
        have := (specP mode t h).tm true (fun h => by cases h) f (.rparen :: rest) ⟨_, _, rfl, rfl⟩
          (by simp [termToks] at hf; omega)
        simp [termToks, parseTerm1, this, Outcome.bind, expect]
    | .new cs ty, h => by
      simp only [InRange] at h
      obtain ⟨hcs, rfl⟩ := h
      refine spec_of_ch (by simp [level]) ?_
      intro allow f rest hr hf
      cases f with
      | zero => omega
      | succ f =>
        have := clausesP mode .codata cs hcs f rest (by simp [termToks] at hf; omega)
        conv => lhs; unfold parseTerm
        simp [termToks, this, Outcome.bind, expect, chain]
    | .ctor k as ty, h => by
      simp only [InRange] at h
      obtain ⟨has, rfl⟩ := h
      refine spec_of_ch (by simp [level]) ?_
      intro allow f rest hr hf
      obtain ⟨tk, r, rfl, hp⟩ := hr
      cases f with
      | zero => omega
      | succ f =>
        match as, has with
        | .nil, _ =>
          conv => lhs; unfold parseTerm
          cases tk <;> simp [postTok] at hp <;> simp [termToks, chain, String.ofList_toList]
        | .cons a r', has =>
          have := argsP mode (.cons a r') has f (tk :: r) (by simp [termToks] at hf; omega)
          conv => lhs; unfold parseTerm
          simp [termToks, this, Outcome.bind, chain, String.ofList_toList]
    | .dtor s d tas as ty, h => by
      simp only [InRange] at h
      obtain ⟨hs, hls, has, rfl⟩ := h
      refine spec_of_ch (by simp [level]) ?_
      intro allow f rest hr hf
      have hcs := chain_le s
      have hlen : (termToks (.dtor s d tas as none)).length =
          (termToks s).length + 2 + (tyArgToks tas).length + (optArgsToks as).length := by
        cases as <;> simp [termToks, optArgsToks] <;> omega
      have hoa : (termsToks as).length ≤ (optArgsToks as).length := by
        cases as <;> simp [optArgsToks, termsToks] <;> omega
      have e : termToks (.dtor s d tas as none) ++ rest =
          termToks s ++ (.dot :: .lower d.toList :: (tyArgToks tas ++ (optArgsToks as ++ rest))) := by
        cases as <;> simp [termToks, optArgsToks]
      rw [e, (specP mode s hs).ch hls allow f _ ⟨_, _, rfl, rfl⟩ (by omega)]
      obtain ⟨g, hg⟩ : ∃ g, f - 1 - chain s = g + 1 := ⟨f - 2 - chain s, by omega⟩
      rw [hg, postfix_dtor s d tas as (argsP mode as has) g rest hr (by omega)]
      congr 1
      simp [chain]; omega
    | .case s tas cs ty, h => by
      simp only [InRange] at h
      obtain ⟨hs, hls, hcs, rfl⟩ := h
      refine spec_of_ch (by simp [level]) ?_
      intro allow f rest hr hf
      have hch := chain_le s
      have hlen : (termToks (.case s tas cs none)).length =
          (termToks s).length + 4 + (tyArgToks tas).length + (clausesToks cs).length := by
        simp [termToks]; omega
      have e : termToks (.case s tas cs none) ++ rest =
          termToks s ++ (.dot :: .kw .case_ :: (tyArgToks tas ++ .lbrace :: (clausesToks cs ++ .rbrace :: rest))) := by
        simp [termToks]
      rw [e, (specP mode s hs).ch hls allow f _ ⟨_, _, rfl, rfl⟩ (by omega)]
      obtain ⟨g, hg⟩ : ∃ g, f - 1 - chain s = g + 1 := ⟨f - 2 - chain s, by omega⟩
      rw [hg, postfix_case s tas cs (clausesP mode .data cs hcs) g rest (by omega)]
      congr 1
      simp [chain]; omega
    | .op a o b, h => by
      simp only [InRange] at h
      obtain ⟨ha, hb, hla, hlb⟩ := h
      refine spec_of_tm (by simp [level]) ?_
      intro allow _ f rest hr hf
      obtain ⟨tk, r, h0, _, hs⟩ := termToks_head a
      cases f with
      | zero => omega
      | succ f =>
        have hlen : (termToks (.op a o b)).length = (termToks a).length + 1 + (termToks b).length := by
          simp [termToks]; omega
        have h1 := (specP mode a ha).t1 hla f (binOpTok o :: (termToks b ++ rest)) ⟨_, _, rfl, binop_num o⟩
          (by omega)
        have h2 := (specP mode b hb).t1 hlb f rest (head_num_of_stop hr) (by omega)
        have e : termToks (.op a o b) ++ rest = tk :: (r ++ (binOpTok o :: (termToks b ++ rest))) := by
          simp [termToks, h0]
        rw [h0] at h1
        rw [e, parseTerm_t1 (hs hla), ← List.cons_append, h1]
        simp [Outcome.bind, afterTerm1, binOpOf_tok, h2]
    | .ifc c a b t e ty, h => by
      simp only [InRange] at h
      obtain ⟨ha, hb, ht, he, rfl⟩ := h
      refine spec_of_tm (by simp [level]) ?_
      intro allow _ f rest hr hf
      obtain ⟨tk, r, h0, hst, _⟩ := termToks_head a
      have hlen : (termToks (.ifc c a b t e none)).length =
          (termToks a).length + (termToks b).length + (termToks t).length + (termToks e).length + 7 := by
        simp [termToks]; omega
      obtain ⟨g, rfl⟩ : ∃ g, f = g + 3 := ⟨f - 3, by omega⟩
      have h1 := (specP mode a ha).tm true (fun h => by cases h) (g + 2)
        (.cmp c :: (termToks b ++ .lbrace :: (termToks t ++ .rbrace :: .kw .else_ :: .lbrace :: (termToks e ++ .rbrace :: rest))))
        ⟨_, _, rfl, rfl⟩ (by omega)
      have h2 := (specP mode b hb).tm true (fun h => by cases h) (g + 2)
        (.lbrace :: (termToks t ++ .rbrace :: .kw .else_ :: .lbrace :: (termToks e ++ .rbrace :: rest)))
        ⟨_, _, rfl, rfl⟩ (by omega)
      have h3 := thenElseP (specP mode t ht).tm (specP mode e he).tm g rest (by omega) (by omega)
      have e' : termToks (.ifc c a b t e none) ++ rest = .kw .if_ :: tk :: (r ++
          (.cmp c :: (termToks b ++ .lbrace :: (termToks t ++ .rbrace :: .kw .else_ :: .lbrace :: (termToks e ++ .rbrace :: rest))))) := by
        simp [termToks, h0]
      rw [h0] at h1
      rw [e', parseTerm_if hst, ← List.cons_append, h1]
      simp [Outcome.bind, afterIfFst, h2, h3]
    | .ifz c a t e ty, h => by
      simp only [InRange] at h
      obtain ⟨ha, ht, he, rfl⟩ := h
      refine spec_of_tm (by simp [level]) ?_
      intro allow _ f rest hr hf
      obtain ⟨tk, r, h0, hst, _⟩ := termToks_head a
      have hlen : (termToks (.ifz c a t e none)).length =
          (termToks a).length + (termToks t).length + (termToks e).length + 7 := by
        simp [termToks]; omega
      obtain ⟨g, rfl⟩ : ∃ g, f = g + 3 := ⟨f - 3, by omega⟩
      have h1 := (specP mode a ha).tm true (fun h => by cases h) (g + 2)
        (.zcmpL c :: .lbrace :: (termToks t ++ .rbrace :: .kw .else_ :: .lbrace :: (termToks e ++ .rbrace :: rest)))
        ⟨_, _, rfl, rfl⟩ (by omega)
      have h3 := thenElseP (specP mode t ht).tm (specP mode e he).tm g rest (by omega) (by omega)
      have e' : termToks (.ifz c a t e none) ++ rest = .kw .if_ :: tk :: (r ++
          (.zcmpL c :: .lbrace :: (termToks t ++ .rbrace :: .kw .else_ :: .lbrace :: (termToks e ++ .rbrace :: rest)))) := by
        simp [termToks, h0]
      rw [h0] at h1
      rw [e', parseTerm_if hst, ← List.cons_append, h1]
      simp [Outcome.bind, afterIfFst, h3]
    | .print nl a n ty, h => by
      simp only [InRange] at h
      obtain ⟨ha, hn, rfl⟩ := h
      refine spec_of_tm (by simp [level]) ?_
      intro allow hal f rest hr hf
      have hallow : allow = true := by
        cases allow
        · have := hal rfl; simp [level] at this
        · rfl
      subst hallow
      have hlen : (termToks (.print nl a n none)).length = (termToks a).length + (termToks n).length + 4 := by
        simp [termToks]; omega
      cases f with
      | zero => omega
      | succ f =>
        have h1 := (specP mode a ha).tm true (fun h => by cases h) f (.rparen :: .semi :: (termToks n ++ rest))
          ⟨_, _, rfl, rfl⟩ (by omega)
        have h2 := (specP mode n hn).tm true (fun h => by cases h) f rest hr (by omega)
        conv => lhs; unfold parseTerm
        cases nl <;> simp [termToks, h1, h2, Outcome.bind, expect]
    | .letIn x vty b i ty, h => by
      simp only [InRange] at h
      obtain ⟨hb, hi, hlb, rfl⟩ := h
      refine spec_of_tm (by simp [level]) ?_
      intro allow _ f rest hr hf
      have hlen : (termToks (.letIn x vty b i none)).length =
          (tyToks vty).length + (termToks b).length + (termToks i).length + 5 := by
        simp [termToks]; omega
      cases f with
      | zero => omega
      | succ f =>
        have h0 := tyP vty f (.assign :: (termToks b ++ .semi :: (termToks i ++ rest))) (fun r h => by cases h)
          (by omega)
        have h1 := (specP mode b hb).tm false (fun _ => hlb) f (.semi :: (termToks i ++ rest))
          ⟨_, _, rfl, rfl⟩ (by omega)
        have h2 := (specP mode i hi).tm true (fun h => by cases h) f rest hr (by omega)
        conv => lhs; unfold parseTerm
        simp [termToks, h0, h1, h2, Outcome.bind, expect, String.ofList_toList]
    | .label a t ty, h => by
      simp only [InRange] at h
      obtain ⟨ht, rfl⟩ := h
      refine spec_of_tm (by simp [level]) ?_
      intro allow _ f rest hr hf
      have hlen : (termToks (.label a t none)).length = (termToks t).length + 4 := by
        simp [termToks]
      obtain ⟨g, rfl⟩ : ∃ g, f = g + 2 := ⟨f - 2, by omega⟩
      have h1 := bracedP (specP mode t ht).tm g rest (by omega)
      conv => lhs; unfold parseTerm
      simp [termToks, h1, Outcome.bind, String.ofList_toList]
    | .goto a t ty, h => by
      simp only [InRange] at h
      obtain ⟨ht, rfl⟩ := h
      refine spec_of_tm (by simp [level]) ?_
      intro allow _ f rest hr hf
      have hlen : (termToks (.goto a t none)).length = (termToks t).length + 4 := by
        simp [termToks]
      cases f with
      | zero => omega
      | succ f =>
        have h1 := (specP mode t ht).tm true (fun h => by cases h) f (.rparen :: rest) ⟨_, _, rfl, rfl⟩ (by omega)
        conv => lhs; unfold parseTerm
        simp [termToks, h1, Outcome.bind, expect, String.ofList_toList]
    | .exit t ty, h => by
      simp only [InRange] at h
      obtain ⟨ht, rfl⟩ := h
      refine spec_of_tm (by simp [level]) ?_
      intro allow _ f rest hr hf
      have hlen : (termToks (.exit t none)).length = (termToks t).length + 1 := by
        simp [termToks]
      cases f with
      | zero => omega
      | succ f =>
        have h1 := (specP mode t ht).tm true (fun h => by cases h) f rest hr (by omega)
        conv => lhs; unfold parseTerm
        simp [termToks, h1, Outcome.bind]
  theorem argsP (mode : LiteralMode) : (as : Terms) → InRanges as → ReadsArgs mode as
    | .nil, _ => by
      intro f rest hf
      cases f with
      | zero => omega
      | succ f => simp [termsToks, parseArgs]
    | .cons t .nil, h => by
      simp only [InRanges] at h
      intro f rest hf
      cases f with
      | zero => omega
      | succ f =>
        obtain ⟨tk, r, h0, hst, _⟩ := termToks_head t
        have h1 := (specP mode t h.1).tm true (fun h => by cases h) f (.rparen :: rest) ⟨_, _, rfl, rfl⟩
          (by simp [termsToks] at hf; omega)
        simp only [termsToks]
        unfold parseArgs
        split
        · rename_i h'; rw [h0] at h'; injection h' with h1' _; subst h1'; simp [termStart] at hst
        · simp [h1, Outcome.bind]
    | .cons t (.cons t' r'), h => by
      simp only [InRanges] at h
      intro f rest hf
      cases f with
      | zero => omega
      | succ f =>
        obtain ⟨tk, r, h0, hst, _⟩ := termToks_head t
        have hlen : (termsToks (.cons t (.cons t' r'))).length =
            (termToks t).length + 1 + (termsToks (.cons t' r')).length := by
          simp [termsToks]; omega
        have h1 := (specP mode t h.1).tm true (fun h => by cases h) f
          (.comma :: (termsToks (.cons t' r') ++ .rparen :: rest)) ⟨_, _, rfl, rfl⟩ (by omega)
        have h2 := argsP mode (.cons t' r') ⟨h.2.1, h.2.2⟩ f rest (by omega)
        have e : termsToks (.cons t (.cons t' r')) ++ .rparen :: rest =
            termToks t ++ (.comma :: (termsToks (.cons t' r') ++ .rparen :: rest)) := by
          simp [termsToks]
        rw [e]
        unfold parseArgs
        split
        · rename_i h'; rw [h0] at h'; injection h' with h1' _; subst h1'; simp [termStart] at hst
        · simp [h1, h2, Outcome.bind]
  theorem clausesP (mode : LiteralMode) (pol : Polarity) : (cs : Clauses) → InRangeCs pol cs →
      ReadsClauses mode pol cs
    | .nil, _ => by
      intro f rest hf
      cases f with
      | zero => omega
      | succ f => simp [clausesToks, parseClauses]
    | .cons p x ns ctx b .nil, h => by
      simp only [InRangeCs] at h
      obtain ⟨rfl, rfl, hb, _⟩ := h
      intro f rest hf
      cases f with
      | zero => omega
      | succ f =>
        have hn := namesToks_length ns
        have hlen : (clausesToks (.cons p x ns [] b .nil)).length =
            (namesToks ns).length + (termToks b).length + 2 := by
          simp [clausesToks]; omega
        have h0 := optNamesP ns f (.fatArrow :: (termToks b ++ .rbrace :: rest)) (fun r h => by cases h)
          (by omega)
        have h1 := (specP mode b hb).tm true (fun h => by cases h) f (.rbrace :: rest) ⟨_, _, rfl, rfl⟩
          (by omega)
        unfold parseClauses
        cases p <;> simp [clausesToks, xtorTok, h0, h1, Outcome.bind, expect, String.ofList_toList]
    | .cons p x ns ctx b (.cons p2 x2 ns2 c2 b2 r2), h => by
      simp only [InRangeCs] at h
      obtain ⟨rfl, rfl, hb, hr⟩ := h
      intro f rest hf
      cases f with
      | zero => omega
      | succ f =>
        have hn := namesToks_length ns
        have hlen : (clausesToks (.cons p x ns [] b (.cons p2 x2 ns2 c2 b2 r2))).length =
            (namesToks ns).length + (termToks b).length + 3 + (clausesToks (.cons p2 x2 ns2 c2 b2 r2)).length := by
          simp [clausesToks]; omega
        have h0 := optNamesP ns f
          (.fatArrow :: (termToks b ++ .comma :: (clausesToks (.cons p2 x2 ns2 c2 b2 r2) ++ .rbrace :: rest)))
          (fun r h => by cases h) (by omega)
        have h1 := (specP mode b hb).tm true (fun h => by cases h) f
          (.comma :: (clausesToks (.cons p2 x2 ns2 c2 b2 r2) ++ .rbrace :: rest)) ⟨_, _, rfl, rfl⟩ (by omega)
        have h2 := clausesP mode p (.cons p2 x2 ns2 c2 b2 r2) hr f rest (by omega)
        have e : clausesToks (.cons p x ns [] b (.cons p2 x2 ns2 c2 b2 r2)) ++ .rbrace :: rest =
            xtorTok p x :: (namesToks ns ++ (.fatArrow :: (termToks b ++
              .comma :: (clausesToks (.cons p2 x2 ns2 c2 b2 r2) ++ .rbrace :: rest)))) := by
          simp [clausesToks]
        rw [e]
        unfold parseClauses
        cases p <;> simp [xtorTok, h0, h1, h2, Outcome.bind, expect, String.ofList_toList]
end


theorem bindingP (b : Binding) (f : Nat) (rest : List Token) (hr : NoLbrack rest)
    (hf : 2 * (bindingToks b).length ≤ f) : parseBinding f (bindingToks b ++ rest) = .ok (b, rest) := by
  obtain ⟨x, chi, ty⟩ := b
  have h := tyP ty f rest hr (by simp [bindingToks] at hf; omega)
  cases chi <;> simp [bindingToks, parseBinding, h, Outcome.bind, String.ofList_toList]

theorem bindingToks_head (b : Binding) : ∃ x r, bindingToks b = .lower x :: r := ⟨_, _, rfl⟩

theorem bindingsP : (c : Ctx) → ∀ (f : Nat) (rest : List Token), 2 * (ctxToks c).length + 2 ≤ f →
    parseBindings f (ctxToks c ++ .rparen :: rest) = .ok (c, rest)
  | [], f, rest, hf => by
    cases f with
    | zero => omega
    | succ f => simp [ctxToks, joinToks, parseBindings]
  | [b], f, rest, hf => by
    cases f with
    | zero => omega
    | succ f =>
      have h := bindingP b f (.rparen :: rest) (fun r h => by cases h) (by
        simp [ctxToks, joinToks] at hf; omega)
      obtain ⟨x, r, h0⟩ := bindingToks_head b
      simp only [ctxToks, List.map_cons, List.map_nil, joinToks]
      unfold parseBindings
      split
      · rename_i h'; rw [h0] at h'; cases h'
      · simp [h, Outcome.bind]
  | b :: b' :: c, f, rest, hf => by
    cases f with
    | zero => omega
    | succ f =>
      have hlen : (ctxToks (b :: b' :: c)).length = (bindingToks b).length + 1 + (ctxToks (b' :: c)).length := by
        simp [ctxToks, joinToks]; omega
      have h := bindingP b f (.comma :: (ctxToks (b' :: c) ++ .rparen :: rest)) (fun r h => by cases h) (by omega)
      have h2 := bindingsP (b' :: c) f rest (by omega)
      obtain ⟨x, r, h0⟩ := bindingToks_head b
      have e : ctxToks (b :: b' :: c) ++ .rparen :: rest =
          bindingToks b ++ (.comma :: (ctxToks (b' :: c) ++ .rparen :: rest)) := by
        simp [ctxToks, joinToks]
      rw [e]
      generalize ctxToks (b' :: c) = J at h h2
      unfold parseBindings
      split
      · rename_i h'; rw [h0] at h'; cases h'
      · simp [h, h2, Outcome.bind]

def optCtxToks (c : Ctx) : List Token :=
  match c with
  | [] => []
  | _ => .lparen :: ctxToks c ++ [.rparen]

theorem optCtxP (c : Ctx) (f : Nat) (rest : List Token) (hr : NoLparen rest)
    (hf : 2 * (optCtxToks c).length + 2 ≤ f) : parseOptCtx f (optCtxToks c ++ rest) = .ok (c, rest) := by
  cases c with
  | nil =>
    simp only [optCtxToks, List.nil_append]
    unfold parseOptCtx
    split
    · rename_i r; exact absurd rfl (hr r)
    · rfl
  | cons b c =>
    have := bindingsP (b :: c) f rest (by simp [optCtxToks] at hf; omega)
    simp only [optCtxToks, List.cons_append, List.append_assoc, List.nil_append]
    unfold parseOptCtx
    simp only [this]

theorem tyNamesP : (n : String) → (ns : List String) → ∀ (f : Nat) (rest : List Token), ns.length + 1 ≤ f →
    parseTyNames f (joinToks [.comma] ((n :: ns).map fun n => [Token.upper n.toList]) ++ .rbrack :: rest)
      = .ok (n :: ns, rest)
  | n, [], f, rest, hf => by
    cases f with
    | zero => simp at hf
    | succ f => simp [joinToks, parseTyNames, String.ofList_toList]
  | n, m :: ns, f, rest, hf => by
    cases f with
    | zero => simp at hf
    | succ f =>
      have ih := tyNamesP m ns f rest (by simp at hf ⊢; omega)
      simp only [List.map_cons] at ih
      simp [joinToks, parseTyNames, ih, Outcome.bind, String.ofList_toList]

theorem tyParamsToks_length (ns : List String) : ns.length ≤ (tyParamsToks ns).length := by
  cases ns with
  | nil => simp
  | cons n r =>
    have : ∀ (m : String) (l : List String),
        (m :: l).length ≤ (joinToks [Token.comma] ((m :: l).map fun n => [Token.upper n.toList])).length := by
      intro m l
      induction l generalizing m with
      | nil => simp [joinToks]
      | cons k l ih => have := ih k; simp [joinToks] at this ⊢; omega
    have := this n r
    simp [tyParamsToks] at this ⊢; omega

theorem optTyNamesP (ns : List String) (f : Nat) (rest : List Token) (hr : NoLbrack rest)
    (hf : ns.length + 1 ≤ f) : parseOptTyNames f (tyParamsToks ns ++ rest) = .ok (ns, rest) := by
  cases ns with
  | nil =>
    simp only [tyParamsToks, List.nil_append]
    unfold parseOptTyNames
    split
    · rename_i r; exact absurd rfl (hr r)
    · rfl
  | cons n ns =>
    have := tyNamesP n ns f rest (by simp at hf ⊢; omega)
    simp only [List.map_cons] at this
    simp only [tyParamsToks, List.cons_append, List.append_assoc, List.map_cons, List.nil_append]
    unfold parseOptTyNames
    simp only [this]

theorem ctorSigToks_eq (c : CtorSig) : ctorSigToks c = .upper c.name.toList :: optCtxToks c.args := by
  obtain ⟨n, a⟩ := c
  cases a <;> simp [ctorSigToks, optCtxToks]

theorem dtorSigToks_eq (d : DtorSig) :
    dtorSigToks d = .lower d.name.toList :: (optCtxToks d.args ++ .colon :: tyToks d.contTy) := by
  obtain ⟨n, a, t⟩ := d
  cases a <;> simp [dtorSigToks, optCtxToks]

theorem ctorSigsP : (cs : List CtorSig) → ∀ (f : Nat) (rest : List Token),
    2 * (joinToks [.comma] (cs.map ctorSigToks)).length + 3 ≤ f →
    parseCtorSigs f (joinToks [.comma] (cs.map ctorSigToks) ++ .rbrace :: rest) = .ok (cs, rest)
  | [], f, rest, hf => by
    cases f with
    | zero => omega
    | succ f => simp [joinToks, parseCtorSigs]
  | [c], f, rest, hf => by
    cases f with
    | zero => omega
    | succ f =>
      have h := optCtxP c.args f (.rbrace :: rest) (fun r h => by cases h) (by
        simp [joinToks, ctorSigToks_eq] at hf; omega)
      simp only [List.map_cons, List.map_nil, joinToks, ctorSigToks_eq, List.cons_append]
      unfold parseCtorSigs
      simp [h, Outcome.bind, String.ofList_toList]
  | c :: c' :: cs, f, rest, hf => by
    cases f with
    | zero => omega
    | succ f =>
      have hlen : (joinToks [.comma] ((c :: c' :: cs).map ctorSigToks)).length =
          (optCtxToks c.args).length + 2 + (joinToks [.comma] ((c' :: cs).map ctorSigToks)).length := by
        simp [joinToks, ctorSigToks_eq]; omega
      have h := optCtxP c.args f (.comma :: (joinToks [.comma] ((c' :: cs).map ctorSigToks) ++ .rbrace :: rest))
        (fun r h => by cases h) (by omega)
      have h2 := ctorSigsP (c' :: cs) f rest (by omega)
      have e : joinToks [.comma] ((c :: c' :: cs).map ctorSigToks) ++ .rbrace :: rest =
          .upper c.name.toList :: (optCtxToks c.args ++
            (.comma :: (joinToks [.comma] ((c' :: cs).map ctorSigToks) ++ .rbrace :: rest))) := by
        simp [joinToks, ctorSigToks_eq]
      rw [e]
      generalize joinToks [.comma] ((c' :: cs).map ctorSigToks) = J at h h2
      unfold parseCtorSigs
      simp [h, h2, Outcome.bind, String.ofList_toList]

theorem dtorSigsP : (ds : List DtorSig) → ∀ (f : Nat) (rest : List Token),
    2 * (joinToks [.comma] (ds.map dtorSigToks)).length + 3 ≤ f →
    parseDtorSigs f (joinToks [.comma] (ds.map dtorSigToks) ++ .rbrace :: rest) = .ok (ds, rest)
  | [], f, rest, hf => by
    cases f with
    | zero => omega
    | succ f => simp [joinToks, parseDtorSigs]
  | [d], f, rest, hf => by
    cases f with
    | zero => omega
    | succ f =>
      have hlen : (joinToks [.comma] ([d].map dtorSigToks)).length =
          (optCtxToks d.args).length + 2 + (tyToks d.contTy).length := by
        simp [joinToks, dtorSigToks_eq]; omega
      have h := optCtxP d.args f (.colon :: (tyToks d.contTy ++ .rbrace :: rest)) (fun r h => by cases h) (by omega)
      have h1 := tyP d.contTy f (.rbrace :: rest) (fun r h => by cases h) (by omega)
      have e : joinToks [.comma] ([d].map dtorSigToks) ++ .rbrace :: rest =
          .lower d.name.toList :: (optCtxToks d.args ++ (.colon :: (tyToks d.contTy ++ .rbrace :: rest))) := by
        simp [joinToks, dtorSigToks_eq]
      rw [e]
      unfold parseDtorSigs
      simp [h, h1, Outcome.bind, expect, String.ofList_toList]
  | d :: d' :: ds, f, rest, hf => by
    cases f with
    | zero => omega
    | succ f =>
      have hlen : (joinToks [.comma] ((d :: d' :: ds).map dtorSigToks)).length =
          (optCtxToks d.args).length + 3 + (tyToks d.contTy).length +
            (joinToks [.comma] ((d' :: ds).map dtorSigToks)).length := by
        simp [joinToks, dtorSigToks_eq]; omega
      have h := optCtxP d.args f (.colon :: (tyToks d.contTy ++
          (.comma :: (joinToks [.comma] ((d' :: ds).map dtorSigToks) ++ .rbrace :: rest))))
        (fun r h => by cases h) (by omega)
      have h1 := tyP d.contTy f (.comma :: (joinToks [.comma] ((d' :: ds).map dtorSigToks) ++ .rbrace :: rest))
        (fun r h => by cases h) (by omega)
      have h2 := dtorSigsP (d' :: ds) f rest (by omega)
      have e : joinToks [.comma] ((d :: d' :: ds).map dtorSigToks) ++ .rbrace :: rest =
          .lower d.name.toList :: (optCtxToks d.args ++ (.colon :: (tyToks d.contTy ++
            (.comma :: (joinToks [.comma] ((d' :: ds).map dtorSigToks) ++ .rbrace :: rest))))) := by
        simp [joinToks, dtorSigToks_eq]
      rw [e]
      generalize joinToks [.comma] ((d' :: ds).map dtorSigToks) = J at h h1 h2
      unfold parseDtorSigs
      simp [h, h1, h2, Outcome.bind, expect, String.ofList_toList]


theorem declP (mode : LiteralMode) (d : Decl) (hd : InRangeDecl d) (fuel : Nat) (rest : List Token)
    (hf : 3 * (declToks d).length + 6 ≤ fuel) : parseDecl mode fuel (declToks d ++ rest) = .ok (d, rest) := by
  cases d with
  | data d =>
    obtain ⟨name, ps, cs⟩ := d
    have hp := tyParamsToks_length ps
    have hlen : (declToks (.data ⟨name, ps, cs⟩)).length =
        (tyParamsToks ps).length + (joinToks [.comma] (cs.map ctorSigToks)).length + 4 := by
      simp [declToks]; omega
    have h1 := optTyNamesP ps fuel (.lbrace :: (joinToks [.comma] (cs.map ctorSigToks) ++ .rbrace :: rest))
      (fun r h => by cases h) (by omega)
    have h2 := ctorSigsP cs fuel rest (by omega)
    have e : declToks (.data ⟨name, ps, cs⟩) ++ rest = .kw .data :: .upper name.toList ::
        (tyParamsToks ps ++ (.lbrace :: (joinToks [.comma] (cs.map ctorSigToks) ++ .rbrace :: rest))) := by
      simp [declToks]
    rw [e]
    unfold parseDecl
    simp [h1, h2, Outcome.bind, expect, String.ofList_toList]
  | codata d =>
    obtain ⟨name, ps, ds⟩ := d
    have hp := tyParamsToks_length ps
    have hlen : (declToks (.codata ⟨name, ps, ds⟩)).length =
        (tyParamsToks ps).length + (joinToks [.comma] (ds.map dtorSigToks)).length + 4 := by
      simp [declToks]; omega
    have h1 := optTyNamesP ps fuel (.lbrace :: (joinToks [.comma] (ds.map dtorSigToks) ++ .rbrace :: rest))
      (fun r h => by cases h) (by omega)
    have h2 := dtorSigsP ds fuel rest (by omega)
    have e : declToks (.codata ⟨name, ps, ds⟩) ++ rest = .kw .codata :: .upper name.toList ::
        (tyParamsToks ps ++ (.lbrace :: (joinToks [.comma] (ds.map dtorSigToks) ++ .rbrace :: rest))) := by
      simp [declToks]
    rw [e]
    unfold parseDecl
    simp [h1, h2, Outcome.bind, expect, String.ofList_toList]
  | defn d =>
    obtain ⟨name, ctx, ret, body⟩ := d
    simp only [InRangeDecl] at hd
    have hlen : (declToks (.defn ⟨name, ctx, ret, body⟩)).length =
        (ctxToks ctx).length + (tyToks ret).length + (termToks body).length + 7 := by
      simp [declToks]; omega
    obtain ⟨g, rfl⟩ : ∃ g, fuel = g + 1 := ⟨fuel - 1, by omega⟩
    have h1 := bindingsP ctx (g + 1) (.colon :: (tyToks ret ++ .lbrace :: (termToks body ++ .rbrace :: rest)))
      (by omega)
    have h2 := tyP ret (g + 1) (.lbrace :: (termToks body ++ .rbrace :: rest)) (fun r h => by cases h) (by omega)
    have h3 := bracedP (specP mode body hd).tm g rest (by omega)
    have e : declToks (.defn ⟨name, ctx, ret, body⟩) ++ rest = .kw .def_ :: .lower name.toList :: .lparen ::
        (ctxToks ctx ++ (.rparen :: .colon :: (tyToks ret ++ .lbrace :: (termToks body ++ .rbrace :: rest)))) := by
      simp [declToks]
    rw [e]
    unfold parseDecl
    simp [parseOptCtx, h1, h2, h3, Outcome.bind, expect, String.ofList_toList]

theorem declToks_ne_nil (d : Decl) : ∃ tk r, declToks d = tk :: r := by
  cases d <;> exact ⟨_, _, rfl⟩

theorem declsP (mode : LiteralMode) (fuel : Nat) : (ds : List Decl) → (∀ d ∈ ds, InRangeDecl d) →
    (∀ d ∈ ds, 3 * (declToks d).length + 6 ≤ fuel) → ∀ k, ds.length ≤ k →
    parseDecls mode fuel k ((ds.map declToks).flatten) = .ok ds
  | [], _, _, k, _ => by
    cases k <;> simp [parseDecls]
  | d :: ds, hin, hf, k, hk => by
    cases k with
    | zero => simp at hk
    | succ k =>
      have h1 := declP mode d (hin d (by simp)) fuel ((ds.map declToks).flatten) (hf d (by simp))
      have h2 := declsP mode fuel ds (fun x hx => hin x (by simp [hx])) (fun x hx => hf x (by simp [hx])) k
        (by simp at hk; omega)
      obtain ⟨tk, r, h0⟩ := declToks_ne_nil d
      simp only [List.map_cons, List.flatten_cons]
      rw [h0] at h1 ⊢
      simp only [List.cons_append] at h1 ⊢
      unfold parseDecls
      simp [h1, h2, Outcome.bind]

theorem length_le_flatten_map (ds : List Decl) (d : Decl) (h : d ∈ ds) :
    (declToks d).length ≤ ((ds.map declToks).flatten).length := by
  induction ds with
  | nil => cases h
  | cons x xs ih =>
    simp only [List.map_cons, List.flatten_cons, List.length_append]
    cases h with
    | head => omega
    | tail _ h' => have := ih h'; omega

theorem length_le_flatten (ds : List Decl) : ds.length ≤ ((ds.map declToks).flatten).length := by
  induction ds with
  | nil => simp
  | cons x xs ih =>
    obtain ⟨tk, r, h0⟩ := declToks_ne_nil x
    simp only [List.map_cons, List.flatten_cons, List.length_append, List.length_cons, h0]
    omega

/-- C16-T2 `parse_tokens`: the parser maps the token sequence of a program in the image of the
grammar back to the program. -/
theorem parse_tokens (mode : LiteralMode) (p : Program) (h : InRangeProg p) :
    parseTokens mode (tokens p) = .ok p := by
  unfold parseTokens tokens
  have := declsP mode (fuelFor ((p.decls.map declToks).flatten).length) p.decls h
    (fun d hd => by have := length_le_flatten_map p.decls d hd; simp only [fuelFor]; omega)
    (((p.decls.map declToks).flatten).length + 1) (by have := length_le_flatten p.decls; omega)
  rw [this]
  rfl


end Scc.Fun.Print
