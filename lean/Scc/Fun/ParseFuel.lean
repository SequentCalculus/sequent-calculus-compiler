/-
  Scc.Fun.ParseFuel — the fuel of the parser model (Scc.Fun.Parse) is always enough: with
  `fuelFor (number of tokens)` no parser function answers `diag .fuel`, for EVERY token list (well-formed
  or not).  This is the `diag` clause of the judgment `Run` (Scc.Fun.ParseRun, where the measure is explained),
  established for every parser function by the walk in Scc.Fun.ParseInRange; `fuelFor n = 4 * n + 8` is above
  the `2 * n + 1` that `parseDecl` needs.
-/
import Scc.Fun.ParseInRange

namespace Scc.Fun.Parse
open Scc.Fun.Lex Scc.Fun.Print

/-- `parseDecls` does not run out as soon as its fuel is above `2 * ts.length` and its bound `n` on the number
of declarations is at least the number of tokens: about half of what the driver passes (`fuelFor`, `ts.length + 1`). -/
theorem parseDecls_ne_fuel (mode : LiteralMode) (fuel n : Nat) (ts : List Token)
    (hn : ts.length ≤ n) (hf : 2 * ts.length + 1 ≤ fuel) :
    parseDecls mode fuel n ts ≠ .diag .fuel := by
  have hr := run_parseDecls (W := False) (mode := mode) fuel n ts False.elim
  intro ho
  rw [ho] at hr
  rcases hr rfl with h | h <;> omega

theorem parseTokens_ne_fuel (mode : LiteralMode) (ts : List Token) :
    parseTokens mode ts ≠ .diag .fuel := by
  have h := parseDecls_ne_fuel mode (fuelFor ts.length) (ts.length + 1) ts (Nat.le_succ _)
    (by unfold fuelFor; omega)
  unfold parseTokens
  cases ho : parseDecls mode (fuelFor ts.length) (ts.length + 1) ts with
  | ok ds => intro h'; cases h'
  | panic s => intro h'; cases h'
  | diag c => intro h'; cases h'; exact h ho

theorem parseChars_ne_fuel (mode : LiteralMode) (cs : List Char) :
    parseChars mode cs ≠ .diag .fuel := parseTokens_ne_fuel mode _

theorem parse_ne_fuel (mode : LiteralMode) (src : String) : parse mode src ≠ .diag .fuel :=
  parseChars_ne_fuel mode _

end Scc.Fun.Parse
