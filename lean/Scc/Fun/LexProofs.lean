/-
  Scc.Fun.LexProofs — lemmas about the lexer model (Scc.Fun.Lex): the one-step behaviour of
  `lexStep` on the text of each token (`lexStep_tokText`), and the main lemma `lexStream_spells`: a
  string that is a sequence of token texts separated by (possibly empty) white space lexes to exactly
  those tokens, provided every token is followed by something that cannot extend it (`okAfter`).
  `okAfter` is where the delicate tokens show: `0` followed (after white space) by a comparison
  symbol, a comparison symbol followed by `0`, `:` followed by `cns`.
-/
import Scc.Fun.Lex

namespace Scc.Fun.Lex

def Gap (g : List Char) : Prop := ∀ c ∈ g, isWs c = true

theorem Gap.nil : Gap [] := by intro c h; cases h

theorem Gap.cons {c : Char} {g : List Char} (hc : isWs c = true) (hg : Gap g) : Gap (c :: g) := by
  intro d hd
  cases hd with
  | head => exact hc
  | tail _ h => exact hg d h

theorem Gap.append {g h : List Char} (hg : Gap g) (hh : Gap h) : Gap (g ++ h) := by
  intro c hc
  rcases List.mem_append.mp hc with h1 | h1
  · exact hg c h1
  · exact hh c h1

theorem Gap.tail {c : Char} {g : List Char} (h : Gap (c :: g)) : Gap g :=
  fun d hd => h d (List.mem_cons_of_mem _ hd)

theorem Gap.head {c : Char} {g : List Char} (h : Gap (c :: g)) : isWs c = true :=
  h c (List.mem_cons_self)

theorem gap_space : Gap [' '] := Gap.cons (by decide) Gap.nil

theorem gap_replicate (k : Nat) : Gap (List.replicate k ' ') := by
  intro c hc
  have := List.eq_of_mem_replicate hc
  subst this; decide

theorem gap_newline (k : Nat) : Gap ('\n' :: List.replicate k ' ') :=
  Gap.cons (by decide) (gap_replicate k)

def notHead (p : Char → Bool) : List Char → Bool
  | [] => true
  | c :: _ => !p c

theorem dropWhile_all {p : Char → Bool} {a b : List Char} (ha : ∀ c ∈ a, p c = true)
    (hb : notHead p b = true) : (a ++ b).dropWhile p = b := by
  induction a with
  | nil =>
    cases b with
    | nil => rfl
    | cons c b => simp [notHead] at hb; simp [hb]
  | cons c a ih =>
    have hc := ha c List.mem_cons_self
    simp only [List.cons_append, List.dropWhile_cons, hc, if_true]
    exact ih (fun d hd => ha d (List.mem_cons_of_mem _ hd))

theorem takeWhile_all {p : Char → Bool} {a b : List Char} (ha : ∀ c ∈ a, p c = true)
    (hb : notHead p b = true) : (a ++ b).takeWhile p = a := by
  induction a with
  | nil =>
    cases b with
    | nil => rfl
    | cons c b => simp [notHead] at hb; simp [hb]
  | cons c a ih =>
    have hc := ha c List.mem_cons_self
    simp only [List.cons_append, List.takeWhile_cons, hc, if_true]
    rw [ih (fun d hd => ha d (List.mem_cons_of_mem _ hd))]

theorem dropWhile_gap {g r : List Char} (hg : Gap g) (hr : notHead isWs r = true) :
    (g ++ r).dropWhile isWs = r := dropWhile_all hg hr

def startsCmp : List Char → Bool
  | '=' :: '=' :: _ => true
  | '!' :: '=' :: _ => true
  | '<' :: _ => true
  | '>' :: _ => true
  | _ => false

def startsCns : List Char → Bool
  | 'c' :: 'n' :: 's' :: _ => true
  | _ => false

/-- `okAfter t rest`: the text of `t` followed by `rest` is lexed as `t` and then `rest`. -/
def okAfter : Token → List Char → Bool
  | .lower _, r => notHead isIdC r
  | .upper _, r => notHead isIdC r
  | .kw _, r => notHead isIdC r
  | .num ds, r => notHead isDigitC r && (ds != ['0'] || !startsCmp (r.dropWhile isWs))
  | .cmp .lt, r => notHead (· == '=') r && notHead (· == '0') (r.dropWhile isWs)
  | .cmp .gt, r => notHead (· == '=') r && notHead (· == '0') (r.dropWhile isWs)
  | .cmp _, r => notHead (· == '0') (r.dropWhile isWs)
  | .colon, r => !startsCns (r.dropWhile isWs)
  | .assign, r => notHead (fun c => c == '=' || c == '>') r
  | .slash, r => notHead (· == '/') r
  | .zcmpR _, _ => false
  | .bad, _ => false
  | _, _ => true

/-- `TokText t txt`: `txt` is a spelling of the token `t` (the printer never emits the mirrored
zero comparisons `zcmpR`, they have no spelling here). -/
inductive TokText : Token → List Char → Prop where
  | lparen : TokText .lparen ['(']
  | rparen : TokText .rparen [')']
  | lbrace : TokText .lbrace ['{']
  | rbrace : TokText .rbrace ['}']
  | lbrack : TokText .lbrack ['[']
  | rbrack : TokText .rbrack [']']
  | semi : TokText .semi [';']
  | fatArrow : TokText .fatArrow ['=', '>']
  | comma : TokText .comma [',']
  | colon : TokText .colon [':']
  | dot : TokText .dot ['.']
  | assign : TokText .assign ['=']
  | plus : TokText .plus ['+']
  | star : TokText .star ['*']
  | minus : TokText .minus ['-']
  | slash : TokText .slash ['/']
  | percent : TokText .percent ['%']
  | cmp (c : IfSort) : TokText (.cmp c) (sortChars c)
  | kw (k : Kw) : TokText (.kw k) k.chars
  | lower (c : Char) (w : List Char) : isLowerC c = true → (∀ d ∈ w, isIdC d = true) →
      kwOf (c :: w) = none → TokText (.lower (c :: w)) (c :: w)
  | upper (c : Char) (w : List Char) : isUpperC c = true → (∀ d ∈ w, isIdC d = true) →
      TokText (.upper (c :: w)) (c :: w)
  | zero : TokText (.num ['0']) ['0']
  | num (c : Char) (w : List Char) : isDigitC c = true → c ≠ '0' → (∀ d ∈ w, isDigitC d = true) →
      TokText (.num (c :: w)) (c :: w)
  | zcmpL (c : IfSort) (g : List Char) : Gap g → TokText (.zcmpL c) (sortChars c ++ g ++ ['0'])
  | colonCns (g : List Char) : Gap g → TokText .colonCns (':' :: g ++ ['c', 'n', 's'])

theorem lower_not_ws {c : Char} (h : isLowerC c = true) : isWs c = false := by
  simp only [isLowerC, isWs, Bool.and_eq_true, decide_eq_true_eq] at *
  simp only [Bool.or_eq_false_iff, Bool.and_eq_false_iff, decide_eq_false_iff_not, beq_eq_false_iff_ne]
  omega

theorem upper_not_ws {c : Char} (h : isUpperC c = true) : isWs c = false := by
  simp only [isUpperC, isWs, Bool.and_eq_true, decide_eq_true_eq] at *
  simp only [Bool.or_eq_false_iff, Bool.and_eq_false_iff, decide_eq_false_iff_not, beq_eq_false_iff_ne]
  omega

theorem upper_not_lower {c : Char} (h : isUpperC c = true) : isLowerC c = false := by
  simp only [isUpperC, isLowerC, Bool.and_eq_true, decide_eq_true_eq] at *
  simp only [Bool.and_eq_false_iff, decide_eq_false_iff_not]
  omega

theorem digit_not_ws {c : Char} (h : isDigitC c = true) : isWs c = false := by
  simp only [isDigitC, isWs, Bool.and_eq_true, decide_eq_true_eq] at *
  simp only [Bool.or_eq_false_iff, Bool.and_eq_false_iff, decide_eq_false_iff_not, beq_eq_false_iff_ne]
  omega

theorem digit_not_lower {c : Char} (h : isDigitC c = true) : isLowerC c = false := by
  simp only [isDigitC, isLowerC, Bool.and_eq_true, decide_eq_true_eq] at *
  simp only [Bool.and_eq_false_iff, decide_eq_false_iff_not]
  omega

theorem digit_not_upper {c : Char} (h : isDigitC c = true) : isUpperC c = false := by
  simp only [isDigitC, isUpperC, Bool.and_eq_true, decide_eq_true_eq] at *
  simp only [Bool.and_eq_false_iff, decide_eq_false_iff_not]
  omega


/-! ## one step on the text of a token

`lexStep` on an input whose first character is a given symbol is found by evaluation (`rfl`). -/

theorem lexStep_slash (rest : List Char) : lexStep ('/' :: rest) =
    match rest with
    | '/' :: r => .skip (afterSlashSlash r)
    | _ => .tok .slash rest := rfl

theorem lexStep_assign (rest : List Char) : lexStep ('=' :: rest) =
    match rest with
    | '=' :: r => afterCmp .eq r
    | '>' :: r => .tok .fatArrow r
    | _ => .tok .assign rest := rfl

theorem lexStep_colon (rest : List Char) : lexStep (':' :: rest) =
    match rest.dropWhile isWs with
    | 'c' :: 'n' :: 's' :: r => .tok .colonCns r
    | _ => .tok .colon rest := rfl

theorem lexStep_lt (rest : List Char) : lexStep ('<' :: rest) =
    match rest with
    | '=' :: r => afterCmp .le r
    | _ => afterCmp .lt rest := rfl

theorem lexStep_gt (rest : List Char) : lexStep ('>' :: rest) =
    match rest with
    | '=' :: r => afterCmp .ge r
    | _ => afterCmp .gt rest := rfl

theorem step_slash {rest : List Char} (ok : okAfter .slash rest = true) :
    lexStep ('/' :: rest) = .tok .slash rest := by
  rw [lexStep_slash]
  split
  · simp [okAfter, notHead] at ok
  · rfl

theorem step_assign {rest : List Char} (ok : okAfter .assign rest = true) :
    lexStep ('=' :: rest) = .tok .assign rest := by
  rw [lexStep_assign]
  split
  · simp [okAfter, notHead] at ok
  · simp [okAfter, notHead] at ok
  · rfl

theorem step_colon {rest : List Char} (ok : okAfter .colon rest = true) :
    lexStep (':' :: rest) = .tok .colon rest := by
  rw [lexStep_colon]
  split
  · rename_i h; simp [okAfter, h, startsCns] at ok
  · rfl

/-- After a comparison symbol the lexer looks for a `0`; `<` and `>` must not be followed by `=`. -/
theorem lexStep_sortChars {c : IfSort} {rest : List Char}
    (h : c = .lt ∨ c = .gt → notHead (· == '=') rest = true) :
    lexStep (sortChars c ++ rest) = afterCmp c rest := by
  cases c
  case lt =>
    rw [sortChars, List.cons_append, List.nil_append, lexStep_lt]
    split
    · simp [notHead] at h
    · rfl
  case gt =>
    rw [sortChars, List.cons_append, List.nil_append, lexStep_gt]
    split
    · simp [notHead] at h
    · rfl
  all_goals rfl

theorem afterCmp_plain {c : IfSort} {rest : List Char}
    (ok : notHead (· == '0') (rest.dropWhile isWs) = true) : afterCmp c rest = .tok (.cmp c) rest := by
  unfold afterCmp
  split
  · rename_i h; rw [h] at ok; simp [notHead] at ok
  · rfl

theorem step_cmp {c : IfSort} {rest : List Char} (ok : okAfter (.cmp c) rest = true) :
    lexStep (sortChars c ++ rest) = .tok (.cmp c) rest := by
  have h : (c = .lt ∨ c = .gt → notHead (· == '=') rest = true) ∧
      notHead (· == '0') (rest.dropWhile isWs) = true := by
    cases c <;> simpa [okAfter] using ok
  rw [lexStep_sortChars h.1, afterCmp_plain h.2]

theorem step_lowerword {c : Char} {w rest : List Char} (hc : isLowerC c = true)
    (hw : ∀ d ∈ w, isIdC d = true) (hr : notHead isIdC rest = true) :
    lexStep (c :: w ++ rest) = match kwOf (c :: w) with
      | some k => .tok (.kw k) rest
      | none => .tok (.lower (c :: w)) rest := by
  unfold lexStep
  simp only [List.cons_append, lower_not_ws hc, hc, if_true, Bool.false_eq_true, if_false,
    takeWhile_all hw hr, dropWhile_all hw hr]
  rfl

theorem step_kw {k : Kw} {rest : List Char} (ok : okAfter (.kw k) rest = true) :
    lexStep (k.chars ++ rest) = .tok (.kw k) rest := by
  simp only [okAfter] at ok
  cases k
  all_goals
    simp only [Kw.chars]
    rw [step_lowerword (by decide) (by decide) ok]
    rfl

theorem step_lower {c : Char} {w rest : List Char} (hc : isLowerC c = true)
    (hw : ∀ d ∈ w, isIdC d = true) (hk : kwOf (c :: w) = none)
    (ok : okAfter (.lower (c :: w)) rest = true) :
    lexStep (c :: w ++ rest) = .tok (.lower (c :: w)) rest := by
  simp only [okAfter] at ok
  rw [step_lowerword hc hw ok, hk]

theorem step_upper {c : Char} {w rest : List Char} (hc : isUpperC c = true)
    (hw : ∀ d ∈ w, isIdC d = true)
    (ok : okAfter (.upper (c :: w)) rest = true) :
    lexStep (c :: w ++ rest) = .tok (.upper (c :: w)) rest := by
  simp only [okAfter] at ok
  unfold lexStep
  simp only [List.cons_append, upper_not_ws hc, upper_not_lower hc, hc, if_true, Bool.false_eq_true,
    if_false, takeWhile_all hw ok, dropWhile_all hw ok]

theorem step_zero {rest : List Char} (ok : okAfter (.num ['0']) rest = true) :
    lexStep ('0' :: rest) = .tok (.num ['0']) rest := by
  simp [okAfter] at ok
  have h : lexStep ('0' :: rest) = afterZero rest := rfl
  rw [h]
  unfold afterZero
  have h := ok.2
  generalize rest.dropWhile isWs = d at h
  split <;> simp [startsCmp] at h
  rfl

theorem step_num {c : Char} {w rest : List Char} (hc : isDigitC c = true) (h0 : c ≠ '0')
    (hw : ∀ d ∈ w, isDigitC d = true) (ok : okAfter (.num (c :: w)) rest = true) :
    lexStep (c :: w ++ rest) = .tok (.num (c :: w)) rest := by
  simp only [okAfter, Bool.and_eq_true] at ok
  unfold lexStep
  have h0' : (c == '0') = false := by simp [h0]
  simp only [List.cons_append, digit_not_ws hc, digit_not_lower hc, digit_not_upper hc, hc, h0', if_true,
    Bool.false_eq_true, if_false, takeWhile_all hw ok.1, dropWhile_all hw ok.1]

theorem afterCmp_zero {c : IfSort} {g rest : List Char} (hg : Gap g) :
    afterCmp c (g ++ '0' :: rest) = .tok (.zcmpL c) rest := by
  unfold afterCmp
  rw [dropWhile_gap hg (by simp [notHead]; decide)]
  all_goals rfl

theorem step_zcmpL {c : IfSort} {g rest : List Char} (hg : Gap g) :
    lexStep (sortChars c ++ g ++ ['0'] ++ rest) = .tok (.zcmpL c) rest := by
  have h : notHead (· == '=') (g ++ '0' :: rest) = true := by
    cases g with
    | nil => rfl
    | cons d g => simpa [notHead] using fun hd : d = '=' => absurd (hd ▸ hg.head) (by decide)
  rw [List.append_assoc, List.append_assoc, List.singleton_append, lexStep_sortChars fun _ => h]
  exact afterCmp_zero hg

theorem step_colonCns {g rest : List Char} (hg : Gap g) :
    lexStep (':' :: g ++ ['c', 'n', 's'] ++ rest) = .tok .colonCns rest := by
  rw [List.append_assoc, List.cons_append, lexStep_colon]
  show (match (g ++ 'c' :: 'n' :: 's' :: rest).dropWhile isWs with
    | 'c' :: 'n' :: 's' :: r => LexStep.tok .colonCns r
    | _ => _) = _
  rw [dropWhile_gap hg (by simp [notHead]; decide)]
  rfl

theorem tokText_head {t : Token} {txt : List Char} (h : TokText t txt) :
    ∃ c r, txt = c :: r ∧ isWs c = false := by
  cases h with
  | cmp c => cases c <;> exact ⟨_, _, rfl, by decide⟩
  | kw k => cases k <;> exact ⟨_, _, rfl, by decide⟩
  | lower c w hc _ _ => exact ⟨c, w, rfl, lower_not_ws hc⟩
  | upper c w hc _ => exact ⟨c, w, rfl, upper_not_ws hc⟩
  | num c w hc _ _ => exact ⟨c, w, rfl, digit_not_ws hc⟩
  | zcmpL c g _ => cases c <;> exact ⟨_, _, rfl, by decide⟩
  | colonCns g _ => exact ⟨_, _, rfl, by decide⟩
  | _ => exact ⟨_, _, rfl, by decide⟩

theorem lexStep_tokText {t : Token} {txt rest : List Char} (h : TokText t txt)
    (ok : okAfter t rest = true) : lexStep (txt ++ rest) = .tok t rest := by
  cases h with
  | lparen => rfl
  | rparen => rfl
  | lbrace => rfl
  | rbrace => rfl
  | lbrack => rfl
  | rbrack => rfl
  | semi => rfl
  | fatArrow => rfl
  | comma => rfl
  | colon => exact step_colon ok
  | dot => rfl
  | assign => exact step_assign ok
  | plus => rfl
  | star => rfl
  | minus => rfl
  | slash => exact step_slash ok
  | percent => rfl
  | cmp c => exact step_cmp ok
  | kw k => exact step_kw ok
  | lower c w hc hw hk => exact step_lower hc hw hk ok
  | upper c w hc hw => exact step_upper hc hw ok
  | zero => exact step_zero ok
  | num c w hc h0 hw => exact step_num hc h0 hw ok
  | zcmpL c g hg => exact step_zcmpL hg
  | colonCns g hg => exact step_colonCns hg

theorem lexStep_ws {d : Char} {cs : List Char} (hd : isWs d = true) :
    lexStep (d :: cs) = .skip (cs.dropWhile isWs) := by
  unfold lexStep
  simp only [hd, if_true]

/-- `Spells ts s`: `s` consists of spellings of the tokens `ts`, each preceded by a (possibly empty)
gap of white space and followed by something that cannot extend it, plus a final gap. -/
inductive Spells : List Token → List Char → Prop where
  | nil {g : List Char} : Gap g → Spells [] g
  | tok {g : List Char} {t : Token} {txt : List Char} {ts : List Token} {rest : List Char} :
      Gap g → TokText t txt → okAfter t rest = true → Spells ts rest →
      Spells (t :: ts) (g ++ (txt ++ rest))

theorem lexLoop_gap {g : List Char} (hg : Gap g) : ∀ f, g.length ≤ f → lexLoop f g = [] := by
  intro f hf
  cases g with
  | nil => cases f <;> rfl
  | cons d g =>
    cases f with
    | zero => simp at hf
    | succ f =>
      have h1 : (g.dropWhile isWs) = [] := by
        have := dropWhile_gap (g := g) (r := []) hg.tail rfl
        simpa using this
      simp only [lexLoop, lexStep_ws hg.head, h1]

theorem lexLoop_tokText {t : Token} {txt rest : List Char} (h : TokText t txt)
    (ok : okAfter t rest = true) : ∀ f, (txt ++ rest).length ≤ f →
    ∃ f', rest.length ≤ f' ∧ lexLoop f (txt ++ rest) = t :: lexLoop f' rest := by
  intro f hf
  obtain ⟨c, r, rfl, _⟩ := tokText_head h
  cases f with
  | zero => simp at hf
  | succ f =>
    refine ⟨f, by simp at hf; omega, ?_⟩
    have hs := lexStep_tokText h ok
    simp only [List.cons_append] at hs ⊢
    simp only [lexLoop, hs]

theorem lexLoop_spells {ts : List Token} {s : List Char} (h : Spells ts s) :
    ∀ f, s.length ≤ f → lexLoop f s = ts := by
  induction h with
  | nil hg => exact lexLoop_gap hg
  | @tok g t txt ts rest hg ht ok _ ih =>
    intro f hf
    cases g with
    | nil =>
      obtain ⟨f', hf', he⟩ := lexLoop_tokText ht ok f (by simpa using hf)
      simp only [List.nil_append]
      rw [he, ih f' hf']
    | cons d g =>
      cases f with
      | zero => simp at hf
      | succ f =>
        obtain ⟨c, r, hc, hws⟩ := tokText_head ht
        have h1 : (g ++ (txt ++ rest)).dropWhile isWs = txt ++ rest := by
          apply dropWhile_gap hg.tail
          subst hc
          simp [notHead, hws]
        have hlen : (txt ++ rest).length ≤ f := by simp at hf ⊢; omega
        obtain ⟨f', hf', he⟩ := lexLoop_tokText ht ok f hlen
        simp only [List.cons_append, lexLoop, lexStep_ws hg.head, h1]
        rw [he, ih f' hf']

theorem lexStream_spells {ts : List Token} {s : List Char} (h : Spells ts s) : lexStream s = ts :=
  lexLoop_spells h _ (Nat.le_refl _)

theorem tokText_ne_bad {t : Token} {txt : List Char} (h : TokText t txt) : t ≠ .bad := by
  cases h <;> simp

theorem spells_no_bad {ts : List Token} {s : List Char} (h : Spells ts s) : Token.bad ∉ ts := by
  induction h with
  | nil => simp
  | tok _ ht _ _ ih =>
    intro hm
    cases hm with
    | head => exact tokText_ne_bad ht rfl
    | tail _ h => exact ih h

theorem lexChars_spells {ts : List Token} {s : List Char} (h : Spells ts s) : lexChars s = .ok ts := by
  unfold lexChars
  simp only [lexStream_spells h]
  have := spells_no_bad h
  simp [this]

theorem Spells.gap {ts : List Token} {s g : List Char} (hg : Gap g) (h : Spells ts s) :
    Spells ts (g ++ s) := by
  cases h with
  | nil hg' => exact .nil (hg.append hg')
  | @tok g' t txt ts rest hg' ht ok hs =>
    rw [← List.append_assoc]
    exact .tok (hg.append hg') ht ok hs

theorem Spells.text {t : Token} {txt : List Char} {ts : List Token} {rest : List Char}
    (ht : TokText t txt) (ok : okAfter t rest = true) (h : Spells ts rest) :
    Spells (t :: ts) (txt ++ rest) := by
  have := Spells.tok Gap.nil ht ok h
  simpa using this

end Scc.Fun.Lex
