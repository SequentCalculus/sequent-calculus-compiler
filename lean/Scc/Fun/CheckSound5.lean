/-
  Scc.Fun.CheckSound5 — soundness of the checker model, part 5: the main induction over terms.
  A successful run on `t` shows that `t` is typed, that the output is `t` up to annotations and clause
  order, and that the output is typed with its annotations (`ATyped`, Scc/Fun/SafetyTyping.lean).
-/
import Scc.Fun.CheckSound4
import Scc.Fun.SafetyTyping

namespace Scc.Fun.Check
open Scc.Fun.Typing Scc.Fun.Safety

def TermQ (p : Program) (t : Term) : Ctx → Ty → Term → Prop :=
  fun Γ τ t' => HasType p Γ t τ ∧ Erases t' t ∧ ATyped p Γ t' τ

def ClauseQ (p : Program) (c : Clause) : Ctx → Ty → Term → Prop := TermQ p c.body

theorem clausesTyped_of_forall {p : Program} {Γ : Ctx} {sigs : List (String × Ctx × Ty)} :
    ∀ (cs : Clauses),
    (∀ c ∈ cs.toList, ∃ sig bodyTy, (c.xtor, sig, bodyTy) ∈ sigs ∧ c.names.Nodup ∧
      c.names.length = sig.length ∧ HasType p (Γ ++ bindNames c.names sig) c.body bodyTy) →
    ClausesTyped p Γ sigs cs
  | .nil, _ => .nil
  | .cons pol x ns c b r, h => by
    obtain ⟨sig, bodyTy, h1, h2, h3, h4⟩ := h ⟨pol, x, ns, c, b⟩ (by simp [Clauses.toList])
    exact .cons sig bodyTy h1 h2 h3 h4
      (clausesTyped_of_forall r (fun c hc => h c (by simp [Clauses.toList, hc])))

theorem clausesErase_of_picked : ∀ (picked : List (ClauseK × Clause)) (l : List Clause),
    (picked.map (fun ko => ko.1.src)).Perm l →
    (∀ ko ∈ picked, ko.2.pol = ko.1.src.pol ∧ ko.2.xtor = ko.1.src.xtor ∧
      ko.2.names = ko.1.src.names ∧ Erases ko.2.body ko.1.src.body) →
    ClausesErase (Clauses.ofList (picked.map Prod.snd)) (Clauses.ofList l)
  | [], l, hperm, _ => by
    have : l = [] := by simpa using hperm.symm.eq_nil
    subst this
    exact .nil
  | (k, o) :: r, l, hperm, h => by
    have hmem : k.src ∈ l := hperm.subset (by simp)
    obtain ⟨pre, post, rfl⟩ := List.append_of_mem hmem
    have hperm' : (r.map (fun ko => ko.1.src)).Perm (pre ++ post) := by
      have := hperm.trans List.perm_middle
      simpa using this.cons_inv
    have ih := clausesErase_of_picked r (pre ++ post) hperm' (fun ko hko => h ko (by simp [hko]))
    obtain ⟨h1, h2, h3, h4⟩ := h (k, o) (by simp)
    simp only [List.map_cons, Clauses.ofList] at *
    rw [h1, h2, h3]
    exact .cons (c := k.src.ctx) pre post (by rw [toList_ofList_clauses]) h4 ih

theorem aclauses_ofList {p : Program} {Γ : Ctx} {sigs : List (String × Ctx × Ty)} :
    ∀ (l : List Clause),
    (∀ c ∈ l, ∃ sig bodyTy, (c.xtor, sig, bodyTy) ∈ sigs ∧ c.names.Nodup ∧
      c.names.length = sig.length ∧ c.ctx = bindNames c.names sig ∧
      ATyped p (Γ ++ bindNames c.names sig) c.body bodyTy) →
    AClauses p Γ sigs (Clauses.ofList l)
  | [], _ => .nil
  | c :: r, h => by
    obtain ⟨sig, bodyTy, h1, h2, h3, h4, h5⟩ := h c (by simp)
    simp only [Clauses.ofList]
    rw [h4]
    exact .cons sig bodyTy h1 h2 h3 h5 (aclauses_ofList r (fun c hc => h c (by simp [hc])))

/-- the clauses the loop has picked, against the signatures `sigs` of the expected xtors: the source
clauses are typed and are the output clauses in another order; the output clauses are typed, in the
order of the xtors -/
theorem clauses_post {p : Program} {Γ : Ctx} {tyArgs : Tys}
    {sigOf : SymbolTable → String → Option (Ctx × Ty)} {checkRet : Bool} {st2 : SymbolTable}
    {cs : Clauses}
    {xtors : List String} {sigs : List (String × Ctx × Ty)} {picked : List (ClauseK × Clause)}
    (hsrc : (clauseCheckers cs).map (·.src) = cs.toList)
    (hperm : (picked.map Prod.fst).Perm (clauseCheckers cs))
    (hx : picked.map (fun ko => ko.1.src.xtor) = xtors)
    (hp : ∀ ko ∈ picked, PickedOk p (ClauseQ p) sigOf checkRet tyArgs Γ st2 ko.1 ko.2)
    (hres : ∀ st1 x sig bodyTy, Inv p st1 → Ext st2 st1 → x ∈ xtors →
      sigOf st1 (instName x tyArgs) = some (sig, bodyTy) → (x, sig, bodyTy) ∈ sigs) :
    (clauseXtors cs).Perm xtors ∧ ClausesTyped p Γ sigs cs ∧
      ClausesErase (Clauses.ofList (picked.map Prod.snd)) cs ∧
      clauseXtors (Clauses.ofList (picked.map Prod.snd)) = xtors ∧
      AClauses p Γ sigs (Clauses.ofList (picked.map Prod.snd)) := by
  have hpermsrc : (picked.map (fun ko => ko.1.src)).Perm cs.toList := by
    have := hperm.map (·.src)
    rw [hsrc, List.map_map] at this
    exact this
  -- the signature of a picked clause is the one `sigs` lists for its xtor
  have hsig : ∀ ko ∈ picked, ∃ sig bodyTy, (ko.1.src.xtor, sig, bodyTy) ∈ sigs ∧
      ko.1.src.names.Nodup ∧ ko.1.src.names.length = sig.length ∧
      ko.2.ctx = bindNames ko.1.src.names sig ∧
      ClauseQ p ko.1.src (Γ ++ bindNames ko.1.src.names sig) bodyTy ko.2.body := by
    intro ko hko
    obtain ⟨_, _, _, st1, sig, bodyTy, inv1, ext1, hs, _, hnd, hlen, hctx, hQ⟩ := hp _ hko
    have hxm : ko.1.src.xtor ∈ xtors := by
      rw [← hx]; exact List.mem_map.mpr ⟨ko, hko, rfl⟩
    exact ⟨sig, bodyTy, hres st1 _ sig bodyTy inv1 ext1 hxm hs, hnd, hlen, hctx, hctx ▸ hQ⟩
  refine ⟨?_, ?_, ?_, ?_, ?_⟩
  · have := hpermsrc.map (·.xtor)
    rw [List.map_map] at this
    rw [← hx]
    exact this.symm
  · apply clausesTyped_of_forall
    intro c hc
    have hc' : c ∈ picked.map (fun ko => ko.1.src) := hpermsrc.symm.subset hc
    obtain ⟨ko, hko, rfl⟩ := List.mem_map.mp hc'
    obtain ⟨sig, bodyTy, hm, hnd, hlen, _, hQ⟩ := hsig ko hko
    exact ⟨sig, bodyTy, hm, hnd, hlen, hQ.1⟩
  · have := clausesErase_of_picked picked cs.toList hpermsrc (fun ko hko => by
      obtain ⟨_, _, _, _, _, _, hQ⟩ := hsig ko hko
      exact ⟨(hp ko hko).pol, (hp ko hko).xtor, (hp ko hko).names, hQ.2.1⟩)
    rwa [ofList_toList_clauses] at this
  · rw [← hx]
    simp only [clauseXtors, toList_ofList_clauses, List.map_map]
    exact List.map_congr_left fun ko hko => (hp ko hko).xtor
  · apply aclauses_ofList
    intro c hc
    obtain ⟨ko, hko, rfl⟩ := List.mem_map.mp hc
    obtain ⟨sig, bodyTy, hm, hnd, hlen, hctx, hQ⟩ := hsig ko hko
    rw [(hp ko hko).xtor, (hp ko hko).names]
    exact ⟨sig, bodyTy, hm, hnd, hlen, hctx, hQ.2.2⟩

theorem tyNamesOk_i64 : tyNamesOk .i64 = true := by simp [tyNamesOk]

theorem ctxNamesOk_single {x : String} {chi : Chi} {σ : Ty} (h : tyNamesOk σ = true) :
    ctxNamesOk [⟨x, chi, σ⟩] = true := by simp [ctxNamesOk, h]

theorem length_eq_of_not_bne {a b : Nat} (h : ¬ (a != b) = true) : a = b := by
  simpa [bne] using h

mutual
  theorem checkTerm_sound {p : Program} (ok : DeclsOk p) (hp : programNamesOk p = true) :
      ∀ (t : Term), termNamesOk t = true → SoundK p (TermQ p t) (checkTerm t)
    | .var x ty chi, hn => by
      intro st Γ τ t' st' inv hΓ hτ h
      obtain ⟨hchi, found, st1, hl, ha, he, rfl⟩ := checkTerm_var_ok h
      obtain ⟨b, hb1, hb2, hb3, hb4⟩ := lookupVar_ok hl
      obtain ⟨inv1, ext1, hann⟩ := checkAnnot_sound ok hp inv
        (by intro t ht; subst ht; simpa [termNamesOk] using hn) ha
      obtain ⟨inv2, ext2, heq, wf, _⟩ := checkEquality_sound ok hp inv1 hτ he
      subst heq
      exact ⟨inv2, ext1.trans ext2, .var b hb1 hb2 hb3 wf (not_beq_some_cns hchi) hann, .var,
        .var b hb1 hb2 hb3 wf⟩
    | .lit n, _ => by
      intro st Γ τ t' st' inv hΓ hτ h
      obtain ⟨he, rfl⟩ := checkTerm_lit_ok h
      obtain ⟨inv1, ext1, heq, _, _⟩ := checkEquality_sound ok hp inv hτ he
      subst heq
      exact ⟨inv1, ext1, .lit, .lit, .lit⟩
    | .op a o b, hn => by
      intro st Γ τ t' st' inv hΓ hτ h
      simp only [termNamesOk, Bool.and_eq_true] at hn
      obtain ⟨st1, a', st2, b', he, ha, hb, rfl⟩ := checkTerm_op_ok h
      obtain ⟨inv1, ext1, heq, _, _⟩ := checkEquality_sound ok hp inv tyNamesOk_i64 he
      subst heq
      obtain ⟨inv2, ext2, hta, era, aa⟩ := checkTerm_sound ok hp a hn.1 st1 Γ .i64 a' st2 inv1 hΓ hτ ha
      obtain ⟨inv3, ext3, htb, erb, ab⟩ := checkTerm_sound ok hp b hn.2 st2 Γ .i64 b' st' inv2 hΓ hτ hb
      exact ⟨inv3, (ext1.trans ext2).trans ext3, .op hta htb, .op era erb, .op aa ab⟩
    | .ifc s a b t e an, hn => by
      intro st Γ τ t' st' inv hΓ hτ h
      simp only [termNamesOk, Bool.and_eq_true] at hn
      obtain ⟨a', st1, b', st2, th', st3, e', ha, hb, ht, he, rfl⟩ := checkTerm_ifc_ok h
      obtain ⟨inv1, ext1, hta, era, aa⟩ :=
        checkTerm_sound ok hp a hn.1.1.1 st Γ .i64 a' st1 inv hΓ tyNamesOk_i64 ha
      obtain ⟨inv2, ext2, htb, erb, ab⟩ :=
        checkTerm_sound ok hp b hn.1.1.2 st1 Γ .i64 b' st2 inv1 hΓ tyNamesOk_i64 hb
      obtain ⟨inv3, ext3, htt, ert, ath⟩ := checkTerm_sound ok hp t hn.1.2 st2 Γ τ th' st3 inv2 hΓ hτ ht
      obtain ⟨inv4, ext4, hte, ere, ae⟩ := checkTerm_sound ok hp e hn.2 st3 Γ τ e' st' inv3 hΓ hτ he
      exact ⟨inv4, ((ext1.trans ext2).trans ext3).trans ext4, .ifc hta htb htt hte,
        .ifc era erb ert ere, .ifc aa ab ath ae⟩
    | .ifz s a t e an, hn => by
      intro st Γ τ t' st' inv hΓ hτ h
      simp only [termNamesOk, Bool.and_eq_true] at hn
      obtain ⟨a', st1, th', st3, e', ha, ht, he, rfl⟩ := checkTerm_ifz_ok h
      obtain ⟨inv1, ext1, hta, era, aa⟩ :=
        checkTerm_sound ok hp a hn.1.1 st Γ .i64 a' st1 inv hΓ tyNamesOk_i64 ha
      obtain ⟨inv3, ext3, htt, ert, ath⟩ := checkTerm_sound ok hp t hn.1.2 st1 Γ τ th' st3 inv1 hΓ hτ ht
      obtain ⟨inv4, ext4, hte, ere, ae⟩ := checkTerm_sound ok hp e hn.2 st3 Γ τ e' st' inv3 hΓ hτ he
      exact ⟨inv4, (ext1.trans ext3).trans ext4, .ifz hta htt hte, .ifz era ert ere,
        .ifz aa ath ae⟩
    | .print nl a n an, hn => by
      intro st Γ τ t' st' inv hΓ hτ h
      simp only [termNamesOk, Bool.and_eq_true] at hn
      obtain ⟨a', st1, n', ha, hnx, rfl⟩ := checkTerm_print_ok h
      obtain ⟨inv1, ext1, hta, era, aa⟩ :=
        checkTerm_sound ok hp a hn.1 st Γ .i64 a' st1 inv hΓ tyNamesOk_i64 ha
      obtain ⟨inv2, ext2, htn, ern, an⟩ := checkTerm_sound ok hp n hn.2 st1 Γ τ n' st' inv1 hΓ hτ hnx
      exact ⟨inv2, ext1.trans ext2, .print hta htn, .print era ern, .print aa an⟩
    | .letIn x σ bound body an, hn => by
      intro st Γ τ t' st' inv hΓ hτ h
      simp only [termNamesOk, Bool.and_eq_true] at hn
      obtain ⟨st1, bound', st2, body', hσ, hb, hi, rfl⟩ := checkTerm_letIn_ok h
      obtain ⟨inv1, ext1, wfσ, _⟩ := checkTy_sound ok hp σ st st1 inv hn.1.1 hσ
      obtain ⟨inv2, ext2, htb, erb, ab⟩ :=
        checkTerm_sound ok hp bound hn.1.2 st1 Γ σ bound' st2 inv1 hΓ hn.1.1 hb
      obtain ⟨inv3, ext3, hti, eri, ai⟩ := checkTerm_sound ok hp body hn.2 st2 _ τ body' st' inv2
        (ctxNamesOk_append hΓ (ctxNamesOk_single hn.1.1)) hτ hi
      exact ⟨inv3, (ext1.trans ext2).trans ext3, .letIn wfσ htb hti, .letIn erb eri,
        .letIn wfσ ab ai⟩
    | .call f args an, hn => by
      intro st Γ τ t' st' inv hΓ hτ h
      simp only [termNamesOk] at hn
      obtain ⟨types, retTy, st1, args', hget, he, hlen, ha, rfl⟩ := checkTerm_call_ok h
      obtain ⟨d, hd, rfl, rfl, rfl⟩ := inv.defs _ _ _ hget
      obtain ⟨inv1, ext1, heq, wf, _⟩ := checkEquality_sound ok hp inv hτ he
      subst heq
      obtain ⟨inv2, ext2, hargs, era, aa⟩ := checkArgs_sound ok hp args d.ctx st1 Γ args' st' hn inv1 hΓ
        (def_namesOk hp hd).1 (length_eq_of_not_bne hlen) ha
      exact ⟨inv2, ext1.trans ext2, .call d hd wf hargs, .call era, .call d hd wf aa⟩
    | .ctor id args an, hn => by
      intro st Γ τ t' st' inv hΓ hτ h
      simp only [termNamesOk, Bool.and_eq_true] at hn
      obtain ⟨name, tyArgs, types, ty, xs, args', st1, rfl, hget, hlk, hlen, ha, he, rfl⟩ :=
        checkTerm_ctor_ok h
      obtain ⟨key, ta, xs', x, hm, hx, hxe, hr⟩ := lookupTyForXtor_ok _ _ _ hlk
      cases hr
      obtain ⟨g1, g2, g3⟩ := inv.types _ _ _ _ hm
      rcases g3 with ⟨_, d, hd, rfl, rfl, hlen', hcs⟩ | ⟨hpol, _⟩
      · obtain ⟨c, hc, rfl⟩ := List.mem_map.mp hx
        rw [removeAll_instName _ (data_namesOk hp hd).1] at he
        obtain ⟨inv1, ext1, hargs, era, aa⟩ := checkArgs_sound ok hp args types st Γ args' st1 hn.2 inv hΓ
          (inv.ctorsOk _ _ hget) (length_eq_of_not_bne hlen) ha
        obtain ⟨inv2, ext2, heq, wf, _⟩ := checkEquality_sound ok hp inv1 hτ he
        obtain ⟨hname, hta⟩ := Ty.decl.inj heq
        subst hname; subst hta
        have hcid : c.name = id := instName_left_inj hxe
        subst hcid
        have htypes : types = substCtx (instMap d.typeParams tyArgs) c.args := by
          have := hcs c hc
          rw [hget] at this
          exact (Option.some.inj this)
        subst htypes
        rw [substCtx_eq_csubst _ (zip_keys_nodup _ (ok.dataParams d hd).1)] at hargs aa
        exact ⟨inv2, ext1.trans ext2, .ctor d c hd hc wf hargs, .ctor era, .ctor d c hd hc wf aa⟩
      · cases hpol
    | .dtor scrut id tyArgs args an, hn => by
      intro st Γ τ t' st' inv hΓ hτ h
      simp only [termNamesOk, Bool.and_eq_true] at hn
      obtain ⟨ty, xs, st1, scrut', st2, types, retTy, args', st3, hres, hs, hget, hlen, ha, he, rfl⟩ :=
        checkTerm_dtor_ok h
      obtain ⟨inv1, ext1, d, hd, s, hsd, rfl, rfl, rfl, wfty, hentry⟩ :=
        resolveXtorTy_codata_sound ok hp inv hn.1.1.1 hn.1.1.2 hres
      have hgood : tyNamesOk (.decl d.name tyArgs) = true := by
        simp [tyNamesOk, (codata_namesOk hp hd).1, hn.1.1.2]
      obtain ⟨inv2, ext2, hts, ers, as⟩ :=
        checkTerm_sound ok hp scrut hn.1.2 st1 Γ _ scrut' st2 inv1 hΓ hgood hs
      obtain ⟨_, _, g3⟩ := inv2.types _ _ _ _ (ext2.types _ hentry)
      rcases g3 with ⟨hpol, _⟩ | ⟨_, d', hd', hk, _, _, hcs⟩
      · cases hpol
      · have hdd : d = d' := codata_unique ok hd hd' (instName_left_inj hk)
        subst hdd
        have hv := hcs s hsd
        rw [hget] at hv
        cases hv
        obtain ⟨inv3, ext3, hargs, era, aa⟩ := checkArgs_sound ok hp args _ st2 Γ args' st3 hn.2 inv2 hΓ
          (inv2.dtorsOk _ _ _ hget).1 (length_eq_of_not_bne hlen) ha
        obtain ⟨inv4, ext4, heq, wf, _⟩ := checkEquality_sound ok hp inv3 hτ he
        subst heq
        have hnd := zip_keys_nodup tyArgs.toList (ok.codataParams d hd).1
        rw [substCtx_eq_csubst _ hnd] at hargs aa
        rw [substTy_eq_tsubst _ hnd] at wf ⊢
        exact ⟨inv4, ((ext1.trans ext2).trans ext3).trans ext4,
          .dtor d s hd hsd wfty hts hargs wf, .dtor ers era, .dtor d s hd hsd wfty as aa wf⟩
    | .case scrut tyArgs cs an, hn => by
      intro st Γ τ t' st' inv hΓ hτ h
      simp only [termNamesOk, Bool.and_eq_true] at hn
      obtain ⟨hsrc, hks⟩ := clauseCheckers_sound ok hp cs hn.2
      obtain ⟨pol0, xtor0, ns0, c0, b0, r0, ty, expectedCtors, st1, scrut', st2, newClauses, hcs, hres,
        hs, hl, rfl⟩ := checkTerm_case_ok h
      have hx0 : nameOk xtor0 = true := by
        have := hn.2; rw [hcs] at this
        simp only [clausesNamesOk, Bool.and_eq_true] at this
        exact this.1.1
      obtain ⟨inv1, ext1, d, hd, s, hsd, _, rfl, rfl, wfty, hentry⟩ :=
        resolveXtorTy_data_sound ok hp inv hx0 hn.1.1 hres
      have hgood : tyNamesOk (.decl d.name tyArgs) = true := by
        simp [tyNamesOk, (data_namesOk hp hd).1, hn.1.1]
      obtain ⟨inv2, ext2, hts, ers, as⟩ :=
        checkTerm_sound ok hp scrut hn.1.2 st1 Γ _ scrut' st2 inv1 hΓ hgood hs
      have hentry2 := ext2.types _ hentry
      obtain ⟨inv3, ext3, picked, hout, hperm, hx, hpk⟩ := clauseLoop_spec ok hp (Q := ClauseQ p) hΓ
        (by
          intro st n sig bodyTy inv' hs'
          cases hg : st.ctors.get? n with
          | none => simp [hg] at hs'
          | some sig0 =>
            simp only [hg, Option.map_some, Option.some.injEq, Prod.mk.injEq] at hs'
            obtain ⟨rfl, rfl⟩ := hs'
            exact ⟨inv'.ctorsOk _ _ hg, hτ⟩)
        _ _ _ _ _ _ _ hks inv2 hl
      simp only [List.reverse_nil, List.nil_append] at hout
      simp only [List.append_nil] at hperm
      subst hout
      have hnd := zip_keys_nodup tyArgs.toList (ok.dataParams d hd).1
      obtain ⟨hpx, hct, hce, hpa, hca⟩ := clauses_post (p := p)
        (sigs := d.ctors.map fun c => (c.name, csubst (instSubst d.typeParams tyArgs) c.args, τ))
        hsrc hperm hx hpk (by
          intro st1' x sig bodyTy inv1' ext1' hxm hs'
          obtain ⟨c, hc, rfl⟩ := List.mem_map.mp hxm
          obtain ⟨_, _, g3⟩ := inv1'.types _ _ _ _ (ext1'.types _ hentry2)
          rcases g3 with ⟨_, d', hd', hk, _, _, hcs'⟩ | ⟨hpol, _⟩
          · have hdd : d = d' := data_unique ok hd hd' (instName_left_inj hk)
            subst hdd
            rw [hcs' c hc] at hs'
            simp only [Option.map_some, Option.some.injEq, Prod.mk.injEq] at hs'
            obtain ⟨rfl, rfl⟩ := hs'
            refine List.mem_map.mpr ⟨c, hc, ?_⟩
            rw [substCtx_eq_csubst _ hnd]
            rfl
          · cases hpol)
      refine ⟨inv3, ((ext1.trans ext2).trans ext3),
        .case d hd (by rw [hcs]; exact fun h => Clauses.noConfusion h) hpx wfty hts hct, .case ers hce,
        .case d hd ?_ (by rw [hpa]) wfty as hca⟩
      -- at least one clause: the constructor of the first source clause was picked
      intro hnil
      rw [hnil] at hpa
      have hmem : s.name ∈ d.ctors.map (·.name) := List.mem_map.mpr ⟨s, hsd, rfl⟩
      rw [← hpa] at hmem
      cases hmem
    | .new cs an, hn => by
      intro st Γ τ t' st' inv hΓ hτ h
      simp only [termNamesOk] at hn
      obtain ⟨hsrc, hks⟩ := clauseCheckers_sound ok hp cs hn
      obtain ⟨name, tyArgs, ta, expectedDtors, newClauses, rfl, hget, hl, rfl⟩ := checkTerm_new_ok h
      have hm := AList.mem_of_get? hget
      simp only [tyNamesOk, Bool.and_eq_true] at hτ
      obtain ⟨g1, g2, g3⟩ := inv.types _ _ _ _ hm
      rcases g3 with ⟨hpol, _⟩ | ⟨_, d, hd, hk, rfl, hlen, _⟩
      · cases hpol
      · obtain ⟨hname, hta⟩ := instName_inj hτ.1 (codata_namesOk hp hd).1 hτ.2 g1 hk
        subst hname; subst hta
        have wf : WfTy p (.decl d.name tyArgs) := .codata d _ hd hlen g2
        obtain ⟨inv3, ext3, picked, hout, hperm, hx, hpk⟩ := clauseLoop_spec ok hp (Q := ClauseQ p) hΓ
          (by
            intro st n sig bodyTy inv' hs'
            exact inv'.dtorsOk _ _ _ hs')
          _ _ _ _ _ _ _ hks inv hl
        simp only [List.reverse_nil, List.nil_append] at hout
        simp only [List.append_nil] at hperm
        subst hout
        have hnd := zip_keys_nodup tyArgs.toList (ok.codataParams d hd).1
        obtain ⟨hpx, hct, hce, hpa, hca⟩ := clauses_post (p := p)
          (sigs := d.dtors.map fun s => (s.name, csubst (instSubst d.typeParams tyArgs) s.args,
            tsubst (instSubst d.typeParams tyArgs) s.contTy))
          hsrc hperm hx hpk (by
            intro st1' x sig bodyTy inv1' ext1' hxm hs'
            obtain ⟨c, hc, rfl⟩ := List.mem_map.mp hxm
            obtain ⟨_, _, g3⟩ := inv1'.types _ _ _ _ (ext1'.types _ hm)
            rcases g3 with ⟨hpol, _⟩ | ⟨_, d', hd', hk', _, _, hcs'⟩
            · cases hpol
            · have hdd : d = d' := codata_unique ok hd hd' (instName_left_inj hk')
              subst hdd
              rw [hcs' c hc] at hs'
              simp only [Option.some.injEq, Prod.mk.injEq] at hs'
              obtain ⟨rfl, rfl⟩ := hs'
              refine List.mem_map.mpr ⟨c, hc, ?_⟩
              rw [substCtx_eq_csubst _ hnd, substTy_eq_tsubst _ hnd]
              rfl)
        have hrets : ∀ s ∈ d.dtors, WfTy p (tsubst (instSubst d.typeParams tyArgs) s.contTy) := by
          intro s hs
          have hsx : s.name ∈ picked.map (fun ko => ko.1.src.xtor) := by
            rw [hx]; exact List.mem_map.mpr ⟨s, hs, rfl⟩
          obtain ⟨⟨k, o⟩, hko, hkx⟩ := List.mem_map.mp hsx
          obtain ⟨_, _, _, st1', sig, bodyTy, inv1', ext1', hs', hwf, _⟩ := hpk _ hko
          simp only at hkx
          rw [hkx] at hs'
          obtain ⟨_, _, g3⟩ := inv1'.types _ _ _ _ (ext1'.types _ hm)
          rcases g3 with ⟨hpol, _⟩ | ⟨_, d', hd', hk', _, _, hcs'⟩
          · cases hpol
          · have hdd : d = d' := codata_unique ok hd hd' (instName_left_inj hk')
            subst hdd
            rw [hcs' s hs] at hs'
            simp only [Option.some.injEq, Prod.mk.injEq] at hs'
            obtain ⟨_, rfl⟩ := hs'
            have := hwf rfl
            rw [substTy_eq_tsubst _ hnd] at this
            exact this
        exact ⟨inv3, ext3, .new d hd hpx wf hrets hct, .new hce,
          .new d hd (by rw [hpa]) wf hrets hca⟩
    | .label a body an, hn => by
      intro st Γ τ t' st' inv hΓ hτ h
      simp only [termNamesOk] at hn
      obtain ⟨body', hb, rfl⟩ := checkTerm_label_ok h
      obtain ⟨inv1, ext1, htb, erb, ab⟩ := checkTerm_sound ok hp body hn st _ τ body' st' inv
        (ctxNamesOk_append hΓ (ctxNamesOk_single hτ)) hτ hb
      exact ⟨inv1, ext1, .label htb, .label erb, .label ab⟩
    | .goto a arg an, hn => by
      intro st Γ τ t' st' inv hΓ hτ h
      simp only [termNamesOk] at hn
      obtain ⟨contTy, st0, arg', hl, hc, ha, rfl⟩ := checkTerm_goto_ok h
      obtain ⟨b, hb1, hb2, hb3, hb4⟩ := lookupCovar_ok hl
      subst hb3
      obtain ⟨inv0, ext0, wfb, _⟩ := checkTy_sound ok hp b.ty st st0 inv (ctxNamesOk_mem hΓ hb4) hc
      obtain ⟨inv1, ext1, hta, era, aa⟩ := checkTerm_sound ok hp arg hn st0 Γ _ arg' st' inv0 hΓ
        (ctxNamesOk_mem hΓ hb4) ha
      exact ⟨inv1, ext0.trans ext1, .goto b hb1 hb2 wfb hta, .goto era,
        .goto b hb1 hb2 wfb aa⟩
    | .exit arg an, hn => by
      intro st Γ τ t' st' inv hΓ hτ h
      simp only [termNamesOk] at hn
      obtain ⟨arg', ha, rfl⟩ := checkTerm_exit_ok h
      obtain ⟨inv1, ext1, hta, era, aa⟩ :=
        checkTerm_sound ok hp arg hn st Γ .i64 arg' st' inv hΓ tyNamesOk_i64 ha
      exact ⟨inv1, ext1, .exit hta, .exit era, .exit aa⟩
    | .paren inner, hn => by
      intro st Γ τ t' st' inv hΓ hτ h
      simp only [termNamesOk] at hn
      obtain ⟨inner', ha, rfl⟩ := checkTerm_paren_ok h
      obtain ⟨inv1, ext1, hta, era, aa⟩ := checkTerm_sound ok hp inner hn st Γ τ inner' st' inv hΓ hτ ha
      exact ⟨inv1, ext1, .paren hta, .paren era, .paren aa⟩
  theorem checkArgs_sound {p : Program} (ok : DeclsOk p) (hp : programNamesOk p = true) :
      ∀ (ts : Terms) (bs : List Binding) (st : SymbolTable) (Γ : Ctx) (ts' : Terms)
        (st' : SymbolTable), argsNamesOk ts = true → Inv p st → ctxNamesOk Γ = true →
        ctxNamesOk bs = true → bs.length = termsLength ts → checkArgs ts bs st Γ = .ok (ts', st') →
        Inv p st' ∧ Ext st st' ∧ ArgsTyped p Γ ts bs ∧ ArgsErase ts' ts ∧ AArgs p Γ ts' bs
    | .nil, bs, st, Γ, ts', st', _, inv, _, _, hlen, h => by
      obtain ⟨rfl, rfl⟩ := checkArgs_nil_ok h
      have : bs = [] := by
        simpa [termsLength, Terms.toList] using hlen
      subst this
      exact ⟨inv, Ext.refl _, .nil, .nil, .nil⟩
    | .cons t ts, [], st, Γ, ts', st', _, _, _, _, hlen, _ => by
      simp [termsLength, Terms.toList] at hlen
    | .cons t ts, b :: bs, st, Γ, ts', st', hn, inv, hΓ, hbs, hlen, h => by
      simp only [argsNamesOk, Bool.and_eq_true] at hn
      have hbty : tyNamesOk b.ty = true := ctxNamesOk_mem hbs (by simp)
      have hbs' : ctxNamesOk bs = true := by
        simp only [ctxNamesOk, List.all_cons, Bool.and_eq_true] at hbs
        exact hbs.2
      have hlen' : bs.length = termsLength ts := by
        simp only [termsLength, Terms.toList, List.length_cons] at hlen ⊢
        omega
      cases hb : b.chi with
      | prd =>
        obtain ⟨st1, t', st2, rest', hty, ht, hr, rfl⟩ := checkArgs_cons_prd_ok hb h
        obtain ⟨inv1, ext1, wf, _⟩ := checkTy_sound ok hp b.ty st st1 inv hbty hty
        obtain ⟨inv2, ext2, htt, ert, ath⟩ := checkTerm_sound ok hp t hn.1 st1 Γ b.ty t' st2 inv1 hΓ hbty ht
        obtain ⟨inv3, ext3, htr, err, ar⟩ :=
          checkArgs_sound ok hp ts bs st2 Γ rest' st' hn.2 inv2 hΓ hbs' hlen' hr
        exact ⟨inv3, (ext1.trans ext2).trans ext3, .prd hb wf htt htr, .cons ert err,
          .prd hb wf ath ar⟩
      | cns =>
        obtain ⟨x, ty, chi, t', st2, rest', rfl, hc, hr, rfl⟩ := checkArgs_cons_cns_ok hb h
        obtain ⟨hchi, found, st1, hl, ha, he, rfl⟩ := checkCovarArg_ok hc
        obtain ⟨b', hb1, hb2, hb3, hb4⟩ := lookupCovar_ok hl
        obtain ⟨inv1, ext1, hann⟩ := checkAnnot_sound ok hp inv
          (by intro t ht; subst ht; simpa [termNamesOk] using hn.1) ha
        obtain ⟨inv2, ext2, heq, wf, _⟩ := checkEquality_sound ok hp inv1 hbty he
        obtain ⟨inv3, ext3, htr, err, ar⟩ :=
          checkArgs_sound ok hp ts bs st2 Γ rest' st' hn.2 inv2 hΓ hbs' hlen' hr
        refine ⟨inv3, (ext1.trans ext2).trans ext3, ?_, .cons .var err, ?_⟩
        · exact .cns b' hb hb1 hb2 (hb3.trans heq.symm) wf (not_beq_some_prd hchi)
            (by intro t ht; rw [heq]; exact hann t ht) htr
        · rw [← heq]
          exact .cns b' hb hb1 hb2 (hb3.trans heq.symm) wf ar
  theorem clauseCheckers_sound {p : Program} (ok : DeclsOk p) (hp : programNamesOk p = true) :
      ∀ (cs : Clauses), clausesNamesOk cs = true →
      (clauseCheckers cs).map (·.src) = cs.toList ∧
      ∀ k ∈ clauseCheckers cs, SoundK p (ClauseQ p k.src) k.body
    | .nil, _ => by simp [clauseCheckers, Clauses.toList]
    | .cons pol x ns c b r, hn => by
      simp only [clausesNamesOk, Bool.and_eq_true] at hn
      obtain ⟨ih1, ih2⟩ := clauseCheckers_sound ok hp r hn.2
      refine ⟨by simp [clauseCheckers, Clauses.toList, ih1], ?_⟩
      intro k hk
      simp only [clauseCheckers, List.mem_cons] at hk
      rcases hk with rfl | hk
      · exact checkTerm_sound ok hp b hn.1.2
      · exact ih2 k hk
end

end Scc.Fun.Check
