/-
  Scc.Fun.CheckAnnotated — the checker's output is fully annotated (property C15, theorem (c)):
  every `ty`/`chi` field is `some _` and every clause carries the typed context of its binders.
  Structural induction over the term, with a loop lemma for `clauseLoop`.
-/
import Scc.Fun.CheckInv
import Scc.Fun.Typing

namespace Scc.Fun.Check
open Scc.Fun.Typing

theorem mem_of_mem_swapRemove {α : Type} {l : List α} {i : Nat} {x : α}
    (h : x ∈ swapRemove l i) : x ∈ l := by
  unfold swapRemove at h
  split at h
  · exact h
  · rename_i last hl
    rcases List.mem_or_eq_of_mem_set h with h | rfl
    · exact List.dropLast_subset _ h
    · exact List.mem_of_getLast? hl

theorem addTypes_ok {names : List String} {sig ctx : Ctx} (h : addTypes names sig = .ok ctx) :
    names.length = sig.length ∧ ctx = (names.zip sig).map (fun (n, b) => { b with var := n }) := by
  simp only [addTypes] at h
  split at h
  · cases h
  · cases h
    rename_i hne
    exact ⟨by simpa [bne] using hne, rfl⟩

theorem addTypes_vars {names : List String} {sig ctx : Ctx} (h : addTypes names sig = .ok ctx) :
    ctx.map (·.var) = names := by
  obtain ⟨hl, rfl⟩ := addTypes_ok h
  rw [List.map_map]
  have : ((fun b : Binding => b.var) ∘ fun (x : String × Binding) => { x.2 with var := x.1 })
      = Prod.fst := by
    funext x; rfl
  rw [this]
  exact List.map_fst_zip (by omega)

def AnnK (k : Checker) : Prop := ∀ st Γ τ t' st', k st Γ τ = .ok (t', st') → annotated t' = true

def AnnClause (c : Clause) : Prop := c.ctx.map (·.var) = c.names ∧ annotated c.body = true

theorem annotatedClauses_ofList : ∀ (l : List Clause), (∀ c ∈ l, AnnClause c) →
    annotatedClauses (Clauses.ofList l) = true
  | [], _ => by simp [Clauses.ofList, annotatedClauses]
  | c :: r, h => by
    have hc := h c (by simp)
    have hr := annotatedClauses_ofList r (fun x hx => h x (by simp [hx]))
    simp only [Clauses.ofList, annotatedClauses, Bool.and_eq_true, beq_iff_eq]
    exact ⟨⟨hc.1, hc.2⟩, hr⟩

theorem clauseLoop_annotated {sigOf missing checkRet tyArgs Γ} : ∀ (xtors : List String) (ks : List ClauseK)
    (acc : List Clause) (st : SymbolTable) (out : List Clause) (left : List ClauseK)
    (st' : SymbolTable),
    (∀ k ∈ ks, AnnK k.body) → (∀ c ∈ acc, AnnClause c) →
    clauseLoop sigOf missing checkRet tyArgs Γ xtors ks acc st = .ok (out, left, st') →
    ∀ c ∈ out, AnnClause c
  | [], ks, acc, st, out, left, st', _, hacc, h => by
    obtain ⟨rfl, _, _⟩ := clauseLoop_nil_ok h
    intro c hc
    exact hacc c (by simpa using hc)
  | x :: rest, ks, acc, st, out, left, st', hks, hacc, h => by
    obtain ⟨pos, k, sig, bodyTy, st0, ctxClause, body', st1, _, hk, _, _, _, hadd, hbody, hrest⟩ :=
      clauseLoop_cons_ok h
    have hkmem : k ∈ ks := List.mem_of_getElem? hk
    refine clauseLoop_annotated rest _ _ _ _ _ _ ?_ ?_ hrest
    · intro k' hk'
      exact hks k' (mem_of_mem_swapRemove hk')
    · intro c hc
      rcases List.mem_cons.mp hc with rfl | hc
      · exact ⟨addTypes_vars hadd, hks k hkmem _ _ _ _ _ hbody⟩
      · exact hacc c hc

mutual
  theorem checkTerm_annotated : ∀ (t : Term), AnnK (checkTerm t)
    | .var x ty chi => by
      intro st Γ τ t' st' h
      obtain ⟨_, _, _, _, _, _, rfl⟩ := checkTerm_var_ok h
      simp [annotated]
    | .lit n => by
      intro st Γ τ t' st' h
      obtain ⟨_, rfl⟩ := checkTerm_lit_ok h
      simp [annotated]
    | .op a o b => by
      intro st Γ τ t' st' h
      obtain ⟨_, _, _, _, _, ha, hb, rfl⟩ := checkTerm_op_ok h
      simp [annotated, checkTerm_annotated a _ _ _ _ _ ha, checkTerm_annotated b _ _ _ _ _ hb]
    | .ifc s a b t e an => by
      intro st Γ τ t' st' h
      obtain ⟨_, _, _, _, _, _, _, ha, hb, ht, he, rfl⟩ := checkTerm_ifc_ok h
      simp [annotated, checkTerm_annotated a _ _ _ _ _ ha, checkTerm_annotated b _ _ _ _ _ hb,
        checkTerm_annotated t _ _ _ _ _ ht, checkTerm_annotated e _ _ _ _ _ he]
    | .ifz s a t e an => by
      intro st Γ τ t' st' h
      obtain ⟨_, _, _, _, _, ha, ht, he, rfl⟩ := checkTerm_ifz_ok h
      simp [annotated, checkTerm_annotated a _ _ _ _ _ ha,
        checkTerm_annotated t _ _ _ _ _ ht, checkTerm_annotated e _ _ _ _ _ he]
    | .print nl a n an => by
      intro st Γ τ t' st' h
      obtain ⟨_, _, _, ha, hn, rfl⟩ := checkTerm_print_ok h
      simp [annotated, checkTerm_annotated a _ _ _ _ _ ha, checkTerm_annotated n _ _ _ _ _ hn]
    | .letIn x σ bound body an => by
      intro st Γ τ t' st' h
      obtain ⟨_, _, _, _, _, hb, hi, rfl⟩ := checkTerm_letIn_ok h
      simp [annotated, checkTerm_annotated bound _ _ _ _ _ hb, checkTerm_annotated body _ _ _ _ _ hi]
    | .call f args an => by
      intro st Γ τ t' st' h
      obtain ⟨_, _, _, _, _, _, _, ha, rfl⟩ := checkTerm_call_ok h
      simp [annotated, checkArgs_annotated args _ _ _ _ _ ha]
    | .ctor id args an => by
      intro st Γ τ t' st' h
      obtain ⟨_, _, _, _, _, _, _, _, _, _, _, ha, _, rfl⟩ := checkTerm_ctor_ok h
      simp [annotated, checkArgs_annotated args _ _ _ _ _ ha]
    | .dtor scrut id tyArgs args an => by
      intro st Γ τ t' st' h
      obtain ⟨_, _, _, _, _, _, _, _, _, _, hs, _, _, ha, _, rfl⟩ := checkTerm_dtor_ok h
      simp [annotated, checkTerm_annotated scrut _ _ _ _ _ hs, checkArgs_annotated args _ _ _ _ _ ha]
    | .case scrut tyArgs cs an => by
      intro st Γ τ t' st' h
      obtain ⟨_, _, _, _, _, _, _, _, _, _, _, _, _, _, hs, hl, rfl⟩ := checkTerm_case_ok h
      have := clauseLoop_annotated _ _ _ _ _ _ _ (clauseCheckers_annotated cs) (by simp) hl
      simp [annotated, checkTerm_annotated scrut _ _ _ _ _ hs, annotatedClauses_ofList _ this]
    | .new cs an => by
      intro st Γ τ t' st' h
      obtain ⟨_, _, _, _, _, _, _, hl, rfl⟩ := checkTerm_new_ok h
      have := clauseLoop_annotated _ _ _ _ _ _ _ (clauseCheckers_annotated cs) (by simp) hl
      simp [annotated, annotatedClauses_ofList _ this]
    | .label a body an => by
      intro st Γ τ t' st' h
      obtain ⟨_, hb, rfl⟩ := checkTerm_label_ok h
      simp [annotated, checkTerm_annotated body _ _ _ _ _ hb]
    | .goto a arg an => by
      intro st Γ τ t' st' h
      obtain ⟨_, _, _, _, _, hb, rfl⟩ := checkTerm_goto_ok h
      simp [annotated, checkTerm_annotated arg _ _ _ _ _ hb]
    | .exit arg an => by
      intro st Γ τ t' st' h
      obtain ⟨_, hb, rfl⟩ := checkTerm_exit_ok h
      simp [annotated, checkTerm_annotated arg _ _ _ _ _ hb]
    | .paren inner => by
      intro st Γ τ t' st' h
      obtain ⟨_, hb, rfl⟩ := checkTerm_paren_ok h
      simp [annotated, checkTerm_annotated inner _ _ _ _ _ hb]
  theorem checkArgs_annotated : ∀ (ts : Terms) (bs : List Binding) (st : SymbolTable) (Γ : Ctx)
      (ts' : Terms) (st' : SymbolTable), checkArgs ts bs st Γ = .ok (ts', st') →
      annotatedArgs ts' = true
    | .nil, bs, st, Γ, ts', st', h => by
      obtain ⟨rfl, _⟩ := checkArgs_nil_ok h
      simp [annotatedArgs]
    | .cons t ts, [], st, Γ, ts', st', h => by
      obtain ⟨rfl, _⟩ := checkArgs_cons_nil_ok h
      simp [annotatedArgs]
    | .cons t ts, b :: bs, st, Γ, ts', st', h => by
      cases hb : b.chi with
      | prd =>
        obtain ⟨_, _, _, _, _, ht, hr, rfl⟩ := checkArgs_cons_prd_ok hb h
        simp [annotatedArgs, checkTerm_annotated t _ _ _ _ _ ht, checkArgs_annotated ts _ _ _ _ _ hr]
      | cns =>
        obtain ⟨_, _, _, _, _, _, _, hc, hr, rfl⟩ := checkArgs_cons_cns_ok hb h
        obtain ⟨_, _, _, _, _, _, rfl⟩ := checkCovarArg_ok hc
        simp [annotatedArgs, annotated, checkArgs_annotated ts _ _ _ _ _ hr]
  theorem clauseCheckers_annotated : ∀ (cs : Clauses), ∀ k ∈ clauseCheckers cs, AnnK k.body
    | .nil => by simp [clauseCheckers]
    | .cons p x ns c b r => by
      intro k hk
      simp only [clauseCheckers, List.mem_cons] at hk
      rcases hk with rfl | hk
      · exact checkTerm_annotated b
      · exact clauseCheckers_annotated r k hk
end

theorem checkDefs_annotated : ∀ (fs fs' : List Def) (st st' : SymbolTable),
    checkDefs fs st = .ok (fs', st') → ∀ f' ∈ fs', annotated f'.body = true
  | [], fs', st, st', h => by
    simp only [checkDefs] at h; cases h; simp
  | f :: r, fs', st, st', h => by
    simp only [checkDefs] at h
    split at h
    · cases h
    · rename_i f1 st1 h1
      split at h
      · cases h
      · rename_i r1 st2 h2
        cases h
        intro x hx
        rcases List.mem_cons.mp hx with rfl | hx
        · simp only [checkDef] at h1
          split at h1
          · cases h1
          · split at h1
            · cases h1
            · split at h1
              · cases h1
              · split at h1
                · cases h1
                · rename_i body' st3 h4
                  cases h1
                  exact checkTerm_annotated f.body _ _ _ _ _ h4
        · exact checkDefs_annotated r r1 st1 _ h2 x hx

theorem checkProgramR_annotated {p : Program} {p' : CheckedProgram}
    (h : checkProgramR p = .ok p') : annotatedProgram p' = true := by
  simp only [checkProgramR] at h
  split at h
  · cases h
  · simp only [checkWithTable] at h
    split at h
    · cases h
    · split at h
      · cases h
      · rename_i fs' st1 hdefs
        split at h
        · cases h
        · cases h
          simp only [annotatedProgram, List.all_eq_true]
          exact checkDefs_annotated _ _ _ _ hdefs

theorem checkProgram_ok_iff {p : Program} {p' : CheckedProgram} :
    checkProgram p = .ok p' ↔ checkProgramR p = .ok p' := by
  simp only [checkProgram]
  constructor
  · intro h
    split at h
    · cases h; assumption
    · cases h
    · cases h
  · intro h; rw [h]

end Scc.Fun.Check
