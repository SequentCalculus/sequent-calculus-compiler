/-
  Scc.Fun.CheckComplete2 — completeness of the checker model, part 2: table lookups find the
  instances / templates that exist, and the clause loop consumes exactly the clauses when their xtors
  are a permutation of the declared ones.
-/
import Scc.Fun.CheckComplete1

namespace Scc.Fun.Check
open Scc.Fun.Typing

theorem polarity_beq_self (pol : Polarity) : (pol == pol) = true := by cases pol <;> rfl

theorem lookupTyForXtor_some {pol : Polarity} : ∀ (types : AList (Polarity × Tys × List String))
    (key : String) (ta : Tys) (xs : List String) (x : String),
    (key, (pol, ta, xs)) ∈ types → x ∈ xs → ∃ r, lookupTyForXtor pol types (instName x ta) = some r
  | [], _, _, _, _, hm, _ => by cases hm
  | (name, (p', tyArgs, xtors)) :: rest, key, ta, xs, x, hm, hx => by
    simp only [lookupTyForXtor]
    split
    · exact ⟨_, rfl⟩
    · rename_i hc
      rcases List.mem_cons.mp hm with he | hm
      · exfalso
        cases he
        apply hc
        simp only [Bool.and_eq_true, polarity_beq_self, List.any_eq_true, decide_eq_true_eq, true_and]
        exact ⟨x, hx, rfl⟩
      · exact lookupTyForXtor_some rest key ta xs x hm hx

theorem findTemplateForXtor_some {pol : Polarity} :
    ∀ (tmpl : AList (Polarity × List String × List String)) (n : String) (params xs : List String)
      (x : String), (n, (pol, params, xs)) ∈ tmpl → x ∈ xs →
      ∃ r, findTemplateForXtor pol tmpl x = some r
  | [], _, _, _, _, hm, _ => by cases hm
  | (n0, (p', params0, xtors)) :: rest, n, params, xs, x, hm, hx => by
    simp only [findTemplateForXtor]
    split
    · exact ⟨_, rfl⟩
    · rename_i hc
      rcases List.mem_cons.mp hm with he | hm
      · exfalso
        cases he
        apply hc
        simp [polarity_beq_self, hx]
      · exact findTemplateForXtor_some rest n params xs x hm hx

theorem resolveXtorTy_codata_complete {p : Program} (ok : DeclsOk p) (hp : programNamesOk p = true)
    {st : SymbolTable} {d : Codata} {s : DtorSig} {tyArgs : Tys} (inv : Inv p st)
    (hd : d ∈ codatas p) (hs : s ∈ d.dtors) (hta : tysNamesOk tyArgs = true)
    (hwf : WfTy p (.decl d.name tyArgs)) :
    ∃ r st1, resolveXtorTy .codata st s.name tyArgs = .ok (r, st1) := by
  simp only [resolveXtorTy]
  cases hl : lookupTyForXtor .codata st.types (instName s.name tyArgs) with
  | some r => exact ⟨r, st, rfl⟩
  | none =>
    simp only [lookupTyTemplateForXtor]
    have hm := AList.mem_of_get? (inv.tmplCodataC d hd)
    obtain ⟨⟨name, xs⟩, hf⟩ := findTemplateForXtor_some _ _ _ _ s.name hm
      (List.mem_map.mpr ⟨s, hs, rfl⟩)
    rw [hf]
    simp only
    obtain ⟨params, hm', hx⟩ := findTemplateForXtor_ok _ _ _ _ hf
    rcases inv.tmpl _ _ _ _ hm' with ⟨hpol, _⟩ | ⟨_, d', hd', rfl, _, rfl⟩
    · cases hpol
    · obtain ⟨s', hs', hn⟩ := List.mem_map.mp hx
      obtain ⟨rfl, _⟩ := dtor_unique ok hd' hs' hd hs hn
      have hgood : tyNamesOk (.decl d'.name tyArgs) = true := by
        simp [tyNamesOk, (codata_namesOk hp hd).1, hta]
      obtain ⟨st1, h1⟩ := checkTy_complete ok hp _ st inv hgood hwf
      rw [h1]
      exact ⟨_, _, rfl⟩

theorem resolveXtorTy_data_complete {p : Program} (ok : DeclsOk p) (hp : programNamesOk p = true)
    {st : SymbolTable} {d : Data} {s : CtorSig} {tyArgs : Tys} (inv : Inv p st)
    (hd : d ∈ datas p) (hs : s ∈ d.ctors) (hta : tysNamesOk tyArgs = true)
    (hwf : WfTy p (.decl d.name tyArgs)) :
    ∃ r st1, resolveXtorTy .data st s.name tyArgs = .ok (r, st1) := by
  simp only [resolveXtorTy]
  cases hl : lookupTyForXtor .data st.types (instName s.name tyArgs) with
  | some r => exact ⟨r, st, rfl⟩
  | none =>
    simp only [lookupTyTemplateForXtor]
    have hm := AList.mem_of_get? (inv.tmplDataC d hd)
    obtain ⟨⟨name, xs⟩, hf⟩ := findTemplateForXtor_some _ _ _ _ s.name hm
      (List.mem_map.mpr ⟨s, hs, rfl⟩)
    rw [hf]
    simp only
    obtain ⟨params, hm', hx⟩ := findTemplateForXtor_ok _ _ _ _ hf
    rcases inv.tmpl _ _ _ _ hm' with ⟨_, d', hd', rfl, _, rfl⟩ | ⟨hpol, _⟩
    · obtain ⟨s', hs', hn⟩ := List.mem_map.mp hx
      obtain ⟨rfl, _⟩ := ctor_unique ok hd' hs' hd hs hn
      have hgood : tyNamesOk (.decl d'.name tyArgs) = true := by
        simp [tyNamesOk, (data_namesOk hp hd).1, hta]
      obtain ⟨st1, h1⟩ := checkTy_complete ok hp _ st inv hgood hwf
      rw [h1]
      exact ⟨_, _, rfl⟩
    · cases hpol

theorem namesNoDups_complete : ∀ (l seen : List String), l.Nodup → (∀ x ∈ l, x ∉ seen) →
    namesNoDups l seen = .ok ()
  | [], _, _, _ => rfl
  | b :: r, seen, hn, hs => by
    simp only [List.nodup_cons] at hn
    have hb : seen.contains b = false := by
      simpa using hs b (by simp)
    simp only [namesNoDups, hb, Bool.false_eq_true, if_false]
    apply namesNoDups_complete r (b :: seen) hn.2
    intro x hx
    simp only [List.mem_cons, not_or]
    exact ⟨fun h => hn.1 (h ▸ hx), hs x (by simp [hx])⟩

theorem addTypes_complete {names : List String} {sig : Ctx} (h : names.length = sig.length) :
    addTypes names sig = .ok (bindNames names sig) := by
  simp [addTypes, h, bindNames]

/-- a checking closure accepts whatever is typed (given that the instance of the expected type
exists) -/
def CompleteK (p : Program) (t : Term) (k : Checker) : Prop :=
  ∀ Γ τ, HasType p Γ t τ → ∀ st, Inv p st → ctxNamesOk Γ = true → tyNamesOk τ = true →
    InstIn st τ → ∃ t' st', k st Γ τ = .ok (t', st')

/-- Completeness of the clause loop of `case` / `new`: it succeeds when the clauses `ks` are the xtors `xtors` in
some order and every clause body is typable at the instantiated signature of its xtor.  `st0` is the table at the
entry of the loop: the table grows while the loop runs, so the signature is asked for every consistent extension
`st1` of `st0`.  The body type is well-formed (`WfTy`) where the loop itself checks the return type (`checkRet`,
the destructor clauses of `new`) and instantiated in the table (`InstIn`) otherwise. -/
theorem clauseLoop_complete {p : Program} (ok : DeclsOk p) (hp : programNamesOk p = true)
    {sigOf : SymbolTable → String → Option (Ctx × Ty)} {missing : String} {checkRet : Bool}
    {tyArgs : Tys} {Γ : Ctx} (hΓ : ctxNamesOk Γ = true) (st0 : SymbolTable) :
    ∀ (xtors : List String) (ks : List ClauseK) (acc : List Clause) (st : SymbolTable),
    (ks.map (fun k => k.src.xtor)).Perm xtors →
    (∀ k ∈ ks, SoundK p (ClauseQ p k.src) k.body) →
    (∀ k ∈ ks, CompleteK p k.src.body k.body) →
    Inv p st → Ext st0 st →
    (∀ k ∈ ks, ∀ st1, Inv p st1 → Ext st0 st1 → ∃ sig bodyTy,
      sigOf st1 (instName k.src.xtor tyArgs) = some (sig, bodyTy) ∧ ctxNamesOk sig = true ∧
      tyNamesOk bodyTy = true ∧ (if checkRet then WfTy p bodyTy else InstIn st1 bodyTy) ∧
      k.src.names.Nodup ∧ k.src.names.length = sig.length ∧
      HasType p (Γ ++ bindNames k.src.names sig) k.src.body bodyTy) →
    ∃ out st', clauseLoop sigOf missing checkRet tyArgs Γ xtors ks acc st = .ok (out, [], st')
  | [], ks, acc, st, hperm, _, _, _, _, _ => by
    have : ks = [] := by
      have := hperm.eq_nil
      simpa using this
    subst this
    exact ⟨_, _, rfl⟩
  | x :: rest, ks, acc, st, hperm, hsound, hcompl, inv, ext, hstep => by
    have hxin : x ∈ ks.map (fun k => k.src.xtor) := hperm.symm.subset (by simp)
    obtain ⟨kx, hkx, hkxx⟩ := List.mem_map.mp hxin
    cases hfind : ks.findIdx? (fun k => k.src.xtor = x) with
    | none =>
      exfalso
      have := List.findIdx?_eq_none_iff.mp hfind kx hkx
      simp [hkxx] at this
    | some pos =>
      obtain ⟨hlt, hpx, _⟩ := List.findIdx?_eq_some_iff_getElem.mp hfind
      have hget : ks[pos]? = some ks[pos] := List.getElem?_eq_getElem hlt
      have hkmem : ks[pos] ∈ ks := List.getElem_mem hlt
      have hkx' : ks[pos].src.xtor = x := by simpa using hpx
      obtain ⟨sig, bodyTy, hs, gsig, gty, hret, hnd, hlen, hty⟩ := hstep _ hkmem st inv ext
      rw [hkx'] at hs
      have hck : ∃ stc, (if checkRet then checkTy bodyTy st else .ok st) = .ok stc ∧ Inv p stc ∧
          Ext st stc ∧ InstIn stc bodyTy := by
        cases checkRet with
        | true =>
          simp only [if_true] at hret ⊢
          obtain ⟨stc, hc⟩ := checkTy_complete ok hp bodyTy st inv gty hret
          obtain ⟨i1, e1, _, in1⟩ := checkTy_sound ok hp bodyTy st stc inv gty hc
          exact ⟨stc, hc, i1, e1, in1⟩
        | false =>
          simp only [Bool.false_eq_true, if_false] at hret ⊢
          exact ⟨st, rfl, inv, Ext.refl _, hret⟩
      obtain ⟨stc, hc, invc, extc, hin⟩ := hck
      have hctx : ctxNamesOk (Γ ++ bindNames ks[pos].src.names sig) = true :=
        ctxNamesOk_append hΓ (bindNames_namesOk gsig)
      obtain ⟨body', st1, hbody⟩ := hcompl _ hkmem _ _ hty stc invc hctx gty hin
      obtain ⟨inv1, ext1, _⟩ := hsound _ hkmem stc _ _ _ _ invc hctx gty hbody
      have hperm' : ((swapRemove ks pos).map (fun k => k.src.xtor)).Perm rest := by
        have h1 := (swapRemove_perm hget).map (fun k => k.src.xtor)
        simp only [List.map_cons, hkx'] at h1
        exact (h1.trans hperm).cons_inv
      have ext01 : Ext st0 st1 := (ext.trans extc).trans ext1
      obtain ⟨out, st', hrest⟩ := clauseLoop_complete (missing := missing) ok hp hΓ st0 rest
        (swapRemove ks pos)
        (⟨ks[pos].src.pol, ks[pos].src.xtor, ks[pos].src.names, bindNames ks[pos].src.names sig,
          body'⟩ :: acc) st1 hperm'
        (fun k hk => hsound k (mem_of_mem_swapRemove hk))
        (fun k hk => hcompl k (mem_of_mem_swapRemove hk)) inv1 ext01
        (fun k hk => hstep k (mem_of_mem_swapRemove hk))
      have hnn : namesNoDups ks[pos].src.names [] = .ok () :=
        namesNoDups_complete _ [] hnd (fun x _ h => by cases h)
      refine ⟨out, st', ?_⟩
      simp only [clauseLoop, hfind, hget, hs, hc, hnn, addTypes_complete hlen, hbody]
      exact hrest

end Scc.Fun.Check
