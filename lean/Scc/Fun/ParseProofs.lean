/-
  Scc.Fun.ParseProofs — the only panic of the parser model (Scc.Fun.Parse) is the literal conversion, and it
  needs an out-of-range literal token in the input: the `panic` clause of the judgment `Run`
  (Scc.Fun.ParseRun), established for every parser function by the walk in Scc.Fun.ParseInRange.
-/
import Scc.Fun.ParseInRange

namespace Scc.Fun.Parse
open Scc.Fun.Lex Scc.Fun.Print

theorem parseTokens_panic {mode : LiteralMode} {ts : List Token} {site : PanicSite}
    (h : parseTokens mode ts = .panic site) : mode = .panicOnOverflow ∧ Ov ts := by
  have hr := run_parseTokens (mode := mode) ts
  unfold parseTokens at h
  cases ho : parseDecls mode (fuelFor ts.length) (ts.length + 1) ts with
  | ok ds => rw [ho] at h; cases h
  | diag c => rw [ho] at h; cases h
  | panic s => rw [ho] at hr; exact hr

end Scc.Fun.Parse
