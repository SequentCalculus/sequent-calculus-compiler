/-
  Scc.Fun.CheckComplete4 — completeness of the checker model, part 4: programs.
  A well-typed program (`WT p`, identifier-like names) is accepted: `build_symbol_table`,
  `check_type_params`, the declaration checks, every definition and the final collection succeed.
-/
import Scc.Fun.CheckComplete3

namespace Scc.Fun.Check
open Scc.Fun.Typing

theorem nodup_append_left {α : Type} {a b : List α} (h : (a ++ b).Nodup) : a.Nodup :=
  (List.nodup_append.mp h).1

theorem not_mem_of_nodup_append_cons {α : Type} {a b : List α} {x : α}
    (h : (a ++ x :: b).Nodup) : x ∉ a := by
  intro hm
  exact (List.nodup_append.mp h).2.2 x hm x (by simp) rfl

theorem buildDecls_total : ∀ (ds done : List Decl) (st : SymbolTable), Built st done →
    (((done ++ ds).filterMap defEntry).map Prod.fst).Nodup →
    (((done ++ ds).filterMap tmplEntry).map Prod.fst).Nodup →
    (((done ++ ds).flatMap ctorEntries).map Prod.fst).Nodup →
    (((done ++ ds).flatMap dtorEntries).map Prod.fst).Nodup →
    ∃ st', buildDecls ds st = .ok st'
  | [], _, st, _, _, _, _, _ => ⟨st, rfl⟩
  | d :: r, done, st, b, n1, n2, n3, n4 => by
    have hstep : ∃ st1, buildDecl d st = .ok st1 := by
      cases d with
      | defn f =>
        have hget : st.defs.get? f.name = none := by
          apply AList.get?_none_of_not_mem_keys
          rw [b.defs]
          simp only [List.filterMap_append, List.filterMap_cons, defEntry, List.map_append,
            List.map_cons] at n1
          exact not_mem_of_nodup_append_cons n1
        have hc : st.defs.contains f.name = false := by simp [AList.contains, hget]
        exact ⟨_, by simp only [buildDecl, hc, Bool.false_eq_true, if_false] <;> rfl⟩
      | data dd =>
        have hget : st.typeTemplates.get? dd.name = none := by
          apply AList.get?_none_of_not_mem_keys
          rw [b.tmpl]
          simp only [List.filterMap_append, List.filterMap_cons, tmplEntry, List.map_append,
            List.map_cons] at n2
          exact not_mem_of_nodup_append_cons n2
        have hc : st.typeTemplates.contains dd.name = false := by simp [AList.contains, hget]
        simp only [buildDecl, hc, Bool.false_eq_true, if_false, buildCtors_eq]
        rw [(AList.addNew_eq_some _ _ _ b.ctorsN).2 ⟨rfl, ?_⟩]
        · exact ⟨_, rfl⟩
        rw [b.ctors]
        simp only [keysNodup, List.flatMap_append, List.flatMap_cons, ctorEntries, List.map_append] at n3 ⊢
        rw [← List.append_assoc] at n3
        exact nodup_append_left n3
      | codata dd =>
        have hget : st.typeTemplates.get? dd.name = none := by
          apply AList.get?_none_of_not_mem_keys
          rw [b.tmpl]
          simp only [List.filterMap_append, List.filterMap_cons, tmplEntry, List.map_append,
            List.map_cons] at n2
          exact not_mem_of_nodup_append_cons n2
        have hc : st.typeTemplates.contains dd.name = false := by simp [AList.contains, hget]
        simp only [buildDecl, hc, Bool.false_eq_true, if_false, buildDtors_eq]
        rw [(AList.addNew_eq_some _ _ _ b.dtorsN).2 ⟨rfl, ?_⟩]
        · exact ⟨_, rfl⟩
        rw [b.dtors]
        simp only [keysNodup, List.flatMap_append, List.flatMap_cons, dtorEntries, List.map_append] at n4 ⊢
        rw [← List.append_assoc] at n4
        exact nodup_append_left n4
    obtain ⟨st1, h1⟩ := hstep
    have b1 := buildDecl_ok b h1
    obtain ⟨st', h'⟩ := buildDecls_total r (done ++ [d]) st1 b1 (by simpa using n1)
      (by simpa using n2) (by simpa using n3) (by simpa using n4)
    exact ⟨st', by simp [buildDecls, h1, h']⟩

theorem buildDecls_total_of_declsOk {p : Program} (ok : DeclsOk p) :
    ∃ st, buildDecls p.decls {} = .ok st ∧ Built st p.decls := by
  obtain ⟨st, h⟩ := buildDecls_total p.decls [] {} built_empty
    (by rw [List.nil_append, defEntry_keys]; exact ok.defNamesNodup)
    (by rw [List.nil_append, tmplEntry_keys]; exact ok.typeNamesNodup)
    (by rw [List.nil_append, ctorEntries_keys]; exact ok.ctorNamesNodup)
    (by rw [List.nil_append, dtorEntries_keys]; exact ok.dtorNamesNodup)
  exact ⟨st, h, by simpa using buildDecls_ok p.decls [] {} st built_empty h⟩

theorem paramsNotTemplates_total {T : AList (Polarity × List String × List String)} :
    ∀ (ps : List String), (∀ a ∈ ps, a ∉ T.map Prod.fst) → paramsNotTemplates T ps = .ok ()
  | [], _ => rfl
  | a :: r, h => by
    have hc : T.contains a = false := by
      simp [AList.contains, AList.get?_none_of_not_mem_keys (h a (by simp))]
    simp only [paramsNotTemplates, hc, Bool.false_eq_true, if_false]
    exact paramsNotTemplates_total r (fun x hx => h x (by simp [hx]))

theorem checkTypeParams_total {T : AList (Polarity × List String × List String)} :
    ∀ (l : AList (Polarity × List String × List String)),
    (∀ n pol params xs, (n, (pol, params, xs)) ∈ l →
      params.Nodup ∧ ∀ a ∈ params, a ∉ T.map Prod.fst) →
    checkTypeParams T l = .ok ()
  | [], _ => rfl
  | (n, (pol, params, xs)) :: r, h => by
    obtain ⟨h1, h2⟩ := h n pol params xs (by simp)
    simp only [checkTypeParams, namesNoDups_complete params [] h1 (fun x _ hx => by cases hx),
      paramsNotTemplates_total params h2]
    exact checkTypeParams_total r (fun n' pol' params' xs' hm => h n' pol' params' xs' (by simp [hm]))

theorem checkTyTemplate_total {p : Program} {st : SymbolTable} (b : Built st p.decls) {t : Ty}
    {ps : List String} (h : TyScoped p ps t) : checkTyTemplate t st ps = .ok () := by
  cases t with
  | i64 => rfl
  | decl n args =>
    simp only [checkTyTemplate]
    cases hget : st.typeTemplates.get? n with
    | some v => rfl
    | none =>
      simp only [TyScoped] at h
      rcases h with h | h
      · exfalso
        rw [mem_typeNames_iff b] at h
        exact AList.not_mem_keys_of_get?_none hget h
      · have hc : ps.contains n = true := List.contains_iff_mem.mpr h
        simp only [hc, if_true]

theorem ctxCheckTemplate_total {p : Program} {st : SymbolTable} (b : Built st p.decls)
    {ps : List String} : ∀ (c : Ctx), (∀ x ∈ c, TyScoped p ps x.ty) →
    ctxCheckTemplate c st ps = .ok ()
  | [], _ => rfl
  | y :: r, h => by
    simp only [ctxCheckTemplate, checkTyTemplate_total b (h y (by simp))]
    exact ctxCheckTemplate_total b r (fun x hx => h x (by simp [hx]))

theorem checkCtorSigs_total {p : Program} {st : SymbolTable} (b : Built st p.decls)
    {ps : List String} : ∀ (cs : List CtorSig), (∀ c ∈ cs, ∀ x ∈ c.args, TyScoped p ps x.ty) →
    checkCtorSigs st ps cs = .ok ()
  | [], _ => rfl
  | c :: r, h => by
    simp only [checkCtorSigs, ctxCheckTemplate_total b c.args (h c (by simp))]
    exact checkCtorSigs_total b r (fun x hx => h x (by simp [hx]))

theorem checkDtorSigs_total {p : Program} {st : SymbolTable} (b : Built st p.decls)
    {ps : List String} : ∀ (cs : List DtorSig),
    (∀ c ∈ cs, (∀ x ∈ c.args, TyScoped p ps x.ty) ∧ TyScoped p ps c.contTy) →
    checkDtorSigs st ps cs = .ok ()
  | [], _ => rfl
  | c :: r, h => by
    simp only [checkDtorSigs, ctxCheckTemplate_total b c.args (h c (by simp)).1,
      checkTyTemplate_total b (h c (by simp)).2]
    exact checkDtorSigs_total b r (fun x hx => h x (by simp [hx]))

theorem checkTypeDecls_total {p : Program} {st : SymbolTable} (b : Built st p.decls)
    (ok : DeclsOk p) : ∀ (ds : List Decl), (∀ d ∈ ds, d ∈ p.decls) →
    ∃ fs, checkTypeDecls ds st = .ok fs
  | [], _ => ⟨[], rfl⟩
  | .data d :: r, h => by
    obtain ⟨fs, hr⟩ := checkTypeDecls_total b ok r (fun x hx => h x (by simp [hx]))
    have hd : d ∈ datas p := mem_datas.mpr (h _ (by simp))
    exact ⟨fs, by simp only [checkTypeDecls, checkDataDecl,
      checkCtorSigs_total b d.ctors (ok.dataSigs d hd), hr] <;> rfl⟩
  | .codata d :: r, h => by
    obtain ⟨fs, hr⟩ := checkTypeDecls_total b ok r (fun x hx => h x (by simp [hx]))
    have hd : d ∈ codatas p := mem_codatas.mpr (h _ (by simp))
    exact ⟨fs, by simp only [checkTypeDecls, checkCodataDecl,
      checkDtorSigs_total b d.dtors (ok.codataSigs d hd), hr] <;> rfl⟩
  | .defn f :: r, h => by
    obtain ⟨fs, hr⟩ := checkTypeDecls_total b ok r (fun x hx => h x (by simp [hx]))
    exact ⟨f :: fs, by simp only [checkTypeDecls, hr] <;> rfl⟩

theorem ctxNoDups_complete : ∀ (c : Ctx) (seen : List String), (c.map (·.var)).Nodup →
    (∀ x ∈ c.map (·.var), x ∉ seen) → ctxNoDups c seen = .ok ()
  | [], _, _, _ => rfl
  | b :: r, seen, hn, hs => by
    simp only [List.map_cons, List.nodup_cons] at hn
    have hb : seen.contains b.var = false := by
      simpa using hs b.var (by simp)
    simp only [ctxNoDups, hb, Bool.false_eq_true, if_false]
    apply ctxNoDups_complete r (b.var :: seen) hn.2
    intro x hx
    simp only [List.mem_cons, not_or]
    exact ⟨fun h => hn.1 (h ▸ hx), hs x (by simp [hx])⟩

theorem ctxCheck_complete {p : Program} (ok : DeclsOk p) (hp : programNamesOk p = true) :
    ∀ (c : Ctx) (st : SymbolTable), Inv p st → ctxNamesOk c = true → (∀ b ∈ c, WfTy p b.ty) →
    ∃ st', ctxCheck c st = .ok st'
  | [], st, _, _, _ => ⟨st, rfl⟩
  | b :: r, st, inv, hn, hwf => by
    have hb : tyNamesOk b.ty = true := ctxNamesOk_mem hn (by simp)
    have hr : ctxNamesOk r = true := by
      simp only [ctxNamesOk, List.all_cons, Bool.and_eq_true] at hn; exact hn.2
    obtain ⟨st1, h1⟩ := checkTy_complete ok hp b.ty st inv hb (hwf b (by simp))
    obtain ⟨inv1, _, _, _⟩ := checkTy_sound ok hp b.ty st st1 inv hb h1
    obtain ⟨st2, h2⟩ := ctxCheck_complete ok hp r st1 inv1 hr (fun x hx => hwf x (by simp [hx]))
    exact ⟨st2, by simp [ctxCheck, h1, h2]⟩

theorem checkDef_complete {p : Program} (ok : DeclsOk p) (hp : programNamesOk p = true)
    {f : Def} {st : SymbolTable} (hf : f ∈ defs p) (dok : DefOk p f) (inv : Inv p st) :
    ∃ r, checkDef f st = .ok r := by
  obtain ⟨g1, g2, g3⟩ := def_namesOk hp hf
  have h0 := ctxNoDups_complete f.ctx [] dok.params (fun x _ hx => by cases hx)
  obtain ⟨st1, h1⟩ := ctxCheck_complete ok hp f.ctx st inv g1 dok.paramTys
  obtain ⟨inv1, _, _⟩ := ctxCheck_sound ok hp f.ctx st st1 inv g1 h1
  obtain ⟨st2, h2⟩ := checkTy_complete ok hp f.retTy st1 inv1 g2 dok.retTy
  obtain ⟨inv2, _, _, in2⟩ := checkTy_sound ok hp f.retTy st1 st2 inv1 g2 h2
  obtain ⟨b', st3, h3⟩ := checkTerm_complete ok hp f.body g3 f.ctx f.retTy dok.body st2 inv2 g1 g2 in2
  exact ⟨_, by simp only [checkDef, h0, h1, h2, h3] <;> rfl⟩

theorem checkDefs_complete {p : Program} (ok : DeclsOk p) (hp : programNamesOk p = true) :
    ∀ (fs : List Def) (st : SymbolTable), (∀ f ∈ fs, f ∈ defs p) → (∀ f ∈ fs, DefOk p f) →
    Inv p st → ∃ r, checkDefs fs st = .ok r
  | [], st, _, _, _ => ⟨_, rfl⟩
  | f :: r, st, hsub, hok, inv => by
    obtain ⟨⟨f', st1⟩, h1⟩ := checkDef_complete ok hp (hsub f (by simp)) (hok f (by simp)) inv
    obtain ⟨inv1, _⟩ := checkDef_sound ok hp (hsub f (by simp)) inv h1
    obtain ⟨⟨r', st2⟩, h2⟩ := checkDefs_complete ok hp r st1 (fun x hx => hsub x (by simp [hx]))
      (fun x hx => hok x (by simp [hx])) inv1
    exact ⟨_, by simp only [checkDefs, h1, h2] <;> rfl⟩

/-! ## collecting the instances never panics on a consistent table -/

theorem collectTypes_total {p : Program} {st : SymbolTable} (inv : Inv p st) :
    ∀ (types : AList (Polarity × Tys × List String)), (∀ e ∈ types, e ∈ st.types) →
    ∃ r, collectTypes st types = .ok r
  | [], _ => ⟨_, rfl⟩
  | (name, (.data, ta, xs)) :: r, h => by
    obtain ⟨_, _, g3⟩ := inv.types name .data ta xs (h _ (by simp))
    obtain ⟨⟨ds, cs⟩, hr⟩ := collectTypes_total inv r (fun e he => h e (by simp [he]))
    rcases g3 with ⟨_, d, hd, _, rfl, _, hcs⟩ | ⟨hpol, _⟩
    · exact ⟨_, by simp only [collectTypes, collectCtors_eq d.ctors hcs, hr] <;> rfl⟩
    · cases hpol
  | (name, (.codata, ta, xs)) :: r, h => by
    obtain ⟨_, _, g3⟩ := inv.types name .codata ta xs (h _ (by simp))
    obtain ⟨⟨ds, cs⟩, hr⟩ := collectTypes_total inv r (fun e he => h e (by simp [he]))
    rcases g3 with ⟨hpol, _⟩ | ⟨_, d, hd, _, rfl, _, hcs⟩
    · cases hpol
    · exact ⟨_, by simp only [collectTypes, collectDtors_eq d.dtors hcs, hr] <;> rfl⟩

theorem checkProgramR_complete {p : Program} (hp : programNamesOk p = true) (w : WT p) :
    ∃ p', checkProgramR p = .ok p' := by
  have ok := w.decls
  obtain ⟨st0, hbuild, b⟩ := buildDecls_total_of_declsOk ok
  have hparams : checkTypeParams st0.typeTemplates st0.typeTemplates = .ok () := by
    apply checkTypeParams_total
    intro n pol params xs hm
    rcases (built_inv b).tmpl n pol params xs hm with ⟨_, d, hd, _, rfl, _⟩ | ⟨_, d, hd, _, rfl, _⟩
    · exact ⟨(ok.dataParams d hd).1,
        fun a ha hn => (ok.dataParams d hd).2 a ha ((mem_typeNames_iff b a).mpr hn)⟩
    · exact ⟨(ok.codataParams d hd).1,
        fun a ha hn => (ok.codataParams d hd).2 a ha ((mem_typeNames_iff b a).mpr hn)⟩
  obtain ⟨fs, hdecls⟩ := checkTypeDecls_total b ok p.decls (fun d hd => hd)
  obtain ⟨_, hfs⟩ := declsOk_of_checks b hparams hdecls
  subst hfs
  obtain ⟨⟨fs', st1⟩, hdefs⟩ := checkDefs_complete ok hp (defs p) st0 (fun f hf => hf) w.defs
    (built_inv b)
  obtain ⟨inv1, _⟩ := checkDefs_sound ok hp (defs p) fs' st0 st1 (fun f hf => hf) (built_inv b) hdefs
  obtain ⟨⟨ds, cs⟩, hcollect⟩ := collectTypes_total inv1 st1.types (fun e he => he)
  exact ⟨_, by simp only [checkProgramR, buildSymbolTable, hbuild, hparams, checkWithTable, hdecls,
    hdefs, hcollect] <;> rfl⟩

end Scc.Fun.Check
