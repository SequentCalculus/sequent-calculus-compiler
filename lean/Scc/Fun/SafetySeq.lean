/-
  Scc.Fun.SafetySeq — on `Sequenced` programs the Fun machine never creates a thunk (the claim of
  Scc/Fun/Sem.lean: "On `Sequenced` programs no `thunk` is ever created, so by-name and by-value
  coincide there").  `NTs p' s`: no value anywhere in the state `s` (control environment, stack frames,
  captured continuations, closures, constructor arguments) is a `thunk`, every term still to be run is
  `seqTerm`, and every pending argument list is pure.  The invariant is preserved by every step from a
  WELL-TYPED state (`step_nt`): typing is what makes a pure term of codata type a variable or a `new`
  (`ATyped.pureS_of_codata`), whose suspension is a value.
-/
import Scc.Fun.SafetyPure
import Scc.Fun.SafetyClosed

namespace Scc.Fun.Safety
open Scc.Fun2Core.Sem

mutual
  inductive NTv (p' : CheckedProgram) : Value → Prop
    | int {n} : NTv p' (.int n)
    | con {K vs} : NTvs p' vs → NTv p' (.con K vs)
    | obj {cs ρ} : seqClauses p' cs = true → NTenv p' ρ → NTv p' (.obj cs ρ)
    | cont {k} : NTk p' k → NTv p' (.cont k)
  inductive NTvs (p' : CheckedProgram) : List Value → Prop
    | nil : NTvs p' []
    | cons {v vs} : NTv p' v → NTvs p' vs → NTvs p' (v :: vs)
  inductive NTenv (p' : CheckedProgram) : Env → Prop
    | nil : NTenv p' []
    | cons {x v ρ} : NTv p' v → NTenv p' ρ → NTenv p' ((x, v) :: ρ)
  inductive NTh (p' : CheckedProgram) : ArgHead → Prop
    | call {f} : NTh p' (.call f)
    | ctor {c} : NTh p' (.ctor c)
    | dtor {v d} : NTv p' v → NTh p' (.dtor v d)
  inductive NTf (p' : CheckedProgram) : Frame → Prop
    | opL {o snd ρ} : seqTerm p' snd = true → NTenv p' ρ → NTf p' (.opL o snd ρ)
    | opR {o a} : NTf p' (.opR o a)
    | ifL {s snd t e ρ} : seqTerm p' snd = true → seqTerm p' t = true → seqTerm p' e = true →
        NTenv p' ρ → NTf p' (.ifL s snd t e ρ)
    | ifR {s a t e ρ} : seqTerm p' t = true → seqTerm p' e = true → NTenv p' ρ →
        NTf p' (.ifR s a t e ρ)
    | ifZ {s t e ρ} : seqTerm p' t = true → seqTerm p' e = true → NTenv p' ρ →
        NTf p' (.ifZ s t e ρ)
    | print {nl next ρ} : seqTerm p' next = true → NTenv p' ρ → NTf p' (.print nl next ρ)
    | letF {x body ρ} : seqTerm p' body = true → NTenv p' ρ → NTf p' (.letF x body ρ)
    | arg {h done todo ρ} : NTh p' h → NTvs p' done → pureTerms todo = true →
        seqTerms p' todo = true → NTenv p' ρ → NTf p' (.arg h done todo ρ)
    | caseF {cs ρ} : seqClauses p' cs = true → NTenv p' ρ → NTf p' (.caseF cs ρ)
    | dtorScrut {d args ρ} : pureTerms args = true → seqTerms p' args = true → NTenv p' ρ →
        NTf p' (.dtorScrut d args ρ)
    | dtorApply {d vs} : NTvs p' vs → NTf p' (.dtorApply d vs)
    | exitF : NTf p' .exitF
  inductive NTk (p' : CheckedProgram) : Stack → Prop
    | nil : NTk p' []
    | cons {f k} : NTf p' f → NTk p' k → NTk p' (f :: k)
end

/-- thunk-free, sequenced states -/
inductive NTs (p' : CheckedProgram) : State → Prop
  | eval {t ρ k} : seqTerm p' t = true → NTenv p' ρ → NTk p' k → NTs p' (.eval t ρ k)
  | ret {v k} : NTv p' v → NTk p' k → NTs p' (.ret v k)
  | args {h done todo ρ k} : NTh p' h → NTvs p' done → pureTerms todo = true →
      seqTerms p' todo = true → NTenv p' ρ → NTk p' k → NTs p' (.args h done todo ρ k)

inductive NTnext (p' : CheckedProgram) : StepResult → Prop
  | next {s' o} : NTs p' s' → NTnext p' (.next s' o)
  | done {a} : NTnext p' (.done a)
  | stuck {w} : NTnext p' (.stuck w)

theorem lookup_nt {p' : CheckedProgram} {x : String} {v : Value} : ∀ (ρ : Env), NTenv p' ρ →
    lookup x ρ = some v → NTv p' v
  | [], _, h => by simp [lookup] at h
  | (y, w) :: ρ, hρ, h => by
    cases hρ with
    | cons hw hr =>
      rw [lookup_cons] at h
      by_cases hy : y = x
      · simp only [hy, if_true, Option.some.injEq] at h
        subst h; exact hw
      · simp only [hy, if_false] at h
        exact lookup_nt ρ hr h

theorem bindAll_nt {p' : CheckedProgram} : ∀ (names : List String) (vs : List Value) (ρ ρ' : Env),
    NTvs p' vs → NTenv p' ρ → bindAll names vs ρ = some ρ' → NTenv p' ρ'
  | [], [], ρ, ρ', _, hρ, h => by simp only [bindAll, Option.some.injEq] at h; subst h; exact hρ
  | [], _ :: _, _, _, _, _, h => by simp [bindAll] at h
  | _ :: _, [], _, _, _, _, h => by simp [bindAll] at h
  | n :: ns, v :: vs, ρ, ρ', hv, hρ, h => by
    cases hv with
    | cons h1 h2 =>
      simp only [bindAll] at h
      exact bindAll_nt ns vs _ ρ' h2 (.cons h1 hρ) h

theorem NTvs.snoc {p' : CheckedProgram} {v : Value} (hv : NTv p' v) : ∀ (vs : List Value),
    NTvs p' vs → NTvs p' (vs ++ [v])
  | [], _ => .cons hv .nil
  | w :: vs, h => by
    cases h with
    | cons h1 h2 => exact .cons h1 (NTvs.snoc hv vs h2)

theorem findClause_seq {p' : CheckedProgram} {x : String} {cl : Clause} : ∀ (cs : Clauses),
    seqClauses p' cs = true → findClause x cs = some cl → seqTerm p' cl.body = true
  | .nil, _, h => by simp [findClause] at h
  | .cons pol y ns c b r, hs, h => by
    simp only [seqClauses, Bool.and_eq_true] at hs
    simp only [findClause] at h
    by_cases hxy : (x == y) = true
    · simp only [hxy, if_true, Option.some.injEq] at h
      subst h; exact hs.1
    · simp only [hxy, Bool.false_eq_true, if_false] at h
      exact findClause_seq r hs.2 h

/-- the suspension of a variable or a `new` is a thunk-free value -/
theorem suspend_nt {p' : CheckedProgram} {ρ : Env} {v : Value} (hρ : NTenv p' ρ) : ∀ (t : Term),
    pureS t = true → seqTerm p' t = true → suspend t ρ = .ok v → NTv p' v
  | .paren t, hp, hs, h => by
    simp only [suspend] at h
    exact suspend_nt hρ t (by simpa [pureS] using hp) (by simpa [seqTerm] using hs) h
  | .var x _ _, _, _, h => by
    simp only [suspend] at h
    cases hl : lookup x ρ with
    | none => simp [hl] at h
    | some w =>
      simp only [hl, Except.ok.injEq] at h
      subst h
      exact lookup_nt ρ hρ hl
  | .new cs _, _, hs, h => by
    simp only [suspend, Except.ok.injEq] at h
    subst h
    exact .obj (by simpa [seqTerm] using hs) hρ
  | .lit _, hp, _, _ => by simp [pureS] at hp
  | .op .., hp, _, _ => by simp [pureS] at hp
  | .ifc .., hp, _, _ => by simp [pureS] at hp
  | .ifz .., hp, _, _ => by simp [pureS] at hp
  | .print .., hp, _, _ => by simp [pureS] at hp
  | .letIn .., hp, _, _ => by simp [pureS] at hp
  | .call .., hp, _, _ => by simp [pureS] at hp
  | .ctor .., hp, _, _ => by simp [pureS] at hp
  | .dtor .., hp, _, _ => by simp [pureS] at hp
  | .case .., hp, _, _ => by simp [pureS] at hp
  | .label .., hp, _, _ => by simp [pureS] at hp
  | .goto .., hp, _, _ => by simp [pureS] at hp
  | .exit .., hp, _, _ => by simp [pureS] at hp

theorem evalStep_nt {p : Program} {p' : CheckedProgram} (W : AWT p p') {ρ : Env} {k : Stack}
    {Γ : Ctx} {τ : Ty} (hρ : NTenv p' ρ) (hk : NTk p' k) :
    ∀ (t : Term), ATyped p Γ t τ → seqTerm p' t = true → NTnext p' (evalStep p' t ρ k)
  | .var x ty chi, _, _ => by
    simp only [evalStep]
    cases hl : lookup x ρ with
    | none => exact .stuck
    | some v => exact .next (.ret (lookup_nt ρ hρ hl) hk)
  | .lit n, _, _ => .next (.ret .int hk)
  | .op a o b, _, hs => by
    simp only [seqTerm, Bool.and_eq_true] at hs
    exact .next (.eval hs.1.2 hρ (.cons (.opL hs.2 hρ) hk))
  | .ifc s a b t e an, _, hs => by
    simp only [seqTerm, Bool.and_eq_true] at hs
    exact .next (.eval hs.1.1.1 hρ (.cons (.ifL hs.1.1.2 hs.1.2 hs.2 hρ) hk))
  | .ifz s a t e an, _, hs => by
    simp only [seqTerm, Bool.and_eq_true] at hs
    exact .next (.eval hs.1.1 hρ (.cons (.ifZ hs.1.2 hs.2 hρ) hk))
  | .print nl a n an, _, hs => by
    simp only [seqTerm, Bool.and_eq_true] at hs
    exact .next (.eval hs.1 hρ (.cons (.print hs.2 hρ) hk))
  | .letIn x σ bound body an, ht, hs => by
    simp only [seqTerm, Bool.and_eq_true, Bool.or_eq_true, Bool.not_eq_true'] at hs
    simp only [evalStep]
    by_cases hcd : isCodataTy p' σ = true
    · simp only [hcd, if_true]
      cases ht with
      | letIn hw hb _ =>
        obtain ⟨d, hd, targs, hσ⟩ := W.codata_sound σ hw hcd
        subst hσ
        have hpure : pureTerm bound = true := by
          rcases hs.1.1 with h | h
          · rw [hcd] at h; cases h
          · exact h
        have hps := ATyped.pureS_of_codata W.decls hd bound hb hpure
        cases hsu : suspend bound ρ with
        | error w => exact .stuck
        | ok v => exact .next (.eval hs.2 (.cons (suspend_nt hρ bound hps hs.1.2 hsu) hρ) hk)
    · simp only [hcd, Bool.false_eq_true, if_false]
      exact .next (.eval hs.1.2 hρ (.cons (.letF hs.2 hρ) hk))
  | .call f as an, _, hs => by
    simp only [seqTerm, Bool.and_eq_true] at hs
    exact .next (.args .call .nil hs.1 hs.2 hρ hk)
  | .ctor c as an, _, hs => by
    simp only [seqTerm, Bool.and_eq_true] at hs
    exact .next (.args .ctor .nil hs.1 hs.2 hρ hk)
  | .dtor s nm ta as an, _, hs => by
    simp only [seqTerm, Bool.and_eq_true] at hs
    exact .next (.eval hs.1.1 hρ (.cons (.dtorScrut hs.1.2 hs.2 hρ) hk))
  | .case s ta cs an, _, hs => by
    simp only [seqTerm, Bool.and_eq_true] at hs
    exact .next (.eval hs.1 hρ (.cons (.caseF hs.2 hρ) hk))
  | .new cs an, _, hs => .next (.ret (.obj (by simpa [seqTerm] using hs) hρ) hk)
  | .label a body an, _, hs =>
    .next (.eval (by simpa [seqTerm] using hs) (.cons (.cont hk) hρ) hk)
  | .goto a u an, _, hs => by
    simp only [evalStep]
    cases hl : lookup a ρ with
    | none => exact .stuck
    | some v =>
      cases v with
      | cont k' =>
        have := lookup_nt ρ hρ hl
        cases this with
        | cont hk' => exact .next (.eval (by simpa [seqTerm] using hs) hρ hk')
      | _ => exact .stuck
  | .exit u an, _, hs =>
    .next (.eval (by simpa [seqTerm] using hs) hρ (.cons .exitF .nil))
  | .paren u, _, hs => .next (.eval (by simpa [seqTerm] using hs) hρ hk)

theorem clause_nt {p' : CheckedProgram} {cs : Clauses} {ρ : Env} {x : String} {vs : List Value}
    {k : Stack} (hcs : seqClauses p' cs = true) (hρ : NTenv p' ρ) (hvs : NTvs p' vs)
    (hk : NTk p' k) :
    NTnext p' (match findClause x cs with
      | none => .stuck (.noClause x)
      | some cl =>
        match bindAll cl.names vs ρ with
        | none => .stuck (.arity x)
        | some env' => .next (.eval cl.body env' k) none) := by
  cases hf : findClause x cs with
  | none => exact .stuck
  | some cl =>
    simp only
    cases hb : bindAll cl.names vs ρ with
    | none => exact .stuck
    | some ρ' => exact .next (.eval (findClause_seq cs hcs hf) (bindAll_nt _ _ _ _ hvs hρ hb) hk)

theorem retFrame_nt {p' : CheckedProgram} {v : Value} {f : Frame} {k : Stack} (hv : NTv p' v)
    (hf : NTf p' f) (hk : NTk p' k) : NTnext p' (retFrame v f k) := by
  cases hf with
  | opL hs hρ =>
    cases v with
    | int a => exact .next (.eval hs hρ (.cons .opR hk))
    | _ => exact .stuck
  | @opR o a =>
    cases v with
    | int b =>
      simp only [retFrame]
      cases arith o a b with
      | ok r => exact .next (.ret .int hk)
      | error w => exact .stuck
    | _ => exact .stuck
  | ifL h1 h2 h3 hρ =>
    cases v with
    | int a => exact .next (.eval h1 hρ (.cons (.ifR h2 h3 hρ) hk))
    | _ => exact .stuck
  | ifR h2 h3 hρ =>
    cases v with
    | int a =>
      simp only [retFrame]
      split
      · exact .next (.eval h2 hρ hk)
      · exact .next (.eval h3 hρ hk)
    | _ => exact .stuck
  | ifZ h2 h3 hρ =>
    cases v with
    | int a =>
      simp only [retFrame]
      split
      · exact .next (.eval h2 hρ hk)
      · exact .next (.eval h3 hρ hk)
    | _ => exact .stuck
  | print h1 hρ =>
    cases v with
    | int a => exact .next (.eval h1 hρ hk)
    | _ => exact .stuck
  | letF h1 hρ => exact .next (.eval h1 (.cons hv hρ) hk)
  | arg hh hd hp hs hρ => exact .next (.args hh (hd.snoc hv _) hp hs hρ hk)
  | caseF hcs hρ =>
    cases hv with
    | con hvs => exact clause_nt hcs hρ hvs hk
    | _ => exact .stuck
  | dtorScrut hp hs hρ => exact .next (.args (.dtor hv) .nil hp hs hρ hk)
  | dtorApply hvs =>
    cases hv with
    | obj hcs hρ => exact clause_nt hcs hρ hvs hk
    | _ => exact .stuck
  | exitF =>
    cases v with
    | int a => exact .done
    | _ => exact .stuck

theorem applyHead_nt {p' : CheckedProgram} (hseq : Sequenced p' = true) {h : ArgHead}
    {done : List Value} {k : Stack} (hh : NTh p' h) (hd : NTvs p' done) (hk : NTk p' k) :
    NTnext p' (applyHead p' h done k) := by
  cases hh with
  | @call f =>
    simp only [applyHead]
    cases hf : findDef p' f with
    | none => exact .stuck
    | some d =>
      simp only
      cases hb : bindAll (d.ctx.map (·.var)) done [] with
      | none => exact .stuck
      | some ρ' =>
        have hmem : d ∈ p'.defs := by
          unfold findDef at hf
          exact List.mem_of_find?_eq_some hf
        have hs : seqTerm p' d.body = true := by
          simp only [Sequenced, List.all_eq_true] at hseq
          exact hseq d hmem
        exact .next (.eval hs (bindAll_nt _ _ _ _ hd .nil hb) hk)
  | ctor => exact .next (.ret (.con hd) hk)
  | dtor hv => exact .next (.ret hv (.cons (.dtorApply hd) hk))

theorem argsStep_nt {p : Program} {p' : CheckedProgram} (W : AWT p p')
    (hseq : Sequenced p' = true) {h : ArgHead} {done : List Value} {todo : Terms} {ρ : Env}
    {k : Stack} {Γ bs : Ctx} (has : AArgs p Γ todo bs) (hh : NTh p' h) (hd : NTvs p' done)
    (hp : pureTerms todo = true) (hs : seqTerms p' todo = true) (hρ : NTenv p' ρ)
    (hk : NTk p' k) : NTnext p' (argsStep p' h done todo ρ k) := by
  cases has with
  | nil =>
    simp only [argsStep]
    exact applyHead_nt hseq hh hd hk
  | @prd _ t ts b bs' hc hw ht hr =>
    simp only [pureTerms, Bool.and_eq_true] at hp
    simp only [seqTerms, Bool.and_eq_true] at hs
    rw [argsStep_cons_prd _ _ _ _ _ _ _ ht.not_cov, ht.getType]
    simp only
    by_cases hcd : isCodataTy p' b.ty = true
    · simp only [hcd, if_true]
      obtain ⟨d, hdd, targs, hσ⟩ := W.codata_sound _ hw hcd
      rw [hσ] at ht
      have hps := ATyped.pureS_of_codata W.decls hdd t ht hp.1
      cases hsu : suspend t ρ with
      | error w => exact .stuck
      | ok v => exact .next (.args hh (hd.snoc (suspend_nt hρ t hps hs.1 hsu) _) hp.2 hs.2 hρ hk)
    · simp only [hcd, Bool.false_eq_true, if_false]
      exact .next (.eval hs.1 hρ (.cons (.arg hh hd hp.2 hs.2 hρ) hk))
  | @cns _ x ts b bs' b' _ _ _ _ _ _ =>
    simp only [pureTerms, Bool.and_eq_true] at hp
    simp only [seqTerms, Bool.and_eq_true] at hs
    simp only [argsStep]
    cases hl : lookup x ρ with
    | none => exact .stuck
    | some v =>
      cases v with
      | cont c => exact .next (.args hh (hd.snoc (lookup_nt ρ hρ hl) _) hp.2 hs.2 hρ hk)
      | _ => exact .stuck

/-- one step from a well-typed, thunk-free, sequenced state of a `Sequenced` program -/
theorem step_nt {p : Program} {p' : CheckedProgram} (W : AWT p p') (hseq : Sequenced p' = true)
    {s : State} (hs : ST p s) (hn : NTs p' s) : NTnext p' (step p' s) := by
  cases hn with
  | eval h1 hρ hk =>
    cases hs with
    | eval Γ τ _ ht _ => exact evalStep_nt W hρ hk _ ht h1
  | args hh hd hp hsq hρ hk =>
    cases hs with
    | args Γ bsDone bsTodo τ _ _ _ has _ => exact argsStep_nt W hseq has hh hd hp hsq hρ hk
  | @ret v k hv hk =>
    cases hk with
    | nil =>
      cases v with
      | int a => exact .done
      | _ => exact .stuck
    | cons hf hk' => exact retFrame_nt hv hf hk'

theorem step_nt_preserves {p : Program} {p' : CheckedProgram} (W : AWT p p')
    (hseq : Sequenced p' = true) {s s' : State} {o : Option (Bool × Word)} (hs : ST p s)
    (hn : NTs p' s) (h : step p' s = .next s' o) : NTs p' s' := by
  have := step_nt W hseq hs hn
  rw [h] at this
  cases this with
  | next h' => exact h'

theorem FSteps_nt {p : Program} {p' : CheckedProgram} (W : AWT p p') (hseq : Sequenced p' = true)
    {s s' : State} {o : Out} {j : Nat} (h : FSteps p' s s' o j) (hs : ST p s) (hn : NTs p' s) :
    NTs p' s' := by
  induction h with
  | refl s => exact hn
  | silent h1 _ ih => exact ih (step_preserves W hs h1) (step_nt_preserves W hseq hs hn h1)
  | emit h1 _ ih => exact ih (step_preserves W hs h1) (step_nt_preserves W hseq hs hn h1)

theorem ntvs_ints {p' : CheckedProgram} : ∀ (args : List Word), NTvs p' (args.map .int)
  | [] => .nil
  | _ :: r => .cons .int (ntvs_ints r)

theorem initState_nt {p' : CheckedProgram} (hseq : Sequenced p' = true) {args : List Word}
    {s : State} (h : initState p' args = .ok s) : NTs p' s := by
  simp only [initState] at h
  cases hf : findDef p' "main" with
  | none => simp [hf] at h
  | some d =>
    simp only [hf] at h
    cases hb : bindAll (d.ctx.map (·.var)) (args.map .int) [] with
    | none => simp [hb] at h
    | some ρ =>
      simp only [hb, Except.ok.injEq] at h
      subst h
      have hmem : d ∈ p'.defs := by
        unfold findDef at hf
        exact List.mem_of_find?_eq_some hf
      have hs : seqTerm p' d.body = true := by
        simp only [Sequenced, List.all_eq_true] at hseq
        exact hseq d hmem
      exact .eval hs (bindAll_nt _ _ _ _ (ntvs_ints args) .nil hb) .nil

end Scc.Fun.Safety
