/-
  Scc.Fun.SafetyLemmas — lemmas for the type-safety proof of the Fun machine: what the proof needs
  of the pair (source program, checked program) (`AWT`), environments and contexts, binding of
  parameters, canonical forms of values, clause lookup.
-/
import Scc.Fun.SafetyTyping
import Scc.Fun.CheckSound2

namespace Scc.Fun.Safety
open Scc.Fun.Typing Scc.Fun.Check

/-- what type safety needs of a checked program `p'` (run by the machine) and its source `p`
(whose declarations type the values); established for the checker's output in
Scc/Fun/SafetyCheck.lean -/
structure AWT (p : Program) (p' : CheckedProgram) : Prop where
  decls : DeclsOk p
  /-- the machine suspends (by name) only at codata types -/
  codata_sound : ∀ τ, WfTy p τ → isCodataTy p' τ = true →
    ∃ d ∈ codatas p, ∃ targs, τ = .decl d.name targs
  /-- every definition of the source is found by the machine, with the same signature and an
  annotated, typed body -/
  defs : ∀ d ∈ defs p, ∃ d', findDef p' d.name = some d' ∧ d'.ctx = d.ctx ∧ d'.retTy = d.retTy ∧
    ATyped p d.ctx d'.body d.retTy
  defs_back : ∀ d' ∈ p'.defs, ∃ d ∈ Typing.defs p, d.name = d'.name
  defNames : (p'.defs.map (·.name)).Nodup
  defs_typed : ∀ d' ∈ p'.defs, (d'.ctx.map (·.var)).Nodup ∧ (∀ b ∈ d'.ctx, WfTy p b.ty) ∧
    WfTy p d'.retTy ∧ ATyped p d'.ctx d'.body d'.retTy

theorem lookupCtx_append_single (Γ : Ctx) (b : Binding) (x : String) :
    lookupCtx (Γ ++ [b]) x = if b.var = x then some b else lookupCtx Γ x := by
  simp only [lookupCtx, List.reverse_append, List.reverse_cons, List.reverse_nil, List.nil_append,
    List.cons_append, List.find?_cons]
  by_cases h : b.var = x <;> simp [h]

theorem lookup_cons (x y : String) (v : Value) (ρ : Env) :
    lookup x ((y, v) :: ρ) = if y = x then some v else lookup x ρ := by
  simp only [lookup]
  by_cases h : y = x
  · subst h; simp
  · have : (x == y) = false := by
      simp only [beq_eq_false_iff_ne, ne_eq]
      exact fun e => h e.symm
    simp [h, this]

theorem EnvT.lookup {p : Program} {x : String} {b : Binding} : ∀ (ρ : Env) (Γ : Ctx),
    EnvT p ρ Γ → lookupCtx Γ x = some b → ∃ v, lookup x ρ = some v ∧ BT p v b
  | [], _, h, hl => by
    cases h
    simp [lookupCtx] at hl
  | (y, v) :: ρ, _, h, hl => by
    cases h with
    | cons b0 he hb =>
      rw [lookupCtx_append_single] at hl
      rw [lookup_cons]
      by_cases hx : b0.var = x
      · simp only [hx, if_true, Option.some.injEq] at hl ⊢
        subst hl
        exact ⟨v, rfl, hb⟩
      · simp only [hx, if_false] at hl ⊢
        exact EnvT.lookup ρ _ he hl

theorem BT.rename {p : Program} {v : Value} {b b' : Binding} (h : BT p v b)
    (hc : b'.chi = b.chi) (ht : b'.ty = b.ty) : BT p v b' := by
  cases h with
  | prd h1 h2 => exact .prd (hc.trans h1) (ht ▸ h2)
  | cns h1 h2 => exact .cns (hc.trans h1) (ht ▸ h2)

theorem BT.prd_inv {p : Program} {v : Value} {b : Binding} (h : BT p v b) (hc : b.chi = .prd) :
    VT p v b.ty := by
  cases h with
  | prd _ h2 => exact h2
  | cns h1 _ => rw [hc] at h1; cases h1

theorem BT.cns_inv {p : Program} {v : Value} {b : Binding} (h : BT p v b) (hc : b.chi = .cns) :
    ∃ k, v = .cont k ∧ KT p k b.ty := by
  cases h with
  | prd h1 _ => rw [hc] at h1; cases h1
  | cns _ h2 => exact ⟨_, rfl, h2⟩

theorem VTs.length {p : Program} : ∀ (vs : List Value) (bs : Ctx), VTs p vs bs →
    vs.length = bs.length
  | [], _, h => by cases h; rfl
  | v :: vs, _, h => by
    cases h with
    | cons _ hr => simp [VTs.length vs _ hr]

theorem VTs.snoc {p : Program} {v : Value} {b : Binding} (hb : BT p v b) :
    ∀ (vs : List Value) (bs : Ctx), VTs p vs bs → VTs p (vs ++ [v]) (bs ++ [b])
  | [], _, h => by cases h; exact .cons hb .nil
  | w :: vs, _, h => by
    cases h with
    | cons hw hr => exact .cons hw (VTs.snoc hb vs _ hr)

theorem bindNames_cons (n : String) (ns : List String) (b : Binding) (bs : Ctx) :
    bindNames (n :: ns) (b :: bs) = { b with var := n } :: bindNames ns bs := rfl

theorem bindNames_self : ∀ (c : Ctx), bindNames (c.map (·.var)) c = c
  | [] => rfl
  | b :: r => by
    simp only [List.map_cons, bindNames_cons, bindNames_self r]

/-- binding parameters to typed values succeeds and gives a typed environment -/
theorem bindAll_typed {p : Program} : ∀ (names : List String) (vs : List Value) (bs : Ctx)
    (ρ : Env) (Γ : Ctx), VTs p vs bs → names.length = bs.length → EnvT p ρ Γ →
    ∃ ρ', bindAll names vs ρ = some ρ' ∧ EnvT p ρ' (Γ ++ bindNames names bs)
  | [], vs, bs, ρ, Γ, hv, hl, he => by
    cases bs with
    | nil =>
      cases hv
      exact ⟨ρ, rfl, by simpa [bindNames] using he⟩
    | cons b bs => simp at hl
  | n :: ns, vs, bs, ρ, Γ, hv, hl, he => by
    cases bs with
    | nil => simp at hl
    | cons b bs =>
      cases hv with
      | cons hb hr =>
        rename_i v vs'
        have he' : EnvT p ((n, v) :: ρ) (Γ ++ [{ b with var := n }]) :=
          EnvT.cons { b with var := n } he (hb.rename rfl rfl)
        obtain ⟨ρ', h1, h2⟩ := bindAll_typed ns vs' bs _ _ hr (by simpa using hl) he'
        refine ⟨ρ', by simpa [bindAll] using h1, ?_⟩
        rw [bindNames_cons]
        simpa using h2

theorem ATyped.new_inv {p : Program} {Γ : Ctx} {cs : Clauses} {an : Option Ty} {τ : Ty}
    (h : ATyped p Γ (.new cs an) τ) :
    ∃ d ∈ codatas p, ∃ targs, τ = .decl d.name targs ∧
      (clauseXtors cs).Perm (d.dtors.map (·.name)) ∧
      AClauses p Γ (d.dtors.map fun s => (s.name, csubst (instSubst d.typeParams targs) s.args,
        tsubst (instSubst d.typeParams targs) s.contTy)) cs := by
  cases h with
  | new d hd hp _ _ hc => exact ⟨d, hd, _, rfl, hp, hc⟩

theorem VT.int_inv {p : Program} {v : Value} (h : VT p v .i64) : ∃ n, v = .int n := by
  generalize hτ : Ty.i64 = τ at h
  cases h with
  | int => exact ⟨_, rfl⟩
  | con d c _ _ _ _ h5 _ => rw [h5] at hτ; cases hτ
  | obj Γ an _ h2 =>
    obtain ⟨d, _, targs, h, _⟩ := h2.new_inv
    rw [h] at hτ; cases hτ
  | thunk Γ d _ h2 _ _ => rw [h2] at hτ; cases hτ

/-- a value of a data type is a constructor of that type applied to typed values -/
theorem VT.data_inv {p : Program} (ok : DeclsOk p) {v : Value} {d : Data} {targs : Tys}
    (hd : d ∈ datas p) (h : VT p v (.decl d.name targs)) :
    ∃ c ∈ d.ctors, ∃ vs, v = .con c.name vs ∧
      VTs p vs (csubst (instSubst d.typeParams targs) c.args) := by
  generalize hτ : Ty.decl d.name targs = τ at h
  cases h with
  | int => cases hτ
  | con d' c hd' hc _ hK h5 hvs =>
    rw [h5] at hτ
    injection hτ with hn ha
    have := data_unique ok hd hd' hn
    subst this; subst ha; subst hK
    exact ⟨c, hc, _, rfl, hvs⟩
  | obj Γ an _ h2 =>
    obtain ⟨d', hd', targs', h, _⟩ := h2.new_inv
    rw [h] at hτ
    injection hτ with hn _
    exact absurd hn (data_codata_disjoint ok hd hd')
  | thunk Γ d' hd' h2 _ _ =>
    rw [h2] at hτ
    injection hτ with hn _
    exact absurd hn (data_codata_disjoint ok hd hd')

/-- a value of a codata type is a closure or a thunk -/
theorem VT.codata_inv {p : Program} (ok : DeclsOk p) {v : Value} {d : Codata} {targs : Tys}
    (hd : d ∈ codatas p) (h : VT p v (.decl d.name targs)) :
    (∃ cs ρ Γ an, v = .obj cs ρ ∧ EnvT p ρ Γ ∧ ATyped p Γ (.new cs an) (.decl d.name targs)) ∨
    (∃ t ρ Γ, v = .thunk t ρ ∧ EnvT p ρ Γ ∧ ATyped p Γ t (.decl d.name targs)) := by
  generalize hτ : Ty.decl d.name targs = τ at h
  cases h with
  | int => cases hτ
  | con d' c hd' hc _ hK h5 hvs =>
    rw [h5] at hτ
    injection hτ with hn _
    exact absurd hn.symm (data_codata_disjoint ok hd' hd)
  | obj Γ an h1 h2 => subst hτ; exact .inl ⟨_, _, Γ, an, rfl, h1, h2⟩
  | thunk Γ d' hd' h2 h3 h4 => subst hτ; exact .inr ⟨_, _, Γ, rfl, h3, h4⟩

theorem findClause_of_mem : ∀ (cs : Clauses) (x : String), x ∈ clauseXtors cs →
    ∃ cl, findClause x cs = some cl
  | .nil, x, h => by simp [clauseXtors, Clauses.toList] at h
  | .cons pol y ns c b r, x, h => by
    simp only [findClause]
    by_cases hxy : (x == y) = true
    · simp [hxy]
    · simp only [hxy, Bool.false_eq_true, if_false]
      apply findClause_of_mem r x
      simp only [clauseXtors, Clauses.toList, List.map_cons, List.mem_cons] at h
      rcases h with h | h
      · subst h; simp at hxy
      · exact h

theorem AClauses.find {p : Program} {Γ : Ctx} {sigs : List (String × Ctx × Ty)} {x : String}
    {cl : Clause} : ∀ (cs : Clauses), AClauses p Γ sigs cs → findClause x cs = some cl →
    ∃ sig bodyTy, (x, sig, bodyTy) ∈ sigs ∧ cl.names.length = sig.length ∧
      ATyped p (Γ ++ bindNames cl.names sig) cl.body bodyTy
  | .nil, _, h => by simp [findClause] at h
  | .cons pol y ns c b r, hc, h => by
    cases hc with
    | cons sig bodyTy hm _ hl hb hr =>
      simp only [findClause] at h
      by_cases hxy : (x == y) = true
      · simp only [hxy, if_true, Option.some.injEq] at h
        subst h
        have : x = y := by simpa using hxy
        subst this
        exact ⟨sig, bodyTy, hm, hl, hb⟩
      · simp only [hxy, Bool.false_eq_true, if_false] at h
        exact AClauses.find r hr h

end Scc.Fun.Safety
