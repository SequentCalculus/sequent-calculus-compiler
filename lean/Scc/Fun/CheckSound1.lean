/-
  Scc.Fun.CheckSound1 — soundness of the checker model, part 1: what the later parts need before the
  symbol table is looked at.  Association lists (`AList` of Scc.Fun.Check): lookup after `insert`, after a
  batch of insertions (`insertAll`) and after adding under new keys (`addNew`, the loops of
  `build_symbol_table`).  Name hygiene: the decidable conditions `ctxNamesOk` … `programNamesOk` (over `tyNamesOk` of Scc.Fun.CheckLemmas) under which
  instance names determine their type arguments.  The checker's substitution (`substTy`, `mappingsGet`) is
  the specification's (`tsubst`, `List.lookup`) when the parameter names are distinct.
-/
import Scc.Fun.CheckInv
import Scc.Fun.TypingLemmas

namespace Scc.Fun.Check
open Scc.Fun.Typing

abbrev keysNodup {β : Type} (m : AList β) : Prop := (m.map Prod.fst).Nodup

namespace AList
variable {β : Type}

theorem get?_insert (m : AList β) (k k' : String) (v : β) :
    (m.insert k v).get? k' = if k = k' then some v else m.get? k' := by
  induction m with
  | nil => simp [AList.insert, AList.get?]
  | cons e r ih =>
    obtain ⟨k0, v0⟩ := e
    simp only [AList.insert]
    by_cases h0 : k0 = k
    · subst h0
      simp only [if_true, AList.get?]
      by_cases h1 : k0 = k' <;> simp [h1]
    · simp only [h0, if_false, AList.get?, ih]
      by_cases h1 : k0 = k'
      · subst h1
        have : ¬ k = k0 := fun h => h0 h.symm
        simp [this]
      · simp [h1]

theorem mem_of_get? {m : AList β} {k : String} {v : β} (h : m.get? k = some v) : (k, v) ∈ m := by
  induction m with
  | nil => simp [AList.get?] at h
  | cons e r ih =>
    obtain ⟨k0, v0⟩ := e
    simp only [AList.get?] at h
    split at h
    · rename_i hk; cases h; subst hk; simp
    · exact List.mem_cons_of_mem _ (ih h)

theorem mem_insert_self (m : AList β) (k : String) (v : β) : (k, v) ∈ m.insert k v :=
  mem_of_get? (by simp [get?_insert])

theorem mem_insert {m : AList β} {k : String} {v : β} {e : String × β} (h : e ∈ m.insert k v) :
    e = (k, v) ∨ e ∈ m := by
  induction m with
  | nil => simp [AList.insert] at h; exact .inl h
  | cons e0 r ih =>
    obtain ⟨k0, v0⟩ := e0
    simp only [AList.insert] at h
    split at h
    · rcases List.mem_cons.mp h with h | h
      · exact .inl h
      · exact .inr (List.mem_cons_of_mem _ h)
    · rcases List.mem_cons.mp h with h | h
      · exact .inr (by simp [h])
      · rcases ih h with h | h
        · exact .inl h
        · exact .inr (List.mem_cons_of_mem _ h)

theorem mem_insert_of_ne {m : AList β} {k : String} {v : β} {e : String × β} (h : e ∈ m)
    (hne : e.1 ≠ k) : e ∈ m.insert k v := by
  induction m with
  | nil => cases h
  | cons e0 r ih =>
    obtain ⟨k0, v0⟩ := e0
    simp only [AList.insert]
    split
    · rename_i hk
      rcases List.mem_cons.mp h with h | h
      · subst h; exact absurd hk hne
      · exact List.mem_cons_of_mem _ h
    · rcases List.mem_cons.mp h with h | h
      · simp [h]
      · exact List.mem_cons_of_mem _ (ih h)

theorem get?_of_mem_nodup {m : AList β} {k : String} {v : β} (hn : keysNodup m)
    (h : (k, v) ∈ m) : m.get? k = some v := by
  induction m with
  | nil => cases h
  | cons e r ih =>
    obtain ⟨k0, v0⟩ := e
    simp only [keysNodup, List.map_cons, List.nodup_cons] at hn
    simp only [AList.get?]
    rcases List.mem_cons.mp h with h | h
    · cases h; simp
    · have : k0 ≠ k := by
        intro hk; subst hk
        exact hn.1 (List.mem_map.mpr ⟨(k0, v), h, rfl⟩)
      simp [this, ih hn.2 h]

theorem get?_none_of_not_mem_keys {m : AList β} {k : String} (h : k ∉ m.map Prod.fst) :
    m.get? k = none := by
  induction m with
  | nil => rfl
  | cons e r ih =>
    obtain ⟨k0, v0⟩ := e
    simp only [List.map_cons, List.mem_cons, not_or] at h
    have : k0 ≠ k := fun hk => h.1 hk.symm
    simp [AList.get?, this, ih h.2]

theorem insert_of_get?_none {m : AList β} {k : String} {v : β} (h : m.get? k = none) :
    m.insert k v = m ++ [(k, v)] := by
  induction m with
  | nil => rfl
  | cons e r ih =>
    obtain ⟨k0, v0⟩ := e
    simp only [AList.get?] at h
    split at h
    · cases h
    · rename_i hk
      simp [AList.insert, hk, ih h]

theorem not_mem_keys_of_get?_none {m : AList β} {k : String} (h : m.get? k = none) :
    k ∉ m.map Prod.fst := by
  induction m with
  | nil => simp
  | cons e r ih =>
    obtain ⟨k0, v0⟩ := e
    simp only [AList.get?] at h
    split at h
    · cases h
    · rename_i hk
      simp only [List.map_cons, List.mem_cons, not_or]
      exact ⟨fun h' => hk h'.symm, ih h⟩

theorem contains_false_iff {m : AList β} {k : String} : m.contains k = false ↔ m.get? k = none := by
  simp [AList.contains]

def insertAll (m : AList β) (kvs : List (String × β)) : AList β :=
  kvs.foldl (fun m kv => m.insert kv.1 kv.2) m

/-- Lookup after a batch of insertions with distinct keys: the new entries are there, the other keys are
untouched, and nothing else has come in.  The loops that create the instances of a type's constructors
resp. destructors are such batches (`insertCtorInstances_eq`, `insertDtorInstances_eq`). -/
theorem get?_insertAll {α : Type} (k : α → String) (v : α → β) : ∀ (xs : List α) (m : AList β),
    xs.Pairwise (fun x y => k x ≠ k y) →
    (∀ x ∈ xs, (m.insertAll (xs.map fun x => (k x, v x))).get? (k x) = some (v x)) ∧
    (∀ key, (∀ x ∈ xs, k x ≠ key) →
      (m.insertAll (xs.map fun x => (k x, v x))).get? key = m.get? key) ∧
    (∀ key val, (m.insertAll (xs.map fun x => (k x, v x))).get? key = some val →
      m.get? key = some val ∨ ∃ x ∈ xs, val = v x)
  | [], m, _ => ⟨fun _ h => (nomatch h), fun _ _ => rfl, fun _ _ h => .inl h⟩
  | x0 :: r, m, hn => by
    obtain ⟨hx0, hr⟩ := List.pairwise_cons.1 hn
    obtain ⟨h7, h8, h9⟩ := get?_insertAll k v r (m.insert (k x0) (v x0)) hr
    refine ⟨?_, ?_, ?_⟩
    · intro x hx
      rcases List.mem_cons.mp hx with rfl | hx
      · exact (h8 _ fun y hy => (hx0 y hy).symm).trans (by simp [get?_insert])
      · exact h7 x hx
    · intro key hk
      refine (h8 key fun x hx => hk x (List.mem_cons_of_mem _ hx)).trans ?_
      simp [get?_insert, hk x0 List.mem_cons_self]
    · intro key val hk
      rcases h9 key val hk with h | ⟨x, hx, rfl⟩
      · simp only [get?_insert] at h
        split at h
        · cases h; exact .inr ⟨x0, List.mem_cons_self, rfl⟩
        · exact .inl h
      · exact .inr ⟨x, List.mem_cons_of_mem _ hx, rfl⟩

end AList

theorem keysNodup_append_single {β : Type} {m : AList β} {k : String} {v : β}
    (h : keysNodup m) (hk : m.get? k = none) : keysNodup (m ++ [(k, v)]) := by
  simp only [keysNodup, List.map_append, List.map_cons, List.map_nil]
  rw [List.nodup_append]
  refine ⟨h, by simp, ?_⟩
  intro a ha b hb
  simp only [List.mem_singleton] at hb
  subst hb
  intro hab; subst hab
  exact AList.not_mem_keys_of_get?_none hk ha

/-- add entries under new keys; `none` if a key is already there (the loops of `build_symbol_table`) -/
def AList.addNew {β : Type} (m : AList β) : List (String × β) → Option (AList β)
  | [] => some m
  | kv :: r => if m.contains kv.1 then none else (m.insert kv.1 kv.2).addNew r

theorem AList.addNew_eq_some {β : Type} : ∀ (kvs : List (String × β)) (m m' : AList β), keysNodup m →
    (m.addNew kvs = some m' ↔ m' = m ++ kvs ∧ keysNodup (m ++ kvs))
  | [], m, m', hn => by simp [AList.addNew, hn, eq_comm]
  | kv :: r, m, m', hn => by
    simp only [AList.addNew]
    split
    · rename_i hc
      refine ⟨fun h => (nomatch h), fun h => ?_⟩
      have hm : kv.1 ∈ m.map Prod.fst := by
        cases hg : m.get? kv.1 with
        | none => simp [AList.contains, hg] at hc
        | some v => exact List.mem_map.2 ⟨_, AList.mem_of_get? hg, rfl⟩
      simp only [keysNodup, List.map_append, List.map_cons, List.nodup_append] at h
      exact absurd rfl (h.2.2.2 _ hm _ List.mem_cons_self)
    · rename_i hc
      have hget : m.get? kv.1 = none := by simpa [AList.contains] using hc
      rw [AList.insert_of_get?_none hget,
        AList.addNew_eq_some r _ m' (keysNodup_append_single hn hget)]
      simp


/-! ## name hygiene of programs (what the lexer guarantees) -/

def ctxNamesOk (c : Ctx) : Bool := c.all fun b => tyNamesOk b.ty

mutual
  def termNamesOk : Term → Bool
    | .var _ ty _ => (match ty with | some t => tyNamesOk t | none => true)
    | .lit _ => true
    | .op a _ b => termNamesOk a && termNamesOk b
    | .ifc _ a b t e _ => termNamesOk a && termNamesOk b && termNamesOk t && termNamesOk e
    | .ifz _ a t e _ => termNamesOk a && termNamesOk t && termNamesOk e
    | .print _ a n _ => termNamesOk a && termNamesOk n
    | .letIn _ σ b i _ => tyNamesOk σ && termNamesOk b && termNamesOk i
    | .call _ args _ => argsNamesOk args
    | .ctor id args _ => nameOk id && argsNamesOk args
    | .dtor s id ta args _ => nameOk id && tysNamesOk ta && termNamesOk s && argsNamesOk args
    | .case s ta cs _ => tysNamesOk ta && termNamesOk s && clausesNamesOk cs
    | .new cs _ => clausesNamesOk cs
    | .label _ t _ => termNamesOk t
    | .goto _ t _ => termNamesOk t
    | .exit t _ => termNamesOk t
    | .paren t => termNamesOk t
  def argsNamesOk : Terms → Bool
    | .nil => true
    | .cons t r => termNamesOk t && argsNamesOk r
  def clausesNamesOk : Clauses → Bool
    | .nil => true
    | .cons _ x _ _ b r => nameOk x && termNamesOk b && clausesNamesOk r
end

def declNamesOk : Decl → Bool
  | .data d => nameOk d.name && d.ctors.all fun c => nameOk c.name && ctxNamesOk c.args
  | .codata d => nameOk d.name &&
      d.dtors.all fun s => nameOk s.name && ctxNamesOk s.args && tyNamesOk s.contTy
  | .defn f => ctxNamesOk f.ctx && tyNamesOk f.retTy && termNamesOk f.body

/-- all type / constructor / destructor names of the program are identifiers
(no `[`, `]`, `,`, space; not `i64`) -/
def programNamesOk (p : Program) : Bool := p.decls.all declNamesOk

theorem mappingsGet_eq_lookup : ∀ (m : List (String × Ty)) (n : String),
    (m.map Prod.fst).Nodup → mappingsGet m n = m.lookup n
  | [], _, _ => rfl
  | (k, v) :: r, n, hn => by
    simp only [List.map_cons, List.nodup_cons] at hn
    simp only [mappingsGet, List.lookup_cons]
    rw [mappingsGet_eq_lookup r n hn.2]
    by_cases hk : k = n
    · subst hk
      have : r.lookup k = none := by
        have h1 := hn.1
        clear hn
        induction r with
        | nil => rfl
        | cons e r ih =>
          obtain ⟨k0, v0⟩ := e
          simp only [List.map_cons, List.mem_cons, not_or] at h1
          have : (k == k0) = false := by simpa using h1.1
          simp [List.lookup_cons, this, ih h1.2]
      simp [this]
    · have : (n == k) = false := by simpa using fun h => hk h.symm
      simp only [this]
      cases r.lookup n <;> simp [hk]

mutual
  theorem substTy_eq_tsubst (m : List (String × Ty)) (hn : (m.map Prod.fst).Nodup) :
      ∀ (t : Ty), substTy m t = tsubst m t
    | .i64 => by simp [substTy, tsubst]
    | .decl n args => by
      simp only [substTy, tsubst, mappingsGet_eq_lookup m n hn, substTys_eq_tsubsts m hn args]
      cases List.lookup n m <;> rfl
  theorem substTys_eq_tsubsts (m : List (String × Ty)) (hn : (m.map Prod.fst).Nodup) :
      ∀ (ts : Tys), substTys m ts = tsubsts m ts
    | .nil => by simp [substTys, tsubsts]
    | .cons t r => by
      simp only [substTys, tsubsts, substTy_eq_tsubst m hn t, substTys_eq_tsubsts m hn r]
end

theorem substCtx_eq_csubst (m : List (String × Ty)) (hn : (m.map Prod.fst).Nodup) (c : Ctx) :
    substCtx m c = csubst m c := by
  simp only [substCtx, csubst]
  apply List.map_congr_left
  intro b _
  rw [substTy_eq_tsubst m hn]

theorem zip_keys_nodup {params : List String} (args : List Ty) (h : params.Nodup) :
    ((params.zip args).map Prod.fst).Nodup := by
  induction params generalizing args with
  | nil => simp
  | cons a r ih =>
    cases args with
    | nil => simp
    | cons t ts =>
      simp only [List.nodup_cons] at h
      simp only [List.zip_cons_cons, List.map_cons, List.nodup_cons]
      refine ⟨?_, ih ts h.2⟩
      intro hm
      obtain ⟨⟨a', t'⟩, hmem, rfl⟩ := List.mem_map.mp hm
      exact h.1 (List.of_mem_zip hmem).1

end Scc.Fun.Check
