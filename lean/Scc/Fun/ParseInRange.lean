/-
  Scc.Fun.ParseInRange — the walk over the parser model, and its use for the third part of property C16
  (Props/C16.lean): what lexer + parser accept is in the image of the grammar (`InRangeProg`) and all its
  names are identifiers of the right case (`NamesOkProg`); together with the zero-edge conditions this gives
  the side condition `ProgOk` under which printing and lexing give back the tokens (Scc.Fun.PrintProofs).
  The walk establishes the judgment `Run` (Scc.Fun.ParseRun) for every parser function; the facts about
  panics (Scc.Fun.ParseProofs) and fuel (Scc.Fun.ParseFuel) are read off the same statements.  The
  declarations are in `Scc.Fun.Print` because what they establish is stated with the printer's side
  conditions (`InRange`, `WfTy`, `lowerName`, …), which live there.
-/
import Scc.Fun.ParseRoundtrip
import Scc.Fun.ParseRun
import Scc.Fun.LexFuel

namespace Scc.Fun.Print
open Scc.Fun.Lex Scc.Fun.Parse

def TokWf : Token → Prop
  | .lower w => lowerName w = true
  | .upper w => upperName w = true
  | _ => True

def AllWf (ts : List Token) : Prop := ∀ t ∈ ts, TokWf t

@[simp] theorem allWf_nil : AllWf [] := by intro t h; cases h
@[simp] theorem allWf_cons {t : Token} {r : List Token} : AllWf (t :: r) ↔ TokWf t ∧ AllWf r := by
  simp [AllWf]

theorem lexStep_wf {cs : List Char} {t : Token} {r : List Char} (h : lexStep cs = .tok t r) : TokWf t := by
  cases cs with
  | nil => cases h
  | cons c cs =>
    have hs : (lexStep (c :: cs)).Sat (cs.length + 1) TokWf :=
      lexStep_sat c cs (fun t ht => by cases t <;> first | trivial | cases ht)
        (fun hl hk => by simp only [TokWf, lowerName, hl, List.all_takeWhile, hk, Option.isNone_none, Bool.and_self])
        (fun hu => by simp only [TokWf, upperName, hu, List.all_takeWhile, Bool.and_self])
    rw [h] at hs
    exact hs.2

theorem lexLoop_wf : ∀ (f : Nat) (cs : List Char), AllWf (lexLoop f cs)
  | _, [] => by simp [lexLoop]
  | 0, _ :: _ => by simp [lexLoop, TokWf]
  | f + 1, c :: cs => by
    unfold lexLoop
    split
    · rename_i t r h; exact allWf_cons.mpr ⟨lexStep_wf h, lexLoop_wf f r⟩
    · exact lexLoop_wf f _
    · simp [TokWf]

theorem lexStream_wf (cs : List Char) : AllWf (lexStream cs) := lexLoop_wf _ _

mutual
  /-- every name in the term is an identifier of the right case and no keyword -/
  def NamesOk : Term → Prop
    | .var x _ _ => lowerName x.toList = true
    | .lit _ => True
    | .op a _ b => NamesOk a ∧ NamesOk b
    | .ifc _ a b t e _ => NamesOk a ∧ NamesOk b ∧ NamesOk t ∧ NamesOk e
    | .ifz _ a t e _ => NamesOk a ∧ NamesOk t ∧ NamesOk e
    | .print _ a n _ => NamesOk a ∧ NamesOk n
    | .letIn x ty b i _ => lowerName x.toList = true ∧ WfTy ty ∧ NamesOk b ∧ NamesOk i
    | .call f as _ => lowerName f.toList = true ∧ NamesOks as
    | .ctor k as _ => upperName k.toList = true ∧ NamesOks as
    | .dtor s d tas as _ => NamesOk s ∧ lowerName d.toList = true ∧ WfTys tas ∧ NamesOks as
    | .case s tas cs _ => NamesOk s ∧ WfTys tas ∧ NamesOkCs cs
    | .new cs _ => NamesOkCs cs
    | .label a t _ => lowerName a.toList = true ∧ NamesOk t
    | .goto a t _ => lowerName a.toList = true ∧ NamesOk t
    | .exit t _ => NamesOk t
    | .paren t => NamesOk t
  def NamesOks : Terms → Prop
    | .nil => True
    | .cons t r => NamesOk t ∧ NamesOks r
  def NamesOkCs : Clauses → Prop
    | .nil => True
    | .cons p x ns _ b r =>
      xtorName p x = true ∧ (∀ n ∈ ns, lowerName n.toList = true) ∧ NamesOk b ∧ NamesOkCs r
end

mutual
  /-- the zero-edge conditions alone (defect D3): no comparison whose first operand ends with the
  literal `0` or whose second operand starts with it -/
  def ZeroEdgeOk : Term → Prop
    | .var .. => True
    | .lit _ => True
    | .op a _ b => ZeroEdgeOk a ∧ ZeroEdgeOk b
    | .ifc _ a b t e _ =>
      ZeroEdgeOk a ∧ ZeroEdgeOk b ∧ ZeroEdgeOk t ∧ ZeroEdgeOk e ∧ endsZero a = false ∧ startsZero b = false
    | .ifz _ a t e _ => ZeroEdgeOk a ∧ ZeroEdgeOk t ∧ ZeroEdgeOk e ∧ endsZero a = false
    | .print _ a n _ => ZeroEdgeOk a ∧ ZeroEdgeOk n
    | .letIn _ _ b i _ => ZeroEdgeOk b ∧ ZeroEdgeOk i
    | .call _ as _ => ZeroEdgeOks as
    | .ctor _ as _ => ZeroEdgeOks as
    | .dtor s _ _ as _ => ZeroEdgeOk s ∧ ZeroEdgeOks as
    | .case s _ cs _ => ZeroEdgeOk s ∧ ZeroEdgeOkCs cs
    | .new cs _ => ZeroEdgeOkCs cs
    | .label _ t _ => ZeroEdgeOk t
    | .goto _ t _ => ZeroEdgeOk t
    | .exit t _ => ZeroEdgeOk t
    | .paren t => ZeroEdgeOk t
  def ZeroEdgeOks : Terms → Prop
    | .nil => True
    | .cons t r => ZeroEdgeOk t ∧ ZeroEdgeOks r
  def ZeroEdgeOkCs : Clauses → Prop
    | .nil => True
    | .cons _ _ _ _ b r => ZeroEdgeOk b ∧ ZeroEdgeOkCs r
end

mutual
  theorem printOk_of : (t : Term) → NamesOk t → ZeroEdgeOk t → PrintOk t
    | .var .., h, _ => by simpa [PrintOk, NamesOk] using h
    | .lit _, _, _ => trivial
    | .op a _ b, h, z => by
      simp only [NamesOk, ZeroEdgeOk, PrintOk] at *
      exact ⟨printOk_of a h.1 z.1, printOk_of b h.2 z.2⟩
    | .ifc _ a b t e _, h, z => by
      simp only [NamesOk, ZeroEdgeOk, PrintOk] at *
      exact ⟨printOk_of a h.1 z.1, printOk_of b h.2.1 z.2.1, printOk_of t h.2.2.1 z.2.2.1,
        printOk_of e h.2.2.2 z.2.2.2.1, z.2.2.2.2.1, z.2.2.2.2.2⟩
    | .ifz _ a t e _, h, z => by
      simp only [NamesOk, ZeroEdgeOk, PrintOk] at *
      exact ⟨printOk_of a h.1 z.1, printOk_of t h.2.1 z.2.1, printOk_of e h.2.2 z.2.2.1, z.2.2.2⟩
    | .print _ a n _, h, z => by
      simp only [NamesOk, ZeroEdgeOk, PrintOk] at *
      exact ⟨printOk_of a h.1 z.1, printOk_of n h.2 z.2⟩
    | .letIn x ty b i _, h, z => by
      simp only [NamesOk, ZeroEdgeOk, PrintOk] at *
      exact ⟨h.1, h.2.1, printOk_of b h.2.2.1 z.1, printOk_of i h.2.2.2 z.2⟩
    | .call f as _, h, z => by
      simp only [NamesOk, ZeroEdgeOk, PrintOk] at *
      exact ⟨h.1, printOks_of as h.2 z⟩
    | .ctor k as _, h, z => by
      simp only [NamesOk, ZeroEdgeOk, PrintOk] at *
      exact ⟨h.1, printOks_of as h.2 z⟩
    | .dtor s d tas as _, h, z => by
      simp only [NamesOk, ZeroEdgeOk, PrintOk] at *
      exact ⟨printOk_of s h.1 z.1, h.2.1, h.2.2.1, printOks_of as h.2.2.2 z.2⟩
    | .case s tas cs _, h, z => by
      simp only [NamesOk, ZeroEdgeOk, PrintOk] at *
      exact ⟨printOk_of s h.1 z.1, h.2.1, printOkCs_of cs h.2.2 z.2⟩
    | .new cs _, h, z => by
      simp only [NamesOk, ZeroEdgeOk, PrintOk] at *
      exact printOkCs_of cs h z
    | .label a t _, h, z => by
      simp only [NamesOk, ZeroEdgeOk, PrintOk] at *
      exact ⟨h.1, printOk_of t h.2 z⟩
    | .goto a t _, h, z => by
      simp only [NamesOk, ZeroEdgeOk, PrintOk] at *
      exact ⟨h.1, printOk_of t h.2 z⟩
    | .exit t _, h, z => by
      simp only [NamesOk, ZeroEdgeOk, PrintOk] at *
      exact printOk_of t h z
    | .paren t, h, z => by
      simp only [NamesOk, ZeroEdgeOk, PrintOk] at *
      exact printOk_of t h z
  theorem printOks_of : (as : Terms) → NamesOks as → ZeroEdgeOks as → PrintOks as
    | .nil, _, _ => trivial
    | .cons t r, h, z => by
      simp only [NamesOks, ZeroEdgeOks, PrintOks] at *
      exact ⟨printOk_of t h.1 z.1, printOks_of r h.2 z.2⟩
  theorem printOkCs_of : (cs : Clauses) → NamesOkCs cs → ZeroEdgeOkCs cs → PrintOkCs cs
    | .nil, _, _ => trivial
    | .cons p x ns c b r, h, z => by
      simp only [NamesOkCs, ZeroEdgeOkCs, PrintOkCs] at *
      exact ⟨h.1, h.2.1, printOk_of b h.2.2.1 z.1, printOkCs_of r h.2.2.2 z.2⟩
end


theorem AllWf.head {t : Token} {r : List Token} (h : AllWf (t :: r)) : TokWf t := h t List.mem_cons_self
theorem AllWf.tail {t : Token} {r : List Token} (h : AllWf (t :: r)) : AllWf r :=
  fun x hx => h x (List.mem_cons_of_mem _ hx)

theorem lower_ofList {w : List Char} (h : TokWf (.lower w)) : lowerName (String.ofList w).toList = true := by
  rw [String.toList_ofList]; exact h

theorem upper_ofList {w : List Char} (h : TokWf (.upper w)) : upperName (String.ofList w).toList = true := by
  rw [String.toList_ofList]; exact h

theorem _root_.Scc.Fun.Parse.After.wf {W : Prop} {d : Nat} {r ts : List Token} (h : After d r ts) (hW : W → AllWf ts) :
    W → AllWf r :=
  fun w t ht => hW w t (h.subset ht)

abbrev LowerNames (ns : List String) : Prop := ∀ n ∈ ns, lowerName n.toList = true
abbrev UpperNames (ns : List String) : Prop := ∀ n ∈ ns, upperName n.toList = true
abbrev WfCtx (c : Ctx) : Prop := ∀ b ∈ c, WfBinding b

theorem level_lit (n : Int) : level (.lit n) = 1 := rfl
theorem level_var (x : String) (a : Option Ty) (b : Option Chi) : level (.var x a b) = 1 := rfl
theorem level_call (f : String) (a : Terms) (b : Option Ty) : level (.call f a b) = 1 := rfl
theorem level_paren (t : Term) : level (.paren t) = 1 := rfl
theorem level_new (c : Clauses) (b : Option Ty) : level (.new c b) = 2 := rfl
theorem level_ctor (k : String) (a : Terms) (b : Option Ty) : level (.ctor k a b) = 2 := rfl
theorem level_dtor (s : Term) (d : String) (ta : Tys) (a : Terms) (b : Option Ty) :
    level (.dtor s d ta a b) = 2 := rfl
theorem level_case (s : Term) (ta : Tys) (c : Clauses) (b : Option Ty) : level (.case s ta c b) = 2 := rfl
theorem level_ifc (s : IfSort) (a b t e : Term) (ty : Option Ty) : level (.ifc s a b t e ty) = 3 := rfl
theorem level_ifz (s : IfSort) (a t e : Term) (ty : Option Ty) : level (.ifz s a t e ty) = 3 := rfl
theorem level_label (a : String) (t : Term) (ty : Option Ty) : level (.label a t ty) = 3 := rfl
theorem level_goto (a : String) (t : Term) (ty : Option Ty) : level (.goto a t ty) = 3 := rfl
theorem level_exit (t : Term) (ty : Option Ty) : level (.exit t ty) = 3 := rfl
theorem level_op (a : Term) (o : BinOp) (b : Term) : level (.op a o b) = 3 := rfl
theorem level_letIn (x : String) (vt : Ty) (b i : Term) (ty : Option Ty) : level (.letIn x vt b i ty) = 3 := rfl
theorem level_print (nl : Bool) (a n : Term) (ty : Option Ty) : level (.print nl a n ty) = 4 := rfl

def GoodT (t : Term) : Prop := InRange t ∧ NamesOk t
def GoodTs (as : Terms) : Prop := InRanges as ∧ NamesOks as
def GoodCs (pol : Polarity) (cs : Clauses) : Prop := InRangeCs pol cs ∧ NamesOkCs cs

section
variable {a b t e s : Term} {as : Terms} {cs : Clauses} {w : List Char}

theorem GoodT.lit {n : Int} (h : -(i64Max : Int) ≤ n ∧ n ≤ (i64Max : Int)) : GoodT (.lit n) := ⟨h, trivial⟩
theorem GoodT.var (h : TokWf (.lower w)) : GoodT (.var (String.ofList w) none none) :=
  ⟨⟨rfl, rfl⟩, lower_ofList h⟩
theorem GoodT.call (h : TokWf (.lower w)) (ha : GoodTs as) : GoodT (.call (String.ofList w) as none) :=
  ⟨⟨ha.1, rfl⟩, lower_ofList h, ha.2⟩
theorem GoodT.paren (h : GoodT t) : GoodT (.paren t) := h
theorem GoodT.op {o : BinOp} (ha : GoodT a) (la : level a ≤ 1) (hb : GoodT b) (lb : level b ≤ 1) :
    GoodT (.op a o b) := ⟨⟨ha.1, hb.1, la, lb⟩, ha.2, hb.2⟩
theorem GoodT.ifc {c : IfSort} (ha : GoodT a) (hb : GoodT b) (ht : GoodT t) (he : GoodT e) :
    GoodT (.ifc c a b t e none) := ⟨⟨ha.1, hb.1, ht.1, he.1, rfl⟩, ha.2, hb.2, ht.2, he.2⟩
theorem GoodT.ifz {c : IfSort} (ha : GoodT a) (ht : GoodT t) (he : GoodT e) :
    GoodT (.ifz c a t e none) := ⟨⟨ha.1, ht.1, he.1, rfl⟩, ha.2, ht.2, he.2⟩
theorem GoodT.print {nl : Bool} (ha : GoodT a) (hb : GoodT b) : GoodT (.print nl a b none) :=
  ⟨⟨ha.1, hb.1, rfl⟩, ha.2, hb.2⟩
theorem GoodT.letIn {ty : Ty} (hx : TokWf (.lower w)) (hty : WfTy ty) (hb : GoodT b) (lb : level b ≤ 3)
    (hi : GoodT t) : GoodT (.letIn (String.ofList w) ty b t none) :=
  ⟨⟨hb.1, hi.1, lb, rfl⟩, lower_ofList hx, hty, hb.2, hi.2⟩
theorem GoodT.ctor (h : TokWf (.upper w)) (ha : GoodTs as) : GoodT (.ctor (String.ofList w) as none) :=
  ⟨⟨ha.1, rfl⟩, upper_ofList h, ha.2⟩
theorem GoodT.dtor {tas : Tys} (hs : GoodT s) (ls : level s ≤ 2) (hd : TokWf (.lower w)) (ht : WfTys tas)
    (ha : GoodTs as) : GoodT (.dtor s (String.ofList w) tas as none) :=
  ⟨⟨hs.1, ls, ha.1, rfl⟩, hs.2, lower_ofList hd, ht, ha.2⟩
theorem GoodT.case {tas : Tys} (hs : GoodT s) (ls : level s ≤ 2) (ht : WfTys tas) (hc : GoodCs .data cs) :
    GoodT (.case s tas cs none) := ⟨⟨hs.1, ls, hc.1, rfl⟩, hs.2, ht, hc.2⟩
theorem GoodT.new (hc : GoodCs .codata cs) : GoodT (.new cs none) := ⟨⟨hc.1, rfl⟩, hc.2⟩
theorem GoodT.label (h : TokWf (.lower w)) (ht : GoodT t) : GoodT (.label (String.ofList w) t none) :=
  ⟨⟨ht.1, rfl⟩, lower_ofList h, ht.2⟩
theorem GoodT.goto (h : TokWf (.lower w)) (ht : GoodT t) : GoodT (.goto (String.ofList w) t none) :=
  ⟨⟨ht.1, rfl⟩, lower_ofList h, ht.2⟩
theorem GoodT.exit (ht : GoodT t) : GoodT (.exit t none) := ⟨⟨ht.1, rfl⟩, ht.2⟩

theorem GoodTs.nil : GoodTs .nil := ⟨trivial, trivial⟩
theorem GoodTs.cons (ht : GoodT t) (hr : GoodTs as) : GoodTs (.cons t as) := ⟨⟨ht.1, hr.1⟩, ht.2, hr.2⟩

theorem GoodCs.nil {pol : Polarity} : GoodCs pol .nil := ⟨trivial, trivial⟩
theorem GoodCs.cons {pol : Polarity} {x : String} {ns : List String} (hx : xtorName pol x = true)
    (hn : LowerNames ns) (hb : GoodT b) (hr : GoodCs pol cs) : GoodCs pol (.cons pol x ns [] b cs) :=
  ⟨⟨rfl, rfl, hb.1, hr.1⟩, hx, hn, hb.2, hr.2⟩

end

def NamesOkDecl : Decl → Prop
  | .data d => upperName d.name.toList = true ∧ (∀ n ∈ d.typeParams, upperName n.toList = true) ∧
      ∀ c ∈ d.ctors, WfCtorSig c
  | .codata d => upperName d.name.toList = true ∧ (∀ n ∈ d.typeParams, upperName n.toList = true) ∧
      ∀ c ∈ d.dtors, WfDtorSig c
  | .defn d => lowerName d.name.toList = true ∧ (∀ b ∈ d.ctx, WfBinding b) ∧ WfTy d.retTy ∧ NamesOk d.body

def ZeroEdgeOkDecl : Decl → Prop
  | .defn d => ZeroEdgeOk d.body
  | _ => True

theorem wfDecl_of {d : Decl} (hn : NamesOkDecl d) (hz : ZeroEdgeOkDecl d) : WfDecl d := by
  cases d with
  | data d => exact hn
  | codata d => exact hn
  | defn d => exact ⟨hn.1, hn.2.1, hn.2.2.1, printOk_of _ hn.2.2.2 hz⟩

def NamesOkProg (p : Program) : Prop := ∀ d ∈ p.decls, NamesOkDecl d
def ZeroEdgeOkProg (p : Program) : Prop := ∀ d ∈ p.decls, ZeroEdgeOkDecl d

theorem progOk_of {p : Program} (hn : NamesOkProg p) (hz : ZeroEdgeOkProg p) : ProgOk p :=
  fun d hd => wfDecl_of (hn d hd) (hz d hd)

/-! ## the walk over the parser

One statement per parser function: its run is a `Run` (Scc.Fun.ParseRun) with the function's rank, the
least number of tokens it consumes and the property of its result.  The proof for each branch repeats the
shape of the branch: `.call` for a call (its first argument says how much of the input has been consumed, its
second compares the ranks), `.expect` for a token expected, `.ok` for the result. -/

variable {W : Prop} {mode : LiteralMode}

theorem run_ty : ∀ n ts, (W → AllWf ts) →
    Run W mode n 1 1 ts WfTy (parseTy n ts) ∧ Run W mode n 2 1 ts WfTys (parseTys n ts) := by
  intro n
  induction n with
  | zero => intro ts _; exact ⟨by unfold parseTy; exact .zero, by unfold parseTys; exact .zero⟩
  | succ n ih =>
    intro ts hW
    constructor
    · unfold parseTy
      split
      · exact .ok (.cons _ (.refl _)) fun _ => trivial
      · next nm r =>
        have hc : After 2 r (.upper nm :: .lbrack :: r) := .cons _ (.cons _ (.refl _))
        exact .call hc (by decide) (ih r (hc.wf hW)).2 fun _ _ h q =>
          .ok (h.le (by decide)) fun w => ⟨upper_ofList (hW w).head, q w⟩
      · exact .ok (.cons _ (.refl _)) fun w => ⟨upper_ofList (hW w).head, trivial⟩
      · exact .fail _
    · unfold parseTys
      split
      · exact .ok (.cons _ (.refl _)) fun _ => trivial
      · refine .call (.refl _) (by decide) (ih ts hW).1 fun t r h q => ?_
        dsimp only
        split
        · exact .call h.tail (by decide) (ih _ (h.tail.wf hW)).2 fun _ _ h' q' =>
            .ok (h'.le (by decide)) fun w => ⟨q w, q' w⟩
        · exact .ok (h.tail.le (by decide)) fun w => ⟨q w, trivial⟩
        · exact .fail _

theorem run_parseTy (n : Nat) (ts : List Token) (hW : W → AllWf ts) : Run W mode n 1 1 ts WfTy (parseTy n ts) :=
  (run_ty n ts hW).1
theorem run_parseTys (n : Nat) (ts : List Token) (hW : W → AllWf ts) : Run W mode n 2 1 ts WfTys (parseTys n ts) :=
  (run_ty n ts hW).2

theorem run_parseOptTyArgs (n : Nat) (ts : List Token) (hW : W → AllWf ts) :
    Run W mode n 0 0 ts WfTys (parseOptTyArgs n ts) := by
  unfold parseOptTyArgs
  split
  · exact (run_parseTys n _ (((After.refl _).cons _).wf hW)).opt (by decide)
  · exact .ok (.refl _) fun _ => trivial

theorem run_parseNames : ∀ n ts, (W → AllWf ts) → Run W mode n 1 1 ts LowerNames (parseNames n ts) := by
  intro n
  induction n with
  | zero => intro ts _; unfold parseNames; exact .zero
  | succ n ih =>
    intro ts hW
    unfold parseNames
    split
    · exact .ok (.cons _ (.refl _)) fun _ => List.forall_mem_nil _
    · next x r =>
      have hc : After 2 r (.lower x :: .comma :: r) := .cons _ (.cons _ (.refl _))
      exact .call hc (by decide) (ih r (hc.wf hW)) fun _ _ h q =>
        .ok (h.le (by decide)) fun w => List.forall_mem_cons.2 ⟨lower_ofList (hW w).head, q w⟩
    · exact .ok (((After.refl _).cons _).cons _ |>.le (by decide)) fun w =>
        List.forall_mem_cons.2 ⟨lower_ofList (hW w).head, List.forall_mem_nil _⟩
    · exact .fail _
    · exact .fail _

theorem run_parseOptNames (n : Nat) (ts : List Token) (hW : W → AllWf ts) :
    Run W mode n 0 0 ts LowerNames (parseOptNames n ts) := by
  unfold parseOptNames
  split
  · exact (run_parseNames n _ (((After.refl _).cons _).wf hW)).opt (by decide)
  · exact .ok (.refl _) fun _ => List.forall_mem_nil _

/-- the induction hypothesis for the mutual block of term parsers, with the rank of each function -/
structure RunIH (W : Prop) (mode : LiteralMode) (n : Nat) : Prop where
  t1 : ∀ ts, (W → AllWf ts) → Run W mode n 1 1 ts (fun t => GoodT t ∧ level t ≤ 1) (parseTerm1 mode n ts)
  args : ∀ ts, (W → AllWf ts) → Run W mode n 3 1 ts GoodTs (parseArgs mode n ts)
  cls : ∀ pol ts, (W → AllWf ts) → Run W mode n 1 1 ts (GoodCs pol) (parseClauses mode pol n ts)
  post : ∀ t ts, (W → AllWf ts) → (W → GoodT t ∧ level t ≤ 2) →
    Run W mode n 1 0 ts (fun t' => GoodT t' ∧ level t' ≤ 2) (parsePostfix mode n t ts)
  braced : ∀ ts, (W → AllWf ts) → Run W mode n 1 1 ts GoodT (parseBraced mode n ts)
  thenElse : ∀ ts, (W → AllWf ts) →
    Run W mode n 2 1 ts (fun te => GoodT te.1 ∧ GoodT te.2) (parseThenElse mode n ts)
  term : ∀ b ts, (W → AllWf ts) →
    Run W mode n 2 1 ts (fun t => GoodT t ∧ (b = false → level t ≤ 3)) (parseTerm mode n b ts)

theorem run_terms_zero : RunIH W mode 0 where
  t1 _ _ := by unfold parseTerm1; exact .zero
  args _ _ := by unfold parseArgs; exact .zero
  cls _ _ _ := by unfold parseClauses; exact .zero
  post _ _ _ _ := by unfold parsePostfix; exact .zero
  braced _ _ := by unfold parseBraced; exact .zero
  thenElse _ _ := by unfold parseThenElse; exact .zero
  term _ _ _ := by unfold parseTerm; exact .zero

section
variable {n : Nat} (ih : RunIH W mode n)
include ih

theorem run_parseTerm1 (ts : List Token) (hW : W → AllWf ts) :
    Run W mode (n + 1) 1 1 ts (fun t => GoodT t ∧ level t ≤ 1) (parseTerm1 mode (n + 1) ts) := by
  unfold parseTerm1
  split
  · exact .num List.mem_cons_self fun _ h => .ok (.cons _ (.refl _)) fun _ => ⟨.lit h, Nat.le_refl 1⟩
  · exact .num (List.mem_cons_of_mem _ List.mem_cons_self) fun _ h =>
      .ok (((After.refl _).cons _).cons _ |>.le (by decide)) fun _ => ⟨.lit h, Nat.le_refl 1⟩
  · exact .fail _
  · next x r =>
    have hc : After 2 r (.lower x :: .lparen :: r) := .cons _ (.cons _ (.refl _))
    exact .call hc (by decide) (ih.args r (hc.wf hW)) fun _ _ h q =>
      .ok (h.le (by decide)) fun w => ⟨.call (hW w).head (q w), Nat.le_refl 1⟩
  · exact .ok (.cons _ (.refl _)) fun w => ⟨.var (hW w).head, Nat.le_refl 1⟩
  · next r =>
    have hc : After 1 r (.lparen :: r) := .cons _ (.refl _)
    exact .call hc (by decide) (ih.term true r (hc.wf hW)) fun _ _ h q =>
      .expect h fun _ h' => .ok (h'.le (by decide)) fun w => ⟨.paren (q w).1, Nat.le_refl 1⟩
  · exact .fail _

theorem run_parseArgs (ts : List Token) (hW : W → AllWf ts) :
    Run W mode (n + 1) 3 1 ts GoodTs (parseArgs mode (n + 1) ts) := by
  unfold parseArgs
  split
  · exact .ok (.cons _ (.refl _)) fun _ => .nil
  · refine .call (.refl _) (by decide) (ih.term true ts hW) fun t r h q => ?_
    dsimp only
    split
    · exact .call h.tail (by decide) (ih.args _ (h.tail.wf hW)) fun _ _ h' q' =>
        .ok (h'.le (by decide)) fun w => .cons (q w).1 (q' w)
    · exact .ok (h.tail.le (by decide)) fun w => .cons (q w).1 .nil
    · exact .fail _

theorem run_parsePostfix (t : Term) (ts : List Token) (hW : W → AllWf ts) (hg : W → GoodT t ∧ level t ≤ 2) :
    Run W mode (n + 1) 1 0 ts (fun t' => GoodT t' ∧ level t' ≤ 2) (parsePostfix mode (n + 1) t ts) := by
  unfold parsePostfix
  split
  · next r =>
    have hc : After 2 r (.dot :: .kw .case_ :: r) := .cons _ (.cons _ (.refl _))
    exact .call hc (by decide) (run_parseOptTyArgs n r (hc.wf hW)) fun _ _ h1 q1 =>
      .expect h1 fun _ h2 => .call h2 (by decide) (ih.cls .data _ (h2.wf hW)) fun _ _ h3 q3 =>
        .tail h3 (by decide) (Nat.zero_le _)
          (ih.post _ _ (h3.wf hW) fun w => ⟨.case (hg w).1 (hg w).2 (q1 w) (q3 w), Nat.le_refl 2⟩) fun _ h => h
  · next dn r =>
    have hc : After 2 r (.dot :: .lower dn :: r) := .cons _ (.cons _ (.refl _))
    refine .call hc (by decide) (run_parseOptTyArgs n r (hc.wf hW)) fun tas r1 h1 q1 => ?_
    dsimp only
    split
    · exact .call h1.tail (by decide) (ih.args _ (h1.tail.wf hW)) fun _ _ h2 q2 =>
        .tail h2 (by decide) (Nat.zero_le _)
          (ih.post _ _ (h2.wf hW) fun w =>
            ⟨.dtor (hg w).1 (hg w).2 (hW w).tail.head (q1 w) (q2 w), Nat.le_refl 2⟩) fun _ h => h
    · exact .tail h1 (by decide) (Nat.zero_le _)
        (ih.post _ _ (h1.wf hW) fun w =>
          ⟨.dtor (hg w).1 (hg w).2 (hW w).tail.head (q1 w) .nil, Nat.le_refl 2⟩) fun _ h => h
  · exact .fail _
  · exact .ok (.refl _) hg

theorem run_parseBraced (ts : List Token) (hW : W → AllWf ts) :
    Run W mode (n + 1) 1 1 ts GoodT (parseBraced mode (n + 1) ts) := by
  unfold parseBraced
  exact .expect (.refl _) fun _ h1 => .call h1 (by decide) (ih.term true _ (h1.wf hW)) fun _ _ h2 q =>
    .expect h2 fun _ h3 => .ok (h3.le (by decide)) fun w => (q w).1

theorem run_parseThenElse (ts : List Token) (hW : W → AllWf ts) :
    Run W mode (n + 1) 2 1 ts (fun te => GoodT te.1 ∧ GoodT te.2) (parseThenElse mode (n + 1) ts) := by
  unfold parseThenElse
  exact .call (.refl _) (by decide) (ih.braced ts hW) fun _ _ h1 q1 =>
    .expect h1 fun _ h2 => .call h2 (by decide) (ih.braced _ (h2.wf hW)) fun _ _ h3 q3 =>
      .ok (h3.le (by decide)) fun w => ⟨q1 w, q3 w⟩

theorem run_parseClauses (pol : Polarity) (ts : List Token) (hW : W → AllWf ts) :
    Run W mode (n + 1) 1 1 ts (GoodCs pol) (parseClauses mode pol (n + 1) ts) := by
  unfold parseClauses
  split
  · exact .ok (.cons _ (.refl _)) fun _ => .nil
  · next t r0 _ =>
    dsimp only
    split
    · exact .fail _
    · next x hx =>
      have hx : W → xtorName pol (String.ofList x) = true := fun w => by
        split at hx
        · cases hx; exact upper_ofList (hW w).head
        · cases hx; exact lower_ofList (hW w).head
        · cases hx
      have hc : After 1 r0 (t :: r0) := .cons _ (.refl _)
      refine .call hc (by decide) (run_parseOptNames n r0 (hc.wf hW)) fun _ _ h1 q1 =>
        .expect h1 fun _ h2 => .call h2 (by decide) (ih.term true _ (h2.wf hW)) fun b r h3 q3 => ?_
      dsimp only
      split
      · exact .call h3.tail (by decide) (ih.cls pol _ (h3.tail.wf hW)) fun _ _ h4 q4 =>
          .ok (h4.le (by decide)) fun w => .cons (hx w) (q1 w) (q3 w).1 (q4 w)
      · exact .ok (h3.tail.le (by decide)) fun w => .cons (hx w) (q1 w) (q3 w).1 .nil
      · exact .fail _
  · exact .fail _

theorem run_parseTerm (b : Bool) (ts : List Token) (hW : W → AllWf ts) :
    Run W mode (n + 1) 2 1 ts (fun t => GoodT t ∧ (b = false → level t ≤ 3)) (parseTerm mode (n + 1) b ts) := by
  have print : b = true → ∀ nl tk r, ts = tk :: r →
      Run W mode (n + 1) 2 1 ts (fun t => GoodT t ∧ (b = false → level t ≤ 3))
      ((expect .lparen r).bind fun r1 =>
        (parseTerm mode n true r1).bind fun (a, r2) => (expect .rparen r2).bind fun r3 =>
          (expect .semi r3).bind fun r4 =>
            (parseTerm mode n true r4).bind fun (k, r5) => .ok (Term.print nl a k none, r5)) :=
    fun hb _ tk r e => by
      subst e
      exact .expect (.cons _ (.refl _)) fun _ h1 => .call h1 (by decide) (ih.term true _ (h1.wf hW)) fun _ _ h2 q2 =>
        .expect h2 fun _ h3 => .expect h3 fun _ h4 =>
          .call h4 (by decide) (ih.term true _ (h4.wf hW)) fun _ _ h5 q5 =>
            .ok (h5.le (by decide)) fun w =>
              ⟨.print (q2 w).1 (q5 w).1, fun e => Bool.noConfusion (hb.symm.trans e)⟩
  have chain : ∀ {c : Nat} t r, After c r ts → 1 ≤ c → (W → GoodT t ∧ level t ≤ 2) →
      Run W mode (n + 1) 2 1 ts (fun t => GoodT t ∧ (b = false → level t ≤ 3)) (parsePostfix mode n t r) :=
    fun t r hc h1 hg => .tail hc (by omega) (by omega) (ih.post t r (hc.wf hW) hg)
      fun _ h => ⟨h.1, fun _ => Nat.le_succ_of_le h.2⟩
  unfold parseTerm
  split
  · split
    · next hb => exact print hb _ _ _ rfl
    · exact .fail _
  · split
    · next hb => exact print hb _ _ _ rfl
    · exact .fail _
  · next c r =>
    have hc : After 2 r (.kw .if_ :: .zcmpR c :: r) := .cons _ (.cons _ (.refl _))
    exact .call hc (by decide) (ih.term true r (hc.wf hW)) fun _ _ h1 q1 =>
      .call h1 (by decide) (ih.thenElse _ (h1.wf hW)) fun _ _ h2 q2 =>
        .ok (h2.le (by decide)) fun w => ⟨.ifz (q1 w).1 (q2 w).1 (q2 w).2, fun _ => Nat.le_refl 3⟩
  · next r _ =>
    have hc : After 1 r (.kw .if_ :: r) := .cons _ (.refl _)
    refine .call hc (by decide) (ih.term true r (hc.wf hW)) fun a r1 h1 q1 => ?_
    dsimp only
    split
    · exact .call h1.tail (by decide) (ih.term true _ (h1.tail.wf hW)) fun _ _ h2 q2 =>
        .call h2 (by decide) (ih.thenElse _ (h2.wf hW)) fun _ _ h3 q3 =>
          .ok (h3.le (by decide)) fun w => ⟨.ifc (q1 w).1 (q2 w).1 (q3 w).1 (q3 w).2, fun _ => Nat.le_refl 3⟩
    · exact .call h1.tail (by decide) (ih.thenElse _ (h1.tail.wf hW)) fun _ _ h2 q2 =>
        .ok (h2.le (by decide)) fun w => ⟨.ifz (q1 w).1 (q2 w).1 (q2 w).2, fun _ => Nat.le_refl 3⟩
    · exact .fail _
  · next a r =>
    have hc : After 2 r (.kw .label :: .lower a :: r) := .cons _ (.cons _ (.refl _))
    exact .call hc (by decide) (ih.braced r (hc.wf hW)) fun _ _ h q =>
      .ok (h.le (by decide)) fun w => ⟨.label (hW w).tail.head (q w), fun _ => Nat.le_refl 3⟩
  · exact .fail _
  · next a r =>
    have hc : After 3 r (.kw .goto :: .lower a :: .lparen :: r) := .cons _ (.cons _ (.cons _ (.refl _)))
    exact .call hc (by decide) (ih.term true r (hc.wf hW)) fun _ _ h1 q1 =>
      .expect h1 fun _ h2 => .ok (h2.le (by decide)) fun w =>
        ⟨.goto (hW w).tail.head (q1 w).1, fun _ => Nat.le_refl 3⟩
  · exact .fail _
  · exact .fail _
  · next r =>
    have hc : After 1 r (.kw .exit :: r) := .cons _ (.refl _)
    exact .call hc (by decide) (ih.term true r (hc.wf hW)) fun _ _ h q =>
      .ok (h.le (by decide)) fun w => ⟨.exit (q w).1, fun _ => Nat.le_refl 3⟩
  · next x r =>
    have hc : After 3 r (.kw .let_ :: .lower x :: .colon :: r) := .cons _ (.cons _ (.cons _ (.refl _)))
    exact .call hc (by decide) (run_parseTy n r (hc.wf hW)) fun _ _ h1 q1 =>
      .expect h1 fun _ h2 => .call h2 (by decide) (ih.term false _ (h2.wf hW)) fun _ _ h3 q3 =>
        .expect h3 fun _ h4 => .call h4 (by decide) (ih.term true _ (h4.wf hW)) fun _ _ h5 q5 =>
          .ok (h5.le (by decide)) fun w =>
            ⟨.letIn (hW w).tail.head (q1 w) (q3 w).1 ((q3 w).2 rfl) (q5 w).1, fun _ => Nat.le_refl 3⟩
  · exact .fail _
  · exact .fail _
  · next r =>
    exact .expect (.cons _ (.refl _)) fun _ h1 => .call h1 (by decide) (ih.cls .codata _ (h1.wf hW)) fun _ _ h2 q2 =>
      chain _ _ h2 (by omega) fun w => ⟨.new (q2 w), Nat.le_refl 2⟩
  · next k r =>
    have hc : After 2 r (.upper k :: .lparen :: r) := .cons _ (.cons _ (.refl _))
    exact .call hc (by decide) (ih.args r (hc.wf hW)) fun _ _ h q =>
      chain _ _ h (by omega) fun w => ⟨.ctor (hW w).head (q w), Nat.le_refl 2⟩
  · next k r _ =>
    exact chain _ _ (.cons _ (.refl _)) (Nat.le_refl 1) fun w => ⟨.ctor (hW w).head .nil, Nat.le_refl 2⟩
  · refine .call (.refl _) (by decide) (ih.t1 ts hW) fun a r h q => ?_
    dsimp only
    split
    · exact .ok (h.le (by decide)) fun w => ⟨(q w).1, fun _ => Nat.le_trans (q w).2 (by decide)⟩
    · split
      · exact .call h.tail (by decide) (ih.t1 _ (h.tail.wf hW)) fun _ _ h' q' =>
          .ok (h'.le (by decide)) fun w => ⟨.op (q w).1 (q w).2 (q' w).1 (q' w).2, fun _ => Nat.le_refl 3⟩
      · exact chain _ _ h (by omega) fun w => ⟨(q w).1, Nat.le_trans (q w).2 (by decide)⟩

end

theorem run_terms : ∀ n, RunIH W mode n
  | 0 => run_terms_zero
  | n + 1 =>
    have ih := run_terms n
    ⟨run_parseTerm1 ih, run_parseArgs ih, run_parseClauses ih, run_parsePostfix ih,
      run_parseBraced ih, run_parseThenElse ih, run_parseTerm ih⟩

theorem run_parseTyNames : ∀ n ts, (W → AllWf ts) → Run W mode n 1 1 ts UpperNames (parseTyNames n ts) := by
  intro n
  induction n with
  | zero => intro ts _; unfold parseTyNames; exact .zero
  | succ n ih =>
    intro ts hW
    unfold parseTyNames
    split
    · exact .ok (.cons _ (.refl _)) fun _ => List.forall_mem_nil _
    · next x r =>
      have hc : After 2 r (.upper x :: .comma :: r) := .cons _ (.cons _ (.refl _))
      exact .call hc (by decide) (ih r (hc.wf hW)) fun _ _ h q =>
        .ok (h.le (by decide)) fun w => List.forall_mem_cons.2 ⟨upper_ofList (hW w).head, q w⟩
    · exact .ok (((After.refl _).cons _).cons _ |>.le (by decide)) fun w =>
        List.forall_mem_cons.2 ⟨upper_ofList (hW w).head, List.forall_mem_nil _⟩
    · exact .fail _
    · exact .fail _

theorem run_parseOptTyNames (n : Nat) (ts : List Token) (hW : W → AllWf ts) :
    Run W mode n 0 0 ts UpperNames (parseOptTyNames n ts) := by
  unfold parseOptTyNames
  split
  · exact (run_parseTyNames n _ (((After.refl _).cons _).wf hW)).opt (by decide)
  · exact .ok (.refl _) fun _ => List.forall_mem_nil _

theorem run_parseBinding (n : Nat) (ts : List Token) (hW : W → AllWf ts) :
    Run W mode n 0 1 ts WfBinding (parseBinding n ts) := by
  unfold parseBinding
  split
  · next x r =>
    have hc : After 2 r (.lower x :: .colon :: r) := .cons _ (.cons _ (.refl _))
    exact .call' hc (by decide) (run_parseTy n r (hc.wf hW)) fun _ _ h q =>
      .ok (h.le (by decide)) fun w => ⟨lower_ofList (hW w).head, q w⟩
  · next x r =>
    have hc : After 2 r (.lower x :: .colonCns :: r) := .cons _ (.cons _ (.refl _))
    exact .call' hc (by decide) (run_parseTy n r (hc.wf hW)) fun _ _ h q =>
      .ok (h.le (by decide)) fun w => ⟨lower_ofList (hW w).head, q w⟩
  · exact .fail _
  · exact .fail _

theorem run_parseBindings : ∀ n ts, (W → AllWf ts) → Run W mode n 1 1 ts WfCtx (parseBindings n ts) := by
  intro n
  induction n with
  | zero => intro ts _; unfold parseBindings; exact .zero
  | succ n ih =>
    intro ts hW
    unfold parseBindings
    split
    · exact .ok (.cons _ (.refl _)) fun _ => List.forall_mem_nil _
    · refine .call (.refl _) (by decide) (run_parseBinding n ts hW) fun b r h q => ?_
      dsimp only
      split
      · exact .call h.tail (by decide) (ih _ (h.tail.wf hW)) fun _ _ h' q' =>
          .ok (h'.le (by decide)) fun w => List.forall_mem_cons.2 ⟨q w, q' w⟩
      · exact .ok (h.tail.le (by decide)) fun w => List.forall_mem_cons.2 ⟨q w, List.forall_mem_nil _⟩
      · exact .fail _

theorem run_parseOptCtx (n : Nat) (ts : List Token) (hW : W → AllWf ts) :
    Run W mode n 0 0 ts WfCtx (parseOptCtx n ts) := by
  unfold parseOptCtx
  split
  · exact (run_parseBindings n _ (((After.refl _).cons _).wf hW)).opt (by decide)
  · exact .ok (.refl _) fun _ => List.forall_mem_nil _

theorem run_parseCtorSigs : ∀ n ts, (W → AllWf ts) → Run W mode n 1 1 ts (fun cs => ∀ c ∈ cs, WfCtorSig c)
      (parseCtorSigs n ts) := by
  intro n
  induction n with
  | zero => intro ts _; unfold parseCtorSigs; exact .zero
  | succ n ih =>
    intro ts hW
    unfold parseCtorSigs
    split
    · exact .ok (.cons _ (.refl _)) fun _ => List.forall_mem_nil _
    · next k r0 =>
      have hc : After 1 r0 (.upper k :: r0) := .cons _ (.refl _)
      refine .call hc (by decide) (run_parseOptCtx n r0 (hc.wf hW)) fun c r h q => ?_
      dsimp only
      split
      · exact .call h.tail (by decide) (ih _ (h.tail.wf hW)) fun _ _ h' q' =>
          .ok (h'.le (by decide)) fun w => List.forall_mem_cons.2 ⟨⟨upper_ofList (hW w).head, q w⟩, q' w⟩
      · exact .ok (h.tail.le (by decide)) fun w =>
          List.forall_mem_cons.2 ⟨⟨upper_ofList (hW w).head, q w⟩, List.forall_mem_nil _⟩
      · exact .fail _
    · exact .fail _

theorem run_parseDtorSigs : ∀ n ts, (W → AllWf ts) → Run W mode n 1 1 ts (fun ds => ∀ d ∈ ds, WfDtorSig d)
      (parseDtorSigs n ts) := by
  intro n
  induction n with
  | zero => intro ts _; unfold parseDtorSigs; exact .zero
  | succ n ih =>
    intro ts hW
    unfold parseDtorSigs
    split
    · exact .ok (.cons _ (.refl _)) fun _ => List.forall_mem_nil _
    · next dn r0 =>
      have hc : After 1 r0 (.lower dn :: r0) := .cons _ (.refl _)
      refine .call hc (by decide) (run_parseOptCtx n r0 (hc.wf hW)) fun _ _ h1 q1 =>
        .expect h1 fun _ h2 => .call h2 (by decide) (run_parseTy n _ (h2.wf hW)) fun ty r h3 q3 => ?_
      dsimp only
      split
      · exact .call h3.tail (by decide) (ih _ (h3.tail.wf hW)) fun _ _ h' q' =>
          .ok (h'.le (by decide)) fun w =>
            List.forall_mem_cons.2 ⟨⟨lower_ofList (hW w).head, q1 w, q3 w⟩, q' w⟩
      · exact .ok (h3.tail.le (by decide)) fun w =>
          List.forall_mem_cons.2 ⟨⟨lower_ofList (hW w).head, q1 w, q3 w⟩, List.forall_mem_nil _⟩
      · exact .fail _
    · exact .fail _

theorem run_parseDecl (n : Nat) (ts : List Token) (hW : W → AllWf ts) :
    Run W mode n 1 1 ts (fun d => InRangeDecl d ∧ NamesOkDecl d) (parseDecl mode n ts) := by
  unfold parseDecl
  split
  · next f r =>
    have hc : After 2 r (.kw .def_ :: .lower f :: r) := .cons _ (.cons _ (.refl _))
    exact .call' hc (by decide) (run_parseOptCtx n r (hc.wf hW)) fun _ _ h1 q1 =>
      .expect h1 fun _ h2 => .call' h2 (by decide) (run_parseTy n _ (h2.wf hW)) fun _ _ h3 q3 =>
        .call' h3 (by decide) ((run_terms n).braced _ (h3.wf hW)) fun _ _ h4 q4 =>
          .ok (h4.le (by decide)) fun w => ⟨(q4 w).1, lower_ofList (hW w).tail.head, q1 w, q3 w, (q4 w).2⟩
  · exact .fail _
  · next nm r =>
    have hc : After 2 r (.kw .data :: .upper nm :: r) := .cons _ (.cons _ (.refl _))
    exact .call' hc (by decide) (run_parseOptTyNames n r (hc.wf hW)) fun _ _ h1 q1 =>
      .expect h1 fun _ h2 => .call' h2 (by decide) (run_parseCtorSigs n _ (h2.wf hW)) fun _ _ h3 q3 =>
        .ok (h3.le (by decide)) fun w => ⟨trivial, upper_ofList (hW w).tail.head, q1 w, q3 w⟩
  · exact .fail _
  · next nm r =>
    have hc : After 2 r (.kw .codata :: .upper nm :: r) := .cons _ (.cons _ (.refl _))
    exact .call' hc (by decide) (run_parseOptTyNames n r (hc.wf hW)) fun _ _ h1 q1 =>
      .expect h1 fun _ h2 => .call' h2 (by decide) (run_parseDtorSigs n _ (h2.wf hW)) fun _ _ h3 q3 =>
        .ok (h3.le (by decide)) fun w => ⟨trivial, upper_ofList (hW w).tail.head, q1 w, q3 w⟩
  · exact .fail _
  · exact .fail _

/-- The three facts about the list of declarations (a result without remaining input).  `parseDecls` has
two counters: `fuel`, which it hands to `parseDecl`, and `n`, a bound on the number of declarations; it
answers out-of-fuel when either is too small. -/
def RunDs (W : Prop) (mode : LiteralMode) (fuel n : Nat) (ts : List Token) : Outcome (List Decl) → Prop
  | .ok ds => W → ∀ d ∈ ds, InRangeDecl d ∧ NamesOkDecl d
  | .diag c => c = .fuel → fuel < 2 * ts.length + 1 ∨ n < ts.length
  | .panic _ => mode = .panicOnOverflow ∧ Ov ts

theorem run_parseDecls (fuel : Nat) : ∀ n ts, (W → AllWf ts) → RunDs W mode fuel n ts (parseDecls mode fuel n ts)
  | n, [], _ => by cases n <;> (unfold parseDecls; exact fun _ d hd => nomatch hd)
  | 0, t :: r, _ => by unfold parseDecls; exact fun _ => .inr (Nat.zero_lt_succ _)
  | n + 1, t :: r, hW => by
    unfold parseDecls
    have h1 := run_parseDecl (mode := mode) fuel (t :: r) hW
    cases ho : parseDecl mode fuel (t :: r) with
    | diag e => rw [ho] at h1; exact fun he => .inl (h1 he)
    | panic s => rw [ho] at h1; exact h1
    | ok x =>
      rw [ho] at h1
      obtain ⟨d, r'⟩ := x
      have h2 := run_parseDecls fuel n r' (h1.1.wf hW)
      have hl := h1.1.length
      dsimp only [Outcome.bind]
      cases ho2 : parseDecls mode fuel n r' with
      | diag e =>
        rw [ho2] at h2
        exact fun he => (h2 he).elim (fun h => .inl (by omega)) (fun h => .inr (by omega))
      | panic s => rw [ho2] at h2; exact ⟨h2.1, h2.2.mono h1.1.subset⟩
      | ok ds =>
        rw [ho2] at h2
        exact fun w x hx => (List.mem_cons.1 hx).elim (fun e => e ▸ h1.2 w) (h2 w x)

theorem run_parseTokens (ts : List Token) :
    RunDs (AllWf ts) mode (fuelFor ts.length) (ts.length + 1) ts
      (parseDecls mode (fuelFor ts.length) (ts.length + 1) ts) :=
  run_parseDecls _ _ ts id


theorem parseTokens_good {mode : LiteralMode} {ts : List Token} {p : Program} (hts : AllWf ts)
    (h : parseTokens mode ts = .ok p) : InRangeProg p ∧ NamesOkProg p := by
  have hr := run_parseTokens (mode := mode) ts
  unfold parseTokens at h
  cases ho : parseDecls mode (fuelFor ts.length) (ts.length + 1) ts with
  | diag c => rw [ho] at h; cases h
  | panic s => rw [ho] at h; cases h
  | ok ds =>
    rw [ho] at h hr
    cases h
    exact ⟨fun d hd => (hr hts d hd).1, fun d hd => (hr hts d hd).2⟩

/-- what lexer and parser accept is in the image of the grammar and has proper names (third part of C16) -/
theorem parseChars_good {mode : LiteralMode} {cs : List Char} {p : Program}
    (h : parseChars mode cs = .ok p) : InRangeProg p ∧ NamesOkProg p :=
  parseTokens_good (lexStream_wf cs) h

end Scc.Fun.Print
