/-
  Scc.Fun.ZeroEdge — executable check, proved sufficient (`zeroEdgeOkProgB_sound`; the converse is not proved), of
  the zero-edge side condition of C16 (`ZeroEdgeOkProg`,
  Scc/Fun/ParseInRange.lean): no comparison whose first operand ENDS with the literal `0` or whose
  second operand STARTS with it.  The check uses it as the SHAPE KEY of the known finding D3: a
  formatting failure on a program that passes the check contradicts theorem `C16_fmt` and is a
  new violation; one on a program that fails it is counted as the recorded finding.
-/
import Scc.Fun.ParseInRange

namespace Scc.Fun.Parse
open Scc.Fun.Print

mutual
  def zeroEdgeOkB : Term → Bool
    | .var .. => true
    | .lit _ => true
    | .op a _ b => zeroEdgeOkB a && zeroEdgeOkB b
    | .ifc _ a b t e _ =>
      zeroEdgeOkB a && zeroEdgeOkB b && zeroEdgeOkB t && zeroEdgeOkB e && !(endsZero a) && !(startsZero b)
    | .ifz _ a t e _ => zeroEdgeOkB a && zeroEdgeOkB t && zeroEdgeOkB e && !(endsZero a)
    | .print _ a n _ => zeroEdgeOkB a && zeroEdgeOkB n
    | .letIn _ _ b i _ => zeroEdgeOkB b && zeroEdgeOkB i
    | .call _ as _ => zeroEdgeOkBs as
    | .ctor _ as _ => zeroEdgeOkBs as
    | .dtor s _ _ as _ => zeroEdgeOkB s && zeroEdgeOkBs as
    | .case s _ cs _ => zeroEdgeOkB s && zeroEdgeOkBCs cs
    | .new cs _ => zeroEdgeOkBCs cs
    | .label _ t _ => zeroEdgeOkB t
    | .goto _ t _ => zeroEdgeOkB t
    | .exit t _ => zeroEdgeOkB t
    | .paren t => zeroEdgeOkB t
  def zeroEdgeOkBs : Terms → Bool
    | .nil => true
    | .cons t r => zeroEdgeOkB t && zeroEdgeOkBs r
  def zeroEdgeOkBCs : Clauses → Bool
    | .nil => true
    | .cons _ _ _ _ b r => zeroEdgeOkB b && zeroEdgeOkBCs r
end

mutual
  theorem zeroEdgeOkB_sound : (t : Term) → zeroEdgeOkB t = true → ZeroEdgeOk t
    | .var .., _ => trivial
    | .lit _, _ => trivial
    | .op a _ b, h => by
      simp only [zeroEdgeOkB, Bool.and_eq_true] at h
      exact ⟨zeroEdgeOkB_sound a h.1, zeroEdgeOkB_sound b h.2⟩
    | .ifc _ a b t e _, h => by
      simp only [zeroEdgeOkB, Bool.and_eq_true, Bool.not_eq_eq_eq_not, Bool.not_true] at h
      obtain ⟨⟨⟨⟨⟨ha, hb⟩, ht⟩, he⟩, h1⟩, h2⟩ := h
      exact ⟨zeroEdgeOkB_sound a ha, zeroEdgeOkB_sound b hb, zeroEdgeOkB_sound t ht, zeroEdgeOkB_sound e he, h1, h2⟩
    | .ifz _ a t e _, h => by
      simp only [zeroEdgeOkB, Bool.and_eq_true, Bool.not_eq_eq_eq_not, Bool.not_true] at h
      obtain ⟨⟨⟨ha, ht⟩, he⟩, h1⟩ := h
      exact ⟨zeroEdgeOkB_sound a ha, zeroEdgeOkB_sound t ht, zeroEdgeOkB_sound e he, h1⟩
    | .print _ a n _, h => by
      simp only [zeroEdgeOkB, Bool.and_eq_true] at h
      exact ⟨zeroEdgeOkB_sound a h.1, zeroEdgeOkB_sound n h.2⟩
    | .letIn _ _ b i _, h => by
      simp only [zeroEdgeOkB, Bool.and_eq_true] at h
      exact ⟨zeroEdgeOkB_sound b h.1, zeroEdgeOkB_sound i h.2⟩
    | .call _ as _, h => by
      simp only [zeroEdgeOkB] at h
      exact zeroEdgeOkBs_sound as h
    | .ctor _ as _, h => by
      simp only [zeroEdgeOkB] at h
      exact zeroEdgeOkBs_sound as h
    | .dtor s _ _ as _, h => by
      simp only [zeroEdgeOkB, Bool.and_eq_true] at h
      exact ⟨zeroEdgeOkB_sound s h.1, zeroEdgeOkBs_sound as h.2⟩
    | .case s _ cs _, h => by
      simp only [zeroEdgeOkB, Bool.and_eq_true] at h
      exact ⟨zeroEdgeOkB_sound s h.1, zeroEdgeOkBCs_sound cs h.2⟩
    | .new cs _, h => by
      simp only [zeroEdgeOkB] at h
      exact zeroEdgeOkBCs_sound cs h
    | .label _ t _, h => by
      simp only [zeroEdgeOkB] at h
      exact zeroEdgeOkB_sound t h
    | .goto _ t _, h => by
      simp only [zeroEdgeOkB] at h
      exact zeroEdgeOkB_sound t h
    | .exit t _, h => by
      simp only [zeroEdgeOkB] at h
      exact zeroEdgeOkB_sound t h
    | .paren t, h => by
      simp only [zeroEdgeOkB] at h
      exact zeroEdgeOkB_sound t h
  theorem zeroEdgeOkBs_sound : (ts : Terms) → zeroEdgeOkBs ts = true → ZeroEdgeOks ts
    | .nil, _ => trivial
    | .cons t r, h => by
      simp only [zeroEdgeOkBs, Bool.and_eq_true] at h
      exact ⟨zeroEdgeOkB_sound t h.1, zeroEdgeOkBs_sound r h.2⟩
  theorem zeroEdgeOkBCs_sound : (cs : Clauses) → zeroEdgeOkBCs cs = true → ZeroEdgeOkCs cs
    | .nil, _ => trivial
    | .cons _ _ _ _ b r, h => by
      simp only [zeroEdgeOkBCs, Bool.and_eq_true] at h
      exact ⟨zeroEdgeOkB_sound b h.1, zeroEdgeOkBCs_sound r h.2⟩
end

def zeroEdgeOkProgB (p : Program) : Bool :=
  p.decls.all fun
    | .defn d => zeroEdgeOkB d.body
    | _ => true

theorem zeroEdgeOkProgB_sound (p : Program) (h : zeroEdgeOkProgB p = true) : ZeroEdgeOkProg p := by
  intro d hd
  have := (List.all_eq_true.mp h) d hd
  cases d with
  | data _ => trivial
  | codata _ => trivial
  | defn d => exact zeroEdgeOkB_sound d.body this

/-- line interface: S0 dump text ↦ `OK true` / `OK false` -/
def zeroEdgeLine (dumpS0 : String) : String :=
  match Sexp.parse dumpS0 with
  | none => "ERR sexp"
  | some sx =>
    match readProgram (dumpS0.length + 10) sx with
    | none => "ERR read"
    | some p => "OK " ++ toString (zeroEdgeOkProgB p)

end Scc.Fun.Parse
