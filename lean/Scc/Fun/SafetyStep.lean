/-
  Scc.Fun.SafetyStep — type safety of the Fun abstract machine, one step: from a well-typed state
  (`ST`) of a checked program (`AWT`) the machine either makes a transition to a well-typed state, or
  stops with a result, or stops with one of the two arithmetic faults (`step_safe`).  Preservation
  and progress are the two halves of this statement.
-/
import Scc.Fun.SafetyLemmas

namespace Scc.Fun.Safety
open Scc.Fun.Typing Scc.Fun.Check

/-- the outcome of a step from a well-typed state -/
inductive SafeStep (p : Program) : StepResult → Prop
  | next {s' o} : ST p s' → SafeStep p (.next s' o)
  | done {a} : SafeStep p (.done a)
  | divByZero : SafeStep p (.stuck .divByZero)
  | overflow : SafeStep p (.stuck .overflow)

theorem arith_error {o : BinOp} {a b : Word} {w : Why} (h : arith o a b = .error w) :
    w = .divByZero ∨ w = .overflow := by
  unfold arith at h
  cases o <;> simp only at h
  · split at h
    · cases h; exact .inl rfl
    · split at h
      · cases h; exact .inr rfl
      · cases h
  · cases h
  · split at h
    · cases h; exact .inl rfl
    · split at h
      · cases h; exact .inr rfl
      · cases h
  · cases h
  · cases h

/-- a codata-typed term in binding / argument position gives a typed value -/
theorem suspend_typed {p : Program} {ρ : Env} {Γ : Ctx} {τ : Ty} {d : Codata} {targs : Tys}
    (he : EnvT p ρ Γ) (hd : d ∈ codatas p) (hτ : τ = .decl d.name targs) :
    ∀ (t : Term), ATyped p Γ t τ → ∃ v, suspend t ρ = .ok v ∧ VT p v τ
  | .paren t, ht => by
    cases ht with
    | paren h =>
      obtain ⟨v, h1, h2⟩ := suspend_typed he hd hτ t h
      exact ⟨v, by simpa [suspend] using h1, h2⟩
  | .var x ty chi, ht => by
    cases ht with
    | var b hl hc hty _ =>
      obtain ⟨v, hv, hb⟩ := he.lookup _ _ hl
      exact ⟨v, by simp [suspend, hv], hty ▸ hb.prd_inv hc⟩
  | .new cs an, ht => ⟨_, rfl, .obj Γ an he ht⟩
  | .lit n, ht => ⟨_, rfl, .thunk Γ d hd hτ he ht⟩
  | .op a o b, ht => ⟨_, rfl, .thunk Γ d hd hτ he ht⟩
  | .ifc s a b t e an, ht => ⟨_, rfl, .thunk Γ d hd hτ he ht⟩
  | .ifz s a t e an, ht => ⟨_, rfl, .thunk Γ d hd hτ he ht⟩
  | .print nl a n an, ht => ⟨_, rfl, .thunk Γ d hd hτ he ht⟩
  | .letIn x σ b i an, ht => ⟨_, rfl, .thunk Γ d hd hτ he ht⟩
  | .call f as an, ht => ⟨_, rfl, .thunk Γ d hd hτ he ht⟩
  | .ctor k as an, ht => ⟨_, rfl, .thunk Γ d hd hτ he ht⟩
  | .dtor s k ta as an, ht => ⟨_, rfl, .thunk Γ d hd hτ he ht⟩
  | .case s ta cs an, ht => ⟨_, rfl, .thunk Γ d hd hτ he ht⟩
  | .label a b an, ht => ⟨_, rfl, .thunk Γ d hd hτ he ht⟩
  | .goto a b an, ht => ⟨_, rfl, .thunk Γ d hd hτ he ht⟩
  | .exit a an, ht => ⟨_, rfl, .thunk Γ d hd hτ he ht⟩

/-- `argsStep` on an argument that is not annotated as a covariable -/
theorem argsStep_cons_prd (p' : CheckedProgram) (h : ArgHead) (done : List Value) (t : Term)
    (rest : Terms) (ρ : Env) (k : Stack) (hnc : ∀ x ty, t ≠ .var x ty (some .cns)) :
    argsStep p' h done (.cons t rest) ρ k =
      (match t.getType with
        | none => .stuck .untyped
        | some ty =>
          if isCodataTy p' ty then
            match suspend t ρ with
            | .ok v => .next (.args h (done ++ [v]) rest ρ k) none
            | .error w => .stuck w
          else .next (.eval t ρ (.arg h done rest ρ :: k)) none) := by
  cases t with
  | var x ty chi =>
    cases chi with
    | none => rfl
    | some c =>
      cases c with
      | prd => rfl
      | cns => exact absurd rfl (hnc x ty)
  | _ => rfl

theorem ATyped.not_cov {p : Program} {Γ : Ctx} {t : Term} {τ : Ty} (h : ATyped p Γ t τ) :
    ∀ x ty, t ≠ .var x ty (some .cns) := by
  intro x ty e
  subst e
  cases h

theorem evalStep_safe {p : Program} {p' : CheckedProgram} (W : AWT p p') {ρ : Env} {k : Stack}
    {Γ : Ctx} {τ : Ty} (he : EnvT p ρ Γ) (hk : KT p k τ) (t : Term) (ht : ATyped p Γ t τ) :
    SafeStep p (evalStep p' t ρ k) := by
  cases ht with
  | var b hl hc hty _ =>
    obtain ⟨v, hv, hb⟩ := he.lookup _ _ hl
    simp only [evalStep, hv]
    exact .next (.ret τ (hty ▸ hb.prd_inv hc) hk)
  | lit => exact .next (.ret .i64 .int hk)
  | op ha hb => exact .next (.eval Γ .i64 he ha (.cons (.opL Γ he hb) hk))
  | ifc ha hb h1 h2 => exact .next (.eval Γ .i64 he ha (.cons (.ifL Γ he hb h1 h2) hk))
  | ifz ha h1 h2 => exact .next (.eval Γ .i64 he ha (.cons (.ifZ Γ he h1 h2) hk))
  | print ha hn => exact .next (.eval Γ .i64 he ha (.cons (.print Γ he hn) hk))
  | @letIn _ x σ bound body _ hw hb hi =>
    simp only [evalStep]
    by_cases hcd : isCodataTy p' σ = true
    · obtain ⟨d, hd, targs, hσ⟩ := W.codata_sound σ hw hcd
      obtain ⟨v, hv, hvt⟩ := suspend_typed he hd hσ bound hb
      simp only [hcd, if_true, hv]
      exact .next (.eval _ τ (.cons ⟨x, .prd, σ⟩ he (.prd rfl hvt)) hi hk)
    · simp only [hcd, Bool.false_eq_true, if_false]
      exact .next (.eval Γ σ he hb (.cons (.letF Γ he hi) hk))
  | call d hd _ has =>
    exact .next (.args Γ [] d.ctx d.retTy (.call d hd rfl rfl rfl) .nil he has hk)
  | ctor d c hd hc hw has =>
    exact .next (.args Γ [] _ _ (.ctor d c hd hc hw rfl rfl rfl) .nil he has hk)
  | dtor d sg hd hs _ hsc has _ =>
    exact .next (.eval Γ _ he hsc (.cons (.dtorScrut Γ d sg hd hs rfl rfl rfl he has) hk))
  | case d hd _ hp _ hsc hcl =>
    exact .next (.eval Γ _ he hsc (.cons (.caseF Γ d hd rfl hp he hcl) hk))
  | new d hd hp hw hr hcl => exact .next (.ret _ (.obj Γ _ he (.new d hd hp hw hr hcl)) hk)
  | @label _ a body _ hb => exact .next (.eval _ τ (.cons ⟨a, .cns, τ⟩ he (.cns rfl hk)) hb hk)
  | goto b hl hc _ ha =>
    obtain ⟨v, hv, hb⟩ := he.lookup _ _ hl
    obtain ⟨k', rfl, hk'⟩ := hb.cns_inv hc
    simp only [evalStep, hv]
    exact .next (.eval Γ b.ty he ha hk')
  | exit ha => exact .next (.eval Γ .i64 he ha .exit)
  | paren h => exact .next (.eval Γ τ he h hk)

/-- select the clause of a typed clause list for an xtor of the type and bind its parameters -/
theorem clause_select {p : Program} {Γ : Ctx} {ρ : Env} {cs : Clauses} {x : String}
    {sigs : List (String × Ctx × Ty)} {xs : List String} {vs : List Value} {sig : Ctx} {τ : Ty}
    (he : EnvT p ρ Γ) (hp : (clauseXtors cs).Perm xs) (hx : x ∈ xs) (hcl : AClauses p Γ sigs cs)
    (huniq : ∀ sig' τ', (x, sig', τ') ∈ sigs → sig' = sig ∧ τ' = τ) (hvs : VTs p vs sig) :
    ∃ cl ρ' Γ', findClause x cs = some cl ∧ bindAll cl.names vs ρ = some ρ' ∧ EnvT p ρ' Γ' ∧
      ATyped p Γ' cl.body τ := by
  obtain ⟨cl, hf⟩ := findClause_of_mem cs x (hp.mem_iff.mpr hx)
  obtain ⟨sig', τ', hm, hl, hb⟩ := hcl.find cs hf
  obtain ⟨rfl, rfl⟩ := huniq _ _ hm
  obtain ⟨ρ', h1, h2⟩ := bindAll_typed cl.names vs sig' ρ Γ hvs hl he
  exact ⟨cl, ρ', _, hf, h1, h2, hb⟩

theorem retFrame_safe {p : Program} {p' : CheckedProgram} (W : AWT p p') {v : Value} {f : Frame}
    {k : Stack} {σ τ : Ty} (hv : VT p v σ) (hf : FT p f σ τ) (hk : KT p k τ) :
    SafeStep p (retFrame v f k) := by
  cases hf with
  | opL Γ he hs =>
    obtain ⟨n, rfl⟩ := hv.int_inv
    exact .next (.eval Γ .i64 he hs (.cons .opR hk))
  | opR =>
    obtain ⟨n, rfl⟩ := hv.int_inv
    rename_i o a
    simp only [retFrame]
    cases har : arith o a n with
    | ok r => exact .next (.ret .i64 .int hk)
    | error w =>
      rcases arith_error har with rfl | rfl
      · exact .divByZero
      · exact .overflow
  | ifL Γ he hs h1 h2 =>
    obtain ⟨n, rfl⟩ := hv.int_inv
    exact .next (.eval Γ .i64 he hs (.cons (.ifR Γ he h1 h2) hk))
  | ifR Γ he h1 h2 =>
    obtain ⟨n, rfl⟩ := hv.int_inv
    simp only [retFrame]
    split
    · exact .next (.eval Γ τ he h1 hk)
    · exact .next (.eval Γ τ he h2 hk)
  | ifZ Γ he h1 h2 =>
    obtain ⟨n, rfl⟩ := hv.int_inv
    simp only [retFrame]
    split
    · exact .next (.eval Γ τ he h1 hk)
    · exact .next (.eval Γ τ he h2 hk)
  | print Γ he hn =>
    obtain ⟨n, rfl⟩ := hv.int_inv
    exact .next (.eval Γ τ he hn hk)
  | letF Γ he hb =>
    rename_i x body ρ
    exact .next (.eval _ τ (.cons ⟨x, .prd, σ⟩ he (.prd rfl hv)) hb hk)
  | arg Γ bsDone b bsTodo hh hdone hc hty he has =>
    refine .next (.args Γ (bsDone ++ [b]) bsTodo τ (by simpa using hh)
      (hdone.snoc (.prd hc (hty ▸ hv)) _ _) he has hk)
  | caseF Γ d hd hσ hp he hcl =>
    subst hσ
    obtain ⟨c, hc, vs, rfl, hvs⟩ := hv.data_inv W.decls hd
    obtain ⟨cl, ρ', Γ', h1, h2, h3, h4⟩ := clause_select (x := c.name) (τ := τ) he hp
      (List.mem_map.mpr ⟨c, hc, rfl⟩) hcl (by
        intro sig' τ' hm
        obtain ⟨c', hc', he'⟩ := List.mem_map.mp hm
        simp only [Prod.mk.injEq] at he'
        obtain ⟨hn, rfl, rfl⟩ := he'
        obtain ⟨_, rfl⟩ := ctor_unique W.decls hd hc' hd hc hn
        exact ⟨rfl, rfl⟩) hvs
    simp only [retFrame, h1, h2]
    exact .next (.eval Γ' τ h3 h4 hk)
  | dtorScrut Γ d s hd hs hnm hσ hτ he has =>
    subst hσ
    exact .next (.args Γ [] _ τ (.dtor d s hd hs hv hnm rfl hτ) .nil he has hk)
  | dtorApply d s hd hs hnm hσ hτ hvs =>
    subst hσ; subst hnm
    rcases hv.codata_inv W.decls hd with ⟨cs, ρ, Γ, an, rfl, he, hnew⟩ | ⟨t, ρ, Γ, rfl, he, ht⟩
    · obtain ⟨d', hd', targs', heq, hp, hcl⟩ := hnew.new_inv
      injection heq with hn hta
      have := codata_unique W.decls hd hd' hn
      subst this; subst hta
      obtain ⟨cl, ρ', Γ', h1, h2, h3, h4⟩ := clause_select (x := s.name) (τ := τ) he hp
        (List.mem_map.mpr ⟨s, hs, rfl⟩) hcl (by
          intro sig' τ' hm
          obtain ⟨s', hs', he'⟩ := List.mem_map.mp hm
          simp only [Prod.mk.injEq] at he'
          obtain ⟨hn', rfl, rfl⟩ := he'
          obtain ⟨_, rfl⟩ := dtor_unique W.decls hd hs' hd hs hn'
          exact ⟨rfl, hτ.symm⟩) hvs
      simp only [retFrame, h1, h2]
      exact .next (.eval Γ' τ h3 h4 hk)
    · exact .next (.eval Γ _ he ht (.cons (.dtorApply d s hd hs rfl rfl hτ hvs) hk))

theorem applyHead_safe {p : Program} {p' : CheckedProgram} (W : AWT p p') {h : ArgHead}
    {done : List Value} {k : Stack} {bs : Ctx} {τ : Ty} (hh : HT p h bs τ) (hdone : VTs p done bs)
    (hk : KT p k τ) : SafeStep p (applyHead p' h done k) := by
  cases hh with
  | call d hd hf hbs hτ =>
    subst hf; subst hbs; subst hτ
    obtain ⟨d', hfd, hctx, _, hbody⟩ := W.defs d hd
    obtain ⟨ρ', h1, h2⟩ := bindAll_typed (d.ctx.map (·.var)) done d.ctx [] [] hdone (by simp) .nil
    rw [bindNames_self] at h2
    simp only [applyHead, hfd, hctx, h1]
    exact .next (.eval _ d.retTy h2 hbody hk)
  | ctor d c hd hc hw hK hbs hτ =>
    subst hbs
    exact .next (.ret τ (.con d c hd hc hw hK hτ hdone) hk)
  | dtor d s hd hs hv hnm hbs hτ =>
    subst hbs
    exact .next (.ret _ hv (.cons (.dtorApply d s hd hs hnm rfl hτ hdone) hk))

theorem argsStep_safe {p : Program} {p' : CheckedProgram} (W : AWT p p') {h : ArgHead}
    {done : List Value} {todo : Terms} {ρ : Env} {k : Stack} {Γ bsDone bsTodo : Ctx} {τ : Ty}
    (hh : HT p h (bsDone ++ bsTodo) τ) (hdone : VTs p done bsDone) (he : EnvT p ρ Γ)
    (has : AArgs p Γ todo bsTodo) (hk : KT p k τ) : SafeStep p (argsStep p' h done todo ρ k) := by
  cases has with
  | nil =>
    simp only [argsStep]
    exact applyHead_safe W (by simpa using hh) hdone hk
  | @prd _ t ts b bs hc hw ht hr =>
    rw [argsStep_cons_prd _ _ _ _ _ _ _ ht.not_cov, ht.getType]
    simp only
    by_cases hcd : isCodataTy p' b.ty = true
    · obtain ⟨d, hd, targs, hσ⟩ := W.codata_sound _ hw hcd
      obtain ⟨v, hv, hvt⟩ := suspend_typed he hd hσ t ht
      simp only [hcd, if_true, hv]
      exact .next (.args Γ (bsDone ++ [b]) bs τ (by simpa using hh)
        (hdone.snoc (.prd hc hvt) _ _) he hr hk)
    · simp only [hcd, Bool.false_eq_true, if_false]
      exact .next (.eval Γ b.ty he ht (.cons (.arg Γ bsDone b bs hh hdone hc rfl he hr) hk))
  | @cns _ x ts b bs b' hc hl hc' hty _ hr =>
    obtain ⟨v, hv, hb⟩ := he.lookup _ _ hl
    obtain ⟨c, rfl, hkc⟩ := hb.cns_inv hc'
    simp only [argsStep, hv]
    exact .next (.args Γ (bsDone ++ [b]) bs τ (by simpa using hh)
      (hdone.snoc (.cns hc (hty ▸ hkc)) _ _) he hr hk)

/-- TYPE SAFETY, one step: a well-typed state of a checked program steps to a well-typed state,
or the run ends with a result or an arithmetic fault -/
theorem step_safe {p : Program} {p' : CheckedProgram} (W : AWT p p') {s : State} (hs : ST p s) :
    SafeStep p (step p' s) := by
  cases hs with
  | eval Γ τ he ht hk => exact evalStep_safe W he hk _ ht
  | args Γ bsDone bsTodo τ hh hdone he has hk => exact argsStep_safe W hh hdone he has hk
  | @ret v k τ hv hk =>
    cases hk with
    | nil =>
      obtain ⟨n, rfl⟩ := hv.int_inv
      exact .done
    | exit =>
      obtain ⟨n, rfl⟩ := hv.int_inv
      exact .done
    | cons hf hk' => exact retFrame_safe W hv hf hk'

end Scc.Fun.Safety
