/-
  Scc.Fun.CheckSound4 — soundness of the checker model, part 4: the calls `checkTerm` makes besides itself.
  Instance names can be taken apart again (`removeAll_instName`), a successful lookup of an xtor's type or
  template finds a declaration of the program (`lookupTyForXtor_ok`, `findTemplateForXtor_ok`),
  `checkEquality`/`checkAnnot` keep the table invariant and force equal, well-formed types, and
  `resolveXtorTy` (destructor calls and cases) yields the declared type with its instance in the table.
-/
import Scc.Fun.CheckSound3

namespace Scc.Fun.Check
open Scc.Fun.Typing

theorem removeAllFuel_instName : ∀ (n pat : List Char) (fuel : Nat) (ps : List Char),
    pat = '[' :: ps → (∀ c ∈ n, isDelim c = false) → (n ++ pat).length ≤ fuel →
    removeAllFuel fuel (n ++ pat) pat = n
  | [], pat, fuel, ps, hpat, _, hf => by
    subst hpat
    cases fuel with
    | zero => simp at hf
    | succ f =>
      have hd : ∀ (l : List Char), dropPrefix? l l = some [] := by
        intro l; induction l with
        | nil => rfl
        | cons c l ih => simp [dropPrefix?, ih]
      simp only [List.nil_append, removeAllFuel, hd]
      cases f <;> simp [removeAllFuel]
  | c :: n, pat, fuel, ps, hpat, hn, hf => by
    subst hpat
    cases fuel with
    | zero => simp at hf
    | succ f =>
      have hc : c ≠ '[' := by
        intro h; have := hn c (by simp); rw [h] at this; revert this; decide
      simp only [List.cons_append, removeAllFuel, dropPrefix?, hc, if_false]
      rw [removeAllFuel_instName n _ f ps rfl (fun x hx => hn x (by simp [hx]))
        (by simp only [List.cons_append, List.length_cons] at hf; omega)]

theorem printTyArgsC_nil_or_bracket (a : Tys) :
    printTyArgsC a = [] ∨ ∃ ps, printTyArgsC a = '[' :: ps := by
  cases a with
  | nil => exact .inl rfl
  | cons t r => exact .inr ⟨_, rfl⟩

/-- `name.replace(&type_args.print_to_string(None), "")` gives back the template name -/
theorem removeAll_instName {n : String} (a : Tys) (hn : nameOk n = true) :
    removeAll (instName n a) (printTyArgs a) = n := by
  unfold removeAll
  rcases printTyArgsC_nil_or_bracket a with h | ⟨ps, h⟩
  · have : printTyArgs a = "" := by simp [printTyArgs, h]
    simp [this, instName]
  · have h1 : (printTyArgs a).toList = '[' :: ps := by simp [printTyArgs, h]
    have h2 : (instName n a).toList = n.toList ++ '[' :: ps := by
      simp [instName, String.toList_append, h1]
    rw [h1, h2]
    simp only [List.isEmpty_cons, Bool.false_eq_true, if_false]
    rw [removeAllFuel_instName n.toList _ _ ps rfl (nameOk_noDelim hn) (Nat.le_refl _)]
    exact String.ofList_toList

theorem lookupTyForXtor_ok {pol : Polarity} : ∀ (types : AList (Polarity × Tys × List String))
    (xtor : String) (r : Ty × List String), lookupTyForXtor pol types xtor = some r →
    ∃ key ta xs x, (key, (pol, ta, xs)) ∈ types ∧ x ∈ xs ∧ instName x ta = xtor ∧
      r = (.decl (removeAll key (printTyArgs ta)) ta, xs)
  | [], _, _, h => by simp [lookupTyForXtor] at h
  | (name, (p', tyArgs, xtors)) :: rest, xtor, r, h => by
    simp only [lookupTyForXtor] at h
    split at h
    · rename_i hc
      cases h
      simp only [Bool.and_eq_true, List.any_eq_true, decide_eq_true_eq] at hc
      obtain ⟨hp, x, hx, hxe⟩ := hc
      have hp' : p' = pol := by
        cases p' <;> cases pol <;> first | rfl | (revert hp; decide)
      subst hp'
      exact ⟨name, tyArgs, xtors, x, by simp, hx, hxe, rfl⟩
    · obtain ⟨key, ta, xs, x, hm, hx, hxe, hr⟩ := lookupTyForXtor_ok rest xtor r h
      exact ⟨key, ta, xs, x, by simp [hm], hx, hxe, hr⟩

theorem findTemplateForXtor_ok {pol : Polarity} :
    ∀ (tmpl : AList (Polarity × List String × List String)) (xtor name : String) (xs : List String),
    findTemplateForXtor pol tmpl xtor = some (name, xs) →
    ∃ params, (name, (pol, params, xs)) ∈ tmpl ∧ xtor ∈ xs
  | [], _, _, _, h => by simp [findTemplateForXtor] at h
  | (n, (p', params, xtors)) :: rest, xtor, name, xs, h => by
    simp only [findTemplateForXtor] at h
    split at h
    · rename_i hc
      cases h
      simp only [Bool.and_eq_true, List.contains_iff_mem] at hc
      have hp' : p' = pol := by
        cases p' <;> cases pol <;> first | rfl | (have := hc.1; revert this; decide)
      subst hp'
      exact ⟨params, by simp, hc.2⟩
    · obtain ⟨params, hm, hx⟩ := findTemplateForXtor_ok rest xtor name xs h
      exact ⟨params, by simp [hm], hx⟩

theorem toList_ofList_clauses : ∀ (l : List Clause), (Clauses.ofList l).toList = l
  | [] => rfl
  | c :: r => by simp [Clauses.ofList, Clauses.toList, toList_ofList_clauses r]

theorem ofList_toList_clauses : ∀ (cs : Clauses), Clauses.ofList cs.toList = cs
  | .nil => rfl
  | .cons p x ns c b r => by simp [Clauses.ofList, Clauses.toList, ofList_toList_clauses r]

theorem checkEquality_sound {p : Program} (ok : DeclsOk p) (hp : programNamesOk p = true)
    {st st' : SymbolTable} {e g : Ty} (inv : Inv p st) (he : tyNamesOk e = true)
    (h : checkEquality st e g = .ok st') :
    Inv p st' ∧ Ext st st' ∧ e = g ∧ WfTy p e ∧ InstIn st' e := by
  obtain ⟨st1, h1, h2, rfl⟩ := checkEquality_ok h
  obtain ⟨inv1, ext1, wf, _⟩ := checkTy_sound ok hp e st st1 inv he h1
  obtain ⟨inv2, ext2, _, hin⟩ := checkTy_sound ok hp e st1 st' inv1 he h2
  exact ⟨inv2, ext1.trans ext2, rfl, wf, hin⟩

theorem checkAnnot_sound {p : Program} (ok : DeclsOk p) (hp : programNamesOk p = true)
    {st st' : SymbolTable} {ty : Option Ty} {found : Ty} (inv : Inv p st)
    (hty : ∀ t, ty = some t → tyNamesOk t = true) (h : checkAnnot st ty found = .ok st') :
    Inv p st' ∧ Ext st st' ∧ ∀ t, ty = some t → t = found := by
  rcases checkAnnot_ok h with ⟨rfl, rfl⟩ | ⟨t, rfl, h⟩
  · exact ⟨inv, Ext.refl _, by simp⟩
  · obtain ⟨inv1, ext1, heq, _, _⟩ := checkEquality_sound ok hp inv (hty t rfl) h
    exact ⟨inv1, ext1, by intro t' ht'; cases ht'; exact heq⟩

theorem not_beq_some_cns {chi : Option Chi} (h : ¬ (chi == some Chi.cns) = true) :
    chi ≠ some .cns := by
  intro hc; subst hc; exact h (by decide)

theorem not_beq_some_prd {chi : Option Chi} (h : ¬ (chi == some Chi.prd) = true) :
    chi ≠ some .prd := by
  intro hc; subst hc; exact h (by decide)

theorem resolveXtorTy_codata_sound {p : Program} (ok : DeclsOk p) (hp : programNamesOk p = true)
    {st st1 : SymbolTable} {id : String} {tyArgs : Tys} {ty : Ty} {xs : List String}
    (inv : Inv p st) (hid : nameOk id = true) (hta : tysNamesOk tyArgs = true)
    (h : resolveXtorTy .codata st id tyArgs = .ok ((ty, xs), st1)) :
    Inv p st1 ∧ Ext st st1 ∧ ∃ d ∈ codatas p, ∃ s ∈ d.dtors, s.name = id ∧
      ty = .decl d.name tyArgs ∧ xs = d.dtors.map (·.name) ∧ WfTy p ty ∧
      (instName d.name tyArgs, (Polarity.codata, tyArgs, xs)) ∈ st1.types := by
  rcases resolveXtorTy_ok h with ⟨hl, rfl⟩ | ⟨_, name, xs', hf, hc, hr⟩
  · obtain ⟨key, ta, xs', x, hm, hx, hxe, hr⟩ := lookupTyForXtor_ok _ _ _ hl
    cases hr
    obtain ⟨g1, g2, g3⟩ := inv.types _ _ _ _ hm
    rcases g3 with ⟨hpol, _⟩ | ⟨_, d, hd, rfl, rfl, hlen, _⟩
    · cases hpol
    · obtain ⟨s, hs, rfl⟩ := List.mem_map.mp hx
      obtain ⟨rfl, rfl⟩ := instName_inj ((codata_namesOk hp hd).2 s hs).1 hid g1 hta hxe
      rw [removeAll_instName _ (codata_namesOk hp hd).1]
      exact ⟨inv, Ext.refl _, d, hd, s, hs, rfl, rfl, rfl, .codata d _ hd hlen g2, hm⟩
  · cases hr
    obtain ⟨params, hm, hx⟩ := findTemplateForXtor_ok _ _ _ _ hf
    rcases inv.tmpl _ _ _ _ hm with ⟨hpol, _⟩ | ⟨_, d, hd, rfl, rfl, rfl⟩
    · cases hpol
    · obtain ⟨s, hs, rfl⟩ := List.mem_map.mp hx
      have hgood : tyNamesOk (.decl d.name tyArgs) = true := by
        simp [tyNamesOk, (codata_namesOk hp hd).1, hta]
      obtain ⟨inv1, ext1, wf, pol', xs'', hin⟩ := checkTy_sound ok hp _ st st1 inv hgood hc
      refine ⟨inv1, ext1, d, hd, s, hs, rfl, rfl, rfl, wf, ?_⟩
      obtain ⟨g1, _, g3⟩ := inv1.types _ _ _ _ hin
      rcases g3 with ⟨rfl, d', hd', hk, _⟩ | ⟨rfl, d', hd', hk, rfl, _⟩
      · obtain ⟨hn, _⟩ := instName_inj (codata_namesOk hp hd).1 (data_namesOk hp hd').1 hta hta hk
        exact absurd hn.symm (data_codata_disjoint ok hd' hd)
      · obtain ⟨hn, _⟩ := instName_inj (codata_namesOk hp hd).1 (codata_namesOk hp hd').1 hta hta hk
        cases codata_unique ok hd hd' hn
        exact hin

theorem resolveXtorTy_data_sound {p : Program} (ok : DeclsOk p) (hp : programNamesOk p = true)
    {st st1 : SymbolTable} {id : String} {tyArgs : Tys} {ty : Ty} {xs : List String}
    (inv : Inv p st) (hid : nameOk id = true) (hta : tysNamesOk tyArgs = true)
    (h : resolveXtorTy .data st id tyArgs = .ok ((ty, xs), st1)) :
    Inv p st1 ∧ Ext st st1 ∧ ∃ d ∈ datas p, ∃ s ∈ d.ctors, s.name = id ∧
      ty = .decl d.name tyArgs ∧ xs = d.ctors.map (·.name) ∧ WfTy p ty ∧
      (instName d.name tyArgs, (Polarity.data, tyArgs, xs)) ∈ st1.types := by
  rcases resolveXtorTy_ok h with ⟨hl, rfl⟩ | ⟨_, name, xs', hf, hc, hr⟩
  · obtain ⟨key, ta, xs', x, hm, hx, hxe, hr⟩ := lookupTyForXtor_ok _ _ _ hl
    cases hr
    obtain ⟨g1, g2, g3⟩ := inv.types _ _ _ _ hm
    rcases g3 with ⟨_, d, hd, rfl, rfl, hlen, _⟩ | ⟨hpol, _⟩
    · obtain ⟨s, hs, rfl⟩ := List.mem_map.mp hx
      obtain ⟨rfl, rfl⟩ := instName_inj ((data_namesOk hp hd).2 s hs).1 hid g1 hta hxe
      rw [removeAll_instName _ (data_namesOk hp hd).1]
      exact ⟨inv, Ext.refl _, d, hd, s, hs, rfl, rfl, rfl, .data d _ hd hlen g2, hm⟩
    · cases hpol
  · cases hr
    obtain ⟨params, hm, hx⟩ := findTemplateForXtor_ok _ _ _ _ hf
    rcases inv.tmpl _ _ _ _ hm with ⟨_, d, hd, rfl, rfl, rfl⟩ | ⟨hpol, _⟩
    · obtain ⟨s, hs, rfl⟩ := List.mem_map.mp hx
      have hgood : tyNamesOk (.decl d.name tyArgs) = true := by
        simp [tyNamesOk, (data_namesOk hp hd).1, hta]
      obtain ⟨inv1, ext1, wf, pol', xs'', hin⟩ := checkTy_sound ok hp _ st st1 inv hgood hc
      refine ⟨inv1, ext1, d, hd, s, hs, rfl, rfl, rfl, wf, ?_⟩
      obtain ⟨g1, _, g3⟩ := inv1.types _ _ _ _ hin
      rcases g3 with ⟨rfl, d', hd', hk, rfl, _⟩ | ⟨rfl, d', hd', hk, _⟩
      · obtain ⟨hn, _⟩ := instName_inj (data_namesOk hp hd).1 (data_namesOk hp hd').1 hta hta hk
        cases data_unique ok hd hd' hn
        exact hin
      · obtain ⟨hn, _⟩ := instName_inj (data_namesOk hp hd).1 (codata_namesOk hp hd').1 hta hta hk
        exact absurd hn (data_codata_disjoint ok hd hd')
    · cases hpol

end Scc.Fun.Check
