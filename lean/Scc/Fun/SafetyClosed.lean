/-
  Scc.Fun.SafetyClosed — scoping consequences of the typing of checked terms (`ATyped`), in the
  vocabulary of the fun2core simulation (Scc/Fun2Core/SemRel.lean `fv`): the free names of a typed
  term are bound in its context, hence the body of every definition of an accepted program mentions
  only its parameters.  With `ATyped.annotated` (Scc/Fun/SafetyTyping.lean) these are the conditions
  "the checker guarantees" that `Fun2Core.Sem.defFrag` / `fragOk` assume as decidable checks.
-/
import Scc.Fun.SafetyLemmas
import Scc.Fun2Core.SemCorePure2
import Scc.Fun.CheckSound2

namespace Scc.Fun.Safety
open Scc.Fun.Typing Scc.Fun2Core.Sem

mutual
  theorem ATyped.fv_sub {p : Program} : ∀ {Γ : Ctx} {t : Term} {τ : Ty}, ATyped p Γ t τ →
      ∀ x ∈ fv t, x ∈ Γ.map (·.var)
    | _, _, _, .var b hl _ _ _, x, hx => by
      simp only [fv, List.mem_singleton] at hx
      subst hx
      exact lookupCtx_name_mem hl
    | _, _, _, .lit, x, hx => by simp [fv] at hx
    | _, _, _, .op a b, x, hx => by
      simp only [fv, List.mem_append] at hx
      rcases hx with h | h
      · exact a.fv_sub x h
      · exact b.fv_sub x h
    | _, _, _, .ifc a b t e, x, hx => by
      simp only [fv, List.mem_append] at hx
      rcases hx with ((h | h) | h) | h
      · exact a.fv_sub x h
      · exact b.fv_sub x h
      · exact t.fv_sub x h
      · exact e.fv_sub x h
    | _, _, _, .ifz a t e, x, hx => by
      simp only [fv, List.mem_append] at hx
      rcases hx with (h | h) | h
      · exact a.fv_sub x h
      · exact t.fv_sub x h
      · exact e.fv_sub x h
    | _, _, _, .print a n, x, hx => by
      simp only [fv, List.mem_append] at hx
      rcases hx with h | h
      · exact a.fv_sub x h
      · exact n.fv_sub x h
    | _, _, _, .letIn _ b i, x, hx => by
      simp only [fv, List.mem_append, List.mem_filter, decide_eq_true_eq] at hx
      rcases hx with h | ⟨h, hne⟩
      · exact b.fv_sub x h
      · have := i.fv_sub x h
        simp only [List.map_append, List.map_cons, List.map_nil, List.mem_append,
          List.mem_singleton] at this
        rcases this with h' | h'
        · exact h'
        · exact absurd h' hne
    | _, _, _, .call _ _ _ as, x, hx => as.fv_sub x (by simpa [fv] using hx)
    | _, _, _, .ctor _ _ _ _ _ as, x, hx => as.fv_sub x (by simpa [fv] using hx)
    | _, _, _, .dtor _ _ _ _ _ sc as _, x, hx => by
      simp only [fv, List.mem_append] at hx
      rcases hx with h | h
      · exact sc.fv_sub x h
      · exact as.fv_sub x h
    | _, _, _, .case _ _ _ _ _ sc cl, x, hx => by
      simp only [fv, List.mem_append] at hx
      rcases hx with h | h
      · exact sc.fv_sub x h
      · exact cl.fv_sub x h
    | _, _, _, .new _ _ _ _ _ cl, x, hx => cl.fv_sub x (by simpa [fv] using hx)
    | _, _, _, .label b, x, hx => by
      simp only [fv, List.mem_filter, decide_eq_true_eq] at hx
      obtain ⟨h, hne⟩ := hx
      have := b.fv_sub x h
      simp only [List.map_append, List.map_cons, List.map_nil, List.mem_append,
        List.mem_singleton] at this
      rcases this with h' | h'
      · exact h'
      · exact absurd h' hne
    | _, _, _, .goto b hl _ _ a, x, hx => by
      simp only [fv, List.mem_cons] at hx
      rcases hx with rfl | h
      · exact lookupCtx_name_mem hl
      · exact a.fv_sub x h
    | _, _, _, .exit a, x, hx => a.fv_sub x (by simpa [fv] using hx)
    | _, _, _, .paren t, x, hx => t.fv_sub x (by simpa [fv] using hx)
  theorem AArgs.fv_sub {p : Program} : ∀ {Γ : Ctx} {ts : Terms} {bs : Ctx}, AArgs p Γ ts bs →
      ∀ x ∈ fvArgs ts, x ∈ Γ.map (·.var)
    | _, _, _, .nil, x, hx => by simp [fvArgs] at hx
    | _, _, _, .prd _ _ t r, x, hx => by
      simp only [fvArgs, List.mem_append] at hx
      rcases hx with h | h
      · exact t.fv_sub x h
      · exact r.fv_sub x h
    | _, _, _, .cns _ _ hl _ _ _ r, x, hx => by
      simp only [fvArgs, fv, List.mem_append, List.mem_singleton] at hx
      rcases hx with rfl | h
      · exact lookupCtx_name_mem hl
      · exact r.fv_sub x h
  theorem AClauses.fv_sub {p : Program} : ∀ {Γ : Ctx} {sigs : List (String × Ctx × Ty)}
      {cs : Clauses}, AClauses p Γ sigs cs → ∀ x ∈ fvClauses cs, x ∈ Γ.map (·.var)
    | _, _, _, .nil, x, hx => by simp [fvClauses] at hx
    | _, _, _, .cons _ _ _ _ hl b r, x, hx => by
      simp only [fvClauses, List.mem_append, List.mem_filter, Bool.not_eq_true',
        List.contains_eq_mem, decide_eq_false_iff_not] at hx
      rcases hx with ⟨h, hn⟩ | h
      · have := b.fv_sub x h
        simp only [List.map_append, bindNames_vars hl, List.mem_append] at this
        rcases this with h' | h'
        · exact h'
        · exact absurd h' hn
      · exact r.fv_sub x h
end

/-- definitions of an accepted program are closed: the body mentions only the parameters -/
theorem AWT.closed {p : Program} {p' : CheckedProgram} (W : AWT p p') {d : Def} (hd : d ∈ p'.defs) :
    (fv d.body).all (fun x => (d.ctx.map (·.var)).contains x) = true := by
  simp only [List.all_eq_true, List.contains_eq_mem, decide_eq_true_eq]
  exact (W.defs_typed d hd).2.2.2.fv_sub

/-- a PURE term of a codata type is (up to parentheses) a variable or a `new` — `pureS` of
Scc/Fun2Core/SemPure.lean: on `Sequenced` programs the by-name positions hold values, no thunk
is created -/
theorem ATyped.pureS_of_codata {p : Program} (ok : DeclsOk p) {Γ : Ctx} {d : Codata} {targs : Tys}
    (hd : d ∈ codatas p) : ∀ (t : Term), ATyped p Γ t (.decl d.name targs) → pureTerm t = true →
    pureS t = true
  | .var .., _, _ => rfl
  | .new .., _, _ => rfl
  | .paren t, h, hp => by
    cases h with
    | paren h' => exact ATyped.pureS_of_codata ok hd t h' (by simpa [pureTerm] using hp)
  | .lit _, h, _ => by
    generalize hτ : Ty.decl d.name targs = τ at h
    cases h; cases hτ
  | .op .., h, _ => by
    generalize hτ : Ty.decl d.name targs = τ at h
    cases h; cases hτ
  | .ctor .., h, _ => by
    generalize hτ : Ty.decl d.name targs = τ at h
    cases h with
    | ctor d' c hd' _ _ _ =>
      injection hτ with hn _
      exact absurd hn.symm (Check.data_codata_disjoint ok hd' hd)
  | .ifc .., _, hp => by simp [pureTerm] at hp
  | .ifz .., _, hp => by simp [pureTerm] at hp
  | .print .., _, hp => by simp [pureTerm] at hp
  | .letIn .., _, hp => by simp [pureTerm] at hp
  | .call .., _, hp => by simp [pureTerm] at hp
  | .dtor .., _, hp => by simp [pureTerm] at hp
  | .case .., _, hp => by simp [pureTerm] at hp
  | .label .., _, hp => by simp [pureTerm] at hp
  | .goto .., _, hp => by simp [pureTerm] at hp
  | .exit .., _, hp => by simp [pureTerm] at hp

end Scc.Fun.Safety
