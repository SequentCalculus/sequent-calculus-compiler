/-
  Scc.Fun.SafetyTyping — the judgements of the type-safety proof of the Fun abstract machine
  (`Scc.Fun.step`, Scc/Fun/Sem.lean).

  1. `ATyped p Γ t τ` — typing of a CHECKED term (the output of the checker; `p` is the source
     program, it supplies the type declarations and the signatures of the definitions): the rules
     of `Typing.HasType` and, in addition, every annotation the machine READS is the right one:
       * `ty` of every node is `some τ` for the type τ the node is checked against
         (`Term.getType` is the type of the term: `ATyped.getType`),
       * `chi` of a variable in term position is `some prd`, of a covariable argument `some cns`,
       * the context of a clause is `bindNames names sig`.
     `ATyped.forget`: forgetting the annotations gives `HasType`, and the term is `annotated` (a
     second proof of `C15_annotated`).  The checker produces `ATyped` terms
     (Scc/Fun/CheckSound5.lean).
  2. typing of machine states against the declarations of `p`:
       `VT v τ`       value `v` has type τ: integers at `i64`, constructor values at instances of
                      data types (arguments typed by the instantiated signature), closures and
                      thunks at instances of codata types,
       `BT v b`       value for a binding: a `VT` value for a producer binding, a continuation
                      `cont k` with `KT k b.ty` for a consumer binding,
       `VTs`, `EnvT`  value lists against parameter lists, environments against contexts
                      (`(x, v) :: ρ` against `Γ ++ [x : ..]`),
       `FT f σ τ`     the frame `f` takes a value of type σ and passes a value of type τ on,
       `KT k τ`       the stack `k` takes a value of type τ (the answer type is `i64`),
       `HT h bs τ`    the argument head `h` takes the parameters `bs` and yields a τ,
       `ST s`         the state `s` is well-typed.
-/
import Scc.Fun.Sem
import Scc.Fun.Typing
import Scc.Fun.TypingLemmas

namespace Scc.Fun.Safety
open Scc.Fun.Typing

mutual
  inductive ATyped (p : Program) : Ctx → Term → Ty → Prop
    | var {Γ x τ} (b : Binding) : lookupCtx Γ x = some b → b.chi = .prd → b.ty = τ → WfTy p τ →
        ATyped p Γ (.var x (some τ) (some .prd)) τ
    | lit {Γ n} : ATyped p Γ (.lit n) .i64
    | op {Γ a o b} : ATyped p Γ a .i64 → ATyped p Γ b .i64 → ATyped p Γ (.op a o b) .i64
    | ifc {Γ s a b t e τ} : ATyped p Γ a .i64 → ATyped p Γ b .i64 →
        ATyped p Γ t τ → ATyped p Γ e τ → ATyped p Γ (.ifc s a b t e (some τ)) τ
    | ifz {Γ s a t e τ} : ATyped p Γ a .i64 →
        ATyped p Γ t τ → ATyped p Γ e τ → ATyped p Γ (.ifz s a t e (some τ)) τ
    | print {Γ nl a n τ} : ATyped p Γ a .i64 → ATyped p Γ n τ →
        ATyped p Γ (.print nl a n (some τ)) τ
    | letIn {Γ x σ bound body τ} : WfTy p σ → ATyped p Γ bound σ →
        ATyped p (Γ ++ [⟨x, .prd, σ⟩]) body τ → ATyped p Γ (.letIn x σ bound body (some τ)) τ
    | call {Γ args} (d : Def) : d ∈ defs p → WfTy p d.retTy →
        AArgs p Γ args d.ctx → ATyped p Γ (.call d.name args (some d.retTy)) d.retTy
    | ctor {Γ args targs} (d : Data) (c : CtorSig) : d ∈ datas p → c ∈ d.ctors →
        WfTy p (.decl d.name targs) →
        AArgs p Γ args (csubst (instSubst d.typeParams targs) c.args) →
        ATyped p Γ (.ctor c.name args (some (.decl d.name targs))) (.decl d.name targs)
    | dtor {Γ scrut targs args} (d : Codata) (s : DtorSig) : d ∈ codatas p → s ∈ d.dtors →
        WfTy p (.decl d.name targs) → ATyped p Γ scrut (.decl d.name targs) →
        AArgs p Γ args (csubst (instSubst d.typeParams targs) s.args) →
        WfTy p (tsubst (instSubst d.typeParams targs) s.contTy) →
        ATyped p Γ (.dtor scrut s.name targs args
          (some (tsubst (instSubst d.typeParams targs) s.contTy)))
          (tsubst (instSubst d.typeParams targs) s.contTy)
    | case {Γ scrut targs cs τ} (d : Data) : d ∈ datas p → cs ≠ .nil →
        (clauseXtors cs).Perm (d.ctors.map (·.name)) →
        WfTy p (.decl d.name targs) → ATyped p Γ scrut (.decl d.name targs) →
        AClauses p Γ
          (d.ctors.map fun c => (c.name, csubst (instSubst d.typeParams targs) c.args, τ)) cs →
        ATyped p Γ (.case scrut targs cs (some τ)) τ
    | new {Γ cs targs} (d : Codata) : d ∈ codatas p →
        (clauseXtors cs).Perm (d.dtors.map (·.name)) →
        WfTy p (.decl d.name targs) →
        (∀ s ∈ d.dtors, WfTy p (tsubst (instSubst d.typeParams targs) s.contTy)) →
        AClauses p Γ
          (d.dtors.map fun s => (s.name, csubst (instSubst d.typeParams targs) s.args,
            tsubst (instSubst d.typeParams targs) s.contTy)) cs →
        ATyped p Γ (.new cs (some (.decl d.name targs))) (.decl d.name targs)
    | label {Γ a body τ} : ATyped p (Γ ++ [⟨a, .cns, τ⟩]) body τ →
        ATyped p Γ (.label a body (some τ)) τ
    | goto {Γ a arg τ} (b : Binding) : lookupCtx Γ a = some b → b.chi = .cns → WfTy p b.ty →
        ATyped p Γ arg b.ty → ATyped p Γ (.goto a arg (some τ)) τ
    | exit {Γ arg τ} : ATyped p Γ arg .i64 → ATyped p Γ (.exit arg (some τ)) τ
    | paren {Γ t τ} : ATyped p Γ t τ → ATyped p Γ (.paren t) τ
  inductive AArgs (p : Program) : Ctx → Terms → Ctx → Prop
    | nil {Γ} : AArgs p Γ .nil []
    | prd {Γ t ts} {b : Binding} {bs : Ctx} : b.chi = .prd → WfTy p b.ty → ATyped p Γ t b.ty →
        AArgs p Γ ts bs → AArgs p Γ (.cons t ts) (b :: bs)
    | cns {Γ x ts} {b : Binding} {bs : Ctx} (b' : Binding) : b.chi = .cns →
        lookupCtx Γ x = some b' → b'.chi = .cns → b'.ty = b.ty → WfTy p b.ty →
        AArgs p Γ ts bs → AArgs p Γ (.cons (.var x (some b.ty) (some .cns)) ts) (b :: bs)
  inductive AClauses (p : Program) : Ctx → List (String × Ctx × Ty) → Clauses → Prop
    | nil {Γ sigs} : AClauses p Γ sigs .nil
    | cons {Γ sigs pol x ns body rest} (sig : Ctx) (bodyTy : Ty) : (x, sig, bodyTy) ∈ sigs →
        ns.Nodup → ns.length = sig.length → ATyped p (Γ ++ bindNames ns sig) body bodyTy →
        AClauses p Γ sigs rest → AClauses p Γ sigs (.cons pol x ns (bindNames ns sig) body rest)
end

theorem bindNames_vars {ns : List String} {sig : Ctx} (h : ns.length = sig.length) :
    (bindNames ns sig).map (·.var) = ns := by
  rw [bindNames, List.map_map]
  exact List.map_fst_zip (Nat.le_of_eq h)

mutual
  /-- what `ATyped` adds to `HasType`: every annotation is there, and that of the term is its type -/
  theorem ATyped.forget {p : Program} : ∀ {Γ : Ctx} {t : Term} {τ : Ty}, ATyped p Γ t τ →
      HasType p Γ t τ ∧ t.getType = some τ ∧ Typing.annotated t = true
    | _, _, _, .var b h1 h2 h3 h4 =>
      ⟨.var b h1 h2 h3 h4 (by simp) (by intro t ht; cases ht; rfl), rfl, rfl⟩
    | _, _, _, .lit => ⟨.lit, rfl, rfl⟩
    | _, _, _, .op a b => ⟨.op a.forget.1 b.forget.1, rfl,
      by simp [Typing.annotated, a.forget.2.2, b.forget.2.2]⟩
    | _, _, _, .ifc a b t e => ⟨.ifc a.forget.1 b.forget.1 t.forget.1 e.forget.1, rfl,
      by simp [Typing.annotated, a.forget.2.2, b.forget.2.2, t.forget.2.2, e.forget.2.2]⟩
    | _, _, _, .ifz a t e => ⟨.ifz a.forget.1 t.forget.1 e.forget.1, rfl,
      by simp [Typing.annotated, a.forget.2.2, t.forget.2.2, e.forget.2.2]⟩
    | _, _, _, .print a n => ⟨.print a.forget.1 n.forget.1, rfl,
      by simp [Typing.annotated, a.forget.2.2, n.forget.2.2]⟩
    | _, _, _, .letIn w b i => ⟨.letIn w b.forget.1 i.forget.1, rfl,
      by simp [Typing.annotated, b.forget.2.2, i.forget.2.2]⟩
    | _, _, _, .call d hd w as => ⟨.call d hd w as.forget.1, rfl,
      by simp [Typing.annotated, as.forget.2]⟩
    | _, _, _, .ctor d c hd hc w as => ⟨.ctor d c hd hc w as.forget.1, rfl,
      by simp [Typing.annotated, as.forget.2]⟩
    | _, _, _, .dtor d s hd hs w sc as w' => ⟨.dtor d s hd hs w sc.forget.1 as.forget.1 w', rfl,
      by simp [Typing.annotated, sc.forget.2.2, as.forget.2]⟩
    | _, _, _, .case d hd hne hp w sc cl => ⟨.case d hd hne hp w sc.forget.1 cl.forget.1, rfl,
      by simp [Typing.annotated, sc.forget.2.2, cl.forget.2]⟩
    | _, _, _, .new d hd hp w hr cl => ⟨.new d hd hp w hr cl.forget.1, rfl,
      by simp [Typing.annotated, cl.forget.2]⟩
    | _, _, _, .label b => ⟨.label b.forget.1, rfl, by simp [Typing.annotated, b.forget.2.2]⟩
    | _, _, _, .goto b h1 h2 h3 a => ⟨.goto b h1 h2 h3 a.forget.1, rfl,
      by simp [Typing.annotated, a.forget.2.2]⟩
    | _, _, _, .exit a => ⟨.exit a.forget.1, rfl, by simp [Typing.annotated, a.forget.2.2]⟩
    | _, _, _, .paren t => ⟨.paren t.forget.1, t.forget.2.1, by simp [Typing.annotated, t.forget.2.2]⟩
  theorem AArgs.forget {p : Program} : ∀ {Γ : Ctx} {ts : Terms} {bs : Ctx}, AArgs p Γ ts bs →
      ArgsTyped p Γ ts bs ∧ Typing.annotatedArgs ts = true
    | _, _, _, .nil => ⟨.nil, rfl⟩
    | _, _, _, .prd h1 h2 t r => ⟨.prd h1 h2 t.forget.1 r.forget.1,
      by simp [Typing.annotatedArgs, t.forget.2.2, r.forget.2]⟩
    | _, _, _, .cns b' h1 h2 h3 h4 h5 r =>
      ⟨.cns b' h1 h2 h3 h4 h5 (by simp) (by intro t ht; cases ht; rfl) r.forget.1,
        by simp [Typing.annotatedArgs, Typing.annotated, r.forget.2]⟩
  theorem AClauses.forget {p : Program} : ∀ {Γ : Ctx} {sigs : List (String × Ctx × Ty)}
      {cs : Clauses}, AClauses p Γ sigs cs →
      ClausesTyped p Γ sigs cs ∧ Typing.annotatedClauses cs = true
    | _, _, _, .nil => ⟨.nil, rfl⟩
    | _, _, _, .cons sig bt h1 h2 h3 b r => ⟨.cons sig bt h1 h2 h3 b.forget.1 r.forget.1,
      by simp [Typing.annotatedClauses, bindNames_vars h3, b.forget.2.2, r.forget.2]⟩
end

theorem ATyped.hasType {p : Program} : ∀ {Γ : Ctx} {t : Term} {τ : Ty},
    ATyped p Γ t τ → HasType p Γ t τ :=
  fun h => h.forget.1

theorem AArgs.argsTyped {p : Program} : ∀ {Γ : Ctx} {ts : Terms} {bs : Ctx},
    AArgs p Γ ts bs → ArgsTyped p Γ ts bs :=
  fun h => h.forget.1

theorem AClauses.clausesTyped {p : Program} : ∀ {Γ : Ctx} {sigs : List (String × Ctx × Ty)}
    {cs : Clauses}, AClauses p Γ sigs cs → ClausesTyped p Γ sigs cs :=
  fun h => h.forget.1

theorem ATyped.getType {p : Program} {Γ : Ctx} {t : Term} {τ : Ty} (h : ATyped p Γ t τ) :
    t.getType = some τ :=
  h.forget.2.1

theorem ATyped.annotated {p : Program} : ∀ {Γ : Ctx} {t : Term} {τ : Ty}, ATyped p Γ t τ →
    Typing.annotated t = true :=
  fun h => h.forget.2.2

theorem AArgs.annotated {p : Program} : ∀ {Γ : Ctx} {ts : Terms} {bs : Ctx}, AArgs p Γ ts bs →
    Typing.annotatedArgs ts = true :=
  fun h => h.forget.2

theorem AClauses.annotated {p : Program} : ∀ {Γ : Ctx} {sigs : List (String × Ctx × Ty)}
    {cs : Clauses}, AClauses p Γ sigs cs → Typing.annotatedClauses cs = true :=
  fun h => h.forget.2

theorem AArgs.length {p : Program} : ∀ {Γ : Ctx} {ts : Terms} {bs : Ctx},
    AArgs p Γ ts bs → ts.toList.length = bs.length :=
  fun h => argsTyped_length _ _ _ h.argsTyped

mutual
  inductive VT (p : Program) : Value → Ty → Prop
    | int {n} : VT p (.int n) .i64
    | con {K vs τ targs} (d : Data) (c : CtorSig) : d ∈ datas p → c ∈ d.ctors →
        WfTy p (.decl d.name targs) → K = c.name → τ = .decl d.name targs →
        VTs p vs (csubst (instSubst d.typeParams targs) c.args) → VT p (.con K vs) τ
    | obj {cs ρ τ} (Γ : Ctx) (an : Option Ty) : EnvT p ρ Γ → ATyped p Γ (.new cs an) τ →
        VT p (.obj cs ρ) τ
    | thunk {t ρ τ targs} (Γ : Ctx) (d : Codata) : d ∈ codatas p → τ = .decl d.name targs →
        EnvT p ρ Γ → ATyped p Γ t τ → VT p (.thunk t ρ) τ
  /-- a value for a binding: a typed value for a producer, a typed continuation for a consumer -/
  inductive BT (p : Program) : Value → Binding → Prop
    | prd {v b} : b.chi = .prd → VT p v b.ty → BT p v b
    | cns {k b} : b.chi = .cns → KT p k b.ty → BT p (.cont k) b
  inductive VTs (p : Program) : List Value → Ctx → Prop
    | nil : VTs p [] []
    | cons {v vs b bs} : BT p v b → VTs p vs bs → VTs p (v :: vs) (b :: bs)
  /-- environments grow at the head, contexts at the end -/
  inductive EnvT (p : Program) : Env → Ctx → Prop
    | nil : EnvT p [] []
    | cons {ρ Γ v} (b : Binding) : EnvT p ρ Γ → BT p v b → EnvT p ((b.var, v) :: ρ) (Γ ++ [b])
  /-- `HT p h bs τ`: with arguments for the parameters `bs` the head `h` yields a τ -/
  inductive HT (p : Program) : ArgHead → Ctx → Ty → Prop
    | call {f bs τ} (d : Def) : d ∈ defs p → f = d.name → bs = d.ctx → τ = d.retTy →
        HT p (.call f) bs τ
    | ctor {K bs τ targs} (d : Data) (c : CtorSig) : d ∈ datas p → c ∈ d.ctors →
        WfTy p (.decl d.name targs) → K = c.name →
        bs = csubst (instSubst d.typeParams targs) c.args → τ = .decl d.name targs →
        HT p (.ctor K) bs τ
    | dtor {v nm bs τ targs} (d : Codata) (s : DtorSig) : d ∈ codatas p → s ∈ d.dtors →
        VT p v (.decl d.name targs) → nm = s.name →
        bs = csubst (instSubst d.typeParams targs) s.args →
        τ = tsubst (instSubst d.typeParams targs) s.contTy → HT p (.dtor v nm) bs τ
  /-- `FT p f σ τ`: the frame `f` takes a σ and passes a τ on -/
  inductive FT (p : Program) : Frame → Ty → Ty → Prop
    | opL {o snd ρ} (Γ : Ctx) : EnvT p ρ Γ → ATyped p Γ snd .i64 → FT p (.opL o snd ρ) .i64 .i64
    | opR {o a} : FT p (.opR o a) .i64 .i64
    | ifL {s snd t e ρ τ} (Γ : Ctx) : EnvT p ρ Γ → ATyped p Γ snd .i64 → ATyped p Γ t τ →
        ATyped p Γ e τ → FT p (.ifL s snd t e ρ) .i64 τ
    | ifR {s a t e ρ τ} (Γ : Ctx) : EnvT p ρ Γ → ATyped p Γ t τ → ATyped p Γ e τ →
        FT p (.ifR s a t e ρ) .i64 τ
    | ifZ {s t e ρ τ} (Γ : Ctx) : EnvT p ρ Γ → ATyped p Γ t τ → ATyped p Γ e τ →
        FT p (.ifZ s t e ρ) .i64 τ
    | print {nl next ρ τ} (Γ : Ctx) : EnvT p ρ Γ → ATyped p Γ next τ →
        FT p (.print nl next ρ) .i64 τ
    | letF {x body ρ σ τ} (Γ : Ctx) : EnvT p ρ Γ → ATyped p (Γ ++ [⟨x, .prd, σ⟩]) body τ →
        FT p (.letF x body ρ) σ τ
    | arg {h done todo ρ σ τ} (Γ : Ctx) (bsDone : Ctx) (b : Binding) (bsTodo : Ctx) :
        HT p h (bsDone ++ b :: bsTodo) τ → VTs p done bsDone → b.chi = .prd → b.ty = σ →
        EnvT p ρ Γ → AArgs p Γ todo bsTodo → FT p (.arg h done todo ρ) σ τ
    | caseF {cs ρ σ τ targs} (Γ : Ctx) (d : Data) : d ∈ datas p → σ = .decl d.name targs →
        (clauseXtors cs).Perm (d.ctors.map (·.name)) → EnvT p ρ Γ →
        AClauses p Γ
          (d.ctors.map fun c => (c.name, csubst (instSubst d.typeParams targs) c.args, τ)) cs →
        FT p (.caseF cs ρ) σ τ
    | dtorScrut {nm args ρ σ τ targs} (Γ : Ctx) (d : Codata) (s : DtorSig) : d ∈ codatas p →
        s ∈ d.dtors → nm = s.name → σ = .decl d.name targs →
        τ = tsubst (instSubst d.typeParams targs) s.contTy → EnvT p ρ Γ →
        AArgs p Γ args (csubst (instSubst d.typeParams targs) s.args) →
        FT p (.dtorScrut nm args ρ) σ τ
    | dtorApply {nm vs σ τ targs} (d : Codata) (s : DtorSig) : d ∈ codatas p →
        s ∈ d.dtors → nm = s.name → σ = .decl d.name targs →
        τ = tsubst (instSubst d.typeParams targs) s.contTy →
        VTs p vs (csubst (instSubst d.typeParams targs) s.args) → FT p (.dtorApply nm vs) σ τ
  /-- `KT p k τ`: the stack `k` takes a τ; the program's answer is an integer -/
  inductive KT (p : Program) : Stack → Ty → Prop
    | nil : KT p [] .i64
    | exit {k} : KT p (.exitF :: k) .i64
    | cons {f k σ τ} : FT p f σ τ → KT p k τ → KT p (f :: k) σ
end

inductive ST (p : Program) : State → Prop
  | eval {t ρ k} (Γ : Ctx) (τ : Ty) : EnvT p ρ Γ → ATyped p Γ t τ → KT p k τ → ST p (.eval t ρ k)
  | ret {v k} (τ : Ty) : VT p v τ → KT p k τ → ST p (.ret v k)
  | args {h done todo ρ k} (Γ : Ctx) (bsDone bsTodo : Ctx) (τ : Ty) :
      HT p h (bsDone ++ bsTodo) τ → VTs p done bsDone → EnvT p ρ Γ → AArgs p Γ todo bsTodo →
      KT p k τ → ST p (.args h done todo ρ k)

end Scc.Fun.Safety
