/-
  Scc.Fun.Print — model of the Fun pretty-printer (the formatter `scc fmt`).

  Sources: the `Print` impls of /repo/lang/fun/src/syntax/** (terms/*.rs, declarations/*.rs,
  arguments.rs, context.rs, types.rs, program.rs), /repo/lang/printer/src/{types,util,tokens,theme}.rs
  and the layout engine of the `pretty` crate 0.11.3 (src/render.rs: `best`, `fitting`; src/lib.rs:
  `line`, `line_`, `group`, `nest`, `align`).

  * `Doc` mirrors the `pretty::Doc` constructors the printer uses (annotations dropped: `IoWrite`
    ignores them; `line` = `FlatAlt(Hardline, " ")`, `line_` = `FlatAlt(Hardline, Nil)`,
    `align d` = `column(|c| nesting(|n| d.nest(c - n)))`).  The smart-constructor shortcuts of the
    crate (`Nil` absorbed by `append`, `group` of a text, `nest(0)`) do not change the layout and
    are not modelled.
  * `programDoc cfg` / `termDoc cfg` transcribe the `Print` impls one to one (with
    `allow_linebreaks = true`, `latex = false`, `omit_decl_sep = false`: the formatter's config).
  * `pieces : Doc → List Piece` forgets grouping, nesting and alignment (they only choose the amount
    of white space); `print cfg p = pieces (programDoc cfg p)`.
  * `renderWith choice` renders a piece stream for an ARBITRARY layout choice; `Renders` is the same
    as a relation.  `renderPretty cfg` is the `pretty` crate's choice (`best`) at the width `cfg.width`.
  * `tokens` is the token sequence the printer emits (defined on the tree; the tie to `print`
    is theorem C16-T1 and the harness differential).

  Everything works on `List Char`.  Core imports only; executable.
-/
import Scc.Fun.Parse

namespace Scc.Fun.Print
open Scc.Fun.Lex Scc.Fun.Parse

/-! ## documents -/

inductive Doc where
  | nil
  | text (s : List Char)       -- `alloc.text(..)`, `keyword`, `ctor`, `dtor`, `typ`
  | space                      -- `alloc.space()` = `text(" ")`
  | hardline
  | line                       -- `alloc.line()`
  | line_                      -- `alloc.line_()`
  | cat (a b : Doc)            -- `a.append(b)`
  | group (d : Doc)
  | nest (off : Int) (d : Doc)
  | align (d : Doc)
  deriving Repr, Inhabited

instance : Append Doc := ⟨Doc.cat⟩

/-- printer/src/types.rs: struct PrintCfg (fields `allow_linebreaks = true`, `latex = false`,
`omit_decl_sep = false` fixed) -/
structure PrintCfg where
  width : Nat
  indent : Int

namespace Doc

/-- `d.enclose(l, r)` -/
def enclose (l r : List Char) (d : Doc) : Doc := .text l ++ d ++ .text r
def parens (d : Doc) : Doc := enclose ['('] [')'] d
def brackets (d : Doc) : Doc := enclose ['['] [']'] d
/-- printer/src/util.rs: fn braces_anno -/
def bracesAnno (d : Doc) : Doc := enclose ['{'] ['}'] d

/-- `alloc.intersperse(docs, sep)` -/
def intersperse (sep : Doc) : List Doc → Doc
  | [] => .nil
  | [d] => d
  | d :: ds => d ++ sep ++ intersperse sep ds

def size : Doc → Nat
  | .cat a b => a.size + b.size + 1
  | .group d => d.size + 1
  | .nest _ d => d.size + 1
  | .align d => d.size + 1
  | _ => 1

end Doc

/-! ## tokens.rs -/

def kwDoc (k : Kw) : Doc := .text k.chars
def COMMA : Doc := .text [',']
def COLON : Doc := .text [':']
def DOT : Doc := .text ['.']
def EQ : Doc := .text ['=']
def SEMI : Doc := .text [';']
def FAT_ARROW : Doc := .text ['=', '>']
def ZERO : Doc := .text ['0']
def CNS : Doc := .text ['c', 'n', 's']

/-- decimal digits of a natural number (`format!("{}", n)`) -/
def natDigits (n : Nat) : List Char := (Nat.toDigits 10 n)

/-- `format!("{}", lit)` for an `i64` -/
def intChars (n : Int) : List Char :=
  match n with
  | .ofNat k => natDigits k
  | .negSucc k => '-' :: natDigits (k + 1)

/-! ## the `Print` impls -/

/-- printer/src/types.rs: fn print_comma_separated (allow_linebreaks) on already printed entries:
each entry is grouped -/
def commaSep (ds : List Doc) : Doc :=
  Doc.intersperse (COMMA ++ .line) (ds.map .group)

/-- the common shape `sep.append(X).nest(indent).append(sep)` with `sep = line_` -/
def softBlock (cfg : PrintCfg) (d : Doc) : Doc := .nest cfg.indent (.line_ ++ d) ++ .line_

mutual
  /-- types.rs: impl Print for Ty -/
  def tyDoc (cfg : PrintCfg) : Ty → Doc
    | .i64 => kwDoc .i64
    | .decl n as => .text n.toList ++ tyArgsDoc cfg as
  /-- types.rs: impl Print for TypeArgs -/
  def tyArgsDoc (cfg : PrintCfg) : Tys → Doc
    | .nil => .nil
    | .cons t r => .group (Doc.brackets (softBlock cfg (commaSep (tyDoc cfg t :: tysDocs cfg r))))
  def tysDocs (cfg : PrintCfg) : Tys → List Doc
    | .nil => []
    | .cons t r => tyDoc cfg t :: tysDocs cfg r
end

/-- context.rs: impl Print for ContextBinding (with Chirality) -/
def bindingDoc (cfg : PrintCfg) (b : Binding) : Doc :=
  .text b.var.toList ++ COLON
    ++ (match b.chi with | .prd => Doc.nil | .cns => .space ++ CNS)
    ++ .space ++ tyDoc cfg b.ty

/-- context.rs: impl Print for TypingContext -/
def ctxDoc (cfg : PrintCfg) (c : Ctx) : Doc :=
  match c with
  | [] => .nil
  | _ => softBlock cfg (commaSep (c.map (bindingDoc cfg)))

/-- context.rs: impl Print for NameContext -/
def namesDoc (cfg : PrintCfg) (ns : List String) : Doc :=
  match ns with
  | [] => .nil
  | _ => .group (Doc.parens (softBlock cfg (commaSep (ns.map fun n => .text n.toList))))

/-- context.rs: impl Print for TypeContext -/
def tyParamsDoc (cfg : PrintCfg) (ns : List String) : Doc :=
  match ns with
  | [] => .nil
  | _ => .group (Doc.brackets (softBlock cfg (commaSep (ns.map fun n => .text n.toList))))

def binOpDoc : BinOp → Doc
  | .div => .text ['/'] | .prod => .text ['*'] | .rem => .text ['%'] | .sum => .text ['+']
  | .sub => .text ['-']

/-- ifc.rs: impl Print for IfSort -/
def sortDoc (s : IfSort) : Doc := .text (sortChars s)

/-- the shape `line.append(X.group()).nest(indent).append(line).braces_anno()` -/
def bracedBlock (cfg : PrintCfg) (d : Doc) : Doc :=
  Doc.bracesAnno (.nest cfg.indent (.line ++ .group d) ++ .line)

/-- the shape `line_.append(X.group()).nest(indent).append(line_).parens()` -/
def parenBlock (cfg : PrintCfg) (d : Doc) : Doc :=
  Doc.parens (.nest cfg.indent (.line_ ++ .group d) ++ .line_)

/-- destructor.rs: the test
`(scrutinee is XVar || scrutinee is Call with no arguments) && scrutinee.print_to_string(cfg).len() <= cfg.indent.cast_unsigned()`
(the printed scrutinee is `x` resp. `f()`; a negative indent casts to a huge unsigned number) -/
def dtorShort (cfg : PrintCfg) : Term → Bool
  | .var x _ _ => decide (cfg.indent < 0) || decide ((x.toList.length : Int) ≤ cfg.indent)
  | .call f .nil _ => decide (cfg.indent < 0) || decide ((f.toList.length + 2 : Int) ≤ cfg.indent)
  | _ => false

def isDtor : Term → Bool
  | .dtor .. => true
  | _ => false

mutual
  /-- terms/mod.rs: impl Print for Term, and the impls of the individual term structs -/
  def termDoc (cfg : PrintCfg) : Term → Doc
    -- var.rs
    | .var x _ _ => .text x.toList
    -- literal.rs
    | .lit n => .text (intChars n)
    -- op.rs
    | .op a o b => .group (termDoc cfg a) ++ .space ++ binOpDoc o ++ .space ++ .group (termDoc cfg b)
    -- ifc.rs (snd = Some)
    | .ifc s a b t e _ =>
      kwDoc .if_ ++ .space ++ termDoc cfg a ++ .space ++ sortDoc s ++ .space ++ termDoc cfg b ++ .space
        ++ bracedBlock cfg (termDoc cfg t) ++ .space ++ kwDoc .else_ ++ .space
        ++ bracedBlock cfg (termDoc cfg e)
    -- ifc.rs (snd = None: `alloc.text(ZERO)`)
    | .ifz s a t e _ =>
      kwDoc .if_ ++ .space ++ termDoc cfg a ++ .space ++ sortDoc s ++ .space ++ ZERO ++ .space
        ++ bracedBlock cfg (termDoc cfg t) ++ .space ++ kwDoc .else_ ++ .space
        ++ bracedBlock cfg (termDoc cfg e)
    -- print.rs
    | .print nl a n _ =>
      kwDoc (if nl then .printlnI64 else .printI64) ++ .group (parenBlock cfg (termDoc cfg a)) ++ SEMI
        ++ .hardline ++ .group (termDoc cfg n)
    -- let.rs
    | .letIn x ty b i _ =>
      kwDoc .let_ ++ .space ++ .text x.toList ++ COLON ++ .space ++ tyDoc cfg ty ++ .space ++ EQ
        ++ .space ++ .group (termDoc cfg b) ++ SEMI ++ .hardline ++ .group (termDoc cfg i)
    -- call.rs
    | .call f as _ => .text f.toList ++ .group (Doc.parens (argsDoc cfg as))
    -- constructor.rs
    | .ctor k as _ =>
      .text k.toList ++ .group (match as with
        | .nil => Doc.nil
        | _ => Doc.parens (argsDoc cfg as))
    -- destructor.rs
    | .dtor s d tas as _ =>
      let args := Doc.group (match as with
        | .nil => Doc.nil
        | _ => Doc.parens (argsDoc cfg as))
      if dtorShort cfg s then
        termDoc cfg s ++ DOT ++ .text d.toList ++ tyArgsDoc cfg tas ++ args
      else
        .align (.nest cfg.indent
          (termDoc cfg s ++ .line_ ++ DOT ++ .text d.toList ++ tyArgsDoc cfg tas ++ args))
    -- case.rs
    | .case s tas cs _ =>
      if isDtor s then
        .align (.nest cfg.indent
          (termDoc cfg s ++ .line_ ++ DOT ++ kwDoc .case_ ++ tyArgsDoc cfg tas ++ .space
            ++ clausesBlockDoc cfg cs))
      else
        termDoc cfg s ++ DOT ++ kwDoc .case_ ++ tyArgsDoc cfg tas ++ .space ++ clausesBlockDoc cfg cs
    -- new.rs
    | .new cs _ => kwDoc .new_ ++ .space ++ clausesBlockDoc cfg cs
    -- label.rs
    | .label a t _ =>
      kwDoc .label ++ .space ++ .text a.toList ++ .space ++ .group (bracedBlock cfg (termDoc cfg t))
    -- goto.rs
    | .goto a t _ =>
      kwDoc .goto ++ .space ++ .text a.toList ++ .space ++ .group (parenBlock cfg (termDoc cfg t))
    -- exit.rs
    | .exit t _ => kwDoc .exit ++ .space ++ termDoc cfg t
    -- paren.rs
    | .paren t => parenBlock cfg (termDoc cfg t)

  /-- arguments.rs: impl Print for Arguments (without the caller's parentheses) -/
  def argsDoc (cfg : PrintCfg) : Terms → Doc
    | .nil => .nil
    | .cons t r => softBlock cfg (commaSep (termDoc cfg t :: termsDocs cfg r))

  def termsDocs (cfg : PrintCfg) : Terms → List Doc
    | .nil => []
    | .cons t r => termDoc cfg t :: termsDocs cfg r

  /-- clause.rs: fn print_clauses -/
  def clausesBlockDoc (cfg : PrintCfg) : Clauses → Doc
    | .nil => .group (Doc.bracesAnno .space)
    | .cons _ x ns _ b .nil =>
      .group (Doc.bracesAnno
        (.nest cfg.indent (.line ++ .group (clauseDoc cfg x ns (termDoc cfg b))) ++ .line))
    | .cons _ x ns _ b (.cons p2 x2 ns2 c2 b2 r) =>
      Doc.bracesAnno
        (.nest cfg.indent (.hardline ++ Doc.intersperse (COMMA ++ .hardline)
            ((Doc.group (clauseDoc cfg x ns (termDoc cfg b)))
              :: clausesDocs cfg (.cons p2 x2 ns2 c2 b2 r)))
          ++ .hardline)

  /-- the grouped clause documents of a clause list -/
  def clausesDocs (cfg : PrintCfg) : Clauses → List Doc
    | .nil => []
    | .cons _ x ns _ b r => .group (clauseDoc cfg x ns (termDoc cfg b)) :: clausesDocs cfg r

  /-- clause.rs: impl Print for Clause (the body already printed) -/
  def clauseDoc (cfg : PrintCfg) (x : String) (ns : List String) (body : Doc) : Doc :=
    .nest cfg.indent
      (.align (.text x.toList ++ namesDoc cfg ns ++ .space ++ FAT_ARROW) ++ .line ++ .group body)
end

/-- data.rs: impl Print for CtorSig -/
def ctorSigDoc (cfg : PrintCfg) (c : CtorSig) : Doc :=
  .text c.name.toList ++ .group (match c.args with
    | [] => ctxDoc cfg c.args
    | _ => Doc.parens (ctxDoc cfg c.args))

/-- codata.rs: impl Print for DtorSig -/
def dtorSigDoc (cfg : PrintCfg) (d : DtorSig) : Doc :=
  .text d.name.toList ++ .group (match d.args with
    | [] => ctxDoc cfg d.args
    | _ => Doc.parens (ctxDoc cfg d.args)) ++ COLON ++ .space ++ tyDoc cfg d.contTy

/-- the body of `data`/`codata` declarations -/
def sigBlock (cfg : PrintCfg) (sigs : List Doc) : Doc :=
  .group (Doc.bracesAnno (match sigs with
    | [] => Doc.space
    | _ => .nest cfg.indent (.line ++ Doc.intersperse (COMMA ++ .line) sigs) ++ .line))

/-- data.rs: impl Print for Data -/
def dataDoc (cfg : PrintCfg) (d : Data) : Doc :=
  kwDoc .data ++ .space ++ .text d.name.toList ++ tyParamsDoc cfg d.typeParams ++ .space
    ++ sigBlock cfg (d.ctors.map (ctorSigDoc cfg))

/-- codata.rs: impl Print for Codata -/
def codataDoc (cfg : PrintCfg) (d : Codata) : Doc :=
  kwDoc .codata ++ .space ++ .text d.name.toList ++ tyParamsDoc cfg d.typeParams ++ .space
    ++ sigBlock cfg (d.dtors.map (dtorSigDoc cfg))

/-- def.rs: impl Print for Def -/
def defDoc (cfg : PrintCfg) (d : Def) : Doc :=
  .group (kwDoc .def_ ++ .space ++ .text d.name.toList ++ Doc.parens (ctxDoc cfg d.ctx) ++ COLON
      ++ .space ++ tyDoc cfg d.retTy ++ .space)
    ++ Doc.bracesAnno (.nest cfg.indent (.hardline ++ .group (termDoc cfg d.body)) ++ .hardline)

/-- declarations/mod.rs: impl Print for Declaration -/
def declDoc (cfg : PrintCfg) : Decl → Doc
  | .data d => dataDoc cfg d
  | .codata d => codataDoc cfg d
  | .defn d => defDoc cfg d

/-- program.rs: impl Print for Program -/
def programDoc (cfg : PrintCfg) (p : Program) : Doc :=
  Doc.intersperse (.line ++ .line) (p.decls.map (declDoc cfg))

/-! ## piece streams -/

inductive Piece where
  | text (s : List Char)
  | space
  | line
  | line_
  | hardline
  deriving DecidableEq, Repr, Inhabited

/-- forget grouping, nesting and alignment -/
def pieces : Doc → List Piece
  | .nil => []
  | .text s => [.text s]
  | .space => [.space]
  | .hardline => [.hardline]
  | .line => [.line]
  | .line_ => [.line_]
  | .cat a b => pieces a ++ pieces b
  | .group d => pieces d
  | .nest _ d => pieces d
  | .align d => pieces d

def printTerm (cfg : PrintCfg) (t : Term) : List Piece := pieces (termDoc cfg t)

/-- the piece stream of a program (the `cfg` influences only the `line_` pieces of destructors) -/
def print (cfg : PrintCfg) (p : Program) : List Piece := pieces (programDoc cfg p)

/-- newline followed by `k` spaces -/
def newline (k : Nat) : List Char := '\n' :: List.replicate k ' '

/-- Rendering for an arbitrary layout choice: `choice i` for the `i`-th piece is `none` (flat: `line`
is one space, `line_` nothing) or `some k` (line break followed by `k` spaces of indentation); a
`hardline` is always a line break (indentation `k`, 0 for `none`). -/
def renderFrom (choice : Nat → Option Nat) : Nat → List Piece → List Char
  | _, [] => []
  | i, .text s :: r => s ++ renderFrom choice (i + 1) r
  | i, .space :: r => ' ' :: renderFrom choice (i + 1) r
  | i, .line :: r =>
    (match choice i with | none => [' '] | some k => newline k) ++ renderFrom choice (i + 1) r
  | i, .line_ :: r =>
    (match choice i with | none => [] | some k => newline k) ++ renderFrom choice (i + 1) r
  | i, .hardline :: r => newline ((choice i).getD 0) ++ renderFrom choice (i + 1) r

def renderWith (choice : Nat → Option Nat) (ps : List Piece) : List Char := renderFrom choice 0 ps

/-- the same as a relation: `Renders ps s` iff `s` is a rendering of `ps` for some layout choice -/
inductive Renders : List Piece → List Char → Prop where
  | nil : Renders [] []
  | text {r o} (s : List Char) : Renders r o → Renders (.text s :: r) (s ++ o)
  | space {r o} : Renders r o → Renders (.space :: r) (' ' :: o)
  | lineFlat {r o} : Renders r o → Renders (.line :: r) (' ' :: o)
  | lineBreak {r o} (k : Nat) : Renders r o → Renders (.line :: r) (newline k ++ o)
  | lineFlat_ {r o} : Renders r o → Renders (.line_ :: r) o
  | lineBreak_ {r o} (k : Nat) : Renders r o → Renders (.line_ :: r) (newline k ++ o)
  | hardline {r o} (k : Nat) : Renders r o → Renders (.hardline :: r) (newline k ++ o)

/-! ## the layout of the `pretty` crate -/

inductive Mode where
  | brk | flat
  deriving DecidableEq, Repr

/-- pretty render.rs: `Best::fitting`.  `fcmds` are the documents of the group under test (laid out
in mode `mode`, initially flat), `bcmds` the pending commands of `best` (top of the stack first),
which are examined in break mode.  Fuel: number of document nodes. -/
def fitting (width : Nat) : Nat → List Doc → List Doc → Mode → Nat → Bool
  | 0, _, _, _, _ => false
  | _ + 1, [], [], _, _ => true
  | fuel + 1, [], b :: bs, _, pos => fitting width fuel [b] bs .brk pos
  | fuel + 1, d :: fs, bs, mode, pos =>
    match d with
    | .nil => fitting width fuel fs bs mode pos
    | .cat a b => fitting width fuel (a :: b :: fs) bs mode pos
    | .hardline => mode == .brk
    | .text s => if pos + s.length > width then false else fitting width fuel fs bs mode (pos + s.length)
    | .space => if pos + 1 > width then false else fitting width fuel fs bs mode (pos + 1)
    | .line =>
      match mode with
      | .brk => true
      | .flat => if pos + 1 > width then false else fitting width fuel fs bs mode (pos + 1)
    | .line_ =>
      match mode with
      | .brk => true
      | .flat => fitting width fuel fs bs mode pos
    | .group d | .nest _ d | .align d => fitting width fuel (d :: fs) bs mode pos

/-- `ind.saturating_add(off)` / `ind.saturating_sub(|off|)` -/
def nestInd (ind : Nat) (off : Int) : Nat :=
  if off ≥ 0 then ind + off.toNat else ind - off.natAbs

/-- pretty render.rs: `Best::best` (output accumulated in reverse).  Fuel: number of document nodes. -/
def best (width : Nat) : Nat → List (Nat × Mode × Doc) → Nat → List Char → List Char
  | 0, _, _, acc => acc
  | _ + 1, [], _, acc => acc
  | fuel + 1, (ind, mode, d) :: cs, pos, acc =>
    match d with
    | .nil => best width fuel cs pos acc
    | .cat a b => best width fuel ((ind, mode, a) :: (ind, mode, b) :: cs) pos acc
    | .group d =>
      let mode' := match mode with
        | .flat => Mode.flat
        | .brk => if fitting width (fuel + 1) [d] (cs.map fun c => c.2.2) .flat pos then .flat else .brk
      best width fuel ((ind, mode', d) :: cs) pos acc
    | .nest off d => best width fuel ((nestInd ind off, mode, d) :: cs) pos acc
    | .align d => best width fuel ((pos, mode, d) :: cs) pos acc
    | .hardline => best width fuel cs ind ((newline ind).reverse ++ acc)
    | .text s => best width fuel cs (pos + s.length) (s.reverse ++ acc)
    | .space => best width fuel cs (pos + 1) (' ' :: acc)
    | .line =>
      match mode with
      | .brk => best width fuel cs ind ((newline ind).reverse ++ acc)
      | .flat => best width fuel cs (pos + 1) (' ' :: acc)
    | .line_ =>
      match mode with
      | .brk => best width fuel cs ind ((newline ind).reverse ++ acc)
      | .flat => best width fuel cs pos acc

/-- pretty: `doc.render(width, out)` -/
def renderDoc (width : Nat) (d : Doc) : List Char :=
  (best width (2 * d.size + 2) [(0, .brk, d)] 0 []).reverse

/-- printer/src/types.rs: fn print_to_string(Some(cfg)) on a program -/
def renderPretty (cfg : PrintCfg) (p : Program) : List Char := renderDoc cfg.width (programDoc cfg p)

/-! ## the token sequence of a program -/

def litToks (n : Int) : List Token :=
  match n with
  | .ofNat k => [.num (natDigits k)]
  | .negSucc k => [.minus, .num (natDigits (k + 1))]

/-- `sep`-separated concatenation -/
def joinToks (sep : List Token) : List (List Token) → List Token
  | [] => []
  | [x] => x
  | x :: xs => x ++ sep ++ joinToks sep xs

mutual
  def tyToks : Ty → List Token
    | .i64 => [.kw .i64]
    | .decl n as => .upper n.toList :: tyArgToks as
  def tyArgToks : Tys → List Token
    | .nil => []
    | .cons t r => .lbrack :: (tyToks t ++ tysRestToks r) ++ [.rbrack]
  /-- `, T` for every further type argument -/
  def tysRestToks : Tys → List Token
    | .nil => []
    | .cons t r => .comma :: tyToks t ++ tysRestToks r
end

def bindingToks (b : Binding) : List Token :=
  .lower b.var.toList :: (match b.chi with | .prd => Token.colon | .cns => Token.colonCns) :: tyToks b.ty

def ctxToks (c : Ctx) : List Token := joinToks [.comma] (c.map bindingToks)

/-- a non-empty name list in parentheses, nothing for the empty list -/
def namesToks (ns : List String) : List Token :=
  match ns with
  | [] => []
  | _ => .lparen :: joinToks [.comma] (ns.map fun n => [.lower n.toList]) ++ [.rparen]

def tyParamsToks (ns : List String) : List Token :=
  match ns with
  | [] => []
  | _ => .lbrack :: joinToks [.comma] (ns.map fun n => [.upper n.toList]) ++ [.rbrack]

def binOpTok : BinOp → Token
  | .div => .slash | .prod => .star | .rem => .percent | .sum => .plus | .sub => .minus

def xtorTok (p : Polarity) (x : String) : Token :=
  match p with
  | .data => .upper x.toList
  | .codata => .lower x.toList

mutual
  def termToks : Term → List Token
    | .var x _ _ => [.lower x.toList]
    | .lit n => litToks n
    | .op a o b => termToks a ++ binOpTok o :: termToks b
    | .ifc s a b t e _ =>
      .kw .if_ :: termToks a ++ .cmp s :: termToks b ++ .lbrace :: termToks t
        ++ .rbrace :: .kw .else_ :: .lbrace :: termToks e ++ [.rbrace]
    | .ifz s a t e _ =>
      .kw .if_ :: termToks a ++ .zcmpL s :: .lbrace :: termToks t
        ++ .rbrace :: .kw .else_ :: .lbrace :: termToks e ++ [.rbrace]
    | .print nl a n _ =>
      .kw (if nl then .printlnI64 else .printI64) :: .lparen :: termToks a ++ .rparen :: .semi :: termToks n
    | .letIn x ty b i _ =>
      .kw .let_ :: .lower x.toList :: .colon :: tyToks ty ++ .assign :: termToks b ++ .semi :: termToks i
    | .call f as _ => .lower f.toList :: .lparen :: termsToks as ++ [.rparen]
    | .ctor k as _ =>
      .upper k.toList :: (match as with
        | .nil => []
        | _ => .lparen :: termsToks as ++ [.rparen])
    | .dtor s d tas as _ =>
      termToks s ++ .dot :: .lower d.toList :: tyArgToks tas ++ (match as with
        | .nil => []
        | _ => .lparen :: termsToks as ++ [.rparen])
    | .case s tas cs _ =>
      termToks s ++ .dot :: .kw .case_ :: tyArgToks tas ++ .lbrace :: clausesToks cs ++ [.rbrace]
    | .new cs _ => .kw .new_ :: .lbrace :: clausesToks cs ++ [.rbrace]
    | .label a t _ => .kw .label :: .lower a.toList :: .lbrace :: termToks t ++ [.rbrace]
    | .goto a t _ => .kw .goto :: .lower a.toList :: .lparen :: termToks t ++ [.rparen]
    | .exit t _ => .kw .exit :: termToks t
    | .paren t => .lparen :: termToks t ++ [.rparen]
  /-- comma-separated arguments -/
  def termsToks : Terms → List Token
    | .nil => []
    | .cons t .nil => termToks t
    | .cons t r => termToks t ++ .comma :: termsToks r
  /-- comma-separated clauses -/
  def clausesToks : Clauses → List Token
    | .nil => []
    | .cons p x ns _ b .nil => xtorTok p x :: namesToks ns ++ .fatArrow :: termToks b
    | .cons p x ns _ b r => xtorTok p x :: namesToks ns ++ .fatArrow :: termToks b ++ .comma :: clausesToks r
end

def ctorSigToks (c : CtorSig) : List Token :=
  .upper c.name.toList :: (match c.args with
    | [] => []
    | _ => .lparen :: ctxToks c.args ++ [.rparen])

def dtorSigToks (d : DtorSig) : List Token :=
  .lower d.name.toList :: (match d.args with
    | [] => []
    | _ => .lparen :: ctxToks d.args ++ [.rparen]) ++ .colon :: tyToks d.contTy

def declToks : Decl → List Token
  | .data d =>
    .kw .data :: .upper d.name.toList :: tyParamsToks d.typeParams
      ++ .lbrace :: joinToks [.comma] (d.ctors.map ctorSigToks) ++ [.rbrace]
  | .codata d =>
    .kw .codata :: .upper d.name.toList :: tyParamsToks d.typeParams
      ++ .lbrace :: joinToks [.comma] (d.dtors.map dtorSigToks) ++ [.rbrace]
  | .defn d =>
    .kw .def_ :: .lower d.name.toList :: .lparen :: ctxToks d.ctx
      ++ .rparen :: .colon :: tyToks d.retTy ++ .lbrace :: termToks d.body ++ [.rbrace]

/-- the token sequence the printer emits for a program -/
def tokens (p : Program) : List Token := (p.decls.map declToks).flatten

/-! ## driver entries -/

def allFlat : Nat → Option Nat := fun _ => none
def allBreak : Nat → Option Nat := fun i => some (i % 7)

def showToks (ts : List Token) : String := " ".intercalate (ts.map Token.show)

def firstDiff : Nat → List Token → List Token → Option (Nat × String × String)
  | _, [], [] => none
  | i, a :: as, b :: bs => if a = b then firstDiff (i + 1) as bs else some (i, a.show, b.show)
  | i, a :: _, [] => some (i, a.show, "<end>")
  | i, [], b :: _ => some (i, "<end>", b.show)

def readDump (dump : String) : Option Program :=
  match Sexp.parse dump with
  | none => none
  | some sx => readProgram (dump.length + 10) sx

/-- `dumpS0`: the S0 dump of a program; `realText`: the text the real formatter printed for it.
`SAME` iff the real text, the model's all-flat rendering and the model's all-break rendering all
lex to `tokens p`. -/
def runLineFmtTokens (dumpS0 : String) (realText : String) : String :=
  match readDump dumpS0 with
  | none => "ERR read"
  | some p =>
    let cfg : PrintCfg := ⟨80, 4⟩
    let want := tokens p
    let real := lexStream realText.toList
    let flat := lexStream (renderWith allFlat (print cfg p))
    let brk := lexStream (renderWith allBreak (print cfg p))
    match firstDiff 0 real want with
    | some (i, a, b) => s!"DIFF at {i}: real {a} model-tokens {b}"
    | none =>
      match firstDiff 0 flat want with
      | some (i, a, b) => s!"DIFF at {i}: model-flat {a} model-tokens {b}"
      | none =>
        match firstDiff 0 brk want with
        | some (i, a, b) => s!"DIFF at {i}: model-break {a} model-tokens {b}"
        | none => "SAME"

/-- the model's `fmt` text for the program of the dump -/
def runLineFmt (dumpS0 : String) (width : Nat) (indent : Int) : String :=
  match readDump dumpS0 with
  | none => "ERR read"
  | some p => "OK " ++ String.ofList (renderPretty ⟨width, indent⟩ p)

end Scc.Fun.Print
