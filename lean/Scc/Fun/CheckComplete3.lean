/-
  Scc.Fun.CheckComplete3 — completeness of the checker model, part 3: terms.
  `HasType p Γ t τ` (+ consistent table, identifier-like names, the instance of τ exists) implies that
  `checkTerm t st Γ τ` succeeds.
-/
import Scc.Fun.CheckComplete2

namespace Scc.Fun.Check
open Scc.Fun.Typing

theorem lookupVarRev_complete : ∀ (l : List Binding) (x : String) (b : Binding),
    l.find? (fun b => b.var = x) = some b → b.chi = .prd → lookupVarRev l x = .ok b.ty
  | [], _, _, h, _ => by simp at h
  | c :: r, x, b, h, hb => by
    simp only [List.find?, lookupVarRev] at h ⊢
    by_cases hx : c.var = x
    · simp only [hx, decide_true] at h
      cases h
      have : (Chi.prd == Chi.cns) = false := by decide
      simp [hx, hb, this]
    · simp only [hx, decide_false] at h
      simp only [hx, if_false]
      exact lookupVarRev_complete r x b h hb

theorem lookupVar_complete {Γ : Ctx} {x : String} {b : Binding} (h : lookupCtx Γ x = some b)
    (hb : b.chi = .prd) : lookupVar Γ x = .ok b.ty :=
  lookupVarRev_complete _ _ _ h hb

theorem lookupCovarRev_complete : ∀ (l : List Binding) (x : String) (b : Binding),
    l.find? (fun b => b.var = x) = some b → b.chi = .cns → lookupCovarRev l x = .ok b.ty
  | [], _, _, h, _ => by simp at h
  | c :: r, x, b, h, hb => by
    simp only [List.find?, lookupCovarRev] at h ⊢
    by_cases hx : c.var = x
    · simp only [hx, decide_true] at h
      cases h
      have : (Chi.cns == Chi.prd) = false := by decide
      simp [hx, hb, this]
    · simp only [hx, decide_false] at h
      simp only [hx, if_false]
      exact lookupCovarRev_complete r x b h hb

theorem lookupCovar_complete {Γ : Ctx} {x : String} {b : Binding} (h : lookupCtx Γ x = some b)
    (hb : b.chi = .cns) : lookupCovar Γ x = .ok b.ty :=
  lookupCovarRev_complete _ _ _ h hb

theorem beq_some_cns_false {chi : Option Chi} (h : chi ≠ some .cns) : (chi == some Chi.cns) = false := by
  cases chi with
  | none => rfl
  | some c => cases c <;> first | rfl | exact absurd rfl h

theorem beq_some_prd_false {chi : Option Chi} (h : chi ≠ some .prd) : (chi == some Chi.prd) = false := by
  cases chi with
  | none => rfl
  | some c => cases c <;> first | rfl | exact absurd rfl h

theorem AList.get?_of_mem {β : Type} {m : AList β} {k : String} {v : β} (h : (k, v) ∈ m) :
    ∃ v', m.get? k = some v' := by
  induction m with
  | nil => cases h
  | cons e r ih =>
    obtain ⟨k0, v0⟩ := e
    simp only [AList.get?]
    by_cases hk : k0 = k
    · simp [hk]
    · simp only [hk, if_false]
      rcases List.mem_cons.mp h with h | h
      · cases h; exact absurd rfl hk
      · exact ih h

theorem clauses_ne_nil {cs : Clauses} (h : cs ≠ .nil) :
    ∃ pol x ns c b r, cs = .cons pol x ns c b r := by
  cases cs with
  | nil => exact absurd rfl h
  | cons pol x ns c b r => exact ⟨pol, x, ns, c, b, r, rfl⟩

theorem InstIn_i64 (st : SymbolTable) : InstIn st .i64 := trivial

/-- the data instance the expected type of a constructor denotes -/
theorem instIn_data {p : Program} (ok : DeclsOk p) {st : SymbolTable}
    (inv : Inv p st) {d : Data} (hd : d ∈ datas p) {targs : Tys}
    (hin : InstIn st (.decl d.name targs)) :
    (instName d.name targs, (Polarity.data, targs, d.ctors.map (·.name))) ∈ st.types ∧
    ∀ c ∈ d.ctors, st.ctors.get? (instName c.name targs) =
      some (substCtx (instMap d.typeParams targs) c.args) := by
  obtain ⟨pol, xs, hm⟩ := hin
  obtain ⟨_, _, g3⟩ := inv.types _ _ _ _ hm
  rcases g3 with ⟨rfl, d', hd', hk, rfl, _, hcs⟩ | ⟨rfl, d', hd', hk, _, _, _⟩
  · have := data_unique ok hd hd' (instName_left_inj hk)
    subst this
    exact ⟨hm, hcs⟩
  · exact absurd (instName_left_inj hk) (data_codata_disjoint ok hd hd')

theorem instIn_codata {p : Program} (ok : DeclsOk p)
    {st : SymbolTable} (inv : Inv p st) {d : Codata} (hd : d ∈ codatas p) {targs : Tys}
    (hin : InstIn st (.decl d.name targs)) :
    (instName d.name targs, (Polarity.codata, targs, d.dtors.map (·.name))) ∈ st.types ∧
    ∀ s ∈ d.dtors, st.dtors.get? (instName s.name targs) =
      some (substCtx (instMap d.typeParams targs) s.args, substTy (instMap d.typeParams targs) s.contTy) := by
  obtain ⟨pol, xs, hm⟩ := hin
  obtain ⟨_, _, g3⟩ := inv.types _ _ _ _ hm
  rcases g3 with ⟨rfl, d', hd', hk, _, _, _⟩ | ⟨rfl, d', hd', hk, rfl, _, hcs⟩
  · exact absurd (instName_left_inj hk).symm (data_codata_disjoint ok hd' hd)
  · have := codata_unique ok hd hd' (instName_left_inj hk)
    subst this
    exact ⟨hm, hcs⟩

theorem ex_pair {α β : Type} {x : R (α × β)} (h : ∃ r, x = .ok r) : ∃ a b, x = .ok (a, b) := by
  obtain ⟨⟨a, b⟩, h⟩ := h
  exact ⟨a, b, h⟩

theorem not_bne_of_eq {a b : Nat} (h : a = b) : ¬ (a != b) = true := by simp [h]

theorem substCtx_inst {params : List String} (args : Tys) (h : params.Nodup) (c : Ctx) :
    substCtx (instMap params args) c = csubst (instSubst params args) c :=
  substCtx_eq_csubst (params.zip args.toList) (zip_keys_nodup _ h) c

theorem substTy_inst {params : List String} (args : Tys) (h : params.Nodup) (t : Ty) :
    substTy (instMap params args) t = tsubst (instSubst params args) t :=
  substTy_eq_tsubst (params.zip args.toList) (zip_keys_nodup _ h) t

mutual
  theorem checkTerm_complete {p : Program} (ok : DeclsOk p) (hp : programNamesOk p = true) :
      ∀ (t : Term), termNamesOk t = true → CompleteK p t (checkTerm t)
    | .var x ty chi, hn => by
      intro Γ τ h st inv hΓ hτ hin
      cases h with
      | var b hl hchi hty wf hne hann =>
        subst hty
        have hlv := lookupVar_complete hl hchi
        obtain ⟨st1, h1⟩ := checkAnnot_complete ok hp inv hτ wf hann
        obtain ⟨inv1, _, _⟩ := checkAnnot_sound ok hp inv
          (by intro t ht; subst ht; simpa [termNamesOk] using hn) h1
        obtain ⟨st2, h2⟩ := checkEquality_complete ok hp inv1 hτ wf
        apply ex_pair
        simp only [checkTerm, beq_some_cns_false hne, Bool.false_eq_true, if_false, hlv, h1, h2]
        exact ⟨_, rfl⟩
    | .lit n, _ => by
      intro Γ τ h st inv hΓ hτ hin
      cases h with
      | lit =>
        obtain ⟨st1, h1⟩ := checkEquality_complete ok hp inv hτ .i64
        apply ex_pair
        simp only [checkTerm, h1]
        exact ⟨_, rfl⟩
    | .op a o b, hn => by
      intro Γ τ h st inv hΓ hτ hin
      simp only [termNamesOk, Bool.and_eq_true] at hn
      cases h with
      | op ha hb =>
        obtain ⟨st1, h1⟩ := checkEquality_complete ok hp inv hτ .i64
        obtain ⟨inv1, _, _⟩ := checkEquality_sound ok hp inv hτ h1
        obtain ⟨a', st2, h2⟩ := checkTerm_complete ok hp a hn.1 Γ .i64 ha st1 inv1 hΓ hτ trivial
        obtain ⟨inv2, _, _⟩ := checkTerm_sound ok hp a hn.1 st1 Γ .i64 a' st2 inv1 hΓ hτ h2
        obtain ⟨b', st3, h3⟩ := checkTerm_complete ok hp b hn.2 Γ .i64 hb st2 inv2 hΓ hτ trivial
        apply ex_pair
        simp only [checkTerm, h1, h2, h3]
        exact ⟨_, rfl⟩
    | .ifc s a b t e an, hn => by
      intro Γ τ h st inv hΓ hτ hin
      simp only [termNamesOk, Bool.and_eq_true] at hn
      cases h with
      | ifc ha hb ht he =>
        obtain ⟨a', st1, h1⟩ :=
          checkTerm_complete ok hp a hn.1.1.1 Γ .i64 ha st inv hΓ tyNamesOk_i64 trivial
        obtain ⟨inv1, ext1, _⟩ :=
          checkTerm_sound ok hp a hn.1.1.1 st Γ .i64 a' st1 inv hΓ tyNamesOk_i64 h1
        obtain ⟨b', st2, h2⟩ :=
          checkTerm_complete ok hp b hn.1.1.2 Γ .i64 hb st1 inv1 hΓ tyNamesOk_i64 trivial
        obtain ⟨inv2, ext2, _⟩ :=
          checkTerm_sound ok hp b hn.1.1.2 st1 Γ .i64 b' st2 inv1 hΓ tyNamesOk_i64 h2
        obtain ⟨t', st3, h3⟩ := checkTerm_complete ok hp t hn.1.2 Γ τ ht st2 inv2 hΓ hτ
          (hin.ext (ext1.trans ext2))
        obtain ⟨inv3, ext3, _⟩ := checkTerm_sound ok hp t hn.1.2 st2 Γ τ t' st3 inv2 hΓ hτ h3
        obtain ⟨e', st4, h4⟩ := checkTerm_complete ok hp e hn.2 Γ τ he st3 inv3 hΓ hτ
          (hin.ext ((ext1.trans ext2).trans ext3))
        apply ex_pair
        simp only [checkTerm, h1, h2, h3, h4]
        exact ⟨_, rfl⟩
    | .ifz s a t e an, hn => by
      intro Γ τ h st inv hΓ hτ hin
      simp only [termNamesOk, Bool.and_eq_true] at hn
      cases h with
      | ifz ha ht he =>
        obtain ⟨a', st1, h1⟩ :=
          checkTerm_complete ok hp a hn.1.1 Γ .i64 ha st inv hΓ tyNamesOk_i64 trivial
        obtain ⟨inv1, ext1, _⟩ :=
          checkTerm_sound ok hp a hn.1.1 st Γ .i64 a' st1 inv hΓ tyNamesOk_i64 h1
        obtain ⟨t', st3, h3⟩ := checkTerm_complete ok hp t hn.1.2 Γ τ ht st1 inv1 hΓ hτ
          (hin.ext ext1)
        obtain ⟨inv3, ext3, _⟩ := checkTerm_sound ok hp t hn.1.2 st1 Γ τ t' st3 inv1 hΓ hτ h3
        obtain ⟨e', st4, h4⟩ := checkTerm_complete ok hp e hn.2 Γ τ he st3 inv3 hΓ hτ
          (hin.ext (ext1.trans ext3))
        apply ex_pair
        simp only [checkTerm, h1, h3, h4]
        exact ⟨_, rfl⟩
    | .print nl a n an, hn => by
      intro Γ τ h st inv hΓ hτ hin
      simp only [termNamesOk, Bool.and_eq_true] at hn
      cases h with
      | print ha hnx =>
        obtain ⟨a', st1, h1⟩ :=
          checkTerm_complete ok hp a hn.1 Γ .i64 ha st inv hΓ tyNamesOk_i64 trivial
        obtain ⟨inv1, ext1, _⟩ :=
          checkTerm_sound ok hp a hn.1 st Γ .i64 a' st1 inv hΓ tyNamesOk_i64 h1
        obtain ⟨n', st2, h2⟩ := checkTerm_complete ok hp n hn.2 Γ τ hnx st1 inv1 hΓ hτ
          (hin.ext ext1)
        apply ex_pair
        simp only [checkTerm, h1, h2]
        exact ⟨_, rfl⟩
    | .letIn x σ bound body an, hn => by
      intro Γ τ h st inv hΓ hτ hin
      simp only [termNamesOk, Bool.and_eq_true] at hn
      cases h with
      | letIn wfσ hb hi =>
        obtain ⟨st1, h1⟩ := checkTy_complete ok hp σ st inv hn.1.1 wfσ
        obtain ⟨inv1, ext1, _, in1⟩ := checkTy_sound ok hp σ st st1 inv hn.1.1 h1
        obtain ⟨b', st2, h2⟩ :=
          checkTerm_complete ok hp bound hn.1.2 Γ σ hb st1 inv1 hΓ hn.1.1 in1
        obtain ⟨inv2, ext2, _⟩ :=
          checkTerm_sound ok hp bound hn.1.2 st1 Γ σ b' st2 inv1 hΓ hn.1.1 h2
        obtain ⟨i', st3, h3⟩ := checkTerm_complete ok hp body hn.2 _ τ hi st2 inv2
          (ctxNamesOk_append hΓ (ctxNamesOk_single hn.1.1)) hτ (hin.ext (ext1.trans ext2))
        apply ex_pair
        simp only [checkTerm, h1, h2, h3]
        exact ⟨_, rfl⟩
    | .call f args an, hn => by
      intro Γ τ h st inv hΓ hτ hin
      simp only [termNamesOk] at hn
      cases h with
      | call d hd wf ha =>
        obtain ⟨st1, h1⟩ := checkEquality_complete ok hp inv hτ wf
        obtain ⟨inv1, _, _⟩ := checkEquality_sound ok hp inv hτ h1
        obtain ⟨args', st2, h2⟩ := checkArgs_complete ok hp args d.ctx Γ ha st1 hn inv1 hΓ
          (def_namesOk hp hd).1
        have hlen : ¬ (d.ctx.length != termsLength args) = true :=
          not_bne_of_eq (by simp [termsLength, argsTyped_length _ _ _ ha])
        apply ex_pair
        simp only [checkTerm, inv.defsC d hd, h1, hlen, h2]
        exact ⟨_, rfl⟩
    | .ctor id args an, hn => by
      intro Γ τ h st inv hΓ hτ hin
      simp only [termNamesOk, Bool.and_eq_true] at hn
      cases h with
      | ctor d c hd hc wf ha =>
        rename_i targs
        simp only [tyNamesOk, Bool.and_eq_true] at hτ
        obtain ⟨hm, hcs⟩ := instIn_data ok inv hd hin
        have hget := hcs c hc
        obtain ⟨r, hlk⟩ := lookupTyForXtor_some (pol := .data) _ _ _ _ c.name hm
          (List.mem_map.mpr ⟨c, hc, rfl⟩)
        have hr : r.1 = .decl d.name targs := by
          obtain ⟨key, ta, xs', x, hm', hx, hxe, hr⟩ := lookupTyForXtor_ok _ _ _ hlk
          obtain ⟨g1, _, g3⟩ := inv.types _ _ _ _ hm'
          rcases g3 with ⟨_, d', hd', rfl, rfl, _, _⟩ | ⟨hpol, _⟩
          · obtain ⟨c', hc', rfl⟩ := List.mem_map.mp hx
            obtain ⟨hn1, hn2⟩ := instName_inj ((data_namesOk hp hd').2 c' hc').1 hn.1 g1 hτ.2 hxe
            obtain ⟨rfl, _⟩ := ctor_unique ok hd' hc' hd hc hn1
            subst hn2
            rw [hr, removeAll_instName _ (data_namesOk hp hd').1]
          · cases hpol
        have hnd := (ok.dataParams d hd).1
        rw [← substCtx_inst targs hnd] at ha
        have hgoodτ : tyNamesOk (.decl d.name targs) = true := by
          simp [tyNamesOk, hτ.1, hτ.2]
        obtain ⟨args', st1, h1⟩ := checkArgs_complete ok hp args _ Γ ha st hn.2 inv hΓ
          (inv.ctorsOk _ _ hget)
        obtain ⟨inv1, _, _, _⟩ := checkArgs_sound ok hp args _ st Γ args' st1 hn.2 inv hΓ
          (inv.ctorsOk _ _ hget) (by simp [termsLength, argsTyped_length _ _ _ ha]) h1
        obtain ⟨st2, h2⟩ := checkEquality_complete ok hp inv1 hgoodτ wf
        have hlen : ¬ ((substCtx (instMap d.typeParams targs) c.args).length != termsLength args)
            = true := not_bne_of_eq (by simp [termsLength, argsTyped_length _ _ _ ha])
        obtain ⟨ty, xs⟩ := r
        simp only at hr
        subst hr
        apply ex_pair
        simp only [checkTerm, hget, hlk, hlen, h1, h2]
        exact ⟨_, rfl⟩
    | .dtor scrut id tyArgs args an, hn => by
      intro Γ τ h st inv hΓ hτ hin
      simp only [termNamesOk, Bool.and_eq_true] at hn
      cases h with
      | dtor d s hd hs wfty hscrut ha wfτ =>
        obtain ⟨r, st1, h1⟩ := resolveXtorTy_codata_complete ok hp inv hd hs hn.1.1.2 wfty
        obtain ⟨ty, xs⟩ := r
        obtain ⟨inv1, ext1, d', hd', s', hs', hn', rfl, rfl, _, hentry⟩ :=
          resolveXtorTy_codata_sound ok hp inv hn.1.1.1 hn.1.1.2 h1
        obtain ⟨rfl, rfl⟩ := dtor_unique ok hd' hs' hd hs hn'
        have hgood : tyNamesOk (.decl d'.name tyArgs) = true := by
          simp [tyNamesOk, (codata_namesOk hp hd).1, hn.1.1.2]
        obtain ⟨scrut', st2, h2⟩ := checkTerm_complete ok hp scrut hn.1.2 Γ _ hscrut st1 inv1 hΓ
          hgood ⟨_, _, hentry⟩
        obtain ⟨inv2, ext2, _⟩ :=
          checkTerm_sound ok hp scrut hn.1.2 st1 Γ _ scrut' st2 inv1 hΓ hgood h2
        obtain ⟨_, hcs⟩ := instIn_codata ok inv2 hd ⟨_, _, ext2.types _ hentry⟩
        have hget := hcs s' hs
        have hnd := (ok.codataParams d' hd).1
        rw [← substCtx_inst tyArgs hnd] at ha
        rw [← substTy_inst tyArgs hnd] at wfτ hτ ⊢
        obtain ⟨args', st3, h3⟩ := checkArgs_complete ok hp args _ Γ ha st2 hn.2 inv2 hΓ
          (inv2.dtorsOk _ _ _ hget).1
        obtain ⟨inv3, _, _, _⟩ := checkArgs_sound ok hp args _ st2 Γ args' st3 hn.2 inv2 hΓ
          (inv2.dtorsOk _ _ _ hget).1 (by simp [termsLength, argsTyped_length _ _ _ ha]) h3
        obtain ⟨st4, h4⟩ := checkEquality_complete ok hp inv3 hτ wfτ
        have hlen : ¬ ((substCtx (instMap d'.typeParams tyArgs) s'.args).length != termsLength args)
            = true := not_bne_of_eq (by simp [termsLength, argsTyped_length _ _ _ ha])
        apply ex_pair
        simp only [checkTerm, h1, h2, hget, hlen, h3, h4]
        exact ⟨_, rfl⟩
    | .case scrut tyArgs cs an, hn => by
      intro Γ τ h st inv hΓ hτ hin
      simp only [termNamesOk, Bool.and_eq_true] at hn
      have hcompl := clauseCheckers_complete ok hp cs hn.2
      obtain ⟨hsrc, hsound⟩ := clauseCheckers_sound ok hp cs hn.2
      cases h with
      | case d hd hne hperm wfty hscrut hct =>
        obtain ⟨pol0, x0, ns0, c0, b0, r0, hcs⟩ := clauses_ne_nil hne
        have hx0 : x0 ∈ d.ctors.map (·.name) := by
          apply hperm.subset
          simp [clauseXtors, hcs, Clauses.toList]
        obtain ⟨k0, hk0, hk0n⟩ := List.mem_map.mp hx0
        obtain ⟨r, st1, h1⟩ := resolveXtorTy_data_complete ok hp inv hd hk0 hn.1.1 wfty
        rw [hk0n] at h1
        obtain ⟨ty, xs⟩ := r
        have hx0ok : nameOk x0 = true := by
          rw [← hk0n]; exact ((data_namesOk hp hd).2 k0 hk0).1
        obtain ⟨inv1, ext1, d', hd', s', hs', hn', rfl, rfl, _, hentry⟩ :=
          resolveXtorTy_data_sound ok hp inv hx0ok hn.1.1 h1
        obtain ⟨rfl, _⟩ := ctor_unique ok hd' hs' hd hk0 (hn'.trans hk0n.symm)
        have hgood : tyNamesOk (.decl d'.name tyArgs) = true := by
          simp [tyNamesOk, (data_namesOk hp hd).1, hn.1.1]
        obtain ⟨scrut', st2, h2⟩ := checkTerm_complete ok hp scrut hn.1.2 Γ _ hscrut st1 inv1 hΓ
          hgood ⟨_, _, hentry⟩
        obtain ⟨inv2, ext2, _⟩ :=
          checkTerm_sound ok hp scrut hn.1.2 st1 Γ _ scrut' st2 inv1 hΓ hgood h2
        have hnd := (ok.dataParams d' hd).1
        have hpermk : ((clauseCheckers cs).map (fun k => k.src.xtor)).Perm
            (d'.ctors.map (·.name)) := by
          have : (clauseCheckers cs).map (fun k => k.src.xtor) = clauseXtors cs := by
            rw [clauseXtors, ← hsrc, List.map_map]; rfl
          rw [this]; exact hperm
        obtain ⟨out, st3, h3⟩ := clauseLoop_complete (missing := "T-015") (checkRet := false)
          (sigOf := fun s n => (s.ctors.get? n).map fun sig => (sig, τ)) (tyArgs := tyArgs)
          ok hp hΓ st2 _ (clauseCheckers cs) [] st2 hpermk hsound hcompl inv2 (Ext.refl _) (by
            intro k hk st1' inv1' ext1'
            have hkc : k.src ∈ cs.toList := by
              rw [← hsrc]; exact List.mem_map.mpr ⟨k, hk, rfl⟩
            obtain ⟨sig, bodyTy, hm, hnodup, hlen, hty⟩ := clausesTyped_mem _ _ _ _ hct hkc
            obtain ⟨c, hc, he⟩ := List.mem_map.mp hm
            simp only [Prod.mk.injEq] at he
            obtain ⟨hcn, hsig, hbt⟩ := he
            obtain ⟨_, hcs'⟩ := instIn_data ok inv1' hd
              ⟨_, _, ext1'.types _ (ext2.types _ hentry)⟩
            have hg := hcs' c hc
            rw [hcn] at hg
            refine ⟨sig, bodyTy, ?_, ?_, ?_, ?_, hnodup, hlen, hty⟩
            · simp only [hg, Option.map_some, ← hsig, ← hbt, substCtx_inst tyArgs hnd]
            · rw [← hsig, ← substCtx_inst tyArgs hnd]; exact inv1'.ctorsOk _ _ hg
            · rw [← hbt]; exact hτ
            · simp only [Bool.false_eq_true, if_false]
              rw [← hbt]
              exact hin.ext (((ext1.trans ext2)).trans ext1'))
        apply ex_pair
        simp only [checkTerm]
        rw [hcs] at h3 ⊢
        simp only [h1, h2, h3, List.isEmpty_nil, Bool.not_true, Bool.false_eq_true, if_false]
        exact ⟨_, rfl⟩
    | .new cs an, hn => by
      intro Γ τ h st inv hΓ hτ hin
      simp only [termNamesOk] at hn
      have hcompl := clauseCheckers_complete ok hp cs hn
      obtain ⟨hsrc, hsound⟩ := clauseCheckers_sound ok hp cs hn
      cases h with
      | new d hd hperm wfty hrets hct =>
        rename_i targs
        simp only [tyNamesOk, Bool.and_eq_true] at hτ
        obtain ⟨hm, _⟩ := instIn_codata ok inv hd hin
        obtain ⟨v, hget⟩ := AList.get?_of_mem hm
        have hv : v = (Polarity.codata, targs, d.dtors.map (·.name)) := by
          obtain ⟨pol', ta', xs'⟩ := v
          obtain ⟨g1, _, g3⟩ := inv.types _ _ _ _ (AList.mem_of_get? hget)
          rcases g3 with ⟨rfl, d', hd', hk, _, _, _⟩ | ⟨rfl, d', hd', hk, rfl, _, _⟩
          · obtain ⟨hn1, _⟩ := instName_inj hτ.1 (data_namesOk hp hd').1 hτ.2 g1 hk
            exact absurd hn1.symm (data_codata_disjoint ok hd' hd)
          · obtain ⟨hn1, hn2⟩ := instName_inj hτ.1 (codata_namesOk hp hd').1 hτ.2 g1 hk
            cases codata_unique ok hd hd' hn1
            subst hn2
            rfl
        subst hv
        have hnd := (ok.codataParams d hd).1
        have hpermk : ((clauseCheckers cs).map (fun k => k.src.xtor)).Perm
            (d.dtors.map (·.name)) := by
          have : (clauseCheckers cs).map (fun k => k.src.xtor) = clauseXtors cs := by
            rw [clauseXtors, ← hsrc, List.map_map]; rfl
          rw [this]; exact hperm
        obtain ⟨out, st3, h3⟩ := clauseLoop_complete (missing := "T-010") (checkRet := true)
          (sigOf := fun s n => s.dtors.get? n) (tyArgs := targs)
          ok hp hΓ st _ (clauseCheckers cs) [] st hpermk hsound hcompl inv (Ext.refl _) (by
            intro k hk st1' inv1' ext1'
            have hkc : k.src ∈ cs.toList := by
              rw [← hsrc]; exact List.mem_map.mpr ⟨k, hk, rfl⟩
            obtain ⟨sig, bodyTy, hm', hnodup, hlen, hty⟩ := clausesTyped_mem _ _ _ _ hct hkc
            obtain ⟨c, hc, he⟩ := List.mem_map.mp hm'
            simp only [Prod.mk.injEq] at he
            obtain ⟨hcn, hsig, hbt⟩ := he
            obtain ⟨_, hcs'⟩ := instIn_codata ok inv1' hd ⟨_, _, ext1'.types _ hm⟩
            have hg := hcs' c hc
            rw [hcn] at hg
            have hok := inv1'.dtorsOk _ _ _ hg
            refine ⟨sig, bodyTy, ?_, ?_, ?_, ?_, hnodup, hlen, hty⟩
            · simp only [hg, ← hsig, ← hbt, substCtx_inst targs hnd, substTy_inst targs hnd]
            · rw [← hsig, ← substCtx_inst targs hnd]; exact hok.1
            · rw [← hbt, ← substTy_inst targs hnd]; exact hok.2
            · simp only [if_true]
              rw [← hbt]
              exact hrets c hc)
        apply ex_pair
        simp only [checkTerm, hget, h3, List.isEmpty_nil, Bool.not_true, Bool.false_eq_true, if_false]
        exact ⟨_, rfl⟩
    | .label a body an, hn => by
      intro Γ τ h st inv hΓ hτ hin
      simp only [termNamesOk] at hn
      cases h with
      | label hb =>
        obtain ⟨b', st1, h1⟩ := checkTerm_complete ok hp body hn _ τ hb st inv
          (ctxNamesOk_append hΓ (ctxNamesOk_single hτ)) hτ hin
        apply ex_pair
        simp only [checkTerm, h1]
        exact ⟨_, rfl⟩
    | .goto a arg an, hn => by
      intro Γ τ h st inv hΓ hτ hin
      simp only [termNamesOk] at hn
      cases h with
      | goto b hl hc wfb harg =>
        have hlc := lookupCovar_complete hl hc
        have hbgood : tyNamesOk b.ty = true := ctxNamesOk_mem hΓ (lookupCtx_some hl).1
        obtain ⟨st0, h0⟩ := checkTy_complete ok hp b.ty st inv hbgood wfb
        obtain ⟨inv0, _, _, in0⟩ := checkTy_sound ok hp b.ty st st0 inv hbgood h0
        obtain ⟨arg', st1, h1⟩ := checkTerm_complete ok hp arg hn Γ b.ty harg st0 inv0 hΓ hbgood in0
        apply ex_pair
        simp only [checkTerm, hlc, h0, h1]
        exact ⟨_, rfl⟩
    | .exit arg an, hn => by
      intro Γ τ h st inv hΓ hτ hin
      simp only [termNamesOk] at hn
      cases h with
      | exit ha =>
        obtain ⟨arg', st1, h1⟩ :=
          checkTerm_complete ok hp arg hn Γ .i64 ha st inv hΓ tyNamesOk_i64 trivial
        apply ex_pair
        simp only [checkTerm, h1]
        exact ⟨_, rfl⟩
    | .paren inner, hn => by
      intro Γ τ h st inv hΓ hτ hin
      simp only [termNamesOk] at hn
      cases h with
      | paren ha =>
        obtain ⟨i', st1, h1⟩ := checkTerm_complete ok hp inner hn Γ τ ha st inv hΓ hτ hin
        apply ex_pair
        simp only [checkTerm, h1]
        exact ⟨_, rfl⟩
  theorem checkArgs_complete {p : Program} (ok : DeclsOk p) (hp : programNamesOk p = true) :
      ∀ (ts : Terms) (bs : Ctx) (Γ : Ctx), ArgsTyped p Γ ts bs → ∀ (st : SymbolTable),
      argsNamesOk ts = true → Inv p st → ctxNamesOk Γ = true → ctxNamesOk bs = true →
      ∃ ts' st', checkArgs ts bs st Γ = .ok (ts', st')
    | .nil, bs, Γ, h, st, _, _, _, _ => by
      cases h
      exact ⟨.nil, st, by simp [checkArgs]⟩
    | .cons t r, bs, Γ, h, st, hn, inv, hΓ, hbs => by
      simp only [argsNamesOk, Bool.and_eq_true] at hn
      cases h with
      | prd hchi wf ht hr =>
        rename_i b bs'
        have hbty : tyNamesOk b.ty = true := ctxNamesOk_mem hbs (by simp)
        have hbs' : ctxNamesOk bs' = true := by
          simp only [ctxNamesOk, List.all_cons, Bool.and_eq_true] at hbs; exact hbs.2
        obtain ⟨st1, h1⟩ := checkTy_complete ok hp b.ty st inv hbty wf
        obtain ⟨inv1, _, _, in1⟩ := checkTy_sound ok hp b.ty st st1 inv hbty h1
        obtain ⟨t', st2, h2⟩ := checkTerm_complete ok hp t hn.1 Γ b.ty ht st1 inv1 hΓ hbty in1
        obtain ⟨inv2, _, _⟩ := checkTerm_sound ok hp t hn.1 st1 Γ b.ty t' st2 inv1 hΓ hbty h2
        obtain ⟨r', st3, h3⟩ := checkArgs_complete ok hp r bs' Γ hr st2 hn.2 inv2 hΓ hbs'
        have hc : (Chi.prd == Chi.cns) = false := by decide
        apply ex_pair
        simp only [checkArgs, hchi, hc, Bool.false_eq_true, if_false, h1, h2, h3]
        exact ⟨_, rfl⟩
      | cns b' hchi hl hc' hty wf hne hann hr =>
        rename_i x ty chi b bs'
        have hbty : tyNamesOk b.ty = true := ctxNamesOk_mem hbs (by simp)
        have hbs' : ctxNamesOk bs' = true := by
          simp only [ctxNamesOk, List.all_cons, Bool.and_eq_true] at hbs; exact hbs.2
        have hlc := lookupCovar_complete hl hc'
        rw [hty] at hlc
        obtain ⟨st1, h1⟩ := checkAnnot_complete ok hp inv hbty wf hann
        obtain ⟨inv1, _, _⟩ := checkAnnot_sound ok hp inv
          (by intro t' ht'; subst ht'; simpa [termNamesOk] using hn.1) h1
        obtain ⟨st2, h2⟩ := checkEquality_complete ok hp inv1 hbty wf
        obtain ⟨inv2, _, _⟩ := checkEquality_sound ok hp inv1 hbty h2
        obtain ⟨r', st3, h3⟩ := checkArgs_complete ok hp r bs' Γ hr st2 hn.2 inv2 hΓ hbs'
        have hc : (Chi.cns == Chi.cns) = true := by decide
        apply ex_pair
        simp only [checkArgs, hchi, hc, if_true, checkCovarArg, beq_some_prd_false hne,
          Bool.false_eq_true, if_false, hlc, h1, h2, h3]
        exact ⟨_, rfl⟩
  theorem clauseCheckers_complete {p : Program} (ok : DeclsOk p) (hp : programNamesOk p = true) :
      ∀ (cs : Clauses), clausesNamesOk cs = true →
      ∀ k ∈ clauseCheckers cs, CompleteK p k.src.body k.body
    | .nil, _ => by simp [clauseCheckers]
    | .cons pol x ns c b r, hn => by
      simp only [clausesNamesOk, Bool.and_eq_true] at hn
      intro k hk
      simp only [clauseCheckers, List.mem_cons] at hk
      rcases hk with rfl | hk
      · exact checkTerm_complete ok hp b hn.1.2
      · exact clauseCheckers_complete ok hp r hn.2 k hk
end

end Scc.Fun.Check
