/-
  Scc.Fun.CheckComplete1 — completeness of the checker model, part 1: a well-formed type is accepted
  by `checkTy` (instances are created on demand), `checkEquality` of a well-formed type with itself
  succeeds.
-/
import Scc.Fun.CheckSound6
import Scc.Fun.TypingLemmas

namespace Scc.Fun.Check
open Scc.Fun.Typing

mutual
  theorem checkTy_complete {p : Program} (ok : DeclsOk p) (hp : programNamesOk p = true) :
      ∀ (τ : Ty) (st : SymbolTable), Inv p st → tyNamesOk τ = true → WfTy p τ →
      ∃ st', checkTy τ st = .ok st'
    | .i64, st, _, _, _ => ⟨st, by simp [checkTy]⟩
    | .decl n args, st, inv, hn, hwf => by
      simp only [tyNamesOk, Bool.and_eq_true] at hn
      simp only [checkTy]
      cases hget : st.types.get? (instName n args) with
      | some v => exact ⟨st, rfl⟩
      | none =>
        simp only
        rcases wfTy_decl_inv hwf with ⟨d, hd, rfl, hl, hw⟩ | ⟨d, hd, rfl, hl, hw⟩
        · rw [inv.tmplDataC d hd]
          simp only
          have hlen : ¬ (tysLength args != d.typeParams.length) = true := by
            simp [tysLength, hl]
          simp only [hlen]
          obtain ⟨st1, h1⟩ := checkTys_complete ok hp args st inv hn.2 hw
          obtain ⟨inv1, _, _⟩ := checkTys_sound ok hp args st st1 inv hn.2 h1
          rw [h1]
          simp only [createInstanceRest]
          rw [insertCtorInstances_eq _ args d.ctors st1 (inv1.ctorTmpl d hd)]
          exact ⟨_, rfl⟩
        · rw [inv.tmplCodataC d hd]
          simp only
          have hlen : ¬ (tysLength args != d.typeParams.length) = true := by
            simp [tysLength, hl]
          simp only [hlen]
          obtain ⟨st1, h1⟩ := checkTys_complete ok hp args st inv hn.2 hw
          obtain ⟨inv1, _, _⟩ := checkTys_sound ok hp args st st1 inv hn.2 h1
          rw [h1]
          simp only [createInstanceRest]
          rw [insertDtorInstances_eq _ args d.dtors st1 (inv1.dtorTmpl d hd)]
          exact ⟨_, rfl⟩
  theorem checkTys_complete {p : Program} (ok : DeclsOk p) (hp : programNamesOk p = true) :
      ∀ (ts : Tys) (st : SymbolTable), Inv p st → tysNamesOk ts = true → WfTys p ts →
      ∃ st', checkTys ts st = .ok st'
    | .nil, st, _, _, _ => ⟨st, by simp [checkTys]⟩
    | .cons t r, st, inv, hn, hwf => by
      simp only [tysNamesOk, Bool.and_eq_true] at hn
      cases hwf with
      | cons ht hr =>
        obtain ⟨st1, h1⟩ := checkTy_complete ok hp t st inv hn.1 ht
        obtain ⟨inv1, _, _, _⟩ := checkTy_sound ok hp t st st1 inv hn.1 h1
        obtain ⟨st2, h2⟩ := checkTys_complete ok hp r st1 inv1 hn.2 hr
        exact ⟨st2, by simp [checkTys, h1, h2]⟩
end

theorem checkEquality_complete {p : Program} (ok : DeclsOk p) (hp : programNamesOk p = true)
    {st : SymbolTable} {τ : Ty} (inv : Inv p st) (hn : tyNamesOk τ = true) (hwf : WfTy p τ) :
    ∃ st', checkEquality st τ τ = .ok st' := by
  obtain ⟨st1, h1⟩ := checkTy_complete ok hp τ st inv hn hwf
  obtain ⟨inv1, _, _, _⟩ := checkTy_sound ok hp τ st st1 inv hn h1
  obtain ⟨st2, h2⟩ := checkTy_complete ok hp τ st1 inv1 hn hwf
  refine ⟨st2, ?_⟩
  have hne : ¬ (τ != τ) = true := (Ty.not_bne_iff τ τ).mpr rfl
  simp [checkEquality, h1, h2, hne]

theorem checkAnnot_complete {p : Program} (ok : DeclsOk p) (hp : programNamesOk p = true)
    {st : SymbolTable} {ty : Option Ty} {found : Ty} (inv : Inv p st)
    (hn : tyNamesOk found = true) (hwf : WfTy p found) (hann : ∀ t, ty = some t → t = found) :
    ∃ st', checkAnnot st ty found = .ok st' := by
  cases ty with
  | none => exact ⟨st, rfl⟩
  | some t =>
    have := hann t rfl
    subst this
    exact checkEquality_complete ok hp inv hn hwf

end Scc.Fun.Check
