/-
  Scc.Fun.Check — executable model of the Fun type checker of /repo/lang/fun:
    typing/check.rs, typing/symbol_table.rs, typing/errors.rs (codes only),
    syntax/program.rs (`check`, `check_with_table`), syntax/types.rs (`Ty::check`, `create_instance`,
    `is_instance`, `subst_ty`, printing), syntax/context.rs (`no_dups`, `lookup_var`, `lookup_covar`,
    `add_types`, `check`, `check_template`), syntax/declarations/{data,codata,def}.rs,
    syntax/terms/*.rs (the `Check` impls).
  Core imports only; executable; structural recursion only (no fuel).

  Modelling decisions
  * The seven `HashMap`s of `SymbolTable` are association lists keyed by the same `String` keys the
    Rust uses (printed names such as `List[i64]`, `Cons[i64]`).  `insert` replaces in place or
    appends.  Places where the Rust ITERATES a map:
      - `lookup_ty_for_ctor/dtor`, `lookup_ty_template_for_ctor/dtor`: at most one entry matches
        (xtor names are unique per polarity after `build_symbol_table`, printed names are injective,
        `Props/C15.lean`), so the order is irrelevant; the model scans in insertion order.
      - `check_type_params`: the FIRST failing template decides between T-020 and T-001 if two
        templates are faulty in different ways; the model scans in declaration order.
      - `check_with_table`, collecting `symbol_table.types`: arbitrary in Rust (finding D4); the model
        returns `dataTypes`/`codataTypes` sorted by printed name.
  * Spans are dropped; a diagnostic is its code `T-0xx`.
  * The two `unwrap_or_else(|| panic!(..))` of `check_with_table` are `Err.panic`.
  * Clause bodies are turned into closures (`ClauseK.body = checkTerm body`) before the
    `position`/`swap_remove` loop runs over them; this keeps the recursion structural while the loop
    order (declaration order of the xtors, state threaded through) is the Rust one.
-/
import Scc.Fun.Syntax

namespace Scc.Fun.Check

/-- failure of the checker: a diagnostic (code of typing/errors.rs) or a Rust panic site -/
inductive Err where
  | diag (code : String)
  | panic (site : String)
  deriving Repr, BEq, Inhabited

abbrev R (α : Type) := Except Err α

/-! ## association lists (`HashMap<Name, _>`) -/

abbrev AList (β : Type) := List (String × β)

def AList.get? {β : Type} : AList β → String → Option β
  | [], _ => none
  | (k', v) :: r, k => if k' = k then some v else AList.get? r k

def AList.contains {β : Type} (m : AList β) (k : String) : Bool := (m.get? k).isSome

/-- `HashMap::insert`: replace the value of an existing key, else add. -/
def AList.insert {β : Type} : AList β → String → β → AList β
  | [], k, v => [(k, v)]
  | (k', v') :: r, k, v => if k' = k then (k, v) :: r else (k', v') :: AList.insert r k v

/-! ## printing of types (`print_to_string(None)`: no line breaks, `, ` between arguments) -/

mutual
  /-- types.rs: impl Print for Ty -/
  def printTyC : Ty → List Char
    | .i64 => ['i', '6', '4']
    | .decl n args => n.toList ++ printTyArgsC args
  /-- types.rs: impl Print for TypeArgs (`[` .. `]`, nothing if empty) -/
  def printTyArgsC : Tys → List Char
    | .nil => []
    | .cons t r => '[' :: (printTyC t ++ printTysTailC r)
  /-- printer/types.rs: print_comma_separated, after the first element, plus the closing bracket -/
  def printTysTailC : Tys → List Char
    | .nil => [']']
    | .cons t r => ',' :: ' ' :: (printTyC t ++ printTysTailC r)
end

def printTy (t : Ty) : String := String.ofList (printTyC t)
def printTyArgs (a : Tys) : String := String.ofList (printTyArgsC a)

/-- `xtor.clone() + &type_args.print_to_string(None)` / `name.clone() + &type_args.print_to_string(None)` -/
def instName (base : String) (args : Tys) : String := base ++ printTyArgs args

/-- `s` without the prefix `p`, if it has it -/
def dropPrefix? : List Char → List Char → Option (List Char)
  | s, [] => some s
  | [], _ :: _ => none
  | c :: s, p :: ps => if c = p then dropPrefix? s ps else none

def removeAllFuel : Nat → List Char → List Char → List Char
  | 0, s, _ => s
  | _ + 1, [], _ => []
  | fuel + 1, c :: s, pat =>
    match dropPrefix? (c :: s) pat with
    | some rest => removeAllFuel fuel rest pat
    | none => c :: removeAllFuel fuel s pat

/-- `str::replace(pat, "")`: remove all non-overlapping occurrences of `pat`, scanning left to right
(`removeAllFuel` on character lists; for the empty pattern Rust inserts the replacement `""` everywhere:
identity). -/
def removeAll (s pat : String) : String :=
  if pat.toList.isEmpty then s else String.ofList (removeAllFuel s.toList.length s.toList pat.toList)

/-! ## symbol table (typing/symbol_table.rs) -/

structure SymbolTable where
  defs : AList (Ctx × Ty) := []
  ctors : AList Ctx := []
  dtors : AList (Ctx × Ty) := []
  types : AList (Polarity × Tys × List String) := []
  ctorTemplates : AList Ctx := []
  dtorTemplates : AList (Ctx × Ty) := []
  typeTemplates : AList (Polarity × List String × List String) := []
  deriving Inhabited

def tysLength (a : Tys) : Nat := a.toList.length
def termsLength (a : Terms) : Nat := a.toList.length

/-- symbol_table.rs: SymbolTable::lookup_ty_for_ctor / lookup_ty_for_dtor (`pol` selects) -/
def lookupTyForXtor (pol : Polarity) : AList (Polarity × Tys × List String) → String →
    Option (Ty × List String)
  | [], _ => none
  | (name, (p, tyArgs, xtors)) :: rest, xtor =>
    if p == pol && xtors.any (fun x => instName x tyArgs = xtor) then
      some (.decl (removeAll name (printTyArgs tyArgs)) tyArgs, xtors)
    else lookupTyForXtor pol rest xtor

/-- the scan part of symbol_table.rs: lookup_ty_template_for_ctor / _dtor -/
def findTemplateForXtor (pol : Polarity) : AList (Polarity × List String × List String) → String →
    Option (String × List String)
  | [], _ => none
  | (name, (p, _, xtors)) :: rest, xtor =>
    if p == pol && xtors.contains xtor then some (name, xtors)
    else findTemplateForXtor pol rest xtor

/-! ## substitution (types.rs: subst_ty, context.rs: subst_ty) -/

/-- `HashMap<Name, Ty>` collected from `zip`: a later duplicate key wins -/
def mappingsGet : List (String × Ty) → String → Option Ty
  | [], _ => none
  | (k, v) :: r, n =>
    match mappingsGet r n with
    | some t => some t
    | none => if k = n then some v else none

mutual
  /-- types.rs: Ty::subst_ty -/
  def substTy (m : List (String × Ty)) : Ty → Ty
    | .i64 => .i64
    | .decl n args =>
      match mappingsGet m n with
      | some t => t
      | none => .decl n (substTys m args)
  def substTys (m : List (String × Ty)) : Tys → Tys
    | .nil => .nil
    | .cons t r => .cons (substTy m t) (substTys m r)
end

/-- context.rs: TypingContext::subst_ty -/
def substCtx (m : List (String × Ty)) (c : Ctx) : Ctx :=
  c.map fun b => { b with ty := substTy m b.ty }

/-! ## type well-formedness and instantiation (types.rs) -/

/-- types.rs: create_instance, the part after `is_instance` (data) -/
def insertCtorInstances (m : List (String × Ty)) (tyArgs : Tys) :
    List String → SymbolTable → R SymbolTable
  | [], st => .ok st
  | base :: rest, st =>
    match st.ctorTemplates.get? base with
    | none => .error (.diag "T-002")
    | some tmpl =>
      insertCtorInstances m tyArgs rest
        { st with ctors := st.ctors.insert (instName base tyArgs) (substCtx m tmpl) }

/-- types.rs: create_instance, the part after `is_instance` (codata) -/
def insertDtorInstances (m : List (String × Ty)) (tyArgs : Tys) :
    List String → SymbolTable → R SymbolTable
  | [], st => .ok st
  | base :: rest, st =>
    match st.dtorTemplates.get? base with
    | none => .error (.diag "T-002")
    | some (tmpl, cont) =>
      insertDtorInstances m tyArgs rest
        { st with dtors := st.dtors.insert (instName base tyArgs) (substCtx m tmpl, substTy m cont) }

/-- types.rs: create_instance after `type_args.is_instance(..)?` -/
def createInstanceRest (instanceName : String) (tyArgs : Tys) (pol : Polarity)
    (params : List String) (xtors : List String) (st : SymbolTable) : R SymbolTable :=
  let mappings := params.zip tyArgs.toList
  match (match pol with
    | .data => insertCtorInstances mappings tyArgs xtors st
    | .codata => insertDtorInstances mappings tyArgs xtors st) with
  | .error e => .error e
  | .ok st' => .ok { st' with types := st'.types.insert instanceName (pol, tyArgs, xtors) }

mutual
  /-- types.rs: Ty::check (+ create_instance, TypeArgs::is_instance) -/
  def checkTy : Ty → SymbolTable → R SymbolTable
    | .i64, st => .ok st
    | .decl name args, st =>
      let instanceName := instName name args
      match st.types.get? instanceName with
      | some _ => .ok st
      | none =>
        match st.typeTemplates.get? name with
        | none => .error (.diag "T-002")
        | some (pol, params, xtors) =>
          -- TypeArgs::is_instance
          if tysLength args != params.length then .error (.diag "T-022")
          else
            match checkTys args st with
            | .error e => .error e
            | .ok st1 => createInstanceRest instanceName args pol params xtors st1
  /-- the loop of TypeArgs::is_instance -/
  def checkTys : Tys → SymbolTable → R SymbolTable
    | .nil, st => .ok st
    | .cons t r, st =>
      match checkTy t st with
      | .error e => .error e
      | .ok st1 => checkTys r st1
end

/-- types.rs: Ty::check_template -/
def checkTyTemplate (t : Ty) (st : SymbolTable) (typeParams : List String) : R Unit :=
  match t with
  | .i64 => .ok ()
  | .decl name _ =>
    match st.typeTemplates.get? name with
    | some _ => .ok ()
    | none => if typeParams.contains name then .ok () else .error (.diag "T-002")

/-- context.rs: TypingContext::check_template -/
def ctxCheckTemplate : Ctx → SymbolTable → List String → R Unit
  | [], _, _ => .ok ()
  | b :: r, st, ps =>
    match checkTyTemplate b.ty st ps with
    | .error e => .error e
    | .ok () => ctxCheckTemplate r st ps

/-- context.rs: TypingContext::check -/
def ctxCheck : Ctx → SymbolTable → R SymbolTable
  | [], st => .ok st
  | b :: r, st =>
    match checkTy b.ty st with
    | .error e => .error e
    | .ok st1 => ctxCheck r st1

/-- context.rs: TypingContext::no_dups (T-018 for a repeated variable, T-019 for a covariable) -/
def ctxNoDups : Ctx → List String → R Unit
  | [], _ => .ok ()
  | b :: r, seen =>
    if seen.contains b.var then
      (if b.chi == .prd then .error (.diag "T-018") else .error (.diag "T-019"))
    else ctxNoDups r (b.var :: seen)

/-- context.rs: NameContext::no_dups and TypeContext::no_dups (both report T-020) -/
def namesNoDups : List String → List String → R Unit
  | [], _ => .ok ()
  | b :: r, seen => if seen.contains b then .error (.diag "T-020") else namesNoDups r (b :: seen)

/-- context.rs: TypingContext::lookup_var -/
def lookupVarRev : List Binding → String → R Ty
  | [], _ => .error (.diag "T-004")
  | b :: r, x =>
    if b.var = x then (if b.chi == .cns then .error (.diag "T-007") else .ok b.ty)
    else lookupVarRev r x

def lookupVar (ctx : Ctx) (x : String) : R Ty := lookupVarRev ctx.reverse x

/-- context.rs: TypingContext::lookup_covar -/
def lookupCovarRev : List Binding → String → R Ty
  | [], _ => .error (.diag "T-005")
  | b :: r, x =>
    if b.var = x then (if b.chi == .prd then .error (.diag "T-008") else .ok b.ty)
    else lookupCovarRev r x

def lookupCovar (ctx : Ctx) (x : String) : R Ty := lookupCovarRev ctx.reverse x

/-- context.rs: NameContext::add_types -/
def addTypes (names : List String) (expected : Ctx) : R Ctx :=
  if names.length != expected.length then .error (.diag "T-013")
  else .ok ((names.zip expected).map fun (n, b) => { b with var := n })

/-- check.rs: check_equality -/
def checkEquality (st : SymbolTable) (expected got : Ty) : R SymbolTable :=
  match checkTy expected st with
  | .error e => .error e
  | .ok st1 =>
    match checkTy got st1 with
    | .error e => .error e
    | .ok st2 => if expected != got then .error (.diag "T-003") else .ok st2

/-- var.rs / check.rs: `if let Some(ty) = variable.ty { check_equality(.., &ty, &found_ty)?; }` -/
def checkAnnot (st : SymbolTable) (ty : Option Ty) (found : Ty) : R SymbolTable :=
  match ty with
  | some ty => checkEquality st ty found
  | none => .ok st

/-! ## `Vec::swap_remove`, `Iterator::position` -/

/-- `Vec::swap_remove(i)` for `i < len`: element `i` is replaced by the last element -/
def swapRemove {α : Type} (l : List α) (i : Nat) : List α :=
  match l.getLast? with
  | none => l
  | some last => l.dropLast.set i last

/-! ## terms -/

abbrev Checker := SymbolTable → Ctx → Ty → R (Term × SymbolTable)

/-- a clause together with the checking function of its body (`body = checkTerm src.body`; the loop
below only uses `src.pol`, `src.xtor`, `src.names` and `body`) -/
structure ClauseK where
  src : Clause
  body : Checker

/-- symbol_table.rs: lookup_ty_template_for_ctor / _dtor; the failure code is T-023 -/
def lookupTyTemplateForXtor (pol : Polarity) (st : SymbolTable) (xtor : String) (tyArgs : Tys) :
    R ((Ty × List String) × SymbolTable) :=
  match findTemplateForXtor pol st.typeTemplates xtor with
  | none => .error (.diag "T-023")
  | some (name, xtors) =>
    let ty := Ty.decl name tyArgs
    match checkTy ty st with
    | .error e => .error e
    | .ok st1 => .ok ((ty, xtors), st1)

/-- destructor.rs / case.rs: `match lookup_ty_for_xtor(..) { Ok(ty) => ty, Err(_) =>
lookup_ty_template_for_xtor(..)? }` -/
def resolveXtorTy (pol : Polarity) (st : SymbolTable) (xtor : String) (tyArgs : Tys) :
    R ((Ty × List String) × SymbolTable) :=
  match lookupTyForXtor pol st.types (instName xtor tyArgs) with
  | some r => .ok (r, st)
  | none => lookupTyTemplateForXtor pol st xtor tyArgs

/-- The loop `for xtor in expected_xtors { position / swap_remove / check clause }` shared by
case.rs: Case::check and new.rs: New::check.  `sigOf st fullName` is the lookup in `ctors` (together
with the type expected for the body, `expected` for a case) resp. `dtors`; `missing` is T-015 resp.
T-010; `checkRet` is true for `new`, where the destructor's return type is checked (and its instance
created on demand) before the binders are looked at.  Returns the checked clauses in declaration
order and the clauses left over. -/
def clauseLoop (sigOf : SymbolTable → String → Option (Ctx × Ty)) (missing : String)
    (checkRet : Bool) (tyArgs : Tys) (ctx : Ctx) :
    List String → List ClauseK → List Clause → SymbolTable →
      R (List Clause × List ClauseK × SymbolTable)
  | [], ks, acc, st => .ok (acc.reverse, ks, st)
  | xtor :: rest, ks, acc, st =>
    let fullName := instName xtor tyArgs
    match ks.findIdx? (fun k => k.src.xtor = xtor) with
    | none => .error (.diag missing)
    | some pos =>
      match ks[pos]? with
      | none => .error (.panic "swap_remove index out of bounds")  -- unreachable (findIdx?)
      | some k =>
        let ks' := swapRemove ks pos
        match sigOf st fullName with
        | none => .error (.diag "T-002")
        | some (sig, bodyTy) =>
          -- new.rs: `dtor_ret_ty.check(&Some(self.span), symbol_table)?`
          match (if checkRet then checkTy bodyTy st else .ok st) with
          | .error e => .error e
          | .ok st0 =>
            match namesNoDups k.src.names [] with
            | .error e => .error e
            | .ok () =>
              match addTypes k.src.names sig with
              | .error e => .error e
              | .ok ctxClause =>
                match k.body st0 (ctx ++ ctxClause) bodyTy with
                | .error e => .error e
                | .ok (body', st1) =>
                  clauseLoop sigOf missing checkRet tyArgs ctx rest ks'
                    (⟨k.src.pol, k.src.xtor, k.src.names, ctxClause, body'⟩ :: acc) st1

/-- check.rs: check_args, covariable case on an `XVar` argument -/
def checkCovarArg (st : SymbolTable) (ctx : Ctx) (x : String) (ty : Option Ty) (chi : Option Chi)
    (bindingTy : Ty) : R (Term × SymbolTable) :=
  if chi == some .prd then .error (.diag "T-008")
  else
    match lookupCovar ctx x with
    | .error e => .error e
    | .ok foundTy =>
      match checkAnnot st ty foundTy with
      | .error e => .error e
      | .ok st1 =>
        match checkEquality st1 bindingTy foundTy with
        | .error e => .error e
        | .ok st2 => .ok (.var x (some foundTy) (some .cns), st2)

mutual
  /-- terms/*.rs: impl Check for XVar, Lit, Op, IfC, PrintI64, Let, Call, Constructor, Destructor,
  Case, New, Label, Goto, Exit, Paren (terms/mod.rs: impl Check for Term dispatches) -/
  def checkTerm : Term → Checker
    -- var.rs
    | .var x ty chi => fun st ctx expected =>
      if chi == some .cns then .error (.diag "T-007")
      else
        match lookupVar ctx x with
        | .error e => .error e
        | .ok foundTy =>
          match checkAnnot st ty foundTy with
          | .error e => .error e
          | .ok st1 =>
            match checkEquality st1 expected foundTy with
            | .error e => .error e
            | .ok st2 => .ok (.var x (some expected) (some .prd), st2)
    -- literal.rs
    | .lit n => fun st _ expected =>
      match checkEquality st expected .i64 with
      | .error e => .error e
      | .ok st1 => .ok (.lit n, st1)
    -- op.rs
    | .op a o b => fun st ctx expected =>
      match checkEquality st .i64 expected with
      | .error e => .error e
      | .ok st1 =>
        match checkTerm a st1 ctx .i64 with
        | .error e => .error e
        | .ok (a', st2) =>
          match checkTerm b st2 ctx .i64 with
          | .error e => .error e
          | .ok (b', st3) => .ok (.op a' o b', st3)
    -- ifc.rs (snd = Some)
    | .ifc s a b t e _ => fun st ctx expected =>
      match checkTerm a st ctx .i64 with
      | .error e => .error e
      | .ok (a', st1) =>
        match checkTerm b st1 ctx .i64 with
        | .error e => .error e
        | .ok (b', st2) =>
          match checkTerm t st2 ctx expected with
          | .error e => .error e
          | .ok (t', st3) =>
            match checkTerm e st3 ctx expected with
            | .error e => .error e
            | .ok (e', st4) => .ok (.ifc s a' b' t' e' (some expected), st4)
    -- ifc.rs (snd = None)
    | .ifz s a t e _ => fun st ctx expected =>
      match checkTerm a st ctx .i64 with
      | .error e => .error e
      | .ok (a', st1) =>
        match checkTerm t st1 ctx expected with
        | .error e => .error e
        | .ok (t', st3) =>
          match checkTerm e st3 ctx expected with
          | .error e => .error e
          | .ok (e', st4) => .ok (.ifz s a' t' e' (some expected), st4)
    -- print.rs
    | .print nl a n _ => fun st ctx expected =>
      match checkTerm a st ctx .i64 with
      | .error e => .error e
      | .ok (a', st1) =>
        match checkTerm n st1 ctx expected with
        | .error e => .error e
        | .ok (n', st2) => .ok (.print nl a' n' (some expected), st2)
    -- let.rs
    | .letIn x varTy bound body _ => fun st ctx expected =>
      match checkTy varTy st with
      | .error e => .error e
      | .ok st1 =>
        match checkTerm bound st1 ctx varTy with
        | .error e => .error e
        | .ok (bound', st2) =>
          match checkTerm body st2 (ctx ++ [⟨x, .prd, varTy⟩]) expected with
          | .error e => .error e
          | .ok (body', st3) => .ok (.letIn x varTy bound' body' (some expected), st3)
    -- call.rs
    | .call name args _ => fun st ctx expected =>
      match st.defs.get? name with
      | none => .error (.diag "T-002")
      | some (types, retTy) =>
        match checkEquality st expected retTy with
        | .error e => .error e
        | .ok st1 =>
          if types.length != termsLength args then .error (.diag "T-006")
          else
            match checkArgs args types st1 ctx with
            | .error e => .error e
            | .ok (args', st2) => .ok (.call name args' (some expected), st2)
    -- constructor.rs
    | .ctor id args _ => fun st ctx expected =>
      match expected with
      | .i64 => .error (.diag "T-021")
      | .decl _ tyArgs =>
        let name := instName id tyArgs
        match st.ctors.get? name with
        | none => .error (.diag "T-002")
        | some types =>
          match lookupTyForXtor .data st.types name with
          | none => .error (.diag "T-002")
          | some (ty, _) =>
            if types.length != termsLength args then .error (.diag "T-006")
            else
              match checkArgs args types st ctx with
              | .error e => .error e
              | .ok (args', st1) =>
                match checkEquality st1 expected ty with
                | .error e => .error e
                | .ok st2 => .ok (.ctor id args' (some expected), st2)
    -- destructor.rs
    | .dtor scrut id tyArgs args _ => fun st ctx expected =>
      let dtorName := instName id tyArgs
      match resolveXtorTy .codata st id tyArgs with
      | .error e => .error e
      | .ok ((ty, _), st1) =>
        match checkTerm scrut st1 ctx ty with
        | .error e => .error e
        | .ok (scrut', st2) =>
          match st2.dtors.get? dtorName with
          | none => .error (.diag "T-002")
          | some (types, retTy) =>
            if types.length != termsLength args then .error (.diag "T-006")
            else
              match checkArgs args types st2 ctx with
              | .error e => .error e
              | .ok (args', st3) =>
                match checkEquality st3 expected retTy with
                | .error e => .error e
                | .ok st4 => .ok (.dtor scrut' id tyArgs args' (some expected), st4)
    -- case.rs
    | .case scrut tyArgs cs _ => fun st ctx expected =>
      match cs with
      | .nil => .error (.diag "T-009")
      | .cons _ xtor0 _ _ _ _ =>
        match resolveXtorTy .data st xtor0 tyArgs with
        | .error e => .error e
        | .ok ((ty, expectedCtors), st1) =>
          match checkTerm scrut st1 ctx ty with
          | .error e => .error e
          | .ok (scrut', st2) =>
            match clauseLoop (fun s n => (s.ctors.get? n).map fun sig => (sig, expected))
                "T-015" false tyArgs ctx expectedCtors (clauseCheckers cs) [] st2 with
            | .error e => .error e
            | .ok (newClauses, left, st3) =>
              if !left.isEmpty then .error (.diag "T-016")
              else .ok (.case scrut' tyArgs (Clauses.ofList newClauses) (some expected), st3)
    -- new.rs
    | .new cs _ => fun st ctx expected =>
      match expected with
      | .i64 => .error (.diag "T-011")
      | .decl name tyArgs =>
        let typeName := instName name tyArgs
        match st.types.get? typeName with
        | none => .error (.diag "T-002")
        | some (.data, _, _) => .error (.diag "T-012")
        | some (.codata, _, expectedDtors) =>
          match clauseLoop (fun s n => s.dtors.get? n) "T-010" true tyArgs ctx expectedDtors
              (clauseCheckers cs) [] st with
          | .error e => .error e
          | .ok (newClauses, left, st1) =>
            if !left.isEmpty then .error (.diag "T-017")
            else .ok (.new (Clauses.ofList newClauses) (some expected), st1)
    -- label.rs
    | .label a body _ => fun st ctx expected =>
      match checkTerm body st (ctx ++ [⟨a, .cns, expected⟩]) expected with
      | .error e => .error e
      | .ok (body', st1) => .ok (.label a body' (some expected), st1)
    -- goto.rs
    | .goto a arg _ => fun st ctx expected =>
      match lookupCovar ctx a with
      | .error e => .error e
      | .ok contTy =>
        -- the instance of the type of the covariable might not have been created yet
        match checkTy contTy st with
        | .error e => .error e
        | .ok st0 =>
          match checkTerm arg st0 ctx contTy with
          | .error e => .error e
          | .ok (arg', st1) => .ok (.goto a arg' (some expected), st1)
    -- exit.rs
    | .exit arg _ => fun st ctx expected =>
      match checkTerm arg st ctx .i64 with
      | .error e => .error e
      | .ok (arg', st1) => .ok (.exit arg' (some expected), st1)
    -- paren.rs
    | .paren inner => fun st ctx expected =>
      match checkTerm inner st ctx expected with
      | .error e => .error e
      | .ok (inner', st1) => .ok (.paren inner', st1)
  /-- check.rs: check_args, the loop over `args.zip(types)` (the length test is done by the callers
  above, directly before, as in `check_args`) -/
  def checkArgs : Terms → List Binding → SymbolTable → Ctx → R (Terms × SymbolTable)
    | .nil, _, st, _ => .ok (.nil, st)
    | .cons _ _, [], st, _ => .ok (.nil, st)   -- zip stops (unreachable: equal lengths)
    | .cons arg rest, binding :: bs, st, ctx =>
      match (if binding.chi == .cns then
          (match arg with
            | .var x ty chi => checkCovarArg st ctx x ty chi binding.ty
            | _ => .error (.diag "T-008"))
        else
          (match checkTy binding.ty st with
            | .error e => .error e
            | .ok st1 => checkTerm arg st1 ctx binding.ty) : R (Term × SymbolTable)) with
      | .error e => .error e
      | .ok (arg', st2) =>
        match checkArgs rest bs st2 ctx with
        | .error e => .error e
        | .ok (rest', st3) => .ok (.cons arg' rest', st3)
  /-- the clauses of a `case`/`new` with their bodies as checking functions -/
  def clauseCheckers : Clauses → List ClauseK
    | .nil => []
    | .cons p x ns c b r => ⟨⟨p, x, ns, c, b⟩, checkTerm b⟩ :: clauseCheckers r
end

/-! ## declarations and programs -/

/-- symbol_table.rs: impl BuildSymbolTable for CtorSig, iterated -/
def buildCtors : List CtorSig → SymbolTable → R SymbolTable
  | [], st => .ok st
  | c :: r, st =>
    if st.ctorTemplates.contains c.name then .error (.diag "T-001")
    else buildCtors r { st with ctorTemplates := st.ctorTemplates.insert c.name c.args }

/-- symbol_table.rs: impl BuildSymbolTable for DtorSig, iterated -/
def buildDtors : List DtorSig → SymbolTable → R SymbolTable
  | [], st => .ok st
  | d :: r, st =>
    if st.dtorTemplates.contains d.name then .error (.diag "T-001")
    else buildDtors r { st with dtorTemplates := st.dtorTemplates.insert d.name (d.args, d.contTy) }

/-- symbol_table.rs: impl BuildSymbolTable for Declaration / Def / Data / Codata -/
def buildDecl (d : Decl) (st : SymbolTable) : R SymbolTable :=
  match d with
  | .defn f =>
    if st.defs.contains f.name then .error (.diag "T-001")
    else .ok { st with defs := st.defs.insert f.name (f.ctx, f.retTy) }
  | .data d =>
    if st.typeTemplates.contains d.name then .error (.diag "T-001")
    else
      buildCtors d.ctors
        { st with typeTemplates :=
            st.typeTemplates.insert d.name (.data, d.typeParams, d.ctors.map (·.name)) }
  | .codata d =>
    if st.typeTemplates.contains d.name then .error (.diag "T-001")
    else
      buildDtors d.dtors
        { st with typeTemplates :=
            st.typeTemplates.insert d.name (.codata, d.typeParams, d.dtors.map (·.name)) }

/-- symbol_table.rs: impl BuildSymbolTable for Program -/
def buildDecls : List Decl → SymbolTable → R SymbolTable
  | [], st => .ok st
  | d :: r, st =>
    match buildDecl d st with
    | .error e => .error e
    | .ok st1 => buildDecls r st1

/-- inner loop of check_type_params -/
def paramsNotTemplates (templates : AList (Polarity × List String × List String)) :
    List String → R Unit
  | [] => .ok ()
  | p :: r => if templates.contains p then .error (.diag "T-001") else paramsNotTemplates templates r

/-- symbol_table.rs: SymbolTable::check_type_params (declaration order, see header) -/
def checkTypeParams (templates : AList (Polarity × List String × List String)) :
    AList (Polarity × List String × List String) → R Unit
  | [] => .ok ()
  | (_, (_, params, _)) :: r =>
    match namesNoDups params [] with
    | .error e => .error e
    | .ok () =>
      match paramsNotTemplates templates params with
      | .error e => .error e
      | .ok () => checkTypeParams templates r

/-- symbol_table.rs: build_symbol_table -/
def buildSymbolTable (p : Program) : R SymbolTable :=
  match buildDecls p.decls {} with
  | .error e => .error e
  | .ok st =>
    match checkTypeParams st.typeTemplates st.typeTemplates with
    | .error e => .error e
    | .ok () => .ok st

/-- data.rs: Data::check / CtorSig::check -/
def checkCtorSigs (st : SymbolTable) (typeParams : List String) : List CtorSig → R Unit
  | [] => .ok ()
  | c :: r =>
    match ctxCheckTemplate c.args st typeParams with
    | .error e => .error e
    | .ok () => checkCtorSigs st typeParams r

def checkDataDecl (d : Data) (st : SymbolTable) : R Unit := checkCtorSigs st d.typeParams d.ctors

/-- codata.rs: Codata::check / DtorSig::check -/
def checkDtorSigs (st : SymbolTable) (typeParams : List String) : List DtorSig → R Unit
  | [] => .ok ()
  | c :: r =>
    match ctxCheckTemplate c.args st typeParams with
    | .error e => .error e
    | .ok () =>
      match checkTyTemplate c.contTy st typeParams with
      | .error e => .error e
      | .ok () => checkDtorSigs st typeParams r

def checkCodataDecl (d : Codata) (st : SymbolTable) : R Unit := checkDtorSigs st d.typeParams d.dtors

/-- program.rs: check_with_table, first loop (type declarations are checked, defs collected) -/
def checkTypeDecls : List Decl → SymbolTable → R (List Def)
  | [], _ => .ok []
  | .data d :: r, st =>
    match checkDataDecl d st with
    | .error e => .error e
    | .ok () => checkTypeDecls r st
  | .codata d :: r, st =>
    match checkCodataDecl d st with
    | .error e => .error e
    | .ok () => checkTypeDecls r st
  | .defn f :: r, st =>
    match checkTypeDecls r st with
    | .error e => .error e
    | .ok fs => .ok (f :: fs)

/-- def.rs: Def::check -/
def checkDef (f : Def) (st : SymbolTable) : R (Def × SymbolTable) :=
  match ctxNoDups f.ctx [] with
  | .error e => .error e
  | .ok () =>
    match ctxCheck f.ctx st with
    | .error e => .error e
    | .ok st1 =>
      match checkTy f.retTy st1 with
      | .error e => .error e
      | .ok st2 =>
        match checkTerm f.body st2 f.ctx f.retTy with
        | .error e => .error e
        | .ok (body', st3) => .ok ({ f with body := body' }, st3)

/-- program.rs: check_with_table, `defs.into_iter().map(|def| def.check(..)).collect()` -/
def checkDefs : List Def → SymbolTable → R (List Def × SymbolTable)
  | [], st => .ok ([], st)
  | f :: r, st =>
    match checkDef f st with
    | .error e => .error e
    | .ok (f', st1) =>
      match checkDefs r st1 with
      | .error e => .error e
      | .ok (r', st2) => .ok (f' :: r', st2)

/-- program.rs: check_with_table, the `.map(|base_name| ..)` over the constructors of an instance -/
def collectCtors (st : SymbolTable) (tyArgs : Tys) : List String → R (List CtorSig)
  | [] => .ok []
  | base :: r =>
    match st.ctors.get? (instName base tyArgs) with
    | none => .error (.panic "check_with_table: Couldn't find constructor in symbol_table")
    | some args =>
      match collectCtors st tyArgs r with
      | .error e => .error e
      | .ok cs => .ok (⟨base, args⟩ :: cs)

def collectDtors (st : SymbolTable) (tyArgs : Tys) : List String → R (List DtorSig)
  | [] => .ok []
  | base :: r =>
    match st.dtors.get? (instName base tyArgs) with
    | none => .error (.panic "check_with_table: Couldn't find destructor in symbol_table")
    | some (args, cont) =>
      match collectDtors st tyArgs r with
      | .error e => .error e
      | .ok cs => .ok (⟨base, args, cont⟩ :: cs)

/-- program.rs: check_with_table, the loop over `symbol_table.types` -/
def collectTypes (st : SymbolTable) :
    AList (Polarity × Tys × List String) → R (List Data × List Codata)
  | [] => .ok ([], [])
  | (name, (.data, tyArgs, xtors)) :: r =>
    match collectCtors st tyArgs xtors with
    | .error e => .error e
    | .ok ctors =>
      match collectTypes st r with
      | .error e => .error e
      | .ok (ds, cs) => .ok (⟨name, [], ctors⟩ :: ds, cs)
  | (name, (.codata, tyArgs, xtors)) :: r =>
    match collectDtors st tyArgs xtors with
    | .error e => .error e
    | .ok dtors =>
      match collectTypes st r with
      | .error e => .error e
      | .ok (ds, cs) => .ok (ds, ⟨name, [], dtors⟩ :: cs)

/-- insertion sort by name (stands for "some HashMap order"; both sides are compared sorted) -/
def insertBy {α : Type} (key : α → String) (x : α) : List α → List α
  | [] => [x]
  | y :: r => if key x < key y then x :: y :: r else y :: insertBy key x r

def sortBy {α : Type} (key : α → String) : List α → List α
  | [] => []
  | x :: r => insertBy key x (sortBy key r)

/-- program.rs: Program::check_with_table -/
def checkWithTable (p : Program) (st : SymbolTable) : R CheckedProgram :=
  match checkTypeDecls p.decls st with
  | .error e => .error e
  | .ok defs =>
    match checkDefs defs st with
    | .error e => .error e
    | .ok (defs', st1) =>
      match collectTypes st1 st1.types with
      | .error e => .error e
      | .ok (ds, cs) => .ok ⟨sortBy (·.name) ds, sortBy (·.name) cs, defs'⟩

inductive Outcome where
  | ok (p : CheckedProgram)
  | diag (code : String)
  | panic (site : String)

def Outcome.isOk : Outcome → Bool
  | .ok _ => true
  | _ => false

/-- program.rs: Program::check -/
def checkProgramR (p : Program) : R CheckedProgram :=
  match buildSymbolTable p with
  | .error e => .error e
  | .ok st => checkWithTable p st

def checkProgram (p : Program) : Outcome :=
  match checkProgramR p with
  | .ok p' => .ok p'
  | .error (.diag c) => .diag c
  | .error (.panic s) => .panic s

/-- the run-time oracle: does the (model) checker accept? -/
def wtCheck (p : Program) : Bool := (checkProgram p).isOk

/-- driver entry: S0 dump text ↦ `OK <S1 dump>` | `DIAG T-0xx` | `PANIC site` | `ERR ..` -/
def runLineCheck (dumpS0 : String) : String :=
  match Sexp.parse dumpS0 with
  | none => "ERR sexp"
  | some sx =>
    match readProgram (dumpS0.length + 10) sx with
    | none => "ERR read"
    | some p =>
      match checkProgram p with
      | .ok p' => "OK " ++ p'.toSexp.render
      | .diag c => "DIAG " ++ c
      | .panic s => "PANIC " ++ s

end Scc.Fun.Check
