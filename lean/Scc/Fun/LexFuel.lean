/-
  Scc.Fun.LexFuel — one step of the lexer model, and the fuel of `lexLoop`.  `lexStep_sat` is the one
  inversion of `lexStep` (judgment `LexStep.Sat`): a step on a non-empty input consumes at least one
  character, and the token it delivers is a symbol, a number, a keyword, or a name token made of the identifier
  characters at the head of the input; what is to hold of a token is a parameter.  From the first half: the
  token stream does not depend on the fuel once it is at least the number of characters (`lexStream` passes
  exactly that), and the out-of-fuel branch `lexLoop 0 (_ :: _) = [.bad]` is never the reason for a
  `Token.bad`.
-/
import Scc.Fun.Lex

namespace Scc.Fun.Lex

/-- name tokens: the two kinds whose text the lexer takes from the input -/
def isName : Token → Bool
  | .lower _ | .upper _ => true
  | _ => false

/-- the result of a step: the remaining input is shorter than `n`, and a delivered token satisfies `P` -/
def LexStep.Sat (n : Nat) (P : Token → Prop) : LexStep → Prop
  | .tok t r => r.length < n ∧ P t
  | .skip r => r.length < n
  | .invalid => True

theorem length_dropWhile_le (p : Char → Bool) (l : List Char) : (l.dropWhile p).length ≤ l.length :=
  (List.dropWhile_sublist p).length_le

section
variable {P : Token → Prop} (hsym : ∀ t, isName t = false → P t)
include hsym

theorem afterCmp_sat (c : IfSort) (rest : List Char) : (afterCmp c rest).Sat (rest.length + 1) P := by
  unfold afterCmp
  have := length_dropWhile_le isWs rest
  split
  · rename_i r h; rw [h] at this; simp only [List.length_cons] at this
    exact ⟨by omega, hsym _ rfl⟩
  · exact ⟨Nat.lt_succ_self _, hsym _ rfl⟩

theorem afterZero_sat (rest : List Char) : (afterZero rest).Sat (rest.length + 1) P := by
  unfold afterZero
  have := length_dropWhile_le isWs rest
  split <;> refine ⟨?_, hsym _ rfl⟩ <;> first
    | exact Nat.lt_succ_self _
    | (rw [‹List.dropWhile isWs rest = _›] at this; simp only [List.length_cons] at this; omega)

end

theorem afterSlashSlash_le (rest : List Char) : (afterSlashSlash rest).length ≤ rest.length := by
  unfold afterSlashSlash
  split
  · split
    · exact length_dropWhile_le _ _
    · exact Nat.le_trans (length_dropWhile_le _ _)
        (Nat.le_trans (length_dropWhile_le _ _) (by simp))
  · split
    · exact length_dropWhile_le _ _
    · exact Nat.le_trans (length_dropWhile_le _ _) (length_dropWhile_le _ _)
  · exact Nat.le_refl _

theorem LexStep.Sat.mono {n m : Nat} {P : Token → Prop} {s : LexStep} (h : s.Sat n P) (hm : n ≤ m) :
    s.Sat m P := by
  cases s with
  | tok t r => exact ⟨Nat.lt_of_lt_of_le h.1 hm, h.2⟩
  | skip r => exact Nat.lt_of_lt_of_le h hm
  | invalid => exact trivial

theorem LexStep.Sat.ite {n : Nat} {P : Token → Prop} {c : Prop} [Decidable c] {a b : LexStep}
    (ha : c → a.Sat n P) (hb : b.Sat n P) : (if c then a else b).Sat n P := by
  split
  · exact ha ‹c›
  · exact hb

/-- One step on a non-empty input consumes at least one character, and the token it delivers is a symbol,
a number or a keyword (`isName t = false`), or a name token made of the identifier characters at the head of
the input.  Every fact about single tokens of the stream comes from this statement, with what is to hold
of a token as `P`. -/
theorem lexStep_sat {P : Token → Prop} (c : Char) (cs : List Char)
    (hsym : ∀ t, isName t = false → P t)
    (hlow : isLowerC c = true → kwOf (c :: cs.takeWhile isIdC) = none →
      P (.lower (c :: cs.takeWhile isIdC)))
    (hup : isUpperC c = true → P (.upper (c :: cs.takeWhile isIdC))) :
    (lexStep (c :: cs)).Sat (cs.length + 1) P := by
  have hws : (cs.dropWhile isWs).length < cs.length + 1 :=
    Nat.lt_succ_of_le (length_dropWhile_le isWs cs)
  have hid : (cs.dropWhile isIdC).length < cs.length + 1 :=
    Nat.lt_succ_of_le (length_dropWhile_le isIdC cs)
  have hdg : (cs.dropWhile isDigitC).length < cs.length + 1 :=
    Nat.lt_succ_of_le (length_dropWhile_le isDigitC cs)
  have hcs : cs.length < cs.length + 1 := Nat.lt_succ_self _
  have htl : ∀ d r, cs = d :: r → r.length < cs.length + 1 := by
    intro d r h; rw [h]; exact Nat.lt_succ_of_lt (Nat.lt_succ_self _)
  unfold lexStep
  dsimp only
  refine .ite (fun _ => hws) (.ite (fun hl => ?_) (.ite (fun hu => ⟨hid, hup hu⟩) ?_))
  · split
    · exact ⟨hid, hsym _ rfl⟩
    · exact ⟨hid, hlow hl ‹_›⟩
  -- the chain of tests on the first character: every branch returns `cs`, a `dropWhile` of it, or
  -- is one of the nested matches treated below
  repeat' (first
    | refine .ite (fun _ => ?_) ?_
    | exact trivial
    | exact ⟨hcs, hsym _ rfl⟩
    | exact ⟨hdg, hsym _ rfl⟩
    | exact afterZero_sat hsym _
    | exact afterCmp_sat hsym _ _)
  · split
    · exact Nat.lt_of_le_of_lt (afterSlashSlash_le _) (htl _ _ rfl)
    · exact ⟨hcs, hsym _ rfl⟩
  · split
    · rename_i r h
      have : r.length < (cs.dropWhile isWs).length := by rw [h]; simp only [List.length_cons]; omega
      exact ⟨Nat.lt_trans this hws, hsym _ rfl⟩
    · exact ⟨hcs, hsym _ rfl⟩
  all_goals
    split <;> first
      | exact trivial
      | exact ⟨hcs, hsym _ rfl⟩
      | exact ⟨htl _ _ rfl, hsym _ rfl⟩
      | exact afterCmp_sat hsym _ _
      | exact (afterCmp_sat hsym _ _).mono (Nat.le_succ _)

theorem lexStep_shorter (c : Char) (cs : List Char) :
    (lexStep (c :: cs)).Sat (cs.length + 1) fun _ => True :=
  lexStep_sat c cs (fun _ _ => trivial) (fun _ _ => trivial) fun _ => trivial

theorem lexLoop_fuel_indep : ∀ (f g : Nat) (cs : List Char), cs.length ≤ f → cs.length ≤ g →
    lexLoop f cs = lexLoop g cs := by
  intro f
  induction f with
  | zero =>
    intro g cs hf _
    cases cs with
    | nil => cases g <;> rfl
    | cons c r => simp at hf
  | succ f ih =>
    intro g cs hf hg
    cases cs with
    | nil => cases g <;> rfl
    | cons c r =>
      cases g with
      | zero => simp at hg
      | succ g =>
        have hs := lexStep_shorter c r
        simp only [List.length_cons] at hf hg
        unfold lexLoop
        cases h : lexStep (c :: r) with
        | tok t r' =>
          rw [h] at hs
          have : r'.length < r.length + 1 := hs.1
          simp only []
          rw [ih g r' (by omega) (by omega)]
        | skip r' =>
          rw [h] at hs
          have : r'.length < r.length + 1 := hs
          simp only []
          exact ih g r' (by omega) (by omega)
        | invalid => rfl

theorem lexLoop_eq_lexStream (f : Nat) (cs : List Char) (hf : cs.length ≤ f) :
    lexLoop f cs = lexStream cs :=
  lexLoop_fuel_indep f cs.length cs hf (Nat.le_refl _)

theorem lexStream_nil : lexStream [] = [] := rfl

/-- the fuel-free recursion equations of the token stream (with `lexStream_nil`): `lexStream` is the unfolding of `lexStep`
until the input is empty or invalid — no trace of the fuel is left -/
theorem lexStream_cons (c : Char) (cs : List Char) :
    lexStream (c :: cs) =
      match lexStep (c :: cs) with
      | .tok t r => t :: lexStream r
      | .skip r => lexStream r
      | .invalid => [.bad] := by
  have hs := lexStep_shorter c cs
  show lexLoop (cs.length + 1) (c :: cs) = _
  unfold lexLoop
  cases h : lexStep (c :: cs) with
  | tok t r =>
    rw [h] at hs
    have : r.length < cs.length + 1 := hs.1
    simp only []
    rw [lexLoop_eq_lexStream _ _ (by omega)]
  | skip r =>
    rw [h] at hs
    have : r.length < cs.length + 1 := hs
    simp only []
    exact lexLoop_eq_lexStream _ _ (by omega)
  | invalid => rfl

end Scc.Fun.Lex
