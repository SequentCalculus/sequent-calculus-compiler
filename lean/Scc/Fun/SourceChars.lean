/-
  Scc.Fun.SourceChars — the characters of a source text, without computing them.

  `Fun.Parse.parse mode src` is `parseChars mode src.toList`.  For a string LITERAL the kernel computes
  `String.toList` by decoding the UTF-8 bytes over arrays, in time quadratic in the length: on a text of a few
  hundred characters that is far more than lexing, parsing, checking and compiling it.  But a literal is
  `String.ofList` of its characters by `rfl` (the unifier reads the list off the literal), and
  `String.toList_ofList` is a theorem.

  So a kernel evaluation about a source text `SRC` is stated for EVERY string `s` with
  `s.toList = SRC.toList`:

      theorem foo (s : String) (h : s.toList = SRC.toList) : check s = true := by
        have hc := toList_of_literal rfl h        -- hc : s.toList = [the characters of SRC]
        simp only [check, Pipeline.frontEnd, Fun.Parse.parse, hc]
        decide +kernel                            -- a closed term in `parseChars` of an explicit list

  and the fact about the text itself is `foo SRC rfl`.  The variable is needed: about the closed term
  `check SRC` the kernel's conversion check between the statement and its unfolded form would compute
  `SRC.toList` after all.
-/
import Scc.Fun.Parse

namespace Scc

theorem toList_of_literal {s src : String} {cs : List Char} (hsrc : src = String.ofList cs)
    (h : s.toList = src.toList) : s.toList = cs := by
  rw [h, hsrc, String.toList_ofList]

end Scc
