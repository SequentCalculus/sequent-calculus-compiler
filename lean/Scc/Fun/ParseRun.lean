/-
  Scc.Fun.ParseRun — the judgment `Run` about one run of a parser function of the model (Scc.Fun.Parse)
  that returns the remaining input, with the rules by which the walk over the parser
  (Scc.Fun.ParseInRange) is made.  Its three clauses are the three facts about the parser: a panic implies
  the mode `panicOnOverflow` and an overflowing literal in the input (`Ov`), the out-of-fuel answer implies
  that the fuel was below the function's bound, and a result has the property the function promises.  (The
  list of declarations returns no remaining input; the same three clauses for it are `RunDs` in
  Scc.Fun.ParseInRange.)

  Fuel: a parser function called with fuel `F` on the input `ts` does not run out of fuel if
  `2 * ts.length + k ≤ F`, where `k` is a small constant per function (its rank: the length of the longest
  chain of calls below it that consume no token — `parseArgs → parseTerm → parseTerm1` has length 3).  The
  factor 2 pays for `parseTerm1 → "(" → parseTerm → parseTerm1`, which spends two units of fuel on one token.
  A call made after `c` tokens may therefore go to a function of rank up to `k + 2 * c - 1` (`Run.call`); in
  the walk this is a comparison of numerals, and the lengths come from the relation `After`.
-/
import Scc.Fun.Parse

namespace Scc.Fun.Parse
open Scc.Fun.Lex

def Ov (ts : List Token) : Prop := ∃ ds, Token.num ds ∈ ts ∧ i64Max < digitsToNat ds

theorem Ov.mono {r ts : List Token} (h : r ⊆ ts) : Ov r → Ov ts
  | ⟨ds, hm, ho⟩ => ⟨ds, h hm, ho⟩

/-- `r` is what is left of `ts` after at least `d` tokens -/
def After (d : Nat) (r ts : List Token) : Prop := ∃ pre, ts = pre ++ r ∧ d ≤ pre.length

theorem After.refl (ts : List Token) : After 0 ts ts := ⟨[], rfl, Nat.le_refl 0⟩

theorem After.cons {d : Nat} {r ts : List Token} (t : Token) (h : After d r ts) : After (d + 1) r (t :: ts) :=
  let ⟨pre, e, hd⟩ := h; ⟨t :: pre, by rw [e]; rfl, Nat.succ_le_succ hd⟩

theorem After.trans {d e : Nat} {a b c : List Token} (h1 : After d a b) (h2 : After e b c) :
    After (e + d) a c := by
  obtain ⟨p1, rfl, hd⟩ := h1
  obtain ⟨p2, rfl, he⟩ := h2
  exact ⟨p2 ++ p1, by simp, by simp; omega⟩

theorem After.tail {d : Nat} {t : Token} {r ts : List Token} (h : After d (t :: r) ts) : After (d + 1) r ts :=
  ((After.refl r).cons t).trans h

theorem After.le {d e : Nat} {r ts : List Token} (h : After d r ts) (hed : e ≤ d) : After e r ts :=
  let ⟨pre, e', hd⟩ := h; ⟨pre, e', Nat.le_trans hed hd⟩

theorem After.length {d : Nat} {r ts : List Token} (h : After d r ts) : r.length + d ≤ ts.length := by
  obtain ⟨pre, rfl, hd⟩ := h; simp; omega

theorem After.subset {d : Nat} {r ts : List Token} (h : After d r ts) : r ⊆ ts := by
  obtain ⟨pre, rfl, _⟩ := h; exact List.subset_append_right _ _

/-- What one run of a parser function on `ts` with `fuel` guarantees.  `k` is the rank of the function, `d`
the least number of tokens a successful run consumes, `Q` what holds of the result under the assumption `W`
(in the end: the name tokens of the whole input are well formed). -/
def Run {α : Type} (W : Prop) (mode : LiteralMode) (fuel k d : Nat) (ts : List Token) (Q : α → Prop) :
    Outcome (α × List Token) → Prop
  | .ok (a, r) => After d r ts ∧ (W → Q a)
  | .diag c => c = .fuel → fuel < 2 * ts.length + k
  | .panic _ => mode = .panicOnOverflow ∧ Ov ts

section rules
variable {α β : Type} {W : Prop} {mode : LiteralMode} {fuel k k1 c d d1 : Nat} {ts r : List Token}
  {Q : α → Prop} {Q1 : β → Prop}

theorem Run.ok {a : α} (h : After d r ts) (hq : W → Q a) : Run W mode fuel k d ts Q (.ok (a, r)) := ⟨h, hq⟩

/-- a syntax error is no panic and is not the out-of-fuel answer -/
theorem Run.fail (x : List Token) : Run W mode fuel k d ts Q (failAt x) := by
  unfold failAt; split <;> (intro h; cases h)

/-- the same in front of a continuation, as `expect` and `parseNum` leave it -/
theorem Run.failB {γ : Type} (x : List Token) {f : γ → Outcome (α × List Token)} :
    Run W mode fuel k d ts Q ((failAt x).bind f) := by
  unfold failAt; split <;> (dsimp only [Outcome.bind]; intro h; cases h)

theorem Run.zero : Run W mode 0 (k + 1) d ts Q (.diag .fuel) := fun _ => by omega

/-- a call, on what is left after `c` tokens, of a function of rank `k1` with the caller's fuel (made by the
functions that are not recursive themselves) -/
theorem Run.call' {o : Outcome (β × List Token)} {f : β × List Token → Outcome (α × List Token)}
    (hc : After c r ts) (hk : k1 ≤ k + 2 * c) (ho : Run W mode fuel k1 d1 r Q1 o)
    (hf : ∀ b r', After (c + d1) r' ts → (W → Q1 b) → Run W mode fuel k d ts Q (f (b, r'))) :
    Run W mode fuel k d ts Q (o.bind f) := by
  cases o with
  | ok x => exact hf x.1 x.2 (ho.1.trans hc) ho.2
  | diag e => intro he; have := ho he; have := hc.length; omega
  | panic s => exact ⟨ho.1, ho.2.mono hc.subset⟩

theorem Run.succ {o : Outcome (α × List Token)} (h : Run W mode fuel k d ts Q o) :
    Run W mode (fuel + 1) (k + 1) d ts Q o := by
  cases o with
  | ok x => exact h
  | diag e => intro he; have := h he; omega
  | panic s => exact h

/-- the same call with one unit of fuel less than the caller has: the recursive calls -/
theorem Run.call {o : Outcome (β × List Token)} {f : β × List Token → Outcome (α × List Token)}
    (hc : After c r ts) (hk : k1 + 1 ≤ k + 2 * c) (ho : Run W mode fuel k1 d1 r Q1 o)
    (hf : ∀ b r', After (c + d1) r' ts → (W → Q1 b) → Run W mode (fuel + 1) k d ts Q (f (b, r'))) :
    Run W mode (fuel + 1) k d ts Q (o.bind f) :=
  .call' hc hk ho.succ hf

theorem Run.tail {o : Outcome (α × List Token)} {Q' : α → Prop}
    (hc : After c r ts) (hk : k1 + 1 ≤ k + 2 * c) (hd : d ≤ c + d1) (ho : Run W mode fuel k1 d1 r Q' o)
    (hq : ∀ a, Q' a → Q a) : Run W mode (fuel + 1) k d ts Q o := by
  cases o with
  | ok x => exact ⟨(ho.1.trans hc).le hd, fun w => hq _ (ho.2 w)⟩
  | diag e => intro he; have := ho he; have := hc.length; omega
  | panic s => exact ⟨ho.1, ho.2.mono hc.subset⟩

theorem Run.expect {t : Token} {f : List Token → Outcome (α × List Token)} (hc : After c r ts)
    (hf : ∀ r', After (c + 1) r' ts → Run W mode fuel k d ts Q (f r')) :
    Run W mode fuel k d ts Q ((Parse.expect t r).bind f) := by
  unfold Parse.expect
  split
  · split
    · exact hf _ hc.tail
    · exact .failB _
  · exact .failB _

/-- the literal conversion: the one place where the parser can panic -/
theorem Run.num {neg : Bool} {ds : List Char} {f : Int → Outcome (α × List Token)} (hm : Token.num ds ∈ ts)
    (hf : ∀ i : Int, (-(i64Max : Int) ≤ i ∧ i ≤ (i64Max : Int)) → Run W mode fuel k d ts Q (f i)) :
    Run W mode fuel k d ts Q ((parseNum mode neg ds r).bind f) := by
  unfold parseNum
  split
  · exact .failB _
  · split
    · dsimp only
      split
      · exact hf _ (by cases neg <;> simp <;> omega)
      · cases mode
        · exact ⟨rfl, ds, hm, by omega⟩
        · intro h; cases h
    · exact .failB _

/-- an optional bracketed part, entered by its opening token: a successful run may consume nothing -/
theorem Run.opt {t : Token} {o : Outcome (α × List Token)} (ho : Run W mode fuel k 1 r Q o) (hk : k ≤ 2) :
    Run W mode fuel 0 0 (t :: r) Q o := by
  cases o with
  | ok x => exact ⟨(ho.1.trans ((After.refl r).cons t)).le (Nat.zero_le _), ho.2⟩
  | diag e => intro he; have := ho he; simp only [List.length_cons]; omega
  | panic s => exact ⟨ho.1, ho.2.mono (List.subset_cons_self _ _)⟩

end rules

end Scc.Fun.Parse
