/-
  Scc.Fun.SemTests — non-vacuity tests of the Fun reference machine (Scc/Fun/Sem.lean).
  The dumps are stage S1 of programs in /verif/gen/corpus/sem (harness output, verbatim); the
  expected lines were cross-checked against the natively run x86-64 code (see x86run.py), except
  `d01`, the witness of defect D1 (variable capture in fun2core, repaired in /repo by ce30c7b): before the
  repair the compiled code gave 2; the machine is right.
  `example … := by decide` where the kernel can reduce; `#guard` (compiled evaluation, adds no
  axioms) for the tests that go through the S-expression reader.
-/
import Scc.Fun.Sem

namespace Scc.Fun.SemTests
open Scc.Fun

/-! ### kernel-checked examples on directly constructed syntax -/

def v (x : String) : Term := .var x (some .i64) (some .prd)

/-- `def main(n: i64): i64 { let x: i64 = n * 2; println_i64(x); x + 1 }` -/
def tiny : CheckedProgram :=
  { dataTypes := [], codataTypes := [],
    defs := [⟨"main", [⟨"n", .prd, .i64⟩], .i64,
      .letIn "x" .i64 (.op (v "n") .prod (.lit 2))
        (.print true (v "x") (.op (v "x") .sum (.lit 1)) (some .i64)) (some .i64)⟩] }

/-- `def main(a: i64, b: i64): i64 { a / b }` -/
def divProg : CheckedProgram :=
  { dataTypes := [], codataTypes := [],
    defs := [⟨"main", [⟨"a", .prd, .i64⟩, ⟨"b", .prd, .i64⟩], .i64, .op (v "a") .div (v "b")⟩] }

/-- `def main(): i64 { label a { 1 + (goto a (exit 7)) } }` -/
def exitProg : CheckedProgram :=
  { dataTypes := [], codataTypes := [],
    defs := [⟨"main", [], .i64,
      .label "a" (.op (.lit 1) .sum (.paren (.goto "a" (.exit (.lit 7) (some .i64)) (some .i64)))) (some .i64)⟩] }

def isDone (b : Behaviour) (out : List (Bool × Int)) (r : Int) : Bool :=
  b.out.map (fun (nl, w) => (nl, w.toInt)) == out &&
  match b.res with | .done w => w.toInt == r | _ => false

def isStuck (b : Behaviour) (why : String) : Bool :=
  match b.res with | .stuck w => w.toString == why | _ => false

example : isDone (run tiny [21#64] 100) [(true, 42)] 43 = true := by decide
example : isDone (run tiny [(BitVec.intMin 64)] 100) [(true, 0)] 1 = true := by decide  -- wraps
example : Sequenced tiny = true := by decide
example : isDone (run divProg [BitVec.ofInt 64 (-7), 2#64] 100) [] (-3) = true := by decide
example : isStuck (run divProg [5#64, 0#64] 100) "divByZero" = true := by decide
example : isStuck (run divProg [BitVec.intMin 64, BitVec.ofInt 64 (-1)] 100) "overflow" = true := by decide
example : isStuck (run divProg [5#64] 100) "arity(main)" = true := by decide
example : isDone (run exitProg [] 100) [] 7 = true := by decide
example : (match (run tiny [21#64] 3).res with | .outOfFuel => true | _ => false) = true := by decide

/-! ### tests through the reader (`runLine`) -/

/-- lexical scoping (D1 witness program): f(100,[1]) = 101, where the compiled code gave 2 before ce30c7b (d01_capture_let_case.sc, args `100`) -/
def d01_capture_let_case : String :=
  "(checked (datas (data \"List[i64]\" (tparams) (ctor \"Nil\" (ctx)) (ctor \"Cons\" (ctx (b \"x\" prd i64) (b \"xs\" prd (ty \"List\" i64)))))) (codatas) (defs (def \"f\" (ctx (b \"x\" prd i64) (b \"l\" prd (ty \"List\" i64))) i64 (let \"y\" i64 (case (var \"l\" (ty \"List\" i64) prd) (tyargs i64) (clauses (clause data \"Nil\" (names) (ctx) (lit 0)) (clause data \"Cons\" (names \"x\" \"xs\") (ctx (b \"x\" prd i64) (b \"xs\" prd (ty \"List\" i64))) (var \"x\" i64 prd))) i64) (op + (var \"y\" i64 prd) (var \"x\" i64 prd)) i64)) (def \"main\" (ctx (b \"n\" prd i64)) i64 (let \"r\" i64 (call \"f\" (args (var \"n\" i64 prd) (ctor \"Cons\" (args (lit 1) (ctor \"Nil\" (args) (ty \"List\" i64))) (ty \"List\" i64))) i64) (print nl (var \"r\" i64 prd) (var \"r\" i64 prd) i64) i64))))"
#guard runLine d01_capture_let_case "100" 100000 == "OK out=[1:101] res=done:101"
#guard sequencedLine d01_capture_let_case == "OK true"

/-- a continuation escaping in a closure is resumed after its label returned (s28_reentrant_continuation.sc, args `7`) -/
def s28_reentrant_continuation : String :=
  "(checked (datas (data \"P\" (tparams) (ctor \"MkP\" (ctx (b \"v\" prd i64) (b \"f\" prd (ty \"Fun\" i64 i64)))))) (codatas (codata \"Fun[i64, i64]\" (tparams) (dtor \"apply\" (ctx (b \"x\" prd i64)) i64))) (defs (def \"main\" (ctx (b \"n\" prd i64)) i64 (let \"p\" (ty \"P\") (label \"k\" (ctor \"MkP\" (args (lit 0) (new (clauses (clause codata \"apply\" (names \"x\") (ctx (b \"x\" prd i64)) (goto \"k\" (ctor \"MkP\" (args (var \"x\" i64 prd) (new (clauses (clause codata \"apply\" (names \"y\") (ctx (b \"y\" prd i64)) (op + (var \"y\" i64 prd) (lit 1)))) (ty \"Fun\" i64 i64))) (ty \"P\")) i64))) (ty \"Fun\" i64 i64))) (ty \"P\")) (ty \"P\")) (case (var \"p\" (ty \"P\") prd) (tyargs) (clauses (clause data \"MkP\" (names \"v\" \"f\") (ctx (b \"v\" prd i64) (b \"f\" prd (ty \"Fun\" i64 i64))) (print nl (var \"v\" i64 prd) (ifc eq (var \"v\" i64 prd) none (dtor (var \"f\" (ty \"Fun\" i64 i64) prd) \"apply\" (tyargs i64 i64) (args (var \"n\" i64 prd)) i64) (let \"w\" i64 (dtor (var \"f\" (ty \"Fun\" i64 i64) prd) \"apply\" (tyargs i64 i64) (args (var \"v\" i64 prd)) i64) (print nl (var \"w\" i64 prd) (var \"w\" i64 prd) i64) i64) i64) i64))) i64) i64))))"
#guard runLine s28_reentrant_continuation "7" 100000 == "OK out=[1:0,1:7,1:8] res=done:8"
#guard sequencedLine s28_reentrant_continuation == "OK true"

/-- method bodies run at every invocation (s08_lazy_pair_effects.sc, args ``) -/
def s08_lazy_pair_effects : String :=
  "(checked (datas) (codatas (codata \"LazyPair[i64, i64]\" (tparams) (dtor \"fst\" (ctx) i64) (dtor \"snd\" (ctx) i64))) (defs (def \"use\" (ctx (b \"p\" prd (ty \"LazyPair\" i64 i64))) i64 (let \"a\" i64 (dtor (var \"p\" (ty \"LazyPair\" i64 i64) prd) \"fst\" (tyargs i64 i64) (args) i64) (let \"b\" i64 (dtor (var \"p\" (ty \"LazyPair\" i64 i64) prd) \"fst\" (tyargs i64 i64) (args) i64) (op + (var \"a\" i64 prd) (var \"b\" i64 prd)) i64) i64)) (def \"main\" (ctx) i64 (let \"p\" (ty \"LazyPair\" i64 i64) (new (clauses (clause codata \"fst\" (names) (ctx) (print nonl (lit 1) (lit 10) i64)) (clause codata \"snd\" (names) (ctx) (print nonl (lit 2) (lit 20) i64))) (ty \"LazyPair\" i64 i64)) (print nl (lit 0) (let \"r\" i64 (call \"use\" (args (var \"p\" (ty \"LazyPair\" i64 i64) prd)) i64) (print nl (var \"r\" i64 prd) (var \"r\" i64 prd) i64) i64) i64) i64))))"
#guard runLine s08_lazy_pair_effects "" 100000 == "OK out=[1:0,0:1,0:1,1:20] res=done:20"
#guard sequencedLine s08_lazy_pair_effects == "OK true"

/-- by name: the codata-typed let of a call re-runs the call per destructor; unused thunk never runs (n03_thunk_rerun.sc, args ``) -/
def n03_thunk_rerun : String :=
  "(checked (datas) (codatas (codata \"Fun[i64, i64]\" (tparams) (dtor \"apply\" (ctx (b \"x\" prd i64)) i64))) (defs (def \"mk\" (ctx (b \"n\" prd i64)) (ty \"Fun\" i64 i64) (print nonl (var \"n\" i64 prd) (new (clauses (clause codata \"apply\" (names \"x\") (ctx (b \"x\" prd i64)) (op + (var \"x\" i64 prd) (var \"n\" i64 prd)))) (ty \"Fun\" i64 i64)) (ty \"Fun\" i64 i64))) (def \"main\" (ctx) i64 (let \"f\" (ty \"Fun\" i64 i64) (call \"mk\" (args (lit 7)) (ty \"Fun\" i64 i64)) (print nl (lit 0) (let \"a\" i64 (dtor (var \"f\" (ty \"Fun\" i64 i64) prd) \"apply\" (tyargs i64 i64) (args (lit 1)) i64) (let \"b\" i64 (dtor (var \"f\" (ty \"Fun\" i64 i64) prd) \"apply\" (tyargs i64 i64) (args (lit 2)) i64) (print nl (op + (var \"a\" i64 prd) (var \"b\" i64 prd)) (let \"g\" (ty \"Fun\" i64 i64) (call \"mk\" (args (lit 8)) (ty \"Fun\" i64 i64)) (op + (var \"a\" i64 prd) (var \"b\" i64 prd)) i64) i64) i64) i64) i64) i64))))"
#guard runLine n03_thunk_rerun "" 100000 == "OK out=[1:0,0:7,0:7,1:17] res=done:17"
#guard sequencedLine n03_thunk_rerun == "OK false"

/-- a suspended label captures the destructor of each invocation (n05_thunk_label.sc, args ``) -/
def n05_thunk_label : String :=
  "(checked (datas) (codatas (codata \"Fun[i64, i64]\" (tparams) (dtor \"apply\" (ctx (b \"x\" prd i64)) i64))) (defs (def \"main\" (ctx) i64 (let \"f\" (ty \"Fun\" i64 i64) (label \"a\" (print nonl (lit 1) (goto \"a\" (new (clauses (clause codata \"apply\" (names \"x\") (ctx (b \"x\" prd i64)) (op * (var \"x\" i64 prd) (lit 2)))) (ty \"Fun\" i64 i64)) (ty \"Fun\" i64 i64)) (ty \"Fun\" i64 i64)) (ty \"Fun\" i64 i64)) (let \"a\" i64 (dtor (var \"f\" (ty \"Fun\" i64 i64) prd) \"apply\" (tyargs i64 i64) (args (lit 10)) i64) (let \"b\" i64 (dtor (var \"f\" (ty \"Fun\" i64 i64) prd) \"apply\" (tyargs i64 i64) (args (var \"a\" i64 prd)) i64) (print nl (var \"b\" i64 prd) (var \"b\" i64 prd) i64) i64) i64) i64))))"
#guard runLine n05_thunk_label "" 100000 == "OK out=[0:1,0:1,1:40] res=done:40"
#guard sequencedLine n05_thunk_label == "OK false"

/-- truncating division (s03_divrem_neg.sc, args `-7,2`) -/
def s03_divrem_neg : String :=
  "(checked (datas) (codatas) (defs (def \"main\" (ctx (b \"a\" prd i64) (b \"b\" prd i64)) i64 (let \"q\" i64 (op / (var \"a\" i64 prd) (var \"b\" i64 prd)) (let \"r\" i64 (op % (var \"a\" i64 prd) (var \"b\" i64 prd)) (print nonl (var \"q\" i64 prd) (print nonl (var \"r\" i64 prd) (print nl (op + (paren (op * (var \"q\" i64 prd) (var \"b\" i64 prd))) (var \"r\" i64 prd)) (let \"q2\" i64 (op / (var \"a\" i64 prd) (paren (op - (lit 0) (var \"b\" i64 prd)))) (let \"r2\" i64 (op % (var \"a\" i64 prd) (paren (op - (lit 0) (var \"b\" i64 prd)))) (print nonl (var \"q2\" i64 prd) (print nl (var \"r2\" i64 prd) (let \"q3\" i64 (op / (paren (op - (lit 0) (var \"a\" i64 prd))) (paren (op - (lit 0) (var \"b\" i64 prd)))) (let \"r3\" i64 (op % (paren (op - (lit 0) (var \"a\" i64 prd))) (paren (op - (lit 0) (var \"b\" i64 prd)))) (print nonl (var \"q3\" i64 prd) (print nl (var \"r3\" i64 prd) (op + (var \"q\" i64 prd) (var \"r\" i64 prd)) i64) i64) i64) i64) i64) i64) i64) i64) i64) i64) i64) i64) i64))))"
#guard runLine s03_divrem_neg "-7,2" 100000 == "OK out=[0:-3,0:-1,1:-7,0:3,1:-1,0:-3,1:1] res=done:-4"
#guard sequencedLine s03_divrem_neg == "OK true"

/-- exit discards the stack; result 300 (s13_exit_in_let_and_closure.sc, args `0`) -/
def s13_exit_in_let_and_closure : String :=
  "(checked (datas) (codatas (codata \"Fun[i64, i64]\" (tparams) (dtor \"apply\" (ctx (b \"x\" prd i64)) i64))) (defs (def \"call\" (ctx (b \"f\" prd (ty \"Fun\" i64 i64)) (b \"v\" prd i64)) i64 (let \"r\" i64 (dtor (var \"f\" (ty \"Fun\" i64 i64) prd) \"apply\" (tyargs i64 i64) (args (var \"v\" i64 prd)) i64) (print nl (var \"r\" i64 prd) (op + (var \"r\" i64 prd) (lit 1)) i64) i64)) (def \"main\" (ctx (b \"n\" prd i64)) i64 (let \"a\" i64 (call \"call\" (args (new (clauses (clause codata \"apply\" (names \"x\") (ctx (b \"x\" prd i64)) (op + (var \"x\" i64 prd) (lit 5)))) (ty \"Fun\" i64 i64)) (lit 1)) i64) (let \"b\" i64 (call \"call\" (args (new (clauses (clause codata \"apply\" (names \"x\") (ctx (b \"x\" prd i64)) (ifc eq (var \"x\" i64 prd) (var \"n\" i64 prd) (print nonl (var \"a\" i64 prd) (exit (lit 300) i64) i64) (var \"x\" i64 prd) i64))) (ty \"Fun\" i64 i64)) (lit 0)) i64) (print nl (var \"b\" i64 prd) (var \"b\" i64 prd) i64) i64) i64))))"
#guard runLine s13_exit_in_let_and_closure "0" 100000 == "OK out=[1:6,0:7] res=done:300"
#guard sequencedLine s13_exit_in_let_and_closure == "OK true"

/-- goto out of nested binders (s10_goto_nested_binders.sc, args `5`) -/
def s10_goto_nested_binders : String :=
  "(checked (datas (data \"List[i64]\" (tparams) (ctor \"Nil\" (ctx)) (ctor \"Cons\" (ctx (b \"x\" prd i64) (b \"xs\" prd (ty \"List\" i64)))))) (codatas) (defs (def \"main\" (ctx (b \"n\" prd i64)) i64 (let \"base\" i64 (op * (var \"n\" i64 prd) (lit 10)) (let \"r\" i64 (label \"out\" (let \"x\" i64 (op + (var \"n\" i64 prd) (lit 1)) (let \"l\" (ty \"List\" i64) (ctor \"Cons\" (args (var \"x\" i64 prd) (ctor \"Cons\" (args (var \"base\" i64 prd) (ctor \"Nil\" (args) (ty \"List\" i64))) (ty \"List\" i64))) (ty \"List\" i64)) (case (var \"l\" (ty \"List\" i64) prd) (tyargs i64) (clauses (clause data \"Nil\" (names) (ctx) (lit 0)) (clause data \"Cons\" (names \"y\" \"ys\") (ctx (b \"y\" prd i64) (b \"ys\" prd (ty \"List\" i64))) (let \"z\" i64 (op * (var \"y\" i64 prd) (lit 2)) (case (var \"ys\" (ty \"List\" i64) prd) (tyargs i64) (clauses (clause data \"Nil\" (names) (ctx) (lit 1)) (clause data \"Cons\" (names \"w\" \"ws\") (ctx (b \"w\" prd i64) (b \"ws\" prd (ty \"List\" i64))) (let \"base\" i64 (lit 7) (goto \"out\" (op + (paren (op + (var \"z\" i64 prd) (var \"w\" i64 prd))) (var \"base\" i64 prd)) i64) i64))) i64) i64))) i64) i64) i64) i64) (print nl (var \"r\" i64 prd) (print nl (var \"base\" i64 prd) (op + (var \"r\" i64 prd) (var \"base\" i64 prd)) i64) i64) i64) i64))))"
#guard runLine s10_goto_nested_binders "5" 100000 == "OK out=[1:69,1:50] res=done:119"
#guard sequencedLine s10_goto_nested_binders == "OK true"

#guard runLine s10_goto_nested_binders "5" 10 == "OK out=[] res=outOfFuel"
#guard runLine s10_goto_nested_binders "" 10 == "OK out=[] res=stuck:arity(main)"
#guard runLine s10_goto_nested_binders "x" 10 == "ERR args"
#guard runLine "(checked" "" 10 == "ERR sexp"
#guard runLine s03_divrem_neg "1,0" 1000 == "OK out=[] res=stuck:divByZero"
#guard runLine s03_divrem_neg "-9223372036854775808,-1" 1000 == "OK out=[] res=stuck:overflow"

end Scc.Fun.SemTests
