/-
  Scc.Fun.SafetyRun — type safety of whole runs of the Fun machine: from a well-typed state the
  run never ends in a stuck state other than the two arithmetic faults (`runFrom_safe`), and the initial
  state of a program whose `main` takes integer parameters and returns an integer is well-typed
  (`initState_typed`).
-/
import Scc.Fun.SafetyStep

namespace Scc.Fun.Safety

/-- the arithmetic faults: the only ways a checked program gets stuck -/
def ArithFault : Why → Prop
  | .divByZero => True
  | .overflow => True
  | _ => False

theorem ArithFault.iff {w : Why} : ArithFault w ↔ w = .divByZero ∨ w = .overflow := by
  cases w <;> simp [ArithFault]

theorem step_preserves {p : Program} {p' : CheckedProgram} (W : AWT p p') {s s' : State}
    {o : Option (Bool × Word)} (hs : ST p s) (h : step p' s = .next s' o) : ST p s' := by
  have := step_safe W hs
  rw [h] at this
  cases this with
  | next h' => exact h'

theorem step_progress {p : Program} {p' : CheckedProgram} (W : AWT p p') {s : State}
    (hs : ST p s) {w : Why} (h : step p' s = .stuck w) : ArithFault w := by
  have := step_safe W hs
  rw [h] at this
  cases this <;> trivial

theorem runFrom_safe {p : Program} {p' : CheckedProgram} (W : AWT p p') :
    ∀ (fuel : Nat) (s : State) (acc : List (Bool × Word)), ST p s →
    ∀ w, (runFrom p' fuel s acc).res = .stuck w → ArithFault w
  | 0, _, _, _, w, h => by simp [runFrom] at h
  | fuel + 1, s, acc, hs, w, h => by
    simp only [runFrom] at h
    have hsafe := step_safe W hs
    cases hst : step p' s with
    | next s' o =>
      rw [hst] at hsafe h
      cases hsafe with
      | next h' =>
        cases o with
        | none => exact runFrom_safe W fuel s' acc h' w h
        | some e => exact runFrom_safe W fuel s' (e :: acc) h' w h
    | done v => rw [hst] at h; simp at h
    | stuck w' =>
      rw [hst] at h
      simp only [Result.stuck.injEq] at h
      subst h
      exact step_progress W hs hst

theorem vts_ints {p : Program} : ∀ (args : List Word) (bs : Ctx),
    (∀ b ∈ bs, b.chi = .prd ∧ b.ty = .i64) → args.length = bs.length →
    VTs p (args.map .int) bs
  | [], [], _, _ => .nil
  | [], _ :: _, _, h => by simp at h
  | _ :: _, [], _, h => by simp at h
  | a :: as, b :: bs, hb, h => by
    obtain ⟨h1, h2⟩ := hb b (by simp)
    refine .cons (.prd h1 (h2 ▸ .int)) (vts_ints as bs (fun x hx => hb x (by simp [hx])) ?_)
    simpa using h

/-- the initial state is well-typed: `main` is a definition whose parameters are integer producers
and whose result is an integer, and there is one argument per parameter -/
theorem initState_typed {p : Program} {p' : CheckedProgram} (W : AWT p p') {dm : Def}
    (hfind : findDef p' "main" = some dm) (hsig : ∀ b ∈ dm.ctx, b.chi = .prd ∧ b.ty = .i64)
    (hret : dm.retTy = .i64) (args : List Word) (hlen : args.length = dm.ctx.length) :
    ∃ s, initState p' args = .ok s ∧ ST p s := by
  have hmem : dm ∈ p'.defs ∧ dm.name = "main" := by
    unfold findDef at hfind
    exact ⟨List.mem_of_find?_eq_some hfind, by simpa using List.find?_some hfind⟩
  obtain ⟨d, hd, hname⟩ := W.defs_back dm hmem.1
  obtain ⟨d', hfd, hctx, hretd, hbody⟩ := W.defs d hd
  rw [hname, hmem.2, hfind] at hfd
  cases hfd
  obtain ⟨ρ, h1, h2⟩ := bindAll_typed (p := p) (dm.ctx.map (·.var)) (args.map .int) dm.ctx [] []
    (vts_ints args dm.ctx hsig hlen) (by simp) .nil
  rw [bindNames_self] at h2
  refine ⟨.eval dm.body ρ [], by simp [initState, hfind, h1], ?_⟩
  rw [← hctx] at hbody
  refine .eval dm.ctx d.retTy h2 hbody ?_
  rw [← hretd, hret]
  exact .nil

end Scc.Fun.Safety
