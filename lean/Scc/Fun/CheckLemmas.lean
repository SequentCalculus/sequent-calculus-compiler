/-
  Scc.Fun.CheckLemmas — the name conditions of the checker model `Scc.Fun.Check` (`nameOk`, `tyNamesOk`,
  `tysNamesOk`: names are identifiers — no `[`, `]`, `,`; not the keyword `i64`) and, under them, the injectivity
  of printed type names (`printTyC_inj`, `instName_inj`).
-/
import Scc.Fun.Check

namespace Scc.Fun.Check

def isDelim (c : Char) : Bool := c == '[' || c == ']' || c == ','

/-- a name as the lexer produces it (`[a-zA-Z][a-zA-Z0-9_]*`) in particular satisfies this:
no bracket, comma or space, and it is not the keyword `i64` -/
def nameOk (s : String) : Bool :=
  s.toList.all (fun c => !(isDelim c || c == ' ')) && s.toList != ['i', '6', '4']

mutual
  def tyNamesOk : Ty → Bool
    | .i64 => true
    | .decl n args => nameOk n && tysNamesOk args
  def tysNamesOk : Tys → Bool
    | .nil => true
    | .cons t r => tyNamesOk t && tysNamesOk r
end

theorem nameOk_noDelim {s : String} (h : nameOk s = true) : ∀ c ∈ s.toList, isDelim c = false := by
  intro c hc
  simp only [nameOk, Bool.and_eq_true, List.all_eq_true] at h
  have := h.1 c hc
  simp only [Bool.not_eq_true', Bool.or_eq_false_iff] at this
  exact this.1

theorem nameOk_ne_i64 {s : String} (h : nameOk s = true) : s.toList ≠ ['i', '6', '4'] := by
  simp only [nameOk, Bool.and_eq_true] at h
  simpa using h.2

def StartsDelim (r : List Char) : Prop := r = [] ∨ ∃ c cs, r = c :: cs ∧ isDelim c = true

/-- "empty or starts with `,` or `]`": what can follow a printed type -/
def StartsFollow (r : List Char) : Prop := r = [] ∨ ∃ c cs, r = c :: cs ∧ (c = ',' ∨ c = ']')

theorem StartsFollow.startsDelim {r : List Char} (h : StartsFollow r) : StartsDelim r := by
  rcases h with h | ⟨c, cs, h, hc⟩
  · exact .inl h
  · refine .inr ⟨c, cs, h, ?_⟩
    rcases hc with rfl | rfl <;> decide

/-- splitting `name ++ rest` at the first delimiter is unique -/
theorem name_split_unique : ∀ (n1 n2 r1 r2 : List Char),
    (∀ c ∈ n1, isDelim c = false) → (∀ c ∈ n2, isDelim c = false) →
    StartsDelim r1 → StartsDelim r2 → n1 ++ r1 = n2 ++ r2 → n1 = n2 ∧ r1 = r2
  | [], [], _, _, _, _, _, _, h => ⟨rfl, by simpa using h⟩
  | [], c :: n2, r1, r2, _, h2, s1, _, h => by
    exfalso
    rcases s1 with rfl | ⟨d, ds, rfl, hd⟩
    · simp at h
    · simp only [List.nil_append, List.cons_append, List.cons.injEq] at h
      have := h2 c (by simp)
      rw [← h.1] at this
      simp [this] at hd
  | c :: n1, [], r1, r2, h1, _, _, s2, h => by
    exfalso
    rcases s2 with rfl | ⟨d, ds, rfl, hd⟩
    · simp at h
    · simp only [List.nil_append, List.cons_append, List.cons.injEq] at h
      have := h1 c (by simp)
      rw [h.1] at this
      simp [this] at hd
  | c :: n1, d :: n2, r1, r2, h1, h2, s1, s2, h => by
    simp only [List.cons_append, List.cons.injEq] at h
    have ih := name_split_unique n1 n2 r1 r2 (fun x hx => h1 x (by simp [hx]))
      (fun x hx => h2 x (by simp [hx])) s1 s2 h.2
    exact ⟨by rw [h.1, ih.1], ih.2⟩

theorem printTysTailC_startsFollow (ts : Tys) (r : List Char) :
    StartsFollow (printTysTailC ts ++ r) := by
  cases ts with
  | nil => exact .inr ⟨']', r, by simp [printTysTailC], .inr rfl⟩
  | cons t rest => exact .inr ⟨',', ' ' :: (printTyC t ++ printTysTailC rest) ++ r, by simp [printTysTailC], .inl rfl⟩

theorem printTyArgsC_startsDelim (ts : Tys) (r : List Char) (hr : StartsFollow r) :
    StartsDelim (printTyArgsC ts ++ r) := by
  cases ts with
  | nil => simpa [printTyArgsC] using hr.startsDelim
  | cons t rest => exact .inr ⟨'[', (printTyC t ++ printTysTailC rest) ++ r, by simp [printTyArgsC], by decide⟩

private theorem i64_noDelim : ∀ c ∈ ['i', '6', '4'], isDelim c = false := by decide

mutual
  /-- printing is injective, even followed by arbitrary continuations that start with `,` / `]` -/
  theorem printTyC_inj_aux : ∀ (t u : Ty) (r1 r2 : List Char), tyNamesOk t = true →
      tyNamesOk u = true → StartsFollow r1 → StartsFollow r2 →
      printTyC t ++ r1 = printTyC u ++ r2 → t = u ∧ r1 = r2
    | .i64, .i64, r1, r2, _, _, _, _, h => by
      simp only [printTyC, List.cons_append, List.nil_append, List.cons.injEq, true_and] at h
      exact ⟨rfl, h⟩
    | .i64, .decl n args, r1, r2, _, hu, s1, s2, h => by
      exfalso
      simp only [tyNamesOk, Bool.and_eq_true] at hu
      simp only [printTyC, List.append_assoc] at h
      have := name_split_unique ['i', '6', '4'] n.toList r1 (printTyArgsC args ++ r2) i64_noDelim
        (nameOk_noDelim hu.1) s1.startsDelim (printTyArgsC_startsDelim _ _ s2) h
      exact nameOk_ne_i64 hu.1 this.1.symm
    | .decl n args, .i64, r1, r2, ht, _, s1, s2, h => by
      exfalso
      simp only [tyNamesOk, Bool.and_eq_true] at ht
      simp only [printTyC, List.append_assoc] at h
      have := name_split_unique n.toList ['i', '6', '4'] (printTyArgsC args ++ r1) r2
        (nameOk_noDelim ht.1) i64_noDelim (printTyArgsC_startsDelim _ _ s1) s2.startsDelim h
      exact nameOk_ne_i64 ht.1 this.1
    | .decl n args, .decl m args', r1, r2, ht, hu, s1, s2, h => by
      simp only [tyNamesOk, Bool.and_eq_true] at ht hu
      simp only [printTyC, List.append_assoc] at h
      have h1 := name_split_unique n.toList m.toList (printTyArgsC args ++ r1) (printTyArgsC args' ++ r2)
        (nameOk_noDelim ht.1) (nameOk_noDelim hu.1) (printTyArgsC_startsDelim _ _ s1)
        (printTyArgsC_startsDelim _ _ s2) h
      have h2 := printTyArgsC_inj_aux args args' r1 r2 ht.2 hu.2 s1 s2 h1.2
      have hn : n = m := String.toList_inj.mp h1.1
      exact ⟨by rw [hn, h2.1], h2.2⟩
  theorem printTyArgsC_inj_aux : ∀ (a b : Tys) (r1 r2 : List Char), tysNamesOk a = true →
      tysNamesOk b = true → StartsFollow r1 → StartsFollow r2 →
      printTyArgsC a ++ r1 = printTyArgsC b ++ r2 → a = b ∧ r1 = r2
    | .nil, .nil, _, _, _, _, _, _, h => by simpa [printTyArgsC] using h
    | .nil, .cons t r, r1, r2, _, _, s1, _, h => by
      exfalso
      simp only [printTyArgsC, List.nil_append, List.cons_append] at h
      rcases s1 with rfl | ⟨c, cs, rfl, hc⟩
      · simp at h
      · simp only [List.cons.injEq] at h
        rcases hc with rfl | rfl <;> simp at h
    | .cons t r, .nil, r1, r2, _, _, _, s2, h => by
      exfalso
      simp only [printTyArgsC, List.nil_append, List.cons_append] at h
      rcases s2 with rfl | ⟨c, cs, rfl, hc⟩
      · simp at h
      · simp only [List.cons.injEq] at h
        rcases hc with rfl | rfl <;> simp at h
    | .cons t r, .cons u s, r1, r2, ha, hb, _, _, h => by
      simp only [tysNamesOk, Bool.and_eq_true] at ha hb
      simp only [printTyArgsC, List.cons_append, List.cons.injEq, true_and, List.append_assoc] at h
      have h1 := printTyC_inj_aux t u (printTysTailC r ++ r1) (printTysTailC s ++ r2) ha.1 hb.1
        (printTysTailC_startsFollow _ _) (printTysTailC_startsFollow _ _) h
      have h2 := printTysTailC_inj_aux r s r1 r2 ha.2 hb.2 h1.2
      exact ⟨by rw [h1.1, h2.1], h2.2⟩
  theorem printTysTailC_inj_aux : ∀ (a b : Tys) (r1 r2 : List Char), tysNamesOk a = true →
      tysNamesOk b = true → printTysTailC a ++ r1 = printTysTailC b ++ r2 → a = b ∧ r1 = r2
    | .nil, .nil, _, _, _, _, h => by simpa [printTysTailC] using h
    | .nil, .cons t r, _, _, _, _, h => by simp [printTysTailC] at h
    | .cons t r, .nil, _, _, _, _, h => by simp [printTysTailC] at h
    | .cons t r, .cons u s, r1, r2, ha, hb, h => by
      simp only [tysNamesOk, Bool.and_eq_true] at ha hb
      simp only [printTysTailC, List.cons_append, List.cons.injEq, true_and, List.append_assoc] at h
      have h1 := printTyC_inj_aux t u (printTysTailC r ++ r1) (printTysTailC s ++ r2) ha.1 hb.1
        (printTysTailC_startsFollow _ _) (printTysTailC_startsFollow _ _) h
      have h2 := printTysTailC_inj_aux r s r1 r2 ha.2 hb.2 h1.2
      exact ⟨by rw [h1.1, h2.1], h2.2⟩
end

theorem printTyC_inj {t u : Ty} (ht : tyNamesOk t = true) (hu : tyNamesOk u = true)
    (h : printTyC t = printTyC u) : t = u := by
  have := printTyC_inj_aux t u [] [] ht hu (.inl rfl) (.inl rfl) (by simpa using h)
  exact this.1

theorem printTy_inj {t u : Ty} (ht : tyNamesOk t = true) (hu : tyNamesOk u = true)
    (h : printTy t = printTy u) : t = u :=
  printTyC_inj ht hu (String.ofList_inj.mp h)

theorem printTyArgs_inj {a b : Tys} (ha : tysNamesOk a = true) (hb : tysNamesOk b = true)
    (h : printTyArgs a = printTyArgs b) : a = b := by
  have h' : printTyArgsC a = printTyArgsC b := String.ofList_inj.mp h
  exact (printTyArgsC_inj_aux a b [] [] ha hb (.inl rfl) (.inl rfl) (by simpa using h')).1

/-- instance names (`Cons[i64]`, `List[i64]`) determine the base name and the type arguments -/
theorem instName_inj {x y : String} {a b : Tys} (hx : nameOk x = true) (hy : nameOk y = true)
    (ha : tysNamesOk a = true) (hb : tysNamesOk b = true) (h : instName x a = instName y b) :
    x = y ∧ a = b := by
  have h' : x.toList ++ printTyArgsC a = y.toList ++ printTyArgsC b := by
    have := congrArg String.toList h
    simpa [instName, printTyArgs, String.toList_append, String.toList_ofList] using this
  have h1 := name_split_unique x.toList y.toList (printTyArgsC a) (printTyArgsC b)
    (nameOk_noDelim hx) (nameOk_noDelim hy)
    (by simpa using printTyArgsC_startsDelim a [] (.inl rfl))
    (by simpa using printTyArgsC_startsDelim b [] (.inl rfl)) h'
  have h2 := printTyArgsC_inj_aux a b [] [] ha hb (.inl rfl) (.inl rfl) (by simpa using h1.2)
  exact ⟨String.toList_inj.mp h1.1, h2.1⟩

end Scc.Fun.Check
