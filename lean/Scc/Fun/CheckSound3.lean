/-
  Scc.Fun.CheckSound3 — soundness of the checker model, part 3: what a successful context lookup, `no_dups`
  and `add_types` give, `swap_remove` as a permutation, and the specification of the clause loop
  (`clauseLoop_spec`): for checkers that are sound in the sense of `SoundK` (the property all of part 5 is
  stated in: the table invariant is kept and extended, and the result satisfies `Q`), the loop picks each
  expected xtor's clause once and every picked clause is checked in its typed context (`PickedOk`).
-/
import Scc.Fun.CheckSound2
import Scc.Fun.CheckAnnotated

namespace Scc.Fun.Check
open Scc.Fun.Typing

theorem lookupVarRev_ok : ∀ (l : List Binding) (x : String) (τ : Ty), lookupVarRev l x = .ok τ →
    ∃ b, l.find? (fun b => b.var = x) = some b ∧ b.chi = .prd ∧ b.ty = τ ∧ b ∈ l
  | [], _, _, h => by simp [lookupVarRev] at h
  | b :: r, x, τ, h => by
    simp only [lookupVarRev] at h
    split at h
    · rename_i hx
      split at h
      · cases h
      · rename_i hc
        cases h
        refine ⟨b, by simp [List.find?, hx], ?_, rfl, by simp⟩
        cases hb : b.chi with
        | prd => rfl
        | cns => exfalso; rw [hb] at hc; exact hc (by decide)
    · rename_i hx
      obtain ⟨b', h1, h2, h3, h4⟩ := lookupVarRev_ok r x τ h
      exact ⟨b', by simp [List.find?, hx, h1], h2, h3, by simp [h4]⟩

theorem lookupVar_ok {Γ : Ctx} {x : String} {τ : Ty} (h : lookupVar Γ x = .ok τ) :
    ∃ b, lookupCtx Γ x = some b ∧ b.chi = .prd ∧ b.ty = τ ∧ b ∈ Γ := by
  obtain ⟨b, h1, h2, h3, h4⟩ := lookupVarRev_ok _ _ _ h
  exact ⟨b, h1, h2, h3, by simpa using h4⟩

theorem lookupCovarRev_ok : ∀ (l : List Binding) (x : String) (τ : Ty), lookupCovarRev l x = .ok τ →
    ∃ b, l.find? (fun b => b.var = x) = some b ∧ b.chi = .cns ∧ b.ty = τ ∧ b ∈ l
  | [], _, _, h => by simp [lookupCovarRev] at h
  | b :: r, x, τ, h => by
    simp only [lookupCovarRev] at h
    split at h
    · rename_i hx
      split at h
      · cases h
      · rename_i hc
        cases h
        refine ⟨b, by simp [List.find?, hx], ?_, rfl, by simp⟩
        cases hb : b.chi with
        | cns => rfl
        | prd => exfalso; rw [hb] at hc; exact hc (by decide)
    · rename_i hx
      obtain ⟨b', h1, h2, h3, h4⟩ := lookupCovarRev_ok r x τ h
      exact ⟨b', by simp [List.find?, hx, h1], h2, h3, by simp [h4]⟩

theorem lookupCovar_ok {Γ : Ctx} {x : String} {τ : Ty} (h : lookupCovar Γ x = .ok τ) :
    ∃ b, lookupCtx Γ x = some b ∧ b.chi = .cns ∧ b.ty = τ ∧ b ∈ Γ := by
  obtain ⟨b, h1, h2, h3, h4⟩ := lookupCovarRev_ok _ _ _ h
  exact ⟨b, h1, h2, h3, by simpa using h4⟩

theorem ctxNamesOk_mem {Γ : Ctx} (h : ctxNamesOk Γ = true) {b : Binding} (hb : b ∈ Γ) :
    tyNamesOk b.ty = true :=
  List.all_eq_true.mp h b hb

theorem ctxNamesOk_append {Γ Δ : Ctx} (h1 : ctxNamesOk Γ = true) (h2 : ctxNamesOk Δ = true) :
    ctxNamesOk (Γ ++ Δ) = true := by
  simp only [ctxNamesOk, List.all_append, Bool.and_eq_true]
  exact ⟨h1, h2⟩

theorem namesNoDups_ok : ∀ (l seen : List String), namesNoDups l seen = .ok () →
    l.Nodup ∧ ∀ x ∈ l, x ∉ seen
  | [], _, _ => by simp
  | b :: r, seen, h => by
    simp only [namesNoDups] at h
    split at h
    · cases h
    · rename_i hb
      obtain ⟨h1, h2⟩ := namesNoDups_ok r (b :: seen) h
      have hb' : b ∉ seen := by simpa using hb
      refine ⟨List.nodup_cons.mpr ⟨fun hm => (h2 b hm) (by simp), h1⟩, ?_⟩
      intro x hx
      rcases List.mem_cons.mp hx with rfl | hx
      · exact hb'
      · exact fun hs => h2 x hx (by simp [hs])

/-- `addTypes_ok` with the zip written as the specification's `bindNames` -/
theorem addTypes_bindNames {names : List String} {sig ctx : Ctx} (h : addTypes names sig = .ok ctx) :
    names.length = sig.length ∧ ctx = bindNames names sig :=
  addTypes_ok h

theorem swapRemove_perm {α : Type} {ks : List α} {pos : Nat} {k : α} (h : ks[pos]? = some k) :
    (k :: swapRemove ks pos).Perm ks := by
  obtain ⟨hlt, hk⟩ := List.getElem?_eq_some_iff.mp h
  unfold swapRemove
  cases hl : ks.getLast? with
  | none =>
    have : ks = [] := by simpa using hl
    subst this; simp at hlt
  | some last =>
    obtain ⟨init, rfl⟩ := List.getLast?_eq_some_iff.mp hl
    simp only [List.dropLast_concat]
    simp only [List.length_append, List.length_singleton] at hlt
    by_cases hp : pos < init.length
    · have hk' : init[pos] = k := by
        rw [← hk]; simp [List.getElem_append_left hp]
      rw [List.set_eq_take_append_cons_drop, if_pos hp]
      have hinit : init = init.take pos ++ k :: init.drop (pos + 1) := by
        rw [← hk', List.getElem_cons_drop hp, List.take_append_drop]
      have h1 : (k :: (init.take pos ++ last :: init.drop (pos + 1))).Perm
          (k :: last :: (init.take pos ++ init.drop (pos + 1))) :=
        List.Perm.cons _ List.perm_middle
      have h2 : (init ++ [last]).Perm (last :: k :: (init.take pos ++ init.drop (pos + 1))) := by
        refine (List.perm_append_singleton _ _).trans (List.Perm.cons _ ?_)
        conv => lhs; rw [hinit]
        exact List.perm_middle
      exact h1.trans ((List.Perm.swap _ _ _).trans h2.symm)
    · have hp' : pos = init.length := by omega
      subst hp'
      have hk' : k = last := by
        rw [← hk]; simp
      subst hk'
      rw [List.set_eq_of_length_le (Nat.le_refl _)]
      exact (List.perm_append_singleton _ _).symm

/-- what a checking closure guarantees; `Q Γ τ t'` is the property of the checked term -/
def SoundK (p : Program) (Q : Ctx → Ty → Term → Prop) (k : Checker) : Prop :=
  ∀ st Γ τ t' st', Inv p st → ctxNamesOk Γ = true → tyNamesOk τ = true →
    k st Γ τ = .ok (t', st') → Inv p st' ∧ Ext st st' ∧ Q Γ τ t'

theorem SoundK.mono {p : Program} {Q Q' : Ctx → Ty → Term → Prop} {k : Checker} (h : SoundK p Q k)
    (hQ : ∀ Γ τ t', Q Γ τ t' → Q' Γ τ t') : SoundK p Q' k := by
  intro st Γ τ t' st' inv hΓ hτ hk
  obtain ⟨inv1, ext1, q⟩ := h st Γ τ t' st' inv hΓ hτ hk
  exact ⟨inv1, ext1, hQ Γ τ t' q⟩

/-- what is known about a clause `k` the loop has picked and checked into `o` -/
structure PickedOk (p : Program) (Q : Clause → Ctx → Ty → Term → Prop)
    (sigOf : SymbolTable → String → Option (Ctx × Ty)) (checkRet : Bool) (tyArgs : Tys) (Γ : Ctx)
    (st0 : SymbolTable) (k : ClauseK) (o : Clause) : Prop where
  pol : o.pol = k.src.pol
  xtor : o.xtor = k.src.xtor
  names : o.names = k.src.names
  ex : ∃ st1 sig bodyTy, Inv p st1 ∧ Ext st0 st1 ∧
    sigOf st1 (instName k.src.xtor tyArgs) = some (sig, bodyTy) ∧
    (checkRet = true → WfTy p bodyTy) ∧
    k.src.names.Nodup ∧ k.src.names.length = sig.length ∧ o.ctx = bindNames k.src.names sig ∧
    Q k.src (Γ ++ o.ctx) bodyTy o.body

theorem PickedOk.rebase {p Q sigOf checkRet tyArgs Γ st0 st1 k o}
    (h : PickedOk p Q sigOf checkRet tyArgs Γ st1 k o) (e : Ext st0 st1) :
    PickedOk p Q sigOf checkRet tyArgs Γ st0 k o := by
  obtain ⟨h1, h2, h3, st2, sig, bodyTy, g1, g2, g3⟩ := h
  exact ⟨h1, h2, h3, st2, sig, bodyTy, g1, e.trans g2, g3⟩

theorem clauseLoop_spec {p : Program} (ok : DeclsOk p) (hp : programNamesOk p = true)
    {Q : Clause → Ctx → Ty → Term → Prop}
    {sigOf : SymbolTable → String → Option (Ctx × Ty)} {missing : String} {checkRet : Bool}
    {tyArgs : Tys} {Γ : Ctx}
    (hΓ : ctxNamesOk Γ = true)
    (hsig : ∀ st n sig bodyTy, Inv p st → sigOf st n = some (sig, bodyTy) →
      ctxNamesOk sig = true ∧ tyNamesOk bodyTy = true) :
    ∀ (xtors : List String) (ks : List ClauseK) (acc : List Clause) (st : SymbolTable)
      (out : List Clause) (left : List ClauseK) (st' : SymbolTable),
    (∀ k ∈ ks, SoundK p (Q k.src) k.body) → Inv p st →
    clauseLoop sigOf missing checkRet tyArgs Γ xtors ks acc st = .ok (out, left, st') →
    Inv p st' ∧ Ext st st' ∧ ∃ picked : List (ClauseK × Clause),
      out = acc.reverse ++ picked.map Prod.snd ∧ (picked.map Prod.fst ++ left).Perm ks ∧
      picked.map (fun ko => ko.1.src.xtor) = xtors ∧
      ∀ ko ∈ picked, PickedOk p Q sigOf checkRet tyArgs Γ st ko.1 ko.2
  | [], ks, acc, st, out, left, st', _, inv, h => by
    obtain ⟨rfl, rfl, rfl⟩ := clauseLoop_nil_ok h
    exact ⟨inv, Ext.refl _, [], by simp, by simp, rfl, by simp⟩
  | x :: rest, ks, acc, st, out, left, st', hks, inv, h => by
    obtain ⟨pos, k, sig, bodyTy, st0, ctxClause, body', st1, hpos, hk, hs, hret, hnd, hadd, hbody,
      hrest⟩ := clauseLoop_cons_ok h
    have hkmem : k ∈ ks := List.mem_of_getElem? hk
    obtain ⟨hlen, rfl⟩ := addTypes_bindNames hadd
    obtain ⟨gsig, gty⟩ := hsig st _ sig bodyTy inv hs
    have hst0 : Inv p st0 ∧ Ext st st0 ∧ (checkRet = true → WfTy p bodyTy) := by
      cases checkRet with
      | false =>
        simp only [Bool.false_eq_true, if_false] at hret
        cases hret
        exact ⟨inv, Ext.refl _, by simp⟩
      | true =>
        simp only [if_true] at hret
        obtain ⟨i0, e0, w0, _⟩ := checkTy_sound ok hp bodyTy st st0 inv gty hret
        exact ⟨i0, e0, fun _ => w0⟩
    obtain ⟨inv0, ext0, wfret⟩ := hst0
    obtain ⟨inv1, ext1, hQ⟩ := hks k hkmem st0 _ _ _ _ inv0
      (ctxNamesOk_append hΓ (bindNames_namesOk gsig)) gty hbody
    obtain ⟨inv2, ext2, picked, hout, hperm, hx, hpk⟩ :=
      clauseLoop_spec ok hp hΓ hsig rest _ _ st1 out left st'
        (fun k' hk' => hks k' (mem_of_mem_swapRemove hk')) inv1 hrest
    have hkx : k.src.xtor = x := by
      obtain ⟨hlt, hpx, _⟩ := List.findIdx?_eq_some_iff_getElem.mp hpos
      obtain ⟨_, hk'⟩ := List.getElem?_eq_some_iff.mp hk
      rw [hk'] at hpx
      simpa using hpx
    refine ⟨inv2, (ext0.trans ext1).trans ext2,
      (k, ⟨k.src.pol, k.src.xtor, k.src.names, bindNames k.src.names sig, body'⟩) :: picked,
      ?_, ?_, ?_, ?_⟩
    · rw [hout]; simp
    · simp only [List.map_cons, List.cons_append]
      exact (List.Perm.cons _ hperm).trans (swapRemove_perm hk)
    · simp [hkx, hx]
    · intro ko hko
      rcases List.mem_cons.mp hko with rfl | hko
      · exact ⟨rfl, rfl, rfl, st, sig, bodyTy, inv, Ext.refl _, by rw [hkx]; exact hs, wfret,
          (namesNoDups_ok _ _ hnd).1, hlen, rfl, hQ⟩
      · exact (hpk ko hko).rebase (ext0.trans ext1)

end Scc.Fun.Check
