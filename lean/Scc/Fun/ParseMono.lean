/-
  Scc.Fun.ParseMono — fuel monotonicity of the parser model (Scc.Fun.Parse): a parser function that
  answers anything else than `diag .fuel` gives the same answer with one more unit of fuel (`Le`).  The walk
  covers types, name lists, bindings and the mutual block of term parsers (`le_terms`); the declaration
  parsers are not covered.  The statements stand for themselves: no other file uses them.
-/
import Scc.Fun.Parse

namespace Scc.Fun.Parse
open Scc.Fun.Lex

def Le {α : Type} (o o' : Outcome α) : Prop := o = .diag .fuel ∨ o = o'

theorem Le.refl {α : Type} (o : Outcome α) : Le o o := .inr rfl

theorem Le.trans {α : Type} {a b c : Outcome α} (h1 : Le a b) (h2 : Le b c) : Le a c := by
  rcases h1 with h | h
  · exact .inl h
  · subst h; exact h2

theorem Le.bind {α β : Type} {o o' : Outcome α} {f f' : α → Outcome β} (h : Le o o')
    (hf : ∀ a, Le (f a) (f' a)) : Le (o.bind f) (o'.bind f') := by
  rcases h with h | h
  · subst h; exact .inl rfl
  · subst h
    cases o with
    | ok a => exact hf a
    | diag c => exact .inr rfl
    | panic s => exact .inr rfl

theorem Le.ok {α : Type} {o o' : Outcome α} {a : α} (h : Le o o') (ho : o = .ok a) : o' = .ok a := by
  rcases h with h | h
  · rw [h] at ho; cases ho
  · rw [← h, ho]

/-! Below, the proof for each branch of a parser function repeats the shape of the branch: `.bind`
with the fact about the first computation for a sequencing step, `.refl` where no fuel is spent. -/

theorem le_ty : ∀ fuel ts,
    Le (parseTy fuel ts) (parseTy (fuel + 1) ts) ∧ Le (parseTys fuel ts) (parseTys (fuel + 1) ts) := by
  intro fuel
  induction fuel with
  | zero => intro ts; exact ⟨.inl (by unfold parseTy; rfl), .inl (by unfold parseTys; rfl)⟩
  | succ n ih =>
    intro ts
    constructor
    · unfold parseTy
      split
      · exact .refl _
      · exact (ih _).2.bind fun _ => .refl _
      · exact .refl _
      · exact .refl _
    · unfold parseTys
      split
      · exact .refl _
      · refine (ih _).1.bind fun (t, r) => ?_
        dsimp only
        split
        · exact (ih _).2.bind fun _ => .refl _
        · exact .refl _
        · exact .refl _

theorem le_parseTy (fuel : Nat) (ts : List Token) : Le (parseTy fuel ts) (parseTy (fuel + 1) ts) :=
  (le_ty fuel ts).1
theorem le_parseTys (fuel : Nat) (ts : List Token) : Le (parseTys fuel ts) (parseTys (fuel + 1) ts) :=
  (le_ty fuel ts).2

theorem le_parseOptTyArgs (fuel : Nat) (ts : List Token) :
    Le (parseOptTyArgs fuel ts) (parseOptTyArgs (fuel + 1) ts) := by
  unfold parseOptTyArgs
  split
  · exact le_parseTys _ _
  · exact Le.refl _

theorem le_parseNames : ∀ fuel ts, Le (parseNames fuel ts) (parseNames (fuel + 1) ts) := by
  intro fuel
  induction fuel with
  | zero => intro ts; left; unfold parseNames; rfl
  | succ n ih =>
    intro ts
    unfold parseNames
    split
    · exact .refl _
    · exact (ih _).bind fun _ => .refl _
    · exact .refl _
    · exact .refl _
    · exact .refl _

theorem le_parseOptNames (fuel : Nat) (ts : List Token) :
    Le (parseOptNames fuel ts) (parseOptNames (fuel + 1) ts) := by
  unfold parseOptNames
  split
  · exact le_parseNames _ _
  · exact Le.refl _

theorem le_parseTyNames : ∀ fuel ts, Le (parseTyNames fuel ts) (parseTyNames (fuel + 1) ts) := by
  intro fuel
  induction fuel with
  | zero => intro ts; left; unfold parseTyNames; rfl
  | succ n ih =>
    intro ts
    unfold parseTyNames
    split
    · exact .refl _
    · exact (ih _).bind fun _ => .refl _
    · exact .refl _
    · exact .refl _
    · exact .refl _

theorem le_parseOptTyNames (fuel : Nat) (ts : List Token) :
    Le (parseOptTyNames fuel ts) (parseOptTyNames (fuel + 1) ts) := by
  unfold parseOptTyNames
  split
  · exact le_parseTyNames _ _
  · exact Le.refl _

theorem le_parseBinding (fuel : Nat) (ts : List Token) :
    Le (parseBinding fuel ts) (parseBinding (fuel + 1) ts) := by
  unfold parseBinding
  split
  · exact (le_parseTy _ _).bind fun _ => .refl _
  · exact (le_parseTy _ _).bind fun _ => .refl _
  · exact .refl _
  · exact .refl _

theorem le_parseBindings : ∀ fuel ts, Le (parseBindings fuel ts) (parseBindings (fuel + 1) ts) := by
  intro fuel
  induction fuel with
  | zero => intro ts; left; unfold parseBindings; rfl
  | succ n ih =>
    intro ts
    unfold parseBindings
    split
    · exact .refl _
    · refine (le_parseBinding _ _).bind fun (b, r) => ?_
      dsimp only
      split
      · exact (ih _).bind fun _ => .refl _
      · exact .refl _
      · exact .refl _

theorem le_parseOptCtx (fuel : Nat) (ts : List Token) :
    Le (parseOptCtx fuel ts) (parseOptCtx (fuel + 1) ts) := by
  unfold parseOptCtx
  split
  · exact le_parseBindings _ _
  · exact Le.refl _

/-- the induction hypothesis of `le_terms`: every term parser is monotone at the fuel `n` -/
structure LeIH (mode : LiteralMode) (n : Nat) : Prop where
  t1 : ∀ ts, Le (parseTerm1 mode n ts) (parseTerm1 mode (n + 1) ts)
  args : ∀ ts, Le (parseArgs mode n ts) (parseArgs mode (n + 1) ts)
  cls : ∀ pol ts, Le (parseClauses mode pol n ts) (parseClauses mode pol (n + 1) ts)
  post : ∀ t ts, Le (parsePostfix mode n t ts) (parsePostfix mode (n + 1) t ts)
  braced : ∀ ts, Le (parseBraced mode n ts) (parseBraced mode (n + 1) ts)
  thenElse : ∀ ts, Le (parseThenElse mode n ts) (parseThenElse mode (n + 1) ts)
  term : ∀ b ts, Le (parseTerm mode n b ts) (parseTerm mode (n + 1) b ts)

theorem le_terms_zero (mode : LiteralMode) : LeIH mode 0 where
  t1 _ := .inl (by unfold parseTerm1; rfl)
  args _ := .inl (by unfold parseArgs; rfl)
  cls _ _ := .inl (by unfold parseClauses; rfl)
  post _ _ := .inl (by unfold parsePostfix; rfl)
  braced _ := .inl (by unfold parseBraced; rfl)
  thenElse _ := .inl (by unfold parseThenElse; rfl)
  term _ _ := .inl (by unfold parseTerm; rfl)

section
variable {mode : LiteralMode} {n : Nat} (ih : LeIH mode n)
include ih

theorem le_parseTerm1 (ts : List Token) :
    Le (parseTerm1 mode (n + 1) ts) (parseTerm1 mode (n + 1 + 1) ts) := by
  unfold parseTerm1
  split
  · exact .refl _
  · exact .refl _
  · exact .refl _
  · exact (ih.args _).bind fun _ => .refl _
  · exact .refl _
  · exact (ih.term _ _).bind fun _ => .refl _
  · exact .refl _

theorem le_parseArgs (ts : List Token) :
    Le (parseArgs mode (n + 1) ts) (parseArgs mode (n + 1 + 1) ts) := by
  unfold parseArgs
  split
  · exact .refl _
  · refine (ih.term _ _).bind fun (t, r) => ?_
    dsimp only
    split
    · exact (ih.args _).bind fun _ => .refl _
    · exact .refl _
    · exact .refl _

theorem le_parseClauses (pol : Polarity) (ts : List Token) :
    Le (parseClauses mode pol (n + 1) ts) (parseClauses mode pol (n + 1 + 1) ts) := by
  unfold parseClauses
  split
  · exact .refl _
  · dsimp only
    split
    · exact .refl _
    · refine (le_parseOptNames _ _).bind fun _ => (Le.refl _).bind fun _ =>
        (ih.term _ _).bind fun (b, r) => ?_
      dsimp only
      split
      · exact (ih.cls _ _).bind fun _ => .refl _
      · exact .refl _
      · exact .refl _
  · exact .refl _

theorem le_parsePostfix (t : Term) (ts : List Token) :
    Le (parsePostfix mode (n + 1) t ts) (parsePostfix mode (n + 1 + 1) t ts) := by
  unfold parsePostfix
  split
  · exact (le_parseOptTyArgs _ _).bind fun _ => (Le.refl _).bind fun _ =>
      (ih.cls _ _).bind fun _ => ih.post _ _
  · refine (le_parseOptTyArgs _ _).bind fun (tas, r) => ?_
    dsimp only
    split
    · exact (ih.args _).bind fun _ => ih.post _ _
    · exact ih.post _ _
  · exact .refl _
  · exact .refl _

theorem le_parseBraced (ts : List Token) :
    Le (parseBraced mode (n + 1) ts) (parseBraced mode (n + 1 + 1) ts) := by
  unfold parseBraced
  exact (Le.refl _).bind fun _ => (ih.term _ _).bind fun _ => .refl _

theorem le_parseThenElse (ts : List Token) :
    Le (parseThenElse mode (n + 1) ts) (parseThenElse mode (n + 1 + 1) ts) := by
  unfold parseThenElse
  exact (ih.braced _).bind fun _ => (Le.refl _).bind fun _ => (ih.braced _).bind fun _ => .refl _

theorem le_parseTerm (b : Bool) (ts : List Token) :
    Le (parseTerm mode (n + 1) b ts) (parseTerm mode (n + 1 + 1) b ts) := by
  have print : ∀ nl r, Le
      ((expect .lparen r).bind fun r1 =>
        (parseTerm mode n true r1).bind fun (a, r2) => (expect .rparen r2).bind fun r3 =>
          (expect .semi r3).bind fun r4 =>
            (parseTerm mode n true r4).bind fun (k, r5) => .ok (Term.print nl a k none, r5))
      ((expect .lparen r).bind fun r1 =>
        (parseTerm mode (n + 1) true r1).bind fun (a, r2) => (expect .rparen r2).bind fun r3 =>
          (expect .semi r3).bind fun r4 =>
            (parseTerm mode (n + 1) true r4).bind fun (k, r5) => .ok (Term.print nl a k none, r5)) :=
    fun _ _ => (Le.refl _).bind fun _ => (ih.term _ _).bind fun _ => (Le.refl _).bind fun _ =>
      (Le.refl _).bind fun _ => (ih.term _ _).bind fun _ => .refl _
  unfold parseTerm
  split
  · split
    · exact print _ _
    · exact .refl _
  · split
    · exact print _ _
    · exact .refl _
  · exact (ih.term _ _).bind fun _ => (ih.thenElse _).bind fun _ => .refl _
  · refine (ih.term _ _).bind fun (a, r) => ?_
    dsimp only
    split
    · exact (ih.term _ _).bind fun _ => (ih.thenElse _).bind fun _ => .refl _
    · exact (ih.thenElse _).bind fun _ => .refl _
    · exact .refl _
  · exact (ih.braced _).bind fun _ => .refl _
  · exact .refl _
  · exact (ih.term _ _).bind fun _ => .refl _
  · exact .refl _
  · exact .refl _
  · exact (ih.term _ _).bind fun _ => .refl _
  · exact (le_parseTy _ _).bind fun _ => (Le.refl _).bind fun _ =>
      (ih.term _ _).bind fun _ => (Le.refl _).bind fun _ => (ih.term _ _).bind fun _ => .refl _
  · exact .refl _
  · exact .refl _
  · exact (Le.refl _).bind fun _ => (ih.cls _ _).bind fun _ => ih.post _ _
  · exact (ih.args _).bind fun _ => ih.post _ _
  · exact ih.post _ _
  · refine (ih.t1 _).bind fun (a, r) => ?_
    dsimp only
    split
    · exact .refl _
    · split
      · exact (ih.t1 _).bind fun _ => .refl _
      · exact ih.post _ _

end

theorem le_terms (mode : LiteralMode) : ∀ n, LeIH mode n := by
  intro n
  induction n with
  | zero => exact le_terms_zero mode
  | succ n ih =>
    exact ⟨le_parseTerm1 ih, le_parseArgs ih, le_parseClauses ih, le_parsePostfix ih,
      le_parseBraced ih, le_parseThenElse ih, le_parseTerm ih⟩

end Scc.Fun.Parse
