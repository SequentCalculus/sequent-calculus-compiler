/-
  Scc.Fun.SafetyPure — kind-level safety of PURE terms (the side condition of `Fun.Sequenced`: the
  arguments of calls, constructors, destructors and operators are pure): in a well-typed environment
  a pure, typed term HAS a value (`Fun2Core.Sem.pureVal`, the big-step value function of
  Scc/Fun2Core/SemPure.lean, is never `none`), the value has the type of the term, and the machine
  computes it in finitely many silent steps without getting stuck; the same for argument lists
  (`pureArgs`).  Canonical forms (`VT.kind`): a value of type `i64` is an integer, a value of a data
  type is a constructor value, a value of a codata type is a closure or a thunk.
-/
import Scc.Fun.SafetyRun
import Scc.Fun2Core.SemPure

namespace Scc.Fun.Safety
open Scc.Fun.Typing Scc.Fun2Core.Sem

theorem isCov_none {t : Term} (h : ∀ x ty, t ≠ .var x ty (some .cns)) : isCov t = none := by
  cases t with
  | var x ty chi =>
    cases chi with
    | none => rfl
    | some c =>
      cases c with
      | prd => rfl
      | cns => exact absurd rfl (h x ty)
  | _ => rfl

mutual
  /-- a pure, typed term has a value of its type -/
  theorem pureVal_typed {p : Program} {p' : CheckedProgram} (W : AWT p p') {ρ : Env} {Γ : Ctx}
      (he : EnvT p ρ Γ) : ∀ (t : Term) (τ : Ty), pureTerm t = true → ATyped p Γ t τ →
      ∃ v, pureVal p' t ρ = some v ∧ VT p v τ
    | .var x ty chi, τ, _, ht => by
      cases ht with
      | var b hl hc hty _ =>
        obtain ⟨v, hv, hb⟩ := he.lookup _ _ hl
        exact ⟨v, by simpa [pureVal] using hv, hty ▸ hb.prd_inv hc⟩
    | .lit n, τ, _, ht => by
      cases ht
      exact ⟨_, rfl, .int⟩
    | .op a o b, τ, hp, ht => by
      simp only [pureTerm, Bool.and_eq_true] at hp
      cases ht with
      | op ha hb =>
        obtain ⟨va, h1, hva⟩ := pureVal_typed W he a .i64 hp.1.2 ha
        obtain ⟨vb, h2, hvb⟩ := pureVal_typed W he b .i64 hp.2 hb
        obtain ⟨x, rfl⟩ := hva.int_inv
        obtain ⟨y, rfl⟩ := hvb.int_inv
        obtain ⟨r, hr⟩ := arith_ok_of_pure hp.1.1.1 hp.1.1.2 x y
        exact ⟨.int r, by simp [pureVal, h1, h2, hr, exceptToOption, Except.map], .int⟩
    | .ctor c as an, τ, hp, ht => by
      simp only [pureTerm] at hp
      cases ht with
      | ctor d c hd hc hw has =>
        obtain ⟨vs, h1, hvs⟩ := pureArgs_typed W he as _ hp has
        exact ⟨.con c.name vs, by simp [pureVal, h1], .con d c hd hc hw rfl rfl hvs⟩
    | .new cs an, τ, _, ht => ⟨_, rfl, .obj Γ an he ht⟩
    | .paren t, τ, hp, ht => by
      simp only [pureTerm] at hp
      cases ht with
      | paren h =>
        obtain ⟨v, h1, hv⟩ := pureVal_typed W he t τ hp h
        exact ⟨v, by simpa [pureVal] using h1, hv⟩
    | .ifc .., _, hp, _ => by simp [pureTerm] at hp
    | .ifz .., _, hp, _ => by simp [pureTerm] at hp
    | .print .., _, hp, _ => by simp [pureTerm] at hp
    | .letIn .., _, hp, _ => by simp [pureTerm] at hp
    | .call .., _, hp, _ => by simp [pureTerm] at hp
    | .dtor .., _, hp, _ => by simp [pureTerm] at hp
    | .case .., _, hp, _ => by simp [pureTerm] at hp
    | .label .., _, hp, _ => by simp [pureTerm] at hp
    | .goto .., _, hp, _ => by simp [pureTerm] at hp
    | .exit .., _, hp, _ => by simp [pureTerm] at hp
  /-- a pure, typed argument list has values for the parameters -/
  theorem pureArgs_typed {p : Program} {p' : CheckedProgram} (W : AWT p p') {ρ : Env} {Γ : Ctx}
      (he : EnvT p ρ Γ) : ∀ (ts : Terms) (bs : Ctx), pureTerms ts = true → AArgs p Γ ts bs →
      ∃ vs, pureArgs p' ts ρ = some vs ∧ VTs p vs bs
    | .nil, bs, _, has => by
      cases has
      exact ⟨[], rfl, .nil⟩
    | .cons t r, bs, hp, has => by
      simp only [pureTerms, Bool.and_eq_true] at hp
      rw [pureArgs_cons]
      cases has with
      | @prd _ _ _ b bs' hc hw ht hr =>
        obtain ⟨vr, h2, hvr⟩ := pureArgs_typed W he r bs' hp.2 hr
        have hav : ∃ v, argVal p' t ρ = some v ∧ VT p v b.ty := by
          simp only [argVal, argValWith, isCov_none ht.not_cov, ht.getType]
          by_cases hcd : isCodataTy p' b.ty = true
          · obtain ⟨d, hd, targs, hσ⟩ := W.codata_sound _ hw hcd
            obtain ⟨v, hv, hvt⟩ := suspend_typed he hd hσ t ht
            exact ⟨v, by simp [hcd, hv, exceptToOption], hvt⟩
          · obtain ⟨v, hv, hvt⟩ := pureVal_typed W he t b.ty hp.1 ht
            exact ⟨v, by simp [hcd, hv], hvt⟩
        obtain ⟨v, h1, hv⟩ := hav
        exact ⟨v :: vr, by simp [h1, h2], .cons (.prd hc hv) hvr⟩
      | @cns _ x _ b bs' b' hc hl hc' hty _ hr =>
        obtain ⟨vr, h2, hvr⟩ := pureArgs_typed W he r bs' hp.2 hr
        obtain ⟨v, hv, hb⟩ := he.lookup _ _ hl
        obtain ⟨c, rfl, hkc⟩ := hb.cns_inv hc'
        exact ⟨.cont c :: vr, by simp [argVal, argValWith, isCov, hv, h2],
          .cons (.cns hc (hty ▸ hkc)) hvr⟩
end

/-- the machine evaluates a pure, typed term to a value of its type, silently, in ≥ 1 steps, never
stuck -/
theorem pure_eval_safe {p : Program} {p' : CheckedProgram} (W : AWT p p') {ρ : Env} {Γ : Ctx}
    (he : EnvT p ρ Γ) {t : Term} {τ : Ty} (hp : pureTerm t = true) (ht : ATyped p Γ t τ)
    (k : Stack) : ∃ v j, 1 ≤ j ∧ FSteps p' (.eval t ρ k) (.ret v k) [] j ∧ VT p v τ := by
  obtain ⟨v, h1, hv⟩ := pureVal_typed W he t τ hp ht
  obtain ⟨j, hj, fj⟩ := fun_pure p' t ρ v k hp h1
  exact ⟨v, j, hj, fj, hv⟩

theorem pure_args_safe {p : Program} {p' : CheckedProgram} (W : AWT p p') {ρ : Env} {Γ : Ctx}
    (he : EnvT p ρ Γ) {ts : Terms} {bs : Ctx} (hp : pureTerms ts = true) (has : AArgs p Γ ts bs)
    (h : ArgHead) (done : List Value) (k : Stack) :
    ∃ vs j, FSteps p' (.args h done ts ρ k) (.args h (done ++ vs) .nil ρ k) [] j ∧ VTs p vs bs := by
  obtain ⟨vs, h1, hvs⟩ := pureArgs_typed W he ts bs hp has
  obtain ⟨j, fj⟩ := fun_pureArgs p' ts ρ vs h done k hp h1
  exact ⟨vs, j, fj, hvs⟩

/-- canonical forms, all kinds at once -/
theorem VT.kind {p : Program} (ok : DeclsOk p) {v : Value} {τ : Ty} (hw : WfTy p τ)
    (h : VT p v τ) :
    (τ = .i64 ∧ ∃ n, v = .int n) ∨
    (∃ d ∈ datas p, ∃ targs, τ = .decl d.name targs ∧ ∃ c ∈ d.ctors, ∃ vs, v = .con c.name vs ∧
      VTs p vs (csubst (instSubst d.typeParams targs) c.args)) ∨
    (∃ d ∈ codatas p, ∃ targs, τ = .decl d.name targs ∧
      ((∃ cs ρ, v = .obj cs ρ) ∨ (∃ t ρ, v = .thunk t ρ))) := by
  cases hw with
  | i64 => exact .inl ⟨rfl, h.int_inv⟩
  | data d args hd _ _ =>
    obtain ⟨c, hc, vs, hv, hvs⟩ := h.data_inv ok hd
    exact .inr (.inl ⟨d, hd, args, rfl, c, hc, vs, hv, hvs⟩)
  | codata d args hd _ _ =>
    refine .inr (.inr ⟨d, hd, args, rfl, ?_⟩)
    rcases h.codata_inv ok hd with ⟨cs, ρ, _, _, hv, _⟩ | ⟨t, ρ, _, hv, _⟩
    · exact .inl ⟨cs, ρ, hv⟩
    · exact .inr ⟨t, ρ, hv⟩

theorem FSteps_preserves {p : Program} {p' : CheckedProgram} (W : AWT p p') {s s' : State}
    {o : Out} {j : Nat} (h : FSteps p' s s' o j) (hs : ST p s) : ST p s' := by
  induction h with
  | refl s => exact hs
  | silent h1 _ ih => exact ih (step_preserves W hs h1)
  | emit h1 _ ih => exact ih (step_preserves W hs h1)

end Scc.Fun.Safety
