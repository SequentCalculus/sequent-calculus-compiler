/-
  Scc.Props.C06X86Heap — property C06 (x86-64 code generation preserves AxCut semantics), Theorem B for
  x86-64 WITH THE HEAP: allocation (`let`) and pattern matching (`switch`) on data types.

  The relation is THREE-WAY at statement boundaries (Scc/X86/RefHeapDefs.lean):
        AxCut positional machine  ⟷  abstract backend machine  ⟷  x86-64 machine
  * left half: Theorem A's `Sim2.RelX` (C06Generic) — reused as it is, statement by statement
    (`sim2_let`, `load_enter`, the jump through the table of `sim2_switch`);
  * right half: `X3 F Γ cfg hs ι st` — typed by the context `Γ` (an integer is the same word on both
    machines, the tag of an object is the xtor position `n` on the abstract machine and `jump_length n =
    5·n` on x86-64, a reference is an object id resp. the address `ι id` of the head block); the abstract
    heap is represented by the machine memory through the heap refinement `HRef` (Scc/Heap/RefineDefs.lean)
    composed with the memory contracts' `HeapRel` (Scc/X86/ProofsMem.lean);
  * code: as in Theorem A, the code at the program counter is the code the generator emits for the
    current statement in the current context from SOME label counter (`XAt`), so the different label
    numbers of the two code generators (the x86 backend draws labels inside erase/share/store/load)
    never have to be related.

  The step lemmas named below (`ThreeWay.store_x3` …, Scc/Backend/ThreeWay*.lean) are applied at the closure-aware relation
  `Ref.K.X3` (Scc/X86/ThreeWayTarget.lean, ThreeWayNav.lean); the
  statements here speak of the data-only relation `Ref.X3`, which is that relation plus the invariant `Same`
  (Scc/X86/RefHeapOfClos.lean: `X3.toK`, `K.X3.toData`).
  The last argument of `K.machine` / `K.machineN` (`True` here) is the guard under which a run of the machine also
  carries what holds at the states strictly between two statement boundaries (`Mid`, `MidS`: the subject of the
  heap-monitor theorems, Props/C09X86Mon.lean); the statements here drop that component (`⟨n, h2, _⟩`).

  PROVED (no `sorry`, axioms: propext, Classical.choice, Quot.sound):
  * `C06_store_refines` (`ThreeWay.store_x3` at the x86-64 target): the abstract `store kinds n` against the emitted `Memory::store`:
    from related states the code runs to its end (`execFwd`) and the states are related again, the new
    object being represented at the pointer returned (`store_contract` ∘ `href_store`).
  * `C06_load_refines` (`load_x3`): the abstract `load kinds n` (unique: the object is freed; shared:
    count decremented, children shared) against the emitted `Memory::load` (`load_contract` ∘
    `href_load_full`); the "no overflow" side condition of the shared branch of `load_contract` is
    DISCHARGED from the counting invariant (`live_header_lt`: a stored count is below
    |roots| + 3·(number of blocks)).
  * `C06_let_x86` (`ThreeWay.let_x3` at the x86-64 machine): three-way simulation of `let`: the positional machine's step, two steps of
    the abstract machine and the machine's execution of comments, `Memory::store`, tag load; relation and
    code invariant re-established.  Hypotheses besides those of `sim2_let`: room for the blocks (C10:
    frontier + 64·(fields + 1) ≤ limit) and `fitsI64 (5·tag)`.
  * `C06_switch_x86` (`ThreeWay.switch_x3` at the x86-64 machine with addresses, Scc/X86/ThreeWayNav.lean): three-way simulation of `switch` on an object: single clause (fall
    through) and jump table (`lea; add; jmp TEMP` lands on the tag/5-th 5-byte `jmp` of the table:
    byte addresses of the loaded routine, `LoadedA`/`addrAt_table`), then `Memory::load` of the clause.
    Hypothesis besides those of `sim2_switch`: the routine fits below 2^64 (`hfitX`) and the capacity
    `2·(|Γ'| + |clause ctx|) ≤ 266` of utils.rs temporary_from_position.
  * `C06_subst_x86` (`ThreeWay.subst_x3` at the x86-64 machine): three-way simulation of `subst` on arbitrary contexts: erase / share of
    object variables against `HRef` (`erase_x3`, `share_x3`: the memory contracts ∘ `href_erase`/`href_share`),
    parallel moves of both temporaries of every position (shadow configuration, `run_cwc3`).
  * `C06_step_x86` (`step3`): Theorem A's `TheoremA_full` with the machine carried along, for every
    statement form of programs without closures (lit, op, print, ifc, exit, call, subst, let, switch).
  * `C06_data_programs` (`data_programs_items`): END TO END for programs with data types (no closures), on
    the items of the emitted routine: a terminating run of the positional machine is reproduced, trace and
    result, by the x86-64 SPEC machine started at `asm_main`.  The heap frontier is tracked along the run
    (`FrLe` / `Room`, Scc/Heap/RefineFrontier.lean): 64·134 bytes per step suffice.
    Its side hypotheses — success of the mock code generator and `CodeFits` of its code, pairwise distinct labels
    of the routine, contexts of at most 133 variables, `fuel + 1 < 2^64` — are derived from `LabelSafe`, the typing
    and the decidable checks `C06_x86Checks` in `C06_programs_text` (Props/C06X86Full.lean, all programs).
  `C06_data_programs_statement` (a `def : Prop`): the run theorem without the side hypotheses of `C06_data_programs`
  about generated code; no theorem concludes it in that generality.
-/
import Scc.X86.ConcRun
import Scc.Props.C06X86
import Scc.X86.RefSideLabels
import Scc.X86.RefSide

namespace Scc.X86
open Scc.AxCut Scc.AxCut.Pos Scc.Backend Scc.Backend.Abs Scc.Backend.Sim Scc.Backend.Sim2 Scc.X86.Ref
open Scc.Heap (HState InvS)
open Scc.Heap.Refine (FrLe Room)

section Heap

variable {F : Frame} (H : FrameOK F) (h8 : F.c.heapBase % 8 = 0)

include H h8 in
/-- the abstract `store` (at least one field) against the emitted `Memory::store` -/
theorem C06_store_refines {la : String → Option Nat}
    {Γ : Ctx} {cfg cfg1 : Config} {hs : HState} {ι : Nat → Nat} {st : State}
    (X : X3 F Γ cfg hs ι st) {n : Nat} (hn : n < Γ.length) {fields : List Abs.Field}
    (hf : readFields cfg.temps (Mock.kindsOf (Γ.drop n)) n = some fields)
    (hch : Obj.children ⟨0, fields⟩ = roots.go cfg.temps (Γ.drop n) n)
    (hnext : cfg.next < 2 ^ 64)
    (hlow : ∀ t, t < 2 * n → cfg1.temps.get t = cfg.temps.get t)
    (hheap : cfg1.heap = (cfg.next, ⟨0, fields⟩) :: cfg.heap) (hnx : cfg1.next = cfg.next + 1)
    (hout : cfg1.out = cfg.out)
    (hroom : Room hs (64 * (Γ.length - n) + 64)) (kk : Nat) :
    ∃ code kk', (store (Γ.drop n) (Γ.take n)).run kk = .ok (code, kk') ∧ kk ≤ kk' ∧ LabsIn code kk kk' ∧
      ∃ st' hs' p, execFwd F.c la code st = .ok (st', .next) ∧ st'.pc = st.pc ∧
        X3R F (Γ.take n) cfg1 (roots (Γ.take n) cfg.temps ++ [cfg.next]) hs'
          (fun i => if i = cfg.next then p else ι i) st' ∧
        tempVal F.sp st' (posTemp (2 * n)) = some (BitVec.ofNat 64 p) ∧ p ≠ 0 ∧ p < 2 ^ 64 ∧
        FrLe hs hs' (64 * (Γ.length - n)) := by
  obtain ⟨XK, S⟩ := X.toK
  obtain ⟨code, kk', h1, h2, h3, st', hs', p, ⟨h4, h5⟩, h6, h7, h8', h9, h10, hkeep, _⟩ :=
    ThreeWay.store_x3 (T := K.target F H h8 la) (K.X3.toT H h8 XK) hn hf hch hnext hlow hheap hnx hout hroom kk
  have h6 := K.x3r_iff.2 h6
  have hkeep : ∀ t, t < 2 * n → tempVal F.sp st' (posTemp t) = tempVal F.sp st (posTemp t) := hkeep
  exact ⟨code, kk', h1, h2, h3, st', hs', p, h4, h5,
    h6.toData (S.take (Nat.le_of_lt hn) ⟨hlow, fun i hi => hkeep _ (by omega)⟩ (hheap ▸ S.storeF hf)),
    h7, h8', h9, h10⟩

include H h8 in
/-- the abstract `load` against the emitted `Memory::load` (`hne`, at least one field, is not used) -/
theorem C06_load_refines {la : String → Option Nat}
    {Γ' Δ : Ctx} {b : Binding} {cfg cfg4 cfg' : Config} {hs : HState} {ι : Nat → Nat} {st : State}
    {r : Word} {o : Obj} {h' : Heap}
    (X : X3 F (Γ' ++ [b]) cfg hs ι st) (hb : b.chi ≠ .ext)
    (hr : cfg.temps.get (2 * Γ'.length) = some r) (hr0 : r ≠ 0)
    (hg : cfg.heap.get r.toNat = some o)
    (hk : o.fields.map (·.chi) = Mock.kindsOf Δ) (hne : o.fields ≠ [])
    (hcapΔ : 2 * (Γ'.length + Δ.length) ≤ 266)
    (h4next : cfg4.next = cfg.next) (h4out : cfg4.out = cfg.out)
    (h4temps : ∀ t, t < 2 * (Γ'.length + 1) → cfg4.temps.get t = cfg.temps.get t)
    (hlo : Scc.Heap.Refine.loadAbs cfg.heap r.toNat o = .ok h')
    (hcfg' : cfg' =
      { cfg4 with pc := cfg4.pc + 1, temps := writeFields (clobberTemp cfg4.temps) o.fields Γ'.length, heap := h' })
    (kk : Nat) :
    ∃ code kk', (load Δ Γ').run kk = .ok (code, kk') ∧ kk ≤ kk' ∧ LabsIn code kk kk' ∧
      ∃ st' hs', execFwd F.c la code st = .ok (st', .next) ∧ st'.pc = st.pc ∧
        X3 F (Γ' ++ Δ) cfg' hs' ι st' ∧ FrLe hs hs' 0 := by
  obtain ⟨XK, S⟩ := X.toK
  obtain ⟨code, kk', h1, h2, h3, st', hs', ⟨h4, h5⟩, X', h6, LP⟩ :=
    Scc.Backend.ThreeWay.load_x3 (T := K.target F H h8 la) (K.X3.toT H h8 XK) hb hr hr0 hg hk (show _ ≤ 267 by omega)
      h4next h4out h4temps hlo hcfg' kk
  have X' := K.x3r_iff.2 X'
  have hnx : cfg'.next = cfg.next := by rw [hcfg']; exact h4next
  have hh : cfg'.heap = h' := by rw [hcfg']
  exact ⟨code, kk', h1, h2, h3, st', hs', h4, h5,
    X'.toData (S.load rfl LP.toT (S.flds.of_oldFields (hh ▸ Scc.Backend.Prov.oldFields_loadAbs hg hlo) (hnx ▸ ids_of_href X'.href))), h6⟩

variable {mon : MonCfg} (hmon : mon.mach = F.c) {px : X86.Prog} {cs : List Code}

include H h8 hmon in
/-- `let`: `ThreeWay.let_x3` at the x86-64 machine, read on the data-only relation `X3` — one step of the positional
    machine, two of the abstract machine, a run of the x86-64 machine; relation and code invariant hold again -/
theorem C06_let_x86 (L : Loaded px cs) (hnd : (labs cs).Nodup)
    {P : Program} {hooks : Bool} {prog : AxCut.Prog} {Γ : Ctx} {ρ : List Value} {x : Ident}
    {ty : Ty} {tag : Ident} {args : Ctx} {next : Stmt} {fv : FV} {cfg : Config} {pos : Nat}
    (R : RelX P hooks prog ⟨Γ, ρ, .letS x ty tag args next fv⟩ cfg)
    (hk : args.length ≤ Γ.length)
    (hfresh : ∀ b ∈ Γ.take (Γ.length - args.length), b.var.id ≠ x.id)
    (hpos : Pos.tagPosition prog.types ty tag = .ok pos)
    (hcap : 2 * (Γ.length - args.length + 1) + 2 < Mock.T_TEMP)
    (hnext : cfg.next < 2 ^ 64)
    {hs : HState} {ι : Nat → Nat} {st : State} (X : X3 F Γ cfg hs ι st)
    {k k' : Nat} {items : List Code}
    (hrun : (codeStatementR x86Backend hooks natRen prog.types (.letS x ty tag args next fv) Γ).run k =
      .ok (items, k'))
    (hat : XAt cs st.pc items)
    (hroom : Room hs (64 * args.length + 64))
    (hfit : fitsI64 (jumpLength pos) = true) :
    ∃ cfg' st' hs' ι' n, stepsTo P 2 cfg cfg' ∧ stepN mon px n st = .inl st' ∧ FrLe hs hs' (64 * args.length) ∧
      cfg'.out = cfg.out ∧ cfg'.next ≤ cfg.next + 1 ∧
      RelX P hooks prog ⟨Γ.take (Γ.length - args.length) ++ [⟨x, .prd, ty⟩],
        ρ.take (Γ.length - args.length) ++ [.obj pos (ρ.drop (Γ.length - args.length))], next⟩ cfg' ∧
      X3 F (Γ.take (Γ.length - args.length) ++ [⟨x, .prd, ty⟩]) cfg' hs' ι' st' ∧
      ∃ k1 k1' items', (codeStatementR x86Backend hooks natRen prog.types next
          (Γ.take (Γ.length - args.length) ++ [⟨x, .prd, ty⟩])).run k1 = .ok (items', k1') ∧
        XAt cs st'.pc items' := by
  obtain ⟨XK, S⟩ := X.toK
  obtain ⟨cfg', st', hs', ι', κ', kp', h1, ⟨n, h2, _⟩, rfl, h3, _, h4, h5, h6, X', k1, k1', items', h7, h8', LP⟩ :=
    ThreeWay.let_x3 (K.machine F H h8 mon hmon px cs L hnd True) R hk hfresh hpos hcap hnext (K.X3.toT H h8 XK) hrun hat rfl
      hroom hfit
  have X' := K.X3.ofT H h8 X'
  have LP : Prov.LetProv (K.tvOf F st) (K.tvOf F st') Γ (Γ.length - args.length) cfg cfg' _ κ' := LP
  exact ⟨cfg', st', hs', ι', n, h1, h2, h3, h4, h5, h6,
    X'.toData (S.let (Nat.sub_le _ _) LP (by intro e; cases e)), k1, k1', items', h7, h8'⟩

include H h8 hmon in
/-- `switch` on an object: `ThreeWay.switch_x3` at the x86-64 machine with addresses (jump table, then `Memory::load`
    of the clause), read on `X3` -/
theorem C06_switch_x86 (LA : LoadedA F.c px cs) (hnd : (labs cs).Nodup)
    (hfitX : addrAt F.c.codeBase cs cs.length < 2 ^ 64)
    {P : Program} {hooks : Bool} {prog : AxCut.Prog} {Γ' : Ctx} {b : Binding}
    {ρ' : List Value} {pos : Nat} {fields : List Value} {x : Ident} {ty : Ty} {clauses : Clauses}
    {fv : FV} {cfg : Config} {c : Clause}
    (R : RelX P hooks prog ⟨Γ' ++ [b], ρ' ++ [.obj pos fields], .switch x ty clauses fv⟩ cfg)
    (hfits : Fits P)
    (hb : b.var.id = x.id) (hfresh : ∀ b' ∈ Γ', b'.var.id ≠ x.id)
    (hclause : nthClause clauses pos = some c)
    (hkinds : fields.map Sim2.kindOf = Mock.kindsOf c.ctx)
    (hcap : 2 * (Γ'.length + c.ctx.length) + 2 < Mock.T_TEMP)
    {hs : HState} {ι : Nat → Nat} {st : State} (X : X3 F (Γ' ++ [b]) cfg hs ι st)
    {k k' : Nat} {items : List Code}
    (hrun : (codeStatementR x86Backend hooks natRen prog.types (.switch x ty clauses fv) (Γ' ++ [b])).run k =
      .ok (items, k'))
    (hat : XAt cs st.pc items)
    (hcapX : 2 * (Γ'.length + c.ctx.length) ≤ 266) :
    ∃ kk cfg' st' hs' n, stepsTo P kk cfg cfg' ∧ stepN mon px n st = .inl st' ∧ FrLe hs hs' 0 ∧
      cfg'.out = cfg.out ∧ cfg'.next = cfg.next ∧
      RelX P hooks prog ⟨Γ' ++ c.ctx, ρ' ++ fields, c.body⟩ cfg' ∧
      X3 F (Γ' ++ c.ctx) cfg' hs' ι st' ∧
      ∃ k1 k1' items', (codeStatementR x86Backend hooks natRen prog.types c.body (Γ' ++ c.ctx)).run k1 =
          .ok (items', k1') ∧ XAt cs st'.pc items' := by
  obtain ⟨XK, S⟩ := X.toK
  obtain ⟨kk, cfg', st', hs', kp', h1, ⟨n, h2, _⟩, rfl, h3, h4, h5, h6, X', k1, k1', items', h7, h8', LP⟩ :=
    ThreeWay.switch_x3 (K.machineN F H h8 mon hmon px cs LA hnd hfitX True) R hfits hb hfresh hclause hkinds hcap
      (K.X3.toT H h8 XK) hrun hat rfl (show _ ≤ 267 by omega)
  have X' := K.X3.ofT H h8 X'
  have LP : Prov.LoadProv (K.tvOf F st) (K.tvOf F st') Γ'.length c.ctx cfg cfg' _ := LP.toT
  exact ⟨kk, cfg', st', hs', n, h1, h2, h3, h4, h5, h6,
    X'.toData (S.load rfl LP (S.flds.steps h1 (h5 ▸ ids_of_href X'.href))), k1, k1', items', h7, h8'⟩

include H h8 hmon in
/-- `subst` on arbitrary contexts (erase, share, parallel moves): `ThreeWay.subst_x3` at the x86-64 machine, read on `X3` -/
theorem C06_subst_x86 (L : Loaded px cs) (hnd : (labs cs).Nodup)
    {P : Program} {hooks : Bool} {prog : AxCut.Prog} {Γ : Ctx} {ρ : List Value}
    {pairs : List (Binding × Ident)} {next : Stmt} {cfg : Config} {vs : List Value}
    (R : RelX P hooks prog ⟨Γ, ρ, .subst pairs next⟩ cfg)
    (hΓ : (Γ.map (·.var.id)).Nodup)
    (hnew : (pairs.map (·.1.var.id)).Nodup)
    (hold : ∀ p ∈ pairs, ∃ b ∈ Γ, b.var.id = p.2.id ∧ b.chi = p.1.chi)
    (hcap : 2 * pairs.length + 2 < Mock.T_TEMP)
    (hvs : Pos.step.build Γ ρ pairs = .ok vs)
    {hsX : HState} {ι : Nat → Nat} {st : State} (X : X3 F Γ cfg hsX ι st)
    {kx kx' : Nat} {items : List Code}
    (hrunX : (codeStatementR x86Backend hooks natRen prog.types (.subst pairs next) Γ).run kx = .ok (items, kx'))
    (hatX : XAt cs st.pc items)
    (hpl : pairs.length < 2 ^ 31) (hcapX : 2 * pairs.length ≤ 266) :
    ∃ k cfg' st' hs' n, stepsTo P k cfg cfg' ∧ stepN mon px n st = .inl st' ∧ FrLe hsX hs' 0 ∧
      cfg'.out = cfg.out ∧ cfg'.next = cfg.next ∧
      RelX P hooks prog ⟨pairs.map (·.1), vs, next⟩ cfg' ∧
      X3 F (pairs.map (·.1)) cfg' hs' ι st' ∧
      ∃ k1 k1' items', (codeStatementR x86Backend hooks natRen prog.types next (pairs.map (·.1))).run k1 =
          .ok (items', k1') ∧ XAt cs st'.pc items' := by
  obtain ⟨XK, S⟩ := X.toK
  obtain ⟨k, cfg', st', hs', kp', h1, ⟨n, h2, _⟩, rfl, h3, h4, h5, h6, X', k1, k1', items', h7, h8', SP⟩ :=
    ThreeWay.subst_x3 (K.machine F H h8 mon hmon px cs L hnd True) R hΓ hnew hold hcap hvs (K.X3.toT H h8 XK) hrunX hatX rfl
      hpl (show 2 * pairs.length ≤ 267 by omega)
  have X'' := K.X3.ofT H h8 X'
  exact ⟨k, cfg', st', hs', n, h1, h2, h3, h4, h5, h6,
    X''.toData (S.subst h1 (h5 ▸ ids_of_href X''.href) SP), k1, k1', items', h7, h8'⟩

end Heap

open Scc.Props.C06Generic (Reachable WithinCapacity CodeFits EnoughHeap)
open Scc.Props.C14Generic (LabelSafe)

/-- THE THREE-WAY STEP: every step of the positional machine on a statement of a program without closures
from a typed state in the three-way relation is reproduced by the x86-64 machine, and the relation holds
again (`StepSim3`: with output, bound on the object counter and on the heap frontier).  `htp` is not used. -/
theorem C06_step_x86 {F : Frame} (HF : FrameOK F) (h8 : F.c.heapBase % 8 = 0) {mon : MonCfg}
    (hmon : mon.mach = F.c) {px : X86.Prog} {cs pre : List Code} (LA : LoadedA F.c px cs)
    (hnd : (labs cs).Nodup) (hfitX : addrAt F.c.codeBase cs cs.length < 2 ^ 64) (hcs : cs = pre ++ cleanup)
    (hclean : "cleanup" ∉ labs pre) {st0 : State} {h : Word} (E : EntryFacts F st0 h)
    (hooks : Bool) (prog : AxCut.Prog) (c : Nat) (code : List MockOp) (nargs c' : Nat)
    (hcomp : (compile mockSym hooks prog).run c = .ok ((code, nargs), c'))
    (hsafe : LabelSafe prog = true) (htp : LinTypedProg prog) (hfit : CodeFits code)
    (DX : XDefsAt cs hooks prog) (hprog : ProgOK prog)
    (st : Pos.State) (cfg : Config) (hs : HState) (X : State)
    (R : Rel3 F cs (Program.ofOps code) hooks prog st cfg hs X)
    (T : Pos.StateTyped prog st) (hheap : EnoughHeap cfg) (hok : StmtOK st.stmt)
    (hroom : Room hs (64 * 134)) :
    StepSim3 F mon px cs (Program.ofOps code) hooks prog st cfg hs X :=
  step3 HF h8 hmon LA hnd hfitX hcs hclean E hooks prog c code nargs c' hcomp hsafe hfit DX hprog st cfg hs X
    R T hheap hok hroom

/-- programs with data types: no closures (`Scc.A64.DataProg`, Props/C07A64Heap.lean, has the same body; each backend's statements name their own) -/
def DataProg (p : AxCut.Prog) : Prop := ∀ d ∈ p.defs, DataStmt d.body

/-- the run theorem for programs with data types on the ITEMS of the emitted routine without the side hypotheses of
    `C06_data_programs` and with the heap bound existentially quantified.  No theorem concludes it in this generality;
    with the side hypotheses derived from `LabelSafe` and the checks `C06_x86Checks`: `C06_programs_text`,
    `C06_statement_checked_holds` (Props/C06X86Full.lean, all programs). -/
def C06_data_programs_statement : Prop :=
  ∀ (p : AxCut.Prog) (args : List Word) (hooks : Bool) (body routine : List Code) (nargs : Nat) (d0 : Def),
    LabelSafe p = true → LinTypedProg p → DataProg p → ProgInRange p →
    compileX86 p hooks 0 = .ok (body, nargs) → intoRoutine body nargs = .ok routine →
    p.defs.head? = some d0 → (∀ b ∈ d0.ctx, b.chi = .ext ∧ b.ty = .i64) →
    (∀ st, Reachable p ⟨d0.ctx, args.map .int, d0.body⟩ st → WithinCapacity st.ctx) →
    ∀ (fuel : Nat) (out : List (Bool × Word)) (v : Word), Pos.run p args fuel = ⟨out, .done v⟩ →
    ∃ heapBytes, ∀ (cfg : MonCfg), MachOK cfg.mach → cfg.mach.heapBase % 8 = 0 →
      heapBytes ≤ cfg.mach.heapBytes → cfg.heap = false →
      ∀ (items : List (Code × Nat)), (items.map (·.1)).map stripC = routine.map stripC →
      ∃ fuel', (runItems items args fuel' cfg).out = out ∧ (runItems items args fuel' cfg).res = .done v

/-- THEOREM A ∘ THEOREM B FOR PROGRAMS WITH DATA TYPES (no closures), on the ITEMS of the emitted routine:
a terminating run of the AxCut positional machine is reproduced — same trace, same result — by the x86-64
SPEC machine started at `asm_main` on any item list that agrees with the emitted routine up to the text of
comments.  Side hypotheses (all decidable on the program, the emitted code or the machine configuration):
the mock code generator succeeds and its code fits the address space (`hcompM`, `hfit`: Theorem A), the
labels of the routine are pairwise distinct (`hnd`), the routine ends below 2^64 (`hfitX`), every context
of the run has at most 133 variables (utils.rs temporary_from_position), the heap has 64·134 bytes per
step of the run, `0 < heapBase` and `heapBase % 8 = 0`. -/
theorem C06_data_programs (p : AxCut.Prog) (args : List Word) (hooks : Bool) (body routine : List Code)
    (nargs : Nat) (d0 : Def) (ops : List MockOp) (c' : Nat)
    (hsafe : LabelSafe p = true) (htp : LinTypedProg p) (hdata : DataProg p) (hrange : ProgInRange p)
    (hcompM : (compile mockSym hooks p).run 0 = .ok ((ops, nargs), c')) (hfit : CodeFits ops)
    (hcompX : compileX86 p hooks 0 = .ok (body, nargs)) (hrout : intoRoutine body nargs = .ok routine)
    (hnd : (labs routine).Nodup)
    (hd : p.defs.head? = some d0) (hentry : ∀ b ∈ d0.ctx, b.chi = .ext ∧ b.ty = .i64)
    (hcap : ∀ st, Reachable p ⟨d0.ctx, args.map .int, d0.body⟩ st → 2 * st.ctx.length ≤ 266)
    (fuel : Nat) (out : List (Bool × Word)) (v : Word) (hfuel : fuel + 1 < 2 ^ 64)
    (hrun : Pos.run p args fuel = ⟨out, .done v⟩)
    (cfg : MonCfg) (MO : MachOK cfg.mach) (hheap : cfg.heap = false)
    (hb8 : cfg.mach.heapBase % 8 = 0) (hb0 : 0 < cfg.mach.heapBase)
    (hbytes : 128 + 64 * 134 * fuel ≤ cfg.mach.heapBytes)
    (items : List (Code × Nat)) (hitems : (items.map (·.1)).map stripC = routine.map stripC)
    (hfitX : addrAt cfg.mach.codeBase routine routine.length < 2 ^ 64) :
    ∃ fuel', (runItems items args fuel' cfg).out = out ∧ (runItems items args fuel' cfg).res = .done v :=
  data_programs_items p args hooks body routine nargs d0 ops c' hsafe htp
    ⟨hrange.1, fun d hd => ⟨hdata d hd, hrange.2 d hd⟩⟩ hcompM hfit hcompX hrout hnd hd hentry hcap fuel out v
    hfuel hrun cfg MO hheap hb8 hb0 hbytes items hitems hfitX

/-- what `mkProg` builds is loaded with addresses (the world of `C06_switch_x86`) -/
theorem C06_loadedA (c : MachCfg) (items : List (Code × Nat)) (cs : List Code)
    (h : (items.map (·.1)).map stripC = cs.map stripC) : LoadedA c (mkProg c items) cs :=
  loadedA_mkProg c items cs h

/-! ### non-vacuity: objects (let, subst with duplication = share, switch shared and unique) -/

def C06_tBox : Ty := .decl ⟨"Box", 0⟩
def C06_boxDecl : TypeDecl := { name := ⟨"Box", 0⟩, xtors := [⟨⟨"B", 0⟩, [⟨⟨"v", 102⟩, .ext, .i64⟩]⟩] }

/-- main(x) { let b = B(x); subst (b1 := b)(b2 := b); switch b2 { B(y) => subst (y := y)(b1 := b1);
      switch b1 { B(z) => s <- y + z; println s; exit s } } } -/
def C06_boxMain : Def :=
  { name := ⟨"main", 0⟩, ctx := [⟨⟨"x", 1⟩, .ext, .i64⟩],
    body := .letS ⟨"b", 2⟩ C06_tBox ⟨"B", 0⟩ [⟨⟨"x", 1⟩, .ext, .i64⟩]
      (.subst [(⟨⟨"b1", 3⟩, .prd, C06_tBox⟩, ⟨"b", 2⟩), (⟨⟨"b2", 4⟩, .prd, C06_tBox⟩, ⟨"b", 2⟩)]
        (.switch ⟨"b2", 4⟩ C06_tBox
          (.cons ⟨"B", 0⟩ [⟨⟨"y", 5⟩, .ext, .i64⟩]
            (.subst [(⟨⟨"y", 6⟩, .ext, .i64⟩, ⟨"y", 5⟩), (⟨⟨"b1", 7⟩, .prd, C06_tBox⟩, ⟨"b1", 3⟩)]
              (.switch ⟨"b1", 7⟩ C06_tBox
                (.cons ⟨"B", 0⟩ [⟨⟨"z", 8⟩, .ext, .i64⟩]
                  (.op ⟨"s", 9⟩ ⟨"y", 6⟩ .sum ⟨"z", 8⟩
                    (.print true ⟨"s", 9⟩ (.exit ⟨"s", 9⟩) none) none) .nil) none))
            .nil) none)) none }

def C06_boxProg : AxCut.Prog := { defs := [C06_boxMain], types := [C06_boxDecl], maxId := 102 }

def C06_boxOps : List MockOp :=
  match (compile mockSym true C06_boxProg).run 0 with
  | .ok ((code, _), _) => code
  | .error _ => []

def C06_boxBody : List Code :=
  match compileX86 C06_boxProg true 0 with
  | .ok (body, _) => body
  | .error _ => []

def C06_boxRoutine : List Code :=
  match intoRoutine C06_boxBody 1 with
  | .ok r => r
  | .error _ => []

theorem C06_boxProg_inRange : ProgInRange C06_boxProg := by
  refine ⟨?_, ?_⟩
  · intro d hd
    simp only [C06_boxProg, List.mem_singleton] at hd
    subst hd
    simp [C06_boxDecl, maxTagsX86]
  · intro d hd
    simp only [C06_boxProg, List.mem_singleton] at hd
    subst hd
    simp [C06_boxMain, StmtB, ClausesB, maxSubstX86]

theorem C06_boxProg_data : DataProg C06_boxProg := by
  intro d hd
  simp only [C06_boxProg, List.mem_singleton] at hd
  subst hd
  simp [C06_boxMain, DataStmt, DataClauses]

/-- 266-capacity of all reachable states, checked on the finitely many states of a terminating run -/
theorem C06_capacity_of_run (prog : AxCut.Prog) (fuel : Nat) (st0 : Pos.State)
    (hstop : Scc.Props.C06Generic.stopsWithin prog fuel st0 = true)
    (hall : (Scc.Props.C06Generic.statesOf prog fuel st0).all (fun st => decide (2 * st.ctx.length ≤ 266)) = true) :
    ∀ st, Reachable prog st0 st → 2 * st.ctx.length ≤ 266 := by
  intro st hr
  have := Scc.Props.C06Generic.reachable_mem_statesOf prog fuel st0 st hstop hr
  rw [List.all_eq_true] at hall
  simpa using hall st this

/-! the decidable hypotheses of the run theorems, for the box program started with x = 21 -/

theorem C06_boxProg_compiles :
    (∃ k, (compile mockSym true C06_boxProg).run 0 = .ok ((C06_boxOps, 1), k)) ∧
    compileX86 C06_boxProg true 0 = .ok (C06_boxBody, 1) ∧ intoRoutine C06_boxBody 1 = .ok C06_boxRoutine :=
  ⟨⟨_, rfl⟩, rfl, rfl⟩

theorem C06_boxProg_labelSafe : LabelSafe C06_boxProg = true := by decide

theorem C06_boxProg_typed : LinTypedProg C06_boxProg := linTypedCheck_sound C06_boxProg rfl

theorem C06_boxRoutine_fits :
    addrAt ({} : MachCfg).codeBase C06_boxRoutine C06_boxRoutine.length < 2 ^ 64 :=
  routine_fits C06_boxProg_typed C06_boxProg_compiles.2.1 C06_boxProg_compiles.2.2 _ (by decide)

theorem C06_boxOps_fits : CodeFits C06_boxOps := by
  obtain ⟨k, h⟩ := C06_boxProg_compiles.1
  exact codeFits_of_size C06_boxProg_typed (by decide) h

theorem C06_boxRoutine_nodup : (labs C06_boxRoutine).Nodup :=
  labels_unique_x86 C06_boxProg_labelSafe C06_boxProg_compiles.2.1 C06_boxProg_compiles.2.2

theorem C06_boxMain_entry : ∀ b ∈ C06_boxMain.ctx, b.chi = .ext ∧ b.ty = .i64 := by decide

theorem C06_boxProg_capacity : ∀ st, Reachable C06_boxProg
    ⟨C06_boxMain.ctx, ([21] : List Word).map .int, C06_boxMain.body⟩ st → 2 * st.ctx.length ≤ 266 :=
  C06_capacity_of_run C06_boxProg 20 _ (by decide) (by decide)

theorem C06_boxProg_run : Pos.run C06_boxProg [21] 20 = ⟨[(true, 42)], .done 42⟩ := by decide

/-- the box program started with x = 21: every hypothesis of `C06_data_programs` holds, so the x86-64
machine on the items of the emitted routine prints 42 and returns 42 (the block is allocated by `let`,
shared by `subst`, loaded once shared and once unique — and freed) -/
example : ∃ fuel',
    (runItems (C06_boxRoutine.map fun c => (c, 0)) [21] fuel' {}).out = [(true, 42)] ∧
    (runItems (C06_boxRoutine.map fun c => (c, 0)) [21] fuel' {}).res = .done 42 := by
  obtain ⟨⟨c', hcompM⟩, hcompX, hrout⟩ := C06_boxProg_compiles
  have hrun := C06_boxProg_run
  exact C06_data_programs C06_boxProg [21] true C06_boxBody C06_boxRoutine 1 C06_boxMain C06_boxOps c'
    C06_boxProg_labelSafe C06_boxProg_typed C06_boxProg_data C06_boxProg_inRange hcompM
    C06_boxOps_fits hcompX hrout C06_boxRoutine_nodup rfl C06_boxMain_entry
    C06_boxProg_capacity 20 _ _ (by decide) hrun {}
    machOK_default rfl (by decide) (by decide) (by decide)
    (C06_boxRoutine.map fun c => (c, 0)) (by simp [List.map_map, Function.comp]) C06_boxRoutine_fits

end Scc.X86

#print axioms Scc.X86.C06_store_refines
#print axioms Scc.X86.C06_load_refines
#print axioms Scc.X86.C06_let_x86
#print axioms Scc.X86.C06_switch_x86
#print axioms Scc.X86.C06_subst_x86
#print axioms Scc.X86.C06_step_x86
#print axioms Scc.X86.C06_data_programs
#print axioms Scc.X86.C06_loadedA

#print axioms Scc.X86.C06_boxProg_inRange
#print axioms Scc.X86.C06_boxProg_data
#print axioms Scc.X86.C06_capacity_of_run
#print axioms Scc.X86.C06_boxRoutine_fits
