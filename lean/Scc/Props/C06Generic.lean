/-
  Scc.Props.C06Generic — Theorem A (C06–C08, the GENERIC simulation): one step of the AxCut positional
  machine (Scc/AxCut/SemPos.lean) on a linearized program is simulated by steps of the abstract
  backend machine (Scc/Backend/AbstractMachine.lean) on the code that the generic code generator
  produces with the mock backend.  The file holds the statements, their proofs from the step lemmas of
  Scc/Backend/Proofs*.lean, and the vocabulary in which the run theorems of the three backends are stated
  (`Reachable`, `WithinCapacity`, `CodeFits`, `EnoughHeap`, `IntProg`, `stopsWithin`, `capacity_of_run`;
  `outAfter` and `statesOf` are in Scc/AxCut/PosRun.lean).

  Proved, for EVERY statement form (lit op print ifc exit call subst let switch create invoke):
  * `TheoremA_full`  (= `TheoremA_full_statement`): every step of the positional machine from a typed,
      represented state is simulated, and the new state is represented again.
  * `TheoremA_run`   (= `TheoremA_run_full_statement`): every terminating run of a label-safe,
      linearly typed program is reproduced by the abstract machine on the generated code: same trace,
      same result (the one induction of Scc/Backend/Track.lean; the initial configuration represents the
      initial state by `Kit.Rel.init`, every definition's code is at its label by `defsAt_of_compile`).
  * `TheoremA_load` (`switch`, `invoke`) and `TheoremA_subst` (`subst` with object / closure variables)
      restate `TheoremA_full` for these statement forms; the proofs are `load_sim`, `sim2_switch`,
      `sim2_invoke` (Scc/Backend/ProofsLoad.lean: unique block freed and its children taken over, shared
      block decremented and its children shared) and `sim2_subst`, `run_cwc` (ProofsSubstObj.lean: `erase` /
      `share` against the counting invariant, moves of both temporaries of a position), `eraseLoop_ok`
      (ProofsErase.lean), `conns_wf2` (ProofsConn2.lean).
  * against the weaker relation `Sim.Rel`: `TheoremA_heapfree` (lit op print ifc exit call, and subst on
      integer contexts), `TheoremA_alloc` (`let`, `create`), `TheoremA_run_int`, `TheoremA_init`.  The steps
      `lit op print ifc exit call let create` are proved once, for any representation of values (`Sim.Kit`,
      ProofsSim.lean and ProofsHeap.lean); `Sim.Rel` and `Sim2.RelX` are instances (`rel_iff`, `relX_iff`).

  The representation relation of `TheoremA_full` is `Sim2.Rel2` (Scc/Backend/SimDefs2.lean), a
  STRENGTHENING of `Sim.Rel` (SimDefs.lean): position i's value is represented by the
  temporaries 2i (pointer part) and 2i+1 (word part); objects and closure environments live in the
  abstract heap, reference counts are exact (`HeapOK`); the code of the current statement is at the
  program counter.  It differs in two respects (both needed for `switch`/`invoke`, see SimDefs2.lean):
    (1) every heap field and every position carries the exact KIND (`prd`/`cns`/`ext`) of the value it
        represents (`load` compares the full kind lists: `load: kind-mismatch`); `Sim.Rel` records only
        "is `ext`";
    (2) the code at the program counter / of a closure's methods is the code generated for SOME
        context with the same KEYS (ids, kinds, types) as the positional machine's context: `create`
        generates the method code for the context suffix it splits off, `LinTyped` relates that
        suffix to the annotated environment only up to names, and names influence the emitted code
        (`transpose` iterates a `BTreeMap` ordered by name first).

  `TheoremA_statement` is the text of the property as it is first formalised: relation `Sim.Rel`, only the
  statement typed.  It is FALSE (`TheoremA_statement_false` at the end of this file: `Sim.Rel` does not record
  whether a heap field is `prd` or `cns` and the statement does not ask for typed values, so a `switch` on
  an object whose field is stored with another kind than the clause declares is a step of the
  positional machine, but the abstract `load` is stuck).  `TheoremA_run_statement` is its corollary for runs (with
  the capacity of every context of the run as a hypothesis, without (b)–(d) below); it is neither proved nor
  refuted here.  The proved statements
  differ from these two exactly by:
    (a) `Rel2` instead of `Rel` ((1), (2) above) and `Pos.StateTyped` (the environment is typed:
        `FieldsTyped`, an invariant of the run by `Pos.step_safe`) instead of `LinTyped` of the statement
        only;
    (b) `CodeFits code` (fewer than 2^64 instructions): the machine jumps through 64-bit words
        (`jump t` goes to `(value t).toNat`), so code addresses must fit a word;
    (c) `EnoughHeap cfg` (next object id below 2^64; also a hypothesis of `TheoremA_alloc`), in
        `TheoremA_run`: `fuel + 1 < 2^64` (the abstract heap never reuses ids; at most one allocation
        per step of the positional machine);
    (d) in `TheoremA_run`: the entry's parameters are `ext i64` (not only `ext`), to start the typing
        invariant (`Pos.ValTyped.int` types integers at `i64`).
  None of these excludes a program or a run of the real pipeline (all are decidable on the program /
  checked on the finite run, cf. the non-vacuity examples at the end: a program with objects that are
  shared, loaded shared and unique, and a program with a closure that is moved and invoked).
-/
import Scc.Backend.ProofsSubst
import Scc.Backend.ProofsHeap
import Scc.Backend.ProofsSubstObj
import Scc.Backend.ProofsLoad
import Scc.Backend.ProofsHeap2
import Scc.Backend.ProofsKeys
import Scc.AxCut.LinTyping
import Scc.AxCut.PosSafe
import Scc.AxCut.PosStep
import Scc.Props.C14Generic
import Scc.Backend.Track
import Scc.AxCut.PosRun

namespace Scc.Props.C06Generic

open Scc.AxCut Scc.AxCut.Pos Scc.Backend Scc.Backend.Abs Scc.Backend.Sim Scc.Backend.Subst
open Scc.Props.C14Generic (LabelSafe)

/-- capacity of the mock numbering (temporaries of positions stay below the special temporaries) -/
def WithinCapacity (Γ : Ctx) : Prop := 2 * Γ.length + 2 < Mock.T_TEMP

/-- the simulation claim for ONE step of the positional machine from a represented state
    (`k` machine steps; `k = 0` only for a `subst` that needs no move, e.g. the identity) -/
def StepSimulated (P : Program) (hooks : Bool) (prog : Prog) (st : Pos.State) (cfg : Config) : Prop :=
  match Pos.step prog st with
  | .next st' o =>
    WithinCapacity st'.ctx →
    ∃ k cfg', stepsTo P k cfg cfg' ∧ cfg'.out = outAfter o cfg.out ∧ Rel P hooks prog st' cfg'
  | .done v =>
    ∃ k cfg', stepsTo P k cfg cfg' ∧ cfg'.out = cfg.out ∧ Abs.step P cfg' = .halt (.done v)
  | .stuck _ => True

/-- THEOREM A as the property text is first formalised (relation `Sim.Rel`, only the statement typed): for
    the code of a label-safe, linearly typed program, every step of the positional machine from a
    represented state is simulated.  FALSE (`TheoremA_statement_false`); the formulation that is proved is
    `TheoremA_full_statement` (`TheoremA_full`). -/
def TheoremA_statement : Prop :=
  ∀ (hooks : Bool) (prog : Prog) (c : Nat) (code : List MockOp) (nargs c' : Nat),
    (compile mockSym hooks prog).run c = .ok ((code, nargs), c') →
    LabelSafe prog = true → LinTypedProg prog →
    ∀ (st : Pos.State) (cfg : Config),
      Rel (Program.ofOps code) hooks prog st cfg →
      LinTyped prog.types prog.sigs st.ctx st.stmt →
      StepSimulated (Program.ofOps code) hooks prog st cfg

inductive Reachable (prog : Prog) (st0 : Pos.State) : Pos.State → Prop where
  | refl : Reachable prog st0 st0
  | step {st st' : Pos.State} {o : Option (Bool × Word)} :
    Reachable prog st0 st → Pos.step prog st = .next st' o → Reachable prog st0 st'

/-- the corollary of `TheoremA_statement` for whole runs: a terminating run of the positional machine is
    reproduced, trace and result, by the abstract machine on the generated code (for some amount of
    fuel).  Neither proved nor refuted; `TheoremA_run` (`TheoremA_run_full_statement`) proves it with three
    more hypotheses: `CodeFits code`, entry parameters of type `i64`, `fuel + 1 < 2^64`. -/
def TheoremA_run_statement : Prop :=
  ∀ (hooks : Bool) (prog : Prog) (c : Nat) (code : List MockOp) (nargs c' : Nat) (d0 : Def)
    (args : List Word) (fuel : Nat) (out : List (Bool × Word)) (v : Word),
    (compile mockSym hooks prog).run c = .ok ((code, nargs), c') →
    LabelSafe prog = true → LinTypedProg prog → prog.defs.head? = some d0 →
    (∀ b ∈ d0.ctx, b.chi = .ext) →
    -- every context of the run is within capacity
    (∀ st, Reachable prog ⟨d0.ctx, args.map .int, d0.body⟩ st → WithinCapacity st.ctx) →
    Pos.run prog args fuel = ⟨out, .done v⟩ →
    ∃ fuel', Abs.run code (d0.name.print ++ "_") args fuel' = ⟨out, .done v⟩

def IntCtx (Γ : Ctx) : Prop := ∀ b ∈ Γ, b.chi = .ext

/-- the statement forms that neither read nor change the heap (`subst`: on integer contexts) -/
def HeapFree (Γ : Ctx) : Stmt → Prop
  | .lit _ _ _ _ => True
  | .op _ _ _ _ _ _ => True
  | .print _ _ _ _ => True
  | .ifc _ _ _ _ _ => True
  | .exit _ => True
  | .call _ _ => True
  | .subst _ _ => IntCtx Γ
  | _ => False

theorem fresh_of_not_mem_ids {Γ : Ctx} {x : Ident} (h : x.id ∉ Γ.ids) : ∀ b ∈ Γ, b.var.id ≠ x.id := by
  intro b hb e
  apply h
  unfold Ctx.ids
  exact List.mem_map.mpr ⟨b, hb, e⟩

/-- THEOREM A for the heap-free statement forms (one machine step each; `subst`: the moves it needs,
    possibly none). -/
theorem TheoremA_heapfree (hooks : Bool) (prog : Prog) (c : Nat) (code : List MockOp) (nargs c' : Nat)
    (hcomp : (compile mockSym hooks prog).run c = .ok ((code, nargs), c'))
    (hsafe : LabelSafe prog = true)
    (st : Pos.State) (cfg : Config)
    (R : Rel (Program.ofOps code) hooks prog st cfg)
    (hty : LinTyped prog.types prog.sigs st.ctx st.stmt)
    (hf : HeapFree st.ctx st.stmt) :
    StepSimulated (Program.ofOps code) hooks prog st cfg := by
  have hnodup := C14Generic.labels_unique hooks prog c code nargs c' hcomp hsafe
  have D := defsAt_of_compile hooks prog c code nargs c' hcomp hnodup
  have RG := rel_iff.mp R
  unfold StepSimulated
  cases hs : Pos.step prog st with
  | stuck _ => trivial
  | done v =>
    obtain ⟨a, hst, ha⟩ := Pos.step_done_iff.mp hs
    obtain ⟨Γ, ρ, s⟩ := st
    subst hst
    obtain ⟨cfg', h1, h2, h3⟩ := RG.exit ha
    exact ⟨1, cfg', h1, h2, h3⟩
  | next st' o =>
    simp only
    intro hcap
    cases Pos.step_next hs with
    | lit =>
      cases hty with
      | lit _ hfr _ =>
        obtain ⟨cfg', h1, h2, _, h3⟩ := RG.lit (fresh_of_not_mem_ids hfr)
          (by simpa [WithinCapacity] using hcap)
        exact ⟨1, cfg', h1, h2, rel_iff.mpr h3⟩
    | op ha hb hv =>
      cases hty with
      | op _ _ _ hfr _ =>
        obtain ⟨cfg', h1, h2, _, h3⟩ := RG.op (fresh_of_not_mem_ids hfr)
          (by simpa [WithinCapacity] using hcap) ha hb hv
        exact ⟨1, cfg', h1, h2, rel_iff.mpr h3⟩
    | print ha =>
      obtain ⟨cfg', h1, h2, _, h3⟩ := RG.print ha
      exact ⟨1, cfg', h1, h2, rel_iff.mpr h3⟩
    | ifz ha =>
      obtain ⟨cfg', h1, h2, _, h3⟩ := RG.ifc (b := none) (vb := 0) ha rfl
      exact ⟨1, cfg', h1, h2, rel_iff.mpr h3⟩
    | ifc ha hb =>
      obtain ⟨cfg', h1, h2, _, h3⟩ := RG.ifc (b := some _) ha hb
      exact ⟨1, cfg', h1, h2, rel_iff.mpr h3⟩
    | call hd hchi _ =>
      obtain ⟨cfg', h1, h2, _, h3⟩ := RG.call D hd hchi
      exact ⟨1, cfg', h1, h2, rel_iff.mpr h3⟩
    | @subst Γ ρ pairs next vs hb =>
      have hext : IntCtx Γ := hf
      cases hty with
      | subst hnd hhas hnew _ =>
        have hnew' : (pairs.map (·.1.var.id)).Nodup := by
          have : ((pairs.map (·.1)).map (·.var.id)).Nodup := hnew
          rw [List.map_map] at this
          exact this
        obtain ⟨k, cfg', h1, h2, h3⟩ := sim_subst R hnd hext hnew'
          (fun p hp => by
            obtain ⟨b, hb', _, hchi, _⟩ := hhas p hp
            rw [← hchi]; exact hext b hb')
          (fun p hp => by
            obtain ⟨b, hb', hid, _, _⟩ := hhas p hp
            exact ⟨b, hb', hid⟩)
          (by simpa [WithinCapacity] using hcap) hb
        exact ⟨k, cfg', h1, h2, h3⟩
    | letS _ _ _ => exact hf.elim
    | switch _ _ _ _ _ _ => exact hf.elim
    | create _ _ => exact hf.elim
    | invoke _ _ _ _ _ _ _ => exact hf.elim

/-- enough heap: object references fit a word -/
def EnoughHeap (cfg : Config) : Prop := cfg.next < 2 ^ 64

def AllocOK (Γ : Ctx) (cfg : Config) : Stmt → Prop
  | .letS _ _ _ _ _ _ => EnoughHeap cfg
  | .create _ _ env _ _ _ _ =>
    EnoughHeap cfg ∧ ∀ Γc, env = some Γc → Γc = Γ.drop (Γ.length - Γc.length)
  | _ => False

theorem take_of_append {Γ Γ' Γa : Ctx} (h : Γ = Γ' ++ Γa) : Γ.take (Γ.length - Γa.length) = Γ' := by
  subst h; simp

/-- THEOREM A for `let` and `create` (two machine steps each: `store`, then the tag / table address). -/
theorem TheoremA_alloc (hooks : Bool) (prog : Prog) (code : List MockOp)
    (st : Pos.State) (cfg : Config)
    (R : Rel (Program.ofOps code) hooks prog st cfg)
    (hty : LinTyped prog.types prog.sigs st.ctx st.stmt)
    (ha : AllocOK st.ctx cfg st.stmt) :
    StepSimulated (Program.ofOps code) hooks prog st cfg := by
  have RG := rel_iff.mp R
  unfold StepSimulated
  cases hs : Pos.step prog st with
  | stuck _ => trivial
  | done v =>
    obtain ⟨a, hst, _⟩ := Pos.step_done_iff.mp hs
    rw [hst] at ha
    exact ha.elim
  | next st' o =>
    simp only
    intro hcap
    cases Pos.step_next hs with
    | @letS Γ ρ x ty tag args next fv pos hk _ hpos =>
      cases hty with
      | @letS _ Γ' Γa _ _ _ _ sig _ _ _ hsplit hkeys _ _ hfr _ =>
        have hlenA : Γa.length = args.length := by
          have := congrArg List.length hkeys
          simpa [Ctx.keys] using this
        have htake : Γ.take (Γ.length - args.length) = Γ' := by
          rw [← hlenA]; exact take_of_append hsplit
        obtain ⟨cfg', h1, h2, _, h3⟩ := RG.letS hk
          (by rw [htake]; exact fresh_of_not_mem_ids hfr) hpos
          (by simpa [WithinCapacity] using hcap) ha
        exact ⟨2, cfg', h1, h2, rel_iff.mpr h3⟩
    | @create Γ ρ x ty Γc clauses next f1 f2 hk _ =>
      cases hty with
      | @create _ Γn Γe _ _ _ _ _ _ _ _ _ hsplit hkeys _ _ _ hfr _ =>
        obtain ⟨hheap, hann⟩ := ha
        have hlenE : Γe.length = Γc.length := by
          have := congrArg List.length hkeys
          simpa [Ctx.keys] using this
        have htake : Γ.take (Γ.length - Γc.length) = Γn := by
          rw [← hlenE]; exact take_of_append hsplit
        obtain ⟨cfg', h1, h2, _, h3⟩ := RG.create hk (hann Γc rfl)
          (by rw [htake]; exact fresh_of_not_mem_ids hfr)
          (by simpa [WithinCapacity] using hcap) hheap
        exact ⟨2, cfg', h1, h2, rel_iff.mpr h3⟩
    | lit => exact ha.elim
    | op _ _ _ => exact ha.elim
    | print _ => exact ha.elim
    | ifz _ => exact ha.elim
    | ifc _ _ => exact ha.elim
    | call _ _ _ => exact ha.elim
    | subst _ => exact ha.elim
    | switch _ _ _ _ _ _ => exact ha.elim
    | invoke _ _ _ _ _ _ _ => exact ha.elim

/-- statements of integer programs: no `let`, `switch`, `create`, `invoke` -/
def IntStmt : Stmt → Prop
  | .lit _ _ next _ => IntStmt next
  | .op _ _ _ _ next _ => IntStmt next
  | .print _ _ next _ => IntStmt next
  | .ifc _ _ _ t e => IntStmt t ∧ IntStmt e
  | .exit _ => True
  | .call _ _ => True
  | .subst _ next => IntStmt next
  | _ => False

/-- integer programs: every definition has integer parameters and an integer body -/
def IntProg (prog : Prog) : Prop := ∀ d ∈ prog.defs, IntCtx d.ctx ∧ IntStmt d.body

/-- the invariant of the run: typed, integer statement, integer context -/
def IntState (prog : Prog) (st : Pos.State) : Prop :=
  LinTyped prog.types prog.sigs st.ctx st.stmt ∧ IntStmt st.stmt ∧ IntCtx st.ctx

theorem intCtx_snoc {Γ : Ctx} (h : IntCtx Γ) (b : Binding) (hb : b.chi = .ext) : IntCtx (Γ ++ [b]) := by
  intro b' hb'
  simp only [List.mem_append, List.mem_singleton] at hb'
  rcases hb' with hb' | rfl
  · exact h b' hb'
  · exact hb

theorem intState_step {prog : Prog} (htp : LinTypedProg prog) (hip : IntProg prog) {st st' : Pos.State}
    {o : Option (Bool × Word)} (I : IntState prog st) (hs : Pos.step prog st = .next st' o) :
    IntState prog st' := by
  obtain ⟨hty, hint, hctx⟩ := I
  cases Pos.step_next hs with
  | lit => cases hty with | lit _ _ hnext => exact ⟨hnext, hint, intCtx_snoc hctx _ rfl⟩
  | op _ _ _ => cases hty with | op _ _ _ _ hnext => exact ⟨hnext, hint, intCtx_snoc hctx _ rfl⟩
  | print _ => cases hty with | print _ _ hnext => exact ⟨hnext, hint, hctx⟩
  | ifz _ =>
    cases hty with
    | ifc _ _ _ ht he =>
      refine ⟨by simp only; split <;> assumption, ?_, hctx⟩
      simp only; split
      · exact hint.1
      · exact hint.2
  | ifc _ _ =>
    cases hty with
    | ifc _ _ _ ht he =>
      refine ⟨by simp only; split <;> assumption, ?_, hctx⟩
      simp only; split
      · exact hint.1
      · exact hint.2
  | call hd _ _ =>
    have hmem := List.mem_of_find?_eq_some hd
    exact ⟨htp _ hmem, (hip _ hmem).2, (hip _ hmem).1⟩
  | subst _ =>
    cases hty with
    | subst _ hhas _ hnext =>
      refine ⟨hnext, hint, ?_⟩
      intro b hb
      obtain ⟨p, hp, rfl⟩ := List.mem_map.mp hb
      obtain ⟨b0, hb0, _, hchi, _⟩ := hhas p hp
      rw [← hchi]; exact hctx b0 hb0
  | letS _ _ _ => exact hint.elim
  | switch _ _ _ _ _ _ => exact hint.elim
  | create _ _ => exact hint.elim
  | invoke _ _ _ _ _ _ _ => exact hint.elim

theorem heapFree_of_int {prog : Prog} {st : Pos.State} (I : IntState prog st) :
    HeapFree st.ctx st.stmt := by
  obtain ⟨Γ, ρ, s⟩ := st
  obtain ⟨_, hint, hctx⟩ := I
  cases s with
  | subst _ _ => exact hctx
  | letS _ _ _ _ _ _ => exact hint.elim
  | switch _ _ _ _ => exact hint.elim
  | create _ _ _ _ _ _ _ => exact hint.elim
  | invoke _ _ _ _ => exact hint.elim
  | _ => trivial

theorem reachable_prepend {prog : Prog} {st st1 st' : Pos.State} {o : Option (Bool × Word)}
    (hs : Pos.step prog st = .next st1 o) (h : Reachable prog st1 st') : Reachable prog st st' := by
  induction h with
  | refl => exact Reachable.step Reachable.refl hs
  | step _ hs' ih => exact Reachable.step ih hs'

theorem runFrom_steps (P : Program) : ∀ (k n : Nat) (cfg cfg' : Config), stepsTo P k cfg cfg' →
    Abs.runFrom P (k + n) cfg = Abs.runFrom P n cfg'
  | 0, n, cfg, cfg', h => by simp only [stepsTo] at h; subst h; simp
  | k + 1, n, cfg, cfg', h => by
    obtain ⟨c1, hs, h'⟩ := h
    rw [show k + 1 + n = (k + n) + 1 by omega]
    simp only [Abs.runFrom, hs]
    exact runFrom_steps P k n c1 cfg' h'

/-- A terminating run of the positional machine is reproduced by the abstract machine, if an invariant
    between the states of the two (`I`, indexed by a budget of steps) is carried over every step
    (`Track`, Backend/Track.lean) and a final step is simulated. -/
theorem run_of_track {P : Program} {prog : Prog}
    {I : Nat → Pos.State → List (Bool × Word) → Config → Prop}
    (T : Track.Track (stepsTo P) prog I (fun _ => 0))
    (hdone : ∀ {r st acc cfg v}, I (r + 1) st acc cfg → Pos.step prog st = .done v →
      ∃ k cfg', stepsTo P k cfg cfg' ∧ cfg'.out = acc ∧ Abs.step P cfg' = .halt (.done v))
    {n r : Nat} {st : Pos.State} {acc : List (Bool × Word)} {cfg : Config} (h : I (n + r) st acc cfg)
    {out : List (Bool × Word)} {v : Word} (hrun : Pos.runState prog n st acc = ⟨out, .done v⟩) :
    ∃ fuel', Abs.runFrom P fuel' cfg = ⟨out, .done v⟩ := by
  obtain ⟨k, cfgL, accL, hk, hout, hacc, hhalt⟩ :=
    T.run_done (AtEnd := fun v acc X => X.out = acc ∧ Abs.step P X = .halt (.done v)) hdone h hrun
  refine ⟨k + 1, ?_⟩
  rw [runFrom_steps _ k 1 cfg cfgL hk]
  simp [Abs.runFrom, hhalt, hacc, hout]

theorem track_stepsTo (P : Program) : (∀ X, stepsTo P 0 X X) ∧
    ∀ {a b X Y Z}, stepsTo P a X Y → stepsTo P b Y Z → stepsTo P (a + b) X Z :=
  ⟨fun _ => rfl, fun h1 h2 => stepsTo_trans P _ _ _ _ _ h1 h2⟩

theorem run_entry {prog : Prog} {d0 : Def} {args : List Word} {fuel : Nat} {b : Pos.Behaviour}
    (hd : prog.defs.head? = some d0) (hrun : Pos.run prog args fuel = b) (hb : ∃ v, b.res = .done v) :
    d0 ∈ prog.defs ∧ d0.ctx.length = args.length ∧
      Pos.runState prog fuel ⟨d0.ctx, args.map .int, d0.body⟩ [] = b := by
  unfold Pos.run at hrun
  cases hdefs : prog.defs with
  | nil => rw [hdefs] at hd; simp at hd
  | cons d ds =>
    rw [hdefs] at hd hrun
    simp only [List.head?_cons, Option.some.injEq] at hd
    subst hd
    simp only at hrun
    by_cases hlen : d.ctx.length ≠ args.length
    · obtain ⟨v, hv⟩ := hb
      simp [hlen] at hrun
      rw [← hrun] at hv
      cases hv
    · simp only [hlen, if_false] at hrun
      exact ⟨by simp, by omega, hrun⟩

theorem duplicateLabel_none : ∀ (l : List (String × Nat)), (l.map (·.1)).Nodup → duplicateLabel l = none
  | [], _ => rfl
  | (n, a) :: rest, h => by
    simp only [List.map_cons, List.nodup_cons] at h
    simp only [duplicateLabel]
    have : rest.any (fun e => e.1 == n) = false := by
      rw [List.any_eq_false]
      intro e he hc
      simp only [beq_iff_eq] at hc
      exact h.1 (List.mem_map.mpr ⟨e, he, hc⟩)
    simp only [this, Bool.false_eq_true, if_false]
    exact duplicateLabel_none rest h.2

/-- `Abs.run` on code with pairwise distinct labels starts at the address of the entry label -/
theorem abs_run_eq {code : List MockOp} {entry : String} {a : Nat} (args : List Word) (fuel : Nat)
    (hnodup : (dfns (events code)).Nodup) (hlab : (Program.ofOps code).labelAddr entry = some a) :
    Abs.run code entry args fuel = Abs.runFrom (Program.ofOps code) fuel (initConfig a args) := by
  unfold Abs.run
  have hdup : duplicateLabel (Program.ofOps code).labels = none := by
    apply duplicateLabel_none
    show ((layout code 0).2.map (·.1)).Nodup
    rw [layout_snd_names, labelNames_eq_dfns]
    exact hnodup
  simp only [hdup, hlab]

/-- the initial configuration of `Abs.run` (entry = label of a definition whose parameters are all
    `ext`, arguments in the word parts of positions 0, 1, …, empty heap) represents the initial state
    of `Pos.run` -/
theorem TheoremA_init (hooks : Bool) (prog : Prog) (c : Nat) (code : List MockOp) (nargs c' : Nat)
    (hcomp : (compile mockSym hooks prog).run c = .ok ((code, nargs), c'))
    (hsafe : LabelSafe prog = true)
    (d0 : Def) (hd : d0 ∈ prog.defs) (hext : ∀ b ∈ d0.ctx, b.chi = .ext)
    (args : List Word) (hlen : d0.ctx.length = args.length) (hcap : WithinCapacity d0.ctx) :
    ∃ a, (Program.ofOps code).labelAddr (d0.name.print ++ "_") = some a ∧
      Rel (Program.ofOps code) hooks prog ⟨d0.ctx, args.map .int, d0.body⟩ (initConfig a args) := by
  obtain ⟨a, hlab, R, _⟩ := Kit.Rel.init hooks prog c code nargs c' hcomp
    (C14Generic.labels_unique hooks prog c code nargs c' hcomp hsafe) d0 hd hext args hlen hcap
    (valKit _ hooks prog.types)
  exact ⟨a, hlab, rel_iff.mpr R⟩

/-- THEOREM A for whole runs of integer programs: a terminating run of the positional machine is
    reproduced (same trace, same result) by the abstract machine on the generated code. -/
theorem TheoremA_run_int (hooks : Bool) (prog : Prog) (c : Nat) (code : List MockOp) (nargs c' : Nat)
    (d0 : Def) (args : List Word) (fuel : Nat) (out : List (Bool × Word)) (v : Word)
    (hcomp : (compile mockSym hooks prog).run c = .ok ((code, nargs), c'))
    (hsafe : LabelSafe prog = true) (htp : LinTypedProg prog) (hip : IntProg prog)
    (hd : prog.defs.head? = some d0)
    (hcap : ∀ st, Reachable prog ⟨d0.ctx, args.map .int, d0.body⟩ st → WithinCapacity st.ctx)
    (hrun : Pos.run prog args fuel = ⟨out, .done v⟩) :
    ∃ fuel', Abs.run code (d0.name.print ++ "_") args fuel' = ⟨out, .done v⟩ := by
  obtain ⟨hmem, hlen, hrun'⟩ := run_entry hd hrun ⟨v, rfl⟩
  have hnodup := C14Generic.labels_unique hooks prog c code nargs c' hcomp hsafe
  obtain ⟨a, hlab, R⟩ := TheoremA_init hooks prog c code nargs c' hcomp hsafe d0 hmem
    (hip d0 hmem).1 args hlen (hcap _ Reachable.refl)
  -- the invariant: an integer state within capacity, represented, with the output so far
  let I : Nat → Pos.State → List (Bool × Word) → Config → Prop := fun _ st acc cfg =>
    IntState prog st ∧ (∀ st', Reachable prog st st' → WithinCapacity st'.ctx) ∧
      Rel (Program.ofOps code) hooks prog st cfg ∧ cfg.out = acc
  have hsim : ∀ {st cfg}, IntState prog st → Rel (Program.ofOps code) hooks prog st cfg →
      StepSimulated (Program.ofOps code) hooks prog st cfg := fun Is R =>
    TheoremA_heapfree hooks prog c code nargs c' hcomp hsafe _ _ R Is.1 (heapFree_of_int Is)
  have T : Track.Track (stepsTo (Program.ofOps code)) prog I (fun _ => 0) := {
    refl := (track_stepsTo _).1
    trans := (track_stepsTo _).2
    next := by
      rintro r st acc cfg st' o ⟨Is, hc, R, hacc⟩ hs
      have h := hsim Is R
      unfold StepSimulated at h
      rw [hs] at h
      obtain ⟨k, cfg', h1, h2, h3⟩ := h (hc st' (Reachable.step Reachable.refl hs))
      exact ⟨k, cfg', h1, ⟨intState_step htp hip Is hs,
        fun st'' hr => hc st'' (reachable_prepend hs hr), h3, by rw [h2, hacc]⟩, Nat.zero_le _⟩ }
  obtain ⟨fuel', hf⟩ := run_of_track (r := 0) T (fun {r st acc cfg v} ⟨Is, _, R, hacc⟩ hs => by
    have h := hsim Is R
    unfold StepSimulated at h
    rw [hs] at h
    obtain ⟨k, cfg', h1, h2, h3⟩ := h
    exact ⟨k, cfg', h1, by rw [h2, hacc], h3⟩)
    (show I (fuel + 0) _ [] (initConfig a args) from
      ⟨⟨htp d0 hmem, (hip d0 hmem).2, (hip d0 hmem).1⟩, hcap, R, rfl⟩) hrun'
  exact ⟨fuel', by rw [abs_run_eq args fuel' hnodup hlab]; exact hf⟩

/-- the run stops (done or stuck) within `fuel` steps -/
def stopsWithin (prog : Prog) : Nat → Pos.State → Bool
  | 0, _ => false
  | fuel + 1, st =>
    match Pos.step prog st with
    | .next st' _ => stopsWithin prog fuel st'
    | _ => true

theorem reachable_mem_statesOf (prog : Prog) : ∀ (fuel : Nat) (st0 st : Pos.State),
    stopsWithin prog fuel st0 = true → Reachable prog st0 st → st ∈ statesOf prog fuel st0 := by
  intro fuel
  induction fuel with
  | zero => intro st0 st h; simp [stopsWithin] at h
  | succ fuel ih =>
    intro st0 st hstop hr
    -- split the reachability at its first step
    have key : st = st0 ∨ ∃ st1 o, Pos.step prog st0 = .next st1 o ∧ Reachable prog st1 st := by
      induction hr with
      | refl => exact Or.inl rfl
      | step hr' hs ih' =>
        rcases ih' with rfl | ⟨st1, o1, hs1, hr1⟩
        · exact Or.inr ⟨_, _, hs, Reachable.refl⟩
        · exact Or.inr ⟨st1, o1, hs1, Reachable.step hr1 hs⟩
    simp only [statesOf]
    rcases key with rfl | ⟨st1, o, hs, hr1⟩
    · cases Pos.step prog st <;> simp
    · simp only [stopsWithin, hs] at hstop
      simp only [hs, List.mem_cons]
      exact Or.inr (ih st1 st hstop hr1)

/-- capacity of all reachable states, checked on the finitely many states of a terminating run -/
theorem capacity_of_run (prog : Prog) (fuel : Nat) (st0 : Pos.State)
    (hstop : stopsWithin prog fuel st0 = true)
    (hall : (statesOf prog fuel st0).all (fun st => decide (2 * st.ctx.length + 2 < Mock.T_TEMP)) = true) :
    ∀ st, Reachable prog st0 st → WithinCapacity st.ctx := by
  intro st hr
  have := reachable_mem_statesOf prog fuel st0 st hstop hr
  rw [List.all_eq_true] at hall
  simpa [WithinCapacity] using hall st this

/-! non-vacuity: `main(x) { lit y <- 1; z <- x + y; println z; exit z }` started with x = 41 satisfies
    every hypothesis of `TheoremA_heapfree` (via `TheoremA_init`), so its first step is simulated -/

private def exMain : Def :=
  { name := ⟨"main", 0⟩, ctx := [⟨⟨"x", 1⟩, .ext, .i64⟩],
    body := .lit ⟨"y", 2⟩ 1 (.op ⟨"z", 3⟩ ⟨"x", 1⟩ .sum ⟨"y", 2⟩
      (.print true ⟨"z", 3⟩ (.exit ⟨"z", 3⟩) none) none) none }

private def exProg : Prog := { defs := [exMain], types := [], maxId := 3 }

example : ∃ (code : List MockOp) (cfg : Config),
    Rel (Program.ofOps code) true exProg ⟨exMain.ctx, [.int 41], exMain.body⟩ cfg ∧
    StepSimulated (Program.ofOps code) true exProg ⟨exMain.ctx, [.int 41], exMain.body⟩ cfg := by
  have hok : ∃ r, (compile mockSym true exProg).run 0 = .ok r := ⟨_, rfl⟩
  obtain ⟨⟨⟨code, nargs⟩, c'⟩, hcomp⟩ := hok
  have hsafe : LabelSafe exProg = true := by decide +kernel
  have hty : LinTypedProg exProg := linTypedCheck_sound exProg rfl
  obtain ⟨a, _, R⟩ := TheoremA_init true exProg 0 code nargs c' hcomp hsafe exMain (by simp [exProg])
    (by decide +kernel) [41] rfl (by unfold WithinCapacity; decide)
  exact ⟨code, _, R, TheoremA_heapfree true exProg 0 code nargs c' hcomp hsafe _ _ R
    (hty exMain (by simp [exProg])) trivial⟩

/-- non-vacuity of `TheoremA_run_int`: the counting loop
      main(n, acc) { if n <= 0 { println acc; exit acc } else { one <- 1; n' <- n - one; acc' <- acc + n;
                                                               subst (n := n')(acc := acc'); main(...) } }
    started with n = 3, acc = 0: all hypotheses hold, so the abstract machine prints 6 and returns 6 -/
private def loopDef : Def :=
  { name := ⟨"main", 0⟩, ctx := [⟨⟨"n", 1⟩, .ext, .i64⟩, ⟨⟨"acc", 2⟩, .ext, .i64⟩],
    body := .ifc .le ⟨"n", 1⟩ none
      (.print true ⟨"acc", 2⟩ (.exit ⟨"acc", 2⟩) none)
      (.lit ⟨"one", 3⟩ 1 (.op ⟨"n", 4⟩ ⟨"n", 1⟩ .sub ⟨"one", 3⟩ (.op ⟨"acc", 5⟩ ⟨"acc", 2⟩ .sum ⟨"n", 1⟩
        (.subst [(⟨⟨"n", 4⟩, .ext, .i64⟩, ⟨"n", 4⟩), (⟨⟨"acc", 5⟩, .ext, .i64⟩, ⟨"acc", 5⟩)]
          (.call ⟨"main", 0⟩ [])) none) none) none) }

private def loopProg : Prog := { defs := [loopDef], types := [], maxId := 5 }

example : ∃ (code : List MockOp) (fuel' : Nat),
    Abs.run code "main_" [3, 0] fuel' = ⟨[(true, 6)], .done 6⟩ := by
  have hok : ∃ r, (compile mockSym true loopProg).run 0 = .ok r := ⟨_, rfl⟩
  obtain ⟨⟨⟨code, nargs⟩, c'⟩, hcomp⟩ := hok
  have hsafe : LabelSafe loopProg = true := by decide +kernel
  have hty : LinTypedProg loopProg := linTypedCheck_sound loopProg rfl
  have hint : IntProg loopProg := by
    intro d hd
    simp only [loopProg, List.mem_singleton] at hd
    subst hd
    refine ⟨?_, ?_⟩
    · intro b hb
      simp only [loopDef, List.mem_cons, List.not_mem_nil, or_false] at hb
      rcases hb with rfl | rfl <;> rfl
    · simp [loopDef, IntStmt]
  have hrun : Pos.run loopProg [3, 0] 40 = ⟨[(true, 6)], .done 6⟩ := by decide +kernel
  obtain ⟨fuel', h⟩ := TheoremA_run_int true loopProg 0 code nargs c' loopDef [3, 0] 40 _ _ hcomp hsafe
    hty hint rfl
    (capacity_of_run loopProg 40 _ (by decide +kernel) (by decide +kernel)) hrun
  exact ⟨code, fuel', h⟩

open Scc.Backend.Sim2 Scc.Backend.Keys

/-- code addresses fit a word (the machine jumps through words) -/
def CodeFits (code : List MockOp) : Prop := instrCount code < 2 ^ 64

instance (code : List MockOp) : Decidable (CodeFits code) := by unfold CodeFits; infer_instance

theorem fits_of_codeFits {code : List MockOp} (h : CodeFits code) : Fits (Program.ofOps code) := by
  unfold Fits Program.ofOps
  simp only [List.size_toArray]
  rw [layout_fst_length]
  exact h

/-- the simulation claim for ONE step from a state represented up to names (`Rel2`); the machine
    allocates at most one object -/
def StepSimulated2 (P : Program) (hooks : Bool) (prog : Prog) (st : Pos.State) (cfg : Config) : Prop :=
  match Pos.step prog st with
  | .next st' o =>
    WithinCapacity st'.ctx →
    ∃ k cfg', stepsTo P k cfg cfg' ∧ cfg'.out = outAfter o cfg.out ∧ cfg'.next ≤ cfg.next + 1 ∧
      Rel2 P hooks prog st' cfg'
  | .done v =>
    ∃ k cfg', stepsTo P k cfg cfg' ∧ cfg'.out = cfg.out ∧ Abs.step P cfg' = .halt (.done v)
  | .stuck _ => True

/-- THEOREM A, the statement that is PROVED (`TheoremA_full`): `TheoremA_statement` with the
    strengthened relation `Rel2`, typed states, code that fits the address space, room in the heap -/
def TheoremA_full_statement : Prop :=
  ∀ (hooks : Bool) (prog : Prog) (c : Nat) (code : List MockOp) (nargs c' : Nat),
    (compile mockSym hooks prog).run c = .ok ((code, nargs), c') →
    LabelSafe prog = true → LinTypedProg prog → CodeFits code →
    ∀ (st : Pos.State) (cfg : Config),
      Rel2 (Program.ofOps code) hooks prog st cfg →
      Pos.StateTyped prog st → EnoughHeap cfg →
      StepSimulated2 (Program.ofOps code) hooks prog st cfg

/-- THEOREM A for whole runs, the statement that is PROVED (`TheoremA_run`): `TheoremA_run_statement`
    plus `CodeFits`, entry parameters of type `i64`, fewer than `2^64` steps -/
def TheoremA_run_full_statement : Prop :=
  ∀ (hooks : Bool) (prog : Prog) (c : Nat) (code : List MockOp) (nargs c' : Nat) (d0 : Def)
    (args : List Word) (fuel : Nat) (out : List (Bool × Word)) (v : Word),
    (compile mockSym hooks prog).run c = .ok ((code, nargs), c') →
    LabelSafe prog = true → LinTypedProg prog → CodeFits code → prog.defs.head? = some d0 →
    (∀ b ∈ d0.ctx, b.chi = .ext ∧ b.ty = .i64) →
    (∀ st, Reachable prog ⟨d0.ctx, args.map .int, d0.body⟩ st → WithinCapacity st.ctx) →
    fuel + 1 < 2 ^ 64 →
    Pos.run prog args fuel = ⟨out, .done v⟩ →
    ∃ fuel', Abs.run code (d0.name.print ++ "_") args fuel' = ⟨out, .done v⟩

theorem kindOf_of_typed {P : Prog} {v : Value} {c : Chi} {t : Ty} (h : ValTyped P v c t) : kindOf v = c := by
  cases h <;> rfl

theorem kinds_of_fieldsTyped {P : Prog} : ∀ {vs : List Value} {cts : List (Chi × Ty)},
    FieldsTyped P vs cts → vs.map kindOf = cts.map (·.1)
  | _, _, .nil => rfl
  | _, _, .cons hv hvs => by simp [kindOf_of_typed hv, kinds_of_fieldsTyped hvs]

theorem chiTys_fst (Γ : Ctx) : (Ctx.chiTys Γ).map (·.1) = Mock.kindsOf Γ := by
  simp [Ctx.chiTys, Mock.kindsOf]

theorem clausesMatch_length : ∀ (xs : List XtorSig) (cs : Clauses), ClausesMatch xs cs → cs.length = xs.length
  | [], .nil, _ => rfl
  | [], .cons _ _ _ _, h => by simp [ClausesMatch] at h
  | _ :: _, .nil, h => by simp [ClausesMatch] at h
  | x :: xs, .cons n ctx b rest, h => by
    simp only [ClausesMatch] at h
    simp [Clauses.length, clausesMatch_length xs rest h.2.2]

theorem fresh_of_nodup_snoc {Γ0 : Ctx} {b : Binding} (hn : NodupIds (Γ0 ++ [b])) : b.var.id ∉ Γ0.ids := by
  unfold NodupIds Ctx.ids at *
  rw [List.map_append, List.nodup_append] at hn
  intro hm
  exact hn.2.2 _ hm _ (by simp) rfl

/-- THEOREM A (every statement form): for the code of a label-safe program whose code fits the address
    space, every step of the positional machine from a typed state represented by a configuration with room
    in the heap is simulated, and the new state is represented again.  The hypothesis `LinTypedProg prog` of
    the statement is not used: the typing of the state (`T`) carries what one step needs; it is what keeps
    the states of a run typed (`Pos.step_safe`, in `TheoremA_run`). -/
theorem TheoremA_full (hooks : Bool) (prog : Prog) (c : Nat) (code : List MockOp) (nargs c' : Nat)
    (hcomp : (compile mockSym hooks prog).run c = .ok ((code, nargs), c'))
    (hsafe : LabelSafe prog = true) (htp : LinTypedProg prog) (hfit : CodeFits code)
    (st : Pos.State) (cfg : Config)
    (R : Rel2 (Program.ofOps code) hooks prog st cfg)
    (T : Pos.StateTyped prog st) (hheap : EnoughHeap cfg) :
    StepSimulated2 (Program.ofOps code) hooks prog st cfg := by
  have hnodup := C14Generic.labels_unique hooks prog c code nargs c' hcomp hsafe
  have D := defsAt_of_compile hooks prog c code nargs c' hcomp hnodup
  have hfits := fits_of_codeFits hfit
  obtain ⟨Γ, ρ, s⟩ := st
  obtain ⟨Γ', hk, RX⟩ := R
  obtain ⟨hty, henv⟩ := T
  simp only at hk RX hty henv
  have hlenk : Γ'.length = Γ.length := keys_length hk
  unfold StepSimulated2
  cases hs : Pos.step prog ⟨Γ, ρ, s⟩ with
  | stuck _ => trivial
  | done v =>
    obtain ⟨a, hst, ha⟩ := Pos.step_done_iff.mp hs
    simp only at hst ha
    subst hst
    obtain ⟨cfg', h1, h2, h3⟩ := sim2_exit RX (by rw [readInt_keys hk]; exact ha)
    exact ⟨1, cfg', h1, h2, h3⟩
  | next st' o =>
    simp only
    intro hcap
    cases Pos.step_next hs with
    | @lit _ _ x n next fv =>
      cases hty with
      | lit hn hfr hnext =>
        obtain ⟨cfg', h1, h2, h3, h4⟩ := sim2_lit RX (mem_ids_keys hk hfr)
          (by simp [WithinCapacity] at hcap; omega)
        exact ⟨1, cfg', h1, h2, by omega, Γ' ++ [⟨x, .ext, .i64⟩], keys_append hk rfl, h4⟩
    | @op _ _ x a o b next fv va vb v hra hrb hv =>
      cases hty with
      | op hn ha hb hfr hnext =>
        obtain ⟨cfg', h1, h2, h3, h4⟩ := sim2_op RX (mem_ids_keys hk hfr)
          (by simp [WithinCapacity] at hcap; omega)
          (by rw [readInt_keys hk]; exact hra) (by rw [readInt_keys hk]; exact hrb) hv
        exact ⟨1, cfg', h1, h2, by omega, Γ' ++ [⟨x, .ext, .i64⟩], keys_append hk rfl, h4⟩
    | print hra =>
      obtain ⟨cfg', h1, h2, h3, h4⟩ := sim2_print RX (by rw [readInt_keys hk]; exact hra)
      exact ⟨1, cfg', h1, h2, by omega, Γ', hk, h4⟩
    | ifz hra =>
      obtain ⟨cfg', h1, h2, h3, h4⟩ := sim2_ifc (b := none) (vb := 0) RX
        (by rw [readInt_keys hk]; exact hra) rfl
      exact ⟨1, cfg', h1, h2, by omega, Γ', hk, h4⟩
    | ifc hra hrb =>
      obtain ⟨cfg', h1, h2, h3, h4⟩ := sim2_ifc (b := some _) RX
        (by rw [readInt_keys hk]; exact hra) (by simp only; rw [readInt_keys hk]; exact hrb)
      exact ⟨1, cfg', h1, h2, by omega, Γ', hk, h4⟩
    | @call _ _ l args d hd hchi _ =>
      obtain ⟨cfg', h1, h2, h3, h4⟩ := sim2_call RX D hd (by rw [keys_chiTys hk]; exact hchi)
      exact ⟨1, cfg', h1, h2, by omega, d.ctx, rfl, h4⟩
    | @subst _ _ pairs next vs hb =>
      cases hty with
      | subst hn hhas hnew hnext =>
        have hnew' : (pairs.map (·.1.var.id)).Nodup := by
          have : ((pairs.map (·.1)).map (·.var.id)).Nodup := hnew
          rw [List.map_map] at this
          exact this
        have hold : ∀ p ∈ pairs, ∃ b ∈ Γ', b.var.id = p.2.id ∧ b.chi = p.1.chi := by
          intro p hp
          obtain ⟨b, hb', hid, hchi, _⟩ := hasVar_keys hk (hhas p hp)
          exact ⟨b, hb', hid, hchi⟩
        obtain ⟨k, cfg', h1, h2, h3, h4⟩ := sim2_subst RX (nodup_keys hk hn) hnew' hold
          (by simpa [WithinCapacity] using hcap) (by rw [build_keys hk]; exact hb)
        exact ⟨k, cfg', h1, h2, by omega, pairs.map (·.1), rfl, h4⟩
    | @letS _ _ x ty tag args next fv pos hkA _ hpos =>
      cases hty with
      | @letS _ Γ0 Γa _ _ _ _ sig _ _ hn hsplit hkeys hsig hsig' hfr hnext =>
        have hlenA : Γa.length = args.length := keys_length hkeys
        have hsplit' : Γ = Γ0 ++ Γa := hsplit
        have hn0 : Γ.length - args.length = Γ0.length := by rw [hsplit']; simp; omega
        have htake : Γ.take (Γ.length - args.length) = Γ0 := by
          rw [← hlenA]; exact take_of_append hsplit'
        have hkt : Ctx.keys (Γ'.take (Γ'.length - args.length)) = Γ0.keys := by
          rw [hlenk, keys_take hk, htake]
        obtain ⟨cfg', h1, h2, h3, h4⟩ := sim2_let RX (by rw [hlenk]; exact hkA)
          (mem_ids_keys hkt hfr) hpos
          (by
            simp only [WithinCapacity, htake, List.length_append, List.length_singleton] at hcap
            rw [hlenk, hn0]; exact hcap) hheap
        refine ⟨2, cfg', h1, h2, h3, _, ?_, by rw [hlenk] at h4; exact h4⟩
        show Ctx.keys (Γ'.take (Γ.length - args.length) ++ [_]) =
          Ctx.keys (Γ.take (Γ.length - args.length) ++ [_])
        rw [htake, ← hlenk]
        exact keys_append hkt rfl
    | @create _ _ x ty Γc clauses next fc fn hkA _ =>
      cases hty with
      | @create _ Γn Γe _ _ _ _ _ _ _ d hn hsplit hkeys hd hm hcl hfr hnext =>
        have hlenE : Γe.length = Γc.length := keys_length hkeys
        have hsplit' : Γ = Γn ++ Γe := hsplit
        have hn0 : Γ.length - Γc.length = Γn.length := by rw [hsplit']; simp; omega
        have htake : Γ.take (Γ.length - Γc.length) = Γn := by
          rw [← hlenE]; exact take_of_append hsplit'
        have hdrop : Γ.drop (Γ.length - Γc.length) = Γe := by
          rw [hn0, hsplit']; simp
        have hkt : Ctx.keys (Γ'.take (Γ'.length - Γc.length)) = Γn.keys := by
          rw [hlenk, keys_take hk, htake]
        have hkd : Ctx.keys (Γ'.drop (Γ'.length - Γc.length)) = Γc.keys := by
          rw [hlenk, keys_drop hk, hdrop]; exact hkeys
        obtain ⟨cfg', h1, h2, h3, h4⟩ := sim2_create RX (by rw [hlenk]; exact hkA) hkd
          (mem_ids_keys hkt hfr)
          (by
            simp only [WithinCapacity, htake, List.length_append, List.length_singleton] at hcap
            rw [hlenk, hn0]; exact hcap) hheap
        refine ⟨2, cfg', h1, h2, h3, _, ?_, by rw [hlenk] at h4; exact h4⟩
        show Ctx.keys (Γ'.take (Γ.length - Γc.length) ++ [_]) =
          Ctx.keys (Γ.take (Γ.length - Γc.length) ++ [_])
        rw [htake, ← hlenk]
        exact keys_append hkt rfl
    | @switch _ _ x ty cs fv b1 pos fields c hΓl hρl _ _ hc1 _ =>
      cases hty with
      | @switch _ Γ0 b _ _ _ _ d hn hsplit hb hd hm hcl =>
        subst hsplit
        obtain ⟨ρ', v, rfl, hρ', hv⟩ := Pos.env_last henv
        rw [List.getLast?_concat] at hΓl hρl
        have eb : b = b1 := Option.some.inj hΓl
        subst eb
        cases hρl
        have hbid : b.var.id = x.id := congrArg (·.1) hb
        have hbchi : b.chi = .prd := congrArg (·.2.1) hb
        have hbty : b.ty = ty := congrArg (·.2.2) hb
        rw [hbchi, hbty] at hv
        cases hv with
        | @obj _ d' _ xt _ hd' hx hf =>
          have := Pos.lookupTypeDecl_unique hd hd'
          subst this
          obtain ⟨cl, hc1', hc2, hc3⟩ := Pos.nthClause_ok d.xtors cs pos xt hm hx
          rw [hc1] at hc1'
          cases hc1'
          simp only [List.dropLast_concat] at hcap ⊢
          obtain ⟨Γ0', b', rfl, hk0, hkb⟩ := keys_snoc hk
          have hb'id : b'.var.id = x.id := by
            have := congrArg (·.1) hkb
            simp only [Binding.key] at this
            rw [this]; exact hbid
          have hkinds : fields.map kindOf = Mock.kindsOf c.ctx := by
            rw [kinds_of_fieldsTyped hf, hc2, chiTys_fst]
          have hfr : x.id ∉ Γ0.ids := by rw [← hbid]; exact fresh_of_nodup_snoc hn
          obtain ⟨k, cfg', h1, h2, h3, h4⟩ := sim2_switch RX hfits hb'id (mem_ids_keys hk0 hfr) hc1 hkinds
            (by
              simp only [WithinCapacity, List.length_append] at hcap
              rw [keys_length hk0]; exact hcap)
          exact ⟨k, cfg', h1, h2, by omega, Γ0' ++ c.ctx, keys_append hk0 rfl, h4⟩
    | @invoke _ _ x tag ty args b1 Γc env cs pos c hΓl hρl _ _ htp' hc1 _ =>
      cases hty with
      | @invoke _ Γa b _ _ _ _ sig hn hsplit hb hsig hsig' =>
        subst hsplit
        obtain ⟨ρ', v, rfl, hρ', hv⟩ := Pos.env_last henv
        rw [List.getLast?_concat] at hΓl hρl
        have eb : b = b1 := Option.some.inj hΓl
        subst eb
        cases hρl
        have hbid : b.var.id = x.id := congrArg (·.1) hb
        have hbchi : b.chi = .cns := congrArg (·.2.1) hb
        have hbty : b.ty = ty := congrArg (·.2.2) hb
        rw [hbchi, hbty] at hv
        obtain ⟨d, xt, i, hd, hx, hxs, htp''⟩ := Pos.tagPosition_ok hsig
        rw [htp'] at htp''
        cases htp''
        cases hv with
        | @clo _ d' _ _ _ hd' hm hf hcl =>
          have := Pos.lookupTypeDecl_unique hd hd'
          subst this
          obtain ⟨cl, hc1', hc2, hc3⟩ := Pos.nthClause_ok d.xtors cs pos xt hm hx
          rw [hc1] at hc1'
          cases hc1'
          simp only [List.dropLast_concat] at hcap ⊢
          obtain ⟨Γa', b', rfl, hk0, hkb⟩ := keys_snoc hk
          have hb'id : b'.var.id = x.id := by
            have := congrArg (·.1) hkb
            simp only [Binding.key] at this
            rw [this]; exact hbid
          have hkinds : env.map kindOf = Mock.kindsOf Γc := by
            rw [kinds_of_fieldsTyped hf, chiTys_fst]
          have hfr : x.id ∉ Γa.ids := by rw [← hbid]; exact fresh_of_nodup_snoc hn
          have hargs : Γa'.map (·.chi) = c.ctx.map (·.chi) := by
            rw [keys_chi hk0]
            have h1 : Ctx.chiTys Γa = Ctx.chiTys c.ctx := by rw [hsig', ← hxs, hc2]
            have := congrArg (List.map (·.1)) h1
            simpa [Ctx.chiTys, Function.comp_def] using this
          obtain ⟨k, cfg', envCtx', hke, h1, h2, h3, h4⟩ := sim2_invoke RX hfits hb'id
            (mem_ids_keys hk0 hfr) htp' hc1
            (fun d0 hd0 => by
              have := Pos.lookupTypeDecl_unique hd hd0
              subst this
              exact clausesMatch_length _ _ hm)
            hargs hkinds
            (by simpa [WithinCapacity] using hcap)
          exact ⟨k, cfg', h1, h2, by omega, c.ctx ++ envCtx', keys_append rfl hke, h4⟩

/-- the `load` fragment: `switch` and `invoke` (unique and shared blocks) -/
def IsLoad : Stmt → Prop
  | .switch _ _ _ _ => True
  | .invoke _ _ _ _ => True
  | _ => False

/-- `TheoremA_full` restated under the name of the `load` contract (`switch` / `invoke`; the proofs are
    `sim2_switch`, `sim2_invoke`, `load_sim` in Scc/Backend/ProofsLoad.lean).  The hypothesis `IsLoad` only
    says which statement forms are meant; the conclusion holds without it. -/
theorem TheoremA_load (hooks : Bool) (prog : Prog) (c : Nat) (code : List MockOp) (nargs c' : Nat)
    (hcomp : (compile mockSym hooks prog).run c = .ok ((code, nargs), c'))
    (hsafe : LabelSafe prog = true) (htp : LinTypedProg prog) (hfit : CodeFits code)
    (st : Pos.State) (cfg : Config)
    (R : Rel2 (Program.ofOps code) hooks prog st cfg)
    (T : Pos.StateTyped prog st) (hheap : EnoughHeap cfg) (hs : IsLoad st.stmt) :
    StepSimulated2 (Program.ofOps code) hooks prog st cfg :=
  TheoremA_full hooks prog c code nargs c' hcomp hsafe htp hfit st cfg R T hheap

/-- `TheoremA_full` restated for `subst` on arbitrary contexts: erase / share against `HeapOK`, moves of
    both temporaries (the proof is `sim2_subst` in ProofsSubstObj.lean) -/
theorem TheoremA_subst (hooks : Bool) (prog : Prog) (c : Nat) (code : List MockOp) (nargs c' : Nat)
    (hcomp : (compile mockSym hooks prog).run c = .ok ((code, nargs), c'))
    (hsafe : LabelSafe prog = true) (htp : LinTypedProg prog) (hfit : CodeFits code)
    (Γ : Ctx) (ρ : List Value) (pairs : List (Binding × Ident)) (next : Stmt) (cfg : Config)
    (R : Rel2 (Program.ofOps code) hooks prog ⟨Γ, ρ, .subst pairs next⟩ cfg)
    (T : Pos.StateTyped prog ⟨Γ, ρ, .subst pairs next⟩) (hheap : EnoughHeap cfg) :
    StepSimulated2 (Program.ofOps code) hooks prog ⟨Γ, ρ, .subst pairs next⟩ cfg :=
  TheoremA_full hooks prog c code nargs c' hcomp hsafe htp hfit _ cfg R T hheap

/-- THEOREM A for whole runs: every terminating run of a label-safe, linearly typed program whose
    entry takes integers is reproduced by the abstract machine on the generated code — same trace,
    same result — provided the code fits the address space, every context of the run is within the
    capacity of the numbering of temporaries, and the run is shorter than `2^64` steps (object ids
    are never reused by the abstract heap). -/
theorem TheoremA_run (hooks : Bool) (prog : Prog) (c : Nat) (code : List MockOp) (nargs c' : Nat)
    (d0 : Def) (args : List Word) (fuel : Nat) (out : List (Bool × Word)) (v : Word)
    (hcomp : (compile mockSym hooks prog).run c = .ok ((code, nargs), c'))
    (hsafe : LabelSafe prog = true) (htp : LinTypedProg prog) (hfit : CodeFits code)
    (hd : prog.defs.head? = some d0)
    (hentry : ∀ b ∈ d0.ctx, b.chi = .ext ∧ b.ty = .i64)
    (hcap : ∀ st, Reachable prog ⟨d0.ctx, args.map .int, d0.body⟩ st → WithinCapacity st.ctx)
    (hfuel : fuel + 1 < 2 ^ 64)
    (hrun : Pos.run prog args fuel = ⟨out, .done v⟩) :
    ∃ fuel', Abs.run code (d0.name.print ++ "_") args fuel' = ⟨out, .done v⟩ := by
  obtain ⟨hmem, hlen, hrun'⟩ := run_entry hd hrun ⟨v, rfl⟩
  have hnodup := C14Generic.labels_unique hooks prog c code nargs c' hcomp hsafe
  obtain ⟨a, hlab, RX, hn1⟩ := init_relX hooks prog c code nargs c' hcomp hnodup d0 hmem
    (fun b hb => (hentry b hb).1) args hlen (hcap _ Reachable.refl)
  -- the invariant: a typed state within capacity, represented up to names, with the output so far and
  -- object numbers left for the remaining steps
  let I : Nat → Pos.State → List (Bool × Word) → Config → Prop := fun r st acc cfg =>
    Pos.StateTyped prog st ∧ (∀ st', Reachable prog st st' → WithinCapacity st'.ctx) ∧
      Rel2 (Program.ofOps code) hooks prog st cfg ∧ cfg.out = acc ∧ cfg.next + r < 2 ^ 64
  have hsim : ∀ {r st cfg}, Pos.StateTyped prog st → Rel2 (Program.ofOps code) hooks prog st cfg →
      cfg.next + (r + 1) < 2 ^ 64 → StepSimulated2 (Program.ofOps code) hooks prog st cfg :=
    fun Ty R hn => TheoremA_full hooks prog c code nargs c' hcomp hsafe htp hfit _ _ R Ty
      (by unfold EnoughHeap; omega)
  have T : Track.Track (stepsTo (Program.ofOps code)) prog I (fun _ => 0) := {
    refl := (track_stepsTo _).1
    trans := (track_stepsTo _).2
    next := by
      rintro r st acc cfg st' o ⟨Ty, hc, R, hacc, hn⟩ hs
      have h := hsim Ty R hn
      have hsafe' := Pos.step_safe htp st Ty
      unfold StepSimulated2 at h
      rw [hs] at h hsafe'
      obtain ⟨k, cfg', h1, h2, h3, h4⟩ := h (hc st' (Reachable.step Reachable.refl hs))
      exact ⟨k, cfg', h1, ⟨hsafe', fun st'' hr => hc st'' (reachable_prepend hs hr), h4,
        by rw [h2, hacc], by omega⟩, Nat.zero_le _⟩ }
  obtain ⟨fuel', hf⟩ := run_of_track (r := 0) T (fun {r st acc cfg v} ⟨Ty, _, R, hacc, hn⟩ hs => by
    have h := hsim Ty R hn
    unfold StepSimulated2 at h
    rw [hs] at h
    obtain ⟨k, cfg', h1, h2, h3⟩ := h
    exact ⟨k, cfg', h1, by rw [h2, hacc], h3⟩)
    (show I (fuel + 0) _ [] (initConfig a args) from
      ⟨⟨htp d0 hmem, Pos.ints_typed d0.ctx args hlen hentry⟩, hcap, ⟨d0.ctx, rfl, RX⟩, rfl,
        by rw [hn1]; omega⟩) hrun'
  exact ⟨fuel', by rw [abs_run_eq args fuel' hnodup hlab]; exact hf⟩

theorem TheoremA_full_holds : TheoremA_full_statement :=
  fun hooks prog c code nargs c' hcomp hsafe htp hfit st cfg R T hheap =>
    TheoremA_full hooks prog c code nargs c' hcomp hsafe htp hfit st cfg R T hheap

theorem TheoremA_run_holds : TheoremA_run_full_statement :=
  fun hooks prog c code nargs c' d0 args fuel out v hcomp hsafe htp hfit hd hentry hcap hfuel hrun =>
    TheoremA_run hooks prog c code nargs c' d0 args fuel out v hcomp hsafe htp hfit hd hentry hcap hfuel
      hrun

/-! ### non-vacuity: objects (let, subst with duplication = share, switch shared and unique) -/

private def tBox : Ty := .decl ⟨"Box", 0⟩
private def boxDecl : TypeDecl := { name := ⟨"Box", 0⟩, xtors := [⟨⟨"B", 0⟩, [⟨⟨"v", 102⟩, .ext, .i64⟩]⟩] }

/-- main(x) { let b = B(x); subst (b1 := b)(b2 := b); switch b2 { B(y) => subst (y := y)(b1 := b1);
      switch b1 { B(z) => s <- y + z; println s; exit s } } } -/
private def boxMain : Def :=
  { name := ⟨"main", 0⟩, ctx := [⟨⟨"x", 1⟩, .ext, .i64⟩],
    body := .letS ⟨"b", 2⟩ tBox ⟨"B", 0⟩ [⟨⟨"x", 1⟩, .ext, .i64⟩]
      (.subst [(⟨⟨"b1", 3⟩, .prd, tBox⟩, ⟨"b", 2⟩), (⟨⟨"b2", 4⟩, .prd, tBox⟩, ⟨"b", 2⟩)]
        (.switch ⟨"b2", 4⟩ tBox
          (.cons ⟨"B", 0⟩ [⟨⟨"y", 5⟩, .ext, .i64⟩]
            (.subst [(⟨⟨"y", 6⟩, .ext, .i64⟩, ⟨"y", 5⟩), (⟨⟨"b1", 7⟩, .prd, tBox⟩, ⟨"b1", 3⟩)]
              (.switch ⟨"b1", 7⟩ tBox
                (.cons ⟨"B", 0⟩ [⟨⟨"z", 8⟩, .ext, .i64⟩]
                  (.op ⟨"s", 9⟩ ⟨"y", 6⟩ .sum ⟨"z", 8⟩
                    (.print true ⟨"s", 9⟩ (.exit ⟨"s", 9⟩) none) none) .nil) none))
            .nil) none)) none }

private def boxProg : Prog := { defs := [boxMain], types := [boxDecl], maxId := 102 }

private def boxCode : List MockOp :=
  match (compile mockSym true boxProg).run 0 with
  | .ok ((code, _), _) => code
  | .error _ => []

/-- every hypothesis of `TheoremA_run` holds for `boxProg` started with x = 21: the abstract machine
    prints 42 and returns 42 (the block is shared by `subst`, loaded once shared and once unique) -/
example : ∃ fuel', Abs.run boxCode "main_" [21] fuel' = ⟨[(true, 42)], .done 42⟩ := by
  have hcomp : ∃ n k, (compile mockSym true boxProg).run 0 = .ok ((boxCode, n), k) := ⟨_, _, rfl⟩
  obtain ⟨nargs, c', hcomp⟩ := hcomp
  have hsafe : LabelSafe boxProg = true := by decide +kernel
  have hty : LinTypedProg boxProg := linTypedCheck_sound boxProg rfl
  have hfit : CodeFits boxCode := by decide +kernel
  have hrun : Pos.run boxProg [21] 20 = ⟨[(true, 42)], .done 42⟩ := by decide +kernel
  exact TheoremA_run true boxProg 0 boxCode nargs c' boxMain [21] 20 _ _ hcomp hsafe hty hfit rfl
    (by decide +kernel) (capacity_of_run boxProg 20 _ (by decide +kernel) (by decide +kernel)) (by decide +kernel) hrun

/-! ### non-vacuity: closures (create, subst moving a closure, invoke) -/

private def tFun : Ty := .decl ⟨"Fun", 0⟩
private def funDecl : TypeDecl := { name := ⟨"Fun", 0⟩, xtors := [⟨⟨"Ap", 0⟩, [⟨⟨"a", 202⟩, .ext, .i64⟩]⟩] }

/-- main(x) { create f : Fun = (x){ Ap(a) => s <- a + x; println s; exit s }; lit n <- 5;
      subst (n := n)(f := f); invoke f Ap } -/
private def funMain : Def :=
  { name := ⟨"main", 0⟩, ctx := [⟨⟨"x", 1⟩, .ext, .i64⟩],
    body := .create ⟨"f", 2⟩ tFun (some [⟨⟨"x", 1⟩, .ext, .i64⟩])
      (.cons ⟨"Ap", 0⟩ [⟨⟨"a", 3⟩, .ext, .i64⟩]
        (.op ⟨"s", 4⟩ ⟨"a", 3⟩ .sum ⟨"x", 1⟩ (.print true ⟨"s", 4⟩ (.exit ⟨"s", 4⟩) none) none) .nil)
      (.lit ⟨"n", 5⟩ 5
        (.subst [(⟨⟨"n", 6⟩, .ext, .i64⟩, ⟨"n", 5⟩), (⟨⟨"f", 7⟩, .cns, tFun⟩, ⟨"f", 2⟩)]
          (.invoke ⟨"f", 7⟩ ⟨"Ap", 0⟩ tFun [⟨⟨"n", 6⟩, .ext, .i64⟩])) none) none none }

private def funProg : Prog := { defs := [funMain], types := [funDecl], maxId := 202 }

private def funCode : List MockOp :=
  match (compile mockSym true funProg).run 0 with
  | .ok ((code, _), _) => code
  | .error _ => []

example : ∃ fuel', Abs.run funCode "main_" [37] fuel' = ⟨[(true, 42)], .done 42⟩ := by
  have hcomp : ∃ n k, (compile mockSym true funProg).run 0 = .ok ((funCode, n), k) := ⟨_, _, rfl⟩
  obtain ⟨nargs, c', hcomp⟩ := hcomp
  have hsafe : LabelSafe funProg = true := by decide +kernel
  have hty : LinTypedProg funProg := linTypedCheck_sound funProg rfl
  have hfit : CodeFits funCode := by decide +kernel
  have hrun : Pos.run funProg [37] 20 = ⟨[(true, 42)], .done 42⟩ := by decide +kernel
  exact TheoremA_run true funProg 0 funCode nargs c' funMain [37] 20 _ _ hcomp hsafe hty hfit rfl
    (by decide +kernel) (capacity_of_run funProg 20 _ (by decide +kernel) (by decide +kernel)) (by decide +kernel) hrun

/-! ## `TheoremA_statement` is false

  `Sim.Rel` does not record whether a non-`ext` heap field is `prd` or `cns`, and `TheoremA_statement`
  does not ask for typed values.  Counterexample: `main(x : prd T) { switch x { K(y : cns T) => … } }`
  in a state where `x` is an object whose field is an OBJECT stored with kind `prd`: the positional
  machine steps, the abstract machine is stuck at `load` (`load: kind-mismatch`). -/

private def cxT : Ty := .decl ⟨"T", 0⟩
private def cxDecl : TypeDecl := { name := ⟨"T", 0⟩, xtors := [⟨⟨"K", 0⟩, [⟨⟨"y", 10⟩, .cns, cxT⟩]⟩] }
private def cxBody : Stmt := .subst [] (.lit ⟨"z", 3⟩ 0 (.exit ⟨"z", 3⟩) none)
private def cxClause : Clause := ⟨⟨"K", 0⟩, [⟨⟨"y", 2⟩, .cns, cxT⟩], cxBody⟩
private def cxMain : Def :=
  { name := ⟨"main", 0⟩, ctx := [⟨⟨"x", 1⟩, .prd, cxT⟩],
    body := .switch ⟨"x", 1⟩ cxT (.cons ⟨"K", 0⟩ [⟨⟨"y", 2⟩, .cns, cxT⟩] cxBody .nil) none }
private def cxProg : Prog := { defs := [cxMain], types := [cxDecl], maxId := 10 }
private def cxObj : Obj := ⟨0, [⟨.prd, 0, 0⟩]⟩
private def cxCfg (a : Nat) : Config := ⟨a, [(0, 1), (1, 0)], none, [(1, cxObj)], 2, []⟩
private def cxState : Pos.State := ⟨cxMain.ctx, [.obj 0 [.obj 0 []]], cxMain.body⟩

theorem TheoremA_statement_false : ¬ TheoremA_statement := by
  intro h
  have hok : ∃ r, (compile mockSym true cxProg).run 0 = .ok r := ⟨_, rfl⟩
  obtain ⟨⟨⟨code, nargs⟩, c'⟩, hcomp⟩ := hok
  have hsafe : LabelSafe cxProg = true := by decide +kernel
  have hty : LinTypedProg cxProg := linTypedCheck_sound cxProg rfl
  have hnodup := C14Generic.labels_unique true cxProg 0 code nargs c' hcomp hsafe
  have hmem : cxMain ∈ cxProg.defs := by simp [cxProg]
  obtain ⟨a, ck, ck', ops, hlab, hrun, hat⟩ :=
    defsAt_of_compile true cxProg 0 code nargs c' hcomp hnodup cxMain hmem
  have R : Rel (Program.ofOps code) true cxProg cxState (cxCfg a) := {
    len := rfl
    cap := by decide
    vals := by
      intro i h1 h2
      have hi : i = 0 := by simp [cxState, cxMain] at h1; omega
      subst hi
      refine ⟨?_, rfl, rfl, fun _ => rfl⟩
      show RepVal _ _ _ _ (.obj 0 [.obj 0 []]) (some 1) (BitVec.ofNat 64 0)
      exact .obj 0 _ 1 (.block _ _ 1 cxObj (by decide) rfl
        (.cons _ _ ⟨.prd, 0, 0⟩ [] (.obj 0 [] 0 .empty) rfl .nil))
    heap := {
      pos := by show 0 < 2; decide
      nodup := by show ([1] : List Nat).Nodup; decide
      ids := by
        intro e he
        have : e = (1, cxObj) := by simpa [cxCfg] using he
        subst this
        show 0 < 1 ∧ 1 < 2 ∧ 1 < 2 ^ 64
        decide
      counts := by
        intro e he
        have : e = (1, cxObj) := by simpa [cxCfg] using he
        subst this
        rfl
      live := by
        intro id hid
        by_cases h1 : id = 1
        · subst h1; rfl
        · exfalso
          have : refCount (cxCfg a).heap (roots cxState.ctx (cxCfg a).temps) id = 0 := by
            have hr : roots cxState.ctx (cxCfg a).temps = [1] := rfl
            rw [hr]
            have hne : ¬ (1 = id) := fun e => h1 e.symm
            simp [refCount, cxCfg, cxObj, Obj.children, hne]
          omega }
    code := ⟨ck, ck', ops, hrun, hat⟩ }
  have hsim := h true cxProg 0 code nargs c' hcomp hsafe hty cxState (cxCfg a) R (hty cxMain hmem)
  unfold StepSimulated at hsim
  have hstep : Pos.step cxProg cxState =
      .next ⟨[⟨⟨"y", 2⟩, .cns, cxT⟩], [.obj 0 []], cxBody⟩ none := rfl
  rw [hstep] at hsim
  obtain ⟨k, cfg', hk, _, R'⟩ := hsim (by unfold WithinCapacity; decide)
  -- the machine is stuck at the `load`
  have hload : (Program.ofOps code).code[a]? = some (.load [.cns] 0) :=
    switch_code_single (cl := cxClause) ⟨ck, ck', ops, hrun, hat⟩ (by decide) rfl
  have hstuck : Abs.step (Program.ofOps code) (cxCfg a) = .halt (.stuck "load: kind-mismatch") := by
    have hc : (Program.ofOps code).code[(cxCfg a).pc]? = some (.load [.cns] 0) := hload
    have hg : (cxCfg a).temps.get (2 * 0) = some 1 := rfl
    have hh : (cxCfg a).heap.get (1 : Word).toNat = some cxObj := rfl
    have hne : ((1 : Word) == 0) = false := by decide
    have hk' : (cxObj.fields.map (·.chi) != [Chi.cns]) = true := by decide
    simp only [Abs.step, hc, getT, hg, hne, hh, hk', Bool.false_eq_true, if_false, if_true, Abs.stuck]
  cases k with
  | zero =>
    simp only [stepsTo] at hk
    subst hk
    -- the same configuration does not represent the new state: position 0 is `obj 0 []`, its
    -- pointer part would have to be null
    obtain ⟨hrep, _⟩ := R'.vals 0 (by decide) (by decide)
    have hrep' : RepVal (Program.ofOps code) true cxProg.types (cxCfg a).heap (.obj 0 []) (some 1)
        ((Temps.get (cxCfg a).temps (2 * 0 + 1)).getD 0) := hrep
    cases hrep' with
    | obj _ _ _ hb => cases hb
  | succ k =>
    obtain ⟨c1, hs, _⟩ := hk
    rw [hstuck] at hs
    cases hs

#print axioms TheoremA_heapfree
#print axioms TheoremA_alloc
#print axioms TheoremA_init
#print axioms TheoremA_run_int
#print axioms TheoremA_full
#print axioms TheoremA_load
#print axioms TheoremA_subst
#print axioms TheoremA_run
#print axioms TheoremA_statement_false

end Scc.Props.C06Generic

#print axioms Scc.Props.C06Generic.fresh_of_not_mem_ids
#print axioms Scc.Props.C06Generic.take_of_append
#print axioms Scc.Props.C06Generic.intCtx_snoc
#print axioms Scc.Props.C06Generic.intState_step
#print axioms Scc.Props.C06Generic.heapFree_of_int
#print axioms Scc.Props.C06Generic.reachable_prepend
#print axioms Scc.Props.C06Generic.runFrom_steps
#print axioms Scc.Props.C06Generic.run_of_track
#print axioms Scc.Props.C06Generic.run_entry
#print axioms Scc.Props.C06Generic.abs_run_eq
#print axioms Scc.Props.C06Generic.duplicateLabel_none
#print axioms Scc.Props.C06Generic.reachable_mem_statesOf
#print axioms Scc.Props.C06Generic.capacity_of_run
#print axioms Scc.Props.C06Generic.fits_of_codeFits
#print axioms Scc.Props.C06Generic.kindOf_of_typed
#print axioms Scc.Props.C06Generic.kinds_of_fieldsTyped
#print axioms Scc.Props.C06Generic.chiTys_fst
#print axioms Scc.Props.C06Generic.clausesMatch_length
#print axioms Scc.Props.C06Generic.fresh_of_nodup_snoc
#print axioms Scc.Props.C06Generic.TheoremA_full_holds
#print axioms Scc.Props.C06Generic.TheoremA_run_holds
