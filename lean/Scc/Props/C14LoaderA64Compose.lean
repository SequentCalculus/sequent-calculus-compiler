/-
  Scc.Props.C14LoaderA64Compose — the AArch64 loader round trip (Props/C14LoaderA64.lean) COMPOSED with
  the text-level run theorem of C13 (Props/C13A64.lean, `C13_cc_never_fires_int_text`, which takes the round trip as a
  hypothesis):

    `C14A_lines`              the printed text of a text-safe routine parses to lines that ARE the routine
                              in the sense of `CC.Lines` (Scc/A64/CCProofsLayout.lean), with
                              `hkv := Loader.hookVarsOf` (what the loader reads a comment as);
    `C13_cc_never_fires_int_printed`   for every compiled integer program whose routine is text-safe
                              (`codeTextOK`, decidable), the machine ON THE PRINTED TEXT
                              `run (printProg routine)` never ends in a calling-convention violation —
                              no hypothesis about the parser is left.
    `C14A_routine_lines`      … for every compiled routine, from the decidable checks on the PROGRAM
                              (`C14A_inRangeB`, `C14A_namesTextSafe`, Props/C14LoaderA64Names.lean);
    `C13_cc_never_fires_int_names`     the C13 theorem on the printed text with NO hypothesis about the
                              routine: names check + bounds of the program instead of `codeTextOK`.
  Kept in a file of its own so that Props/C14LoaderA64.lean does not depend on the C13 development.
-/
import Scc.Props.C14LoaderA64Names
import Scc.A64.LoaderLines
import Scc.Props.C13A64

namespace Scc.A64

open Scc.A64.Loader Scc.AxCut
open Scc.Props.C06Generic (IntProg)
open Scc.A64.CC (CCSafe CfgCC cfgCC_default Lines)

/-- the printed text of a text-safe routine parses to lines that are the routine -/
theorem C14A_lines (cs : List Code) (h : ∀ c ∈ cs, codeTextOK c = true) :
    ∃ ls, parseText (printProg cs) = .ok ls ∧ CC.Lines hookVarsOf ls cs :=
  parseText_lines cs (progOK_of_codeTextOK h)

example : ∃ ls, parseText (printProg C14A_loaderExample) = .ok ls ∧ CC.Lines hookVarsOf ls C14A_loaderExample :=
  C14A_lines _ (by decide)

/-- C13 (integer programs) on the PRINTED TEXT of the compiled routine: the calling-convention monitor
    never fires, for all arguments, all fuel, every memory configuration -/
theorem C13_cc_never_fires_int_printed (p : AxCut.Prog) (htp : LinTypedProg p) (hip : IntProg p) (hooks : Bool)
    (c0 : Nat) (body routine : List Code) (nargs : Nat)
    (hc : compileProg a64Backend p hooks c0 = .ok (body, nargs, routine))
    (htext : ∀ c ∈ routine, codeTextOK c = true)
    (cfg : MonCfg) (H : CfgCC cfg.mem) (hwf : cfg.wf = false) (args : List Word) (fuel : Nat) :
    CCSafe (run (printProg routine) args fuel cfg).res := by
  obtain ⟨ls, hparse, hl⟩ := C14A_lines routine htext
  exact C13_cc_never_fires_int_text p htp hip hooks c0 body routine nargs hc cfg H hwf hookVarsOf
    (printProg routine) ls hparse hl args fuel

/-- non-vacuity: the counting loop of Props/C13A64.lean, compiled WITH hooks; its routine is text-safe -/
example : ∃ routine : List Code, ∀ (args : List Word) (fuel : Nat),
    CCSafe (run (printProg routine) args fuel {}).res := by
  have hs : (compileProg a64Backend C13_loopProg true 0).toOption.isSome = true := by decide +kernel
  cases hcomp : compileProg a64Backend C13_loopProg true 0 with
  | error e => rw [hcomp] at hs; cases hs
  | ok r =>
    obtain ⟨body, nargs, routine⟩ := r
    exact ⟨routine, fun args fuel => C13_cc_never_fires_int_printed C13_loopProg
      (linTypedCheck_sound C13_loopProg rfl) C13_loopProg_int true 0 body routine nargs hcomp
      (C14A_routine_textOK (by decide) (by decide) hcomp).2 {} cfgCC_default rfl args fuel⟩

/-- the printed text of EVERY compiled routine parses to lines that are the routine -/
theorem C14A_routine_lines {p : AxCut.Prog} {hooks : Bool} {c0 : Nat} {body routine : List Code} {nargs : Nat}
    (hrange : C14A_inRangeB p = true) (hnames : C14A_namesTextSafe p = true)
    (h : compileProg a64Backend p hooks c0 = .ok (body, nargs, routine)) :
    ∃ ls, parseText (printProg routine) = .ok ls ∧ CC.Lines hookVarsOf ls routine :=
  C14A_lines routine (C14A_routine_textOK hrange hnames h).2

/-- C13 (integer programs) on the PRINTED TEXT, no hypothesis about the routine: the names check and the
    bounds are decidable checks on the linearized program -/
theorem C13_cc_never_fires_int_names (p : AxCut.Prog) (htp : LinTypedProg p) (hip : IntProg p) (hooks : Bool)
    (c0 : Nat) (body routine : List Code) (nargs : Nat)
    (hc : compileProg a64Backend p hooks c0 = .ok (body, nargs, routine))
    (hrange : C14A_inRangeB p = true) (hnames : C14A_namesTextSafe p = true)
    (cfg : MonCfg) (H : CfgCC cfg.mem) (hwf : cfg.wf = false) (args : List Word) (fuel : Nat) :
    CCSafe (run (printProg routine) args fuel cfg).res :=
  C13_cc_never_fires_int_printed p htp hip hooks c0 body routine nargs hc
    (C14A_routine_textOK hrange hnames hc).2 cfg H hwf args fuel

example : ∀ (hooks : Bool) (c0 : Nat) (body routine : List Code) (nargs : Nat),
    compileProg a64Backend C13_loopProg hooks c0 = .ok (body, nargs, routine) →
    ∀ (args : List Word) (fuel : Nat), CCSafe (run (printProg routine) args fuel {}).res :=
  fun hooks c0 body routine nargs hc args fuel =>
    C13_cc_never_fires_int_names C13_loopProg (linTypedCheck_sound C13_loopProg rfl) C13_loopProg_int hooks c0
      body routine nargs hc (by decide) (by decide) {} cfgCC_default rfl args fuel

end Scc.A64

#print axioms Scc.A64.C14A_routine_lines
#print axioms Scc.A64.C13_cc_never_fires_int_names
#print axioms Scc.A64.C14A_lines
#print axioms Scc.A64.C13_cc_never_fires_int_printed
