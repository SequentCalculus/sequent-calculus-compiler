/-
  Scc.Props.C10A64All — property C10 (heap footprint bounded by peak live data) ON CONCRETE AArch64 EXECUTIONS OF
  ALL PROGRAMS — data types AND CLOSURES: the AArch64 counterpart of Props/C10X86All.lean, over the closure-aware
  three-way relation `Scc.A64.Ref.K` of Props/C07A64Full.lean (Scc/A64/ConcK*.lean), with the side hypotheses of
  the composition discharged by `C07_setup_of_checks` (Props/C07A64Full.lean).

  C10 (fixed text): "Generated code takes fresh memory from the unused part of the heap only when both free
  lists are empty, so at every moment the highest heap address ever written lies at most a small constant
  number of blocks above the peak number of simultaneously reachable blocks. A computation that repeatedly
  builds and drops structures therefore runs in space independent of the number of repetitions."

  NOTIONS (raw machine state): `ConcK.HeapShapeAt c σ below inUse` — the heap of `σ` is consistent (`InvW`) with
  `below` blocks below the allocation frontier, `inUse` of them neither on the reusable nor on the deferred free
  list; `maxHeapWritten` — the machine's own record (`State.maxHeap`) of the highest heap address written;
  `ConcK.withHeapBytes cfg n` — the configuration with the heap region cut down to `n` bytes;
  `ConcK.PeakAtMost … Pk C` — THE PEAK over the statement boundaries `ConcK.BoundaryOf` (boundaries up to `#ctx`
  hooks: Props/C09A64All.lean).
  THE CONSTANT `A + 2`, `A = progMaxAlloc p`: the largest number of fields of a `let` OR OF VARIABLES CAPTURED BY A
  `create` of the program — the environment of a closure is stored by the same `Memory::store` as the fields of
  an object, and the memory contract asks for `A + 1` blocks of room before it.

  PROVED (no `sorry`; axioms propext, Classical.choice, Quot.sound):
  * `C10_a64_frontier_bound_all`  under `PeakAtMost Pk`, in a heap of at least `64·(Pk + A + 2)` bytes, the machine
                              passes through a boundary configuration for every state of the terminating positional
                              run, and at each at most `Pk + 1` blocks lie below the frontier (fresh memory is
                              taken only when both free lists are empty: `FrPk`, also through `create`).
  * `C10_a64_every_prefix_all`    the same for every prefix (any number `fuel` of steps) of every run.
  * `C10_a64_programs`        THEOREM A ∘ B ON THE TEXT under the footprint bound instead of the coarse room
                              hypothesis of `C07_programs_text`: `64·(Pk + A + 2) ≤ heapBytes` and `PeakAtMost Pk`
                              suffice for a run of ANY length (same trace, same result), and the highest heap
                              address written lies inside the heap region.  `C10_a64_programs_lines`: on any lines
                              that are the routine, side hypotheses explicit.
  * `C10_a64_footprint_all`   THE FOOTPRINT, on the text: in ANY heap of at least `64·(Pk + A + 2)` bytes the run
                              ends with the same trace and result and `maxHeapWritten ≤ 64·(Pk + A + 2)`,
                              independent of the length of the run and of the size of the heap.
                              `C10_a64_footprint_all_lines`: on the lines.
  * `C10_a64_size_all`        C10 IN TERMS OF THE SOURCE-LEVEL DATA, ALL RUNS, on the text: let `D` bound the
                              number of fields of the object AND CLOSURE values held by the variables of the
                              positional machine (`valsFields st.env ≤ D` for every reachable state), and let the
                              positional machine never get stuck (`hnostuck`).  Then in ANY
                              heap of at least `64·(D + A + 2)` bytes, for EVERY amount of machine fuel (below
                              `2^64/(M + 1)`), terminating run or not, the result is `outOfFuel` or `done v` and
                              the highest heap address written is at most `D + A + 2` blocks above the heap base.
                              `C10_a64_size_all_lines`: on the lines.
  The run theorems are stated with the monitor `heap` off (`maxHeapWritten` of a run that the heap monitor ends early
  is that of a prefix); the validator `wf` may be on if the routine has fewer than 2^18 items (`C14_a64_final`,
  Props/C14A64Final.lean: the printed routine passes `wfCheck`).  Not proved: the bound with the constant 2 in place
  of `A + 2` (`A + 1` blocks are the room the memory contract of `Memory::store` asks for before it, not what the code
  uses) and with the peak measured at the `#ctx` hooks instead of the boundaries `BoundaryOf`; no AArch64 statement of
  that form is set up (x86-64 keeps one as a `def : Prop`, `C10_x86_statement`, Props/C10X86.lean).
-/
import Scc.Props.C09A64All

namespace Scc.A64
open Scc.AxCut Scc.Backend Scc.A64.Ref
open Scc.Props.C06Generic (Reachable CodeFits statesOf)
open Scc.Props.C14Generic (LabelSafe)
open Scc.A64.CC (CfgCC cfgCC_default Lines hkOf)
open Scc.A64.Loader (hookVarsOf)
open Scc.X86.Ref.K (AllocLe progMaxAlloc allocLe_progMaxAlloc)
open Scc.X86.Conc (valsFields stmtSize progMaxSize stmtSize_le_progMaxSize)
open Scc.A64.ConcK (MS StepsN BChain BoundaryOf HeapShapeAt initMS withHeapBytes)

/-- the peak hypothesis is trivial for `Pk = C`: the blocks in use lie below the frontier -/
theorem C10_peak_trivial_all (p : AxCut.Prog) (hooks : Bool) (routine : List Code) (ops : List MockOp)
    (c : MemCfg) (hk : Code → Bool) (P : Prog) (args : List Word) (C : Nat) :
    ConcK.PeakAtMost p hooks routine ops c hk P args C C :=
  ConcK.peakAtMost_trivial p hooks routine ops c hk P args C

/-- THE FRONTIER BOUND ON THE MACHINE, all programs (lift of `C10_frontier_bound`): if at no statement boundary
more than `Pk` blocks are in use, then in a heap of `64·(Pk + A + 2)` bytes the machine passes, in order and
without fault, through a boundary configuration for EVERY state of the terminating positional run, and at each of
them the heap is consistent with at most `Pk + 1` blocks below the allocation frontier. -/
theorem C10_a64_frontier_bound_all (p : AxCut.Prog) (args : List Word) (hooks : Bool) (body routine : List Code)
    (nargs : Nat) (d0 : Def) (ops : List MockOp) (c' : Nat)
    (hsafe : LabelSafe p = true) (htp : LinTypedProg p) (hprog : ∀ d ∈ p.types, d.xtors.length ≤ 1024)
    (hcompM : (compile mockSym hooks p).run 0 = .ok ((ops, nargs), c')) (hfit : CodeFits ops)
    (hcompX : compileProg a64Backend p hooks 0 = .ok (body, nargs, routine))
    (hnd : (labs routine).Nodup)
    (hd : p.defs.head? = some d0) (hentry : ∀ b ∈ d0.ctx, b.chi = .ext ∧ b.ty = .i64)
    (hlen : d0.ctx.length = args.length)
    (hcap : ∀ st, Reachable p ⟨d0.ctx, args.map .int, d0.body⟩ st → 2 * st.ctx.length ≤ 280)
    (fuel : Nat) (out : List (Bool × Word)) (v : Word) (hfuel : fuel + 1 < 2 ^ 64)
    (hrun : Pos.run p args fuel = ⟨out, .done v⟩)
    (c : MemCfg) (H : CfgCC c) (hb8 : c.heapBase % 8 = 0) (hb0 : 0 < c.heapBase)
    (Pk : Nat) (hbytes : 64 * (Pk + progMaxAlloc p + 2) ≤ c.heapBytes)
    (hfitX : c.codeBase + 4 * ninstr routine < 2 ^ 64)
    (hkv : String → Option (List (String × Kind))) (ls : List (Nat × PLine)) (hl : Lines hkv ls routine)
    (hP : ConcK.PeakAtMost p hooks routine ops c (hkOf hkv) (layout ls) args Pk (progMaxAlloc p * fuel + 1)) :
    ∃ n0 X0, StepsN (layout ls) c n0 (initMS c (hkOf hkv) routine args) X0 ∧
      BChain (layout ls) c
        (fun st X => BoundaryOf p hooks routine ops c (hkOf hkv) (layout ls) st X ∧
          ∃ below inUse, HeapShapeAt c X.σ below inUse ∧ below ≤ Pk + 1 ∧ inUse ≤ Pk)
        (statesOf p fuel ⟨d0.ctx, args.map .int, d0.body⟩) X0 := by
  obtain ⟨_, _, n0, X0, n, XL, h0, hch, _⟩ := ConcK.programs_run_gen p args hooks body routine nargs d0 ops c' hsafe
    htp hprog hcompM hfit hcompX hnd hd hentry hlen hcap fuel out v hfuel hrun c H hb8 hb0 Pk (progMaxAlloc p)
    (allocLe_progMaxAlloc p) hbytes (Ref.K.holdsB_layout hl) hfitX (ConcK.peakHyp_of_peakAtMost hP)
  exact ⟨n0, X0, h0, ConcK.bchain_shape_peak hP _ X0 n0 h0 hch⟩

/-- THE FRONTIER BOUND FOR EVERY PREFIX OF EVERY RUN (terminating or not), all programs: for ANY number `fuel` of
steps of the positional machine the machine reaches, without fault, a boundary configuration for every state of
the prefix, with at most `Pk + 1` blocks below the frontier at each -/
theorem C10_a64_every_prefix_all (p : AxCut.Prog) (args : List Word) (hooks : Bool) (body routine : List Code)
    (nargs : Nat) (d0 : Def) (ops : List MockOp) (c' : Nat)
    (hsafe : LabelSafe p = true) (htp : LinTypedProg p) (hprog : ∀ d ∈ p.types, d.xtors.length ≤ 1024)
    (hcompM : (compile mockSym hooks p).run 0 = .ok ((ops, nargs), c')) (hfit : CodeFits ops)
    (hcompX : compileProg a64Backend p hooks 0 = .ok (body, nargs, routine))
    (hnd : (labs routine).Nodup)
    (hd : p.defs.head? = some d0) (hentry : ∀ b ∈ d0.ctx, b.chi = .ext ∧ b.ty = .i64)
    (hlen : d0.ctx.length = args.length)
    (hcap : ∀ st, Reachable p ⟨d0.ctx, args.map .int, d0.body⟩ st → 2 * st.ctx.length ≤ 280)
    (fuel : Nat) (hfuel : fuel + 1 < 2 ^ 64)
    (c : MemCfg) (H : CfgCC c) (hb8 : c.heapBase % 8 = 0) (hb0 : 0 < c.heapBase)
    (Pk : Nat) (hbytes : 64 * (Pk + progMaxAlloc p + 2) ≤ c.heapBytes)
    (hfitX : c.codeBase + 4 * ninstr routine < 2 ^ 64)
    (hkv : String → Option (List (String × Kind))) (ls : List (Nat × PLine)) (hl : Lines hkv ls routine)
    (hP : ConcK.PeakAtMost p hooks routine ops c (hkOf hkv) (layout ls) args Pk (progMaxAlloc p * fuel + 1)) :
    ∃ n0 X0, StepsN (layout ls) c n0 (initMS c (hkOf hkv) routine args) X0 ∧
      X0.σ.maxHeap ≤ c.heapBytes ∧
      BChain (layout ls) c
        (fun st X => BoundaryOf p hooks routine ops c (hkOf hkv) (layout ls) st X ∧
          ∃ below inUse, HeapShapeAt c X.σ below inUse ∧ below ≤ Pk + 1 ∧ inUse ≤ Pk)
        (statesOf p fuel ⟨d0.ctx, args.map .int, d0.body⟩) X0 := by
  obtain ⟨_, _, n0, X0, h0, hch⟩ := ConcK.programs_prefix_gen p args hooks body routine nargs d0 ops c' hsafe
    htp hprog hcompM hfit hcompX hnd hd hentry hlen hcap fuel hfuel c H hb8 hb0 Pk (progMaxAlloc p)
    (allocLe_progMaxAlloc p) hbytes (Ref.K.holdsB_layout hl) hfitX (ConcK.peakHyp_of_peakAtMost hP)
  exact ⟨n0, X0, h0, ConcK.mstepsN_mhw h0 (ConcK.mhwOK_entry c args), ConcK.bchain_shape_peak hP _ X0 n0 h0 hch⟩

/-- THEOREM A ∘ THEOREM B FOR ALL PROGRAMS UNDER THE FOOTPRINT BOUND, on the program laid out from any lines that
are the routine, side hypotheses explicit: `C07_programs` with its room hypothesis `128 + 64·141·fuel ≤ heapBytes`
replaced by `64·(Pk + A + 2) ≤ heapBytes` and the peak hypothesis — a heap that holds the peak is enough for a run
of any length; and the machine's record of the highest heap address written stays inside the heap region. -/
theorem C10_a64_programs_lines (p : AxCut.Prog) (args : List Word) (hooks : Bool) (body routine : List Code)
    (nargs : Nat) (d0 : Def) (ops : List MockOp) (c' : Nat)
    (hsafe : LabelSafe p = true) (htp : LinTypedProg p) (hprog : ∀ d ∈ p.types, d.xtors.length ≤ 1024)
    (hcompM : (compile mockSym hooks p).run 0 = .ok ((ops, nargs), c')) (hfit : CodeFits ops)
    (hcompX : compileProg a64Backend p hooks 0 = .ok (body, nargs, routine))
    (hnd : (labs routine).Nodup)
    (hd : p.defs.head? = some d0) (hentry : ∀ b ∈ d0.ctx, b.chi = .ext ∧ b.ty = .i64)
    (hlen : d0.ctx.length = args.length)
    (hcap : ∀ st, Reachable p ⟨d0.ctx, args.map .int, d0.body⟩ st → 2 * st.ctx.length ≤ 280)
    (fuel : Nat) (out : List (Bool × Word)) (v : Word) (hfuel : fuel + 1 < 2 ^ 64)
    (hrun : Pos.run p args fuel = ⟨out, .done v⟩)
    (cfg : MonCfg) (H : CfgCC cfg.mem) (hheap : cfg.heap = false)
    (hb8 : cfg.mem.heapBase % 8 = 0) (hb0 : 0 < cfg.mem.heapBase)
    (Pk : Nat) (hbytes : 64 * (Pk + progMaxAlloc p + 2) ≤ cfg.mem.heapBytes)
    (hfitX : cfg.mem.codeBase + 4 * ninstr routine < 2 ^ 64)
    (hkv : String → Option (List (String × Kind))) (ls : List (Nat × PLine)) (hl : Lines hkv ls routine)
    (hP : ConcK.PeakAtMost p hooks routine ops cfg.mem (hkOf hkv) (layout ls) args Pk
      (progMaxAlloc p * fuel + 1)) :
    ∃ fuel', (runProg (layout ls) args fuel' cfg).out = out ∧ (runProg (layout ls) args fuel' cfg).res = .done v ∧
      (runProg (layout ls) args fuel' cfg).maxHeapWritten ≤ cfg.mem.heapBytes := by
  obtain ⟨N, _, h2⟩ := ConcK.programs_done_gen p args hooks body routine nargs d0 ops c' hsafe htp hprog hcompM hfit
    hcompX hnd hd hentry hlen hcap fuel out v hfuel hrun cfg H hheap hb8 hb0 Pk (progMaxAlloc p)
    (allocLe_progMaxAlloc p) hbytes (Ref.K.holdsB_layout hl) hfitX (ConcK.peakHyp_of_peakAtMost hP)
  exact ⟨N + 1, (h2 (N + 1) (by omega)).1, (h2 (N + 1) (by omega)).2, ConcK.runProg_mhw _ args _ cfg hheap⟩

/-- C10, THE FOOTPRINT ON THE MACHINE, all programs, on the lines: let at no statement boundary of the run in a
heap of `64·(Pk + A + 2)` bytes more than `Pk` blocks be in use.  Then in ANY heap at least that large the run
reproduces the trace and the result of the positional machine, and the highest heap address ever written lies
at most `Pk + A + 2` blocks above the heap base — independent of the length of the run and of the size of the
heap. -/
theorem C10_a64_footprint_all_lines (p : AxCut.Prog) (args : List Word) (hooks : Bool) (body routine : List Code)
    (nargs : Nat) (d0 : Def) (ops : List MockOp) (c' : Nat)
    (hsafe : LabelSafe p = true) (htp : LinTypedProg p) (hprog : ∀ d ∈ p.types, d.xtors.length ≤ 1024)
    (hcompM : (compile mockSym hooks p).run 0 = .ok ((ops, nargs), c')) (hfit : CodeFits ops)
    (hcompX : compileProg a64Backend p hooks 0 = .ok (body, nargs, routine))
    (hnd : (labs routine).Nodup)
    (hd : p.defs.head? = some d0) (hentry : ∀ b ∈ d0.ctx, b.chi = .ext ∧ b.ty = .i64)
    (hlen : d0.ctx.length = args.length)
    (hcap : ∀ st, Reachable p ⟨d0.ctx, args.map .int, d0.body⟩ st → 2 * st.ctx.length ≤ 280)
    (fuel : Nat) (out : List (Bool × Word)) (v : Word) (hfuel : fuel + 1 < 2 ^ 64)
    (hrun : Pos.run p args fuel = ⟨out, .done v⟩)
    (cfg : MonCfg) (H : CfgCC cfg.mem) (hheap : cfg.heap = false)
    (hb8 : cfg.mem.heapBase % 8 = 0) (hb0 : 0 < cfg.mem.heapBase)
    (Pk : Nat) (hbytes : 64 * (Pk + progMaxAlloc p + 2) ≤ cfg.mem.heapBytes)
    (hfitX : cfg.mem.codeBase + 4 * ninstr routine < 2 ^ 64)
    (hkv : String → Option (List (String × Kind))) (ls : List (Nat × PLine)) (hl : Lines hkv ls routine)
    (hP : ConcK.PeakAtMost p hooks routine ops (withHeapBytes cfg (64 * (Pk + progMaxAlloc p + 2))).mem (hkOf hkv)
      (layout ls) args Pk (progMaxAlloc p * fuel + 1)) :
    ∃ fuel', (runProg (layout ls) args fuel' cfg).out = out ∧ (runProg (layout ls) args fuel' cfg).res = .done v ∧
      (runProg (layout ls) args fuel' cfg).maxHeapWritten ≤ 64 * (Pk + progMaxAlloc p + 2) := by
  obtain ⟨fuel', h1, h2, h3⟩ := C10_a64_programs_lines p args hooks body routine nargs d0 ops c' hsafe htp
    hprog hcompM hfit hcompX hnd hd hentry hlen hcap fuel out v hfuel hrun
    (withHeapBytes cfg (64 * (Pk + progMaxAlloc p + 2))) (ConcK.cfgCC_withHeapBytes H hbytes) hheap hb8 hb0 Pk
    (Nat.le_refl _) hfitX hkv ls hl hP
  have e := ConcK.runProg_larger_heap (P := layout ls) (ConcK.sub_withHeapBytes H hbytes) hheap hheap args fuel'
    (Or.inr ⟨v, h2⟩)
  exact ⟨fuel', by rw [e]; exact h1, by rw [e]; exact h2, by rw [e]; exact h3⟩

/-- THEOREM A ∘ THEOREM B FOR ALL PROGRAMS UNDER THE FOOTPRINT BOUND, ON THE TEXT OF THE ROUTINE, side hypotheses
discharged: the hypotheses of `C07_programs_text` with the room hypothesis replaced by the footprint bound (the
peak hypothesis for the mock code and the lines of the text; `fuel + 1 < 2^64`) -/
theorem C10_a64_programs (p : AxCut.Prog) (args : List Word) (hooks : Bool) (body routine : List Code)
    (nargs : Nat) (d0 : Def)
    (hsafe : LabelSafe p = true) (htp : LinTypedProg p) (hchk : C07_a64Checks p = true)
    (hcompX : compileProg a64Backend p hooks 0 = .ok (body, nargs, routine))
    (hd : p.defs.head? = some d0) (hargs : args.length = nargs)
    (fuel : Nat) (out : List (Bool × Word)) (v : Word) (hfuel : fuel + 1 < 2 ^ 64)
    (hrun : Pos.run p args fuel = ⟨out, .done v⟩)
    (cfg : MonCfg) (H : CfgCC cfg.mem) (hheap : cfg.heap = false) (hwf : cfg.wf = true → routine.length < 262144)
    (hb8 : cfg.mem.heapBase % 8 = 0) (hb0 : 0 < cfg.mem.heapBase)
    (Pk : Nat) (hbytes : 64 * (Pk + progMaxAlloc p + 2) ≤ cfg.mem.heapBytes)
    (hfitX : cfg.mem.codeBase + 4 * ninstr routine < 2 ^ 64)
    (hP : ∀ ops c' ls, (compile mockSym hooks p).run 0 = .ok ((ops, nargs), c') →
      parseText (printProg routine) = .ok ls →
      ConcK.PeakAtMost p hooks routine ops cfg.mem (hkOf hookVarsOf) (layout ls) args Pk
        (progMaxAlloc p * fuel + 1)) :
    ∃ fuel', (run (printProg routine) args fuel' cfg).out = out ∧
      (run (printProg routine) args fuel' cfg).res = .done v ∧
      (run (printProg routine) args fuel' cfg).maxHeapWritten ≤ cfg.mem.heapBytes := by
  obtain ⟨ops, c', ls, S⟩ := C07_setup_of_checks p args hooks body routine nargs d0 hsafe htp hchk hcompX hd
  obtain ⟨fuel', h1, h2, h3⟩ := C10_a64_programs_lines p args hooks body routine nargs d0 ops c' hsafe htp S.progOK
    S.compM S.fit hcompX S.nd hd S.entry (by rw [← S.nargs, hargs]) S.cap fuel out v hfuel hrun cfg H hheap hb8 hb0
    Pk hbytes hfitX hookVarsOf ls S.lines (hP ops c' ls S.compM S.parse)
  have e := C09_run_eq_runProg S.parse (C09_wf_ok hsafe htp hchk hcompX hwf) args fuel'
  exact ⟨fuel', by rw [e]; exact h1, by rw [e]; exact h2, by rw [e]; exact h3⟩

/-- C10, THE FOOTPRINT, ALL PROGRAMS, ON THE TEXT OF THE ROUTINE: the machine's entry point `run` on the printed
routine reproduces trace and result and never writes above `Pk + A + 2` blocks of its heap -/
theorem C10_a64_footprint_all (p : AxCut.Prog) (args : List Word) (hooks : Bool) (body routine : List Code)
    (nargs : Nat) (d0 : Def)
    (hsafe : LabelSafe p = true) (htp : LinTypedProg p) (hchk : C07_a64Checks p = true)
    (hcompX : compileProg a64Backend p hooks 0 = .ok (body, nargs, routine))
    (hd : p.defs.head? = some d0) (hargs : args.length = nargs)
    (fuel : Nat) (out : List (Bool × Word)) (v : Word) (hfuel : fuel + 1 < 2 ^ 64)
    (hrun : Pos.run p args fuel = ⟨out, .done v⟩)
    (cfg : MonCfg) (H : CfgCC cfg.mem) (hheap : cfg.heap = false) (hwf : cfg.wf = true → routine.length < 262144)
    (hb8 : cfg.mem.heapBase % 8 = 0) (hb0 : 0 < cfg.mem.heapBase)
    (Pk : Nat) (hbytes : 64 * (Pk + progMaxAlloc p + 2) ≤ cfg.mem.heapBytes)
    (hfitX : cfg.mem.codeBase + 4 * ninstr routine < 2 ^ 64)
    (hP : ∀ ops c' ls, (compile mockSym hooks p).run 0 = .ok ((ops, nargs), c') →
      parseText (printProg routine) = .ok ls →
      ConcK.PeakAtMost p hooks routine ops (withHeapBytes cfg (64 * (Pk + progMaxAlloc p + 2))).mem
        (hkOf hookVarsOf) (layout ls) args Pk (progMaxAlloc p * fuel + 1)) :
    ∃ fuel', (run (printProg routine) args fuel' cfg).out = out ∧
      (run (printProg routine) args fuel' cfg).res = .done v ∧
      (run (printProg routine) args fuel' cfg).maxHeapWritten ≤ 64 * (Pk + progMaxAlloc p + 2) := by
  obtain ⟨ops, c', ls, S⟩ := C07_setup_of_checks p args hooks body routine nargs d0 hsafe htp hchk hcompX hd
  obtain ⟨fuel', h1, h2, h3⟩ := C10_a64_footprint_all_lines p args hooks body routine nargs d0 ops c' hsafe htp
    S.progOK S.compM S.fit hcompX S.nd hd S.entry (by rw [← S.nargs, hargs]) S.cap fuel out v hfuel hrun cfg H hheap
    hb8 hb0 Pk hbytes hfitX hookVarsOf ls S.lines (hP ops c' ls S.compM S.parse)
  have e := C09_run_eq_runProg S.parse (C09_wf_ok hsafe htp hchk hcompX hwf) args fuel'
  exact ⟨fuel', by rw [e]; exact h1, by rw [e]; exact h2, by rw [e]; exact h3⟩

/-- with `Pk = A·fuel + 1` the peak hypothesis is trivial: the footprint of a terminating run of ANY program in
terms of its length -/
theorem C10_a64_coarse_all (p : AxCut.Prog) (args : List Word) (hooks : Bool) (body routine : List Code)
    (nargs : Nat) (d0 : Def)
    (hsafe : LabelSafe p = true) (htp : LinTypedProg p) (hchk : C07_a64Checks p = true)
    (hcompX : compileProg a64Backend p hooks 0 = .ok (body, nargs, routine))
    (hd : p.defs.head? = some d0) (hargs : args.length = nargs)
    (fuel : Nat) (out : List (Bool × Word)) (v : Word) (hfuel : fuel + 1 < 2 ^ 64)
    (hrun : Pos.run p args fuel = ⟨out, .done v⟩)
    (cfg : MonCfg) (H : CfgCC cfg.mem) (hheap : cfg.heap = false) (hwf : cfg.wf = true → routine.length < 262144)
    (hb8 : cfg.mem.heapBase % 8 = 0) (hb0 : 0 < cfg.mem.heapBase)
    (hbytes : 64 * (progMaxAlloc p * fuel + 1 + progMaxAlloc p + 2) ≤ cfg.mem.heapBytes)
    (hfitX : cfg.mem.codeBase + 4 * ninstr routine < 2 ^ 64) :
    ∃ fuel', (run (printProg routine) args fuel' cfg).out = out ∧
      (run (printProg routine) args fuel' cfg).res = .done v ∧
      (run (printProg routine) args fuel' cfg).maxHeapWritten ≤
        64 * (progMaxAlloc p * fuel + 1 + progMaxAlloc p + 2) :=
  C10_a64_footprint_all p args hooks body routine nargs d0 hsafe htp hchk hcompX hd hargs fuel out v hfuel hrun cfg
    H hheap hwf hb8 hb0 (progMaxAlloc p * fuel + 1) hbytes hfitX
    (fun _ _ _ _ _ => C10_peak_trivial_all _ _ _ _ _ _ _ _ _)

/-- C10, ALL RUNS OF ALL PROGRAMS, IN TERMS OF THE DATA OF THE POSITIONAL MACHINE, on the lines, side hypotheses
explicit: if the object and closure values held by the variables never have more than `D` fields in total (over
all reachable states of the AxCut positional machine) and the positional machine never gets stuck, then in any heap of at least `64·(D + A + 2)` bytes the
machine, for every amount of fuel (below `2^64 / (M + 1)`, `M = progMaxSize p`), is still running or has returned
the result of the positional machine, and has never written above `D + A + 2` blocks of its heap. -/
theorem C10_a64_size_all_lines (p : AxCut.Prog) (args : List Word) (hooks : Bool) (body routine : List Code)
    (nargs : Nat) (d0 : Def) (ops : List MockOp) (c' : Nat)
    (hsafe : LabelSafe p = true) (htp : LinTypedProg p) (hprog : ∀ d ∈ p.types, d.xtors.length ≤ 1024)
    (hcompM : (compile mockSym hooks p).run 0 = .ok ((ops, nargs), c')) (hfit : CodeFits ops)
    (hcompX : compileProg a64Backend p hooks 0 = .ok (body, nargs, routine))
    (hnd : (labs routine).Nodup)
    (hd : p.defs.head? = some d0) (hentry : ∀ b ∈ d0.ctx, b.chi = .ext ∧ b.ty = .i64)
    (hlen : d0.ctx.length = args.length)
    (hcap : ∀ st, Reachable p ⟨d0.ctx, args.map .int, d0.body⟩ st → 2 * st.ctx.length ≤ 280)
    (hnostuck : ∀ fuel w, (Pos.run p args fuel).res ≠ .stuck w)
    (D : Nat) (hD : ∀ st, Reachable p ⟨d0.ctx, args.map .int, d0.body⟩ st → valsFields st.env ≤ D)
    (cfg : MonCfg) (H : CfgCC cfg.mem) (hheap : cfg.heap = false)
    (hb8 : cfg.mem.heapBase % 8 = 0) (hb0 : 0 < cfg.mem.heapBase)
    (hbytes : 64 * (D + progMaxAlloc p + 2) ≤ cfg.mem.heapBytes)
    (hfitX : cfg.mem.codeBase + 4 * ninstr routine < 2 ^ 64)
    (hkv : String → Option (List (String × Kind))) (ls : List (Nat × PLine)) (hl : Lines hkv ls routine)
    (fuel' : Nat) (hf : fuel' * (progMaxSize p + 1) + stmtSize d0.body + 1 < 2 ^ 64) :
    ((runProg (layout ls) args fuel' cfg).res = .outOfFuel ∨
      ∃ v out, Pos.run p args (fuel' * (progMaxSize p + 1) + stmtSize d0.body) = ⟨out, .done v⟩ ∧
        (runProg (layout ls) args fuel' cfg).res = .done v) ∧
    (runProg (layout ls) args fuel' cfg).maxHeapWritten ≤ 64 * (D + progMaxAlloc p + 2) :=
  ConcK.programs_dsize_all p args hooks body routine nargs d0 ops c' hsafe htp hprog hcompM hfit hcompX hnd hd
    hentry hlen hcap hnostuck D hD cfg H hheap hb8 hb0 (progMaxAlloc p) (progMaxSize p) (allocLe_progMaxAlloc p)
    (stmtSize_le_progMaxSize p) hbytes (Ref.K.holdsB_layout hl) hfitX fuel' hf

/-- … ON THE TEXT OF THE ROUTINE, side hypotheses discharged -/
theorem C10_a64_size_all (p : AxCut.Prog) (args : List Word) (hooks : Bool) (body routine : List Code)
    (nargs : Nat) (d0 : Def)
    (hsafe : LabelSafe p = true) (htp : LinTypedProg p) (hchk : C07_a64Checks p = true)
    (hcompX : compileProg a64Backend p hooks 0 = .ok (body, nargs, routine))
    (hd : p.defs.head? = some d0) (hargs : args.length = nargs)
    (hnostuck : ∀ fuel w, (Pos.run p args fuel).res ≠ .stuck w)
    (D : Nat) (hD : ∀ st, Reachable p ⟨d0.ctx, args.map .int, d0.body⟩ st → valsFields st.env ≤ D)
    (cfg : MonCfg) (H : CfgCC cfg.mem) (hheap : cfg.heap = false) (hwf : cfg.wf = true → routine.length < 262144)
    (hb8 : cfg.mem.heapBase % 8 = 0) (hb0 : 0 < cfg.mem.heapBase)
    (hbytes : 64 * (D + progMaxAlloc p + 2) ≤ cfg.mem.heapBytes)
    (hfitX : cfg.mem.codeBase + 4 * ninstr routine < 2 ^ 64)
    (fuel' : Nat) (hf : fuel' * (progMaxSize p + 1) + stmtSize d0.body + 1 < 2 ^ 64) :
    ((run (printProg routine) args fuel' cfg).res = .outOfFuel ∨
      ∃ v out, Pos.run p args (fuel' * (progMaxSize p + 1) + stmtSize d0.body) = ⟨out, .done v⟩ ∧
        (run (printProg routine) args fuel' cfg).res = .done v) ∧
    (run (printProg routine) args fuel' cfg).maxHeapWritten ≤ 64 * (D + progMaxAlloc p + 2) := by
  obtain ⟨ops, c', ls, S⟩ := C07_setup_of_checks p args hooks body routine nargs d0 hsafe htp hchk hcompX hd
  rw [C09_run_eq_runProg S.parse (C09_wf_ok hsafe htp hchk hcompX hwf)]
  exact C10_a64_size_all_lines p args hooks body routine nargs d0 ops c' hsafe htp S.progOK S.compM S.fit hcompX
    S.nd hd S.entry (by rw [← S.nargs, hargs]) S.cap hnostuck D hD cfg H hheap hb8 hb0 hbytes hfitX hookVarsOf ls
    S.lines fuel' hf

/-- a run of the positional machine that has ended (not `outOfFuel`) gives the same behaviour with more fuel -/
theorem C10_runState_mono (prog : AxCut.Prog) : ∀ (fuel : Nat) (st : Pos.State) (acc : List (Bool × Word)),
    (Pos.runState prog fuel st acc).res ≠ .outOfFuel →
    ∀ k, Pos.runState prog (fuel + k) st acc = Pos.runState prog fuel st acc
  | 0, _, _, h, _ => by simp [Pos.runState] at h
  | fuel + 1, st, acc, h, k => by
    rw [show fuel + 1 + k = (fuel + k) + 1 by omega]
    simp only [Pos.runState] at h ⊢
    cases hst : Pos.step prog st with
    | stuck w => rfl
    | done v' => rfl
    | next st' o =>
      rw [hst] at h
      simp only
      exact C10_runState_mono prog fuel st' _ h k

theorem C10_run_mono (p : AxCut.Prog) (args : List Word) (f : Nat) (h : (Pos.run p args f).res ≠ .outOfFuel)
    (k : Nat) : Pos.run p args (f + k) = Pos.run p args f := by
  unfold Pos.run at h ⊢
  cases hdefs : p.defs with
  | nil => rfl
  | cons d ds =>
    rw [hdefs] at h
    simp only at h ⊢
    split
    · rfl
    · rename_i hl
      rw [if_neg hl] at h
      exact C10_runState_mono p f _ [] h k

/-- a run that ends with `done v` for some fuel never gets stuck, and `v` is its only result -/
theorem C10_done_unique {p : AxCut.Prog} {args : List Word} {f0 : Nat} {out0 : List (Bool × Word)} {v0 : Word}
    (h0 : Pos.run p args f0 = ⟨out0, .done v0⟩) :
    (∀ f w, (Pos.run p args f).res ≠ .stuck w) ∧
    (∀ f out v, Pos.run p args f = ⟨out, .done v⟩ → v = v0) := by
  have key : ∀ f, (Pos.run p args f).res ≠ .outOfFuel → Pos.run p args f = Pos.run p args f0 := by
    intro f hne
    have h1 := C10_run_mono p args f hne f0
    have h2 := C10_run_mono p args f0 (by rw [h0]; intro e; cases e) f
    rw [Nat.add_comm] at h2
    rw [← h1, h2]
  constructor
  · intro f w h
    have := key f (by rw [h]; intro e; cases e)
    rw [this, h0] at h
    cases h
  · intro f out v h
    have := key f (by rw [h]; intro e; cases e)
    rw [h, h0] at this
    injection this with _ e
    injection e

/-- the bound on the data of the environments, checked along a run that stops -/
theorem C10_dataSize_of_run (prog : AxCut.Prog) (fuel : Nat) (st0 : Pos.State) (D : Nat)
    (hstop : Scc.Props.C06Generic.stopsWithin prog fuel st0 = true)
    (hall : (Scc.Props.C06Generic.statesOf prog fuel st0).all (fun st => decide (valsFields st.env ≤ D)) = true) :
    ∀ st, Reachable prog st0 st → valsFields st.env ≤ D := by
  intro st hr
  have := Scc.Props.C06Generic.reachable_mem_statesOf prog fuel st0 st hstop hr
  rw [List.all_eq_true] at hall
  simpa using hall st this

/-! ### non-vacuity: the closure program of Props/C07A64Full.lean in the default configuration (a 32 MiB heap) -/

theorem C07_cloProg_consts : progMaxAlloc C07_cloProg = 1 ∧ progMaxSize C07_cloProg = 14 ∧
    stmtSize C07_cloMain.body = 14 := by decide

/-- at no state of the run do the variables hold more than two fields of closure data -/
theorem C07_cloProg_dataSize : ∀ st, Reachable C07_cloProg
    ⟨C07_cloMain.ctx, ([37] : List Word).map .int, C07_cloMain.body⟩ st → valsFields st.env ≤ 2 :=
  C10_dataSize_of_run C07_cloProg 20 _ 2 (by decide) (by decide)

theorem C07_cloProg_nargs {body : List Code} {nargs : Nat}
    (hcomp : compileProg a64Backend C07_cloProg true 0 = .ok (body, nargs, C07_cloRoutine)) :
    ([37] : List Word).length = nargs := by
  obtain ⟨c1, hcompA, _⟩ := compileProg_ok hcomp
  obtain ⟨_, _, _, _, _, _, hn2⟩ := Ref.compile_a64_entry hcompA (d0 := C07_cloMain) rfl
  rw [hn2]; rfl

set_option maxRecDepth 100000 in
/-- every hypothesis of `C10_a64_coarse_all` holds for the closure program started with x = 37 (one variable per
closure environment, the trivial peak `1·20 + 1`): the machine on the text of the routine prints 42, returns 42,
and never writes above 64·24 bytes of its heap -/
example : ∃ fuel',
    (run (printProg C07_cloRoutine) [37] fuel' {}).out = [(true, 42)] ∧
    (run (printProg C07_cloRoutine) [37] fuel' {}).res = .done 42 ∧
    (run (printProg C07_cloRoutine) [37] fuel' {}).maxHeapWritten ≤ 64 * (1 * 20 + 1 + 1 + 2) := by
  obtain ⟨body, nargs, hcomp⟩ := C07_cloProg_compiles
  have e1 := C07_cloProg_consts.1
  have key := C10_a64_coarse_all C07_cloProg [37] true body C07_cloRoutine nargs C07_cloMain
    C07_cloProg_safe C07_cloProg_typed C07_cloProg_checks hcomp rfl (C07_cloProg_nargs hcomp)
    20 _ _ (by decide) C07_cloProg_run {} cfgCC_default rfl (fun h => nomatch h) (by decide) (by decide) (by rw [e1]; decide)
    (C07_cloRoutine_fits (by decide))
  rw [e1] at key
  exact key

set_option maxRecDepth 100000 in
/-- THE CLOSURE PROGRAM IN FIVE BLOCKS: for EVERY fuel below 2^58 the machine on the text of the routine is still
running or has returned 42, and it never writes above 320 bytes of its heap (`D = 2`: at no state do the
variables hold more than two fields of closure data — `g` captures `f`, which captures `x`) -/
theorem C10A_cloProg_footprint (fuel' : Nat) (hf : fuel' < 2 ^ 58) :
    ((run (printProg C07_cloRoutine) [37] fuel' {}).res = .outOfFuel ∨
      (run (printProg C07_cloRoutine) [37] fuel' {}).res = .done 42) ∧
    (run (printProg C07_cloRoutine) [37] fuel' {}).maxHeapWritten ≤ 320 := by
  obtain ⟨body, nargs, hcomp⟩ := C07_cloProg_compiles
  obtain ⟨e1, e2, e3⟩ := C07_cloProg_consts
  obtain ⟨hnostuck, huniq⟩ := C10_done_unique C07_cloProg_run
  have key := C10_a64_size_all C07_cloProg [37] true body C07_cloRoutine nargs C07_cloMain
    C07_cloProg_safe C07_cloProg_typed C07_cloProg_checks hcomp rfl (C07_cloProg_nargs hcomp) hnostuck 2
    C07_cloProg_dataSize
    {} cfgCC_default rfl (fun h => nomatch h) (by decide) (by decide) (by rw [e1]; decide) (C07_cloRoutine_fits (by decide))
    fuel' (by rw [e2, e3]; omega)
  rw [e1] at key
  refine ⟨?_, key.2⟩
  rcases key.1 with h | ⟨v, out, hdone, h⟩
  · exact Or.inl h
  · right
    rw [huniq _ out v hdone] at h
    exact h

theorem C13A_cloLoop_nargs {body : List Code} {nargs : Nat}
    (hcomp : compileProg a64Backend C13A_cloLoopProg true 0 = .ok (body, nargs, C13A_cloLoopRoutine)) :
    ([5] : List Word).length = nargs := by
  obtain ⟨c1, hcompA, _⟩ := compileProg_ok hcomp
  obtain ⟨_, _, _, _, _, _, hn2⟩ := Ref.compile_a64_entry hcompA (d0 := C13A_cloLoopMain) rfl
  rw [hn2]; rfl

/-- THE CLOSURE LOOP RUNS FOREVER IN FOUR BLOCKS: `main(x) { create f = (x){ Ap(a) => main(a) }; lit n <- 5;
invoke f Ap(n) }` (Props/C09A64All.lean), started with x = 5 in the default configuration (a 32 MiB heap): for
EVERY fuel below 2^59 the machine on the TEXT of the routine is still running (`outOfFuel`: it never faults and
never returns) and the highest heap address it has written lies at most 256 bytes above the heap base — the
environment block of the closure is reused in every round: space independent of the number of repetitions. -/
theorem C10A_cloLoop_constant_space (fuel' : Nat) (hf : fuel' < 2 ^ 59) :
    (run (printProg C13A_cloLoopRoutine) [5] fuel' {}).res = .outOfFuel ∧
    (run (printProg C13A_cloLoopRoutine) [5] fuel' {}).maxHeapWritten ≤ 256 := by
  obtain ⟨body, nargs, hcomp⟩ := C13A_cloLoop_compiles
  obtain ⟨e1, e2, e3⟩ := C13A_cloLoop_consts
  have key := C10_a64_size_all C13A_cloLoopProg [5] true body C13A_cloLoopRoutine nargs C13A_cloLoopMain
    C13A_cloLoopProg_safe C13A_cloLoopProg_typed C13A_cloLoopProg_checks hcomp rfl (C13A_cloLoop_nargs hcomp)
    C13A_cloLoop_nostuck 1 C13A_cloLoop_size
    {} cfgCC_default rfl (fun h => nomatch h) (by decide) (by decide) (by rw [e1]; decide) (C13A_cloLoopRoutine_fits (by decide))
    fuel' (by rw [e2, e3]; omega)
  rw [e1] at key
  refine ⟨?_, key.2⟩
  rcases key.1 with h | ⟨v, out, hdone, _⟩
  · exact h
  · exfalso
    have hrs : Pos.run C13A_cloLoopProg [5] (fuel' * (progMaxSize C13A_cloLoopProg + 1) + stmtSize C13A_cloLoopMain.body) =
        Pos.runState C13A_cloLoopProg _ C13A_cloS0 [] := Scc.X86.Conc.run_eq_runState rfl rfl _
    have := (C13A_cloLoop_runs (fuel' * (progMaxSize C13A_cloLoopProg + 1) + stmtSize C13A_cloLoopMain.body) []).1
    rw [← hrs, hdone] at this
    cases this

end Scc.A64

#print axioms Scc.A64.C10_peak_trivial_all
#print axioms Scc.A64.C10_a64_frontier_bound_all
#print axioms Scc.A64.C10_a64_every_prefix_all
#print axioms Scc.A64.C10_a64_programs_lines
#print axioms Scc.A64.C10_a64_footprint_all_lines
#print axioms Scc.A64.C10_a64_programs
#print axioms Scc.A64.C10_a64_footprint_all
#print axioms Scc.A64.C10_a64_coarse_all
#print axioms Scc.A64.C10_a64_size_all_lines
#print axioms Scc.A64.C10_a64_size_all
#print axioms Scc.A64.C10A_cloProg_footprint
#print axioms Scc.A64.C10A_cloLoop_constant_space

#print axioms Scc.A64.C10_runState_mono
#print axioms Scc.A64.C10_run_mono
#print axioms Scc.A64.C10_done_unique
#print axioms Scc.A64.C10_dataSize_of_run
#print axioms Scc.A64.C07_cloProg_consts
#print axioms Scc.A64.C07_cloRoutine_fits
#print axioms Scc.A64.C07_cloProg_nargs
#print axioms Scc.A64.C13A_cloLoop_nargs
#print axioms Scc.A64.C07_cloProg_dataSize
