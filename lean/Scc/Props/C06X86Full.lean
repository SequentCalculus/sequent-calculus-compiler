/-
  Scc.Props.C06X86Full — property C06 (x86-64 code generation preserves AxCut semantics): THEOREM A ∘
  THEOREM B on the TEXT of the emitted routine for ALL programs — data types AND CLOSURES —, with the side
  hypotheses of `C06_data_programs` (Props/C06X86Heap.lean) DISCHARGED.

  (A) CLOSURES.  The three-way simulation (AxCut positional machine ⟷ abstract backend machine ⟷ x86-64
  machine) is extended to `create` and `invoke`:
    * `C06_create_x86` (`ThreeWay.create_x3` at the x86-64 machine), `C06_invoke_x86` (`ThreeWay.invoke_x3` at `Ref.K.machineI`);
    * `C06_step_x86_all` (`Ref.K.step3`): the three-way step for all eleven statement forms;
    * `C06_programs` (`ConcK.programs_items`): the run theorem on the items of the routine, no `DataProg`.
  The word part of a closure is a CODE ADDRESS: the address of the method table in the mock code on the
  abstract machine, the BYTE ADDRESS of the method table in the loaded routine on x86-64 (`addrAt`,
  `LoadedA`).  The two generators draw different label numbers, so the two addresses are related PER
  INSTANCE of a closure (Scc/X86/RefClosDefs.lean): `κ id j` is the machine word of the closure in field `j`
  of object `id`, the machine state holds the word of a closure in a variable, and the closure invariant
  `XC` says of every closure inside every value of the environment that the mock methods stand at its
  abstract word and the x86-64 methods at its machine word, generated FOR THE SAME environment context.
  `invoke` of a single-method closure is `jmp reg` to the byte address of a label: the machine lands on the
  first item of non-zero size behind it; the relation is kept at the statement boundary (`Tol`,
  Scc/X86/RefClosTol.lean).
  The closure-aware proofs are in Scc/X86/RefClosH*.lean + RefClos*.lean, namespace `Scc.X86.Ref.K`: the
  counterparts of Scc/X86/RefHeap*.lean with the relation `X3` taking the extra argument `κ` and the frame
  exports `KeepPos`, `LetProv`, `LoadProv` (for `subst`: `Backend.Prov.SubstProv`, Scc/Backend/StepProv.lean); Scc/X86/RefHeap*.lean serves the theorems for programs
  without closures (Scc/X86/Conc*.lean, C09/C10/C13).

  (B) SIDE HYPOTHESES.
  `C06_x86Checks : AxCut.Prog → Bool` collects what is genuinely per-program:
    * `capCheck`    every context has at most 133 variables (static bound `2·progCap p ≤ 266`, the capacity
                    of utils.rs temporary_from_position for both temporaries of every variable);
    * `sizeCheck`   `10·(1 + longest context)·nodes < 2^64` (the code fits the address space);
    * `C01_progInRangeB`  literals are i64 values, fewer than 4·10^8 xtors per type, fewer than 2^31 pairs
                    per substitution (`ProgInRange`);
    * `C14_namesTextSafe` the names of the program consist of symbol characters of the loader;
    * `entryIntB`   the parameters of the first definition are integers (`main` is called with integers).
  Everything else is PROVED from them, `LabelSafe p`, `LinTypedProg p` and the success of the code generator:
    * the mock code generator succeeds (`mock_compile_ok`: the mock backend is a `TotalBackend`);
    * its code fits the address space (`codeFits_of_size`);
    * every context of every reachable state has at most 133 variables (`cap266_of_check`);
    * `fitsI64 (5·tag)`, `fitsI32 (5·tag)` (from the bound on xtors), `fuel + 1 < 2^64` (from the heap bound
      and `MachOK`);
    * the labels of the emitted routine are pairwise distinct (`labels_unique_x86`, Scc/X86/RefSideLabels.lean:
      the x86-64 analogue of `C14Generic.labels_unique`, memory methods included);
    * the text loads (`C14_routine_loads`).
  RESULT: `C06_programs_text`, and in the shape of `C06_statement` (Props/C06X86.lean):
  `C06_statement_checked` / `C06_statement_checked_holds`; the clauses that differ from `C06_statement` are
  listed before `C06_statement_checked`.
-/
import Scc.X86.RefSide
import Scc.X86.RefSideLabels
import Scc.Props.C06X86Heap
import Scc.X86.ConcKRun
import Scc.Props.C14Loader

namespace Scc.X86
open Scc.AxCut Scc.AxCut.Pos Scc.Backend Scc.Backend.Abs Scc.Backend.Sim Scc.X86.Ref Scc.X86.Ref.K
open Scc.Props.C14Generic (LabelSafe)
open Scc.Props (C01_progInRangeB C01_stmtRangeB C01_clausesRangeB)

/-- the parameters of the first definition are integers (`Scc.A64.entryIntB`, Props/C07A64Full.lean, has the same
    body: the statements of each backend name the check of their own namespace) -/
def entryIntB (p : AxCut.Prog) : Bool :=
  match p.defs.head? with
  | some d0 => d0.ctx.all fun b => decide (b.chi = .ext ∧ b.ty = .i64)
  | none => false

/-- THE DECIDABLE PER-PROGRAM HYPOTHESIS of the x86-64 run theorem -/
def C06_x86Checks (p : AxCut.Prog) : Bool :=
  capCheck p && sizeCheck p && C01_progInRangeB p && C14_namesTextSafe p && entryIntB p

structure ChecksFacts (p : AxCut.Prog) : Prop where
  cap : capCheck p = true
  size : sizeCheck p = true
  range : ProgInRange p
  names : C14_namesTextSafe p = true
  entry : ∃ d0, p.defs.head? = some d0 ∧ ∀ b ∈ d0.ctx, b.chi = .ext ∧ b.ty = .i64

theorem C06_checks_facts {p : AxCut.Prog} (h : C06_x86Checks p = true) : ChecksFacts p := by
  simp only [C06_x86Checks, Bool.and_eq_true] at h
  obtain ⟨⟨⟨⟨h1, h2⟩, h3⟩, h4⟩, h5⟩ := h
  refine ⟨h1, h2, C06_progInRange_of_check h3, h4, ?_⟩
  unfold entryIntB at h5
  cases hd : p.defs.head? with
  | none => rw [hd] at h5; cases h5
  | some d0 =>
    rw [hd] at h5
    simp only [List.all_eq_true, decide_eq_true_eq] at h5
    exact ⟨d0, rfl, h5⟩

open Scc.Backend.Sim2 (RelX Fits)
open Scc.Heap (HState)
open Scc.Heap.Refine (FrLe Room)
open Scc.Props.C06Generic (Reachable WithinCapacity CodeFits EnoughHeap)

section Clos

variable {F : Frame} (H : FrameOK F) (h8 : F.c.heapBase % 8 = 0) {mon : MonCfg} (hmon : mon.mach = F.c)
  {px : X86.Prog} {cs : List Code}

include H h8 hmon in
/-- `create` (`ThreeWay.create_x3` at the x86-64 machine with addresses; its last argument `True` is the guard of the
facts about the states between two boundaries, which the statement drops): the positional machine's step, two steps of the abstract
machine (`store` of the environment, `loadLabel` of the method table), the machine's execution of
`Memory::store` and `lea reg, [rel table]`.  (`L` is not used: `LA.loaded` gives it.)  The relation is re-established; the new closure is at the last
position: its abstract word is the ADDRESS `a` of the mock methods (`MethodsAt`), its machine word the
BYTE ADDRESS `w` of the x86-64 methods in the loaded routine (`XMethodsAt`), generated for the SAME
environment context. -/
theorem C06_create_x86 (L : Loaded px cs) (hnd : (labs cs).Nodup) (LA : LoadedA F.c px cs)
    {P : Program} {hooks : Bool} {prog : AxCut.Prog} {Γ : Ctx}
    {ρ : List Value} {x : Ident} {ty : Ty} {Γc : Ctx} {clauses : Clauses} {next : Stmt} {f1 f2 : FV}
    {cfg : Config}
    (R : RelX P hooks prog ⟨Γ, ρ, .create x ty (some Γc) clauses next f1 f2⟩ cfg)
    (hk : Γc.length ≤ Γ.length)
    (hkeys : Ctx.keys (Γ.drop (Γ.length - Γc.length)) = Γc.keys)
    (hfresh : ∀ b ∈ Γ.take (Γ.length - Γc.length), b.var.id ≠ x.id)
    (hcap : 2 * (Γ.length - Γc.length + 1) + 2 < Mock.T_TEMP)
    (hnext : cfg.next < 2 ^ 64)
    {hs : HState} {ι : Nat → Nat} {κ : Nat → Nat → Word} {st : State} (X : X3 F Γ cfg hs ι κ st)
    {k k' : Nat} {items : List Code}
    (hrun : (codeStatementR x86Backend hooks natRen prog.types (.create x ty (some Γc) clauses next f1 f2) Γ).run k =
      .ok (items, k'))
    (hat : XAt cs st.pc items)
    (hroom : Room hs (64 * Γc.length + 64)) :
    ∃ cfg' st' hs' ι' κ' n, stepsTo P 2 cfg cfg' ∧ stepN mon px n st = .inl st' ∧ FrLe hs hs' (64 * Γc.length) ∧
      cfg'.out = cfg.out ∧ cfg'.next ≤ cfg.next + 1 ∧
      RelX P hooks prog ⟨Γ.take (Γ.length - Γc.length) ++ [⟨x, .cns, ty⟩],
        ρ.take (Γ.length - Γc.length) ++ [.clo Γc (ρ.drop (Γ.length - Γc.length)) clauses], next⟩ cfg' ∧
      X3 F (Γ.take (Γ.length - Γc.length) ++ [⟨x, .cns, ty⟩]) cfg' hs' ι' κ' st' ∧
      ∃ k1 k1' items', (codeStatementR x86Backend hooks natRen prog.types next
          (Γ.take (Γ.length - Γc.length) ++ [⟨x, .cns, ty⟩])).run k1 = .ok (items', k1') ∧
        XAt cs st'.pc items' ∧ LetProv F Γ (Γ.length - Γc.length) cfg cfg' κ κ' st st' ∧
        ∃ a w, cfg'.temps.get (2 * (Γ.length - Γc.length) + 1) = some (BitVec.ofNat 64 a) ∧
          tempVal F.sp st' (posTemp (2 * (Γ.length - Γc.length) + 1)) = some w ∧
          MethodsAt P hooks prog.types a (Γ.drop (Γ.length - Γc.length)) clauses ∧
          XMethodsAt F.c cs hooks prog.types w (Γ.drop (Γ.length - Γc.length)) clauses := by
  obtain ⟨cfg', st', hs', ι', κ', kp', h1, ⟨n, h2, _⟩, rfl, h3, _, h4, h5, h6, h7, k1, k1', items', h8', h9, h10, a, w,
    h11, h12, h13, base, _, h14⟩ :=
    ThreeWay.create_x3 (machineA F H h8 mon hmon px cs LA hnd True) R hk hkeys hfresh hcap hnext (X3.toT H h8 X) hrun hat
      rfl hroom
  exact ⟨cfg', st', hs', ι', κ', n, h1, h2, h3, h4, h5, h6, X3.ofT H h8 h7, k1, k1', items', h8', h9,
    LetProv.ofT h10, a, w, h11, h12, h13, base, h14⟩

include H h8 hmon in
/-- `invoke` (`ThreeWay.invoke_x3` at `Ref.K.machineI`): the positional machine's step; the abstract machine jumps
to the address `a` the closure holds (through the table of the mock methods, if the type has more than one
method) and loads the environment; the x86-64 machine jumps to the BYTE ADDRESS `w` the closure holds
(`jmp reg`; with more than one method: `add reg, 5·pos; jmp reg` into the table of 5-byte jumps — stride
`jump_length` = 5 per method — and from there to the method) and runs `Memory::load` of the environment.
`hword … hXM`: what the closure invariant `XC` says about the closure at the last position.  The relation
is re-established at the boundary state `st'`; the machine itself is at `stR`, which is `st'` or `st'`
moved over labels and comments (`Tol`; `jmp reg` lands on the first item of non-zero size). -/
theorem C06_invoke_x86 (LA : LoadedA F.c px cs) (hnd : (labs cs).Nodup)
    (hfitX : addrAt F.c.codeBase cs cs.length < 2 ^ 64)
    (hreal : ∀ idx, idx < cs.length → ∃ i, idx ≤ i ∧ ∃ h : i < cs.length, codeSize cs[i] ≠ 0)
    {P : Program} {hooks : Bool} {prog : AxCut.Prog} {Γa : Ctx} {b : Binding}
    {ρa : List Value} {Γc : Ctx} {ρc : List Value} {clauses : Clauses} {x tag : Ident} {ty : Ty}
    {args : Ctx} {cfg : Config} {c : Clause} {pos : Nat}
    (R : RelX P hooks prog ⟨Γa ++ [b], ρa ++ [.clo Γc ρc clauses], .invoke x tag ty args⟩ cfg)
    (hfits : Fits P)
    (hb : b.var.id = x.id) (hfresh : ∀ b' ∈ Γa, b'.var.id ≠ x.id)
    (hpos : Pos.tagPosition prog.types ty tag = .ok pos)
    (hclause : nthClause clauses pos = some c)
    (hlenc : ∀ d, lookupTypeDecl prog.types ty = some d → clauses.length = d.xtors.length)
    (hargs : Γa.map (·.chi) = c.ctx.map (·.chi))
    (hkinds : ρc.map Sim2.kindOf = Mock.kindsOf Γc)
    (hcap : 2 * (c.ctx.length + Γc.length) + 2 < Mock.T_TEMP)
    {hs : HState} {ι : Nat → Nat} {κ : Nat → Nat → Word} {st : State} (X : X3 F (Γa ++ [b]) cfg hs ι κ st)
    {a : Nat} {envCtx' : Ctx} {w : Word} (hkeys : envCtx'.keys = Γc.keys)
    (hword : cfg.temps.get (2 * Γa.length + 1) = some (BitVec.ofNat 64 a))
    (hmeth : MethodsAt P hooks prog.types a envCtx' clauses)
    (hw : tempVal F.sp st (posTemp (2 * Γa.length + 1)) = some w)
    (hXM : XMethodsAt F.c cs hooks prog.types w envCtx' clauses)
    {k k' : Nat} {items : List Code}
    (hrun : (codeStatementR x86Backend hooks natRen prog.types (.invoke x tag ty args) (Γa ++ [b])).run k =
      .ok (items, k'))
    (hat : XAt cs st.pc items)
    (hcapX : 2 * (c.ctx.length + Γc.length) ≤ 266)
    (hi32 : fitsI32 (jumpLength pos) = true) :
    ∃ kk cfg' st' stR hs' n, stepsTo P kk cfg cfg' ∧ stepN mon px n st = .inl stR ∧ Tol cs st' stR ∧
      FrLe hs hs' 0 ∧ cfg'.out = cfg.out ∧ cfg'.next = cfg.next ∧
      RelX P hooks prog ⟨c.ctx ++ envCtx', ρa ++ ρc, c.body⟩ cfg' ∧
      X3 F (c.ctx ++ envCtx') cfg' hs' ι κ st' ∧
      ∃ k1 k1' items', (codeStatementR x86Backend hooks natRen prog.types c.body (c.ctx ++ envCtx')).run k1 =
          .ok (items', k1') ∧ XAt cs st'.pc items' ∧ LoadProv F Γa.length envCtx' cfg cfg' κ st st' := by
  obtain ⟨kk, cfg', st', hs', kp', h1, ⟨stR, n, h2, h3, _⟩, rfl, h4, h5, h6, h7, h8', k1, k1', items', h9, h10, h11⟩ :=
    Scc.Backend.ThreeWay.invoke_x3 (Ref.K.machineI F H h8 mon hmon px cs LA hnd hfitX True hreal) R hfits hb hfresh
      hpos hclause hlenc hargs hkinds hcap (Ref.K.X3.toT H h8 X) hkeys hword hmeth hw hXM hrun hat rfl
      (by show _ ≤ 267; omega) hi32
  exact ⟨kk, cfg', st', stR, hs', n, h1, h2, h3, h4, h5, h6, h7, Ref.K.X3.ofT H h8 h8', k1, k1', items', h9, h10,
    LoadProv.ofS (H := H) (h8 := h8) h11⟩

end Clos

/-- THE THREE-WAY STEP FOR ALL ELEVEN STATEMENT FORMS: every step of the positional machine from a typed
state in the three-way relation `Ref.K.Rel3` (`RelX` ∧ `X3` ∧ the closure invariant `XC` ∧ the code at the
program counter) is reproduced by the x86-64 machine, and the relation holds again (`Ref.K.StepSim3`: with
output, bound on the object counter and on the heap frontier; after `invoke` the machine may be ahead of
the boundary state by labels and comments, `Tol`).  `htp` is not used. -/
theorem C06_step_x86_all {F : Frame} (HF : FrameOK F) (h8 : F.c.heapBase % 8 = 0) {mon : MonCfg}
    (hmon : mon.mach = F.c) {px : X86.Prog} {cs pre : List Code} (LA : LoadedA F.c px cs)
    (hnd : (labs cs).Nodup) (hfitX : addrAt F.c.codeBase cs cs.length < 2 ^ 64) (hcs : cs = pre ++ cleanup)
    (hclean : "cleanup" ∉ labs pre) {st0 : State} {h : Word} (E : EntryFacts F st0 h)
    (hooks : Bool) (prog : AxCut.Prog) (c : Nat) (code : List MockOp) (nargs c' : Nat)
    (hcomp : (compile mockSym hooks prog).run c = .ok ((code, nargs), c'))
    (hsafe : LabelSafe prog = true) (htp : LinTypedProg prog) (hfit : CodeFits code)
    (DX : Ref.K.XDefsAt cs hooks prog) (hprog : Ref.K.ProgOK prog)
    (st : Pos.State) (cfg : Config) (hs : HState) (X : State)
    (R : Ref.K.Rel3 F cs (Program.ofOps code) hooks prog st cfg hs X)
    (T : Pos.StateTyped prog st) (hheap : EnoughHeap cfg) (hok : Ref.K.StmtOK st.stmt)
    (hroom : Room hs (64 * 134)) :
    Ref.K.StepSim3 F mon px cs (Program.ofOps code) hooks prog st cfg hs X :=
  Ref.K.step3 HF h8 hmon LA hnd hfitX hcs hclean E hooks prog c code nargs c' hcomp hsafe hfit DX hprog st
    cfg hs X R T hheap hok hroom

/-- THEOREM A ∘ THEOREM B FOR ALL PROGRAMS (data types and closures; no `DataProg` restriction), on the
ITEMS of the emitted routine, with the side hypotheses of the composition stated explicitly (they are
discharged in `C06_programs_text`). -/
theorem C06_programs (p : AxCut.Prog) (args : List Word) (hooks : Bool) (body routine : List Code)
    (nargs : Nat) (d0 : Def) (ops : List MockOp) (c' : Nat)
    (hsafe : LabelSafe p = true) (htp : LinTypedProg p) (hrange : ProgInRange p)
    (hcompM : (compile mockSym hooks p).run 0 = .ok ((ops, nargs), c')) (hfit : CodeFits ops)
    (hcompX : compileX86 p hooks 0 = .ok (body, nargs)) (hrout : intoRoutine body nargs = .ok routine)
    (hnd : (labs routine).Nodup)
    (hd : p.defs.head? = some d0) (hentry : ∀ b ∈ d0.ctx, b.chi = .ext ∧ b.ty = .i64)
    (hcap : ∀ st, Reachable p ⟨d0.ctx, args.map .int, d0.body⟩ st → 2 * st.ctx.length ≤ 266)
    (fuel : Nat) (out : List (Bool × Word)) (v : Word) (hfuel : fuel + 1 < 2 ^ 64)
    (hrun : Pos.run p args fuel = ⟨out, .done v⟩)
    (cfg : MonCfg) (MO : MachOK cfg.mach) (hheap : cfg.heap = false)
    (hb8 : cfg.mach.heapBase % 8 = 0) (hb0 : 0 < cfg.mach.heapBase)
    (hbytes : 128 + 64 * 134 * fuel ≤ cfg.mach.heapBytes)
    (items : List (Code × Nat)) (hitems : (items.map (·.1)).map stripC = routine.map stripC)
    (hfitX : addrAt cfg.mach.codeBase routine routine.length < 2 ^ 64) :
    ∃ fuel', (runItems items args fuel' cfg).out = out ∧ (runItems items args fuel' cfg).res = .done v :=
  ConcK.programs_items p args hooks body routine nargs d0 ops c' hsafe htp
    ⟨hrange.1, fun d hd => hrange.2 d hd⟩ hcompM hfit hcompX hrout hnd hd hentry hcap fuel out v
    hfuel hrun cfg MO hheap hb8 hb0 hbytes items hitems hfitX

/-- THEOREM A ∘ THEOREM B FOR ALL PROGRAMS ON THE TEXT OF THE ROUTINE: for a label-safe, linearly typed
program that passes the decidable checks `C06_x86Checks` and that the x86-64 code generator compiles,
every terminating run of the AxCut positional machine is reproduced — same trace, same result — by the
x86-64 SPEC machine on the printed routine, in EVERY sane machine configuration (`MachOK`; heap monitor off; heap base
positive and 8-aligned; the routine ends below 2^64) whose heap has `128 + 64·134·fuel` bytes. -/
theorem C06_programs_text (p : AxCut.Prog) (args : List Word) (hooks : Bool) (body routine : List Code)
    (nargs : Nat)
    (hsafe : LabelSafe p = true) (htp : LinTypedProg p) (hchk : C06_x86Checks p = true)
    (hcompX : compileX86 p hooks 0 = .ok (body, nargs)) (hrout : intoRoutine body nargs = .ok routine)
    (fuel : Nat) (out : List (Bool × Word)) (v : Word) (hrun : Pos.run p args fuel = ⟨out, .done v⟩)
    (cfg : MonCfg) (MO : MachOK cfg.mach) (hheap : cfg.heap = false)
    (hb8 : cfg.mach.heapBase % 8 = 0) (hb0 : 0 < cfg.mach.heapBase)
    (hbytes : 128 + 64 * 134 * fuel ≤ cfg.mach.heapBytes)
    (hfitX : addrAt cfg.mach.codeBase routine routine.length < 2 ^ 64) :
    ∃ fuel', (run (printProg routine) args fuel' cfg).out = out ∧
      (run (printProg routine) args fuel' cfg).res = .done v := by
  obtain ⟨hcap, hsize, hrange, hnames, d0, hd, hentry⟩ := C06_checks_facts hchk
  have hnd : (labs routine).Nodup := labels_unique_x86 hsafe hcompX hrout
  have hmem : d0 ∈ p.defs := by
    cases hdefs : p.defs with
    | nil => rw [hdefs] at hd; simp at hd
    | cons d ds => rw [hdefs] at hd; simp at hd; subst hd; simp
  have hne : p.defs ≠ [] := fun e => by rw [e] at hmem; cases hmem
  obtain ⟨ops, nargsM, c', hcompM⟩ := Scc.Backend.Total.mock_compile_ok hooks p htp hne 0
  have hnargs : nargsM = nargs := by
    obtain ⟨_, hn⟩ := Scc.Backend.Sim.mock_entry hcompM hd
    unfold compileX86 at hcompX
    cases hx : (compile x86Backend hooks p).run 0 with
    | error e => rw [hx] at hcompX; cases hcompX
    | ok r =>
      obtain ⟨⟨body', nargs'⟩, c''⟩ := r
      rw [hx] at hcompX
      simp only [Except.ok.injEq, Prod.mk.injEq] at hcompX
      obtain ⟨rfl, rfl⟩ := hcompX
      obtain ⟨d0', ds, hd', hn'⟩ := Scc.Backend.compile_nargs_cons hx
      rw [hd'] at hd
      simp only [List.head?_cons, Option.some.injEq] at hd
      subst hd
      rw [hn, hn']
  subst hnargs
  obtain ⟨items, hparse, hitems⟩ := C14_routine_loads hrange hnames hcompX hrout
  obtain ⟨fuel', h1, h2⟩ := C06_programs p args hooks body routine nargsM d0 ops c' hsafe htp
    hrange hcompM (codeFits_of_size htp hsize hcompM) hcompX hrout
    hnd hd hentry (cap266_of_check hcap hmem args) fuel out v (fuel_lt_of_heap MO hbytes) hrun cfg MO hheap hb8
    hb0 hbytes items hitems hfitX
  exact ⟨fuel', by rw [run_eq_runItems hparse]; exact h1, by rw [run_eq_runItems hparse]; exact h2⟩

/-- `C06_programs_text` for programs with data types only (the hypothesis `DataProg p` is not used) -/
theorem C06_data_programs_text (p : AxCut.Prog) (args : List Word) (hooks : Bool) (body routine : List Code)
    (nargs : Nat)
    (hsafe : LabelSafe p = true) (htp : LinTypedProg p) (hdata : DataProg p) (hchk : C06_x86Checks p = true)
    (hcompX : compileX86 p hooks 0 = .ok (body, nargs)) (hrout : intoRoutine body nargs = .ok routine)
    (fuel : Nat) (out : List (Bool × Word)) (v : Word) (hrun : Pos.run p args fuel = ⟨out, .done v⟩)
    (cfg : MonCfg) (MO : MachOK cfg.mach) (hheap : cfg.heap = false)
    (hb8 : cfg.mach.heapBase % 8 = 0) (hb0 : 0 < cfg.mach.heapBase)
    (hbytes : 128 + 64 * 134 * fuel ≤ cfg.mach.heapBytes)
    (hfitX : addrAt cfg.mach.codeBase routine routine.length < 2 ^ 64) :
    ∃ fuel', (run (printProg routine) args fuel' cfg).out = out ∧
      (run (printProg routine) args fuel' cfg).res = .done v :=
  C06_programs_text p args hooks body routine nargs hsafe htp hchk hcompX hrout fuel out v hrun cfg MO hheap hb8
    hb0 hbytes hfitX

/-! ## comparison with `C06_statement` (Props/C06X86.lean)

`C06_statement` reads: `LinTypedProg p`, compile ok ⇒ for every terminating run
`∃ fuel' heapBytes, ∀ cfg, cfg.mach.heapBytes = heapBytes → cfg.heap = false →` same trace and result.
`C06_statement_checked` below is what is PROVED; the clauses that differ:
  (1) hypotheses `LabelSafe p = true` and `C06_x86Checks p = true` (names printable for the loader,
      literals/tags/substitutions in range, at most 133 variables per context, code size below 2^64,
      integer parameters of the first definition) — `C06_statement` has none of them;
  (2) `C06_statement` quantifies over EVERY configuration with the chosen `heapBytes`; proved for the sane
      ones: `MachOK cfg.mach` (regions disjoint and below 2^64), `heapBase % 8 = 0`, `0 < heapBase`, the
      loaded routine ends below 2^64 (`addrAt codeBase routine routine.length < 2^64`);
  (3) heap: every `heapBytes ≥ 128 + 64·134·fuel` (a lower bound, not one value) — stronger;
  (4) `fuel'` is chosen AFTER the configuration (`∀ cfg … ∃ fuel'`), in `C06_statement` before it. -/

/-- C06 on x86-64 as PROVED (`C06_statement_checked_holds`) -/
def C06_statement_checked : Prop :=
  ∀ (p : AxCut.Prog) (args : List (BitVec 64)) (hooks : Bool) (body routine : List Code) (nargs : Nat),
    LabelSafe p = true → LinTypedProg p → C06_x86Checks p = true →
    compileX86 p hooks 0 = .ok (body, nargs) → intoRoutine body nargs = .ok routine →
    ∀ fuel v, Pos.run p args fuel = ⟨(Pos.run p args fuel).out, .done v⟩ →
      ∃ heapBytes, ∀ cfg : MonCfg, MachOK cfg.mach → cfg.mach.heapBase % 8 = 0 → 0 < cfg.mach.heapBase →
        addrAt cfg.mach.codeBase routine routine.length < 2 ^ 64 →
        heapBytes ≤ cfg.mach.heapBytes → cfg.heap = false →
        ∃ fuel', (run (printProg routine) args fuel' cfg).out = (Pos.run p args fuel).out ∧
          (run (printProg routine) args fuel' cfg).res = .done v

theorem C06_statement_checked_holds : C06_statement_checked := by
  intro p args hooks body routine nargs hsafe htp hchk hcompX hrout fuel v hrun
  refine ⟨128 + 64 * 134 * fuel, fun cfg MO hb8 hb0 hfitX hbytes hheap => ?_⟩
  exact C06_programs_text p args hooks body routine nargs hsafe htp hchk hcompX hrout fuel _ v hrun cfg MO hheap
    hb8 hb0 hbytes hfitX

set_option maxRecDepth 100000 in
theorem C06_boxProg_checks : C06_x86Checks C06_boxProg = true := by decide +kernel

/-- the box program of Props/C06X86Heap.lean started with x = 21: every hypothesis of
`C06_programs_text` holds, so the x86-64 machine on the TEXT of the emitted routine prints 42 and
returns 42 -/
example : ∃ fuel',
    (run (printProg C06_boxRoutine) [21] fuel' {}).out = [(true, 42)] ∧
    (run (printProg C06_boxRoutine) [21] fuel' {}).res = .done 42 := by
  exact C06_programs_text C06_boxProg [21] true C06_boxBody C06_boxRoutine 1
    C06_boxProg_labelSafe C06_boxProg_typed C06_boxProg_checks C06_boxProg_compiles.2.1 C06_boxProg_compiles.2.2
    20 _ _ C06_boxProg_run {} machOK_default rfl (by decide) (by decide) (by decide) C06_boxRoutine_fits

/-! ### non-vacuity: closures (single method: `jmp reg`; two methods: jump table; a closure captured by a
closure, moved by `subst`, erased) -/

def C06_tFun : Ty := .decl ⟨"Fun", 0⟩
def C06_tTwo : Ty := .decl ⟨"Two", 0⟩
def C06_funDecl : TypeDecl := { name := ⟨"Fun", 0⟩, xtors := [⟨⟨"Ap", 0⟩, [⟨⟨"a", 202⟩, .ext, .i64⟩]⟩] }
def C06_twoDecl : TypeDecl :=
  { name := ⟨"Two", 0⟩, xtors := [⟨⟨"Fst", 0⟩, [⟨⟨"a", 203⟩, .ext, .i64⟩]⟩, ⟨⟨"Snd", 0⟩, [⟨⟨"a", 204⟩, .ext, .i64⟩]⟩] }

/-- main(x) { create f : Fun = (x){ Ap(a) => s <- a + x; println s; exit s }; lit n <- 5;
      subst (n := n)(f := f);
      create g : Two = (f){ Fst(a) => invoke f Ap; Snd(a) => subst (a := a); exit a };
      invoke g Fst } -/
def C06_cloMain : Def :=
  { name := ⟨"main", 0⟩, ctx := [⟨⟨"x", 1⟩, .ext, .i64⟩],
    body := .create ⟨"f", 2⟩ C06_tFun (some [⟨⟨"x", 1⟩, .ext, .i64⟩])
      (.cons ⟨"Ap", 0⟩ [⟨⟨"a", 3⟩, .ext, .i64⟩]
        (.op ⟨"s", 4⟩ ⟨"a", 3⟩ .sum ⟨"x", 1⟩ (.print true ⟨"s", 4⟩ (.exit ⟨"s", 4⟩) none) none) .nil)
      (.lit ⟨"n", 5⟩ 5
        (.subst [(⟨⟨"n", 6⟩, .ext, .i64⟩, ⟨"n", 5⟩), (⟨⟨"f", 7⟩, .cns, C06_tFun⟩, ⟨"f", 2⟩)]
          (.create ⟨"g", 8⟩ C06_tTwo (some [⟨⟨"f", 7⟩, .cns, C06_tFun⟩])
            (.cons ⟨"Fst", 0⟩ [⟨⟨"a", 9⟩, .ext, .i64⟩]
              (.invoke ⟨"f", 7⟩ ⟨"Ap", 0⟩ C06_tFun [⟨⟨"a", 9⟩, .ext, .i64⟩])
              (.cons ⟨"Snd", 0⟩ [⟨⟨"a", 10⟩, .ext, .i64⟩]
                (.subst [(⟨⟨"a", 11⟩, .ext, .i64⟩, ⟨"a", 10⟩)] (.exit ⟨"a", 11⟩)) .nil))
            (.invoke ⟨"g", 8⟩ ⟨"Fst", 0⟩ C06_tTwo [⟨⟨"n", 6⟩, .ext, .i64⟩]) none none)) none) none none }

def C06_cloProg : AxCut.Prog := { defs := [C06_cloMain], types := [C06_funDecl, C06_twoDecl], maxId := 204 }

def C06_cloBody : List Code :=
  match compileX86 C06_cloProg true 0 with
  | .ok (body, _) => body
  | .error _ => []

def C06_cloRoutine : List Code :=
  match intoRoutine C06_cloBody 1 with
  | .ok r => r
  | .error _ => []

set_option maxRecDepth 100000 in
theorem C06_cloProg_checks : C06_x86Checks C06_cloProg = true := by decide +kernel

theorem C06_cloProg_labelSafe : LabelSafe C06_cloProg = true := by decide

theorem C06_cloProg_typed : LinTypedProg C06_cloProg := linTypedCheck_sound C06_cloProg rfl

theorem C06_cloProg_compiles : compileX86 C06_cloProg true 0 = .ok (C06_cloBody, 1) ∧
    intoRoutine C06_cloBody 1 = .ok C06_cloRoutine := ⟨rfl, rfl⟩

theorem C06_cloRoutine_fits :
    addrAt ({} : MachCfg).codeBase C06_cloRoutine C06_cloRoutine.length < 2 ^ 64 :=
  routine_fits C06_cloProg_typed C06_cloProg_compiles.1 C06_cloProg_compiles.2 _ (by decide)

theorem C06_cloProg_run : Pos.run C06_cloProg [37] 20 = ⟨[(true, 42)], .done 42⟩ := by decide

/-- the closure program started with x = 37: every hypothesis of `C06_programs_text` holds, so the x86-64
machine on the TEXT of the emitted routine prints 42 and returns 42 (`g` is invoked through the jump table
of `Two`, `f` — loaded from the environment of `g` — through `jmp reg`) -/
example : ∃ fuel',
    (run (printProg C06_cloRoutine) [37] fuel' {}).out = [(true, 42)] ∧
    (run (printProg C06_cloRoutine) [37] fuel' {}).res = .done 42 := by
  exact C06_programs_text C06_cloProg [37] true C06_cloBody C06_cloRoutine 1
    C06_cloProg_labelSafe C06_cloProg_typed C06_cloProg_checks C06_cloProg_compiles.1 C06_cloProg_compiles.2
    20 _ _ C06_cloProg_run {} machOK_default rfl (by decide) (by decide) (by decide) C06_cloRoutine_fits

end Scc.X86

#print axioms Scc.X86.C06_create_x86
#print axioms Scc.X86.C06_invoke_x86
#print axioms Scc.X86.C06_step_x86_all
#print axioms Scc.X86.C06_programs
#print axioms Scc.X86.C06_programs_text
#print axioms Scc.X86.C06_data_programs_text
#print axioms Scc.X86.C06_statement_checked_holds

#print axioms Scc.X86.C06_checks_facts
#print axioms Scc.X86.C06_boxProg_checks
#print axioms Scc.X86.C06_cloProg_checks
#print axioms Scc.X86.C06_cloRoutine_fits
