/-
  Scc.Props.C12Fun2Core — the link `C12_link_fun2core` of property C12 as a THEOREM:
  THE TRANSLATION Fun → Core PRESERVES TYPING.

  Statement proved (`C12_link_fun2core_proved`): for every accepted program `p'` (`checkProgram p = ok p'`,
  names of `p` identifiers) with a valid `main`, in which no definition calls `main`, and in which no
  parameter / binder is called `ς`:
      `compileProg p'` succeeds with some `q2`, the executable Core type checker accepts it
      (`q2.wellTyped = true`), all binder ids are 0, all occurrence ids are `≤ maxId = 0`, no name is `ς`
      (C03's `Input q2`), and no type name is both a data and a codata type (`typesDisjoint q2`).
  This is `C12_link_fun2core` (Props/C12.lean) plus ONE hypothesis, `C02_noSigmaNames p'` (Props/C02Sem.lean).
  The hypothesis is necessary for the statement as formulated over ASTs: `C12_link_fun2core_false` — the
  AST `def main(): i64 { let ς: i64 = 1; ς }` (not producible by the lexer: `ς` is not an identifier
  character) satisfies all premises of `C12_link_fun2core`, and its translation has a binder called `ς`,
  so `Input`'s `noSigma` fails.  This is an imprecision of the formal statement, NOT a defect of /repo.
  `C12_chain_fun2core_proved` is `C12_chain` with the fun2core link discharged.

  The proof is in Scc/Fun2Core/Typed*.lean: the checker's output satisfies the monomorphic, annotated
  typing `TypedM` that fun2core reads, in which every type is instantiated and clauses are in
  declaration order (TypedSrc; TypedCheck, a second induction over the checker model with the invariant
  of C15's soundness proof); if `Γ ⊢ t : τ` and the consumer `c` checks at `⟦τ⟧` in a context related to
  `Γ`, then `⟦t⟧ c` checks, for all term forms, incl. label/goto, case/new, `share`, the guard
  (TypedTerm; TypedCore: the executable Core checker depends on the context only through the typed free
  variables, and `share` preserves typing); the translation of a typed term does not hit an `expect` or
  exhaust the guard (TypedTotal); definitions, the loop, `compile_prog` (TypedProg).
  Known finding D13 (a program that calls `main` is mistranslated) is excluded by `noMainCall`, as in C12.
-/
import Scc.Props.C12
import Scc.Props.C02Sem
import Scc.Fun2Core.TypedProg
import Scc.Fun2Core.TypedCheck

namespace Scc.Props

open Scc.Pipeline Scc.Core Scc.Fun2Core Scc.Fun2Core.Typed
open Scc.Fun.Check (checkProgram programNamesOk)

/-- `C12_link_fun2core` (Props/C12.lean; refuted as it stands by `C12_link_fun2core_false`, below) for
programs without a parameter / binder called `ς`; proved by `C12_link_fun2core_proved` -/
def C12_link_fun2core_sigma : Prop :=
  ∀ (p : Fun.Program) (p' : Fun.CheckedProgram),
    programNamesOk p = true → checkProgram p = .ok p' → validMain p' = true →
    Fun.noMainCall p' = true → C02_noSigmaNames p' = true →
    ∃ q2, Fun2Core.compileProg p' = .ok q2 ∧ Input q2 ∧ typesDisjoint q2 = true

/-! ## the term-level invariant (all forms; fragments named for reference) -/

/-- **typing preservation for terms, full statement**: for every term `t` (all sixteen forms), w.r.t.
every target program `P` with the translated declarations and signatures (`Env p P`):
`TCwc`: if `TypedM p t Γ τ`, `t` does not call `main`, `Δ` is related to `Γ`, the names of `Δ` and the
binders of `t` are in the used-names set, the consumer `c` checks at `compileTy τ` in `Δ`, and
`compile_with_cont t c st = ok (s, st')`, then `s` checks in `Δ` and so do the definitions lifted on the
way (given that `P` maps their labels to them);  `TComp`: `compile t` yields a producer of type
`compileTy τ`.  (`G` is any predicate on names that holds of the generated names; identifiers of the
output have id 0 and a name satisfying `G`.) -/
theorem fun2core_typed_term {p : Fun.CheckedProgram} {P : Core.Prog} {G : String → Prop}
    (env : Env p P) (hg : FreshGood G) (t : Fun.Term) : TCwc p P G t ∧ TComp p P G t :=
  typed_term env hg t

section
variable {p : Fun.CheckedProgram} {P : Core.Prog} {G : String → Prop} (env : Env p P) (hg : FreshGood G)
include env hg

theorem fun2core_typed_int (x : String) (ty : Option Fun.Ty) (chi : Option Fun.Chi) (n : Int)
    (a b : Fun.Term) (o : Fun.BinOp) (an : Option Fun.Ty) (nl : Bool) :
    TCwc p P G (.var x ty chi) ∧ TCwc p P G (.lit n) ∧ TCwc p P G (.op a o b) ∧
    TCwc p P G (.print nl a b an) ∧ TCwc p P G (.exit a an) ∧ TCwc p P G (.paren a) :=
  ⟨(typed_term env hg _).1, (typed_term env hg _).1, (typed_term env hg _).1, (typed_term env hg _).1,
    (typed_term env hg _).1, (typed_term env hg _).1⟩

theorem fun2core_typed_let_if_call (x f : String) (σ : Fun.Ty) (a b t e : Fun.Term) (args : Fun.Terms)
    (s : Fun.IfSort) (an : Option Fun.Ty) :
    TCwc p P G (.letIn x σ a b an) ∧ TCwc p P G (.ifc s a b t e an) ∧ TCwc p P G (.ifz s a t e an) ∧
    TCwc p P G (.call f args an) :=
  ⟨(typed_term env hg _).1, (typed_term env hg _).1, (typed_term env hg _).1, (typed_term env hg _).1⟩

/-- fragment: data (constructors, `case` with shared continuation and capture guard) -/
theorem fun2core_typed_data (k : String) (args : Fun.Terms) (s : Fun.Term) (ta : Fun.Tys)
    (cs : Fun.Clauses) (an : Option Fun.Ty) :
    TCwc p P G (.ctor k args an) ∧ TCwc p P G (.case s ta cs an) :=
  ⟨(typed_term env hg _).1, (typed_term env hg _).1⟩

/-- fragment: codata (destructor calls, `new`) -/
theorem fun2core_typed_codata (k : String) (args : Fun.Terms) (s : Fun.Term) (ta : Fun.Tys)
    (cs : Fun.Clauses) (an : Option Fun.Ty) :
    TCwc p P G (.dtor s k ta args an) ∧ TCwc p P G (.new cs an) :=
  ⟨(typed_term env hg _).1, (typed_term env hg _).1⟩

/-- fragment: label / goto (covariables) -/
theorem fun2core_typed_label_goto (a : String) (t : Fun.Term) (an : Option Fun.Ty) :
    TCwc p P G (.label a t an) ∧ TCwc p P G (.goto a t an) :=
  ⟨(typed_term env hg _).1, (typed_term env hg _).1⟩

end

def C12_notSigma (n : String) : Prop := n ≠ "ς"

theorem C12_freshGood : FreshGood C12_notSigma :=
  ⟨fun used => Fun2Core.Sem.freshName_ne_sig used (.inl rfl),
    fun used => Fun2Core.Sem.freshName_ne_sig used (.inr rfl)⟩

mutual
  theorem C12_ids_term : ∀ (t : Term), allIdsTerm (GoodId C12_notSigma) t →
      (∀ b ∈ t.binderIds, b = 0) ∧ (∀ i ∈ t.occIds, i = 0) ∧ t.noSigma = true
    | .var _ v _, h => by
      simp only [allIdsTerm, GoodId, C12_notSigma] at h
      simp [Term.binderIds, Term.occIds, Term.noSigma, h.1, h.2]
    | .lit _, _ => by simp [Term.binderIds, Term.occIds, Term.noSigma]
    | .op a _ b, h => by
      simp only [allIdsTerm] at h
      obtain ⟨a1, a2, a3⟩ := C12_ids_term a h.1
      obtain ⟨b1, b2, b3⟩ := C12_ids_term b h.2
      simp only [Term.binderIds, Term.occIds, Term.noSigma, List.mem_append, a3, b3, Bool.and_self,
        and_true]
      exact ⟨fun x hx => hx.elim (a1 x) (b1 x), fun x hx => hx.elim (a2 x) (b2 x)⟩
    | .mu _ v _ s, h => by
      simp only [allIdsTerm, GoodId, C12_notSigma] at h
      obtain ⟨s1, s2, s3⟩ := C12_ids_stmt s h.2
      simp only [Term.binderIds, Term.occIds, Term.noSigma, List.mem_cons, s3, Bool.and_true,
        bne_iff_ne, ne_eq]
      exact ⟨fun x hx => hx.elim (fun e => e ▸ h.1.1) (s1 x), s2, h.1.2⟩
    | .xtor _ _ as _, h => by
      simp only [allIdsTerm] at h
      simpa [Term.binderIds, Term.occIds, Term.noSigma] using C12_ids_args as h
    | .xcase _ _ cl, h => by
      simp only [allIdsTerm] at h
      simpa [Term.binderIds, Term.occIds, Term.noSigma] using C12_ids_clauses cl h
  theorem C12_ids_args : ∀ (as : Args), allIdsArgs (GoodId C12_notSigma) as →
      (∀ b ∈ as.binderIds, b = 0) ∧ (∀ i ∈ as.occIds, i = 0) ∧ as.noSigma = true
    | .nil, _ => by simp [Args.binderIds, Args.occIds, Args.noSigma]
    | .cons _ t r, h => by
      simp only [allIdsArgs] at h
      obtain ⟨a1, a2, a3⟩ := C12_ids_term t h.1
      obtain ⟨b1, b2, b3⟩ := C12_ids_args r h.2
      simp only [Args.binderIds, Args.occIds, Args.noSigma, List.mem_append, a3, b3, Bool.and_self,
        and_true]
      exact ⟨fun x hx => hx.elim (a1 x) (b1 x), fun x hx => hx.elim (a2 x) (b2 x)⟩
  theorem C12_ids_clauses : ∀ (cl : Clauses), allIdsClauses (GoodId C12_notSigma) cl →
      (∀ b ∈ cl.binderIds, b = 0) ∧ (∀ i ∈ cl.occIds, i = 0) ∧ cl.noSigma = true
    | .nil, _ => by simp [Clauses.binderIds, Clauses.occIds, Clauses.noSigma]
    | .cons _ ctx s r, h => by
      simp only [allIdsClauses, GoodId, C12_notSigma] at h
      obtain ⟨a1, a2, a3⟩ := C12_ids_stmt s h.2.1
      obtain ⟨b1, b2, b3⟩ := C12_ids_clauses r h.2.2
      have hc : ∀ x ∈ ctxIds ctx, x = 0 := by
        intro x hx
        simp only [ctxIds, List.mem_map] at hx
        obtain ⟨b, hb, rfl⟩ := hx
        exact (h.1 b hb).1
      have hs : ctx.all (fun x => x.var.name != "ς") = true := by
        simp only [List.all_eq_true, bne_iff_ne, ne_eq]
        exact fun b hb => (h.1 b hb).2
      simp only [Clauses.binderIds, Clauses.occIds, Clauses.noSigma, List.mem_append, a3, b3, hs,
        Bool.and_self, and_true]
      exact ⟨fun x hx => hx.elim (fun hx => hx.elim (hc x) (a1 x)) (b1 x),
        fun x hx => hx.elim (a2 x) (b2 x)⟩
  theorem C12_ids_stmt : ∀ (s : Stmt), allIdsStmt (GoodId C12_notSigma) s →
      (∀ b ∈ s.binderIds, b = 0) ∧ (∀ i ∈ s.occIds, i = 0) ∧ s.noSigma = true
    | .cut _ p c, h => by
      simp only [allIdsStmt] at h
      obtain ⟨a1, a2, a3⟩ := C12_ids_term p h.1
      obtain ⟨b1, b2, b3⟩ := C12_ids_term c h.2
      simp only [Stmt.binderIds, Stmt.occIds, Stmt.noSigma, List.mem_append, a3, b3, Bool.and_self,
        and_true]
      exact ⟨fun x hx => hx.elim (a1 x) (b1 x), fun x hx => hx.elim (a2 x) (b2 x)⟩
    | .ifc _ a b t e, h => by
      simp only [allIdsStmt] at h
      obtain ⟨a1, a2, a3⟩ := C12_ids_term a h.1
      obtain ⟨b1, b2, b3⟩ := C12_ids_term b h.2.1
      obtain ⟨c1, c2, c3⟩ := C12_ids_stmt t h.2.2.1
      obtain ⟨d1, d2, d3⟩ := C12_ids_stmt e h.2.2.2
      simp only [Stmt.binderIds, Stmt.occIds, Stmt.noSigma, List.mem_append, a3, b3, c3, d3,
        Bool.and_self, and_true]
      exact ⟨fun x hx => hx.elim (fun hx => hx.elim (fun hx => hx.elim (a1 x) (b1 x)) (c1 x)) (d1 x),
        fun x hx => hx.elim (fun hx => hx.elim (fun hx => hx.elim (a2 x) (b2 x)) (c2 x)) (d2 x)⟩
    | .ifz _ a t e, h => by
      simp only [allIdsStmt] at h
      obtain ⟨a1, a2, a3⟩ := C12_ids_term a h.1
      obtain ⟨c1, c2, c3⟩ := C12_ids_stmt t h.2.1
      obtain ⟨d1, d2, d3⟩ := C12_ids_stmt e h.2.2
      simp only [Stmt.binderIds, Stmt.occIds, Stmt.noSigma, List.mem_append, a3, c3, d3,
        Bool.and_self, and_true]
      exact ⟨fun x hx => hx.elim (fun hx => hx.elim (a1 x) (c1 x)) (d1 x),
        fun x hx => hx.elim (fun hx => hx.elim (a2 x) (c2 x)) (d2 x)⟩
    | .print _ a n, h => by
      simp only [allIdsStmt] at h
      obtain ⟨a1, a2, a3⟩ := C12_ids_term a h.1
      obtain ⟨b1, b2, b3⟩ := C12_ids_stmt n h.2
      simp only [Stmt.binderIds, Stmt.occIds, Stmt.noSigma, List.mem_append, a3, b3, Bool.and_self,
        and_true]
      exact ⟨fun x hx => hx.elim (a1 x) (b1 x), fun x hx => hx.elim (a2 x) (b2 x)⟩
    | .call _ as _, h => by
      simp only [allIdsStmt] at h
      simpa [Stmt.binderIds, Stmt.occIds, Stmt.noSigma] using C12_ids_args as h
    | .exit a _, h => by
      simp only [allIdsStmt] at h
      simpa [Stmt.binderIds, Stmt.occIds, Stmt.noSigma] using C12_ids_term a h
end

theorem C12_mainRet {p' : Fun.CheckedProgram} (hv : validMain p' = true) :
    ∀ d ∈ p'.defs, d.name = "main" → d.retTy = .i64 := by
  intro d hd hn
  unfold validMain at hv
  have hmem : d ∈ mainDefs p' := by
    simp only [mainDefs, List.mem_filter]
    exact ⟨hd, by simp [hn]⟩
  split at hv
  · rename_i d0 heq
    rw [heq] at hmem
    simp only [List.mem_singleton] at hmem
    subst hmem
    simp only [mainSigOk, Bool.and_eq_true] at hv
    have := hv.2
    unfold isI64 at this
    split at this
    · assumption
    · cases this
  · cases hv

theorem C12_progHyp {p : Fun.Program} {p' : Fun.CheckedProgram} (hn : programNamesOk p = true)
    (hc : checkProgram p = .ok p') (hv : validMain p' = true) (hmc : Fun.noMainCall p' = true)
    (hs : C02_noSigmaNames p' = true) : ProgHyp p' C12_notSigma := by
  refine ⟨checkProgram_progM hn hc, ?_, C12_mainRet hv, ?_⟩
  · intro d hd
    simp only [Fun.noMainCall, List.all_eq_true] at hmc
    simpa using hmc d hd
  · intro d hd
    simp only [C02_noSigmaNames, List.all_eq_true, Bool.and_eq_true, Bool.not_eq_true',
      List.contains_eq_mem, decide_eq_false_iff_not] at hs
    obtain ⟨h1, h2⟩ := hs d hd
    refine ⟨?_, ?_⟩
    · intro b hb e
      exact h1 (List.mem_map.2 ⟨b, hb, e⟩)
    · intro x hx e
      refine h2 ?_
      show "ς" ∈ binderNames d.body
      rw [← e]
      exact hx

/-- **C12_link_fun2core_proved**: the translation Fun → Core is total on accepted programs with a valid
`main` that is not called and no parameter / binder called `ς`, and PRESERVES TYPING: the output
passes the executable Core type checker, has binder ids 0, occurrence ids `≤ maxId`, no `ς` (C03's
`Input`), and disjoint data / codata type names. -/
theorem C12_link_fun2core_proved : C12_link_fun2core_sigma := by
  intro p p' hn hc hv hmc hs
  have hp := C12_progHyp hn hc hv hmc hs
  obtain ⟨q2, hq⟩ := compileProg_ok (p := p') hp.typed
  obtain ⟨_, _, hmax, hd⟩ := compileProg_typed C12_freshGood hp hq
  refine ⟨q2, hq, ⟨?_, ?_, ?_, ?_⟩, ?_⟩
  · exact compileProg_wellTyped C12_freshGood hp hq
  · intro D hD b hb
    obtain ⟨_, hids, hctx, _⟩ := hd D hD
    simp only [Def.ids, List.mem_append] at hb
    rcases hb with hb | hb
    · simp only [ctxIds, List.mem_map] at hb
      obtain ⟨x, hx, rfl⟩ := hb
      exact (hctx x hx).1
    · exact (C12_ids_stmt D.body hids).1 b hb
  · intro D hD i hi
    obtain ⟨_, hids, _, _⟩ := hd D hD
    rw [(C12_ids_stmt D.body hids).2.1 i hi]
    exact Nat.zero_le _
  · simp only [Prog.noSigma, List.all_eq_true, Bool.and_eq_true, bne_iff_ne, ne_eq]
    intro D hD
    obtain ⟨_, hids, hctx, _⟩ := hd D hD
    exact ⟨fun x hx => (hctx x hx).2, (C12_ids_stmt D.body hids).2.2⟩
  · simp only [typesDisjoint, List.all_eq_true, decide_eq_true_eq]
    exact compileProg_disjoint hp.typed hq

theorem C12_facts_fun2core_proved (h3 : C12_link_focus) (h4 : C12_link_shrink)
    (p : Fun.Program) (p' : Fun.CheckedProgram)
    (hn : programNamesOk p = true) (hc : checkProgram p = .ok p') (hv : validMain p' = true)
    (hmc : Fun.noMainCall p' = true) (hs : C02_noSigmaNames p' = true) :
    ∃ st, C12_Facts p p' st := by
  obtain ⟨q2, e2, hin, hdis⟩ := C12_link_fun2core_proved p p' hn hc hv hmc hs
  have hpf := focusPanicFree_of_wellTyped hdis hin.typed
  have hs3 := h3 p p' q2 hn hc hv hmc e2
  obtain ⟨q4, e4⟩ := C04_no_panic (Core.focusProg q2) (wtFsCheck_of_scoped hs3)
  obtain ⟨hax, hwf⟩ := h4 p p' q2 q4 hn hc hv hmc e2 e4
  obtain ⟨q5, e5, _, _⟩ := C05.C05_linearize_LinTyped q4 hwf
  have e3 : Core.focusProgE q2 = .ok (Core.focusProg q2) := focusProgE_ok_iff.2 ⟨hpf, rfl⟩
  refine ⟨⟨q2, Core.focusProg q2, q4, q5⟩, ?_⟩
  exact C12_facts_core hn hc hv (stages_ok_iff.2 ⟨e2, e3, e4, e5⟩) hin hs3 hax hwf

/-- **`C12_chain` with the fun2core link discharged**: C12 (for programs without a name `ς`) follows from
the THREE remaining links -/
theorem C12_chain_fun2core_proved (h3 : C12_link_focus) (h4 : C12_link_shrink)
    (h6 : C12_link_codegen) :
    ∀ (p : Fun.Program) (p' : Fun.CheckedProgram),
      programNamesOk p = true → checkProgram p = .ok p' → validMain p' = true →
      Fun.noMainCall p' = true → C02_noSigmaNames p' = true → C12_conclusion p p' := by
  intro p p' hn hc hv hmc hs
  obtain ⟨st, F⟩ := C12_facts_fun2core_proved h3 h4 p p' hn hc hv hmc hs
  exact ⟨F.wt, F.annotated, st, F.ok, F.input2.typed, wtFsCheck_of_scoped F.scoped3, F.unique3,
    F.wtAx4, F.lin5, h6 p p' st hn hc hv hmc F.ok⟩

/-! ## `C12_link_fun2core` as formulated (over ASTs, without the `ς` hypothesis) is false -/

/-- `def main(): i64 { let ς: i64 = 1; ς }` as an AST (the lexer does not produce the name `ς`) -/
def C12_sigmaProg : Fun.Program :=
  ⟨[.defn ⟨"main", [], .i64, .letIn "ς" .i64 (.lit 1) (.var "ς" none none) none⟩]⟩

/-- the premises of `C12_link_fun2core` hold for `C12_sigmaProg`, the translation succeeds, and its
output has a binder called `ς` -/
def C12_sigmaCheck : Bool :=
  programNamesOk C12_sigmaProg &&
  match checkProgram C12_sigmaProg with
  | .ok p' =>
    validMain p' && Fun.noMainCall p' && !C02_noSigmaNames p' &&
    match Fun2Core.compileProg p' with
    | .ok q2 => !q2.noSigma
    | .error _ => false
  | _ => false

theorem C12_sigma_checks : C12_sigmaCheck = true := by decide +kernel

theorem C12_link_fun2core_false : ¬ C12_link_fun2core := by
  intro hlink
  have h := C12_sigma_checks
  unfold C12_sigmaCheck at h
  simp only [Bool.and_eq_true] at h
  obtain ⟨hn, h⟩ := h
  cases hc : checkProgram C12_sigmaProg with
  | ok p' =>
    rw [hc] at h
    simp only [Bool.and_eq_true] at h
    obtain ⟨⟨⟨hv, hmc⟩, _⟩, h⟩ := h
    obtain ⟨q2, hq, hin, _⟩ := hlink C12_sigmaProg p' hn hc hv hmc
    rw [hq] at h
    simp [hin.noSigma] at h
  | diag c => rw [hc] at h; cases h
  | panic c => rw [hc] at h; cases h

/-! ## non-vacuity (the evaluations: Props/C12Examples.lean) -/

/-- the premises of `C12_link_fun2core_proved` hold for the program `C12_exSrc` of Props/C12.lean (a
polymorphic data type, a recursive definition with `case`, `let`, a call, `println_i64`) -/
def C12_f2cExChecks (src : String) : Bool :=
  match Fun.Parse.parse .diagOnOverflow src with
  | .ok p =>
    programNamesOk p &&
    match checkProgram p with
    | .ok p' => validMain p' && Fun.noMainCall p' && C02_noSigmaNames p'
    | _ => false
  | _ => false

/-- a second instance with codata, `new`, a destructor call, label / goto and a covariable parameter -/
def C12_f2cExSrc2 : String := "codata Fun[A, B] { apply(x: A): B }
def esc(n: i64, k:cns i64): i64 { if n == 0 { goto k (7) } else { n } }
def main(n: i64): i64 { let f: Fun[i64, i64] = new { apply(y) => y + n }; let r: i64 = label a { esc(n, a) }; let s: i64 = f.apply[i64, i64](r); println_i64(s); 0 }"

theorem C12_f2cExChecks_premises {src : String} (h : C12_f2cExChecks src = true) :
    ∃ p p', Fun.Parse.parse .diagOnOverflow src = .ok p ∧ programNamesOk p = true ∧
      checkProgram p = .ok p' ∧ validMain p' = true ∧ Fun.noMainCall p' = true ∧
      C02_noSigmaNames p' = true := by
  unfold C12_f2cExChecks at h
  cases hp : Fun.Parse.parse .diagOnOverflow src with
  | ok p =>
    rw [hp] at h
    simp only [Bool.and_eq_true] at h
    obtain ⟨hn, h⟩ := h
    cases hc : checkProgram p with
    | ok p' =>
      rw [hc] at h
      simp only [Bool.and_eq_true] at h
      exact ⟨p, p', rfl, hn, hc, h.1.1, h.1.2, h.2⟩
    | diag c => rw [hc] at h; cases h
    | panic c => rw [hc] at h; cases h
  | diag c => rw [hp] at h; cases h
  | panic c => rw [hp] at h; cases h

#print axioms fun2core_typed_term
#print axioms Scc.Fun2Core.Typed.checkProgram_progM
#print axioms Scc.Fun2Core.Typed.compileProg_ok
#print axioms Scc.Fun2Core.Typed.compileProg_typed
#print axioms C12_link_fun2core_proved
#print axioms C12_facts_fun2core_proved
#print axioms C12_chain_fun2core_proved
#print axioms C12_link_fun2core_false
#print axioms C12_f2cExChecks_premises

end Scc.Props

#print axioms Scc.Props.fun2core_typed_int
#print axioms Scc.Props.fun2core_typed_let_if_call
#print axioms Scc.Props.fun2core_typed_data
#print axioms Scc.Props.fun2core_typed_codata
#print axioms Scc.Props.fun2core_typed_label_goto
#print axioms Scc.Props.C12_freshGood
#print axioms Scc.Props.C12_mainRet
#print axioms Scc.Props.C12_progHyp
#print axioms Scc.Props.C12_sigma_checks
