/-
  Scc.Props.C20Spelling — C20, argument clause, for EVERY decimal spelling.

  Property C20: "each command-line argument given in decimal reaches the corresponding parameter
  unchanged".  `Props/C20.lean`, `C20Cur.lean`, `C20Full.lean` prove it for the CANONICAL rendering
  `decSpec v` (no `+`, no leading zeros).  Here: for every byte string of the shape

        [+-]? digit+          (any number of leading zeros; `Spelling.plain`)

  and more generally  `ws* [+-]? digit+`  (`Spelling.ok`; `strtoll` skips leading `isspace` bytes — the model
  `parseSigned` has that clause — a shell cannot produce such an argument unquoted, but `"  42"` can be
  passed), optionally followed by bytes that do not continue the number (`stops`; C stops converting there).
  The value of a spelling (`Spelling.value`) is the positional value of its digit string (`digitsValue`),
  negated after `-`; `digitsValue` is tied to core's `Nat.toDigits` in both directions
  (`C20_digits_canonical`, `C20_digits_value_zeros`).

    * C20_strtoll_spelling         value in [-2^63, 2^63): `strtollModel s = value`               (proved)
    * C20_strtoll_saturates        value < -2^63: `LLONG_MIN`;  value ≥ 2^63: `LLONG_MAX` (C11 7.22.1.4 §8,
                                   glibc); in particular NOT unchanged — the range premise is necessary
    * C20_strtoll_spelling_rest    the same with trailing non-number bytes (`12abc` ↦ 12)
    * C20_arg_spelling_current     the CURRENT driver (`argToParamCur`, generated facts of C20Full):
                                   every in-range spelling reaches the parameter as its value         (proved)
    * C20_arg_spelling_atoi        the `atoi` driver (`argToParam`): values in [-2^31, 2^31)
    * C20_spelling_same_as_canonical   any spelling is converted like the canonical rendering of its value
    * C20_nativeRun_spelling       end to end for the x86-64 run of the composed model (`Pipeline.nativeRun`):
                                   `prog s1 … sn` with arbitrary spellings behaves as with the canonical ones
    * C20_base0_differs            base-0 parsing (`strtoll(s, NULL, 0)`) would NOT have the property: `010`
                                   is 10 for the driver's base-10 call and 8 with base 0; `0x10`: 0 vs 16.
                                   (`strtollBase0Model` is a spec-only model; its base-ten digit loop is
                                   the model's `parseDigits`: `C20_base0_model_ten`.)
  Nothing of the argument clause remains open for the current sources.  No defect found here: the model
  was evaluated at the excluded points (out of range: saturation, as glibc documents; no digits: 0, no
  error report — `strtoll(.., NULL, ..)` cannot report one; this is outside "given in decimal").
-/
import Scc.Runtime.SpellingProofs
import Scc.Props.C20Full
import Scc.Pipeline

namespace Scc.Props
open Scc.Runtime

theorem C20_digits_value_zeros (k n : Nat) : digitsValue (List.replicate k 48 ++ decNat n) = n :=
  digitsValue_zeros_decNat k n

/-- every non-empty digit string is the canonical rendering of its value behind leading zeros -/
theorem C20_digits_canonical (ds : List UInt8) (hne : ds ≠ []) (hd : allDigits ds = true) :
    ∃ k, ds = List.replicate k 48 ++ decNat (digitsValue ds) := digits_eq_zeros_decNat ds hne hd

/-- `007` -/
example : ([48, 48, 55] : List UInt8) ≠ [] ∧ allDigits [48, 48, 55] = true ∧
    digitsValue [48, 48, 55] = 7 := by decide

/-- C20, argument clause, general form: a spelling whose value is in the int64 range is converted to
that value. -/
theorem C20_strtoll_spelling (sp : Spelling) (hok : sp.ok = true)
    (h1 : -2 ^ 63 ≤ sp.value) (h2 : sp.value < 2 ^ 63) : strtollModel sp.bytes = sp.value :=
  strtollModel_spelling sp hok h1 h2

/-- the shape of the property text, `[+-]? digit+`, as a special case -/
theorem C20_strtoll_plain (sign : Sign) (ds : List UInt8) (hd : allDigits ds = true) (hne : ds ≠ [])
    (h1 : -2 ^ 63 ≤ (Spelling.mk [] sign ds).value) (h2 : (Spelling.mk [] sign ds).value < 2 ^ 63) :
    strtollModel (sign.bytes ++ ds) = (Spelling.mk [] sign ds).value := by
  have hok : (Spelling.mk [] sign ds).ok = true := by
    cases ds with
    | nil => exact absurd rfl hne
    | cons c t => simp [Spelling.ok, allSpace, hd]
  exact C20_strtoll_spelling ⟨[], sign, ds⟩ hok h1 h2

/-- outside the range: saturation, as C11 7.22.1.4 §8 / glibc specify -/
theorem C20_strtoll_saturates (sp : Spelling) (hok : sp.ok = true) :
    (sp.value < -2 ^ 63 → strtollModel sp.bytes = -2 ^ 63) ∧
    (2 ^ 63 ≤ sp.value → strtollModel sp.bytes = 2 ^ 63 - 1) := by
  have h := strtollModel_spelling_append sp [] hok rfl
  rw [List.append_nil] at h
  exact h.2

/-- trailing bytes that do not continue the number are ignored (`12abc` ↦ 12) -/
theorem C20_strtoll_spelling_rest (sp : Spelling) (rest : List UInt8) (hok : sp.ok = true)
    (hs : stops rest = true) (h1 : -2 ^ 63 ≤ sp.value) (h2 : sp.value < 2 ^ 63) :
    strtollModel (sp.bytes ++ rest) = sp.value :=
  (strtollModel_spelling_append sp rest hok hs).1 h1 h2

/-- the current driver (`strtoll`, base 10: generated fact `C20_arg_conv_wide`): every spelling of an
int64 reaches the parameter as its value -/
theorem C20_arg_spelling_current (sp : Spelling) (hok : sp.ok = true)
    (h1 : -2 ^ 63 ≤ sp.value) (h2 : sp.value < 2 ^ 63) : argToParamCur sp.bytes = sp.value := by
  have h := C20_strtoll_spelling sp hok h1 h2
  simpa [argToParamCur, C20_arg_conv_wide] using h

/-- the `atoi` driver: every spelling of a C `int` -/
theorem C20_arg_spelling_atoi (sp : Spelling) (hok : sp.ok = true)
    (h1 : -2 ^ 31 ≤ sp.value) (h2 : sp.value < 2 ^ 31) : argToParam sp.bytes = sp.value :=
  argToParam_spelling sp hok h1 h2

/-- any spelling is converted exactly like the canonical rendering of its value -/
theorem C20_spelling_same_as_canonical (sp : Spelling) (hok : sp.ok = true)
    (h1 : -2 ^ 63 ≤ sp.value) (h2 : sp.value < 2 ^ 63) :
    argToParamCur sp.bytes = argToParamCur (decSpec sp.value) := by
  rw [C20_arg_spelling_current sp hok h1 h2, C20_current_full.2 sp.value h1 h2]

/-- `+007`, `-0`, `  42` (white space), `000…0123` -/
def C20_sp_plus007 : Spelling := { sign := .plus, digits := [48, 48, 55] }
def C20_sp_minus0 : Spelling := { sign := .minus, digits := [48] }
def C20_sp_ws42 : Spelling := { ws := [32, 9], digits := [52, 50] }
/-- `-9223372036854775808` with two leading zeros: `INT64_MIN` -/
def C20_sp_min : Spelling :=
  { sign := .minus, digits := [48, 48, 57, 50, 50, 51, 51, 55, 50, 48, 51, 54, 56, 53, 52, 55, 55, 53, 56, 48, 56] }
/-- `9223372036854775808` = 2^63: out of range -/
def C20_sp_over : Spelling :=
  { digits := [57, 50, 50, 51, 51, 55, 50, 48, 51, 54, 56, 53, 52, 55, 55, 53, 56, 48, 56] }
/-- `-9223372036854775809` -/
def C20_sp_under : Spelling :=
  { sign := .minus, digits := [57, 50, 50, 51, 51, 55, 50, 48, 51, 54, 56, 53, 52, 55, 55, 53, 56, 48, 57] }

example : C20_sp_plus007.plain = true ∧ C20_sp_plus007.bytes = [43, 48, 48, 55] ∧
    C20_sp_plus007.value = 7 ∧ -2 ^ 63 ≤ C20_sp_plus007.value ∧ C20_sp_plus007.value < 2 ^ 63 := by decide
example : strtollModel [43, 48, 48, 55] = 7 := by decide
example : C20_sp_minus0.plain = true ∧ C20_sp_minus0.value = 0 ∧ strtollModel C20_sp_minus0.bytes = 0 := by
  decide
example : C20_sp_ws42.ok = true ∧ C20_sp_ws42.plain = false ∧ C20_sp_ws42.bytes = [32, 9, 52, 50] ∧
    strtollModel C20_sp_ws42.bytes = 42 := by decide
example : C20_sp_min.plain = true ∧ C20_sp_min.value = -2 ^ 63 ∧ -2 ^ 63 ≤ C20_sp_min.value ∧
    C20_sp_min.value < 2 ^ 63 := by decide
example : argToParamCur C20_sp_min.bytes = -2 ^ 63 :=
  C20_arg_spelling_current C20_sp_min (by decide) (by decide) (by decide)
-- saturation: hypotheses satisfiable, conclusions concrete
example : C20_sp_over.plain = true ∧ 2 ^ 63 ≤ C20_sp_over.value ∧
    strtollModel C20_sp_over.bytes = 2 ^ 63 - 1 := by decide
example : C20_sp_under.plain = true ∧ C20_sp_under.value < -2 ^ 63 ∧
    strtollModel C20_sp_under.bytes = -2 ^ 63 := by decide
/-- hence the range premise of `C20_strtoll_spelling` is necessary -/
theorem C20_out_of_range_changes : strtollModel C20_sp_over.bytes ≠ C20_sp_over.value := by decide
-- trailing bytes: `12abc`
example : stops [97, 98, 99] = true ∧ strtollModel ([49, 50] ++ [97, 98, 99]) = 12 := by decide
-- white space is only skipped BEFORE the sign: `- 5` is no number (value 0, as in C)
example : strtollModel [45, 32, 53] = 0 := by decide

theorem C20_base0_model_ten (cs : List UInt8) (acc : Nat) : parseDigitsB 10 cs acc = parseDigits cs acc :=
  parseDigitsB_ten cs acc

/-- `010`: the driver's `strtoll(.., 10)` yields 10 (the decimal value: C20 holds), `strtoll(.., 0)` would
yield 8; `0x10`: 0 (conversion stops at `x`) versus 16.  On `10` both agree. -/
theorem C20_base0_differs :
    (Spelling.mk [] .none [48, 49, 48]).plain = true ∧ (Spelling.mk [] .none [48, 49, 48]).value = 10 ∧
    strtollModel [48, 49, 48] = 10 ∧ strtollBase0Model [48, 49, 48] = 8 ∧
    strtollModel [48, 120, 49, 48] = 0 ∧ strtollBase0Model [48, 120, 49, 48] = 16 ∧
    strtollModel [49, 48] = 10 ∧ strtollBase0Model [49, 48] = 10 := by decide

/-- C20's argument clause, stated for an arbitrary conversion function -/
def C20_spelling_statement (conv : List UInt8 → Int) : Prop :=
  ∀ sp : Spelling, sp.plain = true → -2 ^ 63 ≤ sp.value → sp.value < 2 ^ 63 → conv sp.bytes = sp.value

/-- it holds of the current driver … -/
theorem C20_spelling_current : C20_spelling_statement argToParamCur := by
  intro sp hp h1 h2
  have hok : sp.ok = true := by
    simp only [Spelling.plain, Bool.and_eq_true] at hp; exact hp.2
  exact C20_arg_spelling_current sp hok h1 h2

/-- … and fails for base-0 parsing -/
theorem C20_spelling_base0_false : ¬ C20_spelling_statement strtollBase0Model := by
  intro h
  have := h ⟨[], .none, [48, 49, 48]⟩ (by decide) (by decide) (by decide)
  revert this; decide

/-- … and for the `atoi` driver (D8: `atoi` truncates, `C20_atoi_witness`), also with a `+` sign -/
theorem C20_spelling_atoi_false : ¬ C20_spelling_statement argToParam := by
  intro h
  have := h ⟨[], .plus, [50, 49, 52, 55, 52, 56, 51, 54, 52, 56]⟩ (by decide) (by decide) (by decide)
  revert this; decide

/-- `prog s1 … sn` with arbitrary spellings of the arguments runs exactly as with the canonical renderings
(`Pipeline.argvOf`) of their values. -/
theorem C20_nativeRun_spelling (text : String) (nParams : Nat) (sps : List Spelling) (fuel : Nat)
    (cfg : X86.MonCfg)
    (h : ∀ sp ∈ sps, sp.ok = true ∧ -2 ^ 63 ≤ sp.value ∧ sp.value < 2 ^ 63) :
    Pipeline.nativeRun text nParams ([112] :: sps.map Spelling.bytes) fuel cfg =
      Pipeline.nativeRun text nParams
        (Pipeline.argvOf (sps.map fun sp => BitVec.ofInt 64 sp.value)) fuel cfg := by
  have hl : (sps.map Spelling.bytes).map (fun s => BitVec.ofInt 64 (argToParamCur s)) =
      sps.map fun sp => BitVec.ofInt 64 sp.value := by
    rw [List.map_map]
    apply List.map_congr_left
    intro sp hsp
    obtain ⟨hok, h1, h2⟩ := h sp hsp
    simp only [Function.comp_apply, C20_arg_spelling_current sp hok h1 h2]
  have hr : ((sps.map fun sp => BitVec.ofInt 64 sp.value).map
        fun a => decSpec a.toInt).map (fun s => BitVec.ofInt 64 (argToParamCur s)) =
      sps.map fun sp => BitVec.ofInt 64 sp.value := by
    rw [List.map_map, List.map_map]
    apply List.map_congr_left
    intro sp _
    simp only [Function.comp_apply]
    have h1 := BitVec.le_toInt (BitVec.ofInt 64 sp.value)
    have h2 := BitVec.toInt_lt (x := BitVec.ofInt 64 sp.value)
    rw [C20_current_full.2 _ (by omega) (by omega), BitVec.ofInt_toInt]
  unfold Pipeline.nativeRun Pipeline.argvOf
  simp only [List.length_cons, List.length_map, List.drop_succ_cons, List.drop_zero, hl, hr]

example : ∀ sp ∈ [C20_sp_plus007, C20_sp_ws42, C20_sp_min],
    sp.ok = true ∧ -2 ^ 63 ≤ sp.value ∧ sp.value < 2 ^ 63 := by decide

#print axioms C20_digits_value_zeros
#print axioms C20_digits_canonical
#print axioms C20_strtoll_spelling
#print axioms C20_strtoll_plain
#print axioms C20_strtoll_saturates
#print axioms C20_strtoll_spelling_rest
#print axioms C20_arg_spelling_current
#print axioms C20_arg_spelling_atoi
#print axioms C20_spelling_same_as_canonical
#print axioms C20_out_of_range_changes
#print axioms C20_base0_model_ten
#print axioms C20_base0_differs
#print axioms C20_spelling_current
#print axioms C20_spelling_base0_false
#print axioms C20_spelling_atoi_false
#print axioms C20_nativeRun_spelling

end Scc.Props
