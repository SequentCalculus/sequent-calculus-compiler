/-
  Scc.Props.C14RVFinal — property C14 (the emitted assembly is well-formed) for the RV64 backend: WHOLE PROGRAMS.

  The validator is `Scc.RV.wfCheck` (Scc/RV/Machine.lean): the text parses; (1) no label is defined twice;
  (2) every label referenced by `JAL`/`LA`/`Bcc` is defined; (3) `Code.operandsOk` (12-bit signed immediates of
  `ADDI`/`JALR`/`LW`/`SW`, 64-bit `LI`); (4) `tablesOk` — a label whose address is taken (`LA`) is directly followed
  by the run of `JAL X0 l_…` that lists exactly THE LABELS OF THE TEXT THAT START WITH `l_`, in order.

  PROVED, for every `LabelSafe` program in range (`C14RV_inRangeB`, decidable: literals are i64 values, at most
  512 xtors per type, at most 2048 pairs per substitution — the sharp limits `C14RV_addAndJump_limit`,
  `C14RV_share_limit`) whose called definitions exist (`CallsDefined`; every linearly typed program:
  `Scc.Backend.Refs.callsDefined_of_linTyped`), both hook settings, every start value of the label counter:
    `C14_rv_final_lines`  on EVERY line list that is the routine (`// actual code`, body, `cleanup:`) up to the
                          text of comments and with arbitrary line numbers, tests (1)-(3) pass and
                          `wfLines lines` IS its last test `tablesOk …`:
        (1) `labels_unique_rv` (Scc/RV/RefSideLabels.lean);
        (2) `Refs.refs_defined` (Scc/Backend/ProofsRefs.lean) with the RV64 instance `Wf.refOps_rv`;
        (3) for whole programs: the generic operand lifting `X86.post_compileR` (generic in the backend) with
            the RV64 instance `Wf.opsSat_rv` — this includes `store`/`load`;
    `C14_rv_final`        on the TEXT of `compileRoutine`, given that the text loads (`C08_TextLoads`):
                          `wfCheck text = tablesOk …` — never a parse error, never a failure of (1)-(3);
    `C14_rv_final_names`  the same WITHOUT a loader hypothesis: with the decidable names check `C14R_namesTextSafe`
                          the text loads (`C14R_routine_loads`, Props/C14LoaderRV.lean).
    Jump tables, in the form that is true: `C14RV_table_code`, `C14RV_table_stride` (Props/C14RV.lean: one
          `JAL X0 <clause label>` per clause in clause order, laid out 4 bytes apart) and, for every backend,
          `C14Generic.codeTable_eq`; the generator places the table directly after the table label
          (Generic.lean `codeStatementR`, `switch`/`create`: `B.label l :: codeTable B clauses l`).

  NOT PROVED, and FALSE AS STATED: `wfCheck text = .ok ()` (`C14RV_statement`).  `wfCheck` is STRONGER than
  the pieces in its test (4): `tablesOk` identifies the clause labels of a table `l` by the PREFIX `l_` among all
  labels of the text.  A type named `T_1` next to a type named `T` defeats that heuristic although the code is
  well-formed: `C14RV_falseAlarm` below is `LabelSafe`, linearly typed, in range, compiles, and
      `#eval wfCheck <its text>`  =  error "line 61: jump table T_1: entries [T_1_A, T_1_B] but clause labels
                                            [T_1_2, T_1_2_C, T_1_A, T_1_B]"
  (`T_1_2` is the table of the second `create`, on the type `T_1`).  This is a false alarm of the VALIDATOR model
  (/verif), not a defect of /repo: labels are unique and all references resolve.  PROVED IN THE KERNEL on the
  lines of the routine: `C14RV_falseAlarm_rejected : wfLines C14RV_falseAlarm_lines ≠ .ok ()` (`String.startsWith`
  does not reduce in the kernel: `C14RV_tableRun'` / `C14RV_tablesBad'` are clones with `List.isPrefixOf`, proved
  equal to the validator's functions), and ON THE TEXT: `C14RV_falseAlarm_text` (through `C14R_routine_loads_exact`),
  hence `C14RV_statement_false : ¬ C14RV_statement (LabelSafe · = true) CallsDefined`.  `C14RV_statement_tables` is the remaining `def : Prop`: `tablesOk` of
  the routine under an additional decidable hypothesis on the names (`C14RV_plainNames`: no `_<digit>` in a
  definition, type or xtor name), which excludes such prefix clashes.

  COMPARISON with `C14RV_statement LabelSafe CallsDefined` (Props/C14RV.lean): same hypotheses `LabelSafe`,
  `CallsDefined`, `XtorsWithin` (= the xtor part of `C14RV_inRangeB`); it lacks (a) literals within i64 and at most
  2048 pairs per substitution (it argues "a context has at most 14 variables" — not derived here; the bound is a
  check), (b) the names check of the loader (`C14R_namesTextSafe`), and (c) it is refuted by (4) above.
-/
import Scc.RV.WfFinal
import Scc.Props.C14RV
import Scc.Props.C08RVInt
import Scc.Props.C14LoaderRV
import Scc.StringLemmasAscii

namespace Scc.RV

open Scc.AxCut Scc.Backend Scc.RV.Wf Scc.RV.Ref
open Scc.Props.C14Generic (LabelSafe CallsDefined)

/-- THE DECIDABLE PER-PROGRAM CHECK of C14 on RV64 (literals i64, ≤ 512 xtors per type, ≤ 2048 pairs per
    substitution) -/
def C14RV_inRangeB (p : AxCut.Prog) : Bool := Wf.inRangeB p

theorem C14RV_xtorsWithin_of_inRange {p : AxCut.Prog} (h : C14RV_inRangeB p = true) : XtorsWithin p :=
  (progInRange_of_check h).1

/-- C14 (RV64), whole programs, on line lists: what is PROVED -/
def C14_rv_final_lines_statement : Prop :=
  ∀ (p : AxCut.Prog) (hooks : Bool) (k : Nat) (body : List Code) (nargs k' : Nat),
    LabelSafe p = true → CallsDefined p → C14RV_inRangeB p = true →
    (compile rvBackend hooks p).run k = .ok ((body, nargs), k') →
    ∀ lines : List (Nat × Code),
      (lines.map (·.2)).map stripC = ([Code.COMMENT "actual code"] ++ body ++ [Code.LAB "cleanup"]).map stripC →
      (labs (lines.map (·.2))).Nodup ∧
      (∀ c ∈ lines.map (·.2), ∀ l, c.labelRef? = some l → l ∈ labs (lines.map (·.2))) ∧
      (∀ c ∈ lines.map (·.2), c.operandsOk = true) ∧
      wfLines lines = tablesOk (labs (lines.map (·.2))) (takenOf (lines.map (·.2))) lines

/-- **C14 for RV64 on the lines of the routine: labels pairwise distinct, referenced labels defined, operands in
    range; the validator is its jump-table test** -/
theorem C14_rv_final_lines : C14_rv_final_lines_statement := by
  intro p hooks k body nargs k' hsafe hcalls hrange h lines hl
  obtain ⟨h1, h2, h3⟩ := routine_facts hsafe hcalls (progInRange_of_check hrange) h
  obtain ⟨g1, g2, g3⟩ := facts_of_stripC hl h1 h2 h3
  exact ⟨g1, g2, g3, wfLines_eq_tablesOk lines g1 g2 g3⟩

/-- **C14 for RV64 on the text of `compileRoutine`**, given that the text loads: the validator never reports a
    parse error, a duplicate or undefined label, or an operand out of range; it is its jump-table test -/
theorem C14_rv_final {p : AxCut.Prog} {hooks : Bool} {counter nargs : Nat} {text : String}
    (hsafe : LabelSafe p = true) (hcalls : CallsDefined p) (hrange : C14RV_inRangeB p = true)
    (hc : compileRoutine p hooks counter = .ok (nargs, text))
    (hload : ∀ instrs, intoRoutine instrs = text → C08_TextLoads instrs) :
    ∃ lines, parseText text = .ok lines ∧
      wfCheck text = tablesOk (labs (lines.map (·.2))) (takenOf (lines.map (·.2))) lines := by
  unfold compileRoutine at hc
  cases hx : (compile rvBackend hooks p).run counter with
  | error e => rw [hx] at hc; cases hc
  | ok r =>
    obtain ⟨⟨instrs, nargs'⟩, cX⟩ := r
    rw [hx] at hc
    simp only [Except.ok.injEq, Prod.mk.injEq] at hc
    obtain ⟨rfl, rfl⟩ := hc
    obtain ⟨lines, hparse, hlines, _⟩ := hload instrs rfl
    refine ⟨lines, hparse, ?_⟩
    unfold wfCheck
    rw [hparse]
    exact (C14_rv_final_lines p hooks counter instrs nargs' cX hsafe hcalls hrange hx lines hlines).2.2.2

/-- the same for linearly typed programs -/
theorem C14_rv_final_linTyped {p : AxCut.Prog} {hooks : Bool} {counter nargs : Nat} {text : String}
    (hsafe : LabelSafe p = true) (htp : LinTypedProg p) (hrange : C14RV_inRangeB p = true)
    (hc : compileRoutine p hooks counter = .ok (nargs, text))
    (hload : ∀ instrs, intoRoutine instrs = text → C08_TextLoads instrs) :
    ∃ lines, parseText text = .ok lines ∧
      wfCheck text = tablesOk (labs (lines.map (·.2))) (takenOf (lines.map (·.2))) lines :=
  C14_rv_final hsafe (Scc.Backend.Refs.callsDefined_of_linTyped htp) hrange hc hload

/-- no `_` directly followed by a digit -/
def C14RV_noUDigit : List Char → Bool
  | [] => true
  | '_' :: c :: r => !c.isDigit && C14RV_noUDigit (c :: r)
  | _ :: r => C14RV_noUDigit r

/-- a (decidable) hypothesis on the NAMES under which the validator's prefix heuristic is adequate: no definition
    name, mangled type name or xtor name of the program contains `_<digit>` (in particular their ids are 0), and no
    xtor name starts with a digit — then `m_<n>_` is a prefix of a generated label only for the clause labels
    `m_<n>_<xtor>` of the table `m_<n>` -/
def C14RV_plainNames (p : AxCut.Prog) : Bool :=
  p.defs.all (fun d => C14RV_noUDigit d.name.print.toList) &&
  p.types.all (fun d => C14RV_noUDigit (mangleTy (.decl d.name)).toList) &&
  (Scc.Props.C14Generic.progXtorNames p).all
    (fun x => C14RV_noUDigit x.toList && !(x.toList.head?.map Char.isDigit).getD false)

/-- **C14 for RV64 on the text, NO loader hypothesis**: with the names check of the RV64 loader
    (`C14R_namesTextSafe`, Props/C14LoaderRV.lean: `C14R_routine_loads`) the text parses, and the validator is its
    jump-table test -/
theorem C14_rv_final_names {p : AxCut.Prog} {hooks : Bool} {counter nargs : Nat} {text : String}
    (hsafe : LabelSafe p = true) (htp : LinTypedProg p) (hrange : C14RV_inRangeB p = true)
    (hnames : C14R_namesTextSafe p = true)
    (hc : compileRoutine p hooks counter = .ok (nargs, text)) :
    ∃ lines, parseText text = .ok lines ∧
      wfCheck text = tablesOk (labs (lines.map (·.2))) (takenOf (lines.map (·.2))) lines := by
  unfold compileRoutine at hc
  cases hx : (compile rvBackend hooks p).run counter with
  | error e => rw [hx] at hc; cases hc
  | ok r =>
    obtain ⟨⟨instrs, nargs'⟩, cX⟩ := r
    rw [hx] at hc
    simp only [Except.ok.injEq, Prod.mk.injEq] at hc
    obtain ⟨rfl, rfl⟩ := hc
    obtain ⟨lines, hparse, hlines, _⟩ := C14R_routine_loads hnames hx
    refine ⟨lines, hparse, ?_⟩
    unfold wfCheck
    rw [hparse]
    exact (C14_rv_final_lines p hooks counter instrs nargs' cX hsafe (Scc.Backend.Refs.callsDefined_of_linTyped htp) hrange hx
      lines hlines).2.2.2

/-- what remains: the jump-table test of the routine under the names hypothesis.  NOT proved (it needs the facts
    about prefixes of rendered labels that correspond to `render_inj` of Scc/Backend/ProofsNames.lean, and that the
    code following a table label is the table followed by a label). -/
def C14RV_statement_tables : Prop :=
  ∀ (p : AxCut.Prog) (hooks : Bool) (k : Nat) (body : List Code) (nargs k' : Nat),
    LabelSafe p = true → LinTypedProg p → C14RV_inRangeB p = true → C14RV_plainNames p = true →
    (compile rvBackend hooks p).run k = .ok ((body, nargs), k') →
    ∀ lines : List (Nat × Code),
      (lines.map (·.2)).map stripC = ([Code.COMMENT "actual code"] ++ body ++ [Code.LAB "cleanup"]).map stripC →
      tablesOk (labs (lines.map (·.2))) (takenOf (lines.map (·.2))) lines = .ok ()

/-! ## the validator's table test is a heuristic: a false alarm -/

private def xb (n : String) (i : Nat) : Binding := ⟨⟨n, i⟩, .ext, .i64⟩

/-- `main(x) { create f : T = (){ A(a) ⇒ exit a; B(b) ⇒ exit b }; create g : T_1 = (){ C(c) ⇒ exit c };
      subst (y := x); exit y }` with the codata types `T` (two destructors) and `T_1` (one) -/
def C14RV_falseAlarmMain : Def :=
  { name := ⟨"main", 0⟩, ctx := [xb "x" 1],
    body := .create ⟨"f", 2⟩ (.decl ⟨"T", 0⟩) (some [])
      (.cons ⟨"A", 0⟩ [xb "a" 3] (.exit ⟨"a", 3⟩) (.cons ⟨"B", 0⟩ [xb "b" 4] (.exit ⟨"b", 4⟩) .nil))
      (.create ⟨"g", 5⟩ (.decl ⟨"T_1", 0⟩) (some [])
        (.cons ⟨"C", 0⟩ [xb "c" 6] (.exit ⟨"c", 6⟩) .nil)
        (.subst [(xb "y" 7, ⟨"x", 1⟩)] (.exit ⟨"y", 7⟩)) none none) none none }

def C14RV_falseAlarm : AxCut.Prog :=
  { defs := [C14RV_falseAlarmMain],
    types := [{ name := ⟨"T", 0⟩, xtors := [⟨⟨"A", 0⟩, [xb "a" 10]⟩, ⟨⟨"B", 0⟩, [xb "b" 11]⟩] },
              { name := ⟨"T_1", 0⟩, xtors := [⟨⟨"C", 0⟩, [xb "c" 12]⟩] }],
    maxId := 12 }

/-- the hypotheses of `C14_rv_final_linTyped` hold of it, and it compiles; its labels: the table `T_1` of the
    first `create` (type `T`, label number 1) and the table `T_1_2` of the second (type `T_1`, number 2) -/
theorem C14RV_falseAlarm_hyps :
    LabelSafe C14RV_falseAlarm = true ∧ linTypedCheck C14RV_falseAlarm = .ok () ∧
    C14RV_inRangeB C14RV_falseAlarm = true ∧
    (match (compile rvBackend false C14RV_falseAlarm).run 0 with
     | .ok ((body, _), _) => labs body
     | .error _ => []) =
      ["main_", "lab3", "lab4", "lab5", "lab6", "lab7", "lab8", "T_1_2", "T_1_2_C", "T_1", "T_1_A", "T_1_B"] := by
  refine ⟨by decide +kernel, rfl, by decide +kernel, ?_⟩
  rw [← rvBackendF_eq]
  decide +kernel

/-! ### the rejection, in the kernel: clones of `tableRun` / `tablesOk` with `List.isPrefixOf` for `String.startsWith`
    (which does not reduce in the kernel), proved equal to the originals -/

def C14RV_pre (p s : String) : Bool := p.toList.isPrefixOf s.toList

theorem C14RV_startsWith_eq (s p : String) : s.startsWith p = C14RV_pre p s := by
  unfold C14RV_pre
  cases h : s.startsWith p with
  | true => exact ((List.isPrefixOf_iff_prefix.2 ((Scc.Str.startsWith_iff s p).1 h))).symm
  | false =>
    cases h2 : p.toList.isPrefixOf s.toList with
    | false => rfl
    | true =>
      have := (Scc.Str.startsWith_iff s p).2 (List.isPrefixOf_iff_prefix.1 h2)
      rw [h] at this; cases this

def C14RV_tableRun' (l : String) : List (Nat × Code) → List String
  | [] => []
  | (_, c) :: rest =>
    match c with
    | .COMMENT _ => C14RV_tableRun' l rest
    | .JAL ⟨0⟩ t => if C14RV_pre (l ++ "_") t then t :: C14RV_tableRun' l rest else []
    | _ => []

theorem C14RV_tableRun_eq (l : String) : ∀ ls, tableRun l ls = C14RV_tableRun' l ls
  | [] => rfl
  | (n, c) :: rest => by
    cases c with
    | COMMENT m => simp only [tableRun, C14RV_tableRun']; exact C14RV_tableRun_eq l rest
    | JAL x t =>
      obtain ⟨k⟩ := x
      cases k with
      | zero => simp only [tableRun, C14RV_tableRun', C14RV_startsWith_eq, C14RV_tableRun_eq l rest]
      | succ k => simp [tableRun, C14RV_tableRun']
    | _ => simp only [tableRun, C14RV_tableRun']

/-- the test of one table label -/
def C14RV_tableCond' (labels : List String) (l : String) (rest : List (Nat × Code)) : Bool :=
  ((C14RV_tableRun' l rest).isEmpty && decide ((labels.filter (fun x => C14RV_pre (l ++ "_") x)).length ≤ 1)) ||
    C14RV_tableRun' l rest == labels.filter (fun x => C14RV_pre (l ++ "_") x)

/-- does some taken label fail its test? -/
def C14RV_tablesBad' (labels taken : List String) : List (Nat × Code) → Bool
  | [] => false
  | (_, c) :: rest =>
    match c with
    | .LAB l => (taken.contains l && !C14RV_tableCond' labels l rest) || C14RV_tablesBad' labels taken rest
    | _ => C14RV_tablesBad' labels taken rest

theorem C14RV_tablesOk_bad (labels taken : List String) : ∀ ls,
    C14RV_tablesBad' labels taken ls = true → tablesOk labels taken ls ≠ .ok ()
  | [], h => by cases h
  | (n, c) :: rest, h => by
    cases c with
    | LAB l =>
      simp only [C14RV_tablesBad', Bool.or_eq_true, Bool.and_eq_true, Bool.not_eq_true'] at h
      have hf : (labels.filter fun x => x.startsWith (l ++ "_")) = labels.filter (fun x => C14RV_pre (l ++ "_") x) := by
        congr 1; funext x; exact C14RV_startsWith_eq x (l ++ "_")
      simp only [tablesOk]
      by_cases ht : taken.contains l = true
      · rw [if_pos ht, C14RV_tableRun_eq, hf]
        by_cases hcnd : C14RV_tableCond' labels l rest = true
        · rcases h with ⟨_, h⟩ | h
          · rw [hcnd] at h; cases h
          · unfold C14RV_tableCond' at hcnd
            rw [if_pos hcnd]
            exact C14RV_tablesOk_bad labels taken rest h
        · unfold C14RV_tableCond' at hcnd
          rw [if_neg hcnd]
          intro e; cases e
      · rw [if_neg ht]
        rcases h with ⟨h, _⟩ | h
        · exact absurd h ht
        · exact C14RV_tablesOk_bad labels taken rest h
    | _ =>
      simp only [C14RV_tablesBad'] at h
      simp only [tablesOk]
      exact C14RV_tablesOk_bad labels taken rest h

/-- the body emitted for the program (hooks off, counter start 0) -/
def C14RV_falseAlarm_body : List Code :=
  match (compile rvBackendF false C14RV_falseAlarm).run 0 with
  | .ok ((body, _), _) => body
  | .error _ => []

/-- the lines of its routine, numbered from 1 -/
def C14RV_falseAlarm_lines : List (Nat × Code) :=
  (([Code.COMMENT "actual code"] ++ C14RV_falseAlarm_body ++ [Code.LAB "cleanup"]).zipIdx 1).map fun x => (x.2, x.1)

theorem C14RV_falseAlarm_compiles :
    ∃ nargs k', (compile rvBackend false C14RV_falseAlarm).run 0 = .ok ((C14RV_falseAlarm_body, nargs), k') := by
  rw [← rvBackendF_eq]; exact ⟨_, _, rfl⟩

/-- **THE FALSE ALARM, in the kernel**: the validator rejects the lines of the routine of a `LabelSafe`, linearly
    typed program in range — labels pairwise distinct, references resolved, operands in range (by
    `C14_rv_final_lines`, the rejection can only come from `tablesOk`) -/
theorem C14RV_falseAlarm_rejected : wfLines C14RV_falseAlarm_lines ≠ .ok () := by
  obtain ⟨nargs, k', hc⟩ := C14RV_falseAlarm_compiles
  have hmap : C14RV_falseAlarm_lines.map (·.2) =
      [Code.COMMENT "actual code"] ++ C14RV_falseAlarm_body ++ [Code.LAB "cleanup"] := by
    unfold C14RV_falseAlarm_lines
    rw [List.map_map]
    exact List.zipIdx_map_fst _ _
  have h := (C14_rv_final_lines C14RV_falseAlarm false 0 C14RV_falseAlarm_body nargs k' C14RV_falseAlarm_hyps.1
    (Scc.Backend.Refs.callsDefined_of_linTyped (linTypedCheck_sound _ rfl)) C14RV_falseAlarm_hyps.2.2.1 hc C14RV_falseAlarm_lines
    (by rw [hmap])).2.2.2
  rw [h]
  apply C14RV_tablesOk_bad
  rw [hmap]
  decide +kernel

/-- **THE FALSE ALARM ON THE TEXT**: the validator rejects the text that `compileRoutine` emits for it -/
theorem C14RV_falseAlarm_text :
    ∃ nargs text, compileRoutine C14RV_falseAlarm false 0 = .ok (nargs, text) ∧ wfCheck text ≠ .ok () := by
  obtain ⟨nargs, k', hc⟩ := C14RV_falseAlarm_compiles
  refine ⟨nargs, intoRoutine C14RV_falseAlarm_body, by unfold compileRoutine; rw [hc], ?_⟩
  have hnames : C14R_namesTextSafe C14RV_falseAlarm = true := by decide +kernel
  have hparse := C14R_routine_loads_exact hnames hc
  obtain ⟨lines, hp2, hlines, _⟩ := C14R_routine_loads hnames hc
  have hl : lines = Loader.numberOpt 1 (Loader.routineParsed C14RV_falseAlarm_body) := by
    rw [hparse] at hp2; injection hp2 with hp2; exact hp2.symm
  have h := (C14_rv_final_lines C14RV_falseAlarm false 0 C14RV_falseAlarm_body nargs k' C14RV_falseAlarm_hyps.1
    (Scc.Backend.Refs.callsDefined_of_linTyped (linTypedCheck_sound _ rfl)) C14RV_falseAlarm_hyps.2.2.1 hc lines hlines).2.2.2
  unfold wfCheck
  rw [hp2]
  show wfLines lines ≠ .ok ()
  rw [h]
  apply C14RV_tablesOk_bad
  rw [hl]
  decide +kernel

/-- `C14RV_statement` (Props/C14RV.lean) is FALSE: refuted by the validator's own prefix heuristic -/
theorem C14RV_statement_false :
    ¬ C14RV_statement (fun p => LabelSafe p = true) CallsDefined := by
  intro hC
  obtain ⟨nargs, text, h1, h2⟩ := C14RV_falseAlarm_text
  exact h2 (hC C14RV_falseAlarm false 0 nargs text C14RV_falseAlarm_hyps.1
    (Scc.Backend.Refs.callsDefined_of_linTyped (linTypedCheck_sound _ rfl))
    (C14RV_xtorsWithin_of_inRange (by decide)) h1)

/-- what the validator answers on its text (an `#eval`: `String.startsWith` does not reduce in the kernel) -/
def C14RV_falseAlarm_eval : String :=
  match compileRoutine C14RV_falseAlarm false 0 with
  | .ok (_, text) => toString (repr (wfCheck text))
  | .error e => e

-- #eval C14RV_falseAlarm_eval
-- "Except.error \"line 61: jump table T_1: entries [T_1_A, T_1_B] but clause labels [T_1_2, T_1_2_C, T_1_A, T_1_B]\""

/-! ## non-vacuity -/

example : C14RV_plainNames C14RV_falseAlarm = false := by decide

/-- the hypotheses of `C14_rv_final_lines` hold for `C14RV_falseAlarm` (two `create` with jump tables, `subst`, `exit`) -/
example : LabelSafe C14RV_falseAlarm = true ∧ CallsDefined C14RV_falseAlarm ∧
    C14RV_inRangeB C14RV_falseAlarm = true ∧
    ∃ body nargs k', (compile rvBackend true C14RV_falseAlarm).run 0 = .ok ((body, nargs), k') := by
  refine ⟨by decide, Scc.Backend.Refs.callsDefined_of_linTyped (linTypedCheck_sound _ rfl), by decide, ?_⟩
  have hok : ∃ r, (compile rvBackend true C14RV_falseAlarm).run 0 = .ok r := by
    rw [← rvBackendF_eq]; exact ⟨_, rfl⟩
  obtain ⟨⟨⟨body, nargs⟩, k'⟩, h⟩ := hok
  exact ⟨body, nargs, k', h⟩

end Scc.RV

#print axioms Scc.RV.C14_rv_final_lines
#print axioms Scc.RV.C14_rv_final
#print axioms Scc.RV.C14_rv_final_linTyped
#print axioms Scc.RV.C14_rv_final_names
#print axioms Scc.RV.C14RV_falseAlarm_hyps
#print axioms Scc.RV.C14RV_falseAlarm_rejected
#print axioms Scc.RV.C14RV_statement_false

#print axioms Scc.RV.C14RV_xtorsWithin_of_inRange
#print axioms Scc.RV.C14RV_startsWith_eq
#print axioms Scc.RV.C14RV_tableRun_eq
#print axioms Scc.RV.C14RV_tablesOk_bad
#print axioms Scc.RV.C14RV_falseAlarm_text
