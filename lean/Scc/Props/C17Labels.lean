/-
  Scc.Props.C17Labels — C17-T1 `label_counter_independent` (FULL): the process-global label counter
  of axcut2backend (fresh_labels.rs) is used ONLY to build label names.

  The generator functions `…R` of Generic.lean take the rendering `ren : Nat → String` of label
  numbers as a parameter (`compile = compileR natRen`, `natRen = toString`, is what the Rust does).
  Theorem: running from counter `c + d` with renderer `ren` gives exactly the result of running from
  counter `c` with the SHIFTED renderer `n ↦ ren (n + d)` (and the final counter shifted by `d`):
  nothing but the names of the generated labels `lab<N>`, `<Type>_<N>`, `<Type>_<N>_<xtor>` depends on
  the start value, and it depends on it through the renaming `N ↦ N + d`.
  Holds for every backend whose monadic operations are shift invariant (`ShiftInvOps`), in particular
  for the mock backend.
-/
import Scc.Backend.Proofs

namespace Scc.Props.C17Labels

open Scc.AxCut Scc.Backend

def C17_T1_statement : Prop :=
  ∀ (hooks : Bool) (p : Prog) (ren : Nat → String) (c d : Nat),
    (compileR mockSym hooks ren p).run (c + d) =
      shiftRes d ((compileR mockSym hooks (fun n => ren (n + d)) p).run c)

/-- generic form, for every backend with shift-invariant monadic operations -/
theorem label_counter_independent_generic {Code T : Type} (B : Backend Code T) (H : ShiftInvOps B)
    (hooks : Bool) (p : Prog) (ren : Nat → String) (c d : Nat) :
    (compileR B hooks ren p).run (c + d) =
      shiftRes d ((compileR B hooks (fun n => ren (n + d)) p).run c) :=
  (CI_compileR B H hooks p).run ren c d

theorem label_counter_independent : C17_T1_statement :=
  fun hooks p ren c d => label_counter_independent_generic mockSym shiftInvOps_mockSym hooks p ren c d

/-- two counter starts `c₁ ≤ c₂`: the output for `c₂` is the output for `c₁` computed with label
    numbers shifted by `c₂ − c₁` -/
theorem label_counter_two_starts (hooks : Bool) (p : Prog) (c₁ c₂ : Nat) (h : c₁ ≤ c₂) :
    (compile mockSym hooks p).run c₂ =
      shiftRes (c₂ - c₁)
        ((compileR mockSym hooks (fun n => toString (n + (c₂ - c₁))) p).run c₁) := by
  have := label_counter_independent hooks p natRen c₁ (c₂ - c₁)
  rw [show c₁ + (c₂ - c₁) = c₂ by omega] at this
  exact this

/-- every run is the run from 0 of ONE counter-free skeleton `F`, applied to the shifted renderer -/
theorem label_counter_skeleton (hooks : Bool) (p : Prog) :
    ∃ F : (Nat → String) → Except String ((List MockOp × Nat) × Nat),
      ∀ c, (compile mockSym hooks p).run c = shiftRes c (F (fun n => toString (n + c))) :=
  ⟨fun r => (compileR mockSym hooks r p).run 0, fun c => by
    have := label_counter_independent hooks p natRen 0 c
    rw [Nat.zero_add] at this
    exact this⟩

/-! non-vacuity: a program with an `ifc` and a two-clause `switch`; the label events (definitions and
    references, in code order) from counter 0 and from counter 41 differ exactly by `N ↦ N + 41` -/

private def exProg : Prog :=
  { defs := [⟨⟨"main", 0⟩, [⟨⟨"x", 1⟩, .ext, .i64⟩, ⟨⟨"v", 2⟩, .prd, .decl ⟨"List[i64]", 0⟩⟩],
      .ifc .lt ⟨"x", 1⟩ none
        (.switch ⟨"v", 2⟩ (.decl ⟨"List[i64]", 0⟩)
          (.cons ⟨"Nil", 0⟩ [] (.exit ⟨"x", 1⟩) (.cons ⟨"Cons", 0⟩ [] (.exit ⟨"x", 1⟩) .nil)) none)
        (.exit ⟨"x", 1⟩)⟩],
    types := [], maxId := 2 }

private def labelNames (c : Nat) : List String :=
  match (compile mockSym true exProg).run c with
  | .ok ((code, _), _) => code.filterMap fun
      | .label n => some n
      | .jifz _ _ n => some n
      | .ll _ n => some n
      | .jumpFixed n => some n
      | _ => none
  | .error _ => []

example : labelNames 0 = ["main_", "lab1", "lab1", "List_i64_2", "List_i64_2", "List_i64_2_Nil",
    "List_i64_2_Cons", "List_i64_2_Nil", "List_i64_2_Cons"] := by decide +kernel
example : labelNames 41 = ["main_", "lab42", "lab42", "List_i64_43", "List_i64_43", "List_i64_43_Nil",
    "List_i64_43_Cons", "List_i64_43_Nil", "List_i64_43_Cons"] := by decide +kernel

#print axioms label_counter_independent
#print axioms label_counter_two_starts
#print axioms label_counter_skeleton

end Scc.Props.C17Labels

#print axioms Scc.Props.C17Labels.label_counter_independent_generic
