/-
  Scc.Props.C05Strong — the behaviour part of C05 ("(c)" in Scc/Props/C05.lean: linearization preserves
  behaviour) with the observation relation of
  C02/C03, i.e. INCLUDING runs that do not finish.

  `C05_T4_linearize_sem` speaks about finished runs only (AUDIT.md, entry C05_full): a program that prints
  forever is unconstrained by it.
  * `LinStrongSame`  the four clauses of `C02_ObsSame` / `ObsEq` for a run of the named machine and a run of
      the positional machine:
      1/2. a run of either machine that finishes with a result, `divByZero` or `overflow` is matched by a run
           of the other machine with the same trace and the same outcome (`Sim.sameOutcome`: the same value,
           or the same arithmetic fault) — these are the two clauses of `C05_T4`;
      3/4. for all fuel, the trace of either machine is a prefix of a trace of the other.
  * `C05_sem_strong`  (THEOREM)  hypotheses of `C05_T4`, conclusion `LinStrongSame`.
  * `C05_sem_traces`  (THEOREM)  finer than 3/4: the simulation is lockstep (the positional machine only
      inserts silent substitution steps), so every trace of one machine within some fuel IS a trace of the
      other within some fuel (equality, not only prefix).
  Proof: `Scc/AxCut/LinRelSim.lean` (`Sim.linRelProg_traces`, and `Sim.linRelProg_sem` through `C05_T4`; both
  rest on `Sim.linRelProg_runs`: `sim_forward`, `sim_backward` from `Sim.sim_step` speak about all fuel).  Stuck reasons other than the arithmetic faults do not occur on either side once
  both machines have started (`StepRel`); `C05_T5` says so for the positional machine.
-/
import Scc.Props.C05

namespace Scc.Props.C05
open Scc.AxCut

/-- same observable behaviour of the named machine (`src`) and the positional machine (`tgt`) -/
def LinStrongSame (src : Nat → Named.Behaviour) (tgt : Nat → Pos.Behaviour) : Prop :=
  (∀ n, Sim.finishedNamed (src n).res →
    ∃ m, (tgt m).out = (src n).out ∧ Sim.sameOutcome (src n).res (tgt m).res) ∧
  (∀ m, Sim.finishedPos (tgt m).res →
    ∃ n, (src n).out = (tgt m).out ∧ Sim.sameOutcome (src n).res (tgt m).res) ∧
  (∀ n, ∃ m, (src n).out <+: (tgt m).out) ∧ (∀ m, ∃ n, (tgt m).out <+: (src n).out)

def C05_sem_strong_statement : Prop :=
  ∀ (p p' : Prog) (args : List (BitVec 64)), WfNonLinear p → noEnvAnnProg p = true →
    (∀ d, p.defs.head? = some d → ∀ b ∈ d.ctx, b.chi = .ext ∧ b.ty = .i64) →
    linearizeProg p = .ok p' →
    LinStrongSame (Named.run p args) (Pos.run p' args)

/-- the traces of the two machines coincide, for all fuel, in both directions -/
theorem C05_sem_traces (p p' : Prog) (args : List (BitVec 64)) (hwf : WfNonLinear p)
    (hne : noEnvAnnProg p = true)
    (hmain : ∀ d, p.defs.head? = some d → ∀ b ∈ d.ctx, b.chi = .ext ∧ b.ty = .i64)
    (hlin : linearizeProg p = .ok p') :
    (∀ n, ∃ m, (Pos.run p' args m).out = (Named.run p args n).out) ∧
    (∀ m, ∃ n, (Pos.run p' args m).out = (Named.run p args n).out) :=
  Sim.linRelProg_traces p p' args (linearizeProg_linRel p p' hwf hne hlin) hmain

/-- **C05_sem_strong**: linearization preserves results, both arithmetic faults and traces, of finished and
    of unfinished runs, in both directions — for every program, all arguments, all fuel. -/
theorem C05_sem_strong : C05_sem_strong_statement := by
  intro p p' args hwf hne hmain hlin
  obtain ⟨h1, h2⟩ := C05_T4 p p' args hwf hne hmain hlin
  obtain ⟨h3, h4⟩ := C05_sem_traces p p' args hwf hne hmain hlin
  refine ⟨h1, ?_, ?_, ?_⟩
  · intro m hf
    obtain ⟨n, e, ho⟩ := h2 m hf
    exact ⟨n, e.symm, ho⟩
  · intro n
    obtain ⟨m, e⟩ := h3 n
    exact ⟨m, by rw [e]; exact List.prefix_refl _⟩
  · intro m
    obtain ⟨n, e⟩ := h4 m
    exact ⟨n, by rw [e]; exact List.prefix_refl _⟩

-- the theorem applied to the example of Props/C05.lean (closure, switch, call)
example : ∀ p', linearizeProg exProg = .ok p' → LinStrongSame (Named.run exProg [5]) (Pos.run p' [5]) := by
  intro p' h
  refine C05_sem_strong exProg p' [5] (by decide +kernel) (by decide +kernel) ?_ h
  intro d hd
  simp only [exProg, List.head?_cons, Option.some.injEq] at hd
  subst hd
  decide

/-- `main(a) { print a; z := 0; q := a / z; exit q }`: prints, then divides by zero -/
def divProg : Prog where
  maxId := 3
  types := []
  defs := [
    { name := ⟨"main", 0⟩, ctx := [bx "a" 1],
      body := .print true (v "a" 1)
        (.lit (v "z" 2) 0 (.op (v "q" 3) (v "a" 1) .div (v "z" 2) (.exit (v "q" 3)) none) none) none }]

/-- `main(a) { print a; main(a) }`: prints forever -/
def loopProg : Prog where
  maxId := 1
  types := []
  defs := [
    { name := ⟨"main", 0⟩, ctx := [bx "a" 1],
      body := .print true (v "a" 1) (.call ⟨"main", 0⟩ [bx "a" 1]) none }]

example : WfNonLinear divProg ∧ noEnvAnnProg divProg = true := by decide +kernel
example : WfNonLinear loopProg ∧ noEnvAnnProg loopProg = true := by decide +kernel
-- clause 1 on a fault: both machines print 7 and stop with `divByZero`
example : (Named.run divProg [7] 20).out = [(true, 7)] ∧
    Sim.finishedNamed (Named.run divProg [7] 20).res := by
  have : (Named.run divProg [7] 20).res = .stuck "divByZero" := by rfl
  refine ⟨by decide +kernel, ?_⟩
  rw [this]; exact .inl rfl
example : ∃ p', linearizeProg divProg = .ok p' ∧ Pos.run p' [7] 20 = ⟨[(true, 7)], .stuck .divByZero⟩ :=
  ⟨_, rfl, by decide +kernel⟩
-- clauses 3/4 on a run that never finishes: after 6 steps both machines have printed 3 three times
example : (Named.run loopProg [3] 6).out = [(true, 3), (true, 3), (true, 3)] := by decide +kernel
example : ∃ p' m, linearizeProg loopProg = .ok p' ∧
    Pos.run p' [3] m = ⟨[(true, 3), (true, 3), (true, 3)], .outOfFuel⟩ := ⟨_, 6, rfl, by decide +kernel⟩

#print axioms C05_sem_traces
#print axioms C05_sem_strong

end Scc.Props.C05
