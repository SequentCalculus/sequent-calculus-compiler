/-
  Scc.Props.C06Capacity — the capacity hypothesis of Theorem A (Props/C06Generic.lean) made STATIC.

  `TheoremA_run` assumes "every context of the run is within the capacity of the numbering of temporaries"
  (`∀ st, Reachable prog st0 st → WithinCapacity st.ctx`), a statement about all states of a run.
  * `capacity_static`      THEOREM, for all programs: it follows from the DECIDABLE per-program check
                           `ProgWithinCapacity prog` (`2 * progCap prog + 2 < T_TEMP`, where `progCap` is the static
                           bound of Scc/AxCut/PosCapacity.lean on the length of every reachable context).
  * `TheoremA_run_static`  `TheoremA_run` with that check in place of the hypothesis on runs.
  `T_TEMP = 1000001`: the check fails only for programs with half a million live variables.
-/
import Scc.AxCut.PosCapacity
import Scc.Props.C06Generic

namespace Scc.Props.C06Generic

open Scc.AxCut Scc.AxCut.Pos Scc.Backend Scc.Backend.Abs
open Scc.Props.C14Generic (LabelSafe)

/-- the decidable capacity check of a program: every context the positional machine can reach fits the
    numbering of temporaries of the mock backend -/
def ProgWithinCapacity (prog : Prog) : Bool := decide (2 * progCap prog + 2 < Mock.T_TEMP)

/-- the invariant `StateCap` holds in every reachable state -/
theorem reach_cap {prog : Prog} {B : Nat} (hP : ∀ d ∈ prog.defs, capStmt d.ctx.length d.body ≤ B)
    {st0 st : Pos.State} (h0 : StateCap B st0) (hr : Reachable prog st0 st) : StateCap B st := by
  induction hr with
  | refl => exact h0
  | step _ hs ih => exact step_cap hP ih hs

/-- every context reachable from the entry state of a definition on integer arguments has length
    `≤ progCap prog` -/
theorem reach_ctx_le (prog : Prog) (d0 : Def) (hd : d0 ∈ prog.defs) (args : List Word) (st : Pos.State)
    (hr : Reachable prog ⟨d0.ctx, args.map .int, d0.body⟩ st) : st.ctx.length ≤ progCap prog :=
  (reach_cap (progCap_def prog) (init_cap (progCap_def prog) hd args) hr).ctx_le

/-- **the capacity hypothesis of Theorem A from the static check** -/
theorem capacity_static (prog : Prog) (h : ProgWithinCapacity prog = true) (d0 : Def)
    (hd : d0 ∈ prog.defs) (args : List Word) :
    ∀ st, Reachable prog ⟨d0.ctx, args.map .int, d0.body⟩ st → WithinCapacity st.ctx := by
  intro st hr
  have h1 := reach_ctx_le prog d0 hd args st hr
  simp only [ProgWithinCapacity, decide_eq_true_eq] at h
  unfold WithinCapacity
  omega

/-- THEOREM A for whole runs with the STATIC capacity check: every terminating run (shorter than 2^64
    steps) of a label-safe, linearly typed program whose entry takes integers, whose code fits the
    address space and whose contexts fit the numbering of temporaries (`ProgWithinCapacity`, decidable
    on the program) is reproduced by the abstract machine on the generated code. -/
theorem TheoremA_run_static (hooks : Bool) (prog : Prog) (c : Nat) (code : List MockOp) (nargs c' : Nat)
    (d0 : Def) (args : List Word) (fuel : Nat) (out : List (Bool × Word)) (v : Word)
    (hcomp : (compile mockSym hooks prog).run c = .ok ((code, nargs), c'))
    (hsafe : LabelSafe prog = true) (htp : LinTypedProg prog) (hfit : CodeFits code)
    (hd : prog.defs.head? = some d0)
    (hentry : ∀ b ∈ d0.ctx, b.chi = .ext ∧ b.ty = .i64)
    (hcap : ProgWithinCapacity prog = true)
    (hfuel : fuel + 1 < 2 ^ 64)
    (hrun : Pos.run prog args fuel = ⟨out, .done v⟩) :
    ∃ fuel', Abs.run code (d0.name.print ++ "_") args fuel' = ⟨out, .done v⟩ := by
  have hmem : d0 ∈ prog.defs := by
    cases hdefs : prog.defs with
    | nil => rw [hdefs] at hd; simp at hd
    | cons d ds => rw [hdefs] at hd; simp at hd; subst hd; simp
  exact TheoremA_run hooks prog c code nargs c' d0 args fuel out v hcomp hsafe htp hfit hd hentry
    (capacity_static prog hcap d0 hmem args) hfuel hrun

/-! non-vacuity: a program with a closure and a data type passes the check (its bound is small) -/

private def tFun : Ty := .decl ⟨"Fun", 0⟩
private def bx (n : String) (i : Nat) : Binding := ⟨⟨n, i⟩, .ext, .i64⟩

private def capMain : Def :=
  { name := ⟨"main", 0⟩, ctx := [bx "x" 1],
    body := .create ⟨"f", 2⟩ tFun (some [bx "x" 1])
      (.cons ⟨"Ap", 0⟩ [bx "a" 3]
        (.op ⟨"s", 4⟩ ⟨"a", 3⟩ .sum ⟨"x", 1⟩ (.print true ⟨"s", 4⟩ (.exit ⟨"s", 4⟩) none) none) .nil)
      (.lit ⟨"n", 5⟩ 5
        (.subst [(bx "n" 6, ⟨"n", 5⟩), (⟨⟨"f", 7⟩, .cns, tFun⟩, ⟨"f", 2⟩)]
          (.invoke ⟨"f", 7⟩ ⟨"Ap", 0⟩ tFun [bx "n" 6])) none) none none }

private def capEx : Prog :=
  { defs := [capMain], types := [{ name := ⟨"Fun", 0⟩, xtors := [⟨⟨"Ap", 0⟩, [bx "a" 202]⟩] }],
    maxId := 202 }

example : progCap capEx = 3 ∧ ProgWithinCapacity capEx = true := by decide +kernel

#print axioms capacity_static
#print axioms TheoremA_run_static
#print axioms Scc.AxCut.Pos.step_cap

end Scc.Props.C06Generic

#print axioms Scc.Props.C06Generic.reach_cap
#print axioms Scc.Props.C06Generic.reach_ctx_le
