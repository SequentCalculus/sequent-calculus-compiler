/-
  Scc.Props.C16 — "formatting never changes a program" (lexer, parser and printer of Fun).

  Property C16 (as given): "For every program the parser accepts, printing it at any line width and
  indentation and parsing the result yields the same syntax tree (source positions aside), and
  printing that again yields the same text; so the formatter, including its in-place mode, never
  alters the meaning of a file or makes it unparsable."

  Models: Scc.Fun.Lex (lalrpop lexer), Scc.Fun.Parse (LALR grammar as recursive descent),
  Scc.Fun.Print (the `Print` impls as documents/piece streams, the `pretty` layout).  Tie to the code:
  differential tests (parser: 35 repo files + 135 corpus programs + 36 000 mutants, trees and
  diagnostic codes equal; printer: 1 156 programs x 28 width/indent configurations, the model's
  `renderPretty` text is byte-identical to the real `fmt` output).

  Decomposition:  C16 = T1 (`layout_independent`) + T2 (`parse_tokens`) + T3 (the parser's output is
  in the domain of T1 and T2).  ALL THREE ARE PROVED for the whole language, which gives

    * C16_restricted      every program the parser accepts that satisfies the ZERO-EDGE conditions
          (`ZeroEdgeOkProg`, defect D3: no comparison whose first operand ends with the literal `0` or
          whose second operand starts with it) survives printing with ANY layout + lexing + parsing:
          the same tree comes back.                                                        (proved)
    * C16_fmt             in particular for the formatter's own layout `renderPretty` (the `pretty`
          algorithm, proved to be one of the layouts) at every width and indentation, and printing the
          re-parsed tree gives the same text (idempotence).                                 (proved)
    * C16_T1_layout_independent, C16_T2_parse_tokens, C16_T3_parser_range   the three parts.
    * C16_neg_zero_* / C16_zero_sort_flips / C16_T1_unconditional_false    the zero-edge conditions are
          necessary: concrete terms for which the unrestricted statement fails exactly as on the real
          code (tree changes / text unparsable / sort flips and formatting is not idempotent).
    * C16_statement       the unrestricted statement (FALSE on the code as it is, by D3; the
          program-level refutation is by the harness, the term-level one is proved here).
-/
import Scc.Fun.PrintProofs
import Scc.Fun.ParseRoundtrip
import Scc.Fun.ParseInRange

namespace Scc.Props
open Scc.Fun Scc.Fun.Lex Scc.Fun.Parse Scc.Fun.Print

theorem C16_lexChars_eq_ok {s : List Char} {ts : List Token} (h : lexChars s = .ok ts) : lexStream s = ts := by
  unfold lexChars at h
  simp only at h
  split at h
  · cases h
  · injection h

/-- T1 without side conditions (FALSE on the code as it is: `C16_T1_unconditional_false`). -/
def C16_T1_unconditional : Prop :=
  ∀ (cfg : PrintCfg) (t : Term) (s : List Char),
    Renders (printTerm cfg t) s → lexChars s = .ok (termToks t)

/-- T1 `layout_independent`, full language: every rendering of the printer's piece stream of a
program, whatever the layout choice, is lexed to the program's token sequence.  Side condition
`ProgOk` (PrintProofs): all names are identifiers of the right case and no keywords, and the
zero-edge conditions `endsZero a = false` / `startsZero b = false` at every comparison. -/
theorem C16_T1_layout_independent (cfg : PrintCfg) (p : Program) (h : ProgOk p) (s : List Char)
    (hr : Renders (print cfg p) s) : lexChars s = .ok (tokens p) :=
  lex_print cfg p h s hr

/-- the same for the rendering FUNCTION and an arbitrary `choice` -/
theorem C16_T1_renderWith (cfg : PrintCfg) (p : Program) (h : ProgOk p) (choice : Nat → Option Nat) :
    lexChars (renderWith choice (print cfg p)) = .ok (tokens p) :=
  lex_print cfg p h _ (renders_renderWith choice _)

theorem C16_T1_term (cfg : PrintCfg) (t : Term) (h : PrintOk t) (s : List Char)
    (hr : Renders (printTerm cfg t) s) : lexChars s = .ok (termToks t) :=
  lex_printTerm cfg t h s hr

/-- The formatter's own layout: the piece stream does not depend on width, and depends on the
indentation only through the presence of soft breaks; so two configurations give the same tokens. -/
theorem C16_T1_cfg_independent (cfg cfg' : PrintCfg) (p : Program) (h : ProgOk p) (s s' : List Char)
    (hr : Renders (print cfg p) s) (hr' : Renders (print cfg' p) s') : lexChars s = lexChars s' := by
  rw [lex_print cfg p h s hr, lex_print cfg' p h s' hr']

/-- `if 1 == 2 { f(3).d } else { new { } }`-like term without names: `if 1 == 2 { (3) } else { -4 * 5 }` -/
def C16_okTerm : Term :=
  .ifc .eq (.lit 1) (.lit 2) (.paren (.lit 3)) (.op (.lit (-4)) .prod (.lit 5)) none

example : PrintOk C16_okTerm := by
  simp [C16_okTerm, PrintOk, endsZero, startsZero]

example : lexChars (renderWith allBreak (printTerm ⟨80, 4⟩ C16_okTerm)) = .ok (termToks C16_okTerm) :=
  C16_T1_term _ _ (by simp [C16_okTerm, PrintOk, endsZero, startsZero]) _ (renders_renderWith _ _)

/-- a program with names: `def main(): i64 { x }` -/
def C16_okProg : Program :=
  ⟨[.defn ⟨String.ofList ['m','a','i','n'], [], .i64, .var (String.ofList ['x']) none none⟩]⟩

example : ProgOk C16_okProg := by
  intro d hd
  simp only [C16_okProg, List.mem_singleton] at hd
  subst hd
  refine ⟨?_, ?_, trivial, ?_⟩
  · rw [String.toList_ofList]; decide
  · intro b hb; cases hb
  · simp only [PrintOk]; rw [String.toList_ofList]; decide

/-! ## the zero-edge conditions are necessary (defect D3) -/

def C16_cfg0 : PrintCfg := ⟨80, 4⟩

/-- `if 1 == -0 { 1 } else { 2 }` parses to this tree (second operand `Some(Lit 0)`); the real
parser agrees (`S0 OK … (ifc eq (lit 1) (lit 0) (lit 1) (lit 2) none)`). -/
def C16_negZeroTerm : Term := .ifc .eq (.lit 1) (.lit 0) (.lit 1) (.lit 2) none

/-- it is what the parser produces for that text -/
theorem C16_neg_zero_parsed :
    (match parseTerm .diagOnOverflow 100 true
        (lexStream ['i','f',' ','1',' ','=','=',' ','-','0',' ','{','1','}','e','l','s','e','{','2','}']) with
      | .ok (.ifc .eq (.lit 1) (.lit 0) (.lit 1) (.lit 2) none, []) => true
      | _ => false) = true := by decide +kernel

/-- D3, witness 1: the printed text `if 1 == 0 { 1 } else { 2 }` is lexed with the ONE token `== 0`
(`==\s*0`), not with `==` and `0`: T1 fails without `startsZero b = false`. -/
theorem C16_neg_zero_witness :
    lexStream (renderWith allFlat (printTerm C16_cfg0 C16_negZeroTerm)) =
      [.kw .if_, .num ['1'], .zcmpL .eq, .lbrace, .num ['1'], .rbrace, .kw .else_, .lbrace,
        .num ['2'], .rbrace] ∧
    termToks C16_negZeroTerm =
      [.kw .if_, .num ['1'], .cmp .eq, .num ['0'], .lbrace, .num ['1'], .rbrace, .kw .else_, .lbrace,
        .num ['2'], .rbrace] := by
  constructor <;> decide +kernel

/-- … and re-parsing yields a DIFFERENT tree: the zero form `snd = None` (real `fmt`: TREE-DIFF). -/
theorem C16_neg_zero_tree_changes :
    (match parseTerm .diagOnOverflow 100 true
        (lexStream (renderWith allFlat (printTerm C16_cfg0 C16_negZeroTerm))) with
      | .ok (.ifz .eq (.lit 1) (.lit 1) (.lit 2) none, []) => true
      | _ => false) = true := by decide +kernel

theorem C16_T1_unconditional_false : ¬ C16_T1_unconditional := by
  intro h
  have h1 := C16_lexChars_eq_ok (h C16_cfg0 C16_negZeroTerm _ (renders_renderWith allFlat _))
  have h2 := C16_neg_zero_witness
  rw [h2.1, h2.2] at h1
  exact absurd h1 (by decide)

/-- `if 1 == -0 + 1 { 1 } else { 2 }` -/
def C16_negZeroOpTerm : Term := .ifc .eq (.lit 1) (.op (.lit 0) .sum (.lit 1)) (.lit 1) (.lit 2) none

/-- D3, witness 2: printed as `if 1 == 0 + 1 { … }`, which is UNPARSABLE (`== 0` is one token, then
`+` is unexpected: P-003; real `fmt`: REPARSE-FAIL Unexpected "+", expected "{"). -/
theorem C16_neg_zero_unparsable :
    (match parseTerm .diagOnOverflow 100 true
        (lexStream (renderWith allFlat (printTerm C16_cfg0 C16_negZeroOpTerm))) with
      | .diag .p003 => true
      | _ => false) = true := by decide +kernel

/-- `if 0 < 0 { 1 } else { 2 }`: the lexer reads `0 <` then `0`, i.e. the mirrored form: "0 < t" with
t = 0, sort `Greater`, first operand `0`. -/
def C16_zeroGtTerm : Term := .ifz .gt (.lit 0) (.lit 1) (.lit 2) none

theorem C16_zero_gt_parsed :
    (match parseTerm .diagOnOverflow 100 true
        (lexStream ['i','f',' ','0',' ','<',' ','0',' ','{','1','}','e','l','s','e','{','2','}']) with
      | .ok (.ifz .gt (.lit 0) (.lit 1) (.lit 2) none, []) => true
      | _ => false) = true := by decide +kernel

/-- D3, witness 3 (first operand ENDS with `0`): `if 0 < 0 {…}` is printed as `if 0 > 0 {…}`, which
re-parses with the sort flipped to `Less` — and printing again flips it back: the formatter is not
idempotent on this input (real `fmt`: TREE-DIFF).  T1 fails without `endsZero a = false`. -/
theorem C16_zero_sort_flips :
    (match parseTerm .diagOnOverflow 100 true
        (lexStream (renderWith allFlat (printTerm C16_cfg0 C16_zeroGtTerm))) with
      | .ok (.ifz .lt (.lit 0) (.lit 1) (.lit 2) none, []) => true
      | _ => false) = true := by decide +kernel

/-- T2 `parse_tokens`: the parser maps the token sequence of a program in the image of the grammar
(`InRangeProg`, ParseRoundtrip: operands of `Op` are `Term1`, scrutinees `Term2`, `let`-bound terms
`Term3`, literals within ±(2^63-1), no annotations, clause polarity/context as the parser builds them)
back to the program. -/
def C16_T2_statement : Prop :=
  ∀ (mode : LiteralMode) (p : Program), InRangeProg p → parseTokens mode (tokens p) = .ok p

/-- T2, PROVED for the whole language (both literal modes; in particular the model's fuel suffices). -/
theorem C16_T2_parse_tokens : C16_T2_statement := fun mode p h => parse_tokens mode p h

/-- non-vacuity: `C16_okProg` is in the image of the grammar -/
example : InRangeProg C16_okProg := by
  intro d hd
  simp only [C16_okProg, List.mem_singleton] at hd
  subst hd
  simp [InRangeDecl, InRange]

/-- T1 + T2: a program that is in the image of the grammar and satisfies the printing side
conditions survives printing with ANY layout followed by lexing and parsing. -/
theorem C16_print_parse (mode : LiteralMode) (p : Program) (hok : ProgOk p) (hin : InRangeProg p)
    (cfg : PrintCfg) (s : List Char) (hr : Renders (print cfg p) s) : parseChars mode s = .ok p := by
  have hl := C16_lexChars_eq_ok (lex_print cfg p hok s hr)
  unfold parseChars
  rw [hl]
  exact parse_tokens mode p hin

/-- T3: what the parser accepts is in the image of the grammar, and its names are identifiers (so
that only the zero-edge conditions are missing for `ProgOk`). -/
def C16_T3_statement : Prop :=
  ∀ (mode : LiteralMode) (cs : List Char) (p : Program), parseChars mode cs = .ok p →
    InRangeProg p ∧ (ZeroEdgeOkProg p → ProgOk p)

/-- T3, PROVED: by a postcondition proof over all parser functions (ParseInRange) and the fact that
the lexer only delivers well-formed name tokens. -/
theorem C16_T3_parser_range : C16_T3_statement := by
  intro mode cs p h
  obtain ⟨hi, hn⟩ := parseChars_good h
  exact ⟨hi, fun hz => progOk_of hn hz⟩

/-- C16, full statement for the model: accepted programs survive print-and-parse for every layout.
FALSE on the code as it is because of D3 (`C16_neg_zero_*`); with the zero-edge conditions as an
extra hypothesis it follows from T1, T2 and T3 (`C16_restricted`). -/
def C16_statement : Prop :=
  ∀ (mode : LiteralMode) (src : List Char) (p : Program), parseChars mode src = .ok p →
    ∀ (cfg : PrintCfg) (s : List Char), Renders (print cfg p) s → parseChars mode s = .ok p

/-- C16 restricted to programs satisfying the zero-edge conditions (proved below: `C16_restricted`). -/
def C16_statement_restricted : Prop :=
  ∀ (mode : LiteralMode) (src : List Char) (p : Program), parseChars mode src = .ok p →
    ZeroEdgeOkProg p →
    ∀ (cfg : PrintCfg) (s : List Char), Renders (print cfg p) s → parseChars mode s = .ok p

/-- What T1 contributes to the full statement: under `ProgOk`, parsing the printed text is parsing
the token sequence `tokens p` — the text (layout, width, indentation) is out of the picture. -/
theorem C16_partial (mode : LiteralMode) (p : Program) (h : ProgOk p) (cfg : PrintCfg) (s : List Char)
    (hr : Renders (print cfg p) s) : parseChars mode s = parseTokens mode (tokens p) := by
  have hl := C16_lexChars_eq_ok (lex_print cfg p h s hr)
  unfold parseChars
  rw [hl]

theorem C16_restricted_of_T2_T3 (hT2 : C16_T2_statement) (hT3 : C16_T3_statement) :
    C16_statement_restricted := by
  intro mode src p hp hz cfg s hr
  obtain ⟨hi, hok⟩ := hT3 mode src p hp
  rw [C16_partial mode p (hok hz) cfg s hr]
  exact hT2 mode p hi

/-- C16 for every program the parser accepts that satisfies the zero-edge conditions: printing with
ANY layout (any width, any indentation, any resolution of the soft breaks) and parsing the result
yields the same syntax tree.  (Model statement; both literal modes.) -/
theorem C16_restricted : C16_statement_restricted :=
  C16_restricted_of_T2_T3 C16_T2_parse_tokens C16_T3_parser_range

/-- C16 for the formatter itself: the text produced by the `pretty` layout at the configured width
and indentation parses back to the same tree, and formatting the re-parsed tree reproduces the text
(idempotence), so the formatter (also in its in-place mode, which only redirects the output)
neither alters the meaning of a file nor makes it unparsable — for programs without a zero edge. -/
theorem C16_fmt (mode : LiteralMode) (src : List Char) (p : Program)
    (hp : parseChars mode src = .ok p) (hz : ZeroEdgeOkProg p) (cfg : PrintCfg) :
    parseChars mode (renderPretty cfg p) = .ok p ∧
      ∀ p', parseChars mode (renderPretty cfg p) = .ok p' → renderPretty cfg p' = renderPretty cfg p := by
  have h := C16_restricted mode src p hp hz cfg _ (renderPretty_renders cfg p)
  refine ⟨h, fun p' hp' => ?_⟩
  rw [h] at hp'
  injection hp' with e
  rw [e]

/-- non-vacuity of `C16_restricted`/`C16_fmt`: the text `def m():i64{7}` is accepted, and its tree
has no zero edge -/
example : ∃ p, parseChars .panicOnOverflow ['d','e','f',' ','m','(',')',':','i','6','4','{','7','}'] = .ok p ∧
    ZeroEdgeOkProg p := by
  refine ⟨⟨[.defn ⟨String.ofList ['m'], [], .i64, .lit 7⟩]⟩, rfl, ?_⟩
  intro d hd
  simp only [List.mem_singleton] at hd
  subst hd
  simp [ZeroEdgeOkDecl, ZeroEdgeOk]

#print axioms C16_T1_layout_independent
#print axioms C16_T1_renderWith
#print axioms C16_T1_term
#print axioms C16_T1_cfg_independent
#print axioms C16_neg_zero_parsed
#print axioms C16_neg_zero_witness
#print axioms C16_neg_zero_tree_changes
#print axioms C16_T1_unconditional_false
#print axioms C16_neg_zero_unparsable
#print axioms C16_zero_gt_parsed
#print axioms C16_zero_sort_flips
#print axioms C16_T2_parse_tokens
#print axioms C16_print_parse
#print axioms C16_partial
#print axioms C16_T3_parser_range
#print axioms C16_restricted
#print axioms C16_fmt

end Scc.Props

#print axioms Scc.Props.C16_lexChars_eq_ok
#print axioms Scc.Props.C16_restricted_of_T2_T3
