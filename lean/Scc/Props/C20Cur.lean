/-
  C20 for the CURRENT sources: the runtime model instantiated with the constants that checks/regen.py
  extracted from /repo on this run (Scc/Generated/Runtime.lean).  If the buffer of io.c
  becomes too small, `C20_cap_sufficient` stops compiling; `C20_current_partial` holds for both variants of the
  negation and of the conversion (a regression to signed negation or `atoi` breaks Props/C20Full.lean).
-/
import Scc.Props.C20
import Scc.Runtime.Current

namespace Scc.Props
open Scc.Runtime Scc.Generated

/-- C20, print and argument clauses, about the code as it is now. -/
def C20_current_statement : Prop :=
  (∀ v : BitVec 64, printI64Cur v = .ok (decSpec v.toInt)
      ∧ printlnI64Cur v = .ok (decSpec v.toInt ++ [10])) ∧
  (∀ v : Int, -2^63 ≤ v → v < 2^63 → argToParamCur (decSpec v) = v)

/-- the buffer of io.c is large enough (generated constant). -/
theorem C20_cap_sufficient : 20 ≤ maxDigitsIntSrc := by decide

/-- what holds of the current sources even with signed negation and `atoi`: everything except
`INT64_MIN` prints exactly, every argument in the 32-bit range arrives unchanged. -/
theorem C20_current_partial :
    (∀ v : BitVec 64, v ≠ INT64_MIN → printI64Cur v = .ok (decSpec v.toInt)
      ∧ printlnI64Cur v = .ok (decSpec v.toInt ++ [10])) ∧
    (∀ v : Int, -2^31 ≤ v → v < 2^31 → argToParamCur (decSpec v) = v) := by
  refine ⟨fun v hv => ?_, fun v h1 h2 => ?_⟩
  · unfold printI64Cur printlnI64Cur
    cases negStyle with
    | signed => exact C20_print_partial C20_cap_sufficient v hv
    | unsignedMag => exact C20_print_fixed_full C20_cap_sufficient v
  · unfold argToParamCur
    cases argConv with
    | atoi => exact C20_arg_partial v h1 h2
    | strtoll =>
      exact C20_strtoll_full v (by omega) (by omega)

end Scc.Props

#print axioms Scc.Props.C20_cap_sufficient
#print axioms Scc.Props.C20_current_partial
