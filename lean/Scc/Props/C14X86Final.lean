/-
  Scc.Props.C14X86Final — property C14 (the emitted assembly is well-formed) for the x86-64 backend:
  THE WHOLE-PROGRAM THEOREM.

    `C14_x86_final`   for every `LabelSafe`, linearly typed (`LinTypedProg`) program that passes the decidable
                      per-program checks `C06_x86Checks` (of which `ProgInRange` and `C14_namesTextSafe` are
                      used: `C14_x86_final_min`) and that the code generator compiles (both hook settings, EVERY
                      start value of the label counter):  `wfCheck (printProg routine) = .ok ()`.

  What `wfCheck` (Scc/X86/Machine.lean) tests, and where each clause comes from:
    (v)   the text parses (never `PARSE-ERROR`) and `wfCheck` on the text is `wfItems` on items that agree with
          the routine up to the text of comments        — `C14_wfCheck_items` (Props/C14Loader.lean);
          `wfItems` = the proposition `Wf.WfSpec`, which ignores comment texts — Scc/X86/WfItems.lean;
    (i)   every label defined exactly once               — `labels_unique_x86` (Scc/X86/RefSideLabels.lean);
          the `extern` symbols `print_i64`, `println_i64` are not defined: a generated label is never one of
          them (`Backend.Lab.R_ne_ext`);
    (ii)  every label referenced by `jmp`/`jcc`/`lea`/`jmp near` is defined — `Refs.refs_defined`
          (Scc/Backend/ProofsRefs.lean, an induction over the generic generator for an arbitrary backend)
          with the x86-64 instance `Wf.refOps_x86` (memory methods: local labels only, `Wf.postMW_*`);
          "the callee exists" follows from the typing (`Refs.callsDefined_of_linTyped`); `call` only of the
          two runtime symbols; `global asm_main` is defined by the wrapper;
    (iii) `jmp near` occurs only directly after a label or another `jmp near` (`tableCheck`), i.e. only in
          jump tables, so entry k of a table is 5·k bytes after the table label (`C14_table_stride`,
          Props/C14X86.lean)                             — `Refs.piece_compileR` with `Wf.pieceOps_x86`;
    (iv)  every register < 16, every 32-bit field in range, `mov r64, imm64` within i64
                                                         — `C14_program_operand_ranges` (Props/C14X86.lean);
          `imul [mem], reg` (rejected by the validator; emitted by `mul` exactly when a spilled target is
          also a source) does not occur: the target variable of an `op` is fresh (`Refs.opFresh_of_linTyped`)
          and different variables of one context have different temporaries (`x86_vt_inj`).

  `wfCheck` vs. the pieces: `wfCheck` is exactly the conjunction (i)-(v) (`Wf.wfItems_of_spec` is proved as an
  implication; the converse for (i) is `Wf.wfItems_nodup`).  It is WEAKER than C14-T1 of C14Generic
  (`table_stride`) in that it does not compare the table entries with the clause list (one entry per clause, in
  declaration order — that is `C14_codeTable_shape` + `C14Generic.codeTable_eq`, proved for every backend);
  it does not test branch reach (x86-64 `jmp`/`jcc` rel32).

  COMPARISON with the statements of Props/C14X86.lean:
    `C14_statement`          has only `LinTypedProg`, counter start 0.  It is FALSE as stated:
                             `C14_statement_false` (two definitions `f_1` / `f` with id 1 both print as `f_1`;
                             the validator reports `label f_1_ defined more than once`).
    `C14_statement_refined`  = `C14_x86_final` without the hypothesis `C14_namesTextSafe` (and with the
                             superfluous `CallsDefined`, counter start 0).  Neither proved nor refuted as stated: without the
                             names check the text of a definition named `a b` (`LabelSafe`, linearly typed, in
                             range; `C14_names_needed`, Props/C14Loader.lean) has the label `a b_`, which does not parse;
                             `C14_statement_refined_names`: it holds for programs with text-safe names.
-/
import Scc.X86.WfFinal
import Scc.Props.C06X86Full
import Scc.Props.C14X86

namespace Scc.X86

open Scc.AxCut Scc.X86.Wf
open Scc.Props.C14Generic (LabelSafe CallsDefined)

/-- C14 (x86-64), whole programs, as PROVED -/
def C14_final_statement : Prop :=
  ∀ (p : AxCut.Prog) (hooks : Bool) (c0 : Nat) (body routine : List Code) (nargs : Nat),
    LabelSafe p = true → LinTypedProg p → C06_x86Checks p = true →
    compileX86 p hooks c0 = .ok (body, nargs) → intoRoutine body nargs = .ok routine →
    wfCheck (printProg routine) = .ok ()

/-- the routine satisfies the proposition that `wfItems` tests -/
theorem C14_routine_wfSpec {p : AxCut.Prog} {hooks : Bool} {c0 : Nat} {body routine : List Code} {nargs : Nat}
    (hsafe : LabelSafe p = true) (htp : LinTypedProg p) (hrange : ProgInRange p)
    (h : compileX86 p hooks c0 = .ok (body, nargs)) (hr : intoRoutine body nargs = .ok routine) :
    WfSpec routine := wfSpec_routine hsafe htp hrange h hr

/-- **C14 for x86-64** with the two checks that are used -/
theorem C14_x86_final_min {p : AxCut.Prog} {hooks : Bool} {c0 : Nat} {body routine : List Code} {nargs : Nat}
    (hsafe : LabelSafe p = true) (htp : LinTypedProg p) (hrange : ProgInRange p)
    (hnames : C14_namesTextSafe p = true)
    (h : compileX86 p hooks c0 = .ok (body, nargs)) (hr : intoRoutine body nargs = .ok routine) :
    wfCheck (printProg routine) = .ok () := by
  obtain ⟨items, hw, hstrip⟩ := C14_wfCheck_items hrange hnames h hr
  rw [hw]
  exact wfItems_of_spec items (wfSpec_of_stripC hstrip (wfSpec_routine hsafe htp hrange h hr))

/-- **C14 for x86-64: the text of the routine emitted for every `LabelSafe`, linearly typed program that passes
    the per-program checks is accepted by the validator** -/
theorem C14_x86_final : C14_final_statement := by
  intro p hooks c0 body routine nargs hsafe htp hchk h hr
  have F := C06_checks_facts hchk
  exact C14_x86_final_min hsafe htp F.range F.names h hr

/-- `C14_statement_refined` for programs with text-safe names (`_hcalls`, the hypothesis `CallsDefined` of that
    statement, is not used: it follows from the typing, `C14_callsDefined_of_linTyped`) -/
theorem C14_statement_refined_names (p : AxCut.Prog) (hooks : Bool) (body routine : List Code) (nargs : Nat)
    (htp : LinTypedProg p) (hrange : ProgInRange p) (hsafe : LabelSafe p = true) (_hcalls : CallsDefined p)
    (hnames : C14_namesTextSafe p = true)
    (h : compileX86 p hooks 0 = .ok (body, nargs)) (hr : intoRoutine body nargs = .ok routine) :
    wfCheck (printProg routine) = .ok () :=
  C14_x86_final_min hsafe htp hrange hnames h hr

/-- the hypothesis `CallsDefined` of `C14_statement_refined` follows from the typing: `Refs.callsDefined_of_linTyped`,
    which is generic in the backend -/
theorem C14_callsDefined_of_linTyped {p : AxCut.Prog} (htp : LinTypedProg p) : CallsDefined p :=
  Scc.Backend.Refs.callsDefined_of_linTyped htp

/-! ## `C14_statement` is false without `LabelSafe` -/

open Scc.Props.C14Generic (collisionDefs) in
/-- the definitions `f_1` (id 0) and `f` (id 1) both print as `f_1`: linearly typed, in range, text-safe
    names; the routine defines the label `f_1_` twice and the validator rejects its text -/
theorem C14_collision_rejected :
    LinTypedProg collisionDefs ∧
    ∃ body routine nargs, compileX86 collisionDefs false 0 = .ok (body, nargs) ∧
      intoRoutine body nargs = .ok routine ∧ wfCheck (printProg routine) ≠ .ok () := by
  refine ⟨linTypedCheck_sound _ rfl, ?_⟩
  have hok : ∃ r, compileX86 collisionDefs false 0 = .ok r := ⟨_, rfl⟩
  obtain ⟨⟨body, nargs⟩, hcomp⟩ := hok
  have hbody : body = (compileX86 collisionDefs false 0 |>.toOption.getD ([], 0)).1 := by rw [hcomp]; rfl
  have hnargs : nargs = 1 := by
    have : nargs = (compileX86 collisionDefs false 0 |>.toOption.getD ([], 0)).2 := by rw [hcomp]; rfl
    rw [this]; rfl
  subst hnargs
  have hok2 : ∃ r, intoRoutine body 1 = .ok r := by
    have : ∃ moves, moveArguments 1 = .ok moves := ⟨_, rfl⟩
    obtain ⟨moves, hm⟩ := this
    exact ⟨_, by unfold intoRoutine; rw [setup_eq 1 moves hm]⟩
  obtain ⟨routine, hrout⟩ := hok2
  refine ⟨body, routine, 1, hcomp, hrout, ?_⟩
  have hrange : ProgInRange collisionDefs := by
    refine ⟨by simp [collisionDefs], ?_⟩
    intro d hd
    simp only [collisionDefs, List.mem_cons, List.not_mem_nil, or_false] at hd
    rcases hd with rfl | rfl <;> simp [StmtB]
  obtain ⟨items, hw, hstrip⟩ := C14_wfCheck_items hrange (by decide) hcomp hrout
  rw [hw]
  intro hwf
  have hnd := wfItems_nodup items hwf
  rw [← labs_map_stripC, hstrip, labs_map_stripC] at hnd
  -- the labels of the routine: `asm_main`, those of the body, `cleanup`
  obtain ⟨moves, hm, hshape⟩ := Ref.intoRoutine_shape hrout
  have hrt : routine = Ref.header moves ++ (body ++ cleanup) := by
    rw [hshape]; simp [Ref.header]
  rw [hrt, Ref.labs_append, Ref.labs_append] at hnd
  have : ¬ (Ref.labs body).Nodup := by rw [hbody]; decide
  exact this (List.nodup_append.1 (List.nodup_append.1 hnd).2.1).1

theorem C14_statement_false : ¬ C14_statement := by
  intro hC
  obtain ⟨htp, body, routine, nargs, h1, h2, h3⟩ := C14_collision_rejected
  exact h3 (hC _ false body routine nargs htp h1 h2)

/-- the closure program of Props/C06X86Full.lean (two `create`s, a two-entry jump table, `invoke` through the
    table and through `jmp reg`, `subst`, `op`, `println`): every hypothesis holds, so the validator accepts the
    text of its routine (compiled with hooks) -/
example : wfCheck (printProg C06_cloRoutine) = .ok () :=
  C14_x86_final C06_cloProg true 0 C06_cloBody C06_cloRoutine 1 C06_cloProg_labelSafe
    C06_cloProg_typed C06_cloProg_checks C06_cloProg_compiles.1 C06_cloProg_compiles.2

end Scc.X86

#print axioms Scc.X86.C14_x86_final
#print axioms Scc.X86.C14_x86_final_min
#print axioms Scc.X86.C14_routine_wfSpec
#print axioms Scc.X86.C14_statement_refined_names
#print axioms Scc.X86.C14_callsDefined_of_linTyped
#print axioms Scc.X86.C14_collision_rejected
#print axioms Scc.X86.C14_statement_false
