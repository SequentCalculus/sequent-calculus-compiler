/-
  Scc.Props.C14LoaderA64Names — EVERY ROUTINE THE AArch64 BACKEND MODEL EMITS LOADS, from decidable checks
  on the PROGRAM (nothing is evaluated on the routine, the parser is never run):

    `C14A_namesTextSafe p : Bool`   the names check (`progNamesOK okcA`, Scc/X86/LoaderNames.lean): every
                              identifier of the linearized program (definition names, variables, xtor tags)
                              consists of characters in `okcA` — no white space, none of `, : [ ] !`, and
                              not `.` `/` `#` —, type names have no line break, the mangled name of every
                              type a `switch`/`create` dispatches on consists of `okcA` characters;
    `C14A_inRangeB p : Bool`        ≤ 1024 xtors per type, ≤ 4096 pairs per substitution (the bounds of the
                              12-bit immediate of `ADD`: jump-table offset `4·k`, share count);
    `C14A_routine_operands`   (C14-T4 for WHOLE PROGRAMS) every item of the emitted body / routine passes
                              the per-instruction check `Code.wf` of the monitor `wf` (operand classes and
                              ranges; in particular every register exists);
    `C14A_routine_textOK`     every item of the emitted body / routine passes `codeTextOK`;
    `C14A_routine_loads`      `parseText (printProg routine) = .ok (numberFrom 1 (progPLines routine))`;
    `C14A_routine_run`        `run (printProg routine) … = runProg (layout (numberFrom 1 (progPLines routine))) …`;
    `C14A_routine_lines`      the parsed lines are the routine in the sense of `CC.Lines` — see
                              Props/C14LoaderA64Compose.lean for the composition with C13;
    for all programs, both hook settings, every counter start.
  Through: the generic lifting `Backend.NamesC.post_compileR_namesC` (Scc/Backend/LoaderNamesC.lean: which
  strings the generator hands to label / comment methods; every comment is `CommentOK`: no line break, and
  either not a `#ctx [` text or exactly the hook comment of a context), the AArch64 instance
  `Loader.opsNamesC_a64` (every backend method, memory methods included: labels `lab<n>`, literal
  comments), and `Loader.opsSat_a64` (the instance of `X86.OpsSat` from `C14_methods_wf`).
  WHY `#` IS EXCLUDED FROM NAMES: the `op` comment `x <- a + b;` and the `call` comment `f(...)` start with a
  NAME; a name starting with `#ctx [` would turn them into malformed hooks = parse errors
  (`C14A_names_needed_hash`).  `.`/`/`: a definition `.f` gives the label `.f_`, read as a directive.
  NOT proved: that every program the front end accepts has text-safe names at stage 5 (the checks are
  evaluated per program: of the 372 `.sc` files under /repo and /verif/gen/corpus the front end accepts 249;
  ALL 249 pass `C14A_namesTextSafe` and `C14A_inRangeB` at stage 5, and — cross-check by evaluation — the
  hook-instrumented routine of each passes `codeTextOK` item by item and is parsed by `parseText`).
-/
import Scc.Props.C14LoaderA64
import Scc.A64.LoaderRoutine

namespace Scc.A64

open Scc.A64.Loader Scc.AxCut
open Scc.X86 (StmtB ClausesB ProgB)

/-- **the decidable hypothesis on the names of the linearized program** -/
def C14A_namesTextSafe (p : AxCut.Prog) : Bool := Scc.X86.Loader.progNamesOK okcA p

mutual
  def C14A_stmtRangeB : Stmt → Bool
    | .subst pairs next => decide (pairs.length ≤ maxSubstA64) && C14A_stmtRangeB next
    | .call _ _ => true
    | .letS _ _ _ _ next _ => C14A_stmtRangeB next
    | .switch _ _ clauses _ => C14A_clausesRangeB clauses
    | .create _ _ _ clauses next _ _ => C14A_clausesRangeB clauses && C14A_stmtRangeB next
    | .invoke _ _ _ _ => true
    | .lit _ _ next _ => C14A_stmtRangeB next
    | .op _ _ _ _ next _ => C14A_stmtRangeB next
    | .print _ _ next _ => C14A_stmtRangeB next
    | .ifc _ _ _ thenc elsec => C14A_stmtRangeB thenc && C14A_stmtRangeB elsec
    | .exit _ => true
  def C14A_clausesRangeB : Clauses → Bool
    | .nil => true
    | .cons _ _ body rest => C14A_stmtRangeB body && C14A_clausesRangeB rest
end

/-- **the decidable bounds**: ≤ 1024 xtors per type, ≤ 4096 pairs per substitution -/
def C14A_inRangeB (p : AxCut.Prog) : Bool :=
  p.types.all (fun d => decide (d.xtors.length ≤ maxTagsA64)) && p.defs.all (fun d => C14A_stmtRangeB d.body)

mutual
  theorem C14A_stmtRangeB_sound : ∀ s : Stmt, C14A_stmtRangeB s = true → StmtB (fun _ => True) maxSubstA64 s
    | .subst pairs next, h => by
      simp only [C14A_stmtRangeB, Bool.and_eq_true, decide_eq_true_eq] at h
      simp only [StmtB]; exact ⟨h.1, C14A_stmtRangeB_sound next h.2⟩
    | .call _ _, _ => by simp [StmtB]
    | .letS _ _ _ _ next _, h => by
      simp only [C14A_stmtRangeB] at h; simp only [StmtB]; exact C14A_stmtRangeB_sound next h
    | .switch _ _ cl _, h => by
      simp only [C14A_stmtRangeB] at h; simp only [StmtB]; exact C14A_clausesRangeB_sound cl h
    | .create _ _ _ cl next _ _, h => by
      simp only [C14A_stmtRangeB, Bool.and_eq_true] at h
      simp only [StmtB]; exact ⟨C14A_clausesRangeB_sound cl h.1, C14A_stmtRangeB_sound next h.2⟩
    | .invoke _ _ _ _, _ => by simp [StmtB]
    | .lit _ _ next _, h => by
      simp only [C14A_stmtRangeB] at h; simp only [StmtB]; exact ⟨trivial, C14A_stmtRangeB_sound next h⟩
    | .op _ _ _ _ next _, h => by
      simp only [C14A_stmtRangeB] at h; simp only [StmtB]; exact C14A_stmtRangeB_sound next h
    | .print _ _ next _, h => by
      simp only [C14A_stmtRangeB] at h; simp only [StmtB]; exact C14A_stmtRangeB_sound next h
    | .ifc _ _ _ t e, h => by
      simp only [C14A_stmtRangeB, Bool.and_eq_true] at h
      simp only [StmtB]; exact ⟨C14A_stmtRangeB_sound t h.1, C14A_stmtRangeB_sound e h.2⟩
    | .exit _, _ => by simp [StmtB]
  theorem C14A_clausesRangeB_sound : ∀ c : Clauses, C14A_clausesRangeB c = true →
      ClausesB (fun _ => True) maxSubstA64 c
    | .nil, _ => by simp [ClausesB]
    | .cons _ _ body rest, h => by
      simp only [C14A_clausesRangeB, Bool.and_eq_true] at h
      simp only [ClausesB]; exact ⟨C14A_stmtRangeB_sound body h.1, C14A_clausesRangeB_sound rest h.2⟩
end

theorem C14A_inRangeB_sound {p : AxCut.Prog} (h : C14A_inRangeB p = true) : ProgInRangeA64 p := by
  simp only [C14A_inRangeB, Bool.and_eq_true, List.all_eq_true, decide_eq_true_eq] at h
  exact ⟨h.1, fun d hd => C14A_stmtRangeB_sound d.body (h.2 d hd)⟩

section
variable {p : AxCut.Prog} {hooks : Bool} {c0 : Nat} {body routine : List Code} {nargs : Nat}

/-- C14-T4 for WHOLE PROGRAMS (AArch64): operand classes and ranges of every emitted item -/
theorem C14A_routine_operands (hrange : C14A_inRangeB p = true)
    (h : compileProg a64Backend p hooks c0 = .ok (body, nargs, routine)) :
    allWf body = true ∧ allWf routine = true :=
  routine_wf (C14A_inRangeB_sound hrange) h

/-- every item of the emitted body and routine is text-safe -/
theorem C14A_routine_textOK (hrange : C14A_inRangeB p = true) (hnames : C14A_namesTextSafe p = true)
    (h : compileProg a64Backend p hooks c0 = .ok (body, nargs, routine)) :
    (∀ c ∈ body, codeTextOK c = true) ∧ (∀ c ∈ routine, codeTextOK c = true) :=
  routine_codeTextOK (C14A_inRangeB_sound hrange) hnames h

/-- **EVERY ROUTINE OF THE AArch64 BACKEND MODEL LOADS** -/
theorem C14A_routine_loads (hrange : C14A_inRangeB p = true) (hnames : C14A_namesTextSafe p = true)
    (h : compileProg a64Backend p hooks c0 = .ok (body, nargs, routine)) :
    parseText (printProg routine) = .ok (numberFrom 1 (progPLines routine)) :=
  C14A_loader routine (C14A_routine_textOK hrange hnames h).2

/-- … and the machine on its text is the machine on the layout of its items' lines -/
theorem C14A_routine_run (hrange : C14A_inRangeB p = true) (hnames : C14A_namesTextSafe p = true)
    (h : compileProg a64Backend p hooks c0 = .ok (body, nargs, routine))
    (args : List Word) (fuel : Nat) (cfg : MonCfg) (hwf : cfg.wf = false) :
    run (printProg routine) args fuel cfg = runProg (layout (numberFrom 1 (progPLines routine))) args fuel cfg :=
  C14A_run routine (C14A_routine_textOK hrange hnames h).2 args fuel cfg hwf

/-- the executable per-item check of the test driver is true on every emitted item, without evaluation -/
theorem C14A_routine_roundTrips (hrange : C14A_inRangeB p = true) (hnames : C14A_namesTextSafe p = true)
    (h : compileProg a64Backend p hooks c0 = .ok (body, nargs, routine)) :
    ∀ c ∈ routine, c.roundTrips = true :=
  fun c hc => C14A_roundTrips c ((C14A_routine_textOK hrange hnames h).2 c hc)
end

/-! ## the names hypothesis cannot be dropped -/

/-- a definition named `a b` gives the label `a b_`, which is not text-safe; a definition named `.f`
    gives `.f_`, which the loader takes for a directive -/
theorem C14A_names_needed :
    let p1 : AxCut.Prog := ⟨[⟨⟨"a b", 0⟩, [], .exit ⟨"x", 1⟩⟩], [], 1⟩
    let p2 : AxCut.Prog := ⟨[⟨⟨".f", 0⟩, [], .exit ⟨"x", 1⟩⟩], [], 1⟩
    C14A_namesTextSafe p1 = false ∧ codeTextOK (.LAB "a b_") = false ∧
    C14A_namesTextSafe p2 = false ∧ codeTextOK (.LAB ".f_") = false := by decide

/-- a variable named `#ctx [v` turns the `op` comment into a malformed hook: the names check rejects
    the program and the emitted comment is not text-safe (the loader answers PARSE-ERROR, `#eval` below) -/
def C14A_hashProg : AxCut.Prog :=
  ⟨[⟨⟨"main", 0⟩, [⟨⟨"a", 1⟩, .ext, .i64⟩],
     .op ⟨"#ctx [v", 0⟩ ⟨"a", 1⟩ .sum ⟨"a", 1⟩ (.exit ⟨"a", 1⟩) none⟩], [], 1⟩

theorem C14A_names_needed_hash :
    C14A_namesTextSafe C14A_hashProg = false ∧
    codeTextOK (.COMMENT ("#ctx [v" ++ " <- " ++ "a_1" ++ " " ++ "+" ++ " " ++ "a_1" ++ ";")) = false := by decide

#eval match compileProg a64Backend C14A_hashProg false 0 with
  | .ok (_, _, routine) => (parseText (printProg routine)).toOption.isSome   -- false: PARSE-ERROR
  | .error _ => true

/-! ## non-vacuity -/

/-- the counting loop of Props/C13A64.lean -/
def C14A_loopProg : AxCut.Prog :=
  ⟨[⟨⟨"main", 0⟩, [⟨⟨"n", 1⟩, .ext, .i64⟩, ⟨⟨"acc", 2⟩, .ext, .i64⟩],
     .ifc .le ⟨"n", 1⟩ none
       (.print true ⟨"acc", 2⟩ (.exit ⟨"acc", 2⟩) none)
       (.lit ⟨"one", 3⟩ 1 (.op ⟨"n", 4⟩ ⟨"n", 1⟩ .sub ⟨"one", 3⟩ (.op ⟨"acc", 5⟩ ⟨"acc", 2⟩ .sum ⟨"n", 1⟩
         (.subst [(⟨⟨"n", 4⟩, .ext, .i64⟩, ⟨"n", 4⟩), (⟨⟨"acc", 5⟩, .ext, .i64⟩, ⟨"acc", 5⟩)]
           (.call ⟨"main", 0⟩ [])) none) none) none)⟩], [], 5⟩

example : C14A_namesTextSafe C14A_loopProg = true ∧ C14A_inRangeB C14A_loopProg = true := by decide

example : ∃ routine, parseText (printProg routine) = .ok (numberFrom 1 (progPLines routine)) ∧
    routine.length = 76 := by
  have hok : ∃ r, compileProg a64Backend C14A_loopProg true 0 = .ok r := ⟨_, rfl⟩
  obtain ⟨⟨body, nargs, routine⟩, hcomp⟩ := hok
  refine ⟨routine, C14A_routine_loads (by decide) (by decide) hcomp, ?_⟩
  have : routine = (compileProg a64Backend C14A_loopProg true 0 |>.toOption.getD ([], 0, [])).2.2 := by
    rw [hcomp]; rfl
  rw [this]; decide

end Scc.A64

#print axioms Scc.A64.C14A_inRangeB_sound
#print axioms Scc.A64.C14A_routine_operands
#print axioms Scc.A64.C14A_routine_textOK
#print axioms Scc.A64.C14A_routine_loads
#print axioms Scc.A64.C14A_routine_run
#print axioms Scc.A64.C14A_routine_roundTrips
#print axioms Scc.A64.C14A_names_needed
#print axioms Scc.A64.C14A_names_needed_hash
