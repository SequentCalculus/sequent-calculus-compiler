/-
  Scc.Props.C10X86 — property C10 (heap footprint bounded by peak live data) lifted from the heap MODEL
  (Props/C10.lean: `C10_bump_only_when_empty`, `C10_frontier_bound` on histories of heap operations) to
  CONCRETE x86-64 EXECUTIONS of compiled programs with data types, through the three-way simulation of
  Props/C06X86Heap.lean.

  C10 (fixed text): "Generated code takes fresh memory from the unused part of the heap only when both free
  lists are empty, so at every moment the highest heap address ever written lies at most a small constant
  number of blocks above the peak number of simultaneously reachable blocks. A computation that repeatedly
  builds and drops structures therefore runs in space independent of the number of repetitions."

  NOTIONS (Scc/X86/ConcC10.lean), all on the RAW MACHINE STATE:
  * `HeapShapeAt cfg X below inUse` — the heap of `X` is consistent (`InvW`, for some roots; memory = the
    machine's heap words, list heads = HEAP/FREE registers) with `below` blocks below the allocation
    frontier, `inUse` of them neither on the reusable nor on the deferred free list (reachable from the live
    variables or waiting beneath a deferred block — as in Props/C10.lean, counting only the blocks reachable
    from the roots the bound is false).  Both numbers are functions of the state (`InvS.witness_unique`).
  * `PeakAtMost … Pk C` — THE PEAK: at no statement boundary of the machine's run (`BoundaryOf`: related by
    `Rel3` to a state of the positional machine; Props/C09X86.lean) are more than `Pk` blocks in use.  Only
    boundaries with at most `C = A·fuel + 1` blocks below the frontier are constrained (the trivial bound;
    no other boundary occurs, and with it `PeakAtMost C C` holds trivially: `C10_peak_trivial`).
  * `(runItems …).maxHeapWritten` — the machine's own record of the highest heap byte ever stored to.

  PROVED (no `sorry`; axioms propext, Classical.choice, Quot.sound):
  * `C10_x86_frontier_bound`  the lift of `C10_frontier_bound`: under `PeakAtMost Pk`, in a heap of at least
                              `64·(Pk + A + 2)` bytes, the machine passes through a boundary state for every
                              state of the positional run, and at each at most `Pk + 1` blocks lie below the
                              frontier (fresh memory is taken only when both free lists are empty: `FrPk`,
                              from `storeObj_spec`, carried through `ThreeWay.store_x3`/`let_x3`/`step3P`).
  * `C10_x86_every_prefix`    the same WITHOUT TERMINATION HYPOTHESIS, for every prefix (any number `fuel` of
                              steps of the positional machine) of every run.
  * `C10_x86_data_programs`   `C06_data_programs` WITH THE FOOTPRINT BOUND IN PLACE OF THE COARSE ROOM
                              HYPOTHESIS `128 + 64·134·fuel ≤ heapBytes`: `64·(Pk + A + 2) ≤ heapBytes` and
                              `PeakAtMost Pk` suffice for a run of ANY length (same trace, same result), and
                              the highest heap address written lies inside the heap region.
  * `C10_x86_footprint`       THE FOOTPRINT: in ANY heap of at least `64·(Pk + A + 2)` bytes the run ends with
                              the same trace and result and `maxHeapWritten ≤ 64·(Pk + A + 2)`: the highest
                              heap address written is at most (peak + A + 2) blocks above the heap base,
                              independent of the length of the run and of the size of the heap (the peak
                              hypothesis is stated for the heap cut down to `64·(Pk + A + 2)` bytes;
                              `runItems_larger_heap`: a run that succeeds in a smaller heap is the same run
                              in a larger one).
  * `C10_x86_footprint_loaded`  the same ON THE TEXT of the routine: `run (printProg routine)`, the machine's
                              own entry point, without a loader hypothesis (`C14_routine_loads`).
  * `C10_x86_data_size`       C10 IN TERMS OF THE SOURCE-LEVEL DATA, ALL RUNS: let `D` bound the number of fields
                              of the object values held by the variables of the AxCut positional machine
                              (`valsFields st.env ≤ D` for every reachable state — a statement about the
                              program alone, no machine in it).  Then in ANY heap of at least `64·(D + A + 2)`
                              bytes, for EVERY amount of machine fuel (below `2^64/(M + 1)`), terminating run or
                              not, the result is `outOfFuel` or `done v` and the highest heap address written
                              is at most `D + A + 2` blocks above the heap base.  The peak hypothesis is
                              DERIVED: the frontier moves only when both free lists are empty (`FrPk`), then
                              every block in use belongs to an object of the abstract heap (NO GARBAGE,
                              Scc/Heap/RefineNoGarb.lean), and the objects of the abstract heap are nodes of the
                              values of the environment (Scc/X86/ConcData.lean).
                              `C10_x86_data_size_loaded`: on the text of the routine.
                              EXAMPLE: the box loop `main(x) { let b = B(x); switch b { B(y) => main(y) } }`
                              runs FOREVER in 4 blocks: for every fuel below 2^60 the machine is still running
                              and has not written above 256 bytes of its heap.
  * `C10_x86_coarse`          with `Pk = A·fuel + 1` the peak hypothesis is trivial: the theorem subsumes
                              the room hypothesis of `C06_data_programs` (up to the constant).
  * `C10_mhw_in_heap`, `C10_larger_heap`   the two generic machine facts (any program).
  THE CONSTANT `A + 2`, `A = progMaxLet p` the largest number of fields of a `let` of the program: 1 (the
  reusable list always keeps one block) + `A + 1` (the room the memory contract of `Memory::store` asks for
  before a `let` of `A` fields: `frontier + 64·(fields + 1) ≤ limit` — a property of the contract's
  hypothesis, not of the code: `Memory::store` of n fields acquires fewer blocks).
  KEPT AS `def : Prop` — `C10_x86_statement`: constant 2, every compiled program (closures), every run
  (non-terminating included), peak measured at the `#ctx` hooks.
-/
import Scc.X86.ConcC10
import Scc.X86.ConcDataRun
import Scc.Props.C13X86Data
import Scc.Props.C06X86Heap
import Scc.Props.C14Loader

namespace Scc.X86
open Scc.AxCut Scc.Backend Scc.X86.Ref Scc.X86.Conc
open Scc.Props.C06Generic (Reachable CodeFits statesOf)
open Scc.Props.C14Generic (LabelSafe)

/-- C10 on x86-64: for every compiled program and every run, if at no statement boundary more than `Pk`
blocks are in use, then the highest heap address ever written lies at most `Pk + 2` blocks above the heap
base — whatever the fuel.  Open: neither proved nor refuted.  Proved with the constant `Pk + A + 2` (`A` the
largest number of fields of a `let`: the memory contract of `Memory::store` asks for that room before it
allocates) and the peak measured at the statement boundaries: `C10_x86_footprint`, `C10_x86_data_size`. -/
def C10_x86_statement : Prop :=
  ∀ (p : AxCut.Prog) (args : List Word) (hooks : Bool) (body routine : List Code) (nargs : Nat)
    (ops : List MockOp) (c' : Nat),
    LinTypedProg p → (compile mockSym hooks p).run 0 = .ok ((ops, nargs), c') →
    compileX86 p hooks 0 = .ok (body, nargs) → intoRoutine body nargs = .ok routine → args.length = nargs →
    ∀ (cfg : MonCfg), cfg.heap = false → MachOK cfg.mach →
      ∀ (items : List (Code × Nat)), (items.map (·.1)).map stripC = routine.map stripC →
      ∀ (Pk : Nat), (∀ C, PeakAtMost p hooks routine ops cfg items args Pk C) →
      ∀ fuel', (runItems items args fuel' cfg).maxHeapWritten ≤ 64 * (Pk + 2)

/-- the peak hypothesis is trivial for `Pk = C`: the blocks in use lie below the frontier -/
theorem C10_peak_trivial (p : AxCut.Prog) (hooks : Bool) (routine : List Code) (ops : List MockOp)
    (cfg : MonCfg) (items : List (Code × Nat)) (args : List Word) (C : Nat) :
    PeakAtMost p hooks routine ops cfg items args C C :=
  peakAtMost_trivial p hooks routine ops cfg items args C

/-- ANY PROGRAM: the highest heap address the machine has written lies inside the heap region -/
theorem C10_mhw_in_heap {m : MonCfg} {p : Prog} (n : Nat) {s s' : State} (h : stepN m p n s = .inl s')
    (hs : s.maxHeapWritten ≤ m.mach.heapBytes) : s'.maxHeapWritten ≤ m.mach.heapBytes :=
  stepN_mhw n h hs

/-- ANY PROGRAM: a run (heap monitor off) that ends with `done v` in a smaller heap region — same base, same
stack, heap below the stack — is the same run, with the same record, in the larger one -/
theorem C10_larger_heap {m' m : MonCfg} (S : Sub m'.mach m.mach) (h' : m'.heap = false) (hm : m.heap = false)
    (items : List (Code × Nat)) (args : List Word) (f : Nat) (v : Word)
    (h : (runItems items args f m').res = .done v) : runItems items args f m = runItems items args f m' :=
  runItems_larger_heap S h' hm items args f v h

/-- THE FRONTIER BOUND ON THE MACHINE (lift of `C10_frontier_bound`): if at no statement boundary more than
`Pk` blocks are in use, then in a heap of `64·(Pk + A + 2)` bytes the machine passes, in order and without
fault, through a boundary state for EVERY state of the positional run, and at each of them the heap is
consistent with at most `Pk + 1` blocks below the allocation frontier. -/
theorem C10_x86_frontier_bound (p : AxCut.Prog) (args : List Word) (hooks : Bool) (body routine : List Code)
    (nargs : Nat) (d0 : Def) (ops : List MockOp) (c' : Nat)
    (hsafe : LabelSafe p = true) (htp : LinTypedProg p) (hdata : DataProg p) (hrange : ProgInRange p)
    (hcompM : (compile mockSym hooks p).run 0 = .ok ((ops, nargs), c')) (hfit : CodeFits ops)
    (hcompX : compileX86 p hooks 0 = .ok (body, nargs)) (hrout : intoRoutine body nargs = .ok routine)
    (hnd : (labs routine).Nodup)
    (hd : p.defs.head? = some d0) (hentry : ∀ b ∈ d0.ctx, b.chi = .ext ∧ b.ty = .i64)
    (hcap : ∀ st, Reachable p ⟨d0.ctx, args.map .int, d0.body⟩ st → 2 * st.ctx.length ≤ 266)
    (fuel : Nat) (out : List (Bool × Word)) (v : Word) (hfuel : fuel + 1 < 2 ^ 64)
    (hrun : Pos.run p args fuel = ⟨out, .done v⟩)
    (cfg : MonCfg) (MO : MachOK cfg.mach) (hk : cfg.consts = consts)
    (hb8 : cfg.mach.heapBase % 8 = 0) (hb0 : 0 < cfg.mach.heapBase)
    (Pk : Nat) (hbytes : 64 * (Pk + progMaxLet p + 2) ≤ cfg.mach.heapBytes)
    (items : List (Code × Nat)) (hitems : (items.map (·.1)).map stripC = routine.map stripC)
    (hfitX : addrAt cfg.mach.codeBase routine routine.length < 2 ^ 64)
    (hP : PeakAtMost p hooks routine ops cfg items args Pk (progMaxLet p * fuel + 1)) :
    ∃ n0 X0, stepN cfg (mkProg cfg.mach items) n0 (initState cfg.mach args 6) = .inl X0 ∧
      BChain cfg (mkProg cfg.mach items)
        (fun st X => BoundaryOf p hooks routine ops cfg st X ∧
          ∃ below inUse, HeapShapeAt cfg X below inUse ∧ below ≤ Pk + 1 ∧ inUse ≤ Pk)
        (statesOf p fuel ⟨d0.ctx, args.map .int, d0.body⟩) X0 := by
  obtain ⟨_, n0, X0, n, XL, h0, hch, _⟩ := data_programs_peak p args hooks body routine nargs d0 ops c' hsafe htp
    ⟨hrange.1, fun d hd => ⟨hdata d hd, hrange.2 d hd⟩⟩ hcompM hfit hcompX hrout hnd hd hentry hcap fuel out v
    hfuel hrun cfg MO hk hb8 hb0 Pk (progMaxLet p) (letLe_progMaxLet p) hbytes items hitems hfitX hP
  exact ⟨n0, X0, h0, hch⟩

/-- THE FRONTIER BOUND FOR EVERY PREFIX OF EVERY RUN (terminating or not): for ANY number `fuel` of steps of
the positional machine the machine reaches, without fault, a boundary state for every state of the prefix, with
at most `Pk + 1` blocks below the frontier at each -/
theorem C10_x86_every_prefix (p : AxCut.Prog) (args : List Word) (hooks : Bool) (body routine : List Code)
    (nargs : Nat) (d0 : Def) (ops : List MockOp) (c' : Nat)
    (hsafe : LabelSafe p = true) (htp : LinTypedProg p) (hdata : DataProg p) (hrange : ProgInRange p)
    (hcompM : (compile mockSym hooks p).run 0 = .ok ((ops, nargs), c')) (hfit : CodeFits ops)
    (hcompX : compileX86 p hooks 0 = .ok (body, nargs)) (hrout : intoRoutine body nargs = .ok routine)
    (hnd : (labs routine).Nodup)
    (hd : p.defs.head? = some d0) (hentry : ∀ b ∈ d0.ctx, b.chi = .ext ∧ b.ty = .i64)
    (hlen : d0.ctx.length = args.length)
    (hcap : ∀ st, Reachable p ⟨d0.ctx, args.map .int, d0.body⟩ st → 2 * st.ctx.length ≤ 266)
    (fuel : Nat) (hfuel : fuel + 1 < 2 ^ 64)
    (cfg : MonCfg) (MO : MachOK cfg.mach) (hk : cfg.consts = consts)
    (hb8 : cfg.mach.heapBase % 8 = 0) (hb0 : 0 < cfg.mach.heapBase)
    (Pk : Nat) (hbytes : 64 * (Pk + progMaxLet p + 2) ≤ cfg.mach.heapBytes)
    (items : List (Code × Nat)) (hitems : (items.map (·.1)).map stripC = routine.map stripC)
    (hfitX : addrAt cfg.mach.codeBase routine routine.length < 2 ^ 64)
    (hP : PeakAtMost p hooks routine ops cfg items args Pk (progMaxLet p * fuel + 1)) :
    ∃ n0 X0, stepN cfg (mkProg cfg.mach items) n0 (initState cfg.mach args 6) = .inl X0 ∧
      X0.maxHeapWritten ≤ cfg.mach.heapBytes ∧
      BChain cfg (mkProg cfg.mach items)
        (fun st X => BoundaryOf p hooks routine ops cfg st X ∧
          ∃ below inUse, HeapShapeAt cfg X below inUse ∧ below ≤ Pk + 1 ∧ inUse ≤ Pk)
        (statesOf p fuel ⟨d0.ctx, args.map .int, d0.body⟩) X0 := by
  obtain ⟨_, n0, X0, h0, hch⟩ := data_programs_prefix p args hooks body routine nargs d0 ops c' hsafe htp
    ⟨hrange.1, fun d hd => ⟨hdata d hd, hrange.2 d hd⟩⟩ hcompM hfit hcompX hrout hnd hd hentry hlen hcap fuel
    hfuel cfg MO hk hb8 hb0 Pk (progMaxLet p) (letLe_progMaxLet p) hbytes items hitems hfitX hP
  exact ⟨n0, X0, h0, stepN_mhw n0 h0 (mhwOK_init cfg.mach args 6), hch⟩

/-- THEOREM A ∘ THEOREM B FOR PROGRAMS WITH DATA TYPES UNDER THE FOOTPRINT BOUND: `C06_data_programs` with
its room hypothesis `128 + 64·134·fuel ≤ heapBytes` replaced by `64·(Pk + A + 2) ≤ heapBytes` and the peak
hypothesis — a heap that holds the peak is enough for a run of any length; and the machine's record of the
highest heap address written stays inside the heap region. -/
theorem C10_x86_data_programs (p : AxCut.Prog) (args : List Word) (hooks : Bool) (body routine : List Code)
    (nargs : Nat) (d0 : Def) (ops : List MockOp) (c' : Nat)
    (hsafe : LabelSafe p = true) (htp : LinTypedProg p) (hdata : DataProg p) (hrange : ProgInRange p)
    (hcompM : (compile mockSym hooks p).run 0 = .ok ((ops, nargs), c')) (hfit : CodeFits ops)
    (hcompX : compileX86 p hooks 0 = .ok (body, nargs)) (hrout : intoRoutine body nargs = .ok routine)
    (hnd : (labs routine).Nodup)
    (hd : p.defs.head? = some d0) (hentry : ∀ b ∈ d0.ctx, b.chi = .ext ∧ b.ty = .i64)
    (hcap : ∀ st, Reachable p ⟨d0.ctx, args.map .int, d0.body⟩ st → 2 * st.ctx.length ≤ 266)
    (fuel : Nat) (out : List (Bool × Word)) (v : Word) (hfuel : fuel + 1 < 2 ^ 64)
    (hrun : Pos.run p args fuel = ⟨out, .done v⟩)
    (cfg : MonCfg) (MO : MachOK cfg.mach) (hk : cfg.consts = consts) (hheap : cfg.heap = false)
    (hb8 : cfg.mach.heapBase % 8 = 0) (hb0 : 0 < cfg.mach.heapBase)
    (Pk : Nat) (hbytes : 64 * (Pk + progMaxLet p + 2) ≤ cfg.mach.heapBytes)
    (items : List (Code × Nat)) (hitems : (items.map (·.1)).map stripC = routine.map stripC)
    (hfitX : addrAt cfg.mach.codeBase routine routine.length < 2 ^ 64)
    (hP : PeakAtMost p hooks routine ops cfg items args Pk (progMaxLet p * fuel + 1)) :
    ∃ fuel', (runItems items args fuel' cfg).out = out ∧ (runItems items args fuel' cfg).res = .done v ∧
      (runItems items args fuel' cfg).maxHeapWritten ≤ cfg.mach.heapBytes :=
  data_programs_peak_items p args hooks body routine nargs d0 ops c' hsafe htp
    ⟨hrange.1, fun d hd => ⟨hdata d hd, hrange.2 d hd⟩⟩ hcompM hfit hcompX hrout hnd hd hentry hcap fuel out v
    hfuel hrun cfg MO hk hheap hb8 hb0 Pk (progMaxLet p) (letLe_progMaxLet p) hbytes items hitems hfitX hP

/-- C10, THE FOOTPRINT ON THE MACHINE: let at no statement boundary of the run in a heap of `64·(Pk + A + 2)`
bytes more than `Pk` blocks be in use.  Then in ANY heap at least that large the run reproduces the trace and
the result of the positional machine, and the highest heap address ever written lies at most `Pk + A + 2`
blocks above the heap base — independent of the length of the run (`fuel`) and of the size of the heap. -/
theorem C10_x86_footprint (p : AxCut.Prog) (args : List Word) (hooks : Bool) (body routine : List Code)
    (nargs : Nat) (d0 : Def) (ops : List MockOp) (c' : Nat)
    (hsafe : LabelSafe p = true) (htp : LinTypedProg p) (hdata : DataProg p) (hrange : ProgInRange p)
    (hcompM : (compile mockSym hooks p).run 0 = .ok ((ops, nargs), c')) (hfit : CodeFits ops)
    (hcompX : compileX86 p hooks 0 = .ok (body, nargs)) (hrout : intoRoutine body nargs = .ok routine)
    (hnd : (labs routine).Nodup)
    (hd : p.defs.head? = some d0) (hentry : ∀ b ∈ d0.ctx, b.chi = .ext ∧ b.ty = .i64)
    (hcap : ∀ st, Reachable p ⟨d0.ctx, args.map .int, d0.body⟩ st → 2 * st.ctx.length ≤ 266)
    (fuel : Nat) (out : List (Bool × Word)) (v : Word) (hfuel : fuel + 1 < 2 ^ 64)
    (hrun : Pos.run p args fuel = ⟨out, .done v⟩)
    (cfg : MonCfg) (MO : MachOK cfg.mach) (hk : cfg.consts = consts) (hheap : cfg.heap = false)
    (hb8 : cfg.mach.heapBase % 8 = 0) (hb0 : 0 < cfg.mach.heapBase)
    (Pk : Nat) (hbytes : 64 * (Pk + progMaxLet p + 2) ≤ cfg.mach.heapBytes)
    (items : List (Code × Nat)) (hitems : (items.map (·.1)).map stripC = routine.map stripC)
    (hfitX : addrAt cfg.mach.codeBase routine routine.length < 2 ^ 64)
    (hP : PeakAtMost p hooks routine ops (withHeapBytes cfg (64 * (Pk + progMaxLet p + 2))) items args Pk (progMaxLet p * fuel + 1)) :
    ∃ fuel', (runItems items args fuel' cfg).out = out ∧ (runItems items args fuel' cfg).res = .done v ∧
      (runItems items args fuel' cfg).maxHeapWritten ≤ 64 * (Pk + progMaxLet p + 2) := by
  obtain ⟨fuel', h1, h2, h3⟩ := C10_x86_data_programs p args hooks body routine nargs d0 ops c' hsafe htp hdata
    hrange hcompM hfit hcompX hrout hnd hd hentry hcap fuel out v hfuel hrun
    (withHeapBytes cfg (64 * (Pk + progMaxLet p + 2))) (machOK_withHeapBytes MO hbytes) hk hheap hb8 hb0 Pk (Nat.le_refl _)
    items hitems hfitX hP
  have e := runItems_larger_heap (sub_withHeapBytes MO hbytes) hheap hheap items args fuel' v h2
  exact ⟨fuel', by rw [e]; exact h1, by rw [e]; exact h2, by rw [e]; exact h3⟩

/-- C10, THE FOOTPRINT, ON THE TEXT OF THE ROUTINE: the machine's entry point `run` on the printed routine
(parsed by the machine's own parser: `C14_routine_loads`, for text-safe names) reproduces trace and result and
never writes above `Pk + A + 2` blocks of its heap -/
theorem C10_x86_footprint_loaded (p : AxCut.Prog) (args : List Word) (hooks : Bool) (body routine : List Code)
    (nargs : Nat) (d0 : Def) (ops : List MockOp) (c' : Nat)
    (hsafe : LabelSafe p = true) (htp : LinTypedProg p) (hdata : DataProg p) (hrange : ProgInRange p)
    (hnames : C14_namesTextSafe p = true)
    (hcompM : (compile mockSym hooks p).run 0 = .ok ((ops, nargs), c')) (hfit : CodeFits ops)
    (hcompX : compileX86 p hooks 0 = .ok (body, nargs)) (hrout : intoRoutine body nargs = .ok routine)
    (hnd : (labs routine).Nodup)
    (hd : p.defs.head? = some d0) (hentry : ∀ b ∈ d0.ctx, b.chi = .ext ∧ b.ty = .i64)
    (hcap : ∀ st, Reachable p ⟨d0.ctx, args.map .int, d0.body⟩ st → 2 * st.ctx.length ≤ 266)
    (fuel : Nat) (out : List (Bool × Word)) (v : Word) (hfuel : fuel + 1 < 2 ^ 64)
    (hrun : Pos.run p args fuel = ⟨out, .done v⟩)
    (cfg : MonCfg) (MO : MachOK cfg.mach) (hk : cfg.consts = consts) (hheap : cfg.heap = false)
    (hb8 : cfg.mach.heapBase % 8 = 0) (hb0 : 0 < cfg.mach.heapBase)
    (Pk : Nat) (hbytes : 64 * (Pk + progMaxLet p + 2) ≤ cfg.mach.heapBytes)
    (hfitX : addrAt cfg.mach.codeBase routine routine.length < 2 ^ 64)
    (hP : ∀ items, parseText (printProg routine) = .ok items →
      PeakAtMost p hooks routine ops (withHeapBytes cfg (64 * (Pk + progMaxLet p + 2))) items args Pk
        (progMaxLet p * fuel + 1)) :
    ∃ fuel', (run (printProg routine) args fuel' cfg).out = out ∧
      (run (printProg routine) args fuel' cfg).res = .done v ∧
      (run (printProg routine) args fuel' cfg).maxHeapWritten ≤ 64 * (Pk + progMaxLet p + 2) := by
  obtain ⟨items, hparse, hitems⟩ := C14_routine_loads hrange hnames hcompX hrout
  obtain ⟨fuel', h1, h2, h3⟩ := C10_x86_footprint p args hooks body routine nargs d0 ops c' hsafe htp hdata hrange
    hcompM hfit hcompX hrout hnd hd hentry hcap fuel out v hfuel hrun cfg MO hk hheap hb8 hb0 Pk hbytes items hitems
    hfitX (hP items hparse)
  exact ⟨fuel', by rw [run_eq_runItems hparse]; exact h1, by rw [run_eq_runItems hparse]; exact h2,
    by rw [run_eq_runItems hparse]; exact h3⟩

/-- a run of the positional machine that has ended (not `outOfFuel`) gives the same behaviour with more fuel -/
theorem C10_runState_mono (prog : AxCut.Prog) : ∀ (fuel : Nat) (st : Pos.State) (acc : List (Bool × Word)),
    (Pos.runState prog fuel st acc).res ≠ .outOfFuel →
    ∀ k, Pos.runState prog (fuel + k) st acc = Pos.runState prog fuel st acc
  | 0, _, _, h, _ => by simp [Pos.runState] at h
  | fuel + 1, st, acc, h, k => by
    rw [show fuel + 1 + k = (fuel + k) + 1 by omega]
    simp only [Pos.runState] at h ⊢
    cases hst : Pos.step prog st with
    | stuck w => rfl
    | done v' => rfl
    | next st' o =>
      rw [hst] at h
      simp only
      exact C10_runState_mono prog fuel st' _ h k

theorem C10_run_mono (p : AxCut.Prog) (args : List Word) (f : Nat) (h : (Pos.run p args f).res ≠ .outOfFuel)
    (k : Nat) : Pos.run p args (f + k) = Pos.run p args f := by
  unfold Pos.run at h ⊢
  cases hdefs : p.defs with
  | nil => rfl
  | cons d ds =>
    rw [hdefs] at h
    simp only at h ⊢
    split
    · rfl
    · rename_i hl
      rw [if_neg hl] at h
      exact C10_runState_mono p f _ [] h k

/-- a run that ends with `done v` for some fuel never gets stuck, and `v` is its only result -/
theorem C10_done_unique {p : AxCut.Prog} {args : List Word} {f0 : Nat} {out0 : List (Bool × Word)} {v0 : Word}
    (h0 : Pos.run p args f0 = ⟨out0, .done v0⟩) :
    (∀ f w, (Pos.run p args f).res ≠ .stuck w) ∧
    (∀ f out v, Pos.run p args f = ⟨out, .done v⟩ → v = v0) := by
  have key : ∀ f, (Pos.run p args f).res ≠ .outOfFuel → Pos.run p args f = Pos.run p args f0 := by
    intro f hne
    have h1 := C10_run_mono p args f hne f0
    have h2 := C10_run_mono p args f0 (by rw [h0]; intro e; cases e) f
    rw [Nat.add_comm] at h2
    rw [← h1, h2]
  constructor
  · intro f w h
    have := key f (by rw [h]; intro e; cases e)
    rw [this, h0] at h
    cases h
  · intro f out v h
    have := key f (by rw [h]; intro e; cases e)
    rw [h, h0] at this
    injection this with _ e
    injection e

/-- C10, ALL RUNS, IN TERMS OF THE DATA OF THE POSITIONAL MACHINE: if the object values held by the variables
never have more than `D` fields in total (over all reachable states of the AxCut positional machine), then in
any heap of at least `64·(D + A + 2)` bytes (`A = progMaxLet p`) the machine, for every amount of fuel (below
`2^64 / (M + 1)`, `M = progMaxSize p`), is still running or has returned the result of the positional machine,
and has never written above `D + A + 2` blocks of its heap — whatever the length of the run.  (The positional
machine must not get stuck: no division by zero / overflow.) -/
theorem C10_x86_data_size (p : AxCut.Prog) (args : List Word) (hooks : Bool) (body routine : List Code)
    (nargs : Nat) (d0 : Def) (ops : List MockOp) (c' : Nat)
    (hsafe : LabelSafe p = true) (htp : LinTypedProg p) (hdata : DataProg p) (hrange : ProgInRange p)
    (hcompM : (compile mockSym hooks p).run 0 = .ok ((ops, nargs), c')) (hfit : CodeFits ops)
    (hcompX : compileX86 p hooks 0 = .ok (body, nargs)) (hrout : intoRoutine body nargs = .ok routine)
    (hnd : (labs routine).Nodup)
    (hd : p.defs.head? = some d0) (hentry : ∀ b ∈ d0.ctx, b.chi = .ext ∧ b.ty = .i64)
    (hlen : d0.ctx.length = args.length)
    (hcap : ∀ st, Reachable p ⟨d0.ctx, args.map .int, d0.body⟩ st → 2 * st.ctx.length ≤ 266)
    (hnostuck : ∀ fuel w, (Pos.run p args fuel).res ≠ .stuck w)
    (D : Nat) (hD : ∀ st, Reachable p ⟨d0.ctx, args.map .int, d0.body⟩ st → valsFields st.env ≤ D)
    (cfg : MonCfg) (MO : MachOK cfg.mach) (hheap : cfg.heap = false)
    (hb8 : cfg.mach.heapBase % 8 = 0) (hb0 : 0 < cfg.mach.heapBase)
    (hbytes : 64 * (D + progMaxLet p + 2) ≤ cfg.mach.heapBytes)
    (items : List (Code × Nat)) (hitems : (items.map (·.1)).map stripC = routine.map stripC)
    (hfitX : addrAt cfg.mach.codeBase routine routine.length < 2 ^ 64)
    (fuel' : Nat) (hf : fuel' * (progMaxSize p + 1) + stmtSize d0.body + 1 < 2 ^ 64) :
    ((runItems items args fuel' cfg).res = .outOfFuel ∨
      ∃ v out, Pos.run p args (fuel' * (progMaxSize p + 1) + stmtSize d0.body) = ⟨out, .done v⟩ ∧
        (runItems items args fuel' cfg).res = .done v) ∧
    (runItems items args fuel' cfg).maxHeapWritten ≤ 64 * (D + progMaxLet p + 2) :=
  data_programs_dsize_all p args hooks body routine nargs d0 ops c' hsafe htp
    ⟨hrange.1, fun d hd => ⟨hdata d hd, hrange.2 d hd⟩⟩ hcompM hfit hcompX hrout hnd hd hentry hlen hcap hnostuck
    D hD cfg MO hheap hb8 hb0 (progMaxLet p) (progMaxSize p) (letLe_progMaxLet p) (stmtSize_le_progMaxSize p)
    hbytes items hitems hfitX fuel' hf

/-- … on the TEXT of the routine (`run (printProg routine)`, the machine's own parser: `C14_routine_loads`) -/
theorem C10_x86_data_size_loaded (p : AxCut.Prog) (args : List Word) (hooks : Bool) (body routine : List Code)
    (nargs : Nat) (d0 : Def) (ops : List MockOp) (c' : Nat)
    (hsafe : LabelSafe p = true) (htp : LinTypedProg p) (hdata : DataProg p) (hrange : ProgInRange p)
    (hnames : C14_namesTextSafe p = true)
    (hcompM : (compile mockSym hooks p).run 0 = .ok ((ops, nargs), c')) (hfit : CodeFits ops)
    (hcompX : compileX86 p hooks 0 = .ok (body, nargs)) (hrout : intoRoutine body nargs = .ok routine)
    (hnd : (labs routine).Nodup)
    (hd : p.defs.head? = some d0) (hentry : ∀ b ∈ d0.ctx, b.chi = .ext ∧ b.ty = .i64)
    (hlen : d0.ctx.length = args.length)
    (hcap : ∀ st, Reachable p ⟨d0.ctx, args.map .int, d0.body⟩ st → 2 * st.ctx.length ≤ 266)
    (hnostuck : ∀ fuel w, (Pos.run p args fuel).res ≠ .stuck w)
    (D : Nat) (hD : ∀ st, Reachable p ⟨d0.ctx, args.map .int, d0.body⟩ st → valsFields st.env ≤ D)
    (cfg : MonCfg) (MO : MachOK cfg.mach) (hheap : cfg.heap = false)
    (hb8 : cfg.mach.heapBase % 8 = 0) (hb0 : 0 < cfg.mach.heapBase)
    (hbytes : 64 * (D + progMaxLet p + 2) ≤ cfg.mach.heapBytes)
    (hfitX : addrAt cfg.mach.codeBase routine routine.length < 2 ^ 64)
    (fuel' : Nat) (hf : fuel' * (progMaxSize p + 1) + stmtSize d0.body + 1 < 2 ^ 64) :
    ((run (printProg routine) args fuel' cfg).res = .outOfFuel ∨
      ∃ v, (run (printProg routine) args fuel' cfg).res = .done v) ∧
    (run (printProg routine) args fuel' cfg).maxHeapWritten ≤ 64 * (D + progMaxLet p + 2) := by
  obtain ⟨items, hparse, hitems⟩ := C14_routine_loads hrange hnames hcompX hrout
  rw [run_eq_runItems hparse]
  obtain ⟨h1, h2⟩ := C10_x86_data_size p args hooks body routine nargs d0 ops c' hsafe htp hdata hrange hcompM hfit
    hcompX hrout hnd hd hentry hlen hcap hnostuck D hD cfg MO hheap hb8 hb0 hbytes items hitems hfitX fuel' hf
  refine ⟨?_, h2⟩
  rcases h1 with h | ⟨v, _, _, h⟩
  · exact Or.inl h
  · exact Or.inr ⟨v, h⟩

/-- THE BOX LOOP RUNS FOREVER IN FOUR BLOCKS: `main(x) { let b = B(x); switch b { B(y) => main(y) } }`, started
with x = 21 in the default configuration (a 32 MiB heap): for EVERY fuel below 2^60 the machine is still running
(`outOfFuel`: it never faults and never returns) and the highest heap address it has written lies at most 256
bytes above the heap base — space independent of the number of repetitions. -/
theorem C10_boxLoop_constant_space (fuel' : Nat) (hf : fuel' < 2 ^ 60) :
    (runItems (C13_loopBoxRoutine.map fun c => (c, 0)) [21] fuel' {}).res = .outOfFuel ∧
    (runItems (C13_loopBoxRoutine.map fun c => (c, 0)) [21] fuel' {}).maxHeapWritten ≤ 256 := by
  obtain ⟨⟨c', hcompM⟩, hcompX, hrout⟩ := C13_loopBoxProg_compiles
  obtain ⟨e1, e2, e3⟩ := C13_loopBox_consts
  have key := C10_x86_data_size C13_loopBoxProg [21] true C13_loopBoxBody C13_loopBoxRoutine 1
    C13_loopBoxMain C13_loopBoxOps c'
    C13_loopBoxProg_labelSafe C13_loopBoxProg_typed C13_loopBoxProg_data C13_loopBoxProg_inRange hcompM
    C13_loopBoxOps_fits hcompX hrout C13_loopBoxRoutine_nodup rfl C13_loopBoxMain_entry rfl
    C13_loop_capacity C13_loop_nostuck 1 C13_loop_dataSize
    {} machOK_default rfl (by decide) (by decide) (by rw [e1]; decide)
    (C13_loopBoxRoutine.map fun c => (c, 0)) (by simp [List.map_map, Function.comp]) C13_loopBoxRoutine_fits
    fuel' (by rw [e2, e3]; omega)
  rw [e1] at key
  refine ⟨?_, key.2⟩
  rcases key.1 with h | ⟨v, out, hdone, _⟩
  · exact h
  · exfalso
    have hrs : Pos.run C13_loopBoxProg [21] (fuel' * (progMaxSize C13_loopBoxProg + 1) + stmtSize C13_loopBoxMain.body) =
        Pos.runState C13_loopBoxProg _ C13_loopS0 [] := run_eq_runState rfl rfl _
    have := (C13_loop_runs (fuel' * (progMaxSize C13_loopBoxProg + 1) + stmtSize C13_loopBoxMain.body) []).1
    rw [← hrs, hdone] at this
    cases this

/-- the bound on the data of all reachable states, checked on the finitely many states of a terminating run
(an executable form of the hypothesis `hD` of `C10_x86_data_size`) -/
theorem C10_dataSize_of_run (prog : AxCut.Prog) (fuel : Nat) (st0 : Pos.State) (D : Nat)
    (hstop : Scc.Props.C06Generic.stopsWithin prog fuel st0 = true)
    (hall : (Scc.Props.C06Generic.statesOf prog fuel st0).all (fun st => decide (valsFields st.env ≤ D)) = true) :
    ∀ st, Reachable prog st0 st → valsFields st.env ≤ D := by
  intro st hr
  have := Scc.Props.C06Generic.reachable_mem_statesOf prog fuel st0 st hstop hr
  rw [List.all_eq_true] at hall
  simpa using hall st this

theorem C10_boxProg_consts : progMaxLet C06_boxProg = 1 ∧ progMaxSize C06_boxProg = 10 ∧
    stmtSize C06_boxMain.body = 10 := by decide

/-- THE BOX PROGRAM OF C06X86Heap (terminating: allocate, share, load shared, load unique, print) in the default
configuration: for EVERY fuel below 2^58 the machine is still running or has returned 42, and it never writes
above 320 bytes of its heap (`D = 2`: at no state do the variables hold more than two fields of object data —
the box shared by two variables) -/
theorem C10_boxProg_footprint (fuel' : Nat) (hf : fuel' < 2 ^ 58) :
    ((runItems (C06_boxRoutine.map fun c => (c, 0)) [21] fuel' {}).res = .outOfFuel ∨
      (runItems (C06_boxRoutine.map fun c => (c, 0)) [21] fuel' {}).res = .done 42) ∧
    (runItems (C06_boxRoutine.map fun c => (c, 0)) [21] fuel' {}).maxHeapWritten ≤ 320 := by
  obtain ⟨⟨c', hcompM⟩, hcompX, hrout⟩ := C06_boxProg_compiles
  have hrun := C06_boxProg_run
  obtain ⟨e1, e2, e3⟩ := C10_boxProg_consts
  obtain ⟨hnostuck, huniq⟩ := C10_done_unique hrun
  have key := C10_x86_data_size C06_boxProg [21] true C06_boxBody C06_boxRoutine 1 C06_boxMain C06_boxOps c'
    C06_boxProg_labelSafe C06_boxProg_typed C06_boxProg_data C06_boxProg_inRange hcompM
    C06_boxOps_fits hcompX hrout C06_boxRoutine_nodup rfl C06_boxMain_entry rfl
    C06_boxProg_capacity hnostuck 2
    (C10_dataSize_of_run C06_boxProg 20 _ 2 (by decide) (by decide))
    {} machOK_default rfl (by decide) (by decide) (by rw [e1]; decide)
    (C06_boxRoutine.map fun c => (c, 0)) (by simp [List.map_map, Function.comp]) C06_boxRoutine_fits
    fuel' (by rw [e2, e3]; omega)
  rw [e1] at key
  refine ⟨?_, key.2⟩
  rcases key.1 with h | ⟨v, out, hdone, h⟩
  · exact Or.inl h
  · right
    rw [huniq _ out v hdone] at h
    exact h

/-- with `Pk = A·fuel + 1` the peak hypothesis is trivial: the coarse room hypothesis of
`C06_data_programs`, as a corollary of the footprint theorem -/
theorem C10_x86_coarse (p : AxCut.Prog) (args : List Word) (hooks : Bool) (body routine : List Code)
    (nargs : Nat) (d0 : Def) (ops : List MockOp) (c' : Nat)
    (hsafe : LabelSafe p = true) (htp : LinTypedProg p) (hdata : DataProg p) (hrange : ProgInRange p)
    (hcompM : (compile mockSym hooks p).run 0 = .ok ((ops, nargs), c')) (hfit : CodeFits ops)
    (hcompX : compileX86 p hooks 0 = .ok (body, nargs)) (hrout : intoRoutine body nargs = .ok routine)
    (hnd : (labs routine).Nodup)
    (hd : p.defs.head? = some d0) (hentry : ∀ b ∈ d0.ctx, b.chi = .ext ∧ b.ty = .i64)
    (hcap : ∀ st, Reachable p ⟨d0.ctx, args.map .int, d0.body⟩ st → 2 * st.ctx.length ≤ 266)
    (fuel : Nat) (out : List (Bool × Word)) (v : Word) (hfuel : fuel + 1 < 2 ^ 64)
    (hrun : Pos.run p args fuel = ⟨out, .done v⟩)
    (cfg : MonCfg) (MO : MachOK cfg.mach) (hk : cfg.consts = consts) (hheap : cfg.heap = false)
    (hb8 : cfg.mach.heapBase % 8 = 0) (hb0 : 0 < cfg.mach.heapBase)
    (hbytes : 64 * (progMaxLet p * fuel + 1 + progMaxLet p + 2) ≤ cfg.mach.heapBytes)
    (items : List (Code × Nat)) (hitems : (items.map (·.1)).map stripC = routine.map stripC)
    (hfitX : addrAt cfg.mach.codeBase routine routine.length < 2 ^ 64) :
    ∃ fuel', (runItems items args fuel' cfg).out = out ∧ (runItems items args fuel' cfg).res = .done v ∧
      (runItems items args fuel' cfg).maxHeapWritten ≤ 64 * (progMaxLet p * fuel + 1 + progMaxLet p + 2) :=
  C10_x86_footprint p args hooks body routine nargs d0 ops c' hsafe htp hdata hrange hcompM hfit hcompX hrout hnd
    hd hentry hcap fuel out v hfuel hrun cfg MO hk hheap hb8 hb0 (progMaxLet p * fuel + 1) hbytes items hitems hfitX
    (C10_peak_trivial _ _ _ _ _ _ _ _)

theorem C10_boxProg_maxLet : progMaxLet C06_boxProg = 1 := by decide

/-- every hypothesis of `C10_x86_footprint` holds for the box program started with x = 21 (one field per
`let`, with the trivial peak `1·20 + 1`): the machine prints 42, returns 42, and never writes above 64·24
bytes of its heap -/
example : ∃ fuel',
    (runItems (C06_boxRoutine.map fun c => (c, 0)) [21] fuel' {}).out = [(true, 42)] ∧
    (runItems (C06_boxRoutine.map fun c => (c, 0)) [21] fuel' {}).res = .done 42 ∧
    (runItems (C06_boxRoutine.map fun c => (c, 0)) [21] fuel' {}).maxHeapWritten ≤ 64 * (1 * 20 + 1 + 1 + 2) := by
  obtain ⟨⟨c', hcompM⟩, hcompX, hrout⟩ := C06_boxProg_compiles
  have hrun := C06_boxProg_run
  exact C10_x86_footprint C06_boxProg [21] true C06_boxBody C06_boxRoutine 1 C06_boxMain C06_boxOps c'
    C06_boxProg_labelSafe C06_boxProg_typed C06_boxProg_data C06_boxProg_inRange hcompM
    C06_boxOps_fits hcompX hrout C06_boxRoutine_nodup rfl C06_boxMain_entry
    C06_boxProg_capacity 20 _ _ (by decide) hrun {}
    machOK_default rfl rfl (by decide) (by decide) (1 * 20 + 1) (by decide)
    (C06_boxRoutine.map fun c => (c, 0)) (by simp [List.map_map, Function.comp]) C06_boxRoutine_fits
    (C10_peak_trivial _ _ _ _ _ _ _ _)

end Scc.X86

#print axioms Scc.X86.C10_peak_trivial
#print axioms Scc.X86.C10_mhw_in_heap
#print axioms Scc.X86.C10_larger_heap
#print axioms Scc.X86.C10_x86_frontier_bound
#print axioms Scc.X86.C10_x86_every_prefix
#print axioms Scc.X86.C10_x86_data_programs
#print axioms Scc.X86.C10_x86_footprint
#print axioms Scc.X86.C10_x86_footprint_loaded
#print axioms Scc.X86.C10_x86_data_size
#print axioms Scc.X86.C10_x86_data_size_loaded
#print axioms Scc.X86.C10_boxLoop_constant_space
#print axioms Scc.X86.C10_boxProg_footprint
#print axioms Scc.X86.C10_x86_coarse

#print axioms Scc.X86.C10_runState_mono
#print axioms Scc.X86.C10_run_mono
#print axioms Scc.X86.C10_done_unique
#print axioms Scc.X86.C10_dataSize_of_run
#print axioms Scc.X86.C10_boxProg_consts
#print axioms Scc.X86.C10_boxProg_maxLet
