/-
  Scc.Props.Tables — the hand-written Lean models ARE the tables of the current sources.

  `Scc/Generated/Tables.lean` is rewritten by the translator (checks/regen.py, generator `tables`) from the
  Rust text of /repo on every run: translations of enum variants (match arms), the dispatch of the generic
  code generator to the methods of `Instructions`, every instruction-pushing function of the three backends as
  a decision table (conditions ↦ constructors pushed / helpers called, in source order), the constants of the
  three config.rs, the parameter moves and register saves of into_routine.rs, the capacity assertions of utils.rs.

  Each theorem below evaluates the MODEL's executable definitions on all constructors / on representative
  operands and states equality with what the generated tables say (`by decide +kernel`: kernel evaluation, no test
  input).  A changed entry in /repo changes the generated file and the theorem stops compiling.

  What is compared for instruction sequences is the sequence of constructor NAMES (not the operands): operand
  mistakes are the business of the differential checks.  `Scc.Tables.run` is a small interpreter of decision
  tables: helper calls are expanded with the callee's table, a parameter that is matched on must have a known
  class (`Register`/`Spill`) — anything it cannot resolve makes it return `none`, which fails the theorem.
-/
import Scc.Generated.Tables
import Scc.Fun2Core.Model
import Scc.Core2AxCut.Model
import Scc.X86.Backend
import Scc.A64.Backend
import Scc.RV.Backend
import Scc.PMoves.Model

namespace Scc.Tables
open Scc.Generated

def funSort : Scc.Fun.IfSort → String
  | .eq => "Equal" | .ne => "NotEqual" | .lt => "Less" | .le => "LessOrEqual" | .gt => "Greater" | .ge => "GreaterOrEqual"
def coreSort : Scc.Core.IfSort → String
  | .eq => "Equal" | .ne => "NotEqual" | .lt => "Less" | .le => "LessOrEqual" | .gt => "Greater" | .ge => "GreaterOrEqual"
def axSort : Scc.AxCut.IfSort → String
  | .eq => "Equal" | .ne => "NotEqual" | .lt => "Less" | .le => "LessOrEqual" | .gt => "Greater" | .ge => "GreaterOrEqual"
def funOp : Scc.Fun.BinOp → String
  | .div => "Div" | .prod => "Prod" | .rem => "Rem" | .sum => "Sum" | .sub => "Sub"
def coreOp : Scc.Core.BinOp → String
  | .div => "Div" | .prod => "Prod" | .rem => "Rem" | .sum => "Sum" | .sub => "Sub"
def axOp : Scc.AxCut.BinOp → String
  | .div => "Div" | .prod => "Prod" | .rem => "Rem" | .sum => "Sum" | .sub => "Sub"

def funSorts : List Scc.Fun.IfSort := [.eq, .ne, .lt, .le, .gt, .ge]
def coreSorts : List Scc.Core.IfSort := [.eq, .ne, .lt, .le, .gt, .ge]
def axSorts : List Scc.AxCut.IfSort := [.eq, .ne, .lt, .le, .gt, .ge]
def funOps : List Scc.Fun.BinOp := [.div, .prod, .rem, .sum, .sub]
def coreOps : List Scc.Core.BinOp := [.div, .prod, .rem, .sum, .sub]
def axOps : List Scc.AxCut.BinOp := [.div, .prod, .rem, .sum, .sub]

def x86Ctor : Scc.X86.Code → String
  | .ADD .. => "ADD" | .ADDRM .. => "ADDRM" | .ADDMR .. => "ADDMR" | .ADDI .. => "ADDI" | .ADDIM .. => "ADDIM"
  | .SUB .. => "SUB" | .SUBRM .. => "SUBRM" | .SUBMR .. => "SUBMR" | .SUBI .. => "SUBI" | .IMUL .. => "IMUL"
  | .IMULRM .. => "IMULRM" | .IMULMR .. => "IMULMR" | .IDIV .. => "IDIV" | .IDIVM .. => "IDIVM" | .CQO => "CQO"
  | .JMP .. => "JMP" | .JMPL .. => "JMPL" | .JMPLN .. => "JMPLN" | .LEAL .. => "LEAL" | .MOV .. => "MOV"
  | .MOVS .. => "MOVS" | .MOVL .. => "MOVL" | .MOVI .. => "MOVI" | .MOVIM .. => "MOVIM" | .CMP .. => "CMP"
  | .CMPRM .. => "CMPRM" | .CMPMR .. => "CMPMR" | .CMPI .. => "CMPI" | .CMPIM .. => "CMPIM" | .JEL .. => "JEL"
  | .JNEL .. => "JNEL" | .JLL .. => "JLL" | .JLEL .. => "JLEL" | .JGL .. => "JGL" | .JGEL .. => "JGEL"
  | .PUSH .. => "PUSH" | .POP .. => "POP" | .CALL .. => "CALL" | .RET => "RET" | .LAB .. => "LAB"
  | .NOEXECSTACK => "NOEXECSTACK" | .TEXT => "TEXT" | .GLOBAL .. => "GLOBAL" | .EXTERN .. => "EXTERN"
  | .COMMENT .. => "COMMENT"
def a64Ctor : Scc.A64.Code → String
  | .ADD .. => "ADD" | .ADDI .. => "ADDI" | .SUB .. => "SUB" | .SUBI .. => "SUBI" | .MUL .. => "MUL"
  | .SDIV .. => "SDIV" | .MSUB .. => "MSUB" | .B .. => "B" | .BR .. => "BR" | .BL .. => "BL" | .ADR .. => "ADR"
  | .MOVR .. => "MOVR" | .MOVZ .. => "MOVZ" | .MOVN .. => "MOVN" | .MOVK .. => "MOVK" | .LDR .. => "LDR"
  | .LDP_POST_INDEX .. => "LDP_POST_INDEX" | .STR .. => "STR" | .STP_PRE_INDEX .. => "STP_PRE_INDEX"
  | .CMPR .. => "CMPR" | .CMPI .. => "CMPI" | .BEQ .. => "BEQ" | .BNE .. => "BNE" | .BLT .. => "BLT"
  | .BLE .. => "BLE" | .BGT .. => "BGT" | .BGE .. => "BGE" | .RET => "RET" | .LAB .. => "LAB" | .TEXT => "TEXT"
  | .GLOBAL .. => "GLOBAL" | .COMMENT .. => "COMMENT"
def rvCtor : Scc.RV.Code → String
  | .ADD .. => "ADD" | .ADDI .. => "ADDI" | .SUB .. => "SUB" | .MUL .. => "MUL" | .DIV .. => "DIV" | .REM .. => "REM"
  | .JAL .. => "JAL" | .JALR .. => "JALR" | .LA .. => "LA" | .LI .. => "LI" | .MV .. => "MV" | .LW .. => "LW"
  | .SW .. => "SW" | .BEQ .. => "BEQ" | .BNE .. => "BNE" | .BLT .. => "BLT" | .BLE .. => "BLE" | .BGT .. => "BGT"
  | .BGE .. => "BGE" | .LAB .. => "LAB" | .COMMENT .. => "COMMENT"

/-- values of local names: the class of a temporary (`Register` / `Spill`), a literal, or a function name -/
abbrev Env := List (String × String)

/-- an unbound local name stands for itself (this is how function names travel as arguments) -/
def argVal (env : Env) : Arg → Option String
  | .var x => some ((env.lookup x).getD x)
  | .lit t => some t
  | .other _ => none

def condHolds (env : Env) (tests : List (String × Bool)) : Cond → Option Bool
  | .is x v => (env.lookup x).map (· == v)
  | .test k b => (tests.lookup k).map (· == b)

def pathHolds (env : Env) (tests : List (String × Bool)) : List Cond → Option Bool
  | [] => some true
  | c :: cs =>
    match condHolds env tests c with
    | some true => pathHolds env tests cs
    | r => r

/-- first-match; a condition whose truth is not given is an error, not `false` -/
def pick (env : Env) (tests : List (String × Bool)) : List Path → Option Path
  | [] => none
  | p :: ps =>
    match pathHolds env tests p.conds with
    | some true => some p
    | some false => pick env tests ps
    | none => none

def bindParams (env : Env) : List String → List Arg → Env
  | p :: ps, a :: as =>
    match argVal env a with
    | some v => (p, v) :: bindParams env ps as
    | none => bindParams env ps as
  | _, _ => []

/-- the constructor names pushed by function `f` of the table `fns` in environment `env`, where `tests` gives the
truth values of the `if` conditions met (key `function:condition text`) -/
def run (fns : List Fn) (tests : List (String × Bool)) : Nat → String → Env → Option (List String)
  | 0, _, _ => none
  | fuel + 1, f, env =>
    match fns.find? (fun fn => fn.name == f) with
    | none => none
    | some fn =>
      match pick env tests fn.paths with
      | none => none
      | some p =>
        p.evs.foldl (fun acc ev =>
          match acc, ev with
          | none, _ => none
          | some out, .push c => some (out ++ [c])
          | some out, .panic => some (out ++ ["panic!"])
          | some out, .call g args =>
            let g' := (env.lookup g).getD g
            match fns.find? (fun fn => fn.name == g') with
            | none => none
            | some callee =>
              match run fns tests fuel g' (bindParams env callee.params args) with
              | none => none
              | some r => some (out ++ r)) (some [])

/-- a method applied to operands of the given classes (positional) -/
def runTop (fns : List Fn) (tests : List (String × Bool)) (f : String) (classes : List String) : Option (List String) :=
  match fns.find? (fun fn => fn.name == f) with
  | none => none
  | some fn => run fns tests 8 f (fn.params.zip classes)

def cls (isReg : Bool) : String := if isReg then "Register" else "Spill"
def bools : List Bool := [true, false]

/-- `op` and `bound` of an `assert!` / `if` as a test on numbers, the bound looked up in a constants table -/
def cmpOp : String → Option (Nat → Nat → Bool)
  | "<" => some fun a b => decide (a < b)
  | "<=" => some fun a b => decide (a ≤ b)
  | ">" => some fun a b => decide (a > b)
  | ">=" => some fun a b => decide (a ≥ b)
  | "==" => some fun a b => a == b
  | "!=" => some fun a b => a != b
  | _ => none

def boundTest (cfg : List (String × Nat)) (b : Bound) : Option (Nat → Bool) :=
  match cmpOp b.op, cfg.lookup b.bound with
  | some f, some k => some fun a => f a k
  | _, _ => none

/-- utils.rs `temporary_from_position` (x86-64, AArch64) as the SOURCE has it: `inr (isRegister, number)` or `inl` the panic message -/
def srcTemporaryFromPosition (cfg : List (String × Nat)) (regTest capacity : Bound) (position : Nat) :
    Option (String ⊕ (Bool × Nat)) :=
  match cfg.lookup "RESERVED", cfg.lookup "REGISTER_NUM", cfg.lookup "RESERVED_SPILLS",
        boundTest cfg regTest, boundTest cfg capacity with
  | some reserved, some registerNum, some reservedSpills, some isReg, some fits =>
    if regTest.lhs == "register_number" && capacity.lhs == "spill_number" then
      let registerNumber := position + reserved
      if isReg registerNumber then some (.inr (true, registerNumber))
      else
        let spillNumber := registerNumber - registerNum + reservedSpills
        if fits spillNumber then some (.inr (false, spillNumber)) else some (.inl capacity.msg)
    else none
  | _, _, _, _, _ => none

/-- utils.rs (RV64) `variable_temporary` / `fresh_temporary` as the source has it -/
def srcRvRegister (cfg : List (String × Nat)) (capacity : Bound) (number position : Nat) : Option (String ⊕ Nat) :=
  match cfg.lookup "RESERVED", boundTest cfg capacity with
  | some reserved, some fits =>
    if capacity.lhs == "register_number" then
      let registerNumber := 2 * position + number + reserved
      if fits registerNumber then some (.inr registerNumber) else some (.inl capacity.msg)
    else none
  | _, _ => none

/-- positions around both boundaries (first spill, last spill) of either backend -/
def positions : List Nat := List.range 40 ++ (List.range 60).map (· + 240)

/-- into_routine.rs `move_arguments` as the source has it: per pushed code `none` (the comment) or `some (target, source)`;
`srcOf` resolves the second component of a table row (x86-64: `arg(k)`) -/
def srcMoveArguments (tbl : List (Nat × List (Nat × Nat) × Option Nat)) (srcOf : Nat → Option Nat) :
    Nat → Nat → Option (List (Option (Nat × Nat)))
  | 0, _ => none
  | fuel + 1, n =>
    match tbl.find? (fun row => row.1 == n) with
    | none => none
    | some (_, moves, next) =>
      match moves.mapM (fun m => (srcOf m.2).map fun s => some (m.1, s)), next with
      | none, _ => none
      | some here, none => some (none :: here)
      | some here, some m =>
        match srcMoveArguments tbl srcOf fuel m with
        | none => none
        | some rest => some (none :: here ++ rest)

open Scc.X86 in
def xt (isReg : Bool) (r p : Nat) : Scc.X86.Temporary := if isReg then .reg r else .spill p

/-- all `if` conditions of op_commutative / sub / div false: operands pairwise different, divisor not RETURN2 -/
def x86TestsDistinct : List (String × Bool) :=
  [("op_commutative:target_temporary == source_temporary_1", false),
   ("op_commutative:target_temporary == source_temporary_2", false),
   ("sub:target_temporary == source_temporary_1", false),
   ("sub:target_temporary == source_temporary_2", false),
   ("div:register == RETURN2", false)]

def x86TestsTargetIsFst : List (String × Bool) :=
  [("op_commutative:target_temporary == source_temporary_1", true),
   ("sub:target_temporary == source_temporary_1", true),
   ("div:register == RETURN2", false)]

def x86TestsTargetIsSnd : List (String × Bool) :=
  [("op_commutative:target_temporary == source_temporary_1", false),
   ("op_commutative:target_temporary == source_temporary_2", true),
   ("sub:target_temporary == source_temporary_1", false),
   ("sub:target_temporary == source_temporary_2", true),
   ("div:register == RETURN2", false)]

def x86TestsDivisorReturn2 : List (String × Bool) :=
  [("op_commutative:target_temporary == source_temporary_1", false),
   ("op_commutative:target_temporary == source_temporary_2", false),
   ("sub:target_temporary == source_temporary_1", false),
   ("sub:target_temporary == source_temporary_2", false),
   ("div:register == RETURN2", true)]

def x86Model (c : List Scc.X86.Code) : Option (List String) := some (c.map x86Ctor)

def x86Src (disp : List (String × String)) (key : String) (tests : List (String × Bool)) (classes : List Bool) :
    Option (List String) :=
  match disp.lookup key with
  | none => none
  | some m => runTop x86Code tests m (classes.map cls)

open Scc.X86 in
def x86ModelConfig : List (String × Nat) :=
  [("REGISTER_NUM", REGISTER_NUM), ("RESERVED", RESERVED), ("STACK", STACK), ("TEMP", TEMP), ("HEAP", HEAP),
   ("FREE", FREE), ("RETURN1", RETURN1), ("RETURN2", RETURN2), ("SPILL_NUM", SPILL_NUM),
   ("SPILL_SPACE/SPILL_NUM", (SPILL_SPACE / (SPILL_NUM : Int)).toNat), ("RESERVED_SPILLS", RESERVED_SPILLS),
   ("SPILL_TEMP", SPILL_TEMP), ("TEMPORARY_TEMP", TEMPORARY_TEMP), ("FIELD_SLOT_SIZE", FIELD_SLOT_SIZE),
   ("FIELDS_PER_BLOCK", FIELDS_PER_BLOCK),
   ("REFERENCE_COUNT_OFFSET/address", (REFERENCE_COUNT_OFFSET / (FIELD_SLOT_SIZE : Int)).toNat),
   ("NEXT_ELEMENT_OFFSET/address", (NEXT_ELEMENT_OFFSET / (FIELD_SLOT_SIZE : Int)).toNat),
   ("CALLER_SAVE_FIRST", CALLER_SAVE_FIRST), ("CALLER_SAVE_LAST", CALLER_SAVE_LAST),
   ("jump_length/n", (jumpLength 1).toNat),
   ("field_offset/base", (fieldOffset .fst 0 / (FIELD_SLOT_SIZE : Int)).toNat),
   ("field_offset/stride", ((fieldOffset .fst 1 - fieldOffset .fst 0) / (FIELD_SLOT_SIZE : Int)).toNat),
   ("stack_offset/scale", (stackOffset 0 - stackOffset 1).toNat),
   ("stack_offset/bias", ((SPILL_SPACE - stackOffset 0) / (stackOffset 0 - stackOffset 1)).toNat)]

def x86ModelTemporary (position : Nat) : Option (String ⊕ (Bool × Nat)) :=
  match Scc.X86.temporaryFromPosition position with
  | .ok (.reg r) => some (.inr (true, r))
  | .ok (.spill p) => some (.inr (false, p))
  | .error e => some (.inl e)

def x86ModelMoves (n : Nat) : Option (List (Option (Nat × Nat))) :=
  match Scc.X86.moveArguments n with
  | .error _ => none
  | .ok cs => cs.mapM fun c => match c with
    | .COMMENT _ => some none
    | .MOV t s => some (some (t, s))
    | _ => none

def at' (isReg : Bool) (r p : Nat) : Scc.A64.Temporary := if isReg then .register (.x r) else .spill p

/-- code.rs `rem` is reached from `op` with `source_2 == TEMP2` exactly when both sources were spilled, and with
`target == TEMP` exactly when the target is a spill (sample registers differ from TEMP and TEMP2) -/
def a64Tests (t a b : Bool) : List (String × Bool) :=
  [("rem:source_2 == TEMP2", !a && !b), ("rem:target == TEMP", !t)]

def a64Model (c : List Scc.A64.Code) : Option (List String) := some (c.map a64Ctor)

def a64Src (disp : List (String × String)) (key : String) (tests : List (String × Bool)) (classes : List Bool) :
    Option (List String) :=
  match disp.lookup key with
  | none => none
  | some m => runTop a64Code tests m (classes.map cls)

def a64RegNum : Scc.A64.Register → Option Nat
  | .x r => some r
  | _ => none

open Scc.A64 in
def a64ModelConfig : List (String × Option Nat) :=
  [("REGISTER_NUM", some REGISTER_NUM), ("RESERVED", some RESERVED), ("TEMP", a64RegNum TEMP), ("TEMP2", a64RegNum TEMP2),
   ("HEAP", a64RegNum HEAP), ("FREE", a64RegNum FREE), ("RETURN1", a64RegNum RETURN1), ("RETURN2", a64RegNum RETURN2),
   ("SPILL_NUM", some SPILL_NUM), ("SPILL_SPACE/SPILL_NUM", some (SPILL_SPACE / SPILL_NUM)),
   ("RESERVED_SPILLS", some RESERVED_SPILLS), ("SPILL_TEMP", some SPILL_TEMP), ("TEMPORARY_TEMP", a64RegNum TEMPORARY_TEMP),
   ("FIELD_SLOT_SIZE", some consts.fieldSlotSize), ("FIELDS_PER_BLOCK", some FIELDS_PER_BLOCK),
   ("REFERENCE_COUNT_OFFSET/address", some (REFERENCE_COUNT_OFFSET / (consts.fieldSlotSize : Int)).toNat),
   ("NEXT_ELEMENT_OFFSET/address", some (NEXT_ELEMENT_OFFSET / (consts.fieldSlotSize : Int)).toNat),
   ("CALLER_SAVE_FIRST", some CALLER_SAVE_FIRST), ("CALLER_SAVE_LAST", some CALLER_SAVE_LAST),
   ("jump_length/n", some (jumpLength 1).toNat),
   ("field_offset/base", some (fieldOffset 0 0 / (consts.fieldSlotSize : Int)).toNat),
   ("field_offset/stride", some ((fieldOffset 0 1 - fieldOffset 0 0) / (consts.fieldSlotSize : Int)).toNat),
   ("stack_offset/scale", some (stackOffset 0 - stackOffset 1).toNat),
   ("stack_offset/bias", some (((SPILL_SPACE : Int) - stackOffset 0) / (stackOffset 0 - stackOffset 1)).toNat),
   ("print/skipped_register", some consts.skippedRegister),
   ("print/skip_by", some (archNumber consts.skippedRegister - consts.skippedRegister))]

def a64ModelTemporary (position : Nat) : Option (String ⊕ (Bool × Nat)) :=
  match (Scc.A64.temporaryFromPosition position).run 0 with
  | .ok (.register (.x r), _) => some (.inr (true, r))
  | .ok (.register _, _) => none
  | .ok (.spill p, _) => some (.inr (false, p))
  | .error e => some (.inl e)

def a64ModelMoves (n : Nat) : Option (List (Option (Nat × Nat))) :=
  match Scc.A64.moveArguments n with
  | .error _ => none
  | .ok cs => cs.mapM fun c => match c with
    | .COMMENT _ => some none
    | .MOVR (.x t) (.x s) => some (some (t, s))
    | _ => none

def rvModel (c : List Scc.RV.Code) : Option (List String) := some (c.map rvCtor)

def rvSrc (disp : List (String × String)) (key : String) : Option (List String) :=
  match disp.lookup key with
  | none => none
  | some m => runTop rvCode [] m []

open Scc.RV in
def rvModelConfig : List (String × Nat) :=
  [("REGISTER_NUM", registerNum), ("RESERVED", reserved), ("ZERO", ZERO.n), ("TEMP", TEMP.n), ("HEAP", HEAP.n),
   ("FREE", FREE.n), ("RETURN1", RETURN1.n), ("RETURN2", RETURN2.n), ("FIELD_SLOT_SIZE", fieldSlotSize),
   ("FIELDS_PER_BLOCK", fieldsPerBlock),
   ("REFERENCE_COUNT_OFFSET/address", (referenceCountOffset / (fieldSlotSize : Int)).toNat),
   ("NEXT_ELEMENT_OFFSET/address", (nextElementOffset / (fieldSlotSize : Int)).toNat),
   ("jump_length/n", (jumpLength 1).toNat),
   ("field_offset/base", (fieldOffset 0 0 / (fieldSlotSize : Int)).toNat),
   ("field_offset/stride", ((fieldOffset 0 1 - fieldOffset 0 0) / (fieldSlotSize : Int)).toNat)]

def rvModelRegister (number : Scc.Backend.TempNum) (position : Nat) : Option (String ⊕ Nat) :=
  match (Scc.RV.positionRegister number position).run 0 with
  | .ok (r, _) => some (.inr r.n)
  | .error e => some (.inl e)

end Scc.Tables

namespace Scc.Props
open Scc.Generated Scc.Tables

/-! ## translations of variants (C02, C04) -/

/-- fun2core/src/terms/ifc.rs: every Fun comparison sort is mapped to the Core sort the model says -/
theorem T_fun2core_ifsort :
    (funSorts.all fun s => fun2coreIfSort.lookup (funSort s) == some (coreSort (Scc.Fun2Core.compileSort s))) = true
    ∧ fun2coreIfSort.length = funSorts.length := by decide +kernel

/-- fun2core/src/terms/op.rs fn compile_op -/
theorem T_fun2core_binop :
    (funOps.all fun o => fun2coreBinOp.lookup (funOp o) == some (coreOp (Scc.Fun2Core.compileOp o))) = true
    ∧ fun2coreBinOp.length = funOps.length := by decide +kernel

/-- core2axcut/src/statements/ifc.rs: every Core comparison sort is mapped to the AxCut sort the model says -/
theorem T_core2axcut_ifsort :
    (coreSorts.all fun s => core2axcutIfSort.lookup (coreSort s) == some (axSort (Scc.Core2AxCut.shrinkIfSort s))) = true
    ∧ core2axcutIfSort.length = coreSorts.length := by decide +kernel

/-- core2axcut/src/statements/cut.rs fn shrink_binop -/
theorem T_core2axcut_binop :
    (coreOps.all fun o => core2axcutBinOp.lookup (coreOp o) == some (axOp (Scc.Core2AxCut.shrinkBinop o))) = true
    ∧ core2axcutBinOp.length = coreOps.length := by decide +kernel

/-- the dispatch tables of the generic code generator are total on the variants (one arm each) -/
theorem T_generic_dispatch :
    (axSorts.all fun s => (genericIfTwo.lookup (axSort s)).isSome && (genericIfZero.lookup (axSort s)).isSome) = true
    ∧ genericIfTwo.length = 6 ∧ genericIfZero.length = 6
    ∧ (axOps.all fun o => (genericBinOp.lookup (axOp o)).isSome) = true ∧ genericBinOp.length = 5 := by decide +kernel

/-- x86-64: `if a ⋈ b` through ifc.rs ↦ jump_label_if_* ↦ compare ↦ constructors, all operand classes -/
theorem T_x86_jump_two :
    (axSorts.flatMap fun s => bools.flatMap fun a => bools.map fun b =>
      x86Model (Scc.X86.x86Backend.jumpLabelIf s (xt a 6 3) (xt b 8 5) "l"))
    = (axSorts.flatMap fun s => bools.flatMap fun a => bools.map fun b =>
      x86Src genericIfTwo (axSort s) [] [a, b]) := by decide +kernel

theorem T_x86_jump_zero :
    (axSorts.flatMap fun s => bools.map fun a => x86Model (Scc.X86.x86Backend.jumpLabelIfZero s (xt a 6 3) "l"))
    = (axSorts.flatMap fun s => bools.map fun a => x86Src genericIfZero (axSort s) [] [a]) := by decide +kernel

/-- x86-64 add / sub / mul / div / rem, pairwise different operands of every class -/
theorem T_x86_ops_distinct :
    (axOps.flatMap fun o => bools.flatMap fun t => bools.flatMap fun a => bools.map fun b =>
      x86Model (Scc.X86.x86Backend.binop o (xt t 6 3) (xt a 8 5) (xt b 10 7)))
    = (axOps.flatMap fun o => bools.flatMap fun t => bools.flatMap fun a => bools.map fun b =>
      x86Src genericBinOp (axOp o) x86TestsDistinct [t, a, b]) := by decide +kernel

/-- … target = first source -/
theorem T_x86_ops_target_is_fst :
    (axOps.flatMap fun o => bools.flatMap fun t => bools.map fun b =>
      x86Model (Scc.X86.x86Backend.binop o (xt t 6 3) (xt t 6 3) (xt b 10 7)))
    = (axOps.flatMap fun o => bools.flatMap fun t => bools.map fun b =>
      x86Src genericBinOp (axOp o) x86TestsTargetIsFst [t, t, b]) := by decide +kernel

/-- … target = second source -/
theorem T_x86_ops_target_is_snd :
    (axOps.flatMap fun o => bools.flatMap fun t => bools.map fun a =>
      x86Model (Scc.X86.x86Backend.binop o (xt t 6 3) (xt a 8 5) (xt t 6 3)))
    = (axOps.flatMap fun o => bools.flatMap fun t => bools.map fun a =>
      x86Src genericBinOp (axOp o) x86TestsTargetIsSnd [t, a, t]) := by decide +kernel

/-- … divisor in RETURN2 (rdx) -/
theorem T_x86_ops_divisor_return2 :
    (axOps.flatMap fun o => bools.flatMap fun t => bools.map fun a =>
      x86Model (Scc.X86.x86Backend.binop o (xt t 6 3) (xt a 8 5) (.reg Scc.X86.RETURN2)))
    = (axOps.flatMap fun o => bools.flatMap fun t => bools.map fun a =>
      x86Src genericBinOp (axOp o) x86TestsDivisorReturn2 [t, a, true]) := by decide +kernel

/-- x86-64 jump, jump_label, jump_label_fixed, load_label, add_and_jump, mov -/
theorem T_x86_misc :
    (bools.flatMap fun a =>
      [x86Model (Scc.X86.x86Backend.jump (xt a 6 3)), x86Model (Scc.X86.x86Backend.loadLabel (xt a 6 3) "l"),
       x86Model (Scc.X86.x86Backend.addAndJump (xt a 6 3) 8)] ++
      bools.map fun b => x86Model (Scc.X86.x86Backend.mov (xt a 6 3) (xt b 8 5)))
    ++ [x86Model (Scc.X86.x86Backend.jumpLabel "l"), x86Model (Scc.X86.x86Backend.jumpLabelFixed "l")]
    = (bools.flatMap fun a =>
      [runTop x86Code [] "Instructions::jump" [cls a], runTop x86Code [] "Instructions::load_label" [cls a],
       runTop x86Code [] "Instructions::add_and_jump" [cls a]] ++
      bools.map fun b => runTop x86Code [] "Instructions::mov" [cls a, cls b])
    ++ [runTop x86Code [] "Instructions::jump_label" [], runTop x86Code [] "Instructions::jump_label_fixed" []] := by decide +kernel

/-- the functions of x86-64 code.rs that are NOT decision tables (modelled by hand, tied by the differential check only) -/
theorem T_x86_opaque : x86CodeOpaque = ["save_caller_save_registers", "restore_caller_save_registers"] := by decide +kernel

theorem T_a64_jump_two :
    (axSorts.flatMap fun s => bools.flatMap fun a => bools.map fun b =>
      a64Model (Scc.A64.a64Backend.jumpLabelIf s (at' a 6 3) (at' b 8 5) "l"))
    = (axSorts.flatMap fun s => bools.flatMap fun a => bools.map fun b =>
      a64Src genericIfTwo (axSort s) [] [a, b]) := by decide +kernel

theorem T_a64_jump_zero :
    (axSorts.flatMap fun s => bools.map fun a => a64Model (Scc.A64.a64Backend.jumpLabelIfZero s (at' a 6 3) "l"))
    = (axSorts.flatMap fun s => bools.map fun a => a64Src genericIfZero (axSort s) [] [a]) := by decide +kernel

/-- AArch64 add / sub / mul / div / rem through `op`, operands of every class (registers other than TEMP, TEMP2) -/
theorem T_a64_ops :
    (axOps.flatMap fun o => bools.flatMap fun t => bools.flatMap fun a => bools.map fun b =>
      a64Model (Scc.A64.a64Backend.binop o (at' t 6 3) (at' a 8 5) (at' b 10 7)))
    = (axOps.flatMap fun o => bools.flatMap fun t => bools.flatMap fun a => bools.map fun b =>
      a64Src genericBinOp (axOp o) (a64Tests t a b) [t, a, b]) := by decide +kernel

/-- … first source is TEMP itself and the second is spilled: the scratch register is TEMP2 -/
theorem T_a64_ops_fst_is_temp :
    (axOps.flatMap fun o => bools.map fun t =>
      a64Model (Scc.A64.a64Backend.binop o (at' t 6 3) (.register Scc.A64.TEMP) (.spill 7)))
    = (axOps.flatMap fun o => bools.map fun t =>
      a64Src genericBinOp (axOp o) [("rem:source_2 == TEMP2", true), ("rem:target == TEMP", !t)] [t, true, false]) := by
  decide +kernel

theorem T_a64_misc :
    (bools.flatMap fun a =>
      [a64Model (Scc.A64.a64Backend.jump (at' a 6 3)), a64Model (Scc.A64.a64Backend.loadLabel (at' a 6 3) "l"),
       a64Model (Scc.A64.a64Backend.addAndJump (at' a 6 3) 8)] ++
      bools.map fun b => a64Model (Scc.A64.a64Backend.mov (at' a 6 3) (at' b 8 5)))
    ++ [a64Model (Scc.A64.a64Backend.jumpLabel "l"), a64Model (Scc.A64.a64Backend.jumpLabelFixed "l")]
    = (bools.flatMap fun a =>
      [runTop a64Code [] "Instructions::jump" [cls a], runTop a64Code [] "Instructions::load_label" [cls a],
       runTop a64Code [] "Instructions::add_and_jump" [cls a]] ++
      bools.map fun b => runTop a64Code [] "Instructions::mov" [cls a, cls b])
    ++ [runTop a64Code [] "Instructions::jump_label" [], runTop a64Code [] "Instructions::jump_label_fixed" []] := by decide +kernel

theorem T_a64_opaque :
    a64CodeOpaque = ["save_caller_save_registers", "restore_caller_save_registers", "Instructions::load_immediate"] := by
  decide +kernel

theorem T_rv_jump_two :
    (axSorts.map fun s => rvModel (Scc.RV.rvBackend.jumpLabelIf s ⟨5⟩ ⟨7⟩ "l"))
    = (axSorts.map fun s => rvSrc genericIfTwo (axSort s)) := by decide +kernel

theorem T_rv_jump_zero :
    (axSorts.map fun s => rvModel (Scc.RV.rvBackend.jumpLabelIfZero s ⟨5⟩ "l"))
    = (axSorts.map fun s => rvSrc genericIfZero (axSort s)) := by decide +kernel

theorem T_rv_ops :
    (axOps.map fun o => rvModel (Scc.RV.rvBackend.binop o ⟨9⟩ ⟨5⟩ ⟨7⟩))
    = (axOps.map fun o => rvSrc genericBinOp (axOp o)) := by decide +kernel

theorem T_rv_misc :
    [rvModel (Scc.RV.rvBackend.jump ⟨5⟩), rvModel (Scc.RV.rvBackend.jumpLabel "l"),
     rvModel (Scc.RV.rvBackend.jumpLabelFixed "l"), rvModel (Scc.RV.rvBackend.loadLabel ⟨5⟩ "l"),
     rvModel (Scc.RV.rvBackend.loadImmediate ⟨5⟩ 7), rvModel (Scc.RV.rvBackend.addAndJump ⟨5⟩ 8),
     rvModel (Scc.RV.rvBackend.mov ⟨5⟩ ⟨7⟩)]
    = ["Instructions::jump", "Instructions::jump_label", "Instructions::jump_label_fixed", "Instructions::load_label",
       "Instructions::load_immediate", "Instructions::add_and_jump", "Instructions::mov"].map
        (fun m => runTop rvCode [] m []) := by decide +kernel

theorem T_rv_opaque : rvCodeOpaque = [] := by decide +kernel

theorem T_x86_config : x86ModelConfig = x86Config := by decide +kernel

/-- config.rs fn arg -/
theorem T_x86_arg_regs :
    (List.range (x86ArgRegs.length + 2)).map (fun n => (Scc.X86.arg n).toOption)
    = x86ArgRegs.map some ++ [none, none] := by decide +kernel

/-- impl Config: temp() … return2() are the registers named so -/
theorem T_x86_roles :
    [Scc.X86.x86Backend.temp, Scc.X86.x86Backend.heap, Scc.X86.x86Backend.free, Scc.X86.x86Backend.return1,
     Scc.X86.x86Backend.return2].map some
    = ["temp", "heap", "free", "return1", "return2"].map fun r =>
        ((x86ConfigRoles.lookup r).bind fun c => x86Config.lookup c).map Scc.X86.Temporary.reg := by decide +kernel

/-- the model's immediates are unbounded integers and `i64_to_immediate` is the identity: justified while the
source type wraps an i64 and the conversion is `.into()` -/
theorem T_x86_immediate : x86Immediate = ("i64", "number.into()") := by decide +kernel

/-- into_routine.rs fn move_arguments: comments and (target, source) of every MOV, for 0 … 7 parameters -/
theorem T_x86_move_arguments :
    (List.range 8).map x86ModelMoves
    = (List.range 8).map (srcMoveArguments x86MoveArguments (fun k => x86ArgRegs[k]?) 10) := by decide +kernel

/-- into_routine.rs setup / cleanup: callee-saved registers pushed and popped -/
theorem T_x86_saved :
    ((Scc.X86.setup 0).toOption.map fun cs => cs.filterMap fun c => match c with | .PUSH r => some r | _ => none)
      = some x86Pushed
    ∧ (Scc.X86.cleanup.filterMap fun c => match c with | .POP r => some r | _ => none) = x86Popped := by decide +kernel

theorem T_a64_config : a64ModelConfig = a64Config.map (fun p => (p.1, some p.2)) := by decide +kernel

theorem T_a64_roles :
    [Scc.A64.a64Backend.temp, Scc.A64.a64Backend.heap, Scc.A64.a64Backend.free, Scc.A64.a64Backend.return1,
     Scc.A64.a64Backend.return2].map some
    = ["temp", "heap", "free", "return1", "return2"].map fun r =>
        ((a64ConfigRoles.lookup r).bind fun c => a64Config.lookup c).map fun n => Scc.A64.Temporary.register (.x n) := by
  decide +kernel

theorem T_a64_immediate : a64Immediate = ("i64", "number.into()") := by decide +kernel

theorem T_a64_move_arguments :
    (List.range 10).map a64ModelMoves
    = (List.range 10).map (srcMoveArguments a64MoveArguments some 12) := by decide +kernel

theorem T_a64_saved :
    ((Scc.A64.setup 0).toOption.map fun cs => cs.filterMap fun c =>
        match c with | .STP_PRE_INDEX (.x a) (.x b) .sp i => some (a, b, i) | _ => none) = some a64Stored
    ∧ (Scc.A64.cleanup.filterMap fun c =>
        match c with | .LDP_POST_INDEX (.x a) (.x b) .sp i => some (a, b, i) | _ => none) = a64Loaded := by decide +kernel

theorem T_rv_config : rvModelConfig = rvConfig := by decide +kernel

theorem T_rv_roles :
    [Scc.RV.rvBackend.temp, Scc.RV.rvBackend.heap, Scc.RV.rvBackend.free, Scc.RV.rvBackend.return1,
     Scc.RV.rvBackend.return2].map some
    = ["temp", "heap", "free", "return1", "return2"].map fun r =>
        ((rvConfigRoles.lookup r).bind fun c => rvConfig.lookup c).map Scc.RV.Register.mk := by decide +kernel

/-- RV64: `Immediate = i64` and `i64_to_immediate(number) = number` (the model's immediates are integers that are
printed in full; a narrower type would truncate literals) -/
theorem T_rv_immediate : rvImmediate = ("i64", "number") := by decide +kernel

/-! ## capacity assertions of utils.rs -/

/-- x86-64 temporary_from_position: register test, spill numbering and the bound of the "Out of temporaries"
assertion are the model's, on all positions around both boundaries -/
theorem T_x86_capacity :
    positions.map x86ModelTemporary
    = positions.map (srcTemporaryFromPosition x86Config x86RegisterTest x86CapacityAssert) := by decide +kernel

theorem T_a64_capacity :
    positions.map a64ModelTemporary
    = positions.map (srcTemporaryFromPosition a64Config a64RegisterTest a64CapacityAssert) := by decide +kernel

/-- RV64: `assert!(register_number < REGISTER_NUM, "Out of registers")` in both methods of Utils -/
theorem T_rv_capacity :
    ((List.range 20).flatMap fun p => [rvModelRegister .fst p, rvModelRegister .snd p])
    = ((List.range 20).flatMap fun p => [srcRvRegister rvConfig rvCapacityAssert 0 p, srcRvRegister rvConfig rvCapacityAssert 1 p]) := by
  decide +kernel

/-! ## explicit substitutions: the reference-count arms of substitution.rs (C11) -/

/-- the `Backend` method an abstract refcount instruction of the model stands for -/
def ropMethod : Scc.PMoves.ROp → String
  | .erase _ => "erase_block"
  | .share _ _ => "share_block_n"
  | .comment _ _ => "comment"

/-- substitution.rs fn code_weakening_contraction / update_reference_count, as extracted from the Rust text,
    side by side with the hand-written model `Scc.PMoves.updateReferenceCount` / `codeWeakeningContraction`:
    the arms of `match new_count` are `0`, `1`, `_` and call exactly the methods the model emits for 0, 1 and
    ≥ 2 targets; the count argument of `share_block_n` is `new_count - 1` (model: `n + 1` for `n + 2`, for
    every `n`); the temporary addressed is `Fst` (model: number 0 of the position); the loop skips `Ext`
    bindings (model: no instruction) and passes `targets.len()`. -/
theorem T_subst_refcount :
    substRefcountArms = [("0", "comment,erase_block"), ("1", ""), ("_", "comment,share_block_n:new_count - 1")]
    ∧ substRefcountMeta = [("temporary", "Fst"), ("guard", "binding.chi != Chirality::Ext"), ("count", "targets.len()")]
    ∧ ((Scc.PMoves.updateReferenceCount some 7 [(7, .prd)] 0).getD []).map ropMethod = ["comment", "erase_block"]
    ∧ ((Scc.PMoves.updateReferenceCount some 7 [(7, .prd)] 1).getD [.erase 0]).map ropMethod = []
    ∧ (∀ n, Scc.PMoves.updateReferenceCount some 7 [(3, .cns), (7, .prd)] (n + 2)
          = some [.comment 1 7, .share 2 (n + 1)])
    ∧ Scc.PMoves.codeWeakeningContraction some [((7, .ext), [])] [(7, .ext)] = some []
    ∧ Scc.PMoves.codeWeakeningContraction some [((7, .prd), [4, 5, 6])] [(7, .prd)]
          = some [.comment 1 7, .share 0 2] := by
  refine ⟨by decide, by decide, by decide, by decide, fun n => rfl, by decide, by decide⟩

end Scc.Props

#print axioms Scc.Props.T_fun2core_ifsort
#print axioms Scc.Props.T_core2axcut_ifsort
#print axioms Scc.Props.T_x86_jump_two
#print axioms Scc.Props.T_x86_ops_distinct
#print axioms Scc.Props.T_a64_ops
#print axioms Scc.Props.T_rv_jump_two
#print axioms Scc.Props.T_x86_config
#print axioms Scc.Props.T_x86_capacity
#print axioms Scc.Props.T_a64_capacity
#print axioms Scc.Props.T_rv_capacity
#print axioms Scc.Props.T_subst_refcount

#print axioms Scc.Props.T_fun2core_binop
#print axioms Scc.Props.T_core2axcut_binop
#print axioms Scc.Props.T_generic_dispatch
#print axioms Scc.Props.T_x86_jump_zero
#print axioms Scc.Props.T_x86_ops_target_is_fst
#print axioms Scc.Props.T_x86_ops_target_is_snd
#print axioms Scc.Props.T_x86_ops_divisor_return2
#print axioms Scc.Props.T_x86_misc
#print axioms Scc.Props.T_x86_opaque
#print axioms Scc.Props.T_x86_arg_regs
#print axioms Scc.Props.T_x86_roles
#print axioms Scc.Props.T_x86_immediate
#print axioms Scc.Props.T_x86_move_arguments
#print axioms Scc.Props.T_x86_saved
#print axioms Scc.Props.T_a64_jump_two
#print axioms Scc.Props.T_a64_jump_zero
#print axioms Scc.Props.T_a64_ops_fst_is_temp
#print axioms Scc.Props.T_a64_misc
#print axioms Scc.Props.T_a64_opaque
#print axioms Scc.Props.T_a64_config
#print axioms Scc.Props.T_a64_roles
#print axioms Scc.Props.T_a64_immediate
#print axioms Scc.Props.T_a64_move_arguments
#print axioms Scc.Props.T_a64_saved
#print axioms Scc.Props.T_rv_jump_zero
#print axioms Scc.Props.T_rv_ops
#print axioms Scc.Props.T_rv_misc
#print axioms Scc.Props.T_rv_opaque
#print axioms Scc.Props.T_rv_config
#print axioms Scc.Props.T_rv_roles
#print axioms Scc.Props.T_rv_immediate
