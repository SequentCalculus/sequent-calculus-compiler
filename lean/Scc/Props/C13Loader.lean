/-
  Scc.Props.C13Loader — C13 (calling convention) for x86-64 on the TEXT of the routine of an integer
  program WITHOUT the loader hypothesis: `C13_cc_never_fires_int_text` (Props/C13X86.lean) takes
  `TextLoads routine`; by `C14_routine_loads` (Props/C14Loader.lean: the print → parse round trip of
  every routine of the backend model) it follows from `ProgInRange` and the decidable names check
  `C14_namesTextSafe`.
-/
import Scc.Props.C13X86
import Scc.Props.C14Loader

namespace Scc.X86

open Scc.AxCut
open Scc.Props.C06Generic (IntProg)
open Scc.X86.CC (CCSafe CfgCC)

/-- the calling-convention monitors of the x86-64 machine never fire on the printed routine of an integer
    program in range with text-safe names (every amount of fuel, both hook settings, every counter start) -/
theorem C13_cc_never_fires_int_loaded (p : AxCut.Prog) (htp : LinTypedProg p) (hip : IntProg p)
    (hrange : ProgInRange p) (hnames : C14_namesTextSafe p = true) (hooks : Bool)
    (c0 : Nat) (body routine : List Code) (nargs : Nat) (hc : compileX86 p hooks c0 = .ok (body, nargs))
    (hr : intoRoutine body nargs = .ok routine) (cfg : MonCfg) (H : CfgCC cfg.mach)
    (args : List Word) (fuel : Nat) :
    CCSafe (run (printProg routine) args fuel cfg).res :=
  C13_cc_never_fires_int_text p htp hip hooks c0 body routine nargs hc hr cfg H
    (C14_routine_loads hrange hnames hc hr) args fuel

/-- the counting loop of C06X86 satisfies the hypotheses -/
example : ProgInRange C06_loopProg ∧ C14_namesTextSafe C06_loopProg = true :=
  ⟨C06_loopProg_inRange, C06_loop_namesTextSafe⟩

end Scc.X86

#print axioms Scc.X86.C13_cc_never_fires_int_loaded
