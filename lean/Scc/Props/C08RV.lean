/-
  Scc.Props.C08RV — property C08 (RISC-V backend):

    "For every linearly well-typed, print-free AxCut program with at most 14 simultaneously live
     variables, the emitted RISC-V instruction sequence, read with 64-bit loads and stores and
     started at the first label with heap and free pointers initialised as on the other backends,
     reaches its exit point with the same result in the return register as the AxCut abstract
     machine computes, and it agrees with the other two backends on every such program."

  Objects: the backend model `Scc.RV.rvBackend` / `Scc.RV.compileRoutine` (Scc/RV/Backend.lean,
  text-equal to the real backend on the test corpus), the machine `Scc.RV.run` (Scc/RV/Machine.lean:
  `LW`/`SW` are 64-bit accesses there — on real RV64 they are 32-bit, which is why the property says
  "read with 64-bit loads and stores"), the positional AxCut machine `Scc.AxCut.Pos.run`
  (Scc/AxCut/SemPos.lean), the typing `Scc.AxCut.LinTypedProg` (Scc/AxCut/LinTyping.lean).

  Proved here (Theorem B of DESIGN.md §5 "C06, C07, C08" for RV64, the rungs B-arith / B-compare /
  B-literal / B-moves, the first rung of B-memory, and the capacity theorem): contracts of the
  instruction lists the backend emits, for ALL operand values, on the block semantics
  `Scc.RV.execList` (consecutive instructions of the machine's `exec`) and, for code with the local
  forward labels of memory.rs, `Scc.RV.execFwd` (Scc/RV/MemLemmas.lean).  B-memory: the combinators
  `skip_if_zero` / `if_zero_then_else`, `share_block_n` and `erase_block` (all three cases), and the
  MEMORY CONTRACTS against the heap model Scc/Heap/Model.lean (same vocabulary as the x86-64 contracts
  `C06_*_correct`: `Boundary` / `HeapRel` + "the model operation succeeds" ⟹ the generator run succeeds,
  the emitted list executes (`execFwd`) to a state that again satisfies `Boundary` / `HeapRel` for the
  model's result, results in the right registers, a frame condition `FrameR` on everything else):
      `C08_acquire_block_correct`  `acquire_block` against `Scc.Heap.acquire`: (1) next block of the linear
        free list, (2) head of the lazy free list with erasure of its children, (3) bump allocation.
      `C08_store_correct`  `store` against `Scc.Heap.storeObj` for ANY number of fields (one block for
        up to 3 fields, otherwise a chain of linked blocks) — within the capacity of the real code
        (14 variables; beyond it the Rust code panics "Out of registers" and emits nothing).
      `C08_load_correct`  `load` against `Scc.Heap.loadObj` for ANY number of fields: unique branch
        (count 0: the blocks go back onto the linear free list, the children move) and shared branch
        (count > 0: decrement, every pointer child is shared); `C08_load_unique_correct` /
        `C08_load_shared_correct` are the two branches separately.  The only side condition (shared
        branch): the incremented reference counts of the model, which are unbounded naturals, fit in 64 bits.
      `C08_machine_run_fwd`  THE BRIDGE from `execFwd` to the machine's `runLoop`: if the laid-out
        program contains the (comment-free part of the) block at the current item and the block's labels
        resolve into the block, then whenever `execFwd` runs the block to its end, `runLoop` does the
        same and continues just behind the block.
      `C08_acquire_block_runs` / `C08_store_runs` / `C08_load_runs`  the three contracts ON THE RUN LOOP:
        the code of memory.rs is runnable item by item for ALL arguments (`store_free`, `load_free`,
        `acquireBlock_free`: no use of the own code address; `LabsIn`: labels `lab<n>`, never `cleanup`),
        so wherever the laid-out program contains the block, `runLoop` executes it with the contract's effect.
  The full statement `C08_statement` is a `def : Prop` here, neither proved nor refuted as stated.  Its composition — Theorem A (the generic simulation)
  on top of these contracts — is in Props/C08RVInt.lean (integer programs), Props/C08RVHeap.lean (data types) and
  Props/C08RVClo.lean (all programs: `C08_programs_checked`, `C08_programs_live`, `C08_programs_text`).  These
  ask, beyond `C08_statement`: `LabelSafe`, the size check `C08_sizeCheck`, integer parameters of the first definition, the
  routine below 2^64, the heap monitor off, a lower bound on the heap (64·15 bytes per step) instead of one heap size.
  `C08_compiles_statement` (the compiler model succeeds on these programs) and `C08_agreement_statement` (agreement
  with the other backends) are `def : Prop`s that no theorem concludes; the agreement is tested by
  /verif/gen/cross_backend.py (RV = A64 = positional machine on 371 generated programs × 3 inputs).
-/
import Scc.RV.Lemmas
import Scc.RV.MemLemmas
import Scc.RV.MemProofsHeap
import Scc.RV.MemProofsStore
import Scc.RV.MemProofsLoad
import Scc.RV.MemProofsRun
import Scc.RV.MemProofsFree
import Scc.AxCut.LinTyping

namespace Scc.RV

open Scc.AxCut Scc.Backend

mutual
  /-- no `print_i64` / `println_i64` anywhere -/
  def printFreeStmt : Stmt → Bool
    | .subst _ next => printFreeStmt next
    | .call _ _ => true
    | .letS _ _ _ _ next _ => printFreeStmt next
    | .switch _ _ cs _ => printFreeClauses cs
    | .create _ _ _ cs next _ _ => printFreeClauses cs && printFreeStmt next
    | .invoke _ _ _ _ => true
    | .lit _ _ next _ => printFreeStmt next
    | .op _ _ _ _ next _ => printFreeStmt next
    | .print _ _ _ _ => false
    | .ifc _ _ _ t e => printFreeStmt t && printFreeStmt e
    | .exit _ => true
  def printFreeClauses : Clauses → Bool
    | .nil => true
    | .cons _ _ body rest => printFreeStmt body && printFreeClauses rest
end

def PrintFree (p : Prog) : Prop := ∀ d ∈ p.defs, printFreeStmt d.body = true

mutual
  /-- every environment reached from `Γ` (threaded exactly as the typing rules and the code
  generator thread it) has at most `k` variables -/
  def ctxWithinStmt (k : Nat) : Stmt → Ctx → Bool
    | .subst pairs next, Γ => decide (Γ.length ≤ k) && ctxWithinStmt k next (pairs.map (·.1))
    | .call _ _, Γ => decide (Γ.length ≤ k)
    | .letS x ty _ args next _, Γ =>
      decide (Γ.length ≤ k) &&
        ctxWithinStmt k next (Γ.take (Γ.length - args.length) ++ [⟨x, .prd, ty⟩])
    | .switch _ _ cs _, Γ => decide (Γ.length ≤ k) && ctxWithinClauses k cs Γ.dropLast []
    | .create x ty env cs next _ _, Γ =>
      let e := env.getD []
      decide (Γ.length ≤ k) && ctxWithinClauses k cs [] e &&
        ctxWithinStmt k next (Γ.take (Γ.length - e.length) ++ [⟨x, .cns, ty⟩])
    | .invoke _ _ _ _, Γ => decide (Γ.length ≤ k)
    | .lit x _ next _, Γ => decide (Γ.length ≤ k) && ctxWithinStmt k next (Γ ++ [⟨x, .ext, .i64⟩])
    | .op x _ _ _ next _, Γ => decide (Γ.length ≤ k) && ctxWithinStmt k next (Γ ++ [⟨x, .ext, .i64⟩])
    | .print _ _ next _, Γ => decide (Γ.length ≤ k) && ctxWithinStmt k next Γ
    | .ifc _ _ _ t e, Γ => decide (Γ.length ≤ k) && ctxWithinStmt k t Γ && ctxWithinStmt k e Γ
    | .exit _, Γ => decide (Γ.length ≤ k)
  def ctxWithinClauses (k : Nat) : Clauses → Ctx → Ctx → Bool
    | .nil, _, _ => true
    | .cons _ ctx body rest, pre, post =>
      ctxWithinStmt k body (pre ++ ctx ++ post) && ctxWithinClauses k rest pre post
end

/-- "at most `k` simultaneously live variables" (the environments of a linearized program are
exactly its live variables) -/
def LiveAtMost (k : Nat) (p : Prog) : Prop := ∀ d ∈ p.defs, ctxWithinStmt k d.body d.ctx = true

/-- C08, first half: the emitted text, run on the RV64 machine from the entry state (first label,
`X2 = heap base`, `X3 = X2 + 64`, arguments in the second temporaries of positions 0..), ends at
`cleanup` with the result of the AxCut positional machine in `X10` — for a heap that is large
enough.  (Faults of the positional machine — division by zero, MIN / -1 — are excluded by
`res = done v`.) -/
def C08_statement : Prop :=
  ∀ (p : Prog) (hooks : Bool) (counter nargs : Nat) (text : String) (args : List Word) (v : Word),
    LinTypedProg p → PrintFree p → LiveAtMost maxVariables p →
    compileRoutine p hooks counter = .ok (nargs, text) →
    (∃ fuel, (Pos.run p args fuel).res = .done v) →
    ∃ heapBytes fuel, ∀ cfg : MonCfg, cfg.heapBytes = heapBytes →
      (run text args fuel cfg).res = .done v

/-- the compiler model succeeds on every program of `C08_statement`.  No theorem concludes it in this form; what is proved
    is Props/C12Codegen.lean: `C12_codegen_rv_ok` (success, or "not implemented in RISC-V backend", under the static bound
    `2 * progCap ≤ 28`). -/
def C08_compiles_statement : Prop :=
  ∀ (p : Prog) (hooks : Bool) (counter : Nat),
    LinTypedProg p → PrintFree p → LiveAtMost maxVariables p → p.defs ≠ [] →
    ∃ r, compileRoutine p hooks counter = .ok r

/-- C08, second half: agreement with the other two backends.  The other backends' compilers and
machines are parameters (`compile… p = some routineText`, `run… text args fuel = some result` when
the run ends normally with that result) so that this file does not depend on their files. -/
def C08_agreement_statement
    (compileX86 compileA64 : Prog → Option String)
    (runX86 runA64 : String → List Word → Nat → Option Word) : Prop :=
  ∀ (p : Prog) (hooks : Bool) (counter nargs : Nat) (text textX textA : String) (args : List Word)
    (v : Word),
    LinTypedProg p → PrintFree p → LiveAtMost maxVariables p →
    compileRoutine p hooks counter = .ok (nargs, text) →
    compileX86 p = some textX → compileA64 p = some textA →
    (∃ fuel cfg, (run text args fuel cfg).res = .done v) →
    (∃ fuel, runX86 textX args fuel = some v) ∧ (∃ fuel, runA64 textA args fuel = some v)

/-! ## capacity: 14 variables -/

/-- `variable_temporary` succeeds iff the variable's position is at most 13 (so: 14 variables),
and then it is register `X(2·position + number + 4)`; otherwise it is the panic "Out of registers". -/
theorem C08_capacity (number : TempNum) (context : Ctx) (id pos c : Nat)
    (hpos : getPosition context id = some pos) :
    ((∃ r, (variableTemporary number context id).run c = .ok (r, c)) ↔ pos ≤ 13) ∧
    (∀ r, (variableTemporary number context id).run c = .ok (r, c) →
      r = ⟨2 * pos + number.toNat + reserved⟩) ∧
    ((variableTemporary number context id).run c = .error "Out of registers" ↔ 14 ≤ pos) := by
  have hvt : variableTemporary number context id = positionRegister number pos := by
    simp [variableTemporary, hpos]
  rw [hvt]
  refine ⟨⟨?_, ?_⟩, ?_, positionRegister_error_iff number pos c⟩
  · rintro ⟨r, hr⟩
    exact ((positionRegister_ok_iff number pos c r).mp hr).1
  · intro h
    exact ⟨_, (positionRegister_ok_iff number pos c _).mpr ⟨h, rfl⟩⟩
  · intro r hr
    exact ((positionRegister_ok_iff number pos c r).mp hr).2

/-- `fresh_temporary` succeeds iff the context has at most 13 variables (the new one is the 14th) -/
theorem C08_capacity_fresh (number : TempNum) (context : Ctx) (c : Nat) :
    ((∃ r, (freshTemporary number context).run c = .ok (r, c)) ↔ context.length ≤ 13) ∧
    ((freshTemporary number context).run c = .error "Out of registers" ↔ 14 ≤ context.length) := by
  unfold freshTemporary
  refine ⟨⟨?_, ?_⟩, positionRegister_error_iff number _ c⟩
  · rintro ⟨r, hr⟩
    exact ((positionRegister_ok_iff number _ c r).mp hr).1
  · intro h
    exact ⟨_, (positionRegister_ok_iff number _ c _).mpr ⟨h, rfl⟩⟩

/-- the registers of variables are never the reserved ones (`X0`, `TEMP`, `HEAP`, `FREE`), and
different (position, number) pairs get different registers -/
theorem C08_temporaries_disjoint (n1 n2 : TempNum) (p1 p2 : Nat) :
    (2 * p1 + n1.toNat + reserved ≥ 4) ∧
    (2 * p1 + n1.toNat + reserved = 2 * p2 + n2.toNat + reserved → p1 = p2 ∧ n1 = n2) := by
  have h1 := TempNum.toNat_le_one n1
  have h2 := TempNum.toNat_le_one n2
  refine ⟨by simp [reserved], ?_⟩
  intro h
  have hp : p1 = p2 := by omega
  refine ⟨hp, ?_⟩
  subst hp
  cases n1 <;> cases n2 <;> simp [TempNum.toNat] at h ⊢

-- non-vacuity: position 13 is the last one that works, position 14 panics
example : (variableTemporary .snd (List.replicate 13 ⟨⟨"a", 1⟩, .ext, .i64⟩ ++ [⟨⟨"x", 7⟩, .ext, .i64⟩]) 7).run 0
    = .ok (⟨31⟩, 0) := by rfl
example : (variableTemporary .fst (List.replicate 14 ⟨⟨"a", 1⟩, .ext, .i64⟩ ++ [⟨⟨"x", 7⟩, .ext, .i64⟩]) 7).run 0
    = .error "Out of registers" := by rfl

/-! ## Theorem B for RV64: contracts of the emitted instruction lists (all operand values) -/

section contracts
variable (cfg : MonCfg) (la : String → Option Nat) (pc : Nat)

/-- B-arith: every operator.  Where the AxCut machine computes `v` (`Pos.evalOp`), the emitted
instruction leaves `v` in the target (which may coincide with a source) and nothing else changes;
where the AxCut machine is stuck (x / 0, MIN / -1) the RV machine faults. -/
theorem C08_B_op (o : BinOp) (t a b : Register) (s : State) (va vb : Word)
    (ha : s.readReg a = .ok va) (hb : s.readReg b = .ok vb) :
    (∀ v, Pos.evalOp o va vb = .ok v →
      execList cfg la pc (rvBackend.binop o t a b) s = .ok (s.writeReg t v, .fall)) ∧
    (∀ w, Pos.evalOp o va vb = .error w →
      ∃ e, execList cfg la pc (rvBackend.binop o t a b) s = .error e) :=
  ⟨fun v hv => exec_binop cfg la pc o t a b s va vb v ha hb hv,
   fun w hw => exec_binop_fault cfg la pc o t a b s va vb w ha hb hw⟩

/-- B-compare: every comparison in its two-operand and its zero form: the branch to the label is
taken iff the AxCut comparison (`Pos.evalCmp`) holds; the state is unchanged.  (`<=` and `>` are
the pseudo-instructions `BLE`/`BGT` = `BGE`/`BLT` with swapped operands.) -/
theorem C08_B_compare (sort : IfSort) (a b : Register) (l : String) (s : State) (va vb : Word)
    (ha : s.readReg a = .ok va) (hb : s.readReg b = .ok vb) :
    execList cfg la pc (rvBackend.jumpLabelIf sort a b l) s =
        .ok (s, if Pos.evalCmp sort va vb then .label l else .fall) ∧
    execList cfg la pc (rvBackend.jumpLabelIfZero sort a l) s =
        .ok (s, if Pos.evalCmp sort va 0 then .label l else .fall) :=
  ⟨exec_jumpLabelIf cfg la pc sort a b l s va vb ha hb, exec_jumpLabelIfZero cfg la pc sort a l s va ha⟩

/-- B-literal: `load_immediate` puts the 64-bit value of ANY literal into the target -/
theorem C08_B_literal (t : Register) (n : Int) (s : State) (hs : s.WF) (ht : t.Usable) :
    ∃ s', execList cfg la pc (rvBackend.loadImmediate t n) s = .ok (s', .fall) ∧
      s'.readReg t = .ok (BitVec.ofInt 64 n) ∧
      (∀ r : Register, r.n ≠ t.n → s'.readReg r = s.readReg r) ∧ s'.mem = s.mem :=
  ⟨_, exec_loadImmediate cfg la pc t n s, readReg_writeReg_same hs ht _,
    fun _ hne => readReg_writeReg_other s hne _, writeReg_mem _ _ _⟩

theorem C08_B_mov (t a : Register) (s : State) (hs : s.WF) (ht : t.Usable) (v : Word)
    (ha : s.readReg a = .ok v) :
    ∃ s', execList cfg la pc (rvBackend.mov t a) s = .ok (s', .fall) ∧ s'.WF ∧
      s'.readReg t = .ok v ∧ (∀ r : Register, r.n ≠ t.n → s'.readReg r = s.readReg r) ∧
      s'.mem = s.mem :=
  exec_mov_spec cfg la pc t a s hs ht v ha

/-- B-moves: a cycle is broken through `TEMP` (`store_temporary` / `restore_temporary`) -/
theorem C08_B_swap (x y : Register) (spill : Bool) (s : State) (hs : s.WF)
    (hx : x.Usable) (hy : y.Usable) (hxy : x.n ≠ y.n) (hxt : x.n ≠ TEMP.n) (hyt : y.n ≠ TEMP.n)
    (vx vy : Word) (hvx : s.readReg x = .ok vx) (hvy : s.readReg y = .ok vy) :
    ∃ s', execList cfg la pc (rvBackend.storeTemporary y spill ++ rvBackend.mov y x ++
          rvBackend.restoreTemporary x spill) s = .ok (s', .fall) ∧
      s'.readReg x = .ok vy ∧ s'.readReg y = .ok vx ∧
      (∀ r : Register, r.n ≠ x.n → r.n ≠ y.n → r.n ≠ TEMP.n → s'.readReg r = s.readReg r) ∧
      s'.mem = s.mem :=
  exec_swap_through_temp cfg la pc x y spill s hs hx hy hxy hxt hyt vx vy hvx hvy

/-- B-jumps: `load_label` then `add_and_jump (jump_length k)` reaches `address(label) + 4 k`: the
k-th entry of a table of 4-byte `JAL`s (invoke of a closure whose table address is in `t`) -/
theorem C08_B_addAndJump (t : Register) (k : Nat) (s : State) (hs : s.WF) (A : Nat)
    (ht : s.readReg t = .ok (BitVec.ofNat 64 A)) (hA : A % 2 = 0) :
    ∃ s', execList cfg la pc (rvBackend.addAndJump t (rvBackend.jumpLength k)) s =
        .ok (s', .addr (BitVec.ofNat 64 (A + 4 * k))) ∧
      (∀ r : Register, r.n ≠ TEMP.n → s'.readReg r = s.readReg r) ∧ s'.mem = s.mem :=
  exec_addAndJump cfg la pc t k s hs A ht hA

/-- B-jumps: the dispatch sequence of `switch` on the tag `jump_length k` stored by `let` -/
theorem C08_B_switch_dispatch (tag : Register) (L : String) (A k : Nat) (s : State) (hs : s.WF)
    (hl : la L = some A) (hA : A % 2 = 0) (htag : tag.n ≠ TEMP.n)
    (hv : s.readReg tag = .ok (BitVec.ofInt 64 (rvBackend.jumpLength k))) :
    ∃ s', execList cfg la pc (rvBackend.loadLabel rvBackend.temp L ++
          rvBackend.binop .sum rvBackend.temp rvBackend.temp tag ++ rvBackend.jump rvBackend.temp) s =
        .ok (s', .addr (BitVec.ofNat 64 (A + 4 * k))) ∧
      (∀ r : Register, r.n ≠ TEMP.n → s'.readReg r = s.readReg r) ∧ s'.mem = s.mem :=
  exec_switch_dispatch cfg la pc tag L A k s hs hl hA htag hv

/-- B-exit: `MV X10 t; JAL X0 cleanup` leaves the result in `X10` for EVERY operand register `t`,
including `t = X11` / `t = X10` (`RETURN1`/`RETURN2` are the temporaries of position 3). -/
theorem C08_B_exit (t : Register) (s : State) (hs : s.WF) (v : Word) (ht : s.readReg t = .ok v) :
    ∃ s', execList cfg la pc (rvBackend.mov rvBackend.return1 t ++ rvBackend.jumpLabel "cleanup") s =
        .ok (s', .label "cleanup") ∧ s'.readReg RETURN1 = .ok v :=
  exec_exit cfg la pc t s hs v ht

/-! ### B-memory, first rung (memory.rs): combinators, share_block_n, erase_block -/

/-- `skip_if_zero`: with condition 0 the code is skipped, otherwise it runs (the fresh label is
not defined inside the skipped code) -/
theorem C08_B_skipIfZero (cond : Register) (body : List Code) (c : Nat) (s : State) (v : Word)
    (hv : s.readReg cond = .ok v) (hfresh : skipTo (labName (c + 1)) body = none) :
    ∃ code, (skipIfZero cond body).run c = .ok (code, c + 1) ∧
      (v = 0 → execFwd cfg la code s = .ok (s, .fall)) ∧
      (v ≠ 0 → ∀ s', execFwd cfg la body s = .ok (s', .fall) → execFwd cfg la code s = .ok (s', .fall)) :=
  ⟨_, skipIfZero_run cond body c,
    fun h0 => execFwd_skip_zero cfg la cond body _ s (h0 ▸ hv) hfresh,
    fun hne s' hb => execFwd_skip_nonzero cfg la cond body _ s s' v hv hne hb⟩

/-- `if_zero_then_else`: exactly one branch runs (the two fresh labels are different because
`fresh_label` counts and `usize` printing is injective) -/
theorem C08_B_ifZeroThenElse (cond : Register) (thenB elseB : List Code) (c : Nat) (s : State)
    (v : Word) (hv : s.readReg cond = .ok v)
    (hf1 : skipTo (labName (c + 1)) elseB = none) (hf2 : skipTo (labName (c + 2)) thenB = none) :
    ∃ code, (ifZeroThenElse cond thenB elseB).run c = .ok (code, c + 2) ∧
      (v = 0 → ∀ s', execFwd cfg la thenB s = .ok (s', .fall) → execFwd cfg la code s = .ok (s', .fall)) ∧
      (v ≠ 0 → ∀ s', execFwd cfg la elseB s = .ok (s', .fall) → execFwd cfg la code s = .ok (s', .fall)) :=
  ⟨_, ifZeroThenElse_run cond thenB elseB c,
    fun h0 s' hb => execFwd_ite_zero cfg la cond thenB elseB _ _ s s' (h0 ▸ hv) hf1 hb,
    fun hne s' hb => execFwd_ite_nonzero cfg la cond thenB elseB _ _ s s' v hv hne
      (fun h => by have := labName_inj.mp h; omega) hf2 hb⟩

/-- `share_block_n`: `if p ≠ 0 { [p] += n }` — only `TEMP` and the count word change -/
theorem C08_B_shareBlockN (r : Register) (n c : Nat) (s : State) (hs : s.WF) (p : Word)
    (hr : s.readReg r = .ok p) (hrt : r.n ≠ TEMP.n) :
    (p = 0 → ∃ code c', (rvBackend.shareBlockN r n).run c = .ok (code, c') ∧
      execFwd cfg la code s = .ok (s, .fall)) ∧
    (p ≠ 0 → checkAddr cfg p.toNat = .ok () →
      ∃ code c' s', (rvBackend.shareBlockN r n).run c = .ok (code, c') ∧
        execFwd cfg la code s = .ok (s', .fall) ∧
        s'.mem = s.mem.insert p.toNat (s.mem.getD p.toNat 0 + BitVec.ofInt 64 n) ∧
        (∀ x : Register, x.n ≠ TEMP.n → s'.readReg x = s.readReg x) ∧ s'.WF) :=
  ⟨fun h0 => shareBlockN_null cfg la r n c s (h0 ▸ hr),
   fun hp hok => shareBlockN_spec cfg la r n c s hs p hr hp hrt hok⟩

/-- `erase_block`: null pointer — nothing; count 0 — the block becomes the head of the lazy free
list (`[p] := FREE; FREE := p`); otherwise the count is decremented -/
theorem C08_B_eraseBlock (r : Register) (c : Nat) (s : State) (hs : s.WF) (p f : Word)
    (hr : s.readReg r = .ok p) (hrt : r.n ≠ TEMP.n) (hf : s.readReg FREE = .ok f) :
    (p = 0 → ∃ code c', (rvBackend.eraseBlock r).run c = .ok (code, c') ∧
      execFwd cfg la code s = .ok (s, .fall)) ∧
    (p ≠ 0 → checkAddr cfg p.toNat = .ok () → s.mem.getD p.toNat 0 = 0 →
      ∃ code c' s', (rvBackend.eraseBlock r).run c = .ok (code, c') ∧
        execFwd cfg la code s = .ok (s', .fall) ∧
        s'.mem = s.mem.insert p.toNat f ∧ s'.readReg FREE = .ok p ∧
        (∀ x : Register, x.n ≠ TEMP.n → x.n ≠ FREE.n → s'.readReg x = s.readReg x) ∧ s'.WF) ∧
    (p ≠ 0 → checkAddr cfg p.toNat = .ok () → s.mem.getD p.toNat 0 ≠ 0 →
      ∃ code c' s', (rvBackend.eraseBlock r).run c = .ok (code, c') ∧
        execFwd cfg la code s = .ok (s', .fall) ∧
        s'.mem = s.mem.insert p.toNat (s.mem.getD p.toNat 0 + BitVec.ofInt 64 (-1)) ∧
        (∀ x : Register, x.n ≠ TEMP.n → s'.readReg x = s.readReg x) ∧ s'.WF) :=
  ⟨fun h0 => eraseBlock_null cfg la r c s (h0 ▸ hr),
   fun hp hok hc => eraseBlock_spec_zero cfg la r c s hs p f hr hp hrt hf hok hc,
   fun hp hok hc => eraseBlock_spec_nonzero cfg la r c s hs p hr hp hrt hok hc⟩

end contracts

/-! ### memory contracts against the heap model (Scc/Heap/Model.lean): acquire_block -/

section memory
variable {cfg : MonCfg} {la : String → Option Nat} {st : State}

/-- `acquire_block` implements `Scc.Heap.acquire`: the target `nb` ends up holding the acquired block,
HEAP/FREE/heap represent the model's result; besides `nb` only the additional temporary `at'` (through
which the children of a lazily freed block are erased), TEMP, HEAP, FREE and the heap change; the code
defines exactly fresh labels.  (`nb`, `at'`: any two different variable registers X4..X31; in `store`
they are the two temporaries of one context position.) -/
theorem C08_acquire_block_correct (B : Boundary cfg st) {h h' : Scc.Heap.HState} (R : HeapRel cfg st h)
    {nb at' : Register} (hn1 : 4 ≤ nb.n) (hn2 : nb.n < 32) (ha1 : 4 ≤ at'.n) (ha2 : at'.n < 32)
    (hna : nb.n ≠ at'.n) {new : Nat} (hop : Scc.Heap.acquire h = .ok (h', new)) (k : Nat) :
    ∃ code, (acquireBlock nb at').run k = .ok (code, k + 13) ∧ LabsIn code k (k + 13) ∧
      ∃ st', execFwd cfg la code st = .ok (st', .fall) ∧ Boundary cfg st' ∧ HeapRel cfg st' h' ∧
        (∃ w, st'.readReg nb = .ok w ∧ w.toNat = new) ∧
        FrameR st st' (fun u => u = nb.n ∨ u = at'.n ∨ u = TEMP.n ∨ u = HEAP.n ∨ u = FREE.n) :=
  acquireBlock_contract B R hn1 hn2 ha1 ha2 hna hop k

/-- `store` implements `Scc.Heap.storeObj`: the variables `toStore` at context positions `|rem| …`
(`EnvFieldsM`: an `ext` variable holds an integer in its second register, any other variable a pointer
in its first and a word in its second register — `posReg n = n + 4` is utils.rs
`2 * position + number + RESERVED`) are stored as one object; the first register of position `|rem|`
ends up holding the object pointer.  Changed besides TEMP/HEAP/FREE/heap: only registers of the stored
positions (`StoredReg`: targets and additional temporaries of `acquire_block`).  Preserved: every
variable of `rem`, every register beyond the stored positions, pc, step counter.
Capacity: `rem ++ toStore` has at most 14 variables and position `|rem|` (where the result goes) exists;
this is exactly when the real generator does not panic. -/
theorem C08_store_correct (B : Boundary cfg st) {h h' : Scc.Heap.HState} (R : HeapRel cfg st h)
    {toStore rem : Ctx} {fs : List Scc.Heap.Field} (hcap : 2 * (rem.length + toStore.length) ≤ 28)
    (hrem : rem.length < 14) (hE : EnvFieldsM st rem.length toStore fs) {ptr : Nat}
    (hop : Scc.Heap.storeObj h fs = .ok (h', ptr)) (k : Nat) :
    ∃ code k', (rvBackend.store toStore rem).run k = .ok (code, k') ∧ k ≤ k' ∧ LabsIn code k k' ∧
      ∃ st', execFwd cfg la code st = .ok (st', .fall) ∧ Boundary cfg st' ∧ HeapRel cfg st' h' ∧
        (∃ w, st'.readReg (posTemp (2 * rem.length)) = .ok w ∧ w.toNat = ptr) ∧
        FrameR st st' (fun u => u = TEMP.n ∨ u = HEAP.n ∨ u = FREE.n ∨
          StoredReg rem.length toStore.length u) :=
  store_contract B R hcap hrem hE hop k

/-- `load` implements `Scc.Heap.loadObj` (`kindOf b` = the variable has a pointer part): the object
whose pointer is in the first register of position `|existing|` is unpacked into the variables
`toLoad`; afterwards they hold the loaded fields (`EnvFieldsM`).  Changed: TEMP, HEAP, the heap, the
registers of the loaded positions.  Preserved: FREE, every variable of `existing`, every register beyond
the loaded positions, pc, step counter. -/
theorem C08_load_correct (B : Boundary cfg st) {h h' : Scc.Heap.HState} (R : HeapRel cfg st h)
    {toLoad existing : Ctx} (hcap : 2 * (existing.length + toLoad.length) ≤ 28) {pw : Word}
    (hp : st.readReg (posTemp (2 * existing.length)) = .ok pw) {vals : List Scc.Heap.Field}
    (hop : Scc.Heap.loadObj h pw.toNat (toLoad.map kindOf) = .ok (h', vals))
    (hno : h.mem.get pw.toNat ≠ 0 → ∀ a, h'.mem.get a < 2 ^ 64) (k : Nat) :
    ∃ code k', (rvBackend.load toLoad existing).run k = .ok (code, k') ∧ k ≤ k' ∧ LabsIn code k k' ∧
      ∃ st', execFwd cfg la code st = .ok (st', .fall) ∧ Boundary cfg st' ∧ HeapRel cfg st' h' ∧
        EnvFieldsM st' existing.length toLoad vals ∧
        FrameR st st' (fun u => u = TEMP.n ∨ u = HEAP.n ∨
          ∃ m, 2 * existing.length ≤ m ∧ m < 2 * (existing.length + toLoad.length) ∧ u = posReg m) :=
  load_contract B R hcap hp hop hno k

/-- the UNIQUE branch of `load` (the object's count is 0): no side condition -/
theorem C08_load_unique_correct (B : Boundary cfg st) {h h' : Scc.Heap.HState} (R : HeapRel cfg st h)
    {toLoad existing : Ctx} (hcap : 2 * (existing.length + toLoad.length) ≤ 28) {pw : Word}
    (hp : st.readReg (posTemp (2 * existing.length)) = .ok pw) (hcnt : h.mem.get pw.toNat = 0)
    {vals : List Scc.Heap.Field}
    (hop : Scc.Heap.loadObj h pw.toNat (toLoad.map kindOf) = .ok (h', vals)) (k : Nat) :
    ∃ code k', (rvBackend.load toLoad existing).run k = .ok (code, k') ∧ k ≤ k' ∧ LabsIn code k k' ∧
      ∃ st', execFwd cfg la code st = .ok (st', .fall) ∧ Boundary cfg st' ∧ HeapRel cfg st' h' ∧
        EnvFieldsM st' existing.length toLoad vals ∧
        FrameR st st' (fun u => u = TEMP.n ∨ u = HEAP.n ∨
          ∃ m, 2 * existing.length ≤ m ∧ m < 2 * (existing.length + toLoad.length) ∧ u = posReg m) :=
  load_contract B R hcap hp hop (fun hne => absurd hcnt hne) k

set_option linter.unusedVariables false in
/-- the SHARED branch of `load` (the object's count is not 0).  `hcnt` names the branch and is not used: with `hno`
    the contract `load_contract` covers both branches. -/
theorem C08_load_shared_correct (B : Boundary cfg st) {h h' : Scc.Heap.HState} (R : HeapRel cfg st h)
    {toLoad existing : Ctx} (hcap : 2 * (existing.length + toLoad.length) ≤ 28) {pw : Word}
    (hp : st.readReg (posTemp (2 * existing.length)) = .ok pw) (hcnt : h.mem.get pw.toNat ≠ 0)
    {vals : List Scc.Heap.Field}
    (hop : Scc.Heap.loadObj h pw.toNat (toLoad.map kindOf) = .ok (h', vals))
    (hno : ∀ a, h'.mem.get a < 2 ^ 64) (k : Nat) :
    ∃ code k', (rvBackend.load toLoad existing).run k = .ok (code, k') ∧ k ≤ k' ∧ LabsIn code k k' ∧
      ∃ st', execFwd cfg la code st = .ok (st', .fall) ∧ Boundary cfg st' ∧ HeapRel cfg st' h' ∧
        EnvFieldsM st' existing.length toLoad vals ∧
        FrameR st st' (fun u => u = TEMP.n ∨ u = HEAP.n ∨
          ∃ m, 2 * existing.length ≤ m ∧ m < 2 * (existing.length + toLoad.length) ∧ u = posReg m) :=
  load_contract B R hcap hp hop (fun _ => hno) k

end memory

/-- THE BRIDGE for blocks with forward local labels: if the laid-out program contains the comment-free
part of the block at item `s.pc` (`layout` drops plain comments) and the labels the block defines
resolve into the block (`BlockAt`: they are defined nowhere earlier in the text), and the block can be
run item by item (`Runnable`, decided by `runnableB`: no instruction uses its own code address — no
`JALR`, no `JAL` with a link register — and the label `cleanup` is not defined in it), then whenever
`execFwd` runs the block to its end, the machine's `runLoop` does the same: it consumes `k` units of
fuel and continues just behind the block with the registers and memory `execFwd` computed. -/
theorem C08_machine_run_fwd (p : Program) (cfg : MonCfg) (codes : List Code) (s s' : State)
    (hb : BlockAt p s.pc (stripComments codes)) (hr : Runnable (stripComments codes))
    (hx : execFwd cfg p.labelAddr codes s = .ok (s', .fall)) :
    ∃ k steps', ∀ fuel, runLoop p cfg (fuel + k) s =
      runLoop p cfg fuel (setPS s' (s.pc + (stripComments codes).length) steps') :=
  run_fwd_block p cfg codes s s' hb hr hx

/-! ### the memory contracts on the machine's run loop -/

section runs
variable {cfg : MonCfg} {st : State} (p : Program)

/-- `acquire_block` on the run loop: wherever the laid-out program `p` contains the emitted block at the
current item (`BlockAt`), `runLoop` executes it: after `n` units of fuel it continues behind the block in
the state `s'` of `C08_acquire_block_correct` (up to pc and step counter, `setPS`). -/
theorem C08_acquire_block_runs (B : Boundary cfg st) {h h' : Scc.Heap.HState} (R : HeapRel cfg st h)
    {nb at' : Register} (hn1 : 4 ≤ nb.n) (hn2 : nb.n < 32) (ha1 : 4 ≤ at'.n) (ha2 : at'.n < 32)
    (hna : nb.n ≠ at'.n) {new : Nat} (hop : Scc.Heap.acquire h = .ok (h', new)) (k : Nat) :
    ∃ code, (acquireBlock nb at').run k = .ok (code, k + 13) ∧
      (BlockAt p st.pc (stripComments code) →
        ∃ n s' steps', (∀ fuel, runLoop p cfg (fuel + n) st =
            runLoop p cfg fuel (setPS s' (st.pc + (stripComments code).length) steps')) ∧
          Boundary cfg s' ∧ HeapRel cfg s' h' ∧ (∃ w, s'.readReg nb = .ok w ∧ w.toNat = new) ∧
          FrameR st s' (fun u => u = nb.n ∨ u = at'.n ∨ u = TEMP.n ∨ u = HEAP.n ∨ u = FREE.n)) := by
  obtain ⟨code, hrun, hl, s', hx, B', R', hw, F⟩ :=
    C08_acquire_block_correct (la := p.labelAddr) B R hn1 hn2 ha1 ha2 hna hop k
  refine ⟨code, hrun, fun hb => ?_⟩
  obtain ⟨n, steps', hn⟩ := mem_block_runs p cfg (acquireBlock_free nb at' k code _ hrun) hl hb hx
  exact ⟨n, s', steps', hn, B', R', hw, F⟩

/-- `store` on the run loop: wherever the laid-out program contains the block, `runLoop` executes it with the effect of
    `C08_store_correct` -/
theorem C08_store_runs (B : Boundary cfg st) {h h' : Scc.Heap.HState} (R : HeapRel cfg st h)
    {toStore rem : Ctx} {fs : List Scc.Heap.Field} (hcap : 2 * (rem.length + toStore.length) ≤ 28)
    (hrem : rem.length < 14) (hE : EnvFieldsM st rem.length toStore fs) {ptr : Nat}
    (hop : Scc.Heap.storeObj h fs = .ok (h', ptr)) (k : Nat) :
    ∃ code k', (rvBackend.store toStore rem).run k = .ok (code, k') ∧
      (BlockAt p st.pc (stripComments code) →
        ∃ n s' steps', (∀ fuel, runLoop p cfg (fuel + n) st =
            runLoop p cfg fuel (setPS s' (st.pc + (stripComments code).length) steps')) ∧
          Boundary cfg s' ∧ HeapRel cfg s' h' ∧
          (∃ w, s'.readReg (posTemp (2 * rem.length)) = .ok w ∧ w.toNat = ptr) ∧
          FrameR st s' (fun u => u = TEMP.n ∨ u = HEAP.n ∨ u = FREE.n ∨
            StoredReg rem.length toStore.length u)) := by
  obtain ⟨code, k', hrun, _, hl, s', hx, B', R', hw, F⟩ :=
    C08_store_correct (la := p.labelAddr) B R hcap hrem hE hop k
  refine ⟨code, k', hrun, fun hb => ?_⟩
  obtain ⟨n, steps', hn⟩ := mem_block_runs p cfg (store_free toStore rem k code _ hrun) hl hb hx
  exact ⟨n, s', steps', hn, B', R', hw, F⟩

/-- `load` on the run loop (both branches; `hno` concerns the shared branch only) -/
theorem C08_load_runs (B : Boundary cfg st) {h h' : Scc.Heap.HState} (R : HeapRel cfg st h)
    {toLoad existing : Ctx} (hcap : 2 * (existing.length + toLoad.length) ≤ 28) {pw : Word}
    (hp : st.readReg (posTemp (2 * existing.length)) = .ok pw) {vals : List Scc.Heap.Field}
    (hop : Scc.Heap.loadObj h pw.toNat (toLoad.map kindOf) = .ok (h', vals))
    (hno : h.mem.get pw.toNat ≠ 0 → ∀ a, h'.mem.get a < 2 ^ 64) (k : Nat) :
    ∃ code k', (rvBackend.load toLoad existing).run k = .ok (code, k') ∧
      (BlockAt p st.pc (stripComments code) →
        ∃ n s' steps', (∀ fuel, runLoop p cfg (fuel + n) st =
            runLoop p cfg fuel (setPS s' (st.pc + (stripComments code).length) steps')) ∧
          Boundary cfg s' ∧ HeapRel cfg s' h' ∧ EnvFieldsM s' existing.length toLoad vals ∧
          FrameR st s' (fun u => u = TEMP.n ∨ u = HEAP.n ∨
            ∃ m, 2 * existing.length ≤ m ∧ m < 2 * (existing.length + toLoad.length) ∧ u = posReg m)) := by
  obtain ⟨code, k', hrun, _, hl, s', hx, B', R', hE, F⟩ :=
    C08_load_correct (la := p.labelAddr) B R hcap hp hop hno k
  refine ⟨code, k', hrun, fun hb => ?_⟩
  obtain ⟨n, steps', hn⟩ := mem_block_runs p cfg (load_free toLoad existing k code _ hrun) hl hb hx
  exact ⟨n, s', steps', hn, B', R', hE, F⟩

end runs

/-! ## non-vacuity: a concrete well-formed state satisfying the hypotheses -/

/-- a state with `X5 = 7`, `X7 = -3`, everything else undefined -/
def demoState : State :=
  { regs := ((Array.replicate 32 none).setIfInBounds 5 (some 7#64)).setIfInBounds 7 (some (-3 : Word)),
    mem := ∅, pc := 0 }

example : demoState.WF := by simp [State.WF, demoState, registerNum]
example : demoState.readReg ⟨5⟩ = .ok 7#64 ∧ demoState.readReg ⟨7⟩ = .ok (-3 : Word) := by
  constructor <;> simp [State.readReg, demoState]
example : (⟨9⟩ : Register).Usable ∧ (⟨5⟩ : Register).Usable ∧ (⟨7⟩ : Register).Usable := by
  simp [Register.Usable, registerNum]
example : Pos.evalOp .div 7#64 (-3 : Word) = .ok (-2 : Word) := by
  simp [Pos.evalOp, Pos.minInt]
example : Pos.evalOp .rem (-3 : Word) 0#64 = .error .divByZero := by simp [Pos.evalOp]
-- the swap hypotheses hold for X5, X7 in `demoState`; a table address is even: codeBase + 4 n
example : (5 : Nat) ≠ 7 ∧ (5 : Nat) ≠ TEMP.n ∧ (7 : Nat) ≠ TEMP.n ∧ (codeBase + 4 * 3) % 2 = 0 := by decide

-- a heap address passes the address check of the default configuration; the code of the
-- combinators' branches in memory.rs contains no labels at all
example : checkAddr {} heapBase = .ok () := by simp [checkAddr, heapBase]
example : skipTo (labName 1) [.COMMENT "x", .LW TEMP ⟨6⟩ 0, .ADDI TEMP TEMP 1, .SW TEMP ⟨6⟩ 0] = none := by
  rfl

/-! ### memory contracts: a concrete machine state with a heap -/

/-- the entry state of the machine (`X2 = heap base`, `X3 = X2 + 64`) with `X5 = 7`, `X7 = -3` and a
heap pointer (block 2 of the heap) in `X6` -/
def exStateH : State :=
  { regs := (((((Array.replicate 32 none).setIfInBounds 2 (some 0x10000000#64)).setIfInBounds 3
      (some 0x10000040#64)).setIfInBounds 5 (some 7#64)).setIfInBounds 6 (some 0x10000080#64)).setIfInBounds 7
        (some (-3 : Word)),
    mem := ∅, pc := 0 }

theorem exStateH_boundary : Boundary {} exStateH := ⟨by simp [State.WF, exStateH, registerNum], by decide⟩

def exHeap : Scc.Heap.HState := Scc.Heap.init 0x10000000 (0x10000000 + 0x2000000)

theorem exStateH_heapRel : HeapRel {} exStateH exHeap :=
  ⟨rfl, rfl, fun a => by simp [exHeap, Scc.Heap.init, exStateH],
   ⟨0x10000000#64, by simp [State.readReg, exStateH, HEAP], by decide⟩,
   ⟨0x10000040#64, by simp [State.readReg, exStateH, FREE], by decide⟩⟩

theorem exAcquire : Scc.Heap.acquire exHeap =
    .ok ({ exHeap with heap := 0x10000040, free := 0x10000080 }, 0x10000000) := by
  simp [Scc.Heap.acquire, Scc.Heap.rd, exHeap, Scc.Heap.init, Scc.Heap.blockSize]

/-- bump allocation into `X8` (additional temporary `X9`): `X8` ends up holding the old HEAP, `X5`
(= 7) is kept -/
example : ∃ code st', (acquireBlock ⟨8⟩ ⟨9⟩).run 0 = .ok (code, 13) ∧
    execFwd {} (fun _ => none) code exStateH = .ok (st', .fall) ∧
    st'.readReg ⟨8⟩ = .ok 0x10000000#64 ∧ st'.readReg ⟨5⟩ = .ok 7#64 := by
  obtain ⟨code, hrun, _, st', hx, _, _, ⟨w, hw, ew⟩, F⟩ := C08_acquire_block_correct (la := fun _ => none)
    exStateH_boundary exStateH_heapRel (nb := ⟨8⟩) (at' := ⟨9⟩) (by decide) (by decide) (by decide)
    (by decide) (by decide) exAcquire 0
  refine ⟨code, st', hrun, hx, ?_, ?_⟩
  · rw [hw]; congr 1; exact BitVec.eq_of_toNat_eq (by rw [ew]; rfl)
  · rw [F.readReg ⟨5⟩ (by simp) (by decide)]
    simp [State.readReg, exStateH]

/-- a heap whose linear free list is exhausted (`[HEAP] = 0`) and whose lazy free list starts with the
block 0x10000040 (next: 0x10000100) that still references the child 0x100000c0 (count 1) -/
def exMemLazy : Scc.Heap.Mem :=
  ((Scc.Heap.Mem.empty.set 0x10000040 0x10000100).set 0x10000050 0x100000c0).set 0x100000c0 1

def exHeapLazy : Scc.Heap.HState := { exHeap with mem := exMemLazy }

def exStateLazy : State :=
  { exStateH with mem := (((∅ : Std.HashMap Nat Word).insert 0x10000040 0x10000100#64).insert 0x10000050
      0x100000c0#64).insert 0x100000c0 1#64 }

theorem exStateLazy_boundary : Boundary {} exStateLazy :=
  ⟨by simp [State.WF, exStateLazy, exStateH, registerNum], by decide⟩

theorem exStateLazy_heapRel : HeapRel {} exStateLazy exHeapLazy := by
  refine ⟨rfl, rfl, fun a => ?_, ⟨0x10000000#64, by simp [State.readReg, exStateLazy, exStateH, HEAP], rfl⟩,
    ⟨0x10000040#64, by simp [State.readReg, exStateLazy, exStateH, FREE], rfl⟩⟩
  simp only [exHeapLazy, exMemLazy, exStateLazy, Scc.Heap.Mem.get_set, Std.HashMap.getD_insert,
    Scc.Heap.Mem.get_empty]
  by_cases h1 : 0x100000c0 = a
  · subst h1; simp
  by_cases h2 : 0x10000050 = a
  · subst h2; simp
  by_cases h3 : 0x10000040 = a
  · subst h3; simp
  simp [h1, h2, h3]

theorem exAcquireLazy : ∃ h', Scc.Heap.acquire exHeapLazy = .ok (h', 0x10000000) ∧ h'.heap = 0x10000040 ∧
    h'.free = 0x10000100 ∧ h'.mem.get 0x10000040 = 0 ∧ h'.mem.get 0x100000c0 = 0 := by
  simp [Scc.Heap.acquire, Scc.Heap.eraseFields, Scc.Heap.eraseBlock, Scc.Heap.rd, Scc.Heap.wr,
    Scc.Heap.Mem.get_set, exHeapLazy, exMemLazy, exHeap, Scc.Heap.init, Scc.Heap.fstOff, Scc.Heap.fieldOffset,
    Scc.Heap.blockSize]

/-- case (2) of `acquire_block`: the head of the lazy free list becomes the next free block, its child
is erased (count 1 ↦ 0) through the additional temporary `X9` -/
example : ∃ code st' h', (acquireBlock ⟨8⟩ ⟨9⟩).run 0 = .ok (code, 13) ∧
    execFwd {} (fun _ => none) code exStateLazy = .ok (st', .fall) ∧ HeapRel {} st' h' ∧
    st'.readReg ⟨8⟩ = .ok 0x10000000#64 ∧ h'.heap = 0x10000040 ∧ h'.free = 0x10000100 ∧
    h'.mem.get 0x100000c0 = 0 := by
  obtain ⟨h', hop, hh, hf, _, hc⟩ := exAcquireLazy
  obtain ⟨code, hrun, _, st', hx, _, R', ⟨w, hw, ew⟩, _⟩ := C08_acquire_block_correct (la := fun _ => none)
    exStateLazy_boundary exStateLazy_heapRel (nb := ⟨8⟩) (at' := ⟨9⟩) (by decide) (by decide) (by decide)
    (by decide) (by decide) hop 0
  refine ⟨code, st', h', hrun, hx, R', ?_, hh, hf, hc⟩
  rw [hw]; congr 1; exact BitVec.eq_of_toNat_eq (by rw [ew]; rfl)

/-- `exStateH` viewed as an environment: position 0 = (X4: undefined, X5 = 7), an `ext` variable;
position 1 = (X6 = pointer 0x10000080, X7 = -3), a producer -/
def exCtx : Ctx := [⟨⟨"a", 1⟩, .ext, .i64⟩, ⟨⟨"b", 2⟩, .prd, .i64⟩]

theorem exEnv : EnvFieldsM exStateH 0 exCtx [.int 7, .ptr 0x10000080 18446744073709551613] := by
  refine ⟨?_, ?_, trivial⟩
  · exact ⟨7#64, rfl, by simp [mview, exStateH, posReg]⟩
  · exact ⟨0x10000080#64, (-3 : Word), rfl, by simp [mview, exStateH, posReg], by simp [mview, exStateH, posReg]⟩

theorem exStore : ∃ h', Scc.Heap.storeObj exHeap [.int 7, .ptr 0x10000080 18446744073709551613] =
    .ok (h', 0x10000000) := by
  simp [Scc.Heap.storeObj, heap_storeFields_cons, heap_storeFields_nil, Scc.Heap.restLength, Scc.Heap.storeValues,
    Scc.Heap.storeValuesRev, Scc.Heap.storeValue, Scc.Heap.storeZeros, Scc.Heap.storeZerosFrom, Scc.Heap.wr,
    Scc.Heap.acquire, Scc.Heap.rd, Scc.Heap.Mem.get_set, exHeap, Scc.Heap.init, Scc.Heap.fieldsPerBlock,
    Scc.Heap.BlockPosition.toNat, Scc.Heap.sndOff, Scc.Heap.fstOff, Scc.Heap.fieldOffset, Scc.Heap.blockSize]

/-- one block: both variables of `exCtx` are stored; X4 (first register of position 0) ends up
holding the object pointer = the old HEAP -/
example : ∃ code k' st', (rvBackend.store exCtx []).run 0 = .ok (code, k') ∧
    execFwd {} (fun _ => none) code exStateH = .ok (st', .fall) ∧
    st'.readReg ⟨4⟩ = .ok 0x10000000#64 := by
  obtain ⟨h', hop⟩ := exStore
  obtain ⟨code, k', hrun, _, _, st', hx, _, _, ⟨w, hw, ew⟩, _⟩ := C08_store_correct (la := fun _ => none)
    exStateH_boundary exStateH_heapRel (toStore := exCtx) (rem := []) (by decide) (by decide) exEnv hop 0
  refine ⟨code, k', st', hrun, hx, ?_⟩
  have : posTemp (2 * ([] : Ctx).length) = ⟨4⟩ := rfl
  rw [this] at hw
  rw [hw]; congr 1; exact BitVec.eq_of_toNat_eq (by rw [ew]; rfl)

/-- four integer variables in X5, X7, X9, X11 (second registers of positions 0..3) -/
def exStateS : State :=
  { regs := ((((((Array.replicate 32 none).setIfInBounds 2 (some 0x10000000#64)).setIfInBounds 3
      (some 0x10000040#64)).setIfInBounds 5 (some 1#64)).setIfInBounds 7 (some 2#64)).setIfInBounds 9
        (some 3#64)).setIfInBounds 11 (some 4#64),
    mem := ∅, pc := 0 }

theorem exStateS_boundary : Boundary {} exStateS := ⟨by simp [State.WF, exStateS, registerNum], by decide⟩

theorem exStateS_heapRel : HeapRel {} exStateS exHeap :=
  ⟨rfl, rfl, fun a => by simp [exHeap, Scc.Heap.init, exStateS],
   ⟨0x10000000#64, by simp [State.readReg, exStateS, HEAP], by decide⟩,
   ⟨0x10000040#64, by simp [State.readReg, exStateS, FREE], by decide⟩⟩

def exCtx4 : Ctx := [⟨⟨"a", 1⟩, .ext, .i64⟩, ⟨⟨"b", 2⟩, .ext, .i64⟩, ⟨⟨"c", 3⟩, .ext, .i64⟩, ⟨⟨"d", 4⟩, .ext, .i64⟩]

theorem exEnv4 : EnvFieldsM exStateS 0 exCtx4 [.int 1, .int 2, .int 3, .int 4] :=
  ⟨⟨1#64, rfl, by simp [mview, exStateS, posReg]⟩, ⟨2#64, rfl, by simp [mview, exStateS, posReg]⟩,
   ⟨3#64, rfl, by simp [mview, exStateS, posReg]⟩, ⟨4#64, rfl, by simp [mview, exStateS, posReg]⟩, trivial⟩

theorem exStore4 : ∃ h', Scc.Heap.storeObj exHeap [.int 1, .int 2, .int 3, .int 4] = .ok (h', 0x10000040) := by
  simp [Scc.Heap.storeObj, heap_storeFields_cons, heap_storeFields_nil, Scc.Heap.restLength, Scc.Heap.storeValues,
    Scc.Heap.storeValuesRev, Scc.Heap.storeValue, Scc.Heap.storeZeros, Scc.Heap.storeZerosFrom, Scc.Heap.wr,
    Scc.Heap.acquire, Scc.Heap.rd, Scc.Heap.Mem.get_set, exHeap, Scc.Heap.init, Scc.Heap.fieldsPerBlock,
    Scc.Heap.BlockPosition.toNat, Scc.Heap.sndOff, Scc.Heap.fstOff, Scc.Heap.fieldOffset, Scc.Heap.blockSize]

/-- a chain of TWO blocks (4 fields): the object pointer is the second acquired block -/
example : ∃ code k' st', (rvBackend.store exCtx4 []).run 0 = .ok (code, k') ∧
    execFwd {} (fun _ => none) code exStateS = .ok (st', .fall) ∧
    st'.readReg ⟨4⟩ = .ok 0x10000040#64 := by
  obtain ⟨h', hop⟩ := exStore4
  obtain ⟨code, k', hrun, _, _, st', hx, _, _, ⟨w, hw, ew⟩, _⟩ := C08_store_correct (la := fun _ => none)
    exStateS_boundary exStateS_heapRel (toStore := exCtx4) (rem := []) (by decide) (by decide) exEnv4 hop 0
  refine ⟨code, k', st', hrun, hx, ?_⟩
  have : posTemp (2 * ([] : Ctx).length) = ⟨4⟩ := rfl
  rw [this] at hw
  rw [hw]; congr 1; exact BitVec.eq_of_toNat_eq (by rw [ew]; rfl)

/-- the capacity hypotheses of `C08_store_correct` are the capacity of the real code: with 14 variables
remaining there is no register for the result (position 14): the Rust panic "Out of registers" -/
example (rem : Ctx) (h : rem.length = 14) (k : Nat) :
    (rvBackend.store [] rem).run k = .error "Out of registers" := by
  show (storeFields [] rem .last).run k = _
  rw [storeFields]
  simp only [List.isEmpty_nil, dite_true, beq_self_eq_true, if_true]
  unfold freshTemporary positionRegister
  rw [h]
  rfl

/-- a heap holding at 0x10000080 an object of two fields — an integer 7 and a pointer 0x100000c0 with
word 9 — whose count is `cnt` -/
def exMemObj (cnt : Nat) : Scc.Heap.Mem :=
  (((Scc.Heap.Mem.empty.set 0x10000080 cnt).set 0x100000a8 7).set 0x100000b0 0x100000c0).set 0x100000b8 9

def exHeapObj (cnt : Nat) : Scc.Heap.HState := { exHeap with mem := exMemObj cnt }

/-- `exStateH` (X6 = 0x10000080: first register of position 1) with that heap -/
def exStateObj (cnt : Word) : State :=
  { exStateH with mem := ((((∅ : Std.HashMap Nat Word).insert 0x10000080 cnt).insert 0x100000a8 7#64).insert
      0x100000b0 0x100000c0#64).insert 0x100000b8 9#64 }

theorem exStateObj_boundary (cnt : Word) : Boundary {} (exStateObj cnt) :=
  ⟨by simp [State.WF, exStateObj, exStateH, registerNum], by decide⟩

theorem exStateObj_heapRel (cnt : Word) : HeapRel {} (exStateObj cnt) (exHeapObj cnt.toNat) := by
  refine ⟨rfl, rfl, fun a => ?_, ⟨0x10000000#64, by simp [State.readReg, exStateObj, exStateH, HEAP], rfl⟩,
    ⟨0x10000040#64, by simp [State.readReg, exStateObj, exStateH, FREE], rfl⟩⟩
  simp only [exHeapObj, exMemObj, exStateObj, Scc.Heap.Mem.get_set, Std.HashMap.getD_insert, exHeap, Scc.Heap.init,
    Scc.Heap.Mem.get_empty]
  by_cases h1 : 0x100000b8 = a
  · subst h1; simp
  by_cases h2 : 0x100000b0 = a
  · subst h2; simp
  by_cases h3 : 0x100000a8 = a
  · subst h3; simp
  by_cases h4 : 0x10000080 = a
  · subst h4; simp
  simp [h1, h2, h3, h4]

/-- the variables to load: an integer and a producer, at positions 1 and 2 (after `a` at position 0) -/
def exLoadCtx : Ctx := [⟨⟨"x", 3⟩, .ext, .i64⟩, ⟨⟨"y", 4⟩, .prd, .i64⟩]

theorem exLoadUnique : ∃ h', Scc.Heap.loadObj (exHeapObj 0) (0x10000080#64).toNat (exLoadCtx.map kindOf) =
    .ok (h', [.int 7, .ptr 0x100000c0 9]) := by
  simp [Scc.Heap.loadObj, heap_loadFields_cons, heap_loadFields_nil, Scc.Heap.restLength, Scc.Heap.loadValues,
    Scc.Heap.loadValuesRev, Scc.Heap.loadValue, Scc.Heap.releaseBlock, Scc.Heap.wr, Scc.Heap.rd,
    Scc.Heap.Mem.get_set, exHeapObj, exMemObj, exHeap, Scc.Heap.init, Scc.Heap.fieldsPerBlock,
    Scc.Heap.BlockPosition.toNat, Scc.Heap.sndOff, Scc.Heap.fstOff, Scc.Heap.fieldOffset, exLoadCtx, kindOf,
    show (Chi.prd != Chi.ext) = true from rfl, show (Chi.ext != Chi.ext) = false from rfl]

theorem exLoadShared : ∃ h', Scc.Heap.loadObj (exHeapObj 1) (0x10000080#64).toNat (exLoadCtx.map kindOf) =
    .ok (h', [.int 7, .ptr 0x100000c0 9]) ∧ h'.mem.get 0x10000080 = 0 ∧ h'.mem.get 0x100000c0 = 1 ∧
      ∀ a, h'.mem.get a < 2 ^ 64 := by
  simp [Scc.Heap.loadObj, heap_loadFields_cons, heap_loadFields_nil, Scc.Heap.restLength, Scc.Heap.loadValues,
    Scc.Heap.loadValuesRev, Scc.Heap.loadValue, Scc.Heap.shareBlock, Scc.Heap.wr, Scc.Heap.rd,
    Scc.Heap.Mem.get_set, exHeapObj, exMemObj, exHeap, Scc.Heap.init, Scc.Heap.fieldsPerBlock,
    Scc.Heap.BlockPosition.toNat, Scc.Heap.sndOff, Scc.Heap.fstOff, Scc.Heap.fieldOffset, exLoadCtx, kindOf,
    show (Chi.prd != Chi.ext) = true from rfl, show (Chi.ext != Chi.ext) = false from rfl]
  intro a
  repeat' split
  all_goals omega

theorem exStateObj_ptr (cnt : Word) :
    (exStateObj cnt).readReg (posTemp (2 * [(⟨⟨"a", 1⟩, .ext, .i64⟩ : Binding)].length)) = .ok 0x10000080#64 := by
  simp [State.readReg, exStateObj, exStateH, posTemp, posReg]

/-- unique load: X8 (first register of position 2) ends up holding the child pointer, X9 the word 9,
X7 (second register of position 1) the integer 7; X5 (variable `a` of the existing context) is kept -/
example : ∃ code k' st', (rvBackend.load exLoadCtx [⟨⟨"a", 1⟩, .ext, .i64⟩]).run 0 = .ok (code, k') ∧
    execFwd {} (fun _ => none) code (exStateObj 0) = .ok (st', .fall) ∧
    EnvFieldsM st' 1 exLoadCtx [.int 7, .ptr 0x100000c0 9] ∧
    st'.readReg ⟨5⟩ = .ok 7#64 := by
  obtain ⟨h', hop⟩ := exLoadUnique
  obtain ⟨code, k', hrun, _, _, st', hx, _, _, hE, F⟩ := C08_load_unique_correct (la := fun _ => none)
    (exStateObj_boundary 0) (exStateObj_heapRel 0) (toLoad := exLoadCtx)
    (existing := [⟨⟨"a", 1⟩, .ext, .i64⟩]) (by decide) (pw := 0x10000080#64) (exStateObj_ptr 0)
    (by simp [exHeapObj, exMemObj, Scc.Heap.Mem.get_set]) hop 0
  refine ⟨code, k', st', hrun, hx, hE, ?_⟩
  rw [F.readReg ⟨5⟩ (by
    rintro (e | e | ⟨m, h1, _, e⟩)
    · cases e
    · cases e
    · simp [posReg] at h1 e; omega) (by decide)]
  simp [State.readReg, exStateObj, exStateH]

/-- shared load: the object's count drops to 0, the child's count rises to 1 -/
example : ∃ code k' st' h', (rvBackend.load exLoadCtx [⟨⟨"a", 1⟩, .ext, .i64⟩]).run 0 = .ok (code, k') ∧
    execFwd {} (fun _ => none) code (exStateObj 1) = .ok (st', .fall) ∧ HeapRel {} st' h' ∧
    EnvFieldsM st' 1 exLoadCtx [.int 7, .ptr 0x100000c0 9] ∧
    h'.mem.get 0x10000080 = 0 ∧ h'.mem.get 0x100000c0 = 1 := by
  obtain ⟨h', hop, hc1, hc2, hno⟩ := exLoadShared
  obtain ⟨code, k', hrun, _, _, st', hx, _, R', hE, _⟩ := C08_load_shared_correct (la := fun _ => none)
    (exStateObj_boundary 1) (exStateObj_heapRel 1) (toLoad := exLoadCtx)
    (existing := [⟨⟨"a", 1⟩, .ext, .i64⟩]) (by decide) (pw := 0x10000080#64) (exStateObj_ptr 1)
    (by simp [exHeapObj, exMemObj, Scc.Heap.Mem.get_set]) hop hno 0
  exact ⟨code, k', st', h', hrun, hx, R', hE, hc1, hc2⟩

/-- the heap after `store exCtx4` (the chain of two blocks of the example above): the object is at
0x10000040 (field 1 = 1, link to 0x10000000), the block 0x10000000 holds 2, 3, 4 -/
def exMemChain : Scc.Heap.Mem :=
  ((((Scc.Heap.Mem.empty.set 0x10000068 1).set 0x10000070 0x10000000).set 0x10000018 2).set 0x10000028 3).set
    0x10000038 4

def exHeapChain : Scc.Heap.HState :=
  { exHeap with mem := exMemChain, heap := 0x10000080, free := 0x100000c0 }

/-- the object pointer in X4 (first register of position 0), HEAP and FREE as after the store -/
def exStateChain : State :=
  { regs := (((Array.replicate 32 none).setIfInBounds 2 (some 0x10000080#64)).setIfInBounds 3
      (some 0x100000c0#64)).setIfInBounds 4 (some 0x10000040#64),
    mem := (((((∅ : Std.HashMap Nat Word).insert 0x10000068 1#64).insert 0x10000070 0x10000000#64).insert
      0x10000018 2#64).insert 0x10000028 3#64).insert 0x10000038 4#64,
    pc := 0 }

theorem exStateChain_boundary : Boundary {} exStateChain :=
  ⟨by simp [State.WF, exStateChain, registerNum], by decide⟩

theorem exStateChain_heapRel : HeapRel {} exStateChain exHeapChain := by
  refine ⟨rfl, rfl, fun a => ?_, ⟨0x10000080#64, by simp [State.readReg, exStateChain, HEAP], rfl⟩,
    ⟨0x100000c0#64, by simp [State.readReg, exStateChain, FREE], rfl⟩⟩
  simp only [exHeapChain, exMemChain, exStateChain, Scc.Heap.Mem.get_set, Std.HashMap.getD_insert,
    Scc.Heap.Mem.get_empty]
  by_cases h1 : 0x10000038 = a
  · subst h1; simp
  by_cases h2 : 0x10000028 = a
  · subst h2; simp
  by_cases h3 : 0x10000018 = a
  · subst h3; simp
  by_cases h4 : 0x10000070 = a
  · subst h4; simp
  by_cases h5 : 0x10000068 = a
  · subst h5; simp
  simp [h1, h2, h3, h4, h5]

theorem exLoadChain : ∃ h', Scc.Heap.loadObj exHeapChain (0x10000040#64).toNat (exCtx4.map kindOf) =
    .ok (h', [.int 1, .int 2, .int 3, .int 4]) ∧ h'.heap = 0x10000000 := by
  simp [Scc.Heap.loadObj, heap_loadFields_cons, heap_loadFields_nil, Scc.Heap.restLength, Scc.Heap.loadValues,
    Scc.Heap.loadValuesRev, Scc.Heap.loadValue, Scc.Heap.releaseBlock, Scc.Heap.wr, Scc.Heap.rd,
    Scc.Heap.Mem.get_set, exHeapChain, exMemChain, exHeap, Scc.Heap.init, Scc.Heap.fieldsPerBlock,
    Scc.Heap.BlockPosition.toNat, Scc.Heap.sndOff, Scc.Heap.fstOff, Scc.Heap.fieldOffset, exCtx4, kindOf,
    show (Chi.ext != Chi.ext) = false from rfl]

/-- unique load of a chain of TWO blocks (4 fields): the four integers end up in X5, X7, X9, X11, both
blocks are back on the linear free list (HEAP = the second block of the chain) -/
example : ∃ code k' st' h', (rvBackend.load exCtx4 []).run 0 = .ok (code, k') ∧
    execFwd {} (fun _ => none) code exStateChain = .ok (st', .fall) ∧ HeapRel {} st' h' ∧
    EnvFieldsM st' 0 exCtx4 [.int 1, .int 2, .int 3, .int 4] ∧ h'.heap = 0x10000000 := by
  obtain ⟨h', hop, hh⟩ := exLoadChain
  obtain ⟨code, k', hrun, _, _, st', hx, _, R', hE, _⟩ := C08_load_unique_correct (la := fun _ => none)
    exStateChain_boundary exStateChain_heapRel (toLoad := exCtx4) (existing := []) (by decide)
    (pw := 0x10000040#64) (by simp [State.readReg, exStateChain, posTemp, posReg])
    (by simp [exHeapChain, exMemChain, Scc.Heap.Mem.get_set]) hop 0
  exact ⟨code, k', st', h', hrun, hx, R', hE, hh⟩

/-! ### the bridge: a concrete laid-out program -/

/-- the code of `share_block_n X6 2` (label `lab1`) -/
def exShareCode : List Code :=
  [.BEQ ⟨6⟩ ZERO (labName 1), .COMMENT "####increment refcount", .LW TEMP ⟨6⟩ referenceCountOffset,
   .ADDI TEMP TEMP 2, .SW TEMP ⟨6⟩ referenceCountOffset, .LAB (labName 1)]

/-- … laid out at item 0 (the comment is dropped; `lab1` is item 4) -/
def exProg : Program :=
  { items := #[⟨1, .BEQ ⟨6⟩ ZERO (labName 1), 0x400000, none⟩, ⟨3, .LW TEMP ⟨6⟩ referenceCountOffset, 0x400004, none⟩,
      ⟨4, .ADDI TEMP TEMP 2, 0x400008, none⟩, ⟨5, .SW TEMP ⟨6⟩ referenceCountOffset, 0x40000c, none⟩,
      ⟨7, .LAB (labName 1), 0x400010, none⟩],
    labelIdx := (∅ : Std.HashMap String Nat).insert (labName 1) 4, addrIdx := ∅, entry := none }

theorem exProg_blockAt : BlockAt exProg exStateH.pc (stripComments exShareCode) := by
  have hs : stripComments exShareCode = [.BEQ ⟨6⟩ ZERO (labName 1), .LW TEMP ⟨6⟩ referenceCountOffset,
      .ADDI TEMP TEMP 2, .SW TEMP ⟨6⟩ referenceCountOffset, .LAB (labName 1)] := rfl
  rw [hs]
  refine ⟨fun i h => ?_, fun j l h => ?_⟩
  · match i, h with
    | 0, _ => exact ⟨_, rfl, rfl⟩
    | 1, _ => exact ⟨_, rfl, rfl⟩
    | 2, _ => exact ⟨_, rfl, rfl⟩
    | 3, _ => exact ⟨_, rfl, rfl⟩
    | 4, _ => exact ⟨_, rfl, rfl⟩
    | n + 5, h => simp at h; omega
  · match j, h with
    | 0, h => simp at h
    | 1, h => simp at h
    | 2, h => simp at h
    | 3, h => simp at h
    | 4, h =>
      simp at h
      subst h
      simp [exProg, exStateH]
    | n + 5, h => simp at h

theorem exProg_runnable : Runnable (stripComments exShareCode) := runnable_of_B (by decide)

/-- `share_block_n X6 2` run by the machine's loop from `exStateH`: after `k` units of fuel the loop is
behind the block (item 5) and the count of the block 0x10000080 is 2 -/
example : ∃ k st', (∀ fuel, runLoop exProg {} (fuel + k) exStateH = runLoop exProg {} fuel st') ∧
    st'.pc = 5 ∧ st'.mem.getD 0x10000080 0 = 2#64 := by
  obtain ⟨code, c', s', hrun, hx, hmem, _, _⟩ := shareBlockN_spec {} exProg.labelAddr ⟨6⟩ 2 0 exStateH
    exStateH_boundary.wf 0x10000080#64 (by simp [State.readReg, exStateH]) (by decide) (by decide)
    (by simp [checkAddr, heapBase])
  rw [shareBlockN_run] at hrun
  simp only [Except.ok.injEq, Prod.mk.injEq] at hrun
  obtain ⟨rfl, _⟩ := hrun
  obtain ⟨k, steps', hk⟩ := C08_machine_run_fwd exProg {} exShareCode exStateH s' exProg_blockAt
    exProg_runnable hx
  refine ⟨k, _, hk, rfl, ?_⟩
  simp only [setPS]
  rw [hmem]
  simp [exStateH, imm]

end Scc.RV

#print axioms Scc.RV.C08_capacity
#print axioms Scc.RV.C08_capacity_fresh
#print axioms Scc.RV.C08_temporaries_disjoint
#print axioms Scc.RV.C08_B_op
#print axioms Scc.RV.C08_B_compare
#print axioms Scc.RV.C08_B_literal
#print axioms Scc.RV.C08_B_mov
#print axioms Scc.RV.C08_B_swap
#print axioms Scc.RV.C08_B_addAndJump
#print axioms Scc.RV.C08_B_switch_dispatch
#print axioms Scc.RV.C08_B_exit
#print axioms Scc.RV.C08_B_skipIfZero
#print axioms Scc.RV.C08_B_ifZeroThenElse
#print axioms Scc.RV.C08_B_shareBlockN
#print axioms Scc.RV.C08_B_eraseBlock
#print axioms Scc.RV.C08_acquire_block_correct
#print axioms Scc.RV.C08_store_correct
#print axioms Scc.RV.C08_load_correct
#print axioms Scc.RV.C08_load_unique_correct
#print axioms Scc.RV.C08_load_shared_correct
#print axioms Scc.RV.C08_machine_run_fwd
#print axioms Scc.RV.C08_acquire_block_runs
#print axioms Scc.RV.C08_store_runs
#print axioms Scc.RV.C08_load_runs

#print axioms Scc.RV.exStateH_boundary
#print axioms Scc.RV.exStateH_heapRel
#print axioms Scc.RV.exAcquire
#print axioms Scc.RV.exStateLazy_boundary
#print axioms Scc.RV.exStateLazy_heapRel
#print axioms Scc.RV.exAcquireLazy
#print axioms Scc.RV.exEnv
#print axioms Scc.RV.exStore
#print axioms Scc.RV.exStateS_boundary
#print axioms Scc.RV.exStateS_heapRel
#print axioms Scc.RV.exEnv4
#print axioms Scc.RV.exStore4
#print axioms Scc.RV.exStateObj_boundary
#print axioms Scc.RV.exStateObj_heapRel
#print axioms Scc.RV.exLoadUnique
#print axioms Scc.RV.exLoadShared
#print axioms Scc.RV.exStateObj_ptr
#print axioms Scc.RV.exStateChain_boundary
#print axioms Scc.RV.exStateChain_heapRel
#print axioms Scc.RV.exLoadChain
#print axioms Scc.RV.exProg_blockAt
#print axioms Scc.RV.exProg_runnable
