/-
  Scc.Props.NonVacuity — machine-checked NON-TRIVIAL instances of the hypotheses of the headline theorems (the
  examples next to the theorems are mostly small hand-written ones), and of the headline forms themselves.

  For a source text, every decidable hypothesis is evaluated by the KERNEL (`decide +kernel`) on the output of
  the model's own front end and middle end; then the headline theorem is APPLIED, so that the result is a
  closed, hypothesis-free statement about that program.  Nothing here uses `#eval`.
  Pattern: `chk f src = true` evaluates a Boolean predicate `f p p' st` on (parsed program, checked program,
  stages) of `src`; `∃ p p' st, stagesOf src = some (p, p', st) ∧ …` is the resulting closed statement.

  The programs:
  * `C01E_sumSrc` (Props/C01End.lean; here `src`): `range(n)` builds a list recursively, `sum` adds it up
    recursively under a `let` (so S5 contains closures: `create` / `invoke`), `case`, `println_i64`.  On it:
    C02–C05, the x86-64 and text-level theorems (C06, C14, C16, C18, C19), AArch64 (C07), and C01
    (`C01E_sum_hyps`, `C01E_sum_accepted`, `C01E_sum_conclusion`, at the end of the file in the namespace
    `Scc.Props`, where Props/C01End.lean has its other examples).  ONE evaluation, `src_hyps`, serves all of
    them: they share the front end and the stages.
  * `rvSrc`: the same without the `println_i64` (the RISC-V backend does not implement `print`), for C08.
  * `C06_cloProg` (Props/C06X86Full.lean, a hand-written AxCut program with closures): the headline forms of
    C09 / C10 / C13, whose hypothesis is a bound on the peak of the heap.
  * a hand-written substitution with a cycle, for C11.

  What the kernel can NOT evaluate: `X86.run` / `A64.run` / `RV.run` (memories are `Std.HashMap`s); for the
  machine-level theorems the premises are evaluated and the conclusion is obtained from the theorem only.
-/
import Scc.Props.C01End
import Scc.Props.C03
import Scc.Props.C04Sem
import Scc.Props.C05
import Scc.Props.C07A64Full
import Scc.Props.C14LoaderRV
import Scc.Props.C09X86All
import Scc.Props.C10X86All
import Scc.Props.C11
import Scc.Props.C14X86Final
import Scc.Props.C16
import Scc.Fun.ZeroEdge
import Scc.Props.C18Fuel
import Scc.Props.C19Rest
import Scc.Props.C12Final
import Scc.Props.C13X86All
import Scc.Props.C15
import Scc.Props.C20Spelling

namespace Scc.Props.NonVacuity

open Scc.Pipeline
open Scc.Fun.Check (checkProgram programNamesOk)

def stagesOf (s : String) : Option (Fun.Program × Fun.CheckedProgram × Stages) :=
  match frontEnd s with
  | .ok p p' =>
    match stages p' with
    | .ok st => some (p, p', st)
    | .error _ => none
  | _ => none

def chk (f : Fun.Program → Fun.CheckedProgram → Stages → Bool) (s : String) : Bool :=
  match stagesOf s with
  | some (p, p', st) => f p p' st
  | none => false

theorem chk_elim {f : Fun.Program → Fun.CheckedProgram → Stages → Bool} {s : String}
    (h : chk f s = true) : ∃ p p' st, stagesOf s = some (p, p', st) ∧ f p p' st = true := by
  unfold chk at h
  split at h
  · rename_i p p' st hs
    exact ⟨p, p', st, hs, h⟩
  · cases h

theorem stagesOf_spec {s : String} {p : Fun.Program} {p' : Fun.CheckedProgram} {st : Stages}
    (h : stagesOf s = some (p, p', st)) : frontEnd s = .ok p p' ∧ stages p' = .ok st := by
  unfold stagesOf at h
  split at h
  · rename_i q q' hfe
    split at h
    · rename_i st' hst
      simp only [Option.some.injEq, Prod.mk.injEq] at h
      obtain ⟨rfl, rfl, rfl⟩ := h
      exact ⟨hfe, hst⟩
    · cases h
  · cases h

/-- the test program: recursive list construction and recursive list sum, `case`, closures in S5 -/
abbrev src : String := C01E_sumSrc

def res10 : Obs := ⟨[(true, 10)], .done 10⟩

/-! ## the middle end: C02, C03, C04, C05 on the stages of the list sum -/

/-- `Input` of C03 (Props/C03.lean) as a Boolean -/
def inputB (p : Core.Prog) : Bool :=
  p.wellTyped && p.defs.all (fun d => d.ids.all (· == 0)) &&
  p.defs.all (fun d => d.body.occIds.all (fun i => decide (i ≤ p.maxId))) && p.noSigma

theorem inputB_sound {p : Core.Prog} (h : inputB p = true) : Input p := by
  simp only [inputB, Bool.and_eq_true, List.all_eq_true, beq_iff_eq, decide_eq_true_eq] at h
  obtain ⟨⟨⟨h1, h2⟩, h3⟩, h4⟩ := h
  exact ⟨h1, h2, h3, h4⟩

def c02Hyps (p : Fun.Program) (p' : Fun.CheckedProgram) : Bool :=
  programNamesOk p && Fun.Sequenced p' && validMain p' && Fun.noMainCall p' && C02_noSigmaNames p'

def c03Hyps (st : Stages) : Bool := inputB st.s2 && typesDisjoint st.s2

def c04Hyps (st : Stages) : Bool :=
  Core2AxCut.wtFsScopedCheck st.s3 && Core2AxCut.uniqueIdsCheck st.s3 && Core2AxCut.idsBoundedCheck st.s3 &&
  Core2AxCut.mainIntParams st.s3 &&
  (match st.s3.defs with
   | d :: _ => d.name.name == "main"
   | [] => false)

def c05Hyps (st : Stages) : Bool :=
  AxCut.wfNonLinearCheck st.s4 && AxCut.noEnvAnnProg st.s4 &&
  (match st.s4.defs.head? with
   | some d => d.ctx.all fun b => decide (b.chi = .ext ∧ b.ty = .i64)
   | none => false)

/-- the five machines finish on the argument 4 with the same observation (the premises `… = done v` of the
    inner implications of C02–C05 are satisfiable on this program) -/
def midRuns (p' : Fun.CheckedProgram) (st : Stages) : Bool :=
  decide (ofFun (Fun.run p' [4] 1000) = res10) && decide (ofCore (Core.run st.s2 [4] 1000) = res10) &&
  decide (ofCore (Core.fsRun st.s3 [4] 1000) = res10) &&
  decide (ofNamed (AxCut.Named.run st.s4 [4] 1000) = res10) &&
  decide (ofPos (AxCut.Pos.run st.s5 [4] 1000) = res10)

def midHyps (p : Fun.Program) (p' : Fun.CheckedProgram) (st : Stages) : Bool :=
  c02Hyps p p' && c03Hyps st && c04Hyps st && c05Hyps st && midRuns p' st

/-- what the four theorems say about the list sum, NO hypothesis left -/
structure MidConclusion (p' : Fun.CheckedProgram) (st : Stages) : Prop where
  /-- C02: Fun machine ~ Core machine on S2, all four clauses, all arguments -/
  c02 : ∀ args : List Word,
    C02_ObsSame (fun n => ofFun (Fun.run p' args n)) (fun n => ofCore (Core.run st.s2 args n))
  /-- C03: ς-machine on S2 ~ focused machine on S3, all arguments; unique binders in S3 -/
  c03 : (∀ args, ObsEq (Core.run st.s2 args) (Core.fsRun st.s3 args)) ∧
    (∀ d ∈ st.s3.defs, Core.UniqueBinders st.s3.maxId d)
  /-- C04: focused machine on S3 ~ named AxCut machine on S4 -/
  c04 : ∀ args, SameBehaviour (coreFsRun st.s3 args) (AxCut.Named.run st.s4 args)
  /-- C05 (a, b): S5 is linearly typed -/
  c05ab : AxCut.LinTypedProg st.s5
  /-- C05 (c): named machine on S4 ~ positional machine on S5 -/
  c05c : ∀ args,
    (∀ n, AxCut.Sim.finishedNamed (AxCut.Named.run st.s4 args n).res →
      ∃ m, (AxCut.Pos.run st.s5 args m).out = (AxCut.Named.run st.s4 args n).out ∧
        AxCut.Sim.sameOutcome (AxCut.Named.run st.s4 args n).res (AxCut.Pos.run st.s5 args m).res) ∧
    (∀ m, AxCut.Sim.finishedPos (AxCut.Pos.run st.s5 args m).res →
      ∃ n, (AxCut.Pos.run st.s5 args m).out = (AxCut.Named.run st.s4 args n).out ∧
        AxCut.Sim.sameOutcome (AxCut.Named.run st.s4 args n).res (AxCut.Pos.run st.s5 args m).res)
  /-- the premises are not vacuous: every machine finishes on `main(4)` with `10\n`, result 10 -/
  runs : midRuns p' st = true

/-- S5 is linearly typed: the pipeline's own route (S4 passes `wfNonLinearCheck`, then C05) -/
theorem lin5 {p' : Fun.CheckedProgram} {st : Stages} (hst : stages p' = .ok st)
    (hwf : AxCut.wfNonLinearCheck st.s4 = true) : AxCut.LinTypedProg st.s5 := by
  obtain ⟨_, _, _, h5⟩ := stages_ok_iff.1 hst
  obtain ⟨q5, e5, hlin, _⟩ := C05.C05_linearize_LinTyped st.s4 ((AxCut.wfNonLinearCheck_iff _).1 hwf)
  rw [h5] at e5
  injection e5 with e5
  subst e5
  exact hlin

theorem mid_conclusion_of {s : String} (h : chk midHyps s = true) :
    ∃ p p' st, stagesOf s = some (p, p', st) ∧ MidConclusion p' st := by
  obtain ⟨p, p', st, hs, hf⟩ := chk_elim h
  refine ⟨p, p', st, hs, ?_⟩
  obtain ⟨hfe, hst⟩ := stagesOf_spec hs
  obtain ⟨_, hc⟩ := C01F_frontEnd_ok hfe
  obtain ⟨h2, h3, h4, h5⟩ := stages_ok_iff.1 hst
  obtain ⟨_, e3⟩ := focusProgE_ok_iff.1 h3
  simp only [midHyps, Bool.and_eq_true] at hf
  obtain ⟨⟨⟨⟨hc02, hc03⟩, hc04⟩, hc05⟩, hruns⟩ := hf
  simp only [c02Hyps, Bool.and_eq_true] at hc02
  obtain ⟨⟨⟨⟨hn, hseq⟩, hv⟩, hmc⟩, hsg⟩ := hc02
  simp only [c03Hyps, Bool.and_eq_true] at hc03
  have hin : Input st.s2 := inputB_sound hc03.1
  simp only [c04Hyps, Bool.and_eq_true] at hc04
  obtain ⟨⟨⟨⟨hwt, hu⟩, hb⟩, hint⟩, hm⟩ := hc04
  have hmain : ∃ d ds, st.s3.defs = d :: ds ∧ d.name.name = "main" := by
    split at hm
    · rename_i d ds hd
      exact ⟨d, ds, hd, by simpa using hm⟩
    · cases hm
  simp only [c05Hyps, Bool.and_eq_true] at hc05
  obtain ⟨⟨hwf, hne⟩, hhead⟩ := hc05
  have hwf' : AxCut.WfNonLinear st.s4 := (AxCut.wfNonLinearCheck_iff _).1 hwf
  have hentry : ∀ d, st.s4.defs.head? = some d → ∀ b ∈ d.ctx, b.chi = .ext ∧ b.ty = .i64 := by
    intro d hd
    rw [hd] at hhead
    simpa [List.all_eq_true] using hhead
  have hlin := lin5 hst hwf
  refine ⟨C02_sem p p' st.s2 hn hc hseq hv hmc hsg h2, ?_, ?_, hlin, ?_, hruns⟩
  · have := C03_statement_typesDisjoint st.s2 hin hc03.2
    rw [← e3] at this
    exact this
  · exact fun args => C04_sem st.s3 st.s4 args hwt hu hb hint hmain h4
  · exact fun args => C05.C05_T4 st.s4 st.s5 args hwf' hne hentry h5

/-! ## x86-64 and the text-level theorems on the list sum: C06, C14, C16, C18, C19

(C01 on this program: `C01E_sum_conclusion`, at the end of this file.)  The run of the positional machine on S5
takes 87 steps; the source has size 48; the routine has 679 items. -/

def x86Hyps (p : Fun.Program) (p' : Fun.CheckedProgram) (st : Stages) : Bool :=
  validMain p' && Fun.noMainCall p' && Fun.Parse.zeroEdgeOkProgB p && AxCut.wfNonLinearCheck st.s4 &&
  decide (SizeCompose.funSrcSize p' = 48) &&
  C14Generic.LabelSafe st.s5 && X86.C06_x86Checks st.s5 &&
  decide (AxCut.Pos.run st.s5 [4] 87 = ⟨[(true, 10)], .done 10⟩) &&
  (match X86.compileX86 st.s5 true 0 with
   | .ok (body, nargs) =>
     match X86.intoRoutine body nargs with
     | .ok routine =>
       decide (X86.Ref.addrAt ({} : X86.MachCfg).codeBase routine routine.length < 2 ^ 64) &&
       decide (routine.length = 679)
     | .error _ => false
   | .error _ => false)

/-- `C18_text_total_sharp` for a text that the front end accepts with a valid, uncalled `main` -/
theorem c18_of {s : String} {p : Fun.Program} {p' : Fun.CheckedProgram} (hfe : frontEnd s = .ok p p')
    (hv : validMain p' = true) (hmc : Fun.noMainCall p' = true) (hooks : Bool) (c : Nat) :
    C18_textOutcomeSharp (compileTextX86 hooks c s) := by
  refine C18_text_total_sharp s hooks c ?_
  intro q q' hq
  rw [hfe] at hq
  injection hq with e1 e2
  subst e2
  exact ⟨hv, hmc⟩

/-- what C06, C14, C16, C18 and C19 say about the text `s` and its stages, no hypothesis left -/
structure X86Conclusion (s : String) (p : Fun.Program) (p' : Fun.CheckedProgram) (st : Stages) : Prop where
  /-- the compiler produces a routine of 679 items; C06 (`C06_programs_text`): the x86-64 machine on its TEXT,
      default configuration, prints `10\n` and returns 10; C14 (`C14_x86_final`): the validator accepts the text -/
  c06_c14 : ∃ body nargs routine, X86.compileX86 st.s5 true 0 = .ok (body, nargs) ∧
    X86.intoRoutine body nargs = .ok routine ∧ routine.length = 679 ∧
    compileAllX86 true 0 p' = .ok (nargs, X86.printProg routine) ∧
    (∃ fuel', (X86.run (X86.printProg routine) [4] fuel' {}).out = [(true, 10)] ∧
      (X86.run (X86.printProg routine) [4] fuel' {}).res = .done 10) ∧
    X86.wfCheck (X86.printProg routine) = .ok ()
  /-- C19 (`C19_pipeline_size`): the bound for this program (source size 48) is
      `PX 48 = 927654473550326400044` items; the routine has 679 -/
  c19 : ∀ nargs text, compileAllX86 true 0 p' = .ok (nargs, text) →
    ∃ routine, text = X86.printProg routine ∧ routine.length ≤ 927654473550326400044
  /-- C16 (`C16_fmt`): every width and indentation -/
  c16 : ∀ cfg : Fun.Print.PrintCfg,
    Fun.Parse.parseChars .diagOnOverflow (Fun.Print.renderPretty cfg p) = .ok p ∧
    ∀ q, Fun.Parse.parseChars .diagOnOverflow (Fun.Print.renderPretty cfg p) = .ok q →
      Fun.Print.renderPretty cfg q = Fun.Print.renderPretty cfg p
  /-- C18 (`C18_text_total_sharp`): its hypothesis `hmain` holds of the text, every hook setting / counter -/
  c18 : ∀ hooks c, C18_textOutcomeSharp (compileTextX86 hooks c s)

theorem x86_conclusion_of {s : String} (h : chk x86Hyps s = true) :
    ∃ p p' st, stagesOf s = some (p, p', st) ∧ X86Conclusion s p p' st := by
  obtain ⟨p, p', st, hs, hf⟩ := chk_elim h
  refine ⟨p, p', st, hs, ?_⟩
  obtain ⟨hfe, hst⟩ := stagesOf_spec hs
  obtain ⟨hparse, _⟩ := C01F_frontEnd_ok hfe
  simp only [x86Hyps, Bool.and_eq_true, decide_eq_true_eq] at hf
  obtain ⟨⟨⟨⟨⟨⟨⟨⟨hv, hmc⟩, hz⟩, hwf⟩, hN⟩, hsafe⟩, hchk⟩, hrun⟩, hx⟩ := hf
  have htp := lin5 hst hwf
  have hwf4 : C19_wf4 p' = true := by simp [C19_wf4, hst, hwf]
  have hc19 : ∀ nargs text, compileAllX86 true 0 p' = .ok (nargs, text) →
      ∃ routine, text = X86.printProg routine ∧ routine.length ≤ 927654473550326400044 := by
    intro nargs text h
    obtain ⟨routine, e, hle⟩ := C19_pipeline_size true 0 p' nargs text hwf4 h
    refine ⟨routine, e, Nat.le_trans hle ?_⟩
    rw [hN]
    decide
  refine ⟨?_, hc19, ?_, ?_⟩
  · split at hx
    · rename_i body nargs hcomp
      split at hx
      · rename_i routine hrout
        simp only [Bool.and_eq_true, decide_eq_true_eq] at hx
        refine ⟨body, nargs, routine, hcomp, hrout, hx.2, ?_, ?_, ?_⟩
        · exact compileAllX86_ok_iff.2 ⟨st.s5, middleEnd_ok_iff.2 ⟨st, hst, rfl⟩,
            backEndX86_ok_iff.2 ⟨body, routine, hcomp, hrout, rfl⟩⟩
        · exact X86.C06_programs_text st.s5 [4] true body routine nargs hsafe htp hchk hcomp hrout 87 _ _ hrun
            {} X86.Ref.machOK_default rfl (by decide) (by decide) (by decide) hx.1
        · exact X86.C14_x86_final st.s5 true 0 body routine nargs hsafe htp hchk hcomp hrout
      · cases hx
    · cases hx
  · exact fun cfg => C16_fmt .diagOnOverflow s.toList p hparse (Fun.Parse.zeroEdgeOkProgB_sound p hz) cfg
  · exact c18_of hfe hv hmc

/-! ## AArch64: `C07_programs_text` on S5 of the list sum (a PIPELINE program; the examples of
Props/C07A64Full.lean are hand-written AxCut programs) -/

section a64
open Scc.A64 Scc.A64.Ref
open Scc.A64.CC (cfgCC_default)

def a64Hyps (_p : Fun.Program) (_p' : Fun.CheckedProgram) (st : Stages) : Bool :=
  AxCut.wfNonLinearCheck st.s4 && C14Generic.LabelSafe st.s5 && C07_a64Checks st.s5 &&
  decide (AxCut.Pos.run st.s5 [4] 87 = ⟨[(true, 10)], .done 10⟩) &&
  (match compileProg a64Backend st.s5 true 0 with
   | .ok (_, _, routine) => decide (({} : A64.MonCfg).mem.codeBase + 4 * ninstr routine < 2 ^ 64)
   | .error _ => false)

theorem a64_conclusion_of {s : String} (h : chk a64Hyps s = true) :
    ∃ p p' st, stagesOf s = some (p, p', st) ∧
    ∃ body nargs routine, compileProg a64Backend st.s5 true 0 = .ok (body, nargs, routine) ∧
      ∃ fuel', (A64.run (A64.printProg routine) [4] fuel' {}).out = [(true, 10)] ∧
        (A64.run (A64.printProg routine) [4] fuel' {}).res = .done 10 := by
  obtain ⟨p, p', st, hs, hf⟩ := chk_elim h
  refine ⟨p, p', st, hs, ?_⟩
  obtain ⟨_, hst⟩ := stagesOf_spec hs
  simp only [a64Hyps, Bool.and_eq_true, decide_eq_true_eq] at hf
  obtain ⟨⟨⟨⟨hwf, hsafe⟩, hchk⟩, hrun⟩, hx⟩ := hf
  split at hx
  · rename_i body nargs routine hcomp
    simp only [decide_eq_true_eq] at hx
    exact ⟨body, nargs, routine, hcomp,
      C07_programs_text st.s5 [4] true body routine nargs hsafe (lin5 hst hwf) hchk hcomp 87 _ _ hrun
        {} cfgCC_default rfl rfl (by decide) (by decide) (by decide) hx⟩
  · cases hx

end a64

/-! ## the list sum: one kernel evaluation of the four sets of hypotheses, and the conclusions -/

set_option maxRecDepth 100000 in
/-- every decidable hypothesis of `C02_sem`, `C03_statement_typesDisjoint`, `C04_sem`, `C05_T4` on the stages
    of the list sum and the five runs; those of the x86-64 and text-level theorems; those of
    `C07_programs_text`; those of `C01_end_to_end` (hypotheses (3), (4), the run on the argument 4, and (5) in the
    form `C01_backChecksStatic`).  One evaluation: the four share the front end and the stages. -/
theorem src_hyps (s : String) (h : s.toList = src.toList) :
    chk midHyps s = true ∧ chk x86Hyps s = true ∧ chk a64Hyps s = true ∧
    C01F_ex (fun _ p' => validMain p' && Fun.noMainCall p' && Fun.Sequenced p' && !C01F_noClosures p' &&
      decide (mainArity p' = 1) && decide (srcRun p' [4] 200 = ⟨[(true, 10)], .done 10⟩) &&
      C01_backChecksStatic p') s = true := by
  have hc := toList_of_literal rfl h
  simp only [chk, stagesOf, C01F_ex, frontEnd, Fun.Parse.parse, hc]
  decide +kernel

theorem mid_conclusion :
    ∃ p p' st, stagesOf src = some (p, p', st) ∧ MidConclusion p' st :=
  mid_conclusion_of (src_hyps _ rfl).1

theorem x86_conclusion : ∃ p p' st, stagesOf src = some (p, p', st) ∧ X86Conclusion src p p' st :=
  x86_conclusion_of (src_hyps _ rfl).2.1

section a64
open Scc.A64

/-- the AArch64 machine on the printed text of the routine of the list sum, default configuration, prints
    `10\n` and returns 10 -/
theorem a64_conclusion : ∃ p p' st, stagesOf src = some (p, p', st) ∧
    ∃ body nargs routine, compileProg a64Backend st.s5 true 0 = .ok (body, nargs, routine) ∧
      ∃ fuel', (A64.run (A64.printProg routine) [4] fuel' {}).out = [(true, 10)] ∧
        (A64.run (A64.printProg routine) [4] fuel' {}).res = .done 10 :=
  a64_conclusion_of (src_hyps _ rfl).2.2.1

end a64

/-! ## RISC-V: `C08_programs_live_text` on a PIPELINE program.
The RISC-V backend does not implement `print` (`C12_final_sharp`: "not implemented in RISC-V backend"), so the
test program is the list sum WITHOUT the `println_i64`. -/

section rv
open Scc.RV

def rvSrc : String :=
  "data List[A] { Nil, Cons(x: A, xs: List[A]) }
def range(n: i64): List[i64] { if n == 0 { Nil } else { let m: i64 = n - 1; let r: List[i64] = range(m); Cons(n, r) } }
def sum(l: List[i64]): i64 { l.case[i64] { Nil => 0, Cons(x, xs) => let r: i64 = sum(xs); x + r } }
def main(n: i64): i64 { let l: List[i64] = range(n); sum(l) }"

def rvHyps (_p : Fun.Program) (_p' : Fun.CheckedProgram) (st : Stages) : Bool :=
  AxCut.wfNonLinearCheck st.s4 && C14Generic.LabelSafe st.s5 && C08_sizeCheck st.s5 &&
  C14R_namesTextSafe st.s5 &&
  st.s5.defs.all (fun d => ctxWithinStmt maxVariables d.body d.ctx) &&
  (match st.s5.defs.head? with
   | some d => d.ctx.all fun b => decide (b.chi = .ext ∧ b.ty = .i64)
   | none => false) &&
  decide ((AxCut.Pos.run st.s5 [4] 86).res = .done 10) &&
  (match (Backend.compile rvBackendF true st.s5).run 0 with
   | .ok ((instrs, _), _) => decide (codeBase + 4 * instrs.length < 2 ^ 64)
   | .error _ => false)

set_option maxRecDepth 100000 in
theorem rv_hyps (s : String) (h : s.toList = rvSrc.toList) : chk rvHyps s = true := by
  have hc := toList_of_literal rfl h
  simp only [chk, stagesOf, frontEnd, Fun.Parse.parse, hc]
  decide +kernel

/-- `RV.run` on the emitted TEXT of the list sum (without print), default configuration, reaches `cleanup`
    with 10 in `X10`.  NOTE: the conclusion of the RISC-V theorems speaks of the RESULT only (the machine
    has no output trace: the backend cannot print). -/
theorem rv_conclusion : ∃ p p' st, stagesOf rvSrc = some (p, p', st) ∧
    ∃ nargs text, compileRoutine st.s5 true 0 = .ok (nargs, text) ∧
      ∃ fuel', (RV.run text [4] fuel' {}).res = .done 10 := by
  obtain ⟨p, p', st, hs, hf⟩ := chk_elim (rv_hyps _ rfl)
  refine ⟨p, p', st, hs, ?_⟩
  obtain ⟨_, hst⟩ := stagesOf_spec hs
  simp only [rvHyps, Bool.and_eq_true, decide_eq_true_eq, List.all_eq_true] at hf
  obtain ⟨⟨⟨⟨⟨⟨⟨hwf, hsafe⟩, hsize⟩, hnames⟩, hlive⟩, hhead⟩, hrun⟩, hx⟩ := hf
  split at hhead
  · rename_i d0 hd
    split at hx
    · rename_i instrs nargs cX hcomp
      simp only [decide_eq_true_eq] at hx
      rw [rvBackendF_eq] at hcomp
      have hc : compileRoutine st.s5 true 0 = .ok (nargs, intoRoutine instrs) := by
        unfold compileRoutine; rw [hcomp]
      refine ⟨nargs, _, hc, ?_⟩
      exact C08_programs_live_text st.s5 [4] true 0 instrs nargs cX d0 hsafe (lin5 hst hwf) hsize
        (fun d hd' => hlive d hd') hnames hcomp hx hd
        (by simpa [List.all_eq_true] using hhead) 86 10 hrun {} rfl rfl (by decide) (by decide)
    · cases hx
  · cases hhead

end rv

/-! ## C09 / C10 / C13 on x86-64: the HEADLINE forms themselves (hypothesis `hP : PeakAtMost …`).
Props/C09X86All.lean, C10X86All.lean, C13X86All.lean instantiate the variants with the hypothesis on the
source program or on terminating runs only (`C09_x86_every_prefix_all_size`, `C10_x86_coarse_all`, `C10_x86_size_all`,
`C13_cc_never_fires_all_size`, `C13_cc_never_fires_terminating`). -/

section conc
open Scc.AxCut Scc.Backend Scc.X86 Scc.X86.Ref
open Scc.Props.C06Generic (statesOf)
open Scc.X86.Ref.K (progMaxAlloc)
open Scc.X86.Conc (BChain HeapInvAt ctxKinds stmtSize progMaxSize)
open Scc.X86.CC (CCSafe)

/-- `C09_x86_every_prefix_all` ITSELF: the first 7 steps of the closure program `C06_cloProg` (a proper
    prefix of its run), trivial peak `Pk = A·7 + 1` -/
theorem c09_headline : ∃ ops c' items, (compile mockSym true C06_cloProg).run 0 = .ok ((ops, 1), c') ∧
    parseText (printProg C06_cloRoutine) = .ok items ∧
    ∃ n0 X0, stepN {} (mkProg ({} : MachCfg) items) n0 (initState {} [37] 6) = .inl X0 ∧
      BChain {} (mkProg ({} : MachCfg) items)
        (fun st X => ConcK.BoundaryOf C06_cloProg true C06_cloRoutine ops {} st X ∧
          HeapInvAt {} X (ctxKinds st.ctx) (0x10000000 + 0x2000000))
        (statesOf C06_cloProg 7 ⟨C06_cloMain.ctx, [.int 37], C06_cloMain.body⟩) X0 := by
  have e1 := C06_cloProg_consts.1
  exact C09_x86_every_prefix_all C06_cloProg [37] true C06_cloBody C06_cloRoutine 1 C06_cloMain
    (by decide) (linTypedCheck_sound C06_cloProg rfl) C06_cloProg_checks rfl rfl rfl rfl
    7 (by decide) {} machOK_default rfl (by decide) (by decide) (progMaxAlloc C06_cloProg * 7 + 1)
    (by rw [e1]; decide) C06_cloRoutine_fits
    (fun ops _ items _ _ => C10_peak_trivial_all C06_cloProg true C06_cloRoutine ops {} items [37] _)

/-- the chain of `c09_headline` has eight states (a `BChain` over `[]` would be `True`) -/
theorem c09_prefix_length :
    (statesOf C06_cloProg 7 ⟨C06_cloMain.ctx, [.int 37], C06_cloMain.body⟩).length = 8 := by decide

/-- `C10_x86_footprint_all` ITSELF -/
theorem c10_headline : ∃ fuel',
    (X86.run (printProg C06_cloRoutine) [37] fuel' {}).out = [(true, 42)] ∧
    (X86.run (printProg C06_cloRoutine) [37] fuel' {}).res = .done 42 ∧
    (X86.run (printProg C06_cloRoutine) [37] fuel' {}).maxHeapWritten ≤ 64 * (1 * 20 + 1 + 1 + 2) := by
  have hrun : Pos.run C06_cloProg [37] 20 = ⟨[(true, 42)], .done 42⟩ := by decide
  have e1 := C06_cloProg_consts.1
  have key := C10_x86_footprint_all C06_cloProg [37] true C06_cloBody C06_cloRoutine 1 C06_cloMain
    (by decide) (linTypedCheck_sound C06_cloProg rfl) C06_cloProg_checks rfl rfl rfl 20 _ _ (by decide) hrun {}
    machOK_default rfl rfl (by decide) (by decide) (progMaxAlloc C06_cloProg * 20 + 1) (by rw [e1]; decide)
    C06_cloRoutine_fits
    (fun ops _ items _ _ => C10_peak_trivial_all C06_cloProg true C06_cloRoutine ops _ items [37] _)
  rw [e1] at key
  exact key

/-- `C13_cc_never_fires_all` ITSELF, machine fuel 10 -/
theorem c13_headline : CCSafe (X86.run (printProg C06_cloRoutine) [37] 10 {}).res ∧
    (({} : MonCfg).heap = false → C13_allowed (X86.run (printProg C06_cloRoutine) [37] 10 {}).res) := by
  have hrun : Pos.run C06_cloProg [37] 20 = ⟨[(true, 42)], .done 42⟩ := by decide
  obtain ⟨e1, e2, e3⟩ := C06_cloProg_consts
  obtain ⟨hnostuck, _⟩ := C10_done_unique hrun
  exact C13_cc_never_fires_all C06_cloProg [37] true C06_cloBody C06_cloRoutine 1 C06_cloMain
    (by decide) (linTypedCheck_sound C06_cloProg rfl) C06_cloProg_checks rfl rfl rfl rfl hnostuck
    {} machOK_default rfl (by decide) (by decide)
    (progMaxAlloc C06_cloProg * (10 * (progMaxSize C06_cloProg + 1) + stmtSize C06_cloMain.body) + 1)
    (by rw [e1, e2, e3]; decide) C06_cloRoutine_fits 10 (by rw [e2, e3]; decide)
    (fun ops _ items _ _ => C10_peak_trivial_all C06_cloProg true C06_cloRoutine ops {} items [37] _)

end conc

/-! ## C11: a substitution with a CYCLE (swap of two object variables), fan-out of an integer, identity edge -/

section c11
open Scc.PMoves Scc.Props.C11

/-- context `1:prd 2:prd 3:ext`; new variables `1 := 2`, `2 := 1` (a swap of both temporaries of two objects),
    `4 := 3`, `5 := 3` (an integer copied twice) -/
def swapCtx : Ctx := [(1, .prd), (2, .prd), (3, .ext)]
def swapRe : Rearrange := [((1, .prd), 2), ((2, .prd), 1), ((4, .ext), 3), ((5, .ext), 3)]

def swapMoves : List AOp :=
  [.comment "#move variables", .save 2 false, .mov 2 0, .restore 0 false, .save 3 false, .mov 3 1,
   .restore 1 false, .mov 7 5]

example : (swapCtx.map (·.1)).Nodup ∧ (swapRe.map (·.1.1)).Nodup := by decide

/-- the model emits two save/mov/restore cycles and one copy; no reference-count operation (each object is
    used exactly once) -/
example : codeSubstitute genericTemporary swapRe swapCtx (fun _ => false) = .ok [] swapMoves := rfl

/-- `C11_substitution_correct` applied, and its conclusion evaluated on the store `x ↦ x + 1000` -/
theorem c11_swap : ∃ rc mv, codeSubstitute genericTemporary swapRe swapCtx (fun _ => false) = .ok rc mv ∧
    ∀ (σ : Nat → Nat) (sc : Nat),
      (∀ s t, SubstEdge genericTemporary swapRe swapCtx s t → (run mv (σ, sc)).1 t = σ s) ∧
      (∀ x, (∀ s, ¬ SubstEdge genericTemporary swapRe swapCtx s x) → (run mv (σ, sc)).1 x = σ x) := by
  obtain ⟨rc, mv, h, _, hall⟩ := C11_substitution_correct (V := Nat) swapRe swapCtx (fun _ => false)
    (by decide) (by decide)
  exact ⟨rc, mv, h, hall⟩

example : ((List.range 8).map (run swapMoves (fun x => x + 1000, 0)).1) =
    [1002, 1003, 1000, 1001, 1004, 1005, 6 + 1000, 1005] := by decide

end c11

end Scc.Props.NonVacuity

/-! ## C01 on the list sum: the example of Props/C01End.lean for `C01E_sumSrc`, in that file's namespace;
    its hypotheses are the fourth conjunct of `src_hyps` -/

namespace Scc.Props

open Scc.Pipeline
open Scc.Fun.Check (checkProgram programNamesOk)

/-- hypotheses (3), (4) of `C01_end_to_end` on the recursive list sum (accepted: by `frontEnd`); the
    program is `Sequenced`, has closures in S5 and one parameter; the premise of the inner implication
    on the argument 4: the source semantics (the Fun machine) finishes with trace `10\n` and result 10;
    and hypothesis (5), THE predicate `C01_backChecks`, in the form `C01_backChecksStatic`
    (`C01_backChecks_of_static`, Props/C01Final.lean: no code generator is run) -/
theorem C01E_sum_hyps (s : String) (h : s.toList = C01E_sumSrc.toList) :
    C01F_ex (fun _ p' => validMain p' && Fun.noMainCall p' && Fun.Sequenced p' && !C01F_noClosures p' &&
      decide (mainArity p' = 1) && decide (srcRun p' [4] 200 = ⟨[(true, 10)], .done 10⟩) &&
      C01_backChecksStatic p') s = true :=
  (NonVacuity.src_hyps s h).2.2.2

theorem C01E_sum_accepted : ∃ p p', frontEnd C01E_sumSrc = .ok p p' :=
  C01F_ex_accepted (C01E_sum_hyps _ rfl)

/-- **the theorem applies to the recursive list sum**: for both hook settings the compiler produces a
    routine text, and on every `C01_DataMach` with enough heap the x86-64 machine on it, started with the
    argument 4, prints 10 and returns 10; the linked binary writes "10\n" and exits with status 10 -/
theorem C01E_sum_conclusion (p : Fun.Program) (p' : Fun.CheckedProgram)
    (hfe : frontEnd C01E_sumSrc = .ok p p') (hooks : Bool) :
    C01E_runsNatively hooks p' [4] [(true, 10)] 10 := by
  have h1 := C01F_ex_elim (C01E_sum_hyps _ rfl) hfe
  simp only [Bool.and_eq_true, decide_eq_true_eq] at h1
  obtain ⟨⟨⟨⟨⟨⟨hv, hmc⟩, _⟩, _⟩, _⟩, h2⟩, hb⟩ := h1
  exact C01E_apply hfe hv hmc (C01_backChecks_of_static_source hfe hv hmc hb) h2 hooks

#print axioms C01E_sum_hyps
#print axioms C01E_sum_accepted
#print axioms C01E_sum_conclusion

end Scc.Props

#print axioms Scc.Props.NonVacuity.src_hyps
#print axioms Scc.Props.NonVacuity.mid_conclusion
#print axioms Scc.Props.NonVacuity.x86_conclusion
#print axioms Scc.Props.NonVacuity.a64_conclusion
#print axioms Scc.Props.NonVacuity.rv_conclusion
#print axioms Scc.Props.NonVacuity.c09_headline
#print axioms Scc.Props.NonVacuity.c10_headline
#print axioms Scc.Props.NonVacuity.c13_headline
#print axioms Scc.Props.NonVacuity.c11_swap

/-! ## axioms of the headline theorems (all ⊆ {propext, Classical.choice, Quot.sound}) -/
#print axioms Scc.Props.C01_end_to_end
#print axioms Scc.Props.C02_sem
#print axioms Scc.Props.C03_statement_typesDisjoint
#print axioms Scc.Props.C04_sem
#print axioms Scc.Props.C05.C05_full
#print axioms Scc.Props.C06Generic.TheoremA_run
#print axioms Scc.X86.C06_programs_text
#print axioms Scc.A64.C07_programs_text
#print axioms Scc.RV.C08_programs_text_loaded
#print axioms Scc.X86.C09_x86_every_prefix_all
#print axioms Scc.X86.C10_x86_footprint_all
#print axioms Scc.Props.C11.C11_substitution_correct
#print axioms Scc.Props.C12_final
#print axioms Scc.X86.C13_cc_never_fires_all
#print axioms Scc.X86.C14_x86_final
#print axioms Scc.Props.C15_full
#print axioms Scc.Props.C16_fmt
#print axioms Scc.Props.C18_text_total_sharp
#print axioms Scc.Props.C19_pipeline_size
#print axioms Scc.Props.C20_current_full
#print axioms Scc.Props.C20_strtoll_spelling

#print axioms Scc.Props.NonVacuity.chk_elim
#print axioms Scc.Props.NonVacuity.stagesOf_spec
#print axioms Scc.Props.NonVacuity.inputB_sound
#print axioms Scc.Props.NonVacuity.lin5
#print axioms Scc.Props.NonVacuity.c18_of
#print axioms Scc.Props.NonVacuity.mid_conclusion_of
#print axioms Scc.Props.NonVacuity.x86_conclusion_of
#print axioms Scc.Props.NonVacuity.a64_conclusion_of
#print axioms Scc.Props.NonVacuity.rv_hyps
#print axioms Scc.Props.NonVacuity.c09_prefix_length
