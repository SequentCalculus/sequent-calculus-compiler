/-
  Scc.Props.C19 — size of the output of the Fun → Core translation (the fun2core part of C19).

  Property C19 (as given): "The size of every intermediate program and of the emitted code is bounded
  by a low-degree polynomial in the size of the source: branching constructs (conditionals, matches,
  critical pairs over multi-constructor types) followed by further code share that code instead of
  copying it into each branch, so k sequenced or nested branch points never cost 2^k."

  Model: Scc.Fun2Core.Model (tied to /repo/lang/fun2core by exact S2 dump equality).
  Sizes: node counts `funSize` / `stmtSize` / `termSize` / `defSize` of Scc.Fun2Core.Size (a source
  clause counts 1 + its binder names + its typed binders; a target clause 1 + its binders).
  State of /repo: including the capture guard of ce30c7b (each guarded `let`/`case` costs a constant
  `⟨μa.… | c⟩` wrapper, absorbed in the per-node budget).

  What is proved (all for the real model functions; the bounds are shown by induction over the runs
  of the translation, `Compiles` of Scc/Fun2Core/Compiles.lean: `sz` in Scc.Fun2Core.SizeProofs,
  `ar` in Scc.Fun2Core.Arity):
    * C19_fun2core_T1  = `C19_fun2core_statement`, FULL: with a = 3, b = 4, for every term `t`,
        consumer `c`, state: the output statement plus the definitions NEWLY lifted by `share` have
        total size ≤ a * |t| * (v + b) + |c|, where `v` bounds the number of parameters (= typed free
        variables of the shared continuation) of the newly lifted definitions.
    * C19_compile_cont_inserted_once: the same read as `|out| ≤ |c| + C19_K t v` with `K` independent of
        `c` — a continuation is duplicated into several branches only when `isLeaf` (a (co)variable,
        or `μ~x.exit p` with p a variable/literal; size ≤ 3, `C19_leaf_size`), otherwise `share`
        replaces it by `μ~x.share_f_n(fv)` of size arity + 2 (`C19_share_size`).
    * C19_fun2core_prog: program level, `|S2| ≤ 3 * |S1| * (v + 4)` where `v` bounds the number of
        parameters of the definitions of the OUTPUT.
    * C19_fun2core_arity: FULL: every definition of the output (user or lifted) has at most
        `2 * |S1|` parameters — the parameters of a lifted definition are duplicate-free typed free
        variables of the shared continuation, all of which are typed names mentioned by the enclosing
        definition (each source node contributes at most two: its own occurrence / fresh covariable
        and the fresh variable of a `share`).  (Scc.Fun2Core.FreeVars, Scc.Fun2Core.Arity)
    * C19_fun2core_full: UNCONDITIONAL: `|S2| ≤ 3 * n * (2 * n + 4) = 6 n² + 12 n`, `n = |S1|`.
  The later stages (focus, shrink, linearize, codegen) belong to other components.
-/
import Scc.Fun2Core.SizeProofs
import Scc.Fun2Core.Arity

namespace Scc.Props
open Scc.Fun2Core

/-- C19-T1, full statement for fun2core: explicit constants `a`, `b`; proved by `C19_fun2core_T1`. -/
def C19_fun2core_statement : Prop :=
  ∃ a b : Nat, ∀ (v : Nat) (t : Fun.Term) (c : Core.Term) (st : CompileState)
      (s : Core.Stmt) (st' : CompileState),
    compileWithCont t c st = .ok (s, st') →
    ∃ new, st'.liftedStatements = new ++ st.liftedStatements ∧
      ((∀ d ∈ new, d.ctx.length ≤ v) →
        stmtSize s + defsSize new ≤ a * funSize t * (v + b) + termSize c)

/-- C19-T1 (full): a = 3, b = 4. -/
theorem C19_fun2core_T1 : C19_fun2core_statement := by
  refine ⟨3, 4, fun v t c st s st' h => ?_⟩
  obtain ⟨new, e, b⟩ := compileWithCont_size v h
  refine ⟨new, e, fun hA => ?_⟩
  have := b hA
  rw [mul_W] at this
  omega

/-- the cost of translating `t`, independent of the continuation -/
def C19_K (t : Fun.Term) (v : Nat) : Nat := 3 * funSize t * (v + 4)

/-- the continuation is inserted at most once unless it is a leaf: the output exceeds the
continuation by a quantity that does not depend on the continuation.  (If a non-leaf continuation of
size m were copied into two branches, `|out| ≥ 2 m` would contradict this for large m.) -/
theorem C19_compile_cont_inserted_once (v : Nat) (t : Fun.Term) (c : Core.Term)
    (st : CompileState) (s : Core.Stmt) (st' : CompileState)
    (h : compileWithCont t c st = .ok (s, st')) :
    ∃ new, st'.liftedStatements = new ++ st.liftedStatements ∧
      ((∀ d ∈ new, d.ctx.length ≤ v) → stmtSize s + defsSize new ≤ termSize c + C19_K t v) := by
  obtain ⟨new, e, bd⟩ := compileWithCont_size v h
  refine ⟨new, e, fun hA => ?_⟩
  have := bd hA
  rw [mul_W] at this
  unfold C19_K
  omega

/-- the exact Rust condition under which a continuation is copied: it is a leaf, of size ≤ 3 -/
theorem C19_leaf_size {c : Core.Term} (h : isLeaf c = true) : termSize c ≤ 3 := isLeaf_size h

/-- what `share` does: exactly one definition `d` is lifted, the returned consumer has size
`arity d + 2`, and `d` has size at most `|cont| + arity d + 3` -/
theorem C19_share_size (c : Core.Term) (st : CompileState) :
    ∃ d, (share c st).2.liftedStatements = d :: st.liftedStatements ∧
      termSize (share c st).1 = d.ctx.length + 2 ∧
      defSize d ≤ termSize c + d.ctx.length + 3 := share_size c st

/-- program level: `|S2| ≤ 3 * |S1| * (v + 4)`, `v` = maximal number of parameters of an output
definition. -/
theorem C19_fun2core_prog (v : Nat) (p : Fun.CheckedProgram) (q : Core.Prog)
    (h : compileProg p = .ok q) (hA : ∀ d ∈ q.defs, d.ctx.length ≤ v) :
    progSize q ≤ 3 * funProgSize p * (v + 4) := by
  have := compileProg_size v h hA
  rwa [mul_W] at this

/-- the number of parameters of every definition of the output is linear in the source size; proved
by `C19_fun2core_arity` -/
def C19_fun2core_arity_statement : Prop :=
  ∀ (p : Fun.CheckedProgram) (q : Core.Prog), compileProg p = .ok q →
    ∀ d ∈ q.defs, d.ctx.length ≤ 2 * funProgSize p

/-- FULL: user definitions have their parameters + 1; a lifted definition has as parameters the
duplicate-free typed free variables of the shared continuation. -/
theorem C19_fun2core_arity : C19_fun2core_arity_statement :=
  fun _ _ h => compileProg_arity h

/-- C19 for the stage S1 → S2, unconditional: the size of the Core program is at most quadratic in
the size of the checked Fun program (`3 * n * (2 * n + 4)`), whatever the nesting or sequencing of
branching constructs; proved by `C19_fun2core_full`. -/
def C19_fun2core_full_statement : Prop :=
  ∀ (p : Fun.CheckedProgram) (q : Core.Prog), compileProg p = .ok q →
    progSize q ≤ 3 * funProgSize p * (2 * funProgSize p + 4)

theorem C19_fun2core_full : C19_fun2core_full_statement := fun p q h => by
  have := compileProg_size_uncond h
  rwa [mul_W] at this

/-! ## non-vacuity: concrete instances (evaluated by the kernel) -/

section examples

/-- `if x == 0 { 1 } else { 2 }` with consumer `μ~y.⟨y + y | a⟩`-like non-leaf consumer -/
def C19_exTerm : Fun.Term :=
  .ifz .eq (.var "x" (some .i64) (some .prd)) (.lit 1) (.lit 2) (some .i64)

def C19_exCont : Core.Term :=
  .mu .cns ⟨"y", 0⟩ .i64
    (.cut .i64 (.op (.var .prd ⟨"y", 0⟩ .i64) .sum (.var .prd ⟨"z", 0⟩ .i64)) (.var .cns ⟨"a", 0⟩ .i64))

def C19_exState : CompileState := ⟨["x", "y", "z", "a"], [], ["f"], "f", []⟩

def C19_exSizes : Option (Nat × Nat × Nat) :=
  match compileWithCont C19_exTerm C19_exCont C19_exState with
  | .ok (s, st') => some (stmtSize s, defsSize st'.liftedStatements,
      (st'.liftedStatements.map (·.ctx.length)).foldl max 0)
  | .error _ => none

/-- the hypotheses of T1 are satisfiable: the translation succeeds, one definition with 3 parameters
is lifted, and 16 + 9 ≤ 3 * 4 * (3 + 4) + 6 -/
example : C19_exSizes = some (16, 9, 3) := by decide +kernel
example : funSize C19_exTerm = 4 ∧ termSize C19_exCont = 6 := by decide +kernel

/-- `def share_f_0(x) {x}  def f(x,y) { let z = if x == y {1} else {2}; share_f_0((z + x)) }
def main() { f(1,2) }` (S1 dump of the harness) -/
def C19_exProg : Fun.CheckedProgram :=
  ⟨[],
   [],
   [⟨"share_f_0", [⟨"x", .prd, .i64⟩], .i64, (.var "x" (some .i64) (some .prd))⟩, ⟨"f", [⟨"x", .prd, .i64⟩, ⟨"y", .prd, .i64⟩], .i64, (.letIn "z" .i64 (.ifc .eq (.var "x" (some .i64) (some .prd)) (.var "y" (some .i64) (some .prd)) (.lit (1)) (.lit (2)) (some .i64)) (.call "share_f_0" (.cons (.paren (.op (.var "z" (some .i64) (some .prd)) .sum (.var "x" (some .i64) (some .prd)))) .nil) (some .i64)) (some .i64))⟩, ⟨"main", [], .i64, (.call "f" (.cons (.lit (1)) (.cons (.lit (2)) .nil)) (some .i64))⟩]⟩

def C19_exProgSizes : Option (Nat × Nat) :=
  match compileProg C19_exProg with
  | .ok q => some (funProgSize C19_exProg, progSize q)
  | .error _ => none

/-- the hypothesis of `C19_fun2core_full` holds for a concrete program: |S1| = 21, |S2| = 43
(≤ 3 * 21 * 46) -/
example : C19_exProgSizes = some (21, 43) := by decide +kernel

end examples

#print axioms C19_fun2core_T1
#print axioms C19_compile_cont_inserted_once
#print axioms C19_leaf_size
#print axioms C19_share_size
#print axioms C19_fun2core_prog
#print axioms C19_fun2core_arity
#print axioms C19_fun2core_full

end Scc.Props
