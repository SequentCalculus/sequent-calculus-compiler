/-
  Scc.Props.C01Loader — the end-to-end theorems of C01 for x86-64 on the integer fragment WITHOUT the
  per-program evaluation of the loader: `C01_intChecks` contains `C01_routineLoadsB` (run the machine's
  parser on the printed routine, with hooks and without); by `X86.C14_routineLoadsB_true`
  (Props/C14Loader.lean: the print → parse round trip, proved for every routine of the backend model)
  that conjunct follows from the range check and the DECIDABLE NAMES CHECK `X86.C14_namesTextSafe` on
  the linearized program.

    `C01_intChecksN`            `C01_intChecks` with the two parser runs replaced by the names check
    `C01_intChecks_of_names`    `C01_intChecksN p' = true → C01_intChecks p' = true`
    `C01_x86_int_names`         = `C01_x86_int` from `C01_intChecksN`
    `C01_int_fragment_names`    = `C01_int_fragment` from `C01_intChecksN`
    `C01_int_from_core_names`   = `C01_int_from_core` from `C01_intChecksN`
-/
import Scc.Props.C01
import Scc.Props.C14Loader

namespace Scc.Props

open Scc.Pipeline
open Scc.Fun.Check (checkProgram programNamesOk)

/-- **the integer fragment of the back end, no parser run**: capacity, integer program, literals in
    range, names text-safe.  Decidable; evaluates nothing but predicates on the linearized program. -/
def C01_intChecksN (p' : Fun.CheckedProgram) : Bool :=
  C01_capacity p' &&
  match stages p' with
  | .ok st => C01_intProgB st.s5 && C01_progInRangeB st.s5 && X86.C14_namesTextSafe st.s5
  | .error _ => false

theorem C01_intChecks_of_names {p' : Fun.CheckedProgram} (h : C01_intChecksN p' = true) :
    C01_intChecks p' = true := by
  unfold C01_intChecksN at h
  unfold C01_intChecks
  cases hst : stages p' with
  | error e => simp [hst] at h
  | ok st =>
    simp only [hst, Bool.and_eq_true] at h ⊢
    obtain ⟨hcap, ⟨hint, hrange⟩, hnames⟩ := h
    have hr := X86.C06_progInRange_of_check hrange
    exact ⟨hcap, ⟨⟨hint, hrange⟩, X86.C14_routineLoadsB_true true hr hnames⟩,
      X86.C14_routineLoadsB_true false hr hnames⟩

/-- the x86-64 link on the integer fragment, every hypothesis a decidable predicate on the program that
    involves no run of the machine's parser -/
theorem C01_x86_int_names (p : Fun.Program) (p' : Fun.CheckedProgram)
    (hn : programNamesOk p = true) (hc : checkProgram p = .ok p') (hv : validMain p' = true)
    (hlc : C01_linkChecks p' = true) (hic : C01_intChecksN p' = true) : C01_link_x86_at p' :=
  C01_x86_int p p' hn hc hv hlc (C01_intChecks_of_names hic)

/-- `C01_int_fragment` END TO END with the names check in place of the loader runs -/
theorem C01_int_fragment_names (p : Fun.Program) (p' : Fun.CheckedProgram)
    (hn : programNamesOk p = true) (hc : checkProgram p = .ok p') (hv : validMain p' = true)
    (hlc : C01_linkChecks p' = true) (hls : C01_labelSafe p' = true)
    (hfr : C01_fragChecks p' = true) (hic : C01_intChecksN p' = true) : C01_conclusion p' :=
  C01_int_fragment p p' hn hc hv hlc hls hfr (C01_intChecks_of_names hic)

theorem C01_int_from_core_names (p : Fun.Program) (p' : Fun.CheckedProgram)
    (hn : programNamesOk p = true) (hc : checkProgram p = .ok p') (hv : validMain p' = true)
    (hlc : C01_linkChecks p' = true) (hls : C01_labelSafe p' = true)
    (hic : C01_intChecksN p' = true) : ∃ st, C12_Facts p p' st ∧ C01_conclusion_core p' st :=
  C01_int_from_core p p' hn hc hv hlc hls (C01_intChecks_of_names hic)

end Scc.Props

#print axioms Scc.Props.C01_intChecks_of_names
#print axioms Scc.Props.C01_x86_int_names
#print axioms Scc.Props.C01_int_fragment_names
#print axioms Scc.Props.C01_int_from_core_names

namespace Scc.Props
open Scc.Pipeline
open Scc.Fun.Check (checkProgram programNamesOk)

/-- non-vacuity: a program that satisfies every hypothesis of `C01_int_fragment_names` -/
def C01L_exSrc : String :=
  "def main(n: i64): i64 { println_i64(n + 1); 0 }"

def C01L_ex (f : Fun.Program → Fun.CheckedProgram → Bool) (src : String) : Bool :=
  match frontEnd src with
  | .ok p p' => f p p'
  | _ => false

set_option maxRecDepth 100000 in
/-- the five hypotheses, one evaluation (they share the front end and the stages) -/
theorem C01L_example_evaluated :
    C01L_ex (fun p p' => programNamesOk p && validMain p') C01L_exSrc = true ∧
    C01L_ex (fun _ p' => C01_linkChecks p') C01L_exSrc = true ∧
    C01L_ex (fun _ p' => C01_labelSafe p') C01L_exSrc = true ∧
    C01L_ex (fun _ p' => C01_fragChecks p') C01L_exSrc = true ∧
    C01L_ex (fun _ p' => C01_intChecksN p') C01L_exSrc = true := by
  decide +kernel

theorem C01L_example_front : C01L_ex (fun p p' => programNamesOk p && validMain p') C01L_exSrc = true :=
  C01L_example_evaluated.1

theorem C01L_example_link : C01L_ex (fun _ p' => C01_linkChecks p') C01L_exSrc = true :=
  C01L_example_evaluated.2.1

theorem C01L_example_labels : C01L_ex (fun _ p' => C01_labelSafe p') C01L_exSrc = true :=
  C01L_example_evaluated.2.2.1

theorem C01L_example_frag : C01L_ex (fun _ p' => C01_fragChecks p') C01L_exSrc = true :=
  C01L_example_evaluated.2.2.2.1

theorem C01L_example_int : C01L_ex (fun _ p' => C01_intChecksN p') C01L_exSrc = true :=
  C01L_example_evaluated.2.2.2.2

end Scc.Props

#print axioms Scc.Props.C01L_example_evaluated
#print axioms Scc.Props.C01L_example_front
#print axioms Scc.Props.C01L_example_link
#print axioms Scc.Props.C01L_example_labels
#print axioms Scc.Props.C01L_example_frag
#print axioms Scc.Props.C01L_example_int
