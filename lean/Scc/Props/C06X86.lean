/-
  Scc.Props.C06X86 — property C06 (x86-64 code generation preserves AxCut semantics): the part
  "Theorem B for x86-64" of DESIGN.md §5: per-method semantic contracts of the backend crate
  /repo/lang/axcut2x86_64 (model: Scc/X86/Backend.lean, text-identical to the crate on 488 programs)
  executed by the SPEC machine Scc/X86/Machine.lean (`execStraight` = iterated `execCode`).

  * `C06_statement` — the full property, a `def : Prop`.  What is proved of it for whole programs is the
    composition of the generic simulation "Theorem A" with the contracts below: `C06_programs_text`,
    `C06_statement_checked_holds` (Props/C06X86Full.lean, whose section "comparison with `C06_statement`" lists
    the clauses that differ: `LabelSafe`, the checks `C06_x86Checks`, sane machine configurations, a lower bound
    on the heap).
  * PROVED, for ALL operand values and ALL placements (register / spill slot / aliasing; no enumeration):
      `C06_op_correct`            all five operators against `Pos.evalOp`, fresh target (the code generator's case)
      `C06_add_correct`, `C06_sub_correct`   any aliasing of target and sources
      `C06_mul_correct`           any aliasing with a register target; spilled target not aliased
      `C06_div_correct`, `C06_rem_correct`   the RETURN1/RETURN2/TEMP dance, rax and rdx restored
      `C06_mov_correct`, `C06_load_label_correct`
      `C06_load_immediate_correct`  EVERY `i64` literal into EVERY placement (register / spill slot), no
        side condition (code as REPAIRED by /repo 512f045; a literal outside i32 reaches a spill slot
        through TEMP, which `Preserved` allows to change); `C06_load_immediate_word`: the same, stated
        for an arbitrary machine word `w` (literal `w.toInt`)
      `C06_compare_correct`, `C06_compare_zero_correct`, `C06_branch_correct` (each conditional jump
        is taken exactly when `Pos.evalCmp` holds)
      `C06_invoke_jump` (`add_and_jump`), `C06_switch_jump` (register AND spilled tag)
      `C06_machine_steps`  the bridge `execStraight` ⟶ iterated `Scc.X86.step` on a program containing the list
    MEMORY COMBINATORS (memory.rs; blocks with forward local labels, `execFwd` of ProofsMem.lean):
      `C06_skip_if_zero`, `C06_if_zero_then_else`  which branch runs (condition in a register, a spill
        slot, or the heap word a register points to)
      `C06_share_block_correct`  `share_block_n` against `Scc.Heap.shareBlock`, pointer in a register or a
        spill slot: from every boundary state representing an abstract heap on which the model's
        operation succeeds, the code runs to its end and the final state represents the model's result
      `C06_erase_block_correct`  `erase_block` against `Scc.Heap.eraseBlock` (null / count 0 → lazy free
        list / count > 0 → decrement), same form
      `C06_machine_steps_fwd`  the bridge `execFwd` ⟶ iterated `Scc.X86.step` for a block whose labels
        are its own (unique in the text)
    MEMORY CONTRACTS (memory.rs; proofs in Scc/X86/MemProofs*.lean on the memory-level view `MState` /
    `mFwd` of MemProofsView.lean, transferred to the machine by `msim_fwd`), all of the same form as
    share/erase: from EVERY boundary state that represents (`HeapRel`) an abstract heap of
    Scc/Heap/Model.lean on which the model's operation succeeds, the emitted code — every operand in a
    register or in a spill slot — runs to its end without a fault; the final state is a boundary state
    with the SAME rsp, represents the model's result, holds the results in the result temporaries, and
    `FrameT` lists what may have changed (nothing else: trace, pc, stack outside the spill area, every
    other register and spill slot):
      `C06_acquire_block_correct`  `acquire_block` against `Scc.Heap.acquire`: (1) next block of the linear
        free list, (2) head of the lazy free list with deferred erasure of its three children
        (`erase_fields`, each child null / count 0 / count > 0), (3) bump of the frontier
      `C06_store_correct`  `store` against `Scc.Heap.storeObj` for ANY number of fields (one block for
        up to FIELDS_PER_BLOCK = 3 fields, otherwise a chain of linked blocks; no fields: the null
        pointer) and EVERY placement of the stored variables and of the acquired-block temporaries
        (`posTemp`: registers 4..15, then spill slots 1..255 — crossing the boundary included);
        hypothesis `2 * (|rem| + |toStore|) ≤ 267`: the capacity of utils.rs temporary_from_position
        (beyond it the generator panics "Out of temporaries")
      `C06_load_correct`  `load` against `Scc.Heap.loadObj` for ANY number of fields and EVERY placement of
        the loaded variables and of the memory-block temporaries (a spilled memory block is accessed
        through TEMPORARY_TEMP = rax, evacuated to SPILL_TEMP and restored at the end: rax IS preserved):
        unique branch (count 0: every block of the chain is released onto the linear free list, the
        children move into the environment) and shared branch (count > 0: decrement, every pointer child
        is shared); `C06_load_unique_correct` / `C06_load_shared_correct` are the two branches separately.
        Side condition of the shared branch only: the incremented counts of the model (unbounded
        naturals) fit in 64 bits (`hno`; as `hno` of `C06_share_block_correct`)
    Every conclusion includes `Preserved`: nothing but the target, the scratch register TEMP and the
    flags changes (all other registers incl. rsp/HEAP/FREE, every stack word, heap, trace).
  * REGRESSION for the repaired defect D5 (a literal outside i32 bound to a SPILLED variable was emitted as
    `mov qword [rsp + off], imm64`, which does not exist):
      `C06_load_immediate_D5_regression` — on the same input (7 live variables, the 7th
        `let x7: i64 = 4294967297`, i.e. spill slot 2 = `[rsp + 2024]`) the code is now
        `mov rcx, 4294967297; mov [rsp + 2024], rcx`, passes the operand check, and the machine ends with
        the literal in the slot (for every boundary state and every spill slot).
  * THEOREM B for x86-64, integer fragment — the REFINEMENT abstract backend machine ⟶ x86-64 machine
    (Scc/X86/Ref*.lean), and its composition with Theorem A (C06Generic):
      `RepX86` (RefDefs.lean)      the representation relation `Abs.Config ↔ X86.State`: word part of position
        i (abstract temporary 2i+1) ↔ `posTemp (2i+1)` = register 5,7,…,15 / spill slot (Consts.lean via
        utils.rs temporary_from_position); RET1 ↔ rax; scratch cell of parallel moves ↔ TEMP / SPILL_TEMP
        (`Mode`); equal traces; rsp at its boundary value, callee-save area untouched; program counters
        related by `At` (suffixes of mock code / item list related by the rendering relation `Seg`)
      `C06_rendering`  (`seg_compile`)   whenever the x86 generator succeeds on a linearly typed integer
        program with literals in i64, the mock generator succeeds from the same label counter and the x86
        body renders the mock code instruction by instruction (parametricity of Generic.lean in the
        backend, incl. parallel moves: spanning forests correspond under `posTemp`, RefPM.lean)
      `C06_init`       (`init_sim`)      the entry: from the machine's entry state (≤ 5 integer arguments) the
        header `preamble ++ setup` (prologue, move_arguments) reaches the first item of the body in a state
        that represents the initial abstract configuration
      `C06_sim_step`, `C06_sim_halt`     the steps: every step of the abstract machine on
        comment label jumplabel jif jifz li add/sub/mul/div/rem mov print save restore is simulated by the
        x86 machine on the rendering (stepsTo-style), `jumplabel cleanup` by jump + epilogue + `ret` with
        a successful exit check
      `C06_int_programs`                 whole runs: AxCut positional machine ⟶ x86-64 machine on the ITEMS of
        the emitted routine (any item list equal to the routine up to comment text), for LabelSafe,
        LinTyped INTEGER programs; `C06_int_programs_text`: the same for `X86.run` on the TEXT, given that
        the text loads (`TextLoads`: print → parse round trip of this routine).
    The vocabulary of the text level is defined here: `TextLoads routine` (the machine's parser reads the printed
    routine back, up to comment text), `symOK`, `codeTextOK` (names and items that the printer / parser pair
    round-trips) and `C06_loader_statement` (every text-safe routine loads), a `def : Prop` proved as `C14_loader`
    in Props/C14Loader.lean (`String.splitOn` characterised from `String.splitOnAux` in Scc/StringLemmas.lean);
    `C14_routine_loads`: every routine of the backend model loads, given `ProgInRange` and the decidable names
    check `C14_namesTextSafe`; hence `C06_int_programs_loaded` = `C06_int_programs_text` without `TextLoads`.
    `RepX86` has no heap clause: the refinement of programs with heap statements against the abstract heap is
    Props/C06X86Heap.lean (data types) and Props/C06X86Full.lean (closures), on the memory contracts above.
  * DEFECT (genuine; confirmed with GNU as on the emitted text):
      `C06_mul_alias_witness` — `mul` with a spilled target aliasing a source emits `imul [mem], reg`
        (no such instruction).  Only reachable with non-unique variable ids.
-/
import Scc.X86.ProofsWf
import Scc.X86.ProofsStep
import Scc.X86.ProofsMem
import Scc.X86.MemProofsHeap
import Scc.X86.MemProofsStore
import Scc.X86.MemProofsLoad
import Scc.AxCut.LinTyping
import Scc.X86.RefCompose

namespace Scc.X86
open Scc.AxCut

/-- C06: for every linearly well-typed AxCut program that the backend compiles (capacity!) and all
arguments: if the AxCut positional machine finishes with `v` after printing `out`, then executing the
emitted routine TEXT from `asm_main` with a zero-filled heap performs the same print calls and returns
`v` (given enough fuel and heap), whatever the placement of values and the size of objects. -/
def C06_statement : Prop :=
  ∀ (p : AxCut.Prog) (args : List (BitVec 64)) (hooks : Bool) (body routine : List Code) (nargs : Nat),
    LinTypedProg p → compileX86 p hooks 0 = .ok (body, nargs) → intoRoutine body nargs = .ok routine →
    ∀ fuel v, Pos.run p args fuel = ⟨(Pos.run p args fuel).out, .done v⟩ →
      ∃ fuel' heapBytes, ∀ cfg : MonCfg, cfg.mach.heapBytes = heapBytes → cfg.heap = false →
        (run (printProg routine) args fuel' cfg).out = (Pos.run p args fuel).out ∧
        (run (printProg routine) args fuel' cfg).res = .done v

variable {c : MachCfg} {la : String → Option Nat} {st : State} {sp : Word}

/-- `add/sub/mul/div/rem` as the code generator uses them (fresh target), ∀ operand values on which
the AxCut operator is defined, ∀ placements of target and sources. -/
theorem C06_op_correct (B : Boundary c st sp) (o : BinOp) {t s1 s2 : Temporary}
    (P : DivPlacement t s1 s2) {x y r : Word} (hx : tempVal sp st s1 = some x)
    (hy : tempVal sp st s2 = some y) (hev : Pos.evalOp o x y = .ok r) :
    ∃ st', execStraight c la (x86Backend.binop o t s1 s2) st = .ok st' ∧ Boundary c st' sp ∧
      tempVal sp st' t = some r ∧ Preserved sp st st' (some t) :=
  binop_correct B o P hx hy hev

theorem C06_add_correct (B : Boundary c st sp) {t s1 s2 : Temporary} (ht : TempOK t) (h1 : TempOK s1)
    (h2 : TempOK s2) {x y : Word} (hx : tempVal sp st s1 = some x) (hy : tempVal sp st s2 = some y) :
    ∃ st', execStraight c la (add t s1 s2) st = .ok st' ∧ Boundary c st' sp ∧
      tempVal sp st' t = some (x + y) ∧ Preserved sp st st' (some t) := add_correct B ht h1 h2 hx hy

theorem C06_sub_correct (B : Boundary c st sp) {t s1 s2 : Temporary} (ht : TempOK t) (h1 : TempOK s1)
    (h2 : TempOK s2) {x y : Word} (hx : tempVal sp st s1 = some x) (hy : tempVal sp st s2 = some y) :
    ∃ st', execStraight c la (sub t s1 s2) st = .ok st' ∧ Boundary c st' sp ∧
      tempVal sp st' t = some (x - y) ∧ Preserved sp st st' (some t) := sub_correct B ht h1 h2 hx hy

theorem C06_mul_correct (B : Boundary c st sp) {t s1 s2 : Temporary} (ht : TempOK t) (h1 : TempOK s1)
    (h2 : TempOK s2) (hal : ∀ p, t = .spill p → t ≠ s1 ∧ t ≠ s2)
    {x y : Word} (hx : tempVal sp st s1 = some x) (hy : tempVal sp st s2 = some y) :
    ∃ st', execStraight c la (mul t s1 s2) st = .ok st' ∧ Boundary c st' sp ∧
      tempVal sp st' t = some (x * y) ∧ Preserved sp st st' (some t) := mul_correct B ht h1 h2 hal hx hy

theorem C06_div_correct (B : Boundary c st sp) {t s1 s2 : Temporary} (P : DivPlacement t s1 s2)
    {x y : Word} (hx : tempVal sp st s1 = some x) (hy : tempVal sp st s2 = some y) (hd : DivOK x y) :
    ∃ st', execStraight c la (div t s1 s2) st = .ok st' ∧ Boundary c st' sp ∧
      tempVal sp st' t = some (x.sdiv y) ∧ Preserved sp st st' (some t) := div_correct B P hx hy hd

theorem C06_rem_correct (B : Boundary c st sp) {t s1 s2 : Temporary} (P : DivPlacement t s1 s2)
    {x y : Word} (hx : tempVal sp st s1 = some x) (hy : tempVal sp st s2 = some y) (hd : DivOK x y) :
    ∃ st', execStraight c la (rem t s1 s2) st = .ok st' ∧ Boundary c st' sp ∧
      tempVal sp st' t = some (x.srem y) ∧ Preserved sp st st' (some t) := rem_correct B P hx hy hd

theorem C06_mov_correct (B : Boundary c st sp) {t s : Temporary} (ht : TempOK t) (hs : TempOK s) :
    ∃ st', execStraight c la (mov t s) st = .ok st' ∧ Boundary c st' sp ∧
      tempVal sp st' t = tempVal sp st s ∧ Preserved sp st st' (some t) := mov_correct B ht hs

/-- `load_immediate`: correct for EVERY `i64` literal (`fitsI64 v` is the type invariant of the Rust
`Immediate { val: i64 }`) and EVERY placement of the target.  For a spilled target and a literal outside
i32 the code goes through the scratch register TEMP, whose change `Preserved` permits. -/
theorem C06_load_immediate_correct (B : Boundary c st sp) {t : Temporary} (ht : TempOK t) {v : Int}
    (h64 : fitsI64 v = true) :
    ∃ st', execStraight c la (loadImmediate t v) st = .ok st' ∧ Boundary c st' sp ∧
      tempVal sp st' t = some (BitVec.ofInt 64 v) ∧ Preserved sp st st' (some t) :=
  loadImmediate_correct B ht h64

theorem fitsI64_toInt (w : Word) : fitsI64 w.toInt = true := by
  have h1 := BitVec.le_toInt w
  have h2 := BitVec.toInt_lt (x := w)
  simp only [fitsI64, Bool.and_eq_true, decide_eq_true_eq]
  constructor <;> omega

/-- the same for an arbitrary 64-bit word: loading the literal `w.toInt` leaves exactly `w` in the
target — no hypothesis on the value at all. -/
theorem C06_load_immediate_word (B : Boundary c st sp) {t : Temporary} (ht : TempOK t) (w : Word) :
    ∃ st', execStraight c la (loadImmediate t w.toInt) st = .ok st' ∧ Boundary c st' sp ∧
      tempVal sp st' t = some w ∧ Preserved sp st st' (some t) := by
  obtain ⟨st', h1, h2, h3, h4⟩ := C06_load_immediate_correct (la := la) B ht (fitsI64_toInt w)
  exact ⟨st', h1, h2, by rw [h3, BitVec.ofInt_toInt], h4⟩

/-- REGRESSION for D5 (repaired): the literal 4294967297 = 2^32 + 1 into a spill slot is now the
two-instruction sequence through TEMP, both instructions pass the C14 operand check, and from every
boundary state the machine ends with the literal in the slot (before the repair: a machine fault in
EVERY state, `imm-out-of-range`). -/
theorem C06_load_immediate_D5_regression (B : Boundary c st sp) {p : Nat} (hp : TempOK (.spill p)) :
    loadImmediate (.spill p) 4294967297 =
      [.MOVI TEMP 4294967297, .MOVS TEMP STACK (stackOffset p)] ∧
    (∀ code ∈ loadImmediate (.spill p) 4294967297, codeOperandError code = none) ∧
    ∃ st', execStraight c la (loadImmediate (.spill p) 4294967297) st = .ok st' ∧ Boundary c st' sp ∧
      tempVal sp st' (.spill p) = some 4294967297#64 ∧ Preserved sp st st' (some (.spill p)) :=
  ⟨loadImmediate_spill_wide p (by decide), operandsOK_loadImmediate hp.opnd (by decide),
   loadImmediate_correct B hp (by decide)⟩

/-- witness: `mul` into a spilled target that is also its first source is `imul [mem], reg` -/
theorem C06_mul_alias_witness (c : MachCfg) (la : String → Option Nat) (st : State) (p r : Nat) :
    ∃ e, execStraight c la (mul (.spill p) (.spill p) (.reg r)) st = .error e :=
  mul_alias_illegal c la st p r

theorem C06_load_label_correct (B : Boundary c st sp) {t : Temporary} (ht : TempOK t) {name : String}
    {n : Nat} (hl : la name = some n) :
    ∃ st', execStraight c la (loadLabel t name) st = .ok st' ∧ Boundary c st' sp ∧
      tempVal sp st' t = some (BitVec.ofNat 64 n) ∧ Preserved sp st st' (some t) := loadLabel_correct B ht hl

theorem C06_compare_correct (B : Boundary c st sp) {fst snd : Temporary} (h1 : TempOK fst) (h2 : TempOK snd)
    {x y : Word} (hx : tempVal sp st fst = some x) (hy : tempVal sp st snd = some y) :
    ∃ st', execStraight c la (compare fst snd) st = .ok st' ∧ Boundary c st' sp ∧
      st'.flags = some (x, y) ∧ Preserved sp st st' none := compare_correct B h1 h2 hx hy

theorem C06_compare_zero_correct (B : Boundary c st sp) {t : Temporary} (h1 : TempOK t) {x : Word}
    (hx : tempVal sp st t = some x) :
    ∃ st', execStraight c la (compareImmediate t 0) st = .ok st' ∧ Boundary c st' sp ∧
      st'.flags = some (x, 0) ∧ Preserved sp st st' none := by
  simpa using compareImmediate_correct (la := la) B h1 (i := 0) (by decide) hx

/-- `jump_label_if_*` = the comparison followed by ONE conditional jump, which goes to its label
exactly when the AxCut comparison holds on the recorded operands (all 6 × 2 forms). -/
theorem C06_branch_correct (sort : IfSort) (fst snd : Temporary) (l : String) (st : State) {a b : Word}
    (hf : st.flags = some (a, b)) :
    x86Backend.jumpLabelIf sort fst snd l = compare fst snd ++ [condJump sort l] ∧
    x86Backend.jumpLabelIfZero sort fst l = compareImmediate fst 0 ++ [condJump sort l] ∧
    execCode c la (condJump sort l) st = .ok (st, if Pos.evalCmp sort a b then .jumpLabel l else .next) := by
  refine ⟨rfl, rfl, ?_⟩
  rw [condJump_correct c la sort l st hf]
  cases sort <;> rfl

/-- invoke: `add_and_jump t imm` jumps to (contents of `t`) + imm -/
theorem C06_invoke_jump (B : Boundary c st sp) {t : Temporary} (ht : TempOK t) {imm : Int}
    (hi : fitsI32 imm = true) {x : Word} (hx : tempVal sp st t = some x) :
    addAndJump t imm = addAndJumpPre t imm ++ [.JMP (jumpReg t)] ∧
    ∃ st', execStraight c la (addAndJumpPre t imm) st = .ok st' ∧ Boundary c st' sp ∧
      Preserved sp st st' (some t) ∧
      execCode c la (.JMP (jumpReg t)) st' = .ok (st', .jumpAddr (x + BitVec.ofInt 64 imm).toNat) :=
  addAndJump_correct B ht hi hx

/-- switch: `load_label TEMP l; add TEMP TEMP tag; jump TEMP` jumps to (address of the table) + tag,
for a tag in a register and for a tag in a spill slot (the x86 `add rcx, [rsp + off]` form; compare the
AArch64 defect `C07_a64_switch_spill_witness`). -/
theorem C06_switch_jump (B : Boundary c st sp) {tag : Temporary} (ht : TempOK tag) {l : String} {n : Nat}
    (hl : la l = some n) {x : Word} (hx : tempVal sp st tag = some x) :
    x86Backend.jump x86Backend.temp = [.JMP TEMP] ∧
    ∃ st', execStraight c la (x86Backend.loadLabel x86Backend.temp l ++
        x86Backend.binop .sum x86Backend.temp x86Backend.temp tag) st = .ok st' ∧
      Boundary c st' sp ∧ Preserved sp st st' none ∧
      execCode c la (.JMP TEMP) st' = .ok (st', .jumpAddr (BitVec.ofNat 64 n + x).toNat) :=
  switchJump_correct B ht hl hx

/-- THE BRIDGE to the machine's transition function: if the program text contains the instruction list
at the program counter, `step` iterated over it performs exactly `execStraight`, with `pc` advanced past
the list and the executed instructions counted (so every contract above is a statement about `step`). -/
theorem C06_machine_steps (m : MonCfg) (p : Prog) (codes : List Code) (s s' : State)
    (hcode : ∀ i (h : i < codes.length), p.code[s.pc + i]? = some codes[i])
    (hx : execStraight m.mach p.labelAddr codes s = .ok s') :
    stepN m p codes.length s = .inl (setPS s' (s.pc + codes.length) (s.steps + realCount codes)) :=
  steps_straight m p codes s s' hcode hx

/-- `skip_if_zero`: a zero condition skips the body; a non-zero one runs it (after the comparison,
which changes only TEMP and the flags) -/
theorem C06_skip_if_zero (B : Boundary c st sp) {cond : Temporary} (ht : TempOK cond) {x : Word}
    (hv : tempVal sp st cond = some x) (body : List Code) (k : Nat)
    (hfresh : skipTo (labName (k + 1)) body = none) :
    ∃ code, (skipIfZero cond body).run k = .ok (code, k + 1) ∧
      (x = 0 → ∃ st', execFwd c la code st = .ok (st', .next) ∧ Boundary c st' sp ∧
        Preserved sp st st' none) ∧
      (x ≠ 0 → ∃ st1, Boundary c st1 sp ∧ Preserved sp st st1 none ∧ st1.flags = some (x, 0) ∧
        ∀ st', execFwd c la body st1 = .ok (st', .next) → execFwd c la code st = .ok (st', .next)) := by
  refine ⟨_, skipIfZero_run cond body k, fun h0 => ?_, fun hne => ?_⟩
  · subst h0
    obtain ⟨_, hrun, h⟩ := skipIfZero_zero (la := la) B ht hv body k hfresh
    rw [skipIfZero_run] at hrun; cases hrun; exact h
  · obtain ⟨_, hrun, h⟩ := skipIfZero_nonzero (la := la) B ht hv hne body k
    rw [skipIfZero_run] at hrun; cases hrun; exact h

/-- `if_zero_then_else` on register `r` (`offset = none`) or on the heap word `[r + 0]`
(`offset = some 0`): exactly one branch runs, chosen by the tested word -/
theorem C06_if_zero_then_else {r : Nat} {x : Word} (hr : regIs st r x) {offset : Option Int}
    (ho : offset = none ∨ (offset = some 0 ∧ HeapAddr c x)) (tb eb : List Code) (k : Nat)
    (hf1 : skipTo (labName (k + 1)) eb = none) (hf2 : skipTo (labName (k + 2)) tb = none) :
    ∃ code, (ifZeroThenElse r offset tb eb).run k = .ok (code, k + 2) ∧
      (iteWord st x offset = 0 → ∀ st', execFwd c la tb { st with flags := some (0, 0) } = .ok (st', .next) →
        execFwd c la code st = .ok (st', .next)) ∧
      (iteWord st x offset ≠ 0 → ∀ st',
        execFwd c la eb { st with flags := some (iteWord st x offset, 0) } = .ok (st', .next) →
        execFwd c la code st = .ok (st', .next)) := by
  refine ⟨_, ifZeroThenElse_run r offset tb eb k, fun h0 => ?_, fun hne => ?_⟩
  · obtain ⟨_, hrun, h⟩ := ifZeroThenElse_zero (la := la) hr ho h0 tb eb k hf1
    rw [ifZeroThenElse_run] at hrun; cases hrun; exact h
  · obtain ⟨_, hrun, h⟩ := ifZeroThenElse_nonzero (la := la) hr ho hne tb eb k hf2
    rw [ifZeroThenElse_run] at hrun; cases hrun; exact h

/-- `share_block_n` implements `Scc.Heap.shareBlock` (pointer in a register or in a spill slot) -/
theorem C06_share_block_correct (h8 : c.heapBase % 8 = 0) (B : Boundary c st sp) {h h' : Scc.Heap.HState}
    (R : HeapRel c st h) {t : Temporary} (ht : TempOK t) {p : Word} (hv : tempVal sp st t = some p)
    {n : Nat} (hn : fitsI32 (n : Int) = true) (hop : Scc.Heap.shareBlock h p.toNat n = .ok h')
    (hno : h.mem.get p.toNat + n < 2 ^ 64) (k : Nat) :
    ∃ code, (x86Backend.shareBlockN t n).run k = .ok (code, k + 1) ∧
      ∃ st', execFwd c la code st = .ok (st', .next) ∧ Boundary c st' sp ∧ HeapRel c st' h' ∧
        FrameH st st' [TEMP] :=
  shareBlockN_contract h8 B R ht hv hn hop (fun _ => hno) k

/-- `erase_block` implements `Scc.Heap.eraseBlock` (pointer in a register or in a spill slot) -/
theorem C06_erase_block_correct (h8 : c.heapBase % 8 = 0) (B : Boundary c st sp) {h h' : Scc.Heap.HState}
    (R : HeapRel c st h) {t : Temporary} (ht : TempOK t) {p : Word} (hv : tempVal sp st t = some p)
    (hop : Scc.Heap.eraseBlock h p.toNat = .ok h') (k : Nat) :
    ∃ code, (x86Backend.eraseBlock t).run k = .ok (code, k + 3) ∧
      ∃ st', execFwd c la code st = .ok (st', .next) ∧ Boundary c st' sp ∧ HeapRel c st' h' ∧
        FrameH st st' [TEMP, FREE] :=
  eraseBlock_contract h8 B R ht hv hop k

/-- THE BRIDGE for blocks with forward local labels: if the text contains the block at `s.pc` and
the labels the block defines resolve into the block (`BlockAt`: they are defined nowhere earlier in the
text), then whenever `execFwd` runs the block to its end, the machine's `step`, iterated, does the same
and arrives just behind the block. -/
theorem C06_machine_steps_fwd (m : MonCfg) (p : Prog) (codes : List Code) (s s' : State)
    (hb : BlockAt p s.pc codes) (hx : execFwd m.mach p.labelAddr codes s = .ok (s', .next)) :
    ∃ k steps', stepN m p k s = .inl (setPS s' (s.pc + codes.length) steps') :=
  steps_fwd m p s.pc codes hb codes.length 0 s s' (by omega) (by omega) rfl (by simpa using hx)

/-- `acquire_block` implements `Scc.Heap.acquire` (target in a register or in a spill slot): the target
ends up holding the acquired block, HEAP/FREE/heap represent the model's result; besides the target
only TEMP, HEAP, FREE, the flags and the heap change; the code defines exactly fresh labels. -/
theorem C06_acquire_block_correct (h8 : c.heapBase % 8 = 0) (B : Boundary c st sp)
    {h h' : Scc.Heap.HState} (R : HeapRel c st h) {t : Temporary} (ht : TempOK t) {new : Nat}
    (hop : Scc.Heap.acquire h = .ok (h', new)) (k : Nat) :
    ∃ code, (acquireBlock t).run k = .ok (code, k + 13) ∧ LabsIn code k (k + 13) ∧
      ∃ st', execFwd c la code st = .ok (st', .next) ∧ Boundary c st' sp ∧ HeapRel c st' h' ∧
        (∃ w, tempVal sp st' t = some w ∧ w.toNat = new) ∧
        FrameT sp st st' (fun u => u = t ∨ u = .reg TEMP ∨ u = .reg HEAP ∨ u = .reg FREE) :=
  acquireBlock_contract h8 B R ht hop k

/-- `store` implements `Scc.Heap.storeObj`: the variables `toStore` at context positions `|rem| …`
(`EnvFields`: an `ext` variable holds an integer in its second temporary, any other variable a pointer
in its first and a word in its second temporary — `posTemp n` is utils.rs temporary_from_position) are
stored as one object; the first temporary of position `|rem|` ends up holding the object pointer.
Changed besides TEMP/HEAP/FREE/flags/heap: only first temporaries of the stored positions (the
`acquire_block` targets).  Preserved: every variable of `rem`, every second temporary, every temporary
beyond the stored positions, rsp, the stack outside the spill area. -/
theorem C06_store_correct (h8 : c.heapBase % 8 = 0) (B : Boundary c st sp) {h h' : Scc.Heap.HState}
    (R : HeapRel c st h) {toStore rem : Ctx} {fs : List Scc.Heap.Field}
    (hcap : 2 * (rem.length + toStore.length) ≤ 267)
    (hE : EnvFields (mview sp st) rem.length toStore fs) {ptr : Nat}
    (hop : Scc.Heap.storeObj h fs = .ok (h', ptr)) (k : Nat) :
    ∃ code k', (x86Backend.store toStore rem).run k = .ok (code, k') ∧ k ≤ k' ∧ LabsIn code k k' ∧
      ∃ st', execFwd c la code st = .ok (st', .next) ∧ Boundary c st' sp ∧ HeapRel c st' h' ∧
        (∃ w, tempVal sp st' (posTemp (2 * rem.length)) = some w ∧ w.toNat = ptr) ∧
        FrameT sp st st' (fun u => u = .reg TEMP ∨ u = .reg HEAP ∨ u = .reg FREE ∨
          ∃ j, j ≤ toStore.length - 1 ∧ u = posTemp (2 * (rem.length + j))) :=
  store_contract h8 B R hcap hE hop k

/-- `load` implements `Scc.Heap.loadObj` (`kindOf b` = the variable has a pointer part): the object
whose pointer is in the first temporary of position `|existing|` is unpacked into the variables
`toLoad`; afterwards they hold the loaded fields (`EnvFields`).  Preserved: FREE, every variable of
`existing`, rsp, the stack outside the spill area. -/
theorem C06_load_correct (h8 : c.heapBase % 8 = 0) (B : Boundary c st sp) {h h' : Scc.Heap.HState}
    (R : HeapRel c st h) {toLoad existing : Ctx} (hcap : 2 * (existing.length + toLoad.length) ≤ 267)
    {pw : Word} (hp : tempVal sp st (posTemp (2 * existing.length)) = some pw)
    {vals : List Scc.Heap.Field} (hop : Scc.Heap.loadObj h pw.toNat (toLoad.map kindOf) = .ok (h', vals))
    (hno : h.mem.get pw.toNat ≠ 0 → ∀ a, h'.mem.get a < 2 ^ 64) (k : Nat) :
    ∃ code k', (x86Backend.load toLoad existing).run k = .ok (code, k') ∧ k ≤ k' ∧ LabsIn code k k' ∧
      ∃ st', execFwd c la code st = .ok (st', .next) ∧ Boundary c st' sp ∧ HeapRel c st' h' ∧
        EnvFields (mview sp st') existing.length toLoad vals ∧
        FrameT sp st st' (fun u => u = .reg TEMP ∨ u = .reg HEAP ∨ u = .spill 0 ∨
          ∃ m, 2 * existing.length ≤ m ∧ m < 2 * (existing.length + toLoad.length) ∧ u = posTemp m) :=
  load_contract h8 B R hcap hp hop hno k

/-- the UNIQUE branch of `load` (the object's count is 0): no side condition -/
theorem C06_load_unique_correct (h8 : c.heapBase % 8 = 0) (B : Boundary c st sp) {h h' : Scc.Heap.HState}
    (R : HeapRel c st h) {toLoad existing : Ctx} (hcap : 2 * (existing.length + toLoad.length) ≤ 267)
    {pw : Word} (hp : tempVal sp st (posTemp (2 * existing.length)) = some pw)
    (hcnt : h.mem.get pw.toNat = 0)
    {vals : List Scc.Heap.Field} (hop : Scc.Heap.loadObj h pw.toNat (toLoad.map kindOf) = .ok (h', vals))
    (k : Nat) :
    ∃ code k', (x86Backend.load toLoad existing).run k = .ok (code, k') ∧ k ≤ k' ∧ LabsIn code k k' ∧
      ∃ st', execFwd c la code st = .ok (st', .next) ∧ Boundary c st' sp ∧ HeapRel c st' h' ∧
        EnvFields (mview sp st') existing.length toLoad vals ∧
        FrameT sp st st' (fun u => u = .reg TEMP ∨ u = .reg HEAP ∨ u = .spill 0 ∨
          ∃ m, 2 * existing.length ≤ m ∧ m < 2 * (existing.length + toLoad.length) ∧ u = posTemp m) :=
  load_contract h8 B R hcap hp hop (fun hne => absurd hcnt hne) k

/-- the SHARED branch of `load` (the object's count is not 0).  `hcnt` names the branch and is not used: with `hno`
    the contract `load_contract` covers both branches. -/
theorem C06_load_shared_correct (h8 : c.heapBase % 8 = 0) (B : Boundary c st sp) {h h' : Scc.Heap.HState}
    (R : HeapRel c st h) {toLoad existing : Ctx} (hcap : 2 * (existing.length + toLoad.length) ≤ 267)
    {pw : Word} (hp : tempVal sp st (posTemp (2 * existing.length)) = some pw)
    (hcnt : h.mem.get pw.toNat ≠ 0)
    {vals : List Scc.Heap.Field} (hop : Scc.Heap.loadObj h pw.toNat (toLoad.map kindOf) = .ok (h', vals))
    (hno : ∀ a, h'.mem.get a < 2 ^ 64) (k : Nat) :
    ∃ code k', (x86Backend.load toLoad existing).run k = .ok (code, k') ∧ k ≤ k' ∧ LabsIn code k k' ∧
      ∃ st', execFwd c la code st = .ok (st', .next) ∧ Boundary c st' sp ∧ HeapRel c st' h' ∧
        EnvFields (mview sp st') existing.length toLoad vals ∧
        FrameT sp st st' (fun u => u = .reg TEMP ∨ u = .reg HEAP ∨ u = .spill 0 ∨
          ∃ m, 2 * existing.length ≤ m ∧ m < 2 * (existing.length + toLoad.length) ∧ u = posTemp m) :=
  load_contract h8 B R hcap hp hop (fun _ => hno) k

/-- what `tempVal` means on the machine: the operand read of an instruction yields that value (`tempVal_readLoc`) -/
theorem C06_tempVal_sound (B : Boundary c st sp) {t : Temporary} (ht : OpndOK t) {v : Word}
    (hv : tempVal sp st t = some v) : readLoc c st (opLoc t) = .ok v := tempVal_readLoc B ht hv

/-! ## Non-vacuity: a concrete boundary state with values in registers and spill slots -/

/-- rsp of the example: 2048 bytes of spill area fit below the top of the default stack region -/
def exSp : Word := BitVec.ofNat 64 0x7ffef000

/-- registers: rsp, rdx = 7, rdi = -3; spill slots 1, 2, 3 = 100, 7, (undefined) -/
def exState : State :=
  { regs := #[some exSp, none, some 0x10000000#64, some 0x10000040#64, none, some 7#64, none,
              some (BitVec.ofInt 64 (-3)), none, none, none, none, none, none, none, none],
    flags := none, heapMem := ∅,
    stackMem := ((∅ : Std.HashMap Nat Word).insert (slotAddr exSp 1) 100#64).insert (slotAddr exSp 2) 7#64,
    pc := 0, out := [], maxHeapWritten := 0, steps := 0 }

theorem exState_boundary : Boundary {} exState exSp :=
  ⟨rfl, rfl, ⟨cfgOK_default, by decide, by decide, by decide⟩⟩

theorem exState_slot1 : tempVal exSp exState (.spill 1) = some 100#64 := by
  simp only [tempVal, exState]
  rw [Std.HashMap.getElem?_insert, Std.HashMap.getElem?_insert]
  simp [slotAddr]

theorem exState_slot2 : tempVal exSp exState (.spill 2) = some 7#64 := by
  simp only [tempVal, exState]
  rw [Std.HashMap.getElem?_insert]
  simp

/-- 100 % 7 with target and both sources in spill slots (the dance goes through rax, rdx, rcx) -/
example : ∃ st', execStraight {} (fun _ => none) (x86Backend.binop .rem (.spill 3) (.spill 1) (.spill 2)) exState
      = .ok st' ∧ tempVal exSp st' (.spill 3) = some 2#64 := by
  obtain ⟨st', h1, _, h3, _⟩ := C06_op_correct (la := fun _ => none) exState_boundary .rem
    (t := .spill 3) (s1 := .spill 1) (s2 := .spill 2)
    ⟨⟨by decide, by decide⟩, ⟨by decide, by decide⟩, ⟨by decide, by decide⟩, by decide, by decide,
      by decide, by decide, by decide⟩
    exState_slot1 exState_slot2 (r := 2#64) (by simp [Pos.evalOp, Pos.minInt])
  exact ⟨st', h1, h3⟩

/-- rdx - rdi with a register target that is the second source (the TEMP path of `sub`) -/
example : ∃ st', execStraight {} (fun _ => none) (sub (.reg 7) (.reg 5) (.reg 7)) exState = .ok st' ∧
      tempVal exSp st' (.reg 7) = some (7#64 - BitVec.ofInt 64 (-3)) := by
  obtain ⟨st', h1, _, h3, _⟩ := C06_sub_correct (la := fun _ => none) exState_boundary
    (t := .reg 7) (s1 := .reg 5) (s2 := .reg 7) ⟨by decide, by decide⟩ ⟨by decide, by decide⟩
    ⟨by decide, by decide⟩ (x := 7#64) (y := BitVec.ofInt 64 (-3)) rfl rfl
  exact ⟨st', h1, h3⟩

/-- a 64-bit literal into a register -/
example : ∃ st', execStraight {} (fun _ => none) (loadImmediate (.reg 9) 4294967297) exState = .ok st' ∧
      tempVal exSp st' (.reg 9) = some (BitVec.ofInt 64 4294967297) := by
  obtain ⟨st', h1, _, h3, _⟩ := C06_load_immediate_correct (la := fun _ => none) exState_boundary
    (t := .reg 9) ⟨by decide, by decide⟩ (v := 4294967297) (by decide)
  exact ⟨st', h1, h3⟩

/-- the D5 input: the 7th variable (context position 6, second temporary) lives in spill slot 2,
i.e. at `[rsp + 2024]` -/
example : temporaryFromPosition (2 * 6 + 1) = .ok (.spill 2) ∧ stackOffset 2 = 2024 := ⟨rfl, by decide⟩

/-- the D5 input on the concrete state: the literal ends in slot 2; slot 1 (= 100) is untouched -/
example : ∃ st', execStraight {} (fun _ => none) (loadImmediate (.spill 2) 4294967297) exState = .ok st' ∧
      tempVal exSp st' (.spill 2) = some 4294967297#64 ∧ tempVal exSp st' (.spill 1) = some 100#64 := by
  obtain ⟨_, _, st', h1, _, h3, h4⟩ := C06_load_immediate_D5_regression (la := fun _ => none)
    exState_boundary (p := 2) ⟨by decide, by decide⟩
  refine ⟨st', h1, h3, ?_⟩
  have := h4.mem (slotAddr exSp 1) (fun q hq => by
    injection hq with hq; injection hq with hq; subst hq
    simp [slotAddr])
  simp only [tempVal]
  rw [this]
  exact exState_slot1

/-- a negative literal outside i32 into a spill slot (the branch through TEMP), as a word -/
example : ∃ st', execStraight {} (fun _ => none)
      (loadImmediate (.spill 3) (BitVec.ofInt 64 (-9223372036854775808)).toInt) exState = .ok st' ∧
      tempVal exSp st' (.spill 3) = some (BitVec.ofInt 64 (-9223372036854775808)) := by
  obtain ⟨st', h1, _, h3, _⟩ := C06_load_immediate_word (la := fun _ => none) exState_boundary
    (t := .spill 3) ⟨by decide, by decide⟩ (BitVec.ofInt 64 (-9223372036854775808))
  exact ⟨st', h1, h3⟩

/-! ### memory combinators: a concrete heap -/

/-- `exState` with a heap pointer (block 2 of the heap) in `rsi` -/
def exStateH : State := { exState with regs := exState.regs.set! 6 (some 0x10000080#64) }

theorem exStateH_boundary : Boundary {} exStateH exSp :=
  ⟨rfl, rfl, ⟨cfgOK_default, by decide, by decide, by decide⟩⟩

def exHeap : Scc.Heap.HState := Scc.Heap.init 0x10000000 (0x10000000 + 0x2000000)

theorem exStateH_heapRel : HeapRel {} exStateH exHeap :=
  ⟨rfl, rfl, fun a => by simp [exHeap, Scc.Heap.init, exStateH, exState],
   ⟨0x10000000#64, rfl, by decide⟩, ⟨0x10000040#64, rfl, by decide⟩⟩

theorem exShare : ∃ h', Scc.Heap.shareBlock exHeap (0x10000080#64).toNat 2 = .ok h' ∧
    h'.mem.get 0x10000080 = 2 := by
  simp [Scc.Heap.shareBlock, Scc.Heap.rd, Scc.Heap.wr, exHeap, Scc.Heap.init, Scc.Heap.Mem.get_set]

theorem exErase : Scc.Heap.eraseBlock exHeap (0x10000080#64).toNat =
    .ok { exHeap with mem := exHeap.mem.set 0x10000080 0x10000040, free := 0x10000080 } := by
  simp [Scc.Heap.eraseBlock, Scc.Heap.rd, Scc.Heap.wr, exHeap, Scc.Heap.init, Scc.Heap.blockSize]

example : ∃ code st' h', (shareBlockN (.reg 6) 2).run 0 = .ok (code, 1) ∧
    execFwd {} (fun _ => none) code exStateH = .ok (st', .next) ∧ HeapRel {} st' h' ∧
    h'.mem.get 0x10000080 = 2 := by
  obtain ⟨h', hop, hget⟩ := exShare
  obtain ⟨code, hrun, st', hx, _, R', _⟩ := shareBlockN_contract (la := fun _ => none) (by decide)
    exStateH_boundary exStateH_heapRel (t := .reg 6) ⟨by decide, by decide⟩ (p := 0x10000080#64) rfl
    (n := 2) (by decide) hop (fun _ => by simp [exHeap, Scc.Heap.init]) 0
  exact ⟨code, st', h', hrun, hx, R', hget⟩

theorem exAcquire : Scc.Heap.acquire exHeap =
    .ok ({ exHeap with heap := 0x10000040, free := 0x10000080 }, 0x10000000) := by
  simp [Scc.Heap.acquire, Scc.Heap.rd, exHeap, Scc.Heap.init, Scc.Heap.blockSize]

/-- bump allocation into spill slot 5: the slot ends up holding the old HEAP, slot 1 (= 100) is kept -/
example : ∃ code st', (acquireBlock (.spill 5)).run 0 = .ok (code, 13) ∧
    execFwd {} (fun _ => none) code exStateH = .ok (st', .next) ∧
    tempVal exSp st' (.spill 5) = some 0x10000000#64 ∧ tempVal exSp st' (.spill 1) = some 100#64 := by
  obtain ⟨code, hrun, _, st', hx, _, _, ⟨w, hw, ew⟩, F⟩ := C06_acquire_block_correct (la := fun _ => none)
    (by decide) exStateH_boundary exStateH_heapRel (t := .spill 5) ⟨by decide, by decide⟩ exAcquire 0
  refine ⟨code, st', hrun, hx, ?_, ?_⟩
  · rw [hw]; congr 1; exact BitVec.eq_of_toNat_eq (by rw [ew]; rfl)
  · rw [F.temps (.spill 1) (show (1 : Nat) < 256 by decide) (by simp [TEMP_eq, HEAP_eq, FREE_eq])]
    exact exState_slot1

/-- `exStateH` viewed as an environment: position 0 = (rax: undefined, rdx = 7), an `ext` variable;
position 1 = (rsi = pointer 0x10000080, rdi = -3), a producer -/
def exCtx : Ctx := [⟨⟨"a", 1⟩, .ext, .i64⟩, ⟨⟨"b", 2⟩, .prd, .i64⟩]

theorem exEnv : EnvFields (mview exSp exStateH) 0 exCtx [.int 7, .ptr 0x10000080 18446744073709551613] := by
  refine ⟨?_, ?_, trivial⟩
  · exact ⟨7#64, rfl, rfl⟩
  · exact ⟨0x10000080#64, BitVec.ofInt 64 (-3), rfl, rfl, rfl⟩

theorem exStore : ∃ h', Scc.Heap.storeObj exHeap [.int 7, .ptr 0x10000080 18446744073709551613] =
    .ok (h', 0x10000000) := by
  simp [Scc.Heap.storeObj, heap_storeFields_cons, heap_storeFields_nil, Scc.Heap.restLength, Scc.Heap.storeValues,
    Scc.Heap.storeValuesRev, Scc.Heap.storeValue, Scc.Heap.storeZeros, Scc.Heap.storeZerosFrom, Scc.Heap.wr,
    Scc.Heap.acquire, Scc.Heap.rd, Scc.Heap.Mem.get_set, exHeap, Scc.Heap.init, Scc.Heap.fieldsPerBlock,
    Scc.Heap.BlockPosition.toNat, Scc.Heap.sndOff, Scc.Heap.fstOff, Scc.Heap.fieldOffset, Scc.Heap.blockSize]

/-- one block: both variables of `exCtx` are stored; rax (first temporary of position 0) ends up
holding the object pointer = the old HEAP -/
example : ∃ code k' st', (x86Backend.store exCtx []).run 0 = .ok (code, k') ∧
    execFwd {} (fun _ => none) code exStateH = .ok (st', .next) ∧
    tempVal exSp st' (.reg 4) = some 0x10000000#64 := by
  obtain ⟨h', hop⟩ := exStore
  obtain ⟨code, k', hrun, _, _, st', hx, _, _, ⟨w, hw, ew⟩, _⟩ := C06_store_correct (la := fun _ => none)
    (by decide) exStateH_boundary exStateH_heapRel (toStore := exCtx) (rem := []) (by decide) exEnv hop 0
  refine ⟨code, k', st', hrun, hx, ?_⟩
  have : posTemp (2 * ([] : Ctx).length) = .reg 4 := rfl
  rw [this] at hw
  rw [hw]; congr 1; exact BitVec.eq_of_toNat_eq (by rw [ew]; rfl)

/-- four integer variables in rdx, rdi, r9, r11 (second temporaries of positions 0..3) -/
def exStateS : State :=
  { exState with regs := #[some exSp, none, some 0x10000000#64, some 0x10000040#64, none, some 1#64, none,
      some 2#64, none, some 3#64, none, some 4#64, none, none, none, none] }

theorem exStateS_boundary : Boundary {} exStateS exSp :=
  ⟨rfl, rfl, ⟨cfgOK_default, by decide, by decide, by decide⟩⟩

theorem exStateS_heapRel : HeapRel {} exStateS exHeap :=
  ⟨rfl, rfl, fun a => by simp [exHeap, Scc.Heap.init, exStateS, exState],
   ⟨0x10000000#64, rfl, by decide⟩, ⟨0x10000040#64, rfl, by decide⟩⟩

def exCtx4 : Ctx := [⟨⟨"a", 1⟩, .ext, .i64⟩, ⟨⟨"b", 2⟩, .ext, .i64⟩, ⟨⟨"c", 3⟩, .ext, .i64⟩, ⟨⟨"d", 4⟩, .ext, .i64⟩]

theorem exEnv4 : EnvFields (mview exSp exStateS) 0 exCtx4 [.int 1, .int 2, .int 3, .int 4] :=
  ⟨⟨1#64, rfl, rfl⟩, ⟨2#64, rfl, rfl⟩, ⟨3#64, rfl, rfl⟩, ⟨4#64, rfl, rfl⟩, trivial⟩

theorem exStore4 : ∃ h', Scc.Heap.storeObj exHeap [.int 1, .int 2, .int 3, .int 4] = .ok (h', 0x10000040) := by
  simp [Scc.Heap.storeObj, heap_storeFields_cons, heap_storeFields_nil, Scc.Heap.restLength, Scc.Heap.storeValues,
    Scc.Heap.storeValuesRev, Scc.Heap.storeValue, Scc.Heap.storeZeros, Scc.Heap.storeZerosFrom, Scc.Heap.wr,
    Scc.Heap.acquire, Scc.Heap.rd, Scc.Heap.Mem.get_set, exHeap, Scc.Heap.init, Scc.Heap.fieldsPerBlock,
    Scc.Heap.BlockPosition.toNat, Scc.Heap.sndOff, Scc.Heap.fstOff, Scc.Heap.fieldOffset, Scc.Heap.blockSize]

/-- a chain of TWO blocks (4 fields): the object pointer is the second acquired block -/
example : ∃ code k' st', (x86Backend.store exCtx4 []).run 0 = .ok (code, k') ∧
    execFwd {} (fun _ => none) code exStateS = .ok (st', .next) ∧
    tempVal exSp st' (.reg 4) = some 0x10000040#64 := by
  obtain ⟨h', hop⟩ := exStore4
  obtain ⟨code, k', hrun, _, _, st', hx, _, _, ⟨w, hw, ew⟩, _⟩ := C06_store_correct (la := fun _ => none)
    (by decide) exStateS_boundary exStateS_heapRel (toStore := exCtx4) (rem := []) (by decide) exEnv4 hop 0
  refine ⟨code, k', st', hrun, hx, ?_⟩
  have : posTemp (2 * ([] : Ctx).length) = .reg 4 := rfl
  rw [this] at hw
  rw [hw]; congr 1; exact BitVec.eq_of_toNat_eq (by rw [ew]; rfl)

/-- the capacity hypothesis `2 * (|rem| + |toStore|) ≤ 267` of `C06_store_correct` / `C06_load_correct` is
the capacity of the real code: position 266 is the last temporary (spill slot 255); position 267 —
needed for the second temporary of a 134th variable — is the Rust panic "Out of temporaries" (no code is
emitted at all) -/
example (ctx : Ctx) (h : ctx.length = 133) (k : Nat) : temporaryFromPosition 266 = .ok (.spill 255) ∧
    temporaryFromPosition 267 = .error "Out of temporaries" ∧
    (x86Backend.freshTemporary .snd ctx).run k = .error "Out of temporaries" := by
  refine ⟨rfl, rfl, ?_⟩
  show (freshTemporary .snd ctx).run k = _
  unfold freshTemporary
  rw [h]
  rfl

/-- a heap holding at 0x10000080 an object of two fields — an integer 7 and a pointer 0x100000c0 with
word 9 — whose count is `cnt` -/
def exMemObj (cnt : Nat) : Scc.Heap.Mem :=
  (((Scc.Heap.Mem.empty.set 0x10000080 cnt).set 0x100000a8 7).set 0x100000b0 0x100000c0).set 0x100000b8 9

def exHeapObj (cnt : Nat) : Scc.Heap.HState := { exHeap with mem := exMemObj cnt }

/-- `exStateH` (rsi = 0x10000080: first temporary of position 1) with that heap -/
def exStateObj (cnt : Word) : State :=
  { exStateH with heapMem := ((((∅ : Std.HashMap Nat Word).insert 0x10000080 cnt).insert 0x100000a8 7#64).insert
      0x100000b0 0x100000c0#64).insert 0x100000b8 9#64 }

theorem exStateObj_boundary (cnt : Word) : Boundary {} (exStateObj cnt) exSp :=
  ⟨rfl, rfl, ⟨cfgOK_default, by decide, by decide, by decide⟩⟩

theorem exStateObj_heapRel (cnt : Word) : HeapRel {} (exStateObj cnt) (exHeapObj cnt.toNat) := by
  refine ⟨rfl, rfl, fun a => ?_, ⟨0x10000000#64, rfl, rfl⟩, ⟨0x10000040#64, rfl, rfl⟩⟩
  simp only [exHeapObj, exMemObj, exStateObj, Scc.Heap.Mem.get_set, Std.HashMap.getD_insert, exHeap, Scc.Heap.init,
    Scc.Heap.Mem.get_empty]
  by_cases h1 : 0x100000b8 = a
  · subst h1; simp
  by_cases h2 : 0x100000b0 = a
  · subst h2; simp
  by_cases h3 : 0x100000a8 = a
  · subst h3; simp
  by_cases h4 : 0x10000080 = a
  · subst h4; simp
  simp [h1, h2, h3, h4]

/-- the variables to load: an integer and a producer, at positions 1 and 2 (after `a` at position 0) -/
def exLoadCtx : Ctx := [⟨⟨"x", 3⟩, .ext, .i64⟩, ⟨⟨"y", 4⟩, .prd, .i64⟩]

theorem exLoadUnique : ∃ h', Scc.Heap.loadObj (exHeapObj 0) (0x10000080#64).toNat (exLoadCtx.map kindOf) =
    .ok (h', [.int 7, .ptr 0x100000c0 9]) := by
  simp [Scc.Heap.loadObj, heap_loadFields_cons, heap_loadFields_nil, Scc.Heap.restLength, Scc.Heap.loadValues,
    Scc.Heap.loadValuesRev, Scc.Heap.loadValue, Scc.Heap.releaseBlock, Scc.Heap.wr, Scc.Heap.rd,
    Scc.Heap.Mem.get_set, exHeapObj, exMemObj, exHeap, Scc.Heap.init, Scc.Heap.fieldsPerBlock,
    Scc.Heap.BlockPosition.toNat, Scc.Heap.sndOff, Scc.Heap.fstOff, Scc.Heap.fieldOffset, exLoadCtx, kindOf,
    show (Chi.prd != Chi.ext) = true from rfl, show (Chi.ext != Chi.ext) = false from rfl]

theorem exLoadShared : ∃ h', Scc.Heap.loadObj (exHeapObj 1) (0x10000080#64).toNat (exLoadCtx.map kindOf) =
    .ok (h', [.int 7, .ptr 0x100000c0 9]) ∧ h'.mem.get 0x10000080 = 0 ∧ h'.mem.get 0x100000c0 = 1 ∧
      ∀ a, h'.mem.get a < 2 ^ 64 := by
  simp [Scc.Heap.loadObj, heap_loadFields_cons, heap_loadFields_nil, Scc.Heap.restLength, Scc.Heap.loadValues,
    Scc.Heap.loadValuesRev, Scc.Heap.loadValue, Scc.Heap.shareBlock, Scc.Heap.wr, Scc.Heap.rd,
    Scc.Heap.Mem.get_set, exHeapObj, exMemObj, exHeap, Scc.Heap.init, Scc.Heap.fieldsPerBlock,
    Scc.Heap.BlockPosition.toNat, Scc.Heap.sndOff, Scc.Heap.fstOff, Scc.Heap.fieldOffset, exLoadCtx, kindOf,
    show (Chi.prd != Chi.ext) = true from rfl, show (Chi.ext != Chi.ext) = false from rfl]
  intro a
  repeat' split
  all_goals omega

/-- unique load: r8 (first temporary of position 2) ends up holding the child pointer, r9 the word 9,
rdi (second temporary of position 1) the integer 7; rdx (variable `a` of the existing context) is kept -/
example : ∃ code k' st', (x86Backend.load exLoadCtx [⟨⟨"a", 1⟩, .ext, .i64⟩]).run 0 = .ok (code, k') ∧
    execFwd {} (fun _ => none) code (exStateObj 0) = .ok (st', .next) ∧
    EnvFields (mview exSp st') 1 exLoadCtx [.int 7, .ptr 0x100000c0 9] ∧
    tempVal exSp st' (.reg 5) = some 7#64 := by
  obtain ⟨h', hop⟩ := exLoadUnique
  obtain ⟨code, k', hrun, _, _, st', hx, _, _, hE, F⟩ := C06_load_unique_correct (la := fun _ => none)
    (by decide) (exStateObj_boundary 0) (exStateObj_heapRel 0) (toLoad := exLoadCtx)
    (existing := [⟨⟨"a", 1⟩, .ext, .i64⟩]) (by decide) (pw := 0x10000080#64) rfl
    (by simp [exHeapObj, exMemObj, Scc.Heap.Mem.get_set]) hop 0
  refine ⟨code, k', st', hrun, hx, hE, ?_⟩
  rw [F.temps (.reg 5) ⟨by decide, by decide⟩ (by
    rintro (e | e | e | ⟨m, h1, _, e⟩)
    · cases e
    · cases e
    · cases e
    · have : posTemp 1 = .reg 5 := rfl
      rw [← this] at e
      have := posTemp_inj.1 e
      simp at h1; omega)]
  rfl

/-- shared load: the object's count drops to 0, the child's count rises to 1 -/
example : ∃ code k' st' h', (x86Backend.load exLoadCtx [⟨⟨"a", 1⟩, .ext, .i64⟩]).run 0 = .ok (code, k') ∧
    execFwd {} (fun _ => none) code (exStateObj 1) = .ok (st', .next) ∧ HeapRel {} st' h' ∧
    EnvFields (mview exSp st') 1 exLoadCtx [.int 7, .ptr 0x100000c0 9] ∧
    h'.mem.get 0x10000080 = 0 ∧ h'.mem.get 0x100000c0 = 1 := by
  obtain ⟨h', hop, hc1, hc2, hno⟩ := exLoadShared
  obtain ⟨code, k', hrun, _, _, st', hx, _, R', hE, _⟩ := C06_load_shared_correct (la := fun _ => none)
    (by decide) (exStateObj_boundary 1) (exStateObj_heapRel 1) (toLoad := exLoadCtx)
    (existing := [⟨⟨"a", 1⟩, .ext, .i64⟩]) (by decide) (pw := 0x10000080#64) rfl
    (by simp [exHeapObj, exMemObj, Scc.Heap.Mem.get_set]) hop hno 0
  exact ⟨code, k', st', h', hrun, hx, R', hE, hc1, hc2⟩

example : ∃ code st', (eraseBlock (.reg 6)).run 0 = .ok (code, 3) ∧
    execFwd {} (fun _ => none) code exStateH = .ok (st', .next) ∧ regIs st' FREE 0x10000080#64 := by
  obtain ⟨code, hrun, st', hx, _, R', _⟩ := eraseBlock_contract (la := fun _ => none) (by decide)
    exStateH_boundary exStateH_heapRel (t := .reg 6) ⟨by decide, by decide⟩ (p := 0x10000080#64) rfl
    exErase 0
  obtain ⟨w, hw, ew⟩ := R'.free
  refine ⟨code, st', hrun, hx, ?_⟩
  have : w = 0x10000080#64 := BitVec.eq_of_toNat_eq (by rw [ew]; rfl)
  rw [← this]; exact hw

/-! ## Theorem B: abstract backend machine ⟶ x86-64 machine (integer fragment) -/

section TheoremB
open Scc.Backend Scc.Backend.Abs Scc.Backend.Sim Scc.X86.Ref
open Scc.Props.C06Generic (IntProg IntStmt IntCtx Reachable WithinCapacity)
open Scc.Props.C14Generic (LabelSafe)

/-- the x86 body RENDERS the mock code (parametricity of the generic generator in the backend) -/
theorem C06_rendering (hooks : Bool) (p : AxCut.Prog) (htp : LinTypedProg p) (hip : IntProg p)
    (hr : ProgInRange p) {c : Nat} {body : List Code} {nargs : Nat}
    (h : compileX86 p hooks c = .ok (body, nargs)) :
    ∃ ops c', (compile mockSym hooks p).run c = .ok ((ops, nargs), c') ∧ Seg .normal ops body .normal :=
  seg_compile hooks p htp hip hr h

/-- the initial state: the header of the routine takes the machine's entry state to a state that represents the
    initial abstract configuration -/
theorem C06_init {mon : MonCfg} (MO : MachOK mon.mach) {p : Prog} {routine body : List Code}
    {args : List Word} (hn : args.length ≤ 5) (hr : intoRoutine body args.length = .ok routine)
    (L : Loaded p routine) :
    ∃ (hdr : List Code) (F : Frame) (h : Word) (st0' : State) (k : Nat) (st2 : State),
      routine = hdr ++ body ++ cleanup ∧ labs hdr = ["asm_main"] ∧ labIdx routine "asm_main" = some 6 ∧
      F.c = mon.mach ∧ FrameOK F ∧ EntryFacts F st0' h ∧
      stepN mon p k (initState mon.mach args 6) = .inl st2 ∧ st2.pc = hdr.length ∧
      RepX86 F .normal (initConfig 0 args) st2 :=
  init_sim MO hn hr L

/-- one step of the abstract machine is simulated by the x86-64 machine on the rendering -/
theorem C06_sim_step {F : Frame} (H : FrameOK F) {mon : MonCfg} (hmon : mon.mach = F.c) {p : Prog}
    {ops : List MockOp} {cs hdr body post : List Code} (L : Loaded p cs) (hcs : cs = hdr ++ body ++ post)
    (W : Seg .normal ops body .normal) (hnodup : (labelNames ops).Nodup)
    (hhdr : ∀ n ∈ labelNames ops, n ∉ labs hdr) {cfg cfg' : Config} {g : Mode} {st : State}
    (hs : Abs.step (Program.ofOps ops) cfg = .next cfg') (R : RepX86 F g cfg st)
    (A : At ops cs cfg.pc st.pc g) :
    ∃ k st' g', stepN mon p k st = .inl st' ∧ RepX86 F g' cfg' st' ∧ At ops cs cfg'.pc st'.pc g' :=
  sim_step H hmon L hcs W hnodup hhdr hs R A

/-- the halting step `jumplabel cleanup`: jump, epilogue, `ret` with a successful exit check -/
theorem C06_sim_halt {F : Frame} (H : FrameOK F) {mon : MonCfg} (hmon : mon.mach = F.c) {p : Prog}
    {ops : List MockOp} {cs hdr body : List Code} (L : Loaded p cs) (hcs : cs = hdr ++ body ++ cleanup)
    (W : Seg .normal ops body .normal) (hnodup : (labelNames ops).Nodup)
    (hclean : "cleanup" ∉ labs hdr ++ labelNames ops) {st0 : State} {h : Word} (E : EntryFacts F st0 h)
    {cfg : Config} {v : Word} {g : Mode} {st : State}
    (hs : Abs.step (Program.ofOps ops) cfg = .halt (.done v)) (R : RepX86 F g cfg st)
    (A : At ops cs cfg.pc st.pc g) :
    ∃ k stL, stepN mon p k st = .inl stL ∧ step mon p stL = .inr (.done v) ∧ stL.out = cfg.out :=
  sim_halt H hmon L hcs W hnodup hclean E hs R A

/-- END TO END for integer programs: from the AxCut positional machine to the x86-64 machine on
the ITEMS of the emitted routine.  Hypotheses: `LabelSafe`, linearly typed, integer statements and `ext`
contexts only (`IntProg`), literals in i64 (`ProgInRange`), the x86 generator succeeds (capacity of
temporary_from_position; `intoRoutine` ok: at most 5 parameters, the driver's limit), every context of the run within the
capacity of the mock numbering (as in `TheoremA_run_int`), a sane machine configuration, heap monitor
off.  `items`: any item list that agrees with the routine up to the text of comments. -/
theorem C06_int_programs (p : AxCut.Prog) (args : List Word) (hooks : Bool) (body routine : List Code)
    (nargs : Nat) (d0 : Def)
    (hsafe : LabelSafe p = true) (htp : LinTypedProg p) (hip : IntProg p) (hrange : ProgInRange p)
    (hcompX : compileX86 p hooks 0 = .ok (body, nargs)) (hrout : intoRoutine body nargs = .ok routine)
    (hd : p.defs.head? = some d0)
    (hcap : ∀ st, Reachable p ⟨d0.ctx, args.map .int, d0.body⟩ st → WithinCapacity st.ctx)
    (fuel : Nat) (out : List (Bool × Word)) (v : Word) (hrun : Pos.run p args fuel = ⟨out, .done v⟩)
    (cfg : MonCfg) (MO : MachOK cfg.mach) (hheap : cfg.heap = false)
    (items : List (Code × Nat)) (hitems : (items.map (·.1)).map stripC = routine.map stripC) :
    ∃ fuel', (runItems items args fuel' cfg).out = out ∧ (runItems items args fuel' cfg).res = .done v :=
  int_programs_items p args hooks body routine nargs d0 hsafe htp hip hrange hcompX hrout hd hcap
    fuel out v hrun cfg MO hheap items hitems

/-- the text of a routine LOADS: the machine's parser reads the printed routine back, up to the text of
comments (the parser trims it) -/
def TextLoads (routine : List Code) : Prop :=
  ∃ items, parseText (printProg routine) = .ok items ∧ (items.map (·.1)).map stripC = routine.map stripC

/-- `C06_int_programs` on the TEXT: `X86.run` on the printed routine, given that this text loads -/
theorem C06_int_programs_text (p : AxCut.Prog) (args : List Word) (hooks : Bool) (body routine : List Code)
    (nargs : Nat) (d0 : Def)
    (hsafe : LabelSafe p = true) (htp : LinTypedProg p) (hip : IntProg p) (hrange : ProgInRange p)
    (hcompX : compileX86 p hooks 0 = .ok (body, nargs)) (hrout : intoRoutine body nargs = .ok routine)
    (hd : p.defs.head? = some d0)
    (hcap : ∀ st, Reachable p ⟨d0.ctx, args.map .int, d0.body⟩ st → WithinCapacity st.ctx)
    (fuel : Nat) (out : List (Bool × Word)) (v : Word) (hrun : Pos.run p args fuel = ⟨out, .done v⟩)
    (cfg : MonCfg) (MO : MachOK cfg.mach) (hheap : cfg.heap = false) (hload : TextLoads routine) :
    ∃ fuel', (run (printProg routine) args fuel' cfg).out = out ∧
      (run (printProg routine) args fuel' cfg).res = .done v := by
  obtain ⟨items, hparse, hitems⟩ := hload
  obtain ⟨fuel', h1, h2⟩ := C06_int_programs p args hooks body routine nargs d0 hsafe htp hip hrange hcompX
    hrout hd hcap fuel out v hrun cfg MO hheap items hitems
  exact ⟨fuel', by rw [run_eq_runItems hparse]; exact h1, by rw [run_eq_runItems hparse]; exact h2⟩

/-- a name that the printer / parser pair round-trips as a symbol operand: non-empty, no blank, comma,
bracket, colon, semicolon or line break, not a register name, not a decimal number -/
def symOK (s : String) : Bool :=
  !s.isEmpty && s.toList.all (fun c => isSymChar c && c != '\n') && (regOfName s).isNone &&
    (parseInt s.toList).isNone

/-- an item whose printed line parses back to it (up to comment text) -/
def codeTextOK (code : Code) : Bool :=
  (codeRegs code).all (fun r => decide (r < 16)) &&
  (match codeLabelDef code with | some l => symOK l | none => true) &&
  (match codeLabelRef code with | some l => symOK l | none => true) &&
  (match code with
   | .EXTERN f => symOK f
   | .COMMENT m => m.toList.all (· != '\n')
   | _ => true)

/-- THE LOADER LEMMA (proved as `C14_loader`, Props/C14Loader.lean, which imports this file): the printed text of a routine whose items are text-safe is read back by the machine's
parser, up to the text of comments. -/
def C06_loader_statement : Prop :=
  ∀ routine : List Code, (∀ code ∈ routine, codeTextOK code = true) → TextLoads routine

/-! ### non-vacuity: the counting loop through `call` -/

/-- `main(n, acc) { if n <= 0 { println acc; exit acc } else { one <- 1; n' <- n - one; acc' <- acc + n;
      subst (n := n')(acc := acc'); main(...) } }` -/
def C06_loopDef : Def :=
  { name := ⟨"main", 0⟩, ctx := [⟨⟨"n", 1⟩, .ext, .i64⟩, ⟨⟨"acc", 2⟩, .ext, .i64⟩],
    body := .ifc .le ⟨"n", 1⟩ none
      (.print true ⟨"acc", 2⟩ (.exit ⟨"acc", 2⟩) none)
      (.lit ⟨"one", 3⟩ 1 (.op ⟨"n", 4⟩ ⟨"n", 1⟩ .sub ⟨"one", 3⟩ (.op ⟨"acc", 5⟩ ⟨"acc", 2⟩ .sum ⟨"n", 1⟩
        (.subst [(⟨⟨"n", 4⟩, .ext, .i64⟩, ⟨"n", 4⟩), (⟨⟨"acc", 5⟩, .ext, .i64⟩, ⟨"acc", 5⟩)]
          (.call ⟨"main", 0⟩ [])) none) none) none) }

def C06_loopProg : AxCut.Prog := { defs := [C06_loopDef], types := [], maxId := 5 }

theorem C06_loopProg_inRange : ProgInRange C06_loopProg := by
  refine ⟨by simp [C06_loopProg], ?_⟩
  intro d hd
  simp only [C06_loopProg, List.mem_singleton] at hd
  subst hd
  simp only [C06_loopDef, StmtB, and_true, true_and]
  decide

theorem C06_loopProg_int : IntProg C06_loopProg := by
  intro d hd
  simp only [C06_loopProg, List.mem_singleton] at hd
  subst hd
  refine ⟨?_, ?_⟩
  · intro b hb
    simp only [C06_loopDef, List.mem_cons, List.not_mem_nil, or_false] at hb
    rcases hb with rfl | rfl <;> rfl
  · simp [C06_loopDef, IntStmt]

/-- with hooks and the label counter at 0 the loop compiles to a body of two arguments, which has a routine -/
theorem C06_loop_compiled :
    ∃ body routine, compileX86 C06_loopProg true 0 = .ok (body, 2) ∧ intoRoutine body 2 = .ok routine := by
  have h : (compileX86 C06_loopProg true 0).toOption.map (·.2) = some 2 := by decide +kernel
  cases hc : compileX86 C06_loopProg true 0 with
  | error e => rw [hc] at h; cases h
  | ok r =>
    obtain ⟨body, n⟩ := r
    rw [hc] at h
    cases h
    have hm : ∃ moves, moveArguments 2 = .ok moves := ⟨_, rfl⟩
    obtain ⟨moves, hm⟩ := hm
    exact ⟨body, _, rfl, by unfold intoRoutine; rw [setup_eq 2 moves hm]⟩

theorem C06_loop_safe : LabelSafe C06_loopProg = true := by decide +kernel

/-- started with n = 3, acc = 0 the loop prints 6 and returns 6 -/
theorem C06_loop_run : Pos.run C06_loopProg [3, 0] 40 = ⟨[(true, 6)], .done 6⟩ := by decide +kernel

theorem C06_loop_capacity : ∀ st, Reachable C06_loopProg ⟨C06_loopDef.ctx, [3, 0].map .int, C06_loopDef.body⟩ st →
    WithinCapacity st.ctx :=
  Scc.Props.C06Generic.capacity_of_run C06_loopProg 40 _ (by decide +kernel) (by decide +kernel)

/-- the loop started with n = 3, acc = 0: every hypothesis of `C06_int_programs` holds, so the x86-64
machine on the items of the emitted routine prints 6 and returns 6 -/
example : ∃ (routine : List Code) (fuel' : Nat),
    (runItems (routine.map fun c => (c, 0)) [3, 0] fuel' {}).out = [(true, 6)] ∧
    (runItems (routine.map fun c => (c, 0)) [3, 0] fuel' {}).res = .done 6 := by
  obtain ⟨body, routine, hcomp, hrout⟩ := C06_loop_compiled
  obtain ⟨fuel', h1, h2⟩ := C06_int_programs C06_loopProg [3, 0] true body routine 2 C06_loopDef
    C06_loop_safe (linTypedCheck_sound C06_loopProg rfl) C06_loopProg_int C06_loopProg_inRange hcomp hrout rfl
    C06_loop_capacity 40 _ _ C06_loop_run {}
    machOK_default rfl (routine.map fun c => (c, 0)) (by simp [List.map_map, Function.comp])
  exact ⟨routine, fuel', h1, h2⟩

end TheoremB
end Scc.X86

#print axioms Scc.X86.C06_op_correct
#print axioms Scc.X86.C06_add_correct
#print axioms Scc.X86.C06_sub_correct
#print axioms Scc.X86.C06_mul_correct
#print axioms Scc.X86.C06_div_correct
#print axioms Scc.X86.C06_rem_correct
#print axioms Scc.X86.C06_mov_correct
#print axioms Scc.X86.C06_load_immediate_correct
#print axioms Scc.X86.C06_load_immediate_word
#print axioms Scc.X86.C06_load_immediate_D5_regression
#print axioms Scc.X86.C06_mul_alias_witness
#print axioms Scc.X86.C06_load_label_correct
#print axioms Scc.X86.C06_compare_correct
#print axioms Scc.X86.C06_compare_zero_correct
#print axioms Scc.X86.C06_branch_correct
#print axioms Scc.X86.C06_invoke_jump
#print axioms Scc.X86.C06_switch_jump
#print axioms Scc.X86.C06_tempVal_sound
#print axioms Scc.X86.C06_machine_steps
#print axioms Scc.X86.C06_skip_if_zero
#print axioms Scc.X86.C06_if_zero_then_else
#print axioms Scc.X86.C06_share_block_correct
#print axioms Scc.X86.C06_erase_block_correct
#print axioms Scc.X86.C06_machine_steps_fwd
#print axioms Scc.X86.C06_acquire_block_correct
#print axioms Scc.X86.C06_store_correct
#print axioms Scc.X86.C06_load_correct
#print axioms Scc.X86.C06_load_unique_correct
#print axioms Scc.X86.C06_load_shared_correct
#print axioms Scc.X86.C06_rendering
#print axioms Scc.X86.C06_init
#print axioms Scc.X86.C06_sim_step
#print axioms Scc.X86.C06_sim_halt
#print axioms Scc.X86.C06_int_programs
#print axioms Scc.X86.C06_int_programs_text

#print axioms Scc.X86.fitsI64_toInt
#print axioms Scc.X86.exState_boundary
#print axioms Scc.X86.exState_slot1
#print axioms Scc.X86.exState_slot2
#print axioms Scc.X86.exStateH_boundary
#print axioms Scc.X86.exStateH_heapRel
#print axioms Scc.X86.exShare
#print axioms Scc.X86.exErase
#print axioms Scc.X86.exAcquire
#print axioms Scc.X86.exEnv
#print axioms Scc.X86.exStore
#print axioms Scc.X86.exStateS_boundary
#print axioms Scc.X86.exStateS_heapRel
#print axioms Scc.X86.exEnv4
#print axioms Scc.X86.exStore4
#print axioms Scc.X86.exStateObj_boundary
#print axioms Scc.X86.exStateObj_heapRel
#print axioms Scc.X86.exLoadUnique
#print axioms Scc.X86.exLoadShared
#print axioms Scc.X86.C06_loopProg_inRange
#print axioms Scc.X86.C06_loopProg_int
