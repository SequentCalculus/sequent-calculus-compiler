/-
  Scc.Props.C09A64Mon — property C09 in terms of THE EXECUTABLE HEAP MONITOR on AArch64, ALL PROGRAMS (data types and
  closures), EVERY AMOUNT OF MACHINE FUEL: the AArch64 counterpart of Props/C09X86Mon.lean.
  "the run of the SPEC machine with the heap monitor on never ends in a report `inv:` of the heap monitor".

  On AArch64 a `#ctx` hook is an ITEM of the laid-out program; the run loop calls `heapMonitor` exactly when the
  program counter is at a hook item.  Every configuration strictly between two statement boundaries — and the header
  of the routine, the configuration the `BR reg` of an `invoke` lands on (BEHIND the hooks of the method), the final
  `RET` — is NOT at a hook item: the step lemmas of all eleven statement forms and of `exit` export `Ref.K.MStepsHK Q`
  (Scc/A64/ConcKMid.lean: a run whose FIRST step may be the hook of the statement boundary, in the boundary state, and
  whose other hook steps lie at item indices in `Q`), the header `Ref.K.MStepsK Q`; with `Q` empty (the blocks of the
  generated code contain no `#ctx [` comment: Scc/A64/ConcKNoHk.lean) that is `Ref.K.MStepsH`, a run whose only hook
  step, if any, is its first — `Ref.K.step3M` (Scc/A64/RefClosHRun.lean); `ConcK.monTrack`
  (Scc/A64/ConcKMRun.lean) carries passing counted runs along terminating runs and runs that are still going;
  `ConcK.programs_monitor_size` (Scc/A64/ConcKMon.lean) composes them with the run loop.

  PROVED (no `sorry`; axioms propext, Classical.choice, Quot.sound):
  * `C09_a64_monitor_outcome` / `C09_a64_monitor_never_fires`   under the hypotheses of `C07_programs_text`
        (label-safe, linearly typed, `C07_a64Checks`, compiled with or without hooks), the positional machine never
        stuck, at most `D` fields of object and closure data held by the variables, a heap of `64·(D + A + 2)`
        bytes, the validator `wf` off or the routine shorter than 2^18 items, and THE TWO HYPOTHESES ABOUT THE RUN
        `ConcK.HooksKinds`, `ConcK.WindowOK (D + 1)`: for every fuel (below `2^64 / (M + 1)`) and every monitor
        configuration (`cfg.heap = true` included) the machine's entry point `run` on the PRINTED TEXT of the
        routine ends in `outOfFuel` or in `done v` (the result of the positional machine) — never in
        `invFail what ln`.  UNLIKE x86-64: stated on the text (the loader theorem `C14A_routine_lines` gives lines
        WITH the hook variables `hookVarsOf`), and no hypothesis `AllHF` (on AArch64 `C14A_namesTextSafe`, part of
        `C07_a64Checks`, excludes `#` from every name: `ConcK.allHF_of_progNames`).
  * `C09_a64_monitor_never_fires_small`   `D ≤ 6`: the window hypothesis is discharged.
  * `C09_a64_monitor_never_fires_closed`  `D ≤ 6` and no hook of the routine lists more than one variable
        (`C09A_hooksOneVar routine = true`, decidable): NO hypothesis about the run is left.
  * `C09A_thunkLoop_monitor_never_fires`  NON-VACUITY: the thunk loop of Props/C09X86Mon.lean (creates a closure,
        invokes it through `BR reg`, frees its environment and calls itself, forever) — with the heap monitor AND
        the validator ON, for every fuel below 2^61 the machine does not end in a report of the heap monitor.

  WHAT REMAINS of the monitor statement (the hypotheses the theorems above still have):
  *    THE WINDOW (`ConcK.WindowOK`): `64·below + 64 ≤ ⌈maxHeap/64⌉·64 + 512` at the boundaries — a fact about the
       write history; discharged only while at most 7 blocks lie below the frontier.
  *    THE KINDS OF THE HOOK (`ConcK.HooksKinds`): the hook item at the program counter lists variables of the kinds
       of the positional state's context.  True when the names of the variables of the GENERATOR's context have no
       blanks (`commentPLine?_hook`, Scc/A64/LoaderInstr.lean); but `Ref.K.Rel3` (and the closure invariant, which
       hides the context the methods of a closure were generated with) track `Ctx.keys` only, not names.
       Discharged here for routines whose hooks list at most one variable.
  *    the side hypotheses: `LabelSafe`, `C07_a64Checks`, sane machine configurations, the positional machine does
       not get stuck (division by zero), the room hypothesis (`D`), fuel below `2^64 / (M + 1)`.
-/
import Scc.Props.C09A64All
import Scc.Props.C09X86Mon
import Scc.A64.ConcKHook

namespace Scc.A64
open Scc.AxCut Scc.Backend Scc.A64.Ref
open Scc.Props.C06Generic (Reachable CodeFits)
open Scc.Props.C14Generic (LabelSafe)
open Scc.A64.CC (CfgCC cfgCC_default Lines hkOf)
open Scc.A64.Loader (hookVarsOf)
open Scc.X86.Ref.K (AllocLe progMaxAlloc allocLe_progMaxAlloc)
open Scc.X86.Conc (ctxKinds valsFields stmtSize progMaxSize stmtSize_le_progMaxSize)
open Scc.A64.ConcK (MS StepsN BoundaryOf BoundaryAt HooksKinds WindowOK initMS hookKinds)

/-- THE OUTCOMES WITH THE HEAP MONITOR ON OR OFF, all programs, every amount of machine fuel, under the two
hypotheses about the run: `run` on the printed routine ends in `outOfFuel` or returns the result of the positional
machine -/
theorem C09_a64_monitor_outcome (p : AxCut.Prog) (args : List Word) (hooks : Bool) (body routine : List Code)
    (nargs : Nat) (d0 : Def)
    (hsafe : LabelSafe p = true) (htp : LinTypedProg p) (hchk : C07_a64Checks p = true)
    (hcompX : compileProg a64Backend p hooks 0 = .ok (body, nargs, routine))
    (hd : p.defs.head? = some d0) (hargs : args.length = nargs)
    (hnostuck : ∀ fuel w, (Pos.run p args fuel).res ≠ .stuck w)
    (D : Nat) (hD : ∀ st, Reachable p ⟨d0.ctx, args.map .int, d0.body⟩ st → valsFields st.env ≤ D)
    (cfg : MonCfg) (H : CfgCC cfg.mem) (hwf : cfg.wf = true → routine.length < 262144)
    (hb8 : cfg.mem.heapBase % 8 = 0) (hb0 : 0 < cfg.mem.heapBase)
    (hbytes : 64 * (D + progMaxAlloc p + 2) ≤ cfg.mem.heapBytes)
    (hfitX : cfg.mem.codeBase + 4 * ninstr routine < 2 ^ 64)
    (fuel' : Nat) (hf : fuel' * (progMaxSize p + 1) + stmtSize d0.body + 1 < 2 ^ 64)
    (hKinds : ∀ ops c' ls, (compile mockSym hooks p).run 0 = .ok ((ops, nargs), c') →
      parseText (printProg routine) = .ok ls →
      HooksKinds p hooks routine ops cfg.mem (hkOf hookVarsOf) (layout ls) args)
    (hWin : ∀ ops c' ls, (compile mockSym hooks p).run 0 = .ok ((ops, nargs), c') →
      parseText (printProg routine) = .ok ls →
      WindowOK p hooks routine ops cfg.mem (hkOf hookVarsOf) (layout ls) args (D + 1)) :
    (run (printProg routine) args fuel' cfg).res = .outOfFuel ∨
      ∃ v out, Pos.run p args (fuel' * (progMaxSize p + 1) + stmtSize d0.body) = ⟨out, .done v⟩ ∧
        (run (printProg routine) args fuel' cfg).res = .done v := by
  obtain ⟨ops, c', ls, S⟩ := C07_setup_of_checks p args hooks body routine nargs d0 hsafe htp hchk hcompX hd
  rw [C09_run_eq_runProg S.parse (C09_wf_ok hsafe htp hchk hcompX hwf)]
  exact ConcK.programs_monitor_size p args hooks body routine nargs d0 ops c' hsafe htp S.progOK S.compM S.fit
    hcompX S.nd hd S.entry (by rw [← S.nargs, hargs]) S.cap hnostuck D hD cfg H hb8 hb0 (progMaxAlloc p)
    (progMaxSize p) (allocLe_progMaxAlloc p) (stmtSize_le_progMaxSize p) hbytes (Ref.K.holdsB_layout S.lines)
    NoHk.hK_hookVarsOf (ConcK.allHF_of_progNames (C07_checks_facts hchk).names) hfitX fuel' hf
    (hKinds ops c' ls S.compM S.parse) (hWin ops c' ls S.compM S.parse)

/-- THE HEAP MONITOR NEVER REPORTS, all programs, every amount of machine fuel, on the text of the routine, under
the two hypotheses about the run (`HooksKinds`: the hook at the program counter lists the right kinds; `WindowOK`:
the window) -/
theorem C09_a64_monitor_never_fires (p : AxCut.Prog) (args : List Word) (hooks : Bool) (body routine : List Code)
    (nargs : Nat) (d0 : Def)
    (hsafe : LabelSafe p = true) (htp : LinTypedProg p) (hchk : C07_a64Checks p = true)
    (hcompX : compileProg a64Backend p hooks 0 = .ok (body, nargs, routine))
    (hd : p.defs.head? = some d0) (hargs : args.length = nargs)
    (hnostuck : ∀ fuel w, (Pos.run p args fuel).res ≠ .stuck w)
    (D : Nat) (hD : ∀ st, Reachable p ⟨d0.ctx, args.map .int, d0.body⟩ st → valsFields st.env ≤ D)
    (cfg : MonCfg) (H : CfgCC cfg.mem) (hwf : cfg.wf = true → routine.length < 262144)
    (hb8 : cfg.mem.heapBase % 8 = 0) (hb0 : 0 < cfg.mem.heapBase)
    (hbytes : 64 * (D + progMaxAlloc p + 2) ≤ cfg.mem.heapBytes)
    (hfitX : cfg.mem.codeBase + 4 * ninstr routine < 2 ^ 64)
    (fuel' : Nat) (hf : fuel' * (progMaxSize p + 1) + stmtSize d0.body + 1 < 2 ^ 64)
    (hKinds : ∀ ops c' ls, (compile mockSym hooks p).run 0 = .ok ((ops, nargs), c') →
      parseText (printProg routine) = .ok ls →
      HooksKinds p hooks routine ops cfg.mem (hkOf hookVarsOf) (layout ls) args)
    (hWin : ∀ ops c' ls, (compile mockSym hooks p).run 0 = .ok ((ops, nargs), c') →
      parseText (printProg routine) = .ok ls →
      WindowOK p hooks routine ops cfg.mem (hkOf hookVarsOf) (layout ls) args (D + 1)) :
    ∀ what ln, (run (printProg routine) args fuel' cfg).res ≠ .invFail what ln := by
  intro what ln h
  rcases C09_a64_monitor_outcome p args hooks body routine nargs d0 hsafe htp hchk hcompX hd hargs hnostuck D hD cfg
    H hwf hb8 hb0 hbytes hfitX fuel' hf hKinds hWin with h1 | ⟨v, _, _, h1⟩ <;>
  · rw [h1] at h; cases h

/-- … for at most 6 fields of data: the frontier block is always inside the monitor's window -/
theorem C09_a64_monitor_never_fires_small (p : AxCut.Prog) (args : List Word) (hooks : Bool)
    (body routine : List Code) (nargs : Nat) (d0 : Def)
    (hsafe : LabelSafe p = true) (htp : LinTypedProg p) (hchk : C07_a64Checks p = true)
    (hcompX : compileProg a64Backend p hooks 0 = .ok (body, nargs, routine))
    (hd : p.defs.head? = some d0) (hargs : args.length = nargs)
    (hnostuck : ∀ fuel w, (Pos.run p args fuel).res ≠ .stuck w)
    (D : Nat) (hD6 : D ≤ 6)
    (hD : ∀ st, Reachable p ⟨d0.ctx, args.map .int, d0.body⟩ st → valsFields st.env ≤ D)
    (cfg : MonCfg) (H : CfgCC cfg.mem) (hwf : cfg.wf = true → routine.length < 262144)
    (hb8 : cfg.mem.heapBase % 8 = 0) (hb0 : 0 < cfg.mem.heapBase)
    (hbytes : 64 * (D + progMaxAlloc p + 2) ≤ cfg.mem.heapBytes)
    (hfitX : cfg.mem.codeBase + 4 * ninstr routine < 2 ^ 64)
    (fuel' : Nat) (hf : fuel' * (progMaxSize p + 1) + stmtSize d0.body + 1 < 2 ^ 64)
    (hKinds : ∀ ops c' ls, (compile mockSym hooks p).run 0 = .ok ((ops, nargs), c') →
      parseText (printProg routine) = .ok ls →
      HooksKinds p hooks routine ops cfg.mem (hkOf hookVarsOf) (layout ls) args) :
    ∀ what ln, (run (printProg routine) args fuel' cfg).res ≠ .invFail what ln :=
  C09_a64_monitor_never_fires p args hooks body routine nargs d0 hsafe htp hchk hcompX hd hargs hnostuck D hD cfg H hwf
    hb8 hb0 hbytes hfitX fuel' hf hKinds
    (fun ops _ ls _ _ => ConcK.windowOK_small p hooks routine ops cfg.mem _ _ args (by omega))

/-- no `#ctx [` comment of the list has a blank behind the bracket: every hook lists at most one variable -/
def C09A_hooksOneVar (cs : List Code) : Bool :=
  cs.all fun c =>
    match c with
    | .COMMENT msg => !(msg.toList.take 6 == "#ctx [".toList) || !((msg.toList.drop 6).contains ' ')
    | _ => true

/-- what the loader reads from the hook of a context, in a routine whose hooks list at most one variable -/
theorem C09A_hookVars_of_oneVar {routine : List Code} (h1 : C09A_hooksOneVar routine = true) (Γ : Ctx)
    (hmem : Code.COMMENT (ctxHookComment Γ) ∈ routine) :
    hookVarsOf (ctxHookComment Γ) = some (Scc.A64.ctxVars Γ) := by
  have hnb : ∀ v ∈ Scc.A64.ctxVars Γ, ' ' ∉ v.1.toList := by
    intro v hv hblank
    obtain ⟨b, hb, rfl⟩ := List.mem_map.1 hv
    simp only at hblank
    let W : List String := Γ.map fun b => b.var.print ++ ":" ++ chiStr b.chi
    have hmsg : (ctxHookComment Γ).toList = "#ctx [".toList ++ ((" ".intercalate W).toList ++ [']']) := by
      show ("#ctx [" ++ " ".intercalate W ++ "]").toList = _
      rw [String.toList_append, String.toList_append, List.append_assoc]
      rfl
    unfold C09A_hooksOneVar at h1
    rw [List.all_eq_true] at h1
    have := h1 _ hmem
    simp only at this
    have htake : (ctxHookComment Γ).toList.take 6 = "#ctx [".toList := by
      rw [hmsg]; rfl
    have hdrop : (ctxHookComment Γ).toList.drop 6 = (" ".intercalate W).toList ++ [']'] := by
      rw [hmsg]; rfl
    rw [htake, hdrop] at this
    simp only [beq_self_eq_true, Bool.not_true, Bool.false_or, Bool.not_eq_true', List.contains_eq_mem,
      decide_eq_false_iff_not] at this
    apply this
    apply List.mem_append.2
    left
    rw [Scc.Str.intercalate_space]
    apply Scc.mem_intercalate_of_mem (W.map String.toList) (b.var.print ++ ":" ++ chiStr b.chi).toList
      (List.mem_map.2 ⟨_, List.mem_map.2 ⟨b, hb, rfl⟩, rfl⟩)
    rw [String.toList_append, String.toList_append]
    exact List.mem_append.2 (Or.inl (List.mem_append.2 (Or.inl hblank)))
  unfold hookVarsOf
  rw [Scc.A64.ctxHookComment_eq, Loader.commentPLine?_hook _ hnb]

theorem C09A_hookKinds_ctxVars (Γ : Ctx) : hookKinds (Scc.A64.ctxVars Γ) = ctxKinds Γ := by
  unfold hookKinds Scc.A64.ctxVars ctxKinds
  rw [List.map_map]
  apply List.map_congr_left
  intro b _
  cases hb : b.chi <;> simp [Function.comp, Scc.A64.chiKind, hb] <;> rfl

/-- THE HOOKS LIST THE RIGHT KINDS in a routine (compiled WITH hooks) whose hooks list at most one variable -/
theorem C09A_hooksKinds_of_oneVar {p : AxCut.Prog} {routine : List Code} {ops : List MockOp} {c : MemCfg}
    {ls : List (Nat × PLine)} {args : List Word} (hl : Lines hookVarsOf ls routine)
    (h1 : C09A_hooksOneVar routine = true) :
    HooksKinds p true routine ops c (hkOf hookVarsOf) (layout ls) args := by
  intro n X st vs _ ⟨cfgA, hs, kp, e, _, R⟩ hv
  obtain ⟨Γ', ι, κ, hkeys, RX, X3h, _, k, k', its, hrun, hat⟩ := R
  obtain ⟨rest, hfirst⟩ := ConcK.post_first_hook natRen p.types st.stmt Γ' k its k' hrun
  obtain ⟨cs1, cs2, hcs, hlen⟩ := hat
  have hget : routine[kp]? = some (Code.COMMENT (ctxHookComment Γ')) := by
    rw [hcs, hfirst, ← hlen]
    simp
  have hvars := C09A_hookVars_of_oneVar h1 Γ' (List.mem_of_getElem? hget)
  have hit := ConcK.layout_hook_vs hl hget hvars
  rw [e, hit] at hv
  simp only [Option.some.injEq, Item.hook.injEq] at hv
  rw [← hv, C09A_hookKinds_ctxVars, Scc.X86.Conc.ctxKinds_keys hkeys]

/-- THE HEAP MONITOR NEVER REPORTS, NO HYPOTHESIS ABOUT THE RUN LEFT: at most 6 fields of data, and no hook of the
routine (compiled with hooks) lists more than one variable -/
theorem C09_a64_monitor_never_fires_closed (p : AxCut.Prog) (args : List Word) (body routine : List Code)
    (nargs : Nat) (d0 : Def)
    (hsafe : LabelSafe p = true) (htp : LinTypedProg p) (hchk : C07_a64Checks p = true)
    (hcompX : compileProg a64Backend p true 0 = .ok (body, nargs, routine))
    (hd : p.defs.head? = some d0) (hargs : args.length = nargs)
    (hnostuck : ∀ fuel w, (Pos.run p args fuel).res ≠ .stuck w)
    (hone : C09A_hooksOneVar routine = true)
    (D : Nat) (hD6 : D ≤ 6)
    (hD : ∀ st, Reachable p ⟨d0.ctx, args.map .int, d0.body⟩ st → valsFields st.env ≤ D)
    (cfg : MonCfg) (H : CfgCC cfg.mem) (hwf : cfg.wf = true → routine.length < 262144)
    (hb8 : cfg.mem.heapBase % 8 = 0) (hb0 : 0 < cfg.mem.heapBase)
    (hbytes : 64 * (D + progMaxAlloc p + 2) ≤ cfg.mem.heapBytes)
    (hfitX : cfg.mem.codeBase + 4 * ninstr routine < 2 ^ 64)
    (fuel' : Nat) (hf : fuel' * (progMaxSize p + 1) + stmtSize d0.body + 1 < 2 ^ 64) :
    ∀ what ln, (run (printProg routine) args fuel' cfg).res ≠ .invFail what ln := by
  obtain ⟨ops0, c0', ls0, S⟩ := C07_setup_of_checks p args true body routine nargs d0 hsafe htp hchk hcompX hd
  exact C09_a64_monitor_never_fires_small p args true body routine nargs d0 hsafe htp hchk hcompX hd hargs hnostuck D
    hD6 hD cfg H hwf hb8 hb0 hbytes hfitX fuel' hf
    (fun ops _ ls _ hparse => by
      have e : ls = ls0 := by
        have := S.parse
        rw [hparse] at this
        injection this
      subst e
      exact C09A_hooksKinds_of_oneVar S.lines hone)

/-! ## the hooks of a routine, from the program

`C09A_hooksOneVar` looks at every comment of the routine.  The comments inside the code of the backend methods and
of the routine wrapper do not start with `#ctx [` (`NoHk.nhA`, Scc/A64/ConcKNoHk.lean); the comments the generic
generator asks for are those of the statements and the hooks of the contexts it reaches (`Calls.ArgsOK`): the check
on the routine follows from the check on these texts (as in Props/C09X86Mon.lean). -/

open Scc.A64.NoHk Scc.Backend.Calls

theorem C09A_hooksOneVar_append (a b : List Code) :
    C09A_hooksOneVar (a ++ b) = (C09A_hooksOneVar a && C09A_hooksOneVar b) := by
  unfold C09A_hooksOneVar; rw [List.all_append]

theorem C09A_hookText_of_nh {m : String} (h : nhA (.COMMENT m) = true) : X86.C09_hookText m := by
  unfold X86.C09_hookText
  rw [Bool.or_eq_true, Bool.not_eq_true']
  left
  rw [beq_eq_false_iff_ne]
  intro e
  simp only [nhA, Bool.not_eq_true', ← Bool.not_eq_true, List.isPrefixOf_iff_prefix] at h
  exact h ⟨m.toList.drop 6, by rw [← e, List.take_append_drop]⟩

theorem C09A_hooksOneVar_of_nh {l : List Code} (h : NhOK l) : C09A_hooksOneVar l = true := by
  unfold C09A_hooksOneVar
  rw [List.all_eq_true]
  intro c hc
  cases c with
  | COMMENT m => exact C09A_hookText_of_nh (List.all_eq_true.1 h _ hc)
  | _ => rfl

theorem C09A_nh_codeTable (base : String) : ∀ (cs : Clauses), NhOK (codeTable a64Backend cs base)
  | .nil => rfl
  | .cons _ _ _ rest => nhOK_cons.2 ⟨rfl, C09A_nh_codeTable base rest⟩

/-- every call of the generator returns code whose comments pass the check -/
theorem C09A_hooks_call : ∀ c, Good a64Backend (X86.C09_hookFacts Temporary) c →
    X86.Post (c.run a64Backend) (fun l => C09A_hooksOneVar l = true)
  | .comment m, h => X86.Post.pure (by
      show C09A_hooksOneVar [Code.COMMENT m] = true
      simp only [C09A_hooksOneVar, List.all_cons, List.all_nil, Bool.and_true]; exact h)
  | .label l, _ => X86.Post.pure rfl
  | .table l cs, _ => X86.Post.pure (C09A_hooksOneVar_of_nh (nhOK_cons.2 ⟨rfl, C09A_nh_codeTable l cs⟩))
  | .jump t, _ => X86.Post.pure (C09A_hooksOneVar_of_nh (nh_jump t))
  | .jumpLabel l, _ => X86.Post.pure rfl
  | .jumpLabelIf s a b l, _ => X86.Post.pure (C09A_hooksOneVar_of_nh
      (nhOK_append.2 ⟨nh_compare _ _, nhOK_cons.2 ⟨by cases s <;> rfl, nhOK_nil⟩⟩))
  | .jumpLabelIfZero s a l, _ => X86.Post.pure (C09A_hooksOneVar_of_nh
      (nhOK_append.2 ⟨nh_compareImmediate _ _, nhOK_cons.2 ⟨by cases s <;> rfl, nhOK_nil⟩⟩))
  | .loadImmediate t n, _ => X86.Post.pure (C09A_hooksOneVar_of_nh (nh_loadImmediate t n))
  | .loadLabel t l, _ => X86.Post.pure (C09A_hooksOneVar_of_nh (by cases t <;> rfl))
  | .addAndJump t n, _ => X86.Post.pure (C09A_hooksOneVar_of_nh (nh_addAndJump t n))
  | .binop o t s1 s2, _ => X86.Post.pure (C09A_hooksOneVar_of_nh (nh_op o t s1 s2))
  | .mov t s, _ => X86.Post.pure (C09A_hooksOneVar_of_nh (nh_mov t s))
  | .printI64 nl t ctx, _ => X86.Post.pure (C09A_hooksOneVar_of_nh (nh_printI64G false nl t ctx))
  | .eraseBlock t, _ => (postNh_eraseBlock t).mono fun _ => C09A_hooksOneVar_of_nh
  | .shareBlockN t n, _ => (postNh_shareBlockN t n).mono fun _ => C09A_hooksOneVar_of_nh
  | .store a b, _ => (postNh_store a b).mono fun _ => C09A_hooksOneVar_of_nh
  | .load a b, _ => (postNh_load a b).mono fun _ => C09A_hooksOneVar_of_nh
  | .storeTemporary t sp, _ => X86.Post.pure (C09A_hooksOneVar_of_nh (nh_storeTemporary t sp))
  | .restoreTemporary t sp, _ => X86.Post.pure (C09A_hooksOneVar_of_nh (nh_restoreTemporary t sp))

/-- THE HOOKS OF A ROUTINE FROM THE PROGRAM: if the texts the generator builds for the program pass the check of
`C09A_hooksOneVar`, the whole routine does -/
theorem C09A_hooksOneVar_routine {p : AxCut.Prog} {body routine : List Code} {nargs : Nat}
    (hA : ProgOK (X86.C09_hookFacts Temporary) true natRen p)
    (hcomp : compileProg a64Backend p true 0 = .ok (body, nargs, routine)) :
    C09A_hooksOneVar routine = true := by
  unfold compileProg at hcomp
  split at hcomp
  · cases hcomp
  · rename_i b n c' hr
    split at hcomp
    · cases hcomp
    · rename_i r hrout
      cases hcomp
      have hbody : C09A_hooksOneVar body = true :=
        (emitted_compileR ⟨trivial, trivial, fun _ _ _ => X86.Post.true _, fun _ _ => X86.Post.true _⟩
          (X86.C09_hookFixed _) true natRen p hA 0 _ c' hr).lift (Q := fun l => C09A_hooksOneVar l = true) rfl
          (fun ha hb => by rw [C09A_hooksOneVar_append, ha, hb]; rfl) C09A_hooks_call
      unfold intoRoutine at hrout
      split at hrout
      · cases hrout
      · rename_i su hsu
        cases hrout
        rw [C09A_hooksOneVar_append, C09A_hooksOneVar_append, C09A_hooksOneVar_append, C09A_hooksOneVar_append,
          hbody, C09A_hooksOneVar_of_nh nh_preamble, C09A_hooksOneVar_of_nh (nh_setup hsu),
          C09A_hooksOneVar_of_nh nh_cleanup]
        decide

/-! ## non-vacuity: the thunk loop of Props/C09X86Mon.lean, the heap monitor and the validator ON -/

open Scc.X86 (C09_thunkProg C09_thunkMain C09_thunk_nostuck C09_thunk_size C09_thunk_consts)

def C09A_thunkRoutine : List Code :=
  match compileProg a64Backend C09_thunkProg true 0 with
  | .ok (_, _, r) => r
  | .error _ => []

theorem C09A_thunk_compiles : ∃ body nargs,
    compileProg a64Backend C09_thunkProg true 0 = .ok (body, nargs, C09A_thunkRoutine) := by
  have hok : ∃ r, compileProg a64Backend C09_thunkProg true 0 = .ok r := ⟨_, rfl⟩
  obtain ⟨⟨body, nargs, routine⟩, hcomp⟩ := hok
  refine ⟨body, nargs, ?_⟩
  rw [hcomp]
  congr 3
  unfold C09A_thunkRoutine
  rw [hcomp]

set_option maxRecDepth 100000 in
theorem C09A_thunkProg_checks : C07_a64Checks C09_thunkProg = true := by decide +kernel

set_option maxRecDepth 100000 in
theorem C09A_thunkRoutine_fits {c : MemCfg} (hc : c.codeBase ≤ 2 ^ 62) : c.codeBase + 4 * ninstr C09A_thunkRoutine < 2 ^ 64 :=
  fits_of_ninstr hc (by decide)

theorem C09A_thunk_hooksOneVar : C09A_hooksOneVar C09A_thunkRoutine = true := by
  obtain ⟨body, nargs, hcomp⟩ := C09A_thunk_compiles
  exact C09A_hooksOneVar_routine (X86.C09_thunk_texts _) hcomp

theorem C09A_thunk_nargs {body : List Code} {nargs : Nat}
    (h : compileProg a64Backend C09_thunkProg true 0 = .ok (body, nargs, C09A_thunkRoutine)) : [5].length = nargs := by
  obtain ⟨c1, hcompA, _⟩ := compileProg_ok h
  obtain ⟨_, _, _, _, _, _, hn2⟩ := Ref.compile_a64_entry (d0 := C09_thunkMain) hcompA rfl
  rw [hn2]; rfl

set_option maxRecDepth 100000 in
/-- THE HEAP MONITOR NEVER REPORTS ON THE THUNK LOOP: the machine WITH THE HEAP MONITOR AND THE VALIDATOR ON, on the
TEXT of the routine of the loop (hooks on), started with x = 5: for EVERY fuel below 2^61 the run does not end in a
report of the heap monitor — the program does not terminate: it allocates the environment of a closure, invokes the
closure through `BR reg` (landing behind the `#ctx` hook of the method), frees the environment and calls itself,
forever; the monitor runs `heapMonitor` at the hooks of the statement boundaries the machine passes through -/
theorem C09A_thunkLoop_monitor_never_fires (fuel' : Nat) (hf : fuel' < 2 ^ 61) (what : String) (ln : Nat) :
    (run (printProg C09A_thunkRoutine) [5] fuel' { heap := true, wf := true }).res ≠ .invFail what ln := by
  obtain ⟨body, nargs, hcomp⟩ := C09A_thunk_compiles
  obtain ⟨e1, e2, e3⟩ := C09_thunk_consts
  exact C09_a64_monitor_never_fires_closed C09_thunkProg [5] body C09A_thunkRoutine nargs C09_thunkMain
    (by decide) (linTypedCheck_sound C09_thunkProg rfl) C09A_thunkProg_checks hcomp rfl (C09A_thunk_nargs hcomp)
    C09_thunk_nostuck C09A_thunk_hooksOneVar 1 (by decide) C09_thunk_size
    { heap := true, wf := true } cfgCC_default (fun _ => by decide) (by decide) (by decide) (by rw [e1]; decide)
    (C09A_thunkRoutine_fits (by decide)) fuel' (by rw [e2, e3]; omega) what ln

set_option maxRecDepth 100000 in
/-- the loop does not end either: with the monitors on, the machine is out of fuel for every fuel below 2^61 -/
theorem C09A_thunkLoop_outOfFuel (fuel' : Nat) (hf : fuel' < 2 ^ 61) :
    (run (printProg C09A_thunkRoutine) [5] fuel' { heap := true, wf := true }).res = .outOfFuel := by
  obtain ⟨body, nargs, hcomp⟩ := C09A_thunk_compiles
  obtain ⟨e1, e2, e3⟩ := C09_thunk_consts
  obtain ⟨ops0, c0', ls0, S⟩ := C07_setup_of_checks C09_thunkProg [5] true body C09A_thunkRoutine nargs C09_thunkMain
    (by decide) (linTypedCheck_sound C09_thunkProg rfl) C09A_thunkProg_checks hcomp rfl
  rcases C09_a64_monitor_outcome C09_thunkProg [5] true body C09A_thunkRoutine nargs C09_thunkMain
    (by decide) (linTypedCheck_sound C09_thunkProg rfl) C09A_thunkProg_checks hcomp rfl (C09A_thunk_nargs hcomp)
    C09_thunk_nostuck 1 C09_thunk_size
    { heap := true, wf := true } cfgCC_default (fun _ => by decide) (by decide) (by decide) (by rw [e1]; decide)
    (C09A_thunkRoutine_fits (by decide)) fuel' (by rw [e2, e3]; omega)
    (fun ops _ ls _ hparse => by
      have e : ls = ls0 := by
        have := S.parse
        rw [hparse] at this
        injection this
      subst e
      exact C09A_hooksKinds_of_oneVar S.lines C09A_thunk_hooksOneVar)
    (fun ops _ ls _ _ => ConcK.windowOK_small _ _ _ ops _ _ _ _ (by decide)) with h | ⟨v, out, hr, _⟩
  · exact h
  · exfalso
    have hrs : Pos.run C09_thunkProg [5] (fuel' * (progMaxSize C09_thunkProg + 1) + stmtSize C09_thunkMain.body) =
        Pos.runState C09_thunkProg _ Scc.X86.C09_thunkS0 [] :=
      Scc.X86.Conc.run_eq_runState (p := C09_thunkProg) (d0 := C09_thunkMain) rfl rfl _
    have := (Scc.X86.C09_thunk_runs (fuel' * (progMaxSize C09_thunkProg + 1) + stmtSize C09_thunkMain.body) []).1
    rw [← hrs, hr] at this
    cases this

end Scc.A64

#print axioms Scc.A64.C09_a64_monitor_outcome
#print axioms Scc.A64.C09_a64_monitor_never_fires
#print axioms Scc.A64.C09_a64_monitor_never_fires_small
#print axioms Scc.A64.C09A_hookVars_of_oneVar
#print axioms Scc.A64.C09A_hooksKinds_of_oneVar
#print axioms Scc.A64.C09_a64_monitor_never_fires_closed
#print axioms Scc.A64.C09A_thunkLoop_monitor_never_fires
#print axioms Scc.A64.C09A_thunkLoop_outOfFuel

#print axioms Scc.A64.C09A_hookKinds_ctxVars
#print axioms Scc.A64.C09A_thunk_compiles
#print axioms Scc.A64.C09A_thunkProg_checks
#print axioms Scc.A64.C09A_thunkRoutine_fits
#print axioms Scc.A64.C09A_thunk_hooksOneVar
#print axioms Scc.A64.C09A_thunk_nargs
