/-
  Scc.Props.C14A64Final — property C14 (the emitted assembly is well-formed) for the AArch64 backend:
  THE WHOLE-PROGRAM THEOREM.

    `C14_a64_final`   for every `LabelSafe`, linearly typed (`LinTypedProg`) program that passes the decidable
                      per-program checks `C07_a64Checks` (of which `C14A_inRangeB` — at most 1024 xtors per type,
                      at most 4096 pairs per substitution — and `C14A_namesTextSafe` are used: `C14_a64_final_min`)
                      and that the code generator compiles (both hook settings, EVERY start value of the label
                      counter), if the routine has fewer than 2^18 items:
                          `wfCheck (printProg routine) = .ok ()`.

  What `wfCheck` (Scc/A64/Machine.lean) tests, and where each clause comes from (`Wf.wfLines_ok`,
  Scc/A64/WfCheck.lean, follows the validator: duplicate scan, entry label, the loop over the laid-out items):
    (v)   the text parses, and its lines ARE the routine          — `C14A_routine_lines` (Props/C14LoaderA64Compose);
    (i)   no label is defined twice                               — `labels_unique_a64` (Scc/A64/RefSideLabels.lean);
          no label is a runtime symbol (`print_i64`, `println_i64`) — `Backend.Lab.R_ne_ext`; `asm_main` is defined;
    (ii)  the label of every `B` / `B.cond` / `ADR` is defined, every `BL` goes to a runtime symbol that is not
          defined                                                  — `Refs.refs_defined`
          (Scc/Backend/ProofsRefs.lean) with the AArch64 instance `Wf.refOps_a64` (Scc/A64/WfRefs.lean);
          every label is followed by an instruction (the routine ends with `RET`);
    (iv)  operand classes and ranges of every instruction form (`Instr.wfError`: MOVZ/MOVK/MOVN halfwords and
          shifts, LDR/STR offsets, 12-bit immediates, register classes) — `C14A_routine_operands`
          (Props/C14LoaderA64Names.lean);
    (iii) every branch / `ADR` is within reach of its form (±1 MiB for `B.cond` / `ADR`): fewer than 2^18 items of
          4 bytes (`Wf.layout_offs_le`).  The validator has no separate jump-table test: with the fixed
          instruction size 4, entry k of a table is 4·k bytes after the table label (`C14_stride`,
          `C07_table_layout_statement`, Props/C07A64Heap.lean, from Scc/A64/RefTableLayout.lean); that a table consists of one `B` per
          clause in declaration order directly after the table label is `C14Generic.codeTable_eq` (every backend)
          and the shape of `codeStatementR` (`switch` / `create`: `B.label l :: codeTable B clauses l`).

  `wfCheck` vs. the pieces: it is exactly (i), (ii), (iv), (v) and the reach test; it is WEAKER than C14-T1
  (`C14Generic.table_stride`): it does not compare table entries with clause lists.

  COMPARISON with `C14_statement` (Props/C14A64.lean): that statement has hooks off and counter start 0, the
  hypotheses "at most 1023 xtors per type" and `routine.length < 262144`, and NONE of `LabelSafe` (without it the
  statement is false: `C14_statement_false`, duplicate label `f_1_`), `LinTypedProg` (a `call` of an undefined
  definition gives an undefined label), the bound on substitutions (the 12-bit share count), `C14A_namesTextSafe`
  (a definition named `a b` does not parse: `C14A_names_needed`).  `C14_a64_final` needs 1024 instead of 1023 xtors.
-/
import Scc.A64.WfFinal
import Scc.Props.C07A64Full
import Scc.Props.C14LoaderA64Compose

namespace Scc.A64

open Scc.AxCut Scc.A64.Wf
open Scc.Props.C14Generic (LabelSafe CallsDefined)

/-- C14 (AArch64), whole programs, as PROVED -/
def C14_final_statement : Prop :=
  ∀ (p : AxCut.Prog) (hooks : Bool) (c0 : Nat) (body routine : List Code) (nargs : Nat),
    LabelSafe p = true → LinTypedProg p → C07_a64Checks p = true →
    compileProg a64Backend p hooks c0 = .ok (body, nargs, routine) → routine.length < 262144 →
    wfCheck (printProg routine) = .ok ()

/-- the routine satisfies the hypotheses of the validator theorem -/
theorem C14_routine_codesOK {p : AxCut.Prog} {hooks : Bool} {c0 : Nat} {body routine : List Code} {nargs : Nat}
    (hsafe : LabelSafe p = true) (htp : LinTypedProg p) (hrange : C14A_inRangeB p = true)
    (h : compileProg a64Backend p hooks c0 = .ok (body, nargs, routine)) (hlen : routine.length < 262144) :
    CodesOK routine := codesOK_routine hsafe htp (C14A_inRangeB_sound hrange) h hlen

/-- **C14 for AArch64** with the two checks that are used -/
theorem C14_a64_final_min {p : AxCut.Prog} {hooks : Bool} {c0 : Nat} {body routine : List Code} {nargs : Nat}
    (hsafe : LabelSafe p = true) (htp : LinTypedProg p) (hrange : C14A_inRangeB p = true)
    (hnames : C14A_namesTextSafe p = true)
    (h : compileProg a64Backend p hooks c0 = .ok (body, nargs, routine)) (hlen : routine.length < 262144) :
    wfCheck (printProg routine) = .ok () := by
  obtain ⟨ls, hparse, hL⟩ := C14A_routine_lines hrange hnames h
  rw [wfCheck_eq, hparse]
  exact wfLines_ok hL (C14_routine_codesOK hsafe htp hrange h hlen)

/-- **C14 for AArch64: the text of the routine emitted for every `LabelSafe`, linearly typed program that passes
    the per-program checks is accepted by the validator** -/
theorem C14_a64_final : C14_final_statement := by
  intro p hooks c0 body routine nargs hsafe htp hchk h hlen
  have F := C07_checks_facts hchk
  exact C14_a64_final_min hsafe htp F.range F.names h hlen

/-! ## `C14_statement` is false without `LabelSafe` -/

open Scc.Props.C14Generic (collisionDefs) in
set_option maxRecDepth 100000 in
/-- the definitions `f_1` (id 0) and `f` (id 1) both print as `f_1`: the routine defines the label `f_1_` twice
    and the validator rejects its text -/
theorem C14_collision_rejected :
    ∃ body routine nargs, compileProg a64Backend collisionDefs false 0 = .ok (body, nargs, routine) ∧
      routine.length < 262144 ∧ wfCheck (printProg routine) ≠ .ok () := by
  have hok : ∃ r, compileProg a64Backend collisionDefs false 0 = .ok r := ⟨_, rfl⟩
  obtain ⟨⟨body, nargs, routine⟩, hcomp⟩ := hok
  have hrt : routine = (compileProg a64Backend collisionDefs false 0 |>.toOption.getD ([], 0, [])).2.2 := by
    rw [hcomp]; rfl
  refine ⟨body, routine, nargs, hcomp, by rw [hrt]; decide, ?_⟩
  obtain ⟨ls, hparse, hL⟩ := C14A_routine_lines (by decide) (by decide) hcomp
  rw [wfCheck_eq, hparse]
  intro hwf
  have hnd := wfLines_nodup hwf
  rw [lineLabels_eq hL, hrt] at hnd
  revert hnd
  decide

theorem C14_statement_false : ¬ C14_statement := by
  intro hC
  obtain ⟨body, routine, nargs, h1, h2, h3⟩ := C14_collision_rejected
  exact h3 (hC _ body routine nargs h1 (by intro d hd; simp [Scc.Props.C14Generic.collisionDefs] at hd) h2)

/-! ## non-vacuity -/

set_option maxRecDepth 100000 in
/-- the closure program of Props/C07A64Full.lean (two `create`s, a two-entry jump table, `invoke` through the
    table and through `BR reg`, `subst`, `op`, `println`), compiled with hooks: every hypothesis holds -/
example : wfCheck (printProg C07_cloRoutine) = .ok () := by
  obtain ⟨body, nargs, hcomp⟩ := C07_cloProg_compiles
  exact C14_a64_final C07_cloProg true 0 body C07_cloRoutine nargs C07_cloProg_safe
    C07_cloProg_typed C07_cloProg_checks hcomp C07_cloRoutine_length

end Scc.A64

#print axioms Scc.A64.C14_a64_final
#print axioms Scc.A64.C14_a64_final_min
#print axioms Scc.A64.C14_routine_codesOK
#print axioms Scc.A64.C14_statement_false

#print axioms Scc.A64.C14_collision_rejected
