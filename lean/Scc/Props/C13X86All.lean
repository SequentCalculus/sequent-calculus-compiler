/-
  Scc.Props.C13X86All — property C13 (calling convention), DYNAMIC part, for ALL PROGRAMS — data types AND
  CLOSURES — on x86-64: the counterpart of Props/C13X86Data.lean (programs without closures, built on the three-way
  relation of Scc/X86/RefHeap*.lean) for the closure-aware relation `Scc.X86.Ref.K` of Props/C06X86Full.lean
  (Scc/X86/ConcK*.lean), with the side hypotheses of the composition DISCHARGED as in `C06_programs_text`
  (`C06_setup_of_checks`: from `LabelSafe`, `LinTypedProg`, the decidable checks `C06_x86Checks` and the
  success of the code generator: the mock code generator succeeds, its code fits, every reachable context has
  at most 133 variables, the labels of the routine are distinct, the text loads).

  The ingredient specific to closures is the INDIRECT JUMP of `invoke` (`jmp reg`): it is safe by the closure clause
  `XC` of the relation — the code pointer a closure holds is the byte address of a method table of the routine
  — and it lands on the first item of non-zero size behind the method label, so the machine may be ahead of the
  statement boundary by labels and comments (`Tol`); the closure environment is a heap object like a
  constructor object (`create` stores, `invoke` loads), so the heap-side lemmas carry over.

  PROVED (axioms propext, Classical.choice, Quot.sound):
  * `C13_all_terminating`      every terminating run of the positional machine (hypotheses of
                               `C06_programs_text`): for EVERY machine fuel and EVERY heap-monitor setting the
                               result of `run (printProg routine)` is `outOfFuel`, `done v` or a report of the HEAP
                               monitor — never `cc-violation`, `misaligned-call`, `ret-to-non-sentinel`,
                               `read-undefined …`.
  * `C13_cc_never_fires_terminating`  hence `CCSafe`, and `C13_allowed` with the heap monitor off.
  * `C13_all_fuel` / `C13_cc_never_fires_all`  RUNS THAT DO NOT TERMINATE INCLUDED (the positional machine must
                               not get stuck: no division by zero / overflow): for every machine fuel `fuel'` with
                               `fuel'·(M + 1) + |main| + 1 < 2^64` (`M = progMaxSize p`) the calling-convention
                               monitor never fires.  Heap: the footprint bound of C10 (`PeakAtMost Pk`, at no
                               statement boundary more than `Pk` blocks in use, and `64·(Pk + A + 2) ≤ heapBytes`,
                               `A = progMaxAlloc p`: the largest number of fields of a `let` / of variables captured
                               by a `create`).  From PROGRESS (Scc/AxCut/PosProgress.lean): every `call` and every
                               `invoke` makes the machine execute an instruction, every other step moves to a
                               smaller statement, and the statement an `invoke` continues with — a clause of a
                               closure VALUE — is a sub-statement of a definition (`hered_step`,
                               Scc/AxCut/PosHered.lean).
  * `C13_cc_never_fires_all_size`  the same with the heap hypothesis on the SOURCE PROGRAM: `valsFields st.env ≤
                               D` for every reachable state (fields of the object AND closure values held by the
                               variables) and `64·(D + A + 2) ≤ heapBytes`.
  * items-level forms with the side hypotheses explicit: `C13_all_fuel_items`, `C13_cc_never_fires_all_items`.
  `C13_all_statement` (a `def : Prop`) is `C13_statement` of Props/C13X86.lean for all programs with no side
  hypothesis; it is not proved in that generality.  The theorems above have the hypotheses `LabelSafe`,
  `C06_x86Checks`, a sane machine configuration (`MachOK`, heap base positive and 8-aligned, routine below 2^64),
  the peak / data-size hypothesis, machine fuel below `2^64 / (M + 1)`, and `hnostuck`; runs on which the positional
  machine gets stuck on a division are in Props/C13X86Div.lean (`C13_x86_outcome_div`: the machine faults with
  `div-by-zero` / `div-overflow`, which `C13_allowed` permits).

  THE FILE ALSO HOLDS what the other x86-64 files on all programs (Props/C09X86All.lean, C10X86All.lean,
  C09X86Mon.lean, C13X86Div.lean) take from here: `C06_Setup` / `C06_setup_of_checks` (every side hypothesis of the
  run theorems, from the checks), the facts `C06_cloProg_size`, `C06_cloProg_consts` about the closure program of
  Props/C06X86Full.lean, and the example `C13_cloLoop…`: a loop that creates a closure and invokes it forever.
-/
import Scc.Props.C06X86Full
import Scc.Props.C10X86
import Scc.X86.ConcKAllFuel

namespace Scc.X86
open Scc.AxCut Scc.Backend Scc.X86.Ref
open Scc.X86.CC (CCSafe)
open Scc.Props.C06Generic (Reachable CodeFits)
open Scc.Props.C14Generic (LabelSafe)
open Scc.X86.Ref.K (AllocLe progMaxAlloc allocLe_progMaxAlloc)
open Scc.X86.Conc (stmtSize progMaxSize stmtSize_le_progMaxSize valsFields monOff runItems_monitor_indep
  withHeapBytes)

/-- what `LabelSafe`, `LinTypedProg`, the checks `C06_x86Checks` and the success of the x86-64 code generator
give: every side hypothesis of the run theorems on the items of the routine -/
structure C06_Setup (p : AxCut.Prog) (args : List Word) (hooks : Bool) (routine : List Code) (nargs : Nat)
    (d0 : Def) (ops : List MockOp) (c' : Nat) (items : List (Code × Nat)) : Prop where
  range : ProgInRange p
  compM : (compile mockSym hooks p).run 0 = .ok ((ops, nargs), c')
  fit : CodeFits ops
  nd : (labs routine).Nodup
  entry : ∀ b ∈ d0.ctx, b.chi = .ext ∧ b.ty = .i64
  nargs : nargs = d0.ctx.length
  cap : ∀ st, Reachable p ⟨d0.ctx, args.map .int, d0.body⟩ st → 2 * st.ctx.length ≤ 266
  parse : parseText (printProg routine) = .ok items
  items : (items.map (·.1)).map stripC = routine.map stripC

theorem C06_Setup.progOK {p : AxCut.Prog} {args : List Word} {hooks : Bool} {routine : List Code} {nargs : Nat}
    {d0 : Def} {ops : List MockOp} {c' : Nat} {items : List (Code × Nat)}
    (S : C06_Setup p args hooks routine nargs d0 ops c' items) : Ref.K.ProgOK p :=
  ⟨S.range.1, fun d hd => S.range.2 d hd⟩

/-- THE SIDE HYPOTHESES ARE DISCHARGED (as in `C06_programs_text`) -/
theorem C06_setup_of_checks (p : AxCut.Prog) (args : List Word) (hooks : Bool) (body routine : List Code)
    (nargs : Nat) (d0 : Def)
    (hsafe : LabelSafe p = true) (htp : LinTypedProg p) (hchk : C06_x86Checks p = true)
    (hcompX : compileX86 p hooks 0 = .ok (body, nargs)) (hrout : intoRoutine body nargs = .ok routine)
    (hd : p.defs.head? = some d0) :
    ∃ ops c' items, C06_Setup p args hooks routine nargs d0 ops c' items := by
  obtain ⟨hcap, hsize, hrange, hnames, d0', hd', hentry⟩ := C06_checks_facts hchk
  rw [hd] at hd'
  injection hd' with hd'
  subst hd'
  have hnd : (labs routine).Nodup := labels_unique_x86 hsafe hcompX hrout
  have hmem : d0 ∈ p.defs := List.mem_of_head? hd
  have hne : p.defs ≠ [] := fun e => by rw [e] at hmem; cases hmem
  obtain ⟨ops, nargsM, c', hcompM⟩ := Scc.Backend.Total.mock_compile_ok hooks p htp hne 0
  obtain ⟨_, hn⟩ := Scc.Backend.Sim.mock_entry hcompM hd
  have hnargs : nargs = d0.ctx.length := compileX86_nargs_head hcompX hd
  have hnM : nargsM = nargs := by rw [hn, hnargs]
  subst hnM
  obtain ⟨items, hparse, hitems⟩ := C14_routine_loads hrange hnames hcompX hrout
  exact ⟨ops, c', items, hrange, hcompM, codeFits_of_size htp hsize hcompM, hnd, hentry, hnargs,
    cap266_of_check hcap hmem args, hparse, hitems⟩

/-- the full statement for all programs: every run (terminating or not) of every compiled program ends in an
allowed outcome (`C13_statement` of Props/C13X86.lean on the items of the routine) -/
def C13_all_statement : Prop :=
  ∀ (p : AxCut.Prog) (args : List Word) (hooks : Bool) (body routine : List Code) (nargs : Nat),
    LinTypedProg p → compileX86 p hooks 0 = .ok (body, nargs) →
    intoRoutine body nargs = .ok routine → args.length = nargs →
    ∀ (fuel : Nat) (cfg : MonCfg), cfg.heap = false → MachOK cfg.mach →
      ∀ (items : List (Code × Nat)), (items.map (·.1)).map stripC = routine.map stripC →
      C13_allowed (runItems items args fuel cfg).res

/-- the outcome of a run with an arbitrary heap-monitor flag from the outcome with the monitor off -/
theorem C13_of_monOff {items : List (Code × Nat)} {args : List Word} {fuel' : Nat} {cfg : MonCfg}
    (hoff : (runItems items args fuel' (monOff cfg)).res = .outOfFuel ∨
      ∃ v, (runItems items args fuel' (monOff cfg)).res = .done v) :
    (runItems items args fuel' cfg).res = .outOfFuel ∨ (∃ v, (runItems items args fuel' cfg).res = .done v) ∨
      ∃ what ln, cfg.heap = true ∧ (runItems items args fuel' cfg).res = .invFail what ln := by
  cases hh : cfg.heap with
  | false =>
    have e : monOff cfg = cfg := by
      cases cfg; simp only [monOff] at *; rw [hh]
    rw [e] at hoff
    rcases hoff with h | h
    · exact Or.inl h
    · exact Or.inr (Or.inl h)
  | true =>
    rcases runItems_monitor_indep items args fuel' cfg with h | ⟨e, ln, h⟩
    · rw [h]
      rcases hoff with h' | h'
      · exact Or.inl h'
      · exact Or.inr (Or.inl h')
    · exact Or.inr (Or.inr ⟨e, ln, rfl, h⟩)

theorem C13_safe_of_outcome {r : Res} {heap : Bool}
    (h : r = .outOfFuel ∨ (∃ v, r = .done v) ∨ ∃ what ln, heap = true ∧ r = .invFail what ln) :
    CCSafe r ∧ (heap = false → C13_allowed r) := by
  rcases h with h | ⟨v, h⟩ | ⟨e, ln, hh, h⟩
  · rw [h]; exact ⟨trivial, fun _ => trivial⟩
  · rw [h]; exact ⟨trivial, fun _ => trivial⟩
  · rw [h]; exact ⟨trivial, fun h0 => by rw [hh] at h0; cases h0⟩

/-- C13 FOR TERMINATING RUNS OF ALL PROGRAMS, on the text of the routine: under the hypotheses of
`C06_programs_text`, for EVERY amount of machine fuel and every setting of the heap monitor the machine on the
printed routine ends in `outOfFuel`, in `done v`, or (heap monitor on) in a report of the heap monitor. -/
theorem C13_all_terminating (p : AxCut.Prog) (args : List Word) (hooks : Bool) (body routine : List Code)
    (nargs : Nat)
    (hsafe : LabelSafe p = true) (htp : LinTypedProg p) (hchk : C06_x86Checks p = true)
    (hcompX : compileX86 p hooks 0 = .ok (body, nargs)) (hrout : intoRoutine body nargs = .ok routine)
    (fuel : Nat) (out : List (Bool × Word)) (v : Word) (hrun : Pos.run p args fuel = ⟨out, .done v⟩)
    (cfg : MonCfg) (MO : MachOK cfg.mach)
    (hb8 : cfg.mach.heapBase % 8 = 0) (hb0 : 0 < cfg.mach.heapBase)
    (hbytes : 128 + 64 * 134 * fuel ≤ cfg.mach.heapBytes)
    (hfitX : addrAt cfg.mach.codeBase routine routine.length < 2 ^ 64) (fuel' : Nat) :
    (run (printProg routine) args fuel' cfg).res = .outOfFuel ∨
      (∃ v, (run (printProg routine) args fuel' cfg).res = .done v) ∨
      ∃ what ln, cfg.heap = true ∧ (run (printProg routine) args fuel' cfg).res = .invFail what ln := by
  obtain ⟨_, _, hrange, hnames, _, _, _⟩ := C06_checks_facts hchk
  obtain ⟨items, hparse, hitems⟩ := C14_routine_loads hrange hnames hcompX hrout
  obtain ⟨f0, _, h2⟩ := C06_programs_text p args hooks body routine nargs hsafe htp hchk hcompX hrout fuel out v hrun
    (monOff cfg) MO rfl hb8 hb0 hbytes hfitX
  rw [run_eq_runItems hparse] at h2 ⊢
  have hoff := CC.runItems_res_of_done (items := items) (args := args) (cfg := monOff cfg) (f0 := f0) (v := v)
    h2 fuel'
  exact C13_of_monOff (by
    rcases hoff with h | h
    · exact Or.inl h
    · exact Or.inr ⟨v, h⟩)

/-- C13, DYNAMIC PART, FOR ALL PROGRAMS, terminating runs: the calling-convention monitor never fires — all machine
fuel,
every monitor configuration; with the heap monitor off the result is an outcome `C13_allowed` permits -/
theorem C13_cc_never_fires_terminating (p : AxCut.Prog) (args : List Word) (hooks : Bool)
    (body routine : List Code) (nargs : Nat)
    (hsafe : LabelSafe p = true) (htp : LinTypedProg p) (hchk : C06_x86Checks p = true)
    (hcompX : compileX86 p hooks 0 = .ok (body, nargs)) (hrout : intoRoutine body nargs = .ok routine)
    (fuel : Nat) (out : List (Bool × Word)) (v : Word) (hrun : Pos.run p args fuel = ⟨out, .done v⟩)
    (cfg : MonCfg) (MO : MachOK cfg.mach)
    (hb8 : cfg.mach.heapBase % 8 = 0) (hb0 : 0 < cfg.mach.heapBase)
    (hbytes : 128 + 64 * 134 * fuel ≤ cfg.mach.heapBytes)
    (hfitX : addrAt cfg.mach.codeBase routine routine.length < 2 ^ 64) (fuel' : Nat) :
    CCSafe (run (printProg routine) args fuel' cfg).res ∧
      (cfg.heap = false → C13_allowed (run (printProg routine) args fuel' cfg).res) :=
  C13_safe_of_outcome (C13_all_terminating p args hooks body routine nargs hsafe htp hchk hcompX hrout fuel out v
    hrun cfg MO hb8 hb0 hbytes hfitX fuel')

/-- C13 FOR ALL RUNS OF ALL PROGRAMS on the ITEMS of the routine, side hypotheses explicit: whatever the machine
fuel (below `2^64 / (M + 1)`), the machine ends in `outOfFuel` or in `done v` (or in a report of the heap monitor
when that is on) — never in `cc-violation`, `misaligned-call`, `ret-to-non-sentinel`, `read-undefined …`, nor in
any other fault. -/
theorem C13_all_fuel_items (p : AxCut.Prog) (args : List Word) (hooks : Bool) (body routine : List Code)
    (nargs : Nat) (d0 : Def) (ops : List MockOp) (c' : Nat)
    (hsafe : LabelSafe p = true) (htp : LinTypedProg p) (hrange : ProgInRange p)
    (hcompM : (compile mockSym hooks p).run 0 = .ok ((ops, nargs), c')) (hfit : CodeFits ops)
    (hcompX : compileX86 p hooks 0 = .ok (body, nargs)) (hrout : intoRoutine body nargs = .ok routine)
    (hnd : (labs routine).Nodup)
    (hd : p.defs.head? = some d0) (hentry : ∀ b ∈ d0.ctx, b.chi = .ext ∧ b.ty = .i64)
    (hlen : d0.ctx.length = args.length)
    (hcap : ∀ st, Reachable p ⟨d0.ctx, args.map .int, d0.body⟩ st → 2 * st.ctx.length ≤ 266)
    (hnostuck : ∀ fuel w, (Pos.run p args fuel).res ≠ .stuck w)
    (cfg : MonCfg) (MO : MachOK cfg.mach) (hk : cfg.consts = consts)
    (hb8 : cfg.mach.heapBase % 8 = 0) (hb0 : 0 < cfg.mach.heapBase)
    (Pk : Nat) (hbytes : 64 * (Pk + progMaxAlloc p + 2) ≤ cfg.mach.heapBytes)
    (items : List (Code × Nat)) (hitems : (items.map (·.1)).map stripC = routine.map stripC)
    (hfitX : addrAt cfg.mach.codeBase routine routine.length < 2 ^ 64)
    (fuel' : Nat) (hf : fuel' * (progMaxSize p + 1) + stmtSize d0.body + 1 < 2 ^ 64)
    (hP : ConcK.PeakAtMost p hooks routine ops cfg items args Pk
      (progMaxAlloc p * (fuel' * (progMaxSize p + 1) + stmtSize d0.body) + 1)) :
    (runItems items args fuel' cfg).res = .outOfFuel ∨ (∃ v, (runItems items args fuel' cfg).res = .done v) ∨
      ∃ what ln, cfg.heap = true ∧ (runItems items args fuel' cfg).res = .invFail what ln := by
  have hPoff : ConcK.PeakAtMost p hooks routine ops (monOff cfg) items args Pk
      (progMaxAlloc p * (fuel' * (progMaxSize p + 1) + stmtSize d0.body) + 1) := by
    intro n X st hn hB below inUse hsh hb
    have hn' : stepN cfg (mkProg cfg.mach items) n (initState cfg.mach args 6) = .inl X := by
      rw [← Conc.stepN_monOff]; exact hn
    exact hP n X st hn' hB below inUse hsh hb
  have hoff := ConcK.programs_all_fuel_gen p args hooks body routine nargs d0 ops c' hsafe htp
    ⟨hrange.1, fun d hd => hrange.2 d hd⟩ hcompM hfit hcompX hrout hnd hd hentry hlen hcap hnostuck
    (monOff cfg) MO rfl hb8 hb0 Pk (progMaxAlloc p) (progMaxSize p) (allocLe_progMaxAlloc p)
    (stmtSize_le_progMaxSize p) hbytes items hitems hfitX fuel' hf
    (ConcK.peakHyp_of_peakAtMost (cfg := monOff cfg) hk hPoff)
  exact C13_of_monOff (by
    rcases hoff with h | ⟨v, _, _, h⟩
    · exact Or.inl h
    · exact Or.inr ⟨v, h⟩)

/-- C13, DYNAMIC PART, FOR ALL PROGRAMS, ALL RUNS, on the items of the routine -/
theorem C13_cc_never_fires_all_items (p : AxCut.Prog) (args : List Word) (hooks : Bool) (body routine : List Code)
    (nargs : Nat) (d0 : Def) (ops : List MockOp) (c' : Nat)
    (hsafe : LabelSafe p = true) (htp : LinTypedProg p) (hrange : ProgInRange p)
    (hcompM : (compile mockSym hooks p).run 0 = .ok ((ops, nargs), c')) (hfit : CodeFits ops)
    (hcompX : compileX86 p hooks 0 = .ok (body, nargs)) (hrout : intoRoutine body nargs = .ok routine)
    (hnd : (labs routine).Nodup)
    (hd : p.defs.head? = some d0) (hentry : ∀ b ∈ d0.ctx, b.chi = .ext ∧ b.ty = .i64)
    (hlen : d0.ctx.length = args.length)
    (hcap : ∀ st, Reachable p ⟨d0.ctx, args.map .int, d0.body⟩ st → 2 * st.ctx.length ≤ 266)
    (hnostuck : ∀ fuel w, (Pos.run p args fuel).res ≠ .stuck w)
    (cfg : MonCfg) (MO : MachOK cfg.mach) (hk : cfg.consts = consts)
    (hb8 : cfg.mach.heapBase % 8 = 0) (hb0 : 0 < cfg.mach.heapBase)
    (Pk : Nat) (hbytes : 64 * (Pk + progMaxAlloc p + 2) ≤ cfg.mach.heapBytes)
    (items : List (Code × Nat)) (hitems : (items.map (·.1)).map stripC = routine.map stripC)
    (hfitX : addrAt cfg.mach.codeBase routine routine.length < 2 ^ 64)
    (fuel' : Nat) (hf : fuel' * (progMaxSize p + 1) + stmtSize d0.body + 1 < 2 ^ 64)
    (hP : ConcK.PeakAtMost p hooks routine ops cfg items args Pk
      (progMaxAlloc p * (fuel' * (progMaxSize p + 1) + stmtSize d0.body) + 1)) :
    CCSafe (runItems items args fuel' cfg).res ∧
      (cfg.heap = false → C13_allowed (runItems items args fuel' cfg).res) :=
  C13_safe_of_outcome (C13_all_fuel_items p args hooks body routine nargs d0 ops c' hsafe htp hrange hcompM hfit
    hcompX hrout hnd hd hentry hlen hcap hnostuck cfg MO hk hb8 hb0 Pk hbytes items hitems hfitX fuel' hf hP)

/-- C13 FOR ALL RUNS OF ALL PROGRAMS ON THE TEXT OF THE ROUTINE, side hypotheses discharged: for a label-safe,
linearly typed program that passes the checks `C06_x86Checks` and that the code generator compiles, started with
as many arguments as the first definition has parameters, whose run on the positional machine never gets stuck:
in every sane machine configuration whose heap holds the peak (`PeakAtMost Pk`, `64·(Pk + A + 2) ≤ heapBytes`)
the machine's entry point `run` on the printed routine ends, for every fuel below `2^64 / (M + 1)`, in
`outOfFuel`, in `done v`, or (heap monitor on) in a report of the heap monitor. -/
theorem C13_all_fuel (p : AxCut.Prog) (args : List Word) (hooks : Bool) (body routine : List Code)
    (nargs : Nat) (d0 : Def)
    (hsafe : LabelSafe p = true) (htp : LinTypedProg p) (hchk : C06_x86Checks p = true)
    (hcompX : compileX86 p hooks 0 = .ok (body, nargs)) (hrout : intoRoutine body nargs = .ok routine)
    (hd : p.defs.head? = some d0) (hargs : args.length = nargs)
    (hnostuck : ∀ fuel w, (Pos.run p args fuel).res ≠ .stuck w)
    (cfg : MonCfg) (MO : MachOK cfg.mach) (hk : cfg.consts = consts)
    (hb8 : cfg.mach.heapBase % 8 = 0) (hb0 : 0 < cfg.mach.heapBase)
    (Pk : Nat) (hbytes : 64 * (Pk + progMaxAlloc p + 2) ≤ cfg.mach.heapBytes)
    (hfitX : addrAt cfg.mach.codeBase routine routine.length < 2 ^ 64)
    (fuel' : Nat) (hf : fuel' * (progMaxSize p + 1) + stmtSize d0.body + 1 < 2 ^ 64)
    (hP : ∀ ops c' items, (compile mockSym hooks p).run 0 = .ok ((ops, nargs), c') →
      parseText (printProg routine) = .ok items → ConcK.PeakAtMost p hooks routine ops cfg items args Pk
        (progMaxAlloc p * (fuel' * (progMaxSize p + 1) + stmtSize d0.body) + 1)) :
    (run (printProg routine) args fuel' cfg).res = .outOfFuel ∨
      (∃ v, (run (printProg routine) args fuel' cfg).res = .done v) ∨
      ∃ what ln, cfg.heap = true ∧ (run (printProg routine) args fuel' cfg).res = .invFail what ln := by
  obtain ⟨ops, c', items, S⟩ := C06_setup_of_checks p args hooks body routine nargs d0 hsafe htp hchk hcompX hrout hd
  rw [run_eq_runItems S.parse]
  exact C13_all_fuel_items p args hooks body routine nargs d0 ops c' hsafe htp S.range S.compM S.fit hcompX hrout
    S.nd hd S.entry (by rw [← S.nargs, hargs]) S.cap hnostuck cfg MO hk hb8 hb0 Pk hbytes items S.items hfitX fuel' hf
    (hP ops c' items S.compM S.parse)

/-- C13, DYNAMIC PART, FOR ALL PROGRAMS, ALL RUNS, ON THE TEXT: THE CALLING-CONVENTION MONITOR NEVER FIRES, whatever the
machine fuel (below `2^64 / (M + 1)`) and the monitor configuration; with the heap monitor off the result is an
outcome `C13_allowed` permits -/
theorem C13_cc_never_fires_all (p : AxCut.Prog) (args : List Word) (hooks : Bool) (body routine : List Code)
    (nargs : Nat) (d0 : Def)
    (hsafe : LabelSafe p = true) (htp : LinTypedProg p) (hchk : C06_x86Checks p = true)
    (hcompX : compileX86 p hooks 0 = .ok (body, nargs)) (hrout : intoRoutine body nargs = .ok routine)
    (hd : p.defs.head? = some d0) (hargs : args.length = nargs)
    (hnostuck : ∀ fuel w, (Pos.run p args fuel).res ≠ .stuck w)
    (cfg : MonCfg) (MO : MachOK cfg.mach) (hk : cfg.consts = consts)
    (hb8 : cfg.mach.heapBase % 8 = 0) (hb0 : 0 < cfg.mach.heapBase)
    (Pk : Nat) (hbytes : 64 * (Pk + progMaxAlloc p + 2) ≤ cfg.mach.heapBytes)
    (hfitX : addrAt cfg.mach.codeBase routine routine.length < 2 ^ 64)
    (fuel' : Nat) (hf : fuel' * (progMaxSize p + 1) + stmtSize d0.body + 1 < 2 ^ 64)
    (hP : ∀ ops c' items, (compile mockSym hooks p).run 0 = .ok ((ops, nargs), c') →
      parseText (printProg routine) = .ok items → ConcK.PeakAtMost p hooks routine ops cfg items args Pk
        (progMaxAlloc p * (fuel' * (progMaxSize p + 1) + stmtSize d0.body) + 1)) :
    CCSafe (run (printProg routine) args fuel' cfg).res ∧
      (cfg.heap = false → C13_allowed (run (printProg routine) args fuel' cfg).res) :=
  C13_safe_of_outcome (C13_all_fuel p args hooks body routine nargs d0 hsafe htp hchk hcompX hrout hd hargs hnostuck
    cfg MO hk hb8 hb0 Pk hbytes hfitX fuel' hf hP)

/-- C13, DYNAMIC PART, FOR ALL PROGRAMS, ALL RUNS, heap hypothesis on the SOURCE PROGRAM: if the object and closure values
held by the variables of the positional machine never have more than `D` fields (over all reachable states),
then in a heap of `64·(D + A + 2)` bytes the machine on the printed routine never reports a violation of the
calling convention, whatever the fuel (below `2^64 / (M + 1)`) and the monitor configuration. -/
theorem C13_cc_never_fires_all_size (p : AxCut.Prog) (args : List Word) (hooks : Bool) (body routine : List Code)
    (nargs : Nat) (d0 : Def)
    (hsafe : LabelSafe p = true) (htp : LinTypedProg p) (hchk : C06_x86Checks p = true)
    (hcompX : compileX86 p hooks 0 = .ok (body, nargs)) (hrout : intoRoutine body nargs = .ok routine)
    (hd : p.defs.head? = some d0) (hargs : args.length = nargs)
    (hnostuck : ∀ fuel w, (Pos.run p args fuel).res ≠ .stuck w)
    (D : Nat) (hD : ∀ st, Reachable p ⟨d0.ctx, args.map .int, d0.body⟩ st → valsFields st.env ≤ D)
    (cfg : MonCfg) (MO : MachOK cfg.mach)
    (hb8 : cfg.mach.heapBase % 8 = 0) (hb0 : 0 < cfg.mach.heapBase)
    (hbytes : 64 * (D + progMaxAlloc p + 2) ≤ cfg.mach.heapBytes)
    (hfitX : addrAt cfg.mach.codeBase routine routine.length < 2 ^ 64)
    (fuel' : Nat) (hf : fuel' * (progMaxSize p + 1) + stmtSize d0.body + 1 < 2 ^ 64) :
    CCSafe (run (printProg routine) args fuel' cfg).res ∧
      (cfg.heap = false → C13_allowed (run (printProg routine) args fuel' cfg).res) := by
  obtain ⟨ops, c', items, S⟩ := C06_setup_of_checks p args hooks body routine nargs d0 hsafe htp hchk hcompX hrout hd
  rw [run_eq_runItems S.parse]
  have hoff := (ConcK.programs_dsize_all p args hooks body routine nargs d0 ops c' hsafe htp S.progOK S.compM S.fit
    hcompX hrout S.nd hd S.entry (by rw [← S.nargs, hargs]) S.cap hnostuck D hD (monOff cfg) MO rfl hb8 hb0
    (progMaxAlloc p) (progMaxSize p) (allocLe_progMaxAlloc p) (stmtSize_le_progMaxSize p) hbytes items S.items
    hfitX fuel' hf).1
  exact C13_safe_of_outcome (C13_of_monOff (by
    rcases hoff with h | ⟨v, _, _, h⟩
    · exact Or.inl h
    · exact Or.inr ⟨v, h⟩))

/-! ### non-vacuity: the closure program of Props/C06X86Full.lean (a single-method closure invoked by `jmp reg`,
a two-method closure invoked through its jump table, a closure captured by a closure, moved by `subst`) -/

theorem C06_cloProg_size : ∀ st, Reachable C06_cloProg ⟨C06_cloMain.ctx, [.int 37], C06_cloMain.body⟩ st →
    valsFields st.env ≤ 2 :=
  C10_dataSize_of_run C06_cloProg 20 _ 2 (by decide) (by decide)

theorem C06_cloProg_consts : progMaxAlloc C06_cloProg = 1 ∧ progMaxSize C06_cloProg = 14 ∧
    stmtSize C06_cloMain.body = 14 := by decide

/-- every hypothesis of `C13_cc_never_fires_terminating` holds for the closure program started with x = 37 -/
example (fuel' : Nat) : CCSafe (run (printProg C06_cloRoutine) [37] fuel' {}).res ∧
    (({} : MonCfg).heap = false → C13_allowed (run (printProg C06_cloRoutine) [37] fuel' {}).res) := by
  exact C13_cc_never_fires_terminating C06_cloProg [37] true C06_cloBody C06_cloRoutine 1
    C06_cloProg_labelSafe C06_cloProg_typed C06_cloProg_checks C06_cloProg_compiles.1 C06_cloProg_compiles.2
    20 _ _ C06_cloProg_run {} machOK_default (by decide) (by decide) (by decide) C06_cloRoutine_fits fuel'

/-- every hypothesis of `C13_cc_never_fires_all_size` holds for the closure program started with x = 37 (`D = 2`:
at no state do the variables hold more than two fields of closure data — `g` captures `f`, `f` captures `x`):
for EVERY fuel below 2^58 the calling-convention monitor does not fire -/
example (fuel' : Nat) (hf : fuel' < 2 ^ 58) : CCSafe (run (printProg C06_cloRoutine) [37] fuel' {}).res ∧
    (({} : MonCfg).heap = false → C13_allowed (run (printProg C06_cloRoutine) [37] fuel' {}).res) := by
  obtain ⟨e1, e2, e3⟩ := C06_cloProg_consts
  obtain ⟨hnostuck, _⟩ := C10_done_unique C06_cloProg_run
  exact C13_cc_never_fires_all_size C06_cloProg [37] true C06_cloBody C06_cloRoutine 1 C06_cloMain
    C06_cloProg_labelSafe C06_cloProg_typed C06_cloProg_checks C06_cloProg_compiles.1 C06_cloProg_compiles.2 rfl rfl hnostuck 2
    C06_cloProg_size
    {} machOK_default (by decide) (by decide) (by rw [e1]; decide) C06_cloRoutine_fits
    fuel' (by rw [e2, e3]; omega)

/-- main(x) { create f : Fun = (x){ Ap(a) => subst (y := a); main(y) }; lit n <- 5;
      subst (n := n)(f := f); invoke f Ap(n) } -/
def C13_cloLoopMain : Def :=
  { name := ⟨"main", 0⟩, ctx := [⟨⟨"x", 1⟩, .ext, .i64⟩],
    body := .create ⟨"f", 2⟩ C06_tFun (some [⟨⟨"x", 1⟩, .ext, .i64⟩])
      (.cons ⟨"Ap", 0⟩ [⟨⟨"a", 3⟩, .ext, .i64⟩]
        (.subst [(⟨⟨"y", 4⟩, .ext, .i64⟩, ⟨"a", 3⟩)] (.call ⟨"main", 0⟩ [⟨⟨"y", 4⟩, .ext, .i64⟩])) .nil)
      (.lit ⟨"n", 5⟩ 5
        (.subst [(⟨⟨"n", 6⟩, .ext, .i64⟩, ⟨"n", 5⟩), (⟨⟨"f", 7⟩, .cns, C06_tFun⟩, ⟨"f", 2⟩)]
          (.invoke ⟨"f", 7⟩ ⟨"Ap", 0⟩ C06_tFun [⟨⟨"n", 6⟩, .ext, .i64⟩])) none) none none }

def C13_cloLoopProg : AxCut.Prog := { defs := [C13_cloLoopMain], types := [C06_funDecl], maxId := 204 }

def C13_cloLoopBody : List Code :=
  match compileX86 C13_cloLoopProg true 0 with
  | .ok (body, _) => body
  | .error _ => []

def C13_cloLoopRoutine : List Code :=
  match intoRoutine C13_cloLoopBody 1 with
  | .ok r => r
  | .error _ => []

def C13_cloLoopClauses : Clauses :=
  .cons ⟨"Ap", 0⟩ [⟨⟨"a", 3⟩, .ext, .i64⟩]
    (.subst [(⟨⟨"y", 4⟩, .ext, .i64⟩, ⟨"a", 3⟩)] (.call ⟨"main", 0⟩ [⟨⟨"y", 4⟩, .ext, .i64⟩])) .nil

def C13_cloLoopClo : Pos.Value := .clo [⟨⟨"x", 1⟩, .ext, .i64⟩] [.int 5] C13_cloLoopClauses

/-- the six states of the loop (started with x = 5) -/
def C13_cloS0 : Pos.State := ⟨C13_cloLoopMain.ctx, [.int 5], C13_cloLoopMain.body⟩
def C13_cloS1 : Pos.State :=
  ⟨[⟨⟨"f", 2⟩, .cns, C06_tFun⟩], [C13_cloLoopClo],
   .lit ⟨"n", 5⟩ 5
     (.subst [(⟨⟨"n", 6⟩, .ext, .i64⟩, ⟨"n", 5⟩), (⟨⟨"f", 7⟩, .cns, C06_tFun⟩, ⟨"f", 2⟩)]
       (.invoke ⟨"f", 7⟩ ⟨"Ap", 0⟩ C06_tFun [⟨⟨"n", 6⟩, .ext, .i64⟩])) none⟩
def C13_cloS2 : Pos.State :=
  ⟨[⟨⟨"f", 2⟩, .cns, C06_tFun⟩, ⟨⟨"n", 5⟩, .ext, .i64⟩], [C13_cloLoopClo, .int 5],
   .subst [(⟨⟨"n", 6⟩, .ext, .i64⟩, ⟨"n", 5⟩), (⟨⟨"f", 7⟩, .cns, C06_tFun⟩, ⟨"f", 2⟩)]
     (.invoke ⟨"f", 7⟩ ⟨"Ap", 0⟩ C06_tFun [⟨⟨"n", 6⟩, .ext, .i64⟩])⟩
def C13_cloS3 : Pos.State :=
  ⟨[⟨⟨"n", 6⟩, .ext, .i64⟩, ⟨⟨"f", 7⟩, .cns, C06_tFun⟩], [.int 5, C13_cloLoopClo],
   .invoke ⟨"f", 7⟩ ⟨"Ap", 0⟩ C06_tFun [⟨⟨"n", 6⟩, .ext, .i64⟩]⟩
def C13_cloS4 : Pos.State :=
  ⟨[⟨⟨"a", 3⟩, .ext, .i64⟩, ⟨⟨"x", 1⟩, .ext, .i64⟩], [.int 5, .int 5],
   .subst [(⟨⟨"y", 4⟩, .ext, .i64⟩, ⟨"a", 3⟩)] (.call ⟨"main", 0⟩ [⟨⟨"y", 4⟩, .ext, .i64⟩])⟩
def C13_cloS5 : Pos.State :=
  ⟨[⟨⟨"y", 4⟩, .ext, .i64⟩], [.int 5], .call ⟨"main", 0⟩ [⟨⟨"y", 4⟩, .ext, .i64⟩]⟩

theorem C13_cloLoop_step0 : Pos.step C13_cloLoopProg C13_cloS0 = .next C13_cloS1 none := by rfl
theorem C13_cloLoop_step1 : Pos.step C13_cloLoopProg C13_cloS1 = .next C13_cloS2 none := by rfl
theorem C13_cloLoop_step2 : Pos.step C13_cloLoopProg C13_cloS2 = .next C13_cloS3 none := by rfl
theorem C13_cloLoop_step3 : Pos.step C13_cloLoopProg C13_cloS3 = .next C13_cloS4 none := by rfl
theorem C13_cloLoop_step4 : Pos.step C13_cloLoopProg C13_cloS4 = .next C13_cloS5 none := by rfl
theorem C13_cloLoop_step5 : Pos.step C13_cloLoopProg C13_cloS5 = .next C13_cloS0 none := by rfl

theorem C13_cloLoop_reachable (st : Pos.State) (h : Reachable C13_cloLoopProg C13_cloS0 st) :
    st = C13_cloS0 ∨ st = C13_cloS1 ∨ st = C13_cloS2 ∨ st = C13_cloS3 ∨ st = C13_cloS4 ∨ st = C13_cloS5 := by
  induction h with
  | refl => exact Or.inl rfl
  | step _ hs ih =>
    rcases ih with rfl | rfl | rfl | rfl | rfl | rfl
    · rw [C13_cloLoop_step0] at hs; injection hs with e; exact Or.inr (Or.inl e.symm)
    · rw [C13_cloLoop_step1] at hs; injection hs with e; exact Or.inr (Or.inr (Or.inl e.symm))
    · rw [C13_cloLoop_step2] at hs; injection hs with e; exact Or.inr (Or.inr (Or.inr (Or.inl e.symm)))
    · rw [C13_cloLoop_step3] at hs; injection hs with e
      exact Or.inr (Or.inr (Or.inr (Or.inr (Or.inl e.symm))))
    · rw [C13_cloLoop_step4] at hs; injection hs with e
      exact Or.inr (Or.inr (Or.inr (Or.inr (Or.inr e.symm))))
    · rw [C13_cloLoop_step5] at hs; injection hs with e; exact Or.inl e.symm

/-- the loop never ends and never gets stuck -/
theorem C13_cloLoop_runs : ∀ (fuel : Nat) (acc : List (Bool × Word)),
    (Pos.runState C13_cloLoopProg fuel C13_cloS0 acc).res = .outOfFuel ∧
    (Pos.runState C13_cloLoopProg fuel C13_cloS1 acc).res = .outOfFuel ∧
    (Pos.runState C13_cloLoopProg fuel C13_cloS2 acc).res = .outOfFuel ∧
    (Pos.runState C13_cloLoopProg fuel C13_cloS3 acc).res = .outOfFuel ∧
    (Pos.runState C13_cloLoopProg fuel C13_cloS4 acc).res = .outOfFuel ∧
    (Pos.runState C13_cloLoopProg fuel C13_cloS5 acc).res = .outOfFuel
  | 0, _ => ⟨rfl, rfl, rfl, rfl, rfl, rfl⟩
  | fuel + 1, acc => by
    obtain ⟨h0, h1, h2, h3, h4, h5⟩ := C13_cloLoop_runs fuel acc
    refine ⟨?_, ?_, ?_, ?_, ?_, ?_⟩
    · simp only [Pos.runState, C13_cloLoop_step0]; exact h1
    · simp only [Pos.runState, C13_cloLoop_step1]; exact h2
    · simp only [Pos.runState, C13_cloLoop_step2]; exact h3
    · simp only [Pos.runState, C13_cloLoop_step3]; exact h4
    · simp only [Pos.runState, C13_cloLoop_step4]; exact h5
    · simp only [Pos.runState, C13_cloLoop_step5]; exact h0

theorem C13_cloLoop_nostuck (fuel : Nat) (w : Pos.Why) : (Pos.run C13_cloLoopProg [5] fuel).res ≠ .stuck w := by
  intro h
  have hrs : Pos.run C13_cloLoopProg [5] fuel = Pos.runState C13_cloLoopProg fuel C13_cloS0 [] :=
    Conc.run_eq_runState rfl rfl fuel
  rw [hrs, (C13_cloLoop_runs fuel []).1] at h
  cases h

/-- at no state of the loop do the variables hold more than one field of closure data -/
theorem C13_cloLoop_size (st : Pos.State) (h : Reachable C13_cloLoopProg C13_cloS0 st) : valsFields st.env ≤ 1 := by
  rcases C13_cloLoop_reachable st h with rfl | rfl | rfl | rfl | rfl | rfl <;> decide

set_option maxRecDepth 100000 in
theorem C13_cloLoopProg_checks : C06_x86Checks C13_cloLoopProg = true := by decide +kernel

theorem C13_cloLoopProg_labelSafe : LabelSafe C13_cloLoopProg = true := by decide

theorem C13_cloLoopProg_typed : LinTypedProg C13_cloLoopProg := linTypedCheck_sound C13_cloLoopProg rfl

/-- the code generator on this program, evaluated once -/
theorem C13_cloLoopProg_compiles : compileX86 C13_cloLoopProg true 0 = .ok (C13_cloLoopBody, 1) ∧
    intoRoutine C13_cloLoopBody 1 = .ok C13_cloLoopRoutine := ⟨rfl, rfl⟩

theorem C13_cloLoopRoutine_fits :
    addrAt ({} : MachCfg).codeBase C13_cloLoopRoutine C13_cloLoopRoutine.length < 2 ^ 64 :=
  routine_fits C13_cloLoopProg_typed C13_cloLoopProg_compiles.1 C13_cloLoopProg_compiles.2 _ (by decide)

theorem C13_cloLoop_consts : progMaxAlloc C13_cloLoopProg = 1 ∧ progMaxSize C13_cloLoopProg = 7 ∧
    stmtSize C13_cloLoopMain.body = 7 := by decide

/-- THE CLOSURE LOOP NEVER VIOLATES THE CALLING CONVENTION: the machine on the TEXT of the routine of the closure
loop, started with x = 5 in the default configuration: for EVERY fuel below 2^59 the calling-convention monitor
does not fire and the result is an allowed outcome — the program does not terminate (it allocates the environment
of a closure, invokes the closure through `jmp reg`, frees the environment, and calls itself, forever) -/
theorem C13_cloLoop_never_fires (fuel' : Nat) (hf : fuel' < 2 ^ 59) :
    CCSafe (run (printProg C13_cloLoopRoutine) [5] fuel' {}).res ∧
    (({} : MonCfg).heap = false → C13_allowed (run (printProg C13_cloLoopRoutine) [5] fuel' {}).res) := by
  obtain ⟨e1, e2, e3⟩ := C13_cloLoop_consts
  exact C13_cc_never_fires_all_size C13_cloLoopProg [5] true C13_cloLoopBody C13_cloLoopRoutine 1 C13_cloLoopMain
    C13_cloLoopProg_labelSafe C13_cloLoopProg_typed C13_cloLoopProg_checks C13_cloLoopProg_compiles.1 C13_cloLoopProg_compiles.2 rfl rfl
    C13_cloLoop_nostuck 1 C13_cloLoop_size
    {} machOK_default (by decide) (by decide) (by rw [e1]; decide) C13_cloLoopRoutine_fits
    fuel' (by rw [e2, e3]; omega)

end Scc.X86

#print axioms Scc.X86.C06_setup_of_checks
#print axioms Scc.X86.C13_all_terminating
#print axioms Scc.X86.C13_cc_never_fires_terminating
#print axioms Scc.X86.C13_all_fuel_items
#print axioms Scc.X86.C13_cc_never_fires_all_items
#print axioms Scc.X86.C13_all_fuel
#print axioms Scc.X86.C13_cc_never_fires_all
#print axioms Scc.X86.C13_cc_never_fires_all_size
#print axioms Scc.X86.C13_cloLoop_never_fires

#print axioms Scc.X86.C06_Setup.progOK
#print axioms Scc.X86.C13_of_monOff
#print axioms Scc.X86.C13_safe_of_outcome
#print axioms Scc.X86.C06_cloProg_consts
#print axioms Scc.X86.C13_cloLoop_step0
#print axioms Scc.X86.C13_cloLoop_step1
#print axioms Scc.X86.C13_cloLoop_step2
#print axioms Scc.X86.C13_cloLoop_step3
#print axioms Scc.X86.C13_cloLoop_step4
#print axioms Scc.X86.C13_cloLoop_step5
#print axioms Scc.X86.C13_cloLoop_reachable
#print axioms Scc.X86.C13_cloLoop_runs
#print axioms Scc.X86.C13_cloLoop_nostuck
#print axioms Scc.X86.C13_cloLoop_size
#print axioms Scc.X86.C13_cloLoopProg_checks
#print axioms Scc.X86.C13_cloLoopRoutine_fits
#print axioms Scc.X86.C13_cloLoop_consts
