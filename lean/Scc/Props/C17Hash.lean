/-
  C17, hidden-input inventory: every place where /repo iterates something that is (or is named like)
  a HashMap/HashSet is listed by checks/regen.py (generator `hashsites`) in Scc/Generated/HashSites.lean on every run.  The theorem
  below says that all of them are in the reviewed whitelist of order-insensitive uses; a NEW iteration
  site (or a changed one) makes it fail.  Identifiers are crc32("file|kind|occurrence").
-/
import Scc.Generated.HashSites

namespace Scc.Props
open Scc.Generated

/-- reviewed sites, each with the reason why the iteration order cannot reach the output -/
def hashWhitelist : List Nat := [
  799562813  /- lang/fun2core/src/compile.rs|free_vars.iter|1 : BTreeSet (ordered), and only `.any(..)` is taken: order-insensitive -/,
  3365090722  /- lang/core2axcut/src/statements/cut.rs|used_labels.iter|1 : HashSet of labels, only `.any(..)` is taken (collision test of the lift-label fix D9a): order-insensitive -/,
  2537966271  /- lang/axcut/src/syntax/program.rs|defs.iter|1 : Vec: ordered -/,
  2865432503  /- lang/axcut/src/syntax/program.rs|types.iter|1 : Vec: ordered -/,
  733848249  /- lang/axcut/src/syntax/statements/create.rs|extend(vars_clauses)|1 : HashSet into HashSet: set union -/,
  1357174626  /- lang/axcut/src/syntax/statements/ifc.rs|extend(vars_elsec)|1 : HashSet into HashSet: set union -/,
  57180307  /- lang/axcut/src/syntax/types.rs|types.iter|1 : slice of TypeDeclaration: ordered -/,
  151366865  /- lang/axcut/src/traits/free_vars.rs|extend(free_vars)|1 : HashSet into HashSet: set union, order-insensitive -/,
  4219874199  /- lang/axcut2backend/src/coder.rs|defs.iter|1 : Vec<Def>: ordered -/,
  2276013  /- lang/axcut2backend/src/coder.rs|for-in defs|1 : Vec<Def> (name shared with a hash-typed field elsewhere): ordered -/,
  1153085368  /- lang/axcut2backend/src/parallel_moves.rs|mappings.keys|1 : BTreeMap: ordered iteration -/,
  2500421494  /- lang/core2axcut/src/program.rs|defs.into_iter|1 : Vec: ordered -/,
  3373811978  /- lang/core2axcut/src/program.rs|defs.iter|1 : Vec: ordered -/,
  2020480560  /- lang/core_lang/src/syntax/declaration.rs|types.iter|1 : slice: ordered -/,
  3849803836  /- lang/core_lang/src/syntax/program.rs|defs.iter|1 : Vec: ordered -/,
  2229133816  /- lang/core_lang/src/syntax/program.rs|for-in defs|1 : Vec: ordered -/,
  3245586718  /- lang/fun/src/syntax/context.rs|params.iter|1 : ordered Vec / membership test -/,
  2359187871  /- lang/fun/src/syntax/declarations/codata.rs|dtors.iter|1 : Vec: ordered -/,
  3231397054  /- lang/fun/src/syntax/declarations/codata.rs|for-in dtors|1 : Vec: ordered -/,
  2998283434  /- lang/fun/src/syntax/declarations/data.rs|ctors.iter|1 : Vec: ordered -/,
  3803175389  /- lang/fun/src/syntax/declarations/data.rs|for-in ctors|1 : Vec: ordered -/,
  2815883807  /- lang/fun/src/syntax/program.rs|defs.into_iter|1 : Vec<Def>: ordered -/,
  3318872465  /- lang/fun/src/syntax/program.rs|for-in types|1 : iterates the sorted Vec (fix of D4) -/,
  3011621516  /- lang/fun/src/syntax/program.rs|types.into_iter|1 : collects the instances into a Vec that is SORTED by name before use (fix of D4) -/,
  3746043100  /- lang/fun/src/typing/symbol_table.rs|ctors.iter|1 : Vec: ordered -/,
  2882600275  /- lang/fun/src/typing/symbol_table.rs|dtors.iter|1 : Vec: ordered -/,
  3016282829  /- lang/fun/src/typing/symbol_table.rs|for-in ctors|1 : Vec of CtorSig of a declaration: ordered -/,
  1987046467  /- lang/fun/src/typing/symbol_table.rs|for-in dtors|1 : Vec of DtorSig of a declaration: ordered -/,
  2333823212  /- lang/fun/src/typing/symbol_table.rs|for-in type_templates|1 : lookup of the unique template declaring a ctor: keys unique, result independent of order -/,
  303169878  /- lang/fun/src/typing/symbol_table.rs|for-in type_templates|2 : lookup of the unique template declaring a dtor: order-independent result -/,
  1695887808  /- lang/fun/src/typing/symbol_table.rs|for-in type_templates|3 : check_type_params: only decides WHICH error is reported when several exist -/,
  2186349606  /- lang/fun/src/typing/symbol_table.rs|for-in types|1 : lookup_ty_for_ctor: unique match, order-independent result -/,
  458775964  /- lang/fun/src/typing/symbol_table.rs|for-in types|2 : lookup_ty_for_dtor: unique match, order-independent result -/,
  2022070137  /- lang/fun2core/src/program.rs|ctors.into_iter|1 : Vec: ordered -/,
  1721016599  /- lang/fun2core/src/program.rs|defs.iter|1 : Vec: ordered -/,
  1477716786  /- lang/fun2core/src/program.rs|dtors.into_iter|1 : Vec: ordered -/,
  919393738  /- lang/fun2core/src/program.rs|for-in defs|1 : Vec<Def>: ordered -/
]

/-- C17 (tie to the source): no unreviewed hash iteration in the compiler. -/
theorem C17_hash_sites_whitelisted : ∀ s ∈ hashIterSites, s ∈ hashWhitelist := by decide +kernel

/-- non-vacuity: the inventory is not empty -/
example : hashIterSites.length ≥ 10 := by decide

end Scc.Props

#print axioms Scc.Props.C17_hash_sites_whitelisted
