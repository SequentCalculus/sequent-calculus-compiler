/-
  Scc.Props.C07A64Full — property C07 (AArch64 code generation preserves AxCut semantics): THEOREM A ∘
  THEOREM B on the PRINTED TEXT of the emitted routine, with the side hypotheses of `C07_data_programs_text`
  (Props/C07A64Heap.lean) DISCHARGED.  The AArch64 analogue of Props/C06X86Full.lean.

  (A) CLOSURES.  The three-way simulation (AxCut positional machine ⟷ abstract backend machine ⟷ AArch64
  machine) is extended to `create` and `invoke`:
    * `C07_create_a64`, `C07_invoke_a64` (`ThreeWay.create_x3`, `ThreeWay.invoke_x3` at the AArch64 machine);
    * `C07_step_a64_all` (`Ref.K.step3`): the three-way step for all eleven statement forms;
    * `C07_programs` (`Ref.K.programs_holds`): the run theorem on the program laid out from lines that are
      the routine, no `DataProg`; `C07_programs_text`: on `A64.run` of the PRINTED TEXT, side hypotheses
      discharged; `C07_statement_checked_holds`: in the shape of `C07_statement` (Props/C07A64.lean).
  The word part of a closure is a CODE ADDRESS: the address of the method table in the mock code on the
  abstract machine, the BYTE ADDRESS of the method table in the routine on AArch64 (`Ref.K.addrOf`:
  `codeBase + 4 ·` the number of instructions before the label — what `ADR reg, label` computes,
  `Ref.K.label_addr`).  The two generators draw different label numbers, so the two addresses are related
  PER INSTANCE of a closure (Scc/A64/RefClosDefs.lean): `κ id j` is the machine word of the closure in field
  `j` of object `id`, the machine state holds the word of a closure in a variable, and the closure invariant
  `XC` says of every closure inside every value of the environment that the mock methods stand at its
  abstract word and the AArch64 methods at its machine word, generated FOR THE SAME environment context.
  `invoke` through a table is `ADD reg, reg, #4·tag; BR reg` into the table of `B method` (stride 4 =
  `jump_length`, `TableAt`); `invoke` of a single-method closure is `BR reg` to the address of the method
  label: the machine enters the program at the ENTRY of that address (Machine.lean `layout`: the item of the
  last label before the first instruction behind it — `Ref.K.fold_entry_label`, proved for the loader), so
  `#ctx` hooks between the method label and that label are skipped; the relation is kept at the statement
  boundary and the machine is ahead by hooks only (`Ref.K.Tol`, `tol_run`).
  The closure-aware relation and invariant live in Scc/A64/RefClosH*.lean + RefClos*.lean, namespace
  `Scc.A64.Ref.K`; the three-way simulation itself is the generic one (Scc/Backend/ThreeWay*.lean) at the AArch64
  machine (Scc/A64/ThreeWayTarget.lean, ThreeWayNav.lean).  The data-only relation of namespace `Scc.A64.Ref`, on
  which Props/C07A64Heap.lean is built, is that relation plus an invariant (Scc/A64/RefHeapOfClos.lean).
  The arguments `fun _ => True` and `Or.inr fun _ => trivial` of `Ref.K.machineA` / `machineI` are the guard under
  which a run of the machine also carries what holds at the states strictly between two statement boundaries
  (hooks only; the subject of Props/C09A64Mon.lean) and the proof that the guard is total; the statements here drop
  that component.

  (B) SIDE HYPOTHESES.
  `C07_a64Checks : AxCut.Prog → Bool` collects what is genuinely per-program:
    * `capCheck`    every context has at most 140 variables (static bound `2·progCap p ≤ 280`, the capacity
                    of utils.rs temporary_from_position for both temporaries of every variable);
    * `sizeCheck`   `10·(1 + longest context)·nodes < 2^64` (the mock code fits the address space);
    * `C14A_inRangeB`  at most 1024 xtors per type, at most 4096 pairs per substitution (loader);
    * `C14A_namesTextSafe` the names of the program consist of symbol characters of the loader;
    * `entryIntB`   the parameters of the first definition are integers (`main` is called with integers).
  Everything else is PROVED from them, `LabelSafe p`, `LinTypedProg p` and the success of the code generator, once:
  `C07_Setup` collects the side hypotheses of the run theorems and the lines the printed routine parses to,
  `C07_setup_of_checks` derives it; `C07_programs`, `C07_programs_text` and the AArch64 theorems of C09, C10 and C13
  start from it.
    * the mock code generator succeeds (`mock_compile_ok`, Scc/Backend/TotalMock.lean);
    * its code fits the address space (`codeFits_of_size`, Scc/A64/RefSide.lean);
    * every context of every reachable state has at most 140 variables (`cap280_of_check`);
    * `fuel + 1 < 2^64` (from the heap bound and `CfgCC`);
    * the labels of the emitted routine are pairwise distinct (`labels_unique_a64`,
      Scc/A64/RefSideLabels.lean: the AArch64 analogue of `C14Generic.labels_unique`, the labels drawn
      inside the memory methods included — Scc/A64/RefSideLabMem.lean);
    * the text loads (`C14A_routine_lines`).
  What remains a hypothesis is about the machine CONFIGURATION, not the program: `CfgCC cfg.mem`,
  `heapBase % 8 = 0`, `0 < heapBase`, enough heap, the monitors `heap`/`wf` off, and the routine ends below
  2^64 (`codeBase + 4 · ninstr routine < 2^64`; `CfgCC` says nothing about the code region).
  RESULT (B): `C07_data_programs_statement_checked_holds`, from `C07_programs_text` (the `def : Prop`
  `C07_data_programs_statement` of Props/C07A64Heap.lean with the reachability hypothesis replaced by the
  static check and the code region hypothesis added — the latter is not derivable: `CfgCC` says nothing about the
  code region).
-/
import Scc.A64.RefSide
import Scc.A64.RefSideLabels
import Scc.Props.C07A64Heap
import Scc.A64.ConcKRun
import Scc.Props.C07A64

namespace Scc.A64
open Scc.AxCut Scc.AxCut.Pos Scc.Backend Scc.Backend.Abs Scc.Backend.Sim Scc.Backend.Sim2 Scc.A64.Ref
open Scc.Props.C14Generic (LabelSafe)
open Scc.Props.C06Generic (Reachable WithinCapacity CodeFits EnoughHeap)
open Scc.A64.CC (CfgCC cfgCC_default)

/-- the parameters of the first definition are integers (`Scc.X86.entryIntB`, Props/C06X86Full.lean, has the same
    body: the statements of each backend name the check of their own namespace) -/
def entryIntB (p : AxCut.Prog) : Bool :=
  match p.defs.head? with
  | some d0 => d0.ctx.all fun b => decide (b.chi = .ext ∧ b.ty = .i64)
  | none => false

/-- THE DECIDABLE PER-PROGRAM HYPOTHESIS of the AArch64 run theorem -/
def C07_a64Checks (p : AxCut.Prog) : Bool :=
  capCheck p && sizeCheck p && C14A_inRangeB p && C14A_namesTextSafe p && entryIntB p

structure ChecksFacts (p : AxCut.Prog) : Prop where
  cap : capCheck p = true
  size : sizeCheck p = true
  range : C14A_inRangeB p = true
  names : C14A_namesTextSafe p = true
  entry : ∃ d0, p.defs.head? = some d0 ∧ ∀ b ∈ d0.ctx, b.chi = .ext ∧ b.ty = .i64

theorem C07_checks_facts {p : AxCut.Prog} (h : C07_a64Checks p = true) : ChecksFacts p := by
  simp only [C07_a64Checks, Bool.and_eq_true] at h
  obtain ⟨⟨⟨⟨h1, h2⟩, h3⟩, h4⟩, h5⟩ := h
  refine ⟨h1, h2, h3, h4, ?_⟩
  unfold entryIntB at h5
  cases hd : p.defs.head? with
  | none => rw [hd] at h5; cases h5
  | some d0 =>
    rw [hd] at h5
    simp only [List.all_eq_true, decide_eq_true_eq] at h5
    exact ⟨d0, rfl, h5⟩

open Scc.Heap (HState)
open Scc.Heap.Refine (FrLe Room)
open Scc.A64.CC (Holds Lines)
open Scc.A64.Loader (hookVarsOf)

section Clos

variable {c : MemCfg} (H : CfgCC c) (h8 : c.heapBase % 8 = 0) {hkf : Code → Bool} {Pm : Prog}
  {cs pre : List Code}

include H h8 in
/-- `create` on AArch64: the positional machine's step, two steps of the abstract
machine (`store` of the environment, `loadLabel` of the method table), the machine's execution of
`Memory::store` and `ADR reg, table`.  The relation is re-established; the new closure is at the last
position: its abstract word is the ADDRESS `a` of the mock methods (`MethodsAt`), its machine word the BYTE
ADDRESS `w` of the AArch64 methods in the routine (`XMethodsAt`), generated for the SAME environment
context. -/
theorem C07_create_a64 (HB : Ref.K.HoldsB hkf Pm cs) (hnd : (labs cs).Nodup) (hcsC : cs = pre ++ cleanup)
    {P : Program} {hooks : Bool} {prog : AxCut.Prog} {Γ : Ctx}
    {ρ : List Value} {x : Ident} {ty : Ty} {Γc : Ctx} {clauses : Clauses} {next : Stmt} {f1 f2 : FV}
    {cfg : Config}
    (R : RelX P hooks prog ⟨Γ, ρ, .create x ty (some Γc) clauses next f1 f2⟩ cfg)
    (hk : Γc.length ≤ Γ.length)
    (hkeys : Ctx.keys (Γ.drop (Γ.length - Γc.length)) = Γc.keys)
    (hfresh : ∀ b ∈ Γ.take (Γ.length - Γc.length), b.var.id ≠ x.id)
    (hcap : 2 * (Γ.length - Γc.length + 1) + 2 < Mock.T_TEMP)
    (hnext : cfg.next < 2 ^ 64)
    {hs : HState} {ι : Nat → Nat} {κ : Nat → Nat → Word} {σ : State} {out : List (Bool × Word)} {kp : Nat}
    (X : Ref.K.X3 c Γ cfg hs ι κ σ out)
    {k k' : Nat} {items : List Code}
    (hrun : (codeStatementR a64Backend hooks natRen prog.types (.create x ty (some Γc) clauses next f1 f2) Γ).run k =
      .ok (items, k'))
    (hat : XAt cs kp items)
    (hroom : Room hs (64 * Γc.length + 64)) :
    ∃ cfg' σ' hs' ι' κ' kp', stepsTo P 2 cfg cfg' ∧
      MSteps Pm c σ (pcOf hkf cs kp) out σ' (pcOf hkf cs kp') out ∧ FrLe hs hs' (64 * Γc.length) ∧
      cfg'.out = cfg.out ∧ cfg'.next ≤ cfg.next + 1 ∧
      RelX P hooks prog ⟨Γ.take (Γ.length - Γc.length) ++ [⟨x, .cns, ty⟩],
        ρ.take (Γ.length - Γc.length) ++ [.clo Γc (ρ.drop (Γ.length - Γc.length)) clauses], next⟩ cfg' ∧
      Ref.K.X3 c (Γ.take (Γ.length - Γc.length) ++ [⟨x, .cns, ty⟩]) cfg' hs' ι' κ' σ' out ∧
      ∃ k1 k1' items', (codeStatementR a64Backend hooks natRen prog.types next
          (Γ.take (Γ.length - Γc.length) ++ [⟨x, .cns, ty⟩])).run k1 = .ok (items', k1') ∧
        XAt cs kp' items' ∧ Ref.K.LetProv Γ (Γ.length - Γc.length) cfg cfg' κ κ' σ σ' ∧
        ∃ a w, cfg'.temps.get (2 * (Γ.length - Γc.length) + 1) = some (BitVec.ofNat 64 a) ∧
          σ'.tempVal (posTemp (2 * (Γ.length - Γc.length) + 1)) = some w ∧
          MethodsAt P hooks prog.types a (Γ.drop (Γ.length - Γc.length)) clauses ∧
          Ref.K.XMethodsAt c cs hooks prog.types w (Γ.drop (Γ.length - Γc.length)) clauses :=
  by
  obtain ⟨cfg', ⟨σ', out'⟩, hs', ι', κ', kp', h1, hm, _, hfr, _, ho, hn, hR, hX, k1, k1', items', hr, hat', LP, a, w,
    ha, hw, hM, base, _, hXM⟩ :=
    ThreeWay.create_x3 (Ref.K.machineA c H h8 hkf Pm (fun _ => True) cs HB.holdsA.holds (Or.inr fun _ => trivial) hnd _
        (Ref.K.adrOK_addrOf HB hnd hcsC))
      R hk hkeys hfresh hcap hnext (Ref.K.X3.toT H h8 X) hrun hat trivial hroom
  obtain rfl : out' = out := (hX.out.trans ho).trans X.out.symm
  exact ⟨cfg', σ', hs', ι', κ', kp', h1, hm.msteps, hfr, ho, hn, hR, Ref.K.X3.ofT H h8 hX, k1, k1', items', hr, hat',
    Ref.K.LetProv.ofT LP, a, w, ha, hw, hM, base, hXM⟩

include H h8 in
/-- `invoke` on AArch64: the positional machine's step; the abstract machine jumps
to the address `a` the closure holds (through the table of the mock methods, if the type has more than one
method) and loads the environment; the AArch64 machine jumps to the BYTE ADDRESS `w` the closure holds
(`BR reg`; with more than one method: `ADD reg, reg, #4·pos; BR reg` into the table of `B method` — stride
`jump_length` = 4 per method — and from there to the method) and runs `Memory::load` of the environment.
`hword … hXM`: what the closure invariant `XC` says about the closure at the last position.  The relation
is re-established at the position `kp'`; the machine itself is at item `pcR`, which is the item of `kp'` or
ahead of it by `#ctx` hooks (`Tol`; `BR reg` enters at the last label before the first instruction). -/
theorem C07_invoke_a64 (HB : Ref.K.HoldsB hkf Pm cs) (hnd : (labs cs).Nodup)
    (hfitX : c.codeBase + 4 * ninstr cs < 2 ^ 64) (hcsC : cs = pre ++ cleanup)
    {P : Program} {hooks : Bool} {prog : AxCut.Prog} {Γa : Ctx} {b : Binding}
    {ρa : List Value} {Γc : Ctx} {ρc : List Value} {clauses : Clauses} {x tag : Ident} {ty : Ty}
    {args : Ctx} {cfg : Config} {cl : Clause} {pos : Nat}
    (R : RelX P hooks prog ⟨Γa ++ [b], ρa ++ [.clo Γc ρc clauses], .invoke x tag ty args⟩ cfg)
    (hfits : Fits P)
    (hb : b.var.id = x.id) (hfresh : ∀ b' ∈ Γa, b'.var.id ≠ x.id)
    (hpos : Pos.tagPosition prog.types ty tag = .ok pos)
    (hclause : nthClause clauses pos = some cl)
    (hlenc : ∀ d, lookupTypeDecl prog.types ty = some d → clauses.length = d.xtors.length)
    (hargs : Γa.map (·.chi) = cl.ctx.map (·.chi))
    (hkinds : ρc.map Sim2.kindOf = Mock.kindsOf Γc)
    (hcap : 2 * (cl.ctx.length + Γc.length) + 2 < Mock.T_TEMP)
    {hs : HState} {ι : Nat → Nat} {κ : Nat → Nat → Word} {σ : State} {out : List (Bool × Word)} {kp : Nat}
    (X : Ref.K.X3 c (Γa ++ [b]) cfg hs ι κ σ out)
    {a : Nat} {envCtx' : Ctx} {w : Word} (hkeys : envCtx'.keys = Γc.keys)
    (hword : cfg.temps.get (2 * Γa.length + 1) = some (BitVec.ofNat 64 a))
    (hmeth : MethodsAt P hooks prog.types a envCtx' clauses)
    (hw : σ.tempVal (posTemp (2 * Γa.length + 1)) = some w)
    (hXM : Ref.K.XMethodsAt c cs hooks prog.types w envCtx' clauses)
    {k k' : Nat} {items : List Code}
    (hrun : (codeStatementR a64Backend hooks natRen prog.types (.invoke x tag ty args) (Γa ++ [b])).run k =
      .ok (items, k'))
    (hat : XAt cs kp items)
    (hcapX : 2 * (cl.ctx.length + Γc.length) ≤ 280)
    (hpos12 : pos < 1024) :
    ∃ kk cfg' σ' hs' kp' pcR, stepsTo P kk cfg cfg' ∧ MSteps Pm c σ (pcOf hkf cs kp) out σ' pcR out ∧
      Ref.K.Tol Pm (pcOf hkf cs kp') pcR ∧
      FrLe hs hs' 0 ∧ cfg'.out = cfg.out ∧ cfg'.next = cfg.next ∧
      RelX P hooks prog ⟨cl.ctx ++ envCtx', ρa ++ ρc, cl.body⟩ cfg' ∧
      Ref.K.X3 c (cl.ctx ++ envCtx') cfg' hs' ι κ σ' out ∧
      ∃ k1 k1' items', (codeStatementR a64Backend hooks natRen prog.types cl.body (cl.ctx ++ envCtx')).run k1 =
          .ok (items', k1') ∧ XAt cs kp' items' ∧ Ref.K.LoadProv Γa.length envCtx' cfg cfg' κ σ σ' :=
  by
  obtain ⟨kk, cfg', ⟨σ', out'⟩, hs', kp', h1, ⟨pcR, hm, hT⟩, _, hfr, ho, hn, hR, hX, k1, k1', items', hr, hat', LP⟩ :=
    ThreeWay.invoke_x3
      (Ref.K.machineI c H h8 hkf Pm (fun _ => True) cs HB (Or.inr fun _ => trivial) hnd hfitX pre hcsC) R hfits hb
      hfresh hpos hclause hlenc hargs hkinds hcap (Ref.K.X3.toT H h8 X) hkeys hword hmeth hw hXM hrun hat trivial
      (by show _ ≤ 281; omega) hpos12
  obtain rfl : out' = out := (hX.out.trans ho).trans X.out.symm
  exact ⟨kk, cfg', σ', hs', kp', pcR, h1, hm.mstepsHK.msteps, hT, hfr, ho, hn, hR, Ref.K.X3.ofT H h8 hX, k1, k1', items',
    hr, hat', Ref.K.LoadProv.ofS (H := H) (h8 := h8) LP⟩

end Clos

/-- THE THREE-WAY STEP FOR ALL ELEVEN STATEMENT FORMS: every step of the positional machine from a typed
state in the three-way relation `Ref.K.Rel3` (`RelX` ∧ `X3` ∧ the closure invariant `XC` ∧ the code at the
position) is reproduced by the AArch64 machine, and the relation holds again (`Ref.K.StepSim3`: with output,
bound on the object counter and on the heap frontier; after `invoke` the machine may be ahead of the
boundary position by `#ctx` hooks, `Tol`).  The hypothesis `htp` (the program is linearly typed) is not used: the
typing of the state (`T`) is what the step needs. -/
theorem C07_step_a64_all {c : MemCfg} (H : CfgCC c) (h8 : c.heapBase % 8 = 0) {hkf : Code → Bool} {Pm : Prog}
    {cs pre : List Code} (HB : Ref.K.HoldsB hkf Pm cs) (hnd : (labs cs).Nodup)
    (hfitX : c.codeBase + 4 * ninstr cs < 2 ^ 64) (hcs : cs = pre ++ cleanup)
    (hclean : "cleanup" ∉ labs pre)
    (hooks : Bool) (prog : AxCut.Prog) (kc : Nat) (code : List MockOp) (nargs kc' : Nat)
    (hcomp : (compile mockSym hooks prog).run kc = .ok ((code, nargs), kc'))
    (hsafe : LabelSafe prog = true) (htp : LinTypedProg prog) (hfit : CodeFits code)
    (DX : Ref.K.XDefsAt cs hooks prog) (hprog : Ref.K.ProgOK prog)
    (st : Pos.State) (cfg : Config) (hs : HState) (σ : State) (kp : Nat)
    (R : Ref.K.Rel3 c cs (Program.ofOps code) hooks prog st cfg hs σ kp)
    (T : Pos.StateTyped prog st) (hheap : EnoughHeap cfg)
    (hroom : Room hs (64 * 141)) :
    Ref.K.StepSim3 c hkf Pm cs (Program.ofOps code) hooks prog st cfg hs σ kp :=
  Ref.K.step3 H h8 HB hnd hfitX hcs hclean hooks prog kc code nargs kc' hcomp hsafe hfit DX hprog st cfg hs
    σ kp R T hheap hroom

/-- the loader holds the routine with the addresses of its labels (`HoldsB`: offsets of all items, entries
behind labels) — proved for the machine's `layout` on ANY lines that are the routine -/
theorem C07_holdsB_layout {hkv : String → Option (List (String × Kind))} {ls : List (Nat × PLine)}
    {cs : List Code} (h : Lines hkv ls cs) : Ref.K.HoldsB (CC.hkOf hkv) (layout ls) cs :=
  Ref.K.holdsB_layout h

/-- jump tables of at most 1024 entries, from the loader's bound check -/
theorem C07_progOK_of_range {p : AxCut.Prog} (h : C14A_inRangeB p = true) : Ref.K.ProgOK p := by
  simp only [C14A_inRangeB, Bool.and_eq_true, List.all_eq_true, decide_eq_true_eq] at h
  intro d hd
  have := h.1 d hd
  unfold Scc.A64.Loader.maxTagsA64 at this
  exact this

/-- what `LabelSafe`, `LinTypedProg`, the checks `C07_a64Checks` and the success of the AArch64 code generator
give: every side hypothesis of the run theorems, and the lines the printed routine parses to -/
structure C07_Setup (p : AxCut.Prog) (args : List Word) (hooks : Bool) (routine : List Code) (nargs : Nat)
    (d0 : Def) (ops : List MockOp) (c' : Nat) (ls : List (Nat × PLine)) : Prop where
  progOK : Ref.K.ProgOK p
  compM : (compile mockSym hooks p).run 0 = .ok ((ops, nargs), c')
  fit : CodeFits ops
  nd : (labs routine).Nodup
  mem : d0 ∈ p.defs
  entry : ∀ b ∈ d0.ctx, b.chi = .ext ∧ b.ty = .i64
  nargs : nargs = d0.ctx.length
  cap : ∀ st, Reachable p ⟨d0.ctx, args.map .int, d0.body⟩ st → 2 * st.ctx.length ≤ 280
  parse : parseText (printProg routine) = .ok ls
  lines : Lines hookVarsOf ls routine

/-- the side hypotheses are discharged -/
theorem C07_setup_of_checks (p : AxCut.Prog) (args : List Word) (hooks : Bool) (body routine : List Code)
    (nargs : Nat) (d0 : Def)
    (hsafe : LabelSafe p = true) (htp : LinTypedProg p) (hchk : C07_a64Checks p = true)
    (hcompX : compileProg a64Backend p hooks 0 = .ok (body, nargs, routine))
    (hd : p.defs.head? = some d0) :
    ∃ ops c' ls, C07_Setup p args hooks routine nargs d0 ops c' ls := by
  obtain ⟨hcap, hsize, hrange, hnames, d0', hd', hentry⟩ := C07_checks_facts hchk
  rw [hd] at hd'
  injection hd' with hd'
  subst hd'
  have hmem := List.mem_of_head? hd
  have hne : p.defs ≠ [] := fun e => by rw [e] at hmem; cases hmem
  obtain ⟨ops, nargsM, c', hcompM⟩ := Scc.Backend.Total.mock_compile_ok hooks p htp hne 0
  obtain ⟨c1, hcompA, _⟩ := compileProg_ok hcompX
  obtain ⟨_, _, _, _, _, _, hn2⟩ := Ref.compile_a64_entry hcompA hd
  obtain ⟨_, hn1⟩ := compile_mock_entry hcompM hd
  have hnM : nargsM = nargs := by rw [hn1, hn2]
  subst hnM
  obtain ⟨ls, hparse, hl⟩ := C14A_routine_lines hrange hnames hcompX
  exact ⟨ops, c', ls, C07_progOK_of_range hrange, hcompM, codeFits_of_size htp hsize hcompM,
    labels_unique_a64 hsafe hcompX, hmem, hentry, hn1, cap280_of_check hcap hmem args, hparse, hl⟩

/-- THEOREM A ∘ THEOREM B FOR ALL PROGRAMS (data types and closures; no `DataProg` restriction), on the program LAID
OUT from the lines the printed routine parses to; the side hypotheses of the composition are those of the setup -/
theorem C07_programs {p : AxCut.Prog} {args : List Word} {hooks : Bool} {body routine : List Code} {nargs : Nat}
    {d0 : Def} {ops : List MockOp} {c' : Nat} {ls : List (Nat × PLine)}
    (S : C07_Setup p args hooks routine nargs d0 ops c' ls)
    (hsafe : LabelSafe p = true) (htp : LinTypedProg p)
    (hcompX : compileProg a64Backend p hooks 0 = .ok (body, nargs, routine)) (hd : p.defs.head? = some d0)
    (fuel : Nat) (out : List (Bool × Word)) (v : Word) (hrun : Pos.run p args fuel = ⟨out, .done v⟩)
    (cfg : MonCfg) (H : CfgCC cfg.mem) (hheap : cfg.heap = false)
    (hb8 : cfg.mem.heapBase % 8 = 0) (hb0 : 0 < cfg.mem.heapBase)
    (hbytes : 128 + 64 * 141 * fuel ≤ cfg.mem.heapBytes)
    (hfitX : cfg.mem.codeBase + 4 * ninstr routine < 2 ^ 64) :
    ∃ fuel', (runProg (layout ls) args fuel' cfg).out = out ∧ (runProg (layout ls) args fuel' cfg).res = .done v :=
  Ref.K.programs_holds p args hooks body routine nargs d0 ops c' hsafe htp S.progOK S.compM S.fit hcompX S.nd hd S.entry
    S.cap fuel out v (fuel_lt_of_heap H hbytes) hrun cfg H hheap hb8 hb0 hbytes (Ref.K.holdsB_layout S.lines) hfitX

/-- THEOREM A ∘ THEOREM B FOR ALL PROGRAMS ON THE PRINTED TEXT OF THE ROUTINE: for a label-safe, linearly
typed program that passes the decidable checks `C07_a64Checks` and that the AArch64 code generator compiles,
every terminating run of the AxCut positional machine is reproduced — same trace, same result — by the
AArch64 SPEC machine on the printed routine, in EVERY sane machine configuration (`CfgCC`; heap base
positive and 8-aligned; the routine ends below 2^64; monitors `heap` and `wf` off) whose heap has
`128 + 64·141·fuel` bytes. -/
theorem C07_programs_text (p : AxCut.Prog) (args : List Word) (hooks : Bool) (body routine : List Code)
    (nargs : Nat)
    (hsafe : LabelSafe p = true) (htp : LinTypedProg p) (hchk : C07_a64Checks p = true)
    (hcompX : compileProg a64Backend p hooks 0 = .ok (body, nargs, routine))
    (fuel : Nat) (out : List (Bool × Word)) (v : Word) (hrun : Pos.run p args fuel = ⟨out, .done v⟩)
    (cfg : MonCfg) (H : CfgCC cfg.mem) (hheap : cfg.heap = false) (hwf : cfg.wf = false)
    (hb8 : cfg.mem.heapBase % 8 = 0) (hb0 : 0 < cfg.mem.heapBase)
    (hbytes : 128 + 64 * 141 * fuel ≤ cfg.mem.heapBytes)
    (hfitX : cfg.mem.codeBase + 4 * ninstr routine < 2 ^ 64) :
    ∃ fuel', (run (printProg routine) args fuel' cfg).out = out ∧
      (run (printProg routine) args fuel' cfg).res = .done v := by
  obtain ⟨_, _, _, _, d0, hd, _⟩ := C07_checks_facts hchk
  obtain ⟨ops, c', ls, S⟩ := C07_setup_of_checks p args hooks body routine nargs d0 hsafe htp hchk hcompX hd
  obtain ⟨fuel', h1, h2⟩ := C07_programs S hsafe htp hcompX hd fuel out v hrun cfg H hheap hb8 hb0 hbytes hfitX
  have hparse := S.parse
  refine ⟨fuel', ?_, ?_⟩ <;>
  · unfold run
    simp only [hparse, hwf, Bool.false_eq_true, if_false]
    assumption

/-- `C07_data_programs_statement` (Props/C07A64Heap.lean) AS PROVED.  Differences:
  (1) the hypothesis on all reachable states (`WithinCapacity`: the mock capacity) is replaced by the
      decidable `C07_a64Checks p` (140 variables per context, code size, loader bounds and names, integer
      parameters — the last three are hypotheses of `C07_data_programs_statement`, too);
  (2) the configuration hypothesis `codeBase + 4 · ninstr routine < 2^64` is added: `CfgCC` does not
      constrain the code region, and the jump through a table (`ADR; ADD; BR`) is proved for routines that
      do not wrap around the address space. -/
def C07_data_programs_statement_checked : Prop :=
  ∀ (p : AxCut.Prog) (args : List Word) (hooks : Bool) (body routine : List Code) (nargs : Nat),
    LabelSafe p = true → LinTypedProg p → DataProg p → C07_a64Checks p = true →
    compileProg a64Backend p hooks 0 = .ok (body, nargs, routine) →
    ∀ (fuel : Nat) (out : List (Bool × Word)) (v : Word), Pos.run p args fuel = ⟨out, .done v⟩ →
    ∃ heapBytes, ∀ (cfg : MonCfg), CfgCC cfg.mem → cfg.mem.heapBase % 8 = 0 → 0 < cfg.mem.heapBase →
      cfg.mem.codeBase + 4 * ninstr routine < 2 ^ 64 →
      heapBytes ≤ cfg.mem.heapBytes → cfg.heap = false → cfg.wf = false →
      ∃ fuel', (run (printProg routine) args fuel' cfg).out = out ∧
        (run (printProg routine) args fuel' cfg).res = .done v

theorem C07_data_programs_statement_checked_holds : C07_data_programs_statement_checked := by
  intro p args hooks body routine nargs hsafe htp hdata hchk hcompX fuel out v hrun
  refine ⟨128 + 64 * 141 * fuel, fun cfg H hb8 hb0 hfitX hbytes hheap hwf => ?_⟩
  exact C07_programs_text p args hooks body routine nargs hsafe htp hchk hcompX fuel out v
    hrun cfg H hheap hwf hb8 hb0 hbytes hfitX

set_option maxRecDepth 100000 in
theorem C07_boxProg_checks : C07_a64Checks C07_boxProg = true := by decide +kernel

/-- the box program of Props/C07A64Heap.lean started with x = 21: every hypothesis of
`C07_programs_text` holds, so the AArch64 machine on the PRINTED TEXT of the emitted routine
prints 42 and returns 42 -/
example : ∃ fuel',
    (run (printProg C07_boxRoutine) [21] fuel' {}).out = [(true, 42)] ∧
    (run (printProg C07_boxRoutine) [21] fuel' {}).res = .done 42 := by
  obtain ⟨body, nargs, hcomp⟩ := C07_boxProg_compiles
  exact C07_programs_text C07_boxProg [21] true body C07_boxRoutine nargs
    C07_boxProg_safe C07_boxProg_typed C07_boxProg_checks hcomp
    20 _ _ C07_boxProg_run {} cfgCC_default rfl rfl (by decide) (by decide) (by decide) (C07_boxRoutine_fits (by decide))


/-! ## comparison with `C07_statement` (Props/C07A64.lean)

`C07_statement` reads: `LinTypedProg p`, `compileProg a64Backend p false 0 = .ok …`, `args.length ≤ 7` ⇒ for
every terminating run `∃ fuel' heapBytes, ∀ cfg, cfg.mem = { defaultMem with heapBytes := heapBytes } →`
same trace and result.  `C07_statement_checked` below is what is PROVED; the clauses that differ:
  (1) hypotheses `LabelSafe p = true` and `C07_a64Checks p = true` (names printable for the loader, at most
      1024 xtors per type and 4096 pairs per substitution, at most 140 variables per context, mock code size
      below 2^64, integer parameters of the first definition) — `C07_statement` has none of them;
      `args.length ≤ 7` is not needed (a run with another number of arguments is stuck, not `done`);
  (2) both hook settings (`C07_statement`: `hooks = false`);
  (3) `C07_statement` fixes the configuration to `defaultMem` with a chosen `heapBytes` (all monitors as
      `cfg` has them); proved for EVERY sane configuration: `CfgCC cfg.mem` (regions disjoint and below 2^64,
      stack top 16-aligned, room for the frame), `heapBase % 8 = 0`, `0 < heapBase`, the routine ends below
      2^64 (`codeBase + 4·ninstr routine < 2^64`), monitors `heap` and `wf` off; `defaultMem` with
      `heapBytes ≤ 0x6ff00000` is such a configuration (`cfgCC_default` for the default);
  (4) heap: every `heapBytes ≥ 128 + 64·141·fuel` (a lower bound, not one value) — stronger;
  (5) `fuel'` is chosen AFTER the configuration (`∀ cfg … ∃ fuel'`), in `C07_statement` before it;
  (6) the result clause `r.res = .done v` instead of the `match` (the same). -/

/-- C07 on AArch64 as PROVED (`C07_statement_checked_holds`) -/
def C07_statement_checked : Prop :=
  ∀ (p : AxCut.Prog) (args : List (BitVec 64)) (hooks : Bool) (body routine : List Code) (nargs : Nat),
    LabelSafe p = true → LinTypedProg p → C07_a64Checks p = true →
    compileProg a64Backend p hooks 0 = .ok (body, nargs, routine) →
    ∀ fuel v, Pos.run p args fuel = ⟨(Pos.run p args fuel).out, .done v⟩ →
      ∃ heapBytes, ∀ cfg : MonCfg, CfgCC cfg.mem → cfg.mem.heapBase % 8 = 0 → 0 < cfg.mem.heapBase →
        cfg.mem.codeBase + 4 * ninstr routine < 2 ^ 64 →
        heapBytes ≤ cfg.mem.heapBytes → cfg.heap = false → cfg.wf = false →
        ∃ fuel', (run (printProg routine) args fuel' cfg).out = (Pos.run p args fuel).out ∧
          (run (printProg routine) args fuel' cfg).res = .done v

theorem C07_statement_checked_holds : C07_statement_checked := by
  intro p args hooks body routine nargs hsafe htp hchk hcompX fuel v hrun
  refine ⟨128 + 64 * 141 * fuel, fun cfg H hb8 hb0 hfitX hbytes hheap hwf => ?_⟩
  exact C07_programs_text p args hooks body routine nargs hsafe htp hchk hcompX fuel _ v hrun cfg H hheap hwf
    hb8 hb0 hbytes hfitX

/-! ### non-vacuity: closures (single method: `BR reg`; two methods: jump table; a closure captured by a
closure, moved by `subst`, erased) -/

def C07_tFun : Ty := .decl ⟨"Fun", 0⟩
def C07_tTwo : Ty := .decl ⟨"Two", 0⟩
def C07_funDecl : TypeDecl := { name := ⟨"Fun", 0⟩, xtors := [⟨⟨"Ap", 0⟩, [⟨⟨"a", 202⟩, .ext, .i64⟩]⟩] }
def C07_twoDecl : TypeDecl :=
  { name := ⟨"Two", 0⟩, xtors := [⟨⟨"Fst", 0⟩, [⟨⟨"a", 203⟩, .ext, .i64⟩]⟩, ⟨⟨"Snd", 0⟩, [⟨⟨"a", 204⟩, .ext, .i64⟩]⟩] }

/-- main(x) { create f : Fun = (x){ Ap(a) => s <- a + x; println s; exit s }; lit n <- 5;
      subst (n := n)(f := f);
      create g : Two = (f){ Fst(a) => invoke f Ap; Snd(a) => subst (a := a); exit a };
      invoke g Fst } -/
def C07_cloMain : Def :=
  { name := ⟨"main", 0⟩, ctx := [⟨⟨"x", 1⟩, .ext, .i64⟩],
    body := .create ⟨"f", 2⟩ C07_tFun (some [⟨⟨"x", 1⟩, .ext, .i64⟩])
      (.cons ⟨"Ap", 0⟩ [⟨⟨"a", 3⟩, .ext, .i64⟩]
        (.op ⟨"s", 4⟩ ⟨"a", 3⟩ .sum ⟨"x", 1⟩ (.print true ⟨"s", 4⟩ (.exit ⟨"s", 4⟩) none) none) .nil)
      (.lit ⟨"n", 5⟩ 5
        (.subst [(⟨⟨"n", 6⟩, .ext, .i64⟩, ⟨"n", 5⟩), (⟨⟨"f", 7⟩, .cns, C07_tFun⟩, ⟨"f", 2⟩)]
          (.create ⟨"g", 8⟩ C07_tTwo (some [⟨⟨"f", 7⟩, .cns, C07_tFun⟩])
            (.cons ⟨"Fst", 0⟩ [⟨⟨"a", 9⟩, .ext, .i64⟩]
              (.invoke ⟨"f", 7⟩ ⟨"Ap", 0⟩ C07_tFun [⟨⟨"a", 9⟩, .ext, .i64⟩])
              (.cons ⟨"Snd", 0⟩ [⟨⟨"a", 10⟩, .ext, .i64⟩]
                (.subst [(⟨⟨"a", 11⟩, .ext, .i64⟩, ⟨"a", 10⟩)] (.exit ⟨"a", 11⟩)) .nil))
            (.invoke ⟨"g", 8⟩ ⟨"Fst", 0⟩ C07_tTwo [⟨⟨"n", 6⟩, .ext, .i64⟩]) none none)) none) none none }

def C07_cloProg : AxCut.Prog := { defs := [C07_cloMain], types := [C07_funDecl, C07_twoDecl], maxId := 204 }

def C07_cloRoutine : List Code :=
  match compileProg a64Backend C07_cloProg true 0 with
  | .ok (_, _, r) => r
  | .error _ => []

set_option maxRecDepth 100000 in
theorem C07_cloProg_compiles : ∃ b n, compileProg a64Backend C07_cloProg true 0 = .ok (b, n, C07_cloRoutine) :=
  ⟨_, _, rfl⟩

set_option maxRecDepth 100000 in
theorem C07_cloRoutine_length : C07_cloRoutine.length < 262144 := by decide

theorem C07_cloRoutine_fits {c : MemCfg} (hc : c.codeBase ≤ 2 ^ 62) : c.codeBase + 4 * ninstr C07_cloRoutine < 2 ^ 64 :=
  fits_of_length hc C07_cloRoutine_length

theorem C07_cloProg_safe : LabelSafe C07_cloProg = true := by decide

theorem C07_cloProg_typed : LinTypedProg C07_cloProg := linTypedCheck_sound C07_cloProg rfl

theorem C07_cloProg_run : Pos.run C07_cloProg [37] 20 = ⟨[(true, 42)], .done 42⟩ := by decide

theorem C07_cloProg_checks : C07_a64Checks C07_cloProg = true := by decide +kernel

set_option maxRecDepth 100000 in
/-- the closure program started with x = 37: every hypothesis of `C07_programs_text` holds, so the AArch64
machine on the PRINTED TEXT of the emitted routine prints 42 and returns 42 (`g` is created, moved by
`subst`, invoked through the jump table of `Two`; `f` — captured in the environment of `g` — is invoked
through `BR reg`) -/
example : ∃ fuel',
    (run (printProg C07_cloRoutine) [37] fuel' {}).out = [(true, 42)] ∧
    (run (printProg C07_cloRoutine) [37] fuel' {}).res = .done 42 := by
  obtain ⟨body, nargs, hcomp⟩ := C07_cloProg_compiles
  exact C07_programs_text C07_cloProg [37] true body C07_cloRoutine nargs
    C07_cloProg_safe C07_cloProg_typed C07_cloProg_checks hcomp
    20 _ _ C07_cloProg_run {} cfgCC_default rfl rfl (by decide) (by decide) (by decide) (C07_cloRoutine_fits (by decide))


/-! ### non-vacuity: `BR reg` that skips a `#ctx` hook (`Tol`)

    main(x) { let u : Unit = U(); create f : FunU = (){ Ap(w) => switch w { U() => lit r <- 42; println r; exit r } };
              subst (u := u)(f := f); invoke f Ap(u) }
    The method of the single-method closure `f` has no environment and starts with a `switch` on a type with
    one xtor without fields: behind the method label `FunU_1` the routine reads
        FunU_1:  FunU_1_Ap:  // #ctx [w:prd]  // switch …  Unit_2:  Unit_2_U:  // #ctx []  // lit …  MOVZ X5, 42
    and `BR X7` to the address of `FunU_1` enters at the item of the LAST label, `Unit_2_U`: the hook
    `#ctx [w:prd]` is skipped (the statement boundary of `switch w` is never visited by the machine). -/

def C07_tUnit : Ty := .decl ⟨"Unit", 0⟩
def C07_tFunU : Ty := .decl ⟨"FunU", 0⟩
def C07_unitDecl : TypeDecl := { name := ⟨"Unit", 0⟩, xtors := [⟨⟨"U", 0⟩, []⟩] }
def C07_funUDecl : TypeDecl :=
  { name := ⟨"FunU", 0⟩, xtors := [⟨⟨"Ap", 0⟩, [⟨⟨"w", 301⟩, .prd, C07_tUnit⟩]⟩] }

def C07_hookMain : Def :=
  { name := ⟨"main", 0⟩, ctx := [⟨⟨"x", 1⟩, .ext, .i64⟩],
    body := .letS ⟨"u", 2⟩ C07_tUnit ⟨"U", 0⟩ []
      (.create ⟨"f", 3⟩ C07_tFunU (some [])
        (.cons ⟨"Ap", 0⟩ [⟨⟨"w", 4⟩, .prd, C07_tUnit⟩]
          (.switch ⟨"w", 4⟩ C07_tUnit
            (.cons ⟨"U", 0⟩ []
              (.lit ⟨"r", 5⟩ 42 (.print true ⟨"r", 5⟩ (.exit ⟨"r", 5⟩) none) none) .nil) none) .nil)
        (.subst [(⟨⟨"u", 6⟩, .prd, C07_tUnit⟩, ⟨"u", 2⟩), (⟨⟨"f", 7⟩, .cns, C07_tFunU⟩, ⟨"f", 3⟩)]
          (.invoke ⟨"f", 7⟩ ⟨"Ap", 0⟩ C07_tFunU [⟨⟨"u", 6⟩, .prd, C07_tUnit⟩])) none none) none }

def C07_hookProg : AxCut.Prog :=
  { defs := [C07_hookMain], types := [C07_unitDecl, C07_funUDecl], maxId := 301 }

def C07_hookRoutine : List Code :=
  match compileProg a64Backend C07_hookProg true 0 with
  | .ok (_, _, r) => r
  | .error _ => []

set_option maxRecDepth 100000 in
theorem C07_hookProg_compiles : ∃ b n, compileProg a64Backend C07_hookProg true 0 = .ok (b, n, C07_hookRoutine) :=
  ⟨_, _, rfl⟩

set_option maxRecDepth 100000 in
theorem C07_hookRoutine_fits {c : MemCfg} (hc : c.codeBase ≤ 2 ^ 62) : c.codeBase + 4 * ninstr C07_hookRoutine < 2 ^ 64 :=
  fits_of_ninstr hc (by decide)

theorem C07_hookProg_safe : LabelSafe C07_hookProg = true := by decide

theorem C07_hookProg_typed : LinTypedProg C07_hookProg := linTypedCheck_sound C07_hookProg rfl

theorem C07_hookProg_run : Pos.run C07_hookProg [7] 20 = ⟨[(true, 42)], .done 42⟩ := by decide

theorem C07_hookProg_checks : C07_a64Checks C07_hookProg = true := by decide +kernel

set_option maxRecDepth 100000 in
example : ∃ fuel',
    (run (printProg C07_hookRoutine) [7] fuel' {}).out = [(true, 42)] ∧
    (run (printProg C07_hookRoutine) [7] fuel' {}).res = .done 42 := by
  obtain ⟨body, nargs, hcomp⟩ := C07_hookProg_compiles
  exact C07_programs_text C07_hookProg [7] true body C07_hookRoutine nargs
    C07_hookProg_safe C07_hookProg_typed C07_hookProg_checks hcomp
    20 _ _ C07_hookProg_run {} cfgCC_default rfl rfl (by decide) (by decide) (by decide) (C07_hookRoutine_fits (by decide))

end Scc.A64

#print axioms Scc.A64.C07_data_programs_statement_checked_holds
#print axioms Scc.A64.C07_create_a64
#print axioms Scc.A64.C07_invoke_a64
#print axioms Scc.A64.C07_step_a64_all
#print axioms Scc.A64.C07_holdsB_layout
#print axioms Scc.A64.C07_programs
#print axioms Scc.A64.C07_programs_text
#print axioms Scc.A64.C07_setup_of_checks
#print axioms Scc.A64.C07_statement_checked_holds

#print axioms Scc.A64.C07_checks_facts
#print axioms Scc.A64.C07_boxProg_checks
#print axioms Scc.A64.C07_progOK_of_range
#print axioms Scc.A64.C07_cloProg_checks
#print axioms Scc.A64.C07_hookProg_checks
#print axioms Scc.A64.C07_cloProg_compiles
#print axioms Scc.A64.C07_cloProg_safe
#print axioms Scc.A64.C07_cloProg_typed
#print axioms Scc.A64.C07_cloProg_run
#print axioms Scc.A64.C07_hookProg_compiles
#print axioms Scc.A64.C07_hookProg_safe
#print axioms Scc.A64.C07_hookProg_typed
#print axioms Scc.A64.C07_hookProg_run
