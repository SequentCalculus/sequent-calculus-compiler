/-
  Scc.Props.C08RVHeap — property C08 (RISC-V backend), Theorem B for RV64 WITH THE HEAP: allocation
  (`let`) and pattern matching (`switch`) on data types, and THEOREM A ∘ THEOREM B FOR PROGRAMS WITH DATA TYPES.

  The relation is THREE-WAY at statement boundaries (Scc/RV/RefDefs.lean, see the header of
  Props/C08RVInt.lean); the abstract heap is represented by the machine memory through the heap refinement
  `HRef` (Scc/Heap/RefineDefs.lean) composed with the memory contracts' `HeapRel` (Scc/RV/MemProofsHeap.lean).

  PROVED (no `sorry`, axioms: propext, Classical.choice, Quot.sound):
  * `C08_erase_refines`, `C08_share_refines`: the abstract `erase` / `share` against the emitted
    `Memory::erase_block` / `share_block_n` (Scc/RV/RefMem.lean ∘ `href_erase` / `href_share`); the
    "no overflow" side condition of `share_block_n` is discharged from the counting invariant.
  * `C08_store_refines` (`store_x3`): the abstract `store kinds n` against the emitted `Memory::store`
    (`C08_store_correct` ∘ `href_store`).
  * `C08_load_refines` (`load_x3`): the abstract `load kinds n` (unique: the object is freed; shared: count
    decremented, children shared) against the emitted `Memory::load` (`C08_load_correct` ∘ `href_load_full`);
    the "no overflow" side condition of the shared branch of `C08_load_correct` is DISCHARGED from the
    counting invariant (`live_header_lt`).
  * `C08_let_rv` (`let_x3`): three-way simulation of `let`: the positional machine's step, two steps of the
    abstract machine and the machine's execution of comments, `Memory::store`, tag load (`LI t (4·pos)`).
    Hypothesis besides those of `sim2_let`: room for the blocks (C10: frontier + 64·(fields + 1) ≤ limit).
  * `C08_switch_rv` (`switch_x3`): three-way simulation of `switch` on an object: single clause (fall
    through) and jump table (`LA TEMP table; ADD TEMP TEMP tag; JALR X0 TEMP 0` lands on the `tag/4`-th 4-byte
    `JAL` of the table: byte addresses of the laid-out program, `Loaded.addrs`), then `Memory::load` of the
    clause.  Hypothesis besides those of `sim2_switch`: the routine ends below 2^64 (`hfitX`) and the
    capacity of 14 variables.
  * `C08_step_rv` (`step3`): Theorem A's `TheoremA_full` with the machine carried along, for EVERY statement
    form (lit, op, ifc, exit, call, subst, let, switch, create, invoke; `print` has no RV64 code).
  * END TO END on the parsed LINES of the emitted routine: `programs_lines` (Scc/RV/ConcRun.lean; restated as
    `C08_programs` in Props/C08RVClo.lean) holds for ALL programs: a terminating run of the positional machine with
    result `v` is reproduced by the RV64 SPEC machine started at the first label, which reaches `cleanup` with `v`
    in `X10`; the heap frontier is tracked along the run (`FrLe` / `Room`): 64·15 bytes per step suffice.  Its side
    hypotheses (the mock generator succeeds, `CodeFits`, distinct labels, `fuel + 1 < 2^64`) are derived from the
    program in `C08_programs_checked` (Props/C08RVClo.lean).
    `C08_data_programs_text`: on the TEXT, given `C08_TextLoads`, stated for print-free, closure-free programs
    (the two hypotheses `hcf`, `hpf` are not used).
  * The bound on the reachable states follows from the STATIC hypothesis `LiveAtMost maxVariables p` of
    `C08_statement`: `C08_capacity_of_liveAtMost_all`, `C08_programs_live` and, stated for closure-free programs,
    `C08_data_programs_live` (Props/C08RVClo.lean); the two lemmas about `ctxWithinStmt` it needs are here.
  `C08_data_programs_statement` (a `def : Prop`): the run theorem for closure-free programs without side hypotheses;
  no theorem concludes it in that generality.
  `C08_loader_statement` (Props/C08RVInt.lean) is refuted (`C08_loader_statement_false`, Props/C14LoaderRV.lean).
  The statements `C08_let_rv`, `C08_switch_rv` … carry the machine words `cw`, `τ` of the closures along;
  closures (`create` / `invoke`) themselves: Props/C08RVClo.lean.
-/
import Scc.Props.C08RVInt
import Scc.RV.RefEval
import Scc.RV.RefSideLabels

namespace Scc.RV

open Scc.AxCut Scc.AxCut.Pos Scc.Backend Scc.Backend.Abs Scc.Backend.Sim Scc.Backend.Sim2 Scc.RV.Ref
open Scc.Backend.Subst (rp)
open Scc.Heap (HState InvS)
open Scc.Heap.Refine (FrLe Room loadAbs)
open Scc.Props.C06Generic (Reachable WithinCapacity CodeFits EnoughHeap)
open Scc.Props.C14Generic (LabelSafe)

section Heap

variable {mc : MonCfg} {cw : Nat → Word} {τ : Nat → Nat → Word}

/-- the abstract `erase` against the emitted `Memory::erase_block` -/
theorem C08_erase_refines {la : String → Option Nat}
    {Γ : Ctx} {cfg cfg1 : Config} {rsKeep : List Nat} {hs : HState} {ι : Nat → Nat} {st : State}
    {i : Nat} (hi : i < Γ.length) (hc : Γ[i].chi ≠ .ext) {p : Word}
    (X : X3R mc cw τ Γ cfg (rsKeep ++ rp p) hs ι st)
    (hp : cfg.temps.get (2 * i) = some p) {h' : Heap} (he : cfg.heap.erase p = .ok h')
    (hcfg1 : cfg1 =
      { cfg with pc := cfg.pc + 1, temps := (clobberTemp cfg.temps).unset (2 * i), heap := h' })
    (kk : Nat) :
    ∃ code, (eraseBlock (posTemp (2 * i))).run kk = .ok (code, kk + 3) ∧ MemFree code ∧
      Code.LAB "cleanup" ∉ code ∧
      ∃ st' hs', execFwd mc la code st = .ok (st', .fall) ∧
        X3R mc cw τ Γ cfg1 rsKeep hs' ι st' ∧ FrLe hs hs' 0 :=
  erase_x3 hi hc X hp he hcfg1 kk

/-- the abstract `share` against the emitted `Memory::share_block_n` -/
theorem C08_share_refines {la : String → Option Nat}
    {Γ : Ctx} {cfg cfg1 : Config} {rs : List Nat} {hs : HState} {ι : Nat → Nat} {st : State}
    {i : Nat} (hi : i < Γ.length) (hc : Γ[i].chi ≠ .ext) {p : Word}
    (X : X3R mc cw τ Γ cfg rs hs ι st) (hmem : p ≠ 0 → p.toNat ∈ rs) (hrs : rs.length ≤ 2 ^ 40)
    (hp : cfg.temps.get (2 * i) = some p) {k : Nat} (hk : k < 2 ^ 31) {h' : Heap}
    (he : cfg.heap.share p k = .ok h')
    (hcfg1 : cfg1 = { cfg with pc := cfg.pc + 1, temps := clobberTemp cfg.temps, heap := h' })
    (kk : Nat) :
    ∃ code, (shareBlockN (posTemp (2 * i)) k).run kk = .ok (code, kk + 1) ∧ MemFree code ∧
      Code.LAB "cleanup" ∉ code ∧
      ∃ st' hs', execFwd mc la code st = .ok (st', .fall) ∧
        X3R mc cw τ Γ cfg1 (rs ++ (List.replicate k (rp p)).flatten) hs' ι st' ∧ FrLe hs hs' 0 :=
  share_x3 hi hc X hmem hrs hp hk he hcfg1 kk

/-- the abstract `store` (at least one field) against the emitted `Memory::store` -/
theorem C08_store_refines {la : String → Option Nat}
    {Γ : Ctx} {cfg cfg1 : Config} {hs : HState} {ι : Nat → Nat} {st : State}
    (X : X3 mc cw τ Γ cfg hs ι st) {n : Nat} (hn : n < Γ.length) {fields : List Abs.Field}
    (hf : readFields cfg.temps (Mock.kindsOf (Γ.drop n)) n = some fields)
    (hch : Obj.children ⟨0, fields⟩ = roots.go cfg.temps (Γ.drop n) n)
    (hnext : cfg.next < 2 ^ 64)
    (hlow : ∀ t, t < 2 * n → cfg1.temps.get t = cfg.temps.get t)
    (hheap : cfg1.heap = (cfg.next, ⟨0, fields⟩) :: cfg.heap) (hnx : cfg1.next = cfg.next + 1)
    (hroom : Room hs (64 * (Γ.length - n) + 64)) (kk : Nat) :
    ∃ code kk', (store (Γ.drop n) (Γ.take n)).run kk = .ok (code, kk') ∧ MemFree code ∧
      Code.LAB "cleanup" ∉ code ∧
      ∃ st' hs' p, execFwd mc la code st = .ok (st', .fall) ∧
        X3R mc cw (storeTau τ cfg.next cw n) (Γ.take n) cfg1 (roots (Γ.take n) cfg.temps ++ [cfg.next]) hs'
          (fun i => if i = cfg.next then p else ι i) st' ∧
        rv st' (2 * n) = some (BitVec.ofNat 64 p) ∧ p ≠ 0 ∧ p < 2 ^ 64 ∧
        FrLe hs hs' (64 * (Γ.length - n)) := by
  obtain ⟨code, kk', h1, h2, h3, st', hs', p, h4, h5, h6, h7, h8, h9, _⟩ :=
    store_x3 (la := la) X hn hf hch hnext hlow hheap hnx hroom kk
  exact ⟨code, kk', h1, h2, h3, st', hs', p, h4, h5, h6, h7, h8, h9⟩

/-- the abstract `load` against the emitted `Memory::load` (`Ref.load_x3`; the hypothesis `hne`, at least one
field, is not used) -/
theorem C08_load_refines {la : String → Option Nat}
    {Γ' Δ : Ctx} {b : Binding} {cfg cfg4 cfg' : Config} {hs : HState} {ι : Nat → Nat} {st : State}
    {r : Word} {o : Obj} {h' : Heap}
    (X : X3 mc cw τ (Γ' ++ [b]) cfg hs ι st) (hb : b.chi ≠ .ext)
    (hr : cfg.temps.get (2 * Γ'.length) = some r) (hr0 : r ≠ 0)
    (hg : cfg.heap.get r.toNat = some o)
    (hk : o.fields.map (·.chi) = Mock.kindsOf Δ) (hne : o.fields ≠ [])
    (hcapΔ : Γ'.length + Δ.length ≤ 14)
    (h4next : cfg4.next = cfg.next)
    (h4temps : ∀ t, t < 2 * (Γ'.length + 1) → cfg4.temps.get t = cfg.temps.get t)
    (hlo : loadAbs cfg.heap r.toNat o = .ok h')
    (hcfg' : cfg' =
      { cfg4 with pc := cfg4.pc + 1, temps := writeFields (clobberTemp cfg4.temps) o.fields Γ'.length, heap := h' })
    (kk : Nat) :
    ∃ code kk', (load Δ Γ').run kk = .ok (code, kk') ∧ MemFree code ∧ Code.LAB "cleanup" ∉ code ∧
      ∃ st' hs', execFwd mc la code st = .ok (st', .fall) ∧
        X3 mc (loadCw cw Γ'.length (τ r.toNat)) τ (Γ' ++ Δ) cfg' hs' ι st' ∧ FrLe hs hs' 0 :=
  load_x3 X hb hr hr0 hg hk hcapΔ h4next h4temps hlo hcfg' kk

variable {pr : RV.Program} {ks : List Code} (L : Loaded pr ks) (hnd : (labs ks).Nodup)
  (hheap : mc.heap = false)

include L hnd hheap in
/-- `let`: `ThreeWay.let_x3` at the RV64 machine — one step of the positional machine, two of the abstract machine, a run
    of the RV64 machine; relation and code invariant hold again -/
theorem C08_let_rv {P : Abs.Program} {hooks : Bool} {prog : AxCut.Prog} {Γ : Ctx} {ρ : List Value} {x : Ident}
    {ty : Ty} {tag : Ident} {args : Ctx} {next : Stmt} {fv : FV} {cfg : Config} {pos : Nat}
    (R : RelX P hooks prog ⟨Γ, ρ, .letS x ty tag args next fv⟩ cfg)
    (hk : args.length ≤ Γ.length)
    (hfresh : ∀ b ∈ Γ.take (Γ.length - args.length), b.var.id ≠ x.id)
    (hpos : Pos.tagPosition prog.types ty tag = .ok pos)
    (hcap : 2 * (Γ.length - args.length + 1) + 2 < Mock.T_TEMP)
    (hnext : cfg.next < 2 ^ 64)
    {hs : HState} {ι : Nat → Nat} {st : State} (X : X3 mc cw τ Γ cfg hs ι st)
    {k k' : Nat} {items : List Code}
    (hrun : (codeStatementR rvBackend hooks natRen prog.types (.letS x ty tag args next fv) Γ).run k =
      .ok (items, k'))
    (hat : KAt ks st.pc items)
    (hroom : Room hs (64 * args.length + 64)) :
    ∃ cfg' st' hs' ι', stepsTo P 2 cfg cfg' ∧ Reach pr mc st st' ∧ FrLe hs hs' (64 * args.length) ∧
      cfg'.out = cfg.out ∧ cfg'.next ≤ cfg.next + 1 ∧
      RelX P hooks prog ⟨Γ.take (Γ.length - args.length) ++ [⟨x, .prd, ty⟩],
        ρ.take (Γ.length - args.length) ++ [.obj pos (ρ.drop (Γ.length - args.length))], next⟩ cfg' ∧
      X3 mc cw (letTau τ cfg.next cw (Γ.length - args.length) args.length)
        (Γ.take (Γ.length - args.length) ++ [⟨x, .prd, ty⟩]) cfg' hs' ι' st' ∧
      ∃ k1 k1' items', (codeStatementR rvBackend hooks natRen prog.types next
          (Γ.take (Γ.length - args.length) ++ [⟨x, .prd, ty⟩])).run k1 = .ok (items', k1') ∧
        KAt ks st'.pc items' := by
  obtain ⟨cfg', st', hs', ι', h1, h2, h3, _, h4⟩ := let_x3 L hnd hheap R hk hfresh hpos hcap hnext X hrun hat hroom
  exact ⟨cfg', st', hs', ι', h1, h2, h3, h4⟩

include L hnd hheap in
/-- `switch` on an object: the jump through the table (`LA; ADD; JALR`), then `Memory::load` of the clause -/
theorem C08_switch_rv (hfitX : codeBase + 4 * icount ks < 2 ^ 64)
    {P : Abs.Program} {hooks : Bool} {prog : AxCut.Prog} {Γ' : Ctx} {b : Binding}
    {ρ' : List Value} {pos : Nat} {fields : List Value} {x : Ident} {ty : Ty} {clauses : Clauses}
    {fv : FV} {cfg : Config} {c : Clause}
    (R : RelX P hooks prog ⟨Γ' ++ [b], ρ' ++ [.obj pos fields], .switch x ty clauses fv⟩ cfg)
    (hfits : Fits P)
    (hb : b.var.id = x.id) (hfresh : ∀ b' ∈ Γ', b'.var.id ≠ x.id)
    (hclause : nthClause clauses pos = some c)
    (hkinds : fields.map Sim2.kindOf = Mock.kindsOf c.ctx)
    (hcap : 2 * (Γ'.length + c.ctx.length) + 2 < Mock.T_TEMP)
    {hs : HState} {ι : Nat → Nat} {st : State} (X : X3 mc cw τ (Γ' ++ [b]) cfg hs ι st)
    {k k' : Nat} {items : List Code}
    (hrun : (codeStatementR rvBackend hooks natRen prog.types (.switch x ty clauses fv) (Γ' ++ [b])).run k =
      .ok (items, k'))
    (hat : KAt ks st.pc items)
    (hcapX : Γ'.length + c.ctx.length ≤ 14)
    {Q : Word → Ctx → Clauses → Prop}
    (CVh : CVals P hooks prog.types Q cw τ cfg.heap cfg.temps (Γ' ++ [b]) (ρ' ++ [.obj pos fields])) :
    ∃ kk cfg' st' hs', stepsTo P kk cfg cfg' ∧ Reach pr mc st st' ∧ FrLe hs hs' 0 ∧
      cfg'.out = cfg.out ∧ cfg'.next = cfg.next ∧
      RelX P hooks prog ⟨Γ' ++ c.ctx, ρ' ++ fields, c.body⟩ cfg' ∧
      (∃ r, cfg.temps.get (2 * Γ'.length) = some r ∧
        X3 mc (loadCw cw Γ'.length (τ r.toNat)) τ (Γ' ++ c.ctx) cfg' hs' ι st' ∧
        CVals P hooks prog.types Q (loadCw cw Γ'.length (τ r.toNat)) τ cfg'.heap cfg'.temps (Γ' ++ c.ctx)
          (ρ' ++ fields)) ∧
      ∃ k1 k1' items', (codeStatementR rvBackend hooks natRen prog.types c.body (Γ' ++ c.ctx)).run k1 =
          .ok (items', k1') ∧ KAt ks st'.pc items' :=
  switch_x3 L hnd hheap hfitX R hfits hb hfresh hclause hkinds hcap X hrun hat hcapX CVh

end Heap

/-- THE THREE-WAY STEP: every step of the positional machine from a typed state in the three-way relation is
reproduced by the RV64 machine, and the relation holds again (`StepSim3`: with the bound on the object counter
and on the heap frontier).  ALL statements: `print` has no RV64 code, so it is never the current statement.  It is
`Ref.step3`; the hypothesis `htp` is not used. -/
theorem C08_step_rv {mc : MonCfg} {pr : RV.Program} {ks : List Code} (L : Loaded pr ks)
    (hndL : (labs ks).Nodup) (hheap : mc.heap = false) {ic : Nat} (hclean : labIdx ks "cleanup" = some ic)
    (hicl : ic + 1 = ks.length)
    (hfitX : codeBase + 4 * icount ks < 2 ^ 64)
    (hooks : Bool) (prog : AxCut.Prog) (c : Nat) (code : List MockOp) (nargs c' : Nat)
    (hcomp : (compile mockSym hooks prog).run c = .ok ((code, nargs), c'))
    (hsafe : LabelSafe prog = true) (htp : LinTypedProg prog) (hfit : CodeFits code)
    (DX : KDefsAt ks hooks prog)
    (st : Pos.State) (cfg : Config) (hs : HState) (X : State)
    (R : Rel3 mc ks (Program.ofOps code) hooks prog st cfg hs X)
    (T : Pos.StateTyped prog st) (hheapA : EnoughHeap cfg)
    (hroom : Room hs (64 * 15)) :
    StepSim3 mc pr ks (Program.ofOps code) hooks prog st cfg hs X :=
  step3 L hndL hheap hclean hicl hfitX hooks prog c code nargs c' hcomp hsafe hfit DX st cfg hs X R T hheapA
    hroom

mutual
  /-- no `create` / `invoke` anywhere -/
  def closureFreeStmt : Stmt → Bool
    | .subst _ next => closureFreeStmt next
    | .call _ _ => true
    | .letS _ _ _ _ next _ => closureFreeStmt next
    | .switch _ _ cs _ => closureFreeClauses cs
    | .create _ _ _ _ _ _ _ => false
    | .invoke _ _ _ _ => false
    | .lit _ _ next _ => closureFreeStmt next
    | .op _ _ _ _ next _ => closureFreeStmt next
    | .print _ _ next _ => closureFreeStmt next
    | .ifc _ _ _ t e => closureFreeStmt t && closureFreeStmt e
    | .exit _ => true
  def closureFreeClauses : Clauses → Bool
    | .nil => true
    | .cons _ _ body rest => closureFreeStmt body && closureFreeClauses rest
end

/-- programs with data types: no closures -/
def ClosureFree (p : AxCut.Prog) : Prop := ∀ d ∈ p.defs, closureFreeStmt d.body = true

/-- the run theorem for print-free, closure-free programs on the parsed LINES of the emitted routine without the side
    hypotheses of `programs_lines` and with the heap bound existentially quantified.  No theorem concludes it in this
    generality; with two decidable side hypotheses left: `C08_programs_checked` (Props/C08RVClo.lean, all programs). -/
def C08_data_programs_statement : Prop :=
  ∀ (p : AxCut.Prog) (args : List Word) (hooks : Bool) (instrs hdr : List Code) (nargs cX : Nat) (d0 : Def),
    LabelSafe p = true → LinTypedProg p → ClosureFree p → PrintFree p →
    (compile rvBackend hooks p).run 0 = .ok ((instrs, nargs), cX) →
    p.defs.head? = some d0 → (∀ b ∈ d0.ctx, b.chi = .ext ∧ b.ty = .i64) →
    (∀ st, Reachable p ⟨d0.ctx, args.map .int, d0.body⟩ st → st.ctx.length ≤ maxVariables) →
    ∀ (fuel : Nat) (v : Word), (Pos.run p args fuel).res = .done v →
    ∃ heapBytes, ∀ (mc : MonCfg), mc.heap = false → heapBase + mc.heapBytes ≤ 2 ^ 63 →
      heapBytes ≤ mc.heapBytes →
      ∀ (lines : List (Nat × Code)), (∀ c ∈ hdr, c.isComment = true) →
      (lines.map (·.2)).map stripC = (hdr ++ instrs ++ [Code.LAB "cleanup"]).map stripC →
      (∀ x ∈ lines, ¬ badHook x.2) →
      ∃ fuel', (runLines lines args fuel' mc).res = .done v

set_option linter.unusedVariables false in
/-- the run theorem `programs_lines` on the TEXT: `RV.run` on the text of `compileRoutine`, given that this text
    loads.  Stated for closure-free, print-free programs; `hcf` and `hpf` are not used. -/
theorem C08_data_programs_text (p : AxCut.Prog) (args : List Word) (hooks : Bool) (text : String)
    (nargs : Nat) (d0 : Def) (ops : List MockOp) (c' : Nat)
    (hsafe : LabelSafe p = true) (htp : LinTypedProg p) (hcf : ClosureFree p) (hpf : PrintFree p)
    (hcompM : (compile mockSym hooks p).run 0 = .ok ((ops, nargs), c')) (hfit : CodeFits ops)
    (hcompX : compileRoutine p hooks 0 = .ok (nargs, text))
    (hnd : ∀ instrs, intoRoutine instrs = text → (labs (instrs ++ [Code.LAB "cleanup"])).Nodup ∧
      codeBase + 4 * instrs.length < 2 ^ 64)
    (hload : ∀ instrs, intoRoutine instrs = text → C08_TextLoads instrs)
    (hd : p.defs.head? = some d0) (hentry : ∀ b ∈ d0.ctx, b.chi = .ext ∧ b.ty = .i64)
    (hcap : ∀ st, Reachable p ⟨d0.ctx, args.map .int, d0.body⟩ st → st.ctx.length ≤ maxVariables)
    (fuel : Nat) (v : Word) (hfuel : fuel + 1 < 2 ^ 64)
    (hrun : (Pos.run p args fuel).res = .done v)
    (mc : MonCfg) (hheap : mc.heap = false) (hwf : mc.wf = false) (htop : heapBase + mc.heapBytes ≤ 2 ^ 63)
    (hbytes : 128 + 64 * 15 * fuel ≤ mc.heapBytes) :
    ∃ fuel', (run text args fuel' mc).res = .done v := by
  unfold compileRoutine at hcompX
  cases hx : (compile rvBackend hooks p).run 0 with
  | error e => rw [hx] at hcompX; cases hcompX
  | ok r =>
    obtain ⟨⟨instrs, nargs'⟩, cX⟩ := r
    rw [hx] at hcompX
    simp only [Except.ok.injEq, Prod.mk.injEq] at hcompX
    obtain ⟨rfl, rfl⟩ := hcompX
    obtain ⟨lines, hparse, hlines, hhook⟩ := hload instrs rfl
    obtain ⟨fuel', hf⟩ := programs_lines p args hooks instrs [Code.COMMENT "actual code"] nargs' cX d0 ops c'
      hsafe htp hcompM hfit hx (hnd instrs rfl).1 (hnd instrs rfl).2 hd hentry hcap fuel v hfuel hrun mc hheap
      htop hbytes lines (fun c hc => by simp at hc; subst hc; rfl) hlines hhook
    exact ⟨fuel', by rw [run_eq_runLines hparse args fuel' mc hwf]; exact hf⟩

/-! ## the static bound `LiveAtMost` of the C08 statement: clauses, and the length of the context -/

theorem ctxWithinClauses_nth (k : Nat) : ∀ (cs : Clauses) (pre post : Ctx) (i : Nat) (c : Clause),
    ctxWithinClauses k cs pre post = true → nthClause cs i = some c →
    ctxWithinStmt k c.body (pre ++ c.ctx ++ post) = true
  | .nil, _, _, _, _, _, h => by simp [nthClause] at h
  | .cons x ctx body rest, pre, post, 0, c, hw, h => by
    simp only [nthClause, Option.some.injEq] at h
    subst h
    simp only [ctxWithinClauses, Bool.and_eq_true] at hw
    exact hw.1
  | .cons x ctx body rest, pre, post, i + 1, c, hw, h => by
    simp only [nthClause] at h
    simp only [ctxWithinClauses, Bool.and_eq_true] at hw
    exact ctxWithinClauses_nth k rest pre post i c hw.2 h

theorem ctxWithin_length {k : Nat} {s : Stmt} {Γ : Ctx} (h : ctxWithinStmt k s Γ = true) : Γ.length ≤ k := by
  cases s <;> simp only [ctxWithinStmt, Bool.and_eq_true, decide_eq_true_eq] at h
  all_goals first | exact h | exact h.1 | exact h.1.1

/-! ### non-vacuity: objects (let, subst with duplication = share, switch shared and unique) -/

def C08_tBox : Ty := .decl ⟨"Box", 0⟩
def C08_boxDecl : TypeDecl := { name := ⟨"Box", 0⟩, xtors := [⟨⟨"B", 0⟩, [⟨⟨"v", 102⟩, .ext, .i64⟩]⟩] }

/-- main(x) { let b = B(x); subst (b1 := b)(b2 := b); switch b2 { B(y) => subst (y := y)(b1 := b1);
      switch b1 { B(z) => s <- y + z; exit s } } } -/
def C08_boxMain : Def :=
  { name := ⟨"main", 0⟩, ctx := [⟨⟨"x", 1⟩, .ext, .i64⟩],
    body := .letS ⟨"b", 2⟩ C08_tBox ⟨"B", 0⟩ [⟨⟨"x", 1⟩, .ext, .i64⟩]
      (.subst [(⟨⟨"b1", 3⟩, .prd, C08_tBox⟩, ⟨"b", 2⟩), (⟨⟨"b2", 4⟩, .prd, C08_tBox⟩, ⟨"b", 2⟩)]
        (.switch ⟨"b2", 4⟩ C08_tBox
          (.cons ⟨"B", 0⟩ [⟨⟨"y", 5⟩, .ext, .i64⟩]
            (.subst [(⟨⟨"y", 6⟩, .ext, .i64⟩, ⟨"y", 5⟩), (⟨⟨"b1", 7⟩, .prd, C08_tBox⟩, ⟨"b1", 3⟩)]
              (.switch ⟨"b1", 7⟩ C08_tBox
                (.cons ⟨"B", 0⟩ [⟨⟨"z", 8⟩, .ext, .i64⟩]
                  (.op ⟨"s", 9⟩ ⟨"y", 6⟩ .sum ⟨"z", 8⟩ (.exit ⟨"s", 9⟩) none) .nil) none))
            .nil) none)) none }

def C08_boxProg : AxCut.Prog := { defs := [C08_boxMain], types := [C08_boxDecl], maxId := 102 }

def C08_boxOps : List MockOp :=
  match (compile mockSym true C08_boxProg).run 0 with
  | .ok ((code, _), _) => code
  | .error _ => []

/-- the emitted code (computed through `rvBackendF`, the backend with the structurally recursive clones of
`store` / `load`, Scc/RV/RefEval.lean: `rvBackendF = rvBackend`) -/
def C08_boxInstrs : List Code :=
  match (compile rvBackendF true C08_boxProg).run 0 with
  | .ok ((code, _), _) => code
  | .error _ => []

theorem C08_boxProg_closureFree : ClosureFree C08_boxProg := by
  intro d hd
  simp only [C08_boxProg, List.mem_singleton] at hd
  subst hd
  rfl

theorem C08_boxProg_printFree : PrintFree C08_boxProg := by
  intro d hd
  simp only [C08_boxProg, List.mem_singleton] at hd
  subst hd
  rfl

theorem C08_boxInstrs_compiled : ∃ k, (compile rvBackend true C08_boxProg).run 0 = .ok ((C08_boxInstrs, 1), k) := by
  rw [← rvBackendF_eq]; exact ⟨_, rfl⟩

theorem C08_boxOps_compiled : ∃ k, (compile mockSym true C08_boxProg).run 0 = .ok ((C08_boxOps, 1), k) :=
  ⟨_, rfl⟩

theorem C08_boxProg_labelSafe : LabelSafe C08_boxProg = true := by decide

theorem C08_boxInstrs_nodup : (labs (C08_boxInstrs ++ [Code.LAB "cleanup"])).Nodup := by
  obtain ⟨k, h⟩ := C08_boxInstrs_compiled
  exact labels_unique_rv C08_boxProg_labelSafe h

set_option maxRecDepth 100000 in
theorem C08_boxInstrs_fits : codeBase + 4 * C08_boxInstrs.length < 2 ^ 64 := by decide

theorem C08_boxOps_fits : CodeFits C08_boxOps := by decide

theorem C08_boxMain_entry : ∀ b ∈ C08_boxMain.ctx, b.chi = .ext ∧ b.ty = .i64 := by decide

theorem C08_boxProg_run : (Pos.run C08_boxProg [21] 20).res = .done 42 := by decide

/-- the box program started with x = 21: every hypothesis of `programs_lines` holds, so the RV64 machine on
the (canonical) lines of the emitted routine reaches `cleanup` with 42 in `X10` (the block is allocated by
`let`, shared by `subst`, loaded once shared and once unique — and freed) -/
example : ∃ fuel', (runLines (canonLines [Code.COMMENT "actual code"] C08_boxInstrs) [21] fuel' {}).res = .done 42 := by
  obtain ⟨c', hcompM⟩ := C08_boxOps_compiled
  obtain ⟨cX, hcompX⟩ := C08_boxInstrs_compiled
  have hrun := C08_boxProg_run
  exact programs_lines C08_boxProg [21] true C08_boxInstrs [Code.COMMENT "actual code"] 1 cX C08_boxMain
    C08_boxOps c' C08_boxProg_labelSafe (linTypedCheck_sound C08_boxProg rfl) hcompM C08_boxOps_fits hcompX C08_boxInstrs_nodup C08_boxInstrs_fits rfl C08_boxMain_entry
    (C08_capacity_of_run C08_boxProg 20 _ (by decide) (by decide)) 20 42 (by decide) hrun {} rfl (by decide)
    (by decide) _ (fun c hc => by simp at hc; subst hc; rfl) (canonLines_codes _ _) (canonLines_hooks _ _)

end Scc.RV

#print axioms Scc.RV.C08_erase_refines
#print axioms Scc.RV.C08_share_refines
#print axioms Scc.RV.C08_store_refines
#print axioms Scc.RV.C08_load_refines
#print axioms Scc.RV.C08_let_rv
#print axioms Scc.RV.C08_switch_rv
#print axioms Scc.RV.C08_step_rv
#print axioms Scc.RV.C08_data_programs_text

#print axioms Scc.RV.ctxWithinClauses_nth
#print axioms Scc.RV.ctxWithin_length
#print axioms Scc.RV.C08_boxProg_closureFree
#print axioms Scc.RV.C08_boxProg_printFree
#print axioms Scc.RV.C08_boxInstrs_nodup
#print axioms Scc.RV.C08_boxInstrs_fits
