/-
  Scc.Props.C18Fuel — C18, lexer+parser part: the FUEL of the models is never the reason for an answer.

  The parser model (Scc.Fun.Parse) is a recursive-descent parser whose mutually recursive functions
  recurse on a fuel argument; the driver passes `fuelFor (number of tokens) = 4 n + 8` and the model
  answers the artefact `Outcome.diag .fuel` when it runs out.  `Scc.Props.C18` states
  `C18_fuel_statement` ("the model never answers `diag .fuel`"); here it is proved, for every literal mode
  and EVERY input text (no well-formedness premise):

    * C18_fuel                 : C18_fuel_statement
    * C18_fuel_tokens          the same on every token list (also lists no text lexes to)
    * C18_fuel_margin          already `2 n + 1` units of fuel (n = number of tokens) are enough for
                               `parseDecls`; `fuelFor n = 4 n + 8` is above that
    * C18_lexer_fuel           the lexer model's fuel (`lexLoop`, `fuel = number of characters`) is enough
                               as well: the token stream is the same for every larger fuel, and
                               `C18_lexStream_unfold`: `lexStream` satisfies the fuel-free recursion
                               equation of `Matcher::next` (so a `Token.bad` always stems from
                               `lexStep … = .invalid`, never from the out-of-fuel branch)
    * C18_parse_outcome        hence every outcome of the model is a program, one of the five REAL
                               diagnostics P-001 … P-005, or the literal panic
    * C18_parse_outcome_fixed  repaired literal action: a program or a real diagnostic, nothing else
    * C18_frontEnd_real_diag   `frontEnd src` (Scc.Pipeline) never reports the artefact code "FUEL"
    * C18_text_total_sharp     `C18_text_total` (Props/C12Final) with the parser diagnostic restricted to
                               the real codes: no fuel caveat is left in C18 from the text.

  Proof (Scc/Fun/ParseFuel.lean, from the judgment `Run` of Scc/Fun/ParseRun.lean, which the walk in
  Scc/Fun/ParseInRange.lean establishes for every parser function): a function called with fuel `F` on input
  `ts` answers `diag .fuel` only if `F < 2 * ts.length + k`, where `k ≤ 3` is the rank of the function (length
  of the longest call chain below it that consumes no token), and a successful call returns a proper suffix
  of its input (`parsePostfix`/`parseOpt…`: a suffix).  Scc/Fun/LexFuel.lean: `lexStep` on a non-empty input
  returns a strictly shorter rest.
-/
import Scc.Fun.ParseFuel
import Scc.Fun.LexFuel
import Scc.Props.C12Final

namespace Scc.Props
open Scc.Fun.Lex Scc.Fun.Parse

/-- **C18 fuel**: the parser model never answers "out of fuel", for every mode and every input text. -/
theorem C18_fuel : C18_fuel_statement := fun mode src => parse_ne_fuel mode src

/-- the same for every token list (including lists that no text lexes to) -/
theorem C18_fuel_tokens (mode : LiteralMode) (ts : List Token) : parseTokens mode ts ≠ .diag .fuel :=
  parseTokens_ne_fuel mode ts

/-- margin: `2 n + 1` units of inner fuel and `n` units of declaration fuel suffice for `n` tokens -/
theorem C18_fuel_margin (mode : LiteralMode) (fuel n : Nat) (ts : List Token)
    (hn : ts.length ≤ n) (hf : 2 * ts.length + 1 ≤ fuel) :
    parseDecls mode fuel n ts ≠ .diag .fuel := parseDecls_ne_fuel mode fuel n ts hn hf

/-- non-vacuity of the margin: the fuel the driver passes satisfies both premises -/
example (ts : List Token) : ts.length ≤ ts.length + 1 ∧ 2 * ts.length + 1 ≤ fuelFor ts.length := by
  unfold fuelFor; omega

def C18_isFuel {α : Type} : Outcome α → Bool
  | .diag .fuel => true
  | _ => false

/-- the bound is about the FUEL, not about lucky inputs: with too little fuel the model does answer
`diag .fuel` (so the statement is not vacuous) -/
example : C18_isFuel (parseDecls .diagOnOverflow 3 15
    [.kw .def_, .lower ['m'], .lparen, .rparen, .colon, .kw .i64, .lbrace, .lparen, .lparen, .num ['7'],
     .rparen, .rparen, .rbrace]) = true := by decide

/-- … and the same tokens parse with the driver's fuel -/
example : (parseTokens .diagOnOverflow
    [.kw .def_, .lower ['m'], .lparen, .rparen, .colon, .kw .i64, .lbrace, .lparen, .lparen, .num ['7'],
     .rparen, .rparen, .rbrace]).isOk = true := by decide

/-- **Lexer fuel**: the token stream does not depend on the fuel once it is at least the number of
characters (which is what `lexStream` passes). -/
theorem C18_lexer_fuel (f : Nat) (cs : List Char) (hf : cs.length ≤ f) :
    lexLoop f cs = lexStream cs := lexLoop_eq_lexStream f cs hf

/-- the token stream satisfies the fuel-free equation of the lexer loop -/
theorem C18_lexStream_unfold (c : Char) (cs : List Char) :
    lexStream (c :: cs) =
      match lexStep (c :: cs) with
      | .tok t r => t :: lexStream r
      | .skip r => lexStream r
      | .invalid => [.bad] := lexStream_cons c cs

example : lexLoop 100 ['d','e','f',' ','m'] = lexStream ['d','e','f',' ','m'] :=
  C18_lexer_fuel _ _ (by decide)

/-- the codes of the real parser (`fun::parser::result`) -/
def C18_realDiag : DiagCode → Prop
  | .p001 | .p002 | .p003 | .p004 | .p005 => True
  | .fuel => False

/-- every outcome of the model parser is a program, a REAL diagnostic, or the literal panic -/
theorem C18_parse_outcome (mode : LiteralMode) (src : String) :
    (∃ p, parse mode src = .ok p) ∨ (∃ c, parse mode src = .diag c ∧ C18_realDiag c) ∨
      parse mode src = .panic .literal := by
  have hf := C18_fuel mode src
  cases h : parse mode src with
  | ok p => exact .inl ⟨p, rfl⟩
  | diag c =>
    refine .inr (.inl ⟨c, rfl, ?_⟩)
    cases c <;> first | exact trivial | exact absurd h hf
  | panic s => cases s; exact .inr (.inr rfl)

/-- repaired literal action: a program or a real diagnostic — for EVERY input text -/
theorem C18_parse_outcome_fixed (src : String) :
    (∃ p, parse .diagOnOverflow src = .ok p) ∨
      (∃ c, parse .diagOnOverflow src = .diag c ∧ C18_realDiag c) := by
  rcases C18_parse_outcome .diagOnOverflow src with h | h | h
  · exact .inl h
  · exact .inr h
  · exact absurd h (C18_parse_statement_fixed src .literal)

/-- the strings `frontEnd` reports for the real parser diagnostics -/
def C18_realDiagStrings : List String := ["P-001", "P-002", "P-003", "P-004", "P-005"]

/-- the front end of the composed model never reports the artefact code "FUEL": a parser diagnostic
of `frontEnd` is one of the codes of the real parser -/
theorem C18_frontEnd_real_diag (src : String) (d : String)
    (h : Pipeline.frontEnd src = .parseDiag d) : d ∈ C18_realDiagStrings := by
  have hf := C18_fuel .diagOnOverflow src
  unfold Pipeline.frontEnd at h
  cases hp : parse .diagOnOverflow src with
  | diag c =>
    rw [hp] at h
    simp only [Pipeline.Outcome.parseDiag.injEq] at h
    subst h
    cases c <;> first | exact absurd hp hf | decide
  | panic s => cases s; rw [hp] at h; cases h
  | ok p =>
    rw [hp] at h
    simp only [] at h
    cases hc : Fun.Check.checkProgram p <;> rw [hc] at h <;> cases h

theorem C18_frontEnd_no_fuel (src : String) : Pipeline.frontEnd src ≠ .parseDiag "FUEL" := by
  intro h
  have := C18_frontEnd_real_diag src _ h
  revert this; decide

/-- the outcome classes of the whole compiler on a text, parser diagnostics restricted to real codes -/
def C18_textOutcomeSharp : Except String (Nat × String) → Prop
  | .ok _ => True
  | .error e => (∃ c ∈ C18_realDiagStrings, e = "S0 DIAG " ++ c) ∨ (∃ c, e = "S1 DIAG " ++ c) ∨
      e = "S6x compile: Out of temporaries"

/-- **C18 from the text, without fuel caveat**: `C18_text_total` where the parser diagnostic is one of
the real parser's codes. -/
theorem C18_text_total_sharp (src : String) (hooks : Bool) (c : Nat)
    (hmain : ∀ p p', Pipeline.frontEnd src = .ok p p' →
      Pipeline.validMain p' = true ∧ Fun.noMainCall p' = true) :
    C18_textOutcomeSharp (Pipeline.compileTextX86 hooks c src) := by
  cases hf : Pipeline.frontEnd src with
  | parseDiag d =>
    simp only [Pipeline.compileTextX86, hf]
    exact .inl ⟨d, C18_frontEnd_real_diag src d hf, rfl⟩
  | checkDiag d => simp only [Pipeline.compileTextX86, hf]; exact .inr (.inl ⟨d, rfl⟩)
  | panic s => exact absurd hf (C18_frontEnd_no_panic src s)
  | ok p p' =>
    have h := C18_text_total src hooks c hmain
    cases hr : Pipeline.compileTextX86 hooks c src with
    | ok r => trivial
    | error e =>
      rw [hr] at h
      rcases h with ⟨d, hd⟩ | h | h
      · -- not a parser diagnostic: the front end accepted the text
        obtain ⟨hv, hmc⟩ := hmain p p' hf
        obtain ⟨hp, hc⟩ := frontEnd_ok_iff.1 hf
        obtain ⟨st, hok, _, h6⟩ := C12_final_sharp .diagOnOverflow src p p' hp hc hv hmc
        have hmid : Pipeline.middleEnd p' = .ok st.s5 := Pipeline.middleEnd_ok_iff.2 ⟨st, hok, rfl⟩
        simp only [Pipeline.compileTextX86, hf, Pipeline.compileAllX86, hmid] at hr
        cases hb : Pipeline.backEndX86 hooks c st.s5 with
        | ok r => rw [hb] at hr; cases hr
        | error e' =>
          rw [hb] at hr
          have := C18_backEndX86_error h6 hooks c e' hb
          simp only [Except.error.injEq] at hr
          subst hr
          exact .inr (.inr this)
      · exact .inr (.inl h)
      · exact .inr (.inr h)

#print axioms C18_fuel
#print axioms C18_fuel_tokens
#print axioms C18_fuel_margin
#print axioms C18_lexer_fuel
#print axioms C18_lexStream_unfold
#print axioms C18_parse_outcome
#print axioms C18_parse_outcome_fixed
#print axioms C18_frontEnd_real_diag
#print axioms C18_frontEnd_no_fuel
#print axioms C18_text_total_sharp

end Scc.Props
