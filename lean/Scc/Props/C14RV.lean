/-
  Scc.Props.C14RV — property C14 (emitted assembly is well-formed), the RISC-V part:
  "every immediate/shift/offset fits its instruction form, consecutive table entries are
   `jumpLength 1` apart" for the text of the RV64 backend, with the validator `Scc.RV.wfCheck`
  (Scc/RV/Machine.lean: labels defined once, references defined, 12-bit signed immediates of
  `ADDI`/`JALR`/`LW`/`SW`, 64-bit `LI`, contiguous jump tables).

  The label part of C14 (T2 labels defined, T3 labels unique under `LabelSafe`) is backend
  independent and proved in Scc/Props/C14Generic.lean.  Proved here:
  * T1 `C14RV_table_code`, `C14RV_table_stride`: a table is one `JAL X0 <clause label>` per clause
    (`jump_label_fixed`), laid out by the machine at `address(table) + 4 k` = `jump_length k`.
  * T4 (operand ranges), per emitting function: `erase_block`, `acquire_block`, `share_block_n`
    (n ≤ 2047), `load_immediate` (any i64), `add_and_jump` / `jump` (k ≤ 511), all field offsets.
    The bounds are sharp — `C14RV_addAndJump_limit`, `C14RV_share_limit`: the 513-th destructor of a
    codata type, or a substitution making 2049 copies of one object, yields an `ADDI` whose
    immediate does not fit 12 bits (capacity limits of the backend, stated as hypotheses).
    The ranges of every method, `store`/`load` included, are the instance `Wf.opsSat_rv`
    (Scc/RV/WfFinal.lean), from which the per-function theorems here are read.
  The whole-text statement `C14RV_statement` (`wfCheck` of the routine text of every accepted program succeeds) is a
  `def : Prop` here; it is REFUTED in Props/C14RVFinal.lean (`C14RV_statement_false`: a false alarm of the validator's
  table test), which proves the whole-program form that is true (`C14_rv_final`, `C14_rv_final_names`).
  NOTE the mnemonics `LW`/`SW` themselves are 32-bit accesses on a real RV64 (header of Props/C08RV.lean).
-/
import Scc.RV.Lemmas
import Scc.RV.LayoutLemmas
import Scc.RV.WfFinal

namespace Scc.RV

open Scc.AxCut Scc.Backend

/-- every type has at most 512 xtors (so that `jump_length` of every tag fits the `ADDI` of `add_and_jump`) -/
def XtorsWithin (p : Prog) : Prop := ∀ d ∈ p.types, d.xtors.length ≤ 512

/-- C14 for RV64 — `LabelSafe` is the hypothesis of C14-T3 (Scc/Props/C14Generic.lean), `CallsDefined`
that of C14-T2; a substitution never makes more than 2048 copies of a variable because a context has
at most 14 variables. -/
def C14RV_statement (LabelSafe CallsDefined : Prog → Prop) : Prop :=
  ∀ (p : Prog) (hooks : Bool) (counter nargs : Nat) (text : String),
    LabelSafe p → CallsDefined p → XtorsWithin p →
    compileRoutine p hooks counter = .ok (nargs, text) →
    wfCheck text = .ok ()

/-! ## T1: jump tables -/

def clauseXtors : Clauses → List Ident
  | .nil => []
  | .cons x _ _ rest => x :: clauseXtors rest

/-- utils.rs code_table with the RV backend: exactly one `JAL X0 <base>_<xtor>` per clause, in
clause order, nothing else (no labels, no comments) -/
theorem C14RV_table_code (base : String) : ∀ (cs : Clauses),
    codeTable rvBackend cs base =
      (clauseXtors cs).map fun x => Code.JAL ZERO (clauseLabel base x)
  | .nil => rfl
  | .cons x _ _ rest => by
    simp only [codeTable, clauseXtors, List.map_cons, C14RV_table_code base rest]
    rfl

/-- `jump_length`: entries are 4 bytes apart -/
theorem C14RV_jumpLength (k : Nat) :
    rvBackend.jumpLength k = 4 * (k : Int) ∧
    rvBackend.jumpLength (k + 1) - rvBackend.jumpLength k = rvBackend.jumpLength 1 := by
  simp only [rvBackend, jumpLength]
  constructor
  · trivial
  · omega

/-- In the machine's layout of ANY text that contains a table label directly followed by the table
entries, entry k is at `address(label) + jump_length k` -/
theorem C14RV_table_stride (pre post : List (Nat × Code)) (n0 : Nat) (base : String) (cs : Clauses)
    (lineNo : Nat → Nat) (p : Program)
    (h : layout (pre ++ ((n0, Code.LAB base) ::
          ((clauseXtors cs).mapIdx fun i x => (lineNo i, clauseLabel base x)).map
            fun e => (e.1, Code.JAL ZERO e.2)) ++ post) = .ok p) :
    ∃ i A, (p.items[i]?).map Item.view = some (.LAB base, A) ∧
      ∀ k (hk : k < (clauseXtors cs).length),
        (p.items[i + 1 + k]?).map Item.view =
          some (.JAL ZERO (clauseLabel base (clauseXtors cs)[k]), A + 4 * k) := by
  obtain ⟨i, A, hlab, hent⟩ := layout_table_stride pre post n0 base _ p h
  refine ⟨i, A, hlab, ?_⟩
  intro k hk
  have := hent k (by simpa using hk)
  simpa using this

/-! ## T4: operand ranges -/

def codesOk (l : List Code) : Bool := l.all Code.operandsOk

/-- config.rs: every field offset (and the block size used by the bump allocation) fits 12 bits -/
theorem C14RV_fieldOffset (number field : Nat) (hn : number ≤ 1) (hf : field ≤ fieldsPerBlock) :
    fitsI12 (fieldOffset number field) = true ∧ fitsI12 referenceCountOffset = true ∧
    fitsI12 nextElementOffset = true := by
  simp only [fieldsPerBlock] at hf
  simp only [fitsI12, fieldOffset, address, fieldSlotSize, referenceCountOffset, nextElementOffset]
  refine ⟨?_, by decide, by decide⟩
  simp only [Bool.and_eq_true]
  constructor <;> (apply decide_eq_true; omega)

/-- the items of the code of memory.rs have encodable operands: read off its form (Scc/RV/MemBlk.lean) -/
theorem codesOk_of_blk {rok iok : Prop} {l : List Code} (h : Mem.Blk rok iok l) (o : iok) : codesOk l = true :=
  (h.mw o).1

theorem codesOk_of_allP {l : List Code} (h : Scc.X86.AllP (fun c => c.operandsOk = true) l) : codesOk l = true :=
  List.all_eq_true.2 h

theorem C14RV_eraseBlock (r : Register) (c : Nat) :
    ∃ code, (rvBackend.eraseBlock r).run c = .ok (code, c + 3) ∧ codesOk code = true :=
  ⟨_, rfl, codesOk_of_blk (Mem.blk_eraseBlock r (k := c) rfl) trivial⟩

theorem C14RV_acquireBlock (r t : Register) (c : Nat) :
    ∃ code, (acquireBlock r t).run c = .ok (code, c + 13) ∧ codesOk code = true :=
  ⟨_, rfl, codesOk_of_blk (Mem.blk_acquireBlockC (iok := True) r t c) trivial⟩

theorem C14RV_shareBlockN (r : Register) (n c : Nat) (hn : n ≤ 2047) :
    ∃ code, (rvBackend.shareBlockN r n).run c = .ok (code, c + 1) ∧ codesOk code = true :=
  ⟨_, rfl, codesOk_of_blk (Mem.blk_shareBlockN r n (k := c) rfl) hn⟩

/-- the bound is sharp: sharing 2048 more copies emits `ADD X1 X1 2048` -/
theorem C14RV_share_limit (r : Register) (c : Nat) :
    ∃ code, (rvBackend.shareBlockN r 2048).run c = .ok (code, c + 1) ∧ codesOk code = false := by
  refine ⟨_, rfl, ?_⟩
  simp [codesOk, Code.operandsOk, fitsI12, referenceCountOffset, address]

theorem C14RV_loadImmediate (t : Register) (n : Int)
    (hn : -9223372036854775808 ≤ n ∧ n ≤ 9223372036854775807) :
    codesOk (rvBackend.loadImmediate t n) = true :=
  codesOk_of_allP (Wf.opsSat_rv.loadImmediate t n trivial (by simp [fitsI64, hn.1, hn.2]))

theorem C14RV_addAndJump (t : Register) (k : Nat) (hk : k ≤ 511) :
    codesOk (rvBackend.addAndJump t (rvBackend.jumpLength k)) = true :=
  codesOk_of_allP (Wf.opsSat_rv.addAndJump t k trivial (by simp only [Wf.maxTagsRV]; omega))

/-- the bound is sharp: the tag of the 513-th xtor (`k = 512`) gives `ADD X1 t 2048` -/
theorem C14RV_addAndJump_limit (t : Register) :
    codesOk (rvBackend.addAndJump t (rvBackend.jumpLength 512)) = false := by
  simp [codesOk, rvBackend, addAndJump, jumpLength, Code.operandsOk, fitsI12]

theorem C14RV_simple (o : BinOp) (s : IfSort) (t a b : Register) (l : String) (sp : Bool) :
    codesOk (rvBackend.binop o t a b) = true ∧ codesOk (rvBackend.jumpLabelIf s a b l) = true ∧
    codesOk (rvBackend.jumpLabelIfZero s a l) = true ∧ codesOk (rvBackend.mov t a) = true ∧
    codesOk (rvBackend.jump t) = true ∧ codesOk (rvBackend.jumpLabel l) = true ∧
    codesOk (rvBackend.jumpLabelFixed l) = true ∧ codesOk (rvBackend.loadLabel t l) = true ∧
    codesOk (rvBackend.storeTemporary t sp) = true ∧ codesOk (rvBackend.restoreTemporary t sp) = true :=
  have S := Wf.opsSat_rv
  ⟨codesOk_of_allP (S.binop o t a b trivial trivial trivial),
    codesOk_of_allP (S.jumpLabelIf s a b l trivial trivial), codesOk_of_allP (S.jumpLabelIfZero s a l trivial),
    codesOk_of_allP (S.mov t a trivial trivial), codesOk_of_allP (S.jump t trivial),
    codesOk_of_allP (S.jumpLabel l), codesOk_of_allP (S.jumpLabelFixed l),
    codesOk_of_allP (S.loadLabel t l trivial), codesOk_of_allP (S.storeTemporary t sp trivial),
    codesOk_of_allP (S.restoreTemporary t sp trivial)⟩

-- non-vacuity of the bounded statements
example : codesOk (rvBackend.addAndJump ⟨7⟩ (rvBackend.jumpLength 511)) = true :=
  C14RV_addAndJump ⟨7⟩ 511 (by decide)
example : codesOk (rvBackend.loadImmediate ⟨5⟩ (-9223372036854775808)) = true :=
  C14RV_loadImmediate ⟨5⟩ _ (by decide)

end Scc.RV

#print axioms Scc.RV.C14RV_table_code
#print axioms Scc.RV.C14RV_jumpLength
#print axioms Scc.RV.C14RV_table_stride
#print axioms Scc.RV.C14RV_fieldOffset
#print axioms Scc.RV.C14RV_eraseBlock
#print axioms Scc.RV.C14RV_acquireBlock
#print axioms Scc.RV.C14RV_shareBlockN
#print axioms Scc.RV.C14RV_share_limit
#print axioms Scc.RV.C14RV_loadImmediate
#print axioms Scc.RV.C14RV_addAndJump
#print axioms Scc.RV.C14RV_addAndJump_limit
#print axioms Scc.RV.C14RV_simple
