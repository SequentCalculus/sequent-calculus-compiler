/-
  Scc.Props.C03 — property C03 (fixed text):
  "For every well-typed Core program (in particular every translation output, with effects allowed
   in any argument position) the uniquified, focused program has the same observable behaviour on
   the Core abstract machine as the original: non-variable arguments are evaluated innermost-first
   and left to right, once for integers and data and by name for codata. Afterwards all binders
   along every path of a definition are distinct and distinct from every free name, so later
   renamings cannot confuse two variables."

  Model: Scc.Core.{Uniquify,Focus} (tied to /repo/lang/core_lang by exact dump equality S2 ↦ S2u, S3).
  Spec:  Scc.Core.Sem (ς-machine `run`, focused machine `fsRun`), Scc.Core.Typing (`wellTyped`),
         Scc.Core.Unique (`UniqueBinders`, checker).

  PROVED here (full): the second sentence — `C03_unique_binders` (+ `_global`, checker soundness).
  PROVED (first sentence, for all arguments and all fuel):
   * `C03_focus_sem_panicFree` / `C03_focus_sem_typesDisjoint` = `C03_focus_sem` and
     `C03_statement_panicFree` / `C03_statement_typesDisjoint` = `C03_statement`, under ONE extra
     decidable hypothesis: `p.focusPanicFree = true` (the check `focusProgE` performs on every
     program), resp. `typesDisjoint p = true` (no name declared both as data and as codata type; it
     implies `focusPanicFree` for well-typed programs, Scc.Pipeline.FocusNoPanic).  Without it
     `Input p` does not exclude a cut `⟨K(..) | D(..)⟩` (typable iff its type name is declared twice),
     on which Rust's `Xtor::focus` panics.  `C03_focus_sem_fuel`: the behaviours are EQUAL, the
     focused machine never needs more fuel.
   * `C03_focusOnly_sem` (static focusing alone ≈ the ς-rules: for every program passing the
     executable check `focusReady`, no typing needed), `C03_focusOnly_sem_alpha` (the same up to an
     α-equivalence of the two programs).
   * `C03_uniquify_alpha_static`: `uniquify` is an α-renaming (equal nameless forms, definition-wise).
  Proof (Scc.Core.ProofsAlpha*, ProofsSplit, ProofsSigmaFocus, ProofsFocusSim*, ProofsUniqAlpha*):
  α-equivalence = equality of nameless (de Bruijn) images `dbS scope stmt`;
  `focusStmt_cong` (focusing respects α-equivalence and is independent of the name counter),
  `sigma_focus` (focus ⟨t | μ~ς.S[ς]⟩ ≡α focus S[t]), a stuttering simulation between `Core.run` and
  `Core.fsRun` indexed by the two environments' key lists (`FocusSim.SRel`), a measure for the
  ς-steps, and the renaming lemma for `uniquify`'s chirality-split substitution (`ren_stmt`, needs
  typing: a variable occurrence must have the chirality of its binder).
  Single steps, stated on their own: `C03_focus_follows_sigma`, `C03_machines_agree`, `C03_bind_mu_*`.
  REFUTED: `C03_statement` and `C03_focus_sem` as literally stated (kept below as `def … : Prop`) are
  FALSE — `C03_statement_refuted`, `C03_focus_sem_refuted` (counterexample `badProg`: `T` declared
  as data and as codata type, `⟨K(μa.print 1;…) | D(μb.print 2;…)⟩` is well-typed, the ς-machine
  prints 1 and 2, the focused program (model: `panicTerm`; Rust: panic in `Xtor::focus`) only 1).
  They hold with the hypothesis `focusPanicFree` / `typesDisjoint` (see above).
  `C03_uniquify_alpha` holds as stated: `C03_uniquify_alpha_proved` (`C03_uniquify_alpha_panicFree` and
  `_typesDisjoint` are the same theorem with an extra, unused hypothesis; even `C03_uniquify_run_eq`: equal
  behaviours for every fuel; lock-step simulation of the ς-machine under α-equivalence,
  Scc.Core.ProofsAlphaSim*: `C03_machine_alpha_invariant`).
-/
import Scc.Core.Sem
import Scc.Core.Typing
import Scc.Core.ProofsUniqueE
import Scc.Core.ProofsFocusSigma
import Scc.Core.ProofsEmbed
import Scc.Core.ProofsBindSteps
import Scc.Core.ProofsFocusSem
import Scc.Core.ProofsUniqAlphaD
import Scc.Core.ProofsUniqAlphaE
import Scc.Core.ProofsAlphaSimC
import Scc.Pipeline.FocusNoPanic

namespace Scc.Core

mutual
  /-- no variable of the program is named like the machine's ς-names -/
  def Term.noSigma : Term → Bool
    | .var _ v _ => v.name != "ς"
    | .lit _ => true
    | .op a _ b => a.noSigma && b.noSigma
    | .mu _ v _ s => v.name != "ς" && s.noSigma
    | .xtor _ _ as _ => as.noSigma
    | .xcase _ _ cl => cl.noSigma
  def Args.noSigma : Args → Bool
    | .nil => true
    | .cons _ t r => t.noSigma && r.noSigma
  def Clauses.noSigma : Clauses → Bool
    | .nil => true
    | .cons _ ctx b r => ctx.all (fun x => x.var.name != "ς") && b.noSigma && r.noSigma
  def Stmt.noSigma : Stmt → Bool
    | .cut _ p c => p.noSigma && c.noSigma
    | .ifc _ a b t e => a.noSigma && b.noSigma && t.noSigma && e.noSigma
    | .ifz _ a t e => a.noSigma && t.noSigma && e.noSigma
    | .print _ a n => a.noSigma && n.noSigma
    | .call _ as _ => as.noSigma
    | .exit a _ => a.noSigma
end

def Prog.noSigma (p : Prog) : Bool :=
  p.defs.all fun d => d.ctx.all (fun x => x.var.name != "ς") && d.body.noSigma

end Scc.Core

namespace Scc.Props
open Scc.Core

/-- a run (as a function of the fuel) ends with behaviour `b` -/
def Terminates (r : Nat → Behaviour) (b : Behaviour) : Prop :=
  ∃ fuel, r fuel = b ∧ b.res ≠ .outOfFuel

/-- same observable behaviour: the same final behaviours (trace and result, including the reason of
    getting stuck), and for diverging runs every finite trace of one is a prefix of a trace of the
    other -/
def ObsEq (r1 r2 : Nat → Behaviour) : Prop :=
  (∀ b, Terminates r1 b ↔ Terminates r2 b) ∧
  (∀ f, ∃ f', (r1 f).out <+: (r2 f').out) ∧ (∀ f, ∃ f', (r2 f).out <+: (r1 f').out)

/-- the inputs of C03: well-typed Core programs as they come out of the translation: all binders
    carry id 0 (uniquify renames exactly those), all occurrences have ids `≤ maxId`, no variable is
    called `ς` (not a Fun identifier) -/
structure Input (p : Prog) : Prop where
  typed : p.wellTyped = true
  bindersZero : p.BindersZero
  occsOld : p.OccsOld
  noSigma : p.noSigma = true

/-- uniquifying does not change the behaviour on the ς-machine (it is an α-renaming) -/
def C03_uniquify_alpha : Prop :=
  ∀ p : Prog, Input p → ∀ args, ObsEq (run p args) (run (uniquifyProg p) args)

/-- the focused program behaves on the focused machine as the original on the ς-machine -/
def C03_focus_sem : Prop :=
  ∀ p : Prog, Input p → ∀ args, ObsEq (run p args) (fsRun (focusProg p) args)

/-- C03 at full strength -/
def C03_statement : Prop :=
  ∀ p : Prog, Input p →
    (∀ args, ObsEq (run p args) (fsRun (focusProg p) args)) ∧
    (∀ d ∈ (focusProg p).defs, UniqueBinders (focusProg p).maxId d)

/-! ## proved: the second sentence, at full strength -/

/-- **C03_unique_binders** (full).  For EVERY program whose parameters and binders carry id 0 and
    whose variable occurrences have ids `≤ maxId` (no typing needed), in every definition of
    `focusProg p`: the parameters are pairwise distinct; along every root-to-leaf path the bound ids
    are pairwise distinct, distinct from the parameters and from every free name; every id is
    `≤` the final `maxId`. -/
theorem C03_unique_binders (p : Prog) (hz : p.BindersZero) (ho : p.OccsOld) :
    ∀ d ∈ (focusProg p).defs, UniqueBinders (focusProg p).maxId d :=
  focusProg_uniqueBinders p hz ho

/-- the stronger global form: ALL binders and parameters of a definition are pairwise distinct (not
    only along a path), all are new (`> p.maxId`), and no binder id is a free name -/
theorem C03_unique_binders_global (p : Prog) (hz : p.BindersZero) (ho : p.OccsOld) :
    ∀ d ∈ (focusProg p).defs,
      UniqueBindersGlobal (focusProg p).maxId d ∧
      (∀ b ∈ ctxIds d.ctx ++ d.body.binderIds, p.maxId < b) ∧
      (∀ i ∈ d.body.freeIds (ctxIds d.ctx), i ≤ p.maxId) := by
  intro d hd
  refine ⟨focusProg_uniqueBindersGlobal p hz ho d hd, ?_, focusProg_scoped p hz ho d hd⟩
  intro b hb
  exact (((focusProg_binders p hz).2 d hd).2 b hb).1

/-- what fun2core produces: every identifier has id 0 -/
def AllIdsZero (p : Prog) : Prop :=
  (∀ d ∈ p.defs, ∀ b ∈ d.ids, b = 0) ∧ (∀ d ∈ p.defs, ∀ i ∈ d.body.occIds, i = 0)

theorem C03_unique_binders_translation_output (p : Prog) (h : AllIdsZero p) :
    ∀ d ∈ (focusProg p).defs, UniqueBinders (focusProg p).maxId d :=
  C03_unique_binders p h.1 (fun d hd i hi => by rw [h.2 d hd i hi]; exact Nat.zero_le _)

/-- soundness of the executable checker that is run on the implementation's S3 output -/
theorem C03_uniqueBindersCheck_sound (q : FsProg) (h : uniqueBindersCheck q = true) :
    ∀ d ∈ q.defs, UniqueBinders q.maxId d :=
  fun d hd => (uniqueBindersCheck_sound h d hd).2

/-- the second conjunct of `C03_statement`, which needs no side condition -/
theorem C03_statement_partial (p : Prog) (h : Input p) :
    ∀ d ∈ (focusProg p).defs, UniqueBinders (focusProg p).maxId d :=
  C03_unique_binders p h.bindersZero h.occsOld

/-! ## proved: pieces of the first sentence -/

/-- **focus follows the ς-order.**  If the specification machine reads `s` as `S[t]` (`t` its leftmost
    non-variable argument, i.e. the machine's next step is the ς-step
    `S[t] ↦ ⟨t | μ~x.S[x]⟩` resp. `⟨μa.S[a] | t⟩`), then the implementation's focusing of `s` is
    `bind t (fun x => focus (S[x]))`, with identical threading of the name counter.
    (`cutOkTop` excludes the two ill-typed cut shapes on which Rust panics.) -/
theorem C03_focus_follows_sigma (s : Stmt) (pc : PC) (t : Term) (S : Term → Stmt)
    (h : s.split = some (pc, t, S)) (hok : s.cutOkTop = true) (n : Nat) :
    focusStmt s n = bindTerm t (fun b n' => focusStmt (S b.toTerm) n') n :=
  focusStmt_split s pc t S h hok n

/-- the ς-step itself, for reference: `sigmaStep x s = ⟨t | μ~x.S[x]⟩` / `⟨μx.S[x] | t⟩` -/
theorem C03_sigmaStep_eq (s : Stmt) (pc : PC) (t : Term) (S : Term → Stmt) (x : Ident)
    (h : s.split = some (pc, t, S)) :
    sigmaStep x s = some (sigmaCut pc t x (S (.var pc x t.ty))) := by
  simp [sigmaStep, h]

/-- **the two machines of the specification agree**: the focused machine on `q` is, step for step,
    the ς-machine on `q` read as a Core program whose arguments are all variables -/
theorem C03_machines_agree (q : FsProg) (args : List (BitVec 64)) (fuel : Nat) :
    run q.embed args fuel = fsRun q args fuel :=
  run_embed q args fuel

/-- once for integers and data: `bind (μa.s) k` at a data/integer type runs `focus s` now, with `a`
    bound to the continuation `μ~x.k x` -/
theorem C03_bind_mu_once (q : FsProg) (st : FsState) (a : Ident) (ty : Ty) (s : Stmt) (k : Cont)
    (n : Nat) (h : st.stmt = (bindTerm (.mu .prd a ty s) k n).1)
    (hty : isCodata q.codataTypes ty = false) :
    fsStep q st = .next { st with
      stmt := (focusStmt s (n + 1)).1,
      env := (a, .mutilde st.env (bindVar n)
        (k ⟨bindVar n, .prd, ty⟩ (focusStmt s (n + 1)).2).1) :: st.env } :=
  fsStep_bind_mu_data q st a ty s k n h hty

/-- by name for codata: `bind (μa.s) k` at a codata type binds `x` to the suspended `μa.focus s`
    and continues with `k x` -/
theorem C03_bind_mu_by_name (q : FsProg) (st : FsState) (a : Ident) (ty : Ty) (s : Stmt) (k : Cont)
    (n : Nat) (h : st.stmt = (bindTerm (.mu .prd a ty s) k n).1)
    (hty : isCodata q.codataTypes ty = true) :
    fsStep q st = .next { st with
      stmt := (k ⟨bindVar n, .prd, ty⟩ (focusStmt s (n + 1)).2).1,
      env := (bindVar n, .thunk st.env a (focusStmt s (n + 1)).1) :: st.env } :=
  fsStep_bind_mu_codata q st a ty s k n h hty

/-- a focused program never takes a ς-step -/
theorem C03_focused_no_sigma (x : Ident) (s : FsStmt) : sigmaStep x s.embed = none :=
  sigmaStep_embed x s

/-! ## proved: static focusing ≈ the ς-machine (first sentence, the `focus` half) -/

theorem ObsEq.of_runs {r1 r2 : Nat → Behaviour} (h1 : ∀ f, ∃ f', r2 f' = r1 f)
    (h2 : ∀ f', ∃ f, r1 f = r2 f') : ObsEq r1 r2 := by
  refine ⟨fun b => ⟨?_, ?_⟩, fun f => ?_, fun f' => ?_⟩
  · rintro ⟨f, hf, hb⟩
    obtain ⟨f', hf'⟩ := h1 f
    exact ⟨f', by rw [hf', hf], hb⟩
  · rintro ⟨f', hf', hb⟩
    obtain ⟨f, hf⟩ := h2 f'
    exact ⟨f, by rw [hf, hf'], hb⟩
  · obtain ⟨f', hf'⟩ := h1 f
    exact ⟨f', by rw [hf']; exact List.prefix_refl _⟩
  · obtain ⟨f, hf⟩ := h2 f'
    exact ⟨f, by rw [hf]; exact List.prefix_refl _⟩

theorem ObsEq.symm {r1 r2 : Nat → Behaviour} (h : ObsEq r1 r2) : ObsEq r2 r1 :=
  ⟨fun b => (h.1 b).symm, h.2.2, h.2.1⟩

theorem ObsEq.trans {r1 r2 r3 : Nat → Behaviour} (h : ObsEq r1 r2) (h' : ObsEq r2 r3) :
    ObsEq r1 r3 := by
  refine ⟨fun b => (h.1 b).trans (h'.1 b), fun f => ?_, fun f => ?_⟩
  · obtain ⟨f1, h1⟩ := h.2.1 f
    obtain ⟨f2, h2⟩ := h'.2.1 f1
    exact ⟨f2, List.IsPrefix.trans h1 h2⟩
  · obtain ⟨f1, h1⟩ := h'.2.2 f
    obtain ⟨f2, h2⟩ := h.2.2 f1
    exact ⟨f2, List.IsPrefix.trans h1 h2⟩

/-- executable form of the hypotheses of `C03_focusOnly_sem`: in every definition body no cut of a
    constructor/operator with a destructor (`cutsOk`: where Rust's `focus` panics), chirality flags
    agree with positions (`pcOk`: Rust's `Term<Prd>`/`Term<Cns>`), no identifier is called `ς`, and
    every identifier has an id `≤ maxId` (so that the names `focus` generates are fresh) -/
def focusReady (p : Prog) : Bool :=
  p.defs.all fun d => d.body.cutsOk && d.body.pcOk &&
    d.body.idents.all (fun i => i.name != "ς") && d.body.idents.all (fun i => i.id ≤ p.maxId)

theorem focusReady_input {p : Prog} (h : focusReady p = true) : FocusInput p p := by
  simp only [focusReady, List.all_eq_true, Bool.and_eq_true, bne_iff_ne, decide_eq_true_eq] at h
  refine ⟨rfl, DefsAlpha.refl _, fun d hd => ⟨(h d hd).1.1.1, (h d hd).1.1.2, ?_⟩, fun d hd => ?_⟩
  · intro i hi hn; exact absurd hn ((h d hd).1.2 i hi)
  · intro i hi hg; have := (h d hd).2 i hi; have := hg.2; omega

/-- **C03, the `focus` half, for two α-equivalent programs.**  If the definitions of `p2` are
    α-equivalent to those of `p1` (equal nameless forms; e.g. `p2 = p1`, or `p2 = uniquifyProg p1`),
    `p1` is acceptable to `focus` and the ids of `p2` are `≤ p2.maxId`, then the ς-machine on `p1`
    and the focused machine on the statically focused `p2` are observably equal — in fact they
    produce EQUAL behaviours, the focused machine with at most as much fuel. -/
theorem C03_focusOnly_sem_alpha (p1 p2 : Prog) (h : FocusInput p1 p2) (args : List (BitVec 64)) :
    ObsEq (run p1 args) (fsRun (focusOnly p2) args) := by
  obtain ⟨h1, h2⟩ := focusOnly_sim_run h args
  exact ObsEq.of_runs (fun f => by obtain ⟨f', _, e⟩ := h1 f; exact ⟨f', e⟩) h2

/-- **static focusing ≈ the ς-rules** (`C03_focus_sem` for the second half of `Prog::focus`): for EVERY program
    satisfying the executable check `focusReady` (no typing needed), all arguments, all fuel. -/
theorem C03_focusOnly_sem (p : Prog) (h : focusReady p = true) (args : List (BitVec 64)) :
    ObsEq (run p args) (fsRun (focusOnly p) args) :=
  C03_focusOnly_sem_alpha p p (focusReady_input h) args

/-- the fuel-precise form: equal behaviours, the focused machine never needs more fuel -/
theorem C03_focusOnly_fuel (p : Prog) (h : focusReady p = true) (args : List (BitVec 64)) :
    (∀ f, ∃ f', f' ≤ f ∧ fsRun (focusOnly p) args f' = run p args f) ∧
    (∀ f', ∃ f, run p args f = fsRun (focusOnly p) args f') :=
  focusOnly_sim_run (focusReady_input h) args

/-- the ς-step does not change the focused form (up to α-equivalence = equality of nameless forms):
    `focus ⟨t | μ~ς.S[ς]⟩ ≡α focus S[t]` -/
theorem C03_sigma_focus (s : Stmt) (pc : PC) (t : Term) (S : Term → Stmt)
    (hs : s.split = some (pc, t, S)) (hok : s.cutOkTop = true) (hpc : t.pcOk pc = true)
    (y : Ident) (hy : y ∉ s.idents) (hyg : ∀ m, ¬ Gen m y) (n : Nat) (hf : FreshL n s.idents)
    (sc : List Ident) :
    dbS sc (focusStmt (sigmaCut pc t y (S (.var pc y t.ty))) n).1.embed =
      dbS sc (focusStmt s n).1.embed :=
  sigma_focus hs hok hpc hy hyg hf sc

/-- focusing respects α-equivalence and does not depend on the name counter -/
theorem C03_focus_cong (sc sc' : List Ident) (s s' : Stmt) (n n' : Nat)
    (h : dbS sc s = dbS sc' s') (hf : FreshL n s.idents) (hf' : FreshL n' s'.idents) :
    dbS sc (focusStmt s n).1.embed = dbS sc' (focusStmt s' n').1.embed :=
  focusStmt_cong h hf hf'

/-! ## proved: C03's first sentence for well-typed programs on which `focus` does not panic -/

mutual
  theorem Term.noSigma_idents : (t : Term) → t.noSigma = true → ∀ i ∈ t.idents, i.name ≠ "ς"
    | .var pc v ty, h => by
      simp only [Term.noSigma, bne_iff_ne] at h
      simpa [Term.idents] using h
    | .lit k, _ => by simp [Term.idents]
    | .op a o b, h => by
      simp only [Term.noSigma, Bool.and_eq_true] at h
      intro i hi
      simp only [Term.idents, List.mem_append] at hi
      rcases hi with hi | hi
      · exact Term.noSigma_idents a h.1 i hi
      · exact Term.noSigma_idents b h.2 i hi
    | .mu pc v ty s, h => by
      simp only [Term.noSigma, Bool.and_eq_true, bne_iff_ne] at h
      intro i hi
      simp only [Term.idents, List.mem_cons] at hi
      rcases hi with rfl | hi
      · exact h.1
      · exact Stmt.noSigma_idents s h.2 i hi
    | .xtor pc k as ty, h => by
      simp only [Term.noSigma] at h
      simpa [Term.idents] using Args.noSigma_idents as h
    | .xcase pc ty cl, h => by
      simp only [Term.noSigma] at h
      simpa [Term.idents] using Clauses.noSigma_idents cl h
  theorem Args.noSigma_idents : (as : Args) → as.noSigma = true → ∀ i ∈ as.idents, i.name ≠ "ς"
    | .nil, _ => by simp [Args.idents]
    | .cons pc t r, h => by
      simp only [Args.noSigma, Bool.and_eq_true] at h
      intro i hi
      simp only [Args.idents, List.mem_append] at hi
      rcases hi with hi | hi
      · exact Term.noSigma_idents t h.1 i hi
      · exact Args.noSigma_idents r h.2 i hi
  theorem Clauses.noSigma_idents : (cl : Clauses) → cl.noSigma = true →
      ∀ i ∈ cl.idents, i.name ≠ "ς"
    | .nil, _ => by simp [Clauses.idents]
    | .cons x ctx b r, h => by
      simp only [Clauses.noSigma, Bool.and_eq_true, List.all_eq_true, bne_iff_ne] at h
      intro i hi
      simp only [Clauses.idents, List.mem_append] at hi
      rcases hi with (hi | hi) | hi
      · simp only [ctxVars, List.mem_map] at hi
        obtain ⟨b', hb', rfl⟩ := hi
        exact h.1.1 b' hb'
      · exact Stmt.noSigma_idents b h.1.2 i hi
      · exact Clauses.noSigma_idents r h.2 i hi
  theorem Stmt.noSigma_idents : (s : Stmt) → s.noSigma = true → ∀ i ∈ s.idents, i.name ≠ "ς"
    | .cut ty p c, h => by
      simp only [Stmt.noSigma, Bool.and_eq_true] at h
      intro i hi
      simp only [Stmt.idents, List.mem_append] at hi
      rcases hi with hi | hi
      · exact Term.noSigma_idents p h.1 i hi
      · exact Term.noSigma_idents c h.2 i hi
    | .ifc srt a b t e, h => by
      simp only [Stmt.noSigma, Bool.and_eq_true] at h
      intro i hi
      simp only [Stmt.idents, List.mem_append] at hi
      rcases hi with ((hi | hi) | hi) | hi
      · exact Term.noSigma_idents a h.1.1.1 i hi
      · exact Term.noSigma_idents b h.1.1.2 i hi
      · exact Stmt.noSigma_idents t h.1.2 i hi
      · exact Stmt.noSigma_idents e h.2 i hi
    | .ifz srt a t e, h => by
      simp only [Stmt.noSigma, Bool.and_eq_true] at h
      intro i hi
      simp only [Stmt.idents, List.mem_append] at hi
      rcases hi with (hi | hi) | hi
      · exact Term.noSigma_idents a h.1.1 i hi
      · exact Stmt.noSigma_idents t h.1.2 i hi
      · exact Stmt.noSigma_idents e h.2 i hi
    | .print nl a n, h => by
      simp only [Stmt.noSigma, Bool.and_eq_true] at h
      intro i hi
      simp only [Stmt.idents, List.mem_append] at hi
      rcases hi with hi | hi
      · exact Term.noSigma_idents a h.1 i hi
      · exact Stmt.noSigma_idents n h.2 i hi
    | .call f as ty, h => by
      simp only [Stmt.noSigma] at h
      simpa [Stmt.idents] using Args.noSigma_idents as h
    | .exit a ty, h => by
      simp only [Stmt.noSigma] at h
      simpa [Stmt.idents] using Term.noSigma_idents a h
end

/-- the C03 inputs are acceptable to the simulation: every body has no panicking cut, chirality
    flags agree with positions (typing), no `ς` -/
theorem Input.oks {p : Prog} (h : Input p) (hpf : p.focusPanicFree = true) :
    ∀ d ∈ p.defs, FocusSim.OKS 0 d.body := by
  intro d hd
  have ht := h.typed
  simp only [Prog.wellTyped, List.all_eq_true] at ht
  simp only [Prog.focusPanicFree, Bool.and_eq_true, List.all_eq_true] at hpf
  have hns := h.noSigma
  simp only [Prog.noSigma, List.all_eq_true, Bool.and_eq_true] at hns
  refine ⟨hpf.2 d hd, (stmt_check_chi p d.body d.ctx (ht d hd)).1, ?_⟩
  intro i hi hn
  exact absurd hn (Stmt.noSigma_idents d.body (hns d hd).2 i hi)

/-- **`uniquify` is an α-renaming** (the static form of `C03_uniquify_alpha`): on C03's inputs the definitions of
    `uniquifyProg p` have the same nameless forms as those of `p` -/
theorem C03_uniquify_alpha_static (p : Prog) (h : Input p) :
    DefsAlpha p.defs (uniquifyProg p).defs :=
  (uniquifyProg_alpha p (uniqInput_of_typed p h.typed h.bindersZero h.occsOld)).1

theorem Input.focusInput {p : Prog} (h : Input p) (hpf : p.focusPanicFree = true) :
    FocusInput p (uniquifyProg p) :=
  uniquify_focusInput p (uniqInput_of_typed p h.typed h.bindersZero h.occsOld) (h.oks hpf)

/-- **C03, first sentence (`C03_focus_sem`), for every input on which `focus` does not panic**
    (`focusPanicFree`: the executable check `focusProgE` performs; it is implied by typing when no
    name is declared both as a data and as a codata type, see `C03_focus_sem_typesDisjoint`).
    All arguments, all fuel; the behaviours are even equal, the focused machine using at most as
    much fuel (`C03_focus_sem_fuel`). -/
theorem C03_focus_sem_panicFree (p : Prog) (h : Input p) (hpf : p.focusPanicFree = true)
    (args : List (BitVec 64)) : ObsEq (run p args) (fsRun (focusProg p) args) :=
  C03_focusOnly_sem_alpha p (uniquifyProg p) (h.focusInput hpf) args

theorem C03_focus_sem_fuel (p : Prog) (h : Input p) (hpf : p.focusPanicFree = true)
    (args : List (BitVec 64)) :
    (∀ f, ∃ f', f' ≤ f ∧ fsRun (focusProg p) args f' = run p args f) ∧
    (∀ f', ∃ f, run p args f = fsRun (focusProg p) args f') :=
  focusOnly_sim_run (h.focusInput hpf) args

/-- C03's first sentence for well-typed programs in which no name is declared both as a data and
    as a codata type (what fun2core produces: `C12_link_fun2core_proved`, Scc/Props/C12Fun2Core.lean) -/
theorem C03_focus_sem_typesDisjoint (p : Prog) (h : Input p)
    (hd : Scc.Pipeline.typesDisjoint p = true) (args : List (BitVec 64)) :
    ObsEq (run p args) (fsRun (focusProg p) args) :=
  C03_focus_sem_panicFree p h (Scc.Pipeline.focusPanicFree_of_wellTyped hd h.typed) args

/-- **C03 at full strength** for inputs with disjoint data / codata type names: both sentences -/
theorem C03_statement_typesDisjoint (p : Prog) (h : Input p)
    (hd : Scc.Pipeline.typesDisjoint p = true) :
    (∀ args, ObsEq (run p args) (fsRun (focusProg p) args)) ∧
    (∀ d ∈ (focusProg p).defs, UniqueBinders (focusProg p).maxId d) :=
  ⟨C03_focus_sem_typesDisjoint p h hd, C03_unique_binders p h.bindersZero h.occsOld⟩

/-- … and for inputs on which `focus` does not panic -/
theorem C03_statement_panicFree (p : Prog) (h : Input p) (hpf : p.focusPanicFree = true) :
    (∀ args, ObsEq (run p args) (fsRun (focusProg p) args)) ∧
    (∀ d ∈ (focusProg p).defs, UniqueBinders (focusProg p).maxId d) :=
  ⟨C03_focus_sem_panicFree p h hpf, C03_unique_binders p h.bindersZero h.occsOld⟩

theorem Input.ctxNames {p : Prog} (h : Input p) :
    ∀ d ∈ p.defs, AllN (· ≠ "ς") (ctxVars d.ctx) := by
  intro d hd
  have hns := h.noSigma
  simp only [Prog.noSigma, List.all_eq_true, Bool.and_eq_true, bne_iff_ne] at hns
  intro i hi
  simp only [ctxVars, List.mem_map] at hi
  obtain ⟨b, hb, rfl⟩ := hi
  exact (hns d hd).1 b hb

/-- the uniquified program satisfies the hypotheses of the focusing simulation on its own -/
theorem Input.focusInput_uniq {p : Prog} (h : Input p) (hpf : p.focusPanicFree = true) :
    FocusInput (uniquifyProg p) (uniquifyProg p) :=
  ⟨rfl, DefsAlpha.refl _,
    uniquifyProg_oks p (uniqInput_of_typed p h.typed h.bindersZero h.occsOld) (h.oks hpf) h.ctxNames,
    (h.focusInput hpf).fresh⟩

theorem Input.sigLt {p : Prog} (h : Input p) : ∀ d ∈ p.defs, FocusSim.SigLt 0 d.body.idents := by
  intro d hd i hi hn
  have hns := h.noSigma
  simp only [Prog.noSigma, List.all_eq_true, Bool.and_eq_true] at hns
  exact absurd hn (Stmt.noSigma_idents d.body (hns d hd).2 i hi)

theorem Input.sigLt_uniq {p : Prog} (h : Input p) :
    ∀ d ∈ (uniquifyProg p).defs, FocusSim.SigLt 0 d.body.idents := by
  have hn := uniquifyDefs_names (· ≠ "ς") p.defs p.maxId (fun d hd =>
    ⟨h.ctxNames d hd, fun i hi hn => by have := h.sigLt d hd i hi hn; omega⟩)
  intro d hd i hi hnm
  exact absurd hnm (hn d hd i hi)

/-- **uniquify does not change the runs of the ς-machine**: equal behaviours for EVERY fuel
    (the two programs run in lock-step) -/
theorem C03_uniquify_run_eq (p : Prog) (h : Input p) (args : List (BitVec 64)) (f : Nat) :
    run p args f = run (uniquifyProg p) args f :=
  AlphaSim.alpha_run_eq (p1 := p) (p2 := uniquifyProg p) rfl (C03_uniquify_alpha_static p h)
    h.sigLt h.sigLt_uniq args f

/-- **`C03_uniquify_alpha` is a theorem** -/
theorem C03_uniquify_alpha_proved : C03_uniquify_alpha := fun p h args =>
  ObsEq.of_runs (fun f => ⟨f, (C03_uniquify_run_eq p h args f).symm⟩)
    (fun f => ⟨f, C03_uniquify_run_eq p h args f⟩)

/-- `C03_uniquify_alpha_proved` stated with the extra hypothesis of `C03_focus_sem_panicFree`; the hypothesis
    `_hpf` is not used -/
theorem C03_uniquify_alpha_panicFree (p : Prog) (h : Input p) (_hpf : p.focusPanicFree = true)
    (args : List (BitVec 64)) : ObsEq (run p args) (run (uniquifyProg p) args) :=
  C03_uniquify_alpha_proved p h args

/-- `C03_uniquify_alpha_proved` stated with the extra hypothesis of `C03_focus_sem_typesDisjoint`; the
    hypothesis `_hd` is not used -/
theorem C03_uniquify_alpha_typesDisjoint (p : Prog) (h : Input p)
    (_hd : Scc.Pipeline.typesDisjoint p = true) (args : List (BitVec 64)) :
    ObsEq (run p args) (run (uniquifyProg p) args) :=
  C03_uniquify_alpha_proved p h args

/-- the ς-machine is invariant under α-equivalence of programs (equal nameless forms,
    definition-wise), for programs without ς-names -/
theorem C03_machine_alpha_invariant (p1 p2 : Prog) (hc : p1.codataTypes = p2.codataTypes)
    (hα : DefsAlpha p1.defs p2.defs) (h1 : ∀ d ∈ p1.defs, FocusSim.SigLt 0 d.body.idents)
    (h2 : ∀ d ∈ p2.defs, FocusSim.SigLt 0 d.body.idents) (args : List (BitVec 64)) (f : Nat) :
    run p1 args f = run p2 args f :=
  AlphaSim.alpha_run_eq hc hα h1 h2 args f

/-! ## the literal statements are refuted by the model (why the extra hypothesis is needed) -/

theorem fsStepN_stable (q : FsProg) : ∀ (f : Nat) (st : FsState) (b : Behaviour),
    fsStepN q f st = b → b.res ≠ .outOfFuel → ∀ k, fsStepN q (f + k) st = b
  | 0, st, b, h, hb, _ => by
    simp only [fsStepN] at h
    subst h
    exact absurd rfl hb
  | f + 1, st, b, h, hb, k => by
    rw [show f + 1 + k = (f + k) + 1 by omega]
    simp only [fsStepN] at h ⊢
    cases hs : fsStep q st with
    | next st' => rw [hs] at h; exact fsStepN_stable q f st' b h hb k
    | final r => rw [hs] at h; exact h

theorem fsRun_stable (q : FsProg) (args : List (BitVec 64)) (f : Nat) (b : Behaviour)
    (h : fsRun q args f = b) (hb : b.res ≠ .outOfFuel) (k : Nat) : fsRun q args (f + k) = b := by
  unfold fsRun at h ⊢
  split
  · next hd => simp only [hd] at h; exact h
  · next d hd =>
    simp only [hd] at h
    split
    · next e he => simp only [he] at h; exact h
    · next ρ he => simp only [he] at h; exact fsStepN_stable q f _ b h hb k

/-- a well-typed program (type `T` is declared both as data and as codata type) with a cut
    `⟨K(μa. print 1; ⟨5|a⟩) | D(μb. print 2; ⟨6|b⟩)⟩`: the ς-machine evaluates both arguments,
    `focus` (Rust: panics in `Xtor::focus`; model: `panicTerm`) drops the destructor -/
def badProg : Prog :=
  let T : Ident := ⟨"T", 0⟩
  let muPrint (k : Int) (a : String) : Term :=
    .mu .prd ⟨a, 0⟩ .i64 (.print true (.lit k) (.cut .i64 (.lit (k + 4)) (.var .cns ⟨a, 0⟩ .i64)))
  { defs := [⟨⟨"main", 0⟩, [],
      .cut (.decl T)
        (.xtor .prd ⟨"K", 0⟩ (.cons .prd (muPrint 1 "a") .nil) (.decl T))
        (.xtor .cns ⟨"D", 0⟩ (.cons .prd (muPrint 2 "b") .nil) (.decl T))⟩],
    dataTypes := [⟨T, [⟨⟨"K", 0⟩, [⟨⟨"x", 0⟩, .prd, .i64⟩]⟩]⟩],
    codataTypes := [⟨T, [⟨⟨"D", 0⟩, [⟨⟨"y", 0⟩, .prd, .i64⟩]⟩]⟩], maxId := 0 }

/-- `focusProg badProg` (as computed by the model; `lit 0` is `panicTerm`) -/
def badFocused : FsProg :=
  let T : Ident := ⟨"T", 0⟩
  { defs := [⟨⟨"main", 0⟩, [],
      .cut .i64
        (.mu .prd ⟨"a", 1⟩ .i64 (.cut .i64 (.lit 1) (.mu .cns ⟨"x", 4⟩ .i64
          (.print true ⟨"x", 4⟩ (.cut .i64 (.lit 5) (.var .cns ⟨"a", 1⟩ .i64))))))
        (.mu .cns ⟨"x", 3⟩ .i64 (.cut (.decl T)
          (.xtor .prd ⟨"K", 0⟩ [⟨⟨"x", 3⟩, .prd, .i64⟩] (.decl T)) (.lit 0)))⟩],
    dataTypes := [⟨T, [⟨⟨"K", 0⟩, [⟨⟨"x", 0⟩, .prd, .i64⟩]⟩]⟩],
    codataTypes := [⟨T, [⟨⟨"D", 0⟩, [⟨⟨"y", 0⟩, .prd, .i64⟩]⟩]⟩], maxId := 4 }

theorem badProg_input : Input badProg where
  typed := by decide +kernel
  bindersZero := by
    simp [Prog.BindersZero, badProg, Def.ids, ctxIds, Stmt.binderIds, Term.binderIds,
      Args.binderIds]
  occsOld := by simp [Prog.OccsOld, badProg, Stmt.occIds, Term.occIds, Args.occIds]
  noSigma := by decide +kernel

theorem badProg_focus : focusProg badProg = badFocused := by
  have hU : uniquifyProg badProg =
      { defs := [⟨⟨"main", 0⟩, [],
          .cut (.decl ⟨"T", 0⟩)
            (.xtor .prd ⟨"K", 0⟩ (.cons .prd (.mu .prd ⟨"a", 1⟩ .i64 (.print true (.lit 1)
              (.cut .i64 (.lit 5) (.var .cns ⟨"a", 1⟩ .i64)))) .nil) (.decl ⟨"T", 0⟩))
            (.xtor .cns ⟨"D", 0⟩ (.cons .prd (.mu .prd ⟨"b", 2⟩ .i64 (.print true (.lit 2)
              (.cut .i64 (.lit 6) (.var .cns ⟨"b", 2⟩ .i64)))) .nil) (.decl ⟨"T", 0⟩))⟩],
        dataTypes := badProg.dataTypes, codataTypes := badProg.codataTypes, maxId := 2 } := by
    simp [uniquifyProg, badProg, uniquifyDefs, uniquifyDef, uniquifyCtx, substIfAny, uniquifyStmt,
      uniquifyTerm, uniquifyArgs, freshIdentifier, substStmt, substTerm, substFind]
  rw [focusProg, hU]
  rfl

/-- the hypothesis `focusPanicFree` is necessary: **`C03_focus_sem` as stated is false** -/
theorem C03_focus_sem_refuted : ¬ C03_focus_sem := by
  intro h
  obtain ⟨f', hf'⟩ := (h badProg badProg_input []).2.1 11
  rw [badProg_focus] at hf'
  have h11 : (run badProg [] 11).out = [(true, 1), (true, 2)] := by decide +kernel
  rw [h11] at hf'
  have hlen : (fsRun badFocused [] f').out.length ≤ 1 := by
    by_cases hle : 5 ≤ f'
    · obtain ⟨k, rfl⟩ := Nat.exists_eq_add_of_le hle
      rw [fsRun_stable badFocused [] 5 _ rfl (by decide +kernel) k]
      decide
    · have : f' = 0 ∨ f' = 1 ∨ f' = 2 ∨ f' = 3 ∨ f' = 4 := by omega
      rcases this with rfl | rfl | rfl | rfl | rfl <;> decide
  have := hf'.length_le
  simp only [List.length_cons, List.length_nil] at this
  omega

/-- … and so is `C03_statement` (it contains `C03_focus_sem`) -/
theorem C03_statement_refuted : ¬ C03_statement :=
  fun h => C03_focus_sem_refuted (fun p hp => (h p hp).1)

/-- `def main() { ⟨(1 + 2) | μ~x. println_i64(x); exit x⟩ }`, all ids 0 -/
def exProg : Prog :=
  { defs := [⟨⟨"main", 0⟩, [],
      .cut .i64 (.op (.lit 1) .sum (.lit 2))
        (.mu .cns ⟨"x", 0⟩ .i64
          (.print true (.var .prd ⟨"x", 0⟩ .i64) (.exit (.var .prd ⟨"x", 0⟩ .i64) .i64)))⟩],
    dataTypes := [], codataTypes := [], maxId := 0 }

example : AllIdsZero exProg := by
  simp [AllIdsZero, exProg, Def.ids, ctxIds, Stmt.binderIds, Term.binderIds, Stmt.occIds,
    Term.occIds]

example : exProg.BindersZero ∧ exProg.OccsOld := by
  simp [Prog.BindersZero, Prog.OccsOld, exProg, Def.ids, ctxIds, Stmt.binderIds, Term.binderIds,
    Stmt.occIds, Term.occIds]

/-- `exProg` satisfies all hypotheses of `C03_statement` / `C03_statement_partial` -/
example : Input exProg where
  typed := by decide +kernel
  bindersZero := by
    simp [Prog.BindersZero, exProg, Def.ids, ctxIds, Stmt.binderIds, Term.binderIds]
  occsOld := by simp [Prog.OccsOld, exProg, Stmt.occIds, Term.occIds]
  noSigma := by decide +kernel

/-- a focused program accepted by the checker (hypothesis of `C03_uniqueBindersCheck_sound`), and
    one with a repeated binder id that it rejects -/
def exFs (i j : Nat) : FsProg :=
  { defs := [⟨⟨"main", 0⟩, [⟨⟨"n", 1⟩, .prd, .i64⟩],
      .cut .i64 (.lit 2) (.mu .cns ⟨"x", i⟩ .i64
        (.cut .i64 (.op ⟨"n", 1⟩ .sum ⟨"x", i⟩) (.mu .cns ⟨"y", j⟩ .i64 (.exit ⟨"y", j⟩))))⟩],
    dataTypes := [], codataTypes := [], maxId := 3 }

example : uniqueBindersCheck (exFs 2 3) = true := by decide +kernel
example : uniqueBindersCheck (exFs 2 2) = false := by decide +kernel
example : uniqueBindersCheck (exFs 2 1) = false := by decide +kernel

/-- the hypotheses of `C03_bind_mu_once` / `C03_bind_mu_by_name` are satisfiable -/
example : ∃ (q : FsProg) (st : FsState) (k : Cont),
    st.stmt = (bindTerm (.mu .prd ⟨"a", 1⟩ .i64 (.exit (.lit 0) .i64)) k 1).1 ∧
    isCodata q.codataTypes .i64 = false :=
  ⟨⟨[], [], [], 1⟩, ⟨_, [], []⟩, fun b n => (.exit b.var, n), rfl, rfl⟩

example : ∃ (q : FsProg) (st : FsState) (k : Cont),
    st.stmt = (bindTerm (.mu .prd ⟨"a", 1⟩ (.decl ⟨"C", 0⟩) (.exit (.lit 0) .i64)) k 1).1 ∧
    isCodata q.codataTypes (.decl ⟨"C", 0⟩) = true :=
  ⟨⟨[], [], [⟨⟨"C", 0⟩, []⟩], 1⟩, ⟨_, [], []⟩, fun b n => (.exit b.var, n), rfl, by decide +kernel⟩

/-- an unfocused statement and its reading as `S[t]` (hypotheses of `C03_focus_follows_sigma`) -/
example : ∃ S, (Stmt.print true (.lit 5) (.exit (.lit 0) .i64)).split = some (.prd, .lit 5, S) ∧
    (Stmt.print true (.lit 5) (.exit (.lit 0) .i64)).cutOkTop = true :=
  ⟨_, rfl, rfl⟩

/-- `exProg` (an operator with literal operands in a cut, a `print`, an `exit`) satisfies the
    hypothesis of `C03_focusOnly_sem` -/
example : focusReady exProg = true := by decide +kernel

/-- … and those of `C03_statement_typesDisjoint` / `C03_focus_sem_panicFree` -/
example : Scc.Pipeline.typesDisjoint exProg = true ∧ exProg.focusPanicFree = true := by decide +kernel

/-- a program with a data type: `⟨Cons(1 + 2, Nil) | case { Nil ⇒ exit 0, Cons(x, xs) ⇒ print x; exit x }⟩`
    (a constructor with an operator and a constructor as arguments, a `case`), all ids 0 -/
def exProg2 : Prog :=
  let L : Ident := ⟨"List", 0⟩
  let x : Ident := ⟨"x", 0⟩
  { defs := [⟨⟨"main", 0⟩, [],
      .cut (.decl L)
        (.xtor .prd ⟨"Cons", 0⟩
          (.cons .prd (.op (.lit 1) .sum (.lit 2))
            (.cons .prd (.xtor .prd ⟨"Nil", 0⟩ .nil (.decl L)) .nil)) (.decl L))
        (.xcase .cns (.decl L)
          (.cons ⟨"Nil", 0⟩ [] (.exit (.lit 0) .i64)
            (.cons ⟨"Cons", 0⟩ [⟨x, .prd, .i64⟩, ⟨⟨"xs", 0⟩, .prd, .decl L⟩]
              (.print true (.var .prd x .i64) (.exit (.var .prd x .i64) .i64)) .nil)))⟩],
    dataTypes := [⟨L, [⟨⟨"Nil", 0⟩, []⟩,
      ⟨⟨"Cons", 0⟩, [⟨x, .prd, .i64⟩, ⟨⟨"xs", 0⟩, .prd, .decl L⟩]⟩]⟩],
    codataTypes := [], maxId := 0 }

/-- `exProg2` satisfies the hypotheses of `C03_statement_typesDisjoint`, `C03_focus_sem_panicFree`,
    `C03_uniquify_alpha_proved` (`Input`) and `C03_focusOnly_sem` (`focusReady`) -/
example : Input exProg2 where
  typed := by decide +kernel
  bindersZero := by
    simp [Prog.BindersZero, exProg2, Def.ids, ctxIds, Stmt.binderIds, Term.binderIds,
      Args.binderIds, Clauses.binderIds]
  occsOld := by
    simp [Prog.OccsOld, exProg2, Stmt.occIds, Term.occIds, Args.occIds, Clauses.occIds]
  noSigma := by decide +kernel

example : Scc.Pipeline.typesDisjoint exProg2 = true ∧ exProg2.focusPanicFree = true ∧
    focusReady exProg2 = true := by decide +kernel

/-- the hypothesis of `C03_focusOnly_sem_alpha` -/
example : FocusInput exProg2 exProg2 := focusReady_input (by decide +kernel)

/-- the hypotheses of `C03_sigma_focus`: `print (5); exit 0` read as `S[5]`, the name `ς₀` -/
example : ∃ S, (Stmt.print true (.lit 5) (.exit (.lit 0) .i64)).split = some (.prd, .lit 5, S) ∧
    (Term.lit 5).pcOk .prd = true ∧
    sigmaName 0 ∉ (Stmt.print true (.lit 5) (.exit (.lit 0) .i64)).idents ∧
    (∀ m, ¬ Gen m (sigmaName 0)) ∧
    FreshL 0 (Stmt.print true (.lit 5) (.exit (.lit 0) .i64)).idents :=
  ⟨_, rfl, rfl, by simp [Stmt.idents, Term.idents], FocusSim.not_gen_sigma 0,
    by simp [Stmt.idents, Term.idents]⟩

end Scc.Props

#print axioms Scc.Props.C03_unique_binders
#print axioms Scc.Props.C03_unique_binders_global
#print axioms Scc.Props.C03_unique_binders_translation_output
#print axioms Scc.Props.C03_uniqueBindersCheck_sound
#print axioms Scc.Props.C03_statement_partial
#print axioms Scc.Props.C03_focus_follows_sigma
#print axioms Scc.Props.C03_machines_agree
#print axioms Scc.Props.C03_bind_mu_once
#print axioms Scc.Props.C03_bind_mu_by_name
#print axioms Scc.Props.C03_focusOnly_sem_alpha
#print axioms Scc.Props.C03_focusOnly_sem
#print axioms Scc.Props.C03_focusOnly_fuel
#print axioms Scc.Props.C03_sigma_focus
#print axioms Scc.Props.C03_focus_cong
#print axioms Scc.Props.C03_uniquify_alpha_static
#print axioms Scc.Props.C03_focus_sem_panicFree
#print axioms Scc.Props.C03_focus_sem_fuel
#print axioms Scc.Props.C03_focus_sem_typesDisjoint
#print axioms Scc.Props.C03_statement_typesDisjoint
#print axioms Scc.Props.C03_statement_panicFree
#print axioms Scc.Props.C03_uniquify_run_eq
#print axioms Scc.Props.C03_uniquify_alpha_proved
#print axioms Scc.Props.C03_machine_alpha_invariant
#print axioms Scc.Props.C03_focus_sem_refuted
#print axioms Scc.Props.C03_statement_refuted

#print axioms Scc.Props.C03_sigmaStep_eq
#print axioms Scc.Props.C03_focused_no_sigma
#print axioms Scc.Props.ObsEq.of_runs
#print axioms Scc.Props.ObsEq.symm
#print axioms Scc.Props.ObsEq.trans
#print axioms Scc.Props.focusReady_input
#print axioms Scc.Props.Input.oks
#print axioms Scc.Props.Input.focusInput
#print axioms Scc.Props.Input.ctxNames
#print axioms Scc.Props.Input.focusInput_uniq
#print axioms Scc.Props.Input.sigLt
#print axioms Scc.Props.Input.sigLt_uniq
#print axioms Scc.Props.C03_uniquify_alpha_panicFree
#print axioms Scc.Props.C03_uniquify_alpha_typesDisjoint
#print axioms Scc.Props.fsStepN_stable
#print axioms Scc.Props.fsRun_stable
#print axioms Scc.Props.badProg_input
#print axioms Scc.Props.badProg_focus
