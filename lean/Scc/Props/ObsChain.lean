/-
  Scc.Props.ObsChain — ONE relation "same observable behaviour" for all stages of the pipeline.

  C02 (`C02_ObsSame`, Props/C02Sem.lean), C03 (`ObsEq`), C04 (`StrongSame`) and C05 (`LinStrongSame`) each state
  the same four clauses — finished runs (a result or an arithmetic fault) correspond in both directions, and every
  finite trace of one machine is a prefix of a trace of the other — over their own behaviour types.  Read on the
  common observable `Obs` (Scc/Pipeline.lean: `ofFun`, `ofCore`, `ofNamed`, `ofPos`) they are ONE relation,
  `C02_ObsSame`, which is symmetric and transitive; the links compose by `C02_ObsSame.trans`.  (The text of C01
  spells the relation once more, as `ObsSame`; `ObsSame_iff`, Props/C01.lean.)
-/
import Scc.Props.C02Sem
import Scc.Props.C03
import Scc.Props.C04Strong
import Scc.Props.C05Strong

namespace Scc.Props

open Scc.Pipeline

theorem C02_ObsSame.symm {r1 r2 : Nat → Obs} (h : C02_ObsSame r1 r2) : C02_ObsSame r2 r1 :=
  ⟨h.2.1, h.1, h.2.2.2, h.2.2.1⟩

theorem C02_ObsSame.trans {r1 r2 r3 : Nat → Obs} (h : C02_ObsSame r1 r2) (h' : C02_ObsSame r2 r3) :
    C02_ObsSame r1 r3 := by
  refine ⟨fun n hf => ?_, fun k hf => ?_, fun n => ?_, fun k => ?_⟩
  · obtain ⟨m, hm⟩ := h.1 n hf
    obtain ⟨k, hk⟩ := h'.1 m (hm ▸ hf)
    exact ⟨k, hk.trans hm⟩
  · obtain ⟨m, hm⟩ := h'.2.1 k hf
    obtain ⟨n, hn⟩ := h.2.1 m (hm ▸ hf)
    exact ⟨n, hn.trans hm⟩
  · obtain ⟨m, hm⟩ := h.2.2.1 n
    obtain ⟨k, hk⟩ := h'.2.2.1 m
    exact ⟨k, hm.trans hk⟩
  · obtain ⟨m, hm⟩ := h'.2.2.2 k
    obtain ⟨n, hn⟩ := h.2.2.2 m
    exact ⟨n, hm.trans hn⟩

theorem C02_ObsSame.done {r1 r2 : Nat → Obs} (h : C02_ObsSame r1 r2) {n : Nat} {t : List (Bool × Word)}
    {v : Word} (hn : r1 n = ⟨t, .done v⟩) : ∃ m, r2 m = ⟨t, .done v⟩ := by
  obtain ⟨m, hm⟩ := h.1 n (by rw [hn]; trivial)
  exact ⟨m, hm.trans hn⟩

theorem ofNamed_coreBehaviour (b : Core.Behaviour) : ofNamed (coreBehaviour b) = ofCore b := by
  obtain ⟨out, res⟩ := b
  cases res <;> rfl

/-- C03's `ObsEq` (all stuck reasons included) is at least `C02_ObsSame` -/
theorem ObsEq.same {r1 r2 : Nat → Core.Behaviour} (h : ObsEq r1 r2) :
    C02_ObsSame (fun n => ofCore (r1 n)) (fun n => ofCore (r2 n)) := by
  have fin : ∀ b : Core.Behaviour, C02_ObsFinished (ofCore b).res → b.res ≠ .outOfFuel := by
    intro b hb e
    simp [ofCore, e, C02_ObsFinished] at hb
  refine ⟨fun n hf => ?_, fun m hf => ?_, h.2.1, h.2.2⟩
  · obtain ⟨m, hm, _⟩ := (h.1 _).1 ⟨n, rfl, fin _ hf⟩
    exact ⟨m, congrArg ofCore hm⟩
  · obtain ⟨n, hn, _⟩ := (h.1 _).2 ⟨m, rfl, fin _ hf⟩
    exact ⟨n, congrArg ofCore hn⟩

theorem ofNamed_finished {b : AxCut.Named.Behaviour} (h : C02_ObsFinished (ofNamed b).res) :
    ArithFinished b.res := by
  obtain ⟨out, res⟩ := b
  cases res <;> exact h

theorem StrongSame.same {s t : Nat → AxCut.Named.Behaviour} (h : StrongSame s t) :
    C02_ObsSame (fun n => ofNamed (s n)) (fun n => ofNamed (t n)) := by
  refine ⟨fun n hf => ?_, fun m hf => ?_, h.2.2.1, h.2.2.2⟩
  · obtain ⟨m, hm⟩ := h.1 n (ofNamed_finished hf)
    exact ⟨m, congrArg ofNamed hm⟩
  · obtain ⟨n, hn⟩ := h.2.1 m (ofNamed_finished hf)
    exact ⟨n, congrArg ofNamed hn⟩

theorem posWhy_arith {w : AxCut.Pos.Why} (h : w.render = "divByZero" ∨ w.render = "overflow") :
    w = .divByZero ∨ w = .overflow := by
  cases w with
  | divByZero => exact .inl rfl
  | overflow => exact .inr rfl
  | _ x =>
    exfalso
    rcases h with h | h <;> have := congrArg String.toList h <;>
      simp [AxCut.Pos.Why.render, String.toList_append] at this

theorem ofPos_of_sameOutcome {a : AxCut.Named.Behaviour} {b : AxCut.Pos.Behaviour} (ho : b.out = a.out)
    (h : AxCut.Sim.sameOutcome a.res b.res) : ofPos b = ofNamed a := by
  obtain ⟨oa, ra⟩ := a
  obtain ⟨ob, rb⟩ := b
  simp only at ho
  subst ho
  cases ra <;> cases rb <;> simp only [AxCut.Sim.sameOutcome] at h
  · subst h; rfl
  · rcases h with ⟨rfl, rfl⟩ | ⟨rfl, rfl⟩ <;> rfl

theorem C05.LinStrongSame.same {s : Nat → AxCut.Named.Behaviour} {t : Nat → AxCut.Pos.Behaviour}
    (h : C05.LinStrongSame s t) : C02_ObsSame (fun n => ofNamed (s n)) (fun n => ofPos (t n)) := by
  refine ⟨fun n hf => ?_, fun m hf => ?_, h.2.2.1, h.2.2.2⟩
  · obtain ⟨m, ho, hs⟩ := h.1 n (ofNamed_finished hf)
    exact ⟨m, ofPos_of_sameOutcome ho hs⟩
  · have hfp : AxCut.Sim.finishedPos (t m).res := by
      cases hr : (t m).res <;> simp only [ofPos, hr, C02_ObsFinished] at hf
      · trivial
      · exact posWhy_arith hf
    obtain ⟨n, ho, hs⟩ := h.2.1 m hfp
    exact ⟨n, (ofPos_of_sameOutcome ho.symm hs).symm⟩

end Scc.Props

#print axioms Scc.Props.C02_ObsSame.trans
#print axioms Scc.Props.ObsEq.same
#print axioms Scc.Props.StrongSame.same
#print axioms Scc.Props.C05.LinStrongSame.same
