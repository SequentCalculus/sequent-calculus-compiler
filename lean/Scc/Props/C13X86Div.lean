/-
  Scc.Props.C13X86Div — property C13 (calling convention), DYNAMIC part, for ALL PROGRAMS on x86-64, WITHOUT THE
  HYPOTHESIS THAT THE POSITIONAL MACHINE DOES NOT GET STUCK: the extension of Props/C13X86All.lean to runs that
  divide by zero or overflow a division (as Props/C13A64Div.lean for AArch64; AUDIT.md, entry C13_cc_never_fires_all (a)).

  `C13_allowed` (Props/C13X86.lean) permits, besides `done v` and `outOfFuel`, the faults `div-by-zero` and
  `div-overflow`.  The theorems of Props/C13X86All.lean assume `hnostuck : ∀ fuel w, (Pos.run p args fuel).res ≠
  .stuck w` — which excludes division by zero and MIN / −1, and these do NOT follow from typing.  Here that
  hypothesis is not needed: the positional machine of a linearly typed program gets stuck only at an `op` whose operator
  is undefined (`Pos.runState_safe`, `Pos.stuck_op`); the x86-64 machine runs — without any fault — through the
  backup dance of code.rs `div` / `rem` (`mov rcx, rdx; mov t, rax; mov rax, s1; cqo`) to the `idiv` of that `op`
  (`op_fault`, Scc/X86/ConcKDiv.lean: every placement of target and operands in registers and spill slots, the
  divisor in rdx included), and the `idiv` faults with `div-by-zero` resp. `div-overflow` (`Ref.K.step3_stuck`,
  `ConcK.BdAt.stuck`, `ConcK.programs_all_fuel_div`, Scc/X86/ConcKStuck.lean).

  PROVED (axioms propext, Classical.choice, Quot.sound):
  * `C13_x86_outcome_div`   under the hypotheses of `C13_cc_never_fires_all` WITHOUT `hnostuck`: for EVERY machine
        fuel (below `2^64 / (M + 1)`) and EVERY setting of the heap monitor, `run (printProg routine)` ends in
        `outOfFuel`, `done v`, `fault div-by-zero`, `fault div-overflow`, or (heap monitor on) a report of the heap
        monitor — NOTHING ELSE (no `cc-violation`, `misaligned-call`, `ret-to-non-sentinel`, `read-undefined …`,
        `idiv-rdx-not-sign-extension`, …).  `C13_x86_outcome_div_size`: the heap hypothesis on the source program
        (hypotheses of `C13_cc_never_fires_all_size` without `hnostuck`).
  * `C13_x86_cc_never_fires_div`, `C13_x86_cc_never_fires_div_size`   hence the calling-convention monitor never
        fires (`CCSafe`), and with the heap monitor off the result is an outcome `C13_allowed` permits.
  * `C13_x86_div_agrees`, `C13_x86_div_agrees_size`   with the heap monitor off the machine's outcome is that of the
        positional machine: `done v` only if the positional machine returns `v`, a division fault only if it is
        stuck on that division, with the SAME kind (`divByZero` ↦ `div-by-zero`, `overflow` ↦ `div-overflow`).
  * NON-VACUITY: `C13X_divProg` (main(x) { lit z <- 0; q <- x / z; exit q }) — for every fuel below 2^58 the machine
        is out of fuel or ends in `fault div-by-zero`, never in `done` (`C13X_div_faults`); every hypothesis of the
        theorems holds for it, heap monitor on (`example`).
  WHAT REMAINS of `C13_statement`: machine fuel beyond `2^64 / (M + 1)`, the hypotheses `LabelSafe` and
  `C06_x86Checks`, the sane machine configurations, and the peak / data-size hypothesis.
-/
import Scc.Props.C13X86All
import Scc.X86.ConcKStuck

namespace Scc.X86
open Scc.AxCut Scc.Backend Scc.X86.Ref
open Scc.X86.CC (CCSafe)
open Scc.Props.C06Generic (Reachable CodeFits)
open Scc.Props.C14Generic (LabelSafe)
open Scc.X86.Ref.K (AllocLe progMaxAlloc allocLe_progMaxAlloc)
open Scc.X86.Conc (stmtSize progMaxSize stmtSize_le_progMaxSize valsFields monOff runItems_monitor_indep)

/-- the outcomes of the machine, whatever the positional machine does -/
def C13_x86_divOutcome (heap : Bool) (r : Res) : Prop :=
  r = .outOfFuel ∨ (∃ v, r = .done v) ∨ (∃ ln, r = .fault "div-by-zero" ln) ∨ (∃ ln, r = .fault "div-overflow" ln) ∨
    ∃ what ln, heap = true ∧ r = .invFail what ln

theorem C13_x86_safe_of_divOutcome {heap : Bool} {r : Res} (h : C13_x86_divOutcome heap r) :
    CCSafe r ∧ (heap = false → C13_allowed r) := by
  rcases h with h | ⟨v, h⟩ | ⟨ln, h⟩ | ⟨ln, h⟩ | ⟨e, ln, hh, h⟩
  · rw [h]; exact ⟨trivial, fun _ => trivial⟩
  · rw [h]; exact ⟨trivial, fun _ => trivial⟩
  · rw [h]; exact ⟨⟨by decide, by decide⟩, fun _ => Or.inl rfl⟩
  · rw [h]; exact ⟨⟨by decide, by decide⟩, fun _ => Or.inr (Or.inl rfl)⟩
  · rw [h]; exact ⟨trivial, fun h0 => by rw [hh] at h0; cases h0⟩

/-- the three-way outcome, relative to the positional machine -/
def C13_x86_agrees (p : AxCut.Prog) (args : List Word) (n : Nat) (r : Res) : Prop :=
  r = .outOfFuel ∨
    (∃ v out, Pos.run p args n = ⟨out, .done v⟩ ∧ r = .done v) ∨
    ∃ w out ln, Pos.run p args n = ⟨out, .stuck w⟩ ∧ (w = .divByZero ∨ w = .overflow) ∧ r = .fault (divFault w) ln

/-- the outcome of a run with an arbitrary heap-monitor flag from the outcome with the monitor off -/
theorem C13_x86_div_of_monOff {p : AxCut.Prog} {n : Nat} {items : List (Code × Nat)} {args : List Word} {fuel' : Nat}
    {cfg : MonCfg} (hoff : C13_x86_agrees p args n (runItems items args fuel' (monOff cfg)).res) :
    C13_x86_divOutcome cfg.heap (runItems items args fuel' cfg).res := by
  have hoff' : C13_x86_divOutcome false (runItems items args fuel' (monOff cfg)).res := by
    rcases hoff with h | ⟨v, _, _, h⟩ | ⟨w, _, ln, _, hw, h⟩
    · exact Or.inl h
    · exact Or.inr (Or.inl ⟨v, h⟩)
    · rcases hw with rfl | rfl
      · exact Or.inr (Or.inr (Or.inl ⟨ln, h⟩))
      · exact Or.inr (Or.inr (Or.inr (Or.inl ⟨ln, h⟩)))
  cases hh : cfg.heap with
  | false =>
    have e : monOff cfg = cfg := by
      cases cfg; simp only [monOff] at *; rw [hh]
    rw [e] at hoff'
    exact hoff'
  | true =>
    rcases runItems_monitor_indep items args fuel' cfg with h1 | ⟨e, ln, h1⟩
    · rw [h1]
      rcases hoff' with h | h | h | h | ⟨_, _, h, _⟩
      · exact Or.inl h
      · exact Or.inr (Or.inl h)
      · exact Or.inr (Or.inr (Or.inl h))
      · exact Or.inr (Or.inr (Or.inr (Or.inl h)))
      · cases h
    · exact Or.inr (Or.inr (Or.inr (Or.inr ⟨e, ln, rfl, h1⟩)))

/-- WITH THE HEAP MONITOR OFF, ALL PROGRAMS, ALL RUNS, WHATEVER THE POSITIONAL MACHINE DOES, on the text: the
machine's outcome is that of the positional machine — out of fuel, the result, or the division fault of the same
kind -/
theorem C13_x86_div_agrees (p : AxCut.Prog) (args : List Word) (hooks : Bool) (body routine : List Code)
    (nargs : Nat) (d0 : Def)
    (hsafe : LabelSafe p = true) (htp : LinTypedProg p) (hchk : C06_x86Checks p = true)
    (hcompX : compileX86 p hooks 0 = .ok (body, nargs)) (hrout : intoRoutine body nargs = .ok routine)
    (hd : p.defs.head? = some d0) (hargs : args.length = nargs)
    (cfg : MonCfg) (MO : MachOK cfg.mach) (hk : cfg.consts = consts) (hheap : cfg.heap = false)
    (hb8 : cfg.mach.heapBase % 8 = 0) (hb0 : 0 < cfg.mach.heapBase)
    (Pk : Nat) (hbytes : 64 * (Pk + progMaxAlloc p + 2) ≤ cfg.mach.heapBytes)
    (hfitX : addrAt cfg.mach.codeBase routine routine.length < 2 ^ 64)
    (fuel' : Nat) (hf : fuel' * (progMaxSize p + 1) + stmtSize d0.body + 1 < 2 ^ 64)
    (hP : ∀ ops c' items, (compile mockSym hooks p).run 0 = .ok ((ops, nargs), c') →
      parseText (printProg routine) = .ok items → ConcK.PeakAtMost p hooks routine ops cfg items args Pk
        (progMaxAlloc p * (fuel' * (progMaxSize p + 1) + stmtSize d0.body) + 1)) :
    C13_x86_agrees p args (fuel' * (progMaxSize p + 1) + stmtSize d0.body)
      (run (printProg routine) args fuel' cfg).res := by
  obtain ⟨ops, c', items, S⟩ := C06_setup_of_checks p args hooks body routine nargs d0 hsafe htp hchk hcompX hrout hd
  rw [run_eq_runItems S.parse]
  exact ConcK.programs_all_fuel_div p args hooks body routine nargs d0 ops c' hsafe htp S.progOK S.compM S.fit
    hcompX hrout S.nd hd S.entry (by rw [← S.nargs, hargs]) S.cap cfg MO hheap hb8 hb0 Pk (progMaxAlloc p)
    (progMaxSize p) (allocLe_progMaxAlloc p) (stmtSize_le_progMaxSize p) hbytes items S.items hfitX fuel' hf
    (ConcK.peakHyp_of_peakAtMost hk (hP ops c' items S.compM S.parse))

/-- THE OUTCOMES, ALL PROGRAMS, ALL RUNS, EVERY SETTING OF THE HEAP MONITOR, WHATEVER THE POSITIONAL MACHINE DOES:
the hypotheses of `C13_cc_never_fires_all` WITHOUT `hnostuck`.  A stuck positional run is a division fault of the
machine at its `idiv`, nothing else. -/
theorem C13_x86_outcome_div (p : AxCut.Prog) (args : List Word) (hooks : Bool) (body routine : List Code)
    (nargs : Nat) (d0 : Def)
    (hsafe : LabelSafe p = true) (htp : LinTypedProg p) (hchk : C06_x86Checks p = true)
    (hcompX : compileX86 p hooks 0 = .ok (body, nargs)) (hrout : intoRoutine body nargs = .ok routine)
    (hd : p.defs.head? = some d0) (hargs : args.length = nargs)
    (cfg : MonCfg) (MO : MachOK cfg.mach) (hk : cfg.consts = consts)
    (hb8 : cfg.mach.heapBase % 8 = 0) (hb0 : 0 < cfg.mach.heapBase)
    (Pk : Nat) (hbytes : 64 * (Pk + progMaxAlloc p + 2) ≤ cfg.mach.heapBytes)
    (hfitX : addrAt cfg.mach.codeBase routine routine.length < 2 ^ 64)
    (fuel' : Nat) (hf : fuel' * (progMaxSize p + 1) + stmtSize d0.body + 1 < 2 ^ 64)
    (hP : ∀ ops c' items, (compile mockSym hooks p).run 0 = .ok ((ops, nargs), c') →
      parseText (printProg routine) = .ok items → ConcK.PeakAtMost p hooks routine ops cfg items args Pk
        (progMaxAlloc p * (fuel' * (progMaxSize p + 1) + stmtSize d0.body) + 1)) :
    C13_x86_divOutcome cfg.heap (run (printProg routine) args fuel' cfg).res := by
  obtain ⟨ops, c', items, S⟩ := C06_setup_of_checks p args hooks body routine nargs d0 hsafe htp hchk hcompX hrout hd
  rw [run_eq_runItems S.parse]
  have hPoff : ConcK.PeakAtMost p hooks routine ops (monOff cfg) items args Pk
      (progMaxAlloc p * (fuel' * (progMaxSize p + 1) + stmtSize d0.body) + 1) := by
    intro n X st hn hB below inUse hsh hb
    have hn' : stepN cfg (mkProg cfg.mach items) n (initState cfg.mach args 6) = .inl X := by
      rw [← Conc.stepN_monOff]; exact hn
    exact hP ops c' items S.compM S.parse n X st hn' hB below inUse hsh hb
  exact C13_x86_div_of_monOff (ConcK.programs_all_fuel_div p args hooks body routine nargs d0 ops c' hsafe htp
    S.progOK S.compM S.fit hcompX hrout S.nd hd S.entry (by rw [← S.nargs, hargs]) S.cap (monOff cfg) MO rfl hb8 hb0
    Pk (progMaxAlloc p) (progMaxSize p) (allocLe_progMaxAlloc p) (stmtSize_le_progMaxSize p) hbytes items S.items
    hfitX fuel' hf (ConcK.peakHyp_of_peakAtMost (cfg := monOff cfg) hk hPoff))

/-- C13, DYNAMIC PART, FOR ALL PROGRAMS, ALL RUNS, WHATEVER THE POSITIONAL MACHINE DOES: `C13_cc_never_fires_all` WITHOUT
`hnostuck`.  The calling-convention monitor never fires, whatever the machine fuel (below `2^64 / (M + 1)`) and the
monitor configuration; with the heap monitor off the result is an outcome `C13_allowed` permits (`done`, `outOfFuel`,
`div-by-zero`, `div-overflow`). -/
theorem C13_x86_cc_never_fires_div (p : AxCut.Prog) (args : List Word) (hooks : Bool) (body routine : List Code)
    (nargs : Nat) (d0 : Def)
    (hsafe : LabelSafe p = true) (htp : LinTypedProg p) (hchk : C06_x86Checks p = true)
    (hcompX : compileX86 p hooks 0 = .ok (body, nargs)) (hrout : intoRoutine body nargs = .ok routine)
    (hd : p.defs.head? = some d0) (hargs : args.length = nargs)
    (cfg : MonCfg) (MO : MachOK cfg.mach) (hk : cfg.consts = consts)
    (hb8 : cfg.mach.heapBase % 8 = 0) (hb0 : 0 < cfg.mach.heapBase)
    (Pk : Nat) (hbytes : 64 * (Pk + progMaxAlloc p + 2) ≤ cfg.mach.heapBytes)
    (hfitX : addrAt cfg.mach.codeBase routine routine.length < 2 ^ 64)
    (fuel' : Nat) (hf : fuel' * (progMaxSize p + 1) + stmtSize d0.body + 1 < 2 ^ 64)
    (hP : ∀ ops c' items, (compile mockSym hooks p).run 0 = .ok ((ops, nargs), c') →
      parseText (printProg routine) = .ok items → ConcK.PeakAtMost p hooks routine ops cfg items args Pk
        (progMaxAlloc p * (fuel' * (progMaxSize p + 1) + stmtSize d0.body) + 1)) :
    CCSafe (run (printProg routine) args fuel' cfg).res ∧
      (cfg.heap = false → C13_allowed (run (printProg routine) args fuel' cfg).res) :=
  C13_x86_safe_of_divOutcome (C13_x86_outcome_div p args hooks body routine nargs d0 hsafe htp hchk hcompX hrout hd
    hargs cfg MO hk hb8 hb0 Pk hbytes hfitX fuel' hf hP)

/-- … heap hypothesis on the SOURCE PROGRAM (heap monitor off): the machine's outcome is the positional machine's -/
theorem C13_x86_div_agrees_size (p : AxCut.Prog) (args : List Word) (hooks : Bool) (body routine : List Code)
    (nargs : Nat) (d0 : Def)
    (hsafe : LabelSafe p = true) (htp : LinTypedProg p) (hchk : C06_x86Checks p = true)
    (hcompX : compileX86 p hooks 0 = .ok (body, nargs)) (hrout : intoRoutine body nargs = .ok routine)
    (hd : p.defs.head? = some d0) (hargs : args.length = nargs)
    (D : Nat) (hD : ∀ st, Reachable p ⟨d0.ctx, args.map .int, d0.body⟩ st → valsFields st.env ≤ D)
    (cfg : MonCfg) (MO : MachOK cfg.mach) (hheap : cfg.heap = false)
    (hb8 : cfg.mach.heapBase % 8 = 0) (hb0 : 0 < cfg.mach.heapBase)
    (hbytes : 64 * (D + progMaxAlloc p + 2) ≤ cfg.mach.heapBytes)
    (hfitX : addrAt cfg.mach.codeBase routine routine.length < 2 ^ 64)
    (fuel' : Nat) (hf : fuel' * (progMaxSize p + 1) + stmtSize d0.body + 1 < 2 ^ 64) :
    C13_x86_agrees p args (fuel' * (progMaxSize p + 1) + stmtSize d0.body)
      (run (printProg routine) args fuel' cfg).res := by
  obtain ⟨ops, c', items, S⟩ := C06_setup_of_checks p args hooks body routine nargs d0 hsafe htp hchk hcompX hrout hd
  rw [run_eq_runItems S.parse]
  exact ConcK.programs_dsize_div p args hooks body routine nargs d0 ops c' hsafe htp S.progOK S.compM S.fit
    hcompX hrout S.nd hd S.entry (by rw [← S.nargs, hargs]) S.cap D hD cfg MO hheap hb8 hb0 (progMaxAlloc p)
    (progMaxSize p) (allocLe_progMaxAlloc p) (stmtSize_le_progMaxSize p) hbytes items S.items hfitX fuel' hf

/-- … the outcomes, every setting of the heap monitor -/
theorem C13_x86_outcome_div_size (p : AxCut.Prog) (args : List Word) (hooks : Bool) (body routine : List Code)
    (nargs : Nat) (d0 : Def)
    (hsafe : LabelSafe p = true) (htp : LinTypedProg p) (hchk : C06_x86Checks p = true)
    (hcompX : compileX86 p hooks 0 = .ok (body, nargs)) (hrout : intoRoutine body nargs = .ok routine)
    (hd : p.defs.head? = some d0) (hargs : args.length = nargs)
    (D : Nat) (hD : ∀ st, Reachable p ⟨d0.ctx, args.map .int, d0.body⟩ st → valsFields st.env ≤ D)
    (cfg : MonCfg) (MO : MachOK cfg.mach)
    (hb8 : cfg.mach.heapBase % 8 = 0) (hb0 : 0 < cfg.mach.heapBase)
    (hbytes : 64 * (D + progMaxAlloc p + 2) ≤ cfg.mach.heapBytes)
    (hfitX : addrAt cfg.mach.codeBase routine routine.length < 2 ^ 64)
    (fuel' : Nat) (hf : fuel' * (progMaxSize p + 1) + stmtSize d0.body + 1 < 2 ^ 64) :
    C13_x86_divOutcome cfg.heap (run (printProg routine) args fuel' cfg).res := by
  obtain ⟨ops, c', items, S⟩ := C06_setup_of_checks p args hooks body routine nargs d0 hsafe htp hchk hcompX hrout hd
  rw [run_eq_runItems S.parse]
  exact C13_x86_div_of_monOff (ConcK.programs_dsize_div p args hooks body routine nargs d0 ops c' hsafe htp S.progOK
    S.compM S.fit hcompX hrout S.nd hd S.entry (by rw [← S.nargs, hargs]) S.cap D hD (monOff cfg) MO rfl hb8 hb0
    (progMaxAlloc p) (progMaxSize p) (allocLe_progMaxAlloc p) (stmtSize_le_progMaxSize p) hbytes items S.items
    hfitX fuel' hf)

/-- C13, DYNAMIC PART, FOR ALL PROGRAMS, ALL RUNS, heap hypothesis on the SOURCE PROGRAM, WHATEVER THE POSITIONAL
MACHINE DOES:
`C13_cc_never_fires_all_size` WITHOUT `hnostuck` -/
theorem C13_x86_cc_never_fires_div_size (p : AxCut.Prog) (args : List Word) (hooks : Bool)
    (body routine : List Code) (nargs : Nat) (d0 : Def)
    (hsafe : LabelSafe p = true) (htp : LinTypedProg p) (hchk : C06_x86Checks p = true)
    (hcompX : compileX86 p hooks 0 = .ok (body, nargs)) (hrout : intoRoutine body nargs = .ok routine)
    (hd : p.defs.head? = some d0) (hargs : args.length = nargs)
    (D : Nat) (hD : ∀ st, Reachable p ⟨d0.ctx, args.map .int, d0.body⟩ st → valsFields st.env ≤ D)
    (cfg : MonCfg) (MO : MachOK cfg.mach)
    (hb8 : cfg.mach.heapBase % 8 = 0) (hb0 : 0 < cfg.mach.heapBase)
    (hbytes : 64 * (D + progMaxAlloc p + 2) ≤ cfg.mach.heapBytes)
    (hfitX : addrAt cfg.mach.codeBase routine routine.length < 2 ^ 64)
    (fuel' : Nat) (hf : fuel' * (progMaxSize p + 1) + stmtSize d0.body + 1 < 2 ^ 64) :
    CCSafe (run (printProg routine) args fuel' cfg).res ∧
      (cfg.heap = false → C13_allowed (run (printProg routine) args fuel' cfg).res) :=
  C13_x86_safe_of_divOutcome (C13_x86_outcome_div_size p args hooks body routine nargs d0 hsafe htp hchk hcompX hrout
    hd hargs D hD cfg MO hb8 hb0 hbytes hfitX fuel' hf)

/-- main(x) { lit z <- 0; q <- x / z; exit q } -/
def C13X_divMain : Def :=
  { name := ⟨"main", 0⟩, ctx := [⟨⟨"x", 1⟩, .ext, .i64⟩],
    body := .lit ⟨"z", 2⟩ 0 (.op ⟨"q", 3⟩ ⟨"x", 1⟩ .div ⟨"z", 2⟩ (.exit ⟨"q", 3⟩) none) none }

def C13X_divProg : AxCut.Prog := { defs := [C13X_divMain], types := [], maxId := 204 }

def C13X_divBody : List Code :=
  match compileX86 C13X_divProg true 0 with
  | .ok (body, _) => body
  | .error _ => []

def C13X_divRoutine : List Code :=
  match intoRoutine C13X_divBody 1 with
  | .ok r => r
  | .error _ => []

theorem C13X_div_stuck : Pos.run C13X_divProg [7] 5 = ⟨[], .stuck .divByZero⟩ := by decide

theorem C13X_div_run (k : Nat) : Pos.run C13X_divProg [7] (k + 2) = ⟨[], .stuck .divByZero⟩ := rfl

set_option maxRecDepth 100000 in
theorem C13X_divProg_checks : C06_x86Checks C13X_divProg = true := by decide +kernel

theorem C13X_divProg_labelSafe : LabelSafe C13X_divProg = true := by decide

theorem C13X_divProg_typed : LinTypedProg C13X_divProg := linTypedCheck_sound C13X_divProg rfl

/-- the code generator on this program, evaluated once -/
theorem C13X_divProg_compiles : compileX86 C13X_divProg true 0 = .ok (C13X_divBody, 1) ∧
    intoRoutine C13X_divBody 1 = .ok C13X_divRoutine := ⟨rfl, rfl⟩

theorem C13X_divRoutine_fits :
    addrAt ({} : MachCfg).codeBase C13X_divRoutine C13X_divRoutine.length < 2 ^ 64 :=
  routine_fits C13X_divProg_typed C13X_divProg_compiles.1 C13X_divProg_compiles.2 _ (by decide)

theorem C13X_div_consts : progMaxAlloc C13X_divProg = 0 ∧ progMaxSize C13X_divProg = 3 ∧
    stmtSize C13X_divMain.body = 3 := by decide

/-- the two states of the run (started with x = 7) hold no object or closure -/
theorem C13X_div_size : ∀ st, Reachable C13X_divProg ⟨C13X_divMain.ctx, [7].map .int, C13X_divMain.body⟩ st →
    valsFields st.env ≤ 0 :=
  C10_dataSize_of_run C13X_divProg 5 _ 0 (by decide) (by decide)

/-- every hypothesis of `C13_x86_cc_never_fires_div_size` holds for the division by zero, heap monitor on -/
example (fuel' : Nat) (hf : fuel' < 2 ^ 58) :
    CCSafe (run (printProg C13X_divRoutine) [7] fuel' { heap := true }).res := by
  obtain ⟨e1, e2, e3⟩ := C13X_div_consts
  exact (C13_x86_cc_never_fires_div_size C13X_divProg [7] true C13X_divBody C13X_divRoutine 1 C13X_divMain
    C13X_divProg_labelSafe C13X_divProg_typed C13X_divProg_checks C13X_divProg_compiles.1 C13X_divProg_compiles.2 rfl rfl 0 C13X_div_size
    { heap := true } machOK_default (by decide) (by decide) (by rw [e1]; decide) C13X_divRoutine_fits
    fuel' (by rw [e2, e3]; omega)).1

/-- THE MACHINE FAULTS WHERE THE POSITIONAL MACHINE IS STUCK: on the TEXT of the routine of `main(x) { z <- 0;
q <- x / z; exit q }`, started with x = 7 in the default configuration, the machine is out of fuel or ends in the
fault `div-by-zero` — for EVERY fuel below 2^58 (never `done`: the positional machine is stuck after two steps) -/
theorem C13X_div_faults (fuel' : Nat) (hf : fuel' < 2 ^ 58) :
    (run (printProg C13X_divRoutine) [7] fuel' {}).res = .outOfFuel ∨
      ∃ ln, (run (printProg C13X_divRoutine) [7] fuel' {}).res = .fault "div-by-zero" ln := by
  obtain ⟨e1, e2, e3⟩ := C13X_div_consts
  rcases C13_x86_div_agrees_size C13X_divProg [7] true C13X_divBody C13X_divRoutine 1 C13X_divMain
    C13X_divProg_labelSafe C13X_divProg_typed C13X_divProg_checks C13X_divProg_compiles.1 C13X_divProg_compiles.2 rfl rfl 0 C13X_div_size
    {} machOK_default rfl (by decide) (by decide) (by rw [e1]; decide) C13X_divRoutine_fits
    fuel' (by rw [e2, e3]; omega) with h | ⟨v, out, hr, _⟩ | ⟨w, out, ln, hr, _, h⟩
  · exact Or.inl h
  · exfalso
    rw [e2, e3, show fuel' * (3 + 1) + 3 = (fuel' * 4 + 1) + 2 by omega, C13X_div_run] at hr
    cases hr
  · right
    rw [e2, e3, show fuel' * (3 + 1) + 3 = (fuel' * 4 + 1) + 2 by omega, C13X_div_run] at hr
    injection hr with _ hr
    injection hr with hr
    subst hr
    exact ⟨ln, h⟩

end Scc.X86

#print axioms Scc.X86.C13_x86_div_agrees
#print axioms Scc.X86.C13_x86_outcome_div
#print axioms Scc.X86.C13_x86_cc_never_fires_div
#print axioms Scc.X86.C13_x86_div_agrees_size
#print axioms Scc.X86.C13_x86_outcome_div_size
#print axioms Scc.X86.C13_x86_cc_never_fires_div_size
#print axioms Scc.X86.C13X_div_faults

#print axioms Scc.X86.C13_x86_safe_of_divOutcome
#print axioms Scc.X86.C13_x86_div_of_monOff
#print axioms Scc.X86.C13X_div_stuck
#print axioms Scc.X86.C13X_div_run
#print axioms Scc.X86.C13X_divProg_checks
#print axioms Scc.X86.C13X_divRoutine_fits
#print axioms Scc.X86.C13X_div_consts
#print axioms Scc.X86.C13X_div_size
