/-
  Scc.Props.C02SemFull — property C02, SEMANTIC part, IN FULL: the translation Fun → Core (model
  `Scc.Fun2Core.compileProg` of /repo/lang/fun2core) preserves meaning for ALL accepted, sequenced
  programs — including everything the fragment `Fun2Core.Sem.fragOk` of Props/C02Sem.lean excludes:
  destructor calls whose scrutinee is a call or a destructor chain (`mk(n).apply(4)`,
  `s.tail.tail.head`), definitions / destructors / `if` / `case` / `let` / `label` that RETURN codata,
  `new` and codata-typed variables in evaluation position, continuations of codata type shared by
  `if` / `case` (lifted by `share`), labels and covariable parameters of codata types.

  THEOREM
    C02_sem : C02_sem_full_statement
        for every program `p` whose names are identifiers, accepted by the checker
        (`checkProgram p = ok p'`), `Sequenced`, with a valid `main` (`validMain`) that is not called
        (`noMainCall`), without a name `ς` (`C02_noSigmaNames`: the lexer cannot produce one), and its
        translation `q2`: for ALL argument lists, the Fun abstract machine on `p'` and the Core
        ς-machine on `q2` have the same observable behaviour — all four clauses of `C02_ObsSame`
        (results and arithmetic faults with their traces in both directions, traces of diverging
        runs in both directions).  No hypothesis on the translation: `coreClosed q2` is derived.
  How (Scc/Fun2Core/Sem*.lean, SemCod*.lean):
    * the simulation relation between CEK states and Core machine states is extended by the stacks
      that expect a CODATA value (top frame a destructor frame) ~ destructor VALUES `d(Vs; cv)`
      (`KRelD`) and by the destructor `d(⟦args⟧; c)` as a consumer TERM whose pure arguments neither
      machine has evaluated yet (`CRel.dtor`).  The Core machine evaluates these arguments BEFORE it
      runs the scrutinee (and suspends `μ`-abstractions as thunks when the consumer is a `μ~`
      lifted by `share`); the Fun machine evaluates them after the scrutinee has returned.  Both
      orders agree because the arguments are pure (`Sequenced`) and HAVE values: type safety of the
      Fun machine, here for the monomorphic typing `TypedM` of checked programs
      (Scc/Fun2Core/SemCodTyping*.lean: `STM`, preservation `stepM_preserves`, `pureArgsM_typed`).
    * `force_cr` (SemCod3): every consumer of a codata type related to a stack can be forced to a
      destructor value, by recursion on the relation; `ret_cd` (SemCod4): a closure meets a
      destructor frame / value; `bind_cont`, `focus_cons`: covariables of codata type are bound to
      destructor values (thunk entered at once).
    * the typing of the Fun state rides along the simulation (`RT`); it decides, consistently on
      both sides, whether a cut is evaluated producer first or consumer first: `KTM.kind` — a term of
      type τ is evaluated on a stack whose top frame is a destructor frame iff `isCodataTy p' τ`.
    * the decidable side conditions that Props/C02Sem.lean assumes are derived from the checker:
      `good` of every body (`good_of_typed`), distinct names / parameters and closed bodies
      (`Fun_checked_wellformed`), `coreClosed` of the translation (from `C12_link_fun2core_proved`:
      the translation is well-typed, and a typed Core definition mentions only its parameters).
    * a wrong number of arguments: both machines stop at once (`stuck arity`), nothing is printed.
  Remaining restrictions: none beyond the hypotheses of `C02_sem_full_statement`.  That `noMainCall` is
  necessary is a theorem (`C02_sem_statement_as_given_false`, Props/C02Sem.lean); the counterexamples
  for `validMain` and `C02_noSigmaNames` are described in the header of that file and are not theorems.
-/
import Scc.Props.C02SemSafe
import Scc.Props.C12Fun2Core
import Scc.Fun2Core.SemCodGood

namespace Scc.Props
open Scc.Pipeline
open Scc.Fun.Check (checkProgram programNamesOk)

/-- `progOk` (Scc/Fun2Core/SemProg.lean: `good` bodies, distinct definition names and parameters,
closed bodies, no name `ς`, `main` with integer producer parameters and an integer result) -/
theorem C02_progOk {p : Fun.Program} {p' : Fun.CheckedProgram} (hn : programNamesOk p = true)
    (hck : checkProgram p = .ok p') (hseq : Fun.Sequenced p' = true) (hv : validMain p' = true)
    (hmc : Fun.noMainCall p' = true) (hs : C02_noSigmaNames p' = true) :
    Fun2Core.Sem.progOk p' = true := by
  have hP := Fun2Core.Typed.checkProgram_progM hn hck
  obtain ⟨hnd, hwf⟩ := Fun_checked_wellformed p p' hn hck
  obtain ⟨dm, hfind, _, hsig, hret⟩ := validMain_find hv
  simp only [Fun.Sequenced, List.all_eq_true] at hseq
  simp only [Fun.noMainCall, List.all_eq_true, Bool.not_eq_true'] at hmc
  simp only [C02_noSigmaNames, List.all_eq_true, Bool.and_eq_true] at hs
  have hmain : ∀ d ∈ p'.defs, d.name = "main" → d = dm := by
    intro d hd hname
    have := Fun2Core.Sem.findDef_of_mem hP hd
    rw [hname, hfind] at this
    exact (Option.some.inj this).symm
  simp only [Fun2Core.Sem.progOk, Bool.and_eq_true, List.all_eq_true, decide_eq_true_eq,
    Bool.or_eq_true, bne_iff_ne, ne_eq]
  refine ⟨⟨⟨fun d hd => ?_, hnd⟩, fun d hd => ?_⟩, fun d hd => ?_⟩
  · obtain ⟨h1, h2, _⟩ := hwf d hd
    simp only [Fun2Core.Sem.defOk, Bool.and_eq_true, decide_eq_true_eq]
    exact ⟨⟨⟨⟨Fun2Core.Sem.good_of_typed hP d.body d.ctx d.retTy (hP.defs d hd).body (hseq d hd)
      (hmc d hd), h1⟩, h2⟩, (hs d hd).1⟩, (hs d hd).2⟩
  · by_cases hname : d.name = "main"
    · right
      rw [hmain d hd hname]
      intro b hb
      rw [(hsig b hb).1]; rfl
    · exact .inl hname
  · by_cases hname : d.name = "main"
    · right
      rw [hmain d hd hname]
      exact ⟨fun b hb => by simp [Fun2Core.Sem.isI64T, (hsig b hb).2], by
        simp [Fun2Core.Sem.isI64T, hret]⟩
    · exact .inl hname

/-- every definition of the translation mentions only its parameters: the translation is well-typed
(`C12_link_fun2core_proved`), and a typed statement mentions only variables of its context -/
theorem C02_coreClosed {p : Fun.Program} {p' : Fun.CheckedProgram} {q2 : Core.Prog}
    (hn : programNamesOk p = true) (hck : checkProgram p = .ok p') (hv : validMain p' = true)
    (hmc : Fun.noMainCall p' = true) (hs : C02_noSigmaNames p' = true)
    (hc : Fun2Core.compileProg p' = .ok q2) : Fun2Core.Sem.coreClosed q2 = true := by
  obtain ⟨q, hq, hin, _⟩ := C12_link_fun2core_proved p p' hn hck hv hmc hs
  rw [hc] at hq
  cases hq
  have hwt := hin.typed
  simp only [Core.Prog.wellTyped, List.all_eq_true] at hwt
  simp only [Fun2Core.Sem.coreClosed, List.all_eq_true, List.any_eq_true, decide_eq_true_eq]
  intro D hD b hb
  have := Fun2Core.Typed.stmt_agree D.body D.ctx (hwt D hD) b hb
  exact ⟨b, Core.lookupBinding_mem this, rfl⟩

theorem C02_bindAll_none : ∀ (names : List String) (vs : List Fun.Value) (env : Fun.Env),
    names.length ≠ vs.length → Fun.bindAll names vs env = none
  | [], [], _, h => absurd rfl h
  | [], _ :: _, _, _ => rfl
  | _ :: _, [], _, _ => rfl
  | x :: xs, v :: vs, env, h => by
    simp only [Fun.bindAll]
    exact C02_bindAll_none xs vs _ (by simpa using h)

theorem C02_bind_arity : ∀ (ctx : Core.Ctx) (Vs : List Core.CVal),
    ctx.length ≠ Vs.length → (Core.Env.bind ([] : Core.CEnv) ctx Vs) = .error .arity
  | [], [], h => absurd rfl h
  | [], _ :: _, _ => rfl
  | _ :: _, [], _ => rfl
  | b :: bs, V :: Vs, h => by
    simp only [Core.Env.bind]
    rw [C02_bind_arity bs Vs (by simpa using h)]

/-- with a wrong number of arguments the Core machine stops at once: `stuck arity` -/
theorem C02_core_run_arity {p' : Fun.CheckedProgram} {q2 : Core.Prog}
    (hc : Fun2Core.compileProg p' = .ok q2) (hp : Fun2Core.Sem.progOk p' = true)
    (hq : Fun2Core.Sem.coreClosed q2 = true) (hpm : Fun2Core.Typed.ProgM p') {dm : Fun.Def}
    (hfind : Fun.findDef p' "main" = some dm) (args : List Word)
    (hlen : args.length ≠ dm.ctx.length) (m : Nat) :
    Core.run q2 args m = ⟨[], .stuck .arity⟩ := by
  open Scc.Fun2Core Scc.Fun2Core.Sem in
  obtain ⟨D, x0, τ, hD, hfindD, hDc, -, -, hentry0⟩ :=
    main_def_of_compileProg hc hp (ctx_of_compileProg hc hp hq hpm) hfind
  unfold Core.run
  simp only [hfindD, hentry0]
  rw [C02_bind_arity _ _ (by
    rw [Scc.Fun2Core.Sem.compileContext_length, List.length_map]
    exact fun e => hlen e.symm)]

/-- **C02, semantic part (Fun → Core preserves meaning), in full**: for every accepted, sequenced
program whose names are identifiers, with a valid `main` that is not called and no name `ς`, whose
translation is `q2`, and all arguments: the Fun machine on the program and the Core ς-machine on
`q2` have the same observable behaviour — all four clauses of `C02_ObsSame` -/
theorem C02_sem : C02_sem_full_statement := by
  intro p p' q2 hn hck hseq hv hmc hs hc args
  have hp := C02_progOk hn hck hseq hv hmc hs
  have hq := C02_coreClosed hn hck hv hmc hs hc
  by_cases hlen : args.length = mainArity p'
  · -- the right number of arguments: type safety + simulation
    refine C02_sem_of_safe p p' q2 hn hck hp hc hq args ?_
    refine C02_funSafe p p' hn hck hv args ?_
    obtain ⟨dm, hfind, hl, _, _⟩ := validMain_find hv
    have hf : p'.defs.find? (fun d => d.name == "main") = some dm := hfind
    rw [hf]
    simpa [hl] using hlen
  · -- a wrong number of arguments: both machines stop at once
    obtain ⟨dm, hfind, hl, _, _⟩ := validMain_find hv
    have hlen' : args.length ≠ dm.ctx.length := by rw [hl]; exact hlen
    have hfun : ∀ n, Fun.run p' args n = ⟨[], .stuck (.arity "main")⟩ := by
      intro n
      have hb : Fun.bindAll (dm.ctx.map (·.var)) (args.map .int) [] = none :=
        C02_bindAll_none _ _ _ (by simpa using fun e => hlen' e.symm)
      simp [Fun.run, Fun.initState, hfind, hb]
    have hcore := C02_core_run_arity hc hp hq (Fun2Core.Typed.checkProgram_progM hn hck) hfind args hlen'
    have hnf : ¬ C02_ObsFinished (Obs.res ⟨[], ObsRes.stuck (Fun.Why.arity "main").toString⟩) := by
      intro h
      rcases h with h | h <;>
        (have h1 := congrArg String.toList h; simp [Fun.Why.toString] at h1)
    refine ⟨fun n hfin => ?_, fun m hfin => ?_, fun n => ⟨0, ?_⟩, fun m => ⟨0, ?_⟩⟩
    · simp only [hfun n, ofFun] at hfin
      exact absurd hfin hnf
    · simp only [hcore m, ofCore, Core.Why.render, C02_ObsFinished] at hfin
      rcases hfin with h | h <;> exact absurd h (by decide)
    · simp [hfun n, hcore 0, ofFun, ofCore]
    · simp [hfun 0, hcore m, ofFun, ofCore]

/-- the forward half in the shape of the end-to-end composition (clause 1 of `C02_ObsSame`), without the
fragment hypothesis of `C02_sem_forward_link` -/
theorem C02_sem_forward_full (p : Fun.Program) (p' : Fun.CheckedProgram) (q2 : Core.Prog)
    (hn : programNamesOk p = true) (hck : checkProgram p = .ok p') (hseq : Fun.Sequenced p' = true)
    (hv : validMain p' = true) (hmc : Fun.noMainCall p' = true) (hs : C02_noSigmaNames p' = true)
    (hc : Fun2Core.compileProg p' = .ok q2) (args : List Word) (n : Nat)
    (hfin : C02_ObsFinished (ofFun (Fun.run p' args n)).res) :
    ∃ m, ofCore (Core.run q2 args m) = ofFun (Fun.run p' args n) :=
  (C02_sem p p' q2 hn hck hseq hv hmc hs hc args).1 n hfin

/-! ## non-vacuity: a program outside the fragment `fragOk` -/

/-- a stream (codata) produced by a recursive function that RETURNS codata, consumed through a
destructor chain `s.tail.tail.head`, a destructor call on a call `mk(n).apply(4)`, an `if` that
returns a closure and shares its destructor continuation; prints 7, 9, 26 and returns 0 on the argument 5 -/
def C02Full_exSrc : String :=
  "codata Stream[A] { head : A, tail : Stream[A] }
   codata Fun[A, B] { apply(x : A) : B }
   def from(n : i64) : Stream[i64] { new { head => n, tail => from(n + 1) } }
   def mk(k : i64) : Fun[i64, i64] { new { apply(x) => x + k } }
   def pick(b : i64, f : Fun[i64, i64], g : Fun[i64, i64]) : Fun[i64, i64] { if b == 0 { f } else { g } }
   def main(n : i64) : i64 {
     println_i64(from(n).tail[i64].tail[i64].head[i64]);
     println_i64(mk(n).apply[i64, i64](4));
     let f : Fun[i64, i64] = new { apply(x) => x + n };
     let g : Fun[i64, i64] = new { apply(x) => x * n };
     println_i64((if n == 5 { pick(0, f, g) } else { pick(1, f, g) }).apply[i64, i64](21));
     0 }"

/-- the hypotheses of `C02_sem` hold for the example, it is NOT in the fragment `fragOk`, and
both machines print 7, 9, 26 and return 0 on the argument 5 -/
def C02Full_exCheck (src : String) : Bool :=
  match frontEnd src with
  | .ok _ p' =>
    Fun.Sequenced p' && validMain p' && Fun.noMainCall p' && C02_noSigmaNames p' &&
    !Fun2Core.Sem.fragOk p' &&
    match Fun2Core.compileProg p' with
    | .ok q =>
      decide (ofFun (Fun.run p' [5] 600) = ⟨[(true, 7), (true, 9), (true, 26)], .done 0⟩) &&
      decide (ofCore (Core.run q [5] 1200) = ⟨[(true, 7), (true, 9), (true, 26)], .done 0⟩)
    | .error _ => false
  | _ => false

set_option maxRecDepth 100000 in
theorem C02Full_example_of_chars (s : String) (h : s.toList = C02Full_exSrc.toList) :
    C02Full_exCheck s = true := by
  have hc := toList_of_literal rfl h
  simp only [C02Full_exCheck, frontEnd, Fun.Parse.parse, hc]
  decide +kernel

theorem C02Full_example : C02Full_exCheck C02Full_exSrc = true := C02Full_example_of_chars _ rfl

#print axioms C02_progOk
#print axioms C02_coreClosed
#print axioms C02_sem
#print axioms C02_sem_forward_full
#print axioms C02Full_example_of_chars
#print axioms C02Full_example

end Scc.Props

#print axioms Scc.Props.C02_bindAll_none
#print axioms Scc.Props.C02_bind_arity
#print axioms Scc.Props.C02_core_run_arity
#print axioms Scc.Props.C02_sem_of_safe
