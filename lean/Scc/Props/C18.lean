/-
  Scc.Props.C18 — "a result or a diagnostic, never a crash": the lexer/parser part (C18-T1).

  Property C18 (as given): "For every input text, parsing and type checking terminate with either a
  program or a reported error, and for every accepted program with a valid entry point (a main taking
  at most five integer parameters and returning an integer) every later stage terminates normally; the
  compiler never panics or aborts on user input, the only exception being the explicit 'out of
  temporaries/registers' capacity assertion of the backends."

  This file covers `parse_module` (model: Scc.Fun.Lex, Scc.Fun.Parse; tied to the real lalrpop parser
  by the differential test on the repo files, the corpus /verif/gen/corpus/parse and seeded mutants:
  outcome class, tree and diagnostic code equal on all of them).  Termination of lexer and parser is
  by construction (total Lean functions).  With the action `i64::from_str(s).unwrap()` of rule `Num`
  (`LiteralMode.panicOnOverflow`):

    * C18_literal_witness            `def main():i64{9223372036854775808}` panics        (defect D2)
    * C18_parse_statement_false      hence the "never panics" statement is FALSE for the parser
    * C18_lex_parse_total            the literal conversion is the ONLY panic: a panic implies a number
                                     token > 2^63-1 in the token stream                  (proved)
    * C18_parse_no_panic_in_range    no such token => ok or diagnostic                   (proved)
  With the repaired action (`LiteralMode.diagOnOverflow`: it returns `ParseError::User`; this is the
  action of the current source, `C18_literal_mode_current` in Props/C18Cur.lean):
    * C18_parse_statement_fixed      the FULL parser statement: no input panics          (proved)

  Not covered here: the type checker (C18-T2: `C15_no_panic`, Props/C15.lean) and the later stages
  (C18-T3 = C12: `C18_later_stages_total`, `C18_text_total`, Props/C12Final.lean).
  `C18_fuel_statement`: the model never answers `DiagCode.fuel` (an artefact of the model: its parser
  functions recurse on a fuel argument) — stated here, proved in Props/C18Fuel.lean (`C18_fuel`).
-/
import Scc.Fun.ParseProofs

namespace Scc.Props
open Scc.Fun.Lex Scc.Fun.Parse

/-- C18, lexer+parser part: no input text makes `parse_module` panic. -/
def C18_parse_statement (mode : LiteralMode) : Prop :=
  ∀ (src : String) (site : PanicSite), parse mode src ≠ .panic site

/-- The model's out-of-fuel answer is never given (proved in Props/C18Fuel.lean: `C18_fuel`). -/
def C18_fuel_statement : Prop :=
  ∀ (mode : LiteralMode) (src : String), parse mode src ≠ .diag .fuel

/-- the text `def main():i64{9223372036854775808}` -/
def C18_literalWitnessSrc : List Char :=
  ['d','e','f',' ','m','a','i','n','(',')',':','i','6','4','{',
   '9','2','2','3','3','7','2','0','3','6','8','5','4','7','7','5','8','0','8','}']

/-- D2: the literal 2^63 makes the parser panic (`i64::from_str(s).unwrap()`); confirmed on the
real parser: `S0 PANIC … called Result::unwrap() on an Err value: ParseIntError { kind: PosOverflow }`. -/
theorem C18_literal_witness :
    (parseChars .panicOnOverflow C18_literalWitnessSrc).isPanic = true := by decide +kernel

/-- the same input is no panic for the repaired action (it is the diagnostic P-005: `parseNum` in mode
`diagOnOverflow`) -/
theorem C18_literal_witness_fixed :
    (parseChars .diagOnOverflow C18_literalWitnessSrc).isPanic = false := by decide +kernel

/-- `-9223372036854775808` cannot be written either: the literal is converted before negation. -/
theorem C18_min_literal_witness :
    (parseChars .panicOnOverflow
      ['d','e','f',' ','m','(',')',':','i','6','4','{','-',
       '9','2','2','3','3','7','2','0','3','6','8','5','4','7','7','5','8','0','8','}']).isPanic = true := by
  decide +kernel

/-- the largest literal is fine -/
example : (parseChars .panicOnOverflow
      ['d','e','f',' ','m','(',')',':','i','6','4','{','-',
       '9','2','2','3','3','7','2','0','3','6','8','5','4','7','7','5','8','0','7','}']).isOk = true := by
  decide +kernel

/-- The parser statement is false for the unwrapping action. -/
theorem C18_parse_statement_false : ¬ C18_parse_statement .panicOnOverflow := by
  intro h
  have hw := C18_literal_witness
  cases hp : parseChars .panicOnOverflow C18_literalWitnessSrc with
  | ok a => rw [hp] at hw; exact absurd hw (by simp [Outcome.isPanic])
  | diag c => rw [hp] at hw; exact absurd hw (by simp [Outcome.isPanic])
  | panic site =>
    apply h (String.ofList C18_literalWitnessSrc) site
    unfold parse
    rw [String.toList_ofList]
    exact hp

/-- C18-T1 `lex_parse_total`: lexer and parser are total functions (by construction) and the literal
conversion is the only panic: if the parser panics on `src`, the token stream of `src` contains a
number token whose value does not fit `i64`. -/
theorem C18_lex_parse_total (mode : LiteralMode) (src : String)
    (h : (parse mode src).isPanic = true) :
    mode = .panicOnOverflow ∧
      ∃ ds, Token.num ds ∈ lexStream src.toList ∧ i64Max < digitsToNat ds := by
  cases hp : parse mode src with
  | ok a => rw [hp] at h; exact absurd h (by simp [Outcome.isPanic])
  | diag c => rw [hp] at h; exact absurd h (by simp [Outcome.isPanic])
  | panic site => exact parseTokens_panic hp

/-- non-vacuity of `C18_lex_parse_total`: the witness input satisfies the hypothesis -/
example : (parse .panicOnOverflow (String.ofList C18_literalWitnessSrc)).isPanic = true := by
  unfold parse
  rw [String.toList_ofList]
  exact C18_literal_witness

/-- Contrapositive: a text all of whose number tokens fit `i64` is parsed to a program or a
diagnostic. -/
theorem C18_parse_no_panic_in_range (mode : LiteralMode) (src : String)
    (h : ∀ ds, Token.num ds ∈ lexStream src.toList → digitsToNat ds ≤ i64Max) :
    ∀ site, parse mode src ≠ .panic site := by
  intro site hp
  have ⟨_, ds, hm, ho⟩ := C18_lex_parse_total mode src (by rw [hp]; rfl)
  have := h ds hm
  omega

/-- non-vacuity: `def m():i64{7}` has only in-range literals -/
example : ∀ ds, Token.num ds ∈ lexStream ['d','e','f',' ','m','(',')',':','i','6','4','{','7','}'] →
    digitsToNat ds ≤ i64Max := by
  have h : lexStream ['d','e','f',' ','m','(',')',':','i','6','4','{','7','}'] =
      [.kw .def_, .lower ['m'], .lparen, .rparen, .colon, .kw .i64, .lbrace, .num ['7'], .rbrace] := by
    decide +kernel
  intro ds hm
  rw [h] at hm
  simp at hm
  subst hm
  decide

/-- C18, parser part, FULL statement for the repaired literal action: no input text panics. -/
theorem C18_parse_statement_fixed : C18_parse_statement .diagOnOverflow := by
  intro src site hp
  have := (C18_lex_parse_total .diagOnOverflow src (by rw [hp]; rfl)).1
  exact absurd this (by decide)

/-- Every outcome of the model parser is a program, a diagnostic or the literal panic (the "either a
program or a reported error" part, by construction of `Outcome`). -/
theorem C18_outcome_cases (mode : LiteralMode) (src : String) :
    (∃ p, parse mode src = .ok p) ∨ (∃ c, parse mode src = .diag c) ∨
      parse mode src = .panic .literal := by
  cases parse mode src with
  | ok p => exact .inl ⟨p, rfl⟩
  | diag c => exact .inr (.inl ⟨c, rfl⟩)
  | panic s => cases s; exact .inr (.inr rfl)

#print axioms C18_literal_witness
#print axioms C18_min_literal_witness
#print axioms C18_parse_statement_false
#print axioms C18_lex_parse_total
#print axioms C18_parse_no_panic_in_range
#print axioms C18_parse_statement_fixed
#print axioms C18_outcome_cases

end Scc.Props

#print axioms Scc.Props.C18_literal_witness_fixed
