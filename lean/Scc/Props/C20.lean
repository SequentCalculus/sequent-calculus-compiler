/-
  Scc.Props.C20 — the C runtime contract (io.c, driver-template.c, generate_c_driver).

  Property C20 (as given): `print_i64`/`println_i64` write exactly the decimal representation of every
  64-bit value (println: plus '\n'); the driver converts every command line argument to the parameter
  it denotes, rejects a wrong argument count with the fixed message and status 1, and exits with the
  low byte of the value returned by `asm_main`.

  What is proved, per variant of the code (model: Scc.Runtime.Model).  With the signed negation
  `value = -value` in io.c and `atoi` in the driver (the current sources have the `uint64_t` loop and
  `strtoll`: generated facts `C20_neg_style_safe`, `C20_arg_conv_wide`, Props/C20Full.lean):
    * C20_print_partial        all values except INT64_MIN, every capacity ≥ 20            (proved)
    * C20_min_witness / C20_print_statement_false
                               INT64_MIN: `value = -value` is signed overflow = UB        (statement FALSE)
      observed on the machine: that io.c, compiled with gcc -O0, prints for print_i64(INT64_MIN) the 20 bytes  -'..--).0-*(+,))+(0(
      (hex 2d272e2e2d2d292e302d2a282b2c29292b283028: every "digit" is '0' - d because the remainders are
      negative); gcc -O2 happens to print -9223372036854775808. Either is allowed by UB.
    * C20_cap19_insufficient / C20_cap_iff   MAX_DIGITS_INT = 20 is exactly the least sufficient capacity
    * C20_print_fixed_full     the loop with the magnitude in uint64_t: the FULL statement      (proved)
    * C20_arg_partial          arguments in [-2^31, 2^31)                                 (proved)
    * C20_atoi_witness / C20_arg_statement_false
                               `atoi` truncates to `int`: 2147483648 arrives as -2147483648  (statement FALSE)
    * C20_strtoll_full         with `strtoll` instead of `atoi` the round trip holds on all of int64
    * C20_wrong_argc, C20_exit_status, C20_driver_roundtrip                                (proved)
-/
import Scc.Runtime.Model
import Scc.Runtime.SpellingProofs

namespace Scc.Props
open Scc.Runtime

/-- C20, printing part, full statement: every 64-bit value. -/
def C20_print_statement (cap : Nat) : Prop :=
  ∀ v : BitVec 64,
    printI64 cap v = .ok (decSpec v.toInt) ∧ printlnI64 cap v = .ok (decSpec v.toInt ++ [10])

/-- Same statement for the repaired functions. -/
def C20_print_fixed_statement (cap : Nat) : Prop :=
  ∀ v : BitVec 64,
    printI64Fixed cap v = .ok (decSpec v.toInt) ∧
    printlnI64Fixed cap v = .ok (decSpec v.toInt ++ [10])

/-- Signed negation (`value = -value`), every capacity ≥ 20, all 2^64 − 1 values other than INT64_MIN (by induction on
the magnitude, no enumeration). `20 ≤ cap` is what excludes the buffer under-run:
`|decSpec v| ≤ 20` including the sign. MISSING w.r.t. `C20_print_statement`: `v = INT64_MIN`, for
which the statement is false (`C20_min_witness`). -/
theorem C20_print_partial {cap : Nat} (hcap : 20 ≤ cap) :
    ∀ v : BitVec 64, v ≠ INT64_MIN →
      printI64 cap v = .ok (decSpec v.toInt) ∧ printlnI64 cap v = .ok (decSpec v.toInt ++ [10]) := by
  intro v hv
  have hlen : (decSpec v.toInt).length ≤ cap := Nat.le_trans (length_decSpec_le_20 v) hcap
  constructor
  · simp only [printI64, printSigned_eq cap [] v hv, if_pos hlen, List.append_nil]
  · simp only [printlnI64, printSigned_eq cap [10] v hv, if_pos hlen]

/-- Exact behaviour for any capacity (v ≠ INT64_MIN): spec output iff it fits, else under-run. -/
theorem C20_print_any_cap (cap : Nat) (v : BitVec 64) (hv : v ≠ INT64_MIN) :
    printI64 cap v =
      if (decSpec v.toInt).length ≤ cap then .ok (decSpec v.toInt) else .ub "buffer-underflow" := by
  simp only [printI64, printSigned_eq cap [] v hv, List.append_nil]

/-- The real defect: negating INT64_MIN is signed overflow. -/
theorem C20_min_witness : printI64 20 INT64_MIN = .ub "neg-overflow" :=
  printSigned_min 20 []

theorem C20_min_witness_any_cap (cap : Nat) :
    printI64 cap INT64_MIN = .ub "neg-overflow" ∧ printlnI64 cap INT64_MIN = .ub "neg-overflow" :=
  ⟨printSigned_min cap [], printSigned_min cap [10]⟩

/-- Hence the full statement is FALSE for the signed negation (for MAX_DIGITS_INT = 20 and for any other
capacity). -/
theorem C20_print_statement_false (cap : Nat) : ¬ C20_print_statement cap := by
  intro h
  have h1 := (h INT64_MIN).1
  rw [(C20_min_witness_any_cap cap).1] at h1
  exact Out.noConfusion h1

theorem C20_print_statement_false_20 : ¬ C20_print_statement 20 := C20_print_statement_false 20

def negTenPow18 : BitVec 64 := BitVec.ofInt 64 (-1000000000000000000)

theorem toInt_negTenPow18 : negTenPow18.toInt = -1000000000000000000 := by decide

theorem length_decSpec_negTenPow18 : (decSpec negTenPow18.toInt).length = 20 := by
  rw [toInt_negTenPow18]
  have h1 : ¬ (decNat 1000000000000000000).length ≤ 18 := by
    rw [length_decNat_le_iff (by decide)]; decide
  have h2 : (decNat 1000000000000000000).length ≤ 19 := by
    rw [length_decNat_le_iff (by decide)]; decide
  have : decSpec (-1000000000000000000) = 45 :: decNat 1000000000000000000 := by
    unfold decSpec; rw [if_pos (by decide)]; rfl
  rw [this, List.length_cons]; omega

/-- A 19-byte buffer is not enough: −10^18 has 19 digits and a sign. -/
theorem C20_cap19_insufficient :
    ∃ v : BitVec 64, v ≠ INT64_MIN ∧ printI64 19 v = .ub "buffer-underflow" := by
  refine ⟨negTenPow18, by decide, ?_⟩
  rw [C20_print_any_cap 19 negTenPow18 (by decide), length_decSpec_negTenPow18]
  rfl

/-- `20` is exactly the least capacity for which the partial statement holds. -/
theorem C20_cap_iff (cap : Nat) :
    (∀ v : BitVec 64, v ≠ INT64_MIN → printI64 cap v = .ok (decSpec v.toInt)) ↔ 20 ≤ cap := by
  constructor
  · intro h
    have h1 := h negTenPow18 (by decide)
    rw [C20_print_any_cap cap negTenPow18 (by decide), length_decSpec_negTenPow18] at h1
    by_cases hc : 20 ≤ cap
    · exact hc
    · rw [if_neg hc] at h1; exact Out.noConfusion h1
  · intro h v hv; exact (C20_print_partial h v hv).1

/-- The repaired loop (magnitude computed as `0 - (uint64_t)value`): the FULL statement, all 2^64 values
including INT64_MIN.  (The loop of the current io.c: `C20_neg_style_safe`, Props/C20Full.lean.) -/
theorem C20_print_fixed_full {cap : Nat} (hcap : 20 ≤ cap) : C20_print_fixed_statement cap := by
  intro v
  have hlen : (decSpec v.toInt).length ≤ cap := Nat.le_trans (length_decSpec_le_20 v) hcap
  constructor
  · simp only [printI64Fixed, printUnsignedMag_eq cap [] v, if_pos hlen, List.append_nil]
  · simp only [printlnI64Fixed, printUnsignedMag_eq cap [10] v, if_pos hlen]

/-- The two loops agree wherever the one with the signed negation is defined. -/
theorem C20_fixed_agrees (cap : Nat) (v : BitVec 64) (hv : v ≠ INT64_MIN) :
    printI64Fixed cap v = printI64 cap v ∧ printlnI64Fixed cap v = printlnI64 cap v := by
  simp only [printI64Fixed, printlnI64Fixed, printI64, printlnI64, printUnsignedMag_eq,
    printSigned_eq _ _ v hv, and_self]

/-- C20, argument part, full statement: every int64 written in decimal arrives unchanged. -/
def C20_arg_statement : Prop :=
  ∀ v : Int, -2 ^ 63 ≤ v → v < 2 ^ 63 → argToParam (decSpec v) = v

/-- Conversion with `atoi`: arguments that fit into a C `int`.
MISSING w.r.t. `C20_arg_statement`: 2^31 ≤ |v| (false there, `C20_atoi_witness`). -/
theorem C20_arg_partial : ∀ v : Int, -2 ^ 31 ≤ v → v < 2 ^ 31 → argToParam (decSpec v) = v := by
  intro v h1 h2
  rw [argToParam_decSpec (by omega) (by omega), toInt_ofInt32_of_range h1 h2]

/-- The real defect: `atoi` truncates; "2147483648" is passed as −2147483648. -/
theorem C20_atoi_witness : argToParam (decSpec (2 ^ 31)) ≠ 2 ^ 31 := by
  rw [argToParam_decSpec (by decide) (by decide)]
  decide

theorem C20_atoi_witness_value : argToParam (decSpec (2 ^ 31)) = -2 ^ 31 := by
  rw [argToParam_decSpec (by decide) (by decide)]
  decide

theorem C20_arg_statement_false : ¬ C20_arg_statement := fun h =>
  C20_atoi_witness (h (2 ^ 31) (by decide) (by decide))

/-- What the driver would do with `strtoll` in place of `atoi`: exact on all of int64
(induction over the digits, unbounded parse, then saturation is the identity in range). -/
theorem C20_strtoll_full : ∀ v : Int, -2 ^ 63 ≤ v → v < 2 ^ 63 → strtollModel (decSpec v) = v :=
  fun _ h1 h2 => strtollModel_decSpec h1 h2

theorem C20_wrong_argc (n : Nat) (argv : List (List UInt8)) (f : List Int → (List UInt8 × Int))
    (h : argv.length ≠ 1 + n) : driverMain n argv f = (errorBytes, 1) := by
  unfold driverMain; rw [if_pos h]

/-- The message is 26 characters and the NUL terminator. -/
theorem C20_errorBytes_length : errorBytes.length = 27 ∧ errorBytes.getLast? = some 0 := by decide

/-- Exit status = low 8 bits of the two's-complement return value (as a number in 0..255; `%` on `Int`
is the non-negative remainder, so −1 gives 255); stdout is what `asm_main` wrote. -/
theorem C20_exit_status (n : Nat) (argv : List (List UInt8)) (f : List Int → (List UInt8 × Int))
    (h : argv.length = 1 + n) :
    (driverMain n argv f).2 = ((f ((argv.drop 1).map argToParam)).2 % 256).toNat ∧
    (driverMain n argv f).1 = (f ((argv.drop 1).map argToParam)).1 := by
  unfold driverMain
  rw [if_neg (by omega)]
  exact ⟨exitStatus_eq _, rfl⟩

theorem C20_exit_status_lt (n : Nat) (argv : List (List UInt8)) (f : List Int → (List UInt8 × Int)) :
    (driverMain n argv f).2 < 256 := by
  unfold driverMain
  split
  · decide
  · exact exitStatus_lt _

/-- End to end for `int`-sized arguments: `prog v1 .. vn` (decimal) calls `asm_main` with `[v1, .., vn]`. -/
theorem C20_driver_roundtrip (prog : List UInt8) (vs : List Int) (f : List Int → (List UInt8 × Int))
    (hvs : ∀ v ∈ vs, -2 ^ 31 ≤ v ∧ v < 2 ^ 31) :
    driverMain vs.length (prog :: vs.map decSpec) f = ((f vs).1, ((f vs).2 % 256).toNat) := by
  have hmap : (vs.map decSpec).map argToParam = vs := by
    rw [List.map_map]
    conv => rhs; rw [← List.map_id vs]
    apply List.map_congr_left
    intro v hv
    exact C20_arg_partial v (hvs v hv).1 (hvs v hv).2
  unfold driverMain
  rw [if_neg (by simp; omega)]
  simp only [List.drop_succ_cons, List.drop_zero, hmap, exitStatus_eq]

-- C20_print_partial: the hypotheses are satisfiable (cap = MAX_DIGITS_INT = 20, v = −42) and the
-- conclusion is a concrete byte string.
example : (20 : Nat) ≤ maxDigitsInt ∧ (BitVec.ofInt 64 (-42)) ≠ INT64_MIN := by decide
example : decSpec (BitVec.ofInt 64 (-42)).toInt = [45, 52, 50] := by decide
example : printI64 20 (BitVec.ofInt 64 (-42)) = .ok [45, 52, 50] := by
  rw [(C20_print_partial (Nat.le_refl 20) _ (by decide)).1]; decide
example : printlnI64 20 (BitVec.ofInt 64 (-42)) = .ok [45, 52, 50, 10] := by
  rw [(C20_print_partial (Nat.le_refl 20) _ (by decide)).2]; decide
example : printI64 20 0 = .ok [48] := by
  rw [(C20_print_partial (Nat.le_refl 20) _ (by decide)).1]; decide
-- the longest output: INT64_MIN + 1 needs all 20 bytes
example : (decSpec (INT64_MIN + 1).toInt).length = 20 := by decide
-- C20_print_fixed_full at INT64_MIN
example : printI64Fixed 20 INT64_MIN =
    .ok [45, 57, 50, 50, 51, 51, 55, 50, 48, 51, 54, 56, 53, 52, 55, 55, 53, 56, 48, 56] := by
  rw [(C20_print_fixed_full (Nat.le_refl 20) INT64_MIN).1]; decide
-- C20_print_any_cap / C20_cap_iff: hypothesis instance
example : negTenPow18 ≠ INT64_MIN := by decide
-- C20_arg_partial: −2^31 itself is in range and survives; so does "−7"
example : argToParam (decSpec (-2 ^ 31)) = -2 ^ 31 := C20_arg_partial _ (by decide) (by decide)
example : decSpec (-7) = [45, 55] := by decide
example : argToParam [45, 55] = -7 := by decide
-- atoi details: leading white space, '+', stop at the first non-digit, no digits = 0
example : argToParam [32, 9, 43, 49, 50, 120, 57] = 12 := by decide     -- " \t+12x9"
example : argToParam [45] = 0 := by decide                               -- "-"
example : argToParam [45, 45, 53] = 0 := by decide                       -- "--5"
-- saturation then truncation: "9223372036854775808" -> LONG_MAX -> (int) -1
example : strtollModel (decSpec (2 ^ 63)) = 2 ^ 63 - 1 := by
  rw [strtollModel, parseSigned_decSpec]; decide
example : argToParam (decSpec (2 ^ 63)) = -1 := by
  rw [argToParam, strtollModel, parseSigned_decSpec]; decide
-- C20_strtoll_full: INT64_MIN is in range
example : strtollModel (decSpec (-2 ^ 63)) = -2 ^ 63 := C20_strtoll_full _ (by decide) (by decide)
-- C20_wrong_argc / C20_exit_status: concrete runs (n = 1)
example : driverMain 1 [[112]] (fun _ => ([], 0)) = (errorBytes, 1) :=
  C20_wrong_argc 1 _ _ (by decide)
example : driverMain 1 [[112], [53]] (fun a => ([], a.headD 0 - 6)) = ([], 255) := by decide
example : ([[112], [53]] : List (List UInt8)).length = 1 + 1 := by decide
example : driverMain 2 [[112], [51], [52]] (fun a => ([], 256 * a.sum + 3)) = ([], 3) := by decide
-- C20_driver_roundtrip: hypothesis instance
example : ∀ v ∈ ([5, -6] : List Int), -2 ^ 31 ≤ v ∧ v < 2 ^ 31 := by decide

#print axioms C20_print_partial
#print axioms C20_print_any_cap
#print axioms C20_min_witness
#print axioms C20_print_statement_false
#print axioms C20_cap19_insufficient
#print axioms C20_cap_iff
#print axioms C20_print_fixed_full
#print axioms C20_fixed_agrees
#print axioms C20_arg_partial
#print axioms C20_atoi_witness
#print axioms C20_arg_statement_false
#print axioms C20_strtoll_full
#print axioms C20_wrong_argc
#print axioms C20_exit_status
#print axioms C20_exit_status_lt
#print axioms C20_driver_roundtrip

end Scc.Props
