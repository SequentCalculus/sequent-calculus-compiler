/-
  Scc.Props.C14LoaderRV — THE LOADER ROUND TRIP FOR RISC-V (a C14 fact: the emitted text is well-formed text that
  the machine's parser `Scc.RV.parseText` reads back as the emitted items), the RISC-V analogue of
  Props/C14Loader.lean (x86-64) and Props/C14LoaderA64*.lean (AArch64).  Everything is proved for ALL items /
  routines / programs, once and for all (no evaluation of the parser, no `native_decide`).

  PROVED
    strings (Scc/RV/LoaderLemmas.lean on top of Scc/StringLemmas.lean, Scc/StringLemmasAscii.lean):
      `C14R_words`             `words s = (wordsL s.toList).map String.ofList` for EVERY string (the blank-separated
                               non-empty pieces), `C14R_parseHook` (`parseHook s = parseHookL s.toList`, every string).
    per item (Scc/RV/LoaderInstr.lean):
      `C14R_parseLine_printCode`  every INSTRUCTION form of `RV.Code` (all 19; `ADDI` is printed `ADD rd rs imm` and
                               told from `ADD rd rs1 rs2` by its third operand; every `Int` immediate) whose registers
                               are `X0..X31` and whose label is text-safe: `parseLine (printCode c) = some (some c)`,
                               printed on ONE line;
      `C14R_label_lines`       `LAB l` = an empty line (skipped) and `l:` (read as `LAB l`);
      `C14R_comment_line`      `// m` is read as `COMMENT (rtrim m)` for EVERY `m` (no hypothesis);
      `C14R_hook_comment`      the backend's `#ctx [x:prd y:ext …]` hook of a context with white-space-free names is
                               read back verbatim, and `parseHook` gives exactly the kinds of the context.
    routine (Scc/RV/LoaderText.lean, LoaderCheck.lean):
      `C14R_loader`            = `C14R_loader_statement`: every routine that passes the decidable `C14R_routineTextOK`
                               LOADS (`C08_TextLoads`, Props/C08RVInt.lean: the three facts the C08 run theorems need);
      `C14R_loader_exact`      the parsed lines exactly, with their line numbers.
    THE STATEMENT `C08_loader_statement` OF Props/C08RVInt.lean IS FALSE — `C08_loader_statement_false` — its
    hypothesis `codeTextOK` is too weak in four ways, each a real failure of the model (`#eval`s at the end):
      (1) `into_rv64_routine` glues the header `// actual code` and the first printed item together WITHOUT a line
          break (`"// actual code".to_string() + &program`).  Only because a label is printed with a LEADING line
          break does the first item of a compiled routine stand on its own line; a routine that starts with anything
          else loses its first item to the comment (`C14R_headLabel_needed`: for EVERY such text-safe routine the
          loader reads one item fewer).  Compiled routines start with the label of the first definition.
      (2) registers beyond `X31` print but do not parse; (3) a label that starts with `//` is read as a comment;
      (4) a comment `#ctx [` … that is not a well-formed hook is a parse error in `layout`.
    The corrected hypothesis is `C14R_routineTextOK` (head label + per item: registers, labels, comments).
  EVERY COMPILED ROUTINE (second part of this file; nothing is evaluated on the routine, the parser is never run):
      `C14R_namesTextSafe p : Bool`  the names check on the PROGRAM (`progNamesOK okcR`, as for AArch64 with a larger
                               character class: no white space, not `/`, not `#` — a superset of the AArch64
                               class `okcA`, which moreover excludes `, : [ ] ! .`: `C14R_names_of_A64names`,
                               every program that passes the AArch64 names check passes this one);
      `C14R_routine_textOK`    every routine the backend model emits (`compile rvBackend`, both hook settings, every
                               counter start, programs of ANY size) passes `C14R_routineTextOK`.  Through
                               Scc/RV/LoaderNames.lean: `opsNamesC_rv` (the RISC-V instance of the generic lifting
                               `Backend.NamesC.post_compileR_namesC`: labels, comments), `opsSat_rv_regs` (the instance of
                               `X86.OpsSat`/`post_compileR`: every register is `X0..X3` or comes from
                               `positionRegister`, which panics instead of going beyond `X31`), `post_compileR_head`
                               (the code starts with the label of the first definition);
      `C14R_routine_loads`, `C14R_routine_loads_exact`, `C14R_routine_run`.
    C08 ON THE TEXT: `C08_programs_routine_text`, `C08_programs_text_loaded` (= `C08_programs_text` WITHOUT its
      hypothesis `C08_TextLoads`), `C08_programs_live_text` (with the static bound `LiveAtMost`): a terminating run
      of the AxCut positional machine is reproduced by `RV.run` on the text of `compileRoutine`; no hypothesis about
      the parser is left.  Non-vacuity: the two closure programs of Props/C08RVClo.lean, run on their texts.
  WHY `#` AND `/` ARE EXCLUDED FROM NAMES: a definition `//f` gives the label `//f_`, read as a comment
    (`C14R_names_needed`); `#`: the generic lifting asks for it (the `op` / `call` comments start with a name; a
    white-space-free name cannot make them start with `#ctx [`, so this exclusion is a convenience, not a need).
  NOT proved: that every program the front end accepts has text-safe names at stage 5 (a per-program check, as
    for the other two backends).  The corrected statement `C14R_loader_statement` is proved (`C14R_loader`).
-/
import Scc.RV.LoaderNames
import Scc.A64.LoaderA64Names
import Scc.Props.C08RVClo

namespace Scc.RV

open Scc.RV.Loader Scc.RV.Ref
open Scc.AxCut Scc.Backend
open Scc.Props.C06Generic (Reachable)
open Scc.Props.C14Generic (LabelSafe)

theorem C14R_words (s : String) : words s = (wordsL s.toList).map String.ofList := words_eq s

theorem C14R_parseHook (s : String) : parseHook s = parseHookL s.toList := parseHook_eq s

example : wordsL "  ADD X1   X2 3 ".toList = ["ADD".toList, "X1".toList, "X2".toList, "3".toList] := by decide

/-! ## the decidable text-safety predicates (Scc/RV/LoaderCheck.lean) -/

/-- text-safety of one item: registers `X0..X31`; a referenced label is non-empty without white space; a defined
    label moreover does not start with `//`; a comment has no line break and is not a malformed `#ctx [` hook -/
abbrev C14R_itemTextOK (c : Code) : Bool := itemTextOK c

/-- text-safety of a routine: it is empty or starts with a label, and every item is text-safe -/
abbrev C14R_routineTextOK (instrs : List Code) : Bool := routineTextOK instrs

/-- every instruction whose registers exist and whose label is text-safe is read back; its printed form is one
    line -/
theorem C14R_parseLine_printCode (c : Code) (hi : c.isInstr = true) (h : C14R_itemTextOK c = true) :
    parseLine (printCode c) = some (some c) ∧ '\n' ∉ (printCode c).toList :=
  let ok := codeOK_of_itemTextOK h
  reads_instr c hi ok.regs ok.ref

example : parseLine (printCode (.ADDI ⟨1⟩ ⟨5⟩ (-2048))) = some (some (.ADDI ⟨1⟩ ⟨5⟩ (-2048))) :=
  (C14R_parseLine_printCode _ rfl (by decide)).1

example : parseLine (printCode (.ADD ⟨1⟩ ⟨5⟩ ⟨31⟩)) = some (some (.ADD ⟨1⟩ ⟨5⟩ ⟨31⟩)) :=
  (C14R_parseLine_printCode _ rfl (by decide)).1

example : parseLine (printCode (.SW ⟨0⟩ ⟨2⟩ 56)) = some (some (.SW ⟨0⟩ ⟨2⟩ 56)) :=
  (C14R_parseLine_printCode _ rfl (by decide)).1

example : parseLine (printCode (.LI ⟨7⟩ (-9223372036854775808))) = some (some (.LI ⟨7⟩ (-9223372036854775808))) :=
  (C14R_parseLine_printCode _ rfl (by decide)).1

example : parseLine (printCode (.BLE ⟨4⟩ ⟨0⟩ "List_3_Cons")) = some (some (.BLE ⟨4⟩ ⟨0⟩ "List_3_Cons")) :=
  (C14R_parseLine_printCode _ rfl (by decide)).1

/-- a label is printed as an empty line (skipped by the loader) and `l:` (read as the label) -/
theorem C14R_label_lines (l : String) (h : C14R_itemTextOK (.LAB l) = true) :
    printCode (.LAB l) = "\n" ++ (l ++ ":") ∧ parseLine "" = some none ∧
    parseLine (l ++ ":") = some (some (.LAB l)) ∧ '\n' ∉ (l ++ ":").toList :=
  let ok := (codeOK_of_itemTextOK h).lab l rfl
  ⟨printCode_LAB l, parseLine_empty, parseLine_label ok, label_no_nl ok⟩

example : parseLine ("main_" ++ ":") = some (some (.LAB "main_")) := (C14R_label_lines _ (by decide)).2.2.1

/-- a comment line is read as the comment without its trailing white space — for EVERY comment text -/
theorem C14R_comment_line (m : String) :
    parseLine (printCode (.COMMENT m)) = some (some (.COMMENT (rtrimS m))) := by
  rw [printCode_COMMENT]; exact parseLine_comment m

/-- the backend's `verif_hooks` comment of a context whose variable names contain no white space is read back
    verbatim, and the hook reader gives exactly the kinds of the context (`true` = heap pointer) -/
theorem C14R_hook_comment (ctx : Scc.AxCut.Ctx) (h : ∀ b ∈ ctx, ∀ c ∈ b.var.print.toList, c.isWhitespace = false) :
    parseLine (printCode (.COMMENT (Scc.Backend.ctxHookComment ctx)))
      = some (some (.COMMENT (Scc.Backend.ctxHookComment ctx))) ∧
    parseHook (Scc.Backend.ctxHookComment ctx) = some (some (ctx.map fun b => chiPtr b.chi)) := by
  obtain ⟨_, h2, h3⟩ := parseHookL_hook ctx h
  refine ⟨?_, by rw [parseHook_eq, h3]⟩
  rw [C14R_comment_line]
  unfold rtrimS
  rw [h2, String.ofList_toList]

example : parseHook (Scc.Backend.ctxHookComment [⟨⟨"x", 41⟩, .ext, .i64⟩, ⟨⟨"k:0", 0⟩, .cns, .i64⟩])
    = some (some [false, true]) :=
  (C14R_hook_comment _ (by decide)).2

/-- THE LOADER FACT, corrected (see the header for why `C08_loader_statement` is false): every routine that
    passes the decidable `C14R_routineTextOK` loads -/
def C14R_loader_statement : Prop :=
  ∀ instrs : List Code, C14R_routineTextOK instrs = true → C08_TextLoads instrs

/-- **THE LOADER ROUND TRIP** -/
theorem C14R_loader : C14R_loader_statement :=
  fun instrs h => textLoads_of_routineTextOK instrs h

/-- the parsed lines exactly: the header comment at line 1, the items of the routine in order (a comment without
    its trailing white space; a label takes two lines, the first one blank), a blank line, `cleanup:` -/
theorem C14R_loader_exact (instrs : List Code) (h : C14R_routineTextOK instrs = true) :
    parseText (intoRoutine instrs) = .ok (numberOpt 1 (routineParsed instrs)) ∧
    (numberOpt 1 (routineParsed instrs)).map (·.2)
      = [Code.COMMENT "actual code"] ++ instrs.map parsedCode ++ [Code.LAB "cleanup"] := by
  simp only [routineTextOK, Bool.and_eq_true, List.all_eq_true] at h
  exact ⟨parseText_intoRoutine instrs (headLabel_of_B h.1) (fun c hc => codeOK_of_itemTextOK (h.2 c hc)),
    routine_codes (headLabel_of_B h.1)⟩

/-- … hence the machine on the text is the machine on these lines -/
theorem C14R_run (instrs : List Code) (h : C14R_routineTextOK instrs = true) (args : List Word) (fuel : Nat)
    (cfg : MonCfg) (hwf : cfg.wf = false) :
    run (intoRoutine instrs) args fuel cfg = runLines (numberOpt 1 (routineParsed instrs)) args fuel cfg :=
  run_eq_runLines (C14R_loader_exact instrs h).1 args fuel cfg hwf

/-- a text-safe routine: labels, a hook, comments, every instruction form -/
def C14R_loaderExample : List Code :=
  [.LAB "main_", .COMMENT "#ctx [x_1:ext k:cns]", .COMMENT "lit x <- 5;", .LI ⟨5⟩ (-3), .ADDI ⟨1⟩ ⟨5⟩ 2047,
   .ADD ⟨6⟩ ⟨5⟩ ⟨1⟩, .SUB ⟨6⟩ ⟨5⟩ ⟨1⟩, .MUL ⟨6⟩ ⟨5⟩ ⟨1⟩, .DIV ⟨6⟩ ⟨5⟩ ⟨1⟩, .REM ⟨6⟩ ⟨5⟩ ⟨1⟩, .MV ⟨7⟩ ⟨0⟩,
   .LW ⟨6⟩ ⟨2⟩ 8, .SW ⟨0⟩ ⟨2⟩ 56, .LA ⟨1⟩ "Fun_0", .JALR ⟨0⟩ ⟨1⟩ 0, .BEQ ⟨5⟩ ⟨0⟩ "lab0", .BNE ⟨5⟩ ⟨0⟩ "lab0",
   .BLT ⟨5⟩ ⟨0⟩ "lab0", .BLE ⟨5⟩ ⟨0⟩ "lab0", .BGT ⟨5⟩ ⟨0⟩ "lab0", .BGE ⟨5⟩ ⟨0⟩ "lab0", .LAB "Fun_0",
   .JAL ⟨0⟩ "Fun_0_Ap", .LAB "Fun_0_Ap", .COMMENT "######check refcount   ", .JAL ⟨0⟩ "cleanup", .LAB "lab0"]

theorem C14R_loaderExample_textOK : C14R_routineTextOK C14R_loaderExample = true := by decide +kernel

example : C08_TextLoads C14R_loaderExample := C14R_loader _ C14R_loaderExample_textOK

example : ∃ ls, parseText (intoRoutine C14R_loaderExample) = .ok ls ∧ ls.length = 29 := by
  refine ⟨_, (C14R_loader_exact _ C14R_loaderExample_textOK).1, ?_⟩
  decide

/-! ## the first item of a routine must be a label; `C08_loader_statement` is false -/

/-- for EVERY routine of text-safe items whose first item is not a label, the loader reads one item fewer than
    the routine has: the first item is swallowed by the header comment -/
theorem C14R_headLabel_needed (c : Code) (cs : List Code) (hc : ∀ l, c ≠ .LAB l)
    (h : ∀ x ∈ c :: cs, C14R_itemTextOK x = true) : ¬ C08_TextLoads (c :: cs) := by
  have hcl : codeLines c = [printCode c] := by
    cases c <;> first | rfl | exact absurd rfl (hc _)
  rintro ⟨lines, hparse, hcodes, _⟩
  rw [parseText_swallow c cs hcl (fun x hx => codeOK_of_itemTextOK (h x hx))] at hparse
  injection hparse with hparse
  have hlen := congrArg List.length hcodes
  simp only [List.length_map, List.length_append, List.length_cons, List.length_nil] at hlen
  rw [← hparse, swallow_length] at hlen
  omega

/-- **`C08_loader_statement` (Props/C08RVInt.lean) is false**: the one-instruction routine `LI X5 0` passes its
    hypothesis `codeTextOK`, but its text is `// actual codeLI X5 0`, a blank line, `cleanup:` -/
theorem C08_loader_statement_false : ¬ C08_loader_statement := by
  intro hall
  exact C14R_headLabel_needed (.LI ⟨5⟩ 0) [] (fun l h => by cases h) (by decide)
    (hall [.LI ⟨5⟩ 0] (by decide))

/-! ## every compiled routine loads -/

/-- **the decidable hypothesis on the names of the linearized program** (`progNamesOK okcR`,
    Scc/X86/LoaderNames.lean): every identifier (definition names, variables, xtor tags) consists of characters in
    `okcR` — no white space, not `/`, not `#` —, type names have no line break, the mangled name of every type a
    `switch`/`create` dispatches on consists of `okcR` characters -/
def C14R_namesTextSafe (p : AxCut.Prog) : Bool := Scc.X86.Loader.progNamesOK okcR p

/-- every program that passes the names check of the AArch64 loader (`C14A_namesTextSafe` = `progNamesOK okcA`,
    Props/C14LoaderA64Names.lean: evaluated on every front-end-accepted program of the corpus, all pass) passes
    the RISC-V one: the character class `okcA` is contained in `okcR` -/
theorem C14R_names_of_A64names {p : AxCut.Prog}
    (h : Scc.X86.Loader.progNamesOK Scc.A64.Loader.okcA p = true) : C14R_namesTextSafe p = true :=
  progNamesOK_mono (fun c hc => by
    have h1 := Scc.A64.Loader.okcA_facts hc
    have h2 := Scc.A64.Loader.labelC_facts h1.1
    simp only [okcR, Bool.and_eq_true, bne_iff_ne, ne_eq, Bool.not_eq_true']
    exact ⟨⟨h2.2.1, h1.2.2.1⟩, h1.2.2.2⟩) h

section
variable {p : AxCut.Prog} {hooks : Bool} {c0 : Nat} {instrs : List Code} {nargs cX : Nat}

/-- every routine the backend model emits for a program with text-safe names is text-safe: it starts with the
    label of the first definition, every register is one of `X0..X31` (`positionRegister` panics otherwise),
    every label is `<def>_`, `lab<n>`, `<mangled type>_<n>`, `<base>_<xtor>` or `cleanup`, every comment is a
    literal, a statement rendering without line break, or a well-formed hook -/
theorem C14R_routine_textOK (hnames : C14R_namesTextSafe p = true)
    (h : (compile rvBackend hooks p).run c0 = .ok ((instrs, nargs), cX)) : C14R_routineTextOK instrs = true :=
  compile_textOK hnames h

/-- **EVERY ROUTINE OF THE RISC-V BACKEND MODEL LOADS** -/
theorem C14R_routine_loads (hnames : C14R_namesTextSafe p = true)
    (h : (compile rvBackend hooks p).run c0 = .ok ((instrs, nargs), cX)) : C08_TextLoads instrs :=
  C14R_loader instrs (C14R_routine_textOK hnames h)

/-- … with the parsed lines exactly -/
theorem C14R_routine_loads_exact (hnames : C14R_namesTextSafe p = true)
    (h : (compile rvBackend hooks p).run c0 = .ok ((instrs, nargs), cX)) :
    parseText (intoRoutine instrs) = .ok (numberOpt 1 (routineParsed instrs)) :=
  (C14R_loader_exact instrs (C14R_routine_textOK hnames h)).1

/-- … and the machine on its text is the machine on these lines -/
theorem C14R_routine_run (hnames : C14R_namesTextSafe p = true)
    (h : (compile rvBackend hooks p).run c0 = .ok ((instrs, nargs), cX))
    (args : List Word) (fuel : Nat) (cfg : MonCfg) (hwf : cfg.wf = false) :
    run (intoRoutine instrs) args fuel cfg = runLines (numberOpt 1 (routineParsed instrs)) args fuel cfg :=
  C14R_run instrs (C14R_routine_textOK hnames h) args fuel cfg hwf
end

/-! ## C08 end to end ON THE TEXT, no hypothesis about the loader -/

/-- THEOREM A ∘ THEOREM B FOR ALL PROGRAMS ON THE TEXT of `compileRoutine`: a terminating run of the AxCut positional
machine with result `v` is reproduced by `RV.run` on the emitted text (it reaches `cleanup` with `v` in `X10`).
`C08_programs_text` (Props/C08RVClo.lean) with its loader hypothesis `C08_TextLoads` DISCHARGED by the round trip
(`C14R_routine_loads`) from the decidable names check `C14R_namesTextSafe`; the size hypothesis `hfitX` is asked
of the emitted code only.  The other hypotheses are those of `C08_programs_checked`: integer parameters of the first
definition (`hentry`), the heap region below 2^63 (`htop`), 64·15 bytes of heap per step of the run (`hbytes`). -/
theorem C08_programs_routine_text (p : AxCut.Prog) (args : List Word) (hooks : Bool) (counter : Nat)
    (instrs : List Code) (nargs cX : Nat) (d0 : Def)
    (hsafe : LabelSafe p = true) (htp : LinTypedProg p) (hsize : C08_sizeCheck p = true)
    (hnames : C14R_namesTextSafe p = true)
    (hcompX : (compile rvBackend hooks p).run counter = .ok ((instrs, nargs), cX))
    (hfitX : codeBase + 4 * instrs.length < 2 ^ 64)
    (hd : p.defs.head? = some d0) (hentry : ∀ b ∈ d0.ctx, b.chi = .ext ∧ b.ty = .i64)
    (hcap : ∀ st, Reachable p ⟨d0.ctx, args.map .int, d0.body⟩ st → st.ctx.length ≤ maxVariables)
    (fuel : Nat) (v : Word)
    (hrun : (Pos.run p args fuel).res = .done v)
    (mc : MonCfg) (hheap : mc.heap = false) (hwf : mc.wf = false) (htop : heapBase + mc.heapBytes ≤ 2 ^ 63)
    (hbytes : 128 + 64 * 15 * fuel ≤ mc.heapBytes) :
    ∃ fuel', (run (intoRoutine instrs) args fuel' mc).res = .done v := by
  obtain ⟨lines, hparse, hlines, hhook⟩ := C14R_routine_loads hnames hcompX
  obtain ⟨fuel', hf⟩ := C08_programs_checked p args hooks instrs [Code.COMMENT "actual code"] nargs cX d0
    hsafe htp hsize hcompX hfitX hd hentry hcap fuel v hrun mc hheap htop hbytes
    lines (fun c hc => by simp at hc; subst hc; rfl) hlines hhook
  exact ⟨fuel', by rw [run_eq_runLines hparse args fuel' mc hwf]; exact hf⟩

/-- `C08_programs_text` WITHOUT its hypothesis `hload` (`C08_TextLoads`): the names check instead -/
theorem C08_programs_text_loaded (p : AxCut.Prog) (args : List Word) (hooks : Bool) (counter : Nat) (text : String)
    (nargs : Nat) (d0 : Def)
    (hsafe : LabelSafe p = true) (htp : LinTypedProg p) (hsize : C08_sizeCheck p = true)
    (hnames : C14R_namesTextSafe p = true)
    (hcompX : compileRoutine p hooks counter = .ok (nargs, text))
    (hfitX : ∀ instrs, intoRoutine instrs = text → codeBase + 4 * instrs.length < 2 ^ 64)
    (hd : p.defs.head? = some d0) (hentry : ∀ b ∈ d0.ctx, b.chi = .ext ∧ b.ty = .i64)
    (hcap : ∀ st, Reachable p ⟨d0.ctx, args.map .int, d0.body⟩ st → st.ctx.length ≤ maxVariables)
    (fuel : Nat) (v : Word)
    (hrun : (Pos.run p args fuel).res = .done v)
    (mc : MonCfg) (hheap : mc.heap = false) (hwf : mc.wf = false) (htop : heapBase + mc.heapBytes ≤ 2 ^ 63)
    (hbytes : 128 + 64 * 15 * fuel ≤ mc.heapBytes) :
    ∃ fuel', (run text args fuel' mc).res = .done v := by
  unfold compileRoutine at hcompX
  cases hx : (compile rvBackend hooks p).run counter with
  | error e => rw [hx] at hcompX; cases hcompX
  | ok r =>
    obtain ⟨⟨instrs, nargs'⟩, cX⟩ := r
    rw [hx] at hcompX
    simp only [Except.ok.injEq, Prod.mk.injEq] at hcompX
    obtain ⟨rfl, rfl⟩ := hcompX
    exact C08_programs_routine_text p args hooks counter instrs nargs' cX d0 hsafe htp hsize hnames hx
      (hfitX instrs rfl) hd hentry hcap fuel v hrun mc hheap hwf htop hbytes

/-- the same with the STATIC bound `LiveAtMost maxVariables p` of the C08 statement in place of the bound on the
    reachable states: every hypothesis is a decidable check on the program / the emitted code / the machine
    configuration, or the run itself -/
theorem C08_programs_live_text (p : AxCut.Prog) (args : List Word) (hooks : Bool) (counter : Nat)
    (instrs : List Code) (nargs cX : Nat) (d0 : Def)
    (hsafe : LabelSafe p = true) (htp : LinTypedProg p) (hsize : C08_sizeCheck p = true)
    (hlive : LiveAtMost maxVariables p) (hnames : C14R_namesTextSafe p = true)
    (hcompX : (compile rvBackend hooks p).run counter = .ok ((instrs, nargs), cX))
    (hfitX : codeBase + 4 * instrs.length < 2 ^ 64)
    (hd : p.defs.head? = some d0) (hentry : ∀ b ∈ d0.ctx, b.chi = .ext ∧ b.ty = .i64)
    (fuel : Nat) (v : Word)
    (hrun : (Pos.run p args fuel).res = .done v)
    (mc : MonCfg) (hheap : mc.heap = false) (hwf : mc.wf = false) (htop : heapBase + mc.heapBytes ≤ 2 ^ 63)
    (hbytes : 128 + 64 * 15 * fuel ≤ mc.heapBytes) :
    ∃ fuel', (run (intoRoutine instrs) args fuel' mc).res = .done v := by
  have hmem : d0 ∈ p.defs := by
    cases hdefs : p.defs with
    | nil => rw [hdefs] at hd; simp at hd
    | cons d ds => rw [hdefs] at hd; simp at hd; subst hd; simp
  exact C08_programs_routine_text p args hooks counter instrs nargs cX d0 hsafe htp hsize hnames hcompX hfitX hd
    hentry (C08_capacity_of_liveAtMost_all hlive hmem args) fuel v hrun mc hheap hwf htop hbytes

/-! ### non-vacuity -/

example : C14R_namesTextSafe C08_cloProg = true ∧ C14R_namesTextSafe C08_opsProg = true := by decide +kernel

/-- the closure program of Props/C08RVClo.lean (a closure stored in an object, loaded again, invoked), compiled
    WITH hooks, started with x = 37: `RV.run` ON THE EMITTED TEXT reaches `cleanup` with 42 in `X10` -/
example : ∃ text fuel', compileRoutine C08_cloProg true 0 = .ok (1, text) ∧
    (run text [37] fuel' {}).res = .done 42 := by
  have hcompX : ∃ k, (compile rvBackend true C08_cloProg).run 0 = .ok ((C08_cloInstrs, 1), k) := by
    rw [← rvBackendF_eq]; exact ⟨_, rfl⟩
  obtain ⟨cX, hcompX⟩ := hcompX
  have hc : compileRoutine C08_cloProg true 0 = .ok (1, intoRoutine C08_cloInstrs) := by
    unfold compileRoutine; rw [hcompX]
  have hrun : (Pos.run C08_cloProg [37] 20).res = .done 42 := by decide +kernel
  obtain ⟨fuel', h⟩ := C08_programs_live_text C08_cloProg [37] true 0 C08_cloInstrs 1 cX C08_cloMain
    (by decide +kernel) (linTypedCheck_sound C08_cloProg rfl) (by decide +kernel) C08_cloProg_live (by decide +kernel)
    hcompX C08_cloInstrs_fits rfl (by decide +kernel) 20 42 hrun {} rfl rfl (by decide +kernel) (by decide +kernel)
  exact ⟨_, fuel', hc, h⟩

/-- the two-method program (`add_and_jump` through the method table), x = 21 -/
example : ∃ fuel', (run (intoRoutine C08_opsInstrs) [21] fuel' {}).res = .done 42 := by
  have hcompX : ∃ k, (compile rvBackend true C08_opsProg).run 0 = .ok ((C08_opsInstrs, 1), k) := by
    rw [← rvBackendF_eq]; exact ⟨_, rfl⟩
  obtain ⟨cX, hcompX⟩ := hcompX
  have hrun : (Pos.run C08_opsProg [21] 20).res = .done 42 := by decide +kernel
  exact C08_programs_live_text C08_opsProg [21] true 0 C08_opsInstrs 1 cX C08_opsMain
    (by decide +kernel) (linTypedCheck_sound C08_opsProg rfl) (by decide +kernel) C08_opsProg_live (by decide +kernel)
    hcompX C08_opsInstrs_fits rfl (by decide +kernel) 20 42 hrun {} rfl rfl (by decide +kernel) (by decide +kernel)

/-! ### the names hypothesis cannot be dropped; excluded points (evaluation of the REAL model) -/

/-- a definition named `a b` gives the label `a b_` (two words: a parse error), a definition named `//f` the
    label `//f_` (read as a comment): the names check rejects both programs, the labels are not text-safe -/
theorem C14R_names_needed :
    let p1 : AxCut.Prog := ⟨[⟨⟨"a b", 0⟩, [], .exit ⟨"x", 1⟩⟩], [], 1⟩
    let p2 : AxCut.Prog := ⟨[⟨⟨"//f", 0⟩, [], .exit ⟨"x", 1⟩⟩], [], 1⟩
    C14R_namesTextSafe p1 = false ∧ C14R_itemTextOK (.LAB "a b_") = false ∧
    C14R_namesTextSafe p2 = false ∧ C14R_itemTextOK (.LAB "//f_") = false := by decide

#eval parseLine "a b_:"                                          -- none: PARSE-ERROR
#eval parseLine "//f_:"                                          -- a comment, not the label
#eval parseText (intoRoutine [.LI ⟨5⟩ 0])                        -- 2 items: the `LI` is part of the comment
#eval parseLine (printCode (.MV ⟨32⟩ ⟨1⟩))                       -- none: `X32` is no register
#eval parseHook "#ctx [x:foo]"                                   -- some none: a malformed hook
#eval (parseLine (printCode (.ADDI ⟨5⟩ ⟨6⟩ (-7))), parseLine (printCode (.ADD ⟨5⟩ ⟨6⟩ ⟨7⟩)))

end Scc.RV

#print axioms Scc.RV.C14R_words
#print axioms Scc.RV.C14R_parseHook
#print axioms Scc.RV.C14R_parseLine_printCode
#print axioms Scc.RV.C14R_label_lines
#print axioms Scc.RV.C14R_comment_line
#print axioms Scc.RV.C14R_hook_comment
#print axioms Scc.RV.C14R_loader
#print axioms Scc.RV.C14R_loader_exact
#print axioms Scc.RV.C14R_run
#print axioms Scc.RV.C14R_headLabel_needed
#print axioms Scc.RV.C08_loader_statement_false
#print axioms Scc.RV.C14R_names_of_A64names
#print axioms Scc.RV.C14R_routine_textOK
#print axioms Scc.RV.C14R_routine_loads
#print axioms Scc.RV.C14R_routine_loads_exact
#print axioms Scc.RV.C14R_routine_run
#print axioms Scc.RV.C08_programs_routine_text
#print axioms Scc.RV.C08_programs_text_loaded
#print axioms Scc.RV.C08_programs_live_text
#print axioms Scc.RV.C14R_names_needed
