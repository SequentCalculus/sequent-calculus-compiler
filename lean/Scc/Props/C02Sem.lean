/-
  Scc.Props.C02Sem — property C02, SEMANTIC part: the translation Fun → Core (model
  `Scc.Fun2Core.compileProg` of /repo/lang/fun2core) preserves meaning: the Fun abstract machine
  (`Scc.Fun.run`, CEK) on an accepted, sequenced program and the Core ς-machine (`Scc.Core.run`) on its
  translation have the same output trace and result.

  STATEMENTS (defs)
    C02_sem_statement_as_given   the statement as first formulated (the same as `C02_sem_statement`
                                 of Props/C01.lean, which imports this file).  It is FALSE:
                                   * a program that CALLS `main` (finding D13, a defect of /repo: def.rs
                                     `compile_main` gives `main` no continuation parameter, call.rs passes
                                     one): `def main(n:i64):i64{ if n==0 {0} else {1+main(n-1)} }`, arg 3:
                                     Fun 3, Core machine `stuck arity`, native binary exits with 0;
                                   * `main` with a covariable parameter (`Core.entryEnv` binds it to `halt`
                                     without consuming an argument, `Fun.initState` wants one integer per
                                     parameter): `def main(k:cns i64):i64{7}`, no arguments: Fun `stuck
                                     arity(main)`, Core `done 7`  (specification level, not /repo);
                                   * a variable literally named `ς` (the machine-fresh name of the Core
                                     ς-machine; the lexer cannot produce it, an AST can):
                                     `def main(ς:i64):i64{ (1+2)+ς }`: Fun 13, Core 6 on argument 10
                                     (specification level).
    C02_sem_full_statement       the corrected FULL statement: as given, plus `validMain`,
                                 `Fun.noMainCall`, no name `ς`.  PROVED IN FULL: `C02_sem`
                                 (Props/C02SemFull.lean) — all sequenced accepted programs, codata
                                 included, all four clauses of `C02_ObsSame`, all argument lists.

  THEOREMS.  Those of this file are about the accepted programs of the fragment `Fun2Core.Sem.fragOk`
  (Scc/Fun2Core/SemFrag.lean); every program of the fragment is also covered by `C02_sem`, and the
  end-to-end composition uses `C02_sem_forward_link`.  The fragment:
    first-order integers (literals, variables, operators incl. `/ %` and their faults, `let`, `if`,
    calls, `print`, `exit`, parentheses),
    data (constructors and `case`, incl. the lifting of shared continuations by `share` and the
    capture guard of `let`/`case`),
    labels / `goto` / covariable parameters and arguments,
    codata, restricted: `new` (closures), codata-typed `let` of a variable or a `new`, codata-typed
    arguments (variables / `new`) of calls, constructors and destructors, destructor calls whose
    scrutinee is a variable or a `new`; every term in evaluation position (bodies, branches, bound
    terms of other `let`s, scrutinees of `case`) has an integer or data type.
  For it: the forward half (clauses 1 and 3 of `C02_ObsSame`: every finished Fun run — a result or an
  arithmetic fault — is matched by a Core run with the same trace and the same outcome; every Fun
  trace is a prefix of a Core trace) for all arguments and all fuel (`C02_sem_forward_frag`); all four
  clauses for the arguments on which the Fun machine finishes (`C02_sem_frag_of_finished`) or never
  gets stuck for a reason other than an arithmetic fault (`C02_FunSafe`: `C02_sem_frag_of_safe`;
  `C02_sem_frag_modulo_safety` from the hypothesis `C02_funSafe_statement`, which Props/C02SemSafe.lean
  discharges).  `C02_sem_statement_as_given_false`: ¬ C02_sem_statement_as_given (witness: a tail
  call of `main`, `def main(n){ if n == 0 {0} else {main(n - 1)} }` on the argument 1).
  The proof is a simulation between CEK states and Core machine states (Scc/Fun2Core/Sem*.lean: a Fun
  frame corresponds to a `μ~`-closure / `case` consumer value / destructor value, a Fun continuation
  value to a Core consumer value).  It is the one of `C02_sem` (it covers all sequenced programs and
  carries the typing of the Fun state, which is why the theorems below speak about the checker's
  output).  Backward half: in every chunk of the simulation the Core machine advances or the Fun
  machine arrives at a smaller term (Scc/Fun2Core/SemBack.lean), determinism of the Core machine,
  monotonicity of its output.
  `fragOk` contains, besides the description of the fragment (`fragT`), decidable conditions that
  hold of EVERY accepted program (`good` of every body; distinct names, closed bodies, integer
  signature of `main`): Props/C02SemFull.lean derives them from the checker (`C02_progOk`), and
  `coreClosed` of the translation too (`C02_coreClosed`).
-/
import Scc.Pipeline
import Scc.Fun.CheckSound1
import Scc.Fun2Core.SemFrag
import Scc.Fun.Parse
import Scc.Fun.SourceChars
import Scc.Fun2Core.TypedCheck

namespace Scc.Props

open Scc.Pipeline
open Scc.Fun.Check (checkProgram programNamesOk)

/-! ## observations (`ObsFinished` / `ObsSame` of Props/C01.lean have the same bodies) -/

/-- outcomes the properties speak about: a result, or one of the two arithmetic faults -/
def C02_ObsFinished : ObsRes → Prop
  | .done _ => True
  | .stuck w => w = "divByZero" ∨ w = "overflow"
  | .outOfFuel => False

/-- same observable behaviour of two fuel-indexed runs -/
def C02_ObsSame (r1 r2 : Nat → Obs) : Prop :=
  (∀ n, C02_ObsFinished (r1 n).res → ∃ m, r2 m = r1 n) ∧
  (∀ m, C02_ObsFinished (r2 m).res → ∃ n, r1 n = r2 m) ∧
  (∀ n, ∃ m, (r1 n).out <+: (r2 m).out) ∧ (∀ m, ∃ n, (r2 m).out <+: (r1 n).out)

/-- the forward half of `C02_ObsSame` (clauses 1 and 3) -/
def C02_ObsForward (r1 r2 : Nat → Obs) : Prop :=
  (∀ n, C02_ObsFinished (r1 n).res → ∃ m, r2 m = r1 n) ∧
  (∀ n, ∃ m, (r1 n).out <+: (r2 m).out)

theorem C02_ObsSame.forward {r1 r2 : Nat → Obs} (h : C02_ObsSame r1 r2) : C02_ObsForward r1 r2 :=
  ⟨h.1, h.2.2.1⟩

/-- the statement as first formulated (the same Prop as `C02_sem_statement` of Props/C01.lean);
refuted by `C02_sem_statement_as_given_false` (below) -/
def C02_sem_statement_as_given : Prop :=
  ∀ (p : Fun.Program) (p' : Fun.CheckedProgram) (q2 : Core.Prog),
    programNamesOk p = true → checkProgram p = .ok p' → Fun.Sequenced p' = true →
    Fun2Core.compileProg p' = .ok q2 →
    ∀ args : List Word,
      C02_ObsSame (fun n => ofFun (Fun.run p' args n)) (fun n => ofCore (Core.run q2 args n))

/-- no parameter, `let` variable, label or clause binder of the program is called `ς` -/
def C02_noSigmaNames (p' : Fun.CheckedProgram) : Bool :=
  p'.defs.all fun d =>
    !(d.ctx.map (·.var)).contains Fun2Core.Sem.sig && !(Fun2Core.binderNames d.body).contains Fun2Core.Sem.sig

/-- C02 (semantics), corrected full statement; proved by `C02_sem` (Props/C02SemFull.lean) -/
def C02_sem_full_statement : Prop :=
  ∀ (p : Fun.Program) (p' : Fun.CheckedProgram) (q2 : Core.Prog),
    programNamesOk p = true → checkProgram p = .ok p' → Fun.Sequenced p' = true →
    validMain p' = true → Fun.noMainCall p' = true → C02_noSigmaNames p' = true →
    Fun2Core.compileProg p' = .ok q2 →
    ∀ args : List Word,
      C02_ObsSame (fun n => ofFun (Fun.run p' args n)) (fun n => ofCore (Core.run q2 args n))

/-! ## from the machines' own behaviour types to observations -/

theorem C02_finished_of_obs {b : Fun.Behaviour} (h : C02_ObsFinished (ofFun b).res) :
    Fun2Core.Sem.Finished b.res := by
  obtain ⟨out, res⟩ := b
  cases res with
  | done v => trivial
  | outOfFuel => exact h
  | stuck w =>
    simp only [ofFun, C02_ObsFinished] at h
    cases w with
    | divByZero => trivial
    | overflow => trivial
    | unbound x | unknownDef x | arity x | noClause x | notInt x | notCont x =>
      exfalso
      rcases h with h | h <;> (have h1 := congrArg String.toList h; simp [Fun.Why.toString] at h1)
    | notData | notCodata | untyped => exfalso; rcases h with h | h <;> exact absurd h (by decide)

theorem C02_obs_of_match {out : List (Bool × Word)} {r : Fun.Result} {r' : Core.Res}
    (h : Fun2Core.Sem.ResMatch r r') : ofCore ⟨out, r'⟩ = ofFun ⟨out, r⟩ := by
  cases h <;> rfl

/-- the forward half from the simulation, for every program with `progOk` -/
theorem C02_sem_forward_of_progOk (p : Fun.Program) (p' : Fun.CheckedProgram) (q2 : Core.Prog)
    (hn : programNamesOk p = true) (hck : checkProgram p = .ok p')
    (hp : Fun2Core.Sem.progOk p' = true) (hc : Fun2Core.compileProg p' = .ok q2)
    (hq : Fun2Core.Sem.coreClosed q2 = true) (args : List Word) :
    C02_ObsForward (fun n => ofFun (Fun.run p' args n)) (fun n => ofCore (Core.run q2 args n)) := by
  obtain ⟨h1, h2⟩ := Fun2Core.Sem.sem_forward hc hp hq
    (Fun2Core.Typed.checkProgram_progM hn hck) args
  refine ⟨fun n hfin => ?_, fun n => ?_⟩
  · obtain ⟨m, r', hm, hr⟩ := h1 n (C02_finished_of_obs hfin)
    refine ⟨m, ?_⟩
    simp only [hm]
    exact C02_obs_of_match hr
  · obtain ⟨m, hm⟩ := h2 n
    exact ⟨m, hm⟩

/-- **C02, semantic part, forward half, fragment** (integers, data, labels, restricted codata: see the
header): for every
program of the fragment `fragOk`, whose translation is `q2` (with every translated definition
closed), and all arguments: every finished run of the Fun machine is matched by a run of the Core
ς-machine on `q2` with the same trace and outcome, and every Fun trace is a prefix of a Core trace. -/
theorem C02_sem_forward_frag (p : Fun.Program) (p' : Fun.CheckedProgram) (q2 : Core.Prog)
    (hn : programNamesOk p = true) (hck : checkProgram p = .ok p')
    (hf : Fun2Core.Sem.fragOk p' = true) (hc : Fun2Core.compileProg p' = .ok q2)
    (hq : Fun2Core.Sem.coreClosed q2 = true) (args : List Word) :
    C02_ObsForward (fun n => ofFun (Fun.run p' args n)) (fun n => ofCore (Core.run q2 args n)) :=
  C02_sem_forward_of_progOk p p' q2 hn hck (Fun2Core.Sem.progOk_of_fragOk hf) hc hq args

/-- the same in the shape of the link used by the end-to-end composition (`C01_composition` applies
clause 1 of `C02_ObsSame`): for checked programs of the fragment -/
theorem C02_sem_forward_link (p : Fun.Program) (p' : Fun.CheckedProgram) (q2 : Core.Prog)
    (hn : programNamesOk p = true) (hck : checkProgram p = .ok p')
    (hf : Fun2Core.Sem.fragOk p' = true) (hc : Fun2Core.compileProg p' = .ok q2)
    (hq : Fun2Core.Sem.coreClosed q2 = true) (args : List Word) (n : Nat)
    (hfin : C02_ObsFinished (ofFun (Fun.run p' args n)).res) :
    ∃ m, ofCore (Core.run q2 args m) = ofFun (Fun.run p' args n) :=
  (C02_sem_forward_frag p p' q2 hn hck hf hc hq args).1 n hfin

/-- the Fun run never gets stuck for a reason other than an arithmetic fault (what type safety of
the CEK machine w.r.t. the checker would give for checked programs with a valid `main`) -/
def C02_FunSafe (p' : Fun.CheckedProgram) (args : List Word) : Prop :=
  ∀ n, (ofFun (Fun.run p' args n)).res = .outOfFuel ∨ C02_ObsFinished (ofFun (Fun.run p' args n)).res

/-- type safety of the CEK machine, as needed by the backward half (a statement about the checker and
the Fun machine only, no compiler stage involved; proved in Props/C02SemSafe.lean: `C02_funSafe`) -/
def C02_funSafe_statement : Prop :=
  ∀ (p : Fun.Program) (p' : Fun.CheckedProgram),
    programNamesOk p = true → checkProgram p = .ok p' → validMain p' = true →
    ∀ args : List Word, args.length = (p'.defs.find? (·.name == "main")).elim 0 (·.ctx.length) →
      C02_FunSafe p' args

/-- the equivalence from the simulation, for the arguments on which the Fun run is safe -/
theorem C02_sem_of_safe (p : Fun.Program) (p' : Fun.CheckedProgram) (q2 : Core.Prog)
    (hn : programNamesOk p = true) (hck : checkProgram p = .ok p')
    (hp : Fun2Core.Sem.progOk p' = true) (hc : Fun2Core.compileProg p' = .ok q2)
    (hq : Fun2Core.Sem.coreClosed q2 = true) (args : List Word) (hs : C02_FunSafe p' args) :
    C02_ObsSame (fun n => ofFun (Fun.run p' args n)) (fun n => ofCore (Core.run q2 args n)) := by
  obtain ⟨f1, f3⟩ := C02_sem_forward_of_progOk p p' q2 hn hck hp hc hq args
  have hs' : Fun2Core.Sem.FunSafe p' args := by
    intro n
    rcases hs n with h | h
    · left
      revert h
      simp only [ofFun]
      cases (Fun.run p' args n).res <;> simp
    · exact .inr (C02_finished_of_obs h)
  obtain ⟨b2, b4⟩ := Fun2Core.Sem.sem_backward hc hp hq
    (Fun2Core.Typed.checkProgram_progM hn hck) args hs'
  refine ⟨f1, fun m hfin => ?_, f3, fun m => ?_⟩
  · have hne : (Core.run q2 args m).res ≠ .outOfFuel := by
      intro e
      simp only [ofCore, e, C02_ObsFinished] at hfin
    obtain ⟨n, r, hn, hr⟩ := b2 m hne
    refine ⟨n, ?_⟩
    simp only [hn]
    exact (C02_obs_of_match hr).symm
  · obtain ⟨n, hn⟩ := b4 m
    exact ⟨n, hn⟩

/-- **C02, semantic part, both halves, fragment, modulo safety of the Fun run**: for every program of
the fragment `fragOk`, whose translation is `q2` (with every translated definition closed), and all
arguments on which the Fun machine does not get stuck for a reason other than an arithmetic fault:
the Fun machine on the program and the Core ς-machine on `q2` have the same observable behaviour
(all four clauses of `C02_ObsSame`). -/
theorem C02_sem_frag_of_safe (p : Fun.Program) (p' : Fun.CheckedProgram) (q2 : Core.Prog)
    (hn : programNamesOk p = true) (hck : checkProgram p = .ok p')
    (hf : Fun2Core.Sem.fragOk p' = true) (hc : Fun2Core.compileProg p' = .ok q2)
    (hq : Fun2Core.Sem.coreClosed q2 = true) (args : List Word) (hs : C02_FunSafe p' args) :
    C02_ObsSame (fun n => ofFun (Fun.run p' args n)) (fun n => ofCore (Core.run q2 args n)) :=
  C02_sem_of_safe p p' q2 hn hck (Fun2Core.Sem.progOk_of_fragOk hf) hc hq args hs

theorem C02_runFrom_stable (p : Fun.CheckedProgram) : ∀ (n : Nat) (s : Fun.State)
    (acc : List (Bool × Word)) (b : Fun.Behaviour),
    Fun.runFrom p n s acc = b → b.res ≠ .outOfFuel → ∀ k, Fun.runFrom p (n + k) s acc = b
  | 0, s, acc, b, h, hr, k => by
    simp only [Fun.runFrom] at h
    subst h
    exact absurd rfl hr
  | n + 1, s, acc, b, h, hr, k => by
    rw [show n + 1 + k = (n + k) + 1 by omega]
    simp only [Fun.runFrom] at h ⊢
    cases hs : Fun.step p s with
    | next s' o =>
      rw [hs] at h
      cases o with
      | none => exact C02_runFrom_stable p n s' acc b h hr k
      | some o => exact C02_runFrom_stable p n s' (o :: acc) b h hr k
    | done v => rw [hs] at h; exact h
    | stuck w => rw [hs] at h; exact h

theorem C02_funRun_stable (p : Fun.CheckedProgram) (args : List Word) (n k : Nat)
    (hr : (Fun.run p args n).res ≠ .outOfFuel) : Fun.run p args (n + k) = Fun.run p args n := by
  unfold Fun.run at hr ⊢
  cases h : Fun.initState p args with
  | error w => rfl
  | ok s =>
    rw [h] at hr
    exact C02_runFrom_stable p n s [] _ rfl hr k

/-- a Fun run that finishes (with a result or an arithmetic fault) is safe -/
theorem C02_funSafe_of_finished (p' : Fun.CheckedProgram) (args : List Word) (n0 : Nat)
    (h : C02_ObsFinished (ofFun (Fun.run p' args n0)).res) : C02_FunSafe p' args := by
  intro n
  by_cases hr : (Fun.run p' args n).res = .outOfFuel
  · left
    simp only [ofFun, hr]
  · right
    have hr0 : (Fun.run p' args n0).res ≠ .outOfFuel := by
      intro e
      simp only [ofFun, e, C02_ObsFinished] at h
    have h1 := C02_funRun_stable p' args n n0 hr
    have h2 := C02_funRun_stable p' args n0 n hr0
    rw [Nat.add_comm] at h2
    rw [← h1, h2]
    exact h

/-- **C02, semantic part, fragment, finishing runs**: if the Fun machine finishes on the arguments
(with a result or an arithmetic fault), the Fun machine on the program and the Core ς-machine on its
translation have the same observable behaviour (all four clauses of `C02_ObsSame`) -/
theorem C02_sem_frag_of_finished (p : Fun.Program) (p' : Fun.CheckedProgram) (q2 : Core.Prog)
    (hn : programNamesOk p = true) (hck : checkProgram p = .ok p')
    (hf : Fun2Core.Sem.fragOk p' = true) (hc : Fun2Core.compileProg p' = .ok q2)
    (hq : Fun2Core.Sem.coreClosed q2 = true) (args : List Word) (n0 : Nat)
    (h : C02_ObsFinished (ofFun (Fun.run p' args n0)).res) :
    C02_ObsSame (fun n => ofFun (Fun.run p' args n)) (fun n => ofCore (Core.run q2 args n)) :=
  C02_sem_frag_of_safe p p' q2 hn hck hf hc hq args (C02_funSafe_of_finished p' args n0 h)

/-- the full equivalence on the fragment for checked programs, reduced to the safety of the Fun
machine on checked programs -/
theorem C02_sem_frag_modulo_safety (hsafe : C02_funSafe_statement)
    (p : Fun.Program) (p' : Fun.CheckedProgram) (q2 : Core.Prog)
    (hn : programNamesOk p = true) (hck : checkProgram p = .ok p') (hvm : validMain p' = true)
    (hf : Fun2Core.Sem.fragOk p' = true) (hc : Fun2Core.compileProg p' = .ok q2)
    (hq : Fun2Core.Sem.coreClosed q2 = true) (args : List Word)
    (hlen : args.length = (p'.defs.find? (·.name == "main")).elim 0 (·.ctx.length)) :
    C02_ObsSame (fun n => ofFun (Fun.run p' args n)) (fun n => ofCore (Core.run q2 args n)) :=
  C02_sem_frag_of_safe p p' q2 hn hck hf hc hq args (hsafe p p' hn hck hvm args hlen)

/-- `fragOk` contains the hypotheses of the full statement that are about the shape of the program -/
theorem C02_fragOk_sequenced {p' : Fun.CheckedProgram} (h : Fun2Core.Sem.fragOk p' = true) :
    Fun.Sequenced p' = true ∧ Fun.noMainCall p' = true ∧ C02_noSigmaNames p' = true := by
  simp only [Fun2Core.Sem.fragOk, Bool.and_eq_true] at h
  obtain ⟨⟨⟨⟨⟨⟨h1, h2⟩, h4⟩, _⟩, _⟩, _⟩, _⟩ := h
  refine ⟨h1, h2, ?_⟩
  simp only [C02_noSigmaNames, List.all_eq_true, Bool.and_eq_true] at h4 ⊢
  intro d hd
  have := h4 d hd
  simp only [Fun2Core.Sem.defFrag, Bool.and_eq_true] at this
  exact ⟨this.1.2, this.2⟩

/-! ## non-vacuity: a program with data, `case`, a shared continuation, label / goto and a
covariable parameter -/

/-- `sum` multiplies nothing: it adds the elements of a list and jumps out through `k` at the first 0;
`main` prints two sums -/
def C02Sem_exSrc : String :=
  "data List[A] { Nil, Cons(x : A, xs : List[A]) }
   def sum(l : List[i64], k :cns i64) : i64 {
     l.case[i64] { Nil => 0,
                   Cons(y, ys) => if y == 0 { goto k (0 - 1) } else { let r : i64 = sum(ys, k); y + r } } }
   def main(n : i64) : i64 {
     let s : i64 = label a { sum(Cons(n, Cons(2, Nil)), a) };
     println_i64(s);
     let t : i64 = if n == 5 { s * 2 } else { s / n };
     println_i64(t);
     0 }"

/-- the hypotheses of `C02_sem_forward_frag` hold for the example, and both machines print 7, 14 and
return 0 on the argument 5, print -1 and stop with `divByZero` on the argument 0 -/
def C02Sem_exCheck (src : String) : Bool :=
  match frontEnd src with
  | .ok _ p' =>
    Fun2Core.Sem.fragOk p' &&
    match Fun2Core.compileProg p' with
    | .ok q =>
      Fun2Core.Sem.coreClosed q &&
      decide (ofFun (Fun.run p' [5] 400) = ⟨[(true, 7), (true, 14)], .done 0⟩) &&
      decide (ofCore (Core.run q [5] 400) = ⟨[(true, 7), (true, 14)], .done 0⟩) &&
      decide (ofFun (Fun.run p' [0] 400) = ⟨[(true, BitVec.ofInt 64 (-1))], .stuck "divByZero"⟩) &&
      decide (ofCore (Core.run q [0] 400) = ⟨[(true, BitVec.ofInt 64 (-1))], .stuck "divByZero"⟩)
    | .error _ => false
  | _ => false

set_option maxRecDepth 100000 in
theorem C02Sem_example_of_chars (s : String) (h : s.toList = C02Sem_exSrc.toList) :
    C02Sem_exCheck s = true := by
  have hc := toList_of_literal rfl h
  simp only [C02Sem_exCheck, frontEnd, Fun.Parse.parse, hc]
  decide +kernel

theorem C02Sem_example : C02Sem_exCheck C02Sem_exSrc = true := C02Sem_example_of_chars _ rfl

/-- a closure applied twice: codata by name = by value on variables and `new` -/
def C02Sem_exSrc2 : String :=
  "codata Fun[A, B] { apply(x : A) : B }
   def twice(f : Fun[i64, i64], v : i64) : i64 { let a : i64 = f.apply[i64, i64](v); f.apply[i64, i64](a) }
   def main(n : i64) : i64 {
     let k : i64 = n * 2;
     let f : Fun[i64, i64] = new { apply(x) => x + k };
     println_i64(twice(f, 1));
     0 }"

def C02Sem_exCheck2 (src : String) : Bool :=
  match frontEnd src with
  | .ok _ p' =>
    Fun2Core.Sem.fragOk p' &&
    match Fun2Core.compileProg p' with
    | .ok q =>
      Fun2Core.Sem.coreClosed q &&
      decide (ofFun (Fun.run p' [5] 200) = ⟨[(true, 21)], .done 0⟩) &&
      decide (ofCore (Core.run q [5] 200) = ⟨[(true, 21)], .done 0⟩)
    | .error _ => false
  | _ => false

set_option maxRecDepth 100000 in
theorem C02Sem_example2_of_chars (s : String) (h : s.toList = C02Sem_exSrc2.toList) :
    C02Sem_exCheck2 s = true := by
  have hc := toList_of_literal rfl h
  simp only [C02Sem_exCheck2, frontEnd, Fun.Parse.parse, hc]
  decide +kernel

theorem C02Sem_example2 : C02Sem_exCheck2 C02Sem_exSrc2 = true := C02Sem_example2_of_chars _ rfl

/-! ## the statement as first given is false: a program that calls `main` (finding D13) -/

theorem C02_stepN_stable (q : Core.Prog) : ∀ (m : Nat) (S : Core.State) (b : Core.Behaviour),
    Core.stepN q m S = b → b.res ≠ .outOfFuel → ∀ k, Core.stepN q (m + k) S = b
  | 0, S, b, h, hr, k => by
    simp only [Core.stepN] at h
    subst h
    exact absurd rfl hr
  | m + 1, S, b, h, hr, k => by
    rw [show m + 1 + k = (m + k) + 1 by omega]
    simp only [Core.stepN] at h ⊢
    cases hs : Core.step q S with
    | next S' =>
      rw [hs] at h
      exact C02_stepN_stable q m S' b h hr k
    | final r =>
      rw [hs] at h
      exact h

theorem C02_run_stable (q : Core.Prog) (args : List Word) (m k : Nat) (b : Core.Behaviour)
    (h : Core.run q args m = b) (hr : b.res ≠ .outOfFuel) : Core.run q args (m + k) = b := by
  unfold Core.run at h ⊢
  split
  · rename_i h1; simpa [h1] using h
  · rename_i d h1
    rw [h1] at h
    simp only at h ⊢
    split
    · rename_i e h2; simpa [h2] using h
    · rename_i ρ h2
      rw [h2] at h
      exact C02_stepN_stable q m _ b h hr k

/-- `def main(n) { if n == 0 { 0 } else { main(n - 1) } }` — sequenced, accepted, translated; on the
argument 1 the Fun machine returns 0, the Core machine is `stuck arity` -/
def C02Sem_d13Src : String := "def main(n : i64) : i64 { if n == 0 { 0 } else { main(n - 1) } }"

def C02Sem_d13Check : Bool :=
  match Fun.Parse.parse .diagOnOverflow C02Sem_d13Src with
  | .ok p =>
    programNamesOk p &&
    match checkProgram p with
    | .ok p' =>
      Fun.Sequenced p' &&
      match Fun2Core.compileProg p' with
      | .ok q =>
        decide (ofFun (Fun.run p' [1] 30) = ⟨[], .done 0⟩) &&
        decide (Core.run q [1] 30 = ⟨[], .stuck .arity⟩)
      | .error _ => false
    | _ => false
  | _ => false

theorem C02Sem_d13Check_true : C02Sem_d13Check = true := by decide +kernel

/-- the statement as first given does not hold (witness: a tail call of `main`) -/
theorem C02_sem_statement_as_given_false : ¬ C02_sem_statement_as_given := by
  intro h
  have hck := C02Sem_d13Check_true
  unfold C02Sem_d13Check at hck
  cases hp : Fun.Parse.parse .diagOnOverflow C02Sem_d13Src with
  | ok p =>
    rw [hp] at hck
    simp only [Bool.and_eq_true] at hck
    obtain ⟨hn, hck⟩ := hck
    cases hc : checkProgram p with
    | ok p' =>
      rw [hc] at hck
      simp only [Bool.and_eq_true] at hck
      obtain ⟨hseq, hck⟩ := hck
      cases hq : Fun2Core.compileProg p' with
      | ok q =>
        rw [hq] at hck
        simp only [Bool.and_eq_true, decide_eq_true_eq] at hck
        obtain ⟨hfun, hcore⟩ := hck
        obtain ⟨m, hm⟩ := (h p p' q hn hc hseq hq [1]).1 30 (by simp only [hfun]; trivial)
        simp only [hfun] at hm
        have hdone : Core.run q [1] m = ⟨[], .done 0⟩ := by
          generalize Core.run q [1] m = b at hm
          obtain ⟨out, res⟩ := b
          cases res <;> simp_all [ofCore]
        by_cases hle : m ≤ 30
        · have := C02_run_stable q [1] m (30 - m) _ hdone (by simp)
          rw [show m + (30 - m) = 30 by omega, hcore] at this
          cases this
        · have := C02_run_stable q [1] 30 (m - 30) _ hcore (by simp)
          rw [show 30 + (m - 30) = m by omega, hdone] at this
          cases this
      | error e => rw [hq] at hck; simp at hck
    | diag c => rw [hc] at hck; simp at hck
    | panic c => rw [hc] at hck; simp at hck
  | diag c => rw [hp] at hck; simp at hck
  | panic c => rw [hp] at hck; simp at hck

#print axioms C02_sem_forward_frag
#print axioms C02_sem_forward_link
#print axioms C02_sem_frag_of_safe
#print axioms C02_sem_frag_of_finished
#print axioms C02_sem_frag_modulo_safety
#print axioms C02_fragOk_sequenced
#print axioms C02Sem_example_of_chars
#print axioms C02Sem_example
#print axioms C02Sem_example2_of_chars
#print axioms C02Sem_example2
#print axioms C02_sem_statement_as_given_false

end Scc.Props

#print axioms Scc.Props.C02_ObsSame.forward
#print axioms Scc.Props.C02_finished_of_obs
#print axioms Scc.Props.C02_obs_of_match
#print axioms Scc.Props.C02_runFrom_stable
#print axioms Scc.Props.C02_funRun_stable
#print axioms Scc.Props.C02_funSafe_of_finished
#print axioms Scc.Props.C02_stepN_stable
#print axioms Scc.Props.C02_run_stable
#print axioms Scc.Props.C02Sem_d13Check_true
