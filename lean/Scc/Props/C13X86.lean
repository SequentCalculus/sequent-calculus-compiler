/-
  Scc.Props.C13X86 — property C13 (calling convention) for the x86-64 backend, on the SPEC machine
  Scc/X86/Machine.lean with undefined-value tracking ("poison": the external call makes rax rcx rdx rsi
  rdi r8–r11, the flags and all stack memory below rsp undefined; any USE of an undefined value faults).

  * `C13_statement` — the full property, a `def : Prop`.  No theorem has it as conclusion; what is proved of it
    for whole programs, all fuel included, is listed at the end of this header.
  * PROVED, PER METHOD (for every context):
      `C13_prologue_epilogue`  setup ++ body ++ cleanup restores rbx rbp r12–r15 and rsp and keeps the
                               caller's stack, for ANY body that has rsp at its boundaries where the
                               prologue put it and does not write the save area or above
      `C13_exit_check`         with that, the machine's exit check (`retCheck`: return sentinel, rsp,
                               every callee-saved register, defined result in rax) succeeds
      `C13_sp_invariant`       arithmetic only: `m ≡ 8 (mod 16)` and `2096 ≤ m` give `m − 2096 ≡ 8 (mod 16)`, the
                               value of rsp after the prologue (the lemmas of Theorem B keep that rsp at every
                               statement boundary: their `Boundary … sp`)
      `C13_print_alignment`    FOR EVERY CONTEXT (any length, any kinds): the save sequence leaves
                               rsp ≡ 0 (mod 16) at the call (parity of registers_to_save − backup_registers_used)
      `C13_print_preserves`    FOR EVERY CONTEXT and source placement: save; mov arg; call; restore on the
                               poison machine runs without fault, prints exactly the source's value and
                               preserves rsp, HEAP, FREE, every temporary of every live variable
                               (registers and spill slots) and the heap
  * PROVED, WHOLE PROGRAMS, STATIC (text level; ANY program that `compileX86` accepts, no other
    hypothesis — capacity = the compiler succeeds; proofs: Scc/Backend/ProofsShape.lean = the per-method shape
    facts lifted over the one walk of the generic code generator (Scc/Backend/ProofsCalls.lean),
    Scc/X86/CCProofsStatic.lean, CCProofsSites.lean):
      `C13_static_shape`       the body is a sequence of PLAIN instructions (`plainCC`: not push / pop /
                               call / ret, `rsp` not written, `rsp`-relative operands inside the spill
                               area) and of WHOLE print blocks `printI64 nl t ctx`, `t` the `Snd` temporary
                               of a variable of `ctx` (= the context of the `print` statement)
      (i)  `C13_static_call_sites`   every `call` of the body is the call of a print block: preceded by
                               argument staging + save sequence + argument move, followed by the restore
                               sequence, of ONE context; `C13_static_saved_exact`: the saved registers are
                               EXACTLY the caller-save registers rax…r11 holding a live temporary of that
                               context; `C13_static_save_restore_mirror`: restore = save undone (same
                               backup registers, padding removed iff added, pops in reverse push order);
                               `C13_static_backup_free`: backup registers are free callee-saved r12…r15
      (ii) `C13_static_call_parity`  at every call site of the ROUTINE the static displacement of rsp
                               from the routine entry is ≡ 8 (mod 16) (⇒ rsp ≡ 0 at the call, given the
                               ABI entry condition: `call_aligned_of_parity`); `C13_static_balanced`: the
                               displacement at the final `ret` is 0
      (iii) `C13_static_routine`     routine = head ++ body ++ epilogue ++ [ret]; the prologue pushes
                               `calleeSaved` (ALL callee-saved registers of the machine model) and the
                               epilogue pops them in reverse order; `C13_static_spill_area`: every
                               rsp-relative operand of the routine lies in the 2048 bytes the prologue
                               reserves
      (iv) `C13_static_sp_writers`   an instruction of the body that writes rsp (or is a push / pop /
                               call / ret) lies inside a print block; `C13_codeWrites_sound`: `codeWrites`
                               / `codeMems` are sound for the machine (`execCode_fr`).
          rbp is NOT a frame pointer in this backend: it is the allocator register FREE, an ordinary
          callee-saved register that the prologue saves and the epilogue restores (like rbx = HEAP).
  * PROVED, WHOLE PROGRAMS, DYNAMIC, INTEGER PROGRAMS (`IntProg` of C06Generic + `LinTypedProg`, or the
    syntactic `IntProgC`; Scc/X86/CCProofsFrame.lean, CCProofsSeg.lean, CCProofsRun.lean):
      `C13_cc_never_fires_int`  THE CALLING-CONVENTION MONITOR NEVER FIRES: for all arguments (any
                               number ≤ 5, any values), ALL fuel (non-terminating runs included), every
                               monitor configuration, the result of the machine on the items of the
                               routine is never `cc-violation`, never `misaligned-call`, never
                               `ret-to-non-sentinel` (`CCSafe`).  No typing or definedness hypothesis is
                               used: the invariant is purely about rsp, the save area and the return word.
                               `C13_cc_never_fires_int_text`: the same for `run (printProg routine)` given
                               that the text loads (`TextLoads` of C06X86; for every routine in range with
                               text-safe names it does: `C14_routine_loads`, Props/C14Loader.lean).
      `C13_int_terminating`    with Theorem A∘B for integer programs (`C06_int_programs`): if the AxCut run
                               terminates, then for EVERY fuel the machine result is `outOfFuel` or `done v`
                               — the full `C13_allowed` for these runs.
  * BEYOND INTEGER PROGRAMS the dynamic part is in Props/C13X86Data.lean (programs with data types, no closures:
    `C13_cc_never_fires_data_all`, `C13_data_all_fuel`) and Props/C13X86All.lean (ALL programs, closures included,
    runs that do not terminate included, on the printed text without a loader hypothesis: `C13_all_fuel`,
    `C13_cc_never_fires_all`); the header of Props/C13X86All.lean says what separates these from `C13_statement`
    (a bound on the machine fuel, runs stuck on a division, the checks `C06_x86Checks`, the heap bound).
    CALLER_SAVE_FIRST = 4, CALLER_SAVE_LAST = 11, REGISTER_NUM = 16, RESERVED = 4 enter through
    Scc/X86/Consts.lean (`callerSaveRegistersInfo`, `backupRegistersUsed`).
-/
import Scc.X86.ProofsPrint
import Scc.AxCut.LinTyping
import Scc.X86.CCProofsRun
import Scc.Backend.ProofsShapeInt
import Scc.Props.C06X86

namespace Scc.X86
open Scc.AxCut

/-- the machine outcomes the property allows: normal return, fuel, the excluded divisions and running
out of heap/stack region; NOT: `cc-violation`, `misaligned-call`, `read-undefined …`, `ret-to-non-sentinel` -/
def C13_allowed : Res → Prop
  | .done _ => True
  | .outOfFuel => True
  | .fault why _ => why = "div-by-zero" ∨ why = "div-overflow" ∨ why.startsWith "oob"
  | _ => False

/-- C13: for every compiled program, all arguments (callee-saved registers hold arbitrary sentinels,
caller-saved registers / flags / stack below rsp are undefined at entry and after every call of the
print runtime), the run ends only in an allowed outcome: at `ret` callee-saved registers and rsp are
restored and the result is in rax; rsp is 16-aligned at every call; no undefined value is ever used. -/
def C13_statement : Prop :=
  ∀ (p : AxCut.Prog) (args : List (BitVec 64)) (hooks : Bool) (body routine : List Code) (nargs : Nat),
    LinTypedProg p → compileX86 p hooks 0 = .ok (body, nargs) → intoRoutine body nargs = .ok routine →
    args.length = nargs →
    ∀ (fuel : Nat) (cfg : MonCfg), cfg.heap = false → CfgOK cfg.mach →
      C13_allowed (run (printProg routine) args fuel cfg).res

variable {c : MachCfg} {la : String → Option Nat}

/-- into_routine.rs: `setup n = prologue ++ move_arguments n`, `cleanup = epilogue ++ [ret]`. -/
theorem C13_routine_shape (n : Nat) (moves : List Code) (h : moveArguments n = .ok moves) :
    setup n = .ok (prologue ++ moves) ∧ cleanup = epilogue ++ [.RET] :=
  ⟨setup_eq n moves h, cleanup_eq⟩

/-- prologue_epilogue: (1) the prologue saves rbx rbp r12–r15 below the entry rsp `m`, sets
`rsp = m − 48 − 2048`, HEAP = rdi, FREE = rdi + 64; (2) for ANY body result `st2` with that rsp and with
the save area and everything above it unchanged, the epilogue ends with rsp = m, the six registers at
their entry contents, every other register as the body left it (rax!), the caller's stack intact. -/
theorem C13_prologue_epilogue {st0 : State} {m : Nat} (E : EntryOK c st0 m) {h : Word}
    (h7 : st0.regs[7]? = some (some h)) :
    ∃ st1, execStraight c la prologue st0 = .ok st1 ∧ AfterPrologueM st0 st1 m h ∧
      ∀ st2 : State, st2.regs.size = 16 → st2.regs[0]? = st1.regs[0]? →
        (∀ n, m - 48 ≤ n → st2.stackMem[n]? = st1.stackMem[n]?) →
        ∃ st3, execStraight c la epilogue st2 = .ok st3 ∧ Same st2 st3 ∧ st3.regs.size = 16 ∧
          st3.regs[0]? = some (some (BitVec.ofNat 64 m)) ∧
          (∀ r, r ∈ [2, 3, 12, 13, 14, 15] → st3.regs[r]? = st0.regs[r]?) ∧
          (∀ r : Nat, r < 16 → r ≠ 0 → r ∉ [2, 3, 12, 13, 14, 15] → st3.regs[r]? = st2.regs[r]?) ∧
          (∀ n, m ≤ n → st3.stackMem[n]? = st0.stackMem[n]?) := by
  obtain ⟨st1, e1, P⟩ := prologue_machine (la := la) E h7
  exact ⟨st1, e1, P, fun st2 hs hr hm => prologue_epilogue_machine E P hs hr hm⟩

/-- the exit check of the machine succeeds in the state the epilogue produces from `initState` -/
theorem C13_exit_check (hc : CfgOK c) {st : State} {v : Word} (h16 : c.stackTop % 8 = 0)
    (hroom : c.stackLow + 8 ≤ c.stackTop)
    (hsp : st.regs[0]? = some (some (BitVec.ofNat 64 (c.stackTop - 8))))
    (hret : st.stackMem[c.stackTop - 8]? = some retSentinel)
    (hcs : ∀ r ∈ calleeSaved, st.regs[r]? = some (some (calleeSentinel r)))
    (hrax : st.regs[4]? = some (some v)) :
    retCheck c st = .ok v := retCheck_ok hc h16 hroom hsp hret hcs hrax

/-- sp_invariant: entry `rsp = m ≡ 8 (mod 16)` ⟹ after the prologue `rsp = m − 2096 ≡ 8 (mod 16)` -/
theorem C13_sp_invariant {m : Nat} (h : m % 16 = 8) (hm : 2096 ≤ m) : (m - 2096) % 16 = 8 :=
  sp_invariant h hm

/-- print_alignment, for EVERY context. -/
theorem C13_print_alignment (hc : CfgOK c) (ctx : Ctx) {st : State} {m : Nat}
    (hsize : st.regs.size = 16) (hsp : st.regs[0]? = some (some (BitVec.ofNat 64 m)))
    (h16 : m % 16 = 8) (hlow : c.stackLow + 72 ≤ m) (htop : m ≤ c.stackTop) :
    ∃ st' m', execStraight c la (saveCallerSaveRegisters (callerSaveRegistersInfo ctx).1
        (callerSaveRegistersInfo ctx).2) st = .ok st' ∧ Same st st' ∧
      st'.regs[0]? = some (some (BitVec.ofNat 64 m')) ∧ m' % 16 = 0 ∧ m' ≤ m ∧ m ≤ m' + 72 :=
  print_alignment_machine hc ctx hsize hsp h16 hlow htop

/-- print_preserves, for EVERY context and source placement (`execSeq` = straight-line execution in
which `call f` is the machine's external call `callExt`, exactly as in `step`). -/
theorem C13_print_preserves (hc : CfgOK c) (nl : Bool) (ctx : Ctx) (src : Temporary)
    (hsrc : TempOK src) (hlive : ∀ r, src = .reg r → r < 2 * ctx.length + 4)
    {st : State} {m : Nat} (hsize : st.regs.size = 16)
    (hsp : st.regs[0]? = some (some (BitVec.ofNat 64 m))) (h16 : m % 16 = 8)
    (hlow : c.stackLow + 72 ≤ m) (htop : m + 2048 ≤ c.stackTop)
    {x : Word} (hx : tempVal (BitVec.ofNat 64 m) st src = some x) :
    ∃ st', execSeq c la (printI64 nl src ctx) st = .ok st' ∧ st'.out = (nl, x) :: st.out ∧
      PrintKeptM ctx st st' m :=
  print_preserves_machine hc nl ctx src hsrc hlive hsize hsp h16 hlow htop hx

/-- the initial state of the machine satisfies the entry conditions (default configuration) -/
example : EntryOK {} (initState {} [5#64] 0) (0x7fff0000 - 8) :=
  ⟨cfgOK_default, rfl, rfl, by decide, by decide, by decide⟩

/-- a boundary state for the print lemmas: rsp ≡ 8 (mod 16), x in rdi = position 1's word -/
def exPrintState : State :=
  { regs := #[some (BitVec.ofNat 64 0x7ffef008), none, some 0x10000000#64, some 0x10000040#64, none,
              some 1#64, none, some 42#64, none, none, none, none, none, none, none, none],
    flags := none, heapMem := ∅, stackMem := ∅, pc := 0, out := [], maxHeapWritten := 0, steps := 0 }

/-- print of the second of two integer variables: the trace gets `(true, 42)`, rdx and rdi survive -/
example : ∃ st', execSeq {} (fun _ => none)
      (printI64 true (.reg 7) [⟨⟨"a", 1⟩, .ext, .i64⟩, ⟨⟨"b", 2⟩, .ext, .i64⟩]) exPrintState = .ok st' ∧
      st'.out = [(true, 42#64)] ∧ st'.regs[7]? = some (some 42#64) ∧ st'.regs[5]? = some (some 1#64) := by
  obtain ⟨st', h1, h2, K⟩ := C13_print_preserves (c := {}) (la := fun _ => none) cfgOK_default true
    [⟨⟨"a", 1⟩, .ext, .i64⟩, ⟨⟨"b", 2⟩, .ext, .i64⟩] (.reg 7) ⟨by decide, by decide⟩
    (fun r h => by cases h; decide) (st := exPrintState) (m := 0x7ffef008) rfl rfl (by decide) (by decide)
    (by decide) (x := 42#64) rfl
  refine ⟨st', h1, h2, ?_, ?_⟩
  · exact K.snd 1 _ rfl (by decide)
  · exact K.snd 0 _ rfl (by decide)

open Scc.Backend.Shape (IntProgC intProgC_of_intProg)
open Scc.Props.C06Generic (IntProg)

/-- SHAPE: plain instructions and whole print blocks -/
theorem C13_static_shape {p : AxCut.Prog} {hooks : Bool} {c0 : Nat} {body : List Code} {nargs : Nat}
    (h : compileX86 p hooks c0 = .ok (body, nargs)) : CCShape plainCC body := compile_ccShape h

/-- what "plain" means: not push / pop / call / ret; `rsp` not written; `rsp`-relative operands in the
spill area -/
theorem C13_plain_spec {code : Code} (h : plainCC code = true) :
    isStackOp code = false ∧ 0 ∉ codeWrites code ∧ ∀ bi ∈ codeMems code, bi.1 = 0 → slotOK bi.2 = true :=
  plainCC_spec h

/-- (i) every call site is the call of a print block of ONE context -/
theorem C13_static_call_sites {p : AxCut.Prog} {hooks : Bool} {c0 : Nat} {body : List Code} {nargs : Nat}
    (h : compileX86 p hooks c0 = .ok (body, nargs)) {pre post : List Code} {f : String}
    (e : body = pre ++ Code.CALL f :: post) :
    ∃ pre' nl t ctx post', PrintSrc ctx t ∧ CCShape plainCC pre' ∧ CCShape plainCC post' ∧
      f = printFn nl ∧ pre = pre' ++ blockBefore t ctx ∧ post = blockAfter ctx ++ post' :=
  ccShape_call_site (compile_ccShape h) e

/-- (i) the registers the block saves are EXACTLY the caller-save registers holding a live temporary -/
theorem C13_static_saved_exact (ctx : Ctx) (r : Nat) :
    r ∈ (callerSaveRegistersInfo ctx).2 ↔ (4 ≤ r ∧ r ≤ 11 ∧ LiveReg ctx r) := mem_callerSave_iff ctx r

/-- (i) the restore sequence is the save sequence undone -/
theorem C13_static_save_restore_mirror (first : Nat) (L : List Nat) :
    ∃ (moved pushed : List Nat) (pad : Bool), moved ++ pushed = L ∧
      saveCallerSaveRegisters first L =
        backupMoves first moved 0 ++ pushed.map Code.PUSH ++ (if pad then [Code.SUBI 0 8] else []) ∧
      restoreCallerSaveRegisters first L =
        restoreMoves first moved 0 ++ (if pad then [Code.ADDI 0 8] else []) ++ pushed.reverse.map Code.POP :=
  save_restore_mirror first L

/-- (i) the backup registers are free callee-saved registers -/
theorem C13_static_backup_free (ctx : Ctx) :
    12 ≤ (callerSaveRegistersInfo ctx).1 ∧ 2 * ctx.length + 4 ≤ (callerSaveRegistersInfo ctx).1 ∧
    ((callerSaveRegistersInfo ctx).1 + backupRegistersUsed (callerSaveRegistersInfo ctx).1
      (callerSaveRegistersInfo ctx).2 ≤ 16 ∨
     backupRegistersUsed (callerSaveRegistersInfo ctx).1 (callerSaveRegistersInfo ctx).2 = 0) :=
  backupRegs_free ctx

/-- (ii) parity of the pushes between the routine entry and every call site -/
theorem C13_static_call_parity {p : AxCut.Prog} {hooks : Bool} {c0 : Nat} {body routine : List Code}
    {nargs : Nat} (h : compileX86 p hooks c0 = .ok (body, nargs)) (hr : intoRoutine body nargs = .ok routine)
    {pre post : List Code} {f : String} (e : routine = pre ++ Code.CALL f :: post) : spSum pre % 16 = 8 :=
  routine_call_parity (compile_ccShape h) hr e

/-- (ii)/(iii) the routine is balanced: displacement 0 at the final `ret` -/
theorem C13_static_balanced {p : AxCut.Prog} {hooks : Bool} {c0 : Nat} {body routine : List Code}
    {nargs : Nat} (h : compileX86 p hooks c0 = .ok (body, nargs)) (hr : intoRoutine body nargs = .ok routine) :
    spSum routine.dropLast = 0 ∧ routine.getLast? = some Code.RET :=
  routine_balanced (compile_ccShape h) hr

/-- (iii) anatomy of the routine and pairing of prologue and epilogue -/
theorem C13_static_routine {body routine : List Code} {n : Nat} (h : intoRoutine body n = .ok routine) :
    (∃ moves, moveArguments n = .ok moves ∧
      routine = routineHead moves ++ body ++ (epilogue ++ [Code.RET])) ∧
    prologue = [Code.COMMENT "setup", Code.COMMENT "save registers"] ++ calleeSaved.map Code.PUSH ++
      [Code.COMMENT "reserve space for register spills", Code.SUBI 0 2048,
       Code.COMMENT "initialize heap pointer", Code.MOV 2 7, Code.COMMENT "initialize free pointer",
       Code.MOV 3 2, Code.ADDI 3 64] ∧
    epilogue = [Code.LAB "cleanup", Code.COMMENT "free space for register spills", Code.ADDI 0 2048,
       Code.COMMENT "restore registers"] ++ calleeSaved.reverse.map Code.POP :=
  ⟨routine_anatomy h, prologue_epilogue_pairing⟩

/-- (iii) every rsp-relative operand of the routine lies inside the reserved spill area -/
theorem C13_static_spill_area {p : AxCut.Prog} {hooks : Bool} {c0 : Nat} {body routine : List Code}
    {nargs : Nat} (h : compileX86 p hooks c0 = .ok (body, nargs)) (hr : intoRoutine body nargs = .ok routine) :
    routine.all spillRefsOK = true := routine_spill_refs (compile_ccShape h) hr

/-- (iv) whatever writes rsp (or pushes / pops / calls / returns) in the body is part of a print block -/
theorem C13_static_sp_writers {p : AxCut.Prog} {hooks : Bool} {c0 : Nat} {body : List Code} {nargs : Nat}
    (h : compileX86 p hooks c0 = .ok (body, nargs)) (k : Nat) (code : Code) (hk : body[k]? = some code)
    (hw : isStackOp code = true ∨ 0 ∈ codeWrites code) :
    ∃ j nl t ctx, PrintSrc ctx t ∧ j ≤ k ∧ k < j + (printI64 nl t ctx).length ∧
      (body.drop j).take (printI64 nl t ctx).length = printI64 nl t ctx := by
  apply ccShape_nonplain_in_block (compile_ccShape h) k code hk
  cases hp : plainCC code with
  | false => rfl
  | true =>
    obtain ⟨h1, h2, _⟩ := plainCC_spec hp
    rcases hw with hw | hw
    · rw [h1] at hw; cases hw
    · exact absurd hw h2

/-- (iv) soundness of `codeWrites` / `codeMems` for the machine: an instruction other than push / pop
changes at most the registers it is said to write and the stack words its memory operands address -/
theorem C13_codeWrites_sound {c : MachCfg} {la : String → Option Nat} {code : Code} {s s' : State} {ctl : Ctl}
    (h : execCode c la code s = .ok (s', ctl)) (hns : isStackOp code = false) :
    Fr (codeWrites code) (MemAddrs s code) s s' := execCode_fr h hns

open Scc.X86.CC (CCSafe CfgCC cfgCC_default)

/-- C13, DYNAMIC PART, for INTEGER PROGRAMS, every run: the result is never a report of the calling-convention
monitor.  `items`: any item list that agrees with the routine up to the text of comments (what the
machine's parser produces). -/
theorem C13_cc_never_fires_int (p : AxCut.Prog) (htp : LinTypedProg p) (hip : IntProg p) (hooks : Bool)
    (c0 : Nat) (body routine : List Code) (nargs : Nat) (hc : compileX86 p hooks c0 = .ok (body, nargs))
    (hr : intoRoutine body nargs = .ok routine) (cfg : MonCfg) (H : CfgCC cfg.mach)
    (items : List (Code × Nat)) (hitems : (items.map (·.1)).map CC.stripC = routine.map CC.stripC)
    (args : List Word) (fuel : Nat) :
    CCSafe (CC.runItems items args fuel cfg).res :=
  CC.cc_safe_items (intProgC_of_intProg hip htp) hc hr cfg H items hitems args fuel

/-- the calling-convention files (`Scc.X86.CC`) and the three-way stack (`Scc.X86.Ref`) each define the erasure of
    comment texts and the run on items; they are the same functions.  `TextLoads` speaks `Ref`, `cc_safe_items` `CC`. -/
theorem stripC_eq : Ref.stripC = CC.stripC := by
  funext code
  cases code <;> rfl

theorem runItems_eq : @Ref.runItems = @CC.runItems := rfl

/-- … on the TEXT of the routine, given that it loads (`TextLoads`, Props/C06X86.lean) -/
theorem C13_cc_never_fires_int_text (p : AxCut.Prog) (htp : LinTypedProg p) (hip : IntProg p) (hooks : Bool)
    (c0 : Nat) (body routine : List Code) (nargs : Nat) (hc : compileX86 p hooks c0 = .ok (body, nargs))
    (hr : intoRoutine body nargs = .ok routine) (cfg : MonCfg) (H : CfgCC cfg.mach)
    (hload : TextLoads routine) (args : List Word) (fuel : Nat) :
    CCSafe (run (printProg routine) args fuel cfg).res := by
  obtain ⟨items, hparse, hitems⟩ := hload
  rw [stripC_eq] at hitems
  exact CC.cc_safe_run (intProgC_of_intProg hip htp) hc hr cfg H hparse hitems args fuel

open Scc.Props.C06Generic (Reachable WithinCapacity) in
open Scc.Props.C14Generic (LabelSafe) in
/-- C13 for TERMINATING RUNS OF INTEGER PROGRAMS (through Theorem A∘B, `C06_int_programs`): if the
AxCut positional machine finishes with `done v`, then for EVERY amount of fuel the machine on the items
of the routine ends in `outOfFuel` or `done v` — both allowed by `C13_allowed`: at `ret` the
callee-saved registers and rsp are restored, every call was aligned, nothing undefined was used. -/
theorem C13_int_terminating (p : AxCut.Prog) (args : List Word) (hooks : Bool) (body routine : List Code)
    (nargs : Nat) (d0 : Def)
    (hsafe : LabelSafe p = true) (htp : LinTypedProg p) (hip : IntProg p) (hrange : ProgInRange p)
    (hcompX : compileX86 p hooks 0 = .ok (body, nargs)) (hrout : intoRoutine body nargs = .ok routine)
    (hd : p.defs.head? = some d0)
    (hcap : ∀ st, Reachable p ⟨d0.ctx, args.map .int, d0.body⟩ st → WithinCapacity st.ctx)
    (fuel : Nat) (out : List (Bool × Word)) (v : Word) (hrun : Pos.run p args fuel = ⟨out, .done v⟩)
    (cfg : MonCfg) (MO : Ref.MachOK cfg.mach) (hheap : cfg.heap = false)
    (items : List (Code × Nat)) (hitems : (items.map (·.1)).map Ref.stripC = routine.map Ref.stripC) :
    ∀ fuel', C13_allowed (Ref.runItems items args fuel' cfg).res := by
  obtain ⟨f0, _, h2⟩ := C06_int_programs p args hooks body routine nargs d0 hsafe htp hip hrange hcompX
    hrout hd hcap fuel out v hrun cfg MO hheap items hitems
  intro fuel'
  rcases CC.runItems_res_of_done (items := items) (args := args) (cfg := cfg) (f0 := f0) (v := v) h2 fuel'
    with h | h
  · show C13_allowed (CC.runItems items args fuel' cfg).res
    rw [h]; trivial
  · show C13_allowed (CC.runItems items args fuel' cfg).res
    rw [h]; trivial

/-! ## Non-vacuity of the whole-program theorems: the counting loop of C06X86 (a `println`, an `ifc`,
arithmetic, a substitution and a `call` back to the entry) -/

/-- its body has the shape, its routine the parity / balance / spill-area properties -/
example : ∃ body routine, compileX86 C06_loopProg true 0 = .ok (body, 2) ∧
    intoRoutine body 2 = .ok routine ∧ CCShape plainCC body ∧ routine.all spillRefsOK = true ∧
    spSum routine.dropLast = 0 := by
  obtain ⟨body, routine, hcomp, hrout⟩ := C06_loop_compiled
  exact ⟨body, routine, hcomp, hrout, C13_static_shape hcomp, C13_static_spill_area hcomp hrout,
    (C13_static_balanced hcomp hrout).1⟩

/-- … and on its routine the calling-convention monitor never fires, for ALL arguments and ALL fuel
(the loop does not terminate for every argument within a given fuel) -/
example : ∃ routine : List Code, ∀ (args : List Word) (fuel : Nat),
    CCSafe (CC.runItems (routine.map fun c => (c, 0)) args fuel {}).res := by
  obtain ⟨body, routine, hcomp, hrout⟩ := C06_loop_compiled
  exact ⟨routine, fun args fuel => C13_cc_never_fires_int C06_loopProg (linTypedCheck_sound C06_loopProg rfl)
    C06_loopProg_int true 0 body routine 2 hcomp hrout {} cfgCC_default _
    (by simp [List.map_map, Function.comp]) args fuel⟩

/-- … and started with n = 3, acc = 0 (a terminating run) every amount of fuel gives an allowed result -/
example : ∃ routine : List Code, ∀ fuel' : Nat,
    C13_allowed (Ref.runItems (routine.map fun c => (c, 0)) [3, 0] fuel' {}).res := by
  obtain ⟨body, routine, hcomp, hrout⟩ := C06_loop_compiled
  exact ⟨routine, C13_int_terminating C06_loopProg [3, 0] true body routine 2 C06_loopDef
    C06_loop_safe (linTypedCheck_sound C06_loopProg rfl) C06_loopProg_int C06_loopProg_inRange hcomp hrout rfl
    C06_loop_capacity 40 _ _ C06_loop_run {}
    Ref.machOK_default rfl (routine.map fun c => (c, 0)) (by simp [List.map_map, Function.comp])⟩

end Scc.X86

#print axioms Scc.X86.C13_static_shape
#print axioms Scc.X86.C13_static_call_sites
#print axioms Scc.X86.C13_static_saved_exact
#print axioms Scc.X86.C13_static_call_parity
#print axioms Scc.X86.C13_static_balanced
#print axioms Scc.X86.C13_static_routine
#print axioms Scc.X86.C13_static_spill_area
#print axioms Scc.X86.C13_static_sp_writers
#print axioms Scc.X86.C13_codeWrites_sound
#print axioms Scc.X86.C13_cc_never_fires_int
#print axioms Scc.X86.C13_cc_never_fires_int_text
#print axioms Scc.X86.C13_int_terminating

#print axioms Scc.X86.C13_prologue_epilogue
#print axioms Scc.X86.C13_exit_check
#print axioms Scc.X86.C13_sp_invariant
#print axioms Scc.X86.C13_print_alignment
#print axioms Scc.X86.C13_print_preserves

#print axioms Scc.X86.C13_routine_shape
#print axioms Scc.X86.C13_plain_spec
#print axioms Scc.X86.C13_static_save_restore_mirror
#print axioms Scc.X86.C13_static_backup_free
#print axioms Scc.X86.stripC_eq
#print axioms Scc.X86.runItems_eq
