/-
  Scc.Props.C19Shrink — C19-T3: the size of the output of shrinking (S3 → S4) is linear in the size of
  its input; in particular nested critical pairs cannot cause 2^k growth.

  Property C19 (as given) asks for polynomial bounds `|S4| ≤ d·|S3|·(v'+e)` with `v'` the number of
  variables in scope.  Sizes are counted here in statement, clause and definition nodes
  (`sizeStmt`, `axSizeStmt`, `defsSize`, `fsDefsSize` in Scc/Core2AxCut/Model.lean); every such node
  carries at most one context / argument list, whose length is what the factor `(v'+e)` of the
  property accounts for.  In node counts the bound is linear:

      |shrink s| + |definitions lifted out of s|  ≤  (d + 1) · |s|

  where `d` is the largest number of xtors of a declared type (including `_Cont`, so `d ≥ 1`).
  The proof (Scc/Core2AxCut/SizeProofs.lean) rests on the exact Rust condition in
  `shrink_critical_pairs` (model: `inlineExpand`): the statement of the expanded side is copied
  into every clause of the eta-expansion only if the type has at most one xtor or the statement is
  an `exit`, a `call`, or a cut that becomes an `invoke` — and then its image is ONE node and lifts
  nothing (`RecPost`, third component); otherwise it is lifted and each clause gets a `call` (one node).
  Weakening the condition in the model (e.g. treating any cut as a leaf) makes `criticalDecl_post`
  unprovable and changes the dumps.
-/
import Scc.Core2AxCut.SizeProofs

namespace Scc.Props
open Scc.Core2AxCut

/-- the constant of the bound: largest xtor count of a declared type (at least 1 for `_Cont`), plus 1 -/
def shrinkFactor (p : Core.FsProg) : Nat :=
  max (max (maxXtors p.dataTypes) (maxXtors p.codataTypes)) 1 + 1

/-- C19-T3, statement for whole programs; proved by `C19_shrink_size` -/
def C19_shrink_statement : Prop :=
  ∀ (p : Core.FsProg) (q : AxCut.Prog), shrinkProg p = .ok q →
    defsSize q.defs ≤ shrinkFactor p * fsDefsSize p.defs

/-- C19-T3 (FULL): `|S4| ≤ (d + 1) · |S3|` in nodes -/
theorem C19_shrink_size : C19_shrink_statement :=
  fun p q h => shrinkProg_size p q h

/-- the invariant behind it, for one statement and any fuel: the result, together with everything
    that was lifted while producing it, is at most `(d + 1)` times the input; a leaf statement
    becomes a single node and lifts nothing -/
theorem C19_shrink_stmt (env : Env) (fuel : Nat) (s : Core.FsStmt) (st : St) (r : AxCut.Stmt) (st' : St)
    (hs : sizeStmt s ≤ fuel) (h : shrinkStmt env fuel s st = .ok (r, st')) :
    ∃ new, st'.lifted = new ++ st.lifted ∧
      axSizeStmt r + defsSize new ≤ (xtorBound env + 1) * sizeStmt s ∧
      (isLeafStmt s = true → axSizeStmt r = 1 ∧ new = []) :=
  shrinkStmt_post (Nat.le_refl _) fuel s st r st' hs h

/-- the critical-pair step in isolation: one `create`, `n` clauses of one `let` each, plus either
    `n` copies of a one-node statement or `n` calls and one lifted definition -/
theorem C19_critical_pair (env : Env) (K n : Nat) (rec : Rec) (hK : xtorBound env + 1 ≤ K)
    (hrec : RecPost K n rec) (v1 s1 v2 s2 ty st r st') (hs1 : sizeStmt s1 ≤ n) (hs2 : sizeStmt s2 ≤ n)
    (h : shrinkCriticalPairs env rec v1 s1 v2 s2 ty st = .ok (r, st')) :
    ∃ new, st'.lifted = new ++ st.lifted ∧
      axSizeStmt r + defsSize new ≤ K * (sizeStmt s1 + sizeStmt s2 + 3) :=
  shrinkCriticalPairs_post hK hrec v1 s1 v2 s2 ty st r st' hs1 hs2 h

/-! ## non-vacuity -/

namespace C19Example

def x1 : Core.Ident := ⟨"x", 1⟩
def a2 : Core.Ident := ⟨"a", 2⟩
def l3 : Core.Ident := ⟨"l", 3⟩
def b4 : Core.Ident := ⟨"b", 4⟩
def listTy : Core.Ty := .decl ⟨"List", 0⟩
def listDecl : Core.TypeDecl :=
  ⟨⟨"List", 0⟩, [⟨⟨"Nil", 0⟩, []⟩, ⟨⟨"Cons", 0⟩, [⟨⟨"x", 0⟩, .prd, .i64⟩, ⟨⟨"xs", 0⟩, .prd, listTy⟩]⟩]⟩
def body : Core.FsStmt :=
  .cut listTy (.mu .prd b4 listTy (.cut listTy (.xtor .prd ⟨"Nil", 0⟩ [] listTy) (.var .cns b4 listTy)))
    (.mu .cns l3 listTy (.print true x1 (.cut .i64 (.var .prd x1 .i64) (.var .cns a2 .i64))))
def prog : Core.FsProg :=
  ⟨[⟨⟨"main", 0⟩, [⟨x1, .prd, .i64⟩, ⟨a2, .cns, .i64⟩], body⟩], [listDecl], [], 4⟩

example : (shrinkProg prog).toOption.isSome = true := by decide +kernel
example : fsDefsSize prog.defs = 11 ∧ shrinkFactor prog = 3 := by decide +kernel
-- the actual output: `main` (8 nodes + 1) and one lifted definition (2 nodes + 1); 12 ≤ 3 · 11
example : (shrinkProg prog).toOption.map (fun q => defsSize q.defs) = some 12 := by decide +kernel

end C19Example

end Scc.Props

#print axioms Scc.Props.C19_shrink_size
#print axioms Scc.Props.C19_shrink_stmt
#print axioms Scc.Props.C19_critical_pair
