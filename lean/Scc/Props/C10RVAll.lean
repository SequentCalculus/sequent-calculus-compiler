/-
  Scc.Props.C10RVAll — property C10 (heap footprint bounded by peak live data) ON CONCRETE RV64 EXECUTIONS OF ALL
  PROGRAMS — integers, data types AND CLOSURES: the port of Props/C10X86All.lean to the RISC-V backend, over the
  three-way relation `Scc.RV.Ref.Rel3` of Props/C08RVClo.lean (Scc/RV/Conc*.lean), with the side hypotheses
  discharged as in `C08_programs_live`.

  C10 (fixed text): "Generated code takes fresh memory from the unused part of the heap only when both free
  lists are empty, so at every moment the highest heap address ever written lies at most a small constant
  number of blocks above the peak number of simultaneously reachable blocks. A computation that repeatedly
  builds and drops structures therefore runs in space independent of the number of repetitions."

  NOTIONS.  The machine: `step` / `stepN` / `initState` as in Props/C09RVAll.lean; `runLines lines args fuel mc` is
  what `RV.run` does after `parseText` (Scc/RV/RefRun.lean).  `Conc.HeapShapeAt mc X below inUse` (raw machine
  state): the heap of `X` is consistent (`InvW` for some roots) with `below` blocks below the allocation frontier,
  `inUse` of which are neither on the reusable nor on the deferred free list.  `maxHeapWritten`: the machine's own
  record of the highest heap byte offset stored to.  `Conc.PeakAtMost … Pk C` — THE PEAK over the statement
  boundaries `Conc.BoundaryOf` of the machine's run.  `Conc.withHeapBytes mc b`: `mc` with a heap of `b` bytes.
  THE CONSTANT `A + 2`, `A = progMaxAlloc p`: the largest number of fields of a `let` OR OF VARIABLES CAPTURED BY A
  `create` of the program — the environment of a closure is stored by the same `Memory::store` as the fields of
  an object, and the memory contract asks for `A + 1` blocks of room before it.

  PROVED (no `sorry`; axioms propext, Classical.choice, Quot.sound):
  * `C10_rv_frontier_bound_all`  under `PeakAtMost Pk`, in a heap of at least `64·(Pk + A + 2)` bytes, the machine
                              passes through a boundary state for every state of the terminating positional run,
                              and at each at most `Pk + 1` blocks lie below the frontier (fresh memory is taken
                              only when both free lists are empty: `FrPk`, also through `create`).
  * `C10_rv_every_prefix_all`    the same for every prefix (any number `fuel` of steps) of every run.
  * `C10_rv_programs`         THEOREM A ∘ B under the footprint bound instead of the coarse room hypothesis
                              `128 + 64·15·fuel` of `C08_programs_live`: `64·(Pk + A + 2) ≤ heapBytes` and
                              `PeakAtMost Pk` suffice for a run of ANY length (same result), and the highest heap
                              address written lies inside the heap region.
  * `C10_rv_footprint_all`    THE FOOTPRINT: in ANY heap of at least `64·(Pk + A + 2)` bytes the run ends with the
                              same result and `maxHeapWritten ≤ 64·(Pk + A + 2)` — the highest heap address written
                              is at most `Pk + A + 2` blocks above the heap base, independent of the length of the
                              run and of the size of the heap.  `C10_rv_footprint_all_lines`: side hypotheses
                              explicit.  `C10_rv_coarse_all`: `Pk = A·fuel + 1`, no peak hypothesis.
  * `C10_rv_size_all`         C10 IN TERMS OF THE SOURCE-LEVEL DATA, terminating runs: let `D` bound the number of
                              fields of the object AND CLOSURE values held by the variables of the positional machine
                              (`valsFields st.env ≤ D` for every reachable state).  Then in ANY heap of at least
                              `64·(D + A + 2)` bytes the run ends with the result of the positional machine and the
                              highest heap address written is at most `D + A + 2` blocks above the heap base.
  * `C10_rv_size_every_prefix`   … and for every prefix of every run (terminating or not) the machine passes through
                              a boundary for every state of the prefix with at most `D + 1` blocks below the
                              frontier and `maxHeapWritten ≤ heapBytes` there.
  * `C10_rv_size_all_fuel`    … AND EVERY AMOUNT OF MACHINE FUEL (the form of `C10_x86_size_all`): in ANY heap of at least
                              `64·(D + A + 2)` bytes, for EVERY amount `fuel'` of machine fuel (below `2^64/(M + 1)`,
                              `M = progMaxSize p`), terminating run or not, provided the positional machine never gets
                              stuck: the result of `runLines` is `outOfFuel` or `done v` (the result of the
                              positional machine) and the highest heap address written is at most `D + A + 2` blocks
                              above the heap base.  Progress: every `call` / `invoke` consumes at least one unit of
                              fuel (`ReachP`, Scc/RV/RefBridge.lean), every other step of the positional machine moves
                              to a smaller statement.  `C10_rv_size_all_fuel_statement` (the statement as a
                              `def : Prop`) is PROVED: `C10_rv_size_all_fuel_proved`.
  * `C10_rv_footprint_all_text`, `C10_rv_size_all_fuel_text`  ON THE TEXT the backend prints, for the machine's entry
                              point `RV.run` (loader: `C14R_routine_loads`, Props/C14LoaderRV.lean, from the decidable
                              names check): `(run (intoRoutine instrs) args fuel' mc).maxHeapWritten ≤ 64·(… + A + 2)`.
  * `C10_rv_cloLoop_all_fuel` NON-VACUITY: the closure loop runs FOREVER in four blocks — for every fuel below 2^59 the
                              machine is still running and has written at most 256 bytes of its heap.
-/
import Scc.Props.C09RVAll
import Scc.RV.ConcAllFuel

namespace Scc.RV
open Scc.AxCut Scc.Backend Scc.RV.Ref
open Scc.Props.C06Generic (Reachable CodeFits statesOf)
open Scc.Props.C14Generic (LabelSafe)
open Scc.X86.Ref.K (AllocLe progMaxAlloc allocLe_progMaxAlloc)
open Scc.X86.Conc (valsFields stmtSize progMaxSize stmtSize_le_progMaxSize)
open Scc.RV.Conc (BChain BoundaryOf HeapShapeAt initState withHeapBytes sub_withHeapBytes runLines_larger_heap
  stepN_mhw mhwOK_init)

/-- the peak hypothesis is trivial for `Pk = C`: the blocks in use lie below the frontier -/
theorem C10_rv_peak_trivial_all (p : AxCut.Prog) (hooks : Bool) (ks : List Code) (ops : List MockOp)
    (mc : MonCfg) (pr : RV.Program) (X00 : State) (C : Nat) :
    Conc.PeakAtMost p hooks ks ops mc pr X00 C C :=
  Conc.peakAtMost_trivial p hooks ks ops mc pr X00 C

/-- THE FRONTIER BOUND ON THE MACHINE, all programs: if at no statement boundary more than `Pk` blocks are in use,
then in a heap of `64·(Pk + A + 2)` bytes the machine passes, in order and without fault, through a boundary state
for EVERY state of the terminating positional run, and at each of them the heap is consistent with at most
`Pk + 1` blocks below the allocation frontier. -/
theorem C10_rv_frontier_bound_all (p : AxCut.Prog) (args : List Word) (hooks : Bool) (instrs hdr : List Code)
    (nargs cX : Nat) (d0 : Def) (ops : List MockOp) (c' : Nat)
    (hsafe : LabelSafe p = true) (htp : LinTypedProg p)
    (hcompM : (compile mockSym hooks p).run 0 = .ok ((ops, nargs), c')) (hfit : CodeFits ops)
    {counter : Nat} (hcompX : (compile rvBackend hooks p).run counter = .ok ((instrs, nargs), cX))
    (hnd : (labs (instrs ++ [Code.LAB "cleanup"])).Nodup) (hfitX : codeBase + 4 * instrs.length < 2 ^ 64)
    (hd : p.defs.head? = some d0) (hentry : ∀ b ∈ d0.ctx, b.chi = .ext ∧ b.ty = .i64)
    (hcap : ∀ st, Reachable p ⟨d0.ctx, args.map .int, d0.body⟩ st → st.ctx.length ≤ maxVariables)
    (fuel : Nat) (v : Word) (hfuel : fuel + 1 < 2 ^ 64)
    (hrun : (Pos.run p args fuel).res = .done v)
    (mc : MonCfg) (hheap : mc.heap = false) (htop : heapBase + mc.heapBytes ≤ 2 ^ 63)
    (Pk : Nat) (hbytes : 64 * (Pk + progMaxAlloc p + 2) ≤ mc.heapBytes)
    (lines : List (Nat × Code)) (hhdr : ∀ c ∈ hdr, c.isComment = true)
    (hlines : (lines.map (·.2)).map stripC = (hdr ++ instrs ++ [Code.LAB "cleanup"]).map stripC)
    (hhook : ∀ x ∈ lines, ¬ badHook x.2)
    (hP : ∀ pr e regs, layout lines = .ok pr → pr.entry = some e → entryRegs args = some regs →
      Conc.PeakAtMost p hooks (keptOf lines) ops mc pr (initState regs e) Pk (progMaxAlloc p * fuel + 1)) :
    ∃ pr e regs, layout lines = .ok pr ∧ pr.entry = some e ∧ entryRegs args = some regs ∧
      ∃ X0, stepN pr mc 1 (initState regs e) = .inl X0 ∧
        BChain pr mc
          (fun st X => BoundaryOf p hooks (keptOf lines) ops mc st X ∧
            ∃ below inUse, HeapShapeAt mc X below inUse ∧ below ≤ Pk + 1 ∧ inUse ≤ Pk)
          (statesOf p fuel ⟨d0.ctx, args.map .int, d0.body⟩) X0 := by
  obtain ⟨pr, e, regs, hlay, he, hregs, X0, n, XL, r, h0, hch, _⟩ := Conc.programs_peak p args hooks instrs hdr nargs
    cX d0 ops c' hsafe htp hcompM hfit hcompX hnd hfitX hd hentry hcap fuel v hfuel hrun mc hheap htop Pk
    (progMaxAlloc p) (allocLe_progMaxAlloc p) hbytes lines hhdr hlines hhook hP
  exact ⟨pr, e, regs, hlay, he, hregs, X0, h0, hch⟩

/-- THE FRONTIER BOUND FOR EVERY PREFIX OF EVERY RUN (terminating or not), all programs: for ANY number `fuel` of
steps of the positional machine the machine reaches, without fault, a boundary state for every state of the
prefix, with at most `Pk + 1` blocks below the frontier at each; the highest heap address written so far lies
inside the heap region -/
theorem C10_rv_every_prefix_all (p : AxCut.Prog) (args : List Word) (hooks : Bool) (instrs hdr : List Code)
    (nargs cX : Nat) (d0 : Def) (ops : List MockOp) (c' : Nat)
    (hsafe : LabelSafe p = true) (htp : LinTypedProg p)
    (hcompM : (compile mockSym hooks p).run 0 = .ok ((ops, nargs), c')) (hfit : CodeFits ops)
    {counter : Nat} (hcompX : (compile rvBackend hooks p).run counter = .ok ((instrs, nargs), cX))
    (hnd : (labs (instrs ++ [Code.LAB "cleanup"])).Nodup) (hfitX : codeBase + 4 * instrs.length < 2 ^ 64)
    (hd : p.defs.head? = some d0) (hentry : ∀ b ∈ d0.ctx, b.chi = .ext ∧ b.ty = .i64)
    (hlen : d0.ctx.length = args.length)
    (hcap : ∀ st, Reachable p ⟨d0.ctx, args.map .int, d0.body⟩ st → st.ctx.length ≤ maxVariables)
    (fuel : Nat) (hfuel : fuel + 1 < 2 ^ 64)
    (mc : MonCfg) (hheap : mc.heap = false) (htop : heapBase + mc.heapBytes ≤ 2 ^ 63)
    (Pk : Nat) (hbytes : 64 * (Pk + progMaxAlloc p + 2) ≤ mc.heapBytes)
    (lines : List (Nat × Code)) (hhdr : ∀ c ∈ hdr, c.isComment = true)
    (hlines : (lines.map (·.2)).map stripC = (hdr ++ instrs ++ [Code.LAB "cleanup"]).map stripC)
    (hhook : ∀ x ∈ lines, ¬ badHook x.2)
    (hP : ∀ pr e regs, layout lines = .ok pr → pr.entry = some e → entryRegs args = some regs →
      Conc.PeakAtMost p hooks (keptOf lines) ops mc pr (initState regs e) Pk (progMaxAlloc p * fuel + 1)) :
    ∃ pr e regs, layout lines = .ok pr ∧ pr.entry = some e ∧ entryRegs args = some regs ∧
      ∃ X0, stepN pr mc 1 (initState regs e) = .inl X0 ∧ X0.maxHeapWritten ≤ mc.heapBytes ∧
        BChain pr mc
          (fun st X => BoundaryOf p hooks (keptOf lines) ops mc st X ∧
            ∃ below inUse, HeapShapeAt mc X below inUse ∧ below ≤ Pk + 1 ∧ inUse ≤ Pk)
          (statesOf p fuel ⟨d0.ctx, args.map .int, d0.body⟩) X0 := by
  obtain ⟨pr, e, regs, hlay, he, hregs, X0, h0, hch⟩ := Conc.programs_prefix p args hooks instrs hdr nargs cX d0 ops
    c' hsafe htp hcompM hfit hcompX hnd hfitX hd hentry hlen hcap fuel hfuel mc hheap htop Pk (progMaxAlloc p)
    (allocLe_progMaxAlloc p) hbytes lines hhdr hlines hhook hP
  exact ⟨pr, e, regs, hlay, he, hregs, X0, h0, (stepN_mhw hheap 1 h0).2 (mhwOK_init mc regs e), hch⟩

/-- THEOREM A ∘ THEOREM B FOR ALL PROGRAMS UNDER THE FOOTPRINT BOUND, on parsed lines, side hypotheses explicit:
`C08_programs` with its room hypothesis `128 + 64·15·fuel ≤ heapBytes` replaced by `64·(Pk + A + 2) ≤ heapBytes`
and the peak hypothesis — a heap that holds the peak is enough for a run of any length; and the machine's record
of the highest heap address written stays inside the heap region. -/
theorem C10_rv_programs_lines (p : AxCut.Prog) (args : List Word) (hooks : Bool) (instrs hdr : List Code)
    (nargs cX : Nat) (d0 : Def) (ops : List MockOp) (c' : Nat)
    (hsafe : LabelSafe p = true) (htp : LinTypedProg p)
    (hcompM : (compile mockSym hooks p).run 0 = .ok ((ops, nargs), c')) (hfit : CodeFits ops)
    {counter : Nat} (hcompX : (compile rvBackend hooks p).run counter = .ok ((instrs, nargs), cX))
    (hnd : (labs (instrs ++ [Code.LAB "cleanup"])).Nodup) (hfitX : codeBase + 4 * instrs.length < 2 ^ 64)
    (hd : p.defs.head? = some d0) (hentry : ∀ b ∈ d0.ctx, b.chi = .ext ∧ b.ty = .i64)
    (hcap : ∀ st, Reachable p ⟨d0.ctx, args.map .int, d0.body⟩ st → st.ctx.length ≤ maxVariables)
    (fuel : Nat) (v : Word) (hfuel : fuel + 1 < 2 ^ 64)
    (hrun : (Pos.run p args fuel).res = .done v)
    (mc : MonCfg) (hheap : mc.heap = false) (htop : heapBase + mc.heapBytes ≤ 2 ^ 63)
    (Pk : Nat) (hbytes : 64 * (Pk + progMaxAlloc p + 2) ≤ mc.heapBytes)
    (lines : List (Nat × Code)) (hhdr : ∀ c ∈ hdr, c.isComment = true)
    (hlines : (lines.map (·.2)).map stripC = (hdr ++ instrs ++ [Code.LAB "cleanup"]).map stripC)
    (hhook : ∀ x ∈ lines, ¬ badHook x.2)
    (hP : ∀ pr e regs, layout lines = .ok pr → pr.entry = some e → entryRegs args = some regs →
      Conc.PeakAtMost p hooks (keptOf lines) ops mc pr (initState regs e) Pk (progMaxAlloc p * fuel + 1)) :
    ∃ fuel', (runLines lines args fuel' mc).res = .done v ∧
      (runLines lines args fuel' mc).maxHeapWritten ≤ mc.heapBytes :=
  Conc.programs_peak_lines p args hooks instrs hdr nargs cX d0 ops c' hsafe htp hcompM hfit hcompX hnd hfitX hd hentry
    hcap fuel v hfuel hrun mc hheap htop Pk (progMaxAlloc p) (allocLe_progMaxAlloc p) hbytes lines hhdr hlines hhook hP

theorem C10_withHeapBytes_top {mc : MonCfg} {b : Nat} (htop : heapBase + mc.heapBytes ≤ 2 ^ 63)
    (hb : b ≤ mc.heapBytes) : heapBase + (withHeapBytes mc b).heapBytes ≤ 2 ^ 63 := by
  show heapBase + b ≤ 2 ^ 63
  omega

/-- C10, THE FOOTPRINT ON THE MACHINE, all programs, on parsed lines: let at no statement boundary of the run in a
heap of `64·(Pk + A + 2)` bytes more than `Pk` blocks be in use.  Then in ANY heap at least that large the run
reproduces the result of the positional machine, and the highest heap address ever written lies at most
`Pk + A + 2` blocks above the heap base — independent of the length of the run and of the size of the heap. -/
theorem C10_rv_footprint_all_lines (p : AxCut.Prog) (args : List Word) (hooks : Bool) (instrs hdr : List Code)
    (nargs cX : Nat) (d0 : Def) (ops : List MockOp) (c' : Nat)
    (hsafe : LabelSafe p = true) (htp : LinTypedProg p)
    (hcompM : (compile mockSym hooks p).run 0 = .ok ((ops, nargs), c')) (hfit : CodeFits ops)
    {counter : Nat} (hcompX : (compile rvBackend hooks p).run counter = .ok ((instrs, nargs), cX))
    (hnd : (labs (instrs ++ [Code.LAB "cleanup"])).Nodup) (hfitX : codeBase + 4 * instrs.length < 2 ^ 64)
    (hd : p.defs.head? = some d0) (hentry : ∀ b ∈ d0.ctx, b.chi = .ext ∧ b.ty = .i64)
    (hcap : ∀ st, Reachable p ⟨d0.ctx, args.map .int, d0.body⟩ st → st.ctx.length ≤ maxVariables)
    (fuel : Nat) (v : Word) (hfuel : fuel + 1 < 2 ^ 64)
    (hrun : (Pos.run p args fuel).res = .done v)
    (mc : MonCfg) (hheap : mc.heap = false) (htop : heapBase + mc.heapBytes ≤ 2 ^ 63)
    (Pk : Nat) (hbytes : 64 * (Pk + progMaxAlloc p + 2) ≤ mc.heapBytes)
    (lines : List (Nat × Code)) (hhdr : ∀ c ∈ hdr, c.isComment = true)
    (hlines : (lines.map (·.2)).map stripC = (hdr ++ instrs ++ [Code.LAB "cleanup"]).map stripC)
    (hhook : ∀ x ∈ lines, ¬ badHook x.2)
    (hP : ∀ pr e regs, layout lines = .ok pr → pr.entry = some e → entryRegs args = some regs →
      Conc.PeakAtMost p hooks (keptOf lines) ops (withHeapBytes mc (64 * (Pk + progMaxAlloc p + 2))) pr
        (initState regs e) Pk (progMaxAlloc p * fuel + 1)) :
    ∃ fuel', (runLines lines args fuel' mc).res = .done v ∧
      (runLines lines args fuel' mc).maxHeapWritten ≤ 64 * (Pk + progMaxAlloc p + 2) := by
  obtain ⟨fuel', h2, h3⟩ := C10_rv_programs_lines p args hooks instrs hdr nargs cX d0 ops c' hsafe htp hcompM hfit
    hcompX hnd hfitX hd hentry hcap fuel v hfuel hrun (withHeapBytes mc (64 * (Pk + progMaxAlloc p + 2))) hheap
    (C10_withHeapBytes_top htop hbytes) Pk (Nat.le_refl _) lines hhdr hlines hhook hP
  have e := runLines_larger_heap (sub_withHeapBytes hheap hbytes) lines args fuel' v h2
  exact ⟨fuel', by rw [e]; exact h2, by rw [e]; exact h3⟩

/-- THEOREM A ∘ THEOREM B FOR ALL PROGRAMS UNDER THE FOOTPRINT BOUND, side hypotheses discharged: the hypotheses of
`C08_programs_live` with the room hypothesis replaced by the footprint bound (the peak hypothesis for the mock
code and the program the loader lays out; `fuel + 1 < 2^64`) -/
theorem C10_rv_programs (p : AxCut.Prog) (args : List Word) (hooks : Bool) (instrs hdr : List Code)
    (nargs cX : Nat) (d0 : Def)
    (hsafe : LabelSafe p = true) (htp : LinTypedProg p) (hsize : C08_sizeCheck p = true)
    (hlive : LiveAtMost maxVariables p)
    {counter : Nat} (hcompX : (compile rvBackend hooks p).run counter = .ok ((instrs, nargs), cX))
    (hfitX : codeBase + 4 * instrs.length < 2 ^ 64)
    (hd : p.defs.head? = some d0) (hentry : ∀ b ∈ d0.ctx, b.chi = .ext ∧ b.ty = .i64)
    (fuel : Nat) (v : Word) (hfuel : fuel + 1 < 2 ^ 64)
    (hrun : (Pos.run p args fuel).res = .done v)
    (mc : MonCfg) (hheap : mc.heap = false) (htop : heapBase + mc.heapBytes ≤ 2 ^ 63)
    (Pk : Nat) (hbytes : 64 * (Pk + progMaxAlloc p + 2) ≤ mc.heapBytes)
    (lines : List (Nat × Code)) (hhdr : ∀ c ∈ hdr, c.isComment = true)
    (hlines : (lines.map (·.2)).map stripC = (hdr ++ instrs ++ [Code.LAB "cleanup"]).map stripC)
    (hhook : ∀ x ∈ lines, ¬ badHook x.2)
    (hP : ∀ ops c' pr e regs, (compile mockSym hooks p).run 0 = .ok ((ops, nargs), c') →
      layout lines = .ok pr → pr.entry = some e → entryRegs args = some regs →
      Conc.PeakAtMost p hooks (keptOf lines) ops mc pr (initState regs e) Pk (progMaxAlloc p * fuel + 1)) :
    ∃ fuel', (runLines lines args fuel' mc).res = .done v ∧
      (runLines lines args fuel' mc).maxHeapWritten ≤ mc.heapBytes := by
  obtain ⟨ops, c', hcompM, hfit, hnd, hcap⟩ := C09_rv_setup p args hooks instrs nargs cX d0 hsafe htp hsize hlive
    hcompX hd
  exact C10_rv_programs_lines p args hooks instrs hdr nargs cX d0 ops c' hsafe htp hcompM hfit hcompX hnd hfitX hd
    hentry hcap fuel v hfuel hrun mc hheap htop Pk hbytes lines hhdr hlines hhook
    (fun pr e regs h1 h2 h3 => hP ops c' pr e regs hcompM h1 h2 h3)

/-- C10, THE FOOTPRINT, ALL PROGRAMS, side hypotheses discharged (the hypotheses of `C08_programs_live`): the
machine on the lines of the routine reproduces the result and never writes above `Pk + A + 2` blocks of its heap:
the highest heap address written is at most `64·(Pk + A + 2)` above the heap base -/
theorem C10_rv_footprint_all (p : AxCut.Prog) (args : List Word) (hooks : Bool) (instrs hdr : List Code)
    (nargs cX : Nat) (d0 : Def)
    (hsafe : LabelSafe p = true) (htp : LinTypedProg p) (hsize : C08_sizeCheck p = true)
    (hlive : LiveAtMost maxVariables p)
    {counter : Nat} (hcompX : (compile rvBackend hooks p).run counter = .ok ((instrs, nargs), cX))
    (hfitX : codeBase + 4 * instrs.length < 2 ^ 64)
    (hd : p.defs.head? = some d0) (hentry : ∀ b ∈ d0.ctx, b.chi = .ext ∧ b.ty = .i64)
    (fuel : Nat) (v : Word) (hfuel : fuel + 1 < 2 ^ 64)
    (hrun : (Pos.run p args fuel).res = .done v)
    (mc : MonCfg) (hheap : mc.heap = false) (htop : heapBase + mc.heapBytes ≤ 2 ^ 63)
    (Pk : Nat) (hbytes : 64 * (Pk + progMaxAlloc p + 2) ≤ mc.heapBytes)
    (lines : List (Nat × Code)) (hhdr : ∀ c ∈ hdr, c.isComment = true)
    (hlines : (lines.map (·.2)).map stripC = (hdr ++ instrs ++ [Code.LAB "cleanup"]).map stripC)
    (hhook : ∀ x ∈ lines, ¬ badHook x.2)
    (hP : ∀ ops c' pr e regs, (compile mockSym hooks p).run 0 = .ok ((ops, nargs), c') →
      layout lines = .ok pr → pr.entry = some e → entryRegs args = some regs →
      Conc.PeakAtMost p hooks (keptOf lines) ops (withHeapBytes mc (64 * (Pk + progMaxAlloc p + 2))) pr
        (initState regs e) Pk (progMaxAlloc p * fuel + 1)) :
    ∃ fuel', (runLines lines args fuel' mc).res = .done v ∧
      (runLines lines args fuel' mc).maxHeapWritten ≤ 64 * (Pk + progMaxAlloc p + 2) := by
  obtain ⟨ops, c', hcompM, hfit, hnd, hcap⟩ := C09_rv_setup p args hooks instrs nargs cX d0 hsafe htp hsize hlive
    hcompX hd
  exact C10_rv_footprint_all_lines p args hooks instrs hdr nargs cX d0 ops c' hsafe htp hcompM hfit hcompX hnd hfitX
    hd hentry hcap fuel v hfuel hrun mc hheap htop Pk hbytes lines hhdr hlines hhook
    (fun pr e regs h1 h2 h3 => hP ops c' pr e regs hcompM h1 h2 h3)

/-- with `Pk = A·fuel + 1` the peak hypothesis is trivial: the footprint of a terminating run of ANY program in
terms of its length -/
theorem C10_rv_coarse_all (p : AxCut.Prog) (args : List Word) (hooks : Bool) (instrs hdr : List Code)
    (nargs cX : Nat) (d0 : Def)
    (hsafe : LabelSafe p = true) (htp : LinTypedProg p) (hsize : C08_sizeCheck p = true)
    (hlive : LiveAtMost maxVariables p)
    {counter : Nat} (hcompX : (compile rvBackend hooks p).run counter = .ok ((instrs, nargs), cX))
    (hfitX : codeBase + 4 * instrs.length < 2 ^ 64)
    (hd : p.defs.head? = some d0) (hentry : ∀ b ∈ d0.ctx, b.chi = .ext ∧ b.ty = .i64)
    (fuel : Nat) (v : Word) (hfuel : fuel + 1 < 2 ^ 64)
    (hrun : (Pos.run p args fuel).res = .done v)
    (mc : MonCfg) (hheap : mc.heap = false) (htop : heapBase + mc.heapBytes ≤ 2 ^ 63)
    (hbytes : 64 * (progMaxAlloc p * fuel + 1 + progMaxAlloc p + 2) ≤ mc.heapBytes)
    (lines : List (Nat × Code)) (hhdr : ∀ c ∈ hdr, c.isComment = true)
    (hlines : (lines.map (·.2)).map stripC = (hdr ++ instrs ++ [Code.LAB "cleanup"]).map stripC)
    (hhook : ∀ x ∈ lines, ¬ badHook x.2) :
    ∃ fuel', (runLines lines args fuel' mc).res = .done v ∧
      (runLines lines args fuel' mc).maxHeapWritten ≤ 64 * (progMaxAlloc p * fuel + 1 + progMaxAlloc p + 2) :=
  C10_rv_footprint_all p args hooks instrs hdr nargs cX d0 hsafe htp hsize hlive hcompX hfitX hd hentry fuel v hfuel
    hrun mc hheap htop (progMaxAlloc p * fuel + 1) hbytes lines hhdr hlines hhook
    (fun _ _ _ _ _ _ _ _ _ => C10_rv_peak_trivial_all _ _ _ _ _ _ _ _)

/-- C10, TERMINATING RUNS OF ALL PROGRAMS, IN TERMS OF THE DATA OF THE POSITIONAL MACHINE: if the object and closure
values held by the variables never have more than `D` fields in total (over all reachable states of the AxCut
positional machine), then in any heap of at least `64·(D + A + 2)` bytes the machine returns the result of the
positional machine and has never written above `D + A + 2` blocks of its heap. -/
theorem C10_rv_size_all (p : AxCut.Prog) (args : List Word) (hooks : Bool) (instrs hdr : List Code)
    (nargs cX : Nat) (d0 : Def)
    (hsafe : LabelSafe p = true) (htp : LinTypedProg p) (hsize : C08_sizeCheck p = true)
    (hlive : LiveAtMost maxVariables p)
    {counter : Nat} (hcompX : (compile rvBackend hooks p).run counter = .ok ((instrs, nargs), cX))
    (hfitX : codeBase + 4 * instrs.length < 2 ^ 64)
    (hd : p.defs.head? = some d0) (hentry : ∀ b ∈ d0.ctx, b.chi = .ext ∧ b.ty = .i64)
    (D : Nat) (hD : ∀ st, Reachable p ⟨d0.ctx, args.map .int, d0.body⟩ st → valsFields st.env ≤ D)
    (fuel : Nat) (v : Word) (hfuel : fuel + 1 < 2 ^ 64)
    (hrun : (Pos.run p args fuel).res = .done v)
    (mc : MonCfg) (hheap : mc.heap = false) (htop : heapBase + mc.heapBytes ≤ 2 ^ 63)
    (hbytes : 64 * (D + progMaxAlloc p + 2) ≤ mc.heapBytes)
    (lines : List (Nat × Code)) (hhdr : ∀ c ∈ hdr, c.isComment = true)
    (hlines : (lines.map (·.2)).map stripC = (hdr ++ instrs ++ [Code.LAB "cleanup"]).map stripC)
    (hhook : ∀ x ∈ lines, ¬ badHook x.2) :
    ∃ fuel', (runLines lines args fuel' mc).res = .done v ∧
      (runLines lines args fuel' mc).maxHeapWritten ≤ 64 * (D + progMaxAlloc p + 2) := by
  obtain ⟨ops, c', hcompM, hfit, hnd, hcap⟩ := C09_rv_setup p args hooks instrs nargs cX d0 hsafe htp hsize hlive
    hcompX hd
  obtain ⟨fuel', h2, h3⟩ := Conc.programs_peak_gen_lines p args hooks instrs hdr nargs cX d0 ops c' hsafe htp hcompM
    hfit hcompX hnd hfitX hd hentry hcap fuel v hfuel hrun (withHeapBytes mc (64 * (D + progMaxAlloc p + 2))) hheap
    (C10_withHeapBytes_top htop hbytes) D (progMaxAlloc p) (allocLe_progMaxAlloc p) (Nat.le_refl _) lines hhdr hlines
    hhook (fun _ _ _ _ _ _ => Conc.peakHyp_of_data hD)
  have e := runLines_larger_heap (sub_withHeapBytes hheap hbytes) lines args fuel' v h2
  exact ⟨fuel', by rw [e]; exact h2, by rw [e]; exact h3⟩

/-- … AND EVERY PREFIX OF EVERY RUN (terminating or not): the machine passes through a boundary for every state of
the prefix; at each of them at most `D + 1` blocks lie below the allocation frontier -/
theorem C10_rv_size_every_prefix (p : AxCut.Prog) (args : List Word) (hooks : Bool) (instrs hdr : List Code)
    (nargs cX : Nat) (d0 : Def)
    (hsafe : LabelSafe p = true) (htp : LinTypedProg p) (hsize : C08_sizeCheck p = true)
    (hlive : LiveAtMost maxVariables p)
    {counter : Nat} (hcompX : (compile rvBackend hooks p).run counter = .ok ((instrs, nargs), cX))
    (hfitX : codeBase + 4 * instrs.length < 2 ^ 64)
    (hd : p.defs.head? = some d0) (hentry : ∀ b ∈ d0.ctx, b.chi = .ext ∧ b.ty = .i64)
    (hargs : args.length = nargs)
    (D : Nat) (hD : ∀ st, Reachable p ⟨d0.ctx, args.map .int, d0.body⟩ st → valsFields st.env ≤ D)
    (fuel : Nat) (hfuel : fuel + 1 < 2 ^ 64)
    (mc : MonCfg) (hheap : mc.heap = false) (htop : heapBase + mc.heapBytes ≤ 2 ^ 63)
    (hbytes : 64 * (D + progMaxAlloc p + 2) ≤ mc.heapBytes)
    (lines : List (Nat × Code)) (hhdr : ∀ c ∈ hdr, c.isComment = true)
    (hlines : (lines.map (·.2)).map stripC = (hdr ++ instrs ++ [Code.LAB "cleanup"]).map stripC)
    (hhook : ∀ x ∈ lines, ¬ badHook x.2) :
    ∃ ops c' pr e regs, (compile mockSym hooks p).run 0 = .ok ((ops, nargs), c') ∧
      layout lines = .ok pr ∧ pr.entry = some e ∧ entryRegs args = some regs ∧
      ∃ X0, stepN pr mc 1 (initState regs e) = .inl X0 ∧
        BChain pr mc
          (fun st X => BoundaryOf p hooks (keptOf lines) ops mc st X ∧
            ∃ below inUse, HeapShapeAt mc X below inUse ∧ below ≤ D + 1)
          (statesOf p fuel ⟨d0.ctx, args.map .int, d0.body⟩) X0 := by
  obtain ⟨ops, c', hcompM, hfit, hnd, hcap⟩ := C09_rv_setup p args hooks instrs nargs cX d0 hsafe htp hsize hlive
    hcompX hd
  have hlen : d0.ctx.length = args.length := by
    rw [hargs]; exact (C08_compile_nargs rvBackend hooks p counter instrs nargs cX hcompX d0 hd).symm
  obtain ⟨pr, e, regs, hlay, he, hregs, X0, h0, hch⟩ := Conc.programs_prefix_gen p args hooks instrs hdr nargs cX d0
    ops c' hsafe htp hcompM hfit hcompX hnd hfitX hd hentry hlen hcap fuel hfuel mc hheap htop D (progMaxAlloc p)
    (allocLe_progMaxAlloc p) hbytes lines hhdr hlines hhook (fun _ _ _ _ _ _ => Conc.peakHyp_of_data hD)
  exact ⟨ops, c', pr, e, regs, hcompM, hlay, he, hregs, X0, h0, hch⟩

/-- C10, ALL RUNS OF ALL PROGRAMS, EVERY AMOUNT OF MACHINE FUEL, IN TERMS OF THE DATA OF THE POSITIONAL MACHINE: if the
object and closure values held by the variables never have more than `D` fields in total (over all reachable states
of the AxCut positional machine) and the positional machine never gets stuck, then in any heap of at least
`64·(D + A + 2)` bytes the machine, for every amount of fuel (below `2^64 / (M + 1)`, `M = progMaxSize p`), is
still running or has returned the result of the positional machine, and has never written above `D + A + 2`
blocks of its heap. -/
theorem C10_rv_size_all_fuel (p : AxCut.Prog) (args : List Word) (hooks : Bool) (instrs hdr : List Code)
    (nargs cX : Nat) (d0 : Def)
    (hsafe : LabelSafe p = true) (htp : LinTypedProg p) (hsize : C08_sizeCheck p = true)
    (hlive : LiveAtMost maxVariables p)
    {counter : Nat} (hcompX : (compile rvBackend hooks p).run counter = .ok ((instrs, nargs), cX))
    (hfitX : codeBase + 4 * instrs.length < 2 ^ 64)
    (hd : p.defs.head? = some d0) (hentry : ∀ b ∈ d0.ctx, b.chi = .ext ∧ b.ty = .i64)
    (hargs : args.length = nargs)
    (hnostuck : ∀ fuel w, (Pos.run p args fuel).res ≠ .stuck w)
    (D : Nat) (hD : ∀ st, Reachable p ⟨d0.ctx, args.map .int, d0.body⟩ st → valsFields st.env ≤ D)
    (mc : MonCfg) (hheap : mc.heap = false) (htop : heapBase + mc.heapBytes ≤ 2 ^ 63)
    (hbytes : 64 * (D + progMaxAlloc p + 2) ≤ mc.heapBytes)
    (lines : List (Nat × Code)) (hhdr : ∀ c ∈ hdr, c.isComment = true)
    (hlines : (lines.map (·.2)).map stripC = (hdr ++ instrs ++ [Code.LAB "cleanup"]).map stripC)
    (hhook : ∀ x ∈ lines, ¬ badHook x.2)
    (fuel' : Nat) (hf : fuel' * (progMaxSize p + 1) + stmtSize d0.body + 1 < 2 ^ 64) :
    ((runLines lines args fuel' mc).res = .outOfFuel ∨
      ∃ v, (Pos.run p args (fuel' * (progMaxSize p + 1) + stmtSize d0.body)).res = .done v ∧
        (runLines lines args fuel' mc).res = .done v) ∧
    (runLines lines args fuel' mc).maxHeapWritten ≤ 64 * (D + progMaxAlloc p + 2) := by
  obtain ⟨ops, c', hcompM, hfit, hnd, hcap⟩ := C09_rv_setup p args hooks instrs nargs cX d0 hsafe htp hsize hlive
    hcompX hd
  have hlen : d0.ctx.length = args.length := by
    rw [hargs]; exact (C08_compile_nargs rvBackend hooks p counter instrs nargs cX hcompX d0 hd).symm
  exact Conc.programs_dsize_all p args hooks instrs hdr nargs cX d0 ops c' hsafe htp hcompM hfit hcompX hnd hfitX hd
    hentry hlen hcap hnostuck D hD mc hheap htop (progMaxAlloc p) (progMaxSize p) (allocLe_progMaxAlloc p)
    (stmtSize_le_progMaxSize p) hbytes lines hhdr hlines hhook fuel' hf

/-- the statement of `C10_rv_size_all_fuel` as a proposition -/
def C10_rv_size_all_fuel_statement : Prop :=
  ∀ (p : AxCut.Prog) (args : List Word) (hooks : Bool) (instrs hdr : List Code) (nargs cX : Nat) (d0 : Def),
    LabelSafe p = true → LinTypedProg p → C08_sizeCheck p = true → LiveAtMost maxVariables p →
    ∀ (counter : Nat), (compile rvBackend hooks p).run counter = .ok ((instrs, nargs), cX) →
    codeBase + 4 * instrs.length < 2 ^ 64 →
    p.defs.head? = some d0 → (∀ b ∈ d0.ctx, b.chi = .ext ∧ b.ty = .i64) → args.length = nargs →
    (∀ fuel w, (Pos.run p args fuel).res ≠ .stuck w) →
    ∀ (D : Nat), (∀ st, Reachable p ⟨d0.ctx, args.map .int, d0.body⟩ st → valsFields st.env ≤ D) →
    ∀ (mc : MonCfg), mc.heap = false → heapBase + mc.heapBytes ≤ 2 ^ 63 →
    64 * (D + progMaxAlloc p + 2) ≤ mc.heapBytes →
    ∀ (lines : List (Nat × Code)), (∀ c ∈ hdr, c.isComment = true) →
    (lines.map (·.2)).map stripC = (hdr ++ instrs ++ [Code.LAB "cleanup"]).map stripC →
    (∀ x ∈ lines, ¬ badHook x.2) →
    ∀ (fuel' : Nat), fuel' * (progMaxSize p + 1) + stmtSize d0.body + 1 < 2 ^ 64 →
      ((runLines lines args fuel' mc).res = .outOfFuel ∨
        ∃ v, (Pos.run p args (fuel' * (progMaxSize p + 1) + stmtSize d0.body)).res = .done v ∧
          (runLines lines args fuel' mc).res = .done v) ∧
      (runLines lines args fuel' mc).maxHeapWritten ≤ 64 * (D + progMaxAlloc p + 2)

theorem C10_rv_size_all_fuel_proved : C10_rv_size_all_fuel_statement :=
  fun p args hooks instrs hdr nargs cX d0 hsafe htp hsize hlive _ hcompX hfitX hd hentry hargs hnostuck D hD mc hheap
      htop hbytes lines hhdr hlines hhook fuel' hf =>
    C10_rv_size_all_fuel p args hooks instrs hdr nargs cX d0 hsafe htp hsize hlive hcompX hfitX hd hentry hargs
      hnostuck D hD mc hheap htop hbytes lines hhdr hlines hhook fuel' hf

/-- C10, THE FOOTPRINT, ALL PROGRAMS, ON THE TEXT the backend prints: `RV.run` on `intoRoutine instrs` reproduces
the result and never writes above `Pk + A + 2` blocks of its heap (the peak hypothesis: for the lines the machine's
own parser reads from the text) -/
theorem C10_rv_footprint_all_text (p : AxCut.Prog) (args : List Word) (hooks : Bool) (counter : Nat)
    (instrs : List Code) (nargs cX : Nat) (d0 : Def)
    (hsafe : LabelSafe p = true) (htp : LinTypedProg p) (hsize : C08_sizeCheck p = true)
    (hlive : LiveAtMost maxVariables p) (hnames : C14R_namesTextSafe p = true)
    (hcompX : (compile rvBackend hooks p).run counter = .ok ((instrs, nargs), cX))
    (hfitX : codeBase + 4 * instrs.length < 2 ^ 64)
    (hd : p.defs.head? = some d0) (hentry : ∀ b ∈ d0.ctx, b.chi = .ext ∧ b.ty = .i64)
    (fuel : Nat) (v : Word) (hfuel : fuel + 1 < 2 ^ 64)
    (hrun : (Pos.run p args fuel).res = .done v)
    (mc : MonCfg) (hheap : mc.heap = false) (hwf : mc.wf = false) (htop : heapBase + mc.heapBytes ≤ 2 ^ 63)
    (Pk : Nat) (hbytes : 64 * (Pk + progMaxAlloc p + 2) ≤ mc.heapBytes)
    (hP : ∀ lines ops c' pr e regs, parseText (intoRoutine instrs) = .ok lines →
      (compile mockSym hooks p).run 0 = .ok ((ops, nargs), c') →
      layout lines = .ok pr → pr.entry = some e → entryRegs args = some regs →
      Conc.PeakAtMost p hooks (keptOf lines) ops (withHeapBytes mc (64 * (Pk + progMaxAlloc p + 2))) pr
        (initState regs e) Pk (progMaxAlloc p * fuel + 1)) :
    ∃ fuel', (run (intoRoutine instrs) args fuel' mc).res = .done v ∧
      (run (intoRoutine instrs) args fuel' mc).maxHeapWritten ≤ 64 * (Pk + progMaxAlloc p + 2) := by
  obtain ⟨lines, hparse, hlines, hhook⟩ := C14R_routine_loads hnames hcompX
  obtain ⟨fuel', h1, h2⟩ := C10_rv_footprint_all p args hooks instrs [Code.COMMENT "actual code"] nargs cX d0 hsafe
    htp hsize hlive hcompX hfitX hd hentry fuel v hfuel hrun mc hheap htop Pk hbytes lines
    (fun c hc => by simp at hc; subst hc; rfl) hlines hhook
    (fun ops c' pr e regs g1 g2 g3 g4 => hP lines ops c' pr e regs hparse g1 g2 g3 g4)
  exact ⟨fuel', by rw [run_eq_runLines hparse args fuel' mc hwf]; exact h1,
    by rw [run_eq_runLines hparse args fuel' mc hwf]; exact h2⟩

/-- C10, ALL RUNS OF ALL PROGRAMS, EVERY AMOUNT OF MACHINE FUEL, ON THE TEXT the backend prints: `RV.run` on
`intoRoutine instrs`, in any heap of at least `64·(D + A + 2)` bytes, for every amount of fuel (below
`2^64 / (M + 1)`), is still running or has returned the result of the positional machine, and the highest heap
address it has written is at most `D + A + 2` blocks above the heap base. -/
theorem C10_rv_size_all_fuel_text (p : AxCut.Prog) (args : List Word) (hooks : Bool) (counter : Nat)
    (instrs : List Code) (nargs cX : Nat) (d0 : Def)
    (hsafe : LabelSafe p = true) (htp : LinTypedProg p) (hsize : C08_sizeCheck p = true)
    (hlive : LiveAtMost maxVariables p) (hnames : C14R_namesTextSafe p = true)
    (hcompX : (compile rvBackend hooks p).run counter = .ok ((instrs, nargs), cX))
    (hfitX : codeBase + 4 * instrs.length < 2 ^ 64)
    (hd : p.defs.head? = some d0) (hentry : ∀ b ∈ d0.ctx, b.chi = .ext ∧ b.ty = .i64)
    (hargs : args.length = nargs)
    (hnostuck : ∀ fuel w, (Pos.run p args fuel).res ≠ .stuck w)
    (D : Nat) (hD : ∀ st, Reachable p ⟨d0.ctx, args.map .int, d0.body⟩ st → valsFields st.env ≤ D)
    (mc : MonCfg) (hheap : mc.heap = false) (hwf : mc.wf = false) (htop : heapBase + mc.heapBytes ≤ 2 ^ 63)
    (hbytes : 64 * (D + progMaxAlloc p + 2) ≤ mc.heapBytes)
    (fuel' : Nat) (hf : fuel' * (progMaxSize p + 1) + stmtSize d0.body + 1 < 2 ^ 64) :
    ((run (intoRoutine instrs) args fuel' mc).res = .outOfFuel ∨
      ∃ v, (Pos.run p args (fuel' * (progMaxSize p + 1) + stmtSize d0.body)).res = .done v ∧
        (run (intoRoutine instrs) args fuel' mc).res = .done v) ∧
    (run (intoRoutine instrs) args fuel' mc).maxHeapWritten ≤ 64 * (D + progMaxAlloc p + 2) := by
  obtain ⟨lines, hparse, hlines, hhook⟩ := C14R_routine_loads hnames hcompX
  rw [run_eq_runLines hparse args fuel' mc hwf]
  exact C10_rv_size_all_fuel p args hooks instrs [Code.COMMENT "actual code"] nargs cX d0 hsafe htp hsize hlive hcompX
    hfitX hd hentry hargs hnostuck D hD mc hheap htop hbytes lines (fun c hc => by simp at hc; subst hc; rfl) hlines
    hhook fuel' hf

/-- every hypothesis of `C10_rv_coarse_all` holds for the closure program started with x = 37 (one variable per
closure environment / one field per object, the trivial peak `1·20 + 1`): the machine on the canonical lines of the
routine returns 42 and never writes above 64·24 bytes of its heap -/
example : ∃ fuel',
    (runLines (canonLines [Code.COMMENT "actual code"] C08_cloInstrs) [37] fuel' {}).res = .done 42 ∧
    (runLines (canonLines [Code.COMMENT "actual code"] C08_cloInstrs) [37] fuel' {}).maxHeapWritten ≤
      64 * (1 * 20 + 1 + 1 + 2) := by
  obtain ⟨cX, hcompX⟩ := C08_cloInstrs_compiled
  have hrun := C08_cloProg_run
  have e1 := C08_cloProg_maxAlloc
  have key := C10_rv_coarse_all C08_cloProg [37] true C08_cloInstrs [Code.COMMENT "actual code"] 1 cX C08_cloMain
    C08_cloProg_labelSafe (linTypedCheck_sound C08_cloProg rfl) C08_cloProg_sizeCheck C08_cloProg_live
    hcompX C08_cloInstrs_fits rfl C08_cloMain_entry 20 42 (by decide) hrun {} rfl (by decide) (by rw [e1]; decide)
    _ (fun c hc => by simp at hc; subst hc; rfl) (canonLines_codes _ _) (canonLines_hooks _ _)
  rw [e1] at key
  exact key

/-- THE CLOSURE PROGRAM IN FIVE BLOCKS (`D = 2`: at no state do the variables hold more than two fields of object
and closure data — the box holds the closure, which captures `x`): the machine returns 42 and never writes above
320 bytes of its heap -/
theorem C10_rv_cloProg_footprint : ∃ fuel',
    (runLines (canonLines [Code.COMMENT "actual code"] C08_cloInstrs) [37] fuel' {}).res = .done 42 ∧
    (runLines (canonLines [Code.COMMENT "actual code"] C08_cloInstrs) [37] fuel' {}).maxHeapWritten ≤ 320 := by
  obtain ⟨cX, hcompX⟩ := C08_cloInstrs_compiled
  have hrun := C08_cloProg_run
  have e1 := C08_cloProg_maxAlloc
  have key := C10_rv_size_all C08_cloProg [37] true C08_cloInstrs [Code.COMMENT "actual code"] 1 cX C08_cloMain
    C08_cloProg_labelSafe (linTypedCheck_sound C08_cloProg rfl) C08_cloProg_sizeCheck C08_cloProg_live
    hcompX C08_cloInstrs_fits rfl C08_cloMain_entry 2
    C08_cloProg_dataSize 20 42 (by decide) hrun {} rfl
    (by decide) (by rw [e1]; decide)
    _ (fun c hc => by simp at hc; subst hc; rfl) (canonLines_codes _ _) (canonLines_hooks _ _)
  rw [e1] at key
  exact key

/-- THE CLOSURE LOOP NEVER HAS MORE THAN TWO BLOCKS BELOW THE FRONTIER (the loop of Props/C13X86All.lean; it never terminates): for EVERY
number `k` of steps of the positional machine the RV64 machine passes through a boundary for each of the first `k`
states, and at each of them at most 2 blocks lie below the allocation frontier — the environment block of the
closure is reused in every round: space independent of the number of repetitions -/
theorem C10_rv_cloLoop_constant_space (k : Nat) (hk : k + 1 < 2 ^ 64) :
    ∃ ops c' pr e regs, (compile mockSym true Scc.X86.C13_cloLoopProg).run 0 = .ok ((ops, 1), c') ∧
      layout (canonLines [Code.COMMENT "actual code"] C09R_loopInstrs) = .ok pr ∧ pr.entry = some e ∧
      entryRegs [5] = some regs ∧
      ∃ X0, stepN pr {} 1 (initState regs e) = .inl X0 ∧
        BChain pr {} (fun st X =>
            BoundaryOf Scc.X86.C13_cloLoopProg true
              (keptOf (canonLines [Code.COMMENT "actual code"] C09R_loopInstrs)) ops {} st X ∧
            ∃ below inUse, HeapShapeAt {} X below inUse ∧ below ≤ 1 + 1)
          (statesOf Scc.X86.C13_cloLoopProg k Scc.X86.C13_cloS0) X0 := by
  obtain ⟨cX, hcompX⟩ := C09R_loopInstrs_compiled
  have e1 := Scc.X86.C13_cloLoop_consts.1
  exact C10_rv_size_every_prefix Scc.X86.C13_cloLoopProg [5] true C09R_loopInstrs [Code.COMMENT "actual code"] 1
    cX Scc.X86.C13_cloLoopMain Scc.X86.C13_cloLoopProg_labelSafe (linTypedCheck_sound Scc.X86.C13_cloLoopProg rfl) C09R_loopProg_sizeCheck
    C09R_loopProg_live hcompX C09R_loopInstrs_fits rfl C09R_loopMain_entry rfl 1 Scc.X86.C13_cloLoop_size k hk
    {} rfl (by decide) (by rw [e1]; decide) _ (fun c hc => by simp at hc; subst hc; rfl) (canonLines_codes _ _)
    (canonLines_hooks _ _)

/-- THE CLOSURE LOOP RUNS FOREVER IN FOUR BLOCKS: `main(x) { create f = (x){ Ap(a) => main(a) }; lit n <- 5;
invoke f Ap(n) }` (Props/C13X86All.lean), started with x = 5 in the default configuration (a 32 MiB heap): for
EVERY fuel below 2^59 the RV64 machine on the canonical lines of the emitted routine is still running (`outOfFuel`:
it never faults and never returns) and the highest heap address it has written lies at most 256 bytes above the
heap base — the environment block of the closure is reused in every round: space independent of the number of
repetitions. -/
theorem C10_rv_cloLoop_all_fuel (fuel' : Nat) (hf : fuel' < 2 ^ 59) :
    (runLines (canonLines [Code.COMMENT "actual code"] C09R_loopInstrs) [5] fuel' {}).res = .outOfFuel ∧
    (runLines (canonLines [Code.COMMENT "actual code"] C09R_loopInstrs) [5] fuel' {}).maxHeapWritten ≤ 256 := by
  obtain ⟨cX, hcompX⟩ := C09R_loopInstrs_compiled
  obtain ⟨e1, e2, e3⟩ := Scc.X86.C13_cloLoop_consts
  have key := C10_rv_size_all_fuel Scc.X86.C13_cloLoopProg [5] true C09R_loopInstrs [Code.COMMENT "actual code"] 1
    cX Scc.X86.C13_cloLoopMain Scc.X86.C13_cloLoopProg_labelSafe (linTypedCheck_sound Scc.X86.C13_cloLoopProg rfl) C09R_loopProg_sizeCheck
    C09R_loopProg_live hcompX C09R_loopInstrs_fits rfl C09R_loopMain_entry rfl Scc.X86.C13_cloLoop_nostuck 1
    Scc.X86.C13_cloLoop_size {} rfl (by decide) (by rw [e1]; decide) _
    (fun c hc => by simp at hc; subst hc; rfl) (canonLines_codes _ _) (canonLines_hooks _ _)
    fuel' (by rw [e2, e3]; omega)
  rw [e1] at key
  refine ⟨?_, key.2⟩
  rcases key.1 with h | ⟨v, hdone, _⟩
  · exact h
  · exfalso
    have hrs : Pos.run Scc.X86.C13_cloLoopProg [5]
        (fuel' * (progMaxSize Scc.X86.C13_cloLoopProg + 1) + stmtSize Scc.X86.C13_cloLoopMain.body) =
        Pos.runState Scc.X86.C13_cloLoopProg _ Scc.X86.C13_cloS0 [] := Scc.X86.Conc.run_eq_runState rfl rfl _
    have := (Scc.X86.C13_cloLoop_runs
      (fuel' * (progMaxSize Scc.X86.C13_cloLoopProg + 1) + stmtSize Scc.X86.C13_cloLoopMain.body) []).1
    rw [← hrs, hdone] at this
    cases this

/-- THE CLOSURE LOOP ON THE TEXT: `RV.run` on the text the backend prints for the closure loop, started with x = 5 in
the default configuration: for EVERY fuel below 2^59 it is still running and has written at most 256 bytes of its
heap -/
theorem C10_rv_cloLoop_all_fuel_text (fuel' : Nat) (hf : fuel' < 2 ^ 59) :
    (run (intoRoutine C09R_loopInstrs) [5] fuel' {}).res = .outOfFuel ∧
    (run (intoRoutine C09R_loopInstrs) [5] fuel' {}).maxHeapWritten ≤ 256 := by
  obtain ⟨cX, hcompX⟩ := C09R_loopInstrs_compiled
  obtain ⟨e1, e2, e3⟩ := Scc.X86.C13_cloLoop_consts
  have key := C10_rv_size_all_fuel_text Scc.X86.C13_cloLoopProg [5] true 0 C09R_loopInstrs 1
    cX Scc.X86.C13_cloLoopMain Scc.X86.C13_cloLoopProg_labelSafe (linTypedCheck_sound Scc.X86.C13_cloLoopProg rfl) C09R_loopProg_sizeCheck
    C09R_loopProg_live (by decide) hcompX C09R_loopInstrs_fits rfl C09R_loopMain_entry rfl Scc.X86.C13_cloLoop_nostuck 1
    Scc.X86.C13_cloLoop_size {} rfl rfl (by decide) (by rw [e1]; decide) fuel' (by rw [e2, e3]; omega)
  rw [e1] at key
  refine ⟨?_, key.2⟩
  rcases key.1 with h | ⟨v, hdone, _⟩
  · exact h
  · exfalso
    have hrs : Pos.run Scc.X86.C13_cloLoopProg [5]
        (fuel' * (progMaxSize Scc.X86.C13_cloLoopProg + 1) + stmtSize Scc.X86.C13_cloLoopMain.body) =
        Pos.runState Scc.X86.C13_cloLoopProg _ Scc.X86.C13_cloS0 [] := Scc.X86.Conc.run_eq_runState rfl rfl _
    have := (Scc.X86.C13_cloLoop_runs
      (fuel' * (progMaxSize Scc.X86.C13_cloLoopProg + 1) + stmtSize Scc.X86.C13_cloLoopMain.body) []).1
    rw [← hrs, hdone] at this
    cases this

end Scc.RV

#print axioms Scc.RV.C10_rv_peak_trivial_all
#print axioms Scc.RV.C10_rv_frontier_bound_all
#print axioms Scc.RV.C10_rv_every_prefix_all
#print axioms Scc.RV.C10_rv_programs_lines
#print axioms Scc.RV.C10_rv_footprint_all_lines
#print axioms Scc.RV.C10_rv_programs
#print axioms Scc.RV.C10_rv_footprint_all
#print axioms Scc.RV.C10_rv_coarse_all
#print axioms Scc.RV.C10_rv_size_all
#print axioms Scc.RV.C10_rv_size_every_prefix
#print axioms Scc.RV.C10_rv_cloProg_footprint
#print axioms Scc.RV.C10_rv_cloLoop_constant_space
#print axioms Scc.RV.C10_rv_size_all_fuel
#print axioms Scc.RV.C10_rv_size_all_fuel_proved
#print axioms Scc.RV.C10_rv_cloLoop_all_fuel
#print axioms Scc.RV.C10_rv_footprint_all_text
#print axioms Scc.RV.C10_rv_size_all_fuel_text
#print axioms Scc.RV.C10_rv_cloLoop_all_fuel_text

#print axioms Scc.RV.C10_withHeapBytes_top
