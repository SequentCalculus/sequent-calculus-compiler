/-
  Scc/Props/C11Counts.lean  --  property C11, the clause about reference counts:

  "... increases the count of each object by the number of extra copies, releases each dropped object
   exactly once, and changes nothing else."

  `Props/C11.lean` (T3) pins down WHICH `erase`/`share` instructions a substitution emits
  (`C11_refcount_ops`: exactly `ctx.flatMap (refOpsFor tfp re ctx)`).  This file states what these
  instructions DO to the counts, on an abstract count store, for contexts and rearrangements of any size:

    * the temporaries hold values `σ : Nat → V` (the store BEFORE the moves: the refcount instructions
      precede all moves, `SubstRes.ok refcount moves`);
    * `cnt : V → Int` is the number of references to each value (object pointer);
    * `erase t` releases one reference to the object held in `t`  (`cnt (σ t) -= 1`),
      `share t n` adds `n` references to it                           (`cnt (σ t) += n`).
      That this is what `Backend::erase_block` / `share_block_n` do on the real heap is the memory
      component's contract (C09/C10: `X86.Mem`, `A64.Mem`, `RV.Mem` share/erase contracts).

  Theorems
    C11_counts              after the refcount instructions, for EVERY value `v`:
                              cnt' v = cnt v + Σ_{old non-ext bindings b holding v} (targetCount re b - 1)
                            i.e. each old reference is replaced by as many references as there are new
                            variables bound to it; nothing else changes (`C11_counts_untouched`).
    C11_counts_balance      (Props/C11Balance.lean) with distinct context names, cnt' v - cnt v = (#new
                            variables bound to an old object variable holding v) - (#old object variables
                            holding v): counts follow the environment exactly.
    C11_erase_once          a dropped object variable (no new variable bound to it) gets exactly ONE
                            `erase`, on its `Fst` temporary; a kept one gets none (`C11_no_erase_of_kept`).
    C11_share_ops           an object variable with k ≥ 2 targets gets exactly one `share _ (k-1)`.
-/
import Scc.PMoves.ProofsSubst

namespace Scc.Props.C11
open Scc.PMoves

section
variable {V : Type} [DecidableEq V]

/-- one refcount instruction on the abstract count store -/
def ropStep (σ : Nat → V) (cnt : V → Int) : ROp → V → Int
  | .erase t => fun v => if σ t = v then cnt v - 1 else cnt v
  | .share t n => fun v => if σ t = v then cnt v + (n : Int) else cnt v
  | .comment _ _ => cnt

def runROps (σ : Nat → V) (ops : List ROp) (cnt : V → Int) : V → Int := ops.foldl (ropStep σ) cnt

/-- contribution of one old binding to the count of `v`: an object binding whose `Fst` temporary holds `v`
    is replaced by `targetCount re b.1` references. -/
def bindingDelta (tfp : Nat → Option Nat) (re : Rearrange) (ctx : Ctx) (σ : Nat → V) (v : V)
    (b : Nat × Chi) : Int :=
  if b.2 = Chi.ext then 0 else
  match variableTemporary tfp 0 ctx b.1 with
  | none => 0
  | some t => if σ t = v then (targetCount re b.1 : Int) - 1 else 0

theorem runROps_append (σ : Nat → V) (a b : List ROp) (cnt : V → Int) :
    runROps σ (a ++ b) cnt = runROps σ b (runROps σ a cnt) := by
  simp [runROps, List.foldl_append]

theorem runROps_refOpsFor (tfp : Nat → Option Nat) (re : Rearrange) (ctx : Ctx) (σ : Nat → V)
    (cnt : V → Int) (b : Nat × Chi) (v : V) :
    runROps σ (refOpsFor tfp re ctx b) cnt v = cnt v + bindingDelta tfp re ctx σ v b := by
  unfold refOpsFor bindingDelta
  by_cases hext : b.2 = Chi.ext
  · simp [hext, runROps]
  · simp only [hext, if_false]
    cases hv : variableTemporary tfp 0 ctx b.1 with
    | none => simp [runROps]
    | some t =>
      rcases hc : targetCount re b.1 with _ | _ | n
      · by_cases h : σ t = v <;> simp [runROps, ropStep, h] <;> omega
      · by_cases h : σ t = v <;> simp [runROps, h]
      · by_cases h : σ t = v <;> simp [runROps, ropStep, h] <;> omega

theorem runROps_flatMap (tfp : Nat → Option Nat) (re : Rearrange) (ctx : Ctx) (σ : Nat → V)
    (bs : List (Nat × Chi)) (cnt : V → Int) (v : V) :
    runROps σ (bs.flatMap (refOpsFor tfp re ctx)) cnt v
      = cnt v + (bs.map (bindingDelta tfp re ctx σ v)).sum := by
  induction bs generalizing cnt with
  | nil => simp [runROps]
  | cons b bs ih =>
    rw [List.flatMap_cons, runROps_append, ih, runROps_refOpsFor]
    simp only [List.map_cons, List.sum_cons]
    omega

/-- C11 (counts).  The refcount instructions of a substitution (`C11_refcount_ops`) change the count of
    every value `v` by the sum, over the old object bindings whose `Fst` temporary holds `v`, of
    (number of new variables bound to it) − 1. -/
theorem C11_counts (tfp : Nat → Option Nat) (re : Rearrange) (ctx : Ctx) (σ : Nat → V) (cnt : V → Int)
    (v : V) :
    runROps σ (ctx.flatMap (refOpsFor tfp re ctx)) cnt v
      = cnt v + (ctx.map (bindingDelta tfp re ctx σ v)).sum :=
  runROps_flatMap tfp re ctx σ ctx cnt v

/-- "... and changes nothing else": a value held by no old object binding keeps its count. -/
theorem C11_counts_untouched (tfp : Nat → Option Nat) (re : Rearrange) (ctx : Ctx) (σ : Nat → V)
    (cnt : V → Int) (v : V)
    (hv : ∀ b ∈ ctx, b.2 ≠ Chi.ext → ∀ t, variableTemporary tfp 0 ctx b.1 = some t → σ t ≠ v) :
    runROps σ (ctx.flatMap (refOpsFor tfp re ctx)) cnt v = cnt v := by
  rw [C11_counts]
  have : ∀ bs : List (Nat × Chi), (∀ b ∈ bs, b ∈ ctx) →
      (bs.map (bindingDelta tfp re ctx σ v)).sum = 0 := by
    intro bs
    induction bs with
    | nil => intro _; rfl
    | cons b bs ih =>
      intro h
      have hb := h b List.mem_cons_self
      have ih' := ih (fun b' hb' => h b' (List.mem_cons_of_mem _ hb'))
      simp only [List.map_cons, List.sum_cons, ih']
      unfold bindingDelta
      by_cases hext : b.2 = Chi.ext
      · simp [hext]
      · simp only [hext, if_false]
        cases hvt : variableTemporary tfp 0 ctx b.1 with
        | none => simp
        | some t => simp [hv b hb hext t hvt]
  rw [this ctx (fun _ h => h)]; omega

/-- a kept-once object variable (exactly one new variable bound to it) contributes nothing; a dropped one
    contributes −1; one with `k` copies contributes `k − 1` (the "number of extra copies"). -/
theorem bindingDelta_cases (tfp : Nat → Option Nat) (re : Rearrange) (ctx : Ctx) (σ : Nat → V) (v : V)
    (b : Nat × Chi) (hext : b.2 ≠ Chi.ext) (t : Nat) (ht : variableTemporary tfp 0 ctx b.1 = some t)
    (hv : σ t = v) :
    bindingDelta tfp re ctx σ v b = (targetCount re b.1 : Int) - 1 := by
  simp [bindingDelta, hext, ht, hv]

end

/-! ## exactly one `erase` per dropped object, one `share` per duplicated object -/

/-- the instructions for one old binding contain `erase t` once if the binding is an object held in `t` that
    no new variable takes, and not at all otherwise -/
theorem refOpsFor_erase_count (tfp : Nat → Option Nat) (re : Rearrange) (ctx : Ctx) (b : Nat × Chi)
    (t : Nat) :
    (refOpsFor tfp re ctx b).count (.erase t) =
      if b.2 ≠ Chi.ext ∧ variableTemporary tfp 0 ctx b.1 = some t ∧ targetCount re b.1 = 0 then 1 else 0 := by
  unfold refOpsFor
  by_cases hext : b.2 = Chi.ext
  · simp [hext]
  · simp only [hext, if_false]
    cases hv : variableTemporary tfp 0 ctx b.1 with
    | none => simp
    | some t' =>
      rcases hc : targetCount re b.1 with _ | _ | n
      · by_cases h : t' = t
        · subst h; simp [hext]
        · simp [h]
      · simp
      · simp

theorem count_flatMap_of_unique {α β : Type} [DecidableEq β] (f : α → List β) (x : β) (l : List α)
    (a : α) (ha : a ∈ l) (hn : l.Nodup) (h1 : (f a).count x = 1) (h0 : ∀ a' ∈ l, a' ≠ a → (f a').count x = 0) :
    (l.flatMap f).count x = 1 := by
  induction l with
  | nil => simp at ha
  | cons c rest ih =>
    rw [List.flatMap_cons, List.count_append]
    have hnd := List.nodup_cons.mp hn
    rcases List.mem_cons.mp ha with rfl | har
    · have : (rest.flatMap f).count x = 0 := by
        rw [List.count_eq_zero]
        intro hx
        obtain ⟨a', ha', hxa⟩ := List.mem_flatMap.mp hx
        have hne : a' ≠ a := fun e => hnd.1 (e ▸ ha')
        have := h0 a' (List.mem_cons_of_mem _ ha') hne
        rw [List.count_eq_zero] at this
        exact this hxa
      omega
    · have hc : c ≠ a := fun e => hnd.1 (e ▸ har)
      have := h0 c List.mem_cons_self hc
      have ih' := ih har hnd.2 (fun a' ha' hne => h0 a' (List.mem_cons_of_mem _ ha') hne)
      omega

theorem count_flatMap_zero {α β : Type} [DecidableEq β] (f : α → List β) (x : β) (l : List α)
    (h0 : ∀ a' ∈ l, (f a').count x = 0) : (l.flatMap f).count x = 0 := by
  rw [List.count_eq_zero]
  intro hx
  obtain ⟨a', ha', hxa⟩ := List.mem_flatMap.mp hx
  have := h0 a' ha'
  rw [List.count_eq_zero] at this
  exact this hxa

/-- C11 (single release).  In a context with distinct names, a dropped object variable `b` (no new variable
    is bound to it) is erased EXACTLY ONCE: the emitted refcount code contains exactly one `erase` of its
    `Fst` temporary. -/
theorem C11_erase_once (tfp : Nat → Option Nat) (hinj : TfpInjective tfp) (re : Rearrange) (ctx : Ctx)
    (hnd : (ctx.map (·.1)).Nodup) (b : Nat × Chi) (hb : b ∈ ctx) (hext : b.2 ≠ Chi.ext)
    (hdrop : targetCount re b.1 = 0) (t : Nat) (ht : variableTemporary tfp 0 ctx b.1 = some t) :
    (ctx.flatMap (refOpsFor tfp re ctx)).count (.erase t) = 1 := by
  have hctx : ctx.Nodup := List.Pairwise.of_map _ (fun _ _ h e => h (congrArg _ e)) hnd
  refine count_flatMap_of_unique _ _ ctx b hb hctx ?_ ?_
  · rw [refOpsFor_erase_count]; simp [hext, ht, hdrop]
  · intro b' hb' hne
    rw [refOpsFor_erase_count]
    have : ¬ (b'.2 ≠ Chi.ext ∧ variableTemporary tfp 0 ctx b'.1 = some t ∧ targetCount re b'.1 = 0) := by
      rintro ⟨_, hvt, _⟩
      have hid : b'.1 = b.1 := (variableTemporary_inj hinj (Nat.zero_le 1) (Nat.zero_le 1) hvt ht).2
      -- same name in a context with distinct names: same binding
      have : b' = b := eq_of_nodup_map _ hnd hb' hb hid
      exact hne this
    simp [this]

/-- a variable that is kept (at least one new variable bound to it), or an `ext` variable, is never erased -/
theorem C11_no_erase_of_kept (tfp : Nat → Option Nat) (hinj : TfpInjective tfp) (re : Rearrange) (ctx : Ctx)
    (hnd : (ctx.map (·.1)).Nodup) (b : Nat × Chi) (hb : b ∈ ctx)
    (hkeep : b.2 = Chi.ext ∨ targetCount re b.1 ≠ 0) (t : Nat)
    (ht : variableTemporary tfp 0 ctx b.1 = some t) :
    (ctx.flatMap (refOpsFor tfp re ctx)).count (.erase t) = 0 := by
  refine count_flatMap_zero _ _ ctx ?_
  intro b' hb'
  rw [refOpsFor_erase_count]
  have : ¬ (b'.2 ≠ Chi.ext ∧ variableTemporary tfp 0 ctx b'.1 = some t ∧ targetCount re b'.1 = 0) := by
    rintro ⟨hne, hvt, h0⟩
    have hid : b'.1 = b.1 := (variableTemporary_inj hinj (Nat.zero_le 1) (Nat.zero_le 1) hvt ht).2
    have hbb : b' = b := eq_of_nodup_map _ hnd hb' hb hid
    subst hbb
    rcases hkeep with h | h
    · exact hne h
    · exact h h0
  simp [this]

/-- C11 (single share).  An object variable with `k + 2` targets gets exactly one `share _ (k + 1)` on its
    `Fst` temporary ("the number of extra copies"). -/
theorem C11_share_ops (tfp : Nat → Option Nat) (re : Rearrange) (ctx : Ctx) (b : Nat × Chi)
    (hext : b.2 ≠ Chi.ext) (t : Nat) (ht : variableTemporary tfp 0 ctx b.1 = some t) (k : Nat)
    (hk : targetCount re b.1 = k + 2) :
    refOpsFor tfp re ctx b = [.comment 1 b.1, .share t (k + 1)] := by
  simp [refOpsFor, hext, ht, hk]

/-! ## Non-vacuity: context [1:prd, 2:ext, 3:cns], new variables 7 := 1, 8 := 1, 9 := 2  (3 is dropped) -/

def ctxC : Ctx := [(1, .prd), (2, .ext), (3, .cns)]
def reC : Rearrange := [((7, .prd), 1), ((8, .prd), 1), ((9, .ext), 2)]
/-- temporaries: Fst of variable 1 holds object 100, Fst of variable 3 holds object 200, others integers -/
def σC : Nat → Nat := fun t => if t = 0 then 100 else if t = 4 then 200 else 5
example : ctxC.flatMap (refOpsFor genericTemporary reC ctxC) = [.comment 1 1, .share 0 1, .comment 0 3, .erase 4] := rfl
-- object 100 (two new variables): one extra reference; object 200 (dropped): released once; 5: untouched
example : runROps σC (ctxC.flatMap (refOpsFor genericTemporary reC ctxC)) (fun _ => 1) 100 = 2 := by decide +kernel
example : runROps σC (ctxC.flatMap (refOpsFor genericTemporary reC ctxC)) (fun _ => 1) 200 = 0 := by decide +kernel
example : runROps σC (ctxC.flatMap (refOpsFor genericTemporary reC ctxC)) (fun _ => 1) 5 = 1 := by decide +kernel
example : (ctxC.map (bindingDelta genericTemporary reC ctxC σC 100)).sum = 1 := by decide +kernel
example : (ctxC.map (bindingDelta genericTemporary reC ctxC σC 200)).sum = -1 := by decide +kernel
example : TfpInjective genericTemporary := fun a b c ha hb => by
  simp [genericTemporary] at ha hb; omega
example : (ctxC.flatMap (refOpsFor genericTemporary reC ctxC)).count (.erase 4) = 1 :=
  C11_erase_once genericTemporary (fun a b c ha hb => by simp [genericTemporary] at ha hb; omega)
    reC ctxC (by decide +kernel) (3, .cns) (by decide +kernel) (by decide +kernel) (by decide +kernel) 4 (by decide +kernel)
-- two old variables holding the SAME object 100, one dropped, one kept: net change −1
def σAlias : Nat → Nat := fun t => if t = 0 ∨ t = 4 then 100 else 5
example : runROps σAlias (ctxC.flatMap (refOpsFor genericTemporary [((7, .prd), 1)] ctxC)) (fun _ => 2) 100 = 1 := by
  decide +kernel

end Scc.Props.C11

open Scc.Props.C11 in
#print axioms C11_counts
open Scc.Props.C11 in
#print axioms C11_counts_untouched
open Scc.Props.C11 in
#print axioms C11_erase_once
open Scc.Props.C11 in
#print axioms C11_no_erase_of_kept
open Scc.Props.C11 in
#print axioms C11_share_ops
