/-
  Scc.Props.C12Examples — the two example programs of C12 / C01 (`C12_exSrc`, `C12_f2cExSrc2`), each
  evaluated ONCE.

  Every non-vacuity check of Props/C12, C12Mid, C12Fun2Core, C12Fun2CoreStrict, C12Final and C01 on one of
  these texts starts with the same front end (lexer, parser, checker) and mostly the same stages.  The kernel
  shares identical closed subterms inside one declaration, so the conjunction of all checks on a text costs
  little more than the dearest of them; the named facts are its components.  The evaluations are stated for
  every string with the characters of the text (Scc/Fun/SourceChars.lean says why).
-/
import Scc.Props.C01
import Scc.Props.C12Final

namespace Scc.Props

open Scc.Pipeline
open Scc.Fun.Check (checkProgram programNamesOk)

set_option maxRecDepth 100000 in
theorem C12_exSrc_evaluated (s : String) (h : s.toList = C12_exSrc.toList) :
    C12_exChecks s = true ∧ C12_exCodegen s = true ∧ C12_exMid s = true ∧
    C12_f2cExChecks s = true ∧ C12_strictExChecks s = true ∧
    C12_finalPremises s = true ∧ C12_finalEval s = true ∧
    C01_exFrag s = true ∧ C01_exRuns s = true ∧ C01_exAbs s = true := by
  have hc := toList_of_literal rfl h
  simp only [C12_exChecks, C12_exCodegen, C12_exMid, C12_f2cExChecks, C12_strictExChecks,
    C12_finalPremises, C12_finalEval, C01_exFrag, C01_exRuns, C01_exAbs, frontEnd, Fun.Parse.parse, hc]
  decide +kernel

theorem C12_example_checks : C12_exChecks C12_exSrc = true := (C12_exSrc_evaluated _ rfl).1

theorem C12_example_codegen : C12_exCodegen C12_exSrc = true := (C12_exSrc_evaluated _ rfl).2.1

theorem C12_example_midChecks : C12_exMid C12_exSrc = true := (C12_exSrc_evaluated _ rfl).2.2.1

theorem C12_f2c_example_checks : C12_f2cExChecks C12_exSrc = true := (C12_exSrc_evaluated _ rfl).2.2.2.1

theorem C12_strict_example_checks : C12_strictExChecks C12_exSrc = true :=
  (C12_exSrc_evaluated _ rfl).2.2.2.2.1

theorem C12_final_example1 : C12_finalPremises C12_exSrc = true := (C12_exSrc_evaluated _ rfl).2.2.2.2.2.1

theorem C12_final_eval1 : C12_finalEval C12_exSrc = true := (C12_exSrc_evaluated _ rfl).2.2.2.2.2.2.1

theorem C01_example_frag : C01_exFrag C12_exSrc = true := (C12_exSrc_evaluated _ rfl).2.2.2.2.2.2.2.1

theorem C01_example_runs : C01_exRuns C12_exSrc = true := (C12_exSrc_evaluated _ rfl).2.2.2.2.2.2.2.2.1

theorem C01_example_abs : C01_exAbs C12_exSrc = true := (C12_exSrc_evaluated _ rfl).2.2.2.2.2.2.2.2.2

/-- the premises of `C12_statement` (and of `C01_statement`) are satisfiable: the parser's output for
    `C12_exSrc` has identifier names, is accepted, has a valid `main` that is not called, and passes
    `C12_linkChecks` -/
theorem C12_example_premises :
    ∃ p p', Fun.Parse.parse .diagOnOverflow C12_exSrc = .ok p ∧ programNamesOk p = true ∧
      checkProgram p = .ok p' ∧ validMain p' = true ∧ Fun.noMainCall p' = true ∧
      C12_linkChecks p' = true ∧ (∃ st, stages p' = .ok st) :=
  C12_exChecks_premises C12_example_checks

example : ∃ p p', Fun.Parse.parse .diagOnOverflow C12_exSrc = .ok p ∧ programNamesOk p = true ∧
    checkProgram p = .ok p' ∧ validMain p' = true ∧ Fun.noMainCall p' = true ∧
    C02_noSigmaNames p' = true :=
  C12_f2cExChecks_premises C12_f2c_example_checks

/-- the conclusion of C12 holds for the list-sum program (data type, recursion, `case`, `let`, call,
    `println_i64`) … -/
example : ∃ p p', Fun.Parse.parse .diagOnOverflow C12_exSrc = .ok p ∧ checkProgram p = .ok p' ∧
    C12_conclusion p p' ∧ ∃ st, C18_LaterStages p' st := by
  obtain ⟨p, p', hp, hc, hv, hmc⟩ := C12_finalPremises_iff C12_final_example1
  exact ⟨p, p', hp, hc, C12_final _ _ p p' hp hc hv hmc,
    C18_later_stages_total _ _ p p' hp hc hv hmc⟩

/-- `C18_text_total` on the first example: its premise holds -/
example : ∀ p p', frontEnd C12_exSrc = .ok p p' → validMain p' = true ∧ Fun.noMainCall p' = true := by
  obtain ⟨p0, p0', hp, hc, hv, hmc⟩ := C12_finalPremises_iff C12_final_example1
  intro p p' hf
  rw [frontEnd_of_parse_check hp hc] at hf
  simp only [Outcome.ok.injEq] at hf
  obtain ⟨_, rfl⟩ := hf
  exact ⟨hv, hmc⟩

set_option maxRecDepth 100000 in
theorem C12_f2cExSrc2_evaluated (s : String) (h : s.toList = C12_f2cExSrc2.toList) :
    C12_f2cExChecks s = true ∧ C12_strictExChecks s = true ∧
    C12_finalPremises s = true ∧ C12_finalEval s = true := by
  have hc := toList_of_literal rfl h
  simp only [C12_f2cExChecks, C12_strictExChecks, C12_finalPremises, C12_finalEval, frontEnd,
    Fun.Parse.parse, hc]
  decide +kernel

theorem C12_f2c_example2_checks : C12_f2cExChecks C12_f2cExSrc2 = true := (C12_f2cExSrc2_evaluated _ rfl).1

theorem C12_strict_example2_checks : C12_strictExChecks C12_f2cExSrc2 = true :=
  (C12_f2cExSrc2_evaluated _ rfl).2.1

theorem C12_final_example2 : C12_finalPremises C12_f2cExSrc2 = true := (C12_f2cExSrc2_evaluated _ rfl).2.2.1

theorem C12_final_eval2 : C12_finalEval C12_f2cExSrc2 = true := (C12_f2cExSrc2_evaluated _ rfl).2.2.2

/-- … and for the program with codata, `new`, a destructor call, label / goto, a covariable parameter -/
example : ∃ p p', Fun.Parse.parse .diagOnOverflow C12_f2cExSrc2 = .ok p ∧ checkProgram p = .ok p' ∧
    C12_conclusion p p' ∧ ∃ st, C18_LaterStages p' st := by
  obtain ⟨p, p', hp, hc, hv, hmc⟩ := C12_finalPremises_iff C12_final_example2
  exact ⟨p, p', hp, hc, C12_final _ _ p p' hp hc hv hmc,
    C18_later_stages_total _ _ p p' hp hc hv hmc⟩

#print axioms C12_exSrc_evaluated
#print axioms C12_f2cExSrc2_evaluated
#print axioms C12_example_checks
#print axioms C12_example_codegen
#print axioms C12_example_premises
#print axioms C12_example_midChecks
#print axioms C12_f2c_example_checks
#print axioms C12_f2c_example2_checks
#print axioms C12_strict_example_checks
#print axioms C12_strict_example2_checks
#print axioms C12_final_example1
#print axioms C12_final_example2
#print axioms C12_final_eval1
#print axioms C12_final_eval2
#print axioms C01_example_runs
#print axioms C01_example_frag
#print axioms C01_example_abs

end Scc.Props
