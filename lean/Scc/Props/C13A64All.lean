/-
  Scc.Props.C13A64All — property C13 (calling convention), DYNAMIC part, for ALL PROGRAMS — data types AND
  CLOSURES — on AArch64: the counterpart of Props/C13X86All.lean, and the extension of `C13_cc_never_fires_int`
  (Props/C13A64.lean: integer programs) to every program, over the closure-aware three-way relation `Scc.A64.Ref.K`
  of Props/C07A64Full.lean (Scc/A64/ConcK*.lean), with the side hypotheses of the composition DISCHARGED as in
  `C07_programs_text` (`C07_setup_of_checks`, Props/C07A64Full.lean).

  THE MONITOR.  On the AArch64 SPEC machine (Scc/A64/Machine.lean) the calling-convention monitor is always on: the
  exit checks of `RET` (`cc-violation`: X30, SP, X19–X29 restored), `misaligned-call` (SP 16-aligned at `BL
  print…`) and `misaligned-sp` (SP 16-aligned at EVERY SP-based memory access: spill slots, the save sequences of
  `print_i64`, prologue and epilogue).  `CC.CCSafe r`: `r` is none of these reports.  What is proved is stronger:
  the run ends in NO fault at all.

  Why heap programs need Theorem A∘B (the remark in Props/C13A64.lean): a store through a register other than SP
  could reach the callee-save area; the relation `Ref.K.X3` carries `CC.Core` (SP at its boundary value, the save
  area holds the entry values of X19–X30) through every statement, the memory contracts keep the heap stores
  inside the heap region, and the indirect jump of `invoke` (`BR reg`) lands on a method of the routine by the
  closure invariant `XC` — possibly ahead of the statement boundary by `#ctx` hooks (`Tol`).

  PROVED (axioms propext, Classical.choice, Quot.sound):
  * `C13_a64_all_terminating`  every terminating run of the positional machine (hypotheses of `C07_programs_text`):
                               for EVERY machine fuel and EVERY heap-monitor setting the result of
                               `run (printProg routine)` is `outOfFuel`, `done v` or a report of the HEAP monitor
                               — never `cc-violation`, `misaligned-call`, `misaligned-sp`, `read-undefined …`.
  * `C13_a64_cc_never_fires_terminating`  hence `CCSafe`, and `C13_a64_allowed` with the heap monitor off.
  * `C13_a64_all_fuel` / `C13_a64_cc_never_fires_all`  RUNS THAT DO NOT TERMINATE INCLUDED (the positional machine
                               must not get stuck: no division by zero / overflow): for every machine fuel `fuel'`
                               with `fuel'·(M + 1) + |main| + 1 < 2^64` (`M = progMaxSize p`) the calling-convention
                               monitor never fires.  Heap: the footprint bound of C10 (`PeakAtMost Pk`, at no
                               statement boundary more than `Pk` blocks in use, and `64·(Pk + A + 2) ≤ heapBytes`,
                               `A = progMaxAlloc p`).  From PROGRESS (Scc/AxCut/PosProgress.lean): every `call` and
                               every `invoke` makes the machine execute an instruction (`B label` / `BR reg`; hooks
                               alone do not count), every other step moves to a smaller statement, and the
                               statement an `invoke` continues with — a clause of a closure VALUE — is a
                               sub-statement of a definition (`hered_step`).
  * `C13_a64_cc_never_fires_all_size`  the same with the heap hypothesis on the SOURCE PROGRAM: `valsFields st.env ≤
                               D` for every reachable state (fields of the object AND closure values held by the
                               variables) and `64·(D + A + 2) ≤ heapBytes`.
  * `…_lines`: the forms on `runProg (layout ls)` for ANY lines that are the routine, side hypotheses explicit.
  `C13_statement` (Props/C13A64.lean) has no side hypothesis.  The theorems above have: `LabelSafe`, `C07_a64Checks`,
  a sane machine configuration (`CfgCC`, heap base positive and 8-aligned, routine below 2^64, fewer than 2^18 items
  if the validator `wf` is on — `C14_a64_final`), the peak / data-size hypothesis, machine fuel below `2^64 / (M + 1)`,
  and a positional machine that does not get stuck; runs on which it gets stuck on a division (the machine faults
  with `div-by-zero` / `div-overflow`, which `C13_statement` permits) are in Props/C13A64Div.lean.
-/
import Scc.Props.C10A64All

namespace Scc.A64
open Scc.AxCut Scc.Backend Scc.A64.Ref
open Scc.Props.C06Generic (Reachable CodeFits)
open Scc.Props.C14Generic (LabelSafe)
open Scc.A64.CC (CCSafe CfgCC cfgCC_default Lines hkOf)
open Scc.A64.Loader (hookVarsOf)
open Scc.X86.Ref.K (AllocLe progMaxAlloc allocLe_progMaxAlloc)
open Scc.X86.Conc (valsFields stmtSize progMaxSize stmtSize_le_progMaxSize)
open Scc.A64.ConcK (monOff)

/-- the outcomes `C13_statement` (Props/C13A64.lean) permits -/
def C13_a64_allowed : Res → Prop
  | .done _ | .outOfFuel => True
  | .fault why _ => why = "div-by-zero" ∨ why = "div-overflow"
  | _ => False

/-- the full statement for all programs and all monitor configurations (not proved in this generality: see the
header) -/
def C13_a64_all_statement : Prop :=
  ∀ (p : AxCut.Prog) (args : List Word) (hooks : Bool) (body routine : List Code) (nargs : Nat),
    LinTypedProg p → compileProg a64Backend p hooks 0 = .ok (body, nargs, routine) → args.length = nargs →
    ∀ (fuel : Nat) (cfg : MonCfg), cfg.heap = false →
      C13_a64_allowed (run (printProg routine) args fuel cfg).res

theorem C13_a64_safe_of_outcome {r : Res} {heap : Bool}
    (h : r = .outOfFuel ∨ (∃ v, r = .done v) ∨ ∃ what ln, heap = true ∧ r = .invFail what ln) :
    CCSafe r ∧ (heap = false → C13_a64_allowed r) := by
  rcases h with h | ⟨v, h⟩ | ⟨e, ln, hh, h⟩
  · rw [h]; exact ⟨trivial, fun _ => trivial⟩
  · rw [h]; exact ⟨trivial, fun _ => trivial⟩
  · rw [h]; exact ⟨trivial, fun h0 => by rw [hh] at h0; cases h0⟩

/-- C13 FOR TERMINATING RUNS OF ALL PROGRAMS, on the text of the routine: under the hypotheses of
`C07_programs_text` (the heap monitor may be on), for EVERY amount of machine fuel the machine on the printed
routine ends in `outOfFuel`, in `done v`, or (heap monitor on) in a report of the heap monitor. -/
theorem C13_a64_all_terminating (p : AxCut.Prog) (args : List Word) (hooks : Bool) (body routine : List Code)
    (nargs : Nat)
    (hsafe : LabelSafe p = true) (htp : LinTypedProg p) (hchk : C07_a64Checks p = true)
    (hcompX : compileProg a64Backend p hooks 0 = .ok (body, nargs, routine))
    (fuel : Nat) (out : List (Bool × Word)) (v : Word) (hrun : Pos.run p args fuel = ⟨out, .done v⟩)
    (cfg : MonCfg) (H : CfgCC cfg.mem) (hwf : cfg.wf = true → routine.length < 262144)
    (hb8 : cfg.mem.heapBase % 8 = 0) (hb0 : 0 < cfg.mem.heapBase)
    (hbytes : 128 + 64 * 141 * fuel ≤ cfg.mem.heapBytes)
    (hfitX : cfg.mem.codeBase + 4 * ninstr routine < 2 ^ 64) (fuel' : Nat) :
    (run (printProg routine) args fuel' cfg).res = .outOfFuel ∨
      (∃ v, (run (printProg routine) args fuel' cfg).res = .done v) ∨
      ∃ what ln, cfg.heap = true ∧ (run (printProg routine) args fuel' cfg).res = .invFail what ln := by
  obtain ⟨_, _, _, _, d0, hd, _⟩ := C07_checks_facts hchk
  obtain ⟨ops, c', ls, S⟩ := C07_setup_of_checks p args hooks body routine nargs d0 hsafe htp hchk hcompX hd
  obtain ⟨f0, _, h2⟩ := C07_programs S hsafe htp hcompX hd fuel out v hrun (monOff cfg) H rfl hb8 hb0 hbytes hfitX
  have hparse := S.parse
  rw [C09_run_eq_runProg hparse (C09_wf_ok hsafe htp hchk hcompX hwf)]
  exact ConcK.ccSafe_of_monOff (by
    rcases ConcK.runProg_res_of_done h2 fuel' with h | h
    · exact Or.inl h
    · exact Or.inr ⟨v, h⟩)

/-- C13, DYNAMIC PART, FOR ALL PROGRAMS, terminating runs: the calling-convention monitor never fires — all machine fuel,
every setting of the heap monitor; with the heap monitor off the result is an outcome `C13_statement` permits -/
theorem C13_a64_cc_never_fires_terminating (p : AxCut.Prog) (args : List Word) (hooks : Bool)
    (body routine : List Code) (nargs : Nat)
    (hsafe : LabelSafe p = true) (htp : LinTypedProg p) (hchk : C07_a64Checks p = true)
    (hcompX : compileProg a64Backend p hooks 0 = .ok (body, nargs, routine))
    (fuel : Nat) (out : List (Bool × Word)) (v : Word) (hrun : Pos.run p args fuel = ⟨out, .done v⟩)
    (cfg : MonCfg) (H : CfgCC cfg.mem) (hwf : cfg.wf = true → routine.length < 262144)
    (hb8 : cfg.mem.heapBase % 8 = 0) (hb0 : 0 < cfg.mem.heapBase)
    (hbytes : 128 + 64 * 141 * fuel ≤ cfg.mem.heapBytes)
    (hfitX : cfg.mem.codeBase + 4 * ninstr routine < 2 ^ 64) (fuel' : Nat) :
    CCSafe (run (printProg routine) args fuel' cfg).res ∧
      (cfg.heap = false → C13_a64_allowed (run (printProg routine) args fuel' cfg).res) :=
  C13_a64_safe_of_outcome (C13_a64_all_terminating p args hooks body routine nargs hsafe htp hchk hcompX fuel out v
    hrun cfg H hwf hb8 hb0 hbytes hfitX fuel')

/-- the peak hypothesis does not look at the heap-monitor flag -/
theorem C13_peak_monOff {p : AxCut.Prog} {hooks : Bool} {routine : List Code} {ops : List MockOp} {cfg : MonCfg}
    {hk : Code → Bool} {P : Prog} {args : List Word} {Pk C : Nat}
    (h : ConcK.PeakAtMost p hooks routine ops cfg.mem hk P args Pk C) :
    ConcK.PeakAtMost p hooks routine ops (monOff cfg).mem hk P args Pk C := h

/-- C13 FOR ALL RUNS OF ALL PROGRAMS on the program laid out from ANY lines that are the routine, side hypotheses
explicit: whatever the machine fuel (below `2^64 / (M + 1)`), the machine ends in `outOfFuel` or in `done v` (or
in a report of the heap monitor when that is on) — never in `cc-violation`, `misaligned-call`, `misaligned-sp`,
`read-undefined …`, nor in any other fault. -/
theorem C13_a64_all_fuel_lines (p : AxCut.Prog) (args : List Word) (hooks : Bool) (body routine : List Code)
    (nargs : Nat) (d0 : Def) (ops : List MockOp) (c' : Nat)
    (hsafe : LabelSafe p = true) (htp : LinTypedProg p) (hprog : ∀ d ∈ p.types, d.xtors.length ≤ 1024)
    (hcompM : (compile mockSym hooks p).run 0 = .ok ((ops, nargs), c')) (hfit : CodeFits ops)
    (hcompX : compileProg a64Backend p hooks 0 = .ok (body, nargs, routine))
    (hnd : (labs routine).Nodup)
    (hd : p.defs.head? = some d0) (hentry : ∀ b ∈ d0.ctx, b.chi = .ext ∧ b.ty = .i64)
    (hlen : d0.ctx.length = args.length)
    (hcap : ∀ st, Reachable p ⟨d0.ctx, args.map .int, d0.body⟩ st → 2 * st.ctx.length ≤ 280)
    (hnostuck : ∀ fuel w, (Pos.run p args fuel).res ≠ .stuck w)
    (cfg : MonCfg) (H : CfgCC cfg.mem)
    (hb8 : cfg.mem.heapBase % 8 = 0) (hb0 : 0 < cfg.mem.heapBase)
    (Pk : Nat) (hbytes : 64 * (Pk + progMaxAlloc p + 2) ≤ cfg.mem.heapBytes)
    (hfitX : cfg.mem.codeBase + 4 * ninstr routine < 2 ^ 64)
    (hkv : String → Option (List (String × Kind))) (ls : List (Nat × PLine)) (hl : Lines hkv ls routine)
    (fuel' : Nat) (hf : fuel' * (progMaxSize p + 1) + stmtSize d0.body + 1 < 2 ^ 64)
    (hP : ConcK.PeakAtMost p hooks routine ops cfg.mem (hkOf hkv) (layout ls) args Pk
      (progMaxAlloc p * (fuel' * (progMaxSize p + 1) + stmtSize d0.body) + 1)) :
    (runProg (layout ls) args fuel' cfg).res = .outOfFuel ∨
      (∃ v, (runProg (layout ls) args fuel' cfg).res = .done v) ∨
      ∃ what ln, cfg.heap = true ∧ (runProg (layout ls) args fuel' cfg).res = .invFail what ln := by
  have hoff := ConcK.programs_all_fuel_gen p args hooks body routine nargs d0 ops c' hsafe htp hprog hcompM hfit
    hcompX hnd hd hentry hlen hcap hnostuck (monOff cfg) H rfl hb8 hb0 Pk (progMaxAlloc p) (progMaxSize p)
    (allocLe_progMaxAlloc p) (stmtSize_le_progMaxSize p) hbytes (Ref.K.holdsB_layout hl) hfitX fuel' hf
    (ConcK.peakHyp_of_peakAtMost (C13_peak_monOff hP))
  exact ConcK.ccSafe_of_monOff (by
    rcases hoff with h | ⟨v, _, _, h⟩
    · exact Or.inl h
    · exact Or.inr ⟨v, h⟩)

/-- C13, DYNAMIC PART, FOR ALL PROGRAMS, ALL RUNS, on the lines of the routine -/
theorem C13_a64_cc_never_fires_all_lines (p : AxCut.Prog) (args : List Word) (hooks : Bool)
    (body routine : List Code) (nargs : Nat) (d0 : Def) (ops : List MockOp) (c' : Nat)
    (hsafe : LabelSafe p = true) (htp : LinTypedProg p) (hprog : ∀ d ∈ p.types, d.xtors.length ≤ 1024)
    (hcompM : (compile mockSym hooks p).run 0 = .ok ((ops, nargs), c')) (hfit : CodeFits ops)
    (hcompX : compileProg a64Backend p hooks 0 = .ok (body, nargs, routine))
    (hnd : (labs routine).Nodup)
    (hd : p.defs.head? = some d0) (hentry : ∀ b ∈ d0.ctx, b.chi = .ext ∧ b.ty = .i64)
    (hlen : d0.ctx.length = args.length)
    (hcap : ∀ st, Reachable p ⟨d0.ctx, args.map .int, d0.body⟩ st → 2 * st.ctx.length ≤ 280)
    (hnostuck : ∀ fuel w, (Pos.run p args fuel).res ≠ .stuck w)
    (cfg : MonCfg) (H : CfgCC cfg.mem)
    (hb8 : cfg.mem.heapBase % 8 = 0) (hb0 : 0 < cfg.mem.heapBase)
    (Pk : Nat) (hbytes : 64 * (Pk + progMaxAlloc p + 2) ≤ cfg.mem.heapBytes)
    (hfitX : cfg.mem.codeBase + 4 * ninstr routine < 2 ^ 64)
    (hkv : String → Option (List (String × Kind))) (ls : List (Nat × PLine)) (hl : Lines hkv ls routine)
    (fuel' : Nat) (hf : fuel' * (progMaxSize p + 1) + stmtSize d0.body + 1 < 2 ^ 64)
    (hP : ConcK.PeakAtMost p hooks routine ops cfg.mem (hkOf hkv) (layout ls) args Pk
      (progMaxAlloc p * (fuel' * (progMaxSize p + 1) + stmtSize d0.body) + 1)) :
    CCSafe (runProg (layout ls) args fuel' cfg).res ∧
      (cfg.heap = false → C13_a64_allowed (runProg (layout ls) args fuel' cfg).res) :=
  C13_a64_safe_of_outcome (C13_a64_all_fuel_lines p args hooks body routine nargs d0 ops c' hsafe htp hprog hcompM hfit
    hcompX hnd hd hentry hlen hcap hnostuck cfg H hb8 hb0 Pk hbytes hfitX hkv ls hl fuel' hf hP)

/-- C13 FOR ALL RUNS OF ALL PROGRAMS ON THE TEXT OF THE ROUTINE, side hypotheses discharged: for a label-safe,
linearly typed program that passes the checks `C07_a64Checks` and that the code generator compiles, started with
as many arguments as the first definition has parameters, whose run on the positional machine never gets stuck:
in every sane machine configuration whose heap holds the peak (`PeakAtMost Pk`, `64·(Pk + A + 2) ≤ heapBytes`)
the machine's entry point `run` on the printed routine ends, for every fuel below `2^64 / (M + 1)`, in
`outOfFuel`, in `done v`, or (heap monitor on) in a report of the heap monitor. -/
theorem C13_a64_all_fuel (p : AxCut.Prog) (args : List Word) (hooks : Bool) (body routine : List Code)
    (nargs : Nat) (d0 : Def)
    (hsafe : LabelSafe p = true) (htp : LinTypedProg p) (hchk : C07_a64Checks p = true)
    (hcompX : compileProg a64Backend p hooks 0 = .ok (body, nargs, routine))
    (hd : p.defs.head? = some d0) (hargs : args.length = nargs)
    (hnostuck : ∀ fuel w, (Pos.run p args fuel).res ≠ .stuck w)
    (cfg : MonCfg) (H : CfgCC cfg.mem) (hwf : cfg.wf = true → routine.length < 262144)
    (hb8 : cfg.mem.heapBase % 8 = 0) (hb0 : 0 < cfg.mem.heapBase)
    (Pk : Nat) (hbytes : 64 * (Pk + progMaxAlloc p + 2) ≤ cfg.mem.heapBytes)
    (hfitX : cfg.mem.codeBase + 4 * ninstr routine < 2 ^ 64)
    (fuel' : Nat) (hf : fuel' * (progMaxSize p + 1) + stmtSize d0.body + 1 < 2 ^ 64)
    (hP : ∀ ops c' ls, (compile mockSym hooks p).run 0 = .ok ((ops, nargs), c') →
      parseText (printProg routine) = .ok ls →
      ConcK.PeakAtMost p hooks routine ops cfg.mem (hkOf hookVarsOf) (layout ls) args Pk
        (progMaxAlloc p * (fuel' * (progMaxSize p + 1) + stmtSize d0.body) + 1)) :
    (run (printProg routine) args fuel' cfg).res = .outOfFuel ∨
      (∃ v, (run (printProg routine) args fuel' cfg).res = .done v) ∨
      ∃ what ln, cfg.heap = true ∧ (run (printProg routine) args fuel' cfg).res = .invFail what ln := by
  obtain ⟨ops, c', ls, S⟩ := C07_setup_of_checks p args hooks body routine nargs d0 hsafe htp hchk hcompX hd
  rw [C09_run_eq_runProg S.parse (C09_wf_ok hsafe htp hchk hcompX hwf)]
  exact C13_a64_all_fuel_lines p args hooks body routine nargs d0 ops c' hsafe htp S.progOK S.compM S.fit hcompX
    S.nd hd S.entry (by rw [← S.nargs, hargs]) S.cap hnostuck cfg H hb8 hb0 Pk hbytes hfitX hookVarsOf ls S.lines
    fuel' hf (hP ops c' ls S.compM S.parse)

/-- C13, DYNAMIC PART, FOR ALL PROGRAMS, ALL RUNS, ON THE TEXT: THE CALLING-CONVENTION MONITOR NEVER FIRES — neither the exit
checks of `RET`, nor the alignment check at a call, nor the alignment check at ANY SP-based memory access —,
whatever the machine fuel (below `2^64 / (M + 1)`) and the setting of the heap monitor; with the heap monitor off
the result is an outcome `C13_statement` permits -/
theorem C13_a64_cc_never_fires_all (p : AxCut.Prog) (args : List Word) (hooks : Bool) (body routine : List Code)
    (nargs : Nat) (d0 : Def)
    (hsafe : LabelSafe p = true) (htp : LinTypedProg p) (hchk : C07_a64Checks p = true)
    (hcompX : compileProg a64Backend p hooks 0 = .ok (body, nargs, routine))
    (hd : p.defs.head? = some d0) (hargs : args.length = nargs)
    (hnostuck : ∀ fuel w, (Pos.run p args fuel).res ≠ .stuck w)
    (cfg : MonCfg) (H : CfgCC cfg.mem) (hwf : cfg.wf = true → routine.length < 262144)
    (hb8 : cfg.mem.heapBase % 8 = 0) (hb0 : 0 < cfg.mem.heapBase)
    (Pk : Nat) (hbytes : 64 * (Pk + progMaxAlloc p + 2) ≤ cfg.mem.heapBytes)
    (hfitX : cfg.mem.codeBase + 4 * ninstr routine < 2 ^ 64)
    (fuel' : Nat) (hf : fuel' * (progMaxSize p + 1) + stmtSize d0.body + 1 < 2 ^ 64)
    (hP : ∀ ops c' ls, (compile mockSym hooks p).run 0 = .ok ((ops, nargs), c') →
      parseText (printProg routine) = .ok ls →
      ConcK.PeakAtMost p hooks routine ops cfg.mem (hkOf hookVarsOf) (layout ls) args Pk
        (progMaxAlloc p * (fuel' * (progMaxSize p + 1) + stmtSize d0.body) + 1)) :
    CCSafe (run (printProg routine) args fuel' cfg).res ∧
      (cfg.heap = false → C13_a64_allowed (run (printProg routine) args fuel' cfg).res) :=
  C13_a64_safe_of_outcome (C13_a64_all_fuel p args hooks body routine nargs d0 hsafe htp hchk hcompX hd hargs hnostuck
    cfg H hwf hb8 hb0 Pk hbytes hfitX fuel' hf hP)

/-- C13, DYNAMIC PART, FOR ALL PROGRAMS, ALL RUNS, heap hypothesis on the SOURCE PROGRAM: if the object and closure values
held by the variables of the positional machine never have more than `D` fields (over all reachable states) and
the positional machine never gets stuck, then in a heap of `64·(D + A + 2)` bytes the machine on the printed routine never reports a violation of the
calling convention, whatever the fuel (below `2^64 / (M + 1)`) and the setting of the heap monitor. -/
theorem C13_a64_cc_never_fires_all_size (p : AxCut.Prog) (args : List Word) (hooks : Bool)
    (body routine : List Code) (nargs : Nat) (d0 : Def)
    (hsafe : LabelSafe p = true) (htp : LinTypedProg p) (hchk : C07_a64Checks p = true)
    (hcompX : compileProg a64Backend p hooks 0 = .ok (body, nargs, routine))
    (hd : p.defs.head? = some d0) (hargs : args.length = nargs)
    (hnostuck : ∀ fuel w, (Pos.run p args fuel).res ≠ .stuck w)
    (D : Nat) (hD : ∀ st, Reachable p ⟨d0.ctx, args.map .int, d0.body⟩ st → valsFields st.env ≤ D)
    (cfg : MonCfg) (H : CfgCC cfg.mem) (hwf : cfg.wf = true → routine.length < 262144)
    (hb8 : cfg.mem.heapBase % 8 = 0) (hb0 : 0 < cfg.mem.heapBase)
    (hbytes : 64 * (D + progMaxAlloc p + 2) ≤ cfg.mem.heapBytes)
    (hfitX : cfg.mem.codeBase + 4 * ninstr routine < 2 ^ 64)
    (fuel' : Nat) (hf : fuel' * (progMaxSize p + 1) + stmtSize d0.body + 1 < 2 ^ 64) :
    CCSafe (run (printProg routine) args fuel' cfg).res ∧
      (cfg.heap = false → C13_a64_allowed (run (printProg routine) args fuel' cfg).res) := by
  obtain ⟨ops, c', ls, S⟩ := C07_setup_of_checks p args hooks body routine nargs d0 hsafe htp hchk hcompX hd
  rw [C09_run_eq_runProg S.parse (C09_wf_ok hsafe htp hchk hcompX hwf)]
  have hoff := (ConcK.programs_dsize_all p args hooks body routine nargs d0 ops c' hsafe htp S.progOK S.compM S.fit
    hcompX S.nd hd S.entry (by rw [← S.nargs, hargs]) S.cap hnostuck D hD (monOff cfg) H rfl hb8 hb0
    (progMaxAlloc p) (progMaxSize p) (allocLe_progMaxAlloc p) (stmtSize_le_progMaxSize p) hbytes
    (Ref.K.holdsB_layout S.lines) hfitX fuel' hf).1
  exact C13_a64_safe_of_outcome (ConcK.ccSafe_of_monOff (by
    rcases hoff with h | ⟨v, _, _, h⟩
    · exact Or.inl h
    · exact Or.inr ⟨v, h⟩))

/-! ### non-vacuity: the closure program of Props/C07A64Full.lean (a single-method closure invoked by `BR reg`,
a two-method closure invoked through its jump table, a closure captured by a closure, moved by `subst`) -/

set_option maxRecDepth 100000 in
/-- every hypothesis of `C13_a64_cc_never_fires_terminating` holds for the closure program started with x = 37,
heap monitor ON -/
example (fuel' : Nat) : CCSafe (run (printProg C07_cloRoutine) [37] fuel' { heap := true }).res := by
  obtain ⟨body, nargs, hcomp⟩ := C07_cloProg_compiles
  exact (C13_a64_cc_never_fires_terminating C07_cloProg [37] true body C07_cloRoutine nargs
    C07_cloProg_safe C07_cloProg_typed C07_cloProg_checks hcomp
    20 _ _ C07_cloProg_run { heap := true } cfgCC_default (fun h => nomatch h) (by decide) (by decide) (by decide) (C07_cloRoutine_fits (by decide)) fuel').1

set_option maxRecDepth 100000 in
/-- every hypothesis of `C13_a64_cc_never_fires_all_size` holds for the closure program started with x = 37 (`D = 2`:
at no state do the variables hold more than two fields of closure data — `g` captures `f`, `f` captures `x`):
for EVERY fuel below 2^58 the calling-convention monitor does not fire -/
example (fuel' : Nat) (hf : fuel' < 2 ^ 58) : CCSafe (run (printProg C07_cloRoutine) [37] fuel' {}).res ∧
    (({} : MonCfg).heap = false → C13_a64_allowed (run (printProg C07_cloRoutine) [37] fuel' {}).res) := by
  obtain ⟨body, nargs, hcomp⟩ := C07_cloProg_compiles
  obtain ⟨e1, e2, e3⟩ := C07_cloProg_consts
  obtain ⟨hnostuck, _⟩ := C10_done_unique C07_cloProg_run
  exact C13_a64_cc_never_fires_all_size C07_cloProg [37] true body C07_cloRoutine nargs C07_cloMain
    C07_cloProg_safe C07_cloProg_typed C07_cloProg_checks hcomp rfl (C07_cloProg_nargs hcomp) hnostuck 2
    C07_cloProg_dataSize
    {} cfgCC_default (fun h => nomatch h) (by decide) (by decide) (by rw [e1]; decide) (C07_cloRoutine_fits (by decide))
    fuel' (by rw [e2, e3]; omega)

/-- THE CLOSURE LOOP NEVER VIOLATES THE CALLING CONVENTION: the machine on the TEXT of the routine of the closure
loop (Props/C09A64All.lean), started with x = 5 in the default configuration: for EVERY fuel below 2^59 the
calling-convention monitor does not fire — no `cc-violation`, no `misaligned-call`, no `misaligned-sp` at any of
the SP-based accesses — and the result is an allowed outcome; the program does not terminate (it allocates the
environment of a closure, invokes the closure through `BR reg`, frees the environment, and calls itself,
forever) -/
theorem C13A_cloLoop_never_fires (fuel' : Nat) (hf : fuel' < 2 ^ 59) :
    CCSafe (run (printProg C13A_cloLoopRoutine) [5] fuel' {}).res ∧
    (({} : MonCfg).heap = false → C13_a64_allowed (run (printProg C13A_cloLoopRoutine) [5] fuel' {}).res) := by
  obtain ⟨body, nargs, hcomp⟩ := C13A_cloLoop_compiles
  obtain ⟨e1, e2, e3⟩ := C13A_cloLoop_consts
  exact C13_a64_cc_never_fires_all_size C13A_cloLoopProg [5] true body C13A_cloLoopRoutine nargs C13A_cloLoopMain
    C13A_cloLoopProg_safe C13A_cloLoopProg_typed C13A_cloLoopProg_checks hcomp rfl (C13A_cloLoop_nargs hcomp)
    C13A_cloLoop_nostuck 1 C13A_cloLoop_size
    {} cfgCC_default (fun h => nomatch h) (by decide) (by decide) (by rw [e1]; decide) (C13A_cloLoopRoutine_fits (by decide))
    fuel' (by rw [e2, e3]; omega)

set_option maxRecDepth 100000 in
/-- every hypothesis of `C13_a64_cc_never_fires_all` holds for the closure loop with the trivial peak
(`Pk = A·(fuel'·(M + 1) + |main|) + 1`, which the default heap of 32 MiB holds for `fuel' = 1000`) -/
example : CCSafe (run (printProg C13A_cloLoopRoutine) [5] 1000 {}).res := by
  obtain ⟨body, nargs, hcomp⟩ := C13A_cloLoop_compiles
  obtain ⟨e1, e2, e3⟩ := C13A_cloLoop_consts
  exact (C13_a64_cc_never_fires_all C13A_cloLoopProg [5] true body C13A_cloLoopRoutine nargs C13A_cloLoopMain
    C13A_cloLoopProg_safe C13A_cloLoopProg_typed C13A_cloLoopProg_checks hcomp rfl (C13A_cloLoop_nargs hcomp)
    C13A_cloLoop_nostuck {} cfgCC_default (fun h => nomatch h) (by decide) (by decide)
    (progMaxAlloc C13A_cloLoopProg * (1000 * (progMaxSize C13A_cloLoopProg + 1) + stmtSize C13A_cloLoopMain.body) + 1)
    (by rw [e1, e2, e3]; decide) (C13A_cloLoopRoutine_fits (by decide)) 1000 (by rw [e2, e3]; decide)
    (fun _ _ _ _ _ => C10_peak_trivial_all _ _ _ _ _ _ _ _ _)).1

set_option maxRecDepth 100000 in
/-- … also with the heap monitor AND the validator `wfCheck` ON (the printed routine passes the validator:
`C14_a64_final`) -/
theorem C13A_cloLoop_never_fires_mon (fuel' : Nat) (hf : fuel' < 2 ^ 59) :
    CCSafe (run (printProg C13A_cloLoopRoutine) [5] fuel' { heap := true, wf := true }).res := by
  obtain ⟨body, nargs, hcomp⟩ := C13A_cloLoop_compiles
  obtain ⟨e1, e2, e3⟩ := C13A_cloLoop_consts
  exact (C13_a64_cc_never_fires_all_size C13A_cloLoopProg [5] true body C13A_cloLoopRoutine nargs C13A_cloLoopMain
    C13A_cloLoopProg_safe C13A_cloLoopProg_typed C13A_cloLoopProg_checks hcomp rfl (C13A_cloLoop_nargs hcomp)
    C13A_cloLoop_nostuck 1 C13A_cloLoop_size
    { heap := true, wf := true } cfgCC_default (fun _ => by decide) (by decide) (by decide) (by rw [e1]; decide)
    (C13A_cloLoopRoutine_fits (by decide)) fuel' (by rw [e2, e3]; omega)).1

end Scc.A64

#print axioms Scc.A64.C13_a64_all_terminating
#print axioms Scc.A64.C13_a64_cc_never_fires_terminating
#print axioms Scc.A64.C13_a64_all_fuel_lines
#print axioms Scc.A64.C13_a64_cc_never_fires_all_lines
#print axioms Scc.A64.C13_a64_all_fuel
#print axioms Scc.A64.C13_a64_cc_never_fires_all
#print axioms Scc.A64.C13_a64_cc_never_fires_all_size
#print axioms Scc.A64.C13A_cloLoop_never_fires
#print axioms Scc.A64.C13A_cloLoop_never_fires_mon

#print axioms Scc.A64.C13_a64_safe_of_outcome
#print axioms Scc.A64.C13_peak_monOff
