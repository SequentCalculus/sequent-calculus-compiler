/-
  Scc.Props.C02SemSafe — discharges the hypothesis `C02_funSafe_statement` of Props/C02Sem.lean (the
  Fun machine never gets stuck for a reason other than an arithmetic fault on checked programs with a
  valid `main`) by the type-safety theorem of Props/FunSafety.lean, and states the consequence: on the
  fragment `Fun2Core.Sem.fragOk` the semantic part of C02 holds with ALL FOUR clauses of `C02_ObsSame`
  (forward and backward) for every accepted program with a valid `main` and every argument list of
  the right length — no safety hypothesis left.
-/
import Scc.Props.C02Sem
import Scc.Props.FunSafety

namespace Scc.Props
open Scc.Pipeline
open Scc.Fun.Check (checkProgram programNamesOk)

/-- type safety of the CEK machine, in the shape asked for by Props/C02Sem.lean -/
theorem C02_funSafe : C02_funSafe_statement := by
  intro p p' hp hc hv args hlen n
  obtain ⟨dm, hfind, hl, _, _⟩ := validMain_find hv
  have hlen' : args.length = mainArity p' := by
    have hf : p'.defs.find? (fun d => d.name == "main") = some dm := hfind
    rw [hf] at hlen
    simpa [hl] using hlen
  have hsafe := Fun_run_never_type_stuck p p' hp hc hv args hlen' n
  cases hr : (Fun.run p' args n).res with
  | done v => right; simp only [ofFun, hr]; trivial
  | outOfFuel => left; simp only [ofFun, hr]
  | stuck w =>
    right
    simp only [ofFun, hr]
    rcases hsafe w hr with rfl | rfl
    · exact .inl rfl
    · exact .inr rfl

/-- **C02, semantic part, both halves, fragment**: for every accepted program with a valid `main` in the
fragment `fragOk`, whose translation is `q2` (with every translated definition closed), and every
argument list of the right length, the Fun machine on the program and the Core ς-machine on `q2`
have the same observable behaviour (all four clauses of `C02_ObsSame`) -/
theorem C02_sem_frag (p : Fun.Program) (p' : Fun.CheckedProgram) (q2 : Core.Prog)
    (hn : programNamesOk p = true) (hck : checkProgram p = .ok p') (hvm : validMain p' = true)
    (hf : Fun2Core.Sem.fragOk p' = true) (hc : Fun2Core.compileProg p' = .ok q2)
    (hq : Fun2Core.Sem.coreClosed q2 = true) (args : List Word)
    (hlen : args.length = (p'.defs.find? (·.name == "main")).elim 0 (·.ctx.length)) :
    C02_ObsSame (fun n => ofFun (Fun.run p' args n)) (fun n => ofCore (Core.run q2 args n)) :=
  C02_sem_frag_modulo_safety C02_funSafe p p' q2 hn hck hvm hf hc hq args hlen

#print axioms C02_funSafe
#print axioms C02_sem_frag

end Scc.Props
