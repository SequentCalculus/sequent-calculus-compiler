/-
  Scc/Props/C11Balance.lean  --  C11, "increases the count of each object by the number of extra copies,
  releases each dropped object exactly once": the counts of `C11Counts.lean` read against the environment.
  `C11_counts_balance`: the count of a value changes by (new variables bound to an old object variable
  holding it) − (old object variables holding it); `C11_new_variable_holds`: after the moves those new
  variables hold it; `C11_erase_once_backends`: `C11_erase_once` with the placement of each backend.
-/
import Scc.Props.C11Counts
import Scc.Props.C11

namespace Scc.Props.C11
open Scc.PMoves

section
variable {V : Type} [DecidableEq V]

/-- the old binding `b` is an object binding whose `Fst` temporary holds `v` -/
def objHolds (tfp : Nat → Option Nat) (ctx : Ctx) (σ : Nat → V) (v : V) (b : Nat × Chi) : Bool :=
  b.2 != Chi.ext &&
  (match variableTemporary tfp 0 ctx b.1 with
   | none => false
   | some t => decide (σ t = v))

/-- number of old object variables holding `v` -/
def oldRefs (tfp : Nat → Option Nat) (ctx : Ctx) (σ : Nat → V) (v : V) : Nat :=
  (ctx.filter (objHolds tfp ctx σ v)).length

/-- number of new variables bound to an old object variable holding `v` (after the moves these are the
    new variables whose `Fst` holds `v`: `C11_substitution_correct`) -/
def newRefs (tfp : Nat → Option Nat) (re : Rearrange) (ctx : Ctx) (σ : Nat → V) (v : V) : Nat :=
  (re.filter (fun no => ctx.any (fun b => b.1 == no.2 && objHolds tfp ctx σ v b))).length

theorem bindingDelta_eq (tfp : Nat → Option Nat) (re : Rearrange) (ctx : Ctx) (σ : Nat → V) (v : V)
    (b : Nat × Chi) :
    bindingDelta tfp re ctx σ v b
      = if objHolds tfp ctx σ v b then (targetCount re b.1 : Int) - 1 else 0 := by
  unfold bindingDelta objHolds
  by_cases hext : b.2 = Chi.ext
  · simp [hext]
  · cases hv : variableTemporary tfp 0 ctx b.1 with
    | none => simp [hext]
    | some t => by_cases h : σ t = v <;> simp [hext, h]

theorem sum_bindingDelta (tfp : Nat → Option Nat) (re : Rearrange) (ctx : Ctx) (σ : Nat → V) (v : V)
    (bs : List (Nat × Chi)) :
    (bs.map (bindingDelta tfp re ctx σ v)).sum
      = ((bs.map (fun b => if objHolds tfp ctx σ v b then targetCount re b.1 else 0)).sum : Nat)
        - ((bs.filter (objHolds tfp ctx σ v)).length : Nat) := by
  induction bs with
  | nil => simp
  | cons b bs ih =>
    simp only [List.map_cons, List.sum_cons, ih, bindingDelta_eq, List.filter_cons]
    by_cases h : objHolds tfp ctx σ v b = true
    · simp only [h, if_true, List.length_cons]; omega
    · simp only [h]; simp

theorem sum_indicator {α : Type} (key : α → Nat) (P : α → Bool) (k : Nat) :
    ∀ (l : List α), (l.map key).Nodup →
      (l.map (fun b => if P b then (if key b == k then 1 else 0) else 0)).sum
        = if l.any (fun b => key b == k && P b) then 1 else 0 := by
  intro l
  induction l with
  | nil => intro _; simp
  | cons c rest ih =>
    intro hn
    rw [List.map_cons, List.nodup_cons] at hn
    have ih' := ih hn.2
    simp only [List.map_cons, List.sum_cons, ih', List.any_cons]
    by_cases hk : key c = k
    · -- no other element has this key
      have hrest : rest.any (fun b => key b == k && P b) = false := by
        rw [List.any_eq_false]
        intro b hb
        have : key b ≠ k := fun e => hn.1 (by rw [hk, ← e]; exact List.mem_map_of_mem (f := key) hb)
        simp [this]
      by_cases hp : P c = true <;> simp [hk, hp, hrest]
    · have : (key c == k) = false := by simpa using hk
      simp [this]

theorem targetCount_cons (no : (Nat × Chi) × Nat) (re : Rearrange) (id : Nat) :
    targetCount (no :: re) id = (if id == no.2 then 1 else 0) + targetCount re id := by
  unfold targetCount
  rw [List.filter_cons]
  by_cases h : (id == no.2) = true
  · simp [h]; omega
  · simp [h]

omit [DecidableEq V] in
theorem sum_targetCount (ctx : Ctx)
    (hnd : (ctx.map (·.1)).Nodup) (P : Nat × Chi → Bool) :
    ∀ (re : Rearrange),
      (ctx.map (fun b => if P b then targetCount re b.1 else 0)).sum
        = (re.filter (fun no => ctx.any (fun b => b.1 == no.2 && P b))).length := by
  intro re
  induction re with
  | nil =>
    have : ∀ (l : List (Nat × Chi)), (l.map (fun b => if P b then targetCount [] b.1 else 0)).sum = 0 := by
      intro l
      induction l with
      | nil => rfl
      | cons c rest ihl => simp only [List.map_cons, List.sum_cons, ihl]; simp [targetCount]
    simp [this]
  | cons no re ih =>
    have hsplit : ∀ (l : List (Nat × Chi)),
        (l.map (fun b => if P b then targetCount (no :: re) b.1 else 0)).sum
          = (l.map (fun b => if P b then (if b.1 == no.2 then 1 else 0) else 0)).sum
            + (l.map (fun b => if P b then targetCount re b.1 else 0)).sum := by
      intro l
      induction l with
      | nil => simp
      | cons c rest ihl =>
        simp only [List.map_cons, List.sum_cons]
        rw [ihl, targetCount_cons]
        by_cases hp : P c = true <;> simp only [hp, if_true] <;> simp <;> omega
    rw [hsplit, ih, sum_indicator (fun b : Nat × Chi => b.1) P no.2 ctx hnd, List.filter_cons]
    by_cases h : ctx.any (fun b => b.1 == no.2 && P b) = true
    · simp [h]; omega
    · simp [h]

/-- C11 (counts follow the environment).  In a context with distinct names, the refcount instructions
    change the count of every value `v` by
      (number of new variables bound to an old object variable holding `v`)
      − (number of old object variables holding `v`). -/
theorem C11_counts_balance (tfp : Nat → Option Nat) (re : Rearrange) (ctx : Ctx) (σ : Nat → V)
    (cnt : V → Int) (v : V) (hnd : (ctx.map (·.1)).Nodup) :
    runROps σ (ctx.flatMap (refOpsFor tfp re ctx)) cnt v
      = cnt v + (newRefs tfp re ctx σ v : Int) - (oldRefs tfp ctx σ v : Int) := by
  rw [C11_counts, sum_bindingDelta, sum_targetCount ctx hnd]
  unfold newRefs oldRefs
  omega
/-- Link to the moves (`C11_substitution_correct`): every new variable counted by `newRefs` -- bound to an
    old OBJECT variable whose `Fst` temporary holds `v` -- has, after the moves of the same statement, a
    `Fst` temporary holding `v`.  So `C11_counts_balance` reads: count after = count before
    + (new variables now referring to `v`) − (old variables that referred to `v`). -/
theorem C11_new_variable_holds (re : Rearrange) (ctx : Ctx) (csE : Root → Bool)
    (hctx : (ctx.map (·.1)).Nodup) (hnew : (re.map (·.1.1)).Nodup) :
    ∃ rc mv, codeSubstitute genericTemporary re ctx csE = .ok rc mv ∧
      rc = ctx.flatMap (refOpsFor genericTemporary re ctx) ∧
      ∀ (σ : Nat → V) (sc : V) (v : V), ∀ e ∈ re, ∀ b ∈ ctx, e.2 = b.1 →
        objHolds genericTemporary ctx σ v b = true →
        ∃ t, variableTemporary genericTemporary 0 (newContext re) e.1.1 = some t ∧
          (run mv (σ, sc)).1 t = v := by
  obtain ⟨rc, mv, hcode, hrc, hmoves⟩ := C11_substitution_correct (V := V) re ctx csE hctx hnew
  refine ⟨rc, mv, hcode, hrc, ?_⟩
  intro σ sc v e he b hb heb hobj
  unfold objHolds at hobj
  have hext : b.2 ≠ Chi.ext := by
    intro h; simp [h] at hobj
  cases hvs : variableTemporary genericTemporary 0 ctx b.1 with
  | none => simp [hvs] at hobj
  | some s =>
    have hσ : σ s = v := by simpa [hvs, hext] using hobj
    have hmem : e.1 ∈ newContext re := List.mem_map.mpr ⟨e, he, rfl⟩
    obtain ⟨p, _, _, hvt⟩ := variableTemporary_of_mem genericTemporary 0 hmem
    refine ⟨2 * p + 0, by rw [hvt]; rfl, ?_⟩
    rw [(hmoves σ sc).1 s (2 * p + 0) ⟨b, hb, e, he, heb, 0, Or.inr ⟨rfl, hext⟩, hvs, by rw [hvt]; rfl⟩]
    exact hσ

end

/-- `C11_erase_once` with the REAL placement of each backend (`temporary_from_position` of x86-64, AArch64,
    RV64 is injective where defined): a dropped object variable is erased exactly once on each of them. -/
theorem C11_erase_once_backends (re : Rearrange) (ctx : Ctx) (hnd : (ctx.map (·.1)).Nodup)
    (b : Nat × Chi) (hb : b ∈ ctx) (hext : b.2 ≠ Chi.ext) (hdrop : targetCount re b.1 = 0) :
    (∀ t, variableTemporary X86.temporaryFromPosition 0 ctx b.1 = some t →
      (ctx.flatMap (refOpsFor X86.temporaryFromPosition re ctx)).count (.erase t) = 1) ∧
    (∀ t, variableTemporary A64.temporaryFromPosition 0 ctx b.1 = some t →
      (ctx.flatMap (refOpsFor A64.temporaryFromPosition re ctx)).count (.erase t) = 1) ∧
    (∀ t, variableTemporary RV64.temporaryFromPosition 0 ctx b.1 = some t →
      (ctx.flatMap (refOpsFor RV64.temporaryFromPosition re ctx)).count (.erase t) = 1) :=
  ⟨fun t ht => C11_erase_once _ X86.tfp_injective re ctx hnd b hb hext hdrop t ht,
   fun t ht => C11_erase_once _ A64.tfp_injective re ctx hnd b hb hext hdrop t ht,
   fun t ht => C11_erase_once _ RV64.tfp_injective re ctx hnd b hb hext hdrop t ht⟩

-- non-vacuity (the example of C11Counts.lean): object 100 had 1 reference among the old variables and has 2
-- among the new ones; object 200 had 1 and has 0
example : newRefs genericTemporary reC ctxC σC 100 = 2 ∧ oldRefs genericTemporary ctxC σC 100 = 1 := by decide +kernel
example : newRefs genericTemporary reC ctxC σC 200 = 0 ∧ oldRefs genericTemporary ctxC σC 200 = 1 := by decide +kernel

end Scc.Props.C11

open Scc.Props.C11 in
#print axioms C11_counts_balance
open Scc.Props.C11 in
#print axioms C11_new_variable_holds
open Scc.Props.C11 in
#print axioms C11_erase_once_backends
