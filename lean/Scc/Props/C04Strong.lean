/-
  Scc.Props.C04Strong — C04 (shrinking preserves behaviour) with the observation relation of C02/C03.

  `SameBehaviour` of Props/C04.lean is weaker than it reads (AUDIT.md, entry C04_sem):
  (a) it has no divergence clause (a program that prints forever is unconstrained);
  (b) a stuck source is matched by ANY stuck target (`ResMatch: stuck _ => ∃ w, …`): a division by zero
      could become an overflow or any other reason.
  * `StrongSame`  the four clauses of `C02_ObsSame` (Props/C02Sem.lean) / `ObsEq` (Props/C03.lean):
      1/2. a run of either machine that finishes with a result, `divByZero` or `overflow` is matched by a run
           of the other machine with the SAME behaviour (trace and result, the fault kind included);
      3/4. for all fuel, the trace of either machine is a prefix of a trace of the other (divergence).
  * `C04_sem_strong`  (THEOREM)  same hypotheses as `C04_sem`, conclusion `StrongSame`.
  * `C04_sem_reasons`  (THEOREM)  finer than clause 1/2: once both machines have started, EVERY stuck reason
      `e` of the Core machine is reported by the AxCut machine as `e.render`, and conversely.
  `StrongSame` and `SameBehaviour` are to be read together: stuck reasons other than the arithmetic ones are
  constrained by `SameBehaviour` (some stuck target) and `C04_sem_reasons` (the same reason) only.
  Proof: the forward simulation (`Sem.sim_stRel`) matches final states by `ResMatchS` (the two machines name
  their arithmetic faults alike: `evalOp_err`); `Scc/Core2AxCut/SemStrong.lean` has the generic
  forward/backward lemmas for finished runs and two lemmas for traces of unfinished runs
  (`sim_prefix_forward`, `sim_prefix_backward`; the AxCut machine only appends to its trace: `iterate_mono`).
-/
import Scc.Props.C04Sem
import Scc.Core2AxCut.SemStrong

namespace Scc.Props
open Scc.Core2AxCut

/-- outcomes the property speaks about: a result, or one of the two arithmetic faults
    (`C02_ObsFinished` on the behaviours of the AxCut machines) -/
def ArithFinished : AxCut.Named.Res → Prop
  | .done _ => True
  | .stuck w => w = "divByZero" ∨ w = "overflow"
  | .outOfFuel => False

/-- same observable behaviour of two fuel-indexed runs (the shape of `C02_ObsSame`) -/
def StrongSame (src tgt : Nat → AxCut.Named.Behaviour) : Prop :=
  (∀ n, ArithFinished (src n).res → ∃ m, tgt m = src n) ∧
  (∀ m, ArithFinished (tgt m).res → ∃ n, src n = tgt m) ∧
  (∀ n, ∃ m, (src n).out <+: (tgt m).out) ∧ (∀ m, ∃ n, (tgt m).out <+: (src n).out)

def C04_sem_strong_statement : Prop :=
  ∀ (p : Core.FsProg) (q : AxCut.Prog) (args : List (BitVec 64)),
    wtFsScopedCheck p = true → uniqueIdsCheck p = true → idsBoundedCheck p = true → mainIntParams p = true →
    (∃ d ds, p.defs = d :: ds ∧ d.name.name = "main") → shrinkProg p = .ok q →
    StrongSame (coreFsRun p args) (AxCut.Named.run q args)

theorem beh_ext {a b : AxCut.Named.Behaviour} (h1 : a.out = b.out) (h2 : a.res = b.res) : a = b := by
  cases a; cases b; simp_all

/-- from a strong step-wise simulation: every finished run of either machine is matched by a run of the
    other with the same behaviour, whatever the reason of getting stuck -/
theorem finished_of_sim {p : Core.FsProg} {q : AxCut.Prog} {R : Core.FsState → AxCut.Named.State → Prop}
    (hsim : ∀ cs as, R cs as → Sem.Strong.SimGoalS p q R cs as)
    {cs : Core.FsState} {as : AxCut.Named.State} (hr : R cs as) :
    (∀ n, (Core.fsStepN p n cs).res ≠ .outOfFuel →
      ∃ m, AxCut.Named.iterate q m as = coreBehaviour (Core.fsStepN p n cs)) ∧
    (∀ m, (AxCut.Named.iterate q m as).res ≠ .outOfFuel →
      ∃ n, coreBehaviour (Core.fsStepN p n cs) = AxCut.Named.iterate q m as) := by
  -- `ResMatchS` says that the result of the AxCut machine is the image of the result of the Core machine
  have key : ∀ {n m}, Sem.Strong.ResMatchS (Core.fsStepN p n cs).res (AxCut.Named.iterate q m as).res →
      (AxCut.Named.iterate q m as).res = (coreBehaviour (Core.fsStepN p n cs)).res := by
    intro n m hm
    simp only [coreBehaviour]
    cases hres : (Core.fsStepN p n cs).res <;> rw [hres] at hm
    · exact hm
    · exact hm
    · cases hm
  constructor
  · intro n hf
    have hc : Sem.CFin (Core.fsStepN p n cs).res := by
      cases hres : (Core.fsStepN p n cs).res with
      | done v => exact .inl ⟨v, rfl⟩
      | stuck w => exact .inr ⟨w, rfl⟩
      | outOfFuel => exact absurd hres hf
    obtain ⟨m, ho, hm⟩ := Sem.Strong.sim_forwardS hsim n cs as hr hc
    exact ⟨m, beh_ext ho (key hm)⟩
  · intro m hf
    have hc : Sem.Fin (AxCut.Named.iterate q m as).res := by
      cases hres : (AxCut.Named.iterate q m as).res with
      | done v => exact .inl ⟨v, rfl⟩
      | stuck w => exact .inr ⟨w, rfl⟩
      | outOfFuel => exact absurd hres hf
    obtain ⟨n, ho, hm⟩ := Sem.Strong.sim_backwardS hsim m _ cs as hr (Nat.le_refl _) hc
    exact ⟨n, beh_ext ho (key hm).symm⟩

theorem ArithFinished.ne_outOfFuel {r : AxCut.Named.Res} (h : ArithFinished r) : r ≠ .outOfFuel := by
  rintro rfl
  exact h

/-- from a strong step-wise simulation to `StrongSame` -/
theorem strongSame_of_sim {p : Core.FsProg} {q : AxCut.Prog} {R : Core.FsState → AxCut.Named.State → Prop}
    (hsim : ∀ cs as, R cs as → Sem.Strong.SimGoalS p q R cs as) (hout : ∀ cs as, R cs as → cs.out = as.out)
    {cs : Core.FsState} {as : AxCut.Named.State} (hr : R cs as) :
    StrongSame (fun n => coreBehaviour (Core.fsStepN p n cs)) (fun m => AxCut.Named.iterate q m as) := by
  obtain ⟨hfwd, hbwd⟩ := finished_of_sim hsim hr
  refine ⟨?_, fun m hf => hbwd m hf.ne_outOfFuel, ?_, ?_⟩
  · intro n hf
    refine hfwd n (fun hres => ?_)
    simp [coreBehaviour, hres, ArithFinished] at hf
  · intro n
    obtain ⟨m, h⟩ := Sem.Strong.sim_prefix_forward hsim hout n cs as hr
    exact ⟨m, by simp only [coreBehaviour]; rw [h]; exact List.prefix_refl _⟩
  · intro m
    obtain ⟨n, h⟩ := Sem.Strong.sim_prefix_backward hsim hout m _ cs as hr (Nat.le_refl _)
    exact ⟨n, by simpa [coreBehaviour] using h⟩

theorem stRel_out {E q cs as} (h : Sem.StRel E q cs as) : cs.out = as.out := by
  obtain ⟨_, _, _, _, ho⟩ := h
  exact ho

/-- **C04_sem_strong**: shrinking preserves results, BOTH arithmetic faults (as such) and traces, of
    finished and of unfinished runs, in both directions — for every program, all arguments, all fuel. -/
theorem C04_sem_strong : C04_sem_strong_statement := by
  intro p q args hwt hu hb hint hmain h
  obtain ⟨hp, hstart | ⟨hcore, hax⟩⟩ := Sem.sem_entry args hwt hu hb hint hmain h
  · obtain ⟨cs, as, hrel, _, hcore, hax⟩ := hstart
    have := strongSame_of_sim (p := p) (q := q) (fun cs as => Sem.sim_stRel hp cs as)
      (fun _ _ => stRel_out) hrel
    have e1 : coreFsRun p args = fun n => coreBehaviour (Core.fsStepN p n cs) := by
      funext n; simp [coreFsRun, hcore]
    have e2 : AxCut.Named.run q args = fun m => AxCut.Named.iterate q m as := by
      funext m; exact hax m
    rw [e1, e2]
    exact this
  · -- both machines refuse to start: no result, no arithmetic fault, empty traces
    refine ⟨?_, ?_, ?_, ?_⟩
    · intro n hf
      simp [coreFsRun, coreBehaviour, hcore, ArithFinished, Core.Why.render] at hf
    · intro m hf
      simp [hax, ArithFinished] at hf
    · intro n; exact ⟨0, by simp [coreFsRun, coreBehaviour, hcore, hax]⟩
    · intro m; exact ⟨0, by simp [coreFsRun, coreBehaviour, hcore, hax]⟩

/-- finer than clauses 1/2 of `StrongSame`: unless `main` is called with a wrong number of arguments (both
    machines refuse to start, reporting `arity` / `main: arity`), EVERY finished run of either machine is
    matched by a run of the other with the SAME behaviour, whatever the reason of getting stuck. -/
theorem C04_sem_reasons (p : Core.FsProg) (q : AxCut.Prog) (args : List (BitVec 64))
    (hwt : wtFsScopedCheck p = true) (hu : uniqueIdsCheck p = true) (hb : idsBoundedCheck p = true)
    (hint : mainIntParams p = true) (hmain : ∃ d ds, p.defs = d :: ds ∧ d.name.name = "main")
    (h : shrinkProg p = .ok q) (hargs : ∀ n, (Core.fsRun p args n).res ≠ .stuck .arity) :
    (∀ n, (coreFsRun p args n).res ≠ .outOfFuel → ∃ m, AxCut.Named.run q args m = coreFsRun p args n) ∧
    (∀ m, (AxCut.Named.run q args m).res ≠ .outOfFuel → ∃ n, coreFsRun p args n = AxCut.Named.run q args m) := by
  obtain ⟨hp, hstart | ⟨hcore, _⟩⟩ := Sem.sem_entry args hwt hu hb hint hmain h
  · obtain ⟨cs, as, hrel, _, hcore, hax⟩ := hstart
    obtain ⟨hfwd, hbwd⟩ := finished_of_sim (fun cs as => Sem.sim_stRel (p := p) hp cs as) hrel
    simp only [coreFsRun, hcore, hax]
    refine ⟨fun n hf => hfwd n (fun hres => hf ?_), hbwd⟩
    simp [coreBehaviour, hres]
  · exact absurd (by rw [hcore 0]) (hargs 0)

deriving instance DecidableEq for AxCut.Named.Res
deriving instance DecidableEq for AxCut.Named.Behaviour
instance (r : AxCut.Named.Res) : Decidable (ArithFinished r) := by
  cases r <;> simp only [ArithFinished] <;> infer_instance

-- the hypotheses on the program of `C04SemExample` (a lifted critical pair), and the theorem applied to it
example : ∀ q, shrinkProg C04SemExample.prog = .ok q →
    StrongSame (coreFsRun C04SemExample.prog []) (AxCut.Named.run q []) := fun q hq =>
  C04_sem_strong _ q [] (by decide +kernel) (by decide +kernel) (by decide +kernel) (by decide +kernel) ⟨_, _, rfl, rfl⟩ hq

namespace C04StrongExample
open C04SemExample

def y2 : Core.Ident := ⟨"y", 2⟩
def z5 : Core.Ident := ⟨"z", 5⟩
/-- `main(x) { print x; ⟨ x / y | μ~z. exit z ⟩ }` with `y := 0`: prints, then divides by zero -/
def bodyDiv : Core.FsStmt :=
  .cut .i64 (.lit 0) (.mu .cns y2 .i64
    (.print true x1 (.cut .i64 (.op x1 .div y2) (.mu .cns z5 .i64 (.exit z5)))))
def progDiv : Core.FsProg := ⟨[⟨⟨"main", 0⟩, [⟨x1, .prd, .i64⟩], bodyDiv⟩], [], [], 5⟩

example : wtFsScopedCheck progDiv = true ∧ uniqueIdsCheck progDiv = true ∧ idsBoundedCheck progDiv = true ∧
    mainIntParams progDiv = true := by decide +kernel
example : ∃ d ds, progDiv.defs = d :: ds ∧ d.name.name = "main" := ⟨_, _, rfl, rfl⟩
-- clause 1 is not vacuous on faults: the Core machine prints 7 and stops with `divByZero`, and so does
-- the AxCut machine (same trace, same fault)
example : coreFsRun progDiv [7#64] 20 = ⟨[(true, 7#64)], .stuck "divByZero"⟩ := by decide +kernel
example : ArithFinished (coreFsRun progDiv [7#64] 20).res := by decide +kernel
example : (shrinkProg progDiv).toOption.map (fun q => AxCut.Named.run q [7#64] 20) =
    some ⟨[(true, 7#64)], .stuck "divByZero"⟩ := by decide +kernel

/-- `main(x) { print x; main(x) }`: prints forever; clauses 3/4 constrain it, clauses 1/2 do not -/
def bodyLoop : Core.FsStmt := .print true x1 (.call ⟨"main", 0⟩ [⟨x1, .prd, .i64⟩])
def progLoop : Core.FsProg := ⟨[⟨⟨"main", 0⟩, [⟨x1, .prd, .i64⟩], bodyLoop⟩], [], [], 1⟩

example : wtFsScopedCheck progLoop = true ∧ uniqueIdsCheck progLoop = true ∧ idsBoundedCheck progLoop = true ∧
    mainIntParams progLoop = true := by decide +kernel
example : coreFsRun progLoop [3#64] 6 = ⟨[(true, 3#64), (true, 3#64), (true, 3#64)], .outOfFuel⟩ := by decide +kernel
example : (shrinkProg progLoop).toOption.map (fun q => AxCut.Named.run q [3#64] 6) =
    some ⟨[(true, 3#64), (true, 3#64), (true, 3#64)], .outOfFuel⟩ := by decide +kernel

end C04StrongExample

end Scc.Props

#print axioms Scc.Props.C04_sem_strong
#print axioms Scc.Props.C04_sem_reasons

#print axioms Scc.Props.beh_ext
#print axioms Scc.Props.strongSame_of_sim
#print axioms Scc.Props.finished_of_sim
#print axioms Scc.Props.stRel_out
