/-
  Scc.Props.C04 — shrinking focused Core into AxCut (crate core2axcut).

  Property C04 (as given): "For every well-typed focused Core program the AxCut program produced by
  shrinking behaves on the AxCut abstract machine exactly as the Core program behaves on the Core
  machine (output, result, termination). Cuts of a known constructor or destructor against a
  (co)match continue with the selected clause and the right arguments; a cut of two abstractions runs
  the producer first for integers and data and the consumer first for codata; statements lifted to
  new top-level definitions receive exactly their free variables."

  Model: `Scc.Core2AxCut.shrinkProg` (Scc/Core2AxCut/Model.lean), tied to the Rust code (after the
  label-collision repair of `fn lift`: the label is re-drawn while its printed form is the printed
  form of a label in `used_labels`) by exact equality of the S4 dumps on every run of the checks (the repository
  programs, the programs of /verif/gen/corpus that reach S3 — among them
  regress/c14_lifted_name_collision.sc, which exercises that loop — and seeded generated programs).
  Target semantics: the named AxCut machine `Scc.AxCut.Named.run` (Scc/AxCut/SemNamed.lean).

  What is proved here about the code as it is:
    * C04_no_panic            (FULL)  on input accepted by the decidable shape typing `wtFsCheck` the
                              pass returns a program: none of the four panic sites (`_Cont` clash, "Xtor
                              not found", "Type not found", "cannot happen") is reached and the
                              model's fuel suffices.
    * C04_lift_free_vars      (FULL)  the definition pushed by `lift` has as parameter list exactly the
                              typed free variables of the lifted statement: the set computed by
                              `typed_free_vars` has no duplicates (unconditionally) and is the scoped
                              free-variable set (on statements with unique binders, the documented
                              precondition of the crate); parameters and call arguments have the same
                              length and order, agree position-wise in name, kind and type; the
                              parameter ids are fresh and pairwise distinct; the body is the image of
                              the statement renamed by exactly that correspondence.
    * C04_lift_label_fresh    (FULL)  the label chosen by `lift` differs in printed form from every
                              label in `used_labels` (the names of all definitions of the program and
                              every label chosen before); over a whole statement `used_labels` grows
                              exactly by the labels of the lifted definitions, whose printed forms are
                              pairwise distinct and distinct from all earlier ones
                              (`C04_labels_fresh_stmt`); the label-drawing loop terminates
                              (`C04_draw_label_terminates`).
    * C14_def_labels_distinct (FULL)  if the definitions of the input program have pairwise distinct
                              printed names, so have the definitions of the output program.
    * C04_wtAxCheck_sound     the checker of the AxCut typing relation `WTax` is sound (it accepts the
                              S4 output of every corpus program).
  Stated here as `def … : Prop` and settled elsewhere:
    * C04_statement           semantic preservation; the Core machine (`Scc/Core/Sem.lean`) is a
                              parameter of the statement.
                              Instantiated and PROVED in `Scc/Props/C04Sem.lean` (`C04_sem`) with two
                              further decidable side conditions; without them the instance
                              `C04_full_statement` is false (`C04_full_statement_false`).
    * C04_shrink_typed_statement  typing preservation S3 → S4; false as stated, PROVED with the side conditions
                              `idsBoundedCheck`, `fsTypesOk` in `Scc/Props/C12Mid.lean` (`C04_shrink_typed`).
-/
import Scc.Core2AxCut.Proofs
import Scc.Core2AxCut.FreeVars
import Scc.AxCut.SemNamed
import Scc.AxCut.TypingNamedProofs

namespace Scc.Props
open Scc.Core2AxCut

/-! ## the full statement (semantic preservation) -/

/-- two fuel-indexed runs have the same behaviour: whenever one of them finishes (`done` or `stuck`)
    with some fuel, the other finishes with some fuel with the same result and the same trace -/
def SameBehaviour (src tgt : Nat → AxCut.Named.Behaviour) : Prop :=
  (∀ n, (∃ v, (src n).res = .done v) ∨ (∃ w, (src n).res = .stuck w) →
      ∃ m, (tgt m).out = (src n).out ∧
        ((∃ v, (src n).res = .done v ∧ (tgt m).res = .done v) ∨
         ((∃ w, (src n).res = .stuck w) ∧ ∃ w', (tgt m).res = .stuck w'))) ∧
  (∀ m, (∃ v, (tgt m).res = .done v) ∨ (∃ w, (tgt m).res = .stuck w) →
      ∃ n, (src n).out = (tgt m).out ∧
        ((∃ v, (tgt m).res = .done v ∧ (src n).res = .done v) ∨
         ((∃ w, (tgt m).res = .stuck w) ∧ ∃ w', (src n).res = .stuck w')))

/-- C04, full statement. `coreRun` is the focused-Core machine of DESIGN §4 (component
    `Scc/Core/Sem.lean`, instantiated in `Scc/Props/C04Sem.lean`), reporting its behaviour in the same
    `Behaviour` type.  The Core machine starts with the definition called `main`, the AxCut machine
    with the first definition, hence the hypothesis that `main` comes first (as in every dump). -/
def C04_statement (coreRun : Core.FsProg → List (BitVec 64) → Nat → AxCut.Named.Behaviour) : Prop :=
  ∀ (p : Core.FsProg) (q : AxCut.Prog) (args : List (BitVec 64)),
    wtFsScopedCheck p = true → uniqueIdsCheck p = true →
    (∃ d ds, p.defs = d :: ds ∧ d.name.name = "main") → shrinkProg p = .ok q →
    SameBehaviour (coreRun p args) (AxCut.Named.run q args)

/-- C04-T1 / C12: typing preservation as first stated (false: `C04_shrink_typed_statement_false`, Props/C12Mid.lean). -/
def C04_shrink_typed_statement : Prop :=
  ∀ (p : Core.FsProg) (q : AxCut.Prog),
    wtFsScopedCheck p = true → uniqueIdsCheck p = true → shrinkProg p = .ok q → AxCut.Named.WTax q

/-- C04_no_panic: on well-typed focused Core the model of `shrink_prog` returns a program; in
    particular it never returns one of the panic outcomes (`panicContName`, `panicXtorNotFound`,
    `panicTypeNotFound`, `panicCannotHappen`) nor the fuel error. -/
theorem C04_no_panic (p : Core.FsProg) (h : wtFsCheck p = true) : ∃ q, shrinkProg p = .ok q :=
  shrinkProg_ok p h

/-- the same for one statement and any sufficient fuel -/
theorem C04_no_panic_stmt (E : TEnv) (label : String) (s : Core.FsStmt) (st : St) (fuel : Nat)
    (h : wtStmt E s = true) (hf : sizeStmt s ≤ fuel) :
    ∃ r, shrinkStmt ⟨E.data, E.codata, label⟩ fuel s st = .ok r :=
  shrinkStmt_ok (env := ⟨E.data, E.codata, label⟩) ⟨rfl, rfl⟩ fuel s st h hf

/-! ## lifted definitions receive exactly their free variables -/

/-- C04_lift_free_vars. `lift env rec s st` is the only place where a definition is added to
    `lifted_statements`.  The label is `lift_<current>__k`, `k` being the first id after the ids of
    the parameters whose printed label is not used (see `C04_lift_label_fresh`). -/
theorem C04_lift_free_vars (env : Env) (rec : Rec) (s : Core.FsStmt) (st : St) (r : AxCut.Stmt) (st' : St)
    (h : lift env rec s st = .ok (r, st')) :
    let fv := tfvStmt s []                       -- the Rust `typed_free_vars` set, in `BTreeSet` order
    let params := liftParams st.maxId fv         -- the parameters of the lifted definition
    let base := "lift_" ++ env.currentLabel ++ "_"
    -- (a) no duplicates; exactly the free variables (no more, no less)
    fv.Nodup ∧
    (UniqueBinders s → ∀ b, b ∈ fv ↔ b ∈ fvStmt s) ∧
    (∃ k, st.maxId + fv.length < k ∧
      -- (b) the new definition: parameters = renamed free variables, body = image of the renamed statement
      (∃ body st3,
        rec (substStmt (liftSubst st.maxId fv) s) ⟨k, ⟨base, k⟩ :: st.usedLabels, st.lifted⟩ = .ok (body, st3) ∧
        st' = { st3 with lifted := ⟨⟨base, k⟩, shrinkContext env.codata params, body⟩ :: st3.lifted }) ∧
      -- (c) the call site passes the free variables themselves, in the same order
      r = .call ⟨base, k⟩ (shrinkContext env.codata fv)) ∧
    -- (d) parameters and arguments correspond position by position
    params.length = fv.length ∧
    (∀ i (hi : i < fv.length), ∃ hi' : i < params.length,
      params[i] = { fv[i] with var := ⟨fv[i].var.name, st.maxId + 1 + i⟩ }) ∧
    (params.map (·.var.id)).Nodup ∧
    (shrinkContext env.codata params).map (fun b => (b.chi, b.ty)) =
      (shrinkContext env.codata fv).map (fun b => (b.chi, b.ty)) ∧
    liftSubst st.maxId fv = (fv.map (·.var.id)).zip (params.map (·.var)) := by
  obtain ⟨k, body, st3, hk, _, _, h1, h2, h3⟩ := lift_spec env rec s st r st' h
  refine ⟨tfvStmt_nodup s, tfvStmt_eq_fv s, ⟨k, hk, ⟨body, st3, h1, h3⟩, h2⟩, (liftParams_spec _ _).1,
    (liftParams_spec _ _).2, (liftParams_ids_nodup _ _).1, shrinkContext_liftParams _ _ _, liftSubst_spec _ _⟩

/-! ## labels of lifted definitions are fresh -/

/-- the `while` loop of `lift` that draws the label terminates: with the fuel `|used_labels| + 1`
    that the model passes, the model-only outcome `LABELFUEL` is not reachable -/
theorem C04_draw_label_terminates (base : String) (st : St) :
    ∃ r, drawLabel base (st.usedLabels.length + 1) st = .ok r :=
  drawLabel_ok base st

/-- C04_lift_label_fresh.  The label chosen by `lift` is `lift_<current>__k`; its printed name
    differs from the printed name of every label in `used_labels` at the time of the call — that
    set contains the names of all definitions of the program (`shrinkProg` initialises it with them)
    and every label chosen before (second part: `lift` records the label, and everything the
    translation does only extends `used_labels`); `k` is the first candidate after the ids of the
    parameters with this property.  If the recursive call satisfies the label invariant
    `LabelsExt`, so does `lift`, and the label is in `used_labels` afterwards. -/
theorem C04_lift_label_fresh (env : Env) (rec : Rec) (s : Core.FsStmt) (st : St) (r : AxCut.Stmt) (st' : St)
    (h : lift env rec s st = .ok (r, st')) :
    ∃ (label : Core.Ident) (args : AxCut.Ctx),
      r = .call (shrinkIdentifier label) args ∧
      label.name = "lift_" ++ env.currentLabel ++ "_" ∧
      st.maxId + (tfvStmt s []).length < label.id ∧
      (∀ u ∈ st.usedLabels, u.print ≠ label.print) ∧
      (∀ j, st.maxId + (tfvStmt s []).length < j → j < label.id →
        ∃ u ∈ st.usedLabels, u.print = (⟨"lift_" ++ env.currentLabel ++ "_", j⟩ : Core.Ident).print) ∧
      (RecRel LabelsExt rec → label ∈ st'.usedLabels ∧ LabelsExt st st') := by
  obtain ⟨label, st2, st3, body, hn, hlt, hu, hmin, hu2, _, _, hb, hr, hst⟩ := lift_label h
  simp only [liftFresh_spec] at hlt hmin
  refine ⟨label, _, hr, hn, hlt, hu, fun j h1 h2 => labelUsed_iff.mp (hmin j h1 h2), ?_⟩
  intro hrec
  refine ⟨?_, lift_labelsExt hrec _ _ _ _ h⟩
  obtain ⟨g, l, hu3, _⟩ := hrec _ _ _ _ hb
  subst hst
  simp [hu3, hu2]

/-- the label invariant for a whole statement: `used_labels` grows by a list `g` of labels whose
    printed names are pairwise distinct and differ from the printed names of all labels used before,
    and the definitions pushed to `lifted_statements` are named exactly by `g` -/
theorem C04_labels_fresh_stmt (env : Env) (fuel : Nat) (s : Core.FsStmt) (st : St) (r : AxCut.Stmt) (st' : St)
    (h : shrinkStmt env fuel s st = .ok (r, st')) :
    ∃ (g : List Core.Ident) (l : List AxCut.Def),
      st'.usedLabels = g ++ st.usedLabels ∧ st'.lifted = l ++ st.lifted ∧
      (g.map (·.print)).Nodup ∧ (∀ x ∈ g, ∀ u ∈ st.usedLabels, x.print ≠ u.print) ∧
      (l.map (·.name)).Perm (g.map shrinkIdentifier) :=
  shrinkStmt_labelsExt env fuel s st r st' h

/-- the same for programs: the definitions of the output are named by the names of the input
    definitions and by labels `g` with pairwise distinct printed names different from the printed
    names of all input definitions -/
theorem C04_labels_fresh_prog (p : Core.FsProg) (q : AxCut.Prog) (h : shrinkProg p = .ok q) :
    ∃ g : List Core.Ident, (g.map (·.print)).Nodup ∧
      (∀ x ∈ g, ∀ d ∈ p.defs, x.print ≠ d.name.print) ∧
      (q.defs.map (·.name)).Perm (p.defs.map (fun d => shrinkIdentifier d.name) ++ g.map shrinkIdentifier) :=
  shrinkProg_labels h

/-- C14_def_labels_distinct (the part of C14 "labels are distinct" that concerns this pass): with
    distinct printed names of the input definitions, all definitions of the output program —
    including the lifted ones — have pairwise distinct printed names (the names the back ends
    print as assembly labels). -/
theorem C14_def_labels_distinct (p : Core.FsProg) (q : AxCut.Prog) (h : shrinkProg p = .ok q)
    (hp : (p.defs.map (·.name.print)).Nodup) : (q.defs.map (·.name.print)).Nodup :=
  shrinkProg_labels_nodup h hp

theorem C04_wtAxCheck_sound (p : AxCut.Prog) (h : AxCut.Named.wtAxCheck p = .ok ()) : AxCut.Named.WTax p :=
  AxCut.Named.wtAxCheck_sound p h

/-! ## non-vacuity: a program with a critical pair at a two-constructor data type whose consumer side
is not a leaf, so that it is lifted -/

namespace C04Example

def x1 : Core.Ident := ⟨"x", 1⟩
def a2 : Core.Ident := ⟨"a", 2⟩
def l3 : Core.Ident := ⟨"l", 3⟩
def b4 : Core.Ident := ⟨"b", 4⟩
def listTy : Core.Ty := .decl ⟨"List", 0⟩
def listDecl : Core.TypeDecl :=
  ⟨⟨"List", 0⟩, [⟨⟨"Nil", 0⟩, []⟩, ⟨⟨"Cons", 0⟩, [⟨⟨"x", 0⟩, .prd, .i64⟩, ⟨⟨"xs", 0⟩, .prd, listTy⟩]⟩]⟩
/-- the lifted side: `print x; ⟨x | a⟩` -/
def lifted : Core.FsStmt := .print true x1 (.cut .i64 (.var .prd x1 .i64) (.var .cns a2 .i64))
/-- `⟨ μb.⟨Nil | b⟩ | μ~l. print x; ⟨x | a⟩ ⟩` -/
def body : Core.FsStmt :=
  .cut listTy (.mu .prd b4 listTy (.cut listTy (.xtor .prd ⟨"Nil", 0⟩ [] listTy) (.var .cns b4 listTy)))
    (.mu .cns l3 listTy lifted)
def prog : Core.FsProg :=
  ⟨[⟨⟨"main", 0⟩, [⟨x1, .prd, .i64⟩, ⟨a2, .cns, .i64⟩], body⟩], [listDecl], [], 4⟩
def env : Env := ⟨[listDecl, contInt], [], "main"⟩

example : wtFsCheck prog = true := by decide +kernel
example : wtFsScopedCheck prog = true ∧ uniqueIdsCheck prog = true := by decide +kernel
example : (shrinkProg prog).toOption.map (fun q => q.defs.length) = some 2 := by decide +kernel
example : (shrinkProg prog).toOption.map (fun q => q.defs.all (AxCut.Named.wtDefB q)) = some true := by decide +kernel
-- hypothesis of `C04_lift_free_vars` / `C04_lift_label_fresh`, with the real recursive call
example : (lift env (shrinkStmt env 10) lifted ⟨4, [⟨"main", 0⟩], []⟩).toOption.isSome = true := by decide +kernel
example : RecRel LabelsExt (shrinkStmt env 10) := shrinkStmt_labelsExt env 10
-- a user definition called `lift_main__7` (the label `lift` would draw first): the loop draws again
def prog2 : Core.FsProg :=
  ⟨[⟨⟨"main", 0⟩, [⟨x1, .prd, .i64⟩, ⟨a2, .cns, .i64⟩], body⟩,
    ⟨⟨"lift_main__7", 0⟩, [⟨x1, .prd, .i64⟩], .exit x1⟩], [listDecl], [], 4⟩
example : wtFsCheck prog2 = true := by decide +kernel
example : (prog2.defs.map (·.name.print)).Nodup := by decide +kernel
example : (shrinkProg prog).toOption.map (fun q => q.defs.map (·.name)) =
    some [⟨"main", 0⟩, ⟨"lift_main_", 7⟩] := by decide +kernel
example : (shrinkProg prog2).toOption.map (fun q => q.defs.map (·.name)) =
    some [⟨"main", 0⟩, ⟨"lift_main_", 8⟩, ⟨"lift_main__7", 0⟩] := by decide +kernel
-- the free variables of the lifted statement, in `BTreeSet` order ("a" < "x")
example : tfvStmt lifted [] = [⟨a2, .cns, .i64⟩, ⟨x1, .prd, .i64⟩] := by decide +kernel
example : liftParams 4 (tfvStmt lifted []) = [⟨⟨"a", 5⟩, .cns, .i64⟩, ⟨⟨"x", 6⟩, .prd, .i64⟩] := by decide +kernel
example : UniqueBinders lifted := by
  refine ⟨by decide +kernel, ?_⟩
  intro β hβ; simp [lifted, bindersStmt, bindersTerm] at hβ
example : UniqueBinders body := by
  constructor
  · decide
  · decide

end C04Example

end Scc.Props

#print axioms Scc.Props.C04_no_panic
#print axioms Scc.Props.C04_no_panic_stmt
#print axioms Scc.Props.C04_lift_free_vars
#print axioms Scc.Props.C04_draw_label_terminates
#print axioms Scc.Props.C04_lift_label_fresh
#print axioms Scc.Props.C04_labels_fresh_stmt
#print axioms Scc.Props.C04_labels_fresh_prog
#print axioms Scc.Props.C14_def_labels_distinct
#print axioms Scc.Props.C04_wtAxCheck_sound
