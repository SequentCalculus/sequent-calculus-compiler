/-
  Scc.Props.C01 — property C01 (fixed text): end-to-end correctness for x86-64.  This file: the statement,
  and its composition from the links AS HYPOTHESES, for ASTs.  The theorem without hypotheses on links, for
  source texts, is `C01_end_to_end` (Props/C01End.lean, composed in Props/C01Final.lean).
  "For every well-typed Fun program with a valid `main` (at most five integer parameters, integer
   result) and every argument tuple on which the source semantics terminates, the x86-64 executable
   built from the compiler's output — the routine assembled and linked with the generated C driver and
   I/O runtime — writes exactly the bytes the source semantics prescribes and exits with the low byte
   of the prescribed result, provided the heap is large enough …"

  About THE MODELS: the compiler is `Scc.Pipeline.compileAllX86` (Scc/Pipeline.lean, tied to the real
  driver by byte equality of the routine text), the source semantics is `Scc.Pipeline.srcRun` (the Fun
  machine `Scc.Fun.run` on `Sequenced` programs, the Core ς-machine on the translation otherwise,
  DESIGN §4), the target is the x86-64 machine `Scc.X86.run` ON THE EMITTED TEXT, wrapped in the model
  of the C driver and io.c (`Scc.Pipeline.nativeRun`, runtime model of C20).

  * `C01_statement_full` the property as given (def): every accepted program with a valid `main`.  Nothing is
                         proved about it and it is not refuted formally; the two reasons why it fails: a program that CALLS `main` is mistranslated by fun2core
                         (finding D13, `C12_statement_full_false`: `∃ q5, middleEnd …` holds but S2 is
                         ill-typed and the Core machine is stuck where the Fun machine returns 3), and a
                         program whose names are not `LabelSafe` (C14) is printed with a label defined twice.
  * `C01_statement`      the statement that the composition proves (def): `C01_statement_full` with three
                         DECIDABLE per-program hypotheses, all evaluated by the checks on every accepted
                         program of every run (`Scc.Pipeline.Links.linksLine`):
                           `Scc.Fun.noMainCall p'`  no definition calls `main` (Scc/Fun/MainCall.lean),
                           `C01_linkChecks p'`      (= `C12_linkChecks`) the middle end succeeds and its stages
                                                    pass the executable checks of the C12 typing links
                                                    (S2 is C03's `Input`; S3 `wtFsScopedCheck`; S4 `wtAxCheck`,
                                                    `wfNonLinearCheck`),
                           `C01_labelSafe p'`       `LabelSafe` (Scc/Backend/ProofsNames.lean) of the linearized program.
  * `C01_composition`    THE COMPOSITION THEOREM: `C01_statement` follows from TWO named hypotheses, one per
                         semantic link stated here as a `def`, each restricted to the programs of the
                         statement (accepted, valid `main` that is not called, `C01_linkChecks`):
                           `C01_link_fun2core_sem`  fun2core (C02, semantics): on `Sequenced` programs a run of
                                                    the Fun machine that ends with a result is reproduced by the
                                                    Core ς-machine on the translation (the FORWARD half of
                                                    `C02_sem_statement`, results only; open in this form, proved
                                                    with the name conditions of source texts as
                                                    `C01_gap_fun2core_holds`, Props/C01End.lean)
                           `C01_link_x86`           x86-64 (C06): a run of the positional AxCut machine on S5
                                                    that ends with a result is reproduced by the x86-64 machine on
                                                    the routine TEXT (`X86.C06_statement` restricted to `LabelSafe`
                                                    S5 of the pipeline; with the heap bound explicit:
                                                    `C01_gap_x86_holds`, Props/C01End.lean)
                         (`C01_link_fun2core_sem_of_C02`, `C01_link_x86_of_C06`: the unrestricted statements
                         imply them; `C02_sem_statement_false`: the unrestricted C02 statement is FALSE, D13.)
                         `C01_composition_frag`: for the programs of the decidable fragment `C01_fragChecks`
                         (`Fun2Core.Sem.fragOk`: integers, data / `case`, labels, calls, codata in the restricted form described in
                         Props/C02Sem.lean) fun2core's
                         forward semantics IS a theorem (`C02_sem_forward_frag`, Props/C02Sem.lean, applied in
                         the shape `C02_sem_forward_link`) and the end-to-end conclusion follows from
                         `C01_link_x86` ALONE.
                         `C01_from_core` / `C01_composition_unsequenced`: from the Core program S2 on — in
                         particular for every program outside the fragment `Sequenced` — the conclusion needs
                         `C01_link_x86` ONLY.  `C01_x86_run_of_abs`: Theorem A (`TheoremA_run_static`, a theorem)
                         turns the x86-64 link, for programs within its (decidable) capacity conditions, into
                         `C01_link_x86_abs` (abstract backend machine on the mock code ⟶ x86-64 text), which is
                         a hypothesis there and is proved nowhere in this shape: the x86-64 link of
                         `C01_end_to_end` is `C01_gap_x86_holds` (Props/C01End.lean).
                         `C01_x86_run_int`: for INTEGER programs (`C06Generic.IntProg`) the conclusion of
                         `C01_link_x86` is a theorem (`X86.C06_int_programs_text`) under
                         Theorem A's static capacity condition, given that the routine's text loads (`X86.TextLoads routine`).
                         EVERY other link is a theorem and is used as such:
                           C15 `C15_sound`; C03 `C03_focus_sem_panicFree` (ς-machine on S2 ≈ focused machine on
                           S3; `focusPanicFree` is read off `stages p' = ok`), `C03_unique_binders_global`
                           (⇒ `uniqueIdsCheck`, `idsBoundedCheck`: Scc/Pipeline/Bridges.lean); C04 `C04_sem_strong`
                           (focused machine on S3 ≈ named AxCut machine on S4; `mainIntParams` and "`main` first"
                           from `stages_mainHead`), `shrinkProg_noEnvAnn`; C05 `C05_linearize_LinTyped`,
                           `C05_sem_strong` (named machine on S4 ≈ positional machine on S5); the three are read on
                           the common observable `Obs` and composed by transitivity (Props/ObsChain.lean,
                           `C01_middle_same`); C20 `C20_current_full`
                           (io.c prints the decimal representation of every value, the driver converts every
                           argument), `exitStatus_eq`.
                         `C03_statement` and `C04_full_statement` are FALSE (`C03_statement_refuted`,
                         `C04_full_statement_false`) and are not used; of the typing links `C12_link_*` only the
                         per-program predicate is used.
  * `C01_int_fragment`   END TO END WITH NO HYPOTHESIS LEFT, for the programs that pass two more decidable checks:
                         `C01_fragChecks` (fun2core's fragment) and `C01_intChecks` (the linearized program is an
                         integer program — `lit op print ifc exit call subst`, all variables integers — within
                         range and capacity, and the text of its routine loads): there the x86-64 link is a theorem
                         too (`C01_x86_int`: Theorem A ∘ Theorem B, `X86.C06_int_programs_text`; the static
                         capacity bound `capacity_static`; the loader round trip evaluated on the routine).
                         `C01_int_from_core`: the same from the Core program on, for any source program.
                         (19 of the 234 corpus programs with a valid `main` are in this fragment: tag `frag int`
                         of the `links` driver.)
  * `C01_middle`         UNCONDITIONAL (no semantic hypothesis, no link): for every accepted program with a
                         valid `main` and `C01_linkChecks`, the Core ς-machine on S2 and the positional AxCut
                         machine on S5 have the same runs that end with a result (same trace, same value, both
                         directions; an arithmetic fault of the positional machine is a stuck run of the Core
                         machine with the same trace), and — Theorem A, `C06Generic.TheoremA_run_static` — the abstract
                         backend machine on the mock code of S5 reproduces every such run (capacity conditions
                         of Theorem A, all decidable on the program: `LabelSafe`, `CodeFits`,
                         `ProgWithinCapacity` — the hypothesis of `TheoremA_run` on all contexts of a run is
                         DERIVED from this static check, Scc/AxCut/PosCapacity.lean, Props/C06Capacity.lean —
                         and fewer than 2^64 steps).
                         `C01_middle_same` says more: S2 and S5 are related by all four clauses of
                         `C02_ObsSame` (arithmetic faults in both directions, and the traces of unfinished runs).
-/
import Scc.Props.C12
import Scc.Props.C01Checks
import Scc.Props.C02Sem
import Scc.Props.C04Sem
import Scc.Props.ObsChain
import Scc.Props.C06Generic
import Scc.Props.C06Capacity
import Scc.Props.C06X86
import Scc.Props.C14Loader
import Scc.Props.C20Full
import Scc.Backend.SideConds

namespace Scc.Props

open Scc.Pipeline
open Scc.Fun.Check (checkProgram programNamesOk)
open Scc.Props.C14Generic (LabelSafe)

def ObsFinished : ObsRes → Prop
  | .done _ => True
  | .stuck w => w = "divByZero" ∨ w = "overflow"
  | .outOfFuel => False

/-- same observable behaviour of two fuel-indexed runs: every finished run of one is matched by a
    run of the other with the same trace and the same outcome, and for the other runs every finite
    trace of one is a prefix of a trace of the other -/
def ObsSame (r1 r2 : Nat → Obs) : Prop :=
  (∀ n, ObsFinished (r1 n).res → ∃ m, r2 m = r1 n) ∧
  (∀ m, ObsFinished (r2 m).res → ∃ n, r1 n = r2 m) ∧
  (∀ n, ∃ m, (r1 n).out <+: (r2 m).out) ∧ (∀ m, ∃ n, (r2 m).out <+: (r1 n).out)

def DoneSame (r1 r2 : Nat → Obs) : Prop :=
  ∀ t v, (∃ n, r1 n = ⟨t, .done v⟩) ↔ (∃ m, r2 m = ⟨t, .done v⟩)

/-- C02 (semantics), as given: for every accepted program in the fragment `Sequenced` (arguments of
    calls, constructors, destructors and operators and codata-typed bound terms are pure) the Core
    program produced by the translation has, on the Core ς-machine, the same output and result as the
    source program on the Fun machine.
    NOT a hypothesis of the composition: it is false for a program that calls `main`
    (finding D13; on `C12_d13Src` with argument 3 the Fun machine returns 3, the Core machine is stuck:
    `arity`).  The composition assumes `C01_link_fun2core_sem` below.
    The body is that of `C02_sem_statement_as_given` (Props/C02Sem.lean) with this file's `ObsSame` for
    `C02_ObsSame` (`ObsSame_iff`); the text of C01 refers to the statement under this name, the text of C02
    under the other. -/
def C02_sem_statement : Prop :=
  ∀ (p : Fun.Program) (p' : Fun.CheckedProgram) (q2 : Core.Prog),
    programNamesOk p = true → checkProgram p = .ok p' → Fun.Sequenced p' = true →
    Fun2Core.compileProg p' = .ok q2 →
    ∀ args : List Word,
      ObsSame (fun n => ofFun (Fun.run p' args n)) (fun n => ofCore (Core.run q2 args n))

/-- "given enough heap, with some fuel": there is a heap size such that on EVERY sane configuration of
    the x86-64 machine with that heap size — `X86.Ref.MachOK` (Scc/X86/RefInit.lean): the heap lies below
    the stack, addresses stay below 2^63, the stack top is 16-aligned (System V) and the stack has room
    for the routine's frame; the default `{}` is one (`machOK_default`) — and the heap monitor off,
    `P cfg m` holds for some fuel `m`.
    (Quantifying over ALL configurations with that heap size would include ones without a stack, on
    which every routine faults; the fuel is chosen after the configuration.)
    NOTE on the witness: a heap size that no sane configuration has (`heapBase + heapBytes > stackLow`
    for every layout below 2^63) makes the inner statement vacuous.  That is the only way the
    property can hold for a (mathematically) terminating run whose heap demand exceeds the 64-bit
    address space; a proof of a link must not use it otherwise — the proved instances (`C01_x86_int`)
    choose the driver's 32 MiB, for which the default configuration `{}` qualifies. -/
def C01_onMachines (P : X86.MonCfg → Nat → Prop) : Prop :=
  ∃ heapBytes : Nat, ∀ cfg : X86.MonCfg, cfg.mach.heapBytes = heapBytes → X86.Ref.MachOK cfg.mach →
    cfg.heap = false → ∃ m, P cfg m

theorem C01_onMachines.mono {P Q : X86.MonCfg → Nat → Prop} (h : C01_onMachines P)
    (hpq : ∀ cfg m, cfg.heap = false → P cfg m → Q cfg m) : C01_onMachines Q := by
  obtain ⟨hb, h⟩ := h
  refine ⟨hb, fun cfg h1 h2 h3 => ?_⟩
  obtain ⟨m, hm⟩ := h cfg h1 h2 h3
  exact ⟨m, hpq cfg m h3 hm⟩

/-- the conclusion of C01 for one checked program:
    the middle end (S2 … S5) does not fail; and whenever the x86-64 code generator produces a routine
    (it may stop with the capacity error) the reported number of arguments is the arity of `main`, and
    for every argument tuple on which the source semantics finishes with result `v` and trace `t`
    there are a fuel and a heap size such that the x86-64 machine on the routine TEXT finishes without
    fault with the same trace and result `v`; hence (C20) the linked binary started as
    `prog a1 … an` writes exactly the decimal rendering of `t` and exits with status `v mod 256`. -/
def C01_conclusion (p' : Fun.CheckedProgram) : Prop :=
  (∃ q5, middleEnd p' = .ok q5) ∧
  ∀ (hooks : Bool) (nargs : Nat) (text : String),
    compileAllX86 hooks 0 p' = .ok (nargs, text) →
    nargs = mainArity p' ∧
    ∀ (args : List Word) (n : Nat) (t : List (Bool × Word)) (v : Word),
      srcRun p' args n = ⟨t, .done v⟩ →
      args.length = nargs ∧
      C01_onMachines fun cfg m =>
        (X86.run text args m cfg).out = t ∧ (X86.run text args m cfg).res = .done v ∧
        nativeRun text nargs (argvOf args) m cfg = some (renderTrace t, Runtime.exitStatus v.toInt)

/-- C01 as given: for EVERY program accepted by the checker with a valid `main`.  No theorem proves or refutes it;
    it fails on a program that calls `main` (finding D13, `C12_statement_full_false`) and on label-unsafe names (the
    collision witnesses of C14, `C14_statement_false`). -/
def C01_statement_full : Prop :=
  ∀ (p : Fun.Program) (p' : Fun.CheckedProgram),
    programNamesOk p = true → checkProgram p = .ok p' → validMain p' = true → C01_conclusion p'

/-- C01 for every accepted program with a valid `main` that is not called, whose stages pass the
    executable typing checks and whose linearized program has label-safe names (three decidable
    predicates, evaluated on every program of every run) -/
def C01_statement : Prop :=
  ∀ (p : Fun.Program) (p' : Fun.CheckedProgram),
    programNamesOk p = true → checkProgram p = .ok p' → validMain p' = true →
    Fun.noMainCall p' = true → C01_linkChecks p' = true → C01_labelSafe p' = true →
    C01_conclusion p'

/-- fun2core, semantics (forward, results): for an accepted `Sequenced` program with a valid `main`
    that is not called and whose stages pass the checks, every run of the Fun machine that ends with a
    result is reproduced — same trace, same result — by the Core ς-machine on the translation. -/
def C01_link_fun2core_sem : Prop :=
  ∀ (p : Fun.Program) (p' : Fun.CheckedProgram) (q2 : Core.Prog),
    programNamesOk p = true → checkProgram p = .ok p' → validMain p' = true →
    Fun.noMainCall p' = true → C01_linkChecks p' = true → Fun.Sequenced p' = true →
    Fun2Core.compileProg p' = .ok q2 →
    ∀ (args : List Word) (n : Nat) (t : List (Bool × Word)) (v : Word),
      ofFun (Fun.run p' args n) = ⟨t, .done v⟩ → ∃ m, ofCore (Core.run q2 args m) = ⟨t, .done v⟩

/-- the x86-64 link AT ONE PROGRAM: on the linearized program of the compilation of `p'`, if its names
    are label-safe, every run of the positional AxCut machine that ends with a result is reproduced
    by the x86-64 machine on the printed routine, given enough fuel and heap. -/
def C01_link_x86_at (p' : Fun.CheckedProgram) : Prop :=
  ∀ (st : Stages), stages p' = .ok st → LabelSafe st.s5 = true → AxCut.LinTypedProg st.s5 →
    ∀ (args : List Word) (hooks : Bool) (body routine : List X86.Code) (nargs : Nat),
      X86.compileX86 st.s5 hooks 0 = .ok (body, nargs) → X86.intoRoutine body nargs = .ok routine →
      ∀ (fuel : Nat) (t : List (Bool × Word)) (v : Word),
        AxCut.Pos.run st.s5 args fuel = ⟨t, .done v⟩ →
        C01_onMachines fun cfg fuel' =>
          (X86.run (X86.printProg routine) args fuel' cfg).out = t ∧
          (X86.run (X86.printProg routine) args fuel' cfg).res = .done v

/-- x86-64 code generation (C06): `C01_link_x86_at` for every program of the statement (accepted,
    valid `main` that is not called, `C01_linkChecks`). -/
def C01_link_x86 : Prop :=
  ∀ (p : Fun.Program) (p' : Fun.CheckedProgram),
    programNamesOk p = true → checkProgram p = .ok p' → validMain p' = true →
    Fun.noMainCall p' = true → C01_linkChecks p' = true → C01_link_x86_at p'

/-- the forward half of `ObsSame` (clause 1), restricted like the link, implies the link -/
theorem C01_link_fun2core_sem_of_forward
    (h : ∀ (p : Fun.Program) (p' : Fun.CheckedProgram) (q2 : Core.Prog),
      programNamesOk p = true → checkProgram p = .ok p' → validMain p' = true →
      Fun.noMainCall p' = true → C01_linkChecks p' = true → Fun.Sequenced p' = true →
      Fun2Core.compileProg p' = .ok q2 →
      ∀ (args : List Word) (n : Nat), ObsFinished (ofFun (Fun.run p' args n)).res →
        ∃ m, ofCore (Core.run q2 args m) = ofFun (Fun.run p' args n)) :
    C01_link_fun2core_sem := by
  intro p p' q2 hn hc hv hmc hlc hseq e2 args n t v hrun
  obtain ⟨m, hm⟩ := h p p' q2 hn hc hv hmc hlc hseq e2 args n (by rw [hrun]; trivial)
  exact ⟨m, by rw [hm, hrun]⟩

theorem C01_link_fun2core_sem_of_C02 (h : C02_sem_statement) : C01_link_fun2core_sem :=
  C01_link_fun2core_sem_of_forward fun p p' q2 hn hc _ _ _ hseq e2 args n hfin =>
    (h p p' q2 hn hc hseq e2 args).1 n hfin

theorem C01_link_x86_of_C06 (h : X86.C06_statement) : C01_link_x86 := by
  intro p p' _ _ _ _ _ st _ _ hlin args hooks body routine nargs hcomp hinto fuel t v hrun
  obtain ⟨m, hb, hE⟩ := h st.s5 args hooks body routine nargs hlin hcomp hinto fuel v (by rw [hrun])
  refine ⟨hb, fun cfg h1 _ h2 => ⟨m, ?_⟩⟩
  have := hE cfg h1 h2
  rw [hrun] at this
  exact this

theorem ofCore_done {b : Core.Behaviour} {t : List (Bool × Word)} {v : Word}
    (h : ofCore b = ⟨t, .done v⟩) : b = ⟨t, .done v⟩ := by
  obtain ⟨out, res⟩ := b
  cases res <;> simp_all [ofCore]

/-- C20 ⇒ the runtime calls of a trace write its decimal rendering -/
theorem traceBytes_eq_render (t : List (Bool × Word)) : traceBytes t = some (renderTrace t) := by
  induction t with
  | nil => rfl
  | cons a r ih =>
    obtain ⟨nl, v⟩ := a
    have hv := C20_current_full.1 v
    cases nl
    · simp [traceBytes, renderTrace, hv.1, ih] at *
    · simp [traceBytes, renderTrace, hv.2, ih] at *

/-- C20 ⇒ the driver hands every integer argument to `asm_main` unchanged -/
theorem argv_roundtrip (args : List Word) :
    ((argvOf args).drop 1).map (fun s => BitVec.ofInt 64 (Runtime.argToParamCur s)) = args := by
  simp only [argvOf, List.drop_succ_cons, List.drop_zero, List.map_map]
  conv => rhs; rw [← List.map_id args]
  apply List.map_congr_left
  intro a _
  have h1 := BitVec.le_toInt a
  have h2 := BitVec.toInt_lt (x := a)
  simp only [Function.comp_apply, id_eq]
  rw [C20_current_full.2 a.toInt (by omega) (by omega), BitVec.ofInt_toInt]

theorem compileX86_nargs {q5 : AxCut.Prog} {hooks : Bool} {c : Nat} {body : List X86.Code} {nargs : Nat}
    (h : X86.compileX86 q5 hooks c = .ok (body, nargs)) :
    ∃ d ds, q5.defs = d :: ds ∧ nargs = d.ctx.length := by
  unfold X86.compileX86 at h
  split at h
  · cases h
  · rename_i r c' hr
    cases h
    exact Backend.compile_nargs_cons hr

/-- `C12_mainArity_le` -/
theorem mainArity_le_five {p' : Fun.CheckedProgram} (hv : validMain p' = true) : mainArity p' ≤ 5 :=
  C12_mainArity_le hv

theorem pos_run_done_arity {q5 : AxCut.Prog} {d : AxCut.Def} {ds : List AxCut.Def} {args : List Word}
    {n : Nat} {t : List (Bool × Word)} {v : Word} (hd : q5.defs = d :: ds)
    (h : AxCut.Pos.run q5 args n = ⟨t, .done v⟩) : args.length = d.ctx.length := by
  apply Classical.byContradiction
  intro hne
  have : AxCut.Pos.run q5 args n = ⟨[], .stuck (.shape "entry-arity")⟩ := by
    unfold AxCut.Pos.run
    rw [hd]
    simp only
    rw [if_pos]
    exact fun h => hne h.symm
  rw [this] at h
  cases h

theorem ObsSame_iff {r1 r2 : Nat → Obs} : ObsSame r1 r2 ↔ C02_ObsSame r1 r2 := by
  have hf : ∀ r, ObsFinished r ↔ C02_ObsFinished r := fun r => by cases r <;> rfl
  simp only [ObsSame, C02_ObsSame, hf]

/-- **`C02_sem_statement` is false** (finding D13): it is `C02_sem_statement_as_given` of Props/C02Sem.lean,
    refuted there on a program whose `main` calls itself -/
theorem C02_sem_statement_false : ¬ C02_sem_statement := fun h =>
  C02_sem_statement_as_given_false fun p p' q2 hn hc hseq e2 args => ObsSame_iff.1 (h p p' q2 hn hc hseq e2 args)

section middle

variable {p : Fun.Program} {p' : Fun.CheckedProgram} {st : Stages}

/-- **the middle of the pipeline preserves the observable behaviour**: the Core ς-machine on S2 and the
    positional AxCut machine on S5 are related by all four clauses of `C02_ObsSame` — the three links
    C03 (`ObsEq`), C04 (`StrongSame`), C05 (`LinStrongSame`) read on `Obs` and composed by transitivity -/
theorem C01_middle_same (F : C12_Facts p p' st) (hv : validMain p' = true) (args : List Word) :
    C02_ObsSame (fun n => ofCore (Core.run st.s2 args n)) (fun n => ofPos (AxCut.Pos.run st.s5 args n)) := by
  obtain ⟨_, ⟨d3, ds3, hd3, hname3, _, _⟩, ⟨d4, ds4, hd4, _, hint4⟩, _⟩ :=
    stages_mainHead (validMainK_of_validMain hv) F.ok
  have h3 := (C03_focus_sem_panicFree st.s2 F.input2 F.panicFree2 args).same
  have h4 := (C04_sem_strong st.s3 st.s4 args F.scoped3 F.uniqueIds3 F.idsBounded3 F.mainInt3
    ⟨d3, ds3, hd3, hname3⟩ F.s4ok).same
  have h5 := (C05.C05_sem_strong st.s4 st.s5 args F.wf4 F.noEnv4
    (fun d hd => by rw [hd4] at hd; cases hd; exact hint4) F.s5ok).same
  rw [← F.s3eq] at h3
  simp only [coreFsRun, ofNamed_coreBehaviour] at h4
  exact h3.trans (h4.trans h5)

theorem ofPos_done {b : AxCut.Pos.Behaviour} {t : List (Bool × Word)} {v : Word}
    (h : ofPos b = ⟨t, .done v⟩) : b = ⟨t, .done v⟩ := by
  obtain ⟨out, res⟩ := b
  cases res <;> simp_all [ofPos]

theorem C01_middle_forward (F : C12_Facts p p' st) (hv : validMain p' = true) {args : List Word}
    {n2 : Nat} {t : List (Bool × Word)} {v : Word} (hA : Core.run st.s2 args n2 = ⟨t, .done v⟩) :
    ∃ n5, AxCut.Pos.run st.s5 args n5 = ⟨t, .done v⟩ := by
  obtain ⟨n5, h⟩ := (C01_middle_same F hv args).done (n := n2) (t := t) (v := v) (by simp only [hA]; rfl)
  exact ⟨n5, ofPos_done h⟩

theorem C01_middle_backward (F : C12_Facts p p' st) (hv : validMain p' = true) {args : List Word}
    {n5 : Nat} {t : List (Bool × Word)} {v : Word} (hD : AxCut.Pos.run st.s5 args n5 = ⟨t, .done v⟩) :
    ∃ n2, Core.run st.s2 args n2 = ⟨t, .done v⟩ := by
  obtain ⟨n2, h⟩ := (C01_middle_same F hv args).symm.done (n := n5) (t := t) (v := v) (by simp only [hD]; rfl)
  exact ⟨n2, ofCore_done h⟩

/-- backward, arithmetic faults: a run of the positional machine on S5 that stops with a division
    by zero or an overflow is a stuck run of the Core ς-machine on S2 with the same trace -/
theorem C01_middle_backward_fault (F : C12_Facts p p' st) (hv : validMain p' = true)
    {args : List Word} {n5 : Nat} {t : List (Bool × Word)} {w : AxCut.Pos.Why}
    (hD : AxCut.Pos.run st.s5 args n5 = ⟨t, .stuck w⟩) (hw : w = .divByZero ∨ w = .overflow) :
    ∃ n2 w', Core.run st.s2 args n2 = ⟨t, .stuck w'⟩ := by
  obtain ⟨n2, h⟩ := (C01_middle_same F hv args).2.1 n5 (by
    simp only [hD, ofPos]; rcases hw with rfl | rfl <;> simp [C02_ObsFinished, AxCut.Pos.Why.render])
  simp only [hD] at h
  refine ⟨n2, ?_⟩
  cases hb : Core.run st.s2 args n2 with
  | mk out res =>
    rw [hb] at h
    cases res <;> simp [ofCore, ofPos] at h
    exact ⟨_, by rw [h.1]⟩

end middle

open Scc.Props.C06Generic (CodeFits ProgWithinCapacity) in
/-- **C01_middle** — UNCONDITIONAL: no semantic hypothesis, no link.  For every accepted program with
    a valid `main` whose stages pass the decidable predicate `C01_linkChecks`:
    (1) the Core ς-machine on S2 and the positional AxCut machine on S5 have the same runs that end
        with a result: same trace, same value, in both directions (C03 ∘ C04 ∘ C05, all theorems);
    (2) a run of the positional machine that stops with an arithmetic fault is a stuck run of the
        Core machine with the same trace;
    (3) Theorem A: on the code that the generic code generator produces for S5 with the mock backend
        (any hook setting, any label counter), the abstract backend machine started at the label of
        the first definition reproduces every run of S5 that ends with a result — provided the names
        are label-safe, the code fits the address space, the contexts of S5 fit the numbering of
        temporaries (`ProgWithinCapacity`, = `C01_capacity p'`) and the run is shorter than 2^64 steps
        (the capacity conditions of `TheoremA_run_static`, all DECIDABLE on the program). -/
theorem C01_middle (p : Fun.Program) (p' : Fun.CheckedProgram)
    (hn : programNamesOk p = true) (hc : checkProgram p = .ok p') (hv : validMain p' = true)
    (hlc : C01_linkChecks p' = true) :
    ∃ st : Stages, stages p' = .ok st ∧
      (∀ (args : List Word) (t : List (Bool × Word)) (v : Word),
        (∃ n, Core.run st.s2 args n = ⟨t, .done v⟩) ↔
        (∃ m, AxCut.Pos.run st.s5 args m = ⟨t, .done v⟩)) ∧
      (∀ (args : List Word) (m : Nat) (t : List (Bool × Word)) (w : AxCut.Pos.Why),
        AxCut.Pos.run st.s5 args m = ⟨t, .stuck w⟩ → w = .divByZero ∨ w = .overflow →
        ∃ n w', Core.run st.s2 args n = ⟨t, .stuck w'⟩) ∧
      ∃ d0 ds, st.s5.defs = d0 :: ds ∧ d0.ctx.length = mainArity p' ∧
        ∀ (hooks : Bool) (c : Nat) (code : List Backend.MockOp) (nargs c' : Nat),
          (Backend.compile Backend.mockSym hooks st.s5).run c = .ok ((code, nargs), c') →
          LabelSafe st.s5 = true → CodeFits code → ProgWithinCapacity st.s5 = true →
          ∀ (args : List Word) (m : Nat) (t : List (Bool × Word)) (v : Word),
            AxCut.Pos.run st.s5 args m = ⟨t, .done v⟩ → m + 1 < 2 ^ 64 →
            ∃ f, Backend.Abs.run code (d0.name.print ++ "_") args f = ⟨t, .done v⟩ := by
  obtain ⟨st, F⟩ := C12_facts_of_checks p p' hn hc hv hlc
  obtain ⟨_, _, _, m5⟩ := stages_mainHead (validMainK_of_validMain hv) F.ok
  obtain ⟨d5, ds5, hd5, hk5, hint5⟩ := m5
  refine ⟨st, F.ok, ?_, ?_, d5, ds5, hd5, hk5, ?_⟩
  · intro args t v
    exact ⟨fun ⟨n, h⟩ => C01_middle_forward F hv h, fun ⟨m, h⟩ => C01_middle_backward F hv h⟩
  · intro args m t w h hw
    exact C01_middle_backward_fault F hv h hw
  · intro hooks c code nargs c' hcomp hsafe hfit hcap args m t v hrun hfuel
    exact C06Generic.TheoremA_run_static hooks st.s5 c code nargs c' d5 args m t v hcomp hsafe F.lin5
      hfit (by rw [hd5]; rfl) hint5 hcap hfuel hrun

/-- (1) of `C01_middle` in the vocabulary of the common observable -/
theorem C01_middle_obs (p : Fun.Program) (p' : Fun.CheckedProgram)
    (hn : programNamesOk p = true) (hc : checkProgram p = .ok p') (hv : validMain p' = true)
    (hlc : C01_linkChecks p' = true) :
    ∃ st : Stages, stages p' = .ok st ∧
      ∀ args : List Word, DoneSame (fun n => ofCore (Core.run st.s2 args n))
        (fun n => ofPos (AxCut.Pos.run st.s5 args n)) := by
  obtain ⟨st, hok, h1, _⟩ := C01_middle p p' hn hc hv hlc
  refine ⟨st, hok, fun args t v => ?_⟩
  constructor
  · rintro ⟨n, h⟩
    obtain ⟨m, hm⟩ := (h1 args t v).1 ⟨n, ofCore_done h⟩
    exact ⟨m, by simp [hm, ofPos]⟩
  · rintro ⟨m, h⟩
    obtain ⟨n, hn'⟩ := (h1 args t v).2 ⟨m, ofPos_done h⟩
    exact ⟨n, by simp [hn', ofCore]⟩

/-- the conclusion of C01 with the Core ς-machine on S2 as the source semantics (what `srcRun` is on
    programs outside the fragment `Sequenced`) -/
def C01_conclusion_core (p' : Fun.CheckedProgram) (st : Stages) : Prop :=
  ∀ (hooks : Bool) (nargs : Nat) (text : String),
    compileAllX86 hooks 0 p' = .ok (nargs, text) →
    nargs = mainArity p' ∧
    ∀ (args : List Word) (n : Nat) (t : List (Bool × Word)) (v : Word),
      Core.run st.s2 args n = ⟨t, .done v⟩ →
      args.length = nargs ∧
      C01_onMachines fun cfg m =>
        (X86.run text args m cfg).out = t ∧ (X86.run text args m cfg).res = .done v ∧
        nativeRun text nargs (argvOf args) m cfg = some (renderTrace t, Runtime.exitStatus v.toInt)

/-! ### the composition, once

`W n5 P` reads "on the machines in question, `P cfg m` holds for some fuel `m`", where `n5` is the number of steps
of the positional machine on S5: `C01_onMachines` (above) does not look at `n5`; the heap version of
Props/C01Final.lean asks for `C01_heapBound n5` bytes of heap.  Only the monotonicity of `W` is used. -/

section compose

variable {p : Fun.Program} {p' : Fun.CheckedProgram} {st : Stages}

/-- **THE COMPOSITION from the Core program on**: C03, C04, C05 (`C01_middle_forward`) and C20 are theorems; ONE
    hypothesis, the x86-64 link at S5 of this program, for the machines `W`. -/
theorem C01_from_core_gen {W : Nat → (X86.MonCfg → Nat → Prop) → Prop}
    (Wmono : ∀ {n : Nat} {P Q : X86.MonCfg → Nat → Prop}, W n P → (∀ cfg m, P cfg m → Q cfg m) → W n Q)
    (F : C12_Facts p p' st) (hv : validMain p' = true)
    (h6 : ∀ (args : List Word) (hooks : Bool) (body routine : List X86.Code) (nargs : Nat),
      X86.compileX86 st.s5 hooks 0 = .ok (body, nargs) → X86.intoRoutine body nargs = .ok routine →
      ∀ (fuel : Nat) (t : List (Bool × Word)) (v : Word), AxCut.Pos.run st.s5 args fuel = ⟨t, .done v⟩ →
        W fuel fun cfg m => (X86.run (X86.printProg routine) args m cfg).out = t ∧
          (X86.run (X86.printProg routine) args m cfg).res = .done v)
    (hooks : Bool) (nargs : Nat) (text : String) (hall : compileAllX86 hooks 0 p' = .ok (nargs, text)) :
    nargs = mainArity p' ∧
    ∀ (args : List Word) (n : Nat) (t : List (Bool × Word)) (v : Word),
      Core.run st.s2 args n = ⟨t, .done v⟩ →
      args.length = nargs ∧ ∃ n5, AxCut.Pos.run st.s5 args n5 = ⟨t, .done v⟩ ∧
        W n5 fun cfg m => (X86.run text args m cfg).out = t ∧ (X86.run text args m cfg).res = .done v ∧
          nativeRun text nargs (argvOf args) m cfg = some (renderTrace t, Runtime.exitStatus v.toInt) := by
  obtain ⟨_, _, _, m5⟩ := stages_mainHead (validMainK_of_validMain hv) F.ok
  obtain ⟨q5, hme, hbe⟩ := compileAllX86_ok_iff.1 hall
  obtain ⟨st', hst', rfl⟩ := middleEnd_ok_iff.1 hme
  rw [F.ok] at hst'
  injection hst' with hst'
  subst hst'
  obtain ⟨body, routine, hcomp, hinto, rfl⟩ := backEndX86_ok_iff.1 hbe
  obtain ⟨d5, ds5, hd5, hk5, _⟩ := m5
  obtain ⟨d5', ds5', hd5', hnargs⟩ := compileX86_nargs hcomp
  rw [hd5] at hd5'
  injection hd5' with e1 e2
  subst e1
  refine ⟨by rw [hnargs, hk5], fun args n2 t v hA => ?_⟩
  -- C03, C04, C05
  obtain ⟨n5, hD⟩ := C01_middle_forward F hv hA
  -- the positional machine ran, so the arity matches
  have hlen : args.length = nargs := by rw [hnargs]; exact pos_run_done_arity hd5 hD
  refine ⟨hlen, n5, hD, Wmono (h6 args hooks body routine nargs hcomp hinto n5 t v hD) ?_⟩
  intro cfg m ⟨hout, hres⟩
  refine ⟨hout, hres, ?_⟩
  -- C20: the C driver and io.c around the routine
  unfold nativeRun
  have hargv : (argvOf args).length = 1 + nargs := by simp [argvOf, hlen]; omega
  rw [if_neg (by omega)]
  simp only [argv_roundtrip, hres, hout, traceBytes_eq_render]

/-- source semantics ⟶ Core ς-machine on S2, given the forward semantics of fun2core at this program (outside
    the fragment `Sequenced` the source semantics IS the Core machine on S2) -/
theorem C01_src_to_core (F : C12_Facts p p' st)
    (h2 : Fun.Sequenced p' = true → ∀ (args : List Word) (n : Nat) (t : List (Bool × Word)) (v : Word),
      ofFun (Fun.run p' args n) = ⟨t, .done v⟩ → ∃ m, ofCore (Core.run st.s2 args m) = ⟨t, .done v⟩)
    {args : List Word} {n : Nat} {t : List (Bool × Word)} {v : Word}
    (hsrc : srcRun p' args n = ⟨t, .done v⟩) : ∃ n2, Core.run st.s2 args n2 = ⟨t, .done v⟩ := by
  unfold srcRun at hsrc
  by_cases hseq : Fun.Sequenced p' = true
  · rw [if_pos hseq] at hsrc
    obtain ⟨m, hm⟩ := h2 hseq args n t v hsrc
    exact ⟨m, ofCore_done hm⟩
  · rw [if_neg hseq, F.s2ok] at hsrc
    exact ⟨n, ofCore_done hsrc⟩

/-- the step from the source semantics to the Core program, for any conclusion `X` about one run: what holds of
    every run of the Core ς-machine on S2 that ends with a result holds of every such run of the source semantics -/
theorem C01_compose_gen (F : C12_Facts p p' st)
    (h2 : Fun.Sequenced p' = true → ∀ (args : List Word) (n : Nat) (t : List (Bool × Word)) (v : Word),
      ofFun (Fun.run p' args n) = ⟨t, .done v⟩ → ∃ m, ofCore (Core.run st.s2 args m) = ⟨t, .done v⟩)
    {X : Bool → Nat → String → List Word → List (Bool × Word) → Word → Prop}
    (hcore : ∀ (hooks : Bool) (nargs : Nat) (text : String), compileAllX86 hooks 0 p' = .ok (nargs, text) →
      nargs = mainArity p' ∧ ∀ (args : List Word) (n : Nat) (t : List (Bool × Word)) (v : Word),
        Core.run st.s2 args n = ⟨t, .done v⟩ → X hooks nargs text args t v)
    (hooks : Bool) (nargs : Nat) (text : String) (hall : compileAllX86 hooks 0 p' = .ok (nargs, text)) :
    nargs = mainArity p' ∧ ∀ (args : List Word) (n : Nat) (t : List (Bool × Word)) (v : Word),
      srcRun p' args n = ⟨t, .done v⟩ → X hooks nargs text args t v := by
  obtain ⟨hnk, hruns⟩ := hcore hooks nargs text hall
  refine ⟨hnk, fun args n t v hsrc => ?_⟩
  obtain ⟨n2, hA⟩ := C01_src_to_core F h2 hsrc
  exact hruns args n2 t v hA

/-- **THE COMPOSITION from the source on**, for ONE program: from the conclusion at the Core program and the forward
    semantics of fun2core at this program -/
theorem C01_compose (F : C12_Facts p p' st) (hcore : C01_conclusion_core p' st)
    (h2 : Fun.Sequenced p' = true → ∀ (args : List Word) (n : Nat) (t : List (Bool × Word)) (v : Word),
      ofFun (Fun.run p' args n) = ⟨t, .done v⟩ → ∃ m, ofCore (Core.run st.s2 args m) = ⟨t, .done v⟩) :
    C01_conclusion p' :=
  ⟨⟨st.s5, middleEnd_ok_iff.2 ⟨st, F.ok, rfl⟩⟩, C01_compose_gen F h2 hcore⟩

end compose

/-- **from the Core program on**: ONE hypothesis, the x86-64 link at this program.  For every program
    of `C01_statement`, every run of the Core ς-machine on S2 that ends with a result is reproduced by
    the x86-64 machine on the routine text and by the linked binary (C03, C04, C05, C20: theorems). -/
theorem C01_from_core (p : Fun.Program) (p' : Fun.CheckedProgram) (h6 : C01_link_x86_at p')
    (hn : programNamesOk p = true) (hc : checkProgram p = .ok p') (hv : validMain p' = true)
    (hlc : C01_linkChecks p' = true)
    (hls : C01_labelSafe p' = true) :
    ∃ st, C12_Facts p p' st ∧ C01_conclusion_core p' st := by
  obtain ⟨st, F⟩ := C12_facts_of_checks p p' hn hc hv hlc
  have hsafe : LabelSafe st.s5 = true := by
    unfold C01_labelSafe at hls
    rw [F.ok] at hls
    exact hls
  refine ⟨st, F, fun hooks nargs text hall => ?_⟩
  obtain ⟨hnk, hruns⟩ := C01_from_core_gen (W := fun _ P => C01_onMachines P)
    (fun h hpq => h.mono fun cfg m _ => hpq cfg m) F hv
    (fun args hooks body routine nargs => h6 st F.ok hsafe F.lin5 args hooks body routine nargs)
    hooks nargs text hall
  refine ⟨hnk, fun args n t v hA => ?_⟩
  obtain ⟨hlen, _, _, hW⟩ := hruns args n t v hA
  exact ⟨hlen, hW⟩

/-- **C01_composition**: the end-to-end statement follows from the two semantic links taken as hypotheses; every other
    link is a theorem.  No theorem has the type `C01_link_fun2core_sem`, `C01_link_x86` or `C01_statement`: they are
    open in this form.  What is proved is the form for source texts with the heap bound explicit, `C01_end_to_end`
    (Props/C01End.lean), from `C01_gap_fun2core_holds` and `C01_gap_x86_holds`, which prove the links in that form. -/
theorem C01_composition (h2 : C01_link_fun2core_sem) (h6 : C01_link_x86) : C01_statement := by
  intro p p' hn hc hv hmc hlc hls
  obtain ⟨st, F, hcore⟩ := C01_from_core p p' (h6 p p' hn hc hv hmc hlc) hn hc hv hlc hls
  exact C01_compose F hcore fun hseq args n t v hsrc => h2 p p' st.s2 hn hc hv hmc hlc hseq F.s2ok args n t v hsrc

/-- outside the fragment `Sequenced` the source semantics IS the Core machine on S2: there the
    end-to-end conclusion needs the x86-64 link only -/
theorem C01_composition_unsequenced (p : Fun.Program) (p' : Fun.CheckedProgram)
    (h6 : C01_link_x86_at p')
    (hn : programNamesOk p = true) (hc : checkProgram p = .ok p') (hv : validMain p' = true)
    (hlc : C01_linkChecks p' = true)
    (hls : C01_labelSafe p' = true) (hseq : Fun.Sequenced p' = false) : C01_conclusion p' := by
  obtain ⟨st, F, hcore⟩ := C01_from_core p p' h6 hn hc hv hlc hls
  exact C01_compose F hcore fun hs => by rw [hseq] at hs; cases hs

/-- `C02_sem_forward_link` (Props/C02Sem.lean: the forward half `C02_sem_forward_frag`, results only) in the
    shape of `C01_link_fun2core_sem`, for the programs of the fragment `C01_fragChecks` -/
theorem C01_fun2core_sem_frag (p : Fun.Program) (p' : Fun.CheckedProgram) (q2 : Core.Prog)
    (hn : programNamesOk p = true) (hc : checkProgram p = .ok p')
    (hfr : C01_fragChecks p' = true) (e2 : Fun2Core.compileProg p' = .ok q2)
    (args : List Word) (n : Nat) (t : List (Bool × Word)) (v : Word)
    (hrun : ofFun (Fun.run p' args n) = ⟨t, .done v⟩) :
    ∃ m, ofCore (Core.run q2 args m) = ⟨t, .done v⟩ := by
  simp only [C01_fragChecks, e2, Bool.and_eq_true] at hfr
  obtain ⟨m, hm⟩ := C02_sem_forward_link p p' q2 hn hc hfr.1 e2 hfr.2 args n (by rw [hrun]; trivial)
  exact ⟨m, by rw [hm, hrun]⟩

/-- **C01_composition_frag**: for the programs of the fragment `C01_fragChecks` (first-order integers,
    data types with `case`, labels / `goto`, calls; codata restricted as in Props/C02Sem.lean) the end-to-end conclusion follows from
    the x86-64 link at this program ALONE: fun2core (C02, forward), focusing (C03), shrinking (C04), linearization (C05)
    and the runtime (C20) are theorems.  (`noMainCall` is part of `fragOk`.) -/
theorem C01_composition_frag (p : Fun.Program) (p' : Fun.CheckedProgram) (h6 : C01_link_x86_at p')
    (hn : programNamesOk p = true) (hc : checkProgram p = .ok p') (hv : validMain p' = true)
    (hlc : C01_linkChecks p' = true) (hls : C01_labelSafe p' = true)
    (hfr : C01_fragChecks p' = true) : C01_conclusion p' := by
  obtain ⟨st, F, hcore⟩ := C01_from_core p p' h6 hn hc hv hlc hls
  exact C01_compose F hcore fun _ args n t v hsrc =>
    C01_fun2core_sem_frag p p' st.s2 hn hc hfr F.s2ok args n t v hsrc

/-- `C01_capacity` (Props/C01Checks.lean, evaluated by the driver) is `ProgWithinCapacity` of S5 -/
theorem C01_capacity_eq {p' : Fun.CheckedProgram} {st : Stages} (h : stages p' = .ok st) :
    C01_capacity p' = C06Generic.ProgWithinCapacity st.s5 := by
  unfold C01_capacity
  rw [h]
  rfl

/-- x86-64 code generation, stated FROM THE ABSTRACT BACKEND MACHINE ("Theorem B for runs",
    Scc/X86/Ref*.lean): on the linearized program of a compilation of the statement's programs,
    a run of the abstract machine on the MOCK code of S5 (same hook setting, label counter 0) from the
    label of the first definition that ends with a result is reproduced by the x86-64 machine on the
    printed routine, given enough fuel and heap. -/
def C01_link_x86_abs : Prop :=
  ∀ (p : Fun.Program) (p' : Fun.CheckedProgram) (st : Stages),
    programNamesOk p = true → checkProgram p = .ok p' → validMain p' = true →
    Fun.noMainCall p' = true → C01_linkChecks p' = true → stages p' = .ok st →
    LabelSafe st.s5 = true → AxCut.LinTypedProg st.s5 →
    ∀ (args : List Word) (hooks : Bool) (body routine : List X86.Code) (nargs : Nat)
      (code : List Backend.MockOp) (nargs' c' : Nat) (d0 : AxCut.Def) (ds : List AxCut.Def),
      X86.compileX86 st.s5 hooks 0 = .ok (body, nargs) → X86.intoRoutine body nargs = .ok routine →
      (Backend.compile Backend.mockSym hooks st.s5).run 0 = .ok ((code, nargs'), c') →
      st.s5.defs = d0 :: ds →
      ∀ (f : Nat) (t : List (Bool × Word)) (v : Word),
        Backend.Abs.run code (d0.name.print ++ "_") args f = ⟨t, .done v⟩ →
        C01_onMachines fun cfg fuel' =>
          (X86.run (X86.printProg routine) args fuel' cfg).out = t ∧
          (X86.run (X86.printProg routine) args fuel' cfg).res = .done v

open Scc.Props.C06Generic (CodeFits ProgWithinCapacity) in
/-- Theorem A (`C06Generic.TheoremA_run_static`, a theorem) composed with the abstract-machine form of
    the x86-64 link: the conclusion of `C01_link_x86` for every run of the positional machine shorter
    than 2^64 steps, under the decidable capacity conditions of Theorem A on the program (the mock
    code exists and fits the address space, the contexts fit the numbering of temporaries). -/
theorem C01_x86_run_of_abs (h : C01_link_x86_abs) (p : Fun.Program) (p' : Fun.CheckedProgram)
    (st : Stages) (hn : programNamesOk p = true) (hc : checkProgram p = .ok p')
    (hv : validMain p' = true) (hmc : Fun.noMainCall p' = true) (hlc : C01_linkChecks p' = true)
    (hok : stages p' = .ok st) (hsafe : LabelSafe st.s5 = true)
    (args : List Word) (hooks : Bool) (body routine : List X86.Code) (nargs : Nat)
    (hcomp : X86.compileX86 st.s5 hooks 0 = .ok (body, nargs))
    (hinto : X86.intoRoutine body nargs = .ok routine)
    (fuel : Nat) (t : List (Bool × Word)) (v : Word)
    (hrun : AxCut.Pos.run st.s5 args fuel = ⟨t, .done v⟩)
    (code : List Backend.MockOp) (nargs' c' : Nat)
    (hmock : (Backend.compile Backend.mockSym hooks st.s5).run 0 = .ok ((code, nargs'), c'))
    (hfit : CodeFits code) (hfuel : fuel + 1 < 2 ^ 64)
    (hcap : ProgWithinCapacity st.s5 = true) :
    C01_onMachines fun cfg fuel' =>
      (X86.run (X86.printProg routine) args fuel' cfg).out = t ∧
      (X86.run (X86.printProg routine) args fuel' cfg).res = .done v := by
  obtain ⟨st', F⟩ := C12_facts_of_checks p p' hn hc hv hlc
  have : st' = st := by
    have := F.ok
    rw [hok] at this
    injection this with this
    exact this.symm
  subst this
  obtain ⟨_, _, _, m5⟩ := stages_mainHead (validMainK_of_validMain hv) F.ok
  obtain ⟨d5, ds5, hd5, _, hint5⟩ := m5
  obtain ⟨f, hf⟩ := C06Generic.TheoremA_run_static hooks st'.s5 0 code nargs' c' d5 args fuel t v hmock
    hsafe F.lin5 hfit (by rw [hd5]; rfl) hint5 hcap hfuel hrun
  exact h p p' st' hn hc hv hmc hlc F.ok hsafe F.lin5 args hooks body routine nargs code nargs' c' d5 ds5
    hcomp hinto hmock hd5 f t v hf

open Scc.Props.C06Generic (IntProg ProgWithinCapacity) in
/-- **integer programs** (`C06Generic.IntProg`: `lit op print ifc exit call subst`, every variable an
    integer): the conclusion of `C01_link_x86` is a THEOREM (`X86.C06_int_programs_text`:
    Theorem A ∘ Theorem B, Scc/X86/Ref*.lean) under the static capacity condition of Theorem A
    (`ProgWithinCapacity`, decidable), given that the text of THIS routine loads
    (`X86.TextLoads routine`: the machine's parser reads the printed routine back up to the text of
    comments; a fact about one routine here; for all routines in range with text-safe names:
    `X86.C14_routine_loads`, Props/C14Loader.lean).
    The program allocates nothing; the proof takes the driver's 32 MiB for the heap size that `C01_onMachines` asks for. -/
theorem C01_x86_run_int (p : Fun.Program) (p' : Fun.CheckedProgram) (st : Stages)
    (hn : programNamesOk p = true) (hc : checkProgram p = .ok p') (hv : validMain p' = true)
    (hlc : C01_linkChecks p' = true) (hok : stages p' = .ok st) (hsafe : LabelSafe st.s5 = true)
    (hip : IntProg st.s5) (hrange : X86.ProgInRange st.s5)
    (args : List Word) (hooks : Bool) (body routine : List X86.Code) (nargs : Nat)
    (hcomp : X86.compileX86 st.s5 hooks 0 = .ok (body, nargs))
    (hinto : X86.intoRoutine body nargs = .ok routine)
    (fuel : Nat) (t : List (Bool × Word)) (v : Word)
    (hrun : AxCut.Pos.run st.s5 args fuel = ⟨t, .done v⟩)
    (hcap : ProgWithinCapacity st.s5 = true)
    (hload : X86.TextLoads routine) :
    C01_onMachines fun cfg fuel' =>
      (X86.run (X86.printProg routine) args fuel' cfg).out = t ∧
      (X86.run (X86.printProg routine) args fuel' cfg).res = .done v := by
  obtain ⟨st', F⟩ := C12_facts_of_checks p p' hn hc hv hlc
  have : st' = st := by
    have := F.ok
    rw [hok] at this
    injection this with this
    exact this.symm
  subst this
  obtain ⟨_, _, _, m5⟩ := stages_mainHead (validMainK_of_validMain hv) F.ok
  obtain ⟨d5, ds5, hd5, _, _⟩ := m5
  refine ⟨(0x2000000 : Nat), fun cfg _ hMO hheap => ?_⟩
  exact X86.C06_int_programs_text st'.s5 args hooks body routine nargs d5 hsafe F.lin5 hip hrange hcomp
    hinto (by rw [hd5]; rfl)
    (C06Generic.capacity_static st'.s5 hcap d5 (by rw [hd5]; exact List.mem_cons_self ..) args)
    fuel t v hrun cfg hMO hheap hload

theorem C01_intStmtB_sound : ∀ s : AxCut.Stmt, C01_intStmtB s = true → C06Generic.IntStmt s
  | .lit _ _ next _, h => by
    simp only [C01_intStmtB] at h; simp only [C06Generic.IntStmt]; exact C01_intStmtB_sound next h
  | .op _ _ _ _ next _, h => by
    simp only [C01_intStmtB] at h; simp only [C06Generic.IntStmt]; exact C01_intStmtB_sound next h
  | .print _ _ next _, h => by
    simp only [C01_intStmtB] at h; simp only [C06Generic.IntStmt]; exact C01_intStmtB_sound next h
  | .ifc _ _ _ t e, h => by
    simp only [C01_intStmtB, Bool.and_eq_true] at h
    simp only [C06Generic.IntStmt]
    exact ⟨C01_intStmtB_sound t h.1, C01_intStmtB_sound e h.2⟩
  | .exit _, _ => by simp [C06Generic.IntStmt]
  | .call _ _, _ => by simp [C06Generic.IntStmt]
  | .subst _ next, h => by
    simp only [C01_intStmtB] at h; simp only [C06Generic.IntStmt]; exact C01_intStmtB_sound next h
  | .letS _ _ _ _ _ _, h => by simp [C01_intStmtB] at h
  | .switch _ _ _ _, h => by simp [C01_intStmtB] at h
  | .create _ _ _ _ _ _ _, h => by simp [C01_intStmtB] at h
  | .invoke _ _ _ _, h => by simp [C01_intStmtB] at h

theorem C01_intProgB_sound {q : AxCut.Prog} (h : C01_intProgB q = true) : C06Generic.IntProg q := by
  simp only [C01_intProgB, List.all_eq_true, Bool.and_eq_true, decide_eq_true_eq] at h
  intro d hd
  exact ⟨fun b hb => (h d hd).1 b hb, C01_intStmtB_sound d.body (h d hd).2⟩

theorem C01_clausesRangeB_sound : ∀ cl : AxCut.Clauses, C01_clausesRangeB cl = true →
    X86.ClausesB (fun n => X86.fitsI64 n = true) X86.maxSubstX86 cl :=
  X86.C06_clausesRange_sound

theorem C01_stripC_eq : C01_stripC = X86.Ref.stripC := by
  funext c
  cases c <;> rfl

theorem C01_textLoadsB_sound {routine : List X86.Code} (h : C01_textLoadsB routine = true) :
    X86.TextLoads routine := by
  unfold C01_textLoadsB at h
  split at h
  · rename_i items hp
    simp only [decide_eq_true_eq, C01_stripC_eq] at h
    exact ⟨items, hp, h⟩
  · cases h

open Scc.Props.C06Generic (IntProg ProgWithinCapacity) in
/-- **the x86-64 link is a THEOREM on the integer fragment** (`C01_intChecks`, decidable): Theorem A ∘
    Theorem B (`X86.C06_int_programs_text`), the static capacity bound, and the loader
    round trip evaluated on this program's routine. -/
theorem C01_x86_int (p : Fun.Program) (p' : Fun.CheckedProgram)
    (hn : programNamesOk p = true) (hc : checkProgram p = .ok p') (hv : validMain p' = true)
    (hlc : C01_linkChecks p' = true) (hic : C01_intChecks p' = true) : C01_link_x86_at p' := by
  intro st hok hsafe _ args hooks body routine nargs hcomp hinto fuel t v hrun
  simp only [C01_intChecks, hok, Bool.and_eq_true] at hic
  obtain ⟨hcap, ⟨⟨hint, hrange⟩, hl1⟩, hl2⟩ := hic
  have hload : C01_textLoadsB routine = true := by
    cases hooks with
    | true => simpa [C01_routineLoadsB, hcomp, hinto] using hl1
    | false => simpa [C01_routineLoadsB, hcomp, hinto] using hl2
  rw [C01_capacity_eq hok] at hcap
  exact C01_x86_run_int p p' st hn hc hv hlc hok hsafe (C01_intProgB_sound hint)
    (X86.C06_progInRange_of_check hrange) args hooks body routine nargs hcomp hinto fuel t v hrun hcap
    (C01_textLoadsB_sound hload)

/-- **C01_int_fragment — END TO END, NO HYPOTHESIS LEFT** beyond decidable per-program checks: for every
    accepted program with a valid `main` whose stages pass `C01_linkChecks`, `C01_labelSafe`,
    `C01_fragChecks` (fun2core's fragment: integers, data, labels, calls; codata restricted) and
    `C01_intChecks` (the linearized program is an integer program within range and capacity whose
    routine text loads), the conclusion of C01 holds: the x86-64 machine on the emitted text and the
    linked binary reproduce every run of the Fun machine that ends with a result.
    Every link is a theorem: C15, C02 (`C02_sem_forward_frag`), C03, C04 (`C04_sem_strong`), C05, Theorem A,
    Theorem B (integer fragment), C14 (labels), C20. -/
theorem C01_int_fragment (p : Fun.Program) (p' : Fun.CheckedProgram)
    (hn : programNamesOk p = true) (hc : checkProgram p = .ok p') (hv : validMain p' = true)
    (hlc : C01_linkChecks p' = true) (hls : C01_labelSafe p' = true)
    (hfr : C01_fragChecks p' = true) (hic : C01_intChecks p' = true) : C01_conclusion p' :=
  C01_composition_frag p p' (C01_x86_int p p' hn hc hv hlc hic) hn hc hv hlc hls hfr

/-- … and from the Core program on (any source program, sequenced or not, with codata or not) when
    the back end is in the integer fragment -/
theorem C01_int_from_core (p : Fun.Program) (p' : Fun.CheckedProgram)
    (hn : programNamesOk p = true) (hc : checkProgram p = .ok p') (hv : validMain p' = true)
    (hlc : C01_linkChecks p' = true) (hls : C01_labelSafe p' = true)
    (hic : C01_intChecks p' = true) : ∃ st, C12_Facts p p' st ∧ C01_conclusion_core p' st :=
  C01_from_core p p' (C01_x86_int p p' hn hc hv hlc hic) hn hc hv hlc hls

theorem C01_exit_status (v : Word) : Runtime.exitStatus v.toInt = (v.toInt % 256).toNat :=
  Runtime.exitStatus_eq _

/-! ## non-vacuity

The premises of `C01_statement` / `C01_middle` (`programNamesOk`, accepted, `validMain`, `noMainCall`,
`C01_linkChecks`) hold for `C12_exSrc` (`C12_example_premises`); here additionally `C01_labelSafe`,
the program is in the fragment `Sequenced`, the source semantics finishes on the argument 5 (premise
of the inner implication), and every machine of the chain that the kernel can evaluate gives the same
observable — i.e. the instance of each semantic link (`C01_link_fun2core_sem`, C03, C04, C05) at this
program is true; and the capacity conditions of Theorem A (part (3) of `C01_middle`) hold for the mock
code of S5 and the run on the argument 5, on which the abstract backend machine gives the same
observable.  (The x86-64 machine keeps its memory in a `Std.HashMap`, which does not reduce in the
kernel; `#eval ofX86 (X86.run text [5] 5000 {})` gives the same observable, and `runLineNative` the bytes
`37 0a` with status 0.)  The evaluations on `C12_exSrc` (`C01_example_frag`, `C01_example_runs`,
`C01_example_abs`) are in Props/C12Examples.lean. -/

def C01_exObs : Obs := ⟨[(true, 7)], .done 0⟩

def C01_exRuns (src : String) : Bool :=
  match frontEnd src with
  | .ok _ p' =>
    validMain p' && Fun.noMainCall p' && C01_linkChecks p' && C01_labelSafe p' &&
    Fun.Sequenced p' &&
    match stages p' with
    | .ok st =>
      decide (srcRun p' [5] 200 = C01_exObs) &&
      decide (ofFun (Fun.run p' [5] 200) = C01_exObs) &&
      decide (ofCore (Core.run st.s2 [5] 200) = C01_exObs) &&
      decide (ofCore (Core.fsRun st.s3 [5] 200) = C01_exObs) &&
      decide (ofNamed (AxCut.Named.run st.s4 [5] 200) = C01_exObs) &&
      decide (ofPos (AxCut.Pos.run st.s5 [5] 200) = C01_exObs) &&
      decide (mainArity p' = 1)
    | .error _ => false
  | _ => false

/-- the program is in the fragment of `C01_composition_frag` -/
def C01_exFrag (src : String) : Bool :=
  match frontEnd src with
  | .ok _ p' => C01_fragChecks p'
  | _ => false

/-- the capacity conditions of part (3) of `C01_middle` on the example, and the run of the abstract
    backend machine on the mock code of S5 -/
def C01_exAbs (src : String) : Bool :=
  match frontEnd src with
  | .ok _ p' =>
    match stages p' with
    | .ok st =>
      match st.s5.defs, (Backend.compile Backend.mockSym true st.s5).run 0 with
      | d0 :: _, .ok ((code, _), _) =>
        LabelSafe st.s5 && decide (C06Generic.CodeFits code) &&
        C06Generic.ProgWithinCapacity st.s5 && C01_capacity p' &&
        decide ((Backend.Abs.run code (d0.name.print ++ "_") [5] 5000).out = [(true, 7)]) &&
        decide ((Backend.Abs.run code (d0.name.print ++ "_") [5] 5000).res = .done 0)
      | _, _ => false
    | .error _ => false
  | _ => false

/-- an integer program: comparison, `let`, `if`, `println_i64`, two parameters
    (/verif/gen/corpus/fun2core/s19_main_params.sc) -/
def C01_exIntSrc : String :=
  "def main(n: i64, m: i64): i64 { let r: i64 = if n < m { n } else { m }; println_i64(r); if r == 0 { 0 } else { 1 } }"

/-- the hypotheses of `C01_int_fragment` on `C01_exIntSrc`, except the loading of the routine text
    (the two conjuncts `C01_routineLoadsB` of `C01_intChecks`): `X86.parseText` splits the text with
    `String.splitOn`, which the kernel cannot evaluate; `#eval` gives `true` for the whole of
    `C01_intChecks` on this program, and the `links` driver evaluates it on every program of every run
    (tag `int`). -/
def C01_exIntChecks (src : String) : Bool :=
  match frontEnd src with
  | .ok p p' =>
    programNamesOk p && validMain p' && C01_linkChecks p' && C01_labelSafe p' &&
    C01_fragChecks p' && C01_capacity p' &&
    match stages p' with
    | .ok st =>
      C01_intProgB st.s5 && C01_progInRangeB st.s5 &&
      decide (srcRun p' [3, 5] 100 = ⟨[(true, 3)], .done 1⟩) &&
      decide (ofPos (AxCut.Pos.run st.s5 [3, 5] 100) = ⟨[(true, 3)], .done 1⟩)
    | .error _ => false
  | _ => false

set_option maxRecDepth 100000 in
theorem C01_example_int_of_chars (s : String) (h : s.toList = C01_exIntSrc.toList) :
    C01_exIntChecks s = true := by
  have hc := toList_of_literal rfl h
  simp only [C01_exIntChecks, frontEnd, Fun.Parse.parse, hc]
  decide +kernel

theorem C01_example_int : C01_exIntChecks C01_exIntSrc = true := C01_example_int_of_chars _ rfl

/-- `C01_onMachines` is not vacuous: the default machine configuration is sane, its heap monitor off -/
example : X86.Ref.MachOK ({} : X86.MonCfg).mach ∧ ({} : X86.MonCfg).heap = false :=
  ⟨X86.Ref.machOK_default, rfl⟩

/-- the conclusion's byte string and exit status for this run: "7\n", status 0 -/
example : renderTrace C01_exObs.out = [55, 10] ∧ Runtime.exitStatus (0 : Word).toInt = 0 := by decide

/-- a negative result: exit status 255 for −1 -/
example : Runtime.exitStatus (BitVec.ofInt 64 (-1)).toInt = 255 := by decide

#print axioms C01_composition
#print axioms C01_from_core
#print axioms C01_from_core_gen
#print axioms C01_src_to_core
#print axioms C01_compose
#print axioms C01_compose_gen
#print axioms C01_composition_frag
#print axioms C01_x86_run_of_abs
#print axioms C01_x86_run_int
#print axioms C01_x86_int
#print axioms C01_int_fragment
#print axioms C01_int_from_core
#print axioms C01_composition_unsequenced
#print axioms C01_middle
#print axioms C01_middle_obs
#print axioms C01_middle_same
#print axioms C01_middle_forward
#print axioms C01_middle_backward
#print axioms C01_middle_backward_fault
#print axioms C02_sem_statement_false
#print axioms C01_link_fun2core_sem_of_C02
#print axioms C01_link_x86_of_C06
#print axioms traceBytes_eq_render
#print axioms argv_roundtrip
#print axioms compileX86_nargs
#print axioms C01_example_int_of_chars
#print axioms C01_example_int

end Scc.Props

#print axioms Scc.Props.C01_onMachines.mono
#print axioms Scc.Props.C01_link_fun2core_sem_of_forward
#print axioms Scc.Props.ofCore_done
#print axioms Scc.Props.mainArity_le_five
#print axioms Scc.Props.pos_run_done_arity
#print axioms Scc.Props.C01_fun2core_sem_frag
#print axioms Scc.Props.C01_capacity_eq
#print axioms Scc.Props.C01_intStmtB_sound
#print axioms Scc.Props.C01_intProgB_sound
#print axioms Scc.Props.C01_stripC_eq
#print axioms Scc.Props.C01_textLoadsB_sound
#print axioms Scc.Props.C01_exit_status
