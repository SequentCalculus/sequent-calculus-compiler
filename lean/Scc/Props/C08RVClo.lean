/-
  Scc.Props.C08RVClo — property C08 (RISC-V backend), THEOREM A ∘ THEOREM B FOR ALL PROGRAMS — integers, data
  types AND CLOSURES (`create`, `invoke` through the method table with `add_and_jump`).

  THE WORD OF A CLOSURE.  On the abstract backend machine the word of a closure is the abstract code address of
  its methods; on the RV64 machine it is the address of the label of the method table.  The two code generators
  run with different label counters, so there is no function from abstract to machine addresses that could be
  shown correct; the machine words of the closures are kept PER LOCATION — `cw i` for position `i` of the
  context, `τ id j` for field `j` of heap object `id` (Scc/RV/RefDefs.lean: `trW`, `trHeap`) — and the
  relation `CV` (Scc/RV/RefCloDefs.lean: Theorem A's `RepV` with one more index, the machine word) records for
  every closure at every location (context positions, fields of objects and of closure environments) that the
  RV64 code standing at its machine word is the code of ITS methods for THE SAME environment context as the
  abstract code (`KMethodsAt`, Scc/RV/RefCreate.lean).  `CVals` is carried through every statement: it is
  Theorem A's representation together with the closure walk of Scc/Backend/ClosWalk.lean (RefCloDefs.lean,
  `CVals.toXC` / `CVals.ofXC`), and the walk follows a step from what the step did to the positions and the heap
  (RefRun / RefSubst / RefSwitch / RefCreate).  An indirect jump to the address of a label lands on the first label standing before
  the next instruction and passes the labels in between (Scc/RV/RefLand.lean, RefJump.lean).

  PROVED (no `sorry`, axioms: propext, Classical.choice, Quot.sound):
  * `C08_create_rv`, `C08_invoke_rv`   the three-way simulation of `create` and `invoke`.
  * `C08_programs`    END TO END FOR ALL PROGRAMS with at most 14 live variables, on the parsed LINES of the
      emitted routine: a terminating run `Pos.run … = done v` of the positional machine is reproduced by the
      RV64 machine (it reaches `cleanup` with `v` in `X10`).  No restriction on the statements: a program with
      a `print` has no RV64 code at all (`compile rvBackend` fails), so "print-free" is implied by `hcompX`.
  * `C08_programs_checked`   the same with the side hypotheses about generated code DISCHARGED (the bound on the reachable
      states and the integer entry stay; `C08_rv_setup`, which the RV64 theorems of
      C09 and C10 start from as well): the mock code generator succeeds on
      every linearly typed program (Scc/Backend/TotalMock.lean), its code fits the address space by the decidable
      size check `C08_sizeCheck` (Scc/Backend/SizeMock.lean), THE LABELS OF THE RV64 ROUTINE ARE PAIRWISE
      DISTINCT for every `LabelSafe` program (`labels_unique_rv`, Scc/RV/RefSideLabels.lean), and
      `fuel + 1 < 2^64` follows from the heap bounds.
  * `C08_capacity_of_liveAtMost_all`, `C08_programs_live` (and `C08_data_programs_live`, the same stated for
      closure-free, print-free programs on top of `C08_programs`)   the bound on the reachable states follows from the
      STATIC hypothesis `LiveAtMost maxVariables p` of `C08_statement` for ALL programs (the invariant covers the
      method bodies of the closures in the environment, `ValLive`): every hypothesis of `C08_programs_live` is a
      decidable check on the program / the emitted code / the machine configuration, or the run itself.
  * `C08_programs_text`   `C08_programs_checked` for `RV.run` on the TEXT of `compileRoutine`, given `C08_TextLoads`;
      `C08_programs_text_loaded` (Props/C14LoaderRV.lean): WITHOUT that hypothesis — the loader round trip is proved
      for every compiled routine from the decidable names check `C14R_namesTextSafe`.
  A `def : Prop` that no theorem concludes:
  * `C08_programs_statement`   `C08_programs_checked` without its two decidable side hypotheses (routine below
      2^64, size check of the program).  The loader fact is proved (Props/C14LoaderRV.lean: `C14R_loader`;
      `C08_loader_statement` of Props/C08RVInt.lean is false, `C08_loader_statement_false`).
-/
import Scc.Props.C08RVHeap
import Scc.Backend.TotalMock
import Scc.Backend.SizeMock
import Scc.Backend.SideConds
import Scc.Pipeline.SizeCompose
import Scc.RV.RefSideLabels

namespace Scc.RV

open Scc.AxCut Scc.AxCut.Pos Scc.Backend Scc.Backend.Abs Scc.Backend.Sim Scc.Backend.Sim2 Scc.RV.Ref
open Scc.Heap (HState InvS)
open Scc.Heap.Refine (FrLe Room loadAbs)
open Scc.Props.C06Generic (Reachable WithinCapacity CodeFits EnoughHeap)
open Scc.Props.C14Generic (LabelSafe)

section Clos

variable {mc : MonCfg} {cw : Nat → Word} {τ : Nat → Nat → Word} {pr : RV.Program} {ks : List Code}
  (L : Loaded pr ks) (hnd : (labs ks).Nodup) (hheap : mc.heap = false)

include L hnd hheap in
/-- `create` on RV64: `Memory::store` of the closure environment, `LA` of the label of
the method table; the new variable holds the machine word `m`, at which the code of the methods stands -/
theorem C08_create_rv {P : Abs.Program} {hooks : Bool} {prog : AxCut.Prog} {Γ : Ctx} {ρ : List Value} {x : Ident}
    {ty : Ty} {Γc : Ctx} {clauses : Clauses} {next : Stmt} {f1 f2 : FV} {cfg : Config}
    (R : RelX P hooks prog ⟨Γ, ρ, .create x ty (some Γc) clauses next f1 f2⟩ cfg)
    (hk : Γc.length ≤ Γ.length)
    (hkeys : Ctx.keys (Γ.drop (Γ.length - Γc.length)) = Γc.keys)
    (hfresh : ∀ b ∈ Γ.take (Γ.length - Γc.length), b.var.id ≠ x.id)
    (hcap : 2 * (Γ.length - Γc.length + 1) + 2 < Mock.T_TEMP)
    (hnext : cfg.next < 2 ^ 64)
    {hs : HState} {ι : Nat → Nat} {st : State} (X : X3 mc cw τ Γ cfg hs ι st)
    {k k' : Nat} {items : List Code}
    (hrun : (codeStatementR rvBackend hooks natRen prog.types (.create x ty (some Γc) clauses next f1 f2) Γ).run k =
      .ok (items, k'))
    (hat : KAt ks st.pc items)
    (hroom : Room hs (64 * Γc.length + 64)) :
    ∃ cfg' st' hs' ι' m, stepsTo P 2 cfg cfg' ∧ Reach pr mc st st' ∧ FrLe hs hs' (64 * Γc.length) ∧
      cfg'.out = cfg.out ∧ cfg'.next ≤ cfg.next + 1 ∧
      RelX P hooks prog ⟨Γ.take (Γ.length - Γc.length) ++ [⟨x, .cns, ty⟩],
        ρ.take (Γ.length - Γc.length) ++ [.clo Γc (ρ.drop (Γ.length - Γc.length)) clauses], next⟩ cfg' ∧
      KMethodsAt ks hooks prog.types m (Γ.drop (Γ.length - Γc.length)) clauses ∧
      X3 mc (cwSet cw (Γ.length - Γc.length) m) (letTau τ cfg.next cw (Γ.length - Γc.length) Γc.length)
        (Γ.take (Γ.length - Γc.length) ++ [⟨x, .cns, ty⟩]) cfg' hs' ι' st' ∧
      ∃ k1 k1' items', (codeStatementR rvBackend hooks natRen prog.types next
          (Γ.take (Γ.length - Γc.length) ++ [⟨x, .cns, ty⟩])).run k1 = .ok (items', k1') ∧
        KAt ks st'.pc items' := by
  obtain ⟨cfg', st', hs', ι', m, h1, h2, h3, _, h4⟩ :=
    create_x3 L hnd hheap R hk hkeys hfresh hcap hnext X hrun hat hroom
  exact ⟨cfg', st', hs', ι', m, h1, h2, h3, h4⟩

include L hnd hheap in
/-- `invoke` on RV64: the jump through the word of the closure (`JALR`, for several
methods `add_and_jump` through the method table), the `load` of the closure environment; the representation
of the values with the machine words of the closures (`CVals`) is re-established -/
theorem C08_invoke_rv (hfitX : codeBase + 4 * icount ks < 2 ^ 64)
    (hcl : ∀ t, t + 1 < ks.length → ks[t]? ≠ some (Code.LAB "cleanup"))
    {P : Abs.Program} {hooks : Bool} {prog : AxCut.Prog} {Γa : Ctx} {b : Binding}
    {ρa : List Value} {Γc : Ctx} {ρc : List Value} {clauses : Clauses} {x tag : Ident} {ty : Ty}
    {args : Ctx} {cfg : Config} {c : Clause} {pos : Nat}
    (R : RelX P hooks prog ⟨Γa ++ [b], ρa ++ [.clo Γc ρc clauses], .invoke x tag ty args⟩ cfg)
    (hfits : Fits P)
    (hb : b.var.id = x.id) (hfresh : ∀ b' ∈ Γa, b'.var.id ≠ x.id)
    (hpos : Pos.tagPosition prog.types ty tag = .ok pos)
    (hclause : nthClause clauses pos = some c)
    (hlenc : ∀ d, lookupTypeDecl prog.types ty = some d → clauses.length = d.xtors.length)
    (hargs : Γa.map (·.chi) = c.ctx.map (·.chi))
    (hkinds : ρc.map Sim2.kindOf = Mock.kindsOf Γc)
    (hcap : 2 * (c.ctx.length + Γc.length) + 2 < Mock.T_TEMP)
    {hs : HState} {ι : Nat → Nat} {st : State} (X : X3 mc cw τ (Γa ++ [b]) cfg hs ι st)
    {k k' : Nat} {items : List Code}
    (hrun : (codeStatementR rvBackend hooks natRen prog.types (.invoke x tag ty args) (Γa ++ [b])).run k =
      .ok (items, k'))
    (hat : KAt ks st.pc items)
    (hcapX : c.ctx.length + Γc.length ≤ 14)
    (CVh : CVals P hooks prog.types (KMethodsAt ks hooks prog.types) cw τ cfg.heap cfg.temps (Γa ++ [b])
      (ρa ++ [.clo Γc ρc clauses])) :
    ∃ kk cfg' st' hs' envCtx', Ctx.keys envCtx' = Γc.keys ∧ stepsTo P kk cfg cfg' ∧ Reach pr mc st st' ∧
      FrLe hs hs' 0 ∧ cfg'.out = cfg.out ∧ cfg'.next = cfg.next ∧
      RelX P hooks prog ⟨c.ctx ++ envCtx', ρa ++ ρc, c.body⟩ cfg' ∧
      (∃ r, cfg.temps.get (2 * Γa.length) = some r ∧
        X3 mc (loadCw cw Γa.length (τ r.toNat)) τ (c.ctx ++ envCtx') cfg' hs' ι st' ∧
        CVals P hooks prog.types (KMethodsAt ks hooks prog.types) (loadCw cw Γa.length (τ r.toNat)) τ cfg'.heap
          cfg'.temps (c.ctx ++ envCtx') (ρa ++ ρc)) ∧
      ∃ k1 k1' items', (codeStatementR rvBackend hooks natRen prog.types c.body (c.ctx ++ envCtx')).run k1 =
          .ok (items', k1') ∧ KAt ks st'.pc items' := by
  obtain ⟨kk, cfg', st', hs', envCtx', h1, h2, h3, h4⟩ :=
    invoke_x3 L hnd hheap hfitX hcl R hfits hb hfresh hpos hclause hlenc hargs hkinds hcap X hrun hat hcapX CVh
  exact ⟨kk, cfg', st', hs', envCtx', h1, h2, h3.reach, h4⟩

end Clos

/-- THEOREM A ∘ THEOREM B FOR ALL PROGRAMS (at most 14 variables at every reachable state), on the parsed LINES
of the emitted routine: a terminating run of the AxCut positional machine with result `v` is reproduced by the
RV64 SPEC machine started at the first label: it reaches `cleanup` with `v` in `X10`.  All statements: integers,
`let` / `switch`, `create` / `invoke`, `subst`, `call` (a `print` has no RV64 code: `hcompX` fails).
`lines`: any line list that agrees with the emitted routine (header comments `hdr`, the emitted instructions,
the label `cleanup`) up to the text of comments and has no malformed hook comment.  Side hypotheses (all
decidable on the program, the emitted code or the machine configuration): the mock code generator succeeds and
its code fits the address space (`hcompM`, `hfit`: Theorem A; discharged in `C08_programs_checked`), the labels
of the routine are pairwise distinct (`hnd`), the routine ends below 2^64 (`hfitX`), the heap monitor is off,
the heap region lies below 2^63 and has 64·15 bytes per step of the run. -/
theorem C08_programs (p : AxCut.Prog) (args : List Word) (hooks : Bool) (instrs hdr : List Code)
    (nargs cX : Nat) (d0 : Def) (ops : List MockOp) (c' : Nat)
    (hsafe : LabelSafe p = true) (htp : LinTypedProg p)
    (hcompM : (compile mockSym hooks p).run 0 = .ok ((ops, nargs), c')) (hfit : CodeFits ops)
    {counter : Nat} (hcompX : (compile rvBackend hooks p).run counter = .ok ((instrs, nargs), cX))
    (hnd : (labs (instrs ++ [Code.LAB "cleanup"])).Nodup) (hfitX : codeBase + 4 * instrs.length < 2 ^ 64)
    (hd : p.defs.head? = some d0) (hentry : ∀ b ∈ d0.ctx, b.chi = .ext ∧ b.ty = .i64)
    (hcap : ∀ st, Reachable p ⟨d0.ctx, args.map .int, d0.body⟩ st → st.ctx.length ≤ maxVariables)
    (fuel : Nat) (v : Word) (hfuel : fuel + 1 < 2 ^ 64)
    (hrun : (Pos.run p args fuel).res = .done v)
    (mc : MonCfg) (hheap : mc.heap = false) (htop : heapBase + mc.heapBytes ≤ 2 ^ 63)
    (hbytes : 128 + 64 * 15 * fuel ≤ mc.heapBytes)
    (lines : List (Nat × Code)) (hhdr : ∀ c ∈ hdr, c.isComment = true)
    (hlines : (lines.map (·.2)).map stripC = (hdr ++ instrs ++ [Code.LAB "cleanup"]).map stripC)
    (hhook : ∀ x ∈ lines, ¬ badHook x.2) :
    ∃ fuel', (runLines lines args fuel' mc).res = .done v :=
  programs_lines p args hooks instrs hdr nargs cX d0 ops c' hsafe htp
    hcompM hfit hcompX hnd hfitX hd hentry hcap
    fuel v hfuel hrun mc hheap htop hbytes lines hhdr hlines hhook

/-- the static size check: `10·(1 + longest context)·nodes < 2^64` (then the mock code fits the address space) -/
def C08_sizeCheck (p : AxCut.Prog) : Bool :=
  decide (10 * (1 + SizeLin.defsCap p.defs) * SizeLin.defsNodes p.defs < 2 ^ 64)

theorem C08_codeFits_of_size {p : AxCut.Prog} (htp : LinTypedProg p) (h : C08_sizeCheck p = true) {hooks : Bool}
    {c : Nat} {ops : List MockOp} {nargs c' : Nat}
    (hcomp : (compile mockSym hooks p).run c = .ok ((ops, nargs), c')) : CodeFits ops :=
  codeFits_of_nodes htp (of_decide_eq_true h) hcomp

/-- the number of arguments returned by `compile` is the length of the first definition's context
    (`Backend.compile_nargs_head` with every argument explicit) -/
theorem C08_compile_nargs {Code T : Type} (B : Backend Code T) (hooks : Bool) (p : AxCut.Prog) (c : Nat)
    (body : List Code) (nargs k : Nat) (h : (compile B hooks p).run c = .ok ((body, nargs), k)) (d0 : Def)
    (hd : p.defs.head? = some d0) : nargs = d0.ctx.length :=
  compile_nargs_head h hd

/-- what the side hypotheses of `C08_programs` about generated code come from: the mock code generator succeeds on every
linearly typed program and returns the same number of arguments, its code fits the address space by the decidable check
`C08_sizeCheck`, the labels of the RV64 routine are pairwise distinct (`labels_unique_rv`) -/
theorem C08_rv_setup (p : AxCut.Prog) (hooks : Bool) (instrs : List Code) (nargs cX : Nat) (d0 : Def)
    (hsafe : LabelSafe p = true) (htp : LinTypedProg p) (hsize : C08_sizeCheck p = true)
    {counter : Nat} (hcompX : (compile rvBackend hooks p).run counter = .ok ((instrs, nargs), cX))
    (hd : p.defs.head? = some d0) :
    ∃ ops c', (compile mockSym hooks p).run 0 = .ok ((ops, nargs), c') ∧ CodeFits ops ∧
      (labs (instrs ++ [Code.LAB "cleanup"])).Nodup := by
  have hne : p.defs ≠ [] := by
    intro e; rw [e] at hd; simp at hd
  obtain ⟨ops, nargsM, c', hcompM⟩ := Scc.Backend.Total.mock_compile_ok hooks p htp hne 0
  have h1 := C08_compile_nargs mockSym hooks p 0 ops nargsM c' hcompM d0 hd
  have h2 := C08_compile_nargs rvBackend hooks p counter instrs nargs cX hcompX d0 hd
  have hn : nargsM = nargs := by rw [h1, h2]
  subst hn
  exact ⟨ops, c', hcompM, C08_codeFits_of_size htp hsize hcompM, labels_unique_rv hsafe hcompX⟩

/-- `C08_programs` with its side hypotheses discharged: the mock code generator succeeds on every linearly typed
program, its code fits the address space by the decidable check `C08_sizeCheck`, the labels of the RV64 routine are
pairwise distinct (`labels_unique_rv`), `fuel + 1 < 2^64` follows from the heap bounds.  What remains: the routine
ends below 2^64 (`hfitX`, decidable on the emitted code) and the size check -/
theorem C08_programs_checked (p : AxCut.Prog) (args : List Word) (hooks : Bool) (instrs hdr : List Code)
    (nargs cX : Nat) (d0 : Def)
    (hsafe : LabelSafe p = true) (htp : LinTypedProg p) (hsize : C08_sizeCheck p = true)
    {counter : Nat} (hcompX : (compile rvBackend hooks p).run counter = .ok ((instrs, nargs), cX))
    (hfitX : codeBase + 4 * instrs.length < 2 ^ 64)
    (hd : p.defs.head? = some d0) (hentry : ∀ b ∈ d0.ctx, b.chi = .ext ∧ b.ty = .i64)
    (hcap : ∀ st, Reachable p ⟨d0.ctx, args.map .int, d0.body⟩ st → st.ctx.length ≤ maxVariables)
    (fuel : Nat) (v : Word)
    (hrun : (Pos.run p args fuel).res = .done v)
    (mc : MonCfg) (hheap : mc.heap = false) (htop : heapBase + mc.heapBytes ≤ 2 ^ 63)
    (hbytes : 128 + 64 * 15 * fuel ≤ mc.heapBytes)
    (lines : List (Nat × Code)) (hhdr : ∀ c ∈ hdr, c.isComment = true)
    (hlines : (lines.map (·.2)).map stripC = (hdr ++ instrs ++ [Code.LAB "cleanup"]).map stripC)
    (hhook : ∀ x ∈ lines, ¬ badHook x.2) :
    ∃ fuel', (runLines lines args fuel' mc).res = .done v := by
  obtain ⟨ops, c', hcompM, hfit, hnd⟩ := C08_rv_setup p hooks instrs nargs cX d0 hsafe htp hsize hcompX hd
  exact C08_programs p args hooks instrs hdr nargs cX d0 ops c' hsafe htp hcompM hfit hcompX hnd hfitX hd hentry hcap
    fuel v (by omega) hrun mc hheap htop hbytes lines hhdr hlines hhook

/-- `C08_programs_checked` on the TEXT: `RV.run` on the text of `compileRoutine`, given that this text loads -/
theorem C08_programs_text (p : AxCut.Prog) (args : List Word) (hooks : Bool) (counter : Nat) (text : String)
    (nargs : Nat) (d0 : Def)
    (hsafe : LabelSafe p = true) (htp : LinTypedProg p) (hsize : C08_sizeCheck p = true)
    (hcompX : compileRoutine p hooks counter = .ok (nargs, text))
    (hfitX : ∀ instrs, intoRoutine instrs = text → codeBase + 4 * instrs.length < 2 ^ 64)
    (hload : ∀ instrs, intoRoutine instrs = text → C08_TextLoads instrs)
    (hd : p.defs.head? = some d0) (hentry : ∀ b ∈ d0.ctx, b.chi = .ext ∧ b.ty = .i64)
    (hcap : ∀ st, Reachable p ⟨d0.ctx, args.map .int, d0.body⟩ st → st.ctx.length ≤ maxVariables)
    (fuel : Nat) (v : Word)
    (hrun : (Pos.run p args fuel).res = .done v)
    (mc : MonCfg) (hheap : mc.heap = false) (hwf : mc.wf = false) (htop : heapBase + mc.heapBytes ≤ 2 ^ 63)
    (hbytes : 128 + 64 * 15 * fuel ≤ mc.heapBytes) :
    ∃ fuel', (run text args fuel' mc).res = .done v := by
  unfold compileRoutine at hcompX
  cases hx : (compile rvBackend hooks p).run counter with
  | error e => rw [hx] at hcompX; cases hcompX
  | ok r =>
    obtain ⟨⟨instrs, nargs'⟩, cX⟩ := r
    rw [hx] at hcompX
    simp only [Except.ok.injEq, Prod.mk.injEq] at hcompX
    obtain ⟨rfl, rfl⟩ := hcompX
    obtain ⟨lines, hparse, hlines, hhook⟩ := hload instrs rfl
    obtain ⟨fuel', hf⟩ := C08_programs_checked p args hooks instrs [Code.COMMENT "actual code"] nargs' cX d0
      hsafe htp hsize hx (hfitX instrs rfl) hd hentry hcap fuel v hrun mc hheap htop hbytes
      lines (fun c hc => by simp at hc; subst hc; rfl) hlines hhook
    exact ⟨fuel', by rw [run_eq_runLines hparse args fuel' mc hwf]; exact hf⟩

/-- the closures inside a value: the bodies of their methods stay within `k` variables (in the context
`clause context ++ closure environment`, as `ctxWithinStmt` checks them at `create`) -/
inductive ValLive (k : Nat) : Value → Prop where
  | int (n : Word) : ValLive k (.int n)
  | obj (tag : Nat) (fields : List Value) : (∀ v ∈ fields, ValLive k v) → ValLive k (.obj tag fields)
  | clo (ec : Ctx) (env : List Value) (cl : Clauses) : (∀ v ∈ env, ValLive k v) →
      ctxWithinClauses k cl [] ec = true → ValLive k (.clo ec env cl)

theorem mem_of_mem_dropLast' {α : Type} {l : List α} {a : α} (h : a ∈ l.dropLast) : a ∈ l := by
  rw [List.dropLast_eq_take] at h
  exact List.mem_of_mem_take h

/-- one step of the positional machine keeps the static invariant, for ALL statements: the statement stays
within `k` variables, and so do the method bodies of every closure in the environment -/
theorem liveInv_step_all {k : Nat} {p : AxCut.Prog} (hlive : LiveAtMost k p)
    {st st' : Pos.State} {o : Option (Bool × Word)} (hs : Pos.step p st = .next st' o)
    (h1 : ctxWithinStmt k st.stmt st.ctx = true) (h2 : ∀ v ∈ st.env, ValLive k v) :
    ctxWithinStmt k st'.stmt st'.ctx = true ∧ ∀ v ∈ st'.env, ValLive k v := by
  obtain ⟨Γ, ρ, s⟩ := st
  simp only at h1 h2
  have hsnoc : ∀ (ρ0 : List Value) (w : Value), (∀ v ∈ ρ0, ValLive k v) → ValLive k w →
      ∀ v ∈ ρ0 ++ [w], ValLive k v := by
    intro ρ0 w h0 hw v hv
    rcases List.mem_append.1 hv with hv | hv
    · exact h0 v hv
    · simp only [List.mem_singleton] at hv; subst hv; exact hw
  cases s with
  | lit x n next fv =>
    simp only [Pos.step, Pos.StepResult.next.injEq] at hs
    obtain ⟨rfl, _⟩ := hs
    simp only [ctxWithinStmt, Bool.and_eq_true] at h1 ⊢
    exact ⟨h1.2, hsnoc ρ _ h2 (.int _)⟩
  | op x a o' b next fv =>
    simp only [Pos.step] at hs
    split at hs
    · cases hs
    · split at hs
      · cases hs
      · split at hs
        · cases hs
        · simp only [Pos.StepResult.next.injEq] at hs
          obtain ⟨rfl, _⟩ := hs
          simp only [ctxWithinStmt, Bool.and_eq_true] at h1 ⊢
          exact ⟨h1.2, hsnoc ρ _ h2 (.int _)⟩
  | print nl a next fv =>
    simp only [Pos.step] at hs
    split at hs
    · cases hs
    · simp only [Pos.StepResult.next.injEq] at hs
      obtain ⟨rfl, _⟩ := hs
      simp only [ctxWithinStmt, Bool.and_eq_true] at h1 ⊢
      exact ⟨h1.2, h2⟩
  | ifc srt a b t e =>
    simp only [ctxWithinStmt, Bool.and_eq_true] at h1
    simp only [Pos.step] at hs
    split at hs
    · cases hs
    · split at hs
      · simp only [Pos.StepResult.next.injEq] at hs
        obtain ⟨rfl, _⟩ := hs
        simp only
        refine ⟨?_, h2⟩
        split
        · exact h1.1.2
        · exact h1.2
      · split at hs
        · cases hs
        · simp only [Pos.StepResult.next.injEq] at hs
          obtain ⟨rfl, _⟩ := hs
          simp only
          refine ⟨?_, h2⟩
          split
          · exact h1.1.2
          · exact h1.2
  | exit a =>
    simp only [Pos.step] at hs
    split at hs <;> cases hs
  | letS x ty tag args next fv =>
    simp only [Pos.step] at hs
    split at hs
    · cases hs
    · split at hs
      · cases hs
      · simp only [Pos.StepResult.next.injEq] at hs
        obtain ⟨rfl, _⟩ := hs
        simp only [ctxWithinStmt, Bool.and_eq_true] at h1 ⊢
        refine ⟨h1.2, hsnoc _ _ (fun v hv => h2 v (List.mem_of_mem_take hv)) ?_⟩
        exact .obj _ _ (fun v hv => h2 v (List.mem_of_mem_drop hv))
  | switch x ty clauses fv =>
    simp only [ctxWithinStmt, Bool.and_eq_true] at h1
    simp only [Pos.step] at hs
    split at hs
    · rename_i b v hb hv
      split at hs
      · cases hs
      · split at hs
        · rename_i pos fields
          split at hs
          · cases hs
          · rename_i c hc
            split at hs
            · cases hs
            · simp only [Pos.StepResult.next.injEq] at hs
              obtain ⟨rfl, _⟩ := hs
              simp only
              have := ctxWithinClauses_nth k clauses Γ.dropLast [] _ c h1.2 hc
              rw [List.append_nil] at this
              refine ⟨this, ?_⟩
              have hvm : Value.obj pos fields ∈ ρ := List.mem_of_getLast? hv
              have hvl := h2 _ hvm
              intro w hw
              rcases List.mem_append.1 hw with hw | hw
              · exact h2 w (mem_of_mem_dropLast' hw)
              · cases hvl with
                | obj _ _ hf => exact hf w hw
        · cases hs
    · cases hs
  | create x ty env clauses next fc fn =>
    simp only [Pos.step] at hs
    cases env with
    | none => simp at hs
    | some Γc =>
      simp only at hs
      split at hs
      · cases hs
      · simp only [Pos.StepResult.next.injEq] at hs
        obtain ⟨rfl, _⟩ := hs
        simp only [ctxWithinStmt, Option.getD_some, Bool.and_eq_true] at h1 ⊢
        refine ⟨h1.2, hsnoc _ _ (fun v hv => h2 v (List.mem_of_mem_take hv)) ?_⟩
        exact .clo _ _ _ (fun v hv => h2 v (List.mem_of_mem_drop hv)) h1.1.2
  | invoke x tag ty args =>
    simp only [Pos.step] at hs
    split at hs
    · rename_i b v hb hv
      split at hs
      · cases hs
      · split at hs
        · rename_i Γc ρc cls
          split at hs
          · cases hs
          · split at hs
            · cases hs
            · rename_i pos hpos c hc
              split at hs
              · cases hs
              · simp only [Pos.StepResult.next.injEq] at hs
                obtain ⟨rfl, _⟩ := hs
                simp only
                have hvm : Value.clo Γc ρc cls ∈ ρ := List.mem_of_getLast? hv
                have hvl := h2 _ hvm
                cases hvl with
                | clo _ _ _ henv hcl =>
                  have := ctxWithinClauses_nth k cls [] Γc _ c hcl hc
                  rw [List.nil_append] at this
                  refine ⟨this, ?_⟩
                  intro w hw
                  rcases List.mem_append.1 hw with hw | hw
                  · exact h2 w (mem_of_mem_dropLast' hw)
                  · exact henv w hw
        · cases hs
    · cases hs
  | call l args =>
    simp only [Pos.step] at hs
    split at hs
    · cases hs
    · rename_i d hd
      split at hs
      · cases hs
      · simp only [Pos.StepResult.next.injEq] at hs
        obtain ⟨rfl, _⟩ := hs
        have hdm : d ∈ p.defs := List.mem_of_find?_eq_some hd
        exact ⟨hlive d hdm, h2⟩
  | subst pairs next =>
    simp only [Pos.step] at hs
    split at hs
    · cases hs
    · rename_i vs hb
      simp only [Pos.StepResult.next.injEq] at hs
      obtain ⟨rfl, _⟩ := hs
      simp only [ctxWithinStmt, Bool.and_eq_true] at h1 ⊢
      exact ⟨h1.2, fun v hv => h2 v ((Pos.build_mem pairs vs hb).2 v hv)⟩

/-- THE CAPACITY HYPOTHESIS FROM THE STATIC BOUND, FOR ALL PROGRAMS: in a program with at most `k` simultaneously
live variables (`LiveAtMost`, the hypothesis of `C08_statement`: at `create` it checks the method bodies in the
context `clause context ++ closure environment`), every state the positional machine reaches from the entry of a
definition with integer arguments has at most `k` variables -/
theorem C08_capacity_of_liveAtMost_all {k : Nat} {p : AxCut.Prog} (hlive : LiveAtMost k p)
    {d0 : Def} (hd0 : d0 ∈ p.defs) (args : List Word) :
    ∀ st, Reachable p ⟨d0.ctx, args.map .int, d0.body⟩ st → st.ctx.length ≤ k := by
  intro st hr
  have key : ctxWithinStmt k st.stmt st.ctx = true ∧ ∀ v ∈ st.env, ValLive k v := by
    induction hr with
    | refl =>
      refine ⟨hlive d0 hd0, ?_⟩
      intro v hv
      obtain ⟨n, _, rfl⟩ := List.mem_map.1 hv
      exact .int n
    | step _ hs ih => exact liveInv_step_all hlive hs ih.1 ih.2
  exact ctxWithin_length key.1

set_option linter.unusedVariables false in
/-- the run theorem `programs_lines` for closure-free programs with the static hypothesis `LiveAtMost maxVariables p`
of the C08 statement in place of the bound on the reachable states (`C08_programs` with `C08_capacity_of_liveAtMost_all`; `hcf` and `hpf` are not used: the invariant covers closures, and a
`print` makes `hcompX` fail) -/
theorem C08_data_programs_live (p : AxCut.Prog) (args : List Word) (hooks : Bool) (instrs hdr : List Code)
    (nargs cX : Nat) (d0 : Def) (ops : List MockOp) (c' : Nat)
    (hsafe : LabelSafe p = true) (htp : LinTypedProg p) (hcf : ClosureFree p) (hpf : PrintFree p)
    (hlive : LiveAtMost maxVariables p)
    (hcompM : (compile mockSym hooks p).run 0 = .ok ((ops, nargs), c')) (hfit : CodeFits ops)
    (hcompX : (compile rvBackend hooks p).run 0 = .ok ((instrs, nargs), cX))
    (hnd : (labs (instrs ++ [Code.LAB "cleanup"])).Nodup) (hfitX : codeBase + 4 * instrs.length < 2 ^ 64)
    (hd : p.defs.head? = some d0) (hentry : ∀ b ∈ d0.ctx, b.chi = .ext ∧ b.ty = .i64)
    (fuel : Nat) (v : Word) (hfuel : fuel + 1 < 2 ^ 64)
    (hrun : (Pos.run p args fuel).res = .done v)
    (mc : MonCfg) (hheap : mc.heap = false) (htop : heapBase + mc.heapBytes ≤ 2 ^ 63)
    (hbytes : 128 + 64 * 15 * fuel ≤ mc.heapBytes)
    (lines : List (Nat × Code)) (hhdr : ∀ c ∈ hdr, c.isComment = true)
    (hlines : (lines.map (·.2)).map stripC = (hdr ++ instrs ++ [Code.LAB "cleanup"]).map stripC)
    (hhook : ∀ x ∈ lines, ¬ badHook x.2) :
    ∃ fuel', (runLines lines args fuel' mc).res = .done v := by
  have hmem : d0 ∈ p.defs := List.mem_of_mem_head? hd
  exact programs_lines p args hooks instrs hdr nargs cX d0 ops c' hsafe htp hcompM hfit hcompX hnd hfitX
    hd hentry (C08_capacity_of_liveAtMost_all hlive hmem args) fuel v hfuel hrun mc hheap htop hbytes lines hhdr hlines
    hhook

/-- the static bound of the C08 statement holds for the box program: at most 14 (here: 3) live variables -/
theorem C08_boxProg_live : LiveAtMost maxVariables C08_boxProg := by
  intro d hd
  simp only [C08_boxProg, List.mem_singleton] at hd
  subst hd
  rfl

/-- … so `C08_data_programs_live` applies as well -/
example : ∃ fuel', (runLines (canonLines [Code.COMMENT "actual code"] C08_boxInstrs) [21] fuel' {}).res = .done 42 := by
  obtain ⟨c', hcompM⟩ := C08_boxOps_compiled
  obtain ⟨cX, hcompX⟩ := C08_boxInstrs_compiled
  have hrun := C08_boxProg_run
  exact C08_data_programs_live C08_boxProg [21] true C08_boxInstrs [Code.COMMENT "actual code"] 1 cX C08_boxMain
    C08_boxOps c' C08_boxProg_labelSafe (linTypedCheck_sound C08_boxProg rfl) C08_boxProg_closureFree
    C08_boxProg_printFree C08_boxProg_live hcompM C08_boxOps_fits hcompX C08_boxInstrs_nodup C08_boxInstrs_fits rfl
    C08_boxMain_entry
    20 42 (by decide) hrun {} rfl (by decide)
    (by decide) _ (fun c hc => by simp at hc; subst hc; rfl) (canonLines_codes _ _) (canonLines_hooks _ _)

/-- `C08_programs_checked` with the STATIC hypothesis `LiveAtMost maxVariables p` of the C08 statement in place of
the bound on the reachable states: all hypotheses are decidable checks on the program, the emitted code and the
machine configuration, besides the run of the positional machine itself -/
theorem C08_programs_live (p : AxCut.Prog) (args : List Word) (hooks : Bool) (instrs hdr : List Code)
    (nargs cX : Nat) (d0 : Def)
    (hsafe : LabelSafe p = true) (htp : LinTypedProg p) (hsize : C08_sizeCheck p = true)
    (hlive : LiveAtMost maxVariables p)
    {counter : Nat} (hcompX : (compile rvBackend hooks p).run counter = .ok ((instrs, nargs), cX))
    (hfitX : codeBase + 4 * instrs.length < 2 ^ 64)
    (hd : p.defs.head? = some d0) (hentry : ∀ b ∈ d0.ctx, b.chi = .ext ∧ b.ty = .i64)
    (fuel : Nat) (v : Word)
    (hrun : (Pos.run p args fuel).res = .done v)
    (mc : MonCfg) (hheap : mc.heap = false) (htop : heapBase + mc.heapBytes ≤ 2 ^ 63)
    (hbytes : 128 + 64 * 15 * fuel ≤ mc.heapBytes)
    (lines : List (Nat × Code)) (hhdr : ∀ c ∈ hdr, c.isComment = true)
    (hlines : (lines.map (·.2)).map stripC = (hdr ++ instrs ++ [Code.LAB "cleanup"]).map stripC)
    (hhook : ∀ x ∈ lines, ¬ badHook x.2) :
    ∃ fuel', (runLines lines args fuel' mc).res = .done v := by
  have hmem : d0 ∈ p.defs := List.mem_of_mem_head? hd
  exact C08_programs_checked p args hooks instrs hdr nargs cX d0 hsafe htp hsize hcompX hfitX hd hentry
    (C08_capacity_of_liveAtMost_all hlive hmem args) fuel v hrun mc hheap htop hbytes lines hhdr hlines hhook

/-- END TO END FOR ALL PROGRAMS, on the parsed LINES of the emitted routine, FULL STRENGTH: without the two remaining
side hypotheses (routine below 2^64, the size check of the program), with the heap bound existentially quantified.
Proved with these decidable side hypotheses as `C08_programs_checked`. -/
def C08_programs_statement : Prop :=
  ∀ (p : AxCut.Prog) (args : List Word) (hooks : Bool) (instrs hdr : List Code) (nargs cX : Nat) (d0 : Def),
    LabelSafe p = true → LinTypedProg p →
    ∀ (counter : Nat), (compile rvBackend hooks p).run counter = .ok ((instrs, nargs), cX) →
    p.defs.head? = some d0 → (∀ b ∈ d0.ctx, b.chi = .ext ∧ b.ty = .i64) →
    (∀ st, Reachable p ⟨d0.ctx, args.map .int, d0.body⟩ st → st.ctx.length ≤ maxVariables) →
    ∀ (fuel : Nat) (v : Word), (Pos.run p args fuel).res = .done v →
    ∃ heapBytes, ∀ (mc : MonCfg), mc.heap = false → heapBase + mc.heapBytes ≤ 2 ^ 63 →
      heapBytes ≤ mc.heapBytes →
      ∀ (lines : List (Nat × Code)), (∀ c ∈ hdr, c.isComment = true) →
      (lines.map (·.2)).map stripC = (hdr ++ instrs ++ [Code.LAB "cleanup"]).map stripC →
      (∀ x ∈ lines, ¬ badHook x.2) →
      ∃ fuel', (runLines lines args fuel' mc).res = .done v

/-! ### non-vacuity 1: a closure stored in an object, loaded again, invoked (one method: `JALR`) -/

def C08_tFun : Ty := .decl ⟨"Fun", 0⟩
def C08_funDecl : TypeDecl := { name := ⟨"Fun", 0⟩, xtors := [⟨⟨"Ap", 0⟩, [⟨⟨"a", 202⟩, .ext, .i64⟩]⟩] }
def C08_tBoxF : Ty := .decl ⟨"BoxF", 0⟩
def C08_boxFDecl : TypeDecl := { name := ⟨"BoxF", 0⟩, xtors := [⟨⟨"B", 0⟩, [⟨⟨"v", 203⟩, .cns, C08_tFun⟩]⟩] }

/-- main(x) { create f : Fun = (x){ Ap(a) => s <- a + x; exit s }; let b = B(f);
      switch b { B(g) => lit n <- 5; subst (n := n)(g := g); invoke g Ap } } -/
def C08_cloMain : Def :=
  { name := ⟨"main", 0⟩, ctx := [⟨⟨"x", 1⟩, .ext, .i64⟩],
    body := .create ⟨"f", 2⟩ C08_tFun (some [⟨⟨"x", 1⟩, .ext, .i64⟩])
      (.cons ⟨"Ap", 0⟩ [⟨⟨"a", 3⟩, .ext, .i64⟩]
        (.op ⟨"s", 4⟩ ⟨"a", 3⟩ .sum ⟨"x", 1⟩ (.exit ⟨"s", 4⟩) none) .nil)
      (.letS ⟨"b", 5⟩ C08_tBoxF ⟨"B", 0⟩ [⟨⟨"f", 2⟩, .cns, C08_tFun⟩]
        (.switch ⟨"b", 5⟩ C08_tBoxF
          (.cons ⟨"B", 0⟩ [⟨⟨"g", 6⟩, .cns, C08_tFun⟩]
            (.lit ⟨"n", 7⟩ 5
              (.subst [(⟨⟨"n", 8⟩, .ext, .i64⟩, ⟨"n", 7⟩), (⟨⟨"g", 9⟩, .cns, C08_tFun⟩, ⟨"g", 6⟩)]
                (.invoke ⟨"g", 9⟩ ⟨"Ap", 0⟩ C08_tFun [⟨⟨"n", 8⟩, .ext, .i64⟩])) none) .nil) none) none) none none }

def C08_cloProg : AxCut.Prog := { defs := [C08_cloMain], types := [C08_funDecl, C08_boxFDecl], maxId := 205 }

def C08_cloInstrs : List Code :=
  match (compile rvBackendF true C08_cloProg).run 0 with
  | .ok ((code, _), _) => code
  | .error _ => []

theorem C08_cloInstrs_compiled : ∃ k, (compile rvBackend true C08_cloProg).run 0 = .ok ((C08_cloInstrs, 1), k) := by
  rw [← rvBackendF_eq]; exact ⟨_, rfl⟩

set_option maxRecDepth 100000 in
theorem C08_cloInstrs_fits : codeBase + 4 * C08_cloInstrs.length < 2 ^ 64 := by decide

theorem C08_cloProg_labelSafe : LabelSafe C08_cloProg = true := by decide

theorem C08_cloProg_sizeCheck : C08_sizeCheck C08_cloProg = true := by decide

theorem C08_cloMain_entry : ∀ b ∈ C08_cloMain.ctx, b.chi = .ext ∧ b.ty = .i64 := by decide

theorem C08_cloProg_run : (Pos.run C08_cloProg [37] 20).res = .done 42 := by decide

/-- the closure program started with x = 37: every hypothesis of `C08_programs_checked` holds, so the RV64
machine on the (canonical) lines of the emitted routine reaches `cleanup` with 42 in `X10` -/
example : ∃ fuel', (runLines (canonLines [Code.COMMENT "actual code"] C08_cloInstrs) [37] fuel' {}).res = .done 42 := by
  obtain ⟨cX, hcompX⟩ := C08_cloInstrs_compiled
  have hrun := C08_cloProg_run
  exact C08_programs_checked C08_cloProg [37] true C08_cloInstrs [Code.COMMENT "actual code"] 1 cX C08_cloMain
    C08_cloProg_labelSafe (linTypedCheck_sound C08_cloProg rfl) C08_cloProg_sizeCheck
    hcompX C08_cloInstrs_fits rfl C08_cloMain_entry
    (C08_capacity_of_run C08_cloProg 20 _ (by decide) (by decide)) 20 42 hrun {} rfl (by decide)
    (by decide) _ (fun c hc => by simp at hc; subst hc; rfl) (canonLines_codes _ _) (canonLines_hooks _ _)

/-! ### non-vacuity 2: two methods (`add_and_jump` through the method table) -/

def C08_tOps : Ty := .decl ⟨"Ops", 0⟩
def C08_opsDecl : TypeDecl := { name := ⟨"Ops", 0⟩, xtors := [⟨⟨"Add", 0⟩, [⟨⟨"a", 204⟩, .ext, .i64⟩]⟩, ⟨⟨"Mul", 0⟩, [⟨⟨"a", 205⟩, .ext, .i64⟩]⟩] }

/-- main(x) { create p : Ops = (x){ Add(a) => s <- a + x; exit s, Mul(a) => s <- a * x; exit s };
      lit n <- 2; subst (n := n)(p := p); invoke p Mul } -/
def C08_opsMain : Def :=
  { name := ⟨"main", 0⟩, ctx := [⟨⟨"x", 1⟩, .ext, .i64⟩],
    body := .create ⟨"p", 2⟩ C08_tOps (some [⟨⟨"x", 1⟩, .ext, .i64⟩])
      (.cons ⟨"Add", 0⟩ [⟨⟨"a", 3⟩, .ext, .i64⟩]
        (.op ⟨"s", 4⟩ ⟨"a", 3⟩ .sum ⟨"x", 1⟩ (.exit ⟨"s", 4⟩) none)
        (.cons ⟨"Mul", 0⟩ [⟨⟨"a", 5⟩, .ext, .i64⟩]
          (.op ⟨"s", 6⟩ ⟨"a", 5⟩ .prod ⟨"x", 1⟩ (.exit ⟨"s", 6⟩) none) .nil))
      (.lit ⟨"n", 7⟩ 2
        (.subst [(⟨⟨"n", 8⟩, .ext, .i64⟩, ⟨"n", 7⟩), (⟨⟨"p", 9⟩, .cns, C08_tOps⟩, ⟨"p", 2⟩)]
          (.invoke ⟨"p", 9⟩ ⟨"Mul", 0⟩ C08_tOps [⟨⟨"n", 8⟩, .ext, .i64⟩])) none) none none }

def C08_opsProg : AxCut.Prog := { defs := [C08_opsMain], types := [C08_opsDecl], maxId := 205 }

def C08_opsInstrs : List Code :=
  match (compile rvBackendF true C08_opsProg).run 0 with
  | .ok ((code, _), _) => code
  | .error _ => []

theorem C08_opsInstrs_compiled : ∃ k, (compile rvBackend true C08_opsProg).run 0 = .ok ((C08_opsInstrs, 1), k) := by
  rw [← rvBackendF_eq]; exact ⟨_, rfl⟩

set_option maxRecDepth 100000 in
theorem C08_opsInstrs_fits : codeBase + 4 * C08_opsInstrs.length < 2 ^ 64 := by decide

theorem C08_opsProg_labelSafe : LabelSafe C08_opsProg = true := by decide

theorem C08_opsProg_sizeCheck : C08_sizeCheck C08_opsProg = true := by decide

theorem C08_opsMain_entry : ∀ b ∈ C08_opsMain.ctx, b.chi = .ext ∧ b.ty = .i64 := by decide

theorem C08_opsProg_run : (Pos.run C08_opsProg [21] 20).res = .done 42 := by decide

/-- the two-method program started with x = 21: the RV64 machine reaches `cleanup` with 42 in `X10` -/
example : ∃ fuel', (runLines (canonLines [Code.COMMENT "actual code"] C08_opsInstrs) [21] fuel' {}).res = .done 42 := by
  obtain ⟨cX, hcompX⟩ := C08_opsInstrs_compiled
  have hrun := C08_opsProg_run
  exact C08_programs_checked C08_opsProg [21] true C08_opsInstrs [Code.COMMENT "actual code"] 1 cX C08_opsMain
    C08_opsProg_labelSafe (linTypedCheck_sound C08_opsProg rfl) C08_opsProg_sizeCheck
    hcompX C08_opsInstrs_fits rfl C08_opsMain_entry
    (C08_capacity_of_run C08_opsProg 20 _ (by decide) (by decide)) 20 42 hrun {} rfl (by decide)
    (by decide) _ (fun c hc => by simp at hc; subst hc; rfl) (canonLines_codes _ _) (canonLines_hooks _ _)

/-- the static bound of the C08 statement holds for the two closure programs … -/
theorem C08_cloProg_live : LiveAtMost maxVariables C08_cloProg := by
  intro d hd
  simp only [C08_cloProg, List.mem_singleton] at hd
  subst hd
  rfl

theorem C08_opsProg_live : LiveAtMost maxVariables C08_opsProg := by
  intro d hd
  simp only [C08_opsProg, List.mem_singleton] at hd
  subst hd
  rfl

/-- … so `C08_programs_live` applies: all hypotheses are checks, and the run -/
example : ∃ fuel', (runLines (canonLines [Code.COMMENT "actual code"] C08_cloInstrs) [37] fuel' {}).res = .done 42 := by
  obtain ⟨cX, hcompX⟩ := C08_cloInstrs_compiled
  have hrun := C08_cloProg_run
  exact C08_programs_live C08_cloProg [37] true C08_cloInstrs [Code.COMMENT "actual code"] 1 cX C08_cloMain
    C08_cloProg_labelSafe (linTypedCheck_sound C08_cloProg rfl) C08_cloProg_sizeCheck C08_cloProg_live
    hcompX C08_cloInstrs_fits rfl C08_cloMain_entry 20 42 hrun {} rfl (by decide)
    (by decide) _ (fun c hc => by simp at hc; subst hc; rfl) (canonLines_codes _ _) (canonLines_hooks _ _)

example : ∃ fuel', (runLines (canonLines [Code.COMMENT "actual code"] C08_opsInstrs) [21] fuel' {}).res = .done 42 := by
  obtain ⟨cX, hcompX⟩ := C08_opsInstrs_compiled
  have hrun := C08_opsProg_run
  exact C08_programs_live C08_opsProg [21] true C08_opsInstrs [Code.COMMENT "actual code"] 1 cX C08_opsMain
    C08_opsProg_labelSafe (linTypedCheck_sound C08_opsProg rfl) C08_opsProg_sizeCheck C08_opsProg_live
    hcompX C08_opsInstrs_fits rfl C08_opsMain_entry 20 42 hrun {} rfl (by decide)
    (by decide) _ (fun c hc => by simp at hc; subst hc; rfl) (canonLines_codes _ _) (canonLines_hooks _ _)

#print axioms Scc.RV.C08_create_rv
#print axioms Scc.RV.C08_invoke_rv
#print axioms Scc.RV.C08_programs
#print axioms Scc.RV.C08_programs_checked
#print axioms Scc.RV.C08_rv_setup
#print axioms Scc.RV.C08_programs_text
#print axioms Scc.RV.C08_capacity_of_liveAtMost_all
#print axioms Scc.RV.C08_programs_live
#print axioms Scc.RV.C08_data_programs_live
#print axioms Scc.RV.C08_boxProg_live

end Scc.RV

#print axioms Scc.RV.C08_codeFits_of_size
#print axioms Scc.RV.C08_compile_nargs
#print axioms Scc.RV.mem_of_mem_dropLast'
#print axioms Scc.RV.liveInv_step_all
#print axioms Scc.RV.Ref.labels_unique_rv
#print axioms Scc.RV.C08_cloInstrs_fits
#print axioms Scc.RV.C08_opsInstrs_fits
#print axioms Scc.RV.C08_cloProg_live
#print axioms Scc.RV.C08_opsProg_live
