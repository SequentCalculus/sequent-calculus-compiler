/-
  Scc.Props.C07A64Heap — property C07 (AArch64 code generation preserves AxCut semantics), Theorem B for
  AArch64 WITH THE HEAP: allocation (`let`), pattern matching (`switch`) and weakening /
  contraction of object variables (`subst`) on data types.  The AArch64 analogue of Props/C06X86Heap.lean.

  The relation is THREE-WAY at statement boundaries (Scc/A64/RefHeapDefs.lean):
        AxCut positional machine  ⟷  abstract backend machine  ⟷  AArch64 machine
  * left half: Theorem A's `Sim2.RelX` (C06Generic) — reused as it is, statement by statement;
  * right half: `X3 c Γ cfg hs ι σ out` — typed by the context `Γ` (an integer is the same word on both
    machines, the tag of an object is the xtor position `n` on the abstract machine and `jump_length n =
    4·n` on AArch64, a reference is an object id resp. the address `ι id` of the head block); both parts of
    position i in `posTemp (2i)`, `posTemp (2i+1)` (X4…X29 logical / spill slots, capacity 281); the
    abstract heap is represented by the machine memory through the heap refinement `HRef`
    (Scc/Heap/RefineDefs.lean) composed with the memory contracts' `HeapRel` (Scc/A64/MemProofsHeap.lean); SP
    and the callee-save area as in the integer fragment (`CC.Core`);
  * code: the code at the machine's position is the code the generator emits for the current statement in
    the current context from SOME label counter (`XAt`, list positions of the routine; the machine's
    program counter is `pcOf`: the number of items before the position).

  The proofs go through the closure-aware relation `Ref.K.X3` (all programs): the relation here is that one plus the
  invariant `Same` (Scc/A64/RefHeapOfClos.lean), and each statement below is, between `X3R.toK` and `K.X3R.toData`,
  the lemma of the generic three-way stack (Scc/Backend/ThreeWay*.lean) at the AArch64 machine
  (Scc/A64/ThreeWayTarget.lean, ThreeWayNav.lean) — except `C07_switch_a64`, which has no hypothesis about the end
  of the routine and is put together from the two parts of `ThreeWay.switch_x3` at the plain machine: the
  navigation (`switch_nav_abs`, `K.switch_nav_a64`) and the load (`ThreeWay.load_mid`).
  The argument `fun _ => True` of `K.machine` is the guard under which a run of the machine also carries what
  holds at the states strictly between two statement boundaries (the subject of the heap-monitor theorems,
  Props/C09A64Mon.lean); the statements here drop that component.

  PROVED (no `sorry`, axioms: propext, Classical.choice, Quot.sound):
  * `C07_store_refines`, `C07_load_refines`, `C07_erase_refines`, `C07_share_refines`: the four heap
    operations of the abstract machine against the emitted `Memory::store` / `load` / `erase_block` /
    `share_block_n` (memory contracts ∘ heap refinement); the "no overflow" side conditions of the shared
    branch of `load` and of `share_block_n` are DISCHARGED from the counting invariant.
  * `C07_let_a64`, `C07_switch_a64`, `C07_subst_a64`: three-way simulation of the three statements.  On
    AArch64 there is NO literal-range hypothesis (MOVZ/MOVK materialise every i64; the tag `4·n` needs no
    `fitsI64`), and the jump through the table (`ADR; ADD; BR`) is justified by PROVED layout facts on
    instruction offsets and entries (`C07_holdsA_layout`, `C07_table_layout`); moreover
    `C07_table_layout_statement` PROVES `C14_table_layout_statement`, which Props/C14A64.lean keeps as a
    `def : Prop` (Scc/A64/RefTableLayout.lean: a fold invariant of `layout` on arbitrary parsed lines).
  * `C07_step_a64` (`step3`): Theorem A's `TheoremA_full` with the machine carried along, for every
    statement form of programs without closures (lit, op, print, ifc, exit, call, subst, let, switch).
  * `C07_data_programs` / `C07_data_programs_text`: END TO END for programs with data types (no closures)
    on the program laid out from lines that are the emitted routine, and on `A64.run` of the PRINTED
    TEXT.  The heap frontier is tracked along the run (`FrLe` / `Room`): 64·141 bytes per step suffice.
    The success of the MOCK generator (needed by Theorem A) is PROVED from linear typing
    (`Backend.Total.mock_compile_ok`, Scc/Backend/TotalMock.lean; restated as `C07_mock_compile_ok`), not assumed.
  `C07_data_programs_statement` (a `def : Prop`): the run theorem without the side hypotheses of
  `C07_data_programs` (`CodeFits` of the mock code, pairwise distinct labels of the routine, routine below 2^64,
  contexts of at most 140 variables).  Props/C07A64Full.lean derives them from checks on the program and proves the
  statement in that form (`C07_data_programs_statement_checked_holds`).
-/
import Scc.A64.RefClosHRun
import Scc.Backend.TotalMock
import Scc.A64.RefTableLayout
import Scc.Props.C07A64Int
import Scc.Props.C14A64
import Scc.A64.RefSideLabels
import Scc.A64.RefSide

namespace Scc.A64
open Scc.AxCut Scc.AxCut.Pos Scc.Backend Scc.Backend.Abs Scc.Backend.Sim Scc.Backend.Sim2 Scc.A64.Ref
open Scc.Backend.Subst (rp)
open Scc.Heap (HState InvS)
open Scc.Heap.Refine (FrLe Room loadAbs)
open Scc.A64.CC (CfgCC cfgCC_default Holds Lines holds_layout hkOf)
open Scc.A64.Loader (hookVarsOf)
open Scc.Heap.Refine (room_init)
open Scc.A64.NoHk (hkq_total)

section Heap

variable {c : MemCfg} (H : CfgCC c) (h8 : c.heapBase % 8 = 0)

include H h8 in
/-- the abstract `store` (at least one field) against the emitted `Memory::store` -/
theorem C07_store_refines
    {Γ : Ctx} {cfg cfg1 : Config} {hs : HState} {ι : Nat → Nat} {σ : State} {out : List (Bool × Word)}
    (X : X3 c Γ cfg hs ι σ out) {n : Nat} (hn : n < Γ.length) {fields : List Abs.Field}
    (hf : readFields cfg.temps (Mock.kindsOf (Γ.drop n)) n = some fields)
    (hch : Obj.children ⟨0, fields⟩ = roots.go cfg.temps (Γ.drop n) n)
    (hnext : cfg.next < 2 ^ 64)
    (hlow : ∀ t, t < 2 * n → cfg1.temps.get t = cfg.temps.get t)
    (hheap : cfg1.heap = (cfg.next, ⟨0, fields⟩) :: cfg.heap) (hnx : cfg1.next = cfg.next + 1)
    (hout : cfg1.out = cfg.out)
    (hroom : Room hs (64 * (Γ.length - n) + 64)) (kk : Nat) :
    ∃ code kk', (store (Γ.drop n) (Γ.take n)).run kk = .ok (code, kk') ∧ kk ≤ kk' ∧ LabsIn code kk kk' ∧
      ∃ σ' hs' p, execFwd c code σ = .ok (σ', .next) ∧
        X3R c (Γ.take n) cfg1 (roots (Γ.take n) cfg.temps ++ [cfg.next]) hs'
          (fun i => if i = cfg.next then p else ι i) σ' out ∧
        σ'.tempVal (posTemp (2 * n)) = some (BitVec.ofNat 64 p) ∧ p ≠ 0 ∧ p < 2 ^ 64 ∧
        FrLe hs hs' (64 * (Γ.length - n)) := by
  obtain ⟨XK, S⟩ := X3R.toK X
  obtain ⟨code, kk', hrun, hle, hlabs, ⟨σ', out'⟩, hs', p, ⟨hx, rfl⟩, X', hp, hp0, hp64, hfr, hkeep, _⟩ :=
    ThreeWay.store_x3 (T := K.target c H h8) (K.x3_iff.1 XK) hn hf hch hnext hlow hheap hnx hout hroom kk
  replace X' := K.x3r_iff.2 X'
  replace hkeep : ∀ t, t < 2 * n → σ'.tempVal (posTemp t) = σ.tempVal (posTemp t) := hkeep
  refine ⟨code, kk', hrun, hle, hlabs, σ', hs', p, hx, K.X3R.toData X' ?_, hp, hp0, hp64, hfr⟩
  exact S.take (Nat.le_of_lt hn) ⟨hlow, fun i hi => hkeep _ (by omega)⟩ (by rw [hheap]; exact S.storeF hf)

include H h8 in
/-- the abstract `load` against the emitted `Memory::load` (`hne`, at least one field, is not used) -/
theorem C07_load_refines
    {Γ' Δ : Ctx} {b : Binding} {cfg cfg4 cfg' : Config} {hs : HState} {ι : Nat → Nat} {σ : State}
    {out : List (Bool × Word)} {r : Word} {o : Obj} {h' : Heap}
    (X : X3 c (Γ' ++ [b]) cfg hs ι σ out) (hb : b.chi ≠ .ext)
    (hr : cfg.temps.get (2 * Γ'.length) = some r) (hr0 : r ≠ 0)
    (hg : cfg.heap.get r.toNat = some o)
    (hk : o.fields.map (·.chi) = Mock.kindsOf Δ) (hne : o.fields ≠ [])
    (hcapΔ : 2 * (Γ'.length + Δ.length) ≤ 280)
    (h4next : cfg4.next = cfg.next) (h4out : cfg4.out = cfg.out)
    (h4temps : ∀ t, t < 2 * (Γ'.length + 1) → cfg4.temps.get t = cfg.temps.get t)
    (hlo : loadAbs cfg.heap r.toNat o = .ok h')
    (hcfg' : cfg' =
      { cfg4 with pc := cfg4.pc + 1, temps := writeFields (clobberTemp cfg4.temps) o.fields Γ'.length, heap := h' })
    (kk : Nat) :
    ∃ code kk', (load Δ Γ').run kk = .ok (code, kk') ∧ kk ≤ kk' ∧ LabsIn code kk kk' ∧
      ∃ σ' hs', execFwd c code σ = .ok (σ', .next) ∧
        X3 c (Γ' ++ Δ) cfg' hs' ι σ' out ∧ FrLe hs hs' 0 := by
  obtain ⟨XK, S⟩ := X3R.toK X
  obtain ⟨code, kk', hrun, hle, hlabs, ⟨σ', out'⟩, hs', ⟨hx, rfl⟩, X', hfr, LP⟩ :=
    ThreeWay.load_x3 (T := K.target c H h8) (K.x3_iff.1 XK) hb hr hr0 hg hk (show _ ≤ 281 by omega) h4next h4out
      h4temps hlo hcfg' kk
  replace X' := K.x3_iff.2 X'
  have LP' : Prov.LoadProv (K.tvOf σ) (K.tvOf σ') Γ'.length Δ cfg cfg' _ := LP.toT
  exact ⟨code, kk', hrun, hle, hlabs, σ', hs', hx, K.X3R.toData X' (S.load rfl LP'
    (S.flds.of_oldFields (by rw [hcfg']; exact Scc.Backend.Prov.oldFields_loadAbs hg hlo) X'.ids)), hfr⟩

include H h8 in
/-- the abstract `erase` against the emitted `Memory::erase_block` -/
theorem C07_erase_refines {Γ : Ctx} {cfg cfg1 : Config} {rsKeep : List Nat} {hs : HState} {ι : Nat → Nat}
    {σ : State} {out : List (Bool × Word)}
    {i : Nat} (hi : i < Γ.length) (hc : Γ[i].chi ≠ .ext) {p : Word}
    (X : X3R c Γ cfg (rsKeep ++ rp p) hs ι σ out)
    (hp : cfg.temps.get (2 * i) = some p) {h' : Heap} (he : cfg.heap.erase p = .ok h')
    (hcfg1 : cfg1 =
      { cfg with pc := cfg.pc + 1, temps := (clobberTemp cfg.temps).unset (2 * i), heap := h' })
    (kk : Nat) :
    ∃ code, (eraseBlock (posTemp (2 * i))).run kk = .ok (code, kk + 3) ∧
      ∃ σ' hs', execFwd c code σ = .ok (σ', .next) ∧
        X3R c Γ cfg1 rsKeep hs' ι σ' out ∧ FrLe hs hs' 0 := by
  obtain ⟨XK, S⟩ := X3R.toK X
  obtain ⟨code, hrun, ⟨σ', out'⟩, hs', ⟨hx, rfl⟩, X', hfr, hmk⟩ :=
    ThreeWay.erase_x3 (T := K.target c H h8) hi hc (K.x3r_iff.1 XK) hp he hcfg1 kk
  replace X' := K.x3r_iff.2 X'
  refine ⟨code, hrun, σ', hs', hx, K.X3R.toData X' ⟨fun j hj a hcj ha => ?_, ?_⟩, hfr⟩
  · have hcap := XK.cap
    show σ'.tempVal (posTemp (2 * j + 1)) = some a
    rw [show σ'.tempVal (posTemp (2 * j + 1)) = σ.tempVal (posTemp (2 * j + 1)) from hmk.tv _ (by show _ < 281; omega)]
    refine S.vars j hj a hcj ?_
    rw [hcfg1] at ha
    simp only at ha
    rwa [get_unset_other _ (by omega), get_clobberTemp _ (by unfold Mock.T_TEMP; omega)] at ha
  · exact S.flds.of_oldFields (by rw [hcfg1]; exact Scc.Backend.Prov.oldFields_erase he) X'.ids

include H h8 in
/-- the abstract `share` against the emitted `Memory::share_block_n`; the "no overflow" side condition of
the contract is discharged from the counting invariant -/
theorem C07_share_refines {Γ : Ctx} {cfg cfg1 : Config} {rs : List Nat} {hs : HState} {ι : Nat → Nat}
    {σ : State} {out : List (Bool × Word)}
    {i : Nat} (hi : i < Γ.length) (hc : Γ[i].chi ≠ .ext) {p : Word}
    (X : X3R c Γ cfg rs hs ι σ out) (hmem : p ≠ 0 → p.toNat ∈ rs) (hrs : rs.length ≤ 2 ^ 40)
    (hp : cfg.temps.get (2 * i) = some p) {k : Nat} (hk : k < 4096) {h' : Heap}
    (he : cfg.heap.share p k = .ok h')
    (hcfg1 : cfg1 = { cfg with pc := cfg.pc + 1, temps := clobberTemp cfg.temps, heap := h' })
    (kk : Nat) :
    ∃ code, (shareBlockN (posTemp (2 * i)) k).run kk = .ok (code, kk + 1) ∧
      ∃ σ' hs', execFwd c code σ = .ok (σ', .next) ∧
        X3R c Γ cfg1 (rs ++ (List.replicate k (rp p)).flatten) hs' ι σ' out ∧ FrLe hs hs' 0 := by
  obtain ⟨XK, S⟩ := X3R.toK X
  obtain ⟨code, hrun, ⟨σ', out'⟩, hs', ⟨hx, rfl⟩, X', hfr, hmk⟩ :=
    ThreeWay.share_x3 (T := K.target c H h8) hi hc (K.x3r_iff.1 XK) hmem hrs hp hk he hcfg1 kk
  replace X' := K.x3r_iff.2 X'
  refine ⟨code, hrun, σ', hs', hx, K.X3R.toData X' ⟨fun j hj a hcj ha => ?_, ?_⟩, hfr⟩
  · have hcap := XK.cap
    show σ'.tempVal (posTemp (2 * j + 1)) = some a
    rw [show σ'.tempVal (posTemp (2 * j + 1)) = σ.tempVal (posTemp (2 * j + 1)) from hmk.tv _ (by show _ < 281; omega)]
    refine S.vars j hj a hcj ?_
    rw [hcfg1] at ha
    simp only at ha
    rwa [get_clobberTemp _ (by unfold Mock.T_TEMP; omega)] at ha
  · exact S.flds.of_oldFields (by rw [hcfg1]; exact Scc.Backend.Prov.oldFields_share he) X'.ids

variable {hkf : Code → Bool} {Pm : Prog} {cs : List Code}

include H h8 in
/-- `let`: `ThreeWay.let_x3` at the AArch64 machine, read on the data-only relation `X3` — one step of the positional
    machine, two of the abstract machine, a run of the AArch64 machine; relation and code invariant hold again -/
theorem C07_let_a64 (Hp : Holds hkf Pm cs) (hnd : (labs cs).Nodup)
    {P : Program} {hooks : Bool} {prog : AxCut.Prog} {Γ : Ctx} {ρ : List Value} {x : Ident}
    {ty : Ty} {tag : Ident} {args : Ctx} {next : Stmt} {fv : FV} {cfg : Config} {pos : Nat}
    (R : RelX P hooks prog ⟨Γ, ρ, .letS x ty tag args next fv⟩ cfg)
    (hk : args.length ≤ Γ.length)
    (hfresh : ∀ b ∈ Γ.take (Γ.length - args.length), b.var.id ≠ x.id)
    (hpos : Pos.tagPosition prog.types ty tag = .ok pos)
    (hcap : 2 * (Γ.length - args.length + 1) + 2 < Mock.T_TEMP)
    (hnext : cfg.next < 2 ^ 64)
    {hs : HState} {ι : Nat → Nat} {σ : State} {out : List (Bool × Word)} {kp : Nat}
    (X : X3 c Γ cfg hs ι σ out)
    {k k' : Nat} {items : List Code}
    (hrun : (codeStatementR a64Backend hooks natRen prog.types (.letS x ty tag args next fv) Γ).run k =
      .ok (items, k'))
    (hat : XAt cs kp items)
    (hroom : Room hs (64 * args.length + 64)) :
    ∃ cfg' σ' hs' ι' kp', stepsTo P 2 cfg cfg' ∧
      MSteps Pm c σ (pcOf hkf cs kp) out σ' (pcOf hkf cs kp') out ∧ FrLe hs hs' (64 * args.length) ∧
      cfg'.out = cfg.out ∧ cfg'.next ≤ cfg.next + 1 ∧
      RelX P hooks prog ⟨Γ.take (Γ.length - args.length) ++ [⟨x, .prd, ty⟩],
        ρ.take (Γ.length - args.length) ++ [.obj pos (ρ.drop (Γ.length - args.length))], next⟩ cfg' ∧
      X3 c (Γ.take (Γ.length - args.length) ++ [⟨x, .prd, ty⟩]) cfg' hs' ι' σ' out ∧
      ∃ k1 k1' items', (codeStatementR a64Backend hooks natRen prog.types next
          (Γ.take (Γ.length - args.length) ++ [⟨x, .prd, ty⟩])).run k1 = .ok (items', k1') ∧
        XAt cs kp' items' := by
  obtain ⟨XK, S⟩ := X3R.toK X
  obtain ⟨cfg', ⟨σ', out'⟩, hs', ι', κ', kp', hst, hm, _, hfr, _, hout, hnx, R', X', k1, k1', items', hr, hat', LP⟩ :=
    ThreeWay.let_x3 (K.machine c H h8 hkf Pm (fun _ => True) cs Hp (hkq_total hkf) hnd) R hk hfresh hpos hcap hnext
      (K.X3.toT H h8 XK) hrun hat trivial hroom trivial
  obtain rfl : out' = out := (X'.out.trans hout).trans XK.out.symm
  replace X' := K.X3.ofT H h8 X'
  have LP' : Prov.LetProv (K.tvOf σ) (K.tvOf σ') Γ (Γ.length - args.length) cfg cfg' _ κ' := LP
  exact ⟨cfg', σ', hs', ι', kp', hst, hm.msteps, hfr, hout, hnx, R',
    K.X3R.toData X' (S.let (Nat.sub_le _ _) LP' (fun h => by cases h)), k1, k1', items', hr, hat'⟩

include H h8 in
/-- `switch` on an object: navigation through the jump table (`ADR; ADD; BR`), then `Memory::load` of the clause,
    read on `X3` -/
theorem C07_switch_a64 (HA : HoldsA hkf Pm cs) (hnd : (labs cs).Nodup)
    (hfitX : c.codeBase + 4 * ninstr cs < 2 ^ 64)
    {P : Program} {hooks : Bool} {prog : AxCut.Prog} {Γ' : Ctx} {b : Binding}
    {ρ' : List Value} {pos : Nat} {fields : List Value} {x : Ident} {ty : Ty} {clauses : Clauses}
    {fv : FV} {cfg : Config} {cl : Clause}
    (R : RelX P hooks prog ⟨Γ' ++ [b], ρ' ++ [.obj pos fields], .switch x ty clauses fv⟩ cfg)
    (hfits : Fits P)
    (hb : b.var.id = x.id) (hfresh : ∀ b' ∈ Γ', b'.var.id ≠ x.id)
    (hclause : nthClause clauses pos = some cl)
    (hkinds : fields.map Sim2.kindOf = Mock.kindsOf cl.ctx)
    (hcap : 2 * (Γ'.length + cl.ctx.length) + 2 < Mock.T_TEMP)
    {hs : HState} {ι : Nat → Nat} {σ : State} {out : List (Bool × Word)} {kp : Nat}
    (X : X3 c (Γ' ++ [b]) cfg hs ι σ out)
    {k k' : Nat} {items : List Code}
    (hrun : (codeStatementR a64Backend hooks natRen prog.types (.switch x ty clauses fv) (Γ' ++ [b])).run k =
      .ok (items, k'))
    (hat : XAt cs kp items)
    (hcapX : 2 * (Γ'.length + cl.ctx.length) ≤ 280) :
    ∃ kk cfg' σ' hs' kp', stepsTo P kk cfg cfg' ∧
      MSteps Pm c σ (pcOf hkf cs kp) out σ' (pcOf hkf cs kp') out ∧ FrLe hs hs' 0 ∧
      cfg'.out = cfg.out ∧ cfg'.next = cfg.next ∧
      RelX P hooks prog ⟨Γ' ++ cl.ctx, ρ' ++ fields, cl.body⟩ cfg' ∧
      X3 c (Γ' ++ cl.ctx) cfg' hs' ι σ' out ∧
      ∃ k1 k1' items', (codeStatementR a64Backend hooks natRen prog.types cl.body (Γ' ++ cl.ctx)).run k1 =
          .ok (items', k1') ∧ XAt cs kp' items' := by
  obtain ⟨XK, S⟩ := X3R.toK X
  have Hp := HA.holds
  -- nothing is known here about the end of the routine (no machine with addresses): the two parts of
  -- `ThreeWay.switch_x3`, the navigation and the `load`, at the plain machine
  let M := K.machine c H h8 hkf Pm (fun _ => True) cs Hp (hkq_total hkf) hnd
  obtain ⟨k4, cfg4, r, hst4, h4heap, h4next, h4out, h4temps, hloadM, hcode, hr4, hB, hword, hbchi⟩ :=
    switch_nav_abs R hfits hb hfresh hclause
  have hxw : σ.tempVal (posTemp (2 * Γ'.length + 1)) = some (K.trW .prd (BitVec.ofNat 64 pos)) := by
    have := K.words_elim (XK.words Γ'.length (by simp) _ hword) (by simp [hbchi])
    simpa [hbchi] using this
  obtain ⟨σ4, kp4, kl, kl', lcode, kb', body, hn4, C4, F4, hload, hbody, hat4⟩ :=
    K.switch_nav_a64 H HA hnd hfitX (Q := fun _ => True) (out := out) XK.core hb hfresh hclause hxw hrun hat
      (hkq_total hkf)
  have K4 : ThreeWay.Keep M.toTarget (σ, out) (σ4, out) (fun _ => False) :=
    K.keep_of (H := H) (h8 := h8) (s := (σ, out)) (fun u hu _ => F4.temp (isVar_posTemp hu))
      (fun _ R => heapRel_frame0 R F4)
  have hcapX' := XK.cap
  simp only [List.length_append, List.length_singleton] at hcapX'
  have X4 : ThreeWay.X3 M.toTarget (Γ' ++ [b]) cfg hs ι _ (σ4, out) :=
    ThreeWay.X3R.keep (K.X3.toT H h8 XK) (show M.Bnd (σ4, out) from C4) K4
  obtain ⟨cfg', ⟨σ5, out5⟩, hs', hstep, hn5, _, hfrL, hout', hnext', R', X5, LP⟩ :=
    ThreeWay.load_mid M (Γ'' := Γ') (s' := cl.body) R rfl (by rw [hbchi]; decide) hr4 hB hkinds hcap h4heap
      h4next h4out h4temps hloadM hcode X4 hload hat4 trivial (show _ ≤ 281 by omega)
  obtain rfl : out = out5 := ((X5.out.trans hout').trans XK.out.symm).symm
  replace X5 := K.X3.ofT H h8 X5
  have hst := stepsTo_trans P _ _ _ _ _ hst4 (stepsTo_one P _ _ hstep)
  have LP0 : ThreeWay.LoadProvS M.toTarget Γ'.length cl.ctx cfg cfg' _ (σ, out) (σ5, out) :=
    LP.of_keep (fun i hi => K4.tv _ (by show _ < 281; omega) id)
  have LP' : Prov.LoadProv (K.tvOf σ) (K.tvOf σ5) Γ'.length cl.ctx cfg cfg' _ := LP0.toT
  exact ⟨k4 + 1, cfg', σ5, hs', _, hst, (hn4.trans hn5).msteps, hfrL, hout', hnext', R',
    K.X3R.toData X5 (S.load rfl LP' (S.flds.steps hst (fun id o hg => hnext' ▸ X5.ids id o hg))), kl', kb', body,
    hbody, hat4.right⟩

include H h8 in
/-- `subst` on arbitrary contexts (erase, share, parallel moves): `ThreeWay.subst_x3` at the AArch64 machine, read on `X3` -/
theorem C07_subst_a64 (Hp : Holds hkf Pm cs) (hnd : (labs cs).Nodup)
    {P : Program} {hooks : Bool} {prog : AxCut.Prog} {Γ : Ctx} {ρ : List Value}
    {pairs : List (Binding × Ident)} {next : Stmt} {cfg : Config} {vs : List Value}
    (R : RelX P hooks prog ⟨Γ, ρ, .subst pairs next⟩ cfg)
    (hΓ : (Γ.map (·.var.id)).Nodup)
    (hnew : (pairs.map (·.1.var.id)).Nodup)
    (hold : ∀ p ∈ pairs, ∃ b ∈ Γ, b.var.id = p.2.id ∧ b.chi = p.1.chi)
    (hcap : 2 * pairs.length + 2 < Mock.T_TEMP)
    (hvs : Pos.step.build Γ ρ pairs = .ok vs)
    {hsX : HState} {ι : Nat → Nat} {σ : State} {out : List (Bool × Word)} {kp : Nat}
    (X : X3 c Γ cfg hsX ι σ out)
    {kx kx' : Nat} {items : List Code}
    (hrunX : (codeStatementR a64Backend hooks natRen prog.types (.subst pairs next) Γ).run kx = .ok (items, kx'))
    (hatX : XAt cs kp items)
    (hcapX : 2 * pairs.length ≤ 280) :
    ∃ k cfg' σ' hs' kp', stepsTo P k cfg cfg' ∧
      MSteps Pm c σ (pcOf hkf cs kp) out σ' (pcOf hkf cs kp') out ∧ FrLe hsX hs' 0 ∧
      cfg'.out = cfg.out ∧ cfg'.next = cfg.next ∧
      RelX P hooks prog ⟨pairs.map (·.1), vs, next⟩ cfg' ∧
      X3 c (pairs.map (·.1)) cfg' hs' ι σ' out ∧
      ∃ k1 k1' items', (codeStatementR a64Backend hooks natRen prog.types next (pairs.map (·.1))).run k1 =
          .ok (items', k1') ∧ XAt cs kp' items' := by
  obtain ⟨XK, S⟩ := X3R.toK X
  obtain ⟨k, cfg', ⟨σ', out'⟩, hs', kp', hst, hm, _, hfr, hout, hnext, R', X', k1, k1', items', hr, hat', SP⟩ :=
    ThreeWay.subst_x3 (K.machine c H h8 hkf Pm (fun _ => True) cs Hp (hkq_total hkf) hnd) R hΓ hnew hold hcap hvs
      (K.X3.toT H h8 XK) hrunX hatX trivial (by show _ < 4096; omega) (by show _ ≤ 281; omega)
  obtain rfl : out' = out := (X'.out.trans hout).trans XK.out.symm
  replace X' := K.X3.ofT H h8 X'
  exact ⟨k, cfg', σ', hs', kp', hst, hm.msteps, hfr, hout, hnext, R',
    K.X3R.toData X' (S.subst hst (fun id o hg => hnext ▸ X'.ids id o hg) SP), k1, k1', items', hr, hat'⟩

end Heap

/-- the program laid out from lines that are the routine HOLDS the routine, with the offsets of its
instructions (4 × the number of instructions before) and the entries behind labels and instructions -/
theorem C07_holdsA_layout {hkv : String → Option (List (String × Kind))} {ls : List (Nat × PLine)}
    {cs : List Code} (h : Lines hkv ls cs) : HoldsA (hkOf hkv) (layout ls) cs :=
  holdsA_layout h

/-- a label of the routine followed by `n` instructions is a jump table of the laid-out program
(`TableAt`: the hypothesis of the `ADR; ADD; BR` theorems `step_adr` / `step_br`) -/
theorem C07_table_layout {hk : Code → Bool} {P : Prog} {cs : List Code} (HA : HoldsA hk P cs)
    (hnd : (labs cs).Nodup) (c : MemCfg) {kt n : Nat} {lbl : String} (hn : 0 < n)
    (hlab : cs[kt]? = some (.LAB lbl))
    (htab : ∀ j, j < n → ∃ code, cs[kt + 1 + j]? = some code ∧ code.isMeta = false)
    (hfit : c.codeBase + 4 * ninstr cs < 2 ^ 64) :
    TableAt P c lbl (pcOf hk cs kt) n :=
  tableAt_of_holdsA HA hnd c hn hlab htab hfit

/-- `C14_table_layout_statement` (Props/C14A64.lean keeps it as a `def : Prop`) HOLDS: on arbitrary parsed
lines, a label not defined before followed by `n ≥ 1` instruction lines yields `TableAt` -/
theorem C07_table_layout_statement : C14_table_layout_statement :=
  fun pre post ln l entries c hpre hne hfit => table_layout pre post ln l entries c hpre hne hfit

open Scc.Props.C06Generic (Reachable WithinCapacity CodeFits EnoughHeap)
open Scc.Props.C14Generic (LabelSafe)

/-- THE THREE-WAY STEP: every step of the positional machine on a statement of a program without closures
from a typed state in the three-way relation is reproduced by the AArch64 machine, and the relation holds
again (`StepSim3`: with output, bound on the object counter and on the heap frontier).  The hypothesis `htp` (the
program is linearly typed) is not used: the typing of the state (`T`) is what the step needs -/
theorem C07_step_a64 {c : MemCfg} (H : CfgCC c) (h8 : c.heapBase % 8 = 0) {hkf : Code → Bool} {Pm : Prog}
    {cs pre : List Code} (HA : HoldsA hkf Pm cs) (hnd : (labs cs).Nodup)
    (hfitX : c.codeBase + 4 * ninstr cs < 2 ^ 64) (hcs : cs = pre ++ cleanup)
    (hclean : "cleanup" ∉ labs pre)
    (hooks : Bool) (prog : AxCut.Prog) (kc : Nat) (code : List MockOp) (nargs kc' : Nat)
    (hcomp : (compile mockSym hooks prog).run kc = .ok ((code, nargs), kc'))
    (hsafe : LabelSafe prog = true) (htp : LinTypedProg prog) (hfit : CodeFits code)
    (DX : XDefsAt cs hooks prog) (hprog : ProgOK prog)
    (st : Pos.State) (cfg : Config) (hs : HState) (σ : State) (kp : Nat)
    (R : Rel3 c cs (Program.ofOps code) hooks prog st cfg hs σ kp)
    (T : Pos.StateTyped prog st) (hheap : EnoughHeap cfg) (hok : DataStmt st.stmt)
    (hroom : Room hs (64 * 141)) :
    StepSim3 c hkf Pm cs (Program.ofOps code) hooks prog st cfg hs σ kp :=
  step3 H h8 HA hnd hfitX hcs hclean hooks prog kc code nargs kc' hcomp hsafe hfit DX hprog st cfg hs σ kp
    R T hheap hok hroom

/-- programs with data types: no closures (`Scc.X86.DataProg`, Props/C06X86Heap.lean, has the same body; each backend's statements name their own) -/
def DataProg (p : AxCut.Prog) : Prop := ∀ d ∈ p.defs, DataStmt d.body

/-- `Backend.Total.mock_compile_ok`: the mock generator succeeds on linearly typed programs (no capacity: the mock
    numbering is unbounded) -/
theorem C07_mock_compile_ok (hooks : Bool) (p : AxCut.Prog) (htp : LinTypedProg p) (hne : p.defs ≠ [])
    (c : Nat) : ∃ ops nargs c', (compile mockSym hooks p).run c = .ok ((ops, nargs), c') :=
  Scc.Backend.Total.mock_compile_ok hooks p htp hne c

/-- the decidable check "the mock code fits the address space of the abstract machine" -/
def C07_mockFits (p : AxCut.Prog) (hooks : Bool) : Bool :=
  match (compile mockSym hooks p).run 0 with
  | .ok ((ops, _), _) => decide (instrCount ops < 2 ^ 64)
  | .error _ => true

/-- END TO END for programs with data types on the PRINTED TEXT, FULL STRENGTH (the analogue of
`C07_int_programs_text`; `heapBytes`: enough heap for the run).  Proved with further decidable side
hypotheses as `C07_data_programs_text`. -/
def C07_data_programs_statement : Prop :=
  ∀ (p : AxCut.Prog) (args : List Word) (hooks : Bool) (body routine : List Code) (nargs : Nat) (d0 : Def),
    LabelSafe p = true → LinTypedProg p → DataProg p →
    compileProg a64Backend p hooks 0 = .ok (body, nargs, routine) →
    p.defs.head? = some d0 → (∀ b ∈ d0.ctx, b.chi = .ext ∧ b.ty = .i64) →
    (∀ st, Reachable p ⟨d0.ctx, args.map .int, d0.body⟩ st → WithinCapacity st.ctx) →
    C14A_inRangeB p = true → C14A_namesTextSafe p = true →
    ∀ (fuel : Nat) (out : List (Bool × Word)) (v : Word), Pos.run p args fuel = ⟨out, .done v⟩ →
    ∃ heapBytes, ∀ (cfg : MonCfg), CfgCC cfg.mem → cfg.mem.heapBase % 8 = 0 → 0 < cfg.mem.heapBase →
      heapBytes ≤ cfg.mem.heapBytes → cfg.heap = false → cfg.wf = false →
      ∃ fuel', (run (printProg routine) args fuel' cfg).out = out ∧
        (run (printProg routine) args fuel' cfg).res = .done v

/-- THEOREM A ∘ THEOREM B FOR PROGRAMS WITH DATA TYPES (no closures), on the program LAID OUT from any lines
that are the emitted routine: a terminating run of the AxCut positional machine is reproduced — same trace,
same result — by the AArch64 SPEC machine started at `asm_main`.  Side hypotheses (all decidable on the
program, the emitted code or the machine configuration): the mock code fits the address space
(`C07_mockFits`: Theorem A), the labels of the routine are pairwise distinct (`hnd`), the routine ends below
2^64 (`hfitX`), every context of the run has at most 140 variables (utils.rs temporary_from_position), the
heap has 64·141 bytes per step of the run, `0 < heapBase` and `heapBase % 8 = 0`. -/
theorem C07_data_programs (p : AxCut.Prog) (args : List Word) (hooks : Bool) (body routine : List Code)
    (nargs : Nat) (d0 : Def)
    (hsafe : LabelSafe p = true) (htp : LinTypedProg p) (hdata : DataProg p)
    (hfit : C07_mockFits p hooks = true)
    (hcompX : compileProg a64Backend p hooks 0 = .ok (body, nargs, routine))
    (hnd : (labs routine).Nodup)
    (hd : p.defs.head? = some d0) (hentry : ∀ b ∈ d0.ctx, b.chi = .ext ∧ b.ty = .i64)
    (hcap : ∀ st, Reachable p ⟨d0.ctx, args.map .int, d0.body⟩ st → 2 * st.ctx.length ≤ 280)
    (fuel : Nat) (out : List (Bool × Word)) (v : Word)
    (hrun : Pos.run p args fuel = ⟨out, .done v⟩)
    (cfg : MonCfg) (H : CfgCC cfg.mem) (hheap : cfg.heap = false)
    (hb8 : cfg.mem.heapBase % 8 = 0) (hb0 : 0 < cfg.mem.heapBase)
    (hbytes : 128 + 64 * 141 * fuel ≤ cfg.mem.heapBytes)
    (hfitX : cfg.mem.codeBase + 4 * ninstr routine < 2 ^ 64)
    (hkv : String → Option (List (String × Kind))) (ls : List (Nat × PLine)) (hl : Lines hkv ls routine) :
    ∃ fuel', (runProg (layout ls) args fuel' cfg).out = out ∧ (runProg (layout ls) args fuel' cfg).res = .done v := by
  have hne : p.defs ≠ [] := by intro e; rw [e] at hd; simp at hd
  obtain ⟨ops, n, c', hM⟩ := Scc.Backend.Total.mock_compile_ok hooks p htp hne 0
  obtain ⟨c1, hcompA, _⟩ := compileProg_ok hcompX
  obtain ⟨_, _, _, _, _, _, hn2⟩ := compile_a64_entry hcompA hd
  obtain ⟨_, hn1⟩ := compile_mock_entry hM hd
  have hnn : n = nargs := by rw [hn1, hn2]
  subst hnn
  have hcf : CodeFits ops := by
    unfold C07_mockFits at hfit
    rw [hM] at hfit
    simpa [CodeFits] using hfit
  have hfuel : fuel + 1 < 2 ^ 64 := by
    have h1 := H.ok.disjoint
    have h2 := H.ok.top
    have h3 := H.room
    omega
  obtain ⟨hmem, hlen, hrun'⟩ := Scc.Props.C06Generic.run_entry hd hrun ⟨_, rfl⟩
  have HB := Ref.K.holdsB_layout hl
  obtain ⟨pre, σ0, kp0, a, En, _⟩ := ConcK.entry_setup p args hooks body routine n d0 ops c' hsafe htp hM
    hcompX hnd hd hentry hlen (hcap _ Reachable.refl) cfg.mem H hb0 (by omega) HB (hkq_total _)
  obtain ⟨Γ', ι, κ, hk', RX, X, _, hcode⟩ := En.rel
  have S : Same Γ' (initConfig a args) κ σ0 := by
    refine ⟨fun i hi _ hc _ => ?_, fun _ _ hg => by cases hg⟩
    have hi' : i < d0.ctx.length := by rw [← Scc.Backend.Keys.keys_length hk']; exact hi
    have hkc : Γ'[i].chi = d0.ctx[i].chi := by
      have := List.getElem_of_eq (Scc.Backend.Keys.keys_chi hk') (i := i) (by simpa using hi)
      simpa using this
    rw [hkc, (hentry _ (List.getElem_mem hi')).1] at hc
    cases hc
  obtain ⟨kL, σL, outL, g1, g2, g3, g4⟩ := run3 H hb8 HB.holdsA hnd hfitX En.split En.clean hooks p 0 ops n c'
    hM hsafe htp hcf En.defs hdata fuel _ [] (initConfig a args) _ _ _ out v En.typed hcap
    ⟨Γ', ι, hk', RX, Ref.K.X3R.toData X S, hcode⟩ (hdata d0 hmem) rfl (by rw [En.next1]; omega)
    (room_init hb0 (by omega) (by omega)) hrun'
  exact runProg_of_msteps hheap En.main En.nargs (En.steps.trans g1) g2 g3 g4

/-- the same on the TEXT: `A64.run` on the printed routine.  The loader round trip is proved
(`C14A_routine_lines`): its hypotheses are the decidable bounds and names checks on the program; the
well-formedness monitor `wf` is off. -/
theorem C07_data_programs_text (p : AxCut.Prog) (args : List Word) (hooks : Bool) (body routine : List Code)
    (nargs : Nat) (d0 : Def)
    (hsafe : LabelSafe p = true) (htp : LinTypedProg p) (hdata : DataProg p)
    (hfit : C07_mockFits p hooks = true)
    (hcompX : compileProg a64Backend p hooks 0 = .ok (body, nargs, routine))
    (hnd : (labs routine).Nodup)
    (hd : p.defs.head? = some d0) (hentry : ∀ b ∈ d0.ctx, b.chi = .ext ∧ b.ty = .i64)
    (hcap : ∀ st, Reachable p ⟨d0.ctx, args.map .int, d0.body⟩ st → 2 * st.ctx.length ≤ 280)
    (fuel : Nat) (out : List (Bool × Word)) (v : Word)
    (hrun : Pos.run p args fuel = ⟨out, .done v⟩)
    (cfg : MonCfg) (H : CfgCC cfg.mem) (hheap : cfg.heap = false) (hwf : cfg.wf = false)
    (hb8 : cfg.mem.heapBase % 8 = 0) (hb0 : 0 < cfg.mem.heapBase)
    (hbytes : 128 + 64 * 141 * fuel ≤ cfg.mem.heapBytes)
    (hfitX : cfg.mem.codeBase + 4 * ninstr routine < 2 ^ 64)
    (hrange : C14A_inRangeB p = true) (hnames : C14A_namesTextSafe p = true) :
    ∃ fuel', (run (printProg routine) args fuel' cfg).out = out ∧
      (run (printProg routine) args fuel' cfg).res = .done v := by
  obtain ⟨ls, hparse, hl⟩ := C14A_routine_lines hrange hnames hcompX
  obtain ⟨fuel', h1, h2⟩ := C07_data_programs p args hooks body routine nargs d0 hsafe htp hdata hfit hcompX hnd
    hd hentry hcap fuel out v hrun cfg H hheap hb8 hb0 hbytes hfitX hookVarsOf ls hl
  refine ⟨fuel', ?_, ?_⟩ <;>
  · unfold run
    simp only [hparse, hwf, Bool.false_eq_true, if_false]
    assumption

/-! ### non-vacuity: objects (let, subst with duplication = share, switch shared and unique) -/

def C07_tBox : Ty := .decl ⟨"Box", 0⟩
def C07_boxDecl : TypeDecl := { name := ⟨"Box", 0⟩, xtors := [⟨⟨"B", 0⟩, [⟨⟨"v", 102⟩, .ext, .i64⟩]⟩] }

/-- main(x) { let b = B(x); subst (b1 := b)(b2 := b); switch b2 { B(y) => subst (y := y)(b1 := b1);
      switch b1 { B(z) => s <- y + z; println s; exit s } } } -/
def C07_boxMain : Def :=
  { name := ⟨"main", 0⟩, ctx := [⟨⟨"x", 1⟩, .ext, .i64⟩],
    body := .letS ⟨"b", 2⟩ C07_tBox ⟨"B", 0⟩ [⟨⟨"x", 1⟩, .ext, .i64⟩]
      (.subst [(⟨⟨"b1", 3⟩, .prd, C07_tBox⟩, ⟨"b", 2⟩), (⟨⟨"b2", 4⟩, .prd, C07_tBox⟩, ⟨"b", 2⟩)]
        (.switch ⟨"b2", 4⟩ C07_tBox
          (.cons ⟨"B", 0⟩ [⟨⟨"y", 5⟩, .ext, .i64⟩]
            (.subst [(⟨⟨"y", 6⟩, .ext, .i64⟩, ⟨"y", 5⟩), (⟨⟨"b1", 7⟩, .prd, C07_tBox⟩, ⟨"b1", 3⟩)]
              (.switch ⟨"b1", 7⟩ C07_tBox
                (.cons ⟨"B", 0⟩ [⟨⟨"z", 8⟩, .ext, .i64⟩]
                  (.op ⟨"s", 9⟩ ⟨"y", 6⟩ .sum ⟨"z", 8⟩
                    (.print true ⟨"s", 9⟩ (.exit ⟨"s", 9⟩) none) none) .nil) none))
            .nil) none)) none }

def C07_boxProg : AxCut.Prog := { defs := [C07_boxMain], types := [C07_boxDecl], maxId := 102 }

theorem C07_boxProg_safe : LabelSafe C07_boxProg = true := by decide

theorem C07_boxProg_typed : LinTypedProg C07_boxProg := linTypedCheck_sound C07_boxProg rfl

theorem C07_boxProg_run : Pos.run C07_boxProg [21] 20 = ⟨[(true, 42)], .done 42⟩ := by decide

def C07_boxRoutine : List Code :=
  match compileProg a64Backend C07_boxProg true 0 with
  | .ok (_, _, r) => r
  | .error _ => []

theorem C07_boxProg_compiles : ∃ b n, compileProg a64Backend C07_boxProg true 0 = .ok (b, n, C07_boxRoutine) :=
  ⟨_, _, rfl⟩

set_option maxRecDepth 100000 in
theorem C07_boxRoutine_fits {c : MemCfg} (hc : c.codeBase ≤ 2 ^ 62) : c.codeBase + 4 * ninstr C07_boxRoutine < 2 ^ 64 :=
  fits_of_ninstr hc (by decide)

theorem C07_boxProg_mockFits : C07_mockFits C07_boxProg true = true := by decide

theorem C07_boxProg_data : DataProg C07_boxProg := by
  intro d hd
  simp only [C07_boxProg, List.mem_singleton] at hd
  subst hd
  simp [C07_boxMain, DataStmt, DataClauses]

/-- 280-capacity of all reachable states, checked on the finitely many states of a terminating run -/
theorem C07_capacity_of_run (prog : AxCut.Prog) (fuel : Nat) (st0 : Pos.State)
    (hstop : Scc.Props.C06Generic.stopsWithin prog fuel st0 = true)
    (hall : (Scc.Props.C06Generic.statesOf prog fuel st0).all (fun st => decide (2 * st.ctx.length ≤ 280)) = true) :
    ∀ st, Reachable prog st0 st → 2 * st.ctx.length ≤ 280 := by
  intro st hr
  have := Scc.Props.C06Generic.reachable_mem_statesOf prog fuel st0 st hstop hr
  rw [List.all_eq_true] at hall
  simpa using hall st this

/-- the box program started with x = 21: every hypothesis of `C07_data_programs_text` holds, so the AArch64
machine on the PRINTED TEXT of the emitted routine prints 42 and returns 42 (the block is allocated by `let`,
shared by `subst`, loaded once shared and once unique — and freed) -/
example : ∃ fuel',
    (run (printProg C07_boxRoutine) [21] fuel' {}).out = [(true, 42)] ∧
    (run (printProg C07_boxRoutine) [21] fuel' {}).res = .done 42 := by
  obtain ⟨body, nargs, hcomp⟩ := C07_boxProg_compiles
  exact C07_data_programs_text C07_boxProg [21] true body C07_boxRoutine nargs C07_boxMain
    C07_boxProg_safe C07_boxProg_typed C07_boxProg_data C07_boxProg_mockFits hcomp
    (labels_unique_a64 C07_boxProg_safe hcomp) rfl
    (by decide) (C07_capacity_of_run C07_boxProg 20 _ (by decide) (by decide)) 20 _ _ C07_boxProg_run {}
    cfgCC_default rfl rfl (by decide) (by decide) (by decide) (C07_boxRoutine_fits (by decide)) (by decide) (by decide)

end Scc.A64

#print axioms Scc.A64.C07_store_refines
#print axioms Scc.A64.C07_load_refines
#print axioms Scc.A64.C07_erase_refines
#print axioms Scc.A64.C07_share_refines
#print axioms Scc.A64.C07_let_a64
#print axioms Scc.A64.C07_switch_a64
#print axioms Scc.A64.C07_subst_a64
#print axioms Scc.A64.C07_holdsA_layout
#print axioms Scc.A64.C07_table_layout
#print axioms Scc.A64.C07_table_layout_statement
#print axioms Scc.A64.C07_step_a64
#print axioms Scc.A64.C07_mock_compile_ok
#print axioms Scc.A64.C07_data_programs
#print axioms Scc.A64.C07_data_programs_text


#print axioms Scc.A64.C07_boxProg_data
#print axioms Scc.A64.C07_capacity_of_run
#print axioms Scc.A64.C07_boxProg_safe
#print axioms Scc.A64.C07_boxProg_typed
#print axioms Scc.A64.C07_boxProg_run
#print axioms Scc.A64.C07_boxProg_compiles
