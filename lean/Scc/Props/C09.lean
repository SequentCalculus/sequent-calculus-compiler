/-
Scc.Props.C09 — heap consistency (backend-independent part: DESIGN.md §5 C09 T1, T2).

C09 (fixed text): "At every statement boundary of every execution of generated code, on every
backend, each heap block below the allocation frontier is in exactly one state: reachable from the
live variables, on the immediately reusable free list, on the deferred free list, or waiting beneath
a deferred block; and the count stored in each reachable block equals the number of references to it
from live variables and from fields of reachable or deferred blocks, minus one. Hence no block is
used after release, released twice or lost, and generated code touches no memory outside its heap,
its spill area and what it pushed."

What is proved here, for ALL histories of heap operations (no bound on length, heap size, addresses):
the model of the emitted heap code (`Scc.Heap.Model`, transcribed from memory.rs of the three
backends, which implement the same algorithm) never faults — i.e. never touches a word outside
`[base, limit)`, never dereferences null — and keeps the invariant `Inv` (`Scc.Heap.Inv`: clauses
(i)–(v) = the property text) at every op boundary, provided the history is well-formed (`WfOps`: an
op only mentions roots that are held; `load` is applied to an object of the shape its kinds describe)
and the heap is large enough for the blocks the history can allocate.

The bridge from "histories of heap operations" to "executions of generated code on a backend" (which
statements perform which ops with which roots) is not in this file: it is the three-way simulation of
C06–C08, and the property at the statement boundaries of concrete runs is `C09_x86_boundary_all` /
`C09_x86_programs` (Props/C09X86All.lean), `C09_a64_programs` (Props/C09A64All.lean), `C09_rv_programs`
(Props/C09RVAll.lean).  The runtime monitor `invCheck` / `invCheckFn` (O_heap in DESIGN.md) decides the
invariant: soundness is `invCheck_sound` (here) and `invCheckFn_sound` (Scc/Heap/ProofsCheck.lean), completeness in
Scc/Heap/ProofsCheckComplete.lean (`invCheckFn_complete`).
-/
import Scc.Heap.ProofsCheck

namespace Scc.Heap

/-- C09, heap part: every well-formed history runs without fault and ends in a state satisfying the
invariant. -/
def C09_heap_statement : Prop :=
  ∀ (base limit : Nat) (ops : List HOp), 0 < base →
    WfOps (init base limit, []) ops →
    base + 64 * (storeCost ops + 2) ≤ limit →
    ∃ s roots, applyOps (init base limit, []) ops = .ok (s, roots) ∧ Inv s roots

theorem C09_inv_init (base limit : Nat) (hb : 0 < base) (hl : base + 128 ≤ limit) :
    Inv (init base limit) [] :=
  ⟨[base], [], [], base + 64, init_inv hb hl⟩

theorem C09_inv_all_histories : C09_heap_statement := by
  intro base limit ops hb hwf hroom
  obtain ⟨s, roots, lin, lazy, live, F, hap, _, hi, _⟩ :=
    applyOps_spec ops 0 (init_inv hb (by omega)) hwf
      (by show base + 64 + 64 * storeCost ops + 64 ≤ limit; omega)
      (by show (base + 64 - base) / 64 ≤ 0 + 1; omega)
  exact ⟨s, roots, hap, lin, lazy, live, F, hi⟩

theorem storeCost_append (a b : List HOp) : storeCost (a ++ b) = storeCost a + storeCost b := by
  induction a with
  | nil => simp [storeCost]
  | cons op a ih => rw [List.cons_append, storeCost_cons, storeCost_cons, ih]; omega

theorem WfOps_prefix : ∀ (a b : List HOp) (st : HState × List Nat), WfOps st (a ++ b) → WfOps st a
  | [], _, _, _ => trivial
  | _ :: a, b, _, h => ⟨h.1, fun st' hst => WfOps_prefix a b st' (h.2 st' hst)⟩

/-- ... and therefore at EVERY op boundary of the history (every prefix). -/
theorem C09_inv_every_boundary (base limit : Nat) (ops : List HOp) (hb : 0 < base)
    (hwf : WfOps (init base limit, []) ops) (hroom : base + 64 * (storeCost ops + 2) ≤ limit) :
    ∀ pre rest, ops = pre ++ rest →
      ∃ s roots, applyOps (init base limit, []) pre = .ok (s, roots) ∧ Inv s roots := by
  intro pre rest he
  subst he
  refine C09_inv_all_histories base limit pre hb (WfOps_prefix pre rest _ hwf) ?_
  rw [storeCost_append] at hroom; omega

/-! The per-operation theorems (C09-T1) are in `Scc.Heap.ProofsOps` / `ProofsStore` / `ProofsLoad` / `ProofsHist`:
`shareBlock_spec`, `eraseBlock_spec` (both cases), `acquire_spec` (three cases, deferred erasure of
up to three children, two of which may coincide), `storeBlock_spec`, `storeFields_spec`,
`storeObj_spec` (single blocks and chains), `loadFields_release_spec`, `loadFields_share_spec`,
`loadObj_spec`, `applyOp_spec`. -/

/-- A well-formed history (an object of 7 integer fields = a chain of 3 blocks). -/
example : WfOps (init 4096 8192, [])
    [.store [.int 1, .int 2, .int 3, .int 4, .int 5, .int 6, .int 7]] :=
  ⟨⟨[], rfl⟩, fun _ _ => trivial⟩

example : ∃ s roots, applyOps (init 4096 8192, [])
    [.store [.int 1, .int 2, .int 3, .int 4, .int 5, .int 6, .int 7]] = .ok (s, roots) ∧ Inv s roots :=
  C09_inv_all_histories 4096 8192 _ (by omega) ⟨⟨[], rfl⟩, fun _ _ => trivial⟩ (by simp [storeCost])

/-- Concrete evaluation of one store from the initial state (an object of two integers). -/
theorem C09_example_store : ∃ s1, applyOp (init 4096 8192, []) (.store [.int 5, .int 7]) = .ok (s1, [4096]) ∧
    s1.mem.get 4096 = 0 ∧ s1.mem.get (4096+16) = 0 ∧ s1.mem.get (4096+32) = 0 ∧ s1.mem.get (4096+48) = 0 := by
  simp [applyOp, consumeRoots, ptrsOf, FieldRef.toField, storeObj]
  rw [storeFields]
  simp [restLength, fieldsPerBlock, BlockPosition.toNat, storeValues, storeValuesRev, storeValue, storeZeros,
    storeZerosFrom, init, wr, rd, acquire, fstOff, sndOff, fieldOffset, blockSize, Mem.get_set, posOther]
  rw [storeFields]
  simp [Mem.get_set]

/-- A well-formed history with a load: build an object of two integers, then consume it. -/
theorem C09_example_wf : WfOps (init 4096 8192, []) [.store [.int 5, .int 7], .load 4096 [false, false]] := by
  obtain ⟨s1, hst, h0, h16, h32, h48⟩ := C09_example_store
  refine ⟨⟨[], rfl⟩, ?_⟩
  intro st' hst'
  rw [hst] at hst'
  injection hst' with hst'
  subst hst'
  refine ⟨⟨by simp, ?_⟩, fun _ _ => trivial⟩
  unfold LoadObjPre
  simp only [List.cons_ne_nil, if_false, h0, if_true]
  refine ⟨by omega, ?_⟩
  rw [LoadPre]
  simp only [List.cons_ne_nil, ↓reduceDIte, List.length_cons, List.length_nil, restLength, fieldsPerBlock,
    BlockPosition.toNat]
  simp only [Nat.zero_add, Nat.reduceAdd, Nat.sub_zero, Nat.reduceLeDiff, if_true, List.take_zero,
    List.drop_zero]
  refine ⟨by rw [LoadPre]; simp, ?_⟩
  intro s1' vals1 blk hl
  rw [heap_loadFields_nil] at hl
  injection hl with hl
  injection hl with e1 e2
  injection e2 with e2 e3
  subst e1 e3
  refine ⟨⟨?_, by simp⟩, by simp⟩
  intro i hi hs
  have : i = 0 ∨ i = 1 ∨ i = 2 := by simp [fieldsPerBlock, BlockPosition.toNat] at hi; omega
  rcases this with rfl | rfl | rfl
  · simpa [fstOff, fieldOffset] using h16
  · simpa [fstOff, fieldOffset] using h32
  · simpa [fstOff, fieldOffset] using h48

example : ∃ s roots, applyOps (init 4096 8192, [])
    [.store [.int 5, .int 7], .load 4096 [false, false]] = .ok (s, roots) ∧ Inv s roots :=
  C09_inv_all_histories 4096 8192 _ (by omega) C09_example_wf (by simp [storeCost])

/-- The hypotheses of the per-operation theorems are satisfiable: the initial state. -/
example : ∃ s' b, acquire (init 4096 8192) = .ok (s', b) := by
  obtain ⟨s', _, _, _, _, h, _⟩ := acquire_spec (init_inv (base := 4096) (limit := 8192) (by omega) (by omega))
    (fun _ _ => by show 4096 + 64 + 128 ≤ 8192; omega)
  exact ⟨s', _, h⟩

/-- No garbage cycles: `Inv` contains clause (vi) (`InvW.acyclic`), so along every well-formed
history the live blocks stay topologically sortable; with (iv) every live block is therefore reachable
from a root or from a deferred block ("no block is lost"). -/
theorem C09_no_garbage_cycles (base limit : Nat) (ops : List HOp) (hb : 0 < base)
    (hwf : WfOps (init base limit, []) ops) (hroom : base + 64 * (storeCost ops + 2) ≤ limit) :
    ∃ s roots lin lazy live F, applyOps (init base limit, []) ops = .ok (s, roots) ∧
      InvS s roots [] lin lazy live F ∧ ∃ ord, ord.Perm live ∧ TopoSorted s.mem.get ord := by
  obtain ⟨s, roots, hap, lin, lazy, live, F, hi⟩ := C09_inv_all_histories base limit ops hb hwf hroom
  exact ⟨s, roots, lin, lazy, live, F, hap, hi, hi.acyclic⟩

/-- Soundness of the executable checker (the runtime monitor of O_heap): what it accepts satisfies
the invariant; on raw machine memory: `invCheckFn_sound`.  (Completeness: `invCheckFn_complete`,
Scc/Heap/ProofsCheckComplete.lean.) -/
theorem invCheck_sound (s : HState) (roots : List Nat) (h : invCheck s roots = .ok ()) :
    Inv s roots := invCheck_sound' s roots h

#print axioms C09_inv_all_histories
#print axioms C09_inv_every_boundary
#print axioms C09_inv_init
#print axioms C09_no_garbage_cycles
#print axioms invCheck_sound
#print axioms invCheckFn_sound
#print axioms opPreB_sound

end Scc.Heap

#print axioms Scc.Heap.storeCost_append
#print axioms Scc.Heap.WfOps_prefix
#print axioms Scc.Heap.C09_example_store
#print axioms Scc.Heap.C09_example_wf
