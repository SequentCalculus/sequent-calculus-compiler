/-
  Scc.Props.C09X86All — property C09 (heap consistency) ON CONCRETE x86-64 EXECUTIONS OF ALL PROGRAMS — data
  types AND CLOSURES: the counterpart of Props/C09X86.lean (programs without closures) for the closure-aware three-way
  relation `Scc.X86.Ref.K` of Props/C06X86Full.lean (Scc/X86/ConcK*.lean), with the side hypotheses of the
  composition discharged as in `C06_programs_text` (`C06_setup_of_checks`, Props/C13X86All.lean).

  C09 (fixed text): "At every statement boundary of every execution of generated code, on every backend,
  each heap block below the allocation frontier is in exactly one state: reachable from the live variables,
  on the immediately reusable free list, on the deferred free list, or waiting beneath a deferred block; and
  the count stored in each reachable block equals the number of references to it from live variables and
  from fields of reachable or deferred blocks, minus one. …"

  THE PREDICATE is `HeapInvAt cfg X kinds limit` of Props/C09X86.lean (Scc/X86/ConcInv.lean): the predicate of the
  executable heap monitor on the raw machine state.  A closure is a heap object like a constructor object: its
  variable is not `ext`, so its pointer temporary (the environment block) is a root the monitor reads; its
  word part (a code address) is not looked at.

  THE STATEMENT BOUNDARIES.  `ConcK.BoundaryOf p hooks routine ops cfg st X`: the machine state `X` is the state
  `X0` related by `Ref.K.Rel3` (closure invariant `XC` included) to the positional state `st`, OR `X0` MOVED
  FORWARD OVER LABELS AND COMMENTS (`Tol routine X0 X`): the indirect `jmp reg` of an `invoke` of a
  single-method closure lands on the first item of non-zero size behind the method label, past the label and
  the comments (the `#ctx` hook among them) the code of the method starts with.  Registers, stack, heap and
  output of `X` are those of `X0`.  `BChain`: the machine passes through such states IN ORDER by `stepN`.

  PROVED (no `sorry`; axioms propext, Classical.choice, Quot.sound):
  * `C09_x86_boundary_all`       every boundary state satisfies `HeapInvAt` for the kinds of the positional
                                 state's context and `limit = heapBase + heapBytes`.
  * `C09_x86_programs`           under the hypotheses of `C06_programs_text` (label-safe, linearly typed,
                                 `C06_x86Checks`, compiled; a terminating run; heap `128 + 64·134·fuel`): on the
                                 items the machine's own parser reads from the printed routine, the machine,
                                 started at `asm_main`, passes through a boundary state for EVERY state
                                 `statesOf p fuel st0` of the positional run, in order, and each of them
                                 satisfies `HeapInvAt`.  `C09_x86_programs_items`: the same with the side
                                 hypotheses explicit; `C09_x86_reachable_all`: for every `Reachable` state.
  * `C09_x86_every_prefix_all`   NO TERMINATION HYPOTHESIS: for ANY number `fuel` of steps of the positional
                                 machine (a prefix of a possibly non-terminating run) the machine passes through a
                                 boundary state for every state of the prefix and the invariant holds at each;
                                 room: the footprint bound of C10 (`ConcK.PeakAtMost Pk`, `64·(Pk + A + 2) ≤
                                 heapBytes`, `A = progMaxAlloc p`; trivial for `Pk = A·fuel + 1`).
                                 `C09_x86_every_prefix_all_items`: side hypotheses explicit.
  * `C09_x86_every_prefix_all_size`  the same with the room hypothesis on the SOURCE PROGRAM: `valsFields
                                 st.env ≤ D` for every reachable state (the object and closure values held by the
                                 variables have at most `D` fields) and `64·(D + A + 2) ≤ heapBytes`.
  * `C09_x86_heapCheck_boundary_all`  the executable check `heapCheck cfg X (ctxKinds st.ctx)` returns `.ok
                                 (blocks below the frontier)` at every boundary state inside the monitor's window.
  * `C09_x86_monitor_boundary_all`  the monitor itself at a state in relation `Ref.K.Rel3` (hooks on): it finds
                                 the `#ctx` hook of the boundary at the program counter and passes.
  * EXAMPLE `C09_cloLoop_every_boundary`  the closure loop of Props/C13X86All.lean, which never terminates: for
                                 EVERY number `k` of steps the machine on the text passes through a boundary for
                                 each of the first `k` states — the one reached by the `jmp reg` of the `invoke`
                                 among them — and the invariant holds at each.
  The property in terms of the monitor on WHOLE runs (`C09_x86_monitor_statement`, Props/C09X86.lean, has no side
  hypothesis) is `C09_x86_monitor_never_fires` of Props/C09X86Mon.lean: the states strictly between two boundaries
  are not at a `#ctx` comment, so the run with the heap monitor on never ends in a report `inv:`.  Its hypotheses
  besides those of the theorems here: the monitor's window (a fact about the write history) and that the hook at
  the program counter parses to the kinds of the positional state (the hypothesis `hparse` of
  `C09_x86_monitor_boundary_all` below, for EVERY context whose hook is in the routine, is satisfiable only for
  routines whose hooks list at most one variable — see Props/C09X86Mon.lean).
-/
import Scc.Props.C13X86All
import Scc.Props.C09X86
import Scc.X86.ConcKHook

namespace Scc.X86
open Scc.AxCut Scc.Backend Scc.Backend.Abs Scc.X86.Ref
open Scc.Heap (InvW)
open Scc.Props.C06Generic (Reachable CodeFits statesOf stopsWithin reachable_mem_statesOf)
open Scc.Props.C14Generic (LabelSafe)
open Scc.X86.Ref.K (AllocLe progMaxAlloc allocLe_progMaxAlloc)
open Scc.X86.Conc (BChain HeapInvAt HeapShapeAt ctxKinds valsFields)

/-- EVERY STATEMENT BOUNDARY, all programs: a machine state that is — up to labels and comments — related by
the closure-aware three-way relation to a state of the positional machine satisfies the heap monitor's
predicate for the roots the monitor reads from the first temporaries of the non-`ext` variables (objects AND
closures) of that state's context. -/
theorem C09_x86_boundary_all {p : AxCut.Prog} {hooks : Bool} {routine : List Code} {ops : List MockOp}
    {cfg : MonCfg} (hk : cfg.consts = consts) {st : Pos.State} {X : State}
    (B : ConcK.BoundaryOf p hooks routine ops cfg st X) :
    HeapInvAt cfg X (ctxKinds st.ctx) (cfg.mach.heapBase + cfg.mach.heapBytes) :=
  ConcK.heapInvAt_of_boundary hk B

/-- THE EXECUTABLE HEAP CHECK SUCCEEDS AT EVERY STATEMENT BOUNDARY (inside the monitor's window), all programs -/
theorem C09_x86_heapCheck_boundary_all {p : AxCut.Prog} {hooks : Bool} {routine : List Code} {ops : List MockOp}
    {cfg : MonCfg} (hk : cfg.consts = consts) {st : Pos.State} {X : State}
    (B : ConcK.BoundaryOf p hooks routine ops cfg st X) :
    ∃ below inUse, HeapShapeAt cfg X below inUse ∧
      (64 * below + 64 ≤ X.maxHeapWritten + 512 → heapCheck cfg X (ctxKinds st.ctx) = .ok below) :=
  ConcK.heapCheck_boundary hk B

/-- THE HEAP MONITOR DOES NOT FIRE AT A STATEMENT BOUNDARY, all programs (hooks on; `items` = the items of the
routine, with their comment texts): at a machine state related by `Ref.K.Rel3` to a positional state, `monitor`
finds the `#ctx` hook of that boundary at the program counter, parses its kinds and — when the frontier lies in
its window — returns the number of blocks below the frontier. -/
theorem C09_x86_monitor_boundary_all {F : Frame} {cfg : MonCfg} (hFc : F.c = cfg.mach) (hk : cfg.consts = consts)
    {routine : List Code} {items : List (Code × Nat)} (hitems : items.map (·.1) = routine)
    {P : Program} {prog : AxCut.Prog} {st : Pos.State} {cfgA : Config} {hs : Scc.Heap.HState} {X : State}
    (R : Ref.K.Rel3 F routine P true prog st cfgA hs X)
    (hparse : ∀ Γ, Code.COMMENT (ctxHookComment Γ) ∈ routine → parseCtx (ctxHookComment Γ) = some (ctxKinds Γ)) :
    ∃ below inUse, HeapShapeAt cfg X below inUse ∧
      (cfg.heap = false → monitor cfg (mkProg cfg.mach items) X = .ok none) ∧
      (cfg.heap = true → 64 * below + 64 ≤ X.maxHeapWritten + 512 →
        monitor cfg (mkProg cfg.mach items) X = .ok (some below)) :=
  ConcK.monitor_boundary hFc hk hitems R hparse

/-- C09 FOR CONCRETE x86-64 EXECUTIONS OF ALL PROGRAMS, on the items of the routine, side hypotheses explicit:
along a terminating run, the machine started at `asm_main` passes — in order, without fault — through a
statement-boundary state for EVERY state of the run of the positional machine, and at each of them the
machine's heap memory, HEAP, FREE and the pointer temporaries of the live variables satisfy the invariant. -/
theorem C09_x86_programs_items (p : AxCut.Prog) (args : List Word) (hooks : Bool) (body routine : List Code)
    (nargs : Nat) (d0 : Def) (ops : List MockOp) (c' : Nat)
    (hsafe : LabelSafe p = true) (htp : LinTypedProg p) (hrange : ProgInRange p)
    (hcompM : (compile mockSym hooks p).run 0 = .ok ((ops, nargs), c')) (hfit : CodeFits ops)
    (hcompX : compileX86 p hooks 0 = .ok (body, nargs)) (hrout : intoRoutine body nargs = .ok routine)
    (hnd : (labs routine).Nodup)
    (hd : p.defs.head? = some d0) (hentry : ∀ b ∈ d0.ctx, b.chi = .ext ∧ b.ty = .i64)
    (hcap : ∀ st, Reachable p ⟨d0.ctx, args.map .int, d0.body⟩ st → 2 * st.ctx.length ≤ 266)
    (fuel : Nat) (out : List (Bool × Word)) (v : Word) (hfuel : fuel + 1 < 2 ^ 64)
    (hrun : Pos.run p args fuel = ⟨out, .done v⟩)
    (cfg : MonCfg) (MO : MachOK cfg.mach) (hk : cfg.consts = consts)
    (hb8 : cfg.mach.heapBase % 8 = 0) (hb0 : 0 < cfg.mach.heapBase)
    (hbytes : 128 + 64 * 134 * fuel ≤ cfg.mach.heapBytes)
    (items : List (Code × Nat)) (hitems : (items.map (·.1)).map stripC = routine.map stripC)
    (hfitX : addrAt cfg.mach.codeBase routine routine.length < 2 ^ 64) :
    (mkProg cfg.mach items).labelIdx["asm_main"]? = some 6 ∧
    (∃ n0 X0, stepN cfg (mkProg cfg.mach items) n0 (initState cfg.mach args 6) = .inl X0 ∧
      BChain cfg (mkProg cfg.mach items)
        (fun st X => ConcK.BoundaryOf p hooks routine ops cfg st X ∧
          HeapInvAt cfg X (ctxKinds st.ctx) (cfg.mach.heapBase + cfg.mach.heapBytes))
        (statesOf p fuel ⟨d0.ctx, args.map .int, d0.body⟩) X0) ∧
    ∀ st, Reachable p ⟨d0.ctx, args.map .int, d0.body⟩ st →
      ∃ n X, stepN cfg (mkProg cfg.mach items) n (initState cfg.mach args 6) = .inl X ∧
        ConcK.BoundaryOf p hooks routine ops cfg st X ∧
        HeapInvAt cfg X (ctxKinds st.ctx) (cfg.mach.heapBase + cfg.mach.heapBytes) := by
  obtain ⟨hmain, n0, X0, h0, hch, hstop⟩ := ConcK.programs_chain p args hooks body routine nargs d0 ops c' hsafe htp
    ⟨hrange.1, fun d hd => hrange.2 d hd⟩ hcompM hfit hcompX hrout hnd hd hentry hcap fuel out v
    hfuel hrun cfg MO hb8 hb0 hbytes items hitems hfitX
  refine ⟨hmain, ⟨n0, X0, h0, BChain.mono (fun st X B => ⟨B, ConcK.heapInvAt_of_boundary hk B⟩) hch⟩, ?_⟩
  intro st hr
  obtain ⟨n, X, hn, B⟩ := BChain.prepend h0 hch st (reachable_mem_statesOf p fuel _ st hstop hr)
  exact ⟨n, X, hn, B, ConcK.heapInvAt_of_boundary hk B⟩

/-- C09 FOR CONCRETE x86-64 EXECUTIONS OF ALL PROGRAMS, ON THE TEXT OF THE ROUTINE, side hypotheses discharged:
under the hypotheses of `C06_programs_text` the text of the routine loads (`items`: what the machine's own parser
reads, the program `run` executes is `mkProg cfg.mach items`, entered at `asm_main` = item 6), and the machine
passes — in order, without fault — through a statement-boundary state for EVERY state of the terminating run of
the positional machine; the heap invariant of C09 holds at each of them. -/
theorem C09_x86_programs (p : AxCut.Prog) (args : List Word) (hooks : Bool) (body routine : List Code)
    (nargs : Nat) (d0 : Def)
    (hsafe : LabelSafe p = true) (htp : LinTypedProg p) (hchk : C06_x86Checks p = true)
    (hcompX : compileX86 p hooks 0 = .ok (body, nargs)) (hrout : intoRoutine body nargs = .ok routine)
    (hd : p.defs.head? = some d0)
    (fuel : Nat) (out : List (Bool × Word)) (v : Word) (hrun : Pos.run p args fuel = ⟨out, .done v⟩)
    (cfg : MonCfg) (MO : MachOK cfg.mach) (hk : cfg.consts = consts)
    (hb8 : cfg.mach.heapBase % 8 = 0) (hb0 : 0 < cfg.mach.heapBase)
    (hbytes : 128 + 64 * 134 * fuel ≤ cfg.mach.heapBytes)
    (hfitX : addrAt cfg.mach.codeBase routine routine.length < 2 ^ 64) :
    ∃ ops c' items, (compile mockSym hooks p).run 0 = .ok ((ops, nargs), c') ∧
      parseText (printProg routine) = .ok items ∧
      (mkProg cfg.mach items).labelIdx["asm_main"]? = some 6 ∧
      ∃ n0 X0, stepN cfg (mkProg cfg.mach items) n0 (initState cfg.mach args 6) = .inl X0 ∧
        BChain cfg (mkProg cfg.mach items)
          (fun st X => ConcK.BoundaryOf p hooks routine ops cfg st X ∧
            HeapInvAt cfg X (ctxKinds st.ctx) (cfg.mach.heapBase + cfg.mach.heapBytes))
          (statesOf p fuel ⟨d0.ctx, args.map .int, d0.body⟩) X0 := by
  obtain ⟨ops, c', items, S⟩ := C06_setup_of_checks p args hooks body routine nargs d0 hsafe htp hchk hcompX hrout hd
  obtain ⟨hmain, hch, _⟩ := C09_x86_programs_items p args hooks body routine nargs d0 ops c' hsafe htp S.range
    S.compM S.fit hcompX hrout S.nd hd S.entry S.cap fuel out v (fuel_lt_of_heap MO hbytes) hrun cfg MO hk hb8 hb0
    hbytes items S.items hfitX
  exact ⟨ops, c', items, S.compM, S.parse, hmain, hch⟩

/-- … in particular for EVERY state the positional machine reaches: the machine's run on the text of the routine
contains a boundary state for it, and the invariant holds there -/
theorem C09_x86_reachable_all (p : AxCut.Prog) (args : List Word) (hooks : Bool) (body routine : List Code)
    (nargs : Nat) (d0 : Def)
    (hsafe : LabelSafe p = true) (htp : LinTypedProg p) (hchk : C06_x86Checks p = true)
    (hcompX : compileX86 p hooks 0 = .ok (body, nargs)) (hrout : intoRoutine body nargs = .ok routine)
    (hd : p.defs.head? = some d0)
    (fuel : Nat) (out : List (Bool × Word)) (v : Word) (hrun : Pos.run p args fuel = ⟨out, .done v⟩)
    (cfg : MonCfg) (MO : MachOK cfg.mach) (hk : cfg.consts = consts)
    (hb8 : cfg.mach.heapBase % 8 = 0) (hb0 : 0 < cfg.mach.heapBase)
    (hbytes : 128 + 64 * 134 * fuel ≤ cfg.mach.heapBytes)
    (hfitX : addrAt cfg.mach.codeBase routine routine.length < 2 ^ 64) :
    ∃ ops c' items, (compile mockSym hooks p).run 0 = .ok ((ops, nargs), c') ∧
      parseText (printProg routine) = .ok items ∧
      ∀ st, Reachable p ⟨d0.ctx, args.map .int, d0.body⟩ st →
        ∃ n X, stepN cfg (mkProg cfg.mach items) n (initState cfg.mach args 6) = .inl X ∧
          ConcK.BoundaryOf p hooks routine ops cfg st X ∧
          HeapInvAt cfg X (ctxKinds st.ctx) (cfg.mach.heapBase + cfg.mach.heapBytes) := by
  obtain ⟨ops, c', items, S⟩ := C06_setup_of_checks p args hooks body routine nargs d0 hsafe htp hchk hcompX hrout hd
  obtain ⟨_, _, hreach⟩ := C09_x86_programs_items p args hooks body routine nargs d0 ops c' hsafe htp S.range
    S.compM S.fit hcompX hrout S.nd hd S.entry S.cap fuel out v (fuel_lt_of_heap MO hbytes) hrun cfg MO hk hb8 hb0
    hbytes items S.items hfitX
  exact ⟨ops, c', items, S.compM, S.parse, hreach⟩

/-- C09 FOR EVERY PREFIX OF EVERY RUN (terminating or not) OF ALL PROGRAMS, on the items, side hypotheses
explicit: for ANY number `fuel` of steps of the positional machine, the machine started at `asm_main` passes — in
order, without fault — through a statement-boundary state for every state the positional machine goes through,
and the invariant of C09 holds at each of them.  Room: the footprint bound of C10. -/
theorem C09_x86_every_prefix_all_items (p : AxCut.Prog) (args : List Word) (hooks : Bool)
    (body routine : List Code) (nargs : Nat) (d0 : Def) (ops : List MockOp) (c' : Nat)
    (hsafe : LabelSafe p = true) (htp : LinTypedProg p) (hrange : ProgInRange p)
    (hcompM : (compile mockSym hooks p).run 0 = .ok ((ops, nargs), c')) (hfit : CodeFits ops)
    (hcompX : compileX86 p hooks 0 = .ok (body, nargs)) (hrout : intoRoutine body nargs = .ok routine)
    (hnd : (labs routine).Nodup)
    (hd : p.defs.head? = some d0) (hentry : ∀ b ∈ d0.ctx, b.chi = .ext ∧ b.ty = .i64)
    (hlen : d0.ctx.length = args.length)
    (hcap : ∀ st, Reachable p ⟨d0.ctx, args.map .int, d0.body⟩ st → 2 * st.ctx.length ≤ 266)
    (fuel : Nat) (hfuel : fuel + 1 < 2 ^ 64)
    (cfg : MonCfg) (MO : MachOK cfg.mach) (hk : cfg.consts = consts)
    (hb8 : cfg.mach.heapBase % 8 = 0) (hb0 : 0 < cfg.mach.heapBase)
    (Pk : Nat) (hbytes : 64 * (Pk + progMaxAlloc p + 2) ≤ cfg.mach.heapBytes)
    (items : List (Code × Nat)) (hitems : (items.map (·.1)).map stripC = routine.map stripC)
    (hfitX : addrAt cfg.mach.codeBase routine routine.length < 2 ^ 64)
    (hP : ConcK.PeakAtMost p hooks routine ops cfg items args Pk (progMaxAlloc p * fuel + 1)) :
    ∃ n0 X0, stepN cfg (mkProg cfg.mach items) n0 (initState cfg.mach args 6) = .inl X0 ∧
      BChain cfg (mkProg cfg.mach items)
        (fun st X => ConcK.BoundaryOf p hooks routine ops cfg st X ∧
          HeapInvAt cfg X (ctxKinds st.ctx) (cfg.mach.heapBase + cfg.mach.heapBytes))
        (statesOf p fuel ⟨d0.ctx, args.map .int, d0.body⟩) X0 := by
  obtain ⟨_, n0, X0, h0, hch⟩ := ConcK.programs_prefix p args hooks body routine nargs d0 ops c' hsafe htp
    ⟨hrange.1, fun d hd => hrange.2 d hd⟩ hcompM hfit hcompX hrout hnd hd hentry hlen hcap fuel
    hfuel cfg MO hk hb8 hb0 Pk (progMaxAlloc p) (allocLe_progMaxAlloc p) hbytes items hitems hfitX hP
  exact ⟨n0, X0, h0, BChain.mono (fun st X B => ⟨B.1, ConcK.heapInvAt_of_boundary hk B.1⟩) hch⟩

/-- C09 FOR EVERY PREFIX OF EVERY RUN OF ALL PROGRAMS, ON THE TEXT OF THE ROUTINE, side hypotheses discharged
(hypotheses of `C06_programs_text` without the terminating run; `args.length = nargs`; the peak hypothesis for the
mock code and the items of the text) -/
theorem C09_x86_every_prefix_all (p : AxCut.Prog) (args : List Word) (hooks : Bool) (body routine : List Code)
    (nargs : Nat) (d0 : Def)
    (hsafe : LabelSafe p = true) (htp : LinTypedProg p) (hchk : C06_x86Checks p = true)
    (hcompX : compileX86 p hooks 0 = .ok (body, nargs)) (hrout : intoRoutine body nargs = .ok routine)
    (hd : p.defs.head? = some d0) (hargs : args.length = nargs)
    (fuel : Nat) (hfuel : fuel + 1 < 2 ^ 64)
    (cfg : MonCfg) (MO : MachOK cfg.mach) (hk : cfg.consts = consts)
    (hb8 : cfg.mach.heapBase % 8 = 0) (hb0 : 0 < cfg.mach.heapBase)
    (Pk : Nat) (hbytes : 64 * (Pk + progMaxAlloc p + 2) ≤ cfg.mach.heapBytes)
    (hfitX : addrAt cfg.mach.codeBase routine routine.length < 2 ^ 64)
    (hP : ∀ ops c' items, (compile mockSym hooks p).run 0 = .ok ((ops, nargs), c') →
      parseText (printProg routine) = .ok items →
      ConcK.PeakAtMost p hooks routine ops cfg items args Pk (progMaxAlloc p * fuel + 1)) :
    ∃ ops c' items, (compile mockSym hooks p).run 0 = .ok ((ops, nargs), c') ∧
      parseText (printProg routine) = .ok items ∧
      ∃ n0 X0, stepN cfg (mkProg cfg.mach items) n0 (initState cfg.mach args 6) = .inl X0 ∧
        BChain cfg (mkProg cfg.mach items)
          (fun st X => ConcK.BoundaryOf p hooks routine ops cfg st X ∧
            HeapInvAt cfg X (ctxKinds st.ctx) (cfg.mach.heapBase + cfg.mach.heapBytes))
          (statesOf p fuel ⟨d0.ctx, args.map .int, d0.body⟩) X0 := by
  obtain ⟨ops, c', items, S⟩ := C06_setup_of_checks p args hooks body routine nargs d0 hsafe htp hchk hcompX hrout hd
  exact ⟨ops, c', items, S.compM, S.parse,
    C09_x86_every_prefix_all_items p args hooks body routine nargs d0 ops c' hsafe htp S.range S.compM S.fit hcompX
      hrout S.nd hd S.entry (by rw [← S.nargs, hargs]) S.cap fuel hfuel cfg MO hk hb8 hb0 Pk hbytes items S.items
      hfitX (hP ops c' items S.compM S.parse)⟩

/-- C09 FOR EVERY PREFIX OF EVERY RUN OF ALL PROGRAMS, with the room hypothesis on the SOURCE PROGRAM: if the
object and closure values held by the variables of the positional machine never have more than `D` fields (over
all reachable states), a heap of `64·(D + A + 2)` bytes is enough, and at every statement boundary of every
prefix of the run — terminating or not — the machine's heap satisfies the invariant of C09. -/
theorem C09_x86_every_prefix_all_size (p : AxCut.Prog) (args : List Word) (hooks : Bool)
    (body routine : List Code) (nargs : Nat) (d0 : Def)
    (hsafe : LabelSafe p = true) (htp : LinTypedProg p) (hchk : C06_x86Checks p = true)
    (hcompX : compileX86 p hooks 0 = .ok (body, nargs)) (hrout : intoRoutine body nargs = .ok routine)
    (hd : p.defs.head? = some d0) (hargs : args.length = nargs)
    (D : Nat) (hD : ∀ st, Reachable p ⟨d0.ctx, args.map .int, d0.body⟩ st → valsFields st.env ≤ D)
    (fuel : Nat) (hfuel : fuel + 1 < 2 ^ 64)
    (cfg : MonCfg) (MO : MachOK cfg.mach) (hk : cfg.consts = consts)
    (hb8 : cfg.mach.heapBase % 8 = 0) (hb0 : 0 < cfg.mach.heapBase)
    (hbytes : 64 * (D + progMaxAlloc p + 2) ≤ cfg.mach.heapBytes)
    (hfitX : addrAt cfg.mach.codeBase routine routine.length < 2 ^ 64) :
    ∃ ops c' items, (compile mockSym hooks p).run 0 = .ok ((ops, nargs), c') ∧
      parseText (printProg routine) = .ok items ∧
      ∃ n0 X0, stepN cfg (mkProg cfg.mach items) n0 (initState cfg.mach args 6) = .inl X0 ∧
        BChain cfg (mkProg cfg.mach items)
          (fun st X => ConcK.BoundaryOf p hooks routine ops cfg st X ∧
            HeapInvAt cfg X (ctxKinds st.ctx) (cfg.mach.heapBase + cfg.mach.heapBytes))
          (statesOf p fuel ⟨d0.ctx, args.map .int, d0.body⟩) X0 := by
  obtain ⟨ops, c', items, S⟩ := C06_setup_of_checks p args hooks body routine nargs d0 hsafe htp hchk hcompX hrout hd
  obtain ⟨n0, X0, h0, hch⟩ := ConcK.programs_prefix_gen p args hooks body routine nargs d0 ops c' hsafe htp S.progOK
    S.compM S.fit hcompX hrout S.nd hd S.entry (by rw [← S.nargs, hargs]) S.cap fuel hfuel cfg MO hb8 hb0 D
    (progMaxAlloc p) (allocLe_progMaxAlloc p) hbytes items S.items hfitX (ConcK.peakHyp_of_data hD)
  exact ⟨ops, c', items, S.compM, S.parse, n0, X0, h0,
    BChain.mono (fun st X B => ⟨B, ConcK.heapInvAt_of_boundary hk B⟩) hch⟩

/-- every hypothesis of `C09_x86_programs` holds for the closure program started with x = 37 (a closure `f`
capturing `x`, a two-method closure `g` capturing `f`, `g` invoked through its jump table, `f` — loaded from the
environment of `g` — by `jmp reg`): the machine on the text of the routine passes through a boundary state for
each state of the positional run, and the heap invariant holds at each -/
example : ∃ ops c' items, (compile mockSym true C06_cloProg).run 0 = .ok ((ops, 1), c') ∧
    parseText (printProg C06_cloRoutine) = .ok items ∧
    (mkProg ({} : MachCfg) items).labelIdx["asm_main"]? = some 6 ∧
    ∃ n0 X0, stepN {} (mkProg ({} : MachCfg) items) n0 (initState {} [37] 6) = .inl X0 ∧
      BChain {} (mkProg ({} : MachCfg) items)
        (fun st X => ConcK.BoundaryOf C06_cloProg true C06_cloRoutine ops {} st X ∧
          HeapInvAt {} X (ctxKinds st.ctx) (0x10000000 + 0x2000000))
        (statesOf C06_cloProg 20 ⟨C06_cloMain.ctx, [.int 37], C06_cloMain.body⟩) X0 := by
  exact C09_x86_programs C06_cloProg [37] true C06_cloBody C06_cloRoutine 1 C06_cloMain
    C06_cloProg_labelSafe C06_cloProg_typed C06_cloProg_checks C06_cloProg_compiles.1 C06_cloProg_compiles.2 rfl
    20 _ _ C06_cloProg_run {} machOK_default rfl (by decide) (by decide) (by decide) C06_cloRoutine_fits

/-- `C09_x86_every_prefix_all_size` on the closure program: the first 5 steps of the run (a proper prefix: up to
the second `create`), `D = 2` -/
example : ∃ ops c' items, (compile mockSym true C06_cloProg).run 0 = .ok ((ops, 1), c') ∧
    parseText (printProg C06_cloRoutine) = .ok items ∧
    ∃ n0 X0, stepN {} (mkProg ({} : MachCfg) items) n0 (initState {} [37] 6) = .inl X0 ∧
      BChain {} (mkProg ({} : MachCfg) items)
        (fun st X => ConcK.BoundaryOf C06_cloProg true C06_cloRoutine ops {} st X ∧
          HeapInvAt {} X (ctxKinds st.ctx) (0x10000000 + 0x2000000))
        (statesOf C06_cloProg 5 ⟨C06_cloMain.ctx, [.int 37], C06_cloMain.body⟩) X0 := by
  have e1 := C06_cloProg_consts.1
  exact C09_x86_every_prefix_all_size C06_cloProg [37] true C06_cloBody C06_cloRoutine 1 C06_cloMain
    C06_cloProg_labelSafe C06_cloProg_typed C06_cloProg_checks C06_cloProg_compiles.1 C06_cloProg_compiles.2 rfl rfl 2
    C06_cloProg_size 5 (by decide)
    {} machOK_default rfl (by decide) (by decide) (by rw [e1]; decide) C06_cloRoutine_fits

/-- THE CLOSURE LOOP (Props/C13X86All.lean; it never terminates): for EVERY number `k` of steps of the positional
machine the machine on the text of the routine passes through a statement boundary for each of the first `k`
states — among them, in every round, the boundary reached by the `jmp reg` of the `invoke` —, and the heap
invariant holds at each of them -/
theorem C09_cloLoop_every_boundary (k : Nat) (hk : k + 1 < 2 ^ 64) :
    ∃ ops c' items, (compile mockSym true C13_cloLoopProg).run 0 = .ok ((ops, 1), c') ∧
      parseText (printProg C13_cloLoopRoutine) = .ok items ∧
      ∃ n0 X0, stepN {} (mkProg ({} : MachCfg) items) n0 (initState {} [5] 6) = .inl X0 ∧
        BChain {} (mkProg ({} : MachCfg) items)
          (fun st X => ConcK.BoundaryOf C13_cloLoopProg true C13_cloLoopRoutine ops {} st X ∧
            HeapInvAt {} X (ctxKinds st.ctx) (0x10000000 + 0x2000000))
          (statesOf C13_cloLoopProg k C13_cloS0) X0 := by
  have e1 := C13_cloLoop_consts.1
  exact C09_x86_every_prefix_all_size C13_cloLoopProg [5] true C13_cloLoopBody C13_cloLoopRoutine 1 C13_cloLoopMain
    C13_cloLoopProg_labelSafe C13_cloLoopProg_typed C13_cloLoopProg_checks C13_cloLoopProg_compiles.1 C13_cloLoopProg_compiles.2 rfl rfl 1
    C13_cloLoop_size k hk
    {} machOK_default rfl (by decide) (by decide) (by rw [e1]; decide) C13_cloLoopRoutine_fits

end Scc.X86

#print axioms Scc.X86.C09_x86_boundary_all
#print axioms Scc.X86.C09_x86_heapCheck_boundary_all
#print axioms Scc.X86.C09_x86_monitor_boundary_all
#print axioms Scc.X86.C09_x86_programs_items
#print axioms Scc.X86.C09_x86_programs
#print axioms Scc.X86.C09_x86_reachable_all
#print axioms Scc.X86.C09_x86_every_prefix_all_items
#print axioms Scc.X86.C09_x86_every_prefix_all
#print axioms Scc.X86.C09_x86_every_prefix_all_size
#print axioms Scc.X86.C09_cloLoop_every_boundary
