/-
  Scc.Props.C08RVInt — property C08 (RISC-V backend), THEOREM A ∘ THEOREM B FOR INTEGER PROGRAMS:
  the composition of Theorem A (Props/C06Generic.lean: AxCut positional machine ⟶ abstract backend machine on
  the mock code) with a refinement from the abstract backend machine to the RV64 SPEC machine
  (Scc/RV/Machine.lean) on the code that `RV.compileRoutine` emits (Scc/RV/Ref*.lean).

  The relation is THREE-WAY at statement boundaries (Scc/RV/RefDefs.lean: `X3`)
        AxCut positional machine  ⟷  abstract backend machine  ⟷  RV64 machine:
  position i of the abstract machine (temporaries 2i, 2i+1) is held by the registers `X(2i+4)`, `X(2i+5)`
  (there are no spills on RV64), typed by the context (an integer is the same word on both machines; the tag
  of an object is `n` resp. `4·n`, a reference an object id resp. the address of the head block, the word of a
  closure an abstract code address resp. the address `cw i` / `τ id j` of its method table), the
  abstract heap is represented by the machine memory through `HRef` (Props/C09Refine.lean) ∘ `HeapRel`
  (Props/C08RV.lean).  The code at the program counter is the code the generator emits for the current
  statement in the current context from SOME label counter (`KAt`), up to the plain comments that the
  machine's `layout` drops (hook comments are kept as items and do nothing when the heap monitor is off).

  PROVED (no `sorry`, axioms: propext, Classical.choice, Quot.sound):
  * `C08_loaded_layout`   THE LOADER at the level of parsed lines: `layout lines` succeeds unless a hook is
      malformed; the program holds the kept codes, the label table maps a label to its first definition,
      the address table an instruction address to the label standing before it / the instruction, the entry
      is the first label.
  * `C08_init`            the initial state: the machine's entry state (`X2 = heapBase`, `X3 = X2 + 64`,
      argument i in `X(2i+5)`, empty memory) is related to the initial configuration of the abstract machine
      and to the initial state of the block-level heap.
  * `C08_lit_rv`, `C08_op_rv`, `C08_ifc_rv`, `C08_call_rv`, `C08_exit_rv`, `C08_subst_rv`   the
      three-way simulation of the heap-free statements and of `subst` (on ARBITRARY contexts: erase / share of
      object variables against `HRef`, parallel moves of both registers of every position).
  * `C08_int_programs`    END TO END for print-free INTEGER programs with at most 14 live variables,
      on the parsed LINES of the emitted routine: a terminating run `Pos.run … = done v` of the positional
      machine is reproduced by the RV64 machine (`runLines` = `run` after `parseText`): it reaches `cleanup`
      with `v` in `X10`.  `C08_int_programs_text`: the same for `RV.run` on the TEXT, given `C08_TextLoads`.
  `def : Prop`s:
  * `C08_loader_statement`  the loader fact AS FIRST STATED: the machine's `parseText` reads the text printed
      by `into_rv64_routine` back, up to the text of comments, without malformed hooks.  REFUTED in
      Props/C14LoaderRV.lean (`C08_loader_statement_false`: the hypothesis `codeTextOK` is too weak — the first
      item must be a label, registers must exist, a label must not start with `//`, a `#ctx [` comment must be a
      well-formed hook).  The corrected statement `C14R_loader_statement` is PROVED there (`C14R_loader`), every
      compiled routine satisfies its hypothesis (`C14R_routine_textOK`), and `C08_programs_text_loaded` is the
      run theorem on the text without any loader hypothesis.
  * `C08_int_programs_statement`  `C08_int_programs` without its side hypotheses; no theorem concludes it in that
      generality.  The hypotheses about generated code are derived from the program in `C08_rv_setup` /
      `C08_programs_checked` (Props/C08RVClo.lean, all programs).
-/
import Scc.RV.ConcRun
import Scc.Props.C08RV

namespace Scc.RV

open Scc.AxCut Scc.AxCut.Pos Scc.Backend Scc.Backend.Abs Scc.Backend.Sim Scc.Backend.Sim2 Scc.RV.Ref
open Scc.Heap (HState)
open Scc.Heap.Refine (FrLe Room)
open Scc.Props.C06Generic (Reachable WithinCapacity CodeFits EnoughHeap IntStmt IntProg)
open Scc.Props.C14Generic (LabelSafe)

/-- THE LOADER on parsed lines -/
theorem C08_loaded_layout (lines : List (Nat × Code)) (hb : ∀ x ∈ lines, ¬ badHook x.2) :
    ∃ p, layout lines = .ok p ∧ Loaded p (keptOf lines) :=
  loaded_layout lines hb

/-- the entry: the machine's entry state, with the arguments in the argument registers and an empty memory, represents the
    initial abstract configuration on the initial heap (`x3_init`) -/
theorem C08_init {mc : MonCfg} {cw : Nat → Word} {τ : Nat → Nat → Word} {args : List Word} {regs : Array (Option Word)} {e a : Nat}
    {Γ : Ctx} (hr : entryRegs args = some regs) (hlen : Γ.length = args.length)
    (hext : ∀ b ∈ Γ, b.chi = .ext) (hcap : Γ.length ≤ 14) (htop : heapBase + mc.heapBytes ≤ 2 ^ 63)
    (hl : 128 ≤ mc.heapBytes) (ι : Nat → Nat) :
    X3 mc cw τ Γ (initConfig a args) (Scc.Heap.init heapBase (heapBase + mc.heapBytes)) ι
      { regs := regs, mem := ∅, pc := e } :=
  x3_init hr hlen hext hcap htop hl ι

section Stmts

variable {mc : MonCfg} {cw : Nat → Word} {τ : Nat → Nat → Word} {p : RV.Program} {ks : List Code} (L : Loaded p ks)
  (hndL : (labs ks).Nodup) (hheap : mc.heap = false)

include L hndL hheap in
/-- `lit` (`lit_x3`), and likewise `op`, `ifc`, `call` below: one step of the positional machine, the steps of the abstract
    machine and a run of the RV64 machine; the relations hold again.  `FrameFacts cfg cfg' n` (Scc/RV/RefInt.lean): the
    abstract step keeps the heap and the temporaries of the positions below `n`. -/
theorem C08_lit_rv {P : Abs.Program} {hooks : Bool} {prog : AxCut.Prog} {Γ : Ctx} {ρ : List Value} {x : Ident}
    {n : Int} {next : Stmt} {fv : FV} {cfg : Config}
    (R : RelX P hooks prog ⟨Γ, ρ, .lit x n next fv⟩ cfg)
    (hfresh : ∀ b ∈ Γ, b.var.id ≠ x.id) (hcap : 2 * (Γ.length + 1) + 2 < Mock.T_TEMP)
    {hs : HState} {ι : Nat → Nat} {st : State} (X : X3 mc cw τ Γ cfg hs ι st)
    {kx kx' : Nat} {items : List Code}
    (hrunX : (codeStatementR rvBackend hooks natRen prog.types (.lit x n next fv) Γ).run kx = .ok (items, kx'))
    (hatX : KAt ks st.pc items) :
    ∃ cfg' st', stepsTo P 1 cfg cfg' ∧ Reach p mc st st' ∧
      cfg'.out = cfg.out ∧ cfg'.next = cfg.next ∧ FrameFacts cfg cfg' Γ.length ∧
      RelX P hooks prog ⟨Γ ++ [⟨x, .ext, .i64⟩], ρ ++ [.int (BitVec.ofInt 64 n)], next⟩ cfg' ∧
      X3 mc cw τ (Γ ++ [⟨x, .ext, .i64⟩]) cfg' hs ι st' ∧
      ∃ k1 k1' items', (codeStatementR rvBackend hooks natRen prog.types next
          (Γ ++ [⟨x, .ext, .i64⟩])).run k1 = .ok (items', k1') ∧ KAt ks st'.pc items' :=
  lit_x3 L hndL hheap R hfresh hcap X hrunX hatX

include L hndL hheap in
theorem C08_op_rv {P : Abs.Program} {hooks : Bool} {prog : AxCut.Prog} {Γ : Ctx} {ρ : List Value} {x a b : Ident}
    {o : BinOp} {next : Stmt} {fv : FV} {cfg : Config} {va vb v : Word}
    (R : RelX P hooks prog ⟨Γ, ρ, .op x a o b next fv⟩ cfg)
    (hfresh : ∀ b' ∈ Γ, b'.var.id ≠ x.id) (hcap : 2 * (Γ.length + 1) + 2 < Mock.T_TEMP)
    (ha : readInt Γ ρ a = .ok va) (hb : readInt Γ ρ b = .ok vb) (hv : Pos.evalOp o va vb = .ok v)
    {hs : HState} {ι : Nat → Nat} {st : State} (X : X3 mc cw τ Γ cfg hs ι st)
    {kx kx' : Nat} {items : List Code}
    (hrunX : (codeStatementR rvBackend hooks natRen prog.types (.op x a o b next fv) Γ).run kx = .ok (items, kx'))
    (hatX : KAt ks st.pc items) :
    ∃ cfg' st', stepsTo P 1 cfg cfg' ∧ Reach p mc st st' ∧
      cfg'.out = cfg.out ∧ cfg'.next = cfg.next ∧ FrameFacts cfg cfg' Γ.length ∧
      RelX P hooks prog ⟨Γ ++ [⟨x, .ext, .i64⟩], ρ ++ [.int v], next⟩ cfg' ∧
      X3 mc cw τ (Γ ++ [⟨x, .ext, .i64⟩]) cfg' hs ι st' ∧
      ∃ k1 k1' items', (codeStatementR rvBackend hooks natRen prog.types next
          (Γ ++ [⟨x, .ext, .i64⟩])).run k1 = .ok (items', k1') ∧ KAt ks st'.pc items' :=
  op_x3 L hndL hheap R hfresh hcap ha hb hv X hrunX hatX

include L hndL hheap in
theorem C08_ifc_rv {P : Abs.Program} {hooks : Bool} {prog : AxCut.Prog} {Γ : Ctx} {ρ : List Value} {a : Ident}
    {b : Option Ident} {srt : IfSort} {t e : Stmt} {cfg : Config} {va vb : Word}
    (R : RelX P hooks prog ⟨Γ, ρ, .ifc srt a b t e⟩ cfg) (ha : readInt Γ ρ a = .ok va)
    (hb : match b with | none => vb = 0 | some b' => readInt Γ ρ b' = .ok vb)
    {hs : HState} {ι : Nat → Nat} {st : State} (X : X3 mc cw τ Γ cfg hs ι st)
    {kx kx' : Nat} {items : List Code}
    (hrunX : (codeStatementR rvBackend hooks natRen prog.types (.ifc srt a b t e) Γ).run kx = .ok (items, kx'))
    (hatX : KAt ks st.pc items) :
    ∃ cfg' st', stepsTo P 1 cfg cfg' ∧ Reach p mc st st' ∧
      cfg'.out = cfg.out ∧ cfg'.next = cfg.next ∧ FrameFacts cfg cfg' Γ.length ∧
      RelX P hooks prog ⟨Γ, ρ, if Pos.evalCmp srt va vb then t else e⟩ cfg' ∧ X3 mc cw τ Γ cfg' hs ι st' ∧
      ∃ k1 k1' items', (codeStatementR rvBackend hooks natRen prog.types
          (if Pos.evalCmp srt va vb then t else e) Γ).run k1 = .ok (items', k1') ∧ KAt ks st'.pc items' :=
  ifc_x3 L hndL hheap R ha hb X hrunX hatX

include L hndL hheap in
theorem C08_call_rv {P : Abs.Program} {hooks : Bool} {prog : AxCut.Prog} {Γ : Ctx} {ρ : List Value} {l : Ident}
    {args : Ctx} {cfg : Config} {d : Def}
    (R : RelX P hooks prog ⟨Γ, ρ, .call l args⟩ cfg) (D : DefsAt P hooks prog) (DX : KDefsAt ks hooks prog)
    (hd : Pos.findDef prog.defs l = some d) (hchi : Pos.chiTys Γ = Pos.chiTys d.ctx)
    {hs : HState} {ι : Nat → Nat} {st : State} (X : X3 mc cw τ Γ cfg hs ι st)
    {kx kx' : Nat} {items : List Code}
    (hrunX : (codeStatementR rvBackend hooks natRen prog.types (.call l args) Γ).run kx = .ok (items, kx'))
    (hatX : KAt ks st.pc items) :
    ∃ cfg' st', stepsTo P 1 cfg cfg' ∧ Reach p mc st st' ∧
      cfg'.out = cfg.out ∧ cfg'.next = cfg.next ∧ FrameFacts cfg cfg' Γ.length ∧
      RelX P hooks prog ⟨d.ctx, ρ, d.body⟩ cfg' ∧ X3 mc cw τ d.ctx cfg' hs ι st' ∧
      ∃ k1 k1' items', (codeStatementR rvBackend hooks natRen prog.types d.body d.ctx).run k1 = .ok (items', k1') ∧
        KAt ks st'.pc items' := by
  obtain ⟨cfg', st', h1, h2, h3⟩ := call_x3 L hndL hheap R D DX hd hchi X hrunX hatX
  exact ⟨cfg', st', h1, h2.reach, h3⟩

include L hndL hheap in
/-- `exit` (`exit_x3`): the RV64 machine reaches `cleanup` with the result in `X10` -/
theorem C08_exit_rv {P : Abs.Program} {hooks : Bool} {prog : AxCut.Prog} {Γ : Ctx} {ρ : List Value} {a : Ident}
    {cfg : Config} {v : Word}
    (R : RelX P hooks prog ⟨Γ, ρ, .exit a⟩ cfg) (ha : readInt Γ ρ a = .ok v)
    {hs : HState} {ι : Nat → Nat} {st : State} (X : X3 mc cw τ Γ cfg hs ι st)
    {kx kx' : Nat} {items : List Code}
    (hrunX : (codeStatementR rvBackend hooks natRen prog.types (.exit a) Γ).run kx = .ok (items, kx'))
    (hatX : KAt ks st.pc items) {ic : Nat} (hclean : labIdx ks "cleanup" = some ic) :
    ∃ stL, Reach p mc st stL ∧ ∀ fuel, (runLoop p mc (fuel + 1) stL).res = .done v :=
  exit_x3 L hndL hheap R ha X hrunX hatX hclean

include L hndL hheap in
/-- `subst` on arbitrary contexts (erase, share, parallel moves): `subst_x3`; the machine words of the closures move
    with the positions (`cwSubst`), and `CVals` holds again -/
theorem C08_subst_rv {P : Abs.Program} {hooks : Bool} {prog : AxCut.Prog} {Γ : Ctx} {ρ : List Value}
    {pairs : List (Binding × Ident)} {next : Stmt} {cfg : Config} {vs : List Value}
    (R : RelX P hooks prog ⟨Γ, ρ, .subst pairs next⟩ cfg)
    (hΓ : (Γ.map (·.var.id)).Nodup)
    (hnew : (pairs.map (·.1.var.id)).Nodup)
    (hold : ∀ p ∈ pairs, ∃ b ∈ Γ, b.var.id = p.2.id ∧ b.chi = p.1.chi)
    (hcap : 2 * pairs.length + 2 < Mock.T_TEMP)
    (hvs : Pos.step.build Γ ρ pairs = .ok vs)
    {hsX : HState} {ι : Nat → Nat} {st : State} (X : X3 mc cw τ Γ cfg hsX ι st)
    {kx kx' : Nat} {items : List Code}
    (hrunX : (codeStatementR rvBackend hooks natRen prog.types (.subst pairs next) Γ).run kx = .ok (items, kx'))
    (hatX : KAt ks st.pc items)
    (hcapX : pairs.length ≤ 14)
    {Q : Word → Ctx → Clauses → Prop} (CVh : CVals P hooks prog.types Q cw τ cfg.heap cfg.temps Γ ρ) :
    ∃ k cfg' st' hs', stepsTo P k cfg cfg' ∧ Reach p mc st st' ∧ FrLe hsX hs' 0 ∧
      cfg'.out = cfg.out ∧ cfg'.next = cfg.next ∧
      RelX P hooks prog ⟨pairs.map (·.1), vs, next⟩ cfg' ∧
      X3 mc (cwSubst cw Γ pairs) τ (pairs.map (·.1)) cfg' hs' ι st' ∧
      CVals P hooks prog.types Q (cwSubst cw Γ pairs) τ cfg'.heap cfg'.temps (pairs.map (·.1)) vs ∧
      ∃ k1 k1' items', (codeStatementR rvBackend hooks natRen prog.types next (pairs.map (·.1))).run k1 =
          .ok (items', k1') ∧ KAt ks st'.pc items' :=
  subst_x3 L hndL hheap R hΓ hnew hold hcap hvs X hrunX hatX hcapX CVh

end Stmts

mutual
  /-- the statements without `print`: the only statements `step3` (Scc/RV/RefRun.lean) excludes — and it needs
  no hypothesis for that, because the RV64 backend has no code for `print` -/
  def StmtOK : Stmt → Prop
    | .lit _ _ next _ => StmtOK next
    | .op _ _ _ _ next _ => StmtOK next
    | .print _ _ _ _ => False
    | .ifc _ _ _ t e => StmtOK t ∧ StmtOK e
    | .exit _ => True
    | .call _ _ => True
    | .subst _ next => StmtOK next
    | .letS _ _ _ _ next _ => StmtOK next
    | .switch _ _ clauses _ => ClausesOK clauses
    | .create _ _ _ clauses next _ _ => StmtOK next ∧ ClausesOK clauses
    | .invoke _ _ _ _ => True
  def ClausesOK : Clauses → Prop
    | .nil => True
    | .cons _ _ body rest => StmtOK body ∧ ClausesOK rest
end

theorem stmtOK_of_int : ∀ (s : Stmt), IntStmt s → printFreeStmt s = true → StmtOK s
  | .lit _ _ next _, h, hp => by
    simp only [IntStmt, printFreeStmt] at h hp; simp only [StmtOK]; exact stmtOK_of_int next h hp
  | .op _ _ _ _ next _, h, hp => by
    simp only [IntStmt, printFreeStmt] at h hp; simp only [StmtOK]; exact stmtOK_of_int next h hp
  | .print _ _ _ _, _, hp => by simp [printFreeStmt] at hp
  | .ifc _ _ _ t e, h, hp => by
    simp only [IntStmt, printFreeStmt, Bool.and_eq_true] at h hp
    simp only [StmtOK]
    exact ⟨stmtOK_of_int t h.1 hp.1, stmtOK_of_int e h.2 hp.2⟩
  | .exit _, _, _ => by simp only [StmtOK]
  | .call _ _, _, _ => by simp only [StmtOK]
  | .subst _ next, h, hp => by
    simp only [IntStmt, printFreeStmt] at h hp; simp only [StmtOK]; exact stmtOK_of_int next h hp
  | .letS _ _ _ _ _ _, h, _ => by simp [IntStmt] at h
  | .switch _ _ _ _, h, _ => by simp [IntStmt] at h
  | .create _ _ _ _ _ _ _, h, _ => by simp [IntStmt] at h
  | .invoke _ _ _ _, h, _ => by simp [IntStmt] at h

/-- THEOREM A ∘ THEOREM B FOR INTEGER PROGRAMS (print-free, at most 14 variables at every reachable state), on
the parsed LINES of the emitted routine: a terminating run of the AxCut positional machine with result `v` is
reproduced by the RV64 SPEC machine started at the first label: it reaches `cleanup` with `v` in `X10`.
`lines`: any line list that agrees with the emitted routine (header comments `hdr`, the emitted instructions,
the label `cleanup`) up to the text of comments and has no malformed hook comment.  Side hypotheses (all
decidable on the program, the emitted code or the machine configuration): the mock code generator succeeds
and its code fits the address space (`hcompM`, `hfit`: Theorem A), the labels of the routine are pairwise
distinct (`hnd`), the routine ends below 2^64 (`hfitX`), the heap monitor is off, the heap region lies below 2^63 and has 64·15 bytes per step.
`hip` and `hpf` are not used: it is `programs_lines` (Scc/RV/ConcRun.lean), which holds for all programs. -/
theorem C08_int_programs (p : AxCut.Prog) (args : List Word) (hooks : Bool) (instrs hdr : List Code)
    (nargs cX : Nat) (d0 : Def) (ops : List MockOp) (c' : Nat)
    (hsafe : LabelSafe p = true) (htp : LinTypedProg p) (hip : IntProg p) (hpf : PrintFree p)
    (hcompM : (compile mockSym hooks p).run 0 = .ok ((ops, nargs), c')) (hfit : CodeFits ops)
    (hcompX : (compile rvBackend hooks p).run 0 = .ok ((instrs, nargs), cX))
    (hnd : (labs (instrs ++ [Code.LAB "cleanup"])).Nodup) (hfitX : codeBase + 4 * instrs.length < 2 ^ 64)
    (hd : p.defs.head? = some d0) (hentry : ∀ b ∈ d0.ctx, b.chi = .ext ∧ b.ty = .i64)
    (hcap : ∀ st, Reachable p ⟨d0.ctx, args.map .int, d0.body⟩ st → st.ctx.length ≤ maxVariables)
    (fuel : Nat) (v : Word) (hfuel : fuel + 1 < 2 ^ 64)
    (hrun : (Pos.run p args fuel).res = .done v)
    (mc : MonCfg) (hheap : mc.heap = false) (htop : heapBase + mc.heapBytes ≤ 2 ^ 63)
    (hbytes : 128 + 64 * 15 * fuel ≤ mc.heapBytes)
    (lines : List (Nat × Code)) (hhdr : ∀ c ∈ hdr, c.isComment = true)
    (hlines : (lines.map (·.2)).map stripC = (hdr ++ instrs ++ [Code.LAB "cleanup"]).map stripC)
    (hhook : ∀ x ∈ lines, ¬ badHook x.2) :
    ∃ fuel', (runLines lines args fuel' mc).res = .done v :=
  programs_lines p args hooks instrs hdr nargs cX d0 ops c' hsafe htp
    hcompM hfit hcompX hnd hfitX hd hentry hcap fuel v
    hfuel hrun mc hheap htop hbytes lines hhdr hlines hhook

/-- the text of a routine LOADS: the machine's parser reads the printed routine back, up to the text of
comments (the first line is the comment `// actual code`), and no hook comment is malformed -/
def C08_TextLoads (instrs : List Code) : Prop :=
  ∃ lines, parseText (intoRoutine instrs) = .ok lines ∧
    (lines.map (·.2)).map stripC = ([Code.COMMENT "actual code"] ++ instrs ++ [Code.LAB "cleanup"]).map stripC ∧
    ∀ x ∈ lines, ¬ badHook x.2

/-- `C08_int_programs` on the TEXT: `RV.run` on the text of `compileRoutine`, given that this text loads -/
theorem C08_int_programs_text (p : AxCut.Prog) (args : List Word) (hooks : Bool) (text : String)
    (nargs : Nat) (d0 : Def) (ops : List MockOp) (c' : Nat)
    (hsafe : LabelSafe p = true) (htp : LinTypedProg p) (hip : IntProg p) (hpf : PrintFree p)
    (hcompM : (compile mockSym hooks p).run 0 = .ok ((ops, nargs), c')) (hfit : CodeFits ops)
    (hcompX : compileRoutine p hooks 0 = .ok (nargs, text))
    (hnd : ∀ instrs, intoRoutine instrs = text → (labs (instrs ++ [Code.LAB "cleanup"])).Nodup ∧
      codeBase + 4 * instrs.length < 2 ^ 64)
    (hload : ∀ instrs, intoRoutine instrs = text → C08_TextLoads instrs)
    (hd : p.defs.head? = some d0) (hentry : ∀ b ∈ d0.ctx, b.chi = .ext ∧ b.ty = .i64)
    (hcap : ∀ st, Reachable p ⟨d0.ctx, args.map .int, d0.body⟩ st → st.ctx.length ≤ maxVariables)
    (fuel : Nat) (v : Word) (hfuel : fuel + 1 < 2 ^ 64)
    (hrun : (Pos.run p args fuel).res = .done v)
    (mc : MonCfg) (hheap : mc.heap = false) (hwf : mc.wf = false) (htop : heapBase + mc.heapBytes ≤ 2 ^ 63)
    (hbytes : 128 + 64 * 15 * fuel ≤ mc.heapBytes) :
    ∃ fuel', (run text args fuel' mc).res = .done v := by
  unfold compileRoutine at hcompX
  cases hx : (compile rvBackend hooks p).run 0 with
  | error e => rw [hx] at hcompX; cases hcompX
  | ok r =>
    obtain ⟨⟨instrs, nargs'⟩, cX⟩ := r
    rw [hx] at hcompX
    simp only [Except.ok.injEq, Prod.mk.injEq] at hcompX
    obtain ⟨rfl, rfl⟩ := hcompX
    obtain ⟨lines, hparse, hlines, hhook⟩ := hload instrs rfl
    obtain ⟨fuel', hf⟩ := C08_int_programs p args hooks instrs [Code.COMMENT "actual code"] nargs' cX d0 ops c'
      hsafe htp hip hpf hcompM hfit hx (hnd instrs rfl).1 (hnd instrs rfl).2 hd hentry hcap fuel v hfuel hrun mc hheap
      htop hbytes
      lines (fun c hc => by simp at hc; subst hc; rfl) hlines hhook
    exact ⟨fuel', by rw [run_eq_runLines hparse args fuel' mc hwf]; exact hf⟩

/-- an item whose printed line parses back to it (up to comment text): registers `X0..X31`, label names
without blanks, colons or line breaks (non-empty), comments without line breaks -/
def codeTextOK (code : Code) : Bool :=
  (match code with
   | .LAB l => !l.isEmpty && l.toList.all (fun c => c != ' ' && c != '\n' && c != '\t' && c != '\r')
   | .COMMENT m => m.toList.all (· != '\n')
   | _ => true) &&
  (match code.labelRef? with
   | some l => !l.isEmpty && l.toList.all (fun c => c != ' ' && c != '\n' && c != '\t' && c != '\r')
   | none => true)

/-- THE LOADER FACT AS FIRST STATED — FALSE (`C08_loader_statement_false`, Props/C14LoaderRV.lean): `codeTextOK`
does not ask for the first item to be a label (`into_rv64_routine` glues `// actual code` and the first printed item
together), for registers `X0..X31`, for labels not starting with `//`, for well-formed hooks.  The corrected
statement is `C14R_loader_statement`, proved as `C14R_loader`; every compiled routine satisfies its hypothesis. -/
def C08_loader_statement : Prop :=
  ∀ instrs : List Code, (∀ code ∈ instrs, codeTextOK code = true) → C08_TextLoads instrs

/-- `C08_int_programs` without its side hypotheses (success of the mock code generator and `CodeFits`, pairwise distinct
labels of the routine, `fuel + 1 < 2^64`).  Open in this generality; `C08_programs_checked` (Props/C08RVClo.lean) derives
those hypotheses and keeps two decidable ones (routine below 2^64, the size check). -/
def C08_int_programs_statement : Prop :=
  ∀ (p : AxCut.Prog) (args : List Word) (hooks : Bool) (instrs hdr : List Code) (nargs cX : Nat) (d0 : Def),
    LabelSafe p = true → LinTypedProg p → IntProg p → PrintFree p →
    (compile rvBackend hooks p).run 0 = .ok ((instrs, nargs), cX) →
    p.defs.head? = some d0 → (∀ b ∈ d0.ctx, b.chi = .ext ∧ b.ty = .i64) →
    (∀ st, Reachable p ⟨d0.ctx, args.map .int, d0.body⟩ st → st.ctx.length ≤ maxVariables) →
    ∀ (fuel : Nat) (v : Word), (Pos.run p args fuel).res = .done v →
    ∃ heapBytes, ∀ (mc : MonCfg), mc.heap = false → heapBase + mc.heapBytes ≤ 2 ^ 63 →
      heapBytes ≤ mc.heapBytes →
      ∀ (lines : List (Nat × Code)), (∀ c ∈ hdr, c.isComment = true) →
      (lines.map (·.2)).map stripC = (hdr ++ instrs ++ [Code.LAB "cleanup"]).map stripC →
      (∀ x ∈ lines, ¬ badHook x.2) →
      ∃ fuel', (runLines lines args fuel' mc).res = .done v

/-! ### non-vacuity: the counting loop through `call` -/

/-- `main(n, acc) { if n <= 0 { exit acc } else { one <- 1; n' <- n - one; acc' <- acc + n;
      subst (n := n')(acc := acc'); main(...) } }` -/
def C08_loopDef : Def :=
  { name := ⟨"main", 0⟩, ctx := [⟨⟨"n", 1⟩, .ext, .i64⟩, ⟨⟨"acc", 2⟩, .ext, .i64⟩],
    body := .ifc .le ⟨"n", 1⟩ none
      (.exit ⟨"acc", 2⟩)
      (.lit ⟨"one", 3⟩ 1 (.op ⟨"n", 4⟩ ⟨"n", 1⟩ .sub ⟨"one", 3⟩ (.op ⟨"acc", 5⟩ ⟨"acc", 2⟩ .sum ⟨"n", 1⟩
        (.subst [(⟨⟨"n", 4⟩, .ext, .i64⟩, ⟨"n", 4⟩), (⟨⟨"acc", 5⟩, .ext, .i64⟩, ⟨"acc", 5⟩)]
          (.call ⟨"main", 0⟩ [])) none) none) none) }

def C08_loopProg : AxCut.Prog := { defs := [C08_loopDef], types := [], maxId := 5 }

theorem C08_loopProg_int : IntProg C08_loopProg := by
  intro d hd
  simp only [C08_loopProg, List.mem_singleton] at hd
  subst hd
  refine ⟨?_, ?_⟩
  · intro b hb
    simp only [C08_loopDef, List.mem_cons, List.not_mem_nil, or_false] at hb
    rcases hb with rfl | rfl <;> rfl
  · simp [C08_loopDef, IntStmt]

theorem C08_loopProg_printFree : PrintFree C08_loopProg := by
  intro d hd
  simp only [C08_loopProg, List.mem_singleton] at hd
  subst hd
  rfl

def C08_loopOps : List MockOp :=
  match (compile mockSym true C08_loopProg).run 0 with
  | .ok ((code, _), _) => code
  | .error _ => []

def C08_loopInstrs : List Code :=
  match (compile rvBackend true C08_loopProg).run 0 with
  | .ok ((code, _), _) => code
  | .error _ => []

/-- capacity of all reachable states, checked on the finitely many states of a terminating run -/
theorem C08_capacity_of_run (prog : AxCut.Prog) (fuel : Nat) (st0 : Pos.State)
    (hstop : Scc.Props.C06Generic.stopsWithin prog fuel st0 = true)
    (hall : (Scc.Props.C06Generic.statesOf prog fuel st0).all (fun st => decide (st.ctx.length ≤ maxVariables)) = true) :
    ∀ st, Reachable prog st0 st → st.ctx.length ≤ maxVariables := by
  intro st hr
  have := Scc.Props.C06Generic.reachable_mem_statesOf prog fuel st0 st hstop hr
  rw [List.all_eq_true] at hall
  simpa using hall st this

/-- the canonical lines of a routine: every comment blanked (`stripC`), numbered from 1 -/
def canonLines (hdr instrs : List Code) : List (Nat × Code) :=
  ((hdr ++ instrs ++ [Code.LAB "cleanup"]).map stripC).zipIdx.map fun x => (x.2 + 1, x.1)

theorem stripC_idem (c : Code) : stripC (stripC c) = stripC c := by cases c <;> rfl

theorem canonLines_codes (hdr instrs : List Code) :
    ((canonLines hdr instrs).map (·.2)).map stripC = (hdr ++ instrs ++ [Code.LAB "cleanup"]).map stripC := by
  unfold canonLines
  simp only [List.map_map]
  have : (stripC ∘ (fun x : Nat × Code => x.2) ∘ fun x : Code × Nat => (x.2 + 1, x.1)) =
      (stripC ∘ Prod.fst) := rfl
  rw [this, ← List.map_map, List.zipIdx_map_fst, List.map_map]
  apply List.map_congr_left
  intro c _
  exact stripC_idem c

theorem parseHook_empty : parseHook "" = none := by simp [parseHook]

theorem canonLines_hooks (hdr instrs : List Code) : ∀ x ∈ canonLines hdr instrs, ¬ badHook x.2 := by
  intro x hx
  unfold canonLines at hx
  obtain ⟨y, hy, rfl⟩ := List.mem_map.1 hx
  have hy1 : y.1 ∈ (hdr ++ instrs ++ [Code.LAB "cleanup"]).map stripC := by
    have := List.mem_zipIdx hy
    simp only [Nat.zero_add] at this
    rw [this.2.2]
    exact List.getElem_mem _
  obtain ⟨c, _, hc⟩ := List.mem_map.1 hy1
  simp only
  rw [← hc]
  cases c <;> simp [stripC, badHook, parseHook_empty]

/-- the loop started with n = 3, acc = 0: every hypothesis of `C08_int_programs` holds, so the RV64 machine on
the (canonical) lines of the emitted routine reaches `cleanup` with 6 in `X10` -/
example : ∃ fuel', (runLines (canonLines [Code.COMMENT "actual code"] C08_loopInstrs) [3, 0] fuel' {}).res = .done 6 := by
  have hcompM : ∃ k, (compile mockSym true C08_loopProg).run 0 = .ok ((C08_loopOps, 2), k) := ⟨_, rfl⟩
  obtain ⟨c', hcompM⟩ := hcompM
  have hcompX : ∃ k, (compile rvBackend true C08_loopProg).run 0 = .ok ((C08_loopInstrs, 2), k) := ⟨_, rfl⟩
  obtain ⟨cX, hcompX⟩ := hcompX
  have hrun : (Pos.run C08_loopProg [3, 0] 40).res = .done 6 := by decide
  exact C08_int_programs C08_loopProg [3, 0] true C08_loopInstrs [Code.COMMENT "actual code"] 2 cX C08_loopDef
    C08_loopOps c' (by decide) (linTypedCheck_sound C08_loopProg rfl) C08_loopProg_int C08_loopProg_printFree
    hcompM (by decide) hcompX (by decide) (by decide) rfl (by decide)
    (C08_capacity_of_run C08_loopProg 40 _ (by decide) (by decide)) 40 6 (by decide) hrun {} rfl (by decide)
    (by decide) _ (fun c hc => by simp at hc; subst hc; rfl) (canonLines_codes _ _) (canonLines_hooks _ _)

end Scc.RV

#print axioms Scc.RV.C08_loaded_layout
#print axioms Scc.RV.C08_init
#print axioms Scc.RV.C08_lit_rv
#print axioms Scc.RV.C08_op_rv
#print axioms Scc.RV.C08_ifc_rv
#print axioms Scc.RV.C08_call_rv
#print axioms Scc.RV.C08_exit_rv
#print axioms Scc.RV.C08_subst_rv
#print axioms Scc.RV.C08_int_programs
#print axioms Scc.RV.C08_int_programs_text

#print axioms Scc.RV.stmtOK_of_int
#print axioms Scc.RV.C08_loopProg_int
#print axioms Scc.RV.C08_loopProg_printFree
#print axioms Scc.RV.C08_capacity_of_run
#print axioms Scc.RV.stripC_idem
#print axioms Scc.RV.canonLines_codes
#print axioms Scc.RV.parseHook_empty
#print axioms Scc.RV.canonLines_hooks
