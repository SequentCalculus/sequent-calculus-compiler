/-
  Scc.Props.C09RVAll — property C09 (heap consistency) ON CONCRETE RV64 EXECUTIONS OF ALL PROGRAMS — integers,
  data types AND CLOSURES: the port of Props/C09X86All.lean to the RISC-V backend ("on every backend"), over the
  three-way relation `Scc.RV.Ref.Rel3` of Props/C08RVClo.lean (Scc/RV/Conc*.lean).

  C09 (fixed text): "At every statement boundary of every execution of generated code, on every backend,
  each heap block below the allocation frontier is in exactly one state: reachable from the live variables,
  on the immediately reusable free list, on the deferred free list, or waiting beneath a deferred block; and
  the count stored in each reachable block equals the number of references to it from live variables and
  from fields of reachable or deferred blocks, minus one. …"

  THE MACHINE.  `Scc.RV.step pr mc s` (Scc/RV/ConcStep.lean) is what the run loop `runLoop` of the RV64 SPEC machine
  (Scc/RV/Machine.lean) does with one unit of fuel — one item: an instruction, a label, a kept hook comment —,
  `stepN` its iteration; `runLoop_succ` / `runLoop_eq_stepN`: the loop IS this iteration.  "The machine passes
  through `X`" is `stepN pr mc n X0 = .inl X` (no fault, no end of the run before).  `initState regs e`: the entry
  registers (`entryRegs args`), an empty memory, the program counter at the first label `e` — the state `runProgram`
  starts the loop in.  The theorems are stated for the machine with the heap monitor switched off
  (`mc.heap = false`, as `C08_programs_live`): the monitor's PREDICATE is then proved at every boundary; with the
  monitor on, the loop additionally evaluates the decision procedure `invCheckFn` of that predicate at the hooks
  inside a window of the heap (see WHAT REMAINS).

  THE PREDICATE is `HeapInvAt X kinds limit` (Scc/RV/ConcInv.lean): the predicate of the executable heap monitor
  `heapMonitor` on the raw machine state — the roots are the registers `X(2i+4)` of the non-`ext` variables
  (`hookRoots kinds`) read with `readReg` (so they are DEFINED), HEAP = `X2`, FREE = `X3`, the memory is the machine's
  heap memory (unwritten words read 0), and `Scc.Heap.InvW` (what `invCheckFn` decides: every block below the
  frontier in exactly one of the four states, reference counts exact) holds for the region `[heapBase, limit)`.
  A closure is a heap object like a constructor object: its pointer register (the environment block) is a root,
  its word register (the address of its method table) is not looked at.

  THE STATEMENT BOUNDARIES.  `Conc.BoundaryOf p hooks ks ops mc st X`: the machine state `X` is related by
  `Ref.Rel3` (Theorem A's relation to the positional state `st`, the register/heap representation `X3`, the
  machine words of the closures `CVals`, the RV64 code of `st.stmt` at the program counter) to the positional
  state `st`; `ks = keptOf lines`: the codes the loader keeps.  No tolerance is needed on RV64 (an indirect jump
  lands ON the label).  `Conc.BChain`: the machine passes through such states IN ORDER by `stepN`.

  PROVED (no `sorry`; axioms propext, Classical.choice, Quot.sound):
  * `C09_rv_boundary_all`     every boundary state satisfies `HeapInvAt` for the kinds of the positional state's
                              context and `limit = heapBase + heapBytes`.
  * `C09_rv_programs`         under the hypotheses of `C08_programs_live` (label-safe, linearly typed, size check,
                              at most 14 live variables, compiled; a terminating run; heap `128 + 64·15·fuel`): on
                              the program the machine's own loader lays out from the lines, the machine, started in
                              its initial state, passes through a boundary state for EVERY state `statesOf p fuel st0`
                              of the positional run, in order, each of them satisfies `HeapInvAt`, and the machine
                              ends the run with the result of the positional machine.
                              `C09_rv_programs_lines`: the same with the side hypotheses explicit;
                              `C09_rv_reachable_all`: for every `Reachable` state.
  * `C09_rv_every_prefix_all` NO TERMINATION HYPOTHESIS: for ANY number `fuel` of steps of the positional machine (a
                              prefix of a possibly non-terminating run) the machine passes through a boundary state
                              for every state of the prefix and the invariant holds at each; room: the footprint
                              bound of C10 (`Conc.PeakAtMost Pk`, `64·(Pk + A + 2) ≤ heapBytes`, `A = progMaxAlloc p`;
                              trivial for `Pk = A·fuel + 1`).  `C09_rv_every_prefix_all_lines`: side hypotheses
                              explicit.
  * `C09_rv_every_prefix_all_size`  the same with the room hypothesis on the SOURCE PROGRAM: `valsFields st.env ≤ D`
                              for every reachable state (the object and closure values held by the variables have at
                              most `D` fields) and `64·(D + A + 2) ≤ heapBytes`.
  * `C09_rv_heapMonitor_boundary_all`  THE EXECUTABLE MONITOR: at every boundary state inside the monitor's window
                              (`64·below + 64 ≤ ⌈maxHeapWritten/64⌉·64 + 512`) the function `heapMonitor` the run loop
                              calls at a hook, run with the roots of the kinds of the boundary's context, returns
                              `.ok` (completeness of `invCheckFn`) and raises the monitor's counter to `below`.
  * `C09_rv_programs_text`, `C09_rv_every_prefix_all_size_text`  ON THE TEXT `intoRoutine instrs` the backend prints
                              (what `RV.run` parses: `C14R_routine_loads`, Props/C14LoaderRV.lean, from the decidable
                              names check `C14R_namesTextSafe`): the lines of the theorems above are the lines the
                              machine's own parser reads from the text, `run text = runLines lines`.
  * `C09_rv_cloLoop_every_boundary`  NON-VACUITY: a loop that creates a closure, invokes it (`JALR`), frees its
                              environment and calls itself, forever: for EVERY number of steps the invariant holds at
                              every boundary of the RV64 run.
  * `C09_rv_monitor_observer`  THE HEAP MONITOR IS AN OBSERVER (any configuration, monitor on or off): for every
                              amount of fuel the result of `runLines` with the monitor on is the result with the
                              monitor off (`Conc.monOff mc`) or a report `inv:` of the monitor; `C09_rv_monitored_states`:
                              every state the monitored machine passes through is, up to the monitor's counter
                              `blocksBelow`, a state the unmonitored machine passes through after the same number of
                              units of fuel — so the boundary theorems above speak about the monitored run as well.
                              `C09_rv_programs_monitored`: a terminating run with the monitor ON ends with the result
                              of the positional machine, or the monitor reports.
  KEPT AS `def : Prop` — `C09_rv_monitor_statement`: "the run with the heap monitor ON never ends in a report `inv:`".
  WHAT REMAINS of it (as on x86-64, Props/C09X86Mon.lean): the monitor's PREDICATE is proved at every boundary, and the
  executable check succeeds there inside its window (`C09_rv_heapMonitor_boundary_all`); missing are
  (a) the states strictly between two boundaries are not at a `#ctx` comment (the step lemmas of Scc/RV/Ref*.lean
      export `Reach` = `∃ k, stepN … k … = .inl …` without the program counters in between; x86-64 needed a second
      pass over all statement forms for this, Scc/X86/ConcKM*.lean),
  (b) the window of the monitor (`limit = heapBase + min heapBytes (⌈maxHeapWritten/64⌉·64 + 512)`) contains the
      frontier block (a fact about the write history),
  (c) the hook at the program counter parses to the kinds of the positional state's context (`Loaded`,
      Scc/RV/RefLayout.lean, does not record the `roots` of the items; the lines agree with the routine only up to
      the text of comments).  NOTE: for `lines` that agree with the routine only UP TO THE TEXT OF COMMENTS (the
      hypothesis `hlines` of the theorems here and of `C08_programs_live`) the monitor statement is FALSE — such
      lines may carry a well-formed `#ctx […]` text in place of a plain comment in the middle of a memory operation
      (`####increment refcount` …), where the heap is not consistent; it can only hold for the lines of the printed
      TEXT (`C14R_routine_loads_exact`), which is why `C09_rv_monitor_statement` is stated for `RV.run` on the text.
-/
import Scc.Props.C08RVClo
import Scc.Props.C14LoaderRV
import Scc.Props.C13X86All
import Scc.RV.ConcData
import Scc.RV.ConcCheck
import Scc.RV.ConcMon

namespace Scc.RV
open Scc.AxCut Scc.Backend Scc.RV.Ref
open Scc.Heap (InvW)
open Scc.Props.C06Generic (Reachable CodeFits statesOf stopsWithin reachable_mem_statesOf)
open Scc.Props.C14Generic (LabelSafe)
open Scc.RV.Conc (BChain BoundaryOf HeapInvAt initState)
open Scc.X86.Conc (ctxKinds valsFields)
open Scc.X86.Ref.K (AllocLe progMaxAlloc allocLe_progMaxAlloc)

/-- EVERY STATEMENT BOUNDARY, all programs: a machine state that is related by the three-way relation to a state
of the positional machine satisfies the heap monitor's predicate for the roots the monitor reads from the first
registers of the non-`ext` variables (objects AND closures) of that state's context. -/
theorem C09_rv_boundary_all {p : AxCut.Prog} {hooks : Bool} {ks : List Code} {ops : List MockOp}
    {mc : MonCfg} {st : Pos.State} {X : State} (B : BoundaryOf p hooks ks ops mc st X) :
    HeapInvAt X (ctxKinds st.ctx) (heapBase + mc.heapBytes) :=
  Conc.heapInvAt_of_boundary B

/-- C09 FOR CONCRETE RV64 EXECUTIONS OF ALL PROGRAMS, on parsed lines of the routine, side hypotheses explicit:
along a terminating run, the machine started in its initial state passes — in order, without fault — through a
statement-boundary state for EVERY state of the run of the positional machine, at each of them the machine's
heap memory, HEAP, FREE and the pointer registers of the live variables satisfy the invariant, and the run ends
with the result `v`. -/
theorem C09_rv_programs_lines (p : AxCut.Prog) (args : List Word) (hooks : Bool) (instrs hdr : List Code)
    (nargs cX : Nat) (d0 : Def) (ops : List MockOp) (c' : Nat)
    (hsafe : LabelSafe p = true) (htp : LinTypedProg p)
    (hcompM : (compile mockSym hooks p).run 0 = .ok ((ops, nargs), c')) (hfit : CodeFits ops)
    {counter : Nat} (hcompX : (compile rvBackend hooks p).run counter = .ok ((instrs, nargs), cX))
    (hnd : (labs (instrs ++ [Code.LAB "cleanup"])).Nodup) (hfitX : codeBase + 4 * instrs.length < 2 ^ 64)
    (hd : p.defs.head? = some d0) (hentry : ∀ b ∈ d0.ctx, b.chi = .ext ∧ b.ty = .i64)
    (hcap : ∀ st, Reachable p ⟨d0.ctx, args.map .int, d0.body⟩ st → st.ctx.length ≤ maxVariables)
    (fuel : Nat) (v : Word) (hfuel : fuel + 1 < 2 ^ 64)
    (hrun : (Pos.run p args fuel).res = .done v)
    (mc : MonCfg) (hheap : mc.heap = false) (htop : heapBase + mc.heapBytes ≤ 2 ^ 63)
    (hbytes : 128 + 64 * 15 * fuel ≤ mc.heapBytes)
    (lines : List (Nat × Code)) (hhdr : ∀ c ∈ hdr, c.isComment = true)
    (hlines : (lines.map (·.2)).map stripC = (hdr ++ instrs ++ [Code.LAB "cleanup"]).map stripC)
    (hhook : ∀ x ∈ lines, ¬ badHook x.2) :
    ∃ pr e regs, layout lines = .ok pr ∧ pr.entry = some e ∧ entryRegs args = some regs ∧
      ∃ X0, stepN pr mc 1 (initState regs e) = .inl X0 ∧
        BChain pr mc (fun st X => BoundaryOf p hooks (keptOf lines) ops mc st X ∧
            HeapInvAt X (ctxKinds st.ctx) (heapBase + mc.heapBytes))
          (statesOf p fuel ⟨d0.ctx, args.map .int, d0.body⟩) X0 ∧
        (∃ n XL r, stepN pr mc n X0 = .inl XL ∧ step pr mc XL = .inr r ∧ r.res = .done v) ∧
        ∀ st, Reachable p ⟨d0.ctx, args.map .int, d0.body⟩ st →
          ∃ n X, stepN pr mc n (initState regs e) = .inl X ∧ BoundaryOf p hooks (keptOf lines) ops mc st X ∧
            HeapInvAt X (ctxKinds st.ctx) (heapBase + mc.heapBytes) := by
  obtain ⟨pr, e, regs, hlay, he, hregs, X0, h0, hch, hstop, hdone⟩ := Conc.programs_chain p args hooks instrs hdr nargs
    cX d0 ops c' hsafe htp hcompM hfit hcompX hnd hfitX hd hentry hcap fuel v hfuel hrun mc hheap htop hbytes lines
    hhdr hlines hhook
  refine ⟨pr, e, regs, hlay, he, hregs, X0, h0,
    BChain.mono (fun st X B => ⟨B, Conc.heapInvAt_of_boundary B⟩) hch, hdone, ?_⟩
  intro st hr
  obtain ⟨n, X, hn, B⟩ := BChain.prepend h0 hch st (reachable_mem_statesOf p fuel _ st hstop hr)
  exact ⟨n, X, hn, B, Conc.heapInvAt_of_boundary B⟩

/-- `C08_rv_setup` (Props/C08RVClo.lean) and the capacity bound at every reachable state from `LiveAtMost` -/
theorem C09_rv_setup (p : AxCut.Prog) (args : List Word) (hooks : Bool) (instrs : List Code)
    (nargs cX : Nat) (d0 : Def)
    (hsafe : LabelSafe p = true) (htp : LinTypedProg p) (hsize : C08_sizeCheck p = true)
    (hlive : LiveAtMost maxVariables p)
    {counter : Nat} (hcompX : (compile rvBackend hooks p).run counter = .ok ((instrs, nargs), cX))
    (hd : p.defs.head? = some d0) :
    ∃ ops c', (compile mockSym hooks p).run 0 = .ok ((ops, nargs), c') ∧ CodeFits ops ∧
      (labs (instrs ++ [Code.LAB "cleanup"])).Nodup ∧
      ∀ st, Reachable p ⟨d0.ctx, args.map .int, d0.body⟩ st → st.ctx.length ≤ maxVariables := by
  obtain ⟨ops, c', hcompM, hfit, hnd⟩ := C08_rv_setup p hooks instrs nargs cX d0 hsafe htp hsize hcompX hd
  exact ⟨ops, c', hcompM, hfit, hnd, C08_capacity_of_liveAtMost_all hlive (List.mem_of_mem_head? hd) args⟩

/-- C09 FOR CONCRETE RV64 EXECUTIONS OF ALL PROGRAMS, side hypotheses discharged: under the hypotheses of
`C08_programs_live` (all of them decidable checks on the program, the emitted code and the machine configuration,
besides the terminating run itself) the lines load (`pr`: the program the machine's own loader lays out; the run
loop starts in `initState regs e`), and the machine passes — in order, without fault — through a
statement-boundary state for EVERY state of the terminating run of the positional machine; the heap invariant of
C09 holds at each of them; the run ends with the result `v`. -/
theorem C09_rv_programs (p : AxCut.Prog) (args : List Word) (hooks : Bool) (instrs hdr : List Code)
    (nargs cX : Nat) (d0 : Def)
    (hsafe : LabelSafe p = true) (htp : LinTypedProg p) (hsize : C08_sizeCheck p = true)
    (hlive : LiveAtMost maxVariables p)
    {counter : Nat} (hcompX : (compile rvBackend hooks p).run counter = .ok ((instrs, nargs), cX))
    (hfitX : codeBase + 4 * instrs.length < 2 ^ 64)
    (hd : p.defs.head? = some d0) (hentry : ∀ b ∈ d0.ctx, b.chi = .ext ∧ b.ty = .i64)
    (fuel : Nat) (v : Word)
    (hrun : (Pos.run p args fuel).res = .done v)
    (mc : MonCfg) (hheap : mc.heap = false) (htop : heapBase + mc.heapBytes ≤ 2 ^ 63)
    (hbytes : 128 + 64 * 15 * fuel ≤ mc.heapBytes)
    (lines : List (Nat × Code)) (hhdr : ∀ c ∈ hdr, c.isComment = true)
    (hlines : (lines.map (·.2)).map stripC = (hdr ++ instrs ++ [Code.LAB "cleanup"]).map stripC)
    (hhook : ∀ x ∈ lines, ¬ badHook x.2) :
    ∃ ops c' pr e regs, (compile mockSym hooks p).run 0 = .ok ((ops, nargs), c') ∧
      layout lines = .ok pr ∧ pr.entry = some e ∧ entryRegs args = some regs ∧
      ∃ X0, stepN pr mc 1 (initState regs e) = .inl X0 ∧
        BChain pr mc (fun st X => BoundaryOf p hooks (keptOf lines) ops mc st X ∧
            HeapInvAt X (ctxKinds st.ctx) (heapBase + mc.heapBytes))
          (statesOf p fuel ⟨d0.ctx, args.map .int, d0.body⟩) X0 ∧
        ∃ n XL r, stepN pr mc n X0 = .inl XL ∧ step pr mc XL = .inr r ∧ r.res = .done v := by
  obtain ⟨ops, c', hcompM, hfit, hnd, hcap⟩ := C09_rv_setup p args hooks instrs nargs cX d0 hsafe htp hsize hlive
    hcompX hd
  obtain ⟨pr, e, regs, hlay, he, hregs, X0, h0, hch, hdone, _⟩ := C09_rv_programs_lines p args hooks instrs hdr nargs
    cX d0 ops c' hsafe htp hcompM hfit hcompX hnd hfitX hd hentry hcap fuel v (by omega) hrun mc hheap htop hbytes
    lines hhdr hlines hhook
  exact ⟨ops, c', pr, e, regs, hcompM, hlay, he, hregs, X0, h0, hch, hdone⟩

/-- … in particular for EVERY state the positional machine reaches: the machine's run contains a boundary state
for it, and the invariant holds there -/
theorem C09_rv_reachable_all (p : AxCut.Prog) (args : List Word) (hooks : Bool) (instrs hdr : List Code)
    (nargs cX : Nat) (d0 : Def)
    (hsafe : LabelSafe p = true) (htp : LinTypedProg p) (hsize : C08_sizeCheck p = true)
    (hlive : LiveAtMost maxVariables p)
    {counter : Nat} (hcompX : (compile rvBackend hooks p).run counter = .ok ((instrs, nargs), cX))
    (hfitX : codeBase + 4 * instrs.length < 2 ^ 64)
    (hd : p.defs.head? = some d0) (hentry : ∀ b ∈ d0.ctx, b.chi = .ext ∧ b.ty = .i64)
    (fuel : Nat) (v : Word)
    (hrun : (Pos.run p args fuel).res = .done v)
    (mc : MonCfg) (hheap : mc.heap = false) (htop : heapBase + mc.heapBytes ≤ 2 ^ 63)
    (hbytes : 128 + 64 * 15 * fuel ≤ mc.heapBytes)
    (lines : List (Nat × Code)) (hhdr : ∀ c ∈ hdr, c.isComment = true)
    (hlines : (lines.map (·.2)).map stripC = (hdr ++ instrs ++ [Code.LAB "cleanup"]).map stripC)
    (hhook : ∀ x ∈ lines, ¬ badHook x.2) :
    ∃ ops c' pr e regs, (compile mockSym hooks p).run 0 = .ok ((ops, nargs), c') ∧
      layout lines = .ok pr ∧ pr.entry = some e ∧ entryRegs args = some regs ∧
      ∀ st, Reachable p ⟨d0.ctx, args.map .int, d0.body⟩ st →
        ∃ n X, stepN pr mc n (initState regs e) = .inl X ∧ BoundaryOf p hooks (keptOf lines) ops mc st X ∧
          HeapInvAt X (ctxKinds st.ctx) (heapBase + mc.heapBytes) := by
  obtain ⟨ops, c', hcompM, hfit, hnd, hcap⟩ := C09_rv_setup p args hooks instrs nargs cX d0 hsafe htp hsize hlive
    hcompX hd
  obtain ⟨pr, e, regs, hlay, he, hregs, X0, h0, hch, hdone, hreach⟩ := C09_rv_programs_lines p args hooks instrs hdr
    nargs cX d0 ops c' hsafe htp hcompM hfit hcompX hnd hfitX hd hentry hcap fuel v (by omega) hrun mc hheap htop hbytes
    lines hhdr hlines hhook
  exact ⟨ops, c', pr, e, regs, hcompM, hlay, he, hregs, hreach⟩

/-- C09 FOR EVERY PREFIX OF EVERY RUN (terminating or not) OF ALL PROGRAMS, on parsed lines, side hypotheses
explicit: for ANY number `fuel` of steps of the positional machine, the machine started in its initial state
passes — in order, without fault — through a statement-boundary state for every state the positional machine goes
through, and the invariant of C09 holds at each of them.  Room: the footprint bound of C10. -/
theorem C09_rv_every_prefix_all_lines (p : AxCut.Prog) (args : List Word) (hooks : Bool) (instrs hdr : List Code)
    (nargs cX : Nat) (d0 : Def) (ops : List MockOp) (c' : Nat)
    (hsafe : LabelSafe p = true) (htp : LinTypedProg p)
    (hcompM : (compile mockSym hooks p).run 0 = .ok ((ops, nargs), c')) (hfit : CodeFits ops)
    {counter : Nat} (hcompX : (compile rvBackend hooks p).run counter = .ok ((instrs, nargs), cX))
    (hnd : (labs (instrs ++ [Code.LAB "cleanup"])).Nodup) (hfitX : codeBase + 4 * instrs.length < 2 ^ 64)
    (hd : p.defs.head? = some d0) (hentry : ∀ b ∈ d0.ctx, b.chi = .ext ∧ b.ty = .i64)
    (hlen : d0.ctx.length = args.length)
    (hcap : ∀ st, Reachable p ⟨d0.ctx, args.map .int, d0.body⟩ st → st.ctx.length ≤ maxVariables)
    (fuel : Nat) (hfuel : fuel + 1 < 2 ^ 64)
    (mc : MonCfg) (hheap : mc.heap = false) (htop : heapBase + mc.heapBytes ≤ 2 ^ 63)
    (Pk : Nat) (hbytes : 64 * (Pk + progMaxAlloc p + 2) ≤ mc.heapBytes)
    (lines : List (Nat × Code)) (hhdr : ∀ c ∈ hdr, c.isComment = true)
    (hlines : (lines.map (·.2)).map stripC = (hdr ++ instrs ++ [Code.LAB "cleanup"]).map stripC)
    (hhook : ∀ x ∈ lines, ¬ badHook x.2)
    (hP : ∀ pr e regs, layout lines = .ok pr → pr.entry = some e → entryRegs args = some regs →
      Conc.PeakAtMost p hooks (keptOf lines) ops mc pr (initState regs e) Pk (progMaxAlloc p * fuel + 1)) :
    ∃ pr e regs, layout lines = .ok pr ∧ pr.entry = some e ∧ entryRegs args = some regs ∧
      ∃ X0, stepN pr mc 1 (initState regs e) = .inl X0 ∧
        BChain pr mc (fun st X => BoundaryOf p hooks (keptOf lines) ops mc st X ∧
            HeapInvAt X (ctxKinds st.ctx) (heapBase + mc.heapBytes))
          (statesOf p fuel ⟨d0.ctx, args.map .int, d0.body⟩) X0 := by
  obtain ⟨pr, e, regs, hlay, he, hregs, X0, h0, hch⟩ := Conc.programs_prefix p args hooks instrs hdr nargs cX d0 ops
    c' hsafe htp hcompM hfit hcompX hnd hfitX hd hentry hlen hcap fuel hfuel mc hheap htop Pk (progMaxAlloc p)
    (allocLe_progMaxAlloc p) hbytes lines hhdr hlines hhook hP
  exact ⟨pr, e, regs, hlay, he, hregs, X0, h0,
    BChain.mono (fun st X B => ⟨B.1, Conc.heapInvAt_of_boundary B.1⟩) hch⟩

/-- C09 FOR EVERY PREFIX OF EVERY RUN OF ALL PROGRAMS, side hypotheses discharged (hypotheses of
`C08_programs_live` without the terminating run; `args.length = nargs`; `fuel + 1 < 2^64`; the peak hypothesis for
the mock code and the program the loader lays out) -/
theorem C09_rv_every_prefix_all (p : AxCut.Prog) (args : List Word) (hooks : Bool) (instrs hdr : List Code)
    (nargs cX : Nat) (d0 : Def)
    (hsafe : LabelSafe p = true) (htp : LinTypedProg p) (hsize : C08_sizeCheck p = true)
    (hlive : LiveAtMost maxVariables p)
    {counter : Nat} (hcompX : (compile rvBackend hooks p).run counter = .ok ((instrs, nargs), cX))
    (hfitX : codeBase + 4 * instrs.length < 2 ^ 64)
    (hd : p.defs.head? = some d0) (hentry : ∀ b ∈ d0.ctx, b.chi = .ext ∧ b.ty = .i64)
    (hargs : args.length = nargs)
    (fuel : Nat) (hfuel : fuel + 1 < 2 ^ 64)
    (mc : MonCfg) (hheap : mc.heap = false) (htop : heapBase + mc.heapBytes ≤ 2 ^ 63)
    (Pk : Nat) (hbytes : 64 * (Pk + progMaxAlloc p + 2) ≤ mc.heapBytes)
    (lines : List (Nat × Code)) (hhdr : ∀ c ∈ hdr, c.isComment = true)
    (hlines : (lines.map (·.2)).map stripC = (hdr ++ instrs ++ [Code.LAB "cleanup"]).map stripC)
    (hhook : ∀ x ∈ lines, ¬ badHook x.2)
    (hP : ∀ ops c' pr e regs, (compile mockSym hooks p).run 0 = .ok ((ops, nargs), c') →
      layout lines = .ok pr → pr.entry = some e → entryRegs args = some regs →
      Conc.PeakAtMost p hooks (keptOf lines) ops mc pr (initState regs e) Pk (progMaxAlloc p * fuel + 1)) :
    ∃ ops c' pr e regs, (compile mockSym hooks p).run 0 = .ok ((ops, nargs), c') ∧
      layout lines = .ok pr ∧ pr.entry = some e ∧ entryRegs args = some regs ∧
      ∃ X0, stepN pr mc 1 (initState regs e) = .inl X0 ∧
        BChain pr mc (fun st X => BoundaryOf p hooks (keptOf lines) ops mc st X ∧
            HeapInvAt X (ctxKinds st.ctx) (heapBase + mc.heapBytes))
          (statesOf p fuel ⟨d0.ctx, args.map .int, d0.body⟩) X0 := by
  obtain ⟨ops, c', hcompM, hfit, hnd, hcap⟩ := C09_rv_setup p args hooks instrs nargs cX d0 hsafe htp hsize hlive
    hcompX hd
  have hlen : d0.ctx.length = args.length := by
    rw [hargs]; exact (C08_compile_nargs rvBackend hooks p counter instrs nargs cX hcompX d0 hd).symm
  obtain ⟨pr, e, regs, hlay, he, hregs, X0, h0, hch⟩ := C09_rv_every_prefix_all_lines p args hooks instrs hdr nargs cX
    d0 ops c' hsafe htp hcompM hfit hcompX hnd hfitX hd hentry hlen hcap fuel hfuel mc hheap htop Pk hbytes lines hhdr
    hlines hhook (fun pr e regs h1 h2 h3 => hP ops c' pr e regs hcompM h1 h2 h3)
  exact ⟨ops, c', pr, e, regs, hcompM, hlay, he, hregs, X0, h0, hch⟩

/-- C09 FOR EVERY PREFIX OF EVERY RUN OF ALL PROGRAMS, with the room hypothesis on the SOURCE PROGRAM: if the
object and closure values held by the variables of the positional machine never have more than `D` fields (over
all reachable states), a heap of `64·(D + A + 2)` bytes is enough, and at every statement boundary of every
prefix of the run — terminating or not — the machine's heap satisfies the invariant of C09. -/
theorem C09_rv_every_prefix_all_size (p : AxCut.Prog) (args : List Word) (hooks : Bool) (instrs hdr : List Code)
    (nargs cX : Nat) (d0 : Def)
    (hsafe : LabelSafe p = true) (htp : LinTypedProg p) (hsize : C08_sizeCheck p = true)
    (hlive : LiveAtMost maxVariables p)
    {counter : Nat} (hcompX : (compile rvBackend hooks p).run counter = .ok ((instrs, nargs), cX))
    (hfitX : codeBase + 4 * instrs.length < 2 ^ 64)
    (hd : p.defs.head? = some d0) (hentry : ∀ b ∈ d0.ctx, b.chi = .ext ∧ b.ty = .i64)
    (hargs : args.length = nargs)
    (D : Nat) (hD : ∀ st, Reachable p ⟨d0.ctx, args.map .int, d0.body⟩ st → valsFields st.env ≤ D)
    (fuel : Nat) (hfuel : fuel + 1 < 2 ^ 64)
    (mc : MonCfg) (hheap : mc.heap = false) (htop : heapBase + mc.heapBytes ≤ 2 ^ 63)
    (hbytes : 64 * (D + progMaxAlloc p + 2) ≤ mc.heapBytes)
    (lines : List (Nat × Code)) (hhdr : ∀ c ∈ hdr, c.isComment = true)
    (hlines : (lines.map (·.2)).map stripC = (hdr ++ instrs ++ [Code.LAB "cleanup"]).map stripC)
    (hhook : ∀ x ∈ lines, ¬ badHook x.2) :
    ∃ ops c' pr e regs, (compile mockSym hooks p).run 0 = .ok ((ops, nargs), c') ∧
      layout lines = .ok pr ∧ pr.entry = some e ∧ entryRegs args = some regs ∧
      ∃ X0, stepN pr mc 1 (initState regs e) = .inl X0 ∧
        BChain pr mc (fun st X => BoundaryOf p hooks (keptOf lines) ops mc st X ∧
            HeapInvAt X (ctxKinds st.ctx) (heapBase + mc.heapBytes))
          (statesOf p fuel ⟨d0.ctx, args.map .int, d0.body⟩) X0 := by
  obtain ⟨ops, c', hcompM, hfit, hnd, hcap⟩ := C09_rv_setup p args hooks instrs nargs cX d0 hsafe htp hsize hlive
    hcompX hd
  have hlen : d0.ctx.length = args.length := by
    rw [hargs]; exact (C08_compile_nargs rvBackend hooks p counter instrs nargs cX hcompX d0 hd).symm
  obtain ⟨pr, e, regs, hlay, he, hregs, X0, h0, hch⟩ := Conc.programs_prefix_gen p args hooks instrs hdr nargs cX d0
    ops c' hsafe htp hcompM hfit hcompX hnd hfitX hd hentry hlen hcap fuel hfuel mc hheap htop D (progMaxAlloc p)
    (allocLe_progMaxAlloc p) hbytes lines hhdr hlines hhook (fun _ _ _ _ _ _ => Conc.peakHyp_of_data hD)
  exact ⟨ops, c', pr, e, regs, hcompM, hlay, he, hregs, X0, h0,
    BChain.mono (fun st X B => ⟨B.1, Conc.heapInvAt_of_boundary B.1⟩) hch⟩

/-- THE EXECUTABLE HEAP MONITOR SUCCEEDS AT EVERY STATEMENT BOUNDARY (inside its window), all programs: the function
`heapMonitor` that the run loop calls at a `#ctx` hook, run with the roots of the kinds of the boundary's context,
returns the state with the monitor's counter raised to the number of blocks below the frontier. -/
theorem C09_rv_heapMonitor_boundary_all {p : AxCut.Prog} {hooks : Bool} {ks : List Code} {ops : List MockOp}
    {mc : MonCfg} {st : Pos.State} {X : State} (B : BoundaryOf p hooks ks ops mc st X) :
    ∃ below inUse, Conc.HeapShapeAt mc X below inUse ∧
      (64 * below + 64 ≤ (X.maxHeapWritten + 63) / 64 * 64 + 8 * 64 →
        heapMonitor mc X (hookRoots (ctxKinds st.ctx)) = .ok { X with blocksBelow := max X.blocksBelow below }) :=
  Conc.heapMonitor_boundary B

/-- C09 FOR CONCRETE RV64 EXECUTIONS OF ALL PROGRAMS, ON THE TEXT the backend prints: under the hypotheses of
`C08_programs_live_text` the text `intoRoutine instrs` parses (`lines`: what the machine's own parser reads;
`RV.run` on the text is `runLines lines`), the lines load, and the machine passes — in order, without fault —
through a statement-boundary state for EVERY state of the terminating run of the positional machine; the heap
invariant of C09 holds at each of them; the run ends with the result `v`. -/
theorem C09_rv_programs_text (p : AxCut.Prog) (args : List Word) (hooks : Bool) (counter : Nat)
    (instrs : List Code) (nargs cX : Nat) (d0 : Def)
    (hsafe : LabelSafe p = true) (htp : LinTypedProg p) (hsize : C08_sizeCheck p = true)
    (hlive : LiveAtMost maxVariables p) (hnames : C14R_namesTextSafe p = true)
    (hcompX : (compile rvBackend hooks p).run counter = .ok ((instrs, nargs), cX))
    (hfitX : codeBase + 4 * instrs.length < 2 ^ 64)
    (hd : p.defs.head? = some d0) (hentry : ∀ b ∈ d0.ctx, b.chi = .ext ∧ b.ty = .i64)
    (fuel : Nat) (v : Word)
    (hrun : (Pos.run p args fuel).res = .done v)
    (mc : MonCfg) (hheap : mc.heap = false) (hwf : mc.wf = false) (htop : heapBase + mc.heapBytes ≤ 2 ^ 63)
    (hbytes : 128 + 64 * 15 * fuel ≤ mc.heapBytes) :
    ∃ lines, parseText (intoRoutine instrs) = .ok lines ∧
      (∀ fuel', run (intoRoutine instrs) args fuel' mc = runLines lines args fuel' mc) ∧
      ∃ ops c' pr e regs, (compile mockSym hooks p).run 0 = .ok ((ops, nargs), c') ∧
        layout lines = .ok pr ∧ pr.entry = some e ∧ entryRegs args = some regs ∧
        ∃ X0, stepN pr mc 1 (initState regs e) = .inl X0 ∧
          BChain pr mc (fun st X => BoundaryOf p hooks (keptOf lines) ops mc st X ∧
              HeapInvAt X (ctxKinds st.ctx) (heapBase + mc.heapBytes))
            (statesOf p fuel ⟨d0.ctx, args.map .int, d0.body⟩) X0 ∧
          ∃ n XL r, stepN pr mc n X0 = .inl XL ∧ step pr mc XL = .inr r ∧ r.res = .done v := by
  obtain ⟨lines, hparse, hlines, hhook⟩ := C14R_routine_loads hnames hcompX
  exact ⟨lines, hparse, fun fuel' => run_eq_runLines hparse args fuel' mc hwf,
    C09_rv_programs p args hooks instrs [Code.COMMENT "actual code"] nargs cX d0 hsafe htp hsize hlive hcompX hfitX hd
      hentry fuel v hrun mc hheap htop hbytes lines (fun c hc => by simp at hc; subst hc; rfl) hlines hhook⟩

/-- C09 FOR EVERY PREFIX OF EVERY RUN OF ALL PROGRAMS, ON THE TEXT the backend prints, room hypothesis on the SOURCE
PROGRAM (`valsFields st.env ≤ D` at every reachable state, `64·(D + A + 2) ≤ heapBytes`) -/
theorem C09_rv_every_prefix_all_size_text (p : AxCut.Prog) (args : List Word) (hooks : Bool) (counter : Nat)
    (instrs : List Code) (nargs cX : Nat) (d0 : Def)
    (hsafe : LabelSafe p = true) (htp : LinTypedProg p) (hsize : C08_sizeCheck p = true)
    (hlive : LiveAtMost maxVariables p) (hnames : C14R_namesTextSafe p = true)
    (hcompX : (compile rvBackend hooks p).run counter = .ok ((instrs, nargs), cX))
    (hfitX : codeBase + 4 * instrs.length < 2 ^ 64)
    (hd : p.defs.head? = some d0) (hentry : ∀ b ∈ d0.ctx, b.chi = .ext ∧ b.ty = .i64)
    (hargs : args.length = nargs)
    (D : Nat) (hD : ∀ st, Reachable p ⟨d0.ctx, args.map .int, d0.body⟩ st → valsFields st.env ≤ D)
    (fuel : Nat) (hfuel : fuel + 1 < 2 ^ 64)
    (mc : MonCfg) (hheap : mc.heap = false) (hwf : mc.wf = false) (htop : heapBase + mc.heapBytes ≤ 2 ^ 63)
    (hbytes : 64 * (D + progMaxAlloc p + 2) ≤ mc.heapBytes) :
    ∃ lines, parseText (intoRoutine instrs) = .ok lines ∧
      (∀ fuel', run (intoRoutine instrs) args fuel' mc = runLines lines args fuel' mc) ∧
      ∃ ops c' pr e regs, (compile mockSym hooks p).run 0 = .ok ((ops, nargs), c') ∧
        layout lines = .ok pr ∧ pr.entry = some e ∧ entryRegs args = some regs ∧
        ∃ X0, stepN pr mc 1 (initState regs e) = .inl X0 ∧
          BChain pr mc (fun st X => BoundaryOf p hooks (keptOf lines) ops mc st X ∧
              HeapInvAt X (ctxKinds st.ctx) (heapBase + mc.heapBytes))
            (statesOf p fuel ⟨d0.ctx, args.map .int, d0.body⟩) X0 := by
  obtain ⟨lines, hparse, hlines, hhook⟩ := C14R_routine_loads hnames hcompX
  exact ⟨lines, hparse, fun fuel' => run_eq_runLines hparse args fuel' mc hwf,
    C09_rv_every_prefix_all_size p args hooks instrs [Code.COMMENT "actual code"] nargs cX d0 hsafe htp hsize hlive
      hcompX hfitX hd hentry hargs D hD fuel hfuel mc hheap htop hbytes lines
      (fun c hc => by simp at hc; subst hc; rfl) hlines hhook⟩

/-- THE HEAP MONITOR IS AN OBSERVER, any configuration: for every amount of fuel, the result of the machine on the
lines with the heap monitor on is the result with the monitor off, or a report of the monitor -/
theorem C09_rv_monitor_observer (lines : List (Nat × Code)) (args : List Word) (f : Nat) (mc : MonCfg) :
    (runLines lines args f mc).res = (runLines lines args f (Conc.monOff mc)).res ∨
      ∃ e ln, (runLines lines args f mc).res = .invFail e ln := by
  unfold runLines
  cases layout lines with
  | error e => exact Or.inl rfl
  | ok pr =>
    simp only
    unfold runProgram
    cases pr.entry with
    | none => exact Or.inl rfl
    | some e =>
      cases entryRegs args with
      | none => exact Or.inl rfl
      | some regs =>
        simp only
        rcases Conc.runLoop_monitor_indep pr mc f (Conc.SameBB.refl _) with h | h
        · exact Or.inl h.2.1.symm
        · exact Or.inr h

/-- every state the MONITORED machine passes through is, up to the monitor's counter, a state the unmonitored
machine passes through after the same number of units of fuel (same registers, memory, program counter) -/
theorem C09_rv_monitored_states (pr : RV.Program) (mc : MonCfg) (k : Nat) (s0 S : State)
    (h : stepN pr mc k s0 = .inl S) :
    ∃ S', stepN pr (Conc.monOff mc) k s0 = .inl S' ∧ S'.regs = S.regs ∧ S'.mem = S.mem ∧ S'.pc = S.pc ∧
      S'.maxHeapWritten = S.maxHeapWritten := by
  obtain ⟨S', h1, h2⟩ := Conc.stepN_monOff pr mc k (Conc.SameBB.refl s0) h
  exact ⟨S', h1, h2.regs, h2.mem, h2.pc, h2.mhw⟩

/-- A TERMINATING RUN WITH THE HEAP MONITOR ON (any configuration; the hypotheses of `C08_programs_live` for the
configuration with the monitor switched off): the machine on the lines returns the result of the positional machine,
or the monitor reports -/
theorem C09_rv_programs_monitored (p : AxCut.Prog) (args : List Word) (hooks : Bool) (instrs hdr : List Code)
    (nargs cX : Nat) (d0 : Def)
    (hsafe : LabelSafe p = true) (htp : LinTypedProg p) (hsize : C08_sizeCheck p = true)
    (hlive : LiveAtMost maxVariables p)
    {counter : Nat} (hcompX : (compile rvBackend hooks p).run counter = .ok ((instrs, nargs), cX))
    (hfitX : codeBase + 4 * instrs.length < 2 ^ 64)
    (hd : p.defs.head? = some d0) (hentry : ∀ b ∈ d0.ctx, b.chi = .ext ∧ b.ty = .i64)
    (fuel : Nat) (v : Word)
    (hrun : (Pos.run p args fuel).res = .done v)
    (mc : MonCfg) (htop : heapBase + mc.heapBytes ≤ 2 ^ 63)
    (hbytes : 128 + 64 * 15 * fuel ≤ mc.heapBytes)
    (lines : List (Nat × Code)) (hhdr : ∀ c ∈ hdr, c.isComment = true)
    (hlines : (lines.map (·.2)).map stripC = (hdr ++ instrs ++ [Code.LAB "cleanup"]).map stripC)
    (hhook : ∀ x ∈ lines, ¬ badHook x.2) :
    ∃ fuel', (runLines lines args fuel' mc).res = .done v ∨
      ∃ e ln, (runLines lines args fuel' mc).res = .invFail e ln := by
  obtain ⟨fuel', hf⟩ := C08_programs_live p args hooks instrs hdr nargs cX d0 hsafe htp hsize hlive hcompX hfitX hd
    hentry fuel v hrun (Conc.monOff mc) rfl htop hbytes lines hhdr hlines hhook
  refine ⟨fuel', ?_⟩
  rcases C09_rv_monitor_observer lines args fuel' mc with h | h
  · exact Or.inl (by rw [h]; exact hf)
  · exact Or.inr h

/-- C09 IN TERMS OF THE EXECUTABLE MONITOR (NOT proved; see the header for what remains): the run of the SPEC machine
on the text of the routine with the heap monitor ON never ends in a report `inv:` of the heap monitor -/
def C09_rv_monitor_statement : Prop :=
  ∀ (p : AxCut.Prog) (args : List Word) (counter : Nat) (instrs : List Code) (nargs cX : Nat) (d0 : Def),
    LabelSafe p = true → LinTypedProg p → C08_sizeCheck p = true → LiveAtMost maxVariables p →
    C14R_namesTextSafe p = true →
    (compile rvBackend true p).run counter = .ok ((instrs, nargs), cX) →
    codeBase + 4 * instrs.length < 2 ^ 64 →
    p.defs.head? = some d0 → (∀ b ∈ d0.ctx, b.chi = .ext ∧ b.ty = .i64) → args.length = nargs →
    (∀ fuel w, (Pos.run p args fuel).res ≠ .stuck w) →
    ∀ (D : Nat), (∀ st, Reachable p ⟨d0.ctx, args.map .int, d0.body⟩ st → valsFields st.env ≤ D) →
    ∀ (mc : MonCfg), mc.wf = false → heapBase + mc.heapBytes ≤ 2 ^ 63 →
    64 * (D + progMaxAlloc p + 2) ≤ mc.heapBytes →
    ∀ (fuel' : Nat) (what : String) (ln : Nat), (run (intoRoutine instrs) args fuel' mc).res ≠ .invFail what ln

theorem C08_cloProg_maxAlloc : progMaxAlloc C08_cloProg = 1 := by decide

theorem C08_opsProg_maxAlloc : progMaxAlloc C08_opsProg = 1 := by decide

theorem C08_cloProg_dataSize : ∀ st, Reachable C08_cloProg ⟨C08_cloMain.ctx, ([37] : List Word).map .int, C08_cloMain.body⟩ st →
    valsFields st.env ≤ 2 :=
  Scc.X86.C10_dataSize_of_run C08_cloProg 20 _ 2 (by decide) (by decide)

/-- every hypothesis of `C09_rv_programs` holds for the closure program started with x = 37 (a closure stored in
an object, loaded again, invoked through `JALR`): the machine on the canonical lines of the emitted routine passes
through a boundary state for each state of the positional run, and the heap invariant holds at each -/
example : ∃ ops c' pr e regs, (compile mockSym true C08_cloProg).run 0 = .ok ((ops, 1), c') ∧
    layout (canonLines [Code.COMMENT "actual code"] C08_cloInstrs) = .ok pr ∧ pr.entry = some e ∧
    entryRegs [37] = some regs ∧
    ∃ X0, stepN pr {} 1 (initState regs e) = .inl X0 ∧
      BChain pr {} (fun st X =>
          BoundaryOf C08_cloProg true (keptOf (canonLines [Code.COMMENT "actual code"] C08_cloInstrs)) ops {} st X ∧
          HeapInvAt X (ctxKinds st.ctx) (0x10000000 + 0x2000000))
        (statesOf C08_cloProg 20 ⟨C08_cloMain.ctx, [.int 37], C08_cloMain.body⟩) X0 ∧
      ∃ n XL r, stepN pr {} n X0 = .inl XL ∧ step pr {} XL = .inr r ∧ r.res = .done 42 := by
  obtain ⟨cX, hcompX⟩ := C08_cloInstrs_compiled
  have hrun := C08_cloProg_run
  exact C09_rv_programs C08_cloProg [37] true C08_cloInstrs [Code.COMMENT "actual code"] 1 cX C08_cloMain
    C08_cloProg_labelSafe (linTypedCheck_sound C08_cloProg rfl) C08_cloProg_sizeCheck C08_cloProg_live
    hcompX C08_cloInstrs_fits rfl C08_cloMain_entry 20 42 hrun {} rfl (by decide)
    (by decide) _ (fun c hc => by simp at hc; subst hc; rfl) (canonLines_codes _ _) (canonLines_hooks _ _)

/-- … and for the two-method closure (`add_and_jump` through the method table), started with x = 21 -/
example : ∃ ops c' pr e regs, (compile mockSym true C08_opsProg).run 0 = .ok ((ops, 1), c') ∧
    layout (canonLines [Code.COMMENT "actual code"] C08_opsInstrs) = .ok pr ∧ pr.entry = some e ∧
    entryRegs [21] = some regs ∧
    ∃ X0, stepN pr {} 1 (initState regs e) = .inl X0 ∧
      BChain pr {} (fun st X =>
          BoundaryOf C08_opsProg true (keptOf (canonLines [Code.COMMENT "actual code"] C08_opsInstrs)) ops {} st X ∧
          HeapInvAt X (ctxKinds st.ctx) (0x10000000 + 0x2000000))
        (statesOf C08_opsProg 20 ⟨C08_opsMain.ctx, [.int 21], C08_opsMain.body⟩) X0 ∧
      ∃ n XL r, stepN pr {} n X0 = .inl XL ∧ step pr {} XL = .inr r ∧ r.res = .done 42 := by
  obtain ⟨cX, hcompX⟩ := C08_opsInstrs_compiled
  have hrun := C08_opsProg_run
  exact C09_rv_programs C08_opsProg [21] true C08_opsInstrs [Code.COMMENT "actual code"] 1 cX C08_opsMain
    C08_opsProg_labelSafe (linTypedCheck_sound C08_opsProg rfl) C08_opsProg_sizeCheck C08_opsProg_live
    hcompX C08_opsInstrs_fits rfl C08_opsMain_entry 20 42 hrun {} rfl (by decide)
    (by decide) _ (fun c hc => by simp at hc; subst hc; rfl) (canonLines_codes _ _) (canonLines_hooks _ _)

/-- `C09_rv_every_prefix_all_size` on the closure program: the first 3 steps of the run (a proper prefix), `D = 2` -/
example : ∃ ops c' pr e regs, (compile mockSym true C08_cloProg).run 0 = .ok ((ops, 1), c') ∧
    layout (canonLines [Code.COMMENT "actual code"] C08_cloInstrs) = .ok pr ∧ pr.entry = some e ∧
    entryRegs [37] = some regs ∧
    ∃ X0, stepN pr {} 1 (initState regs e) = .inl X0 ∧
      BChain pr {} (fun st X =>
          BoundaryOf C08_cloProg true (keptOf (canonLines [Code.COMMENT "actual code"] C08_cloInstrs)) ops {} st X ∧
          HeapInvAt X (ctxKinds st.ctx) (0x10000000 + 0x2000000))
        (statesOf C08_cloProg 3 ⟨C08_cloMain.ctx, [.int 37], C08_cloMain.body⟩) X0 := by
  obtain ⟨cX, hcompX⟩ := C08_cloInstrs_compiled
  have e1 := C08_cloProg_maxAlloc
  exact C09_rv_every_prefix_all_size C08_cloProg [37] true C08_cloInstrs [Code.COMMENT "actual code"] 1 cX C08_cloMain
    C08_cloProg_labelSafe (linTypedCheck_sound C08_cloProg rfl) C08_cloProg_sizeCheck C08_cloProg_live
    hcompX C08_cloInstrs_fits rfl C08_cloMain_entry rfl 2
    C08_cloProg_dataSize 3 (by decide)
    {} rfl (by decide) (by rw [e1]; decide) _ (fun c hc => by simp at hc; subst hc; rfl) (canonLines_codes _ _)
    (canonLines_hooks _ _)

/-- `C09_rv_every_prefix_all` with the trivial peak `Pk = A·fuel + 1` (`C10_rv_peak_trivial_all`) on the two-method
closure program: the first 3 steps of the run, a heap of `64·(1·3 + 1 + 1 + 2)` bytes suffices -/
example : ∃ ops c' pr e regs, (compile mockSym true C08_opsProg).run 0 = .ok ((ops, 1), c') ∧
    layout (canonLines [Code.COMMENT "actual code"] C08_opsInstrs) = .ok pr ∧ pr.entry = some e ∧
    entryRegs [21] = some regs ∧
    ∃ X0, stepN pr {} 1 (initState regs e) = .inl X0 ∧
      BChain pr {} (fun st X =>
          BoundaryOf C08_opsProg true (keptOf (canonLines [Code.COMMENT "actual code"] C08_opsInstrs)) ops {} st X ∧
          HeapInvAt X (ctxKinds st.ctx) (0x10000000 + 0x2000000))
        (statesOf C08_opsProg 3 ⟨C08_opsMain.ctx, [.int 21], C08_opsMain.body⟩) X0 := by
  obtain ⟨cX, hcompX⟩ := C08_opsInstrs_compiled
  have e1 := C08_opsProg_maxAlloc
  exact C09_rv_every_prefix_all C08_opsProg [21] true C08_opsInstrs [Code.COMMENT "actual code"] 1 cX C08_opsMain
    C08_opsProg_labelSafe (linTypedCheck_sound C08_opsProg rfl) C08_opsProg_sizeCheck C08_opsProg_live
    hcompX C08_opsInstrs_fits rfl C08_opsMain_entry rfl 3 (by decide)
    {} rfl (by decide) (progMaxAlloc C08_opsProg * 3 + 1) (by rw [e1]; decide) _
    (fun c hc => by simp at hc; subst hc; rfl) (canonLines_codes _ _) (canonLines_hooks _ _)
    (fun _ _ _ _ _ _ _ _ _ => Conc.peakAtMost_trivial _ _ _ _ _ _ _ _)

/-- `C09_rv_programs_text` on the closure program: the TEXT the backend prints parses, `RV.run` on it is the run on
the parsed lines, and the heap invariant holds at every statement boundary of the run -/
example : ∃ lines, parseText (intoRoutine C08_cloInstrs) = .ok lines ∧
    (∀ fuel', run (intoRoutine C08_cloInstrs) [37] fuel' {} = runLines lines [37] fuel' {}) ∧
    ∃ ops c' pr e regs, (compile mockSym true C08_cloProg).run 0 = .ok ((ops, 1), c') ∧
      layout lines = .ok pr ∧ pr.entry = some e ∧ entryRegs [37] = some regs ∧
      ∃ X0, stepN pr {} 1 (initState regs e) = .inl X0 ∧
        BChain pr {} (fun st X => BoundaryOf C08_cloProg true (keptOf lines) ops {} st X ∧
            HeapInvAt X (ctxKinds st.ctx) (0x10000000 + 0x2000000))
          (statesOf C08_cloProg 20 ⟨C08_cloMain.ctx, [.int 37], C08_cloMain.body⟩) X0 ∧
        ∃ n XL r, stepN pr {} n X0 = .inl XL ∧ step pr {} XL = .inr r ∧ r.res = .done 42 := by
  obtain ⟨cX, hcompX⟩ := C08_cloInstrs_compiled
  have hrun := C08_cloProg_run
  exact C09_rv_programs_text C08_cloProg [37] true 0 C08_cloInstrs 1 cX C08_cloMain
    C08_cloProg_labelSafe (linTypedCheck_sound C08_cloProg rfl) C08_cloProg_sizeCheck C08_cloProg_live (by decide)
    hcompX C08_cloInstrs_fits rfl C08_cloMain_entry 20 42 hrun {} rfl rfl (by decide) (by decide)

def C09R_loopInstrs : List Code :=
  match (compile rvBackendF true Scc.X86.C13_cloLoopProg).run 0 with
  | .ok ((code, _), _) => code
  | .error _ => []

set_option maxRecDepth 100000 in
theorem C09R_loopInstrs_fits : codeBase + 4 * C09R_loopInstrs.length < 2 ^ 64 := by decide

/-- the code generator on this program, evaluated once -/
theorem C09R_loopInstrs_compiled : ∃ k, (compile rvBackend true Scc.X86.C13_cloLoopProg).run 0 = .ok ((C09R_loopInstrs, 1), k) := by
  rw [← rvBackendF_eq]; exact ⟨_, rfl⟩

theorem C09R_loopProg_live : LiveAtMost maxVariables Scc.X86.C13_cloLoopProg := by
  intro d hd
  simp only [Scc.X86.C13_cloLoopProg, List.mem_singleton] at hd
  subst hd
  rfl

theorem C09R_loopProg_sizeCheck : C08_sizeCheck Scc.X86.C13_cloLoopProg = true := by decide

theorem C09R_loopMain_entry : ∀ b ∈ Scc.X86.C13_cloLoopMain.ctx, b.chi = .ext ∧ b.ty = .i64 := by decide

/-- THE CLOSURE LOOP (`main(x) { create f = (x){ Ap(a) => main(a) }; lit n <- 5; invoke f Ap(n) }`; it never
terminates): for EVERY number `k` of steps of the positional machine the RV64 machine on the canonical lines of the
emitted routine passes through a statement boundary for each of the first `k` states — among them, in every round,
the boundary reached by the `JALR` of the `invoke` —, and the heap invariant holds at each of them -/
theorem C09_rv_cloLoop_every_boundary (k : Nat) (hk : k + 1 < 2 ^ 64) :
    ∃ ops c' pr e regs, (compile mockSym true Scc.X86.C13_cloLoopProg).run 0 = .ok ((ops, 1), c') ∧
      layout (canonLines [Code.COMMENT "actual code"] C09R_loopInstrs) = .ok pr ∧ pr.entry = some e ∧
      entryRegs [5] = some regs ∧
      ∃ X0, stepN pr {} 1 (initState regs e) = .inl X0 ∧
        BChain pr {} (fun st X =>
            BoundaryOf Scc.X86.C13_cloLoopProg true
              (keptOf (canonLines [Code.COMMENT "actual code"] C09R_loopInstrs)) ops {} st X ∧
            HeapInvAt X (ctxKinds st.ctx) (0x10000000 + 0x2000000))
          (statesOf Scc.X86.C13_cloLoopProg k Scc.X86.C13_cloS0) X0 := by
  obtain ⟨cX, hcompX⟩ := C09R_loopInstrs_compiled
  have e1 := Scc.X86.C13_cloLoop_consts.1
  exact C09_rv_every_prefix_all_size Scc.X86.C13_cloLoopProg [5] true C09R_loopInstrs [Code.COMMENT "actual code"] 1
    cX Scc.X86.C13_cloLoopMain Scc.X86.C13_cloLoopProg_labelSafe (linTypedCheck_sound Scc.X86.C13_cloLoopProg rfl) C09R_loopProg_sizeCheck
    C09R_loopProg_live hcompX C09R_loopInstrs_fits rfl C09R_loopMain_entry rfl 1 Scc.X86.C13_cloLoop_size k hk
    {} rfl (by decide) (by rw [e1]; decide) _ (fun c hc => by simp at hc; subst hc; rfl) (canonLines_codes _ _)
    (canonLines_hooks _ _)

end Scc.RV

#print axioms Scc.RV.runLoop_succ
#print axioms Scc.RV.runLoop_eq_stepN
#print axioms Scc.RV.C09_rv_boundary_all
#print axioms Scc.RV.C09_rv_programs_lines
#print axioms Scc.RV.C09_rv_programs
#print axioms Scc.RV.C09_rv_reachable_all
#print axioms Scc.RV.C09_rv_every_prefix_all_lines
#print axioms Scc.RV.C09_rv_every_prefix_all
#print axioms Scc.RV.C09_rv_every_prefix_all_size
#print axioms Scc.RV.C09_rv_cloLoop_every_boundary
#print axioms Scc.RV.C09_rv_heapMonitor_boundary_all
#print axioms Scc.RV.C09_rv_programs_text
#print axioms Scc.RV.C09_rv_every_prefix_all_size_text
#print axioms Scc.RV.C09_rv_monitor_observer
#print axioms Scc.RV.C09_rv_monitored_states
#print axioms Scc.RV.C09_rv_programs_monitored

#print axioms Scc.RV.C09_rv_setup
#print axioms Scc.RV.C09R_loopInstrs_fits
#print axioms Scc.RV.C09R_loopProg_live
