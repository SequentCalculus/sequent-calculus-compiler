/-
  Scc.Props.C02 — Fun → Core: generated names are fresh; no consumer is put under a binder that
  captures it (for all terms, and as a regression on the two programs that showed the defect D1).

  Property C02 (as given): "For every well-typed Fun program whose effects are sequenced unambiguously
  (call, constructor, destructor and operator arguments and codata-typed bindings are pure and
  terminating), the Core program produced by the translation has, on the Core abstract machine, the
  same output and result as the source semantics. In particular a variable, covariable or label of an
  outer scope keeps its meaning when the continuation mentioning it is placed under an inner binder of
  the same name, and compiler-generated names and labels never coincide with user-chosen ones."

  Model: Scc.Fun2Core.Model (tied to /repo/lang/fun2core by exact S2 dump equality).

  This file holds the two syntactic clauses of the property, about the code as it is, i.e. including
  the repairs ce30c7b / 2d51e38.
  "Compiler-generated names and labels never coincide with user-chosen ones": names.rs `fresh_name`,
  `fresh_var` / `fresh_covar` and the label of `share` return a name outside the set they are given
  (`C02_freshName_post` …); along the translation of any term the generated names are new w.r.t. the
  used-names set and pairwise distinct, and the generated labels name exactly the lifted definitions
  (`C02_fresh_names_disjoint`); the set contains all parameters and binders of the definition from the
  start (`C02_used_set_covers_def`, `C02_def_generated_fresh`); and the definition names of the output
  are pairwise distinct if the user's are, because the Rust seeds `used_labels` with all user
  definition names (`C02_lifted_names_distinct`; `C02_user_named_like_lifted`: a user definition
  literally called `share_f_0`).
  "A variable, covariable or label of an outer scope keeps its meaning …": the decidable hygiene
  predicate `Hygienic` (Scc.Fun2Core.Hygiene), computed along the translation, holds for all terms
  whose clause names agree with their typed clause contexts, all consumers and all states
  (`C02_no_capture`, `C02_no_capture_prog`); the guard `binders_occur_free` is the test it makes
  (`C02_guard_is_hygiene_test`) and re-enters once (`C02_guard_single_reentry`); on the two former
  capture witnesses (let over case with a shadowing pattern variable; let over let) the model output
  equals the repaired implementation's S2 dump, the continuation staying OUTSIDE the binder:
  `⟨μa1.⟦…⟧_a1 | μ~y.…x…⟩` (`C02_d1_repaired`, `C02_d2_repaired`).
  Before /repo commit ce30c7b the translation moved `μ~y.(y + x)` under the clause binder `x` of
  `Cons(x, xs)` (defect D1: `f(100,[1])` = 2 instead of 101).
  The semantic part of C02 (both abstract machines) is in Props/C02Sem.lean (`C02_sem_full_statement`) and
  Props/C02SemFull.lean (`C02_sem`).
-/
import Scc.Fun2Core.Fresh
import Scc.Fun2Core.HygieneProofs

namespace Scc.Props
open Scc.Fun2Core

/-- names.rs `fresh_name`: the result is not in the set, and is inserted into it. -/
theorem C02_freshName_post (used : List String) (base : String) :
    (freshName used base).1 ∉ used ∧ (freshName used base).2 = (freshName used base).1 :: used :=
  ⟨freshName_not_mem used base, freshName_snd used base⟩

/-- `fresh_var` / `fresh_covar` return a name outside the current used-names set. -/
theorem C02_freshVar_post (st : CompileState) :
    (freshVar st).1 ∉ st.usedVars ∧ (freshCovar st).1 ∉ st.usedVars :=
  ⟨freshName_not_mem _ _, freshName_not_mem _ _⟩

/-- the label generated by `share` is outside `used_labels` (which contains all user definition
names and all labels generated so far), whatever the state of the used variables. -/
theorem C02_share_label_post (c : Core.Term) (st : CompileState) :
    ∃ d, (share c st).2.liftedStatements = d :: st.liftedStatements ∧ d.name.id = 0 ∧
      d.name.name ∉ st.usedLabels ∧ (share c st).2.usedLabels = d.name.name :: st.usedLabels := by
  unfold share
  split
  · exact ⟨_, rfl, rfl, freshName_not_mem _ _, rfl⟩
  · exact ⟨_, rfl, rfl, freshName_not_mem _ _, rfl⟩

/-- FULL: along the translation of any term from any state,
  * the used-variable set grows exactly by the generated (co)variable names `gen`, which are pairwise
    distinct and were not in the set (so they differ from every user name of the definition, all of
    which are in the set from the start: `C02_used_set_covers_def`);
  * `used_labels` grows exactly by the generated labels `gl`, pairwise distinct and not in the set
    before, and the newly lifted definitions are named exactly `gl` (with id 0);
  * the codata declarations and the current definition name are unchanged. -/
theorem C02_fresh_names_disjoint (t : Fun.Term) (c : Core.Term) (st : CompileState)
    (s : Core.Stmt) (st' : CompileState) (h : compileWithCont t c st = .ok (s, st')) :
    (∃ gen, st'.usedVars = gen ++ st.usedVars ∧ gen.Nodup ∧ ∀ x ∈ gen, x ∉ st.usedVars) ∧
    (∃ gl new, st'.usedLabels = gl ++ st.usedLabels ∧ gl.Nodup ∧ (∀ x ∈ gl, x ∉ st.usedLabels) ∧
      st'.liftedStatements = new ++ st.liftedStatements ∧ new.map (·.name) = gl.map ident0) ∧
    st'.codataTypes = st.codataTypes ∧ st'.currentLabel = st.currentLabel := by
  have hf := compileWithCont_fresh h
  exact ⟨hf.vars, hf.labels, hf.codata, hf.label⟩

/-- the used-names set with which a definition is translated (def.rs) -/
def C02_usedSetOf (d : Fun.Def) : List String := usedBinders d.body (ctxVars d.ctx)

/-- the used-names set of a definition contains its parameters and every binder of its body. -/
theorem C02_used_set_covers_def (d : Fun.Def) :
    (∀ b ∈ d.ctx, b.var ∈ C02_usedSetOf d) ∧ (∀ x ∈ binderNames d.body, x ∈ C02_usedSetOf d) := by
  unfold C02_usedSetOf
  constructor
  · intro b hb
    exact (mem_usedBinders _ _).2 (.inr ((mem_ctxVars _).2 ⟨b, hb, rfl⟩))
  · intro x hx
    exact (mem_usedBinders _ _).2 (.inl hx)

/-- definition level: every name generated while translating the body of `d` (including the
covariable / variable generated by compile_def / compile_main for the return continuation) is
different from every parameter and every binder of `d`, and they are pairwise distinct. -/
theorem C02_def_generated_fresh (d : Fun.Def) (cts : List Core.TypeDecl) (l : List String)
    (c : Core.Term) (s : Core.Stmt) (st' : CompileState)
    (h : compileWithCont d.body c (freshCovar ⟨C02_usedSetOf d, cts, l, d.name, []⟩).2 = .ok (s, st') ∨
         compileWithCont d.body c (freshVar ⟨C02_usedSetOf d, cts, l, d.name, []⟩).2 = .ok (s, st')) :
    ∃ gen, st'.usedVars = gen ++ C02_usedSetOf d ∧ gen.Nodup ∧
      (∀ x ∈ gen, (∀ b ∈ d.ctx, b.var ≠ x) ∧ x ∉ binderNames d.body) := by
  have hcov := C02_used_set_covers_def d
  have key : Ext (C02_usedSetOf d) st'.usedVars := by
    rcases h with h | h
    · exact ((fresh_freshCovar _).trans (compileWithCont_fresh h)).vars
    · exact ((fresh_freshVar _).trans (compileWithCont_fresh h)).vars
  obtain ⟨gen, e, n, dj⟩ := key
  refine ⟨gen, e, n, fun x hx => ⟨fun b hb hbx => dj x hx (hbx ▸ hcov.1 b hb), fun hb => dj x hx (hcov.2 x hb)⟩⟩

/-- program.rs: the initial `used_labels` contains the name of every definition -/
theorem C02_mem_usedLabels_init (defs : List Fun.Def) (d : Fun.Def) (hd : d ∈ defs) :
    d.name ∈ defs.foldl (fun acc d => setInsert d.name acc) [] :=
  mem_usedLabels_init defs d hd

/-- PROGRAM LEVEL: if the user's definition names are pairwise distinct, all definition names of the
translated program are pairwise distinct.  In particular a lifted `share_<def>_<n>` is never equal to
another lifted name nor to a USER definition name — even if the user calls a definition
`share_f_0` (see `C02_user_named_like_lifted`). -/
theorem C02_lifted_names_distinct (p : Fun.CheckedProgram) (q : Core.Prog)
    (h : compileProg p = .ok q) (hu : (p.defs.map (·.name)).Nodup) :
    (q.defs.map (·.name)).Nodup := by
  unfold compileProg at h
  simp only at h
  split at h
  · simp at h
  · rename_i defs hd
    simp only [Except.ok.injEq] at h
    subst h
    refine compileDefs_nodup _ _ _ _ _ hd ?_ (by simp) (fun d hd' => C02_mem_usedLabels_init _ d hd')
    simp only [List.map_nil, List.nil_append]
    have : p.defs.map (fun d => ident0 d.name) = (p.defs.map (·.name)).map ident0 := by simp
    rw [this]
    exact List.Pairwise.map _ (fun a b hab h => hab (ident0_inj h)) hu

/-- the result of a translation without its error message: the examples state success as
`(C02_okOf _).isSome`, and an equation `compileProg D = .ok q` is read off `C02_okOf`
(`C02_eq_ok_of_okOf`) -/
def C02_okOf : Except String Core.Prog → Option Core.Prog
  | .ok q => some q
  | .error _ => none

theorem C02_eq_ok_of_okOf {r : Except String Core.Prog} {q : Core.Prog} (h : C02_okOf r = some q) :
    r = .ok q := by
  cases r with
  | error e => simp [C02_okOf] at h
  | ok q' => simp only [C02_okOf, Option.some.injEq] at h; rw [h]

/-- `def share_f_0(x) {x}  def f(x,y) { let z = if x == y {1} else {2}; share_f_0((z + x)) }  def main() { f(1,2) }`
(S1 dump of the harness) -/
def C02_progUserShare : Fun.CheckedProgram :=
  ⟨[],
   [],
   [⟨"share_f_0", [⟨"x", .prd, .i64⟩], .i64, (.var "x" (some .i64) (some .prd))⟩, ⟨"f", [⟨"x", .prd, .i64⟩, ⟨"y", .prd, .i64⟩], .i64, (.letIn "z" .i64 (.ifc .eq (.var "x" (some .i64) (some .prd)) (.var "y" (some .i64) (some .prd)) (.lit (1)) (.lit (2)) (some .i64)) (.call "share_f_0" (.cons (.paren (.op (.var "z" (some .i64) (some .prd)) .sum (.var "x" (some .i64) (some .prd)))) .nil) (some .i64)) (some .i64))⟩, ⟨"main", [], .i64, (.call "f" (.cons (.lit (1)) (.cons (.lit (2)) .nil)) (some .i64))⟩]⟩

def C02_defNames : Except String Core.Prog → List String
  | .ok q => q.defs.map (·.name.name)
  | .error _ => []

/-- a user definition named like a lifted one: the lifted definition gets the next free index. -/
theorem C02_user_named_like_lifted :
    C02_defNames (compileProg C02_progUserShare) = ["main", "share_f_0", "f", "share_f_1"] := rfl

/-- C02 "a variable, covariable or label of an outer scope keeps its meaning when the continuation
mentioning it is placed under an inner binder of the same name", syntactic core, FULL: for every
term `t` whose clause binder names are those of its typed clause contexts (`namesAgree`, a
hypothesis: no theorem derives it for the outputs of the type checker), every consumer `c` and
every state, the hygiene check computed along `compileWithCont t c st` succeeds: whenever the
translation puts a consumer under a `let` binder or under the binders of a clause, none of these
binder names occurs free in that consumer.
(Where a name does occur free, the repaired code emits `⟨μa.⟦t⟧_a | c⟩` with a fresh `a` instead.) -/
theorem C02_no_capture (t : Fun.Term) (hn : namesAgree t = true) (c : Core.Term)
    (st : CompileState) (hc : ConsOK c) : (hygBoth t).1 c st = true :=
  hygienic_cwc t hn c st hc

/-- program level: the hygiene predicate holds for every checked program with `namesAgree` bodies -/
theorem C02_no_capture_prog (p : Fun.CheckedProgram) (h : namesAgreeProg p = true) :
    Hygienic p = true :=
  hygienic_prog p h

/-- the two places where a consumer goes under a binder are guarded by exactly the test that the
hygiene predicate makes -/
theorem C02_guard_is_hygiene_test (binders : List String) (c : Core.Term) :
    bindersOccurFree binders c = false ↔ noCapture binders c = true := by
  rw [bindersOccurFree_false, noCapture_true]

/-- the guard recursion (`self.compile` re-enters `compile_with_cont`) has depth one whenever the
binders are in the used-names set, which holds in every run started by compile_def / compile_main
(`C02_used_set_covers_def`, `C02_fresh_names_disjoint`): the fuel of the model's `guardedLvl` is
never exhausted there. -/
theorem C02_guard_single_reentry (binders : List String) (ty : Option Fun.Ty) (site : String)
    (core : CwcFn) (c : Core.Term) (st : CompileState) (hb : ∀ x ∈ binders, x ∈ st.usedVars) :
    guarded binders ty site core c st =
      (if bindersOccurFree binders c then
        match ty with
        | none => .error (noTy site)
        | some t =>
          match core (.var .cns ⟨(freshCovar st).1, 0⟩ (compileTy t)) (freshCovar st).2 with
          | .error e => .error e
          | .ok (s, st1) =>
            .ok (.cut (compileTy t) (.mu .prd ⟨(freshCovar st).1, 0⟩ (compileTy t) s) c, st1)
      else core c st) :=
  guarded_eq_of_binders_used binders ty site core c st hb

/-- D1 (S1 dump of the harness):
`data List[A]{Nil,Cons(x:A,xs:List[A])}
 def f(x:i64,l:List[i64]):i64{ let y:i64 = l.case[i64]{Nil=>0,Cons(x,xs)=>x}; y+x }
 def main():i64{ println_i64(f(100,Cons(1,Nil))); 0 }` -/
def C02_progD1 : Fun.CheckedProgram :=
  ⟨[⟨"List[i64]", [], [⟨"Nil", []⟩, ⟨"Cons", [⟨"x", .prd, .i64⟩, ⟨"xs", .prd, (.decl "List" (.cons .i64 .nil))⟩]⟩]⟩],
   [],
   [⟨"f", [⟨"x", .prd, .i64⟩, ⟨"l", .prd, (.decl "List" (.cons .i64 .nil))⟩], .i64, (.letIn "y" .i64 (.case (.var "l" (some (.decl "List" (.cons .i64 .nil))) (some .prd)) (.cons .i64 .nil) (.cons .data "Nil" [] [] (.lit (0)) (.cons .data "Cons" ["x", "xs"] [⟨"x", .prd, .i64⟩, ⟨"xs", .prd, (.decl "List" (.cons .i64 .nil))⟩] (.var "x" (some .i64) (some .prd)) .nil)) (some .i64)) (.op (.var "y" (some .i64) (some .prd)) .sum (.var "x" (some .i64) (some .prd))) (some .i64))⟩, ⟨"main", [], .i64, (.print true (.call "f" (.cons (.lit (100)) (.cons (.ctor "Cons" (.cons (.lit (1)) (.cons (.ctor "Nil" .nil (some (.decl "List" (.cons .i64 .nil)))) .nil)) (some (.decl "List" (.cons .i64 .nil)))) .nil)) (some .i64)) (.lit (0)) (some .i64))⟩]⟩

/-- the S2 dump of the repaired implementation for D1: `f` is
`⟨μa1.⟨l | case { Nil ⇒ ⟨0 | a1⟩, Cons(x, xs) ⇒ ⟨x | a1⟩ }⟩ | μ~y.⟨y + x | a0⟩⟩` -/
def C02_progD1Out : Core.Prog :=
  ⟨[⟨⟨"main", 0⟩, [], (.print true (.mu .prd ⟨"a0", 0⟩ .i64 (.call ⟨"f", 0⟩ (.cons .prd (.lit (100)) (.cons .prd (.xtor .prd ⟨"Cons", 0⟩ (.cons .prd (.lit (1)) (.cons .prd (.xtor .prd ⟨"Nil", 0⟩ .nil (.decl ⟨"List[i64]", 0⟩)) .nil)) (.decl ⟨"List[i64]", 0⟩)) (.cons .cns (.var .cns ⟨"a0", 0⟩ .i64) .nil))) .i64)) (.cut .i64 (.lit (0)) (.mu .cns ⟨"x0", 0⟩ .i64 (.exit (.var .prd ⟨"x0", 0⟩ .i64) .i64))))⟩, ⟨⟨"f", 0⟩, [⟨⟨"x", 0⟩, .prd, .i64⟩, ⟨⟨"l", 0⟩, .prd, (.decl ⟨"List[i64]", 0⟩)⟩, ⟨⟨"a0", 0⟩, .cns, .i64⟩], (.cut .i64 (.mu .prd ⟨"a1", 0⟩ .i64 (.cut (.decl ⟨"List[i64]", 0⟩) (.var .prd ⟨"l", 0⟩ (.decl ⟨"List[i64]", 0⟩)) (.xcase .cns (.decl ⟨"List[i64]", 0⟩) (.cons ⟨"Nil", 0⟩ [] (.cut .i64 (.lit (0)) (.var .cns ⟨"a1", 0⟩ .i64)) (.cons ⟨"Cons", 0⟩ [⟨⟨"x", 0⟩, .prd, .i64⟩, ⟨⟨"xs", 0⟩, .prd, (.decl ⟨"List[i64]", 0⟩)⟩] (.cut .i64 (.var .prd ⟨"x", 0⟩ .i64) (.var .cns ⟨"a1", 0⟩ .i64)) .nil))))) (.mu .cns ⟨"y", 0⟩ .i64 (.cut .i64 (.op (.var .prd ⟨"y", 0⟩ .i64) .sum (.var .prd ⟨"x", 0⟩ .i64)) (.var .cns ⟨"a0", 0⟩ .i64))))⟩],
   [⟨⟨"List[i64]", 0⟩, [⟨⟨"Nil", 0⟩, []⟩, ⟨⟨"Cons", 0⟩, [⟨⟨"x", 0⟩, .prd, .i64⟩, ⟨⟨"xs", 0⟩, .prd, (.decl ⟨"List[i64]", 0⟩)⟩]⟩]⟩],
   [], 0⟩

/-- D2: `def f(x:i64):i64{ let y:i64 = (let x:i64 = 5; x+1); x+y }` + main (S1 dump) -/
def C02_progD2 : Fun.CheckedProgram :=
  ⟨[],
   [],
   [⟨"f", [⟨"x", .prd, .i64⟩], .i64, (.letIn "y" .i64 (.paren (.letIn "x" .i64 (.lit (5)) (.op (.var "x" (some .i64) (some .prd)) .sum (.lit (1))) (some .i64))) (.op (.var "x" (some .i64) (some .prd)) .sum (.var "y" (some .i64) (some .prd))) (some .i64))⟩, ⟨"main", [], .i64, (.print true (.call "f" (.cons (.lit (1)) .nil) (some .i64)) (.lit (0)) (some .i64))⟩]⟩

/-- the S2 dump of the repaired implementation for D2 -/
def C02_progD2Out : Core.Prog :=
  ⟨[⟨⟨"main", 0⟩, [], (.print true (.mu .prd ⟨"a0", 0⟩ .i64 (.call ⟨"f", 0⟩ (.cons .prd (.lit (1)) (.cons .cns (.var .cns ⟨"a0", 0⟩ .i64) .nil)) .i64)) (.cut .i64 (.lit (0)) (.mu .cns ⟨"x0", 0⟩ .i64 (.exit (.var .prd ⟨"x0", 0⟩ .i64) .i64))))⟩, ⟨⟨"f", 0⟩, [⟨⟨"x", 0⟩, .prd, .i64⟩, ⟨⟨"a0", 0⟩, .cns, .i64⟩], (.cut .i64 (.mu .prd ⟨"a1", 0⟩ .i64 (.cut .i64 (.lit (5)) (.mu .cns ⟨"x", 0⟩ .i64 (.cut .i64 (.op (.var .prd ⟨"x", 0⟩ .i64) .sum (.lit (1))) (.var .cns ⟨"a1", 0⟩ .i64))))) (.mu .cns ⟨"y", 0⟩ .i64 (.cut .i64 (.op (.var .prd ⟨"x", 0⟩ .i64) .sum (.var .prd ⟨"y", 0⟩ .i64)) (.var .cns ⟨"a0", 0⟩ .i64))))⟩],
   [],
   [], 0⟩

/-- the model's output for D1 is literally the repaired implementation's S2 dump, the names agree,
and the program is hygienic (also by evaluation, independently of `C02_no_capture_prog`) -/
theorem C02_d1_repaired :
    compileProg C02_progD1 = .ok C02_progD1Out ∧ namesAgreeProg C02_progD1 = true ∧
    Hygienic C02_progD1 = true :=
  ⟨C02_eq_ok_of_okOf rfl, rfl, rfl⟩

theorem C02_d2_repaired :
    compileProg C02_progD2 = .ok C02_progD2Out ∧ namesAgreeProg C02_progD2 = true ∧
    Hygienic C02_progD2 = true :=
  ⟨C02_eq_ok_of_okOf rfl, rfl, rfl⟩

/-- `len`, a `prod` with label/goto and a covariable parameter, sequenced `let`s over `if` and
`label` (S1 dump of the harness) -/
def C02_progHyg : Fun.CheckedProgram :=
  ⟨[⟨"List[i64]", [], [⟨"Nil", []⟩, ⟨"Cons", [⟨"x", .prd, .i64⟩, ⟨"xs", .prd, (.decl "List" (.cons .i64 .nil))⟩]⟩]⟩],
   [],
   [⟨"len", [⟨"l", .prd, (.decl "List" (.cons .i64 .nil))⟩], .i64, (.case (.var "l" (some (.decl "List" (.cons .i64 .nil))) (some .prd)) (.cons .i64 .nil) (.cons .data "Nil" [] [] (.lit (0)) (.cons .data "Cons" ["y", "ys"] [⟨"y", .prd, .i64⟩, ⟨"ys", .prd, (.decl "List" (.cons .i64 .nil))⟩] (.op (.lit (1)) .sum (.call "len" (.cons (.var "ys" (some (.decl "List" (.cons .i64 .nil))) (some .prd)) .nil) (some .i64))) .nil)) (some .i64))⟩, ⟨"prod", [⟨"l", .prd, (.decl "List" (.cons .i64 .nil))⟩, ⟨"k", .cns, .i64⟩], .i64, (.case (.var "l" (some (.decl "List" (.cons .i64 .nil))) (some .prd)) (.cons .i64 .nil) (.cons .data "Nil" [] [] (.lit (1)) (.cons .data "Cons" ["z", "zs"] [⟨"z", .prd, .i64⟩, ⟨"zs", .prd, (.decl "List" (.cons .i64 .nil))⟩] (.ifz .eq (.var "z" (some .i64) (some .prd)) (.goto "k" (.lit (0)) (some .i64)) (.op (.var "z" (some .i64) (some .prd)) .prod (.call "prod" (.cons (.var "zs" (some (.decl "List" (.cons .i64 .nil))) (some .prd)) (.cons (.var "k" (some .i64) (some .cns)) .nil)) (some .i64))) (some .i64)) .nil)) (some .i64))⟩, ⟨"main", [], .i64, (.letIn "n" .i64 (.call "len" (.cons (.ctor "Cons" (.cons (.lit (1)) (.cons (.ctor "Nil" .nil (some (.decl "List" (.cons .i64 .nil)))) .nil)) (some (.decl "List" (.cons .i64 .nil)))) .nil) (some .i64)) (.letIn "r" .i64 (.ifc .eq (.var "n" (some .i64) (some .prd)) (.lit (1)) (.label "k" (.call "prod" (.cons (.ctor "Cons" (.cons (.lit (2)) (.cons (.ctor "Cons" (.cons (.lit (0)) (.cons (.ctor "Nil" .nil (some (.decl "List" (.cons .i64 .nil)))) .nil)) (some (.decl "List" (.cons .i64 .nil)))) .nil)) (some (.decl "List" (.cons .i64 .nil)))) (.cons (.var "k" (some .i64) (some .cns)) .nil)) (some .i64)) (some .i64)) (.lit (7)) (some .i64)) (.print true (.op (.var "r" (some .i64) (some .prd)) .sum (.var "n" (some .i64) (some .prd))) (.lit (0)) (some .i64)) (some .i64)) (some .i64))⟩]⟩

theorem C02_hygienic_examples :
    Hygienic C02_progHyg = true ∧ Hygienic C02_progUserShare = true ∧
    (C02_okOf (compileProg C02_progHyg)).isSome = true := by
  decide +kernel

/-- the hypotheses of `C02_lifted_names_distinct` hold for a concrete program -/
example : (C02_progUserShare.defs.map (·.name)).Nodup ∧ (C02_okOf (compileProg C02_progUserShare)).isSome = true :=
  ⟨by decide, rfl⟩

/-- the hypothesis of `C02_fresh_names_disjoint` holds for a concrete term and state -/
example : ∃ s st', compileWithCont (.ifz .eq (.var "x" (some .i64) (some .prd)) (.lit 1) (.lit 2) (some .i64))
    (.var .cns ⟨"a", 0⟩ .i64) ⟨["x", "a"], [], ["f"], "f", []⟩ = .ok (s, st') := ⟨_, _, rfl⟩

#print axioms C02_freshName_post
#print axioms C02_freshVar_post
#print axioms C02_share_label_post
#print axioms C02_fresh_names_disjoint
#print axioms C02_used_set_covers_def
#print axioms C02_def_generated_fresh
#print axioms C02_lifted_names_distinct
#print axioms C02_user_named_like_lifted
#print axioms C02_no_capture
#print axioms C02_no_capture_prog
#print axioms C02_guard_is_hygiene_test
#print axioms C02_guard_single_reentry
#print axioms C02_d1_repaired
#print axioms C02_d2_repaired
#print axioms C02_hygienic_examples

end Scc.Props

#print axioms Scc.Props.C02_mem_usedLabels_init
#print axioms Scc.Props.C02_eq_ok_of_okOf
