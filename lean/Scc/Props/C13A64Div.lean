/-
  Scc.Props.C13A64Div — property C13 (calling convention), DYNAMIC part, for ALL PROGRAMS on AArch64, WITHOUT THE
  HYPOTHESIS THAT THE POSITIONAL MACHINE DOES NOT GET STUCK: the extension of Props/C13A64All.lean to runs that
  divide by zero or overflow a division.

  `C13_statement` (Props/C13A64.lean) permits, besides `done v` and `outOfFuel`, the faults `div-by-zero` and
  `div-overflow`.  The theorems of Props/C13A64All.lean assume `∀ fuel w, (Pos.run p args fuel).res ≠ .stuck w`
  ("the simulation says nothing about stuck steps").  Here that hypothesis is not made: the positional machine of a
  linearly typed program gets stuck only at an `op` whose operator is undefined (`Pos.runState_safe`, Scc/AxCut/PosSafe.lean;
  `Pos.stuck_op`, Scc/A64/ConcKDiv.lean); the AArch64 machine runs — without any fault — to the `SDIV` of that `op`
  (`op_fault`: every placement of target and operands in registers and spill slots, `div` and `rem`), and the
  `SDIV` faults with `div-by-zero` resp. `div-overflow` (`Ref.K.step3_stuck`, `ConcK.Bd.stuck`,
  `ConcK.programs_dsize_div`, Scc/A64/ConcKStuck.lean).

  PROVED (axioms propext, Classical.choice, Quot.sound):
  * `C13_a64_outcome_div`   under the hypotheses of `C07_programs_text`, at most `D` fields of object and closure
        data held by the variables, a heap of `64·(D + A + 2)` bytes: for EVERY machine fuel (below `2^64 / (M + 1)`)
        and EVERY setting of the heap monitor and of the validator, `run (printProg routine)` ends in `outOfFuel`,
        `done v`, `fault div-by-zero`, `fault div-overflow`, or (heap monitor on) a report of the heap monitor.
  * `C13_a64_cc_never_fires_div`   hence the calling-convention monitor never fires (`CCSafe`), and with the heap
        monitor off the result is an outcome `C13_statement` permits (`C13_a64_allowed`).
  * `C13_a64_div_agrees`   with the heap monitor off the machine's outcome is that of the positional machine:
        `done v` only if the positional machine returns `v`, a division fault only if it is stuck on that division.
  * NON-VACUITY: `C13A_divProg` (main(x) { lit z <- 0; q <- x / z; exit q }) — for every fuel below 2^58 the machine
        is out of fuel or ends in `fault div-by-zero`, never in `done` (`C13A_div_faults`); every hypothesis of the theorems holds for it, heap monitor and validator on.
  WHAT REMAINS of `C13_statement`: machine fuel beyond `2^64 / (M + 1)`, the hypotheses `LabelSafe` and
  `C07_a64Checks`, the sane machine configurations, and the data-size hypothesis.
-/
import Scc.Props.C13A64All
import Scc.A64.ConcKStuck

namespace Scc.A64
open Scc.AxCut Scc.A64.Ref
open Scc.Props.C06Generic (Reachable CodeFits)
open Scc.Props.C14Generic (LabelSafe)
open Scc.A64.CC (CCSafe CfgCC cfgCC_default Lines hkOf)
open Scc.A64.Loader (hookVarsOf)
open Scc.X86.Ref.K (AllocLe progMaxAlloc allocLe_progMaxAlloc)
open Scc.X86.Conc (valsFields stmtSize progMaxSize stmtSize_le_progMaxSize)
open Scc.A64.ConcK (monOff)

/-- the outcomes of the machine, whatever the positional machine does -/
def C13_a64_divOutcome (heap : Bool) (r : Res) : Prop :=
  r = .outOfFuel ∨ (∃ v, r = .done v) ∨ (∃ ln, r = .fault "div-by-zero" ln) ∨ (∃ ln, r = .fault "div-overflow" ln) ∨
    ∃ what ln, heap = true ∧ r = .invFail what ln

theorem C13_a64_safe_of_divOutcome {heap : Bool} {r : Res} (h : C13_a64_divOutcome heap r) :
    CCSafe r ∧ (heap = false → C13_a64_allowed r) := by
  rcases h with h | ⟨v, h⟩ | ⟨ln, h⟩ | ⟨ln, h⟩ | ⟨e, ln, hh, h⟩
  · rw [h]; exact ⟨trivial, fun _ => trivial⟩
  · rw [h]; exact ⟨trivial, fun _ => trivial⟩
  · rw [h]; exact ⟨⟨by decide, by decide⟩, fun _ => Or.inl rfl⟩
  · rw [h]; exact ⟨⟨by decide, by decide⟩, fun _ => Or.inr rfl⟩
  · rw [h]; exact ⟨trivial, fun h0 => by rw [hh] at h0; cases h0⟩

/-- WITH THE HEAP MONITOR OFF, ALL PROGRAMS, ALL RUNS, WHATEVER THE POSITIONAL MACHINE DOES, on the text: the
machine's outcome is that of the positional machine — out of fuel, the result, or the division fault -/
theorem C13_a64_div_agrees (p : AxCut.Prog) (args : List Word) (hooks : Bool)
    (body routine : List Code) (nargs : Nat) (d0 : Def)
    (hsafe : LabelSafe p = true) (htp : LinTypedProg p) (hchk : C07_a64Checks p = true)
    (hcompX : compileProg a64Backend p hooks 0 = .ok (body, nargs, routine))
    (hd : p.defs.head? = some d0) (hargs : args.length = nargs)
    (D : Nat) (hD : ∀ st, Reachable p ⟨d0.ctx, args.map .int, d0.body⟩ st → valsFields st.env ≤ D)
    (cfg : MonCfg) (H : CfgCC cfg.mem) (hheap : cfg.heap = false) (hwf : cfg.wf = true → routine.length < 262144)
    (hb8 : cfg.mem.heapBase % 8 = 0) (hb0 : 0 < cfg.mem.heapBase)
    (hbytes : 64 * (D + progMaxAlloc p + 2) ≤ cfg.mem.heapBytes)
    (hfitX : cfg.mem.codeBase + 4 * ninstr routine < 2 ^ 64)
    (fuel' : Nat) (hf : fuel' * (progMaxSize p + 1) + stmtSize d0.body + 1 < 2 ^ 64) :
    (run (printProg routine) args fuel' cfg).res = .outOfFuel ∨
      (∃ v out, Pos.run p args (fuel' * (progMaxSize p + 1) + stmtSize d0.body) = ⟨out, .done v⟩ ∧
        (run (printProg routine) args fuel' cfg).res = .done v) ∨
      ∃ w out ln, Pos.run p args (fuel' * (progMaxSize p + 1) + stmtSize d0.body) = ⟨out, .stuck w⟩ ∧
        (w = .divByZero ∨ w = .overflow) ∧
        (run (printProg routine) args fuel' cfg).res = .fault (divFault w) ln := by
  obtain ⟨ops, c', ls, S⟩ := C07_setup_of_checks p args hooks body routine nargs d0 hsafe htp hchk hcompX hd
  rw [C09_run_eq_runProg S.parse (C09_wf_ok hsafe htp hchk hcompX hwf)]
  exact ConcK.programs_dsize_div p args hooks body routine nargs d0 ops c' hsafe htp S.progOK S.compM S.fit
    hcompX S.nd hd S.entry (by rw [← S.nargs, hargs]) S.cap D hD cfg H hheap hb8 hb0
    (progMaxAlloc p) (progMaxSize p) (allocLe_progMaxAlloc p) (stmtSize_le_progMaxSize p) hbytes
    (Ref.K.holdsB_layout S.lines) hfitX fuel' hf

/-- THE OUTCOMES, ALL PROGRAMS, ALL RUNS, EVERY SETTING OF THE MONITORS, WHATEVER THE POSITIONAL MACHINE DOES -/
theorem C13_a64_outcome_div (p : AxCut.Prog) (args : List Word) (hooks : Bool)
    (body routine : List Code) (nargs : Nat) (d0 : Def)
    (hsafe : LabelSafe p = true) (htp : LinTypedProg p) (hchk : C07_a64Checks p = true)
    (hcompX : compileProg a64Backend p hooks 0 = .ok (body, nargs, routine))
    (hd : p.defs.head? = some d0) (hargs : args.length = nargs)
    (D : Nat) (hD : ∀ st, Reachable p ⟨d0.ctx, args.map .int, d0.body⟩ st → valsFields st.env ≤ D)
    (cfg : MonCfg) (H : CfgCC cfg.mem) (hwf : cfg.wf = true → routine.length < 262144)
    (hb8 : cfg.mem.heapBase % 8 = 0) (hb0 : 0 < cfg.mem.heapBase)
    (hbytes : 64 * (D + progMaxAlloc p + 2) ≤ cfg.mem.heapBytes)
    (hfitX : cfg.mem.codeBase + 4 * ninstr routine < 2 ^ 64)
    (fuel' : Nat) (hf : fuel' * (progMaxSize p + 1) + stmtSize d0.body + 1 < 2 ^ 64) :
    C13_a64_divOutcome cfg.heap (run (printProg routine) args fuel' cfg).res := by
  obtain ⟨ops, c', ls, S⟩ := C07_setup_of_checks p args hooks body routine nargs d0 hsafe htp hchk hcompX hd
  rw [C09_run_eq_runProg S.parse (C09_wf_ok hsafe htp hchk hcompX hwf)]
  have hoff := ConcK.programs_dsize_div p args hooks body routine nargs d0 ops c' hsafe htp S.progOK S.compM S.fit
    hcompX S.nd hd S.entry (by rw [← S.nargs, hargs]) S.cap D hD (monOff cfg) H rfl hb8 hb0
    (progMaxAlloc p) (progMaxSize p) (allocLe_progMaxAlloc p) (stmtSize_le_progMaxSize p) hbytes
    (Ref.K.holdsB_layout S.lines) hfitX fuel' hf
  have hoff' : C13_a64_divOutcome false (runProg (layout ls) args fuel' (monOff cfg)).res := by
    rcases hoff with h | ⟨v, _, _, h⟩ | ⟨w, _, ln, _, hw, h⟩
    · exact Or.inl h
    · exact Or.inr (Or.inl ⟨v, h⟩)
    · rcases hw with rfl | rfl
      · exact Or.inr (Or.inr (Or.inl ⟨ln, h⟩))
      · exact Or.inr (Or.inr (Or.inr (Or.inl ⟨ln, h⟩)))
  cases hh : cfg.heap with
  | false =>
    have e : monOff cfg = cfg := by
      cases cfg; simp only [monOff] at *; rw [hh]
    rw [e] at hoff'
    exact hoff'
  | true =>
    rcases ConcK.runProg_monitor_indep (layout ls) args fuel' cfg with h1 | ⟨e, ln, h1⟩
    · rw [h1]
      rcases hoff' with h | h | h | h | ⟨_, _, h, _⟩
      · exact Or.inl h
      · exact Or.inr (Or.inl h)
      · exact Or.inr (Or.inr (Or.inl h))
      · exact Or.inr (Or.inr (Or.inr (Or.inl h)))
      · cases h
    · exact Or.inr (Or.inr (Or.inr (Or.inr ⟨e, ln, rfl, h1⟩)))

/-- C13, DYNAMIC PART, FOR ALL PROGRAMS, ALL RUNS, WHATEVER THE POSITIONAL MACHINE DOES: the calling-convention monitor never
fires — neither the exit checks of `RET`, nor the alignment check at a call, nor the alignment check at any SP-based
memory access —, whatever the machine fuel (below `2^64 / (M + 1)`) and the settings of the heap monitor and of the
validator; with the heap monitor off the result is an outcome `C13_statement` permits (`done`, `outOfFuel`,
`div-by-zero`, `div-overflow`).  No hypothesis on the runs of the positional machine other than the size of the data. -/
theorem C13_a64_cc_never_fires_div (p : AxCut.Prog) (args : List Word) (hooks : Bool)
    (body routine : List Code) (nargs : Nat) (d0 : Def)
    (hsafe : LabelSafe p = true) (htp : LinTypedProg p) (hchk : C07_a64Checks p = true)
    (hcompX : compileProg a64Backend p hooks 0 = .ok (body, nargs, routine))
    (hd : p.defs.head? = some d0) (hargs : args.length = nargs)
    (D : Nat) (hD : ∀ st, Reachable p ⟨d0.ctx, args.map .int, d0.body⟩ st → valsFields st.env ≤ D)
    (cfg : MonCfg) (H : CfgCC cfg.mem) (hwf : cfg.wf = true → routine.length < 262144)
    (hb8 : cfg.mem.heapBase % 8 = 0) (hb0 : 0 < cfg.mem.heapBase)
    (hbytes : 64 * (D + progMaxAlloc p + 2) ≤ cfg.mem.heapBytes)
    (hfitX : cfg.mem.codeBase + 4 * ninstr routine < 2 ^ 64)
    (fuel' : Nat) (hf : fuel' * (progMaxSize p + 1) + stmtSize d0.body + 1 < 2 ^ 64) :
    CCSafe (run (printProg routine) args fuel' cfg).res ∧
      (cfg.heap = false → C13_a64_allowed (run (printProg routine) args fuel' cfg).res) :=
  C13_a64_safe_of_divOutcome (C13_a64_outcome_div p args hooks body routine nargs d0 hsafe htp hchk hcompX hd hargs D
    hD cfg H hwf hb8 hb0 hbytes hfitX fuel' hf)

/-- main(x) { lit z <- 0; q <- x / z; exit q } -/
def C13A_divMain : Def :=
  { name := ⟨"main", 0⟩, ctx := [⟨⟨"x", 1⟩, .ext, .i64⟩],
    body := .lit ⟨"z", 2⟩ 0 (.op ⟨"q", 3⟩ ⟨"x", 1⟩ .div ⟨"z", 2⟩ (.exit ⟨"q", 3⟩) none) none }

def C13A_divProg : AxCut.Prog := { defs := [C13A_divMain], types := [], maxId := 204 }

def C13A_divRoutine : List Code :=
  match compileProg a64Backend C13A_divProg true 0 with
  | .ok (_, _, r) => r
  | .error _ => []

theorem C13A_div_compiles : ∃ body nargs,
    compileProg a64Backend C13A_divProg true 0 = .ok (body, nargs, C13A_divRoutine) := by
  have hok : ∃ r, compileProg a64Backend C13A_divProg true 0 = .ok r := ⟨_, rfl⟩
  obtain ⟨⟨body, nargs, routine⟩, hcomp⟩ := hok
  refine ⟨body, nargs, ?_⟩
  rw [hcomp]
  congr 3
  unfold C13A_divRoutine
  rw [hcomp]

theorem C13A_div_stuck : Pos.run C13A_divProg [7] 5 = ⟨[], .stuck .divByZero⟩ := by decide

set_option maxRecDepth 100000 in
theorem C13A_divProg_safe : LabelSafe C13A_divProg = true := by decide

theorem C13A_divProg_typed : LinTypedProg C13A_divProg := linTypedCheck_sound C13A_divProg rfl

theorem C13A_divProg_checks : C07_a64Checks C13A_divProg = true := by decide +kernel

set_option maxRecDepth 100000 in
theorem C13A_divRoutine_fits {c : MemCfg} (hc : c.codeBase ≤ 2 ^ 62) : c.codeBase + 4 * ninstr C13A_divRoutine < 2 ^ 64 :=
  fits_of_ninstr hc (by decide)

theorem C13A_div_nargs {body : List Code} {nargs : Nat}
    (h : compileProg a64Backend C13A_divProg true 0 = .ok (body, nargs, C13A_divRoutine)) : [7].length = nargs := by
  obtain ⟨c1, hcompA, _⟩ := compileProg_ok h
  obtain ⟨_, _, _, _, _, _, hn2⟩ := Ref.compile_a64_entry (d0 := C13A_divMain) hcompA rfl
  rw [hn2]; rfl

theorem C13A_div_run (k : Nat) : Pos.run C13A_divProg [7] (k + 2) = ⟨[], .stuck .divByZero⟩ := rfl

/-- the two states of the run (started with x = 7) hold no object or closure -/
theorem C13A_div_size (st : Pos.State)
    (h : Reachable C13A_divProg ⟨C13A_divMain.ctx, [7].map .int, C13A_divMain.body⟩ st) : valsFields st.env ≤ 0 := by
  have key : st = ⟨C13A_divMain.ctx, [.int 7], C13A_divMain.body⟩ ∨
      st = ⟨C13A_divMain.ctx ++ [⟨⟨"z", 2⟩, .ext, .i64⟩], [.int 7, .int 0],
        .op ⟨"q", 3⟩ ⟨"x", 1⟩ .div ⟨"z", 2⟩ (.exit ⟨"q", 3⟩) none⟩ := by
    induction h with
    | refl => exact Or.inl rfl
    | step _ hs ih =>
      rcases ih with rfl | rfl
      · have e : Pos.step C13A_divProg ⟨C13A_divMain.ctx, [.int 7], C13A_divMain.body⟩ =
            .next ⟨C13A_divMain.ctx ++ [⟨⟨"z", 2⟩, .ext, .i64⟩], [.int 7, .int 0],
              .op ⟨"q", 3⟩ ⟨"x", 1⟩ .div ⟨"z", 2⟩ (.exit ⟨"q", 3⟩) none⟩ none := by rfl
        rw [e] at hs; injection hs with e'; exact Or.inr e'.symm
      · have e : Pos.step C13A_divProg ⟨C13A_divMain.ctx ++ [⟨⟨"z", 2⟩, .ext, .i64⟩], [.int 7, .int 0],
            .op ⟨"q", 3⟩ ⟨"x", 1⟩ .div ⟨"z", 2⟩ (.exit ⟨"q", 3⟩) none⟩ = .stuck .divByZero := by rfl
        rw [e] at hs; cases hs
  rcases key with rfl | rfl <;> decide

set_option maxRecDepth 100000 in
/-- every hypothesis of `C13_a64_cc_never_fires_div` holds for the division by zero, heap monitor and validator on -/
example (fuel' : Nat) (hf : fuel' < 2 ^ 58) :
    CCSafe (run (printProg C13A_divRoutine) [7] fuel' { heap := true, wf := true }).res := by
  obtain ⟨body, nargs, hcomp⟩ := C13A_div_compiles
  have e2 : progMaxSize C13A_divProg = 3 ∧ stmtSize C13A_divMain.body = 3 ∧ progMaxAlloc C13A_divProg = 0 := by decide
  exact (C13_a64_cc_never_fires_div C13A_divProg [7] true body C13A_divRoutine nargs C13A_divMain
    C13A_divProg_safe C13A_divProg_typed C13A_divProg_checks hcomp rfl (C13A_div_nargs hcomp)
    0 C13A_div_size { heap := true, wf := true } cfgCC_default (fun _ => by decide) (by decide) (by decide)
    (by rw [e2.2.2]; decide) (C13A_divRoutine_fits (by decide)) fuel' (by rw [e2.1, e2.2.1]; omega)).1

set_option maxRecDepth 100000 in
/-- THE MACHINE FAULTS WHERE THE POSITIONAL MACHINE IS STUCK: on the TEXT of the routine of `main(x) { z <- 0;
q <- x / z; exit q }`, started with x = 7 in the default configuration, the machine is out of fuel or ends in the
fault `div-by-zero` — for EVERY fuel below 2^58 (never `done`: the positional machine is stuck after two steps) -/
theorem C13A_div_faults (fuel' : Nat) (hf : fuel' < 2 ^ 58) :
    (run (printProg C13A_divRoutine) [7] fuel' {}).res = .outOfFuel ∨
      ∃ ln, (run (printProg C13A_divRoutine) [7] fuel' {}).res = .fault "div-by-zero" ln := by
  obtain ⟨body, nargs, hcomp⟩ := C13A_div_compiles
  have e2 : progMaxSize C13A_divProg = 3 ∧ stmtSize C13A_divMain.body = 3 ∧ progMaxAlloc C13A_divProg = 0 := by decide
  rcases C13_a64_div_agrees C13A_divProg [7] true body C13A_divRoutine nargs C13A_divMain
    C13A_divProg_safe C13A_divProg_typed C13A_divProg_checks hcomp rfl (C13A_div_nargs hcomp)
    0 C13A_div_size {} cfgCC_default rfl (fun h => nomatch h) (by decide) (by decide)
    (by rw [e2.2.2]; decide) (C13A_divRoutine_fits (by decide)) fuel' (by rw [e2.1, e2.2.1]; omega) with h | ⟨v, out, hr, _⟩ | ⟨w, out, ln, hr, _, h⟩
  · exact Or.inl h
  · exfalso
    rw [e2.1, e2.2.1, show fuel' * (3 + 1) + 3 = (fuel' * 4 + 1) + 2 by omega, C13A_div_run] at hr
    cases hr
  · right
    rw [e2.1, e2.2.1, show fuel' * (3 + 1) + 3 = (fuel' * 4 + 1) + 2 by omega, C13A_div_run] at hr
    injection hr with _ hr
    injection hr with hr
    subst hr
    exact ⟨ln, h⟩

end Scc.A64

#print axioms Scc.A64.C13_a64_div_agrees
#print axioms Scc.A64.C13_a64_outcome_div
#print axioms Scc.A64.C13_a64_cc_never_fires_div
#print axioms Scc.A64.C13A_div_faults

#print axioms Scc.A64.C13_a64_safe_of_divOutcome
#print axioms Scc.A64.C13A_div_compiles
#print axioms Scc.A64.C13A_div_stuck
#print axioms Scc.A64.C13A_divProg_checks
#print axioms Scc.A64.C13A_divRoutine_fits
#print axioms Scc.A64.C13A_div_nargs
#print axioms Scc.A64.C13A_div_run
#print axioms Scc.A64.C13A_div_size
#print axioms Scc.A64.C13A_divProg_safe
#print axioms Scc.A64.C13A_divProg_typed
