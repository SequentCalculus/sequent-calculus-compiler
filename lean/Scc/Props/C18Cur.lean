/-
  C18 / C16 tie to the CURRENT sources: checks/regen.py extracts from fun.lalrpop (a) how the action of rule
  `Num` treats an out-of-range literal and (b) the token table of the `match { … }` block; the theorems
  below hold only if (a) is the diagnostic variant, for which `C18_parse_statement_fixed` shows that
  the parser model never panics, and (b) is literally the table the Lean lexer (Scc/Fun/Lex.lean) was
  written against.  A change of either breaks this file.
-/
import Scc.Props.C18
import Scc.Generated.Parser

namespace Scc.Props
open Scc.Generated

/-- the token table the lexer model implements (reviewed against Scc/Fun/Lex.lean) -/
def lexerTokensModelled : List (String × String) := [
  ("lit", "("),
  ("lit", ")"),
  ("lit", "{"),
  ("lit", "}"),
  ("lit", "["),
  ("lit", "]"),
  ("lit", ";"),
  ("lit", "=>"),
  ("lit", ","),
  ("lit", ":"),
  ("regex", ":\\s*cns"),
  ("lit", "."),
  ("lit", "="),
  ("lit", "=="),
  ("lit", "!="),
  ("lit", "<"),
  ("lit", "<="),
  ("lit", ">"),
  ("lit", ">="),
  ("regex", "==\\s*0"),
  ("regex", "0\\s*=="),
  ("regex", "!=\\s*0"),
  ("regex", "0\\s*!="),
  ("regex", "<\\s*0"),
  ("regex", "0\\s*<"),
  ("regex", "<=\\s*0"),
  ("regex", "0\\s*<="),
  ("regex", ">\\s*0"),
  ("regex", "0\\s*>"),
  ("regex", ">=\\s*0"),
  ("regex", "0\\s*>="),
  ("lit", "+"),
  ("lit", "*"),
  ("lit", "-"),
  ("lit", "/"),
  ("lit", "%"),
  ("regex", "[a-z][a-zA-Z0-9_]*"),
  ("regex", "[A-Z][a-zA-Z0-9_]*"),
  ("regex", "0|[1-9][0-9]*"),
  ("lit", "label"),
  ("lit", "goto"),
  ("lit", "exit"),
  ("lit", "if"),
  ("lit", "else"),
  ("lit", "print_i64"),
  ("lit", "println_i64"),
  ("lit", "let"),
  ("lit", "case"),
  ("lit", "new"),
  ("lit", "def"),
  ("lit", "data"),
  ("lit", "codata"),
  ("lit", "i64"),
  ("skip", "\\s*"),
  ("skip", "//(([^ \\n\\r]| [^\\|\\n\\r])[^\\n\\r]*)?[\\n\\r]*")
]

/-- the lexer model was written against exactly the token table that is in the source now -/
theorem C18_token_table_current : lexerTokensSrc = lexerTokensModelled := rfl

/-- the source has the repaired literal action -/
theorem C18_literal_mode_current : literalModeSrc = .diagOnOverflow := rfl

/-- C18, parser clause, for the code as it is now: no input text makes the parser model panic. -/
theorem C18_parse_current : C18_parse_statement literalModeSrc := by
  rw [C18_literal_mode_current]
  exact C18_parse_statement_fixed

end Scc.Props

#print axioms Scc.Props.C18_token_table_current
#print axioms Scc.Props.C18_literal_mode_current
#print axioms Scc.Props.C18_parse_current
