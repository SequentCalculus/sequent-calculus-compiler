/-
  Scc.Props.C09X86Mon — property C09 in terms of the executable heap monitor of the x86-64 machine model, for
  all programs (data types and closures) and every amount of machine fuel: "the run of the machine with the heap
  monitor on never ends in a report `inv:` of the monitor".  The statement without side hypotheses is
  `C09_x86_monitor_statement` (Props/C09X86.lean, a `def : Prop`, not proved); here it is proved under the
  hypotheses listed below.

  The idea.  The monitor looks at a state only if the program counter is at a `#ctx` comment.  At a statement
  boundary it passes (`C09_x86_monitor_boundary_all`, Props/C09X86All.lean).  Every other state of a run — those
  strictly between two statement boundaries, those of the header of the routine, the state the `jmp reg` of an
  `invoke` lands on, the last state (at `ret`) — is not at a `#ctx` comment: the step lemmas of the eleven
  statement forms, of the header and of `exit` export the program counters of the states in between (`Ref.Mid`,
  Scc/X86/ConcKMid.lean; `Ref.K.step3M`, Scc/X86/RefClosHRun.lean), and the blocks of the generated code contain
  no `#ctx` comment besides the hook itself (Scc/X86/ConcKNoCtx.lean).  `ConcK.monTrack` (Scc/X86/ConcKMRun.lean)
  carries `PassUpto` (the monitor returns `.ok` at every state visited) along runs that terminate and runs that
  are still going; `ConcK.programs_monitor_size` (Scc/X86/ConcKMon.lean) composes this with the run loop
  (`runLoop_no_invFail`: `step` itself never produces `inv:`).

  * `C09_x86_monitor_never_fires`   `(runItems items args fuel' cfg).res ≠ .invFail what ln` for every monitor
        configuration (`cfg.heap = true` included), under the hypotheses of `C06_programs_text` (label-safe, linearly
        typed, `C06_x86Checks`, compiled WITH HOOKS) and: the positional machine never stuck; at most `D` fields of
        object and closure data held by the variables; a heap of `64·(D + progMaxAlloc p + 2)` bytes; fuel below
        `2^64 / (progMaxSize p + 1)`; names of `op` targets and `call` labels not starting with `#` (`K.AllHF`);
        items that carry the routine with its comment texts (`items.map (·.1) = routine`; `parseText ∘ printProg`
        is only proved to give them back up to the comment texts); and TWO HYPOTHESES ABOUT THE RUN:
        - `ConcK.WindowOK (D + 1)`: `frontier + 64 ≤ heapBase + maxHeapWritten + 512` at the boundaries, a fact
          about the write history;
        - `ConcK.HooksParse`: the kinds the monitor's parser reads from the hook at the program counter are those
          of the positional state's context.  It holds when the names of the variables of the generator's context
          have no blanks (`C09_parseCtx_hook`), but neither the relation `Ref.K.Rel3` nor the closure invariant `XV`
          tracks names, only `Ctx.keys`.  The stronger hypothesis `hparse` of `C09_x86_monitor_boundary_all`
          ("for EVERY context Γ whose hook comment is in the routine the parser reads `ctxKinds Γ`") is not
          satisfiable for a routine with a hook of two variables: the hook `#ctx [x_1:ext f_2:cns]` is also the
          hook of the one-variable context `["x_1:ext f"_2 : cns]`, whose kinds are `[true]`, not `[false, true]`.
        `C09_x86_monitor_never_fires_text`: the same on the printed text.
  * `C09_x86_monitor_never_fires_small`   `D ≤ 6` discharges the window hypothesis (at most 7 blocks below the
        frontier: the frontier block is always inside the window).
  * `C09_x86_monitor_never_fires_closed`  `D ≤ 6` and no hook of the routine lists more than one variable
        (`ConcK.hooksOneVar routine = true`, decidable): no hypothesis about the run is left.
  * `C09_hooksOneVar_routine`   `ConcK.hooksOneVar routine = true` from the PROGRAM: the comments inside the code
        of the backend methods and of the wrapper are never hooks (`Ref.Plain`), so the check on the routine follows
        from the check on the texts the generic generator builds for the program (`Calls.ProgOK` over
        `C09_hookFacts`, through the walk of Backend/ProofsCalls.lean).
  * `C09_thunkLoop_monitor_never_fires`   NON-VACUITY: a loop that creates a closure, invokes it through `jmp reg`,
        frees its environment and calls itself, forever — with the heap monitor ON, for every fuel below 2^61 the
        machine does not end in a report of the heap monitor.
-/
import Scc.Props.C09X86All
import Scc.X86.ConcKMon

namespace Scc.X86
open Scc.AxCut Scc.Backend Scc.X86.Ref
open Scc.Props.C06Generic (Reachable CodeFits)
open Scc.Props.C14Generic (LabelSafe)
open Scc.X86.Ref.K (AllocLe progMaxAlloc allocLe_progMaxAlloc)
open Scc.X86.Conc (ctxKinds valsFields stmtSize progMaxSize stmtSize_le_progMaxSize)

/-- THE HEAP MONITOR NEVER REPORTS, all programs, every amount of machine fuel, under the two hypotheses about the
run (`HooksParse`: the hook at the program counter parses; `WindowOK`: the frontier lies inside the monitor's
window). -/
theorem C09_x86_monitor_never_fires (p : AxCut.Prog) (args : List Word) (body routine : List Code)
    (nargs : Nat) (d0 : Def)
    (hsafe : LabelSafe p = true) (htp : LinTypedProg p) (hchk : C06_x86Checks p = true)
    (hcompX : compileX86 p true 0 = .ok (body, nargs)) (hrout : intoRoutine body nargs = .ok routine)
    (hd : p.defs.head? = some d0) (hargs : args.length = nargs)
    (hnostuck : ∀ fuel w, (Pos.run p args fuel).res ≠ .stuck w)
    (hHF : ∀ d ∈ p.defs, Ref.K.AllHF d.body)
    (D : Nat) (hD : ∀ st, Reachable p ⟨d0.ctx, args.map .int, d0.body⟩ st → valsFields st.env ≤ D)
    (cfg : MonCfg) (MO : MachOK cfg.mach) (hk : cfg.consts = consts)
    (hb8 : cfg.mach.heapBase % 8 = 0) (hb0 : 0 < cfg.mach.heapBase)
    (hbytes : 64 * (D + progMaxAlloc p + 2) ≤ cfg.mach.heapBytes)
    (hfitX : addrAt cfg.mach.codeBase routine routine.length < 2 ^ 64)
    (fuel' : Nat) (hf : fuel' * (progMaxSize p + 1) + stmtSize d0.body + 1 < 2 ^ 64)
    (items : List (Code × Nat)) (hitems : items.map (·.1) = routine)
    (hHook : ∀ ops, ConcK.HooksParse p routine ops cfg items args ⟨d0.ctx, args.map .int, d0.body⟩)
    (hWin : ∀ ops, ConcK.WindowOK p routine ops cfg items args (D + 1)) :
    ∀ what ln, (runItems items args fuel' cfg).res ≠ .invFail what ln := by
  obtain ⟨ops, c', items0, S⟩ := C06_setup_of_checks p args true body routine nargs d0 hsafe htp hchk hcompX hrout hd
  exact ConcK.programs_monitor_size p args body routine nargs d0 ops c' hsafe htp S.progOK S.compM S.fit
    hcompX hrout S.nd hd S.entry (by rw [← S.nargs, hargs]) S.cap hnostuck hHF D hD cfg MO hk hb8 hb0
    (progMaxAlloc p) (progMaxSize p) (allocLe_progMaxAlloc p) (stmtSize_le_progMaxSize p) hbytes items hitems
    hfitX fuel' hf (hHook ops) (hWin ops)

/-- `C09_x86_monitor_never_fires` on the printed text of the routine, if the machine's parser gives the routine
back with its comment texts -/
theorem C09_x86_monitor_never_fires_text (p : AxCut.Prog) (args : List Word) (body routine : List Code)
    (nargs : Nat) (d0 : Def)
    (hsafe : LabelSafe p = true) (htp : LinTypedProg p) (hchk : C06_x86Checks p = true)
    (hcompX : compileX86 p true 0 = .ok (body, nargs)) (hrout : intoRoutine body nargs = .ok routine)
    (hd : p.defs.head? = some d0) (hargs : args.length = nargs)
    (hnostuck : ∀ fuel w, (Pos.run p args fuel).res ≠ .stuck w)
    (hHF : ∀ d ∈ p.defs, Ref.K.AllHF d.body)
    (D : Nat) (hD : ∀ st, Reachable p ⟨d0.ctx, args.map .int, d0.body⟩ st → valsFields st.env ≤ D)
    (cfg : MonCfg) (MO : MachOK cfg.mach) (hk : cfg.consts = consts)
    (hb8 : cfg.mach.heapBase % 8 = 0) (hb0 : 0 < cfg.mach.heapBase)
    (hbytes : 64 * (D + progMaxAlloc p + 2) ≤ cfg.mach.heapBytes)
    (hfitX : addrAt cfg.mach.codeBase routine routine.length < 2 ^ 64)
    (fuel' : Nat) (hf : fuel' * (progMaxSize p + 1) + stmtSize d0.body + 1 < 2 ^ 64)
    (items : List (Code × Nat)) (hparse : parseText (printProg routine) = .ok items)
    (hitems : items.map (·.1) = routine)
    (hHook : ∀ ops, ConcK.HooksParse p routine ops cfg items args ⟨d0.ctx, args.map .int, d0.body⟩)
    (hWin : ∀ ops, ConcK.WindowOK p routine ops cfg items args (D + 1)) :
    ∀ what ln, (run (printProg routine) args fuel' cfg).res ≠ .invFail what ln := by
  rw [run_eq_runItems hparse]
  exact C09_x86_monitor_never_fires p args body routine nargs d0 hsafe htp hchk hcompX hrout hd hargs hnostuck hHF D
    hD cfg MO hk hb8 hb0 hbytes hfitX fuel' hf items hitems hHook hWin

/-- SMALL HEAPS: if the variables never hold more than `D ≤ 6` fields of object and closure data, the window
hypothesis is discharged — only the hypothesis that the hooks parse is left. -/
theorem C09_x86_monitor_never_fires_small (p : AxCut.Prog) (args : List Word) (body routine : List Code)
    (nargs : Nat) (d0 : Def)
    (hsafe : LabelSafe p = true) (htp : LinTypedProg p) (hchk : C06_x86Checks p = true)
    (hcompX : compileX86 p true 0 = .ok (body, nargs)) (hrout : intoRoutine body nargs = .ok routine)
    (hd : p.defs.head? = some d0) (hargs : args.length = nargs)
    (hnostuck : ∀ fuel w, (Pos.run p args fuel).res ≠ .stuck w)
    (hHF : ∀ d ∈ p.defs, Ref.K.AllHF d.body)
    (D : Nat) (hD6 : D ≤ 6)
    (hD : ∀ st, Reachable p ⟨d0.ctx, args.map .int, d0.body⟩ st → valsFields st.env ≤ D)
    (cfg : MonCfg) (MO : MachOK cfg.mach) (hk : cfg.consts = consts)
    (hb8 : cfg.mach.heapBase % 8 = 0) (hb0 : 0 < cfg.mach.heapBase)
    (hbytes : 64 * (D + progMaxAlloc p + 2) ≤ cfg.mach.heapBytes)
    (hfitX : addrAt cfg.mach.codeBase routine routine.length < 2 ^ 64)
    (fuel' : Nat) (hf : fuel' * (progMaxSize p + 1) + stmtSize d0.body + 1 < 2 ^ 64)
    (items : List (Code × Nat)) (hitems : items.map (·.1) = routine)
    (hHook : ∀ ops, ConcK.HooksParse p routine ops cfg items args ⟨d0.ctx, args.map .int, d0.body⟩) :
    ∀ what ln, (runItems items args fuel' cfg).res ≠ .invFail what ln :=
  C09_x86_monitor_never_fires p args body routine nargs d0 hsafe htp hchk hcompX hrout hd hargs hnostuck hHF D
    hD cfg MO hk hb8 hb0 hbytes hfitX fuel' hf items hitems hHook
    (fun ops => ConcK.windowOK_small p routine ops cfg items args (by omega))

/-- NO HYPOTHESIS ABOUT THE RUN: small heaps (`D ≤ 6`) and hooks that list at most one variable (a decidable
condition on the routine). -/
theorem C09_x86_monitor_never_fires_closed (p : AxCut.Prog) (args : List Word) (body routine : List Code)
    (nargs : Nat) (d0 : Def)
    (hsafe : LabelSafe p = true) (htp : LinTypedProg p) (hchk : C06_x86Checks p = true)
    (hcompX : compileX86 p true 0 = .ok (body, nargs)) (hrout : intoRoutine body nargs = .ok routine)
    (hd : p.defs.head? = some d0) (hargs : args.length = nargs)
    (hnostuck : ∀ fuel w, (Pos.run p args fuel).res ≠ .stuck w)
    (hHF : ∀ d ∈ p.defs, Ref.K.AllHF d.body)
    (hone : ConcK.hooksOneVar routine = true)
    (D : Nat) (hD6 : D ≤ 6)
    (hD : ∀ st, Reachable p ⟨d0.ctx, args.map .int, d0.body⟩ st → valsFields st.env ≤ D)
    (cfg : MonCfg) (MO : MachOK cfg.mach) (hk : cfg.consts = consts)
    (hb8 : cfg.mach.heapBase % 8 = 0) (hb0 : 0 < cfg.mach.heapBase)
    (hbytes : 64 * (D + progMaxAlloc p + 2) ≤ cfg.mach.heapBytes)
    (hfitX : addrAt cfg.mach.codeBase routine routine.length < 2 ^ 64)
    (fuel' : Nat) (hf : fuel' * (progMaxSize p + 1) + stmtSize d0.body + 1 < 2 ^ 64)
    (items : List (Code × Nat)) (hitems : items.map (·.1) = routine) :
    ∀ what ln, (runItems items args fuel' cfg).res ≠ .invFail what ln :=
  C09_x86_monitor_never_fires_small p args body routine nargs d0 hsafe htp hchk hcompX hrout hd hargs hnostuck hHF D
    hD6 hD cfg MO hk hb8 hb0 hbytes hfitX fuel' hf items hitems
    (fun _ => ConcK.hooksParse_of_hparse (ConcK.hparse_of_oneVar hone))

/-! ## the hooks of a routine, from the program

`ConcK.hooksOneVar` looks at every comment of the routine.  The comments inside the code of the backend methods
and of the routine wrapper do not start with `#c` (`Ref.Plain`); the comments the generic generator asks for are
those of the statements and the hooks of the contexts it reaches (`Calls.ArgsOK`): the check on the routine
follows from the check on these texts. -/

/-- what `ConcK.hooksOneVar` asks of the text of a comment -/
def C09_hookText (m : String) : Prop :=
  (!(m.toList.take 6 == "#ctx [".toList) || !((m.toList.drop 6).contains ' ')) = true

instance (m : String) : Decidable (C09_hookText m) := by unfold C09_hookText; infer_instance

theorem C09_hooksOneVar_append (a b : List Code) :
    ConcK.hooksOneVar (a ++ b) = (ConcK.hooksOneVar a && ConcK.hooksOneVar b) := by
  unfold ConcK.hooksOneVar; rw [List.all_append]

theorem C09_hookText_of_plain {m : String} (h : PlainItem (.COMMENT m)) : C09_hookText m := by
  unfold C09_hookText
  rw [Bool.or_eq_true, Bool.not_eq_true']
  left
  rw [beq_eq_false_iff_ne]
  intro e
  have hl : m.toList = '#' :: 'c' :: (m.toList.drop 2) := by
    have e6 := ctxPrefix_toList ▸ e
    cases hm : m.toList with
    | nil => rw [hm] at e6; cases e6
    | cons x xs =>
      cases xs with
      | nil => rw [hm] at e6; cases e6
      | cons y ys =>
        rw [hm] at e6
        simp only [List.take_succ_cons, List.cons.injEq] at e6
        rw [e6.1, e6.2.1]; rfl
  rcases h m rfl with h | h
  · rw [hl] at h; exact h rfl
  · rw [hl] at h; exact h rfl

theorem C09_hooksOneVar_of_plain {l : List Code} (h : Plain l) : ConcK.hooksOneVar l = true := by
  unfold ConcK.hooksOneVar
  rw [List.all_eq_true]
  intro c hc
  cases c with
  | COMMENT m => exact C09_hookText_of_plain (h.all _ hc)
  | _ => rfl

open Scc.Backend.Calls in
/-- the comments of the generator satisfy the check; nothing is asked of the other arguments -/
def C09_hookFacts (T : Type) : Facts T := { COK := C09_hookText }

theorem C09_hookText_lit (l : List Char) (h : l.head? ≠ some '#' ∨ l[1]? ≠ some 'c') :
    C09_hookText (String.ofList l) := C09_hookText_of_plain (plainItem_lit l h)

open Scc.Backend.Calls in
theorem C09_hookFixed (T : Type) : Fixed (C09_hookFacts T) where
  moves := C09_hookText_lit _ (by decide)
  loadTag := C09_hookText_lit _ (by decide)
  fall := C09_hookText_lit _ (by decide)
  direct := C09_hookText_lit _ (by decide)
  elseB := C09_hookText_lit _ (by decide)
  thenB := C09_hookText_lit _ (by decide)

open Scc.Backend.Calls in
/-- every call of the generator returns code whose comments pass the check -/
theorem C09_hooks_call : ∀ c, Good x86Backend (C09_hookFacts Temporary) c →
    X86.Post (c.run x86Backend) (fun l => ConcK.hooksOneVar l = true)
  | .comment m, h => Post.pure (by
      show ConcK.hooksOneVar [Code.COMMENT m] = true
      simp only [ConcK.hooksOneVar, List.all_cons, List.all_nil, Bool.and_true]; exact h)
  | .label l, _ => Post.pure rfl
  | .table l cs, _ => Post.pure (by
      show ConcK.hooksOneVar (Code.LAB l :: codeTable x86Backend cs l) = true
      refine C09_hooksOneVar_of_plain (Plain.cons (plainItem_of_noComment rfl) ⟨fun c hc => ?_⟩)
      obtain ⟨ls, e⟩ := codeTable_jmplns cs l
      rw [e] at hc
      obtain ⟨x, _, rfl⟩ := List.mem_map.1 hc
      exact plainItem_of_noComment rfl)
  | .jump t, _ => Post.pure (C09_hooksOneVar_of_plain (pl_jump t))
  | .jumpLabel l, _ => Post.pure rfl
  | .jumpLabelIf s a b l, _ => Post.pure (C09_hooksOneVar_of_plain (pl_jumpLabelIf s a b l))
  | .jumpLabelIfZero s a l, _ => Post.pure (C09_hooksOneVar_of_plain (pl_jumpLabelIfZero s a l))
  | .loadImmediate t n, _ => Post.pure (C09_hooksOneVar_of_plain (pl_loadImmediate t n))
  | .loadLabel t l, _ => Post.pure (C09_hooksOneVar_of_plain (pl_loadLabel t l))
  | .addAndJump t n, _ => Post.pure (C09_hooksOneVar_of_plain (pl_addAndJump t n))
  | .binop o t s1 s2, _ => Post.pure (C09_hooksOneVar_of_plain (pl_binop o t s1 s2))
  | .mov t s, _ => Post.pure (C09_hooksOneVar_of_plain (pl_mov t s))
  | .printI64 nl t ctx, _ => Post.pure (C09_hooksOneVar_of_plain (pl_printI64 nl t ctx))
  | .eraseBlock t, _ => fun _ _ _ h => C09_hooksOneVar_of_plain (Mem.blk_eraseBlock t h).plain
  | .shareBlockN t n, _ => fun _ _ _ h => C09_hooksOneVar_of_plain (Mem.blk_shareBlockN t n h).plain
  | .store a b, _ => fun _ _ _ h => C09_hooksOneVar_of_plain (Mem.blk_store a b h).plain
  | .load a b, _ => fun _ _ _ h => C09_hooksOneVar_of_plain (Mem.blk_load a b h).plain
  | .storeTemporary t sp, _ => Post.pure (C09_hooksOneVar_of_plain (pl_storeTemporary t sp))
  | .restoreTemporary t sp, _ => Post.pure (C09_hooksOneVar_of_plain (pl_restoreTemporary t sp))

open Scc.Backend.Calls in
/-- THE HOOKS OF A ROUTINE FROM THE PROGRAM: if the texts the generator builds for the program (`ProgOK`: the
comments of its statements, the hooks of the contexts it reaches) pass the check of `ConcK.hooksOneVar`, the
whole routine does -/
theorem C09_hooksOneVar_routine {p : AxCut.Prog} {body routine : List Code} {nargs : Nat}
    (hA : ProgOK (C09_hookFacts Temporary) true natRen p)
    (hcomp : compileX86 p true 0 = .ok (body, nargs)) (hrout : intoRoutine body nargs = .ok routine) :
    ConcK.hooksOneVar routine = true := by
  have hbody : ConcK.hooksOneVar body = true := by
    unfold compileX86 at hcomp
    split at hcomp
    · cases hcomp
    · rename_i r c' hr
      cases hcomp
      exact (emitted_compileR ⟨trivial, trivial, fun _ _ _ => Post.true _, fun _ _ => Post.true _⟩ (C09_hookFixed _) true natRen p
        hA 0 _ c' hr).lift (Q := fun l => ConcK.hooksOneVar l = true) rfl
        (fun ha hb => by rw [C09_hooksOneVar_append, ha, hb]; rfl) C09_hooks_call
  unfold intoRoutine at hrout
  split at hrout
  · cases hrout
  · rename_i su hsu
    cases hrout
    have hsetup : Plain su := by
      unfold setup at hsu
      split at hsu
      · cases hsu
      · rename_i moves hm
        cases hsu
        refine Plain.append (Plain.append (Plain.append ?_ (pl_map_noComment _ (fun _ => rfl) _)) ?_)
          (K.plain_moveArguments _ hm)
        · plain_items
        · plain_items
    have hclean : Plain cleanup := by
      unfold cleanup
      refine Plain.append (Plain.append ?_ (pl_map_noComment _ (fun _ => rfl) _)) ?_
      · plain_items
      · plain_items
    rw [C09_hooksOneVar_append, C09_hooksOneVar_append, C09_hooksOneVar_append, C09_hooksOneVar_append,
      C09_hooksOneVar_append, hbody, C09_hooksOneVar_of_plain hsetup, C09_hooksOneVar_of_plain hclean]
    decide

def C09_tThunk : Ty := .decl ⟨"Thunk", 0⟩
def C09_thunkDecl : TypeDecl := { name := ⟨"Thunk", 0⟩, xtors := [⟨⟨"Force", 0⟩, []⟩] }

/-- main(x) { create t : Thunk = (x){ Force() => main(x) }; invoke t Force() } -/
def C09_thunkMain : Def :=
  { name := ⟨"main", 0⟩, ctx := [⟨⟨"x", 1⟩, .ext, .i64⟩],
    body := .create ⟨"t", 2⟩ C09_tThunk (some [⟨⟨"x", 1⟩, .ext, .i64⟩])
      (.cons ⟨"Force", 0⟩ [] (.call ⟨"main", 0⟩ [⟨⟨"x", 1⟩, .ext, .i64⟩]) .nil)
      (.invoke ⟨"t", 2⟩ ⟨"Force", 0⟩ C09_tThunk []) none none }

def C09_thunkProg : AxCut.Prog := { defs := [C09_thunkMain], types := [C09_thunkDecl], maxId := 204 }

def C09_thunkBody : List Code :=
  match compileX86 C09_thunkProg true 0 with
  | .ok (body, _) => body
  | .error _ => []

def C09_thunkRoutine : List Code :=
  match intoRoutine C09_thunkBody 1 with
  | .ok r => r
  | .error _ => []

def C09_thunkClo : Pos.Value :=
  .clo [⟨⟨"x", 1⟩, .ext, .i64⟩] [.int 5] (.cons ⟨"Force", 0⟩ [] (.call ⟨"main", 0⟩ [⟨⟨"x", 1⟩, .ext, .i64⟩]) .nil)

/-- the loop started with x = 5 goes through `C09_thunkS0`, `C09_thunkS1`, `C09_thunkS2` and is back at
`C09_thunkS0` -/
def C09_thunkS0 : Pos.State := ⟨C09_thunkMain.ctx, [.int 5], C09_thunkMain.body⟩
def C09_thunkS1 : Pos.State :=
  ⟨[⟨⟨"t", 2⟩, .cns, C09_tThunk⟩], [C09_thunkClo], .invoke ⟨"t", 2⟩ ⟨"Force", 0⟩ C09_tThunk []⟩
def C09_thunkS2 : Pos.State :=
  ⟨[⟨⟨"x", 1⟩, .ext, .i64⟩], [.int 5], .call ⟨"main", 0⟩ [⟨⟨"x", 1⟩, .ext, .i64⟩]⟩

theorem C09_thunk_step0 : Pos.step C09_thunkProg C09_thunkS0 = .next C09_thunkS1 none := by rfl
theorem C09_thunk_step1 : Pos.step C09_thunkProg C09_thunkS1 = .next C09_thunkS2 none := by rfl
theorem C09_thunk_step2 : Pos.step C09_thunkProg C09_thunkS2 = .next C09_thunkS0 none := by rfl

theorem C09_thunk_reachable (st : Pos.State) (h : Reachable C09_thunkProg C09_thunkS0 st) :
    st = C09_thunkS0 ∨ st = C09_thunkS1 ∨ st = C09_thunkS2 := by
  induction h with
  | refl => exact Or.inl rfl
  | step _ hs ih =>
    rcases ih with rfl | rfl | rfl
    · rw [C09_thunk_step0] at hs; injection hs with e; exact Or.inr (Or.inl e.symm)
    · rw [C09_thunk_step1] at hs; injection hs with e; exact Or.inr (Or.inr e.symm)
    · rw [C09_thunk_step2] at hs; injection hs with e; exact Or.inl e.symm

theorem C09_thunk_runs : ∀ (fuel : Nat) (acc : List (Bool × Word)),
    (Pos.runState C09_thunkProg fuel C09_thunkS0 acc).res = .outOfFuel ∧
    (Pos.runState C09_thunkProg fuel C09_thunkS1 acc).res = .outOfFuel ∧
    (Pos.runState C09_thunkProg fuel C09_thunkS2 acc).res = .outOfFuel
  | 0, acc => ⟨rfl, rfl, rfl⟩
  | fuel + 1, acc => by
    obtain ⟨h0, h1, h2⟩ := C09_thunk_runs fuel acc
    refine ⟨?_, ?_, ?_⟩
    · simp only [Pos.runState, C09_thunk_step0]; exact h1
    · simp only [Pos.runState, C09_thunk_step1]; exact h2
    · simp only [Pos.runState, C09_thunk_step2]; exact h0

theorem C09_thunk_nostuck (fuel : Nat) (w : Pos.Why) : (Pos.run C09_thunkProg [5] fuel).res ≠ .stuck w := by
  intro h
  have hrs : Pos.run C09_thunkProg [5] fuel = Pos.runState C09_thunkProg fuel C09_thunkS0 [] :=
    Conc.run_eq_runState (p := C09_thunkProg) (d0 := C09_thunkMain) rfl rfl fuel
  rw [hrs, (C09_thunk_runs fuel []).1] at h
  cases h

theorem C09_thunk_size (st : Pos.State) (h : Reachable C09_thunkProg C09_thunkS0 st) : valsFields st.env ≤ 1 := by
  rcases C09_thunk_reachable st h with rfl | rfl | rfl <;> decide

set_option maxRecDepth 100000 in
theorem C09_thunkProg_checks : C06_x86Checks C09_thunkProg = true := by decide +kernel

/-- the code generator on this program, evaluated once -/
theorem C09_thunkProg_compiles : compileX86 C09_thunkProg true 0 = .ok (C09_thunkBody, 1) ∧
    intoRoutine C09_thunkBody 1 = .ok C09_thunkRoutine := ⟨rfl, rfl⟩

theorem C09_thunkProg_typed : LinTypedProg C09_thunkProg := linTypedCheck_sound C09_thunkProg rfl

theorem C09_thunkRoutine_fits :
    addrAt ({} : MachCfg).codeBase C09_thunkRoutine C09_thunkRoutine.length < 2 ^ 64 :=
  routine_fits C09_thunkProg_typed C09_thunkProg_compiles.1 C09_thunkProg_compiles.2 _ (by decide)

theorem C09_thunk_consts : progMaxAlloc C09_thunkProg = 1 ∧ progMaxSize C09_thunkProg = 4 ∧
    stmtSize C09_thunkMain.body = 4 := by decide

open Scc.Backend.Calls in
/-- the texts the generator builds for the loop pass the check: the hooks are those of `[x_1]`, `[t_2]`, `[x_1]` -/
theorem C09_thunk_texts (T : Type) : ProgOK (C09_hookFacts T) true natRen C09_thunkProg := by
  refine ⟨fun _ _ _ _ => trivial, fun d hd => ?_⟩
  simp only [C09_thunkProg, List.mem_singleton] at hd
  subst hd
  refine ⟨trivial, ?_⟩
  simp only [C09_thunkMain, ArgsOK, MethodsOK, HookOK, C09_hookFacts, and_true, true_and, forall_const]
  decide +kernel

theorem C09_thunk_hooksOneVar : ConcK.hooksOneVar C09_thunkRoutine = true :=
  C09_hooksOneVar_routine (C09_thunk_texts _) C09_thunkProg_compiles.1 C09_thunkProg_compiles.2

theorem C09_thunk_allHF : ∀ d ∈ C09_thunkProg.defs, Ref.K.AllHF d.body := by
  intro d hd
  simp only [C09_thunkProg, List.mem_singleton] at hd
  subst hd
  simp [C09_thunkMain, Ref.K.AllHF, Ref.K.ClausesHF, Ref.HashFree]

/-- THE HEAP MONITOR NEVER REPORTS ON THE THUNK LOOP: the machine WITH THE HEAP MONITOR ON, on the items of the
routine of the loop (hooks on), started with x = 5: for EVERY fuel below 2^61 the run does not end in a report of
the heap monitor — the program does not terminate: it allocates the environment of a closure, invokes the closure
through `jmp reg` (landing behind the `#ctx` hook of the method), frees the environment and calls itself, forever;
the monitor runs `heapCheck` at the three statement boundaries of every iteration. -/
theorem C09_thunkLoop_monitor_never_fires (fuel' : Nat) (hf : fuel' < 2 ^ 61) (what : String) (ln : Nat) :
    (runItems (C09_thunkRoutine.map fun c => (c, 0)) [5] fuel' { heap := true }).res ≠ .invFail what ln := by
  obtain ⟨e1, e2, e3⟩ := C09_thunk_consts
  exact C09_x86_monitor_never_fires_closed C09_thunkProg [5] C09_thunkBody C09_thunkRoutine 1 C09_thunkMain
    (by decide) C09_thunkProg_typed C09_thunkProg_checks C09_thunkProg_compiles.1 C09_thunkProg_compiles.2 rfl rfl
    C09_thunk_nostuck C09_thunk_allHF C09_thunk_hooksOneVar 1 (by decide) C09_thunk_size
    { heap := true } machOK_default rfl (by decide) (by decide) (by rw [e1]; decide) C09_thunkRoutine_fits
    fuel' (by rw [e2, e3]; omega) _ (by simp [Function.comp_def]) what ln

end Scc.X86

#print axioms Scc.X86.C09_x86_monitor_never_fires
#print axioms Scc.X86.C09_x86_monitor_never_fires_text
#print axioms Scc.X86.C09_x86_monitor_never_fires_small
#print axioms Scc.X86.C09_x86_monitor_never_fires_closed
#print axioms Scc.X86.C09_thunkLoop_monitor_never_fires

#print axioms Scc.X86.C09_thunk_step0
#print axioms Scc.X86.C09_thunk_step1
#print axioms Scc.X86.C09_thunk_step2
#print axioms Scc.X86.C09_thunk_reachable
#print axioms Scc.X86.C09_thunk_runs
#print axioms Scc.X86.C09_thunk_nostuck
#print axioms Scc.X86.C09_thunk_size
#print axioms Scc.X86.C09_thunkProg_checks
#print axioms Scc.X86.C09_thunkRoutine_fits
#print axioms Scc.X86.C09_thunk_consts
#print axioms Scc.X86.C09_thunk_hooksOneVar
#print axioms Scc.X86.C09_thunk_allHF
