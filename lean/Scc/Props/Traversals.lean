/-
  Scc.Props.Traversals — the hand-written Lean models visit exactly the fields the current sources visit.

  `Scc/Generated/Traversals.lean` is rewritten by the translator (checks/regen.py, generator `traversals`) from
  the Rust text of /repo on every run: for every implementation of a per-node traversal trait
  (UsedBinders on Fun; Uniquify / Subst / Bind / Focusing on Core; FreeVars / Subst / Linearizing on AxCut) the
  statements of the body, in source order, as rows (condition, how, field of `self`, argument), plus
  fresh_identifier.

  Technique: for each (trait, node) a SAMPLE node is built whose fields carry pairwise distinct markers (binders /
  variables / ids named after the Rust field), the MODEL's function is run on it, the markers that were
  affected are read off the result, and that observation is equated with the generated rows (`by decide +kernel`: kernel
  evaluation, no test input).  A field dropped from / added to a body in /repo changes the generated rows and
  the theorem stops compiling; a body whose shape the extractor does not recognise makes the extractor fail.
   * UsedBinders: marker = a `let` binding the field's name; observation = the names collected.
   * Uniquify: marker = a μ-binder with id 0; observation = the binders that got a fresh id, in the order of ids.
   * Subst (Core, AxCut): marker = a variable; observation = the fields in which it was replaced.
   * Bind / Focusing: the operands are the literals 1 and 2; observation = the order in which they are bound and
     which binding each operand of the focused node receives.
   * FreeVars: the generated rows are EXECUTED by a small interpreter (`Fv.run`) on the sample's values and the
     result (set and annotations) is equated with the model's.
   * Linearizing: the clash set passed to `freshen` and the composition of the context compared against are
     interpreted on a sample with a duplicated variable (`invoke x m(x)`, `call f(x, x)`, …).
  The bodies that treat binders (Mu, Clause, XVar of Core) and the contexts passed to the recursive calls of
  `linearize` are irregular; they are compared statement by statement next to the model observation they justify.
-/
import Scc.Generated.Traversals
import Scc.Fun2Core.Model
import Scc.Core.Focus
import Scc.AxCut.Linearize

namespace Scc.Traversals
open Scc.Generated

def row (t : List (String × List Visit)) (n : String) : List Visit := (t.lookup n).getD []
def fields (vs : List Visit) : List String := vs.map (·.field)
def hows (vs : List Visit) : List (String × String) := vs.map fun v => (v.how, v.field)
def sameSet (a b : List String) : Bool := a.all (b.contains ·) && b.all (a.contains ·)
/-- the rows are unconditional visits by the method `m` -/
def plain (m : String) (vs : List Visit) : Bool := vs.all fun v => v.cond == "" && v.how == "rec" && v.arg == m
def names (t : List (String × α)) : List String := t.map (·.1)
def delegated (t : List (String × String)) : List String := (t.filter (·.2 == "rec")).map (·.1)

/-! ## 1. Fun: UsedBinders (lang/fun/src/syntax/terms/*.rs ↔ Scc.Fun2Core.usedBinders) -/
namespace FunUB
open Scc.Fun Scc.Fun2Core

/-- a term that binds `n` and nothing else -/
def mT (n : String) : Term := .letIn n .i64 (.lit 0) (.lit 0) none
def args : Terms := .cons (mT "args.entries") .nil
def clauses : Clauses := .cons .data "K" [] [] (mT "clauses") .nil

def sample : String → Option Term
  | "Op" => some (.op (mT "fst") .sum (mT "snd"))
  | "IfC" => some (.ifc .eq (mT "fst") (mT "snd") (mT "thenc") (mT "elsec") none)
  | "PrintI64" => some (.print true (mT "arg") (mT "next") none)
  | "Let" => some (.letIn "variable" .i64 (mT "bound_term") (mT "in_term") none)
  | "Call" => some (.call "f" args none)
  | "Constructor" => some (.ctor "K" args none)
  | "Destructor" => some (.dtor (mT "scrutinee") "d" .nil args none)
  | "Case" => some (.case (mT "scrutinee") .nil clauses none)
  | "New" => some (.new clauses none)
  | "Goto" => some (.goto "a" (mT "term") none)
  | "Label" => some (.label "label" (mT "term") none)
  | "Exit" => some (.exit (mT "arg") none)
  | "Paren" => some (.paren (mT "inner"))
  | _ => none

/-- the model's `usedBinders` on the sample of node `n` collects exactly the fields of the generated row -/
def visits (n : String) : Bool :=
  match sample n with
  | none => false
  | some t => sameSet (usedBinders t []) (fields (row funUsedBinders n))

/-- how each field must be visited: the binder fields are inserted, everything else is recursed into -/
def howOf (f : String) : String :=
  if f == "variable" || f == "label" then "insert" else if f == "context_names.bindings" then "insert_each" else "rec"
def howsOk (n : String) : Bool :=
  (row funUsedBinders n).all fun v => v.cond == "" && v.how == howOf v.field && (v.how != "rec" || v.arg == "used_binders(used)")
end FunUB

namespace CoreT
open Scc.Core

/-! ## 2. Core: Uniquify, Subst, Bind / Focusing (lang/core_lang/src/syntax/** ↔ Scc.Core.{Uniquify,Focus}) -/

def k : Term := .var .cns ⟨"k", 7⟩ .i64
/-- a producer that binds the covariable `n` (id 0: to be uniquified) -/
def mT (n : String) : Term := .mu .prd ⟨n, 0⟩ .i64 (.exit (.lit 0) .i64)
def mS (n : String) : Stmt := .cut .i64 (mT n) k

mutual
  def bT : Term → List Ident
    | .var _ _ _ => [] | .lit _ => [] | .op a _ b => bT a ++ bT b
    | .mu _ v _ s => v :: bS s | .xtor _ _ as _ => bA as | .xcase _ _ cl => bC cl
  def bA : Args → List Ident
    | .nil => [] | .cons _ t r => bT t ++ bA r
  def bC : Clauses → List Ident
    | .nil => [] | .cons _ ctx b r => ctx.map (·.var) ++ bS b ++ bC r
  def bS : Stmt → List Ident
    | .cut _ p c => bT p ++ bT c | .ifc _ a b t e => bT a ++ bT b ++ bS t ++ bS e
    | .ifz _ a t e => bT a ++ bS t ++ bS e | .print _ a n => bT a ++ bS n
    | .call _ as _ => bA as | .exit a _ => bT a
end

/-- names of the binders that received the fresh ids 1, 2, …, in that order -/
def fresh (bs : List Ident) : List String :=
  ((List.range 8).filterMap fun i => bs.find? fun b => b.id == i + 1).map (·.name)

def uSample : String → Option (List Ident)
  | "Op" => some (bT (uniquifyTerm (.op (mT "fst") .sum (mT "snd")) 0).1)
  | "Xtor" => some (bT (uniquifyTerm (.xtor .prd ⟨"K", 0⟩ (.cons .prd (mT "args") .nil) .i64) 0).1)
  | "XCase" => some (bT (uniquifyTerm (.xcase .cns .i64 (.cons ⟨"K", 0⟩ [] (mS "clauses") .nil)) 0).1)
  | "Cut" => some (bS (uniquifyStmt (.cut .i64 (mT "producer") (.mu .cns ⟨"consumer", 0⟩ .i64 (.exit (.lit 0) .i64))) 0).1)
  | "IfC" => some (bS (uniquifyStmt (.ifc .eq (mT "fst") (mT "snd") (mS "thenc") (mS "elsec")) 0).1)
  | "PrintI64" => some (bS (uniquifyStmt (.print true (mT "arg") (mS "next")) 0).1)
  | "Call" => some (bS (uniquifyStmt (.call ⟨"f", 0⟩ (.cons .prd (mT "args") .nil) .i64) 0).1)
  | "Exit" => some (bS (uniquifyStmt (.exit (mT "arg") .i64) 0).1)
  | "Arguments" => some (bA (uniquifyArgs (.cons .prd (mT "entries") .nil) 0).1)
  | _ => none

/-- the model's `uniquify` on the sample of node `n` renames the binders of exactly the generated fields, in that order -/
def uVisits (n : String) : Bool :=
  (uSample n).map fresh == some (fields (row coreUniquify n)) && plain "uniquify(max_id)" (row coreUniquify n)

/-- `ifz` (Rust: `snd = None`, `Option::uniquify` maps over nothing): the same row without `snd` -/
def uIfz : List String :=
  fresh (bS (uniquifyStmt (.ifz .eq (mT "fst") (mS "thenc") (mS "elsec")) 0).1)

/-! ### Subst: a variable named after the field, replaced by the same name with id 1 -/

def v (n : String) : Term := .var .prd ⟨n, 0⟩ .i64
def vS (n : String) : Stmt := .exit (v n) .i64
def σ : Subst := ["fst", "snd", "thenc", "elsec", "args", "clauses", "producer", "consumer", "arg", "next", "entries", "statement", "body"].map
  fun n => (⟨n, 0⟩, .var .prd ⟨n, 1⟩ .i64)

mutual
  def vT : Term → List Ident
    | .var _ x _ => [x] | .lit _ => [] | .op a _ b => vT a ++ vT b
    | .mu _ _ _ s => vS' s | .xtor _ _ as _ => vA as | .xcase _ _ cl => vC cl
  def vA : Args → List Ident
    | .nil => [] | .cons _ t r => vT t ++ vA r
  def vC : Clauses → List Ident
    | .nil => [] | .cons _ _ b r => vS' b ++ vC r
  def vS' : Stmt → List Ident
    | .cut _ p c => vT p ++ vT c | .ifc _ a b t e => vT a ++ vT b ++ vS' t ++ vS' e
    | .ifz _ a t e => vT a ++ vS' t ++ vS' e | .print _ a n => vT a ++ vS' n
    | .call _ as _ => vA as | .exit a _ => vT a
end

def replaced (xs : List Ident) : List String := (xs.filter (·.id == 1)).map (·.name)

def sSample : String → Option (List Ident)
  | "Op" => some (vT (substTerm σ [] (.op (v "fst") .sum (v "snd"))))
  | "Xtor" => some (vT (substTerm σ [] (.xtor .prd ⟨"K", 0⟩ (.cons .prd (v "args") .nil) .i64)))
  | "XCase" => some (vT (substTerm σ [] (.xcase .cns .i64 (.cons ⟨"K", 0⟩ [] (vS "clauses") .nil))))
  | "Cut" => some (vS' (substStmt σ [] (.cut .i64 (v "producer") (.mu .cns ⟨"x", 0⟩ .i64 (vS "consumer")))))
  | "IfC" => some (vS' (substStmt σ [] (.ifc .eq (v "fst") (v "snd") (vS "thenc") (vS "elsec"))))
  | "PrintI64" => some (vS' (substStmt σ [] (.print true (v "arg") (vS "next"))))
  | "Call" => some (vS' (substStmt σ [] (.call ⟨"f", 0⟩ (.cons .prd (v "args") .nil) .i64)))
  | "Exit" => some (vS' (substStmt σ [] (.exit (v "arg") .i64)))
  | "Arguments" => some (vA (substArgs σ [] (.cons .prd (v "entries") .nil)))
  | _ => none

/-- the model's `subst_sim` on the sample of node `n` replaces the variable in exactly the generated fields -/
def sVisits (n : String) : Bool :=
  match sSample n with
  | none => false
  | some xs => sameSet (replaced xs) (fields (row coreSubst n)) && xs.all (·.id == 1)
      && plain "subst_sim(prod_subst, cons_subst)" (row coreSubst n)

/-! ### Bind / Focusing: the order in which the operands are bound -/

/-- the chain `⟨i | μ~x. …⟩` at the top of a focused statement: (literal bound, variable it is bound to) -/
def binds : FsStmt → List (Int × Ident)
  | .cut _ (.lit i) (.mu .cns x _ r) => (i, x) :: binds r
  | _ => []
/-- the focused node under the chain: its two operands -/
def operands : FsStmt → Option (Ident × Ident)
  | .cut _ (.lit _) (.mu .cns _ _ r) => operands r
  | .cut _ (.op a _ b) _ => some (a, b)
  | .ifc _ a (some b) _ _ => some (a, b)
  | _ => none
def fieldOfLit (i : Int) : String := if i == 1 then "fst" else if i == 2 then "snd" else "?"

def kExit : Cont := fun b n => (.exit b.var, n)
def bSample : String → Option FsStmt
  | "Bind/Op" => some (bindTerm (.op (.lit 1) .sum (.lit 2)) kExit 0).1
  | "Focusing/IfC" => some (focusStmt (.ifc .eq (.lit 1) (.lit 2) (.exit (.lit 0) .i64) (.exit (.lit 0) .i64)) 0).1
  | "Focusing/Cut(Op)" => some (focusStmt (.cut .i64 (.op (.lit 1) .sum (.lit 2)) k) 0).1
  | _ => none

/-- the operands are bound in the generated order (first = outermost = evaluated first) -/
def orderOk (n : String) : Bool :=
  match bSample n, coreBindOrder.lookup n with
  | some s, some o => (binds s).map (fun p => fieldOfLit p.1) == o.map (·.1)
  | _, _ => false

/-- operand `f` of the focused node receives the binding of the generated source field -/
def wiringOk (n : String) : Bool :=
  match bSample n, coreBindOrder.lookup n, coreBindWiring.lookup n with
  | some s, some o, some w =>
    match operands s with
    | none => false
    | some (a, b) =>
      let src (x : Ident) : Option String := ((binds s).find? (·.2 == x)).map fun p => fieldOfLit p.1
      let gen (f : String) : Option String := (w.lookup f).bind fun p => (o.find? (·.2 == p)).map (·.1)
      src a == gen "fst" && src b == gen "snd" && (src a).isSome && (src b).isSome
  | _, _, _ => false

end CoreT

namespace AxT
open Scc.AxCut

/-! ## 3. AxCut: FreeVars, Subst, Linearizing (lang/axcut/src/syntax/** ↔ Scc.AxCut.Linearize) -/

def canon (l : List Nat) : List Nat := (List.range 300).filter (l.contains ·)
def b (n : String) (i : Nat) : Binding := ⟨⟨n, i⟩, .prd, .i64⟩
def T : Ty := .decl ⟨"T", 0⟩

namespace Fv
/-- state of the interpreter of FreeVars rows: the sets by name, the annotations written so far -/
structure St where
  sets : List (String × List Nat)
  annots : List (String × List Nat)
def St.get (s : St) (n : String) : List Nat := (s.sets.lookup n).getD []
def St.put (s : St) (n : String) (x : List Nat) : St := { s with sets := (n, x) :: s.sets.filter (·.1 != n) }

/-- one row.  `val f` = ids of field `f` of the sample (for a sub-statement: its free variables; `f.new` = the ids bound by a rearrangement) -/
def step (val : String → Option (List Nat)) (s : St) (v : Visit) : Option St :=
  if v.cond != "" then none
  else if v.how == "newset" then some (s.put v.arg [])
  else if v.how == "union" then some (s.put v.arg (s.get v.arg ++ s.get v.field))
  else if v.how == "annot" then some { s with annots := s.annots ++ [(v.field, canon (s.get v.arg))] }
  else if v.how == "rec" || v.how == "add" || v.how == "add_opt" || v.how == "add_each" || v.how == "add_old" then
    (val v.field).map fun x => s.put v.arg (s.get v.arg ++ x)
  else if v.how == "remove" || v.how == "remove_each" then
    (val v.field).map fun x => s.put v.arg ((s.get v.arg).filter (!x.contains ·))
  else if v.how == "remove_new" then
    (val (v.field ++ ".new")).map fun x => s.put v.arg ((s.get v.arg).filter (!x.contains ·))
  else none

def run (val : String → Option (List Nat)) (vs : List Visit) : Option (List Nat × List (String × List Nat)) :=
  (vs.foldl (fun s v => s.bind fun s => step val s v) (some ⟨[], []⟩)).map fun s => (canon (s.get "vars"), s.annots)
end Fv

def fvOf (s : Stmt) : List Nat := canon (freeVars s).2
def cfv : FV → List Nat
  | none => [999]
  | some l => canon l
/-- the annotations the model writes on the top node, in the order in which Rust writes them -/
def annotsOf : Stmt → List (String × List Nat)
  | .letS _ _ _ _ _ fv => [("free_vars_next", cfv fv)]
  | .switch _ _ _ fv => [("free_vars_clauses", cfv fv)]
  | .create _ _ _ _ _ fc fn => [("free_vars_next", cfv fn), ("free_vars_clauses", cfv fc)]
  | .lit _ _ _ fv => [("free_vars_next", cfv fv)]
  | .op _ _ _ _ _ fv => [("free_vars_next", cfv fv)]
  | .print _ _ _ fv => [("free_vars_next", cfv fv)]
  | _ => []
def modelFv (s : Stmt) : Option (List Nat × List (String × List Nat)) :=
  some (canon (freeVars s).2, annotsOf (freeVars s).1)

/-- a continuation that uses the variable `v` bound by the node (id 1) and one more variable -/
def next (m : Nat) : Stmt := .invoke ⟨"v", 1⟩ ⟨"m", 0⟩ T [b "n" m, b "a" 2]
def cls (m : Nat) : Clauses := .cons ⟨"K", 0⟩ [b "p" 20] (.invoke ⟨"p", 20⟩ ⟨"m", 0⟩ T [b "c" m, b "v" 1]) .nil
def valOf (l : List (String × List Nat)) : String → Option (List Nat) := fun f => l.lookup f

/-- (sample statement, values of its fields) per node -/
def fvSample : String → Option (Stmt × List (String × List Nat))
  | "Substitute" => some (.subst [(b "new" 5, ⟨"old", 6⟩)] (.exit ⟨"new", 5⟩),
      [("next", [5]), ("rearrange", [6]), ("rearrange.new", [5])])
  | "Call" => some (.call ⟨"f", 0⟩ [b "a" 2, b "b" 3], [("args", [2, 3])])
  | "Let" => some (.letS ⟨"v", 1⟩ T ⟨"K", 0⟩ [b "a" 2, b "b" 3] (next 4) none,
      [("var", [1]), ("args", [2, 3]), ("next", fvOf (next 4))])
  | "Switch" => some (.switch ⟨"v", 1⟩ T (cls 4) none, [("var", [1]), ("clauses", canon (freeVarsClauses (cls 4)).2)])
  | "Create" => some (.create ⟨"v", 1⟩ T none (cls 5) (next 4) none none,
      [("var", [1]), ("next", fvOf (next 4)), ("clauses", canon (freeVarsClauses (cls 5)).2)])
  | "Invoke" => some (.invoke ⟨"v", 1⟩ ⟨"m", 0⟩ T [b "a" 2, b "b" 3], [("var", [1]), ("args", [2, 3])])
  | "Literal" => some (.lit ⟨"v", 1⟩ 7 (next 4) none, [("var", [1]), ("next", fvOf (next 4))])
  | "Op" => some (.op ⟨"v", 1⟩ ⟨"x", 8⟩ .sum ⟨"y", 9⟩ (next 4) none,
      [("var", [1]), ("fst", [8]), ("snd", [9]), ("next", fvOf (next 4))])
  | "PrintI64" => some (.print true ⟨"w", 8⟩ (next 4) none, [("var", [8]), ("next", fvOf (next 4))])
  | "IfC" => some (.ifc .eq ⟨"x", 8⟩ (some ⟨"y", 9⟩) (.exit ⟨"t", 10⟩) (.exit ⟨"e", 11⟩),
      [("fst", [8]), ("snd", [9]), ("thenc", [10]), ("elsec", [11])])
  | "Exit" => some (.exit ⟨"v", 1⟩, [("var", [1])])
  | _ => none

/-- executing the generated rows of node `n` on the sample's values gives the model's set and annotations -/
def fvOk (n : String) : Bool :=
  match fvSample n with
  | none => false
  | some (s, val) => Fv.run (valOf val) (row axFreeVars n) == modelFv s && (Fv.run (valOf val) (row axFreeVars n)).isSome

/-- clause.rs: the body's variables minus the ones bound by the clause -/
def fvClauseOk : Bool :=
  Fv.run (valOf [("body", fvOf (.invoke ⟨"p", 20⟩ ⟨"m", 0⟩ T [b "c" 4, b "v" 1])), ("context", [20])]) (row axFreeVars "Clause")
    == some (canon (freeVarsClauses (cls 4)).2, [])

/-- `ifz` (Rust: `snd = None`: the `if let Some(..)` adds nothing) -/
def fvIfzOk : Bool :=
  Fv.run (valOf [("fst", [8]), ("snd", []), ("thenc", [10]), ("elsec", [11])]) (row axFreeVars "IfC")
    == modelFv (.ifc .eq ⟨"x", 8⟩ none (.exit ⟨"t", 10⟩) (.exit ⟨"e", 11⟩))

/-! ### Subst: every id i is replaced by i + 100; which fields of the top node changed -/

def σ : Subst := (List.range 40).map fun i => (i, ⟨"r", i + 100⟩)
def sIds : Stmt → List Nat
  | .exit v => [v.id]
  | _ => []
def cIds : Clauses → List Nat
  | .cons _ _ body _ => sIds body
  | .nil => []
def fvIds : FV → List Nat
  | none => [] | some l => l
/-- the Rust fields of the top node with the ids they contain -/
def fieldsOf : Stmt → List (String × List Nat)
  | .subst pairs next => [("rearrange", pairs.map (·.1.var.id) ++ pairs.map (·.2.id)), ("next", sIds next)]
  | .call _ args => [("args", args.ids)]
  | .letS v _ _ args next fv => [("var", [v.id]), ("args", args.ids), ("next", sIds next), ("free_vars_next", fvIds fv)]
  | .switch v _ cs fv => [("var", [v.id]), ("clauses", cIds cs), ("free_vars_clauses", fvIds fv)]
  | .create v _ env cs next fc fn => [("var", [v.id]), ("context", (env.getD []).ids), ("clauses", cIds cs), ("next", sIds next),
      ("free_vars_clauses", fvIds fc), ("free_vars_next", fvIds fn)]
  | .invoke v _ _ args => [("var", [v.id]), ("args", args.ids)]
  | .lit v _ next fv => [("var", [v.id]), ("next", sIds next), ("free_vars_next", fvIds fv)]
  | .op v a _ c next fv => [("var", [v.id]), ("fst", [a.id]), ("snd", [c.id]), ("next", sIds next), ("free_vars_next", fvIds fv)]
  | .print _ v next fv => [("var", [v.id]), ("next", sIds next), ("free_vars_next", fvIds fv)]
  | .ifc _ a c t e => [("fst", [a.id]), ("snd", (c.map fun x => [x.id]).getD []), ("thenc", sIds t), ("elsec", sIds e)]
  | .exit v => [("var", [v.id])]
def changed (s : Stmt) : List String := ((fieldsOf s).filter fun p => !p.2.isEmpty && p.2.all (· ≥ 100)).map (·.1)
def untouched (s : Stmt) : Bool := (fieldsOf s).all fun p => p.2.all (· ≥ 100) || p.2.all (· < 100)

def x (i : Nat) : Ident := ⟨"x", i⟩
def e (i : Nat) : Stmt := .exit (x i)
def cl (i : Nat) : Clauses := .cons ⟨"K", 0⟩ [b "p" 30] (e i) .nil
def sSample : String → Option Stmt
  | "Substitute" => some (.subst [(b "n" 1, x 2)] (e 3))
  | "Call" => some (.call ⟨"f", 0⟩ [b "a" 1])
  | "Let" => some (.letS (x 1) T ⟨"K", 0⟩ [b "a" 2] (e 3) (some [4]))
  | "Switch" => some (.switch (x 1) T (cl 2) (some [3]))
  | "Create" => some (.create (x 1) T (some [b "e" 2]) (cl 3) (e 4) (some [5]) (some [6]))
  | "Invoke" => some (.invoke (x 1) ⟨"m", 0⟩ T [b "a" 2])
  | "Literal" => some (.lit (x 1) 0 (e 2) (some [3]))
  | "Op" => some (.op (x 1) (x 2) .sum (x 3) (e 4) (some [5]))
  | "PrintI64" => some (.print true (x 1) (e 2) (some [3]))
  | "IfC" => some (.ifc .eq (x 1) (some (x 2)) (e 3) (e 4))
  | "Exit" => some (.exit (x 1))
  | _ => none

/-- the model's `subst_sim` on the sample of node `n` renames exactly the generated fields (a binder `var` is never renamed) -/
def sVisits (n : String) : Bool :=
  match sSample n with
  | none => false
  | some s => sameSet (changed (substStmt σ s)) (fields (row axSubst n)) && untouched (substStmt σ s)
      && (row axSubst n).all fun v => v.cond == "" && v.arg == "subst_sim(subst)" && v.how == (if v.field == "rearrange" then "rec_pairs" else "rec")

/-- clause.rs: only the body; the bound context is left alone -/
def sClauseOk : Bool :=
  match substClauses σ (cl 3) with
  | .cons _ ctx body _ => fields (row axSubst "Clause") == ["body"] && sIds body == [103] && ctx.ids == [30]
  | .nil => false

/-! ### Linearizing: clash sets and context comparisons, on samples with a duplicated variable -/

/-- which bindings of `new` are fresh (id above the old counter) -/
def freshPattern (maxId : Nat) (new : List Binding) : List Bool := new.map fun p => decide (p.var.id > maxId)
/-- specification of context.rs `freshen`: a binding gets a fresh name iff its id is in the clash set or occurred before -/
def specFresh : List Nat → List Nat → List Bool
  | [], _ => []
  | a :: r, seen => if seen.contains a then true :: specFresh r seen else false :: specFresh r (a :: seen)

def bx : Binding := b "x" 1
def by' : Binding := b "y" 2
/-- outcome of the model on a sample: the pairs of the explicit substitution put in front (`none`: no substitution) -/
def pairsOf : Except String (Stmt × Nat) → Option (Option (List (Binding × Ident)))
  | .ok (.subst pairs _, _) => some (some pairs)
  | .ok (_, _) => some none
  | .error _ => none
def newOf (r : Except String (Stmt × Nat)) : List Binding :=
  match pairsOf r with
  | some (some pairs) => pairs.map (·.1)
  | _ => []

/-- samples: (statement, context it is linearized in), all with max_id = 50.
  Invoke: `invoke x m(x)` in [x];  Call: `call f(x, x)` in [x];  Let: `let v = K(x); exit x` in [x];
  Create: `create v = { K() => exit x }; exit x` in [x];  Switch: `switch x { K() => exit x }` in [x] -/
def lSample : String → Option (Stmt × Ctx)
  | "Invoke" => some (.invoke ⟨"x", 1⟩ ⟨"m", 0⟩ T [bx], [bx])
  | "Call" => some (.call ⟨"f", 0⟩ [bx, bx], [bx])
  | "Let" => some ((freeVars (.letS ⟨"v", 9⟩ T ⟨"K", 0⟩ [bx] (.exit ⟨"x", 1⟩) none)).1, [bx])
  | "Create" => some ((freeVars (.create ⟨"v", 9⟩ T none (.cons ⟨"K", 0⟩ [] (.exit ⟨"x", 1⟩) .nil) (.exit ⟨"x", 1⟩) none none)).1, [bx])
  | "Switch" => some ((freeVars (.switch ⟨"x", 1⟩ T (.cons ⟨"K", 0⟩ [] (.exit ⟨"x", 1⟩) .nil) none)).1, [bx])
  | _ => none
def lRun (n : String) : Option (Except String (Stmt × Nat)) := (lSample n).map fun p => linearize 10 p.1 p.2 50

/-- meaning of the expressions of the Rust bodies on the samples: id lists -/
def idsSem (n : String) : String → Option (List Nat)
  | "HashSet::new()" => some []
  | "HashSet::from([self.var.id])" => if n == "Invoke" then some [1] else none
  | "new_context.ids_set()" => if n == "Let" then some [1] else none              -- filter_by_set([x], {x})
  | "context_clauses.ids_set()" => if n == "Create" then some [1] else none       -- closure environment [x]
  | "args" => if n == "Invoke" then some [1] else if n == "Call" then some [1, 1] else none
  | "self.args" => if n == "Let" then some [1] else none
  | "context_next" => if n == "Create" then some [1] else none
  | _ => none
/-- the part of the substitution's left-hand sides that came out of `freshen` -/
def freshenedPart (n : String) (new : List Binding) : List Binding :=
  if n == "Invoke" then new.dropLast          -- args, then the closure
  else if n == "Let" then new.drop 1           -- new_context = [x], then the arguments
  else if n == "Create" then new.take 1        -- context_next = [x], then the closure environment
  else new

/-- the bindings the model freshens on the sample are those `freshen` yields for the GENERATED receiver and clash set -/
def clashOk (n : String) : Bool :=
  match lRun n, (axLinearizeFreshen.filter (·.1 == n)) with
  | some r, [(_, recv, clash, _)] =>
    match idsSem n recv, idsSem n clash with
    | some ids, some cl => freshPattern 50 (freshenedPart n (newOf r)) == specFresh ids cl && !(newOf r).isEmpty
    | _, _ => false
  | _, _ => false

/-- switch.rs: the scrutinee gets a fresh name iff the generated condition holds (it does on the sample) -/
def switchFreshOk : Bool :=
  match lRun "Switch" with
  | some r => (axLinearizeFreshen.filter (·.1 == "Switch")) == [("Switch", "self.var", "new_context.ids_set().contains(&self.var.id)", "fresh_identifier")]
      && freshPattern 50 (newOf r) == [false, true]
  | none => false

/-- meaning of the rows of `axLinearizeExpected` on the samples `invoke z m(x, y)` / `call f(x, y)` / `let v = K(y); exit x` /
`switch z { K() => exit x }` / `create v = { K() => exit y }; exit x` / `lit`, `op`, `print` followed by `exit x` -/
def ctxSem (n : String) : String → Option Ctx
  | "std::mem::take(&mut self.args.bindings).into()" => some [bx, by']
  | "args.clone()" => some [bx, by']
  | ".bindings.push(closure_binding.clone())" => some [⟨⟨"z", 3⟩, .cns, T⟩]
  | ".bindings.push(xtor_binding)" => some [⟨⟨"z", 3⟩, .prd, T⟩]
  | "new_context.clone()" => if n == "Literal" || n == "PrintI64" || n == "Let" || n == "Switch" then some [bx] else if n == "Op" then some [bx] else none
  | ".bindings.extend(self.args.bindings.clone())" => some [by']
  | "context_next.clone()" => some [bx]
  | ".bindings.extend(context_clauses.bindings.clone())" => some [by']
  | _ => none
def expectedCtx (n : String) : Option Ctx :=
  ((axLinearizeExpected.lookup n).getD []).foldl (fun acc r => acc.bind fun a => (ctxSem n r).map fun c => a ++ c) (some [])

def tSample : String → Option Stmt
  | "Invoke" => some (.invoke ⟨"z", 3⟩ ⟨"m", 0⟩ T [bx, by'])
  | "Call" => some (.call ⟨"f", 0⟩ [bx, by'])
  | "Let" => some (freeVars (.letS ⟨"v", 9⟩ T ⟨"K", 0⟩ [by'] (.exit ⟨"x", 1⟩) none)).1
  | "Switch" => some (freeVars (.switch ⟨"z", 3⟩ T (.cons ⟨"K", 0⟩ [] (.exit ⟨"x", 1⟩) .nil) none)).1
  | "Create" => some (freeVars (.create ⟨"v", 9⟩ T none (.cons ⟨"K", 0⟩ [] (.exit ⟨"y", 2⟩) .nil) (.exit ⟨"x", 1⟩) none none)).1
  | "Literal" => some (freeVars (.lit ⟨"v", 9⟩ 0 (.exit ⟨"x", 1⟩) none)).1
  | "Op" => some (freeVars (.op ⟨"v", 9⟩ ⟨"x", 1⟩ .sum ⟨"x", 1⟩ (.exit ⟨"x", 1⟩) none)).1
  | "PrintI64" => some (freeVars (.print true ⟨"x", 1⟩ (.exit ⟨"x", 1⟩) none)).1
  | _ => none

/-- in the context put together as the GENERATED rows say, the model inserts no substitution; with one more binding in
front it does -/
def testOk (n : String) : Bool :=
  match tSample n, expectedCtx n with
  | some s, some Γ => pairsOf (linearize 10 s Γ 50) == some none && (pairsOf (linearize 10 s (b "u" 8 :: Γ) 50)).bind id != none
      && !Γ.isEmpty
  | _, _ => false

end AxT
end Scc.Traversals

namespace Scc.Props
open Scc.Generated Scc.Traversals

/-! ## C02: UsedBinders -/

theorem Tr_fun_used_binders_nodes : names funUsedBinders =
    ["Op", "IfC", "PrintI64", "Let", "Call", "Constructor", "Destructor", "Case", "New", "Goto", "Label", "Exit", "Paren", "Clause"] := by decide +kernel
theorem Tr_fun_used_binders_op : FunUB.visits "Op" = true := by decide +kernel
theorem Tr_fun_used_binders_ifc : FunUB.visits "IfC" = true := by decide +kernel
theorem Tr_fun_used_binders_ifz :
    sameSet (Fun2Core.usedBinders (.ifz .eq (FunUB.mT "fst") (FunUB.mT "thenc") (FunUB.mT "elsec") none) [])
      ((fields (row funUsedBinders "IfC")).filter (· != "snd")) = true := by decide +kernel
theorem Tr_fun_used_binders_print : FunUB.visits "PrintI64" = true := by decide +kernel
theorem Tr_fun_used_binders_let : FunUB.visits "Let" = true := by decide +kernel
theorem Tr_fun_used_binders_call : FunUB.visits "Call" = true := by decide +kernel
theorem Tr_fun_used_binders_constructor : FunUB.visits "Constructor" = true := by decide +kernel
theorem Tr_fun_used_binders_destructor : FunUB.visits "Destructor" = true := by decide +kernel
theorem Tr_fun_used_binders_case : FunUB.visits "Case" = true := by decide +kernel
theorem Tr_fun_used_binders_new : FunUB.visits "New" = true := by decide +kernel
theorem Tr_fun_used_binders_goto : FunUB.visits "Goto" = true := by decide +kernel
theorem Tr_fun_used_binders_label : FunUB.visits "Label" = true := by decide +kernel
theorem Tr_fun_used_binders_exit : FunUB.visits "Exit" = true := by decide +kernel
theorem Tr_fun_used_binders_paren : FunUB.visits "Paren" = true := by decide +kernel
/-- clause.rs: the names bound by the pattern, then the body -/
theorem Tr_fun_used_binders_clause :
    sameSet (Fun2Core.usedBindersClauses (.cons .data "K" ["context_names.bindings"] [] (FunUB.mT "body") .nil) [])
      (fields (row funUsedBinders "Clause")) = true := by decide +kernel
theorem Tr_fun_used_binders_hows : (names funUsedBinders).all FunUB.howsOk = true := by decide +kernel
/-- mod.rs: variables and literals are skipped (so does the model), every other variant delegates to a node of the table -/
theorem Tr_fun_used_binders_dispatch :
    (funUsedBindersDispatch.filter (·.2 != "rec")) = [("XVar", "skip"), ("Lit", "skip")]
    ∧ delegated funUsedBindersDispatch = (names funUsedBinders).filter (· != "Clause")
    ∧ Fun2Core.usedBinders (.var "x" none none) [] = [] ∧ Fun2Core.usedBinders (.lit 1) [] = [] := by decide +kernel
/-- used_binders.rs: Vec = every element in order, Rc = the content, Option = the content if any -/
theorem Tr_fun_used_binders_containers : funUsedBindersContainers =
    [("Vec", "for element in self { element.used_binders(used); }"), ("Rc", "(**self).used_binders(used);"),
     ("Option", "match self { None => {} Some(t) => t.used_binders(used)}")] := by rfl

/-! ## C03: Uniquify, Subst, Bind / Focusing, fresh_identifier of Core -/

theorem Tr_core_uniquify_nodes : names coreUniquify = ["Op", "Xtor", "XCase", "Cut", "IfC", "PrintI64", "Call", "Exit", "Arguments"]
    ∧ names coreSubst = names coreUniquify := by decide +kernel
theorem Tr_core_uniquify_op : CoreT.uVisits "Op" = true := by decide +kernel
theorem Tr_core_uniquify_xtor : CoreT.uVisits "Xtor" = true := by decide +kernel
theorem Tr_core_uniquify_xcase : CoreT.uVisits "XCase" = true := by decide +kernel
theorem Tr_core_uniquify_cut : CoreT.uVisits "Cut" = true := by decide +kernel
theorem Tr_core_uniquify_ifc : CoreT.uVisits "IfC" = true := by decide +kernel
theorem Tr_core_uniquify_ifz : CoreT.uIfz = (fields (row coreUniquify "IfC")).filter (· != "snd") := by decide +kernel
theorem Tr_core_uniquify_print : CoreT.uVisits "PrintI64" = true := by decide +kernel
theorem Tr_core_uniquify_call : CoreT.uVisits "Call" = true := by decide +kernel
theorem Tr_core_uniquify_exit : CoreT.uVisits "Exit" = true := by decide +kernel
theorem Tr_core_uniquify_arguments : CoreT.uVisits "Arguments" = true := by decide +kernel
theorem Tr_core_uniquify_dispatch :
    coreUniquifyTermDispatch = [("Op", "rec"), ("Mu", "rec"), ("Xtor", "rec"), ("XCase", "rec"), ("_", "skip")]
    ∧ delegated coreUniquifyStatementDispatch = ["Cut", "IfC", "PrintI64", "Call", "Exit"]
    ∧ coreUniquifyStatementDispatch.length = 5 := by decide +kernel
theorem Tr_core_uniquify_containers : coreUniquifyContainers =
    [("Rc", "Rc::new(Rc::unwrap_or_clone(self).uniquify(max_id))"), ("Option", "self.map(|t| t.uniquify(max_id))"),
     ("Vec", "self.into_iter().map(|element| element.uniquify(max_id)).collect()")] := by rfl

theorem Tr_core_subst_op : CoreT.sVisits "Op" = true := by decide +kernel
theorem Tr_core_subst_xtor : CoreT.sVisits "Xtor" = true := by decide +kernel
theorem Tr_core_subst_xcase : CoreT.sVisits "XCase" = true := by decide +kernel
theorem Tr_core_subst_cut : CoreT.sVisits "Cut" = true := by decide +kernel
theorem Tr_core_subst_ifc : CoreT.sVisits "IfC" = true := by decide +kernel
theorem Tr_core_subst_ifz :
    sameSet (CoreT.replaced (CoreT.vS' (Core.substStmt CoreT.σ [] (.ifz .eq (CoreT.v "fst") (CoreT.vS "thenc") (CoreT.vS "elsec")))))
      ((fields (row coreSubst "IfC")).filter (· != "snd")) = true := by decide +kernel
theorem Tr_core_subst_print : CoreT.sVisits "PrintI64" = true := by decide +kernel
theorem Tr_core_subst_call : CoreT.sVisits "Call" = true := by decide +kernel
theorem Tr_core_subst_exit : CoreT.sVisits "Exit" = true := by decide +kernel
theorem Tr_core_subst_arguments : CoreT.sVisits "Arguments" = true := by decide +kernel
theorem Tr_core_subst_dispatch :
    coreSubstTermPrdDispatch = [("XVar", "rec"), ("Literal", "skip"), ("Op", "rec"), ("Mu", "rec"), ("Xtor", "rec"), ("XCase", "rec")]
    ∧ coreSubstTermCnsDispatch = [("XVar", "rec"), ("Literal", "panic"), ("Op", "panic"), ("Mu", "rec"), ("Xtor", "rec"), ("XCase", "rec")]
    ∧ delegated coreSubstStatementDispatch = ["Cut", "IfC", "PrintI64", "Call", "Exit"]
    ∧ coreSubstStatementDispatch.length = 5 := by decide +kernel
theorem Tr_core_subst_containers : coreSubstContainers =
    [("Rc", "Rc::new(Rc::unwrap_or_clone(self).subst_sim(prod_subst, cons_subst))"), ("Option", "self.map(|t| t.subst_sim(prod_subst, cons_subst))"),
     ("Vec", "self.into_iter().map(|element| element.subst_sim(prod_subst, cons_subst)).collect()")] := by rfl

/-- mu.rs / clause.rs / xvar.rs: the bodies that treat binders, statement by statement, as transcribed by
`uniquifyTerm` (.mu), `uniquifyCtx` + `substIfAny` + `uniquifyClauses`, `substRemove`, `substRemoveCtx`, `substFind` -/
theorem Tr_core_binder_forms : coreBinderForms = [
  ("Uniquify/Mu", [
    ⟨"self.variable.id == 0", "let", "new_variable", "fresh_identifier(max_id, &self.variable.name)"⟩,
    ⟨"self.variable.id == 0", "let", "old_variable", "self.variable"⟩,
    ⟨"self.variable.id == 0", "set", "self.variable", "new_variable"⟩,
    ⟨"self.variable.id == 0 & self.prdcns.is_prd()", "set", "self.statement",
      "self.statement.subst_covar(old_variable, XVar::covar(self.variable.clone(), self.ty.clone()).into()).uniquify(max_id)"⟩,
    ⟨"self.variable.id == 0 & !(self.prdcns.is_prd())", "set", "self.statement",
      "self.statement.subst_var(old_variable, XVar::var(self.variable.clone(), self.ty.clone()).into()).uniquify(max_id)"⟩,
    ⟨"!(self.variable.id == 0)", "set", "self.statement", "self.statement.uniquify(max_id)"⟩,
    ⟨"", "ret", "", "self"⟩]),
  ("Subst/Mu", [
    ⟨"", "let", "prod_subst_reduced", "Vec::new()"⟩, ⟨"", "let", "cons_subst_reduced", "Vec::new()"⟩,
    ⟨"for subst in prod_subst & subst.0 != self.variable", "do", "", "prod_subst_reduced.push(subst.clone())"⟩,
    ⟨"for subst in cons_subst & subst.0 != self.variable", "do", "", "cons_subst_reduced.push(subst.clone())"⟩,
    ⟨"", "set", "self.statement", "self.statement.subst_sim(prod_subst_reduced.as_slice(), cons_subst_reduced.as_slice())"⟩,
    ⟨"", "ret", "", "self"⟩]),
  ("Uniquify/Clause", [
    ⟨"", "let", "new_context", "TypingContext::default()"⟩, ⟨"", "let", "var_subst", "Vec::new()"⟩, ⟨"", "let", "covar_subst", "Vec::new()"⟩,
    ⟨"for binding in self.context.bindings & binding.var.id == 0", "let", "new_var", "fresh_identifier(max_id, &binding.var.name)"⟩,
    ⟨"for binding in self.context.bindings & binding.var.id == 0", "do", "",
      "new_context.bindings.push(ContextBinding { var: new_var.clone(), chi: binding.chi.clone(), ty: binding.ty.clone()})"⟩,
    ⟨"for binding in self.context.bindings & binding.var.id == 0 & binding.chi == Chirality::Prd", "do", "",
      "var_subst.push((binding.var, XVar { prdcns: Prd, var: new_var, ty: binding.ty}.into()))"⟩,
    ⟨"for binding in self.context.bindings & binding.var.id == 0 & !(binding.chi == Chirality::Prd)", "do", "",
      "covar_subst.push((binding.var, XVar { prdcns: Cns, var: new_var, ty: binding.ty}.into()))"⟩,
    ⟨"for binding in self.context.bindings & !(binding.var.id == 0)", "do", "", "new_context.bindings.push(binding)"⟩,
    ⟨"", "set", "self.context", "new_context"⟩,
    ⟨"var_subst.is_empty() && covar_subst.is_empty()", "set", "self.body", "self.body.uniquify(max_id)"⟩,
    ⟨"!(var_subst.is_empty() && covar_subst.is_empty())", "set", "self.body", "self.body.subst_sim(&var_subst, &covar_subst).uniquify(max_id)"⟩,
    ⟨"", "ret", "", "self"⟩]),
  ("Subst/Clause", [
    ⟨"", "let", "prod_subst_reduced", "Vec::new()"⟩, ⟨"", "let", "cons_subst_reduced", "Vec::new()"⟩,
    ⟨"for subst in prod_subst & !self.context.vars().contains(&subst.0)", "do", "", "prod_subst_reduced.push(subst.clone())"⟩,
    ⟨"for subst in cons_subst & !self.context.vars().contains(&subst.0)", "do", "", "cons_subst_reduced.push(subst.clone())"⟩,
    ⟨"", "set", "self.body", "self.body.subst_sim(prod_subst_reduced.as_slice(), cons_subst_reduced.as_slice())"⟩,
    ⟨"", "ret", "", "self"⟩]),
  ("Subst/XVar<Prd>", [
    ⟨"prod_subst.iter().find(|(var, _)| *var == self.var) is None", "ret", "", "self.into()"⟩,
    ⟨"prod_subst.iter().find(|(var, _)| *var == self.var) is Some((_, p))", "ret", "", "p.clone()"⟩]),
  ("Subst/XVar<Cns>", [
    ⟨"cons_subst.iter().find(|(covar, _)| *covar == self.var) is None", "ret", "", "self.into()"⟩,
    ⟨"cons_subst.iter().find(|(covar, _)| *covar == self.var) is Some((_, p))", "ret", "", "p.clone()"⟩])] := by rfl

open Scc.Core in
/-- what the model does with these bodies: a μ with id 0 gets the next id and ONLY the occurrences of the opposite
chirality are renamed (prd: subst_covar, cns: subst_var); a non-zero id is kept; substitution stops under a binder of
the same identifier (Mu: `subst.0 != self.variable`, Clause: `!context.vars().contains(..)`), first match wins -/
theorem Tr_core_binder_forms_model :
    let body : Stmt := .cut .i64 (.var .prd ⟨"a", 0⟩ .i64) (.var .cns ⟨"a", 0⟩ .i64)
    let obs (r : Term × Nat) := (CoreT.bT r.1, CoreT.vT r.1, r.2)
    obs (uniquifyTerm (.mu .prd ⟨"a", 0⟩ .i64 body) 4) = ([⟨"a", 5⟩], [⟨"a", 0⟩, ⟨"a", 5⟩], 5)
    ∧ obs (uniquifyTerm (.mu .cns ⟨"a", 0⟩ .i64 body) 4) = ([⟨"a", 5⟩], [⟨"a", 5⟩, ⟨"a", 0⟩], 5)
    ∧ obs (uniquifyTerm (.mu .prd ⟨"a", 3⟩ .i64 body) 4) = ([⟨"a", 3⟩], [⟨"a", 0⟩, ⟨"a", 0⟩], 4)
    ∧ (let r := uniquifyClauses (.cons ⟨"K", 0⟩ [⟨⟨"x", 0⟩, .prd, .i64⟩, ⟨⟨"y", 2⟩, .prd, .i64⟩, ⟨⟨"a", 0⟩, .cns, .i64⟩]
          (.cut .i64 (.var .prd ⟨"x", 0⟩ .i64) (.var .cns ⟨"a", 0⟩ .i64)) .nil) 4
       (CoreT.bC r.1, CoreT.vC r.1, r.2) = ([⟨"x", 5⟩, ⟨"y", 2⟩, ⟨"a", 6⟩], [⟨"x", 5⟩, ⟨"a", 6⟩], 6))
    ∧ CoreT.vT (substTerm [(⟨"x", 0⟩, .var .prd ⟨"x", 1⟩ .i64), (⟨"y", 0⟩, .var .prd ⟨"y", 2⟩ .i64), (⟨"y", 0⟩, .var .prd ⟨"y", 3⟩ .i64)] []
        (.mu .prd ⟨"x", 0⟩ .i64 (.cut .i64 (.op (.var .prd ⟨"x", 0⟩ .i64) .sum (.var .prd ⟨"y", 0⟩ .i64)) (.var .cns ⟨"x", 0⟩ .i64))))
      = [⟨"x", 0⟩, ⟨"y", 2⟩, ⟨"x", 0⟩]
    ∧ CoreT.vC (substClauses [(⟨"x", 0⟩, .var .prd ⟨"x", 1⟩ .i64), (⟨"y", 0⟩, .var .prd ⟨"y", 2⟩ .i64), (⟨"z", 0⟩, .var .prd ⟨"z", 3⟩ .i64)] []
        (.cons ⟨"K", 0⟩ [⟨⟨"y", 0⟩, .prd, .i64⟩]
          (.cut .i64 (.op (.var .prd ⟨"x", 0⟩ .i64) .sum (.op (.var .prd ⟨"y", 0⟩ .i64) .sum (.var .prd ⟨"z", 0⟩ .i64))) CoreT.k) .nil))
      = [⟨"x", 1⟩, ⟨"y", 0⟩, ⟨"z", 3⟩, ⟨"k", 7⟩] := by
  decide +kernel

theorem Tr_core_bind_op_order : CoreT.orderOk "Bind/Op" = true := by decide +kernel
theorem Tr_core_bind_op_wiring : CoreT.wiringOk "Bind/Op" = true := by decide +kernel
theorem Tr_core_focus_ifc_order : CoreT.orderOk "Focusing/IfC" = true := by decide +kernel
theorem Tr_core_focus_ifc_wiring : CoreT.wiringOk "Focusing/IfC" = true := by decide +kernel
theorem Tr_core_focus_cut_op_order : CoreT.orderOk "Focusing/Cut(Op)" = true := by decide +kernel
theorem Tr_core_focus_cut_op_wiring : CoreT.wiringOk "Focusing/Cut(Op)" = true := by decide +kernel

/-- core_lang names.rs: `*max_id += 1` comes first, the identifier carries the NEW value -/
theorem Tr_core_fresh_identifier :
    coreFreshIdentifier = (if (Core.freshIdentifier 5 "x") = (⟨"x", 6⟩, 6) then "increment_then_use"
      else if (Core.freshIdentifier 5 "x") = (⟨"x", 5⟩, 6) then "use_then_increment" else "?") := by decide +kernel

/-! ## C05: FreeVars, Subst, Linearizing, fresh_identifier of AxCut -/

theorem Tr_ax_free_vars_nodes : names axFreeVars =
    ["Substitute", "Call", "Let", "Switch", "Create", "Invoke", "Literal", "Op", "PrintI64", "IfC", "Exit", "Clause"]
    ∧ names axSubst = names axFreeVars := by decide +kernel
theorem Tr_ax_free_vars_substitute : AxT.fvOk "Substitute" = true := by decide +kernel
theorem Tr_ax_free_vars_call : AxT.fvOk "Call" = true := by decide +kernel
theorem Tr_ax_free_vars_let : AxT.fvOk "Let" = true := by decide +kernel
theorem Tr_ax_free_vars_switch : AxT.fvOk "Switch" = true := by decide +kernel
theorem Tr_ax_free_vars_create : AxT.fvOk "Create" = true := by decide +kernel
theorem Tr_ax_free_vars_invoke : AxT.fvOk "Invoke" = true := by decide +kernel
theorem Tr_ax_free_vars_literal : AxT.fvOk "Literal" = true := by decide +kernel
theorem Tr_ax_free_vars_op : AxT.fvOk "Op" = true := by decide +kernel
theorem Tr_ax_free_vars_print : AxT.fvOk "PrintI64" = true := by decide +kernel
theorem Tr_ax_free_vars_ifc : AxT.fvOk "IfC" = true := by decide +kernel
theorem Tr_ax_free_vars_ifz : AxT.fvIfzOk = true := by decide +kernel
theorem Tr_ax_free_vars_exit : AxT.fvOk "Exit" = true := by decide +kernel
theorem Tr_ax_free_vars_clause : AxT.fvClauseOk = true := by decide +kernel
theorem Tr_ax_free_vars_dispatch :
    delegated axFreeVarsDispatch = (names axFreeVars).filter (· != "Clause") ∧ axFreeVarsDispatch.length = 11 := by decide +kernel
/-- free_vars.rs: Vec = a fresh set per element, united into `vars` (the model: `freeVarsClauses`) -/
theorem Tr_ax_free_vars_containers : axFreeVarsContainers =
    [("Rc", "Rc::new(Rc::unwrap_or_clone(self).free_vars(vars))"),
     ("Vec", "self.into_iter().map(|element| { let mut free_vars = HashSet::new(); let element = element.free_vars(&mut free_vars); vars.extend(free_vars); element }).collect()")] := by rfl

theorem Tr_ax_subst_substitute : AxT.sVisits "Substitute" = true := by decide +kernel
theorem Tr_ax_subst_call : AxT.sVisits "Call" = true := by decide +kernel
theorem Tr_ax_subst_let : AxT.sVisits "Let" = true := by decide +kernel
theorem Tr_ax_subst_switch : AxT.sVisits "Switch" = true := by decide +kernel
theorem Tr_ax_subst_create : AxT.sVisits "Create" = true := by decide +kernel
theorem Tr_ax_subst_invoke : AxT.sVisits "Invoke" = true := by decide +kernel
theorem Tr_ax_subst_literal : AxT.sVisits "Literal" = true := by decide +kernel
theorem Tr_ax_subst_op : AxT.sVisits "Op" = true := by decide +kernel
theorem Tr_ax_subst_print : AxT.sVisits "PrintI64" = true := by decide +kernel
theorem Tr_ax_subst_ifc : AxT.sVisits "IfC" = true := by decide +kernel
theorem Tr_ax_subst_exit : AxT.sVisits "Exit" = true := by decide +kernel
theorem Tr_ax_subst_clause : AxT.sClauseOk = true := by decide +kernel
theorem Tr_ax_subst_dispatch :
    delegated axSubstDispatch = (names axSubst).filter (· != "Clause") ∧ axSubstDispatch.length = 11 := by decide +kernel
/-- context.rs: a binding renames its variable, a context all its bindings (the model: `substBinding`, `substCtx`) -/
theorem Tr_ax_subst_context :
    axSubstContext = [("ContextBinding", [⟨"", "rec", "var", "subst_sim(subst)"⟩]), ("TypingContext", [⟨"", "rec", "bindings", "subst_sim(subst)"⟩])]
    ∧ (AxCut.substCtx AxT.σ [AxT.b "a" 1, AxT.b "b" 2]).ids = [101, 102] := by decide +kernel

theorem Tr_ax_linearize_dispatch : axLinearizeDispatch =
    [("Substitute", "panic"), ("Call", "rec"), ("Let", "rec"), ("Switch", "rec"), ("Create", "rec"), ("Invoke", "rec"),
     ("Literal", "rec"), ("Op", "rec"), ("PrintI64", "rec"), ("IfC", "rec"), ("Exit", "skip")] := by decide +kernel
/-- the nodes that call `freshen` / `fresh_identifier`, once each -/
theorem Tr_ax_linearize_freshen_nodes : axLinearizeFreshen.map (·.1) = ["Call", "Let", "Switch", "Create", "Invoke"] := by decide +kernel
theorem Tr_ax_linearize_invoke_clash : AxT.clashOk "Invoke" = true := by decide +kernel
theorem Tr_ax_linearize_call_clash : AxT.clashOk "Call" = true := by decide +kernel
theorem Tr_ax_linearize_let_clash : AxT.clashOk "Let" = true := by decide +kernel
theorem Tr_ax_linearize_create_clash : AxT.clashOk "Create" = true := by decide +kernel
theorem Tr_ax_linearize_switch_fresh : AxT.switchFreshOk = true := by decide +kernel
/-- one comparison of the incoming context per node, against the context put together as in `axLinearizeExpected` -/
theorem Tr_ax_linearize_test_shape : axLinearizeTest =
    [("Call", "context == args"), ("Let", "context == context_rearrange"), ("Switch", "context == context_rearrange"),
     ("Create", "context_clone == context_rearrange"), ("Invoke", "context == context_rearrange"), ("Literal", "context == context_rearrange"),
     ("Op", "context == context_rearrange"), ("PrintI64", "context == context_rearrange")]
    ∧ axLinearizeConds = [("Call", ["context == args"]), ("Let", ["context == context_rearrange"]),
     ("Switch", ["context == context_rearrange", "new_context.ids_set().contains(&self.var.id)"]), ("Create", ["context_clone == context_rearrange"]),
     ("Invoke", ["context == context_rearrange"]), ("Literal", ["context == context_rearrange"]), ("Op", ["context == context_rearrange"]),
     ("PrintI64", ["context == context_rearrange"]), ("IfC", [])] := by decide +kernel
theorem Tr_ax_linearize_invoke_test : AxT.testOk "Invoke" = true := by decide +kernel
theorem Tr_ax_linearize_call_test : AxT.testOk "Call" = true := by decide +kernel
theorem Tr_ax_linearize_let_test : AxT.testOk "Let" = true := by decide +kernel
theorem Tr_ax_linearize_switch_test : AxT.testOk "Switch" = true := by decide +kernel
theorem Tr_ax_linearize_create_test : AxT.testOk "Create" = true := by decide +kernel
theorem Tr_ax_linearize_literal_test : AxT.testOk "Literal" = true := by decide +kernel
theorem Tr_ax_linearize_op_test : AxT.testOk "Op" = true := by decide +kernel
theorem Tr_ax_linearize_print_test : AxT.testOk "PrintI64" = true := by decide +kernel
/-- the contexts handed to the recursive calls, as transcribed in `Scc.AxCut.linearize` / `linearizeClauses` -/
theorem Tr_ax_linearize_rec : axLinearizeRec = [
  ("Call", []),
  ("Let", [⟨"context == context_rearrange", "rec", "next", "new_context"⟩, ⟨"!(context == context_rearrange)", "rec", "next", "new_context"⟩]),
  ("Switch", [⟨"", "rec_each", "clauses", "new_context ++ clause.context.bindings"⟩]),
  ("Create", [⟨"", "rec_each", "clauses", "clause.context ++ context_clauses.bindings"⟩,
    ⟨"context_clone == context_rearrange", "rec", "next", "context_next"⟩,
    ⟨"!(context_clone == context_rearrange)", "rec", "next", "context_next_freshened"⟩]),
  ("Invoke", []),
  ("Literal", [⟨"", "rec", "next", "new_context"⟩]),
  ("Op", [⟨"", "rec", "next", "new_context"⟩]),
  ("PrintI64", [⟨"", "rec", "next", "new_context"⟩]),
  ("IfC", [⟨"", "rec", "thenc", "context.clone()"⟩, ⟨"", "rec", "elsec", "context"⟩])] := by rfl

/-- axcut names.rs: `*max_id += 1` comes first, the identifier carries the NEW value -/
theorem Tr_ax_fresh_identifier :
    axFreshIdentifier = (if (AxCut.freshIdentifier 5 "x") = (⟨"x", 6⟩, 6) then "increment_then_use"
      else if (AxCut.freshIdentifier 5 "x") = (⟨"x", 5⟩, 6) then "use_then_increment" else "?") := by decide +kernel

end Scc.Props

#print axioms Scc.Props.Tr_fun_used_binders_destructor
#print axioms Scc.Props.Tr_core_uniquify_ifc
#print axioms Scc.Props.Tr_core_binder_forms_model
#print axioms Scc.Props.Tr_core_bind_op_order
#print axioms Scc.Props.Tr_ax_free_vars_ifc
#print axioms Scc.Props.Tr_ax_linearize_invoke_clash
#print axioms Scc.Props.Tr_ax_fresh_identifier

#print axioms Scc.Props.Tr_fun_used_binders_nodes
#print axioms Scc.Props.Tr_fun_used_binders_op
#print axioms Scc.Props.Tr_fun_used_binders_ifc
#print axioms Scc.Props.Tr_fun_used_binders_ifz
#print axioms Scc.Props.Tr_fun_used_binders_print
#print axioms Scc.Props.Tr_fun_used_binders_let
#print axioms Scc.Props.Tr_fun_used_binders_call
#print axioms Scc.Props.Tr_fun_used_binders_constructor
#print axioms Scc.Props.Tr_fun_used_binders_case
#print axioms Scc.Props.Tr_fun_used_binders_new
#print axioms Scc.Props.Tr_fun_used_binders_goto
#print axioms Scc.Props.Tr_fun_used_binders_label
#print axioms Scc.Props.Tr_fun_used_binders_exit
#print axioms Scc.Props.Tr_fun_used_binders_paren
#print axioms Scc.Props.Tr_fun_used_binders_clause
#print axioms Scc.Props.Tr_fun_used_binders_hows
#print axioms Scc.Props.Tr_fun_used_binders_dispatch
#print axioms Scc.Props.Tr_fun_used_binders_containers
#print axioms Scc.Props.Tr_core_uniquify_nodes
#print axioms Scc.Props.Tr_core_uniquify_op
#print axioms Scc.Props.Tr_core_uniquify_xtor
#print axioms Scc.Props.Tr_core_uniquify_xcase
#print axioms Scc.Props.Tr_core_uniquify_cut
#print axioms Scc.Props.Tr_core_uniquify_ifz
#print axioms Scc.Props.Tr_core_uniquify_print
#print axioms Scc.Props.Tr_core_uniquify_call
#print axioms Scc.Props.Tr_core_uniquify_exit
#print axioms Scc.Props.Tr_core_uniquify_arguments
#print axioms Scc.Props.Tr_core_uniquify_dispatch
#print axioms Scc.Props.Tr_core_uniquify_containers
#print axioms Scc.Props.Tr_core_subst_op
#print axioms Scc.Props.Tr_core_subst_xtor
#print axioms Scc.Props.Tr_core_subst_xcase
#print axioms Scc.Props.Tr_core_subst_cut
#print axioms Scc.Props.Tr_core_subst_ifc
#print axioms Scc.Props.Tr_core_subst_ifz
#print axioms Scc.Props.Tr_core_subst_print
#print axioms Scc.Props.Tr_core_subst_call
#print axioms Scc.Props.Tr_core_subst_exit
#print axioms Scc.Props.Tr_core_subst_arguments
#print axioms Scc.Props.Tr_core_subst_dispatch
#print axioms Scc.Props.Tr_core_subst_containers
#print axioms Scc.Props.Tr_core_binder_forms
#print axioms Scc.Props.Tr_core_bind_op_wiring
#print axioms Scc.Props.Tr_core_focus_ifc_order
#print axioms Scc.Props.Tr_core_focus_ifc_wiring
#print axioms Scc.Props.Tr_core_focus_cut_op_order
#print axioms Scc.Props.Tr_core_focus_cut_op_wiring
#print axioms Scc.Props.Tr_core_fresh_identifier
#print axioms Scc.Props.Tr_ax_free_vars_nodes
#print axioms Scc.Props.Tr_ax_free_vars_substitute
#print axioms Scc.Props.Tr_ax_free_vars_call
#print axioms Scc.Props.Tr_ax_free_vars_let
#print axioms Scc.Props.Tr_ax_free_vars_switch
#print axioms Scc.Props.Tr_ax_free_vars_create
#print axioms Scc.Props.Tr_ax_free_vars_invoke
#print axioms Scc.Props.Tr_ax_free_vars_literal
#print axioms Scc.Props.Tr_ax_free_vars_op
#print axioms Scc.Props.Tr_ax_free_vars_print
#print axioms Scc.Props.Tr_ax_free_vars_ifz
#print axioms Scc.Props.Tr_ax_free_vars_exit
#print axioms Scc.Props.Tr_ax_free_vars_clause
#print axioms Scc.Props.Tr_ax_free_vars_dispatch
#print axioms Scc.Props.Tr_ax_free_vars_containers
#print axioms Scc.Props.Tr_ax_subst_substitute
#print axioms Scc.Props.Tr_ax_subst_call
#print axioms Scc.Props.Tr_ax_subst_let
#print axioms Scc.Props.Tr_ax_subst_switch
#print axioms Scc.Props.Tr_ax_subst_create
#print axioms Scc.Props.Tr_ax_subst_invoke
#print axioms Scc.Props.Tr_ax_subst_literal
#print axioms Scc.Props.Tr_ax_subst_op
#print axioms Scc.Props.Tr_ax_subst_print
#print axioms Scc.Props.Tr_ax_subst_ifc
#print axioms Scc.Props.Tr_ax_subst_exit
#print axioms Scc.Props.Tr_ax_subst_clause
#print axioms Scc.Props.Tr_ax_subst_dispatch
#print axioms Scc.Props.Tr_ax_subst_context
#print axioms Scc.Props.Tr_ax_linearize_dispatch
#print axioms Scc.Props.Tr_ax_linearize_freshen_nodes
#print axioms Scc.Props.Tr_ax_linearize_call_clash
#print axioms Scc.Props.Tr_ax_linearize_let_clash
#print axioms Scc.Props.Tr_ax_linearize_create_clash
#print axioms Scc.Props.Tr_ax_linearize_switch_fresh
#print axioms Scc.Props.Tr_ax_linearize_test_shape
#print axioms Scc.Props.Tr_ax_linearize_invoke_test
#print axioms Scc.Props.Tr_ax_linearize_call_test
#print axioms Scc.Props.Tr_ax_linearize_let_test
#print axioms Scc.Props.Tr_ax_linearize_switch_test
#print axioms Scc.Props.Tr_ax_linearize_create_test
#print axioms Scc.Props.Tr_ax_linearize_literal_test
#print axioms Scc.Props.Tr_ax_linearize_op_test
#print axioms Scc.Props.Tr_ax_linearize_print_test
#print axioms Scc.Props.Tr_ax_linearize_rec
