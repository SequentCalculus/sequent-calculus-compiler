/-
  Scc.Props.C09Refine — THE HEAP REFINEMENT (backend-independent part of C06–C08; the bridge that
  Props/C09.lean leaves open "from histories of heap operations to executions of generated code"):
  the abstract heap of the abstract backend machine `Scc.Backend.Abs` (objects `id ↦ (count, fields)`
  with EXACT counts, IMMEDIATE recursive erase; the heap of Theorem A, `Scc.Backend.Sim.HeapOK`) is
  represented by a state of the block-level heap model `Scc.Heap.HState` (64-byte blocks of three
  fields chained by links, linear free list + lazy free list with DEFERRED erasure; the model that the
  memory contracts of all three backends — Scc/X86/MemProofs*, Scc/A64/MemProofs*, Scc/RV/MemProofs* —
  are stated against), and every abstract heap operation commutes with the block-level operation the
  backends emit for it.

  The relation `HRef h rs next s ι` (Scc/Heap/RefineDefs.lean): `ι : id ↦ address of the head block`;
  the abstract heap is well formed (`HeapOK` w.r.t. the roots `rs`, children older than parents), the
  block-level state satisfies the C09 invariant `InvS` w.r.t. the roots `rs.map ι` (REUSED: every
  preservation proof of Scc/Heap/Proofs*.lean is used as is), every abstract object lies at `ι id` with
  the shape `store` produces (`ObjAt`), distinct objects occupy disjoint chains.  Blocks that are alive at
  block level but abstractly dead (children of deferred blocks) are exactly the blocks of `live` outside
  the chains; no clause mentions them, and none mentions the counts: `head_count_ge` (stored count =
  abstract count + references from such blocks ≥ abstract count) follows from the two counting
  invariants.

  * `HeapRefinement_statement` — the full statement (init, share, erase, load, store), a `def : Prop`.
  * PROVED, all of it: `C09R_heap_refinement : HeapRefinement_statement`, from `C09R_init`, `C09R_share`,
    `C09R_erase`, `C09R_load` (both paths of the emitted code: release / share — when an abstractly
    unique object is still referenced by a block that is alive only at block level, the emitted code
    takes the shared path although the abstract machine frees the object; the results are related all
    the same), `C09R_store` (`Memory::store` of the images of the fields of a new object, chains of any
    length; the address map is extended at the fresh id by the pointer returned; needs room for the
    blocks in the sense of C10: frontier + 64·(fields + 1) ≤ limit).  Also `C09R_count` (the counting
    lemma) and `C09R_chains_live` (every block of every abstract object is live at block level).
  * NOT covered here (the next layer): that the abstract operations are the ones Theorem A's steps
    perform and that the block-level operations are what the emitted instruction sequences compute
    (the latter: the memory contracts Scc/X86/MemProofs*, Scc/A64/MemProofs*, Scc/RV/MemProofs*).
-/
import Scc.Heap.RefineStoreObj

namespace Scc.Heap.Refine

open Scc.Backend.Abs (Heap Obj Word)
open Scc.Backend.Sim (HeapOK)

/-- `share ref k` ↔ `share_block_n` -/
def HeapRefinement_share_statement : Prop :=
  ∀ (h : Heap) (rs : List Nat) (next : Nat) (s : HState) (ι : Nat → Nat) (ref : Word) (k : Nat),
    HRef h rs next s ι → (ref ≠ 0 → ref.toNat ∈ rs) →
    ∃ h' s', h.share ref k = .ok h' ∧ shareBlock s (imgW ι ref) k = .ok s' ∧
      HRef h' (rs ++ (List.replicate k (if ref != 0 then [ref.toNat] else [])).flatten) next s' ι

/-- `erase ref` ↔ `erase_block` (the reference `ref` is a root that is given up) -/
def HeapRefinement_erase_statement : Prop :=
  ∀ (h : Heap) (rs : List Nat) (next : Nat) (s : HState) (ι : Nat → Nat) (ref : Word),
    HRef h (rs ++ (if ref != 0 then [ref.toNat] else [])) next s ι →
    ∃ h' s', h.erase ref = .ok h' ∧ eraseBlock s (imgW ι ref) = .ok s' ∧ HRef h' rs next s' ι

/-- `load` of object `id` (a root that is consumed; its children become roots) ↔ `Memory::load` -/
def HeapRefinement_load_statement : Prop :=
  ∀ (h : Heap) (rs : List Nat) (next : Nat) (s : HState) (ι : Nat → Nat) (id : Nat) (o : Obj),
    HRef h (rs ++ [id]) next s ι → h.get id = some o →
    ∃ h' s', loadAbs h id o = .ok h' ∧
      loadObj s (ι id) (o.fields.map kindB) = .ok (s', o.fields.map (fieldImg ι)) ∧
      HRef h' (rs ++ o.children) next s' ι

/-- `store` of a new object with fields `fields` (its non-null pointer fields are roots that are
consumed; the new object is a root) ↔ `Memory::store`, given room for the blocks -/
def HeapRefinement_store_statement : Prop :=
  ∀ (h : Heap) (rsKeep : List Nat) (next : Nat) (s : HState) (ι : Nat → Nat) (o : Obj),
    o.count = 0 → o.fields ≠ [] → next < 2 ^ 64 →
    HRef h (rsKeep ++ o.children) next s ι →
    (∃ lin lazy live F, InvS s ((rsKeep ++ o.children).map ι) [] lin lazy live F ∧
      F + 64 * o.fields.length + 64 ≤ s.limit) →
    ∃ s' p, storeObj s (o.fields.map (fieldImg ι)) = .ok (s', p) ∧
      HRef ((next, o) :: h) (rsKeep ++ [next]) (next + 1) s' (fun i => if i = next then p else ι i)

def HeapRefinement_init_statement : Prop :=
  ∀ (base limit : Nat) (ι : Nat → Nat), 0 < base → base + 128 ≤ limit →
    HRef [] [] 1 (init base limit) ι

def HeapRefinement_statement : Prop :=
  HeapRefinement_init_statement ∧ HeapRefinement_share_statement ∧ HeapRefinement_erase_statement ∧
  HeapRefinement_load_statement ∧ HeapRefinement_store_statement

theorem C09R_share : HeapRefinement_share_statement :=
  fun _ _ _ _ _ ref k R hmem => href_share R ref k hmem

theorem C09R_erase : HeapRefinement_erase_statement :=
  fun _ _ _ _ _ ref R => href_erase ref R

theorem C09R_load : HeapRefinement_load_statement :=
  fun _ _ _ _ _ _ _ R hg => href_load R hg

/-- the counting lemma: the count stored in the head block is at least the abstract count -/
theorem C09R_count {h : Heap} {rs : List Nat} {next : Nat} {s : HState} {ι : Nat → Nat}
    (R : HRef h rs next s ι) {e : Nat × Obj} (he : e ∈ h) : e.2.count ≤ s.mem.get (ι e.1) :=
  head_count_ge R he

/-- every block of every abstract object is live at block level -/
theorem C09R_chains_live {h : Heap} {rs : List Nat} {next : Nat} {s : HState} {ι : Nat → Nat}
    (R : HRef h rs next s ι) {lin lazy live : List Nat} {F : Nat}
    (I : InvS s (rs.map ι) [] lin lazy live F) :
    ∀ e ∈ h, ∀ b ∈ blocksOf s.mem.get (ι e.1) e.2.fields, b ∈ live :=
  fun e he => chains_live I R.abs R.ord R.shape _ e he (Nat.le_refl _)

theorem C09R_init : HeapRefinement_init_statement := by
  intro base limit ι hb hl
  refine ⟨⟨by omega, by simp, by simp, by simp, ?_⟩, by simp, ?_, by simp, by simp⟩
  · intro id hid
    simp [Scc.Backend.Sim.refCount] at hid
  · exact ⟨[base], [], [], base + 64, init_inv hb hl⟩

theorem C09R_store : HeapRefinement_store_statement :=
  fun _ _ _ _ _ _ hc hne hn R hroom => href_store hc hne hn R hroom

theorem C09R_heap_refinement : HeapRefinement_statement :=
  ⟨C09R_init, C09R_share, C09R_erase, C09R_load, C09R_store⟩

/-- an object with one integer field and one null pointer field -/
def exObj : Obj := { count := 0, fields := [{ chi := .ext, ptr := 0, val := 7 }, { chi := .prd, ptr := 0, val := 5 }] }

/-- storing `exObj` into the initial heap and loading it again: both block-level operations succeed,
the fields come back, and the final state represents the abstract heap after the abstract `load` -/
example : ∃ s1 p h2 s2, storeObj (init 4096 8192) [Field.int 7, Field.ptr 0 5] = .ok (s1, p) ∧
    loadAbs [(1, exObj)] 1 exObj = .ok h2 ∧
    loadObj s1 p [false, true] = .ok (s2, [Field.int 7, Field.ptr 0 5]) ∧
    HRef h2 [] 2 s2 (fun i => if i = 1 then p else 0) := by
  have R0 := C09R_init 4096 8192 (fun _ => 0) (by decide) (by decide)
  obtain ⟨s1, p, h1, R1⟩ := C09R_store [] [] 1 (init 4096 8192) (fun _ => 0) exObj rfl (by simp [exObj])
    (by decide) (by simpa [exObj, Obj.children] using R0)
    ⟨[4096], [], [], 4096 + 64, by
      have := init_inv (base := 4096) (limit := 8192) (by decide) (by decide)
      simpa [exObj, Obj.children] using this, by simp [exObj]; decide⟩
  obtain ⟨h2, s2, e1, e2, R2⟩ := C09R_load _ [] 2 s1 _ 1 exObj (by simpa using R1) (by rfl)
  refine ⟨s1, p, h2, s2, ?_, e1, ?_, by simpa [exObj, Obj.children] using R2⟩
  · exact h1
  · exact e2

/-- the initial block-level heap represents the empty abstract heap, and after sharing the null
reference it still does (the degenerate instance of `C09R_share`) -/
example : ∃ h' s', (Heap.share ([] : Heap) 0 2 = Except.ok h') ∧ shareBlock (init 4096 8192) 0 2 = .ok s' ∧
    HRef h' [] 1 s' (fun _ => 0) := by
  obtain ⟨h', s', h1, h2, R⟩ := C09R_share [] [] 1 (init 4096 8192) (fun _ => 0) 0 2
    (C09R_init 4096 8192 _ (by decide) (by decide)) (fun h => absurd rfl h)
  refine ⟨h', s', h1, by simpa [imgW] using h2, ?_⟩
  simpa using R

end Scc.Heap.Refine

#print axioms Scc.Heap.Refine.C09R_share
#print axioms Scc.Heap.Refine.C09R_erase
#print axioms Scc.Heap.Refine.C09R_load
#print axioms Scc.Heap.Refine.C09R_count
#print axioms Scc.Heap.Refine.C09R_chains_live
#print axioms Scc.Heap.Refine.C09R_init
#print axioms Scc.Heap.Refine.C09R_store
#print axioms Scc.Heap.Refine.C09R_heap_refinement
