/-
  Scc.Props.C05 — property C05 (linearization: exact environments, same behaviour).

  Property text: "For every well-typed AxCut program the linearized program behaves identically,
  and it is well-typed under the ordered, linear discipline the backends assume: at each statement
  the environment is exactly the list that statement expects (call: the callee's parameters;
  invoke: arguments then closure; let: rest then arguments; switch: rest then scrutinee; create:
  rest then captured environment), positions agree in kind and type, and values are duplicated,
  dropped or reordered only by explicit substitutions. Operands of arithmetic, comparison and
  print remain available afterwards."

  Model: Scc/AxCut/Linearize.lean (transcription of /repo/lang/axcut/src/traits + syntax, tied to
  the code by exact S5 dump equality).  Spec: Scc/AxCut/LinTyping.lean (`LinTyped`),
  Scc/AxCut/WfNonLinear.lean (`WfNonLinear`, the decidable precondition), Scc/AxCut/SemPos.lean
  and Scc/AxCut/SemNamed.lean (the two machines).  Proofs: Scc/AxCut/LinLemmas.lean (T1),
  LinProofs.lean (T2), LinRelLin.lean (T4, and T3 as its corollary).

  PROVED here, for ALL programs:  T1 (`filterBySet`, `freshen`), T2 (`freeVars` sound, in the
  form needed by T3), T3 = parts (a) and (b) of the property — (a) the linearizer succeeds and (b) its output is
  well-typed under the ordered, linear discipline — (`C05_linearize_LinTyped`),
  T4 = part (c), "behaves identically": the named machine on `p` and the positional machine on `linearize p` have the same
  behaviour (`C05_T4`; via the declarative relation `LinRel`, Scc/AxCut/LinRel*.lean),
  T5 (type safety of the positional machine on `LinTyped` programs, `C05_T5`).
-/
import Scc.AxCut.LinCtx
import Scc.AxCut.PosSafe
import Scc.AxCut.LinRelSim
import Scc.AxCut.LinRelLin
import Scc.AxCut.SemPos
import Scc.AxCut.SemNamed

namespace Scc.Props.C05

open Scc.AxCut

/-! ## T1: `filter_by_set` and `freshen` -/

/-- the result of `filter_by_set` is a permutation of the order-preserving filter -/
theorem C05_T1_filterBySet_perm (Γ : Ctx) (S : List Nat) :
    (filterBySet Γ S).Perm (Γ.filter (fun b => S.contains b.var.id)) := filterBySet_perm Γ S

/-- duplicate-free if Γ is -/
theorem C05_T1_filterBySet_nodup (Γ : Ctx) (S : List Nat) (h : NodupIds Γ) :
    NodupIds (filterBySet Γ S) := filterBySet_nodup h

/-- its id set is `ids Γ ∩ S` -/
theorem C05_T1_filterBySet_ids (Γ : Ctx) (S : List Nat) (i : Nat) :
    i ∈ (filterBySet Γ S).ids ↔ i ∈ Γ.ids ∧ i ∈ S := mem_ids_filterBySet

/-- every kept binding is a binding of Γ: it keeps its name, kind and type -/
theorem C05_T1_filterBySet_keeps (Γ : Ctx) (S : List Nat) (b : Binding) :
    b ∈ filterBySet Γ S ↔ b ∈ Γ ∧ b.var.id ∈ S := mem_filterBySet

/-- "preserves positions": a kept binding whose position still exists in the result does not move -/
theorem C05_T1_filterBySet_positions (Γ : Ctx) (S : List Nat) (j : Nat) (b : Binding)
    (hj : Γ[j]? = some b) (hb : b.var.id ∈ S) (hlt : j < (filterBySet Γ S).length) :
    (filterBySet Γ S)[j]? = some b := filterBySet_positions Γ S j b hj hb hlt

/-- fuel sufficiency of the inner loop: `new.length` iterations are enough -/
theorem C05_T1_filterWhile_fuel (S : List Nat) (pos k : Nat) (new : List Binding) :
    filterWhile S pos (new.length + k) new = filterWhile S pos new.length new :=
  filterWhile_fuel S pos k new

/-- `freshen`: `max_id` only grows; length, kinds and types are preserved position by position;
every binding is either kept or gets an id in `(maxId, maxId']`; the new ids are pairwise distinct
and outside the clash set (all ids involved being `≤ maxId`). -/
theorem C05_T1_freshen (Γ : Ctx) (C : List Nat) (M : Nat)
    (hΓ : ∀ i ∈ Γ.ids, i ≤ M) (hC : ∀ i ∈ C, i ≤ M) :
    M ≤ (freshen Γ C M).2 ∧
    (freshen Γ C M).1.length = Γ.length ∧
    (∀ p ∈ Γ.zip (freshen Γ C M).1, p.2.chi = p.1.chi ∧ p.2.ty = p.1.ty ∧
        (p.2 = p.1 ∨ (M < p.2.var.id ∧ p.2.var.id ≤ (freshen Γ C M).2))) ∧
    NodupIds (freshen Γ C M).1 ∧
    (∀ i ∈ (freshen Γ C M).1.ids, i ∉ C) ∧
    (∀ i ∈ (freshen Γ C M).1.ids, i ∈ Γ.ids ∨ (M < i ∧ i ≤ (freshen Γ C M).2)) :=
  freshen_spec M Γ C M hΓ hC (Nat.le_refl _)

/-! ## T2: the free-variable annotation -/

/-- the sets computed by `freeVars` only contain variables in scope -/
theorem C05_T2_freeVars_in_scope (T : List TypeDecl) (S : Sigs) (M : Nat) (s : Stmt) (Γ : Ctx)
    (h : WT T S M s Γ) : ∀ y ∈ (freeVars s).2, y ∈ Γ.ids := fv_sub T S M s Γ h

/-- soundness of `freeVars` in the form T3 uses: the annotated statement is typed (`WTA`) under every
sub-context containing the computed free variables, where `WTA` types the continuation of every
binding statement under the context RESTRICTED to the annotated set. -/
theorem C05_T2_freeVars_sound (T : List TypeDecl) (S : Sigs) (M : Nat) (s : Stmt) (Γ : Ctx)
    (h : WT T S M s Γ) (hn : NodupIds Γ) (hM : ∀ i ∈ Γ.ids, i ≤ M) (Γ' : Ctx)
    (hs : KeysSub Γ' Γ) (hfv : ∀ y ∈ (freeVars s).2, y ∈ Γ'.ids) :
    WTA T S M (freeVars s).1 Γ.ids Γ' := freeVars_WTA T S M s Γ h hn hM Γ' hs hfv

/-! ## T3: the linearized program is ordered-linearly typed (parts a, b of the property) -/

/-- C05 (a), (b) — statement -/
def C05_linearize_LinTyped_statement : Prop :=
  ∀ p : Prog, WfNonLinear p →
    ∃ p', linearizeProg p = .ok p' ∧ LinTypedProg p' ∧
      p'.types = p.types ∧ p'.sigs = p.sigs ∧ p.maxId ≤ p'.maxId

/-- C05 (a), (b): for every well-formed non-linear program the linearizer does not panic and
every definition of its output is `LinTyped` under the definition's parameter list. -/
theorem C05_linearize_LinTyped : C05_linearize_LinTyped_statement :=
  fun p h => linearizeProg_LinTyped p h

/-- the verified checker accepts ⇒ `LinTypedProg` (used on the IMPLEMENTATION's S5 output) -/
theorem C05_linTypedCheck_sound (p : Prog) (h : linTypedCheck p = .ok ()) : LinTypedProg p :=
  linTypedCheck_sound p h

/-! ## T4 / T5: semantics -/

/-- T4 (C05 c) — statement: the named machine on `p` and the positional machine on
`linearize p` have the same behaviour: every finished run of one (result `done v`, or stuck with
division by zero / overflow) is matched by a run of the other with the same trace and the same
outcome.  (`Sim.finishedNamed`, `Sim.finishedPos`, `Sim.sameOutcome` are defined in
Scc/AxCut/SemEq.lean.)  Side conditions: the input carries no closure-environment annotations
(`noEnvAnnProg`: they are written by the linearizer; true of every S4 dump) and the entry point
takes integers. -/
def C05_T4_linearize_sem : Prop :=
  ∀ (p p' : Prog) (args : List (BitVec 64)), WfNonLinear p → noEnvAnnProg p = true →
    (∀ d, p.defs.head? = some d → ∀ b ∈ d.ctx, b.chi = .ext ∧ b.ty = .i64) →
    linearizeProg p = .ok p' →
    (∀ n, Sim.finishedNamed (Named.run p args n).res →
      ∃ m, (Pos.run p' args m).out = (Named.run p args n).out ∧
        Sim.sameOutcome (Named.run p args n).res (Pos.run p' args m).res) ∧
    (∀ m, Sim.finishedPos (Pos.run p' args m).res →
      ∃ n, (Pos.run p' args m).out = (Named.run p args n).out ∧
        Sim.sameOutcome (Named.run p args n).res (Pos.run p' args m).res)

/-- T4 (proved): `linearize` output is a linearization of the input in the sense of the
declarative relation `LinRel` (Scc/AxCut/LinRel.lean, proved in LinRelLin.lean), and `LinRel`
implies a lockstep simulation between the two machines (LinRelSim.lean). -/
theorem C05_T4 : C05_T4_linearize_sem :=
  fun p p' args hwf hne hmain hlin =>
    Sim.linRelProg_sem p p' args (linearizeProg_linRel p p' hwf hne hlin) hmain

/-- T5 — statement: the positional machine never violates a shape on a `LinTyped` program whose
entry takes integers: the only ways to stop are `done`, division by zero, overflow (or running out
of fuel).  `Pos.ResSafe r` is: `r = done _ ∨ r = outOfFuel ∨ r = stuck divByZero ∨ r = stuck overflow`
(no `shape`, `unbound`, `sort`, `lookup`). -/
def C05_T5_LinTyped_safe : Prop :=
  ∀ (p : Prog) (args : List (BitVec 64)) (fuel : Nat), LinTypedProg p →
    (∀ d, p.defs.head? = some d →
      d.ctx.length = args.length ∧ ∀ b ∈ d.ctx, b.chi = .ext ∧ b.ty = .i64) →
    p.defs ≠ [] →
    Pos.ResSafe (Pos.run p args fuel).res

/-- T5 (proved): type safety of the positional machine w.r.t. `LinTyped` — what the backends
assume about their input. -/
theorem C05_T5 : C05_T5_LinTyped_safe :=
  fun _ args fuel hP hentry hne => Pos.run_safe hP args fuel hentry hne

/-- T3 + T5: the OUTPUT OF THE LINEARIZER runs on the positional machine without ever violating
a shape. -/
theorem C05_linearize_safe (p p' : Prog) (args : List (BitVec 64)) (fuel : Nat)
    (hwf : WfNonLinear p) (hlin : linearizeProg p = .ok p')
    (hentry : ∀ d, p'.defs.head? = some d →
      d.ctx.length = args.length ∧ ∀ b ∈ d.ctx, b.chi = .ext ∧ b.ty = .i64)
    (hne : p'.defs ≠ []) : Pos.ResSafe (Pos.run p' args fuel).res := by
  obtain ⟨p'', e, hty, _⟩ := C05_linearize_LinTyped p hwf
  rw [hlin] at e
  injection e with e
  subst e
  exact C05_T5 p' args fuel hty hentry hne

def C05_statement : Prop :=
  C05_linearize_LinTyped_statement ∧ C05_T4_linearize_sem ∧ C05_T5_LinTyped_safe

/-- C05 in full: (a), (b) ordered-linear typing of the output, (c) same behaviour, and progress -/
theorem C05_full : C05_statement := ⟨C05_linearize_LinTyped, C05_T4, C05_T5⟩

def tyList : Ty := .decl ⟨"List", 0⟩
def tyCont : Ty := .decl ⟨"Cont", 0⟩
def v (n : String) (i : Nat) : Ident := ⟨n, i⟩
def bx (n : String) (i : Nat) : Binding := ⟨⟨n, i⟩, .ext, .i64⟩

/-- a non-linear program: `a` is used three times, `b` once in one branch only, the closure
captures `a`, the scrutinee `l` is dead after the switch, `f` ignores its second parameter. -/
def exProg : Prog where
  maxId := 12
  types := [
    ⟨⟨"List", 0⟩, [⟨⟨"Nil", 0⟩, []⟩, ⟨⟨"Cons", 0⟩, [bx "x" 0, ⟨⟨"xs", 0⟩, .prd, tyList⟩]⟩]⟩,
    ⟨⟨"Cont", 0⟩, [⟨⟨"Ret", 0⟩, [bx "r" 0]⟩]⟩]
  defs := [
    { name := ⟨"main", 0⟩, ctx := [bx "a" 1],
      body :=
        .lit (v "b" 2) 1
          (.letS (v "n" 3) tyList ⟨"Nil", 0⟩ []
            (.letS (v "l" 4) tyList ⟨"Cons", 0⟩ [bx "a" 1, ⟨v "n" 3, .prd, tyList⟩]
              (.create (v "k" 5) tyCont none
                (.cons ⟨"Ret", 0⟩ [bx "r" 6]
                  (.op (v "s" 7) (v "r" 6) .sum (v "a" 1) (.exit (v "s" 7)) none) .nil)
                (.switch (v "l" 4) tyList
                  (.cons ⟨"Nil", 0⟩ [] (.invoke (v "k" 5) ⟨"Ret", 0⟩ tyCont [bx "b" 2])
                    (.cons ⟨"Cons", 0⟩ [bx "h" 8, ⟨v "t" 9, .prd, tyList⟩]
                      (.call ⟨"f", 0⟩ [bx "h" 8, bx "a" 1, ⟨v "k" 5, .cns, tyCont⟩]) .nil))
                  none)
                none none)
              none)
            none)
          none },
    { name := ⟨"f", 0⟩, ctx := [bx "u" 10, bx "w" 11, ⟨v "k" 12, .cns, tyCont⟩],
      body := .print true (v "u" 10) (.invoke (v "k" 12) ⟨"Ret", 0⟩ tyCont [bx "u" 10]) none }]

/-- the precondition of T3 is satisfiable -/
example : WfNonLinear exProg := by decide +kernel

/-- … and on this program the linearizer really inserts explicit substitutions, and the verified
checker accepts the result -/
example : ∃ p', linearizeProg exProg = .ok p' ∧ (linTypedCheck p').toBool = true ∧
    p'.maxId = 14 := by
  refine ⟨_, rfl, ?_, ?_⟩ <;> decide +kernel

/-- the side conditions of T4 hold for the example -/
example : noEnvAnnProg exProg = true ∧
    (∀ d, exProg.defs.head? = some d → ∀ b ∈ d.ctx, b.chi = .ext ∧ b.ty = .i64) := by
  refine ⟨by decide +kernel, ?_⟩
  intro d hd
  simp only [exProg, List.head?_cons, Option.some.injEq] at hd
  subst hd
  decide

/-- … and the named machine on the example finishes (so T4 is not vacuous): `main(5)` prints 5
and returns 10, exactly as the positional machine on the linearized program (next example) -/
example : (Named.run exProg [5] 100).out = [(true, 5)] ∧
    Sim.finishedNamed (Named.run exProg [5] 100).res ∧
    Sim.sameOutcome (Named.run exProg [5] 100).res (.done 10) := by
  refine ⟨by decide +kernel, ?_, ?_⟩
  · have : (Named.run exProg [5] 100).res = .done 10 := by rfl
    rw [this]; trivial
  · have : (Named.run exProg [5] 100).res = .done 10 := by rfl
    rw [this]; rfl

/-- the hypotheses of T5 / `C05_linearize_safe` are satisfiable, and the run is not trivial:
`main(5)` builds a list, creates a closure capturing `a`, switches, calls `f`, which prints 5 and
invokes the closure: result 5 + 5 -/
example : ∃ p', linearizeProg exProg = .ok p' ∧
    (∀ d, p'.defs.head? = some d →
      d.ctx.length = [(5 : BitVec 64)].length ∧ ∀ b ∈ d.ctx, b.chi = .ext ∧ b.ty = .i64) ∧
    Pos.run p' [5] 100 = ⟨[(true, 5)], .done 10⟩ := by
  refine ⟨_, rfl, ?_, ?_⟩
  · intro d hd
    simp only [List.head?_cons, Option.some.injEq] at hd
    subst hd
    decide
  · decide +kernel

/-- `filterBySet` on a concrete context: the bindings with ids in the set; here their order is that of the context -/
example : filterBySet [bx "a" 1, bx "b" 2, bx "c" 3, bx "d" 4] [1, 4] = [bx "a" 1, bx "d" 4] := by
  decide

example : (freshen [bx "a" 1, bx "b" 2, bx "a" 1] [2] 7).1 = [bx "a" 1, bx "b" 8, bx "a" 9] := by
  decide

#print axioms C05_T1_filterBySet_perm
#print axioms C05_T1_filterBySet_nodup
#print axioms C05_T1_filterBySet_ids
#print axioms C05_T1_filterBySet_keeps
#print axioms C05_T1_filterBySet_positions
#print axioms C05_T1_filterWhile_fuel
#print axioms C05_T1_freshen
#print axioms C05_T2_freeVars_in_scope
#print axioms C05_T2_freeVars_sound
#print axioms C05_linearize_LinTyped
#print axioms C05_linTypedCheck_sound
#print axioms C05_T5
#print axioms C05_linearize_safe
#print axioms C05_T4
#print axioms C05_full

end Scc.Props.C05
