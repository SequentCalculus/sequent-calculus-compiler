/-
  Scc.Props.C12Final — THE FINAL THEOREM OF PROPERTY C12, and the "later stages" clause of C18.

  Property C12 (fixed text): "For every program accepted by the type checker, every later stage
  (translation to Core, uniquification, focusing, shrinking, linearization, code generation) terminates
  without an internal error and produces output that is well-typed in that stage's own type system … a
  user-facing capacity diagnostic is the only permitted way not to produce code."

  The four links of `C12_chain` (Props/C12.lean) are proved separately, each with its own side premises:
    fun2core   `C12_link_fun2core_proved`        (Props/C12Fun2Core.lean;       extra premise `C02_noSigmaNames`)
               `C12_link_fun2core_strict_proved` (Props/C12Fun2CoreStrict.lean; extra premise `C12_noContType`)
    focus      `C12_focus_typed`  \  `C12_mid_typed` (Props/C12Mid.lean; per C03 `Input` with `typesDisjoint`,
    shrink     `C04_shrink_typed` /                    `strictOk` — facts about the OUTPUT of fun2core)
    codegen    `C12_codegenTotal_of_linTyped`    (Props/C12Codegen.lean; `LinTypedProg q5`, `q5.defs ≠ []`)
  and the side premises on names hold of everything lexer + parser accept
  (`C12_source_names`: `programNamesOk`, no name `ς`, no type `_Cont`).  This file COMPOSES them.

  * `C12_final`   for every literal mode and every source TEXT: parse ok → check ok → `validMain` →
                  `noMainCall` ⇒ `C12_conclusion p p'` (Props/C12.lean: S1 … S5 exist, each is well-typed
                  under its stage's checker, and the three code generators return code or one of the four
                  `C12_capacityErrors`).  NO link hypothesis; the only hypotheses are the four premises,
                  each decidable on the source (`validMain`, `noMainCall` are `Bool` functions of `p'`).
                  `noMainCall` cannot be dropped: `C12_statement_full_false` (finding D13, a defect of /repo).
  * `C12_final_ast`  the same for ASTs (not necessarily produced by the parser), with the three name
                  conditions as explicit decidable premises; each of them is necessary for the statement over
                  ASTs (`C12_link_fun2core_false`, `C12_link_fun2core_strict_false`) and none is a restriction
                  on source texts.
  * `C12_final_sharp`  the code-generator clause with the parameters of `main` counted (`validMain` ⇒ at most
                  5 parameters): "too many arguments for main" is NOT reachable either — x86-64 `compileX86`:
                  ok | "Out of temporaries"; x86-64 `intoRoutine`: always ok; AArch64 `compileProg`: ok |
                  "Out of temporaries"; RISC-V `compileRoutine`: ok | "Out of registers" |
                  "not implemented in RISC-V backend" (the program prints; documented).
  * `C18_later_stages_total`  the clause of C18 "for every accepted program with a valid entry point every
                  later stage terminates normally … the only exception being the explicit 'out of
                  temporaries/registers' capacity assertion of the backends": under the same four premises
                  every stage function of the composed model (`stageS2 … stageS5`, `middleEnd`) returns `ok`,
                  and every back-end function (`X86.compileX86`, `X86.intoRoutine`, `backEndX86`,
                  `compileAllX86`, `A64.compileProg`, `RV.compileRoutine`) returns `ok` or an error whose
                  message is in the explicit list `C18_capacityMessages` (with the stage prefix for the
                  pipeline functions).
  * `C18_text_total`  C18 for the whole model from the TEXT, repaired literal action (the current source,
                  `C18_literal_mode_current`): `frontEnd src` is never a panic (`C18_parse_statement_fixed`,
                  `C15_no_panic`), and `compileTextX86` returns code, a diagnostic of parser / checker, or the
                  capacity message — for every text whose `main` is valid and not called.
  Glue proved here: `C12_mainHead5` (first definition of S5 has `mainArity p' ≤ 5` parameters, from
  `stages_mainHead` and `validMain`), `C12_mainArity_le` (Props/C12.lean: `validMain` ⇒ `mainArity ≤ 5`).
  What remains open of C12: nothing but D13 (`noMainCall`), which is a defect of /repo, not a gap of the proof.
-/
import Scc.Props.C12Fun2CoreStrict
import Scc.Props.C12Codegen
import Scc.Props.C18

namespace Scc.Props

open Scc Scc.Pipeline Scc.Backend.Total
open Scc.Fun.Check (checkProgram programNamesOk)

/-- the linearized program of a successful compilation of a program with a valid `main` has a first
    definition, with at most five parameters -/
theorem C12_mainHead5 {p' : Fun.CheckedProgram} {st : Stages} (hv : validMain p' = true)
    (hok : stages p' = .ok st) :
    st.s5.defs ≠ [] ∧ ∀ d0 ds, st.s5.defs = d0 :: ds → d0.ctx.length ≤ 5 := by
  obtain ⟨_, _, _, d, ds, hd, hlen, _⟩ := stages_mainHead (validMainK_of_validMain hv) hok
  refine ⟨by rw [hd]; exact List.cons_ne_nil _ _, ?_⟩
  intro d0 ds0 hd0
  rw [hd] at hd0
  injection hd0 with h1 _
  rw [← h1, hlen]
  exact C12_mainArity_le hv

/-- C12 over ASTs: all four links composed; the premises are the four of `C12_statement` and the two
    name conditions that the lexer guarantees -/
theorem C12_final_ast (p : Fun.Program) (p' : Fun.CheckedProgram)
    (hn : programNamesOk p = true) (hc : checkProgram p = .ok p') (hv : validMain p' = true)
    (hmc : Fun.noMainCall p' = true) (hs : C02_noSigmaNames p' = true)
    (hcont : C12_noContType p' = true) : C12_conclusion p p' := by
  obtain ⟨st, F⟩ := C12_facts_proved p p' hn hc hv hmc hs hcont
  exact ⟨F.wt, F.annotated, st, F.ok, F.input2.typed, wtFsCheck_of_scoped F.scoped3, F.unique3,
    F.wtAx4, F.lin5, C12_codegenTotal_of_linTyped st.s5 F.lin5 (C12_mainHead5 hv F.ok).1⟩

/-- the code-generator link of Props/C12.lean holds for everything lexer + parser accept -/
theorem C12_source_link_codegen (mode : Fun.Parse.LiteralMode) (src : String) (p : Fun.Program)
    (p' : Fun.CheckedProgram) (st : Stages) (hparse : Fun.Parse.parse mode src = .ok p)
    (hc : checkProgram p = .ok p') (hv : validMain p' = true) (hmc : Fun.noMainCall p' = true)
    (hok : stages p' = .ok st) : C12_codegenTotal st.s5 := by
  obtain ⟨hn, hs, hcont⟩ := C12_source_names hparse hc
  obtain ⟨_, _, st', hok', _, _, _, _, _, h6⟩ := C12_final_ast p p' hn hc hv hmc hs hcont
  rw [hok] at hok'
  injection hok' with e
  rw [e]
  exact h6

/-- **C12, FINAL**: for every source text that lexer + parser accept (either literal mode) and the type
    checker accepts, with a valid `main` that is never called: the source is well-typed and annotated; the
    translation to Core, uniquification + focusing, shrinking and linearization all succeed; S2 passes
    Core's type checker, S3 passes `wtFsCheck` and `uniqueBindersCheck`, S4 passes `wtAxCheck`, S5 is
    `LinTypedProg`; and on S5 the three code generators (x86-64 incl. `intoRoutine`, AArch64, RISC-V)
    return code or one of the documented capacity messages `C12_capacityErrors` — for every hook setting
    and label counter.  No link hypothesis. -/
theorem C12_final (mode : Fun.Parse.LiteralMode) (src : String) (p : Fun.Program)
    (p' : Fun.CheckedProgram) (hparse : Fun.Parse.parse mode src = .ok p)
    (hc : checkProgram p = .ok p') (hv : validMain p' = true) (hmc : Fun.noMainCall p' = true) :
    C12_conclusion p p' := by
  obtain ⟨hn, hs, hcont⟩ := C12_source_names hparse hc
  exact C12_final_ast p p' hn hc hv hmc hs hcont

/-- `C12_statement` (Props/C12.lean) restricted to parser output IS a theorem -/
def C12_statement_source : Prop :=
  ∀ (mode : Fun.Parse.LiteralMode) (src : String) (p : Fun.Program) (p' : Fun.CheckedProgram),
    Fun.Parse.parse mode src = .ok p → checkProgram p = .ok p' → validMain p' = true →
    Fun.noMainCall p' = true → C12_conclusion p p'

theorem C12_statement_source_proved : C12_statement_source := C12_final

/-- the code generators' outcomes on the linearized program of a program with a valid `main` -/
def C12_codegenSharp (q5 : AxCut.Prog) : Prop :=
  ∀ (hooks : Bool) (c : Nat),
    ResOk (fun e => e = "Out of temporaries") (X86.compileX86 q5 hooks c) ∧
    (∀ body nargs, X86.compileX86 q5 hooks c = .ok (body, nargs) →
      ∃ r, X86.intoRoutine body nargs = .ok r) ∧
    ResOk (fun e => e = "Out of temporaries") (A64.compileProg A64.a64Backend q5 hooks c) ∧
    ResOk (fun e => e = "Out of registers" ∨ e = "not implemented in RISC-V backend")
      (RV.compileRoutine q5 hooks c)

theorem C12_codegenSharp_of_linTyped (q5 : AxCut.Prog) (htp : AxCut.LinTypedProg q5)
    (hne : q5.defs ≠ []) (hmain : ∀ d0 ds, q5.defs = d0 :: ds → d0.ctx.length ≤ 5) :
    C12_codegenSharp q5 := by
  intro hooks c
  refine ⟨C12_codegen_x86 q5 htp hne hooks c, ?_, ?_, C12_codegen_rv q5 htp hne hooks c⟩
  · intro body nargs h
    exact C12_routine_x86 q5 hooks c body nargs hmain h
  · exact C12_codegen_a64_main q5 htp hne hooks c
      (fun d0 ds h => Nat.le_trans (hmain d0 ds h) (by decide))

/-- **C12, final, sharp form of the code-generator clause**: `validMain` bounds the parameters of `main`
    by 5, so "too many arguments for main" is not reachable: x86-64 `intoRoutine` never fails, x86-64 /
    AArch64 code generation fails only with "Out of temporaries", RISC-V only with "Out of registers" or
    the documented "not implemented in RISC-V backend" -/
theorem C12_final_sharp (mode : Fun.Parse.LiteralMode) (src : String) (p : Fun.Program)
    (p' : Fun.CheckedProgram) (hparse : Fun.Parse.parse mode src = .ok p)
    (hc : checkProgram p = .ok p') (hv : validMain p' = true) (hmc : Fun.noMainCall p' = true) :
    ∃ st : Stages, stages p' = .ok st ∧ AxCut.LinTypedProg st.s5 ∧ C12_codegenSharp st.s5 := by
  obtain ⟨hn, hs, hcont⟩ := C12_source_names hparse hc
  obtain ⟨st, F⟩ := C12_facts_proved p p' hn hc hv hmc hs hcont
  obtain ⟨hne, hmain⟩ := C12_mainHead5 hv F.ok
  exact ⟨st, F.ok, F.lin5, C12_codegenSharp_of_linTyped st.s5 F.lin5 hne hmain⟩

/-- the capacity messages of the back ends — the ONLY error messages any stage model can return on an
    accepted program with a valid `main` that is not called -/
def C18_capacityMessages : List String :=
  ["Out of temporaries", "Out of registers", "not implemented in RISC-V backend"]

/-- a result or an error whose message, after an optional stage prefix, is a capacity message -/
def C18_okOrCap {α : Type} (pre : String) : Except String α → Prop
  | .ok _ => True
  | .error e => ∃ m ∈ C18_capacityMessages, e = pre ++ m

theorem C18_capacity_sub : ∀ m ∈ C18_capacityMessages, m ∈ C12_capacityErrors := by decide

theorem C18_okOrCap_of_resOk {α : Type} {cap : String → Prop} {r : Except String α}
    (hcap : ∀ e, cap e → e ∈ C18_capacityMessages) (h : ResOk cap r) : C18_okOrCap "" r := by
  cases r with
  | ok a => trivial
  | error e => exact ⟨e, hcap e h, by simp⟩

/-- `backEndX86` on a program on which `compileX86` fails only for capacity and `intoRoutine` not at all:
    the only error is the tagged capacity message of `compileX86` -/
theorem C18_backEndX86_error {q5 : AxCut.Prog} (h : C12_codegenSharp q5) (hooks : Bool) (c : Nat)
    (e : String) (he : backEndX86 hooks c q5 = .error e) : e = "S6x compile: Out of temporaries" := by
  obtain ⟨h1, h2, _, _⟩ := h hooks c
  unfold backEndX86 at he
  cases hx : X86.compileX86 q5 hooks c with
  | error e' =>
    rw [hx] at h1
    have h1 : e' = "Out of temporaries" := h1
    simp only [hx, tagErr, Except.error.injEq] at he
    rw [← he, h1]
    decide
  | ok r =>
    obtain ⟨body, nargs⟩ := r
    obtain ⟨rt, hrt⟩ := h2 body nargs hx
    simp [hx, tagErr, hrt] at he

theorem C18_backEndX86 {q5 : AxCut.Prog} (h : C12_codegenSharp q5) (hooks : Bool) (c : Nat) :
    C18_okOrCap "S6x compile: " (backEndX86 hooks c q5) := by
  cases hb : backEndX86 hooks c q5 with
  | ok r => trivial
  | error e =>
    refine ⟨"Out of temporaries", by decide, ?_⟩
    rw [C18_backEndX86_error h hooks c e hb]
    decide

/-- what "terminates normally" means for the stages of one compilation: every stage function of the
    composed model returns `ok`, and every back-end function returns `ok` or a capacity message -/
structure C18_LaterStages (p' : Fun.CheckedProgram) (st : Stages) : Prop where
  s2 : stageS2 p' = .ok st.s2
  s3 : stageS3 st.s2 = .ok st.s3
  s4 : stageS4 st.s3 = .ok st.s4
  s5 : stageS5 st.s4 = .ok st.s5
  all : stages p' = .ok st
  middle : middleEnd p' = .ok st.s5
  x86 : ∀ hooks c, C18_okOrCap "" (X86.compileX86 st.s5 hooks c)
  x86routine : ∀ hooks c body nargs, X86.compileX86 st.s5 hooks c = .ok (body, nargs) →
    ∃ r, X86.intoRoutine body nargs = .ok r
  x86back : ∀ hooks c, C18_okOrCap "S6x compile: " (backEndX86 hooks c st.s5)
  x86all : ∀ hooks c, C18_okOrCap "S6x compile: " (compileAllX86 hooks c p')
  a64 : ∀ hooks c, C18_okOrCap "" (A64.compileProg A64.a64Backend st.s5 hooks c)
  rv : ∀ hooks c, C18_okOrCap "" (RV.compileRoutine st.s5 hooks c)

theorem C18_laterStages_of {p' : Fun.CheckedProgram} {st : Stages} (hok : stages p' = .ok st)
    (h6 : C12_codegenSharp st.s5) : C18_LaterStages p' st := by
  obtain ⟨e2, e3, e4, e5⟩ := stages_ok_iff.1 hok
  have hmid : middleEnd p' = .ok st.s5 := middleEnd_ok_iff.2 ⟨st, hok, rfl⟩
  refine
    { s2 := tagErr_ok.2 e2, s3 := tagErr_ok.2 e3, s4 := tagErr_ok.2 e4, s5 := tagErr_ok.2 e5
      all := hok, middle := hmid
      x86 := fun hooks c => C18_okOrCap_of_resOk ?_ (h6 hooks c).1
      x86routine := fun hooks c => (h6 hooks c).2.1
      x86back := C18_backEndX86 h6
      x86all := ?_
      a64 := fun hooks c => C18_okOrCap_of_resOk ?_ (h6 hooks c).2.2.1
      rv := fun hooks c => C18_okOrCap_of_resOk ?_ (h6 hooks c).2.2.2 }
  · intro e he; rw [he]; decide
  · intro hooks c
    unfold compileAllX86
    rw [hmid]
    exact C18_backEndX86 h6 hooks c
  · intro e he; rw [he]; decide
  · rintro e (he | he) <;> (rw [he]; decide)

/-- **C18, later stages** ("for every accepted program with a valid entry point every later stage
    terminates normally … the only exception being the explicit capacity assertion of the backends"):
    for every source text that parser and checker accept, with a valid `main` (at most five integer
    parameters, integer result) that is not called (D13), NO stage model returns an error / panic outcome
    other than a capacity message of `C18_capacityMessages`:
    translation to Core, uniquify + focus, shrinking, linearization: `ok`;
    x86-64 code generation: `ok` | "Out of temporaries"; x86-64 `intoRoutine`: `ok`;
    AArch64: `ok` | "Out of temporaries";
    RISC-V: `ok` | "Out of registers" | "not implemented in RISC-V backend". -/
theorem C18_later_stages_total (mode : Fun.Parse.LiteralMode) (src : String) (p : Fun.Program)
    (p' : Fun.CheckedProgram) (hparse : Fun.Parse.parse mode src = .ok p)
    (hc : checkProgram p = .ok p') (hv : validMain p' = true) (hmc : Fun.noMainCall p' = true) :
    ∃ st : Stages, C18_LaterStages p' st := by
  obtain ⟨st, hok, _, h6⟩ := C12_final_sharp mode src p p' hparse hc hv hmc
  exact ⟨st, C18_laterStages_of hok h6⟩

theorem frontEnd_of_parse_check {src : String} {p : Fun.Program} {p' : Fun.CheckedProgram}
    (hp : Fun.Parse.parse .diagOnOverflow src = .ok p) (hc : checkProgram p = .ok p') :
    frontEnd src = .ok p p' := by
  simp [frontEnd, hp, hc]

theorem frontEnd_ok_iff {src : String} {p : Fun.Program} {p' : Fun.CheckedProgram} :
    frontEnd src = .ok p p' ↔
      Fun.Parse.parse .diagOnOverflow src = .ok p ∧ checkProgram p = .ok p' := by
  constructor
  · intro hf
    cases hp : Fun.Parse.parse .diagOnOverflow src with
    | diag d => simp [frontEnd, hp] at hf
    | panic s => cases s; simp [frontEnd, hp] at hf
    | ok q =>
      cases hc : checkProgram q with
      | ok q' =>
        simp only [frontEnd, hp, hc, Outcome.ok.injEq] at hf
        obtain ⟨rfl, rfl⟩ := hf
        exact ⟨rfl, hc⟩
      | diag d => simp [frontEnd, hp, hc] at hf
      | panic s => simp [frontEnd, hp, hc] at hf
  · rintro ⟨hp, hc⟩
    exact frontEnd_of_parse_check hp hc

/-- the front end of the composed model never panics: the parser by `C18_parse_statement_fixed`, the
    checker by `C15_no_panic` on parser output (`programNamesOk_of_parse`) -/
theorem C18_frontEnd_no_panic (src : String) (site : String) : frontEnd src ≠ .panic site := by
  cases hp : Fun.Parse.parse .diagOnOverflow src with
  | diag c => simp [frontEnd, hp]
  | panic s => exact absurd hp (C18_parse_statement_fixed src s)
  | ok p =>
    have hn := Fun2Core.Typed.programNamesOk_of_parse hp
    cases hc : checkProgram p with
    | ok p' => simp [frontEnd, hp, hc]
    | diag c => simp [frontEnd, hp, hc]
    | panic s => exact absurd hc (C15_no_panic p s hn)

/-- the outcome classes of the whole compiler on a text: code, a diagnostic, or a capacity message -/
def C18_textOutcomeOk : Except String (Nat × String) → Prop
  | .ok _ => True
  | .error e => (∃ c, e = "S0 DIAG " ++ c) ∨ (∃ c, e = "S1 DIAG " ++ c) ∨
      e = "S6x compile: Out of temporaries"

/-- **C18 for the composed model, from the text**: for every input text, either parser or checker report
    a diagnostic, or — when `main` is valid and not called — the compiler returns the routine text or the
    capacity message; never a panic outcome.  (The premises on `main` are phrased on `frontEnd src`.) -/
theorem C18_text_total (src : String) (hooks : Bool) (c : Nat)
    (hmain : ∀ p p', frontEnd src = .ok p p' → validMain p' = true ∧ Fun.noMainCall p' = true) :
    C18_textOutcomeOk (compileTextX86 hooks c src) := by
  cases hf : frontEnd src with
  | parseDiag d => simp only [compileTextX86, hf]; exact .inl ⟨d, rfl⟩
  | checkDiag d => simp only [compileTextX86, hf]; exact .inr (.inl ⟨d, rfl⟩)
  | panic s => exact absurd hf (C18_frontEnd_no_panic src s)
  | ok p p' =>
    obtain ⟨hv, hmc⟩ := hmain p p' hf
    obtain ⟨hp, hc⟩ := frontEnd_ok_iff.1 hf
    obtain ⟨st, hok, _, h6⟩ := C12_final_sharp .diagOnOverflow src p p' hp hc hv hmc
    have hmid : middleEnd p' = .ok st.s5 := middleEnd_ok_iff.2 ⟨st, hok, rfl⟩
    simp only [compileTextX86, hf, compileAllX86, hmid]
    cases hb : backEndX86 hooks c st.s5 with
    | ok r => trivial
    | error e => exact .inr (.inr (C18_backEndX86_error h6 hooks c e hb))

/-! ## non-vacuity: the example sources of Props/C12.lean and Props/C12Fun2Core.lean satisfy the four
premises, and what the theorems assert is re-evaluated on them by the kernel (Props/C12Examples.lean) -/

/-- the four premises of `C12_final` on a source text (repaired literal action) -/
def C12_finalPremises (src : String) : Bool :=
  match Fun.Parse.parse .diagOnOverflow src with
  | .ok p =>
    match checkProgram p with
    | .ok p' => validMain p' && Fun.noMainCall p'
    | _ => false
  | _ => false

/-- what `C12_finalPremises src = true` gives (one direction, despite the name) -/
theorem C12_finalPremises_iff {src : String} (h : C12_finalPremises src = true) :
    ∃ p p', Fun.Parse.parse .diagOnOverflow src = .ok p ∧ checkProgram p = .ok p' ∧
      validMain p' = true ∧ Fun.noMainCall p' = true := by
  cases hp : Fun.Parse.parse .diagOnOverflow src with
  | ok p =>
    cases hc : checkProgram p with
    | ok p' =>
      simp only [C12_finalPremises, hp, hc, Bool.and_eq_true] at h
      exact ⟨p, p', rfl, hc, h.1, h.2⟩
    | diag c => simp [C12_finalPremises, hp, hc] at h
    | panic c => simp [C12_finalPremises, hp, hc] at h
  | diag c => simp [C12_finalPremises, hp] at h
  | panic c => simp [C12_finalPremises, hp] at h

/-- independent re-evaluation of the decidable content of the conclusions on a source text: the stages
    succeed, every stage checker accepts, x86-64 and AArch64 produce code, RISC-V produces code or a
    capacity message (both examples print, so RISC-V answers "not implemented in RISC-V backend") -/
def C12_finalEval (src : String) : Bool :=
  match frontEnd src with
  | .ok _ p' =>
    match stages p' with
    | .ok st =>
      st.s2.wellTyped && Core2AxCut.wtFsCheck st.s3 && Core.uniqueBindersCheck st.s3 &&
      C12_isOk (AxCut.Named.wtAxCheck st.s4) && C12_isOk (AxCut.linTypedCheck st.s5) &&
      C12_isOk (compileAllX86 true 0 p') && C12_isOk (A64.compileProg A64.a64Backend st.s5 true 0) &&
      C12_okOrCapacityB (RV.compileRoutine st.s5 true 0)
    | .error _ => false
  | _ => false

/-- the premise `noMainCall` is necessary (finding D13, a defect of /repo): see `C12_statement_full_false` -/
example : ¬ C12_statement_full := C12_statement_full_false

#print axioms C12_mainHead5
#print axioms C12_final_ast
#print axioms C12_source_link_codegen
#print axioms C12_final
#print axioms C12_statement_source_proved
#print axioms C12_codegenSharp_of_linTyped
#print axioms C12_final_sharp
#print axioms C18_laterStages_of
#print axioms C18_later_stages_total
#print axioms C18_frontEnd_no_panic
#print axioms C18_text_total

end Scc.Props

#print axioms Scc.Props.C18_capacity_sub
#print axioms Scc.Props.C18_okOrCap_of_resOk
#print axioms Scc.Props.C18_backEndX86_error
#print axioms Scc.Props.C18_backEndX86
#print axioms Scc.Props.frontEnd_of_parse_check
#print axioms Scc.Props.frontEnd_ok_iff
#print axioms Scc.Props.C12_finalPremises_iff
