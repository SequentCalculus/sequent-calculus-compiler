/-
  Scc.Props.C14X86 — property C14 (the emitted assembly is well-formed) for the x86-64 backend.
  The validator is `Scc.X86.wfCheck` (Machine.lean: labels defined once, referenced labels defined or
  external, registers < 16, 32-bit displacement/immediate fields, `imul [mem], reg` does not exist,
  `jmp near` only in jump tables).

  * `C14_statement` — the full property as a `def : Prop`.  It is REFUTED (`C14_statement_false`,
    Props/C14X86Final.lean: two definitions whose labels coincide).  `C14_statement_refined` adds `ProgInRange`
    (literals are i64 values, < 4·10^8 xtors per type, < 2^31 pairs per substitution) and the name hypotheses
    `LabelSafe` / `CallsDefined` of C14Generic; no theorem proves or refutes it (a name the loader cannot read fails the names check, `C14_names_needed`,
    Props/C14Loader.lean; that the validator rejects the text is observed by `#eval` only); with the names check it holds: `C14_statement_refined_names`, `C14_x86_final`
    (Props/C14X86Final.lean: label definedness and uniqueness of the text, `jmp near` placement, absence of
    `imul [mem], reg`, the print → parse round trip).
  * PROVED:
      `C14_program_operand_ranges`  WHOLE PROGRAMS: every instruction of the routine (prologue, body,
                               epilogue) emitted for a program in range has registers < 16, every 32-bit
                               field in range and `mov r64, imm64` within i64 — for EVERY method the
                               generator can call, memory methods and parallel moves included;
                               `C14_program_no_imm_fault`: hence the machine fault `imm-out-of-range`
                               is unreachable in emitted code; `C14_program_operands`: every
                               instruction except a possible `imul [mem], reg` passes `codeOperandError`
      `C14_table_stride`       in the layout, entry k of a jump table is `jump_length(k) = 5k` bytes after
                               the table label; `C14_codeTable_shape`: code_table emits only `jmp near`
      `C14_operand_ranges`     what the backend computes from its constants fits the 32-bit fields:
                               `stack_offset(p)` for every spill slot, `field_offset` , `jump_length(k)`
      per method, full operand check (`OperandsOK` = `codeOperandError = none` for every code):
      `C14_arith_operands` (add sub mul div rem compare, every placement), `C14_mov_operands`,
      `C14_load_immediate_operands` (EVERY i64 literal, EVERY placement), `C14_load_immediate_no_imm_fault`,
      `C14_control_operands` (load_label, jump, add_and_jump, jump_label_if_*), `C14_print_operands`,
      `C14_pmoves_operands` (store/restore_temporary), `C14_memory_operands` (erase_block,
      share_block_n, store, load: every run of the generator), `C14_routine_operands` (setup/cleanup)
      `C14_D5_regression`, `C14_imul_witness`
-/
import Scc.X86.ProofsWfProg
import Scc.AxCut.LinTyping
import Scc.Props.C14Generic

namespace Scc.X86
open Scc.AxCut

/-- C14 (x86-64): the routine text of every compiled program passes the validator.  Refuted: `C14_statement_false`
    (Props/C14X86Final.lean). -/
def C14_statement : Prop :=
  ∀ (p : AxCut.Prog) (hooks : Bool) (body routine : List Code) (nargs : Nat),
    LinTypedProg p → compileX86 p hooks 0 = .ok (body, nargs) → intoRoutine body nargs = .ok routine →
    wfCheck (printProg routine) = .ok ()

/-- C14 (x86-64) with range and label hypotheses.  Proved for programs with text-safe names
    (`C14_statement_refined_names`, Props/C14X86Final.lean); as stated it is neither proved nor refuted. -/
def C14_statement_refined : Prop :=
  ∀ (p : AxCut.Prog) (hooks : Bool) (body routine : List Code) (nargs : Nat),
    LinTypedProg p → ProgInRange p → Scc.Props.C14Generic.LabelSafe p = true →
    Scc.Props.C14Generic.CallsDefined p →
    compileX86 p hooks 0 = .ok (body, nargs) → intoRoutine body nargs = .ok routine →
    wfCheck (printProg routine) = .ok ()

/-! ## whole programs: operand ranges -/

/-- the part of C14 about operands that holds for every program in range (no typing hypothesis) -/
def C14_operands_statement : Prop :=
  ∀ (p : AxCut.Prog) (hooks : Bool) (c0 : Nat) (body routine : List Code) (nargs : Nat),
    ProgInRange p → compileX86 p hooks c0 = .ok (body, nargs) → intoRoutine body nargs = .ok routine →
    ∀ code ∈ routine, codeRangeOK code

theorem C14_program_operand_ranges : C14_operands_statement :=
  fun _ _ _ _ _ _ hp h hr => routine_rangesOK hp h hr

/-- no emitted instruction can raise the machine fault `imm-out-of-range`: all its 32-bit fields pass
`imm32`, and `mov r64, imm64` passes its `fitsI64` guard -/
theorem C14_program_no_imm_fault {p : AxCut.Prog} {hooks : Bool} {c0 : Nat} {body routine : List Code}
    {nargs : Nat} (hp : ProgInRange p) (h : compileX86 p hooks c0 = .ok (body, nargs))
    (hr : intoRoutine body nargs = .ok routine) :
    ∀ code ∈ routine, (∀ i ∈ codeImm32s code, imm32 i = .ok (BitVec.ofInt 64 i)) ∧
      (∀ r i, code = .MOVI r i → fitsI64 i = true) :=
  fun code hc => imm_in_range_of_codeRangeOK (routine_rangesOK hp h hr code hc)

/-- every emitted instruction passes the validator's operand check, except possibly an
`imul [mem], reg` (emitted only for a `mul` whose spilled target is also a source) -/
theorem C14_program_operands {p : AxCut.Prog} {hooks : Bool} {c0 : Nat} {body routine : List Code}
    {nargs : Nat} (hp : ProgInRange p) (h : compileX86 p hooks c0 = .ok (body, nargs))
    (hr : intoRoutine body nargs = .ok routine) :
    ∀ code ∈ routine, codeOperandError code = none ∨ ∃ b i r, code = .IMULMR b i r :=
  routine_operandsOK hp h hr

theorem C14_table_stride (a0 : Nat) (T : String) (ls : List String) (rest : List Code) (k : Nat)
    (hk : k < ls.length) :
    (layoutFrom a0 (Code.LAB T :: (ls.map Code.JMPLN ++ rest)))[0]? = some a0 ∧
    (layoutFrom a0 (Code.LAB T :: (ls.map Code.JMPLN ++ rest)))[k + 1]? = some (a0 + 5 * k) ∧
    (Code.LAB T :: (ls.map Code.JMPLN ++ rest))[k + 1]? = some (Code.JMPLN ls[k]) ∧
    x86Backend.jumpLength k = 5 * (k : Int) :=
  let ⟨h1, h2, h3⟩ := table_stride a0 T ls rest k hk
  ⟨h1, h2, h3, jumpLength_eq k⟩

theorem C14_codeTable_shape (clauses : Clauses) (base : String) :
    ∃ ls : List String, Scc.Backend.codeTable x86Backend clauses base = ls.map Code.JMPLN :=
  codeTable_jmplns clauses base

/-- operand ranges from the constants (SPILL_NUM = 256, FIELDS_PER_BLOCK = 3, stride 5) -/
theorem C14_operand_ranges :
    (∀ p, p < 256 → fitsI32 (stackOffset p) = true) ∧
    (∀ n i, i ≤ 3 → fitsI32 (fieldOffset n i) = true) ∧
    (∀ k, k ≤ 400000000 → fitsI32 (jumpLength k) = true) ∧
    fitsI32 SPILL_SPACE = true ∧ fitsI32 (address 1) = true :=
  ⟨fun _ hp => fitsI32_stackOffset hp, fun n _ hi => fitsI32_fieldOffset n (by omega),
   fun _ hk => fitsI32_jumpLength hk, by decide, by decide⟩

theorem C14_mov_operands {t s : Temporary} (ht : OpndOK t) (hs : OpndOK s) : OperandsOK (mov t s) :=
  operandsOK_mov ht hs

/-- add / sub / mul / div / rem / compare with valid temporaries emit only encodable instructions
(for `mul`: except the aliased spilled target, `C14_imul_witness`) -/
theorem C14_arith_operands {t s1 s2 : Temporary} (ht : OpndOK t) (h1 : OpndOK s1) (h2 : OpndOK s2) :
    OperandsOK (add t s1 s2) ∧ OperandsOK (sub t s1 s2) ∧
    ((∀ p, t = .spill p → t ≠ s1 ∧ t ≠ s2) → OperandsOK (mul t s1 s2)) ∧
    OperandsOK (div t s1 s2) ∧ OperandsOK (rem t s1 s2) ∧ OperandsOK (compare s1 s2) :=
  ⟨operandsOK_add ht h1 h2, operandsOK_sub ht h1 h2, operandsOK_mul ht h1 h2,
   (operandsOK_div ht h1 h2).1, (operandsOK_div ht h1 h2).2, operandsOK_compare h1 h2⟩

/-- `load_immediate` emits only encodable instructions for EVERY `i64` literal and EVERY placement
(repaired code, /repo 512f045; defect D5 was the failure outside `fitsI32 v ∨ t is a register`) -/
theorem C14_load_immediate_operands {t : Temporary} (ht : OpndOK t) {v : Int} (h64 : fitsI64 v = true) :
    OperandsOK (loadImmediate t v) :=
  operandsOK_loadImmediate ht h64

/-- … hence the machine's `imm-out-of-range` fault is never reached by `load_immediate` code: every
32-bit field of every emitted instruction passes the machine's `imm32`, and the only 64-bit immediate
(`mov r64, imm64`) passes its `fitsI64` guard. -/
theorem C14_load_immediate_no_imm_fault {t : Temporary} (ht : OpndOK t) {v : Int} (h64 : fitsI64 v = true) :
    ∀ code ∈ loadImmediate t v,
      (∀ i ∈ codeImm32s code, imm32 i = .ok (BitVec.ofInt 64 i)) ∧
      (∀ r i, code = .MOVI r i → fitsI64 i = true) :=
  fun code hc => imm_in_range_of_operandOK (operandsOK_loadImmediate ht h64 code hc)

/-- REGRESSION for D5 (repaired): the instructions emitted for the 64-bit literal 4294967297 bound to
a spilled variable are `mov rcx, imm64; mov [rsp + off], rcx`, and both are accepted (before the
repair: `mov qword [rsp + off], imm64`, rejected). -/
theorem C14_D5_regression {p : Nat} (hp : p < 256) :
    loadImmediate (.spill p) 4294967297 = [.MOVI TEMP 4294967297, .MOVS TEMP STACK (stackOffset p)] ∧
    ∀ code ∈ loadImmediate (.spill p) 4294967297, codeOperandError code = none :=
  ⟨loadImmediate_spill_wide p (by decide), operandsOK_loadImmediate (t := .spill p) hp (by decide)⟩

/-- load_label, jump, add_and_jump (a 32-bit increment), the twelve conditional jumps -/
theorem C14_control_operands {t a b : Temporary} (ht : OpndOK t) (ha : OpndOK a) (hb : OpndOK b)
    (l : String) (sort : IfSort) {imm : Int} (hi : fitsI32 imm = true) :
    OperandsOK (loadLabel t l) ∧ OperandsOK (jump t) ∧ OperandsOK (addAndJump t imm) ∧
    OperandsOK (jumpLabelIf sort a b l) ∧ OperandsOK (jumpLabelIfZero sort a l) :=
  ⟨operandsOK_loadLabel ht l, operandsOK_jump ht, operandsOK_addAndJump ht hi,
   operandsOK_jumpLabelIf sort ha hb l, operandsOK_jumpLabelIfZero sort ha l⟩

/-- print_i64 / println_i64 with its caller-save dance, every context -/
theorem C14_print_operands (nl : Bool) {t : Temporary} (ht : OpndOK t) (ctx : Ctx) :
    OperandsOK (printI64 nl t ctx) := operandsOK_printI64 nl ht ctx

/-- parallel_moves.rs store_temporary / restore_temporary -/
theorem C14_pmoves_operands {t : Temporary} (ht : OpndOK t) (sp : Bool) :
    OperandsOK (storeTemporary t sp) ∧ OperandsOK (restoreTemporary t sp) :=
  ⟨operandsOK_storeTemporary ht sp, operandsOK_restoreTemporary ht sp⟩

/-- memory.rs: whatever `erase_block`, `share_block_n` (count below 2^31), `store`, `load` return
(for every counter value, every context) passes the operand check -/
theorem C14_memory_operands {t : Temporary} (ht : OpndOK t) {n : Nat} (hn : fitsI32 (n : Int) = true)
    (a b : Ctx) :
    Post (eraseBlock t) OperandsOK ∧ Post (shareBlockN t n) OperandsOK ∧
    Post (store a b) OperandsOK ∧ Post (load a b) OperandsOK :=
  ⟨postOK_eraseBlock ht, postOK_shareBlockN ht hn, postOK_store a b, postOK_load a b⟩

/-- into_routine.rs: prologue and epilogue add only encodable instructions -/
theorem C14_routine_operands {body routine : List Code} {n : Nat} (hb : OperandsOK body)
    (h : intoRoutine body n = .ok routine) : OperandsOK routine := operandsOK_intoRoutine hb h

/-- `imul [mem], reg` is rejected -/
theorem C14_imul_witness (b : Nat) (i : Int) (r : Nat) : codeOperandError (.IMULMR b i r) ≠ none := by
  simp only [codeOperandError]
  split
  · simp
  · split <;> simp

/-! ## Non-vacuity -/

example : (layoutFrom 0x400000 (Code.LAB "T" :: (["T_A", "T_B", "T_C"].map Code.JMPLN ++ [Code.RET])))[3]?
    = some (0x400000 + 5 * 2) := (C14_table_stride 0x400000 "T" ["T_A", "T_B", "T_C"] [Code.RET] 2 (by decide)).2.1

example : OperandsOK (mov (.spill 3) (.spill 200)) :=
  C14_mov_operands (show 3 < 256 by decide) (show 200 < 256 by decide)

/-- the D5 literal into spill slot 2 (the 7th variable) -/
example : OperandsOK (loadImmediate (.spill 2) 4294967297) :=
  C14_load_immediate_operands (t := .spill 2) (show 2 < 256 by decide) (by decide)

/-- a program in range that compiles: `def main() { lit x <- 4294967297; exit x }` -/
def C14_exProg : AxCut.Prog :=
  ⟨[⟨⟨"main", 0⟩, [], .lit ⟨"x", 1⟩ 4294967297 (.exit ⟨"x", 1⟩) none⟩], [], 1⟩

theorem C14_exProg_inRange : ProgInRange C14_exProg := by
  refine ⟨by simp [C14_exProg], ?_⟩
  intro d hd
  simp only [C14_exProg, List.mem_singleton] at hd
  subst hd
  simp only [StmtB, and_true]
  decide

example : ∃ body nargs routine, compileX86 C14_exProg false 0 = .ok (body, nargs) ∧
    intoRoutine body nargs = .ok routine ∧ ∀ code ∈ routine, codeRangeOK code :=
  ⟨_, _, _, rfl, rfl, C14_program_operand_ranges C14_exProg false 0 _ _ _ C14_exProg_inRange rfl rfl⟩

/-- memory methods really return code (non-vacuity of `Post`) -/
example : ∃ code c', (shareBlockN (.spill 7) 3).run 0 = .ok (code, c') := ⟨_, _, rfl⟩

end Scc.X86

#print axioms Scc.X86.C14_program_operand_ranges
#print axioms Scc.X86.C14_program_no_imm_fault
#print axioms Scc.X86.C14_program_operands
#print axioms Scc.X86.C14_control_operands
#print axioms Scc.X86.C14_print_operands
#print axioms Scc.X86.C14_pmoves_operands
#print axioms Scc.X86.C14_memory_operands
#print axioms Scc.X86.C14_routine_operands
#print axioms Scc.X86.C14_table_stride
#print axioms Scc.X86.C14_codeTable_shape
#print axioms Scc.X86.C14_operand_ranges
#print axioms Scc.X86.C14_arith_operands
#print axioms Scc.X86.C14_mov_operands
#print axioms Scc.X86.C14_load_immediate_operands
#print axioms Scc.X86.C14_load_immediate_no_imm_fault
#print axioms Scc.X86.C14_D5_regression
#print axioms Scc.X86.C14_imul_witness

#print axioms Scc.X86.C14_exProg_inRange
