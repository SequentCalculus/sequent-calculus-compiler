/-
  Scc.Props.FunSafety — TYPE SAFETY of the Fun abstract machine (`Scc.Fun.step` / `Scc.Fun.run`,
  Scc/Fun/Sem.lean, CEK style) for programs accepted by the type checker (`Scc.Fun.Check.checkProgram`,
  property C15).  All statements are for ALL accepted programs, all states / arguments, all fuel.

  Judgements (Scc/Fun/SafetyTyping.lean; `p` is the SOURCE program, whose declarations type the values,
  `p'` the checked program the machine runs):
    ATyped p Γ t τ   typing of a checked term INCLUDING the annotations the machine reads (`ty` of
                     every node, `chi` of variables / covariable arguments, clause contexts)
    VT p v τ         values: integers at i64, constructor values at instances of data types,
                     closures and thunks at instances of codata types
    KT p k τ / FT    continuation stacks / frames against the type they expect (answer type i64;
                     a label or covariable holds `cont k` with `KT p k τ`)
    ST p s           well-typed machine state

  THEOREMS (hypotheses: `programNamesOk p` — names are identifiers, what the lexer produces — and
  `checkProgram p = .ok p'`, nothing else)
    Fun_checked_annotated   the checker's output satisfies `AWT p p'`: every definition body is
                            `ATyped` against the source declarations (the annotations fun2core and
                            the machine rely on are the types of the declarative typing), the
                            machine finds every definition, and its by-name test `isCodataTy`
                            only fires at codata types
    Fun_checked_wellformed  definition names and parameter names are pairwise distinct, definition
                            bodies are closed and annotated (the conditions `Fun2Core.Sem.fragOk`
                            assumes as decidable checks "that the checker guarantees")
    Fun_preservation        ST p s → step p' s = next s' o → ST p s'
    Fun_progress            ST p s → step p' s is a transition, a result, or `stuck divByZero` /
                            `stuck overflow`: never `arity`, `unbound`, `unknownDef`, `noClause`,
                            `notInt`, `notData`, `notCodata`, `notCont`, `untyped`
    Fun_init_typed          with `validMain p'` and one argument per parameter of `main` the initial
                            state exists and is well-typed
    Fun_run_never_type_stuck   … and `Fun.run p' args fuel` never ends in a stuck state other than the
                            two arithmetic faults
    Fun_reachable_typed     every state reached (`FSteps`) from a well-typed state is well-typed
    Fun_sequenced_no_thunk  on `Sequenced` programs every reachable state is thunk-free (`NTs`,
                            Scc/Fun/SafetySeq.lean): by-name = by-value there, as Sem.lean claims
    Fun_pure_safe, Fun_pure_args_safe   (the corollary asked for by the fun2core simulation) in a
                            well-typed environment a PURE typed term / argument list (`pureTerm`,
                            the side condition of `Sequenced`) has a value (`pureVal` / `pureArgs`
                            of Scc/Fun2Core/SemPure.lean are not `none`), of the type of the term,
                            and the machine reaches it in finitely many silent steps, never stuck
    Fun_value_kinds         canonical forms: i64 ↦ integer, data ↦ constructor value of that type
                            with typed arguments, codata ↦ closure or thunk
    Fun_var_kind            a variable annotated τ is bound to a value of type τ
  Excluded by hypothesis, as documented in Sem.lean / C02Sem.lean: a wrong number of arguments and a
  `main` with a `:cns` parameter (`stuck arity(main)`, specification level: `validMain`), no `main`
  (`unknownDef(main)`).  A program that CALLS `main` is fine for the Fun machine (covered here).
  No case was found where progress fails: the machine model and the checker agree.
-/
import Scc.Pipeline
import Scc.Fun.SafetyCheck
import Scc.Fun.SafetyPure
import Scc.Fun.SafetyClosed
import Scc.Fun.SafetySeq

namespace Scc.Props
open Scc.Pipeline Scc.Fun Scc.Fun.Typing Scc.Fun.Safety Scc.Fun2Core.Sem
open Scc.Fun.Check (checkProgram programNamesOk checkProgram_AWT)

/-! ## statements -/

def Fun_preservation_statement : Prop :=
  ∀ (p : Program) (p' : CheckedProgram), programNamesOk p = true → checkProgram p = .ok p' →
    ∀ (s s' : State) (o : Option (Bool × Fun.Word)), ST p s → step p' s = .next s' o → ST p s'

def Fun_progress_statement : Prop :=
  ∀ (p : Program) (p' : CheckedProgram), programNamesOk p = true → checkProgram p = .ok p' →
    ∀ (s : State), ST p s →
      (∃ s' o, step p' s = .next s' o) ∨ (∃ a, step p' s = .done a) ∨
      step p' s = .stuck .divByZero ∨ step p' s = .stuck .overflow

def Fun_run_never_type_stuck_statement : Prop :=
  ∀ (p : Program) (p' : CheckedProgram), programNamesOk p = true → checkProgram p = .ok p' →
    validMain p' = true → ∀ (args : List Fun.Word), args.length = mainArity p' →
    ∀ (fuel : Nat) (w : Why), (run p' args fuel).res = .stuck w → w = .divByZero ∨ w = .overflow

/-! ## the checker establishes the typing of the checked program -/

theorem Fun_checked_annotated (p : Program) (p' : CheckedProgram) (hp : programNamesOk p = true)
    (hc : checkProgram p = .ok p') : AWT p p' :=
  checkProgram_AWT hp hc

/-- what `Fun2Core.Sem.fragOk` / `progOk` assume as decidable checks and the checker guarantees:
definition names are pairwise distinct, the parameters of every definition are pairwise distinct,
every definition body is closed (mentions only its parameters; `fv` of Scc/Fun2Core/SemRel.lean) and
annotated -/
theorem Fun_checked_wellformed (p : Program) (p' : CheckedProgram) (hp : programNamesOk p = true)
    (hc : checkProgram p = .ok p') :
    (p'.defs.map (·.name)).Nodup ∧
    ∀ d ∈ p'.defs, (d.ctx.map (·.var)).Nodup ∧
      (fv d.body).all (fun x => (d.ctx.map (·.var)).contains x) = true ∧
      Typing.annotated d.body = true := by
  have W := checkProgram_AWT hp hc
  exact ⟨W.defNames, fun d hd => ⟨(W.defs_typed d hd).1, W.closed hd,
    (W.defs_typed d hd).2.2.2.annotated⟩⟩

theorem Fun_preservation : Fun_preservation_statement := by
  intro p p' hp hc s s' o hs h
  exact step_preserves (checkProgram_AWT hp hc) hs h

theorem Fun_progress : Fun_progress_statement := by
  intro p p' hp hc s hs
  have := step_safe (checkProgram_AWT hp hc) hs
  cases h : step p' s with
  | next s' o => exact .inl ⟨s', o, rfl⟩
  | done a => exact .inr (.inl ⟨a, rfl⟩)
  | stuck w =>
    rw [h] at this
    cases this with
    | divByZero => exact .inr (.inr (.inl rfl))
    | overflow => exact .inr (.inr (.inr rfl))

/-- progress, as "never stuck for a typing reason" -/
theorem Fun_never_type_stuck_step (p : Program) (p' : CheckedProgram)
    (hp : programNamesOk p = true) (hc : checkProgram p = .ok p') (s : State) (hs : ST p s)
    (w : Why) (h : step p' s = .stuck w) : w = .divByZero ∨ w = .overflow :=
  ArithFault.iff.mp (step_progress (checkProgram_AWT hp hc) hs h)

theorem validMain_find {p' : CheckedProgram} (hv : validMain p' = true) :
    ∃ dm, findDef p' "main" = some dm ∧ dm.ctx.length = mainArity p' ∧
      (∀ b ∈ dm.ctx, b.chi = .prd ∧ b.ty = .i64) ∧ dm.retTy = .i64 := by
  unfold validMain at hv
  split at hv
  · rename_i d hd
    have hfilter : p'.defs.filter (fun d => d.name == "main") = [d] := hd
    have hfind : findDef p' "main" = some d := by
      unfold findDef
      have := List.head?_filter (p := fun d : Def => d.name == "main") (l := p'.defs)
      rw [hfilter] at this
      simpa using this.symm
    refine ⟨d, hfind, by simp [mainArity, hd], ?_, ?_⟩
    · intro b hb
      simp only [mainSigOk, Bool.and_eq_true, List.all_eq_true] at hv
      have := hv.1.2 b hb
      refine ⟨?_, ?_⟩
      · cases hchi : b.chi with
        | prd => rfl
        | cns => rw [hchi] at this; exact absurd this.1 (by decide)
      · cases hty : b.ty with
        | i64 => rfl
        | decl n a => rw [hty] at this; simp [isI64] at this
    · simp only [mainSigOk, Bool.and_eq_true] at hv
      cases hty : d.retTy with
      | i64 => rfl
      | decl n a => rw [hty] at hv; simp [isI64] at hv
  · cases hv

theorem Fun_init_typed (p : Program) (p' : CheckedProgram) (hp : programNamesOk p = true)
    (hc : checkProgram p = .ok p') (hv : validMain p' = true) (args : List Fun.Word)
    (hlen : args.length = mainArity p') : ∃ s, initState p' args = .ok s ∧ ST p s := by
  obtain ⟨dm, hfind, hl, hsig, hret⟩ := validMain_find hv
  exact initState_typed (checkProgram_AWT hp hc) hfind hsig hret args (hlen.trans hl.symm)

theorem Fun_run_never_type_stuck : Fun_run_never_type_stuck_statement := by
  intro p p' hp hc hv args hlen fuel w h
  obtain ⟨s, hs, hst⟩ := Fun_init_typed p p' hp hc hv args hlen
  simp only [run, hs] at h
  exact ArithFault.iff.mp (runFrom_safe (checkProgram_AWT hp hc) fuel s [] hst w h)

theorem Fun_reachable_typed (p : Program) (p' : CheckedProgram) (hp : programNamesOk p = true)
    (hc : checkProgram p = .ok p') {s s' : State} {o : Out} {j : Nat} (h : FSteps p' s s' o j)
    (hs : ST p s) : ST p s' :=
  FSteps_preserves (checkProgram_AWT hp hc) h hs

/-- on `Sequenced` programs no thunk is ever created (the claim of Sem.lean: by-name and by-value
coincide there): every state reached from the initial state is well-typed and thunk-free (`NTs`:
no `thunk` value anywhere in the state, all pending terms sequenced, pending arguments pure) -/
theorem Fun_sequenced_no_thunk (p : Program) (p' : CheckedProgram) (hp : programNamesOk p = true)
    (hc : checkProgram p = .ok p') (hv : validMain p' = true) (hseq : Sequenced p' = true)
    (args : List Fun.Word) (hlen : args.length = mainArity p') :
    ∃ s, initState p' args = .ok s ∧
      ∀ (s' : State) (o : Out) (j : Nat), FSteps p' s s' o j → ST p s' ∧ NTs p' s' := by
  obtain ⟨s, hs, hst⟩ := Fun_init_typed p p' hp hc hv args hlen
  have W := checkProgram_AWT hp hc
  exact ⟨s, hs, fun s' o j h =>
    ⟨FSteps_preserves W h hst, FSteps_nt W hseq h hst (initState_nt hseq hs)⟩⟩

/-! ## pure argument terms never get stuck and have values of the annotated type / kind -/

theorem Fun_pure_safe (p : Program) (p' : CheckedProgram) (hp : programNamesOk p = true)
    (hc : checkProgram p = .ok p') {ρ : Env} {Γ : Ctx} (he : EnvT p ρ Γ) {t : Term} {τ : Ty}
    (hpure : pureTerm t = true) (ht : ATyped p Γ t τ) :
    ∃ v, pureVal p' t ρ = some v ∧ VT p v τ ∧ t.getType = some τ ∧
      ∀ k, ∃ j, 1 ≤ j ∧ FSteps p' (.eval t ρ k) (.ret v k) [] j := by
  obtain ⟨v, h1, hv⟩ := pureVal_typed (checkProgram_AWT hp hc) he t τ hpure ht
  exact ⟨v, h1, hv, ht.getType, fun k => fun_pure p' t ρ v k hpure h1⟩

theorem Fun_pure_args_safe (p : Program) (p' : CheckedProgram) (hp : programNamesOk p = true)
    (hc : checkProgram p = .ok p') {ρ : Env} {Γ : Ctx} (he : EnvT p ρ Γ) {ts : Terms} {bs : Ctx}
    (hpure : pureTerms ts = true) (has : AArgs p Γ ts bs) :
    ∃ vs, pureArgs p' ts ρ = some vs ∧ VTs p vs bs ∧
      ∀ h done k, ∃ j, FSteps p' (.args h done ts ρ k) (.args h (done ++ vs) .nil ρ k) [] j := by
  obtain ⟨vs, h1, hvs⟩ := pureArgs_typed (checkProgram_AWT hp hc) he ts bs hpure has
  exact ⟨vs, h1, hvs, fun h done k => fun_pureArgs p' ts ρ vs h done k hpure h1⟩

theorem Fun_value_kinds (p : Program) (p' : CheckedProgram) (hp : programNamesOk p = true)
    (hc : checkProgram p = .ok p') {v : Value} {τ : Ty} (hw : WfTy p τ) (h : VT p v τ) :
    (τ = .i64 ∧ ∃ n, v = .int n) ∨
    (∃ d ∈ datas p, ∃ targs, τ = .decl d.name targs ∧ ∃ c ∈ d.ctors, ∃ vs, v = .con c.name vs ∧
      VTs p vs (csubst (instSubst d.typeParams targs) c.args)) ∨
    (∃ d ∈ codatas p, ∃ targs, τ = .decl d.name targs ∧
      ((∃ cs ρ, v = .obj cs ρ) ∨ (∃ t ρ, v = .thunk t ρ))) :=
  VT.kind (checkProgram_AWT hp hc).decls hw h

/-- a variable annotated τ holds a value of type τ -/
theorem Fun_var_kind (p : Program) {ρ : Env} {Γ : Ctx} (he : EnvT p ρ Γ) {x : String}
    {ty : Option Ty} {chi : Option Chi} {τ : Ty} (ht : ATyped p Γ (.var x ty chi) τ) :
    ty = some τ ∧ chi = some .prd ∧ WfTy p τ ∧ ∃ v, lookup x ρ = some v ∧ VT p v τ := by
  cases ht with
  | var b hl hc hty hw =>
    obtain ⟨v, hv, hb⟩ := he.lookup _ _ hl
    exact ⟨rfl, rfl, hw, v, hv, hty ▸ hb.prd_inv hc⟩

/-! ## a concrete program (non-vacuity) -/

/-- `data List[A] { Nil, Cons(x: A, xs: List[A]) }  codata Fun[A, B] { apply(x: A): B }`
    `def len(l: List[i64]): i64 { l.case[i64] { Cons(x, xs) => 1 + len(xs), Nil => 0 } }`
    `def main(n: i64): i64 { label a { goto a ((new { apply(y) => y / n }).apply[i64, i64](len(Cons(n, Nil)))) } }` -/
def FunSafety_example : Program := ⟨[
  .data ⟨"List", ["A"], [⟨"Nil", []⟩,
    ⟨"Cons", [⟨"x", .prd, .decl "A" .nil⟩, ⟨"xs", .prd, .decl "List" (.cons (.decl "A" .nil) .nil)⟩]⟩]⟩,
  .codata ⟨"Fun", ["A", "B"], [⟨"apply", [⟨"x", .prd, .decl "A" .nil⟩], .decl "B" .nil⟩]⟩,
  .defn ⟨"len", [⟨"l", .prd, .decl "List" (.cons .i64 .nil)⟩], .i64,
    .case (.var "l" none none) (.cons .i64 .nil)
      (.cons .data "Cons" ["x", "xs"] [] (.op (.lit 1) .sum (.call "len" (.cons (.var "xs" none none) .nil) none))
      (.cons .data "Nil" [] [] (.lit 0) .nil)) none⟩,
  .defn ⟨"main", [⟨"n", .prd, .i64⟩], .i64,
    .label "a" (.goto "a"
      (.dtor (.paren (.new (.cons .codata "apply" ["y"] []
          (.op (.var "y" none none) .div (.var "n" none none)) .nil) none)) "apply"
        (.cons .i64 (.cons .i64 .nil))
        (.cons (.call "len" (.cons (.ctor "Cons" (.cons (.var "n" none none)
          (.cons (.ctor "Nil" .nil none) .nil)) none) .nil) none) .nil)
        none) none) none⟩]⟩

theorem FunSafety_example_namesOk : programNamesOk FunSafety_example = true := by decide +kernel

/-- the hypotheses of all theorems above hold for the example -/
theorem FunSafety_example_accepted :
    ∃ p', checkProgram FunSafety_example = .ok p' ∧ validMain p' = true ∧ mainArity p' = 1 := by
  have h : (match checkProgram FunSafety_example with
      | .ok q => validMain q && mainArity q == 1
      | _ => false) = true := by decide +kernel
  cases hc : checkProgram FunSafety_example with
  | ok p' =>
    rw [hc] at h
    simp only [Bool.and_eq_true, beq_iff_eq] at h
    exact ⟨p', rfl, h.1, h.2⟩
  | diag c => rw [hc] at h; cases h
  | panic s => rw [hc] at h; cases h

/-- its runs: a result, and one of the arithmetic faults the theorems leave open -/
example : (match checkProgram FunSafety_example with
    | .ok p' => ((run p' [1] 200).render, (run p' [0] 200).render)
    | _ => ("", "")) = ("out=[] res=done:1", "out=[] res=stuck:divByZero") := by decide +kernel

/-- the initial state of the example is a well-typed state (non-vacuity of `ST`) -/
example : ∃ p' s, checkProgram FunSafety_example = .ok p' ∧ initState p' [5] = .ok s ∧
    ST FunSafety_example s := by
  obtain ⟨p', hc, hv, ha⟩ := FunSafety_example_accepted
  obtain ⟨s, hs, hst⟩ := Fun_init_typed _ p' FunSafety_example_namesOk hc hv [5] (by simp [ha])
  exact ⟨p', s, hc, hs, hst⟩

/-- `codata Fun[A, B] { apply(x: A): B }`
    `def main(n: i64): i64 { let f : Fun[i64, i64] = new { apply(y) => y + n }; f.apply[i64, i64](n) }` -/
def FunSafety_example_seq : Program := ⟨[
  .codata ⟨"Fun", ["A", "B"], [⟨"apply", [⟨"x", .prd, .decl "A" .nil⟩], .decl "B" .nil⟩]⟩,
  .defn ⟨"main", [⟨"n", .prd, .i64⟩], .i64,
    .letIn "f" (.decl "Fun" (.cons .i64 (.cons .i64 .nil)))
      (.new (.cons .codata "apply" ["y"] [] (.op (.var "y" none none) .sum (.var "n" none none)) .nil) none)
      (.dtor (.var "f" none none) "apply" (.cons .i64 (.cons .i64 .nil))
        (.cons (.var "n" none none) .nil) none) none⟩]⟩

/-- the hypotheses of `Fun_sequenced_no_thunk` hold for this program; it returns 2·n -/
example : programNamesOk FunSafety_example_seq = true ∧
    (match checkProgram FunSafety_example_seq with
      | .ok p' => validMain p' && Sequenced p' && mainArity p' == 1 &&
          (run p' [21] 100).render == "out=[] res=done:42"
      | _ => false) = true := by decide +kernel

/-- non-vacuity of the hypotheses of `Fun_pure_safe` / `Fun_var_kind`: the environment `x ↦ 5`
against `x : i64`, and the pure term `x + 1` with the checker's annotations -/
example : EnvT FunSafety_example [("x", .int 5)] ([] ++ [⟨"x", .prd, .i64⟩]) :=
  EnvT.cons ⟨"x", .prd, .i64⟩ .nil (.prd rfl .int)
example : ATyped FunSafety_example [⟨"x", .prd, .i64⟩]
    (.op (.var "x" (some .i64) (some .prd)) .sum (.lit 1)) .i64 ∧
    pureTerm (.op (.var "x" (some .i64) (some .prd)) .sum (.lit 1)) = true :=
  ⟨.op (.var ⟨"x", .prd, .i64⟩ (by simp [lookupCtx]) rfl rfl .i64) .lit, by decide⟩

/-! ## axioms -/

#print axioms Fun_checked_annotated
#print axioms Fun_checked_wellformed
#print axioms Fun_preservation
#print axioms Fun_progress
#print axioms Fun_never_type_stuck_step
#print axioms Fun_init_typed
#print axioms Fun_run_never_type_stuck
#print axioms Fun_reachable_typed
#print axioms Fun_sequenced_no_thunk
#print axioms Fun_pure_safe
#print axioms Fun_pure_args_safe
#print axioms Fun_value_kinds
#print axioms Fun_var_kind
#print axioms FunSafety_example_accepted

end Scc.Props

#print axioms Scc.Props.validMain_find
#print axioms Scc.Props.FunSafety_example_namesOk
