/-
  Scc.Props.C12Fun2CoreStrict — the second fact about the output of fun2core that the middle passes need
  (`C12_link_fun2core_strict`, Props/C12Mid.lean: `q2.strictOk`, Scc/Core/TypedStrict.lean) as a THEOREM,
  and C12 for the stages S1 … S5 with NO typing link left as a hypothesis.

  * `C12_link_fun2core_strict_proved`  for every accepted program with a valid `main` that is not called
      and WITHOUT AN INSTANCE DECLARATION CALLED `_Cont`: the translation's output satisfies `strictOk`
      (no type `_Cont`; xtor names of each declaration pairwise distinct; every cut / μ type is `i64` or
      declared; the clauses of every (co)case are those of the declaration, in declaration order).
  * `C12_link_fun2core_strict_false`   the link as formulated (over ASTs, without the `_Cont` hypothesis) is
      false: the AST `data _Cont { K }  def main(): i64 { let x: _Cont = K; 0 }`.  The real lexer rejects
      `_Cont` (type names are `[A-Z][a-zA-Z0-9_]*`; checked with /repo/target/debug/scc): an imprecision
      of the formal statement, like `ς` for `C12_link_fun2core`, NOT a defect of /repo.
  * `C12_mid_fun2core_proved`          S3 passes the scoped shape typing, S4 passes the AxCut checker and is
      `WfNonLinear` — from `C12_link_fun2core_proved`, this file and `C12_mid_typed` (Props/C12Mid.lean).
  * `C12_chain_codegen_only`           C12 from the code-generator link ALONE (for programs without a name
      `ς` and without a type `_Cont`).
  * SOURCE LEVEL (`C12_source_*`): for every source TEXT that lexer + parser accept, the three side
      conditions on names (`programNamesOk`, no `ς`, no `_Cont`) are theorems (Scc/Fun2Core/TypedParse.lean,
      from C16-T3 `parseChars_good`), so:
      `C12_source_S1_S5`      parse ok → check ok → valid `main`, not called  ⇒  S1 … S5 succeed and are typed
      `C12_source_codegen_only`  … ⇒ `C12_conclusion`, given the code-generator link.
-/
import Scc.Props.C12Fun2Core
import Scc.Props.C12Mid
import Scc.Fun2Core.TypedParse

namespace Scc.Props

open Scc.Pipeline Scc.Fun2Core.Typed
open Scc.Fun.Check (checkProgram programNamesOk)

/-- no instance declaration of the checked program is called `_Cont` (the name shrinking reserves for
the continuation type) -/
def C12_noContType (p' : Fun.CheckedProgram) : Bool :=
  p'.dataTypes.all (fun d => d.name != "_Cont") && p'.codataTypes.all (fun d => d.name != "_Cont")

/-- `C12_link_fun2core_strict` (Props/C12Mid.lean; refuted as it stands by
`C12_link_fun2core_strict_false`, below) for programs without a type called `_Cont`; proved by
`C12_link_fun2core_strict_proved` -/
def C12_link_fun2core_strict_cont : Prop :=
  ∀ (p : Fun.Program) (p' : Fun.CheckedProgram) (q2 : Core.Prog),
    programNamesOk p = true → checkProgram p = .ok p' → validMain p' = true →
    Fun.noMainCall p' = true → C12_noContType p' = true →
    Fun2Core.compileProg p' = .ok q2 → q2.strictOk = true

theorem C12_freshGood_true : FreshGood (fun _ => True) := ⟨fun _ => trivial, fun _ => trivial⟩

theorem C12_link_fun2core_strict_proved : C12_link_fun2core_strict_cont := by
  intro p p' q2 hn hc hv hmc hcont hq
  have hp : ProgHyp p' (fun _ => True) := by
    refine ⟨checkProgram_progM hn hc, ?_, C12_mainRet hv, fun d _ => ⟨fun _ _ => trivial, fun _ _ => trivial⟩⟩
    intro d hd
    simp only [Fun.noMainCall, List.all_eq_true] at hmc
    simpa using hmc d hd
  simp only [C12_noContType, Bool.and_eq_true, List.all_eq_true, bne_iff_ne, ne_eq] at hcont
  exact compileProg_strictOk C12_freshGood_true hp hcont.1 hcont.2 hq

/-- S3 is scoped-typed, S4 passes the AxCut checker and is well-formed non-linear AxCut -/
theorem C12_mid_fun2core_proved (p : Fun.Program) (p' : Fun.CheckedProgram)
    (hn : programNamesOk p = true) (hc : checkProgram p = .ok p') (hv : validMain p' = true)
    (hmc : Fun.noMainCall p' = true) (hs : C02_noSigmaNames p' = true)
    (hcont : C12_noContType p' = true) :
    ∃ q2, Fun2Core.compileProg p' = .ok q2 ∧ Input q2 ∧ typesDisjoint q2 = true ∧
      q2.strictOk = true ∧
      Core2AxCut.wtFsScopedCheck (Core.focusProg q2) = true ∧
      ∀ q4, Core2AxCut.shrinkProg (Core.focusProg q2) = .ok q4 →
        AxCut.Named.wtAxCheck q4 = .ok () ∧ AxCut.WfNonLinear q4 := by
  obtain ⟨q2, e2, hin, hdis⟩ := C12_link_fun2core_proved p p' hn hc hv hmc hs
  have hst := C12_link_fun2core_strict_proved p p' q2 hn hc hv hmc hcont e2
  obtain ⟨h3, h4⟩ := C12_mid_typed q2 hin hdis hst
  exact ⟨q2, e2, hin, hdis, hst, h3, h4⟩

/-- everything the chain knows about the stages, with no typing link as a hypothesis -/
theorem C12_facts_proved (p : Fun.Program) (p' : Fun.CheckedProgram)
    (hn : programNamesOk p = true) (hc : checkProgram p = .ok p') (hv : validMain p' = true)
    (hmc : Fun.noMainCall p' = true) (hs : C02_noSigmaNames p' = true)
    (hcont : C12_noContType p' = true) : ∃ st, C12_Facts p p' st := by
  obtain ⟨q2, e2, hin, hdis, _, hs3, h4⟩ := C12_mid_fun2core_proved p p' hn hc hv hmc hs hcont
  have hpf := focusPanicFree_of_wellTyped hdis hin.typed
  obtain ⟨q4, e4⟩ := C04_no_panic (Core.focusProg q2) (wtFsCheck_of_scoped hs3)
  obtain ⟨hax, hwf⟩ := h4 q4 e4
  obtain ⟨q5, e5, _, _⟩ := C05.C05_linearize_LinTyped q4 hwf
  have e3 : Core.focusProgE q2 = .ok (Core.focusProg q2) := focusProgE_ok_iff.2 ⟨hpf, rfl⟩
  refine ⟨⟨q2, Core.focusProg q2, q4, q5⟩, ?_⟩
  exact C12_facts_core hn hc hv (stages_ok_iff.2 ⟨e2, e3, e4, e5⟩) hin hs3 hax hwf

/-- **C12 for S1 … S5, proved**: every accepted program with a valid `main` that is not called (no name
`ς`, no type `_Cont`) goes through the whole middle end without an internal error, and every stage's
output is well-typed in that stage's own type system -/
theorem C12_S1_S5_proved (p : Fun.Program) (p' : Fun.CheckedProgram)
    (hn : programNamesOk p = true) (hc : checkProgram p = .ok p') (hv : validMain p' = true)
    (hmc : Fun.noMainCall p' = true) (hs : C02_noSigmaNames p' = true)
    (hcont : C12_noContType p' = true) :
    Fun.Typing.WT p ∧ Fun.Typing.annotatedProgram p' = true ∧
    ∃ st : Stages, stages p' = .ok st ∧ st.s2.wellTyped = true ∧
      Core2AxCut.wtFsCheck st.s3 = true ∧ Core.uniqueBindersCheck st.s3 = true ∧
      AxCut.Named.wtAxCheck st.s4 = .ok () ∧ AxCut.LinTypedProg st.s5 := by
  obtain ⟨st, F⟩ := C12_facts_proved p p' hn hc hv hmc hs hcont
  exact ⟨F.wt, F.annotated, st, F.ok, F.input2.typed, wtFsCheck_of_scoped F.scoped3, F.unique3,
    F.wtAx4, F.lin5⟩

theorem C12_chain_codegen_only (h6 : C12_link_codegen) :
    ∀ (p : Fun.Program) (p' : Fun.CheckedProgram),
      programNamesOk p = true → checkProgram p = .ok p' → validMain p' = true →
      Fun.noMainCall p' = true → C02_noSigmaNames p' = true → C12_noContType p' = true →
      C12_conclusion p p' := by
  intro p p' hn hc hv hmc hs hcont
  obtain ⟨st, F⟩ := C12_facts_proved p p' hn hc hv hmc hs hcont
  exact ⟨F.wt, F.annotated, st, F.ok, F.input2.typed, wtFsCheck_of_scoped F.scoped3, F.unique3,
    F.wtAx4, F.lin5, h6 p p' st hn hc hv hmc F.ok⟩

/-! ## source level: the side conditions on names hold for everything lexer + parser accept -/

theorem C12_source_names {mode : Fun.Parse.LiteralMode} {src : String} {p : Fun.Program}
    {p' : Fun.CheckedProgram} (hparse : Fun.Parse.parse mode src = .ok p)
    (hc : checkProgram p = .ok p') :
    programNamesOk p = true ∧ C02_noSigmaNames p' = true ∧ C12_noContType p' = true := by
  refine ⟨programNamesOk_of_parse hparse, ?_, ?_⟩
  · simp only [C02_noSigmaNames, List.all_eq_true, Bool.and_eq_true, Bool.not_eq_true',
      List.contains_eq_mem, decide_eq_false_iff_not]
    intro d hd
    obtain ⟨h1, h2⟩ := binders_lower_of_parse hparse hc d hd
    refine ⟨?_, ?_⟩
    · intro hm
      obtain ⟨b, hb, e⟩ := List.mem_map.1 hm
      exact lower_ne_sigma (h1 b hb) e
    · intro hm
      exact lower_ne_sigma (h2 _ hm) rfl
  · obtain ⟨h1, h2⟩ := instances_upper_of_parse hparse hc
    simp only [C12_noContType, Bool.and_eq_true, List.all_eq_true, bne_iff_ne, ne_eq]
    exact ⟨h1, h2⟩

/-- **C12 for S1 … S5, for every source text**: if lexer + parser accept `src`, the checker accepts the
result, `main` is valid and is not called, then the translation to Core, uniquification + focusing,
shrinking and linearization all succeed (no internal error) and each stage's output is well-typed in
that stage's own type system. -/
theorem C12_source_S1_S5 (mode : Fun.Parse.LiteralMode) (src : String) (p : Fun.Program)
    (p' : Fun.CheckedProgram) (hparse : Fun.Parse.parse mode src = .ok p)
    (hc : checkProgram p = .ok p') (hv : validMain p' = true) (hmc : Fun.noMainCall p' = true) :
    Fun.Typing.WT p ∧ Fun.Typing.annotatedProgram p' = true ∧
    ∃ st : Stages, stages p' = .ok st ∧ st.s2.wellTyped = true ∧
      Core2AxCut.wtFsCheck st.s3 = true ∧ Core.uniqueBindersCheck st.s3 = true ∧
      AxCut.Named.wtAxCheck st.s4 = .ok () ∧ AxCut.LinTypedProg st.s5 := by
  obtain ⟨hn, hs, hcont⟩ := C12_source_names hparse hc
  exact C12_S1_S5_proved p p' hn hc hv hmc hs hcont

theorem C12_source_codegen_only (h6 : C12_link_codegen) (mode : Fun.Parse.LiteralMode) (src : String)
    (p : Fun.Program) (p' : Fun.CheckedProgram) (hparse : Fun.Parse.parse mode src = .ok p)
    (hc : checkProgram p = .ok p') (hv : validMain p' = true) (hmc : Fun.noMainCall p' = true) :
    C12_conclusion p p' := by
  obtain ⟨hn, hs, hcont⟩ := C12_source_names hparse hc
  exact C12_chain_codegen_only h6 p p' hn hc hv hmc hs hcont

theorem C12_source_fun2core (mode : Fun.Parse.LiteralMode) (src : String) (p : Fun.Program)
    (p' : Fun.CheckedProgram) (hparse : Fun.Parse.parse mode src = .ok p)
    (hc : checkProgram p = .ok p') (hv : validMain p' = true) (hmc : Fun.noMainCall p' = true) :
    ∃ q2, Fun2Core.compileProg p' = .ok q2 ∧ Input q2 ∧ typesDisjoint q2 = true ∧
      q2.strictOk = true := by
  obtain ⟨hn, hs, hcont⟩ := C12_source_names hparse hc
  obtain ⟨q2, e2, hin, hdis, hst, _⟩ := C12_mid_fun2core_proved p p' hn hc hv hmc hs hcont
  exact ⟨q2, e2, hin, hdis, hst⟩

/-! ## the strict link as formulated (over ASTs, without the `_Cont` hypothesis) is false -/

/-- `data _Cont { K }  def main(): i64 { let x: _Cont = K; 0 }` as an AST -/
def C12_contProg : Fun.Program :=
  ⟨[.data ⟨"_Cont", [], [⟨"K", []⟩]⟩,
    .defn ⟨"main", [], .i64, .letIn "x" (.decl "_Cont" .nil) (.ctor "K" .nil none) (.lit 0) none⟩]⟩

def C12_contCheck : Bool :=
  programNamesOk C12_contProg &&
  match checkProgram C12_contProg with
  | .ok p' =>
    validMain p' && Fun.noMainCall p' && !C12_noContType p' &&
    match Fun2Core.compileProg p' with
    | .ok q2 => !q2.strictOk
    | .error _ => false
  | _ => false

theorem C12_cont_checks : C12_contCheck = true := by decide +kernel

theorem C12_link_fun2core_strict_false : ¬ C12_link_fun2core_strict := by
  intro hlink
  have h := C12_cont_checks
  unfold C12_contCheck at h
  simp only [Bool.and_eq_true] at h
  obtain ⟨hn, h⟩ := h
  cases hc : checkProgram C12_contProg with
  | ok p' =>
    rw [hc] at h
    simp only [Bool.and_eq_true] at h
    obtain ⟨⟨⟨hv, hmc⟩, _⟩, h⟩ := h
    cases hq : Fun2Core.compileProg p' with
    | ok q2 =>
      rw [hq] at h
      have := hlink C12_contProg p' q2 hn hc hv hmc hq
      simp [this] at h
    | error e => rw [hq] at h; cases h
  | diag c => rw [hc] at h; cases h
  | panic c => rw [hc] at h; cases h

/-! ## non-vacuity: the two example programs of Props/C12Fun2Core.lean have no type `_Cont`
(evaluated in Props/C12Examples.lean) -/

def C12_strictExChecks (src : String) : Bool :=
  match Fun.Parse.parse .diagOnOverflow src with
  | .ok p =>
    programNamesOk p &&
    match checkProgram p with
    | .ok p' =>
      validMain p' && Fun.noMainCall p' && C02_noSigmaNames p' && C12_noContType p' &&
      match Fun2Core.compileProg p' with
      | .ok q2 => q2.strictOk   -- re-evaluated here, independently of the theorem
      | .error _ => false
    | _ => false
  | _ => false

#print axioms C12_link_fun2core_strict_proved
#print axioms C12_mid_fun2core_proved
#print axioms C12_facts_proved
#print axioms C12_S1_S5_proved
#print axioms C12_chain_codegen_only
#print axioms C12_source_names
#print axioms C12_source_S1_S5
#print axioms C12_source_codegen_only
#print axioms C12_source_fun2core
#print axioms C12_link_fun2core_strict_false

end Scc.Props

#print axioms Scc.Props.C12_freshGood_true
#print axioms Scc.Props.C12_cont_checks
