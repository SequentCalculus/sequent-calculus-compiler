/-
  Scc.Props.C09A64All — property C09 (heap consistency) ON CONCRETE AArch64 EXECUTIONS OF ALL PROGRAMS — data
  types AND CLOSURES: the AArch64 counterpart of Props/C09X86All.lean, over the closure-aware three-way relation
  `Scc.A64.Ref.K` of Props/C07A64Full.lean (Scc/A64/ConcK*.lean), with the side hypotheses of the composition
  discharged by `C07_setup_of_checks` (Props/C07A64Full.lean).

  C09 (fixed text): "At every statement boundary of every execution of generated code, on every backend,
  each heap block below the allocation frontier is in exactly one state: reachable from the live variables,
  on the immediately reusable free list, on the deferred free list, or waiting beneath a deferred block; and
  the count stored in each reachable block equals the number of references to it from live variables and
  from fields of reachable or deferred blocks, minus one. …"

  THE PREDICATE is `ConcK.HeapInvAt c σ kinds limit` (Scc/A64/ConcKInv.lean): the predicate of the executable heap
  monitor `heapMonitor` (Scc/A64/Machine.lean) on the raw machine state — the roots are read by the monitor's own
  `rootOf` from the first temporaries of the variables that are not `ext` (`ConcK.heapMonitor_roots`), HEAP and
  FREE are X0 and X1, the memory is the machine's heap — with the decision procedure `invCheckFn` replaced by what
  it decides, `Scc.Heap.InvW`.  A closure is a heap object like a constructor object: its variable is not `ext`,
  so its pointer temporary (the environment block) is a root; its word part (a code address) is not looked at.

  THE STATEMENT BOUNDARIES.  A configuration of the run loop is `ConcK.MS` (state, item index, trace);
  `ConcK.StepsN P c n X Y`: `n` iterations of `runLoop` lead from `X` to `Y` without fault (with the heap monitor
  off these ARE the iterations of the run loop: `C09_run_passes`).  `ConcK.BoundaryOf … st X`: the state `X.σ` is
  related by `Ref.K.Rel3` (closure invariant `XC` included) to the positional state `st` at a position `kp` of the
  routine, the trace is that of the abstract machine, and the program counter is the item of `kp` OR AHEAD OF IT BY
  `#ctx` HOOKS (`Ref.K.Tol`): the `BR reg` of an `invoke` of a single-method closure enters the program at the
  item of the last label before the first instruction behind the method label, so hooks between the method label
  and that label are skipped (Props/C07A64Full.lean, `C07_hookProg`).  Registers, stack, heap and trace are those
  of the boundary.  `ConcK.BChain`: the machine passes through such configurations IN ORDER.

  PROVED (no `sorry`; axioms propext, Classical.choice, Quot.sound):
  * `C09_a64_boundary_all`       every boundary configuration satisfies `HeapInvAt` for the kinds of the positional
                                 state's context and `limit = heapBase + heapBytes`.
  * `C09_a64_programs`           under the hypotheses of `C07_programs_text` (label-safe, linearly typed,
                                 `C07_a64Checks`, compiled; a terminating run; `CfgCC`; heap `128 + 64·141·fuel`):
                                 the printed routine parses (`ls`), and the machine on `layout ls`, started at
                                 `asm_main`, passes through a boundary configuration for EVERY state
                                 `statesOf p fuel st0` of the positional run, in order, and each of them satisfies
                                 `HeapInvAt`.  `C09_a64_programs_lines`: the same with the side hypotheses
                                 explicit, for any lines that are the routine; `C09_a64_reachable_all`: for every
                                 `Reachable` state.
  * `C09_a64_every_prefix_all`   NO TERMINATION HYPOTHESIS: for ANY number `fuel` of steps of the positional
                                 machine (a prefix of a possibly non-terminating run) the machine passes through a
                                 boundary for every state of the prefix and the invariant holds at each; room: the
                                 footprint bound of C10 (`ConcK.PeakAtMost Pk`, `64·(Pk + A + 2) ≤ heapBytes`,
                                 `A = progMaxAlloc p`; trivial for `Pk = A·fuel + 1`).
                                 `C09_a64_every_prefix_all_lines`: side hypotheses explicit.
  * `C09_a64_every_prefix_all_size`  the same with the room hypothesis on the SOURCE PROGRAM: `valsFields st.env ≤
                                 D` for every reachable state (the object and closure values held by the variables
                                 have at most `D` fields) and `64·(D + A + 2) ≤ heapBytes`.
  * `C09_a64_heapMonitor_boundary_all`  the executable check `heapMonitor c X.σ vars` returns `.ok (blocks below
                                 the frontier)` at every boundary configuration, for a hook listing variables of
                                 the kinds of the positional state, inside the monitor's window (completeness of
                                 `invCheckFn`).
  * `C09_run_passes`             with the monitor `heap` off (`wf` off, or on and the text passes `wfCheck` —
                                 `C09_wf_ok` from `C14_a64_final`), `run (printProg routine)` IS the run loop
                                 on `layout ls` from `asm_main`, and after the `n` iterations of `StepsN` it is in
                                 the configuration reached (so the chains above are chains of states of `run`).
  WHAT REMAINS of the monitor statement (`heapMonitor` never reports) after these theorems: the executable check
  `invCheckFn` inside the monitor's window (a fact about the write history), the kinds a hook lists against the kinds
  of the positional state, and the states strictly between two boundaries — Props/C09A64Mon.lean; plus the hypotheses
  `LabelSafe`, `C07_a64Checks`, the sane machine configurations (`CfgCC`, heap base positive and 8-aligned, the
  routine below 2^64) and the room hypothesis.
  `progMaxAlloc`, `valsFields`, `ctxKinds`, `statesOf` are about AxCut programs only (backend-independent):
  Scc/AxCut/PosHered.lean, Scc/X86/ConcData.lean, Scc/X86/ConcInv.lean, Scc/AxCut/PosRun.lean; the first three carry
  the namespace `Scc.X86`.
-/
import Scc.Props.C07A64Full
import Scc.Props.C14A64Final
import Scc.A64.ConcKAllFuel

namespace Scc.A64
open Scc.AxCut Scc.Backend Scc.A64.Ref
open Scc.Heap (InvW)
open Scc.Props.C06Generic (Reachable CodeFits statesOf stopsWithin reachable_mem_statesOf)
open Scc.Props.C14Generic (LabelSafe)
open Scc.A64.CC (CfgCC cfgCC_default Lines hkOf)
open Scc.A64.Loader (hookVarsOf)
open Scc.X86.Ref.K (AllocLe progMaxAlloc allocLe_progMaxAlloc)
open Scc.X86.Conc (ctxKinds valsFields)
open Scc.A64.ConcK (MS StepsN BChain BoundaryOf HeapInvAt HeapShapeAt initMS)

/-- with the monitor `wf` off, or on a text the validator accepts, `run` on a text that parses is `runProg` on its
layout -/
theorem C09_run_eq_runProg {text : String} {ls : List (Nat × PLine)} (hparse : parseText text = .ok ls)
    {cfg : MonCfg} (hwf : cfg.wf = true → wfCheck text = .ok ()) (args : List Word) (fuel : Nat) :
    run text args fuel cfg = runProg (layout ls) args fuel cfg := by
  unfold run
  cases hw : cfg.wf with
  | false => simp only [hparse, Bool.false_eq_true, if_false]
  | true => simp only [hparse, if_true, hwf hw]

/-- THE VALIDATOR ACCEPTS THE PRINTED ROUTINE (`C14_a64_final`, Props/C14A64Final.lean): with the monitor `wf` on,
a routine of fewer than 2^18 items passes `wfCheck` -/
theorem C09_wf_ok {p : AxCut.Prog} {hooks : Bool} {body routine : List Code} {nargs : Nat}
    (hsafe : LabelSafe p = true) (htp : LinTypedProg p) (hchk : C07_a64Checks p = true)
    (hcompX : compileProg a64Backend p hooks 0 = .ok (body, nargs, routine))
    {cfg : MonCfg} (hwf : cfg.wf = true → routine.length < 262144) :
    cfg.wf = true → wfCheck (printProg routine) = .ok () :=
  fun h => C14_a64_final p hooks 0 body routine nargs hsafe htp hchk hcompX (hwf h)

/-- THE CONFIGURATIONS OF `StepsN` ARE CONFIGURATIONS OF `run`: with the monitor `heap` off (and `wf` off or
passed), the machine's entry point `run` on the printed routine, given `n` more units of fuel than a run
`StepsN … n` from `asm_main` to `X` takes, continues from `X` (the record of executed instructions `steps'` is
bookkeeping) -/
theorem C09_run_passes {routine : List Code} {ls : List (Nat × PLine)}
    (hparse : parseText (printProg routine) = .ok ls) {cfg : MonCfg}
    (hwf : cfg.wf = true → wfCheck (printProg routine) = .ok ())
    (hheap : cfg.heap = false) {args : List Word}
    (hmain : (layout ls).labels["asm_main"]? = some (pcOf (hkOf hookVarsOf) routine 2)) (hargs : args.length ≤ 7)
    {n : Nat} {X : MS} (h : StepsN (layout ls) cfg.mem n (initMS cfg.mem (hkOf hookVarsOf) routine args) X) :
    ∃ steps', ∀ fuel, run (printProg routine) args (n + fuel) cfg =
      runLoop (layout ls) cfg fuel (X.mach steps' 0) := by
  obtain ⟨s', hs'⟩ := ConcK.runProg_stepsN hheap hmain hargs h
  exact ⟨s', fun fuel => by rw [C09_run_eq_runProg hparse hwf]; exact hs' fuel⟩

/-- EVERY STATEMENT BOUNDARY, all programs: a configuration whose state is — the program counter up to `#ctx`
hooks — related by the closure-aware three-way relation to a state of the positional machine satisfies the heap
monitor's predicate for the roots the monitor reads from the first temporaries of the non-`ext` variables (objects
AND closures) of that state's context. -/
theorem C09_a64_boundary_all {p : AxCut.Prog} {hooks : Bool} {routine : List Code} {ops : List MockOp}
    {c : MemCfg} (H : CfgCC c) {hk : Code → Bool} {P : Prog} {st : Pos.State} {X : MS}
    (B : BoundaryOf p hooks routine ops c hk P st X) :
    HeapInvAt c X.σ (ctxKinds st.ctx) (c.heapBase + c.heapBytes) :=
  ConcK.heapInvAt_of_boundary H B

/-- the roots of `HeapInvAt` are the roots the machine's heap monitor reads at a hook that lists variables of
these kinds -/
theorem C09_a64_monitor_roots (c : MemCfg) (σ : State) (vars : List (String × Kind)) :
    heapMonitor.roots c σ vars 0 [] = (ConcK.rootIdx (ConcK.hookKinds vars)).mapM (rootOf c σ) :=
  ConcK.heapMonitor_roots c σ vars

/-- THE EXECUTABLE HEAP CHECK SUCCEEDS AT EVERY STATEMENT BOUNDARY (inside the monitor's window), all programs: the
machine's `heapMonitor`, called at a boundary configuration with a hook that lists variables of the kinds of the
positional state's context, returns `.ok` (the number of blocks below the frontier) — provided the frontier lies in
the window the monitor inspects (up to 8 blocks above the highest heap word written) -/
theorem C09_a64_heapMonitor_boundary_all {p : AxCut.Prog} {hooks : Bool} {routine : List Code} {ops : List MockOp}
    {c : MemCfg} (H : CfgCC c) {hk : Code → Bool} {P : Prog} {st : Pos.State} {X : MS}
    (B : BoundaryOf p hooks routine ops c hk P st X) :
    ∃ below inUse, HeapShapeAt c X.σ below inUse ∧
      ∀ vars, ConcK.hookKinds vars = ctxKinds st.ctx →
        64 * below + 64 ≤ (X.σ.maxHeap + 63) / 64 * 64 + 8 * 64 → heapMonitor c X.σ vars = .ok below :=
  ConcK.heapMonitor_boundary H B

/-- C09 FOR CONCRETE AArch64 EXECUTIONS OF ALL PROGRAMS, on the program laid out from ANY lines that are the
routine, side hypotheses explicit: along a terminating run, the machine started at `asm_main` passes — in order,
without fault — through a statement-boundary configuration for EVERY state of the run of the positional machine,
and at each of them the machine's heap memory, HEAP, FREE and the pointer temporaries of the live variables satisfy
the invariant. -/
theorem C09_a64_programs_lines (p : AxCut.Prog) (args : List Word) (hooks : Bool) (body routine : List Code)
    (nargs : Nat) (d0 : Def) (ops : List MockOp) (c' : Nat)
    (hsafe : LabelSafe p = true) (htp : LinTypedProg p) (hprog : ∀ d ∈ p.types, d.xtors.length ≤ 1024)
    (hcompM : (compile mockSym hooks p).run 0 = .ok ((ops, nargs), c')) (hfit : CodeFits ops)
    (hcompX : compileProg a64Backend p hooks 0 = .ok (body, nargs, routine))
    (hnd : (labs routine).Nodup)
    (hd : p.defs.head? = some d0) (hentry : ∀ b ∈ d0.ctx, b.chi = .ext ∧ b.ty = .i64)
    (hcap : ∀ st, Reachable p ⟨d0.ctx, args.map .int, d0.body⟩ st → 2 * st.ctx.length ≤ 280)
    (fuel : Nat) (out : List (Bool × Word)) (v : Word) (hfuel : fuel + 1 < 2 ^ 64)
    (hrun : Pos.run p args fuel = ⟨out, .done v⟩)
    (c : MemCfg) (H : CfgCC c)
    (hb8 : c.heapBase % 8 = 0) (hb0 : 0 < c.heapBase)
    (hbytes : 128 + 64 * 141 * fuel ≤ c.heapBytes)
    (hfitX : c.codeBase + 4 * ninstr routine < 2 ^ 64)
    (hkv : String → Option (List (String × Kind))) (ls : List (Nat × PLine)) (hl : Lines hkv ls routine) :
    (layout ls).labels["asm_main"]? = some (pcOf (hkOf hkv) routine 2) ∧ args.length ≤ 7 ∧
    (∃ n0 X0, StepsN (layout ls) c n0 (initMS c (hkOf hkv) routine args) X0 ∧
      BChain (layout ls) c
        (fun st X => BoundaryOf p hooks routine ops c (hkOf hkv) (layout ls) st X ∧
          HeapInvAt c X.σ (ctxKinds st.ctx) (c.heapBase + c.heapBytes))
        (statesOf p fuel ⟨d0.ctx, args.map .int, d0.body⟩) X0) ∧
    ∀ st, Reachable p ⟨d0.ctx, args.map .int, d0.body⟩ st →
      ∃ n X, StepsN (layout ls) c n (initMS c (hkOf hkv) routine args) X ∧
        BoundaryOf p hooks routine ops c (hkOf hkv) (layout ls) st X ∧
        HeapInvAt c X.σ (ctxKinds st.ctx) (c.heapBase + c.heapBytes) := by
  obtain ⟨hmain, hargs, n0, X0, h0, hch, hstop⟩ := ConcK.programs_chain p args hooks body routine nargs d0 ops c' hsafe
    htp hprog hcompM hfit hcompX hnd hd hentry hcap fuel out v hfuel hrun c H hb8 hb0 hbytes
    (Ref.K.holdsB_layout hl) hfitX
  refine ⟨hmain, hargs,
    ⟨n0, X0, h0, BChain.mono (fun st X B => ⟨B, ConcK.heapInvAt_of_boundary H B⟩) hch⟩, ?_⟩
  intro st hr
  obtain ⟨n, X, hn, B⟩ := BChain.prepend h0 hch st (reachable_mem_statesOf p fuel _ st hstop hr)
  exact ⟨n, X, hn, B, ConcK.heapInvAt_of_boundary H B⟩

/-- C09 FOR CONCRETE AArch64 EXECUTIONS OF ALL PROGRAMS, ON THE TEXT OF THE ROUTINE, side hypotheses discharged:
under the hypotheses of `C07_programs_text` the text of the routine parses (`ls`: what the machine's own parser
reads; the program `run` executes is `layout ls`, entered at `asm_main`), and the machine passes — in order,
without fault — through a statement-boundary configuration for EVERY state of the terminating run of the
positional machine; the heap invariant of C09 holds at each of them. -/
theorem C09_a64_programs (p : AxCut.Prog) (args : List Word) (hooks : Bool) (body routine : List Code)
    (nargs : Nat) (d0 : Def)
    (hsafe : LabelSafe p = true) (htp : LinTypedProg p) (hchk : C07_a64Checks p = true)
    (hcompX : compileProg a64Backend p hooks 0 = .ok (body, nargs, routine))
    (hd : p.defs.head? = some d0)
    (fuel : Nat) (out : List (Bool × Word)) (v : Word) (hrun : Pos.run p args fuel = ⟨out, .done v⟩)
    (cfg : MonCfg) (H : CfgCC cfg.mem)
    (hb8 : cfg.mem.heapBase % 8 = 0) (hb0 : 0 < cfg.mem.heapBase)
    (hbytes : 128 + 64 * 141 * fuel ≤ cfg.mem.heapBytes)
    (hfitX : cfg.mem.codeBase + 4 * ninstr routine < 2 ^ 64) :
    ∃ ops c' ls, (compile mockSym hooks p).run 0 = .ok ((ops, nargs), c') ∧
      parseText (printProg routine) = .ok ls ∧
      (layout ls).labels["asm_main"]? = some (pcOf (hkOf hookVarsOf) routine 2) ∧ args.length ≤ 7 ∧
      ∃ n0 X0, StepsN (layout ls) cfg.mem n0 (initMS cfg.mem (hkOf hookVarsOf) routine args) X0 ∧
        BChain (layout ls) cfg.mem
          (fun st X => BoundaryOf p hooks routine ops cfg.mem (hkOf hookVarsOf) (layout ls) st X ∧
            HeapInvAt cfg.mem X.σ (ctxKinds st.ctx) (cfg.mem.heapBase + cfg.mem.heapBytes))
          (statesOf p fuel ⟨d0.ctx, args.map .int, d0.body⟩) X0 := by
  obtain ⟨ops, c', ls, S⟩ := C07_setup_of_checks p args hooks body routine nargs d0 hsafe htp hchk hcompX hd
  obtain ⟨hmain, hargs, hch, _⟩ := C09_a64_programs_lines p args hooks body routine nargs d0 ops c' hsafe htp S.progOK
    S.compM S.fit hcompX S.nd hd S.entry S.cap fuel out v (fuel_lt_of_heap H hbytes) hrun cfg.mem H hb8 hb0
    hbytes hfitX hookVarsOf ls S.lines
  exact ⟨ops, c', ls, S.compM, S.parse, hmain, hargs, hch⟩

/-- … in particular for EVERY state the positional machine reaches: the machine's run on the text of the routine
contains a boundary configuration for it, and the invariant holds there -/
theorem C09_a64_reachable_all (p : AxCut.Prog) (args : List Word) (hooks : Bool) (body routine : List Code)
    (nargs : Nat) (d0 : Def)
    (hsafe : LabelSafe p = true) (htp : LinTypedProg p) (hchk : C07_a64Checks p = true)
    (hcompX : compileProg a64Backend p hooks 0 = .ok (body, nargs, routine))
    (hd : p.defs.head? = some d0)
    (fuel : Nat) (out : List (Bool × Word)) (v : Word) (hrun : Pos.run p args fuel = ⟨out, .done v⟩)
    (cfg : MonCfg) (H : CfgCC cfg.mem)
    (hb8 : cfg.mem.heapBase % 8 = 0) (hb0 : 0 < cfg.mem.heapBase)
    (hbytes : 128 + 64 * 141 * fuel ≤ cfg.mem.heapBytes)
    (hfitX : cfg.mem.codeBase + 4 * ninstr routine < 2 ^ 64) :
    ∃ ops c' ls, (compile mockSym hooks p).run 0 = .ok ((ops, nargs), c') ∧
      parseText (printProg routine) = .ok ls ∧
      ∀ st, Reachable p ⟨d0.ctx, args.map .int, d0.body⟩ st →
        ∃ n X, StepsN (layout ls) cfg.mem n (initMS cfg.mem (hkOf hookVarsOf) routine args) X ∧
          BoundaryOf p hooks routine ops cfg.mem (hkOf hookVarsOf) (layout ls) st X ∧
          HeapInvAt cfg.mem X.σ (ctxKinds st.ctx) (cfg.mem.heapBase + cfg.mem.heapBytes) := by
  obtain ⟨ops, c', ls, S⟩ := C07_setup_of_checks p args hooks body routine nargs d0 hsafe htp hchk hcompX hd
  obtain ⟨_, _, _, hreach⟩ := C09_a64_programs_lines p args hooks body routine nargs d0 ops c' hsafe htp S.progOK
    S.compM S.fit hcompX S.nd hd S.entry S.cap fuel out v (fuel_lt_of_heap H hbytes) hrun cfg.mem H hb8 hb0
    hbytes hfitX hookVarsOf ls S.lines
  exact ⟨ops, c', ls, S.compM, S.parse, hreach⟩

/-- C09 FOR EVERY PREFIX OF EVERY RUN (terminating or not) OF ALL PROGRAMS, on the program laid out from any
lines that are the routine, side hypotheses explicit: for ANY number `fuel` of steps of the positional machine,
the machine started at `asm_main` passes — in order, without fault — through a statement-boundary configuration
for every state the positional machine goes through, and the invariant of C09 holds at each of them.  Room: the
footprint bound of C10. -/
theorem C09_a64_every_prefix_all_lines (p : AxCut.Prog) (args : List Word) (hooks : Bool)
    (body routine : List Code) (nargs : Nat) (d0 : Def) (ops : List MockOp) (c' : Nat)
    (hsafe : LabelSafe p = true) (htp : LinTypedProg p) (hprog : ∀ d ∈ p.types, d.xtors.length ≤ 1024)
    (hcompM : (compile mockSym hooks p).run 0 = .ok ((ops, nargs), c')) (hfit : CodeFits ops)
    (hcompX : compileProg a64Backend p hooks 0 = .ok (body, nargs, routine))
    (hnd : (labs routine).Nodup)
    (hd : p.defs.head? = some d0) (hentry : ∀ b ∈ d0.ctx, b.chi = .ext ∧ b.ty = .i64)
    (hlen : d0.ctx.length = args.length)
    (hcap : ∀ st, Reachable p ⟨d0.ctx, args.map .int, d0.body⟩ st → 2 * st.ctx.length ≤ 280)
    (fuel : Nat) (hfuel : fuel + 1 < 2 ^ 64)
    (c : MemCfg) (H : CfgCC c)
    (hb8 : c.heapBase % 8 = 0) (hb0 : 0 < c.heapBase)
    (Pk : Nat) (hbytes : 64 * (Pk + progMaxAlloc p + 2) ≤ c.heapBytes)
    (hfitX : c.codeBase + 4 * ninstr routine < 2 ^ 64)
    (hkv : String → Option (List (String × Kind))) (ls : List (Nat × PLine)) (hl : Lines hkv ls routine)
    (hP : ConcK.PeakAtMost p hooks routine ops c (hkOf hkv) (layout ls) args Pk (progMaxAlloc p * fuel + 1)) :
    (layout ls).labels["asm_main"]? = some (pcOf (hkOf hkv) routine 2) ∧ args.length ≤ 7 ∧
    ∃ n0 X0, StepsN (layout ls) c n0 (initMS c (hkOf hkv) routine args) X0 ∧
      BChain (layout ls) c
        (fun st X => BoundaryOf p hooks routine ops c (hkOf hkv) (layout ls) st X ∧
          HeapInvAt c X.σ (ctxKinds st.ctx) (c.heapBase + c.heapBytes))
        (statesOf p fuel ⟨d0.ctx, args.map .int, d0.body⟩) X0 := by
  obtain ⟨hmain, hargs, n0, X0, h0, hch⟩ := ConcK.programs_prefix_gen p args hooks body routine nargs d0 ops c' hsafe
    htp hprog hcompM hfit hcompX hnd hd hentry hlen hcap fuel hfuel c H hb8 hb0 Pk (progMaxAlloc p)
    (allocLe_progMaxAlloc p) hbytes (Ref.K.holdsB_layout hl) hfitX (ConcK.peakHyp_of_peakAtMost hP)
  exact ⟨hmain, hargs, n0, X0, h0, BChain.mono (fun st X ⟨cfgA, hs, kp, T, ho, R, _⟩ =>
    ⟨⟨cfgA, hs, kp, T, ho, R⟩, ConcK.heapInvAt_of_boundary H ⟨cfgA, hs, kp, T, ho, R⟩⟩) hch⟩

/-- C09 FOR EVERY PREFIX OF EVERY RUN OF ALL PROGRAMS, ON THE TEXT OF THE ROUTINE, side hypotheses discharged
(hypotheses of `C07_programs_text` without the terminating run; `args.length = nargs`; the peak hypothesis for the
mock code and the lines of the text) -/
theorem C09_a64_every_prefix_all (p : AxCut.Prog) (args : List Word) (hooks : Bool) (body routine : List Code)
    (nargs : Nat) (d0 : Def)
    (hsafe : LabelSafe p = true) (htp : LinTypedProg p) (hchk : C07_a64Checks p = true)
    (hcompX : compileProg a64Backend p hooks 0 = .ok (body, nargs, routine))
    (hd : p.defs.head? = some d0) (hargs : args.length = nargs)
    (fuel : Nat) (hfuel : fuel + 1 < 2 ^ 64)
    (cfg : MonCfg) (H : CfgCC cfg.mem)
    (hb8 : cfg.mem.heapBase % 8 = 0) (hb0 : 0 < cfg.mem.heapBase)
    (Pk : Nat) (hbytes : 64 * (Pk + progMaxAlloc p + 2) ≤ cfg.mem.heapBytes)
    (hfitX : cfg.mem.codeBase + 4 * ninstr routine < 2 ^ 64)
    (hP : ∀ ops c' ls, (compile mockSym hooks p).run 0 = .ok ((ops, nargs), c') →
      parseText (printProg routine) = .ok ls →
      ConcK.PeakAtMost p hooks routine ops cfg.mem (hkOf hookVarsOf) (layout ls) args Pk
        (progMaxAlloc p * fuel + 1)) :
    ∃ ops c' ls, (compile mockSym hooks p).run 0 = .ok ((ops, nargs), c') ∧
      parseText (printProg routine) = .ok ls ∧
      (layout ls).labels["asm_main"]? = some (pcOf (hkOf hookVarsOf) routine 2) ∧ args.length ≤ 7 ∧
      ∃ n0 X0, StepsN (layout ls) cfg.mem n0 (initMS cfg.mem (hkOf hookVarsOf) routine args) X0 ∧
        BChain (layout ls) cfg.mem
          (fun st X => BoundaryOf p hooks routine ops cfg.mem (hkOf hookVarsOf) (layout ls) st X ∧
            HeapInvAt cfg.mem X.σ (ctxKinds st.ctx) (cfg.mem.heapBase + cfg.mem.heapBytes))
          (statesOf p fuel ⟨d0.ctx, args.map .int, d0.body⟩) X0 := by
  obtain ⟨ops, c', ls, S⟩ := C07_setup_of_checks p args hooks body routine nargs d0 hsafe htp hchk hcompX hd
  exact ⟨ops, c', ls, S.compM, S.parse,
    C09_a64_every_prefix_all_lines p args hooks body routine nargs d0 ops c' hsafe htp S.progOK S.compM S.fit hcompX
      S.nd hd S.entry (by rw [← S.nargs, hargs]) S.cap fuel hfuel cfg.mem H hb8 hb0 Pk hbytes hfitX hookVarsOf ls
      S.lines (hP ops c' ls S.compM S.parse)⟩

/-- C09 FOR EVERY PREFIX OF EVERY RUN OF ALL PROGRAMS, with the room hypothesis on the SOURCE PROGRAM: if the
object and closure values held by the variables of the positional machine never have more than `D` fields (over
all reachable states), a heap of `64·(D + A + 2)` bytes is enough, and at every statement boundary of every
prefix of the run — terminating or not — the machine's heap satisfies the invariant of C09. -/
theorem C09_a64_every_prefix_all_size (p : AxCut.Prog) (args : List Word) (hooks : Bool)
    (body routine : List Code) (nargs : Nat) (d0 : Def)
    (hsafe : LabelSafe p = true) (htp : LinTypedProg p) (hchk : C07_a64Checks p = true)
    (hcompX : compileProg a64Backend p hooks 0 = .ok (body, nargs, routine))
    (hd : p.defs.head? = some d0) (hargs : args.length = nargs)
    (D : Nat) (hD : ∀ st, Reachable p ⟨d0.ctx, args.map .int, d0.body⟩ st → valsFields st.env ≤ D)
    (fuel : Nat) (hfuel : fuel + 1 < 2 ^ 64)
    (cfg : MonCfg) (H : CfgCC cfg.mem)
    (hb8 : cfg.mem.heapBase % 8 = 0) (hb0 : 0 < cfg.mem.heapBase)
    (hbytes : 64 * (D + progMaxAlloc p + 2) ≤ cfg.mem.heapBytes)
    (hfitX : cfg.mem.codeBase + 4 * ninstr routine < 2 ^ 64) :
    ∃ ops c' ls, (compile mockSym hooks p).run 0 = .ok ((ops, nargs), c') ∧
      parseText (printProg routine) = .ok ls ∧
      (layout ls).labels["asm_main"]? = some (pcOf (hkOf hookVarsOf) routine 2) ∧ args.length ≤ 7 ∧
      ∃ n0 X0, StepsN (layout ls) cfg.mem n0 (initMS cfg.mem (hkOf hookVarsOf) routine args) X0 ∧
        BChain (layout ls) cfg.mem
          (fun st X => BoundaryOf p hooks routine ops cfg.mem (hkOf hookVarsOf) (layout ls) st X ∧
            HeapInvAt cfg.mem X.σ (ctxKinds st.ctx) (cfg.mem.heapBase + cfg.mem.heapBytes))
          (statesOf p fuel ⟨d0.ctx, args.map .int, d0.body⟩) X0 := by
  obtain ⟨ops, c', ls, S⟩ := C07_setup_of_checks p args hooks body routine nargs d0 hsafe htp hchk hcompX hd
  obtain ⟨hmain, hargs', n0, X0, h0, hch⟩ := ConcK.programs_prefix_gen p args hooks body routine nargs d0 ops c' hsafe
    htp S.progOK S.compM S.fit hcompX S.nd hd S.entry (by rw [← S.nargs, hargs]) S.cap fuel hfuel cfg.mem H hb8 hb0 D
    (progMaxAlloc p) (allocLe_progMaxAlloc p) hbytes (Ref.K.holdsB_layout S.lines) hfitX (ConcK.peakHyp_of_data hD)
  exact ⟨ops, c', ls, S.compM, S.parse, hmain, hargs', n0, X0, h0,
    BChain.mono (fun st X ⟨cfgA, hs, kp, T, ho, R, _⟩ =>
      ⟨⟨cfgA, hs, kp, T, ho, R⟩, ConcK.heapInvAt_of_boundary H ⟨cfgA, hs, kp, T, ho, R⟩⟩) hch⟩

/-! ### non-vacuity: the closure programs of Props/C07A64Full.lean -/

set_option maxRecDepth 100000 in
/-- every hypothesis of `C09_a64_programs` holds for the closure program started with x = 37 (a closure `f`
capturing `x`, a two-method closure `g` capturing `f`, `g` invoked through its jump table, `f` — loaded from the
environment of `g` — by `BR reg`): the machine on the text of the routine passes through a boundary configuration
for each state of the positional run, and the heap invariant holds at each -/
example : ∃ nargs ops c' ls, (compile mockSym true C07_cloProg).run 0 = .ok ((ops, nargs), c') ∧
    parseText (printProg C07_cloRoutine) = .ok ls ∧
    (layout ls).labels["asm_main"]? = some (pcOf (hkOf hookVarsOf) C07_cloRoutine 2) ∧
    ∃ n0 X0, StepsN (layout ls) defaultMem n0 (initMS defaultMem (hkOf hookVarsOf) C07_cloRoutine [37]) X0 ∧
      BChain (layout ls) defaultMem
        (fun st X => BoundaryOf C07_cloProg true C07_cloRoutine ops defaultMem (hkOf hookVarsOf) (layout ls) st X ∧
          HeapInvAt defaultMem X.σ (ctxKinds st.ctx) (0x10000000 + 0x2000000))
        (statesOf C07_cloProg 20 ⟨C07_cloMain.ctx, [.int 37], C07_cloMain.body⟩) X0 := by
  obtain ⟨body, nargs, hcomp⟩ := C07_cloProg_compiles
  obtain ⟨ops, c', ls, h1, h2, h3, _, h5⟩ := C09_a64_programs C07_cloProg [37] true body C07_cloRoutine nargs
    C07_cloMain C07_cloProg_safe C07_cloProg_typed C07_cloProg_checks hcomp rfl
    20 _ _ C07_cloProg_run {} cfgCC_default (by decide) (by decide) (by decide) (C07_cloRoutine_fits (by decide))
  exact ⟨nargs, ops, c', ls, h1, h2, h3, h5⟩

set_option maxRecDepth 100000 in
/-- … and for the program whose single-method closure is entered by a `BR reg` that SKIPS the `#ctx` hook of the
statement boundary (`C07_hookProg`: the boundary of `switch w` is never visited by the machine; the configuration
of the chain for that state is the boundary up to `Tol`) -/
example : ∃ nargs ops c' ls, (compile mockSym true C07_hookProg).run 0 = .ok ((ops, nargs), c') ∧
    parseText (printProg C07_hookRoutine) = .ok ls ∧
    ∃ n0 X0, StepsN (layout ls) defaultMem n0 (initMS defaultMem (hkOf hookVarsOf) C07_hookRoutine [7]) X0 ∧
      BChain (layout ls) defaultMem
        (fun st X => BoundaryOf C07_hookProg true C07_hookRoutine ops defaultMem (hkOf hookVarsOf) (layout ls) st X ∧
          HeapInvAt defaultMem X.σ (ctxKinds st.ctx) (0x10000000 + 0x2000000))
        (statesOf C07_hookProg 20 ⟨C07_hookMain.ctx, [.int 7], C07_hookMain.body⟩) X0 := by
  obtain ⟨body, nargs, hcomp⟩ := C07_hookProg_compiles
  obtain ⟨ops, c', ls, h1, h2, _, _, h5⟩ := C09_a64_programs C07_hookProg [7] true body C07_hookRoutine nargs
    C07_hookMain C07_hookProg_safe C07_hookProg_typed C07_hookProg_checks hcomp rfl
    20 _ _ C07_hookProg_run {} cfgCC_default (by decide) (by decide) (by decide) (C07_hookRoutine_fits (by decide))
  exact ⟨nargs, ops, c', ls, h1, h2, h5⟩

set_option maxRecDepth 100000 in
/-- `C09_a64_every_prefix_all` on the closure program with the trivial peak `Pk = A·fuel + 1` (`A = 1`): the first 5
steps of the run (a proper prefix: up to the second `create`) -/
example : ∃ nargs ops c' ls, (compile mockSym true C07_cloProg).run 0 = .ok ((ops, nargs), c') ∧
    parseText (printProg C07_cloRoutine) = .ok ls ∧
    ∃ n0 X0, StepsN (layout ls) defaultMem n0 (initMS defaultMem (hkOf hookVarsOf) C07_cloRoutine [37]) X0 ∧
      BChain (layout ls) defaultMem
        (fun st X => BoundaryOf C07_cloProg true C07_cloRoutine ops defaultMem (hkOf hookVarsOf) (layout ls) st X ∧
          HeapInvAt defaultMem X.σ (ctxKinds st.ctx) (0x10000000 + 0x2000000))
        (statesOf C07_cloProg 5 ⟨C07_cloMain.ctx, [.int 37], C07_cloMain.body⟩) X0 := by
  obtain ⟨body, nargs, hcomp⟩ := C07_cloProg_compiles
  have e1 : progMaxAlloc C07_cloProg = 1 := by decide
  have hnargs : ([37] : List Word).length = nargs := by
    obtain ⟨c1, hcompA, _⟩ := compileProg_ok hcomp
    obtain ⟨_, _, _, _, _, _, hn2⟩ := Ref.compile_a64_entry hcompA (d0 := C07_cloMain) rfl
    rw [hn2]; rfl
  obtain ⟨ops, c', ls, h1, h2, _, _, h5⟩ := C09_a64_every_prefix_all C07_cloProg [37] true body C07_cloRoutine nargs
    C07_cloMain C07_cloProg_safe C07_cloProg_typed C07_cloProg_checks hcomp rfl hnargs 5 (by decide)
    {} cfgCC_default (by decide) (by decide) (progMaxAlloc C07_cloProg * 5 + 1) (by rw [e1]; decide) (C07_cloRoutine_fits (by decide))
    (fun _ _ _ _ _ => ConcK.peakAtMost_trivial _ _ _ _ _ _ _ _ _)
  exact ⟨nargs, ops, c', ls, h1, h2, h5⟩

/-! ### non-vacuity of the theorems for runs that do not terminate: a loop that creates a closure and invokes it
FOREVER (the program of Props/C13X86All.lean, here with the declarations of Props/C07A64Full.lean) -/

/-- main(x) { create f : Fun = (x){ Ap(a) => subst (y := a); main(y) }; lit n <- 5;
      subst (n := n)(f := f); invoke f Ap(n) } -/
def C13A_cloLoopMain : Def :=
  { name := ⟨"main", 0⟩, ctx := [⟨⟨"x", 1⟩, .ext, .i64⟩],
    body := .create ⟨"f", 2⟩ C07_tFun (some [⟨⟨"x", 1⟩, .ext, .i64⟩])
      (.cons ⟨"Ap", 0⟩ [⟨⟨"a", 3⟩, .ext, .i64⟩]
        (.subst [(⟨⟨"y", 4⟩, .ext, .i64⟩, ⟨"a", 3⟩)] (.call ⟨"main", 0⟩ [⟨⟨"y", 4⟩, .ext, .i64⟩])) .nil)
      (.lit ⟨"n", 5⟩ 5
        (.subst [(⟨⟨"n", 6⟩, .ext, .i64⟩, ⟨"n", 5⟩), (⟨⟨"f", 7⟩, .cns, C07_tFun⟩, ⟨"f", 2⟩)]
          (.invoke ⟨"f", 7⟩ ⟨"Ap", 0⟩ C07_tFun [⟨⟨"n", 6⟩, .ext, .i64⟩])) none) none none }

def C13A_cloLoopProg : AxCut.Prog := { defs := [C13A_cloLoopMain], types := [C07_funDecl], maxId := 204 }

def C13A_cloLoopRoutine : List Code :=
  match compileProg a64Backend C13A_cloLoopProg true 0 with
  | .ok (_, _, r) => r
  | .error _ => []

def C13A_cloLoopClauses : Clauses :=
  .cons ⟨"Ap", 0⟩ [⟨⟨"a", 3⟩, .ext, .i64⟩]
    (.subst [(⟨⟨"y", 4⟩, .ext, .i64⟩, ⟨"a", 3⟩)] (.call ⟨"main", 0⟩ [⟨⟨"y", 4⟩, .ext, .i64⟩])) .nil

def C13A_cloLoopClo : Pos.Value := .clo [⟨⟨"x", 1⟩, .ext, .i64⟩] [.int 5] C13A_cloLoopClauses

/-- the six states of the loop (started with x = 5) -/
def C13A_cloS0 : Pos.State := ⟨C13A_cloLoopMain.ctx, [.int 5], C13A_cloLoopMain.body⟩
def C13A_cloS1 : Pos.State :=
  ⟨[⟨⟨"f", 2⟩, .cns, C07_tFun⟩], [C13A_cloLoopClo],
   .lit ⟨"n", 5⟩ 5
     (.subst [(⟨⟨"n", 6⟩, .ext, .i64⟩, ⟨"n", 5⟩), (⟨⟨"f", 7⟩, .cns, C07_tFun⟩, ⟨"f", 2⟩)]
       (.invoke ⟨"f", 7⟩ ⟨"Ap", 0⟩ C07_tFun [⟨⟨"n", 6⟩, .ext, .i64⟩])) none⟩
def C13A_cloS2 : Pos.State :=
  ⟨[⟨⟨"f", 2⟩, .cns, C07_tFun⟩, ⟨⟨"n", 5⟩, .ext, .i64⟩], [C13A_cloLoopClo, .int 5],
   .subst [(⟨⟨"n", 6⟩, .ext, .i64⟩, ⟨"n", 5⟩), (⟨⟨"f", 7⟩, .cns, C07_tFun⟩, ⟨"f", 2⟩)]
     (.invoke ⟨"f", 7⟩ ⟨"Ap", 0⟩ C07_tFun [⟨⟨"n", 6⟩, .ext, .i64⟩])⟩
def C13A_cloS3 : Pos.State :=
  ⟨[⟨⟨"n", 6⟩, .ext, .i64⟩, ⟨⟨"f", 7⟩, .cns, C07_tFun⟩], [.int 5, C13A_cloLoopClo],
   .invoke ⟨"f", 7⟩ ⟨"Ap", 0⟩ C07_tFun [⟨⟨"n", 6⟩, .ext, .i64⟩]⟩
def C13A_cloS4 : Pos.State :=
  ⟨[⟨⟨"a", 3⟩, .ext, .i64⟩, ⟨⟨"x", 1⟩, .ext, .i64⟩], [.int 5, .int 5],
   .subst [(⟨⟨"y", 4⟩, .ext, .i64⟩, ⟨"a", 3⟩)] (.call ⟨"main", 0⟩ [⟨⟨"y", 4⟩, .ext, .i64⟩])⟩
def C13A_cloS5 : Pos.State :=
  ⟨[⟨⟨"y", 4⟩, .ext, .i64⟩], [.int 5], .call ⟨"main", 0⟩ [⟨⟨"y", 4⟩, .ext, .i64⟩]⟩

theorem C13A_cloLoop_step0 : Pos.step C13A_cloLoopProg C13A_cloS0 = .next C13A_cloS1 none := by rfl
theorem C13A_cloLoop_step1 : Pos.step C13A_cloLoopProg C13A_cloS1 = .next C13A_cloS2 none := by rfl
theorem C13A_cloLoop_step2 : Pos.step C13A_cloLoopProg C13A_cloS2 = .next C13A_cloS3 none := by rfl
theorem C13A_cloLoop_step3 : Pos.step C13A_cloLoopProg C13A_cloS3 = .next C13A_cloS4 none := by rfl
theorem C13A_cloLoop_step4 : Pos.step C13A_cloLoopProg C13A_cloS4 = .next C13A_cloS5 none := by rfl
theorem C13A_cloLoop_step5 : Pos.step C13A_cloLoopProg C13A_cloS5 = .next C13A_cloS0 none := by rfl

theorem C13A_cloLoop_reachable (st : Pos.State) (h : Reachable C13A_cloLoopProg C13A_cloS0 st) :
    st = C13A_cloS0 ∨ st = C13A_cloS1 ∨ st = C13A_cloS2 ∨ st = C13A_cloS3 ∨ st = C13A_cloS4 ∨ st = C13A_cloS5 := by
  induction h with
  | refl => exact Or.inl rfl
  | step _ hs ih =>
    rcases ih with rfl | rfl | rfl | rfl | rfl | rfl
    · rw [C13A_cloLoop_step0] at hs; injection hs with e; exact Or.inr (Or.inl e.symm)
    · rw [C13A_cloLoop_step1] at hs; injection hs with e; exact Or.inr (Or.inr (Or.inl e.symm))
    · rw [C13A_cloLoop_step2] at hs; injection hs with e; exact Or.inr (Or.inr (Or.inr (Or.inl e.symm)))
    · rw [C13A_cloLoop_step3] at hs; injection hs with e
      exact Or.inr (Or.inr (Or.inr (Or.inr (Or.inl e.symm))))
    · rw [C13A_cloLoop_step4] at hs; injection hs with e
      exact Or.inr (Or.inr (Or.inr (Or.inr (Or.inr e.symm))))
    · rw [C13A_cloLoop_step5] at hs; injection hs with e; exact Or.inl e.symm

/-- the loop never ends and never gets stuck -/
theorem C13A_cloLoop_runs : ∀ (fuel : Nat) (acc : List (Bool × Word)),
    (Pos.runState C13A_cloLoopProg fuel C13A_cloS0 acc).res = .outOfFuel ∧
    (Pos.runState C13A_cloLoopProg fuel C13A_cloS1 acc).res = .outOfFuel ∧
    (Pos.runState C13A_cloLoopProg fuel C13A_cloS2 acc).res = .outOfFuel ∧
    (Pos.runState C13A_cloLoopProg fuel C13A_cloS3 acc).res = .outOfFuel ∧
    (Pos.runState C13A_cloLoopProg fuel C13A_cloS4 acc).res = .outOfFuel ∧
    (Pos.runState C13A_cloLoopProg fuel C13A_cloS5 acc).res = .outOfFuel
  | 0, _ => ⟨rfl, rfl, rfl, rfl, rfl, rfl⟩
  | fuel + 1, acc => by
    obtain ⟨h0, h1, h2, h3, h4, h5⟩ := C13A_cloLoop_runs fuel acc
    refine ⟨?_, ?_, ?_, ?_, ?_, ?_⟩
    · simp only [Pos.runState, C13A_cloLoop_step0]; exact h1
    · simp only [Pos.runState, C13A_cloLoop_step1]; exact h2
    · simp only [Pos.runState, C13A_cloLoop_step2]; exact h3
    · simp only [Pos.runState, C13A_cloLoop_step3]; exact h4
    · simp only [Pos.runState, C13A_cloLoop_step4]; exact h5
    · simp only [Pos.runState, C13A_cloLoop_step5]; exact h0

theorem C13A_cloLoop_nostuck (fuel : Nat) (w : Pos.Why) :
    (Pos.run C13A_cloLoopProg [5] fuel).res ≠ .stuck w := by
  intro h
  have hrs : Pos.run C13A_cloLoopProg [5] fuel = Pos.runState C13A_cloLoopProg fuel C13A_cloS0 [] :=
    Scc.X86.Conc.run_eq_runState rfl rfl fuel
  rw [hrs, (C13A_cloLoop_runs fuel []).1] at h
  cases h

/-- at no state of the loop do the variables hold more than one field of closure data -/
theorem C13A_cloLoop_size (st : Pos.State) (h : Reachable C13A_cloLoopProg C13A_cloS0 st) :
    valsFields st.env ≤ 1 := by
  rcases C13A_cloLoop_reachable st h with rfl | rfl | rfl | rfl | rfl | rfl <;> decide

set_option maxRecDepth 100000 in
theorem C13A_cloLoopProg_safe : LabelSafe C13A_cloLoopProg = true := by decide

theorem C13A_cloLoopProg_typed : LinTypedProg C13A_cloLoopProg := linTypedCheck_sound C13A_cloLoopProg rfl

theorem C13A_cloLoopProg_checks : C07_a64Checks C13A_cloLoopProg = true := by decide +kernel

theorem C13A_cloLoop_compiles : ∃ b n, compileProg a64Backend C13A_cloLoopProg true 0 = .ok (b, n, C13A_cloLoopRoutine) :=
  ⟨_, _, rfl⟩

set_option maxRecDepth 100000 in
theorem C13A_cloLoopRoutine_fits {c : MemCfg} (hc : c.codeBase ≤ 2 ^ 62) : c.codeBase + 4 * ninstr C13A_cloLoopRoutine < 2 ^ 64 :=
  fits_of_ninstr hc (by decide)

theorem C13A_cloLoop_consts : progMaxAlloc C13A_cloLoopProg = 1 ∧
    Scc.X86.Conc.progMaxSize C13A_cloLoopProg = 7 ∧ Scc.X86.Conc.stmtSize C13A_cloLoopMain.body = 7 := by decide

/-- THE CLOSURE LOOP (it never terminates): for EVERY number `k` of steps of the positional machine the machine on
the text of the routine passes through a statement boundary for each of the first `k` states — among them, in
every round, the boundary reached by the `BR reg` of the `invoke` —, and the heap invariant holds at each of them -/
theorem C09A_cloLoop_every_boundary (k : Nat) (hk : k + 1 < 2 ^ 64) :
    ∃ nargs ops c' ls, (compile mockSym true C13A_cloLoopProg).run 0 = .ok ((ops, nargs), c') ∧
      parseText (printProg C13A_cloLoopRoutine) = .ok ls ∧
      ∃ n0 X0, StepsN (layout ls) defaultMem n0 (initMS defaultMem (hkOf hookVarsOf) C13A_cloLoopRoutine [5]) X0 ∧
        BChain (layout ls) defaultMem
          (fun st X => BoundaryOf C13A_cloLoopProg true C13A_cloLoopRoutine ops defaultMem (hkOf hookVarsOf)
              (layout ls) st X ∧ HeapInvAt defaultMem X.σ (ctxKinds st.ctx) (0x10000000 + 0x2000000))
          (statesOf C13A_cloLoopProg k C13A_cloS0) X0 := by
  obtain ⟨body, nargs, hcomp⟩ := C13A_cloLoop_compiles
  have e1 := C13A_cloLoop_consts.1
  have hnargs : ([5] : List Word).length = nargs := by
    obtain ⟨c1, hcompA, _⟩ := compileProg_ok hcomp
    obtain ⟨_, _, _, _, _, _, hn2⟩ := Ref.compile_a64_entry hcompA (d0 := C13A_cloLoopMain) rfl
    rw [hn2]; rfl
  obtain ⟨ops, c', ls, h1, h2, _, _, h5⟩ := C09_a64_every_prefix_all_size C13A_cloLoopProg [5] true body
    C13A_cloLoopRoutine nargs C13A_cloLoopMain C13A_cloLoopProg_safe C13A_cloLoopProg_typed
    C13A_cloLoopProg_checks hcomp rfl hnargs 1 C13A_cloLoop_size k hk
    {} cfgCC_default (by decide) (by decide) (by rw [e1]; decide) (C13A_cloLoopRoutine_fits (by decide))
  exact ⟨nargs, ops, c', ls, h1, h2, h5⟩

end Scc.A64

#print axioms Scc.A64.C09_run_passes
#print axioms Scc.A64.C09_a64_boundary_all
#print axioms Scc.A64.C09_a64_monitor_roots
#print axioms Scc.A64.C09_a64_heapMonitor_boundary_all
#print axioms Scc.A64.C09_a64_programs_lines
#print axioms Scc.A64.C09_a64_programs
#print axioms Scc.A64.C09_a64_reachable_all
#print axioms Scc.A64.C09_a64_every_prefix_all_lines
#print axioms Scc.A64.C09_a64_every_prefix_all
#print axioms Scc.A64.C09_a64_every_prefix_all_size
#print axioms Scc.A64.C09A_cloLoop_every_boundary

#print axioms Scc.A64.C09_run_eq_runProg
#print axioms Scc.A64.C09_wf_ok
#print axioms Scc.A64.C13A_cloLoop_step0
#print axioms Scc.A64.C13A_cloLoop_step1
#print axioms Scc.A64.C13A_cloLoop_step2
#print axioms Scc.A64.C13A_cloLoop_step3
#print axioms Scc.A64.C13A_cloLoop_step4
#print axioms Scc.A64.C13A_cloLoop_step5
#print axioms Scc.A64.C13A_cloLoop_reachable
#print axioms Scc.A64.C13A_cloLoop_runs
#print axioms Scc.A64.C13A_cloLoop_nostuck
#print axioms Scc.A64.C13A_cloLoop_size
#print axioms Scc.A64.C13A_cloLoopProg_checks
#print axioms Scc.A64.C13A_cloLoop_compiles
#print axioms Scc.A64.C13A_cloLoopRoutine_fits
#print axioms Scc.A64.C13A_cloLoop_consts
#print axioms Scc.A64.C13A_cloLoopProg_safe
#print axioms Scc.A64.C13A_cloLoopProg_typed
