/-
  Scc.Props.C14Generic — C14 (emitted code is well-formed), the part that belongs to the GENERIC code
  generator (axcut2backend), stated for the code produced with the mock backend (`mockSym`, whose
  instructions expose their label definitions and references; `events`, ProofsLabels.lean).

  * C14-T2 `labels_defined` (FULL): every label referenced by the output of `compile` is defined in the
    same output, except `cleanup` (the single external label, defined by the routine wrapper), provided
    every called definition exists.
  * C14-T3 `labels_unique`: under the decidable hypothesis `LabelSafe p` (ProofsNames.lean) no label is
    defined twice (the mock instance of the theorem for all backends, ProofsLabelsGen.lean);
    `collision_*`: for each clause of `LabelSafe` a program violating only it whose output defines a
    label twice (so the hypothesis cannot be dropped: user names may contain digits and underscores).
  * C14-T1 `table_stride`: a jump table consists of exactly one `jumpfixed` per clause, in xtor order, and
    `switch` / `create` emit it directly after the table label; beside it `let_tag` / `invoke_tag`: `let` and
    `invoke` use `jumpLength (xtorPosition tag)`.
-/
import Scc.Backend.ProofsLabelsGen

namespace Scc.Props.C14Generic

open Scc.AxCut Scc.Backend

/-! ## C14-T2: every referenced label is defined -/

def progCalls (p : Prog) : List String := defsCalls p.defs

/-- "the callee exists": every called definition is a definition of the program -/
def CallsDefined (p : Prog) : Prop := ∀ f ∈ progCalls p, f ∈ p.defs.map (·.name.print)

instance (p : Prog) : Decidable (CallsDefined p) := by unfold CallsDefined; exact inferInstance

def C14_T2_statement : Prop :=
  ∀ (hooks : Bool) (p : Prog) (c : Nat) (code : List MockOp) (nargs c' : Nat),
    (compile mockSym hooks p).run c = .ok ((code, nargs), c') → CallsDefined p →
    ∀ name ∈ refs (events code), name ∈ dfns (events code) ∨ name = "cleanup"

/-- without `CallsDefined`: a referenced label is defined, is `cleanup`, or is the label `f_` of a
    called definition `f` -/
theorem labels_defined_or_called (hooks : Bool) (p : Prog) (c : Nat) (code : List MockOp)
    (nargs c' : Nat) (h : (compile mockSym hooks p).run c = .ok ((code, nargs), c')) :
    ∀ name ∈ refs (events code),
      name ∈ dfns (events code) ∨ name = "cleanup" ∨ ∃ f ∈ progCalls p, name = f ++ "_" := by
  intro name hname
  obtain ⟨hev, _⟩ := compileR_events hooks natRen p c code nargs c' h
  rw [hev, refs_map] at hname
  obtain ⟨l, hl, rfl⟩ := List.mem_map.mp hname
  rw [hev, dfns_map]
  rcases defsEvents_resolved p.defs c l hl with h1 | h1 | ⟨f, hf, h1⟩
  · exact Or.inl (List.mem_map.mpr ⟨l, h1, rfl⟩)
  · subst h1; exact Or.inr (Or.inl rfl)
  · subst h1; exact Or.inr (Or.inr ⟨f, hf, rfl⟩)

theorem labels_defined : C14_T2_statement := by
  intro hooks p c code nargs c' h hcalls name hname
  rcases labels_defined_or_called hooks p c code nargs c' h name hname with h1 | h1 | ⟨f, hf, rfl⟩
  · exact Or.inl h1
  · exact Or.inr h1
  · obtain ⟨hev, _⟩ := compileR_events hooks natRen p c code nargs c' h
    rw [hev, dfns_map]
    exact Or.inl (List.mem_map.mpr ⟨_, defn_mem_dfns_defsEvents p.defs c f (hcalls f hf), rfl⟩)

/-! ## C14-T3: no label is defined twice -/

def C14_T3_statement : Prop :=
  ∀ (hooks : Bool) (p : Prog) (c : Nat) (code : List MockOp) (nargs c' : Nat),
    (compile mockSym hooks p).run c = .ok ((code, nargs), c') → LabelSafe p = true →
    (dfns (events code)).Nodup

theorem labels_unique : C14_T3_statement := by
  intro hooks p c code nargs c' h hsafe
  have hnd := (Lab.body_labels hsafe (Lab.g_compile Lab.labOps_mock h hsafe)).2
  rw [Lab.labs_mockOp] at hnd
  exact (List.nodup_append.1 (List.nodup_cons.1 hnd).2).1

/-! ### collision witnesses (each violates exactly one clause of `LabelSafe`) -/

/-- the labels defined by the output of `compile` (counter start `c`, no hooks) -/
def definedLabels (p : Prog) (c : Nat) : List String :=
  match (compile mockSym false p).run c with
  | .ok ((code, _), _) => dfns (events code)
  | .error _ => []

/-- an integer binding -/
private def xb (n : String) (i : Nat) : Binding := ⟨⟨n, i⟩, .ext, .i64⟩
/-- a producer binding of the data type `t` -/
private def tb (n : String) (i : Nat) (t : String) : Binding := ⟨⟨n, i⟩, .prd, .decl ⟨t, 0⟩⟩
private def exit1 : Stmt := .lit ⟨"r", 99⟩ 0 (.exit ⟨"r", 99⟩) none
/-- `switch v : T { x₁ ⇒ exit, x₂ ⇒ exit }` -/
private def sw (v : Ident) (t : String) (x1 x2 : Ident) : Stmt :=
  .switch v (.decl ⟨t, 0⟩) (.cons x1 [] exit1 (.cons x2 [] exit1 .nil)) none

/-- clause 1 fails: definitions `f_1` (id 0) and `f` (id 1) both print as `f_1` -/
def collisionDefs : Prog :=
  { defs := [⟨⟨"f_1", 0⟩, [xb "x" 1], .exit ⟨"x", 1⟩⟩, ⟨⟨"f", 1⟩, [xb "x" 2], .exit ⟨"x", 2⟩⟩],
    types := [], maxId := 2 }

/-- clause 2 fails: xtors `K_1` (id 0) and `K` (id 1) of one clause list both print as `K_1` -/
def collisionXtors : Prog :=
  { defs := [⟨⟨"main", 0⟩, [tb "v" 1 "T"], sw ⟨"v", 1⟩ "T" ⟨"K_1", 0⟩ ⟨"K", 1⟩⟩],
    types := [], maxId := 1 }

/-- clause 3(a) fails: an xtor name ending in `_` (`x_`) against the definition `T_1_x`:
    clause label `T_1_x_` = definition label `T_1_x_` -/
def collisionTrailingUnderscore : Prog :=
  { defs := [⟨⟨"main", 0⟩, [tb "v" 1 "T"], sw ⟨"v", 1⟩ "T" ⟨"x_", 0⟩ ⟨"y", 0⟩⟩,
             ⟨⟨"T_1_x", 0⟩, [xb "x" 2], .exit ⟨"x", 2⟩⟩],
    types := [], maxId := 2 }

/-- clause 3(b) fails: xtor `x` with id 2 prints as `x_2`; the clause label `T_1_x_2` of the first
    switch equals the table label of the second switch, on the type `T_1_x` -/
def collisionDigitSegment : Prog :=
  { defs := [⟨⟨"main", 0⟩, [tb "v" 1 "T"], sw ⟨"v", 1⟩ "T" ⟨"x", 2⟩ ⟨"y", 0⟩⟩,
             ⟨⟨"g", 0⟩, [tb "w" 2 "T_1_x"], sw ⟨"w", 2⟩ "T_1_x" ⟨"a", 0⟩ ⟨"b", 0⟩⟩],
    types := [], maxId := 2 }

/-- clause 3(b), all-digit variant: xtor `2`: `T_1_2` is also the table label of type `T_1` -/
def collisionDigitName : Prog :=
  { defs := [⟨⟨"main", 0⟩, [tb "v" 1 "T"], sw ⟨"v", 1⟩ "T" ⟨"2", 0⟩ ⟨"y", 0⟩⟩,
             ⟨⟨"g", 0⟩, [tb "w" 2 "T_1"], sw ⟨"w", 2⟩ "T_1" ⟨"a", 0⟩ ⟨"b", 0⟩⟩],
    types := [], maxId := 2 }

/-- clause 3(c) fails: xtor `B_2_y` = `B_2` ++ `_` ++ (xtor `y`): the clause label `T_1_B_2_y` of the
    first switch equals the clause label of `y` in the second switch, on the type `T_1_B` -/
def collisionXtorSuffix : Prog :=
  { defs := [⟨⟨"main", 0⟩, [tb "v" 1 "T"], sw ⟨"v", 1⟩ "T" ⟨"B_2_y", 0⟩ ⟨"z", 0⟩⟩,
             ⟨⟨"g", 0⟩, [tb "w" 2 "T_1_B"], sw ⟨"w", 2⟩ "T_1_B" ⟨"y", 0⟩ ⟨"b", 0⟩⟩],
    types := [], maxId := 2 }

theorem collision_defs : ¬ (definedLabels collisionDefs 0).Nodup := by decide +kernel
theorem collision_xtors : ¬ (definedLabels collisionXtors 0).Nodup := by decide +kernel
theorem collision_trailing_underscore : ¬ (definedLabels collisionTrailingUnderscore 0).Nodup := by
  decide +kernel
theorem collision_digit_segment : ¬ (definedLabels collisionDigitSegment 0).Nodup := by decide +kernel
theorem collision_digit_name : ¬ (definedLabels collisionDigitName 0).Nodup := by decide +kernel
theorem collision_xtor_suffix : ¬ (definedLabels collisionXtorSuffix 0).Nodup := by decide +kernel

/-- the witnesses compile (the lists are not empty because of an error) and each violates `LabelSafe` -/
example : definedLabels collisionDigitSegment 0 =
    ["main_", "T_1", "T_1_x_2", "T_1_y", "g_", "T_1_x_2", "T_1_x_2_a", "T_1_x_2_b"] := by decide +kernel
example : LabelSafe collisionDefs = false := by decide +kernel
example : LabelSafe collisionXtors = false := by decide +kernel
example : LabelSafe collisionTrailingUnderscore = false := by decide +kernel
example : LabelSafe collisionDigitSegment = false := by decide +kernel
example : LabelSafe collisionDigitName = false := by decide +kernel
example : LabelSafe collisionXtorSuffix = false := by decide +kernel

/-- the collisions depend on the numbers: from counter start 5 the same program is collision free -/
example : (definedLabels collisionDigitSegment 5).Nodup := by decide +kernel

/-- non-vacuity of `labels_unique` / `labels_defined`: a safe program with calls, a table, xtor names
    containing underscores -/
def safeProg : Prog :=
  { defs := [⟨⟨"main", 0⟩, [tb "v" 1 "List[i64]"],
               sw ⟨"v", 1⟩ "List[i64]" ⟨"my_nil", 0⟩ ⟨"Cons", 0⟩⟩,
             ⟨⟨"g_7", 0⟩, [xb "x" 2], .ifc .eq ⟨"x", 2⟩ none (.call ⟨"main", 0⟩ []) (.exit ⟨"x", 2⟩)⟩],
    types := [], maxId := 2 }

example : LabelSafe safeProg = true := by decide +kernel
example : CallsDefined safeProg := by decide +kernel
example : definedLabels safeProg 0 =
    ["main_", "List_i64_1", "List_i64_1_my_nil", "List_i64_1_Cons", "g_7_", "lab2"] := by decide +kernel

/-! ## C14-T1: jump tables -/

/-- for every backend: the table is the concatenation of one `jump_label_fixed` per clause, in order -/
theorem codeTable_eq {Code T : Type} (B : Backend Code T) (base : String) : ∀ (cs : Clauses),
    codeTable B cs base = ((clauseXtors cs).map fun x => B.jumpLabelFixed (clauseLabel base x)).flatten
  | .nil => rfl
  | .cons x _ _ rest => by simp [codeTable, clauseXtors, codeTable_eq B base rest]

/-- mock backend: exactly one `jumpfixed` instruction per clause, in xtor order -/
theorem codeTable_mock (base : String) (cs : Clauses) :
    codeTable mockSym cs base = (clauseXtors cs).map fun x => MockOp.jumpFixed (clauseLabel base x) := by
  rw [codeTable_eq]
  induction clauseXtors cs with
  | nil => rfl
  | cons x xs ih => simpa using ih

theorem length_clauseXtors : ∀ (cs : Clauses), (clauseXtors cs).length = cs.length
  | .nil => rfl
  | .cons _ _ _ rest => by simp [clauseXtors, Clauses.length, length_clauseXtors rest]

/-- `switch`: the table stands directly after the table label -/
theorem switch_table (hooks : Bool) (ren : Nat → String) (types : List TypeDecl) (v : Ident) (ty : Ty)
    (cs : Clauses) (fv : FV) (ctx : Ctx) (c : Nat) (code : List MockOp) (c' : Nat)
    (h : (codeStatementR mockSym hooks ren types (.switch v ty cs fv) ctx).run c = .ok (code, c'))
    (hn : cs.length > 1) :
    ∃ pre post, code = pre ++ MockOp.label (mangleTy ty ++ "_" ++ ren (c + 1)) ::
      codeTable mockSym cs (mangleTy ty ++ "_" ++ ren (c + 1)) ++ post := by
  simp only [codeStatementR, run_bind_ok, run_pure_ok, freshLabelStr_run_ok] at h
  obtain ⟨num, k1, ⟨rfl, rfl⟩, c1, k2, h1, c3, k3, h3, rfl, rfl⟩ := h
  simp only [hn, if_true, mockSym_label]
  exact ⟨hookCode mockSym hooks ctx ++ [mockSym.comment ("switch " ++ v.print ++ " \\{ ... \\};")] ++ c1,
    c3, by simp [List.append_assoc]⟩

/-- `create`: the table stands directly after the table label -/
theorem create_table (hooks : Bool) (ren : Nat → String) (types : List TypeDecl) (v : Ident) (ty : Ty)
    (env : Option Ctx) (cs : Clauses) (next : Stmt) (f1 f2 : FV) (ctx : Ctx) (c : Nat)
    (code : List MockOp) (c' : Nat)
    (h : (codeStatementR mockSym hooks ren types (.create v ty env cs next f1 f2) ctx).run c =
      .ok (code, c'))
    (hn : cs.length > 1) :
    ∃ pre post, code = pre ++ MockOp.label (mangleTy ty ++ "_" ++ ren (c + 1)) ::
      codeTable mockSym cs (mangleTy ty ++ "_" ++ ren (c + 1)) ++ post := by
  cases env with
  | none => simp [codeStatementR, run_throw_ok] at h
  | some envCtx =>
    simp only [codeStatementR, run_bind_ok, run_pure_ok, freshLabelStr_run_ok, splitOffLast_run_ok,
      mockSym_store, mockSym_variableTemporary, vt_run_ok] at h
    obtain ⟨sp, k1, ⟨_, rfl, rfl⟩, c1, k2, ⟨rfl, rfl⟩, num, k3, ⟨rfl, rfl⟩, t, k4, ⟨p, _, _, rfl⟩,
      c3, k5, h3, c5, k6, h5, rfl, rfl⟩ := h
    simp only [hn, if_true, mockSym_label]
    refine ⟨hookCode mockSym hooks ctx ++
      [mockSym.comment ("create " ++ v.print ++ ": " ++ tyPrint ty ++ " = (" ++ varsPrint envCtx ++
        ")\\{ ... \\};")] ++ [MockOp.store (Mock.kindsOf (List.drop (ctx.length - envCtx.length) ctx))
          (List.take (ctx.length - envCtx.length) ctx).length] ++
      (mockSym.comment "#load tag" :: mockSym.loadLabel t
        (mangleTy ty ++ "_" ++ ren (c + 1))) ++ c3, c5, ?_⟩
    simp [List.append_assoc]

/-- `let` loads `jumpLength (xtorPosition tag)` as the tag -/
theorem let_tag (hooks : Bool) (ren : Nat → String) (types : List TypeDecl) (v : Ident) (ty : Ty)
    (tag : Ident) (args : Ctx) (next : Stmt) (fv : FV) (ctx : Ctx) (c : Nat) (code : List MockOp)
    (c' : Nat)
    (h : (codeStatementR mockSym hooks ren types (.letS v ty tag args next fv) ctx).run c =
      .ok (code, c')) :
    ∃ decl pos t pre post, lookupTypeDecl types ty = some decl ∧ xtorPosition decl tag = some pos ∧
      code = pre ++ MockOp.comment "#load tag" :: MockOp.li t (mockSym.jumpLength pos) :: post := by
  simp only [codeStatementR, run_bind_ok, run_pure_ok, lookupTypeDeclM_run_ok, xtorPositionM_run_ok,
    splitOffLast_run_ok, mockSym_store, mockSym_variableTemporary, vt_run_ok] at h
  obtain ⟨decl, k1, ⟨hd, rfl⟩, pos, k2, ⟨hp, rfl⟩, sp, k3, ⟨_, rfl, rfl⟩, c1, k4, ⟨rfl, rfl⟩, t, k5,
    ⟨p, _, _, rfl⟩, c3, k6, h3, rfl, rfl⟩ := h
  refine ⟨decl, pos, t, hookCode mockSym hooks ctx ++
      [mockSym.comment ("let " ++ v.print ++ ": " ++ tyPrint ty ++ " = " ++ tag.print ++ "(" ++
          varsPrint args ++ ");")] ++
      [MockOp.store (Mock.kindsOf (List.drop (ctx.length - args.length) ctx))
        (List.take (ctx.length - args.length) ctx).length], c3, hd, hp, ?_⟩
  simp [List.append_assoc]

/-- `invoke` on a type with more than one xtor adds `jumpLength (xtorPosition tag)` to the table
    address and jumps -/
theorem invoke_tag (hooks : Bool) (ren : Nat → String) (types : List TypeDecl) (v tag : Ident)
    (ty : Ty) (args : Ctx) (ctx : Ctx) (c : Nat) (code : List MockOp) (c' : Nat)
    (h : (codeStatementR mockSym hooks ren types (.invoke v tag ty args) ctx).run c = .ok (code, c')) :
    ∃ decl t, lookupTypeDecl types ty = some decl ∧
      (decl.xtors.length ≤ 1 → ∃ pre, code = pre ++ [MockOp.jump t]) ∧
      (¬ decl.xtors.length ≤ 1 → ∃ pos pre, xtorPosition decl tag = some pos ∧
        code = pre ++ [MockOp.addJump t (mockSym.jumpLength pos)]) := by
  simp only [codeStatementR, run_bind_ok, lookupTypeDeclM_run_ok, mockSym_variableTemporary,
    vt_run_ok] at h
  obtain ⟨t, k1, ⟨p, _, _, rfl⟩, decl, k2, ⟨hd, rfl⟩, h2⟩ := h
  refine ⟨decl, t, hd, ?_, ?_⟩
  · intro hle
    simp only [hle, if_true, run_pure_ok] at h2
    obtain ⟨rfl, rfl⟩ := h2
    exact ⟨hookCode mockSym hooks ctx ++ [mockSym.comment (invokePrint v tag args)] ++
      [mockSym.comment "#there is only one clause, so we can jump there directly"], by simp⟩
  · intro hle
    simp only [hle, if_false, run_bind_ok, run_pure_ok, xtorPositionM_run_ok] at h2
    obtain ⟨pos, k3, ⟨hp, rfl⟩, rfl, rfl⟩ := h2
    exact ⟨pos, hookCode mockSym hooks ctx ++ [mockSym.comment (invokePrint v tag args)], hp, by simp⟩

/-- C14-T1, collected -/
def C14_T1_statement : Prop :=
  (∀ base cs, codeTable mockSym cs base =
      (clauseXtors cs).map fun x => MockOp.jumpFixed (clauseLabel base x)) ∧
  (∀ hooks ren types v ty cs fv ctx c code c',
      (codeStatementR mockSym hooks ren types (.switch v ty cs fv) ctx).run c = .ok (code, c') →
      cs.length > 1 →
      ∃ pre post, code = pre ++ MockOp.label (mangleTy ty ++ "_" ++ ren (c + 1)) ::
        codeTable mockSym cs (mangleTy ty ++ "_" ++ ren (c + 1)) ++ post) ∧
  (∀ hooks ren types v ty env cs next f1 f2 ctx c code c',
      (codeStatementR mockSym hooks ren types (.create v ty env cs next f1 f2) ctx).run c =
        .ok (code, c') →
      cs.length > 1 →
      ∃ pre post, code = pre ++ MockOp.label (mangleTy ty ++ "_" ++ ren (c + 1)) ::
        codeTable mockSym cs (mangleTy ty ++ "_" ++ ren (c + 1)) ++ post)

theorem table_stride : C14_T1_statement :=
  ⟨codeTable_mock, switch_table, create_table⟩

#print axioms labels_defined
#print axioms labels_unique
#print axioms table_stride
#print axioms let_tag
#print axioms invoke_tag
#print axioms collision_digit_segment

end Scc.Props.C14Generic

#print axioms Scc.Props.C14Generic.labels_defined_or_called
#print axioms Scc.Props.C14Generic.collision_defs
#print axioms Scc.Props.C14Generic.collision_xtors
#print axioms Scc.Props.C14Generic.collision_trailing_underscore
#print axioms Scc.Props.C14Generic.collision_digit_name
#print axioms Scc.Props.C14Generic.collision_xtor_suffix
#print axioms Scc.Props.C14Generic.codeTable_eq
#print axioms Scc.Props.C14Generic.codeTable_mock
#print axioms Scc.Props.C14Generic.length_clauseXtors
#print axioms Scc.Props.C14Generic.switch_table
#print axioms Scc.Props.C14Generic.create_table
