/-
  Scc.Props.C15 — the Fun type checker accepts exactly the well-typed programs.

  Property C15 (as given): "Every program built to be well-typed (all constructs, polymorphic
  declarations instantiated at several types, shadowing, covariable parameters) is accepted, and every
  program that differs from a well-typed one by a single certainly ill-typed edit (wrong argument count or
  type, unbound name, missing, extra or duplicated clause, wrong number of binders or type arguments,
  producer used as consumer or vice versa, duplicate declaration) is rejected with a diagnostic."

  Model of the code: `Scc.Fun.Check` (transcription of /repo/lang/fun typing/ and the `check` methods,
  tied to the implementation by exact equality of the annotated tree / of the diagnostic code on the
  repo's files, a corpus of well-typed programs and > 10 000 mutants).
  Specification: `Scc.Fun.Typing` (`WT`, declarative, no symbol table / printed names / state).

  What is proved here about THE CODE AS IT IS (after the repairs of New::check and Goto::check,
  both found with this machinery; before them completeness was false, see (e)):
    C15_full               the full statement `C15_statement`                                       (proved)
    (a) C15_printTy_injective, C15_instName_injective   keying the tables by printed names is keying
                                                        by structure (names are identifiers)        (proved)
    (b) C15_sound          checkProgram p = ok p' → WT p ∧ p' is p up to annotations and clause order
                           ∧ every type declaration of p' is an instance of a template of p         (proved)
        C15_reject_not_WT  ¬ WT p → the checker does not accept                                     (proved)
    (c) C15_annotated      the output has all `ty`/`chi`/clause-context annotations filled          (proved, no hypotheses)
    (d) C15_mut_*          the "certainly ill-typed edits" are not `WT` (hence rejected, by (b))     (proved, class by class)
    (e) C15_complete       WT p → accepted;  C15_no_panic: a rejection is a diagnostic, never a panic (proved)
        C15_wtCheck_iff_WT the run-time oracle `wtCheck` decides `WT`
  Hypothesis throughout: `programNamesOk p` (all type/xtor names are identifiers — what the lexer
  produces; (a) shows why it is needed: `A[i64]` as a NAME collides with the instance `A[i64]`).
  Known, not a violation of the property text: `WT` only asks declarations to be name-scoped, as the
  checker does; `data D { K(x: List) }` with a 1-ary `List` is accepted (corpus f06), `WTstrict` rejects it.
-/
import Scc.Fun.CheckNoPanic

namespace Scc.Props
open Scc.Fun Scc.Fun.Check Scc.Fun.Typing

/-- C15, full statement: on programs whose names are identifiers (what the parser produces), the
checker accepts the well-typed programs and rejects all others with a diagnostic (never a panic). -/
def C15_statement : Prop :=
  ∀ p : Program, programNamesOk p = true →
    (WT p → ∃ p', checkProgram p = .ok p') ∧ (¬ WT p → ∃ code, checkProgram p = .diag code)

/-- the soundness half (accepted ⇒ well-typed), with what is known about the output -/
def C15_soundness_statement : Prop :=
  ∀ (p : Program) (p' : CheckedProgram), programNamesOk p = true → checkProgram p = .ok p' →
    WT p ∧ DefsErase p'.defs (defs p) ∧ InstancesOf printTyArgs p p' ∧ annotatedProgram p' = true

def C15_completeness_statement : Prop :=
  ∀ p : Program, programNamesOk p = true → WT p → ∃ p', checkProgram p = .ok p'

/-- rejected programs get a diagnostic, not a panic -/
def C15_no_panic_statement : Prop :=
  ∀ (p : Program) (site : String), programNamesOk p = true → checkProgram p ≠ .panic site

/-! ## (a) printed names are injective -/

/-- Type names contain no `[`, `]`, `,` (and are not `i64`): two types with the same printed form are
the same type, so keying the symbol table by printed names is keying by structure. -/
theorem C15_printTy_injective (a b : Ty) (ha : tyNamesOk a = true) (hb : tyNamesOk b = true)
    (h : printTy a = printTy b) : a = b :=
  printTy_inj ha hb h

/-- instance names `Cons[i64]`, `List[Pair[i64, i64]]` determine the base name and the arguments -/
theorem C15_instName_injective (x y : String) (a b : Tys) (hx : nameOk x = true) (hy : nameOk y = true)
    (ha : tysNamesOk a = true) (hb : tysNamesOk b = true) (h : instName x a = instName y b) :
    x = y ∧ a = b :=
  instName_inj hx hy ha hb h

/-- `name.replace(printed_args, "")` in `lookup_ty_for_ctor/dtor` recovers the template name -/
theorem C15_replace_recovers_template (n : String) (a : Tys) (hn : nameOk n = true) :
    removeAll (instName n a) (printTyArgs a) = n :=
  removeAll_instName a hn

-- non-vacuity: the hypotheses hold for ordinary names, and the printed form is the one of the code
example : nameOk "List" = true ∧ nameOk "Cons" = true ∧ nameOk "i64" = false ∧ nameOk "A[B" = false := by
  decide +kernel
example : printTy (.decl "Pair" (.cons .i64 (.cons (.decl "List" (.cons .i64 .nil)) .nil)))
    = "Pair[i64, List[i64]]" := by decide +kernel
example : instName "Cons" (.cons .i64 .nil) = "Cons[i64]" := by decide
/-- without the hypothesis the statement is false: a "name" containing brackets collides -/
example : printTy (.decl "A[i64]" .nil) = printTy (.decl "A" (.cons .i64 .nil)) := by decide +kernel

/-! ## (b) soundness -/

theorem C15_sound : C15_soundness_statement := by
  intro p p' hp h
  exact checkProgramR_sound hp (checkProgram_ok_iff.mp h)

/-- the oracle used at run time: if the model checker accepts, the program is well-typed -/
theorem C15_wtCheck_sound (p : Program) (hp : programNamesOk p = true) (h : wtCheck p = true) :
    WT p := by
  unfold wtCheck at h
  cases hc : checkProgram p with
  | ok p' => exact (C15_sound p p' hp hc).1
  | diag c => simp [hc, Outcome.isOk] at h
  | panic s => simp [hc, Outcome.isOk] at h

theorem C15_reject_not_WT (p : Program) (hp : programNamesOk p = true) (h : ¬ WT p)
    (p' : CheckedProgram) : checkProgram p ≠ .ok p' :=
  fun hc => h (C15_sound p p' hp hc).1

/-! ## (c) the output is annotated -/

/-- Every `ty`/`chi` field of the checked program is filled and every clause carries the typed
context of its binders — the precondition of fun2core's `expect("Types should be annotated")`. -/
theorem C15_annotated (p : Program) (p' : CheckedProgram) (h : checkProgram p = .ok p') :
    annotatedProgram p' = true :=
  checkProgramR_annotated (checkProgram_ok_iff.mp h)

/-! ## a concrete program (non-vacuity of (b), (c)) -/

/-- `data List[A] { Nil, Cons(x: A, xs: List[A]) }  codata Fun[A, B] { apply(x: A): B }`
    `def len(l: List[i64]): i64 { l.case[i64] { Cons(x, xs) => 1 + len(xs), Nil => 0 } }`
    `def main(k:cns i64): i64 { label a { goto a ((new { apply(y) => y }).apply[i64, i64](len(Cons(1, Nil)))) } }` -/
def C15_example : Program := ⟨[
  .data ⟨"List", ["A"], [⟨"Nil", []⟩,
    ⟨"Cons", [⟨"x", .prd, .decl "A" .nil⟩, ⟨"xs", .prd, .decl "List" (.cons (.decl "A" .nil) .nil)⟩]⟩]⟩,
  .codata ⟨"Fun", ["A", "B"], [⟨"apply", [⟨"x", .prd, .decl "A" .nil⟩], .decl "B" .nil⟩]⟩,
  .defn ⟨"len", [⟨"l", .prd, .decl "List" (.cons .i64 .nil)⟩], .i64,
    .case (.var "l" none none) (.cons .i64 .nil)
      (.cons .data "Cons" ["x", "xs"] [] (.op (.lit 1) .sum (.call "len" (.cons (.var "xs" none none) .nil) none))
      (.cons .data "Nil" [] [] (.lit 0) .nil)) none⟩,
  .defn ⟨"main", [⟨"k", .cns, .i64⟩], .i64,
    .label "a" (.goto "a"
      (.dtor (.paren (.new (.cons .codata "apply" ["y"] [] (.var "y" none none) .nil) none)) "apply"
        (.cons .i64 (.cons .i64 .nil))
        (.cons (.call "len" (.cons (.ctor "Cons" (.cons (.lit 1) (.cons (.ctor "Nil" .nil none) .nil)) none) .nil) none) .nil)
        none) none) none⟩]⟩

theorem C15_example_namesOk : programNamesOk C15_example = true := by decide +kernel

theorem C15_example_accepted : wtCheck C15_example = true := by decide +kernel

/-- the example is well-typed (through the checker and soundness) -/
theorem C15_example_WT : WT C15_example :=
  C15_wtCheck_sound _ C15_example_namesOk C15_example_accepted

/-- the checked program lists the one instance the example uses, `List[i64]`, as a data type -/
example : (match checkProgram C15_example with
    | .ok p' => p'.dataTypes.map (·.name) | _ => []) = ["List[i64]"] := by decide +kernel

/-! ## (d) mutation lemmas: the certainly ill-typed edits are not `WT`

Node-level lemmas say that no context and no type make the mutated node typable
(`¬ TypedSomewhere p t`); `C15_mutant_not_WT` lifts them to programs: a definition body that contains
such a node (not in covariable-argument position, i.e. not a bare variable) makes the program ill-typed,
and by `C15_reject_not_WT` the checker rejects it.

The classes 1–11 number the edits in the order of the property text: 1 wrong argument count, 2 wrong argument
type, 3 unbound name, 4–6 missing / extra / duplicated clause, 7 wrong number of binders, 8 wrong number of type
arguments, 9 producer used as consumer, 10 consumer used as producer, 11 duplicate declaration; class 12 (type
parameter clash) is in addition to the text. -/

/-- lifting: every non-variable subterm of a definition body of a well-typed program is typable -/
theorem C15_subterm_typed {p : Program} (h : WT p) {d : Def} (hd : d ∈ defs p) {t : Term}
    (ht : t ∈ subterms d.body) (hv : ¬ IsVar t) : TypedSomewhere p t := by
  rcases typed_subterms d.body _ _ t (h.defs d hd).body ht with h | h
  · exact h
  · exact absurd h hv

theorem C15_mutant_not_WT {p : Program} {d : Def} (hd : d ∈ defs p) {t : Term}
    (ht : t ∈ subterms d.body) (hv : ¬ IsVar t) (hbad : ¬ TypedSomewhere p t) : ¬ WT p :=
  fun h => hbad (C15_subterm_typed h hd ht hv)

/-- class 1, wrong argument count (call) -/
theorem C15_mut_argcount_call {p : Program} (ok : DeclsOk p) {d : Def} (hd : d ∈ defs p)
    {args : Terms} {an : Option Ty} (hne : args.toList.length ≠ d.ctx.length) :
    ¬ TypedSomewhere p (.call d.name args an) := by
  rintro ⟨Γ, τ, h⟩
  obtain ⟨_, ha⟩ := hasType_call_inv ok hd h
  exact hne (argsTyped_length _ _ _ ha)

/-- class 1, wrong argument count (constructor) -/
theorem C15_mut_argcount_ctor {p : Program} {k : String} {args : Terms} {an : Option Ty}
    (hne : ∀ d ∈ datas p, ∀ c ∈ d.ctors, c.name = k → args.toList.length ≠ c.args.length) :
    ¬ TypedSomewhere p (.ctor k args an) := by
  rintro ⟨Γ, τ, h⟩
  obtain ⟨d, hd, c, hc, hk, _, _, hl⟩ := hasType_ctor_inv h
  exact hne d hd c hc hk hl

/-- class 1, wrong argument count (destructor) -/
theorem C15_mut_argcount_dtor {p : Program} {s : Term} {id : String} {ta : Tys} {args : Terms}
    {an : Option Ty}
    (hne : ∀ d ∈ codatas p, ∀ sg ∈ d.dtors, sg.name = id → args.toList.length ≠ sg.args.length) :
    ¬ TypedSomewhere p (.dtor s id ta args an) := by
  rintro ⟨Γ, τ, h⟩
  obtain ⟨d, hd, sg, hs, hk, _, hl, _⟩ := hasType_dtor_inv h
  exact hne d hd sg hs hk hl

/-- class 2, wrong argument type: a literal for a parameter of a declared type -/
theorem C15_mut_argtype_lit {p : Program} (ok : DeclsOk p) {d : Def} (hd : d ∈ defs p)
    {args : Terms} {an : Option Ty} {i : Nat} {n : Int} {b : Binding}
    (hi : args.toList[i]? = some (.lit n)) (hb : d.ctx[i]? = some b) (hprd : b.chi = .prd)
    (hty : b.ty ≠ .i64) : ¬ TypedSomewhere p (.call d.name args an) := by
  rintro ⟨Γ, τ, h⟩
  obtain ⟨_, ha⟩ := hasType_call_inv ok hd h
  exact hty (hasType_lit_inv (argsTyped_get _ _ _ i _ b ha hi hb hprd))

/-- class 2 / "constructor at i64": a constructor where `i64` is expected -/
theorem C15_mut_ctor_at_i64 {p : Program} {Γ : Ctx} {k : String} {args : Terms} {an : Option Ty} :
    ¬ HasType p Γ (.ctor k args an) .i64 := by
  intro h
  obtain ⟨_, _, _, _, _, _, ht, _⟩ := hasType_ctor_inv h
  cases ht

/-- wrong argument type: a constructor for an `i64` parameter of a definition -/
theorem C15_mut_argtype_ctor {p : Program} (ok : DeclsOk p) {d : Def} (hd : d ∈ defs p)
    {args : Terms} {an : Option Ty} {i : Nat} {k : String} {as : Terms} {an' : Option Ty} {b : Binding}
    (hi : args.toList[i]? = some (.ctor k as an')) (hb : d.ctx[i]? = some b) (hprd : b.chi = .prd)
    (hty : b.ty = .i64) : ¬ TypedSomewhere p (.call d.name args an) := by
  rintro ⟨Γ, τ, h⟩
  obtain ⟨_, ha⟩ := hasType_call_inv ok hd h
  have := argsTyped_get _ _ _ i _ b ha hi hb hprd
  rw [hty] at this
  exact C15_mut_ctor_at_i64 this

/-- class 2: a `new` where `i64` is expected -/
theorem C15_mut_new_at_i64 {p : Program} {Γ : Ctx} {cs : Clauses} {an : Option Ty} :
    ¬ HasType p Γ (.new cs an) .i64 := by
  intro h
  obtain ⟨_, _, _, ht, _⟩ := hasType_new_inv h
  cases ht

/-- class 2: a `new` where a data type is expected -/
theorem C15_mut_new_at_data {p : Program} (ok : DeclsOk p) {Γ : Ctx} {cs : Clauses} {an : Option Ty}
    {d : Data} (hd : d ∈ datas p) {targs : Tys} : ¬ HasType p Γ (.new cs an) (.decl d.name targs) := by
  intro h
  obtain ⟨d', hd', _, ht, _⟩ := hasType_new_inv h
  injection ht with hn _
  exact data_codata_disjoint ok hd hd' hn

/-- class 3, unbound variable / covariable: in a well-typed program every variable occurrence (as a
term, as a covariable argument) and every `goto` target is a parameter of the definition or bound on
the way (let, label, clause binder) -/
theorem C15_mut_unbound_var {p : Program} (h : WT p) {d : Def} (hd : d ∈ defs p) {x : String}
    {ty : Option Ty} {chi : Option Chi} (ht : Term.var x ty chi ∈ subterms d.body) :
    x ∈ d.ctx.map (·.var) ∨ x ∈ boundNames d.body := by
  obtain ⟨Γ', hty, hsub⟩ := typedIn_subterms d.body _ _ _ (h.defs d hd).body ht
  have hx : x ∈ Γ'.map (·.var) := by
    rcases hty with ⟨τ', hty⟩ | ⟨x', ty', chi', b, he, hl, _⟩
    · cases hty with
      | var b hl _ _ _ _ _ => exact lookupCtx_name_mem hl
    · cases he; exact lookupCtx_name_mem hl
  simpa using hsub x hx

theorem C15_mut_unbound_covar {p : Program} (h : WT p) {d : Def} (hd : d ∈ defs p) {a : String}
    {arg : Term} {an : Option Ty} (ht : Term.goto a arg an ∈ subterms d.body) :
    a ∈ d.ctx.map (·.var) ∨ a ∈ boundNames d.body := by
  obtain ⟨Γ', hty, hsub⟩ := typedIn_subterms d.body _ _ _ (h.defs d hd).body ht
  have hx : a ∈ Γ'.map (·.var) := by
    rcases hty with ⟨τ', hty⟩ | ⟨x', ty', chi', b, he, _, _⟩
    · cases hty with
      | goto b hl _ _ _ => exact lookupCtx_name_mem hl
    · cases he
  simpa using hsub a hx

/-- class 3, unbound name: a call of an undefined function -/
theorem C15_mut_undefined_call {p : Program} {f : String} {args : Terms} {an : Option Ty}
    (hf : ∀ d ∈ defs p, d.name ≠ f) : ¬ TypedSomewhere p (.call f args an) := by
  rintro ⟨Γ, τ, h⟩
  cases h with
  | call d hd _ _ => exact hf d hd rfl

/-- classes 4–6 (clauses of a case): duplicated clause -/
theorem C15_mut_dup_clause_case {p : Program} (ok : DeclsOk p) {s : Term} {ta : Tys} {cs : Clauses}
    {an : Option Ty} (hdup : ¬ (clauseXtors cs).Nodup) : ¬ TypedSomewhere p (.case s ta cs an) := by
  rintro ⟨Γ, τ, h⟩
  obtain ⟨_, d, hd, hp, _, _⟩ := hasType_case_inv h
  exact hdup (hp.nodup_iff.mpr
    (flatMap_nodup_inner (f := fun d : Data => d.ctors.map (·.name)) ok.ctorNamesNodup hd))

theorem C15_mut_dup_clause_new {p : Program} (ok : DeclsOk p) {cs : Clauses} {an : Option Ty}
    (hdup : ¬ (clauseXtors cs).Nodup) : ¬ TypedSomewhere p (.new cs an) := by
  rintro ⟨Γ, τ, h⟩
  obtain ⟨d, hd, _, _, hp⟩ := hasType_new_inv h
  exact hdup (hp.nodup_iff.mpr
    (flatMap_nodup_inner (f := fun d : Codata => d.dtors.map (·.name)) ok.dtorNamesNodup hd))

/-- extra clause: a clause for something that is not a constructor of the matched type (the type is
identified by any other clause `y`) -/
theorem C15_mut_extra_clause_case {p : Program} (ok : DeclsOk p) {s : Term} {ta : Tys} {cs : Clauses}
    {an : Option Ty} {d : Data} (hd : d ∈ datas p) {x y : String} (hy : y ∈ clauseXtors cs)
    (hyd : y ∈ d.ctors.map (·.name)) (hx : x ∈ clauseXtors cs) (hxd : x ∉ d.ctors.map (·.name)) :
    ¬ TypedSomewhere p (.case s ta cs an) := by
  rintro ⟨Γ, τ, h⟩
  obtain ⟨_, d', hd', hp, _, _⟩ := hasType_case_inv h
  obtain ⟨c, hc, rfl⟩ := List.mem_map.mp hyd
  obtain ⟨c', hc', hcn⟩ := List.mem_map.mp (hp.mem_iff.mp hy)
  obtain ⟨rfl, _⟩ := ctor_unique ok hd hc hd' hc' hcn.symm
  exact hxd (hp.mem_iff.mp hx)

/-- missing clause: some constructor of the matched type has no clause -/
theorem C15_mut_missing_clause_case {p : Program} (ok : DeclsOk p) {s : Term} {ta : Tys}
    {cs : Clauses} {an : Option Ty} {d : Data} (hd : d ∈ datas p) {y : String}
    (hy : y ∈ clauseXtors cs) (hyd : y ∈ d.ctors.map (·.name)) {c : CtorSig} (hc : c ∈ d.ctors)
    (hmiss : c.name ∉ clauseXtors cs) : ¬ TypedSomewhere p (.case s ta cs an) := by
  rintro ⟨Γ, τ, h⟩
  obtain ⟨_, d', hd', hp, _, _⟩ := hasType_case_inv h
  obtain ⟨c1, hc1, rfl⟩ := List.mem_map.mp hyd
  obtain ⟨c', hc', hcn⟩ := List.mem_map.mp (hp.mem_iff.mp hy)
  obtain ⟨rfl, _⟩ := ctor_unique ok hd hc1 hd' hc' hcn.symm
  exact hmiss (hp.mem_iff.mpr (List.mem_map.mpr ⟨c, hc, rfl⟩))

/-- missing / extra clause of a `new`: the destructors of the expected codata type and the clauses
do not correspond -/
theorem C15_mut_clauses_new {p : Program} (ok : DeclsOk p) {Γ : Ctx} {cs : Clauses} {an : Option Ty}
    {d : Codata} (hd : d ∈ codatas p) {targs : Tys}
    (hne : ¬ (clauseXtors cs).Perm (d.dtors.map (·.name))) :
    ¬ HasType p Γ (.new cs an) (.decl d.name targs) := by
  intro h
  obtain ⟨d', hd', _, ht, hp⟩ := hasType_new_inv h
  injection ht with hn _
  have := codata_unique ok hd hd' hn
  subst this
  exact hne hp

theorem C15_mut_empty_case {p : Program} {s : Term} {ta : Tys} {an : Option Ty} :
    ¬ TypedSomewhere p (.case s ta .nil an) := by
  rintro ⟨Γ, τ, h⟩
  exact (hasType_case_inv h).1 rfl

/-- class 7, wrong number of binders in a clause of a case -/
theorem C15_mut_binders_case {p : Program} {s : Term} {ta : Tys} {cs : Clauses} {an : Option Ty}
    {c : Clause} (hc : c ∈ cs.toList)
    (hne : ∀ d ∈ datas p, ∀ k ∈ d.ctors, k.name = c.xtor → c.names.length ≠ k.args.length) :
    ¬ TypedSomewhere p (.case s ta cs an) := by
  rintro ⟨Γ, τ, h⟩
  obtain ⟨_, d, hd, _, _, hct⟩ := hasType_case_inv h
  obtain ⟨sig, bodyTy, hm, _, hl, _⟩ := clausesTyped_mem _ _ _ c hct hc
  obtain ⟨k, hk, he⟩ := List.mem_map.mp hm
  simp only [Prod.mk.injEq] at he
  obtain ⟨hkn, hsig, _⟩ := he
  apply hne d hd k hk hkn
  rw [hl, ← hsig, csubst_length]

/-- class 8, wrong number of type arguments (destructor call) -/
theorem C15_mut_tyargs_dtor {p : Program} (ok : DeclsOk p) {s : Term} {id : String} {ta : Tys}
    {args : Terms} {an : Option Ty}
    (hne : ∀ d ∈ codatas p, ∀ sg ∈ d.dtors, sg.name = id → ta.toList.length ≠ d.typeParams.length) :
    ¬ TypedSomewhere p (.dtor s id ta args an) := by
  rintro ⟨Γ, τ, h⟩
  obtain ⟨d, hd, sg, hs, hk, hwf, _, _⟩ := hasType_dtor_inv h
  rcases wfTy_decl_inv hwf with ⟨d', hd', hn, hl, _⟩ | ⟨d', hd', hn, hl, _⟩
  · exact data_codata_disjoint ok hd' hd hn
  · have := codata_unique ok hd' hd hn
    subst this
    exact hne d' hd' sg hs hk hl

/-- class 8, wrong number of type arguments (case) -/
theorem C15_mut_tyargs_case {p : Program} (ok : DeclsOk p) {s : Term} {ta : Tys} {cs : Clauses}
    {an : Option Ty} {d : Data} (hd : d ∈ datas p) {y : String} (hy : y ∈ clauseXtors cs)
    (hyd : y ∈ d.ctors.map (·.name)) (hne : ta.toList.length ≠ d.typeParams.length) :
    ¬ TypedSomewhere p (.case s ta cs an) := by
  rintro ⟨Γ, τ, h⟩
  obtain ⟨_, d', hd', hp, hwf, _⟩ := hasType_case_inv h
  obtain ⟨c, hc, rfl⟩ := List.mem_map.mp hyd
  obtain ⟨c', hc', hcn⟩ := List.mem_map.mp (hp.mem_iff.mp hy)
  obtain ⟨rfl, _⟩ := ctor_unique ok hd hc hd' hc' hcn.symm
  rcases wfTy_decl_inv hwf with ⟨d', hd'', hn, hl, _⟩ | ⟨d', hd'', hn, hl, _⟩
  · have := data_unique ok hd'' hd hn
    subst this
    exact hne hl
  · exact data_codata_disjoint ok hd hd'' hn.symm

/-- class 8, wrong number of type arguments in a type annotation -/
theorem C15_mut_tyargs_type {p : Program} (ok : DeclsOk p) {d : Data} (hd : d ∈ datas p) {args : Tys}
    (hne : args.toList.length ≠ d.typeParams.length) : ¬ WfTy p (.decl d.name args) := by
  intro hwf
  rcases wfTy_decl_inv hwf with ⟨d', hd', hn, hl, _⟩ | ⟨d', hd', hn, hl, _⟩
  · have := data_unique ok hd' hd hn
    subst this
    exact hne hl
  · exact data_codata_disjoint ok hd hd' hn.symm

/-- class 9, producer used as consumer: `goto x` / a covariable argument `x` where `x` is (the
rightmost binding of) a variable -/
theorem C15_mut_prd_as_cns_goto {p : Program} {Γ : Ctx} {x : String} {arg : Term} {an : Option Ty}
    {τ : Ty} {b : Binding} (hl : lookupCtx Γ x = some b) (hb : b.chi = .prd) :
    ¬ HasType p Γ (.goto x arg an) τ := by
  intro h
  cases h with
  | goto b' hl' hc _ _ =>
    rw [hl] at hl'; cases hl'; rw [hb] at hc; cases hc

theorem C15_mut_prd_as_cns_arg {p : Program} {Γ : Ctx} {t : Term} {ts : Terms} {b : Binding}
    {bs : Ctx} (hb : b.chi = .cns) (ht : ¬ IsVar t) : ¬ ArgsTyped p Γ (.cons t ts) (b :: bs) := by
  intro h
  cases h with
  | prd hc _ _ _ => rw [hb] at hc; cases hc
  | cns _ _ _ _ _ _ _ _ _ => exact ht trivial

/-- class 10, consumer used as producer: a covariable where a term is expected -/
theorem C15_mut_cns_as_prd {p : Program} {Γ : Ctx} {a : String} {ty : Option Ty} {chi : Option Chi}
    {τ : Ty} {b : Binding} (hl : lookupCtx Γ a = some b) (hb : b.chi = .cns) :
    ¬ HasType p Γ (.var a ty chi) τ := by
  intro h
  cases h with
  | var b' hl' hc _ _ _ _ =>
    rw [hl] at hl'; cases hl'; rw [hb] at hc; cases hc

/-- class 11, duplicate declaration: the same definition, type or xtor name twice -/
theorem C15_mut_dup_def {p : Program} (h : ¬ ((defs p).map (·.name)).Nodup) : ¬ WT p :=
  fun w => h w.decls.defNamesNodup

theorem C15_mut_dup_type {p : Program} (h : ¬ (typeNames p).Nodup) : ¬ WT p :=
  fun w => h w.decls.typeNamesNodup

theorem C15_mut_dup_ctor {p : Program}
    (h : ¬ ((datas p).flatMap fun d => d.ctors.map (·.name)).Nodup) : ¬ WT p :=
  fun w => h w.decls.ctorNamesNodup

theorem C15_mut_dup_dtor {p : Program}
    (h : ¬ ((codatas p).flatMap fun d => d.dtors.map (·.name)).Nodup) : ¬ WT p :=
  fun w => h w.decls.dtorNamesNodup

/-- appending a copy of any declaration makes the program ill-typed -/
theorem C15_mut_dup_decl {ds : List Decl} {d : Decl} (hd : d ∈ ds) : ¬ WT ⟨ds ++ [d]⟩ := by
  intro w
  cases d with
  | defn f =>
    have := w.decls.defNamesNodup
    simp only [defs, List.filterMap_append, List.filterMap_cons, List.filterMap_nil, List.map_append,
      List.map_cons, List.map_nil] at this
    rw [List.nodup_append] at this
    exact this.2.2 f.name
      (List.mem_map.mpr ⟨f, List.mem_filterMap.mpr ⟨_, hd, rfl⟩, rfl⟩) f.name (by simp) rfl
  | data f =>
    have := w.decls.typeNamesNodup
    simp only [typeNames, List.filterMap_append, List.filterMap_cons, List.filterMap_nil] at this
    rw [List.nodup_append] at this
    exact this.2.2 f.name (List.mem_filterMap.mpr ⟨_, hd, rfl⟩) f.name (by simp) rfl
  | codata f =>
    have := w.decls.typeNamesNodup
    simp only [typeNames, List.filterMap_append, List.filterMap_cons, List.filterMap_nil] at this
    rw [List.nodup_append] at this
    exact this.2.2 f.name (List.mem_filterMap.mpr ⟨_, hd, rfl⟩) f.name (by simp) rfl

/-- duplicate parameter of a definition -/
theorem C15_mut_dup_param {p : Program} {d : Def} (hd : d ∈ defs p)
    (h : ¬ (d.ctx.map (·.var)).Nodup) : ¬ WT p :=
  fun w => h (w.defs d hd).params

/-- class 12, type parameter clash: repeated, or named like a declared type -/
theorem C15_mut_tparam_repeated {p : Program} {d : Data} (hd : d ∈ datas p)
    (h : ¬ d.typeParams.Nodup) : ¬ WT p :=
  fun w => h (w.decls.dataParams d hd).1

theorem C15_mut_tparam_is_type {p : Program} {d : Data} (hd : d ∈ datas p) {a : String}
    (ha : a ∈ d.typeParams) (ht : a ∈ typeNames p) : ¬ WT p :=
  fun w => (w.decls.dataParams d hd).2 a ha ht

theorem C15_mut_tparam_repeated_codata {p : Program} {d : Codata} (hd : d ∈ codatas p)
    (h : ¬ d.typeParams.Nodup) : ¬ WT p :=
  fun w => h (w.decls.codataParams d hd).1

/-- every mutation lemma, combined with soundness: the mutant is rejected by the checker -/
theorem C15_mutant_rejected {p : Program} (hp : programNamesOk p = true) {d : Def} (hd : d ∈ defs p)
    {t : Term} (ht : t ∈ subterms d.body) (hv : ¬ IsVar t) (hbad : ¬ TypedSomewhere p t)
    (p' : CheckedProgram) : checkProgram p ≠ .ok p' :=
  C15_reject_not_WT p hp (C15_mutant_not_WT hd ht hv hbad) p'

-- non-vacuity of the mutation lemmas: dropping the argument of `len(xs)` in the example
example : ¬ TypedSomewhere C15_example (.call "len" .nil none) := by
  have hd : (⟨"len", [⟨"l", .prd, .decl "List" (.cons .i64 .nil)⟩], .i64,
      .case (.var "l" none none) (.cons .i64 .nil)
        (.cons .data "Cons" ["x", "xs"] [] (.op (.lit 1) .sum (.call "len" (.cons (.var "xs" none none) .nil) none))
        (.cons .data "Nil" [] [] (.lit 0) .nil)) none⟩ : Def) ∈ defs C15_example := by
    simp [defs, C15_example]
  exact C15_mut_argcount_call C15_example_WT.decls hd (by simp [Terms.toList])

/-! ## (e) completeness, no panic, and the full statement

On the code as FOUND completeness was false: the checker rejected well-typed programs with T-002
whenever the expected type of a constructor / `new` was an instance that existed only inside an
instantiated xtor signature (`create_instance` does not check those) — /verif/gen/corpus/check/f01..f05.
Both holes were repaired in /repo (`New::check` checks the destructor's return type, `Goto::check` the
covariable's type) and the model follows the repaired code; the `WfTy` premises of the rules `new` and
`goto` of `HasType` are exactly what the two new checks ask for.  For the repaired code: -/

theorem C15_complete : C15_completeness_statement := by
  intro p hp w
  obtain ⟨p', h⟩ := checkProgramR_complete hp w
  exact ⟨p', checkProgram_ok_iff.mpr h⟩

/-- the checker never panics (the `swap_remove` index is in range, every instance in
`symbol_table.types` has its xtors in `ctors`/`dtors`) -/
theorem C15_no_panic : C15_no_panic_statement := by
  intro p site hp h
  simp only [checkProgram] at h
  split at h
  · cases h
  · cases h
  · rename_i s hs
    exact checkProgramR_noPanic hp s hs

theorem C15_accept_iff_WT (p : Program) (hp : programNamesOk p = true) :
    (∃ p', checkProgram p = .ok p') ↔ WT p :=
  ⟨fun ⟨p', h⟩ => (C15_sound p p' hp h).1, C15_complete p hp⟩

/-- the run-time oracle decides `WT` -/
theorem C15_wtCheck_iff_WT (p : Program) (hp : programNamesOk p = true) :
    wtCheck p = true ↔ WT p := by
  constructor
  · exact C15_wtCheck_sound p hp
  · intro w
    obtain ⟨p', h⟩ := C15_complete p hp w
    simp [wtCheck, h, Outcome.isOk]

/-- C15, the full statement, for the checker of /repo after the two repairs -/
theorem C15_full : C15_statement := by
  intro p hp
  refine ⟨C15_complete p hp, ?_⟩
  intro hnw
  cases hc : checkProgram p with
  | ok p' => exact absurd (C15_sound p p' hp hc).1 hnw
  | diag c => exact ⟨c, rfl⟩
  | panic s => exact absurd hc (C15_no_panic p s hp)

-- non-vacuity of the second half: a program that is not well-typed and its diagnostic
example : (match checkProgram ⟨[.defn ⟨"main", [], .i64, .var "x" none none⟩]⟩ with
    | .diag c => c | _ => "") = "T-004" := by decide +kernel

#print axioms C15_printTy_injective
#print axioms C15_instName_injective
#print axioms C15_replace_recovers_template
#print axioms C15_sound
#print axioms C15_wtCheck_sound
#print axioms C15_reject_not_WT
#print axioms C15_annotated
#print axioms C15_complete
#print axioms C15_no_panic
#print axioms C15_accept_iff_WT
#print axioms C15_wtCheck_iff_WT
#print axioms C15_full
#print axioms C15_example_WT
#print axioms C15_mutant_not_WT
#print axioms C15_mutant_rejected
#print axioms C15_mut_argcount_call
#print axioms C15_mut_argtype_lit
#print axioms C15_mut_unbound_var
#print axioms C15_mut_unbound_covar
#print axioms C15_mut_missing_clause_case
#print axioms C15_mut_extra_clause_case
#print axioms C15_mut_dup_clause_case
#print axioms C15_mut_binders_case
#print axioms C15_mut_tyargs_case
#print axioms C15_mut_tyargs_dtor
#print axioms C15_mut_prd_as_cns_goto
#print axioms C15_mut_cns_as_prd
#print axioms C15_mut_dup_decl
#print axioms C15_mut_new_at_data
#print axioms C15_mut_ctor_at_i64
#print axioms C15_mut_empty_case

end Scc.Props

#print axioms Scc.Props.C15_example_namesOk
#print axioms Scc.Props.C15_example_accepted
#print axioms Scc.Props.C15_subterm_typed
#print axioms Scc.Props.C15_mut_argcount_ctor
#print axioms Scc.Props.C15_mut_argcount_dtor
#print axioms Scc.Props.C15_mut_argtype_ctor
#print axioms Scc.Props.C15_mut_new_at_i64
#print axioms Scc.Props.C15_mut_undefined_call
#print axioms Scc.Props.C15_mut_dup_clause_new
#print axioms Scc.Props.C15_mut_clauses_new
#print axioms Scc.Props.C15_mut_tyargs_type
#print axioms Scc.Props.C15_mut_prd_as_cns_arg
#print axioms Scc.Props.C15_mut_dup_def
#print axioms Scc.Props.C15_mut_dup_type
#print axioms Scc.Props.C15_mut_dup_ctor
#print axioms Scc.Props.C15_mut_dup_dtor
#print axioms Scc.Props.C15_mut_dup_param
#print axioms Scc.Props.C15_mut_tparam_repeated
#print axioms Scc.Props.C15_mut_tparam_is_type
#print axioms Scc.Props.C15_mut_tparam_repeated_codata
