/-
  Scc.Props.C14LoaderA64 — THE LOADER ROUND TRIP FOR AArch64 (a C14 fact: the emitted text is
  well-formed assembly that the machine's parser `Scc.A64.parseText` reads back as the emitted items).
  The AArch64 analogue of Props/C14Loader.lean (x86-64).  Everything below is proved for ALL items /
  routines, once and for all (no evaluation, no `native_decide`).

  PROVED
    strings (Scc/StringLemmasAscii.lean, from the core lemma files, nothing assumed):
      `C14A_trimAscii`        `s.trimAscii.toString.toList = trimList s.toList`        (every string)
      `C14A_startsWith` / `C14A_endsWith`  string patterns = list prefix / suffix       (every string)
      `C14A_toNat_repr`       `(Nat.repr n).toNat? = some n`;  `Str.toNat?_eq` characterises `String.toNat?`
                              on every string (it accepts `_` separators: hence the loader's re-print check)
      `drop`/`dropEnd`/`isEmpty`/`splitOn " "`/`splitOn ":"`/`" ".intercalate`: `Str.toList_drop`, …
    per item (Scc/A64/Loader{Lemmas,Instr,Code}.lean):
      `C14A_parseLine_printCode`  every instruction constructor of `A64.Code` whose registers exist
                              (`Code.toInstr c = some i`) and whose labels are text-safe:
                              `parseLine (printCode c) = some (.instr i)`, printed on ONE line;
      `C14A_label_lines`      `LAB l` = an empty line (read as `.blank`) and `l:` (read as `.label l`);
      `C14A_directives`       `.text`, `.global l` are read as `.directive`;
      `C14A_comment_line`     `// msg` is read as `commentPLine? msg` for EVERY `msg` (no hypothesis);
      `C14A_plain_comment`, `C14A_hook_comment`: a comment not starting with `#ctx [` is `.comment`; the
                              backend's hook comment `ctxHookComment ctx` is `.hook` of the context's
                              (name, kind) list whenever no variable name contains a blank;
      `C14A_roundTrips`       `Code.roundTrips c = true` (the executable check of the test driver).
    routine (Scc/A64/LoaderText.lean):
      `C14A_loader`           `parseText (printProg cs) = .ok (numberFrom 1 (progPLines cs))`: the lines of
                              the items in order (a label contributes `.blank`, `.label l`), numbered from 1;
      `C14A_loader_lines`     the same as line list + line numbers `range' 1 n`;
      `C14A_run`              `run (printProg cs) args fuel cfg = runProg (layout (numberFrom 1 (progPLines cs))) …`
                              (monitor `wf` off): the form the run theorems on items compose with.
  HYPOTHESES (all decidable, `codeTextOK`; evaluated by `#eval` on concrete routines, `decide` works too):
      registers exist (`regsOK`: logical register ≤ 29 → architectural X0..X30 without X18);
      referenced labels (`B BL ADR Bcc .global`): non-empty, no white space, none of `, : [ ] !`;
      defined labels (`LAB`): moreover not starting with `.` or `//`;
      comments: no line break, and either not starting with `#ctx [` or exactly a hook text with
      blank-free names.
    The excluded points REALLY fail in the model (they are not proof artefacts) — see the `#eval`s in the
    section "excluded points" at the end.  The backend's labels are `asm_main`, `cleanup`, `lab<n>`,
    `<def>_`, `<mangled type>_<n>`, `<base>_<xtor>` (types mangled: `[`→`_`, `, `→`_`, `]` dropped), so
    `codeTextOK` holds whenever the definition / type / xtor / variable names of the AxCut program contain
    no white space and none of `, : [ ] !` (variable names: no blank); it is decidable and meant to be
    evaluated on every compiled routine (it is `true` on the hook-instrumented example routine of
    Props/C13A64.lean by `decide`, see Props/C14LoaderA64Compose.lean).
  EVERY COMPILED ROUTINE: Props/C14LoaderA64Names.lean proves `codeTextOK` for every item the backend model
    emits, from decidable checks on the names and sizes of the PROGRAM (`C14A_routine_textOK`,
    `C14A_routine_loads`).
  COMPOSITION: Props/C14LoaderA64Compose.lean feeds `C14A_loader` into `C13_cc_never_fires_int_text`
    (whose loader hypothesis is this round trip): `C13_cc_never_fires_int_printed`.
  `wfCheck (printProg routine) = .ok ()` is a property of the label structure of compiled routines, not of the
      loader: `C14_a64_final` (Props/C14A64Final.lean; `C14_statement` of Props/C14A64.lean as stated is refuted there).
-/
import Scc.A64.LoaderCheck

namespace Scc.A64

open Scc.A64.Loader Scc.Str

theorem C14A_trimAscii (s : String) : s.trimAscii.toString.toList = trimList s.toList := toList_trimAscii s

example : trimList " \t  ADD X1, X2, 3 \r\n".toList = "ADD X1, X2, 3".toList := by decide

theorem C14A_startsWith (s pat : String) : s.startsWith pat = true ↔ pat.toList <+: s.toList :=
  startsWith_iff s pat

theorem C14A_endsWith (s pat : String) : s.endsWith pat = true ↔ pat.toList <:+ s.toList :=
  endsWith_iff s pat

theorem C14A_toNat_repr (n : Nat) : (Nat.repr n).toNat? = some n := Nat.toNat?_repr n

/-- `String.toNat?` accepts digit separators: the reason for the loader's `toString n == s` check -/
example : ("1_0" : String).toNat? = some 10 := by rw [toNat?_eq]; decide

/-! ## the decidable text-safety predicate: `codeTextOK` (Scc/A64/LoaderCheck.lean) -/

/-- every instruction item whose registers exist and whose labels are text-safe is read back as the
    machine instruction `Code.toInstr` assigns to it; its printed form is one line -/
theorem C14A_parseLine_printCode (c : Code) (i : Instr) (hi : c.toInstr = some i) (h : codeTextOK c = true) :
    parseLine (printCode c) = some (.instr i) ∧ '\n' ∉ (printCode c).toList :=
  reads_instr c i hi (codeOK_of_codeTextOK h).2

example : parseLine (printCode (.STP_PRE_INDEX (.x 29) (.x 28) .sp (-16)))
    = some (.instr (.stpPre (.x 30) (.x 29) .sp (-16))) :=
  (C14A_parseLine_printCode _ _ rfl (by decide)).1

example : parseLine (printCode (.MOVK (.x 17) 65535 48)) = some (.instr (.movk (.x 17) 65535 48)) :=
  (C14A_parseLine_printCode _ _ rfl (by decide)).1

example : parseLine (printCode (.ADR (.x 2) "lab12_Cons")) = some (.instr (.adr (.x 2) "lab12_Cons")) :=
  (C14A_parseLine_printCode _ _ rfl (by decide)).1

/-- a label is printed as an empty line (read as `.blank`) and `l:` (read as the label) -/
theorem C14A_label_lines (l : String) (h : codeTextOK (.LAB l) = true) :
    printCode (.LAB l) = "\n" ++ (l ++ ":") ∧ parseLine "" = some .blank ∧
    parseLine (l ++ ":") = some (.label l) ∧ '\n' ∉ (l ++ ":").toList :=
  let r := reads_LAB l (codeOK_of_codeTextOK h).2
  ⟨r.1, parseLine_empty, r.2.1, r.2.2.2⟩

example : parseLine ("asm_main" ++ ":") = some (.label "asm_main") := (C14A_label_lines _ (by decide)).2.2.1

theorem C14A_directives :
    parseLine (printCode .TEXT) = some .directive ∧
    ∀ l, codeTextOK (.GLOBAL l) = true → parseLine (printCode (.GLOBAL l)) = some .directive :=
  ⟨reads_TEXT.1, fun l h => (reads_GLOBAL l (codeOK_of_codeTextOK h).2).1⟩

example : parseLine (printCode (.GLOBAL "asm_main")) = some .directive := C14A_directives.2 _ (by decide)

/-- a comment line is read as `commentPLine?` says — for EVERY comment text -/
theorem C14A_comment_line (m : String) : parseLine (printCode (.COMMENT m)) = commentPLine? m :=
  reads_COMMENT_line m

theorem C14A_plain_comment (m : String) (h : ¬ "#ctx [".toList <+: m.toList) :
    parseLine (printCode (.COMMENT m)) = some .comment := by
  rw [reads_COMMENT_line, commentPLine?_plain h]

example : parseLine (printCode (.COMMENT "####increment refcount")) = some .comment :=
  C14A_plain_comment _ (by decide)

/-- the backend's `verif_hooks` comment of a context is read as the hook of that context, provided no
    variable name contains a blank -/
theorem C14A_hook_comment (ctx : Scc.AxCut.Ctx) (h : ∀ b ∈ ctx, ' ' ∉ b.var.print.toList) :
    parseLine (printCode (.COMMENT (Scc.Backend.ctxHookComment ctx))) = some (.hook (ctxVars ctx)) := by
  rw [reads_COMMENT_line, ctxHookComment_eq, commentPLine?_hook]
  intro v hv
  obtain ⟨b, hb, rfl⟩ := List.mem_map.1 hv
  exact h b hb

example : parseLine (printCode (.COMMENT (Scc.Backend.ctxHookComment
      [⟨⟨"x", 41⟩, .ext, .i64⟩, ⟨⟨"k:0", 0⟩, .cns, .i64⟩])))
    = some (.hook [("x_41", .ext), ("k:0", .cns)]) :=
  C14A_hook_comment _ (by decide)

/-- the executable per-item check of the test driver is TRUE on every text-safe item -/
theorem C14A_roundTrips (c : Code) (h : codeTextOK c = true) : c.roundTrips = true :=
  roundTrips_of_ok c (codeOK_of_codeTextOK h).1 (codeOK_of_codeTextOK h).2

example : (Code.LDP_POST_INDEX (.x 20) (.x 21) .sp 16).roundTrips = true := C14A_roundTrips _ (by decide)

/-- **THE LOADER ROUND TRIP**: the printed text of a routine whose items are text-safe is read by the
    machine's parser as the lines of the items, in order, numbered from 1 (`progPLines`: a label
    contributes `.blank` and `.label l`, a directive `.directive`, a comment `.comment` or `.hook vars`,
    an instruction `.instr (toInstr c)`) -/
theorem C14A_loader (cs : List Code) (h : ∀ c ∈ cs, codeTextOK c = true) :
    parseText (printProg cs) = .ok (numberFrom 1 (progPLines cs)) :=
  parseText_printProg cs (progOK_of_codeTextOK h)

/-- the same, as the list of parsed lines and the list of their numbers -/
theorem C14A_loader_lines (cs : List Code) (h : ∀ c ∈ cs, codeTextOK c = true) (hne : cs ≠ []) :
    ∃ ls, parseText (printProg cs) = .ok ls ∧ ls.map (·.2) = cs.flatMap codePLines ∧
      ls.map (·.1) = List.range' 1 ls.length :=
  parseText_printProg_lines cs (progOK_of_codeTextOK h) hne

/-- the machine on the printed text is the machine on the layout of the items' lines -/
theorem C14A_run (cs : List Code) (h : ∀ c ∈ cs, codeTextOK c = true) (args : List Word) (fuel : Nat)
    (cfg : MonCfg) (hwf : cfg.wf = false) :
    run (printProg cs) args fuel cfg = runProg (layout (numberFrom 1 (progPLines cs))) args fuel cfg :=
  run_printProg cs (progOK_of_codeTextOK h) args fuel cfg hwf

/-- a text-safe routine: directives, labels, a hook, comments, instructions of every operand shape -/
def C14A_loaderExample : List Code :=
  [.TEXT, .GLOBAL "asm_main", .LAB "asm_main", .COMMENT "setup",
   .STP_PRE_INDEX (.x 28) (.x 29) .sp (-16), .SUBI .sp .sp 2048, .MOVR (.x 0) (.x 5),
   .COMMENT "#ctx [x_41:ext k:cns]", .MOVZ (.x 4) 65535 0, .MOVK (.x 4) 1 16, .MOVN (.x 6) 0 0,
   .ADR (.x 2) "lab0", .LDR (.x 2) (.x 1) 16, .STR (.x 17) .sp 2040, .CMPI (.x 4) 0, .BEQ "lab0_Nil",
   .LAB "lab0", .B "lab0_Nil", .B "lab0_Cons", .LAB "lab0_Nil", .MSUB (.x 4) (.x 5) (.x 6) (.x 7),
   .SDIV (.x 5) (.x 6) .xzr, .CMPR (.x 4) (.x 5), .BGE "cleanup", .BL "println_i64", .BR (.x 2),
   .LAB "lab0_Cons", .LAB "cleanup", .ADDI .sp .sp 2048, .LDP_POST_INDEX (.x 28) (.x 29) .sp 16, .RET]

theorem C14A_loaderExample_textOK : ∀ c ∈ C14A_loaderExample, codeTextOK c = true := by decide +kernel

example : parseText (printProg C14A_loaderExample) = .ok (numberFrom 1 (progPLines C14A_loaderExample)) :=
  C14A_loader _ C14A_loaderExample_textOK

example : ∃ ls, parseText (printProg C14A_loaderExample) = .ok ls ∧ ls.length = 36 := by
  refine ⟨_, C14A_loader _ C14A_loaderExample_textOK, ?_⟩
  rw [length_numberFrom]; rfl

/-! ## excluded points: the hypotheses are necessary (evaluation of the REAL model) -/

-- a defined label that starts with `.` is taken for a directive, with `//` for a comment
#eval (parseLine ".L1:", (Code.LAB ".L1").roundTrips)          -- (none, false)
#eval (parseLine "//x:", (Code.LAB "//x").roundTrips)          -- (some comment, false)
-- a referenced label with punctuation / white space is cut into tokens or trimmed
#eval (Code.ADR (.x 1) "a[b").roundTrips                       -- false
#eval (Code.B "x\ty").roundTrips                               -- false
#eval (Code.B " x").roundTrips                                 -- false (read as label "x")
-- a malformed hook is a PARSE ERROR, a blank in a variable name splits the binding
#eval parseLine (printCode (.COMMENT "#ctx [x"))               -- none
#eval parseLine (printCode (.COMMENT "#ctx [a b:prd]"))        -- none
-- a register that does not exist
#eval (Code.ADD (.x 30) (.x 0) (.x 0)).roundTrips              -- false (`X31` is not a register)

end Scc.A64

#print axioms Scc.A64.C14A_trimAscii
#print axioms Scc.A64.C14A_startsWith
#print axioms Scc.A64.C14A_endsWith
#print axioms Scc.A64.C14A_toNat_repr
#print axioms Scc.A64.C14A_parseLine_printCode
#print axioms Scc.A64.C14A_label_lines
#print axioms Scc.A64.C14A_directives
#print axioms Scc.A64.C14A_comment_line
#print axioms Scc.A64.C14A_plain_comment
#print axioms Scc.A64.C14A_hook_comment
#print axioms Scc.A64.C14A_roundTrips
#print axioms Scc.A64.C14A_loader
#print axioms Scc.A64.C14A_loader_lines
#print axioms Scc.A64.C14A_run
