/-
  Scc.Props.C12Codegen — the code-generator link of property C12 ("every later stage … code generation
  terminates without an internal error …; a user-facing capacity diagnostic is the only permitted way
  not to produce code") as a THEOREM about the models of the three code generators.

  What is proved (for ALL linearized programs, hook settings and label-counter values):
  * `C12_codegenTotal_of_linTyped`   `LinTypedProg q5` (what C05 proves about linearize's output) and
        `q5.defs ≠ []` imply `C12_codegenTotal q5` (Props/C12.lean): x86-64 `compileX86` and `intoRoutine`,
        AArch64 `compileProg`, RISC-V `compileRoutine` return `ok` or an error whose message is one of
        `C12_capacityErrors`.  NO other error/panic string of the models is reachable from typed input.
    Per backend, with the exact messages:
      `C12_codegen_x86`        `compileX86`: ok | "Out of temporaries"
      `C12_routine_x86`        `intoRoutine` after a successful `compileX86`: ok if the first definition has
                               at most 5 parameters (else "too many arguments for main", `X86.Total.intoRoutine_resOk`)
      `C12_codegen_a64`        `compileProg`: ok | "Out of temporaries" | "too many arguments for main"
      `C12_codegen_a64_main`   … and not the latter if the first definition has at most 7 parameters
      `C12_codegen_rv`         `compileRoutine`: ok | "Out of registers" | "not implemented in RISC-V backend"
  * under the STATIC capacity check (`Pos.progCap`, the bound of Scc/AxCut/PosCapacity.lean on the length of
    every context; decidable per program: `C12_capacityX86/A64/RV`) there is NO error at all:
      `C12_codegen_x86_ok`     2 * progCap q5 ≤ 267  ⇒ `compileX86` is `ok`
      `C12_codegen_a64_ok`     2 * progCap q5 ≤ 281 and ≤ 7 parameters of the first definition ⇒ `compileProg` is `ok`
      `C12_codegen_rv_ok`      2 * progCap q5 ≤ 28   ⇒ `compileRoutine` is `ok` | "not implemented in RISC-V backend"
    (267, 281, 28 = the number of positions with a temporary/register; tight: X86/A64/RV/Total.lean).
  * `C12_link_codegen_proved`  the link `C12_link_codegen` of Props/C12.lean FROM THE THREE TYPING LINKS
        (`LinTypedProg st.s5` is derived from them by C05; `stages p' = .ok st` alone does not give it);
    `C12_chain3`               hence `C12_statement` from the three typing links only (the link `C12_link_fun2core` is
        refuted as stated over ASTs, so these two say something only in the forms of Props/C12Fun2Core*.lean and
        C12Final.lean, where the links are proved for names the lexer produces);
    `C12_conclusion_of_linkChecks`  for ONE program: the full conclusion of C12 (code generators included)
        from the decidable predicate `C12_linkChecks p'` alone — no link hypothesis;
    `C12_routine_x86_of_linkChecks`  `C12_routine_x86` on the stages of one program with a valid `main`.
  The three typing links `C12_link_fun2core`, `C12_link_focus`, `C12_link_shrink` of Props/C12.lean are the
  subject of Props/C12Fun2Core.lean, C12Fun2CoreStrict.lean and C12Mid.lean.
  Proofs: Scc/Backend/Total{Defs,PM,Subst,Keys,Gen}.lean (generic generator, any `TotalBackend`),
  Scc/X86/Total.lean, Scc/A64/Total.lean, Scc/RV/Total.lean (the three instances).
-/
import Scc.Props.C12
import Scc.Backend.TotalGen
import Scc.Backend.SideConds
import Scc.X86.Total
import Scc.A64.Total
import Scc.RV.Total

namespace Scc.Props

open Scc.Pipeline Scc.AxCut Scc.Backend.Total
open Scc.Fun.Check (checkProgram programNamesOk)

theorem C12_okOrCapacity_of_resOk {α : Type} {cap : String → Prop}
    (hcap : ∀ e, cap e → e ∈ C12_capacityErrors) {r : Except String α} (h : ResOk cap r) :
    C12_okOrCapacity r := by
  cases r with
  | ok a => trivial
  | error e => exact hcap e h

theorem ResOk.false_ok {α : Type} {r : Except String α} (h : ResOk (fun _ => False) r) :
    ∃ a, r = .ok a := by
  cases r with
  | ok a => exact ⟨a, rfl⟩
  | error e => exact absurd h id

/-- x86-64, axcut2backend + axcut2x86_64: code or "Out of temporaries" -/
theorem C12_codegen_x86 (q5 : Prog) (htp : LinTypedProg q5) (hne : q5.defs ≠ []) (hooks : Bool)
    (c : Nat) : ResOk X86.Total.capX86 (X86.compileX86 q5 hooks c) :=
  X86.Total.compileX86_resOk_of hooks c q5
    (compile_resOk X86.Total.x86_total hooks q5 htp hne trivial c)

/-- x86-64, into_routine.rs: no failure when the first definition has at most 5 parameters -/
theorem C12_routine_x86 (q5 : Prog) (hooks : Bool) (c : Nat) (body : List X86.Code) (nargs : Nat)
    (hmain : ∀ d0 ds, q5.defs = d0 :: ds → d0.ctx.length ≤ 5)
    (h : X86.compileX86 q5 hooks c = .ok (body, nargs)) : ∃ r, X86.intoRoutine body nargs = .ok r := by
  unfold X86.compileX86 at h
  cases hr : (Backend.compile X86.x86Backend hooks q5).run c with
  | error e => rw [hr] at h; cases h
  | ok r =>
    obtain ⟨⟨body', nargs'⟩, k⟩ := r
    rw [hr] at h
    injection h with h
    injection h with h1 h2
    subst h1 h2
    obtain ⟨d0, ds, hd, hn⟩ := Backend.compile_nargs_cons hr
    exact X86.Total.intoRoutine_ok body' (by rw [hn]; exact hmain d0 ds hd)

/-- AArch64, axcut2backend + axcut2aarch64 + into_routine.rs -/
theorem C12_codegen_a64 (q5 : Prog) (htp : LinTypedProg q5) (hne : q5.defs ≠ []) (hooks : Bool)
    (c : Nat) :
    ResOk (fun e => e = "Out of temporaries" ∨ e = "too many arguments for main")
      (A64.compileProg A64.a64Backend q5 hooks c) :=
  A64.Total.compileProg_resOk A64.a64Backend q5 hooks c
    (compile_resOk A64.Total.a64_total hooks q5 htp hne trivial c)

/-- AArch64 with at most 7 parameters of the first definition: code or "Out of temporaries" -/
theorem C12_codegen_a64_main (q5 : Prog) (htp : LinTypedProg q5) (hne : q5.defs ≠ []) (hooks : Bool)
    (c : Nat) (hmain : ∀ d0 ds, q5.defs = d0 :: ds → d0.ctx.length ≤ 7) :
    ResOk A64.Total.capA64 (A64.compileProg A64.a64Backend q5 hooks c) := by
  have h := compile_resOk A64.Total.a64_total hooks q5 htp hne trivial c
  unfold A64.compileProg
  cases hr : (Backend.compile A64.a64Backend hooks q5).run c with
  | error e => rw [hr] at h; exact h
  | ok r =>
    obtain ⟨⟨body, nargs⟩, k⟩ := r
    dsimp only
    obtain ⟨d0, ds, hd, hn⟩ := Backend.compile_nargs_cons hr
    obtain ⟨rt, hrt⟩ := A64.Total.intoRoutine_ok body (nargs := nargs) (by rw [hn]; exact hmain d0 ds hd)
    rw [hrt]
    trivial

/-- RISC-V, axcut2backend + axcut2rv64: code, "Out of registers", or the unimplemented print -/
theorem C12_codegen_rv (q5 : Prog) (htp : LinTypedProg q5) (hne : q5.defs ≠ []) (hooks : Bool)
    (c : Nat) : ResOk RV.Total.capRV (RV.compileRoutine q5 hooks c) :=
  RV.Total.compileRoutine_resOk q5 hooks c (compile_resOk RV.Total.rv_total hooks q5 htp hne trivial c)

/-- **`codegen_total`**: on a linearly typed program with at least one definition the three code
    generators return a program or one of the documented capacity errors — for every hook setting and
    every value of the label counter -/
theorem C12_codegenTotal_of_linTyped (q5 : Prog) (htp : LinTypedProg q5) (hne : q5.defs ≠ []) :
    C12_codegenTotal q5 := by
  intro hooks c
  refine ⟨?_, ?_, ?_, ?_⟩
  · refine C12_okOrCapacity_of_resOk ?_ (C12_codegen_x86 q5 htp hne hooks c)
    intro e he; rw [he]; decide
  · intro body nargs _
    refine C12_okOrCapacity_of_resOk ?_ (X86.Total.intoRoutine_resOk body nargs)
    intro e he; rw [he]; decide
  · refine C12_okOrCapacity_of_resOk ?_ (C12_codegen_a64 q5 htp hne hooks c)
    rintro e (he | he) <;> (rw [he]; decide)
  · refine C12_okOrCapacity_of_resOk ?_ (C12_codegen_rv q5 htp hne hooks c)
    rintro e (he | he) <;> (rw [he]; decide)

/-- the decidable capacity checks: every context the generator visits (`Pos.progCap`) has a
    temporary / register for both parts of every variable -/
def C12_capacityX86 (q5 : Prog) : Bool := decide (2 * Pos.progCap q5 ≤ 267)
def C12_capacityA64 (q5 : Prog) : Bool := decide (2 * Pos.progCap q5 ≤ 281)
def C12_capacityRV (q5 : Prog) : Bool := decide (2 * Pos.progCap q5 ≤ 28)

theorem C12_codegen_x86_ok (q5 : Prog) (htp : LinTypedProg q5) (hne : q5.defs ≠ [])
    (hcap : C12_capacityX86 q5 = true) (hooks : Bool) (c : Nat) :
    ∃ r, X86.compileX86 q5 hooks c = .ok r := by
  simp only [C12_capacityX86, decide_eq_true_eq] at hcap
  have h := compile_resOk X86.Total.x86_total_fits hooks q5 htp hne (X86.Total.fitsX86_of_le hcap) c
  obtain ⟨a, ha⟩ := ResOk.false_ok h
  unfold X86.compileX86
  rw [ha]
  exact ⟨_, rfl⟩

theorem C12_codegen_a64_ok (q5 : Prog) (htp : LinTypedProg q5) (hne : q5.defs ≠ [])
    (hcap : C12_capacityA64 q5 = true) (hmain : ∀ d0 ds, q5.defs = d0 :: ds → d0.ctx.length ≤ 7)
    (hooks : Bool) (c : Nat) : ∃ r, A64.compileProg A64.a64Backend q5 hooks c = .ok r := by
  simp only [C12_capacityA64, decide_eq_true_eq] at hcap
  have h := compile_resOk A64.Total.a64_total_fits hooks q5 htp hne (A64.Total.fitsA64_of_le hcap) c
  obtain ⟨a, ha⟩ := ResOk.false_ok h
  obtain ⟨⟨body, nargs⟩, k⟩ := a
  obtain ⟨d0, ds, hd, hn⟩ := Backend.compile_nargs_cons ha
  obtain ⟨rt, hrt⟩ := A64.Total.intoRoutine_ok body (nargs := nargs) (by rw [hn]; exact hmain d0 ds hd)
  unfold A64.compileProg
  rw [ha]
  dsimp only
  rw [hrt]
  exact ⟨_, rfl⟩

theorem C12_codegen_rv_ok (q5 : Prog) (htp : LinTypedProg q5) (hne : q5.defs ≠ [])
    (hcap : C12_capacityRV q5 = true) (hooks : Bool) (c : Nat) :
    ResOk (fun e => e = "not implemented in RISC-V backend") (RV.compileRoutine q5 hooks c) := by
  simp only [C12_capacityRV, decide_eq_true_eq] at hcap
  have h := compile_resOk RV.Total.rv_total_fits hooks q5 htp hne (RV.Total.fitsRV_of_le hcap) c
  unfold RV.compileRoutine
  cases hr : (Backend.compile RV.rvBackend hooks q5).run c with
  | error e => rw [hr] at h; exact h
  | ok r => obtain ⟨⟨ins, n⟩, k⟩ := r; trivial

/-- **the link `C12_link_codegen`, from the three typing links** (which give `LinTypedProg st.s5` by
    C05 and a first definition by `stages_mainHead`) -/
theorem C12_link_codegen_proved (h2 : C12_link_fun2core) (h3 : C12_link_focus) (h4 : C12_link_shrink) :
    C12_link_codegen := by
  intro p p' st hn hc hv hmc hok
  obtain ⟨st', F⟩ := C12_facts h2 h3 h4 p p' hn hc hv hmc
  have hst : st' = st := by
    have := F.ok; rw [hok] at this; injection this with this; exact this.symm
  subst hst
  obtain ⟨_, _, _, d, ds, hd, _⟩ := stages_mainHead (validMainK_of_validMain hv) hok
  exact C12_codegenTotal_of_linTyped st'.s5 F.lin5 (by rw [hd]; exact List.cons_ne_nil _ _)

theorem C12_chain3 (h2 : C12_link_fun2core) (h3 : C12_link_focus) (h4 : C12_link_shrink) :
    C12_statement :=
  C12_chain h2 h3 h4 (C12_link_codegen_proved h2 h3 h4)

/-- for ONE program: the FULL conclusion of C12 (S1 … S7, code generators included) from the decidable
    predicate `C12_linkChecks p'` — no link hypothesis at all -/
theorem C12_conclusion_of_linkChecks (p : Fun.Program) (p' : Fun.CheckedProgram)
    (hn : programNamesOk p = true) (hc : checkProgram p = .ok p') (hv : validMain p' = true)
    (hlc : C12_linkChecks p' = true) : C12_conclusion p p' := by
  obtain ⟨st, F⟩ := C12_facts_of_checks p p' hn hc hv hlc
  obtain ⟨_, _, _, d, ds, hd, _⟩ := stages_mainHead (validMainK_of_validMain hv) F.ok
  exact ⟨F.wt, F.annotated, st, F.ok, F.input2.typed, wtFsCheck_of_scoped F.scoped3, F.unique3,
    F.wtAx4, F.lin5,
    C12_codegenTotal_of_linTyped st.s5 F.lin5 (by rw [hd]; exact List.cons_ne_nil _ _)⟩

/-- `C12_routine_x86` on the stages of ONE program with a valid `main`: x86-64 `intoRoutine` cannot fail when `main`
    has at most 5 parameters.  (`hk` follows from `hv`: `C12_mainArity_le`; no hypothesis about `C12_linkChecks` is
    needed, despite the name.) -/
theorem C12_routine_x86_of_linkChecks (p' : Fun.CheckedProgram) (st : Stages)
    (hv : validMain p' = true) (hok : stages p' = .ok st) (hk : mainArity p' ≤ 5)
    (hooks : Bool) (c : Nat) (body : List X86.Code) (nargs : Nat)
    (h : X86.compileX86 st.s5 hooks c = .ok (body, nargs)) : ∃ r, X86.intoRoutine body nargs = .ok r := by
  obtain ⟨_, _, _, d, ds, hd, hlen, _⟩ := stages_mainHead (validMainK_of_validMain hv) hok
  refine C12_routine_x86 st.s5 hooks c body nargs ?_ h
  intro d0 ds0 hd0
  rw [hd] at hd0
  injection hd0 with h1 _
  rw [← h1, hlen]; exact hk

/-! ## non-vacuity: a linearly typed program with a data type, a closure, a call, `subst` with renaming and with
duplication of an integer (`y` to `y`, `w` in `C12cg_g`), `let`, `switch`, `create`, `invoke`, `print` -/

private def tList : Ty := .decl ⟨"List", 0⟩
private def tFun : Ty := .decl ⟨"Fun", 0⟩
private def bx (n : String) (i : Nat) : Binding := ⟨⟨n, i⟩, .ext, .i64⟩

def C12cg_main : Def :=
  { name := ⟨"main", 0⟩, ctx := [bx "x" 1],
    body := .create ⟨"f", 2⟩ tFun (some [bx "x" 1])
      (.cons ⟨"Ap", 0⟩ [bx "a" 3]
        (.op ⟨"s", 4⟩ ⟨"a", 3⟩ .sum ⟨"x", 1⟩ (.print true ⟨"s", 4⟩ (.exit ⟨"s", 4⟩) none) none) .nil)
      (.lit ⟨"n", 5⟩ 5
        (.subst [(bx "n" 6, ⟨"n", 5⟩), (⟨⟨"f", 7⟩, .cns, tFun⟩, ⟨"f", 2⟩)]
          (.invoke ⟨"f", 7⟩ ⟨"Ap", 0⟩ tFun [bx "n" 6])) none) none none }

def C12cg_h : Def :=
  { name := ⟨"h", 0⟩, ctx := [bx "n" 1],
    body := .letS ⟨"l", 2⟩ tList ⟨"Nil", 0⟩ []
      (.subst [(⟨⟨"l", 3⟩, .prd, tList⟩, ⟨"l", 2⟩)] (.call ⟨"g", 0⟩ [])) none }

def C12cg_g : Def :=
  { name := ⟨"g", 0⟩, ctx := [⟨⟨"xs", 1⟩, .prd, tList⟩],
    body := .switch ⟨"xs", 1⟩ tList
      (.cons ⟨"Nil", 0⟩ [] (.lit ⟨"z", 2⟩ 0 (.exit ⟨"z", 2⟩) none)
        (.cons ⟨"Cons", 0⟩ [bx "y" 3, ⟨⟨"ys", 4⟩, .prd, tList⟩]
          (.subst [(bx "y" 5, ⟨"y", 3⟩), (bx "w" 6, ⟨"y", 3⟩)]
            (.ifc .lt ⟨"y", 5⟩ (some ⟨"w", 6⟩) (.exit ⟨"y", 5⟩) (.exit ⟨"w", 6⟩))) .nil)) none }

def C12cg_ex : Prog :=
  { defs := [C12cg_main, C12cg_h, C12cg_g],
    types := [{ name := ⟨"List", 0⟩,
                xtors := [⟨⟨"Nil", 0⟩, []⟩, ⟨⟨"Cons", 0⟩, [bx "x" 100, ⟨⟨"xs", 101⟩, .prd, tList⟩]⟩] },
              { name := ⟨"Fun", 0⟩, xtors := [⟨⟨"Ap", 0⟩, [bx "a" 102]⟩] }],
    maxId := 202 }

set_option maxRecDepth 100000 in
theorem C12cg_ex_checked : C12_isOk (linTypedCheck C12cg_ex) = true := by decide +kernel

theorem C12cg_ex_linTyped : LinTypedProg C12cg_ex :=
  linTypedCheck_sound _ (C12_isOk_unit C12cg_ex_checked)

example : C12cg_ex.defs ≠ [] := by simp [C12cg_ex]
example : ∀ d0 ds, C12cg_ex.defs = d0 :: ds → d0.ctx.length ≤ 5 := by
  intro d0 ds h; simp only [C12cg_ex, List.cons.injEq] at h; rw [← h.1]; decide
example : Pos.progCap C12cg_ex = 3 ∧ C12_capacityX86 C12cg_ex = true ∧ C12_capacityA64 C12cg_ex = true ∧
    C12_capacityRV C12cg_ex = true := by decide +kernel
example : C12_codegenTotal C12cg_ex :=
  C12_codegenTotal_of_linTyped _ C12cg_ex_linTyped (by simp [C12cg_ex])

def C12_errIs {α : Type} (msg : String) : Except String α → Bool
  | .error e => e == msg
  | .ok _ => false

/- what the models really return on the example: code on x86-64 and AArch64, and the RISC-V backend
    reaches its documented "not implemented" (the program prints) — an instance of the permitted error -/
set_option maxRecDepth 100000 in
example : C12_isOk (X86.compileX86 C12cg_ex true 0) = true ∧
    C12_isOk (A64.compileProg A64.a64Backend C12cg_ex true 0) = true ∧
    C12_errIs "not implemented in RISC-V backend" (RV.compileRoutine C12cg_ex true 0) = true := by
  decide +kernel

/-- the hypothesis `LinTypedProg` cannot be dropped: on an ill-typed program (the variable of `exit` is
    not in the context) the generator panics with a message that is NOT a capacity error -/
def C12cg_bad : Prog :=
  { defs := [{ name := ⟨"main", 0⟩, ctx := [bx "x" 1], body := .exit ⟨"y", 2⟩ }], types := [], maxId := 2 }

set_option maxRecDepth 100000 in
example : C12_errIs "Variable 2 not found in context" (X86.compileX86 C12cg_bad true 0) = true ∧
    C12_okOrCapacityB (X86.compileX86 C12cg_bad true 0) = false ∧
    C12_isOk (linTypedCheck C12cg_bad) = false := by decide +kernel

#print axioms C12_codegenTotal_of_linTyped
#print axioms C12_codegen_x86
#print axioms C12_routine_x86
#print axioms C12_codegen_a64
#print axioms C12_codegen_a64_main
#print axioms C12_codegen_rv
#print axioms C12_codegen_x86_ok
#print axioms C12_codegen_a64_ok
#print axioms C12_codegen_rv_ok
#print axioms C12_link_codegen_proved
#print axioms C12_chain3
#print axioms C12_conclusion_of_linkChecks
#print axioms C12_routine_x86_of_linkChecks
#print axioms C12cg_ex_linTyped
#print axioms Scc.Backend.Total.Tot_codeStatementR
#print axioms Scc.Backend.Total.Tot_compileR
#print axioms Scc.Backend.Total.parallelMoves_ok
#print axioms Scc.Backend.Total.LinTyped.of_keys
#print axioms Scc.X86.Total.x86_total
#print axioms Scc.X86.Total.x86_total_fits
#print axioms Scc.A64.Total.a64_total
#print axioms Scc.A64.Total.a64_total_fits
#print axioms Scc.RV.Total.rv_total
#print axioms Scc.RV.Total.rv_total_fits

end Scc.Props

#print axioms Scc.Props.C12_okOrCapacity_of_resOk
#print axioms Scc.Props.ResOk.false_ok
#print axioms Scc.Props.C12cg_ex_checked
