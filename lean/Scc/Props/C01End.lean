/-
  Scc.Props.C01End — property C01 (end-to-end correctness for x86-64): THE THEOREM WITH NO LINK LEFT AS A HYPOTHESIS.

  Props/C01Final.lean states two links as `def … : Prop` and proves `C01_final_of (hx : C01_gap_x86)
  (hc : C01_gap_fun2core) : C01_statement_final`.  Both are proved here:
    `C01_gap_x86_holds`       from `X86.C06_programs` (Props/C06X86Full.lean: Theorem A ∘ Theorem B for ALL
                              statement forms, `create` / `invoke` included).  The shape of `C01_gap_x86`
                              (= `C01_x86_heap_statement fun _ => True`) is EXACTLY the shape of
                              `C06_programs` — same side hypotheses, same heap bound `128 + 64·134·fuel` —,
                              so the proof passes the arguments through and drops the trivial class.
    `C01_gap_fun2core_holds`  from `C02_sem : C02_sem_full_statement` (Props/C02SemFull.lean).

  THE THEOREM
    `C01_end_to_end : C01_statement_final`      — and, with every definition of the statement unfolded,
    `C01_end_to_end_spelled`.  Hypotheses, EXACTLY:
        (1) `Fun.Parse.parse mode src = .ok p`        the parser accepts the source text (any literal mode);
        (2) `checkProgram p = .ok p'`                 the checker accepts the program;
        (3) `validMain p' = true`                     one `main`, at most five parameters, all integers,
                                                      integer result;
        (4) `Fun.noMainCall p' = true`                `main` is not called;
        (5) `C01_backChecks p' = true`                THE decidable predicate on the checked program
                                                      (Props/C01DataChecks.lean; equivalently
                                                      `C01_backChecksLite`, below);
      and inside the conclusion, per machine configuration `cfg`:
        (6) `C01_DataMach cfg`  = `MachOK cfg.mach`, `cfg.heap = false` (monitor off), `heapBase % 8 = 0`,
                                  `0 < heapBase`, `codeBase ≤ 2^63`;   the default `{}` is one;
        (7) `128 + 64·134·n5 ≤ cfg.mach.heapBytes`,   `n5` the number of steps of the positional AxCut
                                                      machine on S5 for this run (exhibited by the theorem).
    Conclusion (`C01_conclusionH p'`): the middle end succeeds (`stages p' = ok st`), and for every `hooks`
    and every result `(nargs, text)` of `compileAllX86 hooks 0 p'`: `nargs = mainArity p'`, and whenever the
    source semantics finishes, `srcRun p' args n = ⟨t, done v⟩` (the Fun machine when the program is
    `Sequenced`, else the Core ς-machine on the translation S2 — there C02 is not used, the composition
    starts at C03): `args.length = nargs`, the x86-64 machine on the emitted routine TEXT produces trace `t`
    and result `v` (`X86.run text args m cfg`), and the linked binary (`nativeRun`, C20) writes the decimal
    rendering `renderTrace t` and exits with status `v mod 256` (`Runtime.exitStatus v.toInt`).
    `C01_end_to_end_onMachines`: the same in the form "there is a heap size such that on every
    `C01_DataMach` with at least that heap …".
    `C01_end_compiles`: under (1)–(5) `compileAllX86 hooks 0 p'` SUCCEEDS — the premise of the conclusion is
    never vacuous (into_routine.rs passes at most five arguments in registers and fails with more; the bound
    `mainArity p' ≤ 5` is part of (3), `mainArity_le_five`).

  THE PREDICATE.  `C01_backChecks` evaluates, besides `LabelSafe S5`, `progCap S5 ≤ 133`, ranges, text-safe
  names, the length of the mock code and the size of the routine, that the labels DEFINED in the emitted
  routine are pairwise distinct.  That conjunct follows from `LabelSafe` (`X86.Ref.labels_unique_x86`,
  Scc/X86/RefSideLabels.lean): `C01_backChecksLite` is `C01_backChecks` without it, and
  `C01_backChecks_iff_lite : C01_backChecks p' = C01_backChecksLite p'`;
  `C01_end_to_end_lite` is the theorem with the smaller predicate.  What remains in the predicate is
  genuinely per-program: `LabelSafe` (necessary: C14 collisions), capacity 133 variables per context, ranges
  of literals / tags / substitutions, names printable for the loader, sizes below 2^64 / 2^63.
  For the stages of an accepted source text the sizes, too, follow from a bound on S5 (the size theorems of the
  two code generators): `C01_backChecksStatic`, `C01_backChecks_of_static` (Props/C01Final.lean); the examples
  evaluate hypothesis (5) in that form, which runs no code generator.

  `Scc.Pipeline.Links.linksLine` reports the tag `e2e` when (3) ∧ (4) ∧ (5) hold.

  Every link is a theorem: C16/C15 (names and typing of accepted source texts), C12 (every stage typed, middle
  end total), C02 (fun2core, full), C03, C04, C05, Theorem A, Theorem B with heap and closures (C06 ∘ C09/C10),
  C14 (loader), C20 (runtime).

  NON-VACUITY (end of file): `C01E_sumSrc`, a NON-tail-recursive list sum (`range` builds the list, `sum`
  adds it up; both recurse under a `let`, so the continuation closures capture variables; `Sequenced`), and
  `C01E_nseqSrc`, the same written with nested calls (`x + sum(xs)`; NOT `Sequenced`: `srcRun` is the Core
  machine).  (1)–(5) by `decide +kernel` (`C01E_nseq_hyps`; `C01E_sum_hyps` is in Props/NonVacuity.lean, where
  the list sum is evaluated ONCE for all the theorems instantiated on it); the premise
  `srcRun p' [4] … = ⟨[(true, 10)], done …⟩` by `decide +kernel` too (in the same evaluations);
  `C01_end_compiles` gives the text; `C01E_sum_conclusion` (Props/NonVacuity.lean), `C01E_nseq_conclusion`,
  `C01E_rec_conclusion` (the tail-recursive list sum of Props/C01Final.lean): the conclusion for the run on
  the argument 4, no hypothesis.  The x86-64 machine keeps its memory in a `Std.HashMap`, which does not reduce in the kernel;
  `#eval` (see the comment at the examples) confirms the trace `10\n` and the exit status on the default
  configuration.
-/
import Scc.Props.C01Final
import Scc.Props.C02SemFull
import Scc.Props.C06X86Full

namespace Scc.Props

open Scc.Pipeline
open Scc.Fun.Check (checkProgram programNamesOk)
open Scc.Props.C14Generic (LabelSafe)

/-- the x86-64 link: `X86.C06_programs` has exactly the shape of `C01_x86_heap_statement` with the trivial
    class of programs -/
theorem C01_gap_x86_holds : C01_gap_x86 := by
  intro p args hooks body routine nargs d0 ops c' hsafe htp _ hrange hcompM hfit hcompX hrout hnd hd
    hentry hcap fuel out v hfuel hrun cfg MO hheap hb8 hb0 hbytes items hitems hfitX
  exact X86.C06_programs p args hooks body routine nargs d0 ops c' hsafe htp hrange hcompM hfit
    hcompX hrout hnd hd hentry hcap fuel out v hfuel hrun cfg MO hheap hb8 hb0 hbytes items hitems hfitX

theorem C01_gap_fun2core_holds : C01_gap_fun2core := C01_gap_fun2core_of_full C02_sem

/-- **C01, END TO END, no link left as a hypothesis**: for every source text accepted by parser and checker, with a valid
    `main` that is not called, whose linearized program passes the decidable side conditions
    `C01_backChecks`: whenever the source semantics finishes with trace `t` and value `v`, the x86-64
    machine on the emitted routine text produces `t` and `v`, and the native rendering is the decimal bytes
    of `t` with exit status `v mod 256` (see the header for the exact list of hypotheses). -/
theorem C01_end_to_end : C01_statement_final :=
  C01_final_of C01_gap_x86_holds C01_gap_fun2core_holds

/-- `C01_end_to_end` with `C01_statement_final`, `C01_conclusionH`, `C01_runsOnX86`, `C01_DataMach` and
    `C01_heapBound` unfolded: every hypothesis visible -/
theorem C01_end_to_end_spelled (mode : Fun.Parse.LiteralMode) (src : String) (p : Fun.Program)
    (p' : Fun.CheckedProgram)
    (hparse : Fun.Parse.parse mode src = .ok p) (hc : checkProgram p = .ok p')
    (hv : validMain p' = true) (hmc : Fun.noMainCall p' = true) (hb : C01_backChecks p' = true) :
    ∃ st : Stages, stages p' = .ok st ∧
      ∀ (hooks : Bool) (nargs : Nat) (text : String),
        compileAllX86 hooks 0 p' = .ok (nargs, text) →
        nargs = mainArity p' ∧
        ∀ (args : List Word) (n : Nat) (t : List (Bool × Word)) (v : Word),
          srcRun p' args n = ⟨t, .done v⟩ →
          args.length = nargs ∧
          ∃ n5, AxCut.Pos.run st.s5 args n5 = ⟨t, .done v⟩ ∧
            ∀ cfg : X86.MonCfg, X86.Ref.MachOK cfg.mach → cfg.heap = false →
              cfg.mach.heapBase % 8 = 0 → 0 < cfg.mach.heapBase → cfg.mach.codeBase ≤ 2 ^ 63 →
              128 + 64 * 134 * n5 ≤ cfg.mach.heapBytes →
              ∃ m, (X86.run text args m cfg).out = t ∧ (X86.run text args m cfg).res = .done v ∧
                nativeRun text nargs (argvOf args) m cfg =
                  some (renderTrace t, Runtime.exitStatus v.toInt) := by
  obtain ⟨st, hok, h⟩ := C01_end_to_end mode src p p' hparse hc hv hmc hb
  refine ⟨st, hok, fun hooks nargs text hall => ?_⟩
  obtain ⟨h1, h2⟩ := h hooks nargs text hall
  refine ⟨h1, fun args n t v hsrc => ?_⟩
  obtain ⟨h3, n5, h4, h5⟩ := h2 args n t v hsrc
  exact ⟨h3, n5, h4, fun cfg MO hm h8 h0 hcb hbytes => h5 cfg ⟨MO, hm, h8, h0, hcb⟩ hbytes⟩

/-- … in the form "given enough heap" (the shape of `C01_conclusion`, Props/C01.lean) -/
theorem C01_end_to_end_onMachines (mode : Fun.Parse.LiteralMode) (src : String) (p : Fun.Program)
    (p' : Fun.CheckedProgram)
    (hparse : Fun.Parse.parse mode src = .ok p) (hc : checkProgram p = .ok p')
    (hv : validMain p' = true) (hmc : Fun.noMainCall p' = true) (hb : C01_backChecks p' = true) :
    (∃ q5, middleEnd p' = .ok q5) ∧
    ∀ (hooks : Bool) (nargs : Nat) (text : String),
      compileAllX86 hooks 0 p' = .ok (nargs, text) →
      nargs = mainArity p' ∧
      ∀ (args : List Word) (n : Nat) (t : List (Bool × Word)) (v : Word),
        srcRun p' args n = ⟨t, .done v⟩ →
        args.length = nargs ∧
        C01_onDataMachines fun cfg m =>
          (X86.run text args m cfg).out = t ∧ (X86.run text args m cfg).res = .done v ∧
          nativeRun text nargs (argvOf args) m cfg = some (renderTrace t, Runtime.exitStatus v.toInt) :=
  C01_conclusionH_onMachines (C01_end_to_end mode src p p' hparse hc hv hmc hb)

/-- under the hypotheses of `C01_end_to_end` the whole compiler succeeds: the premise
    `compileAllX86 hooks 0 p' = ok …` of the conclusion holds (a valid `main` has at most five parameters, which is
    what into_routine.rs asks) -/
theorem C01_end_compiles (mode : Fun.Parse.LiteralMode) (src : String) (p : Fun.Program)
    (p' : Fun.CheckedProgram)
    (hparse : Fun.Parse.parse mode src = .ok p) (hc : checkProgram p = .ok p')
    (hv : validMain p' = true) (hmc : Fun.noMainCall p' = true) (hb : C01_backChecks p' = true)
    (hooks : Bool) :
    ∃ nargs text, compileAllX86 hooks 0 p' = .ok (nargs, text) := by
  have h5 := mainArity_le_five hv
  obtain ⟨_, _, _, st, F⟩ := C01_facts_of_source hparse hc hv hmc
  simp only [C01_backChecks, F.ok, Bool.and_eq_true, decide_eq_true_eq] at hb
  obtain ⟨_, ⟨⟨⟨⟨⟨⟨hcap, _⟩, _⟩, _⟩, _⟩, _⟩, _⟩⟩ := hb
  obtain ⟨_, _, _, m5⟩ := stages_mainHead (validMainK_of_validMain hv) F.ok
  obtain ⟨d5, ds5, hd5, hk5, _⟩ := m5
  have hne : st.s5.defs ≠ [] := by rw [hd5]; simp
  obtain ⟨⟨body, nargs⟩, hcomp⟩ := C12_codegen_x86_ok st.s5 F.lin5 hne
    (by simp only [C12_capacityX86, decide_eq_true_eq]; omega) hooks 0
  obtain ⟨routine, hinto⟩ := C12_routine_x86 st.s5 hooks 0 body nargs (fun d0 ds hd => by
    rw [hd5] at hd
    injection hd with e1 _
    subst e1
    omega) hcomp
  exact ⟨nargs, X86.printProg routine, compileAllX86_ok_iff.2
    ⟨st.s5, middleEnd_ok_iff.2 ⟨st, F.ok, rfl⟩, backEndX86_ok_iff.2 ⟨body, routine, hcomp, hinto, rfl⟩⟩⟩

def C01_routineSmallB (hooks : Bool) (q5 : AxCut.Prog) : Bool :=
  match X86.compileX86 q5 hooks 0 with
  | .ok (body, nargs) =>
    match X86.intoRoutine body nargs with
    | .ok routine => decide (C01_routineBytes routine < 2 ^ 63)
    | .error _ => true
  | .error _ => true

/-- `C01_backChecks` without the evaluated check that the labels of the routine are pairwise distinct -/
def C01_backChecksLite (p' : Fun.CheckedProgram) : Bool :=
  C01_labelSafe p' &&
  match stages p' with
  | .ok st =>
    decide (AxCut.Pos.progCap st.s5 ≤ 133) && C01_progInRangeB st.s5 && C01_namesTextSafe st.s5 &&
    C01_mockFitsB true st.s5 && C01_mockFitsB false st.s5 &&
    C01_routineSmallB true st.s5 && C01_routineSmallB false st.s5
  | .error _ => false

/-- for a label-safe program the label check of `C01_routineOkB` is a theorem (`X86.Ref.labels_unique_x86`) -/
theorem C01_routineOkB_iff_small {q5 : AxCut.Prog} (hsafe : LabelSafe q5 = true) (hooks : Bool) :
    C01_routineOkB hooks q5 = C01_routineSmallB hooks q5 := by
  unfold C01_routineOkB C01_routineSmallB
  cases hcomp : X86.compileX86 q5 hooks 0 with
  | error e => rfl
  | ok r =>
    obtain ⟨body, nargs⟩ := r
    simp only
    cases hinto : X86.intoRoutine body nargs with
    | error e => rfl
    | ok routine =>
      have hnd : (C01_labsB routine).Nodup := X86.Ref.labels_unique_x86 hsafe hcomp hinto
      simp [hnd]

theorem C01_backChecks_iff_lite (p' : Fun.CheckedProgram) :
    C01_backChecks p' = C01_backChecksLite p' := by
  unfold C01_backChecks C01_backChecksLite
  cases hls : C01_labelSafe p' with
  | false => rfl
  | true =>
    cases hok : stages p' with
    | error e => rfl
    | ok st =>
      have hsafe : LabelSafe st.s5 = true := by
        unfold C01_labelSafe at hls
        rw [hok] at hls
        exact hls
      simp only [C01_routineOkB_iff_small hsafe]

theorem C01_end_to_end_lite (mode : Fun.Parse.LiteralMode) (src : String) (p : Fun.Program)
    (p' : Fun.CheckedProgram)
    (hparse : Fun.Parse.parse mode src = .ok p) (hc : checkProgram p = .ok p')
    (hv : validMain p' = true) (hmc : Fun.noMainCall p' = true) (hb : C01_backChecksLite p' = true) :
    C01_conclusionH p' :=
  C01_end_to_end mode src p p' hparse hc hv hmc (by rw [C01_backChecks_iff_lite]; exact hb)

/-- the decidable predicate of the tag `e2e` of `Scc.Pipeline.Links.linksLine` -/
def C01_endChecks (p' : Fun.CheckedProgram) : Bool :=
  validMain p' && Fun.noMainCall p' && C01_backChecks p'

/-- `C01_end_to_end` with hypotheses (3)–(5) as the ONE predicate `C01_endChecks` -/
theorem C01_end_to_end_checks (mode : Fun.Parse.LiteralMode) (src : String) (p : Fun.Program)
    (p' : Fun.CheckedProgram)
    (hparse : Fun.Parse.parse mode src = .ok p) (hc : checkProgram p = .ok p')
    (he : C01_endChecks p' = true) : C01_conclusionH p' := by
  simp only [C01_endChecks, Bool.and_eq_true] at he
  exact C01_end_to_end mode src p p' hparse hc he.1.1 he.1.2 he.2

/-! ## non-vacuity

`C01E_sumSrc`: `range(n)` builds `[n, …, 1]`, `sum` adds the elements; BOTH recurse under a `let`, so the
continuation passed to the recursive call is a closure that captures `n` resp. `x` (`create` with a
non-empty environment, `invoke` at every return) — outside `C01_data_fragment`.  `main` prints the sum and
returns it.  On the argument 4: trace `10\n`, result 10.

`#eval` (not part of the build; the x86-64 machine's `Std.HashMap` memory does not reduce in the kernel),
with `text` the result of `compileTextX86 true 0 C01E_sumSrc`:
  `X86.run text [4] 100000 {}`            trace `[(true, 10)]`, result `done 10`
  `runLineNative text 1 [4] 100000`       `OK 31300a 10`   (bytes "10\n", exit status 10)
and for `C01E_nseqSrc`:                    trace `[(true, 10)]`, result `done 0`, `OK 31300a 0`
— as the theorem says. -/

def C01E_sumSrc : String :=
  "data List[A] { Nil, Cons(x: A, xs: List[A]) }
def range(n: i64): List[i64] { if n == 0 { Nil } else { let m: i64 = n - 1; let r: List[i64] = range(m); Cons(n, r) } }
def sum(l: List[i64]): i64 { l.case[i64] { Nil => 0, Cons(x, xs) => let r: i64 = sum(xs); x + r } }
def main(n: i64): i64 { let l: List[i64] = range(n); let s: i64 = sum(l); println_i64(s); s }"

/-- the same with nested calls: NOT `Sequenced` (`srcRun` is the Core ς-machine on S2) -/
def C01E_nseqSrc : String :=
  "data List[A] { Nil, Cons(x: A, xs: List[A]) }
def range(n: i64): List[i64] { if n == 0 { Nil } else { Cons(n, range(n - 1)) } }
def sum(l: List[i64]): i64 { l.case[i64] { Nil => 0, Cons(x, xs) => x + sum(xs) } }
def main(n: i64): i64 { println_i64(sum(range(n))); 0 }"

set_option maxRecDepth 100000 in
/-- the non-sequenced variant: hypotheses (3), (4), NOT `Sequenced`, closures in S5, one parameter; the
    source semantics (the Core machine on S2) finishes on the argument 4 with trace `10\n` and result 0;
    hypothesis (5) -/
theorem C01E_nseq_hyps (s : String) (h : s.toList = C01E_nseqSrc.toList) :
    C01F_ex (fun _ p' => validMain p' && Fun.noMainCall p' && !Fun.Sequenced p' && !C01F_noClosures p' &&
      decide (mainArity p' = 1) && decide (srcRun p' [4] 100 = ⟨[(true, 10)], .done 0⟩) &&
      C01_backChecksStatic p') s = true := by
  have hc := toList_of_literal rfl h
  simp only [C01F_ex, frontEnd, Fun.Parse.parse, hc]
  decide +kernel

/-- what the theorem says about one run `(args, t, v)` of a checked program: the compiler produces a text
    for as many arguments as `args` has, and there is a heap size such that on every `C01_DataMach` with at
    least that heap the x86-64 machine on that text produces `t` and `v`, and the linked binary writes the
    decimal rendering of `t` and exits with status `v mod 256` -/
def C01E_runsNatively (hooks : Bool) (p' : Fun.CheckedProgram) (args : List Word)
    (t : List (Bool × Word)) (v : Word) : Prop :=
  ∃ nargs text, compileAllX86 hooks 0 p' = .ok (nargs, text) ∧ args.length = nargs ∧
    C01_onDataMachines fun cfg m =>
      (X86.run text args m cfg).out = t ∧ (X86.run text args m cfg).res = .done v ∧
      nativeRun text nargs (argvOf args) m cfg = some (renderTrace t, Runtime.exitStatus v.toInt)

theorem C01E_apply {src : String} {p : Fun.Program} {p' : Fun.CheckedProgram}
    (hfe : frontEnd src = .ok p p') (hv : validMain p' = true) (hmc : Fun.noMainCall p' = true)
    (hb : C01_backChecks p' = true) {args : List Word} {n : Nat}
    {t : List (Bool × Word)} {v : Word} (hrun : srcRun p' args n = ⟨t, .done v⟩) (hooks : Bool) :
    C01E_runsNatively hooks p' args t v := by
  obtain ⟨hparse, hc⟩ := C01F_frontEnd_ok hfe
  obtain ⟨nargs, text, hall⟩ := C01_end_compiles _ _ p p' hparse hc hv hmc hb hooks
  obtain ⟨_, h⟩ := C01_end_to_end_onMachines _ _ p p' hparse hc hv hmc hb
  obtain ⟨_, h3⟩ := h hooks nargs text hall
  obtain ⟨hlen, h4⟩ := h3 args n t v hrun
  exact ⟨nargs, text, hall, hlen, h4⟩

/-- **the theorem applies to the non-sequenced list sum**: for both hook settings the compiler produces a
    routine text, and on every `C01_DataMach` with enough heap the x86-64 machine on it, started with the
    argument 4, prints 10 and returns 0; the linked binary writes "10\n" and exits with status 0 -/
theorem C01E_nseq_conclusion (p : Fun.Program) (p' : Fun.CheckedProgram)
    (hfe : frontEnd C01E_nseqSrc = .ok p p') (hooks : Bool) :
    C01E_runsNatively hooks p' [4] [(true, 10)] 0 := by
  have h1 := C01F_ex_elim (C01E_nseq_hyps _ rfl) hfe
  simp only [Bool.and_eq_true, decide_eq_true_eq] at h1
  obtain ⟨⟨⟨⟨⟨⟨hv, hmc⟩, _⟩, _⟩, _⟩, h2⟩, hb⟩ := h1
  exact C01E_apply hfe hv hmc (C01_backChecks_of_static_source hfe hv hmc hb) h2 hooks

/-- the tail-recursive list sum of Props/C01Final.lean (`C01_recursion_needs_closures`; its back-end
    conditions and its run: `C01F_rec_hyps`) is covered too -/
theorem C01E_rec_conclusion (p : Fun.Program) (p' : Fun.CheckedProgram)
    (hfe : frontEnd C01F_recSrc = .ok p p') (hooks : Bool) :
    C01E_runsNatively hooks p' [4] [(true, 10)] 10 := by
  have h := C01F_ex_elim (C01F_rec_hyps _ rfl) hfe
  simp only [Bool.and_eq_true, decide_eq_true_eq] at h
  obtain ⟨⟨⟨⟨⟨⟨hv, hmc⟩, _⟩, _⟩, hb⟩, _⟩, hrun⟩ := h
  exact C01E_apply hfe hv hmc (C01_backChecks_of_static_source hfe hv hmc hb) hrun hooks

/-- the bytes and the exit status of the conclusion for the runs with result 10 (`C01E_rec_conclusion`, and
    `C01E_sum_conclusion` of Props/NonVacuity.lean): "10\n", status 10; the default configuration is a
    `C01_DataMach` -/
example : renderTrace [(true, (10 : Word))] = [49, 48, 10] ∧ Runtime.exitStatus (10 : Word).toInt = 10 ∧
    C01_DataMach {} :=
  ⟨by decide, by decide, C01_dataMach_default⟩

#print axioms C01_gap_x86_holds
#print axioms C01_gap_fun2core_holds
#print axioms C01_end_to_end
#print axioms C01_end_to_end_spelled
#print axioms C01_end_to_end_onMachines
#print axioms C01_end_compiles
#print axioms C01_backChecks_iff_lite
#print axioms C01_end_to_end_lite
#print axioms C01_end_to_end_checks
#print axioms C01E_nseq_hyps
#print axioms C01E_apply
#print axioms C01E_nseq_conclusion
#print axioms C01E_rec_conclusion

end Scc.Props

#print axioms Scc.Props.C01_routineOkB_iff_small
