/-
  Scc.Props.C07A64Int — property C07 (AArch64 code generation preserves AxCut semantics), THEOREM B for
  AArch64, integer fragment: the REFINEMENT abstract backend machine ⟶ AArch64 SPEC machine
  (Scc/A64/Ref*.lean) on the code emitted by `compileProg a64Backend` / `intoRoutine`, and its composition
  with Theorem A (Props/C06Generic.lean) and with the proved loader round trip (Props/C14LoaderA64*.lean).
  The AArch64 analogue of the section "Theorem B" of Props/C06X86.lean.

    `RepA64` (Scc/A64/RefDefs.lean)  the representation relation `Abs.Config ↔ A64.State × trace`: word part
      of position i (abstract temporary 2i+1) ↔ `posTemp (2i+1)` = logical register X5,X7,…,X29 (the
      machine's X5…X17, X20…X30 — the last one is the LINK REGISTER) / spill slot 1…255
      (Scc/A64/Consts.lean via utils.rs temporary_from_position); RET1 ↔ X0; scratch cell of parallel moves
      ↔ TEMP = X2 (`Mode.pm`; `mov` goes through TEMP2 = X3, so TEMP is never disturbed); equal traces; SP at
      its boundary value and the callee-save area holding the entry values of X19–X30 (`CC.Core`); program
      counters related by `At` (suffixes of mock code / routine related by the rendering relation `Seg`; the
      machine's program counter is the number of ITEMS before the list position: labels, directives and
      plain comments occupy no item of the laid-out program, `#ctx` hook comments do).
    `C07_rendering` (`seg_compile`)  whenever the AArch64 generator succeeds on a linearly typed integer
      program, the mock generator succeeds from the same label counter and the AArch64 body renders the mock
      code instruction by instruction (parametricity of Generic.lean in the backend, incl. parallel moves).
      No hypothesis on literals: `load_immediate` is correct for every `i64`.
    `C07_init` (`init_sim`)          the entry: from the machine's entry state (≤ 7 integer arguments in X1–X7) the
      header `preamble ++ setup` (prologue, move_arguments, free pointer) reaches the first code of the body
      in a state that represents the initial abstract configuration.
    `C07_sim_step`, `C07_sim_halt`   the steps: every step of the abstract machine on
      comment label jumplabel jif jifz li add/sub/mul/div/rem mov print save restore is simulated by the
      AArch64 machine on the rendering (`MSteps`: iterations of `runLoop`), `jumplabel cleanup` by
      `B cleanup` + epilogue, arriving at `RET` with a successful exit check.  `print`: the caller-save
      dance incl. the link register (X30 holds a variable from 13 variables on) — `C13_print_preserves`.
    `C07_int_programs`               whole runs: AxCut positional machine ⟶ AArch64 machine on the program LAID
      OUT from any lines that are the routine (`CC.Lines`, blank lines anywhere), for LabelSafe, LinTyped
      INTEGER programs within capacity (`compileProg` succeeds: ≤ 7 parameters, ≤ 140 variables).
    `C07_int_programs_text`          the same for `A64.run` on the PRINTED TEXT of the routine; the loader
      round trip is PROVED (`C14A_routine_lines`), its hypotheses are the two decidable checks on the
      program (`C14A_inRangeB`, `C14A_namesTextSafe`).
  `let` / `switch` / `subst` with objects: Props/C07A64Heap.lean.
-/
import Scc.A64.RefCompose
import Scc.Props.C14LoaderA64Compose

namespace Scc.A64
open Scc.AxCut Scc.Backend Scc.Backend.Abs Scc.Backend.Sim Scc.A64.Ref
open Scc.Props.C06Generic (IntProg IntStmt IntCtx Reachable WithinCapacity)
open Scc.Props.C14Generic (LabelSafe)
open Scc.A64.CC (CfgCC cfgCC_default Holds Lines holds_layout)
open Scc.A64.Loader (hookVarsOf)

/-- the AArch64 body RENDERS the mock code (parametricity of the generic generator in the backend) -/
theorem C07_rendering (hooks : Bool) (p : AxCut.Prog) (htp : LinTypedProg p) (hip : IntProg p)
    {c : Nat} {body : List Code} {nargs c1 : Nat}
    (h : (compile a64Backend hooks p).run c = .ok ((body, nargs), c1)) :
    ∃ ops, (compile mockSym hooks p).run c = .ok ((ops, nargs), c1) ∧ Seg .normal ops body .normal :=
  seg_compile hooks p htp hip h

/-- the initial state: the header of the routine takes the machine's entry state to a state that represents the
    initial abstract configuration -/
theorem C07_init {c : MemCfg} (H : CfgCC c) {hk : Code → Bool} {P : Prog} {routine body : List Code}
    {args : List Word} (hr : intoRoutine body args.length = .ok routine) (Hp : Holds hk P routine) :
    ∃ (hdr : List Code) (σ2 : State),
      routine = hdr ++ body ++ cleanup ∧ (∀ l ∈ labs hdr, l = "asm_main") ∧
      P.labels["asm_main"]? = some (pcOf hk routine 2) ∧
      MSteps P c (entryState c args) (pcOf hk routine 2) [] σ2 (pcOf hk routine hdr.length) [] ∧
      RepA64 c .normal (initConfig 0 args) σ2 [] :=
  init_sim H hr Hp

/-- one step of the abstract machine is simulated by the AArch64 machine on the rendering -/
theorem C07_sim_step {c : MemCfg} (H : CfgCC c) {hk : Code → Bool} {P : Prog}
    {ops : List MockOp} {cs hdr body post : List Code} (Hp : Holds hk P cs) (hcs : cs = hdr ++ body ++ post)
    (W : Seg .normal ops body .normal) (hnodup : (labelNames ops).Nodup)
    (hhdr : ∀ n ∈ labelNames ops, n ∉ labs hdr) {cfg cfg' : Config} {g : Mode} {σ : State}
    {out : List (Bool × Word)} {k : Nat}
    (hs : Abs.step (Program.ofOps ops) cfg = .next cfg') (R : RepA64 c g cfg σ out)
    (A : At ops cs cfg.pc k g) :
    ∃ k' σ' out' g', MSteps P c σ (pcOf hk cs k) out σ' (pcOf hk cs k') out' ∧
      RepA64 c g' cfg' σ' out' ∧ At ops cs cfg'.pc k' g' :=
  sim_step H Hp hcs W hnodup hhdr hs R A

/-- the halting step `jumplabel cleanup`: `B cleanup`, epilogue, `RET` with a successful exit check -/
theorem C07_sim_halt {c : MemCfg} (H : CfgCC c) {hk : Code → Bool} {P : Prog}
    {ops : List MockOp} {cs hdr body : List Code} (Hp : Holds hk P cs) (hcs : cs = hdr ++ body ++ cleanup)
    (W : Seg .normal ops body .normal) (hnodup : (labelNames ops).Nodup)
    (hclean : "cleanup" ∉ labs hdr ++ labelNames ops)
    {cfg : Config} {v : Word} {g : Mode} {σ : State} {out : List (Bool × Word)} {k : Nat}
    (hs : Abs.step (Program.ofOps ops) cfg = .halt (.done v)) (R : RepA64 c g cfg σ out)
    (A : At ops cs cfg.pc k g) :
    ∃ kL σL, MSteps P c σ (pcOf hk cs k) out σL (pcOf hk cs kL) out ∧
      P.items[pcOf hk cs kL]? = some (.instr .ret) ∧ exitCheck c σL = .done v ∧ out = cfg.out :=
  sim_halt H Hp hcs W hnodup hclean hs R A

/-- the iterations `MSteps` are iterations of the machine's run loop (heap monitor off): they consume
fuel, nothing else -/
theorem C07_machine_steps {P : Prog} {cfg : MonCfg} (hh : cfg.heap = false) {σ σ' : State} {pc pc' : Nat}
    {out out' : List (Bool × Word)} (h : MSteps P cfg.mem σ pc out σ' pc' out') (steps blocks : Nat) :
    ∃ n steps', ∀ fuel,
      runLoop P cfg (n + fuel) { σ := σ, pc := pc, out := out, steps := steps, blocks := blocks } =
        runLoop P cfg fuel { σ := σ', pc := pc', out := out', steps := steps', blocks := blocks } :=
  runLoop_msteps hh h steps blocks

/-- END TO END for integer programs: from the AxCut positional machine to the AArch64 machine on the
program LAID OUT from lines that are the emitted routine (`Lines`: every instruction parses to its machine
instruction, labels to labels, comments to plain comments or — as `hkv` decides — to `#ctx` hooks; blank
lines anywhere).  Hypotheses: `LabelSafe`, linearly typed, integer statements and `ext` contexts only
(`IntProg`), the AArch64 generator succeeds (capacity of temporary_from_position; `intoRoutine` ok: at most 7
parameters), every context of the run within the capacity of the mock numbering (as in `TheoremA_run_int`),
a sane memory configuration (`CfgCC`), heap monitor off. -/
theorem C07_int_programs (p : AxCut.Prog) (args : List Word) (hooks : Bool) (body routine : List Code)
    (nargs : Nat) (d0 : Def)
    (hsafe : LabelSafe p = true) (htp : LinTypedProg p) (hip : IntProg p)
    (hcomp : compileProg a64Backend p hooks 0 = .ok (body, nargs, routine))
    (hd : p.defs.head? = some d0)
    (hcap : ∀ st, Reachable p ⟨d0.ctx, args.map .int, d0.body⟩ st → WithinCapacity st.ctx)
    (fuel : Nat) (out : List (Bool × Word)) (v : Word) (hrun : Pos.run p args fuel = ⟨out, .done v⟩)
    (cfg : MonCfg) (H : CfgCC cfg.mem) (hheap : cfg.heap = false)
    (hkv : String → Option (List (String × Kind))) (ls : List (Nat × PLine)) (hl : Lines hkv ls routine) :
    ∃ fuel', (runProg (layout ls) args fuel' cfg).out = out ∧ (runProg (layout ls) args fuel' cfg).res = .done v :=
  int_programs_holds p args hooks body routine nargs d0 hsafe htp hip hcomp hd hcap fuel out v hrun cfg H hheap
    (holds_layout hl)

/-- `C07_int_programs` on the TEXT: `A64.run` on the printed routine.  The loader round trip is proved
(`C14A_routine_lines`): its hypotheses are the decidable bounds and names checks on the program; the
well-formedness monitor `wf` is off (with it, `run` first runs `wfCheck`, property C14). -/
theorem C07_int_programs_text (p : AxCut.Prog) (args : List Word) (hooks : Bool) (body routine : List Code)
    (nargs : Nat) (d0 : Def)
    (hsafe : LabelSafe p = true) (htp : LinTypedProg p) (hip : IntProg p)
    (hcomp : compileProg a64Backend p hooks 0 = .ok (body, nargs, routine))
    (hd : p.defs.head? = some d0)
    (hcap : ∀ st, Reachable p ⟨d0.ctx, args.map .int, d0.body⟩ st → WithinCapacity st.ctx)
    (fuel : Nat) (out : List (Bool × Word)) (v : Word) (hrun : Pos.run p args fuel = ⟨out, .done v⟩)
    (cfg : MonCfg) (H : CfgCC cfg.mem) (hheap : cfg.heap = false) (hwf : cfg.wf = false)
    (hrange : C14A_inRangeB p = true) (hnames : C14A_namesTextSafe p = true) :
    ∃ fuel', (run (printProg routine) args fuel' cfg).out = out ∧
      (run (printProg routine) args fuel' cfg).res = .done v := by
  obtain ⟨ls, hparse, hl⟩ := C14A_routine_lines hrange hnames hcomp
  obtain ⟨fuel', h1, h2⟩ := C07_int_programs p args hooks body routine nargs d0 hsafe htp hip hcomp hd hcap
    fuel out v hrun cfg H hheap hookVarsOf ls hl
  refine ⟨fuel', ?_, ?_⟩ <;>
  · unfold run
    simp only [hparse, hwf, Bool.false_eq_true, if_false]
    assumption

/-! ### non-vacuity: the counting loop through `call` (Props/C13A64.lean, compiled WITH hooks) -/

/-- the loop started with n = 3, acc = 0: every hypothesis of `C07_int_programs_text` holds, so the AArch64
machine on the PRINTED TEXT of the emitted routine prints 6 and returns 6 -/
example : ∃ (routine : List Code) (fuel' : Nat),
    (run (printProg routine) [3, 0] fuel' {}).out = [(true, 6)] ∧
    (run (printProg routine) [3, 0] fuel' {}).res = .done 6 := by
  obtain ⟨body, routine, hcomp, _⟩ := C13_loop_compiled
  have hrun : Pos.run C13_loopProg [3, 0] 40 = ⟨[(true, 6)], .done 6⟩ := by decide +kernel
  obtain ⟨fuel', h1, h2⟩ := C07_int_programs_text C13_loopProg [3, 0] true body routine 2 C13_loopDef
    (by decide +kernel) (linTypedCheck_sound C13_loopProg rfl) C13_loopProg_int hcomp rfl
    (Scc.Props.C06Generic.capacity_of_run C13_loopProg 40 _ (by decide +kernel) (by decide +kernel)) 40 _ _ hrun {}
    cfgCC_default rfl rfl (by decide +kernel) (by decide +kernel)
  exact ⟨routine, fuel', h1, h2⟩

end Scc.A64

#print axioms Scc.A64.C07_rendering
#print axioms Scc.A64.C07_init
#print axioms Scc.A64.C07_sim_step
#print axioms Scc.A64.C07_sim_halt
#print axioms Scc.A64.C07_machine_steps
#print axioms Scc.A64.C07_int_programs
#print axioms Scc.A64.C07_int_programs_text
