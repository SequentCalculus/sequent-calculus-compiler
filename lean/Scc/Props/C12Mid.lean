/-
  Scc.Props.C12Mid — the two MIDDLE passes preserve typing: the links `C12_link_focus` and
  `C12_link_shrink` of `C12_chain` (Scc/Props/C12.lean) as THEOREMS.

  (a) uniquify + focus (Scc/Core/Typed*.lean, main theorem `Scc.Core.focusProg_wtFsScoped`):
        `C12_focus_typed`   for every Core program `q2` with C03's `Input q2`, `typesDisjoint q2` and
                            `q2.strictOk`:  `wtFsScopedCheck (focusProg q2) = true`.
  (b) shrinking (Scc/Core2AxCut/Typed*.lean, main theorems `shrinkProg_wtAxCheck`, `shrinkProg_wfNonLinear`):
        `C04_shrink_typed`  for every focused program `p` with `wtFsScopedCheck p`, `uniqueIdsCheck p`,
                            `idsBoundedCheck p` and `fsTypesOk p`:  `shrinkProg p = ok q` implies
                            `wtAxCheck q = ok ()`, `WfNonLinear q` (the precondition of C05) and `WTax q`.
                            Lifted definitions are covered: every definition of `q`, lifted or not, is typed
                            under its parameter list (`Core2AxCut.Typed.shrinkProg_wf`).

  SIDE CONDITIONS that the proofs need, all decidable, all evaluated on a pipeline program
  (`C12_example_midChecks`, Props/C12Examples.lean), all NECESSARY (model-level counterexamples below; none
  of them is producible by the pipeline):
    * `Core.Prog.strictOk q2` (Scc/Core/TypedStrict.lean) — Core's checker `Prog.wellTyped` is weaker than
      `wtFsCheck`: it accepts (co)case clauses in any order, cuts / μ at undeclared types, a type called
      `_Cont`, two xtors of the same name in one declaration (no counterexample is formalised for this one).
    * `Core2AxCut.fsTypesOk p` (Scc/Core2AxCut/TypedSpec.lean) — type names declared as data AND codata
      (`C12Mid_disjoint_needed`), two xtors of one name in a declaration (`C12Mid_xtorsDistinct_needed`).
    * `idsBoundedCheck p` — `max_id` below an id in use (`C12Mid_idsBounded_needed`).
  Hence `C04_shrink_typed_statement` (Scc/Props/C04.lean, stated without the last two) is FALSE:
  `C04_shrink_typed_statement_false`.

  THE LINKS.  `C12_link_fun2core` gives `Input q2 ∧ typesDisjoint q2`; `strictOk q2` is one more fact about
  the output of fun2core, stated as the link `C12_link_fun2core_strict` (decidable content: `q2.strictOk`,
  true on every corpus program; it is a statement about fun2core, not about the middle passes).  Then
        `C12_link_focus_proved  : C12_link_fun2core → C12_link_fun2core_strict → C12_link_focus`
        `C12_link_shrink_proved : C12_link_fun2core → C12_link_fun2core_strict → C12_link_shrink`
        `C12_chain_mid`         : C12 from the fun2core links and the code-generator link alone.
  NOTE (Scc/Props/C12Fun2Core.lean, C12Fun2CoreStrict.lean): over ARBITRARY ASTs both
  `C12_link_fun2core` and `C12_link_fun2core_strict` are false (`C12_link_fun2core_false`: a variable named
  `ς`; `C12_link_fun2core_strict_false`: a data type named `_Cont` — `programNamesOk` accepts both names,
  the real lexer neither), so the conditional theorems `C12_link_*_proved` / `C12_chain_mid` below cannot
  be instantiated as they stand.  The UNCONDITIONAL content of this file is `C12_mid_typed` (per C03 input
  `q2`) and `C12_linkChecks_of_midChecks` (per program); `C12Fun2CoreStrict.lean` composes `C12_mid_typed`
  with the proved fun2core facts (extra premises `C02_noSigmaNames`, `C12_noContType`) into
  `C12_S1_S5_proved` / `C12_chain_codegen_only`.
  Per program: `C12_midChecks p'` (stages succeed; S2 is `Input`, `typesDisjoint`, `strictOk`) implies
  `C12_linkChecks p'` — the S3 / S4 conjuncts of `C12_linkChecks` are derived, not evaluated.
-/
import Scc.Props.C12
import Scc.Core.TypedFocusProg
import Scc.Core2AxCut.TypedProg

namespace Scc.Props

open Scc.Pipeline Scc.Core2AxCut
open Scc.Fun.Check (checkProgram programNamesOk)

/-! ## (b) shrinking preserves typing -/

/-- **C04-T1 / C12, proved**: shrinking preserves typing; the output is well-formed non-linear AxCut -/
theorem C04_shrink_typed (p : Core.FsProg) (q : AxCut.Prog)
    (hwt : wtFsScopedCheck p = true) (hu : uniqueIdsCheck p = true) (hb : idsBoundedCheck p = true)
    (hty : fsTypesOk p = true) (h : shrinkProg p = .ok q) :
    AxCut.Named.wtAxCheck q = .ok () ∧ AxCut.WfNonLinear q ∧ AxCut.Named.WTax q :=
  ⟨Typed.shrinkProg_wtAxCheck hwt hu hb hty h, Typed.shrinkProg_wfNonLinear hwt hu hb hty h,
    C04_wtAxCheck_sound q (Typed.shrinkProg_wtAxCheck hwt hu hb hty h)⟩

/-- every definition of the output — images of source definitions and LIFTED definitions alike — has
    duplicate-free parameters `≤ max_id` and a body typed under exactly these parameters -/
theorem C04_shrink_defs_typed (p : Core.FsProg) (q : AxCut.Prog)
    (hwt : wtFsScopedCheck p = true) (hu : uniqueIdsCheck p = true) (hb : idsBoundedCheck p = true)
    (hty : fsTypesOk p = true) (h : shrinkProg p = .ok q) :
    ∀ d ∈ q.defs, Typed.WfDef q.types q.sigs q.maxId d :=
  Typed.shrinkProg_wf hwt hu hb hty h

/-! ### non-vacuity and necessity of the side conditions -/

namespace C12MidExample

def tT : Core.Ty := .decl ⟨"T", 0⟩
def v1 : Core.Ident := ⟨"v", 1⟩
def k2 : Core.Ident := ⟨"k", 2⟩

/-- `T` is declared as data type (`A`) and as codata type (`B`); `⟨v | B()⟩` is shape-typed (Core takes `T`
    for a codata type) but the AxCut lookup of `T` finds the data declaration -/
def progTwice : Core.FsProg :=
  ⟨[⟨⟨"main", 0⟩, [⟨v1, .prd, tT⟩], .cut tT (.var .prd v1 tT) (.xtor .cns ⟨"B", 0⟩ [] tT)⟩],
   [⟨⟨"T", 0⟩, [⟨⟨"A", 0⟩, []⟩]⟩], [⟨⟨"T", 0⟩, [⟨⟨"B", 0⟩, []⟩]⟩], 2⟩

/-- two constructors called `A`: the eta-expansion clause of the second is checked against the first -/
def progDupXtor : Core.FsProg :=
  ⟨[⟨⟨"main", 0⟩, [⟨v1, .prd, tT⟩, ⟨k2, .cns, tT⟩], .cut tT (.var .prd v1 tT) (.var .cns k2 tT)⟩],
   [⟨⟨"T", 0⟩, [⟨⟨"A", 0⟩, [⟨⟨"x", 0⟩, .prd, .i64⟩]⟩, ⟨⟨"A", 0⟩, []⟩]⟩], [], 2⟩

/-- `max_id = 0` although the id 1 is in use: the fresh variable `x_1` of `shrink_literal_var` shadows `k_1` -/
def progLowMax : Core.FsProg :=
  ⟨[⟨⟨"main", 0⟩, [⟨⟨"k", 1⟩, .cns, .i64⟩], .cut .i64 (.lit 5) (.var .cns ⟨"k", 1⟩ .i64)⟩], [], [], 0⟩

def axOk (p : Core.FsProg) : Option Bool := (shrinkProg p).toOption.map fun q => C12_isOk (AxCut.Named.wtAxCheck q)

end C12MidExample

open C12MidExample in
/-- without "no name is both data and codata": all other hypotheses hold, the output is ill-typed -/
theorem C12Mid_disjoint_needed :
    wtFsScopedCheck progTwice = true ∧ uniqueIdsCheck progTwice = true ∧ idsBoundedCheck progTwice = true ∧
    (progTwice.dataTypes ++ progTwice.codataTypes).all xtorsDistinct = true ∧
    fsTypesDisjoint progTwice = false ∧ axOk progTwice = some false := by decide

open C12MidExample in
/-- without "xtor names of a declaration are distinct" -/
theorem C12Mid_xtorsDistinct_needed :
    wtFsScopedCheck progDupXtor = true ∧ uniqueIdsCheck progDupXtor = true ∧
    idsBoundedCheck progDupXtor = true ∧ fsTypesDisjoint progDupXtor = true ∧
    (progDupXtor.dataTypes ++ progDupXtor.codataTypes).all xtorsDistinct = false ∧
    axOk progDupXtor = some false := by decide

open C12MidExample in
/-- without `idsBoundedCheck` -/
theorem C12Mid_idsBounded_needed :
    wtFsScopedCheck progLowMax = true ∧ uniqueIdsCheck progLowMax = true ∧ fsTypesOk progLowMax = true ∧
    idsBoundedCheck progLowMax = false ∧ axOk progLowMax = some false := by decide

-- the hypotheses of `C04_shrink_typed` on the example of Props/C04 (a critical pair whose expanded side is
-- LIFTED to a new definition): all hold, and the conclusion evaluates to true
example : wtFsScopedCheck C04Example.prog = true ∧ uniqueIdsCheck C04Example.prog = true ∧
    idsBoundedCheck C04Example.prog = true ∧ fsTypesOk C04Example.prog = true ∧
    C12MidExample.axOk C04Example.prog = some true ∧
    (shrinkProg C04Example.prog).toOption.map (fun q => (q.defs.length, AxCut.wfNonLinearCheck q)) =
      some (2, true) := by decide

/-- `C04_shrink_typed_statement` (Props/C04: no `idsBoundedCheck`, no `fsTypesOk`) is false -/
theorem C04_shrink_typed_statement_false : ¬ C04_shrink_typed_statement := by
  intro hfull
  have hc := C12Mid_idsBounded_needed
  obtain ⟨h1, h2, _, _, h5⟩ := hc
  simp only [C12MidExample.axOk] at h5
  cases hq : shrinkProg C12MidExample.progLowMax with
  | error e => rw [hq] at h5; simp [Except.toOption] at h5
  | ok q =>
    rw [hq] at h5
    have hw := hfull _ q h1 h2 hq
    -- `WTax q` contradicts the checker?  the checker is only known to be SOUND, so invert the derivation
    have hq' : q = ⟨[⟨⟨"main", 0⟩, [⟨⟨"k", 1⟩, .cns, contTy⟩],
        .lit ⟨"x", 1⟩ 5 (.invoke ⟨"k", 1⟩ ⟨"Ret", 0⟩ contTy [⟨⟨"x", 1⟩, .ext, .i64⟩]) none⟩],
        q.types, q.maxId⟩ := by
      have : shrinkProg C12MidExample.progLowMax = .ok ⟨[⟨⟨"main", 0⟩, [⟨⟨"k", 1⟩, .cns, contTy⟩],
        .lit ⟨"x", 1⟩ 5 (.invoke ⟨"k", 1⟩ ⟨"Ret", 0⟩ contTy [⟨⟨"x", 1⟩, .ext, .i64⟩]) none⟩],
        [shrinkDeclaration [] contInt], 1⟩ := by rfl
      rw [this] at hq
      injection hq with hq
      subst hq
      rfl
    have hd := hw ⟨⟨"main", 0⟩, [⟨⟨"k", 1⟩, .cns, contTy⟩],
        .lit ⟨"x", 1⟩ 5 (.invoke ⟨"k", 1⟩ ⟨"Ret", 0⟩ contTy [⟨⟨"x", 1⟩, .ext, .i64⟩]) none⟩
        (by rw [hq']; simp)
    cases hd with
    | lit hn =>
      cases hn with
      | invoke hl _ _ _ => simp [AxCut.Named.lookupB] at hl

/-! ## (a) uniquify + focus preserve typing -/

/-- **uniquify + focus preserve typing** for every input of C03 with disjoint type names and `strictOk` -/
theorem C12_focus_typed (q2 : Core.Prog) (hin : Input q2) (hd : typesDisjoint q2 = true)
    (hs : q2.strictOk = true) : wtFsScopedCheck (Core.focusProg q2) = true :=
  Core.focusProg_wtFsScoped q2 hin.typed hin.bindersZero hin.occsOld hd hs

/-- one more fact about the output of fun2core (decidable content: `q2.strictOk`): clauses in declaration
    order, cut / μ types declared, no type `_Cont`, xtor names of a declaration distinct.  Refuted as stated
    (`C12_link_fun2core_strict_false`, Props/C12Fun2CoreStrict.lean: a type called `_Cont`); proved without such a
    type: `C12_link_fun2core_strict_proved`. -/
def C12_link_fun2core_strict : Prop :=
  ∀ (p : Fun.Program) (p' : Fun.CheckedProgram) (q2 : Core.Prog),
    programNamesOk p = true → checkProgram p = .ok p' → validMain p' = true →
    Fun.noMainCall p' = true → Fun2Core.compileProg p' = .ok q2 → q2.strictOk = true

theorem focusProg_dataTypes (q2 : Core.Prog) : (Core.focusProg q2).dataTypes = q2.dataTypes := rfl
theorem focusProg_codataTypes (q2 : Core.Prog) : (Core.focusProg q2).codataTypes = q2.codataTypes := rfl

/-- the side condition of (b) on the types of `focusProg q2`, from the facts about `q2` -/
theorem fsTypesOk_focusProg {q2 : Core.Prog} (hd : typesDisjoint q2 = true) (hs : q2.strictOk = true) :
    fsTypesOk (Core.focusProg q2) = true := by
  simp only [Core.Prog.strictOk, Bool.and_eq_true, List.all_eq_true] at hs
  simp only [fsTypesOk, fsTypesDisjoint, focusProg_dataTypes, focusProg_codataTypes, Bool.and_eq_true,
    List.all_eq_true, List.mem_append]
  refine ⟨?_, ?_⟩
  · simpa only [typesDisjoint, List.all_eq_true] using hd
  · rintro d (hd' | hd')
    · exact hs.1.1.2 d hd'
    · exact hs.1.2 d hd'

/-- everything the middle passes guarantee for one C03 input `q2` -/
theorem C12_mid_typed (q2 : Core.Prog) (hin : Input q2) (hd : typesDisjoint q2 = true)
    (hs : q2.strictOk = true) :
    wtFsScopedCheck (Core.focusProg q2) = true ∧
    ∀ q4, shrinkProg (Core.focusProg q2) = .ok q4 →
      AxCut.Named.wtAxCheck q4 = .ok () ∧ AxCut.WfNonLinear q4 := by
  have h3 := C12_focus_typed q2 hin hd hs
  refine ⟨h3, fun q4 e4 => ?_⟩
  have hglob : ∀ d ∈ (Core.focusProg q2).defs, Core.UniqueBindersGlobal (Core.focusProg q2).maxId d :=
    fun d hd' => (C03_unique_binders_global q2 hin.bindersZero hin.occsOld d hd').1
  obtain ⟨a, b, _⟩ := C04_shrink_typed _ q4 h3 (uniqueIdsCheck_of_global hglob)
    (idsBoundedCheck_of_global hglob) (fsTypesOk_focusProg hd hs) e4
  exact ⟨a, b⟩

/-- **`C12_link_focus` is a theorem** (given the facts about the output of fun2core) -/
theorem C12_link_focus_proved (h2 : C12_link_fun2core) (h2s : C12_link_fun2core_strict) : C12_link_focus := by
  intro p p' q2 hn hc hv hmc e2
  obtain ⟨q2', e2', hin, hd⟩ := h2 p p' hn hc hv hmc
  rw [e2] at e2'
  injection e2' with e2'
  subst e2'
  exact (C12_mid_typed q2 hin hd (h2s p p' q2 hn hc hv hmc e2)).1

/-- **`C12_link_shrink` is a theorem** (given the facts about the output of fun2core) -/
theorem C12_link_shrink_proved (h2 : C12_link_fun2core) (h2s : C12_link_fun2core_strict) : C12_link_shrink := by
  intro p p' q2 q4 hn hc hv hmc e2 e4
  obtain ⟨q2', e2', hin, hd⟩ := h2 p p' hn hc hv hmc
  rw [e2] at e2'
  injection e2' with e2'
  subst e2'
  exact (C12_mid_typed q2 hin hd (h2s p p' q2 hn hc hv hmc e2)).2 q4 e4

theorem C12_chain_mid (h2 : C12_link_fun2core) (h2s : C12_link_fun2core_strict) (h6 : C12_link_codegen) :
    C12_statement :=
  C12_chain h2 (C12_link_focus_proved h2 h2s) (C12_link_shrink_proved h2 h2s) h6

/-- the decidable facts about ONE compilation that are not theorems after this file: the middle end
    succeeds and S2 is an `Input` of C03 with disjoint type names satisfying `strictOk` -/
def C12_midChecks (p' : Fun.CheckedProgram) : Bool :=
  match stages p' with
  | .ok st => C12_inputB st.s2 && typesDisjoint st.s2 && st.s2.strictOk
  | .error _ => false

/-- the S3 / S4 conjuncts of `C12_linkChecks` are derived -/
theorem C12_linkChecks_of_midChecks (p' : Fun.CheckedProgram) (h : C12_midChecks p' = true) :
    C12_linkChecks p' = true := by
  unfold C12_midChecks at h
  cases hs : stages p' with
  | error e => rw [hs] at h; cases h
  | ok st =>
    rw [hs] at h
    simp only [Bool.and_eq_true] at h
    obtain ⟨⟨hi, hd⟩, hst⟩ := h
    have hin := C12_inputB_sound hi
    obtain ⟨_, e3, e4, _⟩ := stages_ok_iff.1 hs
    obtain ⟨_, e3'⟩ := focusProgE_ok_iff.1 e3
    obtain ⟨m1, m2⟩ := C12_mid_typed st.s2 hin hd hst
    rw [← e3'] at m1 m2
    obtain ⟨a, b⟩ := m2 st.s4 e4
    refine C12_linkChecks_iff.2 ⟨st, hs, ?_⟩
    simp only [C12_stageChecks, Bool.and_eq_true]
    exact ⟨⟨⟨hi, m1⟩, by rw [a]; rfl⟩, (AxCut.wfNonLinearCheck_iff st.s4).2 b⟩

/-- the example program of Props/C12 passes `C12_midChecks` (so the hypotheses of the link theorems are
    satisfiable on a real pipeline program: polymorphic data type, recursion, `case`, `let`, a call):
    `C12_example_midChecks` in Props/C12Examples.lean -/
def C12_exMid (src : String) : Bool :=
  match frontEnd src with
  | .ok _ p' => C12_midChecks p'
  | _ => false

#print axioms C04_shrink_typed
#print axioms C04_shrink_defs_typed
#print axioms C12Mid_disjoint_needed
#print axioms C12Mid_xtorsDistinct_needed
#print axioms C12Mid_idsBounded_needed
#print axioms C04_shrink_typed_statement_false
#print axioms C12_focus_typed
#print axioms C12_mid_typed
#print axioms C12_link_focus_proved
#print axioms C12_link_shrink_proved
#print axioms C12_chain_mid
#print axioms C12_linkChecks_of_midChecks

end Scc.Props

#print axioms Scc.Props.focusProg_dataTypes
#print axioms Scc.Props.focusProg_codataTypes
#print axioms Scc.Props.fsTypesOk_focusProg
