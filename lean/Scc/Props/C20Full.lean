/-
  C20 at full strength for the CURRENT sources.  Compiles only if checks/regen.py found that io.c
  computes the magnitude without signed overflow and that the generated driver converts arguments
  with a 64-bit conversion; otherwise the check searches for a failing value.
-/
import Scc.Props.C20Cur

namespace Scc.Props
open Scc.Runtime Scc.Generated

/-- io.c computes the magnitude without signed overflow (generated fact). -/
theorem C20_neg_style_safe : negStyle = .unsignedMag := by decide

/-- the generated driver converts arguments with full 64-bit range (generated fact). -/
theorem C20_arg_conv_wide : argConv = .strtoll := by decide

theorem C20_current_full : C20_current_statement := by
  refine ⟨fun v => ?_, fun v h1 h2 => ?_⟩
  · have h := C20_print_fixed_full C20_cap_sufficient v
    simpa [printI64Cur, printlnI64Cur, C20_neg_style_safe] using h
  · have h := C20_strtoll_full v h1 h2
    simpa [argToParamCur, C20_arg_conv_wide] using h

end Scc.Props

#print axioms Scc.Props.C20_neg_style_safe
#print axioms Scc.Props.C20_arg_conv_wide
