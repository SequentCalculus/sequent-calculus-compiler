/-
  Scc.Props.C09X86 — property C09 (heap consistency) lifted from the heap MODEL (Props/C09.lean: every
  operation of `Scc.Heap.Model` preserves `Inv`) to CONCRETE x86-64 EXECUTIONS of compiled programs with
  data types, through the three-way simulation of Props/C06X86Heap.lean.

  C09 (fixed text): "At every statement boundary of every execution of generated code, on every backend,
  each heap block below the allocation frontier is in exactly one state: reachable from the live variables,
  on the immediately reusable free list, on the deferred free list, or waiting beneath a deferred block; and
  the count stored in each reachable block equals the number of references to it from live variables and
  from fields of reachable or deferred blocks, minus one. …"

  THE PREDICATE.  `HeapInvAt cfg X kinds limit` (Scc/X86/ConcInv.lean) is the predicate of the executable
  heap monitor `heapCheck` of Scc/X86/Machine.lean, on the raw machine state `X`, with the decision
  procedure `Scc.Heap.invCheckFn` replaced by the invariant it decides (`Scc.Heap.InvW`, Scc/Heap/Inv.lean:
  clauses (i)–(vi) = the property text): memory = the machine's heap words, list heads = the registers
  HEAP (rbx) and FREE (rbp), roots = the first temporaries (registers 4..15, then spill slots) of the
  non-`ext` variables listed by the `#ctx` hook, READ AS THE MONITOR READS THEM (`readLoc (tempLoc …)`, so
  they are defined), region `[heapBase, limit)`.

  THE STATEMENT BOUNDARIES.  `BoundaryOf p hooks routine ops cfg st X`: the machine state `X` is related by
  the three-way relation `Rel3` (Scc/X86/RefHeapRun.lean; for a frame of the machine configuration) to the
  state `st` of the AxCut positional machine: the program counter is at the code the generator emits for
  the statement `st.stmt` in the context `st.ctx` (with hooks: at its `#ctx` comment).  `BChain`: the
  machine passes through such states IN ORDER, by `stepN` (no fault in between) — the "k-th big step" of the
  run (`Track.run`, Scc/Backend/Track.lean).

  PROVED (no `sorry`; axioms propext, Classical.choice, Quot.sound):
  * `C09_x86_boundary`      EVERY machine state related by `Rel3` to a positional state satisfies
                            `HeapInvAt` for the kinds of that state's context and `limit = heapBase +
                            heapBytes` (`HeapRel` ∘ `HRef.conc` ∘ agreement of the roots up to null).
  * `C09_x86_data_programs` under the hypotheses of `C06_data_programs` (programs with data types, no
                            closures; a terminating run of the positional machine): the machine, started at
                            `asm_main` on the items of the emitted routine, passes through a boundary state
                            for EVERY state `statesOf p fuel st0` of the positional run, in order, and each
                            of them satisfies `HeapInvAt`.  The heap-monitor flag of `cfg` is arbitrary
                            (`stepN` does not run the monitor).
  * `C09_x86_reachable`     the same for every `Reachable` state of the positional machine.
  * `C09_x86_every_prefix`  NO TERMINATION HYPOTHESIS: for ANY number `fuel` of steps of the positional
                            machine (a prefix of a possibly non-terminating run) the machine passes through
                            a boundary state for every state of the prefix and the invariant holds at each;
                            room hypothesis: the footprint bound of C10 (Props/C10X86.lean: `PeakAtMost Pk`
                            and `64·(Pk + A + 2) ≤ heapBytes`, `A = progMaxLet p`; with `Pk = A·fuel + 1`
                            the peak hypothesis is trivial: `C10_peak_trivial`).
  * `C09_x86_every_prefix_data`  the same with the room hypothesis stated on the SOURCE PROGRAM: `valsFields st.env ≤
                            D` for every reachable state of the positional machine (the object values held by
                            the variables have at most `D` fields) and `64·(D + A + 2) ≤ heapBytes` — no
                            hypothesis about the machine's run.  EXAMPLE `C09_boxLoop_every_boundary`: the box
                            loop of Props/C13X86Data.lean, which does not terminate: for EVERY `k` the machine
                            reaches the boundary of each of the first `k` steps and the invariant holds there.
  * `C09_x86_window`        `InvW` is monotone in the limit down to `frontier + 64`: so `HeapInvAt` holds for
                            the monitor's own limit `min (heapBase + heapBytes) (heapBase + maxHeapWritten +
                            512)` as soon as `frontier + 64 ≤ heapBase + maxHeapWritten + 512`.
  * `C09_invCheckFn_complete`  THE CHECKER IS COMPLETE (its soundness is `invCheckFn_sound`,
                            Scc/Heap/ProofsCheck.lean): on every memory that satisfies `InvW`, `Scc.Heap.invCheckFn`
                            succeeds and returns the witnesses (the live blocks in the order of its depth-first
                            traversal).  Backend independent: the monitors of all three machine models DECIDE
                            the invariant.  (Scc/Heap/ProofsCheckDfs.lean: the traversal against a rank on the
                            acyclic live blocks; Scc/Heap/ProofsCheckComplete.lean.)
  * `C09_x86_heapCheck_boundary`  hence THE EXECUTABLE CHECK `heapCheck cfg X (ctxKinds st.ctx)` of the machine
                            model RETURNS `.ok (number of blocks below the frontier)` at every statement-
                            boundary state `X` whose frontier lies inside the monitor's window.
  * `C09_parseCtx_hook`, `C09_x86_monitor_boundary`  THE MONITOR ITSELF AT A STATEMENT BOUNDARY (hooks on, on the
                            items of the routine): the item at the program counter is the `#ctx` comment of the
                            boundary's context (`post_first_hook`), the monitor's parser reads the kinds back
                            from it (printer/parser round trip of `ctxHookComment`, for variable names without
                            blanks), and `monitor cfg px X = .ok (some (blocks below the frontier))` inside the
                            window — it does not fire there.
  `C09_x86_monitor_statement` (a `def : Prop`) is the property in terms of the executable monitor with NO side
  hypothesis: "for every compiled program the run with `cfg.heap = true` never ends in an `inv:` result".  It is not
  proved in that generality.  What is proved of it:
  * programs with closures, terminating or not: Props/C09X86All.lean (`C09_x86_programs`,
    `C09_x86_every_prefix_all`, `C09_x86_monitor_boundary_all`), the counterparts of the theorems of this file;
  * the monitor on whole runs: `C09_x86_monitor_never_fires` (Props/C09X86Mon.lean) — the run never ends in an `inv:`
    result, the states strictly between two boundaries included (none of them is at a `#ctx` comment) — under the
    hypotheses of `C06_programs_text`, a room hypothesis, and two hypotheses about the run:
    - the monitor's window: it checks `InvW` for the limit `min (heapBase + heapBytes) (heapBase + maxHeapWritten +
      512)`, which needs `frontier + 64 ≤ heapBase + maxHeapWritten + 512`, a fact about the WRITE HISTORY
      (`maxHeapWritten` counts stores, `HeapRel` sees values: a block that was written with zeros is invisible to it)
      that the memory contracts do not track;
    - the hook at the program counter parses to the kinds of the positional state's context.
    Both are discharged for programs that hold at most 6 fields of data and whose hooks list at most one variable
    (`C09_x86_monitor_never_fires_closed`).
-/
import Scc.X86.ConcC10
import Scc.X86.ConcCheck
import Scc.X86.ConcHook
import Scc.X86.ConcDataRun
import Scc.Props.C13X86Data
import Scc.Props.C06X86Heap

namespace Scc.X86
open Scc.AxCut Scc.Backend Scc.X86.Ref Scc.X86.Conc
open Scc.Heap (InvW)
open Scc.Props.C06Generic (Reachable CodeFits statesOf stopsWithin reachable_mem_statesOf)
open Scc.Props.C14Generic (LabelSafe)

/-- C09 on x86-64, in terms of the executable monitor: for every compiled program (built with the
statement-boundary hooks), all arguments, all fuel, the run of the SPEC machine with the heap monitor ON
never ends in a report of the heap monitor.  Not proved, and for `items` that agree with the routine only up to
the text of comments presumably false (a `#ctx […]` text in place of a plain comment inside a memory operation: see
the header of Props/C09RVAll.lean); proved for `items.map (·.1) = routine` under the hypotheses of
`C09_x86_monitor_never_fires` (Props/C09X86Mon.lean). -/
def C09_x86_monitor_statement : Prop :=
  ∀ (p : AxCut.Prog) (args : List Word) (body routine : List Code) (nargs : Nat),
    LinTypedProg p → compileX86 p true 0 = .ok (body, nargs) → intoRoutine body nargs = .ok routine →
    args.length = nargs →
    ∀ (fuel : Nat) (cfg : MonCfg), cfg.heap = true → MachOK cfg.mach →
      ∀ (items : List (Code × Nat)), (items.map (·.1)).map stripC = routine.map stripC →
      ∀ what ln, (runItems items args fuel cfg).res ≠ .invFail what ln

/-- EVERY STATEMENT BOUNDARY: a machine state related by the three-way relation `Rel3` to a state of the
positional machine satisfies the heap monitor's predicate — each block below the frontier is in exactly one
of the four states (`nodup`, `cover`), stored count + 1 = number of references (`counts`), … — for the
roots the monitor reads from the first temporaries of the non-`ext` variables of that state's context. -/
theorem C09_x86_boundary {p : AxCut.Prog} {hooks : Bool} {routine : List Code} {ops : List MockOp}
    {cfg : MonCfg} (hk : cfg.consts = consts) {st : Pos.State} {X : State}
    (B : BoundaryOf p hooks routine ops cfg st X) :
    HeapInvAt cfg X (ctxKinds st.ctx) (cfg.mach.heapBase + cfg.mach.heapBytes) :=
  heapInvAt_of_boundary hk B

/-- the invariant for a smaller region: only the room for the frontier block depends on the limit -/
theorem C09_x86_window {m : Nat → Nat} {base limit limit' heap free : Nat} {roots pend lin lazy live : List Nat}
    {F : Nat} (I : InvW m base limit heap free roots pend lin lazy live F) (h1 : limit' ≤ limit)
    (h2 : F + 64 ≤ limit') : InvW m base limit' heap free roots pend lin lazy live F :=
  Conc.invW_window I h1 h2

/-- C09 FOR CONCRETE x86-64 EXECUTIONS OF PROGRAMS WITH DATA TYPES (no closures): along a terminating run,
the machine started at `asm_main` passes — in order, without fault — through a statement-boundary state for
EVERY state of the run of the positional machine (`statesOf`), and at each of them the machine's heap
memory, HEAP, FREE and the pointer temporaries of the live variables satisfy the invariant of C09. -/
theorem C09_x86_data_programs (p : AxCut.Prog) (args : List Word) (hooks : Bool) (body routine : List Code)
    (nargs : Nat) (d0 : Def) (ops : List MockOp) (c' : Nat)
    (hsafe : LabelSafe p = true) (htp : LinTypedProg p) (hdata : DataProg p) (hrange : ProgInRange p)
    (hcompM : (compile mockSym hooks p).run 0 = .ok ((ops, nargs), c')) (hfit : CodeFits ops)
    (hcompX : compileX86 p hooks 0 = .ok (body, nargs)) (hrout : intoRoutine body nargs = .ok routine)
    (hnd : (labs routine).Nodup)
    (hd : p.defs.head? = some d0) (hentry : ∀ b ∈ d0.ctx, b.chi = .ext ∧ b.ty = .i64)
    (hcap : ∀ st, Reachable p ⟨d0.ctx, args.map .int, d0.body⟩ st → 2 * st.ctx.length ≤ 266)
    (fuel : Nat) (out : List (Bool × Word)) (v : Word) (hfuel : fuel + 1 < 2 ^ 64)
    (hrun : Pos.run p args fuel = ⟨out, .done v⟩)
    (cfg : MonCfg) (MO : MachOK cfg.mach) (hk : cfg.consts = consts)
    (hb8 : cfg.mach.heapBase % 8 = 0) (hb0 : 0 < cfg.mach.heapBase)
    (hbytes : 128 + 64 * 134 * fuel ≤ cfg.mach.heapBytes)
    (items : List (Code × Nat)) (hitems : (items.map (·.1)).map stripC = routine.map stripC)
    (hfitX : addrAt cfg.mach.codeBase routine routine.length < 2 ^ 64) :
    (mkProg cfg.mach items).labelIdx["asm_main"]? = some 6 ∧
    ∃ n0 X0, stepN cfg (mkProg cfg.mach items) n0 (initState cfg.mach args 6) = .inl X0 ∧
      BChain cfg (mkProg cfg.mach items)
        (fun st X => BoundaryOf p hooks routine ops cfg st X ∧
          HeapInvAt cfg X (ctxKinds st.ctx) (cfg.mach.heapBase + cfg.mach.heapBytes))
        (statesOf p fuel ⟨d0.ctx, args.map .int, d0.body⟩) X0 := by
  obtain ⟨hmain, n0, X0, h0, hch, _⟩ := data_programs_chain p args hooks body routine nargs d0 ops c' hsafe htp
    ⟨hrange.1, fun d hd => ⟨hdata d hd, hrange.2 d hd⟩⟩ hcompM hfit hcompX hrout hnd hd hentry hcap fuel out v
    hfuel hrun cfg MO hb8 hb0 hbytes items hitems hfitX
  exact ⟨hmain, n0, X0, h0, BChain.mono (fun st X B => ⟨B, heapInvAt_of_boundary hk B⟩) hch⟩

/-- … in particular for EVERY state the positional machine reaches: the machine's run contains a boundary
state for it, and the invariant holds there -/
theorem C09_x86_reachable (p : AxCut.Prog) (args : List Word) (hooks : Bool) (body routine : List Code)
    (nargs : Nat) (d0 : Def) (ops : List MockOp) (c' : Nat)
    (hsafe : LabelSafe p = true) (htp : LinTypedProg p) (hdata : DataProg p) (hrange : ProgInRange p)
    (hcompM : (compile mockSym hooks p).run 0 = .ok ((ops, nargs), c')) (hfit : CodeFits ops)
    (hcompX : compileX86 p hooks 0 = .ok (body, nargs)) (hrout : intoRoutine body nargs = .ok routine)
    (hnd : (labs routine).Nodup)
    (hd : p.defs.head? = some d0) (hentry : ∀ b ∈ d0.ctx, b.chi = .ext ∧ b.ty = .i64)
    (hcap : ∀ st, Reachable p ⟨d0.ctx, args.map .int, d0.body⟩ st → 2 * st.ctx.length ≤ 266)
    (fuel : Nat) (out : List (Bool × Word)) (v : Word) (hfuel : fuel + 1 < 2 ^ 64)
    (hrun : Pos.run p args fuel = ⟨out, .done v⟩)
    (cfg : MonCfg) (MO : MachOK cfg.mach) (hk : cfg.consts = consts)
    (hb8 : cfg.mach.heapBase % 8 = 0) (hb0 : 0 < cfg.mach.heapBase)
    (hbytes : 128 + 64 * 134 * fuel ≤ cfg.mach.heapBytes)
    (items : List (Code × Nat)) (hitems : (items.map (·.1)).map stripC = routine.map stripC)
    (hfitX : addrAt cfg.mach.codeBase routine routine.length < 2 ^ 64)
    (st : Pos.State) (hr : Reachable p ⟨d0.ctx, args.map .int, d0.body⟩ st) :
    ∃ n X, stepN cfg (mkProg cfg.mach items) n (initState cfg.mach args 6) = .inl X ∧
      BoundaryOf p hooks routine ops cfg st X ∧
      HeapInvAt cfg X (ctxKinds st.ctx) (cfg.mach.heapBase + cfg.mach.heapBytes) := by
  obtain ⟨hmain, n0, X0, h0, hch, hstop, _⟩ := data_programs_chain p args hooks body routine nargs d0 ops c' hsafe
    htp ⟨hrange.1, fun d hd => ⟨hdata d hd, hrange.2 d hd⟩⟩ hcompM hfit hcompX hrout hnd hd hentry hcap fuel
    out v hfuel hrun cfg MO hb8 hb0 hbytes items hitems hfitX
  obtain ⟨n, X, hn, B⟩ := BChain.prepend h0 hch st (reachable_mem_statesOf p fuel _ st hstop hr)
  exact ⟨n, X, hn, B, heapInvAt_of_boundary hk B⟩

/-- THE CHECKER OF THE HEAP MONITOR IS COMPLETE: on a memory that satisfies the invariant `InvW` (any roots,
any pending blocks) `invCheckFn` succeeds and returns the linear free list, the deferred list, the frontier
and a permutation of the live blocks.  With `invCheckFn_sound` (Scc/Heap/ProofsCheck.lean): the monitor decides the
invariant. -/
theorem C09_invCheckFn_complete {m : Nat → Nat} {base limit heap free F : Nat}
    {roots pend lin lazy live : List Nat}
    (I : InvW m base limit heap free roots pend lin lazy live F) :
    ∃ live', Scc.Heap.invCheckFn m base limit heap free roots pend = .ok (lin, lazy, live', F) ∧
      live'.Perm live :=
  Scc.Heap.invCheckFn_complete I

/-- THE EXECUTABLE HEAP CHECK SUCCEEDS AT EVERY STATEMENT BOUNDARY (inside the monitor's window): for a machine
state related by `Rel3` to a positional state, `heapCheck` — run with the kinds of that state's context, as
the `#ctx` hook lists them — returns the number of blocks below the frontier, provided the frontier block
lies within 512 bytes above the highest heap word ever stored (the region the monitor looks at). -/
theorem C09_x86_heapCheck_boundary {p : AxCut.Prog} {hooks : Bool} {routine : List Code} {ops : List MockOp}
    {cfg : MonCfg} (hk : cfg.consts = consts) {st : Pos.State} {X : State}
    (B : BoundaryOf p hooks routine ops cfg st X) :
    ∃ below inUse, HeapShapeAt cfg X below inUse ∧
      (64 * below + 64 ≤ X.maxHeapWritten + 512 → heapCheck cfg X (ctxKinds st.ctx) = .ok below) := by
  obtain ⟨roots, h, f, lin, lazy, live, F, hr, hh, hf, I⟩ := heapInvAt_of_boundary hk B
  refine ⟨(F - cfg.mach.heapBase) / 64, live.length, ⟨h, f, _, lin, lazy, live, F, hh, hf, I, rfl, rfl⟩, ?_⟩
  intro hw
  apply heapCheck_ok hr hh hf I
  have hFb := I.frontier_block
  unfold Scc.Heap.IsBlock at hFb
  omega

/-- non-vacuity of `C09_invCheckFn_complete`: the checker accepts the initial heap (one reusable block, the
frontier behind it) — by the theorem, not by evaluation -/
example : ∃ live', Scc.Heap.invCheckFn (Scc.Heap.init 4096 8192).mem.get 4096 8192 4096 (4096 + 64) [] [] =
    .ok ([4096], [], live', 4096 + 64) ∧ live'.Perm [] :=
  C09_invCheckFn_complete (Scc.Heap.init_inv (base := 4096) (limit := 8192) (by decide) (by decide))

/-- the monitor's parser reads the kinds of a context back from its hook comment (names without blanks) -/
theorem C09_parseCtx_hook (Γ : Ctx) (h : ∀ b ∈ Γ, ' ' ∉ b.var.print.toList) :
    parseCtx (ctxHookComment Γ) = some (ctxKinds Γ) := parseCtx_hook Γ h

/-- THE HEAP MONITOR DOES NOT FIRE AT A STATEMENT BOUNDARY (hooks on; `items` = the items of the routine, with
their comment texts): at a machine state related by `Rel3` to a positional state, `monitor` finds the `#ctx`
hook of that boundary at the program counter, parses its kinds and — when the frontier lies in its window —
returns the number of blocks below the frontier. -/
theorem C09_x86_monitor_boundary {p : AxCut.Prog} {routine : List Code} {ops : List MockOp}
    {cfg : MonCfg} (hk : cfg.consts = consts) {items : List (Code × Nat)} (hitems : items.map (·.1) = routine)
    (hparse : ∀ Γ, Code.COMMENT (ctxHookComment Γ) ∈ routine → parseCtx (ctxHookComment Γ) = some (ctxKinds Γ))
    {st : Pos.State} {X : State} (B : BoundaryOf p true routine ops cfg st X) :
    ∃ below inUse, HeapShapeAt cfg X below inUse ∧
      (cfg.heap = false → monitor cfg (mkProg cfg.mach items) X = .ok none) ∧
      (cfg.heap = true → 64 * below + 64 ≤ X.maxHeapWritten + 512 →
        monitor cfg (mkProg cfg.mach items) X = .ok (some below)) := by
  obtain ⟨F, cfgA, hs, hFc, R⟩ := B
  exact monitor_boundary hFc hk hitems R hparse

/-- the round trip on a concrete context (by the theorem: `parseCtx` does not reduce in the kernel) -/
example : parseCtx (ctxHookComment [⟨⟨"x", 1⟩, .ext, .i64⟩, ⟨⟨"b", 2⟩, .prd, C06_tBox⟩]) = some [false, true] :=
  C09_parseCtx_hook _ (by decide)

/-- C09 FOR EVERY PREFIX OF EVERY RUN (terminating or not) of a program with data types: for ANY number `fuel`
of steps of the positional machine, the machine started at `asm_main` passes — in order, without fault —
through a statement-boundary state for every state the positional machine goes through, and the invariant of
C09 holds at each of them.  Room: the footprint bound of C10 (`PeakAtMost`: at no boundary more than `Pk`
blocks in use; trivial for `Pk = progMaxLet p · fuel + 1`). -/
theorem C09_x86_every_prefix (p : AxCut.Prog) (args : List Word) (hooks : Bool) (body routine : List Code)
    (nargs : Nat) (d0 : Def) (ops : List MockOp) (c' : Nat)
    (hsafe : LabelSafe p = true) (htp : LinTypedProg p) (hdata : DataProg p) (hrange : ProgInRange p)
    (hcompM : (compile mockSym hooks p).run 0 = .ok ((ops, nargs), c')) (hfit : CodeFits ops)
    (hcompX : compileX86 p hooks 0 = .ok (body, nargs)) (hrout : intoRoutine body nargs = .ok routine)
    (hnd : (labs routine).Nodup)
    (hd : p.defs.head? = some d0) (hentry : ∀ b ∈ d0.ctx, b.chi = .ext ∧ b.ty = .i64)
    (hlen : d0.ctx.length = args.length)
    (hcap : ∀ st, Reachable p ⟨d0.ctx, args.map .int, d0.body⟩ st → 2 * st.ctx.length ≤ 266)
    (fuel : Nat) (hfuel : fuel + 1 < 2 ^ 64)
    (cfg : MonCfg) (MO : MachOK cfg.mach) (hk : cfg.consts = consts)
    (hb8 : cfg.mach.heapBase % 8 = 0) (hb0 : 0 < cfg.mach.heapBase)
    (Pk : Nat) (hbytes : 64 * (Pk + progMaxLet p + 2) ≤ cfg.mach.heapBytes)
    (items : List (Code × Nat)) (hitems : (items.map (·.1)).map stripC = routine.map stripC)
    (hfitX : addrAt cfg.mach.codeBase routine routine.length < 2 ^ 64)
    (hP : PeakAtMost p hooks routine ops cfg items args Pk (progMaxLet p * fuel + 1)) :
    ∃ n0 X0, stepN cfg (mkProg cfg.mach items) n0 (initState cfg.mach args 6) = .inl X0 ∧
      BChain cfg (mkProg cfg.mach items)
        (fun st X => BoundaryOf p hooks routine ops cfg st X ∧
          HeapInvAt cfg X (ctxKinds st.ctx) (cfg.mach.heapBase + cfg.mach.heapBytes))
        (statesOf p fuel ⟨d0.ctx, args.map .int, d0.body⟩) X0 := by
  obtain ⟨_, n0, X0, h0, hch⟩ := data_programs_prefix p args hooks body routine nargs d0 ops c' hsafe htp
    ⟨hrange.1, fun d hd => ⟨hdata d hd, hrange.2 d hd⟩⟩ hcompM hfit hcompX hrout hnd hd hentry hlen hcap fuel
    hfuel cfg MO hk hb8 hb0 Pk (progMaxLet p) (letLe_progMaxLet p) hbytes items hitems hfitX hP
  exact ⟨n0, X0, h0, BChain.mono (fun st X B => ⟨B.1, heapInvAt_of_boundary hk B.1⟩) hch⟩

/-- C09 FOR EVERY PREFIX OF EVERY RUN, with the room hypothesis on the SOURCE PROGRAM: if the object values held
by the variables of the positional machine never have more than `D` fields (over all reachable states), a heap
of `64·(D + A + 2)` bytes is enough, and at every statement boundary of every prefix of the run — terminating or
not — the machine's heap satisfies the invariant of C09. -/
theorem C09_x86_every_prefix_data (p : AxCut.Prog) (args : List Word) (hooks : Bool) (body routine : List Code)
    (nargs : Nat) (d0 : Def) (ops : List MockOp) (c' : Nat)
    (hsafe : LabelSafe p = true) (htp : LinTypedProg p) (hdata : DataProg p) (hrange : ProgInRange p)
    (hcompM : (compile mockSym hooks p).run 0 = .ok ((ops, nargs), c')) (hfit : CodeFits ops)
    (hcompX : compileX86 p hooks 0 = .ok (body, nargs)) (hrout : intoRoutine body nargs = .ok routine)
    (hnd : (labs routine).Nodup)
    (hd : p.defs.head? = some d0) (hentry : ∀ b ∈ d0.ctx, b.chi = .ext ∧ b.ty = .i64)
    (hlen : d0.ctx.length = args.length)
    (hcap : ∀ st, Reachable p ⟨d0.ctx, args.map .int, d0.body⟩ st → 2 * st.ctx.length ≤ 266)
    (D : Nat) (hD : ∀ st, Reachable p ⟨d0.ctx, args.map .int, d0.body⟩ st → valsFields st.env ≤ D)
    (fuel : Nat) (hfuel : fuel + 1 < 2 ^ 64)
    (cfg : MonCfg) (MO : MachOK cfg.mach) (hk : cfg.consts = consts)
    (hb8 : cfg.mach.heapBase % 8 = 0) (hb0 : 0 < cfg.mach.heapBase)
    (hbytes : 64 * (D + progMaxLet p + 2) ≤ cfg.mach.heapBytes)
    (items : List (Code × Nat)) (hitems : (items.map (·.1)).map stripC = routine.map stripC)
    (hfitX : addrAt cfg.mach.codeBase routine routine.length < 2 ^ 64) :
    ∃ n0 X0, stepN cfg (mkProg cfg.mach items) n0 (initState cfg.mach args 6) = .inl X0 ∧
      BChain cfg (mkProg cfg.mach items)
        (fun st X => BoundaryOf p hooks routine ops cfg st X ∧
          HeapInvAt cfg X (ctxKinds st.ctx) (cfg.mach.heapBase + cfg.mach.heapBytes))
        (statesOf p fuel ⟨d0.ctx, args.map .int, d0.body⟩) X0 := by
  obtain ⟨n0, X0, h0, hch⟩ := data_programs_prefix_gen p args hooks body routine nargs d0 ops c' hsafe htp
    ⟨hrange.1, fun d hd => ⟨hdata d hd, hrange.2 d hd⟩⟩ hcompM hfit hcompX hrout hnd hd hentry hlen hcap fuel
    hfuel cfg MO hb8 hb0 D (progMaxLet p) (letLe_progMaxLet p) hbytes items hitems hfitX (peakHyp_of_data hD)
  exact ⟨n0, X0, h0, BChain.mono (fun st X B => ⟨B, heapInvAt_of_boundary hk B⟩) hch⟩

/-- THE BOX LOOP (it never terminates): for EVERY number `k` of steps of the positional machine the machine on
the routine passes through a statement boundary for each of the first `k` states, and the heap invariant holds
at each of them -/
theorem C09_boxLoop_every_boundary (k : Nat) (hk : k + 1 < 2 ^ 64) :
    ∃ n0 X0, stepN {} (mkProg ({} : MachCfg) (C13_loopBoxRoutine.map fun c => (c, 0))) n0
        (initState {} [21] 6) = .inl X0 ∧
      BChain {} (mkProg ({} : MachCfg) (C13_loopBoxRoutine.map fun c => (c, 0)))
        (fun st X => BoundaryOf C13_loopBoxProg true C13_loopBoxRoutine C13_loopBoxOps {} st X ∧
          HeapInvAt {} X (ctxKinds st.ctx) (0x10000000 + 0x2000000))
        (statesOf C13_loopBoxProg k C13_loopS0) X0 := by
  obtain ⟨⟨c', hcompM⟩, hcompX, hrout⟩ := C13_loopBoxProg_compiles
  have e1 := C13_loopBox_consts.1
  exact C09_x86_every_prefix_data C13_loopBoxProg [21] true C13_loopBoxBody C13_loopBoxRoutine 1
    C13_loopBoxMain C13_loopBoxOps c'
    C13_loopBoxProg_labelSafe C13_loopBoxProg_typed C13_loopBoxProg_data C13_loopBoxProg_inRange hcompM
    C13_loopBoxOps_fits hcompX hrout C13_loopBoxRoutine_nodup rfl C13_loopBoxMain_entry rfl
    C13_loop_capacity
    1 C13_loop_dataSize
    k hk {} machOK_default rfl (by decide) (by decide) (by rw [e1]; decide)
    (C13_loopBoxRoutine.map fun c => (c, 0)) (by simp [List.map_map, Function.comp]) C13_loopBoxRoutine_fits

/-- every hypothesis of `C09_x86_data_programs` holds for the box program started with x = 21: the machine
passes through a boundary state for each state of the positional run, and the heap invariant
holds at each (the block is allocated by `let`, shared by `subst`, loaded once shared and once unique) -/
example : ∃ n0 X0, stepN {} (mkProg ({} : MachCfg) (C06_boxRoutine.map fun c => (c, 0))) n0
      (initState {} [21] 6) = .inl X0 ∧
    BChain {} (mkProg ({} : MachCfg) (C06_boxRoutine.map fun c => (c, 0)))
      (fun st X => BoundaryOf C06_boxProg true C06_boxRoutine C06_boxOps {} st X ∧
        HeapInvAt {} X (ctxKinds st.ctx) (0x10000000 + 0x2000000))
      (statesOf C06_boxProg 20 ⟨C06_boxMain.ctx, [.int 21], C06_boxMain.body⟩) X0 := by
  obtain ⟨⟨c', hcompM⟩, hcompX, hrout⟩ := C06_boxProg_compiles
  have hrun := C06_boxProg_run
  exact (C09_x86_data_programs C06_boxProg [21] true C06_boxBody C06_boxRoutine 1 C06_boxMain C06_boxOps c'
    C06_boxProg_labelSafe C06_boxProg_typed C06_boxProg_data C06_boxProg_inRange hcompM
    C06_boxOps_fits hcompX hrout C06_boxRoutine_nodup rfl C06_boxMain_entry
    C06_boxProg_capacity 20 _ _ (by decide) hrun {}
    machOK_default rfl (by decide) (by decide) (by decide)
    (C06_boxRoutine.map fun c => (c, 0)) (by simp [List.map_map, Function.comp]) C06_boxRoutine_fits).2

/-- `C09_x86_every_prefix` on the box program: the first 7 steps of the run (a proper prefix), with the
trivial peak `1·7 + 1` in the default 32 MiB heap -/
example : ∃ n0 X0, stepN {} (mkProg ({} : MachCfg) (C06_boxRoutine.map fun c => (c, 0))) n0
      (initState {} [21] 6) = .inl X0 ∧
    BChain {} (mkProg ({} : MachCfg) (C06_boxRoutine.map fun c => (c, 0)))
      (fun st X => BoundaryOf C06_boxProg true C06_boxRoutine C06_boxOps {} st X ∧
        HeapInvAt {} X (ctxKinds st.ctx) (0x10000000 + 0x2000000))
      (statesOf C06_boxProg 7 ⟨C06_boxMain.ctx, [.int 21], C06_boxMain.body⟩) X0 := by
  obtain ⟨⟨c', hcompM⟩, hcompX, hrout⟩ := C06_boxProg_compiles
  exact C09_x86_every_prefix C06_boxProg [21] true C06_boxBody C06_boxRoutine 1 C06_boxMain C06_boxOps c'
    C06_boxProg_labelSafe C06_boxProg_typed C06_boxProg_data C06_boxProg_inRange hcompM
    C06_boxOps_fits hcompX hrout C06_boxRoutine_nodup rfl C06_boxMain_entry rfl
    C06_boxProg_capacity 7 (by decide) {}
    machOK_default rfl (by decide) (by decide) (1 * 7 + 1) (by decide)
    (C06_boxRoutine.map fun c => (c, 0)) (by simp [List.map_map, Function.comp]) C06_boxRoutine_fits
    (peakAtMost_trivial _ _ _ _ _ _ _ _)

end Scc.X86

#print axioms Scc.X86.C09_x86_boundary
#print axioms Scc.X86.C09_x86_window
#print axioms Scc.X86.C09_x86_data_programs
#print axioms Scc.X86.C09_x86_reachable
#print axioms Scc.X86.C09_x86_every_prefix
#print axioms Scc.X86.C09_x86_every_prefix_data
#print axioms Scc.X86.C09_boxLoop_every_boundary
#print axioms Scc.X86.C09_invCheckFn_complete
#print axioms Scc.X86.C09_x86_heapCheck_boundary
#print axioms Scc.X86.C09_parseCtx_hook
#print axioms Scc.X86.C09_x86_monitor_boundary
