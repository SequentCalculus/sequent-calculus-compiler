/-
  Scc.Props.C01Final — property C01 (end-to-end correctness for x86-64), composed from the links as
  theorems, for source TEXTS.  (`C01_composition` of Props/C01.lean is the composition from the links as
  hypotheses, for ASTs.)

  Links used here beyond those of Props/C01.lean:
    C12  `C12_source_names`, `C12_facts_proved` (Props/C12Fun2CoreStrict.lean): for every source TEXT that
         parser and checker accept, with a valid `main` that is not called, the middle end succeeds and
         every fact `C12_Facts` about its stages holds — so the decidable hypothesis `C01_linkChecks` of
         `C01_statement` (the executable stand-in for the typing links of C12) does not appear;
    C12  `Backend.Total.mock_compile_ok` (Scc/Backend/TotalMock.lean): the mock code generator of
         Theorem A succeeds on every linearly typed program — derived, not evaluated;
    C14  `C14_routine_loads` (Props/C14Loader.lean): the emitted text is read back by the machine's parser,
         from the range check and the NAMES check — no run of the parser;
    C06  `X86.C06_data_programs` (Props/C06X86Heap.lean): Theorem A ∘ Theorem B with the heap, for programs
         without closures;
    C02  `C01_fun2core_sem_frag` (Props/C01.lean, from `C02_sem_forward_link` of Props/C02Sem.lean): fun2core on
         `fragOk`.

  THE STATEMENTS
  * `C01_conclusionH p'`   the conclusion of C01 for one program, HEAP VERSION.  Like `C01_conclusion`
        (Props/C01.lean) — the middle end succeeds; `nargs = mainArity`; for every run of the source
        semantics `srcRun p' args n = ⟨t, done v⟩`: `args.length = nargs`, the x86-64 machine on the emitted
        TEXT produces trace `t` and result `v`, and the linked binary (`nativeRun`, C20) writes the decimal
        rendering of `t` and exits with `v mod 256` — but with the machines and the heap bound EXPLICIT:
        there is a number `n5` of steps of the positional AxCut machine on S5 (`Pos.run st.s5 args n5 =
        ⟨t, done v⟩`) such that the above holds on EVERY machine configuration `cfg` with
        `C01_DataMach cfg` (sane: `MachOK`; heap monitor off; `heapBase` positive and 8-aligned; `codeBase ≤
        2^63`) and `128 + 64·134·n5 ≤ cfg.mach.heapBytes` (the bound of `C06_data_programs`).
        `C01_conclusionH_onMachines`: hence the `C01_onDataMachines` form "there is a heap size such that
        on every such machine with AT LEAST that heap …".  The default configuration `{}` is a `C01_DataMach`.
  * `C01_data_fragment`    **END TO END, NO HYPOTHESIS LEFT** beyond ONE decidable predicate: for every source
        text accepted by parser and checker with a valid `main` and `C01_dataChecks p' = true`
        (Props/C01DataChecks.lean: fun2core's fragment `fragOk ∧ coreClosed`; S5 has no `create`/`invoke`;
        `C01_backChecks`), `C01_conclusionH p'`.  `noMainCall` is part of `fragOk`.
        (`C01_data_fragment_ast`: the same for ASTs, with `programNamesOk` and `C12_noContType`.)
        What is DERIVED rather than assumed: every typing fact of the stages (`C12_Facts`, incl.
        `LinTypedProg S5`), success of the middle end, success of the mock generator and equality of its
        argument count, `CodeFits` from the length check, the entry facts, the capacity of every reachable
        context from `progCap ≤ 133`, `TextLoads` from range + names, `fuel + 1 < 2^64` and the code-address
        bound from the machine configuration.
        `C01_backChecks` evaluates both code generators on the program.  `C01_backChecksStatic` is the
        predicate that does not: `LabelSafe` (necessary: C14 collisions), text-safe names (not proved that
        every accepted program has them at S5), `progCap ≤ 133`, range, and ONE bound on the size of S5
        (genuine capacity conditions).  `C01_backChecks_of_static` derives `C01_backChecks` from it: the
        labels of the x86-64 routine are pairwise distinct by `X86.Ref.labels_unique_x86` (from `LabelSafe`),
        and the lengths of the mock code and of the routine follow from the size of S5.
        `C01_data_from_core`: the same conclusion from the Core program on, for any source program whose
        linearized program has no closures.
  * THE FULL STATEMENT, from two links stated here as `def … : Prop` and taken as hypotheses (their proofs
    import more than this file does; Props/C01End.lean proves both, `C01_gap_x86_holds` and
    `C01_gap_fun2core_holds`, and concludes `C01_end_to_end : C01_statement_final`; "gap" in their names
    means: a hypothesis of THIS file):
      `C01_gap_x86`        = `C01_x86_heap_statement (fun _ => True)`: `X86.C06_data_programs` WITHOUT the
                             hypothesis `DataProg` (closures on x86-64; it is `X86.C06_programs`,
                             Props/C06X86Full.lean).
                             `C01_x86_heap_data : C01_x86_heap_statement X86.DataProg` is the instance
                             without closures.
      `C01_gap_fun2core`   fun2core beyond `fragOk`: clause 1 of `C02_sem_full_statement` (results only)
                             for sequenced accepted programs with a valid `main` that is not called, no
                             name `ς`, no type `_Cont`, arguments as many as `main` has parameters.
                             `C01_gap_fun2core_of_full`: it follows from `C02_sem_full_statement`
                             (proved in Props/C02SemFull.lean).
      `C01_statement_final`  for EVERY source text accepted by parser and checker with a valid `main` that
                             is not called and `C01_backChecks p' = true`: `C01_conclusionH p'`.
      `C01_final_of (hx : C01_gap_x86) (hc : C01_gap_fun2core) : C01_statement_final`.
      With one of the two only: `C01_frag_of_x86` (fun2core's fragment, closures allowed in S5) and
      `C01_data_of_fun2core` (any sequenced program whose S5 has no closures).
        Differences between `C01_statement_final` and `C01_statement` (Props/C01.lean): source text instead
        of an AST with `programNamesOk` (an AST may contain the names `ς` / `_Cont`, on which fun2core is
        wrong at specification level: `C12_link_fun2core_false`); no `C01_linkChecks` (theorem);
        `C01_labelSafe` kept inside `C01_backChecks` together with the capacity / range / names / size
        conditions of Theorem B; machines: `C01_DataMach` with at least the heap bound instead of `MachOK`
        with exactly some heap size (alignment and positivity of `heapBase` are needed by the memory
        contracts of C09/C10).
  * FINDING (why the non-vacuity witness has no recursion): `C01_dataChecks` FAILS on every program in
    which `main` calls another definition: fun2core gives every definition but `main` a continuation
    parameter of the codata type `_Cont`, so S5 has a `create` at the call in `main` and an `invoke` at
    every return (`C01_recursion_needs_closures`: the tail-recursive list sum passes `C01_fragChecks` and
    `C01_backChecks` and fails `C01_dataProgB` only).  Recursion at source level therefore needs
    `C01_gap_x86`.  Not a defect of /repo.  The data fragment covers `main`-only programs: integers, data
    types, `let`, nested `case` with shared (lifted) continuations — `C01F_exSrc`.
-/
import Scc.Props.C01
import Scc.Props.C01DataChecks
import Scc.Props.C02SemSafe
import Scc.Props.C06X86Heap
import Scc.Props.C14Loader
import Scc.Props.C12Fun2CoreStrict
import Scc.Props.C12Codegen
import Scc.Backend.TotalMock

namespace Scc.Props

open Scc.Pipeline
open Scc.Fun.Check (checkProgram programNamesOk)
open Scc.Props.C14Generic (LabelSafe)

mutual
  theorem C01_dataStmtB_sound : ∀ s : AxCut.Stmt, C01_dataStmtB s = true → X86.Ref.DataStmt s
    | .lit _ _ next _, h => by
      simp only [C01_dataStmtB] at h; simp only [X86.Ref.DataStmt]; exact C01_dataStmtB_sound next h
    | .op _ _ _ _ next _, h => by
      simp only [C01_dataStmtB] at h; simp only [X86.Ref.DataStmt]; exact C01_dataStmtB_sound next h
    | .print _ _ next _, h => by
      simp only [C01_dataStmtB] at h; simp only [X86.Ref.DataStmt]; exact C01_dataStmtB_sound next h
    | .ifc _ _ _ t e, h => by
      simp only [C01_dataStmtB, Bool.and_eq_true] at h
      simp only [X86.Ref.DataStmt]
      exact ⟨C01_dataStmtB_sound t h.1, C01_dataStmtB_sound e h.2⟩
    | .exit _, _ => by simp [X86.Ref.DataStmt]
    | .call _ _, _ => by simp [X86.Ref.DataStmt]
    | .subst _ next, h => by
      simp only [C01_dataStmtB] at h; simp only [X86.Ref.DataStmt]; exact C01_dataStmtB_sound next h
    | .letS _ _ _ _ next _, h => by
      simp only [C01_dataStmtB] at h; simp only [X86.Ref.DataStmt]; exact C01_dataStmtB_sound next h
    | .switch _ _ cl _, h => by
      simp only [C01_dataStmtB] at h; simp only [X86.Ref.DataStmt]; exact C01_dataClausesB_sound cl h
    | .create _ _ _ _ _ _ _, h => by simp [C01_dataStmtB] at h
    | .invoke _ _ _ _, h => by simp [C01_dataStmtB] at h
  theorem C01_dataClausesB_sound : ∀ cl : AxCut.Clauses, C01_dataClausesB cl = true →
      X86.Ref.DataClauses cl
    | .nil, _ => by simp [X86.Ref.DataClauses]
    | .cons _ _ body rest, h => by
      simp only [C01_dataClausesB, Bool.and_eq_true] at h
      simp only [X86.Ref.DataClauses]
      exact ⟨C01_dataStmtB_sound body h.1, C01_dataClausesB_sound rest h.2⟩
end

theorem C01_dataProgB_sound {q : AxCut.Prog} (h : C01_dataProgB q = true) : X86.DataProg q := by
  simp only [C01_dataProgB, List.all_eq_true] at h
  exact fun d hd => C01_dataStmtB_sound d.body (h d hd)

theorem C01_okc_eq : C01_okc = X86.Loader.okcX := by
  funext c
  rfl

theorem C01_namesTextSafe_eq (q : AxCut.Prog) : C01_namesTextSafe q = X86.C14_namesTextSafe q := by
  unfold C01_namesTextSafe X86.C14_namesTextSafe
  rw [C01_okc_eq]

theorem C01_labsB_eq (cs : List X86.Code) : C01_labsB cs = X86.Ref.labs cs := rfl

theorem C01_addrAt_end (base : Nat) (cs : List X86.Code) :
    X86.Ref.addrAt base cs cs.length = base + C01_routineBytes cs := by
  simp [X86.Ref.addrAt, C01_routineBytes]

/-- `X86.C06_data_programs` (Props/C06X86Heap.lean) with the hypothesis `DataProg p` replaced by `Q p`:
    Theorem A ∘ Theorem B on the ITEMS of the emitted routine, for the programs of the class `Q`. -/
def C01_x86_heap_statement (Q : AxCut.Prog → Prop) : Prop :=
  ∀ (p : AxCut.Prog) (args : List Word) (hooks : Bool) (body routine : List X86.Code)
    (nargs : Nat) (d0 : AxCut.Def) (ops : List Backend.MockOp) (c' : Nat),
    LabelSafe p = true → AxCut.LinTypedProg p → Q p → X86.ProgInRange p →
    (Backend.compile Backend.mockSym hooks p).run 0 = .ok ((ops, nargs), c') → C06Generic.CodeFits ops →
    X86.compileX86 p hooks 0 = .ok (body, nargs) → X86.intoRoutine body nargs = .ok routine →
    (X86.Ref.labs routine).Nodup →
    p.defs.head? = some d0 → (∀ b ∈ d0.ctx, b.chi = .ext ∧ b.ty = .i64) →
    (∀ st, C06Generic.Reachable p ⟨d0.ctx, args.map .int, d0.body⟩ st → 2 * st.ctx.length ≤ 266) →
    ∀ (fuel : Nat) (out : List (Bool × Word)) (v : Word), fuel + 1 < 2 ^ 64 →
    AxCut.Pos.run p args fuel = ⟨out, .done v⟩ →
    ∀ (cfg : X86.MonCfg), X86.Ref.MachOK cfg.mach → cfg.heap = false →
    cfg.mach.heapBase % 8 = 0 → 0 < cfg.mach.heapBase →
    128 + 64 * 134 * fuel ≤ cfg.mach.heapBytes →
    ∀ (items : List (X86.Code × Nat)), (items.map (·.1)).map X86.Ref.stripC = routine.map X86.Ref.stripC →
    X86.Ref.addrAt cfg.mach.codeBase routine routine.length < 2 ^ 64 →
    ∃ fuel', (X86.Ref.runItems items args fuel' cfg).out = out ∧ (X86.Ref.runItems items args fuel' cfg).res = .done v

theorem C01_x86_heap_data : C01_x86_heap_statement X86.DataProg := X86.C06_data_programs

/-- **first link taken as a hypothesis here — closures on x86-64**: `X86.C06_data_programs` for ALL statement
    forms (`create`, `invoke` included).  Proved in Props/C01End.lean (`C01_gap_x86_holds`, from
    `X86.C06_programs`). -/
def C01_gap_x86 : Prop := C01_x86_heap_statement fun _ => True

/-- the machine configurations of the heap theorems: sane (`MachOK`: heap below the stack, addresses
    below 2^63, 16-aligned stack top with room for the frame), heap monitor off, the heap starts at a
    positive 8-aligned address (C09/C10: a block address is never the null reference), and the code is
    loaded in the lower half of the address space -/
structure C01_DataMach (cfg : X86.MonCfg) : Prop where
  ok : X86.Ref.MachOK cfg.mach
  monitorOff : cfg.heap = false
  heapAligned : cfg.mach.heapBase % 8 = 0
  heapPos : 0 < cfg.mach.heapBase
  codeLow : cfg.mach.codeBase ≤ 2 ^ 63

/-- the default configuration (the C driver's: 32 MiB of heap at 0x10000000) is one -/
theorem C01_dataMach_default : C01_DataMach {} :=
  ⟨X86.Ref.machOK_default, rfl, by decide, by decide, by decide⟩

/-- "given enough heap": there is a heap size such that on every `C01_DataMach` with AT LEAST that heap,
    `P cfg m` holds for some fuel `m` (cf. `C01_onMachines`, Props/C01.lean) -/
def C01_onDataMachines (P : X86.MonCfg → Nat → Prop) : Prop :=
  ∃ heapBytes : Nat, ∀ cfg : X86.MonCfg, heapBytes ≤ cfg.mach.heapBytes → C01_DataMach cfg → ∃ m, P cfg m

/-- the heap that a run of `n5` steps of the positional machine needs (`X86.C06_data_programs`): 128 bytes
    and 64·134 bytes per step -/
def C01_heapBound (n5 : Nat) : Nat := 128 + 64 * 134 * n5

theorem C01_fuel_of_heap {cfg : X86.MonCfg} (M : C01_DataMach cfg) {n5 : Nat}
    (h : C01_heapBound n5 ≤ cfg.mach.heapBytes) : n5 + 1 < 2 ^ 64 := by
  have h1 := M.ok.cfg.heapBelow
  have h2 := M.ok.cfg.top
  have h3 := M.ok.room
  unfold C01_heapBound at h
  omega

/-- the x86-64 link AT ONE PROGRAM, heap version: every run of the positional AxCut machine on the
    linearized program that ends with a result after `fuel` steps is reproduced by the x86-64 machine on
    the printed routine, on every `C01_DataMach` whose heap has `C01_heapBound fuel` bytes -/
def C01_link_x86H_at (p' : Fun.CheckedProgram) : Prop :=
  ∀ (st : Stages), stages p' = .ok st →
    ∀ (args : List Word) (hooks : Bool) (body routine : List X86.Code) (nargs : Nat),
      X86.compileX86 st.s5 hooks 0 = .ok (body, nargs) → X86.intoRoutine body nargs = .ok routine →
      ∀ (fuel : Nat) (t : List (Bool × Word)) (v : Word),
        AxCut.Pos.run st.s5 args fuel = ⟨t, .done v⟩ →
        ∀ cfg : X86.MonCfg, C01_DataMach cfg → C01_heapBound fuel ≤ cfg.mach.heapBytes →
          ∃ fuel', (X86.run (X86.printProg routine) args fuel' cfg).out = t ∧
            (X86.run (X86.printProg routine) args fuel' cfg).res = .done v

/-- **the x86-64 link from the item-level run theorem**: for the stages of an accepted program with a
    valid `main` (facts `C12_Facts`: theorems) whose linearized program is in the class `Q` of the run
    theorem and passes the decidable `C01_backChecks`.  Every other hypothesis of the run theorem is
    derived here. -/
theorem C01_x86H_of {Q : AxCut.Prog → Prop} (hx : C01_x86_heap_statement Q)
    {p : Fun.Program} {p' : Fun.CheckedProgram} {st : Stages} (F : C12_Facts p p' st)
    (hv : validMain p' = true) (hb : C01_backChecks p' = true) (hQ : Q st.s5) :
    C01_link_x86H_at p' := by
  intro st' hok args hooks body routine nargs hcomp hinto fuel t v hrun cfg M hbytes
  have hst : st' = st := by
    have := F.ok
    rw [hok] at this
    injection this
  subst hst
  simp only [C01_backChecks, hok, Bool.and_eq_true, decide_eq_true_eq] at hb
  obtain ⟨hls, ⟨⟨⟨⟨⟨⟨hcap, hrange⟩, hnames⟩, hmf1⟩, hmf2⟩, hro1⟩, hro2⟩⟩ := hb
  have hsafe : LabelSafe st'.s5 = true := by
    unfold C01_labelSafe at hls
    rw [hok] at hls
    exact hls
  have hr := X86.C06_progInRange_of_check hrange
  rw [C01_namesTextSafe_eq] at hnames
  obtain ⟨_, _, _, m5⟩ := stages_mainHead (validMainK_of_validMain hv) hok
  obtain ⟨d5, ds5, hd5, _, hint5⟩ := m5
  have hhead : st'.s5.defs.head? = some d5 := by rw [hd5]; rfl
  have hmem : d5 ∈ st'.s5.defs := by rw [hd5]; exact List.mem_cons_self ..
  -- the mock code generator succeeds (theorem) with the same number of arguments
  obtain ⟨ops, nargs', c', hM⟩ := Backend.Total.mock_compile_ok hooks st'.s5 F.lin5 (by rw [hd5]; simp) 0
  have hn' : nargs' = nargs := by
    obtain ⟨d, ds, e1, e2⟩ := Backend.compile_nargs_cons hM
    obtain ⟨d', ds', e1', e2'⟩ := compileX86_nargs hcomp
    rw [e1] at e1'
    injection e1' with e1'
    rw [e2, e2', e1']
  subst hn'
  have hfit : C06Generic.CodeFits ops := by
    have hmf : C01_mockFitsB hooks st'.s5 = true := by cases hooks <;> assumption
    simp only [C01_mockFitsB, hM, decide_eq_true_eq] at hmf
    have := Backend.instrCount_le_length ops
    unfold C06Generic.CodeFits
    omega
  -- the routine: labels defined once, below 2^63 bytes, and its text loads (C14, theorem)
  have hro : C01_routineOkB hooks st'.s5 = true := by cases hooks <;> assumption
  simp only [C01_routineOkB, hcomp, hinto, Bool.and_eq_true, decide_eq_true_eq] at hro
  obtain ⟨hnd, hsize⟩ := hro
  obtain ⟨items, hparse, hitems⟩ := X86.C14_routine_loads hr hnames hcomp hinto
  have hfitX : X86.Ref.addrAt cfg.mach.codeBase routine routine.length < 2 ^ 64 := by
    rw [C01_addrAt_end]
    have := M.codeLow
    omega
  have hcapR : ∀ s, C06Generic.Reachable st'.s5 ⟨d5.ctx, args.map .int, d5.body⟩ s →
      2 * s.ctx.length ≤ 266 := by
    intro s hs
    have := C06Generic.reach_ctx_le st'.s5 d5 hmem args s hs
    omega
  obtain ⟨fuel', h1, h2⟩ := hx st'.s5 args hooks body routine nargs' d5 ops c' hsafe F.lin5 hQ hr hM hfit
    hcomp hinto hnd hhead hint5 hcapR fuel t v (C01_fuel_of_heap M hbytes) hrun cfg M.ok M.monitorOff
    M.heapAligned M.heapPos hbytes items hitems hfitX
  exact ⟨fuel', by rw [X86.Ref.run_eq_runItems hparse]; exact h1, by rw [X86.Ref.run_eq_runItems hparse]; exact h2⟩

/-- what the conclusion says about ONE terminating run with trace `t` and result `v`: the positional
    machine on S5 reproduces it in some number `n5` of steps, and on every `C01_DataMach` with
    `C01_heapBound n5` bytes of heap the x86-64 machine on the emitted text and the linked binary do -/
def C01_runsOnX86 (st : Stages) (text : String) (nargs : Nat) (args : List Word)
    (t : List (Bool × Word)) (v : Word) : Prop :=
  ∃ n5, AxCut.Pos.run st.s5 args n5 = ⟨t, .done v⟩ ∧
    ∀ cfg : X86.MonCfg, C01_DataMach cfg → C01_heapBound n5 ≤ cfg.mach.heapBytes →
      ∃ m, (X86.run text args m cfg).out = t ∧ (X86.run text args m cfg).res = .done v ∧
        nativeRun text nargs (argvOf args) m cfg = some (renderTrace t, Runtime.exitStatus v.toInt)

theorem C01_runsOnX86.onMachines {st : Stages} {text : String} {nargs : Nat} {args : List Word}
    {t : List (Bool × Word)} {v : Word} (h : C01_runsOnX86 st text nargs args t v) :
    C01_onDataMachines fun cfg m =>
      (X86.run text args m cfg).out = t ∧ (X86.run text args m cfg).res = .done v ∧
      nativeRun text nargs (argvOf args) m cfg = some (renderTrace t, Runtime.exitStatus v.toInt) := by
  obtain ⟨n5, _, h⟩ := h
  exact ⟨C01_heapBound n5, fun cfg hb M => h cfg M hb⟩

/-- the conclusion of C01 for one checked program, heap version (see the header) -/
def C01_conclusionH (p' : Fun.CheckedProgram) : Prop :=
  ∃ st : Stages, stages p' = .ok st ∧
    ∀ (hooks : Bool) (nargs : Nat) (text : String),
      compileAllX86 hooks 0 p' = .ok (nargs, text) →
      nargs = mainArity p' ∧
      ∀ (args : List Word) (n : Nat) (t : List (Bool × Word)) (v : Word),
        srcRun p' args n = ⟨t, .done v⟩ →
        args.length = nargs ∧ C01_runsOnX86 st text nargs args t v

def C01_conclusion_coreH (p' : Fun.CheckedProgram) (st : Stages) : Prop :=
  ∀ (hooks : Bool) (nargs : Nat) (text : String),
    compileAllX86 hooks 0 p' = .ok (nargs, text) →
    nargs = mainArity p' ∧
    ∀ (args : List Word) (n : Nat) (t : List (Bool × Word)) (v : Word),
      Core.run st.s2 args n = ⟨t, .done v⟩ →
      args.length = nargs ∧ C01_runsOnX86 st text nargs args t v

/-- the conclusion in the shape of `C01_conclusion` (Props/C01.lean), with `C01_onDataMachines` -/
theorem C01_conclusionH_onMachines {p' : Fun.CheckedProgram} (h : C01_conclusionH p') :
    (∃ q5, middleEnd p' = .ok q5) ∧
    ∀ (hooks : Bool) (nargs : Nat) (text : String),
      compileAllX86 hooks 0 p' = .ok (nargs, text) →
      nargs = mainArity p' ∧
      ∀ (args : List Word) (n : Nat) (t : List (Bool × Word)) (v : Word),
        srcRun p' args n = ⟨t, .done v⟩ →
        args.length = nargs ∧
        C01_onDataMachines fun cfg m =>
          (X86.run text args m cfg).out = t ∧ (X86.run text args m cfg).res = .done v ∧
          nativeRun text nargs (argvOf args) m cfg = some (renderTrace t, Runtime.exitStatus v.toInt) := by
  obtain ⟨st, hok, h⟩ := h
  refine ⟨⟨st.s5, middleEnd_ok_iff.2 ⟨st, hok, rfl⟩⟩, fun hooks nargs text hall => ?_⟩
  obtain ⟨h1, h2⟩ := h hooks nargs text hall
  refine ⟨h1, fun args n t v hsrc => ?_⟩
  obtain ⟨h3, h4⟩ := h2 args n t v hsrc
  exact ⟨h3, h4.onMachines⟩

/-- **from the Core program on** (cf. `C01_from_core`): C03, C04, C05, C20 are theorems, the stages'
    facts `C12_Facts` are theorems; ONE hypothesis, the x86-64 link at this program. -/
theorem C01_from_core_H {p : Fun.Program} {p' : Fun.CheckedProgram} {st : Stages}
    (F : C12_Facts p p' st) (hv : validMain p' = true) (h6 : C01_link_x86H_at p') :
    C01_conclusion_coreH p' st :=
  C01_from_core_gen
    (W := fun n P => ∀ cfg : X86.MonCfg, C01_DataMach cfg → C01_heapBound n ≤ cfg.mach.heapBytes → ∃ m, P cfg m)
    (fun h hpq cfg M hb => (h cfg M hb).imp fun m hm => hpq cfg m hm) F hv
    (fun args hooks body routine nargs hcomp hinto fuel t v hrun =>
      h6 st F.ok args hooks body routine nargs hcomp hinto fuel t v hrun)

/-- C12 (theorems `C12_source_names`, `C12_facts_proved`): for every source text that parser and checker
    accept, with a valid `main` that is not called, the middle end succeeds and all typing facts hold -/
theorem C01_facts_of_source {mode : Fun.Parse.LiteralMode} {src : String} {p : Fun.Program}
    {p' : Fun.CheckedProgram} (hparse : Fun.Parse.parse mode src = .ok p) (hc : checkProgram p = .ok p')
    (hv : validMain p' = true) (hmc : Fun.noMainCall p' = true) :
    programNamesOk p = true ∧ C02_noSigmaNames p' = true ∧ C12_noContType p' = true ∧
      ∃ st, C12_Facts p p' st := by
  obtain ⟨hn, hs, hcont⟩ := C12_source_names hparse hc
  exact ⟨hn, hs, hcont, C12_facts_proved p p' hn hc hv hmc hs hcont⟩

/-- **fun2core beyond the fragment** (proved in Props/C01End.lean, `C01_gap_fun2core_holds`):
    clause 1 of `C02_sem_full_statement` restricted to results, for accepted `Sequenced` programs with a valid `main` that is not called, no
    name `ς`, no type `_Cont` (all theorems for source texts), and as many arguments as `main` has
    parameters: every run of the Fun machine that ends with a result is reproduced by the Core ς-machine
    on the translation. -/
def C01_gap_fun2core : Prop :=
  ∀ (p : Fun.Program) (p' : Fun.CheckedProgram) (q2 : Core.Prog),
    programNamesOk p = true → checkProgram p = .ok p' → validMain p' = true →
    Fun.noMainCall p' = true → C02_noSigmaNames p' = true → C12_noContType p' = true →
    Fun.Sequenced p' = true → Fun2Core.compileProg p' = .ok q2 →
    ∀ (args : List Word) (n : Nat) (t : List (Bool × Word)) (v : Word),
      args.length = mainArity p' →
      ofFun (Fun.run p' args n) = ⟨t, .done v⟩ → ∃ m, ofCore (Core.run q2 args m) = ⟨t, .done v⟩

theorem C01_gap_fun2core_of_full (h : C02_sem_full_statement) : C01_gap_fun2core := by
  intro p p' q2 hn hc hv hmc hs _ hseq e2 args n t v _ hrun
  obtain ⟨m, hm⟩ := (h p p' q2 hn hc hseq hv hmc hs e2 args).1 n (by simp only [hrun]; trivial)
  exact ⟨m, by simp only at hm; rw [hm, hrun]⟩

theorem C01_fun_run_arity {p' : Fun.CheckedProgram} (hv : validMain p' = true) {args : List Word}
    {n : Nat} {t : List (Bool × Word)} {v : Word} (h : ofFun (Fun.run p' args n) = ⟨t, .done v⟩) :
    args.length = mainArity p' := by
  obtain ⟨dm, hfind, hl, _, _⟩ := validMain_find hv
  unfold Fun.run at h
  cases hi : Fun.initState p' args with
  | error w =>
    rw [hi] at h
    simp [ofFun] at h
  | ok s =>
    unfold Fun.initState at hi
    rw [hfind] at hi
    simp only at hi
    cases hb : Fun.bindAll (dm.ctx.map (·.var)) (args.map .int) [] with
    | none => rw [hb] at hi; cases hi
    | some env =>
      have := Fun2Core.Sem.bindAll_length _ _ _ _ hb
      simp only [List.length_map] at this
      omega

/-- the composition for ONE program, from the facts about its stages, the forward semantics of fun2core
    at this program and the x86-64 link at this program -/
theorem C01_compose_H {p : Fun.Program} {p' : Fun.CheckedProgram} {st : Stages}
    (F : C12_Facts p p' st) (hv : validMain p' = true)
    (h2 : Fun.Sequenced p' = true → ∀ (args : List Word) (n : Nat) (t : List (Bool × Word)) (v : Word),
      ofFun (Fun.run p' args n) = ⟨t, .done v⟩ → ∃ m, ofCore (Core.run st.s2 args m) = ⟨t, .done v⟩)
    (h6 : C01_link_x86H_at p') : C01_conclusionH p' :=
  ⟨st, F.ok, C01_compose_gen F h2 (C01_from_core_H F hv h6)⟩

/-- **C01_data_fragment, for ASTs**: accepted program with `programNamesOk`, valid `main`, no type called
    `_Cont`, and the ONE decidable predicate `C01_dataChecks`. -/
theorem C01_data_fragment_ast (p : Fun.Program) (p' : Fun.CheckedProgram)
    (hn : programNamesOk p = true) (hc : checkProgram p = .ok p') (hv : validMain p' = true)
    (hcont : C12_noContType p' = true) (hd : C01_dataChecks p' = true) : C01_conclusionH p' := by
  simp only [C01_dataChecks, Bool.and_eq_true] at hd
  obtain ⟨⟨hfr, hb⟩, hdata⟩ := hd
  have hfr' := hfr
  simp only [C01_fragChecks, Bool.and_eq_true] at hfr'
  obtain ⟨_, hmc, hs⟩ := C02_fragOk_sequenced hfr'.1
  obtain ⟨st, F⟩ := C12_facts_proved p p' hn hc hv hmc hs hcont
  rw [F.ok] at hdata
  refine C01_compose_H F hv ?_ (C01_x86H_of C01_x86_heap_data F hv hb (C01_dataProgB_sound hdata))
  intro _ args n t v hrun
  exact C01_fun2core_sem_frag p p' st.s2 hn hc hfr F.s2ok args n t v hrun

/-- **C01_data_fragment — END TO END, NO HYPOTHESIS LEFT**: for every source text accepted by parser and
    checker, with a valid `main`, that passes the ONE decidable predicate `C01_dataChecks` (fun2core's
    fragment — which contains `noMainCall` —, no closures in the linearized program, the side conditions
    `C01_backChecks` of the x86-64 link): whenever the source semantics finishes, `srcRun p' args n =
    ⟨t, done v⟩`, the x86-64 machine on the emitted routine TEXT produces trace `t` and result `v`, and the
    linked binary writes the decimal rendering of `t` and exits with status `v mod 256` — on every machine
    configuration `C01_DataMach` whose heap has `128 + 64·134·n5` bytes, `n5` the number of steps of the
    positional machine on S5.
    Every link is a theorem: C16/C15 (names, typing of the source), C12 (every stage typed), C02 (fragment),
    C03, C04, C05, Theorem A, Theorem B with the heap (C06 ∘ C09/C10), C14 (loader), C20. -/
theorem C01_data_fragment (mode : Fun.Parse.LiteralMode) (src : String) (p : Fun.Program)
    (p' : Fun.CheckedProgram) (hparse : Fun.Parse.parse mode src = .ok p)
    (hc : checkProgram p = .ok p') (hv : validMain p' = true) (hd : C01_dataChecks p' = true) :
    C01_conclusionH p' := by
  obtain ⟨hn, _, hcont⟩ := C12_source_names hparse hc
  exact C01_data_fragment_ast p p' hn hc hv hcont hd

/-- … and from the Core program on, for ANY source program (sequenced or not, with codata at source
    level or not) whose linearized program has no closures (`hdata`: `C01F_noClosures p' = true` spelled out) -/
theorem C01_data_from_core (mode : Fun.Parse.LiteralMode) (src : String) (p : Fun.Program)
    (p' : Fun.CheckedProgram) (hparse : Fun.Parse.parse mode src = .ok p)
    (hc : checkProgram p = .ok p') (hv : validMain p' = true) (hmc : Fun.noMainCall p' = true)
    (hb : C01_backChecks p' = true)
    (hdata : (match stages p' with | .ok st => C01_dataProgB st.s5 | .error _ => false) = true) :
    ∃ st, C12_Facts p p' st ∧ C01_conclusion_coreH p' st := by
  obtain ⟨_, _, _, st, F⟩ := C01_facts_of_source hparse hc hv hmc
  rw [F.ok] at hdata
  exact ⟨st, F, C01_from_core_H F hv (C01_x86H_of C01_x86_heap_data F hv hb (C01_dataProgB_sound hdata))⟩

/-- **C01, final form**: for EVERY source text accepted by parser and checker with a valid `main` that is
    not called, whose linearized program passes the decidable side conditions `C01_backChecks` of the
    x86-64 link (label-safe and text-safe names, capacity, ranges, sizes), the conclusion of C01 holds. -/
def C01_statement_final : Prop :=
  ∀ (mode : Fun.Parse.LiteralMode) (src : String) (p : Fun.Program) (p' : Fun.CheckedProgram),
    Fun.Parse.parse mode src = .ok p → checkProgram p = .ok p' → validMain p' = true →
    Fun.noMainCall p' = true → C01_backChecks p' = true → C01_conclusionH p'

/-- **C01_final_of**: the final statement from the two links that this file only states — closures on
    x86-64 and fun2core beyond `fragOk`.  Every other link is used as a theorem. -/
theorem C01_final_of (hx : C01_gap_x86) (hc : C01_gap_fun2core) : C01_statement_final := by
  intro mode src p p' hparse hck hv hmc hb
  obtain ⟨hn, hs, hcont, st, F⟩ := C01_facts_of_source hparse hck hv hmc
  refine C01_compose_H F hv ?_ (C01_x86H_of hx F hv hb trivial)
  intro hseq args n t v hrun
  exact hc p p' st.s2 hn hck hv hmc hs hcont hseq F.s2ok args n t v (C01_fun_run_arity hv hrun) hrun

/-- with `C01_gap_x86` alone: every program of fun2core's fragment (closures allowed in S5: calls of other
    definitions, recursion) -/
theorem C01_frag_of_x86 (hx : C01_gap_x86) (mode : Fun.Parse.LiteralMode) (src : String)
    (p : Fun.Program) (p' : Fun.CheckedProgram) (hparse : Fun.Parse.parse mode src = .ok p)
    (hc : checkProgram p = .ok p') (hv : validMain p' = true) (hfr : C01_fragChecks p' = true)
    (hb : C01_backChecks p' = true) : C01_conclusionH p' := by
  have hfr' := hfr
  simp only [C01_fragChecks, Bool.and_eq_true] at hfr'
  obtain ⟨_, hmc, _⟩ := C02_fragOk_sequenced hfr'.1
  obtain ⟨hn, _, _, st, F⟩ := C01_facts_of_source hparse hc hv hmc
  refine C01_compose_H F hv ?_ (C01_x86H_of hx F hv hb trivial)
  intro _ args n t v hrun
  exact C01_fun2core_sem_frag p p' st.s2 hn hc hfr F.s2ok args n t v hrun

/-- with `C01_gap_fun2core` alone: every program whose linearized program has no closures (`hdata` is
    `C01F_noClosures p' = true`, defined with the examples below, spelled out) -/
theorem C01_data_of_fun2core (hc2 : C01_gap_fun2core) (mode : Fun.Parse.LiteralMode) (src : String)
    (p : Fun.Program) (p' : Fun.CheckedProgram) (hparse : Fun.Parse.parse mode src = .ok p)
    (hc : checkProgram p = .ok p') (hv : validMain p' = true) (hmc : Fun.noMainCall p' = true)
    (hb : C01_backChecks p' = true)
    (hdata : (match stages p' with | .ok st => C01_dataProgB st.s5 | .error _ => false) = true) :
    C01_conclusionH p' := by
  obtain ⟨hn, hs, hcont, st, F⟩ := C01_facts_of_source hparse hc hv hmc
  rw [F.ok] at hdata
  refine C01_compose_H F hv ?_ (C01_x86H_of C01_x86_heap_data F hv hb (C01_dataProgB_sound hdata))
  intro hseq args n t v hrun
  exact hc2 p p' st.s2 hn hc hv hmc hs hcont hseq F.s2ok args n t v (C01_fun_run_arity hv hrun) hrun

/-! ## non-vacuity

`C01F_exSrc`: `main` builds a two-element list with `let` and constructors, takes it apart with a nested
`case` whose clauses share a continuation (focusing lifts it to the definitions `share_main_0/1`, reached by
`call`), binds the result with `let`, prints it.  Its linearized program has `let`, `switch`, `subst`
(erasing the unused tail `ys`), `op`, `print`, `call`, `exit`.  EVERY hypothesis of `C01_data_fragment`
holds by kernel evaluation (`decide +kernel`; the side conditions of the x86-64 link in the form
`C01_backChecksStatic`, from which `C01_backChecks` follows), so its conclusion holds (`C01F_example_conclusion`); the
premise of the inner implication holds on the arguments 4 5 (`C01F_example_run`).  The x86-64 machine keeps
its memory in a `Std.HashMap`, which does not reduce in the kernel: `#eval` of
`X86.run text [4, 5] 100000 {}` gives trace `[(true, 9)]`, result 0, and `runLineNative` the bytes `39 0a`
with status 0 — as the theorem says. -/

def C01F_exSrc : String :=
  "data List[A] { Nil, Cons(x: A, xs: List[A]) }
def main(n: i64, m: i64): i64 { let l: List[i64] = Cons(n, Cons(m, Nil)); let s: i64 = l.case[i64] { Nil => 0, Cons(x, xs) => xs.case[i64] { Nil => x, Cons(y, ys) => x + y } }; println_i64(s); 0 }"

/-- a Boolean fact `f` about the parsed and checked program of a source text, `false` when the front end rejects
    the text: the form in which the example files state what the kernel evaluates on a text (`C01F_ex_intro`,
    `C01F_ex_elim`, `C01F_ex_accepted` go between this form and `frontEnd src = .ok p p'`) -/
def C01F_ex (f : Fun.Program → Fun.CheckedProgram → Bool) (src : String) : Bool :=
  match frontEnd src with
  | .ok p p' => f p p'
  | _ => false

theorem C01F_ex_elim {f : Fun.Program → Fun.CheckedProgram → Bool} {src : String} {p : Fun.Program}
    {p' : Fun.CheckedProgram} (h : C01F_ex f src = true) (hfe : frontEnd src = .ok p p') :
    f p p' = true := by
  unfold C01F_ex at h
  rw [hfe] at h
  exact h

theorem C01F_ex_intro {f : Fun.Program → Fun.CheckedProgram → Bool} {src : String} {p : Fun.Program}
    {p' : Fun.CheckedProgram} (hfe : frontEnd src = .ok p p') (h : f p p' = true) : C01F_ex f src = true := by
  unfold C01F_ex
  rw [hfe]
  exact h

theorem C01F_ex_accepted {f : Fun.Program → Fun.CheckedProgram → Bool} {src : String}
    (h : C01F_ex f src = true) : ∃ p p', frontEnd src = .ok p p' := by
  unfold C01F_ex at h
  split at h
  · rename_i p p' hfe
    exact ⟨p, p', hfe⟩
  · cases h

theorem C01F_frontEnd_ok {src : String} {p : Fun.Program} {p' : Fun.CheckedProgram}
    (h : frontEnd src = .ok p p') :
    Fun.Parse.parse .diagOnOverflow src = .ok p ∧ checkProgram p = .ok p' := by
  unfold frontEnd at h
  split at h
  · cases h
  · cases h
  · rename_i q hq
    split at h
    · rename_i q' hq'
      injection h with h1 h2
      subst h1 h2
      exact ⟨hq, hq'⟩
    · cases h
    · cases h

/-! ## the side conditions of the x86-64 link without running a code generator

`C01_backChecks` evaluates, for both hook settings, the mock code generator (fewer than 2^64 items) and the x86-64
code generator (labels defined once, fewer than 2^63 bytes).  For the stages of an accepted program these four
conjuncts follow from a bound on the size of S5: label uniqueness is a theorem (`X86.Ref.labels_unique_x86`), and
the two generators emit at most `10·(1 + cap)·nodes` items and `5·(485·(1 + cap)·nodes + 44)` bytes
(Scc/Backend/SizeMock.lean, `X86.Ref.routine_bytes_le`). -/

/-- `C01_backChecks` with the four conjuncts about generated code replaced by one bound on the size of S5 -/
def C01_backChecksStatic (p' : Fun.CheckedProgram) : Bool :=
  C01_labelSafe p' &&
  match stages p' with
  | .ok st =>
    decide (AxCut.Pos.progCap st.s5 ≤ 133) && C01_progInRangeB st.s5 && C01_namesTextSafe st.s5 &&
    decide (5 * (485 * (1 + AxCut.SizeLin.defsCap st.s5.defs) * AxCut.SizeLin.defsNodes st.s5.defs + 44) < 2 ^ 63)
  | .error _ => false

theorem C01_backChecks_of_static {p : Fun.Program} {p' : Fun.CheckedProgram} {st : Stages}
    (F : C12_Facts p p' st) (h : C01_backChecksStatic p' = true) : C01_backChecks p' = true := by
  simp only [C01_backChecksStatic, F.ok, Bool.and_eq_true, decide_eq_true_eq] at h
  obtain ⟨hls, ⟨⟨hcap, hrange⟩, hnames⟩, hsize⟩ := h
  have hsafe : LabelSafe st.s5 = true := by
    unfold C01_labelSafe at hls
    rw [F.ok] at hls
    exact hls
  -- the bound, with the product `(1 + cap)·nodes` as one unknown
  rw [Nat.mul_assoc] at hsize
  have hmock : ∀ hooks, C01_mockFitsB hooks st.s5 = true := by
    intro hooks
    unfold C01_mockFitsB
    split
    · rename_i ops nargs c' hM
      have := Backend.SizeMock.mock_compile_length hooks st.s5 _ (Nat.le_refl _)
        (Scc.Pipeline.SizeCompose.substOkProg_of_linTyped F.lin5) 0 ops (by
          unfold Backend.compileMockSym Backend.runGen
          rw [hM])
      rw [Nat.mul_assoc] at this
      simp only [decide_eq_true_eq]
      omega
    · rfl
  have hrout : ∀ hooks, C01_routineOkB hooks st.s5 = true := by
    intro hooks
    unfold C01_routineOkB
    split
    · rename_i body nargs hcomp
      split
      · rename_i routine hinto
        have hnd : (C01_labsB routine).Nodup := X86.Ref.labels_unique_x86 hsafe hcomp hinto
        have hb : C01_routineBytes routine < 2 ^ 63 := by
          have := X86.Ref.routine_bytes_le F.lin5 hcomp hinto
          rw [Nat.mul_assoc] at this
          unfold C01_routineBytes
          omega
        simp only [hnd, hb, decide_true, Bool.and_self]
      · rfl
    · rfl
  simp only [C01_backChecks, F.ok, hls, hcap, hrange, hnames, hmock, hrout, decide_true, Bool.and_self]

/-- … for an accepted source text with a valid `main` that is not called (the facts about the stages are theorems) -/
theorem C01_backChecks_of_static_source {src : String} {p : Fun.Program} {p' : Fun.CheckedProgram}
    (hfe : frontEnd src = .ok p p') (hv : validMain p' = true) (hmc : Fun.noMainCall p' = true)
    (h : C01_backChecksStatic p' = true) : C01_backChecks p' = true := by
  obtain ⟨hparse, hc⟩ := C01F_frontEnd_ok hfe
  obtain ⟨_, _, _, st, F⟩ := C01_facts_of_source hparse hc hv hmc
  exact C01_backChecks_of_static F h

def C01F_noClosures (p' : Fun.CheckedProgram) : Bool :=
  match stages p' with
  | .ok st => C01_dataProgB st.s5
  | .error _ => false

theorem C01_dataChecks_eq (p' : Fun.CheckedProgram) :
    C01_dataChecks p' = (C01_fragChecks p' && C01_backChecks p' && C01F_noClosures p') := rfl

/-- the premise of the inner implication on the arguments 4 5: the source semantics finishes with trace
    `9\\n` and result 0; the positional machine on S5 agrees (the run that the x86-64 link transports); S5
    is not an integer program (it has `let` / `switch`: outside `C01_int_fragment`) -/
def C01F_exRuns (src : String) : Bool :=
  match frontEnd src with
  | .ok _ p' =>
    match stages p' with
    | .ok st =>
      decide (srcRun p' [4, 5] 200 = ⟨[(true, 9)], .done 0⟩) && decide (mainArity p' = 2) &&
      decide (ofPos (AxCut.Pos.run st.s5 [4, 5] 200) = ⟨[(true, 9)], .done 0⟩) && !C01_intProgB st.s5
    | .error _ => false
  | _ => false

set_option maxRecDepth 100000 in
/-- one evaluation of the example: the hypotheses of `C01_data_fragment` (the side conditions of the x86-64 link in
    the form `C01_backChecksStatic`) and the runs -/
theorem C01F_example_evaluated (s : String) (h : s.toList = C01F_exSrc.toList) :
    C01F_ex (fun p p' => programNamesOk p && validMain p' && C01_fragChecks p' && C01_backChecksStatic p' &&
      C01F_noClosures p') s = true ∧
    C01F_exRuns s = true := by
  have hc := toList_of_literal rfl h
  simp only [C01F_ex, C01F_exRuns, frontEnd, Fun.Parse.parse, hc]
  decide +kernel

/-- ALL hypotheses of `C01_data_fragment` on the example: accepted (by `frontEnd`), valid `main`, and THE
    predicate `C01_dataChecks`: fragment, no closures, back-end conditions -/
theorem C01F_example_hyps :
    C01F_ex (fun p p' => programNamesOk p && validMain p' && C01_dataChecks p') C01F_exSrc = true := by
  obtain ⟨p, p', hfe⟩ := C01F_ex_accepted (C01F_example_evaluated _ rfl).1
  have h := C01F_ex_elim (C01F_example_evaluated _ rfl).1 hfe
  simp only [Bool.and_eq_true] at h
  obtain ⟨⟨⟨⟨hn, hv⟩, hfr⟩, hst⟩, hno⟩ := h
  have hfr' := hfr
  simp only [C01_fragChecks, Bool.and_eq_true] at hfr'
  have hb := C01_backChecks_of_static_source hfe hv (C02_fragOk_sequenced hfr'.1).2.1 hst
  exact C01F_ex_intro hfe (by simp only [C01_dataChecks_eq, hn, hv, hfr, hb, hno, Bool.and_self])

theorem C01F_example_run : C01F_exRuns C01F_exSrc = true := (C01F_example_evaluated _ rfl).2

/-- **the theorem applies**: the conclusion of C01 for the example, no hypothesis -/
theorem C01F_example_conclusion (p : Fun.Program) (p' : Fun.CheckedProgram)
    (hfe : frontEnd C01F_exSrc = .ok p p') : C01_conclusionH p' := by
  obtain ⟨hparse, hc⟩ := C01F_frontEnd_ok hfe
  have h1 := C01F_ex_elim C01F_example_hyps hfe
  simp only [Bool.and_eq_true] at h1
  exact C01_data_fragment _ _ p p' hparse hc h1.1.2 h1.2

/-- the front end accepts the example (so `C01F_example_conclusion` is about something) -/
theorem C01F_example_accepted : ∃ p p', frontEnd C01F_exSrc = .ok p p' :=
  C01F_ex_accepted C01F_example_hyps

/-- `C01_DataMach` is not vacuous, and the heap bound of the example's run (fewer than 200 steps) is
    below the default 32 MiB -/
example : C01_DataMach {} ∧ C01_heapBound 200 ≤ ({} : X86.MonCfg).mach.heapBytes :=
  ⟨C01_dataMach_default, by decide⟩

/-- the conclusion's byte string and exit status for the example's run: "9\n", status 0 -/
example : renderTrace [(true, (9 : Word))] = [57, 10] ∧ Runtime.exitStatus (0 : Word).toInt = 0 := by decide

/-! ### recursion needs closures

The tail-recursive list sum: `build` conses `n, n-1, …, 1` onto an accumulator, `sum` adds the elements
with an accumulator through `case`; every call is a tail call.  It is in fun2core's fragment and passes
every back-end condition, but its linearized program is NOT a `DataProg`: `main` passes the continuation
`_Cont` to `build` (`create`), `sum` returns through it (`invoke`). -/

def C01F_recSrc : String :=
  "data List[A] { Nil, Cons(x: A, xs: List[A]) }
def sum(l: List[i64], acc: i64): i64 { l.case[i64] { Nil => println_i64(acc); acc, Cons(x, xs) => let a: i64 = acc + x; sum(xs, a) } }
def build(n: i64, l: List[i64]): i64 { if n == 0 { sum(l, 0) } else { let m: i64 = n - 1; build(m, Cons(n, l)) } }
def main(n: i64): i64 { build(n, Nil) }"

set_option maxRecDepth 100000 in
/-- accepted, a valid `main` with one parameter that is not called, in fun2core's fragment, every back-end
    condition holds, but S5 has closures; the source semantics on the argument 4 prints 10 and returns 10 -/
theorem C01F_rec_hyps (s : String) (h : s.toList = C01F_recSrc.toList) :
    C01F_ex (fun _ p' => validMain p' && Fun.noMainCall p' && decide (mainArity p' = 1) &&
      C01_fragChecks p' && C01_backChecksStatic p' && !C01F_noClosures p' &&
      decide (srcRun p' [4] 300 = ⟨[(true, 10)], .done 10⟩)) s = true := by
  have hc := toList_of_literal rfl h
  simp only [C01F_ex, frontEnd, Fun.Parse.parse, hc]
  decide +kernel

/-- the only conjunct of `C01_dataChecks` that fails on the recursive list sum is `C01_dataProgB`;
    with `C01_gap_x86` the program is covered by `C01_frag_of_x86` -/
theorem C01_recursion_needs_closures (p : Fun.Program) (p' : Fun.CheckedProgram)
    (hfe : frontEnd C01F_recSrc = .ok p p') :
    C01_fragChecks p' = true ∧ C01_backChecks p' = true ∧ C01_dataChecks p' = false := by
  have h := C01F_ex_elim (C01F_rec_hyps _ rfl) hfe
  simp only [Bool.and_eq_true, Bool.not_eq_true'] at h
  obtain ⟨⟨⟨⟨⟨⟨hv, hmc⟩, _⟩, hfr⟩, hst⟩, hclo⟩, _⟩ := h
  refine ⟨hfr, C01_backChecks_of_static_source hfe hv hmc hst, ?_⟩
  rw [C01_dataChecks_eq, hclo]
  simp

#print axioms C01_dataProgB_sound
#print axioms C01_x86_heap_data
#print axioms C01_x86H_of
#print axioms C01_from_core_H
#print axioms C01_facts_of_source
#print axioms C01_gap_fun2core_of_full
#print axioms C01_fun_run_arity
#print axioms C01_compose_H
#print axioms C01_conclusionH_onMachines
#print axioms C01_data_fragment_ast
#print axioms C01_data_fragment
#print axioms C01_data_from_core
#print axioms C01_final_of
#print axioms C01_frag_of_x86
#print axioms C01_data_of_fun2core
#print axioms C01_backChecks_of_static
#print axioms C01_backChecks_of_static_source
#print axioms C01F_example_evaluated
#print axioms C01F_example_hyps
#print axioms C01F_example_run
#print axioms C01F_rec_hyps
#print axioms C01F_example_conclusion
#print axioms C01F_example_accepted
#print axioms C01_recursion_needs_closures

end Scc.Props

#print axioms Scc.Props.C01_okc_eq
#print axioms Scc.Props.C01_namesTextSafe_eq
#print axioms Scc.Props.C01_labsB_eq
#print axioms Scc.Props.C01_addrAt_end
#print axioms Scc.Props.C01_dataMach_default
#print axioms Scc.Props.C01_fuel_of_heap
#print axioms Scc.Props.C01_runsOnX86.onMachines
#print axioms Scc.Props.C01F_ex_elim
#print axioms Scc.Props.C01F_ex_accepted
#print axioms Scc.Props.C01F_frontEnd_ok
#print axioms Scc.Props.C01_dataChecks_eq
