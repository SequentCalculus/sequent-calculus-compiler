/-
  Scc.Props.C14A64 — property C14 (the emitted assembly is well-formed) for the AArch64 backend,
  part T4 "operand ranges" of DESIGN.md §5 and the table stride.

  * `C14_statement` — the full property (labels defined exactly once, referenced labels defined,
    operand ranges, table stride) as a `def : Prop` about the monitor `wfCheck` of
    Scc/A64/Machine.lean.  It is REFUTED (`C14_statement_false`, Props/C14A64Final.lean); the whole-program
    form that holds is `C14_a64_final` there.
  * proved: `C14_methods_wf` — EVERY method of the backend record `a64Backend` (config.rs, code.rs,
    memory.rs, parallel_moves.rs) and `setup`/`cleanup`/`preamble` of into_routine.rs emits only
    instructions whose operands the instruction form can encode (`Code.wf` = the per-instruction
    check `Instr.wfError` of the monitor `wf`), for ALL arguments: all literals, all placements, all
    contexts; under the two capacity side conditions that the forms impose:
      `add_and_jump` immediate < 4096  (jump_length k: k ≤ 1023 xtors),
      `share_block_n` count < 4096.
    MOVZ/MOVK/MOVN halfwords < 65536 and shifts ∈ {0,16,32,48}; LDR/STR offsets multiples of 8 in
    0..32760 (spill slots, block fields, pushed registers); ADD/SUB/CMP immediates < 4096 (SPILL_SPACE,
    64, 8·count, refcount ±1); STP/LDP ±16.
  * `C14_stride`: `jump_length k = 4·k` = k machine instructions of Machine.lean's layout (every
    instruction has size 4); `C14_table_layout_statement` (the layout fact `TableAt` for a label
    followed by `B` lines) is a `def : Prop` here, proved as `C07_table_layout_statement` (Props/C07A64Heap.lean).
  No `bv_decide`.
-/
import Scc.A64.WfMemory
import Scc.A64.JumpLemmas

namespace Scc.A64
open Scc.AxCut
open Scc.Backend (GenM TempNum)

/-! ## The full statement -/

/-- C14 for AArch64: the routine text of every compiled program passes the monitor `wf`
(`wfCheck`: parses; labels defined exactly once and not clashing with runtime symbols; referenced
labels defined; operand classes and ranges; branch reach), provided no type has more than 1023
xtors and the text is smaller than 1 MiB.  Refuted: `C14_statement_false` (Props/C14A64Final.lean). -/
def C14_statement : Prop :=
  ∀ (p : AxCut.Prog) (body routine : List Code) (nargs : Nat),
    compileProg a64Backend p false 0 = .ok (body, nargs, routine) →
    (∀ d ∈ p.types, d.xtors.length ≤ 1023) → routine.length < 262144 →
    wfCheck (printProg routine) = .ok ()

/-- the layout fact used by the jump-table theorems: a label followed by `n` instruction lines (no
hook comment in between) yields `TableAt`. -/
def C14_table_layout_statement : Prop :=
  ∀ (pre post : List (Nat × PLine)) (ln : Nat) (l : String) (entries : List (Nat × Instr)) (c : MemCfg),
    (∀ q ∈ pre, q.2 ≠ .label l) → entries ≠ [] →
    c.codeBase + 4 * (pre.length + entries.length + post.length) < 2 ^ 64 →
    ∃ j, TableAt (layout (pre ++ [(ln, .label l)] ++ entries.map (fun e => (e.1, .instr e.2)) ++ post)) c l j entries.length

/-! ## Operand ranges of every backend method -/

structure MethodsWf : Prop where
  jump : ∀ t, t.ok → allWf (a64Backend.jump t) = true
  jumpLabel : ∀ l, allWf (a64Backend.jumpLabel l) = true ∧ allWf (a64Backend.jumpLabelFixed l) = true
  jumpLabelIf : ∀ s t1 t2 l, t1.ok → t2.ok →
    allWf (a64Backend.jumpLabelIf s t1 t2 l) = true ∧ allWf (a64Backend.jumpLabelIfZero s t1 l) = true
  loadImmediate : ∀ t (i : Int), t.ok → allWf (a64Backend.loadImmediate t i) = true
  loadLabel : ∀ t l, t.ok → allWf (a64Backend.loadLabel t l) = true
  addAndJump : ∀ t k, t.ok → k ≤ 1023 → allWf (a64Backend.addAndJump t (a64Backend.jumpLength k)) = true
  binop : ∀ o t s1 s2, t.ok → s1.ok → s2.ok → allWf (a64Backend.binop o t s1 s2) = true
  mov : ∀ t s, t.ok → s.ok → allWf (a64Backend.mov t s) = true
  printI64 : ∀ nl t ctx, t.ok → GenWf (a64Backend.printI64 nl t ctx)
  eraseBlock : ∀ t, t.ok → GenWf (a64Backend.eraseBlock t)
  shareBlockN : ∀ t n, t.ok → n < 4096 → GenWf (a64Backend.shareBlockN t n)
  store : ∀ a b, GenWf (a64Backend.store a b)
  load : ∀ a b, GenWf (a64Backend.load a b)
  storeRestore : ∀ t b, t.ok →
    allWf (a64Backend.storeTemporary t b) = true ∧ allWf (a64Backend.restoreTemporary t b) = true
  comment : ∀ m l, (a64Backend.comment m).wf = true ∧ (a64Backend.label l).wf = true
  temporaries : ∀ n ctx, GenAll (fun t => t.ok = true) (a64Backend.freshTemporary n ctx) ∧
    ∀ v, GenAll (fun t => t.ok = true) (a64Backend.variableTemporary n ctx v)
  routine : (∀ n, n ≤ 7 → ∃ codes, setup n = .ok codes ∧ allWf codes = true) ∧
    allWf cleanup = true ∧ allWf preamble = true

theorem variableTemporary_ok (number : TempNum) (ctx : Ctx) (v : Nat) :
    GenAll (fun t => t.ok = true) (variableTemporary number ctx v) := by
  unfold variableTemporary
  split
  · unfold temporaryFromPosition
    simp only []
    split
    · exact GenAll_pure (by simpa [Temporary.ok, Register.ok, REGISTER_NUM_eq] using ‹_›)
    · split
      · exact GenAll_pure (by simpa [Temporary.ok] using ‹_›)
      · exact GenAll_throw _
  · exact GenAll_throw _

/-- C14-T4 for AArch64: operand ranges of everything the backend can emit. -/
theorem C14_methods_wf : MethodsWf where
  jump := wf_jump
  jumpLabel := fun l => ⟨by simp [a64Backend, a64BackendG, allWf, wf_B], by simp [a64Backend, a64BackendG, allWf, wf_B]⟩
  jumpLabelIf := fun s t1 t2 l h1 h2 => wf_jumpLabelIf s t1 t2 h1 h2 l
  loadImmediate := fun t i h => wf_loadImmediate t h i
  loadLabel := fun t l h => wf_loadLabel t h l
  addAndJump := fun t k h hk => wf_addAndJump t h _ (okImm12_jumpLength k hk)
  binop := fun o t s1 s2 => wf_op o t s1 s2
  mov := wf_mov
  printI64 := fun nl t ctx h => GenAll_pure (wf_printI64G false nl t h ctx)
  eraseBlock := wf_eraseBlock
  shareBlockN := fun t n h hn => wf_shareBlockN t h n hn
  store := wf_store
  load := wf_load
  storeRestore := fun t b h => wf_storeRestoreTemporary t h b
  comment := fun _ _ => ⟨rfl, rfl⟩
  temporaries := fun n ctx => ⟨freshTemporary_ok n ctx, variableTemporary_ok n ctx⟩
  routine := ⟨wf_setup, wf_cleanup.1, wf_cleanup.2⟩

/-- `Code.wf` is the monitor's per-instruction check: an instruction of the model that is `wf` has
no operand error when parsed back from its printed text (the parse = `toInstr`, checked by
`Code.roundTrips` on every compared program). -/
theorem C14_wf_is_monitor_check (code : Code) (i : Instr) (h : code.toInstr = some i) :
    code.wf = true ↔ i.wfError = none := by
  simp [Code.wf, h]

/-- the table stride: `jump_length k` is the byte distance of `k` instructions in the machine's layout -/
theorem C14_stride (k : Nat) : a64Backend.jumpLength k = 4 * (k : Int) ∧ a64Backend.jumpLength 1 = 4 :=
  ⟨rfl, rfl⟩

/-! ## Non-vacuity: `GenWf` is not vacuous — the generators do succeed -/

example : ∃ cs s, (a64Backend.eraseBlock (.spill 7)).run 0 = .ok (cs, s) ∧ allWf cs = true :=
  ⟨_, _, rfl, C14_methods_wf.eraseBlock (.spill 7) (by decide) 0 _ _ rfl⟩

example : ∃ cs s, (a64Backend.store [⟨⟨"a", 1⟩, .ext, .i64⟩, ⟨⟨"b", 2⟩, .prd, .i64⟩] []).run 0 = .ok (cs, s) ∧
    allWf cs = true :=
  ⟨_, _, rfl, C14_methods_wf.store [⟨⟨"a", 1⟩, .ext, .i64⟩, ⟨⟨"b", 2⟩, .prd, .i64⟩] [] 0 _ _ rfl⟩

#print axioms C14_methods_wf
#print axioms C14_stride

end Scc.A64

#print axioms Scc.A64.variableTemporary_ok
#print axioms Scc.A64.C14_wf_is_monitor_check
