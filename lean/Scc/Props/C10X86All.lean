/-
  Scc.Props.C10X86All — property C10 (heap footprint bounded by peak live data) ON CONCRETE x86-64 EXECUTIONS OF
  ALL PROGRAMS — data types AND CLOSURES: the counterpart of Props/C10X86.lean (programs without closures) for the
  closure-aware three-way relation `Scc.X86.Ref.K` of Props/C06X86Full.lean (Scc/X86/ConcK*.lean), with the side
  hypotheses of the composition discharged as in `C06_programs_text` (`C06_setup_of_checks`).

  C10 (fixed text): "Generated code takes fresh memory from the unused part of the heap only when both free
  lists are empty, so at every moment the highest heap address ever written lies at most a small constant
  number of blocks above the peak number of simultaneously reachable blocks. A computation that repeatedly
  builds and drops structures therefore runs in space independent of the number of repetitions."

  NOTIONS: `HeapShapeAt`, `maxHeapWritten`, `withHeapBytes` as in Props/C10X86.lean (raw machine state);
  `ConcK.PeakAtMost … Pk C` — THE PEAK over the statement boundaries `ConcK.BoundaryOf` of the closure-aware
  relation (boundary states up to labels and comments: Props/C09X86All.lean).
  THE CONSTANT `A + 2`, `A = progMaxAlloc p`: the largest number of fields of a `let` OR OF VARIABLES CAPTURED BY A
  `create` of the program — the environment of a closure is stored by the same `Memory::store` as the fields of
  an object, and the memory contract asks for `A + 1` blocks of room before it.

  PROVED (no `sorry`; axioms propext, Classical.choice, Quot.sound):
  * `C10_x86_frontier_bound_all`  under `PeakAtMost Pk`, in a heap of at least `64·(Pk + A + 2)` bytes, the machine
                              passes through a boundary state for every state of the terminating positional run,
                              and at each at most `Pk + 1` blocks lie below the frontier (fresh memory is taken
                              only when both free lists are empty: `FrPk`, also through `create`).
  * `C10_x86_every_prefix_all`    the same for every prefix (any number `fuel` of steps) of every run.
  * `C10_x86_programs`        THEOREM A ∘ B ON THE TEXT under the footprint bound instead of the coarse room
                              hypothesis of `C06_programs_text`: `64·(Pk + A + 2) ≤ heapBytes` and `PeakAtMost Pk`
                              suffice for a run of ANY length (same trace, same result), and the highest heap
                              address written lies inside the heap region.  `C10_x86_programs_items`: on the
                              items, side hypotheses explicit.
  * `C10_x86_footprint_all`   THE FOOTPRINT, on the text: in ANY heap of at least `64·(Pk + A + 2)` bytes the run
                              ends with the same trace and result and `maxHeapWritten ≤ 64·(Pk + A + 2)`,
                              independent of the length of the run and of the size of the heap.
                              `C10_x86_footprint_all_items`: on the items.
  * `C10_x86_size_all`        C10 IN TERMS OF THE SOURCE-LEVEL DATA, ALL RUNS, on the text: let `D` bound the
                              number of fields of the object AND CLOSURE values held by the variables of the
                              positional machine (`valsFields st.env ≤ D` for every reachable state) and let the
                              positional machine never get stuck.  Then in ANY heap of at least `64·(D + A + 2)`
                              bytes, for EVERY machine fuel below `2^64/(M + 1)`, the result is `outOfFuel` or `done v` and
                              the highest heap address written is at most `D + A + 2` blocks above the heap base.
                              `C10_x86_size_all_items`: on the items.
  * `C10_x86_coarse_all`      with `Pk = A·fuel + 1` the peak hypothesis is trivial (`C10_peak_trivial_all`): the
                              footprint of a terminating run of any program in terms of its length.
  * EXAMPLES: `C10_cloProg_footprint` (the closure program of Props/C06X86Full.lean: for every fuel below 2^58 the
                              machine on the text is still running or has returned 42 and never writes above 320
                              bytes of its heap) and `C10_cloLoop_constant_space` (the property's second sentence
                              on a run that never ends: the closure loop of Props/C13X86All.lean writes at most
                              256 bytes above the heap base for every fuel below 2^59 — the environment block is
                              reused in every round).
  KEPT AS `def : Prop` — `C10_x86_statement` (Props/C10X86.lean): constant 2, no side hypotheses, peak measured
  at the `#ctx` hooks.  The theorems here are not restricted to programs without closures.
-/
import Scc.Props.C13X86All

namespace Scc.X86
open Scc.AxCut Scc.Backend Scc.X86.Ref
open Scc.Props.C06Generic (Reachable CodeFits statesOf)
open Scc.Props.C14Generic (LabelSafe)
open Scc.X86.Ref.K (AllocLe progMaxAlloc allocLe_progMaxAlloc)
open Scc.X86.Conc (BChain HeapShapeAt valsFields stmtSize progMaxSize stmtSize_le_progMaxSize withHeapBytes
  machOK_withHeapBytes sub_withHeapBytes runItems_larger_heap stepN_mhw mhwOK_init)

/-- the peak hypothesis is trivial for `Pk = C`: the blocks in use lie below the frontier -/
theorem C10_peak_trivial_all (p : AxCut.Prog) (hooks : Bool) (routine : List Code) (ops : List MockOp)
    (cfg : MonCfg) (items : List (Code × Nat)) (args : List Word) (C : Nat) :
    ConcK.PeakAtMost p hooks routine ops cfg items args C C :=
  ConcK.peakAtMost_trivial p hooks routine ops cfg items args C

/-- THE FRONTIER BOUND ON THE MACHINE, all programs (lift of `C10_frontier_bound`): if at no statement boundary
more than `Pk` blocks are in use, then in a heap of `64·(Pk + A + 2)` bytes the machine passes, in order and
without fault, through a boundary state for EVERY state of the terminating positional run, and at each of them
the heap is consistent with at most `Pk + 1` blocks below the allocation frontier. -/
theorem C10_x86_frontier_bound_all (p : AxCut.Prog) (args : List Word) (hooks : Bool) (body routine : List Code)
    (nargs : Nat) (d0 : Def) (ops : List MockOp) (c' : Nat)
    (hsafe : LabelSafe p = true) (htp : LinTypedProg p) (hrange : ProgInRange p)
    (hcompM : (compile mockSym hooks p).run 0 = .ok ((ops, nargs), c')) (hfit : CodeFits ops)
    (hcompX : compileX86 p hooks 0 = .ok (body, nargs)) (hrout : intoRoutine body nargs = .ok routine)
    (hnd : (labs routine).Nodup)
    (hd : p.defs.head? = some d0) (hentry : ∀ b ∈ d0.ctx, b.chi = .ext ∧ b.ty = .i64)
    (hcap : ∀ st, Reachable p ⟨d0.ctx, args.map .int, d0.body⟩ st → 2 * st.ctx.length ≤ 266)
    (fuel : Nat) (out : List (Bool × Word)) (v : Word) (hfuel : fuel + 1 < 2 ^ 64)
    (hrun : Pos.run p args fuel = ⟨out, .done v⟩)
    (cfg : MonCfg) (MO : MachOK cfg.mach) (hk : cfg.consts = consts)
    (hb8 : cfg.mach.heapBase % 8 = 0) (hb0 : 0 < cfg.mach.heapBase)
    (Pk : Nat) (hbytes : 64 * (Pk + progMaxAlloc p + 2) ≤ cfg.mach.heapBytes)
    (items : List (Code × Nat)) (hitems : (items.map (·.1)).map stripC = routine.map stripC)
    (hfitX : addrAt cfg.mach.codeBase routine routine.length < 2 ^ 64)
    (hP : ConcK.PeakAtMost p hooks routine ops cfg items args Pk (progMaxAlloc p * fuel + 1)) :
    ∃ n0 X0, stepN cfg (mkProg cfg.mach items) n0 (initState cfg.mach args 6) = .inl X0 ∧
      BChain cfg (mkProg cfg.mach items)
        (fun st X => ConcK.BoundaryOf p hooks routine ops cfg st X ∧
          ∃ below inUse, HeapShapeAt cfg X below inUse ∧ below ≤ Pk + 1 ∧ inUse ≤ Pk)
        (statesOf p fuel ⟨d0.ctx, args.map .int, d0.body⟩) X0 := by
  obtain ⟨_, n0, X0, n, XL, h0, hch, _⟩ := ConcK.programs_peak p args hooks body routine nargs d0 ops c' hsafe htp
    ⟨hrange.1, fun d hd => hrange.2 d hd⟩ hcompM hfit hcompX hrout hnd hd hentry hcap fuel out v
    hfuel hrun cfg MO hk hb8 hb0 Pk (progMaxAlloc p) (allocLe_progMaxAlloc p) hbytes items hitems hfitX hP
  exact ⟨n0, X0, h0, hch⟩

/-- THE FRONTIER BOUND FOR EVERY PREFIX OF EVERY RUN (terminating or not), all programs: for ANY number `fuel` of
steps of the positional machine the machine reaches, without fault, a boundary state for every state of the
prefix, with at most `Pk + 1` blocks below the frontier at each -/
theorem C10_x86_every_prefix_all (p : AxCut.Prog) (args : List Word) (hooks : Bool) (body routine : List Code)
    (nargs : Nat) (d0 : Def) (ops : List MockOp) (c' : Nat)
    (hsafe : LabelSafe p = true) (htp : LinTypedProg p) (hrange : ProgInRange p)
    (hcompM : (compile mockSym hooks p).run 0 = .ok ((ops, nargs), c')) (hfit : CodeFits ops)
    (hcompX : compileX86 p hooks 0 = .ok (body, nargs)) (hrout : intoRoutine body nargs = .ok routine)
    (hnd : (labs routine).Nodup)
    (hd : p.defs.head? = some d0) (hentry : ∀ b ∈ d0.ctx, b.chi = .ext ∧ b.ty = .i64)
    (hlen : d0.ctx.length = args.length)
    (hcap : ∀ st, Reachable p ⟨d0.ctx, args.map .int, d0.body⟩ st → 2 * st.ctx.length ≤ 266)
    (fuel : Nat) (hfuel : fuel + 1 < 2 ^ 64)
    (cfg : MonCfg) (MO : MachOK cfg.mach) (hk : cfg.consts = consts)
    (hb8 : cfg.mach.heapBase % 8 = 0) (hb0 : 0 < cfg.mach.heapBase)
    (Pk : Nat) (hbytes : 64 * (Pk + progMaxAlloc p + 2) ≤ cfg.mach.heapBytes)
    (items : List (Code × Nat)) (hitems : (items.map (·.1)).map stripC = routine.map stripC)
    (hfitX : addrAt cfg.mach.codeBase routine routine.length < 2 ^ 64)
    (hP : ConcK.PeakAtMost p hooks routine ops cfg items args Pk (progMaxAlloc p * fuel + 1)) :
    ∃ n0 X0, stepN cfg (mkProg cfg.mach items) n0 (initState cfg.mach args 6) = .inl X0 ∧
      X0.maxHeapWritten ≤ cfg.mach.heapBytes ∧
      BChain cfg (mkProg cfg.mach items)
        (fun st X => ConcK.BoundaryOf p hooks routine ops cfg st X ∧
          ∃ below inUse, HeapShapeAt cfg X below inUse ∧ below ≤ Pk + 1 ∧ inUse ≤ Pk)
        (statesOf p fuel ⟨d0.ctx, args.map .int, d0.body⟩) X0 := by
  obtain ⟨_, n0, X0, h0, hch⟩ := ConcK.programs_prefix p args hooks body routine nargs d0 ops c' hsafe htp
    ⟨hrange.1, fun d hd => hrange.2 d hd⟩ hcompM hfit hcompX hrout hnd hd hentry hlen hcap fuel
    hfuel cfg MO hk hb8 hb0 Pk (progMaxAlloc p) (allocLe_progMaxAlloc p) hbytes items hitems hfitX hP
  exact ⟨n0, X0, h0, stepN_mhw n0 h0 (mhwOK_init cfg.mach args 6), hch⟩

/-- THEOREM A ∘ THEOREM B FOR ALL PROGRAMS UNDER THE FOOTPRINT BOUND, on the items of the routine, side hypotheses
explicit: `C06_programs` with its room hypothesis `128 + 64·134·fuel ≤ heapBytes` replaced by `64·(Pk + A + 2) ≤
heapBytes` and the peak hypothesis — a heap that holds the peak is enough for a run of any length; and the
machine's record of the highest heap address written stays inside the heap region. -/
theorem C10_x86_programs_items (p : AxCut.Prog) (args : List Word) (hooks : Bool) (body routine : List Code)
    (nargs : Nat) (d0 : Def) (ops : List MockOp) (c' : Nat)
    (hsafe : LabelSafe p = true) (htp : LinTypedProg p) (hrange : ProgInRange p)
    (hcompM : (compile mockSym hooks p).run 0 = .ok ((ops, nargs), c')) (hfit : CodeFits ops)
    (hcompX : compileX86 p hooks 0 = .ok (body, nargs)) (hrout : intoRoutine body nargs = .ok routine)
    (hnd : (labs routine).Nodup)
    (hd : p.defs.head? = some d0) (hentry : ∀ b ∈ d0.ctx, b.chi = .ext ∧ b.ty = .i64)
    (hcap : ∀ st, Reachable p ⟨d0.ctx, args.map .int, d0.body⟩ st → 2 * st.ctx.length ≤ 266)
    (fuel : Nat) (out : List (Bool × Word)) (v : Word) (hfuel : fuel + 1 < 2 ^ 64)
    (hrun : Pos.run p args fuel = ⟨out, .done v⟩)
    (cfg : MonCfg) (MO : MachOK cfg.mach) (hk : cfg.consts = consts) (hheap : cfg.heap = false)
    (hb8 : cfg.mach.heapBase % 8 = 0) (hb0 : 0 < cfg.mach.heapBase)
    (Pk : Nat) (hbytes : 64 * (Pk + progMaxAlloc p + 2) ≤ cfg.mach.heapBytes)
    (items : List (Code × Nat)) (hitems : (items.map (·.1)).map stripC = routine.map stripC)
    (hfitX : addrAt cfg.mach.codeBase routine routine.length < 2 ^ 64)
    (hP : ConcK.PeakAtMost p hooks routine ops cfg items args Pk (progMaxAlloc p * fuel + 1)) :
    ∃ fuel', (runItems items args fuel' cfg).out = out ∧ (runItems items args fuel' cfg).res = .done v ∧
      (runItems items args fuel' cfg).maxHeapWritten ≤ cfg.mach.heapBytes :=
  ConcK.programs_peak_items p args hooks body routine nargs d0 ops c' hsafe htp
    ⟨hrange.1, fun d hd => hrange.2 d hd⟩ hcompM hfit hcompX hrout hnd hd hentry hcap fuel out v
    hfuel hrun cfg MO hk hheap hb8 hb0 Pk (progMaxAlloc p) (allocLe_progMaxAlloc p) hbytes items hitems hfitX hP

/-- C10, THE FOOTPRINT ON THE MACHINE, all programs, on the items: let at no statement boundary of the run in a
heap of `64·(Pk + A + 2)` bytes more than `Pk` blocks be in use.  Then in ANY heap at least that large the run
reproduces the trace and the result of the positional machine, and the highest heap address ever written lies
at most `Pk + A + 2` blocks above the heap base — independent of the length of the run and of the size of the
heap. -/
theorem C10_x86_footprint_all_items (p : AxCut.Prog) (args : List Word) (hooks : Bool) (body routine : List Code)
    (nargs : Nat) (d0 : Def) (ops : List MockOp) (c' : Nat)
    (hsafe : LabelSafe p = true) (htp : LinTypedProg p) (hrange : ProgInRange p)
    (hcompM : (compile mockSym hooks p).run 0 = .ok ((ops, nargs), c')) (hfit : CodeFits ops)
    (hcompX : compileX86 p hooks 0 = .ok (body, nargs)) (hrout : intoRoutine body nargs = .ok routine)
    (hnd : (labs routine).Nodup)
    (hd : p.defs.head? = some d0) (hentry : ∀ b ∈ d0.ctx, b.chi = .ext ∧ b.ty = .i64)
    (hcap : ∀ st, Reachable p ⟨d0.ctx, args.map .int, d0.body⟩ st → 2 * st.ctx.length ≤ 266)
    (fuel : Nat) (out : List (Bool × Word)) (v : Word) (hfuel : fuel + 1 < 2 ^ 64)
    (hrun : Pos.run p args fuel = ⟨out, .done v⟩)
    (cfg : MonCfg) (MO : MachOK cfg.mach) (hk : cfg.consts = consts) (hheap : cfg.heap = false)
    (hb8 : cfg.mach.heapBase % 8 = 0) (hb0 : 0 < cfg.mach.heapBase)
    (Pk : Nat) (hbytes : 64 * (Pk + progMaxAlloc p + 2) ≤ cfg.mach.heapBytes)
    (items : List (Code × Nat)) (hitems : (items.map (·.1)).map stripC = routine.map stripC)
    (hfitX : addrAt cfg.mach.codeBase routine routine.length < 2 ^ 64)
    (hP : ConcK.PeakAtMost p hooks routine ops (withHeapBytes cfg (64 * (Pk + progMaxAlloc p + 2))) items args Pk
      (progMaxAlloc p * fuel + 1)) :
    ∃ fuel', (runItems items args fuel' cfg).out = out ∧ (runItems items args fuel' cfg).res = .done v ∧
      (runItems items args fuel' cfg).maxHeapWritten ≤ 64 * (Pk + progMaxAlloc p + 2) := by
  obtain ⟨fuel', h1, h2, h3⟩ := C10_x86_programs_items p args hooks body routine nargs d0 ops c' hsafe htp
    hrange hcompM hfit hcompX hrout hnd hd hentry hcap fuel out v hfuel hrun
    (withHeapBytes cfg (64 * (Pk + progMaxAlloc p + 2))) (machOK_withHeapBytes MO hbytes) hk hheap hb8 hb0 Pk
    (Nat.le_refl _) items hitems hfitX hP
  have e := runItems_larger_heap (sub_withHeapBytes MO hbytes) hheap hheap items args fuel' v h2
  exact ⟨fuel', by rw [e]; exact h1, by rw [e]; exact h2, by rw [e]; exact h3⟩

/-- THEOREM A ∘ THEOREM B FOR ALL PROGRAMS UNDER THE FOOTPRINT BOUND, ON THE TEXT OF THE ROUTINE, side hypotheses
discharged: the hypotheses of `C06_programs_text` with the room hypothesis replaced by the footprint bound (the
peak hypothesis for the mock code and the items of the text; `fuel + 1 < 2^64`) -/
theorem C10_x86_programs (p : AxCut.Prog) (args : List Word) (hooks : Bool) (body routine : List Code)
    (nargs : Nat) (d0 : Def)
    (hsafe : LabelSafe p = true) (htp : LinTypedProg p) (hchk : C06_x86Checks p = true)
    (hcompX : compileX86 p hooks 0 = .ok (body, nargs)) (hrout : intoRoutine body nargs = .ok routine)
    (hd : p.defs.head? = some d0)
    (fuel : Nat) (out : List (Bool × Word)) (v : Word) (hfuel : fuel + 1 < 2 ^ 64)
    (hrun : Pos.run p args fuel = ⟨out, .done v⟩)
    (cfg : MonCfg) (MO : MachOK cfg.mach) (hk : cfg.consts = consts) (hheap : cfg.heap = false)
    (hb8 : cfg.mach.heapBase % 8 = 0) (hb0 : 0 < cfg.mach.heapBase)
    (Pk : Nat) (hbytes : 64 * (Pk + progMaxAlloc p + 2) ≤ cfg.mach.heapBytes)
    (hfitX : addrAt cfg.mach.codeBase routine routine.length < 2 ^ 64)
    (hP : ∀ ops c' items, (compile mockSym hooks p).run 0 = .ok ((ops, nargs), c') →
      parseText (printProg routine) = .ok items →
      ConcK.PeakAtMost p hooks routine ops cfg items args Pk (progMaxAlloc p * fuel + 1)) :
    ∃ fuel', (run (printProg routine) args fuel' cfg).out = out ∧
      (run (printProg routine) args fuel' cfg).res = .done v ∧
      (run (printProg routine) args fuel' cfg).maxHeapWritten ≤ cfg.mach.heapBytes := by
  obtain ⟨ops, c', items, S⟩ := C06_setup_of_checks p args hooks body routine nargs d0 hsafe htp hchk hcompX hrout hd
  obtain ⟨fuel', h1, h2, h3⟩ := C10_x86_programs_items p args hooks body routine nargs d0 ops c' hsafe htp S.range
    S.compM S.fit hcompX hrout S.nd hd S.entry S.cap fuel out v hfuel hrun cfg MO hk hheap hb8 hb0 Pk hbytes items
    S.items hfitX (hP ops c' items S.compM S.parse)
  exact ⟨fuel', by rw [run_eq_runItems S.parse]; exact h1, by rw [run_eq_runItems S.parse]; exact h2,
    by rw [run_eq_runItems S.parse]; exact h3⟩

/-- C10, THE FOOTPRINT, ALL PROGRAMS, ON THE TEXT OF THE ROUTINE: the machine's entry point `run` on the printed
routine reproduces trace and result and never writes above `Pk + A + 2` blocks of its heap -/
theorem C10_x86_footprint_all (p : AxCut.Prog) (args : List Word) (hooks : Bool) (body routine : List Code)
    (nargs : Nat) (d0 : Def)
    (hsafe : LabelSafe p = true) (htp : LinTypedProg p) (hchk : C06_x86Checks p = true)
    (hcompX : compileX86 p hooks 0 = .ok (body, nargs)) (hrout : intoRoutine body nargs = .ok routine)
    (hd : p.defs.head? = some d0)
    (fuel : Nat) (out : List (Bool × Word)) (v : Word) (hfuel : fuel + 1 < 2 ^ 64)
    (hrun : Pos.run p args fuel = ⟨out, .done v⟩)
    (cfg : MonCfg) (MO : MachOK cfg.mach) (hk : cfg.consts = consts) (hheap : cfg.heap = false)
    (hb8 : cfg.mach.heapBase % 8 = 0) (hb0 : 0 < cfg.mach.heapBase)
    (Pk : Nat) (hbytes : 64 * (Pk + progMaxAlloc p + 2) ≤ cfg.mach.heapBytes)
    (hfitX : addrAt cfg.mach.codeBase routine routine.length < 2 ^ 64)
    (hP : ∀ ops c' items, (compile mockSym hooks p).run 0 = .ok ((ops, nargs), c') →
      parseText (printProg routine) = .ok items →
      ConcK.PeakAtMost p hooks routine ops (withHeapBytes cfg (64 * (Pk + progMaxAlloc p + 2))) items args Pk
        (progMaxAlloc p * fuel + 1)) :
    ∃ fuel', (run (printProg routine) args fuel' cfg).out = out ∧
      (run (printProg routine) args fuel' cfg).res = .done v ∧
      (run (printProg routine) args fuel' cfg).maxHeapWritten ≤ 64 * (Pk + progMaxAlloc p + 2) := by
  obtain ⟨ops, c', items, S⟩ := C06_setup_of_checks p args hooks body routine nargs d0 hsafe htp hchk hcompX hrout hd
  obtain ⟨fuel', h1, h2, h3⟩ := C10_x86_footprint_all_items p args hooks body routine nargs d0 ops c' hsafe htp S.range
    S.compM S.fit hcompX hrout S.nd hd S.entry S.cap fuel out v hfuel hrun cfg MO hk hheap hb8 hb0 Pk hbytes items
    S.items hfitX (hP ops c' items S.compM S.parse)
  exact ⟨fuel', by rw [run_eq_runItems S.parse]; exact h1, by rw [run_eq_runItems S.parse]; exact h2,
    by rw [run_eq_runItems S.parse]; exact h3⟩

/-- with `Pk = A·fuel + 1` the peak hypothesis is trivial: the footprint of a terminating run of ANY program in
terms of its length -/
theorem C10_x86_coarse_all (p : AxCut.Prog) (args : List Word) (hooks : Bool) (body routine : List Code)
    (nargs : Nat) (d0 : Def)
    (hsafe : LabelSafe p = true) (htp : LinTypedProg p) (hchk : C06_x86Checks p = true)
    (hcompX : compileX86 p hooks 0 = .ok (body, nargs)) (hrout : intoRoutine body nargs = .ok routine)
    (hd : p.defs.head? = some d0)
    (fuel : Nat) (out : List (Bool × Word)) (v : Word) (hfuel : fuel + 1 < 2 ^ 64)
    (hrun : Pos.run p args fuel = ⟨out, .done v⟩)
    (cfg : MonCfg) (MO : MachOK cfg.mach) (hk : cfg.consts = consts) (hheap : cfg.heap = false)
    (hb8 : cfg.mach.heapBase % 8 = 0) (hb0 : 0 < cfg.mach.heapBase)
    (hbytes : 64 * (progMaxAlloc p * fuel + 1 + progMaxAlloc p + 2) ≤ cfg.mach.heapBytes)
    (hfitX : addrAt cfg.mach.codeBase routine routine.length < 2 ^ 64) :
    ∃ fuel', (run (printProg routine) args fuel' cfg).out = out ∧
      (run (printProg routine) args fuel' cfg).res = .done v ∧
      (run (printProg routine) args fuel' cfg).maxHeapWritten ≤
        64 * (progMaxAlloc p * fuel + 1 + progMaxAlloc p + 2) :=
  C10_x86_footprint_all p args hooks body routine nargs d0 hsafe htp hchk hcompX hrout hd fuel out v hfuel hrun cfg
    MO hk hheap hb8 hb0 (progMaxAlloc p * fuel + 1) hbytes hfitX
    (fun _ _ _ _ _ => C10_peak_trivial_all _ _ _ _ _ _ _ _)

/-- C10, ALL RUNS OF ALL PROGRAMS, IN TERMS OF THE DATA OF THE POSITIONAL MACHINE, on the items, side hypotheses
explicit: if the object and closure values held by the variables never have more than `D` fields in total (over
all reachable states of the AxCut positional machine) and that machine never gets stuck (`hnostuck`), then in any
heap of at least `64·(D + A + 2)` bytes the machine, for every amount of fuel (below `2^64 / (M + 1)`, `M =
progMaxSize p`), is still running or has returned the result of the positional machine, and has never written
above `D + A + 2` blocks of its heap. -/
theorem C10_x86_size_all_items (p : AxCut.Prog) (args : List Word) (hooks : Bool) (body routine : List Code)
    (nargs : Nat) (d0 : Def) (ops : List MockOp) (c' : Nat)
    (hsafe : LabelSafe p = true) (htp : LinTypedProg p) (hrange : ProgInRange p)
    (hcompM : (compile mockSym hooks p).run 0 = .ok ((ops, nargs), c')) (hfit : CodeFits ops)
    (hcompX : compileX86 p hooks 0 = .ok (body, nargs)) (hrout : intoRoutine body nargs = .ok routine)
    (hnd : (labs routine).Nodup)
    (hd : p.defs.head? = some d0) (hentry : ∀ b ∈ d0.ctx, b.chi = .ext ∧ b.ty = .i64)
    (hlen : d0.ctx.length = args.length)
    (hcap : ∀ st, Reachable p ⟨d0.ctx, args.map .int, d0.body⟩ st → 2 * st.ctx.length ≤ 266)
    (hnostuck : ∀ fuel w, (Pos.run p args fuel).res ≠ .stuck w)
    (D : Nat) (hD : ∀ st, Reachable p ⟨d0.ctx, args.map .int, d0.body⟩ st → valsFields st.env ≤ D)
    (cfg : MonCfg) (MO : MachOK cfg.mach) (hheap : cfg.heap = false)
    (hb8 : cfg.mach.heapBase % 8 = 0) (hb0 : 0 < cfg.mach.heapBase)
    (hbytes : 64 * (D + progMaxAlloc p + 2) ≤ cfg.mach.heapBytes)
    (items : List (Code × Nat)) (hitems : (items.map (·.1)).map stripC = routine.map stripC)
    (hfitX : addrAt cfg.mach.codeBase routine routine.length < 2 ^ 64)
    (fuel' : Nat) (hf : fuel' * (progMaxSize p + 1) + stmtSize d0.body + 1 < 2 ^ 64) :
    ((runItems items args fuel' cfg).res = .outOfFuel ∨
      ∃ v out, Pos.run p args (fuel' * (progMaxSize p + 1) + stmtSize d0.body) = ⟨out, .done v⟩ ∧
        (runItems items args fuel' cfg).res = .done v) ∧
    (runItems items args fuel' cfg).maxHeapWritten ≤ 64 * (D + progMaxAlloc p + 2) :=
  ConcK.programs_dsize_all p args hooks body routine nargs d0 ops c' hsafe htp
    ⟨hrange.1, fun d hd => hrange.2 d hd⟩ hcompM hfit hcompX hrout hnd hd hentry hlen hcap hnostuck
    D hD cfg MO hheap hb8 hb0 (progMaxAlloc p) (progMaxSize p) (allocLe_progMaxAlloc p) (stmtSize_le_progMaxSize p)
    hbytes items hitems hfitX fuel' hf

/-- … ON THE TEXT OF THE ROUTINE, side hypotheses discharged -/
theorem C10_x86_size_all (p : AxCut.Prog) (args : List Word) (hooks : Bool) (body routine : List Code)
    (nargs : Nat) (d0 : Def)
    (hsafe : LabelSafe p = true) (htp : LinTypedProg p) (hchk : C06_x86Checks p = true)
    (hcompX : compileX86 p hooks 0 = .ok (body, nargs)) (hrout : intoRoutine body nargs = .ok routine)
    (hd : p.defs.head? = some d0) (hargs : args.length = nargs)
    (hnostuck : ∀ fuel w, (Pos.run p args fuel).res ≠ .stuck w)
    (D : Nat) (hD : ∀ st, Reachable p ⟨d0.ctx, args.map .int, d0.body⟩ st → valsFields st.env ≤ D)
    (cfg : MonCfg) (MO : MachOK cfg.mach) (hheap : cfg.heap = false)
    (hb8 : cfg.mach.heapBase % 8 = 0) (hb0 : 0 < cfg.mach.heapBase)
    (hbytes : 64 * (D + progMaxAlloc p + 2) ≤ cfg.mach.heapBytes)
    (hfitX : addrAt cfg.mach.codeBase routine routine.length < 2 ^ 64)
    (fuel' : Nat) (hf : fuel' * (progMaxSize p + 1) + stmtSize d0.body + 1 < 2 ^ 64) :
    ((run (printProg routine) args fuel' cfg).res = .outOfFuel ∨
      ∃ v out, Pos.run p args (fuel' * (progMaxSize p + 1) + stmtSize d0.body) = ⟨out, .done v⟩ ∧
        (run (printProg routine) args fuel' cfg).res = .done v) ∧
    (run (printProg routine) args fuel' cfg).maxHeapWritten ≤ 64 * (D + progMaxAlloc p + 2) := by
  obtain ⟨ops, c', items, S⟩ := C06_setup_of_checks p args hooks body routine nargs d0 hsafe htp hchk hcompX hrout hd
  rw [run_eq_runItems S.parse]
  exact C10_x86_size_all_items p args hooks body routine nargs d0 ops c' hsafe htp S.range S.compM S.fit hcompX hrout
    S.nd hd S.entry (by rw [← S.nargs, hargs]) S.cap hnostuck D hD cfg MO hheap hb8 hb0 hbytes items S.items hfitX
    fuel' hf

/-- every hypothesis of `C10_x86_coarse_all` holds for the closure program started with x = 37 (one variable per
closure environment, the trivial peak `1·20 + 1`): the machine on the text of the routine prints 42, returns 42,
and never writes above 64·24 bytes of its heap -/
example : ∃ fuel',
    (run (printProg C06_cloRoutine) [37] fuel' {}).out = [(true, 42)] ∧
    (run (printProg C06_cloRoutine) [37] fuel' {}).res = .done 42 ∧
    (run (printProg C06_cloRoutine) [37] fuel' {}).maxHeapWritten ≤ 64 * (1 * 20 + 1 + 1 + 2) := by
  have e1 := C06_cloProg_consts.1
  have key := C10_x86_coarse_all C06_cloProg [37] true C06_cloBody C06_cloRoutine 1 C06_cloMain
    C06_cloProg_labelSafe C06_cloProg_typed C06_cloProg_checks C06_cloProg_compiles.1 C06_cloProg_compiles.2 rfl 20 _ _ (by decide) C06_cloProg_run {}
    machOK_default rfl rfl (by decide) (by decide) (by rw [e1]; decide) C06_cloRoutine_fits
  rw [e1] at key
  exact key

/-- THE CLOSURE PROGRAM IN FIVE BLOCKS: for EVERY fuel below 2^58 the machine on the text of the routine is still
running or has returned 42, and it never writes above 320 bytes of its heap (`D = 2`: at no state do the
variables hold more than two fields of closure data — `g` captures `f`, which captures `x`) -/
theorem C10_cloProg_footprint (fuel' : Nat) (hf : fuel' < 2 ^ 58) :
    ((run (printProg C06_cloRoutine) [37] fuel' {}).res = .outOfFuel ∨
      (run (printProg C06_cloRoutine) [37] fuel' {}).res = .done 42) ∧
    (run (printProg C06_cloRoutine) [37] fuel' {}).maxHeapWritten ≤ 320 := by
  obtain ⟨e1, e2, e3⟩ := C06_cloProg_consts
  obtain ⟨hnostuck, huniq⟩ := C10_done_unique C06_cloProg_run
  have key := C10_x86_size_all C06_cloProg [37] true C06_cloBody C06_cloRoutine 1 C06_cloMain
    C06_cloProg_labelSafe C06_cloProg_typed C06_cloProg_checks C06_cloProg_compiles.1 C06_cloProg_compiles.2 rfl rfl hnostuck 2
    C06_cloProg_size
    {} machOK_default rfl (by decide) (by decide) (by rw [e1]; decide) C06_cloRoutine_fits
    fuel' (by rw [e2, e3]; omega)
  rw [e1] at key
  refine ⟨?_, key.2⟩
  rcases key.1 with h | ⟨v, out, hdone, h⟩
  · exact Or.inl h
  · right
    rw [huniq _ out v hdone] at h
    exact h

/-- THE CLOSURE LOOP RUNS FOREVER IN FOUR BLOCKS: `main(x) { create f = (x){ Ap(a) => main(a) }; lit n <- 5;
invoke f Ap(n) }` (Props/C13X86All.lean), started with x = 5 in the default configuration (a 32 MiB heap): for
EVERY fuel below 2^59 the machine on the TEXT of the routine is still running (`outOfFuel`: it never faults and
never returns) and the highest heap address it has written lies at most 256 bytes above the heap base — the
environment block of the closure is reused in every round: space independent of the number of repetitions. -/
theorem C10_cloLoop_constant_space (fuel' : Nat) (hf : fuel' < 2 ^ 59) :
    (run (printProg C13_cloLoopRoutine) [5] fuel' {}).res = .outOfFuel ∧
    (run (printProg C13_cloLoopRoutine) [5] fuel' {}).maxHeapWritten ≤ 256 := by
  obtain ⟨e1, e2, e3⟩ := C13_cloLoop_consts
  have key := C10_x86_size_all C13_cloLoopProg [5] true C13_cloLoopBody C13_cloLoopRoutine 1 C13_cloLoopMain
    C13_cloLoopProg_labelSafe C13_cloLoopProg_typed C13_cloLoopProg_checks C13_cloLoopProg_compiles.1 C13_cloLoopProg_compiles.2 rfl rfl
    C13_cloLoop_nostuck 1 C13_cloLoop_size
    {} machOK_default rfl (by decide) (by decide) (by rw [e1]; decide) C13_cloLoopRoutine_fits
    fuel' (by rw [e2, e3]; omega)
  rw [e1] at key
  refine ⟨?_, key.2⟩
  rcases key.1 with h | ⟨v, out, hdone, _⟩
  · exact h
  · exfalso
    have hrs : Pos.run C13_cloLoopProg [5] (fuel' * (progMaxSize C13_cloLoopProg + 1) + stmtSize C13_cloLoopMain.body) =
        Pos.runState C13_cloLoopProg _ C13_cloS0 [] := Conc.run_eq_runState rfl rfl _
    have := (C13_cloLoop_runs (fuel' * (progMaxSize C13_cloLoopProg + 1) + stmtSize C13_cloLoopMain.body) []).1
    rw [← hrs, hdone] at this
    cases this

end Scc.X86

#print axioms Scc.X86.C10_peak_trivial_all
#print axioms Scc.X86.C10_x86_frontier_bound_all
#print axioms Scc.X86.C10_x86_every_prefix_all
#print axioms Scc.X86.C10_x86_programs_items
#print axioms Scc.X86.C10_x86_footprint_all_items
#print axioms Scc.X86.C10_x86_programs
#print axioms Scc.X86.C10_x86_footprint_all
#print axioms Scc.X86.C10_x86_coarse_all
#print axioms Scc.X86.C10_x86_size_all_items
#print axioms Scc.X86.C10_x86_size_all
#print axioms Scc.X86.C10_cloProg_footprint
#print axioms Scc.X86.C10_cloLoop_constant_space
