/-
Scc.Props.C10 — heap footprint (DESIGN.md §5 C10 T-full / T3, on the heap model).

C10 (fixed text): "Generated code takes fresh memory from the unused part of the heap only when both
free lists are empty, so at every moment the highest heap address ever written lies at most a small
constant number of blocks above the peak number of simultaneously reachable blocks. A computation
that repeatedly builds and drops structures therefore runs in space independent of the number of
repetitions."

Precise form proved here: `acquire_block` moves the frontier (by exactly one block) iff the linear
free list consists of the block being handed out and the deferred list is empty; along every
well-formed history `blocksBelowFrontier ≤ peakLive + 1`, where `peakLive` is the maximum over the op
boundaries of the number of blocks that are neither on the linear free list nor on the deferred list,
i.e. the reachable blocks INCLUDING those waiting beneath a deferred block (a deferred block keeps its
children alive until it is reused; counting only blocks reachable from the roots the bound is false:
drop a list of n cells and allocate nothing afterwards).  The constant 1 is the never-empty linear
free list and is attained by the initial state (1 block below the frontier, 0 live).  Every heap word
ever written lies below `frontier + 64` (the model faults on any access outside `[base, limit)` and
the invariant keeps everything from the frontier on zero).
-/
import Scc.Heap.ProofsHist

namespace Scc.Heap

/-- `acquire_block` takes fresh memory only when both free lists are exhausted. -/
theorem C10_bump_only_when_empty {s s' : HState} {b : Nat} {roots pend : List Nat}
    (h : InvP s roots pend) (hroom : s.frontier + 128 ≤ s.limit)
    (hacq : acquire s = .ok (s', b)) (hF : s'.frontier ≠ s.frontier) :
    s.linList = [b] ∧ s.freeList = [s.frontier] ∧ s'.frontier = s.frontier + 64 := by
  obtain ⟨lin, lazy, live, F, hi⟩ := h
  have hFe := hi.frontier_eq
  obtain ⟨s'', lin', lazy', live', F', hacq', _, _, hmem, hi', hd⟩ :=
    acquire_spec hi (fun _ _ => by rw [← hFe]; exact hroom)
  rw [hacq] at hacq'
  injection hacq' with e
  injection e with e1 e2
  subst e1
  have hFe' := hi'.frontier_eq
  rcases hd with ⟨h1, _⟩ | ⟨h1, h2, h3, _⟩
  · exact absurd (by rw [hFe', hFe, h1]) hF
  · refine ⟨?_, ?_, by rw [hFe', hFe, h1]⟩
    · rw [hi.linList_eq, e2]
      match lin, h2, hmem with
      | [x], _, hm => simp at hm; rw [hm]
    · rw [hi.freeList_eq, h3, hFe]; rfl

/-- Conversely, when both are exhausted (and there is room) the frontier moves by one block. -/
theorem C10_bump_when_empty {s : HState} {roots pend : List Nat}
    (h : InvP s roots pend) (hroom : s.frontier + 128 ≤ s.limit)
    (hlin : s.linList.length = 1) (hfree : s.freeList.length = 1) :
    ∃ s', acquire s = .ok (s', s.heap) ∧ s'.frontier = s.frontier + 64 := by
  obtain ⟨lin, lazy, live, F, hi⟩ := h
  have hFe := hi.frontier_eq
  obtain ⟨s', lin', lazy', live', F', hacq', _, _, _, hi', hd⟩ :=
    acquire_spec hi (fun _ _ => by rw [← hFe]; exact hroom)
  refine ⟨s', hacq', ?_⟩
  rw [hi'.frontier_eq, hFe]
  rcases hd with ⟨_, h2⟩ | ⟨h1, _⟩
  · exfalso; apply h2
    rw [hi.linList_eq] at hlin
    rw [hi.freeList_eq] at hfree
    refine ⟨hlin, ?_⟩
    simp only [List.length_append, List.length_cons, List.length_nil] at hfree
    exact List.length_eq_zero_iff.mp (by omega)
  · exact h1

/-- C10: along every well-formed history the number of blocks below the frontier is at most the
peak number of live blocks plus one. -/
def C10_statement : Prop :=
  ∀ (base limit : Nat) (ops : List HOp), 0 < base →
    WfOps (init base limit, []) ops →
    base + 64 * (storeCost ops + 2) ≤ limit →
    ∃ s roots, applyOps (init base limit, []) ops = .ok (s, roots) ∧
      s.blocksBelowFrontier ≤ peakLive (init base limit, []) ops + 1

theorem C10_frontier_bound : C10_statement := by
  intro base limit ops hb hwf hroom
  obtain ⟨s, roots, lin, lazy, live, F, hap, hsame, hi, hbound⟩ :=
    applyOps_spec ops 0 (init_inv hb (by omega)) hwf
      (by show base + 64 + 64 * storeCost ops + 64 ≤ limit; omega)
      (by show (base + 64 - base) / 64 ≤ 0 + 1; omega)
  refine ⟨s, roots, hap, ?_⟩
  rw [hi.blocksBelowFrontier_eq, hsame.base]
  have : (init base limit).base = base := rfl
  rw [this] at hbound
  omega

/-- Space independent of the number of repetitions: if at no op boundary more than `P` blocks are
live, the frontier never rises above `P + 1` blocks, however long the history is. -/
theorem C10_space_independent_of_length (base limit P : Nat) (ops : List HOp) (hb : 0 < base)
    (hwf : WfOps (init base limit, []) ops) (hroom : base + 64 * (storeCost ops + 2) ≤ limit)
    (hP : peakLive (init base limit, []) ops ≤ P) :
    ∃ s roots, applyOps (init base limit, []) ops = .ok (s, roots) ∧
      s.frontier ≤ base + 64 * (P + 1) := by
  obtain ⟨s, roots, lin, lazy, live, F, hap, hsame, hi, hbound⟩ :=
    applyOps_spec ops 0 (init_inv hb (by omega)) hwf
      (by show base + 64 + 64 * storeCost ops + 64 ≤ limit; omega)
      (by show (base + 64 - base) / 64 ≤ 0 + 1; omega)
  refine ⟨s, roots, hap, ?_⟩
  rw [hi.frontier_eq]
  have hFb := hi.frontier_block
  rw [hsame.base] at hFb
  have : (init base limit).base = base := rfl
  rw [this] at hbound hFb
  unfold IsBlock at hFb
  omega

/-- The constant 1 cannot be improved: the initial state has one block below the frontier and no
live block. -/
theorem C10_constant_tight (base limit : Nat) (hb : 0 < base) (hl : base + 128 ≤ limit) :
    (init base limit).blocksBelowFrontier = (init base limit).liveCount + 1 := by
  have hi := init_inv hb hl
  rw [hi.blocksBelowFrontier_eq, hi.liveCount_eq]
  show (base + 64 - base) / 64 = 0 + 1
  omega

example : ∃ s', acquire (init 4096 8192) = .ok (s', 4096) ∧ s'.frontier = 4096 + 64 + 64 := by
  have hi : InvP (init 4096 8192) [] [] := ⟨_, _, _, _, init_inv (by omega) (by omega)⟩
  have hf : (init 4096 8192).frontier = 4096 + 64 := (init_inv (by omega) (by omega)).frontier_eq
  have hl : (init 4096 8192).linList = [4096] := (init_inv (by omega) (by omega)).linList_eq
  have hfl : (init 4096 8192).freeList = [] ++ [4096 + 64] := (init_inv (by omega) (by omega)).freeList_eq
  obtain ⟨s', h1, h2⟩ := C10_bump_when_empty hi (by rw [hf]; show 4096 + 64 + 128 ≤ 8192; omega) (by rw [hl]; rfl) (by rw [hfl]; rfl)
  exact ⟨s', h1, by rw [h2, hf]⟩

example : ∃ s roots, applyOps (init 4096 8192, []) [.store [.int 1, .int 2]] = .ok (s, roots) ∧
    s.blocksBelowFrontier ≤ peakLive (init 4096 8192, []) [.store [.int 1, .int 2]] + 1 :=
  C10_frontier_bound 4096 8192 _ (by omega) ⟨⟨[], rfl⟩, fun _ _ => trivial⟩ (by simp [storeCost])

#print axioms C10_bump_only_when_empty
#print axioms C10_bump_when_empty
#print axioms C10_frontier_bound
#print axioms C10_space_independent_of_length
#print axioms C10_constant_tight

end Scc.Heap
