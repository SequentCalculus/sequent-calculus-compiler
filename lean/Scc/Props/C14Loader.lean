/-
  Scc.Props.C14Loader — THE LOADER ROUND TRIP (a C14 fact: the emitted text is well-formed assembly that
  the machine's parser reads back as the emitted items).

  PROVED (for ALL routines, no evaluation):
    `C14_splitLines`            `Str.splitLines s = s.splitOn "\n"`: the legacy `String.splitOn`, which has no
                                lemmas in core and does not reduce in the kernel, characterised from its
                                implementation (`String.splitOnAux`) for every string and every one-character
                                separator (`Str.splitOn_singleton`); `C14_splitOn_intercalate`: splitting the
                                `intercalate` of newline-free lines gives the lines back.
    `C14_parseLine_printCode`   per item: `parseLine (printCode c) = some (some c)` for every constructor of
                                `X86.Code` except `LAB` (two lines, `C14_label_lines`) and `COMMENT` (text
                                trimmed, `C14_comment_line`), all operand forms.
    `C14_loader` = `C06_loader_statement` AS A THEOREM: every routine whose items pass `codeTextOK` loads
                                (`TextLoads`); `C14_loader_exact`: without comments the items are read back
                                exactly.
    `C14_textLoadsB_complete`   the executable check `C01_textLoadsB` is TRUE on every text-safe routine
                                (its soundness is `C01_textLoadsB_sound`, Props/C01.lean).
    `C14_routine_loads`         EVERY ROUTINE OF THE BACKEND MODEL LOADS: for every program in range
                                (`ProgInRange`) whose names are text-safe (`C14_namesTextSafe`, DECIDABLE, a
                                check on the NAMES of the linearized program only: identifiers consist of
                                symbol characters, type names have no line break, the mangled name of every
                                type a `switch`/`create` dispatches on consists of symbol characters), the
                                routine `intoRoutine (compileX86 p)` satisfies `TextLoads` — for all programs,
                                both hook settings, every counter start, no evaluation of the parser.
                                Through: `C14_routine_textOK` (every item passes `codeTextOK`), which rests on
                                the generic lifting `Loader.post_compileR_names` (which strings the generic
                                generator hands to label / comment methods: `f_`, `Ty_7`, `Ty_7_Cons`, `lab7`,
                                `cleanup`; comments built from names) and on the x86-64 instance
                                `Loader.opsNames_x86` (every backend method, memory methods included).
                                NOTE `LabelSafe` alone does not give it: `LabelSafe` speaks about collisions
                                of names, not about their characters (a definition named `a b` is `LabelSafe`
                                and its label `a b_` does not parse: `C14_names_needed`).
    `C14_wfCheck_items`         the validator `wfCheck` on the text of a backend routine is `wfItems` on items that
                                agree with the routine up to comment text (never `PARSE-ERROR`);
    `C14_routineLoadsB_true`    hence the executable `C01_routineLoadsB` is TRUE without evaluation, and
    `C06_int_programs_loaded`   `C06_int_programs_text` WITHOUT the hypothesis `TextLoads` (Theorem A ∘ B on the
                                text of the routine, for integer programs with text-safe names);
    (`C01_intChecks_of_names`, Props/C01Loader.lean: the decidable `C01_intChecks` follows from capacity, `IntProg`,
                                range and the names check, no parser run.)
  NOT proved here: that every program the front end accepts has text-safe names at stage 5 (the check
  `C14_namesTextSafe` is evaluated per program; it holds on all 249 accepted programs of /repo and of
  /verif/gen/corpus).
  Proofs: Scc/StringLemmas.lean, Scc/X86/Loader{Lemmas,Instr,Code,Text,Names,X86Names}.lean.
-/
import Scc.Props.C06X86
import Scc.Props.C01Checks
import Scc.X86.LoaderText
import Scc.X86.LoaderX86Names

namespace Scc.X86

open Scc.X86.Loader

theorem C14_splitLines (s : String) : Scc.Str.splitLines s = s.splitOn "\n" := Scc.Str.splitLines_eq s

theorem C14_splitOn_intercalate (l : String) (ls : List String) (h : ∀ x ∈ l :: ls, '\n' ∉ x.toList) :
    ("\n".intercalate (l :: ls)).splitOn "\n" = l :: ls := Scc.Str.splitOn_newline_intercalate l ls h

example : ("\n".intercalate ["    mov rax, 1", "", "lab0:"]).splitOn "\n" = ["    mov rax, 1", "", "lab0:"] :=
  C14_splitOn_intercalate _ _ (by decide)

/-! ## the executable range check of Props/C01Checks.lean gives `ProgInRange` -/

open Scc.Props (C01_progInRangeB C01_stmtRangeB C01_clausesRangeB) in
mutual
  theorem C06_stmtRange_sound : ∀ s : AxCut.Stmt, C01_stmtRangeB s = true →
      StmtB (fun n => fitsI64 n = true) maxSubstX86 s
    | .subst pairs next, h => by
      simp only [C01_stmtRangeB, Bool.and_eq_true, decide_eq_true_eq] at h
      simp only [StmtB]
      exact ⟨h.1, C06_stmtRange_sound next h.2⟩
    | .call _ _, _ => by simp [StmtB]
    | .letS _ _ _ _ next _, h => by
      simp only [C01_stmtRangeB] at h; simp only [StmtB]; exact C06_stmtRange_sound next h
    | .switch _ _ cl _, h => by
      simp only [C01_stmtRangeB] at h; simp only [StmtB]; exact C06_clausesRange_sound cl h
    | .create _ _ _ cl next _ _, h => by
      simp only [C01_stmtRangeB, Bool.and_eq_true] at h
      simp only [StmtB]
      exact ⟨C06_clausesRange_sound cl h.1, C06_stmtRange_sound next h.2⟩
    | .invoke _ _ _ _, _ => by simp [StmtB]
    | .lit _ n next _, h => by
      simp only [C01_stmtRangeB, Bool.and_eq_true] at h
      simp only [StmtB]
      exact ⟨h.1, C06_stmtRange_sound next h.2⟩
    | .op _ _ _ _ next _, h => by
      simp only [C01_stmtRangeB] at h; simp only [StmtB]; exact C06_stmtRange_sound next h
    | .print _ _ next _, h => by
      simp only [C01_stmtRangeB] at h; simp only [StmtB]; exact C06_stmtRange_sound next h
    | .ifc _ _ _ t e, h => by
      simp only [C01_stmtRangeB, Bool.and_eq_true] at h
      simp only [StmtB]
      exact ⟨C06_stmtRange_sound t h.1, C06_stmtRange_sound e h.2⟩
    | .exit _, _ => by simp [StmtB]
  theorem C06_clausesRange_sound : ∀ cl : AxCut.Clauses, C01_clausesRangeB cl = true →
      ClausesB (fun n => fitsI64 n = true) maxSubstX86 cl
    | .nil, _ => by simp [ClausesB]
    | .cons _ _ body rest, h => by
      simp only [C01_clausesRangeB, Bool.and_eq_true] at h
      simp only [ClausesB]
      exact ⟨C06_stmtRange_sound body h.1, C06_clausesRange_sound rest h.2⟩
end

open Scc.Props (C01_progInRangeB) in
theorem C06_progInRange_of_check {q : AxCut.Prog} (h : C01_progInRangeB q = true) : ProgInRange q := by
  simp only [C01_progInRangeB, Bool.and_eq_true, List.all_eq_true, decide_eq_true_eq] at h
  exact ⟨fun d hd => h.1 d hd, fun d hd => C06_stmtRange_sound d.body (h.2 d hd)⟩

/-! ## from the decidable `codeTextOK` to the proof-side `CodeOK` -/

theorem symOKC_of_symOK {s : String} (h : symOK s = true) : symOKC s.toList := by
  simp only [symOK, Bool.and_eq_true, Bool.not_eq_true', List.all_eq_true, bne_iff_ne, ne_eq,
    Option.isNone_iff_eq_none] at h
  obtain ⟨⟨⟨h1, h2⟩, h3⟩, h4⟩ := h
  refine ⟨?_, h2, by rw [String.ofList_toList]; exact h3, h4⟩
  intro e
  have : s = "" := String.toList_eq_nil_iff.1 e
  rw [String.isEmpty_eq_false_iff] at h1
  exact h1 this

theorem codeOK_of_codeTextOK {c : Code} (h : codeTextOK c = true) : CodeOK c := by
  simp only [codeTextOK, Bool.and_eq_true, List.all_eq_true, decide_eq_true_eq] at h
  obtain ⟨⟨⟨h1, h2⟩, h3⟩, h4⟩ := h
  refine ⟨h1, ?_, ?_, ?_, ?_⟩
  · intro l hl; rw [hl] at h3; exact symOKC_of_symOK h3
  · intro l hl; rw [hl] at h2; exact symOKC_of_symOK h2
  · intro f hf; subst hf; exact symOKC_of_symOK h4
  · intro m hm; subst hm
    simp only [List.all_eq_true, bne_iff_ne, ne_eq] at h4
    exact fun hmem => h4 _ hmem rfl

theorem loader_stripC_eq : Loader.stripC = Ref.stripC := by
  funext c
  cases c <;> rfl

/-- every one-line item (anything but a label or a comment) with text-safe operands is read back
    exactly, and its printed form is a single line -/
theorem C14_parseLine_printCode (c : Code) (h : codeTextOK c = true) (hlab : ∀ l, c ≠ .LAB l)
    (hcom : ∀ m, c ≠ .COMMENT m) :
    parseLine (printCode c) = some (some c) ∧ '\n' ∉ (printCode c).toList :=
  parseLine_printCode c (codeOK_of_codeTextOK h) hlab hcom

/-- a label is printed as an empty line (skipped) and `L:`, which is read back as the label -/
theorem C14_label_lines (l : String) (h : codeTextOK (.LAB l) = true) :
    printCode (.LAB l) = "\n" ++ (l ++ ":") ∧ parseLine "" = none ∧
    parseLine (l ++ ":") = some (some (.LAB l)) ∧ '\n' ∉ (l ++ ":").toList :=
  let r := reads_LAB l (codeOK_of_codeTextOK h)
  ⟨r.1, parseLine_empty, r.2⟩

/-- a comment is one line that is read back as a comment (with its text trimmed) -/
theorem C14_comment_line (m : String) (h : codeTextOK (.COMMENT m) = true) :
    (∃ m', parseLine (printCode (.COMMENT m)) = some (some (.COMMENT m'))) ∧
    '\n' ∉ (printCode (.COMMENT m)).toList :=
  ⟨⟨_, (reads_COMMENT m (codeOK_of_codeTextOK h)).1⟩, (reads_COMMENT m (codeOK_of_codeTextOK h)).2⟩

example : parseLine (printCode (.ADDIM 0 (-16) (-9223372036854775808))) =
    some (some (.ADDIM 0 (-16) (-9223372036854775808))) :=
  (C14_parseLine_printCode _ (by decide) (fun _ h => by cases h) (fun _ h => by cases h)).1

example : parseLine (printCode (.LEAL 12 "lab7_Cons")) = some (some (.LEAL 12 "lab7_Cons")) :=
  (C14_parseLine_printCode _ (by decide) (fun _ h => by cases h) (fun _ h => by cases h)).1

/-- **`C06_loader_statement` IS A THEOREM**: the printed text of a routine whose items are text-safe is
    read back by the machine's parser, up to the text of comments -/
theorem C14_loader : C06_loader_statement := by
  intro routine h
  obtain ⟨items, h1, h2⟩ := parseText_printProg routine (fun c hc => codeOK_of_codeTextOK (h c hc))
  rw [loader_stripC_eq] at h2
  exact ⟨items, h1, h2⟩

/-- without comments the items are read back exactly -/
theorem C14_loader_exact (routine : List Code) (h : ∀ code ∈ routine, codeTextOK code = true)
    (hnc : ∀ m, .COMMENT m ∉ routine) :
    ∃ items, parseText (printProg routine) = .ok items ∧ items.map (·.1) = routine :=
  parseText_printProg_exact routine (fun c hc => codeOK_of_codeTextOK (h c hc)) hnc

/-- the executable check of the driver is TRUE on every text-safe routine -/
theorem C14_textLoadsB_complete (routine : List Code) (h : ∀ code ∈ routine, codeTextOK code = true) :
    Scc.Props.C01_textLoadsB routine = true := by
  obtain ⟨items, h1, h2⟩ := parseText_printProg routine (fun c hc => codeOK_of_codeTextOK (h c hc))
  unfold Scc.Props.C01_textLoadsB
  rw [h1]
  have : Scc.Props.C01_stripC = Loader.stripC := by funext c; cases c <;> rfl
  simp only [this, h2, decide_true]

/-- a text-safe routine: prologue directives, a label, instructions of every operand form, a comment -/
def C14_loaderExample : List Code :=
  [.NOEXECSTACK, .TEXT, .EXTERN "println_i64", .GLOBAL "asm_main", .LAB "asm_main", .COMMENT "setup",
   .PUSH 2, .SUBI 0 2048, .MOVI 4 (-9223372036854775808), .MOVIM 0 2040 (-1), .CMPRM 4 0 8,
   .LEAL 5 "lab0", .JMPLN "lab0_Nil", .LAB "lab0", .IDIVM 0 16, .CQO, .JMP 5, .JLEL "cleanup",
   .CALL "println_i64", .LAB "cleanup", .RET]

example : TextLoads C14_loaderExample := C14_loader _ (by decide)

/-! ## every routine of the backend model loads -/

/-- **the decidable hypothesis on the names of the linearized program** (Scc/X86/LoaderNames.lean
    `progNamesOK`, with the symbol characters of the x86-64 loader) -/
def C14_namesTextSafe (p : AxCut.Prog) : Bool := progNamesOK okcX p

theorem codeTextOK_of_codeOK {c : Code} (hr : ∀ r ∈ codeRegs c, r < 16) (hn : nmB c = true) :
    codeTextOK c = true := by
  have hsym : ∀ l, labOKB l = true → symOK l = true := by
    intro l hl
    simp only [labOKB, Bool.and_eq_true, Bool.not_eq_true', List.all_eq_true, Option.isNone_iff_eq_none] at hl
    obtain ⟨⟨⟨h1, h2⟩, h3⟩, h4⟩ := hl
    simp only [symOK, Bool.and_eq_true, Bool.not_eq_true', List.all_eq_true, Option.isNone_iff_eq_none]
    refine ⟨⟨⟨?_, fun c hc => by simpa [okcX] using h2 c hc⟩, h3⟩, h4⟩
    rw [String.isEmpty_eq_false_iff]
    intro e; rw [e] at h1; simp at h1
  simp only [codeTextOK, Bool.and_eq_true, List.all_eq_true, decide_eq_true_eq]
  refine ⟨⟨⟨hr, ?_⟩, ?_⟩, ?_⟩
  · cases c <;> first | rfl | exact hsym _ hn
  · cases c <;> first | rfl | exact hsym _ hn
  · cases c <;> first | rfl | exact hsym _ hn | exact hn

/-- every item of the routine emitted for a program in range with text-safe names passes `codeTextOK` -/
theorem C14_routine_textOK {p : AxCut.Prog} {hooks : Bool} {c0 : Nat} {body routine : List Code} {nargs : Nat}
    (hrange : ProgInRange p) (hnames : C14_namesTextSafe p = true)
    (h : compileX86 p hooks c0 = .ok (body, nargs)) (hr : intoRoutine body nargs = .ok routine) :
    ∀ code ∈ routine, codeTextOK code = true := by
  intro c hc
  have hn := routine_namesOK hnames h hr
  simp only [NmOK, List.all_eq_true] at hn
  exact codeTextOK_of_codeOK (routine_rangesOK hrange h hr c hc).1 (hn c hc)

/-- **EVERY ROUTINE OF THE BACKEND MODEL LOADS** (all programs in range with text-safe names, both hook
    settings, every counter start) -/
theorem C14_routine_loads {p : AxCut.Prog} {hooks : Bool} {c0 : Nat} {body routine : List Code} {nargs : Nat}
    (hrange : ProgInRange p) (hnames : C14_namesTextSafe p = true)
    (h : compileX86 p hooks c0 = .ok (body, nargs)) (hr : intoRoutine body nargs = .ok routine) :
    TextLoads routine :=
  C14_loader routine (C14_routine_textOK hrange hnames h hr)

/-- the C14 validator on the text of a backend routine never ends in `PARSE-ERROR`: it is the item-level
    validator `wfItems` on items that agree with the routine up to the text of comments (the part
    "print → parse round trip of the text" of `C14_statement_refined`, Props/C14X86.lean) -/
theorem C14_wfCheck_items {p : AxCut.Prog} {hooks : Bool} {c0 : Nat} {body routine : List Code} {nargs : Nat}
    (hrange : ProgInRange p) (hnames : C14_namesTextSafe p = true)
    (h : compileX86 p hooks c0 = .ok (body, nargs)) (hr : intoRoutine body nargs = .ok routine) :
    ∃ items, wfCheck (printProg routine) = wfItems items ∧
      (items.map (·.1)).map Ref.stripC = routine.map Ref.stripC := by
  obtain ⟨items, h1, h2⟩ := C14_routine_loads hrange hnames h hr
  exact ⟨items, by unfold wfCheck; rw [h1], h2⟩

/-- the executable per-program check of the driver is true WITHOUT evaluation -/
theorem C14_routineLoadsB_true (hooks : Bool) {q5 : AxCut.Prog} (hrange : ProgInRange q5)
    (hnames : C14_namesTextSafe q5 = true) : Scc.Props.C01_routineLoadsB hooks q5 = true := by
  unfold Scc.Props.C01_routineLoadsB
  split
  · rename_i body nargs hcomp
    split
    · rename_i routine hinto
      exact C14_textLoadsB_complete routine (C14_routine_textOK hrange hnames hcomp hinto)
    · rfl
  · rfl

section
open Scc.AxCut Scc.X86.Ref
open Scc.Props.C06Generic (IntProg Reachable WithinCapacity)
open Scc.Props.C14Generic (LabelSafe)

/-- **Theorem A ∘ B on the TEXT of the routine, no loader hypothesis**: `C06_int_programs_text` with
    `TextLoads routine` replaced by the decidable names check -/
theorem C06_int_programs_loaded (p : AxCut.Prog) (args : List Word) (hooks : Bool) (body routine : List Code)
    (nargs : Nat) (d0 : Def)
    (hsafe : LabelSafe p = true) (htp : LinTypedProg p) (hip : IntProg p) (hrange : ProgInRange p)
    (hnames : C14_namesTextSafe p = true)
    (hcompX : compileX86 p hooks 0 = .ok (body, nargs)) (hrout : intoRoutine body nargs = .ok routine)
    (hd : p.defs.head? = some d0)
    (hcap : ∀ st, Reachable p ⟨d0.ctx, args.map .int, d0.body⟩ st → WithinCapacity st.ctx)
    (fuel : Nat) (out : List (Bool × Word)) (v : Word) (hrun : Pos.run p args fuel = ⟨out, .done v⟩)
    (cfg : MonCfg) (MO : MachOK cfg.mach) (hheap : cfg.heap = false) :
    ∃ fuel', (run (printProg routine) args fuel' cfg).out = out ∧
      (run (printProg routine) args fuel' cfg).res = .done v :=
  C06_int_programs_text p args hooks body routine nargs d0 hsafe htp hip hrange hcompX hrout hd hcap fuel out v
    hrun cfg MO hheap (C14_routine_loads hrange hnames hcompX hrout)
end

/-- `LabelSafe` does not imply that the text loads: the program `def "a b"(x : ext i64) { exit x }` is
    label-safe and compiles, its body defines the label `a b_`, which is not a symbol of the loader
    (`#eval`: `parseText` of its routine fails with `error line 28: a b_:`) -/
def C14_badNames : AxCut.Prog := ⟨[⟨⟨"a b", 0⟩, [⟨⟨"x", 1⟩, .ext, .i64⟩], .exit ⟨"x", 1⟩⟩], [], 1⟩

theorem C14_names_needed :
    Scc.Props.C14Generic.LabelSafe C14_badNames = true ∧ C14_namesTextSafe C14_badNames = false ∧
    (match compileX86 C14_badNames true 0 with
     | .ok (body, _) => body.contains (.LAB "a b_")
     | .error _ => false) = true ∧
    codeTextOK (.LAB "a b_") = false := by decide

/-- the names of the counting loop of C06X86 are text-safe -/
theorem C06_loop_namesTextSafe : C14_namesTextSafe C06_loopProg = true := by decide +kernel

example : C14_namesTextSafe C06_loopProg = true := C06_loop_namesTextSafe

/-- … so the routine emitted for it (with hooks) loads: every hypothesis of `C14_routine_loads` holds -/
example : ∃ body routine, compileX86 C06_loopProg true 0 = .ok (body, 2) ∧
    intoRoutine body 2 = .ok routine ∧ TextLoads routine := by
  obtain ⟨body, routine, hcomp, hrout⟩ := C06_loop_compiled
  exact ⟨body, routine, hcomp, hrout, C14_routine_loads C06_loopProg_inRange C06_loop_namesTextSafe hcomp hrout⟩

end Scc.X86

#print axioms Scc.X86.C14_splitLines
#print axioms Scc.X86.C14_splitOn_intercalate
#print axioms Scc.X86.C14_parseLine_printCode
#print axioms Scc.X86.C14_label_lines
#print axioms Scc.X86.C14_comment_line
#print axioms Scc.X86.C14_loader
#print axioms Scc.X86.C14_loader_exact
#print axioms Scc.X86.C14_textLoadsB_complete
#print axioms Scc.X86.C14_routine_textOK
#print axioms Scc.X86.C14_routine_loads
#print axioms Scc.X86.C14_routineLoadsB_true
#print axioms Scc.X86.C14_wfCheck_items
#print axioms Scc.X86.C06_int_programs_loaded
#print axioms Scc.X86.C14_names_needed

#print axioms Scc.X86.symOKC_of_symOK
#print axioms Scc.X86.codeOK_of_codeTextOK
#print axioms Scc.X86.loader_stripC_eq
#print axioms Scc.X86.codeTextOK_of_codeOK
#print axioms Scc.X86.C06_progInRange_of_check
