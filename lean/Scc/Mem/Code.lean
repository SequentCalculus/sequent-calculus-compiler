/-
  Scc.Mem.Code — the code of memory.rs `store`, as every backend emits it, as a PURE function of the
  backend's leaves (`store_field`, `store_zero`, `acquire_block`, "mark no allocation") and of the label
  counter.  A backend proves once that its generators return this code (`Scc.Backend.Gen`); what holds of
  the leaves' code and is closed under concatenation holds of all of it (`Leaves.storeFieldsC`), and the
  labels are drawn as the leaves draw them (`Counts.storeFieldsC`).  `Memory::store` itself is
  `storeFieldsC (|toStore| + 1) toStore base .last`: there is no further code around the recursion.
-/
import Scc.Heap.Model
import Scc.AxCut.Syntax
import Scc.Backend.Interface

namespace Scc.Mem

open Scc.AxCut
open Scc.Backend (TempNum)
open Scc.Heap (BlockPosition)

/-- the local labels of memory.rs (fresh_labels.rs) -/
def labName (n : Nat) : String := "lab" ++ toString n

/-- a comment of memory.rs: one line, and the second character is not the `c` of a `#ctx [` hook -/
def MemCom (m : String) : Prop := '\n' ∉ m.toList ∧ m.toList[1]? ≠ some 'c'

theorem memCom_ofList {cs : List Char} (h1 : '\n' ∉ cs) (h2 : cs[1]? ≠ some 'c') : MemCom (String.ofList cs) := by
  unfold MemCom; rw [String.toList_ofList]; exact ⟨h1, h2⟩

theorem memCom_checkChild (k : Nat) : MemCom ("#####check child " ++ toString k ++ " for erasure") := by
  refine ⟨?_, ?_⟩
  · have hk : '\n' ∉ (toString k).toList := fun hc => by
      have e : (toString k).toList = Nat.toDigits 10 k := Nat.toList_repr
      rw [e] at hc
      exact absurd (Nat.isDigit_of_mem_toDigits (by decide) (by decide) hc) (by decide)
    simp only [String.toList_append, List.mem_append, not_or]
    exact ⟨⟨by decide, hk⟩, by decide⟩
  · rw [String.append_assoc, String.toList_append]
    have : "#####check child ".toList = '#' :: '#' :: "###check child ".toList := by decide
    rw [this]; simp

/-- `mc` proves `MemCom "…"` for a string literal: it is `memCom_ofList`, with `decide` on the characters of
the literal for "no line break" and for "the second character is not `c`". -/
macro "mc" : tactic => `(tactic| exact Scc.Mem.memCom_ofList (by decide) (by decide))

section Labs
variable {κ : Type} {lab : String → κ}

/-- no label is defined in the code; `lab` is the label definition among the backend's code items (each backend's
own `NoLab`, `LabsIn` over its `Code.LAB` are these: `noLab_iff`, `labsIn_iff`) -/
def NoLab (lab : String → κ) (code : List κ) : Prop := ∀ l, lab l ∉ code

def LabsIn (lab : String → κ) (code : List κ) (lo hi : Nat) : Prop :=
  ∀ l, lab l ∈ code → ∃ n, l = labName n ∧ lo < n ∧ n ≤ hi

theorem NoLab.nil : NoLab lab [] := fun _ h => by simp at h

theorem NoLab.append {a b : List κ} (ha : NoLab lab a) (hb : NoLab lab b) : NoLab lab (a ++ b) := fun l h => by
  rcases List.mem_append.1 h with h | h
  · exact ha l h
  · exact hb l h

theorem NoLab.labsIn {a : List κ} (h : NoLab lab a) (lo hi : Nat) : LabsIn lab a lo hi :=
  fun l hl => absurd hl (h l)

theorem LabsIn.append {a b : List κ} {lo hi : Nat} (ha : LabsIn lab a lo hi) (hb : LabsIn lab b lo hi) :
    LabsIn lab (a ++ b) lo hi := fun l h => by
  rcases List.mem_append.1 h with h | h
  · exact ha l h
  · exact hb l h

theorem LabsIn.mono {a : List κ} {lo hi lo' hi' : Nat} (ha : LabsIn lab a lo hi) (h1 : lo' ≤ lo) (h2 : hi ≤ hi') :
    LabsIn lab a lo' hi' := fun l h => by
  obtain ⟨n, e, a1, a2⟩ := ha l h
  exact ⟨n, e, by omega, by omega⟩

theorem LabsIn.cons_lab {a : List κ} {lo hi n : Nat} (hinj : ∀ {l l' : String}, lab l = lab l' → l = l')
    (ha : LabsIn lab a lo hi) (h1 : lo < n) (h2 : n ≤ hi) : LabsIn lab (lab (labName n) :: a) lo hi := fun l h => by
  rcases List.mem_cons.1 h with h | h
  · exact ⟨n, hinj h, h1, h2⟩
  · exact ha l h

theorem LabsIn.cons_other {a : List κ} {lo hi : Nat} {cd : κ} (ha : LabsIn lab a lo hi) (h : ∀ l, cd ≠ lab l) :
    LabsIn lab (cd :: a) lo hi := fun l hl => by
  rcases List.mem_cons.1 hl with e | e
  · exact absurd e.symm (h l)
  · exact ha l e

end Labs

/-- The leaves of `store` as code.  `κ` is the type of code items, `τ` that of temporaries, `ρ` that of the
registers a block pointer can be in.  `pos m` is the temporary of position `m` (utils.rs
temporary_from_position), which exists for `m < cap`; `okBlk` says which registers can hold a block,
`offOk` bounds the field index where the encoding of the displacement needs it; `heapR` is the register HEAP.
`stF t r num off` is `store_field`: half `num` of field `off` of the block in `r` := the temporary `t`;
`stZ r off` is `store_zero`: the pointer half of that field := 0; `acq m k` is `acquire_block` for the
temporary of position `m` from the label counter `k`, which draws `acqLabs` labels; `zero m` sets the
temporary of position `m` to 0 (the object without fields). -/
structure StoreCode (κ τ : Type) where
  ρ : Type
  lab : String → κ
  comment : String → κ
  pos : Nat → τ
  cap : Nat
  okBlk : ρ → Prop
  offOk : Nat → Prop
  offOk_mono : ∀ {m n : Nat}, m ≤ n → offOk n → offOk m
  offOk_block : offOk Heap.fieldsPerBlock
  heapR : ρ
  heapR_ok : okBlk heapR
  stF : τ → ρ → TempNum → Nat → List κ
  stZ : ρ → Nat → List κ
  acqLabs : Nat
  acq : Nat → Nat → List κ
  zero : Nat → List κ

namespace StoreCode
variable {κ τ : Type} (K : StoreCode κ τ)

def storeValueC (b : Binding) (n : Nat) (r : K.ρ) (off : Nat) : List κ :=
  K.stF (K.pos (2 * n + 1)) r .snd off ++
    (if b.chi == .ext then K.stZ r off else K.stF (K.pos (2 * n)) r .fst off)

/-- the `pop` loop on the reversed list; also returns the remaining `free_fields` -/
def storeLoopC (base : Nat) (r : K.ρ) : List Binding → Nat → List κ × Nat
  | [], ff => ([], ff)
  | b :: rest, ff =>
    (K.storeValueC b (base + rest.length) r (ff - 1) ++ (storeLoopC base r rest (ff - 1)).1,
     (storeLoopC base r rest (ff - 1)).2)

def storeZerosC (n : Nat) (r : K.ρ) : List κ := (List.range n).flatMap (K.stZ r)

def storeValuesC (toStore : Ctx) (base : Nat) (r : K.ρ) (ff : Nat) : List κ :=
  [K.comment "##store values"] ++ (K.storeLoopC base r toStore.reverse ff).1 ++
    (if (K.storeLoopC base r toStore.reverse ff).2 > 0 then [K.comment "##mark unused fields with null"] else []) ++
    K.storeZerosC (K.storeLoopC base r toStore.reverse ff).2 r

/-- `store_fields` with label counter `k`: the code and the counter afterwards -/
def storeFieldsC : Nat → Ctx → Nat → BlockPosition → Nat → List κ × Nat
  | 0, _, _, _, k => ([], k)
  | fuel + 1, toStore, base, pos, k =>
    if toStore = [] then
      (if pos = .last then [K.comment "#mark no allocation"] ++ K.zero (2 * base) else [], k)
    else
      let rl := Heap.restLength toStore.length pos
      let r := storeFieldsC fuel (toStore.take rl) base .other (k + K.acqLabs)
      ((if pos = .other then [K.comment "##store link to previous block"] ++
            K.stF (K.pos (2 * (base + toStore.length))) K.heapR .fst (Heap.fieldsPerBlock - 1) else []) ++
        (if pos = .last then [K.comment "#allocate memory"] else []) ++
        K.storeValuesC (toStore.drop rl) (base + rl) K.heapR (Heap.fieldsPerBlock - pos.toNat) ++
        [K.comment "##acquire free block from heap register"] ++ K.acq (2 * (base + rl)) k ++ r.1, r.2)

theorem storeLoopC_le (base : Nat) (r : K.ρ) : ∀ (bs : List Binding) (ff : Nat), (K.storeLoopC base r bs ff).2 ≤ ff
  | [], _ => Nat.le_refl _
  | _ :: rest, ff => Nat.le_trans (storeLoopC_le base r rest (ff - 1)) (Nat.sub_le _ _)

/-- The temporaries `store_fields` touches exist: those of the variables (positions `base …`), the first one
of position `base` (it receives the pointer to the object), and for a block that is not the last one the
temporary after the variables (it holds the link).  The first disjunct is the end of the recursion: no field
is left over for a further block. -/
def FitsS (toStore : Ctx) (base : Nat) (pos : BlockPosition) : Prop :=
  (toStore = [] ∧ pos = .other) ∨
    (2 * (base + toStore.length) ≤ K.cap ∧ 2 * base < K.cap ∧ (pos = .other → 2 * (base + toStore.length) < K.cap))

def storeComments : List String :=
  ["##store values", "##mark unused fields with null", "#mark no allocation", "##store link to previous block",
   "#allocate memory", "##acquire free block from heap register"]

/-- `B` holds of the code of the leaves (for temporaries that exist) and is closed under concatenation -/
structure Leaves (B : List κ → Prop) : Prop where
  nil : B []
  append : ∀ {a b}, B a → B b → B (a ++ b)
  comment : ∀ s ∈ storeComments, B [K.comment s]
  stF : ∀ {m r} num {off}, m < K.cap → K.okBlk r → K.offOk off → B (K.stF (K.pos m) r num off)
  stZ : ∀ {r off}, K.okBlk r → K.offOk off → B (K.stZ r off)
  acq : ∀ {m} k, m + 1 < K.cap → B (K.acq m k)
  zero : ∀ {m}, m < K.cap → B (K.zero m)

namespace Leaves
variable {K} {B : List κ → Prop} (A : K.Leaves B)
include A

theorem ite {c : Prop} [Decidable c] {a b : List κ} (ha : B a) (hb : B b) : B (if c then a else b) := by
  split <;> assumption

theorem storeValueC (b : Binding) {n : Nat} {r : K.ρ} {off : Nat} (hn : 2 * n + 1 < K.cap) (hr : K.okBlk r)
    (ho : K.offOk off) : B (K.storeValueC b n r off) :=
  A.append (A.stF _ hn hr ho) (A.ite (A.stZ hr ho) (A.stF _ (by omega) hr ho))

theorem storeLoopC (base : Nat) {r : K.ρ} (hr : K.okBlk r) : ∀ (bs : List Binding) (ff : Nat),
    2 * (base + bs.length) ≤ K.cap → K.offOk ff → B (K.storeLoopC base r bs ff).1
  | [], _, _, _ => A.nil
  | b :: rest, ff, h, hff => by
    simp only [List.length_cons] at h
    have hff' := K.offOk_mono (Nat.sub_le ff 1) hff
    exact A.append (A.storeValueC b (by omega) hr hff') (storeLoopC base hr rest (ff - 1) (by omega) hff')

theorem storeValuesC (toStore : Ctx) (base : Nat) {r : K.ρ} (hr : K.okBlk r) {ff : Nat} (hff : K.offOk ff)
    (h : 2 * (base + toStore.length) ≤ K.cap) : B (K.storeValuesC toStore base r ff) := by
  refine A.append (A.append (A.append (A.comment _ (by simp [storeComments])) (A.storeLoopC _ hr _ _ (by simpa using h) hff))
    (A.ite (A.comment _ (by simp [storeComments])) A.nil)) ?_
  unfold StoreCode.storeZerosC
  have hn := K.storeLoopC_le base r toStore.reverse ff
  generalize (K.storeLoopC base r toStore.reverse ff).2 = n at hn
  induction n with
  | zero => exact A.nil
  | succ n ih =>
    rw [List.range_succ, List.flatMap_append]
    exact A.append (ih (by omega)) (by simpa using A.stZ hr (K.offOk_mono (by omega) hff))

theorem storeFieldsC : ∀ (fuel : Nat) (toStore : Ctx) (base : Nat) (pos : BlockPosition) (k : Nat),
    K.FitsS toStore base pos → B (K.storeFieldsC fuel toStore base pos k).1
  | 0, _, _, _, _, _ => A.nil
  | fuel + 1, toStore, base, pos, k, h => by
    unfold StoreCode.storeFieldsC
    split
    · rename_i he
      subst he
      rcases h with ⟨-, rfl⟩ | ⟨-, h2, -⟩
      · exact A.nil
      · exact A.ite (A.append (A.comment _ (by simp [storeComments])) (A.zero h2)) A.nil
    · rename_i hne
      rcases h with ⟨he, -⟩ | ⟨h1, h2, h3⟩
      · exact absurd he hne
      have hpos : 0 < toStore.length := List.length_pos_iff.mpr hne
      have hrlt := Heap.restLength_lt toStore.length pos hpos
      simp only
      generalize Heap.restLength toStore.length pos = rl at hrlt ⊢
      have hlt2 : (toStore.take rl).length = rl := by simp [List.length_take]; omega
      refine A.append (A.append (A.append (A.append (A.append ?_ (A.ite (A.comment _ (by simp [storeComments])) A.nil))
        (A.storeValuesC _ _ K.heapR_ok (K.offOk_mono (Nat.sub_le _ _) K.offOk_block)
          (by simp only [List.length_drop]; omega))) (A.comment _ (by simp [storeComments])))
        (A.acq _ (by omega))) (storeFieldsC fuel _ base .other _ (Or.inr ⟨by omega, h2, fun _ => by omega⟩))
      split
      · rename_i hp
        exact A.append (A.comment _ (by simp [storeComments])) (A.stF _ (h3 hp) K.heapR_ok (K.offOk_mono (Nat.sub_le _ _) K.offOk_block))
      · exact A.nil

end Leaves

/-- `D a b code`: `code` is generated from the label counter `a` to `b`; code of leaves that draw no
label is generated from any counter to itself, `acquire_block` draws `acqLabs` labels -/
structure Counts (D : Nat → Nat → List κ → Prop) : Prop where
  nil : ∀ k, D k k []
  append : ∀ {a b c x y}, D a b x → D b c y → D a c (x ++ y)
  comment : ∀ s k, D k k [K.comment s]
  stF : ∀ t r num off k, D k k (K.stF t r num off)
  stZ : ∀ r off k, D k k (K.stZ r off)
  acq : ∀ m k, D k (k + K.acqLabs) (K.acq m k)
  zero : ∀ m k, D k k (K.zero m)

namespace Counts
variable {K} {D : Nat → Nat → List κ → Prop} (A : K.Counts D)
include A

theorem ite {c : Prop} [Decidable c] {a b : List κ} {k : Nat} (ha : D k k a) (hb : D k k b) :
    D k k (if c then a else b) := by
  split <;> assumption

theorem storeLoopC (base : Nat) (r : K.ρ) (k : Nat) : ∀ (bs : List Binding) (ff : Nat), D k k (K.storeLoopC base r bs ff).1
  | [], _ => A.nil k
  | _ :: rest, ff => A.append (A.append (A.stF _ _ _ _ k) (A.ite (A.stZ _ _ k) (A.stF _ _ _ _ k)))
      (storeLoopC base r k rest (ff - 1))

theorem storeValuesC (toStore : Ctx) (base : Nat) (r : K.ρ) (ff k : Nat) : D k k (K.storeValuesC toStore base r ff) := by
  refine A.append (A.append (A.append (A.comment _ k) (A.storeLoopC _ _ k _ _)) (A.ite (A.comment _ k) (A.nil k))) ?_
  unfold StoreCode.storeZerosC
  generalize (K.storeLoopC base r toStore.reverse ff).2 = n
  induction n with
  | zero => exact A.nil k
  | succ n ih => rw [List.range_succ, List.flatMap_append]; exact A.append ih (by simpa using A.stZ r n k)

theorem storeFieldsC : ∀ (fuel : Nat) (toStore : Ctx) (base : Nat) (pos : BlockPosition) (k : Nat),
    D k (K.storeFieldsC fuel toStore base pos k).2 (K.storeFieldsC fuel toStore base pos k).1
  | 0, _, _, _, k => A.nil k
  | fuel + 1, toStore, base, pos, k => by
    unfold StoreCode.storeFieldsC
    split
    · exact A.ite (A.append (A.comment _ k) (A.zero _ k)) (A.nil k)
    · exact A.append (A.append (A.append (A.append (A.append
        (A.ite (A.append (A.comment _ k) (A.stF _ _ _ _ k)) (A.nil k)) (A.ite (A.comment _ k) (A.nil k)))
        (A.storeValuesC _ _ _ _ k)) (A.comment _ k)) (A.acq _ k)) (storeFieldsC fuel _ base .other _)

end Counts

variable {K}

/-- the labels of `store_fields` lie between the counters, if those of the leaves do -/
theorem counts_labsIn (hc : ∀ s l, K.comment s ≠ K.lab l) (hF : ∀ t r num off, NoLab K.lab (K.stF t r num off))
    (hZ : ∀ r off, NoLab K.lab (K.stZ r off)) (hA : ∀ m k, LabsIn K.lab (K.acq m k) k (k + K.acqLabs))
    (h0 : ∀ m, NoLab K.lab (K.zero m)) : K.Counts (fun a b code => a ≤ b ∧ LabsIn K.lab code a b) where
  nil := fun k => ⟨Nat.le_refl _, NoLab.nil.labsIn _ _⟩
  append := fun h1 h2 => ⟨Nat.le_trans h1.1 h2.1,
    (h1.2.mono (Nat.le_refl _) h2.1).append (h2.2.mono h1.1 (Nat.le_refl _))⟩
  comment := fun s k => ⟨Nat.le_refl _, NoLab.labsIn (fun l h => hc s l (List.mem_singleton.1 h).symm) _ _⟩
  stF := fun _ _ _ _ k => ⟨Nat.le_refl _, (hF _ _ _ _).labsIn _ _⟩
  stZ := fun _ _ k => ⟨Nat.le_refl _, (hZ _ _).labsIn _ _⟩
  acq := fun m k => ⟨Nat.le_add_right _ _, hA m k⟩
  zero := fun _ k => ⟨Nat.le_refl _, (h0 _).labsIn _ _⟩

end StoreCode

end Scc.Mem
