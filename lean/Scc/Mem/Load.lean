/-
  Scc.Mem.Load — memory.rs `load` against `Scc.Heap.loadObj`, proved once for every backend: the
  contracts of `load_value`, `load_values`, of one block (release / link / values), of the recursion
  `load_fields` down the chain of blocks (`loadFields_does`, against `Scc.Heap.loadFields`) and of `load`
  itself (`load_does`: the test of the reference count, then the release or the share branch), from the
  contracts of the leaves (`LoadSpec`).  On the backends with spill slots a spilled block pointer is brought
  into the additional scratch register, whose contents are saved in a reserved slot meanwhile: the contract
  of `load_fields` is stated on the LOGICAL values `lval` (while the register is evacuated, its contents are
  those of the slot).
-/
import Scc.Mem.Store
import Scc.Mem.LoadCode

namespace Scc.Mem

open Scc.AxCut
open Scc.Backend (TempNum)
open Scc.Heap (HState Field BlockPosition LoadMode)

/-- the model's kind of a variable: `true` = it has a pointer part (not `ext`) -/
def kindOf (b : Binding) : Bool := b.chi != .ext

/-- the number of extra temporaries a block of position `pos` writes beyond its values: the link -/
def linkSlot (pos : BlockPosition) : Nat := if pos = .other then 1 else 0

/-- the flag after a level: at the last (outermost) block the register has been restored -/
def outFlag (rf' : Bool) : BlockPosition → Bool
  | .last => false
  | .other => rf'

/-- What holds on a backend with spilled positions: the additional scratch register `ttR` is the temporary
of position `ttPos`, below every spilled position; `slotT` is the slot that saves it. -/
structure SpillSpec (V : View) (K : LoadCode V.κ V.τ) (L : StoreSpec V K.toStoreCode) (blkR : K.ρ → Prop)
    (ttPos : Nat) (slotT : V.τ) : Prop where
  tt_blk : blkR K.ttR
  tt_pos : L.reg K.ttR = K.pos ttPos
  tt_lt : ∀ {m}, K.isSpill m = true → ttPos < m
  pos_ne_slot : ∀ {m}, m < K.cap → K.pos m ≠ slotT
  slot_keep : ¬ L.scratch slotT
  slot_ne_heap : slotT ≠ L.reg K.heapR
  evac_does : ∀ {μ : V.σ} {s : HState}, V.Rel μ s →
    V.Does K.evac μ s (fun u => u ≠ slotT) (fun μ' => V.val μ' slotT = V.val μ (L.reg K.ttR))
  ldBlk_does : ∀ {μ : V.σ} {s : HState} {m : Nat}, V.Rel μ s → m < K.cap → K.isSpill m = true →
    V.Does (K.ldBlk m) μ s (fun u => u ≠ L.reg K.ttR) (fun μ' => V.val μ' (L.reg K.ttR) = V.val μ (K.pos m))
  restore_does : ∀ {μ : V.σ} {s : HState}, V.Rel μ s →
    V.Does K.restore μ s (fun u => u ≠ L.reg K.ttR) (fun μ' => V.val μ' (L.reg K.ttR) = V.val μ slotT)

/-- The contracts of the leaves of `load_fields` on a view machine.  `blkR` are the registers a block pointer
is accessed through (the temporaries of even positions that are registers, and `ttR`): never the second
temporary of a variable.  `load_field` changes its target and `scratch`; sharing the pointer just loaded
changes only `scratch` besides; `release_block` changes HEAP.  The test of the reference count around the
two branches of `load` (`top_then`: count zero; `top_else`: the count is decremented) changes `scratch`. -/
structure LoadSpec (V : View) (K : LoadCode V.κ V.τ) extends StoreSpec V K.toStoreCode where
  ttPos : Nat
  slotT : V.τ
  isTT : V.τ → Bool
  isTT_iff : ∀ {u}, isTT u = true ↔ u = reg K.ttR
  blkR : K.ρ → Prop
  blkR_ok : ∀ {r}, blkR r → K.okBlk r
  blkR_odd : ∀ {r n}, blkR r → 2 * n + 1 < K.cap → K.pos (2 * n + 1) ≠ reg r
  blkR_ne_heap : ∀ {r}, blkR r → reg r ≠ reg K.heapR
  blkR_regOf : ∀ {m}, 2 * m < K.cap → K.isSpill (2 * m) = false → blkR (K.regOf (2 * m))
  pos_regOf : ∀ {m}, m < K.cap → K.isSpill m = false → K.pos m = reg (K.regOf m)
  pos_inj : ∀ {m m'}, m < K.cap → m' < K.cap → K.pos m = K.pos m' → m = m'
  isSpill_mono : ∀ {m m'}, m ≤ m' → K.isSpill m = true → K.isSpill m' = true
  spill : ∀ {m}, m < K.cap → K.isSpill m = true → SpillSpec V K toStoreSpec blkR ttPos slotT
  ldF_does : ∀ {μ : V.σ} {s : HState} {m : Nat} {r : K.ρ} {b : Word} {num : TempNum} {off v : Nat},
    V.Rel μ s → m < K.cap → K.okBlk r → V.val μ (reg r) = some b → K.offOk off →
    Heap.rd s (b.toNat + Heap.fieldOffset num.toNat off) = .ok v →
    V.Does (K.ldF (K.pos m) r num off) μ s (fun u => ¬ scratch u ∧ u ≠ K.pos m)
      (fun μ' => ∃ w, V.val μ' (K.pos m) = some w ∧ w.toNat = v)
  ldS_does : ∀ {μ : V.σ} {s s' : HState} {m : Nat} {r : K.ρ} {b : Word} {off pv : Nat} (k : Nat),
    V.Rel μ s → m < K.cap → K.okBlk r → V.val μ (reg r) = some b → K.offOk off →
    Heap.rd s (b.toNat + Heap.fstOff off) = .ok pv → Heap.shareBlock s pv 1 = .ok s' →
    (∀ a, s'.mem.get a < 2 ^ 64) →
    V.Does (K.ldF (K.pos m) r .fst off ++ K.shr m k) μ s' (fun u => ¬ scratch u ∧ u ≠ K.pos m)
      (fun μ' => ∃ w, V.val μ' (K.pos m) = some w ∧ w.toNat = pv)
  release_does : ∀ {μ : V.σ} {s s' : HState} {r : K.ρ} {b : Word}, V.Rel μ s → blkR r →
    V.val μ (reg r) = some b → Heap.releaseBlock s b.toNat = .ok s' →
    V.Does (K.release r) μ s' (fun u => ¬ scratch u ∧ u ≠ reg K.heapR)
  top_then : ∀ {μ : V.σ} {s : HState} {m : Nat} {pw : Word} {cT cE : List V.κ} {k0 k : Nat} {P : V.σ → Prop},
    V.Rel μ s → m < K.cap → V.val μ (K.pos m) = some pw → Heap.rd s pw.toNat = .ok 0 → LabsIn K.lab cE k0 k →
    (∀ μ1, V.Rel μ1 s → (∀ u, ¬ scratch u → V.val μ1 u = V.val μ u) → ∃ μ', V.Runs cT μ1 μ' ∧ P μ') →
    ∃ μ', V.Runs (K.top m cT cE k) μ μ' ∧ P μ'
  top_else : ∀ {μ : V.σ} {s s0 : HState} {m : Nat} {pw : Word} {cT cE : List V.κ} {k0 k cnt : Nat}
    {P : V.σ → Prop}, V.Rel μ s → m < K.cap → V.val μ (K.pos m) = some pw → Heap.rd s pw.toNat = .ok cnt →
    cnt ≠ 0 → Heap.wr s pw.toNat (cnt - 1) = .ok s0 → LabsIn K.lab cT k0 k →
    (∀ μ2, V.Rel μ2 s0 → (∀ u, ¬ scratch u → V.val μ2 u = V.val μ u) → ∃ μ', V.Runs cE μ2 μ' ∧ P μ') →
    ∃ μ', V.Runs (K.top m cT cE k) μ μ' ∧ P μ'

namespace LoadSpec
variable {V : View} {K : LoadCode V.κ V.τ} (L : LoadSpec V K)

/-- `load_value`: field `off` of the block in `r` goes into the temporaries of the variable at position `n`;
in share mode a pointer child gets one more reference.  The first temporary of the variable may be `r`
itself (then this is the last access to the block). -/
theorem loadValue_does {μ : V.σ} {s s' : HState} (H : V.Rel μ s) {b : Binding} {n : Nat}
    (hcap : 2 * n + 1 < K.cap) {r : K.ρ} (hr : L.blkR r) {bw : Word} (hvb : V.val μ (L.reg r) = some bw)
    {off : Nat} (ho : K.offOk off) {mode : LoadMode} {v : Field}
    (hop : Heap.loadValue s (kindOf b) bw.toNat off mode = .ok (s', v))
    (hno : mode = .share → ∀ a, s'.mem.get a < 2 ^ 64) (k : Nat) :
    V.Does (K.loadValueC b n r off mode k).1 μ s'
      (fun u => ¬ L.scratch u ∧ u ≠ K.pos (2 * n) ∧ u ≠ K.pos (2 * n + 1))
      (fun μ' => FieldAt (L.slot μ') n b v) := by
  have hc0 : 2 * n < K.cap := by omega
  have hok := L.blkR_ok hr
  simp only [Heap.loadValue] at hop
  cases hr1 : Heap.rd s (bw.toNat + Heap.sndOff off) with
  | error e => simp [hr1] at hop
  | ok wv =>
    simp only [hr1] at hop
    obtain ⟨μ1, x1, H1, F1, w, v1, ew⟩ := L.ldF_does (num := .snd) H hcap hok hvb ho hr1
    unfold LoadCode.loadValueC
    by_cases hχ : (b.chi == .ext) = true
    · have hk : kindOf b = false := by simp [kindOf, bne, hχ]
      have hne : (b.chi != .ext) = false := hk
      simp only [hk, Bool.false_eq_true, if_false, Except.ok.injEq, Prod.mk.injEq] at hop
      obtain ⟨rfl, rfl⟩ := hop
      simp only [hne, Bool.false_eq_true, if_false]
      refine ⟨μ1, x1, H1, fun u hu => F1 u ⟨hu.1, hu.2.2⟩, ?_⟩
      show FieldAt (L.slot μ1) n b (.int wv)
      unfold FieldAt
      rw [if_pos hχ]
      exact ⟨w, by rw [ew], v1⟩
    · have hk : kindOf b = true := by
        simp only [kindOf, bne]
        cases hb : (b.chi == .ext)
        · rfl
        · exact absurd hb hχ
      have hne : (b.chi != .ext) = true := hk
      simp only [hk, if_true] at hop
      simp only [hne, if_true]
      cases hr2 : Heap.rd s (bw.toNat + Heap.fstOff off) with
      | error e => simp [hr2] at hop
      | ok pv =>
        simp only [hr2] at hop
        have hvb1 : V.val μ1 (L.reg r) = some bw := by
          rw [F1 _ ⟨L.reg_keep hok, Ne.symm (L.blkR_odd hr hcap)⟩]; exact hvb
        have hsf : K.pos (2 * n + 1) ≠ K.pos (2 * n) := fun e => by
          have := L.pos_inj hcap hc0 e; omega
        have hFA : ∀ μ2 : V.σ, (∀ u, ¬ L.scratch u ∧ u ≠ K.pos (2 * n) → V.val μ2 u = V.val μ1 u) →
            (∃ p : Word, V.val μ2 (K.pos (2 * n)) = some p ∧ p.toNat = pv) →
            FieldAt (L.slot μ2) n b (.ptr pv wv) := by
          intro μ2 F2 ⟨p, v2, ep⟩
          unfold FieldAt
          rw [if_neg hχ]
          exact ⟨p, w, by rw [ep, ew], v2, by
            show V.val μ2 (K.pos (2 * n + 1)) = some w
            rw [F2 _ ⟨L.pos_keep hcap, hsf⟩]; exact v1⟩
        cases mode with
        | release =>
          simp only [Except.ok.injEq, Prod.mk.injEq] at hop
          obtain ⟨rfl, rfl⟩ := hop
          simp only [reduceCtorEq, if_false]
          obtain ⟨μ2, x2, H2, F2, p2⟩ := L.ldF_does (num := .fst) H1 hc0 hok hvb1 ho hr2
          exact ⟨μ2, V.runs_seq x1 x2, H2, fun u hu => by rw [F2 u ⟨hu.1, hu.2.1⟩, F1 u ⟨hu.1, hu.2.2⟩],
            hFA μ2 F2 p2⟩
        | share =>
          cases hsh : Heap.shareBlock s pv 1 with
          | error e => simp [hsh] at hop
          | ok s1 =>
            simp only [hsh, Except.ok.injEq, Prod.mk.injEq] at hop
            obtain ⟨rfl, rfl⟩ := hop
            simp only [if_true]
            obtain ⟨μ2, x2, H2, F2, p2⟩ := L.ldS_does k H1 hc0 hok hvb1 ho hr2 hsh (hno rfl)
            rw [List.append_assoc]
            exact ⟨μ2, V.runs_seq x1 x2, H2, fun u hu => by rw [F2 u ⟨hu.1, hu.2.1⟩, F1 u ⟨hu.1, hu.2.2⟩],
              hFA μ2 F2 p2⟩

/-- the `pop` loop of `load_values`, on the reversed list -/
theorem loadLoop_does {base : Nat} {r : K.ρ} (hr : L.blkR r) {bw : Word} {mode : LoadMode}
    (hmb : ∀ j, 1 ≤ j → 2 * (base + j) < K.cap → K.pos (2 * (base + j)) ≠ L.reg r) :
    ∀ (bsRev : List Binding) (ff : Nat) (acc : List Field) (μ : V.σ) (s s' : HState) (vs : List Field) (k : Nat),
    V.Rel μ s → (bsRev ≠ [] → V.val μ (L.reg r) = some bw) → 2 * (base + bsRev.length) ≤ K.cap → K.offOk ff →
    Heap.loadValuesRev s bw.toNat mode (bsRev.map kindOf) ff acc = .ok (s', vs) →
    (mode = .share → ∀ a, s'.mem.get a < 2 ^ 64) →
    ∃ μ' valsRev, V.Runs (K.loadLoopC base r mode bsRev ff k).1 μ μ' ∧ V.Rel μ' s' ∧
      vs = valsRev.reverse ++ acc ∧ EnvFieldsRev (L.slot μ') base bsRev valsRev ∧
      (∀ u, ¬ L.scratch u → (∀ m, 2 * base ≤ m → m < 2 * (base + bsRev.length) → u ≠ K.pos m) →
        V.val μ' u = V.val μ u) := by
  intro bsRev
  induction bsRev with
  | nil =>
    intro ff acc μ s s' vs k H _ _ _ hop _
    simp only [List.map_nil, Heap.loadValuesRev, Except.ok.injEq, Prod.mk.injEq] at hop
    obtain ⟨rfl, rfl⟩ := hop
    exact ⟨μ, [], V.runs_nil μ, H, rfl, trivial, fun _ _ _ => rfl⟩
  | cons b rest ih =>
    intro ff acc μ s s' vs k H hvb hcap hff hop hno
    simp only [List.length_cons] at hcap
    cases ff with
    | zero => simp [Heap.loadValuesRev] at hop
    | succ ff =>
      simp only [List.map_cons, Heap.loadValuesRev] at hop
      cases hlv : Heap.loadValue s (kindOf b) bw.toNat ff mode with
      | error e => simp [hlv] at hop
      | ok r1 =>
        obtain ⟨s1, v⟩ := r1
        simp only [hlv] at hop
        have hff' := K.offOk_mono (Nat.le_succ ff) hff
        have hno1 : mode = .share → ∀ a, s1.mem.get a < 2 ^ 64 := by
          intro hm a
          subst hm
          exact Nat.lt_of_le_of_lt (Heap.loadValuesRev_mono _ _ _ _ _ _ hop a) (hno rfl a)
        have hn1 : 2 * (base + rest.length) + 1 < K.cap := by omega
        obtain ⟨μ1, x1, H1, F1, hFA⟩ := L.loadValue_does H (b := b) (n := base + rest.length) hn1 hr
          (hvb (by simp)) hff' hlv hno1 k
        have hvb1 : rest ≠ [] → V.val μ1 (L.reg r) = some bw := by
          intro hne
          have hpos : 1 ≤ rest.length := List.length_pos_iff.mpr hne
          rw [F1 _ ⟨L.reg_keep (L.blkR_ok hr), Ne.symm (hmb _ hpos (by omega)), Ne.symm (L.blkR_odd hr hn1)⟩]
          exact hvb (by simp)
        obtain ⟨μ2, valsRev, x2, H2, hvs, hE2, F2⟩ :=
          ih ff (v :: acc) μ1 s1 s' vs (K.loadValueC b (base + rest.length) r ff mode k).2 H1 hvb1 (by omega) hff' hop hno
        refine ⟨μ2, v :: valsRev, ?_, H2, ?_, ⟨?_, hE2⟩, ?_⟩
        · simp only [LoadCode.loadLoopC, Nat.add_sub_cancel]
          exact V.runs_seq x1 x2
        · rw [hvs]; simp
        · have hk : ∀ m', m' < K.cap → 2 * (base + rest.length) ≤ m' → V.val μ2 (K.pos m') = V.val μ1 (K.pos m') :=
            fun m' h1 h2 => F2 _ (L.pos_keep h1) fun m _ h3 e => by have := L.pos_inj h1 (by omega) e; omega
          exact hFA.congr (hk _ (by omega) (Nat.le_refl _)) (hk _ hn1 (by omega))
        · intro u hT hu
          simp only [List.length_cons] at hu
          rw [F2 u hT (fun m h1 h2 => hu m h1 (by omega)),
            F1 u ⟨hT, hu _ (by omega) (by omega), hu _ (by omega) (by omega)⟩]

theorem loadValues_does {μ : V.σ} {s s' : HState} (H : V.Rel μ s) {toLoad : Ctx} {base : Nat} {r : K.ρ}
    (hr : L.blkR r) {bw : Word} (hvb : V.val μ (L.reg r) = some bw) {mode : LoadMode}
    (hmb : ∀ j, 1 ≤ j → 2 * (base + j) < K.cap → K.pos (2 * (base + j)) ≠ L.reg r)
    (hcap : 2 * (base + toLoad.length) ≤ K.cap) {ff : Nat} (hff : K.offOk ff) {vs : List Field}
    (hop : Heap.loadValues s (toLoad.map kindOf) bw.toNat ff mode = .ok (s', vs))
    (hno : mode = .share → ∀ a, s'.mem.get a < 2 ^ 64) (k : Nat) :
    ∃ μ', V.Runs (K.loadValuesC toLoad base r ff mode k).1 μ μ' ∧ V.Rel μ' s' ∧
      EnvFields (L.slot μ') base toLoad vs ∧
      (∀ u, ¬ L.scratch u → (∀ m, 2 * base ≤ m → m < 2 * (base + toLoad.length) → u ≠ K.pos m) →
        V.val μ' u = V.val μ u) := by
  unfold Heap.loadValues at hop
  rw [← List.map_reverse] at hop
  obtain ⟨μ', valsRev, x, H', hvs, hE, F⟩ := L.loadLoop_does hr hmb toLoad.reverse ff [] μ s s' vs k H
    (fun _ => hvb) (by simpa using hcap) hff hop hno
  rw [List.append_nil] at hvs
  subst hvs
  exact ⟨μ', V.runs_seq (L.runs_comment _ μ) x, H', envFields_of_rev _ _ _ _ rfl hE,
    fun u hT hu => F u hT (by simpa using hu)⟩

/-- CONTRACT of the block part of `load_fields` (release the block / load the link / load the values) for the
block whose pointer is in the register `r` -/
theorem loadBlock_does {μ : V.σ} {s1 s2 s3 : HState} (H : V.Rel μ s1) {r : K.ρ} (hr : L.blkR r) {wb : Word}
    (hvb : V.val μ (L.reg r) = some wb) {toLoadNext : Ctx} {nAll nRest : Nat}
    (hlenAll : nAll = nRest + toLoadNext.length) (hne : toLoadNext ≠ []) (hcap : 2 * nAll ≤ K.cap)
    {pos : BlockPosition} {mode : LoadMode} (hl : pos = .other → 2 * nAll < K.cap)
    (hmb : ∀ j, 1 ≤ j → 2 * (nRest + j) < K.cap → K.pos (2 * (nRest + j)) ≠ L.reg r)
    (hrel : Heap.relStep mode s1 wb.toNat = .ok s2) {link : Nat}
    (hlink : (if pos = .other then Heap.rd s2 (wb.toNat + Heap.fstOff (Heap.fieldsPerBlock - 1))
      else .ok 0) = .ok link) {vals2 : List Field}
    (hlv : Heap.loadValues s2 (toLoadNext.map kindOf) wb.toNat (Heap.fieldsPerBlock - pos.toNat) mode =
      .ok (s3, vals2))
    (hno : mode = .share → ∀ a, s3.mem.get a < 2 ^ 64) (k : Nat) :
    ∃ μ', V.Runs (K.loadBlockC r toLoadNext nAll nRest pos mode k).1 μ μ' ∧ V.Rel μ' s3 ∧
      EnvFields (L.slot μ') nRest toLoadNext vals2 ∧
      (pos = .other → ∃ lw, V.val μ' (K.pos (2 * nAll)) = some lw ∧ lw.toNat = link) ∧
      (∀ u, ¬ L.scratch u → u ≠ L.reg K.heapR →
        (∀ m, 2 * nRest ≤ m → m < 2 * nAll + linkSlot pos → u ≠ K.pos m) → V.val μ' u = V.val μ u) := by
  have hok := L.blkR_ok hr
  have hnpos : 1 ≤ toLoadNext.length := List.length_pos_iff.mpr hne
  -- (1) release
  have step1 : ∃ μ1, V.Runs (if mode = .release then [K.comment "###release block"] ++ K.release r else []) μ μ1 ∧
      V.Rel μ1 s2 ∧ (∀ u, ¬ L.scratch u → u ≠ L.reg K.heapR → V.val μ1 u = V.val μ u) := by
    cases mode with
    | share =>
      simp only [Heap.relStep_share, Except.ok.injEq] at hrel
      subst hrel
      exact ⟨μ, V.runs_nil μ, H, fun _ _ _ => rfl⟩
    | release =>
      simp only [Heap.relStep_release] at hrel
      obtain ⟨μ1, x1, H1, F1, -⟩ := L.release_does H hr hvb hrel
      exact ⟨μ1, V.runs_seq (L.runs_comment _ μ) x1, H1, fun u h1 h2 => F1 u ⟨h1, h2⟩⟩
  obtain ⟨μ1, x1, H1, F1⟩ := step1
  have hvb1 : V.val μ1 (L.reg r) = some wb := by rw [F1 _ (L.reg_keep hok) (L.blkR_ne_heap hr)]; exact hvb
  -- (2) the link
  have step2 : ∃ μ2, V.Runs (if pos = .other then [K.comment "###load link to next block"] ++
        K.ldF (K.pos (2 * nAll)) r .fst (Heap.fieldsPerBlock - 1) else []) μ1 μ2 ∧ V.Rel μ2 s2 ∧
      (pos = .other → ∃ lw, V.val μ2 (K.pos (2 * nAll)) = some lw ∧ lw.toNat = link) ∧
      (∀ u, ¬ L.scratch u → (pos = .other → u ≠ K.pos (2 * nAll)) → V.val μ2 u = V.val μ1 u) := by
    cases pos with
    | last => exact ⟨μ1, V.runs_nil μ1, H1, (fun e => by cases e), fun _ _ _ => rfl⟩
    | other =>
      simp only [if_true] at hlink ⊢
      obtain ⟨μ2, x2, H2, F2, lw, v2, elw⟩ := L.ldF_does (num := .fst) H1 (hl rfl) hok hvb1
        (K.offOk_mono (Nat.sub_le _ _) K.offOk_block) hlink
      exact ⟨μ2, V.runs_seq (L.runs_comment _ μ1) x2, H2, fun _ => ⟨lw, v2, elw⟩,
        fun u h1 h2 => F2 u ⟨h1, h2 trivial⟩⟩
  obtain ⟨μ2, x2, H2, hlk, F2⟩ := step2
  have hvb2 : V.val μ2 (L.reg r) = some wb := by
    rw [F2 _ (L.reg_keep hok) (fun hp => by
      have := hmb toLoadNext.length hnpos (by rw [← hlenAll]; exact hl hp)
      rw [← hlenAll] at this
      exact Ne.symm this)]
    exact hvb1
  -- (3) the values
  obtain ⟨μ3, x3, H3, hE3, F3⟩ := L.loadValues_does H2 (base := nRest) hr hvb2 hmb
    (by rw [← hlenAll]; exact hcap) (K.offOk_mono (Nat.sub_le _ _) K.offOk_block) hlv hno k
  refine ⟨μ3, V.runs_seq (V.runs_seq x1 x2) x3, H3, hE3, ?_, ?_⟩
  · intro hp
    obtain ⟨lw, hlw, elw⟩ := hlk hp
    refine ⟨lw, ?_, elw⟩
    rw [F3 _ (L.pos_keep (hl hp)) (fun m _ h2 e => by
      have := L.pos_inj (hl hp) (by omega) e; omega)]
    exact hlw
  · intro u hT hH hu
    rw [F3 u hT (fun m h1 h2 => hu m h1 (by omega)),
      F2 u hT (fun hp => hu _ (by omega) (by simp [linkSlot, hp])), F1 u hT hH]

/-- the LOGICAL value of a temporary: while the additional scratch register is evacuated (`rf`, the
`register_freed` flag of memory.rs), its contents are in the slot `slotT` -/
def lval (μ : V.σ) (rf : Bool) (u : V.τ) : Option Word :=
  if (rf && L.isTT u) = true then V.val μ L.slotT else V.val μ u

def lslot (μ : V.σ) (rf : Bool) (m : Nat) : Option Word := L.lval μ rf (K.pos m)

theorem lval_false (μ : V.σ) (u : V.τ) : L.lval μ false u = V.val μ u := by simp [lval]

theorem lval_ne (μ : V.σ) (rf : Bool) {u : V.τ} (h : u ≠ L.reg K.ttR) : L.lval μ rf u = V.val μ u := by
  have : L.isTT u = false := by
    cases h' : L.isTT u with
    | false => rfl
    | true => exact absurd (L.isTT_iff.1 h') h
  simp [lval, this]

theorem lval_tt (μ : V.σ) : L.lval μ true (L.reg K.ttR) = V.val μ L.slotT := by
  simp [lval, L.isTT_iff.2 rfl]

theorem lslot_false (μ : V.σ) : L.lslot μ false = L.slot μ := funext fun _ => L.lval_false μ _

/-- CONTRACT of `load_fields`: ANY number of fields (the recursion goes down the chain of blocks first),
release and share mode, every placement.  Stated on the logical values. -/
theorem loadFields_does : ∀ (fuel : Nat) (toLoad : Ctx) (base : Nat) (pos : BlockPosition) (mode : LoadMode)
    (rf : Bool) (p : Nat) (μ : V.σ) (s s' : HState) (vals : List Field) (link k : Nat),
    toLoad.length < fuel → V.Rel μ s → 2 * (base + toLoad.length) ≤ K.cap →
    (pos = .other → 2 * (base + toLoad.length) < K.cap) →
    (rf = true → K.isSpill (2 * base) = true) → (pos = .last → rf = false) →
    (∃ pw, L.lval μ rf (K.pos (2 * base)) = some pw ∧ pw.toNat = p) →
    Heap.loadFields s (toLoad.map kindOf) pos mode p = .ok (s', vals, link) →
    (mode = .share → ∀ a, s'.mem.get a < 2 ^ 64) →
    ((K.loadFieldsC fuel toLoad base pos mode rf k).1.2 = true →
      K.isSpill (2 * (base + toLoad.length)) = true) ∧
    ∃ μ', V.Runs (K.loadFieldsC fuel toLoad base pos mode rf k).1.1 μ μ' ∧ V.Rel μ' s' ∧
      EnvFields (L.lslot μ' (outFlag (K.loadFieldsC fuel toLoad base pos mode rf k).1.2 pos)) base toLoad vals ∧
      (pos = .other → ∃ lw, L.lval μ' (K.loadFieldsC fuel toLoad base pos mode rf k).1.2
          (K.pos (2 * (base + toLoad.length))) = some lw ∧ lw.toNat = link) ∧
      (∀ u, ¬ L.scratch u → u ≠ L.reg K.heapR → u ≠ L.slotT →
        (∀ m, 2 * base ≤ m → m < 2 * (base + toLoad.length) + linkSlot pos → u ≠ K.pos m) →
        L.lval μ' (outFlag (K.loadFieldsC fuel toLoad base pos mode rf k).1.2 pos) u = L.lval μ rf u) := by
  intro fuel
  induction fuel with
  | zero => intro toLoad _ _ _ _ _ _ _ _ _ _ _ hf; exact absurd hf (Nat.not_lt_zero _)
  | succ fuel ih =>
    intro toLoad base pos mode rf p μ s s' vals link k hfuel H hcap hlc hrf hlast hp hop hno
    by_cases hne : toLoad = []
    · -- nothing (more) to load
      subst hne
      simp only [List.map_nil, Heap.heap_loadFields_nil, Except.ok.injEq, Prod.mk.injEq] at hop
      obtain ⟨rfl, rfl, rfl⟩ := hop
      have hC : K.loadFieldsC (fuel + 1) [] base pos mode rf k = (([], rf), k) := by
        simp [LoadCode.loadFieldsC]
      rw [hC]
      have hfl : outFlag rf pos = rf := by
        cases pos with
        | last => rw [hlast rfl]; rfl
        | other => rfl
      refine ⟨by simpa using hrf, μ, V.runs_nil μ, H, trivial, fun _ => by simpa using hp,
        fun _ _ _ _ _ => by rw [hfl]⟩
    · have hpos : 0 < toLoad.length := List.length_pos_iff.mpr hne
      have hkne : toLoad.map kindOf ≠ [] := by simpa using hne
      rw [Heap.heap_loadFields_cons _ _ hkne, List.length_map] at hop
      have hrlt : Heap.restLength toLoad.length pos < toLoad.length := Heap.restLength_lt _ _ hpos
      have hC : K.loadFieldsC (fuel + 1) toLoad base pos mode rf k =
          (let rl := Heap.restLength toLoad.length pos
           let r0 := K.loadFieldsC fuel (toLoad.take rl) base .other mode rf k
           if K.isSpill (2 * (base + rl)) then
             let rb := K.loadBlockC K.ttR (toLoad.drop rl) (base + toLoad.length) (base + rl) pos mode r0.2
             ((r0.1.1 ++ (if r0.1.2 then [] else
                   [K.comment "###evacuate additional scratch register for memory block"] ++ K.evac) ++
                 K.ldBlk (2 * (base + rl)) ++ rb.1 ++
                 (if pos = .last then [K.comment "###restore evacuated register"] ++ K.restore else []), true),
               rb.2)
           else
             let rb := K.loadBlockC (K.regOf (2 * (base + rl))) (toLoad.drop rl) (base + toLoad.length)
               (base + rl) pos mode r0.2
             ((r0.1.1 ++ rb.1, r0.1.2), rb.2)) := by
        simp only [LoadCode.loadFieldsC, if_neg hne]
      rw [hC]
      simp only
      generalize Heap.restLength toLoad.length pos = rl at hop hrlt ⊢
      have hlt2 : (toLoad.take rl).length = rl := by simp [List.length_take]; omega
      have hdl : (toLoad.drop rl).length = toLoad.length - rl := by simp
      have hdne : toLoad.drop rl ≠ [] := fun e => by
        have := congrArg List.length e; simp at this; omega
      have hmB : 2 * (base + rl) < K.cap := by omega
      have hmcap : ∀ m, m < 2 * (base + toLoad.length) + linkSlot pos → m < K.cap := fun m h => by
        cases pos with
        | last => simp [linkSlot] at h; omega
        | other => have := hlc rfl; simp [linkSlot] at h; omega
      -- the deeper blocks
      cases hdeep : Heap.loadFields s ((toLoad.map kindOf).take rl) .other mode p with
      | error e => simp [hdeep] at hop
      | ok r1 =>
        obtain ⟨s1, vals1, blk⟩ := r1
        simp only [hdeep] at hop
        cases hrel : Heap.relStep mode s1 blk with
        | error e => simp [hrel] at hop
        | ok s2 =>
          simp only [hrel] at hop
          cases hlk : (if pos = .other then
              Heap.rd s2 (blk + Heap.fstOff (Heap.fieldsPerBlock - 1)) else .ok 0) with
          | error e => simp [hlk] at hop
          | ok link' =>
            simp only [hlk] at hop
            cases hlv : Heap.loadValues s2 ((toLoad.map kindOf).drop rl) blk
                (Heap.fieldsPerBlock - pos.toNat) mode with
            | error e => simp [hlv] at hop
            | ok r3 =>
              obtain ⟨s3, vals2⟩ := r3
              simp only [hlv, Except.ok.injEq, Prod.mk.injEq] at hop
              obtain ⟨rfl, rfl, rfl⟩ := hop
              rw [← List.map_take] at hdeep
              rw [← List.map_drop] at hlv
              have hno1 : mode = .share → ∀ a, s1.mem.get a < 2 ^ 64 := by
                intro hm a
                subst hm
                simp only [Heap.relStep_share, Except.ok.injEq] at hrel
                subst hrel
                exact Nat.lt_of_le_of_lt (Heap.loadValues_mono hlv a) (hno rfl a)
              obtain ⟨hrfa, μa, xa, Ha, Ea, La, Fa⟩ :=
                ih (toLoad.take rl) base .other mode rf p μ s s1 vals1 blk k (by rw [hlt2]; omega) H
                  (by rw [hlt2]; omega) (fun _ => by rw [hlt2]; exact hmB) hrf (fun e => by cases e) hp hdeep hno1
              rw [hlt2] at hrfa La Fa
              generalize K.loadFieldsC fuel (toLoad.take rl) base .other mode rf k = r0 at hrfa xa Ea La Fa ⊢
              obtain ⟨⟨c0, rfa⟩, k1⟩ := r0
              simp only [outFlag] at Ea Fa hrfa xa La
              obtain ⟨wb, hwb, ewb⟩ := La trivial
              subst ewb
              have hpinj : ∀ {m m'}, m < K.cap → m' < K.cap → m ≠ m' → K.pos m ≠ K.pos m' :=
                fun h1 h2 hn e => hn (L.pos_inj h1 h2 e)
              by_cases hsp : K.isSpill (2 * (base + rl)) = true
              · -- the block pointer is spilled: access through the additional scratch register
                have S := L.spill hmB hsp
                have htl : L.ttPos < 2 * (base + rl) := S.tt_lt hsp
                have hptt : ∀ {m}, m < K.cap → 2 * (base + rl) ≤ m → K.pos m ≠ L.reg K.ttR := fun h1 h2 => by
                  rw [S.tt_pos]; exact hpinj h1 (by omega) (by omega)
                have hst : L.slotT ≠ L.reg K.ttR := by
                  rw [S.tt_pos]; exact Ne.symm (S.pos_ne_slot (by omega))
                have hwb' : V.val μa (K.pos (2 * (base + rl))) = some wb := by
                  rw [← L.lval_ne μa rfa (hptt hmB (Nat.le_refl _))]; exact hwb
                -- evacuate (unless already done)
                have stepE : ∃ μb, V.Runs (if rfa = true then [] else
                      [K.comment "###evacuate additional scratch register for memory block"] ++ K.evac) μa μb ∧
                    V.Rel μb s1 ∧ V.val μb L.slotT = L.lval μa rfa (L.reg K.ttR) ∧
                    (∀ u, u ≠ L.slotT → V.val μb u = V.val μa u) := by
                  cases rfa with
                  | true => exact ⟨μa, V.runs_nil μa, Ha, (L.lval_tt μa).symm, fun _ _ => rfl⟩
                  | false =>
                    obtain ⟨μb, xb, Hb, Fb, pb⟩ := S.evac_does Ha
                    exact ⟨μb, V.runs_seq (L.runs_comment _ μa) xb, Hb, by rw [pb, L.lval_false], Fb⟩
                obtain ⟨μb, xev, Hb, hb0, Fev⟩ := stepE
                -- fetch the block pointer
                obtain ⟨μc, xld, Hc, Fld, pld⟩ := S.ldBlk_does Hb hmB hsp
                have hc4 : V.val μc (L.reg K.ttR) = some wb := by
                  rw [pld, Fev _ (S.pos_ne_slot hmB)]; exact hwb'
                have hc0 : V.val μc L.slotT = L.lval μa rfa (L.reg K.ttR) := by rw [Fld _ hst]; exact hb0
                have hcu : ∀ u, u ≠ L.reg K.ttR → u ≠ L.slotT → V.val μc u = V.val μa u :=
                  fun u h4 h0 => by rw [Fld u h4, Fev u h0]
                obtain ⟨μd, xb, Hd, Eb, Lb, Fb⟩ := L.loadBlock_does Hc S.tt_blk hc4 (toLoadNext := toLoad.drop rl)
                  (nAll := base + toLoad.length) (nRest := base + rl) (by rw [hdl]; omega) hdne hcap hlc
                  (fun j hj hc => hptt hc (by omega)) hrel hlk hlv hno k1
                have hd0 : V.val μd L.slotT = L.lval μa rfa (L.reg K.ttR) := by
                  rw [Fb _ S.slot_keep S.slot_ne_heap (fun m' _ h2 => Ne.symm (S.pos_ne_slot (hmcap m' h2)))]
                  exact hc0
                -- restore at the last block
                have stepR : ∃ μe, V.Runs (if pos = .last then
                      [K.comment "###restore evacuated register"] ++ K.restore else []) μd μe ∧ V.Rel μe s3 ∧
                    (pos = .last → V.val μe (L.reg K.ttR) = V.val μd L.slotT) ∧
                    (∀ u, (pos = .last → u ≠ L.reg K.ttR) → V.val μe u = V.val μd u) := by
                  cases pos with
                  | last =>
                    obtain ⟨μe, xe, He, Fe, pe⟩ := S.restore_does Hd
                    exact ⟨μe, V.runs_seq (L.runs_comment _ μd) xe, He, fun _ => pe, fun u hu => Fe u (hu rfl)⟩
                  | other => exact ⟨μd, V.runs_nil μd, Hd, (fun e => by cases e), fun _ _ => rfl⟩
                obtain ⟨μe, xe, He, pe, Fe⟩ := stepR
                -- the logical values of the result
                have hL4 : L.lval μe (outFlag true pos) (L.reg K.ttR) = L.lval μa rfa (L.reg K.ttR) := by
                  cases pos with
                  | last => simp only [outFlag]; rw [L.lval_false, pe rfl, hd0]
                  | other =>
                    simp only [outFlag]
                    rw [L.lval_tt, Fe _ (fun e => by cases e), hd0]
                have hLu : ∀ u, u ≠ L.reg K.ttR → L.lval μe (outFlag true pos) u = V.val μd u := fun u h4 => by
                  rw [L.lval_ne _ _ h4, Fe u (fun _ => h4)]
                have hLa : ∀ u, ¬ L.scratch u → u ≠ L.reg K.heapR → u ≠ L.slotT →
                    (∀ m', 2 * (base + rl) ≤ m' → m' < 2 * (base + toLoad.length) + linkSlot pos → u ≠ K.pos m') →
                    L.lval μe (outFlag true pos) u = L.lval μa rfa u := by
                  intro u hT hH hS hu
                  by_cases h4 : u = L.reg K.ttR
                  · subst h4; exact hL4
                  · rw [hLu u h4, Fb u hT hH hu, hcu u h4 hS, L.lval_ne _ _ h4]
                simp only [hsp, if_true]
                refine ⟨fun _ => L.isSpill_mono (by omega) hsp, μe,
                  V.runs_seq (V.runs_seq (V.runs_seq (V.runs_seq xa xev) xld) xb) xe, He, ?_, ?_, ?_⟩
                · have e1 : EnvFields (L.lslot μe (outFlag true pos)) base (toLoad.take rl) vals1 :=
                    Ea.congr (fun m' h1' h2' => by
                      rw [hlt2] at h2'
                      have hm : m' < K.cap := by omega
                      exact hLa _ (L.pos_keep hm) (L.pos_ne_heap hm) (S.pos_ne_slot hm)
                        (fun m'' h1'' h2'' => hpinj hm (hmcap m'' h2'') (by omega)))
                  have e2 : EnvFields (L.lslot μe (outFlag true pos)) (base + rl) (toLoad.drop rl) vals2 :=
                    Eb.congr (fun m' h1' h2' => hLu _ (hptt (by rw [hdl] at h2'; omega) h1'))
                  have := e1.append (by rw [hlt2]; exact e2)
                  rwa [List.take_append_drop] at this
                · intro hp'
                  obtain ⟨lw, hlw, elw⟩ := Lb hp'
                  refine ⟨lw, ?_, elw⟩
                  rw [L.lval_ne _ _ (hptt (hlc hp') (by omega)), Fe _ (fun e => by rw [hp'] at e; cases e)]
                  exact hlw
                · intro u hT hH hS hu
                  rw [hLa u hT hH hS (fun m' h1' h2' => hu m' (by omega) h2')]
                  exact Fa u hT hH hS (fun m' h1' h2' => hu m' h1' (by simp [linkSlot] at h2'; omega))
              · -- the block pointer is in a register
                have hsp' : K.isSpill (2 * (base + rl)) = false := by
                  cases h : K.isSpill (2 * (base + rl)) with
                  | false => rfl
                  | true => exact absurd h hsp
                have hrfa0 : rfa = false := by
                  cases rfa with
                  | false => rfl
                  | true => exact absurd (hrfa rfl) hsp
                have hrf0 : rf = false := by
                  cases rf with
                  | false => rfl
                  | true => exact absurd (L.isSpill_mono (by omega) (hrf rfl)) hsp
                subst hrfa0 hrf0
                rw [L.lslot_false] at Ea
                simp only [L.lval_false] at hwb Fa
                rw [L.pos_regOf hmB hsp'] at hwb
                obtain ⟨μ', xb, H', Eb, Lb, Fb⟩ := L.loadBlock_does Ha (L.blkR_regOf hmB hsp') hwb
                  (toLoadNext := toLoad.drop rl) (nAll := base + toLoad.length) (nRest := base + rl)
                  (by rw [hdl]; omega) hdne hcap hlc
                  (fun j hj hc => by rw [← L.pos_regOf hmB hsp']; exact hpinj hc hmB (by omega)) hrel hlk hlv hno k1
                simp only [hsp', Bool.false_eq_true, if_false]
                have hof : outFlag false pos = false := by cases pos <;> rfl
                rw [hof]
                simp only [L.lslot_false, L.lval_false]
                refine ⟨(fun e => by cases e), μ', V.runs_seq xa xb, H', ?_, Lb, ?_⟩
                · have e1 : EnvFields (L.slot μ') base (toLoad.take rl) vals1 :=
                    Ea.congr (fun m h1 h2 => by
                      rw [hlt2] at h2
                      have hm : m < K.cap := by omega
                      exact Fb _ (L.pos_keep hm) (L.pos_ne_heap hm)
                        (fun m' h1' h2' => hpinj hm (hmcap m' h2') (by omega)))
                  have := e1.append (by rw [hlt2]; exact Eb)
                  rwa [List.take_append_drop] at this
                · intro u hT hH hS hu
                  rw [Fb u hT hH (fun m' h1' h2' => hu m' (by omega) h2')]
                  exact Fa u hT hH hS (fun m' h1' h2' => hu m' h1' (by simp [linkSlot] at h2'; omega))

/-- CONTRACT of `load`: the object whose pointer is in the first temporary of position `base` is unpacked into
the variables `toLoad` as `Scc.Heap.loadObj` does — unique (count 0): the blocks go back onto the linear free
list, the children move; shared: the count is decremented and every pointer child gets one more reference -/
theorem load_does (hC : K.LoadCounts (fun a b code => a ≤ b ∧ LabsIn K.lab code a b)) {μ : V.σ} {s s' : HState}
    (H : V.Rel μ s) {toLoad : Ctx} {base : Nat} (hcap : 2 * (base + toLoad.length) ≤ K.cap) {pw : Word}
    (hp : V.val μ (K.pos (2 * base)) = some pw) {vals : List Field}
    (hop : Heap.loadObj s pw.toNat (toLoad.map kindOf) = .ok (s', vals))
    (hno : s.mem.get pw.toNat ≠ 0 → ∀ a, s'.mem.get a < 2 ^ 64) (k : Nat) :
    ∃ μ', V.Runs (K.loadC toLoad base k).1 μ μ' ∧ V.Rel μ' s' ∧ EnvFields (L.slot μ') base toLoad vals ∧
      (∀ u, ¬ L.scratch u → u ≠ L.reg K.heapR → u ≠ L.slotT →
        (∀ m, 2 * base ≤ m → m < 2 * (base + toLoad.length) → u ≠ K.pos m) → V.val μ' u = V.val μ u) := by
  unfold LoadCode.loadC
  by_cases hne : toLoad = []
  · subst hne
    simp only [List.map_nil, Heap.loadObj, if_true, Except.ok.injEq, Prod.mk.injEq] at hop
    obtain ⟨rfl, rfl⟩ := hop
    exact ⟨μ, V.runs_nil μ, H, trivial, fun _ _ _ _ _ => rfl⟩
  · rw [if_neg hne]
    have hkne : toLoad.map kindOf ≠ [] := by simpa using hne
    have hpos : 0 < toLoad.length := List.length_pos_iff.mpr hne
    have hc0 : 2 * base < K.cap := by omega
    have hcT := hC.loadFieldsC (toLoad.length + 1) toLoad base .last .release false k
    have hcE := hC.loadFieldsC (toLoad.length + 1) toLoad base .last .share false
      (K.loadFieldsC (toLoad.length + 1) toLoad base .last .release false k).2
    simp only [Heap.loadObj, hkne, if_false] at hop
    cases hrd : Heap.rd s pw.toNat with
    | error e => simp [hrd] at hop
    | ok cnt =>
      simp only [hrd] at hop
      -- what a branch establishes, from the state the test leaves
      have branch : ∀ (mode : LoadMode) (kk : Nat) (s0 : HState) (vs : List Field) (lk : Nat),
          Heap.loadFields s0 (toLoad.map kindOf) .last mode pw.toNat = .ok (s', vs, lk) →
          (mode = .share → ∀ a, s'.mem.get a < 2 ^ 64) →
          ∀ μ1, V.Rel μ1 s0 → (∀ u, ¬ L.scratch u → V.val μ1 u = V.val μ u) →
          ∃ μ', V.Runs (K.loadFieldsC (toLoad.length + 1) toLoad base .last mode false kk).1.1 μ1 μ' ∧
            V.Rel μ' s' ∧ EnvFields (L.slot μ') base toLoad vs ∧
            (∀ u, ¬ L.scratch u → u ≠ L.reg K.heapR → u ≠ L.slotT →
              (∀ m, 2 * base ≤ m → m < 2 * (base + toLoad.length) → u ≠ K.pos m) → V.val μ' u = V.val μ u) := by
        intro mode kk s0 vs lk hlf hn μ1 H1 F1
        obtain ⟨-, μ', x, H', E', -, F'⟩ := L.loadFields_does (toLoad.length + 1) toLoad base .last mode false
          pw.toNat μ1 s0 s' vs lk kk (Nat.lt_succ_self _) H1 hcap (fun e => by cases e) (fun e => by cases e)
          (fun _ => rfl) ⟨pw, by rw [L.lval_false, F1 _ (L.pos_keep hc0)]; exact hp, rfl⟩ hlf hn
        simp only [outFlag, L.lslot_false, L.lval_false] at E' F'
        exact ⟨μ', x, H', E', fun u hT hH hS hu => by
          rw [F' u hT hH hS (fun m h1 h2 => hu m h1 (by simpa [linkSlot] using h2)), F1 u hT]⟩
      by_cases hz : cnt = 0
      · subst hz
        simp only [if_true] at hop
        cases hlf : Heap.loadFields s (toLoad.map kindOf) .last .release pw.toNat with
        | error e => simp [hlf] at hop
        | ok r =>
          obtain ⟨s1, vs, lk⟩ := r
          simp only [hlf, Except.ok.injEq, Prod.mk.injEq] at hop
          obtain ⟨rfl, rfl⟩ := hop
          exact L.top_then H hc0 hp hrd hcE.2 (branch .release k s vs lk hlf (fun e => by cases e))
      · rw [if_neg hz] at hop
        cases hwr : Heap.wr s pw.toNat (cnt - 1) with
        | error e => simp [hwr] at hop
        | ok s0 =>
          simp only [hwr] at hop
          cases hlf : Heap.loadFields s0 (toLoad.map kindOf) .last .share pw.toNat with
          | error e => simp [hlf] at hop
          | ok r =>
            obtain ⟨s1, vs, lk⟩ := r
            simp only [hlf, Except.ok.injEq, Prod.mk.injEq] at hop
            obtain ⟨rfl, rfl⟩ := hop
            have hcnt : cnt = s.mem.get pw.toNat := (Heap.rd_eq_ok.1 hrd).2
            exact L.top_else H hc0 hp hrd hz hwr (hcT.2.mono (Nat.le_refl _) hcE.1)
              (branch .share _ s0 vs lk hlf (fun _ => hno (by rw [← hcnt]; exact hz)))

end LoadSpec

end Scc.Mem
