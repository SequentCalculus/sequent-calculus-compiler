/-
  Scc.Mem.Store — memory.rs `store` against `Scc.Heap.storeFields`, proved once for every backend: the
  contracts of `store_value`, `store_values` and of the recursion `store_fields` over the blocks of an object
  (values, `acquire_block`, the remaining fields, linked through the last pointer slot), from the contracts
  of the leaves (`StoreSpec`).  `Memory::store` is `store_fields` at `.last` with nothing around it, so
  `storeFields_does` at `.last` is its contract (against `Scc.Heap.storeObj`, which is `storeFields` there).
-/
import Scc.Mem.View

namespace Scc.Mem

open Scc.AxCut
open Scc.Backend (TempNum)
open Scc.Heap (HState Field BlockPosition)

/-- The contracts of the leaves of `store` on a view machine.  Besides the heap, `store_field` and
`store_zero` change only `scratch` temporaries; `acquire_block` for position `m` changes `scratch`, HEAP, FREE
and the temporaries `clob m` (the target; on RV64 also the additional temporary). -/
structure StoreSpec (V : View) (K : StoreCode V.κ V.τ) where
  reg : K.ρ → V.τ
  scratch : V.τ → Prop
  freeT : V.τ
  clob : Nat → V.τ → Prop
  runs_comment : ∀ s μ, V.Runs [K.comment s] μ μ
  reg_keep : ∀ {r}, K.okBlk r → ¬ scratch (reg r)
  pos_keep : ∀ {m}, m < K.cap → ¬ scratch (K.pos m)
  pos_ne_heap : ∀ {m}, m < K.cap → K.pos m ≠ reg K.heapR
  pos_ne_free : ∀ {m}, m < K.cap → K.pos m ≠ freeT
  clob_self : ∀ m, clob m (K.pos m)
  clob_pos : ∀ {m m'}, m' < m → m + 1 < K.cap → ¬ clob m (K.pos m')
  rel_heap : ∀ {μ : V.σ} {s : HState}, V.Rel μ s → ∃ w, V.val μ (reg K.heapR) = some w ∧ w.toNat = s.heap
  stF_does : ∀ {μ : V.σ} {s s' : HState} {m : Nat} {v : Word} {r : K.ρ} {b : Word} {num : TempNum} {off : Nat},
    V.Rel μ s → m < K.cap → V.val μ (K.pos m) = some v → K.okBlk r → V.val μ (reg r) = some b → K.offOk off →
    Heap.wr s (b.toNat + Heap.fieldOffset num.toNat off) v.toNat = .ok s' →
    V.Does (K.stF (K.pos m) r num off) μ s' (fun u => ¬ scratch u)
  stZ_does : ∀ {μ : V.σ} {s s' : HState} {r : K.ρ} {b : Word} {off : Nat},
    V.Rel μ s → K.okBlk r → V.val μ (reg r) = some b → K.offOk off →
    Heap.wr s (b.toNat + Heap.fstOff off) 0 = .ok s' →
    V.Does (K.stZ r off) μ s' (fun u => ¬ scratch u)
  acq_does : ∀ {μ : V.σ} {s s' : HState} {m new : Nat} (k : Nat), V.Rel μ s → m + 1 < K.cap →
    Heap.acquire s = .ok (s', new) →
    V.Does (K.acq m k) μ s' (fun u => ¬ scratch u ∧ u ≠ reg K.heapR ∧ u ≠ freeT ∧ ¬ clob m u)
      (fun μ' => ∃ w, V.val μ' (K.pos m) = some w ∧ w.toNat = new)
  zero_does : ∀ {μ : V.σ} {s : HState} {m : Nat}, V.Rel μ s → m < K.cap →
    V.Does (K.zero m) μ s (fun u => ¬ scratch u ∧ u ≠ K.pos m) (fun μ' => V.val μ' (K.pos m) = some 0)

namespace StoreSpec
variable {V : View} {K : StoreCode V.κ V.τ} (L : StoreSpec V K)

def slot (_ : StoreSpec V K) (μ : V.σ) (m : Nat) : Option Word := V.val μ (K.pos m)

/-- what `store_fields` leaves alone -/
def KeepS (base len : Nat) (u : V.τ) : Prop :=
  ¬ L.scratch u ∧ u ≠ L.reg K.heapR ∧ u ≠ L.freeT ∧ ∀ j, j ≤ len - 1 → ¬ L.clob (2 * (base + j)) u

include L in
theorem comment {μ : V.σ} {s : HState} {keep : V.τ → Prop} (H : V.Rel μ s) (m : String) :
    V.Does [K.comment m] μ s keep := View.Does.same (L.runs_comment m μ) H

/-- `store_value`: the variable at position `n` goes into field `off` of the block in `r` -/
theorem storeValue_does {μ : V.σ} {s s' : HState} (H : V.Rel μ s) {b : Binding} {n : Nat} {f : Field}
    (hf : FieldAt (L.slot μ) n b f) (hcap : 2 * n + 1 < K.cap) {r : K.ρ} (hr : K.okBlk r) {bw : Word}
    (hvb : V.val μ (L.reg r) = some bw) {off : Nat} (ho : K.offOk off)
    (hop : Heap.storeValue s f bw.toNat off = .ok s') :
    V.Does (K.storeValueC b n r off) μ s' (fun u => ¬ L.scratch u) := by
  unfold StoreCode.storeValueC
  unfold FieldAt at hf
  by_cases hχ : (b.chi == .ext) = true
  · rw [if_pos hχ] at hf ⊢
    obtain ⟨w, rfl, hw⟩ := hf
    simp only [Heap.storeValue] at hop
    cases hw1 : Heap.wr s (bw.toNat + Heap.sndOff off) w.toNat with
    | error e => simp [hw1] at hop
    | ok s1 =>
      simp only [hw1] at hop
      exact (L.stF_does (num := .snd) H hcap hw hr hvb ho hw1).seq fun μ1 H1 F1 _ =>
        L.stZ_does H1 hr (by rw [F1 _ (L.reg_keep hr)]; exact hvb) ho hop
  · rw [if_neg hχ] at hf ⊢
    obtain ⟨p, w, rfl, hp, hw⟩ := hf
    simp only [Heap.storeValue] at hop
    cases hw1 : Heap.wr s (bw.toNat + Heap.sndOff off) w.toNat with
    | error e => simp [hw1] at hop
    | ok s1 =>
      simp only [hw1] at hop
      have hc0 : 2 * n < K.cap := by omega
      exact (L.stF_does (num := .snd) H hcap hw hr hvb ho hw1).seq fun μ1 H1 F1 _ =>
        L.stF_does (num := .fst) H1 hc0 (by rw [F1 _ (L.pos_keep hc0)]; exact hp) hr
          (by rw [F1 _ (L.reg_keep hr)]; exact hvb) ho hop

theorem storeZerosFrom_does {r : K.ρ} (hr : K.okBlk r) {bw : Word} : ∀ (n k0 : Nat) (μ : V.σ) (s s' : HState),
    V.Rel μ s → V.val μ (L.reg r) = some bw → K.offOk (k0 + n) → Heap.storeZerosFrom s bw.toNat k0 n = .ok s' →
    V.Does ((List.range' k0 n).flatMap (K.stZ r)) μ s' (fun u => ¬ L.scratch u)
  | 0, _, μ, s, s', H, _, _, hop => by
    simp only [Heap.storeZerosFrom, Except.ok.injEq] at hop
    subst hop
    exact View.Does.nil H
  | n + 1, k0, μ, s, s', H, hv, hk, hop => by
    simp only [Heap.storeZerosFrom] at hop
    cases hw : Heap.wr s (bw.toNat + Heap.fstOff k0) 0 with
    | error e => simp [hw] at hop
    | ok s1 =>
      simp only [hw] at hop
      rw [List.range'_succ, List.flatMap_cons]
      exact (L.stZ_does H hr hv (K.offOk_mono (by omega) hk) hw).seq fun μ1 H1 F1 _ =>
        storeZerosFrom_does hr n (k0 + 1) μ1 s1 s' H1 (by rw [F1 _ (L.reg_keep hr)]; exact hv)
          (by rw [show k0 + 1 + n = k0 + (n + 1) by omega]; exact hk) hop

/-- the `pop` loop of `store_values`; the zeros are stored afterwards -/
theorem storeLoop_does {base : Nat} {r : K.ρ} (hr : K.okBlk r) {bw : Word} :
    ∀ (bsRev : List Binding) (fsRev : List Field) (ff : Nat) (μ : V.σ) (s s' : HState),
    V.Rel μ s → V.val μ (L.reg r) = some bw → EnvFieldsRev (L.slot μ) base bsRev fsRev →
    2 * (base + bsRev.length) ≤ K.cap → K.offOk ff → Heap.storeValuesRev s bw.toNat fsRev ff = .ok s' →
    ∃ s1, Heap.storeZeros s1 (K.storeLoopC base r bsRev ff).2 bw.toNat = .ok s' ∧
      V.Does (K.storeLoopC base r bsRev ff).1 μ s1 (fun u => ¬ L.scratch u)
  | [], [], ff, μ, s, s', H, _, _, _, _, hop => by
    simp only [Heap.storeValuesRev] at hop
    exact ⟨s, hop, View.Does.nil H⟩
  | [], _ :: _, _, _, _, _, _, _, hE, _, _, _ => hE.elim
  | _ :: _, [], _, _, _, _, _, _, hE, _, _, _ => hE.elim
  | _ :: _, _ :: _, 0, _, _, _, _, _, _, _, _, hop => by simp [Heap.storeValuesRev] at hop
  | b :: rest, f :: fs, ff + 1, μ, s, s', H, hv, hE, hcap, hff, hop => by
    simp only [Heap.storeValuesRev] at hop
    cases hsv : Heap.storeValue s f bw.toNat ff with
    | error e => simp [hsv] at hop
    | ok s1 =>
      simp only [hsv] at hop
      simp only [List.length_cons] at hcap
      have hff' := K.offOk_mono (Nat.le_succ ff) hff
      obtain ⟨μ1, x1, H1, F1, -⟩ := L.storeValue_does H hE.1 (by omega) hr hv hff' hsv
      have hE1 : EnvFieldsRev (L.slot μ1) base rest fs :=
        hE.2.congr fun m _ h2 => F1 _ (L.pos_keep (by omega))
      obtain ⟨s2, hz, μ2, x2, H2, F2, -⟩ := storeLoop_does hr rest fs ff μ1 s1 s' H1
        (by rw [F1 _ (L.reg_keep hr)]; exact hv) hE1 (by omega) hff' hop
      simp only [StoreCode.storeLoopC, Nat.add_sub_cancel]
      exact ⟨s2, hz, μ2, V.runs_seq x1 x2, H2, fun u hu => by rw [F2 u hu, F1 u hu], trivial⟩

theorem storeValues_does {μ : V.σ} {s s' : HState} (H : V.Rel μ s) {toStore : Ctx} {base : Nat} {fs : List Field}
    (hE : EnvFields (L.slot μ) base toStore fs) (hcap : 2 * (base + toStore.length) ≤ K.cap) {r : K.ρ}
    (hr : K.okBlk r) {bw : Word} (hv : V.val μ (L.reg r) = some bw) {ff : Nat} (hff : K.offOk ff)
    (hop : Heap.storeValues s fs bw.toNat ff = .ok s') :
    V.Does (K.storeValuesC toStore base r ff) μ s' (fun u => ¬ L.scratch u) := by
  obtain ⟨s1, hz, hloop⟩ := L.storeLoop_does hr toStore.reverse fs.reverse ff μ s s' H hv
    (envFields_rev base _ _ _ rfl hE) (by simpa using hcap) hff hop
  have hle := K.storeLoopC_le base r toStore.reverse ff
  unfold StoreCode.storeValuesC
  rw [List.append_assoc, List.append_assoc]
  refine View.Does.skip (L.runs_comment _ μ) (hloop.seq fun μ1 H1 F1 _ => View.Does.skip ?_ ?_)
  · split
    · exact L.runs_comment _ μ1
    · exact V.runs_nil μ1
  · rw [StoreCode.storeZerosC, List.range_eq_range']
    exact L.storeZerosFrom_does hr _ 0 μ1 s1 s' H1 (by rw [F1 _ (L.reg_keep hr)]; exact hv)
      (K.offOk_mono (by omega) hff) hz

/-- CONTRACT of `store_fields`: any number of fields, one block per `FIELDS_PER_BLOCK - 1` further ones -/
theorem storeFields_does : ∀ (fuel : Nat) (toStore : Ctx) (base : Nat) (pos : BlockPosition) (fs : List Field)
    (prev : Nat) (μ : V.σ) (s s' : HState) (ptr k : Nat),
    toStore.length < fuel → V.Rel μ s → EnvFields (L.slot μ) base toStore fs →
    2 * (base + toStore.length) ≤ K.cap → 2 * base < K.cap →
    (pos = .other → 2 * (base + toStore.length) < K.cap ∧
      ∃ w, V.val μ (K.pos (2 * (base + toStore.length))) = some w ∧ w.toNat = prev) →
    Heap.storeFields s fs pos prev = .ok (s', ptr) →
    V.Does (K.storeFieldsC fuel toStore base pos k).1 μ s' (L.KeepS base toStore.length)
      (fun μ' => ∃ w, V.val μ' (K.pos (2 * base)) = some w ∧ w.toNat = ptr) := by
  intro fuel
  induction fuel with
  | zero => intro toStore _ _ _ _ _ _ _ _ _ hf; exact absurd hf (Nat.not_lt_zero _)
  | succ fuel ih =>
    intro toStore base pos fs prev μ s s' ptr k hfuel H hE hcap hbase hlink hop
    have hlen := hE.length_eq
    unfold StoreCode.storeFieldsC
    by_cases hne : toStore = []
    · subst hne
      have hfs : fs = [] := by
        cases fs with
        | nil => rfl
        | cons _ _ => exact hE.elim
      subst hfs
      rw [Heap.heap_storeFields_nil] at hop
      simp only [Except.ok.injEq, Prod.mk.injEq] at hop
      obtain ⟨rfl, rfl⟩ := hop
      rw [if_pos rfl]
      cases pos with
      | last =>
        simp only [if_true]
        obtain ⟨μ', x, H', F, hz⟩ := L.zero_does H hbase
        exact ⟨μ', V.runs_seq (L.runs_comment _ μ) x, H',
          fun u hu => F u ⟨hu.1, fun e => hu.2.2.2 0 (Nat.zero_le _) (e ▸ L.clob_self _)⟩, 0#64, hz, rfl⟩
      | other =>
        simp only [reduceCtorEq, if_false]
        obtain ⟨_, w, hw, ew⟩ := hlink rfl
        exact ⟨μ, V.runs_nil μ, H, fun _ _ => rfl, w, by simpa using hw, ew⟩
    · rw [if_neg hne]
      have hfne : fs ≠ [] := fun e => hne (List.eq_nil_of_length_eq_zero (by rw [hlen, e]; rfl))
      have hpos : 0 < toStore.length := List.length_pos_iff.mpr hne
      rw [Heap.heap_storeFields_cons _ _ hfne, ← hlen] at hop
      have hrlt : Heap.restLength toStore.length pos < toStore.length := Heap.restLength_lt _ _ hpos
      simp only
      generalize Heap.restLength toStore.length pos = rl at hop hrlt ⊢
      -- the link to the previous block, in both positions: a contract that keeps HEAP and the slots
      have hpre : ∃ s1, s1.heap = s.heap ∧
          (match Heap.storeValues s1 (fs.drop rl) s1.heap (Heap.fieldsPerBlock - pos.toNat) with
            | .error e => Except.error e
            | .ok s2 =>
              match Heap.acquire s2 with
              | .error e => Except.error e
              | .ok (s3, new) => Heap.storeFields s3 (fs.take rl) .other new) = .ok (s', ptr) ∧
          V.Does ((if pos = .other then [K.comment "##store link to previous block"] ++
              K.stF (K.pos (2 * (base + toStore.length))) K.heapR .fst (Heap.fieldsPerBlock - 1) else []) ++
            (if pos = .last then [K.comment "#allocate memory"] else [])) μ s1 (fun u => ¬ L.scratch u) := by
        cases pos with
        | last =>
          simp only [reduceCtorEq, if_false, if_true, List.nil_append] at hop ⊢
          exact ⟨s, rfl, hop, L.comment H _⟩
        | other =>
          simp only [if_true, reduceCtorEq, if_false, List.append_nil] at hop ⊢
          obtain ⟨hc, w, hw, ew⟩ := hlink rfl
          obtain ⟨wH, hH, eH⟩ := L.rel_heap H
          cases hwl : Heap.wr s (s.heap + Heap.fstOff (Heap.fieldsPerBlock - 1)) prev with
          | error e => simp [hwl] at hop
          | ok s1 =>
            simp only [hwl] at hop
            refine ⟨s1, Heap.wr_heap hwl, hop, View.Does.skip (L.runs_comment _ μ) ?_⟩
            rw [← eH, ← ew] at hwl
            exact L.stF_does (num := .fst) H hc hw K.heapR_ok hH
              (K.offOk_mono (Nat.sub_le _ _) K.offOk_block) hwl
      obtain ⟨s1, hs1, hop1, hd1⟩ := hpre
      cases hsv : Heap.storeValues s1 (fs.drop rl) s1.heap (Heap.fieldsPerBlock - pos.toNat) with
      | error e => simp [hsv] at hop1
      | ok s2 =>
        simp only [hsv] at hop1
        cases hac : Heap.acquire s2 with
        | error e => simp [hac] at hop1
        | ok r =>
          obtain ⟨s3, new⟩ := r
          simp only [hac] at hop1
          have hm : 2 * (base + rl) + 1 < K.cap := by omega
          have hlt2 : (toStore.take rl).length = rl := by simp [List.length_take]; omega
          -- what `acquire_block` for this block leaves alone contains every position below it
          have hlow : ∀ m, m < 2 * (base + rl) → ¬ L.scratch (K.pos m) ∧ K.pos m ≠ L.reg K.heapR ∧
              K.pos m ≠ L.freeT ∧ ¬ L.clob (2 * (base + rl)) (K.pos m) := fun m h =>
            ⟨L.pos_keep (by omega), L.pos_ne_heap (by omega), L.pos_ne_free (by omega), L.clob_pos h hm⟩
          refine View.Does.seqK (View.Does.seqK (View.Does.seq (Q := fun _ => True)
              (View.Does.seq (Q := fun _ => True) hd1 fun μ1 H1 F1 _ => ?_) fun μ2 H2 _ _ => L.comment H2 _)
            (fun μ2 H2 _ _ => L.acq_does k H2 hm hac) fun u hu => ⟨hu.1, hu⟩)
            (fun μ3 H3 F3 hn => ?_) fun u hu => ⟨⟨hu.1, hu.2.1, hu.2.2.1, hu.2.2.2 rl (by omega)⟩, hu⟩
          · obtain ⟨wH, hH, eH⟩ := L.rel_heap H1
            have hE1 : EnvFields (L.slot μ1) (base + rl) (toStore.drop rl) (fs.drop rl) := by
              have := (hE.drop rl).congr (slot' := L.slot μ1) fun m _ h2 =>
                F1 _ (L.pos_keep (by simp only [List.length_drop] at h2; omega))
              rwa [show base + min rl toStore.length = base + rl by omega] at this
            rw [← eH] at hsv
            exact L.storeValues_does H1 hE1 (by simp only [List.length_drop]; omega) K.heapR_ok hH
              (K.offOk_mono (Nat.sub_le _ _) K.offOk_block) hsv
          · obtain ⟨wn, hwn, ewn⟩ := hn
            have hE3 : EnvFields (L.slot μ3) base (toStore.take rl) (fs.take rl) :=
              (hE.take rl).congr fun m _ h2 => F3 _ (hlow m (by rw [hlt2] at h2; exact h2))
            have := ih (toStore.take rl) base .other (fs.take rl) new μ3 s3 s' ptr (k + K.acqLabs)
              (by rw [hlt2]; omega) H3 hE3 (by rw [hlt2]; omega) hbase
              (fun _ => ⟨by rw [hlt2]; omega, wn, by rw [hlt2]; exact hwn, ewn⟩) hop1
            exact this.mono fun u hu => ⟨hu.1, hu.2.1, hu.2.2.1, fun j hj => hu.2.2.2 j (by rw [hlt2] at hj; omega)⟩

end StoreSpec

end Scc.Mem
