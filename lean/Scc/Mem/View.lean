/-
  Scc.Mem.View — what the contracts of memory.rs use of a backend's view machine (`View`), the one shape
  all those contracts have (`Does`: the code runs to its end, the result represents the model's heap, the
  temporaries of `keep` are unchanged) with its sequencing rules, and the environment: which model fields
  the variables of a context hold, over the slots `m ↦` contents of the temporary of position `m`.
-/
import Scc.Heap.Access
import Scc.Mem.Code

namespace Scc.Mem

open Scc.AxCut
open Scc.Heap (HState Field)

abbrev Word := BitVec 64

/-- the variable `b` at context position `n` holds the model field `f` -/
def FieldAt (slot : Nat → Option Word) (n : Nat) (b : Binding) (f : Field) : Prop :=
  if (b.chi == .ext) = true then ∃ w : Word, f = .int w.toNat ∧ slot (2 * n + 1) = some w
  else ∃ p w : Word, f = .ptr p.toNat w.toNat ∧ slot (2 * n) = some p ∧ slot (2 * n + 1) = some w

/-- the variables of the context `Γ`, standing at the positions `n, n+1, …`, hold the model fields `fs` -/
def EnvFields (slot : Nat → Option Word) : Nat → Ctx → List Field → Prop
  | _, [], [] => True
  | n, b :: bs, f :: fs => FieldAt slot n b f ∧ EnvFields slot (n + 1) bs fs
  | _, _, _ => False

/-- the same for a reversed list (as the `pop` loops consume it) -/
def EnvFieldsRev (slot : Nat → Option Word) (base : Nat) : List Binding → List Field → Prop
  | [], [] => True
  | b :: bs, f :: fs => FieldAt slot (base + bs.length) b f ∧ EnvFieldsRev slot base bs fs
  | _, _ => False

section Env
variable {slot slot' : Nat → Option Word}

theorem EnvFields.length_eq : ∀ {n : Nat} {Γ : Ctx} {fs : List Field}, EnvFields slot n Γ fs → Γ.length = fs.length
  | _, [], [], _ => rfl
  | _, [], _ :: _, h => h.elim
  | _, _ :: _, [], h => h.elim
  | _, _ :: _, _ :: _, h => by simp [EnvFields.length_eq h.2]

theorem EnvFields.unsnoc : ∀ {n : Nat} {Γ : Ctx} {fs : List Field} {b : Binding} {f : Field},
    Γ.length = fs.length → EnvFields slot n (Γ ++ [b]) (fs ++ [f]) →
    EnvFields slot n Γ fs ∧ FieldAt slot (n + Γ.length) b f
  | _, [], [], _, _, _, h => ⟨trivial, by simpa [EnvFields] using h.1⟩
  | _, [], _ :: _, _, _, hl, _ => by simp at hl
  | _, _ :: _, [], _, _, hl, _ => by simp at hl
  | n, _ :: bs, _ :: fs, b, f, hl, h => by
    have := EnvFields.unsnoc (n := n + 1) (Γ := bs) (fs := fs) (by simpa using hl) h.2
    refine ⟨⟨h.1, this.1⟩, ?_⟩
    rw [List.length_cons, show n + (bs.length + 1) = n + 1 + bs.length by omega]
    exact this.2

theorem envFields_rev (base : Nat) : ∀ (n : Nat) (Γ : Ctx) (fs : List Field),
    Γ.length = n → EnvFields slot base Γ fs → EnvFieldsRev slot base Γ.reverse fs.reverse := by
  intro n
  induction n with
  | zero =>
    intro Γ fs hn h
    have : Γ = [] := List.eq_nil_of_length_eq_zero hn
    subst this
    cases fs with
    | nil => trivial
    | cons _ _ => exact h.elim
  | succ n ih =>
    intro Γ fs hn h
    have hl := h.length_eq
    rcases List.eq_nil_or_concat Γ with rfl | ⟨bs, b, rfl⟩
    · simp at hn
    rcases List.eq_nil_or_concat fs with rfl | ⟨fs', f, rfl⟩
    · simp at hl
    · rw [List.concat_eq_append] at h hl hn ⊢
      rw [List.concat_eq_append] at h hl ⊢
      have hl' : bs.length = fs'.length := by simpa using hl
      obtain ⟨h1, h2⟩ := EnvFields.unsnoc hl' h
      rw [List.reverse_append, List.reverse_append]
      exact ⟨by simpa using h2, ih bs fs' (by simpa using hn) h1⟩

theorem EnvFields.snoc : ∀ {n : Nat} {Γ : Ctx} {fs : List Field} {b : Binding} {f : Field},
    EnvFields slot n Γ fs → FieldAt slot (n + Γ.length) b f → EnvFields slot n (Γ ++ [b]) (fs ++ [f])
  | _, [], [], _, _, _, h => ⟨by simpa using h, trivial⟩
  | _, [], _ :: _, _, _, h, _ => h.elim
  | _, _ :: _, [], _, _, h, _ => h.elim
  | n, _ :: bs, _ :: fs, b, f, h, hf =>
    ⟨h.1, EnvFields.snoc h.2 (by
      rw [List.length_cons] at hf; rw [show n + 1 + bs.length = n + (bs.length + 1) by omega]; exact hf)⟩

theorem EnvFields.append : ∀ {n : Nat} {Γ1 Γ2 : Ctx} {f1 f2 : List Field},
    EnvFields slot n Γ1 f1 → EnvFields slot (n + Γ1.length) Γ2 f2 → EnvFields slot n (Γ1 ++ Γ2) (f1 ++ f2)
  | _, [], _, [], _, _, h2 => by simpa using h2
  | _, [], _, _ :: _, _, h1, _ => h1.elim
  | _, _ :: _, _, [], _, h1, _ => h1.elim
  | n, _ :: bs, _, _ :: _, _, h1, h2 =>
    ⟨h1.1, EnvFields.append h1.2 (by
      rw [List.length_cons, show n + (bs.length + 1) = n + 1 + bs.length by omega] at h2; exact h2)⟩

theorem envFields_of_rev (base : Nat) : ∀ (n : Nat) (Γ : Ctx) (fsRev : List Field),
    Γ.length = n → EnvFieldsRev slot base Γ.reverse fsRev → EnvFields slot base Γ fsRev.reverse := by
  intro n
  induction n with
  | zero =>
    intro Γ fsRev hn h
    have : Γ = [] := List.eq_nil_of_length_eq_zero hn
    subst this
    cases fsRev with
    | nil => trivial
    | cons _ _ => exact h.elim
  | succ n ih =>
    intro Γ fsRev hn h
    rcases List.eq_nil_or_concat Γ with rfl | ⟨bs, b, rfl⟩
    · simp at hn
    rw [List.concat_eq_append] at h hn ⊢
    rw [List.reverse_append] at h
    cases fsRev with
    | nil => exact h.elim
    | cons f fs =>
      obtain ⟨h1, h2⟩ := h
      rw [List.reverse_cons]
      exact EnvFields.snoc (ih bs fs (by simpa using hn) h2) (by simpa using h1)

theorem FieldAt.congr {n : Nat} {b : Binding} {f : Field} (h : FieldAt slot n b f)
    (e0 : slot' (2 * n) = slot (2 * n)) (e1 : slot' (2 * n + 1) = slot (2 * n + 1)) : FieldAt slot' n b f := by
  unfold FieldAt at h ⊢
  rw [e0, e1]; exact h

theorem EnvFieldsRev.congr {base : Nat} : ∀ {Γ : List Binding} {fs : List Field},
    EnvFieldsRev slot base Γ fs → (∀ m, 2 * base ≤ m → m < 2 * (base + Γ.length) → slot' m = slot m) →
    EnvFieldsRev slot' base Γ fs
  | [], [], _, _ => trivial
  | [], _ :: _, h, _ => h.elim
  | _ :: _, [], h, _ => h.elim
  | _ :: bs, _ :: _, h, e =>
    ⟨h.1.congr (e _ (by omega) (by simp only [List.length_cons]; omega))
      (e _ (by omega) (by simp only [List.length_cons]; omega)),
     EnvFieldsRev.congr h.2 (fun m h1 h2 => e m h1 (by simp only [List.length_cons]; omega))⟩

theorem EnvFields.take : ∀ {n : Nat} {Γ : Ctx} {fs : List Field} (k : Nat),
    EnvFields slot n Γ fs → EnvFields slot n (Γ.take k) (fs.take k)
  | _, [], [], _, _ => by simp [EnvFields]
  | _, [], _ :: _, _, h => h.elim
  | _, _ :: _, [], _, h => h.elim
  | _, _ :: _, _ :: _, 0, _ => by simp [EnvFields]
  | _, _ :: _, _ :: _, k + 1, h => ⟨h.1, EnvFields.take k h.2⟩

theorem EnvFields.drop : ∀ {n : Nat} {Γ : Ctx} {fs : List Field} (k : Nat),
    EnvFields slot n Γ fs → EnvFields slot (n + min k Γ.length) (Γ.drop k) (fs.drop k)
  | _, [], [], _, _ => by simp [EnvFields]
  | _, [], _ :: _, _, h => h.elim
  | _, _ :: _, [], _, h => h.elim
  | _, _ :: _, _ :: _, 0, h => by simpa using h
  | n, _ :: bs, _ :: _, k + 1, h => by
    have := EnvFields.drop k h.2
    rw [List.drop_succ_cons, List.drop_succ_cons, List.length_cons,
      show n + min (k + 1) (bs.length + 1) = n + 1 + min k bs.length by omega]
    exact this

theorem EnvFields.congr : ∀ {n : Nat} {Γ : Ctx} {fs : List Field},
    EnvFields slot n Γ fs → (∀ m, 2 * n ≤ m → m < 2 * (n + Γ.length) → slot' m = slot m) →
    EnvFields slot' n Γ fs
  | _, [], [], _, _ => trivial
  | _, [], _ :: _, h, _ => h.elim
  | _, _ :: _, [], h, _ => h.elim
  | n, _ :: bs, _ :: _, h, e =>
    ⟨h.1.congr (e _ (by omega) (by simp only [List.length_cons]; omega))
      (e _ (by omega) (by simp only [List.length_cons]; omega)),
     EnvFields.congr h.2 (fun m h1 h2 => e m (by omega) (by simp only [List.length_cons] at h2 ⊢; omega))⟩

end Env

/-- a backend's view machine, as far as the contracts of memory.rs use it -/
structure View where
  κ : Type
  σ : Type
  τ : Type
  val : σ → τ → Option Word
  /-- the block runs from the first state to its end and leaves the second -/
  Runs : List κ → σ → σ → Prop
  /-- the view state represents the abstract heap -/
  Rel : σ → HState → Prop
  runs_nil : ∀ μ, Runs [] μ μ
  runs_seq : ∀ {a b : List κ} {μ μ1 μ2 : σ}, Runs a μ μ1 → Runs b μ1 μ2 → Runs (a ++ b) μ μ2

namespace View
variable (V : View)

/-- THE shape of a contract: from `μ` the code runs to its end, the result represents `s'`, agrees with
`μ` on the temporaries of `keep`, and satisfies `post` -/
def Does (code : List V.κ) (μ : V.σ) (s' : HState) (keep : V.τ → Prop) (post : V.σ → Prop := fun _ => True) :
    Prop :=
  ∃ μ', V.Runs code μ μ' ∧ V.Rel μ' s' ∧ (∀ u, keep u → V.val μ' u = V.val μ u) ∧ post μ'

variable {V}

theorem Does.nil {μ : V.σ} {s : HState} {keep : V.τ → Prop} (H : V.Rel μ s) : V.Does [] μ s keep :=
  ⟨μ, V.runs_nil μ, H, fun _ _ => rfl, trivial⟩

theorem Does.same {a : List V.κ} {μ : V.σ} {s : HState} {keep : V.τ → Prop} (ha : V.Runs a μ μ) (H : V.Rel μ s) :
    V.Does a μ s keep :=
  ⟨μ, ha, H, fun _ _ => rfl, trivial⟩

theorem Does.seq {a b : List V.κ} {μ : V.σ} {s1 s2 : HState} {keep : V.τ → Prop} {P Q : V.σ → Prop}
    (h1 : V.Does a μ s1 keep P)
    (h2 : ∀ μ1, V.Rel μ1 s1 → (∀ u, keep u → V.val μ1 u = V.val μ u) → P μ1 → V.Does b μ1 s2 keep Q) :
    V.Does (a ++ b) μ s2 keep Q := by
  obtain ⟨μ1, x1, H1, F1, p1⟩ := h1
  obtain ⟨μ2, x2, H2, F2, q2⟩ := h2 μ1 H1 F1 p1
  exact ⟨μ2, V.runs_seq x1 x2, H2, fun u hu => by rw [F2 u hu, F1 u hu], q2⟩

theorem Does.seqK {a b : List V.κ} {μ : V.σ} {s1 s2 : HState} {keep1 keep2 keep : V.τ → Prop} {P Q : V.σ → Prop}
    (h1 : V.Does a μ s1 keep1 P)
    (h2 : ∀ μ1, V.Rel μ1 s1 → (∀ u, keep1 u → V.val μ1 u = V.val μ u) → P μ1 → V.Does b μ1 s2 keep2 Q)
    (hk : ∀ u, keep u → keep1 u ∧ keep2 u) : V.Does (a ++ b) μ s2 keep Q := by
  obtain ⟨μ1, x1, H1, F1, p1⟩ := h1
  obtain ⟨μ2, x2, H2, F2, q2⟩ := h2 μ1 H1 F1 p1
  exact ⟨μ2, V.runs_seq x1 x2, H2, fun u hu => by rw [F2 u (hk u hu).2, F1 u (hk u hu).1], q2⟩

theorem Does.skip {a b : List V.κ} {μ : V.σ} {s : HState} {keep : V.τ → Prop} {P : V.σ → Prop}
    (ha : V.Runs a μ μ) (h : V.Does b μ s keep P) : V.Does (a ++ b) μ s keep P := by
  obtain ⟨μ1, x1, r⟩ := h
  exact ⟨μ1, V.runs_seq ha x1, r⟩

theorem Does.mono {a : List V.κ} {μ : V.σ} {s : HState} {keep keep' : V.τ → Prop} {P : V.σ → Prop}
    (h : V.Does a μ s keep P) (hk : ∀ u, keep' u → keep u) : V.Does a μ s keep' P := by
  obtain ⟨μ1, x1, H1, F1, p1⟩ := h
  exact ⟨μ1, x1, H1, fun u hu => F1 u (hk u hu), p1⟩

end View

end Scc.Mem
