/-
  Scc.Mem.Acquire — memory.rs `acquire_block` against `Scc.Heap.acquire`, proved once for every backend.
  `AcqCode`: the code as a pure function `acqC` of the backend's leaves (the move of HEAP into the target,
  `HEAP := [HEAP + next]`, the two zero tests around their branches, `HEAP := FREE; FREE := [FREE + next]`,
  the bump, the mark of the empty list, the erasure of one child, the initial reference count) and of the
  label counter.  `AcqSpec`: the contracts of the leaves on a view machine; `acquire_does`: the three cases of
  the model (linear free list / lazy free list with the erasure of the children / bump allocation).
-/
import Scc.Mem.View

namespace Scc.Mem

open Scc.Heap (HState)

/-- The leaves of `acquire_block` as code; `α` describes the target.  `ite false tb eb k`, `ite true tb eb k` are
`if_zero_then_else` on HEAP and on FREE from the label counter `k` (two labels each); `eraseField t i k`
erases child `i` of the block in HEAP (three labels). -/
structure AcqCode (κ α : Type) where
  lab : String → κ
  comment : String → κ
  head : α → List κ
  ldNextH : List κ
  ite : Bool → List κ → List κ → Nat → List κ
  initRc : α → List κ
  takeLazy : List κ
  bump : List κ
  markEmpty : List κ
  eraseField : α → Nat → Nat → List κ

namespace AcqCode
variable {κ α : Type} (K : AcqCode κ α)

/-- memory.rs acquire_block from the label counter `k` (draws 13 labels) -/
def acqC (t : α) (k : Nat) : List κ :=
  K.head t ++ [K.comment "##get next free block into heap register",
      K.comment "###(1) check linear free list for next block"] ++ K.ldNextH ++
    K.ite false
      ([K.comment "###(2) check non-linear lazy free list for next block"] ++ K.takeLazy ++
        K.ite true ([K.comment "###(3) fall back to bump allocation"] ++ K.bump)
          ([K.comment "####mark linear free list empty"] ++ K.markEmpty ++
            [K.comment "####erase children of next block"] ++
            (K.eraseField t 0 k ++ (K.eraseField t 1 (k + 3) ++ (K.eraseField t 2 (k + 6) ++ []))))
          (k + 9))
      ([K.comment "####initialize refcount of just acquired block"] ++ K.initRc t) (k + 11)

end AcqCode

/-- the labels the leaves define: only the tests and the erasure of a child define any -/
structure AcqLabs {κ α : Type} (K : AcqCode κ α) : Prop where
  comment_ne_lab : ∀ s l, K.comment s ≠ K.lab l
  noLab_head : ∀ t, NoLab K.lab (K.head t)
  noLab_ldNextH : NoLab K.lab K.ldNextH
  noLab_initRc : ∀ t, NoLab K.lab (K.initRc t)
  noLab_takeLazy : NoLab K.lab K.takeLazy
  noLab_bump : NoLab K.lab K.bump
  noLab_markEmpty : NoLab K.lab K.markEmpty
  labs_eraseField : ∀ t i k, LabsIn K.lab (K.eraseField t i k) k (k + 3)
  labs_ite : ∀ (b : Bool) {tb eb : List κ} {lo hi k : Nat}, LabsIn K.lab tb lo hi → LabsIn K.lab eb lo hi → lo ≤ k →
    k + 2 ≤ hi → LabsIn K.lab (K.ite b tb eb k) lo hi

namespace AcqLabs
variable {κ α : Type} {K : AcqCode κ α} (L : AcqLabs K)
include L

theorem noLab_comment (s : String) : NoLab K.lab [K.comment s] := fun l h =>
  L.comment_ne_lab s l (List.mem_singleton.1 h).symm

theorem labs_erase3 (t : α) (k : Nat) : LabsIn K.lab (K.eraseField t 0 k ++ (K.eraseField t 1 (k + 3) ++
    (K.eraseField t 2 (k + 6) ++ []))) k (k + 9) :=
  ((L.labs_eraseField t 0 k).mono (Nat.le_refl _) (by omega)).append
    (((L.labs_eraseField t 1 (k + 3)).mono (by omega) (by omega)).append
      (((L.labs_eraseField t 2 (k + 6)).mono (by omega) (by omega)).append (fun _ h => by cases h)))

/-- the labels of the branch for the exhausted linear free list -/
theorem labs_lazy (t : α) (k : Nat) : LabsIn K.lab
    ([K.comment "###(2) check non-linear lazy free list for next block"] ++ K.takeLazy ++
      K.ite true ([K.comment "###(3) fall back to bump allocation"] ++ K.bump)
        ([K.comment "####mark linear free list empty"] ++ K.markEmpty ++
          [K.comment "####erase children of next block"] ++
          (K.eraseField t 0 k ++ (K.eraseField t 1 (k + 3) ++ (K.eraseField t 2 (k + 6) ++ []))))
        (k + 9)) k (k + 11) :=
  (((L.noLab_comment _).append L.noLab_takeLazy).labsIn _ _).append
    (L.labs_ite true (((L.noLab_comment _).append L.noLab_bump).labsIn _ _)
      (((((L.noLab_comment _).append L.noLab_markEmpty).append (L.noLab_comment _)).labsIn _ _).append
        ((L.labs_erase3 t k).mono (Nat.le_refl _) (by omega))) (by omega) (Nat.le_refl _))

theorem labs_acqC (t : α) (k : Nat) : LabsIn K.lab (K.acqC t k) k (k + 13) :=
  ((((L.noLab_head t).append ((L.noLab_comment _).append (L.noLab_comment _))).append L.noLab_ldNextH).labsIn _ _).append
    (L.labs_ite false ((L.labs_lazy t k).mono (Nat.le_refl _) (by omega))
      (((L.noLab_comment _).append (L.noLab_initRc t)).labsIn _ _) (by omega) (Nat.le_refl _))

end AcqLabs

/-- The contracts of the leaves of `acquire_block` on a view machine.  `tgt t` is the target, `ptr t` the
temporary through which it is reached (the target itself, or a scratch register that still holds the pointer
when the reference count is initialised); `clobE t` are the temporaries the erasure of a child may change
besides `scratch` and FREE (on RV64 the additional temporary).  The tests leave every temporary as it is. -/
structure AcqSpec (V : View) {α : Type} (K : AcqCode V.κ α) extends AcqLabs K where
  heapT : V.τ
  freeT : V.τ
  tgt : α → V.τ
  ptr : α → V.τ
  okT : α → Prop
  scratch : V.τ → Prop
  clobE : α → V.τ → Prop
  tgt_keep : ∀ {t}, okT t → ¬ scratch (tgt t) ∧ ¬ clobE t (tgt t)
  tgt_ne_heap : ∀ {t}, okT t → tgt t ≠ heapT
  tgt_ne_free : ∀ {t}, okT t → tgt t ≠ freeT
  ptr_ne_heap : ∀ {t}, okT t → ptr t ≠ heapT
  runs_comment : ∀ s μ, V.Runs [K.comment s] μ μ
  rel_heap : ∀ {μ : V.σ} {s : HState}, V.Rel μ s → ∃ w, V.val μ heapT = some w ∧ w.toNat = s.heap
  head_does : ∀ {μ : V.σ} {s : HState} {t : α}, V.Rel μ s → okT t →
    V.Does (K.head t) μ s (fun u => ¬ scratch u ∧ u ≠ tgt t)
      (fun μ' => V.val μ' (tgt t) = V.val μ heapT ∧ V.val μ' (ptr t) = V.val μ heapT)
  ldNextH_does : ∀ {μ : V.σ} {s : HState} {h0 : Nat}, V.Rel μ s → Heap.rd s s.heap = .ok h0 →
    V.Does K.ldNextH μ { s with heap := h0 } (fun u => u ≠ heapT)
  ite_then : ∀ {μ : V.σ} {s : HState} {b : Bool} {tb eb : List V.κ} {k0 k : Nat} {P : V.σ → Prop}, V.Rel μ s →
    (if b then s.free else s.heap) = 0 → LabsIn K.lab eb k0 k →
    (∀ μ1, V.Rel μ1 s → (∀ u, V.val μ1 u = V.val μ u) → ∃ μ', V.Runs tb μ1 μ' ∧ P μ') →
    ∃ μ', V.Runs (K.ite b tb eb k) μ μ' ∧ P μ'
  ite_else : ∀ {μ : V.σ} {s : HState} {b : Bool} {tb eb : List V.κ} {k0 k : Nat} {P : V.σ → Prop}, V.Rel μ s →
    (if b then s.free else s.heap) ≠ 0 → LabsIn K.lab tb k0 k →
    (∀ μ1, V.Rel μ1 s → (∀ u, V.val μ1 u = V.val μ u) → ∃ μ', V.Runs eb μ1 μ' ∧ P μ') →
    ∃ μ', V.Runs (K.ite b tb eb k) μ μ' ∧ P μ'
  initRc_does : ∀ {μ : V.σ} {s s' : HState} {t : α} {w : Word}, V.Rel μ s → okT t → V.val μ (ptr t) = some w →
    Heap.wr s w.toNat 0 = .ok s' → V.Does (K.initRc t) μ s' (fun _ => True)
  takeLazy_does : ∀ {μ : V.σ} {s : HState} {f' : Nat}, V.Rel μ s → Heap.rd s s.free = .ok f' →
    V.Does K.takeLazy μ { s with heap := s.free, free := f' } (fun u => u ≠ heapT ∧ u ≠ freeT)
  bump_does : ∀ {μ : V.σ} {s : HState}, V.Rel μ s → Heap.HOk s s.heap →
    V.Does K.bump μ { s with free := s.heap + Heap.blockSize } (fun u => u ≠ freeT)
  markEmpty_does : ∀ {μ : V.σ} {s s' : HState}, V.Rel μ s → Heap.wr s s.heap 0 = .ok s' →
    V.Does K.markEmpty μ s' (fun _ => True)
  eraseField_does : ∀ {μ : V.σ} {s s' : HState} {t : α} {i c0 : Nat} (k : Nat), V.Rel μ s → okT t → i < 3 →
    Heap.rd s (s.heap + Heap.fstOff i) = .ok c0 → Heap.eraseBlock s c0 = .ok s' →
    V.Does (K.eraseField t i k) μ s' (fun u => ¬ scratch u ∧ u ≠ freeT ∧ ¬ clobE t u)

namespace AcqSpec
variable {V : View} {α : Type} {K : AcqCode V.κ α} (L : AcqSpec V K)
include L

/-- CONTRACT of `acquire_block`: whenever the heap model acquires a block, the code runs to its end, the result
represents the model's result, the target holds the acquired block; only the target, what the erasure of the
children clobbers, the scratch temporaries, HEAP and FREE change -/
theorem acquire_does {μ : V.σ} {s s' : HState} (H : V.Rel μ s) {t : α} (ht : L.okT t) {new : Nat}
    (hop : Heap.acquire s = .ok (s', new)) (k : Nat) :
    V.Does (K.acqC t k) μ s'
      (fun u => ¬ L.scratch u ∧ u ≠ L.heapT ∧ u ≠ L.freeT ∧ u ≠ L.tgt t ∧ ¬ L.clobE t u)
      (fun μ' => ∃ w, V.val μ' (L.tgt t) = some w ∧ w.toNat = new) := by
  obtain ⟨wH, hH, eH⟩ := L.rel_heap H
  obtain ⟨tk1, tk2⟩ := L.tgt_keep ht
  unfold Heap.acquire at hop
  cases hrd : Heap.rd s s.heap with
  | error f => simp [hrd] at hop
  | ok h0 =>
    simp only [hrd] at hop
    -- the head, and `HEAP := [HEAP + next]`
    obtain ⟨μ1, x1, H1, F1, v1t, v1p⟩ := L.head_does H ht
    obtain ⟨μ2, x2, H2, F2, -⟩ := L.ldNextH_does H1 hrd
    have v2t : V.val μ2 (L.tgt t) = some wH := by rw [F2 _ (L.tgt_ne_heap ht), v1t]; exact hH
    have v2p : V.val μ2 (L.ptr t) = some wH := by rw [F2 _ (L.ptr_ne_heap ht), v1p]; exact hH
    have xpre : V.Runs (K.head t ++ [K.comment "##get next free block into heap register",
        K.comment "###(1) check linear free list for next block"] ++ K.ldNextH) μ μ2 :=
      V.runs_seq (V.runs_seq x1 (V.runs_seq (a := [_]) (L.runs_comment _ μ1) (L.runs_comment _ μ1))) x2
    -- what remains: from `μ2`, a branch that reaches the result
    suffices hrest : ∃ μ', V.Runs (K.ite false
        ([K.comment "###(2) check non-linear lazy free list for next block"] ++ K.takeLazy ++
          K.ite true ([K.comment "###(3) fall back to bump allocation"] ++ K.bump)
            ([K.comment "####mark linear free list empty"] ++ K.markEmpty ++
              [K.comment "####erase children of next block"] ++
              (K.eraseField t 0 k ++ (K.eraseField t 1 (k + 3) ++ (K.eraseField t 2 (k + 6) ++ []))))
            (k + 9))
        ([K.comment "####initialize refcount of just acquired block"] ++ K.initRc t) (k + 11)) μ2 μ' ∧
        (V.Rel μ' s' ∧ (∀ u, ¬ L.scratch u → u ≠ L.heapT → u ≠ L.freeT → ¬ L.clobE t u →
            V.val μ' u = V.val μ2 u) ∧ new = s.heap) by
      obtain ⟨μ', x, H', F', en⟩ := hrest
      refine ⟨μ', V.runs_seq xpre x, H', fun u hu => by
        rw [F' u hu.1 hu.2.1 hu.2.2.1 hu.2.2.2.2, F2 u hu.2.1, F1 u ⟨hu.1, hu.2.2.2.1⟩], wH, ?_, by rw [en, eH]⟩
      rw [F' _ tk1 (L.tgt_ne_heap ht) (L.tgt_ne_free ht) tk2]
      exact v2t
    by_cases hz : h0 = 0
    · -- the linear free list is exhausted
      subst hz
      simp only [ne_eq, not_true_eq_false, if_false] at hop
      cases hrf : Heap.rd s s.free with
      | error f => simp [hrf] at hop
      | ok f' =>
        simp only [hrf] at hop
        refine L.ite_then (b := false) H2 rfl (k0 := k) (((L.noLab_comment _).append (L.noLab_initRc t)).labsIn _ _)
          fun μ3 H3 F3 => ?_
        obtain ⟨μ4, x4, H4, F4, -⟩ := L.takeLazy_does (s := { s with heap := 0 }) H3 hrf
        have x34 : V.Runs ([K.comment "###(2) check non-linear lazy free list for next block"] ++ K.takeLazy)
            μ3 μ4 := V.runs_seq (L.runs_comment _ μ3) x4
        have frame34 : ∀ u, u ≠ L.heapT → u ≠ L.freeT → V.val μ4 u = V.val μ2 u := fun u h1 h2 => by
          rw [F4 u ⟨h1, h2⟩, F3]
        by_cases hfz : f' = 0
        · -- bump allocation
          subst hfz
          simp only [if_true, Except.ok.injEq, Prod.mk.injEq] at hop
          obtain ⟨rfl, rfl⟩ := hop
          have hE := L.ite_then (b := true) (P := fun μ' => V.Rel μ' { s with heap := s.free, free := s.free + Heap.blockSize } ∧
              ∀ u, u ≠ L.freeT → V.val μ' u = V.val μ4 u) H4 rfl (k0 := k)
            (((((L.noLab_comment _).append L.noLab_markEmpty).append (L.noLab_comment _)).labsIn _ _).append
              (L.labs_erase3 t k)) (tb := [K.comment "###(3) fall back to bump allocation"] ++ K.bump)
            (eb := [K.comment "####mark linear free list empty"] ++ K.markEmpty ++
              [K.comment "####erase children of next block"] ++
              (K.eraseField t 0 k ++ (K.eraseField t 1 (k + 3) ++ (K.eraseField t 2 (k + 6) ++ []))))
            fun μ5 H5 F5 => by
              obtain ⟨μ6, x6, H6, F6, -⟩ := L.bump_does H5 (Heap.rd_eq_ok.1 hrf).1
              exact ⟨μ6, V.runs_seq (L.runs_comment _ μ5) x6, H6, fun u hu => by rw [F6 u hu, F5]⟩
          obtain ⟨μ', x, H', F'⟩ := hE
          exact ⟨μ', V.runs_seq x34 x, H', fun u _ h2 h3 _ => by rw [F' u h3, frame34 u h2 h3], rfl⟩
        · -- the head of the lazy free list: its children are erased
          rw [if_neg hfz] at hop
          cases hw : Heap.wr { s with heap := s.free, free := f' } s.free 0 with
          | error f => simp [hw] at hop
          | ok s3 =>
            simp only [hw] at hop
            cases he : Heap.eraseFields s3 s3.heap with
            | error f => simp [he] at hop
            | ok s4 =>
              simp only [he, Except.ok.injEq, Prod.mk.injEq] at hop
              obtain ⟨rfl, rfl⟩ := hop
              have hE := L.ite_else (b := true) (P := fun μ' => V.Rel μ' s4 ∧
                  ∀ u, ¬ L.scratch u → u ≠ L.freeT → ¬ L.clobE t u → V.val μ' u = V.val μ4 u) H4 hfz (k0 := k)
                (((L.noLab_comment _).append L.noLab_bump).labsIn _ _) (k := k + 9)
                (tb := [K.comment "###(3) fall back to bump allocation"] ++ K.bump)
                (eb := [K.comment "####mark linear free list empty"] ++ K.markEmpty ++
                  [K.comment "####erase children of next block"] ++
                  (K.eraseField t 0 k ++ (K.eraseField t 1 (k + 3) ++ (K.eraseField t 2 (k + 6) ++ []))))
                fun μ5 H5 F5 => by
                  obtain ⟨μ6, x6, H6, F6, -⟩ := L.markEmpty_does H5 hw
                  unfold Heap.eraseFields at he
                  cases hr0 : Heap.rd s3 (s3.heap + Heap.fstOff 0) with
                  | error f => simp [hr0] at he
                  | ok c0 =>
                    simp only [hr0] at he
                    cases he0 : Heap.eraseBlock s3 c0 with
                    | error f => simp [he0] at he
                    | ok sA =>
                      simp only [he0] at he
                      obtain ⟨μ7, x7, H7, F7, -⟩ := L.eraseField_does k H6 ht (by decide) hr0 he0
                      have eA := Heap.eraseBlock_heap he0
                      cases hr1 : Heap.rd sA (s3.heap + Heap.fstOff 1) with
                      | error f => simp [hr1] at he
                      | ok c1 =>
                        simp only [hr1] at he
                        cases he1 : Heap.eraseBlock sA c1 with
                        | error f => simp [he1] at he
                        | ok sB =>
                          simp only [he1] at he
                          rw [← eA] at hr1
                          obtain ⟨μ8, x8, H8, F8, -⟩ := L.eraseField_does (k + 3) H7 ht (by decide) hr1 he1
                          have eB := Heap.eraseBlock_heap he1
                          cases hr2 : Heap.rd sB (s3.heap + Heap.fstOff 2) with
                          | error f => simp [hr2] at he
                          | ok c2 =>
                            simp only [hr2] at he
                            rw [← eA, ← eB] at hr2
                            obtain ⟨μ9, x9, H9, F9, -⟩ := L.eraseField_does (k + 6) H8 ht (by decide) hr2 he
                            refine ⟨μ9, V.runs_seq (V.runs_seq (V.runs_seq (L.runs_comment _ μ5) x6)
                              (L.runs_comment _ μ6)) (V.runs_seq x7 (V.runs_seq x8 (V.runs_seq x9 (V.runs_nil μ9)))),
                              H9, fun u h1 h2 h3 => ?_⟩
                            rw [F9 u ⟨h1, h2, h3⟩, F8 u ⟨h1, h2, h3⟩, F7 u ⟨h1, h2, h3⟩, F6 u trivial, F5]
              obtain ⟨μ', x, H', F'⟩ := hE
              exact ⟨μ', V.runs_seq x34 x, H', fun u h1 h2 h3 h4 => by rw [F' u h1 h3 h4, frame34 u h2 h3], rfl⟩
    · -- the linear free list has another element
      rw [if_pos hz] at hop
      cases hw : Heap.wr { s with heap := h0 } s.heap 0 with
      | error f => simp [hw] at hop
      | ok s1 =>
        simp only [hw, Except.ok.injEq, Prod.mk.injEq] at hop
        obtain ⟨rfl, rfl⟩ := hop
        refine L.ite_else (b := false) H2 hz (k0 := k) (L.labs_lazy t k) fun μ3 H3 F3 => ?_
        rw [← eH] at hw
        obtain ⟨μ4, x4, H4, F4, -⟩ := L.initRc_does H3 ht (by rw [F3]; exact v2p) hw
        exact ⟨μ4, V.runs_seq (L.runs_comment _ μ3) x4, H4, fun u _ _ _ _ => by rw [F4 u trivial, F3], rfl⟩

end AcqSpec

end Scc.Mem
