/-
  Scc.Mem.LoadCode — the code of memory.rs `load_fields` and `load`, as every backend emits it, as a PURE
  function of the backend's leaves (`load_field`, `share_block` of a pointer just loaded, `release_block`, on
  the backends with spill slots the moves that bring a spilled block pointer into the additional scratch
  register, and the test of the reference count around the two branches of `load`) and of the label counter.
  The recursion goes down the chain of blocks first; `rf` is the `register_freed` flag of memory.rs (the
  scratch register has been evacuated).  As for `store`: what holds
  of the leaves' code and is closed under concatenation holds of all of it (`LoadLeaves.loadFieldsC`,
  `LoadLeaves.loadC`), and the labels are drawn as the leaves draw them (`LoadCounts.loadFieldsC`,
  `LoadCounts.loadC`, `loadCounts_labsIn`).
-/
import Scc.Mem.Code

namespace Scc.Mem

open Scc.AxCut
open Scc.Backend (TempNum)
open Scc.Heap (BlockPosition LoadMode)

/-- The leaves of `load_fields` as code, besides those of `store`.  `shr m k` shares the pointer just loaded
into the temporary of position `m`, from the label counter `k` (it draws `shrLabs` labels).  A position is a
spill slot (`isSpill`) or lives in the register `regOf`; a spilled block pointer is brought into the register
`ttR` by `ldBlk`, after `evac` has saved that register once; `restore` brings it back at the end.
`top m cT cE k` is `load` around its two branches: the test of the reference count of the object whose pointer
is in the temporary of position `m`, then `cT` (count zero) or the decrement and `cE`, from the label counter
`k` (it draws `topLabs` labels). -/
structure LoadCode (κ τ : Type) extends StoreCode κ τ where
  ldF : τ → ρ → TempNum → Nat → List κ
  shrLabs : Nat
  shr : Nat → Nat → List κ
  release : ρ → List κ
  isSpill : Nat → Bool
  regOf : Nat → ρ
  regOf_ok : ∀ {m}, m < cap → isSpill m = false → okBlk (regOf m)
  ttR : ρ
  ttR_ok : okBlk ttR
  evac : List κ
  ldBlk : Nat → List κ
  restore : List κ
  topLabs : Nat
  top : Nat → List κ → List κ → Nat → List κ

namespace LoadCode
variable {κ τ : Type} (K : LoadCode κ τ)

def loadValueC (b : Binding) (n : Nat) (r : K.ρ) (off : Nat) (mode : LoadMode) (k : Nat) : List κ × Nat :=
  if b.chi != .ext then
    if mode = .share then
      (K.ldF (K.pos (2 * n + 1)) r .snd off ++ K.ldF (K.pos (2 * n)) r .fst off ++ K.shr (2 * n) k, k + K.shrLabs)
    else (K.ldF (K.pos (2 * n + 1)) r .snd off ++ K.ldF (K.pos (2 * n)) r .fst off, k)
  else (K.ldF (K.pos (2 * n + 1)) r .snd off, k)

/-- the `pop` loop on the reversed list -/
def loadLoopC (base : Nat) (r : K.ρ) (mode : LoadMode) : List Binding → Nat → Nat → List κ × Nat
  | [], _, k => ([], k)
  | b :: rest, ff, k =>
    ((K.loadValueC b (base + rest.length) r (ff - 1) mode k).1 ++
        (loadLoopC base r mode rest (ff - 1) (K.loadValueC b (base + rest.length) r (ff - 1) mode k).2).1,
      (loadLoopC base r mode rest (ff - 1) (K.loadValueC b (base + rest.length) r (ff - 1) mode k).2).2)

def loadValuesC (toLoad : Ctx) (base : Nat) (r : K.ρ) (ff : Nat) (mode : LoadMode) (k : Nat) : List κ × Nat :=
  ([K.comment "###load values"] ++ (K.loadLoopC base r mode toLoad.reverse ff k).1,
    (K.loadLoopC base r mode toLoad.reverse ff k).2)

/-- one block, its pointer in the register `r`: release it, load the link to the next block, load the values -/
def loadBlockC (r : K.ρ) (toLoadNext : Ctx) (nAll nRest : Nat) (pos : BlockPosition) (mode : LoadMode) (k : Nat) :
    List κ × Nat :=
  ((if mode = .release then [K.comment "###release block"] ++ K.release r else []) ++
      (if pos = .other then [K.comment "###load link to next block"] ++
        K.ldF (K.pos (2 * nAll)) r .fst (Heap.fieldsPerBlock - 1) else []) ++
      (K.loadValuesC toLoadNext nRest r (Heap.fieldsPerBlock - pos.toNat) mode k).1,
    (K.loadValuesC toLoadNext nRest r (Heap.fieldsPerBlock - pos.toNat) mode k).2)

/-- `load_fields` with `register_freed = rf` and label counter `k`: the code, the flag and the counter afterwards -/
def loadFieldsC : Nat → Ctx → Nat → BlockPosition → LoadMode → Bool → Nat → (List κ × Bool) × Nat
  | 0, _, _, _, _, rf, k => (([], rf), k)
  | fuel + 1, toLoad, base, pos, mode, rf, k =>
    if toLoad = [] then (([], rf), k)
    else
      let rl := Heap.restLength toLoad.length pos
      let r0 := loadFieldsC fuel (toLoad.take rl) base .other mode rf k
      let m := 2 * (base + rl)
      if K.isSpill m then
        let rb := K.loadBlockC K.ttR (toLoad.drop rl) (base + toLoad.length) (base + rl) pos mode r0.2
        ((r0.1.1 ++ (if r0.1.2 then [] else
              [K.comment "###evacuate additional scratch register for memory block"] ++ K.evac) ++
            K.ldBlk m ++ rb.1 ++
            (if pos = .last then [K.comment "###restore evacuated register"] ++ K.restore else []), true), rb.2)
      else
        let rb := K.loadBlockC (K.regOf m) (toLoad.drop rl) (base + toLoad.length) (base + rl) pos mode r0.2
        ((r0.1.1 ++ rb.1, r0.1.2), rb.2)

/-- memory.rs Memory::load from the label counter `k`: both branches of `load_fields`, then the test of the
reference count around them -/
def loadC (toLoad : Ctx) (base : Nat) (k : Nat) : List κ × Nat :=
  if toLoad = [] then ([], k)
  else
    let rT := K.loadFieldsC (toLoad.length + 1) toLoad base .last .release false k
    let rE := K.loadFieldsC (toLoad.length + 1) toLoad base .last .share false rT.2
    (K.top (2 * base) rT.1.1 rE.1.1 rE.2, rE.2 + K.topLabs)

def loadComments : List String :=
  ["###load values", "###release block", "###load link to next block",
   "###evacuate additional scratch register for memory block", "###restore evacuated register"]

/-- `B` holds of the code of the leaves (for temporaries that exist) and is closed under concatenation -/
structure LoadLeaves (B : List κ → Prop) : Prop where
  nil : B []
  append : ∀ {a b}, B a → B b → B (a ++ b)
  comment : ∀ s ∈ loadComments, B [K.comment s]
  ldF : ∀ {m r} num {off}, m < K.cap → K.okBlk r → K.offOk off → B (K.ldF (K.pos m) r num off)
  shr : ∀ {m} k, m < K.cap → B (K.shr m k)
  release : ∀ {r}, K.okBlk r → B (K.release r)
  evac : B K.evac
  ldBlk : ∀ {m}, m < K.cap → K.isSpill m = true → B (K.ldBlk m)
  restore : B K.restore

namespace LoadLeaves
variable {K} {B : List κ → Prop} (A : K.LoadLeaves B)
include A

theorem ite {c : Prop} [Decidable c] {a b : List κ} (ha : B a) (hb : B b) : B (if c then a else b) := by
  split <;> assumption

theorem loadValueC (b : Binding) {n : Nat} {r : K.ρ} {off : Nat} (mode : LoadMode) (k : Nat)
    (hn : 2 * n + 1 < K.cap) (hr : K.okBlk r) (ho : K.offOk off) : B (K.loadValueC b n r off mode k).1 := by
  unfold LoadCode.loadValueC
  split
  · split
    · exact A.append (A.append (A.ldF _ hn hr ho) (A.ldF _ (by omega) hr ho)) (A.shr _ (by omega))
    · exact A.append (A.ldF _ hn hr ho) (A.ldF _ (by omega) hr ho)
  · exact A.ldF _ hn hr ho

theorem loadLoopC (base : Nat) {r : K.ρ} (hr : K.okBlk r) (mode : LoadMode) : ∀ (bs : List Binding) (ff k : Nat),
    2 * (base + bs.length) ≤ K.cap → K.offOk ff → B (K.loadLoopC base r mode bs ff k).1
  | [], _, _, _, _ => A.nil
  | b :: rest, ff, k, h, hff => by
    simp only [List.length_cons] at h
    have hff' := K.offOk_mono (Nat.sub_le ff 1) hff
    exact A.append (A.loadValueC b mode k (by omega) hr hff') (loadLoopC base hr mode rest (ff - 1) _ (by omega) hff')

theorem loadBlockC {r : K.ρ} (hr : K.okBlk r) (toLoadNext : Ctx) {nAll nRest : Nat} (pos : BlockPosition)
    (mode : LoadMode) (k : Nat) (h : 2 * (nRest + toLoadNext.length) ≤ K.cap)
    (hl : pos = .other → 2 * nAll < K.cap) : B (K.loadBlockC r toLoadNext nAll nRest pos mode k).1 := by
  unfold LoadCode.loadBlockC LoadCode.loadValuesC
  refine A.append (A.append (A.ite (A.append (A.comment _ (by simp [loadComments])) (A.release hr)) A.nil) ?_)
    (A.append (A.comment _ (by simp [loadComments])) (A.loadLoopC _ hr mode _ _ _ (by simpa using h)
      (K.offOk_mono (Nat.sub_le _ _) K.offOk_block)))
  split
  · rename_i hp
    exact A.append (A.comment _ (by simp [loadComments]))
      (A.ldF _ (hl hp) hr (K.offOk_mono (Nat.sub_le _ _) K.offOk_block))
  · exact A.nil

theorem loadFieldsC : ∀ (fuel : Nat) (toLoad : Ctx) (base : Nat) (pos : BlockPosition) (mode : LoadMode) (rf : Bool)
    (k : Nat), 2 * (base + toLoad.length) ≤ K.cap → (pos = .other → 2 * (base + toLoad.length) < K.cap) →
    B (K.loadFieldsC fuel toLoad base pos mode rf k).1.1
  | 0, _, _, _, _, _, _, _, _ => A.nil
  | fuel + 1, toLoad, base, pos, mode, rf, k, h, hl => by
    unfold LoadCode.loadFieldsC
    split
    · exact A.nil
    · rename_i hne
      have hpos : 0 < toLoad.length := List.length_pos_iff.mpr hne
      have hrlt := Heap.restLength_lt toLoad.length pos hpos
      simp only
      generalize Heap.restLength toLoad.length pos = rl at hrlt ⊢
      have hlt2 : (toLoad.take rl).length = rl := by simp [List.length_take]; omega
      have h0 := loadFieldsC fuel (toLoad.take rl) base .other mode rf k (by rw [hlt2]; omega)
        (fun _ => by rw [hlt2]; omega)
      have hdl : 2 * (base + rl + (toLoad.drop rl).length) ≤ K.cap := by
        simp only [List.length_drop]; omega
      split
      · rename_i hs
        exact A.append (A.append (A.append (A.append h0 (A.ite A.nil
          (A.append (A.comment _ (by simp [loadComments])) A.evac))) (A.ldBlk (by omega) hs))
          (A.loadBlockC K.ttR_ok _ pos mode _ hdl hl))
          (A.ite (A.append (A.comment _ (by simp [loadComments])) A.restore) A.nil)
      · rename_i hs
        exact A.append h0 (A.loadBlockC (K.regOf_ok (by omega) (by simpa using hs)) _ pos mode _ hdl hl)

theorem loadC (hT : ∀ {m cT cE} k, m < K.cap → B cT → B cE → B (K.top m cT cE k)) (toLoad : Ctx) (base k : Nat)
    (h : toLoad = [] ∨ 2 * (base + toLoad.length) ≤ K.cap) : B (K.loadC toLoad base k).1 := by
  unfold LoadCode.loadC
  split
  · exact A.nil
  · rename_i hne
    have hc := h.resolve_left hne
    have hpos : 0 < toLoad.length := List.length_pos_iff.mpr hne
    exact hT _ (by omega) (A.loadFieldsC _ toLoad base .last .release false k hc (fun e => by cases e))
      (A.loadFieldsC _ toLoad base .last .share false _ hc (fun e => by cases e))

end LoadLeaves

/-- `D a b code`: `code` is generated from the label counter `a` to `b` -/
structure LoadCounts (D : Nat → Nat → List κ → Prop) : Prop where
  nil : ∀ k, D k k []
  append : ∀ {a b c x y}, D a b x → D b c y → D a c (x ++ y)
  comment : ∀ s k, D k k [K.comment s]
  ldF : ∀ t r num off k, D k k (K.ldF t r num off)
  shr : ∀ m k, D k (k + K.shrLabs) (K.shr m k)
  release : ∀ r k, D k k (K.release r)
  evac : ∀ k, D k k K.evac
  ldBlk : ∀ m k, D k k (K.ldBlk m)
  restore : ∀ k, D k k K.restore

namespace LoadCounts
variable {K} {D : Nat → Nat → List κ → Prop} (A : K.LoadCounts D)
include A

theorem ite {c : Prop} [Decidable c] {a b : List κ} {k : Nat} (ha : D k k a) (hb : D k k b) :
    D k k (if c then a else b) := by
  split <;> assumption

theorem loadValueC (b : Binding) (n : Nat) (r : K.ρ) (off : Nat) (mode : LoadMode) (k : Nat) :
    D k (K.loadValueC b n r off mode k).2 (K.loadValueC b n r off mode k).1 := by
  unfold LoadCode.loadValueC
  split
  · split
    · exact A.append (A.append (A.ldF _ _ _ _ k) (A.ldF _ _ _ _ k)) (A.shr _ k)
    · exact A.append (A.ldF _ _ _ _ k) (A.ldF _ _ _ _ k)
  · exact A.ldF _ _ _ _ k

theorem loadLoopC (base : Nat) (r : K.ρ) (mode : LoadMode) : ∀ (bs : List Binding) (ff k : Nat),
    D k (K.loadLoopC base r mode bs ff k).2 (K.loadLoopC base r mode bs ff k).1
  | [], _, k => A.nil k
  | b :: rest, ff, k => A.append (A.loadValueC b _ r _ mode k) (loadLoopC base r mode rest (ff - 1) _)

theorem loadBlockC (r : K.ρ) (toLoadNext : Ctx) (nAll nRest : Nat) (pos : BlockPosition) (mode : LoadMode) (k : Nat) :
    D k (K.loadBlockC r toLoadNext nAll nRest pos mode k).2 (K.loadBlockC r toLoadNext nAll nRest pos mode k).1 := by
  unfold LoadCode.loadBlockC LoadCode.loadValuesC
  exact A.append (A.append (A.ite (A.append (A.comment _ k) (A.release r k)) (A.nil k))
    (A.ite (A.append (A.comment _ k) (A.ldF _ _ _ _ k)) (A.nil k)))
    (A.append (A.comment _ k) (A.loadLoopC _ r mode _ _ k))

theorem loadFieldsC : ∀ (fuel : Nat) (toLoad : Ctx) (base : Nat) (pos : BlockPosition) (mode : LoadMode) (rf : Bool)
    (k : Nat), D k (K.loadFieldsC fuel toLoad base pos mode rf k).2 (K.loadFieldsC fuel toLoad base pos mode rf k).1.1
  | 0, _, _, _, _, _, k => A.nil k
  | fuel + 1, toLoad, base, pos, mode, rf, k => by
    unfold LoadCode.loadFieldsC
    split
    · exact A.nil k
    · have h0 := loadFieldsC fuel (toLoad.take (Heap.restLength toLoad.length pos)) base .other mode rf k
      simp only
      split
      · exact A.append (A.append (A.append (A.append h0 (A.ite (A.nil _) (A.append (A.comment _ _) (A.evac _))))
          (A.ldBlk _ _)) (A.loadBlockC _ _ _ _ pos mode _)) (A.ite (A.append (A.comment _ _) (A.restore _)) (A.nil _))
      · exact A.append h0 (A.loadBlockC _ _ _ _ pos mode _)

/-- `load`: the branches are generated one after the other, then the labels of the test are drawn -/
theorem loadC (hT : ∀ m {a b c x y}, D a b x → D b c y → D a (c + K.topLabs) (K.top m x y c)) (toLoad : Ctx)
    (base k : Nat) : D k (K.loadC toLoad base k).2 (K.loadC toLoad base k).1 := by
  unfold LoadCode.loadC
  split
  · exact A.nil k
  · exact hT _ (A.loadFieldsC _ toLoad base .last .release false k) (A.loadFieldsC _ toLoad base .last .share false _)

end LoadCounts

/-- the labels of `load_fields` lie between the counters, if those of the leaves do -/
theorem loadCounts_labsIn (hc : ∀ s l, K.comment s ≠ K.lab l) (hF : ∀ t r num off, NoLab K.lab (K.ldF t r num off))
    (hS : ∀ m k, LabsIn K.lab (K.shr m k) k (k + K.shrLabs)) (hR : ∀ r, NoLab K.lab (K.release r)) (hE : NoLab K.lab K.evac)
    (hB : ∀ m, NoLab K.lab (K.ldBlk m)) (hX : NoLab K.lab K.restore) :
    K.LoadCounts (fun a b code => a ≤ b ∧ LabsIn K.lab code a b) where
  nil := fun k => ⟨Nat.le_refl _, NoLab.nil.labsIn _ _⟩
  append := fun h1 h2 => ⟨Nat.le_trans h1.1 h2.1,
    (h1.2.mono (Nat.le_refl _) h2.1).append (h2.2.mono h1.1 (Nat.le_refl _))⟩
  comment := fun s k => ⟨Nat.le_refl _,
    NoLab.labsIn (fun l h => hc s l (List.mem_singleton.1 h).symm) _ _⟩
  ldF := fun _ _ _ _ k => ⟨Nat.le_refl _, (hF _ _ _ _).labsIn _ _⟩
  shr := fun m k => ⟨Nat.le_add_right _ _, hS m k⟩
  release := fun _ k => ⟨Nat.le_refl _, (hR _).labsIn _ _⟩
  evac := fun k => ⟨Nat.le_refl _, hE.labsIn _ _⟩
  ldBlk := fun _ k => ⟨Nat.le_refl _, (hB _).labsIn _ _⟩
  restore := fun k => ⟨Nat.le_refl _, hX.labsIn _ _⟩

end LoadCode

end Scc.Mem
