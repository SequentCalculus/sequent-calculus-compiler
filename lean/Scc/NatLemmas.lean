/-
  Scc.NatLemmas — facts about `max` on `Nat` that the size and capacity bounds use case by case.
-/

namespace Scc

theorem max_le_max {a b c d : Nat} (h1 : a ≤ c) (h2 : b ≤ d) : max a b ≤ max c d :=
  Nat.max_le.2 ⟨Nat.le_trans h1 (Nat.le_max_left _ _), Nat.le_trans h2 (Nat.le_max_right _ _)⟩

end Scc
