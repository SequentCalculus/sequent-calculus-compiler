-- Root of the `Scc` library: every module (generated by bin/mkroot: lists lean/Scc/**).
import Scc.A64.Backend
import Scc.A64.CCProofsFrame
import Scc.A64.CCProofsLayout
import Scc.A64.CCProofsRun
import Scc.A64.CCProofsSeg
import Scc.A64.CCProofsSites
import Scc.A64.CCProofsStatic
import Scc.A64.CodeBlk
import Scc.A64.ConcKAllFuel
import Scc.A64.ConcKC10
import Scc.A64.ConcKDefs
import Scc.A64.ConcKDiv
import Scc.A64.ConcKHook
import Scc.A64.ConcKInv
import Scc.A64.ConcKMRun
import Scc.A64.ConcKMach
import Scc.A64.ConcKMid
import Scc.A64.ConcKMon
import Scc.A64.ConcKNoHk
import Scc.A64.ConcKPeakRun
import Scc.A64.ConcKRun
import Scc.A64.ConcKStuck
import Scc.A64.Consts
import Scc.A64.Exec
import Scc.A64.Halfword
import Scc.A64.Instr
import Scc.A64.JumpLemmas
import Scc.A64.Lemmas
import Scc.A64.LoadImm
import Scc.A64.LoaderA64Names
import Scc.A64.LoaderCheck
import Scc.A64.LoaderCode
import Scc.A64.LoaderInstr
import Scc.A64.LoaderLemmas
import Scc.A64.LoaderLines
import Scc.A64.LoaderRoutine
import Scc.A64.LoaderText
import Scc.A64.Machine
import Scc.A64.MemBlk
import Scc.A64.MemCode
import Scc.A64.MemProofsAcquire
import Scc.A64.MemProofsBridge
import Scc.A64.MemProofsFwd
import Scc.A64.MemProofsHeap
import Scc.A64.MemProofsLayout
import Scc.A64.MemProofsLoad
import Scc.A64.MemProofsLoadTop
import Scc.A64.MemProofsStore
import Scc.A64.MemProofsStoreFields
import Scc.A64.MemProofsView
import Scc.A64.MoveLemmas
import Scc.A64.OpLemmas
import Scc.A64.PrintLemmas
import Scc.A64.Prologue
import Scc.A64.RefBridge
import Scc.A64.RefClosAddr
import Scc.A64.RefClosDefs
import Scc.A64.RefClosHCall
import Scc.A64.RefClosHDefs
import Scc.A64.RefClosHInit
import Scc.A64.RefClosHLet
import Scc.A64.RefClosHLoad
import Scc.A64.RefClosHMoves
import Scc.A64.RefClosHRun
import Scc.A64.RefClosHStore
import Scc.A64.RefClosHTr
import Scc.A64.RefClosHX3
import Scc.A64.RefClosLemmas
import Scc.A64.RefClosXC
import Scc.A64.RefCompose
import Scc.A64.RefDefs
import Scc.A64.RefFrame
import Scc.A64.RefHeapAddr
import Scc.A64.RefHeapBridge
import Scc.A64.RefHeapDefs
import Scc.A64.RefHeapInt
import Scc.A64.RefHeapMoves
import Scc.A64.RefHeapOfClos
import Scc.A64.RefHeapRun
import Scc.A64.RefHeapSwitch
import Scc.A64.RefHeapTr
import Scc.A64.RefHeapX3
import Scc.A64.RefInit
import Scc.A64.RefParam
import Scc.A64.RefRun
import Scc.A64.RefSide
import Scc.A64.RefSideLabMem
import Scc.A64.RefSideLabels
import Scc.A64.RefSim
import Scc.A64.RefStep
import Scc.A64.RefTableLayout
import Scc.A64.StackLemmas
import Scc.A64.ThreeWayNav
import Scc.A64.ThreeWayTarget
import Scc.A64.Total
import Scc.A64.WfCheck
import Scc.A64.WfFinal
import Scc.A64.WfLemmas
import Scc.A64.WfMemory
import Scc.A64.WfRefs
import Scc.AxCut.LinCtx
import Scc.AxCut.LinLemmas
import Scc.AxCut.LinProofs
import Scc.AxCut.LinRel
import Scc.AxCut.LinRelLin
import Scc.AxCut.LinRelSim
import Scc.AxCut.LinRelTyped
import Scc.AxCut.LinTyping
import Scc.AxCut.Linearize
import Scc.AxCut.NamedEnv
import Scc.AxCut.PosCapacity
import Scc.AxCut.PosHered
import Scc.AxCut.PosProgress
import Scc.AxCut.PosRun
import Scc.AxCut.PosSafe
import Scc.AxCut.PosStep
import Scc.AxCut.SemEq
import Scc.AxCut.SemNamed
import Scc.AxCut.SemPos
import Scc.AxCut.SizeLin
import Scc.AxCut.Syntax
import Scc.AxCut.TypingNamed
import Scc.AxCut.TypingNamedProofs
import Scc.AxCut.WfNonLinear
import Scc.Backend.AbstractMachine
import Scc.Backend.Blk
import Scc.Backend.BlkClosed
import Scc.Backend.ClosWalk
import Scc.Backend.Generic
import Scc.Backend.Interface
import Scc.Backend.LoaderNamesC
import Scc.Backend.Mock
import Scc.Backend.Proofs
import Scc.Backend.ProofsAbsJump
import Scc.Backend.ProofsAbsStep
import Scc.Backend.ProofsBTree
import Scc.Backend.ProofsBlocks
import Scc.Backend.ProofsCalls
import Scc.Backend.ProofsConn2
import Scc.Backend.ProofsErase
import Scc.Backend.ProofsGen
import Scc.Backend.ProofsHeap
import Scc.Backend.ProofsHeap2
import Scc.Backend.ProofsKeys
import Scc.Backend.ProofsLabels
import Scc.Backend.ProofsLabelsGen
import Scc.Backend.ProofsLoad
import Scc.Backend.ProofsMockEntry
import Scc.Backend.ProofsNames
import Scc.Backend.ProofsNat
import Scc.Backend.ProofsPM
import Scc.Backend.ProofsPost
import Scc.Backend.ProofsRefs
import Scc.Backend.ProofsRender
import Scc.Backend.ProofsRep2
import Scc.Backend.ProofsRoots
import Scc.Backend.ProofsShape
import Scc.Backend.ProofsShapeInt
import Scc.Backend.ProofsSim
import Scc.Backend.ProofsSim2
import Scc.Backend.ProofsSubst
import Scc.Backend.ProofsSubstObj
import Scc.Backend.ProofsSubstRoots
import Scc.Backend.SideConds
import Scc.Backend.SimDefs
import Scc.Backend.SimDefs2
import Scc.Backend.SizeConns
import Scc.Backend.SizeGen
import Scc.Backend.SizeMock
import Scc.Backend.SizePM
import Scc.Backend.SizeX86
import Scc.Backend.StepProv
import Scc.Backend.ThreeWay
import Scc.Backend.ThreeWayInt
import Scc.Backend.ThreeWayInvoke
import Scc.Backend.ThreeWayLet
import Scc.Backend.ThreeWayRun
import Scc.Backend.ThreeWayStep
import Scc.Backend.ThreeWaySwitch
import Scc.Backend.TotalDefs
import Scc.Backend.TotalGen
import Scc.Backend.TotalKeys
import Scc.Backend.TotalMock
import Scc.Backend.TotalPM
import Scc.Backend.TotalSubst
import Scc.Backend.Track
import Scc.Backend.TrackHeap
import Scc.Core.Focus
import Scc.Core.ProofsAlphaA
import Scc.Core.ProofsAlphaB
import Scc.Core.ProofsAlphaC
import Scc.Core.ProofsAlphaD
import Scc.Core.ProofsAlphaE
import Scc.Core.ProofsAlphaSimA
import Scc.Core.ProofsAlphaSimB
import Scc.Core.ProofsAlphaSimC
import Scc.Core.ProofsBindSteps
import Scc.Core.ProofsEmbed
import Scc.Core.ProofsFocusSem
import Scc.Core.ProofsFocusSigma
import Scc.Core.ProofsFocusSimA
import Scc.Core.ProofsFocusSimB
import Scc.Core.ProofsFocusSimC
import Scc.Core.ProofsFocusSimD
import Scc.Core.ProofsScopeA
import Scc.Core.ProofsScopeB
import Scc.Core.ProofsScopeC
import Scc.Core.ProofsSigmaFocus
import Scc.Core.ProofsSplit
import Scc.Core.ProofsUniqAlphaA
import Scc.Core.ProofsUniqAlphaB
import Scc.Core.ProofsUniqAlphaC
import Scc.Core.ProofsUniqAlphaD
import Scc.Core.ProofsUniqAlphaE
import Scc.Core.ProofsUniqueA
import Scc.Core.ProofsUniqueB
import Scc.Core.ProofsUniqueC
import Scc.Core.ProofsUniqueD
import Scc.Core.ProofsUniqueE
import Scc.Core.Sem
import Scc.Core.SizeFocus
import Scc.Core.SizeUniquify
import Scc.Core.Syntax
import Scc.Core.TypedFocusProg
import Scc.Core.TypedFocusSc
import Scc.Core.TypedFocusWt
import Scc.Core.TypedNameless
import Scc.Core.TypedStrict
import Scc.Core.TypedUniquify
import Scc.Core.Typing
import Scc.Core.TypingInv
import Scc.Core.Unique
import Scc.Core.Uniquify
import Scc.Core2AxCut.CutRun
import Scc.Core2AxCut.FreeVars
import Scc.Core2AxCut.FreeVarsSpec
import Scc.Core2AxCut.FsTyping
import Scc.Core2AxCut.Labels
import Scc.Core2AxCut.Model
import Scc.Core2AxCut.NoLift
import Scc.Core2AxCut.Proofs
import Scc.Core2AxCut.SemFv
import Scc.Core2AxCut.SemLemmas
import Scc.Core2AxCut.SemLift
import Scc.Core2AxCut.SemProg
import Scc.Core2AxCut.SemRel
import Scc.Core2AxCut.SemRen
import Scc.Core2AxCut.SemRun
import Scc.Core2AxCut.SemSim
import Scc.Core2AxCut.SemSimCut
import Scc.Core2AxCut.SemStrong
import Scc.Core2AxCut.SemSubst
import Scc.Core2AxCut.SemTr
import Scc.Core2AxCut.SemTrCut
import Scc.Core2AxCut.SizeProofs
import Scc.Core2AxCut.SizeWidth
import Scc.Core2AxCut.TypedArms
import Scc.Core2AxCut.TypedArms2
import Scc.Core2AxCut.TypedCut
import Scc.Core2AxCut.TypedDefs
import Scc.Core2AxCut.TypedInv
import Scc.Core2AxCut.TypedProg
import Scc.Core2AxCut.TypedSpec
import Scc.Fun.Check
import Scc.Fun.CheckAnnotated
import Scc.Fun.CheckComplete1
import Scc.Fun.CheckComplete2
import Scc.Fun.CheckComplete3
import Scc.Fun.CheckComplete4
import Scc.Fun.CheckInv
import Scc.Fun.CheckLemmas
import Scc.Fun.CheckNoPanic
import Scc.Fun.CheckSound1
import Scc.Fun.CheckSound2
import Scc.Fun.CheckSound3
import Scc.Fun.CheckSound4
import Scc.Fun.CheckSound5
import Scc.Fun.CheckSound6
import Scc.Fun.Lex
import Scc.Fun.LexFuel
import Scc.Fun.LexProofs
import Scc.Fun.MainCall
import Scc.Fun.Parse
import Scc.Fun.ParseFuel
import Scc.Fun.ParseInRange
import Scc.Fun.ParseMono
import Scc.Fun.ParseProofs
import Scc.Fun.ParseRoundtrip
import Scc.Fun.ParseRun
import Scc.Fun.Print
import Scc.Fun.PrintProofs
import Scc.Fun.SafetyCheck
import Scc.Fun.SafetyClosed
import Scc.Fun.SafetyLemmas
import Scc.Fun.SafetyPure
import Scc.Fun.SafetyRun
import Scc.Fun.SafetySeq
import Scc.Fun.SafetyStep
import Scc.Fun.SafetyTyping
import Scc.Fun.Sem
import Scc.Fun.SemTests
import Scc.Fun.SourceChars
import Scc.Fun.Syntax
import Scc.Fun.Typing
import Scc.Fun.TypingLemmas
import Scc.Fun.ZeroEdge
import Scc.Fun2Core.Arity
import Scc.Fun2Core.Compiles
import Scc.Fun2Core.Frame
import Scc.Fun2Core.FreeVars
import Scc.Fun2Core.Fresh
import Scc.Fun2Core.Hygiene
import Scc.Fun2Core.HygieneProofs
import Scc.Fun2Core.Lemmas
import Scc.Fun2Core.Model
import Scc.Fun2Core.SemBack
import Scc.Fun2Core.SemBase
import Scc.Fun2Core.SemBind
import Scc.Fun2Core.SemClauses
import Scc.Fun2Core.SemCod1
import Scc.Fun2Core.SemCod2
import Scc.Fun2Core.SemCod3
import Scc.Fun2Core.SemCod4
import Scc.Fun2Core.SemCod5
import Scc.Fun2Core.SemCodGood
import Scc.Fun2Core.SemCodTyping
import Scc.Fun2Core.SemCodTypingLemmas
import Scc.Fun2Core.SemCodTypingStep
import Scc.Fun2Core.SemCore
import Scc.Fun2Core.SemCorePure
import Scc.Fun2Core.SemCorePure2
import Scc.Fun2Core.SemCoreSteps
import Scc.Fun2Core.SemDirect
import Scc.Fun2Core.SemFrag
import Scc.Fun2Core.SemMain
import Scc.Fun2Core.SemNames
import Scc.Fun2Core.SemOcc
import Scc.Fun2Core.SemProg
import Scc.Fun2Core.SemPure
import Scc.Fun2Core.SemRel
import Scc.Fun2Core.SemRelLemmas
import Scc.Fun2Core.SemShare
import Scc.Fun2Core.SemSim0
import Scc.Fun2Core.SemSim1
import Scc.Fun2Core.SemSim10
import Scc.Fun2Core.SemSim11
import Scc.Fun2Core.SemSim12
import Scc.Fun2Core.SemSim13
import Scc.Fun2Core.SemSim2
import Scc.Fun2Core.SemSim3
import Scc.Fun2Core.SemSim4
import Scc.Fun2Core.SemSim5
import Scc.Fun2Core.SemSim6
import Scc.Fun2Core.SemSim7
import Scc.Fun2Core.SemSim8
import Scc.Fun2Core.SemSim9
import Scc.Fun2Core.SemTfv
import Scc.Fun2Core.Size
import Scc.Fun2Core.SizeProofs
import Scc.Fun2Core.TypedAux
import Scc.Fun2Core.TypedCheck
import Scc.Fun2Core.TypedCore
import Scc.Fun2Core.TypedParse
import Scc.Fun2Core.TypedProg
import Scc.Fun2Core.TypedSrc
import Scc.Fun2Core.TypedTerm
import Scc.Fun2Core.TypedTotal
import Scc.Generated.HashSites
import Scc.Generated.Parser
import Scc.Generated.Runtime
import Scc.Generated.Tables
import Scc.Generated.Traversals
import Scc.Heap.Access
import Scc.Heap.FrBound
import Scc.Heap.Inv
import Scc.Heap.Lemmas
import Scc.Heap.Model
import Scc.Heap.Moves
import Scc.Heap.ProofsCheck
import Scc.Heap.ProofsCheckComplete
import Scc.Heap.ProofsCheckDfs
import Scc.Heap.ProofsHist
import Scc.Heap.ProofsLoad
import Scc.Heap.ProofsOps
import Scc.Heap.ProofsStore
import Scc.Heap.RefineBound
import Scc.Heap.RefineCount
import Scc.Heap.RefineDefs
import Scc.Heap.RefineFrame
import Scc.Heap.RefineFrontier
import Scc.Heap.RefineHRef
import Scc.Heap.RefineLemmas
import Scc.Heap.RefineLoad
import Scc.Heap.RefineNoGarb
import Scc.Heap.RefineOps
import Scc.Heap.RefineStore
import Scc.Heap.RefineStoreObj
import Scc.Heap.RefineTr
import Scc.ListLemmas
import Scc.Mem.Acquire
import Scc.Mem.Code
import Scc.Mem.Load
import Scc.Mem.LoadCode
import Scc.Mem.Store
import Scc.Mem.View
import Scc.NatLemmas
import Scc.PMoves.Backends
import Scc.PMoves.Model
import Scc.PMoves.Proofs
import Scc.PMoves.ProofsA64RV
import Scc.PMoves.ProofsBackends
import Scc.PMoves.ProofsCheck
import Scc.PMoves.ProofsOnce
import Scc.PMoves.ProofsSubst
import Scc.PMoves.ProofsSubstBackends
import Scc.PMoves.ProofsX86
import Scc.Pipeline
import Scc.Pipeline.Bridges
import Scc.Pipeline.FocusNoPanic
import Scc.Pipeline.Lemmas
import Scc.Pipeline.Links
import Scc.Pipeline.ShrinkNoEnv
import Scc.Pipeline.SizeCompose
import Scc.Props.C01
import Scc.Props.C01Checks
import Scc.Props.C01DataChecks
import Scc.Props.C01End
import Scc.Props.C01Final
import Scc.Props.C01Loader
import Scc.Props.C02
import Scc.Props.C02Sem
import Scc.Props.C02SemFull
import Scc.Props.C02SemSafe
import Scc.Props.C03
import Scc.Props.C04
import Scc.Props.C04Sem
import Scc.Props.C04Strong
import Scc.Props.C05
import Scc.Props.C05Strong
import Scc.Props.C06Capacity
import Scc.Props.C06Generic
import Scc.Props.C06X86
import Scc.Props.C06X86Full
import Scc.Props.C06X86Heap
import Scc.Props.C07A64
import Scc.Props.C07A64Full
import Scc.Props.C07A64Heap
import Scc.Props.C07A64Int
import Scc.Props.C08RV
import Scc.Props.C08RVClo
import Scc.Props.C08RVHeap
import Scc.Props.C08RVInt
import Scc.Props.C09
import Scc.Props.C09A64All
import Scc.Props.C09A64Mon
import Scc.Props.C09RVAll
import Scc.Props.C09Refine
import Scc.Props.C09X86
import Scc.Props.C09X86All
import Scc.Props.C09X86Mon
import Scc.Props.C10
import Scc.Props.C10A64All
import Scc.Props.C10RVAll
import Scc.Props.C10X86
import Scc.Props.C10X86All
import Scc.Props.C11
import Scc.Props.C11Balance
import Scc.Props.C11Counts
import Scc.Props.C12
import Scc.Props.C12Codegen
import Scc.Props.C12Examples
import Scc.Props.C12Final
import Scc.Props.C12Fun2Core
import Scc.Props.C12Fun2CoreStrict
import Scc.Props.C12Mid
import Scc.Props.C13A64
import Scc.Props.C13A64All
import Scc.Props.C13A64Div
import Scc.Props.C13Loader
import Scc.Props.C13X86
import Scc.Props.C13X86All
import Scc.Props.C13X86Data
import Scc.Props.C13X86Div
import Scc.Props.C14A64
import Scc.Props.C14A64Final
import Scc.Props.C14Generic
import Scc.Props.C14Loader
import Scc.Props.C14LoaderA64
import Scc.Props.C14LoaderA64Compose
import Scc.Props.C14LoaderA64Names
import Scc.Props.C14LoaderRV
import Scc.Props.C14RV
import Scc.Props.C14RVFinal
import Scc.Props.C14X86
import Scc.Props.C14X86Final
import Scc.Props.C15
import Scc.Props.C16
import Scc.Props.C17Hash
import Scc.Props.C17Labels
import Scc.Props.C18
import Scc.Props.C18Cur
import Scc.Props.C18Fuel
import Scc.Props.C19
import Scc.Props.C19Rest
import Scc.Props.C19Shrink
import Scc.Props.C20
import Scc.Props.C20Cur
import Scc.Props.C20Full
import Scc.Props.C20Spelling
import Scc.Props.FunSafety
import Scc.Props.NonVacuity
import Scc.Props.ObsChain
import Scc.Props.Tables
import Scc.Props.Traversals
import Scc.RV.Backend
import Scc.RV.ConcAllFuel
import Scc.RV.ConcC10
import Scc.RV.ConcCheck
import Scc.RV.ConcData
import Scc.RV.ConcInv
import Scc.RV.ConcMach
import Scc.RV.ConcMon
import Scc.RV.ConcPeakRun
import Scc.RV.ConcRun
import Scc.RV.ConcStep
import Scc.RV.Consts
import Scc.RV.Instr
import Scc.RV.LayoutLemmas
import Scc.RV.Lemmas
import Scc.RV.LoaderCheck
import Scc.RV.LoaderInstr
import Scc.RV.LoaderLemmas
import Scc.RV.LoaderNames
import Scc.RV.LoaderText
import Scc.RV.Machine
import Scc.RV.MemBlk
import Scc.RV.MemCode
import Scc.RV.MemLemmas
import Scc.RV.MemProofsFree
import Scc.RV.MemProofsHeap
import Scc.RV.MemProofsLoad
import Scc.RV.MemProofsRun
import Scc.RV.MemProofsStore
import Scc.RV.MemProofsView
import Scc.RV.RefBridge
import Scc.RV.RefCall
import Scc.RV.RefCloDefs
import Scc.RV.RefCreate
import Scc.RV.RefDefs
import Scc.RV.RefEval
import Scc.RV.RefInit
import Scc.RV.RefInt
import Scc.RV.RefIntStep
import Scc.RV.RefInvoke
import Scc.RV.RefJump
import Scc.RV.RefLand
import Scc.RV.RefLayout
import Scc.RV.RefLet
import Scc.RV.RefLoad
import Scc.RV.RefMem
import Scc.RV.RefMoves
import Scc.RV.RefRun
import Scc.RV.RefSideLabMem
import Scc.RV.RefSideLabels
import Scc.RV.RefStore
import Scc.RV.RefSubst
import Scc.RV.RefSwitch
import Scc.RV.RefTr
import Scc.RV.RefX3
import Scc.RV.ThreeWayMachine
import Scc.RV.ThreeWayMachineA
import Scc.RV.ThreeWayMachineAsm
import Scc.RV.ThreeWayMachineStraight
import Scc.RV.ThreeWayTarget
import Scc.RV.Total
import Scc.RV.WfFinal
import Scc.Runtime.Current
import Scc.Runtime.Model
import Scc.Runtime.Proofs
import Scc.Runtime.SpellingProofs
import Scc.Sexp
import Scc.StringLemmas
import Scc.StringLemmasAscii
import Scc.X86.Backend
import Scc.X86.CCProofsFrame
import Scc.X86.CCProofsRun
import Scc.X86.CCProofsSeg
import Scc.X86.CCProofsSites
import Scc.X86.CCProofsStatic
import Scc.X86.CodeBlk
import Scc.X86.ConcAllFuel
import Scc.X86.ConcC10
import Scc.X86.ConcCC
import Scc.X86.ConcCheck
import Scc.X86.ConcData
import Scc.X86.ConcDataRun
import Scc.X86.ConcHook
import Scc.X86.ConcInv
import Scc.X86.ConcKAllFuel
import Scc.X86.ConcKC10
import Scc.X86.ConcKDiv
import Scc.X86.ConcKEntry
import Scc.X86.ConcKHook
import Scc.X86.ConcKInv
import Scc.X86.ConcKMRun
import Scc.X86.ConcKMid
import Scc.X86.ConcKMon
import Scc.X86.ConcKNoCtx
import Scc.X86.ConcKPeakRun
import Scc.X86.ConcKRun
import Scc.X86.ConcKStuck
import Scc.X86.ConcMach
import Scc.X86.ConcPeak
import Scc.X86.ConcPeakRun
import Scc.X86.ConcRun
import Scc.X86.Consts
import Scc.X86.Instr
import Scc.X86.LoaderCode
import Scc.X86.LoaderInstr
import Scc.X86.LoaderLemmas
import Scc.X86.LoaderNames
import Scc.X86.LoaderText
import Scc.X86.LoaderX86Names
import Scc.X86.Machine
import Scc.X86.MemBlk
import Scc.X86.MemCode
import Scc.X86.MemProofsHeap
import Scc.X86.MemProofsLoad
import Scc.X86.MemProofsStore
import Scc.X86.MemProofsView
import Scc.X86.Proofs
import Scc.X86.ProofsArith
import Scc.X86.ProofsCC
import Scc.X86.ProofsCCMachine
import Scc.X86.ProofsFrame
import Scc.X86.ProofsMem
import Scc.X86.ProofsPrint
import Scc.X86.ProofsStep
import Scc.X86.ProofsTransfer
import Scc.X86.ProofsWf
import Scc.X86.ProofsWfAll
import Scc.X86.ProofsWfProg
import Scc.X86.RefBridge
import Scc.X86.RefClosDefs
import Scc.X86.RefClosHCall
import Scc.X86.RefClosHDefs
import Scc.X86.RefClosHInit
import Scc.X86.RefClosHLet
import Scc.X86.RefClosHLoad
import Scc.X86.RefClosHMoves
import Scc.X86.RefClosHRun
import Scc.X86.RefClosHStore
import Scc.X86.RefClosHTr
import Scc.X86.RefClosHX3
import Scc.X86.RefClosLemmas
import Scc.X86.RefClosTol
import Scc.X86.RefClosXC
import Scc.X86.RefCompose
import Scc.X86.RefDefs
import Scc.X86.RefHeapAddr
import Scc.X86.RefHeapBridge
import Scc.X86.RefHeapDefs
import Scc.X86.RefHeapInt
import Scc.X86.RefHeapMoves
import Scc.X86.RefHeapOfClos
import Scc.X86.RefHeapRun
import Scc.X86.RefHeapTr
import Scc.X86.RefHeapX3
import Scc.X86.RefInit
import Scc.X86.RefPM
import Scc.X86.RefParam
import Scc.X86.RefRun
import Scc.X86.RefSide
import Scc.X86.RefSideLabMem
import Scc.X86.RefSideLabels
import Scc.X86.RefSim
import Scc.X86.RefStep
import Scc.X86.ThreeWayNav
import Scc.X86.ThreeWayTarget
import Scc.X86.Total
import Scc.X86.WfFinal
import Scc.X86.WfItems
